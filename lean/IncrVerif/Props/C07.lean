import IncrVerif.Proofs.Observers
/-!
# C07 (frame part) — observer reads move only at stabilise boundaries

Between two stabilisations the value an observer reads (`State.tryGetValue`, the model of
`Observer::try_get_value`) cannot move: var writes, node construction and the creation of new
observers leave the read of every existing observer unchanged — also when the call panics
(`r = .error _`; the model keeps the state as it was at the panic point).  A run is
`(m).run.run s : Except Panic α × State`.

Hypotheses.  The var-write, `set_cutoff` and new-observer theorems hold for EVERY state.  The
theorems about calls that append nodes need two well-formedness facts about the state (both hold in
every state built through the API with operands that name existing nodes, and are preserved by the
calls, see `wf_preserved_*`; both are necessary, see the two counterexamples at the end):
* `MapRefsBackward s`: the input of every MapRef node is an earlier node;
* `ObsNodesInRange s`: every observer record points at an existing node.

`s.status = .notStabilising` is never needed: the statements hold in every status (while
stabilising every read is `CurrentlyStabilising` before and after).

Non-vacuity examples use `Proofs.Obs.exState` / `Proofs.Obs.exEnv`: observer 0 is in use and reads `5`
through a MapRef over the node of var 0.
-/
namespace IncrVerif.Props.C07
open IncrVerif.Engine IncrVerif.Proofs.Obs
open IncrVerif.Proofs (run_bind run_get run_modify run_pure)

/-! ## the key lemmas -/

/-- `tryGetValue` depends only on `alive`, `status`, the observer's `node`/`state` and node values:
two states that agree on these give the same read. -/
theorem read_depends_on (env : Env) (s s' : State) (o : Nat) (ha : s'.alive = s.alive)
    (hs : s'.status = s.status)
    (ho : (s'.observers[o]?).map (fun x : ObsRec => (x.node, x.state))
        = (s.observers[o]?).map (fun x : ObsRec => (x.node, x.state)))
    (hv : ∀ ob, s.observers[o]? = some ob → s'.value env ob.node = s.value env ob.node) :
    s'.tryGetValue env o = s.tryGetValue env o := by
  rw [tryGetValue_eq_readTable, tryGetValue_eq_readTable, ha, hs]
  have ho' : (s'.observers[o]?).map obsCore = (s.observers[o]?).map obsCore := ho
  rw [ho']
  apply readTable_congr_value
  intro n st hn
  cases hob : s.observers[o]? with
  | none => rw [hob] at hn; cases hn
  | some ob =>
    rw [hob] at hn
    simp only [Option.map_some, obsCore, Option.some.injEq, Prod.mk.injEq] at hn
    rw [← hn.1]; exact hv ob hob

example : ({ exState with stabNum := 9 }).tryGetValue exEnv 0 = exState.tryGetValue exEnv 0 :=
  read_depends_on exEnv exState _ 0 rfl rfl rfl (fun _ _ => rfl)

/-- value congruence, same number of nodes: `State.value` depends only on the `kind`, `valid` and
`value` fields of the nodes. -/
theorem value_depends_on (env : Env) (s s' : State) (hsz : s'.nodes.size = s.nodes.size)
    (h : ∀ n, ((s'.nodeD n).kind, (s'.nodeD n).valid, (s'.nodeD n).value)
        = ((s.nodeD n).kind, (s.nodeD n).valid, (s.nodeD n).value)) (n : Nat) :
    s'.value env n = s.value env n :=
  Proofs.Step.value_congr env s s' hsz h n

example : ({ exState with nodes := exState.nodes.modify 0 fun x => { x with height := 7 } }).value
    exEnv 1 = exState.value exEnv 1 := by
  refine value_depends_on exEnv exState _ (by simp) (fun n => ?_) 1
  simp only [State.nodeD, Array.getElem?_modify]
  split
  · cases exState.nodes[n]? <;> rfl
  · rfl

/-- value congruence, prefix: if the first state's nodes are a prefix of the second's up to fields
other than `kind`, `valid`, `value`, and its MapRef inputs are earlier nodes, every node of the
first state has the same value in both. -/
theorem value_depends_on_prefix (env : Env) (s s' : State) (hwf : MapRefsBackward s)
    (hle : s.nodes.size ≤ s'.nodes.size)
    (h : ∀ n, n < s.nodes.size →
      ((s'.nodeD n).kind, (s'.nodeD n).valid, (s'.nodeD n).value)
        = ((s.nodeD n).kind, (s.nodeD n).valid, (s.nodeD n).value))
    (n : Nat) (hn : n < s.nodes.size) : s'.value env n = s.value env n := by
  simp only [State.value]
  exact Proofs.Step.valueWith_congr_below env.proj s s' hwf n (fun m hm => h m (by omega)) _ _ (by omega) (by omega)

example : ((createNode (.const .unit) .top).run.run exState).2.value exEnv 1
    = exState.value exEnv 1 := by
  refine value_depends_on_prefix exEnv exState _ exState_mapRefsBackward (by decide) (fun n hn => ?_)
    1 (by decide)
  have h3 : n = 0 ∨ n = 1 ∨ n = 2 := by
    have : n < 3 := hn
    omega
  rcases h3 with rfl | rfl | rfl <;> rfl

/-! ## (a) var writes -/

/-- Any of the five var writes (`set`, `modify`, `update`, `replace`, `replace_with`: `writeVar`
with any `f`), in any status, whether it returns or panics, leaves every observer's read unchanged;
it also leaves `status`, `alive` and the numbers of nodes and observers unchanged. -/
theorem writeVar_frame (env : Env) (s : State) (v : Nat) (f : Val → Val) (isSet : Bool)
    (r : Except Panic Val) (s' : State) (hrun : (writeVar v f isSet).run.run s = (r, s')) :
    (∀ o : Nat, s'.tryGetValue env o = s.tryGetValue env o) ∧
      s'.status = s.status ∧ s'.alive = s.alive ∧ s'.nodes.size = s.nodes.size ∧
      s'.observers.size = s.observers.size := by
  have hf := (Pres.writeVar v f isSet).h s r s' hrun
  exact ⟨fun o => hf.read_eq env o, hf.status, hf.alive, hf.nodesEq, hf.obsEq⟩

/-- the write happens (the cell now holds 7, the call returned the old 5) and observer 0, which
reads the var through a MapRef, still reads 5 -/
example :
    exState.status = .notStabilising ∧
    ((writeVar 0 (fun _ => .int 7) true).run.run exState).1 = .ok (.int 5) ∧
    ((((writeVar 0 (fun _ => .int 7) true).run.run exState).2.vars[0]?).map (·.value))
      = some (.int 7) ∧
    ((writeVar 0 (fun _ => .int 7) true).run.run exState).2.tryGetValue exEnv 0 = .ok (.int 5) :=
  ⟨rfl, rfl, rfl, ((writeVar_frame exEnv exState 0 (fun _ => .int 7) true _ _ (run_eta _ _)).1 0).trans rfl⟩

/-- a write that panics (no such var): reads unchanged as well -/
example :
    ((writeVar 9 (fun _ => .int 7)).run.run exState).1 = .error (.site "model:no-such-var") ∧
    ((writeVar 9 (fun _ => .int 7)).run.run exState).2.tryGetValue exEnv 0
      = exState.tryGetValue exEnv 0 :=
  ⟨rfl, (writeVar_frame exEnv exState 9 (fun _ => .int 7) false _ _ (run_eta _ _)).1 0⟩

/-! ## (b) node construction -/

/-- what node construction does to the state, whether the call returns or panics (bad operand):
every `elabInstr` (hence `createNode`, `createVar`, `createBind` inside it) only appends nodes and
never removes an observer; the `kind`, `valid` and `value` of every existing node are untouched
(`set_cutoff` changes a `cutoff` field only); `status`, `alive` and the `node`/lifecycle state of
every existing observer are untouched. -/
theorem construction_appends (s : State) (loc : List Nat) (lhsVal : Val) (i : Instr)
    (r : Except Panic (Option Nat)) (s' : State)
    (hrun : (elabInstr loc lhsVal i).run.run s = (r, s')) :
    s'.status = s.status ∧ s'.alive = s.alive ∧ s.nodes.size ≤ s'.nodes.size ∧
      s.observers.size ≤ s'.observers.size ∧
      (∀ n, n < s.nodes.size →
        (s'.nodes[n]?).map (fun x : Node => (x.kind, x.valid, x.value))
          = (s.nodes[n]?).map (fun x : Node => (x.kind, x.valid, x.value))) ∧
      (∀ o, o < s.observers.size →
        (s'.observers[o]?).map (fun x : ObsRec => (x.node, x.state))
          = (s.observers[o]?).map (fun x : ObsRec => (x.node, x.state))) := by
  have hf := (Pres.elabInstr loc lhsVal i).h s r s' hrun
  exact ⟨hf.status, hf.alive, hf.nodesLe, hf.obsLe, hf.nodes, hf.obs⟩

example : exState.nodes.size = 3 ∧
    ((elabInstr [] .unit (.bind 0 (.outer 1))).run.run exState).2.nodes.size = 5 ∧
    ((elabInstr [] .unit (.bind 0 (.outer 1))).run.run exState).2.status = exState.status :=
  ⟨rfl, rfl, (construction_appends exState [] .unit (.bind 0 (.outer 1)) _ _ (run_eta _ _)).1⟩

/-- `createNode` never panics: it returns the index of the node it appended, the new node table is
the old one with one fresh node (no value, valid) pushed, and observers are untouched -/
theorem createNode_appends (s : State) (kind : Kind) (scope : Scope) (cutoff : CutoffK) :
    ∃ s', (createNode kind scope cutoff).run.run s = (.ok s.nodes.size, s') ∧
      s'.nodes = s.nodes.push { kind := kind, createdIn := scope, cutoff := cutoff } ∧
      s'.observers = s.observers :=
  createNode_run kind scope cutoff s

example : ((createNode (.const .unit) .top).run.run exState).1 = .ok 3 := rfl

/-- `Node::create` (`createNode`) leaves the read of every existing observer unchanged -/
theorem createNode_reads (env : Env) (s : State) (hwf : MapRefsBackward s)
    (hobs : ObsNodesInRange s) (kind : Kind) (scope : Scope) (cutoff : CutoffK)
    (r : Except Panic Nat) (s' : State)
    (hrun : (createNode kind scope cutoff).run.run s = (r, s')) (o : Nat)
    (ho : o < s.observers.size) : s'.tryGetValue env o = s.tryGetValue env o :=
  ((Pres.createNode kind scope cutoff).h s r s' hrun).read_eq env hwf hobs ho

/-- a new MapRef over the observed node: observer 0 still reads 5 -/
example : ((createNode (.mapRef 1 1) .top).run.run exState).2.tryGetValue exEnv 0 = .ok (.int 5) :=
  (createNode_reads exEnv exState exState_mapRefsBackward exState_obsNodesInRange (.mapRef 1 1) .top
    .eq _ _ (run_eta _ _) 0 (by decide)).trans rfl

/-- `Var::create` (`createVar`) leaves the read of every existing observer unchanged -/
theorem createVar_reads (env : Env) (s : State) (hwf : MapRefsBackward s)
    (hobs : ObsNodesInRange s) (v : Val) (scope : Scope) (r : Except Panic Nat) (s' : State)
    (hrun : (createVar v scope).run.run s = (r, s')) (o : Nat) (ho : o < s.observers.size) :
    s'.tryGetValue env o = s.tryGetValue env o :=
  ((Pres.createVar v scope).h s r s' hrun).read_eq env hwf hobs ho

example : ((createVar (.int 1) .top).run.run exState).2.tryGetValue exEnv 0 = .ok (.int 5) :=
  (createVar_reads exEnv exState exState_mapRefsBackward exState_obsNodesInRange (.int 1) .top _ _
    (run_eta _ _) 0 (by decide)).trans rfl

/-- every construction instruction (constant, var, map, fold, map_ref, map_with_old, bind, zip,
depend_on, set_cutoff, expert), run at top level or inside a bind body (`loc` arbitrary), returning
or panicking (bad operand), leaves the read of every existing observer unchanged -/
theorem elabInstr_reads (env : Env) (s : State) (hwf : MapRefsBackward s)
    (hobs : ObsNodesInRange s) (loc : List Nat) (lhsVal : Val) (i : Instr)
    (r : Except Panic (Option Nat)) (s' : State)
    (hrun : (elabInstr loc lhsVal i).run.run s = (r, s')) (o : Nat) (ho : o < s.observers.size) :
    s'.tryGetValue env o = s.tryGetValue env o :=
  ((Pres.elabInstr loc lhsVal i).h s r s' hrun).read_eq env hwf hobs ho

/-- a bind over the observed node is constructed (two nodes, one bind record): same read -/
example :
    ((elabInstr [] .unit (.bind 0 (.outer 1))).run.run exState).1 = .ok (some 4) ∧
    ((elabInstr [] .unit (.bind 0 (.outer 1))).run.run exState).2.tryGetValue exEnv 0
      = .ok (.int 5) :=
  ⟨rfl, (elabInstr_reads exEnv exState exState_mapRefsBackward exState_obsNodesInRange [] .unit
    (.bind 0 (.outer 1)) _ _ (run_eta _ _) 0 (by decide)).trans rfl⟩

/-- `set_cutoff` needs no well-formedness: in every state it leaves every read, `status`, `alive`
and the number of nodes unchanged -/
theorem setCutoff_frame (env : Env) (s : State) (loc : List Nat) (lhsVal : Val) (n : Opnd)
    (c : CutoffK) (r : Except Panic (Option Nat)) (s' : State)
    (hrun : (elabInstr loc lhsVal (.cutoff n c)).run.run s = (r, s')) :
    (∀ o : Nat, s'.tryGetValue env o = s.tryGetValue env o) ∧
      s'.status = s.status ∧ s'.alive = s.alive ∧ s'.nodes.size = s.nodes.size := by
  have hf := (Pres.elabCutoff loc lhsVal n c).h s r s' hrun
  exact ⟨fun o => hf.read_eq env o, hf.status, hf.alive, hf.nodesEq⟩

example :
    ((((elabInstr [] .unit (.cutoff (.outer 1) .never)).run.run exState).2.nodes[1]?).map (·.cutoff))
      = some .never ∧
    ((elabInstr [] .unit (.cutoff (.outer 1) .never)).run.run exState).2.tryGetValue exEnv 0
      = exState.tryGetValue exEnv 0 :=
  ⟨rfl, (setCutoff_frame exEnv exState [] .unit (.outer 1) .never _ _ (run_eta _ _)).1 0⟩

/-- the two well-formedness predicates are preserved by `createNode` when a MapRef's input names an
existing node (so they are invariants of construction, not just assumptions about one state) -/
theorem wf_preserved_createNode (s : State) (kind : Kind) (scope : Scope) (cutoff : CutoffK)
    (r : Except Panic Nat) (s' : State)
    (hrun : (createNode kind scope cutoff).run.run s = (r, s'))
    (hk : ∀ p i, kind = .mapRef p i → i < s.nodes.size)
    (hwf : MapRefsBackward s) (hobs : ObsNodesInRange s) :
    r = .ok s.nodes.size ∧ MapRefsBackward s' ∧ ObsNodesInRange s' := by
  refine ⟨?_, createNode_mapRefsBackward kind scope cutoff s s' r hrun hk hwf,
    createNode_obsNodesInRange kind scope cutoff s s' r hrun hobs⟩
  obtain ⟨s'', hr, _⟩ := createNode_run kind scope cutoff s
  rw [hr] at hrun
  cases hrun; rfl

example : MapRefsBackward ((createNode (.mapRef 1 1) .top).run.run exState).2 :=
  (wf_preserved_createNode exState (.mapRef 1 1) .top .eq _ _ (run_eta _ _)
    (by intro p i h; cases h; decide)
    exState_mapRefsBackward exState_obsNodesInRange).2.1

/-- … and by every step that appends no node and no observer (var writes, `set_cutoff`,
`subscribe`, `unsubscribe`) -/
theorem wf_preserved_writeVar (s : State) (v : Nat) (f : Val → Val) (isSet : Bool)
    (r : Except Panic Val) (s' : State) (hrun : (writeVar v f isSet).run.run s = (r, s'))
    (hwf : MapRefsBackward s) (hobs : ObsNodesInRange s) :
    MapRefsBackward s' ∧ ObsNodesInRange s' := by
  have hf := (Pres.writeVar v f isSet).h s r s' hrun
  exact ⟨hf.mapRefsBackward hwf, hf.obsNodesInRange hobs⟩

example : MapRefsBackward ((writeVar 0 (fun _ => .int 7)).run.run exState).2 :=
  (wf_preserved_writeVar exState 0 (fun _ => .int 7) false _ _ (run_eta _ _) exState_mapRefsBackward
    exState_obsNodesInRange).1

/-! ## (c) a new observer -/

/-- what the API action `observe` does in the model: on operand `#n` it returns the handle
`o<size>` and replaces the state by `pushObserver s n` (push a `created` record for node `n`, queue
it in `newObservers`, bump the active-observer counter) -/
theorem stepAction_observe (env : Env) (s : State) (n : Nat) (tokens : Array Nat) :
    (stepAction env (.observe (.abs n)) tokens).run.run s
      = (.ok (s!"ok o{s.observers.size}", tokens), pushObserver s n) := by
  simp only [stepAction, resolveOpnd, bumpCounter, run_bind, run_get, run_modify, run_pure,
    pure_bind]
  rfl

example : ((stepAction exEnv (.observe (.abs 0)) #[]).run.run exState).2.observers.size = 6 := by
  rw [stepAction_observe]; rfl

/-- creating an observer leaves the read of every existing observer unchanged (any state) -/
theorem observe_reads_old (env : Env) (s : State) (n : Nat) (o : Nat) (ho : o < s.observers.size) :
    (pushObserver s n).tryGetValue env o = s.tryGetValue env o :=
  pushObserver_read_old env s n ho

example : (pushObserver exState 0).tryGetValue exEnv 0 = .ok (.int 5) :=
  (observe_reads_old exEnv exState 0 0 (by decide)).trans rfl

/-- the new observer reads `NeverStabilised` (engine alive and not stabilising), whatever node it
watches — its value becomes visible only at the next stabilise boundary -/
theorem observe_read_new (env : Env) (s : State) (n : Nat) (ha : s.alive = true)
    (hs : s.status ≠ .stabilising) :
    (pushObserver s n).tryGetValue env s.observers.size = .error .neverStabilised := by
  simp [State.tryGetValue, pushObserver, ha, hs]

example : exState.value exEnv 0 = some (.int 5) ∧
    (pushObserver exState 0).tryGetValue exEnv 5 = .error .neverStabilised :=
  ⟨rfl, observe_read_new exEnv exState 0 rfl (by decide)⟩

/-- creating an observer of an existing node keeps `ObsNodesInRange`; `status`, `alive`, `nodes`
are untouched -/
theorem observe_frame (s : State) (n : Nat) :
    (pushObserver s n).status = s.status ∧ (pushObserver s n).alive = s.alive ∧
      (pushObserver s n).nodes = s.nodes ∧
      (n < s.nodes.size → ObsNodesInRange s → ObsNodesInRange (pushObserver s n)) :=
  ⟨rfl, rfl, rfl, pushObserver_obsNodesInRange s n⟩

example : ObsNodesInRange (pushObserver exState 0) :=
  (observe_frame exState 0).2.2.2 (by decide) exState_obsNodesInRange

/-! ## API level -/

/-- Every API action of the model other than `stabilise`, node construction, `observe`,
`disallow`/`drop` of an observer and `add_dependency` (`Action.isQuiet`: var writes and reads,
handle clones, var-handle drops, (un)subscribe, fault arming, `set_max_height_allowed`, `is_stable`,
stats), in any state and whether it returns or panics, leaves every observer's read unchanged, as
well as `status`, `alive` and the numbers of nodes and observers. -/
theorem quiet_action_frame (env : Env) (s : State) (a : Action) (tokens : Array Nat)
    (hq : Action.isQuiet a = true) (r : Except Panic (String × Array Nat)) (s' : State)
    (hrun : (stepAction env a tokens).run.run s = (r, s')) :
    (∀ o : Nat, s'.tryGetValue env o = s.tryGetValue env o) ∧
      s'.status = s.status ∧ s'.alive = s.alive ∧ s'.nodes.size = s.nodes.size ∧
      s'.observers.size = s.observers.size := by
  have hf := (Pres.stepAction_quiet env a tokens hq).h s r s' hrun
  exact ⟨fun o => hf.read_eq env o, hf.status, hf.alive, hf.nodesEq, hf.obsEq⟩

example : ((stepAction exEnv (.replace 0 (.int 7)) #[]).run.run exState).1 = .ok ("ok 5", #[]) ∧
    ((stepAction exEnv (.replace 0 (.int 7)) #[]).run.run exState).2.tryGetValue exEnv 0
      = exState.tryGetValue exEnv 0 :=
  ⟨rfl, (quiet_action_frame exEnv exState (.replace 0 (.int 7)) #[] rfl _ _ (run_eta _ _)).1 0⟩

/-- The API action `create i` (any construction instruction, returning or panicking) leaves the read
of every existing observer unchanged, in a state whose MapRef inputs are earlier nodes and whose
observers watch existing nodes. -/
theorem create_action_reads (env : Env) (s : State) (hwf : MapRefsBackward s)
    (hobs : ObsNodesInRange s) (i : Instr) (tokens : Array Nat)
    (r : Except Panic (String × Array Nat)) (s' : State)
    (hrun : (stepAction env (.create i) tokens).run.run s = (r, s')) (o : Nat)
    (ho : o < s.observers.size) : s'.tryGetValue env o = s.tryGetValue env o :=
  ((Pres.stepAction_create env i tokens).h s r s' hrun).read_eq env hwf hobs ho

example :
    ((stepAction exEnv (.create (.mapWithOld 0 (.outer 1))) #[]).run.run exState).1
      = .ok ("ok #3", #[]) ∧
    ((stepAction exEnv (.create (.mapWithOld 0 (.outer 1))) #[]).run.run exState).2.tryGetValue
      exEnv 0 = exState.tryGetValue exEnv 0 :=
  ⟨rfl, create_action_reads exEnv exState exState_mapRefsBackward exState_obsNodesInRange
    (.mapWithOld 0 (.outer 1)) #[] _ _ (run_eta _ _) 0 (by decide)⟩

/-! ## the two hypotheses of (b) are necessary -/

/-- counterexample without `ObsNodesInRange`: an in-use observer whose record points at node 3,
which does not exist, reads `ObservingInvalid`; constructing a MapRef (which becomes node 3) makes
it read 5.  (Unreachable through handles: `observe` is only ever given an existing node.) -/
example :
    MapRefsBackward exDanglingObs ∧
    exDanglingObs.tryGetValue exEnv 4 = .error .observingInvalid ∧
    ((elabInstr [] .unit (.mapRef 0 (.outer 0))).run.run exDanglingObs).2.tryGetValue exEnv 4
      = .ok (.int 5) :=
  ⟨exState_mapRefsBackward, rfl, rfl⟩

/-- counterexample without `MapRefsBackward`: node 1 is a MapRef whose input 3 does not exist yet;
observer 0 on node 1 reads `ObservingInvalid`, and constructing node 3 changes the read. -/
example :
    ObsNodesInRange exForwardRef ∧
    exForwardRef.tryGetValue exEnv 0 = .error .observingInvalid ∧
    ((elabInstr [] .unit (.mapRef 0 (.outer 0))).run.run exForwardRef).2.tryGetValue exEnv 0
      = .ok (.int 5) :=
  ⟨fun o ob h => by
    have := exState_obsNodesInRange o ob h
    simpa [exForwardRef] using this, rfl, rfl⟩

end IncrVerif.Props.C07
