import IncrVerif.Proofs.FaultH18
import IncrVerif.Props.C10
import IncrVerif.Props.C09History
/-!
# C13 for whole histories of static programs with subscriptions and injected faults

Property C13 (informal): "After a panic escaped from `stabilise` nothing half-updated is ever shown: if it came from
propagation every read fails with `CurrentlyStabilising`; if it came from an update handler the reads are the fully
propagated values; a further `stabilise` refuses to run (and runs no node function); the state and all handles can still be
dropped."  `Props/C13.lean` proves the status part for ALL programs.  Here the fragment of `Props/C09History.lean` (static
programs, `subscribe`/`unsubscribe`/`stateUnsub`, effect-free handlers `SubsH.PureHandlers env`) is extended by the actions
`arm k` (fault injection: `State.panicCountdown := some k`; every user-closure invocation site of the model calls
`Engine.tick`, which raises `Panic.site "user"` at the armed invocation) and `dropAll`, and C13 is proved for whole histories.
All statements are about the executable model (`stepAction`, `stabilise` … of `Engine/*.lean`); a run is
`(m).run.run s : Except Panic α × State`, and on `.error p` the state is the one at the panic point.

FRAGMENT.  `FaultH.AAction env a` (before the first panic): `SubsH.SubAction env a` or `arm k`.  `FaultH.FAction env a` (after
it): the same or `dropAll`.  Histories before the first panic: `Quiet.runActions` (stops at a panic).  Histories after it:
`FaultH.runCatch` (a panic of an action is caught as the harness / `traceAction` do: state at the panic point, token table
unchanged, next action).  `tick` sites in the fragment: the function of a `map` node with a user function (`f < fnZip`; the
built-in `zip` does not tick), every `fold` pass, every update-handler call.  (Cutoff closures, bind bodies, `map_with_old`,
expert callbacks, memoised functions are outside the fragment.)

DEFINITIONS (`Proofs/FaultH1.lean` … `FaultH18.lean`, namespace `IncrVerif.Proofs.FaultH`).
* `setCd c s`: `s` with `panicCountdown := c`.  `eff k = max k 1`: the invocation at which a fault armed with `k` fires
  (`tick` fires when the countdown is `≤ 1`: `arm 0` behaves like `arm 1`).
* `UInvA env s := SubsH.UInv env (setCd none s)`: the invariant of `Props/C09History.lean` modulo the countdown
  (`SubsH.UInv` itself contains `panicCountdown = none`).
* `IsInv e` / `IsNotif e`: `e` is the log entry of a node function or fold pass / of an update-handler call.
* `Armed env fuel s s' k pre del` (F1): the three outcomes of `stabilise` with the fault armed at `k`, see `classification`.
* `HRel a b`: `b` is `a` up to the `prev` fields of handler records, the log, the countdown and the memo tables.
* `AfterR s s'` (F2): what every later action keeps, see `after_panic_forever`.

PROVED.
* **F1** `classification`.  Let `UInv env s` and let the fault-free `stabilise` return `s'`.  Its log grows by `pre` (one
  entry per invocation of a node function or fold pass, in order; no notification) and then by `del` (one entry per handler
  call; exactly the delivery list of `C09History.stabilise_delivers`).  Put `T = pre.length`, `H = del.length`.  Started in
  `setCd (some k) s` the same call
  - `eff k > T + H`: returns `()` in the state `setCd (some (k - (T + H))) s'` — EXACTLY the fault-free final state, the
    countdown decreased by the number of invocations;
  - `eff k ≤ T`: panics with `Panic.site "user"` DURING PROPAGATION: status `stabilising`, countdown consumed (`none`), the
    log is the old log plus exactly the first `eff k - 1` entries of `pre` (the first `k-1` closures ran exactly as in the
    fault-free run, the `k`-th did not complete, nothing was delivered), `alive`/`cfg` untouched;
  - `T < eff k ≤ T + H`: panics with `Panic.site "user"` IN THE HANDLER PHASE: status `runningOnUpdateHandlers`, countdown
    `none`, the log is the old log, ALL of `pre`, and exactly the first `eff k - T - 1` notifications of `del`; the state is
    `HRel` to the fault-free final state `s'`.  `handler_panic_shows_completed_propagation`: hence every read answers what
    it answers in `s'`, every necessary node is valid, not stale and equal (stored and read) to `Sched.eval` on the current
    variable values, the variables are those before the call, and every observer that was created or in use before the call
    is in use and reads its `eval` value.
  `T_counts_invoking_nodes`: `T` is the number of nodes with a user closure (`map` with a user function, `fold`) among the
  nodes the fault-free drain runs (`Sched.drainTrace`), NOT the length of the trace (`var`, `const`, `zip` nodes run without an
  invocation; kernel-checked example: trace of 4 nodes, `T = 3`).
  Behind it: `Comm` (`FaultH1/2`: every model function the fragment reaches, except `tick`, has the same outcome whatever the
  countdown and logs nothing — an exact-simulation ladder as that of `TidyH9`), `Lock` (`FaultH3/4`: in the fragment
  ticks and log entries are in lockstep: `recomputeOne`, the drain, the observer phases, the handler loop).
  The position of a notification in `del` is that of the model's lists (queue order, observer-list order, handler order); the
  real crate iterates hash maps, so "the first `k-T-1` notifications" is meaningful for the model only (which handler the
  `k`-th one is differs between runs of the real crate; the classification into the three cases does not).
* **F2** (after the panic; `t` poisoned: `t.status ≠ notStabilising`; any further history of `FAction`s, any outcomes)
  `after_panic_forever` (`AfterR t u`: status and configuration kept, NOTHING logged — no node function, no handler is ever
  invoked again —, stored node values, kinds, validity kept, no observer newly in use), `stabilise_refuses_forever` (every
  later `stabilise` panics with `state:stabilise:status` and leaves the state untouched), `reads_refused_forever`
  (propagation case: every read of every observer is `Err CurrentlyStabilising` while the state is alive,
  `Err ObservingInvalid` after `dropAll`; never a value), `values_parked_forever` + `write_deferred` (propagation case: a
  write returns, the cell's value never changes, only `pending` — the write is deferred for ever), `write_immediate`
  (handler case: the cell holds the new value at once; nothing will ever propagate it), `reads_stable_forever` +
  `handler_reads_are_eval_forever` (handler case: an observer in use later was in use at the panic and reads, for ever, the
  fully propagated value `= Sched.eval` of the fault-free final state), `handler_case_shadows_healthy` (handler case: for
  every history WITHOUT `stabilise` the poisoned engine gives the same `api` answers, panics, token tables and reads as the
  healthy engine that completed the `stabilise` — `Proofs/FaultH13–16`: no action but `stabilise` reads the status, the
  `prev` of a handler record, the log or the memo tables), `only_model_panics` (no engine panic after a propagation panic:
  an action other than `stabilise` can only fail on an index that does not exist), `dropAll_returns` (`ok live=0`, always).
* **F3** `no_fault_nothing_applies` (with `panicCountdown = none` `UInvA` is `UInv`: the fault-free theorems of
  `Props/C09History.lean` apply verbatim), `action_ignores_fault` (an action other than `stabilise` runs exactly as without
  the fault, keeps the countdown, logs nothing), `stabilise_returns_iff_not_reached` / `history_before_first_panic` (a
  history with `arm` that has not panicked ends in a healthy state; a `stabilise` that returns with a fault armed is the
  fault-free one up to the countdown), and in both panic cases of `classification` the countdown is `none` afterwards: the
  armed fault is consumed by exactly one closure invocation.
* Non-vacuity (`decide +kernel`): fault at the 2nd of 3 node functions, fault at the 1st handler, fault not reached
  (countdown `5 → 3 → 1 →` fires), the same histories agree with the real crate on `api`/`read` lines.

ASSUMED.  `SubsH.PureHandlers env`; F1 assumes that the fault-free `stabilise` returns (partial correctness, as
`Props/C09History.lean`; for valid histories it does: `Props/C17History.subs_history_never_panics`).  Nothing else.

NOT PROVED.  Total correctness after the panic is proved only in the forms `only_model_panics` (no ENGINE panic: propagation
case all actions, handler case all actions but writes) and `handler_case_shadows_healthy` (handler case: same outcomes as the
healthy engine, for which `Props/C17History.subs_action_returns` gives "valid actions return"); index validity of histories
continued after a panic is not tracked.  Node functions, handlers, cutoffs with effects; binds, `map_with_old`,
experts (their `tick` sites are not followed by exactly one log entry, the lockstep argument would need the per-site log
shapes).

FOUND.
* `tick` fires when the countdown is `≤ 1`, so `arm 0` = `arm 1` except that a `stabilise` without any invocation leaves
  `some 0` in place.  All statements use `eff k = max k 1`.
* At a handler panic the record of the handler that panicked has ALREADY been stepped (`prev` updated by `modObs` before the
  call): the handler that never completed is marked as called.  Irrelevant for the observable behaviour (no `stabilise` ever
  runs again), but `SubsH.HInv.pending` does not hold in the poisoned state.
* Writes: in the `stabilising` poisoned state they are parked for ever (also reads of the variable through `get` show the old
  value); in the `runningOnUpdateHandlers` poisoned state they are applied at once (`get` shows the new value, the watch node
  is queued in the recompute heap, and nothing ever propagates) — the two poisoned states differ observably through `get`.
-/
namespace IncrVerif.Props.C13History
open IncrVerif.Engine IncrVerif.Driver IncrVerif.Proofs
open IncrVerif.Proofs.SubsH (PureHandlers UInv SubAction)
open IncrVerif.Proofs.FaultH

/-! ## F1: classification of a `stabilise` started with an armed fault -/

/-- **F1.**  The events of the fault-free run and, for every `k`, the outcome of the run with the fault armed at `k`
(`FaultH.Armed`: `notReached`, `inPropagation`, `inHandlers`). -/
theorem classification {env : Env} {fuel : Nat} {s s' : State} (U : UInv env s) (heff : PureHandlers env)
    (h : (stabilise env fuel).run.run s = (.ok (), s')) :
    ∃ pre del : List Event, s'.log = del.reverse ++ (pre.reverse ++ s.log) ∧
      (∀ e, e ∈ pre → IsInv e) ∧ (∀ e, e ∈ del → IsNotif e) ∧
      (∀ t u, Event.notif t u ∈ del ↔
        ∃ (o : Nat) (ob : ObsRec) (hr : HandlerRec), s.observers[o]? = some ob ∧ hr ∈ ob.handlers ∧
          hr.token = t ∧ SubsH.expected s s' o hr = some u) ∧
      (del.filterMap SubsH.notifTok).Nodup ∧
      ∀ k, Armed env fuel s s' k pre del :=
  stabilise_classified U heff h

/-- **`T` = the invocations of the fault-free drain.**  The observer phases return in some `tb`, the drain returns, and for
every decomposition of the new log entries as in `classification`: `T = pre.length` is `ticksOf (TidyH.drainSteps env fuel
tb)`: the number of nodes the drain runs (`TidyH.drainSteps_fst`: they are `Sched.drainTrace env fuel tb`) whose kind
`invokes` a user closure — `map` with a user function, `fold`; NOT one per node of the trace (`var`, `const`, `zip` run
without an invocation). -/
theorem T_counts_invoking_nodes {env : Env} {fuel : Nat} {s s' : State} (U : UInv env s) (heff : PureHandlers env)
    (h : (stabilise env fuel).run.run s = (.ok (), s')) :
    ∃ ta tb s1, (addNewObservers env fuel).run.run { s with status := .stabilising } = (.ok (), ta) ∧
      (unlinkDisallowedObservers fuel).run.run ta = (.ok (), tb) ∧ (drainHeap env fuel).run.run tb = (.ok (), s1) ∧
      ∀ pre del : List Event, s'.log = del.reverse ++ (pre.reverse ++ s.log) → (∀ e, e ∈ pre → IsInv e) →
        (∀ e, e ∈ del → IsNotif e) → pre.length = ticksOf (TidyH.drainSteps env fuel tb) :=
  T_is_drain_invocations U heff h

/-- the three cases are exhaustive and exclusive: `eff k` is compared with `T` and `T + H` -/
theorem cases_exhaustive (k T H : Nat) :
    (T + H < eff k ∧ ¬ eff k ≤ T) ∨ eff k ≤ T ∨ (T < eff k ∧ eff k ≤ T + H) := by omega

/-- `arm 0` fires at the first invocation, like `arm 1` -/
theorem eff_zero : eff 0 = 1 ∧ ∀ k, 1 ≤ k → eff k = k := ⟨rfl, fun _ h => eff_of_pos h⟩

/-- **F1, handler case: propagation is complete.**  `t`: the state left by a panic in an update handler. -/
theorem handler_panic_shows_completed_propagation {env : Env} {fuel : Nat} {s s' t : State} (U : UInv env s)
    (heff : PureHandlers env) (h : (stabilise env fuel).run.run s = (.ok (), s'))
    (hst : t.status = .runningOnUpdateHandlers) (R : HRel s' { t with status := .notStabilising }) :
    (∀ o, t.tryGetValue env o = s'.tryGetValue env o) ∧ t.vars = s.vars ∧
    (∀ n, t.isNecessary n = true → ∀ k, (t.nodeD n).height.toNat < k →
      (t.nodeD n).valid = true ∧ t.isStale n = false ∧ (t.nodeD n).value = Sched.eval env t k n ∧
        t.value env n = Sched.eval env t k n ∧ (Sched.eval env t k n).isSome = true) ∧
    (∀ (o : Nat) (ob : ObsRec), s.observers[o]? = some ob → ob.state = .created ∨ ob.state = .inUse →
      ∃ ob' v, t.observers[o]? = some ob' ∧ ob'.node = ob.node ∧ ob'.state = .inUse ∧
        t.tryGetValue env o = .ok v ∧
        ∀ k, (t.nodeD ob.node).height.toNat < k → Sched.eval env t k ob.node = some v) :=
  handler_panic_state U heff h hst R

/-- propagation case, the reads at once: `Err CurrentlyStabilising` for every observer (the state is alive) -/
theorem propagation_panic_reads {env : Env} {t : State} (hst : t.status = .stabilising) (ha : t.alive = true) (o : Nat) :
    t.tryGetValue env o = .error .currentlyStabilising := by
  have := reads_refused_history (env := env) (acts := []) (st := (t, #[])) (fun _ h => by cases h) hst o
  rw [runCatch_nil] at this
  rw [this, ha]; rfl

/-! ## F2: for ever after -/

/-- **F2.**  Along any further history of the fragment, whatever the outcomes of its actions. -/
theorem after_panic_forever {env : Env} {acts : List Action} {t : State} {tk : Array Nat}
    (ha : ∀ a, a ∈ acts → FAction env a) (hp : t.status ≠ .notStabilising) :
    AfterR t (runCatch env acts (t, tk)).1 :=
  runCatch_after acts (t, tk) ha hp

/-- status, configuration and LOG never change again: no node function, no fold pass, no handler is invoked any more -/
theorem nothing_runs_forever {env : Env} {acts : List Action} {t : State} {tk : Array Nat}
    (ha : ∀ a, a ∈ acts → FAction env a) (hp : t.status ≠ .notStabilising) :
    (runCatch env acts (t, tk)).1.status = t.status ∧ (runCatch env acts (t, tk)).1.log = t.log ∧
      (runCatch env acts (t, tk)).1.cfg = t.cfg :=
  have R := runCatch_after acts (t, tk) ha hp
  ⟨R.status, R.log, R.cfg⟩

/-- every later `stabilise` refuses: the status diagnostic, the state untouched -/
theorem stabilise_refuses_forever {env : Env} {as : List Action} {t : State} {tk : Array Nat}
    (ha : ∀ a, a ∈ as → FAction env a) (hp : t.status ≠ .notStabilising) :
    (stepAction env .stabilise (runCatch env as (t, tk)).2).run.run (runCatch env as (t, tk)).1
      = (.error (.site "state:stabilise:status"), (runCatch env as (t, tk)).1) :=
  stabilise_refuses_history ha hp

/-- propagation case: never a value -/
theorem reads_refused_forever {env : Env} {acts : List Action} {t : State} {tk : Array Nat}
    (ha : ∀ a, a ∈ acts → FAction env a) (hs : t.status = .stabilising) (o : Nat) :
    (runCatch env acts (t, tk)).1.tryGetValue env o =
      if (runCatch env acts (t, tk)).1.alive then .error .currentlyStabilising else .error .observingInvalid :=
  reads_refused_history ha hs o

/-- propagation case: no variable value ever changes again -/
theorem values_parked_forever {env : Env} {acts : List Action} {t : State} {tk : Array Nat}
    (ha : ∀ a, a ∈ acts → FAction env a) (hs : t.status = .stabilising) {v : Nat} {vc : VarCell}
    (hv : t.vars[v]? = some vc) :
    ∃ vc', (runCatch env acts (t, tk)).1.vars[v]? = some vc' ∧ vc'.value = vc.value :=
  values_parked_history ha hs hv

/-- propagation case: a write (`set`, `modify`, `update`, `replace`, `replaceWith`: `writeFn a = some (v, f)`) returns and is
deferred: the cell keeps its value, `pending` holds the new one; by `stabilise_refuses_forever` no `stabilise_end` ever applies it -/
theorem write_deferred (env : Env) {a : Action} {v : Nat} {f : Val → Val} (hw : writeFn a = some (v, f))
    {s : State} {vc : VarCell} (tk : Array Nat) (hst : s.status = .stabilising) (hv : s.vars[v]? = some vc) :
    ∃ r, (stepAction env a tk).run.run s = (.ok (r, tk), Proofs.deferred v vc f s) ∧
      (Proofs.deferred v vc f s).vars[v]? = some { vc with pending := some (f (vc.pending.getD vc.value)) } ∧
      (Proofs.deferred v vc f s).nodes = s.nodes ∧ (Proofs.deferred v vc f s).rch = s.rch :=
  FaultH.write_deferred env hw tk hst hv

/-- handler case: a write is immediate (whatever its outcome the cell holds the new value) -/
theorem write_immediate (env : Env) {a : Action} {v : Nat} {f : Val → Val} (hw : writeFn a = some (v, f))
    {s s' : State} {vc : VarCell} {tk : Array Nat} {r : Except Panic (String × Array Nat)}
    (hst : s.status ≠ .stabilising) (hv : s.vars[v]? = some vc)
    (h : (stepAction env a tk).run.run s = (r, s')) :
    ∃ vc', s'.vars[v]? = some vc' ∧ vc'.value = f vc.value :=
  FaultH.write_immediate env hw hst hv h

/-- handler case: an observer in use later was in use at the panic, on the same node, and reads what it read then -/
theorem reads_stable_forever {env : Env} {acts : List Action} {t : State} {tk : Array Nat}
    (ha : ∀ a, a ∈ acts → FAction env a) (hs : t.status = .runningOnUpdateHandlers)
    (hk : ∀ (n : Nat) (nd : Node), t.nodes[n]? = some nd → ∀ p i, nd.kind ≠ .mapRef p i)
    (hr : ∀ (o : Nat) (ob : ObsRec), t.observers[o]? = some ob → ob.node < t.nodes.size)
    {o : Nat} {ob : ObsRec} (ho : (runCatch env acts (t, tk)).1.observers[o]? = some ob) (hu : ob.state = .inUse)
    (hal : (runCatch env acts (t, tk)).1.alive = true) :
    (runCatch env acts (t, tk)).1.tryGetValue env o = t.tryGetValue env o ∧
      ∃ ob0, t.observers[o]? = some ob0 ∧ ob0.state = .inUse ∧ ob0.node = ob.node :=
  reads_stable_history ha hs hk hr ho hu hal

/-- **F2, handler case, end to end.**  `t` is the state left by a handler panic of a `stabilise` whose fault-free run ends
in `s'`.  Along any further history every read of an observer in use (state alive) answers the value it has in `s'`, the
fully propagated one. -/
theorem handler_reads_are_eval_forever {env : Env} {fuel : Nat} {s s' t : State} {acts : List Action} {tk : Array Nat}
    (U : UInv env s) (heff : PureHandlers env) (h : (stabilise env fuel).run.run s = (.ok (), s'))
    (hst : t.status = .runningOnUpdateHandlers) (R : HRel s' { t with status := .notStabilising })
    (ha : ∀ a, a ∈ acts → FAction env a)
    {o : Nat} {ob : ObsRec} (ho : (runCatch env acts (t, tk)).1.observers[o]? = some ob) (hu : ob.state = .inUse)
    (hal : (runCatch env acts (t, tk)).1.alive = true) :
    ∃ v, (runCatch env acts (t, tk)).1.tryGetValue env o = .ok v ∧ s'.tryGetValue env o = .ok v ∧
      ∀ k, (s'.nodeD ob.node).height.toNat < k → Sched.eval env s' k ob.node = some v := by
  have S := SubsH.stabilise_u U heff h
  have Q' := S.inv.core
  have hnodes : t.nodes = s'.nodes := R.nodes
  have hk : ∀ (n : Nat) (nd : Node), t.nodes[n]? = some nd → ∀ p i, nd.kind ≠ .mapRef p i := by
    intro n nd hn p i he
    rw [hnodes] at hn
    have := (fr_of_qinv Q').noRef n p i
    rw [Step.nodeD_of_some hn] at this
    exact this he
  have hr : ∀ (o : Nat) (ob : ObsRec), t.observers[o]? = some ob → ob.node < t.nodes.size := by
    intro o ob hob
    have hsym := R.symm
    obtain ⟨ob', ho', hn', -, -⟩ := hsym.obsSome (o := o) (oa := ob) hob
    rw [hnodes, ← hn']
    exact Q'.obs.inRange o ob' ho'
  obtain ⟨e1, ob0, h0, hu0, hn0⟩ := reads_stable_history ha hst hk hr ho hu hal
  have hread := (handler_panic_state U heff h hst R).1 o
  obtain ⟨ob', ho', hn', hs', -⟩ := R.symm.obsSome (o := o) (oa := ob0) h0
  have hst' : ob'.state = .inUse := hs'.trans hu0
  -- the observer is in use in `s'`: it reads the value of its node, which is `eval`
  have O' := SubsH.obsInv_final S
  have hmem : o ∈ (s'.nodeD ob'.node).observers := (O'.mem ob'.node o).2 ⟨ob', ho', rfl, Or.inl hst'⟩
  have hnec : s'.isNecessary ob'.node = true := by
    rw [Step.isNecessary_iff]; right; left; exact List.ne_nil_of_mem hmem
  have hnode : ob'.node = ob.node := hn'.trans hn0
  have hal' : s'.alive = true := Q'.alive
  have hval := S.values ob'.node hnec
  obtain ⟨-, -, -, h4, h5⟩ := hval ((s'.nodeD ob'.node).height.toNat + 1) (Nat.lt_succ_self _)
  obtain ⟨v, hv⟩ := Option.isSome_iff_exists.1 h5
  have hrs : s'.tryGetValue env o = .ok v := by
    rw [Props.C10.read_inUse env s' o ob' v hal' (by rw [Q'.status]; intro e; cases e) ho' hst' (by rw [h4, hv])]
  refine ⟨v, by rw [e1, hread]; exact hrs, hrs, fun k hk' => ?_⟩
  rw [← hnode] at hk' ⊢
  obtain ⟨-, -, -, h4', -⟩ := S.values ob'.node hnec k hk'
  rw [← h4', h4, hv]

/-- **F2, handler case: the poisoned engine shadows the healthy one.**  `t`: the state left by a handler panic, `s'`: the
final state of the fault-free run.  For EVERY history without `stabilise` (any actions of the fragment, `arm`, `dropAll`),
run with panics caught: the `api` answers — results and panics alike — are the same from `t` as from `s'`, the token tables
are the same, and after the history every read of every observer answers the same.  So whatever `Props/C09History.lean`,
`Props/C17History.lean` (valid histories never panic: `subs_action_returns`) say about the healthy engine holds for the
poisoned one, except that it refuses to stabilise. -/
theorem handler_case_shadows_healthy {env : Env} {fuel : Nat} {s s' t : State} {acts : List Action} {tk : Array Nat}
    (U : UInv env s) (heff : PureHandlers env) (h : (stabilise env fuel).run.run s = (.ok (), s'))
    (hst : t.status = .runningOnUpdateHandlers) (hp : t.panicCountdown = none)
    (R : HRel s' { t with status := .notStabilising })
    (ha : ∀ a, a ∈ acts → FAction env a ∧ a ≠ .stabilise) :
    apis env acts (t, tk) = apis env acts (s', tk) ∧
      (runCatch env acts (t, tk)).2 = (runCatch env acts (s', tk)).2 ∧
      ∀ o, (runCatch env acts (t, tk)).1.tryGetValue env o = (runCatch env acts (s', tk)).1.tryGetValue env o := by
  have S := SubsH.stabilise_u U heff h
  have hp' : s'.panicCountdown = none := S.inv.core.struct.static.pc
  have he : er t = er s' := er_of_hrel R (hp.trans hp'.symm)
  have n1 : NS t := by unfold NS; rw [hst]; intro e; cases e
  have n2 : NS s' := by unfold NS; rw [S.inv.core.status]; intro e; cases e
  obtain ⟨h1, h2, h3, h4, h5⟩ := shadow_history acts t s' tk ha he n1 n2
  exact ⟨h1, h2, fun o => read_er h3 h4 h5 o⟩

/-- **no engine panic after the panic.**  An action other than `stabilise` and other than a write never raises an engine
panic in ANY state, and a write does not in the state poisoned by a propagation panic: if such an action panics, an index
named by the history does not exist (`FaultH.modelSites`).  (Handler case, writes: `handler_case_shadows_healthy`.) -/
theorem only_model_panics {env : Env} {a : Action} (ha : FAction env a) (hns : a ≠ .stabilise) {s s' : State}
    {tk : Array Nat} {p : Panic} (hst : writeFn a = none ∨ s.status = .stabilising)
    (h : (stepAction env a tk).run.run s = (.error p, s')) : ModelSite p :=
  FaultH.only_model_panics ha hns hst h

/-- `dropAll` always returns `ok live=0` -/
theorem dropAll_returns (env : Env) (s : State) (tk : Array Nat) :
    (stepAction env .dropAll tk).run.run s = (.ok ("ok live=0", tk), { s with alive := false }) :=
  FaultH.dropAll_returns env s tk

/-! ## F3: completeness -/

/-- with `panicCountdown = none` nothing of this applies: the invariant is `SubsH.UInv`, the theorems of
`Props/C09History.lean` -/
theorem no_fault_nothing_applies {env : Env} {s : State} (hp : s.panicCountdown = none) : UInvA env s ↔ UInv env s := by
  unfold UInvA; rw [setCd_self hp]

/-- an action other than `stabilise` runs exactly as without the fault: same result, same state up to the countdown,
which it keeps; it logs nothing -/
theorem action_ignores_fault {env : Env} {s s' : State} {a : Action} {tk : Array Nat} {r : String × Array Nat}
    (U : UInvA env s) (heff : PureHandlers env) (ha : SubAction env a) (hns : a ≠ .stabilise)
    (h : (stepAction env a tk).run.run s = (.ok r, s')) :
    UInvA env s' ∧ s'.panicCountdown = s.panicCountdown ∧ s'.log = s.log ∧
      (stepAction env a tk).run.run (setCd none s) = (.ok r, setCd none s') :=
  step_healthy U heff ha hns h

/-- a `stabilise` that returns from a healthy state (whatever is armed) is the fault-free one up to the countdown -/
theorem stabilise_returns_iff_not_reached {env : Env} {s s' : State} {tk : Array Nat} {r : String × Array Nat}
    (U : UInvA env s) (heff : PureHandlers env)
    (h : (stepAction env .stabilise tk).run.run s = (.ok r, s')) :
    UInvA env s' ∧ (stabilise env fuelDefault).run.run (setCd none s) = (.ok (), setCd none s') :=
  stabilise_healthy U heff h

/-- a history of the fragment with `arm` that has not panicked so far ends in a healthy state -/
theorem history_before_first_panic {env : Env} {N : Nat} {d : Bool} {acts : List Action} {s : State} {tk : Array Nat}
    (heff : PureHandlers env) (ha : ∀ a, a ∈ acts → AAction env a)
    (h : Quiet.runActions env acts (State.init N d) #[] = .ok (s, tk)) : UInvA env s :=
  history_uA heff ha h

/-! ## non-vacuity -/

/-- what a read answers, comparable -/
inductive Rd where
  | val (v : Val) | err (e : ObsError)
deriving DecidableEq, Repr

def rd (env : Env) (s : State) (o : Nat) : Rd :=
  match s.tryGetValue env o with
  | .ok v => .val v
  | .error e => .err e

/-- the panic of an action (`none`: it returned) -/
def panicOfAction (env : Env) (a : Action) (st : State × Array Nat) : Option Panic :=
  match (stepAction env a st.2).run.run st.1 with
  | (.ok _, _) => none
  | (.error p, _) => some p

/-- per action: its panic (if any), then the status, the number of log entries, the countdown and what every observer
reads in the state it leaves -/
def summary (env : Env) : List Action → State × Array Nat → List (Option Panic × Status × Nat × Option Nat × List Rd)
  | [], _ => []
  | a :: as, st =>
    let st' := stepCatch env a st
    (panicOfAction env a st, st'.1.status, st'.1.log.length, st'.1.panicCountdown,
      (List.range st'.1.observers.size).map (rd env st'.1)) :: summary env as st'

/-- `var 1`, three user functions in a chain, an observer with a handler -/
def exGraph : List Action :=
  [.create (.var (.int 1)), .create (.map 0 [.outer 0]), .create (.map 1 [.outer 1]), .create (.map 2 [.outer 2]),
   .observe (.outer 3), .subscribe 0 0]

theorem exGraph_ok : ∀ a, a ∈ exGraph → AAction Step.exEnv a := by
  intro a ha
  simp only [exGraph, List.mem_cons, List.mem_nil_iff, or_false] at ha
  rcases ha with rfl | rfl | rfl | rfl | rfl | rfl
  all_goals first
    | trivial
    | (refine ⟨by decide, fun _ _ => rfl, ?_⟩
       intro a ha
       simp only [List.mem_cons, List.mem_nil_iff, or_false] at ha
       rcases ha with rfl
       trivial)

theorem exGraph_sub : ∀ a, a ∈ exGraph → SubAction Step.exEnv a := by
  intro a ha
  simp only [exGraph, List.mem_cons, List.mem_nil_iff, or_false] at ha
  rcases ha with rfl | rfl | rfl | rfl | rfl | rfl
  all_goals first
    | trivial
    | (refine ⟨by decide, fun _ _ => rfl, ?_⟩
       intro a ha
       simp only [List.mem_cons, List.mem_nil_iff, or_false] at ha
       rcases ha with rfl
       trivial)

def st0 : State × Array Nat := (State.init 128 true, #[])

set_option maxRecDepth 100000 in
/-- **fault at the 2nd of 3 node functions** (`arm 2`): the fault-free run logs 3 node-function entries and 1 notification
(`T = 3`, `H = 1`); with `arm 2` `stabilise` panics with `user`, status `stabilising`, ONE new log entry (the first
function), countdown consumed, the observer reads `CurrentlyStabilising`; then `set` returns, `stabilise` panics with the
status diagnostic, a new observer and a subscription are accepted, every read stays `CurrentlyStabilising`, nothing more is
ever logged; `dropAll` returns and the reads become `ObservingInvalid`.
Driver syntax: `hdl h0`, `fn f0 lin 7 0 1`, `fn f1 lin 7 1 1`, `fn f2 lin 7 2 1`, `var 1`, `map f0 n0`, `map f1 n1`, `map f2 n2`,
`observe n3`, `subscribe o0 h0`, `arm 2`, `stabilise`, `set v0 5`, `stabilise`, `observe n1`, `subscribe o1 h0`, `dropall` —
the real crate prints the same `api`/`read` lines. -/
example : (summary Step.exEnv (exGraph ++ [.arm 2, .stabilise, .set 0 (.int 5), .stabilise, .observe (.outer 1),
      .subscribe 1 0, .dropAll]) st0).drop 6 =
    [(none, .notStabilising, 0, some 2, [.err .neverStabilised]),
     (some (.site "user"), .stabilising, 1, none, [.err .currentlyStabilising]),
     (none, .stabilising, 1, none, [.err .currentlyStabilising]),
     (some (.site "state:stabilise:status"), .stabilising, 1, none, [.err .currentlyStabilising]),
     (none, .stabilising, 1, none, [.err .currentlyStabilising, .err .currentlyStabilising]),
     (none, .stabilising, 1, none, [.err .currentlyStabilising, .err .currentlyStabilising]),
     (none, .stabilising, 1, none, [.err .observingInvalid, .err .observingInvalid])] := by
  decide +kernel

set_option maxRecDepth 100000 in
/-- the same graph without fault: 3 node-function entries, then 1 notification; with `arm 4` (`= T + 1`) **the fault fires
in the 1st handler**: status `runningOnUpdateHandlers`, 3 log entries (all of `pre`, no notification), the observer reads
the fully propagated value `1`; a later `set` is immediate but nothing propagates: the read stays `1` for ever. -/
example : (summary Step.exEnv (exGraph ++ [.stabilise]) st0).drop 6 =
      [(none, .notStabilising, 4, none, [.val (.int 1)])] ∧
    (summary Step.exEnv (exGraph ++ [.arm 4, .stabilise, .set 0 (.int 5), .stabilise, .get 0, .dropAll]) st0).drop 7 =
      [(some (.site "user"), .runningOnUpdateHandlers, 3, none, [.val (.int 1)]),
       (none, .runningOnUpdateHandlers, 3, none, [.val (.int 1)]),
       (some (.site "state:stabilise:status"), .runningOnUpdateHandlers, 3, none, [.val (.int 1)]),
       (none, .runningOnUpdateHandlers, 3, none, [.val (.int 1)]),
       (none, .runningOnUpdateHandlers, 3, none, [.err .observingInvalid])] :=
  ⟨by decide +kernel, by decide +kernel⟩

set_option maxRecDepth 100000 in
/-- **fault not reached**: `arm 9`; the first `stabilise` makes 4 invocations (countdown `9 → 5`), after `set` the second
makes 4 more (`5 → 1`), the third fires at its first node function. -/
example : ((summary Step.exEnv (exGraph ++ [.arm 9, .stabilise, .set 0 (.int 5), .stabilise, .set 0 (.int 6), .stabilise])
      st0).drop 7).map (fun x => (x.1, x.2.1, x.2.2.2.1)) =
    [(none, .notStabilising, some 5), (none, .notStabilising, some 5), (none, .notStabilising, some 1),
     (none, .notStabilising, some 1), (some (.site "user"), .stabilising, none)] := by
  decide +kernel

/-- the state a history reaches if it does not panic -/
def stateAfter (env : Env) (acts : List Action) : Option (State × Array Nat) :=
  match Quiet.runActions env acts (State.init 128 true) #[] with
  | .ok r => some r
  | .error _ => none

theorem stateAfter_some {env : Env} {acts : List Action} (h : (stateAfter env acts).isSome = true) :
    ∃ s tk, Quiet.runActions env acts (State.init 128 true) #[] = .ok (s, tk) := by
  unfold stateAfter at h
  rcases hx : Quiet.runActions env acts (State.init 128 true) #[] with e | ⟨s, tk⟩
  · rw [hx] at h; cases h
  · exact ⟨s, tk, rfl⟩

set_option maxRecDepth 100000 in
/-- `T` counts invocations, not nodes: the drain of the example runs 4 nodes (`Sched.drainTrace`: the variable and the three
maps), `T = 3`: a `var`, `const` or `zip` node runs without invoking a user closure -/
example : (stateAfter Step.exEnv exGraph).map (fun st =>
      Sched.drainTrace Step.exEnv fuelDefault
        ((do addNewObservers Step.exEnv fuelDefault; unlinkDisallowedObservers fuelDefault : M Unit).run.run
          { st.1 with status := .stabilising }).2) = some [0, 1, 2, 3] := by
  decide +kernel

set_option maxRecDepth 100000 in
/-- the hypotheses of `classification` hold for the example: the state after `exGraph` satisfies the invariant and the
fault-free `stabilise` returns; hence for every `k` one of the three outcomes, computed above for `k = 2, 4, 9` -/
example : ∃ s tk s', Quiet.runActions Step.exEnv exGraph (State.init 128 true) #[] = .ok (s, tk) ∧ UInv Step.exEnv s ∧
    (stabilise Step.exEnv fuelDefault).run.run s = (.ok (), s') ∧
    ∃ pre del : List Event, s'.log = del.reverse ++ (pre.reverse ++ s.log) ∧
      ∀ k, Armed Step.exEnv fuelDefault s s' k pre del := by
  obtain ⟨s2, tk2, h2⟩ := stateAfter_some (env := Step.exEnv) (acts := exGraph ++ [.stabilise]) (by decide +kernel)
  obtain ⟨s, tk, h1, h3⟩ := Quiet.runActions_prefix h2
  have U : UInv Step.exEnv s := C09History.history_inv C09History.exEnv_pure exGraph_sub h1
  simp only [Quiet.runActions] at h3
  rcases hx : (stepAction Step.exEnv .stabilise tk).run.run s with ⟨_ | r, s'⟩
  · rw [hx] at h3; cases h3
  · have hst := Step.step_stabilise hx
    obtain ⟨pre, del, hl, -, -, -, -, A⟩ := classification U C09History.exEnv_pure hst
    exact ⟨s, tk, s', h1, U, hst, pre, del, hl, A⟩

end IncrVerif.Props.C13History
