import IncrVerif.Proofs.Handlers
/-!
# C09 — subscribers: Initialised once, Changed only on real change, then one Invalidated

(a) *automaton*: for ANY sequence of per-round classifications a handler sees, what it delivers is
`Initialised` once first, `Changed` exactly at the later rounds classified `changed`, one `Invalidated`
and nothing after.  (b) *engine link*: how the engine classifies a round.
The theorems are about `handlerStep`, `NodeUpdate.toPrev`, `State.nodeUpdate` — the definitions the
executable model (`runAll`, `stabiliseEnd`) runs.
-/
namespace IncrVerif.Props.C09
open IncrVerif.Engine IncrVerif.Proofs

/-- (a) the closed form of what a fresh handler delivers over any classification sequence in which
the node is never classified `unnecessary` (true for a subscription: see `nodeUpdate_ne_unnecessary`). -/
theorem automaton (nus : List NodeUpdate) (h : ∀ nu ∈ nus, nu ≠ .unnecessary) :
    deliveries .neverBeenUpdated nus = specDeliveries nus :=
  Proofs.deliveries_eq_spec nus h

/-- consequences spelled out: at most one `Initialised`, and only as the first delivery -/
theorem initialised_once (nus : List NodeUpdate) (h : ∀ nu ∈ nus, nu ≠ .unnecessary) :
    ((deliveries .neverBeenUpdated nus).drop 1).all (· != .necessary) = true := by
  rw [deliveries_eq_spec nus h, specDeliveries]
  split <;> split <;> simp <;> (intro x _; cases x <;> simp)

/-- nothing is delivered after `Invalidated` -/
theorem nothing_after_invalidated (nus : List NodeUpdate) (h : ∀ nu ∈ nus, nu ≠ .unnecessary) :
    ∀ pre post, deliveries .neverBeenUpdated nus = pre ++ .invalidated :: post → post = [] := by
  intro pre post heq
  rw [deliveries_eq_spec nus h, specDeliveries] at heq
  -- the part before the optional final `invalidated` contains no `invalidated`
  have key : ∀ l : List NodeUpdate, (∀ x ∈ l, x ≠ .invalidated) →
      l ++ (if nus.any (· == .invalidated) then [NodeUpdate.invalidated] else [])
        = pre ++ .invalidated :: post → post = [] := by
    intro l hl e
    split at e
    · exact append_invalidated_split l pre post hl e
    · rw [List.append_nil] at e
      exact absurd rfl (hl .invalidated (by rw [e]; simp))
  split at heq
  · exact key [] (by simp) heq
  · next x rest hx =>
    refine key _ ?_ heq
    intro y hy
    simp only [List.mem_cons, List.mem_filter] at hy
    rcases hy with rfl | ⟨_, hy⟩
    · decide
    · intro e; subst e; simp at hy

/-- `Changed` is delivered exactly for the rounds classified `changed` after the first delivery and
before invalidation: their number is the number of such rounds. -/
theorem changed_count (nus : List NodeUpdate) (h : ∀ nu ∈ nus, nu ≠ .unnecessary) :
    ((deliveries .neverBeenUpdated nus).filter (· == .changed)).length
      = (((nus.takeWhile (· != .invalidated)).drop 1).filter (· == .changed)).length := by
  rw [deliveries_eq_spec nus h, specDeliveries]
  split <;> split <;> simp_all

/-- (b) a node with an observer attached is never classified `unnecessary`, so a subscription can
never be handed `NodeUpdate::Unnecessary` (which the public wrapper turns into a panic). -/
theorem nodeUpdate_ne_unnecessary (env : Env) (s : State) (n : Nat)
    (h : (s.nodeD n).observers ≠ []) : s.nodeUpdate env n ≠ .unnecessary :=
  Proofs.nodeUpdate_ne_unnecessary env s n h

/-- (b) a round is classified `changed` only if the node's `changed_at` is this stabilisation
(the repaired D4 rule): an unchanged value is never reported as `Changed`. -/
theorem nodeUpdate_changed_iff (env : Env) (s : State) (n : Nat) :
    s.nodeUpdate env n = .changed ↔
      ((s.nodeD n).valid = true ∧ (s.nodeD n).isNecessary = true ∧ (s.value env n).isSome = true
        ∧ (s.nodeD n).changedAt + 1 = s.stabNum) := by
  simp only [State.nodeUpdate]
  generalize (s.nodeD n).valid = v
  generalize (s.nodeD n).isNecessary = nec
  generalize (s.value env n).isSome = sm
  cases v <;> cases nec <;> cases sm <;> simp

/-- non-vacuity: a concrete classification sequence and what is delivered for it -/
example : deliveries .neverBeenUpdated [.changed, .necessary, .changed, .changed, .invalidated, .changed]
    = [.necessary, .changed, .changed, .invalidated] := by decide

end IncrVerif.Props.C09
