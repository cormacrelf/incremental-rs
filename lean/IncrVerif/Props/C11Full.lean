import IncrVerif.Proofs.AuditF1
import IncrVerif.Proofs.AuditF2
import IncrVerif.Proofs.AuditF3
import IncrVerif.Proofs.AuditF4
import IncrVerif.Proofs.AuditF7
/-!
# C11 for the COMBINED fragment: the engine's dependency bookkeeping is self-consistent at every quiescent point

Property C11: *whenever control is outside `stabilise`, an audit of the engine finds: every dependency edge of a needed node is recorded symmetrically on both ends
with matching indices, every needed node is strictly higher than its inputs and than the bind that created it and within the height limit, unneeded nodes have no
dependants and are not scheduled, the pending-work queue holds exactly the needed-and-stale nodes once each, and after `stabilise` it is empty and every needed valid
node has a value.  The public counters agree with it: `stats().necessary` equals the number of needed nodes and per-node handler counts equal the handlers actually
registered.  — for all programs and histories, audited after every single API action (not only after `stabilise`).*

Other files: `C11Heap` (the recompute heap's `HeapWF` through every function, all programs), `C05` (necessity), `C01History` (the audit invariant for STATIC
histories).  This file proves the audit for the COMBINED fragment of `C01Full`/`C04Full`, on the ACTUAL engine state.

## THE FRAGMENT (that of `Props/C01Full.lean`: `FullH.HistFull env sp 0 acts`, `FullH.EnvS env sp`, `FullH.FirstFn env`)

`const`, `var`, pure `map` 1…6 / `zip`, `fold`, `depend_on`, `map_ref` (chains), `map_with_old` (machines satisfying the contract `FullH.Good`), `bind` with closures building
such nodes and NESTED binds over older top-level handles and own locals; `observe`/`cloneObs`/`dropObs`/`disallow`; the five variable writes and `get`; `stabilise`,
`isStable`, `stats`; the `cutoff n c` action with `c ∈ {never, eq}`.  See the header of `Props/C01Full.lean` for the exact conditions and for what is outside.

## THE PREDICATE `AuditF.Audit s` (`Proofs/AuditF1.lean`; spelled out by `audit_clauses` below)

A structure over the model state `s` ALONE — the engine's own readers `State.isNecessary`, `State.children` (= `try_fold_children`), `State.isStale`, `Node.inRch`, the fields of
`State`/`Node`/`Heap`; no ghost values, no virtual state, no environment:
* control is outside `stabilise`: `status = notStabilising`, `currentScope = top`, the stacks `handleAfterStab`, `propagateInvalidity`, `setDuringStab`, `deadVars` are empty;
* `nec`: a needed node exists, is VALID, height `≥ 0`;
* `childRec` / `parentRec` / `parentsNodup` — EDGE SYMMETRY WITH INDICES: the `i`-th input `c` of a needed node `n` is a node, is needed, has the entry `(n, i)` in its parent list
  and `height c < height n`; conversely every recorded entry `(p, i)` of `c` is the `i`-th input edge of a NEEDED `p` (so unneeded nodes hold no entry anywhere); no entry twice
  (the model's parent list stores `(parent, child index)` pairs: the Rust `parent_child_indices` arrays are that pairing);
* `scopeHeight`: a needed node created by the closure of bind `b` is strictly higher than `b`'s change detector (`bind_lhs_change`), which exists, is valid and needed;
* `unnec` / `invalid` / `noForce`: an unneeded node has no parent entries, no observers, is not in the recompute heap; an invalid node is isolated, unscheduled, unneeded;
* `heapWF` (bucket `h` = the nodes whose marker `heightInRch` is `h`; no duplicates; `length` = number of entries; markers `-1` or a bucket index), `queued` (IN THE HEAP ⇔ NEEDED ∧ STALE),
  `queuedAt` (marker = `height`), `lowerBound` (`0 ≤ lowerBound ≤` every queued height);
* the adjust-heights heap: `length = 0`, every bucket empty, every marker `heightInAhh = -1`;
* `obs` (`Quiet.ObsInv`): observers watch existing nodes; the observer list of a node = the in-use/disallowed observers on it; created observers wait in `newObservers`, disallowed ones
  in `disallowedObservers` (no duplicates); observers carry no handlers, `noHandlers`: every `numOnUpdateHandlers = 0` (the fragment has no subscriptions: counts = registered = 0);
* `vars` (`Quiet.VarsOK`): variable cells and `var` nodes name each other.
The HEIGHT-LIMIT clause is not a field of `Audit`; it is stated next to it (`history_audit_limit`), because it is proved by a different route (see below).

## PROVED HERE (for the model, both `cfg.debug` settings, any height limit `N`; partial correctness: the history is assumed to return `.ok`)

* `history_audit`: EVERY STATE REACHED from `State.init N d` by a history of the fragment satisfies `Audit`.
* `history_audit_every`: … so does every INTERMEDIATE state (C11's "audited after every single API action").
* `history_stabilise_audit`: at every `stabilise` of a history: `Audit` before and after; after it THE RECOMPUTE HEAP IS EMPTY (`length = 0`, every bucket `[]`, no marker set),
  the observer work lists are empty, every needed node is valid, NOT STALE and HAS A VALUE unless it is a `map_ref` node (these store nothing: the recompute step of a `map_ref` node sets its
  `Node.value` to `none`, readers project the input's value on the fly).
* `audit_bucket`: from `Audit`, bucket by bucket: `queues[h]` has no duplicates and `n ∈ queues[h] ⇔ needed n ∧ stale n ∧ valid n ∧ height n = h` — "the pending-work queue holds
  exactly the needed-and-stale nodes, once each, at their height".
* `audit_stale_height_le`: a needed stale node has `height ≤ rch.maxAllowed` (it sits in a bucket).
* `audit_clauses`: `Audit` spelled out as one conjunction.
* Corollaries for smaller fragments by the same route: `history_audit_F2` (`C03Nested`'s fragment F2: static core + nested binds, `NestH.HistF2`), `history_audit_static` (the static
  histories of `C01History`: `∀ a ∈ acts, Quiet.StaticAction env a`).
* `history_audit_limit`, `history_height_limit`: THE HEIGHT-LIMIT CLAUSE for the combined fragment — in every state reached by a history (that returns) EVERY node, needed or not, has
  `height ≤ maxHeightSeen ≤ maxAllowed` of both heaps, and both heaps have the same limit; `0 ≤ height` for needed nodes.  Method (`Proofs/AuditF5…7`): the invariant `HLim.HL` is kept by every
  engine function THAT RETURNS (`HLim.POk`, an ok-only variant of `Step.Pres`, pushed through the engine function by function): the only writer of `height`/`maxHeightSeen` is
  `setHeight`, which panics with `height-limit` before storing a height beyond the limit (the panicking run does leave `maxHeightSeen` beyond the limit — that is why the ladder is ok-only).
  This part uses NO hypothesis on the program except the list of action kinds (`HLim.PlainAction`: no `setMaxHeight`).
* `history_audit_static_limit`: for the static core THE HEIGHT-LIMIT CLAUSE also follows (from the exact-height invariant `HeightH.TInvH` of `C19History`): every needed node has
  `height ≤ maxHeightSeen ≤ maxAllowed` of both heaps.
* NON-VACUITY (kernel-checked): `exHistF` / `exHistG` of `C01Full` satisfy the hypotheses, so EVERY PREFIX of them ends in a state passing the audit (`exHistF_audit_every`,
  `exHistG_audit_every`); the audited states are not trivial (`exHistF_final_facts`: 25 nodes, bind main node 4 needed at height 8 over inputs `[3, 21]`, `(4, 1)` recorded in node 21
  at height 7, dead generation invalid and unneeded; `exHistF_pending_facts`: before the last `stabilise` the heap holds exactly the written variable's node, needed and stale, in bucket 1).

## METHOD

`C01Full.history_inv` gives `FullH.QInvFE env sp s = ∃ g, QInvF env sp s g`, whose component `q : NestH.QG2 (VE env sp) (virt g s)` is the invariant between API actions of fragment F2
about the VIRTUAL state.  `audit_of_qinv2` (`AuditF1`): `NestH.QInv2 env rk t → Audit t` for any state `t` (from `BindH.BGraph` via `QInv2.bgraph`, `NestH.GInv2` at rest, `NestH.F2Inv`,
`ObsOK`, `VarsOK`).  `Audit.of_virt`: `Audit (virt g s) → Audit s`, clause by clause — `virt` keeps `parents`, `observers`, `forceNecessary`, `height`, both heap markers, `valid`,
`createdIn`, handler counts, all `State` fields other than `nodes`, and `State.children` / `State.isStale` / `State.isNecessary` (`virt_children`, `virt_isStale`, `virt_isNecessary`); it
changes kinds (`mapRef`/`mapWithOld` ↦ `map`), stored values, cutoffs, `didChange` — none of which `Audit` reads (`VarsOK` reads `kind = var c`, which `virtKind` preserves both ways).

## CLAUSES OF C11 COVERED / NOT COVERED

Covered: edge symmetry with indices (both directions, no duplicates); needed node strictly above its inputs and above the change detector of the bind that created it, and WITHIN THE HEIGHT LIMIT
(`history_audit_limit`); unneeded nodes: no
dependants, not scheduled, referenced by no parent entry; the queue = exactly the needed stale nodes once each at their height, markers agree with contents (both heaps), adjust-heights heap
empty; empty queue after `stabilise`, needed nodes valid / not stale / with a value (map_ref excepted, see above); handler counts (trivially, no subscriptions in the fragment); observer lists.
NOT covered:
* `stats().necessary = number of needed nodes` (the counters `becameNecessary`/`becameUnnecessary` are not tracked by `QInvFE`).
* Total correctness (no panic / fuel) — `C04Full` treats panics of the combined fragment; here every statement assumes `.ok`.
* Everything outside the fragment (user cutoffs, expert nodes, subscriptions — for which handler counts would be non-trivial —, `setMaxHeight`, `dropVar`, …).
-/
namespace IncrVerif.Props.C11Full
open IncrVerif.Engine IncrVerif.Driver IncrVerif.Proofs IncrVerif.Proofs.FullH IncrVerif.Proofs.AuditF

/-- **C11 for the combined fragment.** Every state reached from the initial state by a history of the full fragment passes the audit. -/
theorem history_audit {env : Env} {sp : Nat → Val → Val} (E : EnvS env sp) (hF : FirstFn env) {N : Nat} {d : Bool} {acts : List Action} {s : State} {tk : Array Nat}
    (hH : HistFull env sp 0 acts) (h : Quiet.runActions env acts (State.init N d) #[] = .ok (s, tk)) : Audit s :=
  AuditF.history_audit E hF hH h

/-- **Audited after every single API action.** Every intermediate state of a history of the full fragment passes the audit. -/
theorem history_audit_every {env : Env} {sp : Nat → Val → Val} (E : EnvS env sp) (hF : FirstFn env) {N : Nat} {d : Bool} {as bs : List Action} {s : State} {tk : Array Nat}
    (hH : HistFull env sp 0 (as ++ bs)) (h : Quiet.runActions env (as ++ bs) (State.init N d) #[] = .ok (s, tk)) :
    ∃ s1 tk1, Quiet.runActions env as (State.init N d) #[] = .ok (s1, tk1) ∧ Audit s1 ∧ Quiet.runActions env bs s1 tk1 = .ok (s, tk) :=
  AuditF.history_audit_every E hF hH h

/-- **After every `stabilise`**: the audit, an EMPTY recompute heap, empty observer work lists, every needed node valid, not stale, with a value (map_ref nodes store none). -/
theorem history_stabilise_audit {env : Env} {sp : Nat → Val → Val} (E : EnvS env sp) (hF : FirstFn env) {N : Nat} {d : Bool} {as bs : List Action} {s : State} {tk : Array Nat}
    (hH : HistFull env sp 0 (as ++ Action.stabilise :: bs))
    (h : Quiet.runActions env (as ++ Action.stabilise :: bs) (State.init N d) #[] = .ok (s, tk)) :
    ∃ s1 tk1 s2, Quiet.runActions env as (State.init N d) #[] = .ok (s1, tk1) ∧ Audit s1 ∧
      (stabilise env fuelDefault).run.run s1 = (.ok (), s2) ∧ Audit s2 ∧
      s2.rch.length = 0 ∧ (∀ (k : Nat) (hk : k < s2.rch.queues.size), s2.rch.queues[k] = []) ∧ (∀ m, (s2.nodeD m).inRch = false) ∧
      s2.newObservers = [] ∧ s2.disallowedObservers = [] ∧
      (∀ n, s2.isNecessary n = true → (s2.nodeD n).valid = true ∧ s2.isStale n = false ∧
        ((∃ v, (s2.nodeD n).value = some v) ∨ ∃ p i, (s2.nodeD n).kind = .mapRef p i)) ∧
      Quiet.runActions env bs s2 tk1 = .ok (s, tk) :=
  AuditF.history_stabilise_audit E hF hH h

/-- **The pending-work queue holds exactly the needed stale nodes, once each, in the bucket of their height.** -/
theorem audit_bucket {s : State} (A : Audit s) (h : Nat) (hh : h < s.rch.queues.size) :
    (s.rch.queues[h]).Nodup ∧ ∀ n, n ∈ s.rch.queues[h] ↔
      (s.isNecessary n = true ∧ s.isStale n = true ∧ (s.nodeD n).valid = true ∧ (s.nodeD n).height = (h : Int)) :=
  A.bucket h hh

/-- a needed stale node is within the height limit -/
theorem audit_stale_height_le {s : State} (A : Audit s) {n : Nat} (h1 : s.isNecessary n = true) (h2 : s.isStale n = true) :
    (s.nodeD n).height ≤ s.rch.maxAllowed :=
  A.stale_height_le h1 h2

/-- **`Audit` spelled out** (the graph and heap clauses; `A.obs`, `A.vars`, `A.heapWF` are the structures `Quiet.ObsInv`, `Quiet.VarsOK`, `HeapWF`). -/
theorem audit_clauses {s : State} (A : Audit s) :
    (s.status = .notStabilising ∧ s.currentScope = .top ∧ s.handleAfterStab = [] ∧ s.propagateInvalidity = [] ∧ s.setDuringStab = [] ∧ s.deadVars = []) ∧
    (∀ n, s.isNecessary n = true → n < s.nodes.size ∧ (s.nodeD n).valid = true ∧ 0 ≤ (s.nodeD n).height) ∧
    (∀ n, s.isNecessary n = true → ∀ i c, (s.children n)[i]? = some c →
      c < s.nodes.size ∧ s.isNecessary c = true ∧ (n, i) ∈ (s.nodeD c).parents ∧ (s.nodeD c).height < (s.nodeD n).height) ∧
    (∀ c p i, (p, i) ∈ (s.nodeD c).parents → s.isNecessary p = true ∧ (s.children p)[i]? = some c) ∧
    (∀ c, (s.nodeD c).parents.Nodup) ∧
    (∀ n b, s.isNecessary n = true → (s.nodeD n).createdIn = .bind b →
      ∃ br, s.binds[b]? = some br ∧ br.lhsChange < s.nodes.size ∧ (s.nodeD br.lhsChange).valid = true ∧
        s.isNecessary br.lhsChange = true ∧ (s.nodeD br.lhsChange).height < (s.nodeD n).height) ∧
    (∀ n, s.isNecessary n = false → (s.nodeD n).parents = [] ∧ (s.nodeD n).observers = [] ∧ (s.nodeD n).inRch = false) ∧
    (∀ n, (s.nodeD n).valid = false →
      (s.nodeD n).parents = [] ∧ (s.nodeD n).observers = [] ∧ (s.nodeD n).inRch = false ∧ s.isNecessary n = false) ∧
    HeapWF s ∧
    (∀ m, (s.nodeD m).inRch = true ↔ (s.isNecessary m = true ∧ s.isStale m = true)) ∧
    (∀ m, (s.nodeD m).inRch = true → (s.nodeD m).heightInRch = (s.nodeD m).height) ∧
    (0 ≤ s.rch.lowerBound ∧ ∀ m, (s.nodeD m).inRch = true → s.rch.lowerBound ≤ (s.nodeD m).height) ∧
    (s.ahh.length = 0 ∧ (∀ i (hi : i < s.ahh.queues.size), s.ahh.queues[i] = []) ∧ ∀ m, (s.nodeD m).heightInAhh = -1) ∧
    (∀ n, (s.nodeD n).forceNecessary = false ∧ (s.nodeD n).numOnUpdateHandlers = 0) :=
  ⟨⟨A.status, A.currentScope, A.handleAfterStab, A.propagateInvalidity, A.setDuringStab, A.deadVars⟩, A.nec, A.childRec, A.parentRec, A.parentsNodup,
    A.scopeHeight, A.unnec, A.invalid, A.heapWF, A.queued, A.queuedAt, A.lowerBound, ⟨A.ahhLength, A.ahhBuckets, A.ahhMarks⟩,
    fun n => ⟨A.noForce n, A.noHandlers n⟩⟩

/-- **C11 for fragment F2** (`C03Nested`: static core + binds + nested binds). -/
theorem history_audit_F2 {env : Env} {N : Nat} {d : Bool} {acts : List Action} {s : State} {tk : Array Nat}
    (hH : NestH.HistF2 env 0 acts) (h : Quiet.runActions env acts (State.init N d) #[] = .ok (s, tk)) : Audit s :=
  AuditF.history_audit_F2 hH h

/-- **C11 for the static core** (the histories of `C01History`). -/
theorem history_audit_static {env : Env} {N : Nat} {d : Bool} {acts : List Action} {s : State} {tk : Array Nat}
    (hH : ∀ a, a ∈ acts → Quiet.StaticAction env a) (h : Quiet.runActions env acts (State.init N d) #[] = .ok (s, tk)) : Audit s :=
  AuditF.history_audit_static hH h

/-- **C11 for the combined fragment WITH THE HEIGHT-LIMIT CLAUSE**: the audit, and every needed node's height lies between `0` and the limit of both heaps. -/
theorem history_audit_limit {env : Env} {sp : Nat → Val → Val} (E : EnvS env sp) (hF : FirstFn env) {N : Nat} {d : Bool} {acts : List Action} {s : State} {tk : Array Nat}
    (hH : HistFull env sp 0 acts) (h : Quiet.runActions env acts (State.init N d) #[] = .ok (s, tk)) :
    Audit s ∧ ∀ n, s.isNecessary n = true →
      0 ≤ (s.nodeD n).height ∧ (s.nodeD n).height ≤ s.rch.maxAllowed ∧ (s.nodeD n).height ≤ s.ahh.maxAllowed :=
  HLim.history_audit_limit E hF hH h

/-- **The height limit, for any program**: along a history of the listed action kinds (any operands, any closures) that returns, every node's height is at most the largest height seen,
which is within the common limit of both heaps. -/
theorem history_height_limit {env : Env} {N : Nat} {d : Bool} {acts : List Action} {s : State} {tk : Array Nat}
    (ha : ∀ a, a ∈ acts → HLim.PlainAction a) (h : Quiet.runActions env acts (State.init N d) #[] = .ok (s, tk)) :
    0 ≤ s.maxHeightSeen ∧ s.maxHeightSeen ≤ s.ahh.maxAllowed ∧ s.rch.maxAllowed = s.ahh.maxAllowed ∧
      ∀ n, (s.nodeD n).height ≤ s.maxHeightSeen ∧ (s.nodeD n).height ≤ s.rch.maxAllowed ∧ (s.nodeD n).height ≤ s.ahh.maxAllowed :=
  HLim.history_height_limit ha h

/-- **C11 incl. the height limit, static core** (`ValidHist M`: the indices the actions use exist; `M` arbitrary): the audit, and every needed node is within the height limit
of both heaps. -/
theorem history_audit_static_limit {env : Env} {N M : Nat} {d : Bool} {acts : List Action} {s : State} {tk : Array Nat}
    (ha : ∀ a, a ∈ acts → Quiet.StaticAction env a) (hv : Quiet.ValidHist M 0 0 0 acts)
    (h : Quiet.runActions env acts (State.init N d) #[] = .ok (s, tk)) :
    Audit s ∧ ∀ n, s.isNecessary n = true →
      (s.nodeD n).height ≤ s.maxHeightSeen ∧ s.maxHeightSeen ≤ s.rch.maxAllowed ∧ s.maxHeightSeen ≤ s.ahh.maxAllowed :=
  AuditF.history_audit_static_limit ha hv h

/-! ## non-vacuity -/

/-- the example history `exHistF` of `C01Full` (map_ref chain, map_with_old, nested bind inside a bind's closure; writes, lhs changes, disallow, re-observation) satisfies the hypotheses,
runs, and its final state passes the audit -/
example : EnvS fEnv fSp ∧ FirstFn fEnv ∧ HistFull fEnv fSp 0 exHistF ∧
    ∃ s tk, Quiet.runActions fEnv exHistF (State.init 128 true) #[] = .ok (s, tk) ∧ Audit s := by
  obtain ⟨s, tk, h⟩ := exHistF_runs
  exact ⟨fEnv_envS, fEnv_first, exHistF_frag, s, tk, h, history_audit fEnv_envS fEnv_first exHistF_frag h⟩

/-- … and the height-limit clause: in the final state of `exHistF` every needed node's height lies between `0` and the limit `128` of both heaps (the bind's main node 4 is at height 8) -/
example : ∃ s tk, Quiet.runActions fEnv exHistF (State.init 128 true) #[] = .ok (s, tk) ∧ Audit s ∧
    ∀ n, s.isNecessary n = true → 0 ≤ (s.nodeD n).height ∧ (s.nodeD n).height ≤ s.rch.maxAllowed ∧ (s.nodeD n).height ≤ s.ahh.maxAllowed := by
  obtain ⟨s, tk, h⟩ := exHistF_runs
  exact ⟨s, tk, h, history_audit_limit fEnv_envS fEnv_first exHistF_frag h⟩

/-- every prefix of `exHistF` and of `exHistG` (`depend_on`, the `cutoff` action) ends in a state that passes the audit -/
example (k : Nat) :
    (∃ s tk, Quiet.runActions fEnv (exHistF.take k) (State.init 128 true) #[] = .ok (s, tk) ∧ Audit s) ∧
    (∃ s tk, Quiet.runActions fEnv (exHistG.take k) (State.init 128 true) #[] = .ok (s, tk) ∧ Audit s) :=
  ⟨exHistF_audit_every k, exHistG_audit_every k⟩

/-- the audited states are not trivial (kernel-checked): the final state of `exHistF` has 25 nodes; the bind's main node 4 is needed, at height 8, over the inputs `[3, 21]`; node 21 records
`(4, 1)` at height 7, the change detector 3 sits at height 2; the closure-built `map` 18 has the inputs `[17, 2]` and the outer variable 2 records `(18, 1)`; node 22 (dead generation) is
invalid and unneeded; the heap is empty.  Before the last `stabilise` the heap holds exactly node 2 (the written variable: needed, stale, height 1, marker 1) in bucket 1; after the second
`observe` the new observer waits in `newObservers`. -/
example :
    (∃ s, BindH.C2h.stateB fEnv (exHistF.take 20) = some s ∧ Audit s) ∧
    EX.factF exHistF (fun s => (s.nodes.size, s.isNecessary 4, s.children 4, (s.nodeD 21).parents)) = some (25, true, [3, 21], [(4, 1)]) ∧
    EX.factF exHistF (fun s => ((s.nodeD 4).height, (s.nodeD 21).height, (s.nodeD 3).height)) = some (8, 7, 2) ∧
    EX.factF exHistF (fun s => (s.children 18, (s.nodeD 2).parents, (s.nodeD 22).valid, s.isNecessary 22, s.rch.length)) =
      some ([17, 2], [(18, 1), (19, 0)], false, false, 0) ∧
    EX.factF (exHistF.take 20) (fun s => (s.rch.length, s.rch.queues[1]?, s.isNecessary 2, s.isStale 2, (s.nodeD 2).height, (s.nodeD 2).heightInRch)) =
      some (1, some [2], true, true, 1, 1) ∧
    EX.factF (exHistF.take 18) (fun s => (s.newObservers, s.disallowedObservers)) = some ([1], []) :=
  ⟨exHistF_audit_state 20, exHistF_final_facts.1, exHistF_final_facts.2.1, exHistF_final_facts.2.2, exHistF_pending_facts.1, exHistF_pending_facts.2⟩

end IncrVerif.Props.C11Full
