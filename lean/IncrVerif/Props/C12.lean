import IncrVerif.Proofs.Ownership
/-!
# C12 — nothing leaks, no drop order is unsafe (the ownership component of the model)

The model's account of `Rc` ownership is `Engine/Alive.lean`: `State.refsOf n` (the strong references
node `n`'s kind holds), `State.roots` (node handles the program holds, shared cells, variables,
observers, queued nodes), and `State.aliveSet` = a fuel-bounded search from the roots.  The differential
check compares `aliveSet` with what the real crate still has allocated after every action.  The
theorems below are about these definitions, for *every* state (no reachability assumption).

`Reach s n` ("`n` is a root of `s`, or reachable from a root through `refsOf` edges") is
`Proofs.Own.Reach`.  `aliveSet` runs the search with fuel
`roots.length + Σ_{n < nodes.size} (refsOf n).length + 8`.

REMARK (why the fuel counts references).  Fuel
`nodes.size * (nodes.size + 2) + roots.length + 8` is NOT enough: the search pushes duplicate
references, so on `const 1; const 2; fold … n0 ×30 n1` it runs out of fuel among the copies of `n0`
before it reaches `n1` (state `Own.exBigFold`), and completeness, `alive_antitone` and `handle_is_alive`
fail.  `search_exact_with_enough_fuel` shows the fuel above to be enough for every state; all theorems
below are unconditional (a non-existent node holds nothing: `nodeD` gives the default node, a
`.const`, so only indices `< nodes.size` contribute references).

## PROVED HERE
* `aliveSet_sound`, `aliveSet_complete`, `aliveSet_iff`: for EVERY state, `aliveSet` is exactly the set of
  nodes that are roots or reachable from a root: the fuel suffices.
* `search_exact_with_enough_fuel`: the same for any fuel `≥ roots.length + Σ (refsOf n).length`.
* `no_roots_nothing_alive`: no roots, nothing alive.
* `alive_antitone` (general), `drop_handle_shrinks`, `drop_observer_shrinks`, `drop_var_shrinks`:
  giving up a handle through the API actions `.dropHandle`, `.dropObs`, `.dropVar` (whatever they return)
  can only shrink the alive set.
* `drop_handle_is_quiet`: `.dropHandle` changes nothing but `handles`; `drop_handle_reads`: no observer
  reads anything different afterwards.
* membership: `handle_is_alive`, `slot_is_alive`, `var_is_alive`, `observed_is_alive`, `queued_is_alive`,
  `children_of_alive_alive`.
* `drop_var_handle_closed_form`, `drop_var_handle_fields`: what dropping a `Var` handle does, exactly;
  `drop_var_handle_never_panics`: it never panics when the variable exists, in any status (in particular
  while stabilising); `drop_var_effect_closed_form`, `drop_var_action_closed_form`: the effect `.dropVar`
  of user code and the API action `.dropVar` are this step; `drop_var_handle_no_such_var`;
  `write_effect_after_last_drop_is_noop`.

## NOT PROVED HERE
* that the engine's actions other than the three drops keep `aliveSet` in step with the real crate's
  allocation (that is what the differential check tests);
* that `refsOf`/`roots` are the right abstraction of the crate's `Rc` graph (validated by the same check).
-/
namespace IncrVerif.Props.C12
open IncrVerif.Engine IncrVerif.Proofs.Own

/-! ## 1–2. the search computes reachability -/

/-- Soundness: whatever the model reports as still allocated is a root (a handle the program holds,
a shared cell, a live variable, a held observer's node, a queued node) or is reachable from a root
through strong references.  Holds for every state, whatever the fuel. -/
theorem aliveSet_sound (s : State) (n : Nat) (h : n ∈ s.aliveSet) : Reach s n :=
  Proofs.Own.aliveSet_sound s n h

example : 3 ∈ exOwn.aliveSet ∧ Reach exOwn 3 := ⟨by decide, aliveSet_sound _ _ (by decide)⟩

/-- Completeness: every node reachable from a root is reported as allocated — the fuel of the search
suffices, in every state. -/
theorem aliveSet_complete (s : State) (n : Nat) (h : Reach s n) : n ∈ s.aliveSet :=
  Proofs.Own.aliveSet_complete s n h

example : Reach exOwn 0 ∧ 0 ∈ exOwn.aliveSet :=
  ⟨.step (.root (n := 1) (by decide)) (by decide), by decide⟩

/-- the state on which the fuel used before the repair ran out: node 1 is found now -/
example : Reach exBigFold 1 ∧ 1 ∈ exBigFold.aliveSet :=
  ⟨.step (.root (n := 2) (by decide)) (by decide), aliveSet_complete _ _
    (.step (.root (n := 2) (by decide)) (by decide))⟩

/-- The alive set is exactly the set of reachable nodes. -/
theorem aliveSet_iff (s : State) (n : Nat) : s.isAlive n = true ↔ Reach s n :=
  Proofs.Own.isAlive_iff s n

example : exOwn.isAlive 2 = false ∧ ¬ Reach exOwn 2 :=
  ⟨by decide, fun h => absurd ((aliveSet_iff exOwn 2).2 h) (by decide)⟩

/-- With ANY fuel of at least `roots.length + Σ_{n < nodes.size} (refsOf n).length`
the same search computes exactly the reachable set, for every state. -/
theorem search_exact_with_enough_fuel (s : State) (fuel : Nat)
    (hfuel : s.roots.length + degSum s.refsOf (List.range s.nodes.size) ≤ fuel) (n : Nat) :
    n ∈ reachFrom s.refsOf fuel s.roots [] ↔ Reach s n :=
  ⟨search_sound s fuel n, search_complete s fuel hfuel n⟩

example : exBigFold.roots.length + degSum exBigFold.refsOf (List.range exBigFold.nodes.size) = 32 ∧
    1 ∈ reachFrom exBigFold.refsOf 32 exBigFold.roots [] := by decide

/-! ## 3. nothing held, nothing allocated -/

/-- After every handle is dropped and the engine holds nothing (no shared cell, no live variable,
no held observer, empty recompute heap), everything is released. -/
theorem no_roots_nothing_alive (s : State) (h : s.roots = []) : s.aliveSet = [] := by
  unfold State.aliveSet; rw [h]; exact reachFrom_nil _ _

example : exOwnReleased.nodes.size = 4 ∧ exOwnReleased.roots = [] ∧ exOwnReleased.aliveSet = [] :=
  ⟨rfl, by decide, no_roots_nothing_alive _ (by decide)⟩

/-! ## 4. giving up a handle can only release nodes -/

/-- If two states hold the same strong references and every root of the second is a root of the
first, everything allocated in the second is allocated in the first. -/
theorem alive_antitone (s s' : State) (hrefs : s'.refsOf = s.refsOf)
    (hroots : ∀ n, n ∈ s'.roots → n ∈ s.roots) (n : Nat) (h : n ∈ s'.aliveSet) : n ∈ s.aliveSet :=
  aliveSet_subset s s' hrefs hroots n h

example : ∀ n, n ∈ ({ exOwn with handles := [] } : State).aliveSet → n ∈ exOwn.aliveSet :=
  alive_antitone exOwn _ rfl (by decide)

/-- Dropping a node handle (API action `.dropHandle`), whatever it returns, releases nodes or
nothing: no node becomes allocated. -/
theorem drop_handle_shrinks (env : Env) (o : Opnd) (tokens : Array Nat) (s s' : State) (r)
    (hrun : (stepAction env (.dropHandle o) tokens).run.run s = (r, s'))
    (n : Nat) (h : n ∈ s'.aliveSet) : n ∈ s.aliveSet :=
  ((shrink_dropHandle env o tokens).h s r s' hrun).alive n h

example : ((stepAction Proofs.Obs.exEnv (.dropHandle (.abs 1)) #[]).run.run exOwn).2.handles = [] := by
  decide

/-- Dropping an observer handle (API action `.dropObs`: the clone count goes down; the last drop
calls `disallow_future_use`, after which an observer that was in use stays held by the engine until
the next stabilisation) never makes a node allocated. -/
theorem drop_observer_shrinks (env : Env) (o : Nat) (tokens : Array Nat) (s s' : State) (r)
    (hrun : (stepAction env (.dropObs o) tokens).run.run s = (r, s'))
    (n : Nat) (h : n ∈ s'.aliveSet) : n ∈ s.aliveSet :=
  ((shrink_dropObs env o tokens).h s r s' hrun).alive n h

example : (((stepAction Proofs.Obs.exEnv (.dropObs 0) #[]).run.run exOwn).2.observers[0]?.map
    fun ob => (ob.clones, ob.state)) = some (0, .disallowed) := by decide

/-- Dropping a variable handle (API action `.dropVar`) never makes a node allocated. -/
theorem drop_var_shrinks (env : Env) (v : Nat) (tokens : Array Nat) (s s' : State) (r)
    (hrun : (stepAction env (.dropVar v) tokens).run.run s = (r, s'))
    (n : Nat) (h : n ∈ s'.aliveSet) : n ∈ s.aliveSet :=
  ((shrink_dropVar env v tokens).h s r s' hrun).alive n h

example : ((stepAction Proofs.Obs.exEnv (.dropVar 0) #[]).run.run exOwn).2.deadVars = [0] := by decide

/-! ## 5. dropping a node handle touches nothing else -/

/-- `.dropHandle o` either fails to resolve its operand (a panic of class `model:`, state unchanged),
or finds the program holds no handle on that node (`noop`, state unchanged), or removes one handle
from `handles` and changes nothing else: no node, no observer record, no value, no event. -/
theorem drop_handle_is_quiet (env : Env) (o : Opnd) (tokens : Array Nat) (s : State) :
    (stepAction env (.dropHandle o) tokens).run.run s =
      match resolve s [] o with
      | .error p => (.error p, s)
      | .ok n =>
        if s.handles.contains n then (.ok ("ok", tokens), { s with handles := s.handles.erase n })
        else (.ok ("noop", tokens), s) :=
  dropHandle_run env o tokens s

example : (stepAction Proofs.Obs.exEnv (.dropHandle (.outer 1)) #[]).run.run exOwn
    = (.ok ("ok", #[]), { exOwn with handles := [] }) := drop_handle_is_quiet _ _ _ _

/-- Hence no observer reads anything different after a handle is dropped. -/
theorem drop_handle_reads (env : Env) (o : Opnd) (tokens : Array Nat) (s s' : State) (r)
    (hrun : (stepAction env (.dropHandle o) tokens).run.run s = (r, s')) (ob : Nat) :
    s'.tryGetValue env ob = s.tryGetValue env ob :=
  ((Proofs.Obs.Pres.stepAction_quiet env (.dropHandle o) tokens rfl).h s r s' hrun).read_eq env ob

example : ((stepAction Proofs.Obs.exEnv (.dropHandle (.outer 1)) #[]).run.run exOwn).2.tryGetValue
    Proofs.Obs.exEnv 0 = exOwn.tryGetValue Proofs.Obs.exEnv 0 :=
  drop_handle_reads _ (.outer 1) #[] exOwn _ _ (Proofs.Obs.run_eta _ _) 0

/-! ## 6. what is certainly allocated -/

/-- A node the program holds a handle on is allocated. -/
theorem handle_is_alive (s : State) (n : Nat) (h : n ∈ s.handles) :
    s.isAlive n = true :=
  (aliveSet_iff s n).2 (.root ((mem_roots s n).2 (.inl h)))

example : exOwn.isAlive 1 = true := handle_is_alive _ _ (by decide)

/-- A node published in a shared cell is allocated. -/
theorem slot_is_alive (s : State) (k n : Nat) (h : (k, n) ∈ s.slots) :
    s.isAlive n = true :=
  (aliveSet_iff s n).2 (.root ((mem_roots s n).2 (.inr (.inl ⟨k, h⟩))))

example : ({ exOwn with slots := [(7, 2)] } : State).isAlive 2 = true :=
  slot_is_alive _ 7 _ (by decide)

/-- The watch node of a variable is allocated while the program holds the variable, and after that
until the `Var ↔ watch node` cycle is broken at the end of the next stabilisation. -/
theorem var_is_alive (s : State) (v : Nat) (vc : VarCell) (h : s.vars[v]? = some vc)
    (hheld : vc.handles > 0 ∨ vc.linked = true) : s.isAlive vc.node = true :=
  (aliveSet_iff s _).2 (.root ((mem_roots s _).2 (.inr (.inr (.inl
    ⟨vc, by rw [Array.mem_toList_iff, Array.mem_iff_getElem?]; exact ⟨v, h⟩, hheld, rfl⟩)))))

example : exOwn.isAlive 0 = true := var_is_alive exOwn 0 _ rfl (.inl (by decide))

/-- The node of an observer is allocated while the program holds the observer, and while the engine
holds it (in use, or disallowed and not yet unlinked). -/
theorem observed_is_alive (s : State) (o : Nat) (ob : ObsRec)
    (h : s.observers[o]? = some ob)
    (hheld : ob.clones > 0 ∨ ob.state = .inUse ∨ ob.state = .disallowed) :
    s.isAlive ob.node = true :=
  (aliveSet_iff s _).2 (.root ((mem_roots s _).2 (.inr (.inr (.inr (.inl
    ⟨ob, by rw [Array.mem_toList_iff, Array.mem_iff_getElem?]; exact ⟨o, h⟩, hheld, rfl⟩))))))

example : exOwn.isAlive 1 = true := observed_is_alive exOwn 0 _ rfl (.inr (.inl rfl))

/-- A node queued in the recompute heap is allocated. -/
theorem queued_is_alive (s : State) (h : Nat) (q : List Nat) (n : Nat)
    (hq : s.rch.queues[h]? = some q) (hn : n ∈ q) : s.isAlive n = true :=
  (aliveSet_iff s n).2 (.root ((mem_roots s n).2 (.inr (.inr (.inr (.inr
    ⟨q, by rw [Array.mem_toList_iff, Array.mem_iff_getElem?]; exact ⟨h, hq⟩, hn⟩))))))

example : exOwn.isAlive 3 = true := queued_is_alive exOwn 1 [3] 3 rfl (by decide)

/-- Every strong reference of an allocated node is allocated: inputs of a map/fold/map_ref, the lhs
and current rhs of a bind (held by both bind nodes), the change detector of a bind, the children of
an expert node's edges — whether or not the node is valid or necessary. -/
theorem children_of_alive_alive (s : State) (n c : Nat) (hn : s.isAlive n = true)
    (hc : c ∈ s.refsOf n) : s.isAlive c = true :=
  (aliveSet_iff s c).2 (.step ((aliveSet_iff s n).1 hn) hc)

example : exOwn.isAlive 0 = true := children_of_alive_alive exOwn 1 0 (by decide) (by decide)

/-! ## 7. dropping a `Var` handle: closed form, never a panic -/

/-- Closed form of dropping one public handle of an existing variable `v` (`impl Drop for Var`; the API
action `.dropVar`, and the effect `.dropVar` of a node function or handler, both run this).  It returns
whether a handle was left to drop.  If none was left the state is unchanged.  Otherwise the handle count
of `v` goes down by one, `v` is appended to `deadVars` exactly when this was the last handle
(`vc.handles = 1`), and NOTHING else changes: no node, no heap entry, no observer, no status, no
counter, no event. -/
theorem drop_var_handle_closed_form (s : State) (v : Nat) (vc : VarCell) (h : s.vars[v]? = some vc) :
    (dropVarHandle v).run.run s =
      (.ok (decide (vc.handles ≠ 0)),
       if vc.handles = 0 then s
       else { s with
         vars := s.vars.modify v fun x => { x with handles := x.handles - 1 },
         deadVars := if vc.handles = 1 then s.deadVars ++ [v] else s.deadVars }) :=
  dropVarHandle_run s v vc h

/-- The same by fields: the cell of `v` has one handle less (`0 - 1 = 0`: unchanged when none was left),
every other cell is untouched, `deadVars` is extended iff this was the last handle, and resetting
`vars` and `deadVars` gives back the state before: no other field changed. -/
theorem drop_var_handle_fields (s : State) (v : Nat) (vc : VarCell) (h : s.vars[v]? = some vc) :
    ∃ s', (dropVarHandle v).run.run s = (.ok (decide (vc.handles ≠ 0)), s') ∧
      s'.vars[v]? = some { vc with handles := vc.handles - 1 } ∧
      (∀ w, w ≠ v → s'.vars[w]? = s.vars[w]?) ∧
      s'.vars.size = s.vars.size ∧
      s'.deadVars = (if vc.handles = 1 then s.deadVars ++ [v] else s.deadVars) ∧
      { s' with vars := s.vars, deadVars := s.deadVars } = s := by
  refine ⟨_, dropVarHandle_run s v vc h, ?_⟩
  by_cases h0 : vc.handles = 0
  · have h1 : ¬ vc.handles = 1 := by omega
    rw [if_pos h0, if_neg h1]
    refine ⟨?_, fun _ _ => rfl, rfl, rfl, rfl⟩
    rw [h]; cases vc; simp_all
  · rw [if_neg h0]
    exact ⟨varDropped_getElem? s v vc h, fun w hw => varDropped_getElem?_ne s v w vc hw,
      by simp [varDropped], rfl, rfl⟩

example : (dropVarHandle 0).run.run exOwn =
    (.ok true, { exOwn with vars := #[{ value := .int 5, setAt := 0, node := 0, handles := 0 }],
                            deadVars := [0] }) := by
  rw [drop_var_handle_closed_form exOwn 0 _ rfl]; rfl

/-- Dropping a `Var` handle never panics when the variable exists — in ANY state: whatever the status
(not stabilising, stabilising, running on-update handlers), whether or not the variable was written,
is still linked, or has any handle left.  This is the clause "handles may be dropped in any order,
before or after stabilise" of the ownership contract, for `Var` handles; the status is left as it was. -/
theorem drop_var_handle_never_panics (s : State) (v : Nat) (vc : VarCell) (h : s.vars[v]? = some vc) :
    ∃ b s', (dropVarHandle v).run.run s = (.ok b, s') ∧ s'.status = s.status := by
  refine ⟨_, _, dropVarHandle_run s v vc h, ?_⟩
  split <;> rfl

/-- in particular in the middle of a stabilisation -/
example : ∃ b s', (dropVarHandle 0).run.run { exOwn with status := .stabilising } = (.ok b, s') ∧
    s'.status = .stabilising :=
  drop_var_handle_never_panics _ 0 _ rfl

/-- As an effect of user code (`Effect.dropVar`, run by a node function or an on-update handler during
stabilisation): the same step, never a panic when the variable exists. -/
theorem drop_var_effect_closed_form (env : Env) (s : State) (v : Nat) (vc : VarCell)
    (h : s.vars[v]? = some vc) :
    (runEffectBasic env (.dropVar v)).run.run s =
      (.ok (), ((dropVarHandle v).run.run s).2) := by
  rw [dropVar_effect_run env s v vc h, dropVarHandle_run s v vc h]

/-- As an API action: `"noop"` when no handle was left, `"ok"` otherwise; the same state change. -/
theorem drop_var_action_closed_form (env : Env) (tokens : Array Nat) (s : State) (v : Nat)
    (vc : VarCell) (h : s.vars[v]? = some vc) :
    (stepAction env (.dropVar v) tokens).run.run s =
      (.ok (if vc.handles = 0 then "noop" else "ok", tokens), ((dropVarHandle v).run.run s).2) := by
  rw [dropVar_action_run env tokens s v vc h, dropVarHandle_run s v vc h]

/-- The only failure: the variable does not exist (a `model:` panic — the history names a variable that
was never created; the state is unchanged). -/
theorem drop_var_handle_no_such_var (s : State) (v : Nat) (h : s.vars[v]? = none) :
    (dropVarHandle v).run.run s = (.error (.site "model:no-such-var"), s) :=
  dropVarHandle_run_none s v h

/-- After its last handle was dropped, writes through the variable by user code are no-ops: a closure
can only write through a handle it still owns. -/
theorem write_effect_after_last_drop_is_noop (env : Env) (s : State) (v : Nat) (vc : VarCell) (x : Val)
    (h : s.vars[v]? = some vc) (h0 : vc.handles = 0) :
    (runEffectBasic env (.setVar v x)).run.run s = (.ok (), s) := by
  simp only [runEffectBasic, withVarHandle, Proofs.run_bind, Proofs.run_get, h, h0,
    beq_self_eq_true, if_true, Proofs.run_pure]

end IncrVerif.Props.C12
