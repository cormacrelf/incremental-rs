import IncrVerif.Proofs.PerKeyH109
import IncrVerif.Proofs.PerKeyH110
import IncrVerif.Proofs.PerKeyH111
import IncrVerif.Proofs.PerKeyH112
import IncrVerif.Proofs.PerKeyH113
import IncrVerif.Proofs.PerKeyH114
/-!
# C16 for whole histories — per-key operators (`incr_mapi_` …): the output is the per-key map of the current entries

C16 (informal): "for `incr_mapi_`, `incr_filter_mapi_` and their `_cutoff` variants on BTreeMap and OrdMap, where the user
function turns each key's `Incr<V>` into an `Incr` that may also depend on other variables, the observed output after every
stabilise equals the map obtained by applying the user's per-key computation to the current entries; for any sequence of
key insertions, removals and value changes combined with changes of the other variables, and across unobserve/re-observe".
`Props/C16.lean` has LOCAL facts (one call each).  Here: WHOLE HISTORIES, for the fragment below.

MODEL.  `create (perKey cut fam x)` (`elabInstr`, `Engine/Recompute.lean`) builds four nodes: a conversion `map fnIdent [x]`,
the RESULT (an expert node, record `pk = some (op, none)`), the CHANGE DETECTOR `map (fnPerKey + op) [conv]` and the output
conversion `map fnIdent [result]`.  A run of the change detector (`perKeyDriver`, inside the drain) diffs the map it LAST RAN
ON (`prevMap`) against the new input: for a NEW key it creates a per-key input node (expert node, `pk = some (op, some key)`,
value = the key's current value in `prevMap`), elaborates the user's template `env.perKey fam` over it (`%0`; `lhsconst` = the
key) and adds a dependency with a callback of the result on the template's return node; for a CHANGED value it makes the
per-key input node stale (`expert_make_stale`, skipped when nobody holds the node: the repaired D9); for a REMOVED key it
removes the dependency and invalidates the per-key node.  The result's value is the map assembled from the callback slots.

FRAGMENT (`PerKeyH.PActionOK env s a`, `PerKeyH.RunOKP env acts s tk`; decidable sufficient check `runOKPB`).
Static programs (`create` of `const`, `var` — map literals sorted —, pure `map`, `fold` with id `< xBase`, `zip`, over top-level
operands; `observe (.outer k)`, `cloneObs`, `dropObs`, `disallow`; `set`/`replace`, and `modify`/`update`/`replaceWith` on
variables that hold no map; `get`, `stabilise`, `isStable`, `stats`) PLUS `create (perKey cut fam x)` where `cut` is absent or
the default cutoff (`cut ∈ {none, some .eq}`: `incr_mapi_` and `incr_mapi_cutoff` with `Cutoff::PartialEq`), `x` names a
VARIABLE holding a sorted map and the family `env.perKey fam` is ANY template of PURE STATIC nodes (`PerKeyH.TemplOK`: `const`,
`lhsconst`, pure `map`, non-empty `fold`) over the per-key input node `%0`, earlier locals `%j` and top-level nodes `n<k>` that
exist when the operator is created: ALL the generator's families P0 `lhsconst ; map f0 %0 %1 ; ret %2`, P3
`lhsconst ; map f2 %0 n2 ; ret %2` (map2 with an outer variable), P4 (chain), and the families that IGNORE their input: P1
`map f1 n2 ; ret %1` (the per-key input node is never necessary, never computed) and P2 `ret n2` (no instance node at all: the
result depends, once per key, on ONE shared pre-existing node — duplicate dependencies on one child), and — no key removal — a write to
a variable that holds a map stores a sorted map WITH AT LEAST THE SAME KEYS (`PerKeyH.PWriteOK`: key insertions and value changes in any number and order, NO KEY
REMOVAL).  Everything else is allowed: several operators (also over the same variable, also with templates that use the OUTPUT
of an older operator as an outer node), maps and observers on top of outputs, changing the outer variables, unobserving and
re-observing the output (the change detector then diffs against the map it last ran on, several edits back), both `cfg.debug`
settings.  The environment: `PerKeyH.EnvP env` (the built-in identity function is the identity; `toEnv_envP`).

METHOD (`Proofs/PerKeyH*.lean`).  Three views of an actual state `s`:
(1) the STRUCTURAL TWIN `twL l s`: the change detector re-tagged `map fnIdent`, every record without its `pk` mark — an ordinary
state of fragment X1 of `Props/C14History.lean` under `twEnv env` (all closures are sums), on which the engine behaves
identically up to the log (`TSim`, by the simulation calculus of `ExpertH23–31`).  Every STRUCTURE- and SLOT-level theorem
of `ExpertH`/`DriverH` applies to it: `DriverH.addSpec`, `staleSpec` (expert API calls from `Mid` to `Mid`: link cascade,
`adjust_heights`, queueing), `SlotInv` (the callback discipline).
(2) the VALUE-FAITHFUL VIRTUAL STATIC STATE `V s` under `penv env`: a per-key input node is `fold xConst (.int prevMap[key]) [lc]`
(a constant), the result is `fold xAsm (asmInit tags) children` (`tags` = the key of each dependency in edge order; `asm_fold`:
the fold assembles exactly `AMap.ofList` of the tagged values), the change detector is `map fLc [conv]` (constant `()`).  The
engine on `s` is simulated on `V s` for everything but the runs of change detectors and expert nodes (`VSim`), so the static
theory (`QR.QInv`, `BindH.DInv`) applies to `V s` directly.
(3) `Kin`: `virt (twL l s)` and `V s` differ only in node kinds with the same children: kind-agnostic facts transfer.
A RUN OF A CHANGE DETECTOR is, on `V`, a REWIRING-WITH-CREATION step `PerKeyH.StepP` (pure contract; `stepP_inv'`: it keeps the
drain invariant `BindH.DInv` with a changing graph of `Props/C03Order.lean`) followed by a static step: the loop of
`perKeyDriver` is threaded through `Mid` of the twin (creation of the per-key node and the template instance:
`mid_mkNode`, `expertBlock_mid`, `elabTemplateBase_mid`; `expertAddDependency` on the NECESSARY result: `addSpec`, acyclicity
from the potential `Pot`; `expertMakeStale`: `staleSpec`; a per-key input node that is USED by its instance is necessary, hence ALIVE: `nec_alive`;
one that is not used has never been computed — virtual stamp `-1` —, and whether or not the run calls `expertMakeStale` on it
(`isAlive` is unknown) it is stale with virtual stamp `-1` afterwards), the bookkeeping `PKOK` (`prevNodes` ↔ dependencies of the
result ↔ per-key nodes ↔ template instances `Inst`; OWNERSHIP: private nodes are referenced only by private nodes or the
result, have no observer and no name; `EntryOK.input`: a per-key input node is reached from its instance's return node OR has
never been computed) is re-established at the end.  A RUN OF A PER-KEY INPUT NODE re-establishes the first alternative by the
OWNERSHIP WALK `priv_nec_below`: the node is current, hence necessary; its parents are private nodes of its OWN instance
(instances are disjoint ranges of consecutive nodes) or the result; heights increase along parent entries, so the walk ends
at the result, through the dependency of its own entry.

INVARIANTS.  Between API actions `PerKeyH.PQ env rk s`: `PFrag` (kinds, all nodes valid), `QR.QInv (penv env) rk (V s)` (the
quiescent invariant of the static fragment for the virtual state: edge symmetry exactly for necessary nodes, heights, the heap
holds exactly the necessary stale nodes, EVERY non-stale node stores its defining function of its children's values — for a
per-key node: `prevMap[key]`; for the result: the assembled map of its dependencies' values), `AhhEmpty`, `PKOK` (bookkeeping,
incl. the SEMANTIC LINK `OpOK.input`: a change detector that is not stale last ran on the current input map), `SlotInv`,
`NoRem` (no key removal: key sets grow along `prevMap ⊆ conversion node ⊆ var node ⊆ cell`).  Inside the drain: `PerKeyH.PD env s x` =
`BindH.DInv (penv env) (V s) x` + `AuxP`.

PROVED (for the model; partial correctness: each statement assumes that the call returns `(.ok _, s')`).
* `lc_run_keeps`, `expert_run_keeps`, `static_run_keeps`, `pop_keeps`: every step of the drain keeps `PD` (a run of a change
  detector; of a per-key input node / of the result: its value IS the virtual fold's value, by `SlotInv` + `penv_fold_result`;
  of any static node), with the frame `PStep`.
* `drain_keeps`: `drainHeap` keeps `PD`, ends with an empty heap, NO NODE RUNS TWICE.
* `stabilise_keeps` (`StabilisedP`): from `PQ` a successful `stabilise` ends in `PQ` (some rank), every necessary node is not
  stale, and `OutputOK`: the output node of every operator whose output is necessary stores the map
  `specMap … mx` = `{k ↦ F_fam(k, v) | (k, v) ∈ mx}` for the CURRENT value `mx` of its input variable, where `F_fam(k, v)` =
  `evalTempl`: from-scratch evaluation of the template with `%0 = v`, `lhsconst = k`, outer nodes at their current values.
* `action_keeps`: every action of the fragment but `stabilise` keeps `PQ` (`create (perKey …)`: the rank is re-chosen — the result depends on
  the NEWER change detector).
* `history_inv`, `history_every_stabilise`, **`c16_history`**: at every `stabilise` of a history of the fragment that runs from
  the initial state, every in-use observer of an operator's output READS `.map mo` with `specMap … mx = some mo`.
* `specMap_map`: `specMap` is the entry-wise map when `F_fam` is defined on all entries.
* `runOKP_of_check'`: the decidable check implies `RunOKP`.
* Non-vacuity (kernel evaluation): `ckHist fam` (20 actions over `{1:3,5:0}`: insert key 6, change a value, change the outer
  variable, unobserve, two edits incl. a new key, re-observe, a last edit with two changes) IS a history of the fragment for
  ALL FIVE families P0–P4, and so is its variant `ckHistCut 3` with the explicit default cutoff (`example_fragment`); they run,
  and the theorem applies (`example_theorem`); the last read of P3 is `{1:3,5:6,6:0,8:6,9:5}` = `(v + 5) mod 7`
  (`example_read`), of P1 `{k ↦ 6}` = `(1 + n2) mod 7`, of P2 `{k ↦ 5}` = `n2` (`example_read_ignoring`); the check REJECTS a key
  removal (`example_rejected`).
  `exP3_*`, `exP0_*`, `exP4_*`, `exP1_*`, `exP2_*` (`Proofs/PerKeyH…`, imported here): the MODEL's reads on a 26-action
  history over all five families INCLUDING KEY REMOVALS (insert, change, remove, outer variable, unobserve + two edits +
  re-observe) equal `F_fam` of the entries (explicit functions `F3 o k v = (v + o) % 7`, …); same traces as the real
  implementation.

VALIDATION.  An executable checker of `BindH.DInv (penv env) (V s) x` and of `PFrag`/`PKOK`/`AuxP`/`SlotInv`/`NoRem` was run at
every drain state of random histories of the generator profile `perkey`; it found the contract bug
`Pot.le` (repaired) and confirms the invariants on histories without key removal; after a key REMOVAL exactly the clause "a valid node has
an invalid child" of `BGraph` fails for `V` as defined (the template nodes of the removed key stay valid): mapping an
invalidated per-key node to a valid never-computed `const` node repairs it on all checked states.

ASSUMED / NOT PROVED.  Partial correctness throughout (no "never panics" theorem).  NOT covered: KEY REMOVAL (every
simulation calculus used here assumes all nodes valid, `ExpertH.Fr`), the `_cutoff` variants with a NON-default cutoff
(`cut ∉ {none, some .eq}`; `QR.AllStatic` demands the default cutoff), `filter` (the model has no filtering variant), family P5 (binds in
the template), C17 for per-key nodes (unchanged keys are not recomputed: only the local facts of `Props/C16.lean`), observers
on internal nodes of an operator (`observe #…`).  No finding: model and real implementation agree on all checked histories.
-/
namespace IncrVerif.Props.C16History
open IncrVerif.Engine IncrVerif.Driver IncrVerif.Proofs IncrVerif.Proofs.Step IncrVerif.Proofs.Sched
open IncrVerif.Proofs.ExpertH IncrVerif.Proofs.PerKeyH
open IncrVerif.Props.C14History (readAfter ranOk)

/-! ## the fragment -/

/-- the harness' environments satisfy the assumption on the built-in identity -/
theorem toEnv_envP' (d : Defs) : EnvP d.toEnv := toEnv_envP d

/-- a decidable sufficient check of `RunOKP` for the harness' environments -/
theorem runOKP_of_check' {d : Defs} {acts : List Action} {s : State} {tk : Array Nat}
    (h : runOKPB d.toEnv (effOfDefs d) acts s tk = true) : RunOKP d.toEnv acts s tk := runOKP_of_check h

/-! ## the steps of the drain -/

/-- **a run of a per-key change detector keeps the drain invariant** (node creation, `expert_add_dependency` on the necessary
result with its link cascade and `adjust_heights`, `expert_make_stale`, inside the drain) -/
theorem lc_run_keeps (env : Env) : LcStepSpec env := lcStepSpec env

/-- **a run of a per-key input node or of an operator's result keeps the drain invariant** -/
theorem expert_run_keeps (env : Env) : XStepSpec env := xStepSpec env

/-- a run of any other node -/
theorem static_run_keeps {env : Env} (hE : EnvP env) : StaticStepSpec env := staticStepSpec hE

theorem pop_keeps (env : Env) : PopSpecP env := popSpecP env

/-- **the drain**: the invariant is kept, the heap is empty at the end, no node runs twice -/
theorem drain_keeps {env : Env} (hE : EnvP env) : DrainSpecP env := drainSpecP hE

/-- the pure contract: a rewiring-with-creation step keeps the drain invariant with a changing graph -/
theorem rewiring_with_creation_keeps {env : Env} {X : Nat → Prop} {n : Nat} {s s' : State}
    (I : BindH.DInv env s (some n)) (R : StepP env X n s s') (N : NewStale s s') : BindH.DInv env s' (some n) :=
  stepP_inv' I R N

/-! ## `stabilise`, actions, histories -/

/-- **`stabilise`** -/
theorem stabilise_keeps {env : Env} (hE : EnvP env) : StabSpecP env := stabSpecPE hE

/-- every action of the fragment but `stabilise` keeps the invariant between actions -/
theorem action_keeps (env : Env) : ActionSpecP env := actionSpecP env

theorem history_inv {env : Env} (hE : EnvP env) {N : Nat} {d : Bool} {acts : List Action} {s : State} {tk : Array Nat}
    (ha : RunOKP env acts (State.init N d) #[])
    (h : QR.runActions env acts (State.init N d) #[] = .ok (s, tk)) : ∃ rk, PQ env rk s :=
  history_inv_p hE ha h

theorem history_every_stabilise {env : Env} (hE : EnvP env) {N : Nat} {d : Bool} {as bs : List Action} {s : State}
    {tk : Array Nat} (ha : RunOKP env (as ++ Action.stabilise :: bs) (State.init N d) #[])
    (h : QR.runActions env (as ++ Action.stabilise :: bs) (State.init N d) #[] = .ok (s, tk)) :
    ∃ s1 tk1 s2 rk1, QR.runActions env as (State.init N d) #[] = .ok (s1, tk1) ∧ PQ env rk1 s1 ∧
      (stabilise env fuelDefault).run.run s1 = (.ok (), s2) ∧ StabilisedP env fuelDefault s1 s2 ∧
      QR.runActions env bs s2 tk1 = .ok (s, tk) :=
  history_every_stabilise_p hE ha h

/-- **C16 for whole histories (all templates of pure static nodes, `cut ∈ {none, eq}`, no key removal).**  At every `stabilise` of a history of the fragment that runs from the initial
state: in the state `s2` reached by that `stabilise`, every in-use observer `o` of the output node `pr.result + 2` of an
operator `op` reads a map `mo`, and `mo` is the specified map `{k ↦ F_fam(k, v)}` of the CURRENT value `mx` of the operator's
input variable (`vc.value`, the variable's cell) with the outer nodes `n<k>` at their current values. -/
theorem c16_history {env : Env} (hE : EnvP env) {N : Nat} {d : Bool} {as bs : List Action} {s : State}
    {tk : Array Nat} (ha : RunOKP env (as ++ Action.stabilise :: bs) (State.init N d) #[])
    (h : QR.runActions env (as ++ Action.stabilise :: bs) (State.init N d) #[] = .ok (s, tk)) :
    ∃ s1 tk1 s2, QR.runActions env as (State.init N d) #[] = .ok (s1, tk1) ∧
      (stabilise env fuelDefault).run.run s1 = (.ok (), s2) ∧ QR.runActions env bs s2 tk1 = .ok (s, tk) ∧
      ∀ (op : Nat) (pr : PerKeyRec) (o : Nat) (ob : ObsRec), s2.perkeys[op]? = some pr → s2.observers[o]? = some ob →
        ob.state = .inUse → ob.node = pr.result + 2 →
        ∃ x c vc mx mo, (s2.nodeD (pr.result - 1)).kind = .map fnIdent [x] ∧ (s2.nodeD x).kind = .var c ∧
          s2.vars[c]? = some vc ∧ vc.value = .map mx ∧
          s2.tryGetValue env o = .ok (.map mo) ∧
          specMap env (fun k => (s2.top[k]?).bind fun n => s2.value env n) (env.perKey pr.fam) mx = some mo := by
  obtain ⟨s1, tk1, s2, rk1, h1, -, h2, R, h3⟩ := history_every_stabilise hE ha h
  obtain ⟨rk2, Q2⟩ := R.inv
  exact ⟨s1, tk1, s2, h1, h2, h3, fun op pr o ob hpr ho hst hnode =>
    output_reads_of_pq hE Q2 R.settled op pr o ob hpr ho hst hnode⟩

/-- `specMap` is the entry-wise map when the per-key function is defined on every entry -/
theorem specMap_map {env : Env} {ov : Nat → Option Val} {t : Template} {F : Int → Int → Val} :
    ∀ (m : List (Int × Int)), (∀ kv, kv ∈ m → evalTempl env ov t kv.1 kv.2 = some (F kv.1 kv.2)) →
      specMap env ov t m = some (m.map fun kv => (kv.1, (F kv.1 kv.2).toInt))
  | [], _ => rfl
  | kv :: m, h => by
    have ih := specMap_map m (fun x hx => h x (List.mem_cons_of_mem _ hx))
    unfold specMap at ih ⊢
    rw [List.mapM_cons, h kv (List.mem_cons_self ..)]
    simp only [Option.map_some, Option.bind_eq_bind, Option.bind_some, List.map_cons]
    rw [ih]
    rfl

/-- no node runs twice in the drain of a `stabilise` -/
theorem stabilise_no_node_twice {env : Env} {fuel : Nat} {s s' : State} (R : StabilisedP env fuel s s') :
    ∃ t2, (drainTrace env fuel t2).Nodup := by
  obtain ⟨t1, t2, t3, -, -, -, -, -, -, hn, -⟩ := R.drain
  exact ⟨t2, hn⟩

/-! ## non-vacuity -/

/-- the example history (insert a key, change a value, change the outer variable, unobserve, edit twice, re-observe, edit)
is a history of the fragment for ALL FIVE families P0, P3, P4, P1 (`map f1 n2 ; ret %1`), P2 (`ret n2`) — the last two ignore
their input —, and so is its variant with the explicit default cutoff `perKey (some .eq) P3 n0` -/
theorem example_fragment : RunOKP ckEnv (ckHist 0) (State.init 128 true) #[] ∧
    RunOKP ckEnv (ckHist 3) (State.init 128 true) #[] ∧ RunOKP ckEnv (ckHist 4) (State.init 128 true) #[] ∧
    RunOKP ckEnv (ckHist 1) (State.init 128 true) #[] ∧ RunOKP ckEnv (ckHist 2) (State.init 128 true) #[] ∧
    RunOKP ckEnv (ckHistCut 3) (State.init 128 true) #[] :=
  ⟨ck_runOKP.1, ck_runOKP.2.1, ck_runOKP.2.2, ck_runOKP12.1, ck_runOKP12.2.1, ck_runOKP12.2.2⟩

/-- it runs, and its last read (family P3, observer `o1`) is `{k ↦ (v + 5) mod 7}` of `{1:5,5:1,6:2,8:1,9:0}` -/
theorem example_read : ranOk ckEnv (ckHist 3) = true ∧
    readAfter ckEnv (ckHist 3) 1 = some (.map [(1, 3), (5, 6), (6, 0), (8, 6), (9, 5)]) := ⟨ck_run.2.1, ck_run.2.2.2⟩

/-- the histories of the families that ignore their input run, and their last reads (observer `o1`) are `{k ↦ (1 + n2) mod 7}`
(P1) and `{k ↦ n2}` (P2) for `n2 = 5`; the cutoff variant reads what the plain P3 history reads -/
theorem example_read_ignoring : ranOk ckEnv (ckHist 1) = true ∧ ranOk ckEnv (ckHist 2) = true ∧
    ranOk ckEnv (ckHistCut 3) = true ∧
    readAfter ckEnv (ckHist 1) 1 = some (.map [(1, 6), (5, 6), (6, 6), (8, 6), (9, 6)]) ∧
    readAfter ckEnv (ckHist 2) 1 = some (.map [(1, 5), (5, 5), (6, 5), (8, 5), (9, 5)]) ∧
    readAfter ckEnv (ckHistCut 3) 1 = some (.map [(1, 3), (5, 6), (6, 0), (8, 6), (9, 5)]) := ck_run12

/-- the check rejects what is outside the fragment: key removal -/
theorem example_rejected : runOKPB ckEnv (effOfDefs ckDefs) (ckHistRm 3) (State.init 128 true) #[] = false := ck_reject

/-- the invariant holds in every state the example history reaches (the theorem applies) -/
theorem example_theorem {s : State} {tk : Array Nat}
    (h : QR.runActions ckEnv (ckHist 3) (State.init 128 true) #[] = .ok (s, tk)) : ∃ rk, PQ ckEnv rk s :=
  history_inv (toEnv_envP ckDefs) ck_runOKP.2.1 h

/-- the same for a family that ignores its input (P2 `ret n2`: one shared node for all keys) -/
theorem example_theorem_ignoring {s : State} {tk : Array Nat}
    (h : QR.runActions ckEnv (ckHist 2) (State.init 128 true) #[] = .ok (s, tk)) : ∃ rk, PQ ckEnv rk s :=
  history_inv (toEnv_envP ckDefs) ck_runOKP12.2.1 h

end IncrVerif.Props.C16History
