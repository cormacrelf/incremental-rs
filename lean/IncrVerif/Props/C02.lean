import IncrVerif.Proofs.StepStamp
/-!
# C02 — glitch-freedom, local part (LOCAL STEP theorems about `recomputeOne`)

PROVED HERE (for every state, one call of `recomputeOne env fuel n`):
* `step_begin_*`: the first thing the call does is bump `counters.recomputed` and stamp
  `recomputedAt n := s.stabNum` (`Step.started n s`); everything else — reading the inputs, running the
  user function, the cutoff, the notifications — runs from that state.  `step_invalid_node`,
  `step_missing_node`: this happens even when the call then panics at once.
* `step_stamp_kept`: if the call returns, `recomputedAt n = s.stabNum` still holds, the `recomputed`
  counter went up by exactly one, the round number did not move (kinds of `Step.Computes`).
* `step_stamp_all_kinds`: the same for EVERY kind of node (BindLhsChange, MapRef, Expert, per-key and
  incremental-map operator closures included), arbitrary side effects of user closures, with or
  without an injected fault, and EVERY outcome of the call (return or panic): nothing the engine does
  within a step lowers a stamp of the current round (`Proofs/StepStamp.lean`).
* `step_map_invokes_once`: a `map` node's function is invoked exactly once, on the values its inputs
  have at the moment of the call (one `inv` event carrying these values and the result; everything
  logged after it is cutoff/edge-callback noise, which `inv_is_not_noise` shows is never such an
  event).
* `step_not_stale`: after the step the node is not stale, provided no input claims to have changed
  in the future.

NOT PROVED HERE: the global property "within one stabilise every node function runs at most once, on
up-to-date arguments" — it needs the scheduling invariant of `drainHeap`/`recompute` (heights
increase along edges; a node is recomputed only when nothing lower is pending), developed
separately.  `step_stamp_kept`, `step_map_invokes_once`, `step_not_stale` are stated for the kinds of
`Step.Computes` (map with a user function without effects, built-in maps, var, const, fold,
map_with_old with a user-written machine, bind_main with a valid rhs that has a value);
BindLhsChange, MapRef, Expert nodes, the per-key / incremental-map operator closures and the
self-invalidating branch of BindMain are out of scope for those (but not for
`step_stamp_all_kinds`).

ASSUMPTIONS.  `s.panicCountdown = none` (no injected fault armed; `tick` is a no-op).  `0 ≤ s.stabNum`
in `step_not_stale`: `-1` is the "never" timestamp; the round number starts at 0 and only grows.
-/
namespace IncrVerif.Props.C02
open IncrVerif.Engine IncrVerif.Proofs IncrVerif.Proofs.Step

/-! ## 1. the stamp comes first, and is kept -/

/-- `map f args` (user function, no side effects, all args have a value): the call is
"stamp (`started n s`), log the invocation of `f` on the pre-state values, then `maybe_change_value`
with `f`'s result". -/
theorem step_begin_map (env : Env) (fuel n : Nat) (s : State) (nd : Node) (f : Nat)
    (args : List Nat) (vals : List Val)
    (hn : s.nodes[n]? = some nd) (hv : nd.valid = true) (hk : nd.kind = .map f args)
    (hf : f < fnZip) (hargs : args.map (s.value env) = vals.map some)
    (heff : env.fnEff f vals = []) (hp : s.panicCountdown = none) :
    (recomputeOne env fuel n).run.run s =
      (maybeChangeValue env fuel n (env.fn f vals)).run.run
        (logged [.inv s!"f{f}" n vals (env.fn f vals).render] (started n s)) :=
  recomputeOne_map_run env fuel n s nd f args vals hn hv hk hf
    ((valuesOf_eq_some_iff env s args vals).2 hargs) heff hp

example : exS.nodes[1]? = some (exS.nodeD 1) ∧ (exS.nodeD 1).valid = true ∧
    (exS.nodeD 1).kind = .map 0 [0] ∧ [0].map (exS.value exEnv) = [Val.int 1].map some ∧
    exEnv.fnEff 0 [.int 1] = [] ∧ exS.panicCountdown = none := ⟨rfl, rfl, rfl, rfl, rfl, rfl⟩

/-- what `started n s` is, field by field: node `n` has `recomputedAt = s.stabNum` (its other fields
and all other nodes are as in `s`), `counters.recomputed` is one more, and nothing else changed but
the debug-only `currentlyRunning` marker. -/
theorem started_facts (n : Nat) (s : State) (nd : Node) (hn : s.nodes[n]? = some nd) :
    (started n s).nodes[n]? = some { nd with recomputedAt := s.stabNum } ∧
    (∀ m, m ≠ n → (started n s).nodes[m]? = s.nodes[m]?) ∧
    (started n s).counters = { s.counters with recomputed := s.counters.recomputed + 1 } ∧
    (started n s).stabNum = s.stabNum ∧ (started n s).log = s.log ∧
    (started n s).vars = s.vars ∧ (started n s).rch = s.rch := by
  refine ⟨started_getElem? n s nd hn, ?_, rfl, rfl, rfl, rfl, rfl⟩
  intro m hm
  simp [started, Array.getElem?_modify, Ne.symm hm]

example : exS.nodes[1]? = some (exS.nodeD 1) := rfl

/-- `var c`: stamp, then `maybe_change_value` with the cell's value. -/
theorem step_begin_var (env : Env) (fuel n : Nat) (s : State) (nd : Node) (c : Nat) (vc : VarCell)
    (hn : s.nodes[n]? = some nd) (hv : nd.valid = true) (hk : nd.kind = .var c)
    (hc : s.vars[c]? = some vc) :
    (recomputeOne env fuel n).run.run s =
      (maybeChangeValue env fuel n vc.value).run.run (started n s) :=
  recomputeOne_var_run env fuel n s nd c vc hn hv hk hc

example : exS.nodes[0]? = some (exS.nodeD 0) ∧ (exS.nodeD 0).valid = true ∧
    (exS.nodeD 0).kind = .var 0 ∧ exS.vars[0]? = some { value := .int 4, setAt := 1, node := 0 } :=
  ⟨rfl, rfl, rfl, rfl⟩

/-- `const v`: stamp, then `maybe_change_value` with `v`. -/
theorem step_begin_const (env : Env) (fuel n : Nat) (s : State) (nd : Node) (v : Val)
    (hn : s.nodes[n]? = some nd) (hv : nd.valid = true) (hk : nd.kind = .const v) :
    (recomputeOne env fuel n).run.run s = (maybeChangeValue env fuel n v).run.run (started n s) :=
  recomputeOne_const_run env fuel n s nd v hn hv hk

example : exS.nodes[5]? = some (exS.nodeD 5) ∧ (exS.nodeD 5).valid = true ∧
    (exS.nodeD 5).kind = .const (.int 7) := ⟨rfl, rfl, rfl⟩

/-- `fold f init cs`: stamp, log the invocation on the pre-state values, then `maybe_change_value`
with the fold. -/
theorem step_begin_fold (env : Env) (fuel n : Nat) (s : State) (nd : Node) (f : Nat)
    (init : Val) (cs : List Nat) (vals : List Val)
    (hn : s.nodes[n]? = some nd) (hv : nd.valid = true) (hk : nd.kind = .fold f init cs)
    (hargs : cs.map (s.value env) = vals.map some) (hp : s.panicCountdown = none) :
    (recomputeOne env fuel n).run.run s =
      (maybeChangeValue env fuel n (vals.foldl (env.foldStep f) init)).run.run
        (logged [.inv s!"fold{f}" n vals (vals.foldl (env.foldStep f) init).render] (started n s)) :=
  recomputeOne_fold_run env fuel n s nd f init cs vals hn hv hk
    ((valuesOf_eq_some_iff env s cs vals).2 hargs) hp

example : exS.nodes[2]? = some (exS.nodeD 2) ∧ (exS.nodeD 2).valid = true ∧
    (exS.nodeD 2).kind = .fold 0 (.int 10) [0, 0] ∧
    [0, 0].map (exS.value exEnv) = [Val.int 1, Val.int 1].map some := ⟨rfl, rfl, rfl, rfl⟩

/-- `map_with_old g i`, user-written machine (`g < opBase`): stamp, run the machine once on (closure state, old value, input value), log it,
store value and closure state (`setWithOld`), then `maybe_change_value_manual` with the machine's own
"did change" answer. -/
theorem step_begin_mapWithOld (env : Env) (fuel n : Nat) (s : State) (nd : Node) (g i : Nat)
    (x σ' new : Val) (did : Bool)
    (hn : s.nodes[n]? = some nd) (hv : nd.valid = true) (hk : nd.kind = .mapWithOld g i)
    (hg : g < opBase) (hx : s.value env i = some x) (hp : s.panicCountdown = none)
    (hw : env.withOld g nd.oldState nd.value x = (σ', new, did)) :
    (recomputeOne env fuel n).run.run s =
      (maybeChangeValueManual env fuel n none did true).run.run
        (setWithOld n new σ'
          (logged [.inv s!"g{g}" n ((match nd.value with | some o => [o] | none => []) ++ [x])
            s!"{new.render},{did}"] (started n s))) :=
  recomputeOne_mapWithOld_run env fuel n s nd g i x σ' new did hn hv hk hg hx hp hw

example : exS.nodes[4]? = some (exS.nodeD 4) ∧ (exS.nodeD 4).kind = .mapWithOld 0 0 ∧ 0 < opBase ∧
    exS.value exEnv 0 = some (.int 1) ∧
    exEnv.withOld 0 (exS.nodeD 4).oldState (exS.nodeD 4).value (.int 1) = (.int 1, .int 2, true) :=
  ⟨rfl, rfl, by decide, rfl, rfl⟩

/-- `bind_main b lc` with a valid rhs `r0` that has value `v`: stamp, then `maybe_change_value` with
`v`. -/
theorem step_begin_bindMain (env : Env) (fuel n : Nat) (s : State) (nd : Node) (b lc r0 : Nat)
    (br : BindRec) (rn : Node) (v : Val)
    (hn : s.nodes[n]? = some nd) (hv : nd.valid = true) (hk : nd.kind = .bindMain b lc)
    (hb : s.binds[b]? = some br) (hr : br.rhs = some r0) (hrn : s.nodes[r0]? = some rn)
    (hrv : rn.valid = true) (hval : s.value env r0 = some v) :
    (recomputeOne env fuel n).run.run s = (maybeChangeValue env fuel n v).run.run (started n s) :=
  recomputeOne_bindMain_run env fuel n s nd b lc r0 br rn v hn hv hk hb hr hrn hrv hval

example : exS.nodes[6]? = some (exS.nodeD 6) ∧ (exS.nodeD 6).kind = .bindMain 0 0 ∧
    exS.binds[0]? = some { lhs := 0, body := 0, lhsChange := 0, main := 6, rhs := some 5 } ∧
    exS.nodes[5]? = some (exS.nodeD 5) ∧ (exS.nodeD 5).valid = true ∧
    exS.value exEnv 5 = some (.int 7) := ⟨rfl, rfl, rfl, rfl, rfl, rfl⟩

/-- An invalid node: the call panics (`invalid-node`) — but only after the stamp and the counter
bump; the final state is exactly `started n s`. -/
theorem step_invalid_node (env : Env) (fuel n : Nat) (s : State) (nd : Node)
    (hn : s.nodes[n]? = some nd) (hv : nd.valid = false) :
    (recomputeOne env fuel n).run.run s =
      (.error (.site "node:recompute_one:invalid-node"), started n s) :=
  recomputeOne_invalid_run env fuel n s nd hn hv

/-- `exS` with node 1 invalidated -/
def exSinvalid : State := { exS with nodes := exS.nodes.modify 1 fun x => { x with valid := false } }
example : exSinvalid.nodes[1]? = some (exSinvalid.nodeD 1) ∧ (exSinvalid.nodeD 1).valid = false :=
  ⟨rfl, rfl⟩

/-- A node that does not exist: the call panics (model-only panic site); the counter was bumped. -/
theorem step_missing_node (env : Env) (fuel n : Nat) (s : State) (hn : s.nodes[n]? = none) :
    (recomputeOne env fuel n).run.run s =
      (.error (.site "model:no-such-node"), started n s) :=
  recomputeOne_missing_run env fuel n s hn

example : exS.nodes[9]? = none := rfl

/-- Nothing in the step lowers the stamp: if the call returns (kinds of `Step.Computes`), then
`recomputedAt n = s.stabNum` in the final state, the `recomputed` counter went up by exactly one, the
round number did not move, and the node is still valid. -/
theorem step_stamp_kept (env : Env) (fuel n : Nat) (s s' : State) (nd : Node) (v σ : Val)
    (evs : List Event) (r : Option Nat)
    (hn : s.nodes[n]? = some nd) (hv : nd.valid = true) (hp : s.panicCountdown = none)
    (hc : Computes env s n nd v σ evs)
    (h : (recomputeOne env fuel n).run.run s = (.ok r, s')) :
    (s'.nodeD n).recomputedAt = s.stabNum ∧
    s'.counters.recomputed = s.counters.recomputed + 1 ∧
    s'.stabNum = s.stabNum ∧ (s'.nodeD n).valid = true := by
  have post := recomputeOne_post env fuel n s s' nd v σ evs r hn hv hp hc h
  refine ⟨post.recomputedAt, post.recomputed, post.frame.stabNum, ?_⟩
  rw [post.frame.valid n, nodeD_of_some hn]; exact hv

example : Computes exEnv exS 1 (exS.nodeD 1) (exEnv.fn 0 [.int 1]) (exS.nodeD 1).oldState
    [.inv s!"f{0}" 1 [.int 1] (exEnv.fn 0 [.int 1]).render] :=
  Computes.map 0 [0] [.int 1] rfl (by decide) rfl rfl
example : ∃ r s', (recomputeOne exEnv 5 1).run.run exS = (.ok r, s') :=
  (returned_iff _).1 (by decide +kernel)

/-- The stamp, for EVERY kind of node and EVERY outcome.  Whatever node `n` is (any kind, valid or
not), whatever the user closures run by the step do (bind bodies creating nodes, expert-node
callbacks adding and removing dependencies, var writes, invalidation cascades), whether or not an
injected fault is armed, and whether the call returns or panics (`r` is any result): in the final
state `recomputedAt n` is the current round, the round number is unchanged, the `recomputed` counter
went up by exactly one, and no node was removed.  (Invalidation also stamps `recomputedAt` with the
current round, so no validity proviso is needed.) -/
theorem step_stamp_all_kinds (env : Env) (fuel n : Nat) (s s' : State) (nd : Node)
    (r : Except Panic (Option Nat)) (hn : s.nodes[n]? = some nd)
    (h : (recomputeOne env fuel n).run.run s = (r, s')) :
    (s'.nodeD n).recomputedAt = s.stabNum ∧ s'.stabNum = s.stabNum ∧
      s'.counters.recomputed = s.counters.recomputed + 1 ∧ s.nodes.size ≤ s'.nodes.size :=
  recomputeOne_stamp env fuel n s s' nd r hn h

example : exS.nodes[3]? = some (exS.nodeD 3) ∧ (exS.nodeD 3).kind = .mapRef 0 0 ∧
    ∃ r s', (recomputeOne exEnv 5 3).run.run exS = (r, s') := ⟨rfl, rfl, _, _, rfl⟩

/-! ## 2. the function is invoked once, on the values of that moment -/

/-- `map f args` (user function, no side effects): the log of the final state is the log of the
initial state, then exactly one event `inv "f<f>" n vals result` — `vals` being the values of the
arguments IN THE PRE-STATE and `result = f vals` — then a tail consisting only of notification noise
(`Step.Noise`: `cut` events of cutoff checks, `inv "cb"` events of expert edge callbacks). -/
theorem step_map_invokes_once (env : Env) (fuel n : Nat) (s s' : State) (nd : Node) (f : Nat)
    (args : List Nat) (vals : List Val) (r : Option Nat)
    (hn : s.nodes[n]? = some nd) (hv : nd.valid = true) (hk : nd.kind = .map f args)
    (hf : f < fnZip) (hargs : args.map (s.value env) = vals.map some)
    (heff : env.fnEff f vals = []) (hp : s.panicCountdown = none)
    (h : (recomputeOne env fuel n).run.run s = (.ok r, s')) :
    ∃ tail, s'.log = tail ++ [Event.inv s!"f{f}" n vals (env.fn f vals).render] ++ s.log ∧
      ∀ e, e ∈ tail → Noise e :=
  (recomputeOne_map_post env fuel n s s' nd f args vals r hn hv hk hf
    ((valuesOf_eq_some_iff env s args vals).2 hargs) heff hp h).log

example : ((recomputeOne exEnv 5 1).run.run exS).2.log.length = 2 := by decide +kernel

/-- The invocation event of a map node's function is never itself a noise event (so "exactly one"
above is meaningful: the tail contains no second invocation of `f`). -/
theorem inv_is_not_noise (f n : Nat) (vals : List Val) (res : String) :
    ¬ Noise (.inv s!"f{f}" n vals res) := by
  intro h
  have h' : s!"f{f}" = "cb" := h
  have := congrArg String.toList h'
  simp at this
  have h2 : (toString "f").toList = ['f'] := by decide
  rw [h2] at this
  simp at this

example : Noise (.cut 0 1 (.int 1) (.int 1) true) := trivial

/-! ## 3. the node is no longer stale -/

/-- After a step of a treated kind the node is not stale (`is_stale` is `false`), provided that in
the pre-state no child has a `changedAt` in the future (`≤ s.stabNum`; the step does not touch the
`changedAt` of any node other than `n`, see `C01.step_frame`), the node's own `changedAt` is not in
the future (matters only if the node is its own child), a var cell's `setAt` is not in the future,
and the round number is not the "never" timestamp. -/
theorem step_not_stale (env : Env) (fuel n : Nat) (s s' : State) (nd : Node) (v σ : Val)
    (evs : List Event) (r : Option Nat)
    (hn : s.nodes[n]? = some nd) (hv : nd.valid = true) (hp : s.panicCountdown = none)
    (hc : Computes env s n nd v σ evs)
    (h0 : 0 ≤ s.stabNum)
    (hself : nd.changedAt ≤ s.stabNum)
    (hch : ∀ c, c ∈ s.children n → (s.nodeD c).changedAt ≤ s.stabNum)
    (hvar : ∀ c vc, nd.kind = .var c → s.vars[c]? = some vc → vc.setAt ≤ s.stabNum)
    (h : (recomputeOne env fuel n).run.run s = (.ok r, s')) :
    s'.isStale n = false := by
  have post := recomputeOne_post env fuel n s s' nd v σ evs r hn hv hp hc h
  have hD := nodeD_of_some hn
  apply not_stale_after n s s' post.frame post.recomputedAt h0
  · rcases post.changedAt with h1 | h1
    · rw [h1]; exact Int.le_refl _
    · rw [h1, hD]; exact hself
  · rw [hD]; exact hc.not_expert
  · exact hch
  · rw [hD]; exact hvar

example : exS.isStale 0 = true ∧ (0 : Int) ≤ exS.stabNum ∧ (exS.nodeD 0).changedAt ≤ exS.stabNum ∧
    exS.children 0 = [] := ⟨rfl, by decide, by decide, rfl⟩
example : ((recomputeOne exEnv 5 0).run.run exS).2.isStale 0 = false := by decide +kernel

end IncrVerif.Props.C02
