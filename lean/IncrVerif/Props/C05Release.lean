import IncrVerif.Proofs.NecRel7
/-!
# C05Release — the necessity invariant `NecWF` (C05/C11) in RELEASE mode (`cfg.debug = false`)

`Props/C05.lean` proves that `NecWF` is kept by the normal outcome of every API entry point when the debug
assertions are ON.  This file transfers those statements to release builds, for the release runs that a debug
build would have accepted.

## Definitions (`Proofs/NecRel1.lean`, `Proofs/NecRel5.lean`)
* `erase s` — `s` with `cfg.debug := false` and the debug-only field `currentlyRunning := none`;
* `Release s` — `s.cfg.debug = false ∧ s.currentlyRunning = none` (what every state reachable from
  `State.init N false` satisfies: in release mode nothing ever writes `currentlyRunning` but `stabiliseEnd`,
  which writes `none`);
* `debugTwin s cr` — `s` with `cfg.debug := true` and `currentlyRunning := cr`
  (`debugTwin (State.init N false) none = State.init N true`);
* `Sim x` — for ALL states `s`: if `x.run.run s = (.ok a, s')` then `x.run.run (erase s) = (.ok a, erase s')`.

## PROVED HERE
* `sim_*` ("a debug assertion that passes is a no-op", unconditionally — no invariant is needed): `Sim` holds
  for the assertion combinator `dassert` (`sim_dassert`), for the other two debug-only sites of the model
  (`assertRunningIsChild`, which reads `currentlyRunning`; the write `currentlyRunning := some n` at the head of
  `recomputeOne`), and — pushed through the monadic structure, all loops and all fuel-recursive and mutually
  recursive cascades — for EVERY function of `Engine/{Core,Expert,Recompute}`: the heaps, `adjustHeights`,
  `becameNecessary`/`addParentWithoutAdjustingHeights`, `becameUnnecessary`/`checkIfUnnecessary`/
  `removeChildren`, `invalidateNode`, `propagateInvalidity`, `stateAddParent`, `changeChildBindRhs`, the expert
  API, node creation (`elabInstr`, `elabTemplate`, `memoCall`), `writeVar`/`didSetVarWhileNotStabilising`, the
  observer API, `runEffects`, `perKeyDriver`, `recomputeOne`, `recompute`, `drainHeap`, `addNewObservers`,
  `unlinkDisallowedObservers`, `runAll`, `stabiliseEnd`, `stabilise`, `setMaxHeightAllowed`
  (`Proofs/NecRel2–4.lean`; some restated below), and for the driver's step
  function `stepAction env a tokens` of `Engine/Run.lean`, i.e. for EVERY action of a history
  (`stepAction_sim`, `stepAction_release`: the release step returns the same API result text and token table as
  the debug step, in the erased state, whenever the debug step returns normally).
* `release_transfer`: for any `x` with `Sim x` and debug-mode preservation of `NecWF`: from a release state `s`
  (`Release s`, `NecWF s`), if the debug run from a twin `debugTwin s cr` returns `.ok a` in `sd'`, then the
  release run from `s` returns `.ok a` in `erase sd'`, and `NecWF (erase sd') ∧ Release (erase sd')`.
* `stepAction_debug_ok` (`Props/C05.lean` states the entry points one by one): the
  normal outcome of EVERY driver action `stepAction env a tokens` keeps `NecWF` when debug assertions are on;
  `stepAction_release_necwf`: its release form; `history_release`: for a whole history — if the debug build
  runs a list of actions from `State.init N true` with every action returning normally (`runActs`,
  `Proofs/NecRel7.lean`: `stepAction` iterated, token table threaded), the release build from
  `State.init N false` does too, with the same results, and ends in a state satisfying `NecWF`.
* the per-function instances `stabilise_release`, `writeVar_release`, `didSetVarWhileNotStabilising_release`,
  `subscribe_release`, `unsubscribe_release`, `disallowFutureUse_release`, `elabInstr_release`,
  `expertAddDependency_release`, `expertRemoveDependency_release`, `recomputeOne_release`,
  `propagateInvalidity_release`.
* non-vacuity: a concrete release-mode history (`State.init 4 false`, a var, a map over it, an observer, a
  stabilisation, a write, a second stabilisation) to which the theorems apply at every step (`step_r1` …
  `step_r6`), and a driver-level history `exHist` (create, create, observe, stabilise, set, subscribe,
  stabilise) for `history_release` (`exHist_release`).

## HYPOTHESIS, and what is NOT proved
* The hypothesis "the debug run from the twin returns normally" is what the transfer rests on; it is NOT derived
  from `NecWF`.  Release-mode preservation of `NecWF` for ARBITRARY release runs (those on which a debug build
  would have panicked at a `dassert`) is neither proved nor refuted here.  What is shown
  (`release_continues_past_broken_invariant`, end of file) is a concrete history on which the release build
  runs on PAST the skipped assertion `node:state_add_parent:parent-necessary` with `NecWF.e2` already broken
  (the var node records the unnecessary bind-main node as a parent) and only stops, a few steps later, at the
  hard panic `adjust_heights_heap:add:no-queue`; the state left behind violates `NecWF`, while the state the
  debug build leaves behind (it panics AT the assertion) does not contain the bad edge.  Whether a release run can
  RETURN NORMALLY with `NecWF` broken is open: on this history the hard checks
  `node:became_necessary:bind-not-necessary` and `adjust_heights_heap:add:no-queue` (an unnecessary node has
  height -1) stop the run.  (The history makes the lhs-change node of a bind necessary without its bind-main
  node through an `.abs` operand; the Rust API never exposes lhs-change nodes, so this is a property of the
  model's operand language, not a defect of the crate.)
* Panic outcomes (as in C05), `HeapWF`, heights: not addressed.  C05 (a)–(d) in release mode: (a) and (d) do
  not depend on `cfg.debug` at all (`Props.C05.popped_is_necessary`, `no_observers_no_work` have no debug
  hypothesis); (b) follows from `recomputeOne_release` + `Props.C05.chain_is_necessary` on the twin (stated
  below as `chain_is_necessary_release`); (c) `stabiliseChecked_eq` is not transferred.
-/
namespace IncrVerif.Props.C05Release
open IncrVerif.Engine IncrVerif.Proofs IncrVerif.Proofs.Nec IncrVerif.Proofs.NecRel

/-! ## 1: a passing debug assertion is a no-op -/

/-- the assertion combinator itself -/
theorem dassert_noop (c : Bool) (site : String) : Sim (dassert c site) := sim_dassert c site
theorem stabilise_sim (env : Env) (fuel : Nat) : Sim (stabilise env fuel) := sim_stabilise env fuel
theorem writeVar_sim (x : Nat) (f : Val → Val) (isSet : Bool) : Sim (writeVar x f isSet) := sim_writeVar x f isSet
theorem didSetVarWhileNotStabilising_sim (x : Nat) : Sim (didSetVarWhileNotStabilising x) :=
  sim_didSetVarWhileNotStabilising x
theorem subscribe_sim (o hid : Nat) : Sim (subscribe o hid) := sim_subscribe o hid
theorem unsubscribe_sim (o token owner : Nat) : Sim (unsubscribe o token owner) := sim_unsubscribe o token owner
theorem disallowFutureUse_sim (o : Nat) : Sim (disallowFutureUse o) := sim_disallowFutureUse o
theorem becameNecessary_sim (env : Env) (fuel n : Nat) : Sim (becameNecessary env fuel n) :=
  sim_becameNecessary env fuel n
theorem becameUnnecessary_sim (fuel n : Nat) : Sim (becameUnnecessary fuel n) := sim_becameUnnecessary fuel n
theorem recomputeOne_sim (env : Env) (fuel n : Nat) : Sim (recomputeOne env fuel n) := sim_recomputeOne env fuel n
theorem elabInstr_sim (loc : List Nat) (lv : Val) (i : Instr) : Sim (elabInstr loc lv i) := sim_elabInstr loc lv i
theorem expertAddDependency_sim (env : Env) (fuel n child : Nat) (cb : Bool) :
    Sim (expertAddDependency env fuel n child cb) := sim_expertAddDependency env fuel n child cb
theorem expertRemoveDependency_sim (fuel n dep : Nat) : Sim (expertRemoveDependency fuel n dep) :=
  sim_expertRemoveDependency fuel n dep

/-- every action of the driver (`Engine/Run.lean`) -/
theorem stepAction_sim (env : Env) (a : Action) (tokens : Array Nat) : Sim (stepAction env a tokens) :=
  sim_stepAction env a tokens

/-- … in release form: from a release state, if the debug twin's step returns normally, the release step
returns the same result in the erased state -/
theorem stepAction_release (env : Env) (a : Action) (tokens : Array Nat) (s : State) (hrel : Release s)
    (cr : Option Nat) (r : String × Array Nat) (sd' : State)
    (hdbg : (stepAction env a tokens).run.run (debugTwin s cr) = (.ok r, sd')) :
    (stepAction env a tokens).run.run s = (.ok r, erase sd') ∧ Release (erase sd') :=
  NecRel.stepAction_release env a tokens s hrel cr r sd' hdbg

/-! ## 2: the transfer -/

/-- generic transfer (see the header) -/
theorem release_transfer {α} {x : M α} (hx : Sim x)
    (hok : ∀ (s s' : State) (a : α), NecWF s → s.cfg.debug = true → x.run.run s = (.ok a, s') →
      NecWF s' ∧ s'.cfg.debug = true)
    (s : State) (hrel : Release s) (hN : NecWF s) (cr : Option Nat) (a : α) (sd' : State)
    (hdbg : x.run.run (debugTwin s cr) = (.ok a, sd')) :
    x.run.run s = (.ok a, erase sd') ∧ NecWF (erase sd') ∧ Release (erase sd') :=
  Sim.release hx hok s hrel hN cr a sd' hdbg

theorem stabilise_release (env : Env) (fuel : Nat) (s : State) (hrel : Release s) (hN : NecWF s)
    (cr : Option Nat) (sd' : State) (hdbg : (stabilise env fuel).run.run (debugTwin s cr) = (.ok (), sd')) :
    (stabilise env fuel).run.run s = (.ok (), erase sd') ∧ NecWF (erase sd') ∧ Release (erase sd') :=
  Sim.release (sim_stabilise env fuel) (fun s s' _ => Nec.stabilise_ok env fuel s s') s hrel hN cr () sd' hdbg

theorem writeVar_release (x : Nat) (f : Val → Val) (isSet : Bool) (s : State) (hrel : Release s) (hN : NecWF s)
    (cr : Option Nat) (a : Val) (sd' : State)
    (hdbg : (writeVar x f isSet).run.run (debugTwin s cr) = (.ok a, sd')) :
    (writeVar x f isSet).run.run s = (.ok a, erase sd') ∧ NecWF (erase sd') ∧ Release (erase sd') :=
  Sim.release (sim_writeVar x f isSet) (fun s s' a => Nec.writeVar_ok x f isSet s s' a) s hrel hN cr a sd' hdbg

theorem didSetVarWhileNotStabilising_release (x : Nat) (s : State) (hrel : Release s) (hN : NecWF s)
    (cr : Option Nat) (sd' : State)
    (hdbg : (didSetVarWhileNotStabilising x).run.run (debugTwin s cr) = (.ok (), sd')) :
    (didSetVarWhileNotStabilising x).run.run s = (.ok (), erase sd') ∧ NecWF (erase sd') ∧
      Release (erase sd') :=
  Sim.release (sim_didSetVarWhileNotStabilising x)
    (fun s s' _ => didSetVarWhileNotStabilising_ok x s s') s hrel hN cr () sd' hdbg

theorem subscribe_release (o hid : Nat) (s : State) (hrel : Release s) (hN : NecWF s)
    (cr : Option Nat) (a : Except ObsError Nat) (sd' : State)
    (hdbg : (subscribe o hid).run.run (debugTwin s cr) = (.ok a, sd')) :
    (subscribe o hid).run.run s = (.ok a, erase sd') ∧ NecWF (erase sd') ∧ Release (erase sd') :=
  Sim.release (sim_subscribe o hid) (fun s s' a => Nec.subscribe_ok o hid s s' a) s hrel hN cr a sd' hdbg

theorem unsubscribe_release (o token owner : Nat) (s : State) (hrel : Release s) (hN : NecWF s)
    (cr : Option Nat) (a : Except ObsError Unit) (sd' : State)
    (hdbg : (unsubscribe o token owner).run.run (debugTwin s cr) = (.ok a, sd')) :
    (unsubscribe o token owner).run.run s = (.ok a, erase sd') ∧ NecWF (erase sd') ∧ Release (erase sd') :=
  Sim.release (sim_unsubscribe o token owner) (fun s s' a => Nec.unsubscribe_ok o token owner s s' a)
    s hrel hN cr a sd' hdbg

theorem disallowFutureUse_release (o : Nat) (s : State) (hrel : Release s) (hN : NecWF s)
    (cr : Option Nat) (sd' : State) (hdbg : (disallowFutureUse o).run.run (debugTwin s cr) = (.ok (), sd')) :
    (disallowFutureUse o).run.run s = (.ok (), erase sd') ∧ NecWF (erase sd') ∧ Release (erase sd') :=
  Sim.release (sim_disallowFutureUse o) (fun s s' _ => Nec.disallowFutureUse_ok o s s') s hrel hN cr () sd' hdbg

theorem elabInstr_release (lv : Val) (i : Instr) (s : State) (hrel : Release s) (hN : NecWF s)
    (cr : Option Nat) (a : Option Nat) (sd' : State)
    (hdbg : (elabInstr [] lv i).run.run (debugTwin s cr) = (.ok a, sd')) :
    (elabInstr [] lv i).run.run s = (.ok a, erase sd') ∧ NecWF (erase sd') ∧ Release (erase sd') :=
  Sim.release (sim_elabInstr [] lv i) (fun s s' a => Nec.elabInstr_ok lv i s s' a) s hrel hN cr a sd' hdbg

theorem expertAddDependency_release (env : Env) (fuel n child : Nat) (cb : Bool) (s : State)
    (hrel : Release s) (hN : NecWF s) (cr : Option Nat) (a : Nat) (sd' : State)
    (hdbg : (expertAddDependency env fuel n child cb).run.run (debugTwin s cr) = (.ok a, sd')) :
    (expertAddDependency env fuel n child cb).run.run s = (.ok a, erase sd') ∧ NecWF (erase sd') ∧
      Release (erase sd') :=
  Sim.release (sim_expertAddDependency env fuel n child cb)
    (fun s s' a => Nec.expertAddDependency_ok env fuel n child cb s s' a) s hrel hN cr a sd' hdbg

theorem expertRemoveDependency_release (fuel n dep : Nat) (s : State)
    (hrel : Release s) (hN : NecWF s) (cr : Option Nat) (sd' : State)
    (hdbg : (expertRemoveDependency fuel n dep).run.run (debugTwin s cr) = (.ok (), sd')) :
    (expertRemoveDependency fuel n dep).run.run s = (.ok (), erase sd') ∧ NecWF (erase sd') ∧
      Release (erase sd') :=
  Sim.release (sim_expertRemoveDependency fuel n dep)
    (fun s s' _ => Nec.expertRemoveDependency_ok fuel n dep s s') s hrel hN cr () sd' hdbg

theorem recomputeOne_release (env : Env) (fuel n : Nat) (s : State) (hrel : Release s) (hN : NecWF s)
    (cr : Option Nat) (r : Option Nat) (sd' : State)
    (hdbg : (recomputeOne env fuel n).run.run (debugTwin s cr) = (.ok r, sd')) :
    (recomputeOne env fuel n).run.run s = (.ok r, erase sd') ∧ NecWF (erase sd') ∧ Release (erase sd') :=
  Sim.release (sim_recomputeOne env fuel n) (fun s s' r => recomputeOne_ok env fuel n s s' r)
    s hrel hN cr r sd' hdbg

theorem propagateInvalidity_release (fuel : Nat) (s : State) (hrel : Release s) (hN : NecWF s)
    (cr : Option Nat) (sd' : State) (hdbg : (propagateInvalidity fuel).run.run (debugTwin s cr) = (.ok (), sd')) :
    (propagateInvalidity fuel).run.run s = (.ok (), erase sd') ∧ NecWF (erase sd') ∧ Release (erase sd') :=
  Sim.release (sim_propagateInvalidity fuel) (fun s s' _ => propagateInvalidity_ok fuel s s')
    s hrel hN cr () sd' hdbg

/-- debug mode, every driver action (normal outcome) keeps the invariant -/
theorem stepAction_debug_ok (env : Env) (a : Action) (tokens : Array Nat) (s s' : State)
    (r : String × Array Nat) (hN : NecWF s) (hd : s.cfg.debug = true)
    (hr : (stepAction env a tokens).run.run s = (.ok r, s')) : NecWF s' ∧ s'.cfg.debug = true :=
  Nec.stepAction_ok env a tokens s s' r hN hd hr

/-- release mode, every driver action whose debug twin returns normally: same result, invariant kept -/
theorem stepAction_release_necwf (env : Env) (a : Action) (tokens : Array Nat) (s : State) (hrel : Release s)
    (hN : NecWF s) (cr : Option Nat) (r : String × Array Nat) (sd' : State)
    (hdbg : (stepAction env a tokens).run.run (debugTwin s cr) = (.ok r, sd')) :
    (stepAction env a tokens).run.run s = (.ok r, erase sd') ∧ NecWF (erase sd') ∧ Release (erase sd') :=
  NecRel.stepAction_release_necwf env a tokens s hrel hN cr r sd' hdbg

/-- whole histories from the initial state (all actions returning normally in the debug build) -/
theorem history_release (env : Env) (N : Nat) (as : List Action) (r : Array Nat) (sd' : State)
    (hdbg : (Nec.runActs env as #[]).run.run (State.init N true) = (.ok r, sd')) :
    (Nec.runActs env as #[]).run.run (State.init N false) = (.ok r, erase sd') ∧ NecWF (erase sd') ∧
      Release (erase sd') :=
  NecRel.runActs_release env N as r sd' hdbg

/-- C05 (b) in release mode: the parent handed back for direct recomputation is necessary and valid -/
theorem chain_is_necessary_release (env : Env) (fuel n p : Nat) (s : State) (hrel : Release s) (hN : NecWF s)
    (cr : Option Nat) (sd' : State)
    (hdbg : (recomputeOne env fuel n).run.run (debugTwin s cr) = (.ok (some p), sd')) :
    (recomputeOne env fuel n).run.run s = (.ok (some p), erase sd') ∧ NecWF (erase sd') ∧
      (erase sd').isNecessary p = true ∧ ((erase sd').nodeD p).valid = true :=
  ⟨(recomputeOne_release env fuel n s hrel hN cr _ sd' hdbg).1,
   (recomputeOne_release env fuel n s hrel hN cr _ sd' hdbg).2.1,
   (Nec.chain_is_necessary env fuel n p _ sd' (necWF_debugTwin hN cr) rfl hdbg).2.2⟩

/-! ## non-vacuity: a concrete release-mode history -/

/-- user functions of the examples: every function is "+ 1" on the integer view, no effects -/
def exEnv : Env :=
  { cexEnv with fn := fun _ vs => .int ((vs.headD .unit).toInt + 1), fnEff := fun _ _ => [] }

/-- the result state of the debug twin's run -/
def dbgRun {α} (x : M α) (s : State) : State := (x.run.run (debugTwin s none)).2

def r0 : State := State.init 4 false
/-- node 0: a var -/
def r1 : State := erase (dbgRun (elabInstr [] .unit (.var (.int 1))) r0)
/-- node 1: a map over node 0 -/
def r2 : State := erase (dbgRun (elabInstr [] .unit (.map 0 [.abs 0])) r1)
/-- a new observer on node 1 -/
def r3 : State := { r2 with observers := #[{ node := 1 }], newObservers := [0] }
/-- after the first stabilisation -/
def r4 : State := erase (dbgRun (stabilise exEnv 20) r3)
/-- after a write to the var -/
def r5 : State := erase (dbgRun (writeVar 0 (fun _ => .int 7)) r4)
/-- after the second stabilisation -/
def r6 : State := erase (dbgRun (stabilise exEnv 20) r5)

theorem ok_r0 : Release r0 ∧ NecWF r0 := ⟨release_init 4, Nec.necwf_init 4 false⟩

theorem step_r1 : (elabInstr [] .unit (.var (.int 1))).run.run r0 = (.ok (some 0), r1) ∧ NecWF r1 ∧ Release r1 :=
  elabInstr_release _ _ r0 ok_r0.1 ok_r0.2 none _ _ (run_ok_of _ _ (some 0) (by decide +kernel))

theorem step_r2 : (elabInstr [] .unit (.map 0 [.abs 0])).run.run r1 = (.ok (some 1), r2) ∧ NecWF r2 ∧ Release r2 :=
  elabInstr_release _ _ r1 step_r1.2.2 step_r1.2.1 none _ _ (run_ok_of _ _ (some 1) (by decide +kernel))

theorem ok_r3 : Release r3 ∧ NecWF r3 :=
  ⟨⟨rfl, rfl⟩, ⟨step_r2.2.1.e1, step_r2.2.1.e2, step_r2.2.1.e3, step_r2.2.1.e4,
    step_r2.2.1.kinds.congr (fun _ => rfl) rfl rfl rfl⟩⟩

/-- the first release-mode stabilisation returns normally and keeps the invariant -/
theorem step_r4 : (stabilise exEnv 20).run.run r3 = (.ok (), r4) ∧ NecWF r4 ∧ Release r4 :=
  stabilise_release _ _ r3 ok_r3.1 ok_r3.2 none _ (run_ok_of _ _ () (by decide +kernel))

/-- the release-mode write returns normally and keeps the invariant -/
theorem step_r5 : (writeVar 0 (fun _ => .int 7)).run.run r4 = (.ok (.int 1), r5) ∧ NecWF r5 ∧ Release r5 :=
  writeVar_release _ _ _ r4 step_r4.2.2 step_r4.2.1 none _ _ (run_ok_of _ _ (Val.int 1) (by decide +kernel))

/-- the second release-mode stabilisation returns normally and keeps the invariant -/
theorem step_r6 : (stabilise exEnv 20).run.run r5 = (.ok (), r6) ∧ NecWF r6 ∧ Release r6 :=
  stabilise_release _ _ r5 step_r5.2.2 step_r5.2.1 none _ (run_ok_of _ _ () (by decide +kernel))

/-- the history is not trivial: debug is off throughout, the observed node and its input are necessary, the
write queued the var, and the values are recomputed (7 and 8) -/
example : r6.cfg.debug = false ∧ r4.isNecessary 1 = true ∧ r4.isNecessary 0 = true ∧
    r5.rch.queues = #[[], [0], [], [], []] ∧
    (r4.nodes.map (·.value)) = #[some (.int 1), some (.int 2)] ∧
    (r6.nodes.map (·.value)) = #[some (.int 7), some (.int 8)] :=
  ⟨rfl, by decide +kernel, by decide +kernel, by decide +kernel, by decide +kernel, by decide +kernel⟩

/-- `history_release` on a driver-level history: create a var and a map over it, observe the map, stabilise,
set the var, subscribe, stabilise again — the release run returns normally and ends in a `NecWF` state whose
values are 7 and 8 -/
def exHist : List Action :=
  [.create (.var (.int 1)), .create (.map 0 [.outer 0]), .observe (.outer 1), .stabilise, .set 0 (.int 7),
   .subscribe 0 0, .stabilise]

theorem exHist_release :
    (Nec.runActs exEnv exHist #[]).run.run (State.init 4 false)
      = (.ok #[0], erase ((Nec.runActs exEnv exHist #[]).run.run (State.init 4 true)).2) ∧
    NecWF (erase ((Nec.runActs exEnv exHist #[]).run.run (State.init 4 true)).2) ∧
    Release (erase ((Nec.runActs exEnv exHist #[]).run.run (State.init 4 true)).2) :=
  history_release exEnv 4 exHist #[0] _ (run_ok_of _ _ #[0] (by decide +kernel))

example : ((erase ((Nec.runActs exEnv exHist #[]).run.run (State.init 4 true)).2).nodes.map (·.value))
    = #[some (.int 7), some (.int 8)] := by decide +kernel

/-! ## finding: the release build continues past a broken invariant (panic outcome) -/

/-- the body of the bind returns the var itself (node 0) -/
def bEnv : Env :=
  { cexEnv with fn := fun _ _ => .unit, fnEff := fun _ _ => [], body := fun _ _ => { instrs := [], ret := .abs 0 } }

def c0 : State := State.init 4 false
/-- node 0: a var -/
def c1 : State := erase (dbgRun (elabInstr [] .unit (.var (.int 1))) c0)
/-- nodes 1, 2: lhs-change and main node of a bind on the var -/
def c2 : State := erase (dbgRun (elabInstr [] .unit (.bind 0 (.abs 0))) c1)
/-- node 3: a map over the LHS-CHANGE node (operand `.abs 1`) -/
def c3 : State := erase (dbgRun (elabInstr [] .unit (.map 0 [.abs 1])) c2)
/-- a new observer on node 3: the lhs-change node will become necessary, the bind-main node 2 will not -/
def c4 : State := { c3 with observers := #[{ node := 3 }], newObservers := [0] }
/-- what the release-mode `stabilise` leaves behind -/
def cBad : State := ((stabilise bEnv 30).run.run c4).2

theorem step_c1 : (elabInstr [] .unit (.var (.int 1))).run.run c0 = (.ok (some 0), c1) ∧ NecWF c1 ∧ Release c1 :=
  elabInstr_release _ _ c0 (release_init 4) (Nec.necwf_init 4 false) none _ _
    (run_ok_of _ _ (some 0) (by decide +kernel))
theorem step_c2 : (elabInstr [] .unit (.bind 0 (.abs 0))).run.run c1 = (.ok (some 2), c2) ∧ NecWF c2 ∧ Release c2 :=
  elabInstr_release _ _ c1 step_c1.2.2 step_c1.2.1 none _ _ (run_ok_of _ _ (some 2) (by decide +kernel))
theorem step_c3 : (elabInstr [] .unit (.map 0 [.abs 1])).run.run c2 = (.ok (some 3), c3) ∧ NecWF c3 ∧ Release c3 :=
  elabInstr_release _ _ c2 step_c2.2.2 step_c2.2.1 none _ _ (run_ok_of _ _ (some 3) (by decide +kernel))
theorem ok_c4 : Release c4 ∧ NecWF c4 :=
  ⟨⟨rfl, rfl⟩, ⟨step_c3.2.1.e1, step_c3.2.1.e2, step_c3.2.1.e3, step_c3.2.1.e4,
    step_c3.2.1.kinds.congr (fun _ => rfl) rfl rfl rfl⟩⟩

/-- From the release state `c4` (which satisfies `NecWF`): the debug build panics at the assertion
`node:state_add_parent:parent-necessary` and the var node 0 has the single parent 1; the release build skips
the assertion, records the unnecessary bind-main node 2 as a parent of node 0 (breaking `e2`), continues, and
stops only at the hard panic `adjust_heights_heap:add:no-queue`, leaving a state that violates `NecWF`. -/
theorem release_continues_past_broken_invariant :
    Release c4 ∧ NecWF c4 ∧
    (match ((stabilise bEnv 30).run.run (debugTwin c4 none)).1 with
      | .error (.site m) => m == "node:state_add_parent:parent-necessary" | _ => false) = true ∧
    (((stabilise bEnv 30).run.run (debugTwin c4 none)).2.nodeD 0).parents = [(1, 0)] ∧
    (match ((stabilise bEnv 30).run.run c4).1 with
      | .error (.site m) => m == "adjust_heights_heap:add:no-queue" | _ => false) = true ∧
    (cBad.nodeD 0).parents = [(1, 0), (2, 1)] ∧ cBad.isNecessary 2 = false ∧ ¬ NecWF cBad := by
  have hp : (cBad.nodeD 0).parents = [(1, 0), (2, 1)] := by decide +kernel
  have hn : cBad.isNecessary 2 = false := by decide +kernel
  refine ⟨ok_c4.1, ok_c4.2, by decide +kernel, by decide +kernel, by decide +kernel, hp, hn, fun h => ?_⟩
  have := h.e2 0 2 1 (by rw [hp]; simp)
  rw [hn] at this
  cases this

end IncrVerif.Props.C05Release
