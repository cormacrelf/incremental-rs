import IncrVerif.Proofs.EffH18
/-!
# C08 (and C01/C02) for whole histories of programs whose node functions WRITE variables

`Props/C08.lean` describes a single write (both modes) and the var phase of `stabiliseEnd`; `Props/C01History.lean`
proves the whole-history theorem for static programs whose functions have NO effects.  Here both are combined:
programs whose `map` functions issue `set`/`modify`/`update`/`replace`/`replace_with` on variables while they run.

FRAGMENT.  `EffH.EAction env a` = `Quiet.StaticAction (EffH.noEff env) a`: the static API actions of
`Props/C01History.lean` (`create` of `const`/`var`/`map`/`fold`/`zip` on top-level operands, `observe`, `cloneObs`, `dropObs`,
`disallow`, `set`/`modify`/`update`/`replace`/`replaceWith`/`get`, `stabilise`, `isStable`, `stats`) — but the user functions
of `map` nodes may have effects, restricted by `EffH.WOnly env`: every effect in every `env.fnEff f vals` is one of
`setVar`/`modifyVar`/`updateVar`/`replaceVar`/`replaceWithVar` (any variable index; a write to a variable that does
not exist makes the model panic, so such a run is not "returning").  NOT in the fragment: `dropVar` (every handle is
alive: `CellsOK`), the other effects (`readObs`, `disallow`, `stabilise`, `panic`, expert effects), everything
`Props/C01History.lean` excludes; subscriptions (handlers) are the second stage, V3 below.  Nothing is assumed about `cfg.debug`.

DEFINITIONS (`Proofs/EffH1.lean` … `EffH10.lean` for V1/V2, `EffH11.lean` … `EffH18.lean` for V3; namespace `IncrVerif.Proofs.EffH`).
* `noEff env`: `env` with `fnEff := fun _ _ => []` and `handler := fun _ _ => []`.  Every engine function except the
  `map` case of `recomputeOne` and the handler loop of `stabiliseEnd` is the same program under `env` and `noEff env`
  (`stepAction_noEff`, `addNewObservers_noEff`, `mcv_noEff`, …), so all invariants are stated for `noEff env`
  (`Sched.Inv (noEff env)`, `Quiet.QInv (noEff env)`, `SubsH.UInv (noEff env)`); `Sched.eval` does not depend on
  effects (`eval_noEff`).
* `EInv env s` (the invariant between API actions) = `Quiet.QInv (noEff env) s` (so: the heap holds EXACTLY the
  necessary stale nodes, every non-stale node is consistent, nothing deferred, …) ∧ `CellsOK s` (every var cell has
  `pending = none` and a live handle).
* `effStep`/`effSteps es s`: closed form of running the write effects `es` while `status = stabilising`: cell `v` gets
  `pending := some (f (pending.getD value))`, `v` is pushed on `setDuringStab` iff nothing was pending, `replace*` log
  the value they return; NOTHING else changes — in particular not `vars[v].value`.
* `SameP s s'`: equal up to `vars[·].pending`, `setDuringStab`, `log`.  The scheduling invariant, `UnnecOK`, `QInv`, `eval`
  do not read these (`SameP.inv`, `SameP.qinv`, …).
* `nodeEffs env s n`: the effects node `n` issues when recomputed in `s`; `evalEffs env t m`: the same with the
  arguments evaluated from scratch in `t`; `drainSteps env fuel t`: the nodes the drain runs, each WITH THE STATE IT RAN
  IN (`(drainSteps …).map (·.1) = Sched.drainTrace …`); `stepsWrites`: their writes `(cell, new-from-old)` in program
  order; `writesTo v W`; `foldW fs x` (program-order composition); `cellAfter now fs c` (`c` if `fs = []`, else
  `{ c with value := foldW fs c.value, setAt := now }`).
* `EStab env fuel s t2 t3 S s'`: the conclusions about one `stabilise` `s → s'` (`t2`/`t3`: start/end of the drain,
  `S`: the state the `stabilise` would have ended in without the deferred writes).

PROVED (for the model; partial correctness: every statement assumes that the call returns `(.ok _, s')`).
* V1 (a) `recomputeOne_defers`: on the current node of the scheduling invariant, a `recomputeOne` whose function has
  write effects = the deferred writes (`effSteps`, which leave every `vars[v].value` alone) followed by the EFFECT-FREE
  `recomputeOne` — same result, same final state.  `drain_with_effects`: hence the drain keeps the scheduling
  invariant (`DI`), with the frame `DR` (= `Sched.Frame` with "vars unchanged" weakened to "unchanged except `pending`");
  no node runs twice.  `step_saw`: EVERY node function that ran saw, for every variable, the PRE-STABILISE value, and
  for every argument the from-scratch value on the pre-stabilise variables.
  `values_pre_stabilise`: after the call every necessary node carries (stored and as read by observers) `eval` of the
  final graph on the PRE-STABILISE variables `s.vars`.
* V1 (b) `written_value` + `writes_in_trace_order`: after the call a written variable holds the program-order fold of
  its writes over its pre-stabilise value, stamped with the NEW round; an unwritten cell is untouched; the writes
  are those of `Sched.drainTrace` in the order the functions ran.
* V1 (c) `stabilise_effects`: `EInv env s'` holds again; `stale_after`: a necessary node is stale (hence queued) afterwards
  iff it is the watch node of a written variable; `isStable_def`: in a state satisfying `QInv`,
  `isStable = true ↔ newObservers = [] ∧ no necessary node is stale`; `isStable_after`: after the `stabilise`,
  `isStable = true ↔` no written variable has a necessary watch node.  (A write of the value the variable already
  has still makes `isStable` false.)
* V1 (d) `next_stabilise_propagates`: the following `stabilise` leaves every necessary node with `eval` on the
  variables as written.
* V2 `history_inv`, `history_every_state`, `history_every_stabilise`: every state reached from `State.init` by a history
  of the fragment satisfies `EInv`; at every `stabilise` V1 holds.  `get_returns`, `replace_returns`,
  `replaceWith_returns`, `set_stores`: `get`/`replace`/`replace_with` return the logical value, writes outside `stabilise`
  take effect immediately.  `stable_reads`, `loop_fixpoint`: in a reached state with `isStable = true` — e.g. when a loop
  `while !is_stable() { stabilise() }` stops — every in-use observer reads `eval` on the FINAL variable contents.
* Non-vacuity: the history `exHist` (two functions writing `v1`, a reader of `v1` running after them) — checked with
  `decide +kernel` and also against the Rust harness: same `read`/`api` lines.

* V3 (second stage: SUBSCRIPTIONS whose handlers have write effects; fragment `EffH.WAction env a` =
  `SubsH.SubAction (noEff env) a`, i.e. the fragment of `Props/C09History.lean`, with `WOnly env` for the functions and
  `WHandlers env` for the handlers: every effect of every `env.handler hid u` is one of the five writes).  Handlers run
  at the end of `stabilise` under status `runningOnUpdateHandlers`, so their writes are IMMEDIATE (`runEffects_imm`,
  closed form `immSteps` = a sequence of `VarWrites.wroteOutside`), not deferred.  Invariant `UInvE env s` =
  `SubsH.UInv (noEff env) s ∧ CellsOK s`.
  `handler_writes_immediate`: closed form of the effects of one handler.  `stabiliseEnd_with_handlers`: `stabiliseEnd`
  with deferred function writes and handler writes is `EndedW`: the handler bookkeeping (records stepped by
  `stepPrev`, flags reset) and the NOTIFICATIONS logged are exactly those of the effect-free `stabiliseEnd`
  (`SubsH.endNotifs`, same order), besides them only the `note`s of `replace*` are logged; the variables receive first the
  deferred function writes (var phase) and then the handlers' writes in delivery order, each acting on the then-current
  logical value; the subscription invariant holds again.  `stabilise_handlers` (`WStab`): all of V1 for such a
  `stabilise`: every function saw the pre-stabilise values (`drain`/`step_saw`), the final variable = fold of (function
  writes in trace order) ++ (handler writes in delivery order) over the pre-stabilise value (`vars`), every necessary
  node carries `eval` on the PRE-STABILISE variables (`values`) — in particular what the handlers were told —, nothing
  is delivered before the end of the drain (`log`), the `changedAt` stamp is exact (`valchg`), `UInvE` holds again;
  `stale_after_handlers`, `isStable_after_handlers`; `history_inv_handlers`, `history_every_stabilise_handlers`,
  `stable_reads_handlers`, `loop_fixpoint_handlers`.  Non-vacuity: `exHistH` (a function writes `v1 := 4`, the handler
  then does `v1 += 1` and `replace(v1, 2)`, which returns `5`), also checked against the Rust harness.

  C09 WITH EFFECTS (`Proofs/EffH18.lean`, the statements of `Subs11`/`Subs15` with effects): `delivers_with_effects` (S2: the notifications of a
  `stabilise` are exactly the `SubsH.expected` ones, every token at most once), `expected_live_with_effects`,
  `expected_dead_with_effects` (a live handler is told `Initialised v` once, then `Changed v` iff the stored value of
  its node changed; `v` is what its observer reads afterwards — computed from the PRE-STABILISE variables; handler and
  function writes of the same `stabilise` never show in what is delivered in that `stabilise`),
  `history_notifications_with_effects` (S3: `tokLog t s.log = specT env t acts …` for every token along every history of
  the fragment), `history_shape_with_effects`.

ASSUMED / NOT PROVED.  Partial correctness only (no bound on the number of iterations of the `is_stable` loop: a
function that writes a variable it depends on never stabilises — that is the engine's behaviour).  No total
correctness for the fragment (that the calls return).  Handlers with other effects (`disallow`, nested `stabilise`,
`readObs`, `dropVar`) are outside the fragment.

FOUND (true of the model; the implementation differs in ORDER only).  The handlers' writes are applied in the order in
which the handlers run.  The model runs them in list order (`endEffs`: queued nodes, their observers, their handlers,
each in insertion order); the implementation iterates over `HashMap`s with a per-process random state, so when several
handlers of one `stabilise` write the SAME variable with non-commuting writes, the final contents of the variable depend
on the run: for `hdl h0 setvar v1 1`, `hdl h1 setvar v1 2`, `hdl h2 setvar v1 3`, `fn f0 lin 7 0 1`, `var 1`, `var 5`,
`map f0 n0`, `observe n2`, `subscribe o0 h0`, `subscribe o0 h1`, `subscribe o0 h2`, `stabilise`, `get v1` the model answers
`3`, the Rust harness `1`, `2` or `3` depending on the run (six runs: 1, 2, 2, 1, 3, 3).  Everything else (which
notifications, their values, function writes before handler writes, node values from the pre-stabilise variables,
`is_stable`) is order-independent.  `exHistH` has a single handler.
-/
namespace IncrVerif.Props.C08History
open IncrVerif.Engine IncrVerif.Driver IncrVerif.Proofs IncrVerif.Proofs.Step IncrVerif.Proofs.Sched
open IncrVerif.Proofs.Quiet IncrVerif.Proofs.EffH

/-! ## V1 (a): the drain -/

/-- **A write from inside a node function is not visible in the running stabilise.**  On the current node `n` of the
scheduling invariant, while `status = stabilising`: a successful `recomputeOne env fuel n` is the deferred writes
`effSteps (nodeEffs env s n)` — which change only `pending`, the stack `setDuringStab` and the log (`effSteps_sameP`) —
followed by the `recomputeOne` of the EFFECT-FREE environment: same result, same final state.  Every written cell
exists. -/
theorem recomputeOne_defers {env : Env} {fuel n : Nat} {s s' : State} {r : Option Nat}
    (I : Inv (noEff env) s (some n)) (hst : s.status = .stabilising) (hw : WOnly env) (hh : HandlesOK s)
    (h : (recomputeOne env fuel n).run.run s = (.ok r, s')) :
    SameP s (effSteps (nodeEffs env s n) s) ∧
    (recomputeOne (noEff env) fuel n).run.run (effSteps (nodeEffs env s n) s) = (.ok r, s') ∧
    ∀ v f, (v, f) ∈ writesOf (nodeEffs env s n) → ∃ c, s.vars[v]? = some c :=
  ⟨effSteps_sameP _ s, recomputeOne_eff_eq I hst hw hh h⟩

/-- closed form of the write effects of one function: exactly `effSteps` -/
theorem effects_closed_form {env : Env} {fuel : Nat} {es : List Effect} {arg : Int} {s s' : State} {u : Unit}
    (hst : s.status = .stabilising) (hw : ∀ e, e ∈ es → (effWrite e).isSome = true) (hh : HandlesOK s)
    (h : (runEffects env fuel es arg).run.run s = (.ok u, s')) :
    s' = effSteps es s ∧ SameP s s' := by
  obtain ⟨e, -⟩ := runEffects_writes hst hw hh h
  exact ⟨e, e ▸ effSteps_sameP es s⟩

/-- **The drain with write effects.**  From `DI env s none` (the scheduling invariant of `Props/C01Global.lean` for the
effect-free environment + `UnnecOK` + `status = stabilising` + live handles) a returning `drainHeap env fuel`:
`RunOK` = the same facts at the end, the frame `DR` (graph, round number, `vars[·].value`/`setAt` untouched), every step
`p = (node, state it ran in)` satisfied the invariant with that node current (`StepOK`), the trace has no duplicates
and each of its nodes ran exactly in this round; the heap is empty at the end. -/
theorem drain_with_effects {env : Env} (hw : WOnly env) {fuel : Nat} {s s' : State} (D : DI env s none)
    (h : (drainHeap env fuel).run.run s = (.ok (), s')) :
    RunOK env (drainSteps env fuel s) s s' ∧ s'.rch.length = 0 ∧
      (drainSteps env fuel s).map (·.1) = drainTrace env fuel s :=
  ⟨(drainHeap_eff hw fuel s s' D h).1, (drainHeap_eff hw fuel s s' D h).2, drainSteps_fst env fuel s⟩

/-- **(a) every node function that ran saw the pre-stabilise values**: in the state `p.2` in which node `p.1` ran,
every variable has the value it had when the drain started (`t`), the node has the kind it had, and each of its
children reads — through `State.value`, which is what `recomputeOne` passes to the function — its from-scratch value
on the variables of `t`. -/
theorem step_saw {env : Env} {t : State} {p : Nat × State} (o : StepOK env t p) :
    (∀ (v : Nat) (c : VarCell), t.vars[v]? = some c → ∃ c', p.2.vars[v]? = some c' ∧ c'.value = c.value) ∧
    (p.2.nodeD p.1).kind = (t.nodeD p.1).kind ∧
    ∀ a, a ∈ kids (p.2.nodeD p.1).kind → ∀ k, (t.nodeD a).height.toNat < k →
      p.2.value env a = eval env t k a ∧ (eval env t k a).isSome = true :=
  EffH.step_saw o

/-! ## V1: one `stabilise` -/

/-- **V1.** From the invariant between actions, a returning `stabilise` of a program whose functions have write
effects: see `EffH.EStab` — `inv : EInv env s'`; `clean : StabilisedC (noEff env) s S` (all of `Quiet.stabilise_q` for
the outcome `S` without the writes: `S.vars = s.vars`, observers added/unlinked, every necessary node of `S` not stale
and `= eval`); `start`/`run`/`drain`: the drain `t2 → t3` with `drain_with_effects`; `vars` (b); `node`: the nodes of `s'`
are those of `S` up to the heap marker; `observers`, `newObservers = []`, `disallowedObservers = []`, `stabNum`. -/
theorem stabilise_effects {env : Env} (hw : WOnly env) {fuel : Nat} {s s' : State} (E : EInv env s)
    (h : (stabilise env fuel).run.run s = (.ok (), s')) : ∃ t2 t3 S, EStab env fuel s t2 t3 S s' :=
  stabilise_eff hw E h

section one
variable {env : Env} {fuel : Nat} {s t2 t3 S s' : State}

/-- **(a)/(d) values after the call**: every necessary node is valid and carries — stored, and as read by observers —
its defining expression evaluated from scratch in the final graph on the PRE-STABILISE variables. -/
theorem values_pre_stabilise (X : EStab env fuel s t2 t3 S s') (n : Nat) (hn : s'.isNecessary n = true) (k : Nat)
    (hk : (s'.nodeD n).height.toNat < k) :
    (s'.nodeD n).valid = true ∧ (s'.nodeD n).value = eval env { s' with vars := s.vars } k n ∧
      s'.value env n = eval env { s' with vars := s.vars } k n ∧
      (eval env { s' with vars := s.vars } k n).isSome = true :=
  X.values n hn k hk

/-- **(b) successive deferred writes compose in program order**: after the call, cell `v` is the old cell if no
function wrote it; otherwise its value is the left fold of the writes to `v` (in program order, `X.writes`) over the
PRE-STABILISE value, its stamp is the new round number, and nothing is pending. -/
theorem written_value (X : EStab env fuel s t2 t3 S s') (v : Nat) (c : VarCell) (hc : s.vars[v]? = some c) :
    s'.vars[v]? = some (cellAfter (s.stabNum + 1) (writesTo v X.writes) c) ∧
    (writesTo v X.writes = [] → s'.vars[v]? = some c) ∧
    (∀ f fs, writesTo v X.writes = f :: fs →
      s'.vars[v]? = some { c with value := foldW (f :: fs) c.value, setAt := s.stabNum + 1 }) := by
  have h := X.vars v c hc
  refine ⟨h, fun e => ?_, fun f fs e => ?_⟩
  · rw [h]; unfold EStab.writes at e; rw [e]; rfl
  · rw [h]; unfold EStab.writes at e; rw [e]; rfl

/-- **(b) the order is the order in which the functions ran**: the writes are, for each node of `Sched.drainTrace` in
order, the writes of its function applied to the from-scratch values of its arguments on the pre-stabilise
variables. -/
theorem writes_in_trace_order (X : EStab env fuel s t2 t3 S s') :
    X.writes = (drainTrace env fuel t2).flatMap fun m => writesOf (evalEffs env t2 m) :=
  stepsWrites_eq_trace X.drain

/-- **(c) staleness afterwards**: a necessary node is stale (and therefore queued: `X.inv.q.struct.queued_iff`) iff it
is the watch node of a written variable. -/
theorem stale_after (X : EStab env fuel s t2 t3 S s') (m : Nat) (hm : s'.isNecessary m = true) :
    s'.isStale m = true ↔ ∃ v, (s'.nodeD m).kind = .var v ∧ writesTo v X.writes ≠ [] :=
  X.stale_iff m hm

/-- the queue afterwards: exactly the necessary watch nodes of written variables -/
theorem queued_after (X : EStab env fuel s t2 t3 S s') (m : Nat) :
    (s'.nodeD m).inRch = true ↔
      (s'.isNecessary m = true ∧ ∃ v, (s'.nodeD m).kind = .var v ∧ writesTo v X.writes ≠ []) := by
  rw [X.inv.q.struct.queued_iff m]
  constructor
  · rintro ⟨a, b⟩; exact ⟨a, (X.stale_iff m a).1 b⟩
  · rintro ⟨a, b⟩; exact ⟨a, (X.stale_iff m a).2 b⟩

/-- **(c) `is_stable()` afterwards** is `true` iff no written variable has a necessary watch node. -/
theorem isStable_after (X : EStab env fuel s t2 t3 S s') :
    s'.isStable = true ↔
      ∀ v, writesTo v X.writes ≠ [] → ∀ m, (s'.nodeD m).kind = .var v → s'.isNecessary m = false :=
  X.isStable_iff

end one

/-- what `State.isStable` says in a state satisfying the invariant -/
theorem isStable_def {env : Env} {s : State} (Q : QInv env s) :
    s.isStable = true ↔ (s.newObservers = [] ∧ ∀ m, s.isNecessary m = true → s.isStale m = false) :=
  EffH.isStable_iff Q

/-- **(d) the next `stabilise` propagates the written values**: after `s → s'` (with writes) and `s' → s''`, every
necessary node of `s''` carries `eval` on the variables of `s'`, i.e. (by `written_value`) on the folds of the writes
of the first call. -/
theorem next_stabilise_propagates {env : Env} (hw : WOnly env) {fuel fuel' : Nat} {s t2 t3 S s' s'' : State}
    (X : EStab env fuel s t2 t3 S s') (h : (stabilise env fuel').run.run s' = (.ok (), s'')) (n : Nat)
    (hn : s''.isNecessary n = true) (k : Nat) (hk : (s''.nodeD n).height.toNat < k) :
    s''.value env n = eval env { s'' with vars := s'.vars } k n ∧
      (eval env { s'' with vars := s'.vars } k n).isSome = true := by
  obtain ⟨_, _, _, X2⟩ := stabilise_eff hw X.inv h
  obtain ⟨-, -, h3, h4⟩ := X2.values n hn k hk
  exact ⟨h3, h4⟩

/-! ## V2: whole histories -/

theorem init_inv (env : Env) (N : Nat) (d : Bool) : EInv env (State.init N d) := einv_init env N d

/-- every action of the fragment that returns keeps the invariant -/
theorem action_keeps {env : Env} (hw : WOnly env) {s s' : State} {a : Action} {tk : Array Nat}
    {r : String × Array Nat} (E : EInv env s) (ha : EAction env a)
    (h : (stepAction env a tk).run.run s = (.ok r, s')) : EInv env s' :=
  step_e hw E ha h

theorem history_inv {env : Env} (hw : WOnly env) {N : Nat} {d : Bool} {acts : List Action} {s : State}
    {tk : Array Nat} (ha : ∀ a, a ∈ acts → EAction env a)
    (h : runActions env acts (State.init N d) #[] = .ok (s, tk)) : EInv env s :=
  history_e hw ha h

theorem history_every_state {env : Env} (hw : WOnly env) {N : Nat} {d : Bool} {as bs : List Action} {s : State}
    {tk : Array Nat} (ha : ∀ a, a ∈ as ++ bs → EAction env a)
    (h : runActions env (as ++ bs) (State.init N d) #[] = .ok (s, tk)) :
    ∃ s1 tk1, runActions env as (State.init N d) #[] = .ok (s1, tk1) ∧ EInv env s1 ∧
      runActions env bs s1 tk1 = .ok (s, tk) :=
  history_prefix_e hw ha h

/-- at every `stabilise` of a history of the fragment, V1 holds -/
theorem history_every_stabilise {env : Env} (hw : WOnly env) {N : Nat} {d : Bool} {as bs : List Action}
    {s : State} {tk : Array Nat} (ha : ∀ a, a ∈ as ++ Action.stabilise :: bs → EAction env a)
    (h : runActions env (as ++ Action.stabilise :: bs) (State.init N d) #[] = .ok (s, tk)) :
    ∃ s1 tk1 s2 t2 t3 S, runActions env as (State.init N d) #[] = .ok (s1, tk1) ∧ EInv env s1 ∧
      (stabilise env fuelDefault).run.run s1 = (.ok (), s2) ∧ EStab env fuelDefault s1 t2 t3 S s2 ∧
      runActions env bs s2 tk1 = .ok (s, tk) :=
  history_stabilise_e hw ha h

/-- `get` returns the logical value and changes nothing -/
theorem get_returns {env : Env} {s s' : State} {v : Nat} {tk : Array Nat} {r : String × Array Nat}
    (h : (stepAction env (.get v) tk).run.run s = (.ok r, s')) :
    ∃ vc, s.vars[v]? = some vc ∧ r = ("ok " ++ vc.value.render, tk) ∧ s' = s := step_get h

/-- `replace` outside `stabilise` returns the logical value and stores the new one at once -/
theorem replace_returns {env : Env} {s s' : State} {v : Nat} {x : Val} {tk : Array Nat}
    {r : String × Array Nat} (E : EInv env s)
    (h : (stepAction env (.replace v x) tk).run.run s = (.ok r, s')) :
    ∃ vc, s.vars[v]? = some vc ∧ r = ("ok " ++ vc.value.render, tk) ∧
      ∃ vc', s'.vars[v]? = some vc' ∧ vc'.value = x :=
  step_replace (by rw [E.q.status]; intro e; cases e) h

theorem replaceWith_returns {env : Env} {s s' : State} {v : Nat} {d : Int} {tk : Array Nat}
    {r : String × Array Nat} (E : EInv env s)
    (h : (stepAction env (.replaceWith v d) tk).run.run s = (.ok r, s')) :
    ∃ vc, s.vars[v]? = some vc ∧ r = ("ok " ++ vc.value.render, tk) ∧
      ∃ vc', s'.vars[v]? = some vc' ∧ vc'.value = vc.value.addInt d 7 :=
  step_replaceWith (by rw [E.q.status]; intro e; cases e) h

theorem set_stores {env : Env} {s s' : State} {v : Nat} {x : Val} {tk : Array Nat}
    {r : String × Array Nat} (E : EInv env s)
    (h : (stepAction env (.set v x) tk).run.run s = (.ok r, s')) :
    ∃ vc', s'.vars[v]? = some vc' ∧ vc'.value = x :=
  step_set (by rw [E.q.status]; intro e; cases e) h

/-- **a stable state reads the current variables** -/
theorem stable_reads {env : Env} {s : State} (E : EInv env s) (hs : s.isStable = true) :
    (∀ (o : Nat) (ob : ObsRec), s.observers[o]? = some ob → ob.state = .inUse →
      ∀ k, (s.nodeD ob.node).height.toNat < k →
        ∃ v, s.tryGetValue env o = .ok v ∧ eval env s k ob.node = some v) ∧
    (∀ (o : Nat) (ob : ObsRec), s.observers[o]? = some ob → ob.state ≠ .created) :=
  EffH.stable_reads E hs

/-- **fixed point, partial correctness**: if after a history of the fragment and `k` further calls of `stabilise` the
engine reports `is_stable()`, every in-use observer reads the from-scratch value of its node on the final contents of
the variables. -/
theorem loop_fixpoint {env : Env} (hw : WOnly env) {N : Nat} {d : Bool} {acts : List Action} {k : Nat}
    {s : State} {tk : Array Nat} (ha : ∀ a, a ∈ acts → EAction env a)
    (h : runActions env (acts ++ List.replicate k Action.stabilise) (State.init N d) #[] = .ok (s, tk))
    (hs : s.isStable = true) :
    ∀ (o : Nat) (ob : ObsRec), s.observers[o]? = some ob → ob.state = .inUse →
      ∀ j, (s.nodeD ob.node).height.toNat < j →
        ∃ v, s.tryGetValue env o = .ok v ∧ eval env s j ob.node = some v :=
  EffH.loop_fixpoint hw ha h hs

/-! ## V3: update handlers with write effects -/

/-- **Handler writes are immediate.**  While the handlers run (`status ≠ stabilising`), a returning run of write effects
is `immSteps es s` (each effect = the ordinary immediate write `wroteOutside`, `replace*` then log the value they
return); the subscription invariant — read with the status reset — is kept; only `vars`, heap markers, the recompute
heap, the counters and the log change (`AppliedL`); the cells are updated in program order and stamped with the
current round. -/
theorem handler_writes_immediate {env env0 : Env} {fuel : Nat} {es : List Effect} {arg : Int} {s s' : State}
    {u : Unit} (hst : s.status ≠ .stabilising) (hw : ∀ e, e ∈ es → (effWrite e).isSome = true) (hh : HandlesOK s)
    (Q : SubsH.QInv env0 (quiet s)) (h : (runEffects env fuel es arg).run.run s = (.ok u, s')) :
    s' = immSteps es s ∧ SubsH.QInv env0 (quiet s') ∧ AppliedL s s' ∧ HandlesOK s' ∧
    (∀ (v : Nat) (c : VarCell), s.vars[v]? = some c →
      s'.vars[v]? = some (cellAfter s.stabNum (writesTo v (writesOf es)) c)) :=
  runEffects_imm hst hw hh Q h

/-- **`stabilise_end` with deferred function writes and handlers with write effects**: `EndedW` (fields: the handler
bookkeeping `obs`, `node`, … exactly as `SubsH.Ended`; `logN`: the notifications logged are `SubsH.endNotifs env s`, in
that order; `logExt`: besides notifications only `note`s; `vars`: var phase, then handler writes in delivery order;
`q`: the subscription invariant). -/
theorem stabiliseEnd_with_handlers {env : Env} {fuel : Nat} {s s' : State} (hH : WHandlers env)
    (hpc : s.panicCountdown = none) (hst : s.status = .stabilising) (h2 : s.deadVars = [])
    (O : SubsH.ObsInv s [] []) (H : SubsH.HInv s)
    (hval : ∀ n, s.isNecessary n = true → (s.nodeD n).valid = true ∧ (s.value env n).isSome = true)
    (hh : HandlesOK s) (Q : SubsH.QInv (noEff env) (quiet (bump s)))
    (h : (stabiliseEnd env fuel).run.run s = (.ok (), s')) : EndedW env s s' :=
  stabiliseEnd_specW hH hpc hst h2 O H hval hh Q h

/-- **V3: one `stabilise`** with subscriptions, write effects in node functions and in update handlers: `WStab`. -/
theorem stabilise_handlers {env : Env} (hw : WOnly env) (hH : WHandlers env) {fuel : Nat} {s s' : State}
    (U : UInvE env s) (h : (stabilise env fuel).run.run s = (.ok (), s')) :
    ∃ t2 t3, WStab env fuel s t2 t3 s' :=
  stabilise_w hw hH U h

/-- the notifications of such a `stabilise`: none before the end of the drain, then exactly `endNotifs env t3` -/
theorem notifications_with_handlers {env : Env} {fuel : Nat} {s t2 t3 s' : State} (X : WStab env fuel s t2 t3 s') :
    notifs s'.log = (SubsH.endNotifs env t3).reverse ++ notifs s.log := by
  obtain ⟨pre, e, hp⟩ := X.mid.log
  rw [X.mid.ended.logN, e]
  unfold notifs
  rw [List.filter_append]
  have : pre.filter isNotif = [] := by
    rw [List.filter_eq_nil_iff]
    intro a ha
    have := hp a ha
    cases a <;> first | exact this.elim | simp [isNotif]
  rw [this, List.nil_append]

theorem stale_after_handlers {env : Env} {fuel : Nat} {s t2 t3 s' : State} (X : WStab env fuel s t2 t3 s')
    (m : Nat) (hm : s'.isNecessary m = true) :
    s'.isStale m = true ↔ ∃ v, (s'.nodeD m).kind = .var v ∧
      writesTo v (stepsWrites env (drainSteps env fuel t2) ++ writesOf (endEffs env t3)) ≠ [] :=
  X.stale_iff m hm

theorem isStable_after_handlers {env : Env} {fuel : Nat} {s t2 t3 s' : State} (X : WStab env fuel s t2 t3 s') :
    s'.isStable = true ↔
      ∀ v, writesTo v (stepsWrites env (drainSteps env fuel t2) ++ writesOf (endEffs env t3)) ≠ [] →
        ∀ m, (s'.nodeD m).kind = .var v → s'.isNecessary m = false :=
  X.isStable_iff

theorem init_inv_handlers (env : Env) (N : Nat) (d : Bool) : UInvE env (State.init N d) := uinve_init env N d

theorem action_keeps_handlers {env : Env} (hw : WOnly env) (hH : WHandlers env) {s s' : State} {a : Action}
    {tk : Array Nat} {r : String × Array Nat} (U : UInvE env s) (ha : WAction env a)
    (h : (stepAction env a tk).run.run s = (.ok r, s')) : UInvE env s' :=
  step_w hw hH U ha h

theorem history_inv_handlers {env : Env} (hw : WOnly env) (hH : WHandlers env) {N : Nat} {d : Bool}
    {acts : List Action} {s : State} {tk : Array Nat} (ha : ∀ a, a ∈ acts → WAction env a)
    (h : runActions env acts (State.init N d) #[] = .ok (s, tk)) : UInvE env s :=
  history_w hw hH ha h

theorem history_every_stabilise_handlers {env : Env} (hw : WOnly env) (hH : WHandlers env) {N : Nat} {d : Bool}
    {as bs : List Action} {s : State} {tk : Array Nat}
    (ha : ∀ a, a ∈ as ++ Action.stabilise :: bs → WAction env a)
    (h : runActions env (as ++ Action.stabilise :: bs) (State.init N d) #[] = .ok (s, tk)) :
    ∃ s1 tk1 s2 t2 t3, runActions env as (State.init N d) #[] = .ok (s1, tk1) ∧ UInvE env s1 ∧
      (stabilise env fuelDefault).run.run s1 = (.ok (), s2) ∧ WStab env fuelDefault s1 t2 t3 s2 ∧
      runActions env bs s2 tk1 = .ok (s, tk) :=
  history_stabilise_w hw hH ha h

theorem stable_reads_handlers {env : Env} {s : State} (U : UInvE env s) (hs : s.isStable = true) :
    ∀ (o : Nat) (ob : ObsRec), s.observers[o]? = some ob → ob.state = .inUse →
      ∀ k, (s.nodeD ob.node).height.toNat < k →
        ∃ v, s.tryGetValue env o = .ok v ∧ eval env s k ob.node = some v :=
  stable_readsU U hs

theorem loop_fixpoint_handlers {env : Env} (hw : WOnly env) (hH : WHandlers env) {N : Nat} {d : Bool}
    {acts : List Action} {k : Nat} {s : State} {tk : Array Nat} (ha : ∀ a, a ∈ acts → WAction env a)
    (h : runActions env (acts ++ List.replicate k Action.stabilise) (State.init N d) #[] = .ok (s, tk))
    (hs : s.isStable = true) :
    ∀ (o : Nat) (ob : ObsRec), s.observers[o]? = some ob → ob.state = .inUse →
      ∀ j, (s.nodeD ob.node).height.toNat < j →
        ∃ v, s.tryGetValue env o = .ok v ∧ eval env s j ob.node = some v :=
  loop_fixpoint_w hw hH ha h hs

/-! ## C09 with effects: what the handlers are told -/

/-- **S2 with effects**: the notifications in the log grow by `del` = the expected notification (`SubsH.expected`) of
every handler record registered before the call, every token at most once -/
theorem delivers_with_effects {env : Env} (hw : WOnly env) (hH : WHandlers env) {fuel : Nat} {s s' : State}
    (U : UInvE env s) (h : (stabilise env fuel).run.run s = (.ok (), s')) :
    ∃ del : List Event, notifs s'.log = del.reverse ++ notifs s.log ∧
      (∀ e, e ∈ del → ∃ t u, e = .notif t u) ∧
      (∀ t u, Event.notif t u ∈ del ↔
        ∃ (o : Nat) (ob : ObsRec) (h : HandlerRec), s.observers[o]? = some ob ∧ h ∈ ob.handlers ∧
          h.token = t ∧ SubsH.expected s s' o h = some u) ∧
      (del.filterMap SubsH.notifTok).Nodup :=
  stabilise_delivers_w hw hH U h

/-- what a record on a created or in-use observer is told: the observer is in use afterwards and reads `v`;
`Initialised v` if the handler was never called, else `Changed v` iff the stored value of the node is not the one from
before the call, else nothing.  (`v` is computed from the pre-stabilise variables: `WStab.values`.) -/
theorem expected_live_with_effects {env : Env} {fuel : Nat} {s t2 t3 s' : State} (U : UInvE env s)
    (X : WStab env fuel s t2 t3 s') {o : Nat} {ob : ObsRec} (h : HandlerRec)
    (ho : s.observers[o]? = some ob) (hs : ob.state = .created ∨ ob.state = .inUse) :
    ∃ ob' v, s'.observers[o]? = some ob' ∧ ob'.node = ob.node ∧ ob'.state = .inUse ∧
      (s'.nodeD ob.node).value = some v ∧ s'.tryGetValue env o = .ok v ∧
      SubsH.expected s s' o h = (if h.prev = .neverBeenUpdated then some (.initialised v)
        else if (s.nodeD ob.node).value = some v then none else some (.changed v)) :=
  expected_live_w U X h ho hs

theorem expected_dead_with_effects {env : Env} {fuel : Nat} {s t2 t3 s' : State} (U : UInvE env s)
    (X : WStab env fuel s t2 t3 s') {o : Nat} {ob : ObsRec} (h : HandlerRec)
    (ho : s.observers[o]? = some ob) (hs : ¬ (ob.state = .created ∨ ob.state = .inUse)) :
    SubsH.expected s s' o h = none :=
  expected_dead_w U X h ho hs

/-- **S3 / C09 with effects**: along every history of the fragment the updates logged for token `t` are exactly
`SubsH.specT` -/
theorem history_notifications_with_effects {env : Env} (hw : WOnly env) (hH : WHandlers env) {N : Nat} {d : Bool}
    {acts : List Action} {s : State} {tk : Array Nat} (ha : ∀ a, a ∈ acts → WAction env a)
    (h : runActions env acts (State.init N d) #[] = .ok (s, tk)) (t : Nat) :
    SubsH.tokLog t s.log = SubsH.specT env t acts (State.init N d) #[] [] :=
  history_notifications_w hw hH ha h t

theorem history_shape_with_effects {env : Env} (hw : WOnly env) (hH : WHandlers env) {N : Nat} {d : Bool}
    {acts : List Action} {s : State} {tk : Array Nat} (ha : ∀ a, a ∈ acts → WAction env a)
    (h : runActions env acts (State.init N d) #[] = .ok (s, tk)) (t : Nat) : SubsH.Shape (SubsH.tokLog t s.log) :=
  history_shape_w hw hH ha h t

/-! ## non-vacuity -/

/-- `f0` = sum of the integer views; `f2` = first argument, and it sets `v1 := 3`; `f3` = first argument, and it does
`modify(v1, +1)` (mod 7) -/
def exEnvW : Env :=
  { Step.exEnv with
    fnEff := fun f _ => if f = 2 then [.setVar 1 (.int 3)] else if f = 3 then [.modifyVar 1 1] else [] }

theorem exEnvW_wonly : WOnly exEnvW := by
  intro f vals e he
  simp only [exEnvW] at he
  split at he
  · simp only [List.mem_singleton] at he; subst he; rfl
  · split at he
    · simp only [List.mem_singleton] at he; subst he; rfl
    · cases he

/-- `v0 = 1`, `v1 = 5`, `n2 = f2(v0)` (writes `v1 := 3`), `n3 = v1 + n2`, `n4 = f3(v0)` (writes `v1 += 1`),
`n5 = n3 + n4`, observe `n5`, stabilise, stabilise -/
def exHist : List Action :=
  [.create (.var (.int 1)), .create (.var (.int 5)), .create (.map 2 [.outer 0]),
   .create (.map 0 [.outer 1, .outer 2]), .create (.map 3 [.outer 0]), .create (.map 0 [.outer 3, .outer 4]),
   .observe (.outer 5), .stabilise, .stabilise]

theorem exHist_actions : ∀ a, a ∈ exHist → EAction exEnvW a := by
  intro a ha
  simp only [exHist, List.mem_cons, List.mem_nil_iff, or_false] at ha
  rcases ha with rfl | rfl | rfl | rfl | rfl | rfl | rfl | rfl | rfl
  all_goals first
    | trivial
    | (refine ⟨by decide, fun _ _ => rfl, ?_⟩
       intro a ha
       simp only [List.mem_cons, List.mem_nil_iff, or_false] at ha
       first
         | (rcases ha with rfl | rfl <;> trivial)
         | (subst ha; trivial))

def ranOk (env : Env) (acts : List Action) : Bool :=
  match runActions env acts (State.init 128 true) #[] with
  | .ok _ => true
  | .error _ => false

/-- what observer `o` reads after the history -/
def readAfter (env : Env) (acts : List Action) (o : Nat) : Option Val :=
  match runActions env acts (State.init 128 true) #[] with
  | .ok (s, _) => match s.tryGetValue env o with | .ok v => some v | .error _ => none
  | .error _ => none

/-- the logical value of variable `v` after the history -/
def varAfter (env : Env) (acts : List Action) (v : Nat) : Option Val :=
  match runActions env acts (State.init 128 true) #[] with
  | .ok (s, _) => (s.vars[v]?).map (·.value)
  | .error _ => none

def stableAfter (env : Env) (acts : List Action) : Option Bool :=
  match runActions env acts (State.init 128 true) #[] with
  | .ok (s, _) => some s.isStable
  | .error _ => none

theorem ranOk_iff {env : Env} {acts : List Action} (h : ranOk env acts = true) :
    ∃ s tk, runActions env acts (State.init 128 true) #[] = .ok (s, tk) := by
  unfold ranOk at h
  rcases hx : runActions env acts (State.init 128 true) #[] with e | ⟨s, tk⟩
  · rw [hx] at h; cases h
  · exact ⟨s, tk, rfl⟩

set_option maxRecDepth 100000 in
/-- the example history is in the fragment and runs, so all theorems above apply to it (in particular
`history_every_stabilise` to both of its `stabilise`s) -/
example : ∃ s tk, runActions exEnvW exHist (State.init 128 true) #[] = .ok (s, tk) ∧ EInv exEnvW s := by
  obtain ⟨s, tk, h⟩ := ranOk_iff (env := exEnvW) (acts := exHist) (by decide +kernel)
  exact ⟨s, tk, h, history_inv exEnvW_wonly exHist_actions h⟩

set_option maxRecDepth 100000 in
/-- after the FIRST `stabilise`: the reader `n3 = v1 + n2` ran after both writers and still saw the old `v1 = 5`
(`n5 = (5 + 1) + 1 = 7`); the two writes composed in program order (`v1 = (3 + 1) mod 7 = 4`: the later write wins over /
builds on the earlier one); `is_stable()` is false.  After the SECOND: `n5 = (4 + 1) + 1 = 6`, consistent with the final
`v1 = 4`, and `is_stable()` is true. -/
example : readAfter exEnvW (exHist.take 8) 0 = some (.int 7) ∧
    varAfter exEnvW (exHist.take 8) 1 = some (.int 4) ∧
    stableAfter exEnvW (exHist.take 8) = some false ∧
    readAfter exEnvW exHist 0 = some (.int 6) ∧
    varAfter exEnvW exHist 1 = some (.int 4) ∧
    stableAfter exEnvW exHist = some true :=
  by decide +kernel

/-! ### V3 example -/

/-- `f0`, `f1` = first argument; `f1` also sets `v1 := 4`; handler `h0` does `modify(v1, +1)` and then
`replace(v1, 2)` -/
def exEnvH : Env :=
  { Step.exEnv with
    fn := fun _ vals => vals.headD .unit
    fnEff := fun f _ => if f = 1 then [.setVar 1 (.int 4)] else []
    handler := fun _ _ => [.modifyVar 1 1, .replaceVar 1 (.int 2)] }

theorem exEnvH_wonly : WOnly exEnvH := by
  intro f vals e he
  simp only [exEnvH] at he
  split at he
  · simp only [List.mem_singleton] at he; subst he; rfl
  · cases he

theorem exEnvH_whandlers : WHandlers exEnvH := by
  intro hid u e he
  simp only [exEnvH, List.mem_cons, List.mem_nil_iff, or_false] at he
  rcases he with rfl | rfl <;> rfl

/-- `v0 = 1`, `v1 = 5`, `n2 = f1(v0)` (writes `v1 := 4`), `n3 = f0(v1)`, observers `o0` on `n2`, `o1` on `n3`, subscribe
`h0` to `o0`, stabilise, stabilise, `set v0 2`, stabilise, stabilise -/
def exHistH : List Action :=
  [.create (.var (.int 1)), .create (.var (.int 5)), .create (.map 1 [.outer 0]), .create (.map 0 [.outer 1]),
   .observe (.outer 2), .observe (.outer 3), .subscribe 0 0, .stabilise, .stabilise, .set 0 (.int 2), .stabilise,
   .stabilise]

theorem exHistH_actions : ∀ a, a ∈ exHistH → WAction exEnvH a := by
  intro a ha
  simp only [exHistH, List.mem_cons, List.mem_nil_iff, or_false] at ha
  rcases ha with rfl | rfl | rfl | rfl | rfl | rfl | rfl | rfl | rfl | rfl | rfl | rfl
  all_goals first
    | trivial
    | (refine ⟨by decide, fun _ _ => rfl, ?_⟩
       intro a ha
       simp only [List.mem_cons, List.mem_nil_iff, or_false] at ha
       subst ha; trivial)

/-- the events logged by the history, oldest first, rendered as in the traces -/
def logAfter (env : Env) (acts : List Action) : Option (List String) :=
  match runActions env acts (State.init 128 true) #[] with
  | .ok (s, _) => some (s.log.reverse.map Event.render)
  | .error _ => none

set_option maxRecDepth 100000 in
/-- the example is in the fragment and runs: all V3 theorems apply to it -/
example : ∃ s tk, runActions exEnvH exHistH (State.init 128 true) #[] = .ok (s, tk) ∧ UInvE exEnvH s := by
  obtain ⟨s, tk, h⟩ := ranOk_iff (env := exEnvH) (acts := exHistH) (by decide +kernel)
  exact ⟨s, tk, h, history_inv_handlers exEnvH_wonly exEnvH_whandlers exHistH_actions h⟩

set_option maxRecDepth 100000 in
/-- first `stabilise`: the function defers `v1 := 4`; the handler is told `Initialised 1` and then — immediately —
does `v1 += 1` (5) and `replace(v1, 2)`, which returns 5 (the logged `note`): the final `v1` is 2, although the reader
`n3` of `v1` still shows the pre-stabilise 5 and `is_stable()` is false; the second `stabilise` propagates 2 and is
stable.  After `set v0 2` the same happens with `Changed 2`. -/
example : readAfter exEnvH (exHistH.take 8) 1 = some (.int 5) ∧
    varAfter exEnvH (exHistH.take 8) 1 = some (.int 2) ∧
    stableAfter exEnvH (exHistH.take 8) = some false ∧
    readAfter exEnvH (exHistH.take 9) 1 = some (.int 2) ∧
    stableAfter exEnvH (exHistH.take 9) = some true ∧
    varAfter exEnvH (exHistH.take 11) 1 = some (.int 2) ∧
    stableAfter exEnvH (exHistH.take 11) = some false ∧
    stableAfter exEnvH exHistH = some true ∧
    logAfter exEnvH exHistH = some
      ["inv f1@n2 (1)->1", "inv f0@n3 (5)->5", "notif t0 Initialised 1", "note replace v1 -> 5",
       "inv f0@n3 (2)->2", "inv f1@n2 (2)->2", "notif t0 Changed 2", "note replace v1 -> 5"] :=
  by decide +kernel

/-- the updates logged for token `t` by the history -/
def tokLogAfter (env : Env) (acts : List Action) (t : Nat) : Option (List Update) :=
  match runActions env acts (State.init 128 true) #[] with
  | .ok (s, _) => some (SubsH.tokLog t s.log)
  | .error _ => none

set_option maxRecDepth 100000 in
/-- token 0 receives `Initialised 1`, `Changed 2`, and the specification `specT` computes the same list (as
`history_notifications_with_effects` proves for every history) -/
example : tokLogAfter exEnvH exHistH 0 = some [.initialised (.int 1), .changed (.int 2)] ∧
    SubsH.specT exEnvH 0 exHistH (State.init 128 true) #[] [] = [.initialised (.int 1), .changed (.int 2)] :=
  by decide +kernel

end IncrVerif.Props.C08History
