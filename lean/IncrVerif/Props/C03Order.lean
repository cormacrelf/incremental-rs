import IncrVerif.Proofs.BindH3
import IncrVerif.Proofs.BindH13
import IncrVerif.Proofs.BindH18
import IncrVerif.Proofs.BindH44
import IncrVerif.Proofs.BindH79
import IncrVerif.Proofs.BindH86
import IncrVerif.Proofs.BindH87
import IncrVerif.Proofs.BindF1F2Q
import IncrVerif.Proofs.BindH97
import IncrVerif.Proofs.BindH100
import IncrVerif.Proofs.BindH102
import IncrVerif.Proofs.BindH106
import IncrVerif.Proofs.BindH111
/-!
# C03 (ordering) — nodes built inside a bind closure never run before the bind's change detector

A bind `x.bind(f)` is two nodes: `bindLhsChange b` (the CHANGE DETECTOR: child `x`; its recompute runs the closure,
invalidates the nodes the previous run created, installs the new right-hand side) and `bindMain b lc`.  C03 needs:
within one stabilisation the change detector of `b` runs BEFORE any node created in scope `.bind b`, so that a node
of a generation that is about to die never runs on the new input.

## PROVED HERE (milestone B1, "the ordering lemma"; pure logic over explicit invariants, for the model)

`BindH.OrderInv s x` (`Proofs/BindH1.lean`) — the invariants of a state `s` during a drain, `x` = the node that is
running / about to run:
* `heap : Sched.HeapInv s` (`HeapWF`, queued node sits in the bucket of its height, lower bound below every queued
  node and `≥ 0`, queued ⟹ necessary);
* `scope` (THE SCOPE HEIGHT RULE): a valid necessary node created in scope `.bind b` is strictly higher than the
  change detector of `b`;
* `scopeNec`: such a node makes the change detector of `b` necessary;
* `pending`: a necessary stale node is queued or is `x`;
* `mainLc`: a valid necessary `bindMain b' lc'`: `lc'` exists, is valid, necessary and was created in the same scope;
* `lcPar`: a parent of the change detector of `b` was not created in scope `.bind b`.

`BindH.Settled s b`: the change detector of `b` is neither queued nor stale ("it has had its chance in this round").

* `pop_order`: `OrderInv s none`, `remove_min` returns a VALID node `n` created in scope `.bind b` ⟹ `Settled` before
  and after the pop, and `n` is not the change detector.
* `handover_order`: `OrderInv s (some c)`, `p` a necessary parent of the running node `c`, created in scope `.bind b`,
  `parent_iter_can_recompute_now p c = true` (the direct-recompute chain, BOTH ways it can answer `true`: the flag
  `child.height > scope.height ∧ min_height > scope.height` — for a `bindMain` parent with ITS change detector in
  place of the scope — and `p.height ≤ min_height`) ⟹ `Settled` before and after the call; the change detector is
  neither `c` nor `p`.
* `queued_blocks_handover` (what the D2 repair `min_height > scope.height()` buys): while the change detector of `b`
  is queued, `parent_iter_can_recompute_now` answers `true` for NO valid necessary node of scope `b`.
* Boolean checkers `BindH.heapInvB`, `BindH.orderInvB` with soundness proofs (`Proofs/BindH2.lean`).
* Non-vacuity (`Proofs/BindH3.lean`, all by kernel evaluation of the model on histories run through `stepAction`):
  `exA` — a history (two vars, `bind`, observe, stabilise, write) whose drain reaches a state satisfying `OrderInv`
  in which `remove_min` returns a node created in the bind's scope; `exB` — the same with a one-child closure node:
  the hand-over really happens; `exD` — a state in which the change detector is queued, a node of its scope has a
  changed child ABOVE the scope height, and only the `min_height` guard keeps it from running at once.

## PROVED HERE (milestone B3, pure part: the drain invariant with a CHANGING graph; `Proofs/BindH4.lean` … `BindH13.lean`)

FRAGMENT (of states): every valid node is of kind `const`, `var`, pure `map`, `fold`, `bindLhsChange`, `bindMain`; cutoff `.eq`/`.never`;
no fault armed.  Nodes may be created, re-linked, made (un)necessary and invalidated DURING the drain by the runs of change detectors.
* `BindH.Edge s a c`: `c ∈ s.children a` (for ANY valid `a`, necessary or not), or `a` is a valid node created in scope `.bind b` and `c` is the change
  detector of `b` (virtual edge: the scope height rule makes the change detector a quasi-child of every node of its scope); `BindH.Below` = its
  reflexive-transitive closure.
* `BindH.BGraph env s`: structure at rest between two `recomputeOne`s (kinds, edge symmetry with indices, heights strictly decreasing along recorded
  edges, the scope height rule, bind kinds ↔ records, acyclicity of all edges).
* `BindH.DInv env s x` — the drain invariant (`x` = node about to run): `graph`, `heap` (`Sched.HeapInv`), `stamps`, `qstale` (queued ⟹ stale), `pending`
  (necessary ∧ stale ⟹ queued ∨ current), `cons` (EVERY valid non-stale node, necessary or not, satisfies its defining equation `ConsistentB`: for `bindMain`
  value = value of the bind's current rhs), `fresh` (if `d` is stale or current and `Below s a d` then `a` has not been recomputed in this round — through ALL
  edges, including edges of unnecessary nodes and the virtual scope edges: this is what survives re-linking), `cur` (nothing at or below the current node is queued).
* `BindH.StepRelB` (a run of a static or `bindMain` node: the graph is unchanged; generalises `Sched.StepRel`, the hand-over condition `HandOK` includes the D2 guard
  `ScopeClear`) and `BindH.StepL` (a run of a change detector: new nodes, dead nodes, the new record, wholesale structure of the new state, frame for old nodes).
THEOREMS.
* `recomputeOne_stepB` (monadic, no hypothesis beyond `BGraph`/`HeapInv`): a successful `recomputeOne` on a necessary static or `bindMain` node whose children have
  values satisfies `StepRelB` with the node's `TargetB` value — parents may be bind nodes, all three ways `parent_iter_can_recompute_now` can say yes are covered.
* `stepB_inv`, `stepL_inv` (pure): `DInv env s (some n)` + the step relation ⟹ `DInv env s' r`.
* `pop_invB`, `recomputeOne_invB`, `recompute_invB`, `drainHeap_invB`: the drain keeps `DInv` (and an auxiliary invariant `Aux`), GIVEN `LcStepsOK env Aux`:
  every successful run of a change detector from a state with `DInv ∧ Aux` satisfies `StepL` and keeps `Aux` (and the other steps keep `Aux`).
* `drainHeap_valuesB`: then, after a successful `drainHeap`, every necessary node is valid, not stale, and carries (stored value and observer read) `evalB env s' k n` —
  from-scratch evaluation in which a bind's main node evaluates to the from-scratch value of the bind's CURRENT rhs; every necessary change detector is non-stale
  (it last ran on the current lhs value).
* `drain_onceB`: the nodes run by the drain are pairwise distinct (no node runs twice); each had not run in this round before and is STILL VALID at the end of
  the drain — no node of a generation invalidated during this drain was recomputed in it.
* `scope_not_yet_run` (C03, step form): when a change detector is about to run, no valid node of its scope has been recomputed in this round;
  `scope_node_settled` (C03, ordering form): when a valid node created in scope `.bind b` is about to run, the change detector of `b` is neither queued nor stale.

## PROVED HERE (milestone B2 + B3 END TO END for fragment F0; `Proofs/BindH19.lean` … `BindH44.lean`)

FRAGMENT F0 (`BindH.F0Inv env s`, carried through the drain as auxiliary invariant): every node is valid and top-level, of kind `const`/`var`/pure `map`/`fold`/`bindLhsChange`/
`bindMain`; bind closures CREATE NO NODES: they return (`ret nK`) a top-level node that is OLDER than the bind and is not a change detector (`closures`, `rhsOld`); change
detectors are unobserved and have cutoff `.never`; no node is forced necessary; the adjust-heights heap is empty; `propagateInvalidity` is empty.  So the GRAPH CHANGES during the
drain (a bind's main node is re-linked to another right-hand side, nodes become necessary/unnecessary, heights are adjusted), but no node is created or invalidated.
* `BindH.GInvB env s op ex` (`BindH19`): `Quiet.GInv` (structural invariant with open nodes `.linking k`/`.unlinking k`) for graphs with bind kinds, with a set `ex` of
  excused nodes (stale, necessary, unqueued: the running node; the main node while its bind's change detector runs).
* the two necessity cascades keep it: `becameNecessary_specB`, `addParentWithoutAdjustingHeights_specB` (`BindH20–22`), `checkIfUnnecessary_specB`, `becameUnnecessary_specB`,
  `removeChildren_specB`, `removeParent_dropLast*` (`BindH23–26`).
* `adjustHeights_specB` (`BindH27–29`): `adjustHeights child parent` from a state in which only the edges into `parent` may violate the height order re-establishes the whole
  invariant (heights only grow, queued nodes are re-bucketed, the adjust-heights heap is empty again); partial correctness, any `cfg.debug`.
* `relink_specB : RelinkSpec env` (`BindH30–35`): `modBind rhs; modNode changedAt; changeChildBindRhs` (old rhs unlinked and kept alive by `forceNecessary`, new rhs linked by
  `stateAddParent` incl. `adjustHeights`, `checkIfUnnecessary old`) keeps the structural invariant.
* `recomputeOne_lcF0` (`BindH36–41`): a successful run of a change detector from `DInv ∧ F0Inv` satisfies `StepL` and keeps `F0Inv`; `recomputeOne_stepB_F0`, `pop_F0` (`BindH42–43`).
* `lcStepsOK_F0 : LcStepsOK env (F0Inv env)`, hence WITHOUT any hypothesis about the steps: `drainHeap_F0` (values = `evalB` in the final graph, all change detectors non-stale),
  `drain_once_F0` (no node runs twice) (`BindH44`).

## PROVED HERE (milestone B2 + B3 END TO END for fragment F1: closures that CREATE nodes; `Proofs/BindH45.lean` … `BindH79.lean`)

FRAGMENT F1 (`BindH.F1Inv env s`, `BindH.All1`, `BindH.GInv1`): top-level nodes `const`/`var`/pure `map`/`fold`/`bindLhsChange`/`bindMain` (valid for ever); a run of the
closure of bind `b` elaborates a template (`TemplOK`) whose instructions are `const`, `lhsConst`, pure `map`, `fold` — each creates one node in scope `.bind b` — over top-level
nodes OLDER than the bind (`.outer k`) and earlier locals (`.loc j`), and returns one of these; NO nested binds.  When the change detector runs again the previous generation is invalidated.
* `BindH.rkOf`: a rank that decreases along every child edge and from a scope node to the change detector of its scope (creation order does not: a bind's main node is older than
  the nodes its closure creates); injective (`All1.rk_inj`).
* `BindH.GInv1 env s op ex dy` (`BindH45`): `GInvB` + THE SCOPE HEIGHT RULE `scopeH` (a closed necessary valid node of scope `b` is strictly higher than `b`'s change detector) + invalid
  nodes are isolated (`inv`) + scope nodes/change detectors are unobserved; `All1.gen`: the registered nodes `allNodesCreatedOnRhs` (plus the dying generation `dy`) are EXACTLY the valid
  nodes of the scope; `GInv1.scope_no_parents` (scope necessity: nodes of a scope are necessary only through the bind's main node), `bgraph_of_ginv1`.
* the cascades in rank order: `becameNecessary_spec1` (a node created in a scope starts at `scope.height() + 1`; when a change detector becomes necessary no node of its scope is),
  `addParentWithoutAdjustingHeights_spec1`, `checkIfUnnecessary_spec1`, `removeParent_dropLast*1` (`BindH49–57`).
* `adjustHeights_spec1` (`BindH58–60`): the loop over `allNodesCreatedOnRhs` restores the scope height rule when a change detector is raised.
  The cascades, `adjustHeights_spec1` and `relink_spec1` are the statements of fragment F2 (`NestH8–30`) at the rank `rkOf s`: `GInv1` is `GInv2` at that
  rank together with the static facts `All1` (`BindF1F2`).
* the four phases of a run of a change detector: `closure_spec1 : ClosureSpec1 env` (`elabTemplate`: node creation in the scope, `BindH62–65`), `relink_spec1 : RelinkSpec1 env`
  (`changeChildBindRhs`; from `relink_spec2` at the rank `rkOf`, `BindH67`, `BindH70`), `inval_spec1 : InvalSpec1 env` (the previous generation is invalidated, `BindH71–72`), and `recomputeOne_lcF1` (`BindH73–77`): the run
  satisfies `StepL` and keeps `F1Inv`; `recomputeOne_stepB_F1`, `pop_F1` (`BindH78`).
* `lcStepsOK_F1 : LcStepsOK env (F1Inv env)`, hence WITHOUT any hypothesis about the steps: `drainHeap_F1`, `drain_once_F1` (`BindH79`).

## PROVED HERE (milestone B4: the invariant between API actions, `stabilise`, API actions; `Proofs/BindH80.lean` … `BindH97.lean`)

* `BindH.QInv1 env s` (`BindH80`): `Struct1` (structural invariant at rest: the heap holds EXACTLY the necessary stale nodes) + `F1Inv` + `VarsOK` + `ObsOK` + observers watch top-level nodes
  that are not change detectors + all stamps from earlier rounds + EVERY valid non-stale node (necessary or not) satisfies its defining equation + nothing deferred.
* programs: `BindH.ActionF1 env T a` (`T` = number of handles created so far): `create` of `const`/`var`/pure `map`/`fold`/`zip` over handles, `create (bind body (outer k))` with
  `BodyF1 env T body` (for EVERY input value the closure's template consists of `const`/`lhsConst`/pure `map`/`fold` over handles `n0 … n(T-1)` and earlier locals), `observe`, `cloneObs`,
  `dropObs`, `disallow`, the five write operations, `get`, `stabilise`, `isStable`, `stats`.
* `step_create1` (incl. `createBind`), `step_observe1`, `step_cloneObs1`, `step_dropObs1`, `step_disallow1`, `writeVar_q1`, `step_write1`: each action that returns keeps `QInv1` (`BindH81–88`).
* `addNewObservers_s1`, `unlinkDisallowedObservers_s1` (`BindH89–90`): the observer prefix of `stabilise` keeps the structure (cascades through bind nodes and scopes).
* `recomputeOne_dkey`, `pop_dkey` (`BindH95–96`): every step of a drain leaves the observer tables, deferred lists, status alone and keeps kinds/scopes/observer lists of existing nodes.
* `stabilise_F1` (`BindH97`): from `QInv1`, a successful `stabilise` with ARBITRARY pending new/disallowed observers ends in `QInv1`; variables unchanged; every necessary node valid,
  non-stale, reading `evalB` in the final graph; the drain ran no node twice and no node of a generation that died in it.  `stabilise_reads_F1`: every in-use observer reads `evalB` of its node.
* `BindH.den` (`BindH98`): the specification-level FROM-SCRATCH semantics — a bind's main node: evaluate the lhs, apply the closure `env.body` to that value, evaluate the template it
  yields (`denT`); no node created by a closure is looked at.  `GenOK env s` ("generations are current"): for every non-stale change detector the bind's registered nodes and rhs are the
  image (`ElabOf`) of the template for the CURRENT lhs value.  `closure_elab` (`BindH101–102`): the closure run registers exactly that image.  `den_of_consistent_fuel` (`BindH99–100`):
  with `GenOK`, the stored value of every necessary top-level node is `den`.

## PROVED HERE (whole histories; `Proofs/BindH103.lean` … `BindH111.lean`)

* `lcStepsOK_gen`, `drainHeap_gen`, `stabilise_gen`, `step_gen`, `genOK_init` (`BindH103–105`): `GenOK` ("generations are current") is kept by every step of a drain, by `stabilise`, by every API action.
* `stabilise_reads_den` (`BindH105`): after a `stabilise` every in-use observer reads `den env s' k node` — the specification-level from-scratch value.
* `DInv.orderInv` (`BindH106`): the drain invariant implies the hypotheses `OrderInv` of the B1 ordering lemmas (given that bind records name change detectors).
* `BindH.HistF1 env T acts` (`BindH109`): a history of the fragment (`ActionF1` for each action, `T` counting the handles created so far); `step_q1`, `qinv1_init`, `history_q1`.
* `BindH.QG env s := QInv1 env s ∧ GenOK env s`; `step_F1`, `history_F1`: EVERY state reached from `State.init N d` by a history of the fragment (that runs without panic) satisfies `QG`;
  `history_stabilise_F1`: at EVERY `stabilise` of such a history: the state before satisfies `QG`, the `stabilise` returns with all conclusions of `stabilise_F1`, and every in-use observer reads
  `den` of its node (`BindH111`).
* Non-vacuity (`BindH110–111`): `exHistB` (two vars; `bind b0 v0` whose closure creates `map f0 [n1, n1]` on an even and `map f0 [n1]` on an odd lhs value; observe; stabilise; `v0 := 1`;
  stabilise; `v1 := 5`; stabilise) is a history of the fragment, runs (kernel evaluation), reads `2`, `1`, `5` after the three stabilises; at the second one the closure variant switches:
  node 4 is invalidated and node 5 created (`exHistB_switch`).

## ASSUMED (explicit hypotheses), NOT PROVED HERE

PARTIAL CORRECTNESS throughout: every theorem assumes that the call / the history returns `(.ok _, s')` (no panic, enough fuel); total correctness (that valid histories with binds never panic)
is NOT proved here.  Outside fragments F0/F1 (nested binds, closures referring to nodes younger than the bind, `map_ref`, `map_with_old`, expert nodes, user cutoffs, effects), `LcStepsOK env Aux` (the structural half, milestone B2: that `recomputeOne` on a change detector — closure run, `elabTemplate`, `changeChildBindRhs`, `adjustHeights`,
invalidation of the old generation — satisfies `StepL`) is a HYPOTHESIS of the drain theorems here.  It was validated by running the Boolean versions of `DInv`,
`StepRelB`, `StepL` (`BindH.dinvB`, `stepRelBReport`, `stepLReport`) on every step of the drains of 400 generated histories of the fragment (9009 steps, 1739 runs of
change detectors, 0 violations).  The B1 theorems take `OrderInv` as a hypothesis; `DInv` implies what they need.  The theorems say nothing about INVALID popped nodes
(`recomputeOne` panics on them; that queued nodes are valid is `NecWF`, `Props/C05.lean`).
-/
namespace IncrVerif.Props.C03Order
open IncrVerif.Engine IncrVerif.Proofs IncrVerif.Proofs.Sched IncrVerif.Proofs.BindH

/-- **Ordering lemma, pop.** In a draining state with the ordering invariants, a VALID node `n` created in scope
`.bind b` that `remove_min` returns finds the change detector of `b` neither queued nor stale (before the pop and
in the state in which `n` is about to run); `n` is not that change detector. -/
theorem pop_order {s s1 : State} {n b : Nat} (I : OrderInv s none)
    (hr : rchRemoveMin.run.run s = (.ok (some n), s1))
    (hv : (s.nodeD n).valid = true) (hsc : (s.nodeD n).createdIn = .bind b) :
    Settled s b ∧ Settled s1 b ∧ ∀ br, s.binds[b]? = some br → br.lhsChange ≠ n :=
  BindH.pop_order I hr hv hsc

/-- non-vacuity: `exA` is reached by running a history; it satisfies the invariants; the pop returns node 4, valid,
created in scope `.bind 0`; hence the conclusion -/
example : OrderInv exA none ∧ rchRemoveMin.run.run exA = (.ok (some 4), after rchRemoveMin exA) ∧
    (exA.nodeD 4).valid = true ∧ (exA.nodeD 4).createdIn = .bind 0 ∧ Settled exA 0 :=
  ⟨exA_order, exA_pop, by decide +kernel, by decide +kernel,
    (BindH.pop_order exA_order exA_pop (by decide +kernel) (by decide +kernel)).1⟩

/-- **Ordering lemma, hand-over.** `c` is the running node, `p` a necessary parent of `c` created in scope `.bind b`.
If `parent_iter_can_recompute_now p c` answers `true`, the change detector of `b` is neither queued nor stale, and it
is neither `c` nor `p`. -/
theorem handover_order {s s' : State} {c p i b : Nat} (I : OrderInv s (some c))
    (hpar : (p, i) ∈ (s.nodeD c).parents)
    (hr : (parentIterCanRecomputeNow p c).run.run s = (.ok true, s'))
    (hnec : s.isNecessary p = true) (hsc : (s.nodeD p).createdIn = .bind b) :
    Settled s b ∧ Settled s' b ∧ ∀ br, s.binds[b]? = some br → br.lhsChange ≠ c ∧ br.lhsChange ≠ p :=
  BindH.handover_order I hpar hr hnec hsc

/-- non-vacuity: in `exB` node 1 (a var) is current, node 4 (`map f0 [1]`, created in scope `.bind 0`) is its parent
and the call answers `true` -/
example : OrderInv exB (some 1) ∧ (4, 0) ∈ (exB.nodeD 1).parents ∧
    (parentIterCanRecomputeNow 4 1).run.run exB = (.ok true, after (parentIterCanRecomputeNow 4 1) exB) ∧
    exB.isNecessary 4 = true ∧ (exB.nodeD 4).createdIn = .bind 0 :=
  ⟨exB_order, by decide +kernel, exB_handover, by decide +kernel, by decide +kernel⟩

/-- **The D2 guard.** While the change detector of `b` is queued, no valid necessary node of scope `b` is handed
over for direct recomputation. -/
theorem queued_blocks_handover {s s' : State} {x : Option Nat} {c p b : Nat} {br : BindRec} (I : OrderInv s x)
    (hb : s.binds[b]? = some br) (hq : (s.nodeD br.lhsChange).inRch = true)
    (hv : (s.nodeD p).valid = true) (hnec : s.isNecessary p = true) (hsc : (s.nodeD p).createdIn = .bind b) :
    (parentIterCanRecomputeNow p c).run.run s ≠ (.ok true, s') :=
  BindH.queued_blocks_handover I hb hq hv hnec hsc

/-- non-vacuity: in `exD` the change detector (node 7, height 3) is queued, node 9 of its scope is valid and
necessary, its child node 5 (height 4, above the scope) is current; node 5's `recomputeOne` queues node 9 -/
example : OrderInv exD (some 5) ∧ (exD.binds[0]?.map (·.lhsChange)) = some 7 ∧ (exD.nodeD 7).inRch = true ∧
    (exD.nodeD 9).valid = true ∧ exD.isNecessary 9 = true ∧ (exD.nodeD 9).createdIn = .bind 0 ∧
    retOf (recomputeOne bEnv 9 5) exD = some none ∧
    ((after (recomputeOne bEnv 9 5) exD).nodeD 9).inRch = true :=
  ⟨exD_order, by decide +kernel, by decide +kernel, by decide +kernel, by decide +kernel, by decide +kernel,
    by decide +kernel, by decide +kernel⟩

/-! ## B3: the drain invariant with a changing graph -/

/-- **One run of a static or bind-main node**, as a relation (no hypothesis on the rest of the drain). -/
theorem recomputeOne_stepB {env : Env} {fuel n : Nat} {s s' : State} {r : Option Nat}
    (g : BGraph env s) (hi : HeapInv s) (hn : s.isNecessary n = true)
    (hk : StaticKind env (s.nodeD n).kind ∨ ∃ b lc, (s.nodeD n).kind = .bindMain b lc)
    (hvals : ∀ c, c ∈ s.children n → ∃ v, (s.nodeD c).value = some v)
    (h : (recomputeOne env fuel n).run.run s = (.ok r, s')) :
    ∃ v ch, TargetB env s n v ∧ StepRelB n v ch r s s' :=
  BindH.recomputeOne_stepB g hi hn hk hvals h

/-- **A run of a static or bind-main node keeps the drain invariant.** -/
theorem stepB_inv {env : Env} {n : Nat} {v : Val} {ch : Bool} {r : Option Nat} {s s' : State}
    (I : DInv env s (some n)) (ht : TargetB env s n v) (R : StepRelB n v ch r s s') : DInv env s' r :=
  BindH.stepB_inv I ht R

/-- **A run of a change detector keeps the drain invariant** (from its relational description `StepL`). -/
theorem stepL_inv {env : Env} {n b : Nat} {br br' : BindRec} {r : Option Nat} {s s' : State}
    (I : DInv env s (some n)) (hk : (s.nodeD n).kind = .bindLhsChange b)
    (R : StepL env n b br br' r s s') : DInv env s' r :=
  BindH.stepL_inv I hk R

/-- **The drain.** Values after a successful `drainHeap`: every necessary node is valid, not stale, and reads its from-scratch value `evalB`. -/
theorem drainHeap_valuesB {env : Env} {Aux : State → Prop} (H : LcStepsOK env Aux) {fuel : Nat} {s s' : State}
    (I : DInv env s none) (hA : Aux s) (h : (drainHeap env fuel).run.run s = (.ok (), s')) :
    DInv env s' none ∧ Aux s' ∧ s'.rch.length = 0 ∧ s'.vars = s.vars ∧ s'.stabNum = s.stabNum ∧
    ∀ n, s'.isNecessary n = true → ∀ k, (s'.nodeD n).height.toNat < k →
      (s'.nodeD n).valid = true ∧ s'.isStale n = false ∧
        (s'.nodeD n).value = evalB env s' k n ∧ s'.value env n = evalB env s' k n ∧
        (evalB env s' k n).isSome = true :=
  BindH.drainHeap_valuesB H I hA h

/-- **No node runs twice; no node of a dying generation runs.** -/
theorem drain_onceB {env : Env} {Aux : State → Prop} (H : LcStepsOK env Aux) (fuel : Nat) (s s' : State)
    (I : DInv env s none) (hA : Aux s) (h : (drainHeap env fuel).run.run s = (.ok (), s')) :
    (drainTrace env fuel s).Nodup ∧ ∀ m, m ∈ drainTrace env fuel s → RanOnceB s s' m :=
  BindH.drain_onceB H fuel s s' I hA h

/-- **C03, step form.** -/
theorem scope_not_yet_run {env : Env} {s : State} {n b m : Nat} {br : BindRec} (I : DInv env s (some n))
    (hb : s.binds[b]? = some br) (hlc : br.lhsChange = n)
    (hv : (s.nodeD m).valid = true) (hsc : (s.nodeD m).createdIn = .bind b) :
    (s.nodeD m).recomputedAt < s.stabNum :=
  BindH.scope_not_yet_run I hb hlc hv hsc

/-- **C03, ordering form.** -/
theorem scope_node_settled {env : Env} {s : State} {m b : Nat} {br : BindRec} (I : DInv env s (some m))
    (hb : s.binds[b]? = some br) (hsc : (s.nodeD m).createdIn = .bind b) :
    (s.nodeD br.lhsChange).inRch = false ∧ s.isStale br.lhsChange = false :=
  BindH.scope_node_settled I hb hsc

/-! ## B2 + B3 end to end, fragment F0 -/

/-- **The drain of an F0 program** (bind closures return older top-level nodes): no hypothesis about the steps. -/
theorem drainHeap_F0 {env : Env} {fuel : Nat} {s s' : State} (I : DInv env s none) (A : F0Inv env s)
    (h : (drainHeap env fuel).run.run s = (.ok (), s')) :
    DInv env s' none ∧ F0Inv env s' ∧ s'.rch.length = 0 ∧ s'.vars = s.vars ∧ s'.stabNum = s.stabNum ∧
    ∀ n, s'.isNecessary n = true → ∀ k, (s'.nodeD n).height.toNat < k →
      (s'.nodeD n).valid = true ∧ s'.isStale n = false ∧
        (s'.nodeD n).value = evalB env s' k n ∧ s'.value env n = evalB env s' k n ∧
        (evalB env s' k n).isSome = true :=
  BindH.drainHeap_F0 I A h

/-- **No node runs twice in a drain of an F0 program.** -/
theorem drain_once_F0 {env : Env} (fuel : Nat) (s s' : State) (I : DInv env s none) (A : F0Inv env s)
    (h : (drainHeap env fuel).run.run s = (.ok (), s')) :
    (drainTrace env fuel s).Nodup ∧ ∀ m, m ∈ drainTrace env fuel s → RanOnceB s s' m :=
  BindH.drain_once_F0 fuel s s' I A h

/-- a run of a change detector in F0 satisfies `StepL` and keeps the auxiliary invariant -/
theorem recomputeOne_lcF0 {env : Env} {fuel n b : Nat} {s s' : State} {r : Option Nat}
    (I : DInv env s (some n)) (A : F0Inv env s) (hk : (s.nodeD n).kind = .bindLhsChange b)
    (h : (recomputeOne env fuel n).run.run s = (.ok r, s')) :
    (∃ br br', StepL env n b br br' r s s') ∧ F0Inv env s' :=
  BindH.recomputeOne_lcF0 (relink_specB env) I A hk h

/-! ## B2 + B3 end to end, fragment F1 (closures create nodes) -/

/-- **The drain of an F1 program**: no hypothesis about the steps.  Values = `evalB` in the final graph; every necessary change detector is non-stale. -/
theorem drainHeap_F1 {env : Env} {fuel : Nat} {s s' : State} (I : DInv env s none) (A : F1Inv env s)
    (h : (drainHeap env fuel).run.run s = (.ok (), s')) :
    DInv env s' none ∧ F1Inv env s' ∧ s'.rch.length = 0 ∧ s'.vars = s.vars ∧ s'.stabNum = s.stabNum ∧
    ∀ n, s'.isNecessary n = true → ∀ k, (s'.nodeD n).height.toNat < k →
      (s'.nodeD n).valid = true ∧ s'.isStale n = false ∧
        (s'.nodeD n).value = evalB env s' k n ∧ s'.value env n = evalB env s' k n ∧
        (evalB env s' k n).isSome = true :=
  BindH.drainHeap_F1 I A h

/-- **C02 + C03 for F1 programs**: the nodes run by a drain are pairwise distinct; each had not run in this round before, and each is still VALID at the end — no node
of a generation that is invalidated during the drain ran in it. -/
theorem drain_once_F1 {env : Env} (fuel : Nat) (s s' : State) (I : DInv env s none) (A : F1Inv env s)
    (h : (drainHeap env fuel).run.run s = (.ok (), s')) :
    (drainTrace env fuel s).Nodup ∧ ∀ m, m ∈ drainTrace env fuel s → RanOnceB s s' m :=
  BindH.drain_once_F1 fuel s s' I A h

/-- a run of a change detector in F1 (closure run with node creation, re-linking, invalidation of the previous generation) satisfies `StepL` and keeps `F1Inv` -/
theorem recomputeOne_lcF1 {env : Env} {fuel n b : Nat} {s s' : State} {r : Option Nat}
    (I : DInv env s (some n)) (A : F1Inv env s) (hk : (s.nodeD n).kind = .bindLhsChange b)
    (h : (recomputeOne env fuel n).run.run s = (.ok r, s')) :
    (∃ br br', StepL env n b br br' r s s') ∧ F1Inv env s' :=
  BindH.recomputeOne_lcF1 (closure_spec1 env) (relink_spec1 env) (inval_spec1 env) I A hk h

/-! ## B4: `stabilise` and the API, programs with binds -/

/-- **`stabilise` on a program with binds** (fragment F1), arbitrary pending observers: see `Stabilised1` for the conclusions (invariant again, values = `evalB`, at most once, …). -/
theorem stabilise_F1 {env : Env} {fuel : Nat} {s s' : State} (Q : QInv1 env s)
    (h : (stabilise env fuel).run.run s = (.ok (), s')) : Stabilised1 env fuel s s' :=
  BindH.stabilise_F1 Q h

/-- after a `stabilise` every in-use observer reads the from-scratch value `evalB` of its node; every observer is in use or unlinked -/
theorem stabilise_reads_F1 {env : Env} {fuel : Nat} {s s' : State} (Q : QInv1 env s)
    (h : (stabilise env fuel).run.run s = (.ok (), s')) : ReadsOK1 env s' ∧ Quiet.ObsSettled s' :=
  BindH.stabilise_reads_F1 Q h

/-- creating a node — including `bind` — keeps the invariant between actions -/
theorem step_create1 {env : Env} {s s' : State} {i : Instr} {tokens : Array Nat} {r : String × Array Nat}
    (Q : QInv1 env s) (hi : InstrTop env s.top.size i)
    (h : (stepAction env (.create i) tokens).run.run s = (.ok r, s')) : QInv1 env s' :=
  BindH.step_create1 Q hi h

/-- a write outside `stabilise` keeps the invariant between actions -/
theorem writeVar_q1 {env : Env} {s s' : State} {v : Nat} {f : Val → Val} {isSet : Bool} {r : Val}
    (Q : QInv1 env s) (h : (writeVar v f isSet).run.run s = (.ok r, s')) :
    QInv1 env s' ∧ ∃ vc, s.vars[v]? = some vc ∧ r = vc.value ∧
      s'.vars[v]? = some { vc with value := f vc.value, setAt := s.stabNum } ∧ (∀ w, w ≠ v → s'.vars[w]? = s.vars[w]?) :=
  BindH.writeVar_q1 Q h

/-- the closure run registers exactly the image of the closure's template for the lhs value -/
theorem closure_elab {env : Env} {n b rhs : Nat} {br : BindRec} {s s' : State} {ex : Nat → Prop}
    (h : (Inval.lhsRunClosure env n b br).run.run s = (.ok rhs, s'))
    (I : GInv1 env s Quiet.allClosed ex []) (hah : AhhEmpty s) (hb : s.binds[b]? = some br) (hlc : br.lhsChange = n)
    (hT : ∀ v, TemplOK env s n (env.body br.body v))
    (htop : ∀ (k r : Nat), s.top[k]? = some r →
      r < s.nodes.size ∧ (s.nodeD r).createdIn = .top ∧ ∀ b', (s.nodeD r).kind ≠ .bindLhsChange b') :
    ∃ v l, (s.nodeD br.lhs).value = some v ∧ s'.binds[b]? = some { br with allNodesCreatedOnRhs := l } ∧
      ElabOf s' (env.body br.body v) v l rhs :=
  BindH.closure_elab h I hah hb hlc hT htop

/-- with current generations, stored values are the specification-level from-scratch values `den` -/
theorem den_of_consistent_fuel {env : Env} {s : State} (g : BGraph env s) (A : F1Inv env s) (G : GenOK env s)
    (hall : ∀ m, s.isNecessary m = true → s.isStale m = false ∧ ConsistentB env s m)
    (n : Nat) (hn : s.isNecessary n = true) (htop : (s.nodeD n).createdIn = .top) (k : Nat) (hk : n < k) :
    den env s k n = (s.nodeD n).value :=
  BindH.den_of_consistent_fuel g A G hall n hn htop k hk

/-! ## whole histories of programs with binds -/

/-- **Every API action of the fragment keeps the invariant** `QG = QInv1 ∧ GenOK`. -/
theorem step_F1 {env : Env} {s s' : State} {a : Action} {tokens : Array Nat} {r : String × Array Nat}
    (Q : QG env s) (ha : ActionF1 env s.top.size a) (h : (stepAction env a tokens).run.run s = (.ok r, s')) :
    QG env s' :=
  BindH.step_F1 Q ha h

/-- **Whole histories.** Every state reached from the initial state by a history of the fragment (that runs without panic) satisfies the invariant. -/
theorem history_F1 {env : Env} {N : Nat} {d : Bool} {acts : List Action} {s : State} {tk : Array Nat}
    (hH : HistF1 env 0 acts) (h : Quiet.runActions env acts (State.init N d) #[] = .ok (s, tk)) : QG env s :=
  BindH.history_F1 hH h

/-- **C01 for programs with binds: every `stabilise` of a history.**  At each `stabilise` of a history of the fragment: all conclusions of `stabilise_F1` (`Stabilised1`: invariant again,
every necessary node valid, non-stale, = `evalB`; the drain ran no node twice and no node of a generation that died in it), and every in-use observer reads the FROM-SCRATCH value `den`
of its node: evaluate the lhs of each bind, run the closure on that value, evaluate the template it returns. -/
theorem history_stabilise_F1 {env : Env} {N : Nat} {d : Bool} {as bs : List Action} {s : State} {tk : Array Nat}
    (hH : HistF1 env 0 (as ++ Action.stabilise :: bs))
    (h : Quiet.runActions env (as ++ Action.stabilise :: bs) (State.init N d) #[] = .ok (s, tk)) :
    ∃ s1 tk1 s2, Quiet.runActions env as (State.init N d) #[] = .ok (s1, tk1) ∧ QG env s1 ∧
      (stabilise env fuelDefault).run.run s1 = (.ok (), s2) ∧ Stabilised1 env fuelDefault s1 s2 ∧ QG env s2 ∧
      (∀ (o : Nat) (ob : ObsRec), s2.observers[o]? = some ob → ob.state = .inUse →
        ∃ v, s2.tryGetValue env o = .ok v ∧ ∀ k, ob.node < k → den env s2 k ob.node = some v) ∧
      Quiet.runActions env bs s2 tk1 = .ok (s, tk) :=
  BindH.history_stabilise_F1 hH h

/-- after a `stabilise` every in-use observer reads `den` -/
theorem stabilise_reads_den {env : Env} {fuel : Nat} {s s' : State} (Q : QInv1 env s) (G : GenOK env s)
    (h : (stabilise env fuel).run.run s = (.ok (), s')) :
    ∀ (o : Nat) (ob : ObsRec), s'.observers[o]? = some ob → ob.state = .inUse →
      ∃ v, s'.tryGetValue env o = .ok v ∧ ∀ k, ob.node < k → den env s' k ob.node = some v :=
  BindH.stabilise_reads_den Q G h

/-- the drain invariant implies the hypotheses of the B1 ordering lemmas -/
theorem orderInv_of_dinv {env : Env} {s : State} {x : Option Nat} (I : DInv env s x)
    (hrec : ∀ (b : Nat) (br : BindRec), s.binds[b]? = some br → (s.nodeD br.lhsChange).kind = .bindLhsChange b) :
    OrderInv s x :=
  I.orderInv hrec

/-- non-vacuity: the example history with a bind whose lhs changes is in the fragment, runs, ends in a state satisfying the invariant, and reads `1 + 1`, `1`, `5` after its three stabilises;
at the second stabilise the closure switches variants: node 4 (the first run's `map f0 [1,1]`) is invalid afterwards and node 5 (`map f0 [1]`) has been created -/
example : HistF1 bEnv 0 exHistB ∧
    (∃ s tk, Quiet.runActions bEnv exHistB (State.init 128 true) #[] = .ok (s, tk) ∧ QG bEnv s) ∧
    C2h.readB bEnv (exHistB.take 5) 0 = some (.int 2) ∧ C2h.readB bEnv (exHistB.take 7) 0 = some (.int 1) ∧
    C2h.readB bEnv exHistB 0 = some (.int 5) :=
  ⟨exHistB_F1.1, exHistB_F1.2, exHistB_reads.1, exHistB_reads.2.1, exHistB_reads.2.2⟩

/-! ### non-vacuity of the drain invariant and of the step relation for change detectors

`Proofs/BindH14.lean` … `BindH17.lean`: executable checkers `dinvRB`, `stepLRB` (with a rank table and two labellings as certificates) and their SOUNDNESS proofs;
`Proofs/BindH18.lean`: the checkers evaluated by the kernel on states reached by real runs of the model. -/

/-- the drain invariant holds in the states of `Proofs/BindH3.lean` (reached by histories with a bind): between two pops (`exA`), with a current node while the
change detector is queued (`exD`), and with the change detector itself as current node (`exL`: the lhs var was written, popped and recomputed, and handed the
change detector over) -/
example : DInv bEnv exA none ∧ DInv bEnv exD (some 5) ∧ DInv bEnv exL (some 2) := ⟨exA_dinv, exD_dinv, exL_dinv⟩

/-- a real run of a change detector satisfies `StepL`: in `exL` the change detector (node 2) runs, the closure creates node 5 in scope `.bind 0`, node 4 (the previous
generation) dies, the main node 3 and the new node are queued; the state after the run satisfies the drain invariant again — as `stepL_inv` says it must -/
example : (recomputeOne bEnv 20 2).run.run exL = (.ok none, exL') ∧ (∃ br br', StepL bEnv 2 0 br br' none exL exL') ∧
    exL.nodes.size = 5 ∧ exL'.nodes.size = 6 ∧ (exL'.nodeD 4).valid = false ∧ DInv bEnv exL' none :=
  ⟨exL_run, exL_stepL, by decide +kernel, by decide +kernel, by decide +kernel, exL'_dinv⟩

/-- `stepL_inv` applied to that run -/
example : DInv bEnv exL' none := by
  obtain ⟨br, br', R⟩ := exL_stepL
  exact BindH.stepL_inv exL_dinv (by decide +kernel) R

/-- C03 on that run: before the change detector runs, the node of the dying generation (node 4) has not been recomputed in this round -/
example : (exL.nodeD 4).recomputedAt < exL.stabNum := by
  have h7 : (exL.binds[0]?.map (·.lhsChange)) = some 2 := by decide +kernel
  cases hb : exL.binds[0]? with
  | none => rw [hb] at h7; cases h7
  | some br =>
    rw [hb] at h7
    have e : br.lhsChange = 2 := by simpa using h7
    exact BindH.scope_not_yet_run exL_dinv hb e (by decide +kernel) (by decide +kernel)

/-- the Boolean checker of the ordering invariants is sound -/
theorem orderInvB_sound {s : State} {x : Option Nat} (h : orderInvB s x = true) : OrderInv s x :=
  BindH.orderInvB_sound h

end IncrVerif.Props.C03Order
