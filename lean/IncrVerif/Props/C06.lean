import IncrVerif.Proofs.Step
/-!
# C06 — cutoffs gate propagation (LOCAL STEP theorems)

PROVED HERE (for every state, one call of the step function):
* the cutoff table of `shouldCutoff` (`cutoff_never`, `cutoff_always`, `cutoff_eq`, `cutoff_fn`,
  `cutoff_boxed`, `cutoff_dependOn`, the armed-fault variants `cutoff_fn_armed`,
  `cutoff_fn_fault_fires`) and its frame (`cutoff_frame`: only `log` and `panicCountdown` can change);
* `maybeChangeValue`: the suppress branch (`step_suppress`, `step_suppress_facts`), the propagate branch
  (`step_propagate_facts`, `step_propagate_parents` = "changes are never lost", in full generality:
  MapRef and Expert parents included), the first result (`step_first_result`,
  `step_first_result_facts`);
* `childChanged`: no-op for parents that are neither MapRef nor Expert (`childChanged_plain`), the
  MapRef case (`childChanged_mapRef`), an invalidated parent panics (`childChanged_invalid`);
* `parentIterCanRecomputeNow`: complete description (`parentIter_run`), `true` only if
  `can ∨ height ≤ minHeight` (`parentIter_true`), `false` means inserted
  (`parentIter_false`), parents with ≥ 2 children never have `can` (`parentIter_multi_can`, `parentIter_multi_true`).

NOT PROVED HERE: the global property "a node whose value was cut off causes no recomputation of its
dependants during the stabilisation" for whole histories.  It needs the scheduling invariant of
`drainHeap` (every stale necessary node is in the heap or on the direct-recompute chain), which is
developed separately; the theorems here are the per-step facts that invariant proof consumes.

ASSUMPTIONS.  `s.panicCountdown = none` (no injected fault armed; then `tick` is a no-op) wherever a
user cutoff function may run, except in the two `…_armed`/`…_fault_fires` theorems.  Nodes are named by
index; `s.nodes[n]? = some nd` says node `n` exists.  `Step.cutoffLog`, `Step.logged`, `Step.setValue`,
`Step.changedState`, `Step.InHeap`, `Step.Noise`, `Step.minHeightOf`, `Step.withMinHeight`,
`Step.canRecomputeNow` are defined in `Proofs/Step.lean`.
-/
namespace IncrVerif.Props.C06
open IncrVerif.Engine IncrVerif.Proofs IncrVerif.Proofs.Step

/-! ## 1. the cutoff table -/

/-- `Cutoff::Never`: never suppress; nothing at all changes. -/
theorem cutoff_never (env : Env) (n : Nat) (old new : Val) (s : State) (nd : Node)
    (hn : s.nodes[n]? = some nd) (hc : nd.cutoff = .never) :
    (shouldCutoff env n old new).run.run s = (.ok false, s) := by
  unfold shouldCutoff; rw [run_bind_ok (run_getNode_some hn), hc]; rfl

example : exS.nodes[0]? = some (exS.nodeD 0) ∧ (exS.nodeD 0).cutoff = .never := ⟨rfl, rfl⟩
example : (shouldCutoff exEnv 0 (.int 1) (.int 1)).run.run exS = (.ok false, exS) := rfl

/-- `Cutoff::Always`: always suppress; nothing at all changes. -/
theorem cutoff_always (env : Env) (n : Nat) (old new : Val) (s : State) (nd : Node)
    (hn : s.nodes[n]? = some nd) (hc : nd.cutoff = .always) :
    (shouldCutoff env n old new).run.run s = (.ok true, s) := by
  unfold shouldCutoff; rw [run_bind_ok (run_getNode_some hn), hc]; rfl

example : exS.nodes[5]? = some (exS.nodeD 5) ∧ (exS.nodeD 5).cutoff = .always := ⟨rfl, rfl⟩
example : (shouldCutoff exEnv 5 (.int 1) (.int 2)).run.run exS = (.ok true, exS) := rfl

/-- `Cutoff::PartialEq` (the default): suppress iff the old and new value are equal. -/
theorem cutoff_eq (env : Env) (n : Nat) (old new : Val) (s : State) (nd : Node)
    (hn : s.nodes[n]? = some nd) (hc : nd.cutoff = .eq) :
    (shouldCutoff env n old new).run.run s = (.ok (old == new), s) := by
  unfold shouldCutoff; rw [run_bind_ok (run_getNode_some hn), hc]; rfl

example : exS.nodes[2]? = some (exS.nodeD 2) ∧ (exS.nodeD 2).cutoff = .eq := ⟨rfl, rfl⟩
example : (shouldCutoff exEnv 2 (.int 1) (.int 2)).run.run exS = (.ok false, exS) := rfl

/-- `Cutoff::Fn c`: the user function is called once, with the arguments in the order (old, new);
its answer is the verdict; exactly one `cut` event recording node, arguments and answer is logged;
nothing else changes.  (No fault armed.) -/
theorem cutoff_fn (env : Env) (n c : Nat) (old new : Val) (s : State) (nd : Node)
    (hn : s.nodes[n]? = some nd) (hc : nd.cutoff = .fn c) (hp : s.panicCountdown = none) :
    (shouldCutoff env n old new).run.run s =
      (.ok (env.cutoff c old new),
       { s with log := Event.cut c n old new (env.cutoff c old new) :: s.log }) := by
  unfold shouldCutoff
  rw [run_bind_ok (run_getNode_some hn), hc]
  simp only [run_bind_tick_none, hp, run_bind_logEv, run_pure]

example : exS.nodes[1]? = some (exS.nodeD 1) ∧ (exS.nodeD 1).cutoff = .fn 0 ∧
    exS.panicCountdown = none := ⟨rfl, rfl, rfl⟩
example : ((shouldCutoff exEnv 1 (.int 1) (.int 3)).run.run exS).1 = .ok true := rfl

/-- `Cutoff::FnBoxed c`: as `Cutoff::Fn`. -/
theorem cutoff_boxed (env : Env) (n c : Nat) (old new : Val) (s : State) (nd : Node)
    (hn : s.nodes[n]? = some nd) (hc : nd.cutoff = .boxed c) (hp : s.panicCountdown = none) :
    (shouldCutoff env n old new).run.run s =
      (.ok (env.cutoff c old new),
       { s with log := Event.cut c n old new (env.cutoff c old new) :: s.log }) := by
  unfold shouldCutoff
  rw [run_bind_ok (run_getNode_some hn), hc]
  simp only [run_bind_tick_none, hp, run_bind_logEv, run_pure]

/-- `exS` with node 1's cutoff boxed -/
def exSboxed : State := { exS with nodes := exS.nodes.modify 1 fun x => { x with cutoff := .boxed 0 } }
example : exSboxed.nodes[1]? = some (exSboxed.nodeD 1) ∧ (exSboxed.nodeD 1).cutoff = .boxed 0 ∧
    exSboxed.panicCountdown = none := ⟨rfl, rfl, rfl⟩

/-- The call of a user cutoff function is a `tick`: with a fault armed for a later invocation
(`k ≥ 2`) the countdown is decremented, and everything else is as in `cutoff_fn`. -/
theorem cutoff_fn_armed (env : Env) (n c k : Nat) (old new : Val) (s : State) (nd : Node)
    (hn : s.nodes[n]? = some nd) (hc : nd.cutoff = .fn c ∨ nd.cutoff = .boxed c)
    (hp : s.panicCountdown = some k) (hk : 2 ≤ k) :
    (shouldCutoff env n old new).run.run s =
      (.ok (env.cutoff c old new),
       { s with panicCountdown := some (k - 1),
                log := Event.cut c n old new (env.cutoff c old new) :: s.log }) := by
  have hk' : ¬ k ≤ 1 := by omega
  unfold shouldCutoff
  rw [run_bind_ok (run_getNode_some hn)]
  rcases hc with hc | hc <;> rw [hc] <;>
    simp only [tick, bind_assoc, run_bind_get, hp, hk', if_false, run_bind_modify, run_bind_logEv,
      run_pure]

/-- `exS` with a fault armed for the third user-closure invocation from now -/
def exSarmed : State := { exS with panicCountdown := some 3 }
example : exSarmed.nodes[1]? = some (exSarmed.nodeD 1) ∧ (exSarmed.nodeD 1).cutoff = .fn 0 ∧
    exSarmed.panicCountdown = some 3 := ⟨rfl, rfl, rfl⟩

/-- With the fault armed for this very invocation (`k ≤ 1`) the call panics ("user") before the
cutoff function runs: no `cut` event, the fault is disarmed, nothing else changes. -/
theorem cutoff_fn_fault_fires (env : Env) (n c k : Nat) (old new : Val) (s : State) (nd : Node)
    (hn : s.nodes[n]? = some nd) (hc : nd.cutoff = .fn c ∨ nd.cutoff = .boxed c)
    (hp : s.panicCountdown = some k) (hk : k ≤ 1) :
    (shouldCutoff env n old new).run.run s =
      (.error (.site "user"), { s with panicCountdown := none }) := by
  unfold shouldCutoff
  rw [run_bind_ok (run_getNode_some hn)]
  rcases hc with hc | hc <;> rw [hc] <;>
    simp only [tick, bind_assoc, run_bind_get, hp, hk, if_true, run_bind_modify] <;> rfl

/-- `exS` with a fault armed for the next user-closure invocation -/
def exSfire : State := { exS with panicCountdown := some 1 }
example : exSfire.nodes[1]? = some (exSfire.nodeD 1) ∧ (exSfire.nodeD 1).cutoff = .fn 0 ∧
    exSfire.panicCountdown = some 1 := ⟨rfl, rfl, rfl⟩

/-- `depend_on` (`preserve_cutoff`): suppress iff the named input's `changedAt` equals this node's
`changedAt`; the values are not looked at; nothing changes. -/
theorem cutoff_dependOn (env : Env) (n i : Nat) (old new : Val) (s : State) (nd ni : Node)
    (hn : s.nodes[n]? = some nd) (hc : nd.cutoff = .dependOn i) (hi : s.nodes[i]? = some ni) :
    (shouldCutoff env n old new).run.run s = (.ok (ni.changedAt == nd.changedAt), s) := by
  unfold shouldCutoff
  rw [run_bind_ok (run_getNode_some hn), hc]
  simp only [run_bind_ok (run_getNode_some hi), run_bind_ok (run_getNode_some hn), run_pure]

example : exS.nodes[6]? = some (exS.nodeD 6) ∧ (exS.nodeD 6).cutoff = .dependOn 5 ∧
    exS.nodes[5]? = some (exS.nodeD 5) := ⟨rfl, rfl, rfl⟩
example : (shouldCutoff exEnv 6 .unit .unit).run.run exS = (.ok false, exS) := rfl

/-- Whatever the cutoff and however the call ends (verdict or panic), a cutoff check changes no
field of the state other than `log` and `panicCountdown`. -/
theorem cutoff_frame (env : Env) (n : Nat) (old new : Val) (s s' : State) (r : Except Panic Bool)
    (h : (shouldCutoff env n old new).run.run s = (r, s')) :
    s' = { s with log := s'.log, panicCountdown := s'.panicCountdown } :=
  (Pres.shouldCutoff_onlyLogPc env n old new).h s r s' h

example : ∃ r s', (shouldCutoff exEnv 1 (.int 1) (.int 3)).run.run exSfire = (r, s') := ⟨_, _, rfl⟩


/-! ## 2. `maybeChangeValue`: suppress or propagate -/

/-- Cutoff says "suppress" (node `n` has a value `old`, `shouldCutoff … old new` returns `true`, no
fault armed): `maybe_change_value` returns `none` (nothing to recompute directly) and the final state
is the initial one with the cutoff's `cut` event (if any) logged and the `value` of node `n`
replaced by `new` — the value IS replaced even though the change is cut off. -/
theorem step_suppress (env : Env) (fuel n : Nat) (old new : Val) (s : State) (nd : Node)
    (hn : s.nodes[n]? = some nd) (hv : nd.value = some old) (hp : s.panicCountdown = none)
    (hcut : ((shouldCutoff env n old new).run.run s).1 = .ok true) :
    (maybeChangeValue env fuel n new).run.run s =
      (.ok none, setValue n (some new) (logged (cutoffLog env s n old new) s)) := by
  obtain ⟨hd, hl⟩ := mcvChanges_some env n old new s nd true hn hv hp hcut
  rw [mcv_suppress env fuel n new s nd hn hp hd, hl]

example : exS.nodes[1]? = some (exS.nodeD 1) ∧ (exS.nodeD 1).value = some (.int 1) ∧
    exS.panicCountdown = none ∧
    ((shouldCutoff exEnv 1 (.int 1) (.int 3)).run.run exS).1 = .ok true := ⟨rfl, rfl, rfl, rfl⟩

/-- The same, field by field: after a suppressed change node `n` is as before except for its
`value` (in particular `changedAt` is unchanged), no other node changed, the recompute heap, the
counters (`changed` included), vars and the round number are unchanged, and the log grew by exactly
the cutoff's events. -/
theorem step_suppress_facts (env : Env) (fuel n : Nat) (old new : Val) (s s' : State) (nd : Node)
    (r : Option Nat)
    (hn : s.nodes[n]? = some nd) (hv : nd.value = some old) (hp : s.panicCountdown = none)
    (hcut : ((shouldCutoff env n old new).run.run s).1 = .ok true)
    (h : (maybeChangeValue env fuel n new).run.run s = (.ok r, s')) :
    r = none ∧ s'.nodes[n]? = some { nd with value := some new } ∧
    (∀ m, m ≠ n → s'.nodes[m]? = s.nodes[m]?) ∧
    s'.rch = s.rch ∧ s'.counters = s.counters ∧ s'.vars = s.vars ∧ s'.stabNum = s.stabNum ∧
    s'.log = cutoffLog env s n old new ++ s.log := by
  rw [step_suppress env fuel n old new s nd hn hv hp hcut] at h
  cases h
  refine ⟨rfl, ?_, ?_, rfl, rfl, rfl, rfl, rfl⟩
  · rw [setValue_getElem?]
    show Option.map _ s.nodes[n]? = _
    rw [hn]; simp
  · intro m hm
    rw [setValue_getElem?]
    show Option.map _ s.nodes[m]? = _
    cases s.nodes[m]? <;> simp [Ne.symm hm]

example : ∃ r s', (maybeChangeValue exEnv 5 1 (.int 3)).run.run exS = (.ok r, s') := ⟨_, _, rfl⟩

/-- Cutoff says "propagate" (`shouldCutoff … old new` returns `false`) and the call returns:
node `n` now has `value = some new` and `changedAt = s.stabNum` (its `recomputedAt` is untouched), the
`changed` counter went up by one and no other counter moved, and the frame `StepFrame n s s'` holds:
no other node's `value`/`changedAt`/`recomputedAt` changed, no node's `kind`/`valid`/`cutoff`/`height`/
`parents` changed, no node left the recompute heap, vars/binds/round number unchanged.  The log
grew by the cutoff's own events followed by notification noise (cutoff checks of MapRef parents,
edge callbacks of Expert parents). -/
theorem step_propagate_facts (env : Env) (fuel n : Nat) (old new : Val) (s s' : State) (nd : Node)
    (r : Option Nat)
    (hn : s.nodes[n]? = some nd) (hv : nd.value = some old) (hp : s.panicCountdown = none)
    (hcut : ((shouldCutoff env n old new).run.run s).1 = .ok false)
    (h : (maybeChangeValue env fuel n new).run.run s = (.ok r, s')) :
    StepFrame n s s' ∧
    (s'.nodeD n).value = some new ∧ (s'.nodeD n).changedAt = s.stabNum ∧
    (s'.nodeD n).recomputedAt = nd.recomputedAt ∧
    s'.counters = { s.counters with changed := s.counters.changed + 1 } ∧
    (∃ tail, s'.log = tail ++ cutoffLog env s n old new ++ s.log ∧ ∀ e, e ∈ tail → Noise e) := by
  obtain ⟨hd, hl⟩ := mcvChanges_some env n old new s nd false hn hv hp hcut
  obtain ⟨h1, h2, h3, h4, h5, h6, _⟩ := mcv_propagate_facts env fuel n new s s' nd r hn hp hd h
  rw [hl] at h6
  exact ⟨h1, h2, h3, h4, h5, h6⟩

example : exS.nodes[0]? = some (exS.nodeD 0) ∧ (exS.nodeD 0).value = some (.int 1) ∧
    exS.panicCountdown = none ∧
    ((shouldCutoff exEnv 0 (.int 1) (.int 4)).run.run exS).1 = .ok false ∧
    ∃ r s', (maybeChangeValue exEnv 5 0 (.int 4)).run.run exS = (.ok r, s') :=
  ⟨rfl, rfl, rfl, rfl, _, _, rfl⟩

/-- "Changes are never lost": when the cutoff says "propagate" and the call returns, EVERY parent `p`
in node `n`'s `parents` list is afterwards in the recompute heap (`InHeap p s'`: the node exists and
its `heightInRch ≥ 0`), or it is the node `some p` returned to the caller for direct recomputation —
and that can only be the FIRST parent.  Full generality: parents of any kind, `child_changed`
forwarding through MapRef parents and edge callbacks of Expert parents included. -/
theorem step_propagate_parents (env : Env) (fuel n : Nat) (old new : Val) (s s' : State) (nd : Node)
    (r : Option Nat)
    (hn : s.nodes[n]? = some nd) (hv : nd.value = some old) (hp : s.panicCountdown = none)
    (hcut : ((shouldCutoff env n old new).run.run s).1 = .ok false)
    (h : (maybeChangeValue env fuel n new).run.run s = (.ok r, s')) :
    ∀ p, p ∈ nd.parents.map (·.1) →
      InHeap p s' ∨ (p < s'.nodes.size ∧ r = some p ∧ (nd.parents.head?).map (·.1) = some p) := by
  obtain ⟨hd, _⟩ := mcvChanges_some env n old new s nd false hn hv hp hcut
  exact (mcv_propagate env fuel n new s s' nd r hn hp hd h).2

example : (exS.nodeD 0).parents.map (·.1) = [1, 2, 3, 4] := rfl
example : ((maybeChangeValue exEnv 5 0 (.int 4)).run.run exS).1 = .ok (some 1) := rfl
example : (((maybeChangeValue exEnv 5 0 (.int 4)).run.run exS).2.nodeD 2).inRch = true := rfl
example : (((maybeChangeValue exEnv 5 0 (.int 4)).run.run exS).2.nodeD 1).inRch = false := rfl

/-! ## 3. the first result is always propagated -/

/-- A node that has never been computed (`value = none`): `maybe_change_value` stores the value and
goes straight to `maybe_change_value_manual` with "did change" — the node's cutoff is not consulted
at all (so `Cutoff::Always` only ever suppresses after the first result).  No assumption on
`panicCountdown` is needed: no user code runs before the notifications. -/
theorem step_first_result (env : Env) (fuel n : Nat) (new : Val) (s : State) (nd : Node)
    (hn : s.nodes[n]? = some nd) (hv : nd.value = none) :
    (maybeChangeValue env fuel n new).run.run s =
      (maybeChangeValueManual env fuel n none true true).run.run (setValue n (some new) s) := by
  rw [mcv_run env fuel n new s nd hn, hv]

example : exS.nodes[6]? = some (exS.nodeD 6) ∧ (exS.nodeD 6).value = none ∧
    (exS.nodeD 6).cutoff = .dependOn 5 := ⟨rfl, rfl, rfl⟩

/-- The first result, field by field (no fault armed): as `step_propagate_facts`, and the cutoff
logs nothing (`tail` is notification noise only). -/
theorem step_first_result_facts (env : Env) (fuel n : Nat) (new : Val) (s s' : State) (nd : Node)
    (r : Option Nat)
    (hn : s.nodes[n]? = some nd) (hv : nd.value = none) (hp : s.panicCountdown = none)
    (h : (maybeChangeValue env fuel n new).run.run s = (.ok r, s')) :
    StepFrame n s s' ∧
    (s'.nodeD n).value = some new ∧ (s'.nodeD n).changedAt = s.stabNum ∧
    s'.counters = { s.counters with changed := s.counters.changed + 1 } ∧
    (∃ tail, s'.log = tail ++ s.log ∧ ∀ e, e ∈ tail → Noise e) ∧
    (∀ p, p ∈ nd.parents.map (·.1) →
      InHeap p s' ∨ (p < s'.nodes.size ∧ r = some p ∧ (nd.parents.head?).map (·.1) = some p)) := by
  obtain ⟨hd, hl⟩ := mcvChanges_none env n new s nd hn hv
  obtain ⟨h1, h2, h3, _, h5, h6, _⟩ := mcv_propagate_facts env fuel n new s s' nd r hn hp hd h
  rw [hl] at h6
  simp only [List.append_nil] at h6
  exact ⟨h1, h2, h3, h5, h6, (mcv_propagate env fuel n new s s' nd r hn hp hd h).2⟩

/-- `exS` with node 5 (cutoff `Always`) never computed and node 6 linked as its parent -/
def exSfirst : State :=
  { exS with nodes := exS.nodes.modify 5 fun x => { x with value := none, recomputedAt := -1 } }
example : exSfirst.nodes[5]? = some (exSfirst.nodeD 5) ∧ (exSfirst.nodeD 5).value = none ∧
    (exSfirst.nodeD 5).cutoff = .always ∧ exSfirst.panicCountdown = none ∧
    ∃ r s', (maybeChangeValue exEnv 5 5 (.int 7)).run.run exSfirst = (.ok r, s') :=
  ⟨rfl, rfl, rfl, rfl, _, _, rfl⟩
example : (((maybeChangeValue exEnv 5 5 (.int 7)).run.run exSfirst).2.nodeD 5).changedAt = 1 := rfl


/-! ## 3b. what `child_changed` does, by kind of the parent -/

/-- For a valid parent that is neither a MapRef nor an Expert node, `child_changed` does nothing. -/
theorem childChanged_plain (env : Env) (fuel p child ci : Nat) (o : Option Val) (s : State) (nd : Node)
    (hp : s.nodes[p]? = some nd) (hv : nd.valid = true)
    (hm : ∀ pr i, nd.kind ≠ .mapRef pr i) (he : ∀ e, nd.kind ≠ .expert e) :
    (childChanged env (fuel + 1) p child ci o).run.run s = (.ok (), s) := by
  unfold childChanged
  rw [run_bind_ok (run_getNode_some hp)]
  have : nd.kind? = some nd.kind := by simp [Node.kind?, hv]
  rw [this]
  cases hk : nd.kind <;> first | rfl | exact absurd hk (hm _ _) | exact absurd hk (he _)

example : exS.nodes[1]? = some (exS.nodeD 1) ∧ (exS.nodeD 1).valid = true ∧
    (exS.nodeD 1).kind = .map 0 [0] := ⟨rfl, rfl, rfl⟩

/-- An invalidated parent makes `child_changed` panic (`ParentInvalidated`), state untouched. -/
theorem childChanged_invalid (env : Env) (fuel p child ci : Nat) (o : Option Val) (s : State) (nd : Node)
    (hp : s.nodes[p]? = some nd) (hv : nd.valid = false) :
    (childChanged env (fuel + 1) p child ci o).run.run s =
      (.error (.site "node:child_changed:ParentInvalidated"), s) := by
  unfold childChanged
  rw [run_bind_ok (run_getNode_some hp)]
  have : nd.kind? = none := by simp [Node.kind?, hv]
  rw [this]
  rfl

/-- `exS` with node 1 invalidated -/
def exSinvalid : State := { exS with nodes := exS.nodes.modify 1 fun x => { x with valid := false } }
example : exSinvalid.nodes[1]? = some (exSinvalid.nodeD 1) ∧ (exSinvalid.nodeD 1).valid = false :=
  ⟨rfl, rfl⟩

/-- For a MapRef parent `p = map_ref(pr, ·)` and a child that has the value `cn`: the child's old and
new value are projected through `pr`; if there was no old value the projection counts as changed,
otherwise `p`'s OWN cutoff is asked about (projected old, projected new); the answer is OR-ed into
the sticky flag `p.didChange := p.didChange || !cutoff`; and the notification is forwarded to every
parent of `p` with the projected old value (`Step.forwardChildChanged`). -/
theorem childChanged_mapRef (env : Env) (fuel p child ci : Nat) (oldOpt : Option Val) (s : State)
    (nd : Node) (pr i : Nat) (cn : Val)
    (hp : s.nodes[p]? = some nd) (hk : nd.kind? = some (.mapRef pr i))
    (hv : s.value env child = some cn) :
    (childChanged env (fuel + 1) p child ci oldOpt).run.run s =
      match oldOpt with
      | none => (forwardChildChanged env fuel p none nd.parents).run.run (orDidChange p true s)
      | some o =>
        match (shouldCutoff env p (env.proj pr o) (env.proj pr cn)).run.run s with
        | (.ok c, s1) =>
          (forwardChildChanged env fuel p (some (env.proj pr o)) (s1.nodeD p).parents).run.run
            (orDidChange p (!c) s1)
        | (.error e, s1) => (.error e, s1) :=
  childChanged_mapRef_run env fuel p child ci oldOpt s nd pr i cn hp hk hv

example : exS.nodes[3]? = some (exS.nodeD 3) ∧ (exS.nodeD 3).kind? = some (.mapRef 0 0) ∧
    exS.value exEnv 0 = some (.int 1) := ⟨rfl, rfl, rfl⟩
example : (((childChanged exEnv 3 3 0 0 (some (.int 2))).run.run exS).2.nodeD 3).didChange = true := rfl

/-! ## 4. `parent_iter_can_recompute_now` -/

/-- Complete description of `parent_iter_can_recompute_now p child`: an invalid parent gives
`false` with nothing done; otherwise `min_height` is taken (which also raises the heap's lower bound:
`withMinHeight`), the flag `can` is computed (`Step.canRecomputeNow`), and
`can ∨ p.height ≤ minHeight` gives `true`; else [debug assertions] `p` is inserted in the recompute
heap and the answer is `false`. -/
theorem parentIter_run (p child : Nat) (s : State) :
    (parentIterCanRecomputeNow p child).run.run s =
      match s.nodes[p]? with
      | none => (.error (.site "model:no-such-node"), s)
      | some pn => match pn.kind? with
        | none => (.ok false, s)
        | some k => match s.nodes[child]? with
          | none => (.error (.site "model:no-such-node"), withMinHeight s)
          | some cn => match canRecomputeNow s pn k cn.height (minHeightOf s) with
            | .error e => (.error e, withMinHeight s)
            | .ok can =>
              if (can || decide (pn.height ≤ minHeightOf s)) = true then (.ok true, withMinHeight s)
              else if s.cfg.debug = true ∧ s.needsToBeComputed p = false then
                (.error (.site "node:parent_iter_can_recompute_now:needs-to-be-computed"), withMinHeight s)
              else if s.cfg.debug = true ∧ pn.inRch = true then
                (.error (.site "node:parent_iter_can_recompute_now:not-in-rch"), withMinHeight s)
              else mapOk' false ((rchInsert p).run.run (withMinHeight s)) :=
  picrn_run p child s

example : ((parentIterCanRecomputeNow 1 0).run.run exS).1 = .ok true := rfl

/-- It answers `true` ONLY IF `can ∨ p.height ≤ minHeight`; and then nothing but the heap's lower
bound changed. -/
theorem parentIter_true (p child : Nat) (s s' : State)
    (h : (parentIterCanRecomputeNow p child).run.run s = (.ok true, s')) :
    ∃ pn k cn can, s.nodes[p]? = some pn ∧ pn.kind? = some k ∧ s.nodes[child]? = some cn ∧
      canRecomputeNow s pn k cn.height (minHeightOf s) = .ok can ∧
      (can = true ∨ pn.height ≤ minHeightOf s) ∧ s' = withMinHeight s := by
  rw [picrn_run] at h
  cases hp : s.nodes[p]? with
  | none => rw [hp] at h; cases h
  | some pn =>
    rw [hp] at h; dsimp only at h
    cases hk : pn.kind? with
    | none => rw [hk] at h; cases h
    | some k =>
      rw [hk] at h; dsimp only at h
      cases hc : s.nodes[child]? with
      | none => rw [hc] at h; cases h
      | some cn =>
        rw [hc] at h; dsimp only at h
        cases hcan : canRecomputeNow s pn k cn.height (minHeightOf s) with
        | error e => rw [hcan] at h; cases h
        | ok can =>
          rw [hcan] at h; dsimp only at h
          split at h
          · rename_i hc1
            cases h
            refine ⟨pn, k, cn, can, rfl, hk, rfl, hcan, ?_, rfl⟩
            simpa using hc1
          split at h
          · cases h
          split at h
          · cases h
          rcases hi : (rchInsert p).run.run (withMinHeight s) with ⟨_ | u, s2⟩ <;>
            rw [hi] at h <;> cases h

example : ∃ s', (parentIterCanRecomputeNow 1 0).run.run exS = (.ok true, s') := ⟨_, rfl⟩

/-- It answers `false` for a valid parent ONLY BY inserting it in the recompute heap: `p` is in the
heap afterwards. -/
theorem parentIter_false (p child : Nat) (s s' : State) (pn : Node)
    (hp : s.nodes[p]? = some pn) (hv : pn.valid = true)
    (h : (parentIterCanRecomputeNow p child).run.run s = (.ok false, s')) :
    InHeap p s' :=
  picrn_false_inHeap h (lt_of_some hp) (by rw [nodeD_of_some hp]; exact hv)

/-- `exS` with node 4 (height 1) already waiting in the recompute heap (so the minimum height is 1) and
the two-child node 2 moved up to height 2 and never computed: node 2 cannot be recomputed now -/
def exSbusy : State :=
  { exS with
    nodes := (exS.nodes.modify 4 fun x => { x with heightInRch := 1 }).modify 2 fun x =>
      { x with height := 2, recomputedAt := -1 },
    rch := { exS.rch with queues := exS.rch.queues.modify 1 (· ++ [4]), length := 1, lowerBound := 1 } }
example : exSbusy.nodes[2]? = some (exSbusy.nodeD 2) ∧ (exSbusy.nodeD 2).valid = true ∧
    ∃ s', (parentIterCanRecomputeNow 2 0).run.run exSbusy = (.ok false, s') := ⟨rfl, rfl, _, rfl⟩
example : (((parentIterCanRecomputeNow 2 0).run.run exSbusy).2.nodeD 2).inRch = true := rfl

/-- Parents with two or more children (`map` of arity ≥ 2, `fold`, expert nodes) never have the `can`
flag … -/
theorem parentIter_multi_can (s : State) (pn : Node) (k : Kind) (ch minH : Int)
    (hk : (∃ f args, k = .map f args ∧ 2 ≤ args.length) ∨ (∃ f i cs, k = .fold f i cs) ∨
      (∃ e, k = .expert e)) :
    canRecomputeNow s pn k ch minH = .ok false := by
  rcases hk with ⟨f, args, rfl, h2⟩ | ⟨f, i, cs, rfl⟩ | ⟨e, rfl⟩
  · simp only [canRecomputeNow]; rw [if_pos h2]
  · rfl
  · rfl

/-- … so for them the answer `true` means exactly `p.height ≤ minHeight`: nothing lower is waiting in
the heap, all their other children are up to date. -/
theorem parentIter_multi_true (p child : Nat) (s s' : State) (pn : Node) (k : Kind)
    (hp : s.nodes[p]? = some pn) (hkind : pn.kind? = some k)
    (hk : (∃ f args, k = .map f args ∧ 2 ≤ args.length) ∨ (∃ f i cs, k = .fold f i cs) ∨
      (∃ e, k = .expert e))
    (h : (parentIterCanRecomputeNow p child).run.run s = (.ok true, s')) :
    pn.height ≤ minHeightOf s := by
  obtain ⟨pn', k', cn, can, h1, h2, _, h4, h5, _⟩ := parentIter_true p child s s' h
  rw [hp] at h1; cases h1
  rw [hkind] at h2; cases h2
  rw [parentIter_multi_can s pn k cn.height (minHeightOf s) hk] at h4
  cases h4
  rcases h5 with h5 | h5
  · cases h5
  · exact h5

example : exS.nodes[2]? = some (exS.nodeD 2) ∧ (exS.nodeD 2).kind? = some (.fold 0 (.int 10) [0, 0]) ∧
    ∃ s', (parentIterCanRecomputeNow 2 0).run.run exS = (.ok true, s') := ⟨rfl, rfl, _, rfl⟩

end IncrVerif.Props.C06
