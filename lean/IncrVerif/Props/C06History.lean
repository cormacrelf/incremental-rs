import IncrVerif.Proofs.CutH28
import IncrVerif.Proofs.CutH40
import IncrVerif.Props.C01History
/-!
# C06 for whole histories of static programs with ARBITRARY cutoffs — cutoffs gate propagation

`Props/C06.lean` has the cutoff table and the two branches of ONE `maybeChangeValue`; `Props/C01Global.lean` /
`Props/C01History.lean` have the scheduling invariant and whole histories for cutoffs `.eq`/`.never` (resp. `.eq`)
only, with the action `cutoff` outside the fragment.  Here the static fragment is extended by the actions
`cutoff n c` (ANY `CutoffK`: `.always`, `.never`, `.eq`, `.fn c`, `.boxed c`, `.dependOn i`; on any existing top-level
node, vars included; at any time between stabilisations) and `dependOn a b`, with arbitrary pure user predicates
`env.cutoff c old new`.  With non-exact cutoffs observers do not read from-scratch values, so the theorems are
about GATING (who runs, whose `changedAt` is bumped), not about values; for histories all of whose cutoffs are
exact the values theorem of `C01History` is recovered (Q3).

FRAGMENT (`CutH.StaticAction env a`, `Proofs/CutH24.lean`/`CutH16.lean`).  `create` of `const`, `var`, `map f args`
(`f < fnPerKey`; a user function `f < fnZip` has no side effects), `fold`, `zip`, `dependOn a b`, `cutoff n c`, with
operands naming existing top-level nodes (`.outer k`); `observe`, `cloneObs`, `dropObs`, `disallow`; `set`, `modify`,
`update`, `replace`, `replaceWith`, `get`; `stabilise`, `isStable`, `stats`.  NOT in the fragment: bind, map_ref,
map_with_old, expert nodes, memoised calls, subscriptions/handlers, effects, `dropVar`, `dropHandle`, `dropAll`,
`setMaxHeight`, faults (`arm`: user cutoff predicates cannot panic).  Nothing is assumed about `cfg.debug` or the
height limit.  `CutH.ExactAction a`: `a` is not `dependOn` and not `cutoff n c` with `c ∉ {.eq, .never}`.

DEFINITIONS (namespace `IncrVerif.Proofs.CutH`, files `Proofs/CutH1.lean` … `CutH40.lean`).  `CutH1–6` is the scheduling
theorem of `Proofs/Sched1…9` without its cutoff clauses; `Sched.eval`, `Sched.Target`, `Sched.Consistent`, `Sched.HeapInv`,
`Sched.Frame`, `Sched.drainTrace`, … are used as they are.  `CutH7–40` is the general case of the whole-history stack:
`Proofs/Quiet1…28` (`Props/C01History.lean`) is its instance at `e := true` in which every cutoff is `.eq` (`Quiet.EqCut`);
each definition of `Quiet` has a bridge `X.toC`/`X.ofC` to its namesake here, and the lemmas of `Quiet` that have a namesake
here are its corollaries.
* `Graph env s`, `Anc`, `Inv env e s x`, `DrainInv env e s`, `StepRel env n v ch r s s'` (`CutH1`): the scheduling
  invariant of `drainHeap` for ANY cutoffs.  `e : Bool` is the flag "every cutoff that was ever in force was exact".
  Compared with `Sched.Inv`: `Graph.nec` has no cutoff clause; `cons` is `ConsE env e s m` (a necessary
  non-stale node HAS a value — and is `Sched.Consistent` if `e`); staleness itself is the relational statement that
  is true for arbitrary cutoffs (`¬ stale n` ⟺ `n` has run and every child's `changedAt ≤ recomputedAt n`:
  "nothing unsuppressed has happened to its inputs since"); the field `qstale` (queued nodes and the current node are
  stale — the "only if" half of the gate) and the field `exact` (`e = true` ⟹ every cutoff is `.eq`/`.never`) are added.
  `StepRel.verdict`: the step stamps `changedAt` iff `Step.mcvChanges env s n v = some true`, evaluated in the PRE-state;
  `StepRel.log`: the log grows by the events of the node's function followed by the `cut` event, and nothing else.
* `GInv env s op`, `Struct env s`, `QInv env e s` (`CutH7`, `CutH15`): the structural invariant with open nodes and the
  invariant between API actions, as in `Quiet`, without `cutoff = .eq`; `QInv.cons : ConsE`; `QInv.exact`.
* `Stabilised env e fuel s s'` (`CutH22`), `Gated env e fuel s s'`, `Invoked env s s' ρ`, `staleMix s s' m`,
  `drainRuns env fuel t` (`CutH26`, `CutH27`): see below.

PROVED (for the model; partial correctness: every statement assumes that the call returns `(.ok _, s')`).
* (Q1) `init_inv`, `action_keeps`, `history_inv`, `history_every_state`: every state reached from `State.init` by a
  history of static actions with arbitrary cutoffs satisfies `QInv env e s`, where `e = acts.all ExactAction`:
  edges symmetric with indices, heights increase along edges, the heap holds EXACTLY the necessary stale nodes, every
  non-stale node has a value, observer bookkeeping, stamps from earlier rounds.  Cutoffs do not enter it.
  `struct_graph`; `stabilise_pending` (`Stabilised`: invariant again, nothing pending, every necessary node valid,
  NOT STALE and with a value that observers read; the drain starts in `DrainInv`, runs no node twice and only
  necessary nodes); the drain lemmas `pop_inv`, `recomputeOne_inv`, `drainHeap_inv`, `drain_once`.
* (Q2) `stabilise_gate`, `history_gate`: THE GATING THEOREM, for every `stabilise` of every history (`Gated`):
  - `ran_iff`: a node's function is invoked in this `stabilise` (`recomputedAt` is stamped with this round; equivalently
    the node occurs in `drainRuns`, at most once) IFF it is necessary after the observer phases AND
    `staleMix s s' m`: it has never run (`recomputedAt = -1`), or — `var` — its cell was set after it last ran, or some
    child's `changedAt` AT THE MOMENT OF THE INVOCATION (= after the `stabilise`: `Invoked.kids`, no child runs after
    its parent) is newer than the node's previous `recomputedAt`;
  - `Invoked`: at the moment of the invocation the node is necessary and stale, still has its old value/stamps/cutoff,
    the call is described by `StepRel` and its outcome is what the node has after the `stabilise`;
  - `bump_iff`: `changedAt` is set to this round IFF the node ran and (`mcvChanges` in the pre-state) it had no previous
    value or `shouldCutoff env n old new = false`; closed form `mcvChanges_closed`: `.never ↦` propagate, `.always ↦`
    suppress, `.eq ↦` suppress iff `old == new`, `.fn c`/`.boxed c ↦ env.cutoff c old new` with (old, new) IN THAT ORDER,
    logged (`mcvLog_closed`, `fn_verdict`), `.dependOn i ↦ changedAt i == changedAt n` in the pre-state
    (`dependOn_verdict`);
  - `notRan`: a node that did not run keeps value and stamps; `ran_consistent`: a node that ran carries, after the
    `stabilise`, its defining expression applied to the FINAL values of its children (for any cutoffs) — together with
    "not stale" this is the relational replacement of `cons`: value = F(values the children had when the node last
    ran), and every child's `changedAt ≤ recomputedAt` since.
  `between_stabilisations` (`CutH28`): a static action other than `stabilise` leaves value, stamps, kind of every
  existing node untouched, and the cutoffs unless it is a `cutoff` action.
  Corollaries: (a) `never_lost`: if a child's new result was not suppressed, every NECESSARY parent runs in the same
  `stabilise`; (b) `always_keeps`, `always_parent`, `always_history`: a node with `.always` that has a value never bumps
  `changedAt` — per `stabilise`, and over any list of static actions that replaces no cutoff —, and a parent that runs
  nevertheless has another reason; (c) `never_bumps`: with `.never` every run bumps `changedAt`
  (so by (a) every necessary parent re-runs); (d) `eq_iff`: with the default cutoff a run bumps `changedAt` iff the
  value is new or different; a run producing an equal value bumps nothing (and by `ran_iff` no parent runs because of it).
* (Q3) `history_exact`: at a `stabilise` of a history all of whose previous actions are `ExactAction`s, every necessary
  node carries, and every observer in use reads, the from-scratch value `Sched.eval` (`Stabilised.values`, `ReadsOK`);
  `old_fragment_recovered`: every history of `Quiet.StaticAction`s (the fragment of `Props/C01History.lean`) is such a
  history, and the reads conclusion of `C01History.history_every_stabilise` (`Quiet.ReadsOK`) follows from `CutH.QInv`:
  this development subsumes `C01History` on that fragment.
* Non-vacuity (`decide +kernel`): `exAlways` (var → map with `.always` → map, observed; write; the first map runs
  twice, the second map ONCE, the observer keeps reading the old value `1`, not the from-scratch `5`); `exFn` (a `.fn c0`
  cutoff: the logged `cut` events are `(1, 3) ↦ true` then `(3, 4) ↦ false`: (old, new) in that order; the parent runs
  only after the second); `exDep`/`exDep2` (finding FC1 below).

FINDINGS.
* FC1 (`depend_on`, model = real engine, checked with the harness on the two histories below).  The closure installed
  by `depend_on` (`preserve_cutoff`: "input.changed_at == output.changed_at") suppresses only when the input's last
  change and the output's last change happened in the SAME round.  If the input last changed BEFORE the output node
  first ran (input observed and stabilised earlier), the stamps differ for ever and EVERY re-run of the output (caused
  by the `on` argument) propagates, although the value depended on never changes:
  `var 1; var 2; observe n0; stabilise; dependon n0 n1; map f0 n2; observe n3; stabilise; set v1 3; stabilise; set v1 4;
  stabilise` invokes `f0@n3` three times (`exDep`), whereas without the first `observe n0; stabilise` it is invoked once
  (`exDep2`).  Performance only (values are right); `dependOn_verdict` is the exact statement.
* O1.  Exactness of the cutoffs CURRENTLY in force is not enough for from-scratch values: `cutoff n always`, write,
  stabilise, `cutoff n eq` leaves the parents of `n` computed from the old value and not stale (model = real engine on
  `var 1; map f0 n0; cutoff n1 always; map f0 n1; observe n2; stabilise; set v0 5; stabilise; cutoff n1 eq; stabilise`:
  the observer still reads 1).  Hence the flag `e`
  ("every cutoff EVER in force") in Q3.  Changing a cutoff never makes a node stale.

* TOTAL CORRECTNESS / C04 for the fragment (`CutH29–31` as `Sched10–12`; `CutH32–40`, the general case of `Quiet20–28`).
  `Safe s` and `TInv N s` as `Sched.Safe` and `Quiet.TInv` plus `dep`: the input of every `.dependOn i` cutoff exists (otherwise
  `should_cutoff` panics with a `model:` site).  `ActionOK`/`ValidHist`: existing indices, at most `N = maxHeight` nodes,
  `3 * nodes + 4 ≤ fuelDefault`, and the cutoff installed by `cutoff n c` is `PlainCut` (not `.dependOn _`: the history
  language cannot write it; `dependOn a b` itself is allowed).  `drainHeap_safe` (a drain that does not return ran out of
  fuel — no assertion fails, whatever the cutoffs, user predicates included), `drainHeap_total`, `stabilise_returns`,
  `action_returns`, `history_never_panics`, `valid_history_gate`: for a VALID history of static actions with arbitrary
  cutoffs nothing panics, and the gating theorem holds unconditionally at each of its `stabilise`s.

ASSUMED / NOT PROVED.  The partial-correctness theorems assume that the call returns; the total-correctness theorems
remove that assumption for valid histories.  User predicates cannot panic in the model (no `arm` in the fragment).
Operands are handles on top-level nodes; `cutoff n (.dependOn i)` with an arbitrary `i` is allowed (the gate is then
stated in the pre-state, `bump_iff`; the closed form `dependOn_verdict` needs `i` to be a child).  The `log` clause is
per invocation (`Invoked.step` → `StepRel.log`); it is not threaded through whole histories.  `always_history` excludes ALL `cutoff` actions from the suffix (also those on other nodes).
-/
namespace IncrVerif.Props.C06History
open IncrVerif.Engine IncrVerif.Driver IncrVerif.Proofs IncrVerif.Proofs.Step
open IncrVerif.Proofs.Sched (HeapInv Frame Target kids eval drainTrace)
open IncrVerif.Proofs.CutH

/-! ## Q1: the invariant, for every history with arbitrary cutoffs -/

/-- `Struct` and `VarsOK` give the structural hypotheses of the scheduling theorem -/
theorem struct_graph {env : Env} {s : State} (S : Struct env s) (V : VarsOK s) :
    Graph env s ∧ HeapInv s ∧
      ∀ m, (s.nodeD m).inRch = true ↔ (s.isNecessary m = true ∧ s.isStale m = true) :=
  ⟨S.graph V, S.heapInv, S.queued_iff⟩

theorem init_inv (env : Env) (maxHeight : Nat) (debug : Bool) : QInv env true (State.init maxHeight debug) :=
  qinv_init env maxHeight debug

/-- the invariant with the flag up implies the one with the flag down -/
theorem inv_weaken {env : Env} {e : Bool} {s : State} (Q : QInv env e s) : QInv env false s := Q.weaken

/-- **every static action (any cutoff) keeps the invariant**; the flag survives the `ExactAction`s -/
theorem action_keeps {env : Env} {e : Bool} {s s' : State} {a : Action} {tokens : Array Nat}
    {r : String × Array Nat} (Q : QInv env e s) (ha : StaticAction env a)
    (h : (stepAction env a tokens).run.run s = (.ok r, s')) : QInv env (e && ExactAction a) s' :=
  step_qx Q ha h

/-- the action `cutoff n c`, pure part: replacing any cutoff by any cutoff keeps the invariant (flag down) -/
theorem cutoff_keeps {env : Env} {e : Bool} {s : State} (n : Nat) (c : CutoffK) (Q : QInv env e s) :
    QInv env false (cutSet n c s) :=
  cutSet_qinv n c Q.weaken (fun h => by cases h)

theorem history_inv {env : Env} {N : Nat} {d : Bool} {acts : List Action} {s : State} {tk : Array Nat}
    (ha : ∀ a, a ∈ acts → StaticAction env a)
    (h : runActions env acts (State.init N d) #[] = .ok (s, tk)) : QInv env (acts.all ExactAction) s :=
  history_q ha h

theorem history_every_state {env : Env} {N : Nat} {d : Bool} {as bs : List Action} {s : State}
    {tk : Array Nat} (ha : ∀ a, a ∈ as ++ bs → StaticAction env a)
    (h : runActions env (as ++ bs) (State.init N d) #[] = .ok (s, tk)) :
    ∃ s1 tk1, runActions env as (State.init N d) #[] = .ok (s1, tk1) ∧ QInv env (as.all ExactAction) s1 ∧
      runActions env bs s1 tk1 = .ok (s, tk) :=
  history_prefix ha h

/-- **`stabilise` with pending observers, any cutoffs.**  See `CutH.Stabilised`: `inv`, nothing pending, `vars`,
`stabNum`, `size`, `kind`, `obs`, `settled` (every necessary node: valid, NOT STALE, has a value, which observers
read), `values` (if `e`: the from-scratch values), `drain` (starts in `DrainInv`, no node runs twice, only necessary
nodes run), `gate`. -/
theorem stabilise_pending {env : Env} {e : Bool} {fuel : Nat} {s s' : State} (Q : QInv env e s)
    (h : (stabilise env fuel).run.run s = (.ok (), s')) : Stabilised env e fuel s s' :=
  stabilise_q Q h

/-- the drain: one pop -/
theorem pop_inv {env : Env} {e : Bool} {s s1 : State} {n : Nat} (I : DrainInv env e s)
    (hr : rchRemoveMin.run.run s = (.ok (some n), s1)) : Inv env e s1 (some n) ∧ Frame s s1 :=
  CutH.pop_inv I hr

/-- the drain: one `recomputeOne` on the current node, with the step relation (`StepRel.verdict` is the gate) -/
theorem recomputeOne_inv {env : Env} {e : Bool} {fuel n : Nat} {s s' : State} {r : Option Nat}
    (I : Inv env e s (some n)) (h : (recomputeOne env fuel n).run.run s = (.ok r, s')) :
    ∃ v ch, Target env s n v ∧ StepRel env n v ch r s s' ∧ Inv env e s' r :=
  recomputeOne_step I h

/-- the current node is necessary, stale, and has not run in this round -/
theorem current_stale {env : Env} {e : Bool} {s : State} {n : Nat} (I : Inv env e s (some n)) :
    s.isNecessary n = true ∧ s.isStale n = true ∧ (s.nodeD n).recomputedAt < s.stabNum :=
  ⟨(I.cur n rfl).1, I.qstale n (Or.inr rfl), I.cur_not_yet⟩

theorem drainHeap_inv {env : Env} {e : Bool} (fuel : Nat) (s s' : State) (I : DrainInv env e s)
    (h : (drainHeap env fuel).run.run s = (.ok (), s')) :
    DrainInv env e s' ∧ s'.rch.length = 0 ∧ Frame s s' :=
  CutH.drainHeap_inv fuel s s' I h

/-- after the drain every necessary node is valid, not stale, and has a value -/
theorem drained_settled {env : Env} {e : Bool} {s : State} (h : DrainInv env e s) (he : s.rch.length = 0)
    (n : Nat) (hn : s.isNecessary n = true) :
    (s.nodeD n).valid = true ∧ s.isStale n = false ∧ ∃ v, (s.nodeD n).value = some v ∧ s.value env n = some v :=
  CutH.drained_settled h he n hn

theorem drain_once {env : Env} {e : Bool} (fuel : Nat) (s s' : State) (I : DrainInv env e s)
    (h : (drainHeap env fuel).run.run s = (.ok (), s')) :
    (drainTrace env fuel s).Nodup ∧ ∀ m, m ∈ drainTrace env fuel s →
      s.isNecessary m = true ∧ (s.nodeD m).recomputedAt < s.stabNum ∧
        (s'.nodeD m).recomputedAt = s.stabNum :=
  CutH.drain_once fuel s s' I h

/-! ## Q2: the gating theorem -/

/-- the gate of one drain: who runs -/
theorem drain_ran_iff {env : Env} {e : Bool} {fuel : Nat} {s s' : State} (I : DrainInv env e s)
    (h : (drainHeap env fuel).run.run s = (.ok (), s')) (m : Nat) :
    m ∈ drainTrace env fuel s ↔ (s.isNecessary m = true ∧ staleMix s s' m = true) :=
  ran_iff I h m

/-- **THE GATING THEOREM, one `stabilise`.** -/
theorem stabilise_gate {env : Env} {e : Bool} {fuel : Nat} {s s' : State} (Q : QInv env e s)
    (h : (stabilise env fuel).run.run s = (.ok (), s')) : Gated env e fuel s s' :=
  CutH.stabilise_gate Q h

/-- **THE GATING THEOREM, every `stabilise` of every history** of static actions with arbitrary cutoffs. -/
theorem history_gate {env : Env} {N : Nat} {d : Bool} {as bs : List Action} {s : State}
    {tk : Array Nat} (ha : ∀ a, a ∈ as ++ Action.stabilise :: bs → StaticAction env a)
    (h : runActions env (as ++ Action.stabilise :: bs) (State.init N d) #[] = .ok (s, tk)) :
    ∃ s1 tk1 s2, runActions env as (State.init N d) #[] = .ok (s1, tk1) ∧
      QInv env (as.all ExactAction) s1 ∧
      (stabilise env fuelDefault).run.run s1 = (.ok (), s2) ∧
      Gated env (as.all ExactAction) fuelDefault s1 s2 ∧
      Stabilised env (as.all ExactAction) fuelDefault s1 s2 ∧
      ReadsSome env s2 ∧ ObsSettled s2 ∧ (∀ n, s2.isNecessary n = true ↔ InCone s2 n) ∧
      runActions env bs s2 tk1 = .ok (s, tk) := by
  obtain ⟨s1, tk1, s2, h1, Q1, h2, R, hr, hs, hc, -, h3⟩ := history_stabilise ha h
  exact ⟨s1, tk1, s2, h1, Q1, h2, CutH.stabilise_gate Q1 h2, R, hr, hs, hc, h3⟩

/-- the gate in closed form -/
theorem gate_closed (env : Env) (p : State) (n : Nat) (new : Val) :
    mcvChanges env p n new =
      match (p.nodeD n).value with
      | none => some true
      | some old =>
        match (p.nodeD n).cutoff with
        | .never => some true
        | .always => some false
        | .eq => some (!(old == new))
        | .fn c => some (!(env.cutoff c old new))
        | .boxed c => some (!(env.cutoff c old new))
        | .dependOn i => (p.nodes[i]?).map fun ni => !(ni.changedAt == (p.nodeD n).changedAt) :=
  mcvChanges_closed env p n new

/-- `changedAt` is set to this round iff the node ran and its result was not suppressed -/
theorem bump_iff {env : Env} {e : Bool} {fuel : Nat} {s s' : State} (G : Gated env e fuel s s') (m : Nat) :
    (s'.nodeD m).changedAt = s.stabNum ↔
      ∃ ρ, ρ.node = m ∧ Invoked env s s' ρ ∧ (s'.nodeD m).recomputedAt = s.stabNum ∧
        ∃ v, (s'.nodeD m).value = some v ∧ mcvChanges env ρ.pre m v = some true :=
  G.bump_iff m

/-- the relational statement that stands for `Sched.Inv.cons`: a node that ran in this `stabilise` is, after it, `Sched.Consistent`
with the FINAL values of its children (its value is its defining expression on them), whatever the cutoffs are -/
theorem ran_consistent {env : Env} {e : Bool} {fuel : Nat} {s s' : State} (G : Gated env e fuel s s') {m : Nat}
    (hm : (s'.nodeD m).recomputedAt = s.stabNum) : IncrVerif.Proofs.Sched.Consistent env s' m :=
  G.ran_consistent hm

/-- (a) changes are never lost -/
theorem never_lost {env : Env} {e : Bool} {fuel : Nat} {s s' : State} (G : Gated env e fuel s s') {c p : Nat}
    (hc : (s'.nodeD c).changedAt = s.stabNum) (hp : s'.isNecessary p = true)
    (hk : c ∈ kids (s.nodeD p).kind) : (s'.nodeD p).recomputedAt = s.stabNum :=
  G.never_lost hc hp hk

/-- (b) `.always`: no bump once the node has a value -/
theorem always_keeps {env : Env} {e : Bool} {fuel : Nat} {s s' : State} (G : Gated env e fuel s s') {m : Nat}
    (hc : (s.nodeD m).cutoff = .always) (hv : (s.nodeD m).value ≠ none) :
    (s'.nodeD m).changedAt = (s.nodeD m).changedAt :=
  G.always_keeps hc hv

/-- (b) `.always`: a parent that runs has another reason -/
theorem always_parent {env : Env} {e : Bool} {fuel : Nat} {s s' : State} (G : Gated env e fuel s s') {m p : Nat}
    (hc : (s.nodeD m).cutoff = .always) (hv : (s.nodeD m).value ≠ none)
    (hran : (s'.nodeD p).recomputedAt = s.stabNum) (hk : m ∈ kids (s.nodeD p).kind)
    (hnever : (s.nodeD p).recomputedAt ≠ -1) (hbefore : (s.nodeD m).changedAt ≤ (s.nodeD p).recomputedAt) :
    ∃ c, c ∈ kids (s.nodeD p).kind ∧ c ≠ m ∧ (s'.nodeD c).changedAt > (s.nodeD p).recomputedAt :=
  G.always_parent hc hv hran hk hnever hbefore

/-- between stabilisations nothing happens to values, stamps and kinds; cutoffs change only by `cutoff` actions -/
theorem between_stabilisations {env : Env} {e : Bool} {s s' : State} {a : Action} {tokens : Array Nat}
    {r : String × Array Nat} (Q : QInv env e s) (ha : StaticAction env a) (hns : a ≠ .stabilise)
    (h : (stepAction env a tokens).run.run s = (.ok r, s')) :
    Kept s s' ∧ (IsCutoff a = false → KeptCut s s') :=
  step_kept Q ha hns h

/-- (b) `.always`, whole histories: after its first result the node NEVER bumps `changedAt` again (over any list of
static actions that does not replace cutoffs) -/
theorem always_history {env : Env} {e : Bool} {acts : List Action} {s s' : State} {tk tk' : Array Nat} {m : Nat}
    (Q : QInv env e s) (ha : ∀ a, a ∈ acts → StaticAction env a) (hnc : ∀ a, a ∈ acts → IsCutoff a = false)
    (hm : m < s.nodes.size) (hc : (s.nodeD m).cutoff = .always) (hv : (s.nodeD m).value ≠ none)
    (h : runActions env acts s tk = .ok (s', tk')) :
    (s'.nodeD m).cutoff = .always ∧ (s'.nodeD m).value ≠ none ∧
      (s'.nodeD m).changedAt = (s.nodeD m).changedAt :=
  CutH.always_history Q ha hnc hm hc hv h

/-- (c) `.never`: every run bumps `changedAt`; every necessary parent runs -/
theorem never_propagates {env : Env} {e : Bool} {fuel : Nat} {s s' : State} (G : Gated env e fuel s s') {m : Nat}
    (hc : (s.nodeD m).cutoff = .never) (hran : (s'.nodeD m).recomputedAt = s.stabNum) :
    (s'.nodeD m).changedAt = s.stabNum ∧
      ∀ p, s'.isNecessary p = true → m ∈ kids (s.nodeD p).kind → (s'.nodeD p).recomputedAt = s.stabNum :=
  ⟨G.never_bumps hc hran, fun _ hp hk => G.never_lost (G.never_bumps hc hran) hp hk⟩

/-- (d) the default cutoff -/
theorem eq_iff {env : Env} {e : Bool} {fuel : Nat} {s s' : State} (G : Gated env e fuel s s') {m : Nat}
    (hc : (s.nodeD m).cutoff = .eq) (hran : (s'.nodeD m).recomputedAt = s.stabNum) :
    ((s'.nodeD m).changedAt = s.stabNum ↔ ((s.nodeD m).value = none ∨ (s'.nodeD m).value ≠ (s.nodeD m).value)) ∧
    ((s'.nodeD m).changedAt ≠ s.stabNum → (s'.nodeD m).changedAt = (s.nodeD m).changedAt) :=
  G.eq_iff hc hran

/-- (d) a node whose children all kept their `changedAt` does not run (unless it never ran / its variable was set):
"recomputation stops at the first node whose value is equal to its previous value" -/
theorem stops {env : Env} {e : Bool} {fuel : Nat} {s s' : State} (G : Gated env e fuel s s') {p : Nat}
    (hkids : ∀ c, c ∈ kids (s.nodeD p).kind → (s'.nodeD c).changedAt = (s.nodeD c).changedAt)
    (hran : (s'.nodeD p).recomputedAt = s.stabNum) : staleMix s s p = true := by
  have := ((G.ran_iff p).1 hran).2
  rw [staleMix_self, ← staleMix_eq_staleOf (s := s) (s' := s') (p := s) rfl rfl rfl (fun c hc => hkids c hc)]
  exact this

/-- function cutoffs: consulted with (old, new) in that order, logged -/
theorem fn_verdict {env : Env} {e : Bool} {fuel : Nat} {s s' : State} (G : Gated env e fuel s s') {m c : Nat}
    {old : Val} (hc : (s.nodeD m).cutoff = .fn c ∨ (s.nodeD m).cutoff = .boxed c)
    (hold : (s.nodeD m).value = some old) (hran : (s'.nodeD m).recomputedAt = s.stabNum) :
    ∃ ρ new, ρ.node = m ∧ Invoked env s s' ρ ∧ (s'.nodeD m).value = some new ∧
      (s'.nodeD m).changedAt = (if env.cutoff c old new = true then (s.nodeD m).changedAt else s.stabNum) ∧
      ∃ evs, ρ.post.log = Event.cut c m old new (env.cutoff c old new) :: (evs ++ ρ.pre.log) ∧
        ∀ ev, ev ∈ evs → IsInvOf m ev :=
  G.fn_verdict hc hold hran

/-- `depend_on` -/
theorem dependOn_verdict {env : Env} {e : Bool} {fuel : Nat} {s s' : State} (G : Gated env e fuel s s') {m i : Nat}
    {old : Val} (hc : (s.nodeD m).cutoff = .dependOn i) (hi : i ∈ kids (s.nodeD m).kind)
    (hold : (s.nodeD m).value = some old) (hran : (s'.nodeD m).recomputedAt = s.stabNum) :
    (s'.nodeD m).changedAt =
      (if (s'.nodeD i).changedAt = (s.nodeD m).changedAt then (s.nodeD m).changedAt else s.stabNum) :=
  G.dependOn_verdict hc hi hold hran

/-! ## Q3: exact cutoffs — the values theorem of `C01History` recovered -/

/-- **Q3.** At a `stabilise` of a history whose previous actions are all `ExactAction`s (no `dependOn`, every `cutoff`
action installs `.eq` or `.never`): every necessary node carries its from-scratch value and every observer in use
reads it. -/
theorem history_exact {env : Env} {N : Nat} {d : Bool} {as bs : List Action} {s : State}
    {tk : Array Nat} (ha : ∀ a, a ∈ as ++ Action.stabilise :: bs → StaticAction env a)
    (hx : as.all ExactAction = true)
    (h : runActions env (as ++ Action.stabilise :: bs) (State.init N d) #[] = .ok (s, tk)) :
    ∃ s1 tk1 s2, runActions env as (State.init N d) #[] = .ok (s1, tk1) ∧ QInv env true s1 ∧
      (stabilise env fuelDefault).run.run s1 = (.ok (), s2) ∧ Stabilised env true fuelDefault s1 s2 ∧
      ReadsOK env s2 ∧ ObsSettled s2 ∧
      (∀ n, s2.isNecessary n = true → ∀ k, (s2.nodeD n).height.toNat < k →
        (s2.nodeD n).valid = true ∧ s2.isStale n = false ∧ (s2.nodeD n).value = eval env s2 k n ∧
          s2.value env n = eval env s2 k n ∧ (eval env s2 k n).isSome = true) ∧
      runActions env bs s2 tk1 = .ok (s, tk) := by
  obtain ⟨s1, tk1, s2, h1, Q1, h2, R, -, hs, -, hr, h3⟩ := history_stabilise ha h
  rw [hx] at Q1 R
  exact ⟨s1, tk1, s2, h1, Q1, h2, R, hr hx, hs, R.values rfl, h3⟩

/-- the actions of the fragment of `Props/C01History.lean` are static actions of this one, and exact -/
theorem static_is_exact {env : Env} {a : Action} (h : Quiet.StaticAction env a) :
    StaticAction env a ∧ ExactAction a = true := by
  cases a <;> try exact h.elim
  case create i =>
    cases i <;> try exact h.elim
    all_goals exact ⟨h, rfl⟩
  case observe n => cases n <;> first | exact h.elim | exact ⟨trivial, rfl⟩
  all_goals exact ⟨trivial, rfl⟩

theorem runActions_eq (env : Env) (acts : List Action) (s : State) (tk : Array Nat) :
    Quiet.runActions env acts s tk = runActions env acts s tk :=
  (CutH.runActions_eq env acts s tk).symm

/-- **`C01History` is subsumed**: for a history of the fragment of `Props/C01History.lean` (stated with its own
`Quiet.StaticAction`, `Quiet.runActions`), the reads conclusion of `C01History.history_every_stabilise` — every
observer in use reads `Sched.eval`, every observer is in use or unlinked — follows from the invariant for arbitrary
cutoffs. -/
theorem old_fragment_recovered {env : Env} {N : Nat} {d : Bool} {as bs : List Action} {s : State}
    {tk : Array Nat} (ha : ∀ a, a ∈ as ++ Action.stabilise :: bs → Quiet.StaticAction env a)
    (h : Quiet.runActions env (as ++ Action.stabilise :: bs) (State.init N d) #[] = .ok (s, tk)) :
    ∃ s1 tk1 s2, Quiet.runActions env as (State.init N d) #[] = .ok (s1, tk1) ∧
      (stabilise env fuelDefault).run.run s1 = (.ok (), s2) ∧
      Quiet.ReadsOK env s2 ∧ Quiet.ObsSettled s2 ∧
      Quiet.runActions env bs s2 tk1 = .ok (s, tk) := by
  rw [runActions_eq] at h
  have hx : as.all ExactAction = true := by
    rw [List.all_eq_true]
    intro a hm
    exact (static_is_exact (ha a (List.mem_append_left _ hm))).2
  obtain ⟨s1, tk1, s2, h1, -, h2, -, hr, hs, -, h3⟩ :=
    history_exact (fun a hm => (static_is_exact (ha a hm)).1) hx h
  exact ⟨s1, tk1, s2, by rw [runActions_eq]; exact h1, h2, hr, hs, by rw [runActions_eq]; exact h3⟩

/-! ## total correctness: C04 for the fragment with arbitrary cutoffs -/

/-- **No assertion fails during a drain**, whatever the cutoffs: a `drainHeap` that does not return ran out of fuel -/
theorem drainHeap_safe {env : Env} {e : Bool} (fuel : Nat) (s s' : State) (pe : Panic) (I : DrainInv env e s)
    (S : Safe s) (h : (drainHeap env fuel).run.run s = (.error pe, s')) : pe = .outOfFuel :=
  CutH.drainHeap_safe fuel s s' pe I S h

/-- **Total correctness of the drain.** -/
theorem drainHeap_total {env : Env} {e : Bool} {fuel : Nat} {s : State} (I : DrainInv env e s) (S : Safe s)
    (hf : s.nodes.size + 2 ≤ fuel) :
    ∃ s', (drainHeap env fuel).run.run s = (.ok (), s') ∧ DrainInv env e s' ∧ s'.rch.length = 0 ∧
      Frame s s' ∧ Safe s' :=
  drainHeap_total_inv I S hf

/-- `stabilise` returns (pending observers allowed, any cutoffs); all of `Stabilised` and `Gated` hold for the result -/
theorem stabilise_returns {env : Env} {e : Bool} {N fuel : Nat} {s : State} (Q : QInv env e s) (T : TInv N s)
    (hf : 3 * s.nodes.size + 4 ≤ fuel) :
    ∃ s', (stabilise env fuel).run.run s = (.ok (), s') ∧ TInv N s' ∧ Stabilised env e fuel s s' ∧
      Gated env e fuel s s' := by
  obtain ⟨_, s', h, T'⟩ := stabilise_total_q (env := env) Q T hf
  exact ⟨s', h, T', stabilise_q Q h, CutH.stabilise_gate Q h⟩

/-- every static API action (any cutoff) whose indices exist returns, and keeps both invariants -/
theorem action_returns {env : Env} {e : Bool} {N : Nat} {s : State} {a : Action} {tk : Array Nat}
    (Q : QInv env e s) (T : TInv N s) (ha : StaticAction env a) (hok : ActionOK N s a) :
    ∃ r s', (stepAction env a tk).run.run s = (.ok r, s') ∧ r.2 = tk ∧ QInv env (e && ExactAction a) s' ∧
      TInv N s' ∧ Grown a s s' :=
  step_total Q T ha hok

/-- **C04 for the fragment.** A valid history of static actions with arbitrary cutoffs never panics. -/
theorem history_never_panics {env : Env} {N : Nat} {d : Bool} {acts : List Action}
    (ha : ∀ a, a ∈ acts → StaticAction env a) (hv : ValidHist N 0 0 0 acts) :
    ∃ s', runActions env acts (State.init N d) #[] = .ok (s', #[]) ∧ QInv env (acts.all ExactAction) s' ∧
      TInv N s' :=
  history_total ha hv

/-- hence, unconditionally: at every `stabilise` of a valid history the gating theorem holds -/
theorem valid_history_gate {env : Env} {N : Nat} {d : Bool} {as bs : List Action}
    (ha : ∀ a, a ∈ as ++ Action.stabilise :: bs → StaticAction env a)
    (hv : ValidHist N 0 0 0 (as ++ Action.stabilise :: bs)) :
    ∃ s1 tk1 s2 s, runActions env as (State.init N d) #[] = .ok (s1, tk1) ∧
      QInv env (as.all ExactAction) s1 ∧
      (stabilise env fuelDefault).run.run s1 = (.ok (), s2) ∧
      Gated env (as.all ExactAction) fuelDefault s1 s2 ∧
      Stabilised env (as.all ExactAction) fuelDefault s1 s2 ∧
      ReadsSome env s2 ∧ ObsSettled s2 ∧
      runActions env bs s2 tk1 = .ok (s, #[]) := by
  obtain ⟨s, h, -, -⟩ := history_total (env := env) (d := d) ha hv
  obtain ⟨s1, tk1, s2, h1, Q1, h2, G, R, hr, hs, -, h3⟩ := history_gate ha h
  exact ⟨s1, tk1, s2, s, h1, Q1, h2, G, R, hr, hs, h3⟩

/-! ## non-vacuity -/

/-- the final state of a history (from `State.init 128 true`) -/
def finalState (env : Env) (acts : List Action) : Option State :=
  match runActions env acts (State.init 128 true) #[] with
  | .ok (s, _) => some s
  | .error _ => none

/-- how often the function of node `n` has been invoked (the log is never reset by `runActions`) -/
def invCount (s : State) (n : Nat) : Nat :=
  (s.log.filter fun ev => match ev with | .inv _ m _ _ => m == n | _ => false).length

/-- the `cut` events of the log, oldest first: (predicate, node, old, new, answer) -/
def cutEvents (s : State) : List (Nat × Nat × Val × Val × Bool) :=
  s.log.reverse.filterMap fun ev => match ev with | .cut c n o v r => some (c, n, o, v, r) | _ => none

def readObs (env : Env) (s : State) (o : Nat) : Option Val :=
  match s.tryGetValue env o with | .ok v => some v | .error _ => none

theorem finalState_some {env : Env} {acts : List Action} {s : State} (h : finalState env acts = some s) :
    ∃ tk, runActions env acts (State.init 128 true) #[] = .ok (s, tk) := by
  unfold finalState at h
  rcases hx : runActions env acts (State.init 128 true) #[] with e | ⟨s1, tk⟩
  · rw [hx] at h; cases h
  · rw [hx] at h; cases h; exact ⟨tk, rfl⟩

theorem finalState_isSome {env : Env} {acts : List Action} (h : (finalState env acts).isSome = true) :
    ∃ s tk, runActions env acts (State.init 128 true) #[] = .ok (s, tk) := by
  obtain ⟨s, hs⟩ := Option.isSome_iff_exists.1 h
  obtain ⟨tk, h⟩ := finalState_some hs
  exact ⟨s, tk, h⟩

/-- a tactic-free check that a list of actions is static -/
def staticB : Action → Bool
  | .create (.const _) | .create (.var _) => true
  | .create (.map f args) => decide (f < fnZip) && args.all fun a => match a with | .outer _ => true | _ => false
  | .create (.dependOn (.outer _) (.outer _)) => true
  | .create (.cutoff (.outer _) _) => true
  | .observe (.outer _) => true
  | .set _ _ | .stabilise => true
  | _ => false

theorem staticB_sound {a : Action} (h : staticB a = true) : StaticAction Step.exEnv a := by
  cases a <;> try (simp [staticB] at h; done)
  case create i =>
    cases i <;> try (simp [staticB] at h; done)
    case const => trivial
    case var => trivial
    case map f args =>
      simp only [staticB, Bool.and_eq_true, decide_eq_true_eq, List.all_eq_true] at h
      refine ⟨by have := h.1; unfold fnZip at this; unfold fnPerKey; omega, fun _ _ => rfl, fun a ha => ?_⟩
      have := h.2 a ha
      cases a <;> first | trivial | (simp at this)
    case dependOn a b =>
      cases a <;> cases b <;> first | exact ⟨trivial, trivial⟩ | (simp [staticB] at h)
    case cutoff n c =>
      cases n <;> first | trivial | (simp [staticB] at h)
  case observe n => cases n <;> first | trivial | (simp [staticB] at h)
  case set => trivial
  case stabilise => trivial

theorem static_of_all {acts : List Action} (h : acts.all staticB = true) :
    ∀ a, a ∈ acts → StaticAction Step.exEnv a := by
  rw [List.all_eq_true] at h
  exact fun a ha => staticB_sound (h a ha)

/-- var 1 → `n1 = f0 [n0]` with cutoff ALWAYS → `n2 = f0 [n1]`, observed; stabilise; write 5; stabilise -/
def exAlways : List Action :=
  [.create (.var (.int 1)), .create (.map 0 [.outer 0]), .create (.cutoff (.outer 1) .always),
   .create (.map 0 [.outer 1]), .observe (.outer 2), .stabilise, .set 0 (.int 5), .stabilise]

theorem exAlways_static : ∀ a, a ∈ exAlways → StaticAction Step.exEnv a := static_of_all (by decide)

set_option maxRecDepth 100000 in
/-- the history runs; the first map ran twice, the SECOND MAP ONCE; `n1` holds the new value `5`, `n2` and the observer
still the old `1`; `n1.changedAt` is still the first round -/
example : (finalState Step.exEnv exAlways).isSome = true ∧
    (finalState Step.exEnv exAlways).map (fun s => (invCount s 1, invCount s 2)) = some (2, 1) ∧
    (finalState Step.exEnv exAlways).map (fun s => ((s.nodeD 1).value, (s.nodeD 2).value, readObs Step.exEnv s 0))
      = some (some (.int 5), some (.int 1), some (.int 1)) ∧
    (finalState Step.exEnv exAlways).map (fun s => ((s.nodeD 1).changedAt, (s.nodeD 1).recomputedAt, s.stabNum))
      = some (0, 1, 2) :=
  by decide +kernel

set_option maxRecDepth 100000 in
/-- … so the gating theorem applies to both of its `stabilise`s, with the flag down (`cutoff … always` is not exact) -/
example : ∃ s1 tk1 s2, runActions Step.exEnv (exAlways.take 7) (State.init 128 true) #[] = .ok (s1, tk1) ∧
    (stabilise Step.exEnv fuelDefault).run.run s1 = (.ok (), s2) ∧ Gated Step.exEnv false fuelDefault s1 s2 := by
  obtain ⟨s, tk, h⟩ := finalState_isSome (env := Step.exEnv) (acts := exAlways) (by decide +kernel)
  obtain ⟨s1, tk1, s2, h1, -, h2, G, -⟩ :=
    history_gate (as := exAlways.take 7) (bs := []) (fun a ha => exAlways_static a (by simpa [exAlways] using ha)) h
  exact ⟨s1, tk1, s2, h1, h2, G⟩

/-- var 1 → `n1 = f0 [n0]` with cutoff `fn c0` ("equal mod 2") → `n2 = f0 [n1]`, observed; stabilise; write 3
(same parity: suppressed); stabilise; write 4 (propagates); stabilise -/
def exFn : List Action :=
  [.create (.var (.int 1)), .create (.map 0 [.outer 0]), .create (.cutoff (.outer 1) (.fn 0)),
   .create (.map 0 [.outer 1]), .observe (.outer 2), .stabilise, .set 0 (.int 3), .stabilise,
   .set 0 (.int 4), .stabilise]

theorem exFn_static : ∀ a, a ∈ exFn → StaticAction Step.exEnv a := static_of_all (by decide)

set_option maxRecDepth 100000 in
/-- the predicate `c0` of node 1 is consulted with (old, new) IN THAT ORDER: `(1, 3) ↦ true`, then `(3, 4) ↦ false`
(the old value of the second call is the SUPPRESSED new value of the first); the parent `n2` runs twice (first result,
and after the second call); the observer reads `1`, `1`, `4` -/
example : (finalState Step.exEnv exFn).map cutEvents =
      some [(0, 1, .int 1, .int 3, true), (0, 1, .int 3, .int 4, false)] ∧
    (finalState Step.exEnv exFn).map (fun s => (invCount s 1, invCount s 2)) = some (3, 2) ∧
    (finalState Step.exEnv (exFn.take 8)).map (fun s => readObs Step.exEnv s 0) = some (some (.int 1)) ∧
    (finalState Step.exEnv exFn).map (fun s => readObs Step.exEnv s 0) = some (some (.int 4)) :=
  by decide +kernel

/-- FC1: the input `n0` is observed and stabilised BEFORE the `depend_on` node exists -/
def exDep : List Action :=
  [.create (.var (.int 1)), .create (.var (.int 2)), .observe (.outer 0), .stabilise,
   .create (.dependOn (.outer 0) (.outer 1)), .create (.map 0 [.outer 2]), .observe (.outer 3), .stabilise,
   .set 1 (.int 3), .stabilise, .set 1 (.int 4), .stabilise]

/-- the same without the early `observe n0; stabilise` -/
def exDep2 : List Action :=
  [.create (.var (.int 1)), .create (.var (.int 2)),
   .create (.dependOn (.outer 0) (.outer 1)), .create (.map 0 [.outer 2]), .observe (.outer 3), .stabilise,
   .set 1 (.int 3), .stabilise, .set 1 (.int 4), .stabilise]

theorem exDep_static : ∀ a, a ∈ exDep → StaticAction Step.exEnv a := static_of_all (by decide)

set_option maxRecDepth 100000 in
/-- **FC1.**  In `exDep` the function of the parent `n3` of the `depend_on` node is invoked at EVERY change of the `on`
argument (3 times), in `exDep2` once — the value depended on (`n0 = 1`) never changes in either. -/
example : (finalState Step.exEnv exDep).map (fun s => invCount s 3) = some 3 ∧
    (finalState Step.exEnv exDep2).map (fun s => invCount s 3) = some 1 ∧
    (finalState Step.exEnv exDep).map (fun s => ((s.nodeD 0).changedAt, (s.nodeD 2).changedAt)) = some (0, 3) ∧
    (finalState Step.exEnv exDep2).map (fun s => ((s.nodeD 0).changedAt, (s.nodeD 2).changedAt)) = some (0, 0) :=
  by decide +kernel

/-- Q3, non-vacuity: the example history of `Props/C01History.lean`, with a `cutoff … never` thrown in, is static and
exact; it runs, so `history_exact` applies to its `stabilise`s -/
def exExact : List Action :=
  [.create (.var (.int 1)), .create (.var (.int 2)), .create (.map 0 [.outer 0, .outer 1]),
   .create (.cutoff (.outer 2) .never), .observe (.outer 2), .stabilise, .set 0 (.int 5), .stabilise]

set_option maxRecDepth 100000 in
example : (∀ a, a ∈ exExact → StaticAction Step.exEnv a) ∧ exExact.all ExactAction = true ∧
    (finalState Step.exEnv exExact).map (fun s => readObs Step.exEnv s 0) = some (some (.int 7)) :=
  ⟨static_of_all (by decide), by decide, by decide +kernel⟩

/-- the example histories are VALID: they never panic (proved, not computed) and `valid_history_gate` applies -/
theorem exAlways_valid : ValidHist 128 0 0 0 exAlways := by
  simp only [exAlways, ValidHist, ActionOKc, grow, fuelDefault, PlainCut]
  refine ⟨⟨trivial, by decide⟩, ⟨?_, by decide⟩, ⟨⟨1, rfl, by decide⟩, trivial⟩, ⟨?_, by decide⟩, ⟨2, rfl, by decide⟩,
    by decide, by decide, by decide, trivial⟩
  · intro a ha
    simp only [List.mem_cons, List.mem_nil_iff, or_false] at ha
    subst ha; exact ⟨0, rfl, by decide⟩
  · intro a ha
    simp only [List.mem_cons, List.mem_nil_iff, or_false] at ha
    subst ha; exact ⟨1, rfl, by decide⟩

example : ∃ s', runActions Step.exEnv exAlways (State.init 128 true) #[] = .ok (s', #[]) ∧
    QInv Step.exEnv false s' ∧ TInv 128 s' := by
  have hx : exAlways.all ExactAction = false := by decide
  have := history_never_panics (env := Step.exEnv) (d := true) exAlways_static exAlways_valid
  rw [hx] at this
  exact this

end IncrVerif.Props.C06History
