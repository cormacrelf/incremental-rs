import IncrVerif.Proofs.NestH67
import IncrVerif.Proofs.NestH68
import IncrVerif.Proofs.NestH75
import IncrVerif.Proofs.NestH118
import IncrVerif.Proofs.NestH119
import IncrVerif.Proofs.NestH123
/-!
# C03 for NESTED binds (fragment F2) — binds created inside a bind's scope

Continues `Props/C03Order.lean` (fragments F0/F1).  A closure may now contain `bind body' o` instructions: `createBind` inside scope `.bind b` pushes a FRESH bind
record `b2`, and creates its change detector and main node IN SCOPE `.bind b` (both registered in `b`'s `allNodesCreatedOnRhs`); when the inner change detector
runs, its closure creates nodes in scope `.bind b2` (again `const`/`lhsConst`/pure `map`/`fold`/`bind`, over top-level handles older than the OUTERMOST bind and its own
earlier locals).  When the outer change detector runs again, `invalidateNode` on the inner main node recursively invalidates the inner generation.

## PROVED HERE (all for the model, debug mode, partial correctness: the call / history is assumed to return `.ok`)

PURE PART (`Proofs/NestH1–3`).  `NestH.StepL2` — the contract of a run of a change detector when the bind table may GROW, other records may lose their list of
registered nodes, and the nodes that die are those connected to the change detector through scope/child edges (`Below s m n`; `StepL.toL2`: the flat contract implies it).
`stepL2_inv` (`DInv` is kept), `LcStepsOK2`, `drainHeap_valuesB2`, `drain_onceB2`: the drain theorems of `C03Order` for `StepL2`.  (`DInv`, `Edge`, `Below`, `BGraph`, `StepRelB`,
`OrderInv` and the B1 ordering lemmas are UNCHANGED: they never assumed that change detectors are top-level.)

STRUCTURE (`Proofs/NestH4–6`).  `NestH.GInv2 env rk s op ex dy`: the structural invariant with open nodes; the rank is a GHOST `rk : Nat → Nat` (decreasing along child
edges and from a scope node to the change detector of its scope; a node of scope `b` lies strictly between `lc_b` and `main_b`; injective); `All2` allows
`bindLhsChange`/`bindMain` nodes inside scopes, dead records, `scopeValid`, `recValid`.  THE SCOPE HEIGHT RULE `scopeH` is stated as in F1 but now holds along chains of
scopes (`lc_b < lc_b2 < nodes of b2`).  `GInv2.scope_no_parents` (scope necessity), `bgraph_of_ginv2`.
CASCADES in rank order: `becameNecessary_spec2`, `addParentWithoutAdjustingHeights_spec2` (`NestH8–12`), `checkIfUnnecessary_spec2`, `becameUnnecessary_spec2`,
`removeChildren_spec2`, `removeParent_*2` (`NestH13–16`), `adjustHeights_spec2` (`NestH17–18`: the loop over `allNodesCreatedOnRhs` of a raised change detector raises inner
change detectors, which are then popped and raise THEIR scopes).
THE FOUR PHASES of a run of a change detector (`NestH19`: contracts): `closure_spec2 : ClosureSpec2 env` (`NestH20–25`: `elabTemplate` incl. `createBind` in a scope; the ghost
rank is extended: `RkExt`), `relink_spec2 : RelinkSpec2 env` (`NestH26–30`: the bind may itself be an inner bind; old/new rhs may be inner main nodes), `inval_spec2 :
InvalSpec2 env` (`NestH31–35`: `Dying` = the old generation and, recursively, the generations of its inner binds; induction on the fuel of `invalidateNode`),
`recomputeOne_lcF2` (`NestH36–40`): the run satisfies `StepL2` and keeps `F2Inv`.  `lcStepF2`, `lcStepsOK_F2'` (`NestH68`).
DRAIN, `stabilise`, API ACTIONS, HISTORIES without any hypothesis on the steps: `drainHeap_F2'`, `drain_once_F2'` (`NestH42,68`), `QInv2`/`QI2` (`NestH43`: invariant between
actions), `step_create2` (`NestH44–48`), `step_observe2`…`step_write2` (`NestH49–50`), `addNewObservers_s2`, `unlinkDisallowedObservers_s2` (`NestH51–52`), `stabilise_F2'`
(`NestH53–58,68`), `step_q2'`, `history_q2'`, `history_prefix2'` (`NestH64–66,68`).
SEMANTICS: `NestH.den2`/`denBody` (`NestH59`): the specification-level from-scratch semantics, recursive through nested closures (a `bind body' o` instruction of a template: evaluate
`o`, apply the closure `body'`, evaluate the template it yields); no node created by a closure is looked at.  `GenOK2` ("generations are current": the registered nodes of every LIVE,
non-stale change detector are the image `ElabOf2` of the template for the current lhs value; an inner bind contributes its change detector and its main node).  `den2_of_consistent_fuel`
(`NestH60–62`): with `GenOK2` the stored value of every necessary top-level node is `den2`.  `closure_elab2` (`NestH69–70`): the closure run registers exactly the image.  `lc_gen2'`,
`stabilise_gen2'`, `step_gen2`, `stabilise_reads_den2'` (`NestH72–75`): `GenOK2` is kept by every step of a drain, by `stabilise`, by every API action; after a `stabilise` every in-use
observer reads `den2` of its node.  `QG2 := QI2 ∧ GenOK2`, `step_F2`, `history_F2`, `history_stabilise_F2` (`NestH75`).
TEXT-LEVEL REFERENCE SEMANTICS (`NestH113–117,120–123`): `Spec.denoteTop` (`Spec/Denote.lean`, the oracle of C01/C07: it looks only at the program text and the current variable values,
nested binds by `denoteTemplate`) AGREES with `den2`: `ProgOK p env s` (the top-level nodes of `s` are the images of the creation instructions of `p`), `agree_den2_denote`, `agree_large`
(both directions, for all large fuel; hypothesis `ZipPair env`: `env.fn fnZip [a, b] = .pair a b`, true for every `Defs.toEnv`), `progOK_history` (`ProgOK (progOf env po acts) env s` for
every state reached by a history of F2; `shadow_step_prog`: `progOf` is what `Spec.Shadow.step` builds), and `history_stabilise_denote`: at every `stabilise` of a history of F2 every
in-use observer reads `Spec.denoteTop (progOf … prefix) f j` of its handle `j`, for all large `f`.
NON-VACUITY (`NestH67`): `exHistN` — a history with a nested bind whose INNER lhs changes (second stabilise), whose OUTER lhs changes (third), and a fresh inner record (fourth).

## VALIDATION BY EXECUTION (before proving): Boolean versions of `DInv`, `OrderInv`, `StepRelB`, `StepL2`, `All2` (lexicographic scope-path rank), `GInv2` at rest, `GenOK2`,
reads = `den2` at every drain state of 300 generated nested histories (14318 steps, 3438 runs of change detectors, 6153 reads): 0 violations; model = real implementation on all.

## PROVED HERE: TOTAL CORRECTNESS (C04) for histories with binds — fragments F0 ⊂ F1 ⊂ F2 (`Proofs/NestH76–118`)

`history_never_panics`: a history of fragment F2 whose indices exist (`ValidIdx`: operands name handles created earlier, variables and observers exist) NEVER panics and never
runs out of fuel, PROVIDED the state it ends in — whatever the outcome; the monad keeps the state when a panic is raised — has room (`HasRoom N fuelDefault`): at most `N` nodes,
`N` = the height limit the state was initialised with, and `needFuel size = 4 * size + 8 ≤ fuelDefault`.  (The number of nodes a `stabilise` creates depends on the data — which
closure variants run — so it cannot be bounded from the program text; node counts only grow, so every intermediate state has room too.)
* THE RIGHT HEIGHT BOUND (`HBo2`, `NestH76`): `height n ≤ (position of n in the rank order of ALL nodes ever created) + 1`.  Heights strictly increase along child edges and from a change
  detector to the nodes of its scope (bind nodes add 2 levels per bind, scope nodes sit above the change detector), and both have increasing rank; heights of live nodes are NOT
  bounded by the live graph (a main node keeps the height an earlier, deeper generation gave it; the model never frees indices), so the safe limit is the number of nodes ever created.
* the two cascades: `becameNecessary_total2`, `addParentWithoutAdjustingHeights_total2` (the `bind-not-necessary` panic: a scope node becomes necessary only under a necessary main
  node), `checkIfUnnecessary_total2`, `becameUnnecessary_total2`, `removeChildren_total2` (fuel `2·pos+2` / `3·pos+3`) (`NestH10–11`, `NestH15`);
* `adjustHeights_total2` (`NestH17–18`, `NestH82`): no `cyclic` panic (every pair handled has increasing rank above `rk oc`), no `height-limit` (the bound is a loop invariant), TERMINATION: each node is
  popped AT MOST ONCE (nodes are popped in increasing order of their old height), so `fuel ≥ size + 1` suffices;
* `maybeChangeValue_total2`, `recomputeOne_static_total2` (static and `bindMain` nodes; needs `RhsRan`: a valid change detector that has run has installed a right-hand side) (`NestH86–87`);
* the phases of a run of a change detector: `lhsRunClosure_total2` (`elabTemplate` incl. `createBind`: node creation never fails), `lhsInvalidateOld_total2` (recursion depth of
  `invalidateNode` ≤ rank position) (`NestH89`, `NestH33`, `NestH35`), `lhsRelink_total2` (`changeChildBindRhs`/`stateAddParent`, fuel `3·size+3`) (`NestH28–30`), `lcStep_total2` (`NestH97–98`);
* `drain_total2` (`NestH100–101`): the drain on a GROWING graph: potential `unrun + (final size − size)` decreases with every `recomputeOne`;
* `addNewObservers_total2`, `unlinkDisallowedObservers_total2` (`NestH103`), `step_total2` (all other API actions, incl. top-level `bind`) (`NestH110–112`), `stabilise_total2`,
  `history_total2` (`NestH106–108`), `history_never_panics2`, example `exHistN_total` (`NestH118`).

## ASSUMED / NOT PROVED HERE
* Closures referring to YOUNGER top-level nodes (created after the bind, before the closure runs; in Rust only through a shared cell) are outside fragment F2.  For them the PURE
  theorems apply with the step contract as an explicit hypothesis (`LcStepsOK2 env Aux`: `drainHeap_valuesB2`, `drain_onceB2`); the Boolean versions of `DInv`, `OrderInv`, `StepRelB`,
  `StepL2` hold at every drain state of 200 generated histories with such references (until the history panics: `cyclic` when the younger node depends on the bind).  The ghost rank
  removes the index-order obstacle (a younger node can be ranked below an older change detector); an END-TO-END proof additionally needs a conditional operand condition
  (`top[k]? = some r → rk r < rk lc`), a bound on the handles a closure mentions, and rank INSERTION at top-level creation — NOT DONE.  Kernel-checked example (`NestH119`): `exY` — a closure over a variable created AFTER the
  bind: `DInv` holds where the change detector is about to run (rank: the younger variable BELOW the change detector), its run satisfies `StepL`, `stepL2_inv` gives `DInv` again.
  FINDING FN1: a bind whose closure returns the bind's OWN main
  node panics `cyclic` in the model but `RefCell already borrowed @ node.rs:1888` in the implementation.
* Outside the fragment: `map_ref`, `map_with_old`, expert nodes, user cutoffs, effects, handlers inside programs with binds; release mode (`cfg.debug = false`).
-/
namespace IncrVerif.Props.C03Nested
open IncrVerif.Engine IncrVerif.Driver IncrVerif.Proofs IncrVerif.Proofs.Sched IncrVerif.Proofs.Quiet IncrVerif.Proofs.BindH IncrVerif.Proofs.NestH

/-- **A run of a change detector keeps the drain invariant** (from its relational description `StepL2`: bind table may grow, inner generations die). -/
theorem stepL2_inv {env : Env} {n b : Nat} {br br' : BindRec} {r : Option Nat} {s s' : State}
    (I : DInv env s (some n)) (hk : (s.nodeD n).kind = .bindLhsChange b)
    (R : StepL2 env n b br br' r s s') : DInv env s' r :=
  NestH.stepL2_inv I hk R

/-- **The four phases.** -/
theorem closure_spec2 (env : Env) : ClosureSpec2 env := NestH.closure_spec2 env
theorem relink_spec2 (env : Env) : RelinkSpec2 env := NestH.relink_spec2 env
theorem inval_spec2 (env : Env) : InvalSpec2 env := NestH.inval_spec2 env

/-- **A run of a change detector, end to end**: from the drain invariant and `F2Inv` it satisfies `StepL2` and keeps `F2Inv` (for an extension of the ghost rank). -/
theorem recomputeOne_lc {env : Env} {fuel n b : Nat} {rk : Nat → Nat} {s s' : State} {r : Option Nat}
    (I : DInv env s (some n)) (A : F2Inv env rk s) (hk : (s.nodeD n).kind = .bindLhsChange b)
    (h : (recomputeOne env fuel n).run.run s = (.ok r, s')) :
    ∃ br br' rk', StepL2 env n b br br' r s s' ∧ F2Inv env rk' s' ∧ RkExt rk rk' s.nodes.size :=
  lcStepF2 env fuel n b rk s s' r I A hk h

/-- **The drain**, no hypothesis on the steps: every necessary node is valid, not stale, and reads its from-scratch value `evalB`. -/
theorem drainHeap_F2 {env : Env} {fuel : Nat} {s s' : State} (I : DInv env s none) (A : Aux2 env s)
    (h : (drainHeap env fuel).run.run s = (.ok (), s')) :
    DInv env s' none ∧ Aux2 env s' ∧ s'.rch.length = 0 ∧ s'.vars = s.vars ∧ s'.stabNum = s.stabNum ∧
    ∀ n, s'.isNecessary n = true → ∀ k, (s'.nodeD n).height.toNat < k →
      (s'.nodeD n).valid = true ∧ s'.isStale n = false ∧
        (s'.nodeD n).value = evalB env s' k n ∧ s'.value env n = evalB env s' k n ∧
        (evalB env s' k n).isSome = true :=
  drainHeap_F2' I A h

/-- **No node runs twice; no node of a dying generation — of any nesting depth — runs.** -/
theorem drain_once_F2 {env : Env} (fuel : Nat) (s s' : State) (I : DInv env s none) (A : Aux2 env s)
    (h : (drainHeap env fuel).run.run s = (.ok (), s')) :
    (drainTrace env fuel s).Nodup ∧ ∀ m, m ∈ drainTrace env fuel s → RanOnceB s s' m :=
  drain_once_F2' fuel s s' I A h

/-- **`stabilise`** from the invariant between actions, with arbitrary pending new/disallowed observers. -/
theorem stabilise_F2 {env : Env} {fuel : Nat} {s s' : State} (Q : QI2 env s)
    (h : (stabilise env fuel).run.run s = (.ok (), s')) : Stabilised2 env fuel s s' :=
  stabilise_F2' Q h

/-- **Every API action of fragment F2 keeps the invariant** (`QG2 = QI2 ∧ GenOK2`: invariant between actions and "generations are current"). -/
theorem step_F2 {env : Env} {s s' : State} {a : Action} {tokens : Array Nat} {r : String × Array Nat}
    (Q : QG2 env s) (ha : ActionF2 env s.top.size a)
    (h : (stepAction env a tokens).run.run s = (.ok r, s')) : QG2 env s' :=
  NestH.step_F2 Q ha h

/-- **Whole histories.** Every state reached from the initial state by a history of fragment F2 (that runs without panic) satisfies the invariant. -/
theorem history_F2 {env : Env} {N : Nat} {d : Bool} {acts : List Action} {s : State} {tk : Array Nat}
    (hH : HistF2 env 0 acts) (h : Quiet.runActions env acts (State.init N d) #[] = .ok (s, tk)) : QG2 env s :=
  NestH.history_F2 hH h

/-- **After a `stabilise` every in-use observer reads the specification-level from-scratch value `den2` of its node** (nested closures evaluated recursively; no node
created by a closure is looked at). -/
theorem stabilise_reads_den2 {env : Env} {fuel : Nat} {s s' : State} (Q : QI2 env s) (G : GenOK2 env s)
    (h : (stabilise env fuel).run.run s = (.ok (), s')) :
    ∀ (o : Nat) (ob : ObsRec), s'.observers[o]? = some ob → ob.state = .inUse →
      ∃ v, s'.tryGetValue env o = .ok v ∧ ∃ K, ∀ k, K ≤ k → den2 env s' k ob.node = some v :=
  stabilise_reads_den2' Q G h

/-- **Every `stabilise` of a history of fragment F2**: the state before it satisfies the invariant, the `stabilise` returns with all conclusions of `stabilise_F2`
(values = `evalB`, no node ran twice, no node of a dying generation of any depth ran), and every in-use observer reads `den2`. -/
theorem history_stabilise_F2 {env : Env} {N : Nat} {d : Bool} {as bs : List Action} {s : State} {tk : Array Nat}
    (hH : HistF2 env 0 (as ++ Action.stabilise :: bs))
    (h : Quiet.runActions env (as ++ Action.stabilise :: bs) (State.init N d) #[] = .ok (s, tk)) :
    ∃ s1 tk1 s2, Quiet.runActions env as (State.init N d) #[] = .ok (s1, tk1) ∧ QG2 env s1 ∧
      (stabilise env fuelDefault).run.run s1 = (.ok (), s2) ∧ Stabilised2 env fuelDefault s1 s2 ∧ QG2 env s2 ∧
      (∀ (o : Nat) (ob : ObsRec), s2.observers[o]? = some ob → ob.state = .inUse →
        ∃ v, s2.tryGetValue env o = .ok v ∧ ∃ K, ∀ k, K ≤ k → den2 env s2 k ob.node = some v) ∧
      Quiet.runActions env bs s2 tk1 = .ok (s, tk) :=
  NestH.history_stabilise_F2 hH h

/-- non-vacuity: the nested example is a history of the fragment, runs, and reads `9`, `7`, `1`, `7` -/
example : HistF2 nEnv 0 exHistN ∧
    (∃ s tk, Quiet.runActions nEnv exHistN (State.init 128 true) #[] = .ok (s, tk) ∧ QI2 nEnv s) ∧
    C2h.readB nEnv (exHistN.take 6) 0 = some (.int 9) ∧ C2h.readB nEnv (exHistN.take 8) 0 = some (.int 7) ∧
    C2h.readB nEnv (exHistN.take 10) 0 = some (.int 1) ∧ C2h.readB nEnv exHistN 0 = some (.int 7) := by
  obtain ⟨s, tk, h⟩ := exHistN_runs
  exact ⟨exHistN_frag, ⟨s, tk, h, history_q2' exHistN_frag h⟩, exHistN_reads⟩

/-- non-vacuity: … every state it reaches satisfies `QG2`; the reads agree with `den2` of the outer bind's main node (node 4); the second `stabilise` replaces the INNER
generation only, the third kills the OUTER generation including the inner bind's two nodes and the inner generation, the fourth creates a FRESH inner bind record -/
example : (∃ s tk, Quiet.runActions nEnv exHistN (State.init 128 true) #[] = .ok (s, tk) ∧ QG2 nEnv s) ∧
    NX.factN (exHistN.take 8) (fun s => den2 nEnv s 10 4) = some (some (.int 7)) ∧
    NX.factN (exHistN.take 8) (fun s => ((s.nodeD 8).valid, (s.nodeD 5).valid, (s.nodeD 6).valid, (s.nodeD 7).valid)) = some (false, true, true, true) ∧
    NX.factN (exHistN.take 10) (fun s => ((s.nodeD 5).valid, (s.nodeD 6).valid, (s.nodeD 7).valid, (s.nodeD 9).valid, (s.nodeD 10).valid)) =
      some (false, false, false, false, false) ∧
    NX.factN exHistN (fun s => s.binds.size) = some 3 :=
  ⟨exHistN_F2.2, exHistN_den.2.1, by decide +kernel, exHistN_outer_switch.2.1, exHistN_fresh_inner.1⟩

/-- **C04 for histories with (nested) binds.** A history of fragment F2 whose indices exist never panics and never runs out of fuel, provided the state it ends in (whatever the
outcome) has at most `N` nodes and `4 * size + 8 ≤ fuelDefault`; the final state satisfies the invariants. -/
theorem history_never_panics {env : Env} {N : Nat} {d : Bool} {acts : List Action}
    (hH : HistF2 env 0 acts) (hV : ValidIdx 0 0 0 acts)
    (hroom : HasRoom N fuelDefault (runS env acts (State.init N d) #[]).2) :
    ∃ s tk, Quiet.runActions env acts (State.init N d) #[] = .ok (s, tk) ∧ QT env N s ∧ QG2 env s :=
  history_never_panics2 hH hV hroom

/-- the pieces: a run of a change detector, the drain, `stabilise` return if the state they end in has room -/
theorem lcStep_total (env : Env) (N : Nat) : LcStepTotG stepFuel env N := lcStepTot env N
theorem drain_total (env : Env) (N : Nat) : DrainTot env N := drainTot env N
theorem stabilise_total (env : Env) (N : Nat) : StabTot env N := stabTot env N

/-- `adjustHeights` returns: no `cyclic`, no `height-limit`, each node popped at most once (`fuel ≥ size + 1`) -/
theorem adjustHeights_total {env : Env} {rk : Nat → Nat} {N oc op' fuel : Nat} {s : State} {op : Nat → Op} {ex : Nat → Prop} {dy : List Nat}
    (I : GInv2 env rk s op ex dy) (hb : HBo2 rk s op) (R : Room N s)
    (hopen : op op' = .linking (s.children op').length) (hclosed : ∀ m, m ≠ op' → op m = .closed)
    (hedge : ∃ i, (op', i) ∈ (s.nodeD oc).parents)
    (hother : ∀ c i, (op', i) ∈ (s.nodeD c).parents → c ≠ oc → (s.nodeD c).height < (s.nodeD op').height)
    (hgtop : (s.nodeD op').inRch = true → (s.nodeD op').heightInRch = (s.nodeD op').height)
    (hq : s.isStale op' = true → ex op' ∨ (s.nodeD op').inRch = true)
    (hah : AhhEmpty s)
    (hdy : ∀ m, m ∈ dy → ∀ b br, (s.nodeD m).createdIn = .bind b → s.binds[b]? = some br → rk br.lhsChange < rk op')
    (hscope : ∀ b br, (s.nodeD op').createdIn = .bind b → s.binds[b]? = some br → (s.nodeD br.lhsChange).height < (s.nodeD op').height)
    (hge : (s.nodeD op').height ≤ (s.nodeD oc).height) (h0 : 0 ≤ (s.nodeD op').height)
    (hf : s.nodes.size + 1 ≤ fuel) :
    Tot (adjustHeights oc op' fuel) s (fun _ s' =>
      GInv2 env rk s' (upd op op' .closed) ex dy ∧ AhhEmpty s' ∧ HRel s s' ∧
      (∀ m, rk m < rk op' → s'.nodeD m = s.nodeD m) ∧
      HBo2 rk s' (upd op op' .closed) ∧ Room N s') :=
  adjustHeights_total2 I hb R hopen hclosed hedge hother hgtop hq hah hdy hscope hge h0 hf

/-- non-vacuity: the hypotheses of `history_never_panics` hold for the nested example (17 nodes at the end) -/
example : ValidIdx 0 0 0 exHistN ∧ HasRoom 128 fuelDefault (runS nEnv exHistN (State.init 128 true) #[]).2 ∧
    ∃ s tk, Quiet.runActions nEnv exHistN (State.init 128 true) #[] = .ok (s, tk) ∧ QT nEnv 128 s ∧ QG2 nEnv s :=
  ⟨exHistN_idx, exHistN_room, exHistN_total⟩

/-- **reads = the TEXT-LEVEL reference semantics.** At every `stabilise` of a history of fragment F2 that runs from the initial state, every in-use observer reads
`Spec.denoteTop` of its handle in the program text of the prefix (for all large fuel). -/
theorem history_stabilise_denote {env : Env} {N : Nat} {d : Bool} {as bs : List Action} {s : State} {tk : Array Nat}
    (po : Nat → Bool) (Z : ZipPair env)
    (hH : HistF2 env 0 (as ++ Action.stabilise :: bs))
    (h : Quiet.runActions env (as ++ Action.stabilise :: bs) (State.init N d) #[] = .ok (s, tk)) :
    ∃ s1 tk1 s2, Quiet.runActions env as (State.init N d) #[] = .ok (s1, tk1) ∧
      (stabilise env fuelDefault).run.run s1 = (.ok (), s2) ∧ QG2 env s2 ∧
      ProgOK (progOf env po as) env s2 ∧
      (∀ (o : Nat) (ob : ObsRec), s2.observers[o]? = some ob → ob.state = .inUse →
        ∃ v j, s2.tryGetValue env o = .ok v ∧ s2.top[j]? = some ob.node ∧
          ∃ F, ∀ f, F ≤ f → IncrVerif.Spec.denoteTop (progOf env po as) f j = some v) ∧
      Quiet.runActions env bs s2 tk1 = .ok (s, tk) :=
  NestH.history_stabilise_denote po Z hH h

/-- closures referring to a YOUNGER top-level node: the pure theorems apply (kernel-checked on a reached state) -/
example : DInv yEnv exY (some 1) ∧ (∃ br br', StepL yEnv 1 0 br br' (some 2) exY exY') ∧ DInv yEnv exY' (some 2) ∧
    (exY.nodeD 3).createdIn = .top ∧ (exY.nodeD 4).kind = .map 0 [3] ∧ (exY'.binds[0]?.map (·.rhs)) = some (some 3) :=
  ⟨exY_dinv, exY_stepL, exY'_dinv, by decide +kernel, by decide +kernel, by decide +kernel⟩

end IncrVerif.Props.C03Nested
