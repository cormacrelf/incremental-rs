import IncrVerif.Proofs.Poison
import IncrVerif.Props.C08
import IncrVerif.Props.C10
/-!
# C13 — a panic escaping `stabilise` poisons the state, never exposing partial results

PROVED HERE (all about the executable model `Engine/{Core,Expert,Recompute}.lean`; a run is
`(m).run.run s : Except Panic α × State`, `.error p` is a panic and the state next to it is the state
at the panic point):

* `stabilise_refuses` — status ≠ `NotStabilising` ⇒ `stabilise` panics at the status assertion and the
  state is untouched (no user code runs).
* `status_frame_cascades`, `status_frame_expert`, `status_frame_recompute`, `status_frame_api`,
  `status_frame_phases` — NO function of the model other than `stabilise`/`stabiliseEnd` writes
  `State.status` (nor `cfg`, nor `alive`), on a normal return or on a panic.  (No primitive write of these
  functions is the status write, and none touches `cfg` or `alive`: `Proofs/Footprint.lean`; as Hoare
  triples in `Proofs/Poison.lean`.)
* `stabilise_phase_by_phase`, `stabilise_phases`, `stabiliseEnd_phases` — `stabilise` is: assertion,
  `status := Stabilising`, propagation, `stabilise_end` up to the handlers, `status :=
  RunningOnUpdateHandlers`, the handlers, `status := NotStabilising`.
* `poisoned_by_propagation` — a panic out of a `stabilise` that was entered normally leaves status
  `Stabilising` or `RunningOnUpdateHandlers`, never `NotStabilising`.
* `poisoned_origin`, `poisoned_status_iff` — the precise split: `RunningOnUpdateHandlers` iff the panic
  was raised by the handler loop (after the line `status := RunningOnUpdateHandlers`); `Stabilising`
  iff it was raised by `add_new_observers`/`unlink_disallowed_observers`/the drain or by the part of
  `stabilise_end` before that line.
* `reads_refuse_after_propagation_panic`, `reads_refuse_after_propagation_phase_panic` — after such a
  panic with status `Stabilising` every observer read is `Err(CurrentlyStabilising)`.
* `poisoned_forever`, `poisoned_write_parks`, `poisoned_values_parked`, `reads_refuse_forever` — no
  sequence of `writeVar`/`subscribe`/`unsubscribe`/`disallowFutureUse`/`elabInstr`/`elabInstrM`/`setMaxHeightAllowed`
  calls (each may panic and be caught) un-poisons the state; `stabilise` keeps refusing; in a state
  poisoned with `Stabilising` a write only parks the value, no var cell's `value` ever changes again,
  and every read keeps refusing.
* `C13_partial_drain_complete`, `C13_partial_nothing_queued`, `C13_partial_handlers_after_drain` —
  DEBUG BUILDS: a drain that returns leaves the recompute heap empty, so update handlers (and reads in
  the `RunningOnUpdateHandlers` poisoned state) only ever see a completed propagation.
* `release_drain_counterexample` — in a release build `HeapWF` alone does NOT give drain completeness.

NOT PROVED HERE:

* drain completeness for release builds (`cfg.debug = false`): false for arbitrary `HeapWF` states
  (counterexample above); it would need the additional invariant "no queued node below
  `rch.lowerBound`" pushed through the whole model, and `HeapWF` itself is not inductive in release mode
  (`Proofs.release_counterexample`).
* that the state reached by a propagation panic is otherwise *consistent* (it is not: nodes recomputed
  before the panic keep their new values; the property is only that nothing can read them).
* nothing is claimed about the drivers `Engine/History.lean`, `Engine/Run.lean` (they write `alive`).
* `State.tryGetValue` only refuses in status `Stabilising`; in the state poisoned by a *handler* panic
  (`RunningOnUpdateHandlers`) reads succeed — propagation was complete then (last item above).
-/
namespace IncrVerif.Props.C13
open IncrVerif.Engine IncrVerif.Proofs IncrVerif.Proofs.Poison

/-! ## 1. a poisoned state refuses to stabilise -/

/-- If the status is not `NotStabilising` (a stabilisation is running, or an earlier one panicked),
`stabilise` panics at its first line, the status assertion, and the state — log, nodes, vars,
everything — is exactly as before: no user code ran. -/
theorem stabilise_refuses (env : Env) (fuel : Nat) (s : State) (h : s.status ≠ .notStabilising) :
    (stabilise env fuel).run.run s = (.error (.site "state:stabilise:status"), s) :=
  Poison.stabilise_refuses env fuel s h

example : exPropPanic.status ≠ .notStabilising := by decide +kernel
example : (stabilise exEnv 10).run.run exPropPanic
    = (.error (.site "state:stabilise:status"), exPropPanic) :=
  stabilise_refuses _ _ _ (by decide +kernel)

/-! ## 2. only `stabilise` and `stabiliseEnd` write the status

`Keeps x` is: for every state `s`, the state after running `x` from `s` — whether `x` returned or
panicked — has the status, the configuration and the liveness flag of `s`. -/

/-- `Keeps`, spelled out. -/
theorem keeps_iff {α} (x : M α) :
    Keeps x ↔ ∀ s : State, (x.run.run s).2.status = s.status ∧ (x.run.run s).2.cfg = s.cfg ∧
      (x.run.run s).2.alive = s.alive := Iff.rfl

/-- The heaps, height adjustment and the necessity/invalidation cascades of `Core.lean` never write
the status (nor `cfg`, `alive`), whether they return or panic, for every fuel. -/
theorem status_frame_cascades (env : Env) (fuel : Nat) :
    (∀ n, Keeps (becameNecessary env fuel n)) ∧
    (∀ c i p, Keeps (addParentWithoutAdjustingHeights env fuel c i p)) ∧
    (∀ n, Keeps (becameNecessaryPropagate env fuel n)) ∧
    (∀ n, Keeps (becameUnnecessary fuel n)) ∧
    (∀ n, Keeps (checkIfUnnecessary fuel n)) ∧
    (∀ n, Keeps (removeChildren fuel n)) ∧
    (∀ n, Keeps (invalidateNode fuel n)) ∧
    Keeps (propagateInvalidity fuel) ∧
    (∀ c i p, Keeps (stateAddParent env fuel c i p)) ∧
    (∀ m o n i, Keeps (changeChildBindRhs env fuel m o n i)) ∧
    (∀ oc op, Keeps (adjustHeights oc op fuel)) ∧
    (∀ oc op, Keeps (adjustHeightsLoop oc op fuel)) ∧
    (∀ oc op c p, Keeps (ensureHeightRequirement oc op c p)) ∧
    (∀ n, Keeps (markMapRefUnknown fuel n)) ∧
    (∀ n h, Keeps (setHeight n h)) ∧
    (∀ n, Keeps (rchInsert n)) ∧ (∀ n, Keeps (rchRemove n)) ∧ (∀ n, Keeps (rchIncreaseHeight n)) ∧
    Keeps rchRemoveMin ∧ Keeps rchMinHeight ∧
    (∀ n, Keeps (ahhAddUnlessMem n)) ∧ Keeps ahhRemoveMin ∧
    (∀ n, Keeps (handleAfterStabilisation n)) ∧
    (∀ n o v, Keeps (shouldCutoff env n o v)) :=
  ⟨fun n => FPres.keeps fun t => becameNecessary_fr t env fuel n,
   fun c i p => FPres.keeps fun t => addParentWithoutAdjustingHeights_fr t env fuel c i p,
   fun n => FPres.keeps fun t => becameNecessaryPropagate_fr t env fuel n,
   fun n => FPres.keeps fun t => becameUnnecessary_fr t fuel n,
   fun n => FPres.keeps fun t => checkIfUnnecessary_fr t fuel n,
   fun n => FPres.keeps fun t => removeChildren_fr t fuel n,
   fun n => FPres.keeps fun t => invalidateNode_fr t fuel n,
   FPres.keeps fun t => propagateInvalidity_fr t fuel,
   fun c i p => FPres.keeps fun t => stateAddParent_fr t env fuel c i p,
   fun m o n i => FPres.keeps fun t => changeChildBindRhs_fr t env fuel m o n i,
   fun oc op => FPres.keeps fun t => adjustHeights_fr t oc op fuel,
   fun oc op => FPres.keeps fun t => adjustHeightsLoop_fr t oc op fuel,
   fun oc op c p => FPres.keeps fun t => ensureHeightRequirement_fr t oc op c p,
   fun n => FPres.keeps fun t => markMapRefUnknown_fr t fuel n,
   fun n h => FPres.keeps fun t => setHeight_fr t n h,
   fun n => FPres.keeps fun t => rchInsert_fr t n,
   fun n => FPres.keeps fun t => rchRemove_fr t n,
   fun n => FPres.keeps fun t => rchIncreaseHeight_fr t n,
   FPres.keeps fun t => rchRemoveMin_fr t,
   FPres.keeps fun t => rchMinHeight_fr t,
   fun n => FPres.keeps fun t => ahhAddUnlessMem_fr t n,
   FPres.keeps fun t => ahhRemoveMin_fr t,
   fun n => FPres.keeps fun t => handleAfterStabilisation_fr t n,
   fun n o v => FPres.keeps fun t => shouldCutoff_fr t env n o v⟩

/-- the cascade really runs in the example (node 1, here forced necessary, and its child become
necessary and are queued) and the status is the one it started with -/
example :
    let s0 := { exGraph 0 0 with
      nodes := (exGraph 0 0).nodes.modify 1 fun x => { x with forceNecessary := true } }
    ((becameNecessaryPropagate exEnv 10 1).run.run s0).2.rch.length = 2 ∧
      ((becameNecessaryPropagate exEnv 10 1).run.run s0).2.status = s0.status := by
  intro s0
  exact ⟨by decide +kernel, ((status_frame_cascades exEnv 10).2.2.1 1 s0).1⟩

/-- The expert-node operations (`Expert.lean`) and the edge callbacks never write the status. -/
theorem status_frame_expert (env : Env) (fuel : Nat) :
    (∀ n, Keeps (expertMakeStale n)) ∧
    (∀ n c cb, Keeps (expertAddDependency env fuel n c cb)) ∧
    (∀ n d, Keeps (expertRemoveDependency fuel n d)) ∧
    (∀ n, Keeps (expertInvalidate fuel n)) ∧
    (∀ e edge, Keeps (edgeOnChange env e edge)) ∧
    (∀ e i, Keeps (runEdgeCallback env e i)) ∧
    (∀ e b, Keeps (observabilityChange e b)) :=
  ⟨fun n => FPres.keeps fun t => expertMakeStale_fr t n,
   fun n c cb => FPres.keeps fun t => expertAddDependency_fr t env fuel n c cb,
   fun n d => FPres.keeps fun t => expertRemoveDependency_fr t fuel n d,
   fun n => FPres.keeps fun t => expertInvalidate_fr t fuel n,
   fun e edge => FPres.keeps fun t => edgeOnChange_fr t env e edge,
   fun e i => FPres.keeps fun t => runEdgeCallback_fr t env e i,
   fun e b => FPres.keeps fun t => observabilityChange_fr t e b⟩

example : ((expertInvalidate 10 1).run.run (exGraph 0 0)).2.status = .notStabilising :=
  ((status_frame_expert exEnv 10).2.2.2.1 1 (exGraph 0 0)).1

/-- Recomputation — `recompute`, `recompute_one`, value changes, `child_changed`, the effects of user
closures (`runEffects`: var writes, reads, nested `stabilise` attempts, expert operations, user
panics), template elaboration in bind bodies (including memoised calls, the incremental-map operators and
the per-key driver) — never writes the status. -/
theorem status_frame_recompute (env : Env) (fuel : Nat) :
    (∀ n, Keeps (recompute env fuel n)) ∧
    (∀ n, Keeps (recomputeOne env fuel n)) ∧
    (∀ effs arg, Keeps (runEffects env fuel effs arg)) ∧
    (∀ e, Keeps (runEffectBasic env e)) ∧
    (∀ n v, Keeps (maybeChangeValue env fuel n v)) ∧
    (∀ n o b1 b2, Keeps (maybeChangeValueManual env fuel n o b1 b2)) ∧
    (∀ p c ci o, Keeps (childChanged env fuel p c ci o)) ∧
    (∀ p c, Keeps (parentIterCanRecomputeNow p c)) ∧
    (∀ tp v, Keeps (elabTemplate env tp v)) ∧
    (∀ loc v i, Keeps (elabInstr loc v i)) ∧
    Keeps tick ∧
    (∀ loc v i, Keeps (elabInstrM env loc v i)) ∧
    (∀ m key, Keeps (memoCall env m key)) ∧
    (∀ tp v init, Keeps (elabTemplateBase tp v init)) ∧
    (∀ op newMap, Keeps (perKeyDriver env fuel op newMap)) ∧
    (∀ e dv sv, Keeps (expertValue env e dv sv)) ∧
    (∀ g n σ old x new did, Keeps (withOldEvents env g n σ old x new did)) :=
  ⟨fun n => FPres.keeps fun t => recompute_fr t env fuel n,
   fun n => FPres.keeps fun t => recomputeOne_fr t env fuel n,
   fun effs arg => FPres.keeps fun t => runEffects_fr t env fuel effs arg,
   fun e => FPres.keeps fun t => runEffectBasic_fr t env e,
   fun n v => FPres.keeps fun t => maybeChangeValue_fr t env fuel n v,
   fun n o b1 b2 => FPres.keeps fun t => maybeChangeValueManual_fr t env fuel n o b1 b2,
   fun p c ci o => FPres.keeps fun t => childChanged_fr t env fuel p c ci o,
   fun p c => FPres.keeps fun t => parentIterCanRecomputeNow_fr t p c,
   fun tp v => FPres.keeps fun t => elabTemplate_fr t env tp v,
   fun loc v i => FPres.keeps fun t => elabInstr_fr t loc v i,
   FPres.keeps fun t => tick_fr t,
   fun loc v i => FPres.keeps fun t => elabInstrM_fr t env loc v i,
   fun m key => FPres.keeps fun t => memoCall_fr t env m key,
   fun tp v init => FPres.keeps fun t => elabTemplateBase_fr t tp v init,
   fun op newMap => FPres.keeps fun t => perKeyDriver_fr t env fuel op newMap,
   fun e dv sv => FPres.keeps fun t => expertValue_fr t env e dv sv,
   fun g n σ old x new did => FPres.keeps fun t => withOldEvents_fr t env g n σ old x new did⟩

/-- a user closure that panics, run while stabilising: the status stays `Stabilising` -/
example : panicOf ((runEffects exEnv 10 [.setVar 0 (.int 2), .panic]).run.run
      { exGraph 0 0 with status := .stabilising }).1 = some (.site "user") ∧
    ((runEffects exEnv 10 [.setVar 0 (.int 2), .panic]).run.run
      { exGraph 0 0 with status := .stabilising }).2.status = .stabilising :=
  ⟨by decide +kernel, ((status_frame_recompute exEnv 10).2.2.1 _ _ _).1⟩

/-- The public API other than `stabilise` — var writes, subscriptions, `disallow_future_use`,
`set_max_height_allowed`, node creation — never writes the status. -/
theorem status_frame_api :
    (∀ v f isSet, Keeps (writeVar v f isSet)) ∧
    (∀ v, Keeps (didSetVarWhileNotStabilising v)) ∧
    (∀ o hid, Keeps (subscribe o hid)) ∧
    (∀ o tok owner, Keeps (unsubscribe o tok owner)) ∧
    (∀ o, Keeps (disallowFutureUse o)) ∧
    (∀ newMax, Keeps (setMaxHeightAllowed newMax)) ∧
    (∀ k sc c, Keeps (createNode k sc c)) ∧
    (∀ v sc, Keeps (createVar v sc)) ∧
    (∀ body lhs, Keeps (createBind body lhs)) :=
  ⟨fun v f isSet => FPres.keeps fun t => writeVar_fr t v f isSet,
   fun v => FPres.keeps fun t => didSetVarWhileNotStabilising_fr t v,
   fun o hid => FPres.keeps fun t => subscribe_fr t o hid,
   fun o tok owner => FPres.keeps fun t => unsubscribe_fr t o tok owner,
   fun o => FPres.keeps fun t => disallowFutureUse_fr t o,
   fun newMax => FPres.keeps fun t => setMaxHeightAllowed_fr t newMax,
   fun k sc c => FPres.keeps fun t => createNode_fr t k sc c,
   fun v sc => FPres.keeps fun t => createVar_fr t v sc,
   fun body lhs => FPres.keeps fun t => createBind_fr t body lhs⟩

example : ((writeVar 0 (fun _ => .int 7)).run.run exHandlerPanic).2.status
    = exHandlerPanic.status := ((status_frame_api.1 0 _ false) exHandlerPanic).1

/-- The pieces of `stabilise` other than the three status writes: `add_new_observers`,
`unlink_disallowed_observers`, the heap drain (together: `propagate`), the part of `stabilise_end`
before the handlers (`stabiliseEndPrepare`), `run_all` and the handler loop followed by the collection
of the weak memo tables (`runHandlers`). -/
theorem status_frame_phases (env : Env) (fuel : Nat) :
    Keeps (addNewObservers env fuel) ∧
    Keeps (unlinkDisallowedObservers fuel) ∧
    Keeps (drainHeap env fuel) ∧
    Keeps (propagate env fuel) ∧
    Keeps (stabiliseEndPrepare env) ∧
    (∀ o n nu now, Keeps (runAll env fuel o n nu now)) ∧
    (∀ q, Keeps (runHandlers env fuel q)) :=
  ⟨FPres.keeps fun t => addNewObservers_fr t env fuel,
   FPres.keeps fun t => unlinkDisallowedObservers_fr t fuel,
   FPres.keeps fun t => drainHeap_fr t env fuel,
   propagate_keeps env fuel,
   stabiliseEndPrepare_keeps env,
   fun o n nu now => FPres.keeps fun t => runAll_fr t env fuel o n nu now,
   fun q => runHandlers_keeps env fuel q⟩

/-- the drain of the example panics in the closure of node 1 and leaves the status alone -/
example :
    let s0 := ((addNewObservers exEnv 10).run.run { exGraph 1 0 with status := .stabilising }).2
    panicOf ((drainHeap exEnv 10).run.run s0).1 = some (.site "user") ∧
      ((drainHeap exEnv 10).run.run s0).2.status = .stabilising := by
  intro s0
  refine ⟨by decide +kernel, ?_⟩
  rw [((status_frame_phases exEnv 10).2.2.1 s0).1]
  exact ((status_frame_phases exEnv 10).1 _).1

/-! ## 3. a panic escaping `stabilise` leaves the state poisoned -/

/-- `stabilise` is its phases in sequence (`propagate` is the three calls between the status write
and `stabilise_end`). -/
theorem stabilise_phases (env : Env) (fuel : Nat) :
    stabilise env fuel = (do
      assertM ((← get).status == .notStabilising) "state:stabilise:status"
      modify fun s => { s with status := .stabilising }
      propagate env fuel
      stabiliseEnd env fuel) :=
  Poison.stabilise_phases env fuel

/-- `stabilise_end` is: everything before the handlers (`stabiliseEndPrepare`: round number, deferred
var writes, dead vars, the handler queue), the status write, the handler loop and the (pure, panic-free)
collection of the weak memo tables (`runHandlers`), the status write. -/
theorem stabiliseEnd_phases (env : Env) (fuel : Nat) :
    stabiliseEnd env fuel = (do
      let queue ← stabiliseEndPrepare env
      modify fun s => { s with status := .runningOnUpdateHandlers }
      runHandlers env fuel queue
      modify fun s => { s with status := .notStabilising }) :=
  Poison.stabiliseEnd_phases env fuel

/-- A `stabilise` entered with status `NotStabilising`, phase by phase: a panic of a phase is the
outcome of the whole call with the state of that moment; the status is written exactly at the three
places shown. -/
theorem stabilise_phase_by_phase (env : Env) (fuel : Nat) (s : State)
    (h : s.status = .notStabilising) :
    (stabilise env fuel).run.run s =
      match (propagate env fuel).run.run { s with status := .stabilising } with
      | (.error p, s1) => (.error p, s1)
      | (.ok _, s1) =>
        match (stabiliseEndPrepare env).run.run s1 with
        | (.error p, s2) => (.error p, s2)
        | (.ok q, s2) =>
          match (runHandlers env fuel q).run.run { s2 with status := .runningOnUpdateHandlers } with
          | (.error p, s3) => (.error p, s3)
          | (.ok _, s3) => (.ok (), { s3 with status := .notStabilising }) :=
  stabilise_run env fuel s h

/-- the example without faults goes through all phases and ends `NotStabilising` -/
example : panicOf ((stabilise exEnv 10).run.run (exGraph 0 0)).1 = none ∧
    ((stabilise exEnv 10).run.run (exGraph 0 0)).2.status = .notStabilising :=
  by decide +kernel

/-- Every panic of a `stabilise` entered with status `NotStabilising` comes from exactly one of:
the propagation phase; `stabilise_end` before the line `status := RunningOnUpdateHandlers`; the
handler loop after that line.  (`PanicOrigin` lists the three cases with the runs that witness
them.) -/
theorem poisoned_origin (env : Env) (fuel : Nat) (s : State) (p : Panic) (s' : State)
    (h : s.status = .notStabilising) (hr : (stabilise env fuel).run.run s = (.error p, s')) :
    PanicOrigin env fuel s p s' :=
  stabilise_panic_origin env fuel s p s' h hr

/-- If `stabilise`, entered with status `NotStabilising`, panics, the state it leaves behind is
poisoned: the status is `Stabilising` or `RunningOnUpdateHandlers`, never `NotStabilising`. -/
theorem poisoned_by_propagation (env : Env) (fuel : Nat) (s : State) (p : Panic) (s' : State)
    (h : s.status = .notStabilising) (hr : (stabilise env fuel).run.run s = (.error p, s')) :
    s'.status = .stabilising ∨ s'.status = .runningOnUpdateHandlers := by
  rcases (stabilise_panic_origin env fuel s p s' h hr).status with h1 | h1
  · exact Or.inl h1.1
  · exact Or.inr h1.1

/-- a closure panic and a handler panic, both escaping `stabilise` -/
example : ∃ p s', (stabilise exEnv 10).run.run (exGraph 1 0) = (.error p, s') ∧
    s'.status = .stabilising :=
  ⟨_, _, run_eq_error (by decide +kernel : panicOf _ = some (.site "user")), by decide +kernel⟩
example : ∃ p s', (stabilise exEnv 10).run.run (exGraph 0 1) = (.error p, s') ∧
    s'.status = .runningOnUpdateHandlers :=
  ⟨_, _, run_eq_error (by decide +kernel : panicOf _ = some (.site "user")), by decide +kernel⟩
example : exPropPanic.status = .stabilising ∨ exPropPanic.status = .runningOnUpdateHandlers :=
  poisoned_by_propagation exEnv 10 (exGraph 1 0) (.site "user") _ rfl
    (run_eq_error (by decide +kernel))

/-- The precise split.  After a panic of a `stabilise` entered with status `NotStabilising`:
the status is `RunningOnUpdateHandlers` exactly when propagation and the first part of
`stabilise_end` completed and the panic was raised by the handler loop, i.e. after the line
`status := RunningOnUpdateHandlers`; it is `Stabilising` exactly when the panic was raised before that
line — by `add_new_observers`, `unlink_disallowed_observers`, the heap drain, or the first part of
`stabilise_end`. -/
theorem poisoned_status_iff (env : Env) (fuel : Nat) (s : State) (p : Panic) (s' : State)
    (h : s.status = .notStabilising) (hr : (stabilise env fuel).run.run s = (.error p, s')) :
    (s'.status = .runningOnUpdateHandlers ↔
      ∃ s1 q s2,
        (propagate env fuel).run.run { s with status := .stabilising } = (.ok (), s1) ∧
        (stabiliseEndPrepare env).run.run s1 = (.ok q, s2) ∧
        (runHandlers env fuel q).run.run { s2 with status := .runningOnUpdateHandlers }
          = (.error p, s')) ∧
    (s'.status = .stabilising ↔
      ((propagate env fuel).run.run { s with status := .stabilising } = (.error p, s') ∨
       ∃ s1, (propagate env fuel).run.run { s with status := .stabilising } = (.ok (), s1) ∧
          (stabiliseEndPrepare env).run.run s1 = (.error p, s'))) := by
  have ho := stabilise_panic_origin env fuel s p s' h hr
  constructor
  · constructor
    · intro hs
      rcases ho.status with h1 | h1
      · rw [h1.1] at hs; cases hs
      · exact h1.2
    · rintro ⟨s1, q, s2, -, -, h3⟩
      exact ((runHandlers_keeps env fuel q).of_run h3).1
  · constructor
    · intro hs
      cases ho with
      | propagation h1 => exact Or.inl h1
      | endPrepare s1 h1 h2 => exact Or.inr ⟨s1, h1, h2⟩
      | handlers s1 q s2 h1 h2 h3 =>
        rw [((runHandlers_keeps env fuel q).of_run h3).1] at hs; cases hs
    · rintro (h1 | ⟨s1, h1, h2⟩)
      · exact ((propagate_keeps env fuel).of_run h1).1
      · exact (((stabiliseEndPrepare_keeps env).of_run h2).1).trans
          ((propagate_keeps env fuel).of_run h1).1

/-- in the handler-panic example both sides of the first equivalence hold -/
example : exHandlerPanic.status = .runningOnUpdateHandlers ∧
    ∃ s1 q s2,
      (propagate exEnv 10).run.run { exGraph 0 1 with status := .stabilising } = (.ok (), s1) ∧
      (stabiliseEndPrepare exEnv).run.run s1 = (.ok q, s2) ∧
      (runHandlers exEnv 10 q).run.run { s2 with status := .runningOnUpdateHandlers }
        = (.error (.site "user"), exHandlerPanic) := by
  have hr : (stabilise exEnv 10).run.run (exGraph 0 1) = (.error (.site "user"), exHandlerPanic) :=
    run_eq_error (by decide +kernel)
  have hs : exHandlerPanic.status = .runningOnUpdateHandlers := by decide +kernel
  exact ⟨hs, (poisoned_status_iff exEnv 10 _ _ _ rfl hr).1.1 hs⟩

/-! ## 4. reads refuse after a propagation panic -/

/-- After a panic of a `stabilise` (entered normally, on a live engine) that left status
`Stabilising` — by `poisoned_status_iff`: any panic raised before the update handlers start — every
observer read returns `Err(CurrentlyStabilising)`: the partially propagated values are not
readable.  (C10 `read_stabilising`; liveness is preserved by `stabilise`.) -/
theorem reads_refuse_after_propagation_panic (env : Env) (fuel : Nat) (s : State) (p : Panic)
    (s' : State) (ha : s.alive = true)
    (hr : (stabilise env fuel).run.run s = (.error p, s')) (hs : s'.status = .stabilising) :
    ∀ o, s'.tryGetValue env o = .error .currentlyStabilising := by
  intro o
  have h := (stabilise_cfg_alive env fuel s).2
  rw [hr] at h
  exact C10.read_stabilising env s' o (h.trans ha) hs

/-- The same, from the phase: if the propagation phase (`add_new_observers`,
`unlink_disallowed_observers`, heap drain) of a `stabilise` entered normally on a live engine panics,
that panic is the outcome of `stabilise` and every observer read in the resulting state returns
`Err(CurrentlyStabilising)`. -/
theorem reads_refuse_after_propagation_phase_panic (env : Env) (fuel : Nat) (s : State) (p : Panic)
    (s' : State) (h : s.status = .notStabilising) (ha : s.alive = true)
    (h1 : (propagate env fuel).run.run { s with status := .stabilising } = (.error p, s')) :
    (stabilise env fuel).run.run s = (.error p, s') ∧
      ∀ o, s'.tryGetValue env o = .error .currentlyStabilising := by
  have hr : (stabilise env fuel).run.run s = (.error p, s') := by
    rw [stabilise_run env fuel s h, h1]
  exact ⟨hr, reads_refuse_after_propagation_panic env fuel s p s' ha hr
    ((propagate_keeps env fuel).of_run h1).1⟩

/-- node 0 of the example was recomputed before the panic (it has a value now), observer 0 is in
use, and still the read refuses -/
example : (exPropPanic.nodeD 0).value = some (.int 1) ∧
    (exPropPanic.observers[0]?).map (·.state) = some .inUse ∧
    exPropPanic.tryGetValue exEnv 0 = .error .currentlyStabilising :=
  ⟨by decide +kernel, by decide +kernel,
   reads_refuse_after_propagation_panic exEnv 10 (exGraph 1 0) (.site "user") _ rfl
     (run_eq_error (by decide +kernel)) (by decide +kernel) 0⟩

/-! ## 5. poisoned forever -/

/-- From a poisoned state, whatever sequence of the other API calls is made — `writeVar`,
`subscribe`, `unsubscribe`, `disallowFutureUse`, `elabInstr [] v i` / `elabInstrM env [] v i` (node
creation, the latter including calls of memoised functions), `setMaxHeightAllowed`; each may return or panic and be caught (`runCalls` continues from the state at
the panic) — the status is unchanged, so the state is still poisoned and `stabilise` still panics at
its status assertion without touching anything. -/
theorem poisoned_forever (env : Env) (fuel : Nat) (s : State) (h : s.status ≠ .notStabilising)
    (cs : List ApiCall) :
    (runCalls cs s).status = s.status ∧
      (stabilise env fuel).run.run (runCalls cs s)
        = (.error (.site "state:stabilise:status"), runCalls cs s) := by
  have hs := (runCalls_frame cs s).1
  exact ⟨hs, Poison.stabilise_refuses env fuel _ (by rw [hs]; exact h)⟩

/-- a write, a subscription, a node creation and another write on the poisoned example: the calls do
change the state (the deferred-writes stack, the handler list, the node array) but not the status -/
example :
    let cs := [ApiCall.writeVar 0 (fun _ => .int 9) true, .subscribe 0 0, .elabInstr .unit (.const .unit),
      .writeVar 0 (fun x => x.addInt 1 7) false]
    (runCalls cs exPropPanic).nodes.size = 3 ∧ (runCalls cs exPropPanic).setDuringStab = [0] ∧
      (runCalls cs exPropPanic).status = .stabilising ∧
      (stabilise exEnv 10).run.run (runCalls cs exPropPanic)
        = (.error (.site "state:stabilise:status"), runCalls cs exPropPanic) := by
  intro cs
  have h := poisoned_forever exEnv 10 exPropPanic (by decide +kernel) cs
  exact ⟨by decide +kernel, by decide +kernel, h.1.trans (by decide +kernel), h.2⟩

/-- A var write in a state poisoned with status `Stabilising` never panics and only parks the new
value in the cell's `pending` slot (C08 `write_inside_run`): the cell's `value` — what every reader
and every recomputation would see — is unchanged, nothing but `vars[v]` and the deferred-writes stack
changes, and (by `poisoned_forever`) no `stabilise_end` will ever apply it. -/
theorem poisoned_write_parks (v : Nat) (f : Val → Val) (isSet : Bool) (s : State) (vc : VarCell)
    (hv : s.vars[v]? = some vc) (hst : s.status = .stabilising) :
    (writeVar v f isSet).run.run s = (.ok (vc.pending.getD vc.value), deferred v vc f s) ∧
      (deferred v vc f s).vars[v]?
        = some { vc with pending := some (f (vc.pending.getD vc.value)) } ∧
      (deferred v vc f s).status = .stabilising ∧
      (deferred v vc f s).nodes = s.nodes ∧ (deferred v vc f s).rch = s.rch ∧
      (∀ w, w ≠ v → (deferred v vc f s).vars[w]? = s.vars[w]?) := by
  have h := C08.deferred_facts v vc f s hv
  exact ⟨C08.write_inside_run v f isSet s vc hv hst, h.1, h.2.2.2.2.2.2.1.trans hst, h.2.2.1,
    h.2.2.2.1, h.2.2.2.2.2.2.2.2.2.2⟩

example : (((writeVar 0 (fun _ => .int 9) true).run.run exPropPanic).2.vars[0]?).map
      (fun c => (c.value, c.pending)) = some (.int 1, some (.int 9)) := by
  have h0 : (exPropPanic.vars[0]?).map (fun c => (c.value, c.pending)) = some (.int 1, none) := by
    decide +kernel
  rcases hv : exPropPanic.vars[0]? with _ | vc
  · rw [hv] at h0; cases h0
  · rw [hv] at h0
    simp only [Option.map_some, Option.some.injEq, Prod.mk.injEq] at h0
    have h := poisoned_write_parks 0 (fun _ => .int 9) true exPropPanic vc hv (by decide +kernel)
    rw [h.1, h.2.1, Option.map_some, h0.1]

/-- From a state poisoned with status `Stabilising`, after ANY sequence of the other API calls every
var cell that existed still holds the same `value`: all writes are parked, none is ever applied. -/
theorem poisoned_values_parked (s : State) (hs : s.status = .stabilising) (cs : List ApiCall)
    (v : Nat) (vc : VarCell) (hv : s.vars[v]? = some vc) :
    ∃ vc', (runCalls cs s).vars[v]? = some vc' ∧ vc'.value = vc.value :=
  runCalls_value cs s v vc hs hv

example :
    let cs := [ApiCall.writeVar 0 (fun _ => .int 9) true, .subscribe 0 0, .elabInstr .unit (.var (.int 3)),
      .writeVar 0 (fun x => x.addInt 1 7) false]
    ((runCalls cs exPropPanic).vars[0]?).map (fun c => (c.value, c.pending))
      = some (.int 1, some (.int 3)) ∧ (runCalls cs exPropPanic).vars.size = 2 := by
  intro cs
  exact by decide +kernel

/-- From a live state poisoned with status `Stabilising` (any panic before the update handlers), after
ANY sequence of the other API calls every observer read still returns `Err(CurrentlyStabilising)`:
the partially propagated values never become readable. -/
theorem reads_refuse_forever (env : Env) (s : State) (hs : s.status = .stabilising)
    (ha : s.alive = true) (cs : List ApiCall) (o : Nat) :
    (runCalls cs s).tryGetValue env o = .error .currentlyStabilising := by
  have h := runCalls_frame cs s
  exact C10.read_stabilising env _ o (h.2.2.trans ha) (h.1.trans hs)

example : (runCalls [ApiCall.writeVar 0 (fun _ => .int 9) true, .disallowFutureUse 0, .subscribe 0 0]
    exPropPanic).tryGetValue exEnv 0 = .error .currentlyStabilising :=
  reads_refuse_forever exEnv exPropPanic (by decide +kernel) (by decide +kernel) _ 0

/-! ## 6. handlers only run after propagation is complete (debug builds) -/

/-- DEBUG BUILDS.  If the heap drain returns normally, the recompute heap is empty (`length = 0`).
(No well-formedness hypothesis is needed: with debug assertions on, `remove_min` answers "empty" only
when `length = 0`; the bucket scan cannot stop at an empty bucket, and running off the end trips a
debug assertion.  `cfg.debug` is never written.) -/
theorem C13_partial_drain_complete (env : Env) (fuel : Nat) (s s' : State)
    (hd : s.cfg.debug = true) (hr : (drainHeap env fuel).run.run s = (.ok (), s')) :
    s'.rch.length = 0 :=
  drainHeap_empty_run env fuel s s' hd hr

/-- DEBUG BUILDS, from a well-formed heap (C11): after a drain that returned the heap is still
well-formed, every bucket is empty and no node is marked as queued. -/
theorem C13_partial_nothing_queued (env : Env) (fuel : Nat) (s s' : State) (hwf : HeapWF s)
    (hd : s.cfg.debug = true) (hr : (drainHeap env fuel).run.run s = (.ok (), s')) :
    HeapWF s' ∧ s'.rch.length = 0 ∧
      (∀ (k : Nat) (hk : k < s'.rch.queues.size), s'.rch.queues[k] = []) ∧
      ∀ n, n < s'.nodes.size → (s'.nodeD n).heightInRch = -1 := by
  have h1 : HWF .debug s' := by
    have := (drainHeap_spec env fuel).run s ((HWF_debug_iff s).2 ⟨hwf, hd⟩)
    rw [hr] at this
    exact this
  have h2 := drainHeap_empty_run env fuel s s' hd hr
  exact ⟨h1.heapWF, h2, nothing_queued h1.heapWF h2⟩

/-- DEBUG BUILDS.  In a `stabilise` entered normally, whenever `stabilise_end` gets to run at all —
in particular whenever an update handler runs, and whenever a handler panic leaves the readable
`RunningOnUpdateHandlers` state — the propagation phase had returned with an empty recompute heap. -/
theorem C13_partial_handlers_after_drain (env : Env) (fuel : Nat) (s : State) (p : Panic)
    (s' : State) (h : s.status = .notStabilising) (hd : s.cfg.debug = true)
    (hr : (stabilise env fuel).run.run s = (.error p, s'))
    (hs : s'.status = .runningOnUpdateHandlers) :
    ∃ s1 q s2,
      (propagate env fuel).run.run { s with status := .stabilising } = (.ok (), s1) ∧
      s1.rch.length = 0 ∧
      (stabiliseEndPrepare env).run.run s1 = (.ok q, s2) ∧
      (runHandlers env fuel q).run.run { s2 with status := .runningOnUpdateHandlers }
        = (.error p, s') := by
  obtain ⟨s1, q, s2, h1, h2, h3⟩ := (poisoned_status_iff env fuel s p s' h hr).1.1 hs
  exact ⟨s1, q, s2, h1, propagate_empty_run env fuel { s with status := .stabilising } s1 hd h1, h2, h3⟩

example : (exGraph 0 1).cfg.debug = true ∧ exHandlerPanic.status = .runningOnUpdateHandlers ∧
    exHandlerPanic.rch.length = 0 ∧ (exHandlerPanic.tryGetValue exEnv 0).toOption = some (.int 1) :=
  ⟨rfl, by decide +kernel, by decide +kernel, by decide +kernel⟩

example :
    let s0 := ((addNewObservers exEnv 10).run.run { exGraph 0 0 with status := .stabilising }).2
    s0.rch.length = 2 ∧ ((drainHeap exEnv 10).run.run s0).2.rch.length = 0 := by
  intro s0
  refine ⟨by decide +kernel, ?_⟩
  exact C13_partial_drain_complete exEnv 10 s0 _ (by decide +kernel)
    (run_eq_ok (by decide +kernel))

/-- RELEASE BUILDS: the debug hypothesis cannot simply be dropped.  `exReleaseHeap` has a
well-formed recompute heap (C11's `HeapWF`) holding one node, but its `lower_bound` is above that
node; `drainHeap` returns normally and the node is still queued. -/
theorem release_drain_counterexample :
    HeapWF exReleaseHeap ∧ exReleaseHeap.cfg.debug = false ∧
      panicOf ((drainHeap exEnv 10).run.run exReleaseHeap).1 = none ∧
      ((drainHeap exEnv 10).run.run exReleaseHeap).2.rch.length = 1 :=
  Poison.release_drain_counterexample

end IncrVerif.Props.C13
