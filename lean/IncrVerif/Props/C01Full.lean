import IncrVerif.Proofs.FullH61
import IncrVerif.Proofs.FullH65
import IncrVerif.Proofs.FullH66
import IncrVerif.Proofs.FullH67
import IncrVerif.Proofs.FullH70
import IncrVerif.Proofs.FullH71
/-!
# C01 for the property's FULL combinator list IN ONE FRAGMENT: binds (incl. nested) + `map_ref` + `map_with_old` + `depend_on` + cutoffs `.eq`/`.never` + the static core

Property C01: *after every completed `stabilise`, each in-use observer on a valid node returns exactly the value obtained by evaluating that node's defining
expression from scratch on the current variable values — no matter how variable writes, node creation, observer creation / drop / disallow and `stabilise` calls
were interleaved before, including nodes that were unobserved for a while and are observed again.*

Other files prove this for the static core plus ONE extension each (`C01History`: static; `C01MapRef`: + `map_ref`; `C15History`: + `map_with_old`;
`C03Order`/`C03Nested`: + binds, nested binds; `C06History`: + arbitrary cutoffs).  This file proves it for the COMBINED fragment (binds + map_ref + map_with_old + `depend_on` and the `cutoff` action).

## THE FRAGMENT (`FullH.HistFull env sp 0 acts`, `FullH.EnvS env sp`, `FullH.FirstFn env`; `Proofs/FullH3`, `FullH5`, `FullH12`, `FullH14`)

API actions: creation of `const`, `var`, pure `map` of arity 1…6 (user functions `f < fnZip` without effects, and the built-ins `fnZip`/`fnFirst`/`fnIdent`; `zip`),
`fold`, `dependOn a b` (= `map fnFirst [a,b]` with the cutoff `.dependOn a`: "`a.changedAt == n.changedAt`"), `mapRef p o` (projection ids `p < 100000`; CHAINS `x.map_ref(p).map_ref(q)` allowed), `mapWithOld m o` for a machine `m` satisfying the contract
`FullH.Good env sp m` (= `MapOldH.GoodMachine env (fun _ => True) m (sp m)`: from every reachable machine state, on every input, the machine outputs `sp m x`
and reports "unchanged" only if the previous output was that value, or there was none — e.g. `echo`), `bind body lhs` whose closure `body` builds, for every lhs value,
`const`/`lhsConst`/pure `map`/`fold`/`dependOn`/`mapRef`/`mapWithOld`/`bind body'` (NESTED binds, any depth) nodes over top-level handles created BEFORE the bind and its own earlier
locals (`FullH.BodyFull`); `observe`, `cloneObs`, `dropObs`, `disallow`; the five variable writes and `get`; `stabilise`, `isStable`, `stats`;
THE `cutoff n c` ACTION with `c = .never` or `c = .eq` on any handle.  So node cutoffs are `.eq`, `.never` or `.dependOn a` (`FullH.CutK`; change detectors `.never`).
`FullH.FirstFn env`: the built-in `fnFirst` returns its first argument (true of every `Defs.toEnv`, as `ZipPair`).  `FullH.EnvS env sp`: every closure body of the ENVIRONMENT (also bodies no bind uses) consists, for every lhs value, of such
instructions (a global well-formedness condition on the program text: function/projection/machine ids in range, machines `Good`, operands `n<k>`/`%j`).
In this fragment the nodes a closure creates cannot be named from outside (operands are handles of top-level nodes), so EVERY observed node is a top-level node and
stays valid for ever: the clause of C01 about observers on invalidated nodes is vacuous here (`QInv2.obsTop`, `N2.top`).

## METHOD (`Proofs/FullH1…61`)

`FullH.virt g s` (`FullH1`): THE VIRTUAL STATE — every `mapRef p i` node is replaced by the static node `map (pBase+p) [i]` STORING the ghost value `g n` ("the projection
the parents of `n` last consumed"), every `mapWithOld m i` node by `map (wBase+enc m) [i]` (same stored value), all `didChange` flags normalised, and EVERY CUTOFF OTHER THAN A CHANGE DETECTOR'S IS
READ AS `.eq` (`virtCut`: the cutoffs `.never` and `.dependOn a` of the actual state are invisible in the virtual state, so the `cutoff` action is a no-op there: `virtA` maps it to `stats`); `virtEnv env sp` interprets the
new function ids as the projections / the machines' specifications `sp m`, and TRANSLATES THE TEMPLATES of the closures (`virtT`), so the virtual closures build the virtual
nodes.  The virtual state lies in fragment F2 of `C03Nested` (static kinds + nested binds): ALL invariants and theorems of `NestH`/`BindH` (`DInv`, `F2Inv`, `GenOK2`, `QInv2`,
`StepRelB`, `StepL2`, `closure_spec2`, `relink_spec2`, `inval_spec2`, `den2_of_consistent`, `agree_large`, …) are applied to the VIRTUAL state as black boxes.
THE ACTUAL ENGINE SIMULATES THE VIRTUAL ENGINE (`FullH2`, `FullH6…13`, `FullH37`, `FullH41…44`, `FullH50`): `Sim K g x x'` — every successful run of `x` from `s` is matched by a
successful run of `x'` from `virt g s` ending in `virt g s'`, same result, SAME ghost; `SimX K x x'` — the same, but the ghost may be ERASED on nodes that end up invalid
(`invalidateNode` drops the value of a dying node: `GR g g' s s'`); states contain invalid nodes and pending invalidations (unlike `MapRefH.Fr`).  Simulated: every function of
`Engine/Core.lean` (heaps, `adjustHeights`, both necessity cascades, `invalidateNode`, `propagateInvalidity`, `stateAddParent`, `changeChildBindRhs`), node creation
(`createNode`/`createBind`/`elabInstr`/`elabTemplate`: virtualisation commutes with node creation), `maybeChangeValue`, `childChanged` (flag work is invisible), the recompute step of
every node that is NOT a map_ref / map_with_old node — incl. `bindMain` nodes and CHANGE DETECTORS (closure run, relink, invalidation of the old generation) —, the prefix of
`stabilise`, every API action.  A relation `VM s s'` is baked into every simulation: kinds, cutoffs and machine states of existing nodes are kept, invalid nodes stay invalid,
`didChange` flags are only RAISED, new nodes are pristine — so the ghost invariants below need almost no separate frame ladders.
THE THREE STEPS THAT ARE NOT SIMULATED are described directly by the step contract `BindH.StepRelB` of the virtual states: the step of a map_ref node (`FullH27…30`: `ch` = the old
flag; if it was down, the `didChange` invariant says the ghost already is the new projection) and of a map_with_old node (`FullH31…35`: the machine contract; the first run of a machine
that reports "unchanged" needs the `patch` device of `C15History`, stated for `BindH.DInv`), and THE VERDICT STEP (`FullH36`): the step of a static / `bindMain` node whose actual cutoff is `.never`
or `.dependOn a` — `ch` = the engine's verdict; `.never` only ever ADDS changes (`StepRelB` allows a spurious change), and when `.dependOn a` SUPPRESSES (`a.changedAt = n.changedAt`) the new value
`first(a, b)` IS the old one, by the invariant `DepInv` (a valid `depend_on` node whose `changedAt` equals its input's stores what the input stores; with `CRl`: a node whose `changedAt` is the
current round has run in this round — so a changing input can never share its stamp with a `depend_on` parent that has not yet run; `FullH26`: both from `StepRelB`/`StepL2` of the virtual states).
THE GHOST INVARIANTS: `KInv env g s` — a valid NECESSARY map_ref node whose flag is DOWN reads its ghost value (D1/D15); `MInv env s` — the machine state of every valid map_with_old
node is reachable; `GSome g s` — a valid map_ref node whose flag is down HAS a ghost value (needed for the first "unchanged" run of a machine under a map_ref chain).  `KInv`
through: steps of static/bindMain nodes (`FullH15…18`: `MapRefH.mcvm_flags`, `mcv_keepsK`), the LINKING CASCADE in RANK order (`MapRefLink`, `FullH22`: in graphs with binds a child may
have a larger index than its parent, the induction runs on the ghost rank of `NestH`), a RUN OF A CHANGE DETECTOR phase by phase (`FullH54…60`: the closure touches no old node and its
nodes start with the flag up; relinking = the linking cascade at the state right before `addParentWithoutAdjustingHeights rhs 1 main`; invalidation erases ghosts of dying nodes only and
a surviving map_ref node reads through surviving nodes), the prefix of `stabilise` (`FullH37…39`), API actions (`FullH49/50`).

## PROVED HERE (for the model, both `cfg.debug` settings; partial correctness: each statement assumes that the call / the history returns `.ok`)

* `recomputeOne_full`, `drainHeap_full`: THE DRAIN — from the drain invariant `FullH.DInvF env sp t s g x` (fragment facts; `BindH.DInv`, `NestH.AuxS2`, `NestH.GenOK2` of the VIRTUAL
  state; `KInv`, `MInv`, `GSome`) every successful `recomputeOne` on the current node re-establishes it for new ghost values (4 cases: simulated static/bindMain step; simulated run of
  a change detector incl. nested binds; map_ref step; map_with_old step), and `drainHeap` ends with it and an empty heap.
* `stabilise_full`: from the invariant between API actions `FullH.QInvF env sp s g` (`NestH.QG2` of the virtual state + ghost invariants) with ARBITRARY pending new / disallowed
  observers, `stabilise` re-establishes it; no necessary node is stale afterwards.
* `step_all`, `history_inv`: every API action of the fragment keeps `QInvFE`; every state reached from `State.init N d` by a history of the fragment satisfies it.
* `history_stabilise_virt`: AT EVERY `stabilise` OF A HISTORY OF THE FRAGMENT every in-use observer watches a named node `top[j]` and reads `Spec.denoteTop p' f j` (for all large `f`),
  where `p'` is the program text of the VIRTUAL history — the creation instructions so far with `mapRef p o` read as `map (proj p) [o]` and `mapWithOld m o` as `map (sp m) [o]`, closures
  likewise — evaluated from scratch on the current variable values by the text-level reference semantics `Spec/Denote.lean` (binds: evaluate the lhs, run the closure on that value,
  evaluate the template it returns, nested binds recursively; no node created by the engine is looked at).  This covers machines with ANY specification `sp m`.
* `history_stabilise_denote`: THE SAME FOR THE ACTUAL PROGRAM TEXT, when every machine is a pure identity machine (`sp m v = v`; `po m = true`: exactly the machines the reference
  semantics `Spec.denote` covers, `echo`): reads = `Spec.denoteTop (progOf env po as) f j` — C01 as the differential predicate `holdsC01` states it (`FullH51`: the virtual and the actual
  program text denote the same values).
* NON-VACUITY (`FullH62…71`, kernel-checked, see the `example`s at the end): `exHistG` (`depend_on` fires / is suppressed; `cutoff n never`: spurious change), and `exHistF` — a bind whose closure builds a map_ref CHAIN over an outer pair-valued variable `((a,b),c)`, a
  `map_with_old` identity machine on it, a `map`, and a NESTED bind whose closure builds another map_ref + machine; the pair variable is written (only `c`: the projection of the chain is
  unchanged and its parents are not recomputed; then `a`), the lhs changes (the generation with the chain, the machines and the inner bind is invalidated), the observer is disallowed,
  variables are written while nothing is observed, the node is observed again (fresh chain), the inner lhs changes.

## VALIDATION BY EXECUTION
2 300 generated histories of the combined fragment (pair and integer variables written one component at a time, map 1–3, fold, zip, map_ref chains, `map_with_old echo`, binds nested to
depth 2 with map_ref / map_with_old / bind inside closures, `depend_on`, observe / drop / re-observe, many `stabilise`): model = real implementation = reference predicate C01 on all,
0 panics.  With an instrumented drain maintaining the ghost, at every one of 246 149 drain states (121 844 `recomputeOne` steps: 33 649 map_ref steps — 3 307 with the flag down —, 9 172
map_with_old steps, 17 498 runs of change detectors, 8 281 of them killing a generation; 3 892 ghosts erased) the Boolean versions of `DInv`, `OrderInv`, `All2`/`GInv2` (virtual state), `KInv`,
and per step `StepRelB`/`StepL2` between the virtual states hold; after each `stabilise` reads = `den2` of the virtual state (119 584 reads); 260 783 field-by-field comparisons confirm the EXACT
simulation statements `Sim`/`SimX` (the virtual engine from `virt g s` ends in `virt g' s'`, `g'` = `g` erased on invalid nodes).  0 violations.  NO FINDING.  Side observations: `KInv` needs the
necessity premise (an unnecessary non-stale map_ref node above a stale unnecessary one reads a new value with its flag down); "flag up ⇒ stale ∨ queued" is false (`child_changed` raises the
flags of a whole chain at once); spurious changes exist (`markMapRefUnknown`), the converse never.

## ASSUMED / NOT PROVED HERE
* Partial correctness here; total correctness of this fragment (no panic, fuel) is `C04Full.history_never_panics`.
* NOT in the fragment: user cutoffs (`.fn`, `.boxed`, `.always`: with them C01 itself only holds "when cutoffs only suppress equal values" — `C06History` treats them for the static core), the `cutoff`
  instruction INSIDE closures, the composite incremental-map operators (`mapOp`, machines that need canonical inputs), expert nodes, effects, subscriptions, `var` created in closures, closures over
  younger top-level nodes, `setMaxHeight`, `dropVar`, memoised calls.
* `EnvS` is a condition on ALL closure bodies of the environment, not only on those a history uses (a history-relative version needs one more frame ladder for the `body` fields).
-/
namespace IncrVerif.Props.C01Full
open IncrVerif.Engine IncrVerif.Driver IncrVerif.Proofs IncrVerif.Proofs.FullH
open IncrVerif.Proofs.NestH (progOf ZipPair)

/-- **The drain, one step.** On the current node `n` of the drain invariant a successful `recomputeOne` re-establishes the invariant for new ghost values, the handed-over parent
being the new current node (static / `bindMain` / change-detector steps are simulated by the virtual engine; map_ref and map_with_old steps are described directly). -/
theorem recomputeOne_full {env : Env} {sp : Nat → Val → Val} (E : EnvS env sp) (hF : FirstFn env) {t s : State} {g : Nat → Option Val} {fuel n : Nat}
    {r : Option Nat} {s' : State} (D : DInvF env sp t s g (some n)) (h : (recomputeOne env fuel n).run.run s = (.ok r, s')) :
    ∃ g', DInvF env sp t s' g' r ∧ BindH.FrameB (virt g s) (virt g' s') ∧
      ((virt g' s').nodeD n).recomputedAt = s.stabNum ∧ ((virt g' s').nodeD n).valid = true :=
  FullH.recomputeOne_full (kit E hF) D h

/-- **The drain.** A successful `drainHeap` from the drain invariant ends with the drain invariant (new ghost values) and an empty heap. -/
theorem drainHeap_full {env : Env} {sp : Nat → Val → Val} (E : EnvS env sp) (hF : FirstFn env) {fuel : Nat} {t s s' : State} {g : Nat → Option Val}
    (D : DInvF env sp t s g none) (h : (drainHeap env fuel).run.run s = (.ok (), s')) :
    ∃ g', DInvF env sp t s' g' none ∧ s'.rch.length = 0 ∧ BindH.FrameB (virt g s) (virt g' s') :=
  FullH.drainHeap_full (kit E hF) _ _ _ _ _ D h

/-- **`stabilise`** from the invariant between API actions, with arbitrary pending new / disallowed observers: the invariant again (`StabF.inv`), both lists empty, cells unchanged,
every necessary node valid and not stale (`StabF.fresh`). -/
theorem stabilise_full {env : Env} {sp : Nat → Val → Val} (E : EnvS env sp) (hF : FirstFn env) {fuel : Nat} {s s' : State} {g : Nat → Option Val}
    (Q : QInvF env sp s g) (h : (stabilise env fuel).run.run s = (.ok (), s')) : ∃ g', StabF env sp s s' g' :=
  FullH.stabilise_full (kit E hF) Q h

/-- **After a `stabilise` every in-use observer reads `den2` of its node in the virtual state** (the state-level from-scratch semantics of `C03Nested`, with map_ref nodes read as
projections and map_with_old nodes as their specification). -/
theorem stabilise_reads {env : Env} {sp : Nat → Val → Val} {s s' : State} {g' : Nat → Option Val} (R : StabF env sp s s' g') :
    ∀ (o : Nat) (ob : ObsRec), s'.observers[o]? = some ob → ob.state = .inUse →
      ∃ v, s'.tryGetValue env o = .ok v ∧ ∃ K, ∀ k, K ≤ k → NestH.den2 (VE env sp) (virt g' s') k ob.node = some v :=
  stabF_reads R

/-- **Every API action of the fragment keeps the invariant.** -/
theorem step_all {env : Env} {sp : Nat → Val → Val} (E : EnvS env sp) (hF : FirstFn env) {s s' : State} {a : Action} {tk : Array Nat} {r : String × Array Nat}
    (Q : QInvFE env sp s) (hA : ActionFull env sp s.top.size a) (h : (stepAction env a tk).run.run s = (.ok r, s')) : QInvFE env sp s' :=
  FullH.step_all E hF Q hA h

/-- **Whole histories.** Every state reached from the initial state by a history of the full fragment satisfies the invariant. -/
theorem history_inv {env : Env} {sp : Nat → Val → Val} (E : EnvS env sp) (hF : FirstFn env) {N : Nat} {d : Bool} {acts : List Action} {s : State} {tk : Array Nat}
    (hH : HistFull env sp 0 acts) (h : Quiet.runActions env acts (State.init N d) #[] = .ok (s, tk)) : QInvFE env sp s :=
  FullH.history_inv E hF hH h

/-- **C01 for the combined fragment, any machine specification.** At every `stabilise` of a history of the full fragment every in-use observer watches a named node and reads the
text-level from-scratch value of its handle in the program text of the virtual history (`mapRef p o` = `map (proj p) [o]`, `mapWithOld m o` = `map (sp m) [o]`). -/
theorem history_stabilise_virt {env : Env} {sp : Nat → Val → Val} (E : EnvS env sp) (hF : FirstFn env) (po : Nat → Bool) (Z : ZipPair env) {N : Nat} {d : Bool}
    {as bs : List Action} {s : State} {tk : Array Nat} (hH : HistFull env sp 0 (as ++ Action.stabilise :: bs))
    (h : Quiet.runActions env (as ++ Action.stabilise :: bs) (State.init N d) #[] = .ok (s, tk)) :
    ∃ s1 tk1 s2, Quiet.runActions env as (State.init N d) #[] = .ok (s1, tk1) ∧ QInvFE env sp s1 ∧
      (stabilise env fuelDefault).run.run s1 = (.ok (), s2) ∧ QInvFE env sp s2 ∧
      (∀ (o : Nat) (ob : ObsRec), s2.observers[o]? = some ob → ob.state = .inUse →
        ∃ v j, s2.tryGetValue env o = .ok v ∧ s2.top[j]? = some ob.node ∧
          ∃ F, ∀ f, F ≤ f → Spec.denoteTop (progOf (VE env sp) po (as.map virtA)) f j = some v) ∧
      (∀ n, s2.isNecessary n = true → (s2.nodeD n).valid = true ∧ s2.isStale n = false) ∧
      Quiet.runActions env bs s2 tk1 = .ok (s, tk) :=
  FullH.history_stabilise_virt (kit E hF) po Z hH h

/-- **C01 FOR THE COMBINED FRAGMENT (identity machines): reads = the text-level reference semantics of the program built so far.**  For every history of the full fragment that runs
from the initial state — however variable writes, node creation, observer creation / drop / disallow and `stabilise` calls are interleaved — at every `stabilise` every in-use observer
reads `Spec.denoteTop` of its handle in the program text of the prefix, evaluated from scratch on the current variable values. -/
theorem history_stabilise_denote {env : Env} {sp : Nat → Val → Val} (E : EnvS env sp) (hF : FirstFn env) (po : Nat → Bool) (Z : ZipPair env)
    (hpo : ∀ m, po m = true) (hsp : ∀ m v, sp m v = v) {N : Nat} {d : Bool} {as bs : List Action}
    {s : State} {tk : Array Nat} (hH : HistFull env sp 0 (as ++ Action.stabilise :: bs))
    (h : Quiet.runActions env (as ++ Action.stabilise :: bs) (State.init N d) #[] = .ok (s, tk)) :
    ∃ s1 tk1 s2, Quiet.runActions env as (State.init N d) #[] = .ok (s1, tk1) ∧
      (stabilise env fuelDefault).run.run s1 = (.ok (), s2) ∧ QInvFE env sp s2 ∧
      (∀ (o : Nat) (ob : ObsRec), s2.observers[o]? = some ob → ob.state = .inUse →
        ∃ v j, s2.tryGetValue env o = .ok v ∧ s2.top[j]? = some ob.node ∧
          ∃ F, ∀ f, F ≤ f → Spec.denoteTop (progOf env po as) f j = some v) ∧
      Quiet.runActions env bs s2 tk1 = .ok (s, tk) :=
  FullH.history_stabilise_denote (kit E hF) E po Z hpo hsp hF hH h

/-! ## non-vacuity -/

/-- the example history is a history of the full fragment over an environment all of whose closures are of the fragment and whose machines are `Good`; it runs; the reads after the first
four `stabilise`s are `16`, `79` (only `c` written), `83` (`a` written), `1` (lhs odd: the generation with the map_ref chain is dead) -/
example : EnvS fEnv fSp ∧ (∀ m, Good fEnv fSp m) ∧ HistFull fEnv fSp 0 exHistF ∧
    (∃ s tk, Quiet.runActions fEnv exHistF (State.init 128 true) #[] = .ok (s, tk) ∧ QInvFE fEnv fSp s) ∧
    BindH.C2h.readB fEnv (exHistF.take 6) 0 = some (.int 16) ∧ BindH.C2h.readB fEnv (exHistF.take 8) 0 = some (.int 79) ∧
    BindH.C2h.readB fEnv (exHistF.take 10) 0 = some (.int 83) ∧ BindH.C2h.readB fEnv (exHistF.take 12) 0 = some (.int 1) := by
  obtain ⟨s, tk, h⟩ := exHistF_runs
  exact ⟨fEnv_envS, fEnv_good, exHistF_frag, ⟨s, tk, h, FullH.history_inv fEnv_envS fEnv_first exHistF_frag h⟩, exHistF_reads⟩

/-- unobserved for a while and observed again: after `disallow` + `stabilise` observer 0 is unlinked and the bind's main node is unnecessary; three writes later the node is observed again
(observer 1) and reads `8`, then — the INNER lhs changed — `78` -/
example : BindH.C2h.readB fEnv (exHistF.take 14) 0 = none ∧
    EX.factF (exHistF.take 14) (fun s => (s.observers[0]?.map (·.state), s.isNecessary 4)) = some (some .unlinked, false) ∧
    BindH.C2h.readB fEnv (exHistF.take 19) 1 = some (.int 8) ∧ BindH.C2h.readB fEnv exHistF 1 = some (.int 78) ∧
    BindH.C2h.readB fEnv exHistF 0 = none :=
  exHistF_reobserve

/-- the first generation: a map_ref chain `5 = n0.map_ref(fst)`, `6 = 5.map_ref(fst)` into the machine `7`, a nested bind (`9`, `10`) with its own map_ref `12` and machine `13`; after the
lhs change all of them are invalid -/
example : EX.factF (exHistF.take 6) (fun s => ((s.nodeD 5).kind, (s.nodeD 6).kind, (s.nodeD 7).kind, (s.nodeD 8).kind)) =
      some (.mapRef 1 0, .mapRef 1 5, .mapWithOld 7 6, .map 0 [7, 2]) ∧
    EX.factF (exHistF.take 12) (fun s => ([5, 6, 7, 8, 9, 10, 11, 12, 13].map fun n => (s.nodeD n).valid)) =
      some [false, false, false, false, false, false, false, false, false] :=
  ⟨exHistF_first.2.1, exHistF_lhs_switch.2.1⟩

/-- THE HEADLINE THEOREM APPLIES at each of the seven `stabilise`s of the example: every in-use observer reads `Spec.denoteTop` of its handle in the program text of the prefix — and the
reference semantics evaluates (kernel-checked) to the values read: `16, 79, 83, 1, (1), 8, 78` -/
example : (∀ {as bs : List Action}, exHistF = as ++ Action.stabilise :: bs →
      ∃ s tk s1 tk1 s2, Quiet.runActions fEnv exHistF (State.init 128 true) #[] = .ok (s, tk) ∧
        Quiet.runActions fEnv as (State.init 128 true) #[] = .ok (s1, tk1) ∧
        (stabilise fEnv fuelDefault).run.run s1 = (.ok (), s2) ∧ QInvFE fEnv fSp s2 ∧
        (∀ (o : Nat) (ob : ObsRec), s2.observers[o]? = some ob → ob.state = .inUse →
          ∃ v j, s2.tryGetValue fEnv o = .ok v ∧ s2.top[j]? = some ob.node ∧
            ∃ F, ∀ f, F ≤ f → Spec.denoteTop (progOf fEnv (fun _ => true) as) f j = some v) ∧
        Quiet.runActions fEnv bs s2 tk1 = .ok (s, tk)) ∧
    ([5, 7, 9, 11, 13, 18, 20].map fun k => Spec.denoteTop (progOf fEnv (fun _ => true) (exHistF.take k)) 10 3) =
      [some (.int 16), some (.int 79), some (.int 83), some (.int 1), some (.int 1), some (.int 8), some (.int 78)] :=
  ⟨fun e => exHistF_headline e, exHistF_denote⟩

/-- `depend_on` and the `cutoff` action (`exHistG`: `n3 := bind …` as above, `n4 := depend_on n3 n2`, `n5 := map first [n1, n2]`, `n6 := map f [n5, n5]`, all three observed): the history is of the
fragment (the `cutoff` action creates no handle) and runs; reads of `(n4, n5, n6)` after the five `stabilise`s -/
example : FirstFn fEnv ∧ HistFull fEnv fSp 0 exHistG ∧
    (∃ s tk, Quiet.runActions fEnv exHistG (State.init 128 true) #[] = .ok (s, tk) ∧ QInvFE fEnv fSp s) ∧
    EX.reads3 (exHistG.take 11) = (some (.int 16), some (.int 0), some (.int 0)) ∧
    EX.reads3 (exHistG.take 13) = (some (.int 18), some (.int 0), some (.int 0)) ∧
    EX.reads3 (exHistG.take 16) = (some (.int 20), some (.int 0), some (.int 0)) ∧
    EX.reads3 (exHistG.take 18) = (some (.int 1), some (.int 1), some (.int 2)) ∧
    EX.reads3 exHistG = (some (.int 1), some (.int 1), some (.int 2)) := by
  obtain ⟨s, tk, h⟩ := exHistG_runs
  exact ⟨fEnv_first, exHistG_frag, ⟨s, tk, h, FullH.history_inv fEnv_envS fEnv_first exHistG_frag h⟩, exHistG_reads⟩

/-- the stamps `(recomputedAt, changedAt)` show the three behaviours: (b) `n3` changes: the `depend_on` node (node 5, cutoff `.dependOn 4`) FIRES, while `n5` (node 6, cutoff `.eq`) is recomputed
with an equal value and does not change, its parent is not recomputed; (c) after `cutoff n5 never` node 6 is recomputed with an EQUAL value and STAMPS `changedAt` (spurious change), its parent
(node 7) is recomputed; (a) only the second operand of the `depend_on` node changes: it is recomputed (stamp 4) and its cutoff SUPPRESSES: `changedAt` stays 3 -/
example :
    EX.factF (exHistG.take 13) (fun s => (EX.stamps s 4, EX.stamps s 5, (s.nodeD 5).value)) = some ((1, 1), (1, 1), some (.int 18)) ∧
    EX.factF (exHistG.take 13) (fun s => (EX.stamps s 6, EX.stamps s 7, (s.nodeD 6).cutoff)) = some ((1, 0), (0, 0), .eq) ∧
    EX.factF (exHistG.take 16) (fun s => ((s.nodeD 6).cutoff, EX.stamps s 6, (s.nodeD 6).value)) = some (.never, (2, 2), some (.int 0)) ∧
    EX.factF exHistG (fun s => (EX.stamps s 4, EX.stamps s 5, (s.nodeD 5).value, (s.nodeD 5).cutoff)) = some ((3, 3), (4, 3), some (.int 1), .dependOn 4) :=
  ⟨exHistG_fires.1, exHistG_fires.2, exHistG_never.1, exHistG_suppressed.1⟩

/-- THE HEADLINE THEOREM APPLIES at each of the five `stabilise`s of `exHistG`, and the reference semantics evaluates (kernel-checked) to the values read -/
example : (∀ {as bs : List Action}, exHistG = as ++ Action.stabilise :: bs →
      ∃ s tk s1 tk1 s2, Quiet.runActions fEnv exHistG (State.init 128 true) #[] = .ok (s, tk) ∧
        Quiet.runActions fEnv as (State.init 128 true) #[] = .ok (s1, tk1) ∧
        (stabilise fEnv fuelDefault).run.run s1 = (.ok (), s2) ∧ QInvFE fEnv fSp s2 ∧
        (∀ (o : Nat) (ob : ObsRec), s2.observers[o]? = some ob → ob.state = .inUse →
          ∃ v j, s2.tryGetValue fEnv o = .ok v ∧ s2.top[j]? = some ob.node ∧
            ∃ F, ∀ f, F ≤ f → Spec.denoteTop (progOf fEnv (fun _ => true) as) f j = some v) ∧
        Quiet.runActions fEnv bs s2 tk1 = .ok (s, tk)) ∧
    ([10, 12, 15, 17, 19].map fun k => [4, 5, 6].map fun j => Spec.denoteTop (progOf fEnv (fun _ => true) (exHistG.take k)) 40 j) =
      [[some (.int 16), some (.int 0), some (.int 0)], [some (.int 18), some (.int 0), some (.int 0)], [some (.int 20), some (.int 0), some (.int 0)],
        [some (.int 1), some (.int 1), some (.int 2)], [some (.int 1), some (.int 1), some (.int 2)]] :=
  ⟨fun e => exHistG_headline e, exHistG_denote⟩

end IncrVerif.Props.C01Full
