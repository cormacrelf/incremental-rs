import IncrVerif.Proofs.Memo
/-!
# C20 — `weak_memoize_fn`: same key, same live node; the function runs in its creation scope

Model: `memoCall env m key` (`Engine/Recompute.lean`): looks up `(m, key)` in `s.memos`; returns the
stored node if it is still allocated (`s.isAlive n`); otherwise it passes the fault hook `tick`, logs one
`note` event, runs the function body `elabTemplateBase (env.memo m) (.int key)` with
`currentScope := .top` (the scope the memoised function was created in), restores the scope and stores
the result.  `stabiliseEnd` sweeps the tables (entries whose node is no longer allocated are dropped).

Vocabulary (`Proofs/Memo.lean`): `stored s m key` is the table entry, `memoHit s m key` is the entry if
its node is alive, `memoNote m key` the logged event, `memoStart`/`memoFinish` the state just before the
body runs / just after it returned, `rhsNodes s b` is bind `b`'s `allNodesCreatedOnRhs`,
`gcMemos alive memos` the sweep.

## PROVED HERE
* `memo_hit`: an entry whose node is alive is returned as is: the function is not invoked, nothing changes.
* `memo_miss_runs_in_creation_scope` (no fault armed): a miss is exactly the body run from the state
  "one `note` event logged, `currentScope := .top`", followed by "scope restored, result stored";
  `memo_miss_result`: on return the caller's scope is back, exactly one event was logged (the body logs
  none), and the result is stored under `(m, key)`.
* `memo_nodes_have_top_scope` (any state, any outcome, faults included): every node a memoised call
  creates has `createdIn = .top`, existing nodes keep their scope, and NO bind's
  `allNodesCreatedOnRhs` changes: a node obtained from a memoised function inside a bind closure is not
  among the nodes that re-running that bind invalidates (`recomputeOne`, `bindLhsChange` branch,
  invalidates exactly the old `allNodesCreatedOnRhs`).
  `template_nodes_scope`: the general fact behind it (a template run in scope `sc` creates nodes in `sc`
  or at top level only).
* `memo_gc`, `memo_gc_lookup`: the sweep keeps exactly the entries whose node is alive;
  `stabilise_end_sweeps`: every `stabiliseEnd` that returns ends with the sweep.

## NOT PROVED HERE
* that the nodes re-running a bind invalidates are only those in `allNodesCreatedOnRhs` (and their
  dependants) — the invalidation theorem (C03) is developed elsewhere; here only "not registered";
* the whole-history statement "two calls with the same key return the same node as long as somebody
  holds it" (it follows from `memo_hit` + `memo_miss_result` + C12 `handle_is_alive` one call at a
  time; the history-level version is covered by differential testing);
* a panic raised inside the body (only `model:` operand errors can occur) leaves `currentScope = .top`.
-/
namespace IncrVerif.Props.C20
open IncrVerif.Engine IncrVerif.Proofs.Memo

/-- A hit: if the table of memo function `m` has node `n` under `key` and `n` is still allocated, the
call returns that same node; the function is not invoked and the state does not change at all. -/
theorem memo_hit (env : Env) (m : Nat) (key : Int) (s : State) (n : Nat)
    (hst : (s.memos.lookup m).bind (·.lookup key) = some n) (ha : s.isAlive n = true) :
    (memoCall env m key).run.run s = (.ok n, s) := by
  have h1 : stored s m key = some n := by
    unfold stored
    cases hl : s.memos.lookup m with
    | none => rw [hl] at hst; cases hst
    | some tbl => rw [hl] at hst; exact hst
  rw [memoCall_run]
  simp only [memoHit, h1, ha, if_true]

example : (memoCall exEnvMemo 3 5).run.run exMemoised = (.ok 1, exMemoised) :=
  memo_hit _ _ _ _ _ (by decide) (by decide)

/-- A miss (no entry, or the entry's node has been freed) with no fault armed: the call is exactly
the function body run with `currentScope := .top` after one `note` event was logged; when the body
returns `n`, the caller's scope is restored and `n` is stored under `(m, key)`. -/
theorem memo_miss_runs_in_creation_scope (env : Env) (m : Nat) (key : Int) (s : State)
    (hmiss : memoHit s m key = none) (hp : s.panicCountdown = none) :
    (memoCall env m key).run.run s =
      match (elabTemplateBase (env.memo m) (.int key)).run.run
          { s with log := memoNote m key :: s.log, currentScope := .top } with
      | (.ok n, s2) => (.ok n,
          { s2 with currentScope := s.currentScope,
                    memos := (m, (key, n) :: ((s2.memos.lookup m).getD []).filter (·.1 != key))
                               :: s2.memos.filter (·.1 != m) })
      | (.error e, s2) => (.error e, s2) :=
  memoCall_miss env m key s hmiss hp

example : memoHit exInBind 3 5 = none ∧ exInBind.panicCountdown = none ∧
    ((memoCall exEnvMemo 3 5).run.run exInBind).1 = .ok 1 := ⟨by decide, rfl, rfl⟩

/-- What a returning miss leaves behind: the current scope is what it was before the call, exactly
one event (the `note`) was logged — the body itself logs nothing — and the result is in the table. -/
theorem memo_miss_result (env : Env) (m : Nat) (key : Int) (s s' : State) (n : Nat)
    (hmiss : memoHit s m key = none) (hp : s.panicCountdown = none)
    (hrun : (memoCall env m key).run.run s = (.ok n, s')) :
    s'.currentScope = s.currentScope ∧ s'.log = memoNote m key :: s.log ∧
      ((s'.memos.lookup m).getD []).lookup key = some n :=
  memoCall_miss_ok env m key s s' n hmiss hp hrun

example : ((memoCall exEnvMemo 3 5).run.run exInBind).2.currentScope = .bind 0 ∧
    ((memoCall exEnvMemo 3 5).run.run exInBind).2.memos = [(3, [(5, 1)])] := by decide

/-- Every node created by a memoised call — whatever the state, whether the call returns or panics —
is created in the top-level scope; nodes that existed keep their scope; and no bind's
`allNodesCreatedOnRhs` changes, in particular not that of the bind whose closure is making the call.
So a node obtained from a memoised function inside a bind closure stays valid when that bind re-runs. -/
theorem memo_nodes_have_top_scope (env : Env) (m : Nat) (key : Int) (s s' : State) (r)
    (hrun : (memoCall env m key).run.run s = (r, s')) :
    s.nodes.size ≤ s'.nodes.size ∧
    (∀ i, s.nodes.size ≤ i → i < s'.nodes.size → (s'.nodeD i).createdIn = .top) ∧
    (∀ i, i < s.nodes.size → (s'.nodeD i).createdIn = (s.nodeD i).createdIn) ∧
    (∀ b, rhsNodes s' b = rhsNodes s b) :=
  have h := memoCall_newTop env m key s s' r hrun
  ⟨h.nodesLe, h.new, h.old, h.binds⟩

example : exInBind.currentScope = .bind 0 ∧
    ((memoCall exEnvMemo 3 5).run.run exInBind).2.nodes.size = 2 ∧
    (((memoCall exEnvMemo 3 5).run.run exInBind).2.nodeD 1).createdIn = .top ∧
    rhsNodes ((memoCall exEnvMemo 3 5).run.run exInBind).2 0 = [] := by decide

/-- The general fact: a template (without memoised calls) elaborated while the current scope is `sc`
creates nodes in `sc` or at top level only (`var`), leaves the current scope and the scope of existing
nodes alone, and at top level registers nothing with any bind. -/
theorem template_nodes_scope (t : Template) (lhs : Val) (init : List Nat) (s s' : State) (r)
    (hrun : (elabTemplateBase t lhs init).run.run s = (r, s')) :
    s'.currentScope = s.currentScope ∧ s.nodes.size ≤ s'.nodes.size ∧
    (∀ i, s.nodes.size ≤ i → i < s'.nodes.size →
      (s'.nodeD i).createdIn = s.currentScope ∨ (s'.nodeD i).createdIn = .top) ∧
    (∀ i, i < s.nodes.size → (s'.nodeD i).createdIn = (s.nodeD i).createdIn) ∧
    (s.currentScope = .top → ∀ b, rhsNodes s' b = rhsNodes s b) :=
  have h := elabTemplateBase_sc t lhs init s s' r hrun
  ⟨h.scope, h.nodesLe, h.new, h.old, h.binds⟩

example : (((elabTemplateBase (exEnvMemo.memo 3) (.int 5)).run.run exInBind).2.nodeD 1).createdIn
    = .bind 0 := by decide

/-- The sweep (`garbage_collect` of the weak tables): an entry `(key, n)` is in table `m` afterwards
iff it was there before and `n` is in the alive set the sweep was given. -/
theorem memo_gc (alive : List Nat) (memos : List (Nat × List (Int × Nat))) (m : Nat) (key : Int) (n : Nat) :
    (∃ tbl, (gcMemos alive memos).lookup m = some tbl ∧ (key, n) ∈ tbl) ↔
      (∃ tbl, memos.lookup m = some tbl ∧ (key, n) ∈ tbl) ∧ alive.contains n = true := by
  rw [gcMemos_lookup]
  constructor
  · rintro ⟨tbl, h1, h2⟩
    cases hl : memos.lookup m with
    | none => rw [hl] at h1; cases h1
    | some tbl0 =>
      rw [hl] at h1; cases h1
      have := List.mem_filter.1 h2
      exact ⟨⟨tbl0, rfl, this.1⟩, this.2⟩
  · rintro ⟨⟨tbl, h1, h2⟩, h3⟩
    exact ⟨_, by rw [h1]; rfl, List.mem_filter.2 ⟨h2, h3⟩⟩

example : gcMemos [1, 0] [(3, [(5, 1), (6, 2)])] = [(3, [(5, 1)])] := by decide

/-- Table by table: the sweep filters each table, keeps every table (even an empty one) and their order. -/
theorem memo_gc_lookup (alive : List Nat) (memos : List (Nat × List (Int × Nat))) (m : Nat) :
    (gcMemos alive memos).lookup m = (memos.lookup m).map (·.filter fun e => alive.contains e.2) :=
  gcMemos_lookup alive memos m

example : (gcMemos [0] [(3, [(5, 1)])]).lookup 3 = some [] := by decide

/-- Every `stabiliseEnd` that returns ends with the sweep, applied with the alive set of the state
reached after the update handlers ran, followed only by `status := NotStabilising`. -/
theorem stabilise_end_sweeps (env : Env) (fuel : Nat) (s s' : State) (r)
    (hrun : (stabiliseEnd env fuel).run.run s = (.ok r, s')) :
    ∃ s1 : State, s' = { s1 with memos := gcMemos s1.aliveSet s1.memos, status := .notStabilising } :=
  stabiliseEnd_gc env fuel s r s' hrun

example : ((stabiliseEnd exEnvMemo 10).run.run { exMemoised with handles := [0] }).2.memos = [(3, [])] ∧
    ((stabiliseEnd exEnvMemo 10).run.run exMemoised).2.memos = [(3, [(5, 1)])] := by decide

end IncrVerif.Props.C20
