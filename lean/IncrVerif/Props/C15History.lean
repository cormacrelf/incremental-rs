import IncrVerif.Proofs.MapOld35
/-!
# C15 (and C01) for whole histories of programs with `map_with_old` nodes and incremental-map operators

Extension of `Props/C01History.lean` (whole histories of static programs) and `Props/C15.lean` (every diff-based operator
equals its non-incremental definition on every input SEQUENCE) to the fragment STATIC + `map_with_old`: after every
`stabilise` of a history every in-use observer reads the from-scratch evaluation in which a `map_with_old` node evaluates
to the plain function of its machine — in particular the observer of an `incr_filter_mapi` / `incr_unordered_fold` /
`incr_merge` / `incr_partition_mapi` output reads `filterMapSpec` / `ufoldSpecSum` / `mergeSpec'` / `partitionSpec` of the
CURRENT input map(s), for any sequence of edits and across periods in which the operator was unobserved.

THE MACHINE CONTRACT (`Proofs/MapOld2.lean`).  `env.withOld g σ old x = (σ', new, did)`: closure state, previous output,
input ↦ new closure state, new output, "did the output change".  `MReach env C g σ old`: `(σ, old)` is reachable from the
state of a fresh node (`σ = .unit`, `old = none`) by running on inputs satisfying the value predicate `C`.
`GoodMachine env C g spec`:
* `out`: from ANY reachable state, running on `x` (with `C x`) outputs `spec x`;
* `flag`: `did = false` only if `old = some (spec x)` — or `old = none` (a first run may report "no change": `incr_merge`
  does so on two empty maps; harmless, see below).  `did = true` with an equal output is allowed (dependants re-run).
`ValOK env C sp`: `C` ("well-formed value"; for the operators: `Canon` = every map is strictly sorted) is kept by `env.fn`,
`env.foldStep`, the machines' functions `sp g`, pairing, and holds of integers.

FRAGMENT (`MapOldH.WAction env C sp a`).  `create` of `const v`, `var v` (`C v`), `map f args` (`f < 1000003`; a user
function `f < fnZip` without side effects), `fold f init cs` (`C init`), `zip`, `mapWithOld g i` and the composite
`mapOp op` (conv → map_with_old → conv; for merge conv, conv → zip → map_with_old → conv) for a machine id in range
(`WId g`: `g < 400000` or `opBase ≤ g < opBase + 400000`) that satisfies the contract for `sp g`; operands name
top-level nodes; `observe` (top-level node), `cloneObs`, `dropObs`, `disallow`; `set`/`replace` (written value satisfies
`C`), `modify`, `update`, `replaceWith`, `get`; `stabilise`, `isStable`, `stats`.  NOT in the fragment: bind, map_ref,
expert nodes, custom cutoffs, effects, subscriptions, memoised calls, per-key operators, `dropVar`/`dropHandle`/`dropAll`,
`setMaxHeight`, faults.  Both `cfg.debug` settings.

METHOD (as `Props/C01MapRef.lean`).  `virt s`: every `mapWithOld g i` node becomes the static node
`map (woBase + enc g) [i]` (same stored value); `virtEnv env sp` interprets these ids as `sp g`.  The actual engine
SIMULATES the static engine on the virtual state (`Proofs/MapOld3…9, 15`) for everything except the recompute step of a
map_with_old node, whose effect on the virtual state is described directly by `Sched.StepRel` (`MapOld12`): the stored
output is `sp g` of the input's value by `GoodMachine.out`, and `did = false` leaves the stored value unchanged by
`GoodMachine.flag`.  A first run with `did = false` is handled by patching the virtual pre-state (`MapOld10`: pretending
the node already stored the value keeps `Sched.Inv`, because every parent of a valueless node is stale).
THE VALUE-LEVEL INVARIANT `MapOldH.MInv env C s`: stored node values, variable values and literals satisfy `C`; for every
map_with_old node `(closure state, stored output)` is a reachable machine state (`MReach`).  It is kept because nothing
but the node's own recompute writes `value`/`oldState` of a map_with_old node (frames `MapOld16, 17`; there is no
invalidation in the fragment).  This is the formal content of "the closure state is the state after running on the input
the node was last recomputed with": the contract quantifies over ALL reachable machine states, so a node that was
unobserved while its input changed several times, and then diffs against the input it LAST RAN ON, still outputs `spec`
of the current input; that it IS recomputed when re-observed follows from the staleness/scheduling invariants of the
virtual state (`Quiet.QInv`: non-stale nodes — necessary or not — are consistent with the current values of their inputs).

PROVED HERE (for the model; partial correctness: every statement assumes that the call returns `(.ok _, s')`).
W1, abstract machines.
* `recomputeOne_inv`, `drainHeap_values` (M1): the drain invariant `MapOldH.DInvW` through one step / the whole drain;
  afterwards every necessary node reads `evalW`.
* `stabilise_pending`, `stabilise_reads`, `action_keeps` (M2); `init_inv`, `history_inv`, `history_every_stabilise`
  (M3): every state of a history of the fragment satisfies `MapOldH.QInvW`; after every `stabilise` every in-use observer
  reads `MapOldH.evalW` (`mapWithOld g i ↦ sp g (evalW i)`) of its node on the current variable values, no necessary
  node is stale.
W2, the operator machines of `opWithOld` (`Proofs/MapOld26…29`).
* `operators_good`: every operator closure (`g ≥ opBase`: filter-map, the four flag combinations of the sum fold — whose
  `add`/`remove`/`update` satisfy the invertibility laws `UFoldLaws` of `Props/C15.lean` —, merge, partition) satisfies
  the contract for its non-incremental definition `opSpec d g` on canonical values; `identity_machines_good`: `echo`,
  `flag true` and undefined user machines compute the identity; `toEnv_closed : ValOK d.toEnv Canon (machSpec d)`.
  NOT a good machine: `sum` (its output depends on the history, not on the current input) and `flag false`.
* `mapop_history_every_stabilise`: the whole-history theorem for histories whose actions pass the decidable test
  `okAction d`.
* `filter_map_reads`, `fold_reads`, `partition_reads`, `merge_reads`: a history = prefix, creation of the operator over
  top-level variable(s), arbitrary further actions of the fragment (edits, observing, un-observing, …), a `stabilise`:
  after it every in-use observer of the operator's output node reads the operator's definition applied to the CURRENT
  value(s) of the variable(s).
W3, C17 for whole histories (`Proofs/MapOld30…34`).
* `operator_step`: in ANY state of a drain that satisfies the drain invariant, the recompute step of an operator node
  logs exactly the calls `opCalls d g σ old x` (then notification noise only), where `x` is the current value of its
  input and `(σ, old)` — closure state and stored output — is the state of a fresh node or `(x0, opSpec d g x0)` for the
  canonical input `x0` the operator LAST RAN ON.  `drain_steps`: every `recomputeOne` of a `drainHeap` that starts with the
  drain invariant (the drain of every `stabilise` of a history does: `stabilise_pending … .drain`) happens in such a state.
* `filter_map_step_calls`: hence a filter-map node that has run before calls the user function EXACTLY for the
  bindings `k ↦ v` of the current input that the input it last ran on did not hold (an `↔`; never for removed or
  untouched keys); `fold_step_calls`, `merge_step_calls`, `partition_step_calls`: every logged call names a key whose
  binding differs between the two inputs; `same_input_no_calls`: an operator re-run on the input it last ran on calls
  nothing.
* Non-vacuity (`decide +kernel`): `histFm` (filter-map and fold observed; input edited; filter-map un-observed; input
  edited twice; re-observed), `histMerge` (merge of two initially EMPTY maps — the first-run-`false` case —, edited,
  un-observed, both edited, re-observed; partition) run, pass `okAction`, and read the definitions' values.

ASSUMED / NOT PROVED.  Partial correctness throughout (no claim that histories of the fragment never panic).  Values:
every literal and written value must be `Canon` (sorted maps): `fnIdent` is the identity in the model while the Rust
harness converts into a `BTreeMap`, so for non-canonical map values model and implementation would disagree (FINDINGS
MF-1).  The history PARSER normalises map literals (`canonPairs`), and `parsed_values_canonical` proves that every parsed
value is `Canon`, so every parsed history meets the hypothesis; it remains a hypothesis for `Action` lists built by hand.
Machine ids outside `WId`, user function ids `≥ 1000003`, operands other than top-level names are outside the fragment.
The operators' input in the `*_reads` theorems is a variable (for other input nodes `reads_unary` gives `sp g` of the
from-scratch value of the input node).
W3 is proved per operator STEP of a reachable drain state, not as a statement about the whole event log of a `stabilise`
(`drain_steps` is the induction principle that connects the two: every `recomputeOne` of the drain of a `stabilise` of a
history happens in a state with `DInvW`); for fold/merge/partition only "every call names a differing key" (no
converse), for the fold not the logged accumulator strings.
-/
namespace IncrVerif.Props.C15History
open IncrVerif IncrVerif.Engine IncrVerif.Driver IncrVerif.MapOps IncrVerif.Proofs IncrVerif.Proofs.Sched
open IncrVerif.Proofs.Quiet IncrVerif.Proofs.MapOldH

/-! ## W1: abstract machines -/

/-- **M1, one `recomputeOne`.** On the current node `n` of the drain invariant a successful `recomputeOne`
re-establishes the invariant with the handed-over parent (if any) as the new current node. -/
theorem recomputeOne_inv {env : Env} {C : Val → Prop} {sp : Nat → Val → Val} {fuel n : Nat} {s s' : State}
    {r : Option Nat} (V : ValOK env C sp) (D : DInvW env C sp s (some n))
    (h : (recomputeOne env fuel n).run.run s = (.ok r, s')) :
    DInvW env C sp s' r ∧ Frame (virt s) (virt s') := by
  obtain ⟨D', f, -⟩ := recomputeOneW_inv V D h
  exact ⟨D', f.frame⟩

/-- **M1: the drain.** After a successful `drainHeap` from the drain invariant: the drain invariant, an empty heap,
unchanged variables, and every necessary node is still necessary, not stale, and READS its from-scratch value. -/
theorem drainHeap_values {env : Env} {C : Val → Prop} {sp : Nat → Val → Val} {fuel : Nat} {s s' : State}
    (V : ValOK env C sp) (D : DrainInvW env C sp s) (h : (drainHeap env fuel).run.run s = (.ok (), s')) :
    DrainInvW env C sp s' ∧ s'.rch.length = 0 ∧ s'.vars = s.vars ∧
      ∀ n, s.isNecessary n = true → ∀ k, (s.nodeD n).height.toNat < k →
        s'.isNecessary n = true ∧ s'.isStale n = false ∧ s'.value env n = evalW env sp s k n ∧
          (evalW env sp s k n).isSome = true := by
  obtain ⟨D', he, -, hv, hall⟩ := drainHeapW_values V D h
  exact ⟨D', he, hv, hall⟩

/-- **M2, `stabilise` with pending observers.** See `MapOldH.StabilisedW`: `inv : QInvW env C sp s'`, `virt` (the
conclusions of `C01History.stabilise_pending` for the virtual states), `values` (every necessary node is not stale and
READS `evalW`), `drain` (the drain starts and ends with the drain invariant of M1). -/
theorem stabilise_pending {env : Env} {C : Val → Prop} {sp : Nat → Val → Val} {fuel : Nat} {s s' : State}
    (V : ValOK env C sp) (Q : QInvW env C sp s) (h : (stabilise env fuel).run.run s = (.ok (), s')) :
    StabilisedW env C sp fuel s s' :=
  stabiliseW V Q h

/-- after a `stabilise` every in-use observer reads the from-scratch value of its node; no observer is pending; no
necessary node is stale -/
theorem stabilise_reads {env : Env} {C : Val → Prop} {sp : Nat → Val → Val} {fuel : Nat} {s s' : State}
    (V : ValOK env C sp) (Q : QInvW env C sp s) (h : (stabilise env fuel).run.run s = (.ok (), s')) :
    ReadsOKW env sp s' ∧ ObsSettled s' ∧ ∀ n, s'.isNecessary n = true → s'.isStale n = false :=
  stabilisedW_reads (stabiliseW V Q h)

/-- **M2.** Every API action of the fragment that returns keeps the invariant. -/
theorem action_keeps {env : Env} {C : Val → Prop} {sp : Nat → Val → Val} {s s' : State} {a : Action}
    {tokens : Array Nat} {r : String × Array Nat} (V : ValOK env C sp) (Q : QInvW env C sp s)
    (ha : WAction env C sp a) (h : (stepAction env a tokens).run.run s = (.ok r, s')) : QInvW env C sp s' :=
  stepW V Q ha h

/-- what the invariant consists of -/
theorem inv_parts {env : Env} {C : Val → Prop} {sp : Nat → Val → Val} {s : State} (Q : QInvW env C sp s) :
    WFrag env (Good env C sp) s ∧ QInv (virtEnv env sp) (virt s) ∧ MInv env C s := ⟨Q.frag, Q.q, Q.m⟩

theorem init_inv (env : Env) (C : Val → Prop) (sp : Nat → Val → Val) (maxHeight : Nat) (debug : Bool) :
    QInvW env C sp (State.init maxHeight debug) :=
  init_invW env C sp maxHeight debug

theorem history_inv {env : Env} {C : Val → Prop} {sp : Nat → Val → Val} {N : Nat} {d : Bool} {acts : List Action}
    {s : State} {tk : Array Nat} (V : ValOK env C sp) (ha : ∀ a, a ∈ acts → WAction env C sp a)
    (h : runActions env acts (State.init N d) #[] = .ok (s, tk)) : QInvW env C sp s :=
  historyW V ha h

/-- **M3 = W1.** At every `stabilise` of a history of actions of the fragment static + map_with_old (machines
satisfying the contract) that runs from the initial state: afterwards every observer in use reads the from-scratch
value `evalW` of its node (`mapWithOld g i ↦ sp g (evalW i)`), no necessary node is stale. -/
theorem history_every_stabilise {env : Env} {C : Val → Prop} {sp : Nat → Val → Val} {N : Nat} {d : Bool}
    {as bs : List Action} {s : State} {tk : Array Nat} (V : ValOK env C sp)
    (ha : ∀ a, a ∈ as ++ Action.stabilise :: bs → WAction env C sp a)
    (h : runActions env (as ++ Action.stabilise :: bs) (State.init N d) #[] = .ok (s, tk)) :
    ∃ s1 tk1 s2, runActions env as (State.init N d) #[] = .ok (s1, tk1) ∧ QInvW env C sp s1 ∧
      (stabilise env fuelDefault).run.run s1 = (.ok (), s2) ∧ QInvW env C sp s2 ∧
      ReadsOKW env sp s2 ∧ ObsSettled s2 ∧ (∀ n, s2.isNecessary n = true → s2.isStale n = false) ∧
      runActions env bs s2 tk1 = .ok (s, tk) := by
  obtain ⟨s1, tk1, s2, h1, Q1, h2, R, h3, h4, h5, h6⟩ := historyW_stabilise V ha h
  exact ⟨s1, tk1, s2, h1, Q1, h2, R.inv, h3, h4, h5, h6⟩

/-! ## W2: the operator machines -/

/-- **every operator closure satisfies the machine contract** for its non-incremental definition, on canonical values -/
theorem operators_good (d : Defs) (g : Nat) (hg : opBase ≤ g) : GoodMachine d.toEnv Canon g (opSpec d g) :=
  opGood d g hg

/-- the closure state of an operator is the input it last ran on, its stored output the definition of that input -/
theorem operator_states (d : Defs) (g : Nat) (hg : opBase ≤ g) (σ : Val) (old : Option Val)
    (h : MReach d.toEnv Canon g σ old) :
    (σ = .unit ∧ old = none) ∨ (Canon σ ∧ old = some (opSpec d g σ)) :=
  (opSt_iff d g σ old).1 (opReach d g hg σ old h)

theorem identity_machines_good (d : Defs) (g : Nat) (hg : g < opBase)
    (h : d.olds.lookup g = some .echo ∨ d.olds.lookup g = some (.flag true) ∨ d.olds.lookup g = none) :
    GoodMachine d.toEnv Canon g id :=
  echoGood d g hg h

theorem toEnv_closed (d : Defs) : ValOK d.toEnv Canon (machSpec d) := valOK_toEnv d

/-- what the operator ids of the `mapOp` instruction compute -/
theorem opSpec_table (d : Defs) (m : Nat) (x : Val) :
    (m < 100000 → opSpec d (opBase + m) x = .map (filterMapSpec (opFmFn (d.opParams m)) (asMap x))) ∧
    (m < 10000 → ∀ rev upd : Bool,
      opSpec d (opBase + 100000 + (if rev then 20000 else 0) + (if upd then 10000 else 0) + m) x =
        .int (ufoldSpecSum (opG (d.opParams m)) (d.opParams m).c (asMap x))) ∧
    (m < 100000 → ∀ a b, opSpec d (opBase + 200000 + m) (.pair a b) =
      .map (mergeSpec' (opMergeFn (d.opParams m)) (asMap a) (asMap b))) ∧
    (m < 100000 → opSpec d (opBase + 300000 + m) x =
      .pair (.map (partitionSpec (opPartFn (d.opParams m)) (asMap x)).1)
        (.map (partitionSpec (opPartFn (d.opParams m)) (asMap x)).2)) :=
  ⟨fun h => opSpec_fm d _ m (decodeOp_fm h) x, fun h rev upd => opSpec_fold d _ m rev upd (decodeOp_fold rev upd h) x,
   fun h a b => by rw [opSpec_merge d _ m (decodeOp_merge h)]; rfl, fun h => opSpec_part d _ m (decodeOp_part h) x⟩

/-- **W2: whole histories with map operators.** For a definitions table `d` and a history whose actions pass the
decidable test `okAction d`: at every `stabilise`, afterwards every observer in use reads `evalW` with
`mapWithOld g i ↦ machSpec d g (evalW i)` (`machSpec d g = opSpec d g` for operator closures). -/
theorem mapop_history_every_stabilise (d : Defs) {N : Nat} {dbg : Bool} {as bs : List Action} {s : State}
    {tk : Array Nat} (ha : ∀ a, a ∈ as ++ Action.stabilise :: bs → okAction d a = true)
    (h : runActions d.toEnv (as ++ Action.stabilise :: bs) (State.init N dbg) #[] = .ok (s, tk)) :
    ∃ s1 tk1 s2, runActions d.toEnv as (State.init N dbg) #[] = .ok (s1, tk1) ∧
      (stabilise d.toEnv fuelDefault).run.run s1 = (.ok (), s2) ∧ DInv d s2 ∧
      ReadsOKW d.toEnv (machSpec d) s2 ∧ ObsSettled s2 ∧ (∀ n, s2.isNecessary n = true → s2.isStale n = false) ∧
      runActions d.toEnv bs s2 tk1 = .ok (s, tk) := by
  obtain ⟨s1, tk1, s2, h1, -, h2, Q2, h3, h4, h5, h6⟩ :=
    history_every_stabilise (valOK_toEnv d) (fun a hm => okAction_sound (ha a hm)) h
  exact ⟨s1, tk1, s2, h1, h2, Q2, h3, h4, h5, h6⟩

/-- **C15, `incr_filter_mapi`.** History = `pre`; creation of the operator `M m` over the top-level variable `n_k`
(node `x`, cell `c`); arbitrary further actions `mid` of the fragment; a `stabilise`.  Then every in-use observer of the
operator's output node reads `filterMapSpec` of the CURRENT value of the variable. -/
theorem filter_map_reads {d : Defs} {N : Nat} {dbg : Bool} {pre mid : List Action} {s0 s1 sm s2 : State}
    {tk0 tkm : Array Nat} {r1 : String × Array Nat} {m k x c o : Nat} {ob : ObsRec} {vc : VarCell} (hm : m < 100000)
    (hpre : ∀ a, a ∈ pre → okAction d a = true) (hmid : ∀ a, a ∈ mid → okAction d a = true)
    (h0 : runActions d.toEnv pre (State.init N dbg) #[] = .ok (s0, tk0))
    (hk : s0.top[k]? = some x) (hx : (s0.nodeD x).kind = .var c)
    (h1 : (stepAction d.toEnv (.create (.mapOp (.fm m (.outer k)))) tk0).run.run s0 = (.ok r1, s1))
    (h2 : runActions d.toEnv mid s1 r1.2 = .ok (sm, tkm))
    (h3 : (stabilise d.toEnv fuelDefault).run.run sm = (.ok (), s2))
    (ho : s2.observers[o]? = some ob) (hu : ob.state = .inUse) (hon : ob.node = s0.nodes.size + 2)
    (hc : s2.vars[c]? = some vc) :
    s2.tryGetValue d.toEnv o = .ok (.map (filterMapSpec (opFmFn (d.opParams m)) (asMap vc.value))) :=
  fm_history_reads hm (fun a h => okAction_sound (hpre a h)) (fun a h => okAction_sound (hmid a h)) h0 hk hx h1 h2 h3
    ho hu hon hc

/-- **C15, `incr_unordered_fold`** (sum fold, every combination of revert-to-init and custom `update`). -/
theorem fold_reads {d : Defs} {N : Nat} {dbg : Bool} {pre mid : List Action} {s0 s1 sm s2 : State}
    {tk0 tkm : Array Nat} {r1 : String × Array Nat} {m k x c o : Nat} {ob : ObsRec} {vc : VarCell} {rev upd : Bool}
    (hm : m < 10000)
    (hpre : ∀ a, a ∈ pre → okAction d a = true) (hmid : ∀ a, a ∈ mid → okAction d a = true)
    (h0 : runActions d.toEnv pre (State.init N dbg) #[] = .ok (s0, tk0))
    (hk : s0.top[k]? = some x) (hx : (s0.nodeD x).kind = .var c)
    (h1 : (stepAction d.toEnv (.create (.mapOp (.fold m rev upd (.outer k)))) tk0).run.run s0 = (.ok r1, s1))
    (h2 : runActions d.toEnv mid s1 r1.2 = .ok (sm, tkm))
    (h3 : (stabilise d.toEnv fuelDefault).run.run sm = (.ok (), s2))
    (ho : s2.observers[o]? = some ob) (hu : ob.state = .inUse) (hon : ob.node = s0.nodes.size + 2)
    (hc : s2.vars[c]? = some vc) :
    s2.tryGetValue d.toEnv o = .ok (.int (ufoldSpecSum (opG (d.opParams m)) (d.opParams m).c (asMap vc.value))) :=
  fold_history_reads hm (fun a h => okAction_sound (hpre a h)) (fun a h => okAction_sound (hmid a h)) h0 hk hx h1 h2
    h3 ho hu hon hc

/-- **C15, `incr_partition_mapi`.** -/
theorem partition_reads {d : Defs} {N : Nat} {dbg : Bool} {pre mid : List Action} {s0 s1 sm s2 : State}
    {tk0 tkm : Array Nat} {r1 : String × Array Nat} {m k x c o : Nat} {ob : ObsRec} {vc : VarCell} (hm : m < 100000)
    (hpre : ∀ a, a ∈ pre → okAction d a = true) (hmid : ∀ a, a ∈ mid → okAction d a = true)
    (h0 : runActions d.toEnv pre (State.init N dbg) #[] = .ok (s0, tk0))
    (hk : s0.top[k]? = some x) (hx : (s0.nodeD x).kind = .var c)
    (h1 : (stepAction d.toEnv (.create (.mapOp (.part m (.outer k)))) tk0).run.run s0 = (.ok r1, s1))
    (h2 : runActions d.toEnv mid s1 r1.2 = .ok (sm, tkm))
    (h3 : (stabilise d.toEnv fuelDefault).run.run sm = (.ok (), s2))
    (ho : s2.observers[o]? = some ob) (hu : ob.state = .inUse) (hon : ob.node = s0.nodes.size + 2)
    (hc : s2.vars[c]? = some vc) :
    s2.tryGetValue d.toEnv o =
      .ok (.pair (.map (partitionSpec (opPartFn (d.opParams m)) (asMap vc.value)).1)
        (.map (partitionSpec (opPartFn (d.opParams m)) (asMap vc.value)).2)) :=
  part_history_reads hm (fun a h => okAction_sound (hpre a h)) (fun a h => okAction_sound (hmid a h)) h0 hk hx h1 h2
    h3 ho hu hon hc

/-- **C15, `incr_merge`** over two top-level variables (the `zip` input): the observer reads the key-wise merge
`mergeSpec'` of the CURRENT values of both. -/
theorem merge_reads {d : Defs} {N : Nat} {dbg : Bool} {pre mid : List Action} {s0 s1 sm s2 : State}
    {tk0 tkm : Array Nat} {r1 : String × Array Nat} {m kx ky x y cx cy o : Nat} {ob : ObsRec} {vx vy : VarCell}
    (hm : m < 100000)
    (hpre : ∀ a, a ∈ pre → okAction d a = true) (hmid : ∀ a, a ∈ mid → okAction d a = true)
    (h0 : runActions d.toEnv pre (State.init N dbg) #[] = .ok (s0, tk0))
    (hkx : s0.top[kx]? = some x) (hky : s0.top[ky]? = some y)
    (hx : (s0.nodeD x).kind = .var cx) (hy : (s0.nodeD y).kind = .var cy)
    (h1 : (stepAction d.toEnv (.create (.mapOp (.merge m (.outer kx) (.outer ky)))) tk0).run.run s0 = (.ok r1, s1))
    (h2 : runActions d.toEnv mid s1 r1.2 = .ok (sm, tkm))
    (h3 : (stabilise d.toEnv fuelDefault).run.run sm = (.ok (), s2))
    (ho : s2.observers[o]? = some ob) (hu : ob.state = .inUse) (hon : ob.node = s0.nodes.size + 4)
    (hcx : s2.vars[cx]? = some vx) (hcy : s2.vars[cy]? = some vy) :
    s2.tryGetValue d.toEnv o = .ok (.map (mergeSpec' (opMergeFn (d.opParams m)) (asMap vx.value) (asMap vy.value))) :=
  merge_history_reads hm (fun a h => okAction_sound (hpre a h)) (fun a h => okAction_sound (hmid a h)) h0 hkx hky hx hy
    h1 h2 h3 ho hu hon hcx hcy

/-- every value the history parser produces is canonical (map literals are sorted and duplicate-free), so the `Canon`
requirements of `okAction` hold for every parsed history -/
theorem parsed_values_canonical {str : String} {v : Val} (h : parseVal str = some v) : Canon v := parseVal_canon h

/-! ## W3: C17 at every operator step of a reachable drain state -/

/-- **C17, engine level.** The recompute step of an operator node `n` (input node `i`) in a state with the drain
invariant: the log grows by the `inv` events of exactly the calls `opCalls d g σ old x` (`callEvents`, most recent first)
and then by notification noise only; `x` is the current value of the input, `(σ, old)` the node's closure state and stored
output — the state of a fresh node, or `(x0, opSpec d g x0)` with `x0` the canonical input the operator last ran on. -/
theorem operator_step {d : Defs} {fuel n g i : Nat} {s s' : State} {r : Option Nat}
    (D : DInvW d.toEnv Canon (machSpec d) s (some n)) (hk : (s.nodeD n).kind = .mapWithOld g i)
    (hg : opBase ≤ g) (h : (recomputeOne d.toEnv fuel n).run.run s = (.ok r, s')) :
    ∃ x tail, (s.nodeD i).value = some x ∧ Canon x ∧
      s'.log = tail ++ callEvents n (opCalls d g (s.nodeD n).oldState (s.nodeD n).value x) ++ s.log ∧
      (∀ e, e ∈ tail → Step.Noise e) ∧
      (((s.nodeD n).oldState = .unit ∧ (s.nodeD n).value = none) ∨
        (Canon (s.nodeD n).oldState ∧ (s.nodeD n).value = some (opSpec d g (s.nodeD n).oldState))) :=
  operator_step_calls D hk hg h

/-- **every step of a drain happens in a state with the drain invariant**: a reflexive, transitive relation that holds
across every pop and across every `recomputeOne` on the current node of a state with `DInvW` holds across the whole
`drainHeap`.  (The drain of every `stabilise` of a history starts with the drain invariant: `StabilisedW.drain`.) -/
theorem drain_steps {env : Env} {C : Val → Prop} {sp : Nat → Val → Val} (V : ValOK env C sp)
    (P : State → State → Prop) (hrefl : ∀ s, P s s) (htrans : ∀ a b c, P a b → P b c → P a c)
    (hpop : ∀ s r s1, DInvW env C sp s none → rchRemoveMin.run.run s = (.ok r, s1) → P s s1)
    (hstep : ∀ s n fuel r s', DInvW env C sp s (some n) → (recomputeOne env fuel n).run.run s = (.ok r, s') → P s s')
    {fuel : Nat} {s s' : State} (D : DrainInvW env C sp s) (h : (drainHeap env fuel).run.run s = (.ok (), s')) :
    P s s' :=
  drain_steps_ind V P hrefl htrans hpop hstep fuel s s' D h

/-- **C17, `incr_filter_mapi`.** A filter-map node that has run before, recomputed in a state with the drain invariant,
logs one `M{m}.fn` call for EXACTLY the bindings `k ↦ v` of the CURRENT input `x` that the input `x0` it LAST RAN ON (its
closure state) did not hold. -/
theorem filter_map_step_calls {d : Defs} {fuel n g i m : Nat} {s s' : State} {r : Option Nat}
    (D : DInvW d.toEnv Canon (machSpec d) s (some n)) (hk : (s.nodeD n).kind = .mapWithOld g i) (hg : opBase ≤ g)
    (hd : decodeOp g = (.fm, m)) (hran : (s.nodeD n).value ≠ none)
    (h : (recomputeOne d.toEnv fuel n).run.run s = (.ok r, s')) :
    ∃ x x0 tail calls, (s.nodeD i).value = some x ∧ (s.nodeD n).oldState = x0 ∧
      s'.log = tail ++ callEvents n calls ++ s.log ∧ (∀ e, e ∈ tail → Step.Noise e) ∧
      ∀ c, c ∈ calls ↔ ∃ k v, c = (s!"M{m}.fn", [.int k, .int v], optStr (opFmFn (d.opParams m) k v)) ∧
        AMap.lookup (asMap x) k = some v ∧ AMap.lookup (asMap x0) k ≠ some v :=
  fm_step_calls D hk hg hd hran h

/-- **C17, the fold**: every logged call is an `add`/`remove`/`update` for a key whose binding differs between the
input the operator last ran on and the current input. -/
theorem fold_step_calls {d : Defs} {fuel n g i m : Nat} {rev upd : Bool} {s s' : State} {r : Option Nat}
    (D : DInvW d.toEnv Canon (machSpec d) s (some n)) (hk : (s.nodeD n).kind = .mapWithOld g i) (hg : opBase ≤ g)
    (hd : decodeOp g = (.fold rev upd, m)) (hran : (s.nodeD n).value ≠ none)
    (h : (recomputeOne d.toEnv fuel n).run.run s = (.ok r, s')) :
    ∃ x x0 tail calls, (s.nodeD i).value = some x ∧ (s.nodeD n).oldState = x0 ∧
      s'.log = tail ++ callEvents n calls ++ s.log ∧ (∀ e, e ∈ tail → Step.Noise e) ∧
      ∀ c, c ∈ calls → ∃ k rest, c.2.1 = .int k :: rest ∧ AMap.lookup (asMap x) k ≠ AMap.lookup (asMap x0) k ∧
        (c.1 = s!"M{m}.add" ∨ c.1 = s!"M{m}.remove" ∨ c.1 = s!"M{m}.update") :=
  MapOldH.fold_step_calls D hk hg hd hran h

/-- **C17, merge**: every logged call is a `merge` call for a key whose binding differs in the left or in the right
input (`mergeIn` splits the `zip` pair). -/
theorem merge_step_calls {d : Defs} {fuel n g i m : Nat} {s s' : State} {r : Option Nat}
    (D : DInvW d.toEnv Canon (machSpec d) s (some n)) (hk : (s.nodeD n).kind = .mapWithOld g i) (hg : opBase ≤ g)
    (hd : decodeOp g = (.merge, m)) (hran : (s.nodeD n).value ≠ none)
    (h : (recomputeOne d.toEnv fuel n).run.run s = (.ok r, s')) :
    ∃ x x0 tail calls, (s.nodeD i).value = some x ∧ (s.nodeD n).oldState = x0 ∧
      s'.log = tail ++ callEvents n calls ++ s.log ∧ (∀ e, e ∈ tail → Step.Noise e) ∧
      ∀ c, c ∈ calls → ∃ k, c.1 = s!"M{m}.merge" ∧ (∃ l rr, c.2.1 = [.int k, l, rr]) ∧
        (AMap.lookup (mergeIn x).1 k ≠ AMap.lookup (mergeIn x0).1 k ∨
          AMap.lookup (mergeIn x).2 k ≠ AMap.lookup (mergeIn x0).2 k) :=
  MapOldH.merge_step_calls D hk hg hd hran h

/-- **C17, partition**: every logged call is for a binding of the current input that the input last run on did not
hold. -/
theorem partition_step_calls {d : Defs} {fuel n g i m : Nat} {s s' : State} {r : Option Nat}
    (D : DInvW d.toEnv Canon (machSpec d) s (some n)) (hk : (s.nodeD n).kind = .mapWithOld g i) (hg : opBase ≤ g)
    (hd : decodeOp g = (.part, m)) (hran : (s.nodeD n).value ≠ none)
    (h : (recomputeOne d.toEnv fuel n).run.run s = (.ok r, s')) :
    ∃ x x0 tail calls, (s.nodeD i).value = some x ∧ (s.nodeD n).oldState = x0 ∧
      s'.log = tail ++ callEvents n calls ++ s.log ∧ (∀ e, e ∈ tail → Step.Noise e) ∧
      ∀ c, c ∈ calls → ∃ k v, c.1 = s!"M{m}.fn" ∧ c.2.1 = [.int k, .int v] ∧
        AMap.lookup (asMap x) k = some v ∧ AMap.lookup (asMap x0) k ≠ some v :=
  part_step_calls D hk hg hd hran h

/-- **C17: an unchanged input costs no call**, whatever the operator. -/
theorem same_input_no_calls {d : Defs} {fuel n g i : Nat} {s s' : State} {r : Option Nat}
    (D : DInvW d.toEnv Canon (machSpec d) s (some n)) (hk : (s.nodeD n).kind = .mapWithOld g i) (hg : opBase ≤ g)
    (hran : (s.nodeD n).value ≠ none) (hsame : (s.nodeD i).value = some (s.nodeD n).oldState)
    (h : (recomputeOne d.toEnv fuel n).run.run s = (.ok r, s')) :
    ∃ tail, s'.log = tail ++ s.log ∧ ∀ e, e ∈ tail → Step.Noise e :=
  MapOldH.same_input_no_calls D hk hg hran hsame h

/-! ## non-vacuity -/

/-- `mfn M0 1 0 2 1 2` -/
def exD : Defs := { mfns := [(0, [1, 0, 2, 1, 2])] }

/-- filter-map and (reverting) fold over `v0`, both observed; input edited; the filter-map
un-observed; input edited twice; the filter-map re-observed -/
def histFm : List Action :=
  [.create (.var (.map [(1, 3), (3, 0), (5, 3)])), .create (.mapOp (.fm 0 (.outer 0))),
   .create (.mapOp (.fold 0 true false (.outer 0))),
   .observe (.outer 1), .observe (.outer 2), .stabilise,
   .set 0 (.map [(1, 3), (2, 1), (5, 3)]), .stabilise,
   .disallow 0, .stabilise,
   .set 0 (.map [(2, 1)]), .stabilise,
   .set 0 (.map [(2, 2), (4, 1)]), .stabilise,
   .observe (.outer 1), .stabilise]

/-- merge of two initially EMPTY maps (the first run reports `did_change = false`), partition of the first; edited;
the merge un-observed; both inputs edited; re-observed -/
def histMerge : List Action :=
  [.create (.var (.map [])), .create (.var (.map [])), .create (.mapOp (.merge 0 (.outer 0) (.outer 1))),
   .create (.mapOp (.part 0 (.outer 0))),
   .observe (.outer 2), .observe (.outer 3), .stabilise,
   .set 0 (.map [(1, 2), (2, 2)]), .stabilise,
   .dropObs 0, .stabilise,
   .set 1 (.map [(2, 3), (7, 1)]), .stabilise,
   .set 0 (.map [(2, 4), (3, 0)]), .stabilise,
   .observe (.outer 2), .stabilise]

def ranOk (env : Env) (acts : List Action) : Bool :=
  match runActions env acts (State.init 128 true) #[] with
  | .ok _ => true
  | .error _ => false

/-- what observer `o` reads after the history -/
def readAfter (env : Env) (acts : List Action) (o : Nat) : Option Val :=
  match runActions env acts (State.init 128 true) #[] with
  | .ok (s, _) => match s.tryGetValue env o with | .ok v => some v | .error _ => none
  | .error _ => none

theorem ranOk_iff {env : Env} {acts : List Action} (h : ranOk env acts = true) :
    ∃ s tk, runActions env acts (State.init 128 true) #[] = .ok (s, tk) := by
  unfold ranOk at h
  rcases hx : runActions env acts (State.init 128 true) #[] with e | ⟨s, tk⟩
  · rw [hx] at h; cases h
  · exact ⟨s, tk, rfl⟩

/-- both histories are histories of the fragment -/
example : histFm.all (okAction exD) = true ∧ histMerge.all (okAction exD) = true := ⟨by decide, by decide⟩

set_option maxRecDepth 100000 in
/-- both histories run, so `mapop_history_every_stabilise` applies to each of their `stabilise`s, and their final
states satisfy the invariant -/
example : (∃ s tk, runActions exD.toEnv histFm (State.init 128 true) #[] = .ok (s, tk) ∧ DInv exD s) ∧
    (∃ s tk, runActions exD.toEnv histMerge (State.init 128 true) #[] = .ok (s, tk) ∧ DInv exD s) := by
  obtain ⟨s, tk, h⟩ := ranOk_iff (env := exD.toEnv) (acts := histFm) (by decide +kernel)
  obtain ⟨s', tk', h'⟩ := ranOk_iff (env := exD.toEnv) (acts := histMerge) (by decide +kernel)
  have ok1 : ∀ a, a ∈ histFm → WAction exD.toEnv Canon (machSpec exD) a := fun a ha =>
    okAction_sound (List.all_eq_true.1 (by decide : histFm.all (okAction exD) = true) a ha)
  have ok2 : ∀ a, a ∈ histMerge → WAction exD.toEnv Canon (machSpec exD) a := fun a ha =>
    okAction_sound (List.all_eq_true.1 (by decide : histMerge.all (okAction exD) = true) a ha)
  exact ⟨⟨s, tk, h, history_inv (valOK_toEnv exD) ok1 h⟩, ⟨s', tk', h', history_inv (valOK_toEnv exD) ok2 h'⟩⟩

set_option maxRecDepth 100000 in
/-- `histFm`: the re-observed filter-map (observer 2) reads `filterMapSpec` of the final input `{2:2,4:1}` = `{2:2}`
(it was unobserved while the input went `{1:3,2:1,5:3} → {2:1} → {2:2,4:1}`); the fold (observer 1) reads
`2 + 2 + 1 = 5` -/
example : readAfter exD.toEnv histFm 2 = some (.map (filterMapSpec (opFmFn (exD.opParams 0)) [(2, 2), (4, 1)])) ∧
    readAfter exD.toEnv histFm 2 = some (.map [(2, 2)]) ∧
    readAfter exD.toEnv histFm 1 = some (.int (ufoldSpecSum (opG (exD.opParams 0)) (exD.opParams 0).c [(2, 2), (4, 1)])) ∧
    readAfter exD.toEnv histFm 1 = some (.int 5) :=
  by decide +kernel

set_option maxRecDepth 100000 in
/-- `histMerge`: the re-observed merge (observer 2) reads `mergeSpec'` of the final inputs; the partition (observer 1)
reads `partitionSpec` of the final first input -/
example : readAfter exD.toEnv histMerge 2 =
      some (.map (mergeSpec' (opMergeFn (exD.opParams 0)) [(2, 4), (3, 0)] [(2, 3), (7, 1)])) ∧
    readAfter exD.toEnv histMerge 1 =
      some (.pair (.map (partitionSpec (opPartFn (exD.opParams 0)) [(2, 4), (3, 0)]).1)
        (.map (partitionSpec (opPartFn (exD.opParams 0)) [(2, 4), (3, 0)]).2)) :=
  by decide +kernel

/-- the user-function calls logged along a history, oldest first, rendered as in the trace -/
def logOf (env : Env) (acts : List Action) : List String :=
  match runActions env acts (State.init 128 true) #[] with
  | .ok (s, _) => s.log.reverse.map Event.render
  | .error _ => []

set_option maxRecDepth 100000 in
/-- W3 on `histFm`: when the filter-map node `n2` is re-observed it last ran on `{1:3,2:1,5:3}`, the input then went
`{2:1}` and `{2:2,4:1}` while it was unobserved: its last step calls the user function for the bindings `2 ↦ 2` (changed
with respect to the input it LAST RAN ON) and `4 ↦ 1` (new) only — not for the removed keys 1 and 5, and the
intermediate input `{2:1}` plays no role.  (16 calls in the whole history.) -/
example : (logOf exD.toEnv histFm).length = 16 ∧
    (logOf exD.toEnv histFm).drop 14 = ["inv M0.fn@n2 (2,2)->2", "inv M0.fn@n2 (4,1)->()"] :=
  by decide +kernel

end IncrVerif.Props.C15History
