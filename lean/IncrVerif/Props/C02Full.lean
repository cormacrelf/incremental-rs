import IncrVerif.Proofs.OnceF4
import IncrVerif.Proofs.OnceF6
import IncrVerif.Proofs.OnceF7
import IncrVerif.Proofs.OnceF10
import IncrVerif.Proofs.OnceF13
/-!
# C02 (glitch-freedom: at most once per `stabilise`, on final inputs) for the COMBINED fragment of `C01Full`

Property C02: *within a single `stabilise` call every node is evaluated at most once (its map, bind or map_with_old function runs once, its fold function makes a single
pass), and the argument values the function receives are the values its inputs have at the end of that `stabilise`.*

`Props/C02` proves the LOCAL part (one `recomputeOne` stamps the node, invokes the node's function exactly once on the values the inputs have at that moment, leaves the node
not stale); `C01Global`/`C01History` (static), `C03Order` (binds), `C17History` (map_ref / map_with_old, one extension each) prove "no node runs twice".  This file proves the
GLOBAL part for the combined fragment of `Props/C01Full`.

## THE FRAGMENT (exactly the one of `C01Full`: `FullH.HistFull env sp 0 acts`, `FullH.EnvS env sp`, `FullH.FirstFn env`)
binds (incl. nested, any depth) + `map_ref` (chains) + `map_with_old` (machines with the contract `FullH.Good`) + `depend_on` + the `cutoff n never/eq` action + the static
core (`const`, `var`, pure `map` 1…6, `zip`, `fold`), observers created / cloned / dropped / disallowed, the five variable writes, in any interleaving.  See the header of
`Props/C01Full.lean` for the precise definitions and for what is NOT in the fragment (user cutoffs, `cutoff` inside closures, incremental-map operators, expert nodes, effects, …).

## PROVED HERE (for the model, both `cfg.debug` settings; partial correctness: each statement assumes that the call / the history returns `.ok`)

The observable is the model's own: `Sched.drainTrace env fuel t2` = the list of nodes on which `drainHeap env fuel`, started in `t2`, invokes `recomputeOne` (pops and
direct-recompute chains, in order), and `TidyH.drainSteps env fuel t2` = the same list with the state each call starts in (`drainSteps_fst`: first components = `drainTrace`).
`t2` is THE state in which the drain of the `stabilise` in question starts: it is tied to the run by the four phase equations (`stabilise` = status := stabilising;
`addNewObservers`; `unlinkDisallowedObservers`; `drainHeap`; `stabiliseEnd`).

* (a) AT MOST ONCE — `drain_once` (a successful `drainHeap` from the drain invariant `FullH.DInvF`), `stabilise_once` (a successful `stabilise` from the invariant between API
  actions `QInvFE`, which holds in every state a history of the fragment reaches: `C01Full.history_inv`), `history_c02` (at every `stabilise` of every history of the fragment
  run from `State.init N d`) — `OnceF.OnceStab env fuel s s'`:
  - `(drainTrace env fuel t2).Nodup`: NO NODE IS HANDED TO `recomputeOne` TWICE;
  - no node carries the stamp of this round when the drain starts (`∀ m, (t2.nodeD m).recomputedAt < s.stabNum`), every node of the trace carries it in the final state
    (`(s'.nodeD m).recomputedAt = s.stabNum`) and IS STILL VALID there: no node of a generation that a bind's change detector invalidates during this `stabilise` was run in
    it, neither before nor after the change detector;
  - at the moment a node is handed to `recomputeOne` (`p ∈ drainSteps`: node `p.1`, state `p.2`) it is necessary, valid, not in the recompute heap, not yet stamped
    (`recomputedAt < s.stabNum`), and the round number is still `s.stabNum`.
  With the local step theorems of `Props/C02` (`step_map_invokes_once`: one `recomputeOne` = one invocation of the node's function) this is "every node function runs at most
  once per `stabilise`".
* (b) FINAL INPUTS — `stabilise_final_inputs` (from `C01Full.StabF.fresh`), part of `stabilise_c02` / `history_c02` — `OnceF.FinalInputs s'`: in the final state every necessary
  node is valid, not stale, HAS been computed (`recomputedAt ≠ -1`; a `var` node: not before the last write of its cell) and NONE OF ITS CHILDREN CHANGED AFTER IT LAST RAN:
  `changedAt(child) ≤ recomputedAt(node)` for every `child ∈ s'.children node` (the model's `try_fold_children`: map/fold arguments, the input of a map_ref / map_with_old node,
  the lhs of a change detector, the change detector and the CURRENT rhs of a bind's main node).  So the values the node's function received when it last ran (`Props/C02`: the
  values the inputs had at that moment) are the values of inputs that did not change since — for a node that did not run in this round as well as for one that did (its inputs'
  `changedAt` are `≤` the stamp of this round, and by (a) the node did not run a second time).
* (b') INPUTS BEFORE OUTPUTS — `stabilise_order`, `history_order` — `OnceF.OrderStab env fuel s s'`: in the list of steps of the drain (`drainSteps env fuel t2`, same `t2`),
  whenever a step `p` comes before a step `q` (`List.Pairwise`), the node of `q` is NOT A STABLE CHILD of the node of `p`: `OnceF.SKid p.2 p.1 c` = `c ∈ p.2.children p.1` (the child
  list in the state in which `p.1` was handed to `recomputeOne`), except the CURRENT RHS of a bind's main node (kept: every argument of a map / fold, the input of a map_ref /
  map_with_old node, the lhs of a change detector, the change detector of a main node).  So no such input of a node is recomputed after the node in the same `stabilise`.
* (b'') FINAL INPUTS, VALUE FORM — `stabilise_inputs`, `history_inputs` — `OnceF.InputsStab env fuel s s'`: for every step `p` of the drain (node `p.1` handed to `recomputeOne` in state
  `p.2`) and every stable child `c` of `p.1` in `p.2`: `c` is an existing node of `p.2`, and THE VALUE `c` STORES IN THE FINAL STATE `s'` IS THE VALUE IT STORED WHEN `p.1` RAN
  (`(s'.nodeD c).value = (p.2.nodeD c).value`), unless it stores nothing at the end (`(s'.nodeD c).value = none`: `invalidate_node` erased it because `c` was invalidated later in
  this drain — or it stored nothing when `p.1` ran either: a map_ref node never stores a value).  For a
  child that is not a map_ref node the stored value is what `recomputeOne` reads (`valueUnwrap` = `State.value` = the `value` field of a valid non-map_ref node), so: the arguments
  a node's function received from its stable, non-map_ref inputs are the values these inputs hold at the end of the `stabilise` (if they still hold one).  `recomputeOne_value_frame`: the
  frame behind it, for every kind of node and every outcome of the call.
* NON-VACUITY (kernel-checked): the theorem applies at each of the seven `stabilise`s of `C01Full`'s example history `exHistF` (bind whose closure builds a map_ref chain, two
  `map_with_old` machines, a nested bind) and at each of the five of `exHistG` (`depend_on`, `cutoff never`); the drain traces of these twelve `stabilise`s are computed by the
  kernel (`exHistF_traces`, `exHistG_traces`): e.g. the first round of `exHistF` runs 14 distinct nodes, the round after writing only the third component of the pair variable runs
  `[0, 5, 12, 13, 10, 11, 4]` (the map_ref node 5 runs, its projection is unchanged and its parents 6, 7 do NOT run), the round in which the lhs flips runs `[1, 3, 14, 4]`
  (no node of the dying generation 5…13).  (b') and (b'') apply at the same twelve `stabilise`s (`exHistF_order`, `exHistF_inputs`, …); the child lists of the first generation of
  `exHistF` are kernel-checked (`exHistF_children`), so `SKid` is not vacuous there.

## METHOD (`Proofs/OnceF1…13`)
A returning drain from `FullH.DInvF` is a path of pops and steps between configurations (ghost, state) (`FullH.PathF`, `FullH.drain_pathF`: an instance of `Drain.Path`; the ghost
of the invariant changes from step to step), along `drainSteps`; every statement below about the trace is read off this path.  `OnceF2`, at most once: a node that runs has `recomputedAt < stabNum` (`BindH.DInv.cur_facts` of the virtual state), `= stabNum` and valid afterwards
(`FullH.recomputeOne_full`), and the progress frame `BindH.FrameB` of the virtual states keeps stamp and validity of a node stamped in this round; `virt` changes neither
stamps nor validity nor necessity.  `OnceF3`: the prefix of `FullH.stabilise_full` with `drain_pathF` in place of `drainHeap_full`.  `OnceF1`: unfolding of `State.isStale`.
`OnceF8…10` (order): a node that ran keeps stamp and validity (`FrameB.ran`), existing nodes keep their kind and bind records their lhs (`NestH.N7k.BKey`, kept by every engine
function), so the edge to a stable child still exists when a later step runs, and `BindH.DInv.fresh` (nothing above the current node has run in this round) excludes that the later
step is on that child.
`OnceF11…13` (values; `OnceF11` = the frame, `OnceF12`, `13` = the composition): THE VALUE FRAME `OnceF.VR n` — one `recomputeOne env fuel n` changes the stored value of no other existing node except to erase it — is kept by every function
reachable from `recomputeOne env fuel n`, for ALL kinds of nodes and every outcome (every primitive write of the engine keeps it, `Proofs/Footprint`: the only writes of a `value` field are
`maybe_change_value` and the map_ref / map_with_old branches on the node itself, `invalidate_node` (`none`), node creation); composed along the steps after `p`, none of which is on
`c` by (b') and acyclicity.

## ASSUMED / NOT PROVED HERE
* Partial correctness here (as `C01Full`; total correctness of the fragment: `C04Full`).  Everything `C01Full` lists as outside the fragment is outside here.
* (b'') speaks about the `value` FIELD of the children: for a map_ref child (which stores nothing and is read through: `State.value` follows the chain to the first non-map_ref
  node) it says nothing; that the node a chain ends in does not run later either follows from `DInv.fresh` (which is about all descendants) but is not stated here.  (b') and (b'') do
  NOT cover the edge from a bind's main node to its CURRENT right-hand side (it is re-pointed by the change detector's run; that the rhs cannot be re-pointed after the main node ran
  follows informally from (b') for the change detector, but the frame fact "the `rhs` field changes only in the change detector's own step" is not proved here).  NOT proved either:
  that a node stamped in this round is in the trace (converse of (a)'s second clause).  The link "arguments received = `value` fields of the children at the moment of the call" is the
  local theorem `Props/C02.step_map_invokes_once` (the `inv` event carries these values), not re-proved here for every kind.
* The number of function invocations per `recomputeOne` (exactly one `inv` event; a fold makes one pass) is the local theorem of `Props/C02`, proved there for the kinds of
  `Step.Computes`; it is not re-proved here for change detectors and map_ref nodes (which invoke the closure once / no user function).
-/
namespace IncrVerif.Props.C02Full
open IncrVerif.Engine IncrVerif.Driver IncrVerif.Proofs IncrVerif.Proofs.Sched IncrVerif.Proofs.TidyH IncrVerif.Proofs.FullH IncrVerif.Proofs.OnceF

/-- **(a) the drain.** From the drain invariant of the combined fragment a successful `drainHeap` hands no node to `recomputeOne` twice; each node of the trace was not stamped
before (virtual state = actual stamps), is stamped and still valid at the end (`BindH.RanOnceB`); every call happens in a state satisfying the drain invariant with that node as the
current node; the invariant holds at the end (for new ghost values) and the heap is empty. -/
theorem drain_once {env : Env} {sp : Nat → Val → Val} (E : EnvS env sp) (hF : FirstFn env) {fuel : Nat} {t s s' : State} {g : Nat → Option Val}
    (D : DInvF env sp t s g none) (h : (drainHeap env fuel).run.run s = (.ok (), s')) :
    ∃ g', DInvF env sp t s' g' none ∧ s'.rch.length = 0 ∧
      (drainTrace env fuel s).Nodup ∧
      (∀ m, m ∈ drainTrace env fuel s → BindH.RanOnceB (virt g s) (virt g' s') m) ∧
      (drainSteps env fuel s).map (·.1) = drainTrace env fuel s ∧
      ∀ p, p ∈ drainSteps env fuel s → ∃ gp, DInvF env sp t p.2 gp (some p.1) := by
  obtain ⟨g', D', he, P⟩ := drain_pathF (kit E hF) fuel t s s' g D h
  have hfst := drainSteps_fst env fuel s
  obtain ⟨hnd, honce⟩ := PathF.once P D.inv.stamps
  refine ⟨g', D', he, by rw [← hfst]; exact hnd, fun m hm => honce m (by rw [hfst]; exact hm), hfst, fun p hp => ?_⟩
  obtain ⟨gp, a, -⟩ := PathF.steps P hp
  exact ⟨gp, a⟩

/-- **(a) AT MOST ONCE PER `stabilise`.** From the invariant between API actions: `OnceStab` (see the header; unfold with `OnceF.OnceStab`). -/
theorem stabilise_once {env : Env} {sp : Nat → Val → Val} (E : EnvS env sp) (hF : FirstFn env) {fuel : Nat} {s s' : State} (Q : QInvFE env sp s)
    (h : (stabilise env fuel).run.run s = (.ok (), s')) :
    ∃ t1 t2 t3,
      (addNewObservers env fuel).run.run { s with status := .stabilising } = (.ok (), t1) ∧
      (unlinkDisallowedObservers fuel).run.run t1 = (.ok (), t2) ∧
      (drainHeap env fuel).run.run t2 = (.ok (), t3) ∧ (stabiliseEnd env fuel).run.run t3 = (.ok (), s') ∧
      (drainTrace env fuel t2).Nodup ∧
      (∀ m, m ∈ drainTrace env fuel t2 →
        (t2.nodeD m).recomputedAt < s.stabNum ∧ (s'.nodeD m).recomputedAt = s.stabNum ∧ (s'.nodeD m).valid = true) ∧
      (drainSteps env fuel t2).map (·.1) = drainTrace env fuel t2 ∧
      (∀ p, p ∈ drainSteps env fuel t2 →
        p.2.isNecessary p.1 = true ∧ (p.2.nodeD p.1).valid = true ∧ (p.2.nodeD p.1).inRch = false ∧
          (p.2.nodeD p.1).recomputedAt < s.stabNum ∧ p.2.stabNum = s.stabNum) ∧
      (∀ m, (t2.nodeD m).recomputedAt < s.stabNum) :=
  (OnceF.stabilise_c02 E hF Q h).1

/-- **(b) FINAL INPUTS.** What `stabilise` establishes (`C01Full.stabilise_full`) implies: every necessary node is valid, not stale, computed, and no child changed after the node
last ran. -/
theorem stabilise_final_inputs {env : Env} {sp : Nat → Val → Val} {s s' : State} {g' : Nat → Option Val} (R : StabF env sp s s' g') :
    ∀ n, s'.isNecessary n = true →
      (s'.nodeD n).valid = true ∧ s'.isStale n = false ∧
      (∀ c, c ∈ s'.children n → (s'.nodeD c).changedAt ≤ (s'.nodeD n).recomputedAt) ∧
      ((∀ c, (s'.nodeD n).kind ≠ .var c) → (s'.nodeD n).recomputedAt ≠ -1) ∧
      (∀ c vc, (s'.nodeD n).kind = .var c → s'.vars[c]? = some vc → vc.setAt ≤ (s'.nodeD n).recomputedAt) :=
  stabF_finalInputs R

/-- **C02 for one `stabilise` of the combined fragment**: (a), (b), and the invariant again. -/
theorem stabilise_c02 {env : Env} {sp : Nat → Val → Val} (E : EnvS env sp) (hF : FirstFn env) {fuel : Nat} {s s' : State} (Q : QInvFE env sp s)
    (h : (stabilise env fuel).run.run s = (.ok (), s')) : OnceStab env fuel s s' ∧ FinalInputs s' ∧ QInvFE env sp s' :=
  OnceF.stabilise_c02 E hF Q h

/-- **C02 AT EVERY `stabilise` OF EVERY HISTORY OF THE COMBINED FRAGMENT** run from the initial state. -/
theorem history_c02 {env : Env} {sp : Nat → Val → Val} (E : EnvS env sp) (hF : FirstFn env) {N : Nat} {d : Bool} {as bs : List Action}
    {s : State} {tk : Array Nat} (hH : HistFull env sp 0 (as ++ Action.stabilise :: bs))
    (h : Quiet.runActions env (as ++ Action.stabilise :: bs) (State.init N d) #[] = .ok (s, tk)) :
    ∃ s1 tk1 s2, Quiet.runActions env as (State.init N d) #[] = .ok (s1, tk1) ∧ QInvFE env sp s1 ∧
      (stabilise env fuelDefault).run.run s1 = (.ok (), s2) ∧ QInvFE env sp s2 ∧
      OnceStab env fuelDefault s1 s2 ∧ FinalInputs s2 ∧
      Quiet.runActions env bs s2 tk1 = .ok (s, tk) :=
  OnceF.history_c02 E hF hH h

/-- **(b') INPUTS BEFORE OUTPUTS.** In the drain of a `stabilise` from the invariant between API actions, no stable child (`OnceF.SKid`: any child except the current rhs of a bind's
main node, taken in the state in which the parent ran) of a node is handed to `recomputeOne` after the node. -/
theorem stabilise_order {env : Env} {sp : Nat → Val → Val} (E : EnvS env sp) (hF : FirstFn env) {fuel : Nat} {s s' : State} (Q : QInvFE env sp s)
    (h : (stabilise env fuel).run.run s = (.ok (), s')) :
    ∃ t1 t2 t3,
      (addNewObservers env fuel).run.run { s with status := .stabilising } = (.ok (), t1) ∧
      (unlinkDisallowedObservers fuel).run.run t1 = (.ok (), t2) ∧
      (drainHeap env fuel).run.run t2 = (.ok (), t3) ∧ (stabiliseEnd env fuel).run.run t3 = (.ok (), s') ∧
      (drainSteps env fuel t2).Pairwise fun p q =>
        ∀ c, (c ∈ p.2.children p.1 ∧ ∀ b lc, (p.2.nodeD p.1).kind = .bindMain b lc → c = lc) → q.1 ≠ c :=
  stabilise_orderF E hF Q h

/-- (b') at every `stabilise` of every history of the combined fragment -/
theorem history_order {env : Env} {sp : Nat → Val → Val} (E : EnvS env sp) (hF : FirstFn env) {N : Nat} {d : Bool} {as bs : List Action}
    {s : State} {tk : Array Nat} (hH : HistFull env sp 0 (as ++ Action.stabilise :: bs))
    (h : Quiet.runActions env (as ++ Action.stabilise :: bs) (State.init N d) #[] = .ok (s, tk)) :
    ∃ s1 tk1 s2, Quiet.runActions env as (State.init N d) #[] = .ok (s1, tk1) ∧
      (stabilise env fuelDefault).run.run s1 = (.ok (), s2) ∧ OrderStab env fuelDefault s1 s2 ∧
      Quiet.runActions env bs s2 tk1 = .ok (s, tk) :=
  history_orderF E hF hH h

/-- **(b'') FINAL INPUTS, VALUE FORM.** For every step of the drain of a `stabilise` from the invariant between API actions: every stable child of the node that runs exists, and stores in
the final state the value it stored when the node ran (or nothing). -/
theorem stabilise_inputs {env : Env} {sp : Nat → Val → Val} (E : EnvS env sp) (hF : FirstFn env) {fuel : Nat} {s s' : State} (Q : QInvFE env sp s)
    (h : (stabilise env fuel).run.run s = (.ok (), s')) :
    ∃ t1 t2 t3,
      (addNewObservers env fuel).run.run { s with status := .stabilising } = (.ok (), t1) ∧
      (unlinkDisallowedObservers fuel).run.run t1 = (.ok (), t2) ∧
      (drainHeap env fuel).run.run t2 = (.ok (), t3) ∧ (stabiliseEnd env fuel).run.run t3 = (.ok (), s') ∧
      ∀ p, p ∈ drainSteps env fuel t2 →
        ∀ c, (c ∈ p.2.children p.1 ∧ ∀ b lc, (p.2.nodeD p.1).kind = .bindMain b lc → c = lc) →
          c < p.2.nodes.size ∧ ((s'.nodeD c).value = (p.2.nodeD c).value ∨ (s'.nodeD c).value = none) :=
  stabilise_inputsF E hF Q h

/-- (b'') at every `stabilise` of every history of the combined fragment -/
theorem history_inputs {env : Env} {sp : Nat → Val → Val} (E : EnvS env sp) (hF : FirstFn env) {N : Nat} {d : Bool} {as bs : List Action}
    {s : State} {tk : Array Nat} (hH : HistFull env sp 0 (as ++ Action.stabilise :: bs))
    (h : Quiet.runActions env (as ++ Action.stabilise :: bs) (State.init N d) #[] = .ok (s, tk)) :
    ∃ s1 tk1 s2, Quiet.runActions env as (State.init N d) #[] = .ok (s1, tk1) ∧
      (stabilise env fuelDefault).run.run s1 = (.ok (), s2) ∧ InputsStab env fuelDefault s1 s2 ∧
      Quiet.runActions env bs s2 tk1 = .ok (s, tk) :=
  history_inputsF E hF hH h

/-- the value frame behind (b''): whatever its outcome, a call `recomputeOne env fuel n` — any kind of node, also outside the fragment — leaves every other existing node with the value it
stored, or with none -/
theorem recomputeOne_value_frame (env : Env) (fuel n : Nat) (s : State) (r : Except Panic (Option Nat)) (s' : State)
    (h : (recomputeOne env fuel n).run.run s = (r, s')) :
    s.nodes.size ≤ s'.nodes.size ∧
      ∀ m, m ≠ n → m < s.nodes.size → (s'.nodeD m).value = (s.nodeD m).value ∨ (s'.nodeD m).value = none :=
  ⟨((PresV.recomputeOne env fuel n).h s r s' h).size, ((PresV.recomputeOne env fuel n).h s r s' h).value⟩

/-! ## non-vacuity -/

/-- the hypotheses hold for the example history `exHistF` of `C01Full` (environment, fragment, it runs), so C02 holds at each of its seven `stabilise`s -/
example : EnvS fEnv fSp ∧ FirstFn fEnv ∧ HistFull fEnv fSp 0 exHistF ∧
    (∃ s tk, Quiet.runActions fEnv exHistF (State.init 128 true) #[] = .ok (s, tk)) ∧
    (∀ {as bs : List Action}, exHistF = as ++ Action.stabilise :: bs →
      ∃ s tk s1 tk1 s2, Quiet.runActions fEnv exHistF (State.init 128 true) #[] = .ok (s, tk) ∧
        Quiet.runActions fEnv as (State.init 128 true) #[] = .ok (s1, tk1) ∧
        (stabilise fEnv fuelDefault).run.run s1 = (.ok (), s2) ∧
        OnceStab fEnv fuelDefault s1 s2 ∧ FinalInputs s2 ∧
        Quiet.runActions fEnv bs s2 tk1 = .ok (s, tk)) :=
  ⟨fEnv_envS, fEnv_first, exHistF_frag, exHistF_runs, fun e => exHistF_c02 e⟩

/-- the same for `exHistG` (`depend_on`, `cutoff n never`) -/
example : HistFull fEnv fSp 0 exHistG ∧
    (∀ {as bs : List Action}, exHistG = as ++ Action.stabilise :: bs →
      ∃ s tk s1 tk1 s2, Quiet.runActions fEnv exHistG (State.init 128 true) #[] = .ok (s, tk) ∧
        Quiet.runActions fEnv as (State.init 128 true) #[] = .ok (s1, tk1) ∧
        (stabilise fEnv fuelDefault).run.run s1 = (.ok (), s2) ∧
        OnceStab fEnv fuelDefault s1 s2 ∧ FinalInputs s2 ∧
        Quiet.runActions fEnv bs s2 tk1 = .ok (s, tk)) :=
  ⟨exHistG_frag, fun e => exHistG_c02 e⟩

/-- the drain traces (`EX.traceAfter acts` = `drainTrace` of the state `t2` of the `stabilise` that follows `acts`) of the seven `stabilise`s of `exHistF`, kernel-checked: 14
distinct nodes in the first round; only the third component of the pair variable written — the map_ref node 5 runs, its parents 6, 7 do not; first component written — 5, 6, 7
run; the lhs flips — `[1, 3, 14, 4]`, no node of the dying generation 5…13; nothing observed — nothing runs; re-observed — a fresh generation -/
example :
    EX.traceAfter (exHistF.take 5) = some [1, 3, 0, 2, 9, 5, 6, 12, 7, 13, 8, 10, 11, 4] ∧
    EX.traceAfter (exHistF.take 7) = some [0, 5, 12, 13, 10, 11, 4] ∧
    EX.traceAfter (exHistF.take 9) = some [0, 5, 6, 7, 12, 8, 11, 4] ∧
    EX.traceAfter (exHistF.take 11) = some [1, 3, 14, 4] ∧
    EX.traceAfter (exHistF.take 13) = some [] ∧
    EX.traceAfter (exHistF.take 18) = some [1, 3, 0, 2, 15, 19, 16, 22, 17, 20, 18, 21, 4] ∧
    EX.traceAfter (exHistF.take 20) = some [2, 19, 23, 24, 18, 20, 21, 4] :=
  exHistF_traces

/-- the drain traces of the five `stabilise`s of `exHistG`, kernel-checked -/
example :
    EX.traceAfter (exHistG.take 10) = some [1, 2, 3, 0, 6, 12, 7, 8, 15, 9, 10, 16, 11, 13, 14, 4, 5] ∧
    EX.traceAfter (exHistG.take 12) = some [2, 6, 12, 17, 18, 11, 13, 14, 4, 5] ∧
    EX.traceAfter (exHistG.take 15) = some [2, 6, 12, 7, 19, 20, 11, 13, 14, 4, 5] ∧
    EX.traceAfter (exHistG.take 17) = some [1, 3, 6, 21, 7, 4, 5] ∧
    EX.traceAfter (exHistG.take 19) = some [2, 6, 7, 5] :=
  exHistG_traces

/-- (b') holds at every `stabilise` of `exHistF` and of `exHistG`; the child lists of the first generation of `exHistF` (kernel-checked) are not empty: the map_ref chain `6 → 5 → 0`,
the machine `7 → 6`, `8 → [7, 2]`, the inner change detector `9 → 2`, the inner main node `10 → [9, 13]`, `11 → [8, 10]`, the outer main node `4 → [3, 11]` — and in the trace
`[1, 3, 0, 2, 9, 5, 6, 12, 7, 13, 8, 10, 11, 4]` of the first round each of them runs after its children -/
example : (∀ {as bs : List Action}, exHistF = as ++ Action.stabilise :: bs →
      ∃ s tk s1 tk1 s2, Quiet.runActions fEnv exHistF (State.init 128 true) #[] = .ok (s, tk) ∧
        Quiet.runActions fEnv as (State.init 128 true) #[] = .ok (s1, tk1) ∧
        (stabilise fEnv fuelDefault).run.run s1 = (.ok (), s2) ∧ OrderStab fEnv fuelDefault s1 s2 ∧
        Quiet.runActions fEnv bs s2 tk1 = .ok (s, tk)) ∧
    (∀ {as bs : List Action}, exHistG = as ++ Action.stabilise :: bs →
      ∃ s tk s1 tk1 s2, Quiet.runActions fEnv exHistG (State.init 128 true) #[] = .ok (s, tk) ∧
        Quiet.runActions fEnv as (State.init 128 true) #[] = .ok (s1, tk1) ∧
        (stabilise fEnv fuelDefault).run.run s1 = (.ok (), s2) ∧ OrderStab fEnv fuelDefault s1 s2 ∧
        Quiet.runActions fEnv bs s2 tk1 = .ok (s, tk)) ∧
    (BindH.C2h.stateB fEnv (exHistF.take 6)).map (fun s => [4, 5, 6, 7, 8, 9, 10, 11].map s.children) =
      some [[3, 11], [0], [5], [6], [7, 2], [2], [9, 13], [8, 10]] :=
  ⟨fun e => exHistF_order e, fun e => exHistG_order e, exHistF_children⟩

/-- (b'') holds at every `stabilise` of `exHistF` and of `exHistG` -/
example : (∀ {as bs : List Action}, exHistF = as ++ Action.stabilise :: bs →
      ∃ s tk s1 tk1 s2, Quiet.runActions fEnv exHistF (State.init 128 true) #[] = .ok (s, tk) ∧
        Quiet.runActions fEnv as (State.init 128 true) #[] = .ok (s1, tk1) ∧
        (stabilise fEnv fuelDefault).run.run s1 = (.ok (), s2) ∧ InputsStab fEnv fuelDefault s1 s2 ∧
        Quiet.runActions fEnv bs s2 tk1 = .ok (s, tk)) ∧
    (∀ {as bs : List Action}, exHistG = as ++ Action.stabilise :: bs →
      ∃ s tk s1 tk1 s2, Quiet.runActions fEnv exHistG (State.init 128 true) #[] = .ok (s, tk) ∧
        Quiet.runActions fEnv as (State.init 128 true) #[] = .ok (s1, tk1) ∧
        (stabilise fEnv fuelDefault).run.run s1 = (.ok (), s2) ∧ InputsStab fEnv fuelDefault s1 s2 ∧
        Quiet.runActions fEnv bs s2 tk1 = .ok (s, tk)) :=
  ⟨fun e => exHistF_inputs e, fun e => exHistG_inputs e⟩

end IncrVerif.Props.C02Full
