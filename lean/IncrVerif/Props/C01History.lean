import IncrVerif.Proofs.Quiet28
/-!
# C01/C02/C05/C06/C11 for whole histories of static programs

What `Props/C01Global.lean` lists as "not proved" — that states BUILT THROUGH THE API satisfy the quiescent
invariant, and `stabilise` with pending observers — is proved here for the static fragment.

FRAGMENT.  Programs whose API actions are (`Quiet.StaticAction env a`):
`create` of `const`, `var`, `map f args` (`f < fnPerKey`; a user function `f < fnZip` has no side effects:
`∀ vals, env.fnEff f vals = []`), `fold`, `zip`, with operands naming existing top-level nodes (`.outer k`);
`observe` (of a top-level node), `cloneObs`, `dropObs`, `disallow`; `set`, `modify`, `update`, `replace`,
`replaceWith`, `get`; `stabilise`, `isStable`, `stats`.  NOT in the fragment: bind, map_ref, map_with_old,
expert nodes, `dependOn`/custom cutoffs, memoised calls, subscriptions/handlers, effects, `dropVar`, `dropHandle`,
`dropAll`, `setMaxHeight`, faults (`arm`).  Nothing is assumed about `cfg.debug` or the height limit.

DEFINITIONS.
* `Quiet.AllStatic env s`, `Quiet.GInv env s op`, `Quiet.Struct env s`, `Quiet.VarsOK s` (`Proofs/Quiet1.lean`):
  the structural invariant, with a labelling `op` of the nodes as `.closed`, `.linking k` (inside
  `becameNecessary`, exactly the first `k` child edges recorded) or `.unlinking k` (inside `becameUnnecessary`,
  exactly the child edges from index `k` on still recorded); `Struct := GInv … (fun _ => .closed)`:
  every node valid/static/default cutoff/top-level/children created earlier; a recorded parent entry
  `(p, i) ∈ parents c` is a real child edge of a NECESSARY `p`, and every child edge of a necessary node is
  recorded (both directions, with indices); no duplicate parent entries; `height child < height parent` along
  recorded edges; necessary nodes have height `≥ 0`; the recompute heap is well-formed (`HeapWF`), lower bound
  `≥ 0` and below every queued node, a queued node sits in the bucket of its height, and the heap holds EXACTLY the
  necessary stale nodes.  (Unnecessary nodes have no recorded parents by definition of `isNecessary`.)
* `Quiet.ObsInv`/`ObsOK` (`Proofs/Quiet9.lean`): the observer list of a node = the in-use/disallowed observers of
  that node; created observers are in `newObservers`, disallowed ones exactly in `disallowedObservers`
  (no duplicates); no observer has update handlers.
* `Quiet.QInv env s` (the invariant between API actions, `Proofs/Quiet9.lean`): `Struct`, `VarsOK`, `ObsOK`, all
  node stamps from earlier rounds, `setAt ≤ stabNum`, EVERY non-stale node (necessary or not) is
  `Sched.Consistent` with its children, status `notStabilising`, engine alive, nothing deferred
  (`setDuringStab`, `deadVars`, `handleAfterStab`, `propagateInvalidity` empty, no update handlers), the naming
  table `top` names existing nodes.  `QInv.quiet : QInv env s → Sched.QuietInv env s`.
* `Quiet.runActions env acts s tokens`: fold of `stepAction`, stopping at the first panic.
* `Quiet.Stabilised env fuel s s'`, `Quiet.ReadsOK`, `Quiet.ObsSettled`, `Quiet.InCone` (below).

PROVED (for the model; partial correctness: each statement assumes that the call returns `(.ok _, s')`).
* G1 `becameNecessary_keeps`, `checkIfUnnecessary_keeps`: the two mutually recursive cascades keep the structural
  invariant (heights are computed bottom-up by the linking cascade; `adjustHeights` is never called in the
  fragment); `create_keeps`; `struct_graph`.
* G2 `stabilise_pending`: from `QInv` with ARBITRARY pending new/disallowed observers, a successful `stabilise`
  ends in `QInv` with both lists empty, variables unchanged, every necessary node non-stale and equal (stored
  value and observer read) to `Sched.eval`, created observers now in use, disallowed ones unlinked; the state in
  which `drainHeap` starts satisfies `Sched.DrainInv` (newly necessary nodes are stale hence queued; nodes that
  became unnecessary were removed from the heap), the drain runs no node twice and only nodes that are necessary.
  `stabilise_reads`: then every in-use observer `o` reads `tryGetValue = .ok v` with
  `eval env s' k (node of o) = some v`, and every observer is in use or unlinked.
* G3 `action_keeps`: every static API action that returns keeps `QInv`.
* G4 `init_inv`, `history_inv`, `history_every_state`, `history_every_stabilise`: every state reached from
  `State.init maxHeight debug` by a history of static actions satisfies `QInv`; at every `stabilise` of the history
  all conclusions of G2 hold; `necessary_iff_cone`: necessary ⟺ reachable through child edges from the node of a
  linked observer (C05's cone; after a `stabilise`: of an observer in use).
* Non-vacuity: the history `exHist` (var, var, map2, observe, stabilise, set, stabilise, disallow, stabilise) is
  static, runs, and its reads after the first two stabilises are `1 + 2` and `5 + 2`.

* TOTAL CORRECTNESS / C04 for the fragment (`Proofs/Quiet20.lean` … `Quiet28.lean`).  `Quiet.TInv N s`: closed
  necessary nodes have `height ≤ creation index + 1`, both heaps have `maxAllowed = N`, at most `N` nodes, every var
  cell is linked, `top` names every node, the pending new observers are duplicate-free and each still `created` or
  already `unlinked`.  `Quiet.ActionOK N s a`: the action names existing things (operands `< top.size`, observer
  `< observers.size` for dropObs/disallow, var `< vars.size`), a `create` leaves `nodes.size + 1 ≤ N`, a `stabilise`
  has `3 * nodes.size + 4 ≤ fuelDefault`.  `Quiet.ValidHist N nn nv no acts`: the same along a history, computed from
  the numbers of nodes/var cells/observers.
  `becameNecessary_returns`, `checkIfUnnecessary_returns`: the cascades return (no `assert!`/`debug_assert!` fails
  whatever `cfg.debug` is, the height limit is not hit, fuel `2n+2` resp. `3c+3` suffices);
  `stabilise_returns`; `action_returns` (every static action that is `ActionOK` returns and keeps `QInv`, `TInv`);
  `history_never_panics`: a valid history of static actions runs without panic from `State.init N debug`;
  `valid_history_stabilise`: hence at each of its `stabilise`s all conclusions of G2/G4 hold unconditionally.

ASSUMED / NOT PROVED.  The partial-correctness theorems (G1–G4) assume that the call returns; the total-correctness
theorems remove that assumption for valid histories (`ValidHist`: existing indices, at most `N = maxHeight` nodes,
`3 * nodes + 4 ≤ fuelDefault = 100000`).  Histories with dangling indices (a `set` on a var that does not exist, …)
panic in the model with a `model:` site and are outside `ValidHist`.  The fragment excludes everything listed above;
nothing is claimed for histories that leave it.
-/
namespace IncrVerif.Props.C01History
open IncrVerif.Engine IncrVerif.Driver IncrVerif.Proofs IncrVerif.Proofs.Sched IncrVerif.Proofs.Quiet

/-! ## G1: structure -/

/-- `Struct` and `VarsOK` give the structural hypotheses of the scheduling theorem. -/
theorem struct_graph {env : Env} {s : State} (S : Struct env s) (V : VarsOK s) :
    Graph env s ∧ HeapInv s ∧
      ∀ m, (s.nodeD m).inRch = true ↔ (s.isNecessary m = true ∧ s.isStale m = true) :=
  ⟨S.graph V, S.heapInv, S.queued_iff⟩

/-- the invariant between actions implies the quiescent invariant of `Props/C01Global.lean` -/
theorem inv_quiet {env : Env} {s : State} (Q : QInv env s) : QuietInv env s := Q.quiet

/-- **The linking cascade keeps the structure.** `n` has just become necessary (label `.linking 0`: no child
edge recorded yet), its recorded parents are all open, no open node is below it: a successful
`becameNecessary n` closes `n`; nodes with a larger index are untouched; parent lists only grew; necessary nodes
other than `n` kept their heights. -/
theorem becameNecessary_keeps {env : Env} {fuel n : Nat} {s s' : State} {op : Nat → Op}
    (h : (becameNecessary env fuel n).run.run s = (.ok (), s')) (I : GInv env s op)
    (hop : op n = .linking 0) (hlow : ∀ m, op m ≠ .closed → n ≤ m)
    (hpar : ∀ p i, (p, i) ∈ (s.nodeD n).parents → op p ≠ .closed) :
    GInv env s' (upd op n .closed) ∧ Above n s s' ∧ LRel (· = n) s s' :=
  becameNecessary_spec h I hop hlow hpar

/-- **The unlinking cascade keeps the structure.** `c` is closed and still necessary, or has just become
unnecessary (label `.unlinking 0`: all its child edges still recorded). -/
theorem checkIfUnnecessary_keeps {env : Env} {fuel c : Nat} {s s' : State} {op : Nat → Op}
    (h : (checkIfUnnecessary fuel c).run.run s = (.ok (), s')) (I : GInv env s op)
    (hlow : ∀ m, op m ≠ .closed → c ≤ m)
    (hcase : (s.isNecessary c = true ∧ op c = .closed) ∨ (s.isNecessary c = false ∧ op c = .unlinking 0)) :
    GInv env s' (upd op c .closed) ∧ Above c s s' ∧ URel s s' :=
  checkIfUnnecessary_spec h I hlow hcase

/-- the two loops at the start of `stabilise` -/
theorem addNewObservers_keeps {env : Env} {fuel : Nat} {s s' : State}
    (I : SInv env s s.newObservers s.disallowedObservers)
    (h : (addNewObservers env fuel).run.run s = (.ok (), s')) :
    SInv env s' [] s'.disallowedObservers ∧ s'.newObservers = [] ∧
      s'.disallowedObservers = s.disallowedObservers ∧ PFrame s s' ∧ ObsMap addedState s s' ∧
      (∀ m, s.isNecessary m = true → s'.isNecessary m = true) :=
  addNewObservers_s I h

theorem unlinkDisallowedObservers_keeps {env : Env} {fuel : Nat} {s s' : State}
    (I : SInv env s [] s.disallowedObservers) (hn : s.newObservers = [])
    (h : (unlinkDisallowedObservers fuel).run.run s = (.ok (), s')) :
    SInv env s' [] [] ∧ s'.newObservers = [] ∧ s'.disallowedObservers = [] ∧ PFrame s s' ∧
      ObsMap unlinkedState s s' :=
  unlinkDisallowedObservers_s I hn h

/-- node creation keeps the invariant -/
theorem create_keeps {env : Env} {s s' : State} {i : Instr} {tokens : Array Nat} {r : String × Array Nat}
    (Q : QInv env s) (hi : StaticInstr env i)
    (h : (stepAction env (.create i) tokens).run.run s = (.ok r, s')) : QInv env s' :=
  step_create Q hi h

/-- a write outside `stabilise` keeps the invariant -/
theorem writeVar_keeps {env : Env} {s s' : State} {v : Nat} {f : Val → Val} {isSet : Bool} {r : Val}
    (Q : QInv env s) (h : (writeVar v f isSet).run.run s = (.ok r, s')) :
    QInv env s' ∧ ∃ vc, s.vars[v]? = some vc ∧ r = vc.value ∧
      s'.vars[v]? = some { vc with value := f vc.value, setAt := s.stabNum } ∧
      (∀ w, w ≠ v → s'.vars[w]? = s.vars[w]?) :=
  writeVar_q Q h

/-! ## G2: `stabilise` with pending observers -/

/-- **G2.** See `Quiet.Stabilised` for the fields: `inv : QInv env s'`, `newObservers`/`disallowedObservers`
empty, `vars`, `stabNum`, `size`, `kind` unchanged resp. bumped, `obs : ObsMap stabilisedState s s'`
(created ↦ in use, disallowed ↦ unlinked), `values` (every necessary node: valid, not stale, stored value and
observer read `= eval env s' k n`, which exists), `drain` (the state in which `drainHeap` starts satisfies
`DrainInv`, has the final necessity, the initial variables; `drainTrace` has no duplicates, its nodes are
necessary and are stamped exactly in this round). -/
theorem stabilise_pending {env : Env} {fuel : Nat} {s s' : State} (Q : QInv env s)
    (h : (stabilise env fuel).run.run s = (.ok (), s')) : Stabilised env fuel s s' :=
  stabilise_q Q h

/-- after a `stabilise` every in-use observer reads the from-scratch value of its node; no observer is pending -/
theorem stabilise_reads {env : Env} {fuel : Nat} {s s' : State} (Q : QInv env s)
    (h : (stabilise env fuel).run.run s = (.ok (), s')) :
    (∀ (o : Nat) (ob : ObsRec), s'.observers[o]? = some ob → ob.state = .inUse →
      ∀ k, (s'.nodeD ob.node).height.toNat < k →
        ∃ v, s'.tryGetValue env o = .ok v ∧ eval env s' k ob.node = some v) ∧
    (∀ (o : Nat) (ob : ObsRec), s'.observers[o]? = some ob → ob.state = .inUse ∨ ob.state = .unlinked) :=
  stabilised_reads (stabilise_q Q h)

/-! ## G3: every static action keeps the invariant -/

theorem action_keeps {env : Env} {s s' : State} {a : Action} {tokens : Array Nat} {r : String × Array Nat}
    (Q : QInv env s) (ha : StaticAction env a)
    (h : (stepAction env a tokens).run.run s = (.ok r, s')) : QInv env s' :=
  step_q Q ha h

/-! ## G4: whole histories -/

theorem init_inv (env : Env) (maxHeight : Nat) (debug : Bool) : QInv env (State.init maxHeight debug) :=
  qinv_init env maxHeight debug

theorem history_inv {env : Env} {N : Nat} {d : Bool} {acts : List Action} {s : State} {tk : Array Nat}
    (ha : ∀ a, a ∈ acts → StaticAction env a)
    (h : runActions env acts (State.init N d) #[] = .ok (s, tk)) : QInv env s :=
  history_q ha h

/-- every state reached by a prefix of the history satisfies the invariant -/
theorem history_every_state {env : Env} {N : Nat} {d : Bool} {as bs : List Action} {s : State}
    {tk : Array Nat} (ha : ∀ a, a ∈ as ++ bs → StaticAction env a)
    (h : runActions env (as ++ bs) (State.init N d) #[] = .ok (s, tk)) :
    ∃ s1 tk1, runActions env as (State.init N d) #[] = .ok (s1, tk1) ∧ QInv env s1 ∧
      runActions env bs s1 tk1 = .ok (s, tk) :=
  history_prefix ha h

/-- at every `stabilise` of the history: G2, the reads, and the cone -/
theorem history_every_stabilise {env : Env} {N : Nat} {d : Bool} {as bs : List Action} {s : State}
    {tk : Array Nat} (ha : ∀ a, a ∈ as ++ Action.stabilise :: bs → StaticAction env a)
    (h : runActions env (as ++ Action.stabilise :: bs) (State.init N d) #[] = .ok (s, tk)) :
    ∃ s1 tk1 s2, runActions env as (State.init N d) #[] = .ok (s1, tk1) ∧ QInv env s1 ∧
      (stabilise env fuelDefault).run.run s1 = (.ok (), s2) ∧ Stabilised env fuelDefault s1 s2 ∧
      ReadsOK env s2 ∧ ObsSettled s2 ∧ (∀ n, s2.isNecessary n = true ↔ InCone s2 n) ∧
      runActions env bs s2 tk1 = .ok (s, tk) :=
  history_stabilise ha h

/-- **C05 cone.** necessary ⟺ reachable through child edges from the node of a linked observer -/
theorem necessary_iff_cone {env : Env} {s : State} (Q : QInv env s) (n : Nat) :
    s.isNecessary n = true ↔ InCone s n := Q.nec_iff_cone n

/-- in particular: a node function ran in a `stabilise` only if its node is in the cone of an observer that is
in use after the `stabilise` (and at most once) -/
theorem ran_only_in_cone {env : Env} {fuel : Nat} {s s' : State} (Q : QInv env s)
    (h : (stabilise env fuel).run.run s = (.ok (), s')) :
    ∃ t t3, DrainInv env t ∧ (drainHeap env fuel).run.run t = (.ok (), t3) ∧
      (drainTrace env fuel t).Nodup ∧
      ∀ m, m ∈ drainTrace env fuel t →
        ∃ (o : Nat) (ob : ObsRec), s'.observers[o]? = some ob ∧ ob.state = .inUse ∧ Reach s' ob.node m := by
  have R := stabilise_q Q h
  obtain ⟨t, t3, D, hd, -, -, -, -, hnd, hall⟩ := R.drain
  refine ⟨t, t3, D, hd, hnd, fun m hm => ?_⟩
  obtain ⟨o, ob, ho, hst, hr⟩ := (R.inv.nec_iff_cone m).1 (hall m hm).1
  rcases hst with hst | hst
  · exact ⟨o, ob, ho, hst, hr⟩
  · rcases (stabilised_reads R).2 o ob ho with h1 | h1 <;> rw [h1] at hst <;> cases hst

/-! ## total correctness: C04 for the fragment -/

/-- the linking cascade returns -/
theorem becameNecessary_returns {env : Env} {N fuel n : Nat} {s : State} {op : Nat → Op}
    (I : GInv env s op) (hb : HBo s op) (R : Room N s)
    (hop : op n = .linking 0) (hlow : ∀ m, op m ≠ .closed → n ≤ m)
    (hpar : ∀ p i, (p, i) ∈ (s.nodeD n).parents → op p ≠ .closed) (hf : 2 * n + 2 ≤ fuel) :
    Tot (becameNecessary env fuel n) s (fun _ s' => HBo s' (upd op n .closed)) :=
  becameNecessary_total I hb R hop hlow hpar hf

/-- the unlinking cascade returns -/
theorem checkIfUnnecessary_returns {env : Env} {fuel c : Nat} {s : State} {op : Nat → Op}
    (I : GInv env s op) (hb : HBo s op) (hlow : ∀ m, op m ≠ .closed → c ≤ m)
    (hcase : (s.isNecessary c = true ∧ op c = .closed) ∨ (s.isNecessary c = false ∧ op c = .unlinking 0))
    (hf : 3 * c + 3 ≤ fuel) :
    Tot (checkIfUnnecessary fuel c) s (fun _ s' => HBo s' (upd op c .closed)) :=
  checkIfUnnecessary_total I hb hlow hcase hf

/-- `stabilise` returns (pending observers allowed), and by `stabilise_pending` all of G2 holds for the result -/
theorem stabilise_returns {env : Env} {N fuel : Nat} {s : State} (Q : QInv env s) (T : TInv N s)
    (hf : 3 * s.nodes.size + 4 ≤ fuel) :
    ∃ s', (stabilise env fuel).run.run s = (.ok (), s') ∧ TInv N s' ∧ Stabilised env fuel s s' := by
  obtain ⟨_, s', h, T'⟩ := stabilise_total_q (env := env) Q T hf
  exact ⟨s', h, T', stabilise_q Q h⟩

/-- **G3, total.** Every static API action whose indices exist returns, and keeps both invariants. -/
theorem action_returns {env : Env} {N : Nat} {s : State} {a : Action} {tk : Array Nat}
    (Q : QInv env s) (T : TInv N s) (ha : StaticAction env a) (hok : ActionOK N s a) :
    ∃ r s', (stepAction env a tk).run.run s = (.ok r, s') ∧ r.2 = tk ∧ QInv env s' ∧ TInv N s' ∧
      Grown a s s' :=
  step_total Q T ha hok

theorem init_tinv (N : Nat) (d : Bool) : TInv N (State.init N d) := tinv_init N d

/-- **C04 for the fragment.** A valid history of static actions never panics. -/
theorem history_never_panics {env : Env} {N : Nat} {d : Bool} {acts : List Action}
    (ha : ∀ a, a ∈ acts → StaticAction env a) (hv : ValidHist N 0 0 0 acts) :
    ∃ s', runActions env acts (State.init N d) #[] = .ok (s', #[]) ∧ QInv env s' ∧ TInv N s' :=
  history_total ha hv

/-- hence, unconditionally: at every `stabilise` of a valid history of static actions, G2 and G4 hold -/
theorem valid_history_stabilise {env : Env} {N : Nat} {d : Bool} {as bs : List Action}
    (ha : ∀ a, a ∈ as ++ Action.stabilise :: bs → StaticAction env a)
    (hv : ValidHist N 0 0 0 (as ++ Action.stabilise :: bs)) :
    ∃ s1 tk1 s2 s, runActions env as (State.init N d) #[] = .ok (s1, tk1) ∧ QInv env s1 ∧
      (stabilise env fuelDefault).run.run s1 = (.ok (), s2) ∧ Stabilised env fuelDefault s1 s2 ∧
      ReadsOK env s2 ∧ ObsSettled s2 ∧ (∀ n, s2.isNecessary n = true ↔ InCone s2 n) ∧
      runActions env bs s2 tk1 = .ok (s, #[]) ∧ QInv env s := by
  obtain ⟨s, h, Q, -⟩ := history_total (env := env) (d := d) ha hv
  obtain ⟨s1, tk1, s2, h1, Q1, h2, R, h3, h4, h5, h6⟩ := history_stabilise ha h
  exact ⟨s1, tk1, s2, s, h1, Q1, h2, R, h3, h4, h5, h6, Q⟩

/-! ## non-vacuity -/

/-- var, var, map2, observe, stabilise, set, stabilise, disallow, stabilise -/
def exHist : List Action :=
  [.create (.var (.int 1)), .create (.var (.int 2)), .create (.map 0 [.outer 0, .outer 1]),
   .observe (.outer 2), .stabilise, .set 0 (.int 5), .stabilise, .disallow 0, .stabilise]

theorem exHist_static : ∀ a, a ∈ exHist → StaticAction Step.exEnv a := by
  intro a ha
  simp only [exHist, List.mem_cons, List.mem_nil_iff, or_false] at ha
  rcases ha with rfl | rfl | rfl | rfl | rfl | rfl | rfl | rfl | rfl
  all_goals first
    | trivial
    | (refine ⟨by decide, fun _ _ => rfl, ?_⟩
       intro a ha
       simp only [List.mem_cons, List.mem_nil_iff, or_false] at ha
       rcases ha with rfl | rfl <;> trivial)

theorem exHist_valid : ValidHist 128 0 0 0 exHist := by
  simp only [exHist, ValidHist, ActionOKc, grow, fuelDefault]
  refine ⟨⟨trivial, by decide⟩, ⟨trivial, by decide⟩, ⟨?_, by decide⟩, ⟨2, rfl, by decide⟩, by decide, by decide,
    by decide, by decide, by decide, trivial⟩
  intro a ha
  simp only [List.mem_cons, List.mem_nil_iff, or_false] at ha
  rcases ha with rfl | rfl
  · exact ⟨0, rfl, by decide⟩
  · exact ⟨1, rfl, by decide⟩

/-- the example history is valid, so it never panics (proved, not computed) and `valid_history_stabilise` applies -/
example : ∃ s', runActions Step.exEnv exHist (State.init 128 true) #[] = .ok (s', #[]) ∧
    QInv Step.exEnv s' ∧ TInv 128 s' :=
  history_never_panics exHist_static exHist_valid

/-- did the history run? -/
def ranOk (env : Env) (acts : List Action) : Bool :=
  match runActions env acts (State.init 128 true) #[] with
  | .ok _ => true
  | .error _ => false

/-- what observer `o` reads after the history -/
def readAfter (env : Env) (acts : List Action) (o : Nat) : Option Val :=
  match runActions env acts (State.init 128 true) #[] with
  | .ok (s, _) => match s.tryGetValue env o with | .ok v => some v | .error _ => none
  | .error _ => none

theorem ranOk_iff {env : Env} {acts : List Action} (h : ranOk env acts = true) :
    ∃ s tk, runActions env acts (State.init 128 true) #[] = .ok (s, tk) := by
  unfold ranOk at h
  rcases hx : runActions env acts (State.init 128 true) #[] with e | ⟨s, tk⟩
  · rw [hx] at h; cases h
  · exact ⟨s, tk, rfl⟩

set_option maxRecDepth 100000 in
/-- the example history runs (so `history_every_stabilise` applies to each of its three `stabilise`s) and the
final state satisfies the invariant -/
example : ∃ s tk, runActions Step.exEnv exHist (State.init 128 true) #[] = .ok (s, tk) ∧ QInv Step.exEnv s := by
  obtain ⟨s, tk, h⟩ := ranOk_iff (env := Step.exEnv) (acts := exHist) (by decide +kernel)
  exact ⟨s, tk, h, history_inv exHist_static h⟩

set_option maxRecDepth 100000 in
/-- the reads after the first and the second `stabilise`, and after the observer was disallowed and unlinked -/
example : readAfter Step.exEnv (exHist.take 5) 0 = some (.int 3) ∧
    readAfter Step.exEnv (exHist.take 7) 0 = some (.int 7) ∧
    readAfter Step.exEnv exHist 0 = none :=
  by decide +kernel

end IncrVerif.Props.C01History
