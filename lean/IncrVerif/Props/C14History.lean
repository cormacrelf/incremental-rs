import IncrVerif.Proofs.ExpertH70
import IncrVerif.Proofs.ExpertH54
/-!
# C14 for whole histories — expert nodes with dynamically added dependencies (fragment X1)

C14 (informal): "an expert node with dynamically added and removed dependencies behaves like the equivalent static
node: after every stabilise its value is its recompute function applied to the current values of its current
dependencies; an edge callback is invoked for a dependency exactly when …; make_stale forces exactly one recompute …".
`Props/C14.lean` has the LOCAL facts (one API call each).  Here: the VALUE clause for whole histories.

FRAGMENT X1 (`ExpertH.XActionOK env s a`, `ExpertH.RunOK env acts s tk`).  Static programs (as in
`Props/C01History.lean`: `create` of `const`, `var`, pure `map`, `fold` with id `< xBase = 1000000`, `zip`, over
top-level operands; `observe`, `cloneObs`, `dropObs`, `disallow`; the five writes, `get`; `stabilise`, `isStable`,
`stats`) PLUS `create (expert f)` for closures `f` that are "sum of the dependencies' values modulo m"
(`ExpertH.XEnvOK env f`; `toEnv_sumdeps`: the harness' `expert sumdeps m`, i.e. `f = 10 * m`, is one; `f < xBase`) PLUS
the top-level action `addDep e c cb` (with or without callback), executed BETWEEN stabilisations, under the
well-formedness condition `ExpertH.AddDepOK s e c`: `e` names an expert node and the new edge closes no cycle
(`¬ Below s c n`: `c` does not depend on `e` in the current graph).  Everything else is allowed: dependencies that are
NEWER than the expert node, the same child added several times, children that are expert nodes themselves, children
that are unobserved / never computed (they become necessary at once: `becameNecessary` cascade outside a stabilise),
children HIGHER than the expert node (`adjustHeights` raises the expert node and everything above it), maps and
observers on top of expert nodes, unobserving and re-observing.  The action language has no top-level removal
(`Run.lean`); removal exists only as an effect of node functions (`xRm`, E3 below).  Both `cfg.debug` settings.

METHOD.  (1) `virt s` (`Proofs/ExpertH1.lean`): the VIRTUAL STATIC STATE — every expert node `expert e` is replaced by
the static node `fold (xBase + er.f) (.int 0) [c1, …, ck]` over the CURRENT dependency list of its record, with
`recomputedAt := -1` ("never computed") while the record's `forceStale` flag is up; the expert records are erased and
the events only expert nodes produce are filtered out of the log.  Parents, heights, `changedAt`, values, heap,
staleness and necessity are the same in `s` and `virt s`.  (2) The engine running on `s` SIMULATES the engine running on
`virt s` (`ExpertH23…31`: `Sim`), for every function except the recompute of an expert node (whose effect on the virtual
state is `Sched.StepRel`, `ExpertH39`), `create (expert f)` (`ExpertH50`) and `addDep` (`ExpertH44…48`).  (3) Because an
expert node may get a NEWER node as a child, the invariants of the static fragment (`Quiet1…19`, `MapRef17`) are
proved with an abstract injective RANK `rk` in place of the creation order (`ExpertH3…22`, namespace
`ExpertH.QR`; `adjustHeights`: `ExpertH36…38`); `addDep` may change the rank (`RankOK.addEdge`: a new edge that closes no
cycle admits a rank).

INVARIANT between API actions, `ExpertH.QInvX env rk s`: `XFrag env s` (kinds of the fragment, all nodes valid, expert
nodes and records name each other, records are user-defined, count NO invalid children and have "sum" closures);
`QR.QInv (virtEnv env) rk (virt s)` — the quiescent invariant of the static fragment for the virtual state, which says
in terms of `s`: the expert's edge list is mirrored in the children's `parents` with the right indices (duplicates on one
child allowed) exactly when the expert node is necessary, heights strictly increase along recorded edges, the recompute
heap holds exactly the necessary stale nodes (`forceStale` counts as stale), EVERY non-stale node (necessary or not)
stores its function of its children's values, nothing deferred; and the adjust-heights heap is empty (`QR.AhhEmpty`).

PROVED (for the model; partial correctness: each statement assumes that the call returns `(.ok _, s')`).
* `addDep_keeps`: `addDep` under `AddDepOK` keeps the invariant — on an unnecessary expert node only the record changes;
  on a NECESSARY one the child is linked at once (cascade), heights are adjusted through the expert's own parents, the
  node is queued exactly once.  `create_expert_keeps`, `static_action_keeps`, `action_keeps` (every action of X1).
* `stabilise_pending`: from the invariant with ARBITRARY pending observers a successful `stabilise` ends in the invariant
  (same rank); every necessary node is non-stale and READS `evalX env s' k n`; the state in which `drainHeap` starts and
  the one in which it ends satisfy the drain invariant `ExpertH.DInvX` (scheduling invariant of the virtual state).
  `drain_keeps`: the drain invariant through `drainHeap`.
* `expert_value` (the VALUE CLAUSE of C14): after such a `stabilise` a necessary expert node with record `er` stores
  `(Σ values of er.children) mod m` over the CURRENT values of its CURRENT dependencies, all of which have a value.
  `evalX_expert`: the from-scratch semantics `evalX` of an expert node.
* `init_inv`, `history_inv`, `history_every_stabilise`: every state reached from `State.init N d` by a history of X1
  satisfies the invariant (for some rank); at every `stabilise` of the history EVERY IN-USE OBSERVER READS `evalX` of
  its node, no necessary node is stale, every observer is in use or unlinked.
* Non-vacuity: `exHistX` (20 actions: an expert node created BEFORE its dependencies, `addDep` to the unobserved and to
  the observed node, with and without callback, a map on top of the expert, a dependency of height 4 added to the
  necessary expert of height 3 — heights adjusted to 5 and 6 —, a duplicate dependency) is a history of X1
  (`runOKB`, checked by kernel evaluation), runs, and its reads are the sums; `exHistX_inv`.

FINDINGS (none contradicts the value clause; model and real implementation agree on all 22 300 random histories).
The CALLBACK clause of C14 as literally stated ("a callback is invoked exactly when the dependency is new since the
node's last recompute and has a value, or its value changed") is FALSE for model and implementation alike, because
`became_unnecessary` sets `will_fire_all_callbacks`: (F-a) an expert node that is unobserved and re-observed while not
stale keeps the flag over the next stabilise; its next recompute fires the callbacks of ALL dependencies, also of the
unchanged, non-new ones; (F-b) if a driver of another expert node unlinks and
re-links an expert node inside one stabilise after one of its children has already changed, that dependency gets TWO
callbacks with the same value in one stabilise.  Also: `addDep … cb` on a necessary expert node
fires the callback at the `addDep` action itself when the child has a value.

E2 — THE CALLBACK DISCIPLINE (`Proofs/ExpertH55…65`), proved for the same fragment X1 (expert nodes whose dependencies
were added with `cb` keep `slots`; the "sum" closures of X1 ignore them, so this is a statement about the bookkeeping).
`ExpertH.Good env s er`: for every dependency of the record that has a callback, the stored slot is the CURRENT value of
the dependency's child (absent iff the child has no value).  `ExpertH.SlotInv env s`: dependency names are pairwise
distinct and below `nextDep`; the "fire all callbacks" flag is down only on necessary nodes; every expert node whose
flag is down OR that is not stale is `Good`.
* `slots_stabilise`, `slots_action`, `slots_history`, `history_every_stabilise_slots`: `SlotInv` is kept by `stabilise`
  (through `addNewObservers`, `unlinkDisallowedObservers`, every `recomputeOne` of the drain — `ExpertH.mcv_slots`: the
  parent walk of `maybe_change_value_manual` delivers the new value to the callback of EVERY edge, of every flag-down
  expert parent, that has the changed node as child, also several edges on one child —, `stabiliseEnd`), by every action
  of X1 (`addDep … cb` on a necessary expert node: the link-time callback stores the child's value if it has one) and
  hence by whole histories; after every `stabilise` (`ExpertH.SlotsCurrent`): for every NECESSARY expert node and every
  dependency with a callback the child has a value `v` and the slot holds `v` — so a closure that sums the slots
  ("cbsum") sees exactly the current values of its callback dependencies.
* Outside recomputes a slot changes only by a delivery of the current value of the child of the dependency it is named
  after, and only on a record whose flag is down (`ExpertH.SR`, ladder `PresR.*`).
* FRAGMENT X2 (`Proofs/ExpertH66…70`) = X1 + closures that READ THE SLOTS ("cbsum": `ExpertH.XEnvCb env f` — applied to slots that are the
  dependency values, `f` is the sum modulo m; `toEnv_cbsum`: the harness' `expert cbsum m`, `f = 10 * m + 1`), for expert
  nodes ALL of whose dependencies are added with a callback (`ExpertH.XActionOK2`: `addDep … nocb` only on nodes whose
  closure does not read the slots; invariant `ExpertH.CbInv`).  `ExpertH.envS env`: the environment in which every
  closure gets the dependency values in place of the slots.  `runs_agree` (`stabilise_agrees`, `ExpertH.recomputeOne_eq`,
  `drainHeap_eq`, `step_eq`): under the callback discipline the engine behaves IDENTICALLY under `env` and `envS env` —
  at every recompute of an expert node the slots of its callback edges ARE the dependency values (`readyRec_good`) —, so
  `history_every_stabilise_x2`: at every `stabilise` of a history of X2 run under the ACTUAL `env`, every in-use observer
  reads `evalX` (a "cbsum" node: the sum of the current values of its current dependencies), all callback slots of
  necessary expert nodes are current, and the invariants hold (for `envS env`).  Non-vacuity: `exHistC` (a `cbsum` expert
  that is unobserved and re-observed — finding F-a —, gets a third dependency while observed; a `sumdeps` expert with a
  `cb` and a `nocb` edge on the same child).
* NOT PROVED for E2: "cbsum" experts with a MIX of callback and non-callback dependencies (their value is the sum over
  the callback dependencies only; the virtual `fold` node cannot express a positional mask); EXACTNESS of the callback
  events on the log — as literally stated it is FALSE, see FINDINGS.

E3 — DEPENDENCIES EDITED FROM INSIDE NODE FUNCTIONS (`Proofs/ExpertH54.lean`, pure logic over explicit invariants, as
`Props/C03Order.lean` did for binds with `StepL`).  `Drv.StepD env X n v ch r s s'`: the contract of a DRIVER step —
node `n` (a child of every rewired node `x`, `X x`: `assertRunningIsChild`) runs, computes `v`, and rewires the nodes
`x`: their child lists change, children become necessary/unnecessary, heights are adjusted, `x` is stale afterwards and
not stamped in this round; no node is created or invalidated; the new structure/heap are given wholesale (`BGraph`,
`HeapInv`, `qstale'`, `pending'`), every node `≠ n` keeps validity, value, `changedAt`, and — unless rewired — kind,
stamp and children.  States are states whose valid nodes have `BindH.BKind` kinds (in the application: virtual states).
* `driver_step_keeps` (`stepD_inv`): `BindH.DInv env s (some n)` + `StepD` ⟹ `BindH.DInv env s' r` — the drain invariant
  with a CHANGING graph (consistency of every non-stale node, "nothing above a stale node has run in this round" through
  the edges of the NEW graph, nothing at or below the current node queued) survives a driver step.
* `expert_after_drivers`: when a node `x` is about to run under `DInv`, every child of `x` — in particular every driver —
  is necessary, not queued, not stale and carries its defining value: the expert node runs after all its drivers.
* `drained_values`: with `DInv … none` and an empty heap every necessary node carries `BindH.evalB` in the FINAL graph:
  the expert's final value is its function of its final dependencies.
* NOT PROVED for E3: that a run of the model's `recomputeOne` on a node with `xAdd`/`xRm`/`xSel`/`xStale` effects
  satisfies `StepD` for the virtual states (it needs the unlinking analogue of `addDep_necessary` inside the drain and a
  virtualisation of effectful `map` nodes), `xInval`, and therefore no whole-history theorem with drivers; `make_stale`
  is only reachable from node functions and is covered only by the local facts of `Props/C14.lean`.

ASSUMED / NOT PROVED (all parts).  Partial correctness throughout (no "never panics" theorem for X1; a cyclic `addDep` on
a necessary node panics with `cyclic`, on an unnecessary node it silently records the cycle — excluded by `AddDepOK`).
No top-level removal exists in the action language.
-/
namespace IncrVerif.Props.C14History
open IncrVerif.Engine IncrVerif.Driver IncrVerif.Proofs IncrVerif.Proofs.Sched IncrVerif.Proofs.ExpertH
open IncrVerif.Proofs.ExpertH.QR

/-! ## the fragment -/

/-- the harness' closure `expert sumdeps m` (`f = 10 * m`) is "sum of the dependencies' values modulo m" -/
theorem toEnv_sumdeps (d : Defs) (f : Nat) (h : f % 10 = 0) : XEnvOK d.toEnv f := toEnv_xEnvOK d f h

/-- what the closure is: `xStep f` folded over the values = the sum of the integer views modulo `f / 10` -/
theorem closure_sum (f : Nat) (vals : List Val) :
    vals.foldl (xStep f) (.int 0) = .int (emod ((vals.map Val.toInt).foldl (· + ·) 0) ((f / 10 : Nat) : Int)) :=
  foldl_xStep f vals

/-- a new edge `n → c` that closes no cycle admits a rank again -/
theorem acyclic_rank {rk : Nat → Nat} {s s' : State} (R : RankOK rk s) {n c : Nat}
    (hn : n < s.nodes.size) (hc : c < s.nodes.size) (hacyc : ¬ Below s c n)
    (hsz : s'.nodes.size = s.nodes.size)
    (hother : ∀ m, m ≠ n → kidsX s'.experts (s'.nodeD m).kind = kidsX s.experts (s.nodeD m).kind)
    (hself : kidsX s'.experts (s'.nodeD n).kind = kidsX s.experts (s.nodeD n).kind ++ [c]) :
    ∃ rk', RankOK rk' s' := R.addEdge hn hc hacyc hsz hother hself

/-- the invariant, spelled out -/
theorem inv_parts {env : Env} {rk : Nat → Nat} {s : State} (Q : QInvX env rk s) :
    XFrag env s ∧ QR.QInv (virtEnv env) rk (virt s) ∧ QR.AhhEmpty s := ⟨Q.frag, Q.q, Q.ahh⟩

/-- the virtual state has the children, staleness, necessity and values of the actual state -/
theorem virt_reads (env : Env) (s : State) (F : XFrag env s) (m : Nat) :
    (virt s).children m = s.children m ∧ (virt s).isStale m = s.isStale m ∧
      (virt s).isNecessary m = s.isNecessary m ∧ (virt s).value (virtEnv env) m = s.value env m :=
  ⟨virt_children s m, virt_isStale s m, virt_isNecessary s m, virt_value s env m F.noMapRef⟩

/-! ## E1: the actions -/

/-- **`addDep` keeps the invariant** (for a new rank): the expert node is necessary or not, the child is older or
newer, necessary or not, lower or higher. -/
theorem addDep_keeps {env : Env} {rk : Nat → Nat} {s s' : State} {eo co : Opnd} {cb : Bool} {tk : Array Nat}
    {r : String × Array Nat} (Q : QInvX env rk s) (hok : AddDepOK s eo co)
    (h : (stepAction env (.addDep eo co cb) tk).run.run s = (.ok r, s')) : ∃ rk', QInvX env rk' s' :=
  step_addDep Q hok h

/-- `addDep` on an expert node that is NOT necessary: exactly the record changes -/
theorem addDep_unnecessary {env : Env} {rk : Nat → Nat} {s s' : State} {fuel n c e dep : Nat} {cb : Bool}
    {nd : Node} {er : ExpertRec} (Q : QInvX env rk s) (hx : Xp.IsExpert s n nd e er)
    (hnec : nd.isNecessary = false) (hc : c < s.nodes.size) (hacyc : ¬ Below s c n)
    (h : (expertAddDependency env fuel n c cb).run.run s = (.ok dep, s')) :
    ∃ rk', QInvX env rk' s' ∧ s' = addedState e er c cb s := by
  obtain ⟨rk', F', Q', A', e'⟩ := addDep_unnec Q.frag Q.q Q.ahh hx hnec hc hacyc h
  exact ⟨rk', ⟨F', Q', A'⟩, e'⟩

/-- `addDep` on a NECESSARY expert node (`state_add_parent`: linking cascade, `adjust_heights`, heap insertion) -/
theorem addDep_necessary {env : Env} {rk : Nat → Nat} {s s' : State} {fuel n c e dep : Nat} {cb : Bool}
    {nd : Node} {er : ExpertRec} (Q : QInvX env rk s) (hx : Xp.IsExpert s n nd e er)
    (hnec : nd.isNecessary = true) (hc : c < s.nodes.size) (hacyc : ¬ Below s c n)
    (h : (expertAddDependency env fuel n c cb).run.run s = (.ok dep, s')) : ∃ rk', QInvX env rk' s' := by
  obtain ⟨rk', F', Q', A'⟩ := addDep_nec Q.frag Q.q Q.ahh hx hnec hc hacyc h
  exact ⟨rk', ⟨F', Q', A'⟩⟩

theorem create_expert_keeps {env : Env} {rk : Nat → Nat} {f : Nat} {tk : Array Nat} {s s' : State}
    {r : String × Array Nat} (Q : QInvX env rk s) (hf : XEnvOK env f) (hfb : f < xBase)
    (h : (stepAction env (.create (.expert f)) tk).run.run s = (.ok r, s')) : QInvX env rk s' :=
  step_create_expert Q hf hfb h

theorem static_action_keeps {env : Env} {rk : Nat → Nat} {s s' : State} {a : Action} {tk : Array Nat}
    {r : String × Array Nat} (Q : QInvX env rk s) (ha : XStaticAction env a)
    (h : (stepAction env a tk).run.run s = (.ok r, s')) : QInvX env rk s' :=
  action_static Q ha h

/-- **every action of fragment X1 that returns keeps the invariant** -/
theorem action_keeps {env : Env} {rk : Nat → Nat} {s s' : State} {a : Action} {tk : Array Nat}
    {r : String × Array Nat} (Q : QInvX env rk s) (ha : XActionOK env s a)
    (h : (stepAction env a tk).run.run s = (.ok r, s')) : ∃ rk', QInvX env rk' s' :=
  step_x Q ha h

/-! ## E1: `stabilise` -/

/-- the drain invariant (scheduling invariant of the virtual state) through `drainHeap` -/
theorem drain_keeps {env : Env} {fuel : Nat} {s s' : State} (D : DInvX env s none)
    (h : (drainHeap env fuel).run.run s = (.ok (), s')) : DInvX env s' none ∧ s'.rch.length = 0 := by
  obtain ⟨D', he, -⟩ := drainHeapX_inv fuel s s' D h
  exact ⟨D', he⟩

/-- one `recomputeOne` on the current node of the drain invariant — an expert node or a static node -/
theorem recomputeOne_keeps {env : Env} {fuel n : Nat} {s s' : State} {r : Option Nat}
    (D : DInvX env s (some n)) (h : (recomputeOne env fuel n).run.run s = (.ok r, s')) : DInvX env s' r :=
  (recomputeOneX_inv D h).1

/-- **`stabilise` with pending observers.**  See `ExpertH.StabilisedX`: `inv : QInvX env rk s'`, `values` (every
necessary node is not stale and READS `evalX env s' k n`, which exists), `drain`, `virt` (the conclusions of
`C01History.stabilise_pending` for the virtual states). -/
theorem stabilise_pending {env : Env} {rk : Nat → Nat} {fuel : Nat} {s s' : State} (Q : QInvX env rk s)
    (h : (stabilise env fuel).run.run s = (.ok (), s')) : StabilisedX env rk fuel s s' :=
  stabiliseX Q h

theorem stabilise_reads {env : Env} {rk : Nat → Nat} {fuel : Nat} {s s' : State} (Q : QInvX env rk s)
    (h : (stabilise env fuel).run.run s = (.ok (), s')) :
    ReadsOKX env s' ∧ ObsSettled s' ∧ ∀ n, s'.isNecessary n = true → s'.isStale n = false :=
  stabilisedX_reads (stabiliseX Q h)

/-- from-scratch evaluation of an expert node: its closure folded over the evaluations of its CURRENT dependencies -/
theorem evalX_expert (env : Env) (s : State) (k n e : Nat) (hk : (s.nodeD n).kind = .expert e) :
    evalX env s (k + 1) n =
      (evalArgs (fun a => evalX env s k a) ((xRec s.experts e).children.map (·.child))).map
        (List.foldl (xStep (xRec s.experts e).f) (.int 0)) :=
  ExpertH.evalX_expert env s k n e hk

/-- **C14, the value clause.**  After a `stabilise` of the fragment a necessary expert node carries the sum modulo
`m = er.f / 10` of the current values of its current dependencies (edge order, duplicates counted). -/
theorem expert_value {env : Env} {rk : Nat → Nat} {fuel : Nat} {s s' : State} (Q : QInvX env rk s)
    (h : (stabilise env fuel).run.run s = (.ok (), s')) {n e : Nat} {er : ExpertRec}
    (hn : s'.isNecessary n = true) (hk : (s'.nodeD n).kind = .expert e) (hx : s'.experts[e]? = some er) :
    ∃ vals : List Val, er.children.map (fun ed => s'.value env ed.child) = vals.map some ∧
      s'.value env n = some (.int (emod ((vals.map Val.toInt).foldl (· + ·) 0) ((er.f / 10 : Nat) : Int))) :=
  expert_value_sum (stabiliseX Q h) hn hk hx

/-! ## E1: whole histories -/

theorem init_inv (env : Env) (N : Nat) (d : Bool) : QInvX env (fun m => m) (State.init N d) := qinvX_init env N d

theorem history_inv {env : Env} {N : Nat} {d : Bool} {acts : List Action} {s : State} {tk : Array Nat}
    (ha : RunOK env acts (State.init N d) #[])
    (h : runActions env acts (State.init N d) #[] = .ok (s, tk)) : ∃ rk, QInvX env rk s :=
  history_x ha h

/-- **C14 (value clause) for whole histories.**  At every `stabilise` of a history of fragment X1 that runs from the
initial state: the state before satisfies the invariant; afterwards every observer in use reads the from-scratch value
`evalX` of its node (an expert node: the sum of the from-scratch values of its current dependencies), no necessary node
is stale, every observer is in use or unlinked. -/
theorem history_every_stabilise {env : Env} {N : Nat} {d : Bool} {as bs : List Action} {s : State} {tk : Array Nat}
    (ha : RunOK env (as ++ Action.stabilise :: bs) (State.init N d) #[])
    (h : runActions env (as ++ Action.stabilise :: bs) (State.init N d) #[] = .ok (s, tk)) :
    ∃ s1 tk1 s2 rk1, runActions env as (State.init N d) #[] = .ok (s1, tk1) ∧ QInvX env rk1 s1 ∧
      (stabilise env fuelDefault).run.run s1 = (.ok (), s2) ∧ StabilisedX env rk1 fuelDefault s1 s2 ∧
      ReadsOKX env s2 ∧ ObsSettled s2 ∧ (∀ n, s2.isNecessary n = true → s2.isStale n = false) ∧
      runActions env bs s2 tk1 = .ok (s, tk) :=
  history_stabilise_x ha h

/-- a decidable sufficient check of `RunOK` (it runs the history on the model) -/
theorem runOK_of_check {env : Env} {mapOK xOK : Nat → Bool}
    (hm : ∀ f, mapOK f = true → f < fnPerKey ∧ (f < fnZip → ∀ vals, env.fnEff f vals = []))
    (hx : ∀ f, xOK f = true → XEnvOK env f ∧ f < xBase) {acts : List Action} {s : State} {tk : Array Nat}
    (h : runOKB env mapOK xOK acts s tk = true) : RunOK env acts s tk :=
  runOKB_sound hm hx acts s tk h

/-! ## E2: the callback discipline -/

/-- `stabilise` keeps the callback discipline -/
theorem slots_stabilise {env : Env} {rk : Nat → Nat} {fuel : Nat} {s s' : State} (Q : QInvX env rk s)
    (L : SlotInv env s) (h : (stabilise env fuel).run.run s = (.ok (), s')) :
    SlotInv env s' ∧ SlotsCurrent env s' := by
  have L' := stabilise_slots Q L h
  exact ⟨L', slotsCurrent_of_stabilised (stabiliseX Q h) L'⟩

/-- one `recomputeOne` of the drain keeps the callback discipline (`U`: the unnecessary nodes have not been recomputed in
this round and the non-stale ones are consistent — part of what `stabilise` knows when the drain starts) -/
theorem slots_recomputeOne {env : Env} {fuel n : Nat} {s s' : State} {r : Option Nat}
    (D : DInvX env s (some n)) (U : UnnecOK (virtEnv env) (virt s)) (L : SlotInv env s)
    (h : (recomputeOne env fuel n).run.run s = (.ok r, s')) : SlotInv env s' :=
  recomputeOneX_slots D U L h

/-- every action of fragment X1 keeps the callback discipline -/
theorem slots_action {env : Env} {rk : Nat → Nat} {s s' : State} {a : Action} {tk : Array Nat}
    {r : String × Array Nat} (Q : QInvX env rk s) (L : SlotInv env s) (ha : XActionOK env s a)
    (h : (stepAction env a tk).run.run s = (.ok r, s')) : SlotInv env s' :=
  step_x_slots Q L ha h

theorem slots_history {env : Env} {N : Nat} {d : Bool} {acts : List Action} {s : State} {tk : Array Nat}
    (ha : RunOK env acts (State.init N d) #[])
    (h : runActions env acts (State.init N d) #[] = .ok (s, tk)) : ∃ rk, QInvX env rk s ∧ SlotInv env s :=
  history_slots ha h

/-- **E2 for whole histories.**  At every `stabilise` of a history of fragment X1: afterwards, for every necessary
expert node and every dependency with a callback, the stored slot is the current value of the dependency's child. -/
theorem history_every_stabilise_slots {env : Env} {N : Nat} {d : Bool} {as bs : List Action} {s : State}
    {tk : Array Nat} (ha : RunOK env (as ++ Action.stabilise :: bs) (State.init N d) #[])
    (h : runActions env (as ++ Action.stabilise :: bs) (State.init N d) #[] = .ok (s, tk)) :
    ∃ s1 tk1 s2 rk1, runActions env as (State.init N d) #[] = .ok (s1, tk1) ∧ QInvX env rk1 s1 ∧ SlotInv env s1 ∧
      (stabilise env fuelDefault).run.run s1 = (.ok (), s2) ∧ StabilisedX env rk1 fuelDefault s1 s2 ∧
      SlotInv env s2 ∧ SlotsCurrent env s2 ∧ ReadsOKX env s2 ∧
      runActions env bs s2 tk1 = .ok (s, tk) :=
  history_stabilise_slots ha h

/-! ## E2, fragment X2: closures that read the slots -/

/-- the harness' closure `expert cbsum m` (`f = 10 * m + 1`), on slots that are the dependency values -/
theorem toEnv_cbsum (d : Defs) (f : Nat) (h : f % 10 = 1) : XEnvCb d.toEnv f := toEnv_xEnvCb d f h

/-- under `envS env` every such closure is a "sum of the dependencies" closure of fragment X1 -/
theorem envS_closure {env : Env} {f : Nat} (h : XEnvCb env f) : XEnvOK (envS env) f := xEnvOK_envS h

/-- **`stabilise` behaves identically under `env` and `envS env`** (same result, same final state, also when it panics) -/
theorem stabilise_agrees {env : Env} {rk : Nat → Nat} {fuel : Nat} {s : State} (Q : QInvX (envS env) rk s)
    (L : SlotInv (envS env) s) (C : CbInv env s) :
    (stabilise env fuel).run.run s = (stabilise (envS env) fuel).run.run s := stabilise_eq Q L C

/-- **whole runs of fragment X2 behave identically under `env` and `envS env`**, and are runs of fragment X1 under
`envS env` -/
theorem runs_agree {env : Env} {rk : Nat → Nat} {acts : List Action} {s : State} {tk : Array Nat}
    (Q : QInvX (envS env) rk s) (L : SlotInv (envS env) s) (C : CbInv env s) (ha : RunOK2 env acts s tk) :
    runActions env acts s tk = runActions (envS env) acts s tk ∧ RunOK (envS env) acts s tk :=
  ⟨(run_eq Q L C ha).1, (run_eq Q L C ha).2.1⟩

/-- **C14 (value clause and callback discipline) for whole histories of fragment X2.** -/
theorem history_every_stabilise_x2 {env : Env} {N : Nat} {d : Bool} {as bs : List Action} {s : State}
    {tk : Array Nat} (ha : RunOK2 env (as ++ Action.stabilise :: bs) (State.init N d) #[])
    (h : runActions env (as ++ Action.stabilise :: bs) (State.init N d) #[] = .ok (s, tk)) :
    ∃ s1 tk1 s2 rk1, runActions env as (State.init N d) #[] = .ok (s1, tk1) ∧ QInvX (envS env) rk1 s1 ∧
      SlotInv (envS env) s1 ∧ CbInv env s1 ∧
      (stabilise env fuelDefault).run.run s1 = (.ok (), s2) ∧ StabilisedX (envS env) rk1 fuelDefault s1 s2 ∧
      SlotInv (envS env) s2 ∧ SlotsCurrent env s2 ∧ ReadsOKX env s2 ∧
      runActions env bs s2 tk1 = .ok (s, tk) :=
  history_stabilise_x2 ha h

/-- a decidable sufficient check of `RunOK2` (`xOK f`: closure usable in expert nodes; `sOK f`: it does not read the
slots) -/
theorem runOK2_of_check {env : Env} {mapOK xOK sOK : Nat → Bool}
    (hm : ∀ f, mapOK f = true → f < fnPerKey ∧ (f < fnZip → ∀ vals, env.fnEff f vals = []))
    (hx : ∀ f, xOK f = true → XEnvCb env f ∧ f < xBase) (hs : ∀ f, sOK f = true → XEnvOK env f)
    {acts : List Action} {s : State} {tk : Array Nat}
    (h : runOKB2 env mapOK xOK sOK acts s tk = true) : RunOK2 env acts s tk :=
  runOKB2_sound hm hx hs acts s tk h

/-! ## E3: driver steps (pure logic over explicit invariants) -/

/-- **a driver step keeps the drain invariant** (graph changing during the drain) -/
theorem driver_step_keeps {env : Env} {X : Nat → Prop} {n : Nat} {v : Val} {ch : Bool} {r : Option Nat}
    {s s' : State} (I : BindH.DInv env s (some n)) (R : Drv.StepD env X n v ch r s s') : BindH.DInv env s' r :=
  Drv.stepD_inv I R

/-- **the expert node runs after all its drivers**: when `x` is about to run every child of `x` is necessary, not
queued, not stale, and carries its defining value -/
theorem expert_after_drivers {env : Env} {x : Nat} {s : State} (I : BindH.DInv env s (some x)) :
    ∀ c, c ∈ s.children x → s.isNecessary c = true ∧ (s.nodeD c).inRch = false ∧ s.isStale c = false ∧
      BindH.ConsistentB env s c :=
  fun c hc => ⟨(Drv.children_settled I c hc).1, (Drv.children_settled I c hc).2.1,
    (Drv.children_settled I c hc).2.2, Drv.children_consistent I c hc⟩

/-- the stamp clause of the contract holds when the rewiring leaves the stamp of `x` alone -/
theorem driver_parent_fresh {env : Env} {s : State} {n x : Nat} (I : BindH.DInv env s (some n))
    (h : n ∈ s.children x) : (s.nodeD x).recomputedAt < s.stabNum := Drv.parent_fresh I h

/-- **the final values**: drain invariant and empty heap ⟹ every necessary node carries the from-scratch value of the
FINAL graph -/
theorem drained_values {env : Env} {s : State} (I : BindH.DInv env s none) (he : s.rch.length = 0)
    (n : Nat) (hn : s.isNecessary n = true) (k : Nat) (hk : (s.nodeD n).height.toNat < k) :
    (s.nodeD n).valid = true ∧ s.isStale n = false ∧ s.value env n = BindH.evalB env s k n ∧
      (BindH.evalB env s k n).isSome = true := by
  obtain ⟨h1, h2, -, h4, h5⟩ := BindH.drained_valuesB I he n hn k hk
  exact ⟨h1, h2, h4, h5⟩

/-! ## non-vacuity -/

/-- `fn f0 lin 7 1 1` (`1 + x mod 7`), `fn f1 lin 7 0 2` (`2x mod 7`), the harness' expert closures -/
def exEnvX : Env where
  fn := fun f args =>
    let x : Int := (args.headD .unit).toInt
    match f with
    | 0 => .int (emod (1 + x) 7)
    | 1 => .int (emod (2 * x) 7)
    | _ => .int 0
  fnEff := fun _ _ => []
  foldStep := fun _ acc _ => acc
  proj := fun _ v => v
  withOld := fun _ σ _ x => (σ, x, true)
  cutoff := fun _ a b => a == b
  body := fun _ _ => { instrs := [], ret := .outer 0 }
  handler := fun _ _ => []
  expertFn := fun f deps slots =>
    let m : Int := f / 10
    let un (o : Option Val) : Int := match o with | some v => v.toInt | none => 100
    if f % 10 == 0 then .int (emod (deps.foldl (fun a o => a + un o) 0) m)
    else .int (emod ((slots.zip deps).foldl (fun a (so : Option Val × Option Val) =>
      a + (match so.1 with | some v => v.toInt | none => 0)) 0) m)
  withOldCalls := fun _ _ _ _ => []
  memo := fun _ => { instrs := [], ret := .abs 0 }
  perKey := fun _ => { instrs := [], ret := .loc 0 }

theorem foldl_un (un : Option Val → Int) (hun : ∀ v, un (some v) = v.toInt) (vals : List Val) (a : Int) :
    (vals.map some).foldl (fun a o => a + un o) a = (vals.map Val.toInt).foldl (· + ·) a := by
  induction vals generalizing a with
  | nil => rfl
  | cons v vs ih => simp only [List.map_cons, List.foldl_cons, hun]; exact ih _

theorem exEnvX_sumdeps (f : Nat) (h : f % 10 = 0) : XEnvOK exEnvX f := by
  intro vals slots
  rw [foldl_xStep]
  show (if (f % 10 == 0) = true then _ else _) = _
  rw [if_pos (by simp [h])]
  have e2 : ((f : Int) / 10) = ((f / 10 : Nat) : Int) := by omega
  rw [foldl_un _ (fun _ => rfl), e2]

/-- `var 2; var 3; expert sumdeps 7; map f0 n0; adddep n2 n3 nocb; observe n2; stabilise; adddep n2 n1 cb; stabilise;
set v0 5; stabilise; map f1 n2; observe n4; stabilise; map f0 n3; map f0 n5; adddep n2 n6 nocb; stabilise;
adddep n2 n3 nocb; stabilise` -/
def exHistX : List Action :=
  [.create (.var (.int 2)), .create (.var (.int 3)), .create (.expert 70), .create (.map 0 [.outer 0]),
   .addDep (.outer 2) (.outer 3) false, .observe (.outer 2), .stabilise,
   .addDep (.outer 2) (.outer 1) true, .stabilise,
   .set 0 (.int 5), .stabilise,
   .create (.map 1 [.outer 2]), .observe (.outer 4), .stabilise,
   .create (.map 0 [.outer 3]), .create (.map 0 [.outer 5]), .addDep (.outer 2) (.outer 6) false, .stabilise,
   .addDep (.outer 2) (.outer 3) false, .stabilise]

set_option maxRecDepth 100000 in
/-- the example is a history of fragment X1: every action is checked in the state in which it is executed (the acyclicity
condition of each `addDep` by computing the nodes below the new child) -/
theorem exHistX_ok : RunOK exEnvX exHistX (State.init 128 true) #[] :=
  runOK_of_check (mapOK := fun f => decide (f < 2)) (xOK := fun f => f == 70)
    (fun f hf => by
      have : f < 2 := by simpa using hf
      exact ⟨by unfold fnPerKey; omega, fun _ _ => rfl⟩)
    (fun f hf => by
      have : f = 70 := by simpa using hf
      subst this
      exact ⟨exEnvX_sumdeps 70 (by decide), by decide⟩)
    (by decide +kernel)

def ranOk (env : Env) (acts : List Action) : Bool :=
  match runActions env acts (State.init 128 true) #[] with
  | .ok _ => true
  | .error _ => false

/-- what observer `o` reads after the history -/
def readAfter (env : Env) (acts : List Action) (o : Nat) : Option Val :=
  match runActions env acts (State.init 128 true) #[] with
  | .ok (s, _) => match s.tryGetValue env o with | .ok v => some v | .error _ => none
  | .error _ => none

/-- the heights after the history -/
def heightsAfter (env : Env) (acts : List Action) : List Int :=
  match runActions env acts (State.init 128 true) #[] with
  | .ok (s, _) => (List.range s.nodes.size).map fun n => (s.nodeD n).height
  | .error _ => []

theorem ranOk_iff {env : Env} {acts : List Action} (h : ranOk env acts = true) :
    ∃ s tk, runActions env acts (State.init 128 true) #[] = .ok (s, tk) := by
  unfold ranOk at h
  rcases hx : runActions env acts (State.init 128 true) #[] with e | ⟨s, tk⟩
  · rw [hx] at h; cases h
  · exact ⟨s, tk, rfl⟩

set_option maxRecDepth 100000 in
/-- the example history runs (so `history_every_stabilise` applies to each of its seven `stabilise`s) and its final
state satisfies the invariant -/
theorem exHistX_inv : ∃ s tk rk, runActions exEnvX exHistX (State.init 128 true) #[] = .ok (s, tk) ∧
    QInvX exEnvX rk s := by
  obtain ⟨s, tk, h⟩ := ranOk_iff (env := exEnvX) (acts := exHistX) (by decide +kernel)
  obtain ⟨rk, Q⟩ := history_inv exHistX_ok h
  exact ⟨s, tk, rk, h, Q⟩

set_option maxRecDepth 100000 in
/-- the reads of observer `o0` (on the expert node `n2`) after each stabilise: `f0(2) = 3`; `+ v1 = 6`;
`f0(5) + 3 = 9 mod 7 = 2`; unchanged; `6 + 3 + f0(f0(6)) = 10 mod 7 = 3`; with `n3` counted twice `= 2`; observer `o1`
(on `n4 = 2 * n2 mod 7`) reads `4`, `6`, `4`; the expert node (height 3 after the var was added, its parent 4) ends at height 5, its
parent at 6 -/
example : readAfter exEnvX (exHistX.take 7) 0 = some (.int 3) ∧ readAfter exEnvX (exHistX.take 9) 0 = some (.int 6) ∧
    readAfter exEnvX (exHistX.take 11) 0 = some (.int 2) ∧ readAfter exEnvX (exHistX.take 14) 0 = some (.int 2) ∧
    readAfter exEnvX (exHistX.take 14) 1 = some (.int 4) ∧
    readAfter exEnvX (exHistX.take 18) 0 = some (.int 3) ∧ readAfter exEnvX (exHistX.take 18) 1 = some (.int 6) ∧
    readAfter exEnvX exHistX 0 = some (.int 2) ∧ readAfter exEnvX exHistX 1 = some (.int 4) ∧
    heightsAfter exEnvX (exHistX.take 14) = [1, 1, 3, 2, 4] ∧
    heightsAfter exEnvX exHistX = [1, 1, 5, 2, 6, 3, 4] :=
  by decide +kernel

/-- the slots of expert record `e` after the history -/
def slotsAfter (env : Env) (acts : List Action) (e : Nat) : List (Nat × Val) :=
  match runActions env acts (State.init 128 true) #[] with
  | .ok (s, _) => ((s.experts[e]?).map ExpertRec.slots).getD []
  | .error _ => []

set_option maxRecDepth 100000 in
/-- E2: the dependency `d1` (on the var node `n1`) was added with a callback to the NECESSARY expert node; `n1` had never
been computed, so nothing is stored at the `addDep` action; the next `stabilise` computes `n1 = 3` and the callback
stores it; the slot holds 3 ever after -/
example : slotsAfter exEnvX (exHistX.take 8) 0 = [] ∧ slotsAfter exEnvX (exHistX.take 9) 0 = [(1, .int 3)] ∧
    slotsAfter exEnvX exHistX 0 = [(1, .int 3)] :=
  by decide +kernel

/-- E2 for the example: the final state satisfies the callback discipline -/
theorem exHistX_slots : ∃ s tk rk, runActions exEnvX exHistX (State.init 128 true) #[] = .ok (s, tk) ∧
    QInvX exEnvX rk s ∧ SlotInv exEnvX s := by
  obtain ⟨s, tk, rk, h, -⟩ := exHistX_inv
  obtain ⟨rk', Q, L⟩ := slots_history exHistX_ok h
  exact ⟨s, tk, rk', h, Q, L⟩

/-! ### fragment X2 -/

theorem foldl_zip_un (un : Option Val → Int) (hun : ∀ v, un (some v) = v.toInt) (vals : List Val) (a : Int) :
    (((vals.map some).zip (vals.map some)).foldl (fun a (so : Option Val × Option Val) => a + un so.1) a) =
      (vals.map Val.toInt).foldl (· + ·) a := by
  induction vals generalizing a with
  | nil => rfl
  | cons v vs ih => simp only [List.map_cons, List.zip_cons_cons, List.foldl_cons, hun]; exact ih _

theorem exEnvX_cbsum (f : Nat) (h : f % 10 = 1) : XEnvCb exEnvX f := by
  intro vals
  rw [foldl_xStep]
  show (if (f % 10 == 0) = true then _ else _) = _
  rw [if_neg (by simp [h])]
  have e2 : ((f : Int) / 10) = ((f / 10 : Nat) : Int) := by omega
  have key := foldl_zip_un (fun o => match o with | some v => v.toInt | none => 0) (fun _ => rfl) vals 0
  rw [e2]
  exact congrArg (fun x => Val.int (emod x ((f / 10 : Nat) : Int))) key

/-- `var 2; var 3; expert cbsum 7; adddep n2 n0 cb; adddep n2 n1 cb; observe n2; stabilise; disallow o0; stabilise;
observe n2; stabilise` (re-observed, not stale, not recomputed: the fire-all flag stays up — finding F-a) `; set v0 3;
stabilise; map f0 n0; adddep n2 n3 cb; stabilise; set v0 4; set v1 0; stabilise; expert sumdeps 7; adddep n4 n2 cb;
adddep n4 n2 nocb; observe n4; stabilise; set v1 6; stabilise` -/
def exHistC : List Action :=
  [.create (.var (.int 2)), .create (.var (.int 3)), .create (.expert 71),
   .addDep (.outer 2) (.outer 0) true, .addDep (.outer 2) (.outer 1) true, .observe (.outer 2), .stabilise,
   .disallow 0, .stabilise, .observe (.outer 2), .stabilise, .set 0 (.int 3), .stabilise,
   .create (.map 0 [.outer 0]), .addDep (.outer 2) (.outer 3) true, .stabilise, .set 0 (.int 4), .set 1 (.int 0),
   .stabilise, .create (.expert 70), .addDep (.outer 4) (.outer 2) true, .addDep (.outer 4) (.outer 2) false,
   .observe (.outer 4), .stabilise, .set 1 (.int 6), .stabilise]

set_option maxRecDepth 100000 in
theorem exHistC_ok : RunOK2 exEnvX exHistC (State.init 128 true) #[] :=
  runOK2_of_check (mapOK := fun f => decide (f < 2)) (xOK := fun f => f == 70 || f == 71) (sOK := fun f => f == 70)
    (fun f hf => by
      have : f < 2 := by simpa using hf
      exact ⟨by unfold fnPerKey; omega, fun _ _ => rfl⟩)
    (fun f hf => by
      have : f = 70 ∨ f = 71 := by simpa using hf
      rcases this with rfl | rfl
      · exact ⟨xEnvCb_of_ok (exEnvX_sumdeps 70 (by decide)), by decide⟩
      · exact ⟨exEnvX_cbsum 71 (by decide), by decide⟩)
    (fun f hf => by
      have : f = 70 := by simpa using hf
      subst this
      exact exEnvX_sumdeps 70 (by decide))
    (by decide +kernel)

set_option maxRecDepth 100000 in
/-- the reads of the observers of the `cbsum` node `n2` (`o0`, then `o1`) and of the `sumdeps` node `n4` (`o2`, two edges
on `n2`): `2 + 3`; after re-observing, `3 + 3`; with `f0(3) = 4`: `10 mod 7 = 3`; `4 + 0 + 5 = 9 mod 7 = 2`, `n4 = 2 + 2`;
`4 + 6 + 5 = 15 mod 7 = 1`, `n4 = 2` -/
example : readAfter exEnvX (exHistC.take 7) 0 = some (.int 5) ∧ readAfter exEnvX (exHistC.take 13) 1 = some (.int 6) ∧
    readAfter exEnvX (exHistC.take 16) 1 = some (.int 3) ∧ readAfter exEnvX (exHistC.take 24) 1 = some (.int 2) ∧
    readAfter exEnvX (exHistC.take 24) 2 = some (.int 4) ∧ readAfter exEnvX exHistC 1 = some (.int 1) ∧
    readAfter exEnvX exHistC 2 = some (.int 2) ∧
    slotsAfter exEnvX exHistC 0 = [(1, .int 6), (2, .int 5), (0, .int 4)] :=
  by decide +kernel

end IncrVerif.Props.C14History
