import IncrVerif.Proofs.GateF4
import IncrVerif.Proofs.OnceF6
/-!
# C06 (cutoffs gate propagation exactly) for the COMBINED fragment of `C01Full`

Property C06: *expert nodes aside, a dependant's function is re-invoked in a `stabilise` only if it has never run or at least one of its inputs produced a result that its cutoff
did not suppress since the dependant last ran; conversely, whenever an input's new result is not suppressed, every dependant needed by a live observer is re-invoked in that same
`stabilise`.*

`Props/C06` has the cutoff table and the two branches of one `maybeChangeValue`; `Props/C06History` proves the gating theorem for static programs with arbitrary cutoffs.  This file
proves both directions of the gate for the combined fragment of `Props/C01Full`, at every `stabilise` of every history.

## THE FRAGMENT (exactly the one of `C01Full` / `C02Full`: `FullH.HistFull env sp 0 acts`, `FullH.EnvS env sp`, `FullH.FirstFn env`)
binds (incl. nested, any depth) + `map_ref` (chains) + `map_with_old` (machines with the contract `FullH.Good`) + `depend_on` + the `cutoff n never/eq` action + the static core
(`const`, `var`, pure `map` 1…6, `zip`, `fold`), observers created / cloned / dropped / disallowed, the five variable writes, in any interleaving.  See the header of
`Props/C01Full.lean` for the precise definitions and for what is NOT in the fragment (user cutoffs, `cutoff` inside closures, incremental-map operators, expert nodes, effects, …).

## PROVED HERE (for the model, both `cfg.debug` settings; partial correctness: each statement assumes that the call / the history returns `.ok`)

The observable is the one of `C02Full`: `TidyH.drainSteps env fuel t2` = the list of (node, state) on which `drainHeap env fuel`, started in `t2`, invokes `recomputeOne` (pops and
direct-recompute chains, in order; first components = `Sched.drainTrace`), `t2` = THE state in which the drain of the `stabilise` in question starts, tied to the run by the four phase
equations.  "The cutoff of `c` did not suppress its result in round `k`" is the model's (and the engine's) own record of it: `changedAt c = k` (`maybe_change_value` stamps
`changed_at` iff `should_cutoff` is false or there was no old value; for the verdict itself see `Props/C06`, `Props/C06History.bump_iff`).

* (ONLY IF) `drain_stale` (a successful `drainHeap` from the drain invariant `FullH.DInvF`), `stabilise_only_if` (a successful `stabilise` from the invariant between API actions
  `QInvFE`), `history_c06` (every `stabilise` of every history of the fragment run from `State.init N d`) — `GateF.GateStab env fuel s s'`: for EVERY step `p` of the drain (node `p.1`
  handed to `recomputeOne` in state `p.2`):
  - `p.2.isStale p.1 = true`: the node is STALE in the engine's own sense (`State.isStale` = the model of `is_stale`, which `recomputeOne`'s callers consult) in the very state in
    which it is handed over, and
  - `GateF.Reason p.2 p.1` (= `isStale` unfolded, `stale_means`; the expert alternative excluded by the fragment): it HAS NEVER RUN (`recomputedAt = -1`), or it is a variable whose
    cell was written after it last ran (`recomputedAt < setAt`), or SOME CHILD `c ∈ p.2.children p.1` HAS `changedAt c > recomputedAt (p.1)`: an input produced, after the node last
    ran, a result that its cutoff did not suppress (children = the model's `try_fold_children`: map / fold arguments, the input of a map_ref / map_with_old node, the lhs of a change
    detector, the change detector and the CURRENT rhs of a bind's main node);
  - and (from `C02Full`) it is valid, necessary, not yet stamped in this round (`recomputedAt < s.stabNum`), the round number still being `s.stabNum`.
  Together with `C02Full.stabilise_once` (the steps are pairwise distinct nodes) and the local theorems of `Props/C02` (one `recomputeOne` = one invocation of the node's function): a
  node function is invoked in a `stabilise` only for one of the three reasons.
  `recomputeOne_handover` (ALL kinds of nodes, no invariant, purely syntactic): if `recomputeOne env fuel n` returns `some p` (direct-recompute handover) then in the state it
  returns `n` has just been stamped `changedAt = stabNum` and `p` is a recorded parent of `n` — a node is handed over only by a child whose result was NOT suppressed in this very call.
* (IF, changes are never lost) `stabilise_never_lost`, part of `stabilise_c06` / `history_c06` — `GateF.NeverLost s s'`: every stamp of the state `s` before the `stabilise` is from an
  earlier round (`recomputedAt, changedAt < s.stabNum`; so a stamp `= s.stabNum` in `s'` was written by THIS `stabilise`), `s'.stabNum = s.stabNum + 1`, and for every node `n` that is
  necessary in the final state `s'` and every child `c ∈ s'.children n`: IF `changedAt c = s.stabNum` (the result of `c` was not suppressed in this round) THEN `n` is valid and
  `recomputedAt n = s.stabNum`: `n` was recomputed in this same `stabilise`.  (From `C01Full.StabF.fresh`: no necessary node is stale afterwards, and the stamp invariant.)
* NON-VACUITY (kernel-checked): the theorem applies at each of the seven `stabilise`s of `C01Full`'s example history `exHistF` and at each of the five of `exHistG`
  (`depend_on`, `cutoff never`).  `exHistF_why` / `exHistG_why`: for four of these drains the kernel computes, per step, (node, stale?, `recomputedAt`, the children that changed since):
  e.g. the round after writing only the third component of the pair variable 0 runs `0` (written), the map_ref nodes `5`, `12` (child 0 changed), `13` (12 changed), `10`, `11`, `4`;
  `exHistF_gate`: after that round the map_ref node 5 carries `recomputedAt = 1` but `changedAt = 0` (its projection is unchanged: the change is suppressed), and its necessary parents
  6, 7 keep `recomputedAt = 0` — they did NOT run; 12's projection changed (`changedAt = 1`) and its necessary parent 13 has `recomputedAt = 1`.  In the next round (first component
  written) 6 runs because 5 changed and 7 because 6 changed.

## METHOD (`Proofs/GateF1…4`)
`GateF1`: a return-value ladder (`RetQ`) through `recomputeOne`: every `some p` comes out of `maybeChangeValueManual`, after the `changedAt` stamp, the parent list is read after
`maybeHandleAfterStabilisation` and the rest of the function is `Step.Quiet` (`Step.mcvm_true_quiet`).  `GateF2`: staleness along the drain: a popped node was queued, and
`BindH.DInv.qstale` (queued ⟹ stale, virtual state; `FullH.virt_isStale`) — the pop changes `heightInRch` only; a handed-over node `p`: the recorded parent entry is a child edge
(`BGraph.parent` of the invariant AFTER the step), `p` has not run in this round (`DInv.cur_facts`), its child `n` carries `changedAt = stabNum`.  The invariants before and after
each pop and step come with the path of the drain (`FullH.PathF`); staleness of the current node is `Drain.Path.cur_end`.  `GateF3`: the `stabilise` prefix of `OnceF.stabilise_pathF`, `StabF.fresh` + `OnceF.fresh_inputs` + the stamp invariant for
the converse, histories through `OnceF.history_c02`.

## ASSUMED / NOT PROVED HERE
* Partial correctness here (as `C01Full`, `C02Full`; total correctness of the fragment: `C04Full`).  Everything `C01Full` lists as outside the fragment is outside here; in particular expert nodes (excluded by C06 itself) and
  user cutoff predicates (`.fn`, `.boxed`, `.always`: covered for static programs by `C06History`).
* The converse is stated with the stamp `recomputedAt n = s.stabNum` ("`n` was recomputed in round `s.stabNum`"), not with membership of `n` in `drainTrace`: that a VALID node
  stamped in this round is in the trace (the converse of `C02Full`'s "every node of the trace is stamped") is NOT proved here (`invalidate_node` also writes `recomputed_at := now`
  on the dying nodes, so the frame needs validity).  Since all stamps are `< s.stabNum` when the drain starts and `recomputeOne` is the only writer of `recomputedAt` on a node that
  stays valid, this is the expected reading, but the frame lemma is missing.  `Proofs/GateF5…8` (NOT imported here) hold an unfinished ladder: the relation `GateF.RR ex` (invalid nodes stay
  invalid; every node outside `ex` keeps `recomputedAt` or is invalid afterwards), proved for every SUCCESSFUL run (`GateF.POk`) of every function reachable from `recomputeOne` —
  `invalidateNode` (`POk.invalidateNode`), `propagateInvalidity`, `changeChildBindRhs`, `elabTemplate`, `runEffects`, `maybeChangeValue`, … — but NOT for `recomputeOne` itself,
  and not composed along the drain.
* WHICH verdict the cutoff gives (`changedAt` stamped iff `shouldCutoff` is false or there was no old value) is the local theorem of `Props/C06`; for `depend_on` nodes see
  `C06History.dependOn_verdict` (finding FC1).  It is not re-proved here for the kinds of the combined fragment; the map_ref / map_with_old nodes do not call `should_cutoff` (they
  propagate iff `didChange` / the machine's flag).
* `children` of a bind's main node contains the CURRENT rhs (in the state of the step); an rhs that was replaced earlier in the same drain is not a child any more.
-/
namespace IncrVerif.Props.C06Full
open IncrVerif.Engine IncrVerif.Driver IncrVerif.Proofs IncrVerif.Proofs.Sched IncrVerif.Proofs.TidyH IncrVerif.Proofs.FullH IncrVerif.Proofs.OnceF
open IncrVerif.Proofs.GateF

/-- **the handover** (all kinds of nodes, no hypothesis on the state): a parent `p` returned by `recomputeOne env fuel n` for direct recomputation is, in the state returned, a recorded
parent of `n`, and `n` has just been stamped as changed in this round -/
theorem recomputeOne_handover (env : Env) (fuel n : Nat) {s s' : State} {p : Nat} (h : (recomputeOne env fuel n).run.run s = (.ok (some p), s')) :
    (s'.nodeD n).changedAt = s'.stabNum ∧ p ∈ (s'.nodeD n).parents.map (·.1) :=
  GateF.recomputeOne_handover env fuel n s p s' h

/-- the model's `is_stale`, unfolded (all kinds) -/
theorem stale_means {s : State} {n : Nat} (h : s.isStale n = true) :
    (s.nodeD n).valid = true ∧
      ((s.nodeD n).recomputedAt = -1 ∨
       (∃ c vc, (s.nodeD n).kind = .var c ∧ s.vars[c]? = some vc ∧ (s.nodeD n).recomputedAt < vc.setAt) ∨
       (∃ c, c ∈ s.children n ∧ (s.nodeD n).recomputedAt < (s.nodeD c).changedAt) ∨
       (∃ e er, (s.nodeD n).kind = .expert e ∧ s.experts[e]? = some er ∧ er.forceStale = true)) :=
  isStale_cases h

/-- **(only if) the drain.** From the drain invariant of the combined fragment, every node a successful `drainHeap` hands to `recomputeOne` is stale at that moment. -/
theorem drain_stale {env : Env} {sp : Nat → Val → Val} (E : EnvS env sp) (hF : FirstFn env) {fuel : Nat} {t s s' : State} {g : Nat → Option Val}
    (D : DInvF env sp t s g none) (h : (drainHeap env fuel).run.run s = (.ok (), s')) :
    ∀ p, p ∈ drainSteps env fuel s → p.2.isStale p.1 = true := by
  obtain ⟨_, -, -, P⟩ := drain_pathF (kit E hF) fuel t s s' g D h
  exact fun _ hp => PathF.stale P hp

/-- **(only if) ONE `stabilise`.** From the invariant between API actions: every step of the drain is on a node that is stale, for one of the three reasons, valid, necessary, not yet
stamped in this round. -/
theorem stabilise_only_if {env : Env} {sp : Nat → Val → Val} (E : EnvS env sp) (hF : FirstFn env) {fuel : Nat} {s s' : State} (Q : QInvFE env sp s)
    (h : (stabilise env fuel).run.run s = (.ok (), s')) :
    ∃ t1 t2 t3,
      (addNewObservers env fuel).run.run { s with status := .stabilising } = (.ok (), t1) ∧
      (unlinkDisallowedObservers fuel).run.run t1 = (.ok (), t2) ∧
      (drainHeap env fuel).run.run t2 = (.ok (), t3) ∧ (stabiliseEnd env fuel).run.run t3 = (.ok (), s') ∧
      (∀ p, p ∈ drainSteps env fuel t2 →
        p.2.isStale p.1 = true ∧
        ((p.2.nodeD p.1).recomputedAt = -1 ∨
         (∃ c vc, (p.2.nodeD p.1).kind = .var c ∧ p.2.vars[c]? = some vc ∧ (p.2.nodeD p.1).recomputedAt < vc.setAt) ∨
         (∃ c, c ∈ p.2.children p.1 ∧ (p.2.nodeD p.1).recomputedAt < (p.2.nodeD c).changedAt)) ∧
        (p.2.nodeD p.1).valid = true ∧ p.2.isNecessary p.1 = true ∧
          (p.2.nodeD p.1).recomputedAt < s.stabNum ∧ p.2.stabNum = s.stabNum) ∧
      (∀ m, (t2.nodeD m).recomputedAt < s.stabNum) :=
  (stabilise_c06 E hF Q h).1

/-- **(if) CHANGES ARE NEVER LOST.** After a `stabilise` of the combined fragment, every necessary node with a child whose result was not suppressed in this round was recomputed in this
round. -/
theorem stabilise_never_lost {env : Env} {sp : Nat → Val → Val} (E : EnvS env sp) (hF : FirstFn env) {fuel : Nat} {s s' : State} (Q : QInvFE env sp s)
    (h : (stabilise env fuel).run.run s = (.ok (), s')) :
    (∀ m, (s.nodeD m).recomputedAt < s.stabNum ∧ (s.nodeD m).changedAt < s.stabNum) ∧
    s'.stabNum = s.stabNum + 1 ∧
    ∀ n c, s'.isNecessary n = true → c ∈ s'.children n → (s'.nodeD c).changedAt = s.stabNum →
      (s'.nodeD n).valid = true ∧ (s'.nodeD n).recomputedAt = s.stabNum :=
  (stabilise_c06 E hF Q h).2.1

/-- **C06 for one `stabilise` of the combined fragment**: both halves, and the invariant again. -/
theorem stabilise_c06 {env : Env} {sp : Nat → Val → Val} (E : EnvS env sp) (hF : FirstFn env) {fuel : Nat} {s s' : State} (Q : QInvFE env sp s)
    (h : (stabilise env fuel).run.run s = (.ok (), s')) : GateStab env fuel s s' ∧ NeverLost s s' ∧ QInvFE env sp s' :=
  GateF.stabilise_c06 E hF Q h

/-- **C06 AT EVERY `stabilise` OF EVERY HISTORY OF THE COMBINED FRAGMENT** run from the initial state. -/
theorem history_c06 {env : Env} {sp : Nat → Val → Val} (E : EnvS env sp) (hF : FirstFn env) {N : Nat} {d : Bool} {as bs : List Action}
    {s : State} {tk : Array Nat} (hH : HistFull env sp 0 (as ++ Action.stabilise :: bs))
    (h : Quiet.runActions env (as ++ Action.stabilise :: bs) (State.init N d) #[] = .ok (s, tk)) :
    ∃ s1 tk1 s2, Quiet.runActions env as (State.init N d) #[] = .ok (s1, tk1) ∧ QInvFE env sp s1 ∧
      (stabilise env fuelDefault).run.run s1 = (.ok (), s2) ∧ QInvFE env sp s2 ∧
      GateStab env fuelDefault s1 s2 ∧ NeverLost s1 s2 ∧
      Quiet.runActions env bs s2 tk1 = .ok (s, tk) :=
  GateF.history_c06 E hF hH h

/-! ## non-vacuity -/

/-- the hypotheses hold for the example history `exHistF` of `C01Full` (environment, fragment, it runs), so C06 holds at each of its seven `stabilise`s -/
example : EnvS fEnv fSp ∧ FirstFn fEnv ∧ HistFull fEnv fSp 0 exHistF ∧
    (∃ s tk, Quiet.runActions fEnv exHistF (State.init 128 true) #[] = .ok (s, tk)) ∧
    (∀ {as bs : List Action}, exHistF = as ++ Action.stabilise :: bs →
      ∃ s tk s1 tk1 s2, Quiet.runActions fEnv exHistF (State.init 128 true) #[] = .ok (s, tk) ∧
        Quiet.runActions fEnv as (State.init 128 true) #[] = .ok (s1, tk1) ∧
        (stabilise fEnv fuelDefault).run.run s1 = (.ok (), s2) ∧
        GateStab fEnv fuelDefault s1 s2 ∧ NeverLost s1 s2 ∧
        Quiet.runActions fEnv bs s2 tk1 = .ok (s, tk)) :=
  ⟨fEnv_envS, fEnv_first, exHistF_frag, exHistF_runs, fun e => exHistF_c06 e⟩

/-- the same for `exHistG` (`depend_on`, `cutoff n never`) -/
example : HistFull fEnv fSp 0 exHistG ∧
    (∀ {as bs : List Action}, exHistG = as ++ Action.stabilise :: bs →
      ∃ s tk s1 tk1 s2, Quiet.runActions fEnv exHistG (State.init 128 true) #[] = .ok (s, tk) ∧
        Quiet.runActions fEnv as (State.init 128 true) #[] = .ok (s1, tk1) ∧
        (stabilise fEnv fuelDefault).run.run s1 = (.ok (), s2) ∧
        GateStab fEnv fuelDefault s1 s2 ∧ NeverLost s1 s2 ∧
        Quiet.runActions fEnv bs s2 tk1 = .ok (s, tk)) :=
  ⟨exHistG_frag, fun e => exHistG_c06 e⟩

/-- why the nodes of three drains of `exHistF` run, kernel-checked (`EX.whyAfter acts` = the steps of the drain of the `stabilise` that follows `acts`, each as (node, stale at that
moment?, `recomputedAt` at that moment, the children that changed after it last ran)).  After writing only the third component of the pair variable 0: the map_ref nodes 5 and 12
because of 0, 13 because of 12, … — not 6, 7.  After writing the first component: 6 because of 5, 7 because of 6.  After the lhs flips: the fresh node 14 because it never ran. -/
example :
    EX.whyAfter (exHistF.take 7) = some [(0, true, 0, []), (5, true, 0, [0]), (12, true, 0, [0]), (13, true, 0, [12]), (10, true, 0, [13]),
      (11, true, 0, [10]), (4, true, 0, [11])] ∧
    EX.whyAfter (exHistF.take 9) = some [(0, true, 1, []), (5, true, 1, [0]), (6, true, 0, [5]), (7, true, 0, [6]), (12, true, 1, [0]),
      (8, true, 0, [7]), (11, true, 1, [8]), (4, true, 1, [11])] ∧
    EX.whyAfter (exHistF.take 11) = some [(1, true, 0, []), (3, true, 0, [1]), (14, true, -1, []), (4, true, 2, [3, 14])] :=
  exHistF_why

/-- the same for the second `stabilise` of `exHistG` -/
example :
    EX.whyAfter (exHistG.take 12) = some [(2, true, 0, []), (6, true, 0, [2]), (12, true, 0, [2]), (17, true, -1, [0]), (18, true, -1, [17]),
      (11, true, 0, [2]), (13, true, 0, [12, 18]), (14, true, 0, [11]), (4, true, 0, [14]), (5, true, 0, [4, 2])] :=
  exHistG_why

/-- **the gate is visible**, kernel-checked: the state after the second `stabilise` of `exHistF` (round 1: only the third component of the pair variable 0 was written), as (`stabNum`,
[(`recomputedAt`, `changedAt`, children, necessary) of the nodes 0, 5, 6, 7, 12, 13]).  The map_ref node 5 ran (`recomputedAt = 1`), its result was suppressed (`changedAt = 0`), its
necessary parent 6 and 7 above did not run (`recomputedAt = 0`); the map_ref node 12 ran and changed (`changedAt = 1`) and its necessary parent 13 ran (`recomputedAt = 1`). -/
example :
    (BindH.C2h.stateB fEnv (exHistF.take 8)).map (fun s => (s.stabNum, [0, 5, 6, 7, 12, 13].map fun m =>
        ((s.nodeD m).recomputedAt, (s.nodeD m).changedAt, s.children m, s.isNecessary m))) =
      some (2, [(1, 1, [], true), (1, 0, [0], true), (0, 0, [5], true), (0, 0, [6], true), (1, 1, [0], true), (1, 1, [12], true)]) :=
  exHistF_gate

end IncrVerif.Props.C06Full
