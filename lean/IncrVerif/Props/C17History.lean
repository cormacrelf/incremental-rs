import IncrVerif.Proofs.TidyH8
import IncrVerif.Proofs.TidyH2
import IncrVerif.Proofs.TidyH17
import IncrVerif.Proofs.TidyH30
import IncrVerif.Proofs.TidyH54
import IncrVerif.Proofs.TidyH67
import IncrVerif.Props.C15History
import IncrVerif.Props.C01MapRef
/-!
# C17 for the whole event log of a `stabilise`; at most once per round and total correctness for the extended fragments

This file closes gaps listed as "NOT PROVED" in the headers of `Props/C15History.lean` (C17 only per operator step; at
most once; total correctness), `Props/C01MapRef.lean` (at most once per round not restated; total correctness),
`Props/C09History.lean`, `Props/C08History.lean`, `Props/C14History.lean` (total correctness).

PROVED (for the model).

T2c — C17 AS A STATEMENT ABOUT THE WHOLE LOG (fragment static + `map_with_old`, operator closures `g ≥ opBase`;
`Proofs/TidyH4…8`).  For ONE `stabilise` from a state satisfying the invariant between API actions (`MapOldH.QInvW`; every
state of a history of the fragment does), an operator node `n` = `mapWithOld g i`, and `new` = the events this `stabilise`
appends to the log:
* `stabilise_operator_log` (positional form, `TidyH.StabCalls`): EITHER `n` is not recomputed — its stamp, closure state
  and stored output are unchanged and `new` contains no user-function call of `n` (`TidyH.NoCalls n new`: every event is
  notification noise or not an `inv` event of `n`) — OR `n` is recomputed, exactly once, and
  `new = A ++ callEvents n (opCalls d g σ old x) ++ B` where `σ`/`old` are the closure state (= THE INPUT THE OPERATOR LAST
  RAN ON) and the stored output of `n` BEFORE the `stabilise`, `x` is the value the input node `i` has AFTER it (the current
  input value), and neither `A` nor `B` contains a user-function call of `n`.
* `stabilise_operator_calls` (filter form): `callsAt n new` — the `inv` events of node `n` in `new` other than expert edge
  callbacks, i.e. the `M{m}.fn`/`add`/`remove`/`update`/`merge` events of the operator — is `[]` if `n` did not run and
  is EXACTLY `callEvents n (opCalls d g σ old x)` if it did (`(s'.nodeD n).recomputedAt = s.stabNum`).  Together with
  `C15History.operator_states` (`σ = .unit ∧ old = none`, or `σ` canonical and `old = some (opSpec d g σ)`) and the
  characterisations of `opCalls` in `C15History` (`filter_map_step_calls` … : only keys whose binding differs, each at
  most once per role) this is C17's statement for the whole log of a `stabilise`.
* `history_operator_calls`: the same at every `stabilise` of a history whose actions pass `okAction d`.
* Non-vacuity: on `C15History.histFm` the last `stabilise` (the re-observed filter-map node `n2`) logs exactly the calls
  for `2 ↦ 2` and `4 ↦ 1`, which are `opCalls` of (the input it last ran on, the current input) (`decide +kernel`).

T1a / T2a — AT MOST ONCE PER ROUND (fragments static + `map_ref`, static + `map_with_old`; `Proofs/Sched6`, `Proofs/TidyH2…3`).
`stabilise_once_mapref`, `stabilise_once_mapold`: the nodes on which `recomputeOne` is invoked during a `stabilise`
(`Sched.drainTrace` of the state `t2` in which the drain of THIS `stabilise` starts — `t2` is tied to the run by the four
phase equations) are pairwise distinct; each is necessary (in `t2` and in the final state), had not run in this round,
and carries the stamp of this round at the end.  `drain_once_mapref`, `drain_once_mapold`: the same for a `drainHeap`
from the drain invariant, and every `recomputeOne` of the drain happens in a state with the drain invariant
(`TidyH.drainSteps`: the trace WITH the states).  `history_once_mapref`, `history_once_mapold`: at every `stabilise` of a
history.  The proof is `Sched.drain_once` redone over an abstract drain invariant (`TidyH.OnceKit`), instantiated with
`MapRefH.DInvR` / `MapOldH.DInvW` (whose scheduling invariant lives on the virtual state).

T1b — TOTAL CORRECTNESS, fragment static + `map_ref` (`Proofs/TidyH55…67`).  `mapref_history_never_panics`: a valid
history (`RT.ValidHistR` = `Quiet.ValidHist` of the virtual history: the same room `nodes ≤ N` and fuel
`3 * nodes + 4 ≤ fuelDefault` as for static programs, plus an existing operand for `create (mapRef p i)`) of the fragment
never panics; `mapref_action_returns`, `mapref_stabilise_returns`, `mapref_valid_history_stabilise` (C01 with map_ref,
unconditionally).  METHOD: `RT.BSimAt P g s x x'` = forward simulation ∧ converse, carrying an invariant `P`; the pieces
that exist only in the actual engine are proved to return by hand: `markMapRefUnknown` (fuel `N ≤ fuel + n`; recorded
parents have larger indices — derived from the invariant of the virtual state at the start of each phase) inside the
linking cascade (`N + 2n + 2 ≤ fuel`), `child_changed` through chains of map_ref nodes (drain fuel invariant
`unrun + size + 2 ≤ fuel`), the map_ref node's own step (`Sched.mcvm_safe` on the virtual notification walk).

T2b — TOTAL CORRECTNESS, fragment static + `map_with_old` (`Proofs/TidyH9…17`).  `mapold_history_never_panics`,
`mapop_history_never_panics`: a VALID history (`WT.ValidHistW N 0 0 0 0 acts`, decidable: operands name existing
top-level nodes, observer/variable indices exist, never more than `N` = height limit nodes — `create (mapOp …)` adds 3
nodes, 5 for merge —, `3 * nodes + 4 ≤ fuelDefault` at every `stabilise`) of actions of the fragment NEVER PANICS from
`State.init N d`; the final state satisfies `QInvW` and `WT.TInvW` (= `Quiet.TInv` without `top.size = nodes.size`, which
is false after a `mapOp` creation).  `mapold_action_returns`, `mapold_stabilise_returns`; `valid_history_operator_calls`:
hence C15/C17 unconditionally at every `stabilise` of a valid history.  METHOD: an EXACT simulation
`WT.SimAt s x x'` (same outcome — result or the same panic — from `s` and from `virt s`, final states related by `virt`)
for every engine function except the recompute of a map_with_old node; totality of the static fragment
(`Proofs/Quiet20…28`, `Sched10…13`) transfers through it (`WT.SimAt.tot`); the operator node's step: master equation +
`Sched.mcvm_safe` on the virtual notification walk.

T3 — TOTAL CORRECTNESS, subscriptions (`Proofs/TidyH18…24`) and write effects (`Proofs/TidyH25…30`).
`subs_history_never_panics`: a valid history (`SubsT.ValidHistS` = `Quiet.ValidHist` + every `subscribe` names an existing
observer) of the fragment of `Props/C09History.lean` never panics; `subs_valid_history_notifications`: hence every token
receives exactly its specified updates.  `effects_history_never_panics`: a valid history (`EffT.ValidHistW N B`:
additionally, at every `stabilise` all variables that functions/handlers may write — indices `< B`, `EffT.FnBound`,
`EffT.HBound` — exist) of the fragment V3 of `Props/C08History.lean` never panics; `effects_valid_history_stabilise`.
Each validity clause is necessary (kernel-checked witnesses: `subscribe` on a missing observer, a write to a missing
variable panic in the model).  No bound on the `is_stable` loop is claimed.

T4 — TOTAL CORRECTNESS, expert fragment X1 of `Props/C14History.lean` (`Proofs/TidyH31…54`).
`expert_history_never_panics`: a valid run (`XT.ValidRun`: `ExpertH.RunOK` — incl. the acyclicity hypothesis `AddDepOK` of
every `addDep` — plus existing indices, `nodes.size ≤ N`, `3 * nodes + 4 ≤ fuelDefault` for `stabilise`/`addDep`) never
panics; `expert_addDep_returns` (`adjustHeights` terminates: ranks increase along recorded parent edges, every node is
popped at most once, heights stay `≤ depth + 1 ≤ nodes.size ≤ N`); `expert_valid_history_stabilise`.  METHOD: converse
simulation `XT.SimRAt` (virtual run ok ⇒ actual run ok) mirroring `ExpertH23…31`, and the lemmas of `Quiet21…28` for the
ranked invariants `ExpertH.QR.*` with the height bound by DEPTH.  `ValidRun` is state-dependent (acyclicity is a property
of the current graph); `XT.validRunB` is a checker that runs the model.

ASSUMED.  T2c/T1a/T2a are partial-correctness statements (the `stabilise` returns) — unconditional for valid histories by
T1b/T2b.  Hypotheses are those of the fragments (`Props/C15History.lean`, `Props/C01MapRef.lean`, `Props/C09History.lean`,
`Props/C08History.lean`).
-/
namespace IncrVerif.Props.C17History
open IncrVerif IncrVerif.Engine IncrVerif.Driver IncrVerif.MapOps IncrVerif.Proofs IncrVerif.Proofs.Sched
open IncrVerif.Proofs.Quiet IncrVerif.Proofs.TidyH

/-! ## T2c: C17 for the whole log of a `stabilise` -/

section c17
open IncrVerif.Proofs.MapOldH

/-- **C17, whole log, positional form.** -/
theorem stabilise_operator_log {d : Defs} {n g i fuel : Nat} {s s' : State} (hg : opBase ≤ g)
    (Q : QInvW d.toEnv Canon (machSpec d) s) (hk : (s.nodeD n).kind = .mapWithOld g i)
    (h : (stabilise d.toEnv fuel).run.run s = (.ok (), s')) :
    ∃ new, s'.log = new ++ s.log ∧ (s.nodeD n).recomputedAt < s.stabNum ∧ StabCalls d n g i s s' new :=
  stabilise_calls hg Q hk h

/-- **C17, whole log.** In one `stabilise` (from the invariant between API actions) the user-function events of the
operator node `n` are: none, if `n` is not recomputed (then its closure state and stored output are unchanged); exactly
`opCalls d g σ old x` — `σ` = closure state = the input the operator last ran on, `old` = stored output, both BEFORE the
`stabilise`; `x` = the value of the input node AFTER it — if `n` is recomputed (`recomputedAt = ` this round), which
happens at most once (`stabilise_once_mapold`).  `(σ, old)` is the state of a fresh node or `(x0, opSpec d g x0)`. -/
theorem stabilise_operator_calls {d : Defs} {n g i fuel : Nat} {s s' : State} (hg : opBase ≤ g)
    (Q : QInvW d.toEnv Canon (machSpec d) s) (hk : (s.nodeD n).kind = .mapWithOld g i)
    (h : (stabilise d.toEnv fuel).run.run s = (.ok (), s')) :
    ∃ new, s'.log = new ++ s.log ∧
      ((s'.nodeD n).recomputedAt ≠ s.stabNum → callsAt n new = [] ∧
        (s'.nodeD n).oldState = (s.nodeD n).oldState ∧ (s'.nodeD n).value = (s.nodeD n).value) ∧
      ((s'.nodeD n).recomputedAt = s.stabNum → ∃ x, (s'.nodeD i).value = some x ∧ Canon x ∧
        callsAt n new = callEvents n (opCalls d g (s.nodeD n).oldState (s.nodeD n).value x)) ∧
      (((s.nodeD n).oldState = .unit ∧ (s.nodeD n).value = none) ∨
        (Canon (s.nodeD n).oldState ∧ (s.nodeD n).value = some (opSpec d g (s.nodeD n).oldState))) := by
  obtain ⟨new, h1, h2, h3⟩ := stabilise_calls hg Q hk h
  obtain ⟨a, b⟩ := stabCalls_filter h2 h3
  exact ⟨new, h1, a, b, (opSt_iff d g _ _).1 (opReach d g hg _ _ (Q.m.mach n g i hk))⟩

/-- **C17, whole log, an operator that has run before.** If the operator node `n` has a stored output before the
`stabilise` and is recomputed in it, then its closure state `x0` is the (canonical) input it last ran on, the input node
ends with a canonical value `x`, and the user-function events of `n` logged by the `stabilise` are exactly
`opCalls d g x0 (some (opSpec d g x0)) x`. -/
theorem stabilise_operator_rerun {d : Defs} {n g i fuel : Nat} {s s' : State} (hg : opBase ≤ g)
    (Q : QInvW d.toEnv Canon (machSpec d) s) (hk : (s.nodeD n).kind = .mapWithOld g i)
    (hran : (s.nodeD n).value ≠ none) (hrun : (s'.nodeD n).recomputedAt = s.stabNum)
    (h : (stabilise d.toEnv fuel).run.run s = (.ok (), s')) :
    ∃ new x x0, s'.log = new ++ s.log ∧ (s'.nodeD i).value = some x ∧ Canon x ∧ (s.nodeD n).oldState = x0 ∧ Canon x0 ∧
      callsAt n new = callEvents n (opCalls d g x0 (some (opSpec d g x0)) x) := by
  obtain ⟨new, e, -, b, hst⟩ := stabilise_operator_calls hg Q hk h
  obtain ⟨x, hx, hC, hc⟩ := b hrun
  rcases hst with ⟨-, hnone⟩ | ⟨hC0, hval⟩
  · exact absurd hnone hran
  · exact ⟨new, x, _, e, hx, hC, rfl, hC0, by rw [hc, hval]⟩

/-- **C17, whole log, `incr_filter_mapi`.** In one `stabilise` in which a filter-map node that has run before is
recomputed, the `M{m}.fn` events of the node are EXACTLY one call for every binding `k ↦ v` of the CURRENT input `x` that
the input `x0` it LAST RAN ON did not hold — never for removed or untouched keys. -/
theorem stabilise_filter_map_calls {d : Defs} {n g i m fuel : Nat} {s s' : State} (hg : opBase ≤ g)
    (Q : QInvW d.toEnv Canon (machSpec d) s) (hk : (s.nodeD n).kind = .mapWithOld g i)
    (hd : decodeOp g = (.fm, m)) (hran : (s.nodeD n).value ≠ none)
    (hrun : (s'.nodeD n).recomputedAt = s.stabNum) (h : (stabilise d.toEnv fuel).run.run s = (.ok (), s')) :
    ∃ new x x0 calls, s'.log = new ++ s.log ∧ (s'.nodeD i).value = some x ∧ (s.nodeD n).oldState = x0 ∧
      callsAt n new = callEvents n calls ∧
      ∀ c, c ∈ calls ↔ ∃ k v, c = (s!"M{m}.fn", [.int k, .int v], optStr (opFmFn (d.opParams m) k v)) ∧
        AMap.lookup (asMap x) k = some v ∧ AMap.lookup (asMap x0) k ≠ some v := by
  obtain ⟨new, x, x0, e, hx, hC, h0, hC0, hc⟩ := stabilise_operator_rerun hg Q hk hran hrun h
  exact ⟨new, x, x0, _, e, hx, h0, hc, fun c => C17_fm_calls_iff d g m hd x0 x hC0 hC c⟩

/-- **C17, whole log, the fold**: every user-function event of the node in the log of the `stabilise` is an
`add`/`remove`/`update` for a key whose binding differs between the input last run on and the current input. -/
theorem stabilise_fold_calls {d : Defs} {n g i m fuel : Nat} {rev upd : Bool} {s s' : State} (hg : opBase ≤ g)
    (Q : QInvW d.toEnv Canon (machSpec d) s) (hk : (s.nodeD n).kind = .mapWithOld g i)
    (hd : decodeOp g = (.fold rev upd, m)) (hran : (s.nodeD n).value ≠ none)
    (hrun : (s'.nodeD n).recomputedAt = s.stabNum) (h : (stabilise d.toEnv fuel).run.run s = (.ok (), s')) :
    ∃ new x x0 calls, s'.log = new ++ s.log ∧ (s'.nodeD i).value = some x ∧ (s.nodeD n).oldState = x0 ∧
      callsAt n new = callEvents n calls ∧
      ∀ c, c ∈ calls → ∃ k rest, c.2.1 = .int k :: rest ∧ AMap.lookup (asMap x) k ≠ AMap.lookup (asMap x0) k ∧
        (c.1 = s!"M{m}.add" ∨ c.1 = s!"M{m}.remove" ∨ c.1 = s!"M{m}.update") := by
  obtain ⟨new, x, x0, e, hx, hC, h0, hC0, hc⟩ := stabilise_operator_rerun hg Q hk hran hrun h
  exact ⟨new, x, x0, _, e, hx, h0, hc, C17_fold_calls d g m rev upd hd x0 x hC0 hC⟩

/-- **C17, whole log, merge**: every event is a `merge` call for a key whose binding differs in the left or the right
input. -/
theorem stabilise_merge_calls {d : Defs} {n g i m fuel : Nat} {s s' : State} (hg : opBase ≤ g)
    (Q : QInvW d.toEnv Canon (machSpec d) s) (hk : (s.nodeD n).kind = .mapWithOld g i)
    (hd : decodeOp g = (.merge, m)) (hran : (s.nodeD n).value ≠ none)
    (hrun : (s'.nodeD n).recomputedAt = s.stabNum) (h : (stabilise d.toEnv fuel).run.run s = (.ok (), s')) :
    ∃ new x x0 calls, s'.log = new ++ s.log ∧ (s'.nodeD i).value = some x ∧ (s.nodeD n).oldState = x0 ∧
      callsAt n new = callEvents n calls ∧
      ∀ c, c ∈ calls → ∃ k, c.1 = s!"M{m}.merge" ∧ (∃ l rr, c.2.1 = [.int k, l, rr]) ∧
        (AMap.lookup (mergeIn x).1 k ≠ AMap.lookup (mergeIn x0).1 k ∨
          AMap.lookup (mergeIn x).2 k ≠ AMap.lookup (mergeIn x0).2 k) := by
  obtain ⟨new, x, x0, e, hx, hC, h0, hC0, hc⟩ := stabilise_operator_rerun hg Q hk hran hrun h
  refine ⟨new, x, x0, _, e, hx, h0, hc, fun c hcm => ?_⟩
  obtain ⟨k, rfl, hdiff⟩ := C17_merge_calls_gen d g m hd x0 x hC0 hC c hcm
  exact ⟨k, rfl, ⟨_, _, rfl⟩, hdiff⟩

/-- **C17, whole log, partition**: every event is a call for a binding of the current input that the input last run on
did not hold. -/
theorem stabilise_partition_calls {d : Defs} {n g i m fuel : Nat} {s s' : State} (hg : opBase ≤ g)
    (Q : QInvW d.toEnv Canon (machSpec d) s) (hk : (s.nodeD n).kind = .mapWithOld g i)
    (hd : decodeOp g = (.part, m)) (hran : (s.nodeD n).value ≠ none)
    (hrun : (s'.nodeD n).recomputedAt = s.stabNum) (h : (stabilise d.toEnv fuel).run.run s = (.ok (), s')) :
    ∃ new x x0 calls, s'.log = new ++ s.log ∧ (s'.nodeD i).value = some x ∧ (s.nodeD n).oldState = x0 ∧
      callsAt n new = callEvents n calls ∧
      ∀ c, c ∈ calls → ∃ k v, c.1 = s!"M{m}.fn" ∧ c.2.1 = [.int k, .int v] ∧
        AMap.lookup (asMap x) k = some v ∧ AMap.lookup (asMap x0) k ≠ some v := by
  obtain ⟨new, x, x0, e, hx, hC, h0, hC0, hc⟩ := stabilise_operator_rerun hg Q hk hran hrun h
  refine ⟨new, x, x0, _, e, hx, h0, hc, fun c hcm => ?_⟩
  obtain ⟨k, v, rfl, h1, h2⟩ := C17_part_calls d g m hd x0 x hC0 hC c hcm
  exact ⟨k, v, rfl, rfl, h1, h2⟩

/-- **C17, whole log: an unchanged input costs no call**, whatever the operator: if the input node ends the `stabilise`
with the value the operator last ran on, the `stabilise` logs no user-function event of the operator node (whether or not
it is recomputed). -/
theorem stabilise_same_input_no_calls {d : Defs} {n g i fuel : Nat} {s s' : State} (hg : opBase ≤ g)
    (Q : QInvW d.toEnv Canon (machSpec d) s) (hk : (s.nodeD n).kind = .mapWithOld g i)
    (hran : (s.nodeD n).value ≠ none) (hsame : (s'.nodeD i).value = some (s.nodeD n).oldState)
    (h : (stabilise d.toEnv fuel).run.run s = (.ok (), s')) :
    ∃ new, s'.log = new ++ s.log ∧ callsAt n new = [] := by
  by_cases hrun : (s'.nodeD n).recomputedAt = s.stabNum
  · obtain ⟨new, x, x0, e, hx, hC, h0, hC0, hc⟩ := stabilise_operator_rerun hg Q hk hran hrun h
    rw [hsame] at hx
    cases hx
    refine ⟨new, e, ?_⟩
    rw [hc, ← h0, C17_same d g _ (by rw [h0]; exact hC0)]
    rfl
  · obtain ⟨new, e, a, -, -⟩ := stabilise_operator_calls hg Q hk h
    exact ⟨new, e, (a hrun).1⟩

/-- **C17 at every `stabilise` of a history** whose actions pass the decidable test `okAction d`. -/
theorem history_operator_calls (d : Defs) {N : Nat} {dbg : Bool} {as bs : List Action} {s : State} {tk : Array Nat}
    {n g i : Nat} (hg : opBase ≤ g) (ha : ∀ a, a ∈ as ++ Action.stabilise :: bs → okAction d a = true)
    (h : runActions d.toEnv (as ++ Action.stabilise :: bs) (State.init N dbg) #[] = .ok (s, tk)) :
    ∃ s1 tk1 s2 new, runActions d.toEnv as (State.init N dbg) #[] = .ok (s1, tk1) ∧
      (stabilise d.toEnv fuelDefault).run.run s1 = (.ok (), s2) ∧ runActions d.toEnv bs s2 tk1 = .ok (s, tk) ∧
      s2.log = new ++ s1.log ∧
      ((s1.nodeD n).kind = .mapWithOld g i →
        ((s2.nodeD n).recomputedAt ≠ s1.stabNum → callsAt n new = []) ∧
        ((s2.nodeD n).recomputedAt = s1.stabNum → ∃ x, (s2.nodeD i).value = some x ∧ Canon x ∧
          callsAt n new = callEvents n (opCalls d g (s1.nodeD n).oldState (s1.nodeD n).value x))) := by
  obtain ⟨s1, tk1, s2, h1, Q1, h2, -, -, -, -, h6⟩ :=
    historyW_stabilise (valOK_toEnv d) (fun a hm => okAction_sound (ha a hm)) h
  by_cases hk : (s1.nodeD n).kind = .mapWithOld g i
  · obtain ⟨new, e, a, b, -⟩ := stabilise_operator_calls hg Q1 hk h2
    exact ⟨s1, tk1, s2, new, h1, h2, h6, e, fun _ => ⟨fun hne => (a hne).1, b⟩⟩
  · obtain ⟨t1, t2, t3, -, r1, r2, r3, r4⟩ := Step.stabilise_phases.1 h2
    -- the log only grows: take the difference
    obtain ⟨D2, W2, hst, hsd, hdv, hobs, hrec⟩ := prefix_drainInvW Q1 r1 r2
    obtain ⟨n1, e1, -⟩ := (addNewObservers_logN d.toEnv fuelDefault).h _ _ _ r1
    obtain ⟨n2, e2, -⟩ := (unlinkDisallowedObservers_logN fuelDefault).h _ _ _ r2
    obtain ⟨E, a1, a2, a3⟩ := end_finishedW (valOK_toEnv d) D2 hsd hdv hobs r3 r4
    have hlogE := stabiliseEnd_log a1 a2 a3 r4
    have hgrow : ∃ n3, t3.log = n3 ++ t2.log :=
      MapOldH.drain_steps_ind (valOK_toEnv d) (fun a b => ∃ l, b.log = l ++ a.log) (fun _ => ⟨[], rfl⟩)
        (fun a b c ⟨l1, e1⟩ ⟨l2, e2⟩ => ⟨l2 ++ l1, by rw [e2, e1, List.append_assoc]⟩)
        (fun s r s1 D h => by
          have hinv := rchRemoveMin_inv (heapInv_of_virt D.inv.heap) h
          cases r with
          | none => obtain ⟨rfl, -⟩ := hinv; exact ⟨[], rfl⟩
          | some m => obtain ⟨-, -, -, hs1, -⟩ := hinv; exact ⟨[], by rw [hs1]; rfl⟩)
        (fun s m fuel r s' D h => by
          obtain ⟨v, σ, evs, P, -⟩ := stepPost_frag D h
          obtain ⟨tail, hl, -⟩ := P.log
          exact ⟨tail ++ evs, by rw [hl, List.append_assoc]⟩) fuelDefault t2 t3 D2 r3
    obtain ⟨n3, e3⟩ := hgrow
    exact ⟨s1, tk1, s2, n3 ++ (n2 ++ n1), h1, h2, h6, by rw [hlogE, e3, e2, e1]; simp only [List.append_assoc],
      fun hk' => absurd hk' hk⟩

/-! ### non-vacuity -/

/-- the state after a history run from the initial state -/
def stateAfter (env : Env) (acts : List Action) : Option State :=
  match runActions env acts (State.init 128 true) #[] with
  | .ok (s, _) => some s
  | .error _ => none

/-- the user-function calls of node `n` logged by the actions after the first `k`, oldest first, rendered as in the
trace -/
def callsOf (env : Env) (acts : List Action) (k n : Nat) : List String :=
  match stateAfter env (acts.take k), stateAfter env acts with
  | some s1, some s2 => (callsAt n (s2.log.take (s2.log.length - s1.log.length))).reverse.map Event.render
  | _, _ => []

/-- what the theorem says they are: `opCalls` of (closure state, stored output) after the first `k` actions and the value
of the input node at the end -/
def specCalls (d : Defs) (acts : List Action) (k n g i : Nat) : List String :=
  match stateAfter d.toEnv (acts.take k), stateAfter d.toEnv acts with
  | some s1, some s2 =>
    match (s2.nodeD i).value with
    | some x => (callEvents n (opCalls d g (s1.nodeD n).oldState (s1.nodeD n).value x)).reverse.map Event.render
    | none => []
  | _, _ => []

set_option maxRecDepth 100000 in
/-- `C15History.histFm`: its last action is the `stabilise` after the filter-map node `n2` (closure `opBase + 0`, input
node `n1`) was re-observed; it last ran on `{1:3,2:1,5:3}`, the input is now `{2:2,4:1}`.  The user-function events of `n2`
in the log of THAT `stabilise` are the two calls for `2 ↦ 2` and `4 ↦ 1` — and they are `opCalls` of (input last run on,
stored output, current input), as `history_operator_calls` says.  In the `stabilise` before (actions 13–14: the node is
unobserved, the input was edited) the node logs nothing. -/
example : callsOf C15History.exD.toEnv C15History.histFm 15 2 = ["inv M0.fn@n2 (2,2)->2", "inv M0.fn@n2 (4,1)->()"] ∧
    callsOf C15History.exD.toEnv C15History.histFm 15 2 = specCalls C15History.exD C15History.histFm 15 2 opBase 1 ∧
    callsOf C15History.exD.toEnv (C15History.histFm.take 14) 12 2 = [] :=
  by decide +kernel

end c17

/-! ## T2a: at most once per round, fragment static + `map_with_old` -/

section mapold
open IncrVerif.Proofs.MapOldH

/-- **at most once, the drain** (fragment static + map_with_old): the nodes run by a successful `drainHeap` from the
drain invariant are pairwise distinct; each is necessary, had not run in this round and is stamped afterwards; every
`recomputeOne` of the drain happens in a state with the drain invariant. -/
theorem drain_once_mapold {env : Env} {C : Val → Prop} {sp : Nat → Val → Val} (V : ValOK env C sp) {fuel : Nat}
    {s s' : State} (D : DrainInvW env C sp s) (h : (drainHeap env fuel).run.run s = (.ok (), s')) :
    (drainTrace env fuel s).Nodup ∧ (∀ m, m ∈ drainTrace env fuel s → RanOnce s s' m) ∧
      (drainSteps env fuel s).map (·.1) = drainTrace env fuel s ∧
      ∀ p, p ∈ drainSteps env fuel s → DInvW env C sp p.2 (some p.1) ∧ FrA s p.2 := by
  obtain ⟨a, b, c⟩ := drain_onceW V D h
  exact ⟨a, b, drainSteps_fst env fuel s, c⟩

/-- **at most once per round, and only necessary nodes** (fragment static + map_with_old): `t2` is the state in which the
drain of this `stabilise` starts. -/
theorem stabilise_once_mapold {env : Env} {C : Val → Prop} {sp : Nat → Val → Val} {fuel : Nat} {s s' : State}
    (V : ValOK env C sp) (Q : QInvW env C sp s) (h : (stabilise env fuel).run.run s = (.ok (), s')) :
    ∃ t1 t2 t3, (addNewObservers env fuel).run.run { s with status := .stabilising } = (.ok (), t1) ∧
      (unlinkDisallowedObservers fuel).run.run t1 = (.ok (), t2) ∧
      (drainHeap env fuel).run.run t2 = (.ok (), t3) ∧ (stabiliseEnd env fuel).run.run t3 = (.ok (), s') ∧
      DrainInvW env C sp t2 ∧ (drainTrace env fuel t2).Nodup ∧
      ∀ m, m ∈ drainTrace env fuel t2 → t2.isNecessary m = true ∧ s'.isNecessary m = true ∧
        (t2.nodeD m).recomputedAt < s.stabNum ∧ (s'.nodeD m).recomputedAt = s.stabNum :=
  stabilise_onceW V Q h

/-- at every `stabilise` of a history of the fragment -/
theorem history_once_mapold {env : Env} {C : Val → Prop} {sp : Nat → Val → Val} {N : Nat} {d : Bool}
    {as bs : List Action} {s : State} {tk : Array Nat} (V : ValOK env C sp)
    (ha : ∀ a, a ∈ as ++ Action.stabilise :: bs → WAction env C sp a)
    (h : runActions env (as ++ Action.stabilise :: bs) (State.init N d) #[] = .ok (s, tk)) :
    ∃ s1 tk1 s2 t2, runActions env as (State.init N d) #[] = .ok (s1, tk1) ∧
      (stabilise env fuelDefault).run.run s1 = (.ok (), s2) ∧ runActions env bs s2 tk1 = .ok (s, tk) ∧
      (drainTrace env fuelDefault t2).Nodup ∧
      ∀ m, m ∈ drainTrace env fuelDefault t2 → s2.isNecessary m = true ∧ (s2.nodeD m).recomputedAt = s1.stabNum := by
  obtain ⟨s1, tk1, s2, h1, Q1, h2, -, -, -, -, h6⟩ := historyW_stabilise V ha h
  obtain ⟨t1, t2, t3, -, -, -, -, -, hnd, hall⟩ := stabilise_onceW V Q1 h2
  exact ⟨s1, tk1, s2, t2, h1, h2, h6, hnd, fun m hm => ⟨(hall m hm).2.1, (hall m hm).2.2.2⟩⟩

/-! ### T2b: total correctness, fragment static + `map_with_old` -/

/-- **one action returns**: every action of the fragment whose indices exist (`WT.ActionOKW`: operands name top-level
nodes, observers/variables exist, room for the 1/3/5 new nodes of a creation, `3 * nodes + 4 ≤ fuelDefault` for a
`stabilise`) returns and keeps the invariants. -/
theorem mapold_action_returns {env : Env} {C : Val → Prop} {sp : Nat → Val → Val} {N : Nat} {s : State} {a : Action}
    {tk : Array Nat} (V : ValOK env C sp) (Q : QInvW env C sp s) (T : WT.TInvW N s) (ha : WAction env C sp a)
    (hok : WT.ActionOKW N s a) :
    ∃ r s', (stepAction env a tk).run.run s = (.ok r, s') ∧ r.2 = tk ∧ QInvW env C sp s' ∧ WT.TInvW N s' ∧
      WT.GrownW a s s' :=
  WT.step_totalW V Q T ha hok

/-- **`stabilise` returns** (fragment static + map_with_old, pending observers allowed). -/
theorem mapold_stabilise_returns {env : Env} {C : Val → Prop} {sp : Nat → Val → Val} {N fuel : Nat} {s : State}
    (V : ValOK env C sp) (Q : QInvW env C sp s) (T : WT.TInvW N s) (hf : 3 * s.nodes.size + 4 ≤ fuel) :
    ∃ s', (stabilise env fuel).run.run s = (.ok (), s') ∧ WT.TInvW N s' ∧ StabilisedW env C sp fuel s s' := by
  obtain ⟨_, s', h, T', -⟩ := WT.stabiliseW_total V Q T hf
  exact ⟨s', h, T', stabiliseW V Q h⟩

/-- **T2b: a valid history of the fragment static + map_with_old never panics** (`WT.ValidHistW N 0 0 0 0 acts`,
decidable: every operand names an existing top-level node, every observer / variable index exists, the number of nodes
never exceeds `N` = the height limit — a `mapOp` creation adds 3 nodes, 5 for merge —, `3 * nodes + 4 ≤ fuelDefault` at
every `stabilise`). -/
theorem mapold_history_never_panics {env : Env} {C : Val → Prop} {sp : Nat → Val → Val} {N : Nat} {d : Bool}
    {acts : List Action} (V : ValOK env C sp) (ha : ∀ a, a ∈ acts → WAction env C sp a)
    (hv : WT.ValidHistW N 0 0 0 0 acts) :
    ∃ s', runActions env acts (State.init N d) #[] = .ok (s', #[]) ∧ QInvW env C sp s' ∧ WT.TInvW N s' :=
  WT.history_totalW V ha hv

/-- the same for definition tables: actions pass `okAction d`, the history is valid -/
theorem mapop_history_never_panics (d : Defs) {N : Nat} {dbg : Bool} {acts : List Action}
    (ha : ∀ a, a ∈ acts → okAction d a = true) (hv : WT.ValidHistW N 0 0 0 0 acts) :
    ∃ s', runActions d.toEnv acts (State.init N dbg) #[] = .ok (s', #[]) ∧ DInv d s' ∧ WT.TInvW N s' :=
  WT.mapop_history_never_panics d ha hv

/-- hence, UNCONDITIONALLY for valid histories: every `stabilise` of a valid history of map operators returns, after it
every in-use observer reads the operators' definitions (`C15History.mapop_history_every_stabilise`), and the
user-function events of every operator node in its log are exactly `opCalls` of (input last run on, current input)
(`history_operator_calls`). -/
theorem valid_history_operator_calls (d : Defs) {N : Nat} {dbg : Bool} {as bs : List Action} {n g i : Nat}
    (hg : opBase ≤ g) (ha : ∀ a, a ∈ as ++ Action.stabilise :: bs → okAction d a = true)
    (hv : WT.ValidHistW N 0 0 0 0 (as ++ Action.stabilise :: bs)) :
    ∃ s1 tk1 s2 s new, runActions d.toEnv as (State.init N dbg) #[] = .ok (s1, tk1) ∧
      (stabilise d.toEnv fuelDefault).run.run s1 = (.ok (), s2) ∧ runActions d.toEnv bs s2 tk1 = .ok (s, #[]) ∧
      ReadsOKW d.toEnv (machSpec d) s2 ∧ s2.log = new ++ s1.log ∧
      ((s1.nodeD n).kind = .mapWithOld g i →
        ((s2.nodeD n).recomputedAt ≠ s1.stabNum → callsAt n new = []) ∧
        ((s2.nodeD n).recomputedAt = s1.stabNum → ∃ x, (s2.nodeD i).value = some x ∧ Canon x ∧
          callsAt n new = callEvents n (opCalls d g (s1.nodeD n).oldState (s1.nodeD n).value x))) := by
  obtain ⟨s, h, -, -⟩ := WT.mapop_history_never_panics d (dbg := dbg) ha hv
  obtain ⟨s1, tk1, s2, new, h1, h2, h3, e, hc⟩ := history_operator_calls d (n := n) (i := i) hg ha h
  obtain ⟨s1', tk1', s2', h1', h2', -, hr, -, -, -⟩ := C15History.mapop_history_every_stabilise d ha h
  rw [h1] at h1'
  cases h1'
  rw [h2] at h2'
  cases h2'
  exact ⟨s1, tk1, s2, s, new, h1, h2, h3, hr, e, hc⟩

/-- `C15History.histFm` and `histMerge` are valid (decided, not run) — so they never panic, by the theorem -/
example : WT.ValidHistW 128 0 0 0 0 C15History.histFm ∧ WT.ValidHistW 128 0 0 0 0 C15History.histMerge :=
  ⟨by decide, by decide⟩

example : ∃ s, runActions C15History.exD.toEnv C15History.histFm (State.init 128 true) #[] = .ok (s, #[]) ∧
    DInv C15History.exD s ∧ WT.TInvW 128 s :=
  mapop_history_never_panics C15History.exD
    (fun a h => List.all_eq_true.1 (by decide : C15History.histFm.all (okAction C15History.exD) = true) a h) (by decide)

/-- validity is needed: with room for 6 nodes only, `histFm` (7 nodes) is not valid -/
example : ¬ WT.ValidHistW 6 0 0 0 0 C15History.histFm := by decide

end mapold

/-! ## T1a: at most once per round, fragment static + `map_ref` -/

section mapref
open IncrVerif.Proofs.MapRefH

/-- **at most once, the drain** (fragment static + map_ref). -/
theorem drain_once_mapref {env : Env} {fuel : Nat} {s s' : State} (D : DrainInvR env s)
    (h : (drainHeap env fuel).run.run s = (.ok (), s')) :
    (drainTrace env fuel s).Nodup ∧ (∀ m, m ∈ drainTrace env fuel s → RanOnce s s' m) ∧
      (drainSteps env fuel s).map (·.1) = drainTrace env fuel s ∧
      ∀ p, p ∈ drainSteps env fuel s → (∃ g, DInvR env p.2 g (some p.1)) ∧ FrA s p.2 := by
  obtain ⟨a, b, c⟩ := drain_onceR D h
  exact ⟨a, b, drainSteps_fst env fuel s, c⟩

/-- **at most once per round, and only necessary nodes** (fragment static + map_ref): the nodes on which `recomputeOne`
is invoked during a `stabilise` from the invariant between API actions are pairwise distinct, and each is necessary. -/
theorem stabilise_once_mapref {env : Env} {g : Nat → Option Val} {fuel : Nat} {s s' : State} (Q : QInvR env s g)
    (h : (stabilise env fuel).run.run s = (.ok (), s')) :
    ∃ t1 t2 t3, (addNewObservers env fuel).run.run { s with status := .stabilising } = (.ok (), t1) ∧
      (unlinkDisallowedObservers fuel).run.run t1 = (.ok (), t2) ∧
      (drainHeap env fuel).run.run t2 = (.ok (), t3) ∧ (stabiliseEnd env fuel).run.run t3 = (.ok (), s') ∧
      DrainInvR env t2 ∧ (drainTrace env fuel t2).Nodup ∧
      ∀ m, m ∈ drainTrace env fuel t2 → t2.isNecessary m = true ∧ s'.isNecessary m = true ∧
        (t2.nodeD m).recomputedAt < s.stabNum ∧ (s'.nodeD m).recomputedAt = s.stabNum :=
  stabilise_onceR Q h

/-- at every `stabilise` of a history of the fragment -/
theorem history_once_mapref {env : Env} {N : Nat} {d : Bool} {as bs : List Action} {s : State} {tk : Array Nat}
    (ha : ∀ a, a ∈ as ++ Action.stabilise :: bs → MapRefAction env a)
    (h : runActions env (as ++ Action.stabilise :: bs) (State.init N d) #[] = .ok (s, tk)) :
    ∃ s1 tk1 s2 t2, runActions env as (State.init N d) #[] = .ok (s1, tk1) ∧
      (stabilise env fuelDefault).run.run s1 = (.ok (), s2) ∧ runActions env bs s2 tk1 = .ok (s, tk) ∧
      (drainTrace env fuelDefault t2).Nodup ∧
      ∀ m, m ∈ drainTrace env fuelDefault t2 → s2.isNecessary m = true ∧ (s2.nodeD m).recomputedAt = s1.stabNum := by
  obtain ⟨s1, tk1, s2, g1, g2, h1, Q1, h2, -, -, -, -, h6⟩ := historyR_stabilise ha h
  obtain ⟨t1, t2, t3, -, -, -, -, -, hnd, hall⟩ := stabilise_onceR Q1 h2
  exact ⟨s1, tk1, s2, t2, h1, h2, h6, hnd, fun m hm => ⟨(hall m hm).2.1, (hall m hm).2.2.2⟩⟩

/-! ### T1b: total correctness, fragment static + `map_ref` -/

/-- **T1b: a valid history of the fragment static + map_ref never panics.**  `RT.ValidHistR N 0 0 0 acts` is
`Quiet.ValidHist` of the virtual history (`RT.validHistR_iff`): existing operands (also the operand of
`create (mapRef p i)`), observers and variables, at most `N` = height limit nodes, `3 * nodes + 4 ≤ fuelDefault` at every
`stabilise` — the SAME room and fuel as for static programs: the recursions that exist only in the actual engine
(`markMapRefUnknown` through the parents of map_ref nodes in the linking cascade, `child_changed` through chains of
map_ref nodes in the drain) fit into that fuel. -/
theorem mapref_history_never_panics {env : Env} {N : Nat} {d : Bool} {acts : List Action}
    (ha : ∀ a, a ∈ acts → MapRefAction env a) (hv : RT.ValidHistR N 0 0 0 acts) :
    ∃ s', runActions env acts (State.init N d) #[] = .ok (s', #[]) ∧ QInvRE env s' ∧ TInv N s' :=
  RT.historyR_total ha hv

/-- one action of the fragment whose indices exist returns and keeps the invariants -/
theorem mapref_action_returns {env : Env} {g : Nat → Option Val} {N : Nat} {s : State} {a : Action} {tk : Array Nat}
    (Q : QInvR env s g) (T : TInv N s) (ha : MapRefAction env a) (hok : RT.ActionOKR N s a) :
    ∃ r s', (stepAction env a tk).run.run s = (.ok r, s') ∧ r.2 = tk ∧ QInvRE env s' ∧ TInv N s' ∧ Grown a s s' :=
  RT.stepR_total Q T ha hok

/-- **`stabilise` returns** (fragment static + map_ref, pending observers allowed), and all of M2 holds for the result -/
theorem mapref_stabilise_returns {env : Env} {g : Nat → Option Val} {N fuel : Nat} {s : State} (Q : QInvR env s g)
    (T : TInv N s) (hf : 3 * s.nodes.size + 4 ≤ fuel) :
    ∃ s' g', (stabilise env fuel).run.run s = (.ok (), s') ∧ StabilisedR env fuel s s' g g' ∧ TInv N s' := by
  obtain ⟨_, s', h, ⟨g', R⟩, T'⟩ := RT.stabiliseR_total Q T hf
  exact ⟨s', g', h, R, T'⟩

/-- **C01 for programs with map_ref, total form**: at every `stabilise` of a VALID history (no assumption that anything
returns) the prefix runs, the `stabilise` returns, afterwards every observer in use reads the from-scratch value of its
node, no necessary node is stale; the rest runs. -/
theorem mapref_valid_history_stabilise {env : Env} {N : Nat} {d : Bool} {as bs : List Action}
    (ha : ∀ a, a ∈ as ++ Action.stabilise :: bs → MapRefAction env a)
    (hv : RT.ValidHistR N 0 0 0 (as ++ Action.stabilise :: bs)) :
    ∃ s1 s2 s, runActions env as (State.init N d) #[] = .ok (s1, #[]) ∧ QInvRE env s1 ∧
      (stabilise env fuelDefault).run.run s1 = (.ok (), s2) ∧ QInvRE env s2 ∧
      ReadsOKR env s2 ∧ ObsSettled s2 ∧ (∀ n, s2.isNecessary n = true → s2.isStale n = false) ∧
      runActions env bs s2 #[] = .ok (s, #[]) :=
  RT.historyR_total_stabilise ha hv

/-- the corpus histories of the repaired defects D1 and D15 are valid (decided, not run), hence never panic — in debug
and in release mode — by the theorem -/
example (d : Bool) :
    (∃ s', runActions C01MapRef.exEnvM C01MapRef.histD1 (State.init 128 d) #[] = .ok (s', #[]) ∧
      QInvRE C01MapRef.exEnvM s' ∧ TInv 128 s') ∧
    (∃ s', runActions C01MapRef.exEnvM C01MapRef.histD15 (State.init 128 d) #[] = .ok (s', #[]) ∧
      QInvRE C01MapRef.exEnvM s' ∧ TInv 128 s') :=
  ⟨mapref_history_never_panics C01MapRef.histD1_ok RT.histD1_valid,
   mapref_history_never_panics C01MapRef.histD15_ok RT.histD15_valid⟩

end mapref

/-! ## T3: total correctness for the subscription and the write-effect fragments -/

section subs
open IncrVerif.Proofs.SubsH IncrVerif.Proofs.TidyH.SubsT

/-- **T3a: a valid history of the fragment static + subscriptions never panics** (`Props/C09History.lean`: handlers
without effects, `SubsH.PureHandlers`).  `SubsT.ValidHistS` = `Quiet.ValidHist` (indices exist, at most `N` nodes,
`3 * nodes + 4 ≤ fuelDefault` at every `stabilise`) plus: every `subscribe` names an existing observer (`unsubscribe` /
`stateUnsub` need nothing: an unknown token is a no-op, the recorded owner of an issued token exists — `SubsT.TokIn`). -/
theorem subs_history_never_panics {env : Env} {N : Nat} {d : Bool} {acts : List Action}
    (heff : PureHandlers env) (ha : ∀ a, a ∈ acts → SubAction env a) (hv : ValidHistS N 0 0 0 acts) :
    ∃ s' tk', runActions env acts (State.init N d) #[] = .ok (s', tk') ∧ UInv env s' ∧ TInv N s' ∧ TokIn tk' s' :=
  SubsT.history_total heff ha hv

/-- one action of the fragment returns -/
theorem subs_action_returns {env : Env} {N : Nat} {s : State} {a : Action} {tk : Array Nat}
    (U : UInv env s) (T : TInv N s) (K : TokIn tk s) (heff : PureHandlers env) (ha : SubAction env a)
    (hok : ActionOK N s a) (hsub : SubsOK s a) :
    ∃ r s', (stepAction env a tk).run.run s = (.ok r, s') ∧ UInv env s' ∧ TInv N s' ∧ TokIn r.2 s' ∧ Grown a s s' :=
  SubsT.step_total U T K heff ha hok hsub

/-- hence C09 UNCONDITIONALLY for valid histories: the history runs, and for EVERY token the logged updates are exactly
the specified ones, `Initialised` once and first, then only `Changed` -/
theorem subs_valid_history_notifications {env : Env} {N : Nat} {d : Bool} {acts : List Action}
    (heff : PureHandlers env) (ha : ∀ a, a ∈ acts → SubAction env a) (hv : ValidHistS N 0 0 0 acts) :
    ∃ s' tk', runActions env acts (State.init N d) #[] = .ok (s', tk') ∧ UInv env s' ∧ TInv N s' ∧
      ∀ t, tokLog t s'.log = specT env t acts (State.init N d) #[] [] ∧ Shape (tokLog t s'.log) :=
  SubsT.valid_history_notifications heff ha hv

/-- the example histories of `Props/C09History.lean` are valid (decided), hence never panic by the theorem; `subscribe`
on an observer that does not exist panics in the model and is rejected by the validity checker -/
example : ValidHistS 128 0 0 0 C09History.exHist ∧ ValidHistS 128 0 0 0 C09History.exHist2 ∧
    ValidHistS 128 0 0 0 SubsT.exHist3 := ⟨SubsT.exHist_valid, SubsT.exHist2_valid, SubsT.exHist3_valid⟩

example : ∃ s' tk', runActions Step.exEnv C09History.exHist (State.init 128 true) #[] = .ok (s', tk') ∧
    UInv Step.exEnv s' ∧ TInv 128 s' ∧ TokIn tk' s' :=
  subs_history_never_panics C09History.exEnv_pure C09History.exHist_ok SubsT.exHist_valid

example : SubsT.ranOk Step.exEnv [.subscribe 0 0] = false ∧ SubsT.validHistB 128 0 0 0 [.subscribe 0 0] = false :=
  by decide +kernel

end subs

section effects
open IncrVerif.Proofs.EffH IncrVerif.Proofs.TidyH.SubsT IncrVerif.Proofs.TidyH.EffT

/-- **T3b: a valid history of the write-effects fragment never panics** (`Props/C08History.lean`, V3: node functions and
update handlers that WRITE variables: `WOnly env`, `WHandlers env`).  `EffT.FnBound env B` / `EffT.HBound env B`: every
variable a function / a handler may write has index `< B`; `EffT.ValidHistW N B` = `SubsT.ValidHistS` plus: at every
`stabilise` at least `B` variables exist (a write to a variable that does not exist panics: `EffT.exBad`).  Only single
actions are claimed to return — the `is_stable` loop of a program is not bounded (a function that writes a variable it
depends on never stabilises). -/
theorem effects_history_never_panics {env : Env} {N B : Nat} {d : Bool} {acts : List Action}
    (hw : WOnly env) (hH : WHandlers env) (hFb : FnBound env B) (hHb : HBound env B)
    (ha : ∀ a, a ∈ acts → WAction env a) (hv : EffT.ValidHistW N B 0 0 0 acts) :
    ∃ s' tk', runActions env acts (State.init N d) #[] = .ok (s', tk') ∧ UInvE env s' ∧ TInv N s' ∧ TokIn tk' s' :=
  EffT.history_total_w hw hH hFb hHb ha hv

/-- one action of the fragment returns -/
theorem effects_action_returns {env : Env} {N B : Nat} {s : State} {a : Action} {tk : Array Nat}
    (hw : WOnly env) (hH : WHandlers env) (hFb : FnBound env B) (hHb : HBound env B) (UE : UInvE env s)
    (T : TInv N s) (K : TokIn tk s) (ha : WAction env a) (hok : ActionOK N s a) (hsub : SubsOK s a)
    (hstab : StabOK B s a) :
    ∃ r s', (stepAction env a tk).run.run s = (.ok r, s') ∧ UInvE env s' ∧ TInv N s' ∧ TokIn r.2 s' ∧ Grown a s s' :=
  EffT.step_total_w hw hH hFb hHb UE T K ha hok hsub hstab

/-- hence V3 of `Props/C08History.lean` UNCONDITIONALLY at every `stabilise` of a valid history -/
theorem effects_valid_history_stabilise {env : Env} {N B : Nat} {d : Bool} {as bs : List Action}
    (hw : WOnly env) (hH : WHandlers env) (hFb : FnBound env B) (hHb : HBound env B)
    (ha : ∀ a, a ∈ as ++ Action.stabilise :: bs → WAction env a)
    (hv : EffT.ValidHistW N B 0 0 0 (as ++ Action.stabilise :: bs)) :
    ∃ s1 tk1 s2 t2 t3 s tk, runActions env as (State.init N d) #[] = .ok (s1, tk1) ∧ UInvE env s1 ∧
      (stabilise env fuelDefault).run.run s1 = (.ok (), s2) ∧ WStab env fuelDefault s1 t2 t3 s2 ∧
      runActions env bs s2 tk1 = .ok (s, tk) ∧ UInvE env s :=
  EffT.valid_history_stabilise_w hw hH hFb hHb ha hv

/-- the example of `Props/C08History.lean` (a function writes `v1`, the handler writes it twice) is valid, hence never
panics by the theorem; a `stabilise` before the written variable exists panics and is rejected by the checker -/
example : EffT.ValidHistW 128 2 0 0 0 C08History.exHistH := EffT.exHistH_valid

example : SubsT.ranOk C08History.exEnvH EffT.exBad = false ∧ EffT.validHistWB 128 2 0 0 0 EffT.exBad = false :=
  by decide +kernel

end effects

/-! ## T4: total correctness for the expert fragment X1 (top-level `addDep`) -/

section expert
open IncrVerif.Proofs.ExpertH IncrVerif.Proofs.TidyH.XT
-- (`ExpertH.QR` has its own copies of `runActions`, `ObsSettled`: same definitions, rank-ordered development)

/-- the copy of `runActions` in the rank-ordered development is `Quiet.runActions` -/
theorem qr_runActions_eq (env : Env) (acts : List Action) (s : State) (tk : Array Nat) :
    QR.runActions env acts s tk = Quiet.runActions env acts s tk :=
  QR.runActions_eq env acts s tk

/-- **T4: a valid history of fragment X1 never panics.**  `XT.ValidRun env N acts s tk`: `ExpertH.RunOK` (every action,
in the state in which it is executed, is an action of X1: static actions, `create (expert f)` with a "sum" closure,
`addDep e c cb` under `ExpertH.AddDepOK` = the new edge closes no cycle, `stabilise`) plus `XT.ActionOKx N s a` (indices
exist; a creation leaves `nodes.size + 1 ≤ N`; `stabilise` and `addDep` have `3 * nodes.size + 4 ≤ fuelDefault`).  No
"cyclic" panic, no "height-limit" (the room condition `nodes.size ≤ N` is tight: a chain built by `addDep` reaches height
`nodes.size`), no assertion, no `model:` error, the fuel suffices — for both `cfg.debug` settings.  `XT.TInvX N s`: every
necessary node has height `≤ dp + 1` (`XT.dp` = the DEPTH, the longest child chain below the node — the bound that
survives the re-ranking of `addDep`), both heaps have `N + 1` buckets, `nodes.size ≤ N`, … -/
theorem expert_history_never_panics {env : Env} {N : Nat} {d : Bool} {acts : List Action}
    (hv : ValidRun env N acts (State.init N d) #[]) :
    ∃ s' tk', QR.runActions env acts (State.init N d) #[] = .ok (s', tk') ∧ (∃ rk, QInvX env rk s') ∧ TInvX N s' :=
  history_never_panicsX hv

/-- one valid action of X1 returns and keeps both invariants -/
theorem expert_action_returns {env : Env} {rk : Nat → Nat} {N : Nat} {s : State} {a : Action} {tk : Array Nat}
    (Q : QInvX env rk s) (T : TInvX N s) (ha : XActionOK env s a) (hok : ActionOKx N s a) :
    ∃ r s', (stepAction env a tk).run.run s = (.ok r, s') ∧ r.2 = tk ∧ (∃ rk', QInvX env rk' s') ∧ TInvX N s' ∧
      GrownX a s s' :=
  step_totalX Q T ha hok

/-- **`addDep` returns** under the acyclicity hypothesis: the linking cascade and `adjustHeights` terminate without
panic -/
theorem expert_addDep_returns {env : Env} {rk : Nat → Nat} {N : Nat} {s : State} {eo co : Opnd} {cb : Bool}
    {tk : Array Nat} (Q : QInvX env rk s) (T : TInvX N s) (ha : AddDepOK s eo co)
    (hok : ActionOKx N s (.addDep eo co cb)) :
    ∃ r s', (stepAction env (.addDep eo co cb) tk).run.run s = (.ok r, s') ∧ r.2 = tk ∧
      (∃ rk', QInvX env rk' s') ∧ TInvX N s' ∧ GrownX (.addDep eo co cb) s s' :=
  addDep_action_totalX Q T ha hok

/-- hence `C14History.history_every_stabilise` UNCONDITIONALLY at every `stabilise` of a valid history -/
theorem expert_valid_history_stabilise {env : Env} {N : Nat} {d : Bool} {as bs : List Action}
    (hv : ValidRun env N (as ++ Action.stabilise :: bs) (State.init N d) #[]) :
    ∃ s1 tk1 s2 rk1 s tk, QR.runActions env as (State.init N d) #[] = .ok (s1, tk1) ∧ QInvX env rk1 s1 ∧
      (stabilise env fuelDefault).run.run s1 = (.ok (), s2) ∧ StabilisedX env rk1 fuelDefault s1 s2 ∧
      ReadsOKX env s2 ∧ QR.ObsSettled s2 ∧ (∀ n, s2.isNecessary n = true → s2.isStale n = false) ∧
      QR.runActions env bs s2 tk1 = .ok (s, tk) ∧ (∃ rk, QInvX env rk s) ∧ TInvX N s :=
  valid_history_stabiliseX hv

/-- `C14History.exHistX` (expert created before its dependencies, `addDep` with height adjustment 3 → 5/6, duplicate
dependency) is a valid history — `XT.validRunB` evaluated by the kernel — hence never panics BY THE THEOREM -/
example : ∃ s' tk', QR.runActions C14History.exEnvX C14History.exHistX (State.init 128 true) #[] = .ok (s', tk') ∧
    (∃ rk, QInvX C14History.exEnvX rk s') ∧ TInvX 128 s' :=
  expert_history_never_panics exHistX_valid

end expert

end IncrVerif.Props.C17History
