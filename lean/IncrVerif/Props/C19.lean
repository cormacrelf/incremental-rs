import IncrVerif.Proofs.Heights
/-!
# C19 — the height limit is exact

`setHeight` (= `AdjustHeightsHeap::set_height`) accepts exactly the heights `≤ max_height_allowed`,
both heaps are created and resized with `N + 1` buckets, `set_max_height_allowed` refuses exactly the
limits below the largest height seen.  All statements are about the executable model
(`Engine/Core.lean`, `Engine/Recompute.lean`) in the `(m).run.run s = (result, final state)` style.
`Proofs.resizeQ`, `Proofs.resized`, `Proofs.linked`, `Proofs.DroppedEmpty` are closed-form
descriptions defined next to the proofs.
-/
namespace IncrVerif.Props.C19
open IncrVerif.Engine IncrVerif.Proofs

/-! ## 1. creation -/

/-- A heap created for limit `N` has `N + 1` buckets (heights `0..N`), all empty, so its
`max_height_allowed` is exactly `N`. -/
theorem mkHeap_limits (N : Nat) :
    (mkHeap N).queues.size = N + 1 ∧ (mkHeap N).maxAllowed = N ∧
      ∀ i, i ≤ N → (mkHeap N).queues[i]? = some [] :=
  ⟨mkHeap_size N, mkHeap_maxAllowed N, fun i h => mkHeap_bucket N i h⟩

example : (mkHeap 4).queues.size = 5 ∧ (mkHeap 4).maxAllowed = 4 := ⟨rfl, rfl⟩

/-- A fresh engine with limit `N`: both heaps allow heights up to exactly `N`, no height seen yet,
both heaps empty. -/
theorem init_limits (N : Nat) (d : Bool) :
    (State.init N d).rch.maxAllowed = N ∧ (State.init N d).ahh.maxAllowed = N ∧
      (State.init N d).maxHeightSeen = 0 ∧ (State.init N d).rch.length = 0 ∧
      (State.init N d).ahh.length = 0 :=
  Proofs.init_limits N d

example : (State.init 128 true).rch.maxAllowed = 128 := (init_limits 128 true).1

/-! ## 2. `set_height` -/

/-- Complete description of `set_height n h` in any state: it panics ("height-limit") exactly when
`h` is above both the largest height seen and the limit, and then it has ALREADY recorded `h` as
the largest height seen; otherwise node `n` gets height `h` and the largest height seen is updated. -/
theorem setHeight_run (n : Nat) (h : Int) (s : State) :
    (setHeight n h).run.run s =
      if h > s.maxHeightSeen ∧ h > s.ahh.maxAllowed then
        (.error (.site "height-limit"), { s with maxHeightSeen := h })
      else
        (.ok (), { s with maxHeightSeen := max s.maxHeightSeen h,
                          nodes := s.nodes.modify n fun x => { x with height := h } }) :=
  Proofs.setHeight_run n h s

example : ((setHeight 0 5).run.run exH).1 = .error (.site "height-limit") := rfl
example : ((setHeight 0 4).run.run exH).1 = .ok () := rfl

/-- `set_height` panics with "height-limit" iff `h` exceeds both the largest height seen and the limit. -/
theorem setHeight_panics_iff (n : Nat) (h : Int) (s : State) :
    ((setHeight n h).run.run s).1 = .error (.site "height-limit") ↔
      (h > s.maxHeightSeen ∧ h > s.ahh.maxAllowed) :=
  Proofs.setHeight_err_iff n h s

/-- ... it succeeds in all other cases ... -/
theorem setHeight_ok_iff (n : Nat) (h : Int) (s : State) :
    ((setHeight n h).run.run s).1 = .ok () ↔ ¬ (h > s.maxHeightSeen ∧ h > s.ahh.maxAllowed) :=
  Proofs.setHeight_ok_iff n h s

/-- ... and "height-limit" is the only panic it can raise. -/
theorem setHeight_only_panic (n : Nat) (h : Int) (s : State) (p : Panic)
    (hp : ((setHeight n h).run.run s).1 = .error p) : p = .site "height-limit" := by
  rw [setHeight_run] at hp; split at hp <;> simp_all

example : ((setHeight 0 5).run.run exH).1 = .error (.site "height-limit") := rfl

/-- THE LIMIT IS EXACT: in a state where the largest height seen is within the limit (true initially,
preserved by every successful `set_height`, see `setHeight_ok_state`), `set_height n h` panics iff
`h > max_height_allowed` and succeeds iff `h ≤ max_height_allowed`. -/
theorem setHeight_exact (n : Nat) (h : Int) (s : State) (inv : s.maxHeightSeen ≤ s.ahh.maxAllowed) :
    (((setHeight n h).run.run s).1 = .error (.site "height-limit") ↔ h > s.ahh.maxAllowed) ∧
    (((setHeight n h).run.run s).1 = .ok () ↔ h ≤ s.ahh.maxAllowed) :=
  Proofs.setHeight_exact n h s inv

example : exH.maxHeightSeen ≤ exH.ahh.maxAllowed := by decide

/-- A successful `set_height n h`: node `n` (if it exists) has height `h`, the largest height seen
is `max old h`, both heaps, all var cells and all other nodes are untouched, and "largest height
seen ≤ limit" is preserved. -/
theorem setHeight_ok_state (n : Nat) (h : Int) (s s' : State)
    (hr : (setHeight n h).run.run s = (.ok (), s')) :
    (n < s.nodes.size → (s'.nodeD n).height = h) ∧
    s'.maxHeightSeen = max s.maxHeightSeen h ∧
    s'.rch = s.rch ∧ s'.ahh = s.ahh ∧ s'.vars = s.vars ∧
    s'.nodes.size = s.nodes.size ∧
    (∀ m, m ≠ n → s'.nodes[m]? = s.nodes[m]?) ∧
    (s.maxHeightSeen ≤ s.ahh.maxAllowed → s'.maxHeightSeen ≤ s'.ahh.maxAllowed) :=
  Proofs.setHeight_ok_state n h s s' hr

example : ∃ s', (setHeight 0 3).run.run exH = (.ok (), s') := ⟨_, rfl⟩

/-- A panicking `set_height n h`: the panic is "height-limit", no node and no heap changed, but the
largest height seen is now `h`, i.e. ABOVE the limit (the invariant of `setHeight_exact` is broken). -/
theorem setHeight_panic_state (n : Nat) (h : Int) (s s' : State) (p : Panic)
    (hr : (setHeight n h).run.run s = (.error p, s')) :
    p = .site "height-limit" ∧ s'.maxHeightSeen = h ∧ s'.nodes = s.nodes ∧
      s'.rch = s.rch ∧ s'.ahh = s.ahh ∧ s'.maxHeightSeen > s'.ahh.maxAllowed := by
  rw [setHeight_run] at hr
  by_cases hc : h > s.maxHeightSeen ∧ h > s.ahh.maxAllowed
  · rw [if_pos hc] at hr
    cases hr
    exact ⟨rfl, rfl, rfl, rfl, rfl, hc.2⟩
  · rw [if_neg hc] at hr; cases hr

example : ∃ p s', (setHeight 0 9).run.run exH = (.error p, s') := ⟨_, _, rfl⟩

/-- FINDING (limit not exact after a caught panic): any height up to the largest height seen is
accepted, whatever the limit.  After a "height-limit" panic for height `h` that the application
catches, `set_height` therefore accepts every height `≤ h`, including heights above
`max_height_allowed`. -/
theorem setHeight_accepts_up_to_seen (n : Nat) (h : Int) (s : State) (hle : h ≤ s.maxHeightSeen) :
    ((setHeight n h).run.run s).1 = .ok () := by
  rw [setHeight_ok_iff]; omega

/-- the scenario of the finding on a concrete state: limit 4; `set_height 0 9` panics; then
`set_height 0 7` succeeds and leaves node 0 at height 7 > 4. -/
example :
    ((setHeight 0 9).run.run exH).1 = .error (.site "height-limit") ∧
    ((setHeight 0 7).run.run ((setHeight 0 9).run.run exH).2).1 = .ok () ∧
    ((((setHeight 0 7).run.run ((setHeight 0 9).run.run exH).2).2).nodeD 0).height = 7 ∧
    ((((setHeight 0 7).run.run ((setHeight 0 9).run.run exH).2).2).ahh.maxAllowed) = 4 :=
  ⟨rfl, rfl, rfl, rfl⟩

/-! ## 3. `set_max_height_allowed` -/

/-- Complete description of `set_max_height_allowed N`: the checks in order (stabilising; below the
largest height seen; [debug] adjust-heights heap non-empty; [debug] a dropped recompute-heap bucket
non-empty — at that point the adjust-heights heap has already been resized), else both bucket
vectors are resized to `N + 1` buckets by `resizeQ`. -/
theorem setMaxHeightAllowed_run (N : Nat) (s : State) :
    (setMaxHeightAllowed N).run.run s =
      if s.status = .stabilising then
        (.error (.site "state:set_max_height_allowed:during-stabilisation"), s)
      else if (N : Int) < s.maxHeightSeen then
        (.error (.site "adjust_heights_heap:set_max_height_allowed:below-max-seen"), s)
      else if s.cfg.debug = true ∧ s.ahh.length ≠ 0 then
        (.error (.site "adjust_heights_heap:set_max_height_allowed:empty"), s)
      else if s.cfg.debug = true ∧ ((s.rch.queues.toList.drop (N + 1)).all (·.isEmpty)) = false then
        (.error (.site "recompute_heap:set_max_height_allowed:dropped-buckets-empty"),
          { s with ahh := { s.ahh with queues := resizeQ N s.ahh.queues, lowerBound := (N : Int) + 1 } })
      else
        (.ok (), { s with
          ahh := { s.ahh with queues := resizeQ N s.ahh.queues, lowerBound := (N : Int) + 1 },
          rch := { s.rch with queues := resizeQ N s.rch.queues,
                              lowerBound := min s.rch.lowerBound (((resizeQ N s.rch.queues).size : Int) + 1) } }) :=
  Proofs.setMaxHeightAllowed_run N s

example : ((setMaxHeightAllowed 2).run.run exHd).1 = .ok () := rfl

/-- During a stabilisation `set_max_height_allowed` panics and changes nothing. -/
theorem setMaxHeightAllowed_stabilising (N : Nat) (s : State) (h : s.status = .stabilising) :
    (setMaxHeightAllowed N).run.run s =
      (.error (.site "state:set_max_height_allowed:during-stabilisation"), s) :=
  Proofs.smha_stabilising N s h

example : exHs.status = .stabilising := rfl

/-- Outside a stabilisation it panics with "below-max-seen" iff the new limit is below the largest
height seen. -/
theorem setMaxHeightAllowed_below_iff (N : Nat) (s : State) (h : s.status ≠ .stabilising) :
    ((setMaxHeightAllowed N).run.run s).1 =
        .error (.site "adjust_heights_heap:set_max_height_allowed:below-max-seen") ↔
      (N : Int) < s.maxHeightSeen := by
  rw [setMaxHeightAllowed_run, if_neg h]
  split
  · simp_all
  · split
    · simp_all
    · split <;> simp_all

example : exH.status ≠ .stabilising := by decide

/-- EXACT success condition: `set_max_height_allowed N` succeeds iff the engine is not stabilising,
`N` is at least the largest height seen and (debug assertions off, or the adjust-heights heap is
empty and every recompute-heap bucket above `N` is empty); the final state is `resized N s`. -/
theorem setMaxHeightAllowed_ok_iff (N : Nat) (s s' : State) :
    (setMaxHeightAllowed N).run.run s = (.ok (), s') ↔
      (s.status ≠ .stabilising ∧ s.maxHeightSeen ≤ (N : Int) ∧
        (s.cfg.debug = false ∨ (s.ahh.length = 0 ∧ DroppedEmpty N s.rch.queues)) ∧
        s' = resized N s) :=
  Proofs.smha_ok_iff N s s'

example : exHd.status ≠ .stabilising ∧ exHd.maxHeightSeen ≤ ((2 : Nat) : Int) ∧
    (exHd.cfg.debug = false ∨ (exHd.ahh.length = 0 ∧ DroppedEmpty 2 exHd.rch.queues)) ∧
    resized 2 exHd = resized 2 exHd :=
  (setMaxHeightAllowed_ok_iff 2 exHd (resized 2 exHd)).1 rfl

/-- The resized state: BOTH heaps have exactly `N + 1` buckets (limit exactly `N`); buckets `≤ N`
that existed keep their contents, new buckets are empty; nodes, vars, the largest height seen, the
heap lengths and the status are unchanged. -/
theorem resized_facts (N : Nat) (s : State) :
    (resized N s).rch.queues.size = N + 1 ∧ (resized N s).ahh.queues.size = N + 1 ∧
    (resized N s).rch.maxAllowed = N ∧ (resized N s).ahh.maxAllowed = N ∧
    (∀ i, (resized N s).rch.queues[i]? =
      if i ≤ N then (if i < s.rch.queues.size then s.rch.queues[i]? else some []) else none) ∧
    (∀ i, (resized N s).ahh.queues[i]? =
      if i ≤ N then (if i < s.ahh.queues.size then s.ahh.queues[i]? else some []) else none) ∧
    (resized N s).nodes = s.nodes ∧ (resized N s).vars = s.vars ∧
    (resized N s).maxHeightSeen = s.maxHeightSeen ∧
    (resized N s).rch.length = s.rch.length ∧ (resized N s).ahh.length = s.ahh.length ∧
    (resized N s).status = s.status :=
  Proofs.resized_facts N s

example : (resized 7 exH).rch.queues.size = 8 := (resized_facts 7 exH).1

/-- Corollary: after a successful `set_max_height_allowed N`, `set_height n h` succeeds iff `h ≤ N`. -/
theorem setMaxHeightAllowed_then_setHeight (N : Nat) (s s' : State) (n : Nat) (h : Int)
    (hr : (setMaxHeightAllowed N).run.run s = (.ok (), s')) :
    ((setHeight n h).run.run s').1 = .ok () ↔ h ≤ (N : Int) := by
  rw [smha_ok_iff] at hr
  obtain ⟨_, hN, _, rfl⟩ := hr
  have hf := resized_facts N s
  have inv : (resized N s).maxHeightSeen ≤ (resized N s).ahh.maxAllowed := by
    rw [hf.2.2.2.1]; exact hN
  rw [(setHeight_exact n h _ inv).2, hf.2.2.2.1]

example : ∃ s', (setMaxHeightAllowed 2).run.run exHd = (.ok (), s') := ⟨_, rfl⟩
example : ∃ s', (setMaxHeightAllowed 9).run.run exH = (.ok (), s') := ⟨_, rfl⟩

/-! ## 4. the recompute heap enforces the same limit -/

/-- Complete description of `RecomputeHeap::link`: it panics iff the node's height is negative or
above the heap's limit; otherwise the node is appended to the bucket of its height. -/
theorem rchLink_run (n : Nat) (s : State) :
    (rchLink n).run.run s = match s.nodes[n]? with
      | none => (.error (.site "model:no-such-node"), s)
      | some nd =>
        if nd.height < 0 then (.error (.site "recompute_heap:link:height>=0"), s)
        else if nd.height > s.rch.maxAllowed then (.error (.site "recompute_heap:link:height<=max"), s)
        else (.ok (), linked n nd.height s) :=
  Proofs.rchLink_run n s

example : ((rchLink 0).run.run exH).1 = .ok () ∧
    (((rchLink 0).run.run exH).2).rch.queues[2]? = some [0] := ⟨rfl, rfl⟩

/-- `link` succeeds iff `0 ≤ height ≤ max_height_allowed`. -/
theorem rchLink_ok_iff (n : Nat) (s : State) (nd : Node) (hn : s.nodes[n]? = some nd) :
    ((rchLink n).run.run s).1 = .ok () ↔ (0 ≤ nd.height ∧ nd.height ≤ s.rch.maxAllowed) := by
  rw [rchLink_run, hn]
  simp only
  split
  · simp; omega
  · split
    · simp; omega
    · simp; omega

example : ∃ nd, exH.nodes[0]? = some nd := ⟨_, rfl⟩

/-- Without debug assertions `insert` succeeds iff `0 ≤ height ≤ max_height_allowed`. -/
theorem rchInsert_ok_iff (n : Nat) (s : State) (nd : Node) (hn : s.nodes[n]? = some nd)
    (hd : s.cfg.debug = false) :
    ((rchInsert n).run.run s).1 = .ok () ↔ (0 ≤ nd.height ∧ nd.height ≤ s.rch.maxAllowed) := by
  rw [rchInsert_run, hn]
  simp only [hd, Bool.false_eq_true, false_and, if_false]
  split
  · simp; omega
  · split
    · simp; omega
    · simp; omega

example : (∃ nd, exH.nodes[0]? = some nd) ∧ exH.cfg.debug = false := ⟨⟨_, rfl⟩, rfl⟩

/-! ## 5. where heights grow: `ensure_height_requirement` -/

/-- If `ensure_height_requirement` returns, either the child was already strictly below the parent
and nothing changed, or the parent now has height `child + 1`, and that height was acceptable to
`set_height` (at most the largest height seen, or at most the limit); the limit itself is unchanged. -/
theorem ensureHeightRequirement_ok (oc op child parent : Nat) (s s' : State) (c p : Node)
    (hc : s.nodes[child]? = some c) (hp : s.nodes[parent]? = some p)
    (hr : (ensureHeightRequirement oc op child parent).run.run s = (.ok (), s')) :
    (c.height < p.height → s' = s) ∧
    (p.height ≤ c.height →
      (s'.nodeD parent).height = c.height + 1 ∧
      (c.height + 1 ≤ s.maxHeightSeen ∨ c.height + 1 ≤ s.ahh.maxAllowed) ∧
      s'.maxHeightSeen = max s.maxHeightSeen (c.height + 1) ∧
      s'.ahh.maxAllowed = s.ahh.maxAllowed) :=
  Proofs.ensureHeightRequirement_ok oc op child parent s s' c p hc hp hr

example : ∃ c p s', exHfull.nodes[0]? = some c ∧ exHfull.nodes[1]? = some p ∧
    (ensureHeightRequirement 1 0 1 0).run.run (resized 5 exHfull) = (.ok (), s') := ⟨_, _, _, rfl, rfl, rfl⟩

/-- A parent can never be raised above the limit: if the child sits at a height whose successor
exceeds `max_height_allowed` (and the largest height seen is within the limit),
`ensure_height_requirement` panics. -/
theorem ensureHeightRequirement_limit (oc op child parent : Nat) (s : State) (c p : Node)
    (hc : s.nodes[child]? = some c) (hp : s.nodes[parent]? = some p)
    (inv : s.maxHeightSeen ≤ s.ahh.maxAllowed)
    (hge : p.height ≤ c.height) (hlim : c.height + 1 > s.ahh.maxAllowed) :
    ((ensureHeightRequirement oc op child parent).run.run s).1 ≠ .ok () := by
  intro h
  rcases hrun : (ensureHeightRequirement oc op child parent).run.run s with ⟨r, s'⟩
  rw [hrun] at h
  simp only at h
  subst h
  have := (ensureHeightRequirement_ok oc op child parent s s' c p hc hp hrun).2 hge
  omega

example : ∃ c p, exHfull.nodes[0]? = some c ∧ exHfull.nodes[1]? = some p ∧
    exHfull.maxHeightSeen ≤ exHfull.ahh.maxAllowed ∧ p.height ≤ c.height ∧
    c.height + 1 > exHfull.ahh.maxAllowed := ⟨_, _, rfl, rfl, by decide, by decide, by decide⟩
example : ((ensureHeightRequirement 0 1 0 1).run.run exHfull).1 = .error (.site "height-limit") := rfl

end IncrVerif.Props.C19
