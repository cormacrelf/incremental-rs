import IncrVerif.Proofs.LeakH15
import IncrVerif.Props.C12
import IncrVerif.Props.C01History
/-!
# C12 (nothing leaks) for whole histories of static programs

C12, informally: "After all user handles to a subgraph (Incr, Var, Observer handles and closures holding them)
are dropped and one stabilise has run, every node of that subgraph has been released.  Handles may be dropped in
any order."  `Props/C12.lean` has the ownership model (`State.roots`, `State.aliveSet` = reachability from the
roots) and "the three drop actions only shrink the alive set"; what it lists as NOT proved — that after dropping
everything and ONE `stabilise` nothing is alive — is proved here for the static fragment of
`Props/C01History.lean`.

HISTORIES.  `acts ++ drops ++ [stabilise]`, run from `State.init N d` by `Quiet.runActions` (the fold of the
driver's `stepAction`, stopping at the first panic), where
* `acts` is ANY history of the static fragment (`Quiet.StaticAction env`: `create` of const/var/map/fold/zip over
  top-level operands, `observe`, `cloneObs`, `dropObs`, `disallow`, the five writes, `get`, `stabilise`,
  `isStable`, `stats`; user functions without effects) — so observers may already have been dropped, disallowed,
  unlinked, re-observed, and any number of `stabilise`s may have run;
* `drops` is ANY list of the four actions by which a program gives something up (`LeakH.DropAction`: `dropVar v`,
  `dropHandle n`, `dropObs o`, `disallow o`), in any order, with repetitions (a `dropObs`/`dropVar`/`dropHandle`
  of something that is not held any more is a no-op in the model), interleaved at will;
* after which the program holds nothing (`LeakH.HoldsNothing s`: `s.handles = []`, `s.slots = []`, every variable
  cell has `handles = 0`, every observer record has `clones = 0`; `holdsNothingB` is the same as a `Bool`).
No assumption on `cfg.debug`, the height limit, the fuel.

PROVED (partial correctness: each statement assumes that the calls return `.ok`; the LAST item is total).
* `all_dropped_then_stabilise_frees_everything`: for such a history, if the final `stabilise` returns `s'`, then
  `s'.roots = []` and `s'.aliveSet = []` (`C12.no_roots_nothing_alive`).  `history_frees_everything`: the same with
  the `stabilise` as the last action of the list.
* DROP-ORDER INDEPENDENCE, `drop_order_independent`: if `acts ++ drops` runs and ends with the program holding
  nothing, then for EVERY permutation `drops'` of `drops` the history `acts ++ drops'` also runs (no panic), also
  ends with the program holding nothing, and whatever the following `stabilise` returns has `aliveSet = []`.
  Behind it (`Proofs/LeakH9`, `LeakH10`): a drop that returns acts on the holdings `hold3 s` = (node handles, `Var`
  handle counts, observer clone counts) by `dropT`, a total function of the kind of the drop; the `dropT`s commute
  (`holdings_order_independent`: two permutations that run leave the same holdings); whether a drop returns depends
  only on the naming table, the shared cells and the numbers of cells/records, which no drop changes
  (`drops_run_iff_named`).  `drop_order_irrelevant`: the weaker form for a permutation that is known to run.
* `static_state_all_dropped`: the statement for a state reached by static actions alone (`drops = []`).
* `state_all_dropped` (state level): `DInv env s` and `HoldsNothing s` suffice.  `DInv env s` (`Proofs/LeakH6`):
  `Quiet.QInv env (strip s)` — the quiescent invariant of `C01History`, of the state with the program's node
  handles, `Var` handle counts and `deadVars` forgotten (the invariant never reads them: `qinv_strips`) —,
  `ObsDead s` (an observer with `clones = 0` is disallowed or unlinked) and `VarDead s` (a variable with
  `handles = 0` that is still linked to its watch node is queued in `deadVars`).
* what the final `stabilise` does, `stabilise_effect_on_roots` (= `LeakH.stabilise_freed`, from `QInv (strip s)`
  alone, dead variables allowed — `C01History.stabilise_pending` needs `deadVars = []`): program handles and shared
  cells unchanged; `vars = killVars deadVars vars` (exactly the queued cells get `linked := false`: `stabilise_end`
  breaks the `Var ↔ watch` cycle); the recompute heap is empty; every observer keeps `node` and `clones` and its
  state moves by `stabilisedState` (created ↦ in use, disallowed ↦ unlinked).
* the two history invariants behind it: `obsDead_every_history` — `ObsDead` holds after EVERY list of API actions
  from `State.init` (all actions of the model, no fragment restriction: `Observer::drop` of the last clone calls
  `disallow_future_use`, the lifecycle never moves back, `stabilise` keeps clone counts); `drop_phase_keeps` — each
  drop action keeps `DInv` (`dropVar`/`dropHandle` leave `strip s` unchanged, `dropObs`/`disallow` commute with
  `strip`).
* NODE HANDLES MAY BE DROPPED EARLY, `early_handle_drops_allowed`: the same (with drop-order independence) when
  `acts` interleaves `dropHandle` with the static actions (`LeakH.PrefixAction`), as programs do that keep only
  the observers and the `Var`s of a graph they have built; `exEarly`.
* TOTAL CORRECTNESS, `valid_history_frees_everything`: if `acts` is a VALID static history (`Quiet.ValidHist N 0 0 0
  acts`: existing indices, at most `N` nodes — `C01History.history_never_panics`), `3 * N + 4 ≤ fuelDefault`, every
  drop names something that exists after `acts` (`LeakH.OkCond`: the variable cell / the observer record exists,
  the operand of `dropHandle` resolves; `okCondB` is the same as a `Bool`), and the program holds nothing after
  the drops, then `acts ++ drops ++ [stabilise]` RUNS from `State.init N d` (no panic, no fuel exhaustion) and
  its final state has `roots = []`, `aliveSet = []`.  Behind it: `final_stabilise_returns`
  (= `LeakH.stabilise_total_strip`: `stabilise` returns from a state whose stripped form satisfies `QInv` and
  `TInv`, dead variables allowed; `stabiliseEnd_total_dead`), `TInv N (strip s)` is kept by the drops.
* Non-vacuity: `exStatic` (two vars, `map2`, `map`, `fold`, two observers, stabilise, set, stabilise) followed by
  `exDrops` (all nine handles in a mixed order) and by another order `exDrops'`: the history runs, `HoldsNothing`
  holds after the drops, the alive set is all five nodes before the drops, still non-empty after the drops and
  before the `stabilise` (the engine's own references: observers not yet unlinked, `Var ↔ watch` cycles), and `[]`
  after the `stabilise` — by evaluation AND by the theorems (`exAliveAfterDrops` and the `example`s after it: the
  partial theorem in both orders, the reversed order by `drop_order_independent` without evaluating it, and the total
  theorem: `exStatic_valid`, `namedAfter`); if only the first five drops are made, the `stabilise` releases n4 only
  (the hypothesis "holds nothing" matters).

ASSUMED.  Nothing beyond the hypotheses.  `roots`/`refsOf` are the ownership abstraction of `Engine/Alive.lean`
(validated against the crate by the differential check, not here).

NOT PROVED.
* `dropVar` INTERLEAVED with further static actions (dropping a `Var` handle, stabilising — which unlinks the
  variable — and going on): `StaticAction` has no `dropVar` (`C01History`'s `QInv` has `deadVars = []`); here the
  `Var` drops come after `acts` (`dropHandle` may come anywhere, `dropObs`/`disallow` are static actions); the
  total theorem is for prefixes of static actions only;
* the other half of C12, dropping the state itself (`dropAll`), and programs outside the static fragment (bind,
  map_ref, expert nodes, memo tables, subscriptions, shared cells that are filled: `slots` is always `[]` here).

OBSERVATION (model = crate): nodes are released only by the NEXT `stabilise` after the drops — an observer's node
stays rooted through `all_observers` until `unlink_disallowed_observers`, a variable's watch node through the
`Var ↔ watch` cycle until `stabilise_end`; `exAliveAfterDrops` shows this state.
-/
namespace IncrVerif.Props.C12History
open IncrVerif.Engine IncrVerif.Driver IncrVerif.Proofs IncrVerif.Proofs.Quiet IncrVerif.Proofs.LeakH

/-! ## state level -/

/-- what one `stabilise` does to the fields the ownership roots read; dead variables allowed -/
theorem stabilise_effect_on_roots {env : Env} {fuel : Nat} {s s' : State} (Q : QInv env (strip s))
    (h : (stabilise env fuel).run.run s = (.ok (), s')) :
    s'.handles = s.handles ∧ s'.slots = s.slots ∧ s'.vars = killVars s.deadVars s.vars ∧
    s'.rch.queues.toList.flatten = [] ∧ s'.observers.size = s.observers.size ∧
    ∀ (o : Nat) (ob : ObsRec), s.observers[o]? = some ob →
      ∃ ob', s'.observers[o]? = some ob' ∧ ob'.node = ob.node ∧ ob'.clones = ob.clones ∧
        ob'.state = stabilisedState ob.state :=
  let F := stabilise_freed Q h
  ⟨F.handles, F.slots, F.vars, F.heap, F.obsSize, F.obs⟩

/-- the quiescent invariant does not read the program's handles, `Var` handle counts, `deadVars` -/
theorem qinv_strips {env : Env} {s : State} (Q : QInv env s) : QInv env (strip s) := qinv_strip Q

/-- **C12, state level.** -/
theorem state_all_dropped {env : Env} {fuel : Nat} {s s' : State} (I : DInv env s) (H : HoldsNothing s)
    (h : (stabilise env fuel).run.run s = (.ok (), s')) : s'.roots = [] ∧ s'.aliveSet = [] :=
  have hr := freed_roots I H h
  ⟨hr, C12.no_roots_nothing_alive s' hr⟩

/-! ## the history invariants -/

/-- an observer without handles is disallowed or unlinked — after ANY list of API actions -/
theorem obsDead_every_history {env : Env} {N : Nat} {d : Bool} {acts : List Action} {s : State}
    {tk : Array Nat} (h : runActions env acts (State.init N d) #[] = .ok (s, tk)) : ObsDead s :=
  obsDead_run (obsDead_init N d) h

/-- each of `dropVar`, `dropHandle`, `dropObs`, `disallow` keeps `DInv` -/
theorem drop_phase_keeps {env : Env} {s s' : State} {a : Action} {tk : Array Nat} {r : String × Array Nat}
    (I : DInv env s) (ha : DropAction a) (h : (stepAction env a tk).run.run s = (.ok r, s')) : DInv env s' :=
  drop_step I ha h

/-- static history, then drops in any order: `DInv` -/
theorem history_then_drops {env : Env} {N : Nat} {d : Bool} {acts drops : List Action} {s : State}
    {tk : Array Nat} (ha : ∀ a, a ∈ acts → StaticAction env a) (hd : ∀ a, a ∈ drops → DropAction a)
    (h : runActions env (acts ++ drops) (State.init N d) #[] = .ok (s, tk)) : DInv env s :=
  history_dinv ha hd h

/-! ## C12 for whole histories -/

/-- **C12.** A history of the static fragment, then drops in any order after which the program holds nothing,
then one `stabilise`: nothing is alive. -/
theorem all_dropped_then_stabilise_frees_everything {env : Env} {N : Nat} {d : Bool} {fuel : Nat}
    {acts drops : List Action} {s s' : State} {tk : Array Nat}
    (ha : ∀ a, a ∈ acts → StaticAction env a) (hd : ∀ a, a ∈ drops → DropAction a)
    (hrun : runActions env (acts ++ drops) (State.init N d) #[] = .ok (s, tk)) (H : HoldsNothing s)
    (h : (stabilise env fuel).run.run s = (.ok (), s')) : s'.roots = [] ∧ s'.aliveSet = [] :=
  state_all_dropped (history_dinv ha hd hrun) H h

/-- the statement for a state reached by the static fragment alone -/
theorem static_state_all_dropped {env : Env} {N : Nat} {d : Bool} {fuel : Nat} {acts : List Action}
    {s s' : State} {tk : Array Nat} (ha : ∀ a, a ∈ acts → StaticAction env a)
    (hrun : runActions env acts (State.init N d) #[] = .ok (s, tk))
    (h1 : s.handles = []) (h2 : s.slots = [])
    (h3 : ∀ (c : Nat) (vc : VarCell), s.vars[c]? = some vc → vc.handles = 0)
    (h4 : ∀ (o : Nat) (ob : ObsRec), s.observers[o]? = some ob → ob.clones = 0)
    (h : (stabilise env fuel).run.run s = (.ok (), s')) : s'.aliveSet = [] :=
  (all_dropped_then_stabilise_frees_everything (drops := []) ha (fun _ hm => nomatch hm)
    (by rw [List.append_nil]; exact hrun) ⟨h1, h2, h3, h4⟩ h).2

/-- the same with the `stabilise` as the last action of the history -/
theorem history_frees_everything {env : Env} {N : Nat} {d : Bool} {acts drops : List Action} {s' : State}
    {tk' : Array Nat} (ha : ∀ a, a ∈ acts → StaticAction env a) (hd : ∀ a, a ∈ drops → DropAction a)
    (H : ∀ s tk, runActions env (acts ++ drops) (State.init N d) #[] = .ok (s, tk) → HoldsNothing s)
    (h : runActions env ((acts ++ drops) ++ [Action.stabilise]) (State.init N d) #[] = .ok (s', tk')) :
    s'.aliveSet = [] :=
  C12.no_roots_nothing_alive s' (history_freed ha hd H h)

/-- **Drop-order independence.** -/
theorem drop_order_independent {env : Env} {N : Nat} {d : Bool} {acts drops drops' : List Action} {s : State}
    {tk : Array Nat} (ha : ∀ a, a ∈ acts → StaticAction env a) (hd : ∀ a, a ∈ drops → DropAction a)
    (hp : drops'.Perm drops)
    (hrun : runActions env (acts ++ drops) (State.init N d) #[] = .ok (s, tk)) (H : HoldsNothing s) :
    ∃ s2 tk2, runActions env (acts ++ drops') (State.init N d) #[] = .ok (s2, tk2) ∧ HoldsNothing s2 ∧
      ∀ fuel s', (stabilise env fuel).run.run s2 = (.ok (), s') → s'.aliveSet = [] := by
  obtain ⟨s2, tk2, h2, H2, -, hfree⟩ := history_perm_freed ha hd hp hrun H
  exact ⟨s2, tk2, h2, H2, fun fuel s' hs => C12.no_roots_nothing_alive s' (hfree fuel s' hs)⟩

/-- the holdings (node handles, `Var` handle counts, observer clone counts) and the shared cells after two
permutations of a list of drops that both run from the same state are the same -/
theorem holdings_order_independent {env : Env} {drops drops' : List Action} {s s1 s2 : State}
    {tk tk1 tk2 : Array Nat} (hd : ∀ a, a ∈ drops → DropAction a) (hp : drops'.Perm drops)
    (h1 : runActions env drops s tk = .ok (s1, tk1)) (h2 : runActions env drops' s tk = .ok (s2, tk2)) :
    s2.handles = s1.handles ∧ s2.vars.map (·.handles) = s1.vars.map (·.handles) ∧
      s2.observers.map (·.clones) = s1.observers.map (·.clones) ∧ s2.slots = s1.slots :=
  have h := perm_hold hd hp h1 h2
  ⟨congrArg Hold3.handles h.1, congrArg Hold3.vars h.1, congrArg Hold3.obs h.1, h.2⟩

/-- a list of drops runs iff each drop names something that exists (`OkCond`: a variable cell, an observer
record, an operand that resolves), judged in the state before the first drop -/
theorem drops_run_iff_named {env : Env} {drops : List Action} {s : State} {tk : Array Nat}
    (hd : ∀ a, a ∈ drops → DropAction a) :
    (∃ s' tk', runActions env drops s tk = .ok (s', tk')) ↔ ∀ a, a ∈ drops → OkCond s a :=
  ⟨fun ⟨_, _, h⟩ => drops_conds_of_run (Frame4.refl s) hd h,
   fun hc => drops_run_of_conds (Frame4.refl s) hd hc⟩

/-- the weaker form: whichever permutation of the drops is run, if it ends with the program holding nothing -/
theorem drop_order_irrelevant {env : Env} {N : Nat} {d : Bool} {fuel : Nat}
    {acts drops drops' : List Action} {s s' : State} {tk : Array Nat}
    (ha : ∀ a, a ∈ acts → StaticAction env a) (hd : ∀ a, a ∈ drops → DropAction a)
    (hp : drops'.Perm drops)
    (hrun : runActions env (acts ++ drops') (State.init N d) #[] = .ok (s, tk)) (H : HoldsNothing s)
    (h : (stabilise env fuel).run.run s = (.ok (), s')) : s'.aliveSet = [] :=
  (all_dropped_then_stabilise_frees_everything ha (fun a hm => hd a (hp.mem_iff.1 hm)) hrun H h).2

/-- **node handles may be dropped at any time**: the prefix may interleave `dropHandle` with static actions -/
theorem early_handle_drops_allowed {env : Env} {N : Nat} {d : Bool} {acts drops drops' : List Action}
    {s : State} {tk : Array Nat} (ha : ∀ a, a ∈ acts → PrefixAction env a)
    (hd : ∀ a, a ∈ drops → DropAction a) (hp : drops'.Perm drops)
    (hrun : runActions env (acts ++ drops) (State.init N d) #[] = .ok (s, tk)) (H : HoldsNothing s) :
    ∃ s2 tk2, runActions env (acts ++ drops') (State.init N d) #[] = .ok (s2, tk2) ∧ HoldsNothing s2 ∧
      ∀ fuel s', (stabilise env fuel).run.run s2 = (.ok (), s') → s'.roots = [] ∧ s'.aliveSet = [] := by
  obtain ⟨s2, tk2, h2, H2, -, hfree⟩ := history_perm_freed_gen ha hd hp hrun H
  exact ⟨s2, tk2, h2, H2, fun fuel s' hs =>
    ⟨hfree fuel s' hs, C12.no_roots_nothing_alive s' (hfree fuel s' hs)⟩⟩

/-! ## total correctness -/

/-- the final `stabilise` returns: from a state whose stripped form satisfies the two invariants of
`C01History` (dead variables and dropped handles allowed) -/
theorem final_stabilise_returns {env : Env} {N fuel : Nat} {s : State} (Q : QInv env (strip s))
    (T : TInv N (strip s)) (hf : 3 * s.nodes.size + 4 ≤ fuel) :
    ∃ s', (stabilise env fuel).run.run s = (.ok (), s') :=
  stabilise_total_strip Q T hf

/-- **C12, total.** A valid static history, then drops of existing things after which the program holds nothing,
then `stabilise`: the history runs and nothing is alive at its end. -/
theorem valid_history_frees_everything {env : Env} {N : Nat} {d : Bool} {acts drops : List Action}
    (ha : ∀ a, a ∈ acts → StaticAction env a) (hv : ValidHist N 0 0 0 acts)
    (hd : ∀ a, a ∈ drops → DropAction a) (hfuel : 3 * N + 4 ≤ fuelDefault)
    (hnamed : ∀ s0 tk0, runActions env acts (State.init N d) #[] = .ok (s0, tk0) →
      ∀ a, a ∈ drops → OkCond s0 a)
    (H : ∀ s tk, runActions env (acts ++ drops) (State.init N d) #[] = .ok (s, tk) → HoldsNothing s) :
    ∃ s' tk', runActions env ((acts ++ drops) ++ [Action.stabilise]) (State.init N d) #[] = .ok (s', tk') ∧
      s'.roots = [] ∧ s'.aliveSet = [] := by
  obtain ⟨s', tk', h, hr⟩ := valid_history_freed ha hv hd hfuel hnamed H
  exact ⟨s', tk', h, hr, C12.no_roots_nothing_alive s' hr⟩

/-! ## non-vacuity -/

/-- n0 = var 1, n1 = var 2, n2 = n0 + n1, n3 = map n2, n4 = fold (+) 10 [n0, n3]; observers on n4 and n2 -/
def exStatic : List Action :=
  [.create (.var (.int 1)), .create (.var (.int 2)), .create (.map 0 [.outer 0, .outer 1]),
   .create (.map 0 [.outer 2]), .create (.fold 0 (.int 10) [.outer 0, .outer 3]),
   .observe (.outer 4), .observe (.outer 2), .stabilise, .set 0 (.int 5), .stabilise]

/-- all nine things the program holds, in a mixed order -/
def exDrops : List Action :=
  [.dropObs 1, .dropHandle (.outer 4), .dropVar 0, .dropHandle (.outer 0), .dropObs 0,
   .dropHandle (.outer 2), .dropVar 1, .dropHandle (.outer 1), .dropHandle (.outer 3)]

/-- another order: the reverse -/
def exDrops' : List Action := exDrops.reverse

theorem exStatic_static : ∀ a, a ∈ exStatic → StaticAction Step.exEnv a := by
  intro a ha
  simp only [exStatic, List.mem_cons, List.mem_nil_iff, or_false] at ha
  rcases ha with rfl | rfl | rfl | rfl | rfl | rfl | rfl | rfl | rfl | rfl
  all_goals first
    | trivial
    | (refine ⟨by decide, fun _ _ => rfl, ?_⟩
       intro a ha
       simp only [List.mem_cons, List.mem_nil_iff, or_false] at ha
       rcases ha with rfl | rfl <;> trivial)
    | (refine ⟨by decide, fun _ _ => rfl, ?_⟩
       intro a ha
       simp only [List.mem_cons, List.mem_nil_iff, or_false] at ha
       rcases ha with rfl; trivial)
    | (intro a ha
       simp only [List.mem_cons, List.mem_nil_iff, or_false] at ha
       rcases ha with rfl | rfl <;> trivial)

theorem exDrops_drop : ∀ a, a ∈ exDrops → DropAction a := by
  intro a ha
  simp only [exDrops, List.mem_cons, List.mem_nil_iff, or_false] at ha
  rcases ha with rfl | rfl | rfl | rfl | rfl | rfl | rfl | rfl | rfl <;> trivial

theorem exDrops'_perm : exDrops'.Perm exDrops := List.reverse_perm _

/-- the alive set after a history (`none`: it panicked) -/
def aliveAfter (env : Env) (acts : List Action) : Option (List Nat) :=
  match runActions env acts (State.init 128 true) #[] with
  | .ok (s, _) => some s.aliveSet
  | .error _ => none

/-- does the program hold nothing after the history? -/
def holdsNothingAfter (env : Env) (acts : List Action) : Bool :=
  match runActions env acts (State.init 128 true) #[] with
  | .ok (s, _) => holdsNothingB s
  | .error _ => false

theorem holdsNothingAfter_iff {env : Env} {acts : List Action} (h : holdsNothingAfter env acts = true) :
    ∃ s tk, runActions env acts (State.init 128 true) #[] = .ok (s, tk) ∧ HoldsNothing s := by
  unfold holdsNothingAfter at h
  rcases hx : runActions env acts (State.init 128 true) #[] with e | ⟨s, tk⟩
  · rw [hx] at h; cases h
  · rw [hx] at h; exact ⟨s, tk, rfl, holdsNothing_of_B h⟩

set_option maxRecDepth 100000 in
/-- by evaluation: before the drops all five nodes are alive; after the drops (either order) the program holds
nothing but the engine still does; after the `stabilise` nothing is alive; if only the first five drops are made
(both observers, the handles on n4 and n0, the first `Var`), the `stabilise` releases n4 only -/
theorem exAliveAfterDrops :
    aliveAfter Step.exEnv exStatic = some [1, 2, 3, 0, 4] ∧
    holdsNothingAfter Step.exEnv (exStatic ++ exDrops) = true ∧
    holdsNothingAfter Step.exEnv (exStatic ++ exDrops') = true ∧
    (aliveAfter Step.exEnv (exStatic ++ exDrops)).map List.isEmpty = some false ∧
    aliveAfter Step.exEnv ((exStatic ++ exDrops) ++ [.stabilise]) = some [] ∧
    aliveAfter Step.exEnv ((exStatic ++ exDrops') ++ [.stabilise]) = some [] ∧
    aliveAfter Step.exEnv ((exStatic ++ exDrops.take 5) ++ [.stabilise]) = some [1, 0, 2, 3] :=
  by decide +kernel

/-- … and by the theorem: the hypotheses of `all_dropped_then_stabilise_frees_everything` hold for the example
(in both orders), so whatever the final `stabilise` returns has an empty alive set -/
example {fuel : Nat} : ∃ s tk, runActions Step.exEnv (exStatic ++ exDrops) (State.init 128 true) #[] = .ok (s, tk) ∧
    DInv Step.exEnv s ∧ HoldsNothing s ∧
    ∀ s', (stabilise Step.exEnv fuel).run.run s = (.ok (), s') → s'.aliveSet = [] := by
  obtain ⟨s, tk, h, H⟩ := holdsNothingAfter_iff exAliveAfterDrops.2.1
  exact ⟨s, tk, h, history_then_drops exStatic_static exDrops_drop h, H, fun s' hs =>
    (all_dropped_then_stabilise_frees_everything exStatic_static exDrops_drop h H hs).2⟩

example {fuel : Nat} : ∃ s tk, runActions Step.exEnv (exStatic ++ exDrops') (State.init 128 true) #[] = .ok (s, tk) ∧
    ∀ s', (stabilise Step.exEnv fuel).run.run s = (.ok (), s') → s'.aliveSet = [] := by
  obtain ⟨s, tk, h, H⟩ := holdsNothingAfter_iff exAliveAfterDrops.2.2.1
  exact ⟨s, tk, h, fun s' hs => drop_order_irrelevant exStatic_static exDrops_drop exDrops'_perm h H hs⟩

/-- the reversed order, by `drop_order_independent` from the first order (nothing evaluated for `exDrops'`) -/
example : ∃ s2 tk2, runActions Step.exEnv (exStatic ++ exDrops') (State.init 128 true) #[] = .ok (s2, tk2) ∧
    HoldsNothing s2 ∧
    ∀ fuel s', (stabilise Step.exEnv fuel).run.run s2 = (.ok (), s') → s'.aliveSet = [] := by
  obtain ⟨s, tk, h, H⟩ := holdsNothingAfter_iff exAliveAfterDrops.2.1
  exact drop_order_independent exStatic_static exDrops_drop exDrops'_perm h H

/-- a program that keeps only the observer and the `Var`: the node handles are dropped while the graph is built -/
def exEarly : List Action :=
  [.create (.var (.int 1)), .create (.map 0 [.outer 0]), .dropHandle (.outer 0), .observe (.outer 1),
   .dropHandle (.outer 1), .stabilise, .set 0 (.int 5), .stabilise]

theorem exEarly_prefix : ∀ a, a ∈ exEarly → PrefixAction Step.exEnv a := by
  intro a ha
  simp only [exEarly, List.mem_cons, List.mem_nil_iff, or_false] at ha
  rcases ha with rfl | rfl | rfl | rfl | rfl | rfl | rfl | rfl
  all_goals first
    | exact Or.inr ⟨_, rfl⟩
    | exact Or.inl trivial
    | (refine Or.inl ⟨by decide, fun _ _ => rfl, ?_⟩
       intro a ha
       simp only [List.mem_cons, List.mem_nil_iff, or_false] at ha
       rcases ha with rfl; trivial)

set_option maxRecDepth 100000 in
example : aliveAfter Step.exEnv exEarly = some [1, 0] ∧
    holdsNothingAfter Step.exEnv (exEarly ++ [.dropObs 0, .dropVar 0]) = true ∧
    aliveAfter Step.exEnv ((exEarly ++ [.dropObs 0, .dropVar 0]) ++ [.stabilise]) = some [] :=
  by decide +kernel

set_option maxRecDepth 100000 in
example : ∃ s2 tk2, runActions Step.exEnv (exEarly ++ [.dropVar 0, .dropObs 0]) (State.init 128 true) #[]
    = .ok (s2, tk2) ∧ HoldsNothing s2 ∧
    ∀ fuel s', (stabilise Step.exEnv fuel).run.run s2 = (.ok (), s') → s'.roots = [] ∧ s'.aliveSet = [] := by
  obtain ⟨s, tk, h, H⟩ := holdsNothingAfter_iff
    (env := Step.exEnv) (acts := exEarly ++ [.dropObs 0, .dropVar 0]) (by decide +kernel)
  refine early_handle_drops_allowed exEarly_prefix ?_ (List.Perm.swap _ _ []) h H
  intro a ha
  simp only [List.mem_cons, List.mem_nil_iff, or_false] at ha
  rcases ha with rfl | rfl <;> trivial

theorem exStatic_valid : ValidHist 128 0 0 0 exStatic := by
  simp only [exStatic, ValidHist, ActionOKc, grow, fuelDefault]
  refine ⟨⟨trivial, by decide⟩, ⟨trivial, by decide⟩, ⟨?_, by decide⟩, ⟨?_, by decide⟩, ⟨?_, by decide⟩,
    ⟨4, rfl, by decide⟩, ⟨2, rfl, by decide⟩, by decide, by decide, by decide, trivial⟩
  all_goals
    intro a ha
    simp only [List.mem_cons, List.mem_nil_iff, or_false] at ha
    first
      | (rcases ha with rfl | rfl <;> exact ⟨_, rfl, by decide⟩)
      | (rcases ha with rfl; exact ⟨_, rfl, by decide⟩)

/-- do all the drops name existing things after the history? -/
def namedAfter (env : Env) (acts drops : List Action) : Bool :=
  match runActions env acts (State.init 128 true) #[] with
  | .ok (s, _) => drops.all (okCondB s)
  | .error _ => false

set_option maxRecDepth 100000 in
/-- the total theorem applies to the example: the history is valid, the drops name existing things, the program
holds nothing after them; hence (PROVED, not evaluated) the whole history runs and ends with nothing alive -/
example : ∃ s' tk', runActions Step.exEnv ((exStatic ++ exDrops) ++ [.stabilise]) (State.init 128 true) #[]
    = .ok (s', tk') ∧ s'.roots = [] ∧ s'.aliveSet = [] := by
  refine valid_history_frees_everything exStatic_static exStatic_valid exDrops_drop (by decide) ?_ ?_
  · intro s0 tk0 h0 a ha
    have hn : namedAfter Step.exEnv exStatic exDrops = true := by decide +kernel
    unfold namedAfter at hn
    rw [h0] at hn
    exact okCond_of_B (List.all_eq_true.1 hn a ha)
  · intro s tk hr
    have hh := exAliveAfterDrops.2.1
    unfold holdsNothingAfter at hh
    rw [hr] at hh
    exact holdsNothing_of_B hh

end IncrVerif.Props.C12History
