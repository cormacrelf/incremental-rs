import IncrVerif.Proofs.HeightH12
/-!
# C19 for whole histories of static programs — the height limit is EXACT

`Props/C19.lean` describes `set_height`, `set_max_height_allowed` and the heaps in isolation.  Here the limit is
followed through whole histories of the STATIC fragment of `Props/C01History.lean` extended by the action
`setMaxHeight`: a program whose observed nodes need height exactly `N` is accepted by an engine with limit `N`, one
that needs `N + 1` makes the `stabilise` that has to set that height panic with the height diagnostic
`Panic.site "height-limit"` — and nothing else can go wrong.

FRAGMENT (`HeightH.StaticActionH env a`): `Quiet.StaticAction env a` (create of `const`/`var`/pure `map`/`fold`/`zip`
over top-level operands; `observe`, `cloneObs`, `dropObs`, `disallow`; `set`, `modify`, `update`, `replace`,
`replaceWith`, `get`; `stabilise`, `isStable`, `stats`) or `setMaxHeight k`.  Nothing is assumed about `cfg.debug`.

DEFINITIONS (`Proofs/HeightH1.lean`: `needH`, `HEx`, `RoomH`, `Out`; `HeightH3.lean`: `TInvH`, `pendingNeed`,
`ActionOKH`; `HeightH11.lean`: `limit`, `StaticActionH`, `Refused`, `refusal`, `limitAfter`, `seenAfter`;
`HeightH12.lean`: `histNeed`).  Proof files: `HeightH2` the linking cascade, `HeightH4`/`HeightH6` what never sets a
height (unlinking cascade, drain, end of `stabilise`), `HeightH5` the two observer loops, `HeightH7` `stabilise`,
`HeightH8`–`HeightH10` create / simple actions / `setMaxHeight`, `HeightH11` actions and histories, `HeightH12`
`maxHeightSeen`.
* `needH s n` — the STATIC HEIGHT of node `n`: `1 + max` of the static heights of its children (`kids`), hence `1`
  for a leaf (`const`, `var`, a `fold` without children).  `needH_eq`, `needH_leaf`, `needH_child_lt`,
  `needH_le_index` (`≤ creation index + 1`: a crude bound), `needH_congr_lt` (creating nodes never changes
  the static height of an existing node).  It is a function of the program only (kinds of the nodes).
* `pendingNeed s` — the greatest static height among the nodes of the observers that were created since the last
  `stabilise` and not dropped/disallowed since (`0` if none): the greatest height the next `stabilise` has to set
  (`pendingNeed_le_iff`).  By `needH_child_lt` the whole cone of such a node needs less.
* `limit s` — the configured limit: number of buckets of the heaps − 1.
* `HEx s allClosed` — every necessary node has EXACTLY `height = needH` and `needH ≤ maxHeightSeen`.
  `TInvH N s` — `HEx`, both heaps have limit exactly `N`, `0 ≤ maxHeightSeen ≤ N`, the adjust-heights heap is empty
  (+ the bookkeeping part of `Quiet.TInv`; NO bound on the number of nodes).
* `Refused s a` — `a = stabilise ∧ limit s < pendingNeed s`, or `a = setMaxHeight k ∧ k < maxHeightSeen`.
  `refusal a` — the diagnostic: `"height-limit"` resp.
  `"adjust_heights_heap:set_max_height_allowed:below-max-seen"`.
* `histNeed env acts s tk` — the maximum of `pendingNeed` over the states in which the history issues a `stabilise`.
* `Out x s Q P` — the run of `x` returns in a state satisfying `Q`, or panics WITH THE HEIGHT DIAGNOSTIC in a
  state satisfying `P` (so: no other panic, enough fuel).

PROVED (for the model).
* H1 `heights_exact`, `history_heights_exact`: in every state reached by a history of the fragment, every necessary
  node has `height = needH` exactly, whatever happened before: heights are not remembered (`becameUnnecessary` resets
  them to `-1`, see the last example) and a node that becomes necessary again gets the same height, because
  `becameNecessary` recomputes it bottom-up and `needH` is static.  The cascade: `becameNecessary_exact`.
* H2 `stabilise_exact`: from `QInv` + `TInvH N`, `stabilise` returns iff `pendingNeed s ≤ N` (then `QInv`, `TInvH N`
  hold again and `maxHeightSeen = max old pendingNeed`); otherwise it panics with `"height-limit"`,
  `maxHeightSeen = N + 1` (recorded BEFORE the panic is raised), the status stays `stabilising`: every later
  `stabilise` and `setMaxHeight` panics (`poisoned`).
  `history_never_panics_exact`: a history whose actions name existing things (`ValidHist M` for ANY `M`: `M` bounds
  only the number of nodes of the HISTORY, it is unrelated to the limit) and none of whose actions is `Refused` in the
  state in which it is issued never panics; `QInv` and `TInvH (limit s) s` hold in every reached state
  (`history_invariants`).  `history_refused`: conversely, if the history reaches a state in which the next action is
  `Refused`, that action panics with `refusal a` — for a `stabilise`: the height diagnostic, with
  `maxHeightSeen = limit + 1`, status `stabilising`.
* H3 `setMaxHeight_exact`: between actions `setMaxHeight k` is accepted iff `maxHeightSeen ≤ k`; then both heaps are
  resized (`Proofs.resized k s`), nothing else changes, `QInv` and `TInvH k` hold — so H1/H2 continue with the new
  limit; otherwise it panics with the "below-max-seen" diagnostic and changes nothing.
  `maxHeightSeen_characterised`: after a history, `maxHeightSeen = max old histNeed`; it bounds the static height of
  every node that was necessary in ANY state of the history, and it is attained by a node that was necessary after
  one of the `stabilise`s.  From `State.init`: `maxHeightSeen` = the greatest static height of a node that was EVER
  necessary (`0` if none).
* Non-vacuity: `decide +kernel` examples — a chain of three `map`s over a var (static height 4): limit 4 accepted
  and the observer reads the value; limit 3: the `stabilise` panics with `"height-limit"`, `maxHeightSeen = 4`,
  status `stabilising`; `setMaxHeight 3` refused, `setMaxHeight 10` accepted and a taller graph then accepted.

FINDING (informal statement of C19 is inaccurate; model and Rust agree, see `ex_refused_after_unobserve`):
"`set_max_height_allowed` succeeds iff … `N ≥` the greatest height IN USE" is false; the criterion is the greatest
height EVER seen (`max_height_seen` never decreases): after the only observer is disallowed and a `stabilise` made
every node unnecessary (all heights reset to `-1`), `setMaxHeight 3` is still refused because a node once had
height 4.  History: `maxheight 4; var 1; map f1 n0; map f1 n1; map f1 n2; observe n3; stabilise; disallow o0;
stabilise; setmaxheight 3` → `panic below-max-seen` (both in the model and in the Rust harness).

ASSUMED / NOT PROVED.  Everything is about the executable model.  The fragment excludes bind, map_ref,
map_with_old, expert nodes, custom cutoffs, memoised calls, subscriptions/handlers, `dropVar`, `dropHandle`,
`dropAll`, faults (`arm`): there heights change by `adjust_heights` and the static height is not a function of the
program text.  Histories with dangling indices are outside `ValidHist`.  After a refused `stabilise` nothing is
claimed except `poisoned`.
-/
namespace IncrVerif.Props.C19History
open IncrVerif.Engine IncrVerif.Driver IncrVerif.Proofs IncrVerif.Proofs.Sched IncrVerif.Proofs.Quiet
open IncrVerif.Proofs.HeightH

/-! ## the static height -/

/-- the defining equation: `1 + max` over the children (children were created before their parents) -/
theorem needH_def {env : Env} {s : State} (Q : QInv env s) (n : Nat) :
    needH s n = 1 + lmax ((kids (s.nodeD n).kind).map (needH s)) :=
  needH_eq (kidsLt_of_static Q.struct.static) n

/-- leaves need height 1 -/
theorem needH_of_leaf {s : State} {n : Nat} (h : kids (s.nodeD n).kind = []) : needH s n = 1 := needH_leaf h

/-- a child needs strictly less than its parent: the node of an observer dominates its whole cone -/
theorem needH_child {env : Env} {s : State} (Q : QInv env s) {n c : Nat} (h : c ∈ kids (s.nodeD n).kind) :
    needH s c < needH s n :=
  needH_child_lt (kidsLt_of_static Q.struct.static) h

/-- hence every node in the cone of `n` needs at most what `n` needs: `pendingNeed s ≤ N` says exactly that every
node that the next `stabilise` has to make necessary (the cones of the pending observers) needs height `≤ N` -/
theorem needH_cone {env : Env} {s : State} (Q : QInv env s) {n m : Nat} (h : Reach s n m) :
    needH s m ≤ needH s n := by
  induction h with
  | refl => exact Nat.le_refl _
  | step _ hc ih => exact Nat.le_trans (Nat.le_of_lt (needH_child Q hc)) ih

theorem pendingNeed_cone {env : Env} {s : State} (Q : QInv env s) {N : Nat} :
    pendingNeed s ≤ N ↔ ∀ o ob m, o ∈ s.newObservers → s.observers[o]? = some ob → ob.state = .created →
      Reach s ob.node m → needH s m ≤ N := by
  rw [pendingNeed_le_iff]
  constructor
  · intro h o ob m ho hob hst hr
    exact Nat.le_trans (needH_cone Q hr) (h o ob ho hob hst)
  · intro h o ob ho hob hst
    exact h o ob ob.node ho hob hst (Reach.refl _)

/-! ## H1: heights are exact -/

/-- **The linking cascade, exactly.**  See `HeightH.becameNecessary_out`. -/
theorem becameNecessary_exact {env : Env} {N fuel n : Nat} {s : State} {op : Nat → Op}
    (I : GInv env s op) (hx : HEx s op) (R : RoomH N s)
    (hop : op n = .linking 0) (hlow : ∀ m, op m ≠ .closed → n ≤ m)
    (hpar : ∀ p i, (p, i) ∈ (s.nodeD n).parents → op p ≠ .closed) (hf : 2 * n + 2 ≤ fuel) :
    Out (becameNecessary env fuel n) s
      (fun _ s' => needH s n ≤ N ∧ HEx s' (upd op n .closed) ∧
        s'.maxHeightSeen = max s.maxHeightSeen (needH s n : Int))
      (fun s' => N < needH s n ∧ s'.maxHeightSeen = (N : Int) + 1) :=
  becameNecessary_out I hx R hop hlow hpar hf

/-- under the invariant every necessary node has exactly its static height, within the limit -/
theorem heights_exact {N : Nat} {s : State} (T : TInvH N s) {n : Nat} (hn : s.isNecessary n = true) :
    (s.nodeD n).height = (needH s n : Int) ∧ (needH s n : Int) ≤ s.maxHeightSeen ∧ s.maxHeightSeen ≤ (N : Int) :=
  ⟨(T.hx n hn rfl).1, (T.hx n hn rfl).2, T.room.seen⟩

theorem init_invariants (env : Env) (N : Nat) (d : Bool) :
    QInv env (State.init N d) ∧ TInvH N (State.init N d) := ⟨qinv_init env N d, hinv_init N d⟩

/-- **H1/H2, partial form.**  Every state reached by a history of the fragment from `State.init N d` satisfies `QInv`
and the exact-height invariant for the limit the engine then has. -/
theorem history_invariants {env : Env} {N M : Nat} {d : Bool} {acts : List Action} {s : State} {tk : Array Nat}
    (ha : ∀ a, a ∈ acts → StaticActionH env a) (hv : ValidHist M 0 0 0 acts)
    (h : runActions env acts (State.init N d) #[] = .ok (s, tk)) :
    QInv env s ∧ TInvH (limit s) s := by
  obtain ⟨Q, T, -⟩ := runActions_inv (qinv_init env N d) (hinv_init N d) ha hv h
  exact ⟨Q, T⟩

/-- **H1.**  In every state reached by a history of the fragment every necessary node has EXACTLY its static
height, whatever happened before (nodes that became unnecessary and necessary again included). -/
theorem history_heights_exact {env : Env} {N M : Nat} {d : Bool} {acts : List Action} {s : State} {tk : Array Nat}
    (ha : ∀ a, a ∈ acts → StaticActionH env a) (hv : ValidHist M 0 0 0 acts)
    (h : runActions env acts (State.init N d) #[] = .ok (s, tk)) {n : Nat} (hn : s.isNecessary n = true) :
    (s.nodeD n).height = (needH s n : Int) ∧ needH s n ≤ limit s := by
  obtain ⟨-, T⟩ := history_invariants ha hv h
  obtain ⟨h1, h2, h3⟩ := heights_exact T hn
  exact ⟨h1, by omega⟩

/-! ## H2: the limit is exact -/

/-- **`stabilise`, exactly.** -/
theorem stabilise_exact {env : Env} {N fuel : Nat} {s : State} (Q : QInv env s) (T : TInvH N s)
    (hf : 3 * s.nodes.size + 4 ≤ fuel) :
    Out (stabilise env fuel) s
      (fun _ s' => pendingNeed s ≤ N ∧ TInvH N s' ∧
        s'.maxHeightSeen = max s.maxHeightSeen (pendingNeed s : Int) ∧ s'.nodes.size = s.nodes.size ∧
        (∀ m, (s'.nodeD m).kind = (s.nodeD m).kind))
      (fun s' => N < pendingNeed s ∧ s'.maxHeightSeen = (N : Int) + 1 ∧ s'.status = .stabilising) :=
  stabilise_out Q T hf

/-- a graph of height exactly `N` is accepted … -/
theorem stabilise_accepts {env : Env} {N fuel : Nat} {s : State} (Q : QInv env s) (T : TInvH N s)
    (hf : 3 * s.nodes.size + 4 ≤ fuel) (h : pendingNeed s ≤ N) :
    ∃ s', (stabilise env fuel).run.run s = (.ok (), s') ∧ QInv env s' ∧ TInvH N s' ∧
      s'.maxHeightSeen = max s.maxHeightSeen (pendingNeed s : Int) := by
  obtain ⟨_, s', hrun, -, T', hs, -⟩ := (stabilise_out (env := env) Q T hf).tot (fun t ⟨p, _⟩ => by omega)
  exact ⟨s', hrun, (stabilise_q Q hrun).inv, T', hs⟩

/-- … one of height `N + 1` (or more) panics with the height diagnostic, and with nothing else -/
theorem stabilise_rejects {env : Env} {N fuel : Nat} {s : State} (Q : QInv env s) (T : TInvH N s)
    (hf : 3 * s.nodes.size + 4 ≤ fuel) (h : N < pendingNeed s) :
    ∃ s', (stabilise env fuel).run.run s = (.error (.site "height-limit"), s') ∧
      s'.maxHeightSeen = (N : Int) + 1 ∧ s'.status = .stabilising := by
  obtain ⟨s', hrun, -, p2, p3⟩ := (stabilise_out (env := env) Q T hf).panics (fun _ t ⟨q, _⟩ => by omega)
  exact ⟨s', hrun, p2, p3⟩

/-- after a refused `stabilise` the engine is poisoned: `stabilise` and `set_max_height_allowed` panic -/
theorem poisoned {env : Env} {fuel k : Nat} {s : State} (h : s.status = .stabilising) :
    (stabilise env fuel).run.run s = (.error (.site "state:stabilise:status"), s) ∧
    (setMaxHeightAllowed k).run.run s =
      (.error (.site "state:set_max_height_allowed:during-stabilisation"), s) := by
  refine ⟨?_, smha_stabilising k s h⟩
  unfold stabilise
  rw [Step.run_bind_get]
  have : (assertM (s.status == Status.notStabilising) "state:stabilise:status").run.run s =
      (.error (.site "state:stabilise:status"), s) := by
    rw [run_assertM, h]; rfl
  exact run_bind_err this

/-- every action of the fragment, exactly (see `HeightH.step_exact`) -/
theorem action_exact {env : Env} {N : Nat} {s : State} {a : Action} {tk : Array Nat}
    (Q : QInv env s) (T : TInvH N s) (ha : StaticActionH env a) (hok : ActionOKH s a) :
    (¬ Refused s a → ∃ r s', (stepAction env a tk).run.run s = (.ok r, s') ∧ r.2 = tk ∧ QInv env s' ∧
        TInvH (limitAfter a N) s' ∧ Grown a s s' ∧ s'.maxHeightSeen = seenAfter a s ∧
        (∀ m, m < s.nodes.size → (s'.nodeD m).kind = (s.nodeD m).kind)) ∧
    (Refused s a → ∃ s', (stepAction env a tk).run.run s = (.error (refusal a), s') ∧
        (a = .stabilise → s'.maxHeightSeen = (N : Int) + 1 ∧ s'.status = .stabilising) ∧
        (∀ k, a = .setMaxHeight k → s' = s)) :=
  step_exact Q T ha hok

/-- **H2, total.**  A history of the fragment from `State.init N d` whose actions name existing things and none of
whose actions is refused in the state in which it is issued — every `stabilise` finds `pendingNeed ≤ limit`, every
`setMaxHeight k` finds `maxHeightSeen ≤ k` — never panics. -/
theorem history_never_panics_exact {env : Env} {N M : Nat} {d : Bool} {acts : List Action}
    (ha : ∀ a, a ∈ acts → StaticActionH env a) (hv : ValidHist M 0 0 0 acts)
    (hneed : ∀ as a bs s1 tk1, acts = as ++ a :: bs →
      runActions env as (State.init N d) #[] = .ok (s1, tk1) → ¬ Refused s1 a) :
    ∃ s', runActions env acts (State.init N d) #[] = .ok (s', #[]) ∧ QInv env s' ∧ TInvH (limit s') s' :=
  runActions_exact (qinv_init env N d) (hinv_init N d) ha hv hneed

/-- the same for histories of `Quiet.StaticAction`s (no `setMaxHeight`): the limit stays `N`, and the condition is
`pendingNeed ≤ N` at every `stabilise` -/
theorem static_history_never_panics {env : Env} {N M : Nat} {d : Bool} {acts : List Action}
    (ha : ∀ a, a ∈ acts → StaticAction env a) (hv : ValidHist M 0 0 0 acts)
    (hneed : ∀ as bs s1 tk1, acts = as ++ Action.stabilise :: bs →
      runActions env as (State.init N d) #[] = .ok (s1, tk1) → pendingNeed s1 ≤ N) :
    ∃ s', runActions env acts (State.init N d) #[] = .ok (s', #[]) ∧ QInv env s' ∧ TInvH N s' := by
  have ha' : ∀ a, a ∈ acts → StaticActionH env a := fun a h => Or.inl (ha a h)
  obtain ⟨s', hrun, Q', -⟩ := runActions_exact (qinv_init env N d) (hinv_init N d) ha' hv (by
    intro as a bs s1 tk1 e hrun
    have hvas : ValidHist M 0 0 0 as := validHist_prefix (bs := a :: bs) (by rw [← e]; exact hv)
    have hst : ∀ x, x ∈ as → StaticAction env x := fun x hx => ha x (by rw [e]; exact List.mem_append_left _ hx)
    have hlim : limit s1 = N :=
      (runActions_static_limit (qinv_init env N d) (hinv_init N d) hst hvas hrun).limit_eq
    have hsa := ha a (by rw [e]; exact List.mem_append_right _ (List.mem_cons_self ..))
    cases a <;> first | exact fun h => h | exact hsa.elim | skip
    show ¬ (limit s1 < pendingNeed s1)
    have := hneed as bs s1 tk1 e hrun
    omega)
  exact ⟨s', hrun, Q', runActions_static_limit (qinv_init env N d) (hinv_init N d) ha hv hrun⟩

/-- **H2, converse.**  If the history reaches a state in which the next action is refused, that action — hence the
history — panics with the corresponding diagnostic and with no other panic. -/
theorem history_refused {env : Env} {N M : Nat} {d : Bool} {as bs : List Action} {a : Action} {s1 : State}
    {tk1 : Array Nat} (ha : ∀ x, x ∈ as ++ [a] → StaticActionH env x) (hv : ValidHist M 0 0 0 (as ++ [a]))
    (h1 : runActions env as (State.init N d) #[] = .ok (s1, tk1)) (hr : Refused s1 a) :
    runActions env (as ++ a :: bs) (State.init N d) #[] = .error (refusal a) ∧
    ∃ s2, (stepAction env a tk1).run.run s1 = (.error (refusal a), s2) ∧
      (a = .stabilise → s2.maxHeightSeen = (limit s1 : Int) + 1 ∧ s2.status = .stabilising) ∧
      (∀ k, a = .setMaxHeight k → s2 = s1) :=
  runActions_refused (qinv_init env N d) (hinv_init N d) ha hv h1 hr

/-- in particular: a `stabilise` that has to make a node of static height `> limit` necessary panics with the height
diagnostic -/
theorem history_height_panic {env : Env} {N M : Nat} {d : Bool} {as bs : List Action} {s1 : State}
    {tk1 : Array Nat} (ha : ∀ x, x ∈ as → StaticActionH env x) (hv : ValidHist M 0 0 0 (as ++ [.stabilise]))
    (h1 : runActions env as (State.init N d) #[] = .ok (s1, tk1)) (hr : limit s1 < pendingNeed s1) :
    runActions env (as ++ Action.stabilise :: bs) (State.init N d) #[] = .error (.site "height-limit") :=
  (runActions_refused (a := .stabilise) (qinv_init env N d) (hinv_init N d)
    (fun x hx => by
      rcases List.mem_append.1 hx with h | h
      · exact ha x h
      · rw [List.mem_singleton.1 h]; exact Or.inl trivial) hv h1 hr).1

/-! ## H3: `set_max_height_allowed` between actions, and what `maxHeightSeen` is -/

/-- **`setMaxHeight k` between actions, exactly.** -/
theorem setMaxHeight_exact {env : Env} {N k : Nat} {s : State} {tk : Array Nat} (Q : QInv env s) (T : TInvH N s) :
    (s.maxHeightSeen ≤ (k : Int) →
      (stepAction env (.setMaxHeight k) tk).run.run s = (.ok ("ok", tk), resized k s) ∧
      QInv env (resized k s) ∧ TInvH k (resized k s)) ∧
    ((k : Int) < s.maxHeightSeen →
      (stepAction env (.setMaxHeight k) tk).run.run s =
        (.error (.site "adjust_heights_heap:set_max_height_allowed:below-max-seen"), s)) :=
  setMaxHeight_step Q T

/-- **What `maxHeightSeen` is.**  See `HeightH.seen_characterised`; from the initial state the old value is `0`. -/
theorem maxHeightSeen_characterised {env : Env} {N M : Nat} {d : Bool} {acts : List Action} {s' : State}
    {tk' : Array Nat} (ha : ∀ a, a ∈ acts → StaticActionH env a) (hv : ValidHist M 0 0 0 acts)
    (h : runActions env acts (State.init N d) #[] = .ok (s', tk')) :
    s'.maxHeightSeen = (histNeed env acts (State.init N d) #[] : Int) ∧
    (∀ as bs st tk1 n, acts = as ++ bs → runActions env as (State.init N d) #[] = .ok (st, tk1) →
      st.isNecessary n = true → needH s' n = needH st n ∧ (needH s' n : Int) ≤ s'.maxHeightSeen) ∧
    (s'.maxHeightSeen = 0 ∨
      ∃ as bs st tk1 n, acts = as ++ bs ∧ runActions env as (State.init N d) #[] = .ok (st, tk1) ∧
        st.isNecessary n = true ∧ (needH s' n : Int) = s'.maxHeightSeen) := by
  obtain ⟨h1, h2, h3⟩ := seen_characterised (qinv_init env N d) (hinv_init N d) ha hv h
  have h0 : (State.init N d).maxHeightSeen = 0 := (init_limits N d).2.2.1
  refine ⟨?_, h2, ?_⟩
  · rw [h1, h0]
    have : (0 : Int) ≤ (histNeed env acts (State.init N d) #[] : Int) := Int.natCast_nonneg _
    exact Int.max_eq_right this
  · rcases h3 with h3 | h3
    · left; rw [h3, h0]
    · right; exact h3

/-! ## non-vacuity -/

/-- a var and a chain of three `map`s over it (static height 4), an observer of the top -/
def chain : List Action :=
  [.create (.var (.int 1)), .create (.map 1 [.outer 0]), .create (.map 1 [.outer 1]),
   .create (.map 1 [.outer 2]), .observe (.outer 3)]

/-- the state after a history from `State.init N true` (`none` if it panicked) -/
def after (N : Nat) (acts : List Action) : Option State :=
  match runActions Step.exEnv acts (State.init N true) #[] with
  | .ok (s, _) => some s
  | .error _ => none

/-- the outcome of one more action: the panic (if any), what observer 0 then reads, the largest height seen, the
status -/
def next (N : Nat) (acts : List Action) (a : Action) : Option (Option Panic × Option Val × Int × Status) :=
  (after N acts).map fun s =>
    let r := (stepAction Step.exEnv a #[]).run.run s
    ((match r.1 with | .ok _ => none | .error e => some e),
     (match r.2.tryGetValue Step.exEnv 0 with | .ok v => some v | .error _ => none),
     r.2.maxHeightSeen, r.2.status)

/-- the static heights and the pending need of the chain, computed -/
example : ((after 4 chain).map fun s => ((List.range 4).map (needH s), pendingNeed s, limit s)) =
    some ([1, 2, 3, 4], 4, 4) := by decide +kernel

set_option maxRecDepth 100000 in
/-- limit 4 = the height needed: accepted, the observer reads the value -/
example : next 4 chain .stabilise = some (none, some (.int 1), 4, .notStabilising) := by decide +kernel

set_option maxRecDepth 100000 in
/-- limit 3: the `stabilise` panics with the height diagnostic; `maxHeightSeen = 4 = limit + 1`; poisoned -/
example : next 3 chain .stabilise = some (some (.site "height-limit"), none, 4, .stabilising) := by
  decide +kernel

set_option maxRecDepth 100000 in
/-- a `setMaxHeight` that is refused … -/
example : next 4 (chain ++ [.stabilise]) (.setMaxHeight 3) =
    some (some (.site "adjust_heights_heap:set_max_height_allowed:below-max-seen"), some (.int 1), 4,
      .notStabilising) := by
  decide +kernel

set_option maxRecDepth 100000 in
/-- … and one that is accepted; afterwards a taller graph (static height 5) is accepted -/
example : next 4 (chain ++ [.stabilise, .setMaxHeight 10, .create (.map 1 [.outer 3]), .observe (.outer 4)])
    .stabilise = some (none, some (.int 1), 5, .notStabilising) := by
  decide +kernel

set_option maxRecDepth 100000 in
/-- FINDING: the criterion is the greatest height EVER seen, not the greatest height in use — after the observer
is disallowed and every node has become unnecessary, `setMaxHeight 3` is still refused -/
theorem ex_refused_after_unobserve :
    next 4 (chain ++ [.stabilise, .disallow 0, .stabilise]) (.setMaxHeight 3) =
      some (some (.site "adjust_heights_heap:set_max_height_allowed:below-max-seen"), none, 4,
        .notStabilising) ∧
    ((after 4 (chain ++ [.stabilise, .disallow 0, .stabilise])).map fun s =>
      (List.range 4).map fun n => (s.isNecessary n, (s.nodeD n).height)) =
      some [(false, -1), (false, -1), (false, -1), (false, -1)] := by
  constructor <;> decide +kernel

/-- the chain is in the fragment and valid, so the theorems apply to it -/
theorem chain_static : ∀ a, a ∈ chain ++ [Action.stabilise] → StaticActionH Step.exEnv a := by
  intro a ha
  simp only [chain, List.cons_append, List.nil_append, List.mem_cons, List.mem_nil_iff, or_false] at ha
  rcases ha with rfl | rfl | rfl | rfl | rfl | rfl
  all_goals first
    | exact Or.inl trivial
    | (refine Or.inl ⟨by decide, fun _ _ => rfl, ?_⟩
       intro a ha
       simp only [List.mem_cons, List.mem_nil_iff, or_false] at ha
       rcases ha with rfl
       trivial)

theorem chain_valid : ValidHist 100 0 0 0 (chain ++ [Action.stabilise]) := by
  simp only [chain, List.cons_append, List.nil_append, ValidHist, ActionOKc, grow, fuelDefault]
  refine ⟨⟨trivial, by decide⟩, ⟨?_, by decide⟩, ⟨?_, by decide⟩, ⟨?_, by decide⟩, ⟨3, rfl, by decide⟩,
    by decide, trivial⟩
  all_goals
    intro a ha
    simp only [List.mem_cons, List.mem_nil_iff, or_false] at ha
    rcases ha with rfl
  · exact ⟨0, rfl, by decide⟩
  · exact ⟨1, rfl, by decide⟩
  · exact ⟨2, rfl, by decide⟩

set_option maxRecDepth 100000 in
/-- the converse theorem applied: with limit 3 the history panics with the height diagnostic (proved, the
hypothesis `limit < pendingNeed` is computed) -/
example : runActions Step.exEnv (chain ++ Action.stabilise :: []) (State.init 3 true) #[] =
    .error (.site "height-limit") := by
  have h : ∃ s1 tk1, runActions Step.exEnv chain (State.init 3 true) #[] = .ok (s1, tk1) ∧
      limit s1 < pendingNeed s1 := by
    have : ((after 3 chain).map fun s => decide (limit s < pendingNeed s)) = some true := by decide +kernel
    unfold after at this
    rcases hx : runActions Step.exEnv chain (State.init 3 true) #[] with e | ⟨s, tk⟩
    · rw [hx] at this; cases this
    · rw [hx] at this
      simp only [Option.map_some, Option.some.injEq, decide_eq_true_eq] at this
      exact ⟨s, tk, rfl, this⟩
  obtain ⟨s1, tk1, h1, hr⟩ := h
  exact history_height_panic (M := 100) (fun x hx => chain_static x (List.mem_append_left _ hx)) chain_valid h1 hr

end IncrVerif.Props.C19History
