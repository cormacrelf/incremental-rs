import IncrVerif.Proofs.DriverH40
/-!
# C14 with DRIVERS — expert nodes whose dependencies are edited from inside node functions, over whole histories

`Props/C14History.lean` proved C14 (value clause) for expert nodes whose dependencies are added at TOP LEVEL, and — as
pure logic only (`Drv.StepD`, `driver_step_keeps`) — what a driver step would have to satisfy.  Here the missing link:
REAL RUNS of drivers, the drain and `stabilise` with drivers, whole histories.

FRAGMENT.  Fragment X1 of `Props/C14History.lean` (static programs, `sumdeps` expert nodes, top-level `addDep`) for the
environment with the effects erased (`E = EffH.noEff env`), so ANY `map f args` with a user function (`f < fnZip`) may be
created; such a node is a DRIVER when its effect list `env.fnEff f vals` is not empty.  Well-formedness is required when a
`stabilise` starts (`DriverH.DrvOK env s`; `DActionOK`, `RunOKD`: the rule of the history language "an expert node is
mutated only from the function of a node attached as one of its dependencies, and the attachment precedes the
`stabilise`"): every effect of every user `map` node `n`, for every argument list, is
  `xAdd e c cb` / `xRm e i` / `xSel e cb always targets` / `xStale e`
where `e` names an expert node `x` with `Drives s n x` — `n` is a dependency of `x` by a PROTECTED edge: one that no
script removes (its name is not in the record's `script` list, it is not the selected dependency, it is `< nextDep`;
the edge a top-level `addDep x n` creates is protected) — and every target `c` satisfies `PS s c`: an existing node below
which there is NO expert node (so the new edge closes no cycle: the acyclicity side condition `¬ Below s c x` of
`AddDepOK` holds for free, and the target's cone never changes).  Everything else is allowed: several drivers per expert
node and several expert nodes per driver, the same target added several times (duplicates on one child), targets that
are unobserved / never computed / higher than the expert node / the driver's own input / the driver itself, maps and
observers on top of expert nodes and of drivers, unobserving and re-observing, both `cfg.debug` settings.
NOT in the fragment: `xInval`, targets that depend on expert nodes (a driver of one expert node adding ANOTHER expert
node: `finding_2.hist` of the previous round), write effects in the same functions, `cbsum` closures.

DESIGN.  (1) The contract `Drv.StepD` of `Proofs/ExpertH54.lean` is NOT what the model does: its clause `ret` demands
that a handed-over parent is not higher than anything queued; but a driver whose first parent is a one-child `map` hands
that parent over through the recompute-now shortcut (`parent_iter_can_recompute_now`) also when the rewiring has just
queued a LOWER node (transient necessity: a never-computed target enters the heap below the current height) —
`exRet`/`stepsRet` below (kernel-checked; run as a `.hist` file: model = real implementation,
values correct).  CORRECTED CONTRACT: a run of a driver `n` is TWO steps of the virtual static state (`ExpertH.virt`),
  `virt s  —StepW→  Ŝ  —BindH.StepRelB→  virt s'`,
the REWIRING `DriverH.StepW env X n s Ŝ` (the nodes `x` with `X x` get new child lists, children become
necessary/unnecessary — link and unlink cascades, nodes enter and leave the heap, heights are adjusted —, each `x` is
stale afterwards; `n` is unchanged, still current, NOT yet stamped: `Ŝ = unstamp n _ (virt s2)`), followed by an ordinary
static step of `n` in the NEW graph (`BindH.StepRelB`, whose hand-over condition `HandOK` has the shortcut).
(2) Between two effects of a running driver the invariant is `DriverH.Mid E s`: the driver is stamped, so no necessary
stale node is unqueued and the virtual state satisfies the structural invariant AT REST `QR.Struct` (rank form); each
expert API call is proved `Mid → Mid` by opening the edited node (`.linking k`) as `addDep_nec` does.
(3) The drain invariant is `DriverH.DD env s x` = `BindH.DInv (virtEnv E) (virt s) x` (the drain invariant with a CHANGING
graph of `Props/C03Order.lean`: `fresh` over all edges is what tolerates transient necessity) ∧ `AuxD E s` ∧ `DrvOK env s`.

PROVED (for the model; partial correctness: each statement assumes that the call returns `(.ok _, s')`).
* D1 `rewiring_keeps` (`stepW_inv`, pure): `DInv env s (some n)` + `StepW` ⟹ `DInv env s' (some n)`.
* D1 `add_in_driver`, `remove_in_driver`, `make_stale_in_driver` (`AddSpec`, `RmSpec`, `StaleSpec`): `expert_add_dependency`
  (necessary expert: `state_add_parent` — linking cascade, stale nodes enter the heap at ANY height, `adjust_heights`
  when the new child is higher, the expert queued exactly once), `expert_remove_dependency` (index swap of the last edge
  in the children's parent lists, duplicates on one child, `remove_parent`, `check_if_unnecessary` — unlink cascade
  INSIDE the drain: nodes leave the heap —, the expert queued unless it is already, the last edge dropped) and
  `expert_make_stale`, each from `Mid` to `Mid`, with the frame `EF` and the exact new record; on an unnecessary expert
  node only the record changes.
* D1 `effects_in_driver` (`EffectsSpec`): the whole effect list (`xSel`: add the new dependency, then drop the previously
  selected one), from `Mid` to `Mid`; protected edges stay protected; the driver stays necessary.
* D1 `driver_run`: a successful `recomputeOne` of a user `map` node on the current node of the drain invariant IS a
  rewiring step followed by a static step (the decomposition above, explicitly); `driver_run_keeps` (`StepMapSpec`): it
  keeps `DD`.  `other_run_keeps`, `pop_keeps`: the other nodes (expert nodes included) and `remove_min`.
* D2 `drain_keeps`: `drainHeap` keeps `DD`, ends with an empty heap, and NO NODE RUNS TWICE (`drainTrace … Nodup`).
* D2 `stabilise_drivers` (`StabSpec`/`StabilisedD`): from the invariant between actions `QInvX E rk s` and `DrvOK env s`, a
  successful `stabilise` ends in `QInvX E rk' s'` (some rank) and `DrvOK env s'`; EVERY NECESSARY NODE is not stale and
  READS `evalX env s' k n` — from-scratch evaluation in the FINAL graph: an expert node = the sum of the from-scratch
  values of its CURRENT dependencies, as left by the drivers' last runs —; every in-use observer reads it.
  `expert_value_drivers`: the stored value of a necessary expert node is the sum modulo `m` of the current values of its
  current dependencies.
* D3 `no_pending_make_stale`: after a `stabilise` no necessary expert node has its `forceStale` flag up.
  `make_stale_forces'`: a raised flag survives every step of the drain except the recompute of its own node (frame `FS`),
  so from any state between two pops with the flag of `x` up, if `x` is needed at the end then `x` runs in the rest of
  the drain — exactly once (no node runs twice).  `make_stale_next_stabilise'`: a flag that is up when a `stabilise`
  starts (raised while the node was unneeded) on a node needed at its end: the node is run exactly once by the drain of
  THAT `stabilise`.  On an unneeded node the flag simply stays up.
* D2 `history_inv`, `history_every_stabilise`: whole histories from `State.init`.
* Non-vacuity (kernel evaluation): `exSel` (a driver that `xsel`s between two targets), `exAddRm` (a driver that `xadd`s
  twice and `xrm`s the oldest scripted dependency in every run): both are histories of the fragment (`runOKDB`), run,
  read 3, 6, 0, 6 resp. 4, 1, 0 (as the real implementation does), and the
  dependency lists change as described; the check rejects the history in which the driver is not attached.

VALIDATION.  `BindH.DInv (virtEnv E) (virt s) x` was first CHECKED (executable checker `BindH.dinvReport`) at all 521 962
drain states of 6400 random histories of the fragment (62 141 driver runs, 75 062 `xadd`, 54 897 `xrm`, 26 597 `xsel`,
16 543 `xstale`, 22 490 driver runs with a link cascade, 14 546 with an unlink cascade, 23 040 with `adjust_heights`):
no violation, no node run twice, no panic, model = real implementation.  No finding.

ASSUMED / NOT PROVED.  Partial correctness throughout (no "never panics" theorem; in debug builds
`assert_currently_running_node_is_child` is implied by `Drives`, but that is not stated).  `xInval` and per-key
operators (C16, D4: their drivers CREATE and INVALIDATE nodes inside the drain — outside "all nodes valid, no creation
in the drain") are not covered.  The callback clause of C14 is false as literally stated (see `Props/C14History.lean`).
-/
namespace IncrVerif.Props.C14Drivers
open IncrVerif.Engine IncrVerif.Driver IncrVerif.Proofs IncrVerif.Proofs.Step IncrVerif.Proofs.Sched
open IncrVerif.Proofs.ExpertH IncrVerif.Proofs.ExpertH.QR IncrVerif.Proofs.EffH IncrVerif.Proofs.DriverH
open IncrVerif.Props.C14History (readAfter)

/-! ## D1: the pure contract -/

/-- **a rewiring step keeps the drain invariant** (the current node stays current) -/
theorem rewiring_keeps {env : Env} {X : Nat → Prop} {n : Nat} {s s' : State}
    (I : BindH.DInv env s (some n)) (R : StepW env X n s s') : BindH.DInv env s' (some n) := stepW_inv I R

/-- a rewiring step followed by a static step of the driver keeps the drain invariant (the corrected `driver_step_keeps`) -/
theorem driver_step_keeps' {env : Env} {X : Nat → Prop} {n : Nat} {v : Val} {ch : Bool} {r : Option Nat}
    {s ŝ s' : State} (I : BindH.DInv env s (some n)) (W : StepW env X n s ŝ)
    (ht : BindH.TargetB env ŝ n v) (R : BindH.StepRelB n v ch r ŝ s') : BindH.DInv env s' r :=
  BindH.stepB_inv (stepW_inv I W) ht R

/-! ## D1: the three expert API calls between two effects -/

theorem add_in_driver (E : Env) : AddSpec E := addSpec E
theorem remove_in_driver (E : Env) : RmSpec E := rmSpec E
theorem make_stale_in_driver (E : Env) : StaleSpec E := staleSpec E

/-- **the effect list of a driver**, from `Mid` to `Mid` -/
theorem effects_in_driver (env : Env) : EffectsSpec env := effects_spec env

/-! ## D1: real runs -/

/-- **one `recomputeOne` of a user `map` node (a driver) keeps the drain invariant with drivers** -/
theorem driver_run_keeps (env : Env) : StepMapSpec env := stepMap_spec env

/-- **A REAL RUN OF A DRIVER IS A REWIRING STEP FOLLOWED BY A STATIC STEP.**  `s2`: the state after the effect list;
`Ŝ = unstamp n _ (virt s2)`: its virtual state with the stamp of `n` put back. -/
theorem driver_run {env : Env} {fuel n f : Nat} {args : List Nat} {s s' : State} {r : Option Nat}
    (D : DD env s (some n)) (hk : (s.nodeD n).kind = .map f args) (hf : f < fnZip)
    (h : (recomputeOne env fuel n).run.run s = (.ok r, s')) :
    ∃ (vals : List Val) (s2 : State) (ch : Bool),
      (runEffects env fuel (env.fnEff f vals) ((vals.headD .unit).toInt)).run.run (started n s) = (.ok (), s2) ∧
      Mid (noEff env) (started n s) ∧ Mid (noEff env) s2 ∧
      StepW (virtEnv (noEff env)) (Rewired s s2) n (virt s) (unstamp n (s.nodeD n).recomputedAt (virt s2)) ∧
      BindH.TargetB (virtEnv (noEff env)) (unstamp n (s.nodeD n).recomputedAt (virt s2)) n (env.fn f vals) ∧
      BindH.StepRelB n (env.fn f vals) ch r (unstamp n (s.nodeD n).recomputedAt (virt s2)) (virt s') := by
  have I := D.inv
  have A := D.aux
  obtain ⟨hnecV, hltV, -, -, -⟩ := I.cur_facts
  have hlt : n < s.nodes.size := by rw [← virt_size]; exact hltV
  have hnec : s.isNecessary n = true := by rw [← virt_isNecessary]; exact hnecV
  have frs : Fr s := A.frag.fr A.pinv
  have hne := map_not_expert hk
  obtain ⟨vals, s2, hvals, hX, hrun⟩ := run_split A.frag hlt hk hf h
  have M1 : Mid (noEff env) (started n s) := midOfDInv _ n s I A hne
  have hOK : ∀ eff, eff ∈ env.fnEff f vals → EffOK (started n s) n eff := fun eff he =>
    (D.drv n f args hlt hk hf vals eff he).to_started
  obtain ⟨M2, ef, -, hn2⟩ := effects_in_driver env fuel n _ _ (started n s) s2 M1 hOK hX
  have hnec2 : s2.isNecessary n = true := hn2 (by rw [started_isNecessary]; exact hnec)
  obtain ⟨W, -⟩ := stepWOfMid _ n (DOf (started n s) n) s s2 I A hne M2 ef
    (fun e x hD hkx => driver_child A.frag hD hkx) hnec2
  obtain ⟨ch, R, ht, -⟩ := static_step frs hlt hk hvals M2 ef (stepW_inv I W) hrun
  exact ⟨vals, s2, ch, hX, M1, M2, W, ht, R⟩

/-- one `recomputeOne` of any other node of the fragment (`const`, `var`, built-in `map`, `fold`, expert node) -/
theorem other_run_keeps (env : Env) : StepOtherSpec env := stepOtherSpec env

/-- **one `recomputeOne` of the drain** -/
theorem step_keeps (env : Env) : StepSpec env := step_spec env

theorem pop_keeps (env : Env) : PopSpec env := popSpec env

/-! ## D2: the drain, `stabilise`, histories -/

/-- **the drain with drivers**: the invariant is kept, the heap is empty at the end, no node runs twice -/
theorem drain_keeps (env : Env) : DrainSpec env := drain_spec env

/-- every node the drain runs had not been recomputed in this round before, and carries the stamp of the round at the
end (stamps read in the virtual state: a pending `make_stale`/edit counts as "never computed") -/
theorem drain_once' (env : Env) (fuel : Nat) (s s' : State) (D : DD env s none)
    (h : (drainHeap env fuel).run.run s = (.ok (), s')) : ∀ m, m ∈ drainTrace env fuel s → RanV s s' m :=
  drain_once env (step_keeps env) (pop_keeps env) fuel s s' D h

/-- **`stabilise` with drivers** -/
theorem stabilise_drivers (env : Env) : StabSpec env := stab_spec env

/-- **C14, the value clause, with drivers**: after a `stabilise` a necessary expert node stores the sum modulo
`m = er.f / 10` of the current values of its CURRENT dependencies (as the drivers left them) -/
theorem expert_value_drivers {env : Env} {rk : Nat → Nat} {fuel : Nat} {s s' : State}
    (Q : QInvX (noEff env) rk s) (K : DrvOK env s) (h : (stabilise env fuel).run.run s = (.ok (), s'))
    {n e : Nat} {er : ExpertRec} (hn : s'.isNecessary n = true) (hk : (s'.nodeD n).kind = .expert e)
    (hx : s'.experts[e]? = some er) :
    ∃ vals : List Val, er.children.map (fun ed => s'.value env ed.child) = vals.map some ∧
      s'.value env n = some (.int (emod ((vals.map Val.toInt).foldl (· + ·) 0) ((er.f / 10 : Nat) : Int))) :=
  expert_value_d (stabilise_drivers env rk fuel s s' Q K h) hn hk hx

/-- **D3 (partly): no pending `make_stale`.**  After a `stabilise` no necessary expert node has its `forceStale` flag up:
every `make_stale` (and every edit) of a node that is needed was followed by a recompute of that node in the same
`stabilise` — by exactly one, since no node runs twice. -/
theorem no_pending_make_stale {env : Env} {rk : Nat → Nat} {fuel : Nat} {s s' : State}
    (Q : QInvX (noEff env) rk s) (K : DrvOK env s) (h : (stabilise env fuel).run.run s = (.ok (), s'))
    {n e : Nat} {er : ExpertRec} (hn : s'.isNecessary n = true) (hk : (s'.nodeD n).kind = .expert e)
    (hx : s'.experts[e]? = some er) : er.forceStale = false := by
  have R := stabilise_drivers env rk fuel s s' Q K h
  obtain ⟨rk', Q'⟩ := R.inv
  have hst := (R.values n hn _ (Nat.lt_succ_self _)).1
  have hlt : n < s'.nodes.size := Q'.frag.lt_of_expert hk
  have hX : Xp.IsExpert s' n (s'.nodeD n) e er := ⟨some_of_lt hlt, Q'.frag.valid n hlt, hk, hx⟩
  cases hf : er.forceStale with
  | false => rfl
  | true => rw [hX.isStale_of_forceStale hf] at hst; cases hst

/-- **D3: a raised `make_stale` flag forces a recompute.**  From ANY state between two pops of a drain in which the flag
`forceStale` of the expert node `x` is up (raised by `xStale`, or by an edit `xAdd`/`xRm`/`xSel`, in this or an earlier
round): if `x` is needed at the end of the drain, `x` is among the nodes the remaining drain runs — once, since
`drainTrace` has no duplicates (`drain_keeps`). -/
theorem make_stale_forces' (env : Env) (fuel : Nat) (s s' : State) (D : DD env s none)
    (h : (drainHeap env fuel).run.run s = (.ok (), s')) (x e : Nat) (er : ExpertRec)
    (hk : (s.nodeD x).kind = .expert e) (hx : s.experts[e]? = some er) (hf : er.forceStale = true)
    (hn : s'.isNecessary x = true) : x ∈ drainTrace env fuel s ∧ (drainTrace env fuel s).Nodup :=
  ⟨make_stale_forces env fuel s s' D h x e er hk hx hf hn, (drain_keeps env fuel s s' D h).2.2.2⟩

/-- **D3 for a whole `stabilise`: `make_stale` forces exactly one recompute at the next `stabilise` in which the node is
needed.**  If the flag of the expert node `x` is up when a `stabilise` starts (it was raised while `x` was not needed:
`no_pending_make_stale`) and `x` is needed when it ends, then `x` is run by the drain of THIS `stabilise`, exactly once. -/
theorem make_stale_next_stabilise' {env : Env} {rk : Nat → Nat} {fuel : Nat} {s s' : State}
    (Q : QInvX (noEff env) rk s) (K : DrvOK env s) (h : (stabilise env fuel).run.run s = (.ok (), s'))
    {x e : Nat} {er : ExpertRec} (hk : (s.nodeD x).kind = .expert e) (hx : s.experts[e]? = some er)
    (hf : er.forceStale = true) (hn : s'.isNecessary x = true) :
    ∃ t1 t2 t3, (addNewObservers env fuel).run.run { s with status := .stabilising } = (.ok (), t1) ∧
      (unlinkDisallowedObservers fuel).run.run t1 = (.ok (), t2) ∧
      (drainHeap env fuel).run.run t2 = (.ok (), t3) ∧ (stabiliseEnd env fuel).run.run t3 = (.ok (), s') ∧
      x ∈ drainTrace env fuel t2 ∧ (drainTrace env fuel t2).Nodup :=
  make_stale_next_stabilise_phases Q K h hk hx hf hn

/-- every action of the fragment keeps the invariant between actions (`stabilise`: when the drivers are well-formed) -/
theorem action_keeps {env : Env} {rk : Nat → Nat} {s s' : State} {a : Action} {tk : Array Nat}
    {r : String × Array Nat} (Q : QInvX (noEff env) rk s) (ha : DActionOK env s a)
    (h : (stepAction env a tk).run.run s = (.ok r, s')) : ∃ rk', QInvX (noEff env) rk' s' :=
  step_d (stabilise_drivers env) Q ha h

theorem history_inv {env : Env} {N : Nat} {d : Bool} {acts : List Action} {s : State} {tk : Array Nat}
    (ha : RunOKD env acts (State.init N d) #[])
    (h : runActions env acts (State.init N d) #[] = .ok (s, tk)) : ∃ rk, QInvX (noEff env) rk s :=
  history_d (stabilise_drivers env) ha h

/-- **C14 (value clause) for whole histories WITH DRIVERS.**  At every `stabilise` of a history of the fragment that
runs from the initial state: the state before satisfies the invariant and its drivers are well-formed; the `stabilise`
returns with all conclusions of `StabilisedD`: invariant again, every necessary node non-stale and reading the
from-scratch value of the FINAL graph, every in-use observer reads `evalX` of its node (`reads`), every observer is in
use or unlinked, the drain ran no node twice. -/
theorem history_every_stabilise {env : Env} {N : Nat} {d : Bool} {as bs : List Action} {s : State} {tk : Array Nat}
    (ha : RunOKD env (as ++ Action.stabilise :: bs) (State.init N d) #[])
    (h : runActions env (as ++ Action.stabilise :: bs) (State.init N d) #[] = .ok (s, tk)) :
    ∃ s1 tk1 s2 rk1, runActions env as (State.init N d) #[] = .ok (s1, tk1) ∧ QInvX (noEff env) rk1 s1 ∧
      DrvOK env s1 ∧ (stabilise env fuelDefault).run.run s1 = (.ok (), s2) ∧ StabilisedD env fuelDefault s1 s2 ∧
      runActions env bs s2 tk1 = .ok (s, tk) :=
  history_stabilise_d (stabilise_drivers env) ha h

/-- a decidable sufficient check of `RunOKD` (it runs the history on the model; `effOf`: the effect list of each function) -/
theorem runOKD_of_check' {env : Env} {effOf : Nat → List Effect} (heff : ∀ f vals, env.fnEff f vals = effOf f)
    {mapOK xOK : Nat → Bool} (hm : ∀ f, mapOK f = true → f < fnPerKey)
    (hx : ∀ f, xOK f = true → XEnvOK env f ∧ f < xBase) {acts : List Action} {s : State} {tk : Array Nat}
    (h : runOKDB env effOf mapOK xOK acts s tk = true) : RunOKD env acts s tk :=
  runOKDB_sound heff hm hx acts s tk h

/-! ## non-vacuity -/

/-- the two example histories are histories of the fragment, run, and end in states satisfying the invariant -/
theorem examples_ok :
    RunOKD exEnvD exSel (State.init 128 true) #[] ∧ RunOKD exEnvD exAddRm (State.init 128 true) #[] ∧
    (∃ s tk rk, runActions exEnvD exSel (State.init 128 true) #[] = .ok (s, tk) ∧ QInvX (noEff exEnvD) rk s) ∧
    (∃ s tk rk, runActions exEnvD exAddRm (State.init 128 true) #[] = .ok (s, tk) ∧ QInvX (noEff exEnvD) rk s) :=
  ⟨exSel_ok, exAddRm_ok, exSel_inv (stabilise_drivers exEnvD), exAddRm_inv (stabilise_drivers exEnvD)⟩

/-- the reads of the in-use observer and the dependency lists `(dependency, child)` of the expert record after each
`stabilise`: `exSel` (driver `n5 = map f10 [n0]` selects `n1` or `n2` by the parity of its input; the previously selected
dependency is dropped): reads 3, 6, 0, 6; `exAddRm` (driver `n4` adds `n2` twice and removes the oldest scripted
dependency in every run — `swap_remove` visible in the last list): reads 4, 1, 0 -/
theorem examples_reads :
    (readAfter exEnvD (exSel.take 9) 0 = some (.int 3) ∧ readAfter exEnvD (exSel.take 11) 0 = some (.int 6) ∧
      readAfter exEnvD (exSel.take 13) 0 = some (.int 0) ∧ readAfter exEnvD exSel 0 = some (.int 6)) ∧
    (depsAfter exEnvD (exSel.take 8) 0 = [(0, 5)] ∧ depsAfter exEnvD (exSel.take 9) 0 = [(0, 5), (1, 1)] ∧
      depsAfter exEnvD (exSel.take 11) 0 = [(0, 5), (2, 2)] ∧ depsAfter exEnvD (exSel.take 13) 0 = [(0, 5), (2, 2)] ∧
      depsAfter exEnvD exSel 0 = [(0, 5), (3, 1)]) ∧
    (readAfter exEnvD (exAddRm.take 8) 0 = some (.int 4) ∧ readAfter exEnvD (exAddRm.take 10) 0 = some (.int 1) ∧
      readAfter exEnvD exAddRm 0 = some (.int 0)) ∧
    (depsAfter exEnvD (exAddRm.take 7) 0 = [(0, 4)] ∧ depsAfter exEnvD (exAddRm.take 8) 0 = [(0, 4), (2, 2)] ∧
      depsAfter exEnvD (exAddRm.take 10) 0 = [(0, 4), (4, 2), (3, 2)] ∧
      depsAfter exEnvD exAddRm 0 = [(0, 4), (4, 2), (6, 2), (5, 2)]) :=
  ⟨exSel_reads, exSel_deps, exAddRm_reads, exAddRm_deps⟩

/-! ### why `Drv.StepD` had to be corrected: a hand-over above a queued node -/

/-- as `exSel`, with a one-child `map` `n6` on top of the driver `n5`, observed (and linked) BEFORE the expert node `n4`
becomes necessary: `n6` is the driver's FIRST parent -/
def exRet : List Action :=
  [.create (.var (.int 0)), .create (.var (.int 3)), .create (.var (.int 5)), .create (.map 1 [.outer 2]),
   .create (.expert 70), .create (.map 10 [.outer 0]), .addDep (.outer 4) (.outer 5) false,
   .create (.map 1 [.outer 5]), .observe (.outer 6), .stabilise, .observe (.outer 4), .stabilise,
   .set 0 (.int 1)]

/-- the state in which the drain of the next `stabilise` starts -/
def drainStart (env : Env) (acts : List Action) : Option State :=
  match runActions env acts (State.init 128 true) #[] with
  | .ok (s, _) =>
    match (do modify (fun s => { s with status := .stabilising }); addNewObservers env 1000
              unlinkDisallowedObservers 1000 : M Unit).run.run s with
    | (.ok _, t) => some t
    | _ => none
  | .error _ => none

/-- the first pop of that drain, the run of the popped node and the run of the node it hands over: (popped node,
what its run returns, what the next run returns, is `n2` queued afterwards?, height of `n2`, height of `n6`) -/
def stepsRet : Option (Option Nat × Option Nat × Option Nat × Bool × Int × Int) :=
  match drainStart exEnvD exRet with
  | none => none
  | some t2 =>
    match rchRemoveMin.run.run t2 with
    | (.ok (some a), t3) =>
      match (recomputeOne exEnvD 1000 a).run.run t3 with
      | (.ok (some b), t4) =>
        match (recomputeOne exEnvD 1000 b).run.run t4 with
        | (.ok r2, t5) => some (some a, some b, r2, (t5.nodeD 2).inRch, (t5.nodeD 2).height, (t5.nodeD 6).height)
        | _ => none
      | _ => none
    | _ => none

set_option maxRecDepth 100000 in
/-- the var `n0` is popped and hands the driver `n5` over; the driver's run selects the never-computed target `n2`,
which enters the heap at height 1 (transient necessity), and RETURNS ITS FIRST PARENT `n6` (height 3) for direct
recomputation through the recompute-now shortcut — above a queued node: the clause `ret` of `Drv.StepD` fails for this
run, the pair `StepW` + `StepRelB` (`HandOK`) describes it -/
example : stepsRet = some (some 0, some 5, some 6, true, 1, 3) := by decide +kernel

end IncrVerif.Props.C14Drivers
