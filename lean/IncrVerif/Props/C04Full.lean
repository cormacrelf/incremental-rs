import IncrVerif.Proofs.FullT24
import IncrVerif.Proofs.FullT33
import IncrVerif.Proofs.FullT34
import IncrVerif.Proofs.FullH61
/-!
# C04 for the COMBINED fragment of `C01Full`: a valid history never panics and never runs out of fuel (both `cfg.debug` settings)

Property C04: *as long as the documented rules are respected (no nested stabilise, no dependency cycle, graph height within the configured maximum, nodes from one state only, no
observers owned by node closures, …), no public call panics: stabilise, observe, set/modify, node constructors and dropping handles in any order all return normally — with
debug assertions enabled and disabled.*

`C03Nested.history_never_panics` proves this for nested binds over static nodes (fragment F2), `C17History` for static + `map_ref` and static + `map_with_old` separately.
This file proves it for THE COMBINED FRAGMENT of `Props/C01Full.lean` (one fragment: const / var / pure map 1–6 / zip / fold / `map_ref` chains / `map_with_old` with a `Good` machine /
`depend_on` / binds incl. nested binds whose closures build all of these / the `cutoff n eq|never` action / observer churn / the five variable writes), so that the partial-correctness theorem
`C01Full.history_stabilise_denote` ("every in-use observer reads `Spec.denoteTop` of the program text after every stabilise") becomes a TOTAL-correctness theorem: `history_total_denote`.

## THE STATEMENT (`history_never_panics`)

For an environment all of whose closure bodies are of the fragment (`FullH.EnvS env sp`, machines `Good`; `FullH.FirstFn env`), a history `acts` of the fragment (`FullH.HistFull env sp 0 acts`)
* whose indices exist (`FullT.ValidIdxF 0 0 0 acts`, decidable from the text of the history: every operand `n<k>` names a handle created earlier — also the operands of `mapRef`, `mapWithOld`, `dependOn`
  and of the `cutoff` action —, every observer / variable index exists), and
* which ends — WHATEVER THE OUTCOME; the monad keeps the state when a panic is raised: `NestH.runS` — in a state with ROOM (`NestH.HasRoomG FullT.needFuelF N fuelDefault`): at most `N` nodes,
  `N` = the height limit (`maxHeight`) the state was initialised with, and `5 * nodes + 8 ≤ fuelDefault` (= 100000; the model's recursion fuel — the real implementation has no fuel),
run from `State.init N d` for EITHER value of `d = cfg.debug`, returns: `Quiet.runActions env acts (State.init N d) #[] = .ok (s, tk)`, and the final state satisfies the invariant `QInvFE` of
`C01Full` (so every theorem of `C01Full` applies to it without its "the run returned" hypothesis).  As in `C03Nested`, the number of nodes a `stabilise` creates depends on the data
(which closure variants run), so room cannot be bounded from the text of the history; node counts only grow, so every intermediate state has room too.

## METHOD (`Proofs/FullT1…34`)

TRANSFER OF THE TOTALITY OF THE BIND FRAGMENT THROUGH THE VIRTUAL-STATE SIMULATION, BY A CONVERSE SIMULATION.  `C01Full` runs the nested-bind development `NestH` on the virtual state `virt g s`
through FORWARD simulations `FullH.Sim`/`SimX` (actual run ok ⇒ virtual run ok).  Here: `FullT.BSimAt K P g s x x'` (`FullT1`) = the forward simulation ∧ (KEEP: a successful run of `x` keeps
the carried invariant `P`) ∧ (CONVERSE: if the VIRTUAL run of `x'` from `virt g s` returns then the ACTUAL run of `x` from `s` returns); `BSimXAt` the same when the ghost may be erased.
The calculus (`ret/seq/get_seq/getNode_seq/mod/cond/forIn/modNode/dassert/assertM/…`) has the combinators of `FullH2`, so the tactic-driven ladder of `C01Full` was re-run (`bsim` for `fsim`):
heaps and heights (`FullT2`, `FullT7`), the unlinking cascade and `adjust_heights` (`FullT7`), node creation incl. `elabTemplate`/`createBind` (`FullT10–11`), invalidation, `state_add_parent`,
`change_child_bind_rhs`, the relink / invalidate phases of a change detector (`FullT12–13`), observer and variable operations, `unlink_disallowed_observers`, `add_new_observers`, every API action
(`FullT14–15`), the recompute step of static / `bindMain` nodes and the run of a change detector phase by phase (`FullT27–29`).
WHAT EXISTS ONLY IN THE ACTUAL ENGINE is proved to return by hand, from the carried invariant `FullT.PInv` (`FullT3`: inputs of `map_ref` nodes are earlier nodes; a RECORDED parent entry `(p, i)` of `c`
names a node of the state which, if it is a `map_ref` node, has `c` as its input):
* `markMapRefUnknown` (repaired D1/D15: up the recorded parents while they are valid `map_ref` nodes; `size + 1 ≤ fuel + n`: along the chain the index strictly increases, the last hop to a
  non-`map_ref` parent costs one more unit) inside the LINKING CASCADE (`FullT5–6`: `becameNecessary`/`addParentWithoutAdjustingHeights` return with fuel `size + 2·UN + 2`, `UN` = the number of
  unnecessary nodes: the cascade descends only into nodes that were unnecessary; in graphs with binds a child may have a larger index than its parent, so the index bound of `C17History` is not available);
* `child_changed` through CHAINS of `map_ref` parents (`FullT8–9`: the projection is recomputed — the child READS a value —, the flag raised, the recorded parents notified; needs also `MRPV`:
  the recorded parents of a valid `map_ref` node are valid — else `ParentInvalidated` —, which follows from `BGraph` of the virtual state; `size ≤ fuel`);
* THE THREE STEPS THAT ARE NOT SIMULATED: the own step of a `map_ref` node (`FullT17`), of a `map_with_old` node (`FullT20`), and the verdict step of a node whose actual cutoff is `.never` / `.dependOn a`
  (`FullT18`; a `.never` node may fire where the virtual `.eq` node does not): each is reduced, by the converse of the notification walk `maybe_change_value_manual … true` (resp. the walk without
  `child_changed` for a `map_ref` node), to "the propagating walk of the VIRTUAL engine does not panic from an `Upd n`-state of a state with the drain invariant" = `NestH.T2b.mcvm_noerr`
  (`parent-needs-to-be-computed`, `not-in-rch`, `height ≤ max`, …: all the `dassert`s of the walk), and the totality invariant `NestH.DT` (`F2Inv`, the height bound `HBo2`, `RhsRan`, bucket counts)
  of the new virtual state follows from the step relation `StepRelB` + frames (`FullT16.dt_vstep`).
THE ASSEMBLY mirrors `NestH100–108`: one step of the drain (`FullT26`: five cases), the drain on a growing graph with the potential `unrun (virt g s) + (final size − size)` (`FullT21`),
`stabilise` (`FullT23`: status assertion, the two observer loops, the drain, `stabiliseEnd`; over the phase lemmas of `FullH.stabilise_full`), the other API actions (`FullT15.step_totalF`: the virtual action returns by
`NestH.step_totIf2`, the `cutoff` action — a virtual no-op — by hand), whole histories (`FullT24`).  Invariant between actions: `FullT.QF env sp N s g` = `FullH.QInvF` (C01Full) ∧ `PInv s` ∧ `NestH.QT`
(the totality invariant of `C03Nested`) of the VIRTUAL state.
BOTH `cfg.debug` SETTINGS: every `dassert` of the model is either simulated (`BSim.dassert`: it holds in the actual run iff it holds in the virtual run, where `NestH` proves it) or part of the by-hand
arguments above; the initial state is `State.init N d` for arbitrary `d`.

## PROVED HERE (for the model)
`history_never_panics` (+ `history_never_panics_inv` with the full invariant), `stabilise_returns`, `action_returns`, `step_returns` (one `recomputeOne` of the drain), `drain_returns`,
`history_total_denote` (C01 ∧ C04: the history runs AND at every `stabilise` every in-use observer reads `Spec.denoteTop` of the program text), NON-VACUITY: the two example histories of `C01Full`
(`exHistF`: a bind whose closure builds a map_ref chain, a machine, a map and a nested bind with its own map_ref + machine, lhs changes, disallow / re-observe; `exHistG`: `depend_on`, the `cutoff … never`
action) satisfy the hypotheses (indices by `decide`, room by kernel evaluation of the final NODE COUNT only) for both debug settings — that they run is then a consequence of the theorem.

## ASSUMED / NOT PROVED HERE
* The room proviso is about the state the run ends in (as in `C03Nested`), not a static bound; `fuelDefault` is the model's recursion fuel.
* Same fragment limits as `C01Full`: no user cutoffs (`.fn`, `.boxed`, `.always`), no `cutoff` instruction inside closures, no expert nodes / effects / subscriptions / `var` in closures / closures over
  younger top-level nodes / `setMaxHeight` / `dropVar` / memoised calls; `EnvS` is a condition on all closure bodies of the environment.
* No finding: no valid history of the fragment panics (consistent with the 2300 executed histories of `C01Full`'s hunt).  Two off-by-one fuel bounds were found IN THE PROOF PLAN (not in the engine):
  `markMapRefUnknown` / `child_changed` need `size + 1 ≤ fuel + n`, not `size ≤ fuel + n` as in `C17History` (there every recorded parent is younger; with binds a main node may be an OLDER parent).
-/
namespace IncrVerif.Props.C04Full
open IncrVerif.Engine IncrVerif.Driver IncrVerif.Proofs IncrVerif.Proofs.FullH IncrVerif.Proofs.FullT
open IncrVerif.Proofs.NestH (runS HasRoomG TotIf ResOK progOf ZipPair)

/-- **C04 for the combined fragment.**  A history of the full fragment whose indices exist never panics and never runs out of fuel, for both `cfg.debug` settings, provided the state it ends in
(whatever the outcome) has at most `N` nodes (`N` = the height limit) and `5 * nodes + 8 ≤ fuelDefault`; the final state satisfies the invariant of `C01Full`. -/
theorem history_never_panics {env : Env} {sp : Nat → Val → Val} (E : EnvS env sp) (hF : FirstFn env) {N : Nat} {d : Bool} {acts : List Action}
    (hH : HistFull env sp 0 acts) (hV : ValidIdxF 0 0 0 acts)
    (hroom : HasRoomG needFuelF N fuelDefault (runS env acts (State.init N d) #[]).2) :
    ∃ s tk, Quiet.runActions env acts (State.init N d) #[] = .ok (s, tk) ∧ QInvFE env sp s := by
  obtain ⟨s, tk, g, h, Q⟩ := FullT.history_never_panicsF E hF hH hV hroom
  exact ⟨s, tk, h, g, Q.q⟩

/-- the same with the full invariant `QF` (C01Full's `QInvF`, the carried invariant `PInv`, the totality invariant `NestH.QT` of the virtual state) -/
theorem history_never_panics_inv {env : Env} {sp : Nat → Val → Val} (E : EnvS env sp) (hF : FirstFn env) {N : Nat} {d : Bool} {acts : List Action}
    (hH : HistFull env sp 0 acts) (hV : ValidIdxF 0 0 0 acts)
    (hroom : HasRoomG needFuelF N fuelDefault (runS env acts (State.init N d) #[]).2) :
    ∃ s tk g, Quiet.runActions env acts (State.init N d) #[] = .ok (s, tk) ∧ QF env sp N s g :=
  FullT.history_never_panicsF E hF hH hV hroom

/-- **`stabilise` returns** from the invariant between API actions (pending new / disallowed observers allowed) if the state it ends in — whatever the outcome — has room; the invariant holds again,
and all of `C01Full.stabilise_full` (`StabF`: observers read `den2` of the virtual state, no necessary node is stale). -/
theorem stabilise_returns {env : Env} {sp : Nat → Val → Val} (E : EnvS env sp) (hF : FirstFn env) {N fuel : Nat} {s : State} {g : Nat → Option Val}
    (Q : QF env sp N s g) : TotIf (stabilise env fuel) s (HasRoomG needFuelF N fuel) (fun _ s' => ∃ g', QF env sp N s' g' ∧ StabF env sp s s' g') :=
  FullT.stabilise_totalF E hF Q

/-- **every other API action of the fragment whose indices exist returns** if the state it ends in has at most `N` nodes (incl. the `cutoff` action and all node constructors). -/
theorem action_returns {env : Env} {sp : Nat → Val → Val} {N : Nat} {s : State} {g : Nat → Option Val} {a : Action} {tk : Array Nat}
    (Q : QF env sp N s g) (hA : ActionFull env sp s.top.size a) (hidx : ActionIdxF s.top.size s.vars.size s.observers.size a) (hs : a ≠ .stabilise) :
    TotIf (stepAction env a tk) s (ResOK N) (fun r s' => r.2 = tk ∧ QF env sp N s' g ∧
      s'.top.size = s.top.size + NestH.growTop (virtA a) ∧ s'.vars.size = s.vars.size + (NestH.grow2 (virtA a)).2.1 ∧
      s'.observers.size = s.observers.size + (NestH.grow2 (virtA a)).2.2) :=
  fun r s' hx hB => by
    obtain ⟨r0, e, htk, q, p, t, h⟩ := step_totalF (tk := tk) Q.q Q.p Q.t hA hidx.1 hidx.2 hs r s' hx hB
    exact ⟨r0, e, htk, ⟨q, p, t⟩, h⟩

/-- **one `recomputeOne` of the drain returns** (five cases: simulated static / `bindMain` step, run of a change detector, map_ref step, map_with_old step, verdict step) if the state it ends in has
room (`3 * nodes + 7 ≤ fuel`); the drain invariant, `PInv` and `NestH.DT` of the virtual state hold again. -/
theorem step_returns {env : Env} {sp : Nat → Val → Val} (E : EnvS env sp) (hF : FirstFn env) (N : Nat) : StepTotF NestH.stepFuel env sp N :=
  FullT.stepTotF E hF

/-- **the drain returns** if the state it ends in has room. -/
theorem drain_returns {env : Env} {sp : Nat → Val → Val} (E : EnvS env sp) (hF : FirstFn env) {N fuel : Nat} {t s s' : State} {g : Nat → Option Val}
    {r : Except Panic Unit} (X : DF env sp N t s g none) (h : (drainHeap env fuel).run.run s = (r, s')) (hN : s'.nodes.size ≤ N)
    (hf : NestH.stepFuel s'.nodes.size + Sched.unrun (virt g s) + s'.nodes.size + 1 ≤ fuel + s.nodes.size) :
    r = .ok () ∧ ∃ g', DF env sp N t s' g' none :=
  drainHeap_totF (FullT.stepTotF E hF) FullT.stepFuel_facts.2.2.2 FullT.stepFuel_facts.2.1 fuel t s s' g r X h hN hf

/-- **C01 ∧ C04 for the combined fragment (identity machines): the history RUNS, and at every `stabilise` every in-use observer reads the text-level reference semantics of the program built so far.** -/
theorem history_total_denote {env : Env} {sp : Nat → Val → Val} (E : EnvS env sp) (hF : FirstFn env) (po : Nat → Bool) (Z : ZipPair env)
    (hpo : ∀ m, po m = true) (hsp : ∀ m v, sp m v = v) {N : Nat} {d : Bool} {as bs : List Action}
    (hH : HistFull env sp 0 (as ++ Action.stabilise :: bs)) (hV : ValidIdxF 0 0 0 (as ++ Action.stabilise :: bs))
    (hroom : HasRoomG needFuelF N fuelDefault (runS env (as ++ Action.stabilise :: bs) (State.init N d) #[]).2) :
    ∃ s tk s1 tk1 s2, Quiet.runActions env (as ++ Action.stabilise :: bs) (State.init N d) #[] = .ok (s, tk) ∧
      Quiet.runActions env as (State.init N d) #[] = .ok (s1, tk1) ∧
      (stabilise env fuelDefault).run.run s1 = (.ok (), s2) ∧ QInvFE env sp s2 ∧
      (∀ (o : Nat) (ob : ObsRec), s2.observers[o]? = some ob → ob.state = .inUse →
        ∃ v j, s2.tryGetValue env o = .ok v ∧ s2.top[j]? = some ob.node ∧
          ∃ F, ∀ f, F ≤ f → Spec.denoteTop (progOf env po as) f j = some v) ∧
      Quiet.runActions env bs s2 tk1 = .ok (s, tk) := by
  obtain ⟨s, tk, h, -⟩ := history_never_panics E hF hH hV hroom
  obtain ⟨s1, tk1, s2, h1, h2, Q2, hr, h3⟩ := history_stabilise_denote (kit E hF) E po Z hpo hsp hF hH h
  exact ⟨s, tk, s1, tk1, s2, h, h1, h2, Q2, hr, h3⟩

/-! ## non-vacuity -/

/-- THE THEOREM APPLIES to the example history `exHistF` of `C01Full` (a bind whose closure builds a map_ref chain, a `map_with_old` machine, a map and a NESTED bind with its own map_ref + machine; the pair
variable is written, the lhs changes, the observer is disallowed and the node observed again, the inner lhs changes): fragment, indices (by `decide`) and room (kernel evaluation of the final node count
only) hold — for BOTH `cfg.debug` settings —, hence it never panics. -/
example : (∃ s tk, Quiet.runActions fEnv exHistF (State.init 128 true) #[] = .ok (s, tk) ∧ QInvFE fEnv fSp s) ∧
    (∃ s tk, Quiet.runActions fEnv exHistF (State.init 128 false) #[] = .ok (s, tk) ∧ QInvFE fEnv fSp s) :=
  ⟨history_never_panics fEnv_envS fEnv_first exHistF_frag exHistF_idx (room_of_size exHistF_size),
   history_never_panics fEnv_envS fEnv_first exHistF_frag exHistF_idx (room_of_size exHistF_size')⟩

/-- … and to `exHistG` (`depend_on` fires / is suppressed, the `cutoff n never` action: spurious change), both debug settings. -/
example : (∃ s tk, Quiet.runActions fEnv exHistG (State.init 128 true) #[] = .ok (s, tk) ∧ QInvFE fEnv fSp s) ∧
    (∃ s tk, Quiet.runActions fEnv exHistG (State.init 128 false) #[] = .ok (s, tk) ∧ QInvFE fEnv fSp s) :=
  ⟨history_never_panics fEnv_envS fEnv_first exHistG_frag exHistG_idx (room_of_size exHistG_size),
   history_never_panics fEnv_envS fEnv_first exHistG_frag exHistG_idx (room_of_size exHistG_size')⟩

/-- the hypotheses are decidable statements about the TEXT of the history plus the node count of the final state -/
example : ValidIdxF 0 0 0 exHistF ∧ ValidIdxF 0 0 0 exHistG ∧ HistFull fEnv fSp 0 exHistF ∧ HistFull fEnv fSp 0 exHistG ∧
    (runS fEnv exHistF (State.init 128 true) #[]).2.nodes.size ≤ 64 ∧ (runS fEnv exHistG (State.init 128 false) #[]).2.nodes.size ≤ 64 :=
  ⟨exHistF_idx, exHistG_idx, exHistF_frag, exHistG_frag, exHistF_size, exHistG_size'⟩

end IncrVerif.Props.C04Full
