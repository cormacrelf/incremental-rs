import IncrVerif.Proofs.Invalidation
import IncrVerif.Props.C10
/-!
# C03 — nodes built inside a bind never run after its input changed; they become invalid

A run is `(m).run.run s : Except Panic α × State`; `.ok r` is a normal return, `.error p` a panic (the
state of that moment is kept).  All theorems hold for EVERY state `s` (no reachability assumption);
hypotheses of the form `s.nodes[n]? = some nd` say "node `n` exists and `nd` is its record".

PROVED HERE
1. `invalid_never_stale`, `invalid_no_children`, `invalid_not_should`, `invalid_value_is_stored`:
   an invalid node is never stale, never needs to be computed, has no children, never "should be
   invalidated" (again), and the value read through it is its stored value.
2. `recompute_invalid_panics`, `recompute_chain_invalid_panics`: `recompute_one` / `recompute` on an
   existing invalid node panic with `node:recompute_one:invalid-node` (after the stamp and counter bump).
3. `invalidate_*`: `invalidate_node` on a missing node / without fuel panics, on an invalid node is
   the identity; on a valid node it factors into bookkeeping, detaching from the children (necessary
   nodes), the bind-main cascade, and a final part (`invalidate_factorisation`,
   `invalidate_necessary_factorisation`); the final part in closed form (`invalidate_finish`: node
   marked invalid, every parent pushed on the `propagate_invalidity` stack, the debug assertion cannot
   fire, heap removal iff the node is marked as queued); the leaf case (valid, not necessary, not a
   bind main) in closed form (`invalidate_leaf`, `invalidate_leaf_not_queued`,
   `invalidate_leaf_queued`, `invalidated_facts`); whatever the node: if the call returns, the node is
   invalid, and if it was valid before it has no stored value and is not marked as queued
   (`invalidate_returns_invalid`).
4. `invalidation_is_forever`: no function of the model ever makes an existing invalid node valid
   again — for every entry point and internal function listed in `Inval.Call` (`stabilise`, `writeVar`,
   `subscribe`, `unsubscribe`, `disallowFutureUse`, `elabInstrM`, the expert API, `runEffects`,
   `setMaxHeightAllowed`, `drainHeap`, `recompute`, `recomputeOne`, `invalidateNode`,
   `propagateInvalidity`, `changeChildBindRhs`, …), for every outcome (return or panic).  The underlying
   frame lemmas (`Inval.PresM.*`, one per function of the model) are in `Proofs/Invalidation.lean`.
5. `invalid_has_no_value`: a node that is invalid and has no stored value stays so, through every such
   call and outcome; `dead_node_reads_invalid`: an in-use observer of such a node reads
   `ObservingInvalid`.  `clean_kept_outside_recompute`, `clean_kept_by_step`: "if invalid then no stored
   value" is kept node by node by everything except the recompute of that very node.
   `value_in_invalid_node_release`: the state invariant "every invalid node has no
   stored value" is NOT inductive in release builds (machine-checked counterexample).
6. `lhs_change_invalidates_old_generation` (the heart): a `BindLhsChange` step of a bind that has run
   before, if it returns, leaves every node of the previous generation invalid (and without a stored
   value, if it was clean before); `lhs_change_phases` (the step as four phases);
   `create_node_registers`, `closure_registers_exactly` (after the closure ran, the bind's
   `allNodesCreatedOnRhs` is exactly the set of nodes created during this run in scope `bind b`).
7. `invalid_never_queued_debug` (debug builds: `insert` of an invalid node trips its precondition),
   `drain_of_invalid_min_panics` (a drain that takes an invalid node out of the heap panics),
   `propagate_skips_invalid`, `propagate_invalidates` (one step of `propagate_invalidity`).

NOT PROVED HERE
* For a necessary node, "after `remove_children` the children no longer list `n` as a parent" (only the
  factorisation of `invalidate_node` through `remove_children` is proved); the closed form of the
  bind-main cascade.
* The global statement "after `stabilise`, every node created by a superseded run of a bind closure
  is invalid and none of them was recomputed in between": it needs the scheduling invariant (heights) to
  show that the `BindLhsChange` node runs before the nodes of the old generation.  What is proved is the
  local step (6) plus "invalid is forever" (4) plus "an invalid node is never computed" (2, 7).
* Release builds: an invalid node CAN be inserted into the recompute heap (the precondition is a
  `debug_assert`); then the drain panics (7).  Nothing is claimed about heap well-formedness here
  (`Props/C11Heap.lean`).
* That the nodes registered by the closure stay registered until the next `BindLhsChange` step (the list
  is only cleared by that step and by the invalidation of the bind main).

ASSUMPTIONS are stated per theorem.  `Inval.Clean s r` means "if `r` is invalid in `s`, it has no stored
value"; it is preserved by everything except the recompute of `r` itself in the release-mode scenario of
`value_in_invalid_node_release`.
-/
namespace IncrVerif.Props.C03
open IncrVerif.Engine IncrVerif.Proofs IncrVerif.Proofs.Step IncrVerif.Proofs.Inval

/-! ## 1. an invalid node, seen by the scheduling predicates -/

/-- An invalid node is never stale, hence never needs to be computed.  No hypothesis: `is_stale` asks
for the node's kind, and an invalid node has none. -/
theorem invalid_never_stale (s : State) (n : Nat) (h : (s.nodeD n).valid = false) :
    s.isStale n = false ∧ s.needsToBeComputed n = false :=
  ⟨isStale_invalid s n h, needsToBeComputed_invalid s n h⟩

example : (exBdead.nodeD 4).valid = false := by decide +kernel

/-- An invalid node has no children (`try_fold_children` of an invalid node visits nothing). -/
theorem invalid_no_children (s : State) (n : Nat) (h : (s.nodeD n).valid = false) :
    s.children n = [] :=
  children_invalid s n h

example : exB.children 4 = [3] ∧ exBdead.children 4 = [] := by decide +kernel

/-- An invalid node never "should be invalidated" (again). -/
theorem invalid_not_should (s : State) (n : Nat) (h : (s.nodeD n).valid = false) :
    s.shouldBeInvalidated n = false := by
  simp [State.shouldBeInvalidated, kind?_invalid h]

example : exBdead.shouldBeInvalidated 4 = false := by decide +kernel

/-- The value read through an invalid node is its stored value — also for a MapRef node: an invalid
node has no kind any more, so nothing is read through its input. -/
theorem invalid_value_is_stored (env : Env) (s : State) (n : Nat) (h : (s.nodeD n).valid = false) :
    s.value env n = (s.nodeD n).value :=
  value_invalid env s n h

example : exBdead.value exEnvB 4 = none := by decide +kernel

/-! ## 2. an invalid node never produces a value again -/

/-- `recompute_one` on an existing invalid node panics (`invalid-node`); the final state is the initial
one with the stamp and the `recomputed` counter bumped (`Step.started`; also `C02.step_invalid_node`). -/
theorem recompute_invalid_panics (env : Env) (fuel n : Nat) (s : State) (nd : Node)
    (hn : s.nodes[n]? = some nd) (hv : nd.valid = false) :
    (recomputeOne env fuel n).run.run s =
      (.error (.site "node:recompute_one:invalid-node"), started n s) :=
  recomputeOne_invalid_run env fuel n s nd hn hv

example : exBdead.nodes[4]? = some (exBdead.nodeD 4) ∧ (exBdead.nodeD 4).valid = false :=
  ⟨rfl, by decide +kernel⟩

/-- … and so does the direct-recompute chain started on it. -/
theorem recompute_chain_invalid_panics (env : Env) (fuel n : Nat) (s : State) (nd : Node)
    (hn : s.nodes[n]? = some nd) (hv : nd.valid = false) :
    (recompute env (fuel + 1) n).run.run s =
      (.error (.site "node:recompute_one:invalid-node"), started n s) :=
  recompute_invalid_run env fuel n s nd hn hv

example : exBdead.nodes[4]? = some (exBdead.nodeD 4) ∧ (exBdead.nodeD 4).valid = false :=
  ⟨rfl, by decide +kernel⟩

/-! ## 3. `invalidate_node` -/

/-- Without fuel the model gives up (never a result). -/
theorem invalidate_out_of_fuel (n : Nat) (s : State) :
    (invalidateNode 0 n).run.run s = (.error .outOfFuel, s) :=
  invalidateNode_zero n s

example : (invalidateNode 0 4).run.run exB = (.error .outOfFuel, exB) := invalidate_out_of_fuel 4 exB

/-- A node that does not exist: model-only panic, nothing changes. -/
theorem invalidate_missing (fuel n : Nat) (s : State) (hn : s.nodes[n]? = none) :
    (invalidateNode (fuel + 1) n).run.run s = (.error (.site "model:no-such-node"), s) :=
  invalidateNode_missing fuel n s hn

example : exB.nodes[9]? = none := by decide +kernel

/-- On an already invalid node `invalidate_node` is the identity. -/
theorem invalidate_invalid_is_identity (fuel n : Nat) (s : State) (nd : Node)
    (hn : s.nodes[n]? = some nd) (hv : nd.valid = false) :
    (invalidateNode (fuel + 1) n).run.run s = (.ok (), s) :=
  invalidateNode_invalid fuel n s nd hn hv

example : exBdead.nodes[4]? = some (exBdead.nodeD 4) ∧ (exBdead.nodeD 4).valid = false :=
  ⟨rfl, by decide +kernel⟩

/-- On a valid node, `invalidate_node` is: the bookkeeping (`handled`: queued for the handler phase iff
it has update handlers and is not queued yet; `invStamped`: value dropped, `changedAt` and
`recomputedAt` set to the current round, `invalidated` counter bumped), then — from that state — detach
from the children if the node is necessary (`invDetach`), take the right-hand-side nodes along if it is a
bind main (`invCascade`), and finish (`invFinish`: mark invalid, schedule the parents, leave the
heap). -/
theorem invalidate_factorisation (fuel n : Nat) (s : State) (nd : Node)
    (hn : s.nodes[n]? = some nd) (hv : nd.valid = true) :
    (invalidateNode (fuel + 1) n).run.run s =
      (do invDetach fuel n nd.createdIn; invCascade fuel nd.kind; invFinish n).run.run
        (invStamped n (handled n s)) :=
  invalidateNode_run fuel n s nd hn hv

example : exB.nodes[3]? = some (exB.nodeD 3) ∧ (exB.nodeD 3).valid = true := ⟨rfl, rfl⟩

/-- A valid NECESSARY node that is not a bind main: bookkeeping, then `remove_children` (the node
lets go of its children, which may become unnecessary in turn), the height reset, and the final
part. -/
theorem invalidate_necessary_factorisation (fuel n : Nat) (s : State) (nd : Node)
    (hn : s.nodes[n]? = some nd) (hv : nd.valid = true) (hnec : nd.isNecessary = true)
    (hk : ∀ b lc, nd.kind ≠ .bindMain b lc) :
    (invalidateNode (fuel + 1) n).run.run s =
      (do removeChildren fuel n
          setHeight n ((← scopeHeight nd.createdIn) + 1)
          invFinish n).run.run (invStamped n (handled n s)) := by
  rw [invalidateNode_run fuel n s nd hn hv]
  have hcas : invCascade fuel nd.kind = pure () := by
    unfold invCascade
    cases hkk : nd.kind <;> first | rfl | exact absurd hkk (hk _ _)
  have hsz : (handled n s).nodes.size = s.nodes.size := by unfold handled; split <;> simp
  have hnec1 : (invStamped n (handled n s)).isNecessary n = true := by
    have hD1 : (invStamped n (handled n s)).nodeD n =
        { (handled n s).nodeD n with value := none, changedAt := (handled n s).stabNum,
                                     recomputedAt := (handled n s).stabNum } := by
      rw [nodeD_of_modify (t := invStamped n (handled n s)) (s := handled n s) (n := n)
        (f := fun y => { y with value := none, changedAt := (handled n s).stabNum,
                                recomputedAt := (handled n s).stabNum }) rfl,
        if_pos ⟨rfl, by rw [hsz]; exact lt_of_some hn⟩]
    unfold State.isNecessary Node.isNecessary
    rw [hD1, handled_nodeD, nodeD_of_some hn]
    split <;> exact hnec
  rw [hcas]
  unfold invDetach
  simp only [bind_assoc, run_bind_get, hnec1, if_true, pure_bind]

example : exB.nodes[2]? = some (exB.nodeD 2) ∧ (exB.nodeD 2).valid = true ∧
    (exB.nodeD 2).isNecessary = true := ⟨rfl, rfl, rfl⟩

/-- The final part of `invalidate_node` on an existing node (`nd` is its record at that point): the node
is marked invalid, every parent is pushed on the `propagate_invalidity` stack (`pushParents`: the last
parent ends up on top), the debug assertion "does not need to be computed" CANNOT fire (the node is
invalid by then — no panic branch), and the node is removed from the recompute heap iff it is marked as
queued (`heightInRch ≥ 0`). -/
theorem invalidate_finish (n : Nat) (t : State) (nd : Node) (hn : t.nodes[n]? = some nd) :
    (invFinish n).run.run t =
      if nd.heightInRch ≥ 0 then (rchRemove n).run.run (pushParents nd.parents (markedInvalid n t))
      else (.ok (), pushParents nd.parents (markedInvalid n t)) :=
  invFinish_run n t nd hn

example : (pushParents (exB.nodeD 3).parents (markedInvalid 3 exB)).propagateInvalidity = [2] := by
  decide +kernel

/-- `remove` of a node that is marked as queued in bucket `h`, does not need to be computed and really
is at position `idx` of that bucket `q`: the marker is reset, the bucket loses the node
(`swap_remove_back`), the length goes down by one.  (If the marker names a bucket the node is not in,
`remove` panics — `recompute_heap:unlink:*`.) -/
theorem heap_remove (n : Nat) (s : State) (nd : Node) (q : List Nat) (idx : Nat)
    (hn : s.nodes[n]? = some nd) (hin : nd.heightInRch ≥ 0) (hntc : s.needsToBeComputed n = false)
    (hq : s.rch.queues[nd.heightInRch.toNat]? = some q) (hidx : q.idxOf? n = some idx) :
    (rchRemove n).run.run s = (.ok (), rchRemoved n nd.heightInRch.toNat q idx s) :=
  rchRemove_run n s nd q idx hn hin hntc hq hidx

example : (invalidated 4 exBq).nodes[4]? = some ((invalidated 4 exBq).nodeD 4) ∧
    ((invalidated 4 exBq).nodeD 4).heightInRch = 2 ∧
    (invalidated 4 exBq).needsToBeComputed 4 = false ∧
    (invalidated 4 exBq).rch.queues[2]? = some [4] ∧ [4].idxOf? 4 = some 0 :=
  ⟨rfl, by decide +kernel, by decide +kernel, by decide +kernel, by decide +kernel⟩

/-- The leaf case — a valid node that is NOT necessary and NOT a bind main (so: no cascade): the call
is the bookkeeping plus `valid := false` (`invalidated n s`), followed by the heap removal iff the node
is marked as queued.  The debug assertion cannot fire; no parent is scheduled (an unnecessary node has
no parents). -/
theorem invalidate_leaf (fuel n : Nat) (s : State) (nd : Node) (hn : s.nodes[n]? = some nd)
    (hv : nd.valid = true) (hnec : nd.isNecessary = false) (hk : ∀ b lc, nd.kind ≠ .bindMain b lc) :
    (invalidateNode (fuel + 1) n).run.run s =
      if nd.heightInRch ≥ 0 then (rchRemove n).run.run (invalidated n s)
      else (.ok (), invalidated n s) :=
  invalidateNode_leaf_run fuel n s nd hn hv hnec hk

example : exB.nodes[4]? = some (exB.nodeD 4) ∧ (exB.nodeD 4).valid = true ∧
    (exB.nodeD 4).isNecessary = false ∧ (exB.nodeD 4).kind = .map 0 [3] := ⟨rfl, rfl, rfl, rfl⟩

/-- … not marked as queued: returns normally, final state `invalidated n s`. -/
theorem invalidate_leaf_not_queued (fuel n : Nat) (s : State) (nd : Node) (hn : s.nodes[n]? = some nd)
    (hv : nd.valid = true) (hnec : nd.isNecessary = false) (hk : ∀ b lc, nd.kind ≠ .bindMain b lc)
    (hq : nd.heightInRch < 0) :
    (invalidateNode (fuel + 1) n).run.run s = (.ok (), invalidated n s) := by
  rw [invalidateNode_leaf_run fuel n s nd hn hv hnec hk, if_neg (by omega)]

example : (invalidateNode 3 4).run.run exB = (.ok (), invalidated 4 exB) :=
  invalidate_leaf_not_queued 2 4 exB (exB.nodeD 4) rfl rfl rfl
    (by intro b lc h; cases h) (by decide +kernel)

/-- `invalidated n s`, field by field: node `n` is invalid, has no value, both stamps are the current
round, it is flagged for the handler phase iff it has update handlers; other nodes are untouched; the
`invalidated` counter went up by one; `n` was appended to `handleAfterStab` iff it has update handlers
and was not queued yet; the `propagate_invalidity` stack, the heap and the binds are unchanged. -/
theorem invalidated_facts (n : Nat) (s : State) (nd : Node) (hn : s.nodes[n]? = some nd) :
    (invalidated n s).nodeD n =
      { nd with valid := false, value := none, changedAt := s.stabNum, recomputedAt := s.stabNum,
                inHandleAfterStab := nd.inHandleAfterStab || decide (nd.numOnUpdateHandlers > 0) } ∧
    (∀ m, m ≠ n → (invalidated n s).nodeD m = s.nodeD m) ∧
    (invalidated n s).counters = { s.counters with invalidated := s.counters.invalidated + 1 } ∧
    (invalidated n s).propagateInvalidity = s.propagateInvalidity ∧
    (invalidated n s).handleAfterStab =
      (if (s.nodeD n).numOnUpdateHandlers > 0 ∧ (s.nodeD n).inHandleAfterStab = false
       then s.handleAfterStab ++ [n] else s.handleAfterStab) ∧
    (invalidated n s).rch = s.rch ∧ (invalidated n s).binds = s.binds := by
  obtain ⟨h1, h2, h3, h4, h5, _, _⟩ := invalidated_fields n s
  exact ⟨invalidated_nodeD n s nd hn, fun m hm => invalidated_other n m s hm, h1, h2, h3, h4, h5⟩

example : (invalidated 4 exB).handleAfterStab = [4] ∧ (invalidated 3 exB).handleAfterStab = [] := by
  decide +kernel

/-- … marked as queued, and really in the bucket the marker names: returns normally; afterwards the
marker is reset and the node is out of its bucket. -/
theorem invalidate_leaf_queued (fuel n : Nat) (s : State) (nd : Node) (q : List Nat) (idx : Nat)
    (hn : s.nodes[n]? = some nd) (hv : nd.valid = true) (hnec : nd.isNecessary = false)
    (hk : ∀ b lc, nd.kind ≠ .bindMain b lc) (hin : nd.heightInRch ≥ 0)
    (hq : s.rch.queues[nd.heightInRch.toNat]? = some q) (hidx : q.idxOf? n = some idx) :
    (invalidateNode (fuel + 1) n).run.run s =
      (.ok (), rchRemoved n nd.heightInRch.toNat q idx (invalidated n s)) := by
  rw [invalidateNode_leaf_run fuel n s nd hn hv hnec hk, if_pos hin]
  obtain ⟨_, _, _, hr, _, _, hsz⟩ := invalidated_fields n s
  have hD := invalidated_nodeD n s nd hn
  have hn' : (invalidated n s).nodes[n]? = some ((invalidated n s).nodeD n) :=
    some_of_lt (by rw [hsz]; exact lt_of_some hn)
  have hh : ((invalidated n s).nodeD n).heightInRch = nd.heightInRch := by rw [hD]
  have := rchRemove_run n (invalidated n s) _ q idx hn' (by rw [hh]; exact hin)
    (needsToBeComputed_invalid _ _ (by rw [hD])) (by rw [hh, hr]; exact hq) hidx
  rw [this, hh]

example : returned ((invalidateNode 3 4).run.run exBq) = true ∧
    (((invalidateNode 3 4).run.run exBq).2.nodeD 4).heightInRch = -1 ∧
    ((invalidateNode 3 4).run.run exBq).2.rch.queues[2]? = some [] := by decide +kernel

/-- Whatever the node (necessary or not, bind main or not): if `invalidate_node n` returns, `n` exists
and is invalid afterwards; and if it was valid before, it has no stored value any more and is not
marked as queued in the recompute heap. -/
theorem invalidate_returns_invalid (fuel n : Nat) (s s' : State)
    (h : (invalidateNode fuel n).run.run s = (.ok (), s')) :
    n < s.nodes.size ∧ (s'.nodeD n).valid = false ∧
      ((s.nodeD n).valid = true → (s'.nodeD n).value = none ∧ (s'.nodeD n).inRch = false) :=
  invalidateNode_ok h

example : returned ((invalidateNode 8 2).run.run exB) = true := by decide +kernel

/-! ## 4. invalidation is forever -/

/-- No function of the model ever sets `valid := true` on an existing node: for every call `c` of
`Inval.Call` (all public entry points, the expert API, and the internal functions named there), from
every state, whatever the outcome `r` (normal return or panic): a node that exists and is invalid before
the call exists and is invalid after it. -/
theorem invalidation_is_forever (c : Call) (s s' : State) (r : Except Panic Unit) (n : Nat)
    (h : c.run.run.run s = (r, s')) (hn : n < s.nodes.size) (hv : (s.nodeD n).valid = false) :
    n < s'.nodes.size ∧ (s'.nodeD n).valid = false :=
  have q := (Call.mono c).h s r s' h
  ⟨Nat.lt_of_lt_of_le hn q.size, q.keep n hn hv⟩

example : 4 < exBdead.nodes.size ∧ (exBdead.nodeD 4).valid = false := by decide +kernel

/-! ## 5. an invalidated node has no value, and observers see that -/

/-- A node that is invalid and has no stored value (which is what `invalidate_node` leaves behind,
`invalidate_returns_invalid`) stays so through every call of `Inval.Call`, whatever the outcome; the
value read through it — also when it is a MapRef node — is `none`. -/
theorem invalid_has_no_value (env : Env) (c : Call) (s s' : State) (r : Except Panic Unit) (n : Nat)
    (h : c.run.run.run s = (r, s')) (hn : n < s.nodes.size) (hv : (s.nodeD n).valid = false)
    (hval : (s.nodeD n).value = none) :
    (s'.nodeD n).valid = false ∧ (s'.nodeD n).value = none ∧ s'.value env n = none := by
  have q := (Call.mono c).h s r s' h
  have h1 := q.keep n hn hv
  have h2 := q.dead n hn hv hval
  exact ⟨h1, h2, by rw [value_invalid env s' n h1, h2]⟩

example : 4 < exBdead.nodes.size ∧ (exBdead.nodeD 4).valid = false ∧ (exBdead.nodeD 4).value = none := by
  decide +kernel

/-- An in-use observer of a node that is invalid and has no stored value reads `ObservingInvalid`
(`C10.read_inUse_invalid`), outside a stabilisation, while the engine state is alive. -/
theorem dead_node_reads_invalid (env : Env) (s : State) (o : Nat) (ob : ObsRec) (ha : s.alive = true)
    (hs : s.status ≠ .stabilising) (h : s.observers[o]? = some ob) (hst : ob.state = .inUse)
    (hv : (s.nodeD ob.node).valid = false) (hval : (s.nodeD ob.node).value = none) :
    s.tryGetValue env o = .error .observingInvalid :=
  C10.read_inUse_invalid env s o ob ha hs h hst (by rw [value_invalid env s _ hv, hval])

example : (invalidated 2 { exB with status := .notStabilising }).alive = true ∧
    (invalidated 2 { exB with status := .notStabilising }).observers[0]? = some { node := 2, state := .inUse } ∧
    ((invalidated 2 { exB with status := .notStabilising }).nodeD 2).valid = false ∧
    ((invalidated 2 { exB with status := .notStabilising }).nodeD 2).value = none :=
  ⟨rfl, rfl, by decide +kernel, by decide +kernel⟩

/-- "Clean" (if invalid, then no stored value) is kept, node by node, by every call that does not
recompute a node (`Call.noRecompute`: everything in `Inval.Call` except `stabilise`, `drainHeap`,
`recompute`, `recomputeOne`), whatever the outcome … -/
theorem clean_kept_outside_recompute (c : Call) (hc : c.noRecompute) (s s' : State)
    (r : Except Panic Unit) (m : Nat) (h : c.run.run.run s = (r, s')) (hm : m < s.nodes.size)
    (hcl : Clean s m) : Clean s' m :=
  ((Call.still c hc).h s r s' h).clean m hm (by simp) hcl

example : Call.noRecompute (.invalidateNode 3 4) ∧ 4 < exB.nodes.size ∧ Clean exB 4 :=
  ⟨trivial, by decide +kernel, fun h => absurd h (by decide +kernel)⟩

/-- … and by `recompute_one n` for every node other than `n` (for `n` itself see the finding below). -/
theorem clean_kept_by_step (env : Env) (fuel n : Nat) (s s' : State)
    (r : Except Panic (Option Nat)) (m : Nat) (h : (recomputeOne env fuel n).run.run s = (r, s'))
    (hm : m < s.nodes.size) (hmn : m ≠ n) (hcl : Clean s m) : Clean s' m :=
  ((PresM.recomputeOne_self env fuel n).h s r s' h).clean m hm
    (fun e => hmn (Option.some.inj e).symm) hcl

example : 4 < exB.nodes.size ∧ 4 ≠ 1 ∧ Clean exB 4 :=
  ⟨by decide +kernel, by decide, fun h => absurd h (by decide +kernel)⟩

/-- FINDING (release builds).  "Every invalid node has no stored value" is not an invariant of the model
without debug assertions: in the two-node state `Inval.cexS` (`debug = false`; node 1 is `map f1 [0]`,
observed) with an environment in which `f1` invalidates node 1 through the expert API
(`Effect.xInval`), `recompute_one 1` RETURNS; afterwards node 1 is invalid, yet holds the freshly
computed value 5, and its observer reads `5` instead of `ObservingInvalid`.  (`recompute_one` stores the
result with `maybe_change_value` without re-checking validity.  In a debug build the same call panics in
`assert_currently_running_node_is_child`.) -/
theorem value_in_invalid_node_release :
    cexS.cfg.debug = false ∧
    returned ((recomputeOne cexEnv 5 1).run.run cexS) = true ∧ (cexOut.nodeD 1).valid = false ∧
    (cexOut.nodeD 1).value = some (.int 5) ∧ cexRead = "5" ∧
    returned ((recomputeOne cexEnv 5 1).run.run { cexS with cfg := { debug := true } }) = false := by
  decide +kernel

/-! ## 6. the heart: a change of the bind's input invalidates the previous generation -/

/-- The `BindLhsChange` step, phase by phase, from the stamped state `Step.started n s`:
`lhsRunClosure` (forget the old list, run the closure in scope `bind b`, giving the new rhs),
`lhsRelink` (store the new rhs, stamp `changedAt`, `change_child_bind_rhs`), `lhsInvalidateOld` (if there
was an old rhs: `invalidate_node` on every node of the old list, then `propagate_invalidity`),
`lhsFinish` (debug assertion "still valid", then `maybe_change_value`). -/
theorem lhs_change_phases (env : Env) (fuel n : Nat) (s : State) (nd : Node) (b : Nat) (br : BindRec)
    (hn : s.nodes[n]? = some nd) (hv : nd.valid = true) (hk : nd.kind = .bindLhsChange b)
    (hb : s.binds[b]? = some br) :
    (recomputeOne env fuel n).run.run s =
      (do let rhs ← lhsRunClosure env n b br
          lhsRelink env fuel n b br s.stabNum rhs
          lhsInvalidateOld fuel br
          lhsFinish env fuel n).run.run (started n s) :=
  recomputeOne_bindLhsChange_run env fuel n s nd b br hn hv hk hb

example : exB.nodes[1]? = some (exB.nodeD 1) ∧ (exB.nodeD 1).valid = true ∧
    (exB.nodeD 1).kind = .bindLhsChange 0 ∧
    exB.binds[0]? = some { lhs := 0, body := 0, lhsChange := 1, main := 2, rhs := some 3,
                           allNodesCreatedOnRhs := [3, 4] } := ⟨rfl, rfl, rfl, rfl⟩

/-- THE HEART OF C03.  `n` is a valid `BindLhsChange` node of bind `b`; the bind has run before
(`br.rhs = some r0`), and `br.allNodesCreatedOnRhs` is the list of nodes the previous run of the closure
created.  If `recompute_one n` returns (no panic), then in the final state EVERY node of that list
exists and is invalid.  Moreover such a node `r` has no stored value (so that, by
`dead_node_reads_invalid`, its observers read `ObservingInvalid`), provided `r` existed before the step,
is not `n` itself, and was clean before (`Clean s r`: if already invalid, then without value).
By `invalidation_is_forever` and `recompute_invalid_panics` these nodes never become valid and never
compute again. -/
theorem lhs_change_invalidates_old_generation (env : Env) (fuel n : Nat) (s s' : State) (nd : Node)
    (b : Nat) (br : BindRec) (r0 : Nat) (res : Option Nat)
    (hn : s.nodes[n]? = some nd) (hv : nd.valid = true) (hk : nd.kind = .bindLhsChange b)
    (hb : s.binds[b]? = some br) (hr : br.rhs = some r0)
    (h : (recomputeOne env fuel n).run.run s = (.ok res, s')) :
    ∀ r, r ∈ br.allNodesCreatedOnRhs →
      r < s'.nodes.size ∧ (s'.nodeD r).valid = false ∧
      (r < s.nodes.size → r ≠ n → Clean s r → (s'.nodeD r).value = none) :=
  lhsChange_old_generation env fuel n s s' nd b br r0 res hn hv hk hb hr h

example : returned ((recomputeOne exEnvB 6 1).run.run exB) = true ∧
    (exBafter.nodeD 3).valid = false ∧ (exBafter.nodeD 4).valid = false ∧
    (exBafter.nodeD 3).value = none ∧ (exBafter.nodeD 4).value = none := by decide +kernel

/-- `Node::create` never fails; the new node's name is the old number of nodes; the final state is
`Inval.created …`: the node appended (valid, no value), the `created` counter bumped, and — for a node
created in scope `bind b` — the node's name appended to `binds[b].allNodesCreatedOnRhs`. -/
theorem create_node_registers (kind : Kind) (scope : Scope) (cutoff : CutoffK) (s : State) :
    (createNode kind scope cutoff).run.run s = (.ok s.nodes.size, created kind scope cutoff s) ∧
    ∀ b br, scope = .bind b → s.binds[b]? = some br →
      (created kind scope cutoff s).binds[b]? =
        some { br with allNodesCreatedOnRhs := br.allNodesCreatedOnRhs ++ [s.nodes.size] } := by
  refine ⟨createNode_run kind scope cutoff s, fun b br hsc hb => ?_⟩
  subst hsc
  simp [created, Array.getElem?_modify, hb]

example : rhsNodes (created (.const .unit) (.bind 0) .eq exB) 0 = [3, 4, 5] := by decide +kernel

/-- After the closure of bind `b` has run (phase 1 of the step; `s0` is the state it started from,
`s1` the state it ended in, whether it returned or panicked), the bind's `allNodesCreatedOnRhs`
(`rhsNodes s1 b`) is EXACTLY the set of nodes created during this run in scope `bind b` — the next
generation to be invalidated.  Hypothesis: the bind record exists. -/
theorem closure_registers_exactly (env : Env) (n b : Nat) (br : BindRec) (s0 s1 : State)
    (r : Except Panic Nat) (hb : b < s0.binds.size)
    (h : (lhsRunClosure env n b br).run.run s0 = (r, s1)) :
    s0.nodes.size ≤ s1.nodes.size ∧
    ∀ m, m ∈ rhsNodes s1 b ↔
      (s0.nodes.size ≤ m ∧ m < s1.nodes.size ∧ (s1.nodeD m).createdIn = .bind b) :=
  lhsRunClosure_registers env n b br s0 s1 r hb h

example : rhsNodes exBafter 0 = [5] ∧ exB.nodes.size = 5 ∧ exBafter.nodes.size = 6 ∧
    (exBafter.nodeD 5).createdIn = .bind 0 := by decide +kernel

/-! ## 7. an invalid node is never queued (debug builds), and a drain that meets one panics -/

/-- Debug builds: `insert` of an existing invalid node into the recompute heap trips the precondition
assertion (`needs_to_be_computed` is false for an invalid node); nothing changes.  In release builds
the assertion is compiled out and the node is linked like any other (see NOT PROVED HERE). -/
theorem invalid_never_queued_debug (n : Nat) (s : State) (nd : Node) (hn : s.nodes[n]? = some nd)
    (hv : nd.valid = false) (hd : s.cfg.debug = true) :
    (rchInsert n).run.run s = (.error (.site "recompute_heap:insert:precondition"), s) := by
  have hntc : s.needsToBeComputed n = false :=
    needsToBeComputed_invalid s n (by rw [nodeD_of_some hn]; exact hv)
  rw [rchInsert_run, hn]
  simp only [hntc, Bool.and_false, hd, and_self, if_true]

example : exBdead.nodes[4]? = some (exBdead.nodeD 4) ∧ (exBdead.nodeD 4).valid = false ∧
    exBdead.cfg.debug = true := ⟨rfl, by decide +kernel, by decide +kernel⟩

/-- If the node the heap drain takes out of the heap (`remove_min`, giving state `s1`) is invalid, the
drain panics with `invalid-node`: such a node never produces a value. -/
theorem drain_of_invalid_min_panics (env : Env) (fuel n : Nat) (s s1 : State) (nd : Node)
    (hmin : rchRemoveMin.run.run s = (.ok (some n), s1))
    (hn : s1.nodes[n]? = some nd) (hv : nd.valid = false) :
    (drainHeap env (fuel + 2)).run.run s =
      (.error (.site "node:recompute_one:invalid-node"), started n s1) := by
  unfold drainHeap
  rw [run_bind_ok hmin]
  simp only []
  rw [run_bind, recompute_invalid_run env fuel n s1 nd hn hv]

example : rchRemoveMin.run.run (markedInvalid 4 exBq) =
      (.ok (some 4), (rchRemoveMin.run.run (markedInvalid 4 exBq)).2) ∧
    ((rchRemoveMin.run.run (markedInvalid 4 exBq)).2.nodeD 4).valid = false :=
  ⟨rfl, by decide +kernel⟩

/-- `propagate_invalidity`: an invalid node on top of the stack is popped and skipped. -/
theorem propagate_skips_invalid (fuel n : Nat) (rest : List Nat) (s : State)
    (h : s.propagateInvalidity = n :: rest) (hv : (s.nodeD n).valid = false) :
    (propagateInvalidity (fuel + 1)).run.run s =
      (propagateInvalidity fuel).run.run { s with propagateInvalidity := rest } := by
  unfold propagateInvalidity
  rw [run_bind_get]
  simp only [h]
  rw [run_bind_modify, run_bind_get]
  have : (({ s with propagateInvalidity := rest } : State).nodeD n).valid = false := hv
  simp only [this, Bool.false_eq_true, if_false]
  cases fuel <;> rfl

example : ({ exBdead with propagateInvalidity := [4] } : State).propagateInvalidity = [4] ∧
    (({ exBdead with propagateInvalidity := [4] } : State).nodeD 4).valid = false := by decide +kernel

/-- `propagate_invalidity`: a valid node on top of the stack that should be invalidated (an input of it
is invalid: a child of a map/fold/map_ref/map_with_old node, the lhs of a `BindLhsChange`, the change
detector of a `BindMain`) is popped and invalidated; then the walk continues. -/
theorem propagate_invalidates (fuel n : Nat) (rest : List Nat) (s : State)
    (h : s.propagateInvalidity = n :: rest) (hv : (s.nodeD n).valid = true)
    (hs : s.shouldBeInvalidated n = true) :
    (propagateInvalidity (fuel + 1)).run.run s =
      (do invalidateNode fuel n; propagateInvalidity fuel).run.run
        { s with propagateInvalidity := rest } := by
  unfold propagateInvalidity
  rw [run_bind_get]
  simp only [h]
  rw [run_bind_modify, run_bind_get]
  have h1 : (({ s with propagateInvalidity := rest } : State).nodeD n).valid = true := hv
  have h2 : ({ s with propagateInvalidity := rest } : State).shouldBeInvalidated n = true := hs
  simp only [h1, h2, if_true]
  cases fuel <;> rfl

example : ({ invalidated 3 exB with propagateInvalidity := [4] } : State).shouldBeInvalidated 4 = true ∧
    (({ invalidated 3 exB with propagateInvalidity := [4] } : State).nodeD 4).valid = true := by
  decide +kernel

end IncrVerif.Props.C03
