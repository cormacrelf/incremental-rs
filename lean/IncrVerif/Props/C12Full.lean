import IncrVerif.Proofs.LeakF6
import IncrVerif.Proofs.LeakF7
import IncrVerif.Proofs.FullH63
import IncrVerif.Props.C12
/-!
# C12 (nothing leaks) for the COMBINED fragment — PARTIAL: node handles and observers

C12, informally: "After all user handles to a subgraph (Incr, Var, Observer handles and closures holding them) are
dropped and one stabilise has run, every node of that subgraph has been released.  Handles may be dropped in any
order."  `Props/C12History.lean` proves it for histories of the STATIC fragment.

FULL STATEMENT AIMED AT (NOT proved here in full): for `acts` with `FullH.HistFull env sp 0 acts` (the combined
fragment of `Props/C01Full.lean`: binds incl. nested, `map_ref`, `map_with_old`, `depend_on`, cutoffs `eq`/`never`,
static core; `EnvS env sp`, `FirstFn env`), `drops` any list of `LeakH.DropAction`s (`dropVar`, `dropHandle`,
`dropObs`, `disallow`), if `runActions env (acts ++ drops) (State.init N d) #[] = .ok (s, tk)`, `LeakH.HoldsNothing s`
and `(stabilise env fuel).run.run s = (.ok (), s')`, then `s'.roots = []` and `s'.aliveSet = []`.

PROVED HERE (`…_partial`; partial correctness: the calls are assumed to return `.ok`; both `cfg.debug` settings, any
height limit, any fuel):
* `all_dropped_then_stabilise_partial`: the statement for `drops` WITHOUT `dropVar` (`LeakF.HDrop`: `dropHandle`,
  `dropObs`, `disallow`, any order, repetitions allowed) and with the hypotheses "no node handle is held"
  (`s.handles = []`) and "every observer has been dropped" (all `clones = 0`) instead of `HoldsNothing`: after the
  `stabilise`, `s'.handles = []`, every observer record is `unlinked` with `clones = 0`, the recompute heap is
  empty, the variable cells are unchanged, and hence
  `s'.roots = s'.slots.map (·.2) ++ LeakF.varRoots s` — THE ENGINE ITSELF ROOTS NOTHING: the only roots left are the
  shared cells and the watch nodes of the variables (held or still linked).  In particular no bind main node, change
  detector or right-hand-side node is a root (they are referenced through `refsOf` only, so the
  bind main ↔ change detector ↔ rhs references keep nothing alive on their own: liveness is reachability from the roots).
* `only_variables_alive_partial`: if moreover no shared cell is filled afterwards (`s'.slots = []`), EVERY NODE THAT IS
  STILL ALIVE IS THE WATCH NODE OF A VARIABLE (`n ∈ s'.aliveSet → ∃ c vc, s'.vars[c]? = some vc ∧ vc.node = n ∧ kind = var c`):
  every other node — constants, maps, folds, map_ref / map_with_old nodes, bind main nodes, change detectors, all
  generations of right-hand sides — has been released by that one `stabilise` (`Proofs/LeakF7`).
* `no_variables_frees_everything_partial`: if moreover the program has no variable (`s.vars = #[]`) and no shared
  cell is filled afterwards (`s'.slots = []`), then `s'.roots = []` and `s'.aliveSet = []`.
* the ingredients, each of independent use:
  - `stabilise_keeps_handles` — FOR ALL PROGRAMS (no fragment hypothesis): a `stabilise` that returns leaves the
    program's node handles unchanged (`Proofs/LeakF1…4`: no primitive write of the engine touches `handles`, so the
    footprint `Foot.stabilise` gives it by `Sim.of_foot`);
  - `invariant_ignores_handles` — `QInvFE env sp s → QInvFE env sp { s with handles := H }`: the invariant of the
    combined fragment does not read the program's node handles (`Proofs/LeakF5`: clause by clause, definitionally,
    by the tactic `xfer`; the recursive clauses `BodyOK2`, `ElabOf2`, `KInv` by lemmas);
  - `drop_phase_keeps` — `dropHandle`, `dropObs`, `disallow` keep `QInvFE`; `history_then_drops`;
  - `engine_roots_state` — the state-level form: `QInvFE s`, `ObsDead s`, `handles = []`, all `clones = 0`.
* Non-vacuity (kernel-checked): `exHistF` of `C01Full` (a bind whose closure builds a map_ref chain, a
  `map_with_old` machine, a map and a NESTED bind; writes, lhs changes, disallow, re-observation), then `exDropsF`
  (both observers and all four node handles, mixed order): the hypotheses hold; before the drops 14 nodes are alive,
  after the drops still 14 (observer 1 is not yet unlinked), after the `stabilise` exactly the three variable nodes
  `[2, 1, 0]` (`exF_eval`), and the theorem yields `roots = varRoots` for it (`example`).  BY EVALUATION ONLY (not
  covered by a theorem here): with the three `dropVar`s added before the final `stabilise`, or after it followed by a
  second `stabilise`, `roots = []` and `aliveSet = []` (`exF_eval_vars`) — no leak on this history.

ASSUMED.  Nothing beyond the hypotheses.  `roots`/`refsOf` are the ownership abstraction of `Engine/Alive.lean`.

NOT PROVED (what is missing for the full statement).
* `dropVar` among the drops.  It decrements `vars[v].handles` and queues `v` in `deadVars`; `QInvFE` contains
  `deadVars = []` and its clauses read `vars` (through `node`, `value`, `setAt` only, but not definitionally so), and
  the final `stabilise` then runs from a state that no history of the fragment reaches.  Needed: (a) `QInvFE` is
  insensitive to `VarCell.handles` (the analogue of `LeakH.qinv_strip`), (b) `stabilise`'s prefix and drain do not
  read `deadVars`/`VarCell.handles` (a two-state simulation of the kind of `C05Release`; NOTE that such a simulation
  is FALSE for `handles` for arbitrary programs: `memoCall`, `perKeyDriver` and the weak-map sweep at the end of
  `stabiliseEnd` read `State.isAlive`/`aliveSet`, i.e. the roots), (c) `LeakH.stabiliseEnd_dead` for the `Var ↔ watch`
  cycle.
* `s'.slots = s.slots` across `stabilise` for the fragment (only the `publish` instruction, which is outside the
  fragment, writes `slots`; a frame ladder conditional on `EnvS` is needed), whence `slots` stays in the conclusion.
* drop-order independence and total correctness for the combined fragment.
-/
namespace IncrVerif.Props.C12Full
open IncrVerif.Engine IncrVerif.Driver IncrVerif.Proofs IncrVerif.Proofs.FullH IncrVerif.Proofs.LeakH
open IncrVerif.Proofs.LeakF

/-- **for all programs**: a `stabilise` that returns leaves the program's node handles unchanged -/
theorem stabilise_keeps_handles {env : Env} {fuel : Nat} {s s' : State}
    (h : (stabilise env fuel).run.run s = (.ok (), s')) : s'.handles = s.handles :=
  stabilise_handles h

/-- the invariant of the combined fragment does not read the program's node handles -/
theorem invariant_ignores_handles {env : Env} {sp : Nat → Val → Val} {s : State} (H : List Nat)
    (Q : QInvFE env sp s) : QInvFE env sp { s with handles := H } :=
  qinvFE_erase (H := H) Q

/-- `dropHandle`, `dropObs`, `disallow` keep the invariant -/
theorem drop_phase_keeps {env : Env} {sp : Nat → Val → Val} (E : EnvS env sp) (hF : FirstFn env) {s s' : State}
    {a : Action} {tk : Array Nat} {r : String × Array Nat} (Q : QInvFE env sp s) (ha : HDrop a)
    (h : (stepAction env a tk).run.run s = (.ok r, s')) : QInvFE env sp s' :=
  hdrop_step E hF Q ha h

/-- a history of the combined fragment, then such drops: the invariant, and `ObsDead` -/
theorem history_then_drops {env : Env} {sp : Nat → Val → Val} (E : EnvS env sp) (hF : FirstFn env) {N : Nat}
    {d : Bool} {acts drops : List Action} {s : State} {tk : Array Nat} (hH : HistFull env sp 0 acts)
    (hd : ∀ a, a ∈ drops → HDrop a)
    (h : Quiet.runActions env (acts ++ drops) (State.init N d) #[] = .ok (s, tk)) :
    QInvFE env sp s ∧ ObsDead s :=
  history_hdrops E hF hH hd h

/-- **state level** -/
theorem engine_roots_state {env : Env} {sp : Nat → Val → Val} (E : EnvS env sp) (hF : FirstFn env) {fuel : Nat}
    {s s' : State} (Q : QInvFE env sp s) (OD : ObsDead s) (hh : s.handles = [])
    (hc : ∀ (o : Nat) (ob : ObsRec), s.observers[o]? = some ob → ob.clones = 0)
    (h : (stabilise env fuel).run.run s = (.ok (), s')) :
    s'.handles = [] ∧ s'.vars = s.vars ∧ s'.rch.queues.toList.flatten = [] ∧
      (∀ (o : Nat) (ob : ObsRec), s'.observers[o]? = some ob → ob.clones = 0 ∧ ob.state = .unlinked) ∧
      s'.roots = s'.slots.map (·.2) ++ varRoots s :=
  engine_roots E hF Q OD hh hc h

/-- **C12 for the combined fragment, node handles and observers.** -/
theorem all_dropped_then_stabilise_partial {env : Env} {sp : Nat → Val → Val} (E : EnvS env sp) (hF : FirstFn env)
    {N : Nat} {d : Bool} {fuel : Nat} {acts drops : List Action} {s s' : State} {tk : Array Nat}
    (hH : HistFull env sp 0 acts) (hd : ∀ a, a ∈ drops → HDrop a)
    (hrun : Quiet.runActions env (acts ++ drops) (State.init N d) #[] = .ok (s, tk))
    (hh : s.handles = []) (hc : ∀ (o : Nat) (ob : ObsRec), s.observers[o]? = some ob → ob.clones = 0)
    (h : (stabilise env fuel).run.run s = (.ok (), s')) :
    s'.handles = [] ∧ s'.vars = s.vars ∧ s'.rch.queues.toList.flatten = [] ∧
      (∀ (o : Nat) (ob : ObsRec), s'.observers[o]? = some ob → ob.clones = 0 ∧ ob.state = .unlinked) ∧
      s'.roots = s'.slots.map (·.2) ++ varRoots s :=
  let I := history_hdrops E hF hH hd hrun
  engine_roots E hF I.1 I.2 hh hc h

/-- **… every node still alive is the watch node of a variable** (no shared cells) -/
theorem only_variables_alive_partial {env : Env} {sp : Nat → Val → Val} (E : EnvS env sp) (hF : FirstFn env)
    {N : Nat} {d : Bool} {fuel : Nat} {acts drops : List Action} {s s' : State} {tk : Array Nat}
    (hH : HistFull env sp 0 acts) (hd : ∀ a, a ∈ drops → HDrop a)
    (hrun : Quiet.runActions env (acts ++ drops) (State.init N d) #[] = .ok (s, tk))
    (hh : s.handles = []) (hc : ∀ (o : Nat) (ob : ObsRec), s.observers[o]? = some ob → ob.clones = 0)
    (h : (stabilise env fuel).run.run s = (.ok (), s')) (hs : s'.slots = []) :
    ∀ n, n ∈ s'.aliveSet → ∃ c vc, s'.vars[c]? = some vc ∧ vc.node = n ∧ (s'.nodeD n).kind = .var c :=
  let I := history_hdrops E hF hH hd hrun
  only_vars_alive E hF I.1 I.2 hh hc h hs

/-- … a program without variables and shared cells: nothing is alive -/
theorem no_variables_frees_everything_partial {env : Env} {sp : Nat → Val → Val} (E : EnvS env sp)
    (hF : FirstFn env) {N : Nat} {d : Bool} {fuel : Nat} {acts drops : List Action} {s s' : State} {tk : Array Nat}
    (hH : HistFull env sp 0 acts) (hd : ∀ a, a ∈ drops → HDrop a)
    (hrun : Quiet.runActions env (acts ++ drops) (State.init N d) #[] = .ok (s, tk))
    (hh : s.handles = []) (hc : ∀ (o : Nat) (ob : ObsRec), s.observers[o]? = some ob → ob.clones = 0)
    (hv : s.vars = #[]) (h : (stabilise env fuel).run.run s = (.ok (), s')) (hs : s'.slots = []) :
    s'.roots = [] ∧ s'.aliveSet = [] := by
  have hr : s'.roots = [] := by
    rw [(all_dropped_then_stabilise_partial E hF hH hd hrun hh hc h).2.2.2.2, hs, varRoots, hv]
    rfl
  exact ⟨hr, C12.no_roots_nothing_alive s' hr⟩

/-! ## non-vacuity -/

/-- both observers and the four node handles of `exHistF`, in a mixed order -/
def exDropsF : List Action :=
  [.dropObs 1, .dropHandle (.outer 3), .dropObs 0, .dropHandle (.outer 0), .dropHandle (.outer 2),
   .dropHandle (.outer 1)]

theorem exDropsF_hdrop : ∀ a, a ∈ exDropsF → HDrop a := by
  intro a ha
  simp only [exDropsF, List.mem_cons, List.mem_nil_iff, or_false] at ha
  rcases ha with rfl | rfl | rfl | rfl | rfl | rfl <;> trivial

/-- roots and alive set after a history (`none`: it panicked) -/
def rootsAfter (env : Env) (acts : List Action) : Option (List Nat × List Nat) :=
  match Quiet.runActions env acts (State.init 128 true) #[] with
  | .ok (s, _) => some (s.roots, s.aliveSet)
  | .error _ => none

/-- no node handle, every observer dropped? -/
def droppedAfter (env : Env) (acts : List Action) : Bool :=
  match Quiet.runActions env acts (State.init 128 true) #[] with
  | .ok (s, _) => s.handles.isEmpty && s.observers.toList.all (fun ob => ob.clones == 0)
  | .error _ => false

/-- `droppedAfter` and the size of the alive set after the same history, from one run of it -/
theorem dropped_alive_of_run {env : Env} {acts : List Action} {n : Nat}
    (h : (match Quiet.runActions env acts (State.init 128 true) #[] with
      | .ok (s, _) => (s.handles.isEmpty && s.observers.toList.all (fun ob => ob.clones == 0)) && decide (s.aliveSet.length = n)
      | .error _ => false) = true) :
    droppedAfter env acts = true ∧ (rootsAfter env acts).map (fun p => p.2.length) = some n := by
  unfold droppedAfter rootsAfter
  rcases hx : Quiet.runActions env acts (State.init 128 true) #[] with e | ⟨s, tk⟩
  · rw [hx] at h; cases h
  · rw [hx] at h
    dsimp only at h ⊢
    rw [Bool.and_eq_true, decide_eq_true_eq] at h
    exact ⟨h.1, congrArg some h.2⟩

set_option maxRecDepth 100000 in
theorem exF_eval :
    (rootsAfter fEnv exHistF).map (fun p => p.2.length) = some 14 ∧
    droppedAfter fEnv (exHistF ++ exDropsF) = true ∧
    (rootsAfter fEnv (exHistF ++ exDropsF)).map (fun p => p.2.length) = some 14 ∧
    rootsAfter fEnv ((exHistF ++ exDropsF) ++ [.stabilise]) = some ([0, 1, 2], [2, 1, 0]) := by
  have h := dropped_alive_of_run (env := fEnv) (acts := exHistF ++ exDropsF) (n := 14) (by decide +kernel)
  exact ⟨by decide +kernel, h.1, h.2, by decide +kernel⟩

set_option maxRecDepth 100000 in
/-- by evaluation only: with the variables dropped as well nothing is alive -/
theorem exF_eval_vars :
    rootsAfter fEnv ((exHistF ++ exDropsF ++ [.dropVar 0, .dropVar 1, .dropVar 2]) ++ [.stabilise]) = some ([], []) ∧
    rootsAfter fEnv ((exHistF ++ exDropsF ++ [.stabilise, .dropVar 0, .dropVar 1, .dropVar 2]) ++ [.stabilise])
      = some ([], []) :=
  by decide +kernel

/-- the hypotheses of `all_dropped_then_stabilise_partial` hold for `exHistF ++ exDropsF` -/
example {fuel : Nat} : EnvS fEnv fSp ∧ FirstFn fEnv ∧ HistFull fEnv fSp 0 exHistF ∧
    ∃ s tk, Quiet.runActions fEnv (exHistF ++ exDropsF) (State.init 128 true) #[] = .ok (s, tk) ∧
      s.handles = [] ∧ (∀ (o : Nat) (ob : ObsRec), s.observers[o]? = some ob → ob.clones = 0) ∧
      ∀ s', (stabilise fEnv fuel).run.run s = (.ok (), s') →
        s'.roots = s'.slots.map (·.2) ++ varRoots s := by
  refine ⟨fEnv_envS, fEnv_first, exHistF_frag, ?_⟩
  have hd := exF_eval.2.1
  unfold droppedAfter at hd
  rcases hx : Quiet.runActions fEnv (exHistF ++ exDropsF) (State.init 128 true) #[] with e | ⟨s, tk⟩
  · rw [hx] at hd; cases hd
  · rw [hx] at hd
    simp only [Bool.and_eq_true, List.isEmpty_iff, List.all_eq_true, beq_iff_eq] at hd
    have hc : ∀ (o : Nat) (ob : ObsRec), s.observers[o]? = some ob → ob.clones = 0 :=
      fun o ob ho => hd.2 ob (LeakH.getElem?_mem_toList ho)
    exact ⟨s, tk, rfl, hd.1, hc, fun s' hs =>
      (all_dropped_then_stabilise_partial fEnv_envS fEnv_first exHistF_frag exDropsF_hdrop hx hd.1 hc hs).2.2.2.2⟩

end IncrVerif.Props.C12Full
