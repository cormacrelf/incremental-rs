import IncrVerif.Proofs.VarWrites
/-!
# C08 — var writes apply in program order; writes during stabilise defer to the next

All five write operations of `var.rs` are `writeVar v f` ("new value from old value") in the model.
Outside a stabilisation the write is immediate; during a stabilisation it goes to the cell's
`pending` slot (`value_set_during_stabilisation`) and is applied by the first phase of
`stabiliseEnd`, after the stabilisation number has been incremented.
Statements are in the `(m).run.run s = (result, final state)` style.  `Proofs.withCell`,
`Proofs.bumped`, `Proofs.stampedWrite`, `Proofs.deferred`, `Proofs.applyCell` are closed-form state
descriptions, `Proofs.writeAll`, `Proofs.stabiliseEndVars`, `Proofs.stabiliseEndRest` name pieces of
model code; all are defined in `Proofs/VarWrites.lean`.
-/
namespace IncrVerif.Props.C08
open IncrVerif.Engine IncrVerif.Proofs

/-! ## 1. outside a stabilisation: the write is immediate -/

/-- Complete description of a write outside a stabilisation.  The value is written first; then
(a) a var whose watch node was abandoned panics; (b) same round as the last write: only the
`var_sets` counter moves; (c) later round: `set_at` becomes the current round, [debug] the watch node
must be invalid or stale, and if the watch node is valid, necessary and not yet queued it is inserted
in the recompute heap (D14: an invalidated watch node is never scheduled).  The result is the OLD
value. -/
theorem write_outside_run (v : Nat) (f : Val → Val) (isSet : Bool) (s : State) (vc : VarCell)
    (hv : s.vars[v]? = some vc) (hst : s.status ≠ .stabilising) :
    (writeVar v f isSet).run.run s =
      if vc.linked = false then
        (.error (.site "var:abandoned-watch-node"), withCell v { vc with value := f vc.value } s)
      else if s.stabNum ≤ vc.setAt then
        (.ok vc.value, bumped (withCell v { vc with value := f vc.value } s))
      else if s.cfg.debug = true ∧ (!(s.nodeD vc.node).valid ||
          (stampedWrite v vc (f vc.value) s).isStale vc.node) = false then
        (.error (.site "var:did_set:watch-stale"), stampedWrite v vc (f vc.value) s)
      else if ((s.nodeD vc.node).valid && s.isNecessary vc.node && !(s.nodeD vc.node).inRch) = true then
        mapOk vc.value ((rchInsert vc.node).run.run (stampedWrite v vc (f vc.value) s))
      else (.ok vc.value, stampedWrite v vc (f vc.value) s) :=
  Proofs.writeVar_outside_closed v f isSet s vc hv hst

example : exV.vars[0]? = some { value := .int 1, setAt := 1, node := 0 } ∧ exV.status ≠ .stabilising :=
  ⟨rfl, by decide⟩
example : ((writeVar 0 (fun _ => .int 5)).run.run exV).1 = .ok (.int 1) := rfl

/-- A successful write outside a stabilisation returns the old value; the cell now holds
`f old`; `pending`, `node`, `linked`, `handles` are unchanged; `set_at` is the current round if it was
older and unchanged otherwise; no other var cell, no node other than the watch node, neither the
status, the round number, the deferred-writes stack nor the adjust-heights heap change; the
`var_sets` counter is incremented. -/
theorem write_outside_ok (v : Nat) (f : Val → Val) (isSet : Bool) (s s' : State)
    (vc : VarCell) (r : Val) (hv : s.vars[v]? = some vc) (hst : s.status ≠ .stabilising)
    (hr : (writeVar v f isSet).run.run s = (.ok r, s')) :
    r = vc.value ∧ vc.linked = true ∧
    s'.vars[v]? = some { vc with value := f vc.value,
                                 setAt := if vc.setAt < s.stabNum then s.stabNum else vc.setAt } ∧
    (∀ w, w ≠ v → s'.vars[w]? = s.vars[w]?) ∧
    s'.stabNum = s.stabNum ∧ s'.status = s.status ∧ s'.setDuringStab = s.setDuringStab ∧
    s'.counters.varSets = s.counters.varSets + 1 ∧
    s'.nodes.size = s.nodes.size ∧ (∀ n, n ≠ vc.node → s'.nodes[n]? = s.nodes[n]?) ∧
    s'.ahh = s.ahh ∧ s'.maxHeightSeen = s.maxHeightSeen :=
  Proofs.writeVar_outside_ok_facts v f isSet s s' vc r hv hst hr

example : ∃ r s', (writeVar 0 (fun _ => .int 5)).run.run exV = (.ok r, s') := ⟨_, _, rfl⟩

/-- Second write in the same round (`set_at` already is the current round): nothing but the value
and the `var_sets` counter changes — in particular no node, no heap. -/
theorem write_outside_same_round (v : Nat) (f : Val → Val) (isSet : Bool) (s s' : State)
    (vc : VarCell) (r : Val) (hv : s.vars[v]? = some vc) (hst : s.status ≠ .stabilising)
    (hge : s.stabNum ≤ vc.setAt)
    (hr : (writeVar v f isSet).run.run s = (.ok r, s')) :
    s' = bumped (withCell v { vc with value := f vc.value } s) := by
  obtain ⟨-, rfl, -⟩ := writeVar_outside_ok v f isSet s s' vc r hv hst hr
  exact wroteOutside_same_round v vc _ s hge

example : exVsame.vars[0]? = some { value := .int 1, setAt := 3, node := 0 } ∧
    exVsame.status ≠ .stabilising ∧ exVsame.stabNum ≤ (3 : Int) ∧
    ∃ r s', (writeVar 0 (fun _ => .int 5)).run.run exVsame = (.ok r, s') :=
  ⟨rfl, by decide, by decide, _, _, rfl⟩

/-- First write in a round, watch node a `Var` node of this cell: afterwards the watch node is stale
iff it is valid and was last recomputed in an earlier round; with debug assertions on a VALID watch
node IS stale (otherwise the write would have panicked; an invalid one is never stale). -/
theorem write_outside_stale (v : Nat) (f : Val → Val) (isSet : Bool) (s s' : State)
    (vc : VarCell) (r : Val) (nd : Node) (hv : s.vars[v]? = some vc) (hst : s.status ≠ .stabilising)
    (hlt : vc.setAt < s.stabNum)
    (hn : s.nodes[vc.node]? = some nd) (hk : nd.kind = .var v)
    (hr : (writeVar v f isSet).run.run s = (.ok r, s')) :
    s'.isStale vc.node = (nd.valid && decide (nd.recomputedAt < s.stabNum)) ∧
    (s.cfg.debug = true → nd.valid = true → s'.isStale vc.node = true) := by
  obtain ⟨-, rfl, -, h4, -⟩ := writeVar_outside_ok v f isSet s s' vc r hv hst hr
  have e := wroteOutside_stale v vc (f vc.value) s nd hv hlt hn hk
  refine ⟨e, fun hd hval => ?_⟩
  have hD : s.nodeD vc.node = nd := by
    have : s.nodes[vc.node]? = some nd := hn
    simp [State.nodeD, this]
  have hW := h4 hlt hd (by rw [hD]; exact hval)
  have hnW : (stampedWrite v vc (f vc.value) s).nodes[vc.node]? = some nd := hn
  have hvW : (stampedWrite v vc (f vc.value) s).vars[v]? =
      some { vc with value := f vc.value, setAt := s.stabNum } := withCell_get v _ vc s hv
  rw [isStale_var _ _ v nd _ hnW hk hvW] at hW
  rw [e]; exact hW

example : ∃ nd, exV.nodes[0]? = some nd ∧ nd.kind = .var 0 ∧ (1 : Int) < exV.stabNum :=
  ⟨_, rfl, rfl, by decide⟩
example : (((writeVar 0 (fun _ => .int 5)).run.run exV).2).isStale 0 = true := rfl

/-- First write in a round, heap side: afterwards the watch node is queued iff it was queued before
or is valid and necessary.  If it was valid, necessary and not queued, it has been appended to the
bucket of its height (which therefore is within `0..max_height_allowed`), the heap length grew by one
and the engine is not stable; otherwise (in particular for an invalidated watch node) heap and nodes
are untouched. -/
theorem write_outside_heap (v : Nat) (f : Val → Val) (isSet : Bool) (s s' : State)
    (vc : VarCell) (r : Val) (hv : s.vars[v]? = some vc) (hst : s.status ≠ .stabilising)
    (hlt : vc.setAt < s.stabNum)
    (hr : (writeVar v f isSet).run.run s = (.ok r, s')) :
    (s'.nodeD vc.node).inRch =
      ((s.nodeD vc.node).inRch || ((s.nodeD vc.node).valid && s.isNecessary vc.node)) ∧
    s'.isNecessary vc.node = s.isNecessary vc.node ∧
    (((s.nodeD vc.node).valid && s.isNecessary vc.node && !(s.nodeD vc.node).inRch) = true →
      0 ≤ (s.nodeD vc.node).height ∧ (s.nodeD vc.node).height ≤ s.rch.maxAllowed ∧
      s'.rch.queues = s.rch.queues.modify (s.nodeD vc.node).height.toNat (· ++ [vc.node]) ∧
      s'.rch.length = s.rch.length + 1 ∧
      (s'.nodeD vc.node).heightInRch = (s.nodeD vc.node).height ∧
      s'.isStable = false) ∧
    (¬ ((s.nodeD vc.node).valid && s.isNecessary vc.node && !(s.nodeD vc.node).inRch) = true →
      s'.rch = s.rch ∧ s'.nodes = s.nodes) := by
  obtain ⟨-, rfl, -, -, h5⟩ := writeVar_outside_ok v f isSet s s' vc r hv hst hr
  refine ⟨wroteOutside_inRch v vc _ s hlt (fun hq => (h5 hlt hq).1),
    wroteOutside_necessary v vc _ s, fun hq => ?_, fun hq => wroteOutside_not_queued v vc _ s hq⟩
  obtain ⟨q1, q2, q3, q4⟩ := wroteOutside_queued v vc (f vc.value) s hlt hq
  exact ⟨(h5 hlt hq).1, (h5 hlt hq).2, q1, q2, q3, q4⟩

example : ((exV.nodeD 0).valid && exV.isNecessary 0 && !(exV.nodeD 0).inRch) = true := rfl
example : (((writeVar 0 (fun _ => .int 5)).run.run exV).2).rch.queues[0]? = some [0] := rfl

/-- EXACT panic characterisation of a write outside a stabilisation: which panic is raised, or the
old value, as a decision list over the pre-state (`stampedWrite` is the state after value and
`set_at` have been written). -/
theorem write_outside_result (v : Nat) (f : Val → Val) (isSet : Bool) (s : State) (vc : VarCell)
    (hv : s.vars[v]? = some vc) (hst : s.status ≠ .stabilising) :
    ((writeVar v f isSet).run.run s).1 =
      if vc.linked = false then .error (.site "var:abandoned-watch-node")
      else if s.stabNum ≤ vc.setAt then .ok vc.value
      else if s.cfg.debug = true ∧ (!(s.nodeD vc.node).valid ||
          (stampedWrite v vc (f vc.value) s).isStale vc.node) = false then
        .error (.site "var:did_set:watch-stale")
      else if ((s.nodeD vc.node).valid && s.isNecessary vc.node && !(s.nodeD vc.node).inRch) = false then
        .ok vc.value
      else if s.cfg.debug = true ∧ (s.nodeD vc.node).height > s.rch.maxAllowed then
        .error (.site "recompute_heap:insert:height<=max")
      else if (s.nodeD vc.node).height < 0 then .error (.site "recompute_heap:link:height>=0")
      else if (s.nodeD vc.node).height > s.rch.maxAllowed then
        .error (.site "recompute_heap:link:height<=max")
      else .ok vc.value :=
  Proofs.writeVar_outside_result v f isSet s vc hv hst

example : exVdead.vars[0]? = some { value := .int 1, setAt := 1, node := 0, linked := false } ∧
    exVdead.status ≠ .stabilising := ⟨rfl, by decide⟩
/-- a write through a var whose watch node was abandoned panics -/
example : ((writeVar 0 (fun _ => .int 5)).run.run exVdead).1 =
    .error (.site "var:abandoned-watch-node") := rfl
/-- With the D14 repair a write (first of its round) to a var whose watch node is INVALID does not
trip `debug_assert!(watch.is_stale())` (an invalid node is never stale; the repaired assertion reads
`!watch.is_valid() || watch.is_stale()`): it returns the old value.  See `write_outside_invalid_watch`
at the end of this file.  (Such a var is not reachable through the history language of the model,
which creates vars at top scope only; `var_current_scope` inside a bind whose left-hand side later
changes produces one.) -/
example : ((writeVar 0 (fun _ => .int 5)).run.run exVinv).1 = .ok (.int 1) := rfl

/-- In particular: a linked var, debug assertions off, watch node invalid or unnecessary or already
queued or of a height within the heap — the write does not panic and returns the old value. -/
theorem write_outside_no_panic (v : Nat) (f : Val → Val) (isSet : Bool) (s : State) (vc : VarCell)
    (hv : s.vars[v]? = some vc) (hst : s.status ≠ .stabilising)
    (hl : vc.linked = true) (hd : s.cfg.debug = false)
    (hq : (s.nodeD vc.node).valid = false ∨ s.isNecessary vc.node = false ∨
      (s.nodeD vc.node).inRch = true ∨
      (0 ≤ (s.nodeD vc.node).height ∧ (s.nodeD vc.node).height ≤ s.rch.maxAllowed)) :
    ((writeVar v f isSet).run.run s).1 = .ok vc.value := by
  rw [writeVar_outside_result v f isSet s vc hv hst]
  simp only [hl, hd, Bool.true_eq_false, Bool.false_eq_true, false_and, if_false]
  split
  · rfl
  · split
    · rfl
    · rename_i h4
      rcases hq with h | h | h | ⟨h5, h6⟩
      · simp [h] at h4
      · simp [h] at h4
      · simp [h] at h4
      · rw [if_neg (by omega), if_neg (by omega)]

example : exVnd.vars[0]? = some { value := .int 1, setAt := 1, node := 0 } ∧
    exVnd.status ≠ .stabilising ∧ exVnd.cfg.debug = false ∧
    (0 ≤ (exVnd.nodeD 0).height ∧ (exVnd.nodeD 0).height ≤ exVnd.rch.maxAllowed) :=
  ⟨rfl, by decide, rfl, by decide, by decide⟩

/-! ## 2. during a stabilisation: the write is deferred -/

/-- Complete description of a write during a stabilisation: it never panics; the result is the
value the previous write of this stabilisation left (or the current value if there was none); the
cell's `value` is NOT touched (every reader still sees the pre-stabilisation value); `pending`
becomes `f` of that; the var is pushed on the deferred-writes stack iff nothing was pending; nothing
else in the state changes (`deferred` only touches `vars[v]` and `setDuringStab`). -/
theorem write_inside_run (v : Nat) (f : Val → Val) (isSet : Bool) (s : State) (vc : VarCell)
    (hv : s.vars[v]? = some vc) (hst : s.status = .stabilising) :
    (writeVar v f isSet).run.run s = (.ok (vc.pending.getD vc.value), deferred v vc f s) :=
  Proofs.writeVar_inside_run v f isSet s vc hv hst

/-- `deferred` spelled out -/
theorem deferred_facts (v : Nat) (vc : VarCell) (f : Val → Val) (s : State)
    (hv : s.vars[v]? = some vc) :
    (deferred v vc f s).vars[v]? = some { vc with pending := some (f (vc.pending.getD vc.value)) } ∧
    (deferred v vc f s).setDuringStab =
      (if vc.pending = none then v :: s.setDuringStab else s.setDuringStab) ∧
    (deferred v vc f s).nodes = s.nodes ∧ (deferred v vc f s).rch = s.rch ∧
    (deferred v vc f s).ahh = s.ahh ∧ (deferred v vc f s).stabNum = s.stabNum ∧
    (deferred v vc f s).status = s.status ∧ (deferred v vc f s).counters = s.counters ∧
    (deferred v vc f s).observers = s.observers ∧ (deferred v vc f s).cfg = s.cfg ∧
    (∀ w, w ≠ v → (deferred v vc f s).vars[w]? = s.vars[w]?) :=
  ⟨Proofs.deferred_get v vc f s hv, rfl, Proofs.deferred_frame v vc f s⟩

example : exVs.vars[0]? = some { value := .int 1, setAt := 1, node := 0 } ∧ exVs.status = .stabilising :=
  ⟨rfl, rfl⟩
example : ((writeVar 0 (fun _ => .int 5)).run.run exVs).1 = .ok (.int 1) ∧
    (((writeVar 0 (fun _ => .int 5)).run.run exVs).2).vars[0]? =
      some { value := .int 1, setAt := 1, node := 0, pending := some (.int 5) } ∧
    (((writeVar 0 (fun _ => .int 5)).run.run exVs).2).setDuringStab = [0] := ⟨rfl, rfl, rfl⟩
example : ((writeVar 0 (fun x => x.addInt 1 100)).run.run exVs2).1 = .ok (.int 8) ∧
    (((writeVar 0 (fun x => x.addInt 1 100)).run.run exVs2).2).vars[0]? =
      some { value := .int 1, setAt := 1, node := 0, pending := some (.int 9) } ∧
    (((writeVar 0 (fun x => x.addInt 1 100)).run.run exVs2).2).setDuringStab = [0] := ⟨rfl, rfl, rfl⟩

/-! ## 3. several writes during one stabilisation compose in program order -/

/-- Running the writes `fs` in order during a stabilisation is the same as ONE deferred write with
the composed function `x ↦ (fs.foldl (fun acc f => f acc) x)` (and a no-op if `fs = []`). -/
theorem writes_inside_run (v : Nat) (fs : List (Val → Val)) (s : State) (vc : VarCell)
    (hv : s.vars[v]? = some vc) (hst : s.status = .stabilising) :
    (writeAll v fs).run.run s = (.ok (), match fs with
      | [] => s
      | _ :: _ => deferred v vc (fun x => fs.foldl (fun acc f => f acc) x) s) :=
  Proofs.writeAll_inside_run v fs s vc hv hst

/-- `writeAll v fs` is the plain iteration of `writeVar v f` over `fs` -/
theorem writeAll_eq_forM (v : Nat) (fs : List (Val → Val)) :
    writeAll v fs = forM fs (fun f => do let _ ← writeVar v f; pure ()) := by
  induction fs with
  | nil => rfl
  | cons f fs ih => simp [writeAll, ih]

/-- Spelled out: `value` is unchanged, `pending` is the left fold of `fs` over the value the first
write saw, `v` occurs on the deferred-writes stack exactly once more than before iff nothing was
pending and `fs ≠ []`, the engine is still stabilising, nodes, heap and round number are unchanged. -/
theorem writes_inside_facts (v : Nat) (fs : List (Val → Val)) (s : State) (vc : VarCell)
    (hv : s.vars[v]? = some vc) (hst : s.status = .stabilising) :
    ∃ s', (writeAll v fs).run.run s = (.ok (), s') ∧
      s'.vars[v]? = some { vc with pending :=
        (if fs = [] then vc.pending
          else some (fs.foldl (fun acc f => f acc) (vc.pending.getD vc.value))) } ∧
      (∀ w, w ≠ v → s'.vars[w]? = s.vars[w]?) ∧
      s'.setDuringStab =
        (if vc.pending = none ∧ fs ≠ [] then v :: s.setDuringStab else s.setDuringStab) ∧
      s'.setDuringStab.count v =
        s.setDuringStab.count v + (if vc.pending = none ∧ fs ≠ [] then 1 else 0) ∧
      s'.status = .stabilising ∧ s'.nodes = s.nodes ∧ s'.rch = s.rch ∧ s'.stabNum = s.stabNum := by
  refine ⟨_, writeAll_inside_run v fs s vc hv hst, ?_⟩
  cases fs with
  | nil => simp [hv, hst]
  | cons f rest =>
    obtain ⟨f1, f2, _, f4, f5, _, _, _, f9⟩ :=
      deferred_frame v vc (fun x => (f :: rest).foldl (fun acc f => f acc) x) s
    refine ⟨?_, f9, ?_, ?_, by rw [f5, hst], f1, f2, f4⟩
    · simpa using deferred_get v vc _ s hv
    · simp [deferred]
    · by_cases hp : vc.pending = none <;> simp [deferred, hp]

example : (((writeAll 0 [fun _ => .int 5, fun x => x.addInt 1 100, fun x => x.addInt 2 100]).run.run
    exVs).2).vars[0]? = some { value := .int 1, setAt := 1, node := 0, pending := some (.int 8) } := rfl

/-! ## 4. `stabiliseEnd` applies the deferred value after the counter bump -/

/-- `stabiliseEnd` is its var phase (`stabiliseEndVars`: bump the round number, take the stack of
deferred vars, run `applyPending` on each) followed by the rest (dead vars, update handlers). -/
theorem stabiliseEnd_eq (env : Env) (fuel : Nat) :
    stabiliseEnd env fuel = (do stabiliseEndVars; stabiliseEndRest env fuel) :=
  Proofs.stabiliseEnd_eq env fuel

/-- The var phase runs the loop on the state with the round number ALREADY incremented. -/
theorem stabiliseEndVars_run (s : State) :
    stabiliseEndVars.run.run s = (applyAll s.setDuringStab).run.run
      { s with stabNum := s.stabNum + 1, currentlyRunning := none, setDuringStab := [] } :=
  Proofs.stabiliseEndVars_run s

/-- One iteration of the loop (`applyPending v`): a var without a pending value is skipped; otherwise
`pending` moves to `value` and the ordinary immediate-write bookkeeping
(`didSetVarWhileNotStabilising`) runs on the result. -/
theorem applyPending_run (v : Nat) (s : State) :
    (applyPending v).run.run s = match s.vars[v]? with
      | none => (.error (.site "model:no-such-var"), s)
      | some vc => match vc.pending with
        | none => (.ok (), s)
        | some x => (didSetVarWhileNotStabilising v).run.run
            (withCell v { vc with pending := none, value := x } s) :=
  Proofs.applyPending_run v s

/-- A var phase that does not panic: the round number is the old one plus one, the stack is empty,
the status is unchanged, and every var cell on the stack has had `applyCell (new round)` applied
(`pending := none`, `value := the pending value`, `set_at := new round` if it was older); all
other cells are unchanged. -/
theorem stabiliseEndVars_ok (s s' : State) (u : Unit)
    (hr : stabiliseEndVars.run.run s = (.ok u, s')) :
    s'.stabNum = s.stabNum + 1 ∧ s'.status = s.status ∧ s'.setDuringStab = [] ∧
    (∀ w, s'.vars[w]? =
      if w ∈ s.setDuringStab then (s.vars[w]?).map (applyCell (s.stabNum + 1)) else s.vars[w]?) :=
  Proofs.stabiliseEndVars_ok s s' u hr

/-- In particular for one deferred var with pending value `x` (and `set_at` not in the future): after
the var phase `value = x`, `pending = none`, `set_at = old round + 1`, i.e. the write counts as a
write of the NEXT round. -/
theorem stabiliseEndVars_applies (s s' : State) (u : Unit) (v : Nat) (vc : VarCell) (x : Val)
    (hr : stabiliseEndVars.run.run s = (.ok u, s'))
    (hmem : v ∈ s.setDuringStab) (hv : s.vars[v]? = some vc) (hp : vc.pending = some x)
    (hset : vc.setAt ≤ s.stabNum) :
    s'.vars[v]? = some { vc with value := x, pending := none, setAt := s.stabNum + 1 } := by
  have h := (stabiliseEndVars_ok s s' u hr).2.2.2 v
  rw [if_pos hmem, hv] at h
  rw [h]
  have : vc.setAt < s.stabNum + 1 := by omega
  simp [applyCell, hp, this]

example : (∃ u s', stabiliseEndVars.run.run exVs2 = (.ok u, s')) ∧ 0 ∈ exVs2.setDuringStab ∧
    exVs2.vars[0]? = some { value := .int 1, setAt := 1, node := 0, pending := some (.int 8) } ∧
    (1 : Int) ≤ exVs2.stabNum :=
  ⟨⟨_, _, rfl⟩, by decide, rfl, by decide⟩
example : ((stabiliseEndVars.run.run exVs2).2).vars[0]? =
    some { value := .int 8, setAt := 4, node := 0, pending := none } := rfl

/-- A var that is not on the stack is not touched by the var phase. -/
theorem stabiliseEndVars_untouched (s s' : State) (u : Unit) (v : Nat)
    (hr : stabiliseEndVars.run.run s = (.ok u, s')) (hmem : v ∉ s.setDuringStab) :
    s'.vars[v]? = s.vars[v]? := by
  have h := (stabiliseEndVars_ok s s' u hr).2.2.2 v
  rw [if_neg hmem] at h
  exact h

example : (∃ u s', stabiliseEndVars.run.run exVs = (.ok u, s')) ∧ 0 ∉ exVs.setDuringStab :=
  ⟨⟨_, _, rfl⟩, by decide⟩

/-! ## 5. D14: a var whose watch node has been invalidated -/

/-- D14 GUARANTEE.  A var created with `var_current_scope` inside a bind scope keeps its handle after
the scope (hence its watch node) has been invalidated.  A write through such a handle outside a
stabilisation, while the var is still linked, NEVER panics — with or without debug assertions (no
hypothesis on `s.cfg.debug`), whatever the height, necessity or heap membership of the dead watch
node — and returns the old value.  The final state is `wroteQuiet v vc (f vc.value) s`, i.e. the
cell holds `f old` with `set_at` raised to the current round if it was older and the `var_sets` counter
incremented; the node array and the recompute heap are UNCHANGED (the invalid watch node is not
scheduled again), and so is everything else (other cells, adjust-heights heap, round, status,
deferred-writes stack, observers, config, `max_height_seen`).  Before the repair the same write
panicked at `var:did_set:watch-stale` in debug builds and, in release builds, linked the invalid
node into the recompute heap when it still looked necessary. -/
theorem write_outside_invalid_watch (v : Nat) (f : Val → Val) (isSet : Bool) (s : State)
    (vc : VarCell) (hv : s.vars[v]? = some vc) (hst : s.status ≠ .stabilising)
    (hl : vc.linked = true) (hinv : (s.nodeD vc.node).valid = false) :
    ∃ s', (writeVar v f isSet).run.run s = (.ok vc.value, s') ∧
      s' = wroteQuiet v vc (f vc.value) s ∧
      s' = (if s.stabNum ≤ vc.setAt then bumped (withCell v { vc with value := f vc.value } s)
            else stampedWrite v vc (f vc.value) s) ∧
      s'.vars[v]? = some { vc with value := f vc.value,
                                   setAt := if vc.setAt < s.stabNum then s.stabNum else vc.setAt } ∧
      (∀ w, w ≠ v → s'.vars[w]? = s.vars[w]?) ∧
      s'.nodes = s.nodes ∧ s'.rch = s.rch ∧ s'.ahh = s.ahh ∧
      s'.stabNum = s.stabNum ∧ s'.status = s.status ∧ s'.setDuringStab = s.setDuringStab ∧
      s'.observers = s.observers ∧ s'.cfg = s.cfg ∧ s'.maxHeightSeen = s.maxHeightSeen ∧
      s'.counters.varSets = s.counters.varSets + 1 :=
  ⟨_, Proofs.writeVar_outside_invalid v f isSet s vc hv hst hl hinv, rfl,
    Proofs.wroteQuiet_eq v vc (f vc.value) s, Proofs.wroteQuiet_facts v vc (f vc.value) s hv⟩

/-- the hypotheses hold on `exVinv` (debug assertions ON, watch node invalid but still observed, i.e.
"necessary", and not queued) -/
example : exVinv.vars[0]? = some { value := .int 1, setAt := 1, node := 0 } ∧
    exVinv.status ≠ .stabilising ∧ (exVinv.nodeD 0).valid = false ∧ exVinv.cfg.debug = true ∧
    (exVinv.isNecessary 0 && !(exVinv.nodeD 0).inRch) = true :=
  ⟨rfl, by decide, rfl, rfl, rfl⟩
/-- and the write indeed returns the old value, stores the new one and leaves heap and nodes alone -/
example : ((writeVar 0 (fun _ => .int 5)).run.run exVinv).1 = .ok (.int 1) ∧
    (((writeVar 0 (fun _ => .int 5)).run.run exVinv).2).vars[0]? =
      some { value := .int 5, setAt := 3, node := 0 } ∧
    (((writeVar 0 (fun _ => .int 5)).run.run exVinv).2).rch.length = 0 ∧
    (((writeVar 0 (fun _ => .int 5)).run.run exVinv).2).rch.queues[0]? = some [] ∧
    (((writeVar 0 (fun _ => .int 5)).run.run exVinv).2).nodes = exVinv.nodes := ⟨rfl, rfl, rfl, rfl, rfl⟩

end IncrVerif.Props.C08
