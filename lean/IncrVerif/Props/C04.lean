import IncrVerif.Props.C07
import IncrVerif.Props.C08
import IncrVerif.Props.C09
import IncrVerif.Props.C10
import IncrVerif.Props.C19
/-!
# C04 — well-formed programs never panic, in debug or release builds  (`C04_partial`)

The full statement is: for every well-formed history no API action of `run` ends in a panic, for both
values of `cfg.debug`.  What is PROVED so far is the part of it that concerns the calls that do not
enter the propagation cascade, for every state of the model (no reachability assumption):

* `disallow_future_use`, `unsubscribe` (own token), `subscribe` (live observer) never panic;
* every var write issued while stabilising never panics; a var write outside stabilise does not panic
  in release builds unless the handle's watch node was abandoned or its height is off the heap;
* node construction (`Node::create`) never panics;
* the update-handler table never hands `Unnecessary` to a subscription (the `panic!` in
  `Observer::try_subscribe`'s wrapper is unreachable);
* `set_height` panics exactly when the height exceeds the configured maximum.

What is NOT yet proved (covered by the differential run and `holdsC04` on both build profiles only):
the panic sites inside `stabilise` (necessity cascades, adjust-heights, invalidation, recompute),
i.e. the families "value present", "weak upgrade", "index arithmetic", "heap discipline",
"scheduling assertions" of DESIGN.md Appendix D.
-/
namespace IncrVerif.Props.C04
open IncrVerif.Engine

/-- `Observer::disallow_future_use` / dropping the last handle never panics -/
theorem C04_partial_disallow (s : State) (o : Nat) (ob : ObsRec) (h : s.observers[o]? = some ob) :
    ∃ s', (disallowFutureUse o).run.run s = (.ok (), s') :=
  (C10.disallow_spec s o ob h).imp fun _ hh => hh.1

/-- `Observer::unsubscribe` with a token of the same observer never panics and never fails -/
theorem C04_partial_unsubscribe (s : State) (o token : Nat) (ob : ObsRec)
    (h : s.observers[o]? = some ob) :
    ∃ s', (unsubscribe o token o).run.run s = (.ok (.ok ()), s') :=
  C10.unsubscribe_never_panics s o token ob h

/-- `Observer::try_subscribe` on a live observer never panics -/
theorem C04_partial_subscribe (s : State) (o hid : Nat) (ob : ObsRec) (ha : s.alive = true)
    (h : s.observers[o]? = some ob) (hst : ob.state = .created ∨ ob.state = .inUse)
    (hn : ob.node < s.nodes.size) :
    ∃ s', (subscribe o hid).run.run s = (.ok (.ok s.nextToken), s') :=
  (C10.subscribe_ok s o hid ob ha h hst hn).imp fun _ hh => hh.1

/-- a var write from inside a node function (status `Stabilising`) never panics -/
theorem C04_partial_write_inside (v : Nat) (f : Val → Val) (isSet : Bool) (s : State) (vc : VarCell)
    (hv : s.vars[v]? = some vc) (hst : s.status = .stabilising) :
    ((writeVar v f isSet).run.run s).1 = .ok (vc.pending.getD vc.value) := by
  rw [C08.write_inside_run v f isSet s vc hv hst]

/-- a var write outside stabilise does not panic in a release build, for a live handle whose watch
node is either invalidated (D14), not needed, already queued, or at a height the heap has a bucket
for -/
theorem C04_partial_write_outside (v : Nat) (f : Val → Val) (isSet : Bool) (s : State) (vc : VarCell)
    (hv : s.vars[v]? = some vc) (hst : s.status ≠ .stabilising)
    (hl : vc.linked = true) (hd : s.cfg.debug = false)
    (hq : (s.nodeD vc.node).valid = false ∨ s.isNecessary vc.node = false ∨
      (s.nodeD vc.node).inRch = true ∨
      (0 ≤ (s.nodeD vc.node).height ∧ (s.nodeD vc.node).height ≤ s.rch.maxAllowed)) :
    ((writeVar v f isSet).run.run s).1 = .ok vc.value :=
  C08.write_outside_no_panic v f isSet s vc hv hst hl hd hq

/-- D14: a var write outside stabilise through a live handle whose watch node has been invalidated
does not panic in EITHER build profile (no hypothesis on `s.cfg.debug`) -/
theorem C04_partial_write_invalid_watch (v : Nat) (f : Val → Val) (isSet : Bool) (s : State)
    (vc : VarCell) (hv : s.vars[v]? = some vc) (hst : s.status ≠ .stabilising)
    (hl : vc.linked = true) (hinv : (s.nodeD vc.node).valid = false) :
    ((writeVar v f isSet).run.run s).1 = .ok vc.value := by
  obtain ⟨s', h, -⟩ := C08.write_outside_invalid_watch v f isSet s vc hv hst hl hinv
  rw [h]

/-- node construction never panics -/
theorem C04_partial_create (s : State) (kind : Kind) (scope : Scope) (cutoff : CutoffK) :
    ∃ s', (createNode kind scope cutoff).run.run s = (.ok s.nodes.size, s') :=
  (C07.createNode_appends s kind scope cutoff).imp fun _ hh => hh.1

/-- a subscription is never handed `NodeUpdate::Unnecessary` (which its wrapper turns into a panic):
the node of an attached observer is never classified so -/
theorem C04_partial_no_unnecessary (env : Env) (s : State) (n : Nat)
    (h : (s.nodeD n).observers ≠ []) : s.nodeUpdate env n ≠ .unnecessary :=
  C09.nodeUpdate_ne_unnecessary env s n h

/-- the height panic fires exactly above the limit (so a well-formed program, whose heights stay
within the limit, never sees it) -/
theorem C04_partial_height (n : Nat) (h : Int) (s : State) (inv : s.maxHeightSeen ≤ s.ahh.maxAllowed)
    (hh : h ≤ s.ahh.maxAllowed) : ((setHeight n h).run.run s).1 = .ok () :=
  ((C19.setHeight_exact n h s inv).2).mpr hh

/-- non-vacuity: a concrete state on which the hypotheses of the observer lemmas hold -/
example : ∃ s', (disallowFutureUse 0).run.run
    ({ (State.init 4) with observers := #[{ node := 0 }] }) = (.ok (), s') :=
  C04_partial_disallow _ 0 { node := 0 } rfl

end IncrVerif.Props.C04
