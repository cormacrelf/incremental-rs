import IncrVerif.Proofs.TidyH60
import IncrVerif.Proofs.TidyH56
/-!
# T1b, part 4: the linking cascade (`becameNecessary`, `addParentWithoutAdjustingHeights`) bisimulates, with fuel
`N + 2 * n + 2` (the `markMapRefUnknown` calls of D1/D15 need `N - n`).
-/
namespace IncrVerif.Proofs.TidyH.RT
open IncrVerif.Engine IncrVerif.Driver IncrVerif.Proofs IncrVerif.Proofs.Step IncrVerif.Proofs.Sched IncrVerif.Proofs.Quiet
open IncrVerif.Proofs.MapRefH

section
variable {g : Nat → Option Val} {N : Nat} {K : Nat → Kind}

/-- `markMapRefUnknown` against the virtual no-op -/
theorem BSimAt.mmu_noop {fuel n : Nat} {s : State} (hn : n < N) (hf : N ≤ fuel + n) :
    BSimAt (P2 N K) g s (Engine.markMapRefUnknown fuel n) (pure ()) := by
  intro hp
  refine ⟨fun r s' hr => ?_, fun r t hr => ?_⟩
  · exact ⟨(SimAt.of_veq (g := g) (PresV.markMapRefUnknown fuel n) hp.fr r s' hr).1, markMapRefUnknown_p2 hp hr⟩
  · obtain ⟨s', hs'⟩ := markMapRefUnknown_returns fuel n s hp hn hf
    exact ⟨s', hs'⟩

/-- work that the virtual engine does not do, followed by `k` -/
theorem BSimAt.noop_seq {P : State → Prop} {β : Type} {s : State} {x : M Unit} {k : Unit → M β} {k' : M β}
    (hx : BSimAt P g s x (pure ())) (hk : ∀ s1, x.run.run s = (.ok (), s1) → BSimAt P g s1 (k ()) k') :
    BSimAt P g s (x >>= k) k' := by
  have := BSimAt.seq (f' := fun _ => k') hx fun a s1 h1 => hk s1 h1
  simpa only [pure_bind] using this

/-- recording a child edge keeps the carried invariant -/
theorem BSimAt.addParent {c i p : Nat} {s : State} (hc : c ∈ kidsR (K p)) :
    BSimAt (P2 N K) g s (Engine.addParent c i p) (Engine.addParent c i p) := by
  unfold Engine.addParent
  refine BSimAt.modNode' c (by vcomm) fun hp => ?_
  have hnd := fun m => nodeD_modify s c m (fun x => { x with parents := x.parents ++ [(p, i)] })
  refine ⟨fr_modify hp.fr c _ (by vkind), by simpa using hp.size, fun m => ?_, hp.fragK, hp.back,
    fun c' p' i' hm => ?_⟩
  · rw [hnd]; split <;> exact hp.kind m
  · rw [hnd] at hm; split at hm
    · rename_i e
      rcases List.mem_append.1 hm with h | h
      · exact hp.pu c' p' i' h
      · simp only [List.mem_singleton, Prod.mk.injEq] at h
        rw [h.1, ← e.1]; exact hc
    · exact hp.pu c' p' i' hm

theorem BSim.link (env : Env) (fuel : Nat) :
    (∀ n, n < N → N + 2 * n + 2 ≤ fuel →
      BSim (P2 N K) g (becameNecessary env fuel n) (becameNecessary (virtEnv env) fuel n)) ∧
    (∀ c i p, c ∈ kidsR (K p) → p < N → N + 2 * p + 1 ≤ fuel →
      BSim (P2 N K) g (addParentWithoutAdjustingHeights env fuel c i p)
        (addParentWithoutAdjustingHeights (virtEnv env) fuel c i p)) := by
  induction fuel with
  | zero =>
    constructor
    · intro n _ hf; omega
    · intro c i p _ _ hf; omega
  | succ fuel ih =>
    constructor
    · intro n hn hf s
      unfold becameNecessary
      bsim
      all_goals first
        | exact ih.2 _ _ _ (by rw [← P2.children hps]; assumption) hn (by omega) _
        | exact BSimAt.markMapRefUnknown hn (by omega)
        | bsim_kind
    · intro c i p hc hp hf s
      unfold addParentWithoutAdjustingHeights
      bsim
      all_goals first
        | exact BSimAt.addParent hc
        | exact ih.1 _ (Nat.lt_trans (hps.back _ _ hc) hp) (by have := hps.back _ _ hc; omega) _
        | (exfalso; simp_all; done)
        | bsim_kind
      all_goals first
        | bsim_kind
        | (refine BSimAt.ite_left
            (fun _ => BSimAt.noop_seq (BSimAt.mmu_noop hp (by omega)) fun _ _ => ?_) (fun _ => ?_) <;>
           bsim <;> bsim_kind)

/-- on a node that does not exist both engines panic -/
theorem BSimAt.becameNecessary_ge (env : Env) (fuel n : Nat) {s : State} (hn : N ≤ n) :
    BSimAt (P2 N K) g s (becameNecessary env fuel n) (becameNecessary (virtEnv env) fuel n) := by
  intro hp
  have hnone : s.nodes[n]? = none := Array.getElem?_eq_none (by rw [hp.size]; exact hn)
  refine ⟨fun r s' hr => ?_, fun r t hr => ?_⟩
  · cases fuel with
    | zero => unfold becameNecessary at hr; cases hr
    | succ fuel =>
      unfold becameNecessary at hr
      obtain ⟨nd, hnd, -⟩ := bind_getNode_inv hr
      rw [hnone] at hnd; cases hnd
  · cases fuel with
    | zero => unfold becameNecessary at hr; cases hr
    | succ fuel =>
      unfold becameNecessary at hr
      obtain ⟨nd, hnd, -⟩ := bind_getNode_inv hr
      rw [virt_getElem?, hnone] at hnd; cases hnd

theorem BSim.becameNecessary (env : Env) (fuel n : Nat) (hf : 3 * N ≤ fuel) :
    BSim (P2 N K) g (Engine.becameNecessary env fuel n) (Engine.becameNecessary (virtEnv env) fuel n) := by
  intro s
  by_cases hn : n < N
  · exact (BSim.link env fuel).1 n hn (by omega) s
  · exact BSimAt.becameNecessary_ge env fuel n (by omega)

theorem BSim.becameNecessaryPropagate (env : Env) (fuel n : Nat) (hf : 3 * N ≤ fuel) :
    BSim (P2 N K) g (Engine.becameNecessaryPropagate env fuel n)
      (Engine.becameNecessaryPropagate (virtEnv env) fuel n) := by
  intro s; unfold Engine.becameNecessaryPropagate
  refine BSimAt.seq (BSim.becameNecessary env fuel n hf s) fun _ _ _ => ?_
  bsim

/-- **the first phase of `stabilise` bisimulates** (fuel `3 * N`) -/
theorem BSim.addNewObservers (env : Env) (fuel : Nat) (hf : 3 * N ≤ fuel) :
    BSim (P2 N K) g (Engine.addNewObservers env fuel) (Engine.addNewObservers (virtEnv env) fuel) := by
  intro s; unfold Engine.addNewObservers; bsim
  split <;> bsim
  exact BSim.becameNecessaryPropagate env fuel _ hf _

end
end IncrVerif.Proofs.TidyH.RT
