import IncrVerif.Proofs.FullT4
/-!
# C04 combined fragment: the bisimulation for node creation, part 1
(`createNode`, `createVar`, `createBind`, `resolveOpnd`, `isConstant`; twin of `Proofs/FullH12`)

The carried invariant is any `KeepsG` invariant (`PInv` is one): creation pushes pristine nodes and changes the bind table.
-/
namespace IncrVerif.Proofs.FullT
set_option linter.unusedSectionVars false
open IncrVerif.Engine IncrVerif.Proofs IncrVerif.Proofs.Step IncrVerif.Proofs.Sched IncrVerif.Proofs.Quiet IncrVerif.Proofs.FullH

section
variable {K : Kind → Prop} {P : State → Prop} {g : Nat → Option Val} {s : State} {α β : Type}

/-- a read-only program followed by a continuation: the continuation starts in the same state -/
theorem BSimAt.ro_seq {x x' : M α} {f f' : α → M β} (hro : Step.Pres SC.SameS x) (hx : BSimAt K P g s x x')
    (hf : ∀ a, x.run.run s = (.ok a, s) → BSimAt K P g s (f a) (f' a)) : BSimAt K P g s (x >>= f) (x' >>= f') := by
  refine BSimAt.seq hx fun a s1 h1 => ?_
  have e : s1 = s := hro.h s _ s1 h1
  subst e; exact hf a h1

/-- the carried invariant after `createNode` -/
theorem keeps_crState [KeepsG P] (k : Kind) (sc : Scope) (c : CutoffK) (hp : P s)
    (hb : ∀ p i, k = .mapRef p i → i < s.nodes.size) : P (SC.crState k sc c s) :=
  KeepsG.of_nodes' (KeepsG.push (s := s) { kind := k, createdIn := sc, cutoff := c } hp rfl hb) (SC.crState_nodes k sc c s)

/-- `createNode` for an arbitrary kind predicate: node creation never fails -/
theorem BSimAt.createNode_gen [KeepsG P] {k : Kind} (sc : Scope) (c : CutoffK) (hk : K k) (hne : ∀ e, k ≠ .expert e)
    (hb : ∀ p i, k = .mapRef p i → i < s.nodes.size) (hc : CutK k c) :
    BSimAt K P g s (Engine.createNode k sc c) (Engine.createNode (virtKind k) sc (virtCut k c)) := by
  refine BSimAt.mk' (SC.simAt_createNode sc c hk hne hb hc) (fun _ hp r s' hr => ?_) (fun _ _ r t hr => ?_)
  · rw [SC.run_createNode] at hr; cases hr
    exact keeps_crState k sc c hp hb
  · rw [SC.run_createNode] at hr; cases hr
    exact ⟨_, by rw [SC.run_createNode, virt_size]⟩

end

/-! ## the headline statements -/

section
variable {env : Env} {sp : Nat → Val → Val} {P : State → Prop} [KeepsG P] {g : Nat → Option Val}

/-- **virtualisation commutes with `createNode`, both ways** -/
theorem BSimAt.createNode {s : State} (k : Kind) (sc : Scope) (c : CutoffK) (hk : FK env sp k)
    (hb : ∀ p i, k = .mapRef p i → i < s.nodes.size) (hc : CutK k c) :
    BSimAt (FK env sp) P g s (Engine.createNode k sc c) (Engine.createNode (virtKind k) sc (virtCut k c)) :=
  BSimAt.createNode_gen sc c hk (FK.noExp hk) hb hc

theorem BSimAt.createNode' {s : State} {k k' : Kind} (sc : Scope) (c : CutoffK) {c' : CutoffK} (hk' : k' = virtKind k)
    (hc' : c' = virtCut k c) (hk : FK env sp k) (hb : ∀ p i, k = .mapRef p i → i < s.nodes.size) (hc : CutK k c) :
    BSimAt (FK env sp) P g s (Engine.createNode k sc c) (Engine.createNode k' sc c') := by
  subst hk' hc'; exact BSimAt.createNode k sc c hk hb hc

theorem BSim.createVar (v : Val) (sc : Scope) :
    BSim (FK env sp) P g (Engine.createVar v sc) (Engine.createVar v sc) := by
  intro s
  unfold Engine.createVar
  refine BSimAt.get_seq ?_
  fnorm
  refine BSimAt.seq (BSimAt.createNode (.var s.vars.size) sc .eq trivial (fun p i h => by cases h)
    (Or.inl rfl)) fun _ _ _ => ?_
  bsim

theorem BSimAt.createBind {s : State} (body lhs : Nat) :
    BSimAt (FK env sp) P g s (Engine.createBind body lhs) (Engine.createBind body lhs) := by
  unfold Engine.createBind
  refine BSimAt.get_seq ?_
  fnorm
  refine BSimAt.modG_seq rfl rfl ?_
  refine BSimAt.seq (BSimAt.createNode (.bindLhsChange s.binds.size) s.currentScope .never trivial
    (fun p i h => by cases h) (Or.inr (Or.inl rfl))) fun lc _ _ => ?_
  refine BSimAt.seq (BSimAt.createNode (.bindMain s.binds.size lc) s.currentScope .eq trivial
    (fun p i h => by cases h) (Or.inl rfl)) fun mn _ _ => ?_
  bsim

end

section
variable {K : Kind → Prop} {P : State → Prop} [Keeps P] {g : Nat → Option Val}

theorem BSim.resolveOpnd (loc : List Nat) (o : Opnd) :
    BSim K P g (Engine.resolveOpnd loc o) (Engine.resolveOpnd loc o) :=
  .of_comm (Sim.resolveOpnd loc o) fun s0 => NodeSim.Comm.resolveOpnd (blindT s0) loc o
macro_rules | `(tactic| bsim_leaf) => `(tactic| with_reducible exact BSim.resolveOpnd _ _)

theorem BSim.isConstant (n : Nat) : BSim K P g (Engine.isConstant n) (Engine.isConstant n) :=
  .of_comm (Sim.isConstant n) fun s0 => NodeSim.Comm.isConstant (blindT s0) n
macro_rules | `(tactic| bsim_leaf) => `(tactic| with_reducible exact BSim.isConstant _)

end
end IncrVerif.Proofs.FullT
