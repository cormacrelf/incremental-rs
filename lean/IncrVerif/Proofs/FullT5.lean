import IncrVerif.Proofs.FullT4
/-!
# C04 combined fragment, part 6: `markMapRefUnknown` returns; flag work is invisible; the calculus for invariants without `rmParent`
-/
namespace IncrVerif.Proofs.FullT
set_option linter.unusedSectionVars false
open IncrVerif.Engine IncrVerif.Proofs IncrVerif.Proofs.Step IncrVerif.Proofs.Sched IncrVerif.Proofs.Quiet IncrVerif.Proofs.FullH

/-! ## flag-only work: sizes, kinds, parent lists and necessity are unchanged -/

section
variable {g : Nat → Option Val}

theorem _root_.IncrVerif.Proofs.FullH.VEq.parents {s s' : State} (v : VEq g s s') (m : Nat) : (s'.nodeD m).parents = (s.nodeD m).parents := by
  have h : (virt g s').nodeD m = (virt g s).nodeD m := by rw [v.veq]
  rw [virt_nodeD, virt_nodeD] at h
  have hp := congrArg Node.parents h
  rwa [virtNode_parents, virtNode_parents] at hp

theorem _root_.IncrVerif.Proofs.FullH.VEq.isNecessary {s s' : State} (v : VEq g s s') (m : Nat) : s'.isNecessary m = s.isNecessary m := by
  have h : (virt g s').isNecessary m = (virt g s).isNecessary m := by rw [v.veq]
  rwa [virt_isNecessary, virt_isNecessary] at h

theorem _root_.IncrVerif.Proofs.FullH.VEq.un {s s' : State} (v : VEq g s s') : UN s' = UN s := by
  unfold UN
  rw [v.size]
  congr 1
  funext m
  rw [v.isNecessary]

theorem PInv.of_veq {s s' : State} (h : PInv s) (v : VEq g s s') : PInv s' :=
  h.of_nodeD v.size v.kind (fun m x hx => by rw [v.parents] at hx; exact hx)

end

theorem markMapRefUnknown_veq {fuel n : Nat} {s s' : State} {u : Unit}
    (hr : (markMapRefUnknown fuel n).run.run s = (.ok u, s')) : VEq (fun _ => none) s s' :=
  (PresV.markMapRefUnknown (g := fun _ => none) fuel n).h s _ s' hr

theorem markMapRefUnknown_pinv {fuel n : Nat} {s s' : State} {u : Unit} (h : PInv s)
    (hr : (markMapRefUnknown fuel n).run.run s = (.ok u, s')) : PInv s' :=
  h.of_veq (markMapRefUnknown_veq hr)

/-- **`markMapRefUnknown` returns** (the recursion climbs the recorded parents while they are valid `map_ref` nodes; along it the index increases) -/
theorem markMapRefUnknown_returns : ∀ (fuel n : Nat) (s : State), PInv s → n < s.nodes.size → s.nodes.size + 1 ≤ fuel + n →
    ∃ s', (markMapRefUnknown fuel n).run.run s = (.ok (), s') := by
  intro fuel
  induction fuel with
  | zero => intro n s _ h1 h2; omega
  | succ fuel ih =>
    intro n s hp hn hf
    suffices T : Tot (markMapRefUnknown (fuel + 1) n) s (fun _ _ => True) by
      obtain ⟨_, s', h, -⟩ := T; exact ⟨s', h⟩
    unfold markMapRefUnknown
    refine Tot.bind_getNode hn ?_
    rcases hk : (s.nodeD n).kind? with _ | k
    · exact Tot.pure trivial
    cases k
    case mapRef pr i =>
      dsimp only
      refine Tot.bind_modNode ?_
      have hp1 : PInv { s with nodes := s.nodes.modify n fun x => { x with didChange := true } } :=
        Keeps.modify n _ hp (fun nd => ⟨rfl, rfl, rfl, rfl, rfl, rfl⟩)
      have hsz1 : ({ s with nodes := s.nodes.modify n fun x => { x with didChange := true } } : State).nodes.size = s.nodes.size := by
        simp
      generalize ({ s with nodes := s.nodes.modify n fun x => { x with didChange := true } } : State) = s1 at hp1 hsz1
      have hlt1 : n < s1.nodes.size := by rw [hsz1]; exact hn
      refine Tot.bind_getNode hlt1 ?_
      refine Tot.bind (Q := fun _ _ => True) ?_ (fun _ _ _ _ => Tot.pure trivial)
      have key := forIn_tot (fun (x : Nat × Nat) (r : PUnit) => do
          let _ ← markMapRefUnknown fuel x.1
          pure (ForInStep.yield PUnit.unit)) (s1.nodeD n).parents
          (fun _ _ t => PInv t ∧ t.nodes.size = s1.nodes.size ∧ ∀ m, (t.nodeD m).parents = (s1.nodeD m).parents) ?_
        (s1.nodeD n).parents 0 PUnit.unit s1 (by simp) (Nat.zero_le _) ⟨hp1, rfl, fun _ => rfl⟩
      · obtain ⟨b', s', h, -⟩ := key
        exact ⟨b', s', h, trivial⟩
      · intro j a b t hj ⟨hpt, hst, hpar⟩
        have hmem : a ∈ (s1.nodeD n).parents := List.mem_of_getElem? hj
        obtain ⟨p, ci⟩ := a
        rw [← hpar] at hmem
        obtain ⟨h1, h2⟩ := hpt.pu n p ci hmem
        -- either `p` is a map_ref node (then `n < p`) or the call returns at once
        by_cases hmr : ∃ pr j, (t.nodeD p).kind = .mapRef pr j
        · obtain ⟨pr', j', e⟩ := hmr
          have e1 := h2 pr' j' e
          have hb := hpt.back p pr' j' e
          obtain ⟨t', ht'⟩ := ih p t hpt h1 (by omega)
          have v := markMapRefUnknown_veq ht'
          exact ⟨PUnit.unit, t', by rw [run_bind_ok ht', run_pure], hpt.of_veq v, by rw [v.size, hst],
            fun m => by rw [v.parents, hpar]⟩
        · cases fuel with
          | zero => omega
          | succ fuel =>
            have hrun : (markMapRefUnknown (fuel + 1) p).run.run t = (.ok (), t) := by
              unfold markMapRefUnknown
              rw [run_bind_ok (run_getNode_some (some_of_lt h1))]
              rcases hk' : (t.nodeD p).kind? with _ | k'
              · rfl
              · cases k' <;> first | rfl | exact absurd ⟨_, _, kind_of_kind? hk'⟩ hmr
            exact ⟨PUnit.unit, t, by rw [run_bind_ok hrun, run_pure], hpt, hst, hpar⟩
    all_goals exact Tot.pure trivial


/-- … in particular with `size ≤ fuel`, whatever the node (node `0` is not a `map_ref` node) -/
theorem markMapRefUnknown_returns_of_size (fuel n : Nat) (s : State) (hp : PInv s) (hn : n < s.nodes.size)
    (hf : s.nodes.size ≤ fuel) : ∃ s', (markMapRefUnknown fuel n).run.run s = (.ok (), s') := by
  cases n with
  | succ k => exact markMapRefUnknown_returns fuel (k + 1) s hp hn (by omega)
  | zero =>
    cases fuel with
    | zero => omega
    | succ fuel =>
      refine ⟨s, ?_⟩
      unfold markMapRefUnknown
      rw [run_bind_ok (run_getNode_some (some_of_lt hn))]
      rcases hk' : (s.nodeD 0).kind? with _ | k'
      · rfl
      · cases k' <;> first | rfl | exact absurd (hp.back 0 _ _ (kind_of_kind? hk')) (Nat.not_lt_zero _)

/-! ## flag work is invisible: the combinators -/

section
variable {K : Kind → Prop} {P : State → Prop} {g : Nat → Option Val} {s : State} {β : Type}

/-- a program that only does flag work, and returns, is simulated by doing nothing -/
theorem BSimAt.of_veq {x : M Unit} (h : Step.Pres (VEq g) x) (hP : ∀ s', VEq g s s' → P s → P s')
    (hret : P s → ∃ s', x.run.run s = (.ok (), s')) : BSimAt K P g s x (pure ()) :=
  BSimAt.mk' (SimAt.of_veq h) (fun _ hp r s' hr => hP s' (h.h s _ s' hr) hp)
    (fun _ hp r t _ => by obtain ⟨s', hs'⟩ := hret hp; exact ⟨s', hs'⟩)

/-- work that the virtual engine does not do, followed by `k` -/
theorem BSimAt.noop_seq {x : M Unit} {k : Unit → M β} {k' : M β}
    (hx : BSimAt K P g s x (pure ())) (hk : ∀ s1, x.run.run s = (.ok (), s1) → BSimAt K P g s1 (k ()) k') :
    BSimAt K P g s (x >>= k) k' := by
  have := BSimAt.seq (f' := fun _ => k') hx fun a s1 h1 => hk s1 h1
  simpa only [pure_bind] using this

/-- flag work (that returns) followed by `k` is simulated by `k'` if `k` is -/
theorem BSimAt.veq_seq {x : M Unit} {k : Unit → M β} {k' : M β} (h : Step.Pres (VEq g) x)
    (hP : ∀ s', VEq g s s' → P s → P s') (hret : P s → ∃ s', x.run.run s = (.ok (), s'))
    (hk : ∀ s1, VEq g s s1 → BSimAt K P g s1 (k ()) k') : BSimAt K P g s (x >>= k) k' :=
  BSimAt.noop_seq (BSimAt.of_veq h hP hret) fun s1 h1 => hk s1 (h.h s _ s1 h1)

/-- the leaf, for any carried invariant that flag work keeps -/
theorem BSimAt.markMapRefUnknown_gen {fuel n : Nat} (hP : ∀ s', VEq g s s' → P s → P s')
    (hret : P s → ∃ s', (Engine.markMapRefUnknown fuel n).run.run s = (.ok (), s')) :
    BSimAt K P g s (Engine.markMapRefUnknown fuel n) (Engine.markMapRefUnknown fuel n) :=
  BSimAt.mk' (Sim.markMapRefUnknown fuel n s) (fun _ hp r s' hr => hP s' ((PresV.markMapRefUnknown fuel n).h s _ s' hr) hp)
    (fun _ hp r t _ => by obtain ⟨s', hs'⟩ := hret hp; exact ⟨s', hs'⟩)

/-- **the leaf**: `markMapRefUnknown` is a no-op of the virtual engine, and returns -/
theorem BSimAt.markMapRefUnknown {fuel n : Nat} (hn : n < s.nodes.size) (hf : s.nodes.size + 1 ≤ fuel + n) :
    BSimAt K PInv g s (Engine.markMapRefUnknown fuel n) (Engine.markMapRefUnknown fuel n) :=
  BSimAt.markMapRefUnknown_gen (fun _ v hp => hp.of_veq v) fun hp => markMapRefUnknown_returns fuel n s hp hn hf

theorem BSimAt.markMapRefUnknown_of_size {fuel n : Nat} (hn : n < s.nodes.size) (hf : s.nodes.size ≤ fuel) :
    BSimAt K PInv g s (Engine.markMapRefUnknown fuel n) (Engine.markMapRefUnknown fuel n) :=
  BSimAt.markMapRefUnknown_gen (fun _ v hp => hp.of_veq v) fun hp => markMapRefUnknown_returns_of_size fuel n s hp hn hf

/-- `markMapRefUnknown` against the virtual no-op -/
theorem BSimAt.mmu_noop_gen {fuel n : Nat} (hP : ∀ s', VEq g s s' → P s → P s')
    (hret : P s → ∃ s', (Engine.markMapRefUnknown fuel n).run.run s = (.ok (), s')) :
    BSimAt K P g s (Engine.markMapRefUnknown fuel n) (pure ()) :=
  BSimAt.of_veq (PresV.markMapRefUnknown fuel n) hP hret

/-- change of the carried invariant (the forward half is untouched) -/
theorem BSimAt.changeP {α : Type} {P' : State → Prop} {x x' : M α} (h : BSimAt K P' g s x x') (h1 : P s → P' s)
    (h2 : P s → ∀ s', P' s' → P s') : BSimAt K P g s x x' :=
  ⟨h.1, fun hf hp => ⟨fun r s' hr => h2 hp s' ((h.2 hf (h1 hp)).1 r s' hr), (h.2 hf (h1 hp)).2⟩⟩

end

/-! ## the calculus for carried invariants that the removal of a parent entry may break (`KeepsN`), with the invariant of the current state at hand (`BP`) -/

/-- `Keeps` without `rmParent` -/
class KeepsN (P : State → Prop) : Prop where
  of_nodes : ∀ {s s' : State}, P s → s'.nodes = s.nodes → s'.binds = s.binds → P s'
  modify : ∀ {s : State} (n : Nat) (f : Node → Node), P s → (∀ nd, NKeep nd (f nd)) → P { s with nodes := s.nodes.modify n f }

instance {P : State → Prop} [Keeps P] : KeepsN P := ⟨Keeps.of_nodes, Keeps.modify⟩

/-- the bisimulation from a state that has the carried invariant -/
def BP (K : Kind → Prop) (P : State → Prop) (g : Nat → Option Val) (s : State) {α} (x x' : M α) : Prop :=
  P s → BSimAt K P g s x x'

def BPs (K : Kind → Prop) (P : State → Prop) (g : Nat → Option Val) {α} (x x' : M α) : Prop := ∀ s, BP K P g s x x'

section
variable {K : Kind → Prop} {P : State → Prop} {g : Nat → Option Val} {s : State} {α β : Type}

theorem BPs.at {x x' : M α} (h : BPs K P g x x') (s : State) : BP K P g s x x' := h s
theorem BP.of {x x' : M α} (h : BSimAt K P g s x x') : BP K P g s x x' := fun _ => h
theorem BPs.of {x x' : M α} (h : BSim K P g x x') : BPs K P g x x' := fun s _ => h s

/-- the invariant of the current state may be used -/
theorem BP.intro {x x' : M α} (h : P s → BP K P g s x x') : BP K P g s x x' := fun hp => h hp hp

/-- closing: the forward half comes from `FullH` -/
theorem BP.close {x x' : M α} (h1 : SimAt K g s x x') (h2 : BP K P g s x x') : BSimAt K P g s x x' :=
  ⟨h1, fun hf hp => (h2 hp).2 hf hp⟩

theorem BP.seq {x x' : M α} {f f' : α → M β} (hx : BP K P g s x x')
    (hf : ∀ a s1, x.run.run s = (.ok a, s1) → BP K P g s1 (f a) (f' a)) :
    BP K P g s (x >>= f) (x' >>= f') := by
  intro hp
  refine ⟨fun hn r s' h => ?_, fun hn _ => ⟨fun r s' h => ?_, fun r t h => ?_⟩⟩
  · obtain ⟨a, s1, h1, h2⟩ := bind_ok_inv h
    obtain ⟨e1, n1, v1, p1⟩ := (hx hp).fwd hn hp h1
    rw [run_bind_ok e1]
    obtain ⟨e2, n2, v2, -⟩ := (hf a s1 h1 p1).fwd n1 p1 h2
    exact ⟨e2, n2, v1.trans v2⟩
  · obtain ⟨a, s1, h1, h2⟩ := bind_ok_inv h
    obtain ⟨-, n1, -, p1⟩ := (hx hp).fwd hn hp h1
    exact ((hf a s1 h1 p1).fwd n1 p1 h2).2.2.2
  · obtain ⟨a, t1, h1, h2⟩ := bind_ok_inv h
    obtain ⟨s1, hs1, e, n1, -, p1⟩ := (hx hp).rev hn hp h1
    rw [e] at h2
    obtain ⟨s', hs', -⟩ := (hf a s1 hs1 p1).rev n1 p1 h2
    exact ⟨s', by rw [run_bind_ok hs1]; exact hs'⟩

theorem BP.get_seq {k k' : State → M β} (h : BP K P g s (k s) (k' (virt g s))) :
    BP K P g s (get >>= k) (get >>= k') := fun hp => BSimAt.get_seq (h hp)

theorem BP.getNode_seq {n : Nat} {k k' : Node → M β}
    (h : ∀ nd, s.nodes[n]? = some nd → (∀ e, nd.kind ≠ .expert e) → BP K P g s (k nd) (k' (virtNode (g n) nd))) :
    BP K P g s (getNode n >>= k) (getNode n >>= k') := fun hp => BSimAt.getNode_seq fun nd a b => h nd a b hp

theorem BSimAt.nmod [KeepsN P] {f f' : State → State} (h : virt g (f s) = f' (virt g s)) (hn : (f s).nodes = s.nodes)
    (hb : (f s).binds = s.binds) :
    BSimAt K P g s (modify f : M Unit) (modify f') := by
  refine ⟨SimAt.mod h hn, fun _ hp => ⟨fun r s' hr => ?_, fun r t hr => ?_⟩⟩
  · rw [run_modify] at hr; cases hr; exact KeepsN.of_nodes hp hn hb
  · rw [run_modify] at hr; cases hr; exact ⟨_, run_modify _ _⟩

theorem BP.mod [KeepsN P] {f f' : State → State} (h : virt g (f s) = f' (virt g s)) (hn : (f s).nodes = s.nodes)
    (hb : (f s).binds = s.binds) : BP K P g s (modify f : M Unit) (modify f') := BP.of (BSimAt.nmod h hn hb)

theorem BP.mod_seq [KeepsN P] {f f' : State → State} {k k' : Unit → M β} (h : virt g (f s) = f' (virt g s))
    (hn : (f s).nodes = s.nodes) (hb : (f s).binds = s.binds) (hk : BP K P g (f s) (k ()) (k' ())) :
    BP K P g s ((modify f : M Unit) >>= k) ((modify f' : M Unit) >>= k') :=
  BP.seq (BP.mod h hn hb) fun a s1 h1 => by
    rw [run_modify] at h1; cases h1; exact hk

theorem BP.cond {c c' : Prop} {_ : Decidable c} {_ : Decidable c'} {a b a' b' : M α} (hc : c ↔ c')
    (ha : c → BP K P g s a a') (hb : ¬ c → BP K P g s b b') :
    BP K P g s (if c then a else b) (if c' then a' else b') := fun hp =>
  BSimAt.cond hc (fun h => ha h hp) (fun h => hb h hp)

theorem BP.ite_left {c : Prop} {_ : Decidable c} {a b x' : M α}
    (ha : c → BP K P g s a x') (hb : ¬ c → BP K P g s b x') : BP K P g s (if c then a else b) x' := fun hp =>
  BSimAt.ite_left (fun h => ha h hp) (fun h => hb h hp)

theorem BP.noop_seq {x : M Unit} {k : Unit → M β} {k' : M β}
    (hx : BP K P g s x (pure ())) (hk : ∀ s1, x.run.run s = (.ok (), s1) → BP K P g s1 (k ()) k') :
    BP K P g s (x >>= k) k' := by
  have := BP.seq (f' := fun _ => k') hx fun a s1 h1 => hk s1 h1
  simpa only [pure_bind] using this

/-- change of the carried invariant -/
theorem BP.change {P' : State → Prop} {x x' : M α} (h : BP K P' g s x x') (h1 : P s → P' s)
    (h2 : P s → ∀ s', P' s' → P s') : BP K P g s x x' := fun hp => BSimAt.changeP (h (h1 hp)) h1 h2

theorem BPs.modNode [KeepsN P] (n : Nat) {f f' : Node → Node} (hf : ∀ gv nd, virtNode gv (f nd) = f' (virtNode gv nd))
    (hk : ∀ nd, (f nd).kind = nd.kind ∧ (f nd).cutoff = nd.cutoff ∧ (f nd).oldState = nd.oldState ∧
      (nd.valid = false → (f nd).valid = false) ∧ ((f nd).didChange = false → nd.didChange = false))
    (hp : ∀ nd, NKeep nd (f nd)) :
    BPs K P g (Engine.modNode n f) (Engine.modNode n f') :=
  fun _ => BP.of (BSimAt.modNode' n hf hk fun h => KeepsN.modify n f h hp)

theorem BPs.forIn {γ : Type} (l : List γ) {f f' : γ → β → M (ForInStep β)}
    (h : ∀ a, a ∈ l → ∀ b, BPs K P g (f a b) (f' a b)) (b : β) :
    BPs K P g (ForIn.forIn l b f) (ForIn.forIn l b f') := by
  induction l generalizing b with
  | nil => intro s; rw [List.forIn_nil, List.forIn_nil]; exact BP.of (BSimAt.ret _)
  | cons a l ih =>
    intro s
    rw [List.forIn_cons, List.forIn_cons]
    refine BP.seq (h a (List.mem_cons_self ..) b s) fun r s1 _ => ?_
    cases r with
    | done b' => exact BP.of (BSimAt.ret _)
    | yield b' => exact ih (fun a ha => h a (List.mem_cons_of_mem _ ha)) b' s1

theorem BPs.dassert (c : Bool) (site : String) : BPs K P g (Engine.dassert c site) (Engine.dassert c site) :=
  BPs.of (BSim.dassert c site)
theorem BPs.assertM (c : Bool) (site : String) : BPs K P g (Engine.assertM c site) (Engine.assertM c site) :=
  BPs.of (BSim.assertM c site)

end

/-- registered `BPs` lemmas -/
syntax "pbsim_leaf" : tactic
macro_rules | `(tactic| pbsim_leaf) => `(tactic| fail "no leaf")

set_option hygiene false in
macro "pbsim_step" : tactic => `(tactic| first
  | with_reducible exact BP.of (BSimAt.ret _)
  | with_reducible exact BP.of (BSimAt.thr _ _)
  | with_reducible exact BP.of (BSimAt.pan _ _)
  | ((with_reducible refine BP.get_seq (BP.intro fun hps => ?_)); try fnorm)
  | ((with_reducible refine BP.getNode_seq fun nd hnd hne => ?_); try fnorm)
  | ((with_reducible refine BP.mod_seq ?_ ?_ (by rfl) ?_) <;> (first | exact rfl | skip))
  | ((with_reducible refine BP.mod ?_ ?_ ?_) <;> rfl)
  | (with_reducible refine BP.seq ?_ fun _ _ _ => ?_)
  | ((with_reducible refine BPs.at ?_ _); pbsim_leaf)
  | ((with_reducible refine BPs.at (BPs.forIn _ (fun _ _ _ => ?_) _) _); intro _)
  | (refine BP.cond Iff.rfl (fun _ => ?_) (fun _ => ?_)))

macro "pbsim" : tactic => `(tactic| repeat' pbsim_step)

set_option hygiene false in
/-- a `match` on the kind of the node last read by `getNode` -/
macro "pbsim_kind" : tactic => `(tactic| (
  simp only [virtNode_kind?]
  rcases hk : nd.kind? with _ | k
  all_goals try cases k
  all_goals simp only [Option.map_none, Option.map_some, virtKind]
  all_goals try exact absurd (kind_of_kind? hk) (hne _)
  pbsim))

section
variable {K : Kind → Prop} {P : State → Prop} [KeepsN P] {g : Nat → Option Val}

macro_rules | `(tactic| pbsim_leaf) => `(tactic| with_reducible exact BPs.dassert _ _)
macro_rules | `(tactic| pbsim_leaf) => `(tactic| with_reducible exact BPs.assertM _ _)
macro_rules | `(tactic| pbsim_leaf) => `(tactic| ((with_reducible refine BPs.modNode _ ?_ ?_ ?_) <;> first | fcomm | fkind | fpar))

theorem BPs.setHeight (n : Nat) (h : Int) : BPs K P g (Engine.setHeight n h) (Engine.setHeight n h) := by
  intro s; unfold Engine.setHeight; pbsim
macro_rules | `(tactic| pbsim_leaf) => `(tactic| with_reducible exact BPs.setHeight _ _)

theorem BPs.rchLink (n : Nat) : BPs K P g (Engine.rchLink n) (Engine.rchLink n) := by
  intro s; unfold Engine.rchLink; pbsim
macro_rules | `(tactic| pbsim_leaf) => `(tactic| with_reducible exact BPs.rchLink _)

theorem BPs.rchInsert (n : Nat) : BPs K P g (Engine.rchInsert n) (Engine.rchInsert n) := by
  intro s; unfold Engine.rchInsert; pbsim
macro_rules | `(tactic| pbsim_leaf) => `(tactic| with_reducible exact BPs.rchInsert _)

theorem BPs.getBind (b : Nat) : BPs K P g (Engine.getBind b) (Engine.getBind b) := by
  intro s; unfold Engine.getBind; pbsim
  split <;> pbsim
macro_rules | `(tactic| pbsim_leaf) => `(tactic| with_reducible exact BPs.getBind _)

theorem BPs.scopeHeight (sc : Scope) : BPs K P g (Engine.scopeHeight sc) (Engine.scopeHeight sc) := by
  intro s; unfold Engine.scopeHeight
  cases sc with
  | top => pbsim
  | bind b => pbsim
macro_rules | `(tactic| pbsim_leaf) => `(tactic| with_reducible exact BPs.scopeHeight _)

theorem BPs.scopeIsNecessary (sc : Scope) : BPs K P g (Engine.scopeIsNecessary sc) (Engine.scopeIsNecessary sc) := by
  intro s; unfold Engine.scopeIsNecessary
  cases sc with
  | top => pbsim
  | bind b => pbsim
macro_rules | `(tactic| pbsim_leaf) => `(tactic| with_reducible exact BPs.scopeIsNecessary _)

theorem BPs.handleAfterStabilisation (n : Nat) :
    BPs K P g (Engine.handleAfterStabilisation n) (Engine.handleAfterStabilisation n) := by
  intro s; unfold Engine.handleAfterStabilisation; pbsim
macro_rules | `(tactic| pbsim_leaf) => `(tactic| with_reducible exact BPs.handleAfterStabilisation _)

theorem BPs.maybeHandleAfterStabilisation (n : Nat) :
    BPs K P g (Engine.maybeHandleAfterStabilisation n) (Engine.maybeHandleAfterStabilisation n) := by
  intro s; unfold Engine.maybeHandleAfterStabilisation; pbsim
macro_rules | `(tactic| pbsim_leaf) => `(tactic| with_reducible exact BPs.maybeHandleAfterStabilisation _)

end
end IncrVerif.Proofs.FullT
