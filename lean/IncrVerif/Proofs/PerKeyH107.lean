import IncrVerif.Proofs.PerKeyH5
/-!
# Per-key operators: whole histories

* `init_pq`: the initial state satisfies `PQ`.
* `step_p`: every action of the fragment (`PActionOK`) that returns keeps `PQ` (for some rank).
* `run_p`, `stabilise_in_run_p`, `history_p`, `history_stabilise_p`.
Everything is relative to the contracts `ActionSpecP env` (all actions but `stabilise`) and `StabSpecP env`.
Modelled on `Proofs/DriverH35.lean`.
-/
namespace IncrVerif.Proofs.PerKeyH
open IncrVerif.Engine IncrVerif.Driver IncrVerif.Proofs IncrVerif.Proofs.Step IncrVerif.Proofs.Sched
open IncrVerif.Proofs.ExpertH IncrVerif.Proofs.ExpertH.QR IncrVerif.Proofs.EffH IncrVerif.Proofs.DriverH

/-! ## the initial state -/

theorem V_init (N : Nat) (d : Bool) : V (State.init N d) = State.init N d := by
  simp [V, State.init]

/-- **the initial state satisfies the invariant between actions** -/
theorem init_pq (env : Env) (N : Nat) (d : Bool) : PQ env (fun m => m) (State.init N d) := by
  have hsz : (State.init N d).nodes.size = 0 := rfl
  have hx : ∀ (e : Nat) (er : ExpertRec), (State.init N d).experts[e]? = some er → False := by
    intro e er he; simp [State.init] at he
  have hp : ∀ (op : Nat) (pr : PerKeyRec), (State.init N d).perkeys[op]? = some pr → False := by
    intro op pr he; simp [State.init] at he
  have ht : ∀ (k n : Nat), (State.init N d).top[k]? = some n → False := by
    intro k n he; simp [State.init] at he
  refine ⟨⟨rfl, fun n hn => by rw [hsz] at hn; omega, fun n hn => by rw [hsz] at hn; omega,
      fun n hn => by rw [hsz] at hn; omega, fun n hn => by rw [hsz] at hn; omega,
      fun n hn => by rw [hsz] at hn; omega, fun n e hn => by rw [hsz] at hn; omega,
      fun e er he => (hx e er he).elim, fun e er he => (hx e er he).elim, rfl⟩, ?_,
    ⟨rfl, fun i hi => ?_, fun m => ?_⟩, ?_, slotInv_init env N d, fun op pr he => (hp op pr he).elim⟩
  · rw [V_init]; exact QR.qinv_init (penv env) N d
  · simp [State.init, mkHeap]
  · rw [Step.init_nodeD]; rfl
  · exact ⟨fun op pr he => (hp op pr he).elim, fun e er he => (hx e er he).elim,
      ⟨fun _ => 0, fun n c hn => by rw [hsz] at hn; omega, fun k n he => (ht k n he).elim,
        fun op pr he => (hp op pr he).elim, fun n hn => by rw [hsz] at hn; omega⟩,
      fun n f args hn => by rw [hsz] at hn; omega,
      fun o ob he => by simp [State.init] at he,
      fun op pr he => (hp op pr he).elim⟩

/-! ## one action -/

/-- **every action of the fragment that returns keeps the invariant** (for some rank) -/
theorem step_p {env : Env} (hA : ActionSpecP env) (hS : StabSpecP env) {rk : Nat → Nat} {s s' : State} {a : Action}
    {tk : Array Nat} {r : String × Array Nat} (Q : PQ env rk s) (ha : PActionOK env s a)
    (h : (stepAction env a tk).run.run s = (.ok r, s')) : ∃ rk', PQ env rk' s' := by
  by_cases h1 : a = .stabilise
  · subst h1
    exact (hS rk fuelDefault s s' Q (step_stabilise h)).inv
  · exact hA rk s s' a tk r Q ha h1 h

/-! ## runs -/

/-- one action of a run of the fragment -/
theorem runOKP_step {env : Env} (hA : ActionSpecP env) (hS : StabSpecP env) {a : Action} {rest : List Action} {s s' : State}
    {tk : Array Nat} {r : String × Array Nat} (i : (∃ rk, PQ env rk s) ∧ RunOKP env (a :: rest) s tk)
    (hx : (stepAction env a tk).run.run s = (.ok r, s')) : (∃ rk, PQ env rk s') ∧ RunOKP env rest s' r.2 := by
  obtain ⟨⟨rk, Q⟩, ha⟩ := i
  exact ⟨step_p hA hS Q ha.1 hx, ha.2 r s' hx⟩

/-- **whole runs**: from a state satisfying the invariant, a run of the fragment that returns ends in a state
satisfying the invariant -/
theorem run_p {env : Env} (hA : ActionSpecP env) (hS : StabSpecP env) {rk : Nat → Nat} {acts : List Action}
    {s s' : State} {tk tk' : Array Nat} (Q : PQ env rk s) (ha : RunOKP env acts s tk)
    (h : runActions env acts s tk = .ok (s', tk')) : ∃ rk', PQ env rk' s' :=
  (Hist.runActions_inv (I := fun s tk rest => (∃ rk, PQ env rk s) ∧ RunOKP env rest s tk)
    (fun _ _ _ _ _ _ => runOKP_step hA hS) ⟨⟨rk, Q⟩, ha⟩ (QR.runActions_eq .. ▸ h)).1

/-- **every `stabilise` of a run of the fragment**: the state before satisfies the invariant; the `stabilise`
establishes `StabilisedP` -/
theorem stabilise_in_run_p {env : Env} (hA : ActionSpecP env) (hS : StabSpecP env) {rk : Nat → Nat}
    {as bs : List Action} {s0 s : State} {tk0 tk : Array Nat} (Q0 : PQ env rk s0)
    (ha : RunOKP env (as ++ Action.stabilise :: bs) s0 tk0)
    (h : runActions env (as ++ Action.stabilise :: bs) s0 tk0 = .ok (s, tk)) :
    ∃ s1 tk1 s2 rk1, runActions env as s0 tk0 = .ok (s1, tk1) ∧ PQ env rk1 s1 ∧
      (stabilise env fuelDefault).run.run s1 = (.ok (), s2) ∧ StabilisedP env fuelDefault s1 s2 ∧
      runActions env bs s2 tk1 = .ok (s, tk) := by
  simp only [QR.runActions_eq] at h ⊢
  obtain ⟨s1, tk1, s2, h1, ⟨⟨rk1, Q1⟩, -⟩, hst, -, h2⟩ :=
    Hist.runActions_stabilise (I := fun s tk rest => (∃ rk, PQ env rk s) ∧ RunOKP env rest s tk)
      (fun _ _ _ _ _ _ => runOKP_step hA hS) ⟨⟨rk, Q0⟩, ha⟩ h
  exact ⟨s1, tk1, s2, rk1, h1, Q1, hst, hS rk1 fuelDefault s1 s2 Q1 hst, h2⟩

/-! ## histories -/

/-- **whole histories** from the initial state -/
theorem history_p {env : Env} (hA : ActionSpecP env) (hS : StabSpecP env) {N : Nat} {d : Bool}
    {acts : List Action} {s : State} {tk : Array Nat} (ha : RunOKP env acts (State.init N d) #[])
    (h : runActions env acts (State.init N d) #[] = .ok (s, tk)) : ∃ rk, PQ env rk s :=
  run_p hA hS (init_pq env N d) ha h

/-- **every `stabilise` of a whole history** -/
theorem history_stabilise_p {env : Env} (hA : ActionSpecP env) (hS : StabSpecP env) {N : Nat} {d : Bool}
    {as bs : List Action} {s : State} {tk : Array Nat}
    (ha : RunOKP env (as ++ Action.stabilise :: bs) (State.init N d) #[])
    (h : runActions env (as ++ Action.stabilise :: bs) (State.init N d) #[] = .ok (s, tk)) :
    ∃ s1 tk1 s2 rk1, runActions env as (State.init N d) #[] = .ok (s1, tk1) ∧ PQ env rk1 s1 ∧
      (stabilise env fuelDefault).run.run s1 = (.ok (), s2) ∧ StabilisedP env fuelDefault s1 s2 ∧
      runActions env bs s2 tk1 = .ok (s, tk) :=
  stabilise_in_run_p hA hS (init_pq env N d) ha h

end IncrVerif.Proofs.PerKeyH
