import IncrVerif.Proofs.ExpertH60
/-!
# Expert nodes, E2: threading `SlotInv` — the linking cascade, `add_new_observers`, `state_add_parent`

`PresM.*`: the ladder of `FM` (flags unchanged, necessity grows) for the neutral steps and the linking cascade.
`CR env`: `SR env ∧ FM` for runs started with all nodes valid and nothing waiting in `propagateInvalidity`.
-/
namespace IncrVerif.Proofs.ExpertH
open IncrVerif.Engine IncrVerif.Driver IncrVerif.Proofs IncrVerif.Proofs.Step IncrVerif.Proofs.Sched
open IncrVerif.Proofs.ExpertH.QR IncrVerif.Proofs.Xp

/-! ## `FM` -/

theorem PresM.modNode (n : Nat) (f : Node → Node)
    (hf : ∀ x, (f x).kind = x.kind ∧ (f x).valid = x.valid ∧ (x.isNecessary = true → (f x).isNecessary = true)) :
    Step.Pres FM (Engine.modNode n f) := by
  unfold Engine.modNode; exact Step.Pres.modify fun s => FM.modNode s n f hf

/-- the writes that `FM` does not allow on their own: of the parents, observers and the flag that decide necessity, of `valid`, a pushed node or record,
of the callback flag of an expert record, of `propagateInvalidity` -/
def FM.breaks : List Footprint.Tag :=
  [.nParents, .nObservers, .nForceNecessary, .nInvalid, .pushNode, .xObservability, .xRan, .pushExpert, .propagateInvalidity]

theorem FM.of_edit {L w} (hL : ∀ t ∈ L, t ∉ FM.breaks) {s s' : State} (e : Footprint.Edit L w s s') : FM s s' := by
  cases e
  case node n f hf => exact FM.modNode s n f fun x => by cases hf <;> first | exact ⟨rfl, rfl, fun h => h⟩ | exact absurd (hL _ ‹_›) (by decide)
  case value n _ f hf => exact FM.modNode s n f fun x => by cases hf <;> exact ⟨rfl, rfl, fun h => h⟩
  case stamp n _ | erase n _ => exact FM.modNode s n _ fun _ => ⟨rfl, rfl, fun h => h⟩
  case expert i f hf => exact FM.modExpert s i f fun x => by cases hf <;> first | rfl | exact absurd (hL _ ‹_›) (by decide)
  all_goals first
    | exact FM.of_nodes rfl rfl rfl
    | exact absurd (hL _ ‹_›) (by decide)

/-- a function that makes no write in `FM.breaks` -/
theorem PresM.of_foot {L α} {m : M α} (hm : Footprint.Foot L (fun _ => True) m) (hL : ∀ t ∈ Footprint.parts L, t ∉ FM.breaks) : Step.Pres FM m :=
  hm.frame (FM.of_edit hL)

macro_rules
  | `(tactic| qleaf) =>
    `(tactic| ((with_reducible apply Step.Pres.modify); intro _; exact FM.of_nodes rfl rfl rfl))
macro_rules
  | `(tactic| qleaf) => `(tactic| ((with_reducible apply PresM.modNode); intro _; exact ⟨rfl, rfl, fun h => h⟩))

macro "fm_leaf " n:ident : command =>
  `(macro_rules | `(tactic| qleaf) => `(tactic| with_reducible apply $n))

theorem PresM.logEv (e) : Step.Pres FM (Engine.logEv e) := by unfold Engine.logEv; qpres
fm_leaf PresM.logEv
theorem PresM.modObs (o f) : Step.Pres FM (Engine.modObs o f) := by unfold Engine.modObs; qpres
fm_leaf PresM.modObs
theorem PresM.getObs (o) : Step.Pres FM (Engine.getObs o) := by unfold Engine.getObs; qpres
fm_leaf PresM.getObs

theorem PresM.addParent (c i p) : Step.Pres FM (Engine.addParent c i p) := by
  unfold Engine.addParent
  refine PresM.modNode _ _ fun x => ⟨rfl, rfl, fun _ => ?_⟩
  simp [Node.isNecessary]
fm_leaf PresM.addParent
theorem PresM.setHeight (n h) : Step.Pres FM (Engine.setHeight n h) := PresM.of_foot (Footprint.Foot.setHeight n h) (by decide)
fm_leaf PresM.setHeight
theorem PresM.rchInsert (n) : Step.Pres FM (Engine.rchInsert n) := PresM.of_foot (Footprint.Foot.rchInsert n) (by decide)
fm_leaf PresM.rchInsert
theorem PresM.ensureHeightRequirement (oc op c p) : Step.Pres FM (Engine.ensureHeightRequirement oc op c p) :=
  PresM.of_foot (Footprint.Foot.ensureHeightRequirement oc op c p) (by decide)
fm_leaf PresM.ensureHeightRequirement

theorem PresM.adjustHeights (oc op fuel) : Step.Pres FM (Engine.adjustHeights oc op fuel) :=
  PresM.of_foot (Footprint.Foot.adjustHeights oc op fuel) (by decide)
fm_leaf PresM.adjustHeights

theorem PresM.scopeHeight (sc) : Step.Pres FM (Engine.scopeHeight sc) := Step.Pres.scopeHeight sc
theorem PresM.scopeIsNecessary (sc) : Step.Pres FM (Engine.scopeIsNecessary sc) := PresM.of_foot (Footprint.Foot.scopeIsNecessary sc) (by decide)
fm_leaf PresM.scopeIsNecessary
theorem PresM.handleAfterStabilisation (n) : Step.Pres FM (Engine.handleAfterStabilisation n) :=
  PresM.of_foot (Footprint.Foot.handleAfterStabilisation n) (by decide)
fm_leaf PresM.handleAfterStabilisation
theorem PresM.maybeHandleAfterStabilisation (n) : Step.Pres FM (Engine.maybeHandleAfterStabilisation n) :=
  PresM.of_foot (Footprint.Foot.maybeHandleAfterStabilisation n) (by decide)
fm_leaf PresM.maybeHandleAfterStabilisation
theorem PresM.runEdgeCallback (env e i) : Step.Pres FM (Engine.runEdgeCallback env e i) :=
  PresM.of_foot (Footprint.Foot.runEdgeCallback env e i) (by decide)
fm_leaf PresM.runEdgeCallback

/-- becoming observable leaves the record alone -/
theorem PresM.observabilityChange_true (e) : Step.Pres FM (Engine.observabilityChange e true) := by
  unfold Engine.observabilityChange
  simp only [Bool.not_true, Bool.false_eq_true, if_false]
  qpres
fm_leaf PresM.observabilityChange_true

theorem PresM.markMapRefUnknown (fuel n) : Step.Pres FM (Engine.markMapRefUnknown fuel n) :=
  PresM.of_foot (Footprint.Foot.markMapRefUnknown fuel n) (by decide)
fm_leaf PresM.markMapRefUnknown

/-- `add_parent_without_adjusting_heights` queues the parent of an INVALID child only -/
theorem PresM.pushInvalid {β} (c p : Nat) (rest : M β) (h : Step.Pres FM rest) :
    Step.Pres FM (getNode c >>= fun a =>
      if (!a.valid) = true then
        (modify fun s => { s with propagateInvalidity := p :: s.propagateInvalidity }) >>= fun _ => rest
      else rest) := by
  constructor
  intro s r s' hrun
  rw [run_bind, run_getNode] at hrun
  cases hn : s.nodes[c]? with
  | none => rw [hn] at hrun; cases hrun; exact FM.refl s
  | some nd =>
    rw [hn] at hrun
    simp only at hrun
    cases hv : nd.valid with
    | true =>
      rw [hv] at hrun
      simp only [Bool.not_true, Bool.false_eq_true, if_false] at hrun
      exact h.h _ _ _ hrun
    | false =>
      rw [hv] at hrun
      simp only [Bool.not_false, if_true, run_bind_modify] at hrun
      refine FM.trans ?_ (h.h _ _ _ hrun)
      refine ⟨fun _ => rfl, fun _ => rfl, fun _ => rfl, fun _ h => h, fun hall => ?_⟩
      have := hall c
      rw [nodeD_of_some hn, hv] at this
      cases this

theorem PresM.link (env : Env) (fuel : Nat) :
    (∀ n, Step.Pres FM (Engine.becameNecessary env fuel n)) ∧
    (∀ c i p, Step.Pres FM (Engine.addParentWithoutAdjustingHeights env fuel c i p)) := by
  induction fuel with
  | zero =>
    constructor
    · intro n; unfold Engine.becameNecessary; qpres
    · intro c i p; unfold Engine.addParentWithoutAdjustingHeights; qpres
  | succ fuel ih =>
    constructor
    · intro n
      unfold Engine.becameNecessary
      qpres
      all_goals (apply Step.Pres.forIn; intro a b; qpres; all_goals exact ih.2 _ _ _)
    · intro c i p
      unfold Engine.addParentWithoutAdjustingHeights
      refine Step.Pres.bind Step.Pres.get fun _ => Step.Pres.bind (Step.Pres.dassert _ _) fun _ =>
        Step.Pres.bind Step.Pres.get fun _ => ?_
      dsimp only
      refine Step.Pres.bind (PresM.addParent c i p) fun _ => ?_
      refine PresM.pushInvalid c p _ ?_
      qpres
      all_goals exact ih.1 _

theorem PresM.becameNecessary (env fuel n) : Step.Pres FM (Engine.becameNecessary env fuel n) :=
  (PresM.link env fuel).1 n
fm_leaf PresM.becameNecessary
theorem PresM.addParentWithoutAdjustingHeights (env fuel c i p) :
    Step.Pres FM (Engine.addParentWithoutAdjustingHeights env fuel c i p) :=
  (PresM.link env fuel).2 c i p
fm_leaf PresM.addParentWithoutAdjustingHeights

/-! ## `CR`: both frames, from a state without invalid nodes and without pending invalidations -/

def CR (env : Env) (s s' : State) : Prop :=
  (∀ m, (s.nodeD m).valid = true) → s.propagateInvalidity = [] → SR env s s' ∧ FM s s'

instance (env : Env) : Step.PreOrd (CR env) where
  refl s := fun _ _ => ⟨SR.refl env s, FM.refl s⟩
  trans h1 h2 := fun hv hp => by
    obtain ⟨r1, m1⟩ := h1 hv hp
    obtain ⟨r2, m2⟩ := h2 (r1.allValid hv) (by rw [m1.pinv hv]; exact hp)
    exact ⟨r1.trans r2, m1.trans m2⟩

theorem PresC.of {env : Env} {α} {m : M α} (h1 : Step.Pres (SR env) m) (h2 : Step.Pres FM m) :
    Step.Pres (CR env) m :=
  ⟨fun s r s' h _ _ => ⟨h1.h s r s' h, h2.h s r s' h⟩⟩

macro_rules
  | `(tactic| qleaf) => `(tactic| ((with_reducible apply PresC.of) <;> qleaf))

theorem PresC.propagateInvalidity (env : Env) (fuel : Nat) : Step.Pres (CR env) (Engine.propagateInvalidity fuel) := by
  constructor
  intro s r s' h _ hp
  cases fuel with
  | zero => unfold Engine.propagateInvalidity at h; cases h; exact ⟨SR.refl env s, FM.refl s⟩
  | succ fuel =>
    rw [propagateInvalidity_nil_run fuel hp] at h
    cases h; exact ⟨SR.refl env s, FM.refl s⟩
macro_rules
  | `(tactic| qleaf) => `(tactic| with_reducible apply PresC.propagateInvalidity)

theorem PresC.becameNecessaryPropagate (env fuel n) :
    Step.Pres (CR env) (Engine.becameNecessaryPropagate env fuel n) := by
  unfold Engine.becameNecessaryPropagate; qpres
macro_rules
  | `(tactic| qleaf) => `(tactic| with_reducible apply PresC.becameNecessaryPropagate)

theorem PresC.stateAddParent (env fuel c i p) : Step.Pres (CR env) (Engine.stateAddParent env fuel c i p) := by
  unfold Engine.stateAddParent; qpres

/-- adding an observer keeps the node necessary -/
theorem PresM.addObserver (n o : Nat) (k : Nat) : Step.Pres FM (Engine.modNode n fun x => { x with
    observers := x.observers ++ [o], numOnUpdateHandlers := x.numOnUpdateHandlers + k }) := by
  refine PresM.modNode _ _ fun x => ⟨rfl, rfl, fun _ => ?_⟩
  simp [Node.isNecessary]
fm_leaf PresM.addObserver

theorem PresC.addNewObservers (env fuel) : Step.Pres (CR env) (Engine.addNewObservers env fuel) := by
  unfold Engine.addNewObservers
  qpres
  all_goals (apply Step.Pres.forIn; intro a b; qpres)

/-! ## `SlotInv` along `CR` -/

theorem slotInvEx_of_cr {env : Env} {s s' : State} {X : Nat → Nat → Prop} (L : SlotInvEx env s X)
    (hv : ∀ m, (s.nodeD m).valid = true) (hp : s.propagateInvalidity = []) (R : CR env s s') :
    SlotInvEx env s' X :=
  slotInvEx_of_sr_fm L (R hv hp).1 (R hv hp).2

theorem slotInv_of_cr {env : Env} {s s' : State} (L : SlotInv env s)
    (hv : ∀ m, (s.nodeD m).valid = true) (hp : s.propagateInvalidity = []) (R : CR env s s') : SlotInv env s' :=
  slotInv_of_sr_fm L (R hv hp).1 (R hv hp).2

/-- **`add_new_observers` keeps `SlotInv`** (every node valid, nothing waiting in `propagateInvalidity`) -/
theorem addNewObservers_slots {env : Env} {fuel : Nat} {s s' : State} {r : Except Panic Unit}
    (hv : ∀ m, (s.nodeD m).valid = true) (hp : s.propagateInvalidity = []) (L : SlotInv env s)
    (h : (addNewObservers env fuel).run.run s = (r, s')) : SlotInv env s' :=
  slotInv_of_cr L hv hp ((PresC.addNewObservers env fuel).h _ _ _ h)

end IncrVerif.Proofs.ExpertH
