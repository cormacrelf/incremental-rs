import IncrVerif.Proofs.StepStamp
/-!
# Helper lemmas for C03 (nodes built inside a bind never run after its input changed)

* Part 1: what "invalid" means for the pure predicates (`isStale`, `children`, `shouldBeInvalidated`,
  `needsToBeComputed`, `State.value`).
* Part 2: master equations for `maybeHandleAfterStabilisation`, `invalidateNode` (four parts:
  bookkeeping `invStamped (handled ..)`, `invDetach`, `invCascade`, `invFinish`), `rchRemove`.
* Part 3: two relations pushed through every function of the model in the `Pres` style of
  `Proofs/Step.lean` / `Proofs/StepStamp.lean`:
  `Still x s s'` (no node removed; an invalid node stays invalid; a node other than `x` that has no
  stored value still has none; a node other than `x` that is clean — invalid ⇒ no stored value — stays
  clean) — true of everything that does not recompute a node other than `x`;
  `Mono s s'` (no node removed; an invalid node stays invalid; an invalid node without a stored value
  stays so) — true of EVERYTHING, `recompute`, `drainHeap`, `stabilise` included.
  `valid` is written in exactly one place (`invalidate_node`, with `false`); the proof of
  `PresM.invalidateNode` is the only one that is not pure decomposition.
* Part 4: what `invalidate_node` establishes when it returns; the leaf case in closed form.
* Part 5: the `BindLhsChange` branch of `recomputeOne`, phase by phase, and the heart of C03
  (`lhsChange_old_generation`).
* Part 6: node registration in `allNodesCreatedOnRhs` (`Grow`, `createNode_run`,
  `lhsRunClosure_registers`).
* Part 7: an invalid node is never queued (debug builds) and never computed; the entry points as one
  type (`Call`) with `Call.mono`.
* Part 8: a machine-checked counterexample: "invalid ⇒ no stored value" is not inductive in release
  builds.
* Part 9: example states.
-/
open IncrVerif.Engine IncrVerif.Proofs IncrVerif.Proofs.Step
namespace IncrVerif.Proofs.Inval

/-! ## Part 1: an invalid node, seen by the pure predicates -/

theorem kind?_invalid {nd : Node} (h : nd.valid = false) : nd.kind? = none := by
  simp [Node.kind?, h]

theorem kind?_valid {nd : Node} (h : nd.valid = true) : nd.kind? = some nd.kind := by
  simp [Node.kind?, h]

theorem children_invalid (s : State) (n : Nat) (h : (s.nodeD n).valid = false) : s.children n = [] := by
  simp [State.children, kind?_invalid h]

theorem isStale_invalid (s : State) (n : Nat) (h : (s.nodeD n).valid = false) : s.isStale n = false := by
  simp [State.isStale, kind?_invalid h]

theorem needsToBeComputed_invalid (s : State) (n : Nat) (h : (s.nodeD n).valid = false) :
    s.needsToBeComputed n = false := by
  simp [State.needsToBeComputed, isStale_invalid s n h]

/-- the value read through an invalid node is its stored value (also for a MapRef node: an invalid
node has no kind any more, so nothing is read through its input) -/
theorem value_invalid (env : Env) (s : State) (n : Nat) (h : (s.nodeD n).valid = false) :
    s.value env n = (s.nodeD n).value := by
  simp [State.value, State.valueWith, kind?_invalid h]

/-! ## Part 2: master equations for `maybeHandleAfterStabilisation`, `invalidateNode`, `rchRemove` -/

/-- `nodeD_modify` for a state that also differs in other fields -/
theorem nodeD_of_modify {t s : State} {n : Nat} {f : Node → Node} (h : t.nodes = s.nodes.modify n f)
    (m : Nat) : t.nodeD m = if n = m ∧ m < s.nodes.size then f (s.nodeD m) else s.nodeD m := by
  have := nodeD_modify s n m f
  simp only [State.nodeD] at this ⊢
  rw [h]; exact this

theorem nodeD_of_nodes {t s : State} (h : t.nodes = s.nodes) (m : Nat) : t.nodeD m = s.nodeD m := by
  simp only [State.nodeD, h]

/-- `maybe_handle_after_stabilisation n`: `n` is queued for the handler phase iff it has update
handlers and is not queued already -/
def handled (n : Nat) (s : State) : State :=
  if (s.nodeD n).numOnUpdateHandlers > 0 ∧ (s.nodeD n).inHandleAfterStab = false then
    { s with nodes := s.nodes.modify n fun x => { x with inHandleAfterStab := true },
             handleAfterStab := s.handleAfterStab ++ [n] }
  else s

theorem maybeHandleAfterStabilisation_run (n : Nat) (s : State) (nd : Node)
    (hn : s.nodes[n]? = some nd) :
    (maybeHandleAfterStabilisation n).run.run s = (.ok (), handled n s) := by
  have hD := nodeD_of_some hn
  simp only [maybeHandleAfterStabilisation, handleAfterStabilisation, run_bind, run_getNode, hn,
    run_ite, run_modNode, run_modify, run_pure, handled, hD]
  by_cases h1 : nd.numOnUpdateHandlers > 0
  · cases h2 : nd.inHandleAfterStab <;> simp [h1]
  · simp [h1]

theorem handled_nodeD (n m : Nat) (s : State) :
    (handled n s).nodeD m =
      if n = m ∧ (s.nodeD n).numOnUpdateHandlers > 0 ∧ (s.nodeD n).inHandleAfterStab = false ∧
          m < s.nodes.size then
        { s.nodeD m with inHandleAfterStab := true }
      else s.nodeD m := by
  unfold handled
  by_cases h : (s.nodeD n).numOnUpdateHandlers > 0 ∧ (s.nodeD n).inHandleAfterStab = false
  · rw [if_pos h, nodeD_of_modify (s := s) (n := n) (f := fun x => { x with inHandleAfterStab := true }) rfl]
    by_cases h2 : n = m ∧ m < s.nodes.size
    · rw [if_pos h2, if_pos ⟨h2.1, h.1, h.2, h2.2⟩]
    · rw [if_neg h2, if_neg (fun hc => h2 ⟨hc.1, hc.2.2.2⟩)]
  · rw [if_neg h, if_neg (fun hc => h ⟨hc.2.1, hc.2.2.1⟩)]

/-- the bookkeeping at the start of `invalidate_node`: value dropped, both stamps set to the current
round, counter bumped -/
def invStamped (n : Nat) (s : State) : State :=
  { s with nodes := s.nodes.modify n fun x =>
             { x with value := none, changedAt := s.stabNum, recomputedAt := s.stabNum },
           counters := { s.counters with invalidated := s.counters.invalidated + 1 } }

/-- `invalidate_node`, middle part 1: a necessary node lets go of its children -/
def invDetach (fuel n : Nat) (sc : Scope) : M Unit := do
  if (← get).isNecessary n then
    removeChildren fuel n
    setHeight n ((← scopeHeight sc) + 1)

/-- `invalidate_node`, middle part 2: a bind main takes the nodes created on its rhs with it -/
def invCascade (fuel : Nat) (k : Kind) : M Unit := do
  match k with
  | .bindMain b _ =>
    let all := (← getBind b).allNodesCreatedOnRhs
    modBind b fun x => { x with allNodesCreatedOnRhs := [] }
    for r in all do invalidateNode fuel r
  | _ => pure ()

/-- `invalidate_node`, last part: the node becomes invalid, its parents are scheduled for
`propagate_invalidity`, the node leaves the recompute heap -/
def invFinish (n : Nat) : M Unit := do
  modNode n fun x => { x with valid := false }
  for (p, _) in (← getNode n).parents do
    modify fun s => { s with propagateInvalidity := p :: s.propagateInvalidity }
  let s ← get
  dassert (!s.needsToBeComputed n) "node:invalidate_node:not-needs-to-be-computed"
  if (s.nodeD n).inRch then rchRemove n

theorem invalidateNode_zero (n : Nat) (s : State) :
    (invalidateNode 0 n).run.run s = (.error .outOfFuel, s) := rfl

theorem invalidateNode_missing (fuel n : Nat) (s : State) (hn : s.nodes[n]? = none) :
    (invalidateNode (fuel + 1) n).run.run s = (.error (.site "model:no-such-node"), s) := by
  unfold invalidateNode
  rw [run_bind, run_getNode, hn]

/-- an invalid node: nothing happens -/
theorem invalidateNode_invalid (fuel n : Nat) (s : State) (nd : Node) (hn : s.nodes[n]? = some nd)
    (hv : nd.valid = false) : (invalidateNode (fuel + 1) n).run.run s = (.ok (), s) := by
  unfold invalidateNode
  rw [run_bind_ok (run_getNode_some hn)]
  simp only [hv, Bool.not_false, if_true]
  rfl

/-- a valid node: the four parts -/
theorem invalidateNode_run (fuel n : Nat) (s : State) (nd : Node) (hn : s.nodes[n]? = some nd)
    (hv : nd.valid = true) :
    (invalidateNode (fuel + 1) n).run.run s =
      (do invDetach fuel n nd.createdIn; invCascade fuel nd.kind; invFinish n).run.run
        (invStamped n (handled n s)) := by
  unfold invalidateNode
  rw [run_bind_ok (run_getNode_some hn)]
  simp only [hv, Bool.not_true, Bool.false_eq_true, if_false]
  rw [run_bind_ok (maybeHandleAfterStabilisation_run n s nd hn)]
  rw [run_bind_get, run_bind_modNode, run_bind_modify]
  change StateT.run (ExceptT.run _) (invStamped n (handled n s)) = _
  generalize invStamped n (handled n s) = t
  simp only [invDetach, invCascade, invFinish, bind_assoc, run_bind_get]
  cases hnec : t.isNecessary n <;> cases nd.kind <;>
    simp only [Bool.false_eq_true, if_false, if_true, bind_assoc, pure_bind]


/-! ### the last part of `invalidate_node` in closed form -/

/-- the parents pushed on the `propagate_invalidity` stack (the last parent ends up on top) -/
def pushParents (ps : List (Nat × Nat)) (s : State) : State :=
  { s with propagateInvalidity := (ps.map (·.1)).reverse ++ s.propagateInvalidity }

theorem run_pushLoop (ps : List (Nat × Nat)) (s : State) :
    (forIn ps PUnit.unit fun (x : Nat × Nat) (_ : PUnit) => do
        modify fun s => { s with propagateInvalidity := x.1 :: s.propagateInvalidity }
        pure (ForInStep.yield PUnit.unit) : M PUnit).run.run s = (.ok ⟨⟩, pushParents ps s) := by
  induction ps generalizing s with
  | nil => rfl
  | cons p ps ih =>
    rw [List.forIn_cons, bind_assoc, run_bind_modify, pure_bind, ih]
    simp [pushParents]

/-- node `n` marked invalid -/
def markedInvalid (n : Nat) (s : State) : State :=
  { s with nodes := s.nodes.modify n fun x => { x with valid := false } }

theorem markedInvalid_nodeD (n m : Nat) (s : State) :
    (markedInvalid n s).nodeD m =
      if n = m ∧ m < s.nodes.size then { s.nodeD m with valid := false } else s.nodeD m :=
  nodeD_modify s n m _

/-- the last part of `invalidate_node` on an existing node `nd`: the debug assertion cannot fire (the
node is invalid by then, so it does not need to be computed); the heap removal happens iff the node is
marked as being in the heap -/
theorem invFinish_run (n : Nat) (t : State) (nd : Node) (hn : t.nodes[n]? = some nd) :
    (invFinish n).run.run t =
      if nd.heightInRch ≥ 0 then (rchRemove n).run.run (pushParents nd.parents (markedInvalid n t))
      else (.ok (), pushParents nd.parents (markedInvalid n t)) := by
  have hlt := lt_of_some hn
  have hn1 : (markedInvalid n t).nodes[n]? = some { nd with valid := false } := by
    simp [markedInvalid, Array.getElem?_modify, hn]
  have hD : (pushParents nd.parents (markedInvalid n t)).nodeD n = { nd with valid := false } := by
    rw [nodeD_of_nodes (t := pushParents nd.parents (markedInvalid n t)) (s := markedInvalid n t) rfl,
      nodeD_of_some hn1]
  have hntc : (pushParents nd.parents (markedInvalid n t)).needsToBeComputed n = false :=
    needsToBeComputed_invalid _ _ (by rw [hD])
  unfold invFinish
  rw [run_bind_modNode]
  change StateT.run (ExceptT.run _) (markedInvalid n t) = _
  rw [run_bind_ok (run_getNode_some hn1)]
  rw [run_bind_ok (run_pushLoop _ _), run_bind_get, run_bind, run_dassert]
  simp only [hntc, Bool.not_false, Bool.true_eq_false, and_false, if_false, hD, Node.inRch]
  by_cases h : nd.heightInRch ≥ 0
  · simp [h]
  · simp only [h, decide_false, Bool.false_eq_true, if_false]; rfl

/-- node `n` taken out of bucket `h` (position `idx` in the bucket `q`) of the recompute heap -/
def rchRemoved (n h : Nat) (q : List Nat) (idx : Nat) (s : State) : State :=
  { s with nodes := s.nodes.modify n fun x => { x with heightInRch := -1 },
           rch := { s.rch with queues := s.rch.queues.set! h (swapRemoveBack q idx),
                               length := s.rch.length - 1 } }

/-- `remove` on a node that is marked as queued, does not need to be computed, and really is in the
bucket its marker names -/
theorem rchRemove_run (n : Nat) (s : State) (nd : Node) (q : List Nat) (idx : Nat)
    (hn : s.nodes[n]? = some nd) (hin : nd.heightInRch ≥ 0) (hntc : s.needsToBeComputed n = false)
    (hq : s.rch.queues[nd.heightInRch.toNat]? = some q) (hidx : q.idxOf? n = some idx) :
    (rchRemove n).run.run s = (.ok (), rchRemoved n nd.heightInRch.toNat q idx s) := by
  have hnot : ¬ nd.heightInRch < 0 := by omega
  unfold rchRemove rchUnlink
  rw [run_bind_get, run_bind_ok (run_getNode_some hn), run_bind, run_dassert]
  simp only [Node.inRch, hin, hntc, decide_true, Bool.not_false, Bool.and_self, Bool.true_eq_false,
    and_false, if_false]
  simp only [bind_assoc]
  rw [run_bind_ok (run_getNode_some hn), run_bind_get]
  simp only [hq, hnot, if_false, hidx]
  rfl

/-! ## Part 3: the relations -/

/-- node `m` is "clean": if it is invalid, it has no stored value -/
def Clean (s : State) (m : Nat) : Prop := (s.nodeD m).valid = false → (s.nodeD m).value = none

/-- `s'` comes after `s`; `x` is the node being recomputed, if any.  No node removed; an invalid node
stays invalid; a node other than `x` without a stored value still has none; a clean node other than
`x` stays clean. -/
structure Still (x : Option Nat) (s s' : State) : Prop where
  size : s.nodes.size ≤ s'.nodes.size
  keep : ∀ m, m < s.nodes.size → (s.nodeD m).valid = false → (s'.nodeD m).valid = false
  vnone : ∀ m, m < s.nodes.size → x ≠ some m → (s.nodeD m).value = none → (s'.nodeD m).value = none
  clean : ∀ m, m < s.nodes.size → x ≠ some m → Clean s m → Clean s' m

/-- `s'` comes after `s`: no node removed; an invalid node stays invalid; an invalid node without a
stored value stays so -/
structure Mono (s s' : State) : Prop where
  size : s.nodes.size ≤ s'.nodes.size
  keep : ∀ m, m < s.nodes.size → (s.nodeD m).valid = false → (s'.nodeD m).valid = false
  dead : ∀ m, m < s.nodes.size → (s.nodeD m).valid = false → (s.nodeD m).value = none →
    (s'.nodeD m).value = none

theorem Still.refl (x : Option Nat) (s : State) : Still x s s :=
  ⟨Nat.le_refl _, fun _ _ h => h, fun _ _ _ h => h, fun _ _ _ h => h⟩

theorem Still.trans {x : Option Nat} {a b c : State} (h1 : Still x a b) (h2 : Still x b c) :
    Still x a c where
  size := Nat.le_trans h1.size h2.size
  keep m hm h := h2.keep m (Nat.lt_of_lt_of_le hm h1.size) (h1.keep m hm h)
  vnone m hm hx h := h2.vnone m (Nat.lt_of_lt_of_le hm h1.size) hx (h1.vnone m hm hx h)
  clean m hm hx h := h2.clean m (Nat.lt_of_lt_of_le hm h1.size) hx (h1.clean m hm hx h)

instance (x : Option Nat) : PreOrd (Still x) := ⟨Still.refl x, Still.trans⟩

theorem Mono.refl (s : State) : Mono s s := ⟨Nat.le_refl _, fun _ _ h => h, fun _ _ _ h => h⟩

theorem Mono.trans {a b c : State} (h1 : Mono a b) (h2 : Mono b c) : Mono a c where
  size := Nat.le_trans h1.size h2.size
  keep m hm h := h2.keep m (Nat.lt_of_lt_of_le hm h1.size) (h1.keep m hm h)
  dead m hm hv h :=
    h2.dead m (Nat.lt_of_lt_of_le hm h1.size) (h1.keep m hm hv) (h1.dead m hm hv h)

instance : PreOrd Mono := ⟨Mono.refl, Mono.trans⟩

/-- outside a recompute -/
theorem Still.mono {s s' : State} (h : Still none s s') : Mono s s' :=
  ⟨h.size, h.keep, fun m hm _ hn => h.vnone m hm (by simp) hn⟩

/-- during the recompute of a node that was not dead to begin with -/
theorem Still.mono_of {n : Nat} {s s' : State} (h : Still (some n) s s')
    (hn : ¬ ((s.nodeD n).valid = false ∧ (s.nodeD n).value = none)) : Mono s s' := by
  refine ⟨h.size, h.keep, fun m hm hv hnone => ?_⟩
  by_cases hmn : m = n
  · subst hmn; exact absurd ⟨hv, hnone⟩ hn
  · exact h.vnone m hm (by simpa using fun e => hmn e.symm) hnone

theorem Still.weaken {x : Option Nat} {s s' : State} (h : Still none s s') : Still x s s' :=
  ⟨h.size, h.keep, fun m hm _ hn => h.vnone m hm (by simp) hn,
    fun m hm _ hn => h.clean m hm (by simp) hn⟩

/-- the state after rewriting node `n` with `f` (other fields may differ too) -/
theorem Still.of_modify {x : Option Nat} {s t : State} {n : Nat} {f : Node → Node}
    (h : t.nodes = s.nodes.modify n f)
    (hf1 : ∀ y, y.valid = false → (f y).valid = false)
    (hf2 : ∀ y, y.value = none → (f y).value = none)
    (hf3 : ∀ y, (y.valid = false → y.value = none) → (f y).valid = false → (f y).value = none) :
    Still x s t := by
  refine ⟨by rw [h]; simp, fun m _ hm => ?_, fun m _ _ hm => ?_, fun m _ _ hm => ?_⟩
  · rw [nodeD_of_modify h]; split
    · exact hf1 _ hm
    · exact hm
  · rw [nodeD_of_modify h]; split
    · exact hf2 _ hm
    · exact hm
  · unfold Clean
    rw [nodeD_of_modify h]; split
    · exact hf3 _ hm
    · exact hm

theorem Still.of_eq {x : Option Nat} {s s' : State} (h1 : s'.nodes = s.nodes) : Still x s s' := by
  have : ∀ m, s'.nodeD m = s.nodeD m := nodeD_of_nodes h1
  refine ⟨by rw [h1]; exact Nat.le_refl _, fun m _ h => ?_, fun m _ _ h => ?_, fun m _ _ h => ?_⟩
  · rw [this]; exact h
  · rw [this]; exact h
  · unfold Clean; rw [this]; exact h

theorem Still.of_quiet {x : Option Nat} {s s' : State} (q : Quiet s s') : Still x s s' :=
  ⟨by rw [q.size]; exact Nat.le_refl _, fun m _ h => by rw [(q.node m).valid]; exact h,
    fun m _ _ h => by rw [(q.node m).value]; exact h,
    fun m _ _ h => by unfold Clean; rw [(q.node m).value, (q.node m).valid]; exact h⟩

theorem Still.modNode {x : Option Nat} (s : State) (n : Nat) (f : Node → Node)
    (hf1 : ∀ y, y.valid = false → (f y).valid = false)
    (hf2 : ∀ y, y.value = none → (f y).value = none)
    (hf3 : ∀ y, (y.valid = false → y.value = none) → (f y).valid = false → (f y).value = none) :
    Still x s { s with nodes := s.nodes.modify n f } :=
  Still.of_modify rfl hf1 hf2 hf3

/-- the node being recomputed may get a value -/
theorem Still.modNode_self (s : State) (n : Nat) (f : Node → Node)
    (hf1 : ∀ y, y.valid = false → (f y).valid = false) :
    Still (some n) s { s with nodes := s.nodes.modify n f } := by
  have hne : ∀ m, some n ≠ some m → ¬ (n = m ∧ m < s.nodes.size) := by
    intro m hx hc; exact hx (by rw [hc.1])
  refine ⟨by simp, fun m _ h => ?_, fun m _ hx h => ?_, fun m _ hx h => ?_⟩
  · rw [nodeD_modify]; split
    · exact hf1 _ h
    · exact h
  · rw [nodeD_modify, if_neg (hne m hx)]; exact h
  · unfold Clean; rw [nodeD_modify, if_neg (hne m hx)]; exact h

theorem Still.push {x : Option Nat} (s : State) (nd : Node) :
    Still x s { s with nodes := s.nodes.push nd } := by
  have : ∀ m, m < s.nodes.size → ({ s with nodes := s.nodes.push nd } : State).nodeD m = s.nodeD m := by
    intro m hm
    simp [State.nodeD, Array.getElem?_push, Nat.ne_of_lt hm]
  refine ⟨by simp, fun m hm h => ?_, fun m hm _ h => ?_, fun m hm _ h => ?_⟩
  · rw [this m hm]; exact h
  · rw [this m hm]; exact h
  · unfold Clean; rw [this m hm]; exact h

/-- the junction inside `invalidate_node`: marking `n` invalid keeps it clean, because its value was
dropped before -/
theorem Still.of_markedInvalid (x : Option Nat) (n : Nat) (t : State)
    (h : x = some n ∨ (t.nodeD n).value = none) : Still x t (markedInvalid n t) := by
  refine ⟨by simp [Inval.markedInvalid], fun m _ hm => ?_, fun m _ _ hm => ?_, fun m _ hx hm => ?_⟩
  · rw [markedInvalid_nodeD]; split
    · rfl
    · exact hm
  · rw [markedInvalid_nodeD]; split <;> exact hm
  · unfold Clean
    rw [markedInvalid_nodeD]; split
    · rename_i hc
      intro _
      rcases h with h | h
      · exact absurd (by rw [h, hc.1]) hx
      · rw [← hc.1]; exact h
    · exact hm

theorem Still.of_invStamped (x : Option Nat) (n : Nat) (s : State) : Still x s (invStamped n s) :=
  Still.of_modify (n := n)
    (f := fun y => { y with value := none, changedAt := s.stabNum, recomputedAt := s.stabNum }) rfl
    (fun _ h => h) (fun _ _ => rfl) (fun _ _ _ => rfl)

theorem Still.of_handled (x : Option Nat) (n : Nat) (s : State) : Still x s (handled n s) := by
  unfold Inval.handled
  split
  · exact Still.of_modify (n := n) (f := fun y => { y with inHandleAfterStab := true }) rfl
      (fun _ h => h) (fun _ h => h) (fun _ h => h)
  · exact Still.refl _ _

/-! ### the decomposition tactic (own leaf table: the `Quiet`/`Stamp` leaves are not consulted) -/

syntax "mleaf" : tactic
macro_rules | `(tactic| mleaf) => `(tactic| fail "no leaf")

macro "mstep" : tactic => `(tactic| first
  | with_reducible apply Pres.pure | with_reducible apply Pres.get | with_reducible apply Pres.panic
  | with_reducible apply Pres.throw
  | with_reducible apply Pres.bind | with_reducible apply Pres.map | with_reducible apply Pres.mapM
  | with_reducible apply Pres.getNode | with_reducible apply Pres.dassert
  | with_reducible apply Pres.getBind | with_reducible apply Pres.getExpert
  | with_reducible apply Pres.getVar | with_reducible apply Pres.assertM
  | intro _ | split
  | mleaf
  | dsimp only)

macro "mpres" : tactic => `(tactic| repeat (any_goals mstep))

/-- register a lemma as a leaf -/
macro "mono_leaf " n:ident : command =>
  `(macro_rules | `(tactic| mleaf) => `(tactic| with_reducible apply $n))

theorem PresM.modNode {x : Option Nat} (n : Nat) (f : Node → Node)
    (hf1 : ∀ y, y.valid = false → (f y).valid = false)
    (hf2 : ∀ y, y.value = none → (f y).value = none)
    (hf3 : ∀ y, (y.valid = false → y.value = none) → (f y).valid = false → (f y).value = none) :
    Pres (Still x) (Engine.modNode n f) := by
  unfold Engine.modNode; exact Pres.modify fun s => Still.modNode s n f hf1 hf2 hf3

theorem PresM.modNode_self (n : Nat) (f : Node → Node)
    (hf1 : ∀ y, y.valid = false → (f y).valid = false) :
    Pres (Still (some n)) (Engine.modNode n f) := by
  unfold Engine.modNode; exact Pres.modify fun s => Still.modNode_self s n f hf1

theorem PresM.ofQuiet {x : Option Nat} {α} {m : M α} (h : Pres Quiet m) : Pres (Still x) m :=
  h.mono fun _ _ q => Still.of_quiet q

macro_rules | `(tactic| mleaf) => `(tactic| apply Pres.forIn)
macro_rules
  | `(tactic| mleaf) =>
    `(tactic| ((with_reducible apply Pres.modify); intro _; exact Still.push _ _))
macro_rules
  | `(tactic| mleaf) =>
    `(tactic| ((with_reducible apply PresM.modNode_self); intro _ h; first | exact h | rfl))
macro_rules
  | `(tactic| mleaf) =>
    `(tactic| ((with_reducible apply PresM.modNode)
               · intro _ h; first | exact h | rfl
               · intro _ h; first | exact h | rfl
               · intro _ h; first | exact h | (intro _; rfl)))
macro_rules
  | `(tactic| mleaf) =>
    `(tactic| ((with_reducible apply Pres.modify); intro _; exact Still.of_eq rfl))

mono_leaf PresS.getObs
mono_leaf PresS.expertOf
mono_leaf PresS.resolveOpnd
mono_leaf PresS.expertIdxRaw
mono_leaf PresS.discard
mono_leaf Pres.valueUnwrap
mono_leaf Pres.scopeHeight

/-- every write but `valid := false` keeps `Still x`, where only `x` may store a value: no other write clears `valid` or gives a node a value -/
theorem Still.of_edit {x : Option Nat} {L w} (hp : Footprint.Tag.nInvalid ∉ L) (hw : ∀ n, w n → x = some n) {s s' : State}
    (e : Footprint.Edit L w s s') : Still x s s' := by
  cases e
  case node n f hf =>
    refine Still.modNode s n f ?_ ?_ ?_ <;> cases hf <;> first | exact fun _ h => h | exact fun _ h _ => h | exact absurd ‹_› hp
  case value n hn f hf =>
    rw [hw n hn]
    exact Still.modNode_self s n f fun _ h => by cases hf <;> exact h
  case stamp n _ => exact Still.modNode s n _ (fun _ h => h) (fun _ h => h) (fun _ h => h)
  case erase n _ => exact Still.modNode s n _ (fun _ h => h) (fun _ _ => rfl) (fun _ _ _ => rfl)
  case pushNode => exact Still.push s _
  all_goals exact Still.of_eq rfl

/-- a function that never writes `valid := false` and stores no value keeps `Still x` -/
theorem PresM.of_foot {x : Option Nat} {L α} {m : M α} (hm : Footprint.Foot L (fun _ => False) m) (hp : Footprint.Tag.nInvalid ∉ Footprint.parts L) :
    Pres (Still x) m :=
  hm.lift (Still.of_edit hp fun _ h => h.elim)

section ladder
variable {x : Option Nat}

theorem PresM.tick : Pres (Still x) tick := PresM.ofQuiet Pres.tick
mono_leaf PresM.tick
theorem PresM.logEv (e) : Pres (Still x) (logEv e) := by unfold Engine.logEv; mpres
mono_leaf PresM.logEv
theorem PresM.bumpCounter (f) : Pres (Still x) (bumpCounter f) := by unfold Engine.bumpCounter; mpres
mono_leaf PresM.bumpCounter
theorem PresM.modBind (b f) : Pres (Still x) (modBind b f) := by unfold Engine.modBind; mpres
mono_leaf PresM.modBind
theorem PresM.modExpert (b f) : Pres (Still x) (modExpert b f) := by unfold Engine.modExpert; mpres
mono_leaf PresM.modExpert
theorem PresM.modVar (b f) : Pres (Still x) (modVar b f) := by unfold Engine.modVar; mpres
mono_leaf PresM.modVar
theorem PresM.modObs (b f) : Pres (Still x) (modObs b f) := by unfold Engine.modObs; mpres
mono_leaf PresM.modObs
theorem PresM.rchUnlink (n) : Pres (Still x) (rchUnlink n) :=
  PresM.of_foot (Footprint.Foot.rchUnlink n) (by decide)
mono_leaf PresM.rchUnlink
theorem PresM.rchInsert (n) : Pres (Still x) (rchInsert n) :=
  PresM.of_foot (Footprint.Foot.rchInsert n) (by decide)
mono_leaf PresM.rchInsert
theorem PresM.rchRemove (n) : Pres (Still x) (rchRemove n) :=
  PresM.of_foot (Footprint.Foot.rchRemove n) (by decide)
mono_leaf PresM.rchRemove
theorem PresM.rchMinHeight : Pres (Still x) rchMinHeight :=
  PresM.of_foot Footprint.Foot.rchMinHeight (by decide)
mono_leaf PresM.rchMinHeight
theorem PresM.rchRemoveMin : Pres (Still x) rchRemoveMin :=
  PresM.of_foot Footprint.Foot.rchRemoveMin (by decide)
mono_leaf PresM.rchRemoveMin
theorem PresM.setHeight (n h) : Pres (Still x) (setHeight n h) :=
  PresM.of_foot (Footprint.Foot.setHeight n h) (by decide)
mono_leaf PresM.setHeight
theorem PresM.ensureHeightRequirement (a b c d) : Pres (Still x) (ensureHeightRequirement a b c d) :=
  PresM.of_foot (Footprint.Foot.ensureHeightRequirement a b c d) (by decide)
mono_leaf PresM.ensureHeightRequirement
theorem PresM.adjustHeights (oc op fuel) : Pres (Still x) (adjustHeights oc op fuel) :=
  PresM.of_foot (Footprint.Foot.adjustHeights oc op fuel) (by decide)
mono_leaf PresM.adjustHeights
theorem PresM.addParent (a b c) : Pres (Still x) (addParent a b c) :=
  PresM.of_foot (Footprint.Foot.addParent a b c) (by decide)
mono_leaf PresM.addParent
theorem PresM.removeParent (a b c) : Pres (Still x) (removeParent a b c) :=
  PresM.of_foot (Footprint.Foot.removeParent a b c) (by decide)
mono_leaf PresM.removeParent
theorem PresM.handleAfterStabilisation (n) : Pres (Still x) (handleAfterStabilisation n) :=
  PresM.of_foot (Footprint.Foot.handleAfterStabilisation n) (by decide)
mono_leaf PresM.handleAfterStabilisation
theorem PresM.shouldCutoff (env n o v) : Pres (Still x) (shouldCutoff env n o v) :=
  PresM.of_foot (Footprint.Foot.shouldCutoff env n o v) (by decide)
mono_leaf PresM.shouldCutoff
theorem PresM.edgeOnChange (env e edge) : Pres (Still x) (edgeOnChange env e edge) :=
  PresM.of_foot (Footprint.Foot.edgeOnChange env e edge) (by decide)
mono_leaf PresM.edgeOnChange
theorem PresM.markMapRefUnknown (fuel n) : Pres (Still x) (markMapRefUnknown fuel n) :=
  PresM.of_foot (Footprint.Foot.markMapRefUnknown fuel n) (by decide)
mono_leaf PresM.markMapRefUnknown

theorem PresM.necessary (env : Env) (fuel : Nat) :
    (∀ n, Pres (Still x) (becameNecessary env fuel n)) ∧
    (∀ c i p, Pres (Still x) (addParentWithoutAdjustingHeights env fuel c i p)) :=
  ⟨fun n => PresM.of_foot (Footprint.Foot.becameNecessary env fuel n) (by decide),
   fun c i p => PresM.of_foot (Footprint.Foot.addParentWithoutAdjustingHeights env fuel c i p) (by decide)⟩
theorem PresM.becameNecessary (env fuel n) : Pres (Still x) (becameNecessary env fuel n) :=
  (PresM.necessary env fuel).1 n
mono_leaf PresM.becameNecessary
theorem PresM.addParentWithoutAdjustingHeights (env fuel c i p) :
    Pres (Still x) (addParentWithoutAdjustingHeights env fuel c i p) := (PresM.necessary env fuel).2 c i p
mono_leaf PresM.addParentWithoutAdjustingHeights

theorem PresM.unnecessary (fuel : Nat) :
    (∀ n, Pres (Still x) (becameUnnecessary fuel n)) ∧ (∀ n, Pres (Still x) (checkIfUnnecessary fuel n)) ∧
    (∀ n, Pres (Still x) (removeChildren fuel n)) :=
  ⟨fun n => PresM.of_foot (Footprint.Foot.becameUnnecessary fuel n) (by decide),
   fun n => PresM.of_foot (Footprint.Foot.checkIfUnnecessary fuel n) (by decide),
   fun n => PresM.of_foot (Footprint.Foot.removeChildren fuel n) (by decide)⟩
theorem PresM.becameUnnecessary (fuel n) : Pres (Still x) (becameUnnecessary fuel n) :=
  (PresM.unnecessary fuel).1 n
mono_leaf PresM.becameUnnecessary
theorem PresM.checkIfUnnecessary (fuel n) : Pres (Still x) (checkIfUnnecessary fuel n) :=
  (PresM.unnecessary fuel).2.1 n
mono_leaf PresM.checkIfUnnecessary
theorem PresM.removeChildren (fuel n) : Pres (Still x) (removeChildren fuel n) :=
  (PresM.unnecessary fuel).2.2 n
mono_leaf PresM.removeChildren

theorem PresM.invDetach (fuel n sc) : Pres (Still x) (invDetach fuel n sc) := by
  unfold Inval.invDetach; mpres
theorem PresM.invCascade (fuel k) (ih : ∀ r, Pres (Still x) (invalidateNode fuel r)) :
    Pres (Still x) (invCascade fuel k) := by
  unfold Inval.invCascade; mpres; all_goals exact ih _

/-- what comes after `valid := false` in `invalidate_node` -/
theorem PresM.invFinish_tail (n : Nat) (t : State) (r : Except Panic Unit) (s' : State)
    (h : (invFinish n).run.run t = (r, s')) : Still x (markedInvalid n t) s' := by
  unfold Inval.invFinish at h
  rw [run_bind_modNode] at h
  refine Pres.h ?_ _ _ _ h
  mpres

/-- `invalidate_node`: the one place where `valid` is written.  It is written with `false`, and only
after the stored value has been dropped — which is why a clean node stays clean. -/
theorem PresM.invalidateNode (fuel n) : Pres (Still x) (invalidateNode fuel n) := by
  induction fuel generalizing n with
  | zero => unfold Engine.invalidateNode; mpres
  | succ fuel ih =>
    constructor
    intro s r s' h
    cases hn : s.nodes[n]? with
    | none => rw [invalidateNode_missing fuel n s hn] at h; cases h; exact Still.refl _ _
    | some nd =>
      cases hv : nd.valid with
      | false => rw [invalidateNode_invalid fuel n s nd hn hv] at h; cases h; exact Still.refl _ _
      | true =>
        rw [invalidateNode_run fuel n s nd hn hv] at h
        have h0 : Still x s (invStamped n (handled n s)) :=
          (Still.of_handled x n s).trans (Still.of_invStamped x n _)
        have hlt0 : n < (invStamped n (handled n s)).nodes.size := by
          have := h0.size; have := lt_of_some hn; omega
        have hv0 : ((invStamped n (handled n s)).nodeD n).value = none := by
          rw [nodeD_of_modify (t := invStamped n (handled n s)) (s := handled n s) (n := n)
            (f := fun y => { y with value := none, changedAt := (handled n s).stabNum,
                                    recomputedAt := (handled n s).stabNum }) rfl,
            if_pos ⟨rfl, by simpa [invStamped] using hlt0⟩]
        rw [run_bind] at h
        rcases h1 : (Inval.invDetach fuel n nd.createdIn).run.run (invStamped n (handled n s)) with ⟨r1, t1⟩
        have q1 := (PresM.invDetach (x := x) fuel n nd.createdIn).h _ _ _ h1
        rw [h1] at h
        cases r1 with
        | error e => cases h; exact h0.trans q1
        | ok u1 =>
          simp only [] at h
          rw [run_bind] at h
          rcases h2 : (Inval.invCascade fuel nd.kind).run.run t1 with ⟨r2, t2⟩
          have q2 := (PresM.invCascade (x := x) fuel nd.kind ih).h _ _ _ h2
          rw [h2] at h
          cases r2 with
          | error e => cases h; exact (h0.trans q1).trans q2
          | ok u2 =>
            simp only [] at h
            have q3 := PresM.invFinish_tail (x := x) n t2 r s' h
            have q12 := q1.trans q2
            have hj : x = some n ∨ (t2.nodeD n).value = none := by
              by_cases hx : x = some n
              · exact Or.inl hx
              · exact Or.inr (q12.vnone n hlt0 hx hv0)
            exact ((h0.trans q12).trans (Still.of_markedInvalid x n t2 hj)).trans q3
mono_leaf PresM.invalidateNode

theorem PresM.propagateInvalidity (fuel) : Pres (Still x) (propagateInvalidity fuel) := by
  induction fuel with
  | zero => unfold Engine.propagateInvalidity; mpres
  | succ fuel ih => unfold Engine.propagateInvalidity; mpres; all_goals exact ih
mono_leaf PresM.propagateInvalidity
theorem PresM.becameNecessaryPropagate (env fuel n) :
    Pres (Still x) (becameNecessaryPropagate env fuel n) := by
  unfold Engine.becameNecessaryPropagate; mpres
mono_leaf PresM.becameNecessaryPropagate
theorem PresM.stateAddParent (env fuel c i p) : Pres (Still x) (stateAddParent env fuel c i p) := by
  unfold Engine.stateAddParent; mpres
mono_leaf PresM.stateAddParent
theorem PresM.changeChildBindRhs (env fuel m o nw i) :
    Pres (Still x) (changeChildBindRhs env fuel m o nw i) := by
  unfold Engine.changeChildBindRhs; mpres
mono_leaf PresM.changeChildBindRhs

/-! ### expert API -/
theorem PresM.assertRunningIsChild (n name) : Pres (Still x) (assertRunningIsChild n name) :=
  PresM.of_foot (Footprint.Foot.assertRunningIsChild n name) (by decide)
mono_leaf PresM.assertRunningIsChild
theorem PresM.expertMakeStale (n) : Pres (Still x) (expertMakeStale n) :=
  PresM.of_foot (Footprint.Foot.expertMakeStale n) (by decide)
mono_leaf PresM.expertMakeStale
theorem PresM.expertAddDependency (env fuel n c cb) :
    Pres (Still x) (expertAddDependency env fuel n c cb) := by
  unfold Engine.expertAddDependency; mpres
mono_leaf PresM.expertAddDependency
theorem PresM.expertRemoveDependency (fuel n dep) :
    Pres (Still x) (expertRemoveDependency fuel n dep) :=
  PresM.of_foot (Footprint.Foot.expertRemoveDependency fuel n dep) (by decide)
mono_leaf PresM.expertRemoveDependency
theorem PresM.expertInvalidate (fuel n) : Pres (Still x) (expertInvalidate fuel n) := by
  unfold Engine.expertInvalidate; mpres
mono_leaf PresM.expertInvalidate

/-! ### node creation, var writes, effects -/
theorem PresM.createNode (k sc c) : Pres (Still x) (createNode k sc c) :=
  PresM.of_foot (Footprint.Foot.createNode k sc c) (by decide)
mono_leaf PresM.createNode
theorem PresM.elabInstr (loc v i) : Pres (Still x) (elabInstr loc v i) :=
  PresM.of_foot (Footprint.Foot.elabInstr loc v i) (by decide)
mono_leaf PresM.elabInstr
theorem PresM.elabTemplateBase (t v init) : Pres (Still x) (elabTemplateBase t v init) :=
  PresM.of_foot (Footprint.Foot.elabTemplateBase t v init) (by decide)
mono_leaf PresM.elabTemplateBase
theorem PresM.elabInstrM (env loc v i) : Pres (Still x) (elabInstrM env loc v i) :=
  PresM.of_foot (Footprint.Foot.elabInstrM env loc v i) (by decide)
mono_leaf PresM.elabInstrM
theorem PresM.elabTemplate (env t v) : Pres (Still x) (elabTemplate env t v) :=
  PresM.of_foot (Footprint.Foot.elabTemplate env t v) (by decide)
mono_leaf PresM.elabTemplate
theorem PresM.didSetVarWhileNotStabilising (v) : Pres (Still x) (didSetVarWhileNotStabilising v) :=
  PresM.of_foot (Footprint.Foot.didSetVarWhileNotStabilising v) (by decide)
mono_leaf PresM.didSetVarWhileNotStabilising
theorem PresM.writeVar (v f b) : Pres (Still x) (writeVar v f b) :=
  PresM.of_foot (Footprint.Foot.writeVar v f b) (by decide)
mono_leaf PresM.writeVar
theorem PresM.disallowFutureUse (o) : Pres (Still x) (disallowFutureUse o) :=
  PresM.of_foot (Footprint.Foot.disallowFutureUse o) (by decide)
mono_leaf PresM.disallowFutureUse
/-- dropping a `Var` handle touches `vars` and `deadVars` only -/
theorem PresM.dropVarHandle (v) : Pres (Still x) (dropVarHandle v) :=
  PresM.of_foot (Footprint.Foot.dropVarHandle v) (by decide)
mono_leaf PresM.dropVarHandle
theorem PresM.runEffectBasic (env e) : Pres (Still x) (runEffectBasic env e) :=
  PresM.of_foot (Footprint.Foot.runEffectBasic env e) (by decide)
mono_leaf PresM.runEffectBasic
theorem PresM.runEffects (env fuel effs arg) : Pres (Still x) (runEffects env fuel effs arg) := by
  unfold Engine.runEffects; mpres
mono_leaf PresM.runEffects

/-! ### per-key operators, operator closures -/
theorem PresM.expertValue (env e d sl) : Pres (Still x) (expertValue env e d sl) :=
  PresM.of_foot (Footprint.Foot.expertValue env e d sl) (by decide)
mono_leaf PresM.expertValue
theorem PresM.withOldEvents (env g n σ old y new did) :
    Pres (Still x) (withOldEvents env g n σ old y new did) :=
  PresM.of_foot (Footprint.Foot.withOldEvents env g n σ old y new did) (by decide)
mono_leaf PresM.withOldEvents
theorem PresM.perKeyDriver (env fuel op m) : Pres (Still x) (perKeyDriver env fuel op m) := by
  unfold Engine.perKeyDriver; mpres
mono_leaf PresM.perKeyDriver

/-! ### notifications -/
theorem PresM.parentIterCanRecomputeNow (p c) : Pres (Still x) (parentIterCanRecomputeNow p c) :=
  PresM.of_foot (Footprint.Foot.parentIterCanRecomputeNow p c) (by decide)
mono_leaf PresM.parentIterCanRecomputeNow
theorem PresM.maybeChangeValueManual (env fuel n o d b) :
    Pres (Still x) (maybeChangeValueManual env fuel n o d b) :=
  PresM.of_foot (Footprint.Foot.maybeChangeValueManual env fuel n o d b) (by decide)
mono_leaf PresM.maybeChangeValueManual

/-! ### observers, handlers -/
theorem PresM.subscribe (o hid) : Pres (Still x) (subscribe o hid) :=
  PresM.of_foot (Footprint.Foot.subscribe o hid) (by decide)
mono_leaf PresM.subscribe
theorem PresM.unsubscribe (o t ow) : Pres (Still x) (unsubscribe o t ow) :=
  PresM.of_foot (Footprint.Foot.unsubscribe o t ow) (by decide)
mono_leaf PresM.unsubscribe
theorem PresM.addNewObservers (env fuel) : Pres (Still x) (addNewObservers env fuel) := by
  unfold Engine.addNewObservers; mpres
mono_leaf PresM.addNewObservers
theorem PresM.unlinkDisallowedObservers (fuel) : Pres (Still x) (unlinkDisallowedObservers fuel) :=
  PresM.of_foot (Footprint.Foot.unlinkDisallowedObservers fuel) (by decide)
mono_leaf PresM.unlinkDisallowedObservers
theorem PresM.runAll (env fuel o n nu now) : Pres (Still x) (runAll env fuel o n nu now) := by
  unfold Engine.runAll; mpres
mono_leaf PresM.runAll
theorem PresM.stabiliseEnd (env fuel) : Pres (Still x) (stabiliseEnd env fuel) := by
  unfold Engine.stabiliseEnd; mpres
mono_leaf PresM.stabiliseEnd
theorem PresM.setMaxHeightAllowed (N) : Pres (Still x) (setMaxHeightAllowed N) :=
  PresM.of_foot (Footprint.Foot.setMaxHeightAllowed N) (by decide)
mono_leaf PresM.setMaxHeightAllowed

end ladder

/-! ### `maybeChangeValue`, `recomputeOne`: the node being recomputed may get a value -/
theorem PresM.maybeChangeValue (env fuel n v) :
    Pres (Still (some n)) (maybeChangeValue env fuel n v) :=
  (Footprint.Foot.maybeChangeValue env fuel n v).lift (Still.of_edit (by decide) fun _ h => congrArg some h.symm)
mono_leaf PresM.maybeChangeValue

theorem PresM.recomputeOne_self (env fuel n) : Pres (Still (some n)) (recomputeOne env fuel n) := by
  unfold Engine.recomputeOne; mpres

/-- `recompute_one`, any node, any outcome: `Mono` -/
theorem PresMono.recomputeOne (env fuel n) : Pres Mono (recomputeOne env fuel n) := by
  constructor
  intro s r s' h
  have h1 := (PresM.recomputeOne_self env fuel n).h s r s' h
  by_cases hd : (s.nodeD n).valid = false ∧ (s.nodeD n).value = none
  · have hst : Mono s (started n s) := by
      refine ⟨by simp [started], fun m _ hm => ?_, fun m _ _ hm => ?_⟩
      · rw [started_nodeD]; split <;> exact hm
      · rw [started_nodeD]; split <;> exact hm
    cases hn : s.nodes[n]? with
    | none =>
      rw [recomputeOne_missing_run env fuel n s hn] at h
      cases h; exact hst
    | some nd =>
      have hv : nd.valid = false := by rw [← nodeD_of_some hn]; exact hd.1
      rw [recomputeOne_invalid_run env fuel n s nd hn hv] at h
      cases h; exact hst
  · exact h1.mono_of hd

/-! ### `Mono` for everything -/

theorem PresMono.ofStill {α} {m : M α} (h : Pres (Still none) m) : Pres Mono m :=
  h.mono fun _ _ q => q.mono

macro_rules | `(tactic| mleaf) => `(tactic| ((with_reducible apply PresMono.ofStill); mleaf))
mono_leaf PresMono.recomputeOne

theorem PresMono.recompute (env fuel n) : Pres Mono (recompute env fuel n) := by
  induction fuel generalizing n with
  | zero => unfold Engine.recompute; mpres
  | succ fuel ih => unfold Engine.recompute; mpres; all_goals exact ih _
mono_leaf PresMono.recompute

theorem PresMono.drainHeap (env fuel) : Pres Mono (drainHeap env fuel) := by
  induction fuel with
  | zero => unfold Engine.drainHeap; mpres
  | succ fuel ih => unfold Engine.drainHeap; mpres; all_goals exact ih
mono_leaf PresMono.drainHeap

theorem PresMono.stabilise (env fuel) : Pres Mono (stabilise env fuel) := by
  unfold Engine.stabilise; mpres

/-! ## Part 4: what `invalidate_node` establishes -/

theorem pushParents_nil (s : State) : pushParents [] s = s := rfl

/-- the state after `invalidate_node n` on a valid node that is not necessary, not a bind main and not
in the recompute heap -/
def invalidated (n : Nat) (s : State) : State := markedInvalid n (invStamped n (handled n s))

/-- node `n` of `invalidated n s`, field by field -/
theorem invalidated_nodeD (n : Nat) (s : State) (nd : Node) (hn : s.nodes[n]? = some nd) :
    (invalidated n s).nodeD n =
      { nd with valid := false, value := none, changedAt := s.stabNum, recomputedAt := s.stabNum,
                inHandleAfterStab := nd.inHandleAfterStab || decide (nd.numOnUpdateHandlers > 0) } := by
  have hlt := lt_of_some hn
  have hD := nodeD_of_some hn
  have hsz : (handled n s).nodes.size = s.nodes.size := by
    unfold handled; split <;> simp
  have hst : (handled n s).stabNum = s.stabNum := by unfold handled; split <;> rfl
  unfold invalidated
  rw [markedInvalid_nodeD, if_pos ⟨rfl, by simpa [invStamped, hsz] using hlt⟩]
  rw [nodeD_of_modify (t := invStamped n (handled n s)) (s := handled n s) (n := n)
    (f := fun y => { y with value := none, changedAt := (handled n s).stabNum,
                            recomputedAt := (handled n s).stabNum }) rfl,
    if_pos ⟨rfl, by rw [hsz]; exact hlt⟩, handled_nodeD, hD, hst]
  by_cases h1 : nd.numOnUpdateHandlers > 0
  · by_cases h2 : nd.inHandleAfterStab = false
    · rw [if_pos ⟨rfl, h1, h2, hlt⟩]; simp [h1]
    · rw [if_neg (fun hc => h2 hc.2.2.1)]
      have h2' : nd.inHandleAfterStab = true := by simpa using h2
      simp [h2']
  · rw [if_neg (fun hc => h1 hc.2.1)]; simp [h1]

theorem invalidated_other (n m : Nat) (s : State) (hm : m ≠ n) :
    (invalidated n s).nodeD m = s.nodeD m := by
  unfold invalidated
  rw [markedInvalid_nodeD, if_neg (fun hc => hm hc.1.symm)]
  rw [nodeD_of_modify (t := invStamped n (handled n s)) (s := handled n s) (n := n)
    (f := fun y => { y with value := none, changedAt := (handled n s).stabNum,
                            recomputedAt := (handled n s).stabNum }) rfl,
    if_neg (fun hc => hm hc.1.symm), handled_nodeD, if_neg (fun hc => hm hc.1.symm)]

/-- the rest of `invalidated n s` -/
theorem invalidated_fields (n : Nat) (s : State) :
    (invalidated n s).counters = { s.counters with invalidated := s.counters.invalidated + 1 } ∧
    (invalidated n s).propagateInvalidity = s.propagateInvalidity ∧
    (invalidated n s).handleAfterStab =
      (if (s.nodeD n).numOnUpdateHandlers > 0 ∧ (s.nodeD n).inHandleAfterStab = false
       then s.handleAfterStab ++ [n] else s.handleAfterStab) ∧
    (invalidated n s).rch = s.rch ∧ (invalidated n s).binds = s.binds ∧
    (invalidated n s).stabNum = s.stabNum ∧ (invalidated n s).nodes.size = s.nodes.size := by
  unfold invalidated markedInvalid invStamped handled
  split <;> simp

/-- valid, not necessary, not a bind main: no cascade -/
theorem invalidateNode_leaf_run (fuel n : Nat) (s : State) (nd : Node) (hn : s.nodes[n]? = some nd)
    (hv : nd.valid = true) (hnec : nd.isNecessary = false) (hk : ∀ b lc, nd.kind ≠ .bindMain b lc) :
    (invalidateNode (fuel + 1) n).run.run s =
      if nd.heightInRch ≥ 0 then (rchRemove n).run.run (invalidated n s)
      else (.ok (), invalidated n s) := by
  have hlt := lt_of_some hn
  have hD := nodeD_of_some hn
  rw [invalidateNode_run fuel n s nd hn hv]
  have hsz : (handled n s).nodes.size = s.nodes.size := by
    unfold handled; split <;> simp
  -- node `n` in the stamped state
  have hD1 : (invStamped n (handled n s)).nodeD n =
      { (handled n s).nodeD n with value := none, changedAt := (handled n s).stabNum,
                                   recomputedAt := (handled n s).stabNum } := by
    rw [nodeD_of_modify (t := invStamped n (handled n s)) (s := handled n s) (n := n)
      (f := fun y => { y with value := none, changedAt := (handled n s).stabNum,
                              recomputedAt := (handled n s).stabNum }) rfl,
      if_pos ⟨rfl, by rw [hsz]; exact hlt⟩]
  have hH : ((handled n s).nodeD n).parents = nd.parents ∧
      ((handled n s).nodeD n).observers = nd.observers ∧
      ((handled n s).nodeD n).forceNecessary = nd.forceNecessary ∧
      ((handled n s).nodeD n).heightInRch = nd.heightInRch := by
    rw [handled_nodeD, hD]; split <;> exact ⟨rfl, rfl, rfl, rfl⟩
  have hnec1 : (invStamped n (handled n s)).isNecessary n = false := by
    unfold State.isNecessary Node.isNecessary
    rw [hD1]
    simp only [hH.1, hH.2.1, hH.2.2.1]
    exact hnec
  have hn1 : (invStamped n (handled n s)).nodes[n]? = some ((invStamped n (handled n s)).nodeD n) :=
    some_of_lt (by simpa [invStamped, hsz] using hlt)
  have hpar : ((invStamped n (handled n s)).nodeD n).parents = [] := by
    rw [hD1]; simp only [hH.1]
    simp only [Node.isNecessary, Bool.or_eq_false_iff, Bool.not_eq_false', List.isEmpty_iff] at hnec
    exact hnec.1.1
  have hrch : ((invStamped n (handled n s)).nodeD n).heightInRch = nd.heightInRch := by
    rw [hD1]; exact hH.2.2.2
  have hcas : invCascade fuel nd.kind = pure () := by
    unfold invCascade
    cases hkk : nd.kind <;> first | rfl | exact absurd hkk (hk _ _)
  rw [hcas]
  unfold invDetach
  simp only [bind_assoc, run_bind_get, hnec1, Bool.false_eq_true, if_false, pure_bind]
  rw [invFinish_run n _ _ hn1, hpar, hrch, pushParents_nil]
  rfl


/-- a `remove` that returns leaves the node unmarked -/
theorem rchRemove_ok_unmarked {n : Nat} {s s' : State} {u : Unit}
    (h : (rchRemove n).run.run s = (.ok u, s')) : (s'.nodeD n).heightInRch = -1 := by
  unfold rchRemove at h
  rw [run_bind_get] at h
  obtain ⟨nd, s1, h1, ha⟩ := bind_ok_inv h
  obtain ⟨e1, hn⟩ := getNode_ok_inv h1
  obtain ⟨_, s2, h2, hb⟩ := bind_ok_inv ha
  have e2 := dassert_ok_inv h2
  obtain ⟨_, s3, h3, hc⟩ := bind_ok_inv hb
  have q := (PresM.rchUnlink (x := none) n).h _ _ _ h3
  have hlt : n < s3.nodes.size := by
    have := q.size; have := lt_of_some hn; rw [e2, e1] at *; omega
  rw [run_bind_modNode, run_modify] at hc
  cases hc
  rw [nodeD_of_modify (s := s3) (n := n) (f := fun y => { y with heightInRch := -1 }) rfl,
    if_pos ⟨rfl, hlt⟩]

/-- `invalidate_node n` returned: `n` exists and is invalid; if it was valid before, it has no stored
value any more and is not marked as queued in the recompute heap -/
theorem invalidateNode_ok {fuel n : Nat} {s s' : State} {u : Unit}
    (h : (invalidateNode fuel n).run.run s = (.ok u, s')) :
    n < s.nodes.size ∧ (s'.nodeD n).valid = false ∧
      ((s.nodeD n).valid = true → (s'.nodeD n).value = none ∧ (s'.nodeD n).inRch = false) := by
  cases fuel with
  | zero => rw [invalidateNode_zero] at h; cases h
  | succ fuel =>
    cases hn : s.nodes[n]? with
    | none => rw [invalidateNode_missing fuel n s hn] at h; cases h
    | some nd =>
      have hlt := lt_of_some hn
      have hD := nodeD_of_some hn
      cases hv : nd.valid with
      | false =>
        rw [invalidateNode_invalid fuel n s nd hn hv] at h; cases h
        refine ⟨hlt, by rw [hD]; exact hv, fun hc => ?_⟩
        rw [hD, hv] at hc; cases hc
      | true =>
        refine ⟨hlt, ?_⟩
        rw [invalidateNode_run fuel n s nd hn hv] at h
        have h0 : Still none s (invStamped n (handled n s)) :=
          (Still.of_handled none n s).trans (Still.of_invStamped none n _)
        have hlt0 : n < (invStamped n (handled n s)).nodes.size := Nat.lt_of_lt_of_le hlt h0.size
        have hv0 : ((invStamped n (handled n s)).nodeD n).value = none := by
          rw [nodeD_of_modify (t := invStamped n (handled n s)) (s := handled n s) (n := n)
            (f := fun y => { y with value := none, changedAt := (handled n s).stabNum,
                                    recomputedAt := (handled n s).stabNum }) rfl,
            if_pos ⟨rfl, by simpa [invStamped] using hlt0⟩]
        obtain ⟨_, t1, h1, h⟩ := bind_ok_inv h
        obtain ⟨_, t2, h2, h⟩ := bind_ok_inv h
        have q1 := (PresM.invDetach (x := none) fuel n nd.createdIn).h _ _ _ h1
        have q2 := (PresM.invCascade (x := none) fuel nd.kind
          (fun r => PresM.invalidateNode fuel r)).h _ _ _ h2
        have q12 := q1.trans q2
        have hlt2 : n < t2.nodes.size := Nat.lt_of_lt_of_le hlt0 q12.size
        have hv2 : (t2.nodeD n).value = none := q12.vnone n hlt0 (by simp) hv0
        have hn2 := some_of_lt hlt2
        rw [invFinish_run n t2 _ hn2] at h
        have hP : ((pushParents (t2.nodeD n).parents (markedInvalid n t2)).nodeD n) =
            { t2.nodeD n with valid := false } := by
          rw [nodeD_of_nodes (t := pushParents (t2.nodeD n).parents (markedInvalid n t2))
            (s := markedInvalid n t2) rfl, markedInvalid_nodeD, if_pos ⟨rfl, hlt2⟩]
        have hltP : n < (pushParents (t2.nodeD n).parents (markedInvalid n t2)).nodes.size := by
          simpa [pushParents, markedInvalid] using hlt2
        split at h
        · have q3 := (PresM.rchRemove (x := none) n).h _ _ _ h
          have := rchRemove_ok_unmarked h
          exact ⟨q3.keep n hltP (by rw [hP]), fun _ =>
            ⟨q3.vnone n hltP (by simp) (by rw [hP]; exact hv2), by simp [Node.inRch, this]⟩⟩
        · rename_i hneg
          cases h
          rw [hP]
          exact ⟨rfl, fun _ => ⟨hv2, by simpa [Node.inRch] using hneg⟩⟩

/-- the loop `for r in l do invalidate_node r` returned: every member of `l` is invalid -/
theorem invalidateAll_ok {fuel : Nat} {l : List Nat} {s s' : State} {u : PUnit}
    (h : (forIn l PUnit.unit fun (r : Nat) (_ : PUnit) => do
            invalidateNode fuel r
            pure (ForInStep.yield PUnit.unit) : M PUnit).run.run s = (.ok u, s')) :
    ∀ r, r ∈ l → r < s'.nodes.size ∧ (s'.nodeD r).valid = false := by
  refine forIn_post (fun r t => r < t.nodes.size ∧ (t.nodeD r).valid = false) _ ?_ l ?_ s u s' h
  · intro a b t r t' hp hb
    have q : Still none t t' :=
      (Pres.bind (PresM.invalidateNode (x := none) fuel b) (fun _ => Pres.pure _)).h _ _ _ hb
    exact ⟨Nat.lt_of_lt_of_le hp.1 q.size, q.keep a hp.1 hp.2⟩
  · intro a _ t r t' hb
    obtain ⟨_, t1, h1, h2⟩ := bind_ok_inv hb
    obtain ⟨rfl, rfl⟩ := pure_ok_inv h2
    obtain ⟨hlt, hv, _⟩ := invalidateNode_ok h1
    have q := (PresM.invalidateNode (x := none) fuel a).h _ _ _ h1
    exact ⟨rfl, Nat.lt_of_lt_of_le hlt q.size, hv⟩

/-! ## Part 5: the `BindLhsChange` branch of `recompute_one`, phase by phase -/

/-- phase 1: forget the old generation's list, run the user's closure inside scope `bind b`; the
result is the new right-hand side -/
def lhsRunClosure (env : Env) (n b : Nat) (br : BindRec) : M Nat := do
  modBind b fun x => { x with allNodesCreatedOnRhs := [] }
  let lhsVal ← valueUnwrap env br.lhs "node:recompute_one:child-value"
  let oldScope := (← get).currentScope
  modify fun s => { s with currentScope := .bind b }
  tick
  let t := env.body br.body lhsVal
  logEv (.inv s!"b{br.body}" n [lhsVal] "")
  let rhs ← elabTemplate env t lhsVal
  modify fun s => { s with currentScope := oldScope }
  pure rhs

/-- phase 2: swap the right-hand side of the bind main -/
def lhsRelink (env : Env) (fuel n b : Nat) (br : BindRec) (now : Int) (rhs : Nat) : M Unit := do
  modBind b fun x => { x with rhs := some rhs }
  modNode n fun x => { x with changedAt := now }
  changeChildBindRhs env fuel br.main br.rhs rhs 1

/-- phase 3: if the bind has run before, invalidate everything the previous run created -/
def lhsInvalidateOld (fuel : Nat) (br : BindRec) : M Unit := do
  if br.rhs.isSome then
    for r in br.allNodesCreatedOnRhs do invalidateNode fuel r
    propagateInvalidity fuel

/-- phase 4: the change detector itself "changes" -/
def lhsFinish (env : Env) (fuel n : Nat) : M (Option Nat) := do
  dassert (← getNode n).valid "node:recompute_one:lhs-change-valid"
  maybeChangeValue env fuel n .unit

theorem recomputeOne_bindLhsChange_run (env : Env) (fuel n : Nat) (s : State) (nd : Node) (b : Nat)
    (br : BindRec) (hn : s.nodes[n]? = some nd) (hv : nd.valid = true)
    (hk : nd.kind = .bindLhsChange b) (hb : s.binds[b]? = some br) :
    (recomputeOne env fuel n).run.run s =
      (do let rhs ← lhsRunClosure env n b br
          lhsRelink env fuel n b br s.stabNum rhs
          lhsInvalidateOld fuel br
          lhsFinish env fuel n).run.run (started n s) := by
  have hk? : ({ nd with recomputedAt := s.stabNum } : Node).kind? = some (.bindLhsChange b) := by
    simp [Node.kind?, hv, hk]
  have hn' := started_getElem? n s nd hn
  unfold recomputeOne
  simp only [run_bind_get]
  cases hd : s.cfg.debug
  all_goals
    simp only [started, hd, Bool.false_eq_true, if_false, if_true, run_bind_modify,
      run_bind_bumpCounter, run_bind_get, run_bind_modNode] at hn' ⊢
    rw [run_bind_ok (run_getNode_some hn'), hk?]
    dsimp only
    simp only [getBind, bind_assoc, run_bind_get, hb, pure_bind]
    simp only [lhsRunClosure, lhsRelink, lhsInvalidateOld, lhsFinish, bind_assoc, pure_bind]
    cases br.rhs <;> simp only [Option.isSome, Bool.false_eq_true, if_false, if_true, bind_assoc, pure_bind]


theorem PresM.lhsRunClosure {x : Option Nat} (env n b br) :
    Pres (Still x) (lhsRunClosure env n b br) := by
  unfold Inval.lhsRunClosure; mpres
theorem PresM.lhsRelink {x : Option Nat} (env fuel n b br now rhs) :
    Pres (Still x) (lhsRelink env fuel n b br now rhs) := by
  unfold Inval.lhsRelink; mpres
theorem PresM.lhsFinish (env fuel n) : Pres (Still (some n)) (lhsFinish env fuel n) := by
  unfold Inval.lhsFinish; mpres

theorem Still.of_started (x : Option Nat) (n : Nat) (s : State) : Still x s (started n s) :=
  Still.of_modify (n := n) (f := fun y => { y with recomputedAt := s.stabNum }) rfl
    (fun _ h => h) (fun _ h => h) (fun _ h => h)

/-- loop rule: an invariant `K` of the state that every iteration keeps (whatever its outcome) and
may use, and a per-element postcondition that later iterations keep -/
theorem forIn_post_inv {α} (K : State → Prop) (P : α → State → Prop)
    (f : α → PUnit → M (ForInStep PUnit))
    (hK : ∀ b s r s', K s → (f b ⟨⟩).run.run s = (r, s') → K s')
    (hkeep : ∀ a b s r s', P a s → (f b ⟨⟩).run.run s = (r, s') → P a s')
    (l : List α)
    (hpost : ∀ a, a ∈ l → ∀ s r s', K s → (f a ⟨⟩).run.run s = (.ok r, s') → r = .yield ⟨⟩ ∧ P a s') :
    ∀ s r s', K s → (forIn l PUnit.unit f).run.run s = (.ok r, s') → K s' ∧ ∀ a, a ∈ l → P a s' := by
  induction l with
  | nil =>
    intro s r s' hk h
    rw [List.forIn_nil, run_pure] at h; cases h
    exact ⟨hk, fun a ha => by cases ha⟩
  | cons a l ih =>
    intro s r s' hk h
    rw [List.forIn_cons] at h
    obtain ⟨y, s1, hy, hrest⟩ := bind_ok_inv h
    obtain ⟨rfl, hp⟩ := hpost a (List.mem_cons_self ..) s y s1 hk hy
    have hk1 := hK a s _ s1 hk hy
    simp only at hrest
    obtain ⟨hk', hall⟩ := ih (fun a ha => hpost a (List.mem_cons_of_mem _ ha)) s1 r s' hk1 hrest
    refine ⟨hk', fun a' ha' => ?_⟩
    rcases List.mem_cons.1 ha' with rfl | hmem
    · exact forIn_keep (P a') f (hkeep a') l s1 _ s' hp hrest
    · exact hall a' hmem

/-- the heart of C03.  `recompute_one n` on a valid `BindLhsChange` node of a bind that has run before
(`br.rhs = some r0`) returned: every node the previous run of the closure registered
(`br.allNodesCreatedOnRhs`, read in the initial state) is invalid in the final state; and it has no
stored value, provided it existed, is not `n` itself, and was clean in the initial state. -/
theorem lhsChange_old_generation (env : Env) (fuel n : Nat) (s s' : State) (nd : Node) (b : Nat)
    (br : BindRec) (r0 : Nat) (res : Option Nat)
    (hn : s.nodes[n]? = some nd) (hv : nd.valid = true) (hk : nd.kind = .bindLhsChange b)
    (hb : s.binds[b]? = some br) (hr : br.rhs = some r0)
    (h : (recomputeOne env fuel n).run.run s = (.ok res, s')) :
    ∀ r, r ∈ br.allNodesCreatedOnRhs →
      r < s'.nodes.size ∧ (s'.nodeD r).valid = false ∧
      (r < s.nodes.size → r ≠ n → Clean s r → (s'.nodeD r).value = none) := by
  rw [recomputeOne_bindLhsChange_run env fuel n s nd b br hn hv hk hb] at h
  obtain ⟨rhs, t1, h1, ha⟩ := bind_ok_inv h
  obtain ⟨_, t2, h2, hb'⟩ := bind_ok_inv ha
  obtain ⟨_, t3, h3, hc⟩ := bind_ok_inv hb'
  have q0 : Still (some n) s t2 :=
    ((Still.of_started (some n) n s).trans ((PresM.lhsRunClosure env n b br).h _ _ _ h1)).trans
      ((PresM.lhsRelink env fuel n b br s.stabNum rhs).h _ _ _ h2)
  have q3 := (PresM.lhsFinish env fuel n).h _ _ _ hc
  -- the invalidation phase
  unfold lhsInvalidateOld at h3
  simp only [hr, Option.isSome_some, if_true] at h3
  obtain ⟨_, t25, hloop, hprop⟩ := bind_ok_inv h3
  have qprop := (PresM.propagateInvalidity (x := some n) fuel).h _ _ _ hprop
  -- the nodes whose value we track
  let G : Nat → Prop := fun r => r < s.nodes.size ∧ r ≠ n ∧ Clean s r
  let K : State → Prop := fun t => ∀ r, G r → r < t.nodes.size ∧ Clean t r
  let P : Nat → State → Prop := fun r t =>
    r < t.nodes.size ∧ (t.nodeD r).valid = false ∧ (G r → (t.nodeD r).value = none)
  have hne : ∀ r, r ≠ n → some n ≠ some r := fun r hrn e => hrn (Option.some.inj e).symm
  have hK2 : K t2 := fun r g =>
    ⟨Nat.lt_of_lt_of_le g.1 q0.size, q0.clean r g.1 (hne r g.2.1) g.2.2⟩
  have step : ∀ (a : Nat) (t : State) (y : Except Panic (ForInStep PUnit)) (t' : State),
      (do invalidateNode fuel a; pure (ForInStep.yield PUnit.unit) : M _).run.run t = (y, t') →
      Still (some n) t t' := fun a t y t' e =>
    (Pres.bind (PresM.invalidateNode (x := some n) fuel a) (fun _ => Pres.pure _)).h _ _ _ e
  have hloop' := forIn_post_inv K P _ ?_ ?_ br.allNodesCreatedOnRhs ?_ t2 _ t25 hK2 hloop
  · intro r hmem
    obtain ⟨hlt, hinv, hval⟩ := hloop'.2 r hmem
    have q : Still (some n) t25 s' := qprop.trans q3
    refine ⟨Nat.lt_of_lt_of_le hlt q.size, q.keep r hlt hinv, fun h1 h2 h3 => ?_⟩
    exact q.vnone r hlt (hne r h2) (hval ⟨h1, h2, h3⟩)
  · intro a t y t' hk e
    have q := step a t y t' e
    exact fun r g => ⟨Nat.lt_of_lt_of_le (hk r g).1 q.size, q.clean r (hk r g).1 (hne r g.2.1) (hk r g).2⟩
  · intro a c t y t' hp e
    have q := step c t y t' e
    exact ⟨Nat.lt_of_lt_of_le hp.1 q.size, q.keep a hp.1 hp.2.1,
      fun g => q.vnone a hp.1 (hne a g.2.1) (hp.2.2 g)⟩
  · intro a _ t y t' hk e
    obtain ⟨_, tm, e1, e2⟩ := bind_ok_inv e
    obtain ⟨rfl, rfl⟩ := pure_ok_inv e2
    obtain ⟨hlt, hinv, hval⟩ := invalidateNode_ok e1
    have q := (PresM.invalidateNode (x := none) fuel a).h _ _ _ e1
    refine ⟨rfl, Nat.lt_of_lt_of_le hlt q.size, hinv, fun g => ?_⟩
    cases hva : (t.nodeD a).valid with
    | true => exact (hval hva).1
    | false => exact q.vnone a hlt (by simp) ((hk a g).2 hva)

/-! ## Part 6: which nodes a run of a bind's closure registers in `allNodesCreatedOnRhs` -/

/-- the nodes registered as created on the right-hand side of bind `b` -/
def rhsNodes (s : State) (b : Nat) : List Nat :=
  match s.binds[b]? with
  | some br => br.allNodesCreatedOnRhs
  | none => []

/-- the state after `Node::create` -/
def created (kind : Kind) (scope : Scope) (cutoff : CutoffK) (s : State) : State :=
  { s with counters := { s.counters with created := s.counters.created + 1 },
           nodes := s.nodes.push { kind := kind, createdIn := scope, cutoff := cutoff },
           binds := match scope with
             | .top => s.binds
             | .bind b => s.binds.modify b fun x =>
                 { x with allNodesCreatedOnRhs := x.allNodesCreatedOnRhs ++ [s.nodes.size] } }

/-- node creation never fails; the new node's name is the old number of nodes; a node created in
scope `bind b` is appended to that bind's `allNodesCreatedOnRhs` -/
theorem createNode_run (kind : Kind) (scope : Scope) (cutoff : CutoffK) (s : State) :
    (createNode kind scope cutoff).run.run s = (.ok s.nodes.size, created kind scope cutoff s) := by
  unfold createNode
  rw [run_bind_get, run_bind_bumpCounter, run_bind_modify]
  cases scope <;> rfl

theorem rhsNodes_modify (s : State) (b b' : Nat) (f : BindRec → BindRec)
    (t : State) (ht : t.binds = s.binds.modify b f) :
    rhsNodes t b' = if b = b' then (match s.binds[b']? with
        | some br => (f br).allNodesCreatedOnRhs | none => []) else rhsNodes s b' := by
  unfold rhsNodes
  rw [ht, Array.getElem?_modify]
  by_cases h : b = b'
  · subst h; simp only [if_true]; cases s.binds[b]? <;> rfl
  · simp only [h, if_false]

/-- `s'` comes after `s` by node creation only: nodes and binds are only appended, scopes of old nodes
are unchanged, the `allNodesCreatedOnRhs` lists of old binds only grow, and they grow by exactly the
new nodes created in that bind's scope -/
structure Grow (s s' : State) : Prop where
  size : s.nodes.size ≤ s'.nodes.size
  bsize : s.binds.size ≤ s'.binds.size
  createdIn : ∀ m, m < s.nodes.size → (s'.nodeD m).createdIn = (s.nodeD m).createdIn
  old : ∀ b, b < s.binds.size → ∀ m, m ∈ rhsNodes s b → m ∈ rhsNodes s' b
  new : ∀ b, b < s.binds.size → ∀ m, s.nodes.size ≤ m → m < s'.nodes.size →
    (s'.nodeD m).createdIn = .bind b → m ∈ rhsNodes s' b
  only : ∀ b, b < s.binds.size → ∀ m, m ∈ rhsNodes s' b →
    m ∈ rhsNodes s b ∨ (s.nodes.size ≤ m ∧ m < s'.nodes.size ∧ (s'.nodeD m).createdIn = .bind b)

theorem Grow.refl (s : State) : Grow s s :=
  ⟨Nat.le_refl _, Nat.le_refl _, fun _ _ => rfl, fun _ _ _ h => h,
    fun _ _ m h1 h2 => absurd h2 (by omega), fun _ _ _ h => Or.inl h⟩

theorem Grow.trans {a b c : State} (h1 : Grow a b) (h2 : Grow b c) : Grow a c where
  size := Nat.le_trans h1.size h2.size
  bsize := Nat.le_trans h1.bsize h2.bsize
  createdIn m hm := (h2.createdIn m (Nat.lt_of_lt_of_le hm h1.size)).trans (h1.createdIn m hm)
  old k hk m hm := h2.old k (Nat.lt_of_lt_of_le hk h1.bsize) m (h1.old k hk m hm)
  new k hk m hm1 hm2 hc := by
    have hk' := Nat.lt_of_lt_of_le hk h1.bsize
    by_cases hmb : m < b.nodes.size
    · exact h2.old k hk' m (h1.new k hk m hm1 hmb (by rw [← h2.createdIn m hmb]; exact hc))
    · exact h2.new k hk' m (by omega) hm2 hc
  only k hk m hm := by
    have hk' := Nat.lt_of_lt_of_le hk h1.bsize
    rcases h2.only k hk' m hm with h | ⟨g1, g2, g3⟩
    · rcases h1.only k hk m h with h | ⟨g1, g2, g3⟩
      · exact Or.inl h
      · exact Or.inr ⟨g1, Nat.lt_of_lt_of_le g2 h2.size, by rw [h2.createdIn m g2]; exact g3⟩
    · exact Or.inr ⟨Nat.le_trans h1.size g1, g2, g3⟩

instance : PreOrd Grow := ⟨Grow.refl, Grow.trans⟩

theorem Grow.of_eq {s s' : State} (h1 : s'.nodes = s.nodes) (h2 : s'.binds = s.binds) : Grow s s' := by
  have hD : ∀ m, s'.nodeD m = s.nodeD m := nodeD_of_nodes h1
  have hR : ∀ b, rhsNodes s' b = rhsNodes s b := fun b => by simp only [rhsNodes, h2]
  refine ⟨by rw [h1]; exact Nat.le_refl _, by rw [h2]; exact Nat.le_refl _, fun m _ => by rw [hD],
    fun b _ m h => by rw [hR]; exact h, fun b _ m g1 g2 => ?_, fun b _ m h => Or.inl (by rw [← hR]; exact h)⟩
  rw [h1] at g2; omega

theorem Grow.modNode (s : State) (n : Nat) (f : Node → Node) (hf : ∀ y, (f y).createdIn = y.createdIn) :
    Grow s { s with nodes := s.nodes.modify n f } := by
  refine ⟨by simp, Nat.le_refl _, fun m _ => ?_, fun b _ m h => h, fun b _ m g1 g2 => ?_,
    fun b _ m h => Or.inl h⟩
  · rw [nodeD_modify]; split
    · exact hf _
    · rfl
  · simp at g2; omega

theorem Grow.modBind (s : State) (b : Nat) (f : BindRec → BindRec)
    (hf : ∀ y, (f y).allNodesCreatedOnRhs = y.allNodesCreatedOnRhs) :
    Grow s { s with binds := s.binds.modify b f } := by
  have hR : ∀ b', rhsNodes { s with binds := s.binds.modify b f } b' = rhsNodes s b' := by
    intro b'
    rw [rhsNodes_modify s b b' f _ rfl]
    split
    · unfold rhsNodes; cases s.binds[b']? <;> simp [hf]
    · rfl
  refine ⟨Nat.le_refl _, by simp, fun m _ => rfl, fun b' _ m h => by rw [hR]; exact h,
    fun b' _ m g1 g2 => ?_, fun b' _ m h => Or.inl (by rw [← hR]; exact h)⟩
  simp at g2; omega

theorem Grow.pushBind (s : State) (br : BindRec) : Grow s { s with binds := s.binds.push br } := by
  have hR : ∀ b', b' < s.binds.size → rhsNodes { s with binds := s.binds.push br } b' = rhsNodes s b' := by
    intro b' hb'
    simp [rhsNodes, Array.getElem?_push, Nat.ne_of_lt hb']
  refine ⟨Nat.le_refl _, by simp, fun m _ => rfl, fun b' hb' m h => by rw [hR b' hb']; exact h,
    fun b' _ m g1 g2 => ?_, fun b' hb' m h => Or.inl (by rw [← hR b' hb']; exact h)⟩
  simp at g2; omega

theorem Grow.of_created (kind : Kind) (scope : Scope) (cutoff : CutoffK) (s : State) :
    Grow s (created kind scope cutoff s) := by
  have hsz : (created kind scope cutoff s).nodes.size = s.nodes.size + 1 := by simp [Inval.created]
  have hold : ∀ m, m < s.nodes.size → (created kind scope cutoff s).nodeD m = s.nodeD m := by
    intro m hm
    simp [Inval.created, State.nodeD, Array.getElem?_push, Nat.ne_of_lt hm]
  have hnew : ((created kind scope cutoff s).nodeD s.nodes.size).createdIn = scope := by
    simp [Inval.created, State.nodeD]
  have hR : ∀ b', rhsNodes (created kind scope cutoff s) b' =
      if scope = .bind b' ∧ b' < s.binds.size then rhsNodes s b' ++ [s.nodes.size] else rhsNodes s b' := by
    intro b'
    cases scope with
    | top => simp [rhsNodes, Inval.created]
    | bind b =>
      rw [rhsNodes_modify s b b' (fun x => { x with allNodesCreatedOnRhs := x.allNodesCreatedOnRhs ++ [s.nodes.size] })
        (created kind (.bind b) cutoff s) rfl]
      by_cases hbb : b = b'
      · subst hbb
        simp only [if_true, true_and]
        by_cases hlt : b < s.binds.size
        · simp [rhsNodes, hlt]
        · simp [rhsNodes, hlt]
      · have : ¬ (Scope.bind b = Scope.bind b' ∧ b' < s.binds.size) := fun hc => hbb (Scope.bind.inj hc.1)
        rw [if_neg hbb, if_neg this]
  refine ⟨by rw [hsz]; omega, ?_, fun m hm => by rw [hold m hm], fun b' _ m h => ?_,
    fun b' hb' m g1 g2 hc => ?_, fun b' hb' m h => ?_⟩
  · cases scope <;> simp [Inval.created]
  · rw [hR]; split
    · exact List.mem_append_left _ h
    · exact h
  · have hm : m = s.nodes.size := by omega
    subst hm
    rw [hnew] at hc
    rw [hR, if_pos ⟨hc, hb'⟩]
    exact List.mem_append_right _ (List.mem_singleton.2 rfl)
  · rw [hR] at h
    split at h
    · rename_i hc
      rcases List.mem_append.1 h with h | h
      · exact Or.inl h
      · have hm : m = s.nodes.size := List.mem_singleton.1 h
        subst hm
        exact Or.inr ⟨Nat.le_refl _, by omega, by rw [hnew]; exact hc.1⟩
    · exact Or.inl h

/-! `Grow` from the footprint: everything `elabTemplate` runs -/

/-- the writes that do not keep `Grow`: a push or a registration outside `create_node`, and the emptying of a list of created nodes -/
def Grow.breaks : List Footprint.Tag := [.pushNode, .bCreated, .bRegister]

theorem Grow.of_edit {L w} (hL : ∀ t ∈ L, t ∉ Grow.breaks) {s s' : State} (e : Footprint.Edit L w s s') : Grow s s' := by
  cases e
  case node n f hf => exact Grow.modNode s n f fun y => by cases hf <;> rfl
  case value n _ f hf => exact Grow.modNode s n f fun y => by cases hf <;> rfl
  case stamp n _ | erase n _ => exact Grow.modNode s n _ fun _ => rfl
  case bind b f hf => exact Grow.modBind s b f fun y => by cases hf <;> first | rfl | exact absurd (hL _ ‹_›) (by decide)
  case pushBind => exact Grow.pushBind s _
  all_goals first | exact Grow.of_eq rfl rfl | exact absurd (hL _ ‹_›) (by decide)

theorem Grow.of_call {L w} (hL : ∀ t ∈ L, t ∉ Grow.breaks) {s s' : State} (c : Footprint.Call L w s s') : Grow s s' := by
  cases c with
  | edit e => exact Grow.of_edit hL e
  | call _ c =>
    have hs := c.steps (w := fun _ => True)
    cases c with
    | createNode s k sc c => exact Grow.of_created k sc c s
    | mark | markNotified | touch | disallow | setHeight => exact hs.lift (Grow.of_edit (by decide))

theorem PresG.of_foot {L α} {m : M α} (hm : Footprint.Foot L (fun _ => True) m) (hL : ∀ t ∈ Footprint.partsB L, t ∉ Grow.breaks) :
    Pres Grow m :=
  hm.calls (Grow.of_call hL)

macro_rules
  | `(tactic| mleaf) =>
    `(tactic| ((with_reducible apply Pres.modify); intro _; exact Grow.of_eq rfl rfl))

theorem PresG.tick : Pres Grow tick := PresG.of_foot Footprint.Foot.tick (by decide)
mono_leaf PresG.tick
theorem PresG.logEv (e) : Pres Grow (logEv e) := by unfold Engine.logEv; mpres
mono_leaf PresG.logEv
theorem PresG.elabInstr (loc v i) : Pres Grow (elabInstr loc v i) := PresG.of_foot (Footprint.Foot.elabInstr loc v i) (by decide)
theorem PresG.elabTemplate (env t v) : Pres Grow (elabTemplate env t v) := PresG.of_foot (Footprint.Foot.elabTemplate env t v) (by decide)
mono_leaf PresG.elabTemplate

/-- the closure of bind `b` has run (phase 1 of the `BindLhsChange` step returned): the bind's
`allNodesCreatedOnRhs` now lists exactly the nodes created during this run in scope `bind b` -/
theorem lhsRunClosure_registers (env : Env) (n b : Nat) (br : BindRec) (s0 s1 : State)
    (r : Except Panic Nat) (hb : b < s0.binds.size)
    (h : (lhsRunClosure env n b br).run.run s0 = (r, s1)) :
    s0.nodes.size ≤ s1.nodes.size ∧
    ∀ m, m ∈ rhsNodes s1 b ↔
      (s0.nodes.size ≤ m ∧ m < s1.nodes.size ∧ (s1.nodeD m).createdIn = .bind b) := by
  unfold lhsRunClosure at h
  unfold Engine.modBind at h
  rw [run_bind_modify] at h
  have hg : Grow _ s1 := Pres.h (by mpres) _ _ _ h
  have hempty : rhsNodes { s0 with binds := s0.binds.modify b fun x =>
      { x with allNodesCreatedOnRhs := [] } } b = [] := by
    rw [rhsNodes_modify s0 b b (fun x => { x with allNodesCreatedOnRhs := [] }) _ rfl]
    simp only [if_true]
    cases s0.binds[b]? <;> rfl
  have hb' : b < ({ s0 with binds := s0.binds.modify b fun x =>
      { x with allNodesCreatedOnRhs := [] } } : State).binds.size := by simpa using hb
  refine ⟨hg.size, fun m => ⟨fun hm => ?_, fun hm => hg.new b hb' m hm.1 hm.2.1 hm.2.2⟩⟩
  rcases hg.only b hb' m hm with h | h
  · rw [hempty] at h; cases h
  · exact h

/-! ## Part 7: an invalid node is never queued (debug builds), and never computed -/

/-- the direct-recompute chain started on an invalid node panics at once -/
theorem recompute_invalid_run (env : Env) (fuel n : Nat) (s : State) (nd : Node)
    (hn : s.nodes[n]? = some nd) (hv : nd.valid = false) :
    (recompute env (fuel + 1) n).run.run s =
      (.error (.site "node:recompute_one:invalid-node"), started n s) := by
  unfold recompute
  rw [run_bind, recomputeOne_invalid_run env fuel n s nd hn hv]

/-! ### the entry points, in one type -/

/-- a call of a function of the model (result discarded): the public entry points and the internal
functions C03 talks about -/
inductive Call where
  | stabilise (env : Env) (fuel : Nat)
  | writeVar (v : Nat) (f : Val → Val) (isSet : Bool)
  | subscribe (o hid : Nat)
  | unsubscribe (o token owner : Nat)
  | disallowFutureUse (o : Nat)
  | elabInstrM (env : Env) (loc : List Nat) (lhsVal : Val) (i : Instr)
  | expertAddDependency (env : Env) (fuel n child : Nat) (cb : Bool)
  | expertRemoveDependency (fuel n dep : Nat)
  | expertMakeStale (n : Nat)
  | expertInvalidate (fuel n : Nat)
  | runEffects (env : Env) (fuel : Nat) (effs : List Effect) (arg : Int)
  | setMaxHeightAllowed (newMax : Nat)
  | drainHeap (env : Env) (fuel : Nat)
  | recompute (env : Env) (fuel n : Nat)
  | recomputeOne (env : Env) (fuel n : Nat)
  | maybeChangeValueManual (env : Env) (fuel n : Nat) (o : Option Val) (d b : Bool)
  | invalidateNode (fuel n : Nat)
  | propagateInvalidity (fuel : Nat)
  | changeChildBindRhs (env : Env) (fuel main : Nat) (old : Option Nat) (new index : Nat)
  | becameNecessary (env : Env) (fuel n : Nat)
  | becameUnnecessary (fuel n : Nat)
  | stabiliseEnd (env : Env) (fuel : Nat)
  | addNewObservers (env : Env) (fuel : Nat)
  | unlinkDisallowedObservers (fuel : Nat)

def Call.run : Call → M Unit
  | .stabilise env fuel => Engine.stabilise env fuel
  | .writeVar v f isSet => do let _ ← Engine.writeVar v f isSet
  | .subscribe o hid => do let _ ← Engine.subscribe o hid
  | .unsubscribe o t ow => do let _ ← Engine.unsubscribe o t ow
  | .disallowFutureUse o => Engine.disallowFutureUse o
  | .elabInstrM env loc v i => do let _ ← Engine.elabInstrM env loc v i
  | .expertAddDependency env fuel n c cb => do let _ ← Engine.expertAddDependency env fuel n c cb
  | .expertRemoveDependency fuel n dep => Engine.expertRemoveDependency fuel n dep
  | .expertMakeStale n => Engine.expertMakeStale n
  | .expertInvalidate fuel n => Engine.expertInvalidate fuel n
  | .runEffects env fuel effs arg => Engine.runEffects env fuel effs arg
  | .setMaxHeightAllowed N => Engine.setMaxHeightAllowed N
  | .drainHeap env fuel => Engine.drainHeap env fuel
  | .recompute env fuel n => Engine.recompute env fuel n
  | .recomputeOne env fuel n => do let _ ← Engine.recomputeOne env fuel n
  | .maybeChangeValueManual env fuel n o d b => do let _ ← Engine.maybeChangeValueManual env fuel n o d b
  | .invalidateNode fuel n => Engine.invalidateNode fuel n
  | .propagateInvalidity fuel => Engine.propagateInvalidity fuel
  | .changeChildBindRhs env fuel m o nw i => Engine.changeChildBindRhs env fuel m o nw i
  | .becameNecessary env fuel n => Engine.becameNecessary env fuel n
  | .becameUnnecessary fuel n => Engine.becameUnnecessary fuel n
  | .stabiliseEnd env fuel => Engine.stabiliseEnd env fuel
  | .addNewObservers env fuel => Engine.addNewObservers env fuel
  | .unlinkDisallowedObservers fuel => Engine.unlinkDisallowedObservers fuel

mono_leaf PresMono.stabilise

theorem Call.mono (c : Call) : Pres Mono c.run := by
  cases c <;> (simp only [Call.run]; mpres)

/-- the calls that do not recompute any node -/
def Call.noRecompute : Call → Prop
  | .stabilise .. | .drainHeap .. | .recompute .. | .recomputeOne .. => False
  | _ => True

/-- … keep every clean node clean and every value-less node value-less -/
theorem Call.still (c : Call) (h : c.noRecompute) : Pres (Still none) c.run := by
  cases c <;> first | exact absurd h id | (simp only [Call.run]; mpres)


/-! ## Part 8: "an invalid node has no stored value" is NOT inductive in release builds

`recompute_one` stores the freshly computed value with `maybe_change_value` without re-checking that the
node is still valid.  In a debug build a closure can only invalidate (through the expert API) a node of
which the running node is a child; in a release build that assertion is compiled out, and the closure
can invalidate the very node being recomputed.  The value then lands in an invalid node, and an
observer of that node reads it (instead of `ObservingInvalid`). -/

/-- like `Step.exEnv`, but function 1 has a side effect: it invalidates node 1 through the expert API -/
def cexEnv : Env := { exEnv with fnEff := fun f _ => if f = 1 then [.xInval (.abs 1)] else [] }

/-- release build (no debug assertions); node 0: constant 5; node 1: `map f1 [0]`, observed -/
def cexS : State :=
  { State.init 8 false with
    nodes := #[
      { kind := .const (.int 5), createdIn := .top, value := some (.int 5), recomputedAt := 0, changedAt := 0,
        height := 0, parents := [(1, 0)] },
      { kind := .map 1 [0], createdIn := .top, recomputedAt := -1, height := 1, observers := [0] }],
    observers := #[{ node := 1, state := .inUse }],
    stabNum := 1, status := .stabilising }

def cexOut : State := ((recomputeOne cexEnv 5 1).run.run cexS).2
/-- what the observer of node 1 reads afterwards (outside the stabilisation), as a string -/
def cexRead : String :=
  match ({ cexOut with status := .notStabilising }).tryGetValue cexEnv 0 with
  | .ok v => v.render
  | .error e => e.render

theorem release_counterexample :
    returned ((recomputeOne cexEnv 5 1).run.run cexS) = true ∧ (cexOut.nodeD 1).valid = false ∧
    (cexOut.nodeD 1).value = some (.int 5) ∧ cexRead = "5" := by
  decide +kernel
/-! ## Part 9: example environment and states (non-vacuity witnesses used by `Props/C03.lean`) -/

/-- like `Step.exEnv`; every bind body creates one constant and returns it -/
def exEnvB : Env := { exEnv with body := fun _ _ => { instrs := [.const (.int 9)], ret := .loc 0 } }

/-- round 1.  node 0: var cell 0, changed in this round (the lhs of bind 0); node 1: the
`bind_lhs_change` node of bind 0; node 2: its `bind_main`, observed; nodes 3 and 4 were created by the
previous run of the closure (scope `bind 0`): node 3 is the current rhs, node 4 (`map f0 [3]`) is
used by nobody.  Debug assertions on, limit 8, nothing in the heap. -/
def exB : State :=
  { State.init 8 with
    nodes := #[
      { kind := .var 0, createdIn := .top, value := some (.int 1), recomputedAt := 1, changedAt := 1,
        height := 0, parents := [(1, 0)], cutoff := .never },
      { kind := .bindLhsChange 0, createdIn := .top, value := some .unit, recomputedAt := 0, changedAt := 0,
        height := 1, parents := [(2, 0)], cutoff := .never },
      { kind := .bindMain 0 1, createdIn := .top, value := some (.int 7), recomputedAt := 0, changedAt := 0,
        height := 3, observers := [0] },
      { kind := .const (.int 7), createdIn := .bind 0, value := some (.int 7), recomputedAt := 0,
        changedAt := 0, height := 2, parents := [(2, 1)] },
      { kind := .map 0 [3], createdIn := .bind 0, value := some (.int 7), recomputedAt := 0,
        changedAt := 0, height := -1, numOnUpdateHandlers := 1 }],
    vars := #[{ value := .int 1, setAt := 1, node := 0 }],
    binds := #[{ lhs := 0, body := 0, lhsChange := 1, main := 2, rhs := some 3,
                 allNodesCreatedOnRhs := [3, 4] }],
    observers := #[{ node := 2, state := .inUse }],
    stabNum := 1, status := .stabilising }

/-- `exB` where node 4 (still not necessary) sits in bucket 2 of the recompute heap -/
def exBq : State :=
  { exB with
    nodes := exB.nodes.modify 4 fun x => { x with height := 2, heightInRch := 2 },
    rch := { exB.rch with queues := exB.rch.queues.set! 2 [4], length := 1, lowerBound := 2 } }

/-- `exB` after `invalidate_node 4` -/
def exBdead : State := invalidated 4 exB

/-- `exB` after the `bind_lhs_change` step of node 1 -/
def exBafter : State := ((recomputeOne exEnvB 6 1).run.run exB).2


end IncrVerif.Proofs.Inval
