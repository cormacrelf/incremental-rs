import IncrVerif.Proofs.PerKeyH2
/-!
# Per-key operators, kind-twins part 1: field lemmas of `V` and of the twin, the fragments, `Kin (virt (twL l s)) (V s)`
-/
namespace IncrVerif.Proofs.PerKeyH
open IncrVerif.Engine IncrVerif.Driver IncrVerif.Proofs IncrVerif.Proofs.Step IncrVerif.Proofs.Sched
open IncrVerif.Proofs.ExpertH IncrVerif.Proofs.EffH

/-! ## A. field lemmas of `V` -/

theorem vNode_default (s : State) : vNode s default = default := rfl

theorem V_nodeD (s : State) (m : Nat) : (V s).nodeD m = vNode s (s.nodeD m) := by
  unfold State.nodeD V
  simp only [Array.getElem?_map]
  cases h : s.nodes[m]? with
  | none => simp [vNode_default]
  | some nd => simp

theorem V_size (s : State) : (V s).nodes.size = s.nodes.size := by simp [V]

theorem V_getElem? (s : State) (m : Nat) : (V s).nodes[m]? = (s.nodes[m]?).map (vNode s) := by
  simp [V, Array.getElem?_map]

section fields
variable (s : State) (nd : Node)

theorem vNode_kind : (vNode s nd).kind = vKind s nd.kind := rfl
theorem vNode_valid : (vNode s nd).valid = nd.valid := rfl
theorem vNode_cutoff : (vNode s nd).cutoff = nd.cutoff := rfl
theorem vNode_createdIn : (vNode s nd).createdIn = nd.createdIn := rfl
theorem vNode_parents : (vNode s nd).parents = nd.parents := rfl
theorem vNode_observers : (vNode s nd).observers = nd.observers := rfl
theorem vNode_forceNecessary : (vNode s nd).forceNecessary = nd.forceNecessary := rfl
theorem vNode_height : (vNode s nd).height = nd.height := rfl
theorem vNode_heightInRch : (vNode s nd).heightInRch = nd.heightInRch := rfl
theorem vNode_heightInAhh : (vNode s nd).heightInAhh = nd.heightInAhh := rfl
theorem vNode_changedAt : (vNode s nd).changedAt = nd.changedAt := rfl
theorem vNode_value : (vNode s nd).value = nd.value := rfl
theorem vNode_num : (vNode s nd).numOnUpdateHandlers = nd.numOnUpdateHandlers := rfl
theorem vNode_inHas : (vNode s nd).inHandleAfterStab = nd.inHandleAfterStab := rfl
theorem vNode_oldState : (vNode s nd).oldState = nd.oldState := rfl
theorem vNode_didChange : (vNode s nd).didChange = nd.didChange := rfl
theorem vNode_isNecessary : (vNode s nd).isNecessary = nd.isNecessary := rfl
theorem vNode_inRch : (vNode s nd).inRch = nd.inRch := rfl
theorem vNode_recomputedAt :
    (vNode s nd).recomputedAt = if forced s.experts nd.kind then -1 else nd.recomputedAt := rfl

theorem vNode_recomputedAt_of_not_expert (h : ∀ e, nd.kind ≠ .expert e) :
    (vNode s nd).recomputedAt = nd.recomputedAt := by
  rw [vNode_recomputedAt]
  cases hk : nd.kind <;> simp [forced]
  exact absurd hk (h _)

/-- the three shapes of the virtual kind of an expert node -/
theorem vKind_expert (e : Nat) :
    ∃ F init, vKind s (.expert e) = .fold F init ((xRec s.experts e).children.map (·.child)) := by
  simp only [vKind]
  split
  · exact ⟨_, _, rfl⟩
  · exact ⟨_, _, rfl⟩
  · exact ⟨_, _, rfl⟩

theorem vKind_expert_none {e : Nat} (h : (xRec s.experts e).pk = none) :
    vKind s (.expert e) =
      .fold (xBase + (xRec s.experts e).f) (.int 0) ((xRec s.experts e).children.map (·.child)) := by
  simp only [vKind, h]

theorem vKind_expert_key {e op : Nat} {key : Int} (h : (xRec s.experts e).pk = some (op, some key)) :
    vKind s (.expert e) =
      .fold xConst (.int (((pkRec s op).prevMap.lookup key).getD 0))
        ((xRec s.experts e).children.map (·.child)) := by
  simp only [vKind, h]

theorem vKind_expert_res {e op : Nat} (h : (xRec s.experts e).pk = some (op, none)) :
    vKind s (.expert e) =
      .fold xAsm (asmInit (tagsOf (pkRec s op).prevNodes (xRec s.experts e).children))
        ((xRec s.experts e).children.map (·.child)) := by
  simp only [vKind, h]

theorem vKind_map (f : Nat) (args : List Nat) :
    vKind s (.map f args) = .map (if fnPerKey ≤ f then fLc else f) args := rfl
theorem vKind_const (v : Val) : vKind s (.const v) = .const v := rfl
theorem vKind_var (c : Nat) : vKind s (.var c) = .var c := rfl
theorem vKind_fold (f : Nat) (i : Val) (cs : List Nat) : vKind s (.fold f i cs) = .fold f i cs := rfl

theorem vKind_not_expert (k : Kind) (e : Nat) : vKind s k ≠ .expert e := by
  cases k <;> try (simp [vKind]; done)
  rename_i e'
  obtain ⟨F, i, h⟩ := vKind_expert s e'
  rw [h]; simp

theorem vKind_not_mapRef (k : Kind) (h : ∀ p i, k ≠ .mapRef p i) (p i : Nat) : vKind s k ≠ .mapRef p i := by
  cases k <;> try (simp [vKind]; done)
  · exact fun hh => h _ _ (by simp only [vKind] at hh; exact hh)
  · rename_i e'
    obtain ⟨F, i, h⟩ := vKind_expert s e'
    rw [h]; simp

theorem vNode_kind? : (vNode s nd).kind? = (nd.kind?).map (vKind s) := by
  simp only [Node.kind?, vNode_valid, vNode_kind]
  by_cases h : nd.valid = true <;> simp [h]

theorem kids_vKind (k : Kind) : kids (vKind s k) = kidsX s.experts k := by
  cases k <;> try rfl
  rename_i e
  obtain ⟨F, i, h⟩ := vKind_expert s e
  rw [h]; rfl

theorem vKind_eq_var (k : Kind) (c : Nat) : vKind s k = .var c ↔ k = .var c := by
  cases k <;> try (simp [vKind]; done)
  rename_i e
  obtain ⟨F, i, h⟩ := vKind_expert s e
  rw [h]; simp

theorem vKind_eq_const (k : Kind) (v : Val) : vKind s k = .const v ↔ k = .const v := by
  cases k <;> try (simp [vKind]; done)
  rename_i e
  obtain ⟨F, i, h⟩ := vKind_expert s e
  rw [h]; simp

end fields

/-! ### state-level readers of `V` -/

section
variable (s : State)

theorem V_isNecessary (m : Nat) : (V s).isNecessary m = s.isNecessary m := by
  simp [State.isNecessary, V_nodeD, vNode_isNecessary]

theorem V_vars : (V s).vars = s.vars := rfl
theorem V_binds : (V s).binds = s.binds := rfl
theorem V_rch : (V s).rch = s.rch := rfl
theorem V_ahh : (V s).ahh = s.ahh := rfl
theorem V_stabNum : (V s).stabNum = s.stabNum := rfl
theorem V_experts : (V s).experts = #[] := rfl
theorem V_log : (V s).log = s.log.filter keepEv := rfl
theorem V_pc : (V s).panicCountdown = s.panicCountdown := rfl
theorem V_scope : (V s).currentScope = s.currentScope := rfl
theorem V_pinv : (V s).propagateInvalidity = s.propagateInvalidity := rfl
theorem V_status : (V s).status = s.status := rfl
theorem V_observers : (V s).observers = s.observers := rfl
theorem V_perkeys : (V s).perkeys = s.perkeys := rfl

theorem V_inRch (m : Nat) : ((V s).nodeD m).inRch = (s.nodeD m).inRch := by
  rw [V_nodeD, vNode_inRch]

theorem V_kind (m : Nat) : ((V s).nodeD m).kind = vKind s (s.nodeD m).kind := by
  rw [V_nodeD, vNode_kind]

theorem V_kind? (m : Nat) : ((V s).nodeD m).kind? = ((s.nodeD m).kind?).map (vKind s) := by
  rw [V_nodeD, vNode_kind?]

theorem V_children (m : Nat) : (V s).children m = s.children m := by
  unfold State.children
  rw [V_kind?]
  cases h : (s.nodeD m).kind? with
  | none => rfl
  | some k =>
    cases k <;> try rfl
    rename_i e
    obtain ⟨F, i, hF⟩ := vKind_expert s e
    simp only [Option.map_some, hF]
    cases hx : s.experts[e]? with
    | none => simp [xRec_none hx]
    | some er => simp [xRec_some hx]

theorem V_isStale (m : Nat) : (V s).isStale m = s.isStale m := by
  unfold State.isStale
  simp only [V_children, V_nodeD, vNode_kind?, vNode_changedAt, V_vars, vNode_recomputedAt]
  cases h : (s.nodeD m).kind? with
  | none => rfl
  | some k =>
    have hk : (s.nodeD m).kind = k := by
      unfold Node.kind? at h; split at h
      · cases h; rfl
      · cases h
    rw [hk]
    cases k <;> try rfl
    rename_i e
    obtain ⟨F, i, hF⟩ := vKind_expert s e
    simp only [Option.map_some, hF, forced]
    cases hx : s.experts[e]? with
    | none => simp [xRec_none hx]
    | some er =>
      simp only [xRec_some hx]
      cases hf : er.forceStale <;> simp

theorem V_needsToBeComputed (m : Nat) : (V s).needsToBeComputed m = s.needsToBeComputed m := by
  simp [State.needsToBeComputed, V_isNecessary, V_isStale]

theorem V_kids (m : Nat) : kids ((V s).nodeD m).kind = kidsX s.experts (s.nodeD m).kind := by
  rw [V_nodeD, vNode_kind, kids_vKind]

/-- no map_ref nodes: every node reads its stored value, in both states -/
theorem V_value (env env' : Env) (n : Nat) (h : ∀ p i, (s.nodeD n).kind ≠ .mapRef p i) :
    (V s).value env' n = s.value env n := by
  rw [value_plain env' (V s) n, value_plain env s n h, V_nodeD, vNode_value]
  intro p i
  rw [V_nodeD, vNode_kind]
  exact vKind_not_mapRef _ _ h p i

end

/-- the shapes of `V`, read in the actual states -/
theorem shape_actualV {s s' : State} (hsh : ∀ m, SameShape ((V s).nodeD m) ((V s').nodeD m)) (m : Nat) :
    (s'.nodeD m).createdIn = (s.nodeD m).createdIn ∧ (s'.nodeD m).valid = (s.nodeD m).valid ∧
    (s'.nodeD m).cutoff = (s.nodeD m).cutoff ∧ (s'.nodeD m).height = (s.nodeD m).height ∧
    (s'.nodeD m).parents = (s.nodeD m).parents ∧ (s'.nodeD m).observers = (s.nodeD m).observers ∧
    (s'.nodeD m).forceNecessary = (s.nodeD m).forceNecessary := by
  have h := hsh m
  rw [V_nodeD, V_nodeD] at h
  exact ⟨h.createdIn, h.valid, h.cutoff, h.height, h.parents, h.observers, h.forceNecessary⟩

theorem heapInv_of_V {s : State} (h : HeapInv (V s)) : HeapInv s :=
  h.congr rfl (V_size s).symm fun m => by
    rw [V_nodeD]
    exact ⟨rfl, rfl, (V_isNecessary s m).symm⟩

/-! ## A'. field lemmas of the twin (local copies, `K`-prefixed: `pk-twsim` owns the official ones) -/

theorem KtwNode_default : twNode default = default := rfl

theorem KtwL_nodeD (l : List Event) (s : State) (m : Nat) : (twL l s).nodeD m = twNode (s.nodeD m) := by
  unfold State.nodeD twL
  simp only [Array.getElem?_map]
  cases h : s.nodes[m]? with
  | none => simp [KtwNode_default]
  | some nd => simp

theorem KtwL_size (l : List Event) (s : State) : (twL l s).nodes.size = s.nodes.size := by simp [twL]

theorem KtwL_experts (l : List Event) (s : State) : (twL l s).experts = s.experts.map twRec := rfl

theorem KtwL_expert? (l : List Event) (s : State) (e : Nat) :
    (twL l s).experts[e]? = (s.experts[e]?).map twRec := by
  simp [twL, Array.getElem?_map]

theorem KxRec_tw (xs : Array ExpertRec) (e : Nat) : xRec (xs.map twRec) e = twRec (xRec xs e) := by
  unfold xRec
  simp only [Array.getElem?_map]
  cases xs[e]? <;> rfl

theorem KtwKind_eq_expert (k : Kind) (e : Nat) : twKind k = .expert e ↔ k = .expert e := by
  cases k <;> simp [twKind]

theorem Kforced_tw (xs : Array ExpertRec) (k : Kind) : forced (xs.map twRec) (twKind k) = forced xs k := by
  cases k <;> try rfl
  simp only [twKind, forced, KxRec_tw]; rfl

theorem KkidsX_tw (xs : Array ExpertRec) (k : Kind) : kidsX (xs.map twRec) (twKind k) = kidsX xs k := by
  cases k <;> try rfl
  simp only [twKind, kidsX, KxRec_tw]; rfl

section
variable (l : List Event) (s : State)

theorem KtwL_kind (m : Nat) : ((twL l s).nodeD m).kind = twKind (s.nodeD m).kind := by
  rw [KtwL_nodeD]; rfl
theorem KtwL_valid (m : Nat) : ((twL l s).nodeD m).valid = (s.nodeD m).valid := by
  rw [KtwL_nodeD]; rfl
theorem KtwL_recomputedAt (m : Nat) : ((twL l s).nodeD m).recomputedAt = (s.nodeD m).recomputedAt := by
  rw [KtwL_nodeD]; rfl
theorem KtwL_changedAt (m : Nat) : ((twL l s).nodeD m).changedAt = (s.nodeD m).changedAt := by
  rw [KtwL_nodeD]; rfl
theorem KtwL_value (m : Nat) : ((twL l s).nodeD m).value = (s.nodeD m).value := by
  rw [KtwL_nodeD]; rfl
theorem KtwL_parents (m : Nat) : ((twL l s).nodeD m).parents = (s.nodeD m).parents := by
  rw [KtwL_nodeD]; rfl
theorem KtwL_height (m : Nat) : ((twL l s).nodeD m).height = (s.nodeD m).height := by
  rw [KtwL_nodeD]; rfl
theorem KtwL_inRch (m : Nat) : ((twL l s).nodeD m).inRch = (s.nodeD m).inRch := by
  rw [KtwL_nodeD]; rfl

theorem KtwL_isNecessary (m : Nat) : (twL l s).isNecessary m = s.isNecessary m := by
  simp only [State.isNecessary, KtwL_nodeD]; rfl

theorem KtwL_vars : (twL l s).vars = s.vars := rfl
theorem KtwL_rch : (twL l s).rch = s.rch := rfl
theorem KtwL_stabNum : (twL l s).stabNum = s.stabNum := rfl
theorem KtwL_log : (twL l s).log = l := rfl
theorem KtwL_pc : (twL l s).panicCountdown = s.panicCountdown := rfl
theorem KtwL_pinv : (twL l s).propagateInvalidity = s.propagateInvalidity := rfl

theorem KtwL_kind? (m : Nat) : ((twL l s).nodeD m).kind? = ((s.nodeD m).kind?).map twKind := by
  rw [KtwL_nodeD]
  simp only [Node.kind?]
  show (if (s.nodeD m).valid = true then some (twKind (s.nodeD m).kind) else none) = _
  by_cases h : (s.nodeD m).valid = true <;> simp [h]

theorem KtwL_children (m : Nat) : (twL l s).children m = s.children m := by
  unfold State.children
  rw [KtwL_kind?]
  cases h : (s.nodeD m).kind? with
  | none => rfl
  | some k =>
    cases k <;> try rfl
    rename_i e
    simp only [Option.map_some, twKind, KtwL_expert?]
    cases hx : s.experts[e]? with
    | none => rfl
    | some er => rfl

theorem KtwL_isStale (m : Nat) : (twL l s).isStale m = s.isStale m := by
  unfold State.isStale
  simp only [KtwL_children, KtwL_kind?, KtwL_changedAt, KtwL_vars, KtwL_recomputedAt]
  cases h : (s.nodeD m).kind? with
  | none => rfl
  | some k =>
    cases k <;> try rfl
    rename_i e
    simp only [Option.map_some, twKind, KtwL_expert?]
    cases hx : s.experts[e]? with
    | none => rfl
    | some er => rfl

/-- the node of the virtual twin -/
theorem Kvirt_twL_nodeD (m : Nat) :
    (virt (twL l s)).nodeD m = virtNode (s.experts.map twRec) (twNode (s.nodeD m)) := by
  rw [virt_nodeD, KtwL_nodeD]; rfl

theorem Kvirt_twL_kind (m : Nat) :
    ((virt (twL l s)).nodeD m).kind = virtKind (s.experts.map twRec) (twKind (s.nodeD m).kind) := by
  rw [Kvirt_twL_nodeD]; rfl

theorem Kvirt_twL_kids (m : Nat) :
    kids ((virt (twL l s)).nodeD m).kind = kidsX s.experts (s.nodeD m).kind := by
  rw [Kvirt_twL_kind, kids_virtKind, KkidsX_tw]

theorem Kvirt_twL_size : (virt (twL l s)).nodes.size = s.nodes.size := by
  rw [virt_size, KtwL_size]

end

/-! ## B. the fragments -/

theorem penv_fnEff (env : Env) (f : Nat) (vals : List Val) : (penv env).fnEff f vals = [] := rfl

theorem staticKind_vKind {env : Env} (s : State) {k : Kind} (h : PKind env k) :
    StaticKind (penv env) (vKind s k) := by
  cases k <;> simp only [PKind] at h <;> try (first | exact h.elim | trivial)
  · rename_i f args
    rw [vKind_map]
    refine ⟨?_, fun _ _ => rfl⟩
    split
    · decide
    · omega
  · rename_i e
    obtain ⟨F, i, hF⟩ := vKind_expert s e
    rw [hF]; trivial

theorem PFrag.kindD {env : Env} {s : State} (F : PFrag env s) (n : Nat) : PKind env (s.nodeD n).kind := by
  by_cases hn : n < s.nodes.size
  · exact F.kind n hn
  · rw [nodeD_default_of_ge s n (by omega)]; trivial

theorem PFrag.validD {env : Env} {s : State} (F : PFrag env s) (n : Nat) : (s.nodeD n).valid = true := by
  by_cases hn : n < s.nodes.size
  · exact F.valid n hn
  · rw [nodeD_default_of_ge s n (by omega)]; rfl

theorem PFrag.noMapRef {env : Env} {s : State} (F : PFrag env s) (m p i : Nat) : (s.nodeD m).kind ≠ .mapRef p i := by
  intro h; have := F.kindD m; rw [h] at this; exact this

/-- two expert nodes never share a record -/
theorem PFrag.xinj {env : Env} {s : State} (F : PFrag env s) {m n e : Nat} (hm : (s.nodeD m).kind = .expert e)
    (hn : (s.nodeD n).kind = .expert e) : m = n := by
  have lt : ∀ k, (s.nodeD k).kind = .expert e → k < s.nodes.size := by
    intro k hk
    apply Classical.byContradiction
    intro hge
    rw [nodeD_default_of_ge s k (by omega)] at hk
    cases hk
  obtain ⟨er1, h1, h2⟩ := F.xrec m e (lt m hm) hm
  obtain ⟨er2, h3, h4⟩ := F.xrec n e (lt n hn) hn
  rw [h1] at h3; cases h3
  rw [← h2, h4]

/-- in the fragment the engine's children are the structural children -/
theorem PFrag.children_kidsX {env : Env} {σ : State} (F : PFrag env σ) (p : Nat) :
    σ.children p = kidsX σ.experts (σ.nodeD p).kind := by
  unfold State.children Node.kind?
  rw [F.validD p, if_pos rfl]
  have hk := F.kindD p
  cases hkk : (σ.nodeD p).kind <;> rw [hkk] at hk <;> try exact hk.elim
  all_goals try rfl
  rename_i e
  simp only [ExpertH.kidsX]
  cases hx : σ.experts[e]? with
  | none => rw [xRec_none hx]; rfl
  | some er => rw [xRec_some hx]

/-- every kind of `V s` is static for `penv env` (all `n`: the default node is a constant) -/
theorem staticKind_VD {env : Env} {s : State} (F : PFrag env s) (n : Nat) :
    StaticKind (penv env) ((V s).nodeD n).kind := by
  rw [V_kind]; exact staticKind_vKind s (F.kindD n)

theorem staticKind_V {env : Env} {s : State} (F : PFrag env s) {n : Nat} (_hn : n < s.nodes.size) :
    StaticKind (penv env) ((V s).nodeD n).kind := staticKind_VD F n

theorem xKind_twKind {env : Env} {k : Kind} (h : PKind env k) : XKind (twEnv env) (twKind k) := by
  cases k <;> simp only [PKind] at h <;> try (first | exact h.elim | trivial)
  · rename_i f args
    show (if fnPerKey ≤ f then fnIdent else f) < fnPerKey ∧
      ((if fnPerKey ≤ f then fnIdent else f) < fnZip → ∀ vals, (twEnv env).fnEff _ vals = [])
    refine ⟨?_, fun _ _ => rfl⟩
    split
    · decide
    · omega

theorem xfrag_twin {env : Env} (l : List Event) {s : State} (F : PFrag env s) : XFrag (twEnv env) (twL l s) where
  pc := F.pc
  kind n hn := by
    rw [KtwL_size] at hn
    rw [KtwL_kind]; exact xKind_twKind (F.kind n hn)
  valid n hn := by
    rw [KtwL_size] at hn
    rw [KtwL_valid]; exact F.valid n hn
  xrec n e hn hk := by
    rw [KtwL_size] at hn
    rw [KtwL_kind, KtwKind_eq_expert] at hk
    obtain ⟨er, h1, h2⟩ := F.xrec n e hn hk
    exact ⟨twRec er, by rw [KtwL_expert?, h1]; rfl, h2⟩
  xok e er' h := by
    rw [KtwL_expert?] at h
    cases hx : s.experts[e]? with
    | none => rw [hx] at h; cases h
    | some er =>
      rw [hx] at h
      cases h
      obtain ⟨-, h2, h3⟩ := F.xok e er hx
      refine ⟨rfl, h2, twEnv_xEnvOK env _, ?_⟩
      show er.f < xBase
      rw [h3]; decide

theorem xk_of_pkind {env : Env} {k : Kind} (h : PKind env k) : XK k := by
  cases k <;> first | trivial | exact h

theorem fr_of_pfrag {env : Env} {s : State} (F : PFrag env s) (hp : s.propagateInvalidity = []) : Fr s where
  pc := F.pc
  valid := F.validD
  pinv := hp
  kind n := xk_of_pkind (F.kindD n)
  ni e er h := (F.xok e er h).2.1

/-! ## C. the two static views are kind-twins -/

theorem kin_twin_V (l : List Event) (s : State) : Kin (virt (twL l s)) (V s) where
  size := by rw [V_size, Kvirt_twL_size]
  node m := by
    rw [Kvirt_twL_nodeD, V_nodeD]
    simp only [vNode, virtNode, twNode, Kforced_tw]
  kids m := by rw [V_kids, Kvirt_twL_kids]
  var m c := by
    rw [V_kind, Kvirt_twL_kind, vKind_eq_var]
    cases (s.nodeD m).kind <;> simp [twKind, virtKind]
  const m := by
    rw [V_kind, Kvirt_twL_kind]
    simp only [vKind_eq_const]
    cases (s.nodeD m).kind <;> simp [twKind, virtKind]
  rest := rfl

end IncrVerif.Proofs.PerKeyH
