import IncrVerif.Proofs.NestH34
/-!
# Nested binds (F2), phase 3 (`lhsInvalidateOld`), part 5: the structural invariant after the phase; `inval_spec2 : InvalSpec2 env`
-/
namespace IncrVerif.Proofs.NestH
open IncrVerif.Engine IncrVerif.Proofs IncrVerif.Proofs.Step IncrVerif.Proofs.Sched IncrVerif.Proofs.Quiet
open IncrVerif.Proofs.BindH

namespace NI

namespace Ctx2
variable {env : Env} {rk : Nat → Nat} {s s' : State} {ex : Nat → Prop} {dy : List Nat} {b : Nat}

/-- the structural invariant after the dying subtrees have been invalidated -/
theorem ginv' (C : Ctx2 env rk s ex dy b s') : GInv2 env rk s' allClosed ex [] where
  frag := C.frag'
  par c p i h := by
    rw [C.parentsEq] at h
    obtain ⟨h1, h2⟩ := C.I.par c p i h
    have hnec : s.isNecessary p = true := (wants_closed rfl).1 h2
    have hp : ¬ Dying s dy p := fun hd => by rw [C.dyNec hd] at hnec; cases hnec
    refine ⟨by rw [C.children_other hp]; exact h1, (wants_closed rfl).2 ?_⟩
    rw [C.necEq]; exact hnec
  conv p i c hk hw := by
    by_cases hp : Dying s dy p
    · rw [C.children_dead hp] at hk; simp at hk
    · rw [C.children_other hp] at hk
      rw [C.parentsEq]
      refine C.I.conv p i c hk ((wants_closed rfl).2 ?_)
      rw [← C.necEq]; exact (wants_closed rfl).1 hw
  nodup c := by rw [C.parentsEq]; exact C.I.nodup c
  hlt c p i h hop := by
    rw [C.parentsEq] at h
    rw [C.heightEq, C.heightEq]
    exact C.I.hlt c p i h hop
  hpos n hn hop := by
    rw [C.necEq] at hn
    rw [C.heightEq]
    exact C.I.hpos n hn hop
  lnec p k h := by cases h
  unec p k h := by cases h
  heap := C.I.heap.congr C.M.rch C.M.size C.hrchEq
  hgt m hm hop := by
    rw [C.inRchEq] at hm
    rw [C.hrchEq, C.heightEq]
    exact C.I.hgt m hm hop
  qnec m hm := by
    rw [C.inRchEq] at hm
    rw [C.necEq]
    exact C.I.qnec m hm
  queued m hop hn hs hex := by
    rw [C.necEq] at hn
    have hm : ¬ Dying s dy m := fun hd => by rw [C.dyNec hd] at hn; cases hn
    rw [C.stale_other hm] at hs
    rw [C.inRchEq]
    exact C.I.queued m hop hn hs hex
  qstale m hm := by
    rw [C.inRchEq] at hm
    have hnd : ¬ Dying s dy m := fun hd => by rw [C.dyUnq hd] at hm; cases hm
    rw [C.stale_other hnd]
    exact C.I.qstale m hm
  opLt m h := absurd rfl h
  scopeH n b' br hv hsc hb hn hop := by
    have hnd := C.not_dying_of_valid hv
    rw [C.M.other n hnd] at hv
    rw [C.createdEq] at hsc
    obtain ⟨br0, hb0, -, -, e3, -, -⟩ := C.bsame.bwd' hb
    rw [C.necEq] at hn
    rw [e3, C.heightEq, C.heightEq]
    exact C.I.scopeH n b' br0 hv hsc hb0 hn hop
  inv m hv := by
    by_cases hd : Dying s dy m
    · obtain ⟨-, -, ⟨b', hsc⟩, hpar⟩ := C.facts hd
      refine ⟨by rw [C.parentsEq]; exact hpar, by rw [C.obsEq]; exact C.I.scopeObs m b' hsc,
        by rw [C.forceEq]; exact C.hnf m, by rw [C.inRchEq]; exact C.dyUnq hd, rfl⟩
    · rw [C.M.other m hd] at hv ⊢
      exact C.I.inv m hv
  scopeObs m b' h := by
    rw [C.createdEq] at h
    rw [C.obsEq]
    exact C.I.scopeObs m b' h
  lcObs m b' h := by
    rw [C.kindEq] at h
    rw [C.obsEq]
    exact C.I.lcObs m b' h

/-- what phase 3 changed -/
theorem irel (C : Ctx2 env rk s ex dy b s') : IRel2 dy s s' where
  size := C.M.size
  other := C.M.other
  dead m hm := by
    obtain ⟨hlt, -, ⟨b', hsc⟩, hpar⟩ := C.facts hm
    have hq := (inRch_false_iff _).1 (C.dyUnq hm)
    have hr : (s.nodeD m).heightInRch = -1 := by
      rcases C.I.heap.wf.range m hlt with h | ⟨h, -⟩
      · exact h
      · omega
    rw [C.M.dead m hm]
    exact ⟨rfl, rfl, rfl, rfl, hpar, C.I.scopeObs m b' hsc, C.hnf m, hr, rfl, Int.le_refl _, Int.le_refl _, rfl⟩
  bindsSize := C.M.bindsSize
  binds := C.M.binds
  vars := C.M.vars
  stabNum := C.M.stabNum
  status := C.M.status
  cfg := C.M.cfg
  scope := C.M.scope
  pc := C.M.pc
  rch := C.M.rch
  ahh := C.M.ahh
  top := C.M.top
  pinv := C.M.pinv

end Ctx2

end NI

/-- **Phase 3 keeps the structural invariant** (fragment F2): invalidating the previous generation of a bind, with the scopes of its inner binds -/
theorem inval_spec2 (env : Env) : InvalSpec2 env := by
  intro fuel b br rk s s' ex h I hnone hdy hrhs hnf hnh hp _
  have M := (NI.lhsInvalidateOld_corr (rk := rk) hnone (fun a ha => NI.sub_of_dying I hdy hnf hnh ha)
    (NI.recsK_of I.frag) hp).ok h
  have C : NI.Ctx2 env rk s ex br.allNodesCreatedOnRhs b s' := ⟨I, hdy, hrhs, hnf, M⟩
  exact ⟨C.ginv', C.irel⟩

/-- **Phase 3 of the run of a change detector never panics** (fragment F2), under the hypotheses of `InvalSpec2`: invalidating the previous generation of a
bind, with the scopes of its inner binds, returns when the fuel exceeds the number of nodes.  (The recursion depth of `invalidateNode` is the nesting depth of
the dying inner binds; it is bounded by the position `cnt rk s.nodes.size r` of the root in the rank order — `NI.inv_corr` —, hence by the node count.) -/
theorem lhsInvalidateOld_total2 {env : Env} {rk : Nat → Nat} {fuel b : Nat} {br : BindRec} {s : State} {ex : Nat → Prop}
    (I : GInv2 env rk s allClosed ex br.allNodesCreatedOnRhs)
    (hnone : br.rhs = none → br.allNodesCreatedOnRhs = [])
    (hdy : ∀ m, m ∈ br.allNodesCreatedOnRhs → (s.nodeD m).createdIn = .bind b ∧ (s.nodeD m).parents = [] ∧
      (s.nodeD m).valid = true)
    (_hrhs : ∀ br1 r, s.binds[b]? = some br1 → br1.rhs = some r → r ∉ br.allNodesCreatedOnRhs)
    (hnf : ∀ m, (s.nodeD m).forceNecessary = false) (hnh : ∀ m, (s.nodeD m).numOnUpdateHandlers = 0)
    (hp : s.propagateInvalidity = [])
    (_hrn : ∀ (b' : Nat) (br' : BindRec), s.binds[b']? = some br' → br'.rhs = none → br'.allNodesCreatedOnRhs = [])
    (hf : s.nodes.size + 2 ≤ fuel) :
    Tot (Inval.lhsInvalidateOld fuel br) s (fun _ _ => True) :=
  have ⟨u, s', h, _⟩ := (NI.lhsInvalidateOld_corr (rk := rk) hnone (fun a ha => NI.sub_of_dying I hdy hnf hnh ha)
    (NI.recsK_of I.frag) hp).tot (by omega)
  ⟨u, s', h, trivial⟩

end IncrVerif.Proofs.NestH
