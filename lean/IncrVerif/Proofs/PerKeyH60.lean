import IncrVerif.Proofs.PerKeyH58
import IncrVerif.Proofs.PerKeyH59
/-!
# One `.right` iteration of the per-key loop, part b: the shape `RSh` of the state after the creation steps,
steps A–D (`σ → σ4`)
-/
namespace IncrVerif.Proofs.PerKeyH
open IncrVerif.Engine IncrVerif.Driver IncrVerif.Proofs IncrVerif.Proofs.Step IncrVerif.Proofs.Sched
open IncrVerif.Proofs.ExpertH IncrVerif.Proofs.EffH IncrVerif.Proofs.DriverH IncrVerif.Proofs.ExpertH.QR IncrVerif.Proofs.Xp

/-! ## the shape -/

/-- `τ` is `σ` plus the per-key input node `σ.nodes.size` (record `σ.experts.size`, one dependency on `lc`) and an
instance of `tm` right behind it; old records outside `D` are untouched -/
structure RSh (env : Env) (op : Nat) (key : Int) (lc : Nat) (tm : Template) (D : Nat → Prop) (σ τ : State)
    (mapped : Nat) : Prop where
  mid : Mid (twEnv env) (twL [] τ)
  slots : SlotInv env τ
  lfx : LFX D σ τ
  size : τ.nodes.size = σ.nodes.size + 1 + tm.instrs.length
  xsize : τ.experts.size = σ.experts.size + 1
  pnode : nodeKey (τ.nodeD σ.nodes.size) = nodeKey ({ kind := .expert σ.experts.size, createdIn := .top } : Node)
  inode : ∀ j i, tm.instrs[j]? = some i → ∃ k,
    instrKind σ.top (σ.nodes.size :: List.range' (σ.nodes.size + 1) j) (.int key) i = some k ∧
    nodeKey (τ.nodeD (σ.nodes.size + 1 + j)) = nodeKey ({ kind := k, createdIn := .top } : Node)
  ret : resP σ.top (σ.nodes.size :: List.range' (σ.nodes.size + 1) tm.instrs.length) tm.ret = some mapped
  xnew : ∃ erX, τ.experts[σ.experts.size]? = some erX ∧ erX.f = 0 ∧ erX.node = σ.nodes.size ∧
    erX.pk = some (op, some key) ∧ erX.children = [{ dep := σ.nextDep, child := lc, cb := none }] ∧
    erX.forceStale = true

/-! ## `SlotInv` along a creation frame -/

theorem r_no_mapRef {E : Env} {l : List Event} {σ : State} (M : Mid E (twL l σ)) (m p i : Nat) :
    (σ.nodeD m).kind ≠ .mapRef p i := by
  intro h
  have := M.frag.noMapRef m p i
  rw [KtwL_kind, h] at this
  exact this rfl

theorem r_cfx_slots {env : Env} {σ τ : State} (M : Mid (twEnv env) (twL [] σ)) (S : SlotInv env σ) (C : CFX σ τ) :
    SlotInv env τ := by
  refine CFX.slotInv S C (fun n e hk => ?_) (fun n e er hk he ed hed => ?_) (r_no_mapRef M)
  · have hk' : ((twL [] σ).nodeD n).kind = .expert e := by rw [KtwL_kind, hk]; rfl
    have := M.frag.xlt hk'
    rwa [twL_experts_size] at this
  · refine r_kids_lt M (m := n) (c := ed.child) ?_
    rw [hk]
    simp only [kidsX, xRec_some he]
    exact List.mem_map.2 ⟨ed, hed, rfl⟩

/-! ## steps A, B -/

/-- an old node keeps its children when a record is pushed -/
theorem rS1_kidsX {E : Env} (op : Nat) (key : Int) {σ : State} (M : Mid E (twL [] σ)) {m : Nat}
    (hm : m < σ.nodes.size) :
    kidsX (rS1 op key σ).experts ((rS1 op key σ).nodeD m).kind = kidsX σ.experts (σ.nodeD m).kind := by
  refine (LF.bf (D := fun _ => False) (lf_rS1 op key σ _)).gf.kidsX_same hm fun e hk => ⟨fun h => h, ?_⟩
  have hk' : ((twL [] σ).nodeD m).kind = .expert e := by rw [KtwL_kind, hk]; rfl
  obtain ⟨er', h1, -⟩ := M.frag.xrec m e (by rw [twL_size]; exact hm) hk'
  obtain ⟨er, h2, -⟩ := tw_rec_inv h1
  exact ⟨er, h2⟩

theorem r_stepAB {env : Env} {fuel op lc : Nat} {key : Int} {σ σ2 : State} {d1 : Nat}
    (M : Mid (twEnv env) (twL [] σ)) (S : SlotInv env σ) (hlc : lc < σ.nodes.size)
    (h : (expertAddDependency env fuel σ.nodes.size lc false).run.run (rS1 op key σ) = (.ok d1, σ2)) :
    Mid (twEnv env) (twL [] σ2) ∧ SlotInv env σ2 ∧ LFX (fun _ => False) σ σ2 ∧
      σ2.nodes.size = σ.nodes.size + 1 ∧ σ2.experts.size = σ.experts.size + 1 ∧
      nodeKey (σ2.nodeD σ.nodes.size) = nodeKey ({ kind := .expert σ.experts.size, createdIn := .top } : Node) ∧
      σ2.nextDep = σ.nextDep + 1 ∧ σ2.perkeys = σ.perkeys ∧
      ∃ erX, σ2.experts[σ.experts.size]? = some erX ∧ erX.f = 0 ∧ erX.node = σ.nodes.size ∧
        erX.pk = some (op, some key) ∧ erX.children = [{ dep := σ.nextDep, child := lc, cb := none }] ∧
        erX.forceStale = true := by
  have M1 : Mid (twEnv env) (twL [] (rS1 op key σ)) := by
    rw [twL_rS1]; exact mid_xElab M (twEnv_xEnvOK env 0) (by decide)
  have S1 : SlotInv env (rS1 op key σ) := r_cfx_slots M S (cfx_rS1 op key σ)
  have hacyc : ¬ ExpertH.Below (rS1 op key σ) lc σ.nodes.size := by
    refine not_below_fresh (by omega) fun m hmem => ?_
    by_cases hm : m < σ.nodes.size
    · rw [rS1_kidsX op key M hm] at hmem
      have := r_kids_lt M hmem
      omega
    · by_cases hm' : m = σ.nodes.size
      · rw [hm', rS1_nodeD_new] at hmem
        simp only [kidsX, xRec_some (rS1_experts_new op key σ)] at hmem
        cases hmem
      · rw [nodeD_default_of_ge _ m (by rw [rS1_size]; omega)] at hmem
        cases hmem
  obtain ⟨M2, S2, lfx, lk, -, hnd, er', he', hch, hfs, k1, k2, k3⟩ :=
    r_addDep M1 S1 (by rw [rS1_size]; omega) (by rw [rS1_nodeD_new]) (rS1_experts_new op key σ)
      (by rw [rS1_size]; omega) hacyc h
  have lfx1 : LFX (fun e' => e' = σ.experts.size) σ (rS1 op key σ) :=
    ⟨lf_rS1 op key σ _, fun e er er2 _ he he2 => by rw [rS1_experts_old op key σ he] at he2; cases he2; rfl⟩
  refine ⟨M2, S2, (lfx1.trans lfx).restrict (fun e he hd => by omega), by rw [lk.size, rS1_size],
    by rw [lk.xsize, rS1_xsize], ?_, by rw [hnd, rS1_nextDep], by rw [lk.perkeys, rS1_perkeys],
    er', he', k1, k2, k3, hch, hfs⟩
  have := lfx.lf.node σ.nodes.size (by rw [rS1_size]; omega)
  rw [this, rS1_nodeD_new]

/-! ## first readers of the shape -/

namespace RSh
variable {env : Env} {op : Nat} {key : Int} {lc : Nat} {tm : Template} {D : Nat → Prop} {σ τ : State} {mapped : Nat}

theorem top (R : RSh env op key lc tm D σ τ mapped) : τ.top = σ.top := (LF.bf R.lfx.lf).top

theorem kind_p (R : RSh env op key lc tm D σ τ mapped) : (τ.nodeD σ.nodes.size).kind = .expert σ.experts.size := by
  have := R.pnode
  simp only [nodeKey, Prod.mk.injEq] at this
  exact this.1

theorem kind_i (R : RSh env op key lc tm D σ τ mapped) {j : Nat} {i : Instr} (h : tm.instrs[j]? = some i) :
    instrKind σ.top (σ.nodes.size :: List.range' (σ.nodes.size + 1) j) (.int key) i
      = some (τ.nodeD (σ.nodes.size + 1 + j)).kind := by
  obtain ⟨k, h1, h2⟩ := R.inode j i h
  simp only [nodeKey, Prod.mk.injEq] at h2
  rw [h2.1]; exact h1

theorem kind_old (R : RSh env op key lc tm D σ τ mapped) {m : Nat} (h : m < σ.nodes.size) :
    (τ.nodeD m).kind = (σ.nodeD m).kind := (LF.bf R.lfx.lf).kind m h

theorem mono (R : RSh env op key lc tm D σ τ mapped) {D' : Nat → Prop} (h : ∀ e, D e → D' e) :
    RSh env op key lc tm D' σ τ mapped :=
  ⟨R.mid, R.slots, R.lfx.mono h, R.size, R.xsize, R.pnode, R.inode, R.ret, R.xnew⟩

end RSh

/-! ## steps C, D -/

theorem r_stepAD {env : Env} {fuel op lc : Nat} {key : Int} {tm : Template} {σ σ2 σ4 : State} {d1 mapped : Nat}
    {ev : Event} (M : Mid (twEnv env) (twL [] σ)) (S : SlotInv env σ) (hlc : lc < σ.nodes.size)
    (hT : TemplOK env tm) (hout : ∀ k, k ∈ templOuter tm → ∀ o, σ.top[k]? = some o → o < σ.nodes.size)
    (h1 : (expertAddDependency env fuel σ.nodes.size lc false).run.run (rS1 op key σ) = (.ok d1, σ2))
    (h4 : (elabTemplateBase tm (.int key) [σ.nodes.size]).run.run (rLog ev σ2) = (.ok mapped, σ4)) :
    RSh env op key lc tm (fun _ => False) σ σ4 mapped ∧ σ4.nextDep = σ.nextDep + 1 ∧ σ4.perkeys = σ.perkeys ∧
      mapped < σ4.nodes.size := by
  obtain ⟨M2, S2, lfx2, hsz2, hxs2, hp2, hnd2, hpk2, hx2⟩ := r_stepAB (op := op) (key := key) M S hlc h1
  have M3 : Mid (twEnv env) (twL [] (rLog ev σ2)) := M2
  have hsc : (rLog ev σ2).currentScope = .top := M2.scope
  have htop2 : σ2.top = σ.top := (LF.bf lfx2.lf).top
  obtain ⟨hsz, hrest, hold, hnew, hret, htw⟩ := elabTemplateBase_shape hT hsc h4
  obtain ⟨l', htw'⟩ := htw []
  have hsz3 : (rLog ev σ2).nodes.size = σ.nodes.size + 1 := hsz2
  have htop3 : (rLog ev σ2).top = σ.top := htop2
  have M4' := elabTemplateBase_mid (E := twEnv env) M3 hT (fun _ _ _ => rfl)
    (fun k hk o ho => by
      rw [twL_size, hsz3]
      have : σ.top[k]? = some o := by rw [← htop3]; exact ho
      have := hout k hk o this
      omega)
    (by rw [twL_size, hsz3]; omega) htw'
  have M4 := M4'.1
  have hmlt : mapped < σ4.nodes.size := by
    have := M4'.2.2.2.2.1
    rwa [twL_size] at this
  have hexp : σ4.experts = (rLog ev σ2).experts := by have h := congrArg State.experts hrest; exact h
  have hnd : σ4.nextDep = (rLog ev σ2).nextDep := by have h := congrArg State.nextDep hrest; exact h
  have hpk : σ4.perkeys = (rLog ev σ2).perkeys := by have h := congrArg State.perkeys hrest; exact h
  have hek : eKey σ4 = eKey (rLog ev σ2) := by have h := congrArg eKey hrest; exact h
  -- the new nodes
  have hnewk : ∀ m, (rLog ev σ2).nodes.size ≤ m → m < σ4.nodes.size → ∃ j i k, m = (rLog ev σ2).nodes.size + j ∧
      tm.instrs[j]? = some i ∧
      instrKind (rLog ev σ2).top (σ.nodes.size :: (List.range' (rLog ev σ2).nodes.size tm.instrs.length).take j)
        (.int key) i = some k ∧ σ4.nodeD m = { kind := k, createdIn := .top } := by
    intro m hm1 hm2
    have hj : m - (rLog ev σ2).nodes.size < tm.instrs.length := by omega
    obtain ⟨k, hk1, hk2⟩ := hnew _ _ (List.getElem?_eq_getElem hj)
    refine ⟨_, _, k, by omega, List.getElem?_eq_getElem hj, hk1, ?_⟩
    rw [← hk2]; congr 1; omega
  have hnotx : ∀ m e, (rLog ev σ2).nodes.size ≤ m → (σ4.nodeD m).kind ≠ .expert e := by
    intro m e hm hk
    by_cases hm2 : m < σ4.nodes.size
    · obtain ⟨j, i, k, -, hi, hk1, hk2⟩ := hnewk m hm hm2
      rw [hk2] at hk
      exact (instrKind_facts (hT.instr i (List.mem_of_getElem? hi)) hk1).2.2.1 e hk
    · rw [nodeD_default_of_ge σ4 m (by omega)] at hk; cases hk
  have C34 : CFX (rLog ev σ2) σ4 := by
    refine ⟨by omega, hold, fun m e hm hk => absurd hk (hnotx m e hm), by rw [hexp]; exact Nat.le_refl _,
      fun e _ => by rw [hexp], fun e er he h => ?_, hnd⟩
    rw [hexp] at h
    have := (Array.getElem?_eq_some_iff.1 h).1
    omega
  have S4 : SlotInv env σ4 :=
    r_cfx_slots M2 S2 ((CFX.of_nodes (s := σ2) (s' := rLog ev σ2) rfl rfl rfl).trans C34)
  have lfx34 : LFX (fun _ => False) (rLog ev σ2) σ4 := by
    refine ⟨⟨by omega, fun m hm => by rw [hold m hm], hek, by rw [hexp]; exact Nat.le_refl _,
      fun e er he => ⟨er, by rw [hexp]; exact he, rfl, rfl, rfl, rfl, rfl, rfl, id, fun _ => rfl,
        ⟨[], (List.append_nil _).symm⟩, Or.inl ⟨rfl, rfl⟩⟩,
      by rw [hnd]; exact Nat.le_refl _, fun m hm1 hm2 => ?_, fun m hm => ?_⟩,
      fun e er er' _ he he' => by rw [hexp, he] at he'; cases he'; rfl⟩
    · obtain ⟨j, i, k, -, hi, hk1, hk2⟩ := hnewk m hm1 hm2
      rw [hk2]
      have hf := instrKind_facts (hT.instr i (List.mem_of_getElem? hi)) hk1
      exact NewNode.fresh hf.2.1 fun f args hh => Nat.lt_trans (hf.2.2.2.2 f args hh) (by decide)
    · by_cases hlt : m < (rLog ev σ2).nodes.size
      · simp only [State.isNecessary, hold m hlt]; exact hm
      · simp only [State.isNecessary, nodeD_default_of_ge (rLog ev σ2) m (by omega)] at hm
        cases hm
  have lfx23 : LFX (fun _ => False) σ2 (rLog ev σ2) := LFX.of_same rfl rfl rfl rfl
  refine ⟨⟨mid_relog M4 [], S4, lfx2.trans (lfx23.trans lfx34), by omega, by rw [hexp]; exact hxs2, ?_,
    fun j i hji => ?_, ?_, ?_⟩, by rw [hnd]; exact hnd2, by rw [hpk]; exact hpk2, hmlt⟩
  · rw [hold σ.nodes.size (by omega)]; exact hp2
  · have hlt : j < tm.instrs.length := by
      rcases Nat.lt_or_ge j tm.instrs.length with h | h
      · exact h
      · rw [List.getElem?_eq_none h] at hji; cases hji
    obtain ⟨k, hk1, hk2⟩ := hnew j i hji
    rw [htop3, hsz3, List.take_range'_of_length_ge (Nat.le_of_lt hlt)] at hk1
    rw [hsz3] at hk2
    exact ⟨k, hk1, by rw [hk2]⟩
  · rw [htop3, hsz3] at hret; exact hret
  · rw [hexp]; exact hx2

end IncrVerif.Proofs.PerKeyH
