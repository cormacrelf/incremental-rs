import IncrVerif.Proofs.PerKeyH4
/-!
# Per-key operators, a run of an expert node, part 1: the master equation of the `.expert` branch for a record with
`pk ≠ none` (the variant of `Xp.recomputeOne_expert_run`, which needs `pk = none`)

No `tick`, no log line; the callbacks do not log either.  The state in which the closure runs is
`readyP env n e s er = putExpert e (readyRec env s er) (started n s)`.
-/
namespace IncrVerif.Proofs.PerKeyH
open IncrVerif.Engine IncrVerif.Driver IncrVerif.Proofs IncrVerif.Proofs.Step IncrVerif.Proofs.Sched
open IncrVerif.Proofs.ExpertH IncrVerif.Proofs.EffH IncrVerif.Proofs.DriverH IncrVerif.Proofs.Xp

/-- `Edge::on_change` on a record of a per-key operator: no tick, no event -/
theorem xs_edgeOnChange_run_pk (env : Env) {e : Nat} (edge : ExpertEdge) {s : State} {er : ExpertRec}
    (he : s.experts[e]? = some er) (hpk : er.pk.isNone = false) :
    (edgeOnChange env e edge).run.run s = (.ok (), putExpert e (fireRec env s er edge) s) := by
  unfold edgeOnChange fireRec
  cases hcb : edge.cb with
  | none => rw [putExpert_self he]; rfl
  | some c =>
    simp only [run_bind_get]
    cases hv : s.value env edge.child with
    | none => rw [putExpert_self he]; rfl
    | some v =>
      rw [run_bind_ok (Xp.run_getExpert_some he)]
      simp only [hpk, Bool.false_eq_true, if_false]
      rw [run_modExpert_some _ he]

theorem fireRec_pk (env : Env) (s : State) (r : ExpertRec) (a : ExpertEdge) : (fireRec env s r a).pk = r.pk := by
  unfold fireRec; split <;> rfl

/-- the `for edge in children do edge.on_change()` loop on a record of a per-key operator -/
theorem xs_fireLoop_run_pk (env : Env) (e : Nat) (edges : List ExpertEdge) :
    ∀ (s : State) (er r : ExpertRec), s.experts[e]? = some er → r.pk.isNone = false →
      (forIn edges PUnit.unit (fun edge (_ : PUnit) => do
          edgeOnChange env e edge
          pure (ForInStep.yield PUnit.unit) : ExpertEdge → PUnit → M (ForInStep PUnit))).run.run (putExpert e r s) =
        (.ok PUnit.unit, putExpert e (edges.foldl (fireRec env s) r) s) := by
  induction edges with
  | nil => intro s er r _ _; rfl
  | cons a rest ih =>
    intro s er r he hpk
    have he' : (putExpert e r s).experts[e]? = some r := putExpert_get r he
    have hval : ∀ c, (putExpert e r s).value env c = s.value env c := fun c => putExpert_value env e r s c
    rw [List.forIn_cons, bind_assoc, run_bind_ok (xs_edgeOnChange_run_pk env a he' hpk), pure_bind,
      fireRec_congr env s _ hval, putExpert_put]
    exact ih s er _ he (by rw [fireRec_pk]; exact hpk)

/-- the state in which the closure of an expert node of a per-key operator runs -/
def readyP (env : Env) (n e : Nat) (s : State) (er : ExpertRec) : State :=
  putExpert e (readyRec env s er) (started n s)

/-- master equation of the expert branch, record of a per-key operator, no invalid children -/
theorem xs_recomputeOne_pk_run (env : Env) (fuel n : Nat) {s : State} {nd : Node} {e : Nat}
    {er : ExpertRec} (hx : IsExpert s n nd e er) (hpk : er.pk.isNone = false)
    (hinv : ¬ er.numInvalidChildren > 0) :
    (recomputeOne env fuel n).run.run s =
      (do
        let v ← expertValue env e (depValsOf env s (readyRec env s er)) (slotValsOf (readyRec env s er))
        maybeChangeValue env fuel n v : M (Option Nat)).run.run (readyP env n e s er) := by
  have hk? : ({ nd with recomputedAt := s.stabNum } : Node).kind? = some (.expert e) := by
    simp [Node.kind?, hx.valid, hx.kind]
  have hn' := started_getElem? n s nd hx.node
  have he0 : (started n s).experts[e]? = some er := hx.xrec
  have he1 : (putExpert e (resetRec er) (started n s)).experts[e]? = some (resetRec er) :=
    putExpert_get _ he0
  have hval1 : ∀ c, (putExpert e (resetRec er) (started n s)).value env c = s.value env c := by
    intro c; rw [putExpert_value, started_value]
  have hvalS : ∀ (x : ExpertRec) (c : Nat), (putExpert e x (started n s)).value env c = s.value env c := by
    intro x c; rw [putExpert_value, started_value]
  have hput : ∀ (x : ExpertRec), (putExpert e x (started n s)).experts[e]? = some x := by
    intro x; exact putExpert_get x he0
  have hloop := fun edges => xs_fireLoop_run_pk env e edges (started n s) er (resetRec er) he0 hpk
  rw [fireRec_congr env s _ (started_value env n s)] at hloop
  -- the tail: reading the record, the closure
  have tail : ∀ (d : ExpertRec → State → List (Option Val)) (g : ExpertRec → List (Option Val))
      (S : State) (r : ExpertRec), S.experts[e]? = some r → r.pk.isNone = false →
      (do
        let er ← getExpert e
        let s ← get
        if er.pk.isNone = true then do
            tick
            let v ← expertValue env e (d er s) (g er)
            if er.pk.isNone = true then do
                logEv (Event.inv (toString "x" ++ toString er.f) n [] v.render)
                maybeChangeValue env fuel n v
              else maybeChangeValue env fuel n v
          else do
            let v ← expertValue env e (d er s) (g er)
            if er.pk.isNone = true then do
                logEv (Event.inv (toString "x" ++ toString er.f) n [] v.render)
                maybeChangeValue env fuel n v
              else maybeChangeValue env fuel n v : M (Option Nat)).run.run S =
        (do
          let v ← expertValue env e (d r S) (g r)
          maybeChangeValue env fuel n v : M (Option Nat)).run.run S := by
    intro d g S r hr hrpk
    rw [run_bind_ok (Xp.run_getExpert_some hr), run_bind_get]
    simp only [hrpk, Bool.false_eq_true, if_false]
  unfold recomputeOne
  simp only [run_bind_get]
  cases hd : s.cfg.debug
  all_goals
    simp only [started, hd, Bool.false_eq_true, if_false, if_true, run_bind_modify,
      run_bind_bumpCounter, run_bind_get, run_bind_modNode, resetRec] at hn' he0 he1 hval1 hvalS hput hloop tail ⊢
    rw [run_bind_ok (run_getNode_some hn'), hk?]
    dsimp only
    rwx run_bind_getExpert er with hx.xrec
    rw [if_neg hinv]
    rwx run_bind_getExpert er with hx.xrec
    rwx run_bind_modExpert er with hx.xrec
    cases hw : er.willFireAllCallbacks
    · simp only [Bool.false_eq_true, if_false]
      rw [tail _ _ _ (resetRec er)]
      rotate_left
      · exact he1
      · exact hpk
      simp only [hval1, readyRec, readyP, hw, Bool.false_eq_true, if_false, started, hd, resetRec, depValsOf]
      rfl
    · simp only [if_true]
      rw [run_bind_ok (Xp.run_getExpert_some he1), run_bind_ok (hloop _)]
      have hf := foldl_fireRec_fields env s er.children (resetRec er)
      rw [tail _ _ _ (er.children.foldl (fireRec env s) (resetRec er))]
      rotate_left
      · exact hput _
      · rw [hf.2.2.2.2.2.1]; exact hpk
      have hf3 := hf.2.2.1
      simp only [resetRec] at hf3
      simp only [hvalS, readyRec, readyP, hw, if_true, started, hd, resetRec, depValsOf, slotValsOf, hf3]
      rfl

/-- a successful closure does not change the state -/
theorem expertValue_state {env : Env} {e : Nat} {d sl : List (Option Val)} {S S1 : State} {v : Val}
    (h : (expertValue env e d sl).run.run S = (.ok v, S1)) : S1 = S := by
  cases he : S.experts[e]? with
  | none =>
    unfold expertValue at h
    rw [run_bind, Xp.run_getExpert, he] at h
    cases h
  | some er =>
    cases hpk : er.pk with
    | none =>
      rw [Xp.expertValue_run env d sl he hpk] at h
      cases h; rfl
    | some p =>
      obtain ⟨op, ko⟩ := p
      cases ko with
      | none =>
        rw [PerKey.expertValue_result env e d sl S er op he hpk] at h
        cases h; rfl
      | some key =>
        rw [PerKey.expertValue_input env e d sl S er op key he hpk] at h
        split at h
        · cases h; rfl
        · cases h

/-- inversion form: a successful run is the closure (state unchanged) and a successful `maybeChangeValue`, from `readyP` -/
theorem recomputeOne_pk_run (env : Env) (fuel n : Nat) {s s' : State} {nd : Node} {e : Nat} {er : ExpertRec}
    {r : Option Nat} (hx : IsExpert s n nd e er) (hpk : er.pk.isNone = false)
    (hinv : ¬ er.numInvalidChildren > 0)
    (h : (recomputeOne env fuel n).run.run s = (.ok r, s')) :
    ∃ v, (expertValue env e (depValsOf env s (readyRec env s er)) (slotValsOf (readyRec env s er))).run.run
        (readyP env n e s er) = (.ok v, readyP env n e s er) ∧
      (maybeChangeValue env fuel n v).run.run (readyP env n e s er) = (.ok r, s') := by
  rw [xs_recomputeOne_pk_run env fuel n hx hpk hinv] at h
  obtain ⟨v, T1, hv, hrun⟩ := bind_ok_inv h
  have hT1 := expertValue_state hv
  subst hT1
  exact ⟨v, hv, hrun⟩

end IncrVerif.Proofs.PerKeyH
