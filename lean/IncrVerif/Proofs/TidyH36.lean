import IncrVerif.Proofs.ExpertH38
/-!
# T4: `adjustHeights` returns (total correctness) for `QR.GInv`: the headline `adjustHeights_totalR`, from `QR.adjustHeights_corr`

`adjustHeights oc op' fuel` RETURNS (no "cyclic" panic: the new edge respects the rank; no "height-limit": the depth
bounds the heights and there is room; no assertion fails; `s.nodes.size + 1 ≤ fuel` suffices: every node is popped
from the adjust-heights heap at most once) and the height bound then holds for ALL necessary nodes, `op'` included.
-/
namespace IncrVerif.Proofs.TidyH.XT
open IncrVerif.Engine IncrVerif.Driver IncrVerif.Proofs IncrVerif.Proofs.Step IncrVerif.Proofs.Sched
open IncrVerif.Proofs.ExpertH IncrVerif.Proofs.ExpertH.QR IncrVerif.Proofs.ExpertH.QR.BA

open X4e in
/-- **`adjustHeights` returns and restores the height invariant and the height bound** (TOTAL correctness).
Hypotheses of `QR.adjustHeights_specR_full`, plus: `hb` every closed necessary node is within the depth bound (`op'` is
open: nothing is assumed about it except `h0`), `R` room, `hge` the precondition of the call (`stateAddParent` calls
`adjustHeights child parent` only if `child.height ≥ parent.height`), fuel for one pop per node. -/
theorem adjustHeights_totalR {env : Env} {rk : Nat → Nat} {N oc op' fuel : Nat} {s : State} {op : Nat → Op}
    (I : GInv env rk s op) (hb : HBd s op) (R : Room N s)
    (hopen : ∃ k, op op' = .linking k) (hclosed : ∀ m, m ≠ op' → op m = .closed)
    (hedge : ∃ i, (op', i) ∈ (s.nodeD oc).parents)
    (hother : ∀ c i, (op', i) ∈ (s.nodeD c).parents → c ≠ oc → (s.nodeD c).height < (s.nodeD op').height)
    (hgtop : (s.nodeD op').inRch = true → (s.nodeD op').heightInRch = (s.nodeD op').height)
    (hah : AhhEmpty s)
    (hge : (s.nodeD op').height ≤ (s.nodeD oc).height) (h0 : 0 ≤ (s.nodeD op').height)
    (hf : s.nodes.size + 1 ≤ fuel) :
    Tot (adjustHeights oc op' fuel) s (fun _ s' =>
      GInv env rk s' op ∧ AhhEmpty s' ∧ HRel s s' ∧
        (∀ c i, (op', i) ∈ (s'.nodeD c).parents → (s'.nodeD c).height < (s'.nodeD op').height) ∧
        ((s'.nodeD op').inRch = true → (s'.nodeD op').heightInRch = (s'.nodeD op').height) ∧
        (∀ m, rk m < rk op' → s'.nodeD m = s.nodeD m) ∧
        (∀ m, s'.isNecessary m = true → (s'.nodeD m).height ≤ (dp s' m : Int) + 1) ∧ Room N s') := by
  obtain ⟨i0, hedge⟩ := hedge
  obtain ⟨k0, hopen⟩ := hopen
  have hrk : rk oc < rk op' := I.par_lt hedge
  have hocp : oc ≠ op' := I.par_ne hedge
  have hnoc : s.isNecessary oc = true := nec_of_mem_parents hedge
  have hnop : s.isNecessary op' = true := I.lnec _ _ hopen
  have hoc : oc < s.nodes.size := nec_lt_size hnoc
  have hop : op' < s.nodes.size := nec_lt_size hnop
  have HT : LoopHypT env rk oc op' s := by
    refine ⟨I.static, fun c p i h => (I.par c p i h).1, ?_, ?_, ?_, hrk⟩
    · intro c p i h
      have h2 := (I.par c p i h).2
      by_cases e : p = op'
      · rw [e]; exact hnop
      · exact (wants_closed (hclosed p e)).1 h2
    · intro m hn
      by_cases e : m = op'
      · rw [e]; exact h0
      · exact I.hpos m hn (hclosed m e)
    · intro c p i h hco
      by_cases e : p = op'
      · rw [e] at h ⊢; exact hother c i h hco
      · exact I.hlt c p i h (hclosed p e)
  have hP : AdjP env rk N oc op' fuel s :=
    ⟨HT, R, fun m hn hz => hb m hn (hclosed m hz), ⟨i0, hedge⟩, hnop, hge, h0, hf⟩
  obtain ⟨u, s3, h, A3, E3, T3⟩ := (adjustHeights_corr (N := N) (fuel := fuel) (fun x q i hm => I.par_lt hm)
    (no_bindLhs fun m hm => (I.node hm).kind) I.heap hocp
    (fun c p i hm => by
      by_cases e : p = op'
      · by_cases ec : c = oc
        · exact Or.inr ⟨ec, e⟩
        · rw [e] at hm ⊢; exact Or.inl (hother c i hm ec)
      · exact Or.inl (I.hlt c p i hm (hclosed p e)))
    (fun m hqm => by
      by_cases e : m = op'
      · rw [e] at hqm ⊢; exact hgtop hqm
      · exact I.hgt m hqm (hclosed m e))
    hah).tot ⟨env, hP⟩
  obtain ⟨dn3, T3⟩ := T3 ⟨env, hP⟩
  obtain ⟨k1, k2, k3⟩ := keep (op' := op') A3 E3 I
  refine ⟨u, s3, h, k1, E3, A3.rel, k2, k3, A3.low, ?_, T3.room⟩
  intro m hn
  rw [dp_congr (fun x => A3.rel.kind (m := x)) A3.rel.size]
  rw [A3.rel.nec] at hn
  exact T3.bound m hn (fun h => h)

end IncrVerif.Proofs.TidyH.XT
