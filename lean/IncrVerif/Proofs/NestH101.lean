import IncrVerif.Proofs.NestH100
import IncrVerif.Proofs.DrainGrow
/-!
# Total correctness of the drain when the graph GROWS during the drain, part 2: the direct-recompute chain and `drainHeap`

Potential argument relative to the node count `M` of the FINAL state (known in `TotIf`): `Φ_M(s) = unrun s + (M - s.nodes.size)` goes down by at least one with
every `recomputeOne` on the current node (`T2g.unrun_lt`: the node gets its stamp; a new node adds one to `unrun` and removes one from `M - size`).  A run of
a change detector is called with the CURRENT fuel, which must still be `≥ need1 M`; so

* the chain `recompute env fuel n` returns if `need1 M + Φ_M(s) ≤ fuel`      (`T2g.recompute_totG`),
* the drain `drainHeap env fuel` returns if `need1 M + Φ_M(s) + 1 ≤ fuel`    (`T2g.drainHeap_totG`),

and `Φ_M(s) ≤ M`: **`drain_totalG`: `LcStepTotG need1 env N → DrainTotG need2 env N` whenever `need1` is monotone, `1 ≤ need1 sz` and
`need1 sz + sz + 1 ≤ need2 sz`** (and the same for the chain, `chain_totalG`).

With ONE bound `needFuel` for both contracts (`LcStepTot env N → DrainTot env N`, as `NestH109` states them) the implication is NOT provable from the contract:
the drain with fuel `F = needFuel M` calls its last change detector with fuel `≤ F - 2 < needFuel M`.  Instances:
`drain_total2 : LcStepTotG stepFuel env N → DrainTot env N` with `stepFuel sz = 3 * sz + 7` (`stepFuel sz + sz + 1 = needFuel sz`), and
`drain_total2' : LcStepTot env N → DrainTotG (fun sz => needFuel sz + sz + 1) env N`.
-/
namespace IncrVerif.Proofs.NestH
open IncrVerif.Engine IncrVerif.Driver IncrVerif.Proofs IncrVerif.Proofs.Step IncrVerif.Proofs.Sched IncrVerif.Proofs.Quiet
open IncrVerif.Proofs.BindH

/-- CONTRACT (parametrised): the direct-recompute chain returns if the state it ends in has room for `need` -/
def ChainTotG (need : Nat → Nat) (env : Env) (N : Nat) : Prop :=
  ∀ (fuel n : Nat) (s : State), DInv env s (some n) → DT env N s →
    TotIf (recompute env fuel n) s (HasRoomG need N fuel) (fun _ s' => DT env N s' ∧ DInv env s' none)

namespace T2g

section
variable {need : Nat → Nat} {env : Env} {N : Nat} (L : LcStepTotG need env N) (hpos : ∀ sz, 1 ≤ need sz)
include L hpos

/-- a step of the drain, for `Drain.recompute_totIf` -/
theorem totIf_step (s : State) (n fuel : Nat) (r1 : Except Panic (Option Nat)) (s1 : State) (j : DInv env s (some n) ∧ DT env N s)
    (h1 : (recomputeOne env fuel n).run.run s = (r1, s1)) (hN : s1.nodes.size ≤ N) (hf : need s1.nodes.size ≤ fuel) :
    ∃ r s1', r1 = .ok r ∧ s1' = s1 ∧ (DInv env s1' r ∧ DT env N s1') ∧ unrun s1' + s.nodes.size + 1 ≤ unrun s + s1.nodes.size := by
  obtain ⟨-, hnlt, -, -, hfr⟩ := j.1.cur_facts
  have hp := hpos s1.nodes.size
  obtain ⟨r, e, D1⟩ := step_tot L j.1 j.2 h1 hN hf (by omega)
  subst e
  obtain ⟨I1, -, f1, hn1, -⟩ := recomputeOne_invB2 (lcStepsOK_F2' env) j.1 (DT.aux j.2) h1
  exact ⟨r, s1, rfl, rfl, ⟨I1, D1⟩, unrun_lt f1 j.1.stamps hnlt hfr hn1⟩

/-- **the chain**: whatever the outcome of `recompute env fuel n` from the drain invariant, if the state `s'` it ends in has at most `N` nodes and
`need M + Φ_M(s) ≤ fuel` (`M = s'.nodes.size`), then the chain returned, `DT` and the drain invariant hold again, and the potential went down -/
theorem recompute_totG (hmono : ∀ a b, a ≤ b → need a ≤ need b) (fuel n : Nat) (s s' : State) (r : Except Panic Unit)
    (I : DInv env s (some n)) (D : DT env N s) (h : (recompute env fuel n).run.run s = (r, s')) (hN : s'.nodes.size ≤ N)
    (hf : need s'.nodes.size + unrun s + s'.nodes.size ≤ fuel + s.nodes.size) :
    r = .ok () ∧ DT env N s' ∧ DInv env s' none ∧ unrun s' + s.nodes.size + 1 ≤ unrun s + s'.nodes.size := by
  obtain ⟨e, _, rfl, j', hlt⟩ := Drain.recompute_totIf (st := id) (J := fun s x => DInv env s x ∧ DT env N s) (μ := unrun) hmono hpos
    recompute_size (fun s n j => unrun_pos j.1.cur_facts.2.1 j.1.cur_facts.2.2.2.2) (totIf_step L hpos) fuel n s r s' ⟨I, D⟩ h hN hf
  exact ⟨e, j'.2, j'.1, hlt⟩

/-- **the drain**: whatever the outcome of `drainHeap env fuel` from the drain invariant, if the state `s'` it ends in has at most `N` nodes and
`need M + Φ_M(s) + 1 ≤ fuel` (`M = s'.nodes.size`), then the drain returned, and `DT` and the drain invariant hold again -/
theorem drainHeap_totG (hmono : ∀ a b, a ≤ b → need a ≤ need b) (fuel : Nat) (s s' : State) (r : Except Panic Unit)
    (I : DInv env s none) (D : DT env N s) (h : (drainHeap env fuel).run.run s = (r, s')) (hN : s'.nodes.size ≤ N)
    (hf : need s'.nodes.size + unrun s + s'.nodes.size + 1 ≤ fuel + s.nodes.size) :
    r = .ok () ∧ DT env N s' ∧ DInv env s' none := by
  obtain ⟨e, _, rfl, j'⟩ := Drain.drainHeap_totIf (st := id) (J := fun s x => DInv env s x ∧ DT env N s) (μ := unrun) hmono hpos
    recompute_size drainHeap_size (fun s n j => unrun_pos j.1.cur_facts.2.1 j.1.cur_facts.2.2.2.2) (totIf_step L hpos)
    (fun s j => by
      obtain ⟨r1, s1, h1⟩ := rchRemoveMin_ok j.1.heap
      refine ⟨r1, s1, h1, ?_⟩
      cases r1 with
      | none => exact (rchRemoveMin_inv j.1.heap h1).1
      | some n =>
        obtain ⟨I1, f1⟩ := pop_invB j.1 h1
        exact ⟨s1, rfl, ⟨I1, pop_DT j.1.heap h1 j.2⟩, unrun_le f1 j.1.stamps⟩)
    fuel s r s' ⟨I, D⟩ h hN hf
  exact ⟨e, j'.2, j'.1⟩

end

end T2g

/-! ## the headline theorems -/

/-- **the direct-recompute chain is total** (parametrised contract) -/
theorem chain_totalG {need1 need2 : Nat → Nat} {env : Env} {N : Nat}
    (hmono : ∀ a b, a ≤ b → need1 a ≤ need1 b) (hpos : ∀ sz, 1 ≤ need1 sz) (h12 : ∀ sz, need1 sz + sz ≤ need2 sz)
    (L : LcStepTotG need1 env N) : ChainTotG need2 env N := by
  intro fuel n s I D r s' h hB
  obtain ⟨hN, hf⟩ := hB
  have h1 := unrun_le_size s
  have h2 := h12 s'.nodes.size
  obtain ⟨e, D', I', -⟩ := T2g.recompute_totG L hpos hmono fuel n s s' r I D h hN (by omega)
  exact ⟨(), e, D', I'⟩

/-- **the drain is total** (parametrised contract): the bound of the drain exceeds the bound of the runs of change detectors by `sz + 1` -/
theorem drain_totalG {need1 need2 : Nat → Nat} {env : Env} {N : Nat}
    (hmono : ∀ a b, a ≤ b → need1 a ≤ need1 b) (hpos : ∀ sz, 1 ≤ need1 sz) (h12 : ∀ sz, need1 sz + sz + 1 ≤ need2 sz)
    (L : LcStepTotG need1 env N) : DrainTotG need2 env N := by
  intro fuel s I D r s' h hB
  obtain ⟨hN, hf⟩ := hB
  have h1 := unrun_le_size s
  have h2 := h12 s'.nodes.size
  obtain ⟨e, D', -⟩ := T2g.drainHeap_totG L hpos hmono fuel s s' r I D h hN (by omega)
  exact ⟨(), e, D'⟩

/-- the same, also returning the drain invariant of the final state -/
theorem drain_totalG_inv {need1 need2 : Nat → Nat} {env : Env} {N : Nat}
    (hmono : ∀ a b, a ≤ b → need1 a ≤ need1 b) (hpos : ∀ sz, 1 ≤ need1 sz) (h12 : ∀ sz, need1 sz + sz + 1 ≤ need2 sz)
    (L : LcStepTotG need1 env N) (fuel : Nat) (s : State) (I : DInv env s none) (D : DT env N s) :
    TotIf (drainHeap env fuel) s (HasRoomG need2 N fuel) (fun _ s' => DT env N s' ∧ DInv env s' none) := by
  intro r s' h hB
  obtain ⟨hN, hf⟩ := hB
  have h1 := unrun_le_size s
  have h2 := h12 s'.nodes.size
  obtain ⟨e, D', I'⟩ := T2g.drainHeap_totG L hpos hmono fuel s s' r I D h hN (by omega)
  exact ⟨(), e, D', I'⟩

/-! ## instances for `needFuel` -/

/-- the fuel bound for ONE run of a change detector such that `stepFuel sz + sz + 1 = needFuel sz` -/
def stepFuel (sz : Nat) : Nat := 3 * sz + 7

/-- the only facts about `needFuel` / `stepFuel` that are used -/
theorem T2g.fuel_facts :
    (∀ a b, a ≤ b → stepFuel a ≤ stepFuel b) ∧ (∀ sz, 1 ≤ stepFuel sz) ∧ (∀ sz, stepFuel sz + sz + 1 ≤ needFuel sz) ∧
    (∀ a b, a ≤ b → needFuel a ≤ needFuel b) ∧ (∀ sz, 1 ≤ needFuel sz) := by
  unfold stepFuel needFuel
  refine ⟨?_, ?_, ?_, ?_, ?_⟩ <;> intros <;> omega

/-- **total correctness of the drain**, for the contracts of `NestH109` with the bound of the runs of change detectors lowered to `stepFuel` -/
theorem drain_total2 {env : Env} {N : Nat} (L : LcStepTotG stepFuel env N) : DrainTot env N :=
  drain_totalG T2g.fuel_facts.1 T2g.fuel_facts.2.1 T2g.fuel_facts.2.2.1 L

/-- the chain, same bounds -/
theorem chain_total2 {env : Env} {N : Nat} (L : LcStepTotG stepFuel env N) : ChainTotG needFuel env N :=
  chain_totalG T2g.fuel_facts.1 T2g.fuel_facts.2.1 (fun sz => by have := T2g.fuel_facts.2.2.1 sz; omega) L

/-- **total correctness of the drain**, for `LcStepTot` as it stands, with the bound of the drain raised by `sz + 1` -/
theorem drain_total2' {env : Env} {N : Nat} (L : LcStepTot env N) : DrainTotG (fun sz => needFuel sz + sz + 1) env N :=
  drain_totalG (need1 := needFuel) T2g.fuel_facts.2.2.2.1 T2g.fuel_facts.2.2.2.2 (fun _ => Nat.le_refl _) L

/-- the chain, same bounds -/
theorem chain_total2' {env : Env} {N : Nat} (L : LcStepTot env N) : ChainTotG (fun sz => needFuel sz + sz) env N :=
  chain_totalG (need1 := needFuel) T2g.fuel_facts.2.2.2.1 T2g.fuel_facts.2.2.2.2 (fun _ => Nat.le_refl _) L

end IncrVerif.Proofs.NestH
