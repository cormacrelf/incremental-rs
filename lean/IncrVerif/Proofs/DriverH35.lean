import IncrVerif.Proofs.DriverH6
/-!
# Drivers: whole histories

* `step_d`: every action of the fragment with drivers (`DActionOK`) that returns keeps `QInvX (noEff env)`.
* `run_d`, `prefix_d`, `stabilise_in_run_d`, `history_d`, `history_stabilise_d`.
Everything is relative to the contract `StabSpec env` of `stabilise` with drivers.
-/
namespace IncrVerif.Proofs.DriverH
open IncrVerif.Engine IncrVerif.Driver IncrVerif.Proofs IncrVerif.Proofs.Step IncrVerif.Proofs.Sched
open IncrVerif.Proofs.ExpertH IncrVerif.Proofs.ExpertH.QR IncrVerif.Proofs.EffH

namespace Hist

/-- every action other than `stabilise` is the same program under `env` and `noEff env` -/
theorem stepAction_noEff' (env : Env) (a : Action) (tk : Array Nat) (h1 : a ≠ .stabilise) :
    stepAction (noEff env) a tk = stepAction env a tk := by
  cases a
  case addDep e c cb =>
    unfold stepAction
    simp only [expertAddDependency_noEff]
  all_goals exact stepAction_noEff env _ tk h1 (fun _ _ _ => by intro h; cases h)

end Hist

/-- for every action but `stabilise`, `DActionOK` is `XActionOK` of the effect-free environment -/
theorem DActionOK.x {env : Env} {s : State} {a : Action} (h1 : a ≠ .stabilise) (ha : DActionOK env s a) :
    XActionOK (noEff env) s a := by
  cases a
  case stabilise => exact absurd rfl h1
  all_goals exact ha

theorem DActionOK.of_x {env : Env} {s : State} {a : Action} (h1 : a ≠ .stabilise)
    (ha : XActionOK (noEff env) s a) : DActionOK env s a := by
  cases a
  case stabilise => exact absurd rfl h1
  all_goals exact ha

/-- **every action of the fragment with drivers that returns keeps the invariant** (for some rank) -/
theorem step_d {env : Env} (hStab : StabSpec env) {rk : Nat → Nat} {s s' : State} {a : Action} {tk : Array Nat}
    {r : String × Array Nat} (Q : QInvX (noEff env) rk s) (ha : DActionOK env s a)
    (h : (stepAction env a tk).run.run s = (.ok r, s')) : ∃ rk', QInvX (noEff env) rk' s' := by
  by_cases h1 : a = .stabilise
  · subst h1
    exact (hStab rk fuelDefault s s' Q ha (step_stabilise h)).inv
  · rw [← Hist.stepAction_noEff' env a tk h1] at h
    exact step_x Q (ha.x h1) h

/-- one action of a run of the fragment with drivers -/
theorem runOKD_step {env : Env} (hStab : StabSpec env) {a : Action} {rest : List Action} {s s' : State} {tk : Array Nat}
    {r : String × Array Nat} (i : (∃ rk, QInvX (noEff env) rk s) ∧ RunOKD env (a :: rest) s tk)
    (hx : (stepAction env a tk).run.run s = (.ok r, s')) :
    (∃ rk, QInvX (noEff env) rk s') ∧ RunOKD env rest s' r.2 := by
  obtain ⟨⟨rk, Q⟩, ha⟩ := i
  exact ⟨step_d hStab Q ha.1 hx, ha.2 r s' hx⟩

/-- **whole runs**: from a state satisfying the invariant, a run of the fragment with drivers that returns ends in a
state satisfying the invariant -/
theorem run_d {env : Env} (hStab : StabSpec env) {rk : Nat → Nat} {acts : List Action} {s s' : State}
    {tk tk' : Array Nat} (Q : QInvX (noEff env) rk s) (ha : RunOKD env acts s tk)
    (h : runActions env acts s tk = .ok (s', tk')) : ∃ rk', QInvX (noEff env) rk' s' :=
  (Hist.runActions_inv (I := fun s tk rest => (∃ rk, QInvX (noEff env) rk s) ∧ RunOKD env rest s tk)
    (fun _ _ _ _ _ _ => runOKD_step hStab) ⟨⟨rk, Q⟩, ha⟩ (runActions_eq .. ▸ h)).1

/-- **every `stabilise` of a run of the fragment with drivers**: the state before satisfies the invariant and its
drivers are well-formed; the `stabilise` establishes `StabilisedD` -/
theorem stabilise_in_run_d {env : Env} (hStab : StabSpec env) {rk : Nat → Nat} {as bs : List Action} {s0 s : State}
    {tk0 tk : Array Nat} (Q0 : QInvX (noEff env) rk s0) (ha : RunOKD env (as ++ Action.stabilise :: bs) s0 tk0)
    (h : runActions env (as ++ Action.stabilise :: bs) s0 tk0 = .ok (s, tk)) :
    ∃ s1 tk1 s2 rk1, runActions env as s0 tk0 = .ok (s1, tk1) ∧ QInvX (noEff env) rk1 s1 ∧ DrvOK env s1 ∧
      (stabilise env fuelDefault).run.run s1 = (.ok (), s2) ∧ StabilisedD env fuelDefault s1 s2 ∧
      runActions env bs s2 tk1 = .ok (s, tk) := by
  simp only [runActions_eq] at h ⊢
  obtain ⟨s1, tk1, s2, h1, ⟨⟨rk1, Q1⟩, hb⟩, hst, -, h2⟩ :=
    Hist.runActions_stabilise (I := fun s tk rest => (∃ rk, QInvX (noEff env) rk s) ∧ RunOKD env rest s tk)
      (fun _ _ _ _ _ _ => runOKD_step hStab) ⟨⟨rk, Q0⟩, ha⟩ h
  have hd : DrvOK env s1 := hb.1
  exact ⟨s1, tk1, s2, rk1, h1, Q1, hd, hst, hStab rk1 fuelDefault s1 s2 Q1 hd hst, h2⟩

/-- **whole histories** from the initial state -/
theorem history_d {env : Env} (hStab : StabSpec env) {N : Nat} {d : Bool} {acts : List Action} {s : State}
    {tk : Array Nat} (ha : RunOKD env acts (State.init N d) #[])
    (h : runActions env acts (State.init N d) #[] = .ok (s, tk)) : ∃ rk, QInvX (noEff env) rk s :=
  run_d hStab (qinvX_init (noEff env) N d) ha h

/-- **every `stabilise` of a whole history** -/
theorem history_stabilise_d {env : Env} (hStab : StabSpec env) {N : Nat} {d : Bool} {as bs : List Action}
    {s : State} {tk : Array Nat}
    (ha : RunOKD env (as ++ Action.stabilise :: bs) (State.init N d) #[])
    (h : runActions env (as ++ Action.stabilise :: bs) (State.init N d) #[] = .ok (s, tk)) :
    ∃ s1 tk1 s2 rk1, runActions env as (State.init N d) #[] = .ok (s1, tk1) ∧ QInvX (noEff env) rk1 s1 ∧
      DrvOK env s1 ∧ (stabilise env fuelDefault).run.run s1 = (.ok (), s2) ∧ StabilisedD env fuelDefault s1 s2 ∧
      runActions env bs s2 tk1 = .ok (s, tk) :=
  stabilise_in_run_d hStab (qinvX_init (noEff env) N d) ha h

end IncrVerif.Proofs.DriverH
