import IncrVerif.Proofs.ExpertH32
/-!
# The frame `AhF`: the adjust-heights heap and the `heightInAhh` marks are only touched by the functions of the
adjust-heights heap (`ahhAddUnlessMem`, `ahhRemoveMin`, `ensureHeightRequirement`, `adjustHeightsLoop`,
`adjustHeights`, hence `stateAddParent`) and `setMaxHeightAllowed`

Every primitive write but the three of `AhF.breaks` keeps `AhF` (`AhF.of_edit`), so every function of the engine that makes none of them does.
-/
namespace IncrVerif.Proofs.ExpertH
open IncrVerif.Engine IncrVerif.Proofs IncrVerif.Proofs.Step IncrVerif.Proofs.Footprint

structure AhF (s s' : State) : Prop where
  size : s'.nodes.size = s.nodes.size
  ahh : s'.ahh = s.ahh
  mark : ∀ m, (s'.nodeD m).heightInAhh = (s.nodeD m).heightInAhh

theorem AhF.refl (s : State) : AhF s s := ⟨rfl, rfl, fun _ => rfl⟩
theorem AhF.trans {a b c : State} (h1 : AhF a b) (h2 : AhF b c) : AhF a c :=
  ⟨h2.size.trans h1.size, h2.ahh.trans h1.ahh, fun m => (h2.mark m).trans (h1.mark m)⟩
instance : Step.PreOrd AhF := ⟨AhF.refl, AhF.trans⟩

theorem AhF.of_nodes {s s' : State} (h1 : s'.nodes = s.nodes) (h2 : s'.ahh = s.ahh) : AhF s s' := by
  refine ⟨by rw [h1], h2, fun m => ?_⟩
  have : s'.nodeD m = s.nodeD m := by simp [State.nodeD, h1]
  rw [this]

theorem AhF.modNode (s : State) (n : Nat) (f : Node → Node) (hf : ∀ x, (f x).heightInAhh = x.heightInAhh) :
    AhF s { s with nodes := s.nodes.modify n f } := by
  refine ⟨by simp, rfl, fun m => ?_⟩
  rw [nodeD_modify]; split
  · exact hf _
  · rfl

/-- the writes that do not keep `AhF` -/
def AhF.breaks : List Tag := [.pushNode, .nHeightInAhh, .ahh, .ahhResize]

theorem AhF.of_edit {L w} (hL : ∀ t ∈ L, t ∉ AhF.breaks) {s s' : State} (e : Edit L w s s') : AhF s s' :=
  ⟨e.size_eq fun h => hL _ h (by decide), e.ahh_eq (fun h => hL _ h (by decide)) fun h => hL _ h (by decide),
    e.heightInAhh fun h => hL _ h (by decide)⟩

/-- the bookkeeping writes of an API action touch neither nodes nor the heap -/
theorem AhF.of_act {L a} (hL : ∀ t ∈ L, t ∉ AhF.breaks) {s s' : State} (e : ActEdit L a s s') : AhF s s' := by
  cases e with
  | engine e => exact AhF.of_edit hL e
  | _ => exact AhF.of_nodes rfl rfl

theorem PresAh.modNode (n : Nat) (f : Node → Node) (hf : ∀ x, (f x).heightInAhh = x.heightInAhh) :
    Step.Pres AhF (Engine.modNode n f) := by
  unfold Engine.modNode; exact Step.Pres.modify fun s => AhF.modNode s n f hf

theorem PresAh.modObs (o f) : Step.Pres AhF (Engine.modObs o f) := by
  unfold Engine.modObs; exact Step.Pres.modify fun _ => AhF.of_nodes rfl rfl
theorem PresAh.getObs (o) : Step.Pres AhF (Engine.getObs o) := Step.Pres.getObs o
theorem PresAh.getVar (v) : Step.Pres AhF (Engine.getVar v) := Step.Pres.getVar v
theorem PresAh.addParent (c i p) : Step.Pres AhF (Engine.addParent c i p) := (Foot.addParent c i p).frame (AhF.of_edit (by decide))
theorem PresAh.removeParent (c i p) : Step.Pres AhF (Engine.removeParent c i p) :=
  (Foot.removeParent c i p).frame (AhF.of_edit (by decide))
theorem PresAh.setHeight (n h) : Step.Pres AhF (Engine.setHeight n h) := (Foot.setHeight n h).frame (AhF.of_edit (by decide))
theorem PresAh.rchInsert (n) : Step.Pres AhF (Engine.rchInsert n) := (Foot.rchInsert n).frame (AhF.of_edit (by decide))
theorem PresAh.rchRemoveMin : Step.Pres AhF Engine.rchRemoveMin := Foot.rchRemoveMin.frame (AhF.of_edit (by decide))
theorem PresAh.rchIncreaseHeight (n) : Step.Pres AhF (Engine.rchIncreaseHeight n) :=
  (Foot.rchIncreaseHeight n).frame (AhF.of_edit (by decide))
theorem PresAh.scopeHeight (sc) : Step.Pres AhF (Engine.scopeHeight sc) := Step.Pres.scopeHeight sc
theorem PresAh.handleAfterStabilisation (n) : Step.Pres AhF (Engine.handleAfterStabilisation n) :=
  (Foot.handleAfterStabilisation n).frame (AhF.of_edit (by decide))
theorem PresAh.markMapRefUnknown (fuel n) : Step.Pres AhF (Engine.markMapRefUnknown fuel n) :=
  (Foot.markMapRefUnknown fuel n).frame (AhF.of_edit (by decide))
theorem PresAh.becameNecessary (env fuel n) : Step.Pres AhF (Engine.becameNecessary env fuel n) :=
  (Foot.becameNecessary env fuel n).frame (AhF.of_edit (by decide))
theorem PresAh.addParentWithoutAdjustingHeights (env fuel c i p) :
    Step.Pres AhF (Engine.addParentWithoutAdjustingHeights env fuel c i p) :=
  (Foot.addParentWithoutAdjustingHeights env fuel c i p).frame (AhF.of_edit (by decide))

theorem PresAh.unlink (fuel : Nat) :
    (∀ n, Step.Pres AhF (Engine.becameUnnecessary fuel n)) ∧
    (∀ n, Step.Pres AhF (Engine.checkIfUnnecessary fuel n)) ∧
    (∀ n, Step.Pres AhF (Engine.removeChildren fuel n)) :=
  ⟨fun n => (Foot.becameUnnecessary fuel n).frame (AhF.of_edit (by decide)),
   fun n => (Foot.checkIfUnnecessary fuel n).frame (AhF.of_edit (by decide)),
   fun n => (Foot.removeChildren fuel n).frame (AhF.of_edit (by decide))⟩

theorem PresAh.becameUnnecessary (fuel n) : Step.Pres AhF (Engine.becameUnnecessary fuel n) :=
  (PresAh.unlink fuel).1 n
theorem PresAh.checkIfUnnecessary (fuel n) : Step.Pres AhF (Engine.checkIfUnnecessary fuel n) :=
  (PresAh.unlink fuel).2.1 n
theorem PresAh.removeChildren (fuel n) : Step.Pres AhF (Engine.removeChildren fuel n) :=
  (PresAh.unlink fuel).2.2 n

theorem PresAh.invalidateNode (fuel n) : Step.Pres AhF (Engine.invalidateNode fuel n) :=
  (Foot.invalidateNode fuel n).frame (AhF.of_edit (by decide))
theorem PresAh.propagateInvalidity (fuel) : Step.Pres AhF (Engine.propagateInvalidity fuel) :=
  (Foot.propagateInvalidity fuel).frame (AhF.of_edit (by decide))
theorem PresAh.becameNecessaryPropagate (env fuel n) : Step.Pres AhF (Engine.becameNecessaryPropagate env fuel n) :=
  (Foot.becameNecessaryPropagate env fuel n).frame (AhF.of_edit (by decide))
theorem PresAh.shouldCutoff (env n o v) : Step.Pres AhF (Engine.shouldCutoff env n o v) :=
  (Foot.shouldCutoff env n o v).frame (AhF.of_edit (by decide))
theorem PresAh.parentIterCanRecomputeNow (p c : Nat) : Step.Pres AhF (Engine.parentIterCanRecomputeNow p c) :=
  (Foot.parentIterCanRecomputeNow p c).frame (AhF.of_edit (by decide))
theorem PresAh.maybeChangeValue (env fuel n v) : Step.Pres AhF (Engine.maybeChangeValue env fuel n v) :=
  (Foot.maybeChangeValue env fuel n v).lift (AhF.of_edit (by decide))
theorem PresAh.addNewObservers (env fuel) : Step.Pres AhF (Engine.addNewObservers env fuel) :=
  (Foot.addNewObservers env fuel).frame (AhF.of_edit (by decide))
theorem PresAh.unlinkDisallowedObservers (fuel) : Step.Pres AhF (Engine.unlinkDisallowedObservers fuel) :=
  (Foot.unlinkDisallowedObservers fuel).frame (AhF.of_edit (by decide))
theorem PresAh.didSetVarWhileNotStabilising (v) : Step.Pres AhF (Engine.didSetVarWhileNotStabilising v) :=
  (Foot.didSetVarWhileNotStabilising v).frame (AhF.of_edit (by decide))
theorem PresAh.writeVar (v f b) : Step.Pres AhF (Engine.writeVar v f b) := (Foot.writeVar v f b).frame (AhF.of_edit (by decide))
theorem PresAh.subscribe (o h) : Step.Pres AhF (Engine.subscribe o h) := (Foot.subscribe o h).frame (AhF.of_edit (by decide))
theorem PresAh.unsubscribe (o t w) : Step.Pres AhF (Engine.unsubscribe o t w) :=
  (Foot.unsubscribe o t w).frame (AhF.of_edit (by decide))
theorem PresAh.isConstant (n) : Step.Pres AhF (Engine.isConstant n) := (Foot.isConstant n).frame (AhF.of_edit (by decide))
/-- the API actions that keep `AhF`: all but node creation (`create`), `addDep`, `stabilise`, `setMaxHeight` -/
def AhAct : Action → Prop
  | .create _ => False
  | .addDep .. => False
  | .stabilise => False
  | .setMaxHeight _ => False
  | _ => True

theorem PresAh.stepAction (env : Env) (a : Action) (tk : Array Nat) (h : AhAct a) :
    Step.Pres AhF (Engine.stepAction env a tk) :=
  (Foot.stepAction env a tk).lift (AhF.of_act (by cases a <;> first | exact False.elim h | (dsimp only [W.stepAction]; decide)))

end IncrVerif.Proofs.ExpertH
