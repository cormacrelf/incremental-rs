import IncrVerif.Proofs.EffH4
/-!
# Effects, part 5: the drain with write effects

`DI env s x`: the facts carried along the drain (scheduling invariant for the effect-free environment, `UnnecOK`,
status, live handles).  `DR s s'`: the drain's frame up to deferred writes.  `drainSteps`: the nodes the drain runs
TOGETHER WITH the state each of them ran in.
-/
namespace IncrVerif.Proofs.EffH
open IncrVerif.Engine IncrVerif.Driver IncrVerif.Proofs IncrVerif.Proofs.Step IncrVerif.Proofs.Sched
open IncrVerif.Proofs.Quiet

/-- what holds in every state of a drain with write effects -/
structure DI (env : Env) (s : State) (x : Option Nat) : Prop where
  inv : Inv (noEff env) s x
  unnec : UnnecOK (noEff env) s
  status : s.status = .stabilising
  handles : HandlesOK s

/-- the frame of a drain with write effects -/
structure DR (s s' : State) : Prop where
  frame : FrameP s s'
  calm : CalmP s s'
  keyD : KeyD s s'

theorem DR.refl (s : State) : DR s s := ⟨FrameP.refl s, CalmP.refl s, KeyD.refl s⟩
theorem DR.trans {a b c : State} (h1 : DR a b) (h2 : DR b c) : DR a c :=
  ⟨h1.frame.trans h2.frame, h1.calm.trans h2.calm, h1.keyD.trans h2.keyD⟩
theorem DR.of_sameP {s s' : State} (h : SameP s s') : DR s s' :=
  ⟨FrameP.of_sameP h, CalmP.of_sameP h, h.keyD⟩

theorem handlesOK_of_vars {s s' : State} (h : HandlesOK s) (e : s'.vars = s.vars) : HandlesOK s' := by
  intro v c hc; rw [e] at hc; exact h v c hc

/-- **one `recomputeOne` with write effects** -/
theorem recomputeOne_effstep {env : Env} {fuel n : Nat} {s s' : State} {r : Option Nat}
    (hw : WOnly env) (D : DI env s (some n)) (h : (recomputeOne env fuel n).run.run s = (.ok r, s')) :
    DI env s' r ∧ DR s s' ∧ (s'.nodeD n).recomputedAt = s.stabNum ∧
    ∀ t W, Pend t W s → Pend t (W ++ writesOf (nodeEffs env s n)) s' := by
  obtain ⟨h0, hex⟩ := recomputeOne_eff_eq D.inv D.status hw D.handles h
  have P := effSteps_sameP (nodeEffs env s n) s
  have I1 := P.inv D.inv
  obtain ⟨I', f1, hst⟩ := recomputeOne_inv I1 h0
  have c1 := recomputeOne_calm I1.graph (I1.cur n rfl).1 h0
  have k1 := recomputeOne_keyD I1.graph (I1.cur n rfl).1 h0
  have U' := recomputeOne_unnec I1 (P.unnecOK D.unnec) h0
  refine ⟨⟨I', U', ?_, ?_⟩, ?_, ?_, ?_⟩
  · rw [c1.status, P.status]; exact D.status
  · exact handlesOK_of_vars (P.handlesOK D.handles) f1.vars
  · exact (DR.of_sameP P).trans ⟨FrameP.of_frame f1, CalmP.of_calm c1, k1⟩
  · rw [hst, P.stabNum]
  · intro t W hP
    exact (effSteps_pend hP hex).congr f1.vars c1.setDuringStab

/-! ## the steps of a drain, with their states -/

/-- the nodes `recompute env fuel n` runs from `s`, each with the state it runs in -/
def chainSteps (env : Env) : Nat → Nat → State → List (Nat × State)
  | 0, _, _ => []
  | fuel+1, n, s =>
    (n, s) :: (match (recomputeOne env fuel n).run.run s with
      | (.ok (some p), s1) => chainSteps env fuel p s1
      | _ => [])

/-- the nodes `drainHeap env fuel` runs from `s`, each with the state it runs in -/
def drainSteps (env : Env) : Nat → State → List (Nat × State)
  | 0, _ => []
  | fuel+1, s =>
    match rchRemoveMin.run.run s with
    | (.ok (some n), s1) =>
      chainSteps env fuel n s1 ++
        (match (recompute env fuel n).run.run s1 with
         | (.ok _, s2) => drainSteps env fuel s2
         | _ => [])
    | _ => []

theorem chainSteps_fst (env : Env) : ∀ (fuel n : Nat) (s : State),
    (chainSteps env fuel n s).map (·.1) = chainTrace env fuel n s := by
  intro fuel
  induction fuel with
  | zero => intro n s; rfl
  | succ fuel ih =>
    intro n s
    unfold chainSteps chainTrace
    rcases hx : (recomputeOne env fuel n).run.run s with ⟨_ | _ | p, s1⟩
    · simp
    · simp
    · simp [ih]

theorem drainSteps_fst (env : Env) : ∀ (fuel : Nat) (s : State),
    (drainSteps env fuel s).map (·.1) = drainTrace env fuel s := by
  intro fuel
  induction fuel with
  | zero => intro s; rfl
  | succ fuel ih =>
    intro s
    unfold drainSteps drainTrace
    rcases hx : rchRemoveMin.run.run s with ⟨_ | _ | n, s1⟩
    · simp
    · simp
    · simp only [List.map_append, chainSteps_fst]
      rcases hy : (recompute env fuel n).run.run s1 with ⟨_ | _, s2⟩
      · simp
      · simp [ih]

/-- the deferred writes of a list of steps, in program order -/
def stepsWrites (env : Env) (l : List (Nat × State)) : Writes :=
  l.flatMap fun p => writesOf (nodeEffs env p.2 p.1)

theorem stepsWrites_append (env : Env) (a b : List (Nat × State)) :
    stepsWrites env (a ++ b) = stepsWrites env a ++ stepsWrites env b := by
  simp only [stepsWrites, List.flatMap_append]

theorem stepsWrites_cons (env : Env) (p : Nat × State) (l : List (Nat × State)) :
    stepsWrites env (p :: l) = writesOf (nodeEffs env p.2 p.1) ++ stepsWrites env l := by
  simp only [stepsWrites, List.flatMap_cons]

/-- what is known about the state `p.2` in which node `p.1` ran, relative to the state `s` the drain started in -/
structure StepOK (env : Env) (s : State) (p : Nat × State) : Prop where
  di : DI env p.2 (some p.1)
  dr : DR s p.2

theorem StepOK.extend {env : Env} {a b : State} {p : Nat × State} (h : DR a b) (o : StepOK env b p) :
    StepOK env a p := ⟨o.di, h.trans o.dr⟩

theorem RanOnce.extend_leftP {a b c : State} {m : Nat} (f : FrameP a b) (st : Stamps a)
    (h : RanOnce b c m) : RanOnce a c m := by
  obtain ⟨h1, h2, h3⟩ := h
  rw [f.stabNum] at h2 h3
  exact ⟨by rw [← f.nec]; exact h1, f.not_yet st h2, h3⟩

/-- the conclusions about a run `s → s'` of the drain (or of a direct-recompute chain) -/
structure RunOK (env : Env) (l : List (Nat × State)) (s s' : State) : Prop where
  di : DI env s' none
  dr : DR s s'
  pend : ∀ t W, Pend t W s → Pend t (W ++ stepsWrites env l) s'
  steps : ∀ p, p ∈ l → StepOK env s p
  nodup : (l.map (·.1)).Nodup
  once : ∀ m, m ∈ l.map (·.1) → RanOnce s s' m

theorem recompute_eff {env : Env} (hw : WOnly env) : ∀ (fuel n : Nat) (s s' : State),
    DI env s (some n) → (recompute env fuel n).run.run s = (.ok (), s') →
    RunOK env (chainSteps env fuel n s) s s' := by
  intro fuel
  induction fuel with
  | zero => intro n s s' _ h; unfold recompute at h; cases h
  | succ fuel ih =>
    intro n s s' D h
    unfold recompute at h
    obtain ⟨r, s1, h1, h2⟩ := bind_ok_inv h
    obtain ⟨D1, r1, hn1, p1⟩ := recomputeOne_effstep hw D h1
    have hn0 := D.inv.cur_not_yet
    have hnec := (D.inv.cur n rfl).1
    unfold chainSteps
    rw [h1]
    cases r with
    | none =>
      obtain ⟨-, rfl⟩ := pure_ok_inv h2
      refine ⟨D1, r1, ?_, ?_, by simp, ?_⟩
      · intro t W hP
        rw [stepsWrites_cons]; simp only [stepsWrites, List.flatMap_nil, List.append_nil]
        exact p1 t W hP
      · intro p hp
        simp only [List.mem_singleton] at hp
        subst hp
        exact ⟨D, DR.refl s⟩
      · intro m hm
        simp only [List.map_cons, List.map_nil, List.mem_singleton] at hm
        subst hm
        exact ⟨hnec, hn0, hn1⟩
    | some p =>
      have R := ih p s1 s' D1 h2
      dsimp only
      refine ⟨R.di, r1.trans R.dr, ?_, ?_, ?_, ?_⟩
      · intro t W hP
        rw [stepsWrites_cons, ← List.append_assoc]
        exact R.pend t _ (p1 t W hP)
      · intro q hq
        rcases List.mem_cons.1 hq with rfl | hq
        · exact ⟨D, DR.refl s⟩
        · exact (R.steps q hq).extend r1
      · rw [List.map_cons, List.nodup_cons]
        refine ⟨?_, R.nodup⟩
        intro hmem
        have := (R.once n hmem).2.1
        rw [r1.frame.stabNum] at this
        omega
      · intro m hm
        rw [List.map_cons] at hm
        rcases List.mem_cons.1 hm with rfl | hm
        · refine ⟨hnec, hn0, ?_⟩
          have := R.dr.frame.ran m (by rw [r1.frame.stabNum]; exact hn1)
          rw [r1.frame.stabNum] at this; exact this
        · exact RanOnce.extend_leftP r1.frame D.inv.stamps (R.once m hm)

/-- taking the minimum out of the heap -/
theorem pop_eff {env : Env} {s s1 : State} {n : Nat} (D : DI env s none)
    (h : rchRemoveMin.run.run s = (.ok (some n), s1)) : DI env s1 (some n) ∧ DR s s1 ∧ Frame s s1 ∧ Calm s s1 := by
  obtain ⟨I1, f1⟩ := pop_inv D.inv h
  have c1 := pop_calm D.inv.heap h
  have k1 := pop_keyD D.inv.heap h
  have U1 := pop_unnec D.inv.heap D.unnec h
  exact ⟨⟨I1, U1, by rw [c1.status]; exact D.status, handlesOK_of_vars D.handles f1.vars⟩,
    ⟨FrameP.of_frame f1, CalmP.of_calm c1, k1⟩, f1, c1⟩

/-- **the drain with write effects** -/
theorem drainHeap_eff {env : Env} (hw : WOnly env) : ∀ (fuel : Nat) (s s' : State),
    DI env s none → (drainHeap env fuel).run.run s = (.ok (), s') →
    RunOK env (drainSteps env fuel s) s s' ∧ s'.rch.length = 0 := by
  intro fuel
  induction fuel with
  | zero => intro s s' _ h; unfold drainHeap at h; cases h
  | succ fuel ih =>
    intro s s' D h
    unfold drainHeap at h
    obtain ⟨r, s1, h1, h2⟩ := bind_ok_inv h
    unfold drainSteps
    rw [h1]
    cases r with
    | none =>
      obtain ⟨-, rfl⟩ := pure_ok_inv h2
      obtain ⟨rfl, he⟩ := rchRemoveMin_inv D.inv.heap h1
      refine ⟨⟨D, DR.refl _, ?_, ?_, List.nodup_nil, ?_⟩, he⟩
      · intro t W hP
        simp only [stepsWrites, List.flatMap_nil, List.append_nil]; exact hP
      · intro p hp; cases hp
      · intro m hm; cases hm
    | some n =>
      obtain ⟨u, s2, h3, h4⟩ := bind_ok_inv h2
      dsimp only
      rw [h3]
      dsimp only
      obtain ⟨D1, r1, f1, c1⟩ := pop_eff D h1
      have R2 := recompute_eff hw fuel n s1 s2 D1 h3
      obtain ⟨R3, he⟩ := ih s2 s' R2.di h4
      refine ⟨⟨R3.di, (r1.trans R2.dr).trans R3.dr, ?_, ?_, ?_, ?_⟩, he⟩
      · intro t W hP
        rw [stepsWrites_append, ← List.append_assoc]
        exact R3.pend t _ (R2.pend t W (hP.congr f1.vars c1.setDuringStab))
      · intro p hp
        rcases List.mem_append.1 hp with hp | hp
        · exact (R2.steps p hp).extend r1
        · exact (R3.steps p hp).extend (r1.trans R2.dr)
      · rw [List.map_append, List.nodup_append]
        refine ⟨R2.nodup, R3.nodup, ?_⟩
        intro a ha b hb e
        subst e
        have h5 := (R2.once a ha).2.2
        have h6 := (R3.once a hb).2.1
        rw [R2.dr.frame.stabNum] at h6
        omega
      · intro m hm
        rw [List.map_append] at hm
        rcases List.mem_append.1 hm with hm | hm
        · obtain ⟨a1, a2, a3⟩ := R2.once m hm
          have : RanOnce s1 s' m := by
            refine ⟨a1, a2, ?_⟩
            have := R3.dr.frame.ran m (by rw [R2.dr.frame.stabNum]; exact a3)
            rw [R2.dr.frame.stabNum] at this; exact this
          exact RanOnce.extend_leftP r1.frame D.inv.stamps this
        · exact RanOnce.extend_leftP (r1.trans R2.dr).frame D.inv.stamps (R3.once m hm)

end IncrVerif.Proofs.EffH
