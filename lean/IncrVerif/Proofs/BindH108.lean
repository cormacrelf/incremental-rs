import IncrVerif.Proofs.BindH86
import IncrVerif.Proofs.BindH87
import IncrVerif.Proofs.BindF1F2Q
/-!
# Binds, part 4h-1 (B4): every API action of the fragment keeps `QInv1`; the initial state

The counterpart of `Quiet.step_q` / `Quiet.qinv_init` (`Proofs/Quiet18.lean`) for programs with binds (fragment F1).  The `stabilise` action is taken from a hypothesis
`STAB` of the shape of (the `.inv` field of) `stabilise_q1`, so that this file does not depend on the files of the `stabilise` proof.
-/
namespace IncrVerif.Proofs.BindH
open IncrVerif.Engine IncrVerif.Driver IncrVerif.Proofs IncrVerif.Proofs.Step IncrVerif.Proofs.Sched IncrVerif.Proofs.Quiet

/-- **B4, one action.** Every API action of the fragment that returns keeps the invariant between actions. -/
theorem step_q1 {env : Env}
    (STAB : ∀ {fuel : Nat} {s s' : State}, QInv1 env s → (stabilise env fuel).run.run s = (.ok (), s') → QInv1 env s')
    {s s' : State} {a : Action} {tokens : Array Nat} {r : String × Array Nat}
    (Q : QInv1 env s) (ha : ActionF1 env s.top.size a)
    (h : (stepAction env a tokens).run.run s = (.ok r, s')) : QInv1 env s' := by
  cases a <;> try exact ha.elim
  case create i => exact step_create1 Q ha h
  case observe n =>
    cases n <;> try exact ha.elim
    exact step_observe1 Q h
  case cloneObs o => exact step_cloneObs1 Q h
  case dropObs o => exact step_dropObs1 Q h
  case disallow o => exact step_disallow1 Q h
  case set v x => exact step_write1 (a := .set v x) Q trivial h
  case modify v d => exact step_write1 (a := .modify v d) Q trivial h
  case update v d => exact step_write1 (a := .update v d) Q trivial h
  case replace v x => exact step_write1 (a := .replace v x) Q trivial h
  case replaceWith v d => exact step_write1 (a := .replaceWith v d) Q trivial h
  case get v => exact step_write1 (a := .get v) Q trivial h
  case isStable => exact step_write1 (a := .isStable) Q trivial h
  case stats => exact step_write1 (a := .stats) Q trivial h
  case stabilise => exact STAB Q (step_stabilise h)

/-! ## the initial state -/

namespace C2h

theorem init_binds (N : Nat) (d : Bool) (b : Nat) : (State.init N d).binds[b]? = none := by
  simp [State.init]

theorem init_top (N : Nat) (d : Bool) (k : Nat) : (State.init N d).top[k]? = none := by
  simp [State.init]

theorem all1_init (env : Env) (N : Nat) (d : Bool) : All1 env (State.init N d) [] where
  pc := rfl
  scope := rfl
  node n hn := by
    have hsz : (State.init N d).nodes.size = 0 := rfl
    rw [hsz] at hn; omega
  recs b br hb := by rw [init_binds] at hb; cases hb
  gen b br hb := by rw [init_binds] at hb; cases hb
  genDy b br hb := by rw [init_binds] at hb; cases hb
  dyIn m hm := by cases hm

theorem default_valid : (default : Node).valid = true := rfl

end C2h

theorem qinv1_init (env : Env) (N : Nat) (d : Bool) : QInv1 env (State.init N d) := by
  have hnd := init_nodeD N d
  have hnec : ∀ m, (State.init N d).isNecessary m = false := fun m => by
    rw [State.isNecessary, hnd]; rfl
  have hin : ∀ m, ((State.init N d).nodeD m).inRch = false := fun m => by rw [hnd]; rfl
  have hsz : (State.init N d).nodes.size = 0 := rfl
  have hpar : ∀ m, ((State.init N d).nodeD m).parents = [] := fun m => by rw [hnd]; rfl
  have hobs : ∀ m, ((State.init N d).nodeD m).observers = [] := fun m => by rw [hnd]; rfl
  have hval : ∀ m, ((State.init N d).nodeD m).valid = true := fun m => by rw [hnd]; rfl
  have hkind : ∀ m, ((State.init N d).nodeD m).kind = .const .unit := fun m => by rw [hnd]; rfl
  have hsc : ∀ m, ((State.init N d).nodeD m).createdIn = .top := fun m => by rw [hnd]; rfl
  have A := C2h.all1_init env N d
  have hnodup : ∀ c, ((State.init N d).nodeD c).parents.Nodup := fun c => by rw [hpar]; exact List.nodup_nil
  have hinv : ∀ m, ((State.init N d).nodeD m).valid = false → False := fun m h => by
    rw [hval] at h; cases h
  refine
    { struct := ?_, f1 := ?_, vars := ?_, obs := ?_, obsTop := ?_, now := Int.le_refl _, stamps := ?_, varStamp := ?_,
      cons := ?_, status := rfl, alive := rfl, setDuringStab := rfl, deadVars := rfl, handleAfterStab := rfl }
  · -- the structural invariant
    refine
      { frag := A, par := ?_, conv := ?_, nodup := hnodup, hlt := ?_, hpos := ?_, lnec := ?_, unec := ?_, heap := ?_, hgt := ?_,
        qnec := ?_, queued := ?_, qstale := ?_, opLt := ?_, scopeH := ?_, inv := ?_, scopeObs := ?_, lcObs := ?_ }
    · intro c p i hm; rw [hpar] at hm; cases hm
    · intro p i c hk hw
      have e : (State.init N d).children p = [] := by
        rw [State.children, hnd]; rfl
      rw [e] at hk; cases hk
    · intro c p i hm; rw [hpar] at hm; cases hm
    · intro n hn; rw [hnec] at hn; cases hn
    · intro p k ho; cases ho
    · intro p k ho; cases ho
    · refine ⟨heapWF_init N d, ?_, ?_⟩
      · intro m hm; rw [hin] at hm; cases hm
      · show (0 : Int) ≤ (N : Int) + 1
        omega
    · intro m hm; rw [hin] at hm; cases hm
    · intro m hm; rw [hin] at hm; cases hm
    · intro m _ hn; rw [hnec] at hn; cases hn
    · intro m hm; rw [hin] at hm; cases hm
    · intro m ho; exact absurd rfl ho
    · intro n b br _ hb; rw [hsc] at hb; cases hb
    · intro m hv; exact (hinv m hv).elim
    · intro m b hb; rw [hsc] at hb; cases hb
    · intro m b hb; rw [hkind] at hb; cases hb
  · -- the auxiliary invariant
    refine
      { frag := A, nodup := hnodup, ahh := ?_, pinv := rfl, noForce := ?_, noHandlers := ?_, inv := ?_, scopeObs := ?_,
        lcObs := ?_, lcCut := ?_, topOK := ?_, closures := ?_, rhsNone := ?_, rhsOK := ?_ }
    · refine ⟨rfl, ?_, fun m => by rw [hnd]; rfl⟩
      intro i hi
      simp [State.init, mkHeap]
    · intro m; rw [hnd]; rfl
    · intro m; rw [hnd]; rfl
    · intro m hv; exact (hinv m hv).elim
    · intro m b hb; rw [hsc] at hb; cases hb
    · intro m b hb; rw [hkind] at hb; cases hb
    · intro m b hb; rw [hkind] at hb; cases hb
    · intro k r hk; rw [C2h.init_top] at hk; cases hk
    · intro b br v hb; rw [C2h.init_binds] at hb; cases hb
    · intro b br hb; rw [C2h.init_binds] at hb; cases hb
    · intro b br o hb; rw [C2h.init_binds] at hb; cases hb
  · refine ⟨fun n c hn => by rw [hsz] at hn; omega, fun c vc hc => ?_⟩
    simp [State.init] at hc
  · refine ⟨fun o ob ho => ?_, fun n o => ?_, fun o ob ho => ?_, fun o ho => ?_, fun o ob ho => ?_,
      fun o ho => ?_, List.nodup_nil⟩
    · simp [State.init] at ho
    · rw [hobs]
      constructor
      · intro h; cases h
      · rintro ⟨ob, ho, -⟩; simp [State.init] at ho
    · simp [State.init] at ho
    · simp [State.init] at ho
    · simp [State.init] at ho
    · simp [State.init] at ho
  · intro o ob ho; simp [State.init] at ho
  · intro m; rw [hnd]; exact ⟨show (-1 : Int) < 0 by decide, show (-1 : Int) < 0 by decide⟩
  · intro c vc hc; simp [State.init] at hc
  · intro m hm; rw [hsz] at hm; omega

end IncrVerif.Proofs.BindH
