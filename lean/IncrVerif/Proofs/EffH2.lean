import IncrVerif.Proofs.EffH1
/-!
# Effects, part 2: closed form of `runEffects` on write effects while `status = stabilising`
-/
namespace IncrVerif.Proofs.EffH
open IncrVerif.Engine IncrVerif.Driver IncrVerif.Proofs IncrVerif.Proofs.Step IncrVerif.Proofs.Sched
open IncrVerif.Proofs.Quiet

theorem e2_some_of_lt {α} {a : Array α} {v : Nat} (h : v < a.size) : ∃ x, a[v]? = some x :=
  ⟨a[v], Array.getElem?_eq_getElem h⟩

theorem SameP.refl (s : State) : SameP s s := ⟨rfl, rfl, fun _ a h => ⟨a, h, CellP.refl a⟩⟩
theorem SameP.trans {a b c : State} (h1 : SameP a b) (h2 : SameP b c) : SameP a c := by
  refine ⟨?_, h2.size.trans h1.size, ?_⟩
  · have e1 := h1.eq
    have e2 := h2.eq
    rw [e2]; rw [e1]
  · intro v x hx
    obtain ⟨y, hy, hxy⟩ := h1.cell v x hx
    obtain ⟨z, hz, hyz⟩ := h2.cell v y hy
    exact ⟨z, hz, hxy.trans hyz⟩
theorem SameP.symm {a b : State} (h : SameP a b) : SameP b a := by
  refine ⟨?_, h.size.symm, ?_⟩
  · have e1 := h.eq
    rw [e1]
  · intro v x hx
    have hlt : v < a.vars.size := h.size ▸ lt_of_getElem? hx
    obtain ⟨y, hy⟩ := e2_some_of_lt hlt
    obtain ⟨z, hz, hyz⟩ := h.cell v y hy
    rw [hx] at hz; cases hz
    exact ⟨y, hy, hyz.symm⟩

theorem SameP.handlesOK {s s' : State} (h : SameP s s') (hh : HandlesOK s) : HandlesOK s' := by
  intro v c hc
  obtain ⟨b, hb, hcb⟩ := h.symm.cell v c hc
  rw [← hcb.handles]
  exact hh v b hb

theorem e2_deferred_sameP (v : Nat) (vc : VarCell) (f : Val → Val) (es : List Event) (s : State)
    (hv : s.vars[v]? = some vc) : SameP s (logged es (deferred v vc f s)) := by
  refine ⟨rfl, ?_, ?_⟩
  · show (s.vars.setIfInBounds v _).size = _
    rw [Array.size_setIfInBounds]
  · intro w a hw
    show ∃ b, (s.vars.setIfInBounds v _)[w]? = some b ∧ _
    rw [Array.getElem?_setIfInBounds]
    by_cases hvw : v = w
    · subst hvw
      rw [hv] at hw; cases hw
      rw [if_pos rfl, if_pos (lt_of_getElem? hv)]
      exact ⟨_, rfl, rfl⟩
    · rw [if_neg hvw]
      exact ⟨a, hw, CellP.refl a⟩

theorem effStep_sameP (e : Effect) (s : State) : SameP s (effStep e s) := by
  unfold effStep
  cases effWrite e with
  | none => exact SameP.refl s
  | some p =>
    obtain ⟨v, f⟩ := p
    show SameP s (match s.vars[v]? with | none => s | some vc => _)
    cases hv : s.vars[v]? with
    | none => exact SameP.refl s
    | some vc => exact e2_deferred_sameP v vc f _ s hv

theorem effSteps_sameP (es : List Effect) (s : State) : SameP s (effSteps es s) := by
  induction es generalizing s with
  | nil => exact SameP.refl s
  | cons e es ih => rw [effSteps_cons]; exact (effStep_sameP e s).trans (ih _)

theorem e2_effStep_started (e : Effect) (n : Nat) (s : State) :
    effStep e (started n s) = started n (effStep e s) := by
  unfold effStep
  cases effWrite e with
  | none => rfl
  | some p =>
    obtain ⟨v, f⟩ := p
    show (match s.vars[v]? with | none => started n s | some vc => _) =
      started n (match s.vars[v]? with | none => s | some vc => _)
    cases s.vars[v]? with
    | none => rfl
    | some vc => rfl

/-- the prefix of `recomputeOne` commutes with deferred writes -/
theorem effSteps_started (es : List Effect) (n : Nat) (s : State) :
    effSteps es (started n s) = started n (effSteps es s) := by
  induction es generalizing s with
  | nil => rfl
  | cons e es ih => rw [effSteps_cons, effSteps_cons, e2_effStep_started, ih]

theorem e2_runEffects_cons (env : Env) (fuel : Nat) (e : Effect) (es : List Effect) (arg : Int)
    (hw : (effWrite e).isSome = true) :
    runEffects env fuel (e :: es) arg = runEffectBasic env e >>= fun _ => runEffects env fuel es arg := by
  unfold runEffects
  rw [List.forIn_cons]
  cases e <;> first | (exact Bool.noConfusion hw) | skip
  all_goals simp only [bind_assoc, pure_bind]

theorem e2_discard_eq {α} (x : M α) : discard x = x >>= fun _ => pure () := by
  rw [Functor.discard, map_const, Function.comp_apply, map_eq_pure_bind]

theorem e2_run_withVarHandle (v : Nat) (act : M Unit) (s : State) (hh : HandlesOK s) :
    (withVarHandle v act).run.run s = act.run.run s := by
  unfold withVarHandle
  rw [run_bind_get]
  cases hv : s.vars[v]? with
  | none => rfl
  | some vc =>
    have h0 : (vc.handles == 0) = false := by
      have := hh v vc hv
      simpa using this
    simp only [h0]
    rfl

theorem e2_write_core (v : Nat) (f : Val → Val) (isSet : Bool) (k : Val → M Unit) (note : Val → List Event)
    (hk : ∀ x s, (k x).run.run s = (.ok (), logged (note x) s)) {s s1 : State} {u : Unit}
    (hst : s.status = .stabilising) (hh : HandlesOK s)
    (h : (withVarHandle v (writeVar v f isSet >>= k)).run.run s = (.ok u, s1)) :
    ∃ vc, s.vars[v]? = some vc ∧ s1 = logged (note (vc.pending.getD vc.value)) (deferred v vc f s) := by
  rw [e2_run_withVarHandle _ _ _ hh] at h
  cases hv : s.vars[v]? with
  | none =>
    exfalso
    obtain ⟨a, s2, h1, -⟩ := bind_ok_inv h
    unfold writeVar at h1
    obtain ⟨a', s3, h3, -⟩ := bind_ok_inv h1
    rw [run_getVar, hv] at h3
    cases h3
  | some vc =>
    refine ⟨vc, rfl, ?_⟩
    rw [run_bind, writeVar_inside_run v f isSet s vc hv hst] at h
    simp only [hk] at h
    cases h
    rfl

theorem e2_runEffectBasic_write {env : Env} {e : Effect} {s s1 : State} {u : Unit}
    (hst : s.status = .stabilising) (hw : (effWrite e).isSome = true) (hh : HandlesOK s)
    (h : (runEffectBasic env e).run.run s = (.ok u, s1)) :
    s1 = effStep e s ∧ ∀ v f, effWrite e = some (v, f) → ∃ c, s.vars[v]? = some c := by
  cases e <;> first | (exact Bool.noConfusion hw) | skip
  case setVar v x =>
    unfold runEffectBasic at h
    simp only [e2_discard_eq] at h
    obtain ⟨vc, hv, e1⟩ := e2_write_core v _ _ _ (fun _ => []) (fun _ _ => rfl) hst hh h
    refine ⟨?_, ?_⟩
    · rw [e1]; unfold effStep; simp only [effWrite, hv]; rfl
    · intro v' f' he; cases he; exact ⟨vc, hv⟩
  case modifyVar v d =>
    unfold runEffectBasic at h
    simp only [e2_discard_eq] at h
    obtain ⟨vc, hv, e1⟩ := e2_write_core v _ _ _ (fun _ => []) (fun _ _ => rfl) hst hh h
    refine ⟨?_, ?_⟩
    · rw [e1]; unfold effStep; simp only [effWrite, hv]; rfl
    · intro v' f' he; cases he; exact ⟨vc, hv⟩
  case updateVar v d =>
    unfold runEffectBasic at h
    simp only [e2_discard_eq] at h
    obtain ⟨vc, hv, e1⟩ := e2_write_core v _ _ _ (fun _ => []) (fun _ _ => rfl) hst hh h
    refine ⟨?_, ?_⟩
    · rw [e1]; unfold effStep; simp only [effWrite, hv]; rfl
    · intro v' f' he; cases he; exact ⟨vc, hv⟩
  case replaceVar v x =>
    unfold runEffectBasic at h
    obtain ⟨vc, hv, e1⟩ := e2_write_core v _ _ _
      (fun old => [.note s!"replace v{v} -> {old.render}"]) (fun _ _ => rfl) hst hh h
    refine ⟨?_, ?_⟩
    · rw [e1]; unfold effStep; simp only [effWrite, hv]; rfl
    · intro v' f' he; cases he; exact ⟨vc, hv⟩
  case replaceWithVar v d =>
    unfold runEffectBasic at h
    obtain ⟨vc, hv, e1⟩ := e2_write_core v _ _ _
      (fun old => [.note s!"replacewith v{v} -> {old.render}"]) (fun _ _ => rfl) hst hh h
    refine ⟨?_, ?_⟩
    · rw [e1]; unfold effStep; simp only [effWrite, hv]; rfl
    · intro v' f' he; cases he; exact ⟨vc, hv⟩

theorem SameP.e2_status {s s' : State} (h : SameP s s') : s'.status = s.status := by
  have := h.eq; rw [this]

theorem SameP.e2_get_back {s s' : State} (h : SameP s s') {v : Nat} {c : VarCell} (hc : s'.vars[v]? = some c) :
    ∃ a, s.vars[v]? = some a := by
  obtain ⟨a, ha, -⟩ := h.symm.cell v c hc
  exact ⟨a, ha⟩

theorem e2_writesOf_nil : writesOf [] = [] := rfl

theorem e2_writesOf_cons_some {e : Effect} {v : Nat} {f : Val → Val} (es : List Effect) (h : effWrite e = some (v, f)) :
    writesOf (e :: es) = (v, f) :: writesOf es := by
  unfold writesOf; rw [List.filterMap_cons_some h]

/-- **closed form.** While `status = stabilising`, a successful run of write effects (through live handles) is
`effSteps`; every written cell exists. -/
theorem runEffects_writes {env : Env} {fuel : Nat} {es : List Effect} {arg : Int} {s s' : State} {u : Unit}
    (hst : s.status = .stabilising) (hw : ∀ e, e ∈ es → (effWrite e).isSome = true) (hh : HandlesOK s)
    (h : (runEffects env fuel es arg).run.run s = (.ok u, s')) :
    s' = effSteps es s ∧ ∀ v f, (v, f) ∈ writesOf es → ∃ c, s.vars[v]? = some c := by
  induction es generalizing s with
  | nil =>
    rw [runEffects_nil] at h
    obtain ⟨-, e1⟩ := pure_ok_inv h
    exact ⟨e1, fun v f hm => by cases hm⟩
  | cons e es ih =>
    have he := hw e (List.mem_cons_self ..)
    rw [e2_runEffects_cons env fuel e es arg he] at h
    obtain ⟨u1, s1, h1, h2⟩ := bind_ok_inv h
    obtain ⟨e1, hex⟩ := e2_runEffectBasic_write hst he hh h1
    have sp : SameP s s1 := e1 ▸ effStep_sameP e s
    obtain ⟨e2, hex2⟩ := ih (s := s1) (sp.e2_status.trans hst) (fun e' he' => hw e' (List.mem_cons_of_mem _ he'))
      (sp.handlesOK hh) h2
    refine ⟨by rw [e2, e1, effSteps_cons], ?_⟩
    obtain ⟨⟨v0, f0⟩, hv0⟩ := Option.isSome_iff_exists.1 he
    rw [e2_writesOf_cons_some es hv0]
    intro v f hm
    rcases List.mem_cons.1 hm with hm | hm
    · cases hm; exact hex v0 f0 hv0
    · obtain ⟨c, hc⟩ := hex2 v f hm
      exact sp.e2_get_back hc

theorem Pend.start {t : State} (hc : ∀ (v : Nat) (c : VarCell), t.vars[v]? = some c → c.pending = none)
    (hs : t.setDuringStab = []) : Pend t [] t := by
  refine ⟨rfl, hc, fun v c h => h, fun v => ?_⟩
  rw [hs]
  exact ⟨fun h => (by cases h), fun h => absurd rfl h⟩

/-- `Pend` only reads `vars` and `setDuringStab` -/
theorem Pend.congr {t : State} {W : Writes} {s s' : State} (P : Pend t W s) (hv : s'.vars = s.vars)
    (hs : s'.setDuringStab = s.setDuringStab) : Pend t W s' := by
  refine ⟨?_, P.clean, ?_, ?_⟩
  · rw [hv]; exact P.size
  · rw [hv]; exact P.cell
  · rw [hs]; exact P.mem

theorem e2_writesTo_append (w : Nat) (W W' : Writes) : writesTo w (W ++ W') = writesTo w W ++ writesTo w W' := by
  unfold writesTo; rw [List.filter_append, List.map_append]

theorem e2_writesTo_single_self (v : Nat) (f : Val → Val) : writesTo v [(v, f)] = [f] := by
  simp [writesTo]

theorem e2_writesTo_single_ne {v w : Nat} (f : Val → Val) (h : v ≠ w) : writesTo w [(v, f)] = [] := by
  simp [writesTo, h]

theorem e2_foldW_snoc (fs : List (Val → Val)) (f : Val → Val) (x : Val) : foldW (fs ++ [f]) x = f (foldW fs x) := by
  unfold foldW; rw [List.foldl_append]; rfl

theorem e2_cellW_snoc (fs : List (Val → Val)) (f : Val → Val) (c : VarCell) :
    { (cellW fs c) with pending := some (f ((cellW fs c).pending.getD (cellW fs c).value)) } = cellW (fs ++ [f]) c := by
  cases fs with
  | nil => rfl
  | cons g gs =>
    show _ = cellW (g :: (gs ++ [f])) c
    unfold cellW
    simp only [Option.getD_some]
    rw [← List.cons_append, e2_foldW_snoc]

theorem e2_cellW_pending_none {fs : List (Val → Val)} {c : VarCell} (hc : c.pending = none) :
    (cellW fs c).pending = none ↔ fs = [] := by
  cases fs with
  | nil => exact ⟨fun _ => rfl, fun _ => hc⟩
  | cons g gs => exact ⟨fun h => (by simp [cellW] at h), fun h => (by cases h)⟩

theorem e2_effStep_pend {t : State} {W : Writes} {s : State} {e : Effect} {v : Nat} {f : Val → Val}
    (P : Pend t W s) (hw : effWrite e = some (v, f)) (hex : ∃ c, s.vars[v]? = some c) :
    Pend t (W ++ [(v, f)]) (effStep e s) := by
  obtain ⟨vc, hv⟩ := hex
  have hlt : v < s.vars.size := lt_of_getElem? hv
  obtain ⟨c, hc⟩ := e2_some_of_lt (P.size ▸ hlt)
  have hvc : vc = cellW (writesTo v W) c := by
    have := P.cell v c hc; rw [hv] at this; cases this; rfl
  have hcn := P.clean v c hc
  have hE : effStep e s = logged (effNote e (vc.pending.getD vc.value)) (deferred v vc f s) := by
    unfold effStep; simp only [hw, hv]
  rw [hE]
  refine ⟨?_, P.clean, ?_, ?_⟩
  · show (s.vars.setIfInBounds v _).size = _
    rw [Array.size_setIfInBounds]; exact P.size
  · intro w c' hc'
    show (s.vars.setIfInBounds v _)[w]? = _
    rw [Array.getElem?_setIfInBounds, e2_writesTo_append]
    by_cases hvw : v = w
    · subst hvw
      rw [hc] at hc'; cases hc'
      rw [if_pos rfl, if_pos hlt, e2_writesTo_single_self, hvc, e2_cellW_snoc]
    · rw [if_neg hvw, e2_writesTo_single_ne f hvw, List.append_nil]
      exact P.cell w c' hc'
  · intro w
    show w ∈ (if vc.pending = none then v :: s.setDuringStab else s.setDuringStab) ↔ _
    rw [e2_writesTo_append]
    by_cases hvw : v = w
    · subst hvw
      rw [e2_writesTo_single_self]
      refine ⟨fun _ => (by simp), fun _ => ?_⟩
      by_cases hp : vc.pending = none
      · rw [if_pos hp]; exact List.mem_cons_self ..
      · rw [if_neg hp, P.mem v]
        intro h0
        exact hp (by rw [hvc]; exact (e2_cellW_pending_none hcn).2 h0)
    · rw [e2_writesTo_single_ne f hvw, List.append_nil, ← P.mem w]
      by_cases hp : vc.pending = none
      · rw [if_pos hp, List.mem_cons]
        exact ⟨fun h => h.resolve_left (fun h' => hvw h'.symm), Or.inr⟩
      · rw [if_neg hp]

/-- deferred writes extend the ghost list in program order -/
theorem effSteps_pend {t : State} {W : Writes} {s : State} {es : List Effect} (P : Pend t W s)
    (hex : ∀ v f, (v, f) ∈ writesOf es → ∃ c, s.vars[v]? = some c) :
    Pend t (W ++ writesOf es) (effSteps es s) := by
  induction es generalizing s W with
  | nil => rw [e2_writesOf_nil, List.append_nil]; exact P
  | cons e es ih =>
    rw [effSteps_cons]
    cases hw : effWrite e with
    | none =>
      have h1 : writesOf (e :: es) = writesOf es := by
        unfold writesOf; rw [List.filterMap_cons_none hw]
      have h2 : effStep e s = s := by unfold effStep; rw [hw]
      rw [h1] at hex ⊢; rw [h2]
      exact ih P hex
    | some p =>
      obtain ⟨v, f⟩ := p
      rw [e2_writesOf_cons_some es hw] at hex ⊢
      have P1 := e2_effStep_pend P hw (hex v f (List.mem_cons_self ..))
      have := ih P1 (fun v' f' hm => by
        obtain ⟨c, hc⟩ := hex v' f' (List.mem_cons_of_mem _ hm)
        obtain ⟨b, hb, -⟩ := (effStep_sameP e s).cell v' c hc
        exact ⟨b, hb⟩)
      rw [List.append_assoc] at this
      exact this

/-- what `Pend` says about a cell, spelled out: the value is the one of `t`; `pending` is the program-order fold -/
theorem Pend.cell_facts {t : State} {W : Writes} {s : State} (P : Pend t W s) (v : Nat) (c : VarCell)
    (hc : t.vars[v]? = some c) :
    ∃ c', s.vars[v]? = some c' ∧ CellP c c' ∧
      c'.pending = (match writesTo v W with | [] => none | f :: fs => some (foldW (f :: fs) c.value)) := by
  refine ⟨_, P.cell v c hc, ?_, ?_⟩
  · cases writesTo v W <;> rfl
  · have hcn := P.clean v c hc
    cases writesTo v W with
    | nil => exact hcn
    | cons g gs =>
      show some (foldW (g :: gs) (c.pending.getD c.value)) = _
      rw [hcn]; rfl

theorem Pend.sameP_vars {t : State} {W : Writes} {s : State} (P : Pend t W s) :
    s.vars.size = t.vars.size ∧ ∀ (v : Nat) (a : VarCell), t.vars[v]? = some a → ∃ b, s.vars[v]? = some b ∧ CellP a b := by
  refine ⟨P.size, fun v a ha => ?_⟩
  obtain ⟨b, hb, hab, -⟩ := P.cell_facts v a ha
  exact ⟨b, hb, hab⟩

end IncrVerif.Proofs.EffH
