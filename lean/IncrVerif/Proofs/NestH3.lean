import IncrVerif.Proofs.NestH2
/-!
# Nested binds, pure part c: the direct-recompute chain and `drainHeap` keep the drain invariant; values; at most once

The theorems of `BindH12`/`BindH13` for `LcStepsOK2` (runs of change detectors described by `StepL2`) in place of `LcStepsOK` (described by `StepL`).
Everything that does not mention `StepL` (`pop_invB`, `FrameB`, `StepRelB.frame`, `DInv.kids_values`, `evalB`, `drained_valuesB`,
`RanOnceB`, `scope_not_yet_run`, `scope_node_settled`, …) is reused from `BindH`.
-/
namespace IncrVerif.Proofs.NestH
open IncrVerif.Engine IncrVerif.Proofs IncrVerif.Proofs.Step IncrVerif.Proofs.Sched
open IncrVerif.Proofs.BindH

/-! ## the hypothesis about change detectors -/

/-- the hypothesis of the scheduling theorem, nested version: `Aux` is an auxiliary invariant (of the fragment at hand) such
that, from a state with the drain invariant and `Aux`, every successful run of a change detector is described by `StepL2`
and keeps `Aux`, and so do the runs of the other nodes and `remove_min` -/
structure LcStepsOK2 (env : Env) (Aux : State → Prop) : Prop where
  lc : ∀ (fuel n b : Nat) (s s' : State) (r : Option Nat), DInv env s (some n) → Aux s →
    (s.nodeD n).kind = .bindLhsChange b → (recomputeOne env fuel n).run.run s = (.ok r, s') →
    (∃ br br', StepL2 env n b br br' r s s') ∧ Aux s'
  other : ∀ (fuel n : Nat) (s s' : State) (r : Option Nat), DInv env s (some n) → Aux s →
    (StaticKind env (s.nodeD n).kind ∨ ∃ b lc, (s.nodeD n).kind = .bindMain b lc) →
    (recomputeOne env fuel n).run.run s = (.ok r, s') → Aux s'
  pop : ∀ (s s1 : State) (n : Nat), DInv env s none → Aux s →
    rchRemoveMin.run.run s = (.ok (some n), s1) → Aux s1

/-- the flat hypothesis implies the nested one (so the theorems below generalise `recomputeOne_invB` … `drain_onceB`) -/
theorem LcStepsOK.toL2 {env : Env} {Aux : State → Prop} (H : LcStepsOK env Aux) : LcStepsOK2 env Aux where
  lc fuel n b s s' r I hA hk h := by
    obtain ⟨⟨br, br', R⟩, hA'⟩ := H.lc fuel n b s s' r I hA hk h
    exact ⟨⟨br, br', StepL.toL2 R⟩, hA'⟩
  other := H.other
  pop := H.pop

/-! ## one `recomputeOne` -/

theorem StepL2.frame {env : Env} {n b : Nat} {br br' : BindRec} {r : Option Nat} {s s' : State}
    (R : StepL2 env n b br br' r s s') (I : DInv env s (some n)) : FrameB s s' where
  stabNum := R.stabNum
  vars := R.vars
  grow := R.grow
  ran m hm := by
    obtain ⟨-, hnlt, hnv, -, hnr⟩ := I.cur_facts
    by_cases e : m = n
    · subst e; omega
    by_cases hlt : m < s.nodes.size
    · rcases R.old m hlt e with ⟨-, -, h3⟩ | ⟨h1, -, -, -, h5, -, -⟩
      · -- a node that dies has not run in this round
        exfalso
        have := I.fresh m n h3 (Or.inr rfl)
        omega
      · exact ⟨by rw [h5]; exact hm, h1⟩
    · rw [nodeD_default_of_ge s m (by omega)] at hm
      have h0 := I.stamps.now
      have : (-1 : Int) = s.stabNum := hm
      omega

/-- **One `recomputeOne` keeps the drain invariant** (given the nested description of the runs of change detectors). -/
theorem recomputeOne_invB2 {env : Env} {Aux : State → Prop} (H : LcStepsOK2 env Aux) {fuel n : Nat} {s s' : State}
    {r : Option Nat} (I : DInv env s (some n)) (hA : Aux s)
    (h : (recomputeOne env fuel n).run.run s = (.ok r, s')) :
    DInv env s' r ∧ Aux s' ∧ FrameB s s' ∧ (s'.nodeD n).recomputedAt = s.stabNum ∧
      (s'.nodeD n).valid = true := by
  have g := I.graph
  obtain ⟨hn, hnlt, hnv, -, -⟩ := I.cur_facts
  have hB := (g.node n hnlt hnv).1
  have hstatic : (StaticKind env (s.nodeD n).kind ∨ ∃ b lc, (s.nodeD n).kind = .bindMain b lc) ∨
      ∃ b, (s.nodeD n).kind = .bindLhsChange b := by
    cases hk : (s.nodeD n).kind <;> rw [hk] at hB <;>
      first
      | exact Or.inl (Or.inl hB)
      | exact Or.inl (Or.inr ⟨_, _, rfl⟩)
      | exact Or.inr ⟨_, rfl⟩
  rcases hstatic with hk | ⟨b, hk⟩
  · obtain ⟨v, ch, ht, R⟩ := recomputeOne_stepB g I.heap hn hk I.kids_values h
    exact ⟨stepB_inv I ht R, H.other fuel n s s' r I hA hk h, R.frame, R.recomputedAt,
      by rw [R.shape.valid]; exact hnv⟩
  · obtain ⟨⟨br, br', R⟩, hA'⟩ := H.lc fuel n b s s' r I hA hk h
    exact ⟨stepL2_inv I hk R, hA', R.frame I, R.self.1, R.self.2.2.2.1⟩

/-! ## the chain and the drain -/

theorem drainHeap_invB2 {env : Env} {Aux : State → Prop} (H : LcStepsOK2 env Aux) (fuel : Nat) (s s' : State)
    (I : DInv env s none) (hA : Aux s) (h : (drainHeap env fuel).run.run s = (.ok (), s')) :
    DInv env s' none ∧ Aux s' ∧ s'.rch.length = 0 ∧ FrameB s s' :=
  have ⟨I', A', he, O⟩ := BindH.drainHeap_runB (recomputeOne_invB2 H) H.pop fuel s s' I hA h
  ⟨I', A', he, O.fr⟩

/-- **The values after `drainHeap`** (nested contract). -/
theorem drainHeap_valuesB2 {env : Env} {Aux : State → Prop} (H : LcStepsOK2 env Aux) {fuel : Nat} {s s' : State}
    (I : DInv env s none) (hA : Aux s) (h : (drainHeap env fuel).run.run s = (.ok (), s')) :
    DInv env s' none ∧ Aux s' ∧ s'.rch.length = 0 ∧ s'.vars = s.vars ∧ s'.stabNum = s.stabNum ∧
    ∀ n, s'.isNecessary n = true → ∀ k, (s'.nodeD n).height.toNat < k →
      (s'.nodeD n).valid = true ∧ s'.isStale n = false ∧
        (s'.nodeD n).value = evalB env s' k n ∧ s'.value env n = evalB env s' k n ∧
        (evalB env s' k n).isSome = true := by
  obtain ⟨I', hA', he, f⟩ := drainHeap_invB2 H fuel s s' I hA h
  exact ⟨I', hA', he, f.vars, f.stabNum, fun n hn k hk => drained_valuesB I' he n hn k hk⟩

/-! ## at most once; dead generations -/

/-- **At most once, and never a dying generation** (nested contract). The nodes run by a successful `drainHeap` from a
state with the drain invariant are pairwise distinct; each had `recomputedAt < stabNum` before the drain, has
`recomputedAt = stabNum` after it, and is still valid at the end of the drain — so no node of a generation (of the bind
or of any inner bind) that is invalidated during this drain was recomputed in it. -/
theorem drain_onceB2 {env : Env} {Aux : State → Prop} (H : LcStepsOK2 env Aux) :
    ∀ (fuel : Nat) (s s' : State), DInv env s none → Aux s →
    (drainHeap env fuel).run.run s = (.ok (), s') →
    (drainTrace env fuel s).Nodup ∧ ∀ m, m ∈ drainTrace env fuel s → RanOnceB s s' m := by
  intro fuel s s' I hA h
  rw [← TidyH.drainSteps_fst]
  exact BindH.OnceB.ranOnce (v := id) I.stamps (BindH.drainHeap_runB (recomputeOne_invB2 H) H.pop fuel s s' I hA h).2.2.2

end IncrVerif.Proofs.NestH
