import IncrVerif.Proofs.PerKeyH44
import IncrVerif.Proofs.PerKeyH89
import IncrVerif.Proofs.PerKeyH39
/-!
# Per-key operators, static steps part 3: the step, read in `V`

A run of a node that is neither a change detector nor an expert node computes the same thing in `s` and in `V s`
(`Step.Computes`), so the static engine makes the same step on `V s` (`recomputeOne_vsim`, the `maybe_change_value` by `VSim`); there it
is a `BindH.StepRelB` (`BindH.recomputeOne_stepB`).
-/
namespace IncrVerif.Proofs.PerKeyH
open IncrVerif.Engine IncrVerif.Driver IncrVerif.Proofs IncrVerif.Proofs.Step IncrVerif.Proofs.Sched
open IncrVerif.Proofs.ExpertH IncrVerif.Proofs.EffH IncrVerif.Proofs.DriverH IncrVerif.Proofs.Xp
open IncrVerif.Proofs.ExpertH.QR

theorem pkind_map_ne_fLc {env : Env} {f : Nat} {args : List Nat} (h : PKind env (.map f args)) (hf : f < fnPerKey) :
    f ≠ fLc := by
  simp only [PKind] at h
  unfold fLc
  rcases h with h | h | h | h
  · have := h.1; unfold fnZip at this; omega
  · rw [h]; decide
  · rw [h]; decide
  · omega

/-! ## `V` commutes with the bookkeeping at the start of a step -/

theorem V_started (n : Nat) (s : State) (hne : ∀ e, (s.nodeD n).kind ≠ .expert e) :
    V (started n s) = started n (V s) := by
  have key : (s.nodes.modify n fun x => { x with recomputedAt := s.stabNum }).map (vNode s) =
      (s.nodes.map (vNode s)).modify n fun x => { x with recomputedAt := s.stabNum } := by
    apply Array.ext
    · simp
    · intro i h1 h2
      simp only [Array.getElem_map, Array.getElem_modify]
      split
      · rename_i e; subst e
        have hlt : n < s.nodes.size := by simpa using h1
        have hnd : s.nodeD n = s.nodes[n] := nodeD_of_some (Array.getElem?_eq_getElem hlt)
        rw [hnd] at hne
        simp only [vNode]
        cases hk : s.nodes[n].kind <;> first | rfl | exact absurd hk (hne _)
      · rfl
  have hv : vNode (started n s) = vNode s := vNode_congr rfl rfl
  unfold V
  rw [hv]
  simp only [started]
  rw [key]

theorem V_logged (es : List Event) (s : State) (h : ∀ e, e ∈ es → keepEv e = true) :
    V (logged es s) = logged es (V s) := by
  simp only [V, logged, List.filter_append]
  rw [List.filter_eq_self.2 h]
  rfl

theorem valuesOf_V (env : Env) (s : State) (hfr : Fr s) (args : List Nat) :
    valuesOf (penv env) (V s) args = valuesOf env s args := by
  induction args with
  | nil => rfl
  | cons a as ih =>
    simp only [valuesOf]
    rw [V_value s env (penv env) a (hfr.not_mapRef a), ih]

/-! ## the simulation -/

/-- one `recomputeOne` of a node of the fragment that is neither an expert node nor a change detector: the static engine makes the
same step on the value-faithful virtual state -/
theorem recomputeOne_vsim {env : Env} {s s' : State} {fuel n : Nat} {r : Option Nat}
    (hfr : Fr s) (hn : n < s.nodes.size) (hpk : PKind env (s.nodeD n).kind)
    (hne : ∀ e, (s.nodeD n).kind ≠ .expert e) (hf : ∀ f args, (s.nodeD n).kind = .map f args → f < fnPerKey)
    (h : (recomputeOne env fuel n).run.run s = (.ok r, s')) :
    (recomputeOne (penv env) fuel n).run.run (V s) = (.ok r, V s') ∧ Fr s' := by
  have hnd := some_of_lt hn
  have hval := hfr.valid n
  have hvn : (V s).nodes[n]? = some (s.nodeD n) := by
    rw [V_getElem?, hnd]; simp only [Option.map_some]; rw [vNode_of_not_expert_map s _ hne hf]
  have hSK : StaticKind env (s.nodeD n).kind := (xKind_of_pkind hpk hf).static hne
  have hSK' : StaticKind (penv env) (s.nodeD n).kind := by
    cases hk : (s.nodeD n).kind <;> rw [hk] at hSK <;> first | trivial | exact hSK.elim | skip
    exact ⟨hSK.1, fun _ _ => rfl⟩
  obtain ⟨v, evs, hc⟩ := computes_of_ok hnd hval hSK h
  have hes := keepEv_of_computes hc hSK
  have hc' : Computes (penv env) (V s) n (s.nodeD n) v (s.nodeD n).oldState evs := by
    cases hc with
    | map f args vals hkd hfz hv heff =>
      rw [← penv_fn_ne env (pkind_map_ne_fLc (hkd ▸ hpk) (hf f args hkd))]
      exact .map f args vals hkd hfz ((valuesOf_V env s hfr args).trans hv) rfl
    | mapBuiltin f args vals hkd hfz hfp hv =>
      rw [← penv_fn_ne env (pkind_map_ne_fLc (hkd ▸ hpk) hfp)]
      exact .mapBuiltin f args vals hkd hfz hfp ((valuesOf_V env s hfr args).trans hv)
    | var c vc hkd hvc => exact .var c vc hkd hvc
    | const w hkd => exact .const _ hkd
    | fold f init cs vals hkd hv =>
      rw [← penv_foldStep_lt env (show f < xBase by rw [hkd] at hpk; exact hpk)]
      exact .fold f init cs vals hkd ((valuesOf_V env s hfr cs).trans hv)
    | mapWithOld g i x σ' new did hkd => rw [hkd] at hSK; exact hSK.elim
    | bindMain b lc r0 br rn w hkd => rw [hkd] at hSK; exact hSK.elim
  exact recomputeOne_sim_of_computes (V := V) hnd hval hfr.pc hc hSK hvn hval hfr.pc hc' hSK'
    (by rw [V_logged evs _ hes, V_started n s hne])
    (VSim.maybeChangeValue env fuel n v _ ((hfr.started n).logged evs) r s') h

/-- **the run of a static node, read in `V`** -/
theorem static_core {env : Env} {fuel n : Nat} {s s' : State} {r : Option Nat} (D : PD env s (some n))
    (hne : ∀ e, (s.nodeD n).kind ≠ .expert e)
    (hf : ∀ f args, (s.nodeD n).kind = .map f args → f < fnPerKey)
    (h : (recomputeOne env fuel n).run.run s = (.ok r, s')) :
    ∃ v ch, BindH.TargetB (penv env) (V s) n v ∧ BindH.StepRelB n v ch r (V s) (V s') ∧ Fr s' ∧ SF s s' := by
  have I := D.inv
  have F := D.aux.frag
  obtain ⟨hnecV, hltV, -, -, -⟩ := I.cur_facts
  have hlt : n < s.nodes.size := by rw [← V_size]; exact hltV
  have fr := fr_of_pfrag F D.aux.pinv
  have hpk := F.kindD n
  obtain ⟨hsim, fr'⟩ := recomputeOne_vsim fr hlt hpk hne hf h
  obtain ⟨v, ch, ht, R⟩ := BindH.recomputeOne_stepB I.graph I.heap hnecV (Or.inl (sk_V F n)) I.kids_values hsim
  obtain ⟨sf, -⟩ := SF.of_run fr hlt (xKind_of_pkind hpk hf) hne h
  exact ⟨v, ch, ht, R, fr', sf⟩

end IncrVerif.Proofs.PerKeyH
