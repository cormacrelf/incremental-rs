import IncrVerif.Proofs.EffH16
import IncrVerif.Proofs.Footprint
/-!
# Effects, part 17 (V3): whole histories with subscriptions and write effects in functions and handlers
-/
namespace IncrVerif.Proofs.EffH
open IncrVerif.Engine IncrVerif.Driver IncrVerif.Proofs IncrVerif.Proofs.Step IncrVerif.Proofs.Sched
open IncrVerif.Proofs.Quiet

/-- the API actions of the fragment: the static actions and `subscribe`/`unsubscribe`/`stateUnsub`; user functions of
`map` nodes and update handlers may have effects (restricted by `WOnly env` and `WHandlers env`) -/
def WAction (env : Env) (a : Action) : Prop := SubsH.SubAction (noEff env) a

open P9

/-- the subscription actions do not touch the variables -/
theorem step_cells_sub {env : Env} {s s' : State} {a : Action} {tk : Array Nat} {r : String × Array Nat}
    (ha : match a with | .subscribe _ _ | .unsubscribe _ _ | .stateUnsub _ => True | _ => False)
    (hc : CellsOK s) (h : (stepAction env a tk).run.run s = (.ok r, s')) : CellsOK s' := by
  have : PreOrd fun s s' : State => s'.vars = s.vars := ⟨fun _ => rfl, fun h1 h2 => h2.trans h1⟩
  have hv : s'.vars = s.vars :=
    ((Footprint.Foot.stepAction env a tk).lift (R := fun s s' => s'.vars = s.vars) fun e => by
      cases e with
      | engine e => exact e.vars (by cases a <;> first | exact ha.elim | (dsimp only [Footprint.W.stepAction]; decide))
      | _ => first | rfl | exact ha.elim).h _ _ _ h
  exact fun v c hvc => hc v c (hv ▸ hvc)

theorem uinve_init (env : Env) (N : Nat) (d : Bool) : UInvE env (State.init N d) :=
  ⟨SubsH.uinv_init (noEff env) N d, fun v c hc => by simp [State.init] at hc⟩

/-- **every action keeps the invariant** -/
theorem step_w {env : Env} (hw : WOnly env) (hH : WHandlers env) {s s' : State} {a : Action} {tk : Array Nat}
    {r : String × Array Nat} (U : UInvE env s) (ha : WAction env a)
    (h : (stepAction env a tk).run.run s = (.ok r, s')) : UInvE env s' := by
  by_cases hs : a = .stabilise
  · subst hs
    obtain ⟨t2, t3, X⟩ := stabilise_w hw hH U (step_stabilise h)
    exact X.inv
  · have hnd : ∀ e c cb, a ≠ .addDep e c cb := by
      intro e c cb heq; rw [heq] at ha; exact ha.elim
    have h0 := h
    rw [← stepAction_noEff env a tk hs hnd] at h0
    refine ⟨(SubsH.step_u U.u (pureHandlers_noEff env) ha h0).1, ?_⟩
    by_cases hsub : (match a with | .subscribe _ _ | .unsubscribe _ _ | .stateUnsub _ => True | _ => False)
    · exact step_cells_sub hsub U.cells h
    · have hst : StaticAction (noEff env) a := by
        cases a <;> first | exact ha | exact absurd trivial hsub
      exact step_cells hst hs U.u.core.status U.cells h0

theorem runActions_w {env : Env} (hw : WOnly env) (hH : WHandlers env) {acts : List Action} {s s' : State}
    {tk tk' : Array Nat} (U : UInvE env s) (ha : ∀ a, a ∈ acts → WAction env a)
    (h : runActions env acts s tk = .ok (s', tk')) : UInvE env s' :=
  Hist.runActions_inv_all (fun _ _ _ _ _ U ha hx => step_w hw hH U ha hx) U ha h

theorem history_w {env : Env} (hw : WOnly env) (hH : WHandlers env) {N : Nat} {d : Bool} {acts : List Action}
    {s : State} {tk : Array Nat} (ha : ∀ a, a ∈ acts → WAction env a)
    (h : runActions env acts (State.init N d) #[] = .ok (s, tk)) : UInvE env s :=
  runActions_w hw hH (uinve_init env N d) ha h

/-- at every `stabilise` of a history of the fragment, V3 holds -/
theorem history_stabilise_w {env : Env} (hw : WOnly env) (hH : WHandlers env) {N : Nat} {d : Bool}
    {as bs : List Action} {s : State} {tk : Array Nat}
    (ha : ∀ a, a ∈ as ++ Action.stabilise :: bs → WAction env a)
    (h : runActions env (as ++ Action.stabilise :: bs) (State.init N d) #[] = .ok (s, tk)) :
    ∃ s1 tk1 s2 t2 t3, runActions env as (State.init N d) #[] = .ok (s1, tk1) ∧ UInvE env s1 ∧
      (stabilise env fuelDefault).run.run s1 = (.ok (), s2) ∧ WStab env fuelDefault s1 t2 t3 s2 ∧
      runActions env bs s2 tk1 = .ok (s, tk) := by
  obtain ⟨s1, tk1, s2, h1, U1, hst, -, h2⟩ :=
    Hist.runActions_stabilise_all (fun _ _ _ _ _ U ha hx => step_w hw hH U ha hx) (uinve_init env N d) ha h
  obtain ⟨t2, t3, X⟩ := stabilise_w hw hH U1 hst
  exact ⟨s1, tk1, s2, t2, t3, h1, U1, hst, X, h2⟩

/-! ## staleness, `isStable`, the fixed point -/

/-- **a stable state reads the current variables** (with subscriptions) -/
theorem stable_readsU {env : Env} {s : State} (U : UInvE env s) (hs : s.isStable = true) :
    ∀ (o : Nat) (ob : ObsRec), s.observers[o]? = some ob → ob.state = .inUse →
      ∀ k, (s.nodeD ob.node).height.toNat < k →
        ∃ v, s.tryGetValue env o = .ok v ∧ eval env s k ob.node = some v :=
  stable_readsQ U.u.core hs

/-- **the fixed-point corollary with handlers (partial correctness)** -/
theorem loop_fixpoint_w {env : Env} (hw : WOnly env) (hH : WHandlers env) {N : Nat} {d : Bool}
    {acts : List Action} {k : Nat} {s : State} {tk : Array Nat} (ha : ∀ a, a ∈ acts → WAction env a)
    (h : runActions env (acts ++ List.replicate k Action.stabilise) (State.init N d) #[] = .ok (s, tk))
    (hs : s.isStable = true) :
    ∀ (o : Nat) (ob : ObsRec), s.observers[o]? = some ob → ob.state = .inUse →
      ∀ j, (s.nodeD ob.node).height.toNat < j →
        ∃ v, s.tryGetValue env o = .ok v ∧ eval env s j ob.node = some v := by
  have U : UInvE env s := by
    refine history_w hw hH ?_ h
    intro a hm
    rcases List.mem_append.1 hm with hm | hm
    · exact ha a hm
    · rw [(List.mem_replicate.1 hm).2]; trivial
  exact stable_readsU U hs

/-- **staleness after a `stabilise` with function and handler writes**: a necessary node is stale afterwards iff it is
the watch node of a variable written by a function or a handler -/
theorem WStab.stale_iff {env : Env} {fuel : Nat} {s t2 t3 s' : State} (X : WStab env fuel s t2 t3 s') (m : Nat)
    (hm : s'.isNecessary m = true) :
    s'.isStale m = true ↔ ∃ v, (s'.nodeD m).kind = .var v ∧
      writesTo v (stepsWrites env (drainSteps env fuel t2) ++ writesOf (endEffs env t3)) ≠ [] := by
  have D3 := X.drain.di.inv
  have hnode : ∀ c, (s'.nodeD c).kind = (t3.nodeD c).kind ∧ (s'.nodeD c).recomputedAt = (t3.nodeD c).recomputedAt ∧
      (s'.nodeD c).changedAt = (t3.nodeD c).changedAt ∧ s'.isNecessary c = t3.isNecessary c := by
    intro c
    obtain ⟨hh, e⟩ := X.mid.ended.node c
    refine ⟨by rw [e], by rw [e], by rw [e], ?_⟩
    simp only [State.isNecessary, Node.isNecessary, e]
  obtain ⟨e1, e5, -, e7⟩ := hnode m
  have hm3 : t3.isNecessary m = true := by rw [← e7]; exact hm
  have gS := D3.graph
  have hsS : staleOf t3 m = false := by
    rw [← gS.isStale hm3]; exact (DrainInv.all_consistent D3 X.drained m hm3).1
  have F := X.drain.dr.frame
  have h1 := (D3.stamps.node m).1
  have h2 : t3.stabNum = s.stabNum := by rw [F.stabNum, X.startStab]
  rw [X.inv.u.core.quiet.graph.isStale hm]
  refine staleOf_written (now := s.stabNum + 1) hsS (gS.nec m hm3).2.2.1 e1 e5 (fun c => (hnode c).2.2.1) (by omega) fun c hk => ?_
  obtain ⟨vc3, hvc3⟩ := gS.var m c hm3 hk
  obtain ⟨c0, hc0, hcp⟩ := e3_cell' F.vsize F.cell c vc3 hvc3
  exact ⟨vc3, c0, hvc3, hcp.setAt.symm, X.vars c c0 (by rw [← X.startVars]; exact hc0)⟩

/-- **`isStable` after a `stabilise` with function and handler writes** -/
theorem WStab.isStable_iff {env : Env} {fuel : Nat} {s t2 t3 s' : State} (X : WStab env fuel s t2 t3 s') :
    s'.isStable = true ↔
      ∀ v, writesTo v (stepsWrites env (drainSteps env fuel t2) ++ writesOf (endEffs env t3)) ≠ [] →
        ∀ m, (s'.nodeD m).kind = .var v → s'.isNecessary m = false :=
  isStable_iff_written X.inv.u.core X.newObservers X.stale_iff

end IncrVerif.Proofs.EffH
