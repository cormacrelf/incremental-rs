import IncrVerif.Proofs.Sched1
/-!
# Heap lemmas for the scheduling invariant: `HeapInv` through insert / min-height / remove-min

First the two heap operations that return under `HeapWF` (`Step.rchRemove_tot`, `Step.rchIncreaseHeight_tot`) and when a bucket array is empty.
-/
namespace IncrVerif.Proofs.Step
open IncrVerif.Engine IncrVerif.Proofs

theorem sum_len_zero_iff (l : List (List Nat)) : (l.map List.length).sum = 0 ↔ ∀ x, x ∈ l → x = [] := by
  induction l with
  | nil => simp
  | cons a l ih =>
    simp only [List.map_cons, List.sum_cons, List.mem_cons, forall_eq_or_imp]
    rw [← ih, ← List.length_eq_zero_iff]
    omega

theorem bucketSum_zero_iff (q : Array (List Nat)) :
    bucketSum q = 0 ↔ ∀ j (h : j < q.size), q[j] = [] := by
  unfold bucketSum
  rw [sum_len_zero_iff]
  constructor
  · intro h j hj
    exact h _ (by simp)
  · intro h x hx
    rw [Array.mem_toList_iff, Array.mem_iff_getElem] at hx
    obtain ⟨j, hj, e⟩ := hx
    rw [← e]; exact h j hj

/-- `rchRemove` of a queued node that need not be computed returns -/
theorem rchRemove_tot {n : Nat} {s : State} (W : HeapWF s) (hn : n < s.nodes.size)
    (hin : (s.nodeD n).inRch = true) (hnc : s.cfg.debug = true → s.needsToBeComputed n = false) :
    ∃ s', (rchRemove n).run.run s = (.ok (), s') := by
  have hnd := some_of_lt hn
  have h0 : 0 ≤ (s.nodeD n).heightInRch := by simpa [Node.inRch] using hin
  have hlt : (s.nodeD n).heightInRch.toNat < s.rch.queues.size := by
    rcases W.range n hn with h | ⟨_, h⟩
    · omega
    · omega
  have hmem : n ∈ s.rch.queues[(s.nodeD n).heightInRch.toNat] :=
    (W.mem _ hlt n).2 ⟨hn, by omega⟩
  obtain ⟨idx, hidx⟩ := idxOf?_of_mem hmem
  have hq : s.rch.queues[(s.nodeD n).heightInRch.toNat]? = some s.rch.queues[(s.nodeD n).heightInRch.toNat] :=
    Array.getElem?_eq_getElem hlt
  have hul : ∃ s1, (rchUnlink n).run.run s = (.ok (), s1) := by
    unfold rchUnlink
    rw [run_bind_ok (run_getNode_some hnd), run_bind_get]
    dsimp only
    rw [hq]
    dsimp only
    rw [if_neg (by omega)]
    rw [hidx]
    exact ⟨_, rfl⟩
  obtain ⟨s1, h1⟩ := hul
  unfold rchRemove
  rw [run_bind_get, run_bind_ok (run_getNode_some hnd),
    run_bind_ok (run_dassert_true s (by
      intro hd; rw [hin, hnc hd]; rfl)), run_bind_ok h1, run_bind_modNode, run_modify]
  exact ⟨_, rfl⟩

/-- `rchIncreaseHeight` of a queued node whose height is above its bucket, and within the limit, returns -/
theorem rchIncreaseHeight_tot {n : Nat} {s : State} (W : HeapWF s) (hn : n < s.nodes.size)
    (hin : (s.nodeD n).inRch = true) (hlt : (s.nodeD n).heightInRch < (s.nodeD n).height)
    (hmax : (s.nodeD n).height ≤ s.rch.maxAllowed) :
    ∃ s', (rchIncreaseHeight n).run.run s = (.ok (), s') := by
  have hnd := some_of_lt hn
  have h0 : 0 ≤ (s.nodeD n).heightInRch := by simpa [Node.inRch] using hin
  have hlt' : (s.nodeD n).heightInRch.toNat < s.rch.queues.size := by
    rcases W.range n hn with h | ⟨_, h⟩
    · omega
    · omega
  have hmem : n ∈ s.rch.queues[(s.nodeD n).heightInRch.toNat] :=
    (W.mem _ hlt' n).2 ⟨hn, by omega⟩
  obtain ⟨idx, hidx⟩ := idxOf?_of_mem hmem
  have hq : s.rch.queues[(s.nodeD n).heightInRch.toNat]? = some s.rch.queues[(s.nodeD n).heightInRch.toNat] :=
    Array.getElem?_eq_getElem hlt'
  have hul : ∃ s1, (rchUnlink n).run.run s = (.ok (), s1) := by
    unfold rchUnlink
    rw [run_bind_ok (run_getNode_some hnd), run_bind_get]
    dsimp only
    rw [hq]
    dsimp only
    rw [if_neg (by omega)]
    rw [hidx]
    exact ⟨_, rfl⟩
  obtain ⟨s1, h1⟩ := hul
  obtain ⟨Q, hQ, e1⟩ := rchUnlink_ok_inv h1
  have hnd1 : s1.nodes[n]? = some (s.nodeD n) := by rw [e1]; exact hnd
  have hmax1 : s1.rch.maxAllowed = s.rch.maxAllowed := by rw [e1]; simp only [Heap.maxAllowed, hQ]
  unfold rchIncreaseHeight
  rw [run_bind_ok (run_getNode_some hnd), run_bind_get,
    run_bind_ok (run_dassert_true s (by intro _; simpa using hlt)),
    run_bind_ok (run_dassert_true s (fun _ => hin)),
    run_bind_ok (run_dassert_true s (by intro _; simpa using hmax)),
    run_bind_ok h1, rchLink_run, hnd1]
  dsimp only
  rw [if_neg (by omega), if_neg (by rw [hmax1]; omega)]
  exact ⟨_, rfl⟩

end IncrVerif.Proofs.Step

namespace IncrVerif.Proofs.Sched
open IncrVerif.Engine IncrVerif.Proofs IncrVerif.Proofs.Step


/-! ## auxiliary lemmas -/

theorem inRch_iff (nd : Node) : nd.inRch = true ↔ 0 ≤ nd.heightInRch := by
  simp [Node.inRch]

theorem inRch_false_iff (nd : Node) : nd.inRch = false ↔ nd.heightInRch < 0 := by
  simp [Node.inRch]

theorem lt_size_of_inRch {s : State} {m : Nat} (hm : (s.nodeD m).inRch = true) : m < s.nodes.size := by
  by_cases h : m < s.nodes.size
  · exact h
  · rw [nodeD_default_of_ge s m (by omega)] at hm; cases hm

/-- `HeapWF` only looks at the heap, the node count and the markers -/
theorem HeapWF_congr {s s' : State} (h : HeapWF s) (hr : s'.rch = s.rch)
    (_hsz : s'.nodes.size = s.nodes.size)
    (hm : ∀ m, (s'.nodeD m).heightInRch = (s.nodeD m).heightInRch) : HeapWF s' := by
  rw [← HWF_release_iff] at h ⊢
  unfold HWF at *
  have e : markerOf s'.nodes = markerOf s.nodes := funext hm
  rw [hr, e]; exact ⟨h.1, by simp⟩

/-- `lb ≤ firstNonEmpty q fuel lb` -/
theorem firstNonEmpty_ge (q : Array (List Nat)) (fuel lb : Nat) : lb ≤ firstNonEmpty q fuel lb := by
  induction fuel generalizing lb with
  | zero => exact Nat.le_refl _
  | succ fuel ih =>
    unfold firstNonEmpty
    split
    · have := ih (lb + 1); omega
    · exact Nat.le_refl _

/-- with enough fuel, `firstNonEmpty` finds the first non-empty bucket at or above `lb` -/
theorem firstNonEmpty_spec (q : Array (List Nat)) (fuel lb j : Nat) (hj : lb ≤ j) (hlt : j < q.size)
    (hne : q[j] ≠ []) (hf : j - lb < fuel) :
    firstNonEmpty q fuel lb ≤ j ∧ ∃ x xs, q[firstNonEmpty q fuel lb]? = some (x :: xs) := by
  induction fuel generalizing lb with
  | zero => omega
  | succ fuel ih =>
    unfold firstNonEmpty
    have hlb : lb < q.size := by omega
    have e : q[lb]? = some q[lb] := Array.getElem?_eq_getElem hlb
    cases hq : q[lb] with
    | nil =>
      rw [e, hq]
      simp only
      have hne' : lb ≠ j := by
        intro e'; subst e'; exact hne hq
      exact ih (lb + 1) (by omega) (by omega)
    | cons x xs =>
      rw [e, hq]
      simp only
      exact ⟨hj, x, xs, by rw [e, hq]⟩

/-- `HeapInv` only looks at the heap, the node count, and `heightInRch`/`height`/necessity of the nodes -/
theorem HeapInv.congr {s s' : State} (h : HeapInv s) (hr : s'.rch = s.rch)
    (hsz : s'.nodes.size = s.nodes.size)
    (hm : ∀ m, (s'.nodeD m).heightInRch = (s.nodeD m).heightInRch ∧
      (s'.nodeD m).height = (s.nodeD m).height ∧ s'.isNecessary m = s.isNecessary m) :
    HeapInv s' := by
  have hin : ∀ m, (s'.nodeD m).inRch = (s.nodeD m).inRch := fun m => by
    simp only [Node.inRch, (hm m).1]
  refine ⟨HeapWF_congr h.wf hr hsz (fun m => (hm m).1), ?_, ?_, by rw [hr]; exact h.lb0, ?_⟩
  · intro m hq
    rw [hin] at hq
    rw [(hm m).1, (hm m).2.1]; exact h.hgt m hq
  · intro m hq
    rw [hin] at hq
    rw [hr, (hm m).2.1]; exact h.lb m hq
  · intro m hq
    rw [hin] at hq
    rw [(hm m).2.2]; exact h.nec m hq

theorem inserted_isNecessary (p : Nat) (h : Int) (s : State) (m : Nat) :
    (inserted p h s).isNecessary m = s.isNecessary m := by
  simp only [State.isNecessary, inserted_nodeD]
  split <;> rfl

theorem inserted_inRch (p : Nat) (h : Int) (s : State) (hp : p < s.nodes.size) (h0 : 0 ≤ h) (m : Nat) :
    ((inserted p h s).nodeD m).inRch = true ↔ (m = p ∨ (s.nodeD m).inRch = true) := by
  rw [inserted_nodeD]
  by_cases e : m = p
  · subst e
    rw [if_pos ⟨rfl, hp⟩]
    simp only [inRch_iff, true_or, iff_true]
    exact h0
  · have : ¬ (p = m ∧ m < s.nodes.size) := fun h => e h.1.symm
    rw [if_neg this]
    simp [e]

/-- inserting a necessary, not queued node at its height keeps the heap invariant -/
theorem HeapInv.inserted {s : State} (h : HeapInv s) {p : Nat} {nd : Node}
    (hp : s.nodes[p]? = some nd) (hnot : nd.inRch = false) (h0 : 0 ≤ nd.height)
    (hmax : nd.height ≤ s.rch.maxAllowed) (hnec : s.isNecessary p = true) :
    HeapInv (inserted p nd.height s) := by
  have hlt : p < s.nodes.size := lt_of_some hp
  have hnd : s.nodeD p = nd := nodeD_of_some hp
  have hw := (HWF_release_iff s).2 h.wf
  have hmk : markerOf s.nodes p = -1 := hw.marker_neg hp hnot
  obtain ⟨⟨hb, hl⟩, -⟩ := hw
  have hb0 : BucketsOK s.rch.queues (setMk p (-1) (markerOf s.nodes)) := by
    rw [setMk_self p _ _ hmk]; exact hb
  have hh : nd.height.toNat < s.rch.queues.size := by
    simp only [Heap.maxAllowed] at hmax; omega
  obtain ⟨hb', hs'⟩ := BucketsOK.link hb0 nd.height.toNat hh
  have e : ((nd.height.toNat : Nat) : Int) = nd.height := by omega
  rw [e] at hb'
  have key : ∀ m, (IncrVerif.Proofs.inserted p nd.height s).nodeD m =
      if m = p then { s.nodeD m with heightInRch := nd.height } else s.nodeD m := by
    intro m
    rw [inserted_nodeD]
    by_cases e : m = p
    · subst e; rw [if_pos ⟨rfl, hlt⟩, if_pos rfl]
    · have : ¬ (p = m ∧ m < s.nodes.size) := fun h => e h.1.symm
      rw [if_neg this, if_neg e]
  refine ⟨?_, ?_, ?_, ?_, ?_⟩
  rotate_left 3
  · show 0 ≤ (if nd.height < s.rch.lowerBound then nd.height else s.rch.lowerBound)
    have := h.lb0
    split <;> omega
  rotate_right 3
  · rw [← HWF_release_iff]
    refine ⟨⟨?_, ?_⟩, by simp⟩
    · show BucketsOK (s.rch.queues.modify nd.height.toNat (· ++ [p]))
        (markerOf (s.nodes.modify p fun x => { x with heightInRch := nd.height }))
      rw [markerOf_modify_set _ _ _ hlt]; exact hb'
    · show s.rch.length + 1 = bucketSum (s.rch.queues.modify nd.height.toNat (· ++ [p]))
      rw [hs', hl]
  · intro m hq
    rw [key] at hq ⊢
    by_cases e : m = p
    · subst e; rw [if_pos rfl]; simp only [hnd]
    · rw [if_neg e] at hq ⊢; exact h.hgt m hq
  · intro m hq
    rw [key] at hq ⊢
    show (if nd.height < s.rch.lowerBound then nd.height else s.rch.lowerBound) ≤ _
    by_cases e : m = p
    · subst e; rw [if_pos rfl]; simp only [hnd]
      split <;> omega
    · rw [if_neg e] at hq ⊢
      have := h.lb m hq
      split <;> omega
  · intro m hq
    rw [inserted_isNecessary]
    rw [key] at hq
    by_cases e : m = p
    · subst e; exact hnec
    · rw [if_neg e] at hq; exact h.nec m hq

/-- `min_height` is below every queued node -/
theorem minHeightOf_le {s : State} (h : HeapInv s) {m : Nat} (hm : (s.nodeD m).inRch = true) :
    minHeightOf s ≤ (s.nodeD m).height := by
  have hlt := lt_size_of_inRch hm
  have hlb := h.lb m hm
  have hg := h.hgt m hm
  have h0 : 0 ≤ (s.nodeD m).heightInRch := (inRch_iff _).1 hm
  unfold minHeightOf
  by_cases he : s.rch.length = 0
  · have := h.empty he m
    rw [hm] at this; cases this
  · have he' : (s.rch.length == 0) = false := by simpa using he
    rw [he']
    simp only [Bool.false_eq_true, if_false]
    split
    · exact hlb
    · rcases h.wf.range m hlt with h1 | ⟨_, h2⟩
      · omega
      · have hj : (s.nodeD m).heightInRch.toNat < s.rch.queues.size := by omega
        have hmem := (h.wf.mem _ hj m).2 ⟨hlt, by omega⟩
        have hne : s.rch.queues[(s.nodeD m).heightInRch.toNat] ≠ [] := by
          intro e; rw [e] at hmem; cases hmem
        have := (firstNonEmpty_spec s.rch.queues (s.rch.queues.size + 1) s.rch.lowerBound.toNat
          _ (by omega) hj hne (by omega)).1
        omega

theorem HeapInv.withMinHeight {s : State} (h : HeapInv s) : HeapInv (withMinHeight s) :=
  ⟨⟨h.wf.mem, h.wf.nodup, h.wf.length, h.wf.range⟩, h.hgt, fun _ hm => minHeightOf_le h hm,
    by
      show 0 ≤ minHeightOf s
      unfold minHeightOf
      have := h.lb0
      split
      · omega
      · split <;> omega,
    h.nec⟩

theorem bucketSum_eq_zero_of_nil (q : Array (List Nat)) (h : ∀ i (hi : i < q.size), q[i] = []) :
    bucketSum q = 0 := by
  unfold bucketSum
  have : ∀ l : List (List Nat), (∀ x ∈ l, x = []) → (l.map List.length).sum = 0 := by
    intro l
    induction l with
    | nil => intro _; rfl
    | cons a l ih =>
      intro hl
      simp only [List.map_cons, List.sum_cons]
      rw [ih (fun x hx => hl x (List.mem_cons_of_mem _ hx)), hl a (List.mem_cons_self ..)]
      rfl
  apply this
  intro x hx
  obtain ⟨i, hi, e⟩ := List.mem_iff_getElem.1 hx
  have hi' : i < q.size := by simpa using hi
  rw [← e]
  simpa using h i hi'

/-- a non-empty heap has a queued node -/
theorem HeapInv.exists_queued {s : State} (h : HeapInv s) (he : s.rch.length ≠ 0) :
    ∃ m, (s.nodeD m).inRch = true := by
  have hs : bucketSum s.rch.queues ≠ 0 := by rw [← h.wf.length]; exact he
  have : ¬ ∀ i (hi : i < s.rch.queues.size), s.rch.queues[i] = [] :=
    fun hall => hs (bucketSum_eq_zero_of_nil _ hall)
  false_or_by_contra
  rename_i hno
  apply this
  intro i hi
  cases hq : s.rch.queues[i] with
  | nil => rfl
  | cons m ms =>
    exfalso
    have := (h.wf.mem i hi m).1 (by rw [hq]; exact List.mem_cons_self ..)
    apply hno
    exact ⟨m, by rw [inRch_iff, this.2]; omega⟩

/-- a queued node sits in the (non-empty) bucket of its height, at or above the lower bound; the
first non-empty bucket from the lower bound is at or below it -/
theorem HeapInv.firstNonEmpty_le {s : State} (h : HeapInv s) {m : Nat}
    (hm : (s.nodeD m).inRch = true) :
    (firstNonEmpty s.rch.queues (s.rch.queues.size + 1) s.rch.lowerBound.toNat : Int) ≤
        (s.nodeD m).height ∧
      ∃ x xs, s.rch.queues[firstNonEmpty s.rch.queues (s.rch.queues.size + 1)
        s.rch.lowerBound.toNat]? = some (x :: xs) := by
  have hlt := lt_size_of_inRch hm
  have hlb := h.lb m hm
  have hg := h.hgt m hm
  have h0 : 0 ≤ (s.nodeD m).heightInRch := (inRch_iff _).1 hm
  rcases h.wf.range m hlt with h1 | ⟨_, h2⟩
  · omega
  · have hj : (s.nodeD m).heightInRch.toNat < s.rch.queues.size := by omega
    have hmem := (h.wf.mem _ hj m).2 ⟨hlt, by omega⟩
    have hne : s.rch.queues[(s.nodeD m).heightInRch.toNat] ≠ [] := by
      intro e; rw [e] at hmem; cases hmem
    have := firstNonEmpty_spec s.rch.queues (s.rch.queues.size + 1) s.rch.lowerBound.toNat
      _ (by omega) hj hne (by omega)
    exact ⟨by omega, this.2⟩

/-- `remove_min` under the heap invariant: `none` only on the empty heap; otherwise a queued node of
minimal height is taken out and nothing else changes -/
theorem rchRemoveMin_inv {s s1 : State} {r : Option Nat} (h : HeapInv s)
    (hr : rchRemoveMin.run.run s = (.ok r, s1)) :
    match r with
    | none => s1 = s ∧ s.rch.length = 0
    | some n =>
      (s.nodeD n).inRch = true ∧
      (∀ m, (s.nodeD m).inRch = true → (s.nodeD n).height ≤ (s.nodeD m).height) ∧
      HeapInv s1 ∧
      s1 = { s with rch := s1.rch, nodes := s.nodes.modify n fun x => { x with heightInRch := -1 } } ∧
      s1.rch.queues.size = s.rch.queues.size := by
  simp only [rchRemoveMin, run_bind, run_get, run_ite, run_pure, run_dassert] at hr
  by_cases he : s.rch.length = 0
  · rw [if_pos (by simpa using he)] at hr
    cases hr
    exact ⟨rfl, he⟩
  rw [if_neg (by simpa using he)] at hr
  split at hr
  next a s' heq =>
    split at heq
    · cases heq
    cases heq
    obtain ⟨m0, hm0⟩ := h.exists_queued he
    obtain ⟨-, x, xs, hq⟩ := h.firstNonEmpty_le hm0
    generalize hF : firstNonEmpty s.rch.queues (s.rch.queues.size + 1) s.rch.lowerBound.toNat = F
      at hq hr
    rw [hq] at hr
    simp only [run_bind, run_modify, run_modNode, run_pure] at hr
    cases hr
    have hFlt : F < s.rch.queues.size := (Array.getElem?_eq_some_iff.1 hq).1
    have hqe : s.rch.queues[F] = x :: xs := (Array.getElem?_eq_some_iff.1 hq).2
    have hx := (h.wf.mem F hFlt x).1 (by rw [hqe]; exact List.mem_cons_self ..)
    have hxq : (s.nodeD x).inRch = true := by rw [inRch_iff, hx.2]; omega
    have hxh : (s.nodeD x).height = (F : Int) := by rw [← h.hgt x hxq]; exact hx.2
    have hmin : ∀ m, (s.nodeD m).inRch = true → (s.nodeD x).height ≤ (s.nodeD m).height := by
      intro m hm
      have := (h.firstNonEmpty_le hm).1
      rw [hF] at this
      omega
    have key : ∀ m, (({ s with
        rch := { s.rch with queues := s.rch.queues.set! F xs, lowerBound := F,
                            length := s.rch.length - 1 },
        nodes := s.nodes.modify x fun y => { y with heightInRch := -1 } } : State).nodeD m) =
        if m = x then { s.nodeD m with heightInRch := -1 } else s.nodeD m := by
      intro m
      have := nodeD_modify { s with
        rch := { s.rch with queues := s.rch.queues.set! F xs, lowerBound := F,
                            length := s.rch.length - 1 } } x m
          (fun y => { y with heightInRch := -1 })
      refine this.trans ?_
      by_cases e : m = x
      · subst e; rw [if_pos ⟨rfl, hx.1⟩, if_pos rfl]; rfl
      · have : ¬ (x = m ∧ m < s.nodes.size) := fun h => e h.1.symm
        rw [if_neg this, if_neg e]; rfl
    have keyq : ∀ m, (({ s with
        rch := { s.rch with queues := s.rch.queues.set! F xs, lowerBound := F,
                            length := s.rch.length - 1 },
        nodes := s.nodes.modify x fun y => { y with heightInRch := -1 } } : State).nodeD m).inRch
          = true → m ≠ x ∧ (s.nodeD m).inRch = true := by
      intro m hq
      rw [key] at hq
      by_cases e : m = x
      · rw [if_pos e] at hq; simp [Node.inRch] at hq
      · rw [if_neg e] at hq; exact ⟨e, hq⟩
    refine ⟨hxq, hmin, ⟨?_, ?_, ?_, ?_, ?_⟩, rfl, ?_⟩
    rotate_left 5
    · show (s.rch.queues.set! F xs).size = s.rch.queues.size
      rw [Array.set!_eq_setIfInBounds, Array.size_setIfInBounds]
    rotate_left 3
    · show (0 : Int) ≤ (F : Int)
      omega
    rotate_right 3
    · rw [← HWF_release_iff]
      obtain ⟨⟨hb, hl⟩, -⟩ := (HWF_release_iff s).2 h.wf
      obtain ⟨hb', hs', -⟩ := hb.pop F hFlt hqe
      refine ⟨⟨?_, ?_⟩, by simp⟩
      · show BucketsOK (s.rch.queues.set! F xs)
          (markerOf (s.nodes.modify x fun y => { y with heightInRch := -1 }))
        rw [markerOf_modify_neg, Array.set!_eq_setIfInBounds]; exact hb'
      · show s.rch.length - 1 = bucketSum (s.rch.queues.set! F xs)
        rw [Array.set!_eq_setIfInBounds]; omega
    · intro m hq
      obtain ⟨e, hq'⟩ := keyq m hq
      rw [key, if_neg e]; exact h.hgt m hq'
    · intro m hq
      obtain ⟨e, hq'⟩ := keyq m hq
      rw [key, if_neg e]
      show (F : Int) ≤ _
      have := hmin m hq'
      omega
    · intro m hq
      obtain ⟨e, hq'⟩ := keyq m hq
      have := h.nec m hq'
      simp only [State.isNecessary] at this ⊢
      rw [key, if_neg e]; exact this
  next e s' heq =>
    cases hr

end IncrVerif.Proofs.Sched
