import IncrVerif.Proofs.NestH109
import IncrVerif.Proofs.NestH89
import IncrVerif.Proofs.NestH35
import IncrVerif.Proofs.NestH30
import IncrVerif.Proofs.NestH68
/-!
# Total correctness for nested binds (F2), the run of a change detector, part 1: the four phases return; the height bound through the phases

* `T2f.rest_size`: phases 2–4 never remove a node, WHATEVER their outcome (`Step.Stamp`): the room proviso on the final state gives room after phase 1.
* `T2f.phase1_tot … T2f.phase3_tot`: the phases return — the total-correctness theorems of the phases (`lhsRunClosure_total2`, `lhsRelink_total2`,
  `lhsInvalidateOld_total2`) applied to the hypotheses that `NC.phase1/2/3` supply to the partial-correctness contracts.
* `T2f.hbo2_phase1/3/4`: the height bound `HBo2` through the phases that do not link (phase 2: `lhsRelink_total2`).
* `T2f.lim_*`: the bucket counts of the two heaps never change.
-/
namespace IncrVerif.Proofs.NestH
open IncrVerif.Engine IncrVerif.Proofs IncrVerif.Proofs.Step IncrVerif.Proofs.Sched IncrVerif.Proofs.Quiet
open IncrVerif.Proofs.BindH

namespace T2f

/-! ## phases 2–4 create no node and remove none, whatever the outcome -/

theorem presS_relink (env : Env) (fuel n b : Nat) (br : BindRec) (now : Int) (rhs : Nat) :
    Step.Pres Step.Stamp (Inval.lhsRelink env fuel n b br now rhs) := by
  unfold Inval.lhsRelink; qpres

theorem presS_inval (fuel : Nat) (br : BindRec) : Step.Pres Step.Stamp (Inval.lhsInvalidateOld fuel br) := by
  unfold Inval.lhsInvalidateOld; qpres

theorem presS_finish (env : Env) (fuel n : Nat) : Step.Pres Step.Stamp (Inval.lhsFinish env fuel n) := by
  unfold Inval.lhsFinish; qpres

/-- phases 2–4 -/
def rest (env : Env) (fuel n b : Nat) (br : BindRec) (now : Int) (rhs : Nat) : M (Option Nat) := do
  Inval.lhsRelink env fuel n b br now rhs
  Inval.lhsInvalidateOld fuel br
  Inval.lhsFinish env fuel n

/-- the node count after phase 1 is at most the final node count, whatever the outcome of phases 2–4 -/
theorem rest_size {env : Env} {fuel n b rhs : Nat} {br : BindRec} {now : Int} {s1 s' : State}
    {r : Except Panic (Option Nat)}
    (h : (rest env fuel n b br now rhs).run.run s1 = (r, s')) : s1.nodes.size ≤ s'.nodes.size := by
  have P : Step.Pres Step.Stamp (rest env fuel n b br now rhs) :=
    Step.Pres.bind (presS_relink env fuel n b br now rhs) fun _ =>
      Step.Pres.bind (presS_inval fuel br) fun _ => presS_finish env fuel n
  exact (P.h _ _ _ h).size

/-! ## the height bound through phases 1, 3, 4 -/

section
variable {env : Env} {rk rk' : Nat → Nat} {n b rhs : Nat} {br : BindRec} {l : List Nat} {s s1 s2 s3 : State}

/-- after the closure run, under the extended rank: old nodes keep their order and their position only grows; new nodes are unnecessary -/
theorem hbo2_phase1 (P : NC.P1 env rk rk' n b rhs br l s s1) (hB : HBo2 rk s allClosed) : HBo2 rk' s1 allClosed := by
  intro m hm _
  rcases P.cases m with ⟨h1, y, e⟩ | ⟨h1, h2⟩ | ⟨h1, -⟩
  · have hnec : s.isNecessary m = true := by
      rw [State.isNecessary, e] at hm; exact hm
    have h3 := hB m hnec rfl
    have hc := cnt_ext (rk := rk) (rk' := rk') P.ext h1 P.grow
    rw [e]
    show (s.nodeD m).height ≤ _
    omega
  · exfalso
    obtain ⟨-, -, -, -, -, c6, c7, c8, -⟩ := P.new h1 h2
    rcases (isNecessary_iff s1 m).1 hm with h | h | h
    · exact h c6
    · exact h c7
    · rw [c8] at h; cases h
  · have := nec_lt_size hm
    omega

/-- after the invalidation of the previous generation: survivors unchanged, dead nodes unnecessary -/
theorem hbo2_phase3 {dy : List Nat} (Rl : IRel2 dy s2 s3) (hB : HBo2 rk' s2 allClosed) : HBo2 rk' s3 allClosed := by
  intro m hm _
  by_cases hd : Dying s2 dy m
  · exfalso
    obtain ⟨-, -, -, -, d5, d6, d7, -⟩ := Rl.dead m hd
    rcases (isNecessary_iff s3 m).1 hm with h | h | h
    · exact h d5
    · exact h d6
    · rw [d7] at h; cases h
  · have e := Rl.other m hd
    rw [e, Rl.size]
    refine hB m ?_ rfl
    rw [State.isNecessary, e] at hm; exact hm

/-- after `maybe_change_value` -/
theorem hbo2_phase4 {v : Val} {ch : Bool} {r : Option Nat} {t s' : State} (Rl : StepRelB n v ch r t s')
    (hB : HBo2 rk' t allClosed) : HBo2 rk' s' allClosed := by
  intro m hm _
  rw [Rl.nec m] at hm
  rw [(Rl.shapes m).height, Rl.size]
  exact hB m hm rfl

end

/-! ## the bucket counts -/

theorem lim_started {N n : Nat} {s : State} (L : Lim N s) : Lim N (started n s) := ⟨L.ahh, L.rch⟩

theorem lim_eq {N : Nat} {s s' : State} (L : Lim N s) (ha : s'.ahh = s.ahh) (hr : s'.rch = s.rch) : Lim N s' :=
  ⟨by rw [ha]; exact L.ahh, by rw [hr]; exact L.rch⟩

theorem lim_last {N n : Nat} {v : Val} {ch : Bool} {r : Option Nat} {t s' : State} (L : Lim N t)
    (Rl : StepRelB n v ch r t s') (K : BC.LastK t s') : Lim N s' :=
  ⟨by rw [K.ahh]; exact L.ahh, by rw [maxAllowed_congr Rl.qsize]; exact L.rch⟩

/-! ## the phases return -/

section
variable {env : Env} {rk rk' : Nat → Nat} {N fuel n b rhs : Nat} {br : BindRec} {l : List Nat} {s s1 s2 : State}

/-- phase 1: the closure run returns (no proviso: node creation never fails) -/
theorem phase1_tot (I : DInv env s (some n)) (A : F2Inv env rk s) (X : NC.Pre2 env rk n b br s) :
    Tot (Inval.lhsRunClosure env n b br) (started n s) (fun _ _ => True) := by
  refine lhsRunClosure_total2 (ex := (· = br.main)) X.g0 X.ahh0 X.hb X.hlc
    (by rw [CC.started_self X.hlt]; exact X.hvn)
    (by
      obtain ⟨f, hf⟩ := A.closures b br X.hb
      rw [X.hlc] at hf
      exact ⟨f, BodyOK2.mono (s := s) (s' := started n s) rfl (fun r h _ => h) f _ hf⟩)
    (fun k r hk => by
      obtain ⟨h1, h2, h3⟩ := A.topOK k r hk
      obtain ⟨y, e⟩ := CC.started_upto n s r
      refine ⟨by rw [CC.started_size]; exact h1, by rw [e]; exact h2, fun b' => by rw [e]; exact h3 b'⟩)
    (fun m b' hk => by
      obtain ⟨y, e⟩ := CC.started_upto n s m
      rw [e] at hk ⊢
      exact A.lcCut m b' hk) ?_
  -- the lhs has a value
  have hch : s.children n = [br.lhs] := by
    have := NC.lc_children_all A.frag X.hb (by rw [X.hlc]; exact X.hvn)
    rw [X.hlc] at this; exact this
  have hmem : br.lhs ∈ s.children n := by rw [hch]; exact List.mem_cons_self ..
  obtain ⟨v, hv⟩ := I.kids_values br.lhs hmem
  have hlt : br.lhs < s.nodes.size := (A.frag.node n X.hlt).kidsIn br.lhs hmem
  have hvl : (s.nodeD br.lhs).valid = true := (A.frag.node n X.hlt).kidsValid br.lhs hmem
  refine ⟨v, ?_⟩
  rw [value_congr env s (started n s) (CC.started_size n s)
    (fun m => by obtain ⟨y, e⟩ := CC.started_upto n s m; rw [e]; rfl) br.lhs,
    Step.value_plain env s br.lhs (BS.BKind.not_mapRef (A.frag.node br.lhs hlt).kind)]
  exact hv

/-- phase 2: `lhsRelink` returns and keeps the height bound and the room -/
theorem phase2_tot (X : NC.Pre2 env rk n b br s) (A : F2Inv env rk s) (P : NC.P1 env rk rk' n b rhs br l s s1)
    (hB : HBo2 rk' s1 allClosed) (R : Room N s1) (hf : 3 * s1.nodes.size + 3 ≤ fuel) :
    Tot (Inval.lhsRelink env fuel n b br s.stabNum rhs) s1 (fun _ s' => HBo2 rk' s' allClosed ∧ Room N s') := by
  have est : s1.stabNum = s.stabNum := P.stabNum
  rw [← est]
  have emain : s1.nodeD br.main = s.nodeD br.main := P.old_other X.hml X.ne
  exact lhsRelink_total2 (br1 := { br with allNodesCreatedOnRhs := l }) (ex := (· = br.main))
    (dy := br.allNodesCreatedOnRhs) P.g rfl P.ahh P.bind rfl rfl X.hlc
    (by rw [emain]; exact X.hvm)
    (by show (s1.nodeD br.main).isNecessary = true; rw [emain]; exact X.necMain)
    P.rlt (P.rhs_notDy X A) P.rhsK
    (by
      rcases P.rhs with h3 | h3
      · exact Or.inl h3
      · right
        obtain ⟨k1, k2, -⟩ := P.new h3 P.rlt
        exact ⟨k1, k2⟩)
    (fun o ho => by
      obtain ⟨k0, hk⟩ := A.rhsOK b br o X.hb ho X.hvm
      have hoc : o ∈ s.children br.main := by
        rw [NC.main_children_all A.frag X.hb X.hvm, ho]
        exact List.mem_cons_of_mem _ (List.mem_cons_self ..)
      have hlt : o < s.nodes.size := (A.frag.node br.main X.hml).kidsIn o hoc
      obtain ⟨e1, -, e3, -⟩ := P.sh hlt
      refine ⟨fun b' => by rw [e1]; exact k0 b', ?_⟩
      rcases hk with ⟨k1, k2⟩ | ⟨k1, k2⟩
      · left
        rw [X.hlc] at k2
        exact ⟨by rw [e3]; exact k1, (P.ext o n hlt X.hlt).2 k2⟩
      · right
        exact ⟨by rw [e3]; exact k1, X.dy_of_scope A k2 k1⟩)
    (fun m hm => by
      obtain ⟨hlt, -, k⟩ := X.dyOld A hm
      rw [(P.sh hlt).2.2.1]; exact k)
    (P.noForce A) (P.rel.pinv.trans A.pinv)
    (by rw [emain, est]; exact X.hmr)
    hB R hf

/-- phase 3: `lhsInvalidateOld` returns -/
theorem phase3_tot (X : NC.Pre2 env rk n b br s) (A : F2Inv env rk s) (P : NC.P1 env rk rk' n b rhs br l s s1)
    (Q : NC.P2 env rk' n b rhs br l s1 s2) (hf : s2.nodes.size + 2 ≤ fuel) :
    Tot (Inval.lhsInvalidateOld fuel br) s2 (fun _ _ => True) := by
  have hnd := P.rhs_notDy X A
  have hdy : ∀ m, m ∈ br.allNodesCreatedOnRhs →
      m < s2.nodes.size ∧ (s2.nodeD m).createdIn = .bind b ∧ (s2.nodeD m).valid = true := by
    intro m hm
    obtain ⟨hlt, k1, k2⟩ := X.dyOld A hm
    obtain ⟨-, e2, e3, -⟩ := NC.sh2 P Q hlt
    refine ⟨?_, by rw [e3]; exact k2, by rw [e2]; exact k1⟩
    rw [Q.rel.size]; have := P.grow; omega
  have hpar : ∀ m, m ∈ br.allNodesCreatedOnRhs → (s2.nodeD m).parents = [] := by
    apply Q.g.scope_no_parents Q.rel.bind (· ∈ br.allNodesCreatedOnRhs)
    · intro m hm; exact ⟨(hdy m hm).1, (hdy m hm).2.1⟩
    · intro p m hp hmc hm
      have hpl := lt_size_of_mem_children hmc
      obtain ⟨-, br', hb', hlt', hkids⟩ := (Q.g.frag.node p hpl).inScope b hp
      rcases hkids m hmc with k1 | ⟨-, k3⟩ | ⟨b2, lc2, k4, k5⟩
      · rw [(hdy m hm).2.1] at k1; cases k1
      · exact k3.1 hm
      · exfalso
        rw [(hdy m hm).2.1] at k5
        injection k5 with e
        subst e
        obtain ⟨br2, hb2, hm2, -⟩ := (Q.g.frag.node p hpl).mainRec _ lc2 k4
        rw [hb'] at hb2; cases hb2
        omega
    · intro m hm hr _
      have : rhs = m := Option.some.inj hr
      rw [this] at hnd; exact hnd hm
    · intro m k h; cases h
    · intro m _; exact Q.noForce m
  exact lhsInvalidateOld_total2 (b := b) Q.g (A.rhsNone b br X.hb)
    (fun m hm => ⟨(hdy m hm).2.1, hpar m hm, (hdy m hm).2.2⟩)
    (fun br1 r hb1 hr => by
      rw [Q.rel.bind] at hb1
      cases hb1
      have : rhs = r := Option.some.inj hr
      rw [← this]; exact hnd)
    Q.noForce (fun m => by rw [Q.num]; exact P.noHandlers A m) Q.pinv
    (fun b' br' hb' hr => by
      rcases NC.binds2_cases X P Q b' with ⟨-, e⟩ | ⟨-, -, e⟩ | ⟨-, hge, e⟩
      · rw [e] at hb'; cases hb'; cases hr
      · rw [e] at hb'; exact A.rhsNone b' br' hb' hr
      · rw [e] at hb'; exact (P.binds_new hge hb').2.1)
    hf

end

end T2f

end IncrVerif.Proofs.NestH
