import IncrVerif.Proofs.ExpertH4
/-!
# Part 4: pure step lemmas for `GInv` (unlinking)
-/
namespace IncrVerif.Proofs.ExpertH.QR
open IncrVerif.Engine IncrVerif.Proofs IncrVerif.Proofs.Step IncrVerif.Proofs.Sched


/-! ## helpers -/
namespace U4

/-- the two states agree on everything the invariant reads except parents, observers, heap markers, heap -/
structure SameB (s s' : State) : Prop where
  pc : s'.panicCountdown = s.panicCountdown
  scope : s'.currentScope = s.currentScope
  size : s'.nodes.size = s.nodes.size
  vars : s'.vars = s.vars
  valid : ∀ m, (s'.nodeD m).valid = (s.nodeD m).valid
  kind : ∀ m, (s'.nodeD m).kind = (s.nodeD m).kind
  cutoff : ∀ m, (s'.nodeD m).cutoff = (s.nodeD m).cutoff
  createdIn : ∀ m, (s'.nodeD m).createdIn = (s.nodeD m).createdIn
  forceNecessary : ∀ m, (s'.nodeD m).forceNecessary = (s.nodeD m).forceNecessary
  height : ∀ m, (s'.nodeD m).height = (s.nodeD m).height
  recomputedAt : ∀ m, (s'.nodeD m).recomputedAt = (s.nodeD m).recomputedAt
  changedAt : ∀ m, (s'.nodeD m).changedAt = (s.nodeD m).changedAt

theorem SameB.refl (s : State) : SameB s s :=
  ⟨rfl, rfl, rfl, rfl, fun _ => rfl, fun _ => rfl, fun _ => rfl, fun _ => rfl, fun _ => rfl, fun _ => rfl,
   fun _ => rfl, fun _ => rfl⟩

theorem SameB.static {env : Env} {rk : Nat → Nat} {s s' : State} (h : SameB s s') (A : AllStatic env rk s) : AllStatic env rk s' := by
  refine ⟨by rw [h.pc]; exact A.pc, by rw [h.scope]; exact A.scope, fun n hn => ?_, A.inj,
    by rw [h.size]; exact A.top⟩
  have sn := A.node n (by rw [← h.size]; exact hn)
  exact ⟨by rw [h.valid]; exact sn.valid, by rw [h.kind]; exact sn.kind, by rw [h.cutoff]; exact sn.cutoff,
    by rw [h.createdIn]; exact sn.top, by rw [h.forceNecessary]; exact sn.force,
    by rw [h.kind]; exact sn.kidsLt, by rw [h.kind, h.size]; exact sn.kidsIn⟩

theorem SameB.staleOf {s s' : State} (h : SameB s s') (m : Nat) : staleOf s' m = staleOf s m :=
  staleOf_congr (h.kind m) (h.recomputedAt m) h.vars (fun c _ => h.changedAt c)

/-- `f` only touches parents / observers -/
structure KeepB (f : Node → Node) : Prop where
  valid : ∀ x, (f x).valid = x.valid
  kind : ∀ x, (f x).kind = x.kind
  cutoff : ∀ x, (f x).cutoff = x.cutoff
  createdIn : ∀ x, (f x).createdIn = x.createdIn
  forceNecessary : ∀ x, (f x).forceNecessary = x.forceNecessary
  height : ∀ x, (f x).height = x.height
  heightInRch : ∀ x, (f x).heightInRch = x.heightInRch
  recomputedAt : ∀ x, (f x).recomputedAt = x.recomputedAt
  changedAt : ∀ x, (f x).changedAt = x.changedAt

theorem keepB_fParents (l : List (Nat × Nat)) : KeepB (fParents l) :=
  ⟨fun _ => rfl, fun _ => rfl, fun _ => rfl, fun _ => rfl, fun _ => rfl, fun _ => rfl, fun _ => rfl,
   fun _ => rfl, fun _ => rfl⟩

theorem keepB_fObservers (l : List Nat) : KeepB (fObservers l) :=
  ⟨fun _ => rfl, fun _ => rfl, fun _ => rfl, fun _ => rfl, fun _ => rfl, fun _ => rfl, fun _ => rfl,
   fun _ => rfl, fun _ => rfl⟩

theorem sameB_of_upd {n : Nat} {f : Node → Node} {s s' : State} (U : NodeUpd n f s s') (hf : KeepB f) :
    SameB s s' := by
  refine ⟨U.pc, U.scope, U.size, U.vars, ?_, ?_, ?_, ?_, ?_, ?_, ?_, ?_⟩ <;> intro m <;> by_cases e : m = n
  · rw [e, U.self.valid, hf.valid]
  · exact (U.other m e).valid
  · rw [e, U.self.kind, hf.kind]
  · exact (U.other m e).kind
  · rw [e, U.self.cutoff, hf.cutoff]
  · exact (U.other m e).cutoff
  · rw [e, U.self.createdIn, hf.createdIn]
  · exact (U.other m e).createdIn
  · rw [e, U.self.forceNecessary, hf.forceNecessary]
  · exact (U.other m e).forceNecessary
  · rw [e, U.self.height, hf.height]
  · exact (U.other m e).height
  · rw [e, U.self.recomputedAt, hf.recomputedAt]
  · exact (U.other m e).recomputedAt
  · rw [e, U.self.changedAt, hf.changedAt]
  · exact (U.other m e).changedAt

theorem hir_of_upd {n : Nat} {f : Node → Node} {s s' : State} (U : NodeUpd n f s s') (hf : KeepB f) (m : Nat) :
    (s'.nodeD m).heightInRch = (s.nodeD m).heightInRch := by
  by_cases e : m = n
  · rw [e, U.self.heightInRch, hf.heightInRch]
  · exact (U.other m e).heightInRch

/-- `Wants` of an open node does not depend on the state -/
theorem wants_open {s s' : State} {op op' : Nat → Op} {q i : Nat} (h : op' q = op q) (hq : op q ≠ .closed) :
    Wants s' op' q i ↔ Wants s op q i := by
  unfold Wants; rw [h]
  cases e : op q with
  | closed => exact absurd e hq
  | linking k => exact Iff.rfl
  | unlinking k => exact Iff.rfl

theorem wants_same {s : State} {op op' : Nat → Op} {q i : Nat} (h : op' q = op q) :
    Wants s op' q i ↔ Wants s op q i := by
  unfold Wants; rw [h]

theorem parents_nil_of_unnec {s : State} {n : Nat} (h : s.isNecessary n = false) : (s.nodeD n).parents = [] :=
  parents_nil_of_not_nec h

/-- the parents / observers of a closed necessary node `n` shrink; `n` stays closed if it is still necessary and
becomes `unlinking 0` otherwise; the labels of open nodes may move -/
theorem core {env : Env} {rk : Nat → Nat} {s s' : State} {op op' : Nat → Op} {n : Nat} (I : GInv env rk s op) (B : SameB s s')
    (hrch : s'.rch = s.rch) (hhr : ∀ m, (s'.nodeD m).heightInRch = (s.nodeD m).heightInRch)
    (hoth : ∀ m, m ≠ n → (s'.nodeD m).parents = (s.nodeD m).parents ∧
      (s'.nodeD m).observers = (s.nodeD m).observers)
    (hsub : ∀ x, x ∈ (s'.nodeD n).parents → x ∈ (s.nodeD n).parents)
    (hnd : (s'.nodeD n).parents.Nodup)
    (hkeep : ∀ q i, (q, i) ∈ (s.nodeD n).parents → op q = .closed → (q, i) ∈ (s'.nodeD n).parents)
    (hn : s.isNecessary n = true) (hcl : op n = .closed)
    (hd : (s'.isNecessary n = true ∧ op' n = .closed) ∨ (s'.isNecessary n = false ∧ op' n = .unlinking 0))
    (g1 : ∀ m, m ≠ n → (op' m = .closed ↔ op m = .closed))
    (g2 : ∀ m k, m ≠ n → (op' m = .linking k ↔ op m = .linking k))
    (g3 : ∀ m, m ≠ n → ((∃ k, op' m = .unlinking k) ↔ (∃ k, op m = .unlinking k)))
    (hpar : ∀ c q i, (q, i) ∈ (s'.nodeD c).parents → op q ≠ .closed → Wants s' op' q i)
    (hconv : ∀ q i c, (kids (s.nodeD q).kind)[i]? = some c → op q ≠ .closed → Wants s' op' q i →
      (q, i) ∈ (s'.nodeD c).parents) :
    GInv env rk s' op' := by
  have necO : ∀ m, m ≠ n → s'.isNecessary m = s.isNecessary m := fun m h =>
    nec_congr (hoth m h).1 (hoth m h).2 (B.forceNecessary m)
  have necI : ∀ m, s'.isNecessary m = true → s.isNecessary m = true := by
    intro m h
    by_cases e : m = n
    · rw [e]; exact hn
    · rw [← necO m e]; exact h
  have mem0 : ∀ c x, x ∈ (s'.nodeD c).parents → x ∈ (s.nodeD c).parents := by
    intro c x h
    by_cases e : c = n
    · rw [e] at h ⊢; exact hsub x h
    · rw [← (hoth c e).1]; exact h
  have Wn : ∀ i, Wants s' op' n i := by
    intro i
    rcases hd with ⟨h1, h2⟩ | ⟨h1, h2⟩
    · exact (wants_closed h2).2 h1
    · exact (wants_unlinking h2).2 (Nat.zero_le _)
  have cl : ∀ m, op' m = .closed → op m = .closed := by
    intro m h
    by_cases e : m = n
    · rw [e]; exact hcl
    · exact (g1 m e).1 h
  have inR : ∀ m, (s'.nodeD m).inRch = (s.nodeD m).inRch := fun m => inRch_of_hir (hhr m)
  have nopen : ∀ k, op' n ≠ .linking k := by
    intro k h
    rcases hd with ⟨_, h2⟩ | ⟨_, h2⟩ <;> rw [h2] at h <;> cases h
  refine { static := B.static I.static, par := ?_, conv := ?_, nodup := ?_, hlt := ?_, hpos := ?_, lnec := ?_,
           unec := ?_, heap := I.heap.congr hrch B.size hhr, hgt := ?_, qnec := ?_, queued := ?_, qstale := ?_,
           opLt := ?_ }
  · -- par
    intro c q i hm
    have hm0 := mem0 c _ hm
    refine ⟨by rw [B.kind]; exact (I.par c q i hm0).1, ?_⟩
    by_cases e : q = n
    · rw [e]; exact Wn i
    · by_cases hq : op q = .closed
      · rw [wants_closed ((g1 q e).2 hq), necO q e]
        exact (wants_closed hq).1 (I.par c q i hm0).2
      · exact hpar c q i hm hq
  · -- conv
    intro q i c hk hw
    rw [B.kind] at hk
    by_cases e : q = n
    · rw [e] at hk ⊢
      have hm0 := I.conv n i c hk ((wants_closed hcl).2 hn)
      have hc : c ≠ n := I.kid_ne hk
      rw [(hoth c hc).1]; exact hm0
    · by_cases hq : op q = .closed
      · rw [wants_closed ((g1 q e).2 hq)] at hw
        have hm0 := I.conv q i c hk ((wants_closed hq).2 (necI q hw))
        by_cases hc : c = n
        · rw [hc] at hm0 ⊢; exact hkeep q i hm0 hq
        · rw [(hoth c hc).1]; exact hm0
      · exact hconv q i c hk hq hw
  · -- nodup
    intro c
    by_cases hc : c = n
    · rw [hc]; exact hnd
    · rw [(hoth c hc).1]; exact I.nodup c
  · -- hlt
    intro c q i hm ho
    rw [B.height, B.height]
    exact I.hlt c q i (mem0 c _ hm) (cl q ho)
  · -- hpos
    intro m hm ho
    rw [B.height]; exact I.hpos m (necI m hm) (cl m ho)
  · -- lnec
    intro q k ho
    have e : q ≠ n := fun e => nopen k (e ▸ ho)
    rw [necO q e]
    exact I.lnec q k ((g2 q k e).1 ho)
  · -- unec
    intro q k ho
    by_cases e : q = n
    · rw [e] at ho ⊢
      rcases hd with ⟨_, h2⟩ | ⟨h1, _⟩
      · rw [h2] at ho; cases ho
      · exact h1
    · obtain ⟨k', h⟩ := (g3 q e).1 ⟨k, ho⟩
      rw [necO q e]; exact I.unec q k' h
  · -- hgt
    intro m hq ho
    rw [inR] at hq
    rw [hhr, B.height]; exact I.hgt m hq (cl m ho)
  · -- qnec
    intro m hq
    rw [inR] at hq
    by_cases e : m = n
    · rw [e]
      rcases hd with ⟨h1, _⟩ | ⟨_, h2⟩
      · exact Or.inl h1
      · exact Or.inr ⟨0, h2⟩
    · rcases I.qnec m hq with h | h
      · exact Or.inl (by rw [necO m e]; exact h)
      · exact Or.inr ((g3 m e).2 h)
  · -- queued
    intro m ho hm hs
    rw [B.staleOf] at hs
    rw [inR]; exact I.queued m (cl m ho) (necI m hm) hs
  · -- qstale
    intro m hq
    rw [inR] at hq
    rw [B.staleOf]; exact I.qstale m hq
  · -- opLt
    intro m ho
    rw [B.size]
    by_cases e : m = n
    · rw [e]; exact nec_lt_size hn
    · exact I.opLt m (fun h => ho ((g1 m e).2 h))

theorem g1_upd {op : Nat → Op} {p a b : Nat} (hop : op p = .unlinking a) (m : Nat) :
    upd op p (.unlinking b) m = .closed ↔ op m = .closed := by
  simp only [upd]; split
  · rename_i e; rw [e, hop]; constructor <;> intro h <;> cases h
  · exact Iff.rfl

theorem g2_upd {op : Nat → Op} {p a b : Nat} (hop : op p = .unlinking a) (m k : Nat) :
    upd op p (.unlinking b) m = .linking k ↔ op m = .linking k := by
  simp only [upd]; split
  · rename_i e; rw [e, hop]; constructor <;> intro h <;> cases h
  · exact Iff.rfl

theorem g3_upd {op : Nat → Op} {p a b : Nat} (hop : op p = .unlinking a) (m : Nat) :
    (∃ k, upd op p (.unlinking b) m = .unlinking k) ↔ (∃ k, op m = .unlinking k) := by
  simp only [upd]; split
  · rename_i e; rw [e, hop]; exact ⟨fun _ => ⟨a, rfl⟩, fun _ => ⟨b, rfl⟩⟩
  · exact Iff.rfl

end U4

section
variable {env : Env} {rk : Nat → Nat} {s s' : State} {op : Nat → Op}

/-! ## unlinking -/

/-- `removeParent c idx p` -/
theorem GInv.removeEdge {c p idx pi : Nat} (I : GInv env rk s op)
    (hidx : (s.nodeD c).parents.idxOf? (p, idx) = some pi)
    (U : NodeUpd c (fParents (swapRemove (s.nodeD c).parents pi)) s s')
    (hop : op p = .unlinking idx) (hk : (kids (s.nodeD p).kind)[idx]? = some c) (hcl : op c = .closed) :
    (s'.isNecessary c = true → GInv env rk s' (upd op p (.unlinking (idx + 1)))) ∧
    (s'.isNecessary c = false →
      GInv env rk s' (upd (upd op p (.unlinking (idx + 1))) c (.unlinking 0))) := by
  have B := U4.sameB_of_upd U (U4.keepB_fParents _)
  have hhr := U4.hir_of_upd U (U4.keepB_fParents _)
  have hpc : (s'.nodeD c).parents = swapRemove (s.nodeD c).parents pi := U.self.parents
  obtain ⟨hmem, hnd'⟩ := swapRemove_spec _ _ _ (I.nodup c) hidx
  rw [← hpc] at hmem hnd'
  have hoth : ∀ m, m ≠ c → (s'.nodeD m).parents = (s.nodeD m).parents ∧
      (s'.nodeD m).observers = (s.nodeD m).observers :=
    fun m h => ⟨(U.other m h).parents, (U.other m h).observers⟩
  have hin : (p, idx) ∈ (s.nodeD c).parents := I.conv p idx c hk ((wants_unlinking hop).2 (Nat.le_refl _))
  have hn : s.isNecessary c = true := nec_of_mem_parents hin
  have hpc' : p ≠ c := (I.kid_ne hk).symm
  have mem0 : ∀ c' x, x ∈ (s'.nodeD c').parents → x ∈ (s.nodeD c').parents := by
    intro c' x h
    by_cases e : c' = c
    · rw [e] at h ⊢; exact ((hmem x).1 h).1
    · rw [← (hoth c' e).1]; exact h
  have common : ∀ op' : Nat → Op,
      ((s'.isNecessary c = true ∧ op' c = .closed) ∨ (s'.isNecessary c = false ∧ op' c = .unlinking 0)) →
      (∀ m, m ≠ c → op' m = upd op p (.unlinking (idx + 1)) m) → GInv env rk s' op' := by
    intro op' hd ho
    refine U4.core I B U.rch hhr hoth (fun x h => ((hmem x).1 h).1) hnd' ?_ hn hcl hd
      (fun m e => by rw [ho m e]; exact U4.g1_upd hop m) (fun m k e => by rw [ho m e]; exact U4.g2_upd hop m k)
      (fun m e => by rw [ho m e]; exact U4.g3_upd hop m) ?_ ?_
    · intro q i h hq
      refine (hmem (q, i)).2 ⟨h, fun e => ?_⟩
      have : q = p := congrArg Prod.fst e
      rw [this, hop] at hq; cases hq
    · intro c' q i hm hq
      have hm0 := mem0 c' _ hm
      have e : q ≠ c := fun e => hq (e ▸ hcl)
      by_cases ep : q = p
      · rw [ep] at hm hm0 ⊢
        have h1 := I.par c' p i hm0
        have h2 : idx ≤ i := (wants_unlinking hop).1 h1.2
        have hop' : op' p = .unlinking (idx + 1) := by rw [ho p hpc', upd_self]
        rw [wants_unlinking hop']
        by_cases ei : i = idx
        · rw [ei] at h1 hm
          have : c' = c := by
            have := h1.1; rw [hk] at this; exact (Option.some.inj this).symm
          rw [this] at hm
          exact absurd rfl ((hmem _).1 hm).2
        · omega
      · have hop' : op' q = op q := by rw [ho q e, upd_other _ _ _ ep]
        exact (U4.wants_open hop' hq).2 (I.par c' q i hm0).2
    · intro q i c' hk' hq hw
      have e : q ≠ c := fun e => hq (e ▸ hcl)
      by_cases ep : q = p
      · rw [ep] at hk' hw ⊢
        have hop' : op' p = .unlinking (idx + 1) := by rw [ho p hpc', upd_self]
        rw [wants_unlinking hop'] at hw
        have hm0 := I.conv p i c' hk' ((wants_unlinking hop).2 (by omega))
        by_cases ec : c' = c
        · rw [ec] at hm0 ⊢
          refine (hmem _).2 ⟨hm0, fun h => ?_⟩
          have : i = idx := congrArg Prod.snd h
          omega
        · rw [(hoth c' ec).1]; exact hm0
      · have hop' : op' q = op q := by rw [ho q e, upd_other _ _ _ ep]
        have hm0 := I.conv q i c' hk' ((U4.wants_open hop' hq).1 hw)
        by_cases ec : c' = c
        · rw [ec] at hm0 ⊢
          exact (hmem _).2 ⟨hm0, fun h => ep (congrArg Prod.fst h)⟩
        · rw [(hoth c' ec).1]; exact hm0
  constructor
  · intro h
    refine common _ (Or.inl ⟨h, ?_⟩) (fun _ _ => rfl)
    rw [upd_other _ _ _ (Ne.symm hpc')]; exact hcl
  · intro h
    exact common _ (Or.inr ⟨h, upd_self _ _ _⟩) (fun m e => upd_other _ _ _ e)

/-- the entry that `removeParent c idx p` looks for exists -/
theorem GInv.removeEdge_mem {c p idx : Nat} (I : GInv env rk s op)
    (hop : op p = .unlinking idx) (hk : (kids (s.nodeD p).kind)[idx]? = some c) :
    (p, idx) ∈ (s.nodeD c).parents :=
  I.conv p idx c hk ((wants_unlinking hop).2 (Nat.le_refl _))

/-- closing an unlinking node that is not queued -/
theorem GInv.close_unlink {n k : Nat} (I : GInv env rk s op) (hop : op n = .unlinking k)
    (hk : (kids (s.nodeD n).kind).length ≤ k) (hq : (s.nodeD n).inRch = false) :
    GInv env rk s (upd op n .closed) := by
  have hun := I.unec n k hop
  have noent : ∀ c i, (n, i) ∉ (s.nodeD c).parents := by
    intro c i h
    have h1 := I.par c n i h
    have h2 : k ≤ i := (wants_unlinking hop).1 h1.2
    have h3 : i < (kids (s.nodeD n).kind).length := (List.getElem?_eq_some_iff.1 h1.1).1
    omega
  have oo : ∀ m, m ≠ n → upd op n .closed m = op m := fun m e => upd_other _ _ _ e
  have on : upd op n .closed n = .closed := upd_self _ _ _
  refine { static := I.static, par := ?_, conv := ?_, nodup := I.nodup, hlt := ?_, hpos := ?_, lnec := ?_,
           unec := ?_, heap := I.heap, hgt := ?_, qnec := ?_, queued := ?_, qstale := I.qstale, opLt := ?_ }
  · intro c q i hm
    have e : q ≠ n := fun e => noent c i (e ▸ hm)
    exact ⟨(I.par c q i hm).1, (U4.wants_same (oo q e)).2 (I.par c q i hm).2⟩
  · intro q i c hk' hw
    by_cases e : q = n
    · rw [e] at hw
      rw [wants_closed on, hun] at hw; cases hw
    · exact I.conv q i c hk' ((U4.wants_same (oo q e)).1 hw)
  · intro c q i hm ho
    have e : q ≠ n := fun e => noent c i (e ▸ hm)
    exact I.hlt c q i hm (by rw [← oo q e]; exact ho)
  · intro m hm ho
    have e : m ≠ n := fun e => by rw [e, hun] at hm; cases hm
    exact I.hpos m hm (by rw [← oo m e]; exact ho)
  · intro q kk ho
    have e : q ≠ n := fun e => by rw [e, on] at ho; cases ho
    rw [oo q e] at ho; exact I.lnec q kk ho
  · intro q kk ho
    have e : q ≠ n := fun e => by rw [e, on] at ho; cases ho
    rw [oo q e] at ho; exact I.unec q kk ho
  · intro m hq' ho
    have e : m ≠ n := fun e => by rw [e, hq] at hq'; cases hq'
    exact I.hgt m hq' (by rw [← oo m e]; exact ho)
  · intro m hq'
    have e : m ≠ n := fun e => by rw [e, hq] at hq'; cases hq'
    rcases I.qnec m hq' with h | ⟨k', h⟩
    · exact Or.inl h
    · exact Or.inr ⟨k', by rw [oo m e]; exact h⟩
  · intro m ho hm hs
    have e : m ≠ n := fun e => by rw [e, hun] at hm; cases hm
    exact I.queued m (by rw [← oo m e]; exact ho) hm hs
  · intro m ho
    by_cases e : m = n
    · rw [e]; exact I.opLt n (by rw [hop]; intro h; cases h)
    · exact I.opLt m (by rw [← oo m e]; exact ho)

/-- a successful `rchRemove` of an unlinking node -/
theorem GInv.rchRemove_open {n k : Nat} {u : Unit} (I : GInv env rk s op) (hop : op n = .unlinking k)
    (hr : (rchRemove n).run.run s = (.ok u, s')) :
    GInv env rk s' op ∧ (s'.nodeD n).inRch = false := by
  obtain ⟨nd, q, idx, hnd, h0, hq, hi, hs'⟩ := rchRemove_ok_inv hr
  obtain ⟨hH, hnq, hoth, -, -⟩ := I.heap.removed hr
  refine ⟨?_, hnq⟩
  have hsz : s'.nodes.size = s.nodes.size := by rw [hs']; simp [removedAt]
  have B : U4.SameB s s' := by
    refine ⟨by rw [hs']; rfl, by rw [hs']; rfl, hsz, by rw [hs']; rfl, ?_, ?_, ?_, ?_, ?_, ?_, ?_, ?_⟩ <;>
      intro m <;> rw [hs', removedAt_nodeD] <;> split <;> rfl
  have hP : ∀ m, (s'.nodeD m).parents = (s.nodeD m).parents := by
    intro m; rw [hs', removedAt_nodeD]; split <;> rfl
  have hO : ∀ m, (s'.nodeD m).observers = (s.nodeD m).observers := by
    intro m; rw [hs', removedAt_nodeD]; split <;> rfl
  have nec : ∀ m, s'.isNecessary m = s.isNecessary m := fun m => nec_congr (hP m) (hO m) (B.forceNecessary m)
  have wants : ∀ q i, Wants s' op q i ↔ Wants s op q i := by
    intro q i; unfold Wants; rw [nec]
  have inR : ∀ m, m ≠ n → (s'.nodeD m).inRch = (s.nodeD m).inRch := fun m e => inRch_of_hir (hoth m e)
  have nq : ∀ m, (s'.nodeD m).inRch = true → m ≠ n := fun m h e => by rw [e, hnq] at h; cases h
  refine { static := B.static I.static, par := ?_, conv := ?_, nodup := ?_, hlt := ?_, hpos := ?_, lnec := ?_,
           unec := ?_, heap := hH, hgt := ?_, qnec := ?_, queued := ?_, qstale := ?_, opLt := ?_ }
  · intro c p i hm
    rw [hP] at hm
    rw [B.kind, wants]; exact I.par c p i hm
  · intro p i c hk hw
    rw [B.kind] at hk
    rw [wants] at hw
    rw [hP]; exact I.conv p i c hk hw
  · intro c; rw [hP]; exact I.nodup c
  · intro c p i hm ho
    rw [hP] at hm
    rw [B.height, B.height]; exact I.hlt c p i hm ho
  · intro m hm ho
    rw [nec] at hm
    rw [B.height]; exact I.hpos m hm ho
  · intro p kk ho
    have e : p ≠ n := fun e => by rw [e, hop] at ho; cases ho
    rw [nec]; exact I.lnec p kk ho
  · intro p kk ho
    rw [nec]; exact I.unec p kk ho
  · intro m hq' ho
    have e := nq m hq'
    rw [inR m e] at hq'
    rw [hoth m e, B.height]; exact I.hgt m hq' ho
  · intro m hq'
    have e := nq m hq'
    rw [inR m e] at hq'
    rw [nec]; exact I.qnec m hq'
  · intro m ho hm hs
    have e : m ≠ n := fun e => by rw [e, hop] at ho; cases ho
    rw [nec] at hm
    rw [B.staleOf] at hs
    rw [inR m e]; exact I.queued m ho hm hs
  · intro m hq'
    have e := nq m hq'
    rw [inR m e] at hq'
    rw [B.staleOf]; exact I.qstale m hq'
  · intro m ho
    rw [hsz]; exact I.opLt m ho

/-- removing an observer from a closed node -/
theorem GInv.remObs {n : Nat} {l : List Nat} (I : GInv env rk s op) (U : NodeUpd n (fObservers l) s s')
    (hcl : op n = .closed) (hn : s.isNecessary n = true) :
    (s'.isNecessary n = true → GInv env rk s' op) ∧
    (s'.isNecessary n = false → GInv env rk s' (upd op n (.unlinking 0))) := by
  have B := U4.sameB_of_upd U (U4.keepB_fObservers l)
  have hhr := U4.hir_of_upd U (U4.keepB_fObservers l)
  have hpn : (s'.nodeD n).parents = (s.nodeD n).parents := U.self.parents
  have hoth : ∀ m, m ≠ n → (s'.nodeD m).parents = (s.nodeD m).parents ∧
      (s'.nodeD m).observers = (s.nodeD m).observers :=
    fun m h => ⟨(U.other m h).parents, (U.other m h).observers⟩
  have hpall : ∀ m, (s'.nodeD m).parents = (s.nodeD m).parents := by
    intro m
    by_cases e : m = n
    · rw [e]; exact hpn
    · exact (hoth m e).1
  have common : ∀ op' : Nat → Op,
      ((s'.isNecessary n = true ∧ op' n = .closed) ∨ (s'.isNecessary n = false ∧ op' n = .unlinking 0)) →
      (∀ m, m ≠ n → op' m = op m) → GInv env rk s' op' := by
    intro op' hd ho
    refine U4.core I B U.rch hhr hoth (fun x h => by rw [← hpn]; exact h) (by rw [hpn]; exact I.nodup n)
      (fun q i h _ => by rw [hpn]; exact h) hn hcl hd
      (fun m e => by rw [ho m e]) (fun m k e => by rw [ho m e]) (fun m e => by rw [ho m e]) ?_ ?_
    · intro c q i hm hq
      have e : q ≠ n := fun e => hq (e ▸ hcl)
      rw [hpall] at hm
      exact (U4.wants_open (ho q e) hq).2 (I.par c q i hm).2
    · intro q i c hk hq hw
      have e : q ≠ n := fun e => hq (e ▸ hcl)
      rw [hpall]
      exact I.conv q i c hk ((U4.wants_open (ho q e) hq).1 hw)
  constructor
  · intro h; exact common op (Or.inl ⟨h, hcl⟩) (fun _ _ => rfl)
  · intro h; exact common _ (Or.inr ⟨h, upd_self _ _ _⟩) (fun m e => upd_other _ _ _ e)

end

end IncrVerif.Proofs.ExpertH.QR
