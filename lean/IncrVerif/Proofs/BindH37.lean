import IncrVerif.Proofs.Quiet14
import IncrVerif.Proofs.BindH11
import IncrVerif.Proofs.BindH36
/-!
# Binds, the run of a change detector in fragment F0, part 2: the last step

* `AhhK`: `maybeChangeValue` never touches the membership marker of the adjust-heights heap (`Edit.heightInAhh`: it makes no write
  tagged `.nHeightInAhh`);
* `mcv_stepB_never`: `maybeChangeValue` on a node with cutoff `.never` always propagates (`ch = true`);
* `mcv_last`: everything the last step of the run of a change detector keeps.
-/
namespace IncrVerif.Proofs.BindH
open IncrVerif.Engine IncrVerif.Proofs IncrVerif.Proofs.Step IncrVerif.Proofs.Sched IncrVerif.Proofs.Quiet
namespace BC

/-! ## the adjust-heights marker is not touched by `maybeChangeValue` -/

def AhhK (s s' : State) : Prop := ∀ m, (s'.nodeD m).heightInAhh = (s.nodeD m).heightInAhh

instance : PreOrd AhhK := ⟨fun _ _ => rfl, fun h1 h2 m => (h2 m).trans (h1 m)⟩

section
open Footprint
theorem PresA.shouldCutoff (env n o v) : Step.Pres AhhK (shouldCutoff env n o v) :=
  (Foot.shouldCutoff env n o v).frame (Edit.heightInAhh (by decide))
theorem PresA.handleAfterStabilisation (n) : Step.Pres AhhK (handleAfterStabilisation n) :=
  (Foot.handleAfterStabilisation n).frame (Edit.heightInAhh (by decide))
theorem PresA.parentIterCanRecomputeNow (p c : Nat) :
    Step.Pres AhhK (parentIterCanRecomputeNow p c) :=
  (Foot.parentIterCanRecomputeNow p c).frame (Edit.heightInAhh (by decide))
theorem PresA.maybeChangeValue (env fuel n v) : Step.Pres AhhK (maybeChangeValue env fuel n v) :=
  (Foot.maybeChangeValue env fuel n v).lift (Edit.heightInAhh (by decide))
end

/-! ## cutoff `.never`: `maybeChangeValue` always propagates -/

theorem mcvChanges_never (env : Env) (S : State) (n : Nat) (v : Val)
    (hc : (S.nodeD n).cutoff = .never) : mcvChanges env S n v = some true := by
  unfold mcvChanges cutoffVerdict
  cases hv : (S.nodeD n).value with
  | none => rfl
  | some old => simp only [hc]; rfl

/-- `BS.mcv_stepB` for a node with cutoff `.never`: the change is never suppressed -/
theorem mcv_stepB_never {env : Env} {fuel n : Nat} {v : Val} {s S0 s' : State} {r : Option Nat}
    (g : BGraph env s) (hi : HeapInv s) (hn : s.isNecessary n = true)
    (hU : Upd n s S0) (hb : S0.binds = s.binds)
    (hrec : (S0.nodeD n).recomputedAt = s.stabNum)
    (hcut : (s.nodeD n).cutoff = .never)
    (h : (maybeChangeValue env fuel n v).run.run S0 = (.ok r, s')) :
    StepRelB n v true r s s' := by
  have hlt := nec_lt_size hn
  have hlt0 : n < S0.nodes.size := by rw [hU.size]; exact hlt
  have hn0 := some_of_lt hlt0
  have hcut0 : (S0.nodeD n).cutoff = .never := by rw [hU.shape.cutoff]; exact hcut
  generalize hW : setValue n (some v) (logged (mcvLog env S0 n v) S0) = W
  have hUW : Upd n s W := by rw [← hW]; exact (hU.logged _).setValue _
  have hbW : W.binds = s.binds := by rw [← hW]; exact hb
  have eW : W.nodeD n = { S0.nodeD n with value := some v } := by
    rw [← hW, setValue_nodeD, if_pos ⟨rfl, hlt0⟩]; rfl
  have hd := mcvChanges_never env S0 n v hcut0
  rw [mcv_run' env fuel n v S0 _ hn0 hU.pc, hd] at h
  dsimp only at h
  rw [hW] at h
  have hltW : n < W.nodes.size := by rw [hUW.size]; exact hlt
  have q : Quiet (touched n W) s' := mcvm_true_quiet _ _ _ _ _ _ _ _ h
  have hUT : Upd n s (touched n W) := hUW.touched
  have hbT : (touched n W).binds = s.binds := hbW
  have eT : (touched n W).nodeD n = { W.nodeD n with changedAt := W.stabNum } := by
    rw [touched_nodeD, if_pos ⟨rfl, hltW⟩]
  have hparT : ((touched n W).nodeD n).parents = (s.nodeD n).parents := hUT.shape.parents
  have hpar : ∀ p, p ∈ ((touched n W).nodeD n).parents.map (·.1) →
      BS.ParentOK env (touched n W) p := by
    intro p hp
    rw [hparT] at hp
    obtain ⟨⟨p', ci⟩, hmem, rfl⟩ := List.mem_map.1 hp
    have hpn := (g.parent n p' ci hmem).1
    have h1 := nec_lt_size hpn
    have h2 := (g.nec p' hpn).1
    have h3 := (g.node p' h1 h2).1
    have sh := hUT.shapeAll p'
    exact ⟨by rw [hUT.size]; exact h1, by rw [sh.valid]; exact h2, by rw [sh.kind]; exact h3,
      by rw [hUT.nec]; exact hpn⟩
  obtain ⟨k, hret⟩ := BS.mcvm_heapB (hUT.heap hi) hpar h
  have hpin := mcvm_parents env fuel n _ W s' r _ (some_of_lt hltW) h
  have hparW : (W.nodeD n).parents = (s.nodeD n).parents := hUW.shape.parents
  refine BS.stepRelB_of_quiet g hUT hbT q ?_ ?_ ?_ (fun hc => by cases hc) k.heap k.qsize ?_ ?_ ?_
  · rw [eT, eW]
  · rw [eT, eW]; exact hrec
  · rw [eT, if_pos rfl]; exact hUW.stabNum
  · intro m hm
    rcases k.only m hm with h1 | h1
    · exact Or.inl h1
    · rw [hparT] at h1; exact Or.inr ⟨rfl, h1⟩
  · intro _ p hp
    rw [← hparW] at hp
    rcases hpin p hp with h1 | h1
    · exact Or.inl h1.2
    · exact Or.inr h1.2.1
  · intro p hp
    obtain ⟨h1, h2, h3⟩ := hret p hp
    rw [hparT] at h1
    exact ⟨rfl, h1, h2, h3⟩

theorem Upd.refl' (n : Nat) (s : State) (hpc : s.panicCountdown = none) : Upd n s s :=
  ⟨rfl, rfl, rfl, hpc, rfl, fun _ _ => rfl, SameShape.refl _, rfl⟩

/-- what the last step keeps, besides `StepRelB` -/
structure LastK (t s' : State) : Prop where
  scope : s'.currentScope = t.currentScope
  top : s'.top = t.top
  pinv : s'.propagateInvalidity = t.propagateInvalidity
  ahh : s'.ahh = t.ahh
  marks : ∀ m, (s'.nodeD m).heightInAhh = (t.nodeD m).heightInAhh

/-- **the last step of the run of a change detector**: `maybeChangeValue n ()` in a state at rest in which `n`
(cutoff `.never`) has been stamped -/
theorem mcv_last {env : Env} {fuel n : Nat} {t s' : State} {r : Option Nat}
    (g : BGraph env t) (hi : HeapInv t) (hn : t.isNecessary n = true)
    (hrec : (t.nodeD n).recomputedAt = t.stabNum) (hcut : (t.nodeD n).cutoff = .never)
    (h : (maybeChangeValue env fuel n .unit).run.run t = (.ok r, s')) :
    StepRelB n .unit true r t s' ∧ LastK t s' := by
  refine ⟨mcv_stepB_never g hi hn (Upd.refl' n t g.pc) rfl hrec hcut h, ?_⟩
  have hk : KeyD t s' := (PresK.maybeChangeValue env fuel n .unit).h _ _ _ h
  have ha : AhhK t s' := (PresA.maybeChangeValue env fuel n .unit).h _ _ _ h
  simp only [KeyD, stateKeyD, Prod.mk.injEq] at hk
  exact ⟨hk.2.2.1, hk.2.2.2.1, hk.2.2.2.2.2.2.1, hk.2.2.2.2.2.2.2.2.2.2, ha⟩

end BC
end IncrVerif.Proofs.BindH
