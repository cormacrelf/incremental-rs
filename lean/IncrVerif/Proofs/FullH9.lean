import IncrVerif.Proofs.FullH8
/-!
# C01 full fragment: simulation of the notification walk, part 1
(`tick`, `bumpCounter`, `shouldCutoff`, `childChanged`, `parentIterCanRecomputeNow`)
-/
namespace IncrVerif.Proofs.FullH
open IncrVerif.Engine IncrVerif.Proofs IncrVerif.Proofs.Step IncrVerif.Proofs.Sched IncrVerif.Proofs.Quiet

section
variable {K : Kind → Prop} {g : Nat → Option Val} {sp : Nat → Val → Val}

theorem Sim.tick : Sim K g Engine.tick Engine.tick :=
  .of_comm fun s0 => (blind s0).tick _
macro_rules | `(tactic| fsim_leaf) => `(tactic| with_reducible exact Sim.tick)

theorem Sim.bumpCounter (f : Counters → Counters) : Sim K g (Engine.bumpCounter f) (Engine.bumpCounter f) :=
  .of_comm fun s0 => NodeSim.Comm.bumpCounter (blind s0) f
macro_rules | `(tactic| fsim_leaf) => `(tactic| with_reducible exact Sim.bumpCounter _)

/-- the cutoff test of an EXACT node (its actual cutoff is the virtual one) -/
theorem SimAt.shouldCutoff (env : Env) (n : Nat) (o v : Val) {s : State}
    (hc : (s.nodeD n).cutoff = virtCut (s.nodeD n).kind (s.nodeD n).cutoff) :
    SimAt K g s (Engine.shouldCutoff env n o v) (Engine.shouldCutoff (virtEnv env sp) n o v) := by
  unfold Engine.shouldCutoff; simp only [virtEnv_cutoff]
  refine SimAt.getNode_seq fun nd hnd hne => ?_
  fnorm
  rw [nodeD_of_some hnd] at hc
  rw [← hc]
  split <;> fsim

/-! ## `child_changed` is invisible in the virtual state -/

theorem kind?_none_of_invalid {nd : Node} (h : nd.valid = false) : nd.kind? = none := by simp [Node.kind?, h]

theorem valid_of_kind? {nd : Node} {k : Kind} (h : nd.kind? = some k) : nd.valid = true := by
  unfold Node.kind? at h; split at h
  · assumption
  · cases h

theorem childChanged_veq {env : Env} {fuel p c ci : Nat} {o : Option Val} {t t' : State} {u : Unit}
    (hfr : Fr K g t) (h : (Engine.childChanged env fuel p c ci o).run.run t = (.ok u, t')) : VEq g t t' := by
  induction fuel generalizing p c ci o t t' u with
  | zero => unfold Engine.childChanged at h; cases h
  | succ fuel ih =>
    unfold Engine.childChanged at h
    obtain ⟨nd, hnd, h⟩ := bind_getNode_inv h
    have hne := hfr.some hnd
    rcases hk? : nd.kind? with _ | k
    · rw [hk?] at h; cases h
    rw [hk?] at h
    have hkd := kind_of_kind? hk?
    cases k
    case expert e => exact absurd hkd (hne e)
    case mapRef pr i =>
      dsimp only at h
      obtain ⟨cn, t1, h1, h2⟩ := bind_ok_inv h
      clear h
      have e1 : t1 = t := by
        rw [run_valueUnwrap] at h1; split at h1 <;> cases h1; rfl
      subst e1
      have hcut : nd.cutoff = .eq ∨ nd.cutoff = .never := by
        have := hfr.cut p; rw [nodeD_of_some hnd, hkd] at this
        rcases this with h | h | ⟨a, b, -, h⟩
        · exact Or.inl h
        · exact Or.inr h
        · cases h
      have key : ∃ did, ((do
          modNode p fun x => { x with didChange := x.didChange || did }
          for (pp, ci) in (← getNode p).parents do
            childChanged env fuel pp p ci (o.map (env.proj pr))) : M Unit).run.run t1 = (.ok u, t') := by
        cases o with
        | none => exact ⟨true, h2⟩
        | some ov =>
          simp only [Option.map_some] at h2
          unfold Engine.shouldCutoff at h2
          simp only [bind_assoc] at h2
          rcases hcut with hcut | hcut
          · rw [run_bind_ok (run_getNode_some hnd), hcut] at h2
            exact ⟨_, h2⟩
          · rw [run_bind_ok (run_getNode_some hnd), hcut] at h2
            exact ⟨_, h2⟩
      obtain ⟨did, h3⟩ := key
      rw [run_bind_modNode] at h3
      obtain ⟨nd', hnd', h4⟩ := bind_getNode_inv h3
      obtain ⟨_, t3, h, h5⟩ := bind_ok_inv h4
      obtain ⟨-, rfl⟩ := pure_ok_inv h5
      have v1 : VEq g t1 { t1 with nodes := t1.nodes.modify p fun x => { x with didChange := x.didChange || did } } :=
        VEq.modNode t1 p _ (by fflag)
      refine Sched.forIn_ok_keep (fun s => VEq g t1 s) _ nd'.parents ?_ _ _ _ v1 h
      intro a _ s r s' k hb
      obtain ⟨pp, ci'⟩ := a
      obtain ⟨_, s1, hcc, hb1⟩ := bind_ok_inv hb
      obtain ⟨-, rfl⟩ := pure_ok_inv hb1
      exact Step.PreOrd.trans k (ih (k.fr hfr) hcc)
    all_goals (obtain ⟨-, rfl⟩ := pure_ok_inv h; exact Step.PreOrd.refl _)

theorem virt_childChanged_run {env' : Env} {fuel p c ci : Nat} {o' : Option Val} {t : State} {nd : Node}
    (hp : t.nodes[p]? = some nd) (hv : nd.valid = true) (hne : ∀ e, nd.kind ≠ .expert e) :
    (Engine.childChanged env' (fuel + 1) p c ci o').run.run (virt g t) = (.ok (), virt g t) := by
  unfold Engine.childChanged
  have hvn : (virt g t).nodes[p]? = some (virtNode (g p) nd) := by rw [virt_getElem?, hp]; rfl
  rw [run_bind_ok (run_getNode_some hvn), virtNode_kind?]
  have hk? : nd.kind? = some nd.kind := by simp [Node.kind?, hv]
  rw [hk?]
  cases hkd : nd.kind <;> first | rfl | exact absurd hkd (hne _)

/-- a successful `child_changed` found a valid parent -/
theorem childChanged_ok_parent {env : Env} {fuel p c ci : Nat} {o : Option Val} {t t' : State} {u : Unit}
    (h : (Engine.childChanged env (fuel + 1) p c ci o).run.run t = (.ok u, t')) :
    ∃ nd, t.nodes[p]? = some nd ∧ nd.valid = true := by
  unfold Engine.childChanged at h
  obtain ⟨nd, hnd, h⟩ := bind_getNode_inv h
  refine ⟨nd, hnd, ?_⟩
  rcases hk? : nd.kind? with _ | k
  · rw [hk?] at h; cases h
  · exact valid_of_kind? hk?

/-- `child_changed` with unrelated fuels and old values: the virtual call only needs one unit of fuel -/
theorem Sim.childChanged' (env : Env) (fuel fuel' p c ci : Nat) (o o' : Option Val) (hf : 0 < fuel' ∨ fuel = 0) :
    Sim K g (Engine.childChanged env fuel p c ci o) (Engine.childChanged (virtEnv env sp) fuel' p c ci o') := by
  intro s hfr r s' h
  cases fuel with
  | zero => unfold Engine.childChanged at h; cases h
  | succ fuel =>
    obtain ⟨f', rfl⟩ : ∃ f', fuel' = f' + 1 := ⟨fuel' - 1, by omega⟩
    have hv := childChanged_veq (g := g) hfr h
    obtain ⟨nd, hnd, hval⟩ := childChanged_ok_parent h
    rw [virt_childChanged_run hnd hval (hfr.some hnd), hv.veq]
    exact ⟨rfl, hv.fr hfr, hv.vm⟩

theorem Sim.childChanged (env : Env) (fuel p c ci : Nat) (o o' : Option Val) :
    Sim K g (Engine.childChanged env fuel p c ci o) (Engine.childChanged (virtEnv env sp) fuel p c ci o') := by
  refine Sim.childChanged' env fuel fuel p c ci o o' ?_
  cases fuel with
  | zero => exact Or.inr rfl
  | succ f => exact Or.inl (Nat.succ_pos _)
macro_rules | `(tactic| fsim_leaf) => `(tactic| with_reducible exact Sim.childChanged _ _ _ _ _ _ _)

/-! ## `parent_iter_can_recompute_now` -/

theorem Sim.parentIterCanRecomputeNow (p child : Nat) :
    Sim K g (Engine.parentIterCanRecomputeNow p child) (Engine.parentIterCanRecomputeNow p child) :=
  .of_comm fun s0 => NodeSim.Comm.parentIterCanRecomputeNow (blind s0) p child
macro_rules | `(tactic| fsim_leaf) => `(tactic| with_reducible exact Sim.parentIterCanRecomputeNow _ _)

end
end IncrVerif.Proofs.FullH
