import IncrVerif.Proofs.FullH15
import IncrVerif.Proofs.MapRef12
/-!
# C01 full fragment: the `didChange` invariant through `maybe_change_value(_manual)` of a node that is not a map_ref node
(the counterparts of MapRef12: `edgeOK_of_graph`, `mapRef_edge`, `up_or_same`, `KInv.congr`, `mcv_keepsK`; and `mcvm_keepsK`)

`MapRefH.ValFrame n s W` (state-generic) is reused: `W` is `s` up to the stored value of `n` and fields that `State.value`,
necessity and the flags do not read.
-/
namespace IncrVerif.Proofs.FullH
open IncrVerif.Engine IncrVerif.Proofs IncrVerif.Proofs.Step IncrVerif.Proofs.Sched IncrVerif.Proofs.Quiet
open IncrVerif.Proofs.MapRefH (IsMapRef isMapRef_iff not_isMapRef_iff FM UpM EdgeOK Changed CCPost ValFrame
  PresFM.maybeChangeValueManual CCtx mcvm_flags value_mapRef' mapRefsBack_of_kind)
open IncrVerif.Proofs.BindH (DInv BGraph Below Edge)

section
variable {env : Env} {sp : Nat → Val → Val} {g : Nat → Option Val} {s : State}

/-- recorded parents are necessary, hence valid: from the graph invariant of the virtual state -/
theorem parent_valid (gr : BGraph (VE env sp) (virt g s)) {c p ci : Nat} (hmem : (p, ci) ∈ (s.nodeD c).parents) :
    s.isNecessary p = true ∧ (s.nodeD p).valid = true ∧ (s.children p)[ci]? = some c := by
  have hm : (p, ci) ∈ ((virt g s).nodeD c).parents := by rw [virt_nodeD, virtNode_parents]; exact hmem
  obtain ⟨h1, h2⟩ := gr.parent c p ci hm
  have h3 := (gr.nec p h1).1
  rw [virt_isNecessary] at h1
  rw [virt_nodeD, virtNode_valid] at h3
  rw [virt_children] at h2
  exact ⟨h1, h3, h2⟩

/-- recorded parent entries of map_ref parents are real child edges: from the graph invariant of the virtual state -/
theorem edgeOK_of_graph (gr : BGraph (VE env sp) (virt g s)) : EdgeOK s := by
  intro c p ci pr i hmem hk
  obtain ⟨-, hv, this⟩ := parent_valid gr hmem
  rw [KC.children_mapRef hv hk] at this
  cases ci with
  | zero => simpa using this
  | succ k => simp at this

/-- the child edge of a necessary map_ref node is recorded, and the input is necessary; the node is valid -/
theorem mapRef_edge (gr : BGraph (VE env sp) (virt g s)) {m pr i : Nat} (hm : s.isNecessary m = true)
    (hk : (s.nodeD m).kind = .mapRef pr i) :
    (s.nodeD m).valid = true ∧ s.isNecessary i = true ∧ (m, 0) ∈ (s.nodeD i).parents := by
  have hmv : (virt g s).isNecessary m = true := by rw [virt_isNecessary]; exact hm
  have hv : (s.nodeD m).valid = true := by
    have := (gr.nec m hmv).1; rw [virt_nodeD, virtNode_valid] at this; exact this
  have := gr.child m hmv 0 i (by rw [virt_children, KC.children_mapRef hv hk]; rfl)
  rw [virt_isNecessary, virt_nodeD, virtNode_parents] at this
  exact ⟨hv, this.1, this.2.1⟩

/-- a necessary map_ref node is above `n`, or reads in `W` what it read in `s` — when `W` is `s` up to the stored
value of the node `n` and fields that `State.value` does not read -/
theorem up_or_same {W : State} {n : Nat} (hb : MapRefsBack s)
    (gr : BGraph (VE env sp) (virt g s))
    (hk : ∀ m, (W.nodeD m).kind = (s.nodeD m).kind)
    (hvd : ∀ m, (W.nodeD m).valid = (s.nodeD m).valid)
    (hval : ∀ m, m ≠ n → (W.nodeD m).value = (s.nodeD m).value) :
    ∀ m pr i, s.isNecessary m = true → (s.nodeD m).kind = .mapRef pr i →
      UpM s m n ∨ W.value env m = s.value env m := by
  have hbW : MapRefsBack W := mapRefsBack_of_kind hb hk
  intro m
  induction m using Nat.strongRecOn with
  | _ m ih =>
    intro pr i hm hkm
    obtain ⟨hv, hin, hedge⟩ := mapRef_edge gr hm hkm
    have hlt : m < s.nodes.size := by
      by_cases h : m < s.nodes.size
      · exact h
      · rw [nodeD_default_of_ge s m (by omega)] at hkm; cases hkm
    have hi : i < m := hb m (s.nodeD m) pr i (some_of_lt hlt) hkm
    have hmr : IsMapRef (s.nodeD m).kind := by rw [hkm]; trivial
    by_cases hin' : i = n
    · subst hin'; exact Or.inl (UpM.base hedge hmr)
    · rw [value_mapRef' hbW (by rw [hvd]; exact hv) (by rw [hk]; exact hkm), value_mapRef' hb hv hkm]
      by_cases hmi : ∀ p j, (s.nodeD i).kind ≠ .mapRef p j
      · right
        rw [value_stored (Or.inr hmi), value_stored (Or.inr (by intro p j; rw [hk]; exact hmi p j)), hval i hin']
      · have : ∃ p j, (s.nodeD i).kind = .mapRef p j := by
          cases hki : (s.nodeD i).kind <;>
            first | exact ⟨_, _, rfl⟩ | (exfalso; apply hmi; intro p j; rw [hki]; intro h; cases h)
        obtain ⟨p, j, hki⟩ := this
        rcases ih i hi p j hin hki with hu | hs
        · exact Or.inl (hu.snoc hedge hmr)
        · right; rw [hs]

end

/-- the `didChange` invariant only reads validity, necessity, kinds, flags and read values -/
theorem KInv.congr {env : Env} {g : Nat → Option Val} {s s' : State} (K : KInv env g s)
    (hvd : ∀ m, (s'.nodeD m).valid = (s.nodeD m).valid)
    (hn : ∀ m, s'.isNecessary m = s.isNecessary m) (hk : ∀ m, (s'.nodeD m).kind = (s.nodeD m).kind)
    (hf : ∀ m, (s'.nodeD m).didChange = false → (s.nodeD m).didChange = false)
    (hv : ∀ m p i, (s.nodeD m).valid = true → s.isNecessary m = true → (s.nodeD m).kind = .mapRef p i →
      (s'.nodeD m).didChange = false → s'.value env m = s.value env m) : KInv env g s' := by
  intro m p i hvm hm hkm hd
  rw [hvd] at hvm; rw [hn] at hm; rw [hk] at hkm
  rw [K m p i hvm hm hkm (hf m hd), hv m p i hvm hm hkm hd]

/-- a map_ref node of the fragment has cutoff `.eq` or `.never` -/
theorem FFrag.cut_mapRef {env : Env} {sp : Nat → Val → Val} {g : Nat → Option Val} {s : State} (F : FFrag env sp g s) {m p i : Nat}
    (hk : (s.nodeD m).kind = .mapRef p i) : (s.nodeD m).cutoff = .eq ∨ (s.nodeD m).cutoff = .never := by
  rcases F.fr.cut m with h | h | ⟨a, b, -, h⟩
  · exact Or.inl h
  · exact Or.inr h
  · rw [hk] at h; cases h

/-- the fragment only reads sizes, kinds, cutoffs and the fault counter -/
theorem FFrag.of_frame {env : Env} {sp : Nat → Val → Val} {g : Nat → Option Val} {s W : State} (F : FFrag env sp g s)
    (hsz : W.nodes.size = s.nodes.size) (hk : ∀ m, (W.nodeD m).kind = (s.nodeD m).kind)
    (hc : ∀ m, (W.nodeD m).cutoff = (s.nodeD m).cutoff) (hpc : W.panicCountdown = none) : FFrag env sp g W where
  fr := ⟨fun n hn => by rw [hk]; exact F.fr.kinds n (by rw [← hsz]; exact hn), fun n e => by rw [hk]; exact F.fr.noExp n e,
    fun n => by rw [hk, hc]; exact F.fr.cut n, fun n hn => F.fr.fresh n (by rw [← hsz]; exact hn)⟩
  back := mapRefsBack_of_kind F.back hk
  pc := hpc

theorem FFrag.of_valFrame {env : Env} {sp : Nat → Val → Val} {g : Nat → Option Val} {s W : State} {n : Nat}
    (F : FFrag env sp g s) (VF : ValFrame n s W) : FFrag env sp g W :=
  F.of_frame VF.size VF.kind VF.cutoff (VF.pc F.pc)

theorem FFrag.of_quiet {env : Env} {sp : Nat → Val → Val} {g : Nat → Option Val} {s s' : State}
    (F : FFrag env sp g s) (q : Step.Quiet s s') : FFrag env sp g s' :=
  F.of_frame q.size (fun m => (q.node m).kind) (fun m => (q.node m).cutoff) (q.pc F.pc)

/-- the setting of the flag argument from the invariants of the pre-state `s` and a state `W` of its `ValFrame` family -/
theorem _root_.IncrVerif.Proofs.MapRefH.CCtx.of_valFrame {env : Env} {sp : Nat → Val → Val} {g : Nat → Option Val} {s W : State} {n : Nat}
    (F : FFrag env sp g s) (gr : BGraph (VE env sp) (virt g s)) (VF : ValFrame n s W) : CCtx env s W where
  pc := VF.pc F.pc
  back0 := F.back
  cut m p i hk := by rw [VF.kind] at hk; rw [VF.cutoff]; exact F.cut_mapRef hk
  kind0 m := (VF.kind m).symm
  valid0 m := (VF.valid m).symm
  edge := MapRefH.EdgeOK.congr (edgeOK_of_graph gr) VF.kind VF.parents
  pvalid c p ci hm := by rw [VF.parents] at hm; rw [VF.valid]; exact (parent_valid gr hm).2.1

/-- **the `didChange` invariant through a propagating `maybe_change_value_manual`** (with notifications) of a node `n`, run in a state `W0`
that is the pre-state `s` up to the stored value of `n`, stamps, machine states, log and counters; `old`: the old value handed to
`child_changed` — what `n` read in `s`, or `none`. -/
theorem mcvm_keepsK {env : Env} {sp : Nat → Val → Val} {g : Nat → Option Val} {s W0 s' : State} {fuel n : Nat}
    {old : Option Val} {r : Option Nat}
    (F : FFrag env sp g s) (gr : BGraph (VE env sp) (virt g s)) (K : KInv env g s)
    (VF : ValFrame n s W0) (hold : ∀ o, old = some o → s.value env n = some o)
    (h : (maybeChangeValueManual env fuel n old true true).run.run W0 = (.ok r, s')) :
    KInv env g s' := by
  have VFW : ValFrame n s (touched n W0) := VF.touched
  have q : Step.Quiet (touched n W0) s' := mcvm_true_quiet _ _ _ _ _ _ _ _ h
  have fm : FM W0 s' := (PresFM.maybeChangeValueManual ..).h _ _ _ h
  have C : CCtx env s (touched n W0) := CCtx.of_valFrame F gr VFW
  have flags := mcvm_flags C hold h
  refine K.congr (fun m => (q.node m).valid.trans (VFW.valid m)) (fun m => ?_)
    (fun m => (q.node m).kind.trans (VFW.kind m)) (fun m hd' => ?_) ?_
  · have : (s'.nodeD m).isNecessary = ((touched n W0).nodeD m).isNecessary := (q.node m).isNecessary
    exact this.trans (VFW.nec m)
  · cases hs : (s.nodeD m).didChange with
    | false => rfl
    | true =>
      have := fm m (by rw [VF.flag]; exact hs)
      rw [this] at hd'; cases hd'
  · intro m p i _ hm hk hd'
    rw [q.value_eqM env m]
    rcases up_or_same (W := touched n W0) F.back gr VFW.kind VFW.valid VFW.value m p i hm hk with hu | hs
    · have hu' : UpM (touched n W0) m n := hu.congr VFW.kind VFW.parents
      by_cases hc : Changed env s (touched n W0) m
      · rw [flags m hu' hc] at hd'; cases hd'
      · unfold Changed at hc
        have : ¬ (s.value env m ≠ (touched n W0).value env m) := fun h => hc (Or.inr h)
        exact (Decidable.not_not.1 this).symm
    · exact hs

/-- a state of the `ValFrame` family in which also the stored value of `n` is the one of `s`: nothing a reader sees has changed -/
theorem valFrame_keepsK {env : Env} {g : Nat → Option Val} {s W : State} {n : Nat} (K : KInv env g s)
    (VF : ValFrame n s W) (hvn : (W.nodeD n).value = (s.nodeD n).value) : KInv env g W := by
  refine K.congr VF.valid VF.nec VF.kind (fun m hd' => by rw [← VF.flag]; exact hd') (fun m p i _ _ _ _ => ?_)
  refine value_congr env s _ VF.size (fun k => ?_) m
  simp only [valueCore, VF.kind, VF.valid]
  by_cases hkn : k = n
  · subst hkn; rw [hvn]
  · rw [VF.value k hkn]

/-- **the `didChange` invariant through `maybe_change_value`** of a node `n` that is not a map_ref node, ANY cutoff, run in a
state `S0` that is the pre-state `s` up to stamps/log/counters: when the cutoff suppresses the change, the caller must know that the stored value
is the new one (`.eq`: by the verdict itself; `.dependOn a`: from `DepInv`; `.never` never suppresses). -/
theorem mcv_keepsK_gen {env : Env} {sp : Nat → Val → Val} {g : Nat → Option Val} {s S0 s' : State} {fuel n : Nat} {v : Val}
    {r : Option Nat}
    (F : FFrag env sp g s) (gr : BGraph (VE env sp) (virt g s)) (K : KInv env g s)
    (hn : n < s.nodes.size) (hnm : ∀ p i, (s.nodeD n).kind ≠ .mapRef p i)
    (VF : ValFrame n s S0) (hv0 : (S0.nodeD n).value = (s.nodeD n).value)
    (hsup : mcvChanges env S0 n v = some false → (s.nodeD n).value = some v)
    (h : (maybeChangeValue env fuel n v).run.run S0 = (.ok r, s')) : KInv env g s' ∧ FFrag env sp g s' := by
  have hn0 : n < S0.nodes.size := by rw [VF.size]; exact hn
  have hnn := some_of_lt hn0
  have hpc : S0.panicCountdown = none := VF.pc F.pc
  cases hd : mcvChanges env S0 n v with
  | none => rw [mcv_run' env fuel n v S0 _ hnn hpc, hd] at h; cases h
  | some d =>
  cases d with
  | true =>
    -- propagate
    rw [mcv_run' env fuel n v S0 _ hnn hpc, hd] at h
    dsimp only at h
    generalize hW0 : setValue n (some v) (logged (mcvLog env S0 n v) S0) = W0 at h
    have VF0 : ValFrame n s W0 := by rw [← hW0]; exact (VF.logged _).setValue _
    have q : Step.Quiet (touched n W0) s' := mcvm_true_quiet _ _ _ _ _ _ _ _ h
    have hold : ∀ o, (S0.nodeD n).value = some o → s.value env n = some o := by
      intro o ho; rw [value_stored (Or.inr hnm), ← hv0]; exact ho
    exact ⟨mcvm_keepsK F gr K VF0 hold h, (F.of_valFrame VF0.touched).of_quiet q⟩
  | false =>
    -- suppress: nothing a reader sees changes
    rw [mcv_suppress env fuel n v S0 _ hnn hpc hd] at h
    cases h
    have VF1 : ValFrame n s (setValue n (some v) (logged (mcvLog env S0 n v) S0)) := (VF.logged _).setValue _
    have hvn : ((setValue n (some v) (logged (mcvLog env S0 n v) S0)).nodeD n).value = (s.nodeD n).value := by
      rw [setValue_nodeD, if_pos ⟨rfl, hn0⟩, hsup hd]
    exact ⟨valFrame_keepsK K VF1 hvn, F.of_valFrame VF1⟩

/-- the verdict of a `depend_on` cutoff, in terms of the pre-state -/
theorem mcvChanges_dependOn {env : Env} {S0 : State} {n a : Nat} {v : Val} (hc : (S0.nodeD n).cutoff = .dependOn a)
    (h : mcvChanges env S0 n v = some false) :
    ∃ o, (S0.nodeD n).value = some o ∧ a < S0.nodes.size ∧ (S0.nodeD a).changedAt = (S0.nodeD n).changedAt := by
  unfold mcvChanges cutoffVerdict at h
  cases hv : (S0.nodeD n).value with
  | none => rw [hv] at h; cases h
  | some o =>
    rw [hv, hc] at h
    dsimp only at h
    cases ha : S0.nodes[a]? with
    | none => rw [ha] at h; cases h
    | some na =>
      rw [ha] at h
      simp only [Option.map_some, Option.some.injEq, Bool.not_eq_false', beq_iff_eq] at h
      refine ⟨o, rfl, lt_of_some ha, ?_⟩
      rw [nodeD_of_some ha]; exact h

/-- **the `didChange` invariant through `maybe_change_value`** of a node `n` with cutoff `.eq` or `.never` that is not a map_ref node, run in a
state `S0` that is the pre-state `s` up to stamps/log/counters (`hcut`: the ACTUAL cutoff). -/
theorem mcv_keepsK {env : Env} {sp : Nat → Val → Val} {g : Nat → Option Val} {s S0 s' : State} {fuel n : Nat} {v : Val}
    {r : Option Nat}
    (F : FFrag env sp g s) (gr : BGraph (VE env sp) (virt g s)) (K : KInv env g s)
    (hn : n < s.nodes.size) (hnm : ∀ p i, (s.nodeD n).kind ≠ .mapRef p i)
    (hcut : (s.nodeD n).cutoff = .eq ∨ (s.nodeD n).cutoff = .never)
    (VF : ValFrame n s S0) (hv0 : (S0.nodeD n).value = (s.nodeD n).value)
    (h : (maybeChangeValue env fuel n v).run.run S0 = (.ok r, s')) : KInv env g s' ∧ FFrag env sp g s' := by
  have hcut0 : (S0.nodeD n).cutoff = .eq ∨ (S0.nodeD n).cutoff = .never := by rw [VF.cutoff]; exact hcut
  refine mcv_keepsK_gen F gr K hn hnm VF hv0 (fun hd => ?_) h
  rcases mcvChanges_static env S0 n v hcut0 with hd' | ⟨-, hold⟩
  · rw [hd] at hd'; cases hd'
  · rw [← hv0]; exact hold

end IncrVerif.Proofs.FullH
