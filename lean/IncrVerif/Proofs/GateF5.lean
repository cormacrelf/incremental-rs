import IncrVerif.Proofs.StepStamp
/-!
# C06, combined fragment: THE STAMP FRAME `RR` (aimed at: `recomputeOne env fuel n` writes `recomputedAt` on `n` only, except on nodes it invalidates — not reached, see `GateF8`)

`RR ex s s'`: no node disappears, an invalid node stays invalid, and every node outside `ex` keeps its `recomputedAt` or is invalid in `s'` (`invalidate_node` writes
`recomputed_at := now` on the dying node before it clears `valid`; nodes that do not exist yet read as the default node, `recomputedAt = -1`, and are created with `-1`).
This file: the relation, the `Pres` leaves (all outcomes) for the functions that cannot reach `invalidateNode`.
-/
open IncrVerif.Engine IncrVerif.Proofs IncrVerif.Proofs.Step
namespace IncrVerif.Proofs.GateF

structure RR (ex : Nat → Prop) (s s' : State) : Prop where
  size : s.nodes.size ≤ s'.nodes.size
  inval : ∀ m, (s.nodeD m).valid = false → (s'.nodeD m).valid = false
  stamp : ∀ m, ¬ ex m → (s'.nodeD m).recomputedAt = (s.nodeD m).recomputedAt ∨ (s'.nodeD m).valid = false

instance (ex : Nat → Prop) : PreOrd (RR ex) where
  refl _ := ⟨Nat.le_refl _, fun _ h => h, fun _ _ => Or.inl rfl⟩
  trans h1 h2 := by
    refine ⟨Nat.le_trans h1.size h2.size, fun m hm => h2.inval m (h1.inval m hm), fun m hm => ?_⟩
    rcases h2.stamp m hm with e | e
    · rcases h1.stamp m hm with e1 | e1
      · exact Or.inl (e.trans e1)
      · exact Or.inr (h2.inval m e1)
    · exact Or.inr e

theorem RR.mono {ex ex' : Nat → Prop} {s s' : State} (h : RR ex s s') (hx : ∀ m, ex m → ex' m) : RR ex' s s' :=
  ⟨h.size, h.inval, fun m hm => h.stamp m (fun e => hm (hx m e))⟩

theorem RR.of_eq {ex : Nat → Prop} {s s' : State} (hn : s'.nodes = s.nodes) : RR ex s s' :=
  ⟨by rw [hn]; exact Nat.le_refl _, fun m h => by simpa only [State.nodeD, hn] using h, fun m _ => Or.inl (by simp only [State.nodeD, hn])⟩

theorem RR.of_push_node {ex : Nat → Prop} {s s' : State} {nd : Node} (hn : s'.nodes = s.nodes.push nd) (hr : nd.recomputedAt = -1) : RR ex s s' := by
  have key : ∀ m, m < s.nodes.size → s'.nodeD m = s.nodeD m := by
    intro m hm
    simp only [State.nodeD, hn]
    rw [Array.getElem?_push, if_neg (by omega)]
  have dflt : ∀ m, s.nodes.size ≤ m → s.nodeD m = default := by
    intro m hm; simp [State.nodeD, Array.getElem?_eq_none hm]
  refine ⟨by rw [hn, Array.size_push]; omega, fun m h => ?_, fun m _ => Or.inl ?_⟩
  · by_cases hm : m < s.nodes.size
    · rw [key m hm]; exact h
    · rw [dflt m (by omega)] at h; cases h
  · by_cases hm : m < s.nodes.size
    · rw [key m hm]
    · rw [dflt m (by omega)]
      by_cases he : m = s.nodes.size
      · have : s'.nodeD m = nd := by
          simp only [State.nodeD, hn]
          rw [Array.getElem?_push, if_pos he]; rfl
        rw [this, hr]; rfl
      · have : s'.nodeD m = default := by
          simp only [State.nodeD, hn]
          rw [Array.getElem?_push, if_neg he, Array.getElem?_eq_none (by omega)]; rfl
        rw [this]

macro_rules
  | `(tactic| qleaf) => `(tactic| ((with_reducible apply Step.Pres.modify); intro _; exact RR.of_push_node rfl rfl))
macro_rules
  | `(tactic| qleaf) => `(tactic| ((with_reducible apply Step.Pres.modify); intro _; exact RR.of_eq rfl))

theorem RR.modNode (ex : Nat → Prop) (s : State) (n : Nat) (f : Node → Node)
    (hf : ∀ x, (f x).recomputedAt = x.recomputedAt ∧ ((f x).valid = x.valid ∨ (f x).valid = false)) :
    RR ex s { s with nodes := s.nodes.modify n f } := by
  refine ⟨by show s.nodes.size ≤ (s.nodes.modify n f).size; rw [Array.size_modify]; exact Nat.le_refl _, fun m h => ?_, fun m _ => ?_⟩
  · rw [nodeD_modify]
    split
    · rcases (hf (s.nodeD m)).2 with e | e
      · rw [e]; exact h
      · exact e
    · exact h
  · rw [nodeD_modify]
    split
    · exact Or.inl (hf _).1
    · exact Or.inl rfl

/-- every write but `stamp` and `erase` keeps `RR ex`: `valid` is only ever cleared, and a fresh node has the stamp that `nodeD` gave there before -/
theorem RR.of_edit {ex : Nat → Prop} {L w} (h1 : Footprint.Tag.stamp ∉ L) (h2 : Footprint.Tag.erase ∉ L) {s s' : State}
    (e : Footprint.Edit L w s s') : RR ex s s' := by
  cases e
  case node n f hf => exact RR.modNode ex s n f fun _ => by cases hf <;> first | exact ⟨rfl, Or.inl rfl⟩ | exact ⟨rfl, Or.inr rfl⟩
  case value n _ f hf => exact RR.modNode ex s n f fun _ => by cases hf <;> exact ⟨rfl, Or.inl rfl⟩
  case pushNode => exact RR.of_push_node rfl rfl
  case stamp ht => exact absurd ht h1
  case erase ht => exact absurd ht h2
  all_goals exact RR.of_eq rfl

theorem PresR.modNode (ex : Nat → Prop) (n : Nat) (f : Node → Node)
    (hf : ∀ x, (f x).recomputedAt = x.recomputedAt ∧ ((f x).valid = x.valid ∨ (f x).valid = false)) :
    Step.Pres (RR ex) (Engine.modNode n f) :=
  Step.Pres.modify fun s => RR.modNode ex s n f hf
macro_rules
  | `(tactic| qleaf) => `(tactic| ((with_reducible apply PresR.modNode); intro _; first | exact ⟨rfl, Or.inl rfl⟩ | exact ⟨rfl, Or.inr rfl⟩))

/-- an excepted node may be stamped -/
theorem PresR.modNode_ex (ex : Nat → Prop) (n : Nat) (f : Node → Node) (hx : ex n)
    (hf : ∀ x, (f x).valid = x.valid ∨ (f x).valid = false) : Step.Pres (RR ex) (Engine.modNode n f) := by
  unfold Engine.modNode
  apply Step.Pres.modify
  intro s
  refine ⟨by show s.nodes.size ≤ (s.nodes.modify n f).size; rw [Array.size_modify]; exact Nat.le_refl _, fun m h => ?_, fun m hm => ?_⟩
  · rw [nodeD_modify]
    split
    · rcases hf (s.nodeD m) with e | e
      · rw [e]; exact h
      · exact e
    · exact h
  · rw [nodeD_modify]
    split
    · rename_i h; obtain ⟨h, -⟩ := h; subst h; exact absurd hx hm
    · exact Or.inl rfl
macro_rules
  | `(tactic| qleaf) => `(tactic| ((with_reducible apply PresR.modNode_ex) <;> first | exact rfl | exact Or.inr rfl | exact Or.inl rfl | (intro _; first | exact Or.inl rfl | exact Or.inr rfl)))

theorem PresR.modBind (ex : Nat → Prop) (b : Nat) (f : BindRec → BindRec) : Step.Pres (RR ex) (Engine.modBind b f) := by
  unfold Engine.modBind
  apply Step.Pres.modify
  intro s
  exact RR.of_eq rfl
macro_rules
  | `(tactic| qleaf) => `(tactic| with_reducible apply PresR.modBind)

macro_rules | `(tactic| qleaf) => `(tactic| apply Step.Pres.forIn)

/-- register a `Step.Pres (RR _)` lemma as a leaf -/
macro "r_leaf " n:ident : command =>
  `(macro_rules | `(tactic| qleaf) => `(tactic| with_reducible apply $n))

theorem PresR.tick (ex : Nat → Prop) : Step.Pres (RR ex) tick :=
  Footprint.Foot.tick.frame (RR.of_edit (by decide) (by decide))
r_leaf PresR.tick
theorem PresR.logEv (ex : Nat → Prop) (e) : Step.Pres (RR ex) (logEv e) := by unfold Engine.logEv; qpres
r_leaf PresR.logEv
theorem PresR.modExpert (ex : Nat → Prop) (b f) : Step.Pres (RR ex) (modExpert b f) := by unfold Engine.modExpert; qpres
r_leaf PresR.modExpert
theorem PresR.rchInsert (ex : Nat → Prop) (n) : Step.Pres (RR ex) (rchInsert n) :=
  (Footprint.Foot.rchInsert n).frame (RR.of_edit (by decide) (by decide))
r_leaf PresR.rchInsert
theorem PresR.rchRemove (ex : Nat → Prop) (n) : Step.Pres (RR ex) (rchRemove n) :=
  (Footprint.Foot.rchRemove n).frame (RR.of_edit (by decide) (by decide))
r_leaf PresR.rchRemove
theorem PresR.setHeight (ex : Nat → Prop) (n h) : Step.Pres (RR ex) (setHeight n h) :=
  (Footprint.Foot.setHeight n h).frame (RR.of_edit (by decide) (by decide))
r_leaf PresR.setHeight
theorem PresR.ensureHeightRequirement (ex : Nat → Prop) (a b c d) : Step.Pres (RR ex) (ensureHeightRequirement a b c d) :=
  (Footprint.Foot.ensureHeightRequirement a b c d).frame (RR.of_edit (by decide) (by decide))
r_leaf PresR.ensureHeightRequirement

theorem PresR.adjustHeights (ex : Nat → Prop) (oc op fuel) : Step.Pres (RR ex) (adjustHeights oc op fuel) :=
  (Footprint.Foot.adjustHeights oc op fuel).frame (RR.of_edit (by decide) (by decide))
r_leaf PresR.adjustHeights
theorem PresR.addParent (ex : Nat → Prop) (a b c) : Step.Pres (RR ex) (addParent a b c) :=
  (Footprint.Foot.addParent a b c).frame (RR.of_edit (by decide) (by decide))
r_leaf PresR.addParent
theorem PresR.removeParent (ex : Nat → Prop) (a b c) : Step.Pres (RR ex) (removeParent a b c) :=
  (Footprint.Foot.removeParent a b c).frame (RR.of_edit (by decide) (by decide))
r_leaf PresR.removeParent
theorem PresR.handleAfterStabilisation (ex : Nat → Prop) (n) : Step.Pres (RR ex) (handleAfterStabilisation n) :=
  (Footprint.Foot.handleAfterStabilisation n).frame (RR.of_edit (by decide) (by decide))
r_leaf PresR.handleAfterStabilisation
theorem PresR.maybeHandleAfterStabilisation (ex : Nat → Prop) (n) : Step.Pres (RR ex) (maybeHandleAfterStabilisation n) :=
  (Footprint.Foot.maybeHandleAfterStabilisation n).frame (RR.of_edit (by decide) (by decide))
r_leaf PresR.maybeHandleAfterStabilisation
theorem PresR.shouldCutoff (ex : Nat → Prop) (env n o v) : Step.Pres (RR ex) (shouldCutoff env n o v) :=
  (Footprint.Foot.shouldCutoff env n o v).frame (RR.of_edit (by decide) (by decide))
r_leaf PresR.shouldCutoff
theorem PresR.markMapRefUnknown (ex : Nat → Prop) (fuel n) : Step.Pres (RR ex) (markMapRefUnknown fuel n) :=
  (Footprint.Foot.markMapRefUnknown fuel n).frame (RR.of_edit (by decide) (by decide))
r_leaf PresR.markMapRefUnknown

end IncrVerif.Proofs.GateF
