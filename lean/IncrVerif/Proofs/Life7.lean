import IncrVerif.Proofs.Life6
/-!
# Observer lifecycle over whole histories, part 7: handlers are only run for in-use observers
-/
namespace IncrVerif.Proofs.Life
open IncrVerif.Engine IncrVerif.Proofs.Obs
open IncrVerif.Proofs.Step (run_bind_ok run_throw getObs_ok_inv)

/-- the ghost check in front of a delivery to the handler registered under `tok` on observer `o`:
the observer is in use and the handler is still registered -/
def deliveryCheck (o tok : Nat) : M Unit := do
  let ob ← getObs o
  assertM (ob.state == .inUse && ob.handlers.any (·.token == tok))
    "ghost:notification-for-an-observer-not-in-use-or-an-unregistered-handler"

/-- the loop body of `run_all` -/
def runAllBody (env : Env) (fuel o n : Nat) (nu : NodeUpdate) (now : Int) (h : HandlerRec) :
    M (ForInStep PUnit) := do
  match (← getObs o).state with
  | .created | .unlinked => Engine.panic "internal_observer:run_all:state"
  | .disallowed => pure ()
  | .inUse =>
    if h.createdAt < now then
      match handlerStep h.prev nu with
      | none => pure ()
      | some d =>
        modObs o fun x => { x with handlers := x.handlers.map fun h' =>
          if h'.token == h.token then { h' with prev := d.toPrev } else h' }
        let upd ← match d with
          | .changed => do pure (Update.changed (← valueUnwrap env n "node_update:value-unwrap"))
          | .necessary => do pure (Update.initialised (← valueUnwrap env n "node_update:value-unwrap"))
          | .invalidated => pure Update.invalidated
          | .unnecessary => Engine.panic "public:subscription-got-unnecessary"
        tick
        logEv (.notif h.token upd)
        runEffects env fuel (env.handler h.hid upd)
  pure (ForInStep.yield ⟨⟩)

theorem runAll_eq (env : Env) (fuel o n : Nat) (nu : NodeUpdate) (now : Int) :
    runAll env fuel o n nu now = (do
      let hs := (← getObs o).handlers
      let _ ← forIn hs PUnit.unit fun h _ => runAllBody env fuel o n nu now h
      pure ()) := by
  unfold runAll runAllBody
  rfl

/-- `runAllBody` with the ghost check: the observer is in use at the moment the notification is logged
and the handler runs -/
def runAllBodyChecked (env : Env) (fuel o n : Nat) (nu : NodeUpdate) (now : Int) (h : HandlerRec) :
    M (ForInStep PUnit) := do
  match (← getObs o).state with
  | .created | .unlinked => Engine.panic "internal_observer:run_all:state"
  | .disallowed => pure ()
  | .inUse =>
    if h.createdAt < now then
      match handlerStep h.prev nu with
      | none => pure ()
      | some d =>
        modObs o fun x => { x with handlers := x.handlers.map fun h' =>
          if h'.token == h.token then { h' with prev := d.toPrev } else h' }
        let upd ← match d with
          | .changed => do pure (Update.changed (← valueUnwrap env n "node_update:value-unwrap"))
          | .necessary => do pure (Update.initialised (← valueUnwrap env n "node_update:value-unwrap"))
          | .invalidated => pure Update.invalidated
          | .unnecessary => Engine.panic "public:subscription-got-unnecessary"
        tick
        deliveryCheck o h.token
        logEv (.notif h.token upd)
        runEffects env fuel (env.handler h.hid upd)
  pure (ForInStep.yield ⟨⟩)

theorem M.ext {α} {x y : M α} (h : ∀ s, x.run.run s = y.run.run s) : x = y := by
  funext s; exact h s

theorem run_bind_congr {α β} {x : M α} {f g : α → M β} (s : State)
    (h : ∀ a s1, x.run.run s = (.ok a, s1) → (f a).run.run s1 = (g a).run.run s1) :
    (x >>= f).run.run s = (x >>= g).run.run s := by
  rw [run_bind, run_bind]
  rcases hx : x.run.run s with ⟨r, s1⟩
  cases r with
  | error e => rfl
  | ok a => exact h a s1 hx

/-- observer `o` is in use and has a handler registered under `tok` -/
def Deliverable (t : State) (o tok : Nat) : Prop :=
  ∃ ob : ObsRec, t.observers[o]? = some ob ∧ ob.state = .inUse ∧ tok ∈ ob.handlers.map (·.token)

theorem deliveryCheck_noop {β} (o tok : Nat) (k : M β) (s : State) (hs : Deliverable s o tok) :
    (deliveryCheck o tok >>= fun _ => k).run.run s = k.run.run s := by
  obtain ⟨ob, e, hst, htok⟩ := hs
  unfold deliveryCheck
  simp only [bind_assoc]
  rw [run_bind_ok (run_getObs_some e), hst]
  have : ob.handlers.any (fun x => x.token == tok) = true := by
    rw [List.any_eq_true]
    obtain ⟨x, hx, hxt⟩ := List.mem_map.1 htok
    exact ⟨x, hx, by simp [hxt]⟩
  simp only [this]
  rfl

/-- `Same`, and every observer keeps its handler registrations (token, hid, createdAt) -/
structure SameK (s s' : State) : Prop extends Same s s' where
  keys : ∀ o : Nat, (s'.observers[o]?).map (fun x : ObsRec => x.handlers.map hkey)
    = (s.observers[o]?).map (fun x : ObsRec => x.handlers.map hkey)

instance : ObsLocal SameK where
  refl s := ⟨Same.refl s, fun _ => rfl⟩
  trans h1 h2 := ⟨h1.toSame.trans h2.toSame, fun o => (h2.keys o).trans (h1.keys o)⟩
  of_eq s s' h1 h2 h3 h4 h5 := ⟨ObsLocal.of_eq s s' h1 h2 h3 h4 h5, fun o => by rw [h1]⟩
  logEv e s he := ⟨ObsLocal.logEv e s he, fun _ => rfl⟩

theorem SameK.modObs_setPrev (s : State) (o : Nat) (g : HandlerRec → HandlerRec)
    (hg : ∀ h, hkey (g h) = hkey h) :
    SameK s { s with observers := s.observers.modify o fun x => { x with handlers := x.handlers.map g } } := by
  refine ⟨Same.modObs s o _ (fun _ => rfl), fun m => ?_⟩
  simp only [Array.getElem?_modify]
  split
  · cases s.observers[m]? with
    | none => rfl
    | some x =>
      simp only [Option.map_some, List.map_map, Option.some.injEq]
      exact List.map_congr_left fun h _ => hg h
  · rfl

theorem PresK.modObs_setPrev (o : Nat) (g : HandlerRec → HandlerRec) (hg : ∀ h, hkey (g h) = hkey h) :
    Pres SameK (modObs o fun x => { x with handlers := x.handlers.map g }) := by
  unfold Engine.modObs
  exact Pres.modify fun s => SameK.modObs_setPrev s o g hg

macro_rules
  | `(tactic| lleaf) =>
    `(tactic| ((with_reducible apply PresK.modObs_setPrev); intro h; dsimp only [hkey]; split <;> rfl))

theorem SameK.deliverable {s s' : State} (h : SameK s s') {o tok : Nat} (hd : Deliverable s o tok) :
    Deliverable s' o tok := by
  obtain ⟨ob, e, hst, htok⟩ := hd
  have hs := h.toSame.stOf_eq o
  rw [stOf_eq_some.2 ⟨ob, e, hst⟩] at hs
  obtain ⟨ob', e', hst'⟩ := stOf_eq_some.1 hs
  refine ⟨ob', e', hst', ?_⟩
  have hk := h.keys o
  rw [e, e'] at hk
  simp only [Option.map_some, Option.some.injEq] at hk
  have : ob'.handlers.map (·.token) = ob.handlers.map (·.token) := by
    have := congrArg (List.map Prod.fst) hk
    simpa [List.map_map, Function.comp_def, hkey] using this
  rw [this]; exact htok

/-- a step that keeps the observer table and the registrations can be skipped when comparing two
continuations that agree wherever the delivery is legitimate -/
theorem check_after {α β} (o tok : Nat) (pre : M α) (hp : Pres SameK pre) (f g : α → M β) (s : State)
    (hs : Deliverable s o tok)
    (hfg : ∀ a s', Deliverable s' o tok → (f a).run.run s' = (g a).run.run s') :
    (pre >>= f).run.run s = (pre >>= g).run.run s := by
  apply run_bind_congr
  intro a s1 h1
  exact hfg a s1 ((hp.h _ _ _ h1).deliverable hs)

-- `with_reducible`: where the next step is not the check, the `exact` fails at once instead of unfolding the programs
macro "chk" o:term "," tok:term : tactic =>
  `(tactic| first
    | with_reducible exact deliveryCheck_noop _ _ _ _ (by assumption)
    | (refine check_after $o $tok _ (by lpres) _ _ _ (by assumption) ?_; intro _ _ _))

/-- the two loop bodies agree wherever the handler `h` is registered on `o` if `o` is in use -/
theorem runAllBodyChecked_run (env : Env) (fuel o n : Nat) (nu : NodeUpdate) (now : Int)
    (h : HandlerRec) (s : State)
    (hreg : ∀ ob : ObsRec, s.observers[o]? = some ob → ob.state = .inUse →
      h.token ∈ ob.handlers.map (·.token)) :
    (runAllBodyChecked env fuel o n nu now h).run.run s
      = (runAllBody env fuel o n nu now h).run.run s := by
  unfold runAllBodyChecked runAllBody
  apply run_bind_congr
  intro ob s1 hob
  obtain ⟨rfl, e⟩ := getObs_ok_inv hob
  dsimp only
  cases hst : ob.state <;> simp only []
  -- in use
  have hs : Deliverable s1 o h.token := ⟨ob, e, hst, hreg ob e hst⟩
  by_cases hc : h.createdAt < now
  · simp only [hc, if_true]
    cases hd : handlerStep h.prev nu with
    | none => rfl
    | some d =>
      simp only []
      chk o, h.token
      cases d <;> simp only [] <;> repeat (chk o, h.token)
  · simp only [hc, if_false]

theorem PresD.runAllBody (env fuel o n nu now h) : Pres Dis (runAllBody env fuel o n nu now h) := by
  unfold Life.runAllBody; lpres

/-- two loops whose bodies agree wherever an invariant (kept by the second body) holds -/
theorem forIn_congr_inv {α} (I : State → Prop) (f g : α → PUnit → M (ForInStep PUnit)) (l : List α)
    (hI : ∀ a, a ∈ l → ∀ s r s', I s → (g a ⟨⟩).run.run s = (r, s') → I s')
    (hfg : ∀ a, a ∈ l → ∀ s, I s → (f a ⟨⟩).run.run s = (g a ⟨⟩).run.run s) :
    ∀ s, I s → (forIn l PUnit.unit f).run.run s = (forIn l PUnit.unit g).run.run s := by
  induction l with
  | nil => intro s _; rfl
  | cons a l ih =>
    intro s hi
    rw [List.forIn_cons, List.forIn_cons, run_bind, run_bind, hfg a List.mem_cons_self s hi]
    rcases hx : (g a ⟨⟩).run.run s with ⟨r, s1⟩
    have hi1 := hI a List.mem_cons_self s r s1 hi hx
    cases r with
    | error e => rfl
    | ok x =>
      cases x with
      | done b => rfl
      | yield b =>
        exact ih (fun b hb => hI b (List.mem_cons_of_mem _ hb))
          (fun b hb => hfg b (List.mem_cons_of_mem _ hb)) s1 hi1

/-- `run_all` with the ghost check -/
def runAllChecked (env : Env) (fuel o n : Nat) (nu : NodeUpdate) (now : Int) : M Unit := do
  let hs := (← getObs o).handlers
  let _ ← forIn hs PUnit.unit fun h _ => runAllBodyChecked env fuel o n nu now h
  pure ()

/-- O4: the ghost check never fires — `run_all` IS `run_all` with the check "the observer is in use
and this handler is still registered on it" in front of every notification -/
theorem runAllChecked_eq (env : Env) (fuel o n : Nat) (nu : NodeUpdate) (now : Int) :
    runAllChecked env fuel o n nu now = runAll env fuel o n nu now := by
  rw [runAll_eq]
  unfold runAllChecked
  apply M.ext
  intro s
  apply run_bind_congr
  intro ob s1 hob
  obtain ⟨rfl, e⟩ := getObs_ok_inv hob
  dsimp only
  -- while `o` is in use its registrations are those of the snapshot
  let I : State → Prop := fun t => ∀ x : ObsRec, t.observers[o]? = some x → x.state = .inUse →
    x.handlers.map hkey = ob.handlers.map hkey
  have key := forIn_congr_inv I
    (fun h _ => runAllBodyChecked env fuel o n nu now h) (fun h _ => runAllBody env fuel o n nu now h)
    ob.handlers ?_ ?_ s1 ?_
  · rw [run_bind, run_bind, key]
  · -- the invariant is kept
    intro a _ t r t' hi hrun x' ex' hst'
    have d := (PresD.runAllBody env fuel o n nu now a).h t r t' hrun
    obtain ⟨x, ex, rd⟩ := d.obs_back ex'
    have hst : x.state = .inUse := by
      rcases rd.state with h | h
      · rw [← h]; exact hst'
      · rw [hst'] at h; revert h; cases x.state <;> simp [afterDisallow]
    rcases rd.handlers with h | ⟨_, h, _⟩
    · rw [h]; exact hi x ex hst
    · rw [hst'] at h; cases h
  · -- the bodies agree
    intro a ha t hi
    refine runAllBodyChecked_run env fuel o n nu now a t fun x ex hst => ?_
    have hk := hi x ex hst
    have : x.handlers.map (·.token) = ob.handlers.map (·.token) := by
      have := congrArg (List.map Prod.fst) hk
      simpa [List.map_map, Function.comp_def, hkey] using this
    rw [this]
    exact List.mem_map.2 ⟨a, ha, rfl⟩
  · intro x ex _
    rw [e] at ex; cases ex; rfl

end IncrVerif.Proofs.Life
