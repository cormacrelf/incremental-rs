import IncrVerif.Proofs.PerKeyH104
import IncrVerif.Proofs.PerKeyH5
/-!
# The callback discipline `SlotInv` in the per-key fragment, part 6: the prefix and the end of `stabilise`, taking a node
out of the heap, the API actions (C)

Most ingredients of `ExpertH61–65` are stated for arbitrary states (all nodes valid, nothing waiting in
`propagateInvalidity`); here they are instantiated for the per-key states (`PFrag`, `PQ`).
-/
namespace IncrVerif.Proofs.PerKeyH
open IncrVerif.Engine IncrVerif.Driver IncrVerif.Proofs IncrVerif.Proofs.Step IncrVerif.Proofs.Sched
open IncrVerif.Proofs.ExpertH IncrVerif.Proofs.EffH IncrVerif.Proofs.Xp IncrVerif.Proofs.DriverH
open IncrVerif.Proofs.ExpertH.QR

/-! ## facts of `PQ` -/

theorem PQ.pinv {env : Env} {rk : Nat → Nat} {s : State} (Q : PQ env rk s) : s.propagateInvalidity = [] := Q.q.pinv

/-- the children of the records are nodes -/
theorem kids_of_allStatic {env : Env} {rk : Nat → Nat} {s : State} (_F : PFrag env s) (A : AllStatic (penv env) rk (V s)) :
    ∀ n e er, (s.nodeD n).kind = .expert e → s.experts[e]? = some er →
      ∀ ed, ed ∈ er.children → ed.child < s.nodes.size := by
  intro n e er hk he ed hed
  have hlt : n < s.nodes.size := lt_of_expert hk
  have := (A.node n (by rw [V_size]; exact hlt)).kidsIn ed.child (by
    rw [V_kids, hk]; simp only [kidsX, xRec_some he]
    exact List.mem_map_of_mem hed)
  rwa [V_size] at this

theorem PQ.kids {env : Env} {rk : Nat → Nat} {s : State} (Q : PQ env rk s) :
    ∀ n e er, (s.nodeD n).kind = .expert e → s.experts[e]? = some er →
      ∀ ed, ed ∈ er.children → ed.child < s.nodes.size :=
  kids_of_allStatic Q.frag Q.q.struct.static

/-! ## C1. the prefix of `stabilise` -/

/-- `add_new_observers` (from the state in which `stabilise` has set the status) -/
theorem addNewObservers_slots_pk {env : Env} {fuel : Nat} {s t1 : State} {r : Except Panic Unit}
    (F : PFrag env s) (hp : s.propagateInvalidity = []) (L : SlotInv env s)
    (h : (addNewObservers env fuel).run.run { s with status := .stabilising } = (r, t1)) :
    SlotInv env t1 ∧ (∀ m, (t1.nodeD m).valid = true) := by
  have hv0 : ∀ m, (({ s with status := .stabilising } : State).nodeD m).valid = true := F.validD
  have hp0 : ({ s with status := .stabilising } : State).propagateInvalidity = [] := hp
  exact ⟨addNewObservers_slots hv0 hp0 (slotInv_status L .stabilising) h,
    (((PresC.addNewObservers env fuel).h _ _ _ h) hv0 hp0).1.allValid hv0⟩

/-- `unlink_disallowed_observers` (any state without invalid nodes: `ExpertH.unlinkDisallowedObservers_slots` as is) -/
theorem unlinkDisallowedObservers_slots_pk {env : Env} {fuel : Nat} {t1 t2 : State}
    (hv : ∀ m, (t1.nodeD m).valid = true) (L : SlotInv env t1)
    (h : (unlinkDisallowedObservers fuel).run.run t1 = (.ok (), t2)) : SlotInv env t2 :=
  unlinkDisallowedObservers_slots hv L h

/-- **the prefix of `stabilise`** from the invariant between actions -/
theorem prefix_slots {env : Env} {rk : Nat → Nat} {fuel : Nat} {s t1 t2 : State} (Q : PQ env rk s)
    (h1 : (addNewObservers env fuel).run.run { s with status := .stabilising } = (.ok (), t1))
    (h2 : (unlinkDisallowedObservers fuel).run.run t1 = (.ok (), t2)) : SlotInv env t1 ∧ SlotInv env t2 := by
  obtain ⟨L1, hv1⟩ := addNewObservers_slots_pk Q.frag Q.pinv Q.slots h1
  exact ⟨L1, unlinkDisallowedObservers_slots hv1 L1 h2⟩

/-! ## C2. taking a node out of the heap -/

theorem pop_slots {env : Env} {s s1 : State} {r : Option Nat} (hH : HeapInv s) (L : SlotInv env s)
    (h : rchRemoveMin.run.run s = (.ok r, s1)) : SlotInv env s1 :=
  L.pop hH h

/-! ## C3. the end of `stabilise` -/

/-- `stabiliseEnd` (no deferred writes, no dead variables, no handlers) keeps `SlotInv` -/
theorem stabiliseEnd_slots_pk {env : Env} {fuel : Nat} {t s' : State} (F : PFrag env t) (L : SlotInv env t)
    (h1 : t.setDuringStab = []) (h2 : t.deadVars = [])
    (hobs : ∀ (o : Nat) (ob : ObsRec), t.observers[o]? = some ob → ob.handlers = [])
    (h : (stabiliseEnd env fuel).run.run t = (.ok (), s')) : SlotInv env s' :=
  slotInv_finished (fun m => xk_of_pkind (F.kindD m)) L (stabiliseEnd_fin h1 h2 hobs h)

/-! ## C4. the API actions that are neither `stabilise` nor `create (perKey …)` -/

theorem xinstr_of_pinstr {env : Env} {s : State} {i : Instr} (hi : PInstrOK env s i)
    (hnp : ∀ cut fam x, i ≠ .perKey cut fam x) : XInstr i := by
  cases i <;> first | trivial | exact hi.elim | exact absurd rfl (hnp _ _ _)

theorem xact_of_paction {env : Env} {s : State} {a : Action} (ha : PActionOK env s a) (hns : a ≠ .stabilise)
    (hnc : ∀ i, a ≠ .create i) : XAct a := by
  cases a <;> first | trivial | exact ha.elim | exact absurd rfl hns | exact absurd rfl (hnc _)

/-- **`observe`, `disallow`, the writes, `create` of a static node, … keep `SlotInv`** -/
theorem action_static_slots_pk {env : Env} {rk : Nat → Nat} {s s' : State} {a : Action} {tk : Array Nat}
    {r : String × Array Nat} (Q : PQ env rk s) (ha : PActionOK env s a) (hns : a ≠ .stabilise)
    (hnp : ∀ cut fam x, a ≠ .create (.perKey cut fam x))
    (h : (stepAction env a tk).run.run s = (.ok r, s')) : SlotInv env s' := by
  by_cases hc : ∃ i, a = .create i
  · obtain ⟨i, rfl⟩ := hc
    have hi : XInstr i := xinstr_of_pinstr (s := s) ha fun cut fam x e => hnp cut fam x (by rw [e])
    exact cfx_slots_pf Q.frag Q.kids Q.slots ((PresCF.create env tk hi).h _ _ _ h)
  · exact xact_slots Q.slots (xact_of_paction ha hns fun i e => hc ⟨i, e⟩) h

end IncrVerif.Proofs.PerKeyH
