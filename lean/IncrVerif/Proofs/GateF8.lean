import IncrVerif.Proofs.GateF7
/-!
# C06, combined fragment, part 8: the stamp frame `RR` for successful runs (end) — notifications, `maybeChangeValue`, `rchRemoveMin`.  UNFINISHED: the last rung, `POk (RR (· = n)) (recomputeOne env fuel n)`, is NOT here (the decomposition tactic `okpres` does not get through `recomputeOne`; its branches are covered by the leaves above), so the stamp frame is not used by `Props/C06Full`
-/
open IncrVerif.Engine IncrVerif.Proofs IncrVerif.Proofs.Step
namespace IncrVerif.Proofs.GateF

/-! ### notifications, `maybeChangeValue`, `recomputeOne` -/
theorem POk.parentIterCanRecomputeNow (ex : Nat → Prop) (p c) : POk (RR ex) (parentIterCanRecomputeNow p c) :=
  .of_foot (Footprint.Foot.parentIterCanRecomputeNow (w := fun _ => True) p c) (by decide) (by decide)
theorem POk.maybeChangeValue (env fuel n v) : POk (RR (fun m => m = n)) (maybeChangeValue env fuel n v) :=
  .of_foot (Footprint.Foot.maybeChangeValue env fuel n v) (by decide) (by decide)
theorem POk.rchRemoveMin (ex : Nat → Prop) : POk (RR ex) rchRemoveMin :=
  .of_foot (Footprint.Foot.rchRemoveMin (w := fun _ => True)) (by decide) (by decide)

end IncrVerif.Proofs.GateF
