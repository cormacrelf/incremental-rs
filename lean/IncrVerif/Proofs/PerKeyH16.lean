import IncrVerif.Proofs.PerKeyH13
/-!
# A run of a per-key change detector, part 6a: the run, split (`lc_run_split`), and `LcBase` from the hypotheses of
`LcStepSpec` (`lcbase_of`)
-/
namespace IncrVerif.Proofs.PerKeyH
open IncrVerif.Engine IncrVerif.Driver IncrVerif.Proofs IncrVerif.Proofs.Step IncrVerif.Proofs.Sched
open IncrVerif.Proofs.ExpertH IncrVerif.Proofs.EffH IncrVerif.Proofs.DriverH IncrVerif.Proofs.ExpertH.QR

/-- master equation of `recomputeOne` on a per-key change detector -/
theorem recomputeOne_perKey_run (env : Env) (fuel n : Nat) (s : State) (nd : Node) (f : Nat)
    (args : List Nat) (vals : List Val)
    (hn : s.nodes[n]? = some nd) (hv : nd.valid = true) (hk : nd.kind = .map f args)
    (hf : fnPerKey ≤ f) (hvals : valuesOf env s args = some vals) :
    (recomputeOne env fuel n).run.run s =
      (do (match vals.headD .unit with
            | .map m => perKeyDriver env fuel (f - fnPerKey) m
            | _ => perKeyDriver env fuel (f - fnPerKey) [])
          maybeChangeValue env fuel n .unit).run.run (started n s) := by
  have hk? : ({ nd with recomputedAt := s.stabNum } : Node).kind? = some (.map f args) := by
    simp [Node.kind?, hv, hk]
  have hvals' : valuesOf env (started n s) args = some vals := by
    rw [valuesOf_congr env s (started n s) args (fun a _ => started_value env n s a)]; exact hvals
  have hn' := started_getElem? n s nd hn
  have hz : ¬ f < fnZip := by unfold fnZip; unfold fnPerKey at hf; omega
  unfold recomputeOne
  simp only [run_bind_get]
  cases hd : s.cfg.debug
  all_goals
    simp only [started, hd, Bool.false_eq_true, if_false, if_true, run_bind_modify,
      run_bind_bumpCounter, run_bind_get, run_bind_modNode] at hn' hvals' ⊢
    rw [run_bind_ok (run_getNode_some hn'), hk?]
    dsimp only
    rw [run_bind_of (run_mapM_valueUnwrap env _ _ args), hvals']
    dsimp only
    rw [if_neg hz, if_pos (show f ≥ fnPerKey from hf)]
    cases vals.headD Val.unit <;> rfl

/-- `LcBase` from the hypotheses of `LcStepSpec` -/
theorem lcbase_of {env : Env} {s : State} {n op : Nat} {args : List Nat} (D : PD env s (some n)) (N : NoRem s)
    (hk : (s.nodeD n).kind = .map (fnPerKey + op) args) :
    ∃ pr eres, LcBase env s n op pr eres := by
  have hnec : s.isNecessary n = true := by
    rw [← V_isNecessary]; exact (D.inv.cur n rfl).1
  have hlt : n < s.nodes.size := Step.nec_lt_size hnec
  obtain ⟨pr, hop, hn⟩ := D.aux.pk.lcs n _ args hlt hk (Nat.le_add_right _ _)
  rw [Nat.add_sub_cancel_left] at hop
  obtain ⟨x, e, er, hN, -⟩ := (D.aux.pk.ops op pr hop).nodes
  exact ⟨pr, e, D, N, hop, hn, hN.result⟩

/-- **the run, split** -/
theorem lc_run_split {env : Env} {s s' : State} {n op eres fuel : Nat} {pr : PerKeyRec} {args : List Nat}
    {r : Option Nat} (B : LcBase env s n op pr eres) (hk : (s.nodeD n).kind = .map (fnPerKey + op) args)
    (h : (recomputeOne env fuel n).run.run s = (.ok r, s')) :
    ∃ m s2, args = [pr.result - 1] ∧ (s.nodeD (pr.result - 1)).value = some (.map m) ∧ IncrVerif.AMap.Sorted m ∧
      (perKeyDriver env fuel op m).run.run (started n s) = (.ok (), s2) ∧
      (maybeChangeValue env fuel n .unit).run.run s2 = (.ok r, s') := by
  have D := B.pd
  have F := D.aux.frag
  obtain ⟨x, e, er, hN, -⟩ := (D.aux.pk.ops op pr B.hop).nodes
  have hnr : n = pr.result + 1 := by rw [← B.hn]; exact hN.lc
  have hlt : n < s.nodes.size := by have := hN.lt; omega
  have hargs : args = [pr.result - 1] := by
    have h1 := hN.lcKind
    rw [← hnr, hk] at h1
    injection h1 with _ h2
  have hnd := some_of_lt hlt
  have hval := F.valid n hlt
  obtain ⟨vals, hvals⟩ := recomputeOne_ok_vals hnd hval (Or.inl ⟨_, hk⟩) h
  rw [recomputeOne_perKey_run env fuel n s _ _ args vals hnd hval hk (Nat.le_add_right _ _) hvals,
    Nat.add_sub_cancel_left] at h
  -- the value of the conversion node
  have hconvk : ∀ p i, (s.nodeD (pr.result - 1)).kind ≠ .mapRef p i := by
    intro p i hh; rw [hN.conv] at hh; cases hh
  rw [hargs] at hvals
  simp only [valuesOf] at hvals
  cases hv1 : s.value env (pr.result - 1) with
  | none => rw [hv1] at hvals; cases hvals
  | some v =>
    rw [hv1] at hvals
    simp only [Option.some.injEq] at hvals
    rw [value_plain env s _ hconvk] at hv1
    obtain ⟨m, hm, hsorted⟩ := D.aux.pk.maps op pr B.hop v hv1
    subst hm
    subst hvals
    simp only [List.headD_cons] at h
    obtain ⟨u, s2, h1, h2⟩ := bind_ok_inv h
    exact ⟨m, s2, hargs, hv1, hsorted, h1, h2⟩

end IncrVerif.Proofs.PerKeyH
