import IncrVerif.Proofs.Footprint
/-!
# Helper lemmas for C02.1 in full generality: nothing the engine does within a step lowers a
`recomputedAt` stamp of the current round

`Stamp s s'` (same round number, no node removed, every node stamped `recomputedAt = current round` is
still so stamped, `counters.recomputed` unchanged) is preserved by EVERY function reachable from
`recomputeOne` — node creation by bind bodies, re-linking, height adjustment, invalidation cascades,
the expert API and arbitrary side effects of user closures included — in the `Pres` style of
`Proofs/Step.lean`.  The only place where `recomputedAt` is written with something other than its old
value (`invalidate_node`, `recompute_one`) writes the current round number (`PresS.get_modNode`).
-/
open IncrVerif.Engine IncrVerif.Proofs IncrVerif.Proofs.Step IncrVerif.Proofs.Footprint
namespace IncrVerif.Proofs.Step

/-! ## the stamp of the current round is never lowered — by anything the engine does in a step -/

/-- `s'` comes after `s` within one round: same round number, no node removed, every node stamped
`recomputedAt = current round` is still so stamped, `counters.recomputed` unchanged -/
structure Stamp (s s' : State) : Prop where
  stabNum : s'.stabNum = s.stabNum
  size : s.nodes.size ≤ s'.nodes.size
  keep : ∀ m, m < s.nodes.size → (s.nodeD m).recomputedAt = s.stabNum →
    (s'.nodeD m).recomputedAt = s.stabNum
  recomputed : s'.counters.recomputed = s.counters.recomputed

theorem Stamp.refl (s : State) : Stamp s s := ⟨rfl, Nat.le_refl _, fun _ _ h => h, rfl⟩

theorem Stamp.trans {a b c : State} (h1 : Stamp a b) (h2 : Stamp b c) : Stamp a c where
  stabNum := h2.stabNum.trans h1.stabNum
  size := Nat.le_trans h1.size h2.size
  keep m hm h := by
    have := h2.keep m (Nat.lt_of_lt_of_le hm h1.size) (by rw [h1.stabNum]; exact h1.keep m hm h)
    rw [h1.stabNum] at this; exact this
  recomputed := h2.recomputed.trans h1.recomputed

instance : PreOrd Stamp := ⟨Stamp.refl, Stamp.trans⟩

theorem Stamp.of_eq {s s' : State} (h1 : s'.nodes = s.nodes) (h2 : s'.stabNum = s.stabNum)
    (h3 : s'.counters.recomputed = s.counters.recomputed) : Stamp s s' := by
  refine ⟨h2, by rw [h1]; exact Nat.le_refl _, fun m _ h => ?_, h3⟩
  have : s'.nodeD m = s.nodeD m := by simp [State.nodeD, h1]
  rw [this]; exact h

theorem Stamp.modNode (s : State) (n : Nat) (f : Node → Node)
    (hf : ∀ x, (f x).recomputedAt = x.recomputedAt) :
    Stamp s { s with nodes := s.nodes.modify n f } := by
  refine ⟨rfl, by simp, fun m _ h => ?_, rfl⟩
  rw [nodeD_modify]
  split
  · rw [hf]; exact h
  · exact h

theorem Stamp.push (s : State) (nd : Node) : Stamp s { s with nodes := s.nodes.push nd } := by
  refine ⟨rfl, by simp, fun m hm h => ?_, rfl⟩
  have : ({ s with nodes := s.nodes.push nd } : State).nodeD m = s.nodeD m := by
    simp [State.nodeD, Array.getElem?_push, Nat.ne_of_lt hm]
  rw [this]; exact h

/-- a node is stamped again, with its old stamp or with the current round -/
theorem Stamp.restamp (s : State) (n : Nat) (f : Node → Node)
    (hf : ∀ x, (f x).recomputedAt = x.recomputedAt ∨ (f x).recomputedAt = s.stabNum) :
    Stamp s { s with nodes := s.nodes.modify n f } := by
  refine ⟨rfl, by simp, fun m _ hm => ?_, rfl⟩
  rw [nodeD_modify]
  split
  · rcases hf (s.nodeD m) with e | e
    · rw [e]; exact hm
    · exact e
  · exact hm

/-- every write keeps `Stamp` but the count of recomputations and the step to the next round: `recomputedAt` is written only by `stamp` and
`erase`, with the current round -/
theorem Stamp.of_edit {L w} (h1 : Tag.cRecomputed ∉ L) (h2 : Tag.nextRound ∉ L) {s s' : State} (e : Edit L w s s') : Stamp s s' := by
  cases e
  case stamp n _ | erase n _ => exact Stamp.restamp s n _ fun _ => Or.inr rfl
  case node n f hf | value n _ f hf => exact Stamp.modNode s n f fun _ => by cases hf <;> rfl
  case pushNode => exact Stamp.push s _
  case counters c hc => exact Stamp.of_eq rfl rfl (by cases hc <;> first | rfl | exact absurd ‹_› h1)
  case nextRound ht => exact absurd ht h2
  all_goals exact Stamp.of_eq rfl rfl rfl

theorem PresS.modNode (n : Nat) (f : Node → Node) (hf : ∀ x, (f x).recomputedAt = x.recomputedAt) :
    Pres Stamp (modNode n f) := by
  unfold Engine.modNode; exact Pres.modify fun s => Stamp.modNode s n f hf

macro_rules
  | `(tactic| qleaf) =>
    `(tactic| ((with_reducible apply Pres.modify); intro _; exact Stamp.of_eq rfl rfl rfl))
macro_rules
  | `(tactic| qleaf) => `(tactic| ((with_reducible apply PresS.modNode); intro _; rfl))

/-- register a `Pres` lemma as a leaf of `qpres` -/
macro "stamp_leaf " n:ident : command =>
  `(macro_rules | `(tactic| qleaf) => `(tactic| with_reducible apply $n))

macro_rules | `(tactic| qleaf) => `(tactic| apply Pres.forIn)

section readers
variable {R : State → State → Prop} [PreOrd R]
theorem PresS.getObs (n) : Pres R (getObs n) := Pres.getObs n
theorem PresS.expertOf (n) : Pres R (expertOf n) := by unfold Engine.expertOf; qpres
theorem PresS.resolveOpnd (l o) : Pres R (resolveOpnd l o) := by unfold Engine.resolveOpnd; qpres
theorem PresS.discard {α} {x : M α} (hx : Pres R x) : Pres R (discard x) := Pres.discard hx
theorem PresS.expertIdxRaw (n) : Pres R (expertIdxRaw n) := by unfold Engine.expertIdxRaw; qpres
end readers
stamp_leaf PresS.getObs
stamp_leaf PresS.expertOf
stamp_leaf PresS.resolveOpnd
macro_rules | `(tactic| qleaf) => `(tactic| with_reducible apply PresS.discard)
stamp_leaf PresS.expertIdxRaw

theorem PresS.logEv (e) : Pres Stamp (logEv e) := Pres.modify fun _ => Stamp.of_eq rfl rfl rfl
stamp_leaf PresS.logEv
theorem PresS.modBind (b f) : Pres Stamp (modBind b f) := Pres.modify fun _ => Stamp.of_eq rfl rfl rfl
stamp_leaf PresS.modBind
theorem PresS.tick : Pres Stamp tick := Foot.tick.frame (Stamp.of_edit (by decide) (by decide))
stamp_leaf PresS.tick
theorem PresS.rchMinHeight : Pres Stamp rchMinHeight := Foot.rchMinHeight.frame (Stamp.of_edit (by decide) (by decide))
theorem PresS.setHeight (n h) : Pres Stamp (setHeight n h) := (Foot.setHeight n h).frame (Stamp.of_edit (by decide) (by decide))
theorem PresS.ensureHeightRequirement (a b c d) : Pres Stamp (ensureHeightRequirement a b c d) :=
  (Foot.ensureHeightRequirement a b c d).frame (Stamp.of_edit (by decide) (by decide))
theorem PresS.adjustHeights (oc op fuel) : Pres Stamp (adjustHeights oc op fuel) :=
  (Foot.adjustHeights oc op fuel).frame (Stamp.of_edit (by decide) (by decide))
theorem PresS.addParent (a b c) : Pres Stamp (addParent a b c) := (Foot.addParent a b c).frame (Stamp.of_edit (by decide) (by decide))
theorem PresS.removeParent (a b c) : Pres Stamp (removeParent a b c) := (Foot.removeParent a b c).frame (Stamp.of_edit (by decide) (by decide))
theorem PresS.handleAfterStabilisation (n) : Pres Stamp (handleAfterStabilisation n) :=
  (Foot.handleAfterStabilisation n).frame (Stamp.of_edit (by decide) (by decide))
theorem PresS.shouldCutoff (env n o v) : Pres Stamp (shouldCutoff env n o v) :=
  (Foot.shouldCutoff env n o v).frame (Stamp.of_edit (by decide) (by decide))
theorem PresS.markMapRefUnknown (fuel n) : Pres Stamp (markMapRefUnknown fuel n) :=
  (Foot.markMapRefUnknown fuel n).frame (Stamp.of_edit (by decide) (by decide))
theorem PresS.necessary (env : Env) (fuel : Nat) :
    (∀ n, Pres Stamp (becameNecessary env fuel n)) ∧
    (∀ c i p, Pres Stamp (addParentWithoutAdjustingHeights env fuel c i p)) :=
  ⟨fun n => (Foot.becameNecessary env fuel n).frame (Stamp.of_edit (by decide) (by decide)),
   fun c i p => (Foot.addParentWithoutAdjustingHeights env fuel c i p).frame (Stamp.of_edit (by decide) (by decide))⟩
theorem PresS.becameNecessary (env fuel n) : Pres Stamp (becameNecessary env fuel n) :=
  (PresS.necessary env fuel).1 n
theorem PresS.addParentWithoutAdjustingHeights (env fuel c i p) :
    Pres Stamp (addParentWithoutAdjustingHeights env fuel c i p) := (PresS.necessary env fuel).2 c i p
theorem PresS.unnecessary (fuel : Nat) :
    (∀ n, Pres Stamp (becameUnnecessary fuel n)) ∧ (∀ n, Pres Stamp (checkIfUnnecessary fuel n)) ∧
    (∀ n, Pres Stamp (removeChildren fuel n)) :=
  ⟨fun n => (Foot.becameUnnecessary fuel n).frame (Stamp.of_edit (by decide) (by decide)),
   fun n => (Foot.checkIfUnnecessary fuel n).frame (Stamp.of_edit (by decide) (by decide)),
   fun n => (Foot.removeChildren fuel n).frame (Stamp.of_edit (by decide) (by decide))⟩
theorem PresS.becameUnnecessary (fuel n) : Pres Stamp (becameUnnecessary fuel n) :=
  (PresS.unnecessary fuel).1 n
theorem PresS.checkIfUnnecessary (fuel n) : Pres Stamp (checkIfUnnecessary fuel n) :=
  (PresS.unnecessary fuel).2.1 n
theorem PresS.removeChildren (fuel n) : Pres Stamp (removeChildren fuel n) :=
  (PresS.unnecessary fuel).2.2 n
theorem PresS.invalidateNode (fuel n) : Pres Stamp (invalidateNode fuel n) :=
  (Foot.invalidateNode fuel n).frame (Stamp.of_edit (by decide) (by decide))
stamp_leaf PresS.invalidateNode
theorem PresS.propagateInvalidity (fuel) : Pres Stamp (propagateInvalidity fuel) :=
  (Foot.propagateInvalidity fuel).frame (Stamp.of_edit (by decide) (by decide))
stamp_leaf PresS.propagateInvalidity
theorem PresS.changeChildBindRhs (env fuel m o nw i) : Pres Stamp (changeChildBindRhs env fuel m o nw i) :=
  (Foot.changeChildBindRhs env fuel m o nw i).frame (Stamp.of_edit (by decide) (by decide))
stamp_leaf PresS.changeChildBindRhs
theorem PresS.assertRunningIsChild (n name) : Pres Stamp (assertRunningIsChild n name) :=
  (Foot.assertRunningIsChild n name).frame (Stamp.of_edit (by decide) (by decide))
theorem PresS.expertAddDependency (env fuel n c cb) : Pres Stamp (expertAddDependency env fuel n c cb) :=
  (Foot.expertAddDependency env fuel n c cb).frame (Stamp.of_edit (by decide) (by decide))
stamp_leaf PresS.expertAddDependency
theorem PresS.elabInstr (loc v i) : Pres Stamp (elabInstr loc v i) := (Foot.elabInstr loc v i).frame (Stamp.of_edit (by decide) (by decide))
theorem PresS.elabTemplateBase (t v init) : Pres Stamp (elabTemplateBase t v init) :=
  (Foot.elabTemplateBase t v init).frame (Stamp.of_edit (by decide) (by decide))
stamp_leaf PresS.elabTemplateBase
theorem PresS.didSetVarWhileNotStabilising (v) : Pres Stamp (didSetVarWhileNotStabilising v) :=
  (Foot.didSetVarWhileNotStabilising v).frame (Stamp.of_edit (by decide) (by decide))
theorem PresS.writeVar (v f b) : Pres Stamp (writeVar v f b) := (Foot.writeVar v f b).frame (Stamp.of_edit (by decide) (by decide))
theorem PresS.parentIterCanRecomputeNow (p c) : Pres Stamp (parentIterCanRecomputeNow p c) :=
  (Foot.parentIterCanRecomputeNow p c).frame (Stamp.of_edit (by decide) (by decide))
theorem PresS.maybeChangeValue (env fuel n v) : Pres Stamp (maybeChangeValue env fuel n v) :=
  (Foot.maybeChangeValue env fuel n v).lift (Stamp.of_edit (by decide) (by decide))
stamp_leaf PresS.maybeChangeValue

/-- for EVERY kind of node and EVERY outcome (return or panic) of `recompute_one n` on an existing
node: in the final state `recomputedAt n` is the current round, the round number is unchanged, the
`recomputed` counter went up by exactly one -/
theorem recomputeOne_stamp (env : Env) (fuel n : Nat) (s s' : State) (nd : Node)
    (r : Except Panic (Option Nat)) (hn : s.nodes[n]? = some nd)
    (h : (recomputeOne env fuel n).run.run s = (r, s')) :
    (s'.nodeD n).recomputedAt = s.stabNum ∧ s'.stabNum = s.stabNum ∧
      s'.counters.recomputed = s.counters.recomputed + 1 ∧ s.nodes.size ≤ s'.nodes.size := by
  have key : Stamp (started n s) s' :=
    (Foot.recomputeOne_started env fuel n h).all.edits.lift (Stamp.of_edit (by decide) (by decide))
  have hlt := lt_of_some hn
  have h1 : ((started n s).nodeD n).recomputedAt = (started n s).stabNum := by
    rw [started_nodeD, if_pos ⟨rfl, hlt⟩]; rfl
  have hsz : (started n s).nodes.size = s.nodes.size := by simp [started]
  refine ⟨key.keep n (by rw [hsz]; exact hlt) h1, key.stabNum, ?_, by rw [← hsz]; exact key.size⟩
  rw [key.recomputed]; rfl


end IncrVerif.Proofs.Step
