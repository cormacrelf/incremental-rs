import IncrVerif.Proofs.PerKeyH23
import IncrVerif.Proofs.PerKeyH69
/-!
# The callback discipline `SlotInv` in the per-key fragment, part 2: one `recomputeOne` that is not a change detector

* `step_slots`: **B.**
-/
namespace IncrVerif.Proofs.PerKeyH
open IncrVerif.Engine IncrVerif.Driver IncrVerif.Proofs IncrVerif.Proofs.Step IncrVerif.Proofs.Sched
open IncrVerif.Proofs.ExpertH IncrVerif.Proofs.EffH IncrVerif.Proofs.Xp

/-! ## the fragment of the intermediate states -/

/-- the fragment in the state in which a node that is not an expert node hands over its value -/
theorem PFrag.started_logged {env : Env} {s : State} (F : PFrag env s) (es : List Event) (n : Nat) :
    PFrag env (logged es (started n s)) := by
  have hnd : ∀ m, (logged es (started n s)).nodeD m = (started n s).nodeD m := fun _ => rfl
  exact F.of_xg (XG.of_xf (xf_started_logged es n s)) F.pc
    (fun m => by rw [hnd, started_nodeD]; split <;> exact F.validD m) (fun e er he => (F.xok e er he).2.1)
    (fun m => by rw [hnd, started_nodeD]; split <;> exact ⟨rfl, rfl, rfl⟩) rfl

theorem xkind_of_pkind {env : Env} {k : Kind} (h : PKind env k)
    (hlc : ∀ op args, k ≠ .map (fnPerKey + op) args) : XKind env k := by
  cases k <;> simp only [PKind] at h <;> try (first | exact h.elim | trivial)
  · rename_i f args
    have hf : f < fnPerKey := by
      by_cases hf : f < fnPerKey
      · exact hf
      · exact absurd (by rw [Nat.add_sub_cancel' (Nat.le_of_not_lt hf)]) (hlc (f - fnPerKey) args)
    refine ⟨hf, fun hz vals => ?_⟩
    rcases h with ⟨-, h⟩ | h | h | h
    · exact h vals
    · rw [h] at hz; exact absurd hz (Nat.lt_irrefl _)
    · rw [h] at hz; exact absurd hz (by decide)
    · omega

/-! ## B. one `recomputeOne` of a node that is not a per-key change detector -/

/-- **B.** a run of a static node or of an expert node (per-key input node, operator result) keeps the callback
discipline -/
theorem step_slots {env : Env} {fuel n : Nat} {s s' : State} {r : Option Nat} (D : PD env s (some n))
    (hlc : ∀ op args, (s.nodeD n).kind ≠ .map (fnPerKey + op) args)
    (h : (recomputeOne env fuel n).run.run s = (.ok r, s')) : SlotInv env s' := by
  have F := D.aux.frag
  have hp := D.aux.pinv
  have hnec : s.isNecessary n = true := by rw [← V_isNecessary]; exact (D.inv.cur n rfl).1
  have hlt : n < s.nodes.size := Step.nec_lt_size hnec
  have hsz : (started n s).nodes.size = s.nodes.size := by simp [started]
  by_cases hk : ∀ e, (s.nodeD n).kind ≠ .expert e
  · -- B1: a static node
    have hxk : XKind env (s.nodeD n).kind := xkind_of_pkind (F.kind n hlt) hlc
    obtain ⟨v, es, hrun⟩ := recomputeOne_as_mcv_x (fr_of_pfrag F hp) hlt hxk hk h
    rw [hrun] at h
    have FT : PFrag env (logged es (started n s)) := F.started_logged es n
    have frT : Fr (logged es (started n s)) := fr_of_pfrag FT hp
    obtain ⟨⟨l', htw⟩, -⟩ := TSim.maybeChangeValue env fuel n v _ frT [] r s' h
    have P : Pre (twEnv env) n (twL [] (logged es (started n s))) :=
      pre_of_pd [] D FT (fun _ => rfl) hsz rfl rfl (fun _ _ => rfl) (fun e he => absurd he (hk e))
    exact (slotInv_twin env l' s').2 (mcv_slots P htw)
  · -- B2: an expert node
    have : ∃ e, (s.nodeD n).kind = .expert e := by
      cases hkd : (s.nodeD n).kind <;>
        first | exact ⟨_, rfl⟩ | (exfalso; apply hk; intro e; rw [hkd]; intro h; cases h)
    obtain ⟨e, hkk⟩ := this
    obtain ⟨er, he, hnode⟩ := F.xrec n e hlt hkk
    obtain ⟨hpk, hni, -⟩ := F.xok e er he
    have hx : IsExpert s n (s.nodeD n) e er := ⟨some_of_lt hlt, F.valid n hlt, hkk, he⟩
    have hpk' : er.pk.isNone = false := by
      cases hq : er.pk with
      | none => rw [hq] at hpk; cases hpk
      | some _ => rfl
    obtain ⟨v, -, hrun⟩ := recomputeOne_pk_run env fuel n hx hpk' (by omega) h
    have hget : (readyP env n e s er).experts[e]? = some (readyRec env s er) := readyP_get env n he
    have FT : PFrag env (readyP env n e s er) := F.readyP hp he
    have frT : Fr (readyP env n e s er) := fr_of_pfrag FT hp
    obtain ⟨⟨l', htw⟩, -⟩ := TSim.maybeChangeValue env fuel n v _ frT [] r s' hrun
    have P : Pre (twEnv env) n (twL [] (readyP env n e s er)) :=
      pre_of_pd [] D FT (fun _ => rfl) hsz rfl rfl
        (fun e' he' => readyP_get_ne env n e s er (fun h => he' (h ▸ hkk)))
        (fun e' he' => by
          rw [hkk] at he'; cases he'
          exact ⟨er, he, hget⟩)
    exact (slotInv_twin env l' s').2 (mcv_slots P htw)

end IncrVerif.Proofs.PerKeyH
