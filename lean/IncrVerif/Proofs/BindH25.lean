import IncrVerif.Proofs.BindH24
/-!
# Binds, unlinking side, part 3: the unlinking cascade keeps `GInvB`

The counterpart of `Proofs/Quiet8.lean` (`BUSpec`/`CUSpec`/`RCSpec`, `unlink_spec`) for graphs with
bind nodes, with the few lemmas of `Quiet1`/`Quiet4` it needs (`GInv.congr`, `GInv.setHeight_open`).
`PresF.unlink`, `URel`, `Above`, `Irrel`, `setHeight_ok_upd`, `removeParent_ok_inv` are generic and reused.
-/
namespace IncrVerif.Proofs.BindH
open IncrVerif.Engine IncrVerif.Proofs IncrVerif.Proofs.Step IncrVerif.Proofs.Sched IncrVerif.Proofs.Quiet

namespace BU

theorem cframe_binds {s s' : State} (h : CFrame s s') : s'.binds = s.binds := by
  have := h.key
  simp only [stateKey, Prod.mk.injEq] at this
  exact this.2.2.2.2.2.2.2.2.2.2.2.2.2.2.2.2.1

theorem children_eq_of {env : Env} {s t : State} {n : Nat} (hB : BKind env (s.nodeD n).kind)
    (hn : t.nodeD n = s.nodeD n) (hb : t.binds = s.binds) : t.children n = s.children n :=
  children_congr_B (by rw [hn]) (by rw [hn]) hb hB

/-! ## frames that may change heights -/

section
variable {env : Env} {s s' : State}

theorem children_of (A : AllB env s) (hsz : s'.nodes.size = s.nodes.size)
    (hk : ∀ m, (s'.nodeD m).kind = (s.nodeD m).kind) (hv : ∀ m, (s'.nodeD m).valid = (s.nodeD m).valid)
    (hb : s'.binds = s.binds) (m : Nat) : s'.children m = s.children m := by
  by_cases hm : m < s.nodes.size
  · exact children_congr_B (hk m) (hv m) hb (A.node m hm).kind
  · rw [children_default s m (by omega), children_default s' m (by rw [hsz]; omega)]

theorem isStale_of (A : AllB env s) (hsz : s'.nodes.size = s.nodes.size)
    (hk : ∀ m, (s'.nodeD m).kind = (s.nodeD m).kind) (hv : ∀ m, (s'.nodeD m).valid = (s.nodeD m).valid)
    (hr : ∀ m, (s'.nodeD m).recomputedAt = (s.nodeD m).recomputedAt)
    (hc : ∀ m, (s'.nodeD m).changedAt = (s.nodeD m).changedAt) (hvars : s'.vars = s.vars)
    (hb : s'.binds = s.binds) (m : Nat) : s'.isStale m = s.isStale m := by
  by_cases hm : m < s.nodes.size
  · exact isStale_congr_B (A.node m hm).kind (hk m) (hv m) (hr m) hvars hb (fun c _ => hc c)
  · have h1 := nodeD_default s m (by omega)
    have h2 := nodeD_default s' m (by rw [hsz]; omega)
    have hkd : (default : Node).kind? = some (Kind.const default) := rfl
    simp only [State.isStale, h1, h2, hkd]

theorem allB_of (A : AllB env s) (hpc : s'.panicCountdown = s.panicCountdown)
    (hsc : s'.currentScope = s.currentScope) (hsz : s'.nodes.size = s.nodes.size)
    (hk : ∀ m, (s'.nodeD m).kind = (s.nodeD m).kind) (hv : ∀ m, (s'.nodeD m).valid = (s.nodeD m).valid)
    (hcu : ∀ m, (s'.nodeD m).cutoff = (s.nodeD m).cutoff)
    (hci : ∀ m, (s'.nodeD m).createdIn = (s.nodeD m).createdIn)
    (hb : s'.binds = s.binds) : AllB env s' := by
  have hch := children_of A hsz hk hv hb
  refine ⟨by rw [hpc]; exact A.pc, by rw [hsc]; exact A.scope, fun n hn => ?_⟩
  have sn := A.node n (by rw [← hsz]; exact hn)
  refine ⟨by rw [hv]; exact sn.valid, by rw [hk]; exact sn.kind, by rw [hcu]; exact sn.cutoff,
    by rw [hci]; exact sn.top, ?_, ?_, ?_, ?_⟩
  · rw [hch]; exact sn.kidsLt
  · rw [hk, hb]; exact sn.lcRec
  · rw [hk, hb]; exact sn.mainRec
  · intro c b hc hkc
    rw [hch] at hc
    rw [hk] at hkc ⊢
    exact sn.lcChild c b hc hkc

end

section
variable {env : Env} {s s' : State} {op : Nat → Op} {ex : Nat → Prop}

/-- the invariant only reads the fields of `SameG`, and the bind table -/
theorem congr (I : GInvB env s op ex) (h : SameB s s') : GInvB env s' op ex := by
  have hb := h.binds
  have h := h.g
  have hch : ∀ m, s'.children m = s.children m :=
    children_of I.frag h.size (fun m => (h.node m).kind) (fun m => (h.node m).valid) hb
  have hst : ∀ m, s'.isStale m = s.isStale m :=
    isStale_of I.frag h.size (fun m => (h.node m).kind) (fun m => (h.node m).valid)
      (fun m => (h.node m).recomputedAt) (fun m => (h.node m).changedAt) h.vars hb
  refine { frag := allB_of I.frag h.pc h.scope h.size (fun m => (h.node m).kind) (fun m => (h.node m).valid)
             (fun m => (h.node m).cutoff) (fun m => (h.node m).createdIn) hb,
           par := ?_, conv := ?_, nodup := ?_, hlt := ?_, hpos := ?_, lnec := ?_, unec := ?_,
           heap := I.heap.congr h.rch h.size (fun m => (h.node m).heightInRch), hgt := ?_, qnec := ?_,
           queued := ?_, qstale := ?_, opLt := ?_ }
  · intro c p i hm
    rw [(h.node c).parents] at hm
    rw [hch, h.wants]
    exact I.par c p i hm
  · intro p i c hk hw
    rw [hch] at hk
    rw [h.wants] at hw
    rw [(h.node c).parents]
    exact I.conv p i c hk hw
  · intro c; rw [(h.node c).parents]; exact I.nodup c
  · intro c p i hm ho
    rw [(h.node c).parents] at hm
    rw [(h.node c).height, (h.node p).height]
    exact I.hlt c p i hm ho
  · intro n hn ho
    rw [h.nec] at hn
    rw [(h.node n).height]; exact I.hpos n hn ho
  · intro p k ho; rw [h.nec]; exact I.lnec p k ho
  · intro p k ho; rw [h.nec]; exact I.unec p k ho
  · intro m hq ho
    rw [h.inRch] at hq
    rw [(h.node m).heightInRch, (h.node m).height]; exact I.hgt m hq ho
  · intro m hq
    rw [h.inRch] at hq
    rw [h.nec]; exact I.qnec m hq
  · intro m ho hn hs hex
    rw [h.nec] at hn
    rw [hst] at hs
    rw [h.inRch]; exact I.queued m ho hn hs hex
  · intro m hq
    rw [h.inRch] at hq
    rw [hst]; exact I.qstale m hq
  · intro m ho; rw [h.size]; exact I.opLt m ho

/-- the height of an open node whose parents are all open is not constrained -/
theorem setHeight_open {n : Nat} {h : Int} (I : GInvB env s op ex) (U : NodeUpd n (fHeight h) s s')
    (hb : s'.binds = s.binds)
    (hop : op n ≠ .closed) (hpar : ∀ p i, (p, i) ∈ (s.nodeD n).parents → op p ≠ .closed) :
    GInvB env s' op ex := by
  have K := keeps_fHeight h
  have hpa : ∀ m, (s'.nodeD m).parents = (s.nodeD m).parents := fun m => by
    by_cases e : m = n
    · rw [e]; exact U.parents_self
    · exact U.parents_other e
  have hnec : ∀ m, s'.isNecessary m = s.isNecessary m := fun m => by
    by_cases e : m = n
    · rw [e]
      simp only [State.isNecessary, Node.isNecessary, U.self.parents, U.self.observers, U.self.forceNecessary]
      rfl
    · exact U.nec_other e
  have hw : ∀ q i, Wants s' op q i ↔ Wants s op q i := fun q i => by unfold Wants; rw [hnec]
  have hcn : ∀ m, op m = .closed → m ≠ n := fun m ho e => hop (e ▸ ho)
  have hch : ∀ m, s'.children m = s.children m := children_of I.frag U.size (U.kind K) (U.valid K) hb
  have hst : ∀ m, s'.isStale m = s.isStale m :=
    isStale_of I.frag U.size (U.kind K) (U.valid K) (U.recomputedAt K) (U.changedAt K) U.vars hb
  refine { frag := allB_of I.frag U.pc U.scope U.size (U.kind K) (U.valid K) (U.cutoff K) (U.createdIn K) hb,
           par := ?_, conv := ?_, nodup := ?_, hlt := ?_, hpos := ?_,
           lnec := ?_, unec := ?_, heap := U.heap K I.heap, hgt := ?_, qnec := ?_, queued := ?_,
           qstale := ?_, opLt := ?_ }
  · intro c q i hm
    rw [hpa] at hm
    rw [hch, hw]; exact I.par c q i hm
  · intro q i c hk hw'
    rw [hch] at hk
    rw [hw] at hw'
    rw [hpa]; exact I.conv q i c hk hw'
  · intro m; rw [hpa]; exact I.nodup m
  · intro c q i hm ho
    rw [hpa] at hm
    have h1 : c ≠ n := by intro e; rw [e] at hm; exact hpar q i hm ho
    rw [U.height_other h1, U.height_other (hcn q ho)]
    exact I.hlt c q i hm ho
  · intro m hn ho
    rw [hnec] at hn
    rw [U.height_other (hcn m ho)]; exact I.hpos m hn ho
  · intro q k ho
    rw [hnec]; exact I.lnec q k ho
  · intro q k ho
    rw [hnec]; exact I.unec q k ho
  · intro m hq ho
    rw [U.inRch K] at hq
    rw [U.heightInRch K, U.height_other (hcn m ho)]; exact I.hgt m hq ho
  · intro m hq
    rw [U.inRch K] at hq
    rw [hnec]; exact I.qnec m hq
  · intro m ho hn hs hex
    rw [hnec] at hn
    rw [hst] at hs
    rw [U.inRch K]; exact I.queued m ho hn hs hex
  · intro m hq
    rw [U.inRch K] at hq
    rw [hst]; exact I.qstale m hq
  · intro m ho
    rw [U.size]; exact I.opLt m ho

end

/-! ## the mutual induction -/

def BUSpec (fuel : Nat) : Prop :=
  ∀ env n s s' op ex, (becameUnnecessary fuel n).run.run s = (.ok (), s') → GInvB env s op ex →
    op n = .unlinking 0 → (∀ m, op m ≠ .closed → n ≤ m) →
    GInvB env s' (upd op n .closed) ex ∧ Above n s s' ∧ URel s s'

def CUSpec (fuel : Nat) : Prop :=
  ∀ env c s s' op ex, (checkIfUnnecessary fuel c).run.run s = (.ok (), s') → GInvB env s op ex →
    (∀ m, op m ≠ .closed → c ≤ m) →
    ((s.isNecessary c = true ∧ op c = .closed) ∨ (s.isNecessary c = false ∧ op c = .unlinking 0)) →
    GInvB env s' (upd op c .closed) ex ∧ Above c s s' ∧ URel s s'

def RCSpec (fuel : Nat) : Prop :=
  ∀ env n s s' op ex, (removeChildren fuel n).run.run s = (.ok (), s') → GInvB env s op ex →
    op n = .unlinking 0 → (∀ m, op m ≠ .closed → n ≤ m) →
    GInvB env s' (upd op n (.unlinking (s.children n).length)) ex ∧
      (∀ m, n ≤ m → s'.nodeD m = s.nodeD m) ∧ URel s s'

theorem cu_step (fuel : Nat) (ih : BUSpec fuel) : CUSpec (fuel + 1) := by
  intro env c s s' op ex h I hlow hcase
  unfold checkIfUnnecessary at h
  rw [run_bind_get] at h
  rcases hcase with ⟨hn, hcl⟩ | ⟨hn, hop⟩
  · rw [hn] at h
    simp only [Bool.not_true, Bool.false_eq_true, if_false] at h
    obtain ⟨-, rfl⟩ := pure_ok_inv h
    rw [upd_eq_self _ _ _ hcl]
    exact ⟨I, Above.refl _ _, URel.refl _⟩
  · rw [hn] at h
    simp only [Bool.not_false, if_true] at h
    exact ih env c s s' op ex h I hop hlow

theorem rc_step (fuel : Nat) (ih : CUSpec fuel) : RCSpec (fuel + 1) := by
  intro env n s s' op ex h I hop hlow
  have hn : n < s.nodes.size := I.opLt n (by rw [hop]; exact fun e => by cases e)
  have hBn : BKind env (s.nodeD n).kind := (I.node hn).kind
  unfold removeChildren at h
  rw [run_bind_get] at h
  obtain ⟨b, s3, h3, h⟩ := bind_ok_inv h
  obtain ⟨-, e3⟩ := pure_ok_inv h
  rw [e3]
  have hloop := forIn_ok_inv _ (s.children n)
    (fun j (b : Nat) t => b = j ∧ GInvB env t (upd op n (.unlinking j)) ex ∧
      (∀ m, n ≤ m → t.nodeD m = s.nodeD m) ∧ URel s t)
    (by
      intro j c b t r t' hj ⟨hb, It, hsame, hrel⟩ hbody
      obtain ⟨_, t1, ha, hbody⟩ := bind_ok_inv hbody
      obtain ⟨_, t2, hc, hbody⟩ := bind_ok_inv hbody
      obtain ⟨hr, ht'⟩ := pure_ok_inv hbody
      rw [ht']
      refine ⟨_, hr, ?_⟩
      have hkj : (t.children n)[j]? = some c := by
        rw [children_eq_of hBn (hsame n (Nat.le_refl _)) (cframe_binds hrel.fr)]; exact hj
      have hcn : c < n := It.kid_lt hkj
      have hct : c < t.nodes.size := by rw [hrel.fr.size]; omega
      have hclc : upd op n (.unlinking j) c = .closed := by
        rw [upd_other _ _ _ (by omega)]
        cases e : op c with
        | closed => rfl
        | linking k => have := hlow c (by rw [e]; exact fun e => by cases e); omega
        | unlinking k => have := hlow c (by rw [e]; exact fun e => by cases e); omega
      obtain ⟨nd, pi, hnd, hidx, e1⟩ := removeParent_ok_inv ha
      rw [hb] at hidx
      have hndD : t.nodeD c = nd := nodeD_of_some hnd
      rw [← hndD] at hidx
      have U : NodeUpd c (fParents (swapRemove (t.nodeD c).parents pi)) t t1 := by
        rw [e1]; exact NodeUpd.modify' hct rfl
      have hb1 : t1.binds = t.binds := by rw [e1]
      obtain ⟨Hnec, Hun⟩ := It.removeEdge hidx U hb1 (upd_self _ _ _) hkj hclc
      have hab1 : ∀ m, c < m → t1.nodeD m = t.nodeD m := by
        rw [e1]; exact Above.modify c _ t c (Nat.le_refl _)
      have hu1 : URel t t1 := by
        refine ⟨?_, ?_, ?_⟩
        · rw [e1]; exact CFrame.modNode t c _ (fun _ => rfl)
        · rw [e1]
        · intro m x hx
          by_cases e : m = c
          · rw [e] at hx ⊢
            rw [U.self.parents] at hx
            exact ((swapRemove_spec _ _ _ (It.nodup c) hidx).1 x).1 hx |>.1
          · rw [(U.other m e).parents] at hx; exact hx
      have hlow' : ∀ (o : Nat → Op), (∀ m, m ≠ c → m ≠ n → o m = op m) → o n ≠ .closed →
          ∀ m, o m ≠ .closed → c ≤ m := by
        intro o ho _ m hm
        by_cases e1 : m = c
        · omega
        · by_cases e2 : m = n
          · omega
          · rw [ho m e1 e2] at hm; have := hlow m hm; omega
      rw [upd_upd] at Hnec Hun
      have hopc : op c = .closed := by rw [upd_other _ _ _ (by omega)] at hclc; exact hclc
      cases hnc : t1.isNecessary c with
      | true =>
        have I1 := Hnec hnc
        obtain ⟨I2, hab2, hu2⟩ := ih env c t1 t2 _ ex hc I1
          (hlow' _ (fun m _ e2 => upd_other _ _ _ e2) (by rw [upd_self]; exact fun e => by cases e))
          (Or.inl ⟨hnc, by rw [upd_other _ _ _ (by omega)]; exact hopc⟩)
        rw [upd_eq_self _ c .closed (by rw [upd_other _ _ _ (by omega)]; exact hopc)] at I2
        exact ⟨by rw [hb], I2, fun m hm => ((hab2 m (by omega)).trans (hab1 m (by omega))).trans (hsame m hm),
          (hrel.trans hu1).trans hu2⟩
      | false =>
        have I1 := Hun hnc
        obtain ⟨I2, hab2, hu2⟩ := ih env c t1 t2 _ ex hc I1
          (hlow' _ (fun m e1 e2 => by rw [upd_other _ _ _ e1, upd_other _ _ _ e2])
            (by rw [upd_other _ _ _ (by omega), upd_self]; exact fun e => by cases e))
          (Or.inr ⟨hnc, upd_self _ _ _⟩)
        rw [upd_upd, upd_eq_self _ c .closed (by rw [upd_other _ _ _ (by omega)]; exact hopc)] at I2
        exact ⟨by rw [hb], I2, fun m hm => ((hab2 m (by omega)).trans (hab1 m (by omega))).trans (hsame m hm),
          (hrel.trans hu1).trans hu2⟩)
    (s.children n) 0 0 s b s3 (by simp) (Nat.zero_le _)
    ⟨rfl, by rw [upd_eq_self _ _ _ hop]; exact I, fun _ _ => rfl, URel.refl _⟩ h3
  obtain ⟨-, I3, hsame3, hrel3⟩ := hloop
  exact ⟨I3, hsame3, hrel3⟩

theorem bu_step (fuel : Nat) (ih : RCSpec fuel) : BUSpec (fuel + 1) := by
  intro env n s s' op ex h I hop hlow
  have hn : n < s.nodes.size := I.opLt n (by rw [hop]; exact fun e => by cases e)
  unfold becameUnnecessary at h
  obtain ⟨s0, hs0, h⟩ := bind_modify_inv h
  obtain ⟨_, s1, h1, h⟩ := bind_ok_inv h
  obtain ⟨_, s2, h2, h⟩ := bind_ok_inv h
  obtain ⟨_, s3, h3, h⟩ := bind_ok_inv h
  obtain ⟨nd3, hnd3, h⟩ := bind_getNode_inv h
  have R0 : Irrel n s s0 := by rw [hs0]; exact Irrel.of_nodes rfl rfl rfl rfl rfl
  have R1 : Irrel n s s1 := R0.trans (Irrel.mhas h1)
  have I1 : GInvB env s1 op ex := congr I ⟨R1.same, cframe_binds (R1.rel (fun _ => False)).fr⟩
  have hn1 : n < s1.nodes.size := by rw [R1.same.size]; exact hn
  have hnopar : (s1.nodeD n).parents = [] := parents_nil_of_not_nec (I1.unec n 0 hop)
  obtain ⟨U2, hab2, hl2, hh2, hoth2⟩ := setHeight_ok_upd hn1 h2
  have hopn : op n ≠ .closed := by rw [hop]; exact fun e => by cases e
  have I2 : GInvB env s2 op ex :=
    setHeight_open I1 U2 (cframe_binds hl2.fr) hopn (by intro p i hp; rw [hnopar] at hp; cases hp)
  have hu2 : URel s1 s2 := ⟨hl2.fr, hl2.pinv, fun m x hx => by
    by_cases e : m = n
    · rw [e, U2.self.parents] at hx; rw [e]; exact hx
    · rw [(U2.other m e).parents] at hx; exact hx⟩
  obtain ⟨I3, hsame3, hu3⟩ := ih env n s2 s3 op ex h3 I2 hop hlow
  have hn2 : n < s2.nodes.size := by rw [U2.size]; exact hn1
  have hn3 : n < s3.nodes.size := by rw [hu3.fr.size]; exact hn2
  have hnd3D : s3.nodeD n = nd3 := nodeD_of_some hnd3
  have hch3 : s3.children n = s2.children n :=
    children_eq_of (I2.node hn2).kind (hsame3 n (Nat.le_refl _)) (cframe_binds hu3.fr)
  rw [← hch3] at I3
  -- the node is not an expert node
  have hq : nd3.kind? = some (s3.nodeD n).kind := by
    rw [← hnd3D, Node.kind?, (I3.node hn3).valid]; rfl
  have hA : Above n s s3 := (R1.above.trans hab2).trans (fun m hm => hsame3 m (by omega))
  have hU : URel s s3 := (R1.urel.trans hu2).trans hu3
  have fin : ∀ t', (do
        let s ← get
        dassert (!s.needsToBeComputed n) "node:became_unnecessary:not-needs-to-be-computed"
        if (s.nodeD n).inRch = true then rchRemove n else pure ()).run.run s3 = (.ok (), t') →
      GInvB env t' (upd op n .closed) ex ∧ Above n s t' ∧ URel s t' := by
    intro t' ht
    rw [run_bind_get] at ht
    replace ht := bind_dassert_inv ht
    cases hin : (s3.nodeD n).inRch with
    | false =>
      rw [hin] at ht
      simp only [Bool.false_eq_true, if_false] at ht
      obtain ⟨-, e⟩ := pure_ok_inv ht
      rw [e]
      have I4 := I3.close_unlink (upd_self _ _ _) (Nat.le_refl _) hin
      rw [upd_upd] at I4
      exact ⟨I4, hA, hU⟩
    | true =>
      rw [hin] at ht
      simp only [if_true] at ht
      obtain ⟨I4, hin4⟩ := I3.rchRemove_open (upd_self _ _ _) ht
      obtain ⟨nd, q, idx, hnd, -, -, -, e4⟩ := rchRemove_ok_inv ht
      have hnode4 : ∀ m, (t'.nodeD m).kind = (s3.nodeD m).kind ∧ (t'.nodeD m).valid = (s3.nodeD m).valid := by
        intro m; rw [e4, removedAt_nodeD]; split <;> exact ⟨rfl, rfl⟩
      have hch4 : t'.children n = s3.children n :=
        children_congr_B (hnode4 n).1 (hnode4 n).2 (by rw [e4]; rfl) (I3.node hn3).kind
      have I5 := I4.close_unlink (upd_self _ _ _) (by rw [hch4]; exact Nat.le_refl _) hin4
      rw [upd_upd] at I5
      refine ⟨I5, hA.trans ?_, hU.trans ⟨(PresF.rchRemove n).h _ _ _ ht, by rw [e4]; rfl, ?_⟩⟩
      · intro m hm; rw [e4, removedAt_nodeD, if_neg (fun e => by omega)]
      · intro m x hx; rw [e4, removedAt_nodeD] at hx; split at hx
        · exact hx
        · exact hx
  rw [hq] at h
  have hsk := (I3.node hn3).kind
  cases hkd : (s3.nodeD n).kind <;> rw [hkd] at h hsk <;>
    first | exact fin s' h | exact False.elim hsk

theorem unlink_spec (fuel : Nat) : BUSpec fuel ∧ CUSpec fuel ∧ RCSpec fuel := by
  induction fuel with
  | zero =>
    refine ⟨?_, ?_, ?_⟩
    · intro env n s s' op ex h; unfold becameUnnecessary at h; cases h
    · intro env n s s' op ex h; unfold checkIfUnnecessary at h; cases h
    · intro env n s s' op ex h; unfold removeChildren at h; cases h
  | succ fuel ih => exact ⟨bu_step fuel ih.2.2, cu_step fuel ih.1, rc_step fuel ih.2.1⟩

end BU

/-! ## headline statements -/

/-- **The unlinking cascade, graphs with binds.** A successful `checkIfUnnecessary c` on a closed node that is still
necessary, or on a node that has just become unnecessary (labelled `.unlinking 0`: all its child edges are still
recorded), which is the lowest open node, closes `c`: the structural invariant holds with `c` closed, nodes above `c`
are untouched, parent lists only shrank. -/
theorem checkIfUnnecessary_specB {env : Env} {fuel c : Nat} {s s' : State} {op : Nat → Op} {ex : Nat → Prop}
    (h : (checkIfUnnecessary fuel c).run.run s = (.ok (), s')) (I : GInvB env s op ex)
    (hlow : ∀ m, op m ≠ .closed → c ≤ m)
    (hcase : (s.isNecessary c = true ∧ op c = .closed) ∨ (s.isNecessary c = false ∧ op c = .unlinking 0)) :
    GInvB env s' (upd op c .closed) ex ∧ Above c s s' ∧ URel s s' :=
  (BU.unlink_spec fuel).2.1 env c s s' op ex h I hlow hcase

/-- `becameUnnecessary n` on the lowest open node, labelled `.unlinking 0`, closes it -/
theorem becameUnnecessary_specB {env : Env} {fuel n : Nat} {s s' : State} {op : Nat → Op} {ex : Nat → Prop}
    (h : (becameUnnecessary fuel n).run.run s = (.ok (), s')) (I : GInvB env s op ex)
    (hop : op n = .unlinking 0) (hlow : ∀ m, op m ≠ .closed → n ≤ m) :
    GInvB env s' (upd op n .closed) ex ∧ Above n s s' ∧ URel s s' :=
  (BU.unlink_spec fuel).1 env n s s' op ex h I hop hlow

/-- `removeChildren n` on the lowest open node, labelled `.unlinking 0`: afterwards none of its child edges is
recorded (`.unlinking (children n).length`); `n` itself and the nodes above it are untouched -/
theorem removeChildren_specB {env : Env} {fuel n : Nat} {s s' : State} {op : Nat → Op} {ex : Nat → Prop}
    (h : (removeChildren fuel n).run.run s = (.ok (), s')) (I : GInvB env s op ex)
    (hop : op n = .unlinking 0) (hlow : ∀ m, op m ≠ .closed → n ≤ m) :
    GInvB env s' (upd op n (.unlinking (s.children n).length)) ex ∧
      (∀ m, n ≤ m → s'.nodeD m = s.nodeD m) ∧ URel s s' :=
  (BU.unlink_spec fuel).2.2 env n s s' op ex h I hop hlow

end IncrVerif.Proofs.BindH
