import IncrVerif.Proofs.BindH27
import IncrVerif.Proofs.ExpertH38
/-!
# Binds, `adjustHeights`, part 3: the headline theorem `adjustHeights_specB`

The loop is that of `ExpertH.QR.adjustHeights_ainv` at the rank `id` (no right-hand side of a bind has created a node in this fragment);
`close` reads its result (`AInv id … noX noY`, empty heap) for the invariant of the fragment.
-/
namespace IncrVerif.Proofs.BindH
open IncrVerif.Engine IncrVerif.Proofs IncrVerif.Proofs.Step IncrVerif.Proofs.Sched IncrVerif.Proofs.Quiet

namespace BA

theorem HRel.added (p : Nat) (x : Int) (s : State) : HRel s (ahhAdded p x s) :=
  HRel.upd (s := s) (n := p) (f := fun y => { y with heightInAhh := x }) rfl rfl (fun _ => ⟨rfl, rfl⟩) rfl
    (Int.le_refl _)

theorem HRel.heightSet {p : Nat} {v : Int} {s : State} (hv : (s.nodeD p).height ≤ v) :
    HRel s (heightSet p v s) :=
  HRel.upd (s := s) (n := p) (f := fun y => { y with height := v }) rfl rfl (fun _ => ⟨rfl, rfl⟩) rfl hv

/-! ## closing the open node -/

theorem close {env : Env} {B : Nat} {s s' : State} {op : Nat → Op} {ex : Nat → Prop} {oc op' i0 : Nat}
    (A : ExpertH.QR.BA.AInv id B s s' ExpertH.QR.BA.noX ExpertH.QR.BA.noY) (E : ExpertH.QR.AhhEmpty s') (I : GInvB env s op ex)
    (hopen : op op' = .linking (s.children op').length) (hclosed : ∀ m, m ≠ op' → op m = .closed)
    (hedge : (op', i0) ∈ (s.nodeD oc).parents)
    (hq : s.isStale op' = true → ex op' ∨ (s.nodeD op').inRch = true) :
    GInvB env s' (upd op op' .closed) ex := by
  have R := HRel.iff_qr.2 A.rel
  have hocp : oc ≠ op' := Nat.ne_of_lt (I.par_lt hedge)
  have hcl : ∀ m, upd op op' .closed m = .closed := by
    intro m
    by_cases e : m = op'
    · rw [e, upd_self]
    · rw [upd_other _ _ _ e]; exact hclosed m e
  refine ⟨R.frag I.frag, ?_, ?_, ?_, ?_, ?_, ?_, ?_, ⟨A.heap.wf, A.heap.lb, A.heap.lb0⟩, ?_, ?_, ?_, ?_, ?_⟩
  · intro c p i hm
    rw [R.parents] at hm
    obtain ⟨h1, h2⟩ := I.par c p i hm
    refine ⟨by rw [R.children I.frag]; exact h1, (wants_closed (hcl p)).2 ?_⟩
    rw [R.nec]
    by_cases e : p = op'
    · rw [e]; exact I.lnec _ _ hopen
    · exact (wants_closed (hclosed p e)).1 h2
  · intro p i c hk hw
    rw [R.children I.frag] at hk
    rw [R.parents]
    apply I.conv p i c hk
    have hn := (wants_closed (hcl p)).1 hw
    rw [R.nec] at hn
    by_cases e : p = op'
    · rw [e] at hk ⊢
      refine (wants_linking hopen).2 ?_
      rcases Nat.lt_or_ge i (s.children op').length with h | h
      · exact h
      · rw [List.getElem?_eq_none h] at hk; cases hk
    · exact (wants_closed (hclosed p e)).2 hn
  · intro c; rw [R.parents]; exact I.nodup c
  · intro c p i hm _
    rcases A.edge c p i hm with h | h | h
    · exact h
    · exact absurd (E.marks c) h
    · exact h.elim
  · intro n hn _
    rw [R.nec] at hn
    by_cases e : n = op'
    · have hm' : (op', i0) ∈ (s'.nodeD oc).parents := by rw [R.parents]; exact hedge
      have h1 : (s'.nodeD oc).height < (s'.nodeD op').height := by
        rcases A.edge oc op' i0 hm' with h | h | h
        · exact h
        · exact absurd (E.marks oc) h
        · exact h.elim
      have h2 := I.hpos oc (nec_of_mem_parents hedge) (hclosed oc hocp)
      have h3 := R.height oc
      rw [e]; omega
    · have h2 := I.hpos n hn (hclosed n e)
      have h3 := R.height n
      omega
  · intro p k ho; rw [hcl p] at ho; cases ho
  · intro p k ho; rw [hcl p] at ho; cases ho
  · intro m hqm _
    exact A.hgt m hqm (E.marks m) (fun h => h)
  · intro m hqm
    rw [R.inRch] at hqm
    rw [R.nec]
    rcases I.qnec m hqm with h | ⟨k, h⟩
    · exact Or.inl h
    · by_cases e : m = op'
      · rw [e, hopen] at h; cases h
      · rw [hclosed m e] at h; cases h
  · intro m _ hn hs hex
    rw [R.nec] at hn
    rw [R.isStale I.frag] at hs
    rw [R.inRch]
    by_cases e : m = op'
    · rw [e] at hs hex ⊢
      rcases hq hs with h | h
      · exact absurd h hex
      · exact h
    · exact I.queued m (hclosed m e) hn hs hex
  · intro m hqm
    rw [R.inRch] at hqm
    rw [R.isStale I.frag]; exact I.qstale m hqm
  · intro m ho; exact absurd (hcl m) ho

end BA

open BA in
/-- **`adjustHeights` restores the height invariant** (partial correctness, fragment F0).  `op'` is the only open
node, all its child edges are recorded, the edges `oc → op'` are the only ones that may violate the height rule.
Also: nodes created before `op'` are untouched. -/
theorem adjustHeights_specB_full {env : Env} {oc op' fuel : Nat} {s s' : State} {op : Nat → Op} {ex : Nat → Prop}
    (h : (adjustHeights oc op' fuel).run.run s = (.ok (), s'))
    (I : GInvB env s op ex)
    (hopen : op op' = .linking (s.children op').length) (hclosed : ∀ m, m ≠ op' → op m = .closed)
    (hedge : ∃ i, (op', i) ∈ (s.nodeD oc).parents)
    (hother : ∀ c i, (op', i) ∈ (s.nodeD c).parents → c ≠ oc → (s.nodeD c).height < (s.nodeD op').height)
    (hgtop : (s.nodeD op').inRch = true → (s.nodeD op').heightInRch = (s.nodeD op').height)
    (hq : s.isStale op' = true → ex op' ∨ (s.nodeD op').inRch = true)
    (hah : AhhEmpty s)
    (hrhs : ∀ (b : Nat) (br : BindRec), s.binds[b]? = some br → br.allNodesCreatedOnRhs = []) :
    GInvB env s' (upd op op' .closed) ex ∧ AhhEmpty s' ∧ HRel s s' ∧ ∀ m, m < op' → s'.nodeD m = s.nodeD m := by
  obtain ⟨i0, hedge⟩ := hedge
  obtain ⟨A, E⟩ := ExpertH.QR.adjustHeights_ainv (rk := id) h (fun x q i hm => I.par_lt hm)
    (fun c b br _ hb => hrhs b br hb) ⟨I.heap.wf, I.heap.lb, I.heap.lb0⟩ (Nat.ne_of_lt (I.par_lt hedge))
    (fun c p i hm => by
      by_cases e : p = op'
      · by_cases ec : c = oc
        · exact Or.inr ⟨ec, e⟩
        · rw [e] at hm ⊢; exact Or.inl (hother c i hm ec)
      · exact Or.inl (I.hlt c p i hm (hclosed p e)))
    (fun m hqm => by
      by_cases e : m = op'
      · rw [e] at hqm ⊢; exact hgtop hqm
      · exact I.hgt m hqm (hclosed m e))
    (AhhEmpty.iff_qr.1 hah)
  exact ⟨close A E I hopen hclosed hedge hq, AhhEmpty.iff_qr.2 E, HRel.iff_qr.2 A.rel, A.low⟩

theorem adjustHeights_specB {env : Env} {oc op' fuel : Nat} {s s' : State} {op : Nat → Op} {ex : Nat → Prop}
    (h : (adjustHeights oc op' fuel).run.run s = (.ok (), s'))
    (I : GInvB env s op ex)
    (hopen : op op' = .linking (s.children op').length) (hclosed : ∀ m, m ≠ op' → op m = .closed)
    (hedge : ∃ i, (op', i) ∈ (s.nodeD oc).parents)
    (hother : ∀ c i, (op', i) ∈ (s.nodeD c).parents → c ≠ oc → (s.nodeD c).height < (s.nodeD op').height)
    (hgtop : (s.nodeD op').inRch = true → (s.nodeD op').heightInRch = (s.nodeD op').height)
    (hq : s.isStale op' = true → ex op' ∨ (s.nodeD op').inRch = true)
    (hah : AhhEmpty s)
    (hrhs : ∀ (b : Nat) (br : BindRec), s.binds[b]? = some br → br.allNodesCreatedOnRhs = []) :
    GInvB env s' (upd op op' .closed) ex ∧ AhhEmpty s' ∧ HRel s s' := by
  obtain ⟨h1, h2, h3, -⟩ := adjustHeights_specB_full h I hopen hclosed hedge hother hgtop hq hah hrhs
  exact ⟨h1, h2, h3⟩

end IncrVerif.Proofs.BindH
