import IncrVerif.Proofs.FullH58
import IncrVerif.Proofs.FullH44
/-!
# C01 full fragment: the `didChange` invariant through a run of a change detector, part 6
(phase 4, and the assembly: `lc_keepsK`)
-/
namespace IncrVerif.Proofs.FullH
open IncrVerif.Engine IncrVerif.Proofs IncrVerif.Proofs.Step IncrVerif.Proofs.Sched IncrVerif.Proofs.Quiet
open IncrVerif.Proofs.MapRefH (IsMapRef isMapRef_iff not_isMapRef_iff FM ValFrame)
open IncrVerif.Proofs.BindH (DInv BGraph Below Edge)
open IncrVerif.Proofs.NestH (F2Inv GInv2 All2 Dying)
open IncrVerif.Proofs.NestH.NC (Pre2 P1 P2 P3)

namespace KL

/-! ## the state after phase 3 (any environment): the graph invariant, the change detector -/

theorem after3 {env : Env} {rk rk' : Nat → Nat} {n b rhs : Nat} {br : BindRec} {l : List Nat} {s s1 s2 s3 : State}
    (I : DInv env s (some n)) (A : F2Inv env rk s) (hk : (s.nodeD n).kind = .bindLhsChange b)
    (X : Pre2 env rk n b br s) (P : P1 env rk rk' n b rhs br l s s1)
    (Q : P2 env rk' n b rhs br l s1 s2) (R : P3 env rk' br s2 s3) :
    BGraph env s3 ∧ n < s3.nodes.size ∧ (s3.nodeD n).cutoff = .never := by
  have M := NestH.NC.midRel2_of X A P Q R
  have hD := NestH.NC.dying_iff X A P Q
  have hnd := X.n_notDying A
  have nf3 : ∀ m, (s3.nodeD m).forceNecessary = false := by
    intro m
    by_cases hd : Dying s2 br.allNodesCreatedOnRhs m
    · exact (R.rel.dead m hd).2.2.2.2.2.2.1
    · rw [R.rel.other m hd]; exact Q.noForce m
  refine ⟨?_, Nat.lt_of_lt_of_le X.hlt M.grow, by rw [(M.nk n X.hlt hnd).cutoff]; exact A.lcCut n b hk⟩
  apply NestH.bgraph_of_ginv2 R.g nf3
  intro m c hm hkc
  cases hsc : (s3.nodeD m).createdIn with
  | bind b' => exact absurd hkc (((R.g.frag.node m hm).inScope b' hsc).1 c)
  | top =>
    by_cases hd : Dying s br.allNodesCreatedOnRhs m
    · exfalso
      rw [(M.dead m hd).2.2.1] at hsc
      exact X.notDying_of_top A hsc hd
    · by_cases hlt : m < s.nodes.size
      · have k := M.nk m hlt hd
        rw [k.kind] at hkc
        rw [k.createdIn] at hsc
        rw [M.vars]
        exact I.graph.var m c hlt ((A.frag.node m hlt).top hsc).1 hkc
      · exfalso
        rw [(M.new m (by omega) hm).1] at hsc; cases hsc

/-! ## ghosts that give the same virtual state -/

theorem ghost_eq_of_virt_eq {g g' : Nat → Option Val} {s : State} (h : virt g s = virt g' s) {m p i : Nat}
    (hk : (s.nodeD m).kind = .mapRef p i) : g m = g' m := by
  have := congrArg (fun t : State => (t.nodeD m).value) h
  simp only [virt_nodeD, virtNode_value_mapRef _ _ hk] at this
  exact this

theorem KInv.of_ghost_eq {env : Env} {g g' : Nat → Option Val} {s : State} (K : KInv env g s)
    (h : ∀ m p i, (s.nodeD m).kind = .mapRef p i → g' m = g m) : KInv env g' s := by
  intro m p i hv hn hk hd
  rw [h m p i hk]; exact K m p i hv hn hk hd

/-! ## the assembly -/

section
variable {env : Env} {sp : Nat → Val → Val}

/-- **the run of a change detector**: the actual run is simulated by the virtual run (the ghost is erased on the nodes that die), and the
`didChange` invariant and the fragment are kept -/
theorem lc_keepsK_ex (E : EnvS env sp) {t s : State} {g : Nat → Option Val} {fuel n b : Nat} {r : Option Nat} {s' : State}
    (D : DInvF env sp t s g (some n)) (hk : (s.nodeD n).kind = .bindLhsChange b)
    (h : (recomputeOne env fuel n).run.run s = (.ok r, s')) :
    ∃ g', (recomputeOne (VE env sp) fuel n).run.run (virt g s) = (.ok r, virt g' s') ∧ Fr (FK env sp) g' s' ∧
      GR g g' s s' ∧ KInv env g' s' ∧ FFrag env sp g' s' := by
  have I := D.inv
  obtain ⟨rk, A⟩ := D.aux.1
  have hkv : ((virt g s).nodeD n).kind = .bindLhsChange b := by rw [virt_nodeD, virtNode_kind, hk]; rfl
  obtain ⟨br, X⟩ := NestH.NC.lc_pre2 I A hkv
  have hn : n < s.nodes.size := by have := X.hlt; rw [virt_size] at this; exact this
  have hv : (s.nodeD n).valid = true := by have := X.hvn; rw [virt_nodeD, virtNode_valid] at this; exact this
  have hb : s.binds[b]? = some br := X.hb
  have hnd := some_of_lt hn
  have hvn : (virt g s).nodes[n]? = some (virtNode (g n) (s.nodeD n)) := by rw [virt_getElem?, hnd]; rfl
  have hvval : (virtNode (g n) (s.nodeD n)).valid = true := by rw [virtNode_valid]; exact hv
  have hvk : (virtNode (g n) (s.nodeD n)).kind = .bindLhsChange b := by rw [virtNode_kind, hk]; rfl
  -- the two runs, phase by phase
  have hrun := Inval.recomputeOne_bindLhsChange_run env fuel n s _ b br hnd hv hk hb
  have hrunv := Inval.recomputeOne_bindLhsChange_run (VE env sp) fuel n (virt g s) _ b br hvn hvval hvk X.hb
  rw [hrun] at h
  obtain ⟨rhs, s1, h1, h⟩ := bind_ok_inv h
  obtain ⟨_, s2, h2, h⟩ := bind_ok_inv h
  obtain ⟨_, s3, h3, h4⟩ := bind_ok_inv h
  -- phase 1
  have hk? : (s.nodeD n).kind? = some (.bindLhsChange b) := by simp [Node.kind?, hv, hk]
  have hrd : tv g (started n s) br.lhs = (started n s).value env br.lhs := by
    rw [ST.tv_started, started_value]
    refine (kids_settled D br.lhs ?_).1
    unfold State.children
    rw [hk?]
    simp only [hb]
    exact List.mem_singleton.2 rfl
  have htop : TopLt s := fun k r hkr => by
    have := (A.topOK k r hkr).1; rw [virt_size] at this; exact this
  obtain ⟨v1, F1, V1⟩ := ST.SimAt.lhsRunClosure (n := n) (b := b) hrd (ST.topLt_started n htop)
    (fun v => ST.templS_of_envS E br.body v) (ST.fr_started D.frag.fr n) rhs s1 h1
  rw [ST.virt_started] at v1
  obtain ⟨rk', l, P⟩ := NestH.NC.phase1 (NestH.closure_spec2 _) X A v1
  have V : VM s s1 := (ST.vm_started n s).trans V1
  have K1 := phase1_keepsK D.frag D.k A P V
  have O := old1_of D.frag A P V
  have hb1 : MapRefsBack s1 := mapRefsBack_of_vm D.frag.back V
  have hpinv : s1.propagateInvalidity = [] := P.rel.pinv.trans A.pinv
  -- phase 2
  obtain ⟨g2, v2, F2, R2⟩ := ST.SimX.lhsRelink (env := env) (sp := sp) fuel n b br s.stabNum rhs g s1 F1 () s2 h2
  have Q := NestH.NC.phase2 (NestH.relink_spec2 _) X A P v2
  have K2 := phase2_keepsK D.frag (DInvF.inherit D) A X hk P Q O K1 F1.noExp hpinv h2 R2
  have hb2 : MapRefsBack s2 := mapRefsBack_of_vm hb1 R2.vm
  -- phase 3
  obtain ⟨g3, v3, F3, R3⟩ := ST.SimX.lhsInvalidateOld (K := FK env sp) fuel br g2 s2 F2 () s3 h3
  have R := NestH.NC.phase3 (NestH.inval_spec2 _) X A P Q v3
  have K3 := phase3_keepsK K2 hb2 R R3
  have hb3 : MapRefsBack s3 := mapRefsBack_of_vm hb2 R3.vm
  -- phase 4
  obtain ⟨gr3, hn3, hcut3⟩ := after3 I A hkv X P Q R
  rw [virt_size] at hn3
  have V3 : VM s s3 := (V.trans R2.vm).trans R3.vm
  have hk3 : (s3.nodeD n).kind = .bindLhsChange b := by rw [(V3.kind n hn).1]; exact hk
  rw [virt_nodeD, virtNode_cutoff, hk3] at hcut3
  replace hcut3 : (s3.nodeD n).cutoff = .never := hcut3
  have hnm3 : ∀ p i, (s3.nodeD n).kind ≠ .mapRef p i := fun p i => by rw [hk3]; exact fun e => by cases e
  have FF3 : FFrag env sp g3 s3 := ⟨F3, hb3, R.g.frag.pc⟩
  obtain ⟨v4, F4, V4⟩ := ST.SimAt.lhsFinish_lc (env := env) (sp := sp) (fuel := fuel) ⟨b, hk3⟩ F3 r s' h4
  obtain ⟨K4, FF4⟩ := mcv_keepsK FF3 gr3 K3 hn3 hnm3 (Or.inr hcut3) (ValFrame.refl n s3) rfl
    (BindH.BC.lhsFinish_inv h4)
  refine ⟨g3, ?_, F4, ?_, K4, FF4⟩
  · have v2' : (Inval.lhsRelink (VE env sp) fuel n b br (virt g s).stabNum rhs).run.run (virt g s1)
        = (.ok (), virt g2 s2) := v2
    rw [hrunv, run_bind_ok v1, run_bind_ok v2', run_bind_ok v3]; exact v4
  · exact ((GR.of_vm V).trans R2).trans (R3.trans (GR.of_vm V4))

/-- **the `didChange` invariant through a run of a change detector**, for ANY ghost `g'` that describes the final virtual state -/
theorem lc_keepsK (E : EnvS env sp) {t s : State} {g g' : Nat → Option Val} {fuel n b : Nat} {r : Option Nat} {s' : State}
    (D : DInvF env sp t s g (some n)) (hk : (s.nodeD n).kind = .bindLhsChange b)
    (h : (recomputeOne env fuel n).run.run s = (.ok r, s'))
    (hv : (recomputeOne (VE env sp) fuel n).run.run (virt g s) = (.ok r, virt g' s')) : KInv env g' s' := by
  obtain ⟨g3, hv3, -, -, K, -⟩ := lc_keepsK_ex E D hk h
  rw [hv3] at hv
  have e : virt g3 s' = virt g' s' := (Prod.mk.inj hv).2
  exact KInv.of_ghost_eq K fun m p i hkm => (ghost_eq_of_virt_eq e hkm).symm

end
end KL
end IncrVerif.Proofs.FullH
