import IncrVerif.Proofs.FullH28
/-!
# C01 full fragment, the recompute step of a `map_ref` node, part 3: the step relation `StepRelB` of the virtual states
(`MRSetup`, `stepRel_quiet`, `stepRel_fire` of MapRef14 for the contract of graphs with binds)
-/
namespace IncrVerif.Proofs.FullH
open IncrVerif.Engine IncrVerif.Proofs IncrVerif.Proofs.Step IncrVerif.Proofs.Sched IncrVerif.Proofs.Quiet
open IncrVerif.Proofs.MapRefH (upd1 upd1_self upd1_other cleared cleared_nodeD cleared_started_nodeD After IsMapRef FM value_congr_mr)
open IncrVerif.Proofs.BindH (DInv BGraph StepRelB TargetB DKey NKey FrameB)
namespace MR

/-- the state-field frames of `VStep` -/
structure VFr (s s' : State) : Prop where
  key : KeyD s s'
  hah : BindH.BF.HAh s s'
  num : ∀ m, (s'.nodeD m).numOnUpdateHandlers = (s.nodeD m).numOnUpdateHandlers
  dk : BindH.C2k.DK 0 s s'

theorem VFr.trans {a b c : State} (h1 : VFr a b) (h2 : VFr b c) : VFr a c :=
  ⟨KeyD.trans h1.key h2.key, BindH.BF.HAh.trans h1.hah h2.hah, fun m => (h2.num m).trans (h1.num m), h1.dk.trans h2.dk⟩

/-- the frames of a `maybe_change_value_manual` -/
theorem VFr.mcvm {env : Env} {fuel n : Nat} {o : Option Val} {d b : Bool} {s s' : State} {r : Option Nat}
    (h : (maybeChangeValueManual env fuel n o d b).run.run s = (.ok r, s')) : VFr s s' :=
  ⟨(PresK.maybeChangeValueManual env fuel n o d b).h _ _ _ h, (BindH.BF.PresA.maybeChangeValueManual env fuel n o d b).h _ _ _ h,
    ((PresC.maybeChangeValueManual env fuel n o d b).h _ _ _ h).num,
    ((BindH.C2k.PresD.maybeChangeValueManual (b := 0) env fuel n o d b).h _ _ _ h).1⟩

section
variable {env : Env} {sp : Nat → Val → Val} {g : Nat → Option Val} {s : State}

/-- the facts of the map_ref step that do not depend on whether the node fires -/
structure MRS (env : Env) (sp : Nat → Val → Val) (g : Nat → Option Val) (s : State) (n p i : Nat) (vi : Val) : Prop where
  frag : FFrag env sp g s
  inv : DInv (VE env sp) (virt g s) (some n)
  lt : n < s.nodes.size
  kind : (s.nodeD n).kind = .mapRef p i
  nec : s.isNecessary n = true
  valid : (s.nodeD n).valid = true
  hvi : s.value env i = some vi
  htvi : tv g s i = some vi

variable {n p i : Nat} {vi : Val}

theorem MRS.value (S : MRS env sp g s n p i vi) : s.value env n = some (env.proj p vi) := by
  rw [value_mapRef S.frag S.valid S.kind, S.hvi]; rfl

theorem MRS.vkind (S : MRS env sp g s n p i vi) : ((virt g s).nodeD n).kind = .map (pBase + p) [i] := by
  rw [virt_nodeD, virtNode_kind, S.kind]; rfl

theorem MRS.target (S : MRS env sp g s n p i vi) : TargetB (VE env sp) (virt g s) n (env.proj p vi) := by
  unfold TargetB Target
  rw [S.vkind]
  refine ⟨[vi], ?_, by rw [virtEnv_fn_proj _ _ (S.frag.pid S.kind)]; rfl⟩
  rw [virt_plainVals]
  simp only [evalArgs, S.htvi]

/-- the virtual image of the state in which the notifications start -/
theorem MRS.upd (S : MRS env sp g s n p i vi) :
    Upd n (virt g s) (virt (upd1 g n (some (env.proj p vi))) (cleared n (started n s))) := by
  have hX := fun m => cleared_started_nodeD n m s S.lt
  refine ⟨by simp [virt_size, cleared, started], rfl, rfl, S.frag.pc, rfl, fun m hm => ?_, ?_, ?_⟩
  · rw [virt_nodeD, virt_nodeD, hX, if_neg hm, upd1_other _ _ _ hm]
  · rw [virt_nodeD, virt_nodeD, hX, if_pos rfl]
    refine ⟨?_, ?_, ?_, ?_, ?_, ?_, ?_, ?_⟩ <;>
      simp only [virtNode_kind, virtNode_createdIn, virtNode_valid, virtNode_cutoff, virtNode_height,
        virtNode_parents, virtNode_observers, virtNode_forceNecessary]
  · rw [virt_nodeD, virt_nodeD, hX, if_pos rfl]
    simp only [virtNode_heightInRch]

theorem MRS.xnode (S : MRS env sp g s n p i vi) :
    (virt (upd1 g n (some (env.proj p vi))) (cleared n (started n s))).nodeD n =
      virtNode (some (env.proj p vi))
        { s.nodeD n with recomputedAt := s.stabNum, value := none, didChange := false } := by
  rw [virt_nodeD, cleared_started_nodeD n n s S.lt, if_pos rfl, upd1_self]

/-- the frames of the base step -/
theorem MRS.vfr (S : MRS env sp g s n p i vi) :
    VFr (virt g s) (virt (upd1 g n (some (env.proj p vi))) (cleared n (started n s))) := by
  have hU := S.upd
  have hX := fun m => cleared_started_nodeD n m s S.lt
  have hnum : ∀ m, ((virt (upd1 g n (some (env.proj p vi))) (cleared n (started n s))).nodeD m).numOnUpdateHandlers =
      ((virt g s).nodeD m).numOnUpdateHandlers := by
    intro m
    rw [virt_nodeD, virt_nodeD, virtNode_num, virtNode_num, hX]
    split
    · rename_i e; rw [e]
    · rfl
  refine ⟨rfl, fun m => ?_, hnum, ?_⟩
  · rw [virt_nodeD, virt_nodeD, virtNode_heightInAhh, virtNode_heightInAhh, hX]
    split
    · rename_i e; rw [e]
    · rfl
  · refine ⟨rfl, rfl, rfl, rfl, rfl, rfl, rfl, rfl, fun hh => ⟨fun m => by rw [hnum]; exact hh m, rfl⟩,
      Nat.le_of_eq hU.size.symm, fun m _ => ?_, fun m h1 h2 => absurd h2 (by rw [hU.size]; omega)⟩
    have sh := hU.shapeAll m
    exact ⟨sh.kind, sh.createdIn, sh.observers⟩

/-- the flag is down: nothing happens; the virtual node keeps its value -/
theorem MRS.stepRel_quiet (S : MRS env sp g s n p i vi) (K : KInv env g s)
    (hd : (s.nodeD n).didChange = false) :
    StepRelB n (env.proj p vi) false none (virt g s)
      (virt (upd1 g n (some (env.proj p vi))) (cleared n (started n s))) := by
  have hU := S.upd
  have hk' : ({ s.nodeD n with recomputedAt := s.stabNum, value := none, didChange := false } : Node).kind
      = .mapRef p i := S.kind
  refine BindH.BS.stepRelB_of_quiet S.inv.graph hU rfl (Step.Quiet.refl _) ?_ ?_ ?_ (fun _ => ⟨?_, rfl⟩) (hU.heap S.inv.heap) rfl
    (fun m hm => Or.inl hm) (fun hc => by cases hc) (fun q hq => by cases hq)
  · rw [S.xnode, virtNode_value_mapRef _ _ hk']
  · rw [S.xnode, virtNode_recomputedAt]; rfl
  · rw [S.xnode, virtNode_changedAt, virt_nodeD, virtNode_changedAt]; simp
  · show tv g s n = _
    rw [tv_mapRef S.kind, K n p i S.valid S.nec S.kind hd, S.value]

/-- the fragment facts of the state in which the notifications start -/
theorem MRS.frX (S : MRS env sp g s n p i vi) (x : Option Val) :
    FFrag env sp (upd1 g n x) (cleared n (started n s)) :=
  (AfterF.cleared n s S.lt).frag S.frag S.lt x

/-- the recorded parents of `n` are valid -/
theorem MRS.parentsValid (S : MRS env sp g s n p i vi) :
    ∀ x ∈ ((cleared n (started n s)).nodeD n).parents, ((cleared n (started n s)).nodeD x.1).valid = true := by
  have A := (AfterF.cleared n s S.lt).a
  intro x hx
  rw [A.parents] at hx
  rw [A.valid]
  obtain ⟨p', ci⟩ := x
  have gr := S.inv.graph
  have hmem : (p', ci) ∈ ((virt g s).nodeD n).parents := by rw [virt_nodeD, virtNode_parents]; exact hx
  have hpn := (gr.parent n p' ci hmem).1
  have := (gr.nec p' hpn).1
  rwa [virt_nodeD, virtNode_valid] at this

/-- the flag is up: the node fires; the notification part is simulated by the virtual engine -/
theorem MRS.stepRel_fire (S : MRS env sp g s n p i vi) {fuel : Nat} {s' : State} {r : Option Nat}
    (h : (maybeChangeValueManual env fuel n none true false).run.run (cleared n (started n s)) = (.ok r, s')) :
    StepRelB n (env.proj p vi) true r (virt g s) (virt (upd1 g n (some (env.proj p vi))) s') ∧
      VFr (virt g s) (virt (upd1 g n (some (env.proj p vi))) s') := by
  have gr := S.inv.graph
  have hi := S.inv.heap
  have hvfr := S.vfr
  have frX := (S.frX (some (env.proj p vi))).fr
  have hxn := S.xnode
  generalize hg' : upd1 g n (some (env.proj p vi)) = g' at *
  have hUW := S.upd
  rw [hg'] at hUW
  obtain ⟨hsim, -, -⟩ := SimAt.mcvm (sp := sp) (g := g') env fuel (fuel + 1) n none none true false (Or.inl (Nat.succ_pos _))
    (Or.inr S.parentsValid) frX r s' h
  generalize hW : virt g' (cleared n (started n s)) = W at hUW hsim hvfr hxn
  -- now as in `BS.mcv_stepB`, on the virtual run
  have hlt : n < (virt g s).nodes.size := by rw [virt_size]; exact S.lt
  have hltW : n < W.nodes.size := by rw [hUW.size]; exact hlt
  have q : Step.Quiet (touched n W) (virt g' s') := mcvm_true_quiet _ _ _ _ _ _ _ _ hsim
  have hUT : Upd n (virt g s) (touched n W) := hUW.touched
  have hbW : W.binds = (virt g s).binds := by rw [← hW]; rfl
  have hbT : (touched n W).binds = (virt g s).binds := hbW
  have eT : (touched n W).nodeD n = { W.nodeD n with changedAt := W.stabNum } := by
    rw [touched_nodeD, if_pos ⟨rfl, hltW⟩]
  have hk' : ({ s.nodeD n with recomputedAt := s.stabNum, value := none, didChange := false } : Node).kind
      = .mapRef p i := S.kind
  have hparT : ((touched n W).nodeD n).parents = ((virt g s).nodeD n).parents := hUT.shape.parents
  have hpar : ∀ q, q ∈ ((touched n W).nodeD n).parents.map (·.1) → BindH.BS.ParentOK (VE env sp) (touched n W) q := by
    intro q hq
    rw [hparT] at hq
    obtain ⟨⟨p', ci⟩, hmem, rfl⟩ := List.mem_map.1 hq
    have hpn := (gr.parent n p' ci hmem).1
    have h1 := Step.nec_lt_size hpn
    have h2 := (gr.nec p' hpn).1
    have h3 := (gr.node p' h1 h2).1
    have sh := hUT.shapeAll p'
    exact ⟨by rw [hUT.size]; exact h1, by rw [sh.valid]; exact h2, by rw [sh.kind]; exact h3,
      by rw [hUT.nec]; exact hpn⟩
  obtain ⟨k, hret⟩ := BindH.BS.mcvm_heapB (hUT.heap hi) hpar hsim
  have hpin := mcvm_parents (VE env sp) (fuel + 1) n _ W (virt g' s') r _ (some_of_lt hltW) hsim
  have hparW : (W.nodeD n).parents = ((virt g s).nodeD n).parents := hUW.shape.parents
  refine ⟨BindH.BS.stepRelB_of_quiet gr hUT hbT q ?_ ?_ ?_ (fun hc => by cases hc) k.heap k.qsize ?_ ?_ ?_,
    hvfr.trans (VFr.mcvm hsim)⟩
  · rw [eT, hxn]; exact virtNode_value_mapRef _ _ hk'
  · rw [eT, hxn]; show (virtNode _ _).recomputedAt = _; rw [virtNode_recomputedAt]; rfl
  · rw [eT, if_pos rfl]; exact hUW.stabNum
  · intro m hm
    rcases k.only m hm with h1 | h1
    · exact Or.inl h1
    · rw [hparT] at h1; exact Or.inr ⟨rfl, h1⟩
  · intro _ q' hq'
    rw [← hparW] at hq'
    rcases hpin q' hq' with h1 | h1
    · exact Or.inl h1.2
    · exact Or.inr h1.2.1
  · intro q' hq'
    obtain ⟨h1, h2, h3⟩ := hret q' hq'
    rw [hparT] at h1
    exact ⟨rfl, h1, h2, h3⟩

end
end MR
end IncrVerif.Proofs.FullH
