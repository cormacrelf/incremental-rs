import IncrVerif.Proofs.LeakF3
/-!
# LeakF4 — `stabilise` and `setMaxHeightAllowed` do not write the program's node handles
-/
namespace IncrVerif.Proofs.LeakF
open IncrVerif.Engine IncrVerif.Proofs IncrVerif.Proofs.Footprint

theorem sim_stabilise (env : Env) (fuel : Nat) : Sim (stabilise env fuel) := Sim.of_foot (Foot.stabilise env fuel)
theorem sim_setMaxHeightAllowed (newMax : Nat) : Sim (setMaxHeightAllowed newMax) := Sim.of_foot (Foot.setMaxHeightAllowed newMax)

end IncrVerif.Proofs.LeakF
