import IncrVerif.Proofs.FullH54
/-!
# C01 full fragment: the `didChange` invariant through a run of a change detector, part 2
(phase 1: the closure run; phase 3: the invalidation of the old generation; `Inherit` in the state of the drain invariant)
-/
namespace IncrVerif.Proofs.FullH
open IncrVerif.Engine IncrVerif.Proofs IncrVerif.Proofs.Step IncrVerif.Proofs.Sched IncrVerif.Proofs.Quiet
open IncrVerif.Proofs.MapRefH (IsMapRef isMapRef_iff not_isMapRef_iff FM)
open IncrVerif.Proofs.BindH (DInv BGraph Below Edge ConsistentB TargetB)
open IncrVerif.Proofs.NestH (F2Inv GInv2 All2 Dying IRel2 CRel2)
open IncrVerif.Proofs.NestH.NC (Pre2 P1 P2 P3)

namespace KL

section
variable {env : Env} {sp : Nat → Val → Val} {g : Nat → Option Val} {s s1 : State} {t : State}
  {rk rk' : Nat → Nat} {n b rhs : Nat} {br : BindRec} {l : List Nat}

/-! ## phase 1: the closure run -/

theorem vs1 (P : P1 (VE env sp) rk rk' n b rhs br l (virt g s) (virt g s1)) (V : VM s s1) {m : Nat}
    (hm : m < s.nodes.size) : VS g g s s1 m :=
  VS.of_upto (V.kind m hm).1 (P.old_upto (by rw [virt_size]; exact hm))

/-- the children of an old valid map_ref node are old valid nodes -/
theorem kid_old (A : F2Inv (VE env sp) rk (virt g s)) {m p i : Nat} (hm : m < s.nodes.size)
    (hv : (s.nodeD m).valid = true) (hk : (s.nodeD m).kind = .mapRef p i) :
    i < s.nodes.size ∧ (s.nodeD i).valid = true := by
  have hc : i ∈ (virt g s).children m := by rw [virt_children, KC.children_mapRef hv hk]; exact List.mem_singleton.2 rfl
  have N := A.frag.node m (by rw [virt_size]; exact hm)
  have h1 := N.kidsIn i hc
  have h2 := N.kidsValid i hc
  rw [virt_size] at h1
  rw [virt_nodeD, virtNode_valid] at h2
  exact ⟨h1, h2⟩

/-- a new node is not necessary after the closure run -/
theorem new_not_nec (P : P1 (VE env sp) rk rk' n b rhs br l (virt g s) (virt g s1)) {m : Nat}
    (h1 : s.nodes.size ≤ m) (h2 : m < s1.nodes.size) : s1.isNecessary m = false := by
  obtain ⟨-, -, -, -, -, h6, h7, h8, -⟩ := P.new (m := m) (by rw [virt_size]; exact h1) (by rw [virt_size]; exact h2)
  rw [← virt_isNecessary g s1 m]
  unfold State.isNecessary Node.isNecessary
  rw [h6, h7, h8]; rfl

/-- **phase 1 keeps the `didChange` invariant** (same ghost): old nodes are unchanged in the virtual state, new nodes are not necessary -/
theorem phase1_keepsK (F : FFrag env sp g s) (K : KInv env g s) (A : F2Inv (VE env sp) rk (virt g s))
    (P : P1 (VE env sp) rk rk' n b rhs br l (virt g s) (virt g s1)) (V : VM s s1) : KInv env g s1 := by
  have hb := F.back
  have hb' := mapRefsBack_of_vm hb V
  refine KInv.transfer_vs K hb hb' (fun m => m < s.nodes.size ∧ (s.nodeD m).valid = true) (fun m h => h.2) ?_ ?_ ?_ ?_
  · intro m hm; exact vs1 P V hm.1
  · intro m p i hm hk; exact kid_old A hm.1 hm.2 hk
  · intro m hm hd; exact V.flag m hm.1 hd
  · intro m p i hv hn hk
    by_cases hm : m < s.nodes.size
    · refine ⟨hm, ?_⟩
      rw [← (vs1 P V hm).valid']; exact hv
    · exfalso
      rw [new_not_nec P (by omega) (lt_of_mapRef hk)] at hn; cases hn

/-- what the later phases need of the closure run: the old nodes -/
structure Old1 (env : Env) (n : Nat) (s s1 : State) : Prop where
  size : s.nodes.size ≤ s1.nodes.size
  kind : ∀ m, m < s.nodes.size → (s1.nodeD m).kind = (s.nodeD m).kind
  valid : ∀ m, m < s.nodes.size → (s1.nodeD m).valid = (s.nodeD m).valid
  stamps : ∀ m, m < s.nodes.size → m ≠ n →
    (s1.nodeD m).recomputedAt = (s.nodeD m).recomputedAt ∧ (s1.nodeD m).changedAt = (s.nodeD m).changedAt
  new : ∀ m, s.nodes.size ≤ m → m < s1.nodes.size → (s1.nodeD m).recomputedAt = -1
  value : ∀ m, m < s.nodes.size → (s.nodeD m).valid = true → s1.value env m = s.value env m

theorem old1_of (F : FFrag env sp g s) (A : F2Inv (VE env sp) rk (virt g s))
    (P : P1 (VE env sp) rk rk' n b rhs br l (virt g s) (virt g s1)) (V : VM s s1) : Old1 env n s s1 := by
  have hb := F.back
  have hb' := mapRefsBack_of_vm hb V
  refine ⟨V.size, fun m hm => (V.kind m hm).1, fun m hm => (vs1 P V hm).valid', fun m hm e => ?_, fun m h1 h2 => ?_,
    fun m hm hv => ?_⟩
  · have := P.old_other (m := m) (by rw [virt_size]; exact hm) e
    have h1 := congrArg Node.recomputedAt this
    have h2 := congrArg Node.changedAt this
    rw [virt_nodeD, virt_nodeD, virtNode_recomputedAt, virtNode_recomputedAt] at h1
    rw [virt_nodeD, virt_nodeD, virtNode_changedAt, virtNode_changedAt] at h2
    exact ⟨h1, h2⟩
  · have := (P.new (m := m) (by rw [virt_size]; exact h1) (by rw [virt_size]; exact h2)).2.2.1
    rw [virt_nodeD, virtNode_recomputedAt] at this
    exact this
  · exact value_eq_vs (g := g) (g' := g) hb hb' (fun m => m < s.nodes.size ∧ (s.nodeD m).valid = true) (fun m h => h.2)
      (fun m hm => vs1 P V hm.1) (fun m p i hm hk => kid_old A hm.1 hm.2 hk) m ⟨hm, hv⟩

end

/-! ## phase 3: the old generation is invalidated -/

section
variable {env : Env} {sp : Nat → Val → Val} {g2 g3 : Nat → Option Val} {s2 s3 : State} {rk' : Nat → Nat} {br : BindRec}

/-- a node that is valid after phase 3 is not dying: its virtual node is unchanged -/
theorem alive_eq (R3 : P3 (VE env sp) rk' br (virt g2 s2) (virt g3 s3)) {m : Nat} (hv : (s3.nodeD m).valid = true) :
    (virt g3 s3).nodeD m = (virt g2 s2).nodeD m := by
  apply R3.rel.other
  intro hd
  have := (R3.rel.dead m hd).1
  rw [virt_nodeD, virtNode_valid, hv] at this
  cases this

/-- **phase 3 keeps the `didChange` invariant** (the ghost is erased on nodes that die): a node that is valid afterwards is not dying, and
neither are the inputs it reads through -/
theorem phase3_keepsK (K : KInv env g2 s2) (hb : MapRefsBack s2)
    (R3 : P3 (VE env sp) rk' br (virt g2 s2) (virt g3 s3)) (R : GR g2 g3 s2 s3) : KInv env g3 s3 := by
  have hb' := mapRefsBack_of_vm hb R.vm
  have hsz : s3.nodes.size = s2.nodes.size := by have := R3.rel.size; rw [virt_size, virt_size] at this; exact this
  have hvs : ∀ m, m < s3.nodes.size ∧ (s3.nodeD m).valid = true → VS g2 g3 s2 s3 m := fun m hm =>
    VS.of_eq (R.vm.kind m (by rw [← hsz]; exact hm.1)).1 (alive_eq R3 hm.2)
  refine KInv.transfer_vs K hb hb' (fun m => m < s3.nodes.size ∧ (s3.nodeD m).valid = true) ?_ hvs ?_ ?_ ?_
  · intro m hm; rw [← (hvs m hm).valid']; exact hm.2
  · intro m p i hm hk
    have hk3 : (s3.nodeD m).kind = .mapRef p i := by rw [(hvs m hm).kind]; exact hk
    have hc : i ∈ (virt g3 s3).children m := by
      rw [virt_children, KC.children_mapRef hm.2 hk3]; exact List.mem_singleton.2 rfl
    have N := R3.g.frag.node m (by rw [virt_size]; exact hm.1)
    have h1 := N.kidsIn i hc
    have h2 := N.kidsValid i hc
    rw [virt_size] at h1
    rw [virt_nodeD, virtNode_valid] at h2
    exact ⟨h1, h2⟩
  · intro m hm hd; exact R.vm.flag m (by rw [← hsz]; exact hm.1) hd
  · intro m p i hv _ hk; exact ⟨lt_of_mapRef hk, hv⟩

end

/-! ## `Inherit` in the state of the drain invariant -/

section
variable {env : Env} {sp : Nat → Val → Val} {g : Nat → Option Val} {s : State}

/-- a valid map_ref node that is not stale is unclean only through its input: from the consistency of the virtual state -/
theorem inherit_of_cons (F : FFrag env sp g s)
    (hcons : ∀ m, m < (virt g s).nodes.size → ((virt g s).nodeD m).valid = true → (virt g s).isStale m = false →
      ConsistentB (VE env sp) (virt g s) m) : Inherit env g s := by
  intro m pr i hv hk hst hu
  have hlt := F.lt_of_mapRef hk
  obtain ⟨w, hw, hvw⟩ := hcons m (by rw [virt_size]; exact hlt) (by rw [virt_nodeD, virtNode_valid]; exact hv)
    (by rw [virt_isStale]; exact hst)
  have hkv : ((virt g s).nodeD m).kind = .map (pBase + pr) [i] := by
    rw [virt_nodeD, virtNode_kind, hk]; rfl
  unfold TargetB Target at hw
  rw [hkv] at hw
  obtain ⟨vals, hvals, hwv⟩ := hw
  rw [virt_plainVals] at hvals
  simp only [evalArgs] at hvals
  have hgm : g m = tv g s m := (tv_mapRef hk).symm
  have hread : s.value env m = (s.value env i).map (env.proj pr) := value_mapRef F hv hk
  cases hx : tv g s i with
  | none => rw [hx] at hvals; simp at hvals
  | some x =>
    rw [hx] at hvals
    simp at hvals
    subst hvals
    have hgm' : g m = some (env.proj pr x) := by
      rw [hgm]; show ((virt g s).nodeD m).value = _; rw [hvw, hwv, virtEnv_fn_proj _ _ (F.pid hk)]; rfl
    have hne : s.value env i ≠ some x := by
      intro h; apply hu; rw [hgm', hread, h]; rfl
    by_cases hmi : ∀ p j, (s.nodeD i).kind ≠ .mapRef p j
    · exact absurd ((tv_eq_value_of_not_mapRef (g := g) hmi).symm.trans hx) hne
    · have hmr : IsMapRef (s.nodeD i).kind := Classical.byContradiction fun h => hmi (not_isMapRef_iff.1 h)
      refine ⟨hmr, ?_⟩
      obtain ⟨p, j, hki⟩ := isMapRef_iff.1 hmr
      unfold Unclean
      have : g i = some x := by rw [← tv_mapRef (g := g) hki]; exact hx
      rw [this]
      exact fun h => hne h.symm

theorem DInvF.inherit {t : State} {x : Option Nat} (D : DInvF env sp t s g x) : Inherit env g s :=
  inherit_of_cons D.frag D.inv.cons

end
end KL
end IncrVerif.Proofs.FullH
