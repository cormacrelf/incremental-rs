import IncrVerif.Proofs.NestH38
/-!
# Nested binds (F2), the run of a change detector, part 4: `StepL2`

The counterpart of `BindH76` for nested binds.
-/
namespace IncrVerif.Proofs.NestH
open IncrVerif.Engine IncrVerif.Proofs IncrVerif.Proofs.Step IncrVerif.Proofs.Sched IncrVerif.Proofs.Quiet
open IncrVerif.Proofs.BindH
namespace NC

/-- a valid node that has never been computed (not a variable) is stale -/
theorem isStale_pristine2 {s : State} {m : Nat} (hv : (s.nodeD m).valid = true)
    (hnv : ∀ c, (s.nodeD m).kind ≠ .var c) (hr : (s.nodeD m).recomputedAt = -1) : s.isStale m = true := by
  unfold State.isStale
  simp only [Node.kind?, hv, if_true, hr]
  cases hkd : (s.nodeD m).kind <;> first
    | exact absurd hkd (hnv _)
    | rfl
    | simp

namespace MidRel2
variable {env : Env} {rk' : Nat → Nat} {n b rhs : Nat} {br : BindRec} {l : List Nat} {s t : State}

/-- an old record after phase 3: same `lhs`, `lhsChange`, `main`, `body`; same `rhs` unless it is the record of `b` -/
theorem bind_old (M : MidRel2 env rk' n b rhs br l s t) (hb : s.binds[b]? = some br) {b' : Nat} {br0 : BindRec}
    (h0 : s.binds[b']? = some br0) :
    ∃ br1, t.binds[b']? = some br1 ∧ br1.lhs = br0.lhs ∧ br1.lhsChange = br0.lhsChange ∧ br1.main = br0.main ∧
      br1.body = br0.body ∧ (b' ≠ b → br1.rhs = br0.rhs) := by
  by_cases e : b' = b
  · subst e
    rw [hb] at h0; cases h0
    exact ⟨_, M.bind, rfl, rfl, rfl, rfl, fun h => absurd rfl h⟩
  · obtain ⟨k1, k2⟩ := M.bindsOld b' br0 e h0
    by_cases hd : Dying s br.allNodesCreatedOnRhs br0.main
    · exact ⟨_, k1 hd, rfl, rfl, rfl, rfl, fun _ => rfl⟩
    · exact ⟨_, k2 hd, rfl, rfl, rfl, rfl, fun _ => rfl⟩

/-- the child list of a surviving node other than the bind's main node is unchanged -/
theorem children (M : MidRel2 env rk' n b rhs br l s t) {rk : Nat → Nat} (A : All2 env rk s [])
    (hb : s.binds[b]? = some br) {m : Nat}
    (hlt : m < s.nodes.size) (hd : ¬ Dying s br.allNodesCreatedOnRhs m) (hm : m ≠ br.main) :
    t.children m = s.children m := by
  have sn := A.node m hlt
  have k := M.nk m hlt hd
  unfold State.children Node.kind?
  rw [k.kind, k.valid]
  cases hv : (s.nodeD m).valid
  · rfl
  · simp only [if_true]
    cases hkd : (s.nodeD m).kind with
    | bindLhsChange b' =>
      dsimp only
      obtain ⟨br0, h0, -⟩ := sn.lcRec b' hkd
      obtain ⟨br1, h1, e1, -⟩ := M.bind_old hb h0
      rw [h0, h1]
      dsimp only
      rw [e1]
    | bindMain b' lc =>
      dsimp only
      obtain ⟨br0, h0, hm0, -⟩ := sn.mainRec b' lc hkd
      have e : b' ≠ b := by
        intro e; subst e
        rw [hb] at h0; cases h0
        exact hm hm0.symm
      obtain ⟨br1, h1, -, -, -, -, e5⟩ := M.bind_old hb h0
      rw [h0, h1]
      dsimp only
      rw [e5 e]
    | expert e => have := sn.kind; rw [hkd] at this; exact this.elim
    | _ => rfl

end MidRel2

namespace Mid2
variable {env : Env} {rk rk' : Nat → Nat} {n b rhs : Nat} {br : BindRec} {l : List Nat} {r : Option Nat}
  {s t s' : State}

theorem stab (X : Mid2 env rk rk' n b rhs br l r s t s') : s'.stabNum = s.stabNum :=
  X.step.stabNum.trans X.rel.stabNum

theorem nd (X : Mid2 env rk rk' n b rhs br l r s t s') (A : F2Inv env rk s) :
    ¬ Dying s br.allNodesCreatedOnRhs n := X.pre.n_notDying A

theorem md (X : Mid2 env rk rk' n b rhs br l r s t s') (A : F2Inv env rk s) :
    ¬ Dying s br.allNodesCreatedOnRhs br.main := X.pre.main_notDying A

/-- the four kinds of indices -/
theorem classes (_X : Mid2 env rk rk' n b rhs br l r s t s') (m : Nat) :
    (m < s.nodes.size ∧ ¬ Dying s br.allNodesCreatedOnRhs m) ∨ Dying s br.allNodesCreatedOnRhs m ∨
      (s.nodes.size ≤ m ∧ m < t.nodes.size) ∨ t.nodes.size ≤ m := by
  by_cases hd : Dying s br.allNodesCreatedOnRhs m
  · exact Or.inr (Or.inl hd)
  · by_cases h1 : m < s.nodes.size
    · exact Or.inl ⟨h1, hd⟩
    · by_cases h2 : m < t.nodes.size
      · exact Or.inr (Or.inr (Or.inl ⟨by omega, h2⟩))
      · exact Or.inr (Or.inr (Or.inr (by omega)))

/-- no stamp of `t` is in the future -/
theorem stampsT (X : Mid2 env rk rk' n b rhs br l r s t s') (I : DInv env s (some n)) (m : Nat) :
    (t.nodeD m).recomputedAt ≤ s.stabNum ∧ (t.nodeD m).changedAt ≤ s.stabNum := by
  have M := X.rel
  rcases X.classes m with ⟨h1, hd⟩ | hd | ⟨h1, h2⟩ | h1
  · by_cases e : m = n
    · subst e; rw [M.recN, M.chgN]; exact ⟨Int.le_refl _, Int.le_refl _⟩
    · rw [M.recO m h1 hd e, M.chgO m h1 hd e]; exact I.stamps.node m
  · obtain ⟨-, -, -, -, -, -, d6, d7, -⟩ := M.dead m hd
    exact ⟨d6, d7⟩
  · obtain ⟨-, -, c3, c4, -⟩ := M.new m h1 h2
    rw [c3, c4]
    have := I.stamps.now
    exact ⟨by omega, by omega⟩
  · rw [nodeD_default t m h1, ← nodeD_default s m (by have := M.grow; omega)]
    exact I.stamps.node m

/-- the last step changes no stamp at all (`n` was stamped by `started` and by `lhsRelink`) -/
theorem recT (X : Mid2 env rk rk' n b rhs br l r s t s') (m : Nat) :
    (s'.nodeD m).recomputedAt = (t.nodeD m).recomputedAt := by
  by_cases e : m = n
  · subst e; rw [X.step.recomputedAt, X.rel.recN, X.rel.stabNum]
  · exact (X.step.other m e).recomputedAt

theorem chgT (X : Mid2 env rk rk' n b rhs br l r s t s') (m : Nat) :
    (s'.nodeD m).changedAt = (t.nodeD m).changedAt := by
  by_cases e : m = n
  · subst e; rw [X.step.changedAt, if_pos rfl, X.rel.chgN, X.rel.stabNum]
  · exact (X.step.other m e).changedAt

theorem keyEq (X : Mid2 env rk rk' n b rhs br l r s t s') : BL.KeyEq t s' :=
  ⟨X.step.size, X.step.binds, X.step.vars, fun m => (X.step.shapes m).valid, fun m => (X.step.shapes m).kind,
    fun m => (X.step.shapes m).cutoff, fun m => (X.step.shapes m).createdIn, X.recT, X.chgT⟩

theorem staleT (X : Mid2 env rk rk' n b rhs br l r s t s') (m : Nat) : s'.isStale m = t.isStale m :=
  KeyEq2.isStale2 X.keyEq X.ginv.frag m

theorem childrenT (X : Mid2 env rk rk' n b rhs br l r s t s') (m : Nat) : s'.children m = t.children m :=
  KeyEq2.children2 X.keyEq X.ginv.frag m

theorem children_other (X : Mid2 env rk rk' n b rhs br l r s t s') (A : F2Inv env rk s) {m : Nat}
    (hlt : m < s.nodes.size) (hd : ¬ Dying s br.allNodesCreatedOnRhs m) (hm : m ≠ br.main) :
    s'.children m = s.children m :=
  (X.childrenT m).trans (X.rel.children A.frag X.pre.hb hlt hd hm)

theorem main_lt (X : Mid2 env rk rk' n b rhs br l r s t s') : br.main < t.nodes.size := by
  have := X.rel.grow; have := X.pre.hml; omega

/-- the main node is stale after phase 3 -/
theorem main_stale (X : Mid2 env rk rk' n b rhs br l r s t s') (A : F2Inv env rk s) :
    t.isStale br.main = true := by
  have N := X.ginv.frag.node br.main X.main_lt
  apply isStale_of_child X.validMain (c := n)
  · rw [X.kidsMain]; exact List.mem_cons_self ..
  · rw [X.rel.chgN, X.rel.recO br.main X.pre.hml (X.md A) X.pre.ne]; exact X.pre.hmr

/-- the change detector is not stale after phase 3 -/
theorem n_fresh (X : Mid2 env rk rk' n b rhs br l r s t s') (I : DInv env s (some n)) : t.isStale n = false := by
  have hlt : n < t.nodes.size := nec_lt_size X.necN
  apply isStale_fresh (X.ginv.frag.node n hlt).kind (by rw [X.rel.stabNum]; exact I.stamps.now)
    (by rw [X.rel.recN, X.rel.stabNum])
  · intro c vc h
    rw [X.rel.vars] at h
    rw [X.rel.stabNum]; exact I.stamps.var c vc h
  · intro c
    rw [X.rel.stabNum]; exact (X.stampsT I c).2

/-- the only recorded parent of `n` after phase 3 is the main node -/
theorem par_n (X : Mid2 env rk rk' n b rhs br l r s t s') (A : F2Inv env rk s)
    (hk : (s.nodeD n).kind = .bindLhsChange b)
    {p : Nat} (hp : p ∈ (t.nodeD n).parents.map (·.1)) : p = br.main := by
  obtain ⟨⟨p', i⟩, hmem, rfl⟩ := List.mem_map.1 hp
  obtain ⟨hci, -⟩ := X.ginv.par n p' i hmem
  have hpl := children_lt_size hci
  have N := X.ginv.frag.node p' hpl
  have hkp := N.lcChild n b (List.mem_of_getElem? hci)
    (by rw [(X.rel.nk n X.pre.hlt (X.nd A)).kind]; exact hk)
  obtain ⟨br', hb', hm', -⟩ := N.mainRec b n hkp
  rw [X.rel.bind] at hb'
  cases hb'
  exact hm'.symm

theorem main_par (X : Mid2 env rk rk' n b rhs br l r s t s') : br.main ∈ (t.nodeD n).parents.map (·.1) := by
  have h0 : (t.children br.main)[0]? = some n := by rw [X.kidsMain]; rfl
  exact List.mem_map.2 ⟨(br.main, 0), X.ginv.conv br.main 0 n h0 ((wants_closed rfl).2 X.necMain), rfl⟩

theorem rhs_ne (X : Mid2 env rk rk' n b rhs br l r s t s') : rhs ≠ n := by
  have := X.pre.hlt
  rcases X.rhsOK with ⟨-, h, -⟩ | ⟨h, -⟩
  · intro e; rw [e] at h; omega
  · omega

end Mid2

/-- **the run of a change detector in F2 satisfies `StepL2`** -/
theorem stepL2_of_mid {env : Env} {rk rk' : Nat → Nat} {n b rhs : Nat} {br : BindRec} {l : List Nat}
    {r : Option Nat} {s t s' : State}
    (I : DInv env s (some n)) (A : F2Inv env rk s) (hk : (s.nodeD n).kind = .bindLhsChange b)
    (X : Mid2 env rk rk' n b rhs br l r s t s') :
    StepL2 env n b br { { br with allNodesCreatedOnRhs := l } with rhs := some rhs } r s s' := by
  have R := X.step
  have M := X.rel
  have hmst := X.main_stale A
  have kn := M.nk n X.pre.hlt (X.nd A)
  refine
    { bind := X.pre.hb
      bind' := by rw [R.binds]; exact M.bind
      lc := ⟨X.pre.hlc, X.pre.hlc, rfl, rfl, rfl⟩
      bindsOld := ⟨by rw [R.binds]; exact M.bindsGrow, fun b' br0 e h0 => ?_⟩
      grow := by rw [R.size]; exact M.grow
      vars := R.vars.trans M.vars
      stabNum := X.stab
      graph' := R.graph X.graph
      heap' := R.heap
      stamps' := ⟨by rw [X.stab]; exact I.stamps.now, fun m => ?_, fun c vc h => ?_⟩
      qstale' := fun m hm => ?_
      pending' := fun m hn hs => ?_
      self := ?_
      old := fun m hm e => ?_
      new := fun m h1 h2 => ?_
      main := ⟨X.pre.hml, X.pre.hmem, by rw [X.childrenT, X.kidsMain]; exact List.mem_cons_self .., X.pre.ne⟩
      ret := fun p hp => ?_ }
  · -- the other old records
    rw [R.binds]
    obtain ⟨k1, k2⟩ := M.bindsOld b' br0 e h0
    by_cases hd : Dying s br.allNodesCreatedOnRhs br0.main
    · refine ⟨_, k1 hd, ⟨rfl, rfl, rfl, rfl, rfl⟩, fun hv => ?_⟩
      rw [(R.shapes _).valid, (M.dead _ hd).1] at hv; cases hv
    · exact ⟨_, k2 hd, BSame.refl _, fun _ => rfl⟩
  · -- stamps of the nodes
    rw [X.stab, X.recT, X.chgT]
    exact X.stampsT I m
  · -- stamps of the variables
    rw [R.vars, M.vars] at h
    rw [X.stab]; exact I.stamps.var c vc h
  · -- only stale nodes are queued
    rw [X.staleT]
    rcases R.newIn m hm with h1 | ⟨-, h1⟩
    · exact X.ginv.qstale m h1
    · rw [X.par_n A hk h1]; exact hmst
  · -- stale necessary nodes are queued or handed over
    rw [R.nec] at hn
    rw [X.staleT] at hs
    by_cases e : m = br.main
    · rw [e]; exact R.parentsIn rfl br.main X.main_par
    · left
      have hq := X.ginv.queued m rfl hn hs e
      by_cases e2 : m = n
      · exfalso
        rw [e2, X.n_fresh I] at hs; cases hs
      · exact (R.other m e2).inRch hq
  · -- the change detector itself
    refine ⟨by rw [R.recomputedAt, M.stabNum], by rw [R.changedAt, if_pos rfl, M.stabNum], R.value, ?_,
      (R.shapes n).kind.trans kn.kind, X.children_other A X.pre.hlt (X.nd A) (Ne.symm X.pre.ne),
      (R.shapes n).createdIn.trans kn.createdIn⟩
    rw [(R.shapes n).valid, kn.valid]; exact X.pre.hvn
  · -- the other old nodes
    by_cases hd : Dying s br.allNodesCreatedOnRhs m
    · left
      obtain ⟨k1, k2⟩ := X.pre.dying_below A hd
      exact ⟨k1, by rw [(R.shapes m).valid]; exact (M.dead m hd).1, k2⟩
    · right
      have k := M.nk m hm hd
      refine ⟨(R.shapes m).valid.trans k.valid, (R.shapes m).kind.trans k.kind,
        (R.shapes m).createdIn.trans k.createdIn, ?_, ?_, ?_, fun hm' => X.children_other A hm hd hm'⟩
      · rw [(R.other m e).value, k.value]
      · rw [(R.other m e).recomputedAt, M.recO m hm hd e]
      · rw [(R.other m e).changedAt, M.chgO m hm hd e]
  · -- the new nodes
    rw [R.size] at h2
    have e : m ≠ n := by have := X.pre.hlt; omega
    obtain ⟨c1, c2, c3, -⟩ := M.new m h1 h2
    refine ⟨(R.other m e).recomputedAt.trans c3, (R.shapes m).createdIn.trans c1, fun _ => ?_⟩
    rw [X.staleT]
    obtain ⟨k1, -⟩ := (X.ginv.frag.node m h2).inScope b c1
    exact isStale_pristine2 c2 k1 c3
  · -- the handed-over node
    obtain ⟨-, h1, h2, h3⟩ := R.ret p hp
    have hpm := X.par_n A hk h1
    subst hpm
    refine ⟨rfl, h2, by rw [R.nec]; exact X.necMain, fun m hm => ?_⟩
    have hcm := X.kidsMain
    rw [(R.shapes _).height, (R.shapes m).height]
    rcases h3 with ⟨h4, -⟩ | h4 | ⟨b', lc, -, h4, -⟩
    · rw [hcm] at h4; cases h4
    · exact h4 m hm
    · rw [hcm] at h4
      injection h4 with _ h5
      injection h5 with h6 _
      exact absurd h6 X.rhs_ne

end NC
end IncrVerif.Proofs.NestH
