import IncrVerif.Proofs.NestH59
import IncrVerif.Proofs.BindH99
/-!
# Nested binds (F2), part 5d1: `den2` is monotone in the fuel (and `denBody`, `denInstrs2` in the fuel, in `ev` and in `rec`)

The counterpart of BindH99 (`den_mono`) for nested binds.  Reused from `BindH.C3d`: `LeEv`, `LeVals`, `LeVals.refl`, `LeVals.snoc`, `evalArgs_mono`, `allSome_mono`, `denOpnd_mono`,
`denInstr_mono`.
-/
namespace IncrVerif.Proofs.NestH
open IncrVerif.Engine IncrVerif.Proofs IncrVerif.Proofs.Step IncrVerif.Proofs.Sched
open IncrVerif.Proofs.BindH

namespace N5d
open IncrVerif.Proofs.BindH.C3d

/-- `rec'` knows at least what `rec` knows -/
def LeRec (rec rec' : Nat → Val → Option Val) : Prop := ∀ b v w, rec b v = some w → rec' b v = some w

theorem LeRec.refl (rec : Nat → Val → Option Val) : LeRec rec rec := fun _ _ _ h => h

theorem LeEv.refl (ev : Nat → Option Val) : LeEv ev ev := fun _ _ h => h

/-- an instruction that is not a `bind` is evaluated as in F1 -/
theorem denInstr2_not_bind (env : Env) (ev : Nat → Option Val) (top : Array Nat) (rec : Nat → Val → Option Val) (v : Val)
    (V : List (Option Val)) (i : Instr) (h : ∀ b o, i ≠ .bind b o) :
    denInstr2 env ev top rec v V i = denInstr env ev top v V i := by
  cases i <;> first | rfl | exact absurd rfl (h _ _)

theorem denInstr2_bind (env : Env) (ev : Nat → Option Val) (top : Array Nat) (rec : Nat → Val → Option Val) (v : Val)
    (V : List (Option Val)) (b : Nat) (o : Opnd) :
    denInstr2 env ev top rec v V (.bind b o) = (denOpnd ev top V o).bind (rec b) := rfl

theorem denInstr2_mono (env : Env) {ev ev' : Nat → Option Val} (h : LeEv ev ev') (top : Array Nat)
    {rec rec' : Nat → Val → Option Val} (hr : LeRec rec rec') (v : Val)
    {V V' : List (Option Val)} (hV : LeVals V V') (i : Instr) (w : Val)
    (e : denInstr2 env ev top rec v V i = some w) : denInstr2 env ev' top rec' v V' i = some w := by
  by_cases hb : ∃ b o, i = .bind b o
  · obtain ⟨b, o, rfl⟩ := hb
    rw [denInstr2_bind] at e ⊢
    cases h1 : denOpnd ev top V o with
    | none => rw [h1] at e; cases e
    | some x =>
      rw [h1] at e
      rw [denOpnd_mono h top hV o x h1]
      exact hr b x w e
  · have hb' : ∀ b o, i ≠ .bind b o := fun b o e => hb ⟨b, o, e⟩
    rw [denInstr2_not_bind _ _ _ _ _ _ _ hb'] at e ⊢
    exact denInstr_mono env h top v hV i w e

theorem denInstrs2_mono (env : Env) {ev ev' : Nat → Option Val} (h : LeEv ev ev') (top : Array Nat)
    {rec rec' : Nat → Val → Option Val} (hr : LeRec rec rec') (v : Val) :
    ∀ (is : List Instr) {V V' : List (Option Val)}, LeVals V V' →
      LeVals (denInstrs2 env ev top rec v is V) (denInstrs2 env ev' top rec' v is V') := by
  intro is
  induction is with
  | nil => intro V V' hV; exact hV
  | cons i is ih =>
    intro V V' hV
    simp only [denInstrs2]
    exact ih (hV.snoc (fun w hw => denInstr2_mono env h top hr v hV i w hw))

/-- `denBody` is monotone in `ev` and in the fuel -/
theorem denBody_mono (env : Env) {ev ev' : Nat → Option Val} (h : LeEv ev ev') (top : Array Nat) :
    ∀ (k k' : Nat), k ≤ k' → LeRec (denBody env ev top k) (denBody env ev' top k') := by
  intro k
  induction k with
  | zero => intro k' _ b v w e; unfold denBody at e; cases e
  | succ k ih =>
    intro k' hk b v w e
    cases k' with
    | zero => omega
    | succ k' =>
      unfold denBody at e ⊢
      exact denOpnd_mono h top (denInstrs2_mono env h top (ih k' (by omega)) v _ (LeVals.refl [])) _ w e

theorem den2_mono_aux (env : Env) (s : State) :
    ∀ (k k' : Nat), k ≤ k' → ∀ n w, den2 env s k n = some w → den2 env s k' n = some w := by
  intro k
  induction k with
  | zero => intro k' _ n w e; unfold den2 at e; cases e
  | succ k ih =>
    intro k' hk n w e
    cases k' with
    | zero => omega
    | succ k' =>
      have hle : LeEv (den2 env s k) (den2 env s k') := fun a w ha => ih k' (by omega) a w ha
      unfold den2 at e ⊢
      cases hkd : (s.nodeD n).kind with
      | const c => rw [hkd] at e; exact e
      | var c => rw [hkd] at e; exact e
      | map f args =>
        rw [hkd] at e
        simp only at e ⊢
        cases h1 : evalArgs (fun a => den2 env s k a) args with
        | none => rw [h1] at e; cases e
        | some ws =>
          rw [h1] at e
          rw [evalArgs_mono hle args ws h1]
          exact e
      | fold f init cs =>
        rw [hkd] at e
        simp only at e ⊢
        cases h1 : evalArgs (fun a => den2 env s k a) cs with
        | none => rw [h1] at e; cases e
        | some ws =>
          rw [h1] at e
          rw [evalArgs_mono hle cs ws h1]
          exact e
      | bindLhsChange b => rw [hkd] at e; exact e
      | bindMain b lc =>
        rw [hkd] at e
        simp only at e ⊢
        cases hb : s.binds[b]? with
        | none => rw [hb] at e; cases e
        | some br =>
          rw [hb] at e
          simp only at e ⊢
          cases h1 : den2 env s k br.lhs with
          | none => rw [h1] at e; cases e
          | some v =>
            rw [h1] at e
            simp only at e
            rw [hle _ _ h1]
            exact denBody_mono env hle s.top k k' (by omega) br.body v w e
      | mapRef _ _ => rw [hkd] at e; cases e
      | mapWithOld _ _ => rw [hkd] at e; cases e
      | expert _ => rw [hkd] at e; cases e

end N5d

/-- more fuel does not change a result -/
theorem den2_mono {env : Env} {s : State} {k n : Nat} {w : Val} (h : den2 env s k n = some w) (k' : Nat)
    (hk : k ≤ k') : den2 env s k' n = some w :=
  N5d.den2_mono_aux env s k k' hk n w h

/-- more fuel and a better evaluator of the top-level nodes do not change the result of a closure -/
theorem denBody_mono2 {env : Env} {ev ev' : Nat → Option Val} (h : ∀ a w, ev a = some w → ev' a = some w) {top : Array Nat}
    {k body : Nat} {v w : Val} (e : denBody env ev top k body v = some w) (k' : Nat) (hk : k ≤ k') :
    denBody env ev' top k' body v = some w :=
  N5d.denBody_mono env h top k k' hk body v w e

end IncrVerif.Proofs.NestH
