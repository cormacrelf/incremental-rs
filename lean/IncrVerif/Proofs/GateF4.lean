import IncrVerif.Proofs.OnceF5
import IncrVerif.Proofs.GateF3
/-!
# C06, combined fragment, part 4: NON-VACUITY — the theorem applies at every `stabilise` of the example histories `exHistF` / `exHistG` of `C01Full`; the reasons for which
the nodes of some of these drains run, and the stamps after the round in which a cutoff suppresses a change, are computed by the kernel
-/
namespace IncrVerif.Proofs.GateF
open IncrVerif.Engine IncrVerif.Driver IncrVerif.Proofs IncrVerif.Proofs.Step IncrVerif.Proofs.Sched IncrVerif.Proofs.Quiet
open IncrVerif.Proofs.FullH IncrVerif.Proofs.TidyH IncrVerif.Proofs.BindH IncrVerif.Proofs.OnceF

/-- for the `stabilise` that follows the history `acts` (run from `State.init 128 true` in `fEnv`): the steps of its drain (`drainSteps` of the state `t2` reached by the two
observer phases — the `t2` of `GateStab`), each as (node, is it stale at that moment, its `recomputedAt` at that moment, its children that changed after it last ran) -/
def EX.whyAfter (acts : List Action) : Option (List (Nat × Bool × Int × List Nat)) :=
  match C2h.stateB fEnv acts with
  | none => none
  | some s =>
    match (addNewObservers fEnv fuelDefault).run.run { s with status := .stabilising } with
    | (.ok _, t1) =>
      match (unlinkDisallowedObservers fuelDefault).run.run t1 with
      | (.ok _, t2) => some ((drainSteps fEnv fuelDefault t2).map fun p =>
          (p.1, p.2.isStale p.1, (p.2.nodeD p.1).recomputedAt,
            (p.2.children p.1).filter fun c => (p.2.nodeD c).changedAt > (p.2.nodeD p.1).recomputedAt))
      | _ => none
    | _ => none

/-- `EX.whyAfter` as a function of the state after the history -/
def EX.whyOf : Option State → Option (List (Nat × Bool × Int × List Nat))
  | none => none
  | some s =>
    match (addNewObservers fEnv fuelDefault).run.run { s with status := .stabilising } with
    | (.ok _, t1) =>
      match (unlinkDisallowedObservers fuelDefault).run.run t1 with
      | (.ok _, t2) => some ((drainSteps fEnv fuelDefault t2).map fun p =>
          (p.1, p.2.isStale p.1, (p.2.nodeD p.1).recomputedAt,
            (p.2.children p.1).filter fun c => (p.2.nodeD c).changedAt > (p.2.nodeD p.1).recomputedAt))
      | _ => none
    | _ => none

/-- a shortcut: the search for equality on lists of optional lists of these rows is too large otherwise -/
instance : DecidableEq (Nat × Bool × Int × List Nat) := inferInstance

theorem EX.whyAfter_eq (acts : List Action) : EX.whyAfter acts = EX.whyOf (C2h.stateB fEnv acts) := by
  unfold EX.whyAfter EX.whyOf
  cases C2h.stateB fEnv acts <;> rfl

/-- C06 holds at every `stabilise` of `exHistF` -/
theorem exHistF_c06 {as bs : List Action} (e : exHistF = as ++ Action.stabilise :: bs) :
    ∃ s tk s1 tk1 s2, Quiet.runActions fEnv exHistF (State.init 128 true) #[] = .ok (s, tk) ∧
      Quiet.runActions fEnv as (State.init 128 true) #[] = .ok (s1, tk1) ∧
      (stabilise fEnv fuelDefault).run.run s1 = (.ok (), s2) ∧
      GateStab fEnv fuelDefault s1 s2 ∧ NeverLost s1 s2 ∧
      Quiet.runActions fEnv bs s2 tk1 = .ok (s, tk) := by
  obtain ⟨s, tk, s1, tk1, s2, h0, k1, Q, k3, k7⟩ := ex_at_stabilise exHistF_runs exHistF_frag e
  obtain ⟨a, b, -⟩ := stabilise_c06 fEnv_envS fEnv_first Q k3
  exact ⟨s, tk, s1, tk1, s2, h0, k1, k3, a, b, k7⟩

/-- C06 holds at every `stabilise` of `exHistG` -/
theorem exHistG_c06 {as bs : List Action} (e : exHistG = as ++ Action.stabilise :: bs) :
    ∃ s tk s1 tk1 s2, Quiet.runActions fEnv exHistG (State.init 128 true) #[] = .ok (s, tk) ∧
      Quiet.runActions fEnv as (State.init 128 true) #[] = .ok (s1, tk1) ∧
      (stabilise fEnv fuelDefault).run.run s1 = (.ok (), s2) ∧
      GateStab fEnv fuelDefault s1 s2 ∧ NeverLost s1 s2 ∧
      Quiet.runActions fEnv bs s2 tk1 = .ok (s, tk) := by
  obtain ⟨s, tk, s1, tk1, s2, h0, k1, Q, k3, k7⟩ := ex_at_stabilise exHistG_runs exHistG_frag e
  obtain ⟨a, b, -⟩ := stabilise_c06 fEnv_envS fEnv_first Q k3
  exact ⟨s, tk, s1, tk1, s2, h0, k1, k3, a, b, k7⟩

set_option maxRecDepth 100000 in
/-- why the nodes of three drains of `exHistF` run (kernel-checked).  Round 1 (after writing only the third component of the pair variable 0): the variable was written; the
map_ref node 5 and the map_ref node 12 because their child 0 changed; 13 because 12 changed; … — NOT 6, 7 (children of 5, whose projection is unchanged).  Round 2 (first
component written): now 6 runs because 5 changed, 7 because 6 changed.  Round 3 (the lhs flips): the change detector 3 because of the variable 1, the fresh node 14 because it
never ran (`recomputedAt = -1`), the main node 4 because of both. -/
theorem exHistF_why :
    EX.whyAfter (exHistF.take 7) = some [(0, true, 0, []), (5, true, 0, [0]), (12, true, 0, [0]), (13, true, 0, [12]), (10, true, 0, [13]),
      (11, true, 0, [10]), (4, true, 0, [11])] ∧
    EX.whyAfter (exHistF.take 9) = some [(0, true, 1, []), (5, true, 1, [0]), (6, true, 0, [5]), (7, true, 0, [6]), (12, true, 1, [0]),
      (8, true, 0, [7]), (11, true, 1, [8]), (4, true, 1, [11])] ∧
    EX.whyAfter (exHistF.take 11) = some [(1, true, 0, []), (3, true, 0, [1]), (14, true, -1, []), (4, true, 2, [3, 14])] := by
  simp only [EX.whyAfter_eq]
  have h := (EX.along_spec fEnv EX.whyOf exHistF [7, 9, 11] 0 (by decide)).symm.trans
    (show EX.along fEnv EX.whyOf [7, 9, 11] 0 exHistF (EX.runTo fEnv exHistF 0) =
      [some [(0, true, 0, []), (5, true, 0, [0]), (12, true, 0, [0]), (13, true, 0, [12]), (10, true, 0, [13]), (11, true, 0, [10]), (4, true, 0, [11])],
        some [(0, true, 1, []), (5, true, 1, [0]), (6, true, 0, [5]), (7, true, 0, [6]), (12, true, 1, [0]), (8, true, 0, [7]), (11, true, 1, [8]),
          (4, true, 1, [11])],
        some [(1, true, 0, []), (3, true, 0, [1]), (14, true, -1, []), (4, true, 2, [3, 14])]] by decide +kernel)
  simpa only [List.map_cons, List.map_nil, List.cons.injEq, and_true] using h

set_option maxRecDepth 100000 in
/-- the same for the second `stabilise` of `exHistG` (`depend_on`, after `set 2`): the fresh nodes 17, 18 of the new generation have never run, every other node has a child
that changed -/
theorem exHistG_why :
    EX.whyAfter (exHistG.take 12) = some [(2, true, 0, []), (6, true, 0, [2]), (12, true, 0, [2]), (17, true, -1, [0]), (18, true, -1, [17]),
      (11, true, 0, [2]), (13, true, 0, [12, 18]), (14, true, 0, [11]), (4, true, 0, [14]), (5, true, 0, [4, 2])] := by
  decide +kernel

set_option maxRecDepth 100000 in
set_option synthInstance.maxSize 1024 in
/-- THE GATE IS VISIBLE: the state after the second `stabilise` of `exHistF` (round 1; only the third component of the pair variable 0 was written), as
(`stabNum`, [(`recomputedAt`, `changedAt`, children, necessary) of the nodes 0, 5, 6, 7, 12, 13]): the variable 0 and the map_ref nodes 5 and 12 ran in round 1; the result of 5
(the first projection) is unchanged and ITS `changedAt` STAYS 0, so its necessary parent 6 and the machine 7 above it did NOT run (`recomputedAt = 0`); 12's projection
changed (`changedAt = 1`) and its necessary parent 13 ran (`recomputedAt = 1`) -/
theorem exHistF_gate :
    (C2h.stateB fEnv (exHistF.take 8)).map (fun s => (s.stabNum, [0, 5, 6, 7, 12, 13].map fun m =>
        ((s.nodeD m).recomputedAt, (s.nodeD m).changedAt, s.children m, s.isNecessary m))) =
      some (2, [(1, 1, [], true), (1, 0, [0], true), (0, 0, [5], true), (0, 0, [6], true), (1, 1, [0], true), (1, 1, [12], true)]) := by
  decide +kernel

end IncrVerif.Proofs.GateF
