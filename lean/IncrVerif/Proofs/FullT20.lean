import IncrVerif.Proofs.FullT16
import IncrVerif.Proofs.FullT18
import IncrVerif.Proofs.NestH87
/-!
# C04 combined fragment: THE OWN STEP OF A `map_with_old` NODE returns, and keeps the totality invariants
-/
namespace IncrVerif.Proofs.FullT
open IncrVerif.Engine IncrVerif.Proofs IncrVerif.Proofs.Step IncrVerif.Proofs.Sched IncrVerif.Proofs.Quiet IncrVerif.Proofs.FullH
open IncrVerif.Proofs.BindH (DInv BGraph StepRelB Edge Below TargetB ConsistentB BKind FrameB)
open IncrVerif.Proofs.NestH (AuxS2 Aux2 GenOK2 F2Inv DT HBo2 RhsRan Lim cnt)
open IncrVerif.Proofs.MapOldH (enc mwoX mwoX_nodeD mwoX_size MReach GoodMachine setValue_nodeD_with setValue_size setValue_changedAt)
open IncrVerif.Proofs.MapRefH (ValFrame)

variable {env : Env} {sp : Nat → Val → Val}

/-- **the own step of a `map_with_old` node returns** and keeps `PInv` -/
theorem step_mwo_returns {t s : State} {g : Nat → Option Val} {N fuel n m i : Nat}
    (D : DInvF env sp t s g (some n)) (hP : PInv s) (T : NestH.DT (VE env sp) N (virt g s)) (hroom : s.nodes.size ≤ N)
    (hk : (s.nodeD n).kind = .mapWithOld m i) (hf : s.nodes.size ≤ fuel) (hf1 : 1 ≤ fuel) :
    ∃ r s', (recomputeOne env fuel n).run.run s = (.ok r, s') ∧ PInv s' := by
  have F := D.frag
  have I := D.inv
  have gr := I.graph
  have hi := I.heap
  obtain ⟨hnnec, hltv, hnvv, -, -⟩ := I.cur_facts
  have hlt := F.lt_of_mwo hk
  have hnv : (s.nodeD n).valid = true := by rw [virt_nodeD, virtNode_valid] at hnvv; exact hnvv
  have hnm : ∀ p i', (s.nodeD n).kind ≠ .mapRef p i' := by intro p i'; rw [hk]; intro e; cases e
  -- the input
  have hci : i ∈ s.children n := by rw [children_mwo hnv hk]; exact List.mem_singleton.2 rfl
  obtain ⟨-, hsome⟩ := kids_settled D i hci
  obtain ⟨x, hxv⟩ := Option.isSome_iff_exists.1 hsome
  -- the master equation
  obtain ⟨es, hrun⟩ := MapOldH.recomputeOne_mwo_run env fuel n s (s.nodeD n) m i x (some_of_lt hlt) hnv hk hxv F.pc
  generalize env.withOld m (s.nodeD n).oldState (s.nodeD n).value x = w at hrun
  rw [hrun]
  have hXe : setWithOld n w.2.1 w.1 (logged es (started n s)) = mwoX n w.2.1 w.1 es s := rfl
  rw [hXe]
  have hX := fun k => mwoX_nodeD n k w.2.1 w.1 es s hlt
  have VF : ValFrame n s (mwoX n w.2.1 w.1 es s) := MW.mwoX_valFrame n w.2.1 w.1 es hlt
  have hXn : (mwoX n w.2.1 w.1 es s).nodeD n =
      { s.nodeD n with recomputedAt := s.stabNum, value := some w.2.1, oldState := w.1 } := by
    rw [hX, if_pos rfl]
  have pX : PInv (mwoX n w.2.1 w.1 es s) :=
    hP.of_nodeD VF.size VF.kind (fun k y hy => by rw [VF.parents] at hy; exact hy)
  cases hdid : w.2.2 with
  | false => exact ⟨none, _, run_mcvm_false .., pX⟩
  | true =>
    have FX : FFrag env sp g (mwoX n w.2.1 w.1 es s) := F.of_valFrame VF
    have hXk : ∀ p i', ((mwoX n w.2.1 w.1 es s).nodeD n).kind ≠ .mapRef p i' := by intro p i'; rw [VF.kind]; exact hnm p i'
    have mX : MRPV (mwoX n w.2.1 w.1 es s) := by
      have M := mrpv_of_bgraph gr
      intro c pr j p i' hkc hvc hx
      rw [VF.valid]
      exact M c pr j p i' (by rw [← VF.kind]; exact hkc) (by rw [← VF.valid]; exact hvc) (by rw [← VF.parents]; exact hx)
    have hUself : Upd n (virt g s) (virt g (mwoX n w.2.1 w.1 es s)) :=
      MW.mwoX_upd (virt g s) hlt F.pc (fun k => ⟨_, rfl⟩) (fun _ _ => rfl) (virt_size g s) rfl rfl rfl
    obtain ⟨rk, A, hb, H, L⟩ := T
    have R := L.room (s := virt g s) (by rw [virt_size]; exact hroom)
    obtain ⟨r, t', hv, -⟩ := NestH.T2b.tot_of_noerr (x := maybeChangeValueManual (VE env sp) fuel n none true true)
      (s := virt g (mwoX n w.2.1 w.1 es s)) fun e s' h =>
        NestH.T2b.mcvm_noerr_cur I (NestH.T2b.hmax_of gr hb R) hUself rfl hf1 h
    obtain ⟨s', hs', -, -, -, p'⟩ := (BSimAt.maybeChangeValueManual_stored (K := FK env sp) (g := g) (sp := sp) env fuel n none none true hXk
      (by rw [hXn]; rfl) mX (by rw [VF.size]; exact hf)).rev FX.fr pX hv
    exact ⟨r, s', hs', p'⟩

/-! ## the totality invariant `DT` through the step -/

/-- the patch device for `DT`: it does not read stored values -/
theorem DT.patch {env : Env} {N n : Nat} {S : State} (u : Option Val) (T : DT env N S) : DT env N (setValue n u S) := by
  obtain ⟨rk, A, hb, H, L⟩ := T
  refine ⟨rk, MW.F2Inv.patch u A, ?_, ?_, ⟨L.ahh, L.rch⟩⟩
  · intro m hm ho
    rw [MapOldH.setValue_isNecessary] at hm
    rw [(MapOldH.setValue_shape n u S m).height, MapOldH.setValue_size]
    exact hb m hm ho
  · intro b br hbr hv hrec
    rw [MW.setValue_valid] at hv
    rw [MapOldH.setValue_recomputedAt] at hrec
    exact H b br hbr hv hrec

/-- the frames of the step, seen from the patched pre-state -/
theorem vfr_patch {n : Nat} {S S' : State} (u : Option Val) (Fv : MR.VFr S S') : MR.VFr (setValue n u S) S' := by
  refine ⟨Fv.key, fun m => by rw [Fv.hah m, MW.setValue_heightInAhh], fun m => by rw [Fv.num m, MW.setValue_num], ?_⟩
  refine BindH.C2k.DK.trans ?_ Fv.dk
  refine ⟨rfl, rfl, rfl, rfl, rfl, rfl, rfl, rfl, fun h => ⟨fun m => by rw [← MW.setValue_num (n := n) u m]; exact h m, rfl⟩,
    by rw [MapOldH.setValue_size]; exact Nat.le_refl _, fun m _ => ?_, fun m h1 h2 => ?_⟩
  · obtain ⟨w, e⟩ := MapOldH.setValue_nodeD_with n u S m
    rw [e]; exact ⟨rfl, rfl, rfl⟩
  · rw [MapOldH.setValue_size] at h1; omega

/-- `DT` after a step described by `StepRelB` from a (possibly patched) pre-state -/
theorem dt_finish {env : Env} {N n : Nat} {v : Val} {ch : Bool} {r : Option Nat} {S P S' : State}
    (hP : P = S ∨ ∃ u, P = setValue n u S) (IP : DInv env P (some n)) (R : StepRelB n v ch r P S') (Fv : MR.VFr S S')
    (hk : ∀ b, (S.nodeD n).kind ≠ .bindLhsChange b) (T : DT env N S) : DT env N S' := by
  rcases hP with rfl | ⟨u, rfl⟩
  · exact dt_vstep T IP ⟨R, Fv.key, Fv.hah, Fv.num, Fv.dk⟩ hk
  · have Fp := vfr_patch (n := n) u Fv
    exact dt_vstep (DT.patch u T) IP ⟨R, Fp.key, Fp.hah, Fp.num, Fp.dk⟩
      (fun b => by rw [MapOldH.setValue_kind]; exact hk b)

/-- **the own step of a `map_with_old` node keeps the drain invariant and the totality invariant** -/
theorem step_mwo_dt {t s s' : State} {g : Nat → Option Val} {N fuel n m i : Nat} {r : Option Nat}
    (D : DInvF env sp t s g (some n)) (T : NestH.DT (VE env sp) N (virt g s)) (hk : (s.nodeD n).kind = .mapWithOld m i)
    (h : (recomputeOne env fuel n).run.run s = (.ok r, s')) :
    DInvF env sp t s' g r ∧ BindH.FrameB (virt g s) (virt g s') ∧ ((virt g s').nodeD n).recomputedAt = s.stabNum ∧
      ((virt g s').nodeD n).valid = true ∧ NestH.DT (VE env sp) N (virt g s') := by
  obtain ⟨c1, c2, c3, c4, Fv, P, v, ch, hP, IP, R⟩ := step_mwo D hk h
  have hkb : ∀ b, ((virt g s).nodeD n).kind ≠ .bindLhsChange b := by
    intro b; rw [virt_nodeD, virtNode_kind, hk]; intro e; cases e
  exact ⟨c1, c2, c3, c4, dt_finish hP IP R Fv hkb T⟩

end IncrVerif.Proofs.FullT
