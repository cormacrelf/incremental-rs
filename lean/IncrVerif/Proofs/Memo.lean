import IncrVerif.Proofs.Ownership
/-!
# Helper lemmas for C20 (`weak_memoize_fn`)

* `memoCall_run`: the closed form of a memoised call (hit / miss, with the fault hook `tick`).
* `Keep`: template elaboration without memoised calls logs nothing and leaves `currentScope`,
  `memos`, `panicCountdown` alone.
* `ScRel sc`: nodes created while the current scope is `sc` get `createdIn = sc` (or `.top`, for `var`);
  at top level no bind's `allNodesCreatedOnRhs` changes.
* `gcMemos`: the weak-table sweep at the end of `stabilise_end`.
-/
namespace IncrVerif.Proofs.Memo
open IncrVerif.Engine IncrVerif.Proofs.Obs

/-! ## the closed form of `memoCall` -/

theorem tick_run (s : State) : tick.run.run s = match s.panicCountdown with
    | none => (.ok (), s)
    | some k =>
      if k ≤ 1 then (.error (.site "user"), { s with panicCountdown := none })
      else (.ok (), { s with panicCountdown := some (k - 1) }) := by
  simp only [tick, run_bind, run_get]
  cases s.panicCountdown with
  | none => rfl
  | some k =>
    by_cases hk : k ≤ 1
    · simp only [hk, if_true, run_bind, run_modify]; rfl
    · simp only [hk, if_false, run_modify]

/-- the entry of memo table `m` under `key` -/
def stored (s : State) (m : Nat) (key : Int) : Option Nat := ((s.memos.lookup m).getD []).lookup key

/-- the stored node, if it is still allocated -/
def memoHit (s : State) (m : Nat) (key : Int) : Option Nat :=
  match stored s m key with
  | some n => if s.isAlive n then some n else none
  | none => none

/-- the one event a miss logs -/
def memoNote (m : Nat) (key : Int) : Event := .note s!"memo m{m} invoked {key}"

/-- a miss: the event is logged and the function body runs at top level -/
def memoStart (m : Nat) (key : Int) (s : State) : State :=
  { s with log := memoNote m key :: s.log, currentScope := .top }

/-- after the body returned `n`: the caller's scope is back and `n` is stored under `(m, key)` -/
def memoFinish (old : Scope) (m : Nat) (key : Int) (n : Nat) (s : State) : State :=
  { s with currentScope := old,
           memos := (m, (key, n) :: ((s.memos.lookup m).getD []).filter (·.1 != key))
                      :: s.memos.filter (·.1 != m) }

theorem memoCall_run (env : Env) (m : Nat) (key : Int) (s : State) :
    (memoCall env m key).run.run s = match memoHit s m key with
      | some n => (.ok n, s)
      | none => match tick.run.run s with
        | (.error e, s1) => (.error e, s1)
        | (.ok _, s1) =>
          match (elabTemplateBase (env.memo m) (.int key)).run.run (memoStart m key s1) with
          | (.ok n, s2) => (.ok n, memoFinish s1.currentScope m key n s2)
          | (.error e, s2) => (.error e, s2) := by
  have hjp : ∀ s0 : State, (do
      tick
      logEv (memoNote m key)
      let __do_lift ← get
      let old := __do_lift.currentScope
      modify fun s => { s with currentScope := .top }
      let n ← elabTemplateBase (env.memo m) (Val.int key)
      modify fun s => { s with currentScope := old }
      modify fun s => { s with memos :=
        (m, (key, n) :: ((s.memos.lookup m).getD []).filter (·.1 != key)) :: s.memos.filter (·.1 != m) }
      pure n : M Nat).run.run s0 = match tick.run.run s0 with
        | (.error e, s1) => (.error e, s1)
        | (.ok _, s1) =>
          match (elabTemplateBase (env.memo m) (.int key)).run.run (memoStart m key s1) with
          | (.ok n, s2) => (.ok n, memoFinish s1.currentScope m key n s2)
          | (.error e, s2) => (.error e, s2) := by
    intro s0
    rw [run_bind]
    rcases tick.run.run s0 with ⟨_ | _, s1⟩
    · rfl
    · simp only [logEv, run_bind, run_modify, run_get, memoStart, memoNote]
      split <;> (rename_i heq; rw [heq]; try rfl)
  unfold memoCall
  simp only [run_bind, run_get, memoHit, stored]
  cases hst : List.lookup key ((List.lookup m s.memos).getD []) with
  | none => exact hjp s
  | some n =>
    by_cases ha : s.isAlive n = true
    · simp only [ha, if_true, run_pure]
    · simp only [ha, Bool.false_eq_true, if_false]
      exact hjp s

/-! ## template elaboration (without memoised calls) is silent -/

/-- no event, no scope change, no memo table change, the fault hook untouched -/
def Keep (s s' : State) : Prop :=
  s'.log = s.log ∧ s'.currentScope = s.currentScope ∧ s'.memos = s.memos ∧
    s'.panicCountdown = s.panicCountdown

instance : PreOrd Keep :=
  ⟨fun _ => ⟨rfl, rfl, rfl, rfl⟩,
   fun h1 h2 => ⟨h2.1.trans h1.1, h2.2.1.trans h1.2.1, h2.2.2.1.trans h1.2.2.1, h2.2.2.2.trans h1.2.2.2⟩⟩

/-- the writes of the log, the current scope, the memo tables and the fault hook -/
def keepBreaks : List Footprint.Tag := [.logInv, .logCb, .logCut, .logNotif, .logNote, .currentScope, .memos, .panicCountdown, .arm]

theorem Keep.of_edit {L w s s'} (hL : ∀ t ∈ L, t ∉ keepBreaks) (e : Footprint.Edit L w s s') : Keep s s' := by
  cases e <;> first
    | exact ⟨rfl, rfl, rfl, rfl⟩
    | exact absurd (hL _ ‹_›) (by decide)
    | (rename_i hf; cases hf <;> exact absurd (hL _ ‹_›) (by decide))

theorem keep_elabTemplateBase (t lhs init) : Pres Keep (elabTemplateBase t lhs init) :=
  ((Footprint.Foot.elabTemplateBase t lhs init).frame fun e => Keep.of_edit (by decide) e).toObs

/-! ## which scope the created nodes belong to -/

/-- the nodes registered as "created on the right-hand side" of bind `b` (what re-running the bind
invalidates) -/
def rhsNodes (s : State) (b : Nat) : List Nat :=
  ((s.binds[b]?).map (·.allNodesCreatedOnRhs)).getD []

/-- the step created nodes in scope `sc` (or at top level) only, left the scope of the existing nodes
and the current scope alone and, when `sc` is the top level, registered nothing with any bind -/
structure ScFacts (sc : Scope) (s s' : State) : Prop where
  scope : s'.currentScope = s.currentScope
  nodesLe : s.nodes.size ≤ s'.nodes.size
  old : ∀ i, i < s.nodes.size → (s'.nodeD i).createdIn = (s.nodeD i).createdIn
  new : ∀ i, s.nodes.size ≤ i → i < s'.nodes.size →
    (s'.nodeD i).createdIn = sc ∨ (s'.nodeD i).createdIn = .top
  binds : sc = .top → ∀ b, rhsNodes s' b = rhsNodes s b

theorem ScFacts.refl (sc : Scope) (s : State) : ScFacts sc s s :=
  ⟨rfl, Nat.le_refl _, fun _ _ => rfl, fun i h1 h2 => absurd h2 (by omega), fun _ _ => rfl⟩

theorem ScFacts.trans {sc : Scope} {a b c : State} (h1 : ScFacts sc a b) (h2 : ScFacts sc b c) :
    ScFacts sc a c where
  scope := h2.scope.trans h1.scope
  nodesLe := Nat.le_trans h1.nodesLe h2.nodesLe
  old i hi := (h2.old i (Nat.lt_of_lt_of_le hi h1.nodesLe)).trans (h1.old i hi)
  new i hi1 hi2 := by
    by_cases hb : i < b.nodes.size
    · rw [h2.old i hb]; exact h1.new i hi1 hb
    · exact h2.new i (by omega) hi2
  binds hsc b' := (h2.binds hsc b').trans (h1.binds hsc b')

instance (sc : Scope) : PreOrd (ScFacts sc) := ⟨ScFacts.refl sc, ScFacts.trans⟩

theorem ScFacts.of_eq {sc : Scope} {s s' : State} (h1 : s'.currentScope = s.currentScope)
    (h2 : s'.nodes = s.nodes) (h3 : s'.binds = s.binds) : ScFacts sc s s' :=
  ⟨h1, by rw [h2]; exact Nat.le_refl _, fun i _ => by simp only [State.nodeD, h2],
   fun i hi1 hi2 => absurd hi2 (by rw [h2]; omega), fun _ b => by simp only [rhsNodes, h3]⟩

theorem ScFacts.of_push {sc : Scope} {s s' : State} (nd : Node)
    (h1 : s'.currentScope = s.currentScope) (h2 : s'.nodes = s.nodes.push nd)
    (hnd : nd.createdIn = sc ∨ nd.createdIn = .top) (h3 : sc = .top → s'.binds = s.binds) :
    ScFacts sc s s' where
  scope := h1
  nodesLe := by rw [h2, Array.size_push]; omega
  old i hi := by simp only [State.nodeD, h2, Array.getElem?_push, Nat.ne_of_lt hi, if_false]
  new i hi1 hi2 := by
    rw [h2, Array.size_push] at hi2
    have : i = s.nodes.size := by omega
    subst this
    simpa only [State.nodeD, h2, Array.getElem?_push, if_true, Option.getD_some] using hnd
  binds hsc b := by simp only [rhsNodes, h3 hsc]

theorem ScFacts.of_modNode {sc : Scope} (s : State) (n : Nat) (f : Node → Node)
    (hf : ∀ x, (f x).createdIn = x.createdIn) :
    ScFacts sc s { s with nodes := s.nodes.modify n f } where
  scope := rfl
  nodesLe := by simp
  old i _ := by
    simp only [State.nodeD, Array.getElem?_modify]
    split
    · cases s.nodes[i]? <;> simp [hf]
    · rfl
  new i hi1 hi2 := absurd hi2 (by simp; omega)
  binds _ _ := rfl

theorem ScFacts.of_modBind {sc : Scope} (s : State) (b : Nat) (f : BindRec → BindRec)
    (hf : ∀ x, (f x).allNodesCreatedOnRhs = x.allNodesCreatedOnRhs) :
    ScFacts sc s { s with binds := s.binds.modify b f } where
  scope := rfl
  nodesLe := Nat.le_refl _
  old _ _ := rfl
  new i hi1 hi2 := absurd hi2 (by show ¬ i < s.nodes.size; omega)
  binds _ b' := by
    simp only [rhsNodes, Array.getElem?_modify]
    split
    · cases s.binds[b']? <;> simp [hf]
    · rfl

theorem ScFacts.of_pushBind {sc : Scope} (s : State) (br : BindRec)
    (hbr : br.allNodesCreatedOnRhs = []) :
    ScFacts sc s { s with binds := s.binds.push br } where
  scope := rfl
  nodesLe := Nat.le_refl _
  old _ _ := rfl
  new i hi1 hi2 := absurd hi2 (by show ¬ i < s.nodes.size; omega)
  binds _ b' := by
    simp only [rhsNodes, Array.getElem?_push]
    split
    · rename_i h; subst h; simp [hbr]
    · rfl

/-- leaves of the walk below -/
local syntax "pres_leaf" : tactic
/-- one structural step -/
local macro "pres_step" : tactic => `(tactic| first
  | with_reducible apply Pres.pure | with_reducible apply Pres.get | with_reducible apply Pres.panic | with_reducible apply Pres.throw
  | pres_leaf
  | with_reducible apply Pres.bind | with_reducible apply Pres.map | with_reducible apply Pres.mapM | intro _ | split | dsimp only)
/-- decompose a `Pres (ScFacts sc)` goal along the structure of the program: which scope a created node gets is known where it is created, so
this frame is no corollary of the footprint -/
local macro "pres" : tactic => `(tactic| repeat (any_goals pres_step))
local macro_rules | `(tactic| pres_leaf) => `(tactic| with_reducible apply Pres.getNode)
local macro_rules | `(tactic| pres_leaf) => `(tactic| with_reducible apply Pres.getVar)
local macro_rules | `(tactic| pres_leaf) => `(tactic| with_reducible apply Pres.getBind)
local macro_rules | `(tactic| pres_leaf) => `(tactic| with_reducible apply Pres.getExpert)
local macro_rules | `(tactic| pres_leaf) => `(tactic| with_reducible apply Pres.dassert)
local macro_rules | `(tactic| pres_leaf) => `(tactic| with_reducible apply Pres.assertM)
local macro_rules | `(tactic| pres_leaf) => `(tactic| with_reducible apply Pres.isConstant)
local macro_rules | `(tactic| pres_leaf) => `(tactic| with_reducible apply Pres.resolveOpnd)

/-- a `modify` that leaves `currentScope`, `nodes`, `binds` alone -/
local macro "sc_modify" : tactic =>
  `(tactic| ((with_reducible apply Pres.modify); intro _; exact ScFacts.of_eq rfl rfl rfl))

theorem sc_bumpCounter (sc f) : Pres (ScFacts sc) (bumpCounter f) := by unfold bumpCounter; sc_modify
theorem sc_modExpert (sc b f) : Pres (ScFacts sc) (modExpert b f) := by unfold modExpert; sc_modify
theorem sc_modNode (sc n f) (hf : ∀ x, (f x).createdIn = x.createdIn) :
    Pres (ScFacts sc) (modNode n f) := by
  unfold modNode; exact Pres.modify fun s => ScFacts.of_modNode s n f hf
theorem sc_modBind (sc b f) (hf : ∀ x, (f x).allNodesCreatedOnRhs = x.allNodesCreatedOnRhs) :
    Pres (ScFacts sc) (modBind b f) := by
  unfold modBind; exact Pres.modify fun s => ScFacts.of_modBind s b f hf

/-- `createNode … sc'` with `sc'` the scope under consideration, or the top level -/
theorem sc_createNode (sc : Scope) (k : Kind) (sc' : Scope) (c : CutoffK)
    (h : sc' = sc ∨ sc' = .top) : Pres (ScFacts sc) (createNode k sc' c) := by
  refine ⟨fun s r s' hrun => ?_⟩
  unfold createNode at hrun
  cases sc' with
  | top =>
    simp only [bumpCounter, run_bind, run_get, run_modify, run_pure] at hrun
    cases hrun
    exact ScFacts.of_push _ rfl rfl (by simp) (fun _ => rfl)
  | bind b =>
    simp only [bumpCounter, modBind, run_bind, run_get, run_modify, run_pure] at hrun
    cases hrun
    refine ScFacts.of_push _ rfl rfl (by simpa using h) (fun hsc => ?_)
    rcases h with h | h
    · rw [hsc] at h; cases h
    · cases h

theorem sc_createVar (sc : Scope) (v : Val) (sc' : Scope) (h : sc' = sc ∨ sc' = .top) :
    Pres (ScFacts sc) (createVar v sc') := by
  unfold createVar
  exact Pres.bind Pres.get fun _ => Pres.bind (sc_createNode sc _ _ _ h) fun _ =>
    Pres.bind (by sc_modify) fun _ => Pres.pure _

local macro_rules | `(tactic| pres_leaf) => `(tactic| (with_reducible apply sc_createNode; first | exact .inl rfl | exact .inr rfl))
local macro_rules | `(tactic| pres_leaf) => `(tactic| (with_reducible apply sc_createVar; first | exact .inl rfl | exact .inr rfl))
local macro_rules | `(tactic| pres_leaf) => `(tactic| with_reducible apply sc_modExpert)
local macro_rules | `(tactic| pres_leaf) => `(tactic| with_reducible apply sc_bumpCounter)
local macro_rules | `(tactic| pres_leaf) => `(tactic| ((with_reducible apply sc_modNode); intro _; rfl))
local macro_rules | `(tactic| pres_leaf) => `(tactic| ((with_reducible apply sc_modBind); intro _; rfl))
local macro_rules | `(tactic| pres_leaf) => `(tactic| sc_modify)

/-- `createBind` reads the current scope itself: both of its nodes get it -/
theorem createBind_sc (body lhs : Nat) (s s' : State) (r)
    (hrun : (createBind body lhs).run.run s = (r, s')) : ScFacts s.currentScope s s' := by
  unfold createBind at hrun
  rw [run_bind, run_get] at hrun
  dsimp only at hrun
  refine Pres.h (R := ScFacts s.currentScope) ?_ s r s' hrun
  refine Pres.bind (Pres.modify fun s0 => ScFacts.of_pushBind s0 _ rfl) fun _ => ?_
  pres

theorem elabInstr_sc (loc : List Nat) (lhsVal : Val) (i : Instr) (s s' : State) (r)
    (hrun : (elabInstr loc lhsVal i).run.run s = (r, s')) : ScFacts s.currentScope s s' := by
  unfold elabInstr at hrun
  rw [run_bind, run_get] at hrun
  dsimp only at hrun
  cases i
  all_goals dsimp only at hrun
  case bind body lhs =>
    rw [run_bind, Own.resolveOpnd_run] at hrun
    cases hres : Own.resolve s loc lhs with
    | error e => rw [hres] at hrun; cases hrun; exact ScFacts.refl _ _
    | ok a =>
      rw [hres] at hrun
      dsimp only at hrun
      rw [map_eq_pure_bind, run_bind] at hrun
      rcases hcb : (createBind body a).run.run s with ⟨_ | n, s1⟩
      · rw [hcb] at hrun; cases hrun; exact createBind_sc _ _ _ _ _ hcb
      · rw [hcb] at hrun; cases hrun; exact createBind_sc _ _ _ _ _ hcb
  all_goals exact Pres.h (R := ScFacts s.currentScope) (by pres) s r s' hrun

/-- `ScFacts sc`, for runs that start with current scope `sc` -/
def ScRel (sc : Scope) (s s' : State) : Prop := s.currentScope = sc → ScFacts sc s s'

instance (sc : Scope) : PreOrd (ScRel sc) :=
  ⟨fun s _ => ScFacts.refl sc s,
   fun h1 h2 ha => (h1 ha).trans (h2 ((h1 ha).scope.trans ha))⟩

theorem screl_elabInstr (sc loc lhsVal i) : Pres (ScRel sc) (elabInstr loc lhsVal i) :=
  ⟨fun s r s' hrun hs => hs ▸ elabInstr_sc loc lhsVal i s s' r hrun⟩

theorem screl_elabTemplateBase (sc t lhs init) : Pres (ScRel sc) (elabTemplateBase t lhs init) := by
  unfold elabTemplateBase
  refine Pres.bind (Pres.forIn fun a b => ?_) fun _ => Pres.resolveOpnd _ _
  refine Pres.bind (screl_elabInstr sc _ _ _) fun r => ?_
  split <;> exact Pres.pure _

/-- a template (without memoised calls) elaborated while the current scope is `sc`: every node it
creates belongs to `sc` (or to the top level: `var`) -/
theorem elabTemplateBase_sc (t : Template) (lhs : Val) (init : List Nat) (s s' : State) (r)
    (hrun : (elabTemplateBase t lhs init).run.run s = (r, s')) : ScFacts s.currentScope s s' :=
  (screl_elabTemplateBase s.currentScope t lhs init).h s r s' hrun rfl

/-- what a memoised call may do to the node table and to the binds' registrations: it appends nodes,
all of them created in the top-level scope; existing nodes keep their scope; no bind's
`allNodesCreatedOnRhs` changes -/
structure NewTop (s s' : State) : Prop where
  nodesLe : s.nodes.size ≤ s'.nodes.size
  old : ∀ i, i < s.nodes.size → (s'.nodeD i).createdIn = (s.nodeD i).createdIn
  new : ∀ i, s.nodes.size ≤ i → i < s'.nodes.size → (s'.nodeD i).createdIn = .top
  binds : ∀ b, rhsNodes s' b = rhsNodes s b

theorem NewTop.of_eq {s s' : State} (h2 : s'.nodes = s.nodes) (h3 : s'.binds = s.binds) : NewTop s s' :=
  ⟨by rw [h2]; exact Nat.le_refl _, fun i _ => by simp only [State.nodeD, h2],
   fun i hi1 hi2 => absurd hi2 (by rw [h2]; omega), fun b => by simp only [rhsNodes, h3]⟩

theorem NewTop.of_scFacts {s0 s s2 s' : State} (h : ScFacts .top s0 s2) (h1 : s0.nodes = s.nodes)
    (h2 : s0.binds = s.binds) (h3 : s'.nodes = s2.nodes) (h4 : s'.binds = s2.binds) : NewTop s s' where
  nodesLe := by rw [h3, ← h1]; exact h.nodesLe
  old i hi := by
    have := h.old i (by rw [h1]; exact hi)
    simpa only [State.nodeD, h3, h1] using this
  new i hi1 hi2 := by
    have := h.new i (by rw [h1]; exact hi1) (by rw [← h3]; exact hi2)
    simpa only [State.nodeD, h3, or_self] using this
  binds b := by
    have := h.binds rfl b
    simpa only [rhsNodes, h4, h2] using this

theorem tick_frame (s s1 : State) (r) (h : tick.run.run s = (r, s1)) :
    s1.nodes = s.nodes ∧ s1.binds = s.binds := by
  rw [tick_run] at h
  split at h
  · cases h; exact ⟨rfl, rfl⟩
  · split at h <;> cases h <;> exact ⟨rfl, rfl⟩

theorem memoCall_newTop (env : Env) (m : Nat) (key : Int) (s s' : State) (r)
    (hrun : (memoCall env m key).run.run s = (r, s')) : NewTop s s' := by
  rw [memoCall_run] at hrun
  split at hrun
  · cases hrun; exact NewTop.of_eq rfl rfl
  · rcases ht : tick.run.run s with ⟨_ | _, s1⟩
    · rw [ht] at hrun; cases hrun
      have := tick_frame s _ _ ht
      exact NewTop.of_eq this.1 this.2
    · rw [ht] at hrun
      have hf := tick_frame s _ _ ht
      dsimp only at hrun
      rcases he : (elabTemplateBase (env.memo m) (.int key)).run.run (memoStart m key s1) with ⟨_ | n, s2⟩
      · rw [he] at hrun; cases hrun
        exact NewTop.of_scFacts (elabTemplateBase_sc _ _ _ _ _ _ he) hf.1 hf.2 rfl rfl
      · rw [he] at hrun; cases hrun
        exact NewTop.of_scFacts (elabTemplateBase_sc _ _ _ _ _ _ he) hf.1 hf.2 rfl rfl

/-! ## the weak tables are swept at the end of a stabilisation -/

/-- `garbage_collect`: the entries whose node is no longer in `alive` are dropped from every table -/
def gcMemos (alive : List Nat) (memos : List (Nat × List (Int × Nat))) : List (Nat × List (Int × Nat)) :=
  memos.map fun (m, tbl) => (m, tbl.filter fun (_, n) => alive.contains n)

/-- the sweep as a state transformer (the last but one step of `stabiliseEnd`) -/
def gcStep (s : State) : State := { s with memos := gcMemos s.aliveSet s.memos }

theorem gcMemos_lookup (alive : List Nat) (memos : List (Nat × List (Int × Nat))) (m : Nat) :
    (gcMemos alive memos).lookup m = (memos.lookup m).map (·.filter fun e => alive.contains e.2) := by
  induction memos with
  | nil => rfl
  | cons e rest ih =>
    obtain ⟨m', tbl⟩ := e
    simp only [gcMemos, List.map_cons, List.lookup_cons] at ih ⊢
    cases h : m == m'
    · simpa [gcMemos] using ih
    · rfl

theorem bind_ok_post {α β} {x : M α} {f : α → M β} {Q : State → Prop}
    (hf : ∀ a s r s', (f a).run.run s = (.ok r, s') → Q s') :
    ∀ s r s', (x >>= f).run.run s = (.ok r, s') → Q s' := by
  intro s r s' h
  rw [run_bind] at h
  rcases hx : x.run.run s with ⟨_ | a, s1⟩
  · rw [hx] at h; cases h
  · rw [hx] at h; exact hf a s1 r s' h

theorem gc_tail (f g : State → State) :
    ∀ s r s', ((modify f : M Unit) >>= fun _ => (modify g : M Unit)).run.run s = (.ok r, s') →
      ∃ s1, s' = g (f s1) := by
  intro s r s' h
  rw [run_bind, run_modify] at h
  exact ⟨s, by cases h; rfl⟩

/-- a stabilisation that returns ends with the sweep (followed only by the status flip) -/
theorem stabiliseEnd_gc (env : Env) (fuel : Nat) :
    ∀ s r s', (stabiliseEnd env fuel).run.run s = (.ok r, s') →
      ∃ s1, s' = { gcStep s1 with status := .notStabilising } := by
  unfold stabiliseEnd
  repeat (first
    | exact gc_tail gcStep (fun s => { s with status := .notStabilising })
    | (refine bind_ok_post fun _ => ?_)
    | dsimp only)

/-! ## a miss, when no fault is armed -/

theorem memoCall_miss (env : Env) (m : Nat) (key : Int) (s : State) (hmiss : memoHit s m key = none)
    (hp : s.panicCountdown = none) :
    (memoCall env m key).run.run s =
      match (elabTemplateBase (env.memo m) (.int key)).run.run (memoStart m key s) with
      | (.ok n, s2) => (.ok n, memoFinish s.currentScope m key n s2)
      | (.error e, s2) => (.error e, s2) := by
  rw [memoCall_run, hmiss, tick_run, hp]

theorem stored_memoFinish (old : Scope) (m : Nat) (key : Int) (n : Nat) (s : State) :
    stored (memoFinish old m key n s) m key = some n := by
  simp [stored, memoFinish]

theorem memoCall_miss_ok (env : Env) (m : Nat) (key : Int) (s s' : State) (n : Nat)
    (hmiss : memoHit s m key = none) (hp : s.panicCountdown = none)
    (hrun : (memoCall env m key).run.run s = (.ok n, s')) :
    s'.currentScope = s.currentScope ∧ s'.log = memoNote m key :: s.log ∧ stored s' m key = some n := by
  rw [memoCall_miss env m key s hmiss hp] at hrun
  rcases he : (elabTemplateBase (env.memo m) (.int key)).run.run (memoStart m key s) with ⟨_ | n', s2⟩
  · rw [he] at hrun; cases hrun
  · rw [he] at hrun; cases hrun
    have hk := (keep_elabTemplateBase _ _ _).h _ _ _ he
    exact ⟨rfl, hk.1, stored_memoFinish _ _ _ _ _⟩

/-! ## concrete states for the non-vacuity examples of `Props/C20.lean` -/

/-- memo function 3 builds one constant and returns it -/
def exEnvMemo : Env := { Obs.exEnv with memo := fun _ => { instrs := [.const (.int 7)], ret := .loc 0 } }

/-- inside the right-hand side of bind 0 (current scope `.bind 0`), nothing memoised yet -/
def exInBind : State :=
  { State.init 4 with
    nodes := #[{ kind := .const .unit, createdIn := .top }],
    binds := #[{ lhs := 0, body := 0 }],
    currentScope := .bind 0, handles := [0], top := #[0] }

/-- `exInBind` after the call `m3(5)` returned node 1 and the program kept a handle on it -/
def exMemoised : State :=
  { exInBind with
    nodes := #[{ kind := .const .unit, createdIn := .top }, { kind := .const (.int 7), createdIn := .top }],
    memos := [(3, [(5, 1)])], handles := [1, 0] }

end IncrVerif.Proofs.Memo
