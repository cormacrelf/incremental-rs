import IncrVerif.Proofs.CutH7
/-!
# Whole-history theorem for static programs, part 1: the structural invariant

Definitions:
* `AllStatic env s`: the fragment — every node is valid, of static kind (`const`, `var`, pure `map`, `fold`),
  has the default cutoff, was created at top level, is not forced necessary, and its children were
  created before it; no fault armed; the current scope is the top level.
* `Op`, `Wants`, `GInv env s op`: the structural invariant *with open nodes*.  `op n = .linking k`: node
  `n` is inside `becameNecessary`, exactly its first `k` child edges are recorded; `op n = .unlinking k`:
  `n` is inside `becameUnnecessary`, exactly its child edges from index `k` on are still recorded;
  `op n = .closed`: exactly the child edges of necessary nodes are recorded.
* `Struct env s := GInv env s (fun _ => .closed)`: the invariant at rest.  It implies the structural fields
  of `Sched.Graph` and `Sched.HeapInv`.
-/
namespace IncrVerif.Proofs.Quiet
open IncrVerif.Engine IncrVerif.Proofs IncrVerif.Proofs.Step IncrVerif.Proofs.Sched

/-! ## the fragment -/

structure StaticNode (env : Env) (s : State) (n : Nat) : Prop where
  valid : (s.nodeD n).valid = true
  kind : StaticKind env (s.nodeD n).kind
  cutoff : (s.nodeD n).cutoff = .eq
  top : (s.nodeD n).createdIn = .top
  force : (s.nodeD n).forceNecessary = false
  kidsLt : ∀ c, c ∈ kids (s.nodeD n).kind → c < n

structure AllStatic (env : Env) (s : State) : Prop where
  pc : s.panicCountdown = none
  scope : s.currentScope = .top
  node : ∀ n, n < s.nodes.size → StaticNode env s n

/-! ## open nodes -/

inductive Op where
  | closed
  | linking (k : Nat)
  | unlinking (k : Nat)
deriving DecidableEq, Repr

/-- should the child edge `i` of node `p` be recorded (in the parent list of the child)? -/
def Wants (s : State) (op : Nat → Op) (p i : Nat) : Prop :=
  match op p with
  | .closed => s.isNecessary p = true
  | .linking k => i < k
  | .unlinking k => k ≤ i

def upd (op : Nat → Op) (n : Nat) (x : Op) : Nat → Op := fun m => if m = n then x else op m

theorem upd_self (op : Nat → Op) (n : Nat) (x : Op) : upd op n x n = x := by simp [upd]
theorem upd_other (op : Nat → Op) (n : Nat) (x : Op) {m : Nat} (h : m ≠ n) : upd op n x m = op m := by
  simp [upd, h]
theorem upd_upd (op : Nat → Op) (n : Nat) (x y : Op) : upd (upd op n x) n y = upd op n y := by
  funext m; simp only [upd]; split <;> rfl
theorem upd_eq_self (op : Nat → Op) (n : Nat) (x : Op) (h : op n = x) : upd op n x = op := by
  funext m; simp only [upd]; split
  · rename_i e; rw [e, h]
  · rfl
theorem upd_comm (op : Nat → Op) {n m : Nat} (x y : Op) (h : n ≠ m) :
    upd (upd op n x) m y = upd (upd op m y) n x := by
  funext k; simp only [upd]
  by_cases h1 : k = m <;> by_cases h2 : k = n <;> simp only [h1, h2, if_true, if_false]
  · subst h1; subst h2; exact absurd rfl h
  · rw [← h1, if_neg h2]
  · rw [← h2, if_neg h1]

theorem wants_closed {s : State} {op : Nat → Op} {p i : Nat} (h : op p = .closed) :
    Wants s op p i ↔ s.isNecessary p = true := by simp [Wants, h]
theorem wants_linking {s : State} {op : Nat → Op} {p i k : Nat} (h : op p = .linking k) :
    Wants s op p i ↔ i < k := by simp [Wants, h]
theorem wants_unlinking {s : State} {op : Nat → Op} {p i k : Nat} (h : op p = .unlinking k) :
    Wants s op p i ↔ k ≤ i := by simp [Wants, h]

/-! ## the recompute heap, without reference to necessity -/

structure HeapG (s : State) : Prop where
  wf : HeapWF s
  lb : ∀ m, (s.nodeD m).inRch = true → s.rch.lowerBound ≤ (s.nodeD m).heightInRch
  lb0 : 0 ≤ s.rch.lowerBound

/-! ## the structural invariant with open nodes -/

structure GInv (env : Env) (s : State) (op : Nat → Op) : Prop where
  static : AllStatic env s
  /-- recorded parent entries are real child edges that should be recorded -/
  par : ∀ c p i, (p, i) ∈ (s.nodeD c).parents →
    (kids (s.nodeD p).kind)[i]? = some c ∧ Wants s op p i
  /-- child edges that should be recorded are -/
  conv : ∀ p i c, (kids (s.nodeD p).kind)[i]? = some c → Wants s op p i → (p, i) ∈ (s.nodeD c).parents
  nodup : ∀ c, (s.nodeD c).parents.Nodup
  /-- children of closed nodes are strictly lower -/
  hlt : ∀ c p i, (p, i) ∈ (s.nodeD c).parents → op p = .closed →
    (s.nodeD c).height < (s.nodeD p).height
  hpos : ∀ n, s.isNecessary n = true → op n = .closed → 0 ≤ (s.nodeD n).height
  lnec : ∀ p k, op p = .linking k → s.isNecessary p = true ∧ (s.nodeD p).inRch = false
  unec : ∀ p k, op p = .unlinking k → s.isNecessary p = false
  heap : HeapG s
  hgt : ∀ m, (s.nodeD m).inRch = true → op m = .closed → (s.nodeD m).heightInRch = (s.nodeD m).height
  qnec : ∀ m, (s.nodeD m).inRch = true → s.isNecessary m = true ∨ ∃ k, op m = .unlinking k
  /-- closed necessary stale nodes are queued -/
  queued : ∀ m, op m = .closed → s.isNecessary m = true → staleOf s m = true → (s.nodeD m).inRch = true
  /-- only stale nodes are queued -/
  qstale : ∀ m, (s.nodeD m).inRch = true → staleOf s m = true
  opLt : ∀ m, op m ≠ .closed → m < s.nodes.size

def allClosed : Nat → Op := fun _ => .closed

/-- the structural invariant at rest -/
def Struct (env : Env) (s : State) : Prop := GInv env s allClosed

/-! ## the fragment as a special case of the one with arbitrary cutoffs

`GInv env s op` is `CutH.GInv env s (cop op)` together with `EqCut s`.  The lemmas of this stack that have a twin in `CutH` are
that twin, plus the fact that the step at hand writes no cutoff. -/

def Op.toC : Op → CutH.Op
  | .closed => .closed
  | .linking k => .linking k
  | .unlinking k => .unlinking k

/-- a labelling, read in `CutH` -/
def cop (op : Nat → Op) : Nat → CutH.Op := fun m => (op m).toC

theorem cop_closed {op : Nat → Op} {m : Nat} : cop op m = .closed ↔ op m = .closed := by
  unfold cop; cases op m <;> simp [Op.toC]
theorem cop_linking {op : Nat → Op} {m k : Nat} : cop op m = .linking k ↔ op m = .linking k := by
  unfold cop; cases op m <;> simp [Op.toC]
theorem cop_unlinking {op : Nat → Op} {m k : Nat} : cop op m = .unlinking k ↔ op m = .unlinking k := by
  unfold cop; cases op m <;> simp [Op.toC]
theorem cop_ne_closed {op : Nat → Op} {m : Nat} : cop op m ≠ .closed ↔ op m ≠ .closed := not_congr cop_closed

theorem cop_upd (op : Nat → Op) (n : Nat) (x : Op) : cop (upd op n x) = CutH.upd (cop op) n x.toC := by
  funext m; simp only [cop, upd, CutH.upd]; split <;> rfl

theorem wants_cop {s : State} {op : Nat → Op} {p i : Nat} : CutH.Wants s (cop op) p i ↔ Wants s op p i := by
  unfold CutH.Wants Wants cop; cases op p <;> exact Iff.rfl

/-- every node has the default cutoff -/
def EqCut (s : State) : Prop := ∀ n, n < s.nodes.size → (s.nodeD n).cutoff = .eq

theorem EqCut.of_eq {s s' : State} (h : EqCut s) (hsz : s'.nodes.size = s.nodes.size)
    (hc : ∀ m, (s'.nodeD m).cutoff = (s.nodeD m).cutoff) : EqCut s' :=
  fun n hn => (hc n).trans (h n (hsz ▸ hn))

theorem HeapG.toC {s : State} (h : HeapG s) : CutH.HeapG s := ⟨h.wf, h.lb, h.lb0⟩
theorem HeapG.ofC {s : State} (h : CutH.HeapG s) : HeapG s := ⟨h.wf, h.lb, h.lb0⟩

theorem AllStatic.toC {env : Env} {s : State} (A : AllStatic env s) : CutH.AllStatic env s :=
  ⟨A.pc, A.scope, fun n hn => let sn := A.node n hn; ⟨sn.valid, sn.kind, sn.top, sn.force, sn.kidsLt⟩⟩
theorem AllStatic.eqCut {env : Env} {s : State} (A : AllStatic env s) : EqCut s := fun n hn => (A.node n hn).cutoff
theorem AllStatic.ofC {env : Env} {s : State} (A : CutH.AllStatic env s) (E : EqCut s) : AllStatic env s :=
  ⟨A.pc, A.scope, fun n hn => let sn := A.node n hn; ⟨sn.valid, sn.kind, E n hn, sn.top, sn.force, sn.kidsLt⟩⟩

theorem GInv.toC {env : Env} {s : State} {op : Nat → Op} (I : GInv env s op) : CutH.GInv env s (cop op) where
  static := I.static.toC
  par c p i h := ⟨(I.par c p i h).1, wants_cop.2 (I.par c p i h).2⟩
  conv p i c hk hw := I.conv p i c hk (wants_cop.1 hw)
  nodup := I.nodup
  hlt c p i h ho := I.hlt c p i h (cop_closed.1 ho)
  hpos n hn ho := I.hpos n hn (cop_closed.1 ho)
  lnec p k ho := I.lnec p k (cop_linking.1 ho)
  unec p k ho := I.unec p k (cop_unlinking.1 ho)
  heap := I.heap.toC
  hgt m hq ho := I.hgt m hq (cop_closed.1 ho)
  qnec m hq := (I.qnec m hq).imp id fun ⟨k, h⟩ => ⟨k, cop_unlinking.2 h⟩
  queued m ho := I.queued m (cop_closed.1 ho)
  qstale := I.qstale
  opLt m ho := I.opLt m (cop_ne_closed.1 ho)

theorem GInv.eqCut {env : Env} {s : State} {op : Nat → Op} (I : GInv env s op) : EqCut s := I.static.eqCut

theorem GInv.ofC {env : Env} {s : State} {op : Nat → Op} (I : CutH.GInv env s (cop op)) (E : EqCut s) : GInv env s op where
  static := .ofC I.static E
  par c p i h := ⟨(I.par c p i h).1, wants_cop.1 (I.par c p i h).2⟩
  conv p i c hk hw := I.conv p i c hk (wants_cop.2 hw)
  nodup := I.nodup
  hlt c p i h ho := I.hlt c p i h (cop_closed.2 ho)
  hpos n hn ho := I.hpos n hn (cop_closed.2 ho)
  lnec p k ho := I.lnec p k (cop_linking.2 ho)
  unec p k ho := I.unec p k (cop_unlinking.2 ho)
  heap := .ofC I.heap
  hgt m hq ho := I.hgt m hq (cop_closed.2 ho)
  qnec m hq := (I.qnec m hq).imp id fun ⟨k, h⟩ => ⟨k, cop_unlinking.1 h⟩
  queued m ho := I.queued m (cop_closed.2 ho)
  qstale := I.qstale
  opLt m ho := I.opLt m (cop_ne_closed.2 ho)

/-- `GInv.ofC` when the twin states its labelling with `CutH.upd` -/
theorem GInv.ofC' {env : Env} {s : State} {op : Nat → Op} {opc : Nat → CutH.Op} (I : CutH.GInv env s opc) (E : EqCut s)
    (e : cop op = opc := by simp only [cop_upd, Op.toC]) : GInv env s op :=
  .ofC (e ▸ I) E


/-! ## basic facts -/

namespace GInv
variable {env : Env} {s : State} {op : Nat → Op}

theorem node (I : GInv env s op) {n : Nat} (h : n < s.nodes.size) : StaticNode env s n :=
  I.static.node n h

theorem kid_lt (I : GInv env s op) {p i c : Nat} (h : (kids (s.nodeD p).kind)[i]? = some c) : c < p :=
  I.toC.kid_lt h

theorem par_lt (I : GInv env s op) {c p i : Nat} (h : (p, i) ∈ (s.nodeD c).parents) : c < p :=
  I.kid_lt (I.par c p i h).1

theorem isStale (I : GInv env s op) {m : Nat} (hm : m < s.nodes.size) : s.isStale m = staleOf s m :=
  isStale_static s m (I.node hm).valid (I.node hm).kind

theorem children (I : GInv env s op) {m : Nat} (hm : m < s.nodes.size) :
    s.children m = kids (s.nodeD m).kind :=
  children_eq_kids s m (I.node hm).valid (I.node hm).kind

end GInv

/-! ## `Struct` gives the structural part of the scheduling invariant -/

/-- var nodes and var cells name each other -/
structure VarsOK (s : State) : Prop where
  node : ∀ n c, n < s.nodes.size → (s.nodeD n).kind = .var c → ∃ vc, s.vars[c]? = some vc ∧ vc.node = n
  cell : ∀ c vc, s.vars[c]? = some vc → vc.node < s.nodes.size ∧ (s.nodeD vc.node).kind = .var c

theorem VarsOK.toC {s : State} (V : VarsOK s) : CutH.VarsOK s := ⟨V.node, V.cell⟩
theorem VarsOK.ofC {s : State} (V : CutH.VarsOK s) : VarsOK s := ⟨V.node, V.cell⟩

theorem Struct.heapInv {env : Env} {s : State} (I : Struct env s) : HeapInv s :=
  CutH.Struct.heapInv (GInv.toC I)

theorem Struct.graph {env : Env} {s : State} (I : Struct env s) (V : VarsOK s) : Graph env s :=
  have G := CutH.Struct.graph (GInv.toC I) V.toC
  ⟨G.pc, fun n hn => let ⟨a, b, c, d⟩ := G.nec n hn; ⟨a, b, c, Or.inl (GInv.eqCut I n a), d⟩, G.var, G.child, G.parent⟩

/-- at rest the heap holds exactly the necessary stale nodes -/
theorem Struct.queued_iff {env : Env} {s : State} (I : Struct env s) (m : Nat) :
    (s.nodeD m).inRch = true ↔ (s.isNecessary m = true ∧ s.isStale m = true) :=
  CutH.Struct.queued_iff (GInv.toC I) m

/-! ## what the invariant reads of a state -/

structure NodeG (a b : Node) : Prop where
  valid : b.valid = a.valid
  kind : b.kind = a.kind
  cutoff : b.cutoff = a.cutoff
  createdIn : b.createdIn = a.createdIn
  forceNecessary : b.forceNecessary = a.forceNecessary
  parents : b.parents = a.parents
  observers : b.observers = a.observers
  height : b.height = a.height
  heightInRch : b.heightInRch = a.heightInRch
  recomputedAt : b.recomputedAt = a.recomputedAt
  changedAt : b.changedAt = a.changedAt

theorem NodeG.refl (a : Node) : NodeG a a := ⟨rfl, rfl, rfl, rfl, rfl, rfl, rfl, rfl, rfl, rfl, rfl⟩

structure SameG (s s' : State) : Prop where
  pc : s'.panicCountdown = s.panicCountdown
  scope : s'.currentScope = s.currentScope
  size : s'.nodes.size = s.nodes.size
  rch : s'.rch = s.rch
  vars : s'.vars = s.vars
  node : ∀ m, NodeG (s.nodeD m) (s'.nodeD m)

theorem SameG.refl (s : State) : SameG s s := ⟨rfl, rfl, rfl, rfl, rfl, fun _ => NodeG.refl _⟩

theorem NodeG.toC {a b : Node} (h : NodeG a b) : CutH.NodeG a b :=
  ⟨h.valid, h.kind, h.cutoff, h.createdIn, h.forceNecessary, h.parents, h.observers, h.height, h.heightInRch,
    h.recomputedAt, h.changedAt⟩
theorem NodeG.ofC {a b : Node} (h : CutH.NodeG a b) : NodeG a b :=
  ⟨h.valid, h.kind, h.cutoff, h.createdIn, h.forceNecessary, h.parents, h.observers, h.height, h.heightInRch,
    h.recomputedAt, h.changedAt⟩
theorem SameG.toC {s s' : State} (h : SameG s s') : CutH.SameG s s' :=
  ⟨h.pc, h.scope, h.size, h.rch, h.vars, fun m => (h.node m).toC⟩
theorem SameG.ofC {s s' : State} (h : CutH.SameG s s') : SameG s s' :=
  ⟨h.pc, h.scope, h.size, h.rch, h.vars, fun m => .ofC (h.node m)⟩

theorem SameG.of_nodes {s s' : State} (h1 : s'.nodes = s.nodes) (h2 : s'.panicCountdown = s.panicCountdown)
    (h3 : s'.currentScope = s.currentScope) (h4 : s'.rch = s.rch) (h5 : s'.vars = s.vars) : SameG s s' :=
  .ofC (CutH.SameG.of_nodes h1 h2 h3 h4 h5)

theorem SameG.nec {s s' : State} (h : SameG s s') (m : Nat) : s'.isNecessary m = s.isNecessary m := by
  simp only [State.isNecessary, Node.isNecessary, (h.node m).parents, (h.node m).observers,
    (h.node m).forceNecessary]

theorem SameG.inRch {s s' : State} (h : SameG s s') (m : Nat) : (s'.nodeD m).inRch = (s.nodeD m).inRch := by
  simp only [Node.inRch, (h.node m).heightInRch]

theorem SameG.staleOf {s s' : State} (h : SameG s s') (m : Nat) : staleOf s' m = staleOf s m :=
  staleOf_congr (h.node m).kind (h.node m).recomputedAt h.vars (fun c _ => (h.node c).changedAt)

theorem SameG.wants {s s' : State} (h : SameG s s') (op : Nat → Op) (p i : Nat) :
    Wants s' op p i ↔ Wants s op p i := by
  unfold Wants; rw [h.nec]

theorem HeapG.congr {s s' : State} (h : HeapG s) (hr : s'.rch = s.rch) (hsz : s'.nodes.size = s.nodes.size)
    (hm : ∀ m, (s'.nodeD m).heightInRch = (s.nodeD m).heightInRch) : HeapG s' :=
  .ofC (h.toC.congr hr hsz hm)

theorem GInv.congr {env : Env} {s s' : State} {op : Nat → Op} (I : GInv env s op) (h : SameG s s') :
    GInv env s' op :=
  .ofC (I.toC.congr h.toC) (I.eqCut.of_eq h.size fun m => (h.node m).cutoff)

end IncrVerif.Proofs.Quiet
