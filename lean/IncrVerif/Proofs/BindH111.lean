import IncrVerif.Proofs.BindH109
import IncrVerif.Proofs.BindH110
import IncrVerif.Proofs.BindH105
/-!
# Binds, part 4f: whole histories of programs with binds (fragment F1), all hypotheses discharged

`QG env s := QInv1 env s ∧ GenOK env s` is the invariant of every state reached by a history of the fragment; at every `stabilise` of the history all
conclusions of `stabilise_F1` hold and every in-use observer reads the specification-level from-scratch value `den` of its node.
-/
namespace IncrVerif.Proofs.BindH
open IncrVerif.Engine IncrVerif.Proofs IncrVerif.Proofs.Step IncrVerif.Proofs.Sched IncrVerif.Proofs.Quiet

/-- `stabilise` keeps the invariant between actions (the hypothesis `STAB` of the history lemmas, discharged) -/
theorem stab_F1 (env : Env) : ∀ {fuel : Nat} {s s' : State}, QInv1 env s →
    (stabilise env fuel).run.run s = (.ok (), s') → QInv1 env s' :=
  fun Q h => (stabilise_F1 Q h).inv

/-- the invariant of reachable states: the invariant between actions, and generations are current -/
def QG (env : Env) (s : State) : Prop := QInv1 env s ∧ GenOK env s

/-- **Every API action of the fragment keeps the invariant.** -/
theorem step_F1 {env : Env} {s s' : State} {a : Action} {tokens : Array Nat} {r : String × Array Nat}
    (Q : QG env s) (ha : ActionF1 env s.top.size a) (h : (stepAction env a tokens).run.run s = (.ok r, s')) :
    QG env s' :=
  ⟨step_q1 (stab_F1 env) Q.1 ha h, step_gen Q.1 Q.2 ha h⟩

theorem qg_init (env : Env) (N : Nat) (d : Bool) : QG env (State.init N d) :=
  ⟨qinv1_init env N d, genOK_init env N d⟩

theorem histF1_stepG {env : Env} {a : Action} {rest : List Action} {s s' : State} {tk : Array Nat} {r : String × Array Nat}
    (i : QG env s ∧ HistF1 env s.top.size (a :: rest)) (hx : (stepAction env a tk).run.run s = (.ok r, s')) :
    QG env s' ∧ HistF1 env s'.top.size rest :=
  ⟨step_F1 i.1 i.2.1 hx, by rw [C2h.top_step i.1.1.struct.frag.scope i.2.1 hx]; exact i.2.2⟩

/-- **Whole histories.** Every state reached from the initial state by a history of the fragment (that runs without panic) satisfies the invariant. -/
theorem history_F1 {env : Env} {N : Nat} {d : Bool} {acts : List Action} {s : State} {tk : Array Nat}
    (hH : HistF1 env 0 acts) (h : Quiet.runActions env acts (State.init N d) #[] = .ok (s, tk)) : QG env s :=
  (Hist.runActions_inv (I := fun s _ rest => QG env s ∧ HistF1 env s.top.size rest) (fun _ _ _ _ _ _ => histF1_stepG)
    ⟨qg_init env N d, hH⟩ h).1

/-- **Every `stabilise` of a history.** At each `stabilise` action of a history of the fragment that runs from the initial state: the state `s1` before it satisfies
the invariant; the `stabilise` returns a state `s2` with all conclusions of `stabilise_F1` (invariant again, values = `evalB`, the drain ran no node twice and no node of
a dying generation); and every in-use observer reads the FROM-SCRATCH value `den` of its node: evaluate the lhs of each bind, run the closure on that value, evaluate the
template it returns. -/
theorem history_stabilise_F1 {env : Env} {N : Nat} {d : Bool} {as bs : List Action} {s : State} {tk : Array Nat}
    (hH : HistF1 env 0 (as ++ Action.stabilise :: bs))
    (h : Quiet.runActions env (as ++ Action.stabilise :: bs) (State.init N d) #[] = .ok (s, tk)) :
    ∃ s1 tk1 s2, Quiet.runActions env as (State.init N d) #[] = .ok (s1, tk1) ∧ QG env s1 ∧
      (stabilise env fuelDefault).run.run s1 = (.ok (), s2) ∧ Stabilised1 env fuelDefault s1 s2 ∧ QG env s2 ∧
      (∀ (o : Nat) (ob : ObsRec), s2.observers[o]? = some ob → ob.state = .inUse →
        ∃ v, s2.tryGetValue env o = .ok v ∧ ∀ k, ob.node < k → den env s2 k ob.node = some v) ∧
      Quiet.runActions env bs s2 tk1 = .ok (s, tk) := by
  obtain ⟨s1, tk1, s2, h1, ⟨Q1, -⟩, hst, ⟨Q2, -⟩, h2⟩ :=
    Hist.runActions_stabilise (I := fun s _ rest => QG env s ∧ HistF1 env s.top.size rest) (fun _ _ _ _ _ _ => histF1_stepG)
      ⟨qg_init env N d, hH⟩ h
  exact ⟨s1, tk1, s2, h1, Q1, hst, stabilise_F1 Q1.1 hst, Q2, stabilise_reads_den Q1.1 Q1.2 hst, h2⟩

/-! ## the example history (`BindH110`) -/

/-- the example history — two vars, `bind b0 v0` (closure 0 creates `map f0 [n1, n1]` on an even lhs, `map f0 [n1]` on an odd one), observe, stabilise, `v0 := 1` (the
closure variant switches: the old node is invalidated, a new one created), stabilise, `v1 := 5`, stabilise — is a history of the fragment, it runs, every state it reaches
satisfies the invariant, and the reads after the three stabilises are `1 + 1`, `1`, `5` -/
theorem exHistB_F1 : HistF1 bEnv 0 exHistB ∧
    (∃ s tk, Quiet.runActions bEnv exHistB (State.init 128 true) #[] = .ok (s, tk) ∧ QG bEnv s) := by
  refine ⟨exHistB_frag, ?_⟩
  obtain ⟨s, tk, h⟩ := exHistB_runs
  exact ⟨s, tk, h, history_F1 exHistB_frag h⟩

end IncrVerif.Proofs.BindH
