import IncrVerif.Proofs.OnceF5
/-!
# C02, combined fragment, part 6: NON-VACUITY — the drain traces of the seven `stabilise`s of `exHistF` (kernel-checked)
-/
namespace IncrVerif.Proofs.OnceF
open IncrVerif.Engine IncrVerif.Driver IncrVerif.Proofs IncrVerif.Proofs.Step IncrVerif.Proofs.Sched IncrVerif.Proofs.Quiet
open IncrVerif.Proofs.FullH IncrVerif.Proofs.TidyH IncrVerif.Proofs.BindH

set_option maxRecDepth 100000 in
/-- the drain traces of the seven `stabilise`s of `exHistF` (kernel-checked): first round — the variables, the outer change detector 3, the closure's map_ref chain 5, 6, the inner
change detector 9, its map_ref 12, the machines 7, 13, the maps, the two main nodes 10, 4; only `c` written — the chain node 5 runs, its projection is unchanged and 6, 7 do NOT
run; `a` written — 5, 6, 7 run; the lhs changes — the new generation (node 14) runs, no node of the dead one; nothing observed — nothing runs; re-observed — a fresh generation -/
theorem exHistF_traces :
    EX.traceAfter (exHistF.take 5) = some [1, 3, 0, 2, 9, 5, 6, 12, 7, 13, 8, 10, 11, 4] ∧
    EX.traceAfter (exHistF.take 7) = some [0, 5, 12, 13, 10, 11, 4] ∧
    EX.traceAfter (exHistF.take 9) = some [0, 5, 6, 7, 12, 8, 11, 4] ∧
    EX.traceAfter (exHistF.take 11) = some [1, 3, 14, 4] ∧
    EX.traceAfter (exHistF.take 13) = some [] ∧
    EX.traceAfter (exHistF.take 18) = some [1, 3, 0, 2, 15, 19, 16, 22, 17, 20, 18, 21, 4] ∧
    EX.traceAfter (exHistF.take 20) = some [2, 19, 23, 24, 18, 20, 21, 4] := by
  simp only [EX.traceAfter_eq]
  have h := (EX.along_spec fEnv EX.traceOf exHistF [5, 7, 9, 11, 13, 18, 20] 0 (by decide)).symm.trans
    (show EX.along fEnv EX.traceOf [5, 7, 9, 11, 13, 18, 20] 0 exHistF (EX.runTo fEnv exHistF 0) =
      [some [1, 3, 0, 2, 9, 5, 6, 12, 7, 13, 8, 10, 11, 4], some [0, 5, 12, 13, 10, 11, 4], some [0, 5, 6, 7, 12, 8, 11, 4], some [1, 3, 14, 4],
        some [], some [1, 3, 0, 2, 15, 19, 16, 22, 17, 20, 18, 21, 4], some [2, 19, 23, 24, 18, 20, 21, 4]] by decide +kernel)
  simpa only [List.map_cons, List.map_nil, List.cons.injEq, and_true] using h

end IncrVerif.Proofs.OnceF
