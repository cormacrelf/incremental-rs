import IncrVerif.Proofs.PerKeyH87
/-!
# Per-key operators, API actions part 5: creation of a static node keeps `PQ`; all static actions (`action_static_p`)
-/
namespace IncrVerif.Proofs.PerKeyH
open IncrVerif.Engine IncrVerif.Driver IncrVerif.Proofs IncrVerif.Proofs.Step IncrVerif.Proofs.Sched
open IncrVerif.Proofs.ExpertH IncrVerif.Proofs.EffH IncrVerif.Proofs.DriverH

theorem kidsX_plain (xs : Array ExpertRec) {k : Kind} (h : PlainKind k) : kidsX xs k = kids k := by
  cases k <;> first | rfl | exact h.elim

theorem CF.kf {k : Kind} {s s' : State} (C : CF k s s') : KF s s' :=
  ⟨by rw [C.size]; omega, fun m hm => by rw [C.nodeD_lt hm],
    fun e er he => ⟨er, by rw [C.experts]; exact he, rfl⟩, fun j n h => C.top_old h,
    fun m hm => by rw [C.nodeD_lt hm, C.experts],
    fun m e hm hk hs => V_stamp_keep hk (by rw [C.nodeD_lt hm]) (by rw [C.nodeD_lt hm]) (by rw [C.experts]; exact id) hs⟩

theorem PFrag.of_cf {env : Env} {k : Kind} {s s' : State} (P : PFrag env s) (C : CF k s s') (hk : PKind env k)
    (hp : PlainKind k) : PFrag env s' := by
  have hsz := C.size
  have hnew := C.nodeD_new
  refine ⟨by rw [C.panicCountdown]; exact P.pc, fun n hn => ?_, fun n hn => ?_, fun n hn => ?_, fun n hn => ?_,
    fun n hn => ?_, fun n e hn hke => ?_, fun e er he => ?_, fun e er he => ?_, by rw [C.currentScope]; exact P.scope⟩
  all_goals try (by_cases e0 : n = s.nodes.size)
  · rw [e0, hnew]; exact hk
  · rw [C.nodeD_old e0]; exact P.kind n (by omega)
  · rw [e0, hnew]; rfl
  · rw [C.nodeD_old e0]; exact P.valid n (by omega)
  · rw [e0, hnew]; rfl
  · rw [C.nodeD_old e0]; exact P.cutoff n (by omega)
  · rw [e0, hnew]; rfl
  · rw [C.nodeD_old e0]; exact P.top n (by omega)
  · rw [e0, hnew]; rfl
  · rw [C.nodeD_old e0]; exact P.force n (by omega)
  · rw [e0, hnew] at hke
    have : k = .expert e := hke
    rw [this] at hp; exact hp.elim
  · rw [C.nodeD_old e0] at hke; rw [C.experts]; exact P.xrec n e (by omega) hke
  · rw [C.experts] at he
    obtain ⟨h1, h2⟩ := P.xnode e er he
    exact ⟨by omega, by rw [C.nodeD_lt h1]; exact h2⟩
  · rw [C.experts] at he; exact P.xok e er he

theorem ahhEmpty_of_cf {k : Kind} {s s' : State} (A : QR.AhhEmpty s) (C : CF k s s') : QR.AhhEmpty s' := by
  refine ⟨by rw [C.ahh]; exact A.length, by rw [C.ahh]; exact A.buckets, fun m => ?_⟩
  by_cases e : m = s.nodes.size
  · rw [e, C.nodeD_new]; rfl
  · rw [C.nodeD_old e]; exact A.marks m

theorem PKOK.of_cf {env : Env} {k : Kind} {s s' : State} (P : PKOK env s) (C : CF k s s') (hp : PlainKind k)
    (hkids : ∀ c, c ∈ kids k → ∃ j : Nat, s.top[j]? = some c)
    (hin : ∀ n c, n < s.nodes.size → c ∈ kidsX s.experts (s.nodeD n).kind → c < s.nodes.size)
    (htop : ∀ (j n : Nat), s.top[j]? = some n → n < s.nodes.size) : PKOK env s' := by
  have hsz := C.size
  have hnewk : kidsX s'.experts (s'.nodeD s.nodes.size).kind = kids k := by
    rw [C.nodeD_new]; exact kidsX_plain _ hp
  refine ⟨fun op pr hpr => ?_, ?_, ?_, fun n f args hn hk hf => ?_, fun o ob ho => ?_, fun op pr hpr v hv => ?_⟩
  · rw [C.perkeys] at hpr
    have h := P.ops op pr hpr
    obtain ⟨x, e, er, hN, -⟩ := h.nodes
    have hlt := hN.lt
    refine h.of_frame C.kf (fun c x h1 h2 hx => ?_) (fun x hx ho => by rw [C.nodeD_lt hx]; exact ho)
      (fun j x hj => ?_) fun hs => ?_
    · have : c = s.nodes.size := by omega
      rw [this, hnewk] at hx
      obtain ⟨j, hj⟩ := hkids x hx
      exact h.privTop j x hj
    · rcases C.top_inv hj with h1 | h1
      · exact Or.inl h1
      · right; intro hpv
        have := h.core.priv_lt hpv; omega
    · have hk := hN.lcKind
      rw [← hN.lc] at hk
      have hl : pr.lhsChange < s.nodes.size := by rw [hN.lc]; omega
      have hst : s'.isStale pr.lhsChange = s.isStale pr.lhsChange := by
        refine isStale_map_congr hk (by rw [C.nodeD_lt hl]; exact hk) (by rw [C.nodeD_lt hl])
          (by rw [C.nodeD_lt hl]) (fun c hc => ?_)
        simp only [List.mem_cons, List.not_mem_nil, or_false] at hc
        rw [hc, C.nodeD_lt (by omega)]
      rw [hst] at hs
      rw [C.nodeD_lt (by omega)]; exact h.input hs
  · exact P.recs.of_frame C.perkeys fun e er' he' => ⟨er', by rw [← C.experts]; exact he', rfl, rfl⟩
  · obtain ⟨ψ, hψ⟩ := P.pot
    refine ⟨fun n => if n = s.nodes.size then 2 * n else ψ n, fun n c hn hc => ?_, fun j n h => ?_,
      fun op pr hpr => ?_, fun n hn => ?_⟩
    · by_cases e : n = s.nodes.size
      · rw [e, hnewk] at hc
        obtain ⟨j, hj⟩ := hkids c hc
        have hc' := htop j c hj
        rw [if_neg (by omega), e, if_pos rfl, hψ.top j c hj]; omega
      · have hn' : n < s.nodes.size := by omega
        rw [(C.kf).kids n hn'] at hc
        have hc' := hin n c hn' hc
        rw [if_neg (by omega), if_neg e]; exact hψ.mono n c hn' hc
    · rcases C.top_inv h with h1 | h1
      · have := htop j n h1
        rw [if_neg (by omega)]; exact hψ.top j n h1
      · rw [if_pos h1]
    · rw [C.perkeys] at hpr
      obtain ⟨a, b, c, d⟩ := hψ.op op pr hpr
      have h := P.ops op pr hpr
      obtain ⟨x, e, er, hN, he, hpk, hch, hent, hout⟩ := h.nodes
      have hlt := hN.lt
      have hlc := hN.lc
      refine ⟨by rw [if_neg (by omega)]; exact a, by rw [if_neg (by omega)]; exact b,
        by rw [if_neg (by omega)]; exact c, fun key p dd hm => ?_⟩
      have := (hent key p dd hm).plt
      rw [if_neg (by omega)]; exact d key p dd hm
    · by_cases e : n = s.nodes.size
      · rw [if_pos e]; omega
      · rw [if_neg e]; exact hψ.le n (by omega)
  · by_cases e : n = s.nodes.size
    · rw [e, C.nodeD_new] at hk
      have : k = .map f args := hk
      rw [this] at hp
      exact absurd hp (by show ¬ f < fnPerKey; omega)
    · rw [C.nodeD_old e] at hk; rw [C.perkeys]
      exact P.lcs n f args (by omega) hk hf
  · rw [C.observers] at ho
    obtain ⟨j, hj⟩ := P.obsTop o ob ho
    exact ⟨j, C.top_old hj⟩
  · rw [C.perkeys] at hpr
    obtain ⟨x, e, er, hN, -⟩ := (P.ops op pr hpr).nodes
    have hlt := hN.lt
    rw [C.nodeD_lt (by omega)] at hv
    exact P.maps op pr hpr v hv

theorem NoRem.of_cf {env : Env} {k : Kind} {s s' : State} (N : NoRem s) (P : PKOK env s) (C : CF k s s') :
    NoRem s' := by
  intro op pr hp
  rw [C.perkeys] at hp
  obtain ⟨x, e, er, hN, -⟩ := (P.ops op pr hp).nodes
  have hlt := hN.lt
  have hx0 := hN.xlt
  have hr : s'.nodeD (pr.result - 1) = s.nodeD (pr.result - 1) := C.nodeD_lt (by omega)
  have hx : s'.nodeD x = s.nodeD x := C.nodeD_lt (by omega)
  exact (N op pr hp).of_nodes hN rfl rfl (fun _ _ => C.vars_old) ⟨by rw [hr], by rw [hr]⟩ ⟨by rw [hx], by rw [hx]⟩

/-! ## the action -/

theorem PStatic.static {env : Env} {s : State} {i : Instr} (hst : PStatic i) (hi : PInstrOK env s i) :
    QR.StaticInstr (penv env) i := by
  cases i <;> try exact hst.elim
  case const => trivial
  case var => trivial
  case map f args => exact ⟨Nat.lt_trans hi.1 (by decide), fun _ _ => rfl, hi.2.2⟩
  case fold f init cs => exact hi.2
  case zip a b => exact hi

theorem kids_lt_of_q {env : Env} {rk : Nat → Nat} {s : State} (Q : QR.QInv (penv env) rk (V s)) :
    ∀ n c, n < s.nodes.size → c ∈ kidsX s.experts (s.nodeD n).kind → c < s.nodes.size := by
  intro n c hn hc
  have := (Q.struct.static.node n (by rw [V_size]; exact hn)).kidsIn c (by rw [V_kids]; exact hc)
  rw [V_size] at this; exact this

theorem top_lt_of_q {env : Env} {rk : Nat → Nat} {s : State} (Q : QR.QInv (penv env) rk (V s)) :
    ∀ (j n : Nat), s.top[j]? = some n → n < s.nodes.size := by
  intro j n h
  have := Q.top j n h
  rw [V_size] at this; exact this

/-- **creation of a static node keeps `PQ`** (`hv`: the simulation on the virtual state; `hsl`: slots) -/
theorem action_create_static {env : Env} {rk : Nat → Nat} {s s' : State} {i : Instr} {tk : Array Nat}
    {r : String × Array Nat} (Q : PQ env rk s) (hi : PInstrOK env s i) (hst : PStatic i)
    (hv : (stepAction (penv env) (.create i) tk).run.run (V s) = (.ok r, V s'))
    (hsl : SlotInv env s')
    (h : (stepAction env (.create i) tk).run.run s = (.ok r, s')) : PQ env rk s' := by
  obtain ⟨k, hk, hp, hkids, C⟩ := create_cf Q.frag.scope hi hst h
  exact ⟨Q.frag.of_cf C hk hp, QR.step_q Q.q (a := .create i) (hst.static hi) hv, ahhEmpty_of_cf Q.ahh C,
    Q.pk.of_cf C hp hkids (kids_lt_of_q Q.q) (top_lt_of_q Q.q), hsl, Q.norem.of_cf Q.pk C⟩

/-! ## all static actions -/

/-- the static actions of the fragment: all but `stabilise` and `create (.perKey ..)` -/
def PStaticAct : Action → Prop
  | .create i => PStatic i
  | a => PAct a

theorem pstaticAct_of {env : Env} {s : State} {a : Action} (ha : PActionOK env s a) (hs : a ≠ .stabilise)
    (hpk : ∀ cut fam x, a ≠ .create (.perKey cut fam x)) : PStaticAct a := by
  cases a <;> first | exact ha.elim | trivial | exact absurd rfl hs | skip
  rename_i i
  cases i <;> first | exact ha.elim | trivial | exact absurd rfl (hpk _ _ _)

/-- **every static API action of the fragment keeps the invariant between actions**, modulo the simulation on the
virtual state (`hv`, from `VSim`) and the slots of the new state (`hsl`, from `pk-slots`) -/
theorem action_static_p {env : Env} {rk : Nat → Nat} {s s' : State} {a : Action} {tk : Array Nat}
    {r : String × Array Nat} (Q : PQ env rk s) (ha : PActionOK env s a) (hs : PStaticAct a)
    (hv : (stepAction (penv env) a tk).run.run (V s) = (.ok r, V s'))
    (hsl : SlotInv env s')
    (h : (stepAction env a tk).run.run s = (.ok r, s')) : PQ env rk s' := by
  by_cases hc : ∃ i, a = .create i
  · obtain ⟨i, rfl⟩ := hc
    exact action_create_static Q ha hs hv hsl h
  · have hp : PAct a := by
      cases a <;> first | exact hs | exact absurd ⟨_, rfl⟩ hc
    exact action_nocreate Q hp ha hv hsl h

end IncrVerif.Proofs.PerKeyH
