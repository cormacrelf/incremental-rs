import IncrVerif.Proofs.NestH8
/-!
# Nested binds (F2), linking cascade, part 2: closing a linking node (pure step lemmas for `GInv2`)

Hypotheses for the scope height rule: `hsq` (if `n` is a change detector, its scope has no
necessary node) and `hself` (if `n` is a scope node, it is above its scope's change detector).
-/
namespace IncrVerif.Proofs.NestH
open IncrVerif.Engine IncrVerif.Proofs IncrVerif.Proofs.Step IncrVerif.Proofs.Sched IncrVerif.Proofs.Quiet
open IncrVerif.Proofs.BindH

namespace NL
open BL CL

section
variable {env : Env} {rk : Nat → Nat} {s s' : State} {op : Nat → Op} {ex : Nat → Prop} {dy : List Nat}

/-- closing a linking node that is not queued, general form: `s'` is `s` up to the heap and the heap marker of `n`; if
`n` is stale it has been queued (marker = height), otherwise nothing changed for it -/
theorem GInv2.close_link_gen {n k : Nat} (I : GInv2 env rk s op ex dy) (hop : op n = .linking k)
    (hnq : (s.nodeD n).inRch = false)
    (hk : (s.children n).length ≤ k)
    (hh : ∀ (i c : Nat), (s.children n)[i]? = some c → (s.nodeD c).height < (s.nodeD n).height)
    (h0 : 0 ≤ (s.nodeD n).height)
    (hsq : ScopeQuiet s n)
    (hself : ∀ b br, (s.nodeD n).createdIn = .bind b → s.binds[b]? = some br →
      (s.nodeD br.lhsChange).height < (s.nodeD n).height)
    (hpc : s'.panicCountdown = s.panicCountdown) (hsc : s'.currentScope = s.currentScope)
    (hsz : s'.nodes.size = s.nodes.size) (hv : s'.vars = s.vars) (hb : s'.binds = s.binds)
    (hnode : ∀ m, ∃ x, s'.nodeD m = { s.nodeD m with heightInRch := x })
    (hmark : ∀ m, m ≠ n → (s'.nodeD m).heightInRch = (s.nodeD m).heightInRch)
    (hheap : HeapG s')
    (hq : (s.isStale n = false ∧ (s'.nodeD n).heightInRch = (s.nodeD n).heightInRch) ∨
          (s.isStale n = true ∧ (s'.nodeD n).heightInRch = (s.nodeD n).height)) :
    GInv2 env rk s' (upd op n .closed) ex dy := by
  have E : KeyEq s s' := by
    refine ⟨hsz, hb, hv, ?_, ?_, ?_, ?_, ?_, ?_⟩ <;> intro m <;> obtain ⟨x, e⟩ := hnode m <;> rw [e]
  have hpa : ∀ m, (s'.nodeD m).parents = (s.nodeD m).parents := fun m => by
    obtain ⟨x, e⟩ := hnode m; rw [e]
  have hht : ∀ m, (s'.nodeD m).height = (s.nodeD m).height := fun m => by
    obtain ⟨x, e⟩ := hnode m; rw [e]
  have hnec : ∀ m, s'.isNecessary m = s.isNecessary m := fun m => by
    obtain ⟨x, e⟩ := hnode m
    simp only [State.isNecessary, Node.isNecessary, e]
  have hstale : ∀ m, s'.isStale m = s.isStale m := KeyEq2.isStale2 E I.frag
  have hch : ∀ m, s'.children m = s.children m := KeyEq2.children2 E I.frag
  have hinr : ∀ m, m ≠ n → (s'.nodeD m).inRch = (s.nodeD m).inRch := fun m h => by
    simp only [Node.inRch, hmark m h]
  have hnn := I.lnec n k hop
  have hnq' : ¬ (0 ≤ (s.nodeD n).heightInRch) := by
    intro h; simp only [Node.inRch] at hnq; simp [h] at hnq
  have hopn : upd op n .closed n = .closed := upd_self ..
  have hopo : ∀ m, m ≠ n → upd op n .closed m = op m := fun m h => upd_other _ _ _ h
  have hw : ∀ q i c, (s.children q)[i]? = some c →
      (Wants s' (upd op n .closed) q i ↔ Wants s op q i) := by
    intro q i c hkq
    by_cases e : q = n
    · rw [e] at hkq ⊢
      rw [wants_closed hopn, wants_linking hop, hnec, hnn]
      have : i < (s.children n).length := by
        rcases Nat.lt_or_ge i (s.children n).length with h | h
        · exact h
        · rw [List.getElem?_eq_none h] at hkq; cases hkq
      simp; omega
    · unfold Wants; rw [hopo q e, hnec]
  have hnv : (s.nodeD n).valid = true := GInv2.valid_of_open I (by rw [hop]; exact Op.linking_ne_closed _)
  obtain ⟨x1, x2, x3⟩ := GInv2.extras (op' := upd op n .closed) I E
    (fun m => by obtain ⟨x, e⟩ := hnode m; rw [e]) (fun m => by obtain ⟨x, e⟩ := hnode m; rw [e])
    (fun m _ => hpa m) (fun m hv => hinr m (fun e => by rw [e, hnv] at hv; cases hv))
    (fun m _ ho => by
      by_cases e : m = n
      · rw [e]; exact hopn
      · rw [hopo m e]; exact ho)
  refine { frag := KeyEq2.frag2 E I.frag (by rw [hpc]; exact I.frag.pc) (by rw [hsc]; exact I.frag.scope),
           inv := x1, scopeObs := x2, lcObs := x3,
           par := ?_, conv := ?_, nodup := ?_, hlt := ?_, hpos := ?_,
           lnec := ?_, unec := ?_, heap := hheap, hgt := ?_, qnec := ?_, queued := ?_,
           qstale := ?_, opLt := ?_, scopeH := ?_ }
  · intro c q i hm
    rw [hpa] at hm
    obtain ⟨h1, h2⟩ := I.par c q i hm
    rw [hch]; exact ⟨h1, (hw q i c h1).2 h2⟩
  · intro q i c hkq hw'
    rw [hch] at hkq
    rw [hpa]; exact I.conv q i c hkq ((hw q i c hkq).1 hw')
  · intro m; rw [hpa]; exact I.nodup m
  · intro c q i hm ho
    rw [hpa] at hm
    rw [hht, hht]
    by_cases e : q = n
    · rw [e] at hm ⊢; exact hh i c (I.par c n i hm).1
    · rw [hopo q e] at ho; exact I.hlt c q i hm ho
  · intro m hn ho
    rw [hnec] at hn
    rw [hht]
    by_cases e : m = n
    · rw [e]; exact h0
    · rw [hopo m e] at ho; exact I.hpos m hn ho
  · intro q k' ho
    have e : q ≠ n := by intro e; rw [e, hopn] at ho; cases ho
    rw [hopo q e] at ho
    rw [hnec]; exact I.lnec q k' ho
  · intro q k' ho
    have e : q ≠ n := by intro e; rw [e, hopn] at ho; cases ho
    rw [hopo q e] at ho
    rw [hnec]; exact I.unec q k' ho
  · intro m hq' ho
    by_cases e : m = n
    · rw [e] at hq' ⊢
      rcases hq with ⟨-, h2⟩ | ⟨-, h2⟩
      · simp only [Node.inRch, h2] at hq'; exact absurd (by simpa using hq') hnq'
      · rw [h2, hht]
    · rw [hinr m e] at hq'
      rw [hopo m e] at ho
      rw [hmark m e, hht]; exact I.hgt m hq' ho
  · intro m hq'
    rw [hnec]
    by_cases e : m = n
    · rw [e]; exact Or.inl hnn
    · rw [hinr m e] at hq'
      rcases I.qnec m hq' with h | ⟨k', h⟩
      · exact Or.inl h
      · exact Or.inr ⟨k', by rw [hopo m e]; exact h⟩
  · intro m ho hn hs hx
    rw [hnec] at hn
    rw [hstale] at hs
    by_cases e : m = n
    · rw [e] at hs ⊢
      rcases hq with ⟨h1, -⟩ | ⟨-, h2⟩
      · rw [h1] at hs; cases hs
      · simp only [Node.inRch, h2]; simpa using h0
    · rw [hopo m e] at ho
      rw [hinr m e]; exact I.queued m ho hn hs hx
  · intro m hq'
    rw [hstale]
    by_cases e : m = n
    · rw [e] at hq' ⊢
      rcases hq with ⟨-, h2⟩ | ⟨h1, -⟩
      · simp only [Node.inRch, h2] at hq'; exact absurd (by simpa using hq') hnq'
      · exact h1
    · rw [hinr m e] at hq'; exact I.qstale m hq'
  · intro m ho
    have e : m ≠ n := by intro e; rw [e, hopn] at ho; exact ho rfl
    rw [hopo m e] at ho
    rw [hsz]; exact I.opLt m ho
  · intro m b br hv hsc' hb' hn' ho
    rw [E.valid] at hv; rw [E.createdIn] at hsc'; rw [hb] at hb'; rw [hnec] at hn'
    rw [hht, hht]
    by_cases e : m = n
    · rw [e] at hsc' ⊢; exact hself b br hsc' hb'
    · rw [hopo m e] at ho
      have h2 : br.lhsChange ≠ n := by
        intro e'
        rw [hsq m b br hsc' hb' e'] at hn'; cases hn'
      exact I.scopeH m b br hv hsc' hb' hn' ho

/-- closing a linking node that is not stale (and not queued) -/
theorem GInv2.close_link_fresh {n k : Nat} (I : GInv2 env rk s op ex dy) (hop : op n = .linking k)
    (hnq : (s.nodeD n).inRch = false)
    (hk : (s.children n).length ≤ k)
    (hh : ∀ (i c : Nat), (s.children n)[i]? = some c → (s.nodeD c).height < (s.nodeD n).height)
    (h0 : 0 ≤ (s.nodeD n).height)
    (hsq : ScopeQuiet s n)
    (hself : ∀ b br, (s.nodeD n).createdIn = .bind b → s.binds[b]? = some br →
      (s.nodeD br.lhsChange).height < (s.nodeD n).height)
    (hst : s.isStale n = false) :
    GInv2 env rk s (upd op n .closed) ex dy :=
  GInv2.close_link_gen I hop hnq hk hh h0 hsq hself rfl rfl rfl rfl rfl (fun _ => ⟨_, rfl⟩) (fun _ _ => rfl) I.heap
    (Or.inl ⟨hst, rfl⟩)

/-- closing a linking node that is stale (and not queued): it is inserted into the recompute heap -/
theorem GInv2.close_link_stale {n k : Nat} (I : GInv2 env rk s op ex dy) (hop : op n = .linking k)
    (hnq : (s.nodeD n).inRch = false)
    (hk : (s.children n).length ≤ k)
    (hh : ∀ (i c : Nat), (s.children n)[i]? = some c → (s.nodeD c).height < (s.nodeD n).height)
    (h0 : 0 ≤ (s.nodeD n).height)
    (hsq : ScopeQuiet s n)
    (hself : ∀ b br, (s.nodeD n).createdIn = .bind b → s.binds[b]? = some br →
      (s.nodeD br.lhsChange).height < (s.nodeD n).height)
    (hmax : (s.nodeD n).height ≤ s.rch.maxAllowed)
    (hst : s.isStale n = true) :
    GInv2 env rk (inserted n (s.nodeD n).height s) (upd op n .closed) ex dy := by
  have hlt : n < s.nodes.size := I.opLt n (by rw [hop]; exact Op.linking_ne_closed _)
  refine GInv2.close_link_gen I hop hnq hk hh h0 hsq hself rfl rfl (Array.size_modify ..) rfl rfl ?_ ?_
    (I.heap.inserted hlt hnq h0 hmax) (Or.inr ⟨hst, ?_⟩)
  · intro m
    rw [inserted_nodeD]
    split
    · exact ⟨_, rfl⟩
    · exact ⟨_, rfl⟩
  · intro m hm
    rw [inserted_nodeD, if_neg (fun e => hm e.1.symm)]
  · rw [inserted_nodeD, if_pos ⟨rfl, hlt⟩]

end

end NL

end IncrVerif.Proofs.NestH
