import IncrVerif.Proofs.ExpertH70
import IncrVerif.Proofs.EffH1
/-!
# Drivers, part 0: definitions and contracts

DRIVERS are `map f args` nodes (`f < fnZip`) whose effect list `env.fnEff f vals` rewires expert nodes
(`xAdd`/`xRm`/`xSel`/`xStale`) of which the driver is a dependency.

* `E := EffH.noEff env` is the environment with the effects erased; every invariant is stated for `E`, so that the
  whole development `ExpertH` (fragment X1, `XFrag E s`, `virt`, `virtEnv E`, `QR.GInv`, …) applies unchanged.
* `Mid E s`: the invariant BETWEEN TWO EFFECTS of a running driver (the driver is stamped, so no necessary stale node
  is unqueued: the virtual state satisfies the structural invariant at rest `QR.Struct`).
* `EF D s s'`: the frame of a sequence of effects (`D e`: the expert records that may have been edited).
* `AddSpec`, `RmSpec`, `StaleSpec`: the contracts of the three expert API calls, from `Mid` to `Mid`.
* `Drives`, `PS`, `EffOK`, `DrvOK`: well-formedness of drivers.
-/
namespace IncrVerif.Proofs.DriverH
open IncrVerif.Engine IncrVerif.Driver IncrVerif.Proofs IncrVerif.Proofs.Step IncrVerif.Proofs.Sched
open IncrVerif.Proofs.ExpertH IncrVerif.Proofs.ExpertH.QR

/-! ## the invariant between two effects -/

/-- between two effects of a running driver (and at the start/end of its effect list) -/
structure Mid (E : Env) (s : State) : Prop where
  frag : XFrag E s
  ahh : QR.AhhEmpty s
  st : ∃ rk, QR.Struct (virtEnv E) rk (virt s)
  pinv : s.propagateInvalidity = []
  handlers : ∀ m, (s.nodeD m).numOnUpdateHandlers ≤ 0

theorem Mid.fr {E : Env} {s : State} (M : Mid E s) : Fr s := M.frag.fr M.pinv

/-! ## the frame of effects -/

/-- what the well-formedness of drivers and the virtual kind read of an expert record -/
def recK (er : ExpertRec) := (er.children, er.forceStale, er.script, er.sel)

/-- the frame of (a sequence of) effects; `D e`: record `e` may have been edited -/
structure EF (D : Nat → Prop) (s s' : State) : Prop where
  size : s'.nodes.size = s.nodes.size
  node : ∀ m, nodeKey (s'.nodeD m) = nodeKey (s.nodeD m)
  key : eKey s' = eKey s
  xsize : s'.experts.size = s.experts.size
  xcore : ∀ (e : Nat) (er : ExpertRec), s.experts[e]? = some er →
    ∃ er', s'.experts[e]? = some er' ∧ er'.f = er.f ∧ er'.node = er.node ∧ er'.pk = er.pk
  xsame : ∀ (e : Nat) (er er' : ExpertRec), ¬ D e → s.experts[e]? = some er → s'.experts[e]? = some er' →
    recK er' = recK er
  xforce : ∀ (e : Nat) (er er' : ExpertRec), s.experts[e]? = some er → s'.experts[e]? = some er' →
    (er'.children = er.children ∧ er'.forceStale = er.forceStale) ∨ er'.forceStale = true
  nextDep : s.nextDep ≤ s'.nextDep

theorem EF.refl (D : Nat → Prop) (s : State) : EF D s s :=
  ⟨rfl, fun _ => rfl, rfl, rfl, fun _ er h => ⟨er, h, rfl, rfl, rfl⟩,
    fun _ er er' _ h h' => by rw [h] at h'; cases h'; rfl,
    fun _ er er' h h' => by rw [h] at h'; cases h'; exact Or.inl ⟨rfl, rfl⟩, Nat.le_refl _⟩

theorem EF.trans {D : Nat → Prop} {a b c : State} (h1 : EF D a b) (h2 : EF D b c) : EF D a c := by
  refine ⟨h2.size.trans h1.size, fun m => (h2.node m).trans (h1.node m), h2.key.trans h1.key,
    h2.xsize.trans h1.xsize, ?_, ?_, ?_, Nat.le_trans h1.nextDep h2.nextDep⟩
  · intro e er he
    obtain ⟨er1, he1, f1, n1, p1⟩ := h1.xcore e er he
    obtain ⟨er2, he2, f2, n2, p2⟩ := h2.xcore e er1 he1
    exact ⟨er2, he2, f2.trans f1, n2.trans n1, p2.trans p1⟩
  · intro e er er2 hD he he2
    obtain ⟨er1, he1, -⟩ := h1.xcore e er he
    exact (h2.xsame e er1 er2 hD he1 he2).trans (h1.xsame e er er1 hD he he1)
  · intro e er er2 he he2
    obtain ⟨er1, he1, -⟩ := h1.xcore e er he
    rcases h2.xforce e er1 er2 he1 he2 with ⟨k1, k2⟩ | k
    · rcases h1.xforce e er er1 he he1 with ⟨j1, j2⟩ | j
      · exact Or.inl ⟨k1.trans j1, k2.trans j2⟩
      · exact Or.inr (k2.trans j)
    · exact Or.inr k

theorem EF.mono {D D' : Nat → Prop} {s s' : State} (h : EF D s s') (hDD : ∀ e, D e → D' e) : EF D' s s' :=
  { h with xsame := fun e er er' hD => h.xsame e er er' (fun hd => hD (hDD e hd)) }

/-! ## the contracts of the three expert API calls (for an effect-free environment `E`) -/

/-- `expert_add_dependency` between two effects: the new edge closes no cycle -/
def AddSpec (E : Env) : Prop :=
  ∀ (fuel x c e : Nat) (cb : Bool) (s s' : State) (dep : Nat) (er : ExpertRec),
    Mid E s → x < s.nodes.size → (s.nodeD x).kind = .expert e → s.experts[e]? = some er →
    c < s.nodes.size → ¬ ExpertH.Below s c x →
    (expertAddDependency E fuel x c cb).run.run s = (.ok dep, s') →
    Mid E s' ∧ EF (fun e' => e' = e) s s' ∧ dep = s.nextDep ∧ s'.nextDep = s.nextDep + 1 ∧
      (∃ er', s'.experts[e]? = some er' ∧ er'.children = er.children ++ [Xp.newEdge s c cb] ∧
        er'.script = er.script ∧ er'.sel = er.sel ∧ er'.forceStale = true) ∧
      (∀ m, s.isNecessary m = true → s'.isNecessary m = true)

/-- `expert_remove_dependency` between two effects: the edge at position `i` (the first one named `dep`) is swapped
with the last edge and dropped -/
def RmSpec (E : Env) : Prop :=
  ∀ (fuel x dep e i : Nat) (s s' : State) (er : ExpertRec),
    Mid E s → x < s.nodes.size → (s.nodeD x).kind = .expert e → s.experts[e]? = some er →
    er.children.findIdx? (·.dep == dep) = some i →
    (expertRemoveDependency fuel x dep).run.run s = (.ok (), s') →
    Mid E s' ∧ EF (fun e' => e' = e) s s' ∧ s'.nextDep = s.nextDep ∧
      (∃ er', s'.experts[e]? = some er' ∧ er'.children = Xp.swapPop er.children i ∧
        er'.script = er.script ∧ er'.sel = er.sel ∧ er'.forceStale = true) ∧
      s'.isNecessary x = s.isNecessary x ∧
      (s.isNecessary x = false → ∀ m, s'.isNecessary m = s.isNecessary m)

/-- `expert_make_stale` between two effects -/
def StaleSpec (E : Env) : Prop :=
  ∀ (x e : Nat) (s s' : State) (er : ExpertRec),
    Mid E s → x < s.nodes.size → (s.nodeD x).kind = .expert e → s.experts[e]? = some er →
    (expertMakeStale x).run.run s = (.ok (), s') →
    Mid E s' ∧ EF (fun e' => e' = e) s s' ∧ s'.nextDep = s.nextDep ∧
      (∃ er', s'.experts[e]? = some er' ∧ er'.children = er.children ∧
        er'.script = er.script ∧ er'.sel = er.sel ∧ er'.forceStale = true) ∧
      (∀ m, s'.isNecessary m = s.isNecessary m)

/-! ## well-formed drivers -/

/-- the node an operand of an effect names (effects are resolved with no locals) -/
def resOp (s : State) : Opnd → Option Nat
  | .outer k => s.top[k]?
  | .abs n => some n
  | _ => none

/-- `n` is attached to the expert node `x` (record `e`) by a PROTECTED dependency: one that no `xRm`/`xSel` of the
scripts removes (it is neither in the script list nor the selected dependency) -/
def Drives (s : State) (n x : Nat) : Prop :=
  x < s.nodes.size ∧ ∃ e er, (s.nodeD x).kind = .expert e ∧ s.experts[e]? = some er ∧
    ∃ ed, ed ∈ er.children ∧ ed.child = n ∧ ed.dep < s.nextDep ∧ ed.dep ∉ er.script ∧
      ∀ d c, er.sel = some (d, c) → d ≠ ed.dep

/-- a legal target of `xAdd`/`xSel`: a node below which there is no expert node (so it never depends on an expert
node, and its cone never changes) -/
def PS (s : State) (c : Nat) : Prop :=
  c < s.nodes.size ∧ ∀ d, ExpertH.Below s c d → ∀ e, (s.nodeD d).kind ≠ .expert e

/-- a legal effect of the driver `n` -/
def EffOK (s : State) (n : Nat) : Effect → Prop
  | .xAdd eo co _ => ∃ x c, resOp s eo = some x ∧ resOp s co = some c ∧ Drives s n x ∧ PS s c
  | .xRm eo _ => ∃ x, resOp s eo = some x ∧ Drives s n x
  | .xSel eo _ _ targets => ∃ x, resOp s eo = some x ∧ Drives s n x ∧
      ∀ t, t ∈ targets → ∃ c, resOp s t = some c ∧ PS s c
  | .xStale eo => ∃ x, resOp s eo = some x ∧ Drives s n x
  | _ => False

/-- every effect of every `map` node with a user function is legal (for every argument list) -/
def DrvOK (env : Env) (s : State) : Prop :=
  ∀ (n f : Nat) (args : List Nat), n < s.nodes.size → (s.nodeD n).kind = .map f args → f < fnZip →
    ∀ (vals : List Val) (eff : Effect), eff ∈ env.fnEff f vals → EffOK s n eff

/-! ## what the well-formedness of drivers reads: sizes, kinds, `top`, and the protected edges -/

theorem kidsX_not_expert (xs xs' : Array ExpertRec) {k : Kind} (h : ∀ e, k ≠ .expert e) :
    kidsX xs' k = kidsX xs k := by
  cases k <;> first | rfl | exact absurd rfl (h _)

/-- below a node that has no expert node below it, the graph is the same in every state with the same kinds -/
theorem below_back {s s' : State} (hk : ∀ m, (s'.nodeD m).kind = (s.nodeD m).kind) {a d : Nat}
    (h : ExpertH.Below s' a d) (hno : ∀ b, ExpertH.Below s a b → ∀ e, (s.nodeD b).kind ≠ .expert e) :
    ExpertH.Below s a d := by
  induction h with
  | refl a => exact .refl a
  | @step a b c hb _ ih =>
    have ha := hno a (.refl a)
    rw [hk a, kidsX_not_expert s.experts s'.experts ha] at hb
    exact .step hb (ih fun b' hb' => hno b' (.step hb hb'))

/-- `PS` reads only the kinds (nothing below a legal target is an expert node, so no record is read) -/
theorem PS.frame {s s' : State} (hsz : s'.nodes.size = s.nodes.size)
    (hk : ∀ m, (s'.nodeD m).kind = (s.nodeD m).kind) {c : Nat} (h : PS s c) : PS s' c := by
  refine ⟨by rw [hsz]; exact h.1, fun d hd e => ?_⟩
  rw [hk]; exact h.2 d (below_back hk hd h.2) e

theorem resOp_congr {s s' : State} (ht : s'.top = s.top) (o : Opnd) : resOp s' o = resOp s o := by
  cases o <;> simp only [resOp, ht]

theorem EffOK.frame {s s' : State} (hsz : s'.nodes.size = s.nodes.size)
    (hk : ∀ m, (s'.nodeD m).kind = (s.nodeD m).kind) (htop : s'.top = s.top)
    (hD : ∀ m x, Drives s m x → Drives s' m x) {n : Nat} {eff : Effect} (h : EffOK s n eff) : EffOK s' n eff := by
  cases eff with
  | xAdd eo co cb =>
    obtain ⟨x, c, h1, h2, h3, h4⟩ := h
    exact ⟨x, c, by rw [resOp_congr htop]; exact h1, by rw [resOp_congr htop]; exact h2, hD _ _ h3,
      h4.frame hsz hk⟩
  | xRm eo i =>
    obtain ⟨x, h1, h3⟩ := h
    exact ⟨x, by rw [resOp_congr htop]; exact h1, hD _ _ h3⟩
  | xSel eo cb al targets =>
    obtain ⟨x, h1, h3, h4⟩ := h
    refine ⟨x, by rw [resOp_congr htop]; exact h1, hD _ _ h3, fun t ht => ?_⟩
    obtain ⟨c, hc, hps⟩ := h4 t ht
    exact ⟨c, by rw [resOp_congr htop]; exact hc, hps.frame hsz hk⟩
  | xStale eo =>
    obtain ⟨x, h1, h3⟩ := h
    exact ⟨x, by rw [resOp_congr htop]; exact h1, hD _ _ h3⟩
  | _ => exact h.elim

/-- **`DrvOK` along a step** that keeps sizes, kinds, `top` and the protected edges -/
theorem drvOK_frameX {env : Env} {s s' : State} (hsz : s'.nodes.size = s.nodes.size)
    (hk : ∀ m, (s'.nodeD m).kind = (s.nodeD m).kind) (htop : s'.top = s.top)
    (hD : ∀ m x, Drives s m x → Drives s' m x) (h : DrvOK env s) : DrvOK env s' := by
  intro n f args hn hkn hf vals eff heff
  rw [hsz] at hn; rw [hk] at hkn
  exact (h n f args hn hkn hf vals eff heff).frame hsz hk htop hD

end IncrVerif.Proofs.DriverH
