import IncrVerif.Proofs.FullH4
/-!
# C01 full fragment: the `didChange` invariant through the linking cascade and `add_new_observers`, from `CFrag` (the cascade itself: `Proofs/MapRefLink.lean`)
-/
namespace IncrVerif.Proofs.FullH
open IncrVerif.Engine IncrVerif.Proofs IncrVerif.Proofs.Step IncrVerif.Proofs.Sched IncrVerif.Proofs.Quiet
open IncrVerif.Proofs.MapRefH

section
variable {env : Env} {sp : Nat → Val → Val} {g : Nat → Option Val} {rk : Nat → Nat} {fuel : Nat} {s s' : State}

/-- **the linking cascade, `became_necessary`** -/
theorem becameNecessary_keepsK {n : Nat} (F : CFrag env sp g rk s) (T : Inherit env g s)
    (h : (becameNecessary env fuel n).run.run s = (.ok (), s'))
    (hpre : ∀ m, rk m < rk n → s.isNecessary m = true → KN env g s m) :
    (∀ m, (rk m < rk n ∨ m = n) → s'.isNecessary m = true → KN env g s' m) ∧
    (IsMapRef (s.nodeD n).kind → Unclean env g s n → ∀ a, MkV s a n → (s'.nodeD a).didChange = true) ∧
    (∀ m, ¬ rk m < rk n → (s'.nodeD m).parents = (s.nodeD m).parents) ∧
    s'.propagateInvalidity = s.propagateInvalidity ∧ FM s s' ∧ VFrame s s' ∧ GRk s s' := by
  obtain ⟨A, B, C, G⟩ := (linkK' env g rk fuel).1 n s s' F.toCK T h hpre
  exact ⟨A, B, C, G.pinv, G.fm, G.vframe, G⟩

/-- **the linking cascade, `add_parent_without_adjusting_heights`** (the child is valid) -/
theorem addParent_keepsK {c idx p : Nat} (F : CFrag env sp g rk s) (T : Inherit env g s)
    (h : (addParentWithoutAdjustingHeights env fuel c idx p).run.run s = (.ok (), s')) (hcp : rk c < rk p)
    (hcv : (s.nodeD c).valid = true)
    (hpre : ∀ m, rk m < rk p → s.isNecessary m = true → KN env g s m) :
    (∀ m, rk m < rk p → s'.isNecessary m = true → KN env g s' m) ∧
    (∀ pr, (s.nodeD p).kind = .mapRef pr c → IsMapRef (s.nodeD c).kind → Unclean env g s c →
      ∀ a, MkV s a p → (s'.nodeD a).didChange = true) ∧
    (∀ m, ¬ rk m < rk c → m ≠ c → (s'.nodeD m).parents = (s.nodeD m).parents) ∧
    s'.propagateInvalidity = s.propagateInvalidity ∧ FM s s' ∧ VFrame s s' ∧ GRk s s' := by
  obtain ⟨A, B, C, G⟩ := (linkK' env g rk fuel).2 c idx p s s' F.toCK T h hcp (fun _ => hcv) hpre
  exact ⟨A, B, C, G.pinv, G.fm, G.vframe, G⟩

/-- **`became_necessary` on a node that has just become necessary** (`add_new_observers`: `n` has just received its first
observer; the invariant is known at every OTHER necessary node) -/
theorem becameNecessary_keepsK_all {n : Nat} (F : CFrag env sp g rk s) (T : Inherit env g s)
    (hK : ∀ m, m ≠ n → s.isNecessary m = true → KN env g s m)
    (h : (becameNecessary env fuel n).run.run s = (.ok (), s')) :
    KInv env g s' ∧ VFrame s s' ∧ FM s s' ∧ s'.propagateInvalidity = s.propagateInvalidity := by
  obtain ⟨K, G, -⟩ := becameNecessary_keepsK_all' F.toCK T hK h
  exact ⟨K, G.vframe, G.fm, G.pinv⟩

/-- **`add_parent_without_adjusting_heights`, whole state** (`state_add_parent rhs 1 main`) -/
theorem addParent_keepsK_all {c idx p : Nat} (F : CFrag env sp g rk s) (T : Inherit env g s) (K : KInv env g s)
    (h : (addParentWithoutAdjustingHeights env fuel c idx p).run.run s = (.ok (), s')) (hcp : rk c < rk p)
    (hcv : (s.nodeD c).valid = true) :
    KInv env g s' ∧ VFrame s s' ∧ FM s s' ∧ s'.propagateInvalidity = s.propagateInvalidity := by
  obtain ⟨K1, G, -⟩ := addParent_keepsK_all' F.toCK T K h hcp hcv
  exact ⟨K1, G.vframe, G.fm, G.pinv⟩

end

/-- `became_necessary_propagate` on a node that has just become necessary (no pending invalidations) -/
theorem becameNecessaryPropagate_keepsK {env : Env} {sp : Nat → Val → Val} {g : Nat → Option Val} {rk : Nat → Nat}
    {fuel n : Nat} {s s' : State}
    (C : CFrag env sp g rk s) (T : Inherit env g s) (hp : s.propagateInvalidity = [])
    (hK : ∀ m, m ≠ n → s.isNecessary m = true → KN env g s m)
    (h : (becameNecessaryPropagate env fuel n).run.run s = (.ok (), s')) :
    KInv env g s' ∧ s'.propagateInvalidity = [] ∧ FM s s' ∧ VFrame s s' ∧ GRk s s' := by
  obtain ⟨K, G, -⟩ := PR.becameNecessaryPropagate_keepsK' C.toCK T hp hK h
  exact ⟨K, G.pinv.trans hp, G.fm, G.vframe, G⟩

/-- **(4)** `add_new_observers` -/
theorem addNewObservers_keepsK {env : Env} {sp : Nat → Val → Val} {g : Nat → Option Val} {rk : Nat → Nat} {fuel : Nat}
    {s s' : State} (C : CFrag env sp g rk s) (T : Inherit env g s) (hp : s.propagateInvalidity = [])
    (K : KInv env g s) (h : (addNewObservers env fuel).run.run s = (.ok (), s')) :
    KInv env g s' ∧ s'.propagateInvalidity = [] ∧ MapRefH.FM s s' ∧ MapRefH.VFrame s s' := by
  obtain ⟨h1, h2, h3⟩ := addNewObservers_keepsK' C.toCK T hp K h
  exact ⟨h1, h2, h3.fm, h3.vf⟩

end IncrVerif.Proofs.FullH
