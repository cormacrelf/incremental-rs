import IncrVerif.Proofs.CutH2
import IncrVerif.Proofs.Drain
-- the drain keeps the scheduling invariant for ARBITRARY cutoffs; overview in Props/C06History.lean
/-!
# C06 for whole histories, part 4: the drain with ANY cutoff: one pop (L2), the direct-recompute chain, the loop (L3)

What one `recomputeOne` does (`recomputeOne_static`, `StepRel`) is in `Proofs/Sched4.lean`; `Sched.Frame` is used as it is.
-/
namespace IncrVerif.Proofs.CutH
open IncrVerif.Engine IncrVerif.Proofs IncrVerif.Proofs.Step IncrVerif.Proofs.Sched

/-! ## taking the minimum out of the heap -/

/-- **pop.** Between two pops the invariant holds without a current node; `remove_min` returning `n`
makes `n` the current node. -/
theorem pop_inv {env : Env} {e : Bool} {s s1 : State} {n : Nat} (I : Inv env e s none)
    (hr : rchRemoveMin.run.run s = (.ok (some n), s1)) : Inv env e s1 (some n) ∧ Frame s s1 := by
  obtain ⟨hq, hmin, hheap, hs1, hqs⟩ := rchRemoveMin_inv I.heap hr
  have g := I.graph
  have hnd : ∀ m, s1.nodeD m =
      if n = m ∧ m < s.nodes.size then { s.nodeD m with heightInRch := -1 } else s.nodeD m := by
    intro m; rw [hs1]; exact nodeD_modify s n m _
  have hsh : ∀ m, SameShape (s.nodeD m) (s1.nodeD m) := by
    intro m; rw [hnd]; split
    · exact ⟨rfl, rfl, rfl, rfl, rfl, rfl, rfl, rfl⟩
    · exact SameShape.refl _
  have hrec : ∀ m, (s1.nodeD m).recomputedAt = (s.nodeD m).recomputedAt := by
    intro m; rw [hnd]; split <;> rfl
  have hchg : ∀ m, (s1.nodeD m).changedAt = (s.nodeD m).changedAt := by
    intro m; rw [hnd]; split <;> rfl
  have hval : ∀ m, (s1.nodeD m).value = (s.nodeD m).value := by
    intro m; rw [hnd]; split <;> rfl
  have hq1 : ∀ m, m ≠ n → (s1.nodeD m).inRch = (s.nodeD m).inRch := by
    intro m hm; rw [hnd, if_neg (fun h => hm h.1.symm)]
  have hqn : (s1.nodeD n).inRch = false := by
    have hlt : n < s.nodes.size := by
      by_cases h : n < s.nodes.size
      · exact h
      · rw [nodeD_default_of_ge s n (by omega)] at hq; cases hq
    rw [hnd, if_pos ⟨rfl, hlt⟩]; rfl
  have hvars : s1.vars = s.vars := by rw [hs1]
  have hstab : s1.stabNum = s.stabNum := by rw [hs1]
  have hpc : s1.panicCountdown = none := by rw [hs1]; exact g.pc
  have hsz : s1.nodes.size = s.nodes.size := by rw [hs1]; simp
  have hnec : ∀ m, s1.isNecessary m = s.isNecessary m := isNecessary_of_shape hsh
  have g1 : Graph env s1 := g.transfer hsz hsh hvars hpc
  have hstale : ∀ m, staleOf s1 m = staleOf s m := fun m =>
    staleOf_congr (hsh m).kind (hrec m) hvars (fun c _ => hchg c)
  refine ⟨⟨g1, hheap, ⟨by rw [hstab]; exact I.stamps.now, ?_, ?_⟩, ?_, ?_, ?_, ?_, ?_, ?_⟩,
    ⟨hsz, hvars, hstab, hsh, fun m h => by rw [hrec]; exact h, hqs⟩⟩
  · intro m; rw [hstab, hrec, hchg]; exact I.stamps.node m
  · intro c vc h; rw [hstab]; rw [hvars] at h; exact I.stamps.var c vc h
  · intro m hm hst
    have hm' := hm; rw [hnec] at hm'
    rw [g1.isStale hm, hstale, ← g.isStale hm'] at hst
    by_cases hmn : m = n
    · exact Or.inr (by rw [hmn])
    · rcases I.pending m hm' hst with h | h
      · exact Or.inl (by rw [hq1 m hmn]; exact h)
      · cases h
  · intro m hm hst
    have hm' := hm; rw [hnec] at hm'
    rw [g1.isStale hm, hstale, ← g.isStale hm'] at hst
    obtain ⟨w, hv, hw⟩ := I.cons m hm' hst
    exact ⟨w, by rw [hval]; exact hv, fun he => Target.congr (hsh m).kind hvars (fun c _ => hval c) (hw he)⟩
  · intro he m
    rw [(hsh m).cutoff]; exact I.exact he m
  · intro d hd a ha
    rw [Anc.transfer_iff hsh] at ha
    rw [hstab, hrec]
    refine I.fresh d (Or.inl ?_) a ha
    rcases hd with h | h
    · by_cases hdn : d = n
      · subst hdn; exact hq
      · rw [← hq1 d hdn]; exact h
    · cases h; exact hq
  · intro m hm
    cases hm
    refine ⟨by rw [hnec]; exact I.heap.nec n hq, ?_⟩
    intro d hd
    rw [Anc.transfer_iff hsh] at hd
    by_cases hdn : n = d
    · subst hdn; exact hqn
    · rw [hq1 d (fun e => hdn e.symm)]
      cases hqd : (s.nodeD d).inRch with
      | false => rfl
      | true =>
        exfalso
        have h1 := hmin d hqd
        have h2 := hd.height_lt g hdn
        omega
  · intro m hm
    have hqm : (s.nodeD m).inRch = true := by
      rcases hm with h | h
      · by_cases hmn : m = n
        · subst hmn; exact hq
        · rw [← hq1 m hmn]; exact h
      · cases h; exact hq
    have hmn := I.heap.nec m hqm
    rw [g1.isStale (by rw [hnec]; exact hmn), hstale, ← g.isStale hmn]
    exact I.qstale m (Or.inl hqm)

/-! ## one recompute (L2) -/

/-- the children of the current node all carry a value -/
theorem Inv.kids_values {env : Env} {e : Bool} {s : State} {n : Nat} (I : Inv env e s (some n)) :
    ∃ vals, plainVals s (kids (s.nodeD n).kind) = some vals := by
  have g := I.graph
  obtain ⟨hn, hbelow⟩ := I.cur n rfl
  apply evalArgs_isSome
  intro c hc
  obtain ⟨hcn, hlt⟩ := g.kids_nec hn hc
  have hanc : Anc s n c := Anc.step hn hc (Anc.refl c)
  have hnst : s.isStale c = false := by
    cases hst : s.isStale c with
    | false => rfl
    | true =>
      rcases I.pending c hcn hst with h | h
      · rw [hbelow c hanc] at h; cases h
      · cases h; omega
  obtain ⟨w, hw, _⟩ := I.cons c hcn hnst
  exact ⟨w, hw⟩

/-- the current node has not been recomputed in this round (so: no node runs twice in one round) -/
theorem Inv.cur_not_yet {env : Env} {e : Bool} {s : State} {n : Nat} (I : Inv env e s (some n)) :
    (s.nodeD n).recomputedAt < s.stabNum := I.fresh n (Or.inr rfl) n (Anc.refl n)

/-- **L2, one `recomputeOne`, with the step relation.** -/
theorem recomputeOne_step {env : Env} {e : Bool} {fuel n : Nat} {s s' : State} {r : Option Nat}
    (I : Inv env e s (some n)) (h : (recomputeOne env fuel n).run.run s = (.ok r, s')) :
    ∃ v ch, Target env s n v ∧ StepRel env n v ch r s s' ∧ Inv env e s' r := by
  obtain ⟨v, ch, ht, R⟩ := recomputeOne_static I.graph I.heap (I.cur n rfl).1 I.kids_values h
  exact ⟨v, ch, ht, R, step_inv I ht R⟩

theorem StepRel.frame {env : Env} {n : Nat} {v : Val} {ch : Bool} {r : Option Nat} {s s' : State}
    (R : StepRel env n v ch r s s') : Frame s s' := by
  refine ⟨R.size, R.vars, R.stabNum, R.shapes, ?_, R.qsize⟩
  intro m hm
  by_cases hmn : m = n
  · subst hmn; exact R.recomputedAt
  · rw [(R.other m hmn).recomputedAt]; exact hm

/-- **L2, one `recomputeOne`.** From the invariant with current node `n`, a successful
`recomputeOne env fuel n` re-establishes the invariant — without a current node if it returns `none`,
with current node `p` if it hands the parent `p` over for direct recomputation. -/
theorem recomputeOne_inv {env : Env} {e : Bool} {fuel n : Nat} {s s' : State} {r : Option Nat}
    (I : Inv env e s (some n)) (h : (recomputeOne env fuel n).run.run s = (.ok r, s')) :
    Inv env e s' r ∧ Frame s s' ∧ (s'.nodeD n).recomputedAt = s.stabNum := by
  obtain ⟨v, ch, ht, R⟩ := recomputeOne_static I.graph I.heap (I.cur n rfl).1 I.kids_values h
  refine ⟨step_inv I ht R, ⟨R.size, R.vars, R.stabNum, R.shapes, ?_, R.qsize⟩, R.recomputedAt⟩
  intro m hm
  by_cases hmn : m = n
  · subst hmn; exact R.recomputedAt
  · rw [(R.other m hmn).recomputedAt]; exact hm

/-- **L2, L3 for a frame.** A reflexive, transitive relation that one `recomputeOne` on the current node keeps is kept by the
direct-recompute chain, together with the invariant. -/
theorem recompute_rel {env : Env} {e : Bool} (R : State → State → Prop) (trans : ∀ {a b c}, R a b → R b c → R a c)
    (one : ∀ {fuel n s r s'}, Inv env e s (some n) → (recomputeOne env fuel n).run.run s = (.ok r, s') → R s s')
    (fuel n : Nat) (s s' : State) (I : Inv env e s (some n)) (h : (recompute env fuel n).run.run s = (.ok (), s')) :
    Inv env e s' none ∧ R s s' :=
  have ⟨I', r, _⟩ := Drain.recompute_run (I := fun x t => Inv env e t x) (T := fun _ => R) trans
    (fun _ _ _ _ _ I h => ⟨(recomputeOne_inv I h).1, one I h⟩) fuel n s s' I h
  ⟨I', r⟩

/-- the same for `drainHeap`, which ends with an empty heap -/
theorem drainHeap_rel {env : Env} {e : Bool} (R : State → State → Prop) (refl : ∀ s, R s s) (trans : ∀ {a b c}, R a b → R b c → R a c)
    (one : ∀ {fuel n s r s'}, Inv env e s (some n) → (recomputeOne env fuel n).run.run s = (.ok r, s') → R s s')
    (pop : ∀ {s n s1}, Inv env e s none → rchRemoveMin.run.run s = (.ok (some n), s1) → R s s1)
    (fuel : Nat) (s s' : State) (I : DrainInv env e s) (h : (drainHeap env fuel).run.run s = (.ok (), s')) :
    DrainInv env e s' ∧ s'.rch.length = 0 ∧ R s s' := by
  obtain ⟨s1, I1, r, h1, -⟩ := Drain.drainHeap_run (I := fun x t => Inv env e t x) (T := fun _ => R) trans
    (fun _ _ _ _ _ I h => ⟨(recomputeOne_inv I h).1, one I h⟩) (fun _ _ _ I h => ⟨(pop_inv I h).1, pop I h⟩)
    (fun s _ => refl s) fuel s s' I h
  obtain ⟨rfl, he⟩ := rchRemoveMin_inv I1.heap h1
  exact ⟨I1, he, r⟩

/-- **L2, the direct-recompute chain.** -/
theorem recompute_inv {env : Env} {e : Bool} : ∀ (fuel n : Nat) (s s' : State), Inv env e s (some n) →
    (recompute env fuel n).run.run s = (.ok (), s') →
    Inv env e s' none ∧ Frame s s' :=
  recompute_rel Frame Frame.trans fun I h => (recomputeOne_inv I h).2.1

/-! ## the loop (L3) -/

/-- **L3.** `drainHeap` keeps the drain invariant and ends with an empty heap; variables and the round
number are untouched. -/
theorem drainHeap_inv {env : Env} {e : Bool} : ∀ (fuel : Nat) (s s' : State), DrainInv env e s →
    (drainHeap env fuel).run.run s = (.ok (), s') →
    DrainInv env e s' ∧ s'.rch.length = 0 ∧ Frame s s' :=
  drainHeap_rel Frame Frame.refl Frame.trans (fun I h => (recomputeOne_inv I h).2.1) fun I h => (pop_inv I h).2

/-- **L3 + L1.** After a successful `drainHeap` from a state satisfying the drain invariant, every
necessary node (the necessary nodes of `s'` are those of `s`) is valid, not stale, and carries the
from-scratch value of its defining expression — evaluated in the graph and on the variable values of
the INITIAL state `s`, which are those of `s'`. -/
theorem drainHeap_values {env : Env} {fuel : Nat} {s s' : State} (I : DrainInv env true s)
    (h : (drainHeap env fuel).run.run s = (.ok (), s')) (n : Nat) (hn : s.isNecessary n = true)
    (k : Nat) (hk : (s.nodeD n).height.toNat < k) :
    s'.vars = s.vars ∧ s'.isNecessary n = true ∧ (s'.nodeD n).valid = true ∧ s'.isStale n = false ∧
      (s'.nodeD n).value = eval env s k n ∧ s'.value env n = eval env s k n ∧
      (eval env s k n).isSome = true := by
  obtain ⟨I', he, f⟩ := drainHeap_inv fuel s s' I h
  have hn' : s'.isNecessary n = true := by rw [f.nec]; exact hn
  have := drained_values I' he n hn' k (by rw [(f.shape n).height]; exact hk)
  rw [f.eval] at this
  exact ⟨f.vars, hn', this⟩

end IncrVerif.Proofs.CutH
