import IncrVerif.Proofs.OnceF10
import IncrVerif.Proofs.OnceF12
/-!
# C02, combined fragment, part 13: FINAL INPUTS, value form, at every `stabilise`

`InputsStab env fuel s s'`: for every step `p` of the drain of the run `s → s'` of `stabilise` (node `p.1`, handed to `recomputeOne` in state `p.2`) and every stable child `c`
of `p.1` in `p.2`: `c` exists there and its stored value in the FINAL state `s'` is its stored value in `p.2` (or it has been erased: `c` was invalidated later in the drain).
-/
namespace IncrVerif.Proofs.OnceF
open IncrVerif.Engine IncrVerif.Driver IncrVerif.Proofs IncrVerif.Proofs.Step IncrVerif.Proofs.Sched IncrVerif.Proofs.Quiet
open IncrVerif.Proofs.FullH IncrVerif.Proofs.TidyH IncrVerif.Proofs.BindH

/-- FINAL INPUTS, value form, for the run `s → s'` of `stabilise env fuel` -/
def InputsStab (env : Env) (fuel : Nat) (s s' : State) : Prop :=
  ∃ t1 t2 t3,
    (addNewObservers env fuel).run.run { s with status := .stabilising } = (.ok (), t1) ∧
    (unlinkDisallowedObservers fuel).run.run t1 = (.ok (), t2) ∧
    (drainHeap env fuel).run.run t2 = (.ok (), t3) ∧ (stabiliseEnd env fuel).run.run t3 = (.ok (), s') ∧
    ∀ p, p ∈ drainSteps env fuel t2 → ∀ c, SKid p.2 p.1 c →
      c < p.2.nodes.size ∧ ((s'.nodeD c).value = (p.2.nodeD c).value ∨ (s'.nodeD c).value = none)

section
variable {env : Env} {sp : Nat → Val → Val}

theorem stabilise_inputsF (E : EnvS env sp) (hF : FirstFn env) {fuel : Nat} {s s' : State} (Q : QInvFE env sp s)
    (h : (stabilise env fuel).run.run s = (.ok (), s')) : InputsStab env fuel s s' := by
  obtain ⟨g, Q⟩ := Q
  obtain ⟨t1, t2, t3, g2, g3, h1, h2, h3, h4, -, -, P, -, hE⟩ := stabilise_pathF (kit E hF) Q h
  refine ⟨t1, t2, t3, h1, h2, h3, h4, fun p hp c hk => ?_⟩
  obtain ⟨a, b⟩ := PathF.inputs P hp c hk
  obtain ⟨x, hx⟩ := hE c
  refine ⟨a, ?_⟩
  rw [hx]
  exact b

/-- at every `stabilise` of a history of the combined fragment -/
theorem history_inputsF (E : EnvS env sp) (hF : FirstFn env) {N : Nat} {d : Bool} {as bs : List Action}
    {s : State} {tk : Array Nat} (hH : HistFull env sp 0 (as ++ Action.stabilise :: bs))
    (h : Quiet.runActions env (as ++ Action.stabilise :: bs) (State.init N d) #[] = .ok (s, tk)) :
    ∃ s1 tk1 s2, Quiet.runActions env as (State.init N d) #[] = .ok (s1, tk1) ∧
      (stabilise env fuelDefault).run.run s1 = (.ok (), s2) ∧ InputsStab env fuelDefault s1 s2 ∧
      Quiet.runActions env bs s2 tk1 = .ok (s, tk) := by
  obtain ⟨s1, tk1, s2, k1, k2, k3, -, -, -, k7⟩ := history_c02 E hF hH h
  exact ⟨s1, tk1, s2, k1, k3, stabilise_inputsF E hF k2 k3, k7⟩

end

theorem exHistF_inputs {as bs : List Action} (e : exHistF = as ++ Action.stabilise :: bs) :
    ∃ s tk s1 tk1 s2, Quiet.runActions fEnv exHistF (State.init 128 true) #[] = .ok (s, tk) ∧
      Quiet.runActions fEnv as (State.init 128 true) #[] = .ok (s1, tk1) ∧
      (stabilise fEnv fuelDefault).run.run s1 = (.ok (), s2) ∧ InputsStab fEnv fuelDefault s1 s2 ∧
      Quiet.runActions fEnv bs s2 tk1 = .ok (s, tk) := by
  obtain ⟨s, tk, s1, tk1, s2, h0, k1, Q, k3, k7⟩ := ex_at_stabilise exHistF_runs exHistF_frag e
  exact ⟨s, tk, s1, tk1, s2, h0, k1, k3, stabilise_inputsF fEnv_envS fEnv_first Q k3, k7⟩

theorem exHistG_inputs {as bs : List Action} (e : exHistG = as ++ Action.stabilise :: bs) :
    ∃ s tk s1 tk1 s2, Quiet.runActions fEnv exHistG (State.init 128 true) #[] = .ok (s, tk) ∧
      Quiet.runActions fEnv as (State.init 128 true) #[] = .ok (s1, tk1) ∧
      (stabilise fEnv fuelDefault).run.run s1 = (.ok (), s2) ∧ InputsStab fEnv fuelDefault s1 s2 ∧
      Quiet.runActions fEnv bs s2 tk1 = .ok (s, tk) := by
  obtain ⟨s, tk, s1, tk1, s2, h0, k1, Q, k3, k7⟩ := ex_at_stabilise exHistG_runs exHistG_frag e
  exact ⟨s, tk, s1, tk1, s2, h0, k1, k3, stabilise_inputsF fEnv_envS fEnv_first Q k3, k7⟩

end IncrVerif.Proofs.OnceF
