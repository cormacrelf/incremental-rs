import IncrVerif.Proofs.NestH72
/-!
# Nested binds (F2), part 5g2: "generations are current" (`GenOK2`) through a drain, part 2 — a run of a change detector; the drain

The counterpart of `BindH104` for nested binds.  A run of the change detector `n` of bind `b`: the closure run (phase 1) registers the image of the template for the CURRENT lhs value
(`ClosureElabSpec2`, a hypothesis); phases 2–4 keep the naming table, the kinds of all nodes, the records (up to their lists) of the inner binds just created and the
lhs value, and install the right-hand side.  For the other OLD binds whose change detector is still VALID: record (`StepL2.bindsOld` + `All2.recValid`), kinds of
registered nodes, records of registered inner binds (up to their lists), lhs value and the staleness of the change detector are unchanged (`StepL2`).  The records of
the inner binds created by the run have pristine, hence STALE change detectors (`StepL2.new`): no obligation.  The records of the inner binds that died have INVALID
change detectors: no obligation.
-/
namespace IncrVerif.Proofs.NestH
open IncrVerif.Engine IncrVerif.Proofs IncrVerif.Proofs.Step IncrVerif.Proofs.Sched IncrVerif.Proofs.Quiet
open IncrVerif.Proofs.BindH

namespace N5g

/-- **a run of a change detector keeps `GenOK2`** -/
theorem lc_gen2 {env : Env} (CS : ClosureSpec2 env) (RS : RelinkSpec2 env) (IS : InvalSpec2 env)
    (ES : ClosureElabSpec2 env) {fuel n b : Nat} {rk : Nat → Nat} {s s' : State} {r : Option Nat}
    (I : DInv env s (some n)) (A : F2Inv env rk s) (G : GenOK2 env s) (hk : (s.nodeD n).kind = .bindLhsChange b)
    (h : (recomputeOne env fuel n).run.run s = (.ok r, s')) : GenOK2 env s' := by
  have g := I.graph
  obtain ⟨br0, br0', rk', L, A', -⟩ := recomputeOne_lcF2 CS RS IS I A hk h
  obtain ⟨br, X⟩ := NC.lc_pre2 I A hk
  have ebr : br0 = br := by
    have := L.bind
    rw [X.hb] at this
    exact (Option.some.inj this).symm
  rw [ebr] at L
  obtain ⟨rhs, s1, s2, s3, h1, h2, h3, h4⟩ := CC.lc_run_inv X.hlt X.hvn hk X.hb h
  obtain ⟨rk1, l, P⟩ := NC.phase1 CS X A h1
  have Q := NC.phase2 RS X A P h2
  have R := NC.phase3 IS X A P Q h3
  have M := NC.midRel2_of X A P Q R
  -- the image of the template after phase 1
  obtain ⟨v, l', locs, hv, hbl, E⟩ := ES n b rhs br rk (started n s) s1 (· = br.main) h1 X.g0 X.ahh0 X.hb X.hlc
    (by rw [CC.started_self X.hlt]; exact X.hvn)
    (by
      obtain ⟨f, hf⟩ := A.closures b br X.hb
      rw [X.hlc] at hf
      exact ⟨f, BodyOK2.mono (s := s) (s' := started n s) rfl (fun r h _ => h) f _ hf⟩)
    (fun k r hk => by
      obtain ⟨h1, h2, h3⟩ := A.topOK k r hk
      obtain ⟨y, e⟩ := CC.started_upto n s r
      refine ⟨by rw [CC.started_size]; exact h1, by rw [e]; exact h2, fun b' => by rw [e]; exact h3 b'⟩)
  have el : l' = l := by
    rw [P.bind] at hbl
    exact (congrArg BindRec.allNodesCreatedOnRhs (Option.some.inj hbl)).symm
  rw [el] at E
  -- the last step: naming table, bind table, kinds
  have K4 : KeyD s3 s' := (PresK.maybeChangeValue env fuel n .unit).h s3 _ s' h4
  simp only [KeyD, stateKeyD, Prod.mk.injEq] at K4
  obtain ⟨-, -, -, htop4, -, -, -, hb4, -⟩ := K4
  have D4 := ((C2k.PresD.maybeChangeValue (b := b) env fuel n .unit).h s3 _ s' h4).1
  have htop1 : s1.top = s.top := P.rel.top
  have htop : s'.top = s.top := by rw [htop4, M.top]
  have hsz3 : s3.nodes.size = s1.nodes.size := R.rel.size.trans Q.rel.size
  have kind13 : ∀ m, (s3.nodeD m).kind = (s1.nodeD m).kind := by
    intro m
    rw [← Q.kind m]
    by_cases hd : Dying s2 br.allNodesCreatedOnRhs m
    · exact (R.rel.dead m hd).2.1
    · rw [R.rel.other m hd]
  have hnlt' : n < s'.nodes.size := Nat.lt_of_lt_of_le X.hlt L.grow
  -- an old node that is a child of a valid old node of `s'` is kept
  intro b' br' hb' hvl' hst'
  by_cases eb : b' = b
  · -- the bind whose change detector ran
    rw [eb, hb4, M.bind] at hb'
    have ebr' := (Option.some.inj hb').symm
    rw [ebr']
    obtain ⟨-, -, f3, f4, -, f6, -⟩ := rec_facts2 A.frag X.hb (by rw [X.hlc]; exact X.hvn)
    rw [X.hlc] at f3 f6
    have hlhsne : br.lhs ≠ n := by intro e; rw [e] at f6; omega
    have hlhsv' : (s'.nodeD br.lhs).valid = true := by
      refine ((L.graph'.node n hnlt' L.self.2.2.2.1).2.2 br.lhs ?_).2
      rw [L.self.2.2.2.2.2.1, f3]; exact List.mem_singleton.2 rfl
    refine ⟨v, rhs, locs, ?_, rfl, ?_⟩
    · show (s'.nodeD br.lhs).value = some v
      rw [(L.kept f4 hlhsne hlhsv').2.2.2.1, ← CC.started_other s hlhsne]
      exact hv
    · show ElabOf2 s' (env.body br.body v) v l locs rhs
      refine elabOf2_mono (C3g.top_mono_of_eq (by rw [htop, htop1])) ?_ ?_ E
      · intro m hm
        obtain ⟨-, m2⟩ := (P.lmem m).1 (loc_mem E hm)
        rw [(D4.old m (by rw [hsz3]; exact m2)).1, kind13]
      · intro b2 br2 k1 k2
        obtain ⟨m1, -⟩ := (P.lmem _).1 (loc_mem E k2)
        have e2 : b2 ≠ b := by
          intro e
          rw [e, P.bind] at k1
          have := (Option.some.inj k1).symm
          rw [this] at m1
          have : br.main < s.nodes.size := X.hml
          have : ({ br with allNodesCreatedOnRhs := l } : BindRec).main = br.main := rfl
          omega
        have k3 : s2.binds[b2]? = some br2 := by rw [Q.rel.bindsOther b2 e2]; exact k1
        obtain ⟨r1, r2⟩ := R.rel.binds b2 br2 k3
        by_cases hd : Dying s2 br.allNodesCreatedOnRhs br2.main
        · exact ⟨{ br2 with allNodesCreatedOnRhs := [] }, by rw [hb4]; exact r1 hd, ⟨rfl, rfl, rfl, rfl⟩⟩
        · exact ⟨br2, by rw [hb4]; exact r2 hd, RecSame.refl _⟩
  · by_cases hlt : b' < s.binds.size
    · -- another old bind whose change detector is still valid
      obtain ⟨br0, hb0⟩ := NC.getElem?_some_of_lt hlt
      obtain ⟨br1, j1, j2, j3⟩ := L.bindsOld.2 b' br0 eb hb0
      rw [hb'] at j1
      have e1 := Option.some.inj j1
      rw [← e1] at j2 j3
      have hmv' : (s'.nodeD br0.main).valid = true := by
        rw [← j2.main, A'.frag.recValid b' br' hb']; exact hvl'
      have ebr0 : br' = br0 := j3 hmv'
      rw [ebr0] at hb' hvl' hst' ⊢
      obtain ⟨-, -, c3', -, c5', -⟩ := rec_facts2 A'.frag hb' hvl'
      have c1 := A.frag.lc_lt hb0
      have c3 := (A.frag.recs b' br0 hb0).2.2.1
      have hlcne : br0.lhsChange ≠ n := by
        intro e
        rw [e, hk] at c3
        injection c3 with c3
        exact eb c3.symm
      have hlcmain : br0.lhsChange ≠ br.main := by
        intro e
        rw [e, X.hkm] at c3; cases c3
      have hvl0 : (s.nodeD br0.lhsChange).valid = true := (L.kept c1 hlcne hvl').1
      have hst0 : s.isStale br0.lhsChange = false := by
        rw [← L.stale_kept g hk c1 hlcne hlcmain hvl']; exact hst'
      obtain ⟨-, -, -, hl1, -⟩ := rec_facts2 A.frag hb0 hvl0
      have hl2 : br0.lhs ≠ n := by
        intro e
        exact A.lhsOK b' br0 hb0 hvl0 b (by rw [e]; exact hk)
      refine gen_rec2 G hb0 hvl0 hst0 (C3g.top_mono_of_eq htop) (L.kept hl1 hl2 c5').2.2.2.1 ?_ ?_
      · intro m hm
        by_cases hmn : m = n
        · rw [hmn]; exact L.self.2.2.2.2.1
        · obtain ⟨d1, -, -⟩ := (A.frag.gen b' br0 hb0 m).1 (Or.inl hm)
          obtain ⟨-, d2', -⟩ := (A'.frag.gen b' br0 hb' m).1 (Or.inl hm)
          exact (L.kept d1 hmn d2').2.1
      · intro b2 br2 k1 _
        by_cases e2 : b2 = b
        · rw [e2, X.hb] at k1
          have := Option.some.inj k1
          rw [← this]
          exact ⟨_, by rw [e2]; exact L.bind', ⟨L.lc.2.2.2.1, L.lc.2.2.2.2, L.lc.2.1.trans L.lc.1.symm, L.lc.2.2.1⟩⟩
        · obtain ⟨br3, i1, i2, -⟩ := L.bindsOld.2 b2 br2 e2 k1
          exact ⟨br3, i1, RecSame.of_bsame i2⟩
    · -- the record of an inner bind created by this run: its change detector is pristine, hence stale
      exfalso
      have hb3 : s3.binds[b']? = some br' := by rw [← hb4]; exact hb'
      obtain ⟨-, -, n3, -⟩ := M.bindsNew b' br' (by omega) hb3
      have hlc' := A'.frag.lc_lt hb'
      rw [(L.new _ n3 hlc').2.2 hvl'] at hst'
      cases hst'

end N5g

/-- **every step of a drain keeps `GenOK2`** (together with the auxiliary invariant `AuxS2` of a drain inside `stabilise`) -/
theorem lcStepsOK_gen2 {env : Env} (CS : ClosureSpec2 env) (RS : RelinkSpec2 env) (IS : InvalSpec2 env)
    (ES : ClosureElabSpec2 env) (t : State) : LcStepsOK2 env (fun s => AuxS2 env t s ∧ GenOK2 env s) where
  lc fuel n b s s' r I A hk h := by
    obtain ⟨h1, h2⟩ := (lcStepsOK_auxS_F2 (fun _ _ _ _ _ _ _ I A hk h => recomputeOne_lcF2 CS RS IS I A hk h) t).lc
      fuel n b s s' r I A.1 hk h
    obtain ⟨rk, A0⟩ := A.1.1
    exact ⟨h1, h2, N5g.lc_gen2 CS RS IS ES I A0 A.2 hk h⟩
  other fuel n s s' r I A hk h := by
    obtain ⟨rk, A0⟩ := A.1.1
    exact ⟨(lcStepsOK_auxS_F2 (fun _ _ _ _ _ _ _ I A hk h => recomputeOne_lcF2 CS RS IS I A hk h) t).other
      fuel n s s' r I A.1 hk h, N5g.static_gen2 I A0 A.2 hk h⟩
  pop s s1 n I A h := by
    obtain ⟨rk, A0⟩ := A.1.1
    exact ⟨(lcStepsOK_auxS_F2 (fun _ _ _ _ _ _ _ I A hk h => recomputeOne_lcF2 CS RS IS I A hk h) t).pop
      s s1 n I A.1 h, N5g.pop_gen2 I A0 A.2 h⟩

/-- the same with `Aux2` alone as the auxiliary invariant -/
theorem lcStepsOK_gen2' {env : Env} (CS : ClosureSpec2 env) (RS : RelinkSpec2 env) (IS : InvalSpec2 env)
    (ES : ClosureElabSpec2 env) : LcStepsOK2 env (fun s => Aux2 env s ∧ GenOK2 env s) where
  lc fuel n b s s' r I A hk h := by
    obtain ⟨h1, h2⟩ := (lcStepsOK_F2 (fun _ _ _ _ _ _ _ I A hk h => recomputeOne_lcF2 CS RS IS I A hk h)).lc
      fuel n b s s' r I A.1 hk h
    obtain ⟨rk, A0⟩ := A.1
    exact ⟨h1, h2, N5g.lc_gen2 CS RS IS ES I A0 A.2 hk h⟩
  other fuel n s s' r I A hk h := by
    obtain ⟨rk, A0⟩ := A.1
    exact ⟨(lcStepsOK_F2 (fun _ _ _ _ _ _ _ I A hk h => recomputeOne_lcF2 CS RS IS I A hk h)).other
      fuel n s s' r I A.1 hk h, N5g.static_gen2 I A0 A.2 hk h⟩
  pop s s1 n I A h := by
    obtain ⟨rk, A0⟩ := A.1
    exact ⟨(lcStepsOK_F2 (fun _ _ _ _ _ _ _ I A hk h => recomputeOne_lcF2 CS RS IS I A hk h)).pop
      s s1 n I A.1 h, N5g.pop_gen2 I A0 A.2 h⟩

/-- **a successful drain keeps `GenOK2`**: from the drain invariant, the auxiliary invariant and current generations, `drainHeap` ends with all three (and an empty
heap) -/
theorem drainHeap_gen2 {env : Env} (CS : ClosureSpec2 env) (RS : RelinkSpec2 env) (IS : InvalSpec2 env)
    (ES : ClosureElabSpec2 env) {fuel : Nat} {t s s' : State} (I : DInv env s none) (X : AuxS2 env t s)
    (G : GenOK2 env s) (h : (drainHeap env fuel).run.run s = (.ok (), s')) :
    DInv env s' none ∧ AuxS2 env t s' ∧ GenOK2 env s' ∧ s'.rch.length = 0 ∧ FrameB s s' := by
  obtain ⟨I', ⟨X', G'⟩, he, f⟩ := drainHeap_invB2 (lcStepsOK_gen2 CS RS IS ES t) fuel s s' I ⟨X, G⟩ h
  exact ⟨I', X', G', he, f⟩

/-- the drain in fragment F2 keeps `GenOK2` -/
theorem drainHeap_gen_F2 {env : Env} (CS : ClosureSpec2 env) (RS : RelinkSpec2 env) (IS : InvalSpec2 env)
    (ES : ClosureElabSpec2 env) {fuel : Nat} {s s' : State} (I : DInv env s none) (A : Aux2 env s)
    (G : GenOK2 env s) (h : (drainHeap env fuel).run.run s = (.ok (), s')) :
    DInv env s' none ∧ Aux2 env s' ∧ GenOK2 env s' := by
  obtain ⟨I', ⟨A', G'⟩, -, -⟩ := drainHeap_invB2 (lcStepsOK_gen2' CS RS IS ES) fuel s s' I ⟨A, G⟩ h
  exact ⟨I', A', G'⟩

end IncrVerif.Proofs.NestH
