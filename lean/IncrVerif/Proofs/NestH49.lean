import IncrVerif.Proofs.NestH43
import IncrVerif.Proofs.NestH41
import IncrVerif.Proofs.NestH8
import IncrVerif.Proofs.BindH87
/-!
# Nested binds (F2), part 4o: the observer actions of the API keep `QInv2 env rk` (SAME ghost rank)

The actions `observe`, `cloneObs`, `dropObs`, `disallow` only touch the observer
table, the two lists of pending observers and counters; everything `QInv2` reads of nodes, binds, cells and heaps is untouched
(`GInv2.congr` for the structural invariant, `NF.F2Inv.transfer` for the auxiliary one, `KeyEq2.isStale2` for staleness).
The actions themselves are taken apart in `BindH87` for any invariant with `C2o.ObsActs`.
-/
namespace IncrVerif.Proofs.NestH
open IncrVerif.Engine IncrVerif.Driver IncrVerif.Proofs IncrVerif.Proofs.Step IncrVerif.Proofs.Sched IncrVerif.Proofs.Quiet
open IncrVerif.Proofs.BindH

namespace N4o

/-- an action that only touches the observer bookkeeping (and counters) keeps `QInv2` as soon as it keeps `ObsOK` and the new observer table
watches top-level nodes that are not change detectors -/
theorem of_obs {env : Env} {rk : Nat → Nat} {s s' : State} (Q : QInv2 env rk s) (F : OFrame s s') (hb : s'.binds = s.binds)
    (ha : s'.ahh = s.ahh) (O : ObsOK s')
    (hT : ∀ (o : Nat) (ob : ObsRec), s'.observers[o]? = some ob →
      (s.nodeD ob.node).createdIn = .top ∧ ∀ b, (s.nodeD ob.node).kind ≠ .bindLhsChange b) :
    QInv2 env rk s' := by
  have S : SameB s s' := ⟨SameG.of_nodes F.nodes F.pc F.scope F.rch F.vars, hb⟩
  have E := BL.KeyEq.of_same S
  have I : GInv2 env rk s allClosed noEx [] := Q.struct
  refine
    { struct := GInv2.congr I S
      f2 := NF.F2Inv.transfer Q.f2 (by rw [F.nodes]) (fun m => by rw [F.nodeD]; exact SameShape.refl _)
        (fun m => by rw [F.nodeD]) (fun m h => by rw [F.nodeD] at h; exact Or.inl h) (fun m => by rw [F.nodeD])
        hb F.top ha F.pinv F.scope (F.pc.trans Q.f2.frag.pc)
      vars := ?_
      obs := O
      obsTop := fun o ob h => by rw [F.nodeD]; exact hT o ob h
      now := by rw [F.stabNum]; exact Q.now
      stamps := fun m => by rw [F.nodeD, F.stabNum]; exact Q.stamps m
      varStamp := fun c vc h => by rw [F.vars] at h; rw [F.stabNum]; exact Q.varStamp c vc h
      cons := ?_
      status := by rw [F.status]; exact Q.status
      alive := by rw [F.alive]; exact Q.alive
      setDuringStab := by rw [F.setDuringStab]; exact Q.setDuringStab
      deadVars := by rw [F.deadVars]; exact Q.deadVars
      handleAfterStab := by rw [F.handleAfterStab]; exact Q.handleAfterStab }
  · refine ⟨fun n c hn hk => ?_, fun c vc h => ?_⟩
    · rw [F.nodes] at hn; rw [F.nodeD] at hk; rw [F.vars]; exact Q.vars.node n c hn hk
    · rw [F.vars] at h; rw [F.nodes, F.nodeD]; exact Q.vars.cell c vc h
  · intro m hm hv hs
    rw [F.nodes] at hm
    rw [F.nodeD] at hv
    rw [KeyEq2.isStale2 E I.frag] at hs
    obtain ⟨v, hT', hval⟩ := Q.cons m hm hv hs
    refine ⟨v, TargetB.congr hv (I.frag.node m hm).kind (by rw [F.nodeD]) F.vars hb (fun c _ => by rw [F.nodeD]) hT', ?_⟩
    rw [F.nodeD]; exact hval

theorem acts2 (env : Env) (rk : Nat → Nat) : C2o.ObsActs (QInv2 env rk) :=
  ⟨fun Q => Q.obs, fun Q => Q.obsTop, fun Q => Q.f2.topOK, of_obs⟩

end N4o

/-! ## the actions -/

theorem step_observe2 {env : Env} {rk : Nat → Nat} {s s' : State} {k : Nat} {tokens : Array Nat} {r : String × Array Nat}
    (Q : QInv2 env rk s) (h : (stepAction env (.observe (.outer k)) tokens).run.run s = (.ok r, s')) :
    QInv2 env rk s' := (N4o.acts2 env rk).step_observe Q h

theorem step_cloneObs2 {env : Env} {rk : Nat → Nat} {s s' : State} {o : Nat} {tokens : Array Nat} {r : String × Array Nat}
    (Q : QInv2 env rk s) (h : (stepAction env (.cloneObs o) tokens).run.run s = (.ok r, s')) :
    QInv2 env rk s' := (N4o.acts2 env rk).step_cloneObs Q h

theorem step_dropObs2 {env : Env} {rk : Nat → Nat} {s s' : State} {o : Nat} {tokens : Array Nat} {r : String × Array Nat}
    (Q : QInv2 env rk s) (h : (stepAction env (.dropObs o) tokens).run.run s = (.ok r, s')) :
    QInv2 env rk s' := (N4o.acts2 env rk).step_dropObs Q h

theorem step_disallow2 {env : Env} {rk : Nat → Nat} {s s' : State} {o : Nat} {tokens : Array Nat} {r : String × Array Nat}
    (Q : QInv2 env rk s) (h : (stepAction env (.disallow o) tokens).run.run s = (.ok r, s')) :
    QInv2 env rk s' := (N4o.acts2 env rk).step_disallow Q h

end IncrVerif.Proofs.NestH
