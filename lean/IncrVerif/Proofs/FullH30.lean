import IncrVerif.Proofs.FullH29
import IncrVerif.Proofs.FullH15
import IncrVerif.Proofs.FullH26
/-!
# C01 full fragment, the recompute step of a `map_ref` node, part 4: the step keeps the drain invariant `DInvF`
(`step_mapRef_node` of MapRef14 for graphs with binds)
-/
namespace IncrVerif.Proofs.FullH
open IncrVerif.Engine IncrVerif.Proofs IncrVerif.Proofs.Step IncrVerif.Proofs.Sched IncrVerif.Proofs.Quiet
open IncrVerif.Proofs.MapRefH (upd1 upd1_self upd1_other cleared cleared_nodeD cleared_started_nodeD After IsMapRef FM value_congr_mr)
open IncrVerif.Proofs.BindH (DInv BGraph StepRelB TargetB DKey NKey FrameB)
namespace MR

section
variable {env : Env} {sp : Nat → Val → Val} {g : Nat → Option Val} {s : State}

/-- a valid map_ref node whose flag is down has a ghost value, after the step -/
theorem AfterF.gsome {n : Nat} {v : Val} {Y : State} (h : AfterF n s Y) (G : GSome g s) : GSome (upd1 g n (some v)) Y := by
  intro m p i hv hk hd
  by_cases hmn : m = n
  · subst hmn; rw [upd1_self]; rfl
  · rw [upd1_other _ _ _ hmn]
    exact G m p i (by rw [← h.a.valid]; exact hv) (by rw [← h.a.kind]; exact hk) (h.a.flag m hmn hd)

/-- the drain invariant from the step relation of the virtual states and the description of the actual end state -/
theorem dinvF_after {t : State} {n p i : Nat} {vi : Val} {ch : Bool} {r : Option Nat} {s' : State}
    (D : DInvF env sp t s g (some n)) (S : MRS env sp g s n p i vi)
    (R : StepRelB n (env.proj p vi) ch r (virt g s) (virt (upd1 g n (some (env.proj p vi))) s'))
    (Fv : VFr (virt g s) (virt (upd1 g n (some (env.proj p vi))) s')) (A : AfterF n s s') :
    DInvF env sp t s' (upd1 g n (some (env.proj p vi))) r := by
  have V : VStep n (env.proj p vi) ch r (virt g s) (virt (upd1 g n (some (env.proj p vi))) s') :=
    ⟨R, Fv.key, Fv.hah, Fv.num, Fv.dk⟩
  have hk' : ∀ b, ((virt g s).nodeD n).kind ≠ .bindLhsChange b := by
    intro b; rw [S.vkind]; intro e; cases e
  obtain ⟨a1, a2⟩ := V.aux D.inv D.aux D.gen hk'
  obtain ⟨d1, d2⟩ := dep_stepB D.dep D.cr D.inv R A.a.kind A.a.cutoff
    (fun a b hka _ => by rw [S.kind] at hka; cases hka)
  exact ⟨A.frag D.frag S.lt _, BindH.stepB_inv D.inv S.target R, a1, a2, A.kinv D.k S.valid S.kind S.value,
    A.minv D.m S.kind, A.gsome D.gs, d1, d2⟩

end

end MR

section
variable {env : Env} {sp : Nat → Val → Val}

/-- the facts of the step that do not depend on the flag, from the drain invariant -/
theorem mrs_of_dinvF {t s : State} {g : Nat → Option Val} {n p i : Nat}
    (D : DInvF env sp t s g (some n)) (hk : (s.nodeD n).kind = .mapRef p i) :
    ∃ vi, MR.MRS env sp g s n p i vi := by
  have I := D.inv
  obtain ⟨hnv, hltv, hvv, -, -⟩ := I.cur_facts
  have hn : s.isNecessary n = true := by rw [← virt_isNecessary g s]; exact hnv
  have hlt : n < s.nodes.size := D.frag.lt_of_mapRef hk
  have hv : (s.nodeD n).valid = true := by rw [virt_nodeD, virtNode_valid] at hvv; exact hvv
  obtain ⟨htv, hsome⟩ := kids_settled D i (by rw [KC.children_mapRef hv hk]; exact List.mem_singleton.2 rfl)
  obtain ⟨vi, hvi⟩ := Option.isSome_iff_exists.1 hsome
  exact ⟨vi, D.frag, I, hlt, hk, hn, hv, hvi, by rw [htv]; exact hvi⟩

/-- **one step of the drain, a `map_ref` node**: the step keeps the drain invariant of the full fragment (for the ghost updated at `n`), and the virtual states are
related by the step relation with its frames -/
theorem step_mapRef_vstep {t s s' : State} {g : Nat → Option Val} {fuel n p i : Nat} {r : Option Nat}
    (D : DInvF env sp t s g (some n)) (hk : (s.nodeD n).kind = .mapRef p i)
    (h : (recomputeOne env fuel n).run.run s = (.ok r, s')) :
    ∃ g' v ch, DInvF env sp t s' g' r ∧ MR.VStep n v ch r (virt g s) (virt g' s') := by
  obtain ⟨vi, S⟩ := mrs_of_dinvF D hk
  have hlt := S.lt
  rw [MapRefH.recomputeOne_mapRef_run (some_of_lt hlt) S.valid hk] at h
  have A0 := MR.AfterF.cleared n s hlt
  have fin : ∀ {ch : Bool},
      StepRelB n (env.proj p vi) ch r (virt g s) (virt (upd1 g n (some (env.proj p vi))) s') →
      MR.VFr (virt g s) (virt (upd1 g n (some (env.proj p vi))) s') → MR.AfterF n s s' →
      ∃ g' v ch, DInvF env sp t s' g' r ∧ MR.VStep n v ch r (virt g s) (virt g' s') := by
    intro ch R Fv A
    exact ⟨_, _, ch, MR.dinvF_after D S R Fv A, R, Fv.key, Fv.hah, Fv.num, Fv.dk⟩
  rcases Bool.eq_false_or_eq_true (s.nodeD n).didChange with hd | hd
  · rw [hd] at h
    obtain ⟨R, Fv⟩ := S.stepRel_fire h
    have q : Step.Quiet (touched n (cleared n (started n s))) s' := mcvm_true_quiet _ _ _ _ _ _ _ _ h
    have fm : FM (cleared n (started n s)) s' := (MapRefH.PresFM.maybeChangeValueManual ..).h _ _ _ h
    exact fin (ch := true) R Fv (A0.quiet q fm)
  · rw [hd, run_mcvm_false] at h
    cases h
    exact fin (ch := false) (S.stepRel_quiet D.k hd) S.vfr A0

/-- **one step of the drain, a `map_ref` node**: the step keeps the drain invariant of the full fragment (for the ghost updated at `n`) -/
theorem step_mapRef {t s : State} {g : Nat → Option Val} {fuel n p i : Nat} {r : Option Nat}
    {s' : State} (D : DInvF env sp t s g (some n)) (hk : (s.nodeD n).kind = .mapRef p i)
    (h : (recomputeOne env fuel n).run.run s = (.ok r, s')) :
    ∃ g', DInvF env sp t s' g' r ∧ BindH.FrameB (virt g s) (virt g' s') ∧
      ((virt g' s').nodeD n).recomputedAt = s.stabNum ∧ ((virt g' s').nodeD n).valid = true := by
  obtain ⟨g', v, ch, D', V⟩ := step_mapRef_vstep D hk h
  exact ⟨g', D', V.facts D.inv.cur_facts.2.2.1⟩

end
end IncrVerif.Proofs.FullH
