import IncrVerif.Proofs.NestH20
/-!
# Nested binds (F2), the closure run, part 2: the static part `All2` through growth

* `NN.n2_old`: the static facts of an old node through growth (the rank may be extended).
* `NN.all2_core`: `All2` of the grown state from the facts about the new nodes and the new records.
* `NN.all2_reset2`: forgetting the list of registered nodes of bind `b` — the registered nodes become the dying generation (as `CN.all1_reset` for fragment F1).
* `NN.Ext b br1 s s'`: `s'` is `s` plus pristine nodes of scope `.bind b`, registered there, plus fresh records whose two nodes are new;
  `Ext.all2`: `All2` through such an extension, given `N2` and the rank bounds of the new nodes.
-/
namespace IncrVerif.Proofs.NestH
open IncrVerif.Engine IncrVerif.Proofs IncrVerif.Proofs.Step IncrVerif.Proofs.Sched IncrVerif.Proofs.Quiet
open IncrVerif.Proofs.BindH

namespace NN

section old
variable {env : Env} {rk rk' : Nat → Nat} {s s' : State} {dy dy' : List Nat}

/-- the static facts of an old node, through growth -/
theorem n2_old (G : Grow2 s s') (A : All2 env rk s dy) (hRk : RkExt rk rk' s.nodes.size) {n : Nat}
    (hn : n < s.nodes.size)
    (hdy : ∀ b c, (s.nodeD n).createdIn = .bind b → c ∈ s.children n → (s.nodeD c).createdIn = .bind b →
      (c ∈ dy ↔ n ∈ dy) → (c ∈ dy' ↔ n ∈ dy')) : N2 env rk' s' dy' n := by
  have sn := A.node n hn
  have hch := G.children_old A hn
  have hkid : ∀ c, c ∈ s.children n → s'.nodeD c = s.nodeD c := fun c hc => G.old c (sn.kidsIn c hc)
  refine ⟨by rw [G.old n hn]; exact sn.kind, by rw [G.old n hn]; exact sn.cutoff, ?_, ?_, ?_, ?_, ?_, ?_, ?_, ?_⟩
  · intro c hc
    rw [hch] at hc
    have := sn.kidsIn c hc
    have := G.size
    omega
  · intro c hc
    rw [hch] at hc
    rw [hkid c hc]; exact sn.kidsValid c hc
  · intro c hc
    rw [hch] at hc
    exact (hRk c n (sn.kidsIn c hc) hn).2 (sn.kidLt c hc)
  · intro b hk
    rw [G.old n hn] at hk
    obtain ⟨br, hb, e⟩ := sn.lcRec b hk
    obtain ⟨l, hb'⟩ := G.binds b br hb
    exact ⟨_, hb', e⟩
  · intro b lc hk
    rw [G.old n hn] at hk
    obtain ⟨br, hb, e1, e2⟩ := sn.mainRec b lc hk
    obtain ⟨l, hb'⟩ := G.binds b br hb
    exact ⟨_, hb', e1, e2⟩
  · intro c b hc hk
    rw [hch] at hc
    rw [hkid c hc] at hk
    rw [G.old n hn]
    exact sn.lcChild c b hc hk
  · intro h
    rw [G.old n hn] at h ⊢
    obtain ⟨h1, h2⟩ := sn.top h
    refine ⟨h1, ?_⟩
    intro c hc
    rw [hch] at hc
    rw [hkid c hc]
    exact h2 c hc
  · intro b h
    rw [G.old n hn] at h ⊢
    obtain ⟨h1, br, h3, h4, h5⟩ := sn.inScope b h
    obtain ⟨l, hb'⟩ := G.binds b br h3
    refine ⟨h1, _, hb', h4, ?_⟩
    intro c hc
    rw [hch] at hc
    rw [hkid c hc]
    rcases h5 c hc with h6 | ⟨h6, h7⟩ | h6
    · exact Or.inl h6
    · exact Or.inr (Or.inl ⟨h6, hdy b c h hc h6 h7⟩)
    · exact Or.inr (Or.inr h6)

/-- **`All2` of a grown state**, from the facts about the new nodes (`hNewN2`, `hNewV`), the new records (`hBn`), the rank, and the registration facts -/
theorem all2_core (G : Grow2 s s') (A : All2 env rk s dy) (hRk : RkExt rk rk' s.nodes.size)
    (hpc : s'.panicCountdown = none) (hsc : s'.currentScope = .top)
    (hdy : ∀ n b c, n < s.nodes.size → (s.nodeD n).createdIn = .bind b → c ∈ s.children n →
      (s.nodeD c).createdIn = .bind b → (c ∈ dy ↔ n ∈ dy) → (c ∈ dy' ↔ n ∈ dy'))
    (hBn : ∀ (b' : Nat) (br' : BindRec), s.binds.size ≤ b' → s'.binds[b']? = some br' →
      s.nodes.size ≤ br'.lhsChange ∧ br'.main = br'.lhsChange + 1 ∧ br'.main < s'.nodes.size ∧
      (s'.nodeD br'.lhsChange).kind = .bindLhsChange b' ∧ (s'.nodeD br'.main).kind = .bindMain b' br'.lhsChange ∧
      (s'.nodeD br'.main).createdIn = (s'.nodeD br'.lhsChange).createdIn)
    (hNewN2 : ∀ m, s.nodes.size ≤ m → m < s'.nodes.size → N2 env rk' s' dy' m)
    (hNewV : ∀ m, s.nodes.size ≤ m → m < s'.nodes.size → ∀ (b' : Nat) (br' : BindRec),
      (s'.nodeD m).createdIn = .bind b' → s'.binds[b']? = some br' →
      (s'.nodeD br'.lhsChange).valid = true ∧ (s'.nodeD br'.main).valid = true ∧
      rk' br'.lhsChange < rk' m ∧ rk' m < rk' br'.main)
    (hInj : ∀ n m, n < s'.nodes.size → m < s'.nodes.size → rk' n = rk' m → n = m)
    (hgen : ∀ (b : Nat) (br : BindRec), s'.binds[b]? = some br → ∀ m,
      (m ∈ br.allNodesCreatedOnRhs ∨ (m ∈ dy' ∧ (s'.nodeD m).createdIn = .bind b)) ↔
        (m < s'.nodes.size ∧ (s'.nodeD m).valid = true ∧ (s'.nodeD m).createdIn = .bind b))
    (hgenDy : ∀ (b : Nat) (br : BindRec), s'.binds[b]? = some br → ∀ m, m ∈ br.allNodesCreatedOnRhs → m ∉ dy')
    (hdyIn : ∀ m, m ∈ dy' → m < s'.nodes.size ∧ ∃ b, (s'.nodeD m).createdIn = .bind b) :
    All2 env rk' s' dy' := by
  have hsz := G.size
  -- an old record in the new table
  have hrec : ∀ (b' : Nat) (br0 br' : BindRec), s.binds[b']? = some br0 → s'.binds[b']? = some br' →
      br'.lhsChange = br0.lhsChange ∧ br'.main = br0.main ∧ br0.main = br0.lhsChange + 1 ∧ br0.main < s.nodes.size ∧
      s'.nodeD br0.lhsChange = s.nodeD br0.lhsChange ∧ s'.nodeD br0.main = s.nodeD br0.main := by
    intro b' br0 br' hb0 hb'
    obtain ⟨-, -, e3, e4, -⟩ := G.binds.bwd hb0 hb'
    obtain ⟨h1, h2, -⟩ := A.recs b' br0 hb0
    exact ⟨e3, e4, h1, h2, G.old _ (by omega), G.old _ h2⟩
  refine ⟨hpc, hsc, ?_, ?_, hgen, hgenDy, hdyIn, ?_, ?_, ?_, hInj⟩
  · intro n hn
    rcases Nat.lt_or_ge n s.nodes.size with h | h
    · exact n2_old G A hRk h (fun b c => hdy n b c h)
    · exact hNewN2 n h hn
  · intro b' br' hb'
    rcases Nat.lt_or_ge b' s.binds.size with h | h
    · have hb0 : s.binds[b']? = some s.binds[b'] := Array.getElem?_eq_getElem h
      obtain ⟨e3, e4, h1, h2, o1, o2⟩ := hrec b' _ br' hb0 hb'
      obtain ⟨-, -, h3, h4, h5⟩ := A.recs b' _ hb0
      rw [e3, e4, o1, o2]
      exact ⟨h1, by omega, h3, h4, h5⟩
    · obtain ⟨-, h2, h3, h4, h5, h6⟩ := hBn b' br' h hb'
      exact ⟨h2, h3, h4, h5, h6⟩
  · intro n b' br' hn hv hsc' hb'
    rcases Nat.lt_or_ge n s.nodes.size with h | h
    · rw [G.old n h] at hv hsc'
      obtain ⟨br0, hb0, -⟩ := A.scope_bind h hsc'
      obtain ⟨e3, e4, -, -, o1, o2⟩ := hrec b' br0 br' hb0 hb'
      rw [e3, e4, o1, o2]
      exact A.scopeValid n b' br0 h hv hsc' hb0
    · obtain ⟨h1, h2, -⟩ := hNewV n h hn b' br' hsc' hb'
      exact ⟨h1, h2⟩
  · intro b' br' hb'
    rcases Nat.lt_or_ge b' s.binds.size with h | h
    · have hb0 : s.binds[b']? = some s.binds[b'] := Array.getElem?_eq_getElem h
      obtain ⟨e3, e4, -, -, o1, o2⟩ := hrec b' _ br' hb0 hb'
      rw [e3, e4, o1, o2]
      exact A.recValid b' _ hb0
    · obtain ⟨h1, h2, h3, -⟩ := hBn b' br' h hb'
      rw [(G.new br'.lhsChange h1 (by omega)).1, (G.new br'.main (by omega) h3).1]
  · intro n b' br' hn hsc' hb'
    rcases Nat.lt_or_ge n s.nodes.size with h | h
    · rw [G.old n h] at hsc'
      obtain ⟨br0, hb0, -⟩ := A.scope_bind h hsc'
      obtain ⟨e3, e4, h1, h2, -, -⟩ := hrec b' br0 br' hb0 hb'
      rw [e3, e4]
      obtain ⟨r1, r2⟩ := A.scopeRk n b' br0 h hsc' hb0
      exact ⟨(hRk _ _ (by omega) h).2 r1, (hRk _ _ h h2).2 r2⟩
    · obtain ⟨-, -, h3, h4⟩ := hNewV n h hn b' br' hsc' hb'
      exact ⟨h3, h4⟩

end old

/-! ## forgetting the list of registered nodes -/

section reset
variable {env : Env} {rk : Nat → Nat} {s s' : State}

/-- **the reset**: the registered nodes of bind `b` become the dying generation -/
theorem all2_reset2 (A : All2 env rk s []) {b : Nat} {br : BindRec} (hb : s.binds[b]? = some br)
    (G : Grow2 s s') (hsz : s'.nodes.size = s.nodes.size)
    (hbs : s'.binds = s.binds.modify b fun x => { x with allNodesCreatedOnRhs := [] })
    (hpc : s'.panicCountdown = none) (hsc : s'.currentScope = .top) :
    All2 env rk s' br.allNodesCreatedOnRhs := by
  have hD : ∀ m, s'.nodeD m = s.nodeD m := by
    intro m
    rcases Nat.lt_or_ge m s.nodes.size with h | h
    · exact G.old m h
    · rw [nodeD_default s m h, nodeD_default s' m (by omega)]
  -- membership in the list of bind `b`
  have hmem : ∀ m, m ∈ br.allNodesCreatedOnRhs ↔
      (m < s.nodes.size ∧ (s.nodeD m).valid = true ∧ (s.nodeD m).createdIn = .bind b) := by
    intro m
    rw [← A.gen b br hb m]
    constructor
    · exact Or.inl
    · rintro (h | ⟨h, -⟩)
      · exact h
      · cases h
  have hbb : s'.binds[b]? = some { br with allNodesCreatedOnRhs := [] } := by
    rw [hbs, Array.getElem?_modify, if_pos rfl, hb]; rfl
  have hbo : ∀ b', b' ≠ b → s'.binds[b']? = s.binds[b']? := by
    intro b' hne
    rw [hbs, Array.getElem?_modify, if_neg (fun e => hne e.symm)]
  have hbsz : s'.binds.size = s.binds.size := by rw [hbs, Array.size_modify]
  refine all2_core G A (RkExt.refl rk _) hpc hsc ?_ ?_ ?_ ?_ ?_ ?_ ?_ ?_
  · intro n b' c hn hnb hc hcb _
    have sn := A.node n hn
    have hnv : (s.nodeD n).valid = true := by
      cases hv : (s.nodeD n).valid with
      | true => rfl
      | false => rw [children_of_invalid hv] at hc; cases hc
    rw [hmem, hmem]
    constructor
    · rintro ⟨-, -, h⟩
      rw [hcb] at h
      exact ⟨hn, hnv, by rw [hnb]; exact h⟩
    · rintro ⟨-, -, h⟩
      rw [hnb] at h
      exact ⟨sn.kidsIn c hc, sn.kidsValid c hc, by rw [hcb]; exact h⟩
  · intro b' br' h hb'
    have := lt_of_getElem? hb'
    omega
  · intro m h1 h2; omega
  · intro m h1 h2; omega
  · intro n m hn hm
    rw [hsz] at hn hm
    exact A.rkInj n m hn hm
  · intro b' br' hb' m
    rw [hD m, hsz]
    by_cases e : b' = b
    · subst e
      rw [hbb] at hb'
      cases hb'
      constructor
      · rintro (h | ⟨h, -⟩)
        · cases h
        · exact (hmem m).1 h
      · intro h
        exact Or.inr ⟨(hmem m).2 h, h.2.2⟩
    · rw [hbo b' e] at hb'
      rw [← A.gen b' br' hb' m]
      constructor
      · rintro (h | ⟨h1, h2⟩)
        · exact Or.inl h
        · have := ((hmem m).1 h1).2.2
          rw [this] at h2
          injection h2 with h2
          exact absurd h2.symm e
      · rintro (h | ⟨h, -⟩)
        · exact Or.inl h
        · cases h
  · intro b' br' hb' m hm hmd
    by_cases e : b' = b
    · subst e
      rw [hbb] at hb'
      cases hb'
      cases hm
    · rw [hbo b' e] at hb'
      have h1 := ((A.gen b' br' hb' m).1 (Or.inl hm)).2.2
      have h2 := ((hmem m).1 hmd).2.2
      rw [h1] at h2
      injection h2 with h2
      exact e h2
  · intro m hm
    rw [hD m, hsz]
    obtain ⟨h1, -, h2⟩ := (hmem m).1 hm
    exact ⟨h1, b, h2⟩

end reset

/-! ## extensions: new nodes in scope `.bind b`, new records -/

/-- `s'` is `s` plus pristine nodes created in scope `.bind b` and registered there (`br1`: the record of `b` in `s`), plus fresh records whose two nodes are new -/
structure Ext (b : Nat) (br1 : BindRec) (s s' : State) : Prop where
  size : s.nodes.size ≤ s'.nodes.size
  old : ∀ m, m < s.nodes.size → s'.nodeD m = s.nodeD m
  new : ∀ m, s.nodes.size ≤ m → m < s'.nodes.size →
    (s'.nodeD m).createdIn = .bind b ∧ (s'.nodeD m).valid = true ∧ (s'.nodeD m).recomputedAt = -1 ∧
    (s'.nodeD m).changedAt = -1 ∧ (s'.nodeD m).value = none ∧ (s'.nodeD m).parents = [] ∧
    (s'.nodeD m).observers = [] ∧ (s'.nodeD m).forceNecessary = false ∧ (s'.nodeD m).heightInRch = -1 ∧
    (s'.nodeD m).heightInAhh = -1 ∧ (s'.nodeD m).numOnUpdateHandlers = 0
  bindB : ∃ l, s'.binds[b]? = some { br1 with allNodesCreatedOnRhs := l } ∧
    ∀ m, m ∈ l ↔ (m ∈ br1.allNodesCreatedOnRhs ∨ (s.nodes.size ≤ m ∧ m < s'.nodes.size))
  bindsGrow : s.binds.size ≤ s'.binds.size
  bindsOther : ∀ b', b' ≠ b → b' < s.binds.size → s'.binds[b']? = s.binds[b']?
  bindsNew : ∀ (b' : Nat) (br' : BindRec), s.binds.size ≤ b' → s'.binds[b']? = some br' →
    br'.rhs = none ∧ br'.allNodesCreatedOnRhs = [] ∧
    s.nodes.size ≤ br'.lhsChange ∧ br'.main = br'.lhsChange + 1 ∧ br'.main < s'.nodes.size ∧
    (s'.nodeD br'.lhsChange).kind = .bindLhsChange b' ∧ (s'.nodeD br'.main).kind = .bindMain b' br'.lhsChange
  vars : s'.vars = s.vars
  stabNum : s'.stabNum = s.stabNum
  status : s'.status = s.status
  cfg : s'.cfg = s.cfg
  scope : s'.currentScope = s.currentScope
  pc : s'.panicCountdown = s.panicCountdown
  rch : s'.rch = s.rch
  ahh : s'.ahh = s.ahh
  top : s'.top = s.top
  pinv : s'.propagateInvalidity = s.propagateInvalidity

namespace Ext
variable {env : Env} {rk rk' : Nat → Nat} {b : Nat} {br1 : BindRec} {s s' : State} {dy : List Nat}

theorem grow2 (C : Ext b br1 s s') (hb : s.binds[b]? = some br1) : Grow2 s s' where
  size := C.size
  old := C.old
  new m h1 h2 := by
    obtain ⟨-, h, -, -, -, h5, h6, h7, h8, h9, -⟩ := C.new m h1 h2
    exact ⟨h, h5, h6, h7, h8, h9⟩
  binds b' br' hb' := by
    by_cases e : b' = b
    · subst e
      rw [hb] at hb'; cases hb'
      obtain ⟨l, hl, -⟩ := C.bindB
      exact ⟨l, hl⟩
    · rw [C.bindsOther b' e (lt_of_getElem? hb'), hb']
      exact ⟨br'.allNodesCreatedOnRhs, rfl⟩
  vars := C.vars
  rch := C.rch
  ahh := C.ahh

/-- **`All2` through an extension** -/
theorem all2 (C : Ext b br1 s s') (A : All2 env rk s dy) (hb : s.binds[b]? = some br1)
    (hRk : RkExt rk rk' s.nodes.size)
    (hv : (s.nodeD br1.lhsChange).valid = true)
    (hNewN2 : ∀ m, s.nodes.size ≤ m → m < s'.nodes.size → N2 env rk' s' dy m)
    (hNewRk : ∀ m, s.nodes.size ≤ m → m < s'.nodes.size → rk' br1.lhsChange < rk' m ∧ rk' m < rk' br1.main)
    (hInj : ∀ n m, n < s'.nodes.size → m < s'.nodes.size → rk' n = rk' m → n = m) :
    All2 env rk' s' dy := by
  have G := C.grow2 hb
  have hbl := lt_of_getElem? hb
  obtain ⟨l, hbb, hl⟩ := C.bindB
  obtain ⟨r1, r2, -⟩ := A.recs b br1 hb
  have hvm : (s.nodeD br1.main).valid = true := by rw [A.recValid b br1 hb]; exact hv
  have hnew : ∀ m, s.nodes.size ≤ m → m < s'.nodes.size →
      (s'.nodeD m).createdIn = .bind b ∧ (s'.nodeD m).valid = true := by
    intro m h1 h2
    obtain ⟨h3, h4, -⟩ := C.new m h1 h2
    exact ⟨h3, h4⟩
  have hdyOld : ∀ m, m ∈ dy → m < s.nodes.size := fun m hm => (A.dyIn m hm).1
  refine all2_core G A hRk (by rw [C.pc]; exact A.pc) (by rw [C.scope]; exact A.scope) (fun _ _ _ _ _ _ _ h => h)
    ?_ hNewN2 ?_ hInj ?_ ?_ ?_
  · intro b' br' h hb'
    obtain ⟨-, -, h3, h4, h5, h6, h7⟩ := C.bindsNew b' br' h hb'
    refine ⟨h3, h4, h5, h6, h7, ?_⟩
    rw [(hnew br'.lhsChange h3 (by omega)).1, (hnew br'.main (by omega) h5).1]
  · intro m h1 h2 b' br' hsc hb'
    rw [(hnew m h1 h2).1] at hsc
    injection hsc with hsc
    subst hsc
    rw [hbb] at hb'
    cases hb'
    show (s'.nodeD br1.lhsChange).valid = true ∧ (s'.nodeD br1.main).valid = true ∧ _
    rw [C.old br1.lhsChange (by omega), C.old br1.main r2]
    exact ⟨hv, hvm, hNewRk m h1 h2⟩
  · intro b' br' hb' m
    by_cases e : b' = b
    · subst e
      rw [hbb] at hb'
      cases hb'
      show (m ∈ l ∨ _) ↔ _
      rw [hl m]
      rcases Nat.lt_or_ge m s.nodes.size with h | h
      · have e1 : ∀ P : Prop, (m < s'.nodes.size ∧ P) ↔ (m < s.nodes.size ∧ P) :=
          fun P => ⟨fun x => ⟨h, x.2⟩, fun x => ⟨by have := C.size; omega, x.2⟩⟩
        rw [C.old m h, e1, ← A.gen b' br1 hb m]
        constructor
        · rintro ((h1 | h1) | h1)
          · exact Or.inl h1
          · omega
          · exact Or.inr h1
        · rintro (h1 | h1)
          · exact Or.inl (Or.inl h1)
          · exact Or.inr h1
      · constructor
        · rintro ((h1 | h1) | ⟨h1, -⟩)
          · have := ((A.gen b' br1 hb m).1 (Or.inl h1)).1
            omega
          · exact ⟨h1.2, (hnew m h h1.2).2, (hnew m h h1.2).1⟩
          · have := hdyOld m h1
            omega
        · rintro ⟨h1, -, -⟩
          exact Or.inl (Or.inr ⟨h, h1⟩)
    · rcases Nat.lt_or_ge b' s.binds.size with hlt | hge
      · rw [C.bindsOther b' e hlt] at hb'
        rcases Nat.lt_or_ge m s.nodes.size with h | h
        · have e1 : ∀ P : Prop, (m < s'.nodes.size ∧ P) ↔ (m < s.nodes.size ∧ P) :=
            fun P => ⟨fun x => ⟨h, x.2⟩, fun x => ⟨by have := C.size; omega, x.2⟩⟩
          rw [C.old m h, e1, ← A.gen b' br' hb' m]
        · constructor
          · rintro (h1 | ⟨h1, -⟩)
            · have := ((A.gen b' br' hb' m).1 (Or.inl h1)).1
              omega
            · have := hdyOld m h1
              omega
          · rintro ⟨h1, -, h3⟩
            rw [(hnew m h h1).1] at h3
            injection h3 with h3
            exact absurd h3.symm e
      · obtain ⟨-, hnil, -⟩ := C.bindsNew b' br' hge hb'
        rw [hnil]
        -- no node is of the scope of a new record
        have hno : ¬ (m < s'.nodes.size ∧ (s'.nodeD m).createdIn = .bind b') := by
          rintro ⟨h1, h2⟩
          rcases Nat.lt_or_ge m s.nodes.size with h | h
          · rw [C.old m h] at h2
            obtain ⟨br0, hb0, -⟩ := A.scope_bind h h2
            have := lt_of_getElem? hb0
            omega
          · rw [(hnew m h h1).1] at h2
            injection h2 with h2
            omega
        constructor
        · rintro (h1 | ⟨h1, h2⟩)
          · cases h1
          · exact absurd ⟨by have := hdyOld m h1; have := C.size; omega, h2⟩ hno
        · rintro ⟨h1, -, h3⟩
          exact absurd ⟨h1, h3⟩ hno
  · intro b' br' hb' m hm
    by_cases e : b' = b
    · subst e
      rw [hbb] at hb'
      cases hb'
      rcases (hl m).1 hm with h | h
      · exact A.genDy b' br1 hb m h
      · intro hd
        have := hdyOld m hd
        omega
    · rcases Nat.lt_or_ge b' s.binds.size with hlt | hge
      · rw [C.bindsOther b' e hlt] at hb'
        exact A.genDy b' br' hb' m hm
      · obtain ⟨-, hnil, -⟩ := C.bindsNew b' br' hge hb'
        rw [hnil] at hm
        cases hm
  · intro m hm
    obtain ⟨h1, h2⟩ := A.dyIn m hm
    rw [C.old m h1]
    exact ⟨by have := C.size; omega, h2⟩

/-- **`GInv2` through an extension** -/
theorem ginv2 {ex : Nat → Prop} (C : Ext b br1 s s') (I : GInv2 env rk s allClosed ex dy) (hb : s.binds[b]? = some br1)
    (hRk : RkExt rk rk' s.nodes.size)
    (hv : (s.nodeD br1.lhsChange).valid = true)
    (hNewN2 : ∀ m, s.nodes.size ≤ m → m < s'.nodes.size → N2 env rk' s' dy m)
    (hNewRk : ∀ m, s.nodes.size ≤ m → m < s'.nodes.size → rk' br1.lhsChange < rk' m ∧ rk' m < rk' br1.main)
    (hInj : ∀ n m, n < s'.nodes.size → m < s'.nodes.size → rk' n = rk' m → n = m) :
    GInv2 env rk' s' allClosed ex dy :=
  (C.grow2 hb).ginv2 I (C.all2 I.frag hb hRk hv hNewN2 hNewRk hInj)

end Ext

end NN

end IncrVerif.Proofs.NestH
