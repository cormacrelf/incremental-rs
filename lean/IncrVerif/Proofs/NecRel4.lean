import IncrVerif.Proofs.NecRel3
/-!
# NecRel4 — `Sim` for recompute and stabilise

`recomputeOne` starts with the only debug-only WRITE of the model (`currentlyRunning := some n`); the erased
field is exactly the one it writes, so the two runs stay related (`sim_setRunning`).
-/
namespace IncrVerif.Proofs.NecRel
open IncrVerif.Engine IncrVerif.Proofs

theorem sim_setRunning {β} (n : Nat) (rest : M β) (hrest : Sim rest) :
    Sim (do
      if (← get).cfg.debug then modify fun s => { s with currentlyRunning := some n }
      rest) := by
  apply Sim.get_bind_pt
  intro s s' b h
  show rest.run.run (erase s) = _
  cases hd : s.cfg.debug with
  | false =>
    have h' : rest.run.run s = (.ok b, s') := by
      rw [← h]; simp only [hd]; rfl
    exact hrest _ _ _ h'
  | true =>
    have h' : rest.run.run { s with currentlyRunning := some n } = (.ok b, s') := by
      rw [← h]; simp only [hd]; rfl
    exact hrest { s with currentlyRunning := some n } _ _ h'

theorem sim_valueUnwrap (env : Env) (n : Nat) (site : String) : Sim (valueUnwrap env n site) := by
  unfold valueUnwrap; sim
macro_rules | `(tactic| sim_lemma) => `(tactic| exact sim_valueUnwrap _ _ _)

theorem sim_childChanged (env : Env) (fuel p c ci : Nat) (o : Option Val) :
    Sim (childChanged env fuel p c ci o) := by
  induction fuel generalizing p c ci o with
  | zero => unfold childChanged; sim
  | succ fuel ih => unfold childChanged; sim
macro_rules | `(tactic| sim_lemma) => `(tactic| exact sim_childChanged _ _ _ _ _ _)

theorem sim_parentIterCanRecomputeNow (p child : Nat) : Sim (parentIterCanRecomputeNow p child) := by
  unfold parentIterCanRecomputeNow; sim
macro_rules | `(tactic| sim_lemma) => `(tactic| exact sim_parentIterCanRecomputeNow _ _)
theorem sim_maybeChangeValueManual (env : Env) (fuel n : Nat) (o : Option Val) (b1 b2 : Bool) :
    Sim (maybeChangeValueManual env fuel n o b1 b2) := by
  unfold maybeChangeValueManual; sim
macro_rules | `(tactic| sim_lemma) => `(tactic| exact sim_maybeChangeValueManual _ _ _ _ _ _)
theorem sim_maybeChangeValue (env : Env) (fuel n : Nat) (v : Val) : Sim (maybeChangeValue env fuel n v) := by
  unfold maybeChangeValue; sim
macro_rules | `(tactic| sim_lemma) => `(tactic| exact sim_maybeChangeValue _ _ _ _)
theorem sim_expertIdxRaw (n : Nat) : Sim (expertIdxRaw n) := by unfold expertIdxRaw; sim
macro_rules | `(tactic| sim_lemma) => `(tactic| exact sim_expertIdxRaw _)
theorem sim_runEffects (env : Env) (fuel : Nat) (effs : List Effect) (arg : Int) :
    Sim (runEffects env fuel effs arg) := by
  unfold runEffects; sim
macro_rules | `(tactic| sim_lemma) => `(tactic| exact sim_runEffects _ _ _ _)
theorem sim_expertValue (env : Env) (e : Nat) (dv sv : List (Option Val)) : Sim (expertValue env e dv sv) := by
  unfold expertValue; sim
macro_rules | `(tactic| sim_lemma) => `(tactic| exact sim_expertValue _ _ _ _)
theorem sim_withOldEvents (env : Env) (g n : Nat) (σ : Val) (old : Option Val) (x new : Val) (did : Bool) :
    Sim (withOldEvents env g n σ old x new did) := by
  unfold withOldEvents; sim
macro_rules | `(tactic| sim_lemma) => `(tactic| exact sim_withOldEvents _ _ _ _ _ _ _ _)
theorem sim_perKeyDriver (env : Env) (fuel op : Nat) (newMap : List (Int × Int)) :
    Sim (perKeyDriver env fuel op newMap) := by
  unfold perKeyDriver; sim
macro_rules | `(tactic| sim_lemma) => `(tactic| exact sim_perKeyDriver _ _ _ _)

theorem sim_recomputeOne (env : Env) (fuel n : Nat) : Sim (recomputeOne env fuel n) := by
  unfold recomputeOne
  refine sim_setRunning _ _ ?_
  sim
macro_rules | `(tactic| sim_lemma) => `(tactic| exact sim_recomputeOne _ _ _)

theorem sim_recompute (env : Env) (fuel n : Nat) : Sim (recompute env fuel n) := by
  induction fuel generalizing n with
  | zero => unfold recompute; sim
  | succ fuel ih => unfold recompute; sim
macro_rules | `(tactic| sim_lemma) => `(tactic| exact sim_recompute _ _ _)

theorem sim_addNewObservers (env : Env) (fuel : Nat) : Sim (addNewObservers env fuel) := by
  unfold addNewObservers; sim
macro_rules | `(tactic| sim_lemma) => `(tactic| exact sim_addNewObservers _ _)
theorem sim_unlinkDisallowedObservers (fuel : Nat) : Sim (unlinkDisallowedObservers fuel) := by
  unfold unlinkDisallowedObservers; sim
macro_rules | `(tactic| sim_lemma) => `(tactic| exact sim_unlinkDisallowedObservers _)
theorem sim_runAll (env : Env) (fuel o n : Nat) (nu : NodeUpdate) (now : Int) :
    Sim (runAll env fuel o n nu now) := by
  unfold runAll; sim
macro_rules | `(tactic| sim_lemma) => `(tactic| exact sim_runAll _ _ _ _ _ _)
theorem sim_stabiliseEnd (env : Env) (fuel : Nat) : Sim (stabiliseEnd env fuel) := by
  unfold stabiliseEnd; sim
macro_rules | `(tactic| sim_lemma) => `(tactic| exact sim_stabiliseEnd _ _)
theorem sim_drainHeap (env : Env) (fuel : Nat) : Sim (drainHeap env fuel) := by
  induction fuel with
  | zero => unfold drainHeap; sim
  | succ fuel ih => unfold drainHeap; sim
macro_rules | `(tactic| sim_lemma) => `(tactic| exact sim_drainHeap _ _)
theorem sim_stabilise (env : Env) (fuel : Nat) : Sim (stabilise env fuel) := by
  unfold stabilise; sim
theorem sim_setMaxHeightAllowed (newMax : Nat) : Sim (setMaxHeightAllowed newMax) := by
  unfold setMaxHeightAllowed; sim

end IncrVerif.Proofs.NecRel
