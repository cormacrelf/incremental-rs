import IncrVerif.Proofs.Quiet28
/-!
# C12 over histories, part 1: `stabiliseEnd` with dead variables

`stabiliseEnd_fin` (`Proofs/Quiet15.lean`) assumes `deadVars = []`.  Here: what `stabiliseEnd` does to the
fields the ownership roots read (`vars`, `rch`, `observers`, `handles`, `slots`) when `deadVars` is arbitrary:
every listed cell gets `linked := false` (`break_rc_cycle`), the rest is untouched.
-/
namespace IncrVerif.Proofs.LeakH
open IncrVerif.Engine IncrVerif.Driver IncrVerif.Proofs IncrVerif.Proofs.Step IncrVerif.Proofs.Sched
open IncrVerif.Proofs.Quiet IncrVerif.Proofs.Footprint

/-- `break_rc_cycle` on the listed cells -/
def killVars (dead : List Nat) (vars : Array VarCell) : Array VarCell :=
  dead.foldl (fun a v => a.modify v fun c => { c with linked := false }) vars

/-- the fields the ownership roots read -/
structure RootKey (s s' : State) : Prop where
  vars : s'.vars = s.vars
  rch : s'.rch = s.rch
  observers : s'.observers = s.observers
  handles : s'.handles = s.handles
  slots : s'.slots = s.slots

theorem RootKey.refl (s : State) : RootKey s s := ⟨rfl, rfl, rfl, rfl, rfl⟩
theorem RootKey.trans {a b c : State} (h1 : RootKey a b) (h2 : RootKey b c) : RootKey a c :=
  ⟨h2.vars.trans h1.vars, h2.rch.trans h1.rch, h2.observers.trans h1.observers,
    h2.handles.trans h1.handles, h2.slots.trans h1.slots⟩

/-- what `stabiliseEnd` leaves of the root fields -/
structure EndL (s s' : State) : Prop where
  vars : s'.vars = killVars s.deadVars s.vars
  rch : s'.rch = s.rch
  observers : s'.observers = s.observers
  handles : s'.handles = s.handles
  slots : s'.slots = s.slots

theorem stabiliseEnd_dead {env : Env} {fuel : Nat} {s s' : State} (h1 : s.setDuringStab = [])
    (hobs : ∀ (o : Nat) (ob : ObsRec), s.observers[o]? = some ob → ob.handlers = [])
    (h : (stabiliseEnd env fuel).run.run s = (.ok (), s')) : EndL s s' := by
  have F := CutH.stabiliseEnd_fin_dead h1 hobs h
  refine ⟨F.vars, F.rch, F.observers, F.handles, ?_⟩
  -- no write of `stabiliseEnd` is to the shared cells
  exact @Steps.lift (Edit (parts W.stabiliseEnd) fun _ => True) (fun s s' => s'.slots = s.slots) ⟨fun _ => rfl, fun h1 h2 => h2.trans h1⟩ _ _
    ((Foot.stabiliseEnd env fuel).run.h s _ s' h).edits fun e => by cases e <;> first | rfl | exact absurd ‹_› (by decide)

end IncrVerif.Proofs.LeakH
