import IncrVerif.Proofs.FullT24
import IncrVerif.Proofs.FullH63
/-!
# C04 combined fragment: non-vacuity — the example histories end in states with room (kernel evaluation of the node count only)
-/
namespace IncrVerif.Proofs.FullT
open IncrVerif.Engine IncrVerif.Driver IncrVerif.Proofs IncrVerif.Proofs.FullH
open IncrVerif.Proofs.NestH (runS HasRoomG)

set_option maxRecDepth 100000 in
/-- the state `exHistF` ends in: 23 nodes at most -/
theorem exHistF_size : (runS fEnv exHistF (State.init 128 true) #[]).2.nodes.size ≤ 64 := by decide +kernel

set_option maxRecDepth 100000 in
theorem exHistG_size : (runS fEnv exHistG (State.init 128 true) #[]).2.nodes.size ≤ 64 := by decide +kernel

set_option maxRecDepth 100000 in
theorem exHistF_size' : (runS fEnv exHistF (State.init 128 false) #[]).2.nodes.size ≤ 64 := by decide +kernel

set_option maxRecDepth 100000 in
theorem exHistG_size' : (runS fEnv exHistG (State.init 128 false) #[]).2.nodes.size ≤ 64 := by decide +kernel

theorem room_of_size {s : State} (h : s.nodes.size ≤ 64) : HasRoomG needFuelF 128 fuelDefault s := by
  unfold HasRoomG needFuelF fuelDefault
  omega

end IncrVerif.Proofs.FullT
