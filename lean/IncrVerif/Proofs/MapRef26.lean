import IncrVerif.Proofs.MapRef19
import IncrVerif.Proofs.Footprint
/-!
# map_ref fragment: what the API actions other than `stabilise` do to existing nodes (`AFrame`)

`AFrame s s'`: no node disappears, the `aCore` fields of the existing nodes and `propagateInvalidity` are the same, the new nodes are not necessary.
Every primitive write of the engine other than those of these fields keeps it (`AFrame.of_edit`), hence so does every function that makes none of them.
-/
namespace IncrVerif.Proofs.MapRefH
open IncrVerif.Engine IncrVerif.Driver IncrVerif.Proofs IncrVerif.Proofs.Step IncrVerif.Proofs.Sched IncrVerif.Proofs.Quiet
open IncrVerif.Proofs.Footprint

/-- the fields of an existing node no API action other than `stabilise` changes -/
def aCore (nd : Node) :=
  (nd.kind, nd.valid, nd.value, nd.didChange, nd.parents, nd.observers, nd.forceNecessary, nd.cutoff)

structure AFrame (s s' : State) : Prop where
  sizeLe : s.nodes.size ≤ s'.nodes.size
  node : ∀ n, n < s.nodes.size → aCore (s'.nodeD n) = aCore (s.nodeD n)
  fresh : ∀ n, s.nodes.size ≤ n → s'.isNecessary n = false
  pinv : s'.propagateInvalidity = s.propagateInvalidity

theorem isNecessary_default_of_ge (s : State) (n : Nat) (h : s.nodes.size ≤ n) : s.isNecessary n = false := by
  unfold State.isNecessary; rw [nodeD_default_of_ge s n h]; rfl

theorem isNecessary_of_aCore {a b : Node} (h : aCore a = aCore b) : a.isNecessary = b.isNecessary := by
  simp only [aCore, Prod.mk.injEq] at h
  simp [Node.isNecessary, h.2.2.2.2.1, h.2.2.2.2.2.1, h.2.2.2.2.2.2.1]

theorem AFrame.refl (s : State) : AFrame s s :=
  ⟨Nat.le_refl _, fun _ _ => rfl, fun n h => isNecessary_default_of_ge s n h, rfl⟩

theorem AFrame.trans {a b c : State} (h1 : AFrame a b) (h2 : AFrame b c) : AFrame a c := by
  refine ⟨Nat.le_trans h1.sizeLe h2.sizeLe, fun n hn => ?_, fun n hn => ?_, h2.pinv.trans h1.pinv⟩
  · exact (h2.node n (Nat.lt_of_lt_of_le hn h1.sizeLe)).trans (h1.node n hn)
  · by_cases hb : n < b.nodes.size
    · have := h1.fresh n hn
      unfold State.isNecessary at this ⊢
      rw [isNecessary_of_aCore (h2.node n hb)]; exact this
    · exact h2.fresh n (by omega)

instance : Step.PreOrd AFrame := ⟨AFrame.refl, AFrame.trans⟩

theorem AFrame.of_nodes {s s' : State} (h1 : s'.nodes = s.nodes)
    (h2 : s'.propagateInvalidity = s.propagateInvalidity) : AFrame s s' := by
  have hnd : ∀ m, s'.nodeD m = s.nodeD m := fun m => by simp [State.nodeD, h1]
  refine ⟨by rw [h1]; exact Nat.le_refl _, fun n _ => by rw [hnd], fun n hn => ?_, h2⟩
  unfold State.isNecessary; rw [hnd]; exact isNecessary_default_of_ge s n hn

theorem AFrame.modNode (s : State) (n : Nat) (f : Node → Node) (hf : ∀ x, aCore (f x) = aCore x) :
    AFrame s { s with nodes := s.nodes.modify n f } := by
  refine ⟨by simp, fun m _ => ?_, fun m hm => ?_, rfl⟩
  · rw [nodeD_modify]; split
    · exact hf _
    · rfl
  · unfold State.isNecessary
    rw [nodeD_modify, if_neg (fun e => by omega)]
    exact isNecessary_default_of_ge s m hm

theorem AFrame.push (s : State) (nd : Node) (hp : nd.parents = []) (ho : nd.observers = [])
    (hf : nd.forceNecessary = false) : AFrame s { s with nodes := s.nodes.push nd } := by
  refine ⟨by simp, fun m hm => ?_, fun m hm => ?_, rfl⟩
  · have : ({ s with nodes := s.nodes.push nd } : State).nodeD m = s.nodeD m := by
      simp only [State.nodeD, Array.getElem?_push]
      rw [if_neg (by omega)]
    rw [this]
  · unfold State.isNecessary State.nodeD
    simp only [Array.getElem?_push]
    split
    · simp [Node.isNecessary, hp, ho, hf]
    · have : s.nodes[m]? = none := Array.getElem?_eq_none (by omega)
      rw [this]; rfl

/-- the writes that keep `AFrame` are all but those of an `aCore` field of an existing node and of `propagateInvalidity`; a pushed node is
isolated -/
theorem AFrame.of_edit {L w}
    (hL : ∀ t ∈ L, t ∉ [Tag.nCutoff, .nParents, .nForceNecessary, .nDidChange, .nObservers, .nInvalid, .vClear, .vClearRef, .vStore,
      .vStoreOld, .erase, .propagateInvalidity]) {s s' : State} (e : Edit L w s s') : AFrame s s' := by
  cases e
  case node n f hf => exact AFrame.modNode s n f fun x => by cases hf <;> first | rfl | exact absurd (hL _ ‹_›) (by decide)
  case value n hn f hf => cases hf <;> exact absurd (hL _ ‹_›) (by decide)
  case stamp n _ => exact AFrame.modNode s n _ fun _ => rfl
  case pushNode k sc c _ => exact AFrame.push s _ rfl rfl rfl
  case erase | propagateInvalidity => exact absurd (hL _ ‹_›) (by decide)
  all_goals exact AFrame.of_nodes rfl rfl

theorem PresA.createNode (k sc c) : Step.Pres AFrame (Engine.createNode k sc c) :=
  (Foot.createNode k sc c).frame (AFrame.of_edit (by decide))
theorem PresA.createVar (v sc) : Step.Pres AFrame (Engine.createVar v sc) :=
  (Foot.createVar v sc).frame (AFrame.of_edit (by decide))
theorem PresA.resolveOpnd (loc o) : Step.Pres AFrame (Engine.resolveOpnd loc o) :=
  (Foot.resolveOpnd loc o).frame (AFrame.of_edit (by decide))
theorem PresA.isConstant (n) : Step.Pres AFrame (Engine.isConstant n) :=
  (Foot.isConstant n).frame (AFrame.of_edit (by decide))

local macro_rules
  | `(tactic| qleaf) =>
    `(tactic| with_reducible first
      | apply PresA.createNode | apply PresA.createVar | apply PresA.resolveOpnd | apply PresA.isConstant)

/-- `Foot.elabInstr` lists the writes of all instructions, among them the cutoff write of `.cutoff`: the instructions of the fragment are walked -/
theorem PresA.elabInstr {i : Instr} (h : RInstr i) : Step.Pres AFrame (Engine.elabInstr [] .unit i) := by
  unfold Engine.elabInstr
  cases i <;> simp only [RInstr] at h <;> qpres

theorem PresA.elabInstrM (env : Env) {i : Instr} (h : RInstr i) :
    Step.Pres AFrame (Engine.elabInstrM env [] .unit i) := by
  rw [elabInstrM_eq _ _ _ h]; exact PresA.elabInstr h

theorem PresA.getVar (v) : Step.Pres AFrame (Engine.getVar v) := Step.Pres.getVar v
theorem PresA.didSetVarWhileNotStabilising (v) : Step.Pres AFrame (Engine.didSetVarWhileNotStabilising v) :=
  (Foot.didSetVarWhileNotStabilising v).frame (AFrame.of_edit (by decide))
theorem PresA.writeVar (v f b) : Step.Pres AFrame (Engine.writeVar v f b) :=
  (Foot.writeVar v f b).frame (AFrame.of_edit (by decide))

theorem PresA.stepAction (env : Env) (a : Action) (tk : Array Nat) (h : RAction a) :
    Step.Pres AFrame (Engine.stepAction env a tk) := by
  cases a <;> simp only [RAction] at h
  case create i =>
    unfold Engine.stepAction
    refine Step.Pres.bind (PresA.elabInstrM env h) fun r => ?_
    cases r
    · exact Step.Pres.pure _
    · exact Step.Pres.bind (Step.Pres.modify fun _ => AFrame.of_nodes rfl rfl) fun _ => Step.Pres.pure _
  all_goals
    exact (Foot.stepAction env _ tk).lift fun e => by
      cases e with
      | engine e => exact AFrame.of_edit (by simp only [W.stepAction]; decide) e
      | _ => exact AFrame.of_nodes rfl rfl

/-! ## corollaries -/

theorem AFrame.valueCore {s s' : State} (A : AFrame s s') {n : Nat} (hn : n < s.nodes.size) :
    Step.valueCore (s'.nodeD n) = Step.valueCore (s.nodeD n) := by
  have := A.node n hn
  simp only [aCore, Prod.mk.injEq] at this
  simp only [Step.valueCore, this.1, this.2.1, this.2.2.1]

theorem AFrame.value {env : Env} {s s' : State} (A : AFrame s s') (F : RFrag env s) :
    ∀ n, n < s.nodes.size → s'.value env n = s.value env n := by
  intro n hn
  unfold State.value
  exact Step.valueWith_congr_below env.proj s s' F.mapRefsBack n
    (fun m hm => A.valueCore (by omega)) _ _ (by omega) (by have := A.sizeLe; omega)

theorem AFrame.isNecessary {s s' : State} (A : AFrame s s') :
    ∀ n, n < s.nodes.size → s'.isNecessary n = s.isNecessary n := by
  intro n hn
  unfold State.isNecessary
  exact isNecessary_of_aCore (A.node n hn)

theorem AFrame.kind {s s' : State} (A : AFrame s s') {n : Nat} (hn : n < s.nodes.size) :
    (s'.nodeD n).kind = (s.nodeD n).kind := by
  have := A.node n hn; simp only [aCore, Prod.mk.injEq] at this; exact this.1

theorem AFrame.didChange {s s' : State} (A : AFrame s s') {n : Nat} (hn : n < s.nodes.size) :
    (s'.nodeD n).didChange = (s.nodeD n).didChange := by
  have := A.node n hn; simp only [aCore, Prod.mk.injEq] at this; exact this.2.2.2.1

theorem AFrame.kInv {env : Env} {g : Nat → Option Val} {s s' : State} (A : AFrame s s') (F : RFrag env s)
    (K : KInv env g s) : KInv env g s' := by
  intro m p i hnec hk hd
  by_cases hm : m < s.nodes.size
  · rw [A.isNecessary m hm] at hnec
    rw [A.kind hm] at hk
    rw [A.didChange hm] at hd
    rw [A.value F m hm]
    exact K m p i hnec hk hd
  · rw [A.fresh m (by omega)] at hnec; cases hnec

end IncrVerif.Proofs.MapRefH
