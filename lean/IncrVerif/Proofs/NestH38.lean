import IncrVerif.Proofs.NestH37
/-!
# Nested binds (F2), the run of a change detector, part 3: the state after phase 3 against the state before the run; the last step

The counterpart of `BindH75` for nested binds: `MidRel2`, `Mid2`, `lc_mid2`.  The dying nodes are `Dying s br.allNodesCreatedOnRhs` (read in the state BEFORE the run).
-/
namespace IncrVerif.Proofs.NestH
open IncrVerif.Engine IncrVerif.Proofs IncrVerif.Proofs.Step IncrVerif.Proofs.Sched IncrVerif.Proofs.Quiet
open IncrVerif.Proofs.BindH
namespace NC

theorem lt_of_getElem?_some {α : Type} {a : Array α} {i : Nat} {x : α} (h : a[i]? = some x) : i < a.size := by
  false_or_by_contra
  rename_i hge
  rw [Array.getElem?_eq_none (by omega)] at h
  cases h

theorem getElem?_some_of_lt {α : Type} {a : Array α} {i : Nat} (h : i < a.size) : ∃ x, a[i]? = some x :=
  ⟨a[i], Array.getElem?_eq_getElem h⟩

/-- the state `t` after phase 3 against the state `s` before the run; `l` = the new generation -/
structure MidRel2 (env : Env) (rk' : Nat → Nat) (n b rhs : Nat) (br : BindRec) (l : List Nat) (s t : State) :
    Prop where
  grow : s.nodes.size ≤ t.nodes.size
  nk : ∀ m, m < s.nodes.size → ¬ Dying s br.allNodesCreatedOnRhs m → CC.NK (s.nodeD m) (t.nodeD m)
  recO : ∀ m, m < s.nodes.size → ¬ Dying s br.allNodesCreatedOnRhs m → m ≠ n →
    (t.nodeD m).recomputedAt = (s.nodeD m).recomputedAt
  chgO : ∀ m, m < s.nodes.size → ¬ Dying s br.allNodesCreatedOnRhs m → m ≠ n →
    (t.nodeD m).changedAt = (s.nodeD m).changedAt
  recN : (t.nodeD n).recomputedAt = s.stabNum
  chgN : (t.nodeD n).changedAt = s.stabNum
  dead : ∀ m, Dying s br.allNodesCreatedOnRhs m → (t.nodeD m).valid = false ∧
    (t.nodeD m).kind = (s.nodeD m).kind ∧
    (t.nodeD m).createdIn = (s.nodeD m).createdIn ∧ (t.nodeD m).cutoff = (s.nodeD m).cutoff ∧
    (t.nodeD m).observers = [] ∧
    (t.nodeD m).forceNecessary = false ∧ (t.nodeD m).recomputedAt ≤ s.stabNum ∧
    (t.nodeD m).changedAt ≤ s.stabNum ∧ (t.nodeD m).numOnUpdateHandlers = 0
  new : ∀ m, s.nodes.size ≤ m → m < t.nodes.size →
    (t.nodeD m).createdIn = .bind b ∧ (t.nodeD m).valid = true ∧ (t.nodeD m).recomputedAt = -1 ∧
    (t.nodeD m).changedAt = -1 ∧ (t.nodeD m).value = none ∧ (t.nodeD m).observers = [] ∧
    (t.nodeD m).forceNecessary = false ∧ (t.nodeD m).numOnUpdateHandlers = 0
  bind : t.binds[b]? = some { { br with allNodesCreatedOnRhs := l } with rhs := some rhs }
  lmem : ∀ m, m ∈ l ↔ (s.nodes.size ≤ m ∧ m < t.nodes.size)
  bindsGrow : s.binds.size ≤ t.binds.size
  /-- the other old records: the record of a bind whose main node dies loses its list -/
  bindsOld : ∀ b' br0, b' ≠ b → s.binds[b']? = some br0 →
    (Dying s br.allNodesCreatedOnRhs br0.main → t.binds[b']? = some { br0 with allNodesCreatedOnRhs := [] }) ∧
    (¬ Dying s br.allNodesCreatedOnRhs br0.main → t.binds[b']? = some br0)
  /-- the new records (inner binds created by the closure run) -/
  bindsNew : ∀ b' br', s.binds.size ≤ b' → t.binds[b']? = some br' →
    br'.rhs = none ∧ br'.allNodesCreatedOnRhs = [] ∧ s.nodes.size ≤ br'.lhsChange ∧
    (∃ f, BodyOK2 env rk' t br'.lhsChange f br'.body) ∧ ∀ b'', (t.nodeD br'.lhs).kind ≠ .bindLhsChange b''
  lcCut : ∀ m b', (t.nodeD m).kind = .bindLhsChange b' → (t.nodeD m).cutoff = .never
  vars : t.vars = s.vars
  stabNum : t.stabNum = s.stabNum
  top : t.top = s.top

theorem midRel2_of {env : Env} {rk rk' : Nat → Nat} {n b rhs : Nat} {br : BindRec} {l : List Nat}
    {s s1 s2 s3 : State}
    (X : Pre2 env rk n b br s) (A : F2Inv env rk s) (P : P1 env rk rk' n b rhs br l s s1)
    (Q : P2 env rk' n b rhs br l s1 s2) (R : P3 env rk' br s2 s3) : MidRel2 env rk' n b rhs br l s s3 := by
  have hD := dying_iff X A P Q
  have hnd : ¬ Dying s2 br.allNodesCreatedOnRhs n := fun h => X.n_notDying A ((hD n).1 h)
  have key3 : ∀ m, m < s.nodes.size → ¬ Dying s br.allNodesCreatedOnRhs m → m ≠ n →
      CC.NKey (s.nodeD m) (s3.nodeD m) := by
    intro m hm hd e
    rw [R.rel.other m (fun h => hd ((hD m).1 h)), ← P.old_other hm e]; exact Q.key e
  have key3N : CC.NKey { s.nodeD n with recomputedAt := s.stabNum, changedAt := s.stabNum } (s3.nodeD n) := by
    rw [R.rel.other n hnd]
    have := Q.keyN
    rw [P.self X.hlt, P.stabNum] at this
    exact this
  have hsz3 : s3.nodes.size = s1.nodes.size := R.rel.size.trans Q.rel.size
  have top3 : s3.top = s1.top := R.rel.top.trans Q.rel.top
  -- kinds and cutoffs of all nodes after phase 1 are final
  have kind13 : ∀ m, (s3.nodeD m).kind = (s1.nodeD m).kind := by
    intro m
    rw [← Q.kind m]
    by_cases hd : Dying s2 br.allNodesCreatedOnRhs m
    · exact (R.rel.dead m hd).2.1
    · rw [R.rel.other m hd]
  have cut13 : ∀ m, (s3.nodeD m).cutoff = (s1.nodeD m).cutoff := by
    intro m
    rw [← Q.cutoff m]
    by_cases hd : Dying s2 br.allNodesCreatedOnRhs m
    · exact (R.rel.dead m hd).2.2.2.1
    · rw [R.rel.other m hd]
  refine
    { grow := by rw [hsz3]; exact P.grow
      nk := fun m hm hd => ?_
      recO := fun m hm hd e => (key3 m hm hd e).recomputedAt
      chgO := fun m hm hd e => (key3 m hm hd e).changedAt
      recN := key3N.recomputedAt
      chgN := key3N.changedAt
      dead := fun m hm => ?_
      new := fun m h1 h2 => ?_
      bind := ((R.rel.binds b _ Q.rel.bind).2 (fun h => X.main_notDying A ((hD _).1 h)))
      lmem := fun m => by rw [P.lmem m, hsz3]
      bindsGrow := by
        rw [R.rel.bindsSize, Q.rel.bindsSize]; exact P.rel.bindsGrow
      bindsOld := fun b' br0 e h0 => ?_
      bindsNew := fun b' br' hge h => ?_
      lcCut := fun m b' hk => by
        rw [kind13] at hk
        rw [cut13]; exact P.lcCut m b' hk
      vars := by rw [R.rel.vars, Q.rel.vars]; exact P.rel.vars
      stabNum := by rw [R.rel.stabNum, Q.rel.stabNum]; exact P.stabNum
      top := by rw [top3]; exact P.rel.top }
  · by_cases e : m = n
    · subst e
      exact ⟨key3N.kind, key3N.valid, key3N.cutoff, key3N.createdIn, key3N.value, key3N.observers,
        key3N.forceNecessary, key3N.num⟩
    · exact CC.NK.of_key (key3 m hm hd e)
  · obtain ⟨hlt, -⟩ := X.dying_scope A hm
    have e := X.dying_ne_n A hm
    obtain ⟨d1, d2, d3, d4, -, d5, d6, -, -, d9, d10, d11⟩ := R.rel.dead m ((hD m).2 hm)
    have k := Q.key e
    rw [P.old_other hlt e] at k
    refine ⟨d1, d2.trans k.kind, d3.trans k.createdIn, d4.trans k.cutoff, d5, d6, ?_, ?_, ?_⟩
    · rw [Q.rel.stabNum, P.stabNum] at d9; exact d9
    · rw [Q.rel.stabNum, P.stabNum] at d10; exact d10
    · rw [d11, k.num]; exact A.noHandlers m
  · rw [hsz3] at h2
    have e : m ≠ n := by have := X.hlt; omega
    have hd : ¬ Dying s2 br.allNodesCreatedOnRhs m := fun h => by
      have := (X.dying_scope A ((hD m).1 h)).1; omega
    obtain ⟨c1, c2, c3, c4, c5, -, c7, c8, -, -, c11⟩ := P.new h1 h2
    have k := Q.key e
    rw [R.rel.other m hd]
    exact ⟨k.createdIn.trans c1, k.valid.trans c2, k.recomputedAt.trans c3, k.changedAt.trans c4,
      k.value.trans c5, k.observers.trans c7, k.forceNecessary.trans c8, k.num.trans c11⟩
  · have hlt := lt_of_getElem?_some h0
    have h2 : s2.binds[b']? = some br0 := by
      rw [Q.rel.bindsOther b' e, P.binds_old e hlt]; exact h0
    obtain ⟨k1, k2⟩ := R.rel.binds b' br0 h2
    exact ⟨fun hd => k1 ((hD _).2 hd), fun hd => k2 (fun h => hd ((hD _).1 h))⟩
  · have e : b' ≠ b := by have := X.blt; omega
    have hlt3 := lt_of_getElem?_some h
    rw [R.rel.bindsSize] at hlt3
    obtain ⟨br0, h2⟩ := getElem?_some_of_lt hlt3
    have h1 : s1.binds[b']? = some br0 := by rw [← Q.rel.bindsOther b' e]; exact h2
    obtain ⟨n1, n2, n3⟩ := P.binds_new hge h1
    obtain ⟨⟨f, hf⟩, n5⟩ := P.newRecs b' br0 hge h1
    have hf3 : BodyOK2 env rk' s3 br0.lhsChange f br0.body :=
      BodyOK2.mono top3 (fun r h _ => h) f _ hf
    have n5' : ∀ b'', (s3.nodeD br0.lhs).kind ≠ .bindLhsChange b'' := fun b'' => by
      rw [kind13]; exact n5 b''
    obtain ⟨k1, k2⟩ := R.rel.binds b' br0 h2
    by_cases hd : Dying s2 br.allNodesCreatedOnRhs br0.main
    · rw [k1 hd] at h
      cases h
      exact ⟨n1, rfl, n3, ⟨f, hf3⟩, n5'⟩
    · rw [k2 hd] at h
      cases h
      exact ⟨n1, n2, n3, ⟨f, hf3⟩, n5'⟩

/-- everything known about the state `t` after phase 3 and about the last step -/
structure Mid2 (env : Env) (rk rk' : Nat → Nat) (n b rhs : Nat) (br : BindRec) (l : List Nat) (r : Option Nat)
    (s t s' : State) : Prop where
  pre : Pre2 env rk n b br s
  ext : RkExt rk rk' s.nodes.size
  rel : MidRel2 env rk' n b rhs br l s t
  rhsK : ∀ b', (t.nodeD rhs).kind ≠ .bindLhsChange b'
  rhsOK : ((t.nodeD rhs).createdIn = .top ∧ rk' rhs < rk' n ∧ rhs < s.nodes.size) ∨
    (s.nodes.size ≤ rhs ∧ rhs < t.nodes.size)
  ginv : GInv2 env rk' t allClosed (· = br.main) []
  ahh : AhhEmpty t
  pinv : t.propagateInvalidity = []
  noForce : ∀ m, (t.nodeD m).forceNecessary = false
  noHandlers : ∀ m, (t.nodeD m).numOnUpdateHandlers = 0
  validMain : (t.nodeD br.main).valid = true
  necMain : t.isNecessary br.main = true
  necN : t.isNecessary n = true
  kidsMain : t.children br.main = [n, rhs]
  graph : BGraph env t
  step : StepRelB n .unit true r t s'
  last : BC.LastK t s'
  num : ∀ m, (s'.nodeD m).numOnUpdateHandlers = (t.nodeD m).numOnUpdateHandlers

theorem lc_mid2 {env : Env} (CS : ClosureSpec2 env) (RS : RelinkSpec2 env) (IS : InvalSpec2 env)
    {fuel n b : Nat} {rk : Nat → Nat} {s s' : State} {r : Option Nat}
    (I : DInv env s (some n)) (A : F2Inv env rk s) (hk : (s.nodeD n).kind = .bindLhsChange b)
    (h : (recomputeOne env fuel n).run.run s = (.ok r, s')) :
    ∃ rk' br rhs l t, Mid2 env rk rk' n b rhs br l r s t s' := by
  obtain ⟨br, X⟩ := lc_pre2 I A hk
  obtain ⟨rhs, s1, s2, s3, h1, h2, h3, h4⟩ := CC.lc_run_inv X.hlt X.hvn hk X.hb h
  obtain ⟨rk', l, P⟩ := phase1 CS X A h1
  have Q := phase2 RS X A P h2
  have R := phase3 IS X A P Q h3
  have M := midRel2_of X A P Q R
  have hD := dying_iff X A P Q
  have hnd := X.n_notDying A
  have hmd := X.main_notDying A
  have hsz3 : s3.nodes.size = s1.nodes.size := R.rel.size.trans Q.rel.size
  -- the adjust-heights heap
  have ahh3 : AhhEmpty s3 := by
    refine ⟨by rw [R.rel.ahh]; exact Q.ahh.length, ?_, fun m => ?_⟩
    · intro i hi
      have hi' : i < s2.ahh.queues.size := by rw [← R.rel.ahh]; exact hi
      have := Q.ahh.buckets i hi'
      simp only [R.rel.ahh]; exact this
    · by_cases hd : Dying s2 br.allNodesCreatedOnRhs m
      · rw [(R.rel.dead m hd).2.2.2.2.2.2.2.2.1]; exact Q.ahh.marks m
      · rw [R.rel.other m hd]; exact Q.ahh.marks m
  have nf3 : ∀ m, (s3.nodeD m).forceNecessary = false := by
    intro m
    by_cases hd : Dying s2 br.allNodesCreatedOnRhs m
    · exact (R.rel.dead m hd).2.2.2.2.2.2.1
    · rw [R.rel.other m hd]; exact Q.noForce m
  have nh3 : ∀ m, (s3.nodeD m).numOnUpdateHandlers = 0 := by
    intro m
    by_cases hd : Dying s2 br.allNodesCreatedOnRhs m
    · exact (M.dead m ((hD m).1 hd)).2.2.2.2.2.2.2.2
    · rw [R.rel.other m hd, Q.num]; exact P.noHandlers A m
  have hmd2 : ¬ Dying s2 br.allNodesCreatedOnRhs br.main := fun h => hmd ((hD _).1 h)
  have necMain : s3.isNecessary br.main = true := by
    show (s3.nodeD br.main).isNecessary = true
    rw [R.rel.other _ hmd2]; exact Q.necMain
  have hvm3 : (s3.nodeD br.main).valid = true := by
    rw [(M.nk br.main X.hml hmd).valid]; exact X.hvm
  have hcm : s3.children br.main = [n, rhs] := by
    have := R.g.main_children M.bind hvm3
    rw [← X.hlc]; exact this
  have necN : s3.isNecessary n = true := by
    have h0 : (s3.children br.main)[0]? = some n := by rw [hcm]; rfl
    exact nec_of_mem_parents (R.g.conv br.main 0 n h0 ((wants_closed rfl).2 necMain))
  have g : BGraph env s3 := by
    apply bgraph_of_ginv2 R.g nf3
    intro m c hm hkc
    cases hsc : (s3.nodeD m).createdIn with
    | bind b' => exact absurd hkc (((R.g.frag.node m hm).inScope b' hsc).1 c)
    | top =>
      by_cases hd : Dying s br.allNodesCreatedOnRhs m
      · exfalso
        rw [(M.dead m hd).2.2.1] at hsc
        exact X.notDying_of_top A hsc hd
      · by_cases hlt : m < s.nodes.size
        · have k := M.nk m hlt hd
          rw [k.kind] at hkc
          rw [k.createdIn] at hsc
          rw [M.vars]
          exact I.graph.var m c hlt ((A.frag.node m hlt).top hsc).1 hkc
        · exfalso
          rw [(M.new m (by omega) hm).1] at hsc; cases hsc
  obtain ⟨S, L⟩ := BC.mcv_last g (heapInv_of_ginv2 R.g) necN (by rw [M.recN, M.stabNum])
    (by rw [(M.nk n X.hlt hnd).cutoff]; exact A.lcCut n b hk) h4
  have kind13 : ∀ m, (s3.nodeD m).kind = (s1.nodeD m).kind := by
    intro m
    rw [← Q.kind m]
    by_cases hd : Dying s2 br.allNodesCreatedOnRhs m
    · exact (R.rel.dead m hd).2.1
    · rw [R.rel.other m hd]
  refine ⟨rk', br, rhs, l, s3, X, P.ext, M, fun b' => by rw [kind13]; exact P.rhsK b', ?_, R.g, ahh3,
    R.rel.pinv.trans Q.pinv, nf3, nh3, hvm3, necMain, necN,
    hcm, g, S, L, fun m => ((PresC.maybeChangeValue env fuel n .unit).h _ _ _ h4).num m⟩
  rcases P.rhs with ⟨h5, h6⟩ | h5
  · left
    have hlt := P.old_of_top P.rlt h5
    have hnd' : ¬ Dying s br.allNodesCreatedOnRhs rhs :=
      X.notDying_of_top A (by rw [← (P.sh hlt).2.2.1]; exact h5)
    refine ⟨?_, h6, hlt⟩
    rw [(M.nk rhs hlt hnd').createdIn, ← (P.sh hlt).2.2.1]; exact h5
  · exact Or.inr ⟨h5, by rw [hsz3]; exact P.rlt⟩

end NC
end IncrVerif.Proofs.NestH
