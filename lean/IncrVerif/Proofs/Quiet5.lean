import IncrVerif.Proofs.Quiet3
import IncrVerif.Proofs.CutH11
/-!
# Part 4: pure step lemmas for `GInv` (unlinking)
-/
namespace IncrVerif.Proofs.Quiet
open IncrVerif.Engine IncrVerif.Proofs IncrVerif.Proofs.Step IncrVerif.Proofs.Sched


/-! ## helpers -/
namespace U4

/-- the two states agree on everything the invariant reads except parents, observers, heap markers, heap -/
structure SameB (s s' : State) : Prop where
  pc : s'.panicCountdown = s.panicCountdown
  scope : s'.currentScope = s.currentScope
  size : s'.nodes.size = s.nodes.size
  vars : s'.vars = s.vars
  valid : ∀ m, (s'.nodeD m).valid = (s.nodeD m).valid
  kind : ∀ m, (s'.nodeD m).kind = (s.nodeD m).kind
  cutoff : ∀ m, (s'.nodeD m).cutoff = (s.nodeD m).cutoff
  createdIn : ∀ m, (s'.nodeD m).createdIn = (s.nodeD m).createdIn
  forceNecessary : ∀ m, (s'.nodeD m).forceNecessary = (s.nodeD m).forceNecessary
  height : ∀ m, (s'.nodeD m).height = (s.nodeD m).height
  recomputedAt : ∀ m, (s'.nodeD m).recomputedAt = (s.nodeD m).recomputedAt
  changedAt : ∀ m, (s'.nodeD m).changedAt = (s.nodeD m).changedAt

theorem SameB.toC {s s' : State} (h : SameB s s') : CutH.U4.SameB s s' :=
  ⟨h.pc, h.scope, h.size, h.vars, h.valid, h.kind, h.cutoff, h.createdIn, h.forceNecessary, h.height, h.recomputedAt,
    h.changedAt⟩
theorem SameB.ofC {s s' : State} (h : CutH.U4.SameB s s') : SameB s s' :=
  ⟨h.pc, h.scope, h.size, h.vars, h.valid, h.kind, h.cutoff, h.createdIn, h.forceNecessary, h.height, h.recomputedAt,
    h.changedAt⟩

theorem SameB.refl (s : State) : SameB s s :=
  ⟨rfl, rfl, rfl, rfl, fun _ => rfl, fun _ => rfl, fun _ => rfl, fun _ => rfl, fun _ => rfl, fun _ => rfl,
   fun _ => rfl, fun _ => rfl⟩

theorem SameB.static {env : Env} {s s' : State} (h : SameB s s') (A : AllStatic env s) : AllStatic env s' :=
  .ofC (h.toC.static A.toC) (A.eqCut.of_eq h.size h.cutoff)

/-- `f` only touches parents / observers -/
structure KeepB (f : Node → Node) : Prop where
  valid : ∀ x, (f x).valid = x.valid
  kind : ∀ x, (f x).kind = x.kind
  cutoff : ∀ x, (f x).cutoff = x.cutoff
  createdIn : ∀ x, (f x).createdIn = x.createdIn
  forceNecessary : ∀ x, (f x).forceNecessary = x.forceNecessary
  height : ∀ x, (f x).height = x.height
  heightInRch : ∀ x, (f x).heightInRch = x.heightInRch
  recomputedAt : ∀ x, (f x).recomputedAt = x.recomputedAt
  changedAt : ∀ x, (f x).changedAt = x.changedAt

theorem KeepB.toC {f : Node → Node} (h : KeepB f) : CutH.U4.KeepB f :=
  ⟨h.valid, h.kind, h.cutoff, h.createdIn, h.forceNecessary, h.height, h.heightInRch, h.recomputedAt, h.changedAt⟩

theorem keepB_fParents (l : List (Nat × Nat)) : KeepB (fParents l) :=
  ⟨fun _ => rfl, fun _ => rfl, fun _ => rfl, fun _ => rfl, fun _ => rfl, fun _ => rfl, fun _ => rfl,
   fun _ => rfl, fun _ => rfl⟩

theorem keepB_fObservers (l : List Nat) : KeepB (fObservers l) :=
  ⟨fun _ => rfl, fun _ => rfl, fun _ => rfl, fun _ => rfl, fun _ => rfl, fun _ => rfl, fun _ => rfl,
   fun _ => rfl, fun _ => rfl⟩

theorem sameB_of_upd {n : Nat} {f : Node → Node} {s s' : State} (U : NodeUpd n f s s') (hf : KeepB f) :
    SameB s s' :=
  .ofC (CutH.U4.sameB_of_upd U.toC hf.toC)

theorem hir_of_upd {n : Nat} {f : Node → Node} {s s' : State} (U : NodeUpd n f s s') (hf : KeepB f) (m : Nat) :
    (s'.nodeD m).heightInRch = (s.nodeD m).heightInRch :=
  CutH.U4.hir_of_upd U.toC hf.toC m

/-- `Wants` of an open node does not depend on the state -/
theorem wants_open {s s' : State} {op op' : Nat → Op} {q i : Nat} (h : op' q = op q) (hq : op q ≠ .closed) :
    Wants s' op' q i ↔ Wants s op q i := by
  unfold Wants; rw [h]
  cases e : op q with
  | closed => exact absurd e hq
  | linking k => exact Iff.rfl
  | unlinking k => exact Iff.rfl

theorem wants_same {s : State} {op op' : Nat → Op} {q i : Nat} (h : op' q = op q) :
    Wants s op' q i ↔ Wants s op q i := by
  unfold Wants; rw [h]

theorem parents_nil_of_unnec {s : State} {n : Nat} (h : s.isNecessary n = false) : (s.nodeD n).parents = [] :=
  parents_nil_of_not_nec h

theorem g1_upd {op : Nat → Op} {p a b : Nat} (hop : op p = .unlinking a) (m : Nat) :
    upd op p (.unlinking b) m = .closed ↔ op m = .closed := by
  simp only [upd]; split
  · rename_i e; rw [e, hop]; constructor <;> intro h <;> cases h
  · exact Iff.rfl

theorem g2_upd {op : Nat → Op} {p a b : Nat} (hop : op p = .unlinking a) (m k : Nat) :
    upd op p (.unlinking b) m = .linking k ↔ op m = .linking k := by
  simp only [upd]; split
  · rename_i e; rw [e, hop]; constructor <;> intro h <;> cases h
  · exact Iff.rfl

theorem g3_upd {op : Nat → Op} {p a b : Nat} (hop : op p = .unlinking a) (m : Nat) :
    (∃ k, upd op p (.unlinking b) m = .unlinking k) ↔ (∃ k, op m = .unlinking k) := by
  simp only [upd]; split
  · rename_i e; rw [e, hop]; exact ⟨fun _ => ⟨a, rfl⟩, fun _ => ⟨b, rfl⟩⟩
  · exact Iff.rfl

end U4

section
variable {env : Env} {s s' : State} {op : Nat → Op}

/-! ## unlinking -/

/-- removing an observer from a closed node -/
theorem GInv.remObs {n : Nat} {l : List Nat} (I : GInv env s op) (U : NodeUpd n (fObservers l) s s')
    (hcl : op n = .closed) (hn : s.isNecessary n = true) :
    (s'.isNecessary n = true → GInv env s' op) ∧
    (s'.isNecessary n = false → GInv env s' (upd op n (.unlinking 0))) :=
  have J := I.toC.remObs U.toC (cop_closed.2 hcl) hn
  have E := I.eqCut.upd U (keeps_fObservers l)
  ⟨fun h => .ofC (J.1 h) E, fun h => .ofC' (J.2 h) E⟩

end

end IncrVerif.Proofs.Quiet
