import IncrVerif.Proofs.NestH76
import IncrVerif.Proofs.NestH41
import IncrVerif.Proofs.NestH86
/-!
# Total correctness for binds (F1 ⊂ F2), part b2: `maybe_change_value`, a run of a static / `bindMain` node, `remove_min` RETURN

* `maybeChangeValue_total2`: `maybe_change_value n v`, run in a state `S0` of the `Upd n s` family of a state `s` at rest (`BGraph`, `HeapInv`),
  returns when `n` is necessary, its parents have not been recomputed in this round, heights are bounded (`HBo2` + `Room`) and `1 ≤ fuel`.
  (`S0 = started n s`, possibly with log events, for the run of a static / `bindMain` node; `S0 = s` (`BC.Upd.refl'`) for the last step
  of the run of a change detector.)
* `recomputeOne_static_total2`: a run of the current node of the drain invariant, of a static kind or of kind `bindMain`, returns and keeps
  `HBo2`/`Room`.  For `bindMain` the right-hand side must be installed: hypothesis `hrhs`; `rhs_of_ran` derives it from the invariant `RhsRan`
  ("a valid change detector that has run has installed a right-hand side"), which is NOT part of `DInv`/`BGraph`/`F2Inv`.
* `rchRemoveMin_total2`.
-/
namespace IncrVerif.Proofs.NestH
open IncrVerif.Engine IncrVerif.Proofs IncrVerif.Proofs.Step IncrVerif.Proofs.Sched IncrVerif.Proofs.Quiet
open IncrVerif.Proofs.BindH
namespace T2b

/-- the notification part of a propagating `maybe_change_value_manual`, run in a state `W` of the `Upd n s` family of a state `s` at rest: no panic -/
theorem mcvm_noerr_upd {env : Env} {fuel n : Nat} {o : Option Val} {s W s' : State} {e : Panic}
    (g : BGraph env s) (hi : HeapInv s) (hn : s.isNecessary n = true)
    (hfresh : ∀ p, p ∈ (s.nodeD n).parents.map (·.1) → (s.nodeD p).recomputedAt < s.stabNum)
    (hmax : ∀ m, s.isNecessary m = true → (s.nodeD m).height ≤ s.rch.maxAllowed)
    (hUW : Upd n s W) (hbW : W.binds = s.binds) (hf : 1 ≤ fuel)
    (h : (maybeChangeValueManual env fuel n o true true).run.run W = (.error e, s')) : False := by
  have hlt := g.nec_lt hn
  have hltW : n < W.nodes.size := by rw [hUW.size]; exact hlt
  have hUT : Upd n s (touched n W) := hUW.touched
  have hbT : (touched n W).binds = s.binds := hbW
  have eT : (touched n W).nodeD n = { W.nodeD n with changedAt := W.stabNum } := by
    rw [touched_nodeD, if_pos ⟨rfl, hltW⟩]
  have hparT : ((touched n W).nodeD n).parents = (s.nodeD n).parents := hUT.shape.parents
  refine mcvm_noerr hltW (hUT.heap hi) ?_ hf h
  intro p hp
  rw [hparT] at hp
  have hfr := hfresh p hp
  obtain ⟨⟨p', ci⟩, hmem, rfl⟩ := List.mem_map.1 hp
  dsimp only at hfr ⊢
  obtain ⟨hpn, hci⟩ := g.parent n p' ci hmem
  have h1 := g.nec_lt hpn
  obtain ⟨h2, h5⟩ := g.nec p' hpn
  obtain ⟨h3, -, hkids⟩ := g.node p' h1 h2
  have hcm : n ∈ s.children p' := List.mem_of_getElem? hci
  have hne : p' ≠ n := g.edge_ne (Edge.child hcm)
  have ep : (touched n W).nodeD p' = s.nodeD p' := hUT.other p' hne
  have sh := hUT.shapeAll p'
  have hchT : (touched n W).children p' = s.children p' :=
    children_congr_kind sh.kind sh.valid hbT (fun e => h3.not_expert e)
  refine ⟨⟨by rw [hUT.size]; exact h1, by rw [sh.valid]; exact h2, by rw [sh.kind]; exact h3,
    by rw [hUT.nec]; exact hpn⟩, by rw [hchT]; exact hcm, by rw [hUT.size]; exact hlt, ?_,
    by rw [ep]; exact h5, by rw [ep, hUT.rch]; exact hmax p' hpn, ?_, ?_⟩
  · rw [ep, eT]
    show _ < W.stabNum
    rw [hUW.stabNum]; exact hfr
  · intro b hsc
    rw [ep] at hsc
    obtain ⟨br, k1, k2, -, -⟩ := g.scope p' b h1 h2 hsc
    exact ⟨br, by rw [hbT]; exact k1, by rw [hUT.size]; exact k2⟩
  · intro b lc hkd
    rw [ep] at hkd
    obtain ⟨br, hbr, -, -, -⟩ := g.mainRec p' b lc h1 h2 hkd
    have hlc : lc ∈ s.children p' := by
      simp only [State.children, BS.kind?_of_valid h2, hkd, hbr]
      exact List.mem_cons_self ..
    rw [hUT.size]
    exact (hkids lc hlc).1

/-- the same for the current node of the drain invariant: its parents have not run in this round -/
theorem mcvm_noerr_cur {env : Env} {fuel n : Nat} {o : Option Val} {s W s' : State} {e : Panic} (I : DInv env s (some n))
    (hmax : ∀ m, s.isNecessary m = true → (s.nodeD m).height ≤ s.rch.maxAllowed)
    (hUW : Upd n s W) (hbW : W.binds = s.binds) (hf : 1 ≤ fuel)
    (h : (maybeChangeValueManual env fuel n o true true).run.run W = (.error e, s')) : False := by
  refine mcvm_noerr_upd I.graph I.heap I.cur_facts.1 (fun q hq => ?_) hmax hUW hbW hf h
  obtain ⟨⟨p', ci⟩, hmem, rfl⟩ := List.mem_map.1 hq
  have hci := (I.graph.parent n p' ci hmem).2
  exact I.fresh p' n (Below.of_edge (Edge.child (List.mem_of_getElem? hci))) (Or.inr rfl)

/-- `maybe_change_value n v` run in a state `S0` of the `Upd` family of `s`: no panic -/
theorem mcv_noerr {env : Env} {fuel n : Nat} {v : Val} {s S0 s' : State} {e : Panic}
    (g : BGraph env s) (hi : HeapInv s) (hn : s.isNecessary n = true)
    (hfresh : ∀ p, p ∈ (s.nodeD n).parents.map (·.1) → (s.nodeD p).recomputedAt < s.stabNum)
    (hmax : ∀ m, s.isNecessary m = true → (s.nodeD m).height ≤ s.rch.maxAllowed)
    (hU : Upd n s S0) (hb : S0.binds = s.binds) (hf : 1 ≤ fuel)
    (h : (maybeChangeValue env fuel n v).run.run S0 = (.error e, s')) : False := by
  have hlt := g.nec_lt hn
  obtain ⟨-, hcut, -⟩ := g.node n hlt (g.nec n hn).1
  have hlt0 : n < S0.nodes.size := by rw [hU.size]; exact hlt
  have hn0 := some_of_lt hlt0
  have hcut0 : (S0.nodeD n).cutoff = .eq ∨ (S0.nodeD n).cutoff = .never := by
    rw [hU.shape.cutoff]; exact hcut
  generalize hW : setValue n (some v) (logged (mcvLog env S0 n v) S0) = W
  have hUW : Upd n s W := by rw [← hW]; exact (hU.logged _).setValue _
  have hbW : W.binds = s.binds := by rw [← hW]; exact hb
  rcases mcvChanges_static env S0 n v hcut0 with hd | ⟨hd, -⟩
  · rw [mcv_run' env fuel n v S0 _ hn0 hU.pc, hd] at h
    dsimp only at h
    rw [hW] at h
    exact mcvm_noerr_upd g hi hn hfresh hmax hUW hbW hf h
  · rw [mcv_suppress env fuel n v S0 _ hn0 hU.pc hd] at h
    cases h

/-- a `recomputeOne` on a necessary node of a static kind or of kind `bindMain` (right-hand side installed), in a graph with binds at rest,
whose children all have values and whose parents have not been recomputed in this round: no panic -/
theorem recomputeOne_noerr {env : Env} {fuel n : Nat} {s s' : State} {e : Panic}
    (g : BGraph env s) (hi : HeapInv s) (hn : s.isNecessary n = true)
    (hfresh : ∀ p, p ∈ (s.nodeD n).parents.map (·.1) → (s.nodeD p).recomputedAt < s.stabNum)
    (hmax : ∀ m, s.isNecessary m = true → (s.nodeD m).height ≤ s.rch.maxAllowed)
    (hk : StaticKind env (s.nodeD n).kind ∨ ∃ b lc, (s.nodeD n).kind = .bindMain b lc)
    (hvals : ∀ c, c ∈ s.children n → ∃ v, (s.nodeD c).value = some v)
    (hrhs : ∀ b lc br, (s.nodeD n).kind = .bindMain b lc → s.binds[b]? = some br → br.rhs ≠ none)
    (hf : 1 ≤ fuel)
    (h : (recomputeOne env fuel n).run.run s = (.error e, s')) : False := by
  have hlt := g.nec_lt hn
  have hv := (g.nec n hn).1
  have hnn := some_of_lt hlt
  have hU := Upd.started n s g.pc
  have hb0 : (started n s).binds = s.binds := rfl
  rcases hk with hk | ⟨b, lc, hkd⟩
  · obtain ⟨vals, -, hvo⟩ := BS.vals_of_children g hlt hv hk hvals
    cases hkd : (s.nodeD n).kind with
    | const w =>
      rw [recomputeOne_const_run env fuel n s _ w hnn hv hkd] at h
      exact mcv_noerr g hi hn hfresh hmax hU hb0 hf h
    | var c =>
      obtain ⟨vc, hvc⟩ := g.var n c hlt hv hkd
      rw [recomputeOne_var_run env fuel n s _ c vc hnn hv hkd hvc] at h
      exact mcv_noerr g hi hn hfresh hmax hU hb0 hf h
    | map f args =>
      rw [hkd] at hk hvo
      by_cases hfz : f < fnZip
      · rw [recomputeOne_map_run env fuel n s _ f args vals hnn hv hkd hfz hvo (hk.2 hfz vals) g.pc] at h
        exact mcv_noerr g hi hn hfresh hmax (hU.logged _) hb0 hf h
      · rw [recomputeOne_mapBuiltin_run env fuel n s _ f args vals hnn hv hkd hfz hk.1 hvo] at h
        exact mcv_noerr g hi hn hfresh hmax hU hb0 hf h
    | fold f init cs =>
      rw [hkd] at hvo
      rw [recomputeOne_fold_run env fuel n s _ f init cs vals hnn hv hkd hvo g.pc] at h
      exact mcv_noerr g hi hn hfresh hmax (hU.logged _) hb0 hf h
    | mapRef _ _ => rw [hkd] at hk; exact hk.elim
    | mapWithOld _ _ => rw [hkd] at hk; exact hk.elim
    | bindLhsChange _ => rw [hkd] at hk; exact hk.elim
    | bindMain _ _ => rw [hkd] at hk; exact hk.elim
    | expert _ => rw [hkd] at hk; exact hk.elim
  · obtain ⟨br, hbr, -, -, -⟩ := g.mainRec n b lc hlt hv hkd
    cases hr : br.rhs with
    | none => exact hrhs b lc br hkd hbr hr
    | some r0 =>
      have hch : s.children n = [lc, r0] := by
        simp only [State.children, BS.kind?_of_valid hv, hkd, hbr, hr]
      have hmem : r0 ∈ s.children n := by rw [hch]; simp
      obtain ⟨hrlt, hrv⟩ := (g.node n hlt hv).2.2 r0 hmem
      obtain ⟨v, hval⟩ := hvals r0 hmem
      have hval' : s.value env r0 = some v := by
        rw [value_plain env s r0 (BS.BKind.not_mapRef (g.node r0 hrlt hrv).1)]; exact hval
      rw [recomputeOne_bindMain_run env fuel n s _ b lc r0 br _ v hnn hv hkd hbr hr (some_of_lt hrlt) hrv
        hval'] at h
      exact mcv_noerr g hi hn hfresh hmax hU hb0 hf h

/-- heights of necessary nodes are within the recompute heap's range -/
theorem hmax_of {env : Env} {rk : Nat → Nat} {N : Nat} {s : State} (g : BGraph env s) (hb : HBo2 rk s allClosed) (R : Room N s) :
    ∀ m, s.isNecessary m = true → (s.nodeD m).height ≤ s.rch.maxAllowed := by
  intro m hm
  rw [R.rch]
  exact hb.le_max R (g.nec_lt hm) hm rfl

end T2b

/-! ## the headline theorems -/

/-- **`maybe_change_value` is total**: `S0` is the state `s` at rest with node `n` updated (`Upd n s S0`: value / stamps of `n`, log, counters;
e.g. `started n s` with log events, or `s` itself), `n` necessary, the parents of `n` not yet recomputed in this round -/
theorem maybeChangeValue_total2 {env : Env} {rk : Nat → Nat} {N fuel n : Nat} {v : Val} {s S0 : State}
    (g : BGraph env s) (hi : HeapInv s) (hn : s.isNecessary n = true)
    (hfresh : ∀ p, p ∈ (s.nodeD n).parents.map (·.1) → (s.nodeD p).recomputedAt < s.stabNum)
    (hb : HBo2 rk s allClosed) (R : Room N s)
    (hU : Upd n s S0) (hbd : S0.binds = s.binds) (hf : 1 ≤ fuel) :
    Tot (maybeChangeValue env fuel n v) S0 (fun _ _ => True) :=
  T2b.tot_of_noerr fun _ _ h => T2b.mcv_noerr g hi hn hfresh (T2b.hmax_of g hb R) hU hbd hf h

/-- the invariant that makes the run of a main node total: a VALID change detector that has run has installed a right-hand side
(an invalidated change detector that never ran is stamped by `invalidateNode`, hence "valid") -/
def RhsRan (s : State) : Prop :=
  ∀ (b : Nat) (br : BindRec), s.binds[b]? = some br → (s.nodeD br.lhsChange).valid = true →
    (s.nodeD br.lhsChange).recomputedAt ≠ -1 → br.rhs ≠ none

/-- when the main node of a bind is the current node of the drain, its change detector is not stale, so it has run: the right-hand side is installed -/
theorem rhs_of_ran {env : Env} {rk : Nat → Nat} {s : State} {n : Nat} (I : DInv env s (some n)) (A : F2Inv env rk s)
    (H : RhsRan s) :
    ∀ b lc br, (s.nodeD n).kind = .bindMain b lc → s.binds[b]? = some br → br.rhs ≠ none := by
  intro b lc br hkd hbr
  have g := I.graph
  obtain ⟨hn, hlt, hv, -, -⟩ := I.cur_facts
  obtain ⟨br', hbr', -, hlc, -⟩ := g.mainRec n b lc hlt hv hkd
  rw [hbr] at hbr'; cases hbr'
  have hmem : lc ∈ s.children n := by
    simp only [State.children, BS.kind?_of_valid hv, hkd, hbr]
    exact List.mem_cons_self ..
  have he : Edge s n lc := Edge.child hmem
  obtain ⟨hcn, -⟩ := g.edge_nec hn he
  have hcv := (g.nec lc hcn).1
  have hst : s.isStale lc = false := by
    cases h : s.isStale lc with
    | false => rfl
    | true =>
      rcases I.pending lc hcn h with h1 | h1
      · rw [(I.cur n rfl).2 lc (Below.of_edge he)] at h1; cases h1
      · injection h1 with h1
        exact absurd h1 (g.edge_ne he)
  have hkl : (s.nodeD lc).kind = .bindLhsChange b := by
    have := (A.frag.recs b br hbr).2.2.1
    rw [hlc] at this; exact this
  apply H b br hbr (by rw [hlc]; exact hcv)
  rw [hlc]
  intro h1
  unfold State.isStale at hst
  simp only [Node.kind?, hcv, if_true, hkl, h1] at hst
  simp at hst

/-- **a run of a static or `bindMain` node is total** and keeps the height bound and the room -/
theorem recomputeOne_static_total2 {env : Env} {rk : Nat → Nat} {N fuel n : Nat} {s : State}
    (I : DInv env s (some n)) (hb : HBo2 rk s allClosed) (R : Room N s)
    (hk : StaticKind env (s.nodeD n).kind ∨ ∃ b lc, (s.nodeD n).kind = .bindMain b lc)
    (hrhs : ∀ b lc br, (s.nodeD n).kind = .bindMain b lc → s.binds[b]? = some br → br.rhs ≠ none)
    (hf : 1 ≤ fuel) :
    Tot (recomputeOne env fuel n) s (fun _ s' => HBo2 rk s' allClosed ∧ Room N s') := by
  have g := I.graph
  obtain ⟨hn, -, -, -, -⟩ := I.cur_facts
  have hfresh : ∀ p, p ∈ (s.nodeD n).parents.map (·.1) → (s.nodeD p).recomputedAt < s.stabNum := by
    intro p hp
    obtain ⟨⟨p', ci⟩, hmem, rfl⟩ := List.mem_map.1 hp
    have hci := (g.parent n p' ci hmem).2
    exact I.fresh p' n (Below.of_edge (Edge.child (List.mem_of_getElem? hci))) (Or.inr rfl)
  obtain ⟨r, s', hrun, -⟩ := T2b.tot_of_noerr (x := recomputeOne env fuel n) (s := s) fun _ _ h =>
    T2b.recomputeOne_noerr g I.heap hn hfresh (T2b.hmax_of g hb R) hk I.kids_values hrhs hf h
  refine ⟨r, s', hrun, ?_, ?_⟩
  all_goals
    obtain ⟨v, ch, -, Rl⟩ := recomputeOne_stepB g I.heap hn hk I.kids_values hrun
  · intro m hm _
    rw [Rl.nec m] at hm
    rw [(Rl.shapes m).height, Rl.size]
    exact hb m hm rfl
  · have K := BF.recomputeOne_keyD_B g hn hk I.kids_values hrun
    simp only [KeyD, stateKeyD, Prod.mk.injEq] at K
    obtain ⟨-, -, -, -, -, -, -, -, -, -, hahh⟩ := K
    exact ⟨by rw [hahh]; exact R.ahh, by rw [maxAllowed_congr Rl.qsize]; exact R.rch, by rw [Rl.size]; exact R.size⟩

/-- the same, with the right-hand side obtained from the invariant `RhsRan` -/
theorem recomputeOne_static_total2' {env : Env} {rk : Nat → Nat} {N fuel n : Nat} {s : State}
    (I : DInv env s (some n)) (A : F2Inv env rk s) (H : RhsRan s) (hb : HBo2 rk s allClosed) (R : Room N s)
    (hk : StaticKind env (s.nodeD n).kind ∨ ∃ b lc, (s.nodeD n).kind = .bindMain b lc) (hf : 1 ≤ fuel) :
    Tot (recomputeOne env fuel n) s (fun _ s' => HBo2 rk s' allClosed ∧ Room N s') :=
  recomputeOne_static_total2 I hb R hk (rhs_of_ran I A H) hf

/-- `RhsRan` is kept by a successful run of a static or `bindMain` node (`binds`, validity unchanged; stamps of change detectors untouched) -/
theorem recomputeOne_static_rhsRan {env : Env} {rk : Nat → Nat} {fuel n : Nat} {s s' : State} {r : Option Nat}
    (I : DInv env s (some n)) (A : F2Inv env rk s)
    (hk : StaticKind env (s.nodeD n).kind ∨ ∃ b lc, (s.nodeD n).kind = .bindMain b lc)
    (h : (recomputeOne env fuel n).run.run s = (.ok r, s')) (H : RhsRan s) : RhsRan s' := by
  have g := I.graph
  obtain ⟨hn, -, -, -, -⟩ := I.cur_facts
  obtain ⟨v, ch, -, Rl⟩ := recomputeOne_stepB g I.heap hn hk I.kids_values h
  intro b br hbr hv hrec
  rw [Rl.binds] at hbr
  rw [(Rl.shapes _).valid] at hv
  apply H b br hbr hv
  by_cases e : br.lhsChange = n
  · -- the node that ran is not a change detector
    exfalso
    have hkl := (A.frag.recs b br hbr).2.2.1
    rw [e] at hkl
    rcases hk with hk | ⟨b', lc', hk⟩
    · rw [hkl] at hk; exact hk
    · rw [hkl] at hk; cases hk
  · rw [(Rl.other _ e).recomputedAt] at hrec; exact hrec

/-- `RhsRan` is kept by `remove_min` -/
theorem pop_rhsRan {s s1 : State} {n : Nat} (hi : HeapInv s)
    (hr : rchRemoveMin.run.run s = (.ok (some n), s1)) (H : RhsRan s) : RhsRan s1 := by
  have hpop := rchRemoveMin_inv hi hr
  simp only at hpop
  obtain ⟨-, -, -, hs1, -⟩ := hpop
  have hnode : ∀ m, s1.nodeD m =
      if n = m ∧ m < s.nodes.size then { s.nodeD m with heightInRch := -1 } else s.nodeD m := by
    intro m
    rw [hs1]
    exact nodeD_modify { s with rch := s1.rch } n m (fun x => { x with heightInRch := -1 })
  have hb : s1.binds = s.binds := by rw [hs1]
  intro b br hbr hv hrec
  rw [hb] at hbr
  apply H b br hbr
  · rw [hnode] at hv; split at hv <;> exact hv
  · rw [hnode] at hrec; split at hrec <;> exact hrec

/-- **`remove_min` is total** under the heap invariant -/
theorem rchRemoveMin_total2 {s : State} (hi : HeapInv s) : Tot rchRemoveMin s (fun _ _ => True) := by
  obtain ⟨r, s1, h⟩ := rchRemoveMin_ok hi
  exact ⟨r, s1, h, trivial⟩

end IncrVerif.Proofs.NestH
