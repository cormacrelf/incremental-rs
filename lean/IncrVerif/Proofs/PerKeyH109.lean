import IncrVerif.Proofs.PerKeyH29
import IncrVerif.Proofs.PerKeyH73
import IncrVerif.Proofs.PerKeyH49
import IncrVerif.Proofs.PerKeyH76
import IncrVerif.Proofs.PerKeyH81
import IncrVerif.Proofs.PerKeyH85
import IncrVerif.Proofs.PerKeyH106
import IncrVerif.Proofs.PerKeyH107
/-!
# Per-key operators over whole histories: the assembly — every contract of PK3/PK4 instantiated (no hypotheses left but `EnvP env`)
-/
namespace IncrVerif.Proofs.PerKeyH
open IncrVerif.Engine IncrVerif.Driver IncrVerif.Proofs IncrVerif.Proofs.Step IncrVerif.Proofs.Sched
open IncrVerif.Proofs.ExpertH IncrVerif.Proofs.EffH IncrVerif.Proofs.DriverH

/-- **one `recomputeOne` of the drain** (change detector, per-key input node, operator result, or any static node) -/
theorem stepSpecP {env : Env} (hE : EnvP env) : StepSpecP env :=
  stepSpecP_of (lcStepSpec env) (xStepSpec env) (staticStepSpec hE)

/-- **the drain** -/
theorem drainSpecP {env : Env} (hE : EnvP env) : DrainSpecP env := drainSpecP_of (stepSpecP hE) (popSpecP env)

/-- **`stabilise`** -/
theorem stabSpecPE {env : Env} (hE : EnvP env) : StabSpecP env :=
  stabSpecP env (drainSpecP hE) (fun _ _ Q st => output_ok_of_pq hE Q st)

/-- every state reached by a history of the fragment satisfies the invariant between actions -/
theorem history_inv_p {env : Env} (hE : EnvP env) {N : Nat} {d : Bool} {acts : List Action} {s : State} {tk : Array Nat}
    (ha : RunOKP env acts (State.init N d) #[])
    (h : QR.runActions env acts (State.init N d) #[] = .ok (s, tk)) : ∃ rk, PQ env rk s :=
  history_p (actionSpecP env) (stabSpecPE hE) ha h

/-- at every `stabilise` of a history of the fragment: the state before satisfies the invariant, the `stabilise` returns with
all conclusions of `StabilisedP` -/
theorem history_every_stabilise_p {env : Env} (hE : EnvP env) {N : Nat} {d : Bool} {as bs : List Action} {s : State}
    {tk : Array Nat} (ha : RunOKP env (as ++ Action.stabilise :: bs) (State.init N d) #[])
    (h : QR.runActions env (as ++ Action.stabilise :: bs) (State.init N d) #[] = .ok (s, tk)) :
    ∃ s1 tk1 s2 rk1, QR.runActions env as (State.init N d) #[] = .ok (s1, tk1) ∧ PQ env rk1 s1 ∧
      (stabilise env fuelDefault).run.run s1 = (.ok (), s2) ∧ StabilisedP env fuelDefault s1 s2 ∧
      QR.runActions env bs s2 tk1 = .ok (s, tk) :=
  history_stabilise_p (actionSpecP env) (stabSpecPE hE) ha h

end IncrVerif.Proofs.PerKeyH
