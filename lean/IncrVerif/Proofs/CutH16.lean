import IncrVerif.Proofs.CutH15
import IncrVerif.Engine.Run
-- static programs with ARBITRARY cutoffs; `Proofs/Quiet10.lean` (default cutoffs) takes its lemmas from this file; overview in Props/C06History.lean
/-!
# Part 9: node creation through the API keeps `QInv`
-/
namespace IncrVerif.Proofs.CutH
open IncrVerif.Engine IncrVerif.Driver IncrVerif.Proofs IncrVerif.Proofs.Step IncrVerif.Proofs.Sched
variable {e : Bool}

/-- operands of the fragment: handles on top-level nodes -/
def OpndOK : Opnd → Prop
  | .outer _ => True
  | _ => False

/-- the node-creating instructions of the static fragment -/
def StaticInstr (env : Env) : Instr → Prop
  | .const _ => True
  | .var _ => True
  | .map f args => f < fnPerKey ∧ (f < fnZip → ∀ vals, env.fnEff f vals = []) ∧ ∀ a, a ∈ args → OpndOK a
  | .fold _ _ cs => ∀ a, a ∈ cs → OpndOK a
  | .zip a b => OpndOK a ∧ OpndOK b
  | .dependOn a b => OpndOK a ∧ OpndOK b
  | .cutoff n _ => OpndOK n
  | _ => False

/-- does the instruction keep "every cutoff ever in force was exact"?  `dependOn` installs the `preserve_cutoff`
closure; `cutoff n c` installs `c` -/
def ExactInstr : Instr → Bool
  | .dependOn _ _ => false
  | .cutoff _ c => decide (ExactCut c)
  | _ => true

/-- a freshly created top-level node -/
def newNode (k : Kind) (cut : CutoffK := .eq) : Node := { kind := k, createdIn := .top, cutoff := cut }

/-- `s1` is `s` plus one fresh top-level node of kind `k` (and, for a `var`, its cell); `tp`: the naming table after -/
structure Created (k : Kind) (cut : CutoffK) (s s1 : State) (tp : Array Nat) : Prop where
  nodes : s1.nodes = s.nodes.push (newNode k cut)
  vars : ((∀ c, k ≠ .var c) ∧ s1.vars = s.vars) ∨
    ∃ v, k = .var s.vars.size ∧
      s1.vars = s.vars.push { value := v, setAt := s.stabNum, node := s.nodes.size }
  rch : s1.rch = s.rch
  pc : s1.panicCountdown = s.panicCountdown
  scope : s1.currentScope = s.currentScope
  stabNum : s1.stabNum = s.stabNum
  status : s1.status = s.status
  alive : s1.alive = s.alive
  setDuringStab : s1.setDuringStab = s.setDuringStab
  deadVars : s1.deadVars = s.deadVars
  handleAfterStab : s1.handleAfterStab = s.handleAfterStab
  pinv : s1.propagateInvalidity = s.propagateInvalidity
  observers : s1.observers = s.observers
  newObservers : s1.newObservers = s.newObservers
  disallowedObservers : s1.disallowedObservers = s.disallowedObservers
  top : s1.top = tp

namespace Created
variable {env : Env} {k : Kind} {cut : CutoffK} {s s1 : State} {tp : Array Nat}

theorem size (C : Created k cut s s1 tp) : s1.nodes.size = s.nodes.size + 1 := by
  rw [C.nodes, Array.size_push]

theorem nodeD_new (C : Created k cut s s1 tp) : s1.nodeD s.nodes.size = newNode k cut := by
  simp only [State.nodeD, C.nodes, Array.getElem?_push, if_true, Option.getD_some]

theorem nodeD_old (C : Created k cut s s1 tp) {m : Nat} (h : m ≠ s.nodes.size) : s1.nodeD m = s.nodeD m := by
  simp only [State.nodeD, C.nodes, Array.getElem?_push, if_neg h]

theorem nodeD_lt (C : Created k cut s s1 tp) {m : Nat} (h : m < s.nodes.size) : s1.nodeD m = s.nodeD m :=
  C.nodeD_old (by omega)

theorem nec_new (C : Created k cut s s1 tp) : s1.isNecessary s.nodes.size = false := by
  rw [State.isNecessary, C.nodeD_new]; rfl

theorem nec_old (C : Created k cut s s1 tp) {m : Nat} (h : m ≠ s.nodes.size) : s1.isNecessary m = s.isNecessary m := by
  rw [State.isNecessary, State.isNecessary, C.nodeD_old h]

theorem ne_of_nec (C : Created k cut s s1 tp) {m : Nat} (h : s1.isNecessary m = true) : m ≠ s.nodes.size := by
  intro e; rw [e, C.nec_new] at h; cases h

theorem ne_of_par (C : Created k cut s s1 tp) {m : Nat} {x : Nat × Nat} (h : x ∈ (s1.nodeD m).parents) :
    m ≠ s.nodes.size := by
  intro e; rw [e, C.nodeD_new] at h; cases h

theorem ne_of_inRch (C : Created k cut s s1 tp) {m : Nat} (h : (s1.nodeD m).inRch = true) :
    m ≠ s.nodes.size := by
  intro e; rw [e, C.nodeD_new] at h; cases h

theorem vars_old (C : Created k cut s s1 tp) {c : Nat} {vc : VarCell} (h : s.vars[c]? = some vc) :
    s1.vars[c]? = some vc := by
  rcases C.vars with ⟨-, e⟩ | ⟨v, -, e⟩
  · rw [e]; exact h
  · have hc : c < s.vars.size := (Array.getElem?_eq_some_iff.1 h).1
    rw [e, Array.getElem?_push, if_neg (by omega)]; exact h

theorem staleOf_old (C : Created k cut s s1 tp) (S : Struct env s) (V : VarsOK s) {m : Nat} (hm : m < s.nodes.size) :
    staleOf s1 m = staleOf s m := by
  have sn := S.node hm
  have hkids : ∀ c, c ∈ kids (s.nodeD m).kind → (s1.nodeD c).changedAt = (s.nodeD c).changedAt := by
    intro c hc
    rw [C.nodeD_lt (by have := sn.kidsLt c hc; omega)]
  unfold staleOf
  rw [C.nodeD_lt hm]
  cases hk : (s.nodeD m).kind with
  | var c =>
    obtain ⟨vc, hvc, -⟩ := V.node m c hm hk
    simp only [hvc, C.vars_old hvc]
  | const v => rfl
  | map f args =>
    rw [hk] at hkids
    simp only
    congr 1
    exact any_congr' _ _ _ (fun a ha => by rw [hkids a ha])
  | fold f init cs =>
    rw [hk] at hkids
    simp only
    congr 1
    exact any_congr' _ _ _ (fun a ha => by rw [hkids a ha])
  | _ => have := sn.kind; rw [hk] at this; exact this.elim

theorem plainVals_old (C : Created k cut s s1 tp) (l : List Nat) (h : ∀ c, c ∈ l → c < s.nodes.size) :
    plainVals s1 l = plainVals s l := by
  unfold plainVals
  exact evalArgs_congr _ _ _ (fun a ha => by rw [C.nodeD_lt (h a ha)])

theorem consistent_old (C : Created k cut s s1 tp) (S : Struct env s) {m : Nat} (hm : m < s.nodes.size)
    (h : Consistent env s m) : Consistent env s1 m := by
  have sn := S.node hm
  have hkids : ∀ c, c ∈ kids (s.nodeD m).kind → c < s.nodes.size := by
    intro c hc
    have := sn.kidsLt c hc; omega
  obtain ⟨v, ht, hv⟩ := h
  refine ⟨v, ?_, by rw [C.nodeD_lt hm]; exact hv⟩
  unfold Target at ht ⊢
  rw [C.nodeD_lt hm]
  cases hk : (s.nodeD m).kind with
  | var c =>
    rw [hk] at ht
    obtain ⟨vc, hvc, e⟩ := ht
    exact ⟨vc, C.vars_old hvc, e⟩
  | const w => rw [hk] at ht; exact ht
  | map f args =>
    rw [hk] at ht hkids
    simp only at ht ⊢
    rw [C.plainVals_old args hkids]; exact ht
  | fold f init cs =>
    rw [hk] at ht hkids
    simp only at ht ⊢
    rw [C.plainVals_old cs hkids]; exact ht
  | _ => rw [hk] at ht; exact ht.elim

theorem consE_old (C : Created k cut s s1 tp) (S : Struct env s) {m : Nat} (hm : m < s.nodes.size)
    (h : ConsE env e s m) : ConsE env e s1 m := by
  obtain ⟨v, hv, ht⟩ := h
  refine ⟨v, by rw [C.nodeD_lt hm]; exact hv, fun he => ?_⟩
  obtain ⟨w, hw, hvw⟩ := C.consistent_old S hm ⟨v, ht he, hv⟩
  rw [C.nodeD_lt hm, hv] at hvw
  cases hvw; exact hw

theorem stale_new (C : Created k cut s s1 tp) (h0 : 0 ≤ s.stabNum) (hk : StaticKind env k) :
    staleOf s1 s.nodes.size = true := by
  unfold staleOf
  rw [C.nodeD_new]
  cases k with
  | var c =>
    rcases C.vars with ⟨h, -⟩ | ⟨v, e, ev⟩
    · exact absurd rfl (h c)
    · injection e with e
      simp only [newNode]
      rw [ev, e, Array.getElem?_push, if_pos rfl]
      simp only [gt_iff_lt, decide_eq_true_eq]; omega
  | const v => rfl
  | map f args => rfl
  | fold f init cs => rfl
  | _ => exact hk.elim

theorem heapWF (C : Created k cut s s1 tp) (h : HeapWF s) : HeapWF s1 := by
  rw [← HWF_release_iff] at h ⊢
  unfold HWF at *
  have e : markerOf s1.nodes = markerOf s.nodes := by
    funext m
    show (s1.nodeD m).heightInRch = (s.nodeD m).heightInRch
    by_cases hm : m = s.nodes.size
    · rw [hm, C.nodeD_new, nodeD_default s _ (Nat.le_refl _)]; rfl
    · rw [C.nodeD_old hm]
  rw [C.rch, e]; exact ⟨h.1, by simp⟩

theorem struct (C : Created k cut s s1 tp) (I : Struct env s) (V : VarsOK s) (hk : StaticKind env k)
    (hkids : ∀ c, c ∈ kids k → c < s.nodes.size) : Struct env s1 := by
  have wants_old : ∀ {p i}, p ≠ s.nodes.size → (Wants s1 allClosed p i ↔ Wants s allClosed p i) := by
    intro p i hp
    rw [wants_closed rfl, wants_closed rfl, C.nec_old hp]
  have inRch_lt : ∀ {m}, (s1.nodeD m).inRch = true → m < s.nodes.size ∧ (s.nodeD m).inRch = true := by
    intro m hq
    have hne := C.ne_of_inRch hq
    rw [C.nodeD_old hne] at hq
    exact ⟨lt_size_of_inRch hq, hq⟩
  refine
    { static := ⟨by rw [C.pc]; exact I.static.pc, by rw [C.scope]; exact I.static.scope, ?_⟩
      par := ?_, conv := ?_, nodup := ?_, hlt := ?_, hpos := ?_
      lnec := fun p k ho => by cases ho
      unec := fun p k ho => by cases ho
      heap := ⟨C.heapWF I.heap.wf, ?_, by rw [C.rch]; exact I.heap.lb0⟩
      hgt := ?_, qnec := ?_, queued := ?_, qstale := ?_
      opLt := fun m ho => absurd rfl ho }
  · intro n hn
    rw [C.size] at hn
    by_cases e : n = s.nodes.size
    · refine ⟨?_, ?_, ?_, ?_, ?_⟩ <;> rw [e, C.nodeD_new]
      · rfl
      · exact hk
      · rfl
      · rfl
      · exact hkids
    · have sn := I.node (show n < s.nodes.size by omega)
      refine ⟨?_, ?_, ?_, ?_, ?_⟩ <;> rw [C.nodeD_old e]
      · exact sn.valid
      · exact sn.kind
      · exact sn.top
      · exact sn.force
      · exact sn.kidsLt
  · intro c p i h
    have hc := C.ne_of_par h
    rw [C.nodeD_old hc] at h
    have hp : p ≠ s.nodes.size := by have := I.par_lt_size h; omega
    rw [C.nodeD_old hp, wants_old hp]
    exact I.par c p i h
  · intro p i c hkd hw
    have hp : p ≠ s.nodes.size := C.ne_of_nec ((wants_closed rfl).1 hw)
    rw [C.nodeD_old hp] at hkd
    rw [wants_old hp] at hw
    have hm := I.conv p i c hkd hw
    have hc : c ≠ s.nodes.size := by have := mem_parents_lt_size hm; omega
    rw [C.nodeD_old hc]; exact hm
  · intro c
    by_cases e : c = s.nodes.size
    · rw [e, C.nodeD_new]; exact List.nodup_nil
    · rw [C.nodeD_old e]; exact I.nodup c
  · intro c p i h ho
    have hc := C.ne_of_par h
    rw [C.nodeD_old hc] at h
    have hp : p ≠ s.nodes.size := by have := I.par_lt_size h; omega
    rw [C.nodeD_old hc, C.nodeD_old hp]
    exact I.hlt c p i h ho
  · intro n hn ho
    have e := C.ne_of_nec hn
    rw [C.nec_old e] at hn
    rw [C.nodeD_old e]; exact I.hpos n hn ho
  · intro m hq
    obtain ⟨hlt, hq'⟩ := inRch_lt hq
    rw [C.rch, C.nodeD_lt hlt]; exact I.heap.lb m hq'
  · intro m hq ho
    obtain ⟨hlt, hq'⟩ := inRch_lt hq
    rw [C.nodeD_lt hlt]; exact I.hgt m hq' ho
  · intro m hq
    obtain ⟨hlt, hq'⟩ := inRch_lt hq
    rw [C.nec_old (by omega)]; exact I.qnec m hq'
  · intro m ho hn hs
    have e := C.ne_of_nec hn
    rw [C.nec_old e] at hn
    have hlt := nec_lt_size hn
    rw [C.staleOf_old I V hlt] at hs
    rw [C.nodeD_old e]; exact I.queued m ho hn hs
  · intro m hq
    obtain ⟨hlt, hq'⟩ := inRch_lt hq
    rw [C.staleOf_old I V hlt]; exact I.qstale m hq'

theorem varsOK (C : Created k cut s s1 tp) (V : VarsOK s) : VarsOK s1 := by
  constructor
  · intro n c hn hkd
    rw [C.size] at hn
    by_cases e : n = s.nodes.size
    · rw [e, C.nodeD_new] at hkd
      rcases C.vars with ⟨h, -⟩ | ⟨v, ek, ev⟩
      · exact absurd hkd (h c)
      · have hc : c = s.vars.size := by
          have : k = .var c := hkd
          rw [this] at ek; injection ek
        refine ⟨{ value := v, setAt := s.stabNum, node := s.nodes.size }, ?_, e.symm⟩
        rw [ev, hc, Array.getElem?_push, if_pos rfl]
    · rw [C.nodeD_old e] at hkd
      obtain ⟨vc, h1, h2⟩ := V.node n c (by omega) hkd
      exact ⟨vc, C.vars_old h1, h2⟩
  · intro c vc h
    have old : s.vars[c]? = some vc → vc.node < s1.nodes.size ∧ (s1.nodeD vc.node).kind = .var c := by
      intro h'
      obtain ⟨h1, h2⟩ := V.cell c vc h'
      rw [C.size, C.nodeD_lt h1]
      exact ⟨by omega, h2⟩
    rcases C.vars with ⟨-, e⟩ | ⟨v, ek, ev⟩
    · rw [e] at h; exact old h
    · rw [ev, Array.getElem?_push] at h
      split at h
      · rename_i hc
        injection h with h
        rw [← h, C.size]
        refine ⟨by simp, ?_⟩
        show (s1.nodeD s.nodes.size).kind = _
        rw [C.nodeD_new, hc]; exact ek
      · exact old h

theorem obsOK (C : Created k cut s s1 tp) (O : ObsOK s) : ObsOK s1 := by
  unfold ObsOK at O ⊢
  rw [C.newObservers, C.disallowedObservers]
  refine ⟨?_, ?_, ?_, ?_, ?_, ?_, O.disNodup⟩
  · intro o ob h
    rw [C.observers] at h
    have := O.inRange o ob h
    rw [C.size]; exact ⟨by omega, this.2⟩
  · intro n o
    rw [C.observers]
    by_cases e : n = s.nodes.size
    · rw [e, C.nodeD_new]
      constructor
      · intro h; cases h
      · rintro ⟨ob, h1, h2, -⟩
        have := (O.inRange o ob h1).1
        omega
    · rw [C.nodeD_old e]; exact O.mem n o
  · rw [C.observers]; exact O.created
  · rw [C.observers]; exact O.newIn
  · rw [C.observers]; exact O.dis
  · rw [C.observers]; exact O.disIn

/-- **creation, pure part**, for any naming table whose entries are nodes of the new state -/
theorem qinvG (C : Created k cut s s1 tp) (Q : QInv env e s) (hk : StaticKind env k)
    (hkids : ∀ c, c ∈ kids k → c < s.nodes.size) (hcut : e = true → ExactCut cut)
    (htp : ∀ (kk n : Nat), tp[kk]? = some n → n < s.nodes.size + 1) : QInv env e s1 where
  struct := C.struct Q.struct Q.vars hk hkids
  vars := C.varsOK Q.vars
  obs := C.obsOK Q.obs
  now := by rw [C.stabNum]; exact Q.now
  stamps m := by
    rw [C.stabNum]
    by_cases e : m = s.nodes.size
    · rw [e, C.nodeD_new]
      have := Q.now
      exact ⟨show (-1 : Int) < _ by omega, show (-1 : Int) < _ by omega⟩
    · rw [C.nodeD_old e]; exact Q.stamps m
  varStamp c vc h := by
    rw [C.stabNum]
    rcases C.vars with ⟨-, e⟩ | ⟨v, -, ev⟩
    · rw [e] at h; exact Q.varStamp c vc h
    · rw [ev, Array.getElem?_push] at h
      split at h
      · injection h with h
        rw [← h]; exact Int.le_refl _
      · exact Q.varStamp c vc h
  cons m hm hs := by
    rw [C.size] at hm
    by_cases e : m = s.nodes.size
    · rw [e, C.stale_new Q.now hk] at hs; cases hs
    · have hlt : m < s.nodes.size := by omega
      rw [C.staleOf_old Q.struct Q.vars hlt] at hs
      exact C.consE_old Q.struct hlt (Q.cons m hlt hs)
  exact he m := by
    by_cases em : m = s.nodes.size
    · rw [em, C.nodeD_new]; exact hcut he
    · rw [C.nodeD_old em]; exact Q.exact he m
  status := by rw [C.status]; exact Q.status
  alive := by rw [C.alive]; exact Q.alive
  setDuringStab := by rw [C.setDuringStab]; exact Q.setDuringStab
  deadVars := by rw [C.deadVars]; exact Q.deadVars
  handleAfterStab := by rw [C.handleAfterStab]; exact Q.handleAfterStab
  handlers m := by
    by_cases e : m = s.nodes.size
    · rw [e, C.nodeD_new]; exact Int.le_refl _
    · rw [C.nodeD_old e]; exact Q.handlers m
  pinv := by rw [C.pinv]; exact Q.pinv
  top kk n h := by
    rw [C.top] at h
    rw [C.size]
    exact htp kk n h

/-- the new node is entered in the naming table -/
theorem qinv (C : Created k cut s s1 (s.top.push s.nodes.size)) (Q : QInv env e s) (hk : StaticKind env k)
    (hkids : ∀ c, c ∈ kids k → c < s.nodes.size) (hcut : e = true → ExactCut cut) : QInv env e s1 :=
  C.qinvG Q hk hkids hcut fun kk n h => by
    rw [Array.getElem?_push] at h
    split at h
    · injection h with h; omega
    · have := Q.top kk n h; omega

end Created
/-! ## the monadic part -/

theorem createNode_top_run (k : Kind) (cut : CutoffK) (s : State) :
    (createNode k .top cut).run.run s = (.ok s.nodes.size,
      { s with counters := { s.counters with created := s.counters.created + 1 },
               nodes := s.nodes.push (newNode k cut) }) := rfl

theorem createVar_top_run (v : Val) (s : State) :
    (createVar v .top).run.run s = (.ok s.nodes.size,
      { s with counters := { s.counters with created := s.counters.created + 1 },
               nodes := s.nodes.push (newNode (.var s.vars.size)),
               vars := s.vars.push { value := v, setAt := s.stabNum, node := s.nodes.size } }) := rfl

theorem createNode_created {k : Kind} {cut : CutoffK} {s s1 : State} {n : Nat} (hk : ∀ c, k ≠ .var c)
    (h : (createNode k .top cut).run.run s = (.ok n, s1)) :
    n = s.nodes.size ∧ Created k cut s s1 s.top ∧ s1.log = s.log ∧ s1.nextToken = s.nextToken := by
  rw [createNode_top_run] at h
  cases h
  exact ⟨rfl, ⟨rfl, Or.inl ⟨hk, rfl⟩, rfl, rfl, rfl, rfl, rfl, rfl, rfl, rfl, rfl, rfl, rfl, rfl, rfl, rfl⟩, rfl, rfl⟩

theorem createVar_created {v : Val} {s s1 : State} {n : Nat}
    (h : (createVar v .top).run.run s = (.ok n, s1)) :
    n = s.nodes.size ∧ Created (.var s.vars.size) .eq s s1 s.top ∧ s1.log = s.log ∧ s1.nextToken = s.nextToken := by
  rw [createVar_top_run] at h
  cases h
  exact ⟨rfl, ⟨rfl, Or.inr ⟨v, rfl, rfl⟩, rfl, rfl, rfl, rfl, rfl, rfl, rfl, rfl, rfl, rfl, rfl, rfl, rfl, rfl⟩, rfl, rfl⟩

/-! ## the action `cutoff n c`: pure part -/

/-- `s` with the cutoff of node `n` replaced by `c` -/
def cutSet (n : Nat) (c : CutoffK) (s : State) : State :=
  { s with nodes := s.nodes.modify n fun x => { x with cutoff := c } }

theorem cutSet_nodeD (n : Nat) (c : CutoffK) (s : State) (m : Nat) :
    (cutSet n c s).nodeD m =
      if n = m ∧ m < s.nodes.size then { s.nodeD m with cutoff := c } else s.nodeD m :=
  nodeD_modify s n m _

theorem cutSet_sameC (n : Nat) (c : CutoffK) (s : State) : SameC s (cutSet n c s) := by
  refine ⟨rfl, rfl, by simp [cutSet], rfl, rfl, fun m => ?_⟩
  rw [cutSet_nodeD]
  split
  · exact ⟨rfl, rfl, rfl, rfl, rfl, rfl, rfl, rfl, rfl, rfl⟩
  · exact (NodeG.refl _).toC

theorem cutSet_value (n : Nat) (c : CutoffK) (s : State) (m : Nat) :
    ((cutSet n c s).nodeD m).value = (s.nodeD m).value := by
  rw [cutSet_nodeD]; split <;> rfl

theorem cutSet_observers (n : Nat) (c : CutoffK) (s : State) (m : Nat) :
    ((cutSet n c s).nodeD m).observers = (s.nodeD m).observers := by
  rw [cutSet_nodeD]; split <;> rfl

theorem cutSet_handlers (n : Nat) (c : CutoffK) (s : State) (m : Nat) :
    ((cutSet n c s).nodeD m).numOnUpdateHandlers = (s.nodeD m).numOnUpdateHandlers := by
  rw [cutSet_nodeD]; split <;> rfl

theorem cutSet_cutoff (n : Nat) (c : CutoffK) (s : State) (m : Nat) :
    ((cutSet n c s).nodeD m).cutoff = if n = m ∧ m < s.nodes.size then c else (s.nodeD m).cutoff := by
  rw [cutSet_nodeD]; split <;> rfl

/-- **the action `cutoff n c`, pure part**: replacing a cutoff keeps the invariant; the flag survives iff `c` is exact -/
theorem cutSet_qinv {env : Env} {s : State} (n : Nat) (c : CutoffK) (Q : QInv env e s)
    (hc : e = true → ExactCut c) : QInv env e (cutSet n c s) := by
  have G := cutSet_sameC n c s
  have hsz : (cutSet n c s).nodes.size = s.nodes.size := G.size
  refine { struct := Q.struct.congrC G, vars := ?_, obs := ?_, now := Q.now, stamps := ?_, varStamp := Q.varStamp,
           cons := ?_, exact := ?_, status := Q.status, alive := Q.alive, setDuringStab := Q.setDuringStab,
           deadVars := Q.deadVars, handleAfterStab := Q.handleAfterStab, handlers := ?_, pinv := Q.pinv,
           top := ?_ }
  · refine ⟨fun m c' hm hk => ?_, fun c' vc h => ?_⟩
    · rw [hsz] at hm; rw [(G.node m).kind] at hk; exact Q.vars.node m c' hm hk
    · rw [hsz, (G.node vc.node).kind]; exact Q.vars.cell c' vc h
  · have O := Q.obs
    refine ⟨fun o ob h => by rw [hsz]; exact O.inRange o ob h, fun m o => ?_, O.created, O.newIn, O.dis, O.disIn,
      O.disNodup⟩
    rw [cutSet_observers]; exact O.mem m o
  · intro m; rw [(G.node m).recomputedAt, (G.node m).changedAt]; exact Q.stamps m
  · intro m hm hs
    rw [hsz] at hm
    rw [G.staleOf] at hs
    obtain ⟨v, hv, ht⟩ := Q.cons m hm hs
    exact ⟨v, by rw [cutSet_value]; exact hv,
      fun he => Target.congr (G.node m).kind rfl (fun a _ => cutSet_value n c s a) (ht he)⟩
  · intro he m
    rw [cutSet_cutoff]
    split
    · exact hc he
    · exact Q.exact he m
  · intro m; rw [cutSet_handlers]; exact Q.handlers m
  · intro k m h; rw [hsz]; exact Q.top k m h

theorem resolveOpnd_outer_inv {o : Opnd} {s s1 : State} {n : Nat} (ho : OpndOK o)
    (h : (resolveOpnd [] o).run.run s = (.ok n, s1)) : s1 = s ∧ ∃ k : Nat, s.top[k]? = some n := by
  cases o with
  | outer k =>
    unfold resolveOpnd at h
    simp only at h
    rw [run_bind_get] at h
    cases hm : s.top[k]? with
    | some m =>
      rw [hm] at h
      obtain ⟨e1, e2⟩ := pure_ok_inv h
      rw [e1]; exact ⟨e2, k, hm⟩
    | none => rw [hm] at h; cases h
  | _ => exact ho.elim

theorem mapM_resolve_inv {s : State} (htop : ∀ (k n : Nat), s.top[k]? = some n → n < s.nodes.size) :
    ∀ (l : List Opnd) (r : List Nat) (s1 : State), (∀ a, a ∈ l → OpndOK a) →
      (l.mapM (fun o => resolveOpnd [] o)).run.run s = (.ok r, s1) →
      s1 = s ∧ ∀ c, c ∈ r → c < s.nodes.size := by
  intro l
  induction l with
  | nil =>
    intro r s1 _ h
    rw [List.mapM_nil] at h
    obtain ⟨e1, e2⟩ := pure_ok_inv h
    rw [e1]; exact ⟨e2, fun c hc => by cases hc⟩
  | cons a l ih =>
    intro r s1 hl h
    rw [List.mapM_cons] at h
    obtain ⟨b, t, h1, h2⟩ := bind_ok_inv h
    obtain ⟨et, k, hk⟩ := resolveOpnd_outer_inv (hl a (List.mem_cons_self ..)) h1
    rw [et] at h2
    obtain ⟨bs, t2, h3, h4⟩ := bind_ok_inv h2
    obtain ⟨et2, hbs⟩ := ih bs t2 (fun x hx => hl x (List.mem_cons_of_mem _ hx)) h3
    obtain ⟨e1, e2⟩ := pure_ok_inv h4
    rw [e1, e2]
    refine ⟨et2, fun c hc => ?_⟩
    rcases List.mem_cons.1 hc with e | hc
    · rw [e]; exact htop k b hk
    · exact hbs c hc

/-- what a static instruction does at top level, where `top` names existing nodes: it creates one top-level node, with the cutoff `.eq` unless it
is a `dependOn`, or (`cutoff n c`) replaces a cutoff; it logs nothing and draws no token -/
theorem elab_static {env : Env} {s s1 : State} {i : Instr} {ro : Option Nat} (hsc : s.currentScope = .top)
    (htop : ∀ (k n : Nat), s.top[k]? = some n → n < s.nodes.size)
    (hi : StaticInstr env i) (h : (elabInstrM env [] .unit i).run.run s = (.ok ro, s1)) :
    (∃ k cut, ro = some s.nodes.size ∧ StaticKind env k ∧ (∀ c, c ∈ kids k → c < s.nodes.size) ∧
      (ExactInstr i = true → cut = .eq) ∧ Created k cut s s1 s.top ∧ s1.log = s.log ∧ s1.nextToken = s.nextToken) ∨
    (∃ n c, i = .cutoff n c ∧ ∃ m, ro = none ∧ s1 = cutSet m c s) := by
  cases i with
  | const v =>
    left
    unfold elabInstrM at h
    simp only at h
    unfold elabInstr at h
    rw [run_bind_get] at h
    simp only [hsc] at h
    obtain ⟨n, h1, e⟩ := map_ok_inv h
    obtain ⟨en, C⟩ := createNode_created (by intro c e; cases e) h1
    exact ⟨.const v, .eq, by rw [e, en], trivial, (fun c hc => by cases hc), fun _ => rfl, C⟩
  | var v =>
    left
    unfold elabInstrM at h
    simp only at h
    unfold elabInstr at h
    rw [run_bind_get] at h
    simp only at h
    obtain ⟨n, h1, e⟩ := map_ok_inv h
    obtain ⟨en, C⟩ := createVar_created h1
    exact ⟨.var s.vars.size, .eq, by rw [e, en], trivial, (fun c hc => by cases hc), fun _ => rfl, C⟩
  | map f args =>
    left
    unfold elabInstrM at h
    simp only at h
    unfold elabInstr at h
    rw [run_bind_get] at h
    simp only [hsc] at h
    obtain ⟨as, t, h1, h2⟩ := bind_ok_inv h
    obtain ⟨et, has⟩ := mapM_resolve_inv htop args as t hi.2.2 h1
    rw [et] at h2
    obtain ⟨n, h3, e⟩ := map_ok_inv h2
    obtain ⟨en, C⟩ := createNode_created (by intro c e; cases e) h3
    exact ⟨.map f as, .eq, by rw [e, en], ⟨hi.1, hi.2.1⟩, has, fun _ => rfl, C⟩
  | fold f init cs =>
    left
    unfold elabInstrM at h
    simp only at h
    unfold elabInstr at h
    rw [run_bind_get] at h
    simp only [hsc] at h
    obtain ⟨as, t, h1, h2⟩ := bind_ok_inv h
    obtain ⟨et, has⟩ := mapM_resolve_inv htop cs as t hi h1
    rw [et] at h2
    split at h2
    · obtain ⟨n, h3, e⟩ := map_ok_inv h2
      obtain ⟨en, C⟩ := createNode_created (by intro c e; cases e) h3
      exact ⟨.const init, .eq, by rw [e, en], trivial, (fun c hc => by cases hc), fun _ => rfl, C⟩
    · obtain ⟨n, h3, e⟩ := map_ok_inv h2
      obtain ⟨en, C⟩ := createNode_created (by intro c e; cases e) h3
      exact ⟨.fold f init as, .eq, by rw [e, en], trivial, has, fun _ => rfl, C⟩
  | zip a b =>
    left
    unfold elabInstrM at h
    simp only at h
    unfold elabInstr at h
    rw [run_bind_get] at h
    simp only [hsc] at h
    obtain ⟨na, t, h1, h2⟩ := bind_ok_inv h
    obtain ⟨et, ka, hka⟩ := resolveOpnd_outer_inv hi.1 h1
    rw [et] at h2
    obtain ⟨nb, t, h1, h2⟩ := bind_ok_inv h2
    obtain ⟨et, kb, hkb⟩ := resolveOpnd_outer_inv hi.2 h1
    rw [et] at h2
    obtain ⟨ca, t, h1, h2⟩ := bind_ok_inv h2
    rw [isConstant_ok_inv h1] at h2
    obtain ⟨cb, t, h1, h2⟩ := bind_ok_inv h2
    rw [isConstant_ok_inv h1] at h2
    split at h2
    · obtain ⟨n, h3, e⟩ := map_ok_inv h2
      obtain ⟨en, C⟩ := createNode_created (by intro c e; cases e) h3
      rename_i va vb _ _
      exact ⟨.const (.pair va vb), .eq, by rw [e, en], trivial, (fun c hc => by cases hc), fun _ => rfl, C⟩
    · obtain ⟨n, h3, e⟩ := map_ok_inv h2
      obtain ⟨en, C⟩ := createNode_created (by intro c e; cases e) h3
      refine ⟨.map fnZip [na, nb], .eq, by rw [e, en], ⟨by decide, fun hlt => absurd hlt (by decide)⟩, ?_,
        fun _ => rfl, C⟩
      intro c hc
      simp only [kids, List.mem_cons, List.not_mem_nil, or_false] at hc
      rcases hc with e | e
      · rw [e]; exact htop ka na hka
      · rw [e]; exact htop kb nb hkb
  | dependOn a b =>
    left
    unfold elabInstrM at h
    simp only at h
    unfold elabInstr at h
    rw [run_bind_get] at h
    simp only [hsc] at h
    obtain ⟨na, t, h1, h2⟩ := bind_ok_inv h
    obtain ⟨et, ka, hka⟩ := resolveOpnd_outer_inv hi.1 h1
    rw [et] at h2
    obtain ⟨nb, t, h1, h2⟩ := bind_ok_inv h2
    obtain ⟨et, kb, hkb⟩ := resolveOpnd_outer_inv hi.2 h1
    rw [et] at h2
    obtain ⟨n, h3, e⟩ := map_ok_inv h2
    obtain ⟨en, C⟩ := createNode_created (by intro c e; cases e) h3
    refine ⟨.map fnFirst [na, nb], .dependOn na, by rw [e, en], ⟨by decide, fun hlt => absurd hlt (by decide)⟩, ?_,
      (fun hx => by cases hx), C⟩
    intro c hc
    simp only [kids, List.mem_cons, List.not_mem_nil, or_false] at hc
    rcases hc with e | e
    · rw [e]; exact htop ka na hka
    · rw [e]; exact htop kb nb hkb
  | cutoff n c =>
    right
    unfold elabInstrM at h
    simp only at h
    unfold elabInstr at h
    rw [run_bind_get] at h
    simp only at h
    obtain ⟨m, t, h1, h2⟩ := bind_ok_inv h
    obtain ⟨et, -, -⟩ := resolveOpnd_outer_inv hi h1
    rw [et] at h2
    obtain ⟨s2, e2, h3⟩ := bind_modNode_inv h2
    obtain ⟨e3, e4⟩ := pure_ok_inv h3
    exact ⟨n, c, rfl, m, e3, by rw [e4, e2]; rfl⟩
  | _ => exact hi.elim

/-- `elab_static` for the API action, which names the node it creates -/
theorem create_static {env : Env} {s s' : State} {i : Instr} {tokens : Array Nat} {r : String × Array Nat}
    (hsc : s.currentScope = .top) (htop : ∀ (k n : Nat), s.top[k]? = some n → n < s.nodes.size)
    (hi : StaticInstr env i) (h : (stepAction env (.create i) tokens).run.run s = (.ok r, s')) :
    r.2 = tokens ∧
    ((∃ k cut, StaticKind env k ∧ (∀ c, c ∈ kids k → c < s.nodes.size) ∧ (ExactInstr i = true → cut = .eq) ∧
        Created k cut s s' (s.top.push s.nodes.size) ∧ s'.log = s.log ∧ s'.nextToken = s.nextToken) ∨
      (∃ n c m, i = .cutoff n c ∧ s' = cutSet m c s)) := by
  obtain ⟨ro, s1, h1, h2⟩ := Hist.stepAction_create_ok.1 h
  rcases elab_static hsc htop hi h1 with ⟨k, cut, rfl, hk, hkids, hcut, C, hl, hn⟩ | ⟨n, c, ei, m, rfl, rfl⟩
  · obtain ⟨rfl, rfl⟩ := h2
    exact ⟨rfl, .inl ⟨k, cut, hk, hkids, hcut, ⟨C.nodes, C.vars, C.rch, C.pc, C.scope, C.stabNum, C.status, C.alive, C.setDuringStab,
      C.deadVars, C.handleAfterStab, C.pinv, C.observers, C.newObservers, C.disallowedObservers, by show s1.top.push _ = _; rw [C.top]⟩,
      hl, hn⟩⟩
  · exact ⟨by rw [h2.2], .inr ⟨n, c, m, ei, h2.1⟩⟩

/-- **creation.** A successful `create` action with a static instruction keeps the invariant; the flag "every
cutoff ever in force was exact" survives iff the instruction is `ExactInstr`. -/
theorem step_create {env : Env} {s s' : State} {i : Instr} {tokens : Array Nat} {r : String × Array Nat}
    (Q : QInv env e s) (hi : StaticInstr env i) (hx : e = true → ExactInstr i = true)
    (h : (stepAction env (.create i) tokens).run.run s = (.ok r, s')) : QInv env e s' := by
  rcases (create_static Q.struct.static.scope Q.top hi h).2 with ⟨k, cut, hk, hkids, hcut, C, -⟩ | ⟨n, c, m, rfl, rfl⟩
  · exact C.qinv Q hk hkids fun he => hcut (hx he) ▸ trivial
  · exact cutSet_qinv m c Q fun he => of_decide_eq_true (hx he)

end IncrVerif.Proofs.CutH
