import IncrVerif.Proofs.HeightH1
/-!
# C19 for whole histories, part 2: the linking cascade computes EXACTLY the static heights, and panics with the
height diagnostic exactly when a node needs more than the limit

`becameNecessary n` from a state satisfying the structural invariant, the exact-height invariant `HEx` and
`RoomH N`: it returns iff `needH n ≤ N`; then `n` (and every node that became necessary with it) has height
`needH`, and `maxHeightSeen` has become `max old (needH n)`; otherwise it panics with `"height-limit"` (no other
panic) and `maxHeightSeen = N + 1`.
-/
namespace IncrVerif.Proofs.HeightH
open IncrVerif.Engine IncrVerif.Driver IncrVerif.Proofs IncrVerif.Proofs.Step IncrVerif.Proofs.Sched
open IncrVerif.Proofs.Quiet IncrVerif.Proofs.Quiet.P21

theorem RoomH.of_cframe {N : Nat} {s s' : State} (R : RoomH N s) (h : CFrame s s')
    (hs : s'.maxHeightSeen = s.maxHeightSeen) : RoomH N s' := by
  have hk := h.key
  simp only [stateKey, Prod.mk.injEq] at hk
  have h1 : s'.rch.queues.size = s.rch.queues.size := hk.2.2.2.2.2.2.2.2.2.2.2.2.2.2.1
  have h2 : s'.ahh = s.ahh := hk.2.2.2.2.2.2.2.2.2.2.2.2.2.2.2.1
  exact ⟨by rw [h2]; exact R.ahh, by rw [← R.rch]; simp only [Heap.maxAllowed, h1], by rw [hs]; exact R.seen,
    by rw [hs]; exact R.seen0⟩

/-- the same with a grown `maxHeightSeen` -/
theorem RoomH.of_cframe' {N : Nat} {s s' : State} (R : RoomH N s) (h : CFrame s s')
    (hs : s.maxHeightSeen ≤ s'.maxHeightSeen) (hN : s'.maxHeightSeen ≤ (N : Int)) : RoomH N s' := by
  have hk := h.key
  simp only [stateKey, Prod.mk.injEq] at hk
  have h1 : s'.rch.queues.size = s.rch.queues.size := hk.2.2.2.2.2.2.2.2.2.2.2.2.2.2.1
  have h2 : s'.ahh = s.ahh := hk.2.2.2.2.2.2.2.2.2.2.2.2.2.2.2.1
  exact ⟨by rw [h2]; exact R.ahh, by rw [← R.rch]; simp only [Heap.maxAllowed, h1], hN,
    by have := R.seen0; omega⟩

/-- `setHeight n h` within the limit returns -/
theorem setHeight_within {N : Nat} {n : Nat} {h : Int} {s : State} (R : RoomH N s) (hh : h ≤ (N : Int)) :
    (setHeight n h).run.run s = (.ok (), heightSet n h s) := by
  rw [setHeight_run, if_neg (by have := R.ahh; omega)]; rfl

/-- `setHeight n h` above the limit panics with the height diagnostic, having recorded `h` -/
theorem setHeight_beyond {N : Nat} {n : Nat} {h : Int} {s : State} (R : RoomH N s) (hh : (N : Int) < h) :
    (setHeight n h).run.run s = (.error heightPanic, { s with maxHeightSeen := h }) := by
  rw [setHeight_run, if_pos (by have := R.ahh; have := R.seen; omega)]; rfl

theorem mhas_seen {n : Nat} {s s' : State} {r : Except Panic Unit}
    (h : (maybeHandleAfterStabilisation n).run.run s = (r, s')) : s'.maxHeightSeen = s.maxHeightSeen := by
  rcases mhas_cases h with e | e <;> rw [e] <;> rfl

theorem tail_out {env : Env} {p : Nat} {t : State} {Q : Unit → State → Prop} {P : State → Prop} (g : Nat → M Unit)
    (hp : p < t.nodes.size) (hv : (t.nodeD p).valid = true) (hk : StaticKind env (t.nodeD p).kind)
    (hq : Q () t) :
    Out (do let x ← getNode p
            match x.kind? with
            | some (.expert e) => g e
            | _ => pure ()) t Q P :=
  Out.of_tot (tail_tot g hp hv hk hq)

/-! ## the two statements -/

def BNOut (env : Env) (N fuel : Nat) : Prop :=
  ∀ n s op, GInv env s op → HEx s op → RoomH N s → op n = .linking 0 → (∀ m, op m ≠ .closed → n ≤ m) →
    (∀ p i, (p, i) ∈ (s.nodeD n).parents → op p ≠ .closed) → 2 * n + 2 ≤ fuel →
    Out (becameNecessary env fuel n) s
      (fun _ s' => needH s n ≤ N ∧ HEx s' (upd op n .closed) ∧
        s'.maxHeightSeen = max s.maxHeightSeen (needH s n : Int))
      (fun s' => N < needH s n ∧ s'.maxHeightSeen = (N : Int) + 1)

def APOut (env : Env) (N fuel : Nat) : Prop :=
  ∀ c idx p s op, GInv env s op → HEx s op → RoomH N s → op p = .linking idx →
    (kids (s.nodeD p).kind)[idx]? = some c → (∀ m, op m ≠ .closed → c < m) → 2 * c + 3 ≤ fuel →
    Out (addParentWithoutAdjustingHeights env fuel c idx p) s
      (fun _ s' => needH s c ≤ N ∧ HEx s' (upd op p (.linking (idx + 1))) ∧
        s'.maxHeightSeen = max s.maxHeightSeen (needH s c : Int))
      (fun s' => N < needH s c ∧ s'.maxHeightSeen = (N : Int) + 1)

theorem ap_out (env : Env) (N fuel : Nat) (ih : BNOut env N fuel) : APOut env N (fuel + 1) := by
  intro c idx p s op I hx R hop hk hlow hf
  have hp : p < s.nodes.size := I.opLt p (by rw [hop]; exact fun e => by cases e)
  have hcp : c < p := I.kid_lt hk
  have hc : c < s.nodes.size := by omega
  have hne : c ≠ p := by omega
  have hcl : op c = .closed := by
    cases e : op c with
    | closed => rfl
    | linking k => have := hlow c (by rw [e]; exact fun e => by cases e); omega
    | unlinking k => have := hlow c (by rw [e]; exact fun e => by cases e); omega
  unfold addParentWithoutAdjustingHeights
  refine Out.bind_get (Out.bind_dassert (fun _ => (I.lnec p idx hop).1) ?_)
  refine Out.bind_get ?_
  dsimp only
  unfold addParent
  refine Out.bind_modNode (fun s1 hs1 => ?_)
  have U : NodeUpd c (fParents ((s.nodeD c).parents ++ [(p, idx)])) s s1 := by
    rw [hs1]; exact NodeUpd.modify' hc rfl
  have hl1 : LRel (fun _ => False) s s1 := by
    rw [hs1]
    refine ⟨CFrame.modNode s c _ (fun _ => rfl), rfl, fun m x hx => ?_, fun m _ _ => ?_⟩
    · rw [nodeD_modify]; split
      · rename_i e; rw [← e.1] at hx ⊢; exact List.mem_append_left _ hx
      · exact hx
    · rw [nodeD_modify]; split <;> rfl
  have hoth1 : ∀ m, m ≠ c → s1.nodeD m = s.nodeD m := by
    intro m hm; rw [hs1, nodeD_modify, if_neg (fun e => hm e.1.symm)]
  have hhgt1 : ∀ m, (s1.nodeD m).height = (s.nodeD m).height := by
    intro m; rw [hs1, nodeD_modify]; split <;> rfl
  have hseen1 : s1.maxHeightSeen = s.maxHeightSeen := by rw [hs1]
  have hk1 : ∀ m, (s1.nodeD m).kind = (s.nodeD m).kind := hl1.fr.kind
  have hc1 : c < s1.nodes.size := by rw [U.size]; exact hc
  have hp1 : p < s1.nodes.size := by rw [U.size]; exact hp
  have R1 : RoomH N s1 := R.of_cframe hl1.fr hseen1
  have hvalid : (s1.nodeD c).valid = true := by rw [U.self.valid]; exact (I.node hc).valid
  refine Out.bind_getNode hc1 ?_
  simp only [hvalid, Bool.not_true, Bool.false_eq_true, if_false]
  cases hwas : s.isNecessary c with
  | true =>
    simp only [Bool.not_true, Bool.false_eq_true, if_false]
    refine Out.bind_getNode hc1 ?_
    have hcq : (s1.nodeD c).kind? = some (s.nodeD c).kind := by
      rw [Node.kind?, U.self.valid, U.self.kind]
      show (if (s.nodeD c).valid = true then some (s.nodeD c).kind else none) = _
      rw [(I.node hc).valid]; rfl
    rw [hcq]
    have hsk := (I.node hc).kind
    have hfin : needH s c ≤ N ∧ HEx s1 (upd op p (.linking (idx + 1))) ∧
        s1.maxHeightSeen = max s.maxHeightSeen (needH s c : Int) := by
      refine ⟨hx.le R hwas hcl, ?_, ?_⟩
      · refine hx.transfer hk1 (by rw [hseen1]; exact Int.le_refl _) (fun m hm ho => ?_)
        have hmp : m ≠ p := fun e => by rw [e, upd_self] at ho; cases ho
        rw [upd_other _ _ _ hmp] at ho
        refine ⟨?_, ho, hhgt1 m⟩
        by_cases e : m = c
        · rw [e]; exact hwas
        · rw [State.isNecessary, hoth1 m e] at hm; exact hm
      · rw [hseen1]; have := (hx c hwas hcl).2; omega
    have hpv : (s1.nodeD p).valid = true := by rw [hoth1 p (Ne.symm hne)]; exact (I.node hp).valid
    have hpk : StaticKind env (s1.nodeD p).kind := by rw [hoth1 p (Ne.symm hne)]; exact (I.node hp).kind
    cases hkd : (s.nodeD c).kind <;> rw [hkd] at hsk <;>
      first | exact tail_out _ hp1 hpv hpk hfin | exact hsk.elim
  | false =>
    simp only [Bool.not_false, if_true]
    obtain ⟨I1, hpar1⟩ := I.addEdge_open U hop hk hwas hcl
    have hx1 : HEx s1 (upd (upd op p (.linking (idx + 1))) c (.linking 0)) := by
      refine hx.transfer hk1 (by rw [hseen1]; exact Int.le_refl _) (fun m hm ho => ?_)
      have hmc : m ≠ c := fun e => by rw [e, upd_self] at ho; cases ho
      rw [upd_other _ _ _ hmc] at ho
      have hmp : m ≠ p := fun e => by rw [e, upd_self] at ho; cases ho
      rw [upd_other _ _ _ hmp] at ho
      refine ⟨?_, ho, hhgt1 m⟩
      rw [State.isNecessary, hoth1 m hmc] at hm; exact hm
    have hlow1 : ∀ m, upd (upd op p (.linking (idx + 1))) c (.linking 0) m ≠ .closed → c ≤ m := by
      intro m hm
      by_cases e : m = c
      · omega
      · rw [upd_other _ _ _ e] at hm
        by_cases e2 : m = p
        · omega
        · rw [upd_other _ _ _ e2] at hm
          exact Nat.le_of_lt (hlow m hm)
    have hpar1' : ∀ q i, (q, i) ∈ (s1.nodeD c).parents →
        upd (upd op p (.linking (idx + 1))) c (.linking 0) q ≠ .closed := by
      intro q i hq
      rw [hpar1] at hq
      simp only [List.mem_singleton, Prod.mk.injEq] at hq
      rw [hq.1, upd_other _ _ _ (Ne.symm hne), upd_self]
      exact fun e => by cases e
    have T := ih c s1 _ I1 hx1 R1 (upd_self _ _ _) hlow1 hpar1' (by omega)
    rw [needH_congr hk1 c, hseen1] at T
    refine Out.bind T (fun _ s2 h2 ⟨q1, q2, q3⟩ => ?_)
    obtain ⟨I2, hab2, hl2⟩ := (link_spec env fuel).1 c s1 s2 _ h2 I1 (upd_self _ _ _) hlow1 hpar1'
    rw [upd_upd, upd_eq_self _ c .closed (by rw [upd_other _ _ _ hne]; exact hcl)] at q2
    have hp2 : p < s2.nodes.size := by rw [hl2.fr.size]; exact hp1
    have hpe : s2.nodeD p = s.nodeD p := by rw [hab2 p hcp]; exact hoth1 p (Ne.symm hne)
    exact tail_out _ hp2 (by rw [hpe]; exact (I.node hp).valid) (by rw [hpe]; exact (I.node hp).kind)
      ⟨q1, q2, q3⟩

theorem bn_out (env : Env) (N fuel : Nat) (ih : APOut env N fuel) : BNOut env N (fuel + 1) := by
  intro n s op I hx R hop hlow hpar hf
  have hn : n < s.nodes.size := I.opLt n (by rw [hop]; exact fun e => by cases e)
  have sn := I.node hn
  have K : KidsLt s := kidsLt_of_ginv I
  have hopn : op n ≠ .closed := by rw [hop]; exact fun e => by cases e
  have hneed1 := needH_pos s n
  unfold becameNecessary
  refine Out.bind_getNode hn ?_
  rw [sn.top]
  refine Out.bind_ok (scopeIsNecessary_top_run s) ?_
  dsimp only
  simp only [Bool.not_true, Bool.and_false, Bool.false_eq_true, if_false]
  refine Out.bind_modify (fun s0 hs0 => ?_)
  have R0 : Irrel n s s0 := by rw [hs0]; exact Irrel.of_nodes rfl rfl rfl rfl rfl
  have hseen0 : s0.maxHeightSeen = s.maxHeightSeen := by rw [hs0]
  have hn0 : n < s0.nodes.size := by rw [R0.same.size]; exact hn
  obtain ⟨s1, h1⟩ := mhas_ok hn0
  refine Out.bind_ok h1 ?_
  refine Out.bind_ok (scopeHeight_top_run s1) ?_
  have R1 : Irrel n s s1 := R0.trans (Irrel.mhas h1)
  have hseen1 : s1.maxHeightSeen = s.maxHeightSeen := (mhas_seen h1).trans hseen0
  have I1 : GInv env s1 op := I.congr R1.same
  have hn1 : n < s1.nodes.size := by rw [R1.same.size]; exact hn
  have hpar1 : ∀ p i, (p, i) ∈ (s1.nodeD n).parents → op p ≠ .closed := by
    intro p i hp; rw [(R1.same.node n).parents] at hp; exact hpar p i hp
  have F1 : CFrame s s1 := (R1.rel (fun _ => False)).fr
  have Rm1 : RoomH N s1 := R.of_cframe F1 hseen1
  -- the first `setHeight n 1`
  by_cases hN1 : (N : Int) < 0 + 1
  · refine Out.of_err (run_bind_err (setHeight_beyond Rm1 hN1)) ⟨by omega, ?_⟩
    show (0 : Int) + 1 = N + 1
    omega
  have h2 := setHeight_within (n := n) Rm1 (Int.not_lt.1 hN1)
  refine Out.bind_ok h2 ?_
  generalize hs2 : heightSet n (0 + 1) s1 = s2 at h2
  have hseen2 : s2.maxHeightSeen = max s.maxHeightSeen 1 := by rw [← hs2, ← hseen1]; rfl
  obtain ⟨U2, hab2, hl2, hh2, hoth2⟩ := setHeight_ok_upd hn1 h2
  have I2 : GInv env s2 op := I1.setHeight_open U2 hopn hpar1
  have hn2 : n < s2.nodes.size := by rw [U2.size]; exact hn1
  have F2 : CFrame s s2 := F1.trans hl2.fr
  have Rm2 : RoomH N s2 := Rm1.of_cframe' hl2.fr (by rw [hseen2, hseen1]; omega)
    (by rw [hseen2]; have := R.seen; omega)
  have hcs : s2.children n = kids (s2.nodeD n).kind := I2.children hn2
  have hkn : kids (s2.nodeD n).kind = kids (s.nodeD n).kind := by rw [F2.kind]
  have hx2 : HEx s2 op := by
    refine hx.transfer F2.kind (by rw [hseen2]; omega) (fun m hm ho => ?_)
    have hmn : m ≠ n := fun e => by rw [e] at ho; exact hopn ho
    rw [State.isNecessary, hoth2 m hmn] at hm
    refine ⟨by rw [← R1.same.nec m]; exact hm, ho, ?_⟩
    rw [hoth2 m hmn, (R1.same.node m).height]
  refine Out.bind_getNode hn2 ?_
  refine Out.bind_get ?_
  -- the loop
  refine Out.bind (Q := fun (b : Int × Nat) t => b.2 = (s2.children n).length ∧
      GInv env t (upd op n (.linking (s2.children n).length)) ∧
      (∀ m, n ≤ m → t.nodeD m = s2.nodeD m) ∧ LRel (fun _ => False) s2 t ∧
      b.1 = (linkH s n (s2.children n).length : Int) ∧
      HEx t (upd op n (.linking (s2.children n).length)) ∧
      linkH s n (s2.children n).length ≤ N + 1 ∧ s2.maxHeightSeen ≤ t.maxHeightSeen ∧
      t.maxHeightSeen ≤ (N : Int) ∧
      t.maxHeightSeen ≤ max s2.maxHeightSeen (linkH s n (s2.children n).length : Int))
    (forIn_out _ (s2.children n)
      (fun j (b : Int × Nat) t => b.2 = j ∧ GInv env t (upd op n (.linking j)) ∧
        (∀ m, n ≤ m → t.nodeD m = s2.nodeD m) ∧ LRel (fun _ => False) s2 t ∧
        b.1 = (linkH s n j : Int) ∧
        HEx t (upd op n (.linking j)) ∧
        linkH s n j ≤ N + 1 ∧ s2.maxHeightSeen ≤ t.maxHeightSeen ∧
        t.maxHeightSeen ≤ (N : Int) ∧
        t.maxHeightSeen ≤ max s2.maxHeightSeen (linkH s n j : Int))
      _ ?hstep _ s2 ?hinit) ?rest
  case hinit =>
    refine ⟨rfl, by rw [upd_eq_self _ _ _ hop]; exact I2, fun _ _ => rfl, LRel.refl _ _, ?_,
      by rw [upd_eq_self _ _ _ hop]; exact hx2, by rw [linkH_zero]; omega, Int.le_refl _, Rm2.seen, by omega⟩
    show (s2.nodeD n).height = _
    rw [hh2, linkH_zero]; rfl
  case hstep =>
    intro j c b t hj ⟨hbj, It, hsame, hrel, hb1, hHB, hlk, hsl, hsN, hsu⟩
    have hkj : (kids (t.nodeD n).kind)[b.2]? = some c := by
      rw [hsame n (Nat.le_refl _), ← hcs, hbj]; exact hj
    have hkjs : (kids (s.nodeD n).kind)[j]? = some c := by
      rw [← hkn, ← hcs]; exact hj
    have hcn : c < n := It.kid_lt hkj
    have hlowc : ∀ m, upd op n (.linking j) m ≠ .closed → c < m := by
      intro m hm
      by_cases e : m = n
      · omega
      · rw [upd_other _ _ _ e] at hm; have := hlow m hm; omega
    have hclc : op c = .closed := by
      cases e : op c with
      | closed => rfl
      | linking k => have := hlow c (by rw [e]; exact fun e => by cases e); omega
      | unlinking k => have := hlow c (by rw [e]; exact fun e => by cases e); omega
    have Ft : CFrame s t := F2.trans hrel.fr
    have Rt : RoomH N t := Rm2.of_cframe' hrel.fr hsl hsN
    have hcn' : needH s c < needH s n := needH_child_lt K (List.mem_of_getElem? hkjs)
    have T := ih c b.2 n t _ It hHB Rt (by rw [upd_self, hbj]) hkj hlowc (by omega)
    rw [needH_cframe Ft c] at T
    refine Out.bind' T (fun t' ⟨p1, p2⟩ => ⟨by omega, p2⟩) (fun _ t1 ha ⟨q1, q2, q3⟩ => ?_)
    obtain ⟨It1, hab, hl, hnecc⟩ := (link_spec env fuel).2 c b.2 n t t1 _ ha It (by rw [upd_self, hbj]) hkj hlowc
    rw [upd_upd, hbj] at It1 q2
    have hct1 : c < t1.nodes.size := by
      rw [hl.fr.size, hrel.fr.size]; omega
    have Ft1 : CFrame s t1 := Ft.trans hl.fr
    have hch : (t1.nodeD c).height = (needH s c : Int) := by
      have := (q2 c hnecc (by rw [upd_other _ _ _ (by omega)]; exact hclc)).1
      rw [needH_cframe Ft1 c] at this; exact this
    have hlk1 := linkH_succ hkjs
    have hstep : ∀ h' : Int, h' = (linkH s n (j + 1) : Int) →
        (j + 1 = j + 1) ∧ GInv env t1 (upd op n (.linking (j + 1))) ∧
        (∀ m, n ≤ m → t1.nodeD m = s2.nodeD m) ∧ LRel (fun _ => False) s2 t1 ∧
        h' = (linkH s n (j + 1) : Int) ∧
        HEx t1 (upd op n (.linking (j + 1))) ∧
        linkH s n (j + 1) ≤ N + 1 ∧ s2.maxHeightSeen ≤ t1.maxHeightSeen ∧
        t1.maxHeightSeen ≤ (N : Int) ∧
        t1.maxHeightSeen ≤ max s2.maxHeightSeen (linkH s n (j + 1) : Int) := by
      intro h' he
      refine ⟨rfl, It1, fun m hm => (hab m (by omega)).trans (hsame m hm), hrel.trans hl, he, q2,
        by omega, by omega, by omega, by omega⟩
    refine Out.bind_getNode hct1 ?_
    by_cases hge : (t1.nodeD c).height ≥ b.1
    · rw [if_pos hge]
      refine Out.pure ⟨_, rfl, ?_⟩
      have := hstep ((t1.nodeD c).height + 1) (by omega)
      rw [hbj]; exact this
    · rw [if_neg hge]
      refine Out.pure ⟨_, rfl, ?_⟩
      have := hstep b.1 (by omega)
      rw [hbj]; exact this
  case rest =>
    intro b s3 h3 ⟨hbl, I3, hsame3, hrel3, hb1, hHB3, hlk3, hsl3, hsN3, hsu3⟩
    have hlen : (s2.children n).length = (kids (s.nodeD n).kind).length := by rw [hcs, hkn]
    rw [hlen, linkH_full K n] at hb1 hlk3 hsu3
    have hn3 : n < s3.nodes.size := by rw [hrel3.fr.size]; exact hn2
    have F3 : CFrame s s3 := F2.trans hrel3.fr
    have Rm3 : RoomH N s3 := Rm2.of_cframe' hrel3.fr hsl3 hsN3
    -- the final `setHeight n (needH n)`
    by_cases hNn : (N : Int) < b.1
    · refine Out.of_err (run_bind_err (setHeight_beyond Rm3 hNn)) ⟨by omega, ?_⟩
      show b.1 = N + 1
      omega
    have hle : needH s n ≤ N := by omega
    have h4 := setHeight_within (n := n) Rm3 (Int.not_lt.1 hNn)
    refine Out.bind_ok h4 ?_
    generalize hs4 : heightSet n b.1 s3 = s4 at h4
    have hseen4 : s4.maxHeightSeen = max s.maxHeightSeen (needH s n : Int) := by
      rw [← hs4]
      show max s3.maxHeightSeen b.1 = _
      omega
    obtain ⟨U4, hab4, hl4, hh4, hoth4⟩ := setHeight_ok_upd hn3 h4
    have hpar3 : ∀ p i, (p, i) ∈ (s3.nodeD n).parents →
        upd op n (.linking (s2.children n).length) p ≠ .closed := by
      intro p i hp
      have hpn : n < p := I3.par_lt hp
      rw [upd_other _ _ _ (by omega)]
      rw [hsame3 n (Nat.le_refl _), U2.self.parents] at hp
      exact hpar1 p i hp
    have I4 : GInv env s4 (upd op n (.linking (s2.children n).length)) :=
      I3.setHeight_open U4 (by rw [upd_self]; exact fun e => by cases e) hpar3
    have hn4 : n < s4.nodes.size := by rw [U4.size]; exact hn3
    have F4 : CFrame s s4 := F3.trans hl4.fr
    have hnec4 := I4.lnec n _ (upd_self _ _ _)
    have h04 : 0 ≤ (s4.nodeD n).height := by rw [hh4]; omega
    have hrch4 : s4.rch.maxAllowed = (N : Int) := by
      have hk := F4.key
      simp only [stateKey, Prod.mk.injEq] at hk
      have h1 : s4.rch.queues.size = s.rch.queues.size := hk.2.2.2.2.2.2.2.2.2.2.2.2.2.2.1
      rw [← R.rch]; simp only [Heap.maxAllowed, h1]
    -- the exact heights for the final labelling, for any state with the same heights, necessity, kinds and seen
    have hfin : ∀ s' : State, (∀ m, (s'.nodeD m).height = (s4.nodeD m).height) →
        (∀ m, s'.isNecessary m = s4.isNecessary m) → (∀ m, (s'.nodeD m).kind = (s4.nodeD m).kind) →
        s'.maxHeightSeen = s4.maxHeightSeen →
        needH s n ≤ N ∧ HEx s' (upd op n .closed) ∧
          s'.maxHeightSeen = max s.maxHeightSeen (needH s n : Int) := by
      intro s' hh hnc hkk hss
      refine ⟨hle, fun m hm ho => ?_, by rw [hss]; exact hseen4⟩
      have hks : ∀ m, (s'.nodeD m).kind = (s.nodeD m).kind := fun m => (hkk m).trans (F4.kind m)
      rw [needH_congr hks, hh, hss, hseen4]
      by_cases e : m = n
      · rw [e, hh4]; exact ⟨hb1, by omega⟩
      · rw [upd_other _ _ _ e] at ho
        rw [hnc] at hm
        rw [State.isNecessary, hoth4 m e] at hm
        rw [hoth4 m e]
        have := hHB3 m hm (by rw [upd_other _ _ _ e]; exact ho)
        rw [needH_cframe F3 m] at this
        exact ⟨this.1, by omega⟩
    refine Out.bind_get ?_
    refine Out.bind_dassert (fun _ => by rw [hnec4.2]; rfl) ?_
    refine Out.bind_dassert (fun _ => hnec4.1) ?_
    rw [I4.isStale hn4]
    cases hst : staleOf s4 n with
    | false =>
      simp only [Bool.false_eq_true, if_false]
      exact tail_out _ hn4 (I4.node hn4).valid (I4.node hn4).kind
        (hfin s4 (fun _ => rfl) (fun _ => rfl) (fun _ => rfl) rfl)
    | true =>
      simp only [if_true]
      refine Out.bind_ok
        (markMapRefUnknown_static_run (by omega) hn4 (I4.node hn4).valid (I4.node hn4).kind) ?_
      have hpre : (!(s4.nodeD n).inRch && s4.needsToBeComputed n) = true := by
        rw [hnec4.2, State.needsToBeComputed, hnec4.1, I4.isStale hn4, hst]; rfl
      refine Out.bind_ok (rchInsert_run_ok hn4 hpre h04 (by rw [hrch4, hh4]; omega)) ?_
      have hnd : ∀ m, ∃ x, (inserted n (s4.nodeD n).height s4).nodeD m =
          { s4.nodeD m with heightInRch := x } := by
        intro m
        rw [inserted_nodeD]
        split
        · exact ⟨_, rfl⟩
        · exact ⟨_, rfl⟩
      have hsz : (inserted n (s4.nodeD n).height s4).nodes.size = s4.nodes.size := Array.size_modify ..
      refine tail_out (env := env) _ (by rw [hsz]; exact hn4) ?_ ?_ (hfin _ ?_ ?_ ?_ rfl)
      · obtain ⟨x, hx⟩ := hnd n; rw [hx]; exact (I4.node hn4).valid
      · obtain ⟨x, hx⟩ := hnd n; rw [hx]; exact (I4.node hn4).kind
      · intro m; obtain ⟨x, hx⟩ := hnd m; rw [hx]
      · intro m; obtain ⟨x, hx⟩ := hnd m; rw [State.isNecessary, hx]; rfl
      · intro m; obtain ⟨x, hx⟩ := hnd m; rw [hx]

theorem link_out (env : Env) (N fuel : Nat) : BNOut env N fuel ∧ APOut env N fuel := by
  induction fuel with
  | zero =>
    constructor
    · intro n s op _ _ _ _ _ _ hf; omega
    · intro c idx p s op _ _ _ _ _ _ hf; omega
  | succ fuel ih => exact ⟨bn_out env N fuel ih.2, ap_out env N fuel ih.1⟩

/-- **The linking cascade, exactly.**  It returns iff the static height of `n` is within the limit; then every
closed necessary node (now including `n` and everything below it) has exactly its static height and
`maxHeightSeen` is `max old (needH n)`.  Otherwise it panics with `"height-limit"` — no other panic is possible —
and `maxHeightSeen` is `N + 1`. -/
theorem becameNecessary_out {env : Env} {N fuel n : Nat} {s : State} {op : Nat → Op}
    (I : GInv env s op) (hx : HEx s op) (R : RoomH N s)
    (hop : op n = .linking 0) (hlow : ∀ m, op m ≠ .closed → n ≤ m)
    (hpar : ∀ p i, (p, i) ∈ (s.nodeD n).parents → op p ≠ .closed) (hf : 2 * n + 2 ≤ fuel) :
    Out (becameNecessary env fuel n) s
      (fun _ s' => needH s n ≤ N ∧ HEx s' (upd op n .closed) ∧
        s'.maxHeightSeen = max s.maxHeightSeen (needH s n : Int))
      (fun s' => N < needH s n ∧ s'.maxHeightSeen = (N : Int) + 1) :=
  (link_out env N fuel).1 n s op I hx R hop hlow hpar hf

end IncrVerif.Proofs.HeightH
