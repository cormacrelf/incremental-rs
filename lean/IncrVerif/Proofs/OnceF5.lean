import IncrVerif.Proofs.FullH63
import IncrVerif.Proofs.FullH69
import IncrVerif.Proofs.OnceF4
/-!
# C02, combined fragment: NON-VACUITY — the theorem applies at every `stabilise` of the example histories `exHistF` / `exHistG` (`FullH62`, `FullH68`); the drain traces of
these `stabilise`s, computed by the kernel in `OnceF6`, `OnceF7`, are non-trivial (up to 17 nodes: variables, map_ref chains, map_with_old machines, change detectors, bind main nodes of nested
binds, `depend_on`).  `EX.along`: facts of the states after several prefixes of one history from ONE run of it (`EX.along_spec`), so that the kernel does not run the common
prefixes again for every fact
-/
namespace IncrVerif.Proofs.OnceF
open IncrVerif.Engine IncrVerif.Driver IncrVerif.Proofs IncrVerif.Proofs.Step IncrVerif.Proofs.Sched IncrVerif.Proofs.Quiet
open IncrVerif.Proofs.FullH IncrVerif.Proofs.TidyH IncrVerif.Proofs.BindH

/-- the list of nodes handed to `recomputeOne` by the `stabilise` that follows the history `acts` (run from `State.init 128 true` in `fEnv`): `drainTrace` of the state `t2`
reached by the two observer phases — the `t2` of `OnceStab` -/
def EX.traceAfter (acts : List Action) : Option (List Nat) :=
  match C2h.stateB fEnv acts with
  | none => none
  | some s =>
    match (addNewObservers fEnv fuelDefault).run.run { s with status := .stabilising } with
    | (.ok _, t1) =>
      match (unlinkDisallowedObservers fuelDefault).run.run t1 with
      | (.ok _, t2) => some (drainTrace fEnv fuelDefault t2)
      | _ => none
    | _ => none

/-- the run of the first `j` actions of a history from `State.init 128 true` -/
def EX.runTo (env : Env) (acts : List Action) (j : Nat) : Option (State × Array Nat) :=
  match Quiet.runActions env (acts.take j) (State.init 128 true) #[] with
  | .ok r => some r
  | .error _ => none

/-- `F` of the states after the prefixes of lengths `Ks` (increasing, from `j` on) of a history, computed in ONE run: `as` = the actions from `j` on,
`cur` = the run of the first `j` actions -/
def EX.along {β} (env : Env) (F : Option State → β) : List Nat → Nat → List Action → Option (State × Array Nat) → List β
  | [], _, _, _ => []
  | K :: Ks, j, as, cur =>
    let cur' : Option (State × Array Nat) := match cur with
      | none => none
      | some (s, tk) => match Quiet.runActions env (as.take (K - j)) s tk with
        | .ok r => some r
        | .error _ => none
    F (cur'.map (·.1)) :: EX.along env F Ks K (as.drop (K - j)) cur'

theorem EX.stateB_runTo (env : Env) (acts : List Action) (K : Nat) : C2h.stateB env (acts.take K) = (EX.runTo env acts K).map (·.1) := by
  unfold C2h.stateB EX.runTo
  rcases Quiet.runActions env (acts.take K) (State.init 128 true) #[] with e | ⟨s, tk⟩ <;> rfl

theorem EX.along_spec {β} (env : Env) (F : Option State → β) (acts : List Action) :
    ∀ (Ks : List Nat) (j : Nat), (j :: Ks).Pairwise (· ≤ ·) →
      EX.along env F Ks j (acts.drop j) (EX.runTo env acts j) = Ks.map fun K => F (C2h.stateB env (acts.take K)) := by
  intro Ks
  induction Ks with
  | nil => intro j _; rfl
  | cons K Ks ih =>
    intro j hs
    obtain ⟨hj, hs'⟩ := List.pairwise_cons.1 hs
    have hjK : j ≤ K := hj K List.mem_cons_self
    have hr : (match EX.runTo env acts j with
        | none => none
        | some (s, tk) => match Quiet.runActions env ((acts.drop j).take (K - j)) s tk with
          | .ok r => some r
          | .error _ => none) = EX.runTo env acts K := by
      have e : acts.take K = acts.take j ++ (acts.drop j).take (K - j) := by
        rw [← List.take_add, Nat.add_sub_cancel' hjK]
      unfold EX.runTo
      rw [e, Quiet.runActions_append]
      rcases Quiet.runActions env (acts.take j) (State.init 128 true) #[] with e | ⟨s, tk⟩ <;> rfl
    unfold EX.along
    dsimp only
    rw [hr, List.drop_drop, Nat.add_sub_cancel' hjK, ih K hs', List.map_cons, EX.stateB_runTo]

/-- `EX.traceAfter` as a function of the state after the history -/
def EX.traceOf : Option State → Option (List Nat)
  | none => none
  | some s =>
    match (addNewObservers fEnv fuelDefault).run.run { s with status := .stabilising } with
    | (.ok _, t1) =>
      match (unlinkDisallowedObservers fuelDefault).run.run t1 with
      | (.ok _, t2) => some (drainTrace fEnv fuelDefault t2)
      | _ => none
    | _ => none

theorem EX.traceAfter_eq (acts : List Action) : EX.traceAfter acts = EX.traceOf (C2h.stateB fEnv acts) := by
  unfold EX.traceAfter EX.traceOf
  cases C2h.stateB fEnv acts <;> rfl

/-- a `stabilise` of a history of the combined fragment in `fEnv` that runs from `State.init 128 true`: the states around it -/
theorem ex_at_stabilise {H as bs : List Action} (hr : ∃ s tk, Quiet.runActions fEnv H (State.init 128 true) #[] = .ok (s, tk))
    (hH : HistFull fEnv fSp 0 H) (e : H = as ++ Action.stabilise :: bs) :
    ∃ s tk s1 tk1 s2, Quiet.runActions fEnv H (State.init 128 true) #[] = .ok (s, tk) ∧
      Quiet.runActions fEnv as (State.init 128 true) #[] = .ok (s1, tk1) ∧ QInvFE fEnv fSp s1 ∧
      (stabilise fEnv fuelDefault).run.run s1 = (.ok (), s2) ∧ Quiet.runActions fEnv bs s2 tk1 = .ok (s, tk) := by
  subst e
  obtain ⟨s, tk, h⟩ := hr
  obtain ⟨s1, tk1, s2, k1, Q, k3, -, -, -, k7⟩ := history_c02 fEnv_envS fEnv_first hH h
  exact ⟨s, tk, s1, tk1, s2, h, k1, Q, k3, k7⟩

/-- C02 holds at every `stabilise` of `exHistF` -/
theorem exHistF_c02 {as bs : List Action} (e : exHistF = as ++ Action.stabilise :: bs) :
    ∃ s tk s1 tk1 s2, Quiet.runActions fEnv exHistF (State.init 128 true) #[] = .ok (s, tk) ∧
      Quiet.runActions fEnv as (State.init 128 true) #[] = .ok (s1, tk1) ∧
      (stabilise fEnv fuelDefault).run.run s1 = (.ok (), s2) ∧
      OnceStab fEnv fuelDefault s1 s2 ∧ FinalInputs s2 ∧
      Quiet.runActions fEnv bs s2 tk1 = .ok (s, tk) := by
  obtain ⟨s, tk, s1, tk1, s2, h0, k1, Q, k3, k7⟩ := ex_at_stabilise exHistF_runs exHistF_frag e
  obtain ⟨a, b, -⟩ := stabilise_c02 fEnv_envS fEnv_first Q k3
  exact ⟨s, tk, s1, tk1, s2, h0, k1, k3, a, b, k7⟩

/-- C02 holds at every `stabilise` of `exHistG` -/
theorem exHistG_c02 {as bs : List Action} (e : exHistG = as ++ Action.stabilise :: bs) :
    ∃ s tk s1 tk1 s2, Quiet.runActions fEnv exHistG (State.init 128 true) #[] = .ok (s, tk) ∧
      Quiet.runActions fEnv as (State.init 128 true) #[] = .ok (s1, tk1) ∧
      (stabilise fEnv fuelDefault).run.run s1 = (.ok (), s2) ∧
      OnceStab fEnv fuelDefault s1 s2 ∧ FinalInputs s2 ∧
      Quiet.runActions fEnv bs s2 tk1 = .ok (s, tk) := by
  obtain ⟨s, tk, s1, tk1, s2, h0, k1, Q, k3, k7⟩ := ex_at_stabilise exHistG_runs exHistG_frag e
  obtain ⟨a, b, -⟩ := stabilise_c02 fEnv_envS fEnv_first Q k3
  exact ⟨s, tk, s1, tk1, s2, h0, k1, k3, a, b, k7⟩

end IncrVerif.Proofs.OnceF
