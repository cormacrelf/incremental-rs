import IncrVerif.Proofs.BindH54
import IncrVerif.Proofs.BindF1F2
import IncrVerif.Proofs.NestH16
/-!
# Binds, fragment F1, unlinking side: the cascade and the run forms of the single-edge removal lemmas

The statements of fragment F2 (`NestH15`, `NestH16`) at the rank `rkOf s`; every step keeps the keys of the nodes, hence `All1`.
-/
namespace IncrVerif.Proofs.BindH
open IncrVerif.Engine IncrVerif.Proofs IncrVerif.Proofs.Step IncrVerif.Proofs.Sched IncrVerif.Proofs.Quiet
open IncrVerif.Proofs.NestH

section
variable {env : Env} {s s' : State} {op : Nat → Op} {ex : Nat → Prop} {dy : List Nat}

/-- the invariant only reads the fields of `SameG`, and the bind table -/
theorem CU.congr (I : GInv1 env s op ex dy) (hB : SameB s s') : GInv1 env s' op ex dy :=
  (I.to2.congr hB).to1_of_keyEq I.frag (.of_same hB)

end

/-- `becameUnnecessary n` on the open node of lowest rank, labelled `.unlinking 0`, closes it -/
theorem becameUnnecessary_spec1 {env : Env} {fuel n : Nat} {s s' : State} {op : Nat → Op} {ex : Nat → Prop}
    {dy : List Nat}
    (h : (becameUnnecessary fuel n).run.run s = (.ok (), s')) (I : GInv1 env s op ex dy)
    (hop : op n = .unlinking 0) (hlow : ∀ m, op m ≠ .closed → rkOf s n ≤ rkOf s m) :
    GInv1 env s' (upd op n .closed) ex dy ∧ AboveR s n s' ∧ URel s s' := by
  obtain ⟨I', ha, hu⟩ := becameUnnecessary_spec2 h I.to2 hop hlow
  exact ⟨I'.to1_of_keyEq I.frag (.of_cframe hu.fr), ha, hu⟩

/-- `removeChildren n` on the open node of lowest rank, labelled `.unlinking 0`: afterwards none of its child edges is
recorded (`.unlinking (children n).length`); `n` itself and the nodes of higher rank are untouched -/
theorem removeChildren_spec1 {env : Env} {fuel n : Nat} {s s' : State} {op : Nat → Op} {ex : Nat → Prop}
    {dy : List Nat}
    (h : (removeChildren fuel n).run.run s = (.ok (), s')) (I : GInv1 env s op ex dy)
    (hop : op n = .unlinking 0) (hlow : ∀ m, op m ≠ .closed → rkOf s n ≤ rkOf s m) :
    GInv1 env s' (upd op n (.unlinking (s.children n).length)) ex dy ∧
      (∀ m, rkOf s n ≤ rkOf s m → s'.nodeD m = s.nodeD m) ∧ URel s s' := by
  obtain ⟨I', ha, hu⟩ := removeChildren_spec2 h I.to2 hop hlow
  exact ⟨I'.to1_of_keyEq I.frag (.of_cframe hu.fr), ha, hu⟩

section
variable {env : Env} {s s' : State} {op : Nat → Op} {ex : Nat → Prop} {dy : List Nat}

/-- run form of `GInv1.removeEdge` -/
theorem removeParent_unlinking1 {c p idx : Nat} {u : Unit}
    (h : (removeParent c idx p).run.run s = (.ok u, s')) (I : GInv1 env s op ex dy)
    (hop : op p = .unlinking idx) (hk : (s.children p)[idx]? = some c) (hcl : op c = .closed) :
    (s'.isNecessary c = true → GInv1 env s' (upd op p (.unlinking (idx + 1))) ex dy) ∧
    (s'.isNecessary c = false →
      GInv1 env s' (upd (upd op p (.unlinking (idx + 1))) c (.unlinking 0)) ex dy) ∧
    AboveR s c s' ∧ URel s s' ∧ (∀ m, m ≠ c → s'.nodeD m = s.nodeD m) := by
  obtain ⟨h1, h2, ha, hu, ho⟩ := removeParent_unlinking2 h I.to2 hop hk hcl
  have E : BL.KeyEq s s' := .of_cframe hu.fr
  exact ⟨fun hn => (h1 hn).to1_of_keyEq I.frag E, fun hn => (h2 hn).to1_of_keyEq I.frag E, ha, hu, ho⟩

/-- the case of `changeChildBindRhs`: the child has been forced necessary before its edge is removed, so it stays
necessary and closed -/
theorem removeParent_dropLast_forced1 {c p idx : Nat} {u : Unit}
    (h : (removeParent c idx p).run.run s = (.ok u, s')) (I : GInv1 env s op ex dy)
    (hop : op p = .closed) (hnp : s.isNecessary p = true)
    (hk : (s.children p)[idx]? = some c) (hlen : (s.children p).length = idx + 1) (hcl : op c = .closed)
    (hf : (s.nodeD c).forceNecessary = true) :
    GInv1 env s' (upd op p (.linking idx)) ex dy ∧ s'.isNecessary c = true ∧
    AboveR s c s' ∧ URel s s' ∧ (∀ m, m ≠ c → s'.nodeD m = s.nodeD m) := by
  obtain ⟨I', hn, ha, hu, ho⟩ := removeParent_dropLast_forced2 h I.to2 hop hnp hk hlen hcl hf
  exact ⟨I'.to1_of_keyEq I.frag (.of_cframe hu.fr), hn, ha, hu, ho⟩

end

end IncrVerif.Proofs.BindH
