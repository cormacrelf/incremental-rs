import IncrVerif.Proofs.BindH14
import IncrVerif.Proofs.BindH5
/-!
# Binds, part K1: a Boolean checker for `BGraph` with a GIVEN rank function, and its soundness proof
-/
namespace IncrVerif.Proofs.BindH
open IncrVerif.Engine IncrVerif.Proofs IncrVerif.Proofs.Step IncrVerif.Proofs.Sched

namespace BK

theorem bkindB_sound {env : Env} (hpure : ∀ f vals, env.fnEff f vals = []) {k : Kind} (h : bkindB k = true) :
    BKind env k := by
  cases k with
  | const v => exact True.intro
  | var c => exact True.intro
  | map f args =>
    simp only [bkindB, decide_eq_true_eq] at h
    exact ⟨h, fun _ vals => hpure f vals⟩
  | fold f i cs => exact True.intro
  | bindLhsChange b => exact True.intro
  | bindMain b lc => exact True.intro
  | mapRef p i => cases h
  | mapWithOld g i => cases h
  | expert e => cases h

theorem mem_edgesOf {s : State} {a c : Nat} (h : Edge s a c) : c ∈ edgesOf s a := by
  unfold edgesOf
  cases h with
  | child hc => exact List.mem_append_left _ hc
  | scope hv hsc hb =>
    apply List.mem_append_right
    simp only [hv, hsc, hb, if_true, List.mem_singleton]

theorem default_parents : (default : Node).parents = [] := rfl

/-! ## the pieces -/

def nodeChk (s : State) : Bool :=
  allN s fun n => !(s.nodeD n).valid ||
    (bkindB (s.nodeD n).kind && (decide ((s.nodeD n).cutoff = .eq) || decide ((s.nodeD n).cutoff = .never))
      && (s.children n).all fun c => decide (c < s.nodes.size) && (s.nodeD c).valid)

def necChk (s : State) : Bool :=
  allN s fun n => !s.isNecessary n || ((s.nodeD n).valid && decide (0 ≤ (s.nodeD n).height))

def varChk (s : State) : Bool :=
  allN s fun n => !(s.nodeD n).valid ||
    match (s.nodeD n).kind with
    | .var c => (s.vars[c]?).isSome
    | _ => true

def childChk (s : State) : Bool :=
  allN s fun n => !s.isNecessary n ||
    (List.range (s.children n).length).all fun i =>
      match (s.children n)[i]? with
      | none => true
      | some c => s.isNecessary c && ((s.nodeD c).parents.any fun q => decide (q.1 = n) && decide (q.2 = i)) &&
          decide ((s.nodeD c).height < (s.nodeD n).height)

def parentChk (s : State) : Bool :=
  allN s fun c => (s.nodeD c).parents.all fun pi =>
    s.isNecessary pi.1 && decide ((s.children pi.1)[pi.2]? = some c)

def scopeChk (s : State) : Bool :=
  allN s fun n => !(s.nodeD n).valid ||
    match (s.nodeD n).createdIn with
    | .top => true
    | .bind b => match s.binds[b]? with
      | none => false
      | some br => decide (br.lhsChange < s.nodes.size) && (s.nodeD br.lhsChange).valid &&
          (!s.isNecessary n || (s.isNecessary br.lhsChange &&
            decide ((s.nodeD br.lhsChange).height < (s.nodeD n).height)))

def recChk (s : State) : Bool :=
  allN s fun n => !(s.nodeD n).valid ||
    match (s.nodeD n).kind with
    | .bindLhsChange b => (match s.binds[b]? with | some br => decide (br.lhsChange = n) | none => false)
    | .bindMain b lc => (match s.binds[b]? with
        | some br => decide (br.main = n) && decide (br.lhsChange = lc) &&
            decide ((s.nodeD lc).createdIn = (s.nodeD n).createdIn)
        | none => false)
    | _ => true

def lcChildChk (s : State) : Bool :=
  allN s fun m => !(s.nodeD m).valid ||
    (s.children m).all fun c =>
      match (s.nodeD c).kind with
      | .bindLhsChange b => decide ((s.nodeD m).kind = .bindMain b c)
      | _ => true

end BK

/-- the given rank function decreases strictly along every edge -/
def acycRkB (s : State) (rk : Nat → Nat) : Bool :=
  allN s fun a => (edgesOf s a).all fun c => decide (rk c < rk a)

theorem acycRkB_sound {s : State} {rk : Nat → Nat} (h : acycRkB s rk = true) :
    ∀ a c, Edge s a c → rk c < rk a := by
  intro a c he
  have := allN_sound h a he.lt_size
  rw [List.all_eq_true] at this
  exact of_decide_eq_true (this c (BK.mem_edgesOf he))

open BK in
def bgraphRB (s : State) (rk : Nat → Nat) : Bool :=
  s.panicCountdown.isNone && nodeChk s && necChk s && varChk s && childChk s && parentChk s && scopeChk s &&
    recChk s && lcChildChk s && acycRkB s rk

open BK in
theorem bgraphRB_sound {env : Env} {s : State} {rk : Nat → Nat} (hpure : ∀ f vals, env.fnEff f vals = [])
    (h : bgraphRB s rk = true) : BGraph env s := by
  unfold bgraphRB at h
  simp only [Bool.and_eq_true] at h
  obtain ⟨⟨⟨⟨⟨⟨⟨⟨⟨h0, h1⟩, h2⟩, h3⟩, h4⟩, h5⟩, h6⟩, h7⟩, h8⟩, h9⟩ := h
  refine ⟨?_, ?_, ?_, ?_, ?_, ?_, ?_, ?_, ?_, ?_, ⟨rk, acycRkB_sound h9⟩⟩
  · -- pc
    cases hp : s.panicCountdown with
    | none => rfl
    | some k => rw [hp] at h0; cases h0
  · -- node
    intro n hn hv
    have := allN_sound h1 n hn
    simp only [hv, Bool.not_true, Bool.false_or, Bool.and_eq_true, Bool.or_eq_true, decide_eq_true_eq,
      List.all_eq_true] at this
    exact ⟨bkindB_sound hpure this.1.1, this.1.2, fun c hc => this.2 c hc⟩
  · -- nec
    intro n hn
    have := allN_sound h2 n (nec_lt_size hn)
    simp only [hn, Bool.not_true, Bool.false_or, Bool.and_eq_true, decide_eq_true_eq] at this
    exact this
  · -- var
    intro n c hn hv hk
    have := allN_sound h3 n hn
    simp only [hv, hk, Bool.not_true, Bool.false_or] at this
    cases hvc : s.vars[c]? with
    | none => rw [hvc] at this; cases this
    | some vc => exact ⟨vc, rfl⟩
  · -- child
    intro n hn i c hic
    have := allN_sound h4 n (nec_lt_size hn)
    simp only [hn, Bool.not_true, Bool.false_or, List.all_eq_true] at this
    have hi : i < (s.children n).length := (List.getElem?_eq_some_iff.1 hic).1
    have := this i (List.mem_range.2 hi)
    simp only [hic, Bool.and_eq_true, decide_eq_true_eq, List.any_eq_true] at this
    obtain ⟨⟨h1, q, hq, hq1, hq2⟩, h3⟩ := this
    refine ⟨h1, ?_, h3⟩
    have : q = (n, i) := Prod.ext hq1 hq2
    rw [← this]; exact hq
  · -- parent
    intro c p i hp
    by_cases hc : c < s.nodes.size
    · have := allN_sound h5 c hc
      rw [List.all_eq_true] at this
      have := this (p, i) hp
      simp only [Bool.and_eq_true, decide_eq_true_eq] at this
      exact this
    · rw [nodeD_default' s c hc, default_parents] at hp
      cases hp
  · -- scope
    intro n b hn hv hsc
    have := allN_sound h6 n hn
    simp only [hv, hsc, Bool.not_true, Bool.false_or] at this
    cases hb : s.binds[b]? with
    | none => rw [hb] at this; cases this
    | some br =>
      simp only [hb, Bool.and_eq_true, decide_eq_true_eq, Bool.or_eq_true, Bool.not_eq_true'] at this
      refine ⟨br, rfl, this.1.1, this.1.2, ?_⟩
      intro hnec
      rcases this.2 with h | h
      · rw [hnec] at h; cases h
      · exact h
  · -- lcRec
    intro n b hn hv hk
    have := allN_sound h7 n hn
    simp only [hv, hk, Bool.not_true, Bool.false_or] at this
    cases hb : s.binds[b]? with
    | none => rw [hb] at this; cases this
    | some br =>
      simp only [hb, decide_eq_true_eq] at this
      exact ⟨br, rfl, this⟩
  · -- mainRec
    intro n b lc hn hv hk
    have := allN_sound h7 n hn
    simp only [hv, hk, Bool.not_true, Bool.false_or] at this
    cases hb : s.binds[b]? with
    | none => rw [hb] at this; cases this
    | some br =>
      simp only [hb, Bool.and_eq_true, decide_eq_true_eq] at this
      exact ⟨br, rfl, this.1.1, this.1.2, this.2⟩
  · -- lcChild
    intro m c b hm hv hc hk
    have := allN_sound h8 m hm
    simp only [hv, Bool.not_true, Bool.false_or, List.all_eq_true] at this
    have := this c hc
    simp only [hk, decide_eq_true_eq] at this
    exact this

end IncrVerif.Proofs.BindH
