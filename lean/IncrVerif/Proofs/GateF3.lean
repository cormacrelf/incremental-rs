import IncrVerif.Proofs.GateF2
import IncrVerif.Proofs.OnceF4
/-!
# C06, combined fragment, part 3: one `stabilise`, whole histories

`GateStab env fuel s s'` (only-if): every node the drain of this `stabilise` hands to `recomputeOne` is, at that moment, STALE (`Reason`: never ran / variable written since / a child changed since), valid, necessary, not yet stamped.
`NeverLost s s'` (if): after the `stabilise`, every necessary node one of whose children carries `changedAt = s.stabNum` (bumped in THIS round: all stamps of `s` are
`< s.stabNum`) is valid and carries `recomputedAt = s.stabNum` (it ran in this round).
`isStale_cases`: what `isStale = true` means (pure unfolding of the model's `is_stale`).
-/
namespace IncrVerif.Proofs.GateF
open IncrVerif.Engine IncrVerif.Driver IncrVerif.Proofs IncrVerif.Proofs.Step IncrVerif.Proofs.Sched IncrVerif.Proofs.Quiet
open IncrVerif.Proofs.FullH IncrVerif.Proofs.TidyH IncrVerif.Proofs.OnceF

/-- the model's `is_stale`, unfolded: a stale node is valid and has never run, or is a variable written after it last ran, or has a child that changed after it last ran, or
is an expert node with `force_stale` -/
theorem isStale_cases {s : State} {n : Nat} (h : s.isStale n = true) :
    (s.nodeD n).valid = true ∧
      ((s.nodeD n).recomputedAt = -1 ∨
       (∃ c vc, (s.nodeD n).kind = .var c ∧ s.vars[c]? = some vc ∧ (s.nodeD n).recomputedAt < vc.setAt) ∨
       (∃ c, c ∈ s.children n ∧ (s.nodeD n).recomputedAt < (s.nodeD c).changedAt) ∨
       (∃ e er, (s.nodeD n).kind = .expert e ∧ s.experts[e]? = some er ∧ er.forceStale = true)) := by
  have hv : (s.nodeD n).valid = true := by
    cases hv : (s.nodeD n).valid with
    | true => rfl
    | false =>
      unfold State.isStale at h
      simp [Node.kind?, hv] at h
  refine ⟨hv, ?_⟩
  have hk : (s.nodeD n).kind? = some (s.nodeD n).kind := by simp [Node.kind?, hv]
  unfold State.isStale at h
  simp only [hk] at h
  cases hkd : (s.nodeD n).kind with
  | var c =>
    rw [hkd] at h
    cases hvc : s.vars[c]? with
    | none => simp [hvc] at h
    | some vc =>
      simp only [hvc, decide_eq_true_eq] at h
      exact Or.inr (Or.inl ⟨c, vc, rfl, hvc, h⟩)
  | const v =>
    rw [hkd] at h
    exact Or.inl (by simpa using h)
  | expert e =>
    rw [hkd] at h
    simp only [Bool.or_eq_true, beq_iff_eq, List.any_eq_true, decide_eq_true_eq] at h
    rcases h with (h | h) | ⟨c, hc, h⟩
    · cases her : s.experts[e]? with
      | none => simp [her] at h
      | some er =>
        simp only [her] at h
        exact Or.inr (Or.inr (Or.inr ⟨e, er, rfl, her, h⟩))
    · exact Or.inl h
    · exact Or.inr (Or.inr (Or.inl ⟨c, hc, h⟩))
  | _ =>
    rw [hkd] at h
    simp only [Bool.or_eq_true, beq_iff_eq, List.any_eq_true, decide_eq_true_eq] at h
    rcases h with h | ⟨c, hc, h⟩
    · exact Or.inl h
    · exact Or.inr (Or.inr (Or.inl ⟨c, hc, h⟩))

/-- the three reasons for which a node of the combined fragment (no expert nodes) is stale: it has never run; it is a variable written after it last ran; one of its
children (the model's `try_fold_children`: map / fold arguments, the input of a map_ref / map_with_old node, the lhs of a change detector, the change detector and the current rhs of
a bind's main node) changed after it last ran, i.e. produced a result that its cutoff did not suppress -/
def Reason (s : State) (n : Nat) : Prop :=
  (s.nodeD n).recomputedAt = -1 ∨
  (∃ c vc, (s.nodeD n).kind = .var c ∧ s.vars[c]? = some vc ∧ (s.nodeD n).recomputedAt < vc.setAt) ∨
  (∃ c, c ∈ s.children n ∧ (s.nodeD n).recomputedAt < (s.nodeD c).changedAt)

theorem reason_of_stale {s : State} {n : Nat} (h : s.isStale n = true) (hx : ∀ e, (s.nodeD n).kind ≠ .expert e) : Reason s n := by
  rcases (isStale_cases h).2 with h | h | h | ⟨e, -, he, -⟩
  · exact Or.inl h
  · exact Or.inr (Or.inl h)
  · exact Or.inr (Or.inr h)
  · exact absurd he (hx e)

/-- ONLY-IF half of the gate for the run `s → s'` of `stabilise env fuel`: `t2` = the state in which the drain starts; every step `p` of the drain (node `p.1` handed to
`recomputeOne` in state `p.2`) is on a node that is STALE in `p.2`, valid, necessary, not yet stamped in this round -/
def GateStab (env : Env) (fuel : Nat) (s s' : State) : Prop :=
  ∃ t1 t2 t3,
    (addNewObservers env fuel).run.run { s with status := .stabilising } = (.ok (), t1) ∧
    (unlinkDisallowedObservers fuel).run.run t1 = (.ok (), t2) ∧
    (drainHeap env fuel).run.run t2 = (.ok (), t3) ∧ (stabiliseEnd env fuel).run.run t3 = (.ok (), s') ∧
    (∀ p, p ∈ drainSteps env fuel t2 →
      p.2.isStale p.1 = true ∧ Reason p.2 p.1 ∧ (p.2.nodeD p.1).valid = true ∧ p.2.isNecessary p.1 = true ∧
        (p.2.nodeD p.1).recomputedAt < s.stabNum ∧ p.2.stabNum = s.stabNum) ∧
    (∀ m, (t2.nodeD m).recomputedAt < s.stabNum)

/-- IF half (changes are never lost): all stamps of `s` are from earlier rounds; in `s'` (round number `s.stabNum + 1`) every necessary node with a child whose
`changedAt` is the round `s.stabNum` is valid and was recomputed in the round `s.stabNum` -/
def NeverLost (s s' : State) : Prop :=
  (∀ m, (s.nodeD m).recomputedAt < s.stabNum ∧ (s.nodeD m).changedAt < s.stabNum) ∧
  s'.stabNum = s.stabNum + 1 ∧
  ∀ n c, s'.isNecessary n = true → c ∈ s'.children n → (s'.nodeD c).changedAt = s.stabNum →
    (s'.nodeD n).valid = true ∧ (s'.nodeD n).recomputedAt = s.stabNum

section
variable {env : Env} {sp : Nat → Val → Val}

theorem stabilise_gateF (X : Kit env sp) {fuel : Nat} {s s' : State} {g : Nat → Option Val} (Q : QInvF env sp s g)
    (h : (stabilise env fuel).run.run s = (.ok (), s')) : GateStab env fuel s s' := by
  obtain ⟨t1, t2, t3, g2, g3, h1, h2, h3, h4, hs2, -, P, hlt, -⟩ := stabilise_pathF X Q h
  refine ⟨t1, t2, t3, h1, h2, h3, h4, ?_, hlt⟩
  intro p hp
  have hst := PathF.stale P hp
  obtain ⟨gp, Dp, fp⟩ := PathF.steps P hp
  obtain ⟨c1, c3, -, c5⟩ := cur_actual Dp
  have e1 : p.2.stabNum = t2.stabNum := fp.stabNum
  rw [e1, hs2] at c5
  exact ⟨hst, reason_of_stale hst (Dp.frag.fr.noExp p.1), c3, c1, c5, e1.trans hs2⟩

theorem stabilise_neverLostF {s s' : State} {g g' : Nat → Option Val} (Q : QInvF env sp s g) (R : StabF env sp s s' g') :
    NeverLost s s' := by
  refine ⟨fun m => ?_, R.stabNum, ?_⟩
  · obtain ⟨⟨rk, Qv⟩, -⟩ := Q.q
    have k := Qv.stamps m
    rw [virt_nodeD, virtNode_recomputedAt, virtNode_changedAt] at k
    exact k
  · intro n c hn hc hch
    obtain ⟨hv, hs⟩ := R.fresh n hn
    refine ⟨hv, ?_⟩
    have k1 := (fresh_inputs hv hs).1 c hc
    obtain ⟨⟨rk, Qv⟩, -⟩ := R.inv.q
    have k2 := (Qv.stamps n).1
    rw [virt_nodeD, virtNode_recomputedAt] at k2
    have e : (virt g' s').stabNum = s.stabNum + 1 := R.stabNum
    rw [e] at k2
    omega

/-- **C06 for one `stabilise` of the combined fragment** -/
theorem stabilise_c06 (E : EnvS env sp) (hF : FirstFn env) {fuel : Nat} {s s' : State} (Q : QInvFE env sp s)
    (h : (stabilise env fuel).run.run s = (.ok (), s')) : GateStab env fuel s s' ∧ NeverLost s s' ∧ QInvFE env sp s' := by
  obtain ⟨g, Q⟩ := Q
  obtain ⟨g', R⟩ := stabilise_full (kit E hF) Q h
  exact ⟨stabilise_gateF (kit E hF) Q h, stabilise_neverLostF Q R, ⟨g', R.inv⟩⟩

/-- **C06 at every `stabilise` of a history of the combined fragment** -/
theorem history_c06 (E : EnvS env sp) (hF : FirstFn env) {N : Nat} {d : Bool} {as bs : List Action}
    {s : State} {tk : Array Nat} (hH : HistFull env sp 0 (as ++ Action.stabilise :: bs))
    (h : Quiet.runActions env (as ++ Action.stabilise :: bs) (State.init N d) #[] = .ok (s, tk)) :
    ∃ s1 tk1 s2, Quiet.runActions env as (State.init N d) #[] = .ok (s1, tk1) ∧ QInvFE env sp s1 ∧
      (stabilise env fuelDefault).run.run s1 = (.ok (), s2) ∧ QInvFE env sp s2 ∧
      GateStab env fuelDefault s1 s2 ∧ NeverLost s1 s2 ∧
      Quiet.runActions env bs s2 tk1 = .ok (s, tk) := by
  obtain ⟨s1, tk1, s2, k1, k2, k3, k4, -, -, k7⟩ := OnceF.history_c02 E hF hH h
  obtain ⟨a, b, -⟩ := stabilise_c06 E hF k2 k3
  exact ⟨s1, tk1, s2, k1, k2, k3, k4, a, b, k7⟩

end
end IncrVerif.Proofs.GateF
