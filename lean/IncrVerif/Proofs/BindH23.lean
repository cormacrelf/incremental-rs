import IncrVerif.Proofs.BindH19
/-!
# Binds, unlinking side, part 1: frames and the core pure step lemma

The `GInv`-dependent lemmas of `Proofs/Quiet5.lean` (namespace `U4`), for `GInvB`.
-/
namespace IncrVerif.Proofs.BindH
open IncrVerif.Engine IncrVerif.Proofs IncrVerif.Proofs.Step IncrVerif.Proofs.Sched IncrVerif.Proofs.Quiet

namespace BU

/-- the two states agree on everything the invariant reads except parents, observers, heap markers, heap -/
structure Fr (s s' : State) : Prop where
  b : U4.SameB s s'
  binds : s'.binds = s.binds

theorem Fr.refl (s : State) : Fr s s := ⟨U4.SameB.refl s, rfl⟩

theorem Fr.of_upd {n : Nat} {f : Node → Node} {s s' : State} (U : NodeUpd n f s s') (hf : U4.KeepB f)
    (hb : s'.binds = s.binds) : Fr s s' := ⟨U4.sameB_of_upd U hf, hb⟩

theorem Fr.children {env : Env} {s s' : State} (F : Fr s s') (A : AllB env s) (m : Nat) :
    s'.children m = s.children m := by
  by_cases hm : m < s.nodes.size
  · exact children_congr_B (F.b.kind m) (F.b.valid m) F.binds (A.node m hm).kind
  · rw [children_default s m (by omega), children_default s' m (by rw [F.b.size]; omega)]

theorem Fr.isStale {env : Env} {s s' : State} (F : Fr s s') (A : AllB env s) (m : Nat) :
    s'.isStale m = s.isStale m := by
  by_cases hm : m < s.nodes.size
  · exact isStale_congr_B (A.node m hm).kind (F.b.kind m) (F.b.valid m) (F.b.recomputedAt m) F.b.vars F.binds
      (fun c _ => F.b.changedAt c)
  · have h1 := nodeD_default s m (by omega)
    have h2 := nodeD_default s' m (by rw [F.b.size]; omega)
    have hk : (default : Node).kind? = some (Kind.const default) := rfl
    simp only [State.isStale, h1, h2, hk]

theorem Fr.allB {env : Env} {s s' : State} (F : Fr s s') (A : AllB env s) : AllB env s' := by
  refine ⟨by rw [F.b.pc]; exact A.pc, by rw [F.b.scope]; exact A.scope, fun n hn => ?_⟩
  have sn := A.node n (by rw [← F.b.size]; exact hn)
  refine ⟨by rw [F.b.valid]; exact sn.valid, by rw [F.b.kind]; exact sn.kind, by rw [F.b.cutoff]; exact sn.cutoff,
    by rw [F.b.createdIn]; exact sn.top, ?_, ?_, ?_, ?_⟩
  · rw [F.children A]; exact sn.kidsLt
  · rw [F.b.kind, F.binds]; exact sn.lcRec
  · rw [F.b.kind, F.binds]; exact sn.mainRec
  · intro c b hc hk
    rw [F.children A] at hc
    rw [F.b.kind] at hk ⊢
    exact sn.lcChild c b hc hk

/-- the parents / observers of a closed necessary node `n` shrink; `n` stays closed if it is still necessary and
becomes `unlinking 0` otherwise; closed nodes may open and the labels of open nodes may move (the caller shows the
edge conditions for the nodes that are open afterwards) -/
theorem core {env : Env} {s s' : State} {op op' : Nat → Op} {ex : Nat → Prop} {n : Nat} (I : GInvB env s op ex)
    (F : Fr s s')
    (hrch : s'.rch = s.rch) (hhr : ∀ m, (s'.nodeD m).heightInRch = (s.nodeD m).heightInRch)
    (hoth : ∀ m, m ≠ n → (s'.nodeD m).parents = (s.nodeD m).parents ∧
      (s'.nodeD m).observers = (s.nodeD m).observers)
    (hsub : ∀ x, x ∈ (s'.nodeD n).parents → x ∈ (s.nodeD n).parents)
    (hnd : (s'.nodeD n).parents.Nodup)
    (hkeep : ∀ q i, (q, i) ∈ (s.nodeD n).parents → op' q = .closed → (q, i) ∈ (s'.nodeD n).parents)
    (hn : s.isNecessary n = true) (hcl : op n = .closed)
    (hd : (s'.isNecessary n = true ∧ op' n = .closed) ∨ (s'.isNecessary n = false ∧ op' n = .unlinking 0))
    (cl : ∀ m, op' m = .closed → op m = .closed)
    (hln : ∀ m k, m ≠ n → op' m = .linking k → s.isNecessary m = true)
    (hun : ∀ m k, m ≠ n → op' m = .unlinking k → s.isNecessary m = false)
    (hqn : ∀ m, m ≠ n → (∃ k, op m = .unlinking k) → ∃ k, op' m = .unlinking k)
    (hlt : ∀ m, m ≠ n → op' m ≠ .closed → m < s.nodes.size)
    (hpar : ∀ c q i, (q, i) ∈ (s'.nodeD c).parents → q ≠ n → op' q ≠ .closed → Wants s' op' q i)
    (hconv : ∀ q i c, (s.children q)[i]? = some c → q ≠ n → op' q ≠ .closed → Wants s' op' q i →
      (q, i) ∈ (s'.nodeD c).parents) :
    GInvB env s' op' ex := by
  have B := F.b
  have necO : ∀ m, m ≠ n → s'.isNecessary m = s.isNecessary m := fun m h =>
    nec_congr (hoth m h).1 (hoth m h).2 (B.forceNecessary m)
  have necI : ∀ m, s'.isNecessary m = true → s.isNecessary m = true := by
    intro m h
    by_cases e : m = n
    · rw [e]; exact hn
    · rw [← necO m e]; exact h
  have mem0 : ∀ c x, x ∈ (s'.nodeD c).parents → x ∈ (s.nodeD c).parents := by
    intro c x h
    by_cases e : c = n
    · rw [e] at h ⊢; exact hsub x h
    · rw [← (hoth c e).1]; exact h
  have Wn : ∀ i, Wants s' op' n i := by
    intro i
    rcases hd with ⟨h1, h2⟩ | ⟨h1, h2⟩
    · exact (wants_closed h2).2 h1
    · exact (wants_unlinking h2).2 (Nat.zero_le _)
  have inR : ∀ m, (s'.nodeD m).inRch = (s.nodeD m).inRch := fun m => inRch_of_hir (hhr m)
  have nopen : ∀ k, op' n ≠ .linking k := by
    intro k h
    rcases hd with ⟨_, h2⟩ | ⟨_, h2⟩ <;> rw [h2] at h <;> cases h
  have hch : ∀ m, s'.children m = s.children m := F.children I.frag
  have hst : ∀ m, s'.isStale m = s.isStale m := F.isStale I.frag
  refine { frag := F.allB I.frag, par := ?_, conv := ?_, nodup := ?_, hlt := ?_, hpos := ?_, lnec := ?_,
           unec := ?_, heap := I.heap.congr hrch B.size hhr, hgt := ?_, qnec := ?_, queued := ?_, qstale := ?_,
           opLt := ?_ }
  · -- par
    intro c q i hm
    have hm0 := mem0 c _ hm
    refine ⟨by rw [hch]; exact (I.par c q i hm0).1, ?_⟩
    by_cases e : q = n
    · rw [e]; exact Wn i
    · by_cases hq : op' q = .closed
      · rw [wants_closed hq, necO q e]
        exact (wants_closed (cl q hq)).1 (I.par c q i hm0).2
      · exact hpar c q i hm e hq
  · -- conv
    intro q i c hk hw
    rw [hch] at hk
    by_cases e : q = n
    · rw [e] at hk ⊢
      have hm0 := I.conv n i c hk ((wants_closed hcl).2 hn)
      have hc : c ≠ n := Nat.ne_of_lt (I.kid_lt hk)
      rw [(hoth c hc).1]; exact hm0
    · by_cases hq : op' q = .closed
      · rw [wants_closed hq] at hw
        have hm0 := I.conv q i c hk ((wants_closed (cl q hq)).2 (necI q hw))
        by_cases hc : c = n
        · rw [hc] at hm0 ⊢; exact hkeep q i hm0 hq
        · rw [(hoth c hc).1]; exact hm0
      · exact hconv q i c hk e hq hw
  · -- nodup
    intro c
    by_cases hc : c = n
    · rw [hc]; exact hnd
    · rw [(hoth c hc).1]; exact I.nodup c
  · -- hlt
    intro c q i hm ho
    rw [B.height, B.height]
    exact I.hlt c q i (mem0 c _ hm) (cl q ho)
  · -- hpos
    intro m hm ho
    rw [B.height]; exact I.hpos m (necI m hm) (cl m ho)
  · -- lnec
    intro q k ho
    have e : q ≠ n := fun e => nopen k (e ▸ ho)
    rw [necO q e]
    exact hln q k e ho
  · -- unec
    intro q k ho
    by_cases e : q = n
    · rw [e] at ho ⊢
      rcases hd with ⟨_, h2⟩ | ⟨h1, _⟩
      · rw [h2] at ho; cases ho
      · exact h1
    · rw [necO q e]; exact hun q k e ho
  · -- hgt
    intro m hq ho
    rw [inR] at hq
    rw [hhr, B.height]; exact I.hgt m hq (cl m ho)
  · -- qnec
    intro m hq
    rw [inR] at hq
    by_cases e : m = n
    · rw [e]
      rcases hd with ⟨h1, _⟩ | ⟨_, h2⟩
      · exact Or.inl h1
      · exact Or.inr ⟨0, h2⟩
    · rcases I.qnec m hq with h | h
      · exact Or.inl (by rw [necO m e]; exact h)
      · exact Or.inr (hqn m e h)
  · -- queued
    intro m ho hm hs hex
    rw [hst] at hs
    rw [inR]; exact I.queued m (cl m ho) (necI m hm) hs hex
  · -- qstale
    intro m hq
    rw [inR] at hq
    rw [hst]; exact I.qstale m hq
  · -- opLt
    intro m ho
    rw [B.size]
    by_cases e : m = n
    · rw [e]; exact nec_lt_size hn
    · exact hlt m e ho

end BU

end IncrVerif.Proofs.BindH
