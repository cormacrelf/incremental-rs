import IncrVerif.Proofs.PerKeyH27
import IncrVerif.Proofs.PerKeyH40
import IncrVerif.Proofs.PerKeyH66
/-!
# A run of a per-key change detector, part 6d: the loop (`lc_loop`) and the end of the driver (`driver_end`)
-/
namespace IncrVerif.Proofs.PerKeyH
open IncrVerif.Engine IncrVerif.Driver IncrVerif.Proofs IncrVerif.Proofs.Step IncrVerif.Proofs.Sched
open IncrVerif.Proofs.ExpertH IncrVerif.Proofs.EffH IncrVerif.Proofs.DriverH IncrVerif.Proofs.ExpertH.QR
open IncrVerif.MapOps

/-- **the loop**: from the loop invariant at the start to the loop invariant with all entries processed -/
theorem lc_loop {env : Env} {s σ : State} {n op eres fuel : Nat} {pr : PerKeyRec} {m : List (Int × Int)}
    (B : LcBase env s n op pr eres)
    (hm : IncrVerif.AMap.Sorted m) (hsub : keysSub pr.prevMap m)
    (H0 : LI env s n op pr eres [] [] (started n s))
    (h : (forIn (symmetricDiff pr.prevMap m) PUnit.unit fun kd _ => do
            PKL.perKeyStep env fuel op .top kd
            pure (ForInStep.yield PUnit.unit)).run.run (started n s) = (.ok PUnit.unit, σ)) :
    LI env s n op pr eres (rkeys (symmetricDiff pr.prevMap m).reverse) (ukeys (symmetricDiff pr.prevMap m).reverse)
      σ := by
  have hps : IncrVerif.AMap.Sorted pr.prevMap := (B.pd.aux.pk.ops op pr B.hop).sorted
  have key := forIn_ok_inv
    (fun kd (_ : PUnit) => (do
      PKL.perKeyStep env fuel op .top kd
      pure (ForInStep.yield PUnit.unit) : M (ForInStep PUnit)))
    (symmetricDiff pr.prevMap m)
    (fun j _ t => LI env s n op pr eres (rkeys ((symmetricDiff pr.prevMap m).take j).reverse)
      (ukeys ((symmetricDiff pr.prevMap m).take j).reverse) t)
    (by
      intro j a b t r t' hj hI hrun
      obtain ⟨u, t1, h1, h2⟩ := bind_ok_inv hrun
      obtain ⟨e1, e2⟩ := pure_ok_inv h2
      subst e2
      refine ⟨PUnit.unit, e1, ?_⟩
      obtain ⟨k, d⟩ := a
      have hmem : (k, d) ∈ symmetricDiff pr.prevMap m := List.mem_of_getElem? hj
      have hfresh := diff_key_fresh hps hm hj
      rw [take_succ_reverse hj]
      rcases diff_entry hps hm hsub hmem with ⟨y, rfl, h3, -⟩ | ⟨x, y, rfl, h3, -, -⟩
      · rw [rkeys_cons_right, ukeys_cons_right]
        refine iterRight env s n op pr eres _ _ t t' fuel k y B hI h3 ?_ h1
        intro hk
        obtain ⟨y', hy'⟩ := mem_rkeys.1 hk
        exact hfresh _ (List.mem_reverse.1 hy')
      · rw [rkeys_cons_unequal, ukeys_cons_unequal]
        exact iterUnequal env s n op pr eres _ _ t t' fuel k x y B hI (by rw [h3]; rfl) h1)
    (symmetricDiff pr.prevMap m) 0 PUnit.unit (started n s) PUnit.unit σ (List.drop_zero) (Nat.zero_le _)
    (by simpa [rkeys, ukeys] using H0) h
  rw [List.take_length] at key
  exact key

/-- **the end of the driver** -/
theorem driver_end {env : Env} {s s2 : State} {n op eres fuel : Nat} {pr : PerKeyRec} {m : List (Int × Int)}
    (B : LcBase env s n op pr eres)
    (H0 : LI env s n op pr eres [] [] (started n s))
    (hconv : (s.nodeD (pr.result - 1)).value = some (.map m)) (hm : IncrVerif.AMap.Sorted m)
    (h : (perKeyDriver env fuel op m).run.run (started n s) = (.ok (), s2)) :
    LE env s n op pr eres m s2 := by
  have Hop := B.pd.aux.pk.ops op pr B.hop
  have hps : IncrVerif.AMap.Sorted pr.prevMap := Hop.sorted
  -- no key is removed
  have hsub : keysSub pr.prevMap m := by
    obtain ⟨x, c, vc, mv, -, -, -, -, -, -, -, hcv⟩ := (B.norem op pr B.hop).input
    obtain ⟨m1, e1, -, -, h4, -⟩ := hcv _ hconv
    cases e1
    exact h4
  -- the run
  rw [PKL.perKeyDriver_eq_forIn] at h
  unfold PKL.perKeyDriver' at h
  rw [run_bind_get] at h
  dsimp only at h
  rw [run_bind_get] at h
  have hpk0 : (started n s).perkeys[op]?.getD default = pr := by
    show s.perkeys[op]?.getD default = pr
    rw [B.hop]; rfl
  have hsc0 : (started n s).currentScope = .top := B.pd.aux.frag.scope
  rw [hpk0, hsc0] at h
  obtain ⟨u, σ, hloop, hfin⟩ := bind_ok_inv h
  have H := lc_loop B hm hsub H0 hloop
  have hs2 : s2 = { σ with perkeys := σ.perkeys.modify op fun p => { p with prevMap := m } } := by
    cases hfin; rfl
  subst hs2
  obtain ⟨pn, hpop⟩ := H.pop
  have hpop2 : ({ σ with perkeys := σ.perkeys.modify op fun p => { p with prevMap := m } } : State).perkeys[op]?
      = some { pr with prevNodes := pn, prevMap := m } := by
    show (σ.perkeys.modify op fun p => { p with prevMap := m })[op]? = _
    rw [Array.getElem?_modify, if_pos rfl, hpop]; rfl
  have hother : ∀ op', op' ≠ op →
      ({ σ with perkeys := σ.perkeys.modify op fun p => { p with prevMap := m } } : State).perkeys[op']?
        = σ.perkeys[op']? := by
    intro op' hne
    show (σ.perkeys.modify op fun p => { p with prevMap := m })[op']? = _
    rw [Array.getElem?_modify, if_neg (fun e => hne e.symm)]
  -- membership in the processed keys
  have hrk : ∀ k, k ∈ rkeys (symmetricDiff pr.prevMap m).reverse ↔ ∃ y, (k, DiffElement.right y) ∈ symmetricDiff pr.prevMap m := by
    intro k; rw [mem_rkeys]; simp only [List.mem_reverse]
  have huk : ∀ k, k ∈ ukeys (symmetricDiff pr.prevMap m).reverse ↔
      ∃ x y, (k, DiffElement.unequal x y) ∈ symmetricDiff pr.prevMap m := by
    intro k; rw [mem_ukeys]; simp only [List.mem_reverse]
  refine
    { conv := hconv, sorted := hm, mid := mid_perkeys H.mid _, lf := lf_perkeys H.lf _,
      frag := pfrag_perkeys H.frag _, slots := slotInv_perkeys H.slots _, obs := H.obs,
      psize := by
        show (σ.perkeys.modify op _).size = _
        rw [Array.size_modify]; exact H.psize
      pother := fun op' hne => (hother op' hne).trans (H.pother op' hne)
      pop := ⟨pn, hpop2⟩
      core := ?_, dom := ?_, pnOld := ?_, newrec := ?_, pot := ?_, newKids := H.newKids, resKids := H.resKids,
      resNec := H.resNec, forcedU := ?_, resAlt := ?_, fsame := ?_ }
  · -- core
    intro pr2 h2
    rw [hpop2] at h2
    cases h2
    exact opCore_perkeys (H.core _ hpop) _ hm
  · -- dom
    intro pr2 h2 key
    rw [hpop2] at h2
    cases h2
    show (m.lookup key).isSome = (pn.lookup key).isSome
    have hd := H.dom _ hpop key
    simp only at hd
    rw [hd]
    cases hk : pr.prevMap.lookup key with
    | some x =>
      have := hsub key (by rw [hk]; rfl)
      simp [this]
    | none =>
      simp only [Option.isSome_none, Bool.false_or]
      cases hmk : m.lookup key with
      | none =>
        simp only [Option.isSome_none]
        symm
        rw [decide_eq_false_iff_not, hrk]
        rintro ⟨y, hy⟩
        rcases diff_entry hps hm hsub hy with ⟨y', -, -, h5⟩ | ⟨x', y', h4, -⟩
        · rw [hmk] at h5; cases h5
        · cases h4
      | some y =>
        simp only [Option.isSome_some]
        symm
        rw [decide_eq_true_iff, hrk]
        refine ⟨y, (symmetricDiff_mem _ _ hps hm key _).2 (Or.inr (Or.inl ⟨y, ?_, ?_, rfl⟩))⟩
        · rw [amap_lookup_eq]; exact hk
        · rw [amap_lookup_eq]; exact hmk
  · -- pnOld
    intro pr2 h2
    rw [hpop2] at h2
    cases h2
    exact H.pnOld { pr with prevNodes := pn } hpop
  · -- newrec
    intro e er he hx
    obtain ⟨pr1, key, d, h1, h2, h3⟩ := H.newrec e er he hx
    rw [hpop] at h1
    cases h1
    exact ⟨_, key, d, hpop2, h2, h3⟩
  · -- pot
    obtain ⟨ψ, P⟩ := H.pot
    exact ⟨ψ, pot_perkeys P hpop⟩
  · -- forcedU
    intro key p d hmem hne
    refine (V_stamp_iff _ p).2 ((V_stamp_iff σ p).1 (H.forcedU key p d ?_ hmem))
    rw [huk]
    have hl : (pr.prevNodes.lookup key).isSome = true := lookup_isSome_of_mem hmem
    rw [← Hop.dom key] at hl
    obtain ⟨x, hx⟩ := Option.isSome_iff_exists.1 hl
    obtain ⟨y, hy⟩ := Option.isSome_iff_exists.1 (hsub key hl)
    refine ⟨x, y, (symmetricDiff_mem _ _ hps hm key _).2 (Or.inr (Or.inr ⟨x, y, ?_, ?_, ?_, rfl⟩))⟩
    · rw [amap_lookup_eq]; exact hx
    · rw [amap_lookup_eq]; exact hy
    · intro e
      apply hne
      rw [hx, hy, e]
  · -- resAlt
    rcases H.resAlt with ⟨h1, h2⟩ | h3
    · left
      refine ⟨fun pr2 hp2 => ?_, h2⟩
      rw [hpop2] at hp2
      cases hp2
      exact h1 { pr with prevNodes := pn } hpop
    · exact Or.inr h3
  · -- fsame
    intro e er er' hne he he'
    rcases H.fsame e er er' hne he he' with h1 | ⟨key, d, hk, hmem⟩
    · exact Or.inl h1
    · right
      refine ⟨key, d, hmem, ?_⟩
      obtain ⟨x, y, hxy⟩ := (huk key).1 hk
      rcases diff_entry hps hm hsub hxy with ⟨y', h4, -⟩ | ⟨x', y', -, h5, h6, h7⟩
      · cases h4
      · rw [h5, h6]
        intro e; exact h7 (Option.some.inj e)

end IncrVerif.Proofs.PerKeyH
