import IncrVerif.Proofs.PerKeyH15
import IncrVerif.Proofs.PerKeyH16
import IncrVerif.Proofs.PerKeyH24
/-!
# A run of a per-key change detector, part 6b: the START — the loop invariant holds in `started n s`

`li_start_of`: from `LcBase` and "the result is necessary" (`res_nec`, LC2) to `LI env s n op pr eres [] [] (started n s)`.
The structure part `Mid (twEnv env) (twL [] (started n s))` follows `DriverH.midOfDInv`: `struct_started` on `V s`
(the drain invariant lives there), then `Kin` transfer to the virtual twin.
-/
namespace IncrVerif.Proofs.PerKeyH
open IncrVerif.Engine IncrVerif.Driver IncrVerif.Proofs IncrVerif.Proofs.Step IncrVerif.Proofs.Sched
open IncrVerif.Proofs.ExpertH IncrVerif.Proofs.EffH IncrVerif.Proofs.DriverH IncrVerif.Proofs.ExpertH.QR

/-! ## `started` and the kind-twins -/

theorem Kin.started {t t' : State} (K : Kin t t') (n : Nat) : Kin (started n t) (started n t') where
  size := by rw [DriverH.started_size, DriverH.started_size]; exact K.size
  node m := by
    rw [started_nodeD, started_nodeD, K.size, K.stabNum]
    have h := K.node m
    split
    · rw [h]
    · exact h
  kids m := by rw [DriverH.started_kind, DriverH.started_kind]; exact K.kids m
  var m c := by rw [DriverH.started_kind, DriverH.started_kind]; exact K.var m c
  const m := by rw [DriverH.started_kind, DriverH.started_kind]; exact K.const m
  rest := by
    have h := K.rest
    exact congrArg (fun u : State =>
      ({ u with
          currentlyRunning := if u.cfg.debug = true then some n else u.currentlyRunning,
          counters := { u.counters with recomputed := u.counters.recomputed + 1 } } : State)) h

theorem ahhEmpty_twin {s : State} (A : AhhEmpty s) (l : List Event) : AhhEmpty (twL l s) :=
  ⟨A.length, A.buckets, fun m => by rw [KtwL_nodeD]; exact A.marks m⟩

theorem started_isStale_ne (n : Nat) (s : State) {m : Nat} (h : m ≠ n) : (started n s).isStale m = s.isStale m := by
  have hm : (started n s).nodeD m = s.nodeD m := started_other' n s h
  have hch : (started n s).children m = s.children m := by
    unfold State.children; rw [hm]; rfl
  have hca : ∀ c, ((started n s).nodeD c).changedAt = (s.nodeD c).changedAt := by
    intro c; rw [started_nodeD]; split <;> rfl
  unfold State.isStale
  simp only [hm, hch, hca]
  rfl

theorem started_observers (n : Nat) (s : State) (m : Nat) :
    ((started n s).nodeD m).observers = (s.nodeD m).observers := by
  rw [started_nodeD]; split <;> rfl

/-- the twin of the stamped state satisfies the invariant between two effects -/
theorem mid_started {env : Env} {s : State} {n : Nat} (D : PD env s (some n))
    (hne : ∀ e, (s.nodeD n).kind ≠ .expert e) : Mid (twEnv env) (twL [] (started n s)) := by
  have A := D.aux
  have F := A.frag
  rw [twL_started]
  obtain ⟨rk, AS⟩ := A.rank
  have nd : ∀ c, ((V s).nodeD c).parents.Nodup := fun c => by
    rw [V_nodeD, vNode_parents]; exact A.nodup c
  have S1 : Struct (penv env) rk (started n (V s)) := DriverH.struct_started D.inv AS nd
  have K : Kin (started n (V s)) (started n (virt (twL [] s))) := Kin.started (kin_twin_V [] s).symm n
  have hne' : ∀ e, ((twL [] s).nodeD n).kind ≠ .expert e := by
    intro e h
    rw [KtwL_kind, KtwKind_eq_expert] at h
    exact hne e h
  have hsk : SK (virtEnv (twEnv env)) (started n (virt (twL [] s))) := by
    intro m
    rw [DriverH.started_kind]
    exact sk_virt_twin [] F m
  refine ⟨DriverH.xfrag_started (xfrag_twin [] F) n, DriverH.ahhEmpty_started (ahhEmpty_twin A.ahh []) n, ⟨rk, ?_⟩,
    A.pinv, fun m => ?_⟩
  · rw [virt_started n (twL [] s) hne']
    exact K.struct S1 hsk
  · rw [started_nodeD]
    split
    · show ((twL [] s).nodeD m).numOnUpdateHandlers ≤ 0
      rw [KtwL_nodeD]; exact A.handlers m
    · rw [KtwL_nodeD]; exact A.handlers m

/-! ## the other fields -/

theorem pfrag_started {env : Env} {s : State} (F : PFrag env s) (n : Nat) : PFrag env (started n s) :=
  F.started_logged [] n

theorem slotInv_started {env : Env} {s : State} (L : SlotInv env s) {n : Nat}
    (hne : ∀ e, (s.nodeD n).kind ≠ .expert e) : SlotInv env (started n s) := by
  refine ⟨fun e er he => L.deps e er he, fun m e er hk he hw => ?_, fun m e er hk he hc => ?_⟩
  · rw [DriverH.started_kind] at hk
    rw [DriverH.started_isNecessary]
    exact L.flag m e er hk he hw
  · rw [DriverH.started_kind] at hk
    have hmn : m ≠ n := fun e' => hne e (e' ▸ hk)
    rw [started_isStale_ne n s hmn] at hc
    intro ed hed hcb
    rw [started_value]
    exact L.good m e er hk he hc ed hed hcb

theorem pot_started {s : State} {ψ : Nat → Nat} (P : Pot s ψ) (n : Nat) : Pot (started n s) ψ := by
  refine ⟨fun a c ha hc => ?_, P.top, P.op, fun a ha => ?_⟩
  · rw [DriverH.started_size] at ha
    rw [DriverH.started_kind] at hc
    exact P.mono a c ha hc
  · rw [DriverH.started_size] at ha
    exact P.le a ha

/-- **the loop invariant at the start** (`hres`: LC2 `res_nec`) -/
theorem li_start_of {env : Env} {s : State} {n op eres : Nat} {pr : PerKeyRec} (B : LcBase env s n op pr eres)
    (hres : s.isNecessary pr.result = true) : LI env s n op pr eres [] [] (started n s) := by
  have D := B.pd
  have A := D.aux
  have F := A.frag
  have Hop := A.pk.ops op pr B.hop
  obtain ⟨x, e, er, hN, he, hpk, -⟩ := Hop.nodes
  have hnr : n = pr.result + 1 := by rw [← B.hn]; exact hN.lc
  have hkn : (s.nodeD n).kind = .map (fnPerKey + op) [pr.result - 1] := by rw [hnr]; exact hN.lcKind
  have hne : ∀ e, (s.nodeD n).kind ≠ .expert e := fun e h => by rw [hkn] at h; cases h
  have hpop : (started n s).perkeys[op]? = some pr := B.hop
  refine
    { mid := mid_started D hne, lf := LF.refl _ _, frag := pfrag_started F n, slots := slotInv_started A.slots hne,
      obs := ?_, psize := rfl, pother := fun _ _ => rfl, pop := ⟨pr.prevNodes, hpop⟩,
      core := ?_, dom := ?_, pnOld := ?_, newrec := ?_, pot := ?_, newKids := ?_, resKids := ?_,
      resNec := by rw [DriverH.started_isNecessary]; exact hres, forcedU := ?_, resAlt := ?_, fsame := ?_ }
  · intro m o ho
    rw [started_observers] at ho
    exact A.obs m o ho
  · intro pr' hp'
    rw [hpop] at hp'
    cases hp'
    exact OpCore.bf_same_size (bf_started (fun _ => False) n s hne) F Hop.core (DriverH.started_size n s)
      (fun e er er' h1 h2 => by
        have h2' : s.experts[e]? = some er' := h2
        rw [h1] at h2'; cases h2'; rfl)
      (fun m _ => started_observers n s m)
  · intro pr' hp' key
    rw [hpop] at hp'
    cases hp'
    simp only [List.not_mem_nil, decide_false, Bool.or_false]
    exact (Hop.dom key).symm
  · intro pr' hp' key p d hmem
    rw [hpop] at hp'
    cases hp'
    exact hmem
  · intro e er he hx
    have hx' : s.experts[e]? = some er := hx
    have := (Array.getElem?_eq_some_iff.1 hx').1
    omega
  · obtain ⟨ψ, P⟩ := A.pk.pot
    exact ⟨ψ, pot_started P n⟩
  · intro c x hc hc'
    rw [DriverH.started_size] at hc'
    omega
  · intro er er' h1 h2 ed hed
    have h2' : s.experts[eres]? = some er' := h2
    rw [h1] at h2'; cases h2'
    exact Or.inl hed
  · intro key p d hk
    cases hk
  · left
    refine ⟨fun pr' hp' => ?_, fun er er' h1 h2 => ?_⟩
    · rw [hpop] at hp'
      cases hp'
      rfl
    · have h2' : s.experts[eres]? = some er' := h2
      rw [h1] at h2'; cases h2'
      exact ⟨rfl, rfl⟩
  · intro e er er' _ h1 h2
    have h2' : s.experts[e]? = some er' := h2
    rw [h1] at h2'; cases h2'
    exact Or.inl rfl

end IncrVerif.Proofs.PerKeyH
