import IncrVerif.Proofs.Sched1
/-!
# The step of a node of a static kind, through `Step.Computes`

A valid `const`, `var`, `map` or `fold` node whose variable exists and whose children have values computes a value (`computes_static`; a returning
step has found them: `computes_of_ok`), and its `recomputeOne` is, whatever the outcome, the `maybe_change_value` of that value from the
started state with the step's events logged, when no fault is armed (`recomputeOne_run_of_computes`).  What it computes is the same in any state and environment that agree on what it reads
(`Computes.transfer`), so a state map that commutes with the bookkeeping of the step reduces the simulation of the step to that of
`maybe_change_value` (`recomputeOne_sim_of_computes`).
-/
namespace IncrVerif.Proofs.Step
open IncrVerif.Engine IncrVerif.Proofs IncrVerif.Proofs.Sched

/-! ## a successful step has read its arguments -/

theorem recomputeOne_ok_vals {env : Env} {fuel n : Nat} {s s' : State} {nd : Node} {r : Option Nat}
    {args : List Nat}
    (hn : s.nodes[n]? = some nd) (hv : nd.valid = true)
    (hk : (∃ f, nd.kind = .map f args) ∨ (∃ f init, nd.kind = .fold f init args))
    (h : (recomputeOne env fuel n).run.run s = (.ok r, s')) : ∃ vals, valuesOf env s args = some vals := by
  cases hvals : valuesOf env s args with
  | some vals => exact ⟨vals, rfl⟩
  | none =>
    exfalso
    have hvals' : valuesOf env (started n s) args = none := by
      rw [valuesOf_congr env s (started n s) args (fun a _ => started_value env n s a)]; exact hvals
    have hn' := started_getElem? n s nd hn
    unfold recomputeOne at h
    simp only [run_bind_get] at h
    rcases hk with ⟨f, hk⟩ | ⟨f, init, hk⟩
    · have hk? : ({ nd with recomputedAt := s.stabNum } : Node).kind? = some (.map f args) := by
        simp [Node.kind?, hv, hk]
      cases hd : s.cfg.debug
      all_goals
        simp only [started, hd, Bool.false_eq_true, if_false, if_true, run_bind_modify,
          run_bind_bumpCounter, run_bind_get, run_bind_modNode] at hn' hvals' h
        rw [run_bind_ok (run_getNode_some hn'), hk?] at h
        dsimp only at h
        rw [run_bind_of (run_mapM_valueUnwrap env _ _ args), hvals'] at h
        cases h
    · have hk? : ({ nd with recomputedAt := s.stabNum } : Node).kind? = some (.fold f init args) := by
        simp [Node.kind?, hv, hk]
      cases hd : s.cfg.debug
      all_goals
        simp only [started, hd, Bool.false_eq_true, if_false, if_true, run_bind_modify,
          run_bind_bumpCounter, run_bind_get, run_bind_modNode] at hn' hvals' h
        rw [run_bind_ok (run_getNode_some hn'), hk?] at h
        dsimp only at h
        rw [run_bind_of (run_mapM_valueUnwrap env _ _ args), hvals'] at h
        cases h

theorem recomputeOne_ok_var {env : Env} {fuel n : Nat} {s s' : State} {nd : Node} {r : Option Nat} {c : Nat}
    (hn : s.nodes[n]? = some nd) (hv : nd.valid = true) (hk : nd.kind = .var c)
    (h : (recomputeOne env fuel n).run.run s = (.ok r, s')) : ∃ vc, s.vars[c]? = some vc := by
  cases hc : s.vars[c]? with
  | some vc => exact ⟨vc, rfl⟩
  | none =>
    exfalso
    have hk? : ({ nd with recomputedAt := s.stabNum } : Node).kind? = some (.var c) := by
      simp [Node.kind?, hv, hk]
    have hn' := started_getElem? n s nd hn
    unfold recomputeOne at h
    simp only [run_bind_get] at h
    cases hd : s.cfg.debug
    all_goals
      simp only [started, hd, Bool.false_eq_true, if_false, if_true, run_bind_modify,
        run_bind_bumpCounter, run_bind_get, run_bind_modNode] at hn' h
      rw [run_bind_ok (run_getNode_some hn'), hk?] at h
      dsimp only at h
      simp only [getVar, bind_assoc, run_bind_get, hc] at h
      cases h

/-- the step of a `const`, `var`, `map` or `fold` node is a `maybe_change_value` of the value `Step.Computes` describes -/
theorem recomputeOne_run_of_computes {env : Env} {fuel n : Nat} {s : State} {nd : Node} {v σ : Val} {evs : List Event}
    (hn : s.nodes[n]? = some nd) (hv : nd.valid = true) (hp : s.panicCountdown = none)
    (hc : Computes env s n nd v σ evs) (hk : StaticKind env nd.kind) :
    (recomputeOne env fuel n).run.run s = (maybeChangeValue env fuel n v).run.run (logged evs (started n s)) := by
  cases hc with
  | map f args vals hkd hf hvals heff => exact recomputeOne_map_run env fuel n s nd f args vals hn hv hkd hf hvals heff hp
  | mapBuiltin f args vals hkd hf hpk hvals => exact recomputeOne_mapBuiltin_run env fuel n s nd f args vals hn hv hkd hf hpk hvals
  | var c vc hkd hvc => exact recomputeOne_var_run env fuel n s nd c vc hn hv hkd hvc
  | const v hkd => exact recomputeOne_const_run env fuel n s nd v hn hv hkd
  | fold f init cs vals hkd hvals => exact recomputeOne_fold_run env fuel n s nd f init cs vals hn hv hkd hvals hp
  | mapWithOld g i x σ' new did hkd => rw [hkd] at hk; exact hk.elim
  | bindMain b lc r0 br rn v hkd => rw [hkd] at hk; exact hk.elim

/-- every event a step logs is an invocation by `n` -/
theorem Computes.inv_events {env : Env} {s : State} {n : Nat} {nd : Node} {v σ : Val} {evs : List Event}
    (hc : Computes env s n nd v σ evs) : ∀ e, e ∈ evs → ∃ w a r, e = .inv w n a r := by
  cases hc <;> simp

/-- a node of a static kind whose variable exists and whose children have values computes something -/
theorem computes_static {env : Env} {s : State} {nd : Node} (n : Nat) (hk : StaticKind env nd.kind)
    (hvar : ∀ c, nd.kind = .var c → ∃ vc, s.vars[c]? = some vc)
    {vals : List Val} (hvals : valuesOf env s (kids nd.kind) = some vals) :
    ∃ v evs, Computes env s n nd v nd.oldState evs := by
  cases hkd : nd.kind with
  | const w => exact ⟨w, [], .const w hkd⟩
  | var c =>
    obtain ⟨vc, hvc⟩ := hvar c hkd
    exact ⟨vc.value, [], .var c vc hkd hvc⟩
  | map f args =>
    rw [hkd] at hk hvals
    by_cases hf : f < fnZip
    · exact ⟨_, _, .map f args vals hkd hf hvals (hk.2 hf vals)⟩
    · exact ⟨_, [], .mapBuiltin f args vals hkd hf hk.1 hvals⟩
  | fold f init cs =>
    rw [hkd] at hvals
    exact ⟨_, _, .fold f init cs vals hkd hvals⟩
  | _ => rw [hkd] at hk; exact hk.elim

/-- a returning step of a valid node of a static kind computes something -/
theorem computes_of_ok {env : Env} {fuel n : Nat} {s s' : State} {nd : Node} {r : Option Nat}
    (hn : s.nodes[n]? = some nd) (hv : nd.valid = true) (hk : StaticKind env nd.kind)
    (h : (recomputeOne env fuel n).run.run s = (.ok r, s')) : ∃ v evs, Computes env s n nd v nd.oldState evs := by
  have hvar : ∀ c, nd.kind = .var c → ∃ vc, s.vars[c]? = some vc := fun c hc => recomputeOne_ok_var hn hv hc h
  cases hkd : nd.kind with
  | map f args =>
    obtain ⟨vals, hvals⟩ := recomputeOne_ok_vals hn hv (Or.inl ⟨f, hkd⟩) h
    exact computes_static n hk hvar (vals := vals) (by rw [hkd]; exact hvals)
  | fold f init cs =>
    obtain ⟨vals, hvals⟩ := recomputeOne_ok_vals hn hv (Or.inr ⟨f, init, hkd⟩) h
    exact computes_static n hk hvar (vals := vals) (by rw [hkd]; exact hvals)
  | _ => exact computes_static n hk hvar (vals := []) (by rw [hkd]; rfl)

/-- a returning step of a valid node of a static kind is a `maybe_change_value` run -/
theorem recomputeOne_eq_mcv_of_ok {env : Env} {fuel n : Nat} {s s' : State} {nd : Node} {r : Option Nat}
    (hn : s.nodes[n]? = some nd) (hv : nd.valid = true) (hp : s.panicCountdown = none) (hk : StaticKind env nd.kind)
    (h : (recomputeOne env fuel n).run.run s = (.ok r, s')) :
    ∃ v es, (recomputeOne env fuel n).run.run s = (maybeChangeValue env fuel n v).run.run (logged es (started n s)) := by
  obtain ⟨v, es, hc⟩ := computes_of_ok hn hv hk h
  exact ⟨v, es, recomputeOne_run_of_computes hn hv hp hc hk⟩

/-- a relation kept by the bookkeeping at the start of a step and by `maybe_change_value` is kept by a returning step of a valid node of a
static kind -/
theorem recomputeOne_pres_of_static {R : State → State → Prop} [PreOrd R] {env : Env} {fuel n : Nat} {s s' : State} {nd : Node}
    {r : Option Nat} (hn : s.nodes[n]? = some nd) (hv : nd.valid = true) (hp : s.panicCountdown = none)
    (hk : StaticKind env nd.kind) (hst : ∀ es, R s (logged es (started n s)))
    (hm : ∀ v, Pres R (maybeChangeValue env fuel n v))
    (h : (recomputeOne env fuel n).run.run s = (.ok r, s')) : R s s' := by
  obtain ⟨v, es, e⟩ := recomputeOne_eq_mcv_of_ok hn hv hp hk h
  rw [e] at h
  exact PreOrd.trans (hst es) ((hm v).h _ _ _ h)

/-- what a node of a static kind computes depends on its kind, the variables, the values its children read, and on what the environment
says of its function -/
theorem Computes.transfer {env env' : Env} {s S : State} {n : Nat} {nd nd' : Node} {v : Val} {evs : List Event}
    (hc : Computes env s n nd v nd.oldState evs) (hk : StaticKind env nd.kind) (hkind : nd'.kind = nd.kind)
    (hvars : S.vars = s.vars) (hvals : valuesOf env' S (kids nd.kind) = valuesOf env s (kids nd.kind))
    (hfn : ∀ f args, nd.kind = .map f args → env'.fn f = env.fn f ∧ env'.fnEff f = env.fnEff f)
    (hfold : ∀ f init cs, nd.kind = .fold f init cs → env'.foldStep f = env.foldStep f) :
    Computes env' S n nd' v nd'.oldState evs := by
  cases hc with
  | map f args vals hkd hf hv heff =>
    rw [hkd] at hvals
    rw [← (hfn f args hkd).1]
    exact .map f args vals (hkind.trans hkd) hf (hvals.trans hv) (by rw [(hfn f args hkd).2]; exact heff)
  | mapBuiltin f args vals hkd hf hpk hv =>
    rw [hkd] at hvals
    rw [← (hfn f args hkd).1]
    exact .mapBuiltin f args vals (hkind.trans hkd) hf hpk (hvals.trans hv)
  | var c vc hkd hvc => exact .var c vc (hkind.trans hkd) (by rw [hvars]; exact hvc)
  | const v hkd => exact .const v (hkind.trans hkd)
  | fold f init cs vals hkd hv =>
    rw [hkd] at hvals
    rw [← hfold f init cs hkd]
    exact .fold f init cs vals (hkind.trans hkd) (hvals.trans hv)
  | mapWithOld g i x σ' new did hkd => rw [hkd] at hk; exact hk.elim
  | bindMain b lc r0 br rn v hkd => rw [hkd] at hk; exact hk.elim

/-- the step of a node that computes the same thing in `s` and in its image `V s` has in `V s` the outcome it has in `s`, if the
`maybe_change_value` it ends in has (`P`: what else that `maybe_change_value` is known to establish) -/
theorem recomputeOne_sim_of_computes {V : State → State} {P : Prop} {env env' : Env} {fuel n : Nat} {s s' : State}
    {nd nd' : Node} {v : Val} {evs : List Event} {r : Except Panic (Option Nat)}
    (hn : s.nodes[n]? = some nd) (hv : nd.valid = true) (hp : s.panicCountdown = none)
    (hc : Computes env s n nd v nd.oldState evs) (hk : StaticKind env nd.kind)
    (hn' : (V s).nodes[n]? = some nd') (hv' : nd'.valid = true) (hp' : (V s).panicCountdown = none)
    (hc' : Computes env' (V s) n nd' v nd'.oldState evs) (hk' : StaticKind env' nd'.kind)
    (hV : V (logged evs (started n s)) = logged evs (started n (V s)))
    (hmcv : (maybeChangeValue env fuel n v).run.run (logged evs (started n s)) = (r, s') →
      (maybeChangeValue env' fuel n v).run.run (V (logged evs (started n s))) = (r, V s') ∧ P)
    (h : (recomputeOne env fuel n).run.run s = (r, s')) :
    (recomputeOne env' fuel n).run.run (V s) = (r, V s') ∧ P := by
  rw [recomputeOne_run_of_computes hn hv hp hc hk] at h
  rw [recomputeOne_run_of_computes hn' hv' hp' hc' hk', ← hV]
  exact hmcv h

end IncrVerif.Proofs.Step
