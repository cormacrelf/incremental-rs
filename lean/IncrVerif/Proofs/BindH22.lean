import IncrVerif.Proofs.BindH21
/-!
# Binds, linking cascade, part 3: the linking cascade keeps the structural invariant `GInvB`

The counterpart of `Quiet7` (`BNSpec`/`APSpec`, `link_spec`) for `GInvB`.  Differences: child lists are `State.children`,
staleness is `State.isStale`; `becameNecessary n` needs `n` not to be queued (`GInvB.lnec` does not say so);
`addParentWithoutAdjustingHeights` does NOT need the parent to be unqueued.
-/
namespace IncrVerif.Proofs.BindH
open IncrVerif.Engine IncrVerif.Proofs IncrVerif.Proofs.Step IncrVerif.Proofs.Sched IncrVerif.Proofs.Quiet
open BL

namespace BL

def BNSpecB (env : Env) (fuel : Nat) : Prop :=
  ∀ n s s' op (ex : Nat → Prop), (becameNecessary env fuel n).run.run s = (.ok (), s') → GInvB env s op ex →
    op n = .linking 0 → (s.nodeD n).inRch = false → (∀ m, op m ≠ .closed → n ≤ m) →
    (∀ p i, (p, i) ∈ (s.nodeD n).parents → op p ≠ .closed) →
    GInvB env s' (upd op n .closed) ex ∧ Above n s s' ∧ LRel (· = n) s s'

def APSpecB (env : Env) (fuel : Nat) : Prop :=
  ∀ c idx p s s' op (ex : Nat → Prop),
    (addParentWithoutAdjustingHeights env fuel c idx p).run.run s = (.ok (), s') →
    GInvB env s op ex → op p = .linking idx → (s.children p)[idx]? = some c →
    (∀ m, op m ≠ .closed → c < m) →
    GInvB env s' (upd op p (.linking (idx + 1))) ex ∧ Above c s s' ∧ LRel (fun _ => False) s s' ∧
      s'.isNecessary c = true

theorem ap_stepB (env : Env) (fuel : Nat) (ih : BNSpecB env fuel) : APSpecB env (fuel + 1) := by
  intro c idx p s s' op ex h I hop hk hlow
  have hp : p < s.nodes.size := I.opLt p (by rw [hop]; exact fun e => by cases e)
  have hcp : c < p := I.kid_lt hk
  have hc : c < s.nodes.size := by omega
  have hcl : op c = .closed := by
    cases e : op c with
    | closed => rfl
    | linking k => have := hlow c (by rw [e]; exact fun e => by cases e); omega
    | unlinking k => have := hlow c (by rw [e]; exact fun e => by cases e); omega
  unfold addParentWithoutAdjustingHeights at h
  rw [run_bind_get] at h
  replace h := bind_dassert_inv h
  rw [run_bind_get] at h
  dsimp only at h
  unfold addParent at h
  obtain ⟨s1, hs1, h⟩ := bind_modNode_inv h
  have U : NodeUpd c (fParents ((s.nodeD c).parents ++ [(p, idx)])) s s1 := by
    rw [hs1]; exact NodeUpd.modify' hc rfl
  have hb1 : s1.binds = s.binds := by rw [hs1]
  have hab1 : Above c s s1 := by rw [hs1]; exact Above.modify c _ s c (Nat.le_refl _)
  have hl1 : LRel (fun _ => False) s s1 := by
    rw [hs1]
    refine ⟨CFrame.modNode s c _ (fun _ => rfl), rfl, fun m x hx => ?_, fun m _ _ => ?_⟩
    · rw [nodeD_modify]; split
      · rename_i e; rw [← e.1] at hx ⊢; exact List.mem_append_left _ hx
      · exact hx
    · rw [nodeD_modify]; split <;> rfl
  have hnec1 : s1.isNecessary c = true := by
    rw [isNecessary_iff]; left
    rw [U.self.parents]; simp [fParents]
  obtain ⟨nd, hnd, h⟩ := bind_getNode_inv h
  have hvalid : nd.valid = true := by
    have : s1.nodeD c = nd := nodeD_of_some hnd
    rw [← this, U.self.valid]; exact (I.node hc).valid
  simp only [hvalid, Bool.not_true, Bool.false_eq_true, if_false] at h
  -- the tail: the parent is not an expert node
  have tail : ∀ (t t' : State), CFrame s t → t.nodes.size = s.nodes.size →
      (do let x ← getNode p
          match x.kind? with
          | some (.expert e) => runEdgeCallback env e idx
          | _ => pure ()).run.run t = (.ok (), t') → t' = t := by
    intro t t' hf hsz ht
    obtain ⟨pn, hpn, ht⟩ := bind_getNode_inv ht
    have hpk : pn.kind? = some (s.nodeD p).kind := by
      have e : t.nodeD p = pn := nodeD_of_some hpn
      have := hf.node p
      simp only [nodeKey, Prod.mk.injEq] at this
      rw [← e, Node.kind?, this.2.2.2.2.1, this.1, (I.node hp).valid]; rfl
    rw [hpk] at ht
    have hsk := (I.node hp).kind
    cases hkd : (s.nodeD p).kind <;> rw [hkd] at ht hsk <;>
      first | exact (pure_ok_inv ht).2 | exact False.elim hsk
  cases hwas : s.isNecessary c with
  | true =>
    rw [hwas] at h
    simp only [Bool.not_true, Bool.false_eq_true, if_false] at h
    -- (D15) the child is not a `map_ref` node
    obtain ⟨cn, hcn, h⟩ := bind_getNode_inv h
    have hcq : cn.kind? = some (s.nodeD c).kind := by
      have e : s1.nodeD c = cn := nodeD_of_some hcn
      rw [← e, Node.kind?, U.self.valid, U.self.kind]
      show (if (s.nodeD c).valid = true then some (s.nodeD c).kind else none) = _
      rw [(I.node hc).valid]; rfl
    rw [hcq] at h
    have hsk := (I.node hc).kind
    have h' : (do let x ← getNode p
                  match x.kind? with
                  | some (.expert e) => runEdgeCallback env e idx
                  | _ => pure ()).run.run s1 = (.ok (), s') := by
      cases hkd : (s.nodeD c).kind <;> rw [hkd] at h hsk <;> first | exact h | exact False.elim hsk
    have e := tail s1 s' hl1.fr U.size h'
    subst e
    exact ⟨GInvB.addEdge_nec I U hb1 hop hk hwas hcl, hab1, hl1, hnec1⟩
  | false =>
    rw [hwas] at h
    simp only [Bool.not_false, if_true] at h
    obtain ⟨_, s2, h2, h⟩ := bind_ok_inv h
    obtain ⟨I1, hpar1, hnq1⟩ := GInvB.addEdge_open I U hb1 hop hk hwas hcl
    have hne : c ≠ p := by omega
    obtain ⟨I2, hab2, hl2⟩ := ih c s1 s2 _ ex h2 I1 (upd_self _ _ _) hnq1
      (by
        intro m hm
        by_cases e : m = c
        · omega
        · rw [upd_other _ _ _ e] at hm
          by_cases e2 : m = p
          · omega
          · rw [upd_other _ _ _ e2] at hm
            exact Nat.le_of_lt (hlow m hm))
      (by
        intro q i hq
        rw [hpar1] at hq
        simp only [List.mem_singleton, Prod.mk.injEq] at hq
        rw [hq.1, upd_other _ _ _ (Ne.symm hne), upd_self]
        exact fun e => by cases e)
    have e := tail s2 s' (hl1.fr.trans hl2.fr) (hl2.fr.size.trans U.size) h
    subst e
    rw [upd_upd, upd_eq_self _ c .closed (by rw [upd_other _ _ _ hne]; exact hcl)] at I2
    refine ⟨I2, hab1.trans hab2, ?_, ?_⟩
    · -- `c` was not necessary in `s`, so its height is not constrained by the relation from `s`
      refine ⟨hl1.fr.trans hl2.fr, hl2.pinv.trans hl1.pinv, fun m x hx => hl2.par m x (hl1.par m x hx),
        fun m _ hm => ?_⟩
      have e : m ≠ c := fun e => by rw [e, hwas] at hm; cases hm
      exact (hl2.hgt m e (hl1.nec hm)).trans (hl1.hgt m (fun h => h) hm)
    · exact hl2.nec hnec1

theorem markMapRefUnknown_B {env : Env} {fuel n : Nat} {s s' : State} {u : Unit}
    (hv : (s.nodeD n).valid = true) (hk : BKind env (s.nodeD n).kind)
    (h : (markMapRefUnknown fuel n).run.run s = (.ok u, s')) : s' = s := by
  cases fuel with
  | zero => unfold markMapRefUnknown at h; cases h
  | succ fuel =>
    unfold markMapRefUnknown at h
    obtain ⟨nd, hnd, h⟩ := bind_getNode_inv h
    have e : s.nodeD n = nd := nodeD_of_some hnd
    have hq : nd.kind? = some (s.nodeD n).kind := by rw [← e, Node.kind?, hv]; rfl
    rw [hq] at h
    cases hkd : (s.nodeD n).kind <;> rw [hkd] at h hk <;>
      first | exact (pure_ok_inv h).2 | exact False.elim hk

theorem bn_stepB (env : Env) (fuel : Nat) (ih : APSpecB env fuel) : BNSpecB env (fuel + 1) := by
  intro n s s' op ex h I hop hnq hlow hpar
  have hn : n < s.nodes.size := I.opLt n (by rw [hop]; exact fun e => by cases e)
  have sn := I.node hn
  unfold becameNecessary at h
  obtain ⟨nd, hnd, h⟩ := bind_getNode_inv h
  have hndD : s.nodeD n = nd := nodeD_of_some hnd
  have htop : nd.createdIn = .top := by rw [← hndD]; exact sn.top
  rw [htop, run_bind_ok (scopeIsNecessary_top_run s)] at h
  simp only [Bool.not_true, Bool.and_false, Bool.false_eq_true, if_false] at h
  obtain ⟨s0, hs0, h⟩ := bind_modify_inv h
  obtain ⟨_, s1, h1, h⟩ := bind_ok_inv h
  rw [run_bind_ok (scopeHeight_top_run s1)] at h
  obtain ⟨_, s2, h2, h⟩ := bind_ok_inv h
  obtain ⟨nd2, hnd2, h⟩ := bind_getNode_inv h
  rw [run_bind_get] at h
  -- the prefix: counters, handler bookkeeping, first height
  have R0 : Irrel n s s0 := by rw [hs0]; exact Irrel.of_nodes rfl rfl rfl rfl rfl
  have R1 : Irrel n s s1 := R0.trans (Irrel.mhas h1)
  have I1 : GInvB env s1 op ex := GInvB.congr I ⟨R1.same, CFrame.binds (R1.rel (fun _ => False)).fr⟩
  have hn1 : n < s1.nodes.size := by rw [R1.same.size]; exact hn
  have hnq1 : (s1.nodeD n).inRch = false := by rw [R1.same.inRch]; exact hnq
  have hpar1 : ∀ p i, (p, i) ∈ (s1.nodeD n).parents → op p ≠ .closed := by
    intro p i hp; rw [(R1.same.node n).parents] at hp; exact hpar p i hp
  obtain ⟨U2, hab2, hl2, hh2, hoth2⟩ := setHeight_ok_upd hn1 h2
  have hopn : op n ≠ .closed := by rw [hop]; exact fun e => by cases e
  have I2 : GInvB env s2 op ex := GInvB.setHeight_open I1 U2 (CFrame.binds hl2.fr) hopn hpar1
  have hn2 : n < s2.nodes.size := by rw [U2.size]; exact hn1
  have hnq2 : (s2.nodeD n).inRch = false := by rw [U2.inRch (keeps_fHeight _)]; exact hnq1
  have hnd2D : s2.nodeD n = nd2 := nodeD_of_some hnd2
  have hh0 : nd2.height = 0 + 1 := by rw [← hnd2D]; exact hh2
  obtain ⟨b, s3, h3, h⟩ := bind_ok_inv h
  -- the loop
  have hloop := forIn_ok_inv _ (s2.children n)
    (fun j (b : Int × Nat) t => b.2 = j ∧ GInvB env t (upd op n (.linking j)) ex ∧
      (∀ m, n ≤ m → t.nodeD m = s2.nodeD m) ∧ LRel (fun _ => False) s2 t ∧ 1 ≤ b.1 ∧
      ∀ i c, i < j → (s2.children n)[i]? = some c → (t.nodeD c).height < b.1)
    (by
      intro j c b t r t' hj ⟨hb2, It, hsame, hrel, hb1, hlt⟩ hbody
      obtain ⟨_, t1, ha, hbody⟩ := bind_ok_inv hbody
      obtain ⟨x, hx, hbody⟩ := bind_getNode_inv hbody
      have hcht : t.children n = s2.children n := (KeyEq.of_cframe hrel.fr).children I2.frag n
      have hkj : (t.children n)[b.2]? = some c := by
        rw [hcht, hb2]; exact hj
      have hcn : c < n := It.kid_lt hkj
      obtain ⟨It1, hab, hl, hnecc⟩ := ih c b.2 n t t1 _ ex ha It (by rw [upd_self, hb2]) hkj
        (by
          intro m hm
          by_cases e : m = n
          · omega
          · rw [upd_other _ _ _ e] at hm; have := hlow m hm; omega)
      rw [upd_upd, hb2] at It1
      have hxD : t1.nodeD c = x := nodeD_of_some hx
      have hstep : ∀ h' : Int, (b.1 ≤ h' ∧ x.height < h') →
          (b.2 = j → True) → (j + 1 = j + 1) ∧ GInvB env t1 (upd op n (.linking (j + 1))) ex ∧
          (∀ m, n ≤ m → t1.nodeD m = s2.nodeD m) ∧ LRel (fun _ => False) s2 t1 ∧ 1 ≤ h' ∧
          ∀ i c', i < j + 1 → (s2.children n)[i]? = some c' → (t1.nodeD c').height < h' := by
        intro h' ⟨hle, hxl⟩ _
        refine ⟨rfl, It1, fun m hm => (hab m (by omega)).trans (hsame m hm), hrel.trans hl, by omega, ?_⟩
        intro i c' hi hc'
        by_cases e : i = j
        · rw [e, hj] at hc'
          cases hc'
          rw [hxD]; exact hxl
        · have hij : i < j := by omega
          have hk' : (t.children n)[i]? = some c' := by
            rw [hcht]; exact hc'
          have hmem := It.conv n i c' hk' ((wants_linking (upd_self _ _ _)).2 hij)
          rw [hl.hgt c' (fun h => h) (nec_of_mem_parents hmem)]
          have := hlt i c' hij hc'
          omega
      split at hbody
      · rename_i hge
        obtain ⟨hr, ht'⟩ := pure_ok_inv hbody
        subst ht'
        refine ⟨_, hr, ?_⟩
        have := hstep (x.height + 1) ⟨by omega, by omega⟩ (fun _ => trivial)
        simpa [hb2] using this
      · rename_i hge
        obtain ⟨hr, ht'⟩ := pure_ok_inv hbody
        subst ht'
        refine ⟨_, hr, ?_⟩
        have := hstep b.1 ⟨by omega, by omega⟩ (fun _ => trivial)
        simpa [hb2] using this)
    (s2.children n) 0 (nd2.height, 0) s2 b s3 (by simp) (Nat.zero_le _)
    ⟨rfl, by rw [upd_eq_self _ _ _ hop]; exact I2, fun _ _ => rfl, LRel.refl _ _, by rw [hh0]; omega,
      fun i c hi _ => by omega⟩ h3
  obtain ⟨hb2, I3, hsame3, hrel3, hb1, hlt3⟩ := hloop
  -- the final height
  obtain ⟨_, s4, h4, h⟩ := bind_ok_inv h
  have hn3 : n < s3.nodes.size := by rw [hrel3.fr.size]; exact hn2
  have hnq3 : (s3.nodeD n).inRch = false := by rw [hsame3 n (Nat.le_refl _)]; exact hnq2
  obtain ⟨U4, hab4, hl4, hh4, hoth4⟩ := setHeight_ok_upd hn3 h4
  have hpar3 : ∀ p i, (p, i) ∈ (s3.nodeD n).parents →
      upd op n (.linking (s2.children n).length) p ≠ .closed := by
    intro p i hp
    have hpn : n < p := I3.par_lt hp
    rw [upd_other _ _ _ (by omega)]
    rw [hsame3 n (Nat.le_refl _), U2.self.parents] at hp
    exact hpar1 p i hp
  have I4 : GInvB env s4 (upd op n (.linking (s2.children n).length)) ex :=
    GInvB.setHeight_open I3 U4 (CFrame.binds hl4.fr) (by rw [upd_self]; exact fun e => by cases e) hpar3
  have hn4 : n < s4.nodes.size := by rw [U4.size]; exact hn3
  have hnq4 : (s4.nodeD n).inRch = false := by rw [U4.inRch (keeps_fHeight _)]; exact hnq3
  have hch4 : s4.children n = s2.children n :=
    (KeyEq.of_cframe (hrel3.fr.trans hl4.fr)).children I2.frag n
  have hhh : ∀ (i c : Nat), (s4.children n)[i]? = some c →
      (s4.nodeD c).height < (s4.nodeD n).height := by
    intro i c hc
    rw [hch4] at hc
    have hi : i < (s2.children n).length := by
      rcases Nat.lt_or_ge i (s2.children n).length with h | h
      · exact h
      · rw [List.getElem?_eq_none h] at hc; cases hc
    have hcn : c < n := I2.kid_lt hc
    rw [hh4, hoth4 c (by omega)]
    exact hlt3 i c hi hc
  have hklen : (s4.children n).length ≤ (s2.children n).length := by rw [hch4]; exact Nat.le_refl _
  have h04 : 0 ≤ (s4.nodeD n).height := by rw [hh4]; omega
  rw [run_bind_get] at h
  replace h := bind_dassert_inv h
  replace h := bind_dassert_inv h
  -- relations so far
  have hA : Above n s s4 := ((R1.above.trans hab2).trans (fun m hm => hsame3 m (by omega))).trans hab4
  have hL : LRel (· = n) s s4 :=
    (((R1.rel _).trans hl2).trans (hrel3.mono (fun _ h => h.elim))).trans hl4
  -- the tail: not an expert node
  have tail : ∀ (t t' : State), CFrame s4 t → t.nodes.size = s4.nodes.size →
      (do let x ← getNode n
          match x.kind? with
          | some (.expert e) => observabilityChange e true
          | _ => pure ()).run.run t = (.ok (), t') → t' = t := by
    intro t t' hf hsz ht
    obtain ⟨pn, hpn, ht⟩ := bind_getNode_inv ht
    have hpk : pn.kind? = some (s4.nodeD n).kind := by
      have e : t.nodeD n = pn := nodeD_of_some hpn
      have := hf.node n
      simp only [nodeKey, Prod.mk.injEq] at this
      rw [← e, Node.kind?, this.2.2.2.2.1, this.1, (I4.node hn4).valid]; rfl
    rw [hpk] at ht
    have hsk := (I4.node hn4).kind
    cases hkd : (s4.nodeD n).kind <;> rw [hkd] at ht hsk <;>
      first | exact (pure_ok_inv ht).2 | exact False.elim hsk
  cases hst : s4.isStale n with
  | false =>
    rw [hst] at h
    simp only [Bool.false_eq_true, if_false] at h
    have e := tail s4 s' (CFrame.refl _) rfl h
    subst e
    have I5 := GInvB.close_link_fresh I4 (upd_self _ _ _) hnq4 hklen hhh h04 hst
    rw [upd_upd] at I5
    exact ⟨I5, hA, hL⟩
  | true =>
    rw [hst] at h
    simp only [if_true] at h
    obtain ⟨_, s5, h5, h⟩ := bind_ok_inv h
    obtain ⟨_, s6, h6, h⟩ := bind_ok_inv h
    have e5 : s5 = s4 := markMapRefUnknown_B (I4.node hn4).valid (I4.node hn4).kind h5
    rw [e5] at h6
    obtain ⟨nd6, hnd6, -, hmax6, e6, hab6, hl6⟩ := rchInsert_rel h6
    have hnd6D : s4.nodeD n = nd6 := nodeD_of_some hnd6
    have e := tail s6 s' (hl6 (· = n)).fr (hl6 (· = n)).fr.size h
    rw [e]
    have I5 := GInvB.close_link_stale I4 (upd_self _ _ _) hnq4 hklen hhh h04 (by rw [hnd6D]; exact hmax6) hst
    rw [upd_upd, hnd6D, ← e6] at I5
    exact ⟨I5, hA.trans hab6, hL.trans (hl6 _)⟩

theorem link_specB (env : Env) (fuel : Nat) : BNSpecB env fuel ∧ APSpecB env fuel := by
  induction fuel with
  | zero =>
    constructor
    · intro n s s' op ex h; unfold becameNecessary at h; cases h
    · intro c idx p s s' op ex h; unfold addParentWithoutAdjustingHeights at h; cases h
  | succ fuel ih => exact ⟨bn_stepB env fuel ih.2, ap_stepB env fuel ih.1⟩

end BL

/-- **The linking cascade, with binds.** A successful `becameNecessary n` on a node that has just become necessary
(labelled `.linking 0`: none of its child edges is recorded yet), that is not queued, all of whose recorded parents are
open and which is the lowest open node, closes `n`: the structural invariant holds with `n` closed; nodes above `n` are
untouched; parent lists only grew; necessary nodes other than `n` kept their height. -/
theorem becameNecessary_specB {env : Env} {fuel n : Nat} {s s' : State} {op : Nat → Op} {ex : Nat → Prop}
    (h : (becameNecessary env fuel n).run.run s = (.ok (), s')) (I : GInvB env s op ex)
    (hop : op n = .linking 0) (hnq : (s.nodeD n).inRch = false) (hlow : ∀ m, op m ≠ .closed → n ≤ m)
    (hpar : ∀ p i, (p, i) ∈ (s.nodeD n).parents → op p ≠ .closed) :
    GInvB env s' (upd op n .closed) ex ∧ Above n s s' ∧ LRel (· = n) s s' :=
  (BL.link_specB env fuel).1 n s s' op ex h I hop hnq hlow hpar

/-- `add_parent_without_adjusting_heights child index parent`: `parent` is open (`.linking index`, i.e. exactly its first
`index` child edges are recorded; it MAY be queued), `child` is its `index`-th child, every open node is above `child`.
Afterwards the edge is recorded (`parent` is `.linking (index + 1)`), `child` is necessary and closed; nodes above `child`
are untouched; parent lists only grew; all nodes that were necessary kept their height. -/
theorem addParentWithoutAdjustingHeights_specB {env : Env} {fuel c idx p : Nat} {s s' : State} {op : Nat → Op}
    {ex : Nat → Prop}
    (h : (addParentWithoutAdjustingHeights env fuel c idx p).run.run s = (.ok (), s')) (I : GInvB env s op ex)
    (hop : op p = .linking idx) (hk : (s.children p)[idx]? = some c) (hlow : ∀ m, op m ≠ .closed → c < m) :
    GInvB env s' (upd op p (.linking (idx + 1))) ex ∧ Above c s s' ∧ LRel (fun _ => False) s s' ∧
      s'.isNecessary c = true :=
  (BL.link_specB env fuel).2 c idx p s s' op ex h I hop hk hlow

end IncrVerif.Proofs.BindH
