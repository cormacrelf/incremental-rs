import IncrVerif.Proofs.MapRef3
/-!
# map_ref fragment: the flag work on `map_ref` nodes cannot be seen in the virtual state
-/
namespace IncrVerif.Proofs.MapRefH
open IncrVerif.Engine IncrVerif.Proofs IncrVerif.Proofs.Step IncrVerif.Proofs.Sched IncrVerif.Proofs.Quiet

section
variable {g : Nat → Option Val}

/-! ## flag-only work is invisible in the virtual state -/

/-- `s'` has the same virtual state as `s` (and the same kinds) -/
structure VEq (g : Nat → Option Val) (s s' : State) : Prop where
  veq : virt g s' = virt g s
  kind : ∀ m, (s'.nodeD m).kind = (s.nodeD m).kind

instance : Step.PreOrd (VEq g) :=
  ⟨fun _ => ⟨rfl, fun _ => rfl⟩, fun h1 h2 => ⟨h2.veq.trans h1.veq, fun m => (h2.kind m).trans (h1.kind m)⟩⟩

theorem VEq.modNode (s : State) (n : Nat) (f : Node → Node)
    (hf : ∀ gv x, virtNode gv (f x) = virtNode gv x ∧ (f x).kind = x.kind) :
    VEq g s { s with nodes := s.nodes.modify n f } := by
  refine ⟨?_, fun m => ?_⟩
  · unfold virt
    congr 1
    apply Array.ext
    · simp
    · intro i h1 h2
      simp only [Array.getElem_mapIdx, Array.getElem_modify]
      split
      · exact (hf _ _).1
      · rfl
  · rw [nodeD_modify]; split
    · exact (hf none _).2
    · rfl

theorem PresV.modNode (n : Nat) (f : Node → Node)
    (hf : ∀ gv x, virtNode gv (f x) = virtNode gv x ∧ (f x).kind = x.kind) :
    Step.Pres (VEq g) (Engine.modNode n f) := by
  unfold Engine.modNode; exact Step.Pres.modify fun s => VEq.modNode s n f hf

/-- closes `∀ gv x, virtNode gv (f x) = virtNode gv x ∧ (f x).kind = x.kind` for an `f` that only sets `didChange` -/
macro "vflag" : tactic => `(tactic| (intro gv nd; refine ⟨?_, rfl⟩; rcases nd with ⟨k⟩; cases k <;> rfl))

macro_rules | `(tactic| qleaf) => `(tactic| ((with_reducible apply PresV.modNode); vflag))

theorem PresV.markMapRefUnknown (fuel n : Nat) : Step.Pres (VEq g) (Engine.markMapRefUnknown fuel n) := by
  induction fuel generalizing n with
  | zero => unfold Engine.markMapRefUnknown; qpres
  | succ fuel ih =>
    unfold Engine.markMapRefUnknown
    qpres
    all_goals (apply Step.Pres.forIn; intro a b; qpres; exact ih _)

theorem VEq.noExp {s s' : State} (h : VEq g s s') (hn : Fr s) : Fr s' := by
  refine ⟨fun n e => ?_, fun n => ?_, ?_, fun n p i hk => ?_⟩
  · rw [h.kind]; exact hn.noExp n e
  · have h1 : ((virt g s').nodeD n).valid = ((virt g s).nodeD n).valid := by rw [h.veq]
    rw [virt_nodeD, virt_nodeD, virtNode_valid, virtNode_valid] at h1
    rw [h1]; exact hn.valid n
  · have h1 : (virt g s').propagateInvalidity = (virt g s).propagateInvalidity := by rw [h.veq]
    exact h1.trans hn.pinv
  · have h2 : ((virt g s').nodeD n).cutoff = ((virt g s).nodeD n).cutoff := by rw [h.veq]
    rw [virt_nodeD, virt_nodeD, virtNode_cutoff, virtNode_cutoff] at h2
    rw [h2]; rw [h.kind] at hk; exact hn.cut n p i hk

/-- a program that only does flag work is simulated by doing nothing -/
theorem SimAt.of_veq {s : State} {x : M Unit} (h : Step.Pres (VEq g) x) : SimAt g s x (pure ()) := by
  intro hn r s' hr
  have hv := h.h s _ s' hr
  rw [run_pure, hv.veq]; exact ⟨rfl, hv.noExp hn⟩

theorem virt_markMapRefUnknown_run (fuel n : Nat) (s : State) (nd : Node) (h : s.nodes[n]? = some nd) :
    (Engine.markMapRefUnknown (fuel + 1) n).run.run (virt g s) = (.ok (), virt g s) := by
  unfold Engine.markMapRefUnknown
  have hv : (virt g s).nodes[n]? = some (virtNode (g n) nd) := by rw [virt_getElem?, h]; rfl
  rw [run_bind_ok (run_getNode_some hv), virtNode_kind?]
  cases hk : nd.kind? with
  | none => rfl
  | some k => cases k <;> rfl

theorem Sim.markMapRefUnknown (fuel n : Nat) :
    Sim g (Engine.markMapRefUnknown fuel n) (Engine.markMapRefUnknown fuel n) := by
  intro s hn r s' hr
  cases fuel with
  | zero => unfold Engine.markMapRefUnknown at hr; cases hr
  | succ fuel =>
    have hv := (PresV.markMapRefUnknown (g := g) (fuel + 1) n).h s _ s' hr
    unfold Engine.markMapRefUnknown at hr
    obtain ⟨nd, hnd, -⟩ := bind_getNode_inv hr
    rw [virt_markMapRefUnknown_run fuel n s nd hnd, hv.veq]; exact ⟨rfl, hv.noExp hn⟩
macro_rules | `(tactic| qleaf) => `(tactic| with_reducible apply PresV.markMapRefUnknown)


theorem refWork : NodeSim.RefWork (fun _ => False) (rel g) Fr where
  ref {_ _ nd} _ _ p j h := virtNode_not_mapRef none nd p j ((virtNode_kind none nd).trans h)
  mark fuel n := (Sim.markMapRefUnknown fuel n).comm
  late fuel n _ _ _ _ _ _ _ := .of_unseen fun hI r s1 hr hE => by
    cases r with
    | error p => exact (hE p rfl).elim
    | ok u =>
      have hv := (PresV.markMapRefUnknown (g := g) fuel n).h _ _ s1 hr
      exact ⟨rfl, by rw [← virt_eq, ← virt_eq]; exact hv.veq, hv.noExp hI⟩

theorem Sim.becameNecessary (env : Env) (fuel n : Nat) :
    Sim g (Engine.becameNecessary env fuel n) (Engine.becameNecessary (virtEnv env) fuel n) :=
  .of_comm (NodeSim.Comm.becameNecessary (blind g) addsParents refWork (expWork g) fuel n)

theorem Sim.addParentWithoutAdjustingHeights (env : Env) (fuel c i p : Nat) :
    Sim g (Engine.addParentWithoutAdjustingHeights env fuel c i p)
      (Engine.addParentWithoutAdjustingHeights (virtEnv env) fuel c i p) :=
  .of_comm (NodeSim.Comm.addParentWithoutAdjustingHeights (blind g) addsParents refWork (expWork g) fuel c i p)

theorem Sim.addNewObservers (env : Env) (fuel : Nat) :
    Sim g (Engine.addNewObservers env fuel) (Engine.addNewObservers (virtEnv env) fuel) :=
  .of_comm (NodeSim.Comm.addNewObservers (blind g) changesNecessity addsParents refWork (expWork g) (fun _ h => h.pinv) fuel)

end
end IncrVerif.Proofs.MapRefH
