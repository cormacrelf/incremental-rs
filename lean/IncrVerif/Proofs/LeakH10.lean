import IncrVerif.Proofs.LeakH9
/-!
# C12 over histories, part 10: a list of drops runs iff each drop names something that exists

Whether a drop action returns depends only on the naming table, the shared cells and the numbers of variable
cells and observer records, which no drop changes.  Hence every permutation of a list of drops that runs, runs.
-/
namespace IncrVerif.Proofs.LeakH
open IncrVerif.Engine IncrVerif.Driver IncrVerif.Proofs IncrVerif.Proofs.Obs IncrVerif.Proofs.Life
open IncrVerif.Proofs.Own

structure Frame4 (s0 s : State) : Prop where
  frame : SameFrame s0 s
  vars : s.vars.size = s0.vars.size
  obs : s.observers.size = s0.observers.size

theorem Frame4.refl (s : State) : Frame4 s s := ⟨⟨rfl, rfl⟩, rfl, rfl⟩

theorem dropT_sizes (h : Hold3) (k : DropK) :
    (dropT h k).vars.size = h.vars.size ∧ (dropT h k).obs.size = h.obs.size := by
  cases k <;> simp [dropT, Array.size_modify]

theorem frame4_step {env : Env} {s0 s s' : State} {a : Action} {tk : Array Nat} {r : String × Array Nat}
    (F : Frame4 s0 s) (ha : DropAction a) (h : (stepAction env a tk).run.run s = (.ok r, s')) :
    Frame4 s0 s' := by
  obtain ⟨-, F1, e⟩ := drop_hold F.frame ha h
  have hz := dropT_sizes (hold3 s) (kindOf s0 a)
  rw [← e] at hz
  simp only [hold3, Array.size_map] at hz
  exact ⟨F1, hz.1.trans F.vars, hz.2.trans F.obs⟩

/-- no drop changes what `OkCond` reads -/
theorem okCond_frame {s0 s : State} (F : Frame4 s0 s) (a : Action) : OkCond s a ↔ OkCond s0 a := by
  cases a <;> first | exact Iff.rfl | simp only [OkCond, F.vars, F.obs, resolve_frame F.frame]

theorem drop_ok_of_cond {env : Env} {s0 s : State} {a : Action} {tk : Array Nat}
    (F : Frame4 s0 s) (hc : OkCond s0 a) : ∃ r s', (stepAction env a tk).run.run s = (.ok r, s') :=
  have ⟨r, h⟩ := drop_runs ((okCond_frame F a).2 hc)
  ⟨r, _, h⟩

theorem drop_cond_of_ok {env : Env} {s0 s s' : State} {a : Action} {tk : Array Nat} {r : String × Array Nat}
    (F : Frame4 s0 s) (ha : DropAction a) (h : (stepAction env a tk).run.run s = (.ok r, s')) :
    OkCond s0 a :=
  (okCond_frame F a).1 (drop_inv ha h).1

theorem drops_conds_of_run {env : Env} {s0 : State} {drops : List Action} {s s' : State} {tk tk' : Array Nat}
    (F : Frame4 s0 s) (hd : ∀ a, a ∈ drops → DropAction a)
    (h : Quiet.runActions env drops s tk = .ok (s', tk')) : ∀ a, a ∈ drops → OkCond s0 a :=
  -- every drop is named as soon as those still to come are
  (Hist.runActions_inv
    (I := fun t _ rest => Frame4 s0 t ∧ (∀ a, a ∈ rest → DropAction a) ∧
      ((∀ a, a ∈ rest → OkCond s0 a) → ∀ a, a ∈ drops → OkCond s0 a))
    (fun a rest t tk1 r t' i hx => by
      have ha := i.2.1 a List.mem_cons_self
      refine ⟨frame4_step i.1 ha hx, fun b hb => i.2.1 b (List.mem_cons_of_mem _ hb), fun hrest => i.2.2 fun b hb => ?_⟩
      rcases List.mem_cons.1 hb with rfl | hb
      · exact drop_cond_of_ok i.1 ha hx
      · exact hrest b hb)
    ⟨F, hd, id⟩ h).2.2 fun _ hm => nomatch hm

theorem drops_run_of_conds {env : Env} {s0 : State} {drops : List Action} {s : State} {tk : Array Nat}
    (F : Frame4 s0 s) (hd : ∀ a, a ∈ drops → DropAction a) (hc : ∀ a, a ∈ drops → OkCond s0 a) :
    ∃ s' tk', Quiet.runActions env drops s tk = .ok (s', tk') := by
  induction drops generalizing s tk with
  | nil => exact ⟨s, tk, rfl⟩
  | cons a as ih =>
    obtain ⟨r, s1, hx⟩ := drop_ok_of_cond (env := env) (tk := tk) F (hc a (List.mem_cons_self ..))
    obtain ⟨s', tk', h'⟩ := ih (s := s1) (tk := r.2) (frame4_step F (hd a (List.mem_cons_self ..)) hx)
      (fun c hc' => hd c (List.mem_cons_of_mem _ hc')) (fun c hc' => hc c (List.mem_cons_of_mem _ hc'))
    refine ⟨s', tk', ?_⟩
    simp only [Quiet.runActions, hx]
    exact h'

/-- **drop-order independence.** If a list of drops runs from `s` and ends with the program holding nothing, so
does every permutation of it. -/
theorem perm_runs_holdsNothing {env : Env} {drops drops' : List Action} {s s1 : State} {tk tk1 : Array Nat}
    (hd : ∀ a, a ∈ drops → DropAction a) (hp : drops'.Perm drops)
    (h1 : Quiet.runActions env drops s tk = .ok (s1, tk1)) (H : HoldsNothing s1) :
    ∃ s2 tk2, Quiet.runActions env drops' s tk = .ok (s2, tk2) ∧ HoldsNothing s2 := by
  have hd' : ∀ a, a ∈ drops' → DropAction a := fun a hm => hd a (hp.mem_iff.1 hm)
  have hc := drops_conds_of_run (Frame4.refl s) hd h1
  obtain ⟨s2, tk2, h2⟩ := drops_run_of_conds (env := env) (tk := tk) (Frame4.refl s) hd'
    (fun a hm => hc a (hp.mem_iff.1 hm))
  obtain ⟨e1, e2⟩ := perm_hold hd hp h1 h2
  exact ⟨s2, tk2, h2, holdsNothing_of_hold3 e1 e2 H⟩

end IncrVerif.Proofs.LeakH
