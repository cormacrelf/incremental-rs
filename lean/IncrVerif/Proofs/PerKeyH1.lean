import IncrVerif.Proofs.DriverH39
import IncrVerif.Proofs.PerKeyLoop
/-!
# Per-key operators over whole histories, part 0: definitions

Three views of an actual state `s` with per-key operators:

* the STRUCTURAL TWIN `twL l s` (an ACTUAL state of fragment X1 of `Props/C14History.lean`): the change detector
  `map (fnPerKey + op) [a]` is re-tagged `map fnIdent [a]`, every expert record loses its `pk` mark (so it is a
  user-defined record with closure id `0`), the log is `l`.  Under the twin environment `twEnv env` (effects erased,
  every expert closure is the sum closure) the twin satisfies `ExpertH.XFrag`, so every STRUCTURE-level and SLOT-level
  theorem of `ExpertH`/`DriverH` (`Mid`, `AddSpec`, `RmSpec`, `StaleSpec`, cascades, `SlotInv`) applies to it.
  `TSim x x'`: the engine running `x` on `s` is matched by `x'` running on the twin (`Proofs/PerKeyH…`, the counterpart of
  `ExpertH23–31`).  Values are NOT consistent in the twin (its closures are sums).
* the VALUE-FAITHFUL VIRTUAL STATIC STATE `V s`: as `ExpertH.virt`, but a per-key input node (record
  `pk = some (op, some key)`) becomes `fold xConst (.int prevMap[key]) [lc]` (constant closure), the operator's result
  (`pk = some (op, none)`) becomes `fold xAsm (asmInit tags) children` (`tags`: the key of each dependency, in edge
  order) and the change detector becomes `map fLc [a]` (constant `()`), interpreted by `penv env`.  The drain invariant
  `BindH.DInv (penv env) (V s) x` is the scheduling/value invariant.
* `Kin t t'`: two static states that agree in everything but the kinds of their nodes (same children lists):
  `virt (twL l s)` and `V s` are `Kin`, which transfers every kind-agnostic statement.
-/
namespace IncrVerif.Proofs.PerKeyH
open IncrVerif.Engine IncrVerif.Driver IncrVerif.Proofs IncrVerif.Proofs.Step IncrVerif.Proofs.Sched
open IncrVerif.Proofs.ExpertH IncrVerif.Proofs.EffH

/-! ## 1. the structural twin -/

def twKind : Kind → Kind
  | .map f args => .map (if fnPerKey ≤ f then fnIdent else f) args
  | k => k

def twNode (nd : Node) : Node := { nd with kind := twKind nd.kind }

def twRec (er : ExpertRec) : ExpertRec := { er with pk := none }

/-- the structural twin of `s`, with log `l` -/
def twL (l : List Event) (s : State) : State :=
  { s with nodes := s.nodes.map twNode, experts := s.experts.map twRec, log := l }

/-- the twin environment: no effects, every expert closure is "sum of the dependencies modulo `f / 10`" -/
def twEnv (env : Env) : Env :=
  { noEff env with expertFn := fun f deps _ => (deps.filterMap id).foldl (xStep f) (.int 0) }

theorem twEnv_xEnvOK (env : Env) (f : Nat) : XEnvOK (twEnv env) f := by
  intro vals slots
  show ((vals.map some).filterMap id).foldl (xStep f) (.int 0) = _
  have : (vals.map some).filterMap id = vals := by
    induction vals with
    | nil => rfl
    | cons a as ih => simp [List.filterMap_cons, ih]
  rw [this]

/-- `x` running on `s` is matched by `x'` running on (any log-variant of) the twin -/
def TSimAt (s : State) {α} (x x' : M α) : Prop :=
  Fr s → ∀ l r s', x.run.run s = (.ok r, s') → (∃ l', x'.run.run (twL l s) = (.ok r, twL l' s')) ∧ Fr s'

def TSim {α} (x x' : M α) : Prop := ∀ s, TSimAt s x x'

/-! ## 2. the value-faithful virtual static state -/

/-- `map` id of the virtual change detector: the constant `()` -/
def fLc : Nat := 1000003
/-- `fold` id of a virtual per-key input node: the constant closure (value = `init`) -/
def xConst : Nat := xBase + 1
/-- `fold` id of a virtual result node: assemble the map from the dependencies' values -/
def xAsm : Nat := xBase + 2

/-- one step of the assembling fold.  The accumulator is `pair (map tags) (map built)`: `tags` = the remaining
dependencies, each `(key, 1)` (a per-key dependency) or `(_, 0)` (the change detector: skipped); the LAST step
returns the finished map. -/
def asmStep (acc x : Val) : Val :=
  match acc with
  | .pair (.map ((k, t) :: rest)) (.map built) =>
    let built' := if t = 1 then built ++ [(k, x.toInt)] else built
    if rest.isEmpty then .map (IncrVerif.AMap.ofList built') else .pair (.map rest) (.map built')
  | a => a

def asmInit (tags : List (Int × Int)) : Val := .pair (.map tags) (.map [])

/-- the key of each dependency of the result record, in edge order -/
def tagsOf (prevNodes : List (Int × (Nat × Nat))) (children : List ExpertEdge) : List (Int × Int) :=
  children.map fun ed =>
    match prevNodes.find? (fun p => p.2.2 == ed.dep) with
    | some p => (p.1, 1)
    | none => (0, 0)

/-- what the assembling fold computes: the pairs `(key, value)` of the tagged dependencies -/
def asmPairs : List (Int × Int) → List Val → List (Int × Int)
  | (k, t) :: tags, v :: vals => (if t = 1 then [(k, v.toInt)] else []) ++ asmPairs tags vals
  | _, _ => []

/-- the environment that interprets the virtual kinds -/
def penv (env : Env) : Env :=
  { noEff env with
    fn := fun f vals => if f = fLc then .unit else env.fn f vals
    foldStep := fun F acc x =>
      if F = xConst then acc else if F = xAsm then asmStep acc x else env.foldStep F acc x }

def pkRec (s : State) (op : Nat) : PerKeyRec := s.perkeys[op]?.getD default

def vKind (s : State) : Kind → Kind
  | .map f args => .map (if fnPerKey ≤ f then fLc else f) args
  | .expert e =>
    let er := xRec s.experts e
    match er.pk with
    | some (op, some key) =>
      .fold xConst (.int (((pkRec s op).prevMap.lookup key).getD 0)) (er.children.map (·.child))
    | some (op, none) =>
      .fold xAsm (asmInit (tagsOf (pkRec s op).prevNodes er.children)) (er.children.map (·.child))
    | none => .fold (xBase + er.f) (.int 0) (er.children.map (·.child))
  | k => k

def vNode (s : State) (nd : Node) : Node :=
  { nd with kind := vKind s nd.kind,
            recomputedAt := if forced s.experts nd.kind then -1 else nd.recomputedAt }

/-- the value-faithful virtual static state -/
def V (s : State) : State :=
  { s with nodes := s.nodes.map (vNode s), experts := #[], log := s.log.filter keepEv }

/-! ## 3. kind-twins -/

/-- two (static) states that agree in everything the structural invariants read, except the kinds of their nodes,
which have the same children -/
structure Kin (t t' : State) : Prop where
  size : t'.nodes.size = t.nodes.size
  node : ∀ m, (t'.nodeD m) = { t.nodeD m with kind := (t'.nodeD m).kind }
  kids : ∀ m, kids (t'.nodeD m).kind = kids (t.nodeD m).kind
  /-- var kinds are the same (staleness of a var reads its cell) and const kinds are the same -/
  var : ∀ m c, (t'.nodeD m).kind = .var c ↔ (t.nodeD m).kind = .var c
  const : ∀ m, (∃ v, (t'.nodeD m).kind = .const v) ↔ (∃ v, (t.nodeD m).kind = .const v)
  rest : ({ t' with nodes := #[], log := [] } : State) = { t with nodes := #[], log := [] }

end IncrVerif.Proofs.PerKeyH
