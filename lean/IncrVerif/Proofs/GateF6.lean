import IncrVerif.Proofs.GateF5
/-!
# C06, combined fragment, part 6: the stamp frame `RR` (continued) — the necessity cascades (all outcomes), and the functions that reach `invalidateNode`, WHEN THEY RETURN

`POk R m`: the relation holds between the initial and the final state of every SUCCESSFUL run of `m`.  `invalidateNode` stamps `recomputedAt := now` on the dying node and clears
`valid` only at the end, so the frame `RR` holds for completed runs only (`POk.invalidateNode`, proved with the auxiliary relation `TT`: the node itself is excepted until `valid` is
cleared).
-/
open IncrVerif.Engine IncrVerif.Proofs IncrVerif.Proofs.Step
namespace IncrVerif.Proofs.GateF

theorem PresR.necessary (ex : Nat → Prop) (env : Env) (fuel : Nat) :
    (∀ n, Step.Pres (RR ex) (becameNecessary env fuel n)) ∧
    (∀ c i p, Step.Pres (RR ex) (addParentWithoutAdjustingHeights env fuel c i p)) :=
  ⟨fun n => (Footprint.Foot.becameNecessary env fuel n).frame (RR.of_edit (by decide) (by decide)),
   fun c i p => (Footprint.Foot.addParentWithoutAdjustingHeights env fuel c i p).frame (RR.of_edit (by decide) (by decide))⟩
theorem PresR.becameNecessary (ex : Nat → Prop) (env fuel n) : Step.Pres (RR ex) (becameNecessary env fuel n) :=
  (PresR.necessary ex env fuel).1 n
r_leaf PresR.becameNecessary
theorem PresR.addParentWithoutAdjustingHeights (ex : Nat → Prop) (env fuel c i p) :
    Step.Pres (RR ex) (addParentWithoutAdjustingHeights env fuel c i p) := (PresR.necessary ex env fuel).2 c i p
r_leaf PresR.addParentWithoutAdjustingHeights

theorem PresR.unnecessary (ex : Nat → Prop) (fuel : Nat) :
    (∀ n, Step.Pres (RR ex) (becameUnnecessary fuel n)) ∧ (∀ n, Step.Pres (RR ex) (checkIfUnnecessary fuel n)) ∧
    (∀ n, Step.Pres (RR ex) (removeChildren fuel n)) :=
  ⟨fun n => (Footprint.Foot.becameUnnecessary fuel n).frame (RR.of_edit (by decide) (by decide)),
   fun n => (Footprint.Foot.checkIfUnnecessary fuel n).frame (RR.of_edit (by decide) (by decide)),
   fun n => (Footprint.Foot.removeChildren fuel n).frame (RR.of_edit (by decide) (by decide))⟩
theorem PresR.becameUnnecessary (ex : Nat → Prop) (fuel n) : Step.Pres (RR ex) (becameUnnecessary fuel n) :=
  (PresR.unnecessary ex fuel).1 n
r_leaf PresR.becameUnnecessary
theorem PresR.checkIfUnnecessary (ex : Nat → Prop) (fuel n) : Step.Pres (RR ex) (checkIfUnnecessary fuel n) :=
  (PresR.unnecessary ex fuel).2.1 n
r_leaf PresR.checkIfUnnecessary
theorem PresR.removeChildren (ex : Nat → Prop) (fuel n) : Step.Pres (RR ex) (removeChildren fuel n) :=
  (PresR.unnecessary ex fuel).2.2 n
r_leaf PresR.removeChildren

/-! ### expert API -/
theorem PresR.assertRunningIsChild (ex : Nat → Prop) (n name) : Step.Pres (RR ex) (assertRunningIsChild n name) :=
  (Footprint.Foot.assertRunningIsChild n name).frame (RR.of_edit (by decide) (by decide))
r_leaf PresR.assertRunningIsChild
theorem PresR.expertMakeStale (ex : Nat → Prop) (n) : Step.Pres (RR ex) (expertMakeStale n) :=
  (Footprint.Foot.expertMakeStale n).frame (RR.of_edit (by decide) (by decide))
r_leaf PresR.expertMakeStale
theorem PresR.expertRemoveDependency (ex : Nat → Prop) (fuel n dep) : Step.Pres (RR ex) (expertRemoveDependency fuel n dep) :=
  (Footprint.Foot.expertRemoveDependency fuel n dep).frame (RR.of_edit (by decide) (by decide))
r_leaf PresR.expertRemoveDependency

/-! ### successful runs -/

structure POk {α} (R : State → State → Prop) (m : M α) : Prop where
  h : ∀ s a s', m.run.run s = (.ok a, s') → R s s'

theorem POk.of_pres {α} {R : State → State → Prop} {m : M α} (h : Step.Pres R m) : POk R m := ⟨fun s a s' e => h.h s (.ok a) s' e⟩

theorem POk.bind {α β} {R : State → State → Prop} [PreOrd R] {x : M α} {f : α → M β} (hx : POk R x) (hf : ∀ a, POk R (f a)) :
    POk R (x >>= f) := by
  constructor
  intro s b s' h
  obtain ⟨a, s1, h1, h2⟩ := bind_ok_inv h
  exact PreOrd.trans (hx.h s a s1 h1) ((hf a).h s1 b s' h2)

theorem POk.forIn {α β} {R : State → State → Prop} [PreOrd R] (l : List α) (init : β) (f : α → β → M (ForInStep β))
    (hf : ∀ a b, POk R (f a b)) : POk R (forIn l init f) := by
  induction l generalizing init with
  | nil => rw [List.forIn_nil]; exact POk.of_pres (Step.Pres.pure _)
  | cons a l ih =>
    rw [List.forIn_cons]
    refine POk.bind (hf a init) fun r => ?_
    cases r with
    | done b => exact POk.of_pres (Step.Pres.pure _)
    | yield b => exact ih b

syntax "okleaf" : tactic
macro_rules | `(tactic| okleaf) => `(tactic| fail "no ok leaf")

macro "okprim" : tactic => `(tactic| first
  | with_reducible apply Step.Pres.pure
  | with_reducible apply Step.Pres.get
  | with_reducible apply Step.Pres.panic
  | with_reducible apply Step.Pres.throw)

macro "okstep" : tactic => `(tactic| first
  | (refine POk.of_pres ?_; okprim)
  | with_reducible apply POk.bind
  | with_reducible apply POk.forIn
  | intro _ | split
  | okleaf
  | (refine POk.of_pres ?_; qpres; done)
  | dsimp only)

macro "okpres" : tactic => `(tactic| repeat (any_goals okstep))

macro "o_leaf " n:ident : command =>
  `(macro_rules | `(tactic| okleaf) => `(tactic| with_reducible apply $n))

/-! ### `invalidateNode` -/

/-- `RR ex`, and `n` (if it exists) invalid at the end; used with `ex` enlarged by `n` -/
def TT (ex : Nat → Prop) (n : Nat) (s s' : State) : Prop := RR ex s s' ∧ (n < s.nodes.size → (s'.nodeD n).valid = false)

theorem TT.bind1 {α β} {ex : Nat → Prop} {n : Nat} {x : M α} {f : α → M β} (hx : POk (RR ex) x) (hf : ∀ a, POk (TT ex n) (f a)) :
    POk (TT ex n) (x >>= f) := by
  constructor
  intro s b s' h
  obtain ⟨a, s1, h1, h2⟩ := bind_ok_inv h
  have r1 := hx.h s a s1 h1
  obtain ⟨r2, k⟩ := (hf a).h s1 b s' h2
  exact ⟨PreOrd.trans r1 r2, fun hn => k (Nat.lt_of_lt_of_le hn r1.size)⟩

theorem TT.bind2 {α β} {ex : Nat → Prop} {n : Nat} {x : M α} {f : α → M β} (hx : POk (TT ex n) x) (hf : ∀ a, POk (RR ex) (f a)) :
    POk (TT ex n) (x >>= f) := by
  constructor
  intro s b s' h
  obtain ⟨a, s1, h1, h2⟩ := bind_ok_inv h
  obtain ⟨r1, k⟩ := hx.h s a s1 h1
  have r2 := (hf a).h s1 b s' h2
  exact ⟨PreOrd.trans r1 r2, fun hn => r2.inval n (k hn)⟩

theorem TT.kill (ex : Nat → Prop) (n : Nat) : POk (TT ex n) (modNode n fun x => { x with valid := false }) := by
  constructor
  intro s a s' h
  have r : RR ex s s' := (PresR.modNode ex n (fun x => { x with valid := false }) (fun _ => ⟨rfl, Or.inr rfl⟩)).h s _ s' h
  refine ⟨r, fun hn => ?_⟩
  rw [run_modNode] at h
  cases h
  rw [nodeD_modify, if_pos ⟨rfl, hn⟩]

theorem POk.invalidateNode (fuel : Nat) : ∀ (ex : Nat → Prop) (n : Nat), POk (RR ex) (invalidateNode fuel n) := by
  induction fuel with
  | zero => intro ex n; unfold Engine.invalidateNode; okpres
  | succ fuel ih =>
    intro ex n
    constructor
    intro s a s' h
    unfold Engine.invalidateNode at h
    obtain ⟨nd, hnd, h⟩ := bind_getNode_inv h
    by_cases hv : nd.valid = true
    · rw [if_neg (by simp [hv])] at h
      have hT : TT (fun m => ex m ∨ m = n) n s s' := by
        refine (?_ : POk (TT (fun m => ex m ∨ m = n) n) _).h s a s' h
        repeat (any_goals first
          | refine TT.bind2 (TT.kill _ _) ?_
          | refine TT.bind1 ?_ ?_
          | intro _ | split | dsimp only)
        all_goals okpres
        all_goals exact ih _ _
      obtain ⟨r, k⟩ := hT
      have hlt : n < s.nodes.size := by
        false_or_by_contra
        rename_i hge
        rw [Array.getElem?_eq_none (by omega)] at hnd
        cases hnd
      refine ⟨r.size, r.inval, fun m hm => ?_⟩
      by_cases hmn : m = n
      · subst hmn; exact Or.inr (k hlt)
      · exact r.stamp m (fun e => e.elim hm hmn)
    · rw [if_pos (by simp [hv])] at h
      obtain ⟨-, rfl⟩ := pure_ok_inv h
      exact PreOrd.refl _
o_leaf POk.invalidateNode

theorem POk.propagateInvalidity (ex : Nat → Prop) (fuel) : POk (RR ex) (propagateInvalidity fuel) := by
  induction fuel with
  | zero => unfold Engine.propagateInvalidity; okpres
  | succ fuel ih => unfold Engine.propagateInvalidity; okpres; all_goals exact ih
o_leaf POk.propagateInvalidity
theorem POk.stateAddParent (ex : Nat → Prop) (env fuel c i p) : POk (RR ex) (stateAddParent env fuel c i p) := by
  unfold Engine.stateAddParent; okpres
o_leaf POk.stateAddParent
theorem POk.changeChildBindRhs (ex : Nat → Prop) (env fuel m o nw i) :
    POk (RR ex) (changeChildBindRhs env fuel m o nw i) := by
  unfold Engine.changeChildBindRhs; okpres
o_leaf POk.changeChildBindRhs
theorem POk.expertAddDependency (ex : Nat → Prop) (env fuel n c cb) :
    POk (RR ex) (expertAddDependency env fuel n c cb) := by
  unfold Engine.expertAddDependency; okpres
o_leaf POk.expertAddDependency
theorem POk.expertInvalidate (ex : Nat → Prop) (fuel n) : POk (RR ex) (expertInvalidate fuel n) := by
  unfold Engine.expertInvalidate; okpres
o_leaf POk.expertInvalidate

end IncrVerif.Proofs.GateF
