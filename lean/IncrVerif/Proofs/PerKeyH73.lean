import IncrVerif.Proofs.PerKeyH71
import IncrVerif.Proofs.PerKeyH36
import IncrVerif.Proofs.PerKeyH44
import IncrVerif.Proofs.PerKeyH24
/-!
# Per-key operators, a run of an expert node, part 5: `XStepSpec`

`xStepSpec`: one `recomputeOne env fuel n` on an expert node `n` of a per-key operator, from `PD env s (some n)`
and `NoRem s`, gives `PD env s' r ∧ NoRem s' ∧ PStep s s' ∧ ((V s').nodeD n).recomputedAt = s.stabNum`
(`SlotInv env s'`: `step_slots`).
`EntryOK.input` of a per-key input node that RUNS (its virtual stamp is not `-1` afterwards): the node is current, hence
necessary, hence reached from its instance's return node (`priv_nec_below`, the ownership walk of LC2d).
-/
namespace IncrVerif.Proofs.PerKeyH
open IncrVerif IncrVerif.Engine IncrVerif.Driver IncrVerif.Proofs IncrVerif.Proofs.Step IncrVerif.Proofs.Sched
open IncrVerif.Proofs.ExpertH IncrVerif.Proofs.ExpertH.QR IncrVerif.Proofs.EffH IncrVerif.Proofs.DriverH
open IncrVerif.Proofs.Xp

/-! ## the frames from `s` to `readyP` -/

section
variable (env : Env) (n : Nat) {e : Nat} {s : State} {er : ExpertRec}

theorem readyP_xs (he : s.experts[e]? = some er) : XS s (readyP env n e s er) := by
  obtain ⟨_, _, _, f4, f5, _, _, _, _⟩ := Xp.readyRec_fields env s er
  refine ⟨by rw [readyP_experts]; simp, fun e' => ?_⟩
  by_cases hee : e' = e
  · subst hee
    rw [readyP_get env n he, he]
    simp only [Option.map_some, xSS, f4, f5]
  · rw [readyP_get_ne env n e s er hee]

theorem readyP_df (he : s.experts[e]? = some er) : DFX s (readyP env n e s er) :=
  ⟨readyP_size env n e s er, readyP_kind env n e s er,
    ⟨readyP_size env n e s er, rfl, fun m => by rw [readyP_nodeD, started_nodeD]; split <;> rfl⟩,
    readyP_xs env n he, rfl,
    ⟨rfl, rfl, rfl, rfl, rfl, fun m => by rw [readyP_nodeD, started_nodeD]; split <;> rfl, fun _ => rfl⟩, rfl⟩

end

/-! ## the theorem -/

/-- **a run of an expert node of a per-key operator** -/
theorem xStepSpec (env : Env) : XStepSpec env := by
  intro fuel n e s s' r D N hk h
  have hslots : SlotInv env s' := step_slots D (fun op args hm => by rw [hk] at hm; cases hm) h
  have I := D.inv
  have A := D.aux
  have F := A.frag
  obtain ⟨er, v, ch, he, hnode, hv, hrun, fr', R⟩ := xstep_rel D hk h
  -- the target
  have ht : BindH.TargetB (penv env) (V s) n v := by
    obtain ⟨hpk, -, -⟩ := F.xok e er he
    cases hp : er.pk with
    | none => rw [hp] at hpk; cases hpk
    | some p =>
      obtain ⟨op, ko⟩ := p
      cases ko with
      | none => exact target_result D hk he hnode hp hv
      | some key => exact (target_input D hk he hp hv).1
  have I' := BindH.stepB_inv I ht R
  -- frames
  have df : DFX s s' := (readyP_df env n he).trans (DFX.maybeChangeValue hrun)
  have G : XG s s' := (readyP_xg env n he).trans (XG.of_xf ((PresX.maybeChangeValue env fuel n v).h _ _ _ hrun))
  have hpkeys : s'.perkeys = s.perkeys := (KQ.maybeChangeValue env fuel n v).h (readyP env n e s er) _ _ hrun
  have hsh : ∀ m, SameShape ((V s).nodeD m) ((V s').nodeD m) := R.shapes
  have hkD := df.keyD
  simp only [KeyD, stateKeyD, Prod.mk.injEq] at hkD
  obtain ⟨k1, -, k3, k4, -⟩ := hkD
  have hvars : s'.vars = s.vars := R.vars
  have hobs : ∀ m, (s'.nodeD m).observers = (s.nodeD m).observers := fun m => (shape_actualV hsh m).2.2.2.2.2.1
  have F' : PFrag env s' := F.of_xg G fr'.pc fr'.valid fr'.ni
    (fun m => have h := shape_actualV hsh m; ⟨h.2.2.1, h.1, h.2.2.2.2.2.2⟩) k3
  -- values of the other nodes
  have hval : ∀ m, m ≠ n → (s'.nodeD m).value = (s.nodeD m).value := by
    intro m hm
    have := (R.other m hm).value
    rw [V_nodeD, V_nodeD] at this
    exact this
  have hvalX : ∀ m, (∀ e', (s.nodeD m).kind ≠ .expert e') → (s'.nodeD m).value = (s.nodeD m).value := by
    intro m hne
    apply hval
    intro hmn; subst hmn
    exact hne e hk
  -- the bookkeeping
  have hconv : ∀ (op : Nat) (pr : PerKeyRec), s.perkeys[op]? = some pr →
      (s'.nodeD (pr.result - 1)).value = (s.nodeD (pr.result - 1)).value := by
    intro op pr hp
    obtain ⟨x, e2, er2, hN, -⟩ := (A.pk.ops op pr hp).nodes
    exact hvalX _ (fun e' he' => by rw [hN.conv] at he'; cases he')
  have P' : PKOK env s' := by
    refine A.pk.of_xg G hpkeys k4 (fun op pr hp x hx => by rw [hobs]; exact (A.pk.ops op pr hp).noObs x hx)
      (fun o ob ho => by rw [k1] at ho; exact A.pk.obsTop o ob ho) (fun op pr hp hs => ?_)
      (fun op pr hp v hv => by rw [hconv op pr hp] at hv; exact A.pk.maps op pr hp v hv)
      (fun op pr e2 er2 key p d _ hp hres he2 hm _ _ h0 => ?_)
    · rw [hconv op pr hp]
      refine (A.pk.ops op pr hp).input ?_
      obtain ⟨x, e2, er2, hN, -⟩ := (A.pk.ops op pr hp).nodes
      have hlck : (s.nodeD pr.lhsChange).kind = .map (fnPerKey + op) [pr.result - 1] := by
        rw [hN.lc]; exact hN.lcKind
      have hlt : pr.lhsChange < s.nodes.size := by rw [hN.lc]; have := hN.lt; omega
      have hne : pr.lhsChange ≠ n := by
        intro hh; rw [hh, hk] at hlck; cases hlck
      have hvalid : ((V s).nodeD pr.lhsChange).valid = true := by
        rw [V_nodeD, vNode_valid]; exact F.valid _ hlt
      rw [← V_isStale s]
      rw [← V_isStale s'] at hs
      rcases BindH.stepB_stale_other I R hne (by rw [V_size]; exact hlt) hvalid with h1 | ⟨-, h2, -⟩
      · rw [← h1.1]; exact hs
      · exfalso
        rw [children_eq_kids (V s) _ hvalid (staticKind_VD F _), V_kids, hlck] at h2
        simp only [ExpertH.kidsX, List.mem_singleton] at h2
        have hc := hN.conv
        rw [← h2, hk] at hc
        cases hc
    · -- the semantic link of the per-key input nodes: the node that ran is necessary, hence used by its instance
      by_cases hpn : p = n
      · subst hpn
        have hnec : s.isNecessary p = true := by
          have := (I.cur p rfl).1
          rwa [V_isNecessary] at this
        exact Or.inr (priv_nec_below D hp hm hres he2 hnec)
      · exact Or.inl (by rw [(R.other p hpn).recomputedAt]; exact h0)
  have N' : NoRem s' := N.of_frame G.kind hpkeys hvars hvalX
  exact ⟨⟨I', A.of_dfx df hsh fr' hvars F' P' hslots⟩, N',
    PStep.of_dfx A df hsh fr' hvars R.stabNum R.qsize R.frame, R.recomputedAt.trans (V_stabNum s)⟩

end IncrVerif.Proofs.PerKeyH
