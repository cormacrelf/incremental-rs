import IncrVerif.Proofs.NestH76
import IncrVerif.Proofs.NestH41
/-!
# Total correctness for binds (F1 ⊂ F2), part b1: the notification walk of `maybe_change_value_manual` never panics

The safety lemmas of `Sched10`/`Sched11` (`ParentSafe`, `KInv.insert_run`, `KInv.picrn_run`, `mcvm_safe`) for graphs with (nested) binds in place of static graphs:
the parents of the changed node may be `bindLhsChange`/`bindMain` nodes and nodes of scopes.

* `T2b.ParentSafe2 env T n p`: what the walk needs of a parent `p` of the changed node `n`, in the state `T` in which the notification starts
  (value stored, `changedAt` stamped);
* `T2b.mcvm_noerr`: with `1 ≤ fuel`, a propagating `maybe_change_value_manual` whose parents are all `ParentSafe2` does not end in a panic.
-/
namespace IncrVerif.Proofs.NestH
open IncrVerif.Engine IncrVerif.Proofs IncrVerif.Proofs.Step IncrVerif.Proofs.Sched IncrVerif.Proofs.Quiet
open IncrVerif.Proofs.BindH
namespace T2b

/-- a run that cannot end in a panic returns -/
theorem tot_of_noerr {α} {x : M α} {s : State} (h : ∀ e s', x.run.run s ≠ (.error e, s')) :
    Tot x s (fun _ _ => True) := by
  rcases hx : x.run.run s with ⟨e | a, s'⟩
  · exact absurd hx (h e s')
  · exact ⟨a, s', hx, trivial⟩

/-- `child_changed` on a valid parent of a kind of the bind fragment returns at once (when there is fuel) -/
theorem childChanged_bkind_run {env : Env} {fuel p c ci : Nat} {o : Option Val} {t : State} {pn : Node}
    (hp : t.nodes[p]? = some pn) (hv : pn.valid = true) (hk : BKind env pn.kind) :
    (childChanged env (fuel + 1) p c ci o).run.run t = (.ok (), t) := by
  unfold childChanged
  rw [run_bind_ok (run_getNode_some hp)]
  rw [BS.kind?_of_valid hv]
  cases hkd : pn.kind <;> rw [hkd] at hk <;> first | rfl | exact False.elim hk

/-- what the walk needs of a parent `p` of `n`, in the state `T` in which the notification starts -/
structure ParentSafe2 (env : Env) (T : State) (n p : Nat) : Prop where
  ok : BS.ParentOK env T p
  child : n ∈ T.children p
  nlt : n < T.nodes.size
  stale : (T.nodeD p).recomputedAt < (T.nodeD n).changedAt
  h0 : 0 ≤ (T.nodeD p).height
  hmax : (T.nodeD p).height ≤ T.rch.maxAllowed
  /-- the scope of the parent: the record and the change detector exist -/
  scope : ∀ b, (T.nodeD p).createdIn = .bind b → ∃ br, T.binds[b]? = some br ∧ br.lhsChange < T.nodes.size
  /-- the change detector of a main node exists -/
  main : ∀ b lc, (T.nodeD p).kind = .bindMain b lc → lc < T.nodes.size

/-- the child list of a parent does not change during the walk -/
theorem children_quiet {env : Env} {T t : State} {p : Nat} (ok : BS.ParentOK env T p) (q : Quiet T t) :
    t.children p = T.children p :=
  children_congr_kind (q.node p).kind (q.node p).valid q.binds (fun e => ok.kind.not_expert e)

/-- a parent of the changed node needs to be computed, throughout the notification walk -/
theorem ParentSafe2.needs {env : Env} {T t : State} {n p : Nat} (h : ParentSafe2 env T n p) (q : Quiet T t) :
    t.needsToBeComputed p = true := by
  have ok := h.ok.quiet q
  have hst : t.isStale p = true := by
    apply isStale_of_child (c := n) ok.valid
    · rw [children_quiet h.ok q]; exact h.child
    · rw [(q.node n).changedAt, (q.node p).recomputedAt]; exact h.stale
  unfold State.needsToBeComputed
  rw [ok.nec, hst]; rfl

/-- `insert p` for a not yet queued parent `p`, during the walk -/
theorem insert_run2 {env : Env} {T t : State} {P : List Nat} {n p : Nat} {nd : Node}
    (k : KInv T P t) (hp : ParentSafe2 env T n p) (hmem : p ∈ P) (hnd : t.nodes[p]? = some nd)
    (hnot : nd.inRch = false) :
    (rchInsert p).run.run t = (.ok (), inserted p nd.height t) ∧ KInv T P (inserted p nd.height t) := by
  have e : t.nodeD p = nd := nodeD_of_some hnd
  have hh : nd.height = (T.nodeD p).height := by rw [← e]; exact (k.q.node p).height
  have h0 : 0 ≤ nd.height := by rw [hh]; exact hp.h0
  have hmax : nd.height ≤ t.rch.maxAllowed := by rw [hh, k.maxAllowed]; exact hp.hmax
  exact ⟨rchInsert_safe_run hnd hnot (hp.needs k.q) h0 hmax,
    BS.kinv_inserted k (hp.ok.quiet k.q).nec hmem hnd hnot h0 hmax⟩

/-- `parent_iter_can_recompute_now p0 n` for a not queued parent `p0` of `n`, during the walk: no assertion fails, no lookup fails -/
theorem picrn_run2 {env : Env} {T t : State} {P : List Nat} {n p0 : Nat} {pn : Node}
    (k : KInv T P t) (hp : ParentSafe2 env T n p0) (hmem : p0 ∈ P)
    (hpn : t.nodes[p0]? = some pn) (hnot : pn.inRch = false) :
    ∃ b t', (parentIterCanRecomputeNow p0 n).run.run t = (.ok b, t') ∧ KInv T P t' := by
  have e : t.nodeD p0 = pn := nodeD_of_some hpn
  have ok := hp.ok.quiet k.q
  have hv : pn.valid = true := by rw [← e]; exact ok.valid
  have hk? : pn.kind? = some pn.kind := BS.kind?_of_valid hv
  have hkB : BKind env pn.kind := by rw [← e]; exact ok.kind
  have hkT : pn.kind = (T.nodeD p0).kind := by rw [← e]; exact (k.q.node p0).kind
  have hnt : n < t.nodes.size := by rw [k.q.size]; exact hp.nlt
  have hchild : n ∈ t.children p0 := by rw [children_quiet hp.ok k.q]; exact hp.child
  have hsc : ∃ sh, scopeHeightOf t pn.createdIn = .ok sh := by
    cases hci : pn.createdIn with
    | top => exact ⟨_, rfl⟩
    | bind b =>
      obtain ⟨br, hb, hl⟩ := hp.scope b (by rw [← (k.q.node p0).createdIn, e]; exact hci)
      have hb' : t.binds[b]? = some br := by rw [k.q.binds]; exact hb
      have hl' : br.lhsChange < t.nodes.size := by rw [k.q.size]; exact hl
      simp only [scopeHeightOf, hb', some_of_lt hl']
      exact ⟨_, rfl⟩
  have hcan : ∃ can, canRecomputeNow t pn pn.kind (t.nodeD n).height (minHeightOf t) = .ok can := by
    obtain ⟨sh, hsh⟩ := hsc
    cases hkd : pn.kind <;> rw [hkd] at hkB
    case const =>
      simp only [State.children, e, hk?, hkd] at hchild; cases hchild
    case var =>
      simp only [State.children, e, hk?, hkd] at hchild; cases hchild
    case fold => exact ⟨_, rfl⟩
    case map f args =>
      simp only [canRecomputeNow]
      split
      · exact ⟨_, rfl⟩
      · rw [hsh]; exact ⟨_, rfl⟩
    case bindLhsChange b =>
      simp only [canRecomputeNow]
      rw [hsh]; exact ⟨_, rfl⟩
    case bindMain b lc =>
      have hl : lc < t.nodes.size := by rw [k.q.size]; exact hp.main b lc (by rw [← hkT]; exact hkd)
      simp only [canRecomputeNow, some_of_lt hl]
      exact ⟨_, rfl⟩
    all_goals exact False.elim hkB
  obtain ⟨can, hcan⟩ := hcan
  rw [Step.picrn_run, hpn]
  simp only [hk?, some_of_lt hnt, hcan]
  by_cases h1 : (can || decide (pn.height ≤ minHeightOf t)) = true
  · rw [if_pos h1]; exact ⟨_, _, rfl, k.withMinHeight⟩
  rw [if_neg h1]
  have k' := k.withMinHeight
  have hneeds : t.needsToBeComputed p0 = true := hp.needs k.q
  rw [if_neg (by rintro ⟨-, h⟩; rw [hneeds] at h; cases h),
    if_neg (by rintro ⟨-, h⟩; rw [hnot] at h; cases h)]
  obtain ⟨hrun, k''⟩ := insert_run2 k' hp hmem (show (Step.withMinHeight t).nodes[p0]? = some pn from hpn) hnot
  rw [hrun]
  exact ⟨_, _, rfl, k''⟩

/-- the notification part of a propagating `maybe_change_value_manual` (parents of kinds of the bind fragment), with fuel: no panic -/
theorem mcvm_noerr {env : Env} {fuel n : Nat} {o : Option Val} {T0 s' : State} {e : Panic}
    (hn : n < T0.nodes.size)
    (hi : HeapInv (touched n T0))
    (hpar : ∀ p, p ∈ ((touched n T0).nodeD n).parents.map (·.1) → ParentSafe2 env (touched n T0) n p)
    (hf : 1 ≤ fuel)
    (h : (maybeChangeValueManual env fuel n o true true).run.run T0 = (.error e, s')) : False := by
  obtain ⟨fuel, rfl⟩ : ∃ k, fuel = k + 1 := ⟨fuel - 1, by omega⟩
  have hnT : n < (touched n T0).nodes.size := by simpa [touched] using hn
  generalize hT : touched n T0 = T at hi hpar hnT
  generalize hP : (T.nodeD n).parents.map (·.1) = P at hpar
  unfold maybeChangeValueManual at h
  simp only [Bool.not_true, Bool.false_eq_true, if_false, if_true, run_bind_get, run_bind_modNode,
    run_bind_bumpCounter] at h
  change StateT.run (ExceptT.run _) (touched n T0) = _ at h
  rw [hT] at h
  refine Runs.err (P := fun _ => False) (Q := fun _ _ => True) ?_ h
  -- handler bookkeeping
  obtain ⟨s1, h1⟩ := mhas_ok hnT
  have k1 : KInv T P s1 := (KInv.refl P hi).mhas h1
  refine Runs.bind (Runs.of_ok (Q := fun _ t => KInv T P t) h1 k1) ?_
  clear h1 k1 s1
  intro _ s0 k1
  have hn1 : n < s0.nodes.size := by rw [k1.q.size]; exact hnT
  refine Runs.bind (Runs.getNode (Q := fun nd t => t = s0 ∧ nd = s0.nodeD n) (some_of_lt hn1) ⟨rfl, rfl⟩) ?_
  rintro nd1 s1 ⟨rfl, rfl⟩
  rw [(k1.q.node n).parents]
  rcases hps : (T.nodeD n).parents with _ | ⟨⟨p0, ci0⟩, rest⟩
  · exact Runs.pure trivial
  rw [hps] at hP
  dsimp only
  have hmem0 : p0 ∈ P := by rw [← hP]; simp
  have hmemr : ∀ a, a ∈ rest → a.1 ∈ P := by
    intro a ha; rw [← hP]; exact List.mem_cons_of_mem _ (List.mem_map_of_mem ha)
  -- the loop over the other parents
  refine Runs.bind (Runs.forIn (KInv T P) _ rest ?_ s1 k1) ?_
  · intro a ha t k
    obtain ⟨p, ci⟩ := a
    have hpS := hpar p (hmemr _ ha)
    have hpt := hpS.ok.quiet k.q
    have hpn := some_of_lt hpt.lt
    refine Runs.bind (Runs.of_ok (Q := fun _ t' => t' = t) (childChanged_bkind_run hpn hpt.valid hpt.kind) rfl) ?_
    rintro _ t' rfl
    refine Runs.bind_get (Runs.bind_dassert (hpS.needs k.q) (Runs.bind_getNode hpn ?_))
    split
    · rename_i hin
      obtain ⟨hrun, k'⟩ := insert_run2 k hpS (hmemr _ ha) hpn (by simpa using hin)
      exact Runs.bind_ok hrun (Runs.pure k')
    · exact Runs.pure k
  -- the first parent
  intro _ s2 k2
  have hp0S := hpar p0 hmem0
  have hp0 := hp0S.ok.quiet k2.q
  have hpn0 := some_of_lt hp0.lt
  refine Runs.bind (Runs.of_ok (Q := fun _ t' => t' = s2) (childChanged_bkind_run hpn0 hp0.valid hp0.kind) rfl) ?_
  rintro _ t' rfl
  refine Runs.bind_get (Runs.bind_dassert (hp0S.needs k2.q) (Runs.bind_getNode hpn0 ?_))
  split
  · rename_i hin
    obtain ⟨b, t2, hrun, -⟩ := picrn_run2 k2 hp0S hmem0 hpn0 (by simpa using hin)
    refine Runs.bind_ok hrun ?_
    split <;> exact Runs.pure trivial
  · exact Runs.pure trivial

end T2b
end IncrVerif.Proofs.NestH
