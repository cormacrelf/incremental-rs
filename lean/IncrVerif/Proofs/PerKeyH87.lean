import IncrVerif.Proofs.PerKeyH86
import IncrVerif.Proofs.PerKeyH11
/-!
# Per-key operators, API actions part 4: creation of a static node, the run

`CF k s s'`: `s'` is `s` plus one fresh top-level node of kind `k` (and, for a `var`, its cell), named in `top`.
`create_cf`: what `stepAction env (.create i)` does for a static instruction of the fragment.
-/
namespace IncrVerif.Proofs.PerKeyH
open IncrVerif.Engine IncrVerif.Driver IncrVerif.Proofs IncrVerif.Proofs.Step IncrVerif.Proofs.Sched
open IncrVerif.Proofs.ExpertH IncrVerif.Proofs.EffH IncrVerif.Proofs.DriverH

def cKey (s : State) := (s.experts, s.perkeys, s.currentScope, s.panicCountdown, s.nextDep, s.ahh, s.stabNum,
  s.propagateInvalidity, s.status, s.observers)

structure CF (k : Kind) (s s' : State) : Prop where
  nodes : s'.nodes = s.nodes.push (QR.newNode k)
  vars : ((∀ c, k ≠ .var c) ∧ s'.vars = s.vars) ∨
    ∃ v, k = .var s.vars.size ∧ s'.vars = s.vars.push { value := v, setAt := s.stabNum, node := s.nodes.size }
  top : s'.top = s.top.push s.nodes.size
  key : cKey s' = cKey s

namespace CF
variable {k : Kind} {s s' : State}

theorem size (C : CF k s s') : s'.nodes.size = s.nodes.size + 1 := by rw [C.nodes, Array.size_push]
theorem nodeD_new (C : CF k s s') : s'.nodeD s.nodes.size = QR.newNode k := by
  simp only [State.nodeD, C.nodes, Array.getElem?_push, if_true, Option.getD_some]
theorem nodeD_old (C : CF k s s') {m : Nat} (h : m ≠ s.nodes.size) : s'.nodeD m = s.nodeD m := by
  simp only [State.nodeD, C.nodes, Array.getElem?_push, if_neg h]
theorem nodeD_lt (C : CF k s s') {m : Nat} (h : m < s.nodes.size) : s'.nodeD m = s.nodeD m :=
  C.nodeD_old (by omega)
theorem experts (C : CF k s s') : s'.experts = s.experts := by
  have := C.key; simp only [cKey, Prod.mk.injEq] at this; exact this.1
theorem perkeys (C : CF k s s') : s'.perkeys = s.perkeys := by
  have := C.key; simp only [cKey, Prod.mk.injEq] at this; exact this.2.1
theorem currentScope (C : CF k s s') : s'.currentScope = s.currentScope := by
  have := C.key; simp only [cKey, Prod.mk.injEq] at this; exact this.2.2.1
theorem panicCountdown (C : CF k s s') : s'.panicCountdown = s.panicCountdown := by
  have := C.key; simp only [cKey, Prod.mk.injEq] at this; exact this.2.2.2.1
theorem nextDep (C : CF k s s') : s'.nextDep = s.nextDep := by
  have := C.key; simp only [cKey, Prod.mk.injEq] at this; exact this.2.2.2.2.1
theorem ahh (C : CF k s s') : s'.ahh = s.ahh := by
  have := C.key; simp only [cKey, Prod.mk.injEq] at this; exact this.2.2.2.2.2.1
theorem observers (C : CF k s s') : s'.observers = s.observers := by
  have := C.key; simp only [cKey, Prod.mk.injEq] at this; exact this.2.2.2.2.2.2.2.2.2
theorem vars_old (C : CF k s s') {c : Nat} {vc : VarCell} (h : s.vars[c]? = some vc) : s'.vars[c]? = some vc := by
  rcases C.vars with ⟨-, e⟩ | ⟨v, -, e⟩
  · rw [e]; exact h
  · have hc : c < s.vars.size := (Array.getElem?_eq_some_iff.1 h).1
    rw [e, Array.getElem?_push, if_neg (by omega)]; exact h
theorem top_old (C : CF k s s') {j n : Nat} (h : s.top[j]? = some n) : s'.top[j]? = some n := by
  have hc : j < s.top.size := (Array.getElem?_eq_some_iff.1 h).1
  rw [C.top, Array.getElem?_push, if_neg (by omega)]; exact h
theorem top_inv (C : CF k s s') {j n : Nat} (h : s'.top[j]? = some n) : s.top[j]? = some n ∨ n = s.nodes.size := by
  rw [C.top, Array.getElem?_push] at h
  split at h
  · right; cases h; rfl
  · left; exact h

end CF

/-! ## the run -/

/-- the kinds a static instruction of the fragment creates: not an expert node, not a change detector -/
def PlainKind : Kind → Prop
  | .expert _ => False
  | .map f _ => f < fnPerKey
  | _ => True

theorem createNode_cf {k : Kind} {s s1 : State} {n : Nat} (hk : ∀ c, k ≠ .var c)
    (h : (createNode k .top).run.run s = (.ok n, s1)) :
    n = s.nodes.size ∧ s1.nodes = s.nodes.push (QR.newNode k) ∧ s1.vars = s.vars ∧ s1.top = s.top ∧
      cKey s1 = cKey s ∧ s1.handles = s.handles := by
  rw [QR.createNode_top_run] at h
  cases h
  exact ⟨rfl, rfl, rfl, rfl, rfl, rfl⟩

theorem createVar_cf {v : Val} {s s1 : State} {n : Nat}
    (h : (createVar v .top).run.run s = (.ok n, s1)) :
    n = s.nodes.size ∧ s1.nodes = s.nodes.push (QR.newNode (.var s.vars.size)) ∧
      s1.vars = s.vars.push { value := v, setAt := s.stabNum, node := s.nodes.size } ∧ s1.top = s.top ∧
      cKey s1 = cKey s := by
  rw [QR.createVar_top_run] at h
  cases h
  exact ⟨rfl, rfl, rfl, rfl, rfl⟩

theorem mapM_resolve_top {s : State} (l : List Opnd) (r : List Nat) (s1 : State) (hl : ∀ a, a ∈ l → QR.OpndOK a)
    (h : (l.mapM (fun o => resolveOpnd [] o)).run.run s = (.ok r, s1)) :
    s1 = s ∧ ∀ c, c ∈ r → ∃ j : Nat, s.top[j]? = some c := by
  obtain ⟨et, -, -, hmem⟩ := mapM_resolve_inv l r s1
    (fun a ha => by have := hl a ha; cases a <;> first | trivial | exact this.elim) h
  refine ⟨et, fun c hc => ?_⟩
  obtain ⟨a, ha, hr⟩ := hmem c hc
  have := hl a ha
  cases a <;> first | exact ⟨_, hr⟩ | exact this.elim

/-- the static instructions of the fragment -/
def PStatic : Instr → Prop
  | .const _ | .var _ | .map _ _ | .fold _ _ _ | .zip _ _ => True
  | _ => False

/-- what the elaboration of a static instruction of the fragment does -/
theorem elab_cf {env : Env} {s s1 : State} {i : Instr} {ro : Option Nat} (hsc : s.currentScope = .top)
    (hi : PInstrOK env s i) (hst : PStatic i) (h : (elabInstrM env [] .unit i).run.run s = (.ok ro, s1)) :
    ∃ k, ro = some s.nodes.size ∧ PKind env k ∧ PlainKind k ∧ (∀ c, c ∈ kids k → ∃ j : Nat, s.top[j]? = some c) ∧
      s1.nodes = s.nodes.push (QR.newNode k) ∧
      (((∀ c, k ≠ .var c) ∧ s1.vars = s.vars) ∨
        ∃ v, k = .var s.vars.size ∧ s1.vars = s.vars.push { value := v, setAt := s.stabNum, node := s.nodes.size }) ∧
      s1.top = s.top ∧ cKey s1 = cKey s := by
  cases i with
  | const v =>
    unfold elabInstrM at h
    simp only at h
    unfold elabInstr at h
    rw [run_bind_get] at h
    simp only [hsc] at h
    obtain ⟨n, h1, e⟩ := map_ok_inv h
    obtain ⟨en, C⟩ := createNode_cf (by intro c e; cases e) h1
    exact ⟨.const v, by rw [e, en], trivial, trivial, (fun c hc => by cases hc), C.1, Or.inl ⟨(by intro c e; cases e), C.2.1⟩,
      C.2.2.1, C.2.2.2.1⟩
  | var v =>
    unfold elabInstrM at h
    simp only at h
    unfold elabInstr at h
    rw [run_bind_get] at h
    simp only at h
    obtain ⟨n, h1, e⟩ := map_ok_inv h
    obtain ⟨en, C⟩ := createVar_cf h1
    exact ⟨.var s.vars.size, by rw [e, en], trivial, trivial, (fun c hc => by cases hc), C.1,
      Or.inr ⟨v, rfl, C.2.1⟩, C.2.2.1, C.2.2.2⟩
  | map f args =>
    unfold elabInstrM at h
    simp only at h
    unfold elabInstr at h
    rw [run_bind_get] at h
    simp only [hsc] at h
    obtain ⟨as, t, h1, h2⟩ := bind_ok_inv h
    obtain ⟨et, has⟩ := mapM_resolve_top args as t hi.2.2 h1
    rw [et] at h2
    obtain ⟨n, h3, e⟩ := map_ok_inv h2
    obtain ⟨en, C⟩ := createNode_cf (by intro c e; cases e) h3
    have hf : f < fnPerKey := Nat.lt_trans hi.1 (by decide)
    exact ⟨.map f as, by rw [e, en], Or.inl ⟨hi.1, hi.2.1⟩, hf, has, C.1, Or.inl ⟨(by intro c e; cases e), C.2.1⟩,
      C.2.2.1, C.2.2.2.1⟩
  | fold f init cs =>
    unfold elabInstrM at h
    simp only at h
    unfold elabInstr at h
    rw [run_bind_get] at h
    simp only [hsc] at h
    obtain ⟨as, t, h1, h2⟩ := bind_ok_inv h
    obtain ⟨et, has⟩ := mapM_resolve_top cs as t hi.2 h1
    rw [et] at h2
    split at h2
    · obtain ⟨n, h3, e⟩ := map_ok_inv h2
      obtain ⟨en, C⟩ := createNode_cf (by intro c e; cases e) h3
      exact ⟨.const init, by rw [e, en], trivial, trivial, (fun c hc => by cases hc), C.1,
        Or.inl ⟨(by intro c e; cases e), C.2.1⟩, C.2.2.1, C.2.2.2.1⟩
    · obtain ⟨n, h3, e⟩ := map_ok_inv h2
      obtain ⟨en, C⟩ := createNode_cf (by intro c e; cases e) h3
      exact ⟨.fold f init as, by rw [e, en], hi.1, trivial, has, C.1, Or.inl ⟨(by intro c e; cases e), C.2.1⟩,
        C.2.2.1, C.2.2.2.1⟩
  | zip a b =>
    unfold elabInstrM at h
    simp only at h
    unfold elabInstr at h
    rw [run_bind_get] at h
    simp only [hsc] at h
    obtain ⟨na, t, h1, h2⟩ := bind_ok_inv h
    obtain ⟨et, ka, hka⟩ := QR.resolveOpnd_outer_inv hi.1 h1
    rw [et] at h2
    obtain ⟨nb, t, h1, h2⟩ := bind_ok_inv h2
    obtain ⟨et, kb, hkb⟩ := QR.resolveOpnd_outer_inv hi.2 h1
    rw [et] at h2
    obtain ⟨ca, t, h1, h2⟩ := bind_ok_inv h2
    rw [isConstant_ok_inv h1] at h2
    obtain ⟨cb, t, h1, h2⟩ := bind_ok_inv h2
    rw [isConstant_ok_inv h1] at h2
    split at h2
    · obtain ⟨n, h3, e⟩ := map_ok_inv h2
      obtain ⟨en, C⟩ := createNode_cf (by intro c e; cases e) h3
      rename_i va vb _ _
      exact ⟨.const (.pair va vb), by rw [e, en], trivial, trivial, (fun c hc => by cases hc), C.1,
        Or.inl ⟨(by intro c e; cases e), C.2.1⟩, C.2.2.1, C.2.2.2.1⟩
    · obtain ⟨n, h3, e⟩ := map_ok_inv h2
      obtain ⟨en, C⟩ := createNode_cf (by intro c e; cases e) h3
      refine ⟨.map fnZip [na, nb], by rw [e, en], Or.inr (Or.inl rfl), (by decide : fnZip < fnPerKey), ?_, C.1,
        Or.inl ⟨(by intro c e; cases e), C.2.1⟩, C.2.2.1, C.2.2.2.1⟩
      intro c hc
      simp only [kids, List.mem_cons, List.not_mem_nil, or_false] at hc
      rcases hc with e | e
      · rw [e]; exact ⟨ka, hka⟩
      · rw [e]; exact ⟨kb, hkb⟩
  | _ => exact hst.elim

/-- **what `create` of a static instruction of the fragment does** -/
theorem create_cf {env : Env} {s s' : State} {i : Instr} {tk : Array Nat} {r : String × Array Nat}
    (hsc : s.currentScope = .top) (hi : PInstrOK env s i) (hst : PStatic i)
    (h : (stepAction env (.create i) tk).run.run s = (.ok r, s')) :
    ∃ k, PKind env k ∧ PlainKind k ∧ (∀ c, c ∈ kids k → ∃ j : Nat, s.top[j]? = some c) ∧ CF k s s' := by
  obtain ⟨ro, s1, h1, h2⟩ := Hist.stepAction_create_ok.1 h
  obtain ⟨k, rfl, hk, hp, hkids, hn, hv, ht, hkey⟩ := elab_cf hsc hi hst h1
  obtain ⟨rfl, -⟩ := h2
  exact ⟨k, hk, hp, hkids, ⟨hn, hv, by show s1.top.push _ = _; rw [ht], hkey⟩⟩

end IncrVerif.Proofs.PerKeyH
