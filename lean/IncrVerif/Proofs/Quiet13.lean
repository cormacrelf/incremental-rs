import IncrVerif.Proofs.Quiet9
import IncrVerif.Proofs.CutH19
import IncrVerif.Engine.Run
/-!
# Part 12: the prefix of `stabilise`: `addNewObservers`, `unlinkDisallowedObservers`
-/
namespace IncrVerif.Proofs.Quiet
open IncrVerif.Engine IncrVerif.Driver IncrVerif.Proofs IncrVerif.Proofs.Step IncrVerif.Proofs.Sched

/-- the invariant during the prefix of `stabilise`: `pn` / `pd` are the observers still to be added / unlinked -/
structure SInv (env : Env) (s : State) (pn pd : List Nat) : Prop where
  struct : Struct env s
  obs : ObsInv s pn pd
  pinv : s.propagateInvalidity = []
  handlers : ∀ m, (s.nodeD m).numOnUpdateHandlers ≤ 0

theorem SInv.toC {env : Env} {s : State} {pn pd : List Nat} (I : SInv env s pn pd) : CutH.SInv env s pn pd :=
  ⟨GInv.toC I.struct, I.obs.toC, I.pinv, I.handlers⟩
theorem SInv.ofC {env : Env} {s : State} {pn pd : List Nat} (I : CutH.SInv env s pn pd) (E : EqCut s) : SInv env s pn pd :=
  ⟨GInv.ofC I.struct E, .ofC I.obs, I.pinv, I.handlers⟩


/-- how `addNewObservers` changes the state of an observer -/
def addedState : ObsState → ObsState
  | .created => .inUse
  | x => x

/-- how `unlinkDisallowedObservers` changes the state of an observer -/
def unlinkedState : ObsState → ObsState
  | .disallowed => .unlinked
  | x => x

/-- observer records: same number, same nodes, states mapped by `f` -/
def ObsMap (f : ObsState → ObsState) (s s' : State) : Prop :=
  s'.observers.size = s.observers.size ∧
  ∀ (o : Nat) (ob : ObsRec), s.observers[o]? = some ob →
    ∃ ob', s'.observers[o]? = some ob' ∧ ob'.node = ob.node ∧ ob'.state = f ob.state

namespace P12

/-! ## the observer records after the state of one observer was set -/

/-- `t'` has the observer records of `t`, except that the state of `o` is now `x` -/
structure ObsSet (o : Nat) (x : ObsState) (t t' : State) : Prop where
  self : ∀ ob, t.observers[o]? = some ob → t'.observers[o]? = some { ob with state := x }
  other : ∀ o', o' ≠ o → t'.observers[o']? = t.observers[o']?
  size : t'.observers.size = t.observers.size

theorem ObsSet.toC {o : Nat} {x : ObsState} {t t' : State} (h : ObsSet o x t t') : CutH.P12.ObsSet o x t t' := ⟨h.self, h.other, h.size⟩
theorem ObsSet.ofC {o : Nat} {x : ObsState} {t t' : State} (h : CutH.P12.ObsSet o x t t') : ObsSet o x t t' := ⟨h.self, h.other, h.size⟩

theorem ObsSet.of_modify {o : Nat} {x : ObsState} {t t' : State}
    (h : t'.observers = t.observers.modify o fun y => { y with state := x }) : ObsSet o x t t' :=
  .ofC (CutH.P12.ObsSet.of_modify h)

theorem ObsSet.then_eq {o : Nat} {x : ObsState} {t t' t'' : State} (h : ObsSet o x t t')
    (e : t''.observers = t'.observers) : ObsSet o x t t'' :=
  ⟨fun ob hob => by rw [e]; exact h.self ob hob, fun o' ho' => by rw [e]; exact h.other o' ho', by rw [e]; exact h.size⟩

/-- the general shape of the observer records in terms of the old ones -/
theorem ObsSet.recs {o : Nat} {x : ObsState} {t t' : State} (h : ObsSet o x t t') (o' : Nat) (ob : ObsRec)
    (hob : t.observers[o']? = some ob) :
    ∃ ob', t'.observers[o']? = some ob' ∧ ob'.node = ob.node ∧ ob'.handlers = ob.handlers ∧
      ((o' ≠ o ∧ ob'.state = ob.state) ∨ (o' = o ∧ ob'.state = x)) :=
  h.toC.recs o' ob hob

/-- the converse: every new record comes from an old one -/
theorem ObsSet.back {o : Nat} {x : ObsState} {t t' : State} (h : ObsSet o x t t') (o' : Nat) (ob' : ObsRec)
    (hob : t'.observers[o']? = some ob') :
    ∃ ob, t.observers[o']? = some ob ∧ ob'.node = ob.node ∧ ob'.handlers = ob.handlers ∧
      ((o' ≠ o ∧ ob'.state = ob.state) ∨ (o' = o ∧ ob'.state = x)) :=
  h.toC.back o' ob' hob

/-! ## the observer bookkeeping through one iteration -/

/-- skipping an observer that is not `created` (it was dropped before it was ever linked) -/
theorem obsInv_skip_step {t : State} {o : Nat} {rest pd : List Nat} {ob : ObsRec}
    (O : ObsInv t (o :: rest) pd) (hob : t.observers[o]? = some ob) (hst : ob.state ≠ .created) :
    ObsInv t rest pd :=
  .ofC (CutH.P12.obsInv_skip_step O.toC hob hst)

/-- linking a `created` observer -/
theorem obsInv_add_step {t t' : State} {o : Nat} {rest pd : List Nat} {ob : ObsRec}
    (O : ObsInv t (o :: rest) pd) (hob : t.observers[o]? = some ob) (hst : ob.state = .created)
    (S : ObsSet o .inUse t t') (hsz : t'.nodes.size = t.nodes.size)
    (hself : (t'.nodeD ob.node).observers = (t.nodeD ob.node).observers ++ [o])
    (hoth : ∀ m, m ≠ ob.node → (t'.nodeD m).observers = (t.nodeD m).observers) :
    ObsInv t' rest pd :=
  .ofC (CutH.P12.obsInv_add_step O.toC hob hst S.toC hsz hself hoth)

/-- unlinking a `disallowed` observer -/
theorem obsInv_unlink_step {t t' : State} {o : Nat} {rest : List Nat} {ob : ObsRec}
    (O : ObsInv t [] (o :: rest)) (hob : t.observers[o]? = some ob)
    (S : ObsSet o .unlinked t t') (hsz : t'.nodes.size = t.nodes.size)
    (hself : (t'.nodeD ob.node).observers = (t.nodeD ob.node).observers.filter (· != o))
    (hoth : ∀ m, m ≠ ob.node → (t'.nodeD m).observers = (t.nodeD m).observers) :
    ObsInv t' [] rest :=
  .ofC (CutH.P12.obsInv_unlink_step O.toC hob S.toC hsz hself hoth)

/-! ## the explicit state updates of the two loop bodies (before the cascades) -/

/-- the state after the bookkeeping of `add_new_observers` for observer `o` of node `n` with `k` handlers -/
def obsAdded (o n : Nat) (k : Int) (t : State) : State :=
  { t with observers := t.observers.modify o (fun x => { x with state := .inUse }),
           allObservers := t.allObservers ++ [o],
           nodes := t.nodes.modify n fun x =>
             { x with observers := x.observers ++ [o], numOnUpdateHandlers := x.numOnUpdateHandlers + k } }

/-- the state after the bookkeeping of `unlink_disallowed_observers` for observer `o` of node `n` -/
def obsRemoved (o n : Nat) (k : Int) (t : State) : State :=
  { t with observers := t.observers.modify o (fun x => { x with state := .unlinked }),
           allObservers := t.allObservers.filter (· != o),
           nodes := t.nodes.modify n fun x =>
             { x with observers := x.observers.filter (· != o),
                      numOnUpdateHandlers := x.numOnUpdateHandlers - k } }

theorem obsAdded_nodeD (o n : Nat) (k : Int) (t : State) (m : Nat) :
    (obsAdded o n k t).nodeD m = if n = m ∧ m < t.nodes.size then
      { t.nodeD m with observers := (t.nodeD m).observers ++ [o],
                       numOnUpdateHandlers := (t.nodeD m).numOnUpdateHandlers + k } else t.nodeD m := by
  show ({ t with nodes := t.nodes.modify n _ } : State).nodeD m = _
  rw [nodeD_modify]

theorem obsRemoved_nodeD (o n : Nat) (k : Int) (t : State) (m : Nat) :
    (obsRemoved o n k t).nodeD m = if n = m ∧ m < t.nodes.size then
      { t.nodeD m with observers := (t.nodeD m).observers.filter (· != o),
                       numOnUpdateHandlers := (t.nodeD m).numOnUpdateHandlers - k } else t.nodeD m := by
  show ({ t with nodes := t.nodes.modify n _ } : State).nodeD m = _
  rw [nodeD_modify]

theorem obsAdded_upd {o n : Nat} {k : Int} {t : State} (hn : n < t.nodes.size) :
    NodeUpd n (fObservers ((t.nodeD n).observers ++ [o])) t (obsAdded o n k t) :=
  .ofC (CutH.P12.obsAdded_upd hn)

theorem obsRemoved_upd {o n : Nat} {k : Int} {t : State} (hn : n < t.nodes.size) :
    NodeUpd n (fObservers ((t.nodeD n).observers.filter (· != o))) t (obsRemoved o n k t) :=
  .ofC (CutH.P12.obsRemoved_upd hn)

theorem obsAdded_frame (o n : Nat) (t : State) : PFrame t (obsAdded o n ((0 : Nat) : Int) t) :=
  .ofC (CutH.P12.obsAdded_frame o n t)

theorem obsRemoved_frame (o n : Nat) (t : State) : PFrame t (obsRemoved o n ((0 : Nat) : Int) t) :=
  .ofC (CutH.P12.obsRemoved_frame o n t)

/-! ## the structural invariant through one iteration -/

theorem allClosed_low (n : Nat) : ∀ m, allClosed m ≠ .closed → n ≤ m := fun _ h => absurd rfl h

/-- the end of the body of `add_new_observers`: the link cascade if the node was not necessary -/
theorem struct_add {env : Env} {fuel n : Nat} {l : List Nat} {was : Bool} {t t4 t' : State}
    {r : ForInStep PUnit}
    (I : Struct env t) (U : NodeUpd n (fObservers l) t t4) (hl : l ≠ []) (hwas : was = t.isNecessary n)
    (hp : t4.propagateInvalidity = [])
    (h : (if (!was) = true then do
            becameNecessaryPropagate env fuel n
            pure (ForInStep.yield PUnit.unit)
          else pure (ForInStep.yield PUnit.unit)).run.run t4 = (.ok r, t')) :
    r = .yield PUnit.unit ∧ Struct env t' ∧ CFrame t4 t' ∧ t'.propagateInvalidity = [] ∧
      (∀ m, t4.isNecessary m = true → t'.isNecessary m = true) :=
  have ⟨hr, J, F, hp', hn⟩ := CutH.P12.struct_add (GInv.toC I) U.toC hl hwas hp h
  have F : CFrame t4 t' := .ofC F
  ⟨hr, GInv.ofC J (((GInv.eqCut I).upd U (keeps_fObservers l)).frame F), F, hp', hn⟩

/-- the end of the body of `unlink_disallowed_observers`: the unlink cascade if the node is no longer necessary -/
theorem struct_unlink {env : Env} {fuel n : Nat} {l : List Nat} {t t3 t' : State}
    (I : Struct env t) (U : NodeUpd n (fObservers l) t t3) (hn : t.isNecessary n = true)
    (h : (checkIfUnnecessary fuel n).run.run t3 = (.ok (), t')) :
    Struct env t' ∧ URel t3 t' :=
  have ⟨J, R⟩ := CutH.P12.struct_unlink (GInv.toC I) U.toC hn h
  have R : URel t3 t' := .ofC R
  ⟨GInv.ofC J (((GInv.eqCut I).upd U (keeps_fObservers l)).frame R.fr), R⟩

/-! ## frame accessors -/

theorem cf_obsArr {s s' : State} (h : CFrame s s') : s'.observers = s.observers := by
  have := h.key; simp only [stateKey, Prod.mk.injEq] at this; exact this.2.1
theorem cf_newObs {s s' : State} (h : CFrame s s') : s'.newObservers = s.newObservers := by
  have := h.key; simp only [stateKey, Prod.mk.injEq] at this; exact this.2.2.2.2.2.2.2.2.1
theorem cf_disObs {s s' : State} (h : CFrame s s') : s'.disallowedObservers = s.disallowedObservers := by
  have := h.key; simp only [stateKey, Prod.mk.injEq] at this; exact this.2.2.2.2.2.2.2.2.2.1
theorem pf_num {s s' : State} (h : PFrame s s') (m : Nat) :
    (s'.nodeD m).numOnUpdateHandlers = (s.nodeD m).numOnUpdateHandlers := by
  have := h.node m; simp only [nodeKeyP, Prod.mk.injEq] at this; exact this.2.2.2.2.2.2.2.2

/-! ## what one iteration (and hence the whole loop) does outside the invariant -/

/-- the state `b` of an observer is the state `a`, or `a = x` was turned into `y` -/
def StChg (x y a b : ObsState) : Prop := b = a ∨ (a = x ∧ b = y)

structure IterRel (x y : ObsState) (t t' : State) : Prop where
  frame : PFrame t t'
  newObs : t'.newObservers = t.newObservers
  disObs : t'.disallowedObservers = t.disallowedObservers
  size : t'.observers.size = t.observers.size
  recs : ∀ (o : Nat) (ob : ObsRec), t.observers[o]? = some ob →
    ∃ ob', t'.observers[o]? = some ob' ∧ ob'.node = ob.node ∧ StChg x y ob.state ob'.state

theorem IterRel.ofC {x y : ObsState} {t t' : State} (h : CutH.P12.IterRel x y t t') : IterRel x y t t' :=
  ⟨.ofC h.frame, h.newObs, h.disObs, h.size, h.recs⟩

theorem IterRel.refl (x y : ObsState) (t : State) : IterRel x y t t :=
  ⟨PFrame.refl t, rfl, rfl, rfl, fun _ ob h => ⟨ob, h, rfl, Or.inl rfl⟩⟩

theorem IterRel.trans {x y : ObsState} {a b c : State} (h1 : IterRel x y a b) (h2 : IterRel x y b c) :
    IterRel x y a c := by
  refine ⟨h1.frame.trans h2.frame, h2.newObs.trans h1.newObs, h2.disObs.trans h1.disObs,
    h2.size.trans h1.size, fun o ob h => ?_⟩
  obtain ⟨ob1, e1, n1, c1⟩ := h1.recs o ob h
  obtain ⟨ob2, e2, n2, c2⟩ := h2.recs o ob1 e1
  refine ⟨ob2, e2, n2.trans n1, ?_⟩
  rcases c1 with c1 | ⟨c1, c1'⟩
  · rw [c1] at c2; exact c2
  · rcases c2 with c2 | ⟨_, c2'⟩
    · exact Or.inr ⟨c1, c2.trans c1'⟩
    · exact Or.inr ⟨c1, c2'⟩

/-! ## one iteration of `add_new_observers` -/

theorem add_created {env : Env} {fuel o : Nat} {rest pd : List Nat} {t t4 t' : State} {ob : ObsRec}
    {was : Bool} {r : ForInStep PUnit}
    (I : SInv env t (o :: rest) pd) (hob : t.observers[o]? = some ob) (hst : ob.state = .created)
    (hwas : was = t.isNecessary ob.node)
    (h4 : (handleAfterStabilisation ob.node).run.run (obsAdded o ob.node ((0 : Nat) : Int) t) = (.ok (), t4))
    (h : (if (!was) = true then do
            becameNecessaryPropagate env fuel ob.node
            pure (ForInStep.yield PUnit.unit)
          else pure (ForInStep.yield PUnit.unit)).run.run t4 = (.ok r, t')) :
    r = .yield PUnit.unit ∧ SInv env t' rest pd ∧ IterRel .created .inUse t t' ∧
      (∀ m, t.isNecessary m = true → t'.isNecessary m = true) :=
  have ⟨hr, J, R, hn⟩ := CutH.P12.add_created I.toC hob hst hwas h4 h
  have R : IterRel .created .inUse t t' := .ofC R
  ⟨hr, .ofC J ((GInv.eqCut I.struct).pframe R.frame), R, hn⟩

/-! ## one iteration of `unlink_disallowed_observers` -/

theorem unlink_iter {env : Env} {fuel o : Nat} {rest : List Nat} {t t' : State} {ob : ObsRec}
    (I : SInv env t [] (o :: rest)) (hob : t.observers[o]? = some ob)
    (h : (checkIfUnnecessary fuel ob.node).run.run (obsRemoved o ob.node ((0 : Nat) : Int) t) = (.ok (), t')) :
    SInv env t' [] rest ∧ IterRel .disallowed .unlinked t t' :=
  have ⟨J, R⟩ := CutH.P12.unlink_iter I.toC hob h
  have R : IterRel .disallowed .unlinked t t' := .ofC R
  ⟨.ofC J ((GInv.eqCut I.struct).pframe R.frame), R⟩

/-- fields of the state that the observer bookkeeping does not read -/
theorem obsInv_congr {s s' : State} {pn pd : List Nat} (O : ObsInv s pn pd)
    (h1 : s'.observers = s.observers) (h2 : s'.nodes = s.nodes) : ObsInv s' pn pd :=
  .ofC (CutH.P12.obsInv_congr O.toC h1 h2)

theorem sInv_congr {env : Env} {s s' : State} {pn pd : List Nat} (I : SInv env s pn pd)
    (h1 : s'.observers = s.observers) (h2 : s'.nodes = s.nodes) (h3 : s'.panicCountdown = s.panicCountdown)
    (h4 : s'.currentScope = s.currentScope) (h5 : s'.rch = s.rch) (h6 : s'.vars = s.vars)
    (h7 : s'.propagateInvalidity = s.propagateInvalidity) : SInv env s' pn pd :=
  .ofC (CutH.P12.sInv_congr I.toC h1 h2 h3 h4 h5 h6 h7) ((GInv.eqCut I.struct).of_eq (by rw [h2]) fun m => by simp only [State.nodeD, h2])

end P12

open P12

theorem addNewObservers_s {env : Env} {fuel : Nat} {s s' : State}
    (I : SInv env s s.newObservers s.disallowedObservers)
    (h : (addNewObservers env fuel).run.run s = (.ok (), s')) :
    SInv env s' [] s'.disallowedObservers ∧ s'.newObservers = [] ∧
      s'.disallowedObservers = s.disallowedObservers ∧ PFrame s s' ∧ ObsMap addedState s s' ∧
      (∀ m, s.isNecessary m = true → s'.isNecessary m = true) :=
  have ⟨J, h1, h2, F, M, hn⟩ := CutH.addNewObservers_s I.toC h
  have F : PFrame s s' := .ofC F
  ⟨.ofC J ((GInv.eqCut I.struct).pframe F), h1, h2, F, M, hn⟩

theorem unlinkDisallowedObservers_s {env : Env} {fuel : Nat} {s s' : State}
    (I : SInv env s [] s.disallowedObservers) (hn : s.newObservers = [])
    (h : (unlinkDisallowedObservers fuel).run.run s = (.ok (), s')) :
    SInv env s' [] [] ∧ s'.newObservers = [] ∧ s'.disallowedObservers = [] ∧ PFrame s s' ∧
      ObsMap unlinkedState s s' :=
  have ⟨J, h1, h2, F, M⟩ := CutH.unlinkDisallowedObservers_s I.toC hn h
  have F : PFrame s s' := .ofC F
  ⟨.ofC J ((GInv.eqCut I.struct).pframe F), h1, h2, F, M⟩

end IncrVerif.Proofs.Quiet
