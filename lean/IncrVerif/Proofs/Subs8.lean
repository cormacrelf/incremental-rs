import IncrVerif.Proofs.Drain
import IncrVerif.Proofs.Virtual
/-!
# Subscriptions, part 7: the `changedAt` stamp of the current round is exact (cutoff `.eq`)

`Graph.nec` allows the cutoffs `.eq` AND `.never`.  A necessary node with cutoff `.never` that is recomputed
to the value it already had is stamped `changedAt := stabNum` although its value did not change
(`cutoffVerdict … = some false`, so `mcvChanges = some true`).  Hence "stamp of this round ⇒ the value
differs" needs the hypothesis that the necessary nodes carry the default cutoff `.eq` (`hcut` below; it follows
from `Struct`/`SNode.cutoff`).  `drainHeap_valchg_gen` is the statement without that hypothesis.
-/
namespace IncrVerif.Proofs.SubsH
open IncrVerif.Engine IncrVerif.Driver IncrVerif.Proofs IncrVerif.Proofs.Step IncrVerif.Proofs.Sched
open IncrVerif.Proofs.Quiet

/-! ## one `recomputeOne` -/

/-- what one successful `recomputeOne env fuel n` of the static fragment does to values and stamps -/
structure VC.Step (n : Nat) (s s' : State) : Prop where
  stabNum : s'.stabNum = s.stabNum
  other : ∀ m, m ≠ n → (s'.nodeD m).value = (s.nodeD m).value ∧
    (s'.nodeD m).changedAt = (s.nodeD m).changedAt ∧ (s'.nodeD m).recomputedAt = (s.nodeD m).recomputedAt
  recomputedAt : (s'.nodeD n).recomputedAt = s.stabNum
  isSome : ∃ v, (s'.nodeD n).value = some v
  /-- cut off: nothing but `recomputedAt` moves; not cut off: the value differs (cutoff `.eq`) or the cutoff
  is `.never`, and the node is stamped -/
  self : ((s'.nodeD n).value = (s.nodeD n).value ∧ (s'.nodeD n).changedAt = (s.nodeD n).changedAt) ∨
    ((s'.nodeD n).value ≠ (s.nodeD n).value ∧ (s'.nodeD n).changedAt = s.stabNum) ∨
    ((s.nodeD n).cutoff = .never ∧ (s'.nodeD n).changedAt = s.stabNum)

/-- the verdict of the two static cutoffs, with the converse direction for `.eq` -/
theorem valchg_changes (env : Env) (S : State) (n : Nat) (v : Val)
    (hc : (S.nodeD n).cutoff = .eq ∨ (S.nodeD n).cutoff = .never) :
    (mcvChanges env S n v = some true ∧ ((S.nodeD n).value ≠ some v ∨ (S.nodeD n).cutoff = .never)) ∨
      (mcvChanges env S n v = some false ∧ (S.nodeD n).value = some v) := by
  unfold mcvChanges cutoffVerdict
  cases hv : (S.nodeD n).value with
  | none => exact Or.inl ⟨rfl, Or.inl (by simp)⟩
  | some old =>
    rcases hc with hc | hc <;> rw [hc]
    · by_cases e : old = v
      · subst e; right; simp
      · left; exact ⟨by simp [e], Or.inl (by simpa using e)⟩
    · left; exact ⟨rfl, Or.inr rfl⟩

/-- `maybe_change_value n v` run in a state `S0` that is `s` with `n`'s `recomputedAt` stamped -/
theorem valchg_mcv {env : Env} {fuel n : Nat} {v : Val} {s S0 s' : State} {r : Option Nat}
    (hlt : n < s.nodes.size) (hcut : (s.nodeD n).cutoff = .eq ∨ (s.nodeD n).cutoff = .never)
    (hU : Upd n s S0) (hval : (S0.nodeD n).value = (s.nodeD n).value)
    (hrec : (S0.nodeD n).recomputedAt = s.stabNum)
    (hch : (S0.nodeD n).changedAt = (s.nodeD n).changedAt)
    (h : (maybeChangeValue env fuel n v).run.run S0 = (.ok r, s')) : VC.Step n s s' := by
  have hlt0 : n < S0.nodes.size := by rw [hU.size]; exact hlt
  have hn0 := some_of_lt hlt0
  have hcut0 : (S0.nodeD n).cutoff = .eq ∨ (S0.nodeD n).cutoff = .never := by
    rw [hU.shape.cutoff]; exact hcut
  generalize hW : setValue n (some v) (logged (mcvLog env S0 n v) S0) = W
  have hUW : Upd n s W := by rw [← hW]; exact (hU.logged _).setValue _
  have eW : W.nodeD n = { S0.nodeD n with value := some v } := by
    rw [← hW, setValue_nodeD, if_pos ⟨rfl, hlt0⟩]; rfl
  rcases valchg_changes env S0 n v hcut0 with ⟨hd, hne⟩ | ⟨hd, hold⟩
  · -- propagate
    rw [mcv_run' env fuel n v S0 _ hn0 hU.pc, hd] at h
    dsimp only at h
    rw [hW] at h
    have hltW : n < W.nodes.size := by rw [hUW.size]; exact hlt
    have q : Quiet (touched n W) s' := mcvm_true_quiet _ _ _ _ _ _ _ _ h
    have hUT : Upd n s (touched n W) := hUW.touched
    have eT : (touched n W).nodeD n = { W.nodeD n with changedAt := W.stabNum } := by
      rw [touched_nodeD, if_pos ⟨rfl, hltW⟩]
    have e1 : (s'.nodeD n).value = some v := by rw [(q.node n).value, eT, eW]
    have e2 : (s'.nodeD n).changedAt = s.stabNum := by
      rw [(q.node n).changedAt, eT]; exact hUW.stabNum
    refine ⟨q.stabNum.trans hUT.stabNum, fun m hm => ?_, ?_, ⟨v, e1⟩, Or.inr ?_⟩
    · have := q.node m
      rw [hUT.other m hm] at this
      exact ⟨this.value, this.changedAt, this.recomputedAt⟩
    · rw [(q.node n).recomputedAt, eT, eW]; exact hrec
    · rcases hne with hne | hne
      · left; refine ⟨?_, e2⟩
        rw [e1, ← hval]; exact fun e => hne e.symm
      · right; exact ⟨by rw [← hU.shape.cutoff]; exact hne, e2⟩
  · -- suppress
    rw [mcv_suppress env fuel n v S0 _ hn0 hU.pc hd, hW] at h
    cases h
    refine ⟨hUW.stabNum, fun m hm => ?_, ?_, ⟨v, by rw [eW]⟩, Or.inl ⟨?_, ?_⟩⟩
    · rw [hUW.other m hm]; exact ⟨rfl, rfl, rfl⟩
    · rw [eW]; exact hrec
    · rw [eW, ← hval, hold]
    · rw [eW]; exact hch

/-- **one `recomputeOne`** of a necessary node of the static fragment whose children have values -/
theorem valchg_recomputeOne {env : Env} {fuel n : Nat} {s s' : State} {r : Option Nat}
    (g : Graph env s) (hn : s.isNecessary n = true)
    (hvals : ∃ vals, plainVals s (kids (s.nodeD n).kind) = some vals)
    (h : (recomputeOne env fuel n).run.run s = (.ok r, s')) : VC.Step n s s' := by
  obtain ⟨hlt, hv, hk, hcut, _⟩ := g.nec n hn
  have hnn := some_of_lt hlt
  have hU := Upd.started n s g.pc
  have e1 : ((started n s).nodeD n).value = (s.nodeD n).value := by
    rw [started_nodeD]; split <;> rfl
  have e2 : ((started n s).nodeD n).recomputedAt = s.stabNum := by
    rw [started_nodeD, if_pos ⟨rfl, hlt⟩]
  have e3 : ((started n s).nodeD n).changedAt = (s.nodeD n).changedAt := by
    rw [started_nodeD]; split <;> rfl
  obtain ⟨vals, hvals⟩ := hvals
  have hvo := g.valuesOf hn
  rw [hvals] at hvo
  obtain ⟨v, evs, hc⟩ := computes_static n hk (fun c hkd => g.var n c hn hkd) hvo
  rw [recomputeOne_run_of_computes hnn hv g.pc hc hk] at h
  exact valchg_mcv hlt hcut (hU.logged evs) e1 e2 e3 h

/-! ## the relation threaded through the drain -/

/-- `s` is a state of the drain that started in `s0` -/
structure VC (s0 s : State) : Prop where
  stabNum : s.stabNum = s0.stabNum
  shape : ∀ m, SameShape (s0.nodeD m) (s.nodeD m)
  /-- a node that has not run in this round is untouched -/
  old : ∀ m, (s.nodeD m).recomputedAt < s0.stabNum →
    (s.nodeD m).value = (s0.nodeD m).value ∧ (s.nodeD m).changedAt = (s0.nodeD m).changedAt
  chg : ∀ m, (s.nodeD m).value ≠ (s0.nodeD m).value → (s.nodeD m).changedAt = s0.stabNum
  now : ∀ m, (s.nodeD m).changedAt = s0.stabNum → (s.nodeD m).value ≠ (s0.nodeD m).value ∨
    (s0.isNecessary m = true ∧ (s0.nodeD m).cutoff = .never)
  keep : ∀ m, (s.nodeD m).changedAt ≠ s0.stabNum → (s.nodeD m).changedAt = (s0.nodeD m).changedAt

theorem VC.refl {s : State} (hst : ∀ m, (s.nodeD m).changedAt < s.stabNum) : VC s s where
  stabNum := rfl
  shape _ := SameShape.refl _
  old _ _ := ⟨rfl, rfl⟩
  chg _ h := (h rfl).elim
  now m h := by have := hst m; omega
  keep _ _ := rfl

/-- steps that move no value and no stamp (`rchRemoveMin`) -/
theorem VC.of_same {s0 s s1 : State} (V : VC s0 s) (f : Frame s s1)
    (hs : ∀ m, (s1.nodeD m).value = (s.nodeD m).value ∧ (s1.nodeD m).changedAt = (s.nodeD m).changedAt ∧
      (s1.nodeD m).recomputedAt = (s.nodeD m).recomputedAt) : VC s0 s1 where
  stabNum := f.stabNum.trans V.stabNum
  shape m := (V.shape m).trans (f.shape m)
  old m h := by rw [(hs m).1, (hs m).2.1]; rw [(hs m).2.2] at h; exact V.old m h
  chg m h := by rw [(hs m).2.1]; rw [(hs m).1] at h; exact V.chg m h
  now m h := by rw [(hs m).1]; rw [(hs m).2.1] at h; exact V.now m h
  keep m h := by rw [(hs m).2.1] at h ⊢; exact V.keep m h

/-- a `recomputeOne` on a node that has not run in this round -/
theorem VC.step {s0 s s1 : State} {n : Nat} (V : VC s0 s)
    (hst : ∀ m, (s0.nodeD m).changedAt < s0.stabNum) (f : Frame s s1)
    (hn : s.isNecessary n = true) (hfresh : (s.nodeD n).recomputedAt < s.stabNum)
    (S : VC.Step n s s1) : VC s0 s1 := by
  have hnow := V.stabNum
  obtain ⟨hv0, hc0⟩ := V.old n (by rw [← hnow]; exact hfresh)
  have hnec0 : s0.isNecessary n = true := by rw [← hn]; exact ((V.shape n).isNecessary).symm
  refine ⟨f.stabNum.trans hnow, fun m => (V.shape m).trans (f.shape m), fun m h => ?_, fun m h => ?_,
    fun m h => ?_, fun m h => ?_⟩
  · by_cases hm : m = n
    · subst hm; rw [S.recomputedAt, hnow] at h; omega
    · obtain ⟨a, b, c⟩ := S.other m hm
      rw [a, b]; rw [c] at h; exact V.old m h
  · by_cases hm : m = n
    · subst hm
      rcases S.self with ⟨a, _⟩ | ⟨_, b⟩ | ⟨_, b⟩
      · rw [a, hv0] at h; exact (h rfl).elim
      · rw [b, hnow]
      · rw [b, hnow]
    · obtain ⟨a, b, _⟩ := S.other m hm
      rw [b]; rw [a] at h; exact V.chg m h
  · by_cases hm : m = n
    · subst hm
      rcases S.self with ⟨_, b⟩ | ⟨a, _⟩ | ⟨a, _⟩
      · rw [b, hc0] at h; have := hst m; omega
      · left; rw [← hv0]; exact a
      · right; exact ⟨hnec0, by rw [← (V.shape m).cutoff]; exact a⟩
    · obtain ⟨a, b, _⟩ := S.other m hm
      rw [a]; rw [b] at h; exact V.now m h
  · by_cases hm : m = n
    · subst hm
      rcases S.self with ⟨_, b⟩ | ⟨_, b⟩ | ⟨_, b⟩
      · rw [b, hc0]
      · rw [b, hnow] at h; exact (h rfl).elim
      · rw [b, hnow] at h; exact (h rfl).elim
    · obtain ⟨_, b, _⟩ := S.other m hm
      rw [b] at h ⊢; exact V.keep m h

/-- one `recomputeOne` of the drain, with the scheduling invariant -/
theorem valchg_one {env : Env} {s0 : State} (hst : ∀ m, (s0.nodeD m).changedAt < s0.stabNum) (fuel n : Nat) (s : State)
    (r : Option Nat) (s' : State) (i : Inv env s (some n) ∧ VC s0 s) (h : (recomputeOne env fuel n).run.run s = (.ok r, s')) :
    Inv env s' r ∧ VC s0 s' := by
  obtain ⟨I1, f1, -⟩ := recomputeOne_inv i.1 h
  exact ⟨I1, i.2.step hst f1 (i.1.cur n rfl).1 (i.1.fresh n (Or.inr rfl) n (Anc.refl n))
    (valchg_recomputeOne i.1.graph (i.1.cur n rfl).1 i.1.kids_values h)⟩

theorem valchg_pop {env : Env} {s0 s s1 : State} {n : Nat} (I : Inv env s none) (V : VC s0 s)
    (hr : rchRemoveMin.run.run s = (.ok (some n), s1)) : VC s0 s1 := by
  obtain ⟨-, f⟩ := pop_inv I hr
  obtain ⟨-, -, -, hs1, -⟩ := rchRemoveMin_inv I.heap hr
  refine V.of_same f fun m => ?_
  rw [hs1]
  show (State.nodeD { s with nodes := _ } m).value = _ ∧ (State.nodeD { s with nodes := _ } m).changedAt = _ ∧
    (State.nodeD { s with nodes := _ } m).recomputedAt = _
  rw [nodeD_modify]; split <;> exact ⟨rfl, rfl, rfl⟩

theorem valchg_drainHeap {env : Env} {s0 : State} (hst : ∀ m, (s0.nodeD m).changedAt < s0.stabNum) (fuel : Nat) (s s' : State)
    (I : DrainInv env s) (V : VC s0 s) (h : (drainHeap env fuel).run.run s = (.ok (), s')) : VC s0 s' := by
  obtain ⟨s1, i, h1⟩ := Drain.drainHeap_ind (I := fun x t => Inv env t x ∧ VC s0 t) (valchg_one hst)
    (fun _ _ _ i h1 => ⟨(pop_inv i.1 h1).1, valchg_pop i.1 i.2 h1⟩) fuel s s' ⟨I, V⟩ h
  obtain ⟨rfl, -⟩ := rchRemoveMin_inv i.1.heap h1
  exact i.2

/-! ## the theorems -/

/-- the drain, any static cutoff (`.eq` or `.never`): a changed value is stamped; a stamp of this round means
a changed value or a necessary node with cutoff `.never`; other nodes keep value and stamp -/
theorem drainHeap_valchg_gen {env : Env} {fuel : Nat} {s s' : State} (I : DrainInv env s)
    (hst : ∀ m, (s.nodeD m).changedAt < s.stabNum)
    (h : (drainHeap env fuel).run.run s = (.ok (), s')) :
    ∀ m, ((s'.nodeD m).value ≠ (s.nodeD m).value → (s'.nodeD m).changedAt = s.stabNum) ∧
      ((s'.nodeD m).changedAt = s.stabNum → (s'.nodeD m).value ≠ (s.nodeD m).value ∨
        (s.isNecessary m = true ∧ (s.nodeD m).cutoff = .never)) ∧
      ((s'.nodeD m).changedAt ≠ s.stabNum → (s'.nodeD m).changedAt = (s.nodeD m).changedAt) := by
  have V := valchg_drainHeap hst fuel s s' I (VC.refl hst) h
  exact fun m => ⟨V.chg m, V.now m, V.keep m⟩

/-- **After the drain a node carries the stamp of the current round iff its stored value differs from
the one before the drain**; nodes without that stamp kept value and stamp.  (`hcut`: the necessary nodes carry
the default cutoff; without it the statement is false, see the header.) -/
theorem drainHeap_valchg {env : Env} {fuel : Nat} {s s' : State} (I : DrainInv env s)
    (hst : ∀ m, (s.nodeD m).recomputedAt < s.stabNum ∧ (s.nodeD m).changedAt < s.stabNum)
    (hcut : ∀ m, s.isNecessary m = true → (s.nodeD m).cutoff = .eq)
    (h : (drainHeap env fuel).run.run s = (.ok (), s')) :
    ∀ m, ((s'.nodeD m).changedAt = s.stabNum ↔ (s'.nodeD m).value ≠ (s.nodeD m).value) ∧
      ((s'.nodeD m).changedAt ≠ s.stabNum → (s'.nodeD m).changedAt = (s.nodeD m).changedAt) := by
  intro m
  obtain ⟨a, b, c⟩ := drainHeap_valchg_gen I (fun m => (hst m).2) h m
  refine ⟨⟨fun e => ?_, a⟩, c⟩
  rcases b e with b | ⟨b1, b2⟩
  · exact b
  · rw [hcut m b1] at b2; cases b2

/-! ## the statement without `hcut` is false: a kernel-checked counterexample

One necessary variable node with cutoff `.never`, whose cell was re-set to the value it already had. -/

def VC.cexS : State :=
  { State.init 1 with
    nodes := #[{ kind := .var 0, createdIn := .top, cutoff := .never, value := some (.int 5), recomputedAt := 0,
                 changedAt := 0, height := 0, heightInRch := 0, forceNecessary := true }],
    vars := #[{ value := .int 5, setAt := 1, node := 0 }],
    rch := { queues := #[[0], []], length := 1, lowerBound := 0 },
    stabNum := 1, status := .stabilising }

theorem VC.cases1 (P : Nat → Prop) (h0 : P 0) (h1 : ∀ m, 1 ≤ m → P m) : ∀ m, P m := by
  intro m
  match m with
  | 0 => exact h0
  | m + 1 => exact h1 _ (by omega)

theorem VC.cexS_ge (m : Nat) (h : 1 ≤ m) : VC.cexS.nodeD m = default := nodeD_default_of_ge VC.cexS m h

theorem VC.cexS_inRch : ∀ m, (VC.cexS.nodeD m).inRch = true → m = 0 := by
  refine VC.cases1 _ ?_ ?_
  · intro _; rfl
  · intro m hm h; rw [VC.cexS_ge m hm] at h; cases h

theorem VC.cexS_bucket (h : Nat) (hh : h < VC.cexS.rch.queues.size) :
    VC.cexS.rch.queues[h] = if h = 0 then [0] else [] := by
  have h2 : h < 2 := hh
  match h, hh, h2 with
  | 0, _, _ => rfl
  | 1, _, _ => rfl

theorem VC.cexS_heapWF : HeapWF VC.cexS where
  mem := by
    intro h hh n
    rw [VC.cexS_bucket h hh]
    revert n
    refine VC.cases1 _ ?_ ?_
    · by_cases e : h = 0
      · subst e; decide
      · simp only [e, if_false]
        constructor
        · intro h'; cases h'
        · intro ⟨_, h'⟩
          have : (0 : Int) = (h : Int) := h'
          omega
    · intro m hm
      constructor
      · intro h'; split at h' <;> simp at h' <;> omega
      · intro ⟨h', _⟩
        have : m < 1 := h'
        omega
  nodup := by
    intro h hh
    rw [VC.cexS_bucket h hh]
    split <;> simp
  length := by decide
  range := by
    intro n hn
    have hn' : n < 1 := hn
    match n, hn' with
    | 0, _ => right; decide

theorem VC.cexS_drainInv : DrainInv exEnv VC.cexS where
  graph :=
    { pc := rfl
      nec := by
        refine VC.cases1 _ ?_ ?_
        · intro _; exact ⟨by decide, rfl, True.intro, Or.inr rfl, by decide⟩
        · intro m hm h; rw [State.isNecessary, VC.cexS_ge m hm] at h; cases h
      var := by
        refine VC.cases1 _ ?_ ?_
        · intro c _ hk; cases hk; exact ⟨_, rfl⟩
        · intro m hm c h; rw [State.isNecessary, VC.cexS_ge m hm] at h; cases h
      child := by
        refine VC.cases1 _ ?_ ?_
        · intro _ i c h; simp [VC.cexS, State.nodeD, kids] at h
        · intro m hm h; rw [State.isNecessary, VC.cexS_ge m hm] at h; cases h
      parent := by
        refine VC.cases1 _ ?_ ?_
        · intro p i h; simp [VC.cexS, State.nodeD] at h
        · intro m hm p i h; rw [VC.cexS_ge m hm] at h; cases h }
  heap :=
    { wf := VC.cexS_heapWF
      hgt := fun m h => by cases VC.cexS_inRch m h; rfl
      lb := fun m h => by cases VC.cexS_inRch m h; decide
      lb0 := by decide
      nec := fun m h => by cases VC.cexS_inRch m h; rfl }
  stamps :=
    { now := by decide
      node := by
        refine VC.cases1 _ ?_ ?_
        · decide
        · intro m hm; rw [VC.cexS_ge m hm]; decide
      var := by
        intro c vc h
        match c with
        | 0 =>
          have : vc = { value := .int 5, setAt := 1, node := 0 } := by
            have h' : some ({ value := .int 5, setAt := 1, node := 0 } : VarCell) = some vc := h
            cases h'; rfl
          subst this; decide
        | c + 1 => simp [VC.cexS] at h }
  pending := by
    refine VC.cases1 _ ?_ ?_
    · intro _ _; exact Or.inl rfl
    · intro m hm h; rw [State.isNecessary, VC.cexS_ge m hm] at h; cases h
  cons := by
    refine VC.cases1 _ ?_ ?_
    · intro _ h
      have : VC.cexS.isStale 0 = true := by decide
      rw [this] at h; cases h
    · intro m hm h; rw [State.isNecessary, VC.cexS_ge m hm] at h; cases h
  fresh := by
    intro d _ a ha
    clear ha
    revert a
    refine VC.cases1 _ ?_ ?_
    · decide
    · intro m hm; rw [VC.cexS_ge m hm]; decide
  cur n h := by cases h

theorem VC.cexS_stamps : ∀ m, (VC.cexS.nodeD m).recomputedAt < VC.cexS.stabNum ∧ (VC.cexS.nodeD m).changedAt < VC.cexS.stabNum := by
  refine VC.cases1 _ ?_ ?_
  · decide
  · intro m hm; rw [VC.cexS_ge m hm]; decide

/-- the drain succeeds, node 0 gets the stamp of the round and keeps its value -/
theorem VC.cexS_run : returned ((drainHeap exEnv 10).run.run VC.cexS) = true ∧
    ((((drainHeap exEnv 10).run.run VC.cexS).2).nodeD 0).changedAt = VC.cexS.stabNum ∧
    ((((drainHeap exEnv 10).run.run VC.cexS).2).nodeD 0).value = (VC.cexS.nodeD 0).value := by
  decide +kernel

/-- **the statement of `drainHeap_valchg` without the cutoff hypothesis is false** -/
theorem valchg_without_hcut_false :
    ¬ ∀ {env : Env} {fuel : Nat} {s s' : State}, DrainInv env s →
      (∀ m, (s.nodeD m).recomputedAt < s.stabNum ∧ (s.nodeD m).changedAt < s.stabNum) →
      (drainHeap env fuel).run.run s = (.ok (), s') →
      ∀ m, ((s'.nodeD m).changedAt = s.stabNum ↔ (s'.nodeD m).value ≠ (s.nodeD m).value) ∧
        ((s'.nodeD m).changedAt ≠ s.stabNum → (s'.nodeD m).changedAt = (s.nodeD m).changedAt) := by
  intro H
  obtain ⟨h1, h2, h3⟩ := VC.cexS_run
  obtain ⟨r, s', e⟩ := (returned_iff _).1 h1
  cases r
  rw [e] at h2 h3
  exact ((H VC.cexS_drainInv VC.cexS_stamps e 0).1.1 h2) h3

end IncrVerif.Proofs.SubsH
