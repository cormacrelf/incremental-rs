import IncrVerif.Proofs.TidyH28
/-!
# T3b part 5: `stabilise` returns when node functions and update handlers have write effects
-/
namespace IncrVerif.Proofs.TidyH.EffT
open IncrVerif.Engine IncrVerif.Driver IncrVerif.Proofs IncrVerif.Proofs.Step IncrVerif.Proofs.Sched
open IncrVerif.Proofs.Quiet IncrVerif.Proofs.EffH
open IncrVerif.Proofs.TidyH.SubsT (addNewObservers_total unlinkDisallowedObservers_total room_of_pframe
  hasRange_of_hasOK)

/-- **`stabilise_end` returns**: `t` is the state after the drain -/
theorem stabiliseEnd_total_w {env : Env} {N B fuel : Nat} {t : State} (hH : WHandlers env)
    (hHb : HBound env B) (E : EP (noEff env) N B (bump t)) (hpc : t.panicCountdown = none)
    (hstack : ∀ v, v ∈ t.setDuringStab → v < t.vars.size)
    (O : SubsH.ObsInv t [] []) (hhs : HasRange t)
    (hval : ∀ n, t.isNecessary n = true → (t.nodeD n).valid = true ∧ (t.value env n).isSome = true) :
    Tot (stabiliseEnd env fuel) t (fun _ s' => EP (noEff env) N B s' ∧ Fin (bump t) s') := by
  rw [stabiliseEnd_eq]
  obtain ⟨c, h1, Ec, Wc, -⟩ := applyAll_total t.setDuringStab (bump t) E hstack
  have h1' : stabiliseEndVars.run.run t = (.ok (), c) := by rw [stabiliseEndVars_run]; exact h1
  obtain ⟨-, A⟩ := applyAll_qU t.setDuringStab (bump t) c () E.q h1
  have hpcc : c.panicCountdown = none := by rw [A.eq]; exact hpc
  have hobsc : c.observers = t.observers := by rw [A.eq]; rfl
  have hhasc : c.handleAfterStab = t.handleAfterStab := by rw [A.eq]; rfl
  have htopc : c.top = (bump t).top := by rw [A.eq]
  have hnoc : c.newObservers = (bump t).newObservers := by rw [A.eq]
  have hnodec : ∀ m, ∃ h, c.nodeD m = { t.nodeD m with heightInRch := h } := A.node
  have hnecc : ∀ m, c.isNecessary m = t.isNecessary m := by
    intro m
    obtain ⟨h, e⟩ := hnodec m
    rw [State.isNecessary, State.isNecessary, e]; rfl
  have Oc : SubsH.ObsInv c [] [] :=
    SubsH.obsInv_congr' O hobsc A.size (fun m => by obtain ⟨h, e⟩ := hnodec m; rw [e])
  have hhsc : HasRange c := by
    intro n hn
    rw [hhasc] at hn
    rw [A.size]; exact hhs n hn
  have hvalc : ∀ n, c.isNecessary n = true → (c.nodeD n).valid = true ∧ (c.value env n).isSome = true := by
    intro n hn
    rw [hnecc] at hn
    obtain ⟨a1, a2⟩ := hval n hn
    obtain ⟨h, e⟩ := hnodec n
    refine ⟨by rw [e]; exact a1, ?_⟩
    have : c.value env n = t.value env n := (Wc.value env n).trans
      (Obs.value_congr_nodes env (s := t) (s' := bump t) rfl n)
    rw [this]; exact a2
  refine Tot.bind_ok h1' ?_
  refine (stabiliseEndRest_total (fuel := fuel) hH hHb Ec hpcc Oc hhsc hvalc).mono ?_
  rintro _ s' ⟨E', F'⟩
  exact ⟨E', ⟨Wc.trans F'.wr, F'.top.trans htopc, F'.newObs.trans hnoc⟩⟩

theorem mem_of_writesTo_ne_nil {v : Nat} {W : Writes} (h : writesTo v W ≠ []) : ∃ f, (v, f) ∈ W := by
  unfold writesTo at h
  cases hf : W.filter (fun w => w.1 == v) with
  | nil => rw [hf] at h; exact absurd rfl h
  | cons w ws =>
    have hm : w ∈ W.filter (fun w => w.1 == v) := by rw [hf]; exact List.mem_cons_self ..
    obtain ⟨h1, h2⟩ := List.mem_filter.1 hm
    have : w.1 = v := by simpa using h2
    exact ⟨w.2, by rw [← this]; exact h1⟩

theorem stepsWrites_bound {env : Env} {B : Nat} (hb : FnBound env B) (l : List (Nat × State)) :
    ∀ v f, (v, f) ∈ stepsWrites env l → v < B := by
  intro v f hm
  unfold stepsWrites at hm
  obtain ⟨p, -, hp⟩ := List.mem_flatMap.1 hm
  unfold writesOf at hp
  obtain ⟨e, he, hw⟩ := List.mem_filterMap.1 hp
  exact nodeEffs_bound hb p.2 p.1 e he v f hw

/-- **`stabilise` returns** (static fragment with subscriptions; node functions and update handlers with write
effects on variables `< B`, all of which exist; enough fuel), and `TInv` is kept -/
theorem stabilise_total_w {env : Env} {N B fuel : Nat} {s : State} (hw : WOnly env) (hH : WHandlers env)
    (hFb : FnBound env B) (hHb : HBound env B) (UE : UInvE env s) (T : TInv N s) (hB : B ≤ s.vars.size)
    (hf : 3 * s.nodes.size + 4 ≤ fuel) :
    Tot (stabilise env fuel) s (fun _ s' => TInv N s') := by
  have U := UE.u
  have Q := U.core
  obtain ⟨s0, hs0⟩ : ∃ s0 : State, s0 = { s with status := .stabilising } := ⟨_, rfl⟩
  have hnd0 : ∀ m, s0.nodeD m = s.nodeD m := fun m => by rw [hs0]; rfl
  have hsz0 : s0.nodes.size = s.nodes.size := by rw [hs0]
  have hvars0 : s0.vars = s.vars := by rw [hs0]
  have hstab0 : s0.stabNum = s.stabNum := by rw [hs0]
  have S0 : SubsH.SInv (noEff env) s0 s0.newObservers s0.disallowedObservers := by
    rw [hs0]
    exact ⟨Q.struct.congr (SameG.of_nodes rfl rfl rfl rfl rfl),
      ⟨Q.obs.inRange, Q.obs.mem, Q.obs.created, Q.obs.newIn, Q.obs.dis, Q.obs.disIn, Q.obs.disNodup⟩,
      Q.pinv, U.hinv.of_nodes rfl rfl rfl rfl rfl⟩
  have hb0 : HBo s0 allClosed := by
    intro m hm ho
    rw [hnd0]; exact T.hb m (by rw [State.isNecessary, ← hnd0]; exact hm) ho
  have R0 : Room N s0 := by rw [hs0]; exact ⟨T.room.ahh, T.room.rch, T.room.size⟩
  -- the two loops
  have hf1 : 2 * s0.nodes.size + 2 ≤ fuel := by rw [hsz0]; omega
  obtain ⟨_, t1, h1, hb1⟩ := addNewObservers_total (fuel := fuel) (env := noEff env) S0 hb0 R0
    (by rw [hs0]; exact T.newNodup) (by rw [hs0]; exact T.newState) hf1
  obtain ⟨S1, hn1, hd1, F1, O1, N1, K1, L1, T1⟩ := SubsH.addNewObservers_s S0 h1
  have hf2 : 3 * t1.nodes.size + 3 ≤ fuel := by rw [F1.size, hsz0]; omega
  obtain ⟨_, t2, h2, hb2⟩ := unlinkDisallowedObservers_total (fuel := fuel) S1 hn1 hb1 hf2
  obtain ⟨S2, hn2, hd2, F2, O2, K2, L2, T2⟩ := SubsH.unlinkDisallowedObservers_s S1 hn1 h2
  have F : SubsH.PFrame s0 t2 := F1.trans F2
  have R2 : Room N t2 := room_of_pframe R0 F
  have hv2 : t2.vars = s.vars := by rw [F.vars, hvars0]
  have hst2 : t2.stabNum = s.stabNum := by rw [F.stabNum, hstab0]
  -- the drain invariant
  have V2 : VarsOK t2 := F.varsOK (by
    refine ⟨?_, ?_⟩
    · intro n c hn hk; rw [hnd0] at hk; rw [hvars0]; exact Q.vars.node n c (by rw [← hsz0]; exact hn) hk
    · intro c vc hc; rw [hvars0] at hc; rw [hsz0, hnd0]; exact Q.vars.cell c vc hc)
  have st2 : ∀ m, (t2.nodeD m).recomputedAt < t2.stabNum ∧ (t2.nodeD m).changedAt < t2.stabNum := by
    intro m
    rw [F.recomputedAt, F.changedAt, F.stabNum, hstab0, hnd0]; exact Q.stamps m
  have cons2 : ∀ m, m < t2.nodes.size → staleOf t2 m = false → Consistent (noEff env) t2 m := by
    intro m hm hs
    rw [F.staleOf] at hs
    have hs' : staleOf s m = false := by
      rw [← hs]; exact (staleOf_congr (by rw [hnd0]) (by rw [hnd0]) hvars0 (fun c _ => by rw [hnd0])).symm
    have hc := Q.cons m (by rw [← hsz0, ← F.size]; exact hm) hs'
    have hc0 : Consistent (noEff env) s0 m := by
      obtain ⟨w, hw, hv⟩ := hc
      exact ⟨w, Target.congr (by rw [hnd0]) hvars0 (fun c _ => by rw [hnd0]) hw, by rw [hnd0]; exact hv⟩
    exact F.consistent hc0
  have D2 : DrainInv (noEff env) t2 :=
    drainInv_of S2.struct V2 (by rw [F.stabNum, hstab0]; exact Q.now) st2
      (fun c vc hc => by rw [F.vars, hvars0] at hc; rw [F.stabNum, hstab0]; exact Q.varStamp c vc hc) cons2
  have U2 : UnnecOK (noEff env) t2 := fun m hm _ => ⟨(st2 m).1, cons2 m hm⟩
  have DI2 : DI env t2 none :=
    ⟨D2, U2, by rw [F.status, hs0], fun v c hc => (UE.cells v c (by rw [← hv2]; exact hc)).2⟩
  -- the drain returns
  have Sf : Safe t2 := by
    refine ⟨fun n hn => ?_, fun n hn => (GInv.node S2.struct (nec_lt_size hn)).top⟩
    have h1 := hb2 n hn rfl
    have h2 := nec_lt_size hn
    have h3 := R2.size
    rw [R2.rch]; omega
  have hun := unrun_le_size t2
  obtain ⟨t3, h3⟩ := drainHeap_total_eff hw hFb fuel t2 DI2 Sf (by rw [hv2]; exact hB)
    (by rw [F.size, hsz0] at hun; omega)
  -- what the drain did
  obtain ⟨R, he3⟩ := drainHeap_eff hw fuel t2 t3 DI2 h3
  have hu3 := drainHeap_eff_hush hw fuel t2 t3 DI2 h3
  have P2 : Pend t2 [] t2 :=
    Pend.start (fun v c hc => (UE.cells v c (by rw [← hv2]; exact hc)).1)
      (by rw [F.setDuringStab, hs0]; exact Q.setDuringStab)
  have P3 := R.pend t2 [] P2
  rw [List.nil_append] at P3
  have D3 := R.di.inv
  have k3 : stateKeyD t3 = stateKeyD t2 := R.dr.keyD
  simp only [stateKeyD, Prod.mk.injEq] at k3
  obtain ⟨k_obs, -, k_scope, k_top, -, k_alive, k_pinv, -, -, -, k_ahh⟩ := k3
  have hdead : t3.deadVars = [] := by rw [R.dr.calm.deadVars, F.deadVars, hs0]; exact Q.deadVars
  have hno3 : t3.newObservers = [] := by rw [R.dr.calm.newObservers]; exact hn2
  have hdo3 : t3.disallowedObservers = [] := by rw [R.dr.calm.disallowedObservers]; exact hd2
  -- the drained state without the deferred writes
  let t3c : State := { t3 with vars := t2.vars, setDuringStab := t2.setDuringStab }
  have Pc : SameP t3c t3 := ⟨rfl, P3.size, fun v a ha => P3.sameP_vars.2 v a ha⟩
  have Pc' : SameP t3 t3c := Pc.symm
  have D3c : DrainInv (noEff env) t3c := Pc'.inv D3
  have U3c : UnnecOK (noEff env) t3c := Pc'.unnecOK R.di.unnec
  have f3 : Frame t2 t3c := (R.dr.frame.trans (FrameP.of_sameP Pc')).toFrame rfl
  have S3c : Struct (noEff env) t3c := Struct.ofDrained S2.struct f3 D3c he3 k_scope
  have O3 : SubsH.ObsInv t3 [] [] :=
    SubsH.obsInv_congr' S2.obs k_obs R.dr.frame.size (fun m => (R.dr.frame.shape m).observers)
  have H3 : SubsH.HInv t3 :=
    SubsH.P12u.hinv_hush S2.hinv hu3 k_obs (fun m => (R.dr.frame.shape m).observers) R.dr.frame.stabNum
  have hval3 : ∀ n, t3.isNecessary n = true →
      (t3.nodeD n).valid = true ∧ (t3.value env n).isSome = true := by
    intro n hn
    obtain ⟨v1, -, v3, -, v5⟩ := drained_values D3 he3 n hn ((t3.nodeD n).height.toNat + 1) (Nat.lt_succ_self _)
    refine ⟨v1, ?_⟩
    rw [← value_noEff, D3.graph.value_plain hn, v3]; exact v5
  have V3c : VarsOK t3c := by
    refine ⟨?_, ?_⟩
    · intro n c hn hk
      rw [(f3.shape n).kind] at hk
      exact V2.node n c (by rw [← f3.size]; exact hn) hk
    · intro c vc hc
      have := V2.cell c vc hc
      rw [f3.size, (f3.shape vc.node).kind]; exact this
  have hcons3 : ∀ m, m < t3c.nodes.size → staleOf t3c m = false → Consistent (noEff env) t3c m := by
    intro m hm hs
    cases hn : t3c.isNecessary m with
    | true => exact (D3c.all_consistent he3 m hn).2
    | false => exact (U3c m hm hn).2 hs
  have Qc : SubsH.QInv (noEff env) (quiet (bump t3c)) := by
    refine ⟨S3c.congr (SameG.of_nodes rfl rfl rfl rfl rfl), ⟨V3c.node, V3c.cell⟩, ?_, ?_, ?_, ?_, ?_, rfl, ?_, rfl,
      hdead, ?_, ?_⟩
    · show SubsH.ObsInv (quiet (bump t3c)) t3.newObservers t3.disallowedObservers
      rw [hno3, hdo3]
      exact ⟨O3.inRange, O3.mem, O3.created, O3.newIn, O3.dis, O3.disIn, O3.disNodup⟩
    · show 0 ≤ t3.stabNum + 1
      have := D3.stamps.now; omega
    · intro m
      show (t3.nodeD m).recomputedAt < t3.stabNum + 1 ∧ (t3.nodeD m).changedAt < t3.stabNum + 1
      have := D3.stamps.node m; omega
    · intro c vc hc
      show vc.setAt ≤ t3.stabNum + 1
      have := D3c.stamps.var c vc hc
      have e : t3c.stabNum = t3.stabNum := rfl
      omega
    · intro m hm hs
      exact hcons3 m hm hs
    · show t3.alive = true
      rw [k_alive, F.alive, hs0]; exact Q.alive
    · show t3.propagateInvalidity = []
      rw [k_pinv]; exact S2.pinv
    · intro k n hk
      have hk' : t3.top[k]? = some n := hk
      rw [k_top, F.top, hs0] at hk'
      show n < t3.nodes.size
      rw [R.dr.frame.size, F.size, hsz0]; exact Q.top k n hk'
  have PQ : SameP (quiet (bump t3c)) (quiet (bump t3)) := ⟨rfl, Pc.size, Pc.cell⟩
  have QB : SubsH.QInv (noEff env) (quiet (bump t3)) := PQ.qinvU Qc rfl
  -- the end phase
  have hlink3 : ∀ (c : Nat) (vc : VarCell), t3.vars[c]? = some vc → vc.linked = true := by
    intro c vc hc
    have hlt : c < t2.vars.size := P3.size ▸ lt_of_getElem? hc
    obtain ⟨a, ha⟩ := e2_some_of_lt hlt
    obtain ⟨b, hb, hab⟩ := P3.sameP_vars.2 c a ha
    rw [hc] at hb; cases hb
    rw [hab.linked]
    exact T.linked c a (by rw [← hv2]; exact ha)
  have EB : EP (noEff env) N B (bump t3) := by
    refine ⟨QB, ?_, ⟨?_, ?_, ?_⟩, hlink3, R.di.handles, ?_⟩
    · intro m hm ho
      have hm' : t3.isNecessary m = true := hm
      rw [R.dr.frame.nec] at hm'
      show (t3.nodeD m).height ≤ _
      rw [(R.dr.frame.shape m).height]
      exact hb2 m hm' ho
    · show t3.ahh.maxAllowed = _
      rw [k_ahh]; exact R2.ahh
    · show t3.rch.maxAllowed = _
      rw [← R2.rch]; exact maxAllowed_congr R.dr.frame.qsize
    · show t3.nodes.size ≤ N
      rw [R.dr.frame.size]; exact R2.size
    · show B ≤ t3.vars.size
      rw [P3.size, hv2]; exact hB
  have hstack : ∀ v, v ∈ t3.setDuringStab → v < t3.vars.size := by
    intro v hv
    obtain ⟨f, hm⟩ := mem_of_writesTo_ne_nil ((P3.mem v).1 hv)
    have := stepsWrites_bound hFb _ v f hm
    rw [P3.size, hv2]; omega
  obtain ⟨_, s', h4, E', F'⟩ := stabiliseEnd_total_w (env := env) (fuel := fuel) (t := t3) hH hHb EB
    D3.graph.pc hstack O3 (hasRange_of_hasOK H3.has) hval3
  -- the run
  have hrun : (stabilise env fuel).run.run s = (.ok (), s') :=
    stabilise_phases.2 ⟨t1, t2, t3, Q.status, by rw [← hs0, ← addNewObservers_noEff]; exact h1, h2, h3, h4⟩
  refine Tot.of_ok hrun ?_
  have hsize' : s'.nodes.size = s.nodes.size := by
    rw [F'.wr.size]; show t3.nodes.size = _; rw [R.dr.frame.size, F.size, hsz0]
  have hno' : s'.newObservers = [] := by rw [F'.newObs]; exact hno3
  refine ⟨E'.hb, E'.room, E'.linked, ?_, ?_, ?_⟩
  · rw [F'.top, hsize']; show t3.top.size = _; rw [k_top, F.top, hs0]; exact T.topSize
  · rw [hno']; exact List.nodup_nil
  · intro o ob ho; rw [hno'] at ho; cases ho

end IncrVerif.Proofs.TidyH.EffT
