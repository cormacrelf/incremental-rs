import IncrVerif.Proofs.PerKeyH38
import IncrVerif.Proofs.PerKeyH30
import IncrVerif.Proofs.PerKeyH39
/-!
# A run of a per-key change detector, part 5c: **one `.unequal` iteration keeps the loop invariant**

Two cases (`EntryOK.input`): the per-key input node is used by its instance — then it is necessary, hence alive, and
`expertMakeStale` flags it —, or its virtual stamp is `-1` already (never computed): whether or not the run calls
`expertMakeStale` (`isAlive` is unknown), the virtual stamp is `-1` afterwards.
-/
namespace IncrVerif.Proofs.PerKeyH
open IncrVerif.Engine IncrVerif.Driver IncrVerif.Proofs IncrVerif.Proofs.Step IncrVerif.Proofs.Sched
open IncrVerif.Proofs.ExpertH IncrVerif.Proofs.EffH IncrVerif.Proofs.DriverH IncrVerif.Proofs.ExpertH.QR

/-- a child of a necessary node is necessary -/
theorem u_mid_kid_nec {env : Env} {l : List Event} {σ : State} {a b : Nat} (M : Mid (twEnv env) (twL l σ))
    (ha : σ.isNecessary a = true) (hb : b ∈ kidsX σ.experts (σ.nodeD a).kind) : σ.isNecessary b = true := by
  obtain ⟨rk, I⟩ := M.st
  obtain ⟨i, hi⟩ := List.getElem?_of_mem hb
  have hp := I.conv a i b (by rw [Kvirt_twL_kids]; exact hi)
    ((wants_closed rfl).2 (by rw [virt_isNecessary, KtwL_isNecessary]; exact ha))
  rw [virt_nodeD, virtNode_parents, KtwL_parents] at hp
  unfold State.isNecessary Node.isNecessary
  cases hps : (σ.nodeD b).parents with
  | nil => rw [hps] at hp; cases hp
  | cons x xs => rfl

theorem u_mid_below_nec {env : Env} {l : List Event} {σ : State} {a b : Nat} (M : Mid (twEnv env) (twL l σ))
    (ha : σ.isNecessary a = true) (hb : ExpertH.Below σ a b) : σ.isNecessary b = true := by
  induction hb with
  | refl a => exact ha
  | step h1 _ ih => exact ih (u_mid_kid_nec M ha h1)

theorem u_mid_nec_alive {env : Env} {l : List Event} {σ : State} {p : Nat} (M : Mid (twEnv env) (twL l σ))
    (F : PFrag env σ) (O : ObsListed σ) (hp : σ.isNecessary p = true) : σ.isAlive p = true := by
  obtain ⟨rk, I⟩ := M.st
  obtain ⟨K, hK⟩ := exists_bound (fun m => ((σ.nodeD m).height + 1).toNat) σ.nodes.size
  have hpar : ∀ c q i, (q, i) ∈ (σ.nodeD c).parents →
      (virt (twL l σ)).isNecessary q = true ∧ (kidsX σ.experts (σ.nodeD q).kind)[i]? = some c ∧
        (σ.nodeD c).height < (σ.nodeD q).height := by
    intro c q i hm
    have hm' : (q, i) ∈ ((virt (twL l σ)).nodeD c).parents := by
      rw [virt_nodeD, virtNode_parents, KtwL_parents]; exact hm
    obtain ⟨h1, h2⟩ := I.par c q i hm'
    have h3 := I.hlt c q i hm' rfl
    rw [virt_nodeD, virt_nodeD, virtNode_height, virtNode_height, KtwL_height, KtwL_height] at h3
    exact ⟨(wants_closed rfl).1 h2, by rw [← Kvirt_twL_kids (l := l)]; exact h1, h3⟩
  refine nec_alive (rk := fun m => ((σ.nodeD m).height + 1).toNat) (K := K) F.force_all ?_ ?_ O hp
  · intro c q i hm
    obtain ⟨h1, h2, -⟩ := hpar c q i hm
    rw [virt_isNecessary, KtwL_isNecessary] at h1
    exact ⟨h1, by rw [PFrag.children_kidsX F]; exact h2⟩
  · intro c q i hm
    obtain ⟨h1, h2, h3⟩ := hpar c q i hm
    have hq : σ.isNecessary q = true := by rw [virt_isNecessary, KtwL_isNecessary] at h1; exact h1
    -- the child is necessary (it has a parent entry), so its height is not negative
    have hc : (virt (twL l σ)).isNecessary c = true := by
      rw [virt_isNecessary, KtwL_isNecessary]
      unfold State.isNecessary Node.isNecessary
      cases hps : (σ.nodeD c).parents with
      | nil => rw [hps] at hm; cases hm
      | cons x xs => rfl
    have h0 := I.hpos c hc rfl
    rw [virt_nodeD, virtNode_height, KtwL_height] at h0
    refine ⟨?_, hK q (Step.nec_lt_size hq)⟩
    show ((σ.nodeD c).height + 1).toNat < ((σ.nodeD q).height + 1).toNat
    omega

/-- `Mid` on the twin after `expertMakeStale` on an expert node -/
theorem u_mid {env : Env} {σ σ' : State} {x e : Nat} {er : ExpertRec} (M : Mid (twEnv env) (twL [] σ))
    (F : PFrag env σ) (hlt : x < σ.nodes.size) (hk : (σ.nodeD x).kind = .expert e) (hx : σ.experts[e]? = some er)
    (h : (expertMakeStale x).run.run σ = (.ok (), σ')) : Mid (twEnv env) (twL [] σ') := by
  have hfr : Fr σ := fr_of_pfrag F M.pinv
  obtain ⟨⟨l', h'⟩, -⟩ := TSim.expertMakeStale x σ hfr [] () σ' h
  have := staleSpec (twEnv env) x e (twL [] σ) (twL l' σ') (twRec er) M (by rw [KtwL_size]; exact hlt)
    (by rw [KtwL_kind, hk]; rfl) (by rw [KtwL_expert?, hx]; rfl) h'
  exact mid_relog this.1 []

/-- **one `.unequal` iteration keeps the loop invariant** -/
theorem iterUnequal (env : Env) : IterUnequal env := by
  intro s n op pr eres rk uk σ σ' fuel key a b B I hkey hrun
  obtain ⟨pn, hpop⟩ := I.pop
  have C := I.core _ hpop
  have hOK := B.pd.aux.pk.ops op pr B.hop
  -- the entry of `key`
  have h1 : (pr.prevNodes.lookup key).isSome = true := by rw [← hOK.dom]; exact hkey
  obtain ⟨⟨node, d⟩, hl⟩ := Option.isSome_iff_exists.1 h1
  have hm0 : (key, (node, d)) ∈ pr.prevNodes := (list_lookup_eq_some_iff_mem hOK.keys key _).1 hl
  have hm : (key, (node, d)) ∈ pn := I.pnOld _ hpop key node d hm0
  have hlk : pn.lookup key = some (node, d) := (list_lookup_eq_some_iff_mem C.keys key _).2 hm
  -- the bookkeeping of the entry in `σ`
  obtain ⟨x0, e0, er0, hN, he0, hpk0, hch, hent, hout⟩ := C.nodes
  have E := hent key node d hm
  obtain ⟨e, er, d0, hk, hx, hpk, hchildren⟩ := E.pnode
  have hlt := E.plt
  -- the run
  unfold PKL.perKeyStep at hrun
  rw [run_bind_get] at hrun
  dsimp only at hrun
  have hg : σ.perkeys[op]?.getD default = { pr with prevNodes := pn } := by rw [hpop]; rfl
  rw [hg] at hrun
  dsimp only at hrun
  rw [hlk] at hrun
  dsimp only at hrun
  rw [run_bind_get] at hrun
  -- the record of `node` is not the result's
  have hne : e ≠ eres := by
    intro h
    obtain ⟨xs, es, ers, hNs, hes, hpks, -⟩ := hOK.nodes
    have h2 : es = eres := by
      have := hNs.result; rw [B.hres] at this; cases this; rfl
    subst h2
    obtain ⟨er1, k1, -, -, k3, -⟩ := I.lf.xrec es ers hes
    rw [← h, hx] at k1
    cases k1
    rw [hpks, hpk] at k3
    cases k3
  have hnode : er.node = node := by
    obtain ⟨er2, k1, k2⟩ := I.frag.xrec node e hlt hk
    rw [hx] at k1; cases k1; exact k2
  -- the node is alive when it is used by its instance (necessary ⇒ alive); otherwise its virtual stamp is `-1` already
  have hcase : σ.isAlive node = true ∨ (σ.isAlive node = false ∧ ((V σ).nodeD node).recomputedAt = -1) := by
    rcases E.input with ⟨ed, hed, -, hb⟩ | h0
    · refine Or.inl (u_mid_nec_alive I.mid I.frag I.obs ?_)
      refine u_mid_below_nec I.mid I.resNec (.step ?_ hb)
      have hr : (σ.nodeD pr.result).kind = .expert e0 := hN.result
      rw [hr]
      simp only [ExpertH.kidsX, xRec_some he0]
      exact List.mem_map_of_mem hed
    · cases ha : σ.isAlive node with
      | true => exact Or.inl rfl
      | false => exact Or.inr ⟨rfl, h0⟩
  rcases hcase with halive | ⟨hdead, h0⟩
  rotate_left
  · -- nobody holds the node: nothing happens; the node has never been computed
    rw [if_neg (by rw [hdead]; exact Bool.false_ne_true)] at hrun
    have e' : σ' = σ := by cases hrun; rfl
    subst e'
    exact
      { mid := I.mid, lf := I.lf, frag := I.frag, slots := I.slots, obs := I.obs, psize := I.psize, pother := I.pother,
        pop := I.pop, core := I.core, dom := I.dom, pnOld := I.pnOld, newrec := I.newrec, pot := I.pot,
        newKids := I.newKids, resKids := I.resKids, resNec := I.resNec,
        forcedU := fun key' p d' hmem hp => by
          rcases List.mem_cons.1 hmem with rfl | hmem
          · have : (node, d) = (p, d') := by
              have h2 := (list_lookup_eq_some_iff_mem hOK.keys key' _).2 hp
              rw [hl] at h2; cases h2; rfl
            cases this
            exact h0
          · exact I.forcedU key' p d' hmem hp,
        resAlt := I.resAlt,
        fsame := fun e' ers er'' hne' hs h => by
          rcases I.fsame e' ers er'' hne' hs h with h2 | ⟨key', d', j1, j2⟩
          · exact Or.inl h2
          · exact Or.inr ⟨key', d', List.mem_cons_of_mem _ j1, j2⟩ }
  rw [if_pos halive] at hrun
  have hX : Xp.IsExpert σ node (σ.nodeD node) e er := ⟨some_of_lt hlt, I.frag.valid node hlt, hk, hx⟩
  have U := u_run hX hrun
  have M' := u_mid I.mid I.frag hlt hk hx hrun
  refine
    { mid := M', lf := I.lf.trans (U.lf _), frag := U.frag I.frag, slots := U.slots I.slots, obs := U.obs I.obs,
      psize := by rw [U.perkeys]; exact I.psize,
      pother := fun op' h => by rw [U.perkeys]; exact I.pother op' h,
      pop := ⟨pn, by rw [U.perkeys]; exact hpop⟩,
      core := fun pr' h => U.opcore (I.core pr' (by rw [← U.perkeys]; exact h)),
      dom := fun pr' h => I.dom pr' (by rw [← U.perkeys]; exact h),
      pnOld := fun pr' h => I.pnOld pr' (by rw [← U.perkeys]; exact h),
      newrec := ?_, pot := ?_, newKids := ?_, resKids := ?_,
      resNec := by rw [U.isNecessary]; exact I.resNec,
      forcedU := ?_, resAlt := ?_, fsame := ?_ }
  · intro e' er'' hge h
    obtain ⟨er', k1, k2, -⟩ := U.bwd h
    obtain ⟨pr', key', d', j1, j2, j3⟩ := I.newrec e' er' hge k1
    exact ⟨pr', key', d', by rw [U.perkeys]; exact j1, by rw [k2]; exact j2, by rw [k2]; exact j3⟩
  · obtain ⟨ψ, P⟩ := I.pot
    exact ⟨ψ, U.pot P⟩
  · intro c x hc1 hc2 hx'
    rw [U.kidsX] at hx'
    exact I.newKids c x hc1 (by rw [← U.size]; exact hc2) hx'
  · intro ers er'' hs h ed hed
    obtain ⟨er', k1, k2, -⟩ := U.bwd h
    exact I.resKids ers er' hs k1 ed (by rw [k2] at hed; exact hed)
  · intro key' p d' hmem hp
    rcases List.mem_cons.1 hmem with rfl | hmem
    · -- the new key: `p = node`
      have : (node, d) = (p, d') := by
        have h2 := (list_lookup_eq_some_iff_mem hOK.keys key' _).2 hp
        rw [hl] at h2; cases h2; rfl
      cases this
      exact (V_stamp_iff σ' _).2 (Or.inl (U.forced_self hk))
    · exact (U.lf (fun _ => False)).stamp
        ((hent key' p d' (I.pnOld _ hpop key' p d' hp)).plt) (I.forcedU key' p d' hmem hp)
  · rcases I.resAlt with ⟨hL1, hL2⟩ | hR
    · refine Or.inl ⟨fun pr' h => hL1 pr' (by rw [← U.perkeys]; exact h), fun ers er'' hs h => ?_⟩
      rw [U.xother eres (Ne.symm hne)] at h
      exact hL2 ers er'' hs h
    · exact Or.inr (U.forced_mono _ hR)
  · intro e' ers er'' hne' hs h
    by_cases he : e' = e
    · subst he
      refine Or.inr ⟨key, d, List.mem_cons_self .., ?_⟩
      obtain ⟨er1, k1, -, k2, -⟩ := I.lf.xrec e' ers hs
      rw [hx] at k1; cases k1
      rw [← k2, hnode]; exact hm0
    · rw [U.xother e' he] at h
      rcases I.fsame e' ers er'' hne' hs h with h2 | ⟨key', d', j1, j2⟩
      · exact Or.inl h2
      · exact Or.inr ⟨key', d', List.mem_cons_of_mem _ j1, j2⟩

end IncrVerif.Proofs.PerKeyH
