import IncrVerif.Proofs.NestH9
/-!
# Nested binds (F2): a new observer (pure step lemmas for `GInv2`)

The observed node must be a top-level node that is not a change detector
(`GInv2.scopeObs`, `GInv2.lcObs`).
-/
namespace IncrVerif.Proofs.NestH
open IncrVerif.Engine IncrVerif.Proofs IncrVerif.Proofs.Step IncrVerif.Proofs.Sched IncrVerif.Proofs.Quiet
open IncrVerif.Proofs.BindH

namespace NL
open BL CL

section
variable {env : Env} {rk : Nat → Nat} {s s' : State} {op : Nat → Op} {ex : Nat → Prop} {dy : List Nat}

/-! ## observers -/

/-- a new observer on a node that is already necessary -/
theorem GInv2.addObs_nec {n : Nat} {l : List Nat} (I : GInv2 env rk s op ex dy) (U : NodeUpd n (fObservers l) s s')
    (hb : s'.binds = s.binds)
    (hl : l ≠ []) (hn : s.isNecessary n = true)
    (htop : (s.nodeD n).createdIn = .top) (hnlc : ∀ b, (s.nodeD n).kind ≠ .bindLhsChange b) :
    GInv2 env rk s' op ex dy := by
  have hnv : (s.nodeD n).valid = true := ((I.frag.node n U.lt).top htop).1
  have K := keeps_fObservers l
  have E := KeyEq.of_upd U K hb
  have hpa : ∀ m, (s'.nodeD m).parents = (s.nodeD m).parents := fun m => by
    by_cases e : m = n
    · rw [e]; exact U.parents_self
    · exact U.parents_other e
  have hht : ∀ m, (s'.nodeD m).height = (s.nodeD m).height := fun m => by
    by_cases e : m = n
    · rw [e]; exact U.height_self
    · exact U.height_other e
  have hnec : ∀ m, s'.isNecessary m = s.isNecessary m := fun m => by
    by_cases e : m = n
    · rw [e, hn]; exact (U.nec_self_iff K).2 (Or.inr (Or.inl hl))
    · exact U.nec_other e
  have hw : ∀ q i, Wants s' op q i ↔ Wants s op q i := fun q i => by unfold Wants; rw [hnec]
  have x1 : ∀ m, (s'.nodeD m).valid = false →
      (s'.nodeD m).parents = [] ∧ (s'.nodeD m).observers = [] ∧ (s'.nodeD m).forceNecessary = false ∧
        (s'.nodeD m).inRch = false ∧ op m = .closed := by
    intro m hv
    rw [E.valid] at hv
    have e : m ≠ n := fun e => by rw [e, hnv] at hv; cases hv
    obtain ⟨h1, h2, h3, h4, h5⟩ := I.inv m hv
    exact ⟨by rw [hpa]; exact h1, by rw [U.observers_other e]; exact h2, by rw [U.forceNecessary K]; exact h3,
      by rw [U.inRch K]; exact h4, h5⟩
  have x2 : ∀ m b, (s'.nodeD m).createdIn = .bind b → (s'.nodeD m).observers = [] := by
    intro m b h
    rw [E.createdIn] at h
    have e : m ≠ n := fun e => by rw [e, htop] at h; cases h
    rw [U.observers_other e]; exact I.scopeObs m b h
  have x3 : ∀ m b, (s'.nodeD m).kind = .bindLhsChange b → (s'.nodeD m).observers = [] := by
    intro m b h
    rw [E.kind] at h
    have e : m ≠ n := fun e => by rw [e] at h; exact hnlc b h
    rw [U.observers_other e]; exact I.lcObs m b h
  refine { frag := KeyEq2.frag2 E I.frag (by rw [U.pc]; exact I.frag.pc) (by rw [U.scope]; exact I.frag.scope),
           inv := x1, scopeObs := x2, lcObs := x3,
           par := ?_, conv := ?_, nodup := ?_, hlt := ?_, hpos := ?_,
           lnec := ?_, unec := ?_, heap := U.heap K I.heap, hgt := ?_, qnec := ?_, queued := ?_,
           qstale := ?_, opLt := ?_, scopeH := ?_ }
  · intro c q i hm
    rw [hpa] at hm
    rw [KeyEq2.children2 E I.frag, hw]; exact I.par c q i hm
  · intro q i c hk hw'
    rw [KeyEq2.children2 E I.frag] at hk
    rw [hw] at hw'
    rw [hpa]; exact I.conv q i c hk hw'
  · intro m; rw [hpa]; exact I.nodup m
  · intro c q i hm ho
    rw [hpa] at hm
    rw [hht, hht]
    exact I.hlt c q i hm ho
  · intro m hn ho
    rw [hnec] at hn
    rw [hht]; exact I.hpos m hn ho
  · intro q k ho
    rw [hnec]; exact I.lnec q k ho
  · intro q k ho
    rw [hnec]; exact I.unec q k ho
  · intro m hq ho
    rw [U.inRch K] at hq
    rw [U.heightInRch K, hht]; exact I.hgt m hq ho
  · intro m hq
    rw [U.inRch K] at hq
    rw [hnec]; exact I.qnec m hq
  · intro m ho hn hs hx
    rw [hnec] at hn
    rw [KeyEq2.isStale2 E I.frag] at hs
    rw [U.inRch K]; exact I.queued m ho hn hs hx
  · intro m hq
    rw [U.inRch K] at hq
    rw [KeyEq2.isStale2 E I.frag]; exact I.qstale m hq
  · intro m ho
    rw [U.size]; exact I.opLt m ho
  · intro m b br hv hsc hb' hn' ho
    rw [E.valid] at hv; rw [E.createdIn] at hsc; rw [E.binds] at hb'; rw [hnec] at hn'
    rw [hht, hht]
    exact I.scopeH m b br hv hsc hb' hn' ho

/-- a new observer on an unnecessary node: it is now open with no edge recorded, and it is not queued -/
theorem GInv2.addObs_open {n : Nat} {l : List Nat} (I : GInv2 env rk s op ex dy) (U : NodeUpd n (fObservers l) s s')
    (hb : s'.binds = s.binds)
    (hl : l ≠ []) (hn : s.isNecessary n = false) (hcl : op n = .closed)
    (htop : (s.nodeD n).createdIn = .top) (hnlc : ∀ b, (s.nodeD n).kind ≠ .bindLhsChange b) :
    GInv2 env rk s' (upd op n (.linking 0)) ex dy ∧ (s'.nodeD n).parents = [] ∧ (s'.nodeD n).inRch = false := by
  have hnv : (s.nodeD n).valid = true := ((I.frag.node n U.lt).top htop).1
  have K := keeps_fObservers l
  have E := KeyEq.of_upd U K hb
  have hpa : ∀ m, (s'.nodeD m).parents = (s.nodeD m).parents := fun m => by
    by_cases e : m = n
    · rw [e]; exact U.parents_self
    · exact U.parents_other e
  have hnq : (s.nodeD n).inRch = false := GInv2.not_queued_of_not_nec I hn hcl
  refine ⟨?_, by rw [hpa]; exact parents_nil_of_not_nec hn, by rw [U.inRch K]; exact hnq⟩
  have hht : ∀ m, (s'.nodeD m).height = (s.nodeD m).height := fun m => by
    by_cases e : m = n
    · rw [e]; exact U.height_self
    · exact U.height_other e
  have hnec : ∀ m, m ≠ n → s'.isNecessary m = s.isNecessary m := fun m e => U.nec_other e
  have hnecn : s'.isNecessary n = true := (U.nec_self_iff K).2 (Or.inr (Or.inl hl))
  have hopn : upd op n (.linking 0) n = .linking 0 := upd_self ..
  have hopo : ∀ m, m ≠ n → upd op n (.linking 0) m = op m := fun m h => upd_other _ _ _ h
  have hcl' : ∀ m, upd op n (.linking 0) m = .closed → m ≠ n ∧ op m = .closed :=
    fun m h => upd_closed_inv (Op.linking_ne_closed _) h
  have hw : ∀ q i, Wants s' (upd op n (.linking 0)) q i ↔ Wants s op q i := fun q i => by
    by_cases e : q = n
    · rw [e, wants_linking hopn, wants_closed hcl, hn]; simp
    · unfold Wants; rw [hopo q e, hnec q e]
  have x1 : ∀ m, (s'.nodeD m).valid = false →
      (s'.nodeD m).parents = [] ∧ (s'.nodeD m).observers = [] ∧ (s'.nodeD m).forceNecessary = false ∧
        (s'.nodeD m).inRch = false ∧ upd op n (.linking 0) m = .closed := by
    intro m hv
    rw [E.valid] at hv
    have e : m ≠ n := fun e => by rw [e, hnv] at hv; cases hv
    obtain ⟨h1, h2, h3, h4, h5⟩ := I.inv m hv
    exact ⟨by rw [hpa]; exact h1, by rw [U.observers_other e]; exact h2, by rw [U.forceNecessary K]; exact h3,
      by rw [U.inRch K]; exact h4, by rw [hopo m e]; exact h5⟩
  have x2 : ∀ m b, (s'.nodeD m).createdIn = .bind b → (s'.nodeD m).observers = [] := by
    intro m b h
    rw [E.createdIn] at h
    have e : m ≠ n := fun e => by rw [e, htop] at h; cases h
    rw [U.observers_other e]; exact I.scopeObs m b h
  have x3 : ∀ m b, (s'.nodeD m).kind = .bindLhsChange b → (s'.nodeD m).observers = [] := by
    intro m b h
    rw [E.kind] at h
    have e : m ≠ n := fun e => by rw [e] at h; exact hnlc b h
    rw [U.observers_other e]; exact I.lcObs m b h
  refine { frag := KeyEq2.frag2 E I.frag (by rw [U.pc]; exact I.frag.pc) (by rw [U.scope]; exact I.frag.scope),
           inv := x1, scopeObs := x2, lcObs := x3,
           par := ?_, conv := ?_, nodup := ?_, hlt := ?_, hpos := ?_,
           lnec := ?_, unec := ?_, heap := U.heap K I.heap, hgt := ?_, qnec := ?_, queued := ?_,
           qstale := ?_, opLt := ?_, scopeH := ?_ }
  · intro c q i hm
    rw [hpa] at hm
    rw [KeyEq2.children2 E I.frag, hw]; exact I.par c q i hm
  · intro q i c hk hw'
    rw [KeyEq2.children2 E I.frag] at hk
    rw [hw] at hw'
    rw [hpa]; exact I.conv q i c hk hw'
  · intro m; rw [hpa]; exact I.nodup m
  · intro c q i hm ho
    rw [hpa] at hm
    rw [hht, hht]
    exact I.hlt c q i hm (hcl' q ho).2
  · intro m hn' ho
    obtain ⟨h1, h2⟩ := hcl' m ho
    rw [hnec m h1] at hn'
    rw [hht]; exact I.hpos m hn' h2
  · intro q k ho
    by_cases e : q = n
    · rw [e]; exact hnecn
    · rw [hopo q e] at ho
      rw [hnec q e]; exact I.lnec q k ho
  · intro q k ho
    have e : q ≠ n := by intro e; rw [e, hopn] at ho; cases ho
    rw [hopo q e] at ho
    rw [hnec q e]; exact I.unec q k ho
  · intro m hq ho
    rw [U.inRch K] at hq
    rw [U.heightInRch K, hht]; exact I.hgt m hq (hcl' m ho).2
  · intro m hq
    rw [U.inRch K] at hq
    have e : m ≠ n := by intro e; rw [e, hnq] at hq; cases hq
    rw [hnec m e]
    rcases I.qnec m hq with h | ⟨k, h⟩
    · exact Or.inl h
    · exact Or.inr ⟨k, by rw [hopo m e]; exact h⟩
  · intro m ho hn' hs hx
    obtain ⟨h1, h2⟩ := hcl' m ho
    rw [hnec m h1] at hn'
    rw [KeyEq2.isStale2 E I.frag] at hs
    rw [U.inRch K]; exact I.queued m h2 hn' hs hx
  · intro m hq
    rw [U.inRch K] at hq
    rw [KeyEq2.isStale2 E I.frag]; exact I.qstale m hq
  · intro m ho
    rw [U.size]
    by_cases e : m = n
    · rw [e]; exact U.lt
    · rw [hopo m e] at ho; exact I.opLt m ho
  · intro m b br hv hsc hb' hn' ho
    obtain ⟨h1, h2⟩ := hcl' m ho
    rw [E.valid] at hv; rw [E.createdIn] at hsc; rw [E.binds] at hb'; rw [hnec m h1] at hn'
    rw [hht, hht]
    exact I.scopeH m b br hv hsc hb' hn' h2

end

end NL

end IncrVerif.Proofs.NestH
