import IncrVerif.Proofs.BindH104
import IncrVerif.Proofs.BindH86
import IncrVerif.Proofs.BindH87
import IncrVerif.Proofs.BindF1F2Q
/-!
# Binds, part 5g3: "generations are current" (`GenOK`) through `stabilise` and the API actions; observers read the from-scratch value `den`

* `stabilise_gen`: the observer prefix and `stabiliseEnd` keep everything `GenOK` reads; the drain keeps `GenOK` (`drainHeap_gen`);
* `step_gen`: every API action of the fragment keeps `GenOK` (a new bind's change detector has never run, hence is stale: no obligation);
* `genOK_init`;
* `stabilise_reads_den`: after a `stabilise` every in-use observer reads the from-scratch value `den` of the node it watches.
-/
namespace IncrVerif.Proofs.BindH
open IncrVerif.Engine IncrVerif.Driver IncrVerif.Proofs IncrVerif.Proofs.Step IncrVerif.Proofs.Sched IncrVerif.Proofs.Quiet

/-! ## `stabilise` -/

/-- **`stabilise` keeps `GenOK`** -/
theorem stabilise_gen {env : Env} {fuel : Nat} {s s' : State} (Q : QInv1 env s) (G : GenOK env s)
    (h : (stabilise env fuel).run.run s = (.ok (), s')) : GenOK env s' := by
  obtain ⟨t1, t2, t3, -, h1, h2, h3, h4⟩ := stabilise_phases.1 h
  obtain ⟨s0, hs0⟩ : ∃ s0 : State, s0 = { s with status := .stabilising } := ⟨_, rfl⟩
  rw [← hs0] at h1
  have S0 : SInv1 env s0 s0.newObservers s0.disallowedObservers := by
    rw [hs0]
    exact C2p.sInv1_congr ⟨Q.struct, Q.obs, Q.obsTop, Q.f1.pinv, Q.f1.noHandlers, Q.f1.noForce⟩
      rfl rfl rfl rfl rfl rfl rfl rfl
  -- the prefix
  obtain ⟨S1, hn1, hd1, F1, O1, -⟩ := addNewObservers_s1 S0 h1
  have M1 := addNewObservers_marks S0 h1
  obtain ⟨S2, hn2, hd2, F2, O2⟩ := unlinkDisallowedObservers_s1 S1 hn1 h2
  have M2 := unlinkDisallowedObservers_marks S1 hn1 h2
  have F : C2s.PreF s t2 := C2s.PreF.of hs0 (F1.trans F2) (fun m => (M2 m).trans (M1 m))
  obtain ⟨D2, A2⟩ := C2s.drain_start Q F S2
  have G2 : GenOK env t2 :=
    C3g.genOK_frame G Q.f1.frag F.binds F.top F.kind F.valid F.recomputedAt F.changedAt F.value
  -- the drain
  have X2 : AuxS env t2 t2 := ⟨A2, DKey.refl _, NKey.refl _⟩
  obtain ⟨D3, ⟨A3, K3, N3⟩, G3, he3, f3⟩ := drainHeap_gen D2 X2 G2 h3
  obtain ⟨V3, O3, T3⟩ := C2s.after_drain A3 K3 N3 f3.vars (F.varsOK Q.vars) S2.obs S2.obsTop
  -- the end
  have hsd : t3.setDuringStab = [] := by rw [K3.setDuringStab, F.setDuringStab]; exact Q.setDuringStab
  have hdv : t3.deadVars = [] := by rw [K3.deadVars, F.deadVars]; exact Q.deadVars
  have hoh : ∀ (o : Nat) (ob : ObsRec), t3.observers[o]? = some ob → ob.handlers = [] :=
    fun o ob ho => (O3.inRange o ob ho).2
  have E := stabiliseEnd_fin (env := env) (fuel := fuel) hsd hdv hoh h4
  have hb := C2s.stabiliseEnd_binds hsd hdv hoh h4
  have hno3 : t3.newObservers = [] := by rw [K3.newObservers]; exact hn2
  have hdo3 : t3.disallowedObservers = [] := by rw [K3.disallowedObservers]; exact hd2
  obtain ⟨-, GG, hval⟩ := C2s.qinv1_end D3 A3 E hb V3 O3 hno3 hdo3 T3
    (by rw [K3.alive, F.alive]; exact Q.alive)
  have K := BL.KeyEq.of_same GG
  exact C3g.genOK_frame G3 A3.frag hb E.top K.kind K.valid K.recomputedAt K.changedAt hval

/-! ## the API actions -/

namespace C3g

/-- nodes, bind table and naming table are unchanged -/
structure NBT (s s' : State) : Prop where
  nodes : s'.nodes = s.nodes
  binds : s'.binds = s.binds
  top : s'.top = s.top

instance : PreOrd NBT :=
  ⟨fun _ => ⟨rfl, rfl, rfl⟩, fun h1 h2 => ⟨h2.nodes.trans h1.nodes, h2.binds.trans h1.binds, h2.top.trans h1.top⟩⟩

theorem NBT.gen {env : Env} {s s' : State} (F : NBT s s') (A : All1 env s []) (G : GenOK env s) : GenOK env s' := by
  have hnd : ∀ m, s'.nodeD m = s.nodeD m := fun m => by simp [State.nodeD, F.nodes]
  exact genOK_frame G A F.binds F.top (fun m => by rw [hnd]) (fun m => by rw [hnd]) (fun m => by rw [hnd])
    (fun m => by rw [hnd]) (fun m => by rw [hnd])

theorem presN_modify {f : State → State} (h1 : ∀ s, (f s).nodes = s.nodes) (h2 : ∀ s, (f s).binds = s.binds)
    (h3 : ∀ s, (f s).top = s.top) : Step.Pres NBT (modify f : M Unit) :=
  Step.Pres.modify fun s => ⟨h1 s, h2 s, h3 s⟩

theorem presN_bumpCounter (f : Counters → Counters) : Step.Pres NBT (bumpCounter f) := by
  unfold Engine.bumpCounter; exact presN_modify (fun _ => rfl) (fun _ => rfl) (fun _ => rfl)

theorem presN_modObs (o : Nat) (f : ObsRec → ObsRec) : Step.Pres NBT (modObs o f) := by
  unfold Engine.modObs; exact presN_modify (fun _ => rfl) (fun _ => rfl) (fun _ => rfl)

theorem presN_getObs (o : Nat) : Step.Pres NBT (getObs o) :=
  Step.Pres.of_readonly _ fun s => by
    simp only [Engine.getObs, run_bind, run_get]; cases s.observers[o]? <;> rfl

theorem presN_resolveOpnd (l : List Nat) (o : Opnd) : Step.Pres NBT (resolveOpnd l o) :=
  Step.Pres.of_readonly _ fun s => by
    cases o with
    | outer k => simp only [Engine.resolveOpnd, run_bind, run_get]; cases s.top[k]? <;> rfl
    | abs n => simp only [Engine.resolveOpnd]; rfl
    | loc j => simp only [Engine.resolveOpnd]; cases l[j]? <;> rfl
    | slot k => simp only [Engine.resolveOpnd, run_bind, run_get]; cases s.slots.lookup k <;> rfl

theorem presN_disallowFutureUse (o : Nat) : Step.Pres NBT (disallowFutureUse o) := by
  unfold Engine.disallowFutureUse
  refine Step.Pres.bind (presN_getObs o) fun ob => ?_
  split
  · exact Step.Pres.pure _
  · exact Step.Pres.pure _
  · exact Step.Pres.bind (presN_bumpCounter _) fun _ => presN_modObs _ _
  · exact Step.Pres.bind (presN_bumpCounter _) fun _ => Step.Pres.bind (presN_modObs _ _) fun _ =>
      presN_modify (fun _ => rfl) (fun _ => rfl) (fun _ => rfl)

/-- the observer actions touch neither nodes, nor the bind table, nor the naming table -/
theorem presN_observe (env : Env) (n : Opnd) (tokens : Array Nat) : Step.Pres NBT (stepAction env (.observe n) tokens) := by
  unfold stepAction
  dsimp only
  refine Step.Pres.bind (presN_resolveOpnd _ _) fun m => Step.Pres.bind Step.Pres.get fun st => ?_
  refine Step.Pres.bind (presN_modify (fun _ => rfl) (fun _ => rfl) (fun _ => rfl)) fun _ => ?_
  exact Step.Pres.bind (presN_bumpCounter _) fun _ => Step.Pres.pure _

theorem presN_cloneObs (env : Env) (o : Nat) (tokens : Array Nat) : Step.Pres NBT (stepAction env (.cloneObs o) tokens) := by
  unfold stepAction
  dsimp only
  exact Step.Pres.bind (presN_modObs _ _) fun _ => Step.Pres.pure _

theorem presN_dropObs (env : Env) (o : Nat) (tokens : Array Nat) : Step.Pres NBT (stepAction env (.dropObs o) tokens) := by
  unfold stepAction
  dsimp only
  refine Step.Pres.bind (presN_getObs o) fun ob => ?_
  split
  · exact Step.Pres.pure _
  · refine Step.Pres.bind (presN_modObs _ _) fun _ => ?_
    split
    · exact Step.Pres.bind (presN_disallowFutureUse o) fun _ => Step.Pres.pure _
    · exact Step.Pres.pure _

theorem presN_disallow (env : Env) (o : Nat) (tokens : Array Nat) : Step.Pres NBT (stepAction env (.disallow o) tokens) := by
  unfold stepAction
  dsimp only
  exact Step.Pres.bind (presN_disallowFutureUse o) fun _ => Step.Pres.pure _

/-- a write keeps `GenOK`: it changes a cell, not the stored value or a stamp of a node -/
theorem writeVar_gen {env : Env} {s s' : State} {v : Nat} {f : Val → Val} {isSet : Bool} {r : Val}
    (Q : QInv1 env s) (G : GenOK env s) (h : (writeVar v f isSet).run.run s = (.ok r, s')) : GenOK env s' := by
  obtain ⟨vc, hv⟩ := writeVar_ok_cell h
  have hst : s.status ≠ .stabilising := by rw [Q.status]; intro e; cases e
  obtain ⟨hr, hs', -, -, hh⟩ := writeVar_outside_ok v f isSet s s' vc r hv hst h
  obtain ⟨R, -⟩ := C2w.wroteOutside_q (f vc.value) Q hv hh
  rw [← hs'] at R
  exact genOK_frame G Q.f1.frag R.binds R.top R.kind R.valid R.recomputedAt R.changedAt R.value

/-- node creation keeps `GenOK`: old nodes and records are untouched, the naming table only grows, and the change detector of a new bind is stale -/
theorem ext_gen {env : Env} {s s1 : State} (Q : QInv1 env s) (G : GenOK env s) (E : C2c.Ext s s1)
    (htop : ∀ (k n : Nat), s.top[k]? = some n → s1.top[k]? = some n)
    (hnew : ∀ (b : Nat) (br : BindRec), s.binds.size ≤ b → s1.binds[b]? = some br →
      s1.isStale br.lhsChange = true) : GenOK env s1 := by
  have A := Q.f1.frag
  refine genOK_transfer G htop ?_
  intro b br hb hst
  by_cases hlt : b < s.binds.size
  · rw [E.bold b hlt] at hb
    obtain ⟨f1, -, -, -, -, f6, -⟩ := rec_facts A hb
    refine ⟨hb, ?_, ?_, ?_⟩
    · rw [← E.isStale_old A Q.vars f1]; exact hst
    · rw [E.old br.lhs (by omega)]
    · intro m hm
      rw [E.old m ((A.gen b br hb m).1 (Or.inl hm)).1]
  · rw [hnew b br (by omega) hb] at hst; cases hst

theorem push_mono {a : Array Nat} (x : Nat) : ∀ (k n : Nat), a[k]? = some n → (a.push x)[k]? = some n := by
  intro k n h
  have hk : k < a.size := (Array.getElem?_eq_some_iff.1 h).1
  rw [Array.getElem?_push, if_neg (by omega)]
  exact h

theorem create_gen {env : Env} {s s' : State} {i : Instr} {tokens : Array Nat} {r : String × Array Nat}
    (Q : QInv1 env s) (G : GenOK env s) (hi : InstrTop env s.top.size i)
    (h : (stepAction env (.create i) tokens).run.run s = (.ok r, s')) : GenOK env s' := by
  have hsc := Q.struct.frag.scope
  unfold stepAction at h
  simp only at h
  obtain ⟨ro, s1, h1, h2⟩ := bind_ok_inv h
  by_cases hb : ∃ body lhs, i = .bind body lhs
  · obtain ⟨body, lhs, ei⟩ := hb
    rw [ei] at hi h1
    obtain ⟨⟨k, ek⟩, hB⟩ := hi
    rw [ek] at h1
    obtain ⟨l, hl, ero, C⟩ := C2c.elab_bind1 hsc h1
    rw [ero] at h2
    simp only at h2
    obtain ⟨s2, e2, h3⟩ := bind_modify_inv h2
    obtain ⟨-, e3⟩ := pure_ok_inv h3
    rw [e3, e2]
    refine ext_gen Q G (C.ext.withTop _ _) ?_ ?_
    · show ∀ (k n : Nat), s.top[k]? = some n → (s1.top.push _)[k]? = some n
      rw [C.top]; exact push_mono _
    · intro b br hge hbr
      have hbr' : s1.binds[b]? = some br := hbr
      obtain ⟨-, e⟩ := C.bind_inv hge hbr'
      rw [e]
      show s1.isStale s.nodes.size = true
      exact C.stale_lc
  · have hst : StaticInstr env i := by
      cases i <;> first | exact hi | exact (hb ⟨_, _, rfl⟩).elim
    obtain ⟨k, ero, hk, hkids, C⟩ := C2c.elab_static1 hsc hst h1
    rw [ero] at h2
    simp only at h2
    obtain ⟨s2, e2, h3⟩ := bind_modify_inv h2
    obtain ⟨-, e3⟩ := pure_ok_inv h3
    rw [e3, e2]
    refine ext_gen Q G (C.ext.withTop _ _) ?_ ?_
    · show ∀ (k n : Nat), s.top[k]? = some n → (s1.top.push _)[k]? = some n
      rw [C.top]; exact push_mono _
    · intro b br hge hbr
      exfalso
      have hbr' : s1.binds[b]? = some br := hbr
      rw [C.binds] at hbr'
      have := (Array.getElem?_eq_some_iff.1 hbr').1
      omega

end C3g

/-- **every API action of the fragment keeps `GenOK`** -/
theorem step_gen {env : Env} {s s' : State} {a : Action} {tokens : Array Nat} {r : String × Array Nat}
    (Q : QInv1 env s) (G : GenOK env s) (ha : ActionF1 env s.top.size a)
    (h : (stepAction env a tokens).run.run s = (.ok r, s')) : GenOK env s' := by
  have A := Q.f1.frag
  cases a <;> try exact ha.elim
  case create i => exact C3g.create_gen Q G ha h
  case observe n => exact ((C3g.presN_observe env n tokens).h s _ s' h).gen A G
  case cloneObs o => exact ((C3g.presN_cloneObs env o tokens).h s _ s' h).gen A G
  case dropObs o => exact ((C3g.presN_dropObs env o tokens).h s _ s' h).gen A G
  case disallow o => exact ((C3g.presN_disallow env o tokens).h s _ s' h).gen A G
  case get v => rw [(Hist.stepAction_read_ok (.get v) h).1]; exact G
  case isStable => rw [(Hist.stepAction_read_ok .isStable h).1]; exact G
  case stats => rw [(Hist.stepAction_read_ok .stats h).1]; exact G
  case stabilise => exact stabilise_gen Q G (Hist.stepAction_stabilise_ok.1 h).1
  all_goals
    obtain ⟨old, h1, -⟩ := (Hist.stepAction_write_ok (by constructor)).1 h
    exact C3g.writeVar_gen Q G h1

/-- the initial state has no binds -/
theorem genOK_init (env : Env) (N : Nat) (d : Bool) : GenOK env (State.init N d) := by
  intro b br hb
  have : (State.init N d).binds = #[] := rfl
  rw [this] at hb
  simp at hb

/-! ## what observers read -/

/-- **after a `stabilise` every in-use observer reads the from-scratch value of the node it watches**: evaluate the lhs of each bind, run the closure on that value,
evaluate the template it returns (`den`; no node created by a closure is looked at) -/
theorem stabilise_reads_den {env : Env} {fuel : Nat} {s s' : State} (Q : QInv1 env s) (G : GenOK env s)
    (h : (stabilise env fuel).run.run s = (.ok (), s')) :
    ∀ (o : Nat) (ob : ObsRec), s'.observers[o]? = some ob → ob.state = .inUse →
      ∃ v, s'.tryGetValue env o = .ok v ∧ ∀ k, ob.node < k → den env s' k ob.node = some v := by
  have R := stabilise_F1 Q h
  have G' := stabilise_gen Q G h
  have Q' := R.inv
  obtain ⟨hreads, -⟩ := stabilised_reads1 R
  have O' : ObsInv s' [] [] := by
    have := Q'.obs
    unfold ObsOK at this
    rw [R.newObservers, R.disallowedObservers] at this
    exact this
  have hall : ∀ m, s'.isNecessary m = true → s'.isStale m = false ∧ ConsistentB env s' m := by
    intro m hm
    obtain ⟨k1, k2, -⟩ := R.values m hm ((s'.nodeD m).height.toNat + 1) (Nat.lt_succ_self _)
    exact ⟨k2, Q'.cons m (Q'.bgraph.nec_lt hm) k1 k2⟩
  intro o ob ho hst
  have hmem : o ∈ (s'.nodeD ob.node).observers := (O'.mem ob.node o).2 ⟨ob, ho, rfl, Or.inl hst⟩
  have hn : s'.isNecessary ob.node = true := nec_of_mem_observers hmem
  obtain ⟨-, -, hv, -⟩ := R.values ob.node hn ((s'.nodeD ob.node).height.toNat + 1) (Nat.lt_succ_self _)
  obtain ⟨v, hread, hev⟩ := hreads o ob ho hst ((s'.nodeD ob.node).height.toNat + 1) (Nat.lt_succ_self _)
  refine ⟨v, hread, fun k hk => ?_⟩
  rw [den_of_consistent_fuel Q'.bgraph Q'.f1 G' hall ob.node hn (Q'.obsTop o ob ho).1 k hk, hv, hev]

end IncrVerif.Proofs.BindH
