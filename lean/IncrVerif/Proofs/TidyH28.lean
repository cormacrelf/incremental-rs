import IncrVerif.Proofs.TidyH27
/-!
# T3b part 4: `stabilise_end` returns (deferred function writes applied, handlers with immediate writes run)
-/
namespace IncrVerif.Proofs.TidyH.EffT
open IncrVerif.Engine IncrVerif.Driver IncrVerif.Proofs IncrVerif.Proofs.Step IncrVerif.Proofs.Sched
open IncrVerif.Proofs.Quiet IncrVerif.Proofs.EffH

theorem nodeUpdate_cases {env : Env} {t : State} {n : Nat} (h1 : (t.nodeD n).valid = true)
    (h2 : (t.nodeD n).isNecessary = true) :
    t.nodeUpdate env n = .changed ∨ t.nodeUpdate env n = .necessary := by
  unfold State.nodeUpdate
  simp only [h1, h2, Bool.not_true, Bool.false_eq_true, if_false]
  split
  · exact Or.inl rfl
  · exact Or.inr rfl

/-- what is known about a pair of the queue built by the third loop -/
def PQ (c : State) (p : Nat × NodeUpdate) : Prop :=
  p.1 < c.nodes.size ∧
    ((c.nodeD p.1).valid = true → c.isNecessary p.1 = true → p.2 = .changed ∨ p.2 = .necessary)

/-- the third loop of `stabiliseEnd` after the var phase (stated for any body that behaves like it) -/
theorem loop3R {env : Env} {c : State}
    (f : Nat → List (Nat × NodeUpdate) → M (ForInStep (List (Nat × NodeUpdate))))
    (hf : ∀ n q t, (f n q).run.run t = (.ok (.yield (q ++ [(n, State.nodeUpdate env
        { t with nodes := t.nodes.modify n fun x => { x with inHandleAfterStab := false } } n)])),
      { t with nodes := t.nodes.modify n fun x => { x with inHandleAfterStab := false } }))
    (hs : List Nat) (hhs : ∀ n, n ∈ hs → n < c.nodes.size) :
    ∀ q t, e6_Mid c t → (∀ p, p ∈ q → PQ c p) →
      ∃ q' t', (forIn hs q f).run.run t = (.ok q', t') ∧ e6_Mid c t' ∧ (∀ p, p ∈ q' → PQ c p) := by
  induction hs with
  | nil => intro q t M hq; exact ⟨q, t, by rw [List.forIn_nil, run_pure], M, hq⟩
  | cons a l ih =>
    intro q t M hq
    have h1 := hf a q t
    have M1 := M.modNode a false
    have hq' : ∀ p, p ∈ q ++ [(a, State.nodeUpdate env
        { t with nodes := t.nodes.modify a fun x => { x with inHandleAfterStab := false } } a)] → PQ c p := by
      intro p hp
      simp only [List.mem_append, List.mem_singleton] at hp
      rcases hp with hp | hp
      · exact hq p hp
      · rw [hp]
        refine ⟨hhs a (List.mem_cons_self ..), fun hv hn => ?_⟩
        obtain ⟨b, hb⟩ := M1.node a
        refine nodeUpdate_cases (by rw [hb]; exact hv) ?_
        rw [hb]; exact hn
    obtain ⟨q2, t2, h2, M2, hq2⟩ := ih (fun n hn => hhs n (List.mem_cons_of_mem _ hn)) _ _ M1 hq'
    exact ⟨q2, t2, by rw [List.forIn_cons, run_bind_ok h1]; exact h2, M2, hq2⟩

/-- what `stabiliseEndRest` leaves of the state after the var phase -/
structure Fin (c s' : State) : Prop where
  wr : Wr c s'
  top : s'.top = c.top
  newObs : s'.newObservers = c.newObservers

/-- **the second half of `stabilise_end` returns**: nothing dead, the queued nodes exist, every necessary node is
valid and has a value, no fault injection armed, handlers with write effects on existing variables -/
theorem stabiliseEndRest_total {env : Env} {N B fuel : Nat} {c : State} (hH : WHandlers env)
    (hHb : HBound env B) (E : EP (noEff env) N B c) (hpc : c.panicCountdown = none)
    (O : SubsH.ObsInv c [] []) (hhs : HasRange c)
    (hval : ∀ n, c.isNecessary n = true → (c.nodeD n).valid = true ∧ (c.value env n).isSome = true) :
    Tot (stabiliseEndRest env fuel) c (fun _ s' => EP (noEff env) N B s' ∧ Fin c s') := by
  have hd : c.deadVars = [] := E.q.deadVars
  unfold stabiliseEndRest
  refine Tot.bind_get ?_
  dsimp only
  refine Tot.bind_modify ?_
  rw [hd, List.forIn_nil]
  refine Tot.bind_ok (run_pure _ _) ?_
  refine Tot.bind_get ?_
  dsimp only
  refine Tot.bind_modify ?_
  refine Tot.bind (Q := fun q t => e6_Mid c t ∧ ∀ p, p ∈ q → PQ c p) ?_ ?_
  · refine loop3R (env := env) (c := c) _ ?_ c.handleAfterStab hhs [] _ ?_ ?_
    · intro n q t
      rw [run_bind_modNode, run_bind_get, run_pure]
    · exact ⟨rfl, rfl, fun m => ⟨_, rfl⟩⟩
    · intro p hp; cases hp
  intro q t7 _ ⟨M7, hq⟩
  refine Tot.bind_modify ?_
  refine Tot.bind_get ?_
  -- the state in which the handlers start to run
  obtain ⟨t8, ht8⟩ : ∃ t8 : State, t8 = { t7 with status := .runningOnUpdateHandlers } := ⟨_, rfl⟩
  rw [← ht8]
  have e7 : t7 = { ({ c with deadVars := [] } : State) with nodes := t7.nodes, handleAfterStab := [] } := M7.eq
  rw [e6_dead c hd] at e7
  have hnodes8 : t8.nodes = t7.nodes := by rw [ht8]
  have hnd8 : ∀ m, t8.nodeD m = t7.nodeD m := fun m => by simp only [State.nodeD, hnodes8]
  have hobs8 : t8.observers = c.observers := by rw [ht8]; show t7.observers = _; rw [e7]
  have hvars8 : t8.vars = c.vars := by rw [ht8]; show t7.vars = _; rw [e7]
  have hrch8 : t8.rch = c.rch := by rw [ht8]; show t7.rch = _; rw [e7]
  have hahh8 : t8.ahh = c.ahh := by rw [ht8]; show t7.ahh = _; rw [e7]
  have hpc8 : t8.panicCountdown = none := by rw [ht8]; show t7.panicCountdown = _; rw [e7]; exact hpc
  have htop8 : t8.top = c.top := by rw [ht8]; show t7.top = _; rw [e7]
  have hno8 : t8.newObservers = c.newObservers := by rw [ht8]; show t7.newObservers = _; rw [e7]
  have hst8 : t8.status ≠ .stabilising := by rw [ht8]; intro e; cases e
  have W8 : Wr c t8 := by
    refine ⟨by rw [hnodes8]; exact M7.size, fun m => ?_, hahh8, by rw [hrch8], by rw [hvars8], fun w x hx => ?_⟩
    · obtain ⟨b, hb⟩ := M7.node m
      exact ⟨_, b, by rw [hnd8, hb]⟩
    · exact ⟨x, by rw [hvars8]; exact hx, rfl, rfl⟩
  have hcore : coreQ (quiet t8) = coreQ (quiet c) := by
    rw [ht8]
    conv => lhs; rw [e7]
    rfl
  have Q8 : SubsH.QInv (noEff env) (quiet t8) :=
    qinvU_congr E.q hcore (by show t8.nodes.size = c.nodes.size; rw [hnodes8]; exact M7.size)
      (fun m => by
        obtain ⟨b, hb⟩ := M7.node m
        exact ⟨b, by show t8.nodeD m = _; rw [hnd8, hb]; rfl⟩)
      (by show t8.observers.size = c.observers.size; rw [hobs8])
      (fun o ob h => ⟨ob, by show t8.observers[o]? = _; rw [hobs8]; exact h, rfl, rfl⟩)
  have E8 : EP (noEff env) N B t8 := E.step W8 Q8
  have hv8 : ∀ n, t8.value env n = c.value env n := W8.value env
  refine Tot.bind (Q := fun _ tc => EP (noEff env) N B tc ∧ RB t8 tc) ?_ ?_
  · refine P23.forIn_tot' _ q (fun _ (_ : PUnit) tc => EP (noEff env) N B tc ∧ RB t8 tc) ?_ _ _
      ⟨E8, RB.refl t8⟩
    intro j x b tc hj ⟨Ec, Rc⟩
    obtain ⟨hxlt, hxnu⟩ := hq x (List.mem_of_getElem? hj)
    have hlt : x.1 < tc.nodes.size := by rw [Rc.wr.size, W8.size]; exact hxlt
    refine Tot.bind_getNode hlt ?_
    have hobsl : (tc.nodeD x.1).observers = (c.nodeD x.1).observers := by
      obtain ⟨h1, b1, e1⟩ := Rc.wr.node x.1
      obtain ⟨h2, b2, e2⟩ := W8.node x.1
      rw [e1, e2]
    rw [hobsl]
    refine Tot.bind (Q := fun _ td => EP (noEff env) N B td ∧ RB t8 td) ?_
      (fun _ td _ hd => Tot.pure ⟨_, rfl, hd⟩)
    refine P23.forIn_tot' _ (c.nodeD x.1).observers
      (fun _ (_ : PUnit) td => EP (noEff env) N B td ∧ RB t8 td) ?_ _ _ ⟨Ec, Rc⟩
    intro k o b2 td hk ⟨Ed, Rd⟩
    have ho : o ∈ (c.nodeD x.1).observers := List.mem_of_getElem? hk
    obtain ⟨ob, hob, -, hst⟩ := (O.mem x.1 o).1 ho
    have hnec : c.isNecessary x.1 = true :=
      (isNecessary_iff c x.1).2 (Or.inr (Or.inl (List.ne_nil_of_mem ho)))
    obtain ⟨hvalid, hsome⟩ := hval x.1 hnec
    obtain ⟨obd, hobd, -, hstd⟩ := Rd.obs o ob (by rw [hobs8]; exact hob)
    have T := runAll_total_w (env := env) (fuel := fuel) (o := o) (n := x.1) (nu := x.2) (now := t8.stabNum)
      (s := td) hH hHb Ed (by rw [Rd.status]; exact hst8) (Rd.pc.trans hpc8) hobd (by rw [hstd]; exact hst)
      (hxnu hvalid hnec) (by rw [Rd.wr.value, hv8]; exact hsome)
    refine Tot.bind T (fun _ te _ he => Tot.pure ⟨_, rfl, he.1, Rd.trans he.2⟩)
  intro _ t9 _ ⟨E9, R9⟩
  refine Tot.bind_modify ?_
  refine Tot.of_ok (run_modify _ _) ?_
  -- the final state: memo tables collected, status reset
  have W9 : Wr c t9 := W8.trans R9.wr
  refine ⟨?_, ⟨?_, ?_, ?_⟩⟩
  · refine ⟨?_, E9.hb, ⟨E9.room.ahh, E9.room.rch, E9.room.size⟩, E9.linked, E9.handles, E9.bound⟩
    exact qinvU_congr E9.q rfl rfl (fun m => ⟨_, rfl⟩) rfl (fun o ob h => ⟨ob, h, rfl, rfl⟩)
  · exact ⟨W9.size, W9.node, W9.ahh, W9.qsize, W9.vsize, W9.cell⟩
  · exact R9.top.trans htop8
  · exact R9.newObs.trans hno8

end IncrVerif.Proofs.TidyH.EffT
