import IncrVerif.Proofs.CutH32
-- static programs with ARBITRARY cutoffs; `Proofs/Quiet27.lean` has the lemmas that read only `TInv`, for `Quiet.TInv`; `Quiet.step_total` takes `simple_total` from this file; overview in Props/C06History.lean
/-!
# Part 27: the observer actions, the writes and the read-only actions return
-/
namespace IncrVerif.Proofs.CutH
open IncrVerif.Engine IncrVerif.Driver IncrVerif.Proofs IncrVerif.Proofs.Step IncrVerif.Proofs.Sched
variable {e : Bool}

/-- the actions of the fragment other than `create` and `stabilise` -/
def SimpleAction : Action → Prop
  | .observe n => OpndOK n
  | .cloneObs _ | .dropObs _ | .disallow _ => True
  | .set _ _ | .modify _ _ | .update _ _ | .replace _ _ | .replaceWith _ _ | .get _ => True
  | .isStable | .stats => True
  | _ => False

/-! ## the observer actions return, for any invariant that reads the observers only through the list of those waiting to be added -/

/-- what the totality of the observer actions uses of an invariant `P` (`CutH.TInv N`, `Quiet.TInv N`, `HeightH.TInvH N`, …): the observers
waiting to be added are distinct and `created` or `unlinked`, and `P` reads nothing else that these actions touch -/
structure ObsTot (P : State → Prop) : Prop where
  newNodup : ∀ {s}, P s → s.newObservers.Nodup
  newState : ∀ {s}, P s → ∀ (o : Nat) (ob : ObsRec), o ∈ s.newObservers → s.observers[o]? = some ob →
    ob.state = .created ∨ ob.state = .unlinked
  of_frame : ∀ {s s'}, P s → s'.nodes = s.nodes → s'.vars = s.vars → s'.top = s.top → s'.ahh = s.ahh → s'.rch = s.rch →
    s'.maxHeightSeen = s.maxHeightSeen → s'.newObservers.Nodup →
    (∀ (o : Nat) (ob : ObsRec), o ∈ s'.newObservers → s'.observers[o]? = some ob → ob.state = .created ∨ ob.state = .unlinked) → P s'

/-- nodes, cells, names and the greatest height seen are as before; the observer table has `k` records more -/
structure ObsOnly (k : Nat) (s s' : State) : Prop where
  nodes : s'.nodes = s.nodes
  vars : s'.vars = s.vars
  top : s'.top = s.top
  seen : s'.maxHeightSeen = s.maxHeightSeen
  obsSize : s'.observers.size = s.observers.size + k

theorem ObsOnly.grown {a : Action} {k : Nat} {s s' : State} (h : ObsOnly k s s') (hg : grow a = (0, 0, k)) : Grown a s s' := by
  unfold Grown; rw [hg, h.nodes, h.vars]; exact ⟨rfl, rfl, h.obsSize⟩

namespace ObsTot
variable {P : State → Prop} (A : ObsTot P)
include A

/-- modifying one observer record so that `created`/`unlinked` records stay so -/
theorem modObs {s s' : State} {o : Nat} {f : ObsRec → ObsRec} (T : P s)
    (hn : s'.nodes = s.nodes) (hv : s'.vars = s.vars) (ht : s'.top = s.top) (ha : s'.ahh = s.ahh)
    (hr : s'.rch = s.rch) (hm : s'.maxHeightSeen = s.maxHeightSeen) (hnew : s'.newObservers = s.newObservers)
    (ho : s'.observers = s.observers.modify o f)
    (hf : ∀ ob, s.observers[o]? = some ob → (ob.state = .created ∨ ob.state = .unlinked) →
      ((f ob).state = .created ∨ (f ob).state = .unlinked)) : P s' := by
  refine A.of_frame T hn hv ht ha hr hm (by rw [hnew]; exact A.newNodup T) ?_
  intro o' ob hm h
  rw [hnew] at hm
  rw [ho, Array.getElem?_modify] at h
  split at h
  · rename_i e
    cases hob : s.observers[o']? with
    | none => rw [hob] at h; cases h
    | some x =>
      rw [hob] at h; cases h
      rw [← e] at hob
      exact hf x hob (A.newState T o x (by rw [e]; exact hm) hob)
  · exact A.newState T o' ob hm h

theorem observe {env : Env} {s : State} {k : Nat} {tk : Array Nat}
    (newIn : ∀ o, o ∈ s.newObservers → ∃ ob, s.observers[o]? = some ob) (T : P s) (hk : k < s.top.size) :
    Tot (stepAction env (.observe (.outer k)) tk) s (fun r s' => r.2 = tk ∧ P s' ∧ ObsOnly 1 s s') := by
  simp only [stepAction, resolveOpnd]
  have h0 : s.top[k]? = some s.top[k] := Array.getElem?_eq_getElem hk
  refine Tot.bind_ok (a := s.top[k]) (s1 := s) (by rw [run_bind_get, h0]; rfl) ?_
  refine Tot.bind_get (Tot.bind_modify ?_)
  refine Tot.of_ok (by rw [run_bind_bumpCounter]; exact run_pure _ _) ?_
  refine ⟨rfl, ?_, rfl, rfl, rfl, rfl, ?_⟩
  · refine A.of_frame T rfl rfl rfl rfl rfl rfl ?_ ?_
    · show (s.newObservers ++ [s.observers.size]).Nodup
      rw [List.nodup_append]
      refine ⟨A.newNodup T, List.nodup_cons.2 ⟨List.not_mem_nil, List.nodup_nil⟩, ?_⟩
      intro a ha b hb
      rw [List.mem_singleton] at hb
      rw [hb]; intro e; rw [e] at ha
      obtain ⟨ob, hob⟩ := newIn _ ha
      simp at hob
    · intro o ob hm h
      have hm' : o ∈ s.newObservers ++ [s.observers.size] := hm
      have h' : (s.observers.push { node := s.top[k] })[o]? = some ob := h
      rw [Array.getElem?_push] at h'
      split at h'
      · cases h'; exact Or.inl rfl
      · rename_i ne
        rcases List.mem_append.1 hm' with hm1 | hm1
        · exact A.newState T o ob hm1 h'
        · rw [List.mem_singleton] at hm1; exact absurd hm1 ne
  · show (s.observers.push _).size = _
    rw [Array.size_push]

theorem cloneObs {env : Env} {s : State} {o : Nat} {tk : Array Nat} (T : P s) :
    Tot (stepAction env (.cloneObs o) tk) s (fun r s' => r.2 = tk ∧ P s' ∧ ObsOnly 0 s s') := by
  simp only [stepAction]
  refine Tot.bind_ok (run_modObs _ _ s) (Tot.pure ⟨rfl, ?_, rfl, rfl, rfl, rfl, Array.size_modify ..⟩)
  exact A.modObs T (o := o) (f := fun x => { x with clones := x.clones + 1 }) rfl rfl rfl rfl rfl rfl rfl rfl (fun ob _ h => h)

theorem disallowFutureUse {s : State} {o : Nat} (T : P s) (ho : o < s.observers.size) :
    Tot (disallowFutureUse o) s (fun _ s' => P s' ∧ ObsOnly 0 s s') := by
  unfold Engine.disallowFutureUse
  have h0 : s.observers[o]? = some s.observers[o] := Array.getElem?_eq_getElem ho
  refine Tot.bind_ok (a := s.observers[o]) (s1 := s) (by rw [run_getObs, h0]) ?_
  cases hst : s.observers[o].state with
  | disallowed => exact Tot.pure ⟨T, rfl, rfl, rfl, rfl, rfl⟩
  | unlinked => exact Tot.pure ⟨T, rfl, rfl, rfl, rfl, rfl⟩
  | created =>
    dsimp only
    refine Tot.bind_ok (run_bumpCounter _ _) (Tot.of_ok (run_modObs _ _ _) ⟨?_, rfl, rfl, rfl, rfl, Array.size_modify ..⟩)
    exact A.modObs T (o := o) (f := fun x => { x with state := .unlinked, handlers := [] })
      rfl rfl rfl rfl rfl rfl rfl rfl (fun ob _ _ => Or.inr rfl)
  | inUse =>
    dsimp only
    refine Tot.bind_ok (run_bumpCounter _ _) (Tot.bind_ok (run_modObs _ _ _)
      (Tot.of_ok (run_modify _ _) ⟨?_, rfl, rfl, rfl, rfl, Array.size_modify ..⟩))
    refine A.modObs T (o := o) (f := fun x => { x with state := .disallowed }) rfl rfl rfl rfl rfl rfl rfl rfl ?_
    intro ob hob h
    rw [h0] at hob; cases hob
    rw [hst] at h; rcases h with h | h <;> cases h

theorem dropObs {env : Env} {s : State} {o : Nat} {tk : Array Nat} (T : P s) (ho : o < s.observers.size) :
    Tot (stepAction env (.dropObs o) tk) s (fun r s' => r.2 = tk ∧ P s' ∧ ObsOnly 0 s s') := by
  simp only [stepAction]
  have h0 : s.observers[o]? = some s.observers[o] := Array.getElem?_eq_getElem ho
  refine Tot.bind_ok (a := s.observers[o]) (s1 := s) (by rw [run_getObs, h0]) ?_
  split
  · exact Tot.pure ⟨rfl, T, rfl, rfl, rfl, rfl, rfl⟩
  · refine Tot.bind_ok (run_modObs _ _ s) ?_
    have T1 : P { s with observers := s.observers.modify o fun x => { x with clones := x.clones - 1 } } :=
      A.modObs T (o := o) (f := fun x => { x with clones := x.clones - 1 }) rfl rfl rfl rfl rfl rfl rfl rfl (fun ob _ h => h)
    have hsz : (s.observers.modify o fun x => { x with clones := x.clones - 1 }).size = s.observers.size :=
      Array.size_modify ..
    split
    · refine Tot.bind (A.disallowFutureUse T1 (by rw [hsz]; exact ho)) ?_
      rintro u s1 - ⟨T2, e⟩
      exact Tot.pure ⟨rfl, T2, e.nodes, e.vars, e.top, e.seen, e.obsSize.trans hsz⟩
    · exact Tot.pure ⟨rfl, T1, rfl, rfl, rfl, rfl, hsz⟩

theorem disallow {env : Env} {s : State} {o : Nat} {tk : Array Nat} (T : P s) (ho : o < s.observers.size) :
    Tot (stepAction env (.disallow o) tk) s (fun r s' => r.2 = tk ∧ P s' ∧ ObsOnly 0 s s') := by
  simp only [stepAction]
  refine Tot.bind (A.disallowFutureUse T ho) ?_
  rintro u s1 - ⟨T2, e⟩
  exact Tot.pure ⟨rfl, T2, e⟩

end ObsTot

namespace P27

/-- `TInv` reads the nodes, the var cells, `top`, the two heaps (their number of buckets) and the
observers waiting to be added -/
theorem TInv_of_frame {N : Nat} {s s' : State} (T : TInv N s) (hn : s'.nodes = s.nodes)
    (hv : s'.vars = s.vars) (ht : s'.top = s.top) (ha : s'.ahh = s.ahh) (hr : s'.rch = s.rch)
    (h1 : s'.newObservers.Nodup)
    (h2 : ∀ (o : Nat) (ob : ObsRec), o ∈ s'.newObservers → s'.observers[o]? = some ob →
      ob.state = .created ∨ ob.state = .unlinked) : TInv N s' where
  hb m hm ho := by
    have hD : s'.nodeD m = s.nodeD m := by simp only [State.nodeD, hn]
    have hnec : s'.isNecessary m = s.isNecessary m := by simp only [State.isNecessary, hD]
    rw [hnec] at hm; rw [hD]; exact T.hb m hm ho
  room := ⟨by rw [ha]; exact T.room.ahh, by rw [hr]; exact T.room.rch, by rw [hn]; exact T.room.size⟩
  linked c vc h := by rw [hv] at h; exact T.linked c vc h
  topSize := by rw [ht, hn]; exact T.topSize
  newNodup := h1
  newState := h2
  dep m i h := by
    have hD : s'.nodeD m = s.nodeD m := by simp only [State.nodeD, hn]
    rw [hD] at h; rw [hn]; exact T.dep m i h

theorem obsTot (N : Nat) : ObsTot (TInv N) :=
  ⟨fun T => T.newNodup, fun T => T.newState, fun T hn hv ht ha hr _ h1 h2 => TInv_of_frame T hn hv ht ha hr h1 h2⟩

theorem Grown_same {a : Action} {s s' : State} (hg : grow a = (0, 0, 0)) (h1 : s'.nodes.size = s.nodes.size)
    (h2 : s'.vars.size = s.vars.size) (h3 : s'.observers.size = s.observers.size) : Grown a s s' := by
  unfold Grown; rw [hg]; exact ⟨h1, h2, h3⟩

end P27

/-! ## the writes -/

/-- a write outside `stabilise` returns the old value and ends in the closed form `wroteOutside`: the cell is linked, its watch node is
valid and has not run in this round, and fits the heap if it has to be queued -/
theorem writeVar_ret {s : State} {v : Nat} {vc : VarCell} (f : Val → Val) (isSet : Bool)
    (hv0 : s.vars[v]? = some vc) (hst : s.status ≠ .stabilising) (hl : vc.linked = true) (hsz : vc.node < s.nodes.size)
    (hkn : (s.nodeD vc.node).kind = .var v) (hval : (s.nodeD vc.node).valid = true)
    (hrec : (s.nodeD vc.node).recomputedAt < s.stabNum)
    (hfit : s.isNecessary vc.node = true → 0 ≤ (s.nodeD vc.node).height ∧ (s.nodeD vc.node).height ≤ s.rch.maxAllowed) :
    (writeVar v f isSet).run.run s = (.ok vc.value, wroteOutside v vc (f vc.value) s) ∧
      (vc.setAt < s.stabNum →
        ((s.nodeD vc.node).valid && s.isNecessary vc.node && !(s.nodeD vc.node).inRch) = true →
        0 ≤ (s.nodeD vc.node).height ∧ (s.nodeD vc.node).height ≤ s.rch.maxAllowed) := by
  have hok : ((writeVar v f isSet).run.run s).1 = .ok vc.value := by
    rw [writeVar_outside_result v f isSet s vc hv0 hst, if_neg (by rw [hl]; intro e; cases e)]
    split
    · rfl
    have hstale : (stampedWrite v vc (f vc.value) s).isStale vc.node = true := by
      have hn : (stampedWrite v vc (f vc.value) s).nodes[vc.node]? = some (s.nodeD vc.node) := by
        show s.nodes[vc.node]? = _
        rw [State.nodeD, Array.getElem?_eq_getElem hsz]; rfl
      have hc : (stampedWrite v vc (f vc.value) s).vars[v]? =
          some { vc with value := f vc.value, setAt := s.stabNum } := withCell_get v _ vc s hv0
      rw [isStale_var _ _ v _ _ hn hkn hc, hval]
      simpa using hrec
    rw [if_neg (by rw [hval, hstale]; rintro ⟨-, h⟩; cases h)]
    split
    · rfl
    rename_i h4
    have h4' : (s.nodeD vc.node).valid = true ∧ s.isNecessary vc.node = true ∧
        (s.nodeD vc.node).inRch = false := by simpa using h4
    obtain ⟨h0, hle⟩ := hfit h4'.2.1
    rw [if_neg (by rintro ⟨-, h⟩; omega), if_neg (by omega), if_neg (by omega)]
  have hrun : (writeVar v f isSet).run.run s = (.ok vc.value, ((writeVar v f isSet).run.run s).2) := by
    rw [← hok]; exact Prod.ext rfl rfl
  obtain ⟨-, hs', -, -, hh⟩ := writeVar_outside_ok v f isSet s _ vc _ hv0 hst hrun
  rw [hs'] at hrun
  exact ⟨hrun, hh⟩

namespace P27

/-- a write outside `stabilise` returns -/
theorem writeVar_total {env : Env} {N : Nat} {s : State} {v : Nat} {f : Val → Val} {isSet : Bool}
    (Q : QInv env e s) (T : TInv N s) (hv : v < s.vars.size) :
    Tot (writeVar v f isSet) s (fun _ s' => TInv N s' ∧ s'.nodes.size = s.nodes.size ∧
      s'.vars.size = s.vars.size ∧ s'.observers.size = s.observers.size) := by
  have hv0 : s.vars[v]? = some s.vars[v] := Array.getElem?_eq_getElem hv
  generalize s.vars[v] = vc at hv0
  have I : GInv env s allClosed := Q.struct
  have hsz : vc.node < s.nodes.size := (Q.vars.cell v vc hv0).1
  have hl : vc.linked = true := T.linked v vc hv0
  obtain ⟨hrun, hh⟩ := writeVar_ret f isSet hv0 (by rw [Q.status]; intro e; cases e) hl hsz (Q.vars.cell v vc hv0).2 (I.node hsz).valid
    (Q.stamps vc.node).1 fun hnec => by
      have h0 := I.hpos _ hnec rfl
      have hle := T.hb _ hnec rfl
      have hmax := T.room.rch
      have hN := T.room.size
      omega
  obtain ⟨R, -⟩ := wroteOutside_q (f vc.value) Q hv0 hh
  have hF := wroteOutside_frame v vc (f vc.value) s
  have hS := wroteOutside_sizes v vc (f vc.value) s
  refine Tot.of_ok hrun ⟨?_, R.size, hS.1, by rw [R.observers]⟩
  refine ⟨fun m hm ho => ?_, ⟨?_, ?_, ?_⟩, fun c vc' h => ?_, ?_, ?_, ?_, fun m i h => ?_⟩
  rotate_right
  · obtain ⟨hh, e1⟩ := R.node m
    rw [e1] at h; rw [R.size]; exact T.dep m i h
  · rw [R.nec] at hm; rw [R.height]; exact T.hb m hm ho
  · rw [hF.2.2.2.2.1]; exact T.room.ahh
  · rw [← T.room.rch]; simp only [Heap.maxAllowed, hS.2]
  · rw [R.size]; exact T.room.size
  · by_cases hc : c = v
    · rw [hc, R.var] at h; cases h; exact hl
    · rw [R.other c hc] at h; exact T.linked c vc' h
  · rw [R.top, R.size]; exact T.topSize
  · rw [R.newObservers]; exact T.newNodup
  · intro o ob hm h
    rw [R.newObservers] at hm; rw [R.observers] at h
    exact T.newState o ob hm h

end P27
open P27

theorem simple_total {env : Env} {N : Nat} {s : State} {a : Action} {tk : Array Nat}
    (Q : QInv env e s) (T : TInv N s) (ha : SimpleAction a) (hok : ActionOK N s a) :
    Tot (stepAction env a tk) s (fun r s' => r.2 = tk ∧ TInv N s' ∧ Grown a s s') := by
  cases a <;> try exact ha.elim
  case observe n =>
    cases n <;> try exact ha.elim
    exact ((obsTot N).observe Q.obs.newIn T hok).mono fun _ _ h => ⟨h.1, h.2.1, h.2.2.grown rfl⟩
  case cloneObs o => exact ((obsTot N).cloneObs T).mono fun _ _ h => ⟨h.1, h.2.1, h.2.2.grown rfl⟩
  case dropObs o => exact ((obsTot N).dropObs T hok).mono fun _ _ h => ⟨h.1, h.2.1, h.2.2.grown rfl⟩
  case disallow o => exact ((obsTot N).disallow T hok).mono fun _ _ h => ⟨h.1, h.2.1, h.2.2.grown rfl⟩
  case get v => exact ⟨_, s, Hist.stepAction_get_ok.2 ⟨_, getVar_total hok, rfl⟩, rfl, T, Grown_same rfl rfl rfl rfl⟩
  case isStable => exact ⟨_, s, Hist.stepAction_isStable_run .., rfl, T, Grown_same rfl rfl rfl rfl⟩
  case stats => exact ⟨_, s, Hist.stepAction_stats_run .., rfl, T, Grown_same rfl rfl rfl rfl⟩
  all_goals
    obtain ⟨old, s1, h1, T1, e1, e2, e3⟩ := writeVar_total Q T hok
    exact ⟨_, s1, (Hist.stepAction_write_ok (by constructor)).2 ⟨old, h1, rfl⟩, rfl, T1, Grown_same rfl e1 e2 e3⟩

end IncrVerif.Proofs.CutH
