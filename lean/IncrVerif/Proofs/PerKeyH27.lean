import IncrVerif.Proofs.PerKeyH14
import IncrVerif.Proofs.PerKeyH16
/-!
# A run of a per-key change detector, part 6c: the diff the loop of `perKeyDriver` walks, the states without `perkeys`
-/
namespace IncrVerif.Proofs.PerKeyH
open IncrVerif.Engine IncrVerif.Driver IncrVerif.Proofs IncrVerif.Proofs.Step IncrVerif.Proofs.Sched
open IncrVerif.Proofs.ExpertH IncrVerif.Proofs.EffH IncrVerif.Proofs.DriverH IncrVerif.Proofs.ExpertH.QR
open IncrVerif.MapOps

/-! ## the keys of the entries of a diff -/

def rkeys (l : List (Int × DiffElement Int)) : List Int :=
  l.filterMap fun kd => match kd.2 with | .right _ => some kd.1 | _ => none

def ukeys (l : List (Int × DiffElement Int)) : List Int :=
  l.filterMap fun kd => match kd.2 with | .unequal _ _ => some kd.1 | _ => none

theorem mem_rkeys {l : List (Int × DiffElement Int)} {k : Int} : k ∈ rkeys l ↔ ∃ y, (k, DiffElement.right y) ∈ l := by
  unfold rkeys
  rw [List.mem_filterMap]
  constructor
  · rintro ⟨⟨k', d⟩, hm, h⟩
    cases d <;> simp at h
    subst h
    exact ⟨_, hm⟩
  · rintro ⟨y, hm⟩
    exact ⟨_, hm, rfl⟩

theorem mem_ukeys {l : List (Int × DiffElement Int)} {k : Int} :
    k ∈ ukeys l ↔ ∃ x y, (k, DiffElement.unequal x y) ∈ l := by
  unfold ukeys
  rw [List.mem_filterMap]
  constructor
  · rintro ⟨⟨k', d⟩, hm, h⟩
    cases d <;> simp at h
    subst h
    exact ⟨_, _, hm⟩
  · rintro ⟨x, y, hm⟩
    exact ⟨_, hm, rfl⟩

theorem rkeys_cons_right (k y : Int) (l : List (Int × DiffElement Int)) :
    rkeys ((k, DiffElement.right y) :: l) = k :: rkeys l := rfl
theorem rkeys_cons_unequal (k x y : Int) (l : List (Int × DiffElement Int)) :
    rkeys ((k, DiffElement.unequal x y) :: l) = rkeys l := rfl
theorem ukeys_cons_right (k y : Int) (l : List (Int × DiffElement Int)) :
    ukeys ((k, DiffElement.right y) :: l) = ukeys l := rfl
theorem ukeys_cons_unequal (k x y : Int) (l : List (Int × DiffElement Int)) :
    ukeys ((k, DiffElement.unequal x y) :: l) = k :: ukeys l := rfl

/-- the reversed prefix grows at the head -/
theorem take_succ_reverse {α} {l : List α} {j : Nat} {a : α} (h : l[j]? = some a) :
    (l.take (j + 1)).reverse = a :: (l.take j).reverse := by
  rw [List.take_add_one, h]
  simp

/-! ## the entries of the diff when no key is removed -/

theorem keysSub_amap {a b : List (Int × Int)} (h : keysSub a b) {k : Int} {x : Int}
    (hx : IncrVerif.AMap.lookup a k = some x) : ∃ y, IncrVerif.AMap.lookup b k = some y := by
  rw [amap_lookup_eq] at hx
  have := h k (by rw [hx]; rfl)
  rw [amap_lookup_eq]
  exact Option.isSome_iff_exists.1 this

/-- classification of an entry of the diff -/
theorem diff_entry {a b : List (Int × Int)} (ha : IncrVerif.AMap.Sorted a) (hb : IncrVerif.AMap.Sorted b)
    (hsub : keysSub a b) {k : Int} {d : DiffElement Int} (h : (k, d) ∈ symmetricDiff a b) :
    (∃ y, d = .right y ∧ a.lookup k = none ∧ b.lookup k = some y) ∨
    (∃ x y, d = .unequal x y ∧ a.lookup k = some x ∧ b.lookup k = some y ∧ x ≠ y) := by
  rcases (symmetricDiff_mem a b ha hb k d).1 h with ⟨x, h1, h2, -⟩ | ⟨y, h1, h2, h3⟩ | ⟨x, y, h1, h2, h3, h4⟩
  · obtain ⟨y, hy⟩ := keysSub_amap hsub h1
    rw [h2] at hy; cases hy
  · rw [amap_lookup_eq] at h1 h2
    exact Or.inl ⟨y, h3, h1, h2⟩
  · rw [amap_lookup_eq] at h1 h2
    exact Or.inr ⟨x, y, h4, h1, h2, h3⟩

/-- the keys of a diff are pairwise distinct: the key at position `j` is not among the earlier ones -/
theorem diff_key_fresh {a b : List (Int × Int)} (ha : IncrVerif.AMap.Sorted a) (hb : IncrVerif.AMap.Sorted b)
    {j : Nat} {k : Int} {d : DiffElement Int} (h : (symmetricDiff a b)[j]? = some (k, d)) :
    ∀ d', (k, d') ∉ (symmetricDiff a b).take j := by
  intro d' hmem
  have hp := symmetricDiff_ascending a b ha hb
  obtain ⟨i, hi, hget⟩ := List.getElem_of_mem hmem
  rw [List.length_take] at hi
  have hjlt : j < (symmetricDiff a b).length := by
    rcases Nat.lt_or_ge j (symmetricDiff a b).length with h1 | h1
    · exact h1
    · rw [List.getElem?_eq_none h1] at h; cases h
  have hij : i < j := by omega
  rw [List.getElem_take] at hget
  have hjget : (symmetricDiff a b)[j] = (k, d) := by
    rw [List.getElem?_eq_getElem hjlt] at h; exact Option.some.inj h
  have := (List.pairwise_iff_getElem.1 hp) i j (by rw [List.length_map]; omega) (by rw [List.length_map]; exact hjlt) hij
  rw [List.getElem_map, List.getElem_map, hget, hjget] at this
  exact absurd this (Int.lt_irrefl _)

/-! ## the state after `prevMap := m` -/

theorem bf_perkeys (D : Nat → Prop) (σ : State) (pk : Array PerKeyRec) : BF D σ { σ with perkeys := pk } :=
  ⟨Nat.le_refl _, fun _ _ => rfl, rfl, fun _ er h => ⟨er, h, rfl, rfl, fun _ => rfl, [], (List.append_nil _).symm⟩,
    fun m _ _ _ hs => (V_stamp_iff _ m).2 ((V_stamp_iff σ m).1 hs)⟩

theorem lf_perkeys {D : Nat → Prop} {a σ : State} (h : LF D a σ) (pk : Array PerKeyRec) :
    LF D a { σ with perkeys := pk } :=
  ⟨h.grow, h.node, h.key, h.xgrow, h.xrec, h.nextDep, h.new, h.nec⟩

theorem pfrag_perkeys {env : Env} {σ : State} (F : PFrag env σ) (pk : Array PerKeyRec) :
    PFrag env { σ with perkeys := pk } :=
  ⟨F.pc, F.kind, F.valid, F.cutoff, F.top, F.force, F.xrec, F.xnode, F.xok, F.scope⟩

theorem slotInv_perkeys {env : Env} {σ : State} (L : SlotInv env σ) (pk : Array PerKeyRec) :
    SlotInv env { σ with perkeys := pk } :=
  L.of_frame (XF.of_nodes rfl rfl rfl) rfl
    (fun m => value_congr env σ { σ with perkeys := pk } rfl (fun _ => rfl) m) (fun _ => rfl) (fun _ => rfl)

/-- `OpCore` does not read `prevMap` (but for `sorted`), nor the other operator records -/
theorem opCore_perkeys {env : Env} {σ : State} {op : Nat} {pr : PerKeyRec} (h : OpCore env σ op pr)
    (pk : Array PerKeyRec) {m : List (Int × Int)} (hm : IncrVerif.AMap.Sorted m) :
    OpCore env { σ with perkeys := pk } op { pr with prevMap := m } := by
  have B := bf_perkeys (fun _ => False) σ pk
  obtain ⟨x, e, er, hN, he, hpk, hch, hent, hout⟩ := h.nodes
  refine ⟨h.cut, h.own, h.noObs, h.privTop, h.templ, ⟨x, e, er, OpNodes.gf (pr := pr) (pr' := { pr with prevMap := m }) B.gf rfl rfl hN, he, hpk, hch, ?_, hout⟩, h.keys, h.deps, hm⟩
  intro key p d hmem
  exact EntryOK.bf_core (pr := pr) (pr' := { pr with prevMap := m }) B (fun _ _ _ _ hd => hd) (fun _ hed => hed)
    rfl rfl rfl (hent key p d hmem)

theorem pot_perkeys {σ : State} {ψ : Nat → Nat} (P : Pot σ ψ) {op : Nat} {pr : PerKeyRec} {m : List (Int × Int)}
    (hop : σ.perkeys[op]? = some pr) :
    Pot { σ with perkeys := σ.perkeys.modify op fun p => { p with prevMap := m } } ψ :=
  P.modify hop _ rfl rfl (P.op op pr hop).2.2.2

end IncrVerif.Proofs.PerKeyH
