import IncrVerif.Proofs.PerKeyH37
/-!
# A run of a per-key change detector, part 5b (`.unequal` iteration): the invariants along the frame `UF`
-/
namespace IncrVerif.Proofs.PerKeyH
open IncrVerif.Engine IncrVerif.Driver IncrVerif.Proofs IncrVerif.Proofs.Step IncrVerif.Proofs.Sched
open IncrVerif.Proofs.ExpertH IncrVerif.Proofs.EffH IncrVerif.Proofs.DriverH IncrVerif.Proofs.ExpertH.QR

section
variable {e : Nat} {er : ExpertRec} {a b : State}

theorem UF.binds (U : UF e er a b) : b.binds = a.binds := by
  have := U.key
  simp only [eKey, Prod.mk.injEq] at this
  exact this.2.1

theorem UF.kind? (U : UF e er a b) (m : Nat) : (b.nodeD m).kind? = (a.nodeD m).kind? := by
  obtain ⟨h, e0⟩ := U.node m; rw [e0]; rfl

theorem UF.xnone (U : UF e er a b) {e' : Nat} (h : a.experts[e']? = none) : b.experts[e']? = none := by
  cases h2 : b.experts[e']? with
  | none => rfl
  | some er'' => obtain ⟨er', h3, -⟩ := U.bwd h2; rw [h] at h3; cases h3

theorem UF.children (U : UF e er a b) (m : Nat) : b.children m = a.children m := by
  unfold State.children; rw [U.kind?, U.binds]
  cases hk : (a.nodeD m).kind? with
  | none => rfl
  | some k =>
    cases k <;> try rfl
    rename_i e'
    simp only
    cases hx : a.experts[e']? with
    | none => rw [U.xnone hx]
    | some er' => obtain ⟨er'', h2, h3, -⟩ := U.fwd hx; rw [h2, h3]

theorem UF.recomputedAt (U : UF e er a b) (m : Nat) : (b.nodeD m).recomputedAt = (a.nodeD m).recomputedAt := by
  obtain ⟨h, e0⟩ := U.node m; rw [e0]

theorem UF.changedAt (U : UF e er a b) (m : Nat) : (b.nodeD m).changedAt = (a.nodeD m).changedAt := by
  obtain ⟨h, e0⟩ := U.node m; rw [e0]

/-- staleness only grows -/
theorem UF.isStale_mono (U : UF e er a b) (n : Nat) (h : a.isStale n = true) : b.isStale n = true := by
  unfold State.isStale at h ⊢
  simp only [U.kind?, U.recomputedAt, U.changedAt, U.children, U.vars] at h ⊢
  cases hk : (a.nodeD n).kind? with
  | none => rw [hk] at h; exact h
  | some k =>
    rw [hk] at h
    cases k <;> try exact h
    rename_i e'
    simp only at h ⊢
    cases hx : a.experts[e']? with
    | none =>
      rw [hx] at h; rw [U.xnone hx]; exact h
    | some er' =>
      obtain ⟨er'', h2, -, h4, -⟩ := U.fwd hx
      rw [hx] at h
      rw [h2]
      simp only [Bool.or_eq_true] at h ⊢
      rcases h with (h | h) | h
      · exact Or.inl (Or.inl (h4 h))
      · exact Or.inl (Or.inr h)
      · exact Or.inr h

theorem UF.value (U : UF e er a b) (env : Env) (n : Nat) : b.value env n = a.value env n := by
  refine value_congr env a b U.size (fun m => ?_) n
  obtain ⟨h, e0⟩ := U.node m; rw [e0]; rfl

/-! ## the fragment, the slots, the observers -/

theorem UF.xg (U : UF e er a b) : XG a b where
  size := U.size
  kind := U.kind
  fwd e' er' h := by
    obtain ⟨er'', h1, h2, -⟩ := U.fwd h
    exact ⟨er'', h1, by rw [h2], by rw [h2], by rw [h2], by rw [h2]⟩
  bwd e' er'' h := by
    obtain ⟨er', h1, h2, -⟩ := U.bwd h
    exact ⟨er', h1, by rw [h2], by rw [h2], by rw [h2], by rw [h2]⟩

theorem UF.frag {env : Env} (U : UF e er a b) (F : PFrag env a) : PFrag env b := by
  have hn : ∀ m, ∃ h, b.nodeD m = { a.nodeD m with heightInRch := h } := U.node
  refine F.of_xg U.xg (by rw [U.pc]; exact F.pc) (fun m => ?_) (fun e' er'' h => ?_) (fun m => ?_) U.scope
  · obtain ⟨h, e0⟩ := hn m; rw [e0]; exact F.validD m
  · obtain ⟨er', h1, h2, -⟩ := U.bwd h
    rw [h2]; exact (F.xok e' er' h1).2.1
  · obtain ⟨h, e0⟩ := hn m; rw [e0]; exact ⟨rfl, rfl, rfl⟩

theorem UF.slots {env : Env} (U : UF e er a b) (S : SlotInv env a) : SlotInv env b := by
  refine ⟨fun e' er'' h => ?_, fun n e' er'' hk h hw => ?_, fun n e' er'' hk h hw => ?_⟩
  · obtain ⟨er', h1, h2, -⟩ := U.bwd h
    rw [h2, U.nextDep]; exact S.deps e' er' h1
  · obtain ⟨er', h1, h2, -⟩ := U.bwd h
    rw [U.kind] at hk
    rw [U.isNecessary]
    exact S.flag n e' er' hk h1 (by rw [h2] at hw; exact hw)
  · obtain ⟨er', h1, h2, -⟩ := U.bwd h
    rw [U.kind] at hk
    have G : Good env a er' := by
      refine S.good n e' er' hk h1 ?_
      rcases hw with hw | hw
      · exact Or.inl (by rw [h2] at hw; exact hw)
      · refine Or.inr ?_
        cases hs : a.isStale n
        · rfl
        · rw [U.isStale_mono n hs] at hw; cases hw
    intro ed hed hcb
    rw [U.value]
    rw [h2] at hed ⊢
    exact G ed hed hcb

theorem UF.obs (U : UF e er a b) (O : ObsListed a) : ObsListed b := by
  intro m o ho
  rw [U.observers] at ho
  rw [U.stateObservers]
  exact O m o ho

/-! ## the bookkeeping -/

theorem UF.bf (U : UF e er a b) : BF (fun _ => False) a b := (U.lf _).bf

theorem UF.opcore {env : Env} (U : UF e er a b) {op : Nat} {pr : PerKeyRec} (C : OpCore env a op pr) :
    OpCore env b op pr :=
  C.of_xg U.xg U.top (fun x _ h0 => by rw [U.observers]; exact h0)
    fun _ _ _ p _ ep _ _ _ hlt hk h0 => Or.inl (U.bf.stamp p ep hlt hk h0)

theorem UF.pot (U : UF e er a b) {ψ : Nat → Nat} (P : Pot a ψ) : Pot b ψ :=
  P.of_frame U.size U.kidsX U.top U.perkeys

end

end IncrVerif.Proofs.PerKeyH
