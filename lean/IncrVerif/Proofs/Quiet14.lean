import IncrVerif.Proofs.Quiet9
import IncrVerif.Engine.Run
import IncrVerif.Proofs.Footprint
/-!
# Part 13: two more facts about the drain of the static fragment
-/
namespace IncrVerif.Proofs.Quiet
open IncrVerif.Engine IncrVerif.Driver IncrVerif.Proofs IncrVerif.Proofs.Step IncrVerif.Proofs.Sched

/-- state fields the drain never touches (in addition to what `Sched.Frame` and `Sched.Calm` say) -/
def stateKeyD (s : State) :=
  (s.observers, s.allObservers, s.currentScope, s.top, s.handles, s.alive, s.propagateInvalidity, s.binds,
    s.memos, s.slots, s.ahh)

/-- the drain's frame on the state fields of `stateKeyD` -/
def KeyD (s s' : State) : Prop := stateKeyD s' = stateKeyD s

theorem KeyD.refl (s : State) : KeyD s s := rfl
theorem KeyD.trans {a b c : State} (h1 : KeyD a b) (h2 : KeyD b c) : KeyD a c :=
  Eq.trans h2 h1
instance : PreOrd KeyD := ⟨KeyD.refl, KeyD.trans⟩

theorem PresK.shouldCutoff (env n o v) : Step.Pres KeyD (shouldCutoff env n o v) :=
  (Footprint.Foot.shouldCutoff env n o v).frame (Footprint.Edit.keyD (by decide))
theorem PresK.handleAfterStabilisation (n) : Step.Pres KeyD (handleAfterStabilisation n) :=
  (Footprint.Foot.handleAfterStabilisation n).frame (Footprint.Edit.keyD (by decide))
theorem PresK.parentIterCanRecomputeNow (p c : Nat) :
    Step.Pres KeyD (parentIterCanRecomputeNow p c) :=
  (Footprint.Foot.parentIterCanRecomputeNow p c).frame (Footprint.Edit.keyD (by decide))
theorem PresK.maybeChangeValueManual (env fuel n o d b) :
    Step.Pres KeyD (maybeChangeValueManual env fuel n o d b) :=
  (Footprint.Foot.maybeChangeValueManual env fuel n o d b).frame (Footprint.Edit.keyD (by decide))
theorem PresK.maybeChangeValue (env fuel n v) : Step.Pres KeyD (maybeChangeValue env fuel n v) :=
  (Footprint.Foot.maybeChangeValue env fuel n v).lift (Footprint.Edit.keyD (by decide))

theorem KeyD.started (n : Nat) (s : State) : KeyD s (Step.started n s) := rfl
theorem KeyD.logged (es : List Event) (s : State) : KeyD s (Step.logged es s) := rfl

theorem recomputeOne_keyD {env : Env} {fuel n : Nat} {s s' : State} {r : Option Nat}
    (g : Graph env s) (hn : s.isNecessary n = true)
    (h : (recomputeOne env fuel n).run.run s = (.ok r, s')) : KeyD s s' := by
  obtain ⟨hlt, hv, hk, _, _⟩ := g.nec n hn
  exact recomputeOne_pres_of_static (some_of_lt hlt) hv g.pc hk
    (fun es => (KeyD.started n s).trans (KeyD.logged es _)) (PresK.maybeChangeValue env fuel n) h

theorem pop_keyD {s s1 : State} {n : Nat} (hi : HeapInv s)
    (hr : rchRemoveMin.run.run s = (.ok (some n), s1)) : KeyD s s1 := by
  obtain ⟨-, -, -, hs1, -⟩ := rchRemoveMin_inv hi hr
  rw [hs1]
  rfl

theorem drainHeap_keyD {env : Env} {fuel : Nat} {s s' : State} (I : DrainInv env s)
    (h : (drainHeap env fuel).run.run s = (.ok (), s')) : stateKeyD s' = stateKeyD s :=
  (drainHeap_rel KeyD KeyD.refl KeyD.trans (fun I h => recomputeOne_keyD I.graph (I.cur _ rfl).1 h)
    (fun I h => pop_keyD I.heap h) fuel s s' I h).2.2

/-- unnecessary nodes: not stamped in the current round; consistent with their children unless stale -/
def UnnecOK (env : Env) (s : State) : Prop :=
  ∀ m, m < s.nodes.size → s.isNecessary m = false →
    (s.nodeD m).recomputedAt < s.stabNum ∧ (staleOf s m = false → Consistent env s m)

/-- `UnnecOK` only reads sizes, necessity, variables, the round number, and kind / stamps / value of nodes -/
theorem UnnecOK.congr {env : Env} {s s' : State} (hU : UnnecOK env s)
    (hsz : s'.nodes.size = s.nodes.size) (hnec : ∀ m, s'.isNecessary m = s.isNecessary m)
    (hv : s'.vars = s.vars) (hst : s'.stabNum = s.stabNum)
    (hk : ∀ m, (s'.nodeD m).kind = (s.nodeD m).kind)
    (hr : ∀ m, (s'.nodeD m).recomputedAt = (s.nodeD m).recomputedAt)
    (hc : ∀ m, (s'.nodeD m).changedAt = (s.nodeD m).changedAt)
    (hval : ∀ m, (s'.nodeD m).value = (s.nodeD m).value) : UnnecOK env s' := by
  intro m hm hn
  rw [hsz] at hm
  rw [hnec] at hn
  obtain ⟨h1, h2⟩ := hU m hm hn
  refine ⟨by rw [hr, hst]; exact h1, fun hs => ?_⟩
  rw [staleOf_congr (hk m) (hr m) hv (fun c _ => hc c)] at hs
  obtain ⟨w, hw, hvl⟩ := h2 hs
  exact ⟨w, Target.congr (hk m) hv (fun c _ => hval c) hw, by rw [hval]; exact hvl⟩

/-- one recompute step (in the form of `StepRel`) keeps `UnnecOK` -/
theorem step_unnec {env : Env} {s s' : State} {n : Nat} {v : Val} {ch : Bool} {r : Option Nat}
    (hn : s.isNecessary n = true) (R : StepRel n v ch r s s') (hU : UnnecOK env s) : UnnecOK env s' := by
  intro m hm hnm
  rw [R.size] at hm
  rw [R.nec] at hnm
  have hne : m ≠ n := by intro e; rw [e, hn] at hnm; cases hnm
  obtain ⟨h1, h2⟩ := hU m hm hnm
  have o := R.other m hne
  refine ⟨by rw [o.recomputedAt, R.stabNum]; exact h1, fun hs => ?_⟩
  -- the child `n` of `m`, if it is one, did not change
  have hch : n ∈ kids (s.nodeD m).kind → ch = false := by
    intro hk
    cases hc : ch with
    | false => rfl
    | true =>
      exfalso
      have : staleOf s' m = true := by
        refine staleOf_of_child (c := n) (by rw [o.kind]; exact hk) ?_
        rw [R.changedAt, hc, o.recomputedAt]
        simpa using h1
      rw [this] at hs; cases hs
  have hcA : ∀ c, c ∈ kids (s.nodeD m).kind → (s'.nodeD c).changedAt = (s.nodeD c).changedAt := by
    intro c hc
    by_cases hcn : c = n
    · rw [hcn] at hc ⊢; rw [R.changedAt, hch hc]; simp
    · exact (R.other c hcn).changedAt
  have hcV : ∀ c, c ∈ kids (s.nodeD m).kind → (s'.nodeD c).value = (s.nodeD c).value := by
    intro c hc
    by_cases hcn : c = n
    · rw [hcn] at hc ⊢; rw [R.value, (R.unch (hch hc)).1]
    · exact (R.other c hcn).value
  rw [staleOf_congr o.kind o.recomputedAt R.vars hcA] at hs
  obtain ⟨w, hw, hvl⟩ := h2 hs
  exact ⟨w, Target.congr o.kind R.vars hcV hw, by rw [o.value]; exact hvl⟩

theorem recomputeOne_unnec {env : Env} {fuel n : Nat} {s s' : State} {r : Option Nat}
    (I : Inv env s (some n)) (hU : UnnecOK env s)
    (h : (recomputeOne env fuel n).run.run s = (.ok r, s')) : UnnecOK env s' := by
  obtain ⟨v, ch, -, R⟩ := recomputeOne_static I.graph I.heap (I.cur n rfl).1 I.kids_values h
  exact step_unnec (I.cur n rfl).1 R hU

theorem pop_unnec {env : Env} {s s1 : State} {n : Nat} (hi : HeapInv s) (hU : UnnecOK env s)
    (hr : rchRemoveMin.run.run s = (.ok (some n), s1)) : UnnecOK env s1 := by
  obtain ⟨-, -, -, hs1, -⟩ := rchRemoveMin_inv hi hr
  have hnd : ∀ m, s1.nodeD m =
      if n = m ∧ m < s.nodes.size then { s.nodeD m with heightInRch := -1 } else s.nodeD m := by
    intro m; rw [hs1]; exact nodeD_modify s n m _
  have hsh : ∀ m, SameShape (s.nodeD m) (s1.nodeD m) := by
    intro m; rw [hnd]; split
    · exact ⟨rfl, rfl, rfl, rfl, rfl, rfl, rfl, rfl⟩
    · exact SameShape.refl _
  refine hU.congr (by rw [hs1]; simp) (isNecessary_of_shape hsh) (by rw [hs1]) (by rw [hs1])
    (fun m => (hsh m).kind) ?_ ?_ ?_ <;> (intro m; rw [hnd]; split <;> rfl)

theorem drainHeap_unnec {env : Env} {fuel : Nat} {s s' : State} (I : DrainInv env s) (hU : UnnecOK env s)
    (h : (drainHeap env fuel).run.run s = (.ok (), s')) : UnnecOK env s' :=
  (drainHeap_rel (fun a b => UnnecOK env a → UnnecOK env b) (fun _ h => h) (fun h1 h2 h => h2 (h1 h))
    (fun I h hU => recomputeOne_unnec I hU h) (fun I h hU => pop_unnec I.heap hU h) fuel s s' I h).2.2 hU

end IncrVerif.Proofs.Quiet
