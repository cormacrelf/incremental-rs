import IncrVerif.Proofs.LeakH8
/-!
# C12 over histories, part 9: what the program holds after a list of drops does not depend on their order

`hold3 s`: the program's node handles, the `Var` handle counts, the observer clone counts.  A drop action that
returns acts on `hold3` by `dropT`, a total function of the action's kind; the `dropT`s commute; hence the
holdings after a list of drops (that runs) are a function of the multiset of drops.
-/
namespace IncrVerif.Proofs.LeakH
open IncrVerif.Engine IncrVerif.Driver IncrVerif.Proofs IncrVerif.Proofs.Obs IncrVerif.Proofs.Life
open IncrVerif.Proofs.Own

structure Hold3 where
  handles : List Nat
  vars : Array Nat
  obs : Array Nat

def hold3 (s : State) : Hold3 :=
  ⟨s.handles, s.vars.map (·.handles), s.observers.map (·.clones)⟩

inductive DropK where
  | var (v : Nat) | handle (n : Nat) | obs (o : Nat) | nop

/-- the kind of a drop action; the operand of `dropHandle` is resolved in `s0` -/
def kindOf (s0 : State) : Action → DropK
  | .dropVar v => .var v
  | .dropHandle o => match resolve s0 [] o with
    | .ok n => .handle n
    | .error _ => .nop
  | .dropObs o => .obs o
  | _ => .nop

def dropT (h : Hold3) : DropK → Hold3
  | .var v => { h with vars := h.vars.modify v (· - 1) }
  | .handle n => { h with handles := h.handles.erase n }
  | .obs o => { h with obs := h.obs.modify o (· - 1) }
  | .nop => h

theorem modify_comm (a : Array Nat) (i j : Nat) (f : Nat → Nat) :
    (a.modify i f).modify j f = (a.modify j f).modify i f := by
  apply Array.ext_getElem?
  intro k
  simp only [Array.getElem?_modify]
  by_cases h1 : i = k <;> by_cases h2 : j = k <;> simp [h1, h2]

theorem dropT_comm (h : Hold3) (a b : DropK) : dropT (dropT h a) b = dropT (dropT h b) a := by
  cases a <;> cases b <;> simp only [dropT]
  · rw [modify_comm]
  · rw [List.erase_comm]
  · rw [modify_comm]

theorem map_modify_comm {α} (vs : Array α) (v : Nat) (f : α → α) (g : α → Nat) (f' : Nat → Nat)
    (hfg : ∀ x, g (f x) = f' (g x)) : (vs.modify v f).map g = (vs.map g).modify v f' := by
  apply Array.ext_getElem?
  intro i
  rw [Array.getElem?_map, Array.getElem?_modify, Array.getElem?_modify, Array.getElem?_map]
  split
  · cases vs[i]? <;> simp [hfg]
  · rfl

theorem map_modify_same {α β} (vs : Array α) (v : Nat) (f : α → α) (g : α → β)
    (hfg : ∀ x, g (f x) = g x) : (vs.modify v f).map g = vs.map g := by
  apply Array.ext_getElem?
  intro i
  rw [Array.getElem?_map, Array.getElem?_modify, Array.getElem?_map]
  split
  · cases vs[i]? <;> simp [hfg]
  · rfl

/-- the frame of the drop phase -/
def SameFrame (s0 s : State) : Prop := s.top = s0.top ∧ s.slots = s0.slots

theorem resolve_frame {s0 s : State} (F : SameFrame s0 s) (o : Opnd) : resolve s [] o = resolve s0 [] o := by
  cases o <;> simp only [resolve, F.1, F.2]

theorem disallowState_hold (s : State) (o : Nat) :
    hold3 (disallowState s o) = hold3 s ∧ SameFrame s (disallowState s o) := by
  unfold disallowState
  cases s.observers[o]? with
  | none => exact ⟨rfl, rfl, rfl⟩
  | some ob =>
    obtain ⟨n, st, hs, c⟩ := ob
    cases st
    · refine ⟨?_, rfl, rfl⟩
      have e : (afterDisCreated s o).observers.map (·.clones) = s.observers.map (·.clones) := by
        show (s.observers.modify o fun x => { x with state := .unlinked, handlers := [] }).map (·.clones) = _
        exact map_modify_same _ _ _ _ (fun _ => rfl)
      show Hold3.mk s.handles (s.vars.map (·.handles)) ((afterDisCreated s o).observers.map (·.clones)) = _
      rw [e]; rfl
    · refine ⟨?_, rfl, rfl⟩
      have e : (afterDisInUse s o).observers.map (·.clones) = s.observers.map (·.clones) := by
        show (s.observers.modify o fun x => { x with state := .disallowed }).map (·.clones) = _
        exact map_modify_same _ _ _ _ (fun _ => rfl)
      show Hold3.mk s.handles (s.vars.map (·.handles)) ((afterDisInUse s o).observers.map (·.clones)) = _
      rw [e]; rfl
    · exact ⟨rfl, rfl, rfl⟩
    · exact ⟨rfl, rfl, rfl⟩

theorem dropObsState_hold (s : State) (o : Nat) :
    hold3 (dropObsState s o) = dropT (hold3 s) (.obs o) ∧ SameFrame s (dropObsState s o) := by
  unfold dropObsState
  cases ho : s.observers[o]? with
  | none =>
    refine ⟨?_, rfl, rfl⟩
    show hold3 s = _
    simp only [dropT, hold3]
    congr 1
    refine (Step.modify_eq_self _ _ _ (fun x hx => ?_)).symm
    rw [Array.getElem?_map, ho] at hx
    cases hx
  | some ob =>
    dsimp only
    split
    · rename_i hc
      refine ⟨?_, rfl, rfl⟩
      simp only [dropT, hold3]
      congr 1
      refine (Step.modify_eq_self _ _ _ (fun x hx => ?_)).symm
      rw [Array.getElem?_map, ho] at hx
      simp only [Option.map_some, Option.some.injEq] at hx
      omega
    · have e : hold3 { s with observers := s.observers.modify o fun x => { x with clones := x.clones - 1 } }
          = dropT (hold3 s) (.obs o) := by
        simp only [dropT, hold3]
        congr 1
        exact map_modify_comm _ _ _ _ (· - 1) (fun _ => rfl)
      split
      · obtain ⟨h1, h2⟩ := disallowState_hold
          { s with observers := s.observers.modify o fun x => { x with clones := x.clones - 1 } } o
        exact ⟨h1.trans e, h2⟩
      · exact ⟨e, rfl, rfl⟩

theorem kindOf_frame {s0 s : State} (F : SameFrame s0 s) (a : Action) : kindOf s a = kindOf s0 a := by
  cases a <;> try rfl
  simp only [kindOf, resolve_frame F]

/-- the drop `a` moves the holdings by `dropT` and keeps the frame -/
theorem afterDrop_hold (s : State) (a : Action) :
    hold3 (afterDrop s a) = dropT (hold3 s) (kindOf s a) ∧ SameFrame s (afterDrop s a) := by
  cases a <;> try exact ⟨rfl, rfl, rfl⟩
  case dropVar v =>
    simp only [afterDrop, kindOf, dropT, hold3]
    split
    · rename_i vc hv
      split
      · rename_i h0
        refine ⟨?_, rfl, rfl⟩
        congr 1
        refine (Step.modify_eq_self _ _ _ (fun x hx => ?_)).symm
        rw [Array.getElem?_map, hv] at hx
        simp only [Option.map_some, Option.some.injEq] at hx
        omega
      · refine ⟨?_, rfl, rfl⟩
        show Hold3.mk _ _ _ = Hold3.mk _ _ _
        congr 1
        exact map_modify_comm s.vars v (fun x => { x with handles := x.handles - 1 }) (·.handles) (· - 1) (fun _ => rfl)
    · rename_i hv
      refine ⟨?_, rfl, rfl⟩
      congr 1
      refine (Step.modify_eq_self _ _ _ (fun x hx => ?_)).symm
      rw [Array.getElem?_map, hv] at hx
      cases hx
  case dropHandle o =>
    simp only [afterDrop, kindOf]
    cases resolve s [] o <;> exact ⟨rfl, rfl, rfl⟩
  case dropObs o => exact dropObsState_hold s o
  case disallow o => exact disallowState_hold s o

/-- a drop action that returns: token table unchanged, frame unchanged, holdings moved by `dropT` -/
theorem drop_hold {env : Env} {s0 s s' : State} {a : Action} {tk : Array Nat} {r : String × Array Nat}
    (F : SameFrame s0 s) (ha : DropAction a) (h : (stepAction env a tk).run.run s = (.ok r, s')) :
    r.2 = tk ∧ SameFrame s0 s' ∧ hold3 s' = dropT (hold3 s) (kindOf s0 a) := by
  obtain ⟨-, rfl, e⟩ := drop_inv ha h
  obtain ⟨e1, F1⟩ := afterDrop_hold s a
  exact ⟨e, ⟨F1.1.trans F.1, F1.2.trans F.2⟩, by rw [e1, kindOf_frame F]⟩

/-- after a list of drops that runs: the holdings are the fold of `dropT` -/
theorem drops_hold {env : Env} {s0 : State} {drops : List Action} {s s' : State} {tk tk' : Array Nat}
    (F : SameFrame s0 s) (hd : ∀ a, a ∈ drops → DropAction a)
    (h : Quiet.runActions env drops s tk = .ok (s', tk')) :
    tk' = tk ∧ SameFrame s0 s' ∧ hold3 s' = drops.foldl (fun x a => dropT x (kindOf s0 a)) (hold3 s) := by
  -- what is left to fold over the actions still to come is the whole fold
  obtain ⟨e, F', -, e'⟩ := Hist.runActions_inv
    (I := fun t tk1 rest => tk1 = tk ∧ SameFrame s0 t ∧ (∀ a, a ∈ rest → DropAction a) ∧
      rest.foldl (fun x a => dropT x (kindOf s0 a)) (hold3 t) = drops.foldl (fun x a => dropT x (kindOf s0 a)) (hold3 s))
    (fun a rest t tk1 r t' i hx => by
      obtain ⟨e1, F1, e2⟩ := drop_hold i.2.1 (i.2.2.1 a List.mem_cons_self) hx
      exact ⟨e1.trans i.1, F1, fun b hb => i.2.2.1 b (List.mem_cons_of_mem _ hb), by rw [e2]; exact i.2.2.2⟩)
    ⟨rfl, F, hd, rfl⟩ h
  exact ⟨e, F', e'⟩

/-- **drop-order independence of the holdings.** Two permutations of a list of drops, both run from the same
state: the program holds the same afterwards. -/
theorem perm_hold {env : Env} {drops drops' : List Action} {s s1 s2 : State} {tk tk1 tk2 : Array Nat}
    (hd : ∀ a, a ∈ drops → DropAction a) (hp : drops'.Perm drops)
    (h1 : Quiet.runActions env drops s tk = .ok (s1, tk1))
    (h2 : Quiet.runActions env drops' s tk = .ok (s2, tk2)) :
    hold3 s2 = hold3 s1 ∧ s2.slots = s1.slots := by
  obtain ⟨-, F1, e1⟩ := drops_hold (s0 := s) ⟨rfl, rfl⟩ hd h1
  obtain ⟨-, F2, e2⟩ := drops_hold (s0 := s) ⟨rfl, rfl⟩ (fun a hm => hd a (hp.mem_iff.1 hm)) h2
  refine ⟨?_, F2.2.trans F1.2.symm⟩
  rw [e1, e2]
  exact hp.foldl_eq' (fun x _ y _ z => dropT_comm z _ _) _

theorem holdsNothing_of_hold3 {s t : State} (h : hold3 t = hold3 s) (hs : t.slots = s.slots)
    (H : HoldsNothing s) : HoldsNothing t := by
  have h1 : t.handles = s.handles := congrArg Hold3.handles h
  have h2 : t.vars.map (·.handles) = s.vars.map (·.handles) := congrArg Hold3.vars h
  have h3 : t.observers.map (·.clones) = s.observers.map (·.clones) := congrArg Hold3.obs h
  refine ⟨h1.trans H.handles, hs.trans H.slots, fun c vc hc => ?_, fun o ob ho => ?_⟩
  · have := congrArg (·[c]?) h2
    simp only [Array.getElem?_map, hc, Option.map_some] at this
    cases hs' : s.vars[c]? with
    | none => rw [hs'] at this; cases this
    | some vc0 =>
      rw [hs'] at this
      simp only [Option.map_some, Option.some.injEq] at this
      rw [this]; exact H.vars c vc0 hs'
  · have := congrArg (·[o]?) h3
    simp only [Array.getElem?_map, ho, Option.map_some] at this
    cases hs' : s.observers[o]? with
    | none => rw [hs'] at this; cases this
    | some ob0 =>
      rw [hs'] at this
      simp only [Option.map_some, Option.some.injEq] at this
      rw [this]; exact H.observers o ob0 hs'

end IncrVerif.Proofs.LeakH
