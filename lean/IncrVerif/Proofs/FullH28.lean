import IncrVerif.Proofs.FullH27
/-!
# C01 full fragment, the recompute step of a `map_ref` node, part 2: the ACTUAL state after the step
(`kInv_after_mapRef`, `After` of MapRef14 for graphs with binds: fragment facts, `KInv`, `MInv` of the end state)
-/
namespace IncrVerif.Proofs.FullH
open IncrVerif.Engine IncrVerif.Proofs IncrVerif.Proofs.Step IncrVerif.Proofs.Sched IncrVerif.Proofs.Quiet
open IncrVerif.Proofs.MapRefH (upd1 upd1_self upd1_other cleared cleared_nodeD cleared_started_nodeD After IsMapRef FM value_congr_mr)
namespace MR

section
variable {env : Env} {sp : Nat → Val → Val} {g : Nat → Option Val} {s : State}

/-- the `didChange` invariant after the step of the map_ref node `n`, for any state that agrees with the
pre-state on necessity, kinds, validity, read values and (off `n`) lowered flags -/
theorem kInv_after {n : Nat} {v : Val} {Y : State} (K : KInv env g s)
    (hvn : s.value env n = some v)
    (hnec : ∀ m, Y.isNecessary m = s.isNecessary m) (hkind : ∀ m, (Y.nodeD m).kind = (s.nodeD m).kind)
    (hvalid : ∀ m, (Y.nodeD m).valid = (s.nodeD m).valid)
    (hflag : ∀ m, m ≠ n → (Y.nodeD m).didChange = false → (s.nodeD m).didChange = false)
    (hval : ∀ m, Y.value env m = s.value env m) : KInv env (upd1 g n (some v)) Y := by
  intro m p i hv hm hk hd
  rw [hval]
  by_cases hmn : m = n
  · subst hmn; rw [upd1_self, hvn]
  · rw [upd1_other _ _ _ hmn]
    exact K m p i (by rw [← hvalid]; exact hv) (by rw [← hnec]; exact hm) (by rw [← hkind]; exact hk) (hflag m hmn hd)

/-- `After` plus the machine states -/
structure AfterF (n : Nat) (s Y : State) : Prop where
  a : After n s Y
  old : ∀ m, (Y.nodeD m).oldState = (s.nodeD m).oldState

theorem AfterF.cleared (n : Nat) (s : State) (hn : n < s.nodes.size) : AfterF n s (MapRefH.cleared n (started n s)) := by
  refine ⟨After.cleared n s hn, fun m => ?_⟩
  rw [cleared_started_nodeD n m s hn]; split
  · rename_i e; rw [e]
  · rfl

theorem AfterF.quiet {n : Nat} {s Y Y' : State} (h : AfterF n s Y) (q : Step.Quiet (touched n Y) Y') (f : FM Y Y') :
    AfterF n s Y' := by
  have fmT : FM (touched n Y) Y' := by
    intro m hm
    apply f m
    rw [touched_nodeD] at hm
    split at hm <;> exact hm
  refine ⟨h.a.touched.quiet q fmT, fun m => ?_⟩
  rw [(q.node m).oldState, touched_nodeD]
  split <;> exact h.old m

theorem AfterF.value_eq {n p i : Nat} {Y : State} (h : AfterF n s Y) (hv : (s.nodeD n).valid = true)
    (hk : (s.nodeD n).kind = .mapRef p i) (m : Nat) : Y.value env m = s.value env m := by
  refine value_congr_mr env s Y h.a.size (fun k => ⟨h.a.kind k, h.a.valid k, ?_⟩) m
  by_cases hkn : k = n
  · subst hkn
    exact Or.inr ⟨by rw [hk]; trivial, hv⟩
  · exact Or.inl (h.a.value k hkn)

/-- the fragment facts of the end state, for the new ghost -/
theorem AfterF.frag {n : Nat} {Y : State} (h : AfterF n s Y) (F : FFrag env sp g s) (hn : n < s.nodes.size) (x : Option Val) :
    FFrag env sp (upd1 g n x) Y := by
  have A := h.a
  refine ⟨⟨fun m hm => ?_, fun m e => ?_, fun m => ?_, fun m hm => ?_⟩, fun m nd p i hnd hk => ?_, A.pc F.pc⟩
  · rw [A.kind]; exact F.fr.kinds m (by rw [← A.size]; exact hm)
  · rw [A.kind]; exact F.fr.noExp m e
  · rw [A.kind, A.cutoff]; exact F.fr.cut m
  · rw [A.size] at hm
    rw [upd1_other _ _ _ (by omega)]; exact F.fr.fresh m hm
  · have hlt : m < Y.nodes.size := lt_of_some hnd
    have e : Y.nodeD m = nd := nodeD_of_some hnd
    have hk' : (s.nodeD m).kind = .mapRef p i := by rw [← A.kind, e]; exact hk
    exact F.input_lt hk'

theorem AfterF.kinv {n p i : Nat} {v : Val} {Y : State} (h : AfterF n s Y) (K : KInv env g s)
    (hv : (s.nodeD n).valid = true) (hk : (s.nodeD n).kind = .mapRef p i) (hvn : s.value env n = some v) :
    KInv env (upd1 g n (some v)) Y :=
  kInv_after K hvn h.a.nec h.a.kind h.a.valid h.a.flag (h.value_eq hv hk)

/-- no `map_with_old` node is touched -/
theorem AfterF.minv {n p i : Nat} {Y : State} (h : AfterF n s Y) (M : MInv env s) (hk : (s.nodeD n).kind = .mapRef p i) :
    MInv env Y := by
  intro a m j hv hka
  rw [h.a.kind] at hka
  rw [h.a.valid] at hv
  have hne : a ≠ n := by
    intro e; rw [e, hk] at hka; cases hka
  rw [h.old, h.a.value a hne]
  exact M a m j hv hka

end
end MR
end IncrVerif.Proofs.FullH
