import IncrVerif.Proofs.FullH52
import IncrVerif.Proofs.FullH61
import IncrVerif.Proofs.OnceF1
import IncrVerif.Proofs.OnceF3
/-!
# C02, combined fragment, part 4: FINAL INPUTS, and whole histories

`OnceStab env fuel s s'`: the at-most-once statement of `stabilise_once_actual` as a predicate of the run `s → s'` of `stabilise`.
`FinalInputs s'`: every necessary node of the final state is valid, not stale, has been computed, and none of its children changed after it last ran
(`changedAt(child) ≤ recomputedAt(node)`) — from `StabF.fresh` and `fresh_inputs`.
`history_c02`: both at every `stabilise` of a history of the combined fragment that runs from `State.init`.
-/
namespace IncrVerif.Proofs.OnceF
open IncrVerif.Engine IncrVerif.Driver IncrVerif.Proofs IncrVerif.Proofs.Step IncrVerif.Proofs.Sched IncrVerif.Proofs.Quiet
open IncrVerif.Proofs.FullH IncrVerif.Proofs.TidyH

/-- AT MOST ONCE for the run `s → s'` of `stabilise env fuel`: `t2` = the state in which the drain starts (tied to the run by the four phase equations); the nodes handed to
`recomputeOne` by the drain (`drainTrace`) are pairwise distinct; each had not run in this round (nor had any other node: last clause), carries the stamp of this round in the
final state and is still valid there; at the moment it runs (`drainSteps`) it is necessary, valid, not queued, not yet stamped, in the round of the start -/
def OnceStab (env : Env) (fuel : Nat) (s s' : State) : Prop :=
  ∃ t1 t2 t3,
    (addNewObservers env fuel).run.run { s with status := .stabilising } = (.ok (), t1) ∧
    (unlinkDisallowedObservers fuel).run.run t1 = (.ok (), t2) ∧
    (drainHeap env fuel).run.run t2 = (.ok (), t3) ∧ (stabiliseEnd env fuel).run.run t3 = (.ok (), s') ∧
    (drainTrace env fuel t2).Nodup ∧
    (∀ m, m ∈ drainTrace env fuel t2 →
      (t2.nodeD m).recomputedAt < s.stabNum ∧ (s'.nodeD m).recomputedAt = s.stabNum ∧ (s'.nodeD m).valid = true) ∧
    (drainSteps env fuel t2).map (·.1) = drainTrace env fuel t2 ∧
    (∀ p, p ∈ drainSteps env fuel t2 →
      p.2.isNecessary p.1 = true ∧ (p.2.nodeD p.1).valid = true ∧ (p.2.nodeD p.1).inRch = false ∧
        (p.2.nodeD p.1).recomputedAt < s.stabNum ∧ p.2.stabNum = s.stabNum) ∧
    (∀ m, (t2.nodeD m).recomputedAt < s.stabNum)

/-- FINAL INPUTS: every necessary node is valid, not stale, has been computed (a `var` node: after the last write of its cell), and none of its children has changed since it
last ran -/
def FinalInputs (s' : State) : Prop :=
  ∀ n, s'.isNecessary n = true →
    (s'.nodeD n).valid = true ∧ s'.isStale n = false ∧
    (∀ c, c ∈ s'.children n → (s'.nodeD c).changedAt ≤ (s'.nodeD n).recomputedAt) ∧
    ((∀ c, (s'.nodeD n).kind ≠ .var c) → (s'.nodeD n).recomputedAt ≠ -1) ∧
    (∀ c vc, (s'.nodeD n).kind = .var c → s'.vars[c]? = some vc → vc.setAt ≤ (s'.nodeD n).recomputedAt)

theorem finalInputs_of_fresh {s' : State}
    (h : ∀ n, s'.isNecessary n = true → (s'.nodeD n).valid = true ∧ s'.isStale n = false) : FinalInputs s' := by
  intro n hn
  obtain ⟨hv, hs⟩ := h n hn
  exact ⟨hv, hs, fresh_inputs hv hs⟩

section
variable {env : Env} {sp : Nat → Val → Val}

theorem stabF_finalInputs {s s' : State} {g' : Nat → Option Val} (R : StabF env sp s s' g') : FinalInputs s' :=
  finalInputs_of_fresh R.fresh

/-- **C02 for one `stabilise` of the combined fragment** -/
theorem stabilise_c02 (E : EnvS env sp) (hF : FirstFn env) {fuel : Nat} {s s' : State} (Q : QInvFE env sp s)
    (h : (stabilise env fuel).run.run s = (.ok (), s')) : OnceStab env fuel s s' ∧ FinalInputs s' ∧ QInvFE env sp s' := by
  obtain ⟨g, Q⟩ := Q
  obtain ⟨g', R⟩ := stabilise_full (kit E hF) Q h
  exact ⟨stabilise_once_actual (kit E hF) Q h, stabF_finalInputs R, ⟨g', R.inv⟩⟩

/-- **C02 at every `stabilise` of a history of the combined fragment** -/
theorem history_c02 (E : EnvS env sp) (hF : FirstFn env) {N : Nat} {d : Bool} {as bs : List Action}
    {s : State} {tk : Array Nat} (hH : HistFull env sp 0 (as ++ Action.stabilise :: bs))
    (h : Quiet.runActions env (as ++ Action.stabilise :: bs) (State.init N d) #[] = .ok (s, tk)) :
    ∃ s1 tk1 s2, Quiet.runActions env as (State.init N d) #[] = .ok (s1, tk1) ∧ QInvFE env sp s1 ∧
      (stabilise env fuelDefault).run.run s1 = (.ok (), s2) ∧ QInvFE env sp s2 ∧
      OnceStab env fuelDefault s1 s2 ∧ FinalInputs s2 ∧
      Quiet.runActions env bs s2 tk1 = .ok (s, tk) := by
  obtain ⟨s1, tk1, h1, H1, hH1, h2⟩ := runActions_split (kit E hF) (hi_init env sp (fun _ => true) N d) hH h
  obtain ⟨r, s2, hx, h2⟩ := Hist.runActions_cons_ok.1 h2
  obtain ⟨hst, rfl⟩ := Hist.stepAction_stabilise_ok.1 hx
  obtain ⟨g, Q, -, -⟩ := H1
  obtain ⟨a, b, c⟩ := stabilise_c02 E hF ⟨g, Q⟩ hst
  exact ⟨s1, tk1, s2, h1, ⟨g, Q⟩, hst, c, a, b, h2⟩

end
end IncrVerif.Proofs.OnceF
