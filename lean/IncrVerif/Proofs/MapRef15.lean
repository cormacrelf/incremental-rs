import IncrVerif.Proofs.MapRef14
import IncrVerif.Proofs.MapRef7
import IncrVerif.Proofs.MapRef24
import IncrVerif.Proofs.Virtual
/-!
# map_ref fragment, part 8: the drain invariant `DInvR` through `recomputeOne`, `recompute`, a pop and `drainHeap` (M1)
-/
namespace IncrVerif.Proofs.MapRefH
open IncrVerif.Engine IncrVerif.Proofs IncrVerif.Proofs.Step IncrVerif.Proofs.Sched IncrVerif.Proofs.Quiet

/-- the drain invariant of the fragment static + map_ref, with the ghost values `g` ("the projection the parents of a
map_ref node last consumed") and the current node `x`: the state is in the fragment; the virtual static state
satisfies the scheduling invariant of the static fragment; the `didChange` invariant holds -/
structure DInvR (env : Env) (s : State) (g : Nat → Option Val) (x : Option Nat) : Prop where
  frag : RFrag env s
  inv : Inv (virtEnv env) (virt g s) x
  k : KInv env g s
  pinv : s.propagateInvalidity = []

/-- what the drain keeps, read in the virtual states -/
abbrev DStep (env : Env) (s s' : State) (g g' : Nat → Option Val) : Prop :=
  Virtual.DStep (virtEnv env) (virt g s) (virt g' s')

/-- what the drain invariant requires of the actual state -/
def Side (env : Env) (g : Nat → Option Val) (s : State) : Prop :=
  RFrag env s ∧ KInv env g s ∧ s.propagateInvalidity = []

theorem DInvR.side {env : Env} {s : State} {g : Nat → Option Val} {x : Option Nat} (D : DInvR env s g x) : Side env g s :=
  ⟨D.frag, D.k, D.pinv⟩

theorem Side.dinv {env : Env} {s : State} {g : Nat → Option Val} {x : Option Nat} (P : Side env g s)
    (I : Inv (virtEnv env) (virt g s) x) : DInvR env s g x := ⟨P.1, I, P.2.1, P.2.2⟩

theorem Side.of_sh {env : Env} {s s' : State} {g : Nat → Option Val} (P : Side env g s) (h : SH s s') : Side env g s' :=
  ⟨P.1.of_vframe h.vf, P.2.1.of_sh h, h.pinv.trans P.2.2⟩

section
variable {env : Env} {g : Nat → Option Val} {s : State}

/-- **M1, one `recomputeOne`.** On the current node of the invariant a successful `recomputeOne` re-establishes the
invariant (with new ghost values), the handed-over parent being the new current node. -/
theorem recomputeOneR_inv {fuel n : Nat} {s' : State} {r : Option Nat} (D : DInvR env s g (some n))
    (h : (recomputeOne env fuel n).run.run s = (.ok r, s')) :
    ∃ g', DInvR env s' g' r ∧ DStep env s s' g g' ∧ ((virt g' s').nodeD n).recomputedAt = s.stabNum := by
  by_cases hk : ∀ p i, (s.nodeD n).kind ≠ .mapRef p i
  · obtain ⟨hsim, K', F', hp'⟩ := step_static_node D.frag D.inv D.k D.pinv hk h
    obtain ⟨I', -, hrec⟩ := recomputeOne_inv D.inv hsim
    exact ⟨g, ⟨F', I', K', hp'⟩, .recomputeOne D.inv hsim, hrec⟩
  · have : ∃ p i, (s.nodeD n).kind = .mapRef p i := by
      cases hkd : (s.nodeD n).kind <;>
        first | exact ⟨_, _, rfl⟩ | (exfalso; apply hk; intro p i; rw [hkd]; intro h; cases h)
    obtain ⟨p, i, hkk⟩ := this
    obtain ⟨g', v, ch, ht, R, K', F', hp', hc, hkd⟩ := step_mapRef_node D.frag D.inv D.k D.pinv hkk h
    exact ⟨g', ⟨F', step_inv D.inv ht R, K', hp'⟩,
      .of_stepRel (D.inv.cur n rfl).1 R (calm_virt g g' hc) (keyD_virt g g' hkd), R.recomputedAt⟩

theorem heapInv_of_virt (h : HeapInv (virt g s)) : HeapInv s :=
  h.congr rfl (virt_size g s).symm fun m => by
    rw [virt_nodeD]
    exact ⟨(virtNode_heightInRch _ _).symm, (virtNode_height _ _).symm, (virt_isNecessary g s m).symm⟩

/-- taking a node out of the heap, in the actual and in the virtual state -/
theorem popR {s1 : State} {r : Option Nat} (D : DInvR env s g none)
    (h : rchRemoveMin.run.run s = (.ok r, s1)) :
    rchRemoveMin.run.run (virt g s) = (.ok r, virt g s1) ∧ RFrag env s1 ∧ KInv env g s1 ∧
      s1.propagateInvalidity = [] := by
  obtain ⟨hv, hfr⟩ := Sim.rchRemoveMin (g := g) s (D.frag.fr D.pinv) r s1 h
  refine ⟨hv, ?_⟩
  have hi := heapInv_of_virt D.inv.heap
  have hinv := rchRemoveMin_inv hi h
  cases r with
  | none =>
    obtain ⟨rfl, -⟩ := hinv
    exact ⟨D.frag, D.k, D.pinv⟩
  | some n =>
    obtain ⟨-, -, -, hs1, -⟩ := hinv
    have S : SH s s1 := by
      rw [hs1]
      exact (SH.modNode s n (fun x => { x with heightInRch := -1 }) fun _ =>
        ⟨⟨rfl, rfl, rfl, rfl, rfl, rfl⟩, rfl, fun _ h => h, fun _ h => h, rfl⟩).trans (.of_nodes rfl rfl rfl)
    exact D.side.of_sh S

/-- the drain of the fragment static + map_ref is the drain of the static engine on the virtual state -/
theorem drain (env : Env) : Virtual.Drain env (virtEnv env) virt (Side env) where
  heap := heapInv_of_virt
  pop P I h := popR (P.dinv I) h
  step P I h := by
    obtain ⟨g', D', f, hr⟩ := recomputeOneR_inv (P.dinv I) h
    exact ⟨g', D'.side, D'.inv, f, hr⟩

/-- **M1, the direct-recompute chain.** -/
theorem recomputeR_inv (fuel n : Nat) (s s' : State) (g : Nat → Option Val) (D : DInvR env s g (some n))
    (h : (recompute env fuel n).run.run s = (.ok (), s')) : ∃ g', DInvR env s' g' none ∧ DStep env s s' g g' := by
  obtain ⟨g', P', I', f⟩ := (drain env).recompute fuel n s s' g D.side D.inv h
  exact ⟨g', P'.dinv I', f⟩

/-- **M1, one pop of `drainHeap`.** -/
theorem popR_recompute {fuel n : Nat} {s1 s' : State} (D : DInvR env s g none)
    (hpop : rchRemoveMin.run.run s = (.ok (some n), s1))
    (hrec : (recompute env fuel n).run.run s1 = (.ok (), s')) :
    ∃ g', DInvR env s' g' none ∧ DStep env s s' g g' := by
  obtain ⟨g', P', I', f⟩ := (drain env).pop_recompute D.side D.inv hpop hrec
  exact ⟨g', P'.dinv I', f⟩

/-- **M1, the loop.** A successful `drainHeap` from the drain invariant ends with the drain invariant (for new ghost
values) and an empty heap. -/
theorem drainHeapR_inv (fuel : Nat) (s s' : State) (g : Nat → Option Val) (D : DInvR env s g none)
    (h : (drainHeap env fuel).run.run s = (.ok (), s')) :
    ∃ g', DInvR env s' g' none ∧ s'.rch.length = 0 ∧ DStep env s s' g g' := by
  obtain ⟨g', P', I', he, f⟩ := (drain env).drainHeap fuel s s' g D.side D.inv h
  exact ⟨g', P'.dinv I', he, f⟩

end
end IncrVerif.Proofs.MapRefH
