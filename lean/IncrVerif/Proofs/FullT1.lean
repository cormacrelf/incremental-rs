import IncrVerif.Proofs.FullH71
/-!
# C04 for the combined fragment, part 1: the BISIMULATION calculus

`FullH.Sim K g x x'` / `FullH.SimX K x x'` are FORWARD simulations (actual run ok ⇒ virtual run ok, same result, final state `virt g s'`).
Total correctness needs the CONVERSE as well: `BSimAt K P g s x x'` = the forward simulation `SimAt K g s x x'`, plus, from a state `s` with `Fr K g s` and the
carried invariant `P s`,
 * every successful run of `x` ends in a state with `P`;
 * every successful run of `x'` from `virt g s` is matched by a successful run of `x` from `s` (same result).
`BSimXAt` is the same over `SimXAt` (the ghost may be erased on nodes that end up invalid).
The carried invariant `P` is a parameter (`Keeps P`: kept by updates that do not touch kinds and parent lists); `PInv` (`MapRefsBack` + "a recorded parent that is a
map_ref node has the child as its input") is what the recursions that exist only in the actual engine (`markMapRefUnknown`, `child_changed` through chains) need.
-/
namespace IncrVerif.Proofs.FullT
open IncrVerif.Engine IncrVerif.Proofs IncrVerif.Proofs.Step IncrVerif.Proofs.Sched IncrVerif.Proofs.Quiet IncrVerif.Proofs.FullH

/-- a benign node update: kind, validity, cutoff, parent list, stored value and necessity are kept -/
def NKeep (nd nd' : Node) : Prop :=
  nd'.kind = nd.kind ∧ nd'.valid = nd.valid ∧ nd'.cutoff = nd.cutoff ∧ nd'.parents = nd.parents ∧ nd'.value = nd.value ∧
    nd'.isNecessary = nd.isNecessary

/-- an invariant the bisimulation can carry: kept by updates that leave the node table and the bind table alone, by benign node updates, and by the
removal of a parent entry -/
class Keeps (P : State → Prop) : Prop where
  of_nodes : ∀ {s s' : State}, P s → s'.nodes = s.nodes → s'.binds = s.binds → P s'
  modify : ∀ {s : State} (n : Nat) (f : Node → Node), P s → (∀ nd, NKeep nd (f nd)) → P { s with nodes := s.nodes.modify n f }
  rmParent : ∀ {s : State} (c k : Nat), P s →
    P { s with nodes := s.nodes.modify c fun x => { x with parents := swapRemove x.parents k } }

/-- … and also by changes of the bind table and by new nodes (pristine: no parents; a new `map_ref` node reads an existing node) -/
class KeepsG (P : State → Prop) : Prop extends Keeps P where
  of_nodes' : ∀ {s s' : State}, P s → s'.nodes = s.nodes → P s'
  push : ∀ {s : State} (nd : Node), P s → nd.parents = [] → (∀ pr i, nd.kind = .mapRef pr i → i < s.nodes.size) →
    P { s with nodes := s.nodes.push nd }

instance : KeepsG (fun _ => True) where
  of_nodes := fun _ _ _ => trivial
  modify := fun _ _ _ _ => trivial
  rmParent := fun _ _ _ => trivial
  of_nodes' := fun _ _ => trivial
  push := fun _ _ _ _ => trivial

/-- the keep / converse half -/
def RevAt (K : Kind → Prop) (P : State → Prop) (g : Nat → Option Val) (s : State) {α} (x x' : M α) : Prop :=
  Fr K g s → P s → (∀ r s', x.run.run s = (.ok r, s') → P s') ∧
    (∀ r t, x'.run.run (virt g s) = (.ok r, t) → ∃ s', x.run.run s = (.ok r, s'))

def BSimAt (K : Kind → Prop) (P : State → Prop) (g : Nat → Option Val) (s : State) {α} (x x' : M α) : Prop :=
  SimAt K g s x x' ∧ RevAt K P g s x x'

def BSim (K : Kind → Prop) (P : State → Prop) (g : Nat → Option Val) {α} (x x' : M α) : Prop := ∀ s, BSimAt K P g s x x'

def BSimXAt (K : Kind → Prop) (P : State → Prop) (g : Nat → Option Val) (s : State) {α} (x x' : M α) : Prop :=
  SimXAt K g s x x' ∧ RevAt K P g s x x'

def BSimX (K : Kind → Prop) (P : State → Prop) {α} (x x' : M α) : Prop := ∀ g s, BSimXAt K P g s x x'

section
variable {K : Kind → Prop} {P : State → Prop} {g : Nat → Option Val} {s : State} {α β : Type}

theorem BSim.at {x x' : M α} (h : BSim K P g x x') (s : State) : BSimAt K P g s x x' := h s
theorem BSimX.at {x x' : M α} (h : BSimX K P x x') (g : Nat → Option Val) (s : State) : BSimXAt K P g s x x' := h g s

theorem BSim.sim {x x' : M α} (h : BSim K P g x x') : Sim K g x x' := fun s => (h s).1
theorem BSimX.simX {x x' : M α} (h : BSimX K P x x') : SimX K x x' := fun g s => (h g s).1

theorem BSimAt.toX {x x' : M α} (h : BSimAt K P g s x x') : BSimXAt K P g s x x' := ⟨h.1.toX, h.2⟩
theorem BSimX.of_sim {x x' : M α} (h : ∀ g, BSim K P g x x') : BSimX K P x x' := fun g s => (h g s).toX

/-! ### the halves, for use -/

theorem BSimAt.fwd {x x' : M α} (h : BSimAt K P g s x x') (hf : Fr K g s) (hp : P s) {r : α} {s' : State}
    (hr : x.run.run s = (.ok r, s')) : x'.run.run (virt g s) = (.ok r, virt g s') ∧ Fr K g s' ∧ VM s s' ∧ P s' := by
  obtain ⟨h1, h2, h3⟩ := h.1 hf r s' hr
  exact ⟨h1, h2, h3, (h.2 hf hp).1 r s' hr⟩

theorem BSimAt.rev {x x' : M α} (h : BSimAt K P g s x x') (hf : Fr K g s) (hp : P s) {r : α} {t : State}
    (hr : x'.run.run (virt g s) = (.ok r, t)) : ∃ s', x.run.run s = (.ok r, s') ∧ t = virt g s' ∧ Fr K g s' ∧ VM s s' ∧ P s' := by
  obtain ⟨s', hs'⟩ := (h.2 hf hp).2 r t hr
  obtain ⟨h1, h2, h3, h4⟩ := h.fwd hf hp hs'
  rw [h1] at hr; cases hr
  exact ⟨s', hs', rfl, h2, h3, h4⟩

theorem BSimXAt.fwd {x x' : M α} (h : BSimXAt K P g s x x') (hf : Fr K g s) (hp : P s) {r : α} {s' : State}
    (hr : x.run.run s = (.ok r, s')) : ∃ g', x'.run.run (virt g s) = (.ok r, virt g' s') ∧ Fr K g' s' ∧ GR g g' s s' ∧ P s' := by
  obtain ⟨g', h1, h2, h3⟩ := h.1 hf r s' hr
  exact ⟨g', h1, h2, h3, (h.2 hf hp).1 r s' hr⟩

theorem BSimXAt.rev {x x' : M α} (h : BSimXAt K P g s x x') (hf : Fr K g s) (hp : P s) {r : α} {t : State}
    (hr : x'.run.run (virt g s) = (.ok r, t)) :
    ∃ s' g', x.run.run s = (.ok r, s') ∧ t = virt g' s' ∧ Fr K g' s' ∧ GR g g' s s' ∧ P s' := by
  obtain ⟨s', hs'⟩ := (h.2 hf hp).2 r t hr
  obtain ⟨g', h1, h2, h3, h4⟩ := h.fwd hf hp hs'
  rw [h1] at hr; cases hr
  exact ⟨s', g', hs', rfl, h2, h3, h4⟩

/-- **transfer**: a total-correctness statement about the virtual run gives one about the actual run -/
theorem BSimAt.tot {x x' : M α} (h : BSimAt K P g s x x') (hf : Fr K g s) (hp : P s) {Q : α → State → Prop}
    (T : Tot x' (virt g s) Q) : Tot x s (fun a s' => Q a (virt g s') ∧ Fr K g s' ∧ VM s s' ∧ P s') := by
  obtain ⟨a, t, h1, h2⟩ := T
  obtain ⟨s', hs', e, hp'⟩ := h.rev hf hp h1
  exact ⟨a, s', hs', by rw [← e]; exact h2, hp'⟩

theorem BSimXAt.tot {x x' : M α} (h : BSimXAt K P g s x x') (hf : Fr K g s) (hp : P s) {Q : α → State → Prop}
    (T : Tot x' (virt g s) Q) : Tot x s (fun a s' => ∃ g', Q a (virt g' s') ∧ Fr K g' s' ∧ GR g g' s s' ∧ P s') := by
  obtain ⟨a, t, h1, h2⟩ := T
  obtain ⟨s', g', hs', e, hp'⟩ := h.rev hf hp h1
  exact ⟨a, s', hs', g', by rw [← e]; exact h2, hp'⟩

/-- assembling from the forward simulation of `FullH` -/
theorem BSimAt.mk' {x x' : M α} (h : SimAt K g s x x')
    (hk : Fr K g s → P s → ∀ r s', x.run.run s = (.ok r, s') → P s')
    (hr : Fr K g s → P s → ∀ r t, x'.run.run (virt g s) = (.ok r, t) → ∃ s', x.run.run s = (.ok r, s')) :
    BSimAt K P g s x x' := ⟨h, fun hf hp => ⟨hk hf hp, hr hf hp⟩⟩

theorem BSimXAt.mk' {x x' : M α} (h : SimXAt K g s x x')
    (hk : Fr K g s → P s → ∀ r s', x.run.run s = (.ok r, s') → P s')
    (hr : Fr K g s → P s → ∀ r t, x'.run.run (virt g s) = (.ok r, t) → ∃ s', x.run.run s = (.ok r, s')) :
    BSimXAt K P g s x x' := ⟨h, fun hf hp => ⟨hk hf hp, hr hf hp⟩⟩

/-- the carried invariants of the current state may be used for the converse half -/
theorem BSimAt.rev_inv {x x' : M α} (h1 : SimAt K g s x x') (h2 : Fr K g s → P s → RevAt K P g s x x') : BSimAt K P g s x x' :=
  ⟨h1, fun hf hp => h2 hf hp hf hp⟩

theorem BSimAt.intro_inv {x x' : M α} (h : Fr K g s → BSimAt K P g s x x') : BSimAt K P g s x x' :=
  ⟨fun hf => (h hf).1 hf, fun hf => (h hf).2 hf⟩

/-! ### from the exact simulation of `NodeSim` -/

theorem blindT [Keeps P] (s0 : State) : NodeSim.Blind (rel g) (fun t => Fr K g t ∧ VM s0 t ∧ P t) where
  default := (blind (K := K) s0).default
  kind := (blind (K := K) s0).kind
  children := (blind (K := K) s0).children
  isStale := (blind (K := K) s0).isStale
  tick _ := NodeSim.Comm.tick_of fun _ h => ⟨h.1.of_nodes rfl, h.2.1.trans (VM.of_nodes rfl), Keeps.of_nodes h.2.2 rfl rfl⟩
  of_nodes h e1 _ _ _ e5 := ⟨h.1.of_nodes e1, h.2.1.trans (VM.of_nodes e1), Keeps.of_nodes h.2.2 e1 e5⟩
  modify n f h hk :=
    have hb := (blind s0).modify n f ⟨h.1, h.2.1⟩ hk
    ⟨hb.1, hb.2, Keeps.modify n f h.2.2 fun nd =>
      ⟨(hk nd).1, (hk nd).2.1, (hk nd).2.2.1, (hk nd).2.2.2.2.2.1, (hk nd).2.2.2.2.2.2.1, (hk nd).2.2.2.2.2.2.2⟩⟩
  rmParent c k h :=
    have hb := (blind s0).rmParent c k ⟨h.1, h.2.1⟩
    ⟨hb.1, hb.2, Keeps.rmParent c k h.2.2⟩
  invalid h _ _ _ := ⟨h.1.of_nodes rfl, h.2.1.trans (VM.of_nodes rfl), Keeps.of_nodes h.2.2 rfl rfl⟩

theorem obsWorkT {E : Panic → Prop} (s0 : State) :
    NodeSim.ObsWork E (fun _ : Unit => rel g) fun _ t => Fr K g t ∧ VM s0 t ∧ P t :=
  .of_noExp fun h hn => h.1.some hn

theorem writesExpertsT [Keeps P] (s0 : State) : NodeSim.WritesExperts (fun t => Fr K g t ∧ VM s0 t ∧ P t) := fun _ _ h =>
  ⟨h.1.of_nodes rfl, h.2.1.trans (VM.of_nodes rfl), Keeps.of_nodes h.2.2 rfl rfl⟩

theorem writesBindsT [KeepsG P] (s0 : State) : NodeSim.WritesBinds (fun t => Fr K g t ∧ VM s0 t ∧ P t) := fun _ _ h =>
  ⟨h.1.of_nodes rfl, h.2.1.trans (VM.of_nodes rfl), KeepsG.of_nodes' h.2.2 rfl⟩

/-- the keep / converse half from a simulation that reproduces every outcome -/
theorem RevAt.of_comm {x x' : M α}
    (h : NodeSim.CommAt (fun _ => True) (rel g).app (fun t => Fr K g t ∧ VM s t ∧ P t) s x x') : RevAt K P g s x x' := by
  intro hf hp
  refine ⟨fun r s' hr => (h.fwd ⟨hf, VM.refl s, hp⟩ hr).2.2.2, fun r t hr => ?_⟩
  rw [virt_eq] at hr
  obtain ⟨s', h1, -, -⟩ := h.rev (fun _ => trivial) ⟨hf, VM.refl s, hp⟩ hr
  exact ⟨s', h1⟩

theorem BSim.of_comm {x x' : M α} (h1 : Sim K g x x')
    (h2 : ∀ s0, NodeSim.Comm (fun _ => True) (rel g).app (fun t => Fr K g t ∧ VM s0 t ∧ P t) x x') : BSim K P g x x' :=
  fun s => ⟨h1 s, .of_comm (h2 s s)⟩

/-! ### the calculus, same ghost -/

theorem BSimAt.ret (a : α) : BSimAt K P g s (pure a : M α) (pure a) := by
  refine ⟨SimAt.ret a, fun _ hp => ⟨fun r s' h => ?_, fun r t h => ?_⟩⟩
  · rw [run_pure] at h; cases h; exact hp
  · rw [run_pure] at h; cases h; exact ⟨s, rfl⟩

theorem BSimAt.thr (e e' : Panic) : BSimAt K P g s (throw e : M α) (throw e') := by
  refine ⟨SimAt.thr e _, fun _ _ => ⟨fun r s' h => ?_, fun r t h => ?_⟩⟩
  · rw [run_throw] at h; cases h
  · rw [run_throw] at h; cases h

theorem BSimAt.pan (e e' : String) : BSimAt K P g s (Engine.panic e : M α) (Engine.panic e') := BSimAt.thr _ _

theorem BSimAt.seq {x x' : M α} {f f' : α → M β} (hx : BSimAt K P g s x x')
    (hf : ∀ a s1, x.run.run s = (.ok a, s1) → BSimAt K P g s1 (f a) (f' a)) :
    BSimAt K P g s (x >>= f) (x' >>= f') := by
  refine ⟨SimAt.seq hx.1 fun a s1 h => (hf a s1 h).1, fun hn hp => ⟨fun r s' h => ?_, fun r t h => ?_⟩⟩
  · obtain ⟨a, s1, h1, h2⟩ := bind_ok_inv h
    obtain ⟨-, n1, -, p1⟩ := hx.fwd hn hp h1
    exact ((hf a s1 h1).fwd n1 p1 h2).2.2.2
  · obtain ⟨a, t1, h1, h2⟩ := bind_ok_inv h
    obtain ⟨s1, hs1, e, n1, -, p1⟩ := hx.rev hn hp h1
    rw [e] at h2
    obtain ⟨s', hs', -⟩ := (hf a s1 hs1).rev n1 p1 h2
    exact ⟨s', by rw [run_bind_ok hs1]; exact hs'⟩

theorem BSimAt.get_seq {k k' : State → M β} (h : BSimAt K P g s (k s) (k' (virt g s))) :
    BSimAt K P g s (get >>= k) (get >>= k') := by
  refine ⟨SimAt.get_seq h.1, fun hn hp => ⟨fun r s' hr => ?_, fun r t hr => ?_⟩⟩
  · rw [run_bind_get] at hr; exact (h.fwd hn hp hr).2.2.2
  · rw [run_bind_get] at hr
    obtain ⟨s', hs', -⟩ := h.rev hn hp hr
    exact ⟨s', by rw [run_bind_get]; exact hs'⟩

theorem BSimAt.getNode_seq {n : Nat} {k k' : Node → M β}
    (h : ∀ nd, s.nodes[n]? = some nd → (∀ e, nd.kind ≠ .expert e) →
      BSimAt K P g s (k nd) (k' (virtNode (g n) nd))) :
    BSimAt K P g s (getNode n >>= k) (getNode n >>= k') := by
  refine ⟨SimAt.getNode_seq fun nd hnd hne => (h nd hnd hne).1, fun hn hp => ⟨fun r s' hr => ?_, fun r t hr => ?_⟩⟩
  · obtain ⟨nd, hnd, hr⟩ := bind_getNode_inv hr
    exact ((h nd hnd (hn.some hnd)).fwd hn hp hr).2.2.2
  · obtain ⟨vnd, hvnd, hr⟩ := bind_getNode_inv hr
    rw [virt_getElem?] at hvnd
    cases hnd : s.nodes[n]? with
    | none => rw [hnd] at hvnd; cases hvnd
    | some nd =>
      rw [hnd] at hvnd
      simp only [Option.map_some, Option.some.injEq] at hvnd
      subst hvnd
      obtain ⟨s', hs', -⟩ := (h nd hnd (hn.some hnd)).rev hn hp hr
      exact ⟨s', by rw [run_bind_ok (run_getNode_some hnd)]; exact hs'⟩

theorem BSimAt.mod [Keeps P] {f f' : State → State} (h : virt g (f s) = f' (virt g s)) (hn : (f s).nodes = s.nodes)
    (hb : (f s).binds = s.binds) :
    BSimAt K P g s (modify f : M Unit) (modify f') := by
  refine ⟨SimAt.mod h hn, fun _ hp => ⟨fun r s' hr => ?_, fun r t hr => ?_⟩⟩
  · rw [run_modify] at hr; cases hr; exact Keeps.of_nodes hp hn hb
  · rw [run_modify] at hr; cases hr; exact ⟨_, run_modify _ _⟩

theorem BSimAt.mod_seq [Keeps P] {f f' : State → State} {k k' : Unit → M β} (h : virt g (f s) = f' (virt g s))
    (hn : (f s).nodes = s.nodes) (hb : (f s).binds = s.binds) (hk : BSimAt K P g (f s) (k ()) (k' ())) :
    BSimAt K P g s ((modify f : M Unit) >>= k) ((modify f' : M Unit) >>= k') :=
  BSimAt.seq (BSimAt.mod h hn hb) fun a s1 h1 => by
    rw [run_modify] at h1; cases h1; exact hk

/-- state updates that may change the bind table (`KeepsG`) -/
theorem BSimAt.modG [KeepsG P] {f f' : State → State} (h : virt g (f s) = f' (virt g s)) (hn : (f s).nodes = s.nodes) :
    BSimAt K P g s (modify f : M Unit) (modify f') := by
  refine ⟨SimAt.mod h hn, fun _ hp => ⟨fun r s' hr => ?_, fun r t hr => ?_⟩⟩
  · rw [run_modify] at hr; cases hr; exact KeepsG.of_nodes' hp hn
  · rw [run_modify] at hr; cases hr; exact ⟨_, run_modify _ _⟩

theorem BSimAt.modG_seq [KeepsG P] {f f' : State → State} {k k' : Unit → M β} (h : virt g (f s) = f' (virt g s))
    (hn : (f s).nodes = s.nodes) (hk : BSimAt K P g (f s) (k ()) (k' ())) :
    BSimAt K P g s ((modify f : M Unit) >>= k) ((modify f' : M Unit) >>= k') :=
  BSimAt.seq (BSimAt.modG h hn) fun a s1 h1 => by
    rw [run_modify] at h1; cases h1; exact hk

theorem BSimAt.cond {c c' : Prop} {_ : Decidable c} {_ : Decidable c'} {a b a' b' : M α} (hc : c ↔ c')
    (ha : c → BSimAt K P g s a a') (hb : ¬ c → BSimAt K P g s b b') :
    BSimAt K P g s (if c then a else b) (if c' then a' else b') := by
  by_cases h : c
  · rw [if_pos h, if_pos (hc.1 h)]; exact ha h
  · rw [if_neg h, if_neg (fun h' => h (hc.2 h'))]; exact hb h

theorem BSimAt.ite_left {c : Prop} {_ : Decidable c} {a b x' : M α}
    (ha : c → BSimAt K P g s a x') (hb : ¬ c → BSimAt K P g s b x') : BSimAt K P g s (if c then a else b) x' := by
  by_cases h : c
  · rw [if_pos h]; exact ha h
  · rw [if_neg h]; exact hb h

/-- both programs re-written -/
theorem BSimAt.congr {x y x' y' : M α} (h : BSimAt K P g s y y') (e1 : x = y) (e2 : x' = y') : BSimAt K P g s x x' := by
  subst e1; subst e2; exact h

/-- a commuting node update that keeps the carried invariant -/
theorem BSimAt.modNode' (n : Nat) {f f' : Node → Node} (hf : ∀ gv nd, virtNode gv (f nd) = f' (virtNode gv nd))
    (hk : ∀ nd, (f nd).kind = nd.kind ∧ (f nd).cutoff = nd.cutoff ∧ (f nd).oldState = nd.oldState ∧
      (nd.valid = false → (f nd).valid = false) ∧ ((f nd).didChange = false → nd.didChange = false))
    (hP : P s → P { s with nodes := s.nodes.modify n f }) :
    BSimAt K P g s (Engine.modNode n f) (Engine.modNode n f') := by
  refine ⟨Sim.modNode n hf hk s, fun _ hp => ⟨fun r s' hr => ?_, fun r t hr => ?_⟩⟩
  · rw [run_modNode] at hr; cases hr; exact hP hp
  · rw [run_modNode] at hr; cases hr; exact ⟨_, run_modNode _ _ _⟩

/-- a commuting node update that touches neither kinds nor parent lists -/
theorem BSim.modNode [Keeps P] (n : Nat) {f f' : Node → Node} (hf : ∀ gv nd, virtNode gv (f nd) = f' (virtNode gv nd))
    (hk : ∀ nd, (f nd).kind = nd.kind ∧ (f nd).cutoff = nd.cutoff ∧ (f nd).oldState = nd.oldState ∧
      (nd.valid = false → (f nd).valid = false) ∧ ((f nd).didChange = false → nd.didChange = false))
    (hp : ∀ nd, NKeep nd (f nd)) :
    BSim K P g (Engine.modNode n f) (Engine.modNode n f') :=
  fun _ => BSimAt.modNode' n hf hk fun h => Keeps.modify n f h hp

/-- loops: the body gets the membership of the element -/
theorem BSim.forIn {γ : Type} (l : List γ) {f f' : γ → β → M (ForInStep β)}
    (h : ∀ a, a ∈ l → ∀ b, BSim K P g (f a b) (f' a b)) (b : β) :
    BSim K P g (ForIn.forIn l b f) (ForIn.forIn l b f') := by
  induction l generalizing b with
  | nil => intro s; rw [List.forIn_nil, List.forIn_nil]; exact BSimAt.ret _
  | cons a l ih =>
    intro s
    rw [List.forIn_cons, List.forIn_cons]
    refine BSimAt.seq (h a (List.mem_cons_self ..) b s) fun r s1 _ => ?_
    cases r with
    | done b' => exact BSimAt.ret _
    | yield b' => exact ih (fun a ha => h a (List.mem_cons_of_mem _ ha)) b' s1

theorem BSimAt.map {x x' : M α} (f : α → β) (hx : BSimAt K P g s x x') : BSimAt K P g s (f <$> x) (f <$> x') := by
  rw [map_eq_pure_bind, map_eq_pure_bind]
  exact BSimAt.seq hx fun _ _ _ => BSimAt.ret _

theorem BSim.mapM {γ : Type} {f f' : γ → M β} (h : ∀ a, BSim K P g (f a) (f' a)) (l : List γ) :
    BSim K P g (l.mapM f) (l.mapM f') := by
  induction l with
  | nil => intro s; simp only [List.mapM_nil]; exact BSimAt.ret _
  | cons a l ih =>
    intro s
    simp only [List.mapM_cons]
    exact BSimAt.seq (h a s) fun _ s1 _ => BSimAt.seq (ih s1) fun _ _ _ => BSimAt.ret _

theorem BSim.dassert (c : Bool) (site : String) : BSim K P g (Engine.dassert c site) (Engine.dassert c site) := by
  intro s
  refine ⟨Sim.dassert c site s, fun _ hp => ⟨fun r s' h => ?_, fun r t h => ?_⟩⟩
  · rw [run_dassert] at h
    by_cases hc : s.cfg.debug = true ∧ c = false
    · rw [if_pos hc] at h; cases h
    · rw [if_neg hc] at h; cases h; exact hp
  · rw [run_dassert] at h
    by_cases hc : s.cfg.debug = true ∧ c = false
    · rw [if_pos (show (virt g s).cfg.debug = true ∧ c = false from hc)] at h; cases h
    · exact ⟨s, by rw [run_dassert, if_neg hc]⟩

theorem BSim.assertM (c : Bool) (site : String) : BSim K P g (Engine.assertM c site) (Engine.assertM c site) := by
  intro s
  refine ⟨Sim.assertM c site s, fun _ hp => ⟨fun r s' h => ?_, fun r t h => ?_⟩⟩
  · rw [run_assertM] at h
    split at h
    · cases h; exact hp
    · cases h
  · rw [run_assertM] at h
    split at h
    · rename_i hc; exact ⟨s, by rw [run_assertM, if_pos hc]⟩
    · cases h

/-! ### the calculus with a changing ghost -/

theorem BSimXAt.ret (a : α) : BSimXAt K P g s (pure a : M α) (pure a) := (BSimAt.ret a).toX
theorem BSimXAt.thr (e e' : Panic) : BSimXAt K P g s (throw e : M α) (throw e') := (BSimAt.thr e e').toX
theorem BSimXAt.pan (e e' : String) : BSimXAt K P g s (Engine.panic e : M α) (Engine.panic e') := BSimXAt.thr _ _

theorem BSimXAt.seq {x x' : M α} {f f' : α → M β} (hx : BSimXAt K P g s x x')
    (hf : ∀ a s1 g1, x.run.run s = (.ok a, s1) → BSimXAt K P g1 s1 (f a) (f' a)) :
    BSimXAt K P g s (x >>= f) (x' >>= f') := by
  refine ⟨SimXAt.seq hx.1 fun a s1 g1 h => (hf a s1 g1 h).1, fun hn hp => ⟨fun r s' h => ?_, fun r t h => ?_⟩⟩
  · obtain ⟨a, s1, h1, h2⟩ := bind_ok_inv h
    obtain ⟨g1, -, n1, -, p1⟩ := hx.fwd hn hp h1
    obtain ⟨g2, -, -, -, p2⟩ := (hf a s1 g1 h1).fwd n1 p1 h2
    exact p2
  · obtain ⟨a, t1, h1, h2⟩ := bind_ok_inv h
    obtain ⟨s1, g1, hs1, e, n1, -, p1⟩ := hx.rev hn hp h1
    rw [e] at h2
    obtain ⟨s', -, hs', -⟩ := (hf a s1 g1 hs1).rev n1 p1 h2
    exact ⟨s', by rw [run_bind_ok hs1]; exact hs'⟩

theorem BSimXAt.get_seq {k k' : State → M β} (h : BSimXAt K P g s (k s) (k' (virt g s))) :
    BSimXAt K P g s (get >>= k) (get >>= k') := by
  refine ⟨SimXAt.get_seq h.1, fun hn hp => ⟨fun r s' hr => ?_, fun r t hr => ?_⟩⟩
  · rw [run_bind_get] at hr
    obtain ⟨_, -, -, -, p⟩ := h.fwd hn hp hr; exact p
  · rw [run_bind_get] at hr
    obtain ⟨s', -, hs', -⟩ := h.rev hn hp hr
    exact ⟨s', by rw [run_bind_get]; exact hs'⟩

theorem BSimXAt.getNode_seq {n : Nat} {k k' : Node → M β}
    (h : ∀ nd, s.nodes[n]? = some nd → (∀ e, nd.kind ≠ .expert e) →
      BSimXAt K P g s (k nd) (k' (virtNode (g n) nd))) :
    BSimXAt K P g s (getNode n >>= k) (getNode n >>= k') := by
  refine ⟨SimXAt.getNode_seq fun nd hnd hne => (h nd hnd hne).1, fun hn hp => ⟨fun r s' hr => ?_, fun r t hr => ?_⟩⟩
  · obtain ⟨nd, hnd, hr⟩ := bind_getNode_inv hr
    obtain ⟨_, -, -, -, p⟩ := (h nd hnd (hn.some hnd)).fwd hn hp hr; exact p
  · obtain ⟨vnd, hvnd, hr⟩ := bind_getNode_inv hr
    rw [virt_getElem?] at hvnd
    cases hnd : s.nodes[n]? with
    | none => rw [hnd] at hvnd; cases hvnd
    | some nd =>
      rw [hnd] at hvnd
      simp only [Option.map_some, Option.some.injEq] at hvnd
      subst hvnd
      obtain ⟨s', -, hs', -⟩ := (h nd hnd (hn.some hnd)).rev hn hp hr
      exact ⟨s', by rw [run_bind_ok (run_getNode_some hnd)]; exact hs'⟩

theorem BSimXAt.mod_seq [Keeps P] {f f' : State → State} {k k' : Unit → M β} (h : virt g (f s) = f' (virt g s))
    (hn : (f s).nodes = s.nodes) (hb : (f s).binds = s.binds) (hk : BSimXAt K P g (f s) (k ()) (k' ())) :
    BSimXAt K P g s ((modify f : M Unit) >>= k) ((modify f' : M Unit) >>= k') := by
  refine ⟨SimXAt.mod_seq h hn hk.1, fun hne hp => ⟨fun r s' hr => ?_, fun r t hr => ?_⟩⟩
  · rw [run_bind_modify] at hr
    obtain ⟨_, -, -, -, p⟩ := hk.fwd (hne.of_nodes hn) (Keeps.of_nodes hp hn hb) hr; exact p
  · rw [run_bind_modify, ← h] at hr
    obtain ⟨s', -, hs', -⟩ := hk.rev (hne.of_nodes hn) (Keeps.of_nodes hp hn hb) hr
    exact ⟨s', by rw [run_bind_modify]; exact hs'⟩

theorem BSimXAt.modG_seq [KeepsG P] {f f' : State → State} {k k' : Unit → M β} (h : virt g (f s) = f' (virt g s))
    (hn : (f s).nodes = s.nodes) (hk : BSimXAt K P g (f s) (k ()) (k' ())) :
    BSimXAt K P g s ((modify f : M Unit) >>= k) ((modify f' : M Unit) >>= k') := by
  refine ⟨SimXAt.mod_seq h hn hk.1, fun hne hp => ⟨fun r s' hr => ?_, fun r t hr => ?_⟩⟩
  · rw [run_bind_modify] at hr
    obtain ⟨_, -, -, -, p⟩ := hk.fwd (hne.of_nodes hn) (KeepsG.of_nodes' hp hn) hr; exact p
  · rw [run_bind_modify, ← h] at hr
    obtain ⟨s', -, hs', -⟩ := hk.rev (hne.of_nodes hn) (KeepsG.of_nodes' hp hn) hr
    exact ⟨s', by rw [run_bind_modify]; exact hs'⟩

/-- sequencing a same-ghost program with a ghost-changing continuation -/
theorem BSimXAt.seqA {x x' : M α} {f f' : α → M β} (hx : BSimAt K P g s x x')
    (hf : ∀ a s1, x.run.run s = (.ok a, s1) → VM s s1 → BSimXAt K P g s1 (f a) (f' a)) :
    BSimXAt K P g s (x >>= f) (x' >>= f') := by
  refine ⟨FullH.ST.SimXAt.seqA hx.1 fun a s1 h v => (hf a s1 h v).1, fun hn hp => ⟨fun r s' h => ?_, fun r t h => ?_⟩⟩
  · obtain ⟨a, s1, h1, h2⟩ := bind_ok_inv h
    obtain ⟨-, n1, v1, p1⟩ := hx.fwd hn hp h1
    obtain ⟨g2, -, -, -, p2⟩ := (hf a s1 h1 v1).fwd n1 p1 h2
    exact p2
  · obtain ⟨a, t1, h1, h2⟩ := bind_ok_inv h
    obtain ⟨s1, hs1, e, n1, v1, p1⟩ := hx.rev hn hp h1
    rw [e] at h2
    obtain ⟨s', -, hs', -⟩ := (hf a s1 hs1 v1).rev n1 p1 h2
    exact ⟨s', by rw [run_bind_ok hs1]; exact hs'⟩

theorem BSimXAt.cond {c c' : Prop} {_ : Decidable c} {_ : Decidable c'} {a b a' b' : M α} (hc : c ↔ c')
    (ha : c → BSimXAt K P g s a a') (hb : ¬ c → BSimXAt K P g s b b') :
    BSimXAt K P g s (if c then a else b) (if c' then a' else b') := by
  by_cases h : c
  · rw [if_pos h, if_pos (hc.1 h)]; exact ha h
  · rw [if_neg h, if_neg (fun h' => h (hc.2 h'))]; exact hb h

theorem BSimX.forIn {γ : Type} (l : List γ) {f f' : γ → β → M (ForInStep β)}
    (h : ∀ a, a ∈ l → ∀ b, BSimX K P (f a b) (f' a b)) (b : β) :
    BSimX K P (ForIn.forIn l b f) (ForIn.forIn l b f') := by
  induction l generalizing b with
  | nil => intro g s; rw [List.forIn_nil, List.forIn_nil]; exact BSimXAt.ret _
  | cons a l ih =>
    intro g s
    rw [List.forIn_cons, List.forIn_cons]
    refine BSimXAt.seq (h a (List.mem_cons_self ..) b g s) fun r s1 g1 _ => ?_
    cases r with
    | done b' => exact BSimXAt.ret _
    | yield b' => exact ih (fun a ha => h a (List.mem_cons_of_mem _ ha)) b' g1 s1

end
end IncrVerif.Proofs.FullT
