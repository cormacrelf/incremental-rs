import IncrVerif.Proofs.NestH110
import IncrVerif.Proofs.CutH39
/-!
# Total correctness for nested binds (F2), API actions other than `stabilise`, part 2: the observer actions, the writes and the read-only actions return

`CutH39` for `QInv2 env rk`/`TInv2 rk N` in place of `CutH.QInv`/`CutH.TInv N` (SAME ghost rank: these actions create no node); the observer
actions are `CutH.ObsTot`'s at `T2k.obsTot2`.
Reused unchanged: `Quiet.SimpleAction`, `Quiet.P27.Grown_same` (via `T2k.grown2_same`), `wroteOutside_sizes`,
`Step.getVar_total`, and all the `Tot` combinators.
-/
namespace IncrVerif.Proofs.NestH
open IncrVerif.Engine IncrVerif.Driver IncrVerif.Proofs IncrVerif.Proofs.Step IncrVerif.Proofs.Sched IncrVerif.Proofs.Quiet
open IncrVerif.Proofs.BindH

namespace T2k

/-! ## `TInv2` under changes of the observer bookkeeping -/

/-- `TInv2` reads the nodes, the var cells, the two heaps (their number of buckets) and the observers waiting to be added -/
theorem tinv2_of_frame {rk : Nat → Nat} {N : Nat} {s s' : State} (T : TInv2 rk N s) (hn : s'.nodes = s.nodes)
    (hv : s'.vars = s.vars) (ha : s'.ahh = s.ahh) (hr : s'.rch = s.rch)
    (h1 : s'.newObservers.Nodup)
    (h2 : ∀ (o : Nat) (ob : ObsRec), o ∈ s'.newObservers → s'.observers[o]? = some ob →
      ob.state = .created ∨ ob.state = .unlinked) : TInv2 rk N s' where
  hb m hm ho := by
    have hD : s'.nodeD m = s.nodeD m := by simp only [State.nodeD, hn]
    have hnec : s'.isNecessary m = s.isNecessary m := by simp only [State.isNecessary, hD]
    rw [hnec] at hm; rw [hD, hn]; exact T.hb m hm ho
  room := ⟨by rw [ha]; exact T.room.ahh, by rw [hr]; exact T.room.rch, by rw [hn]; exact T.room.size⟩
  linked c vc h := by rw [hv] at h; exact T.linked c vc h
  newNodup := h1
  newState := h2

theorem obsTot2 (rk : Nat → Nat) (N : Nat) : CutH.ObsTot (TInv2 rk N) :=
  ⟨fun T => T.newNodup, fun T => T.newState, fun T hn hv _ ha hr _ h1 h2 => tinv2_of_frame T hn hv ha hr h1 h2⟩

theorem _root_.IncrVerif.Proofs.CutH.ObsOnly.grown2 {a : Action} {k : Nat} {s s' : State} (h : CutH.ObsOnly k s s')
    (hg : grow2 a = (0, 0, k)) (ht : growTop a = 0) : Grown2 a s s' := by
  unfold Grown2; rw [hg, ht, h.nodes, h.vars, h.top]; exact ⟨rfl, rfl, h.obsSize, rfl⟩

theorem grown2_same {a : Action} {s s' : State} (hg : grow2 a = (0, 0, 0)) (ht : growTop a = 0)
    (h1 : s'.nodes.size = s.nodes.size) (h2 : s'.vars.size = s.vars.size) (h3 : s'.observers.size = s.observers.size)
    (h4 : s'.top = s.top) : Grown2 a s s' := by
  unfold Grown2; rw [hg, ht, h4]; exact ⟨h1, h2, h3, rfl⟩

/-! ## the writes -/

/-- a write outside `stabilise` returns: the watch node is top-level, hence valid; if it has to be queued, its height is within the heap
(`HBo2.le_max`: the position of a node in the rank order is below the number of nodes `≤ N`) -/
theorem writeVar_total2 {env : Env} {rk : Nat → Nat} {N : Nat} {s : State} {v : Nat} {f : Val → Val} {isSet : Bool}
    (Q : QInv2 env rk s) (T : TInv2 rk N s) (hv : v < s.vars.size) :
    Tot (writeVar v f isSet) s (fun _ s' => QInv2 env rk s' ∧ TInv2 rk N s' ∧ s'.nodes.size = s.nodes.size ∧
      s'.vars.size = s.vars.size ∧ s'.observers.size = s.observers.size ∧ s'.top = s.top) := by
  have hv0 : s.vars[v]? = some s.vars[v] := Array.getElem?_eq_getElem hv
  generalize s.vars[v] = vc at hv0
  have I : GInv2 env rk s allClosed noEx [] := Q.struct
  have hsz : vc.node < s.nodes.size := (Q.vars.cell v vc hv0).1
  have hkn : (s.nodeD vc.node).kind = .var v := (Q.vars.cell v vc hv0).2
  have hl : vc.linked = true := T.linked v vc hv0
  obtain ⟨hrun, hh⟩ := CutH.writeVar_ret f isSet hv0 (by rw [Q.status]; intro e; cases e) hl hsz hkn (N4w.var_top I.frag hsz hkn).2
    (Q.stamps vc.node).1 fun hnec => by
      have h0 := I.hpos _ hnec rfl
      have hle := T.hb.le_max T.room hsz hnec rfl
      have hmax := T.room.rch
      omega
  obtain ⟨R, Q'⟩ := N4w.wroteOutside_q (f vc.value) Q hv0 hh
  have hF := wroteOutside_frame v vc (f vc.value) s
  have hS := wroteOutside_sizes v vc (f vc.value) s
  refine Tot.of_ok hrun ⟨Q', ?_, R.size, hS.1, by rw [R.observers], R.top⟩
  refine ⟨fun m hm ho => ?_, ⟨?_, ?_, ?_⟩, fun c vc' h => ?_, ?_, ?_⟩
  · rw [R.nec] at hm; rw [R.height, R.size]; exact T.hb m hm ho
  · rw [hF.2.2.2.2.1]; exact T.room.ahh
  · rw [← T.room.rch]; simp only [Heap.maxAllowed, hS.2]
  · rw [R.size]; exact T.room.size
  · by_cases hc : c = v
    · rw [hc, R.var] at h; cases h; exact hl
    · rw [R.other c hc] at h; exact T.linked c vc' h
  · rw [R.newObservers]; exact T.newNodup
  · intro o ob hm h
    rw [R.newObservers] at hm; rw [R.observers] at h
    exact T.newState o ob hm h

end T2k
open T2k

/-- the observer actions, the writes and the read-only actions of the fragment return when their indices exist; `TInv2` is kept under the SAME rank -/
theorem simple_total2 {env : Env} {rk : Nat → Nat} {N : Nat} {s : State} {a : Action} {tk : Array Nat}
    (Q : QInv2 env rk s) (T : TInv2 rk N s) (ha : SimpleAction a) (hok : ActionOK N s a) :
    Tot (stepAction env a tk) s (fun r s' => r.2 = tk ∧ TInv2 rk N s' ∧ Grown2 a s s') := by
  cases a <;> try exact ha.elim
  case observe n =>
    cases n <;> try exact ha.elim
    exact ((obsTot2 rk N).observe Q.obs.newIn T hok).mono fun _ _ h => ⟨h.1, h.2.1, h.2.2.grown2 rfl rfl⟩
  case cloneObs o => exact ((obsTot2 rk N).cloneObs T).mono fun _ _ h => ⟨h.1, h.2.1, h.2.2.grown2 rfl rfl⟩
  case dropObs o => exact ((obsTot2 rk N).dropObs T hok).mono fun _ _ h => ⟨h.1, h.2.1, h.2.2.grown2 rfl rfl⟩
  case disallow o => exact ((obsTot2 rk N).disallow T hok).mono fun _ _ h => ⟨h.1, h.2.1, h.2.2.grown2 rfl rfl⟩
  case get v => exact ⟨_, s, Hist.stepAction_get_ok.2 ⟨_, getVar_total hok, rfl⟩, rfl, T, grown2_same rfl rfl rfl rfl rfl rfl⟩
  case isStable => exact ⟨_, s, Hist.stepAction_isStable_run .., rfl, T, grown2_same rfl rfl rfl rfl rfl rfl⟩
  case stats => exact ⟨_, s, Hist.stepAction_stats_run .., rfl, T, grown2_same rfl rfl rfl rfl rfl rfl⟩
  all_goals
    obtain ⟨old, s1, h1, -, T1, e1, e2, e3, e4⟩ := writeVar_total2 Q T hok
    exact ⟨_, s1, (Hist.stepAction_write_ok (by constructor)).2 ⟨old, h1, rfl⟩, rfl, T1, grown2_same rfl rfl e1 e2 e3 e4⟩

end IncrVerif.Proofs.NestH
