import IncrVerif.Proofs.TidyH19
/-!
# T3a part 3: `stabilise` returns (static fragment with subscriptions, effect-free handlers)
-/
namespace IncrVerif.Proofs.TidyH.SubsT
open IncrVerif.Engine IncrVerif.Driver IncrVerif.Proofs IncrVerif.Proofs.Step IncrVerif.Proofs.Sched
open IncrVerif.Proofs.Quiet

/-- the queued nodes exist: a flagged node is not the default node -/
theorem hasRange_of_hasOK {s : State} (H : SubsH.HasOK s) : HasRange s := by
  intro n hn
  have hf := (H.flag n).1 hn
  rcases Nat.lt_or_ge n s.nodes.size with h | h
  · exact h
  · rw [nodeD_default s n h, SubsH.P8.default_flag] at hf; cases hf

/-- **`stabilise` returns** (static fragment with subscriptions, effect-free handlers, enough fuel), and the
extra invariant `TInv` is kept. -/
theorem stabilise_total_u {env : Env} {N fuel : Nat} {s : State} (U : SubsH.UInv env s) (T : TInv N s)
    (heff : SubsH.PureHandlers env) (hf : 3 * s.nodes.size + 4 ≤ fuel) :
    Tot (stabilise env fuel) s (fun _ s' => TInv N s') := by
  have Q := U.core
  obtain ⟨s0, hs0⟩ : ∃ s0 : State, s0 = { s with status := .stabilising } := ⟨_, rfl⟩
  have hnd0 : ∀ m, s0.nodeD m = s.nodeD m := fun m => by rw [hs0]; rfl
  have hsz0 : s0.nodes.size = s.nodes.size := by rw [hs0]
  have hvars0 : s0.vars = s.vars := by rw [hs0]
  have hstab0 : s0.stabNum = s.stabNum := by rw [hs0]
  have S0 : SubsH.SInv env s0 s0.newObservers s0.disallowedObservers := by
    rw [hs0]
    exact ⟨Q.struct.congr (SameG.of_nodes rfl rfl rfl rfl rfl),
      ⟨Q.obs.inRange, Q.obs.mem, Q.obs.created, Q.obs.newIn, Q.obs.dis, Q.obs.disIn, Q.obs.disNodup⟩,
      Q.pinv, U.hinv.of_nodes rfl rfl rfl rfl rfl⟩
  have hb0 : HBo s0 allClosed := by
    intro m hm ho
    rw [hnd0]; exact T.hb m (by rw [State.isNecessary, ← hnd0]; exact hm) ho
  have R0 : Room N s0 := by rw [hs0]; exact ⟨T.room.ahh, T.room.rch, T.room.size⟩
  -- the two loops
  have hf1 : 2 * s0.nodes.size + 2 ≤ fuel := by rw [hsz0]; omega
  obtain ⟨_, t1, h1, hb1⟩ := addNewObservers_total (fuel := fuel) (env := env) S0 hb0 R0
    (by rw [hs0]; exact T.newNodup) (by rw [hs0]; exact T.newState) hf1
  obtain ⟨S1, hn1, hd1, F1, O1, N1, K1, L1, T1⟩ := SubsH.addNewObservers_s S0 h1
  have hf2 : 3 * t1.nodes.size + 3 ≤ fuel := by rw [F1.size, hsz0]; omega
  obtain ⟨_, t2, h2, hb2⟩ := unlinkDisallowedObservers_total (fuel := fuel) S1 hn1 hb1 hf2
  obtain ⟨S2, hn2, hd2, F2, O2, K2, L2, T2⟩ := SubsH.unlinkDisallowedObservers_s S1 hn1 h2
  have F : SubsH.PFrame s0 t2 := F1.trans F2
  have R2 : Room N t2 := room_of_pframe R0 F
  -- the drain invariant
  have V2 : VarsOK t2 := F.varsOK (by
    refine ⟨?_, ?_⟩
    · intro n c hn hk; rw [hnd0] at hk; rw [hvars0]; exact Q.vars.node n c (by rw [← hsz0]; exact hn) hk
    · intro c vc hc; rw [hvars0] at hc; rw [hsz0, hnd0]; exact Q.vars.cell c vc hc)
  have st2 : ∀ m, (t2.nodeD m).recomputedAt < t2.stabNum ∧ (t2.nodeD m).changedAt < t2.stabNum := by
    intro m
    rw [F.recomputedAt, F.changedAt, F.stabNum, hstab0, hnd0]; exact Q.stamps m
  have cons2 : ∀ m, m < t2.nodes.size → staleOf t2 m = false → Consistent env t2 m := by
    intro m hm hs
    rw [F.staleOf] at hs
    have hs' : staleOf s m = false := by
      rw [← hs]; exact (staleOf_congr (by rw [hnd0]) (by rw [hnd0]) hvars0 (fun c _ => by rw [hnd0])).symm
    have hc := Q.cons m (by rw [← hsz0, ← F.size]; exact hm) hs'
    have hc0 : Consistent env s0 m := by
      obtain ⟨w, hw, hv⟩ := hc
      exact ⟨w, Target.congr (by rw [hnd0]) hvars0 (fun c _ => by rw [hnd0]) hw, by rw [hnd0]; exact hv⟩
    exact F.consistent hc0
  have D2 : DrainInv env t2 :=
    drainInv_of S2.struct V2 (by rw [F.stabNum, hstab0]; exact Q.now) st2
      (fun c vc hc => by rw [F.vars, hvars0] at hc; rw [F.stabNum, hstab0]; exact Q.varStamp c vc hc) cons2
  -- the drain
  have Sf : Safe t2 := by
    refine ⟨fun n hn => ?_, fun n hn => (GInv.node S2.struct (nec_lt_size hn)).top⟩
    have h1 := hb2 n hn rfl
    have h2 := nec_lt_size hn
    have h3 := R2.size
    rw [R2.rch]; omega
  have hf3 : t2.nodes.size + 2 ≤ fuel := by rw [F.size, hsz0]; omega
  obtain ⟨t3, h3, D3, he3, f3, -⟩ := drainHeap_total_values D2 Sf hf3
  have c3 := drainHeap_calm fuel t2 t3 D2 h3
  have k3 := drainHeap_keyD D2 h3
  have hu3 := SubsH.drainHeap_hush fuel t2 t3 D2 h3
  simp only [stateKeyD, Prod.mk.injEq] at k3
  obtain ⟨k_obs, -, -, k_top, -, -, -, -, -, -, k_ahh⟩ := k3
  have H3 : SubsH.HInv t3 :=
    SubsH.P12u.hinv_hush S2.hinv hu3 k_obs (fun m => (f3.shape m).observers) f3.stabNum
  have O3 : SubsH.ObsInv t3 [] [] :=
    SubsH.obsInv_congr' S2.obs k_obs f3.size (fun m => (f3.shape m).observers)
  have hval3 : ∀ n, t3.isNecessary n = true →
      (t3.nodeD n).valid = true ∧ (t3.value env n).isSome = true := by
    intro n hn
    obtain ⟨v1, -, v3, -, v5⟩ := drained_values D3 he3 n hn ((t3.nodeD n).height.toNat + 1) (Nat.lt_succ_self _)
    refine ⟨v1, ?_⟩
    rw [D3.graph.value_plain hn, v3]; exact v5
  -- the end
  have hsd3 : t3.setDuringStab = [] := by rw [c3.setDuringStab, F.setDuringStab, hs0]; exact Q.setDuringStab
  have hdv3 : t3.deadVars = [] := by rw [c3.deadVars, F.deadVars, hs0]; exact Q.deadVars
  obtain ⟨_, s', h4, -⟩ := stabiliseEnd_total (env := env) (fuel := fuel) (s := t3) heff D3.graph.pc hsd3 hdv3
    O3 (hasRange_of_hasOK H3.has) hval3
  have E := SubsH.stabiliseEnd_spec (env := env) (fuel := fuel) (s := t3) (s' := s') heff D3.graph.pc
    hsd3 hdv3 O3 H3 hval3 h4
  -- the run
  have hrun : (stabilise env fuel).run.run s = (.ok (), s') :=
    stabilise_phases.2 ⟨t1, t2, t3, Q.status, by rw [← hs0]; exact h1, h2, h3, h4⟩
  refine Tot.of_ok hrun ?_
  -- the extra invariant at the end
  have hE : ∀ m, NodeG (t3.nodeD m) (s'.nodeD m) := by
    intro m
    rw [E.node m]
    exact ⟨rfl, rfl, rfl, rfl, rfl, rfl, rfl, rfl, rfl, rfl, rfl⟩
  have hnec' : ∀ m, s'.isNecessary m = t2.isNecessary m := fun m => by
    have G3 : SameG t3 s' := ⟨E.pc, E.scope, E.size, E.rch, E.vars, hE⟩
    rw [G3.nec, f3.nec]
  have hsize' : s'.nodes.size = s.nodes.size := by rw [E.size, f3.size, F.size, hsz0]
  refine ⟨?_, ⟨?_, ?_, by rw [hsize']; exact T.room.size⟩, ?_, ?_, ?_, ?_⟩
  · intro m hm ho
    rw [(hE m).height, (f3.shape m).height]
    exact hb2 m (by rw [← hnec']; exact hm) ho
  · rw [E.ahh, k_ahh]; exact R2.ahh
  · rw [E.rch, ← R2.rch]; exact maxAllowed_congr f3.qsize
  · intro c vc hc
    rw [E.vars, f3.vars, F.vars, hs0] at hc
    exact T.linked c vc hc
  · rw [E.top, k_top, F.top, hs0, hsize']; exact T.topSize
  · rw [E.newObservers, c3.newObservers, hn2]; exact List.nodup_nil
  · intro o ob ho
    rw [E.newObservers, c3.newObservers, hn2] at ho; cases ho

end IncrVerif.Proofs.TidyH.SubsT
