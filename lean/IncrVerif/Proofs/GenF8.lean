import IncrVerif.Proofs.GenF5
import IncrVerif.Props.C03
/-!
# C03, combined fragment, part 8: the run of a change detector un-registers and kills its WHOLE previous generation

`lc_step_kills_generation`: in a state with the drain invariant whose current node `n` is the change detector of bind `b`, whose record has a right-hand side (the closure has run
before): if `recomputeOne env fuel n` returns, the drain invariant holds again and EVERY node of the record's previous list `allNodesCreatedOnRhs` is dead, invalid, and registered
in NO bind's list.  (`C03.lhs_change_invalidates_old_generation`, all programs: the old list is invalid afterwards; `All2.gen` afterwards: registered nodes are valid.)
-/
namespace IncrVerif.Proofs.GenF
open IncrVerif.Engine IncrVerif.Driver IncrVerif.Proofs IncrVerif.Proofs.Step IncrVerif.Proofs.Sched IncrVerif.Proofs.Quiet
open IncrVerif.Proofs.FullH IncrVerif.Proofs.TidyH IncrVerif.Proofs.OnceF

section
variable {env : Env} {sp : Nat → Val → Val}

theorem lc_step_kills_generation (E : EnvS env sp) (hF : FirstFn env) {t s s' : State} {g : Nat → Option Val} {fuel n b r0 : Nat} {br : BindRec}
    {r : Option Nat} (D : DInvF env sp t s g (some n)) (hk : (s.nodeD n).kind = .bindLhsChange b) (hb : s.binds[b]? = some br)
    (hr : br.rhs = some r0) (h : (recomputeOne env fuel n).run.run s = (.ok r, s')) :
    ∃ g', DInvF env sp t s' g' r ∧
      ∀ m, m ∈ br.allNodesCreatedOnRhs → Dead s' m ∧ (s'.nodeD m).valid = false ∧ ∀ b', ¬ Reg s' b' m := by
  have hn : n < s.nodes.size := by
    by_cases hn : n < s.nodes.size
    · exact hn
    · rw [nodeD_default_of_ge s n (by omega)] at hk; cases hk
  obtain ⟨-, -, c3, -, -⟩ := D.inv.cur_facts
  rw [virt_nodeD, virtNode_valid] at c3
  obtain ⟨g', D', -, -, -⟩ := recomputeOne_full (kit E hF) D h
  have old := IncrVerif.Props.C03.lhs_change_invalidates_old_generation env fuel n s s' (s.nodeD n) b br r0 r (some_of_lt hn) c3 hk hb hr h
  obtain ⟨rk', A'⟩ := all2_of_d D'
  refine ⟨g', D', fun m hm => ?_⟩
  obtain ⟨-, hv, -⟩ := old m hm
  have hnot : ∀ b', ¬ Reg s' b' m := fun b' hreg => by
    have := (reg_facts_all2 A' hreg).2.1
    rw [hv] at this; cases this
  exact ⟨step_unreg_dead D h ⟨br, hb, hm⟩ (hnot b), hv, hnot⟩

end
end IncrVerif.Proofs.GenF
