import IncrVerif.Proofs.LeakF1
import IncrVerif.Proofs.Footprint
/-!
# LeakF2 — no function of the engine writes the program's node handles

No primitive write of the engine touches `State.handles` (`Edit.handles`), so every program whose writes are primitive writes is `Sim`
(`Sim.of_foot`).  The handles are written by `stepAction` only, in the bookkeeping of `create` and `dropHandle`.
-/
namespace IncrVerif.Proofs.LeakF
open IncrVerif.Engine IncrVerif.Proofs IncrVerif.Proofs.Footprint

theorem Sim.of_foot {L α} {m : M α} (h : Foot L (fun _ => True) m) : Sim m := fun s s' _ hr =>
  @Steps.lift (Edit (parts L) fun _ => True) (fun s s' => s'.handles = s.handles) ⟨fun _ => rfl, fun h1 h2 => h2.trans h1⟩ _ _
    (h.run.h s _ s' hr).edits Edit.handles

theorem sim_scopeIsValid (sc : Scope) : Sim (scopeIsValid sc) :=
  Sim.of_foot (Foot.scopeIsValid sc)
theorem sim_becameUnnecessary (fuel n : Nat) : Sim (becameUnnecessary fuel n) := Sim.of_foot (Foot.becameUnnecessary fuel n)

end IncrVerif.Proofs.LeakF
