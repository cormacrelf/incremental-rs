import IncrVerif.Proofs.EffH11
import IncrVerif.Proofs.Drain
/-!
# Effects, part 13 (V3): the drain with write effects keeps the handler bookkeeping (`SubsH.Hush`) and stamps
`changedAt` exactly (`valchg`)
-/
namespace IncrVerif.Proofs.EffH
open IncrVerif.Engine IncrVerif.Driver IncrVerif.Proofs IncrVerif.Proofs.Step IncrVerif.Proofs.Sched
open IncrVerif.Proofs.Quiet

theorem e13_effNote_notNotif (e : Effect) (old : Val) : ∀ ev, ev ∈ effNote e old → SubsH.NotNotif ev := by
  intro ev hev
  unfold effNote at hev
  split at hev
  · rw [List.mem_singleton] at hev; rw [hev]; trivial
  · rw [List.mem_singleton] at hev; rw [hev]; trivial
  · cases hev

theorem e13_effStep_log (e : Effect) (s : State) :
    ∃ new, (effStep e s).log = new ++ s.log ∧ ∀ ev, ev ∈ new → SubsH.NotNotif ev := by
  unfold effStep
  cases effWrite e with
  | none => exact ⟨[], rfl, fun _ h => by cases h⟩
  | some p =>
    obtain ⟨v, f⟩ := p
    dsimp only
    cases s.vars[v]? with
    | none => exact ⟨[], rfl, fun _ h => by cases h⟩
    | some vc => exact ⟨effNote e (vc.pending.getD vc.value), rfl, e13_effNote_notNotif e _⟩

theorem e13_effSteps_log (es : List Effect) (s : State) :
    ∃ new, (effSteps es s).log = new ++ s.log ∧ ∀ ev, ev ∈ new → SubsH.NotNotif ev := by
  induction es generalizing s with
  | nil => exact ⟨[], rfl, fun _ h => by cases h⟩
  | cons e es ih =>
    rw [effSteps_cons]
    obtain ⟨n1, e1, l1⟩ := e13_effStep_log e s
    obtain ⟨n2, e2, l2⟩ := ih (effStep e s)
    refine ⟨n2 ++ n1, by rw [e2, e1, List.append_assoc], fun ev hev => ?_⟩
    rcases List.mem_append.1 hev with hev | hev
    · exact l2 ev hev
    · exact l1 ev hev

/-- a `SameP` step whose log only grew by non-notifications is `Hush` -/
theorem SameP.hush {s s' : State} (h : SameP s s')
    (hl : ∃ new, s'.log = new ++ s.log ∧ ∀ e, e ∈ new → SubsH.NotNotif e) : SubsH.Hush s s' where
  nextToken := by rw [h.eq]
  num m := by rw [h.nodeD m]
  ok H := ⟨by rw [h.handleAfterStab]; exact H.nodup,
    fun n => by rw [h.handleAfterStab, h.nodeD n]; exact H.flag n⟩
  mono n hn := by rw [h.handleAfterStab]; exact hn
  changed _ n hne _ := absurd (by rw [h.nodeD n]) hne
  log := hl

/-- deferred writes are `Hush`: they touch no node, no queue, and log only `note`s -/
theorem effSteps_hush (es : List Effect) (s : State) : SubsH.Hush s (effSteps es s) :=
  (effSteps_sameP es s).hush (e13_effSteps_log es s)

theorem recomputeOne_eff_hush {env : Env} {fuel n : Nat} {s s' : State} {r : Option Nat}
    (hw : WOnly env) (D : DI env s (some n)) (h : (recomputeOne env fuel n).run.run s = (.ok r, s')) :
    SubsH.Hush s s' := by
  obtain ⟨h0, -⟩ := recomputeOne_eff_eq D.inv D.status hw D.handles h
  have P := effSteps_sameP (nodeEffs env s n) s
  have I1 := P.inv D.inv
  exact (effSteps_hush (nodeEffs env s n) s).trans
    (SubsH.recomputeOne_hush I1.graph (I1.cur n rfl).1 I1.kids_values h0)

/-- **the drain with write effects keeps the handler bookkeeping** -/
theorem drainHeap_eff_hush {env : Env} (hw : WOnly env) (fuel : Nat) (s s' : State) (D : DI env s none)
    (h : (drainHeap env fuel).run.run s = (.ok (), s')) : SubsH.Hush s s' := by
  obtain ⟨s1, i, h1⟩ := Drain.drainHeap_ind (I := fun x t => DI env t x ∧ SubsH.Hush s t)
    (fun _ _ _ _ _ i h1 => ⟨(recomputeOne_effstep hw i.1 h1).1, i.2.trans (recomputeOne_eff_hush hw i.1 h1)⟩)
    (fun _ _ _ i h1 => ⟨(pop_eff i.1 h1).1, i.2.trans (SubsH.pop_hush i.1.inv.heap h1)⟩) fuel s s' ⟨D, SubsH.Hush.refl s⟩ h
  obtain ⟨rfl, -⟩ := rchRemoveMin_inv i.1.inv.heap h1
  exact i.2

/-! ## `valchg` -/

/-- deferred writes move no value and no stamp -/
theorem e13_vc_sameP {s0 s s1 : State} (V : SubsH.VC s0 s) (P : SameP s s1) : SubsH.VC s0 s1 where
  stabNum := P.stabNum.trans V.stabNum
  shape m := by rw [P.nodeD m]; exact V.shape m
  old m h := by rw [P.nodeD m] at h ⊢; exact V.old m h
  chg m h := by rw [P.nodeD m] at h ⊢; exact V.chg m h
  now m h := by rw [P.nodeD m] at h ⊢; exact V.now m h
  keep m h := by rw [P.nodeD m] at h ⊢; exact V.keep m h

theorem e13_valchg_recomputeOne {env : Env} {s0 : State} (hw : WOnly env)
    (hst : ∀ m, (s0.nodeD m).changedAt < s0.stabNum) {fuel n : Nat} {s s' : State} {r : Option Nat}
    (D : DI env s (some n)) (V : SubsH.VC s0 s)
    (h : (recomputeOne env fuel n).run.run s = (.ok r, s')) : SubsH.VC s0 s' := by
  obtain ⟨h0, -⟩ := recomputeOne_eff_eq D.inv D.status hw D.handles h
  have P := effSteps_sameP (nodeEffs env s n) s
  have I1 := P.inv D.inv
  have S := SubsH.valchg_recomputeOne I1.graph (I1.cur n rfl).1 I1.kids_values h0
  obtain ⟨-, f1, -⟩ := recomputeOne_inv I1 h0
  exact (e13_vc_sameP V P).step hst f1 (I1.cur n rfl).1 (I1.fresh n (Or.inr rfl) n (Anc.refl n)) S

theorem e13_valchg_drainHeap {env : Env} {s0 : State} (hw : WOnly env)
    (hst : ∀ m, (s0.nodeD m).changedAt < s0.stabNum) (fuel : Nat) (s s' : State) (D : DI env s none) (V : SubsH.VC s0 s)
    (h : (drainHeap env fuel).run.run s = (.ok (), s')) : SubsH.VC s0 s' := by
  obtain ⟨s1, i, h1⟩ := Drain.drainHeap_ind (I := fun x t => DI env t x ∧ SubsH.VC s0 t)
    (fun _ _ _ _ _ i h1 => ⟨(recomputeOne_effstep hw i.1 h1).1, e13_valchg_recomputeOne hw hst i.1 i.2 h1⟩)
    (fun _ _ _ i h1 => ⟨(pop_eff i.1 h1).1, SubsH.valchg_pop i.1.inv i.2 h1⟩) fuel s s' ⟨D, V⟩ h
  obtain ⟨rfl, -⟩ := rchRemoveMin_inv i.1.inv.heap h1
  exact i.2

/-- **the `changedAt` stamp of the round is exact also with write effects**: after the drain a node carries the stamp
of the current round iff its stored value differs from the one before the drain; nodes without that stamp kept value
and stamp -/
theorem drainHeap_eff_valchg {env : Env} (hw : WOnly env) {fuel : Nat} {s s' : State} (D : DI env s none)
    (hst : ∀ m, (s.nodeD m).recomputedAt < s.stabNum ∧ (s.nodeD m).changedAt < s.stabNum)
    (hcut : ∀ m, s.isNecessary m = true → (s.nodeD m).cutoff = .eq)
    (h : (drainHeap env fuel).run.run s = (.ok (), s')) :
    ∀ m, ((s'.nodeD m).changedAt = s.stabNum ↔ (s'.nodeD m).value ≠ (s.nodeD m).value) ∧
      ((s'.nodeD m).changedAt ≠ s.stabNum → (s'.nodeD m).changedAt = (s.nodeD m).changedAt) := by
  have hst' : ∀ m, (s.nodeD m).changedAt < s.stabNum := fun m => (hst m).2
  have V := e13_valchg_drainHeap hw hst' fuel s s' D (SubsH.VC.refl hst') h
  intro m
  refine ⟨⟨fun e => ?_, V.chg m⟩, V.keep m⟩
  rcases V.now m e with b | ⟨b1, b2⟩
  · exact b
  · rw [hcut m b1] at b2; cases b2

end IncrVerif.Proofs.EffH
