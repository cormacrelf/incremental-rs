import IncrVerif.Proofs.BindH61
import IncrVerif.Proofs.BindH38
/-!
# Binds, the run of a change detector in fragment F1, part 1: the run skeleton, node keys, and phase 0

* `CC.lc_run_inv`: from `(recomputeOne env fuel n).run.run s = (.ok r, s')` on a `bindLhsChange b` node: the four runs
  (closure, relink, invalidate, last step) and the three intermediate states;
* `CC.NKey`: what `Quiet.nodeKey` says, field by field;
* `CC.ginv1_restamp`: the structural invariant when one node (not queued) is re-stamped;
* `CC.Pre`, `CC.lc_pre`: everything known about the state `started n s` in which the closure run starts.
-/
namespace IncrVerif.Proofs.BindH
open IncrVerif.Engine IncrVerif.Proofs IncrVerif.Proofs.Step IncrVerif.Proofs.Sched IncrVerif.Proofs.Quiet
namespace CC

/-! ## the skeleton of the run -/

/-- **the skeleton of the run of a change detector**: four phases, three intermediate states -/
theorem lc_run_inv {env : Env} {fuel n b : Nat} {br : BindRec} {s s' : State} {r : Option Nat}
    (hlt : n < s.nodes.size) (hv : (s.nodeD n).valid = true) (hk : (s.nodeD n).kind = .bindLhsChange b)
    (hb : s.binds[b]? = some br)
    (h : (recomputeOne env fuel n).run.run s = (.ok r, s')) :
    ∃ rhs s1 s2 s3, (Inval.lhsRunClosure env n b br).run.run (started n s) = (.ok rhs, s1) ∧
      (Inval.lhsRelink env fuel n b br s.stabNum rhs).run.run s1 = (.ok (), s2) ∧
      (Inval.lhsInvalidateOld fuel br).run.run s2 = (.ok (), s3) ∧
      (maybeChangeValue env fuel n .unit).run.run s3 = (.ok r, s') := by
  rw [Inval.recomputeOne_bindLhsChange_run env fuel n s _ b br (some_of_lt hlt) hv hk hb] at h
  obtain ⟨rhs, t1, h1, ha⟩ := bind_ok_inv h
  obtain ⟨u2, t2, h2, hb'⟩ := bind_ok_inv ha
  obtain ⟨u3, t3, h3, hc⟩ := bind_ok_inv hb'
  exact ⟨rhs, t1, t2, t3, h1, h2, h3, BC.lhsFinish_inv hc⟩

/-! ## node keys -/

/-- node `b` agrees with node `a` on everything in `Quiet.nodeKey` -/
structure NKey (a b : Node) : Prop where
  kind : b.kind = a.kind
  createdIn : b.createdIn = a.createdIn
  cutoff : b.cutoff = a.cutoff
  value : b.value = a.value
  valid : b.valid = a.valid
  recomputedAt : b.recomputedAt = a.recomputedAt
  changedAt : b.changedAt = a.changedAt
  observers : b.observers = a.observers
  forceNecessary : b.forceNecessary = a.forceNecessary
  num : b.numOnUpdateHandlers = a.numOnUpdateHandlers

theorem NKey.of_key {a b : Node} (h : Quiet.nodeKey b = Quiet.nodeKey a) : NKey a b := by
  simp only [Quiet.nodeKey, Prod.mk.injEq] at h
  exact ⟨h.1, h.2.1, h.2.2.1, h.2.2.2.1, h.2.2.2.2.1, h.2.2.2.2.2.1, h.2.2.2.2.2.2.1, h.2.2.2.2.2.2.2.1,
    h.2.2.2.2.2.2.2.2.1, h.2.2.2.2.2.2.2.2.2⟩

theorem NKey.refl (a : Node) : NKey a a := ⟨rfl, rfl, rfl, rfl, rfl, rfl, rfl, rfl, rfl, rfl⟩

theorem NKey.of_eq {a b : Node} (h : b = a) : NKey a b := by rw [h]; exact NKey.refl a

theorem NKey.trans {a b c : Node} (h1 : NKey a b) (h2 : NKey b c) : NKey a c :=
  ⟨h2.kind.trans h1.kind, h2.createdIn.trans h1.createdIn, h2.cutoff.trans h1.cutoff, h2.value.trans h1.value,
    h2.valid.trans h1.valid, h2.recomputedAt.trans h1.recomputedAt, h2.changedAt.trans h1.changedAt,
    h2.observers.trans h1.observers, h2.forceNecessary.trans h1.forceNecessary, h2.num.trans h1.num⟩

/-! ## phase 0: the running node is stamped -/

theorem started_other {n : Nat} (s : State) {m : Nat} (h : m ≠ n) : (started n s).nodeD m = s.nodeD m := by
  rw [started_nodeD, if_neg (fun e => h e.1.symm)]

theorem started_self {n : Nat} {s : State} (h : n < s.nodes.size) :
    (started n s).nodeD n = { s.nodeD n with recomputedAt := s.stabNum } := by
  rw [started_nodeD, if_pos ⟨rfl, h⟩]

theorem started_size (n : Nat) (s : State) : (started n s).nodes.size = s.nodes.size := by
  simp [started]

/-- every node of `started n s` is the node of `s` up to its stamp -/
theorem started_upto (n : Nat) (s : State) (m : Nat) :
    ∃ y, (started n s).nodeD m = { s.nodeD m with recomputedAt := y } := by
  rw [started_nodeD]
  split
  · exact ⟨_, rfl⟩
  · exact ⟨(s.nodeD m).recomputedAt, rfl⟩

theorem ahhEmpty_started {n : Nat} {s : State} (h : AhhEmpty s) : AhhEmpty (started n s) := by
  refine ⟨h.length, h.buckets, fun m => ?_⟩
  obtain ⟨y, e⟩ := started_upto n s m
  rw [e]; exact h.marks m

/-- the structural invariant when one node (not queued) is re-stamped: only `queued` and `qstale` have to be
re-established -/
theorem ginv1_restamp {env : Env} {s s1 : State} {n : Nat} {ex ex' : Nat → Prop} {dy : List Nat}
    (G : GInv1 env s allClosed ex dy)
    (hpc : s1.panicCountdown = s.panicCountdown) (hsc : s1.currentScope = s.currentScope)
    (hsz : s1.nodes.size = s.nodes.size) (hrch : s1.rch = s.rch) (hvars : s1.vars = s.vars)
    (hbinds : s1.binds = s.binds)
    (hnd : ∀ m, ∃ y, s1.nodeD m = { s.nodeD m with recomputedAt := y })
    (hother : ∀ m, m ≠ n → s1.nodeD m = s.nodeD m)
    (hnq : (s.nodeD n).inRch = false) (hfresh : s1.isStale n = false)
    (hq : ∀ m, m ≠ n → s.isNecessary m = true → s.isStale m = true → ¬ ex' m → (s.nodeD m).inRch = true) :
    GInv1 env s1 allClosed ex' dy := by
  have hkey : ∀ m, (s1.nodeD m).kind = (s.nodeD m).kind ∧ (s1.nodeD m).valid = (s.nodeD m).valid ∧
      (s1.nodeD m).cutoff = (s.nodeD m).cutoff ∧ (s1.nodeD m).createdIn = (s.nodeD m).createdIn := fun m => by
    obtain ⟨y, e⟩ := hnd m
    rw [e]
    exact ⟨rfl, rfl, rfl, rfl⟩
  exact (NestH.NC.ginv2_restamp G.to2 hpc hsc hsz hrch hvars hbinds hnd hother hnq hfresh hq).to1
    (G.frag.congr hsz hbinds (fun m => (hkey m).1) (fun m => (hkey m).2.1) (fun m => (hkey m).2.2.1)
      (fun m => (hkey m).2.2.2) (by rw [hpc]; exact G.frag.pc) (by rw [hsc]; exact G.frag.scope))

/-! ## everything about the state in which the closure run starts -/

/-- what `DInv` and `F1Inv` say about the bind of the running change detector, and the structural invariant in
`started n s` -/
structure Pre (env : Env) (n b : Nat) (br : BindRec) (s : State) : Prop where
  hlt : n < s.nodes.size
  hvn : (s.nodeD n).valid = true
  hb : s.binds[b]? = some br
  hlc : br.lhsChange = n
  hmain : br.main = n + 1
  hml : br.main < s.nodes.size
  hkm : (s.nodeD br.main).kind = .bindMain b n
  topN : (s.nodeD n).createdIn = .top
  topM : (s.nodeD br.main).createdIn = .top
  hmem : n ∈ s.children br.main
  necMain : s.isNecessary br.main = true
  hmr : (s.nodeD br.main).recomputedAt < s.stabNum
  g0 : GInv1 env (started n s) allClosed (· = br.main) []
  ahh0 : AhhEmpty (started n s)

theorem lc_pre {env : Env} {s : State} {n b : Nat} (I : DInv env s (some n)) (A : F1Inv env s)
    (hk : (s.nodeD n).kind = .bindLhsChange b) : ∃ br, Pre env n b br s := by
  obtain ⟨hn, hlt, hv, hnq, -⟩ := I.cur_facts
  have G := ginv1_of_dinv I A
  obtain ⟨br, hb, hlc⟩ := (A.frag.node n hlt).lcRec b hk
  obtain ⟨h1, h2, -, h4, h5, h6⟩ := A.frag.recs b br hb
  rw [hlc] at h1 h4 h5
  have hmem : n ∈ s.children br.main := by rw [G.main_children hb, hlc]; exact List.mem_cons_self ..
  have necMain : s.isNecessary br.main = true := by
    -- `n` is necessary, unobserved and not forced: it has a recorded parent, which is the main node
    rcases (isNecessary_iff s n).1 hn with hp | ho | hf
    · obtain ⟨⟨p, i⟩, hpi⟩ := List.exists_mem_of_ne_nil _ hp
      obtain ⟨hpn, hci⟩ := I.graph.parent n p i hpi
      have hpl := I.graph.nec_lt hpn
      have hkp := (A.frag.node p hpl).lcChild n b (List.mem_of_getElem? hci) hk
      obtain ⟨br', hb', hm', -⟩ := (A.frag.node p hpl).mainRec b n hkp
      rw [hb] at hb'; cases hb'
      rw [hm']; exact hpn
    · exact absurd (A.lcObs n b hk) ho
    · rw [A.noForce n] at hf; cases hf
  have hBn : BKind env ((started n s).nodeD n).kind := by
    rw [started_self hlt]; show BKind env (s.nodeD n).kind; rw [hk]; trivial
  have hfresh : (started n s).isStale n = false := by
    apply isStale_fresh hBn (show 0 ≤ s.stabNum from I.stamps.now)
    · show ((started n s).nodeD n).recomputedAt = s.stabNum
      rw [started_self hlt]
    · exact I.stamps.var
    · intro c
      show ((started n s).nodeD c).changedAt ≤ s.stabNum
      obtain ⟨y, e⟩ := started_upto n s c
      rw [e]; exact (I.stamps.node c).2
  have G1 : GInv1 env (started n s) allClosed (· = br.main) [] :=
    ginv1_restamp G rfl rfl (started_size n s) rfl rfl rfl (started_upto n s) (fun m e => started_other s e)
      hnq hfresh (fun m e hmn' hms _ => by
        rcases I.pending m hmn' hms with h1 | h1
        · exact h1
        · exact absurd (Option.some.inj h1).symm e)
  exact ⟨br, hlt, hv, hb, hlc, h1, h2, h4, h5, h6, hmem, necMain,
    I.fresh br.main n (Below.of_edge (Edge.child hmem)) (Or.inr rfl), G1, ahhEmpty_started A.ahh⟩

end CC
end IncrVerif.Proofs.BindH
