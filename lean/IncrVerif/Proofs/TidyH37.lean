import IncrVerif.Proofs.TidyH31
import IncrVerif.Proofs.CutH38
import IncrVerif.Proofs.CutH39
/-!
# T4, static actions other than `stabilise`: they RETURN and keep `QR.QInv` and `TInvR`
(as CutH38, CutH39 and the non-`stabilise` part of `CutH.step_total`, for `QR.QInv`)
-/
namespace IncrVerif.Proofs.TidyH.XT
open IncrVerif.Engine IncrVerif.Driver IncrVerif.Proofs IncrVerif.Proofs.Step IncrVerif.Proofs.Sched
open IncrVerif.Proofs.ExpertH IncrVerif.Proofs.ExpertH.QR

/-! ## actions whose indices exist (the definitions of Quiet20) -/

def OpndIn (s : State) : Opnd → Prop
  | .outer k => k < s.top.size
  | _ => False

def InstrIn (s : State) : Instr → Prop
  | .map _ args => ∀ a, a ∈ args → OpndIn s a
  | .fold _ _ cs => ∀ a, a ∈ cs → OpndIn s a
  | .zip a b => OpndIn s a ∧ OpndIn s b
  | _ => True

/-- the action names existing things and there is room for a new node (no clause for `stabilise`, `addDep` here) -/
def ActionOKs (N : Nat) (s : State) : Action → Prop
  | .create i => InstrIn s i ∧ s.nodes.size + 1 ≤ N
  | .observe n => OpndIn s n
  | .dropObs o | .disallow o => o < s.observers.size
  | .set v _ | .modify v _ | .update v _ | .replace v _ | .replaceWith v _ | .get v => v < s.vars.size
  | _ => True

/-- how many nodes / var cells / observers an action adds -/
def grow : Action → Nat × Nat × Nat
  | .create (.var _) => (1, 1, 0)
  | .create _ => (1, 0, 0)
  | .observe _ => (0, 0, 1)
  | _ => (0, 0, 0)

/-- the sizes after an action -/
def Grown (a : Action) (s s' : State) : Prop :=
  s'.nodes.size = s.nodes.size + (grow a).1 ∧ s'.vars.size = s.vars.size + (grow a).2.1 ∧
    s'.observers.size = s.observers.size + (grow a).2.2

namespace X4g

/-! ## `TInvR` under changes that keep the nodes -/

/-- `HBd` only reads, per node, necessity, height, and the kinds (through `dp`) and the number of nodes -/
theorem HBd_of_eq {s s' : State} {op : Nat → Op} (hb : HBd s op)
    (hnec : ∀ m, s'.isNecessary m = s.isNecessary m)
    (hh : ∀ m, (s'.nodeD m).height = (s.nodeD m).height)
    (hk : ∀ m, (s'.nodeD m).kind = (s.nodeD m).kind) (hsz : s'.nodes.size = s.nodes.size) : HBd s' op := by
  intro m hm ho
  rw [hnec] at hm
  rw [hh, dp_congr hk hsz]
  exact hb m hm ho

/-- `TInvR` reads the nodes, the var cells, `top`, the two heaps (their number of buckets) and the
observers waiting to be added -/
theorem TInvR_of_frame {N : Nat} {s s' : State} (T : TInvR N s) (hn : s'.nodes = s.nodes)
    (hv : s'.vars = s.vars) (ht : s'.top = s.top) (ha : s'.ahh = s.ahh) (hr : s'.rch = s.rch)
    (h1 : s'.newObservers.Nodup)
    (h2 : ∀ (o : Nat) (ob : ObsRec), o ∈ s'.newObservers → s'.observers[o]? = some ob →
      ob.state = .created ∨ ob.state = .unlinked) : TInvR N s' where
  hb := by
    have hD : ∀ m, s'.nodeD m = s.nodeD m := fun m => by simp only [State.nodeD, hn]
    refine HBd_of_eq T.hb (fun m => ?_) (fun m => by rw [hD]) (fun m => by rw [hD]) (by rw [hn])
    simp only [State.isNecessary, hD]
  room := ⟨by rw [ha]; exact T.room.ahh, by rw [hr]; exact T.room.rch, by rw [hn]; exact T.room.size⟩
  linked c vc h := by rw [hv] at h; exact T.linked c vc h
  topSize := by rw [ht, hn]; exact T.topSize
  newNodup := h1
  newState := h2

theorem obsTot (N : Nat) : CutH.ObsTot (TInvR N) :=
  ⟨fun T => T.newNodup, fun T => T.newState, fun T hn hv ht ha hr _ h1 h2 => TInvR_of_frame T hn hv ht ha hr h1 h2⟩

theorem _root_.IncrVerif.Proofs.CutH.ObsOnly.grownR {a : Action} {k : Nat} {s s' : State} (h : CutH.ObsOnly k s s')
    (hg : grow a = (0, 0, k)) : Grown a s s' := by
  unfold Grown; rw [hg, h.nodes, h.vars]; exact ⟨rfl, rfl, h.obsSize⟩

theorem Grown_same {a : Action} {s s' : State} (hg : grow a = (0, 0, 0)) (h1 : s'.nodes.size = s.nodes.size)
    (h2 : s'.vars.size = s.vars.size) (h3 : s'.observers.size = s.observers.size) : Grown a s s' := by
  unfold Grown; rw [hg]; exact ⟨h1, h2, h3⟩

/-! ## the writes -/

/-- `TInvR` across the abstract description of an immediate write -/
theorem TInvR_of_wrel {N : Nat} {s s' : State} {v : Nat} {vc : VarCell} {x : Val} (T : TInvR N s)
    (R : WRel v vc x s s') (hl : vc.linked = true) (ha : s'.ahh = s.ahh)
    (hq : s'.rch.queues.size = s.rch.queues.size) : TInvR N s' := by
  refine ⟨HBd_of_eq T.hb R.nec R.height R.kind R.size, ⟨?_, ?_, ?_⟩, fun c vc' h => ?_, ?_, ?_, ?_⟩
  · rw [ha]; exact T.room.ahh
  · rw [← T.room.rch]; simp only [Heap.maxAllowed, hq]
  · rw [R.size]; exact T.room.size
  · by_cases hc : c = v
    · rw [hc, R.var] at h; cases h; exact hl
    · rw [R.other c hc] at h; exact T.linked c vc' h
  · rw [R.top, R.size]; exact T.topSize
  · rw [R.newObservers]; exact T.newNodup
  · intro o ob hm h
    rw [R.newObservers] at hm; rw [R.observers] at h
    exact T.newState o ob hm h

/-- a write outside `stabilise` returns -/
theorem writeVar_totalR {env : Env} {rk : Nat → Nat} {N : Nat} {s : State} {v : Nat} {f : Val → Val} {isSet : Bool}
    (Q : QInv env rk s) (T : TInvR N s) (hv : v < s.vars.size) :
    Tot (writeVar v f isSet) s (fun _ s' => TInvR N s' ∧ s'.nodes.size = s.nodes.size ∧
      s'.vars.size = s.vars.size ∧ s'.observers.size = s.observers.size) := by
  have hv0 : s.vars[v]? = some s.vars[v] := Array.getElem?_eq_getElem hv
  generalize s.vars[v] = vc at hv0
  have I : GInv env rk s allClosed := Q.struct
  have hsz : vc.node < s.nodes.size := (Q.vars.cell v vc hv0).1
  have hl : vc.linked = true := T.linked v vc hv0
  obtain ⟨hrun, hh⟩ := CutH.writeVar_ret f isSet hv0 (by rw [Q.status]; intro e; cases e) hl hsz (Q.vars.cell v vc hv0).2
    (I.node hsz).valid (Q.stamps vc.node).1 fun hnec => by
      have h0 := I.hpos _ hnec rfl
      have hle := T.hb _ hnec rfl
      have hdp := dp_room I.static T.room hsz
      have hmax := T.room.rch
      have hN := T.room.size
      omega
  obtain ⟨R, -⟩ := wroteOutside_q (f vc.value) Q hv0 hh
  have hF := wroteOutside_frame v vc (f vc.value) s
  have hS := wroteOutside_sizes v vc (f vc.value) s
  exact Tot.of_ok hrun ⟨TInvR_of_wrel T R hl hF.2.2.2.2.1 hS.2, R.size, hS.1, by rw [R.observers]⟩

/-! ## creation -/

theorem OpndIn.toC {s : State} {o : Opnd} (h : OpndIn s o) : CutH.OpndIn s o := by
  cases o <;> exact h

/-- the elaboration of a static instruction whose operands exist returns: `CutH.elab_ret`, no node having a `dependOn` cutoff -/
theorem elab_retR {env : Env} {rk : Nat → Nat} {s : State} {i : Instr} (Q : QInv env rk s) (hi : StaticInstr env i)
    (hin : InstrIn s i) :
    ∃ ro s1, (elabInstrM env [] .unit i).run.run s = (.ok ro, s1) ∧ s1.ahh = s.ahh ∧
      s1.vars.size = s.vars.size + (grow (.create i)).2.1 := by
  have D : CutH.DepOK s := by
    intro m j hm
    by_cases hlt : m < s.nodes.size
    · rw [(Q.struct.static.node m hlt).cutoff] at hm; cases hm
    · rw [nodeD_default s m (by omega)] at hm; cases hm
  have hin' : CutH.InstrIn s i := by
    cases i with
    | const _ | var _ => trivial
    | map f args => exact fun a ha => OpndIn.toC (hin a ha)
    | fold f init cs => exact fun a ha => OpndIn.toC (hin a ha)
    | zip a b => exact ⟨OpndIn.toC hin.1, OpndIn.toC hin.2⟩
    | _ => exact hi.elim
  obtain ⟨ro, s1, h, ha, hv, -, -⟩ := CutH.elab_ret Q.struct.static.scope Q.top hi.toC hin' D
  refine ⟨ro, s1, h, ha, ?_⟩
  cases i <;> first | exact hi.elim | exact hv

/-- creating a node does not decrease the depth of any node -/
theorem dp_created {k : Kind} {s s1 : State} {tp : Array Nat} (C : Created k s s1 tp) (m : Nat) :
    dp s m ≤ dp s1 m := by
  refine dp_mono (fun x c hc => ?_) (by rw [C.size]; omega) m
  by_cases hx : x = s.nodes.size
  · rw [hx, kids_nil_of_ge s (Nat.le_refl _)] at hc; cases hc
  · rw [C.nodeD_old hx]; exact hc

/-- `HBd` through the creation of a node (the new node is unnecessary) -/
theorem HBd_created {k : Kind} {s s1 : State} {tp : Array Nat} {op : Nat → Op} (C : Created k s s1 tp)
    (hb : HBd s op) : HBd s1 op := by
  intro m hn ho
  have e := C.ne_of_nec hn
  rw [C.nec_old e] at hn
  rw [C.nodeD_old e]
  have h1 := hb m hn ho
  have h2 := dp_created C m
  omega

end X4g

/-- **`TInvR` through the abstract creation of a node** (`QR.Created`, what `Created.qinv` uses): the new node is
unnecessary, no depth decreases, a new var cell is linked.  `Created` says nothing about the adjust-heights heap
nor about the size of the naming table, hence the last two hypotheses. -/
theorem TInvR.created {N : Nat} {k : Kind} {s s' : State} {tp : Array Nat} (C : Created k s s' tp)
    (T : TInvR N s) (hroom : s.nodes.size + 1 ≤ N) (hahh : s'.ahh = s.ahh)
    (htop : tp.size = s.top.size + 1) : TInvR N s' := by
  refine ⟨X4g.HBd_created C T.hb, ⟨?_, ?_, ?_⟩, ?_, ?_, ?_, ?_⟩
  · rw [hahh]; exact T.room.ahh
  · rw [C.rch]; exact T.room.rch
  · rw [C.size]; exact hroom
  · intro c vc h
    rcases C.vars with ⟨-, e⟩ | ⟨v, -, ev⟩
    · rw [e] at h; exact T.linked c vc h
    · rw [ev, Array.getElem?_push] at h
      split at h
      · injection h with h
        rw [← h]
      · exact T.linked c vc h
  · rw [C.top, htop, C.size, T.topSize]
  · rw [C.newObservers]; exact T.newNodup
  · intro o ob h1 h2
    rw [C.newObservers] at h1
    rw [C.observers] at h2
    exact T.newState o ob h1 h2

namespace X4g

theorem create_totalR {env : Env} {rk : Nat → Nat} {N : Nat} {s : State} {i : Instr} {tk : Array Nat}
    (Q : QInv env rk s) (T : TInvR N s) (hi : StaticInstr env i) (hok : ActionOKs N s (.create i)) :
    Tot (stepAction env (.create i) tk) s (fun r s' => r.2 = tk ∧ TInvR N s' ∧ Grown (.create i) s s') := by
  obtain ⟨hin, hroom⟩ := hok
  obtain ⟨ro, s1, hrun, hahh, hvs⟩ := elab_retR Q hi hin
  obtain ⟨k, ero, hk, hkids, C⟩ := elab_static Q hi hrun
  unfold stepAction
  simp only
  refine Tot.bind_ok hrun ?_
  rw [ero]
  simp only
  refine Tot.bind_modify (Tot.pure ⟨rfl, ?_, ?_⟩)
  · refine TInvR.created (k := k) (tp := s.top.push s.nodes.size) ?_ T hroom hahh (Array.size_push ..)
    exact ⟨C.nodes, C.vars, C.rch, C.pc, C.scope, C.stabNum, C.status, C.alive, C.setDuringStab, C.deadVars,
      C.handleAfterStab, C.pinv, C.observers, C.newObservers, C.disallowedObservers,
      by show s1.top.push _ = _; rw [C.top]⟩
  · refine ⟨?_, ?_, ?_⟩
    · show s1.nodes.size = _
      rw [C.size]
      cases i <;> first | rfl | exact hi.elim
    · exact hvs
    · show s1.observers.size = _
      rw [C.observers]
      cases i <;> first | rfl | exact hi.elim

/-! ## all of them -/

/-- the actions of the fragment other than `create` and `stabilise` -/
def SimpleAction : Action → Prop
  | .observe n => OpndOK n
  | .cloneObs _ | .dropObs _ | .disallow _ => True
  | .set _ _ | .modify _ _ | .update _ _ | .replace _ _ | .replaceWith _ _ | .get _ => True
  | .isStable | .stats => True
  | _ => False

theorem simple_totalR {env : Env} {rk : Nat → Nat} {N : Nat} {s : State} {a : Action} {tk : Array Nat}
    (Q : QInv env rk s) (T : TInvR N s) (ha : SimpleAction a) (hok : ActionOKs N s a) :
    Tot (stepAction env a tk) s (fun r s' => r.2 = tk ∧ TInvR N s' ∧ Grown a s s') := by
  cases a <;> try exact ha.elim
  case observe n =>
    cases n <;> try exact ha.elim
    exact ((obsTot N).observe Q.obs.newIn T hok).mono fun _ _ h => ⟨h.1, h.2.1, h.2.2.grownR rfl⟩
  case cloneObs o => exact ((obsTot N).cloneObs T).mono fun _ _ h => ⟨h.1, h.2.1, h.2.2.grownR rfl⟩
  case dropObs o => exact ((obsTot N).dropObs T hok).mono fun _ _ h => ⟨h.1, h.2.1, h.2.2.grownR rfl⟩
  case disallow o => exact ((obsTot N).disallow T hok).mono fun _ _ h => ⟨h.1, h.2.1, h.2.2.grownR rfl⟩
  case get v => exact ⟨_, s, Hist.stepAction_get_ok.2 ⟨_, getVar_total hok, rfl⟩, rfl, T, Grown_same rfl rfl rfl rfl⟩
  case isStable => exact ⟨_, s, Hist.stepAction_isStable_run .., rfl, T, Grown_same rfl rfl rfl rfl⟩
  case stats => exact ⟨_, s, Hist.stepAction_stats_run .., rfl, T, Grown_same rfl rfl rfl rfl⟩
  all_goals
    obtain ⟨old, s1, h1, T1, e1, e2, e3⟩ := writeVar_totalR Q T hok
    exact ⟨_, s1, (Hist.stepAction_write_ok (by constructor)).2 ⟨old, h1, rfl⟩, rfl, T1, Grown_same rfl e1 e2 e3⟩

end X4g
open X4g

/-- **G3, total, without `stabilise`.** Every static API action other than `stabilise` whose indices exist
returns; the invariants are kept (same rank). -/
theorem static_step_totalR {env : Env} {rk : Nat → Nat} {N : Nat} {s : State} {a : Action} {tk : Array Nat}
    (Q : QInv env rk s) (T : TInvR N s) (ha : StaticAction env a) (hns : a ≠ .stabilise) (hok : ActionOKs N s a) :
    ∃ r s', (stepAction env a tk).run.run s = (.ok r, s') ∧ r.2 = tk ∧ QInv env rk s' ∧ TInvR N s' ∧ Grown a s s' := by
  have simple : SimpleAction a → ∃ r s', (stepAction env a tk).run.run s = (.ok r, s') ∧ r.2 = tk ∧
      QInv env rk s' ∧ TInvR N s' ∧ Grown a s s' := by
    intro hs
    obtain ⟨r, s', h, h1, h2, h3⟩ := simple_totalR (env := env) (tk := tk) Q T hs hok
    exact ⟨r, s', h, h1, step_q Q ha h, h2, h3⟩
  cases a <;> try exact ha.elim
  case create i =>
    obtain ⟨r, s', h, h1, h2, h3⟩ := create_totalR (tk := tk) Q T ha hok
    exact ⟨r, s', h, h1, step_q Q ha h, h2, h3⟩
  case observe n => exact simple ha
  case cloneObs o => exact simple trivial
  case dropObs o => exact simple trivial
  case disallow o => exact simple trivial
  case set v x => exact simple trivial
  case modify v d => exact simple trivial
  case update v d => exact simple trivial
  case replace v x => exact simple trivial
  case replaceWith v d => exact simple trivial
  case get v => exact simple trivial
  case isStable => exact simple trivial
  case stats => exact simple trivial
  case stabilise => exact absurd rfl hns

end IncrVerif.Proofs.TidyH.XT
