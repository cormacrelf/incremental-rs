import IncrVerif.Proofs.ExpertH1
import IncrVerif.Proofs.NodeSim
/-!
# Expert fragment: the simulation of the engine functions

`Sim x x'`: every successful run of `x` from `s` is matched by a successful run of `x'` from `virt s`, with the
same result and ending in `virt` of the final state.  `virt` is `rel.app` for the relabelling `rel` of `NodeSim`, `(rel, Fr)` is
`NodeSim.Blind`, and what the engine does for expert nodes (observability changes, edge callbacks) cannot be seen in the virtual state
(`expWork`), so `Sim` of an engine function is the forward half of its `NodeSim.Comm`.
-/
namespace IncrVerif.Proofs.ExpertH
open IncrVerif.Engine IncrVerif.Driver IncrVerif.Proofs IncrVerif.Proofs.Step IncrVerif.Proofs.Sched

/-- the kinds of the fragment: static + expert (no map_ref, map_with_old, bind nodes) -/
def XK : Kind → Prop
  | .const _ => True
  | .var _ => True
  | .map _ _ => True
  | .fold _ _ _ => True
  | .expert _ => True
  | _ => False

theorem XK_virtKind (xs : Array ExpertRec) (k : Kind) : XK (virtKind xs k) ↔ XK k := by
  cases k <;> simp [virtKind, XK]

/-- what the simulation needs to know of the actual state all along -/
structure Fr (s : State) : Prop where
  pc : s.panicCountdown = none
  valid : ∀ n, (s.nodeD n).valid = true
  pinv : s.propagateInvalidity = []
  kind : ∀ n, XK (s.nodeD n).kind
  /-- no expert record counts invalid children -/
  ni : ∀ (e : Nat) (er : ExpertRec), s.experts[e]? = some er → er.numInvalidChildren = 0

theorem Fr.of_nodes {s s' : State} (h : Fr s) (e : s'.nodes = s.nodes)
    (e2 : s'.propagateInvalidity = s.propagateInvalidity) (e3 : s'.panicCountdown = s.panicCountdown)
    (e4 : s'.experts = s.experts) : Fr s' := by
  have hn : ∀ n, s'.nodeD n = s.nodeD n := fun n => by simp [State.nodeD, e]
  exact ⟨by rw [e3]; exact h.pc, fun n => by rw [hn]; exact h.valid n, by rw [e2]; exact h.pinv,
    fun n => by rw [hn]; exact h.kind n, by rw [e4]; exact h.ni⟩

theorem Fr.some {s : State} (h : Fr s) {n : Nat} {nd : Node} (hn : s.nodes[n]? = some nd) :
    XK nd.kind ∧ nd.valid = true := by
  have h1 := h.kind n; have h2 := h.valid n
  rw [nodeD_of_some hn] at h1 h2; exact ⟨h1, h2⟩

theorem Fr.not_mapRef {s : State} (h : Fr s) (m p i : Nat) : (s.nodeD m).kind ≠ .mapRef p i := by
  intro hk; have := h.kind m; rw [hk] at this; exact this

def SimAt (s : State) {α} (x x' : M α) : Prop :=
  Fr s → ∀ r s', x.run.run s = (.ok r, s') → x'.run.run (virt s) = (.ok r, virt s') ∧ Fr s'

def Sim {α} (x x' : M α) : Prop := ∀ s, SimAt s x x'

section
variable {s : State} {α β : Type}

/-- the virtual side does nothing for the first half -/
theorem SimAt.seq_left {x : M α} {f : α → M β} {y' : M β} (hx : SimAt s (x >>= fun _ => pure ()) (pure ()))
    (hf : ∀ a s1, x.run.run s = (.ok a, s1) → SimAt s1 (f a) y') :
    SimAt s (x >>= f) y' := by
  intro hn r s' h
  obtain ⟨a, s1, h1, h2⟩ := bind_ok_inv h
  have h3 : (x >>= fun _ => (pure () : M Unit)).run.run s = (.ok (), s1) := by
    rw [run_bind_ok h1, run_pure]
  obtain ⟨e1, n1⟩ := hx hn () s1 h3
  rw [run_pure] at e1
  have e2 : virt s = virt s1 := congrArg Prod.snd e1
  rw [e2]
  exact hf a s1 h1 n1 r s' h2

/-- a read of the state on the actual side only -/
theorem SimAt.getL_seq {k : State → M β} {x' : M β} (h : SimAt s (k s) x') :
    SimAt s (get >>= k) x' := by
  intro hn r s' hr
  rw [run_bind_get] at hr
  exact h hn r s' hr

/-- a read of a node on the actual side only -/
theorem SimAt.getNodeL_seq {n : Nat} {k : Node → M β} {x' : M β}
    (h : ∀ nd, s.nodes[n]? = some nd → XK nd.kind → nd.valid = true → SimAt s (k nd) x') :
    SimAt s (getNode n >>= k) x' := by
  intro hn r s' hr
  obtain ⟨nd, hnd, hr⟩ := bind_getNode_inv hr
  exact h nd hnd (hn.some hnd).1 (hn.some hnd).2 hn r s' hr

theorem bind_getExpert_inv {e : Nat} {f : ExpertRec → M β} {s s' : State} {r : β}
    (h : (getExpert e >>= f).run.run s = (.ok r, s')) :
    ∃ er, s.experts[e]? = some er ∧ (f er).run.run s = (.ok r, s') := by
  unfold Engine.getExpert at h
  rw [bind_assoc, run_bind_get] at h
  cases he : s.experts[e]? with
  | none => rw [he] at h; cases h
  | some er => rw [he] at h; exact ⟨er, rfl, h⟩

/-- the expert records exist on the actual side only -/
theorem SimAt.getExpertL_seq {e : Nat} {k : ExpertRec → M β} {x' : M β}
    (h : ∀ er, s.experts[e]? = some er → SimAt s (k er) x') :
    SimAt s (getExpert e >>= k) x' := by
  intro hn r s' hr
  obtain ⟨er, he, hr⟩ := bind_getExpert_inv hr
  exact h er he hn r s' hr

theorem SimAt.ite_left {c : Prop} {_ : Decidable c} {a b x' : M α}
    (ha : c → SimAt s a x') (hb : ¬ c → SimAt s b x') : SimAt s (if c then a else b) x' := by
  by_cases h : c
  · rw [if_pos h]; exact ha h
  · rw [if_neg h]; exact hb h

end

theorem fr_modify {s : State} (hn : Fr s) (n : Nat) (f : Node → Node)
    (hk : ∀ nd, (f nd).kind = nd.kind ∧ (f nd).valid = nd.valid) :
    Fr { s with nodes := s.nodes.modify n f } := by
  refine ⟨hn.pc, fun m => ?_, hn.pinv, fun m => ?_, hn.ni⟩
  · rw [nodeD_modify]
    split
    · rw [(hk _).2]; exact hn.valid m
    · exact hn.valid m
  · rw [nodeD_modify]
    split
    · rw [(hk _).1]; exact hn.kind m
    · exact hn.kind m

theorem map_modify (xs : Array ExpertRec) (a : Array Node) (n : Nat) (f f' : Node → Node)
    (hf : ∀ nd, virtNode xs (f nd) = f' (virtNode xs nd)) :
    (a.modify n f).map (virtNode xs) = (a.map (virtNode xs)).modify n f' := by
  apply Array.ext
  · simp
  · intro i h1 h2
    simp only [Array.getElem_map, Array.getElem_modify]
    split
    · exact hf _
    · rfl

theorem virt_modNode (s : State) (n : Nat) (f f' : Node → Node)
    (hf : ∀ nd, virtNode s.experts (f nd) = f' (virtNode s.experts nd)) :
    virt { s with nodes := s.nodes.modify n f } = { virt s with nodes := (virt s).nodes.modify n f' } := by
  simp only [virt]
  rw [map_modify s.experts s.nodes n f f' hf]

/-! ## field projections of `virt` -/
section
variable (s : State)
theorem virt_cfg : (virt s).cfg = s.cfg := rfl
theorem virt_binds : (virt s).binds = s.binds := rfl
theorem virt_observers : (virt s).observers = s.observers := rfl
theorem virt_ahh : (virt s).ahh = s.ahh := rfl
theorem virt_maxHeightSeen : (virt s).maxHeightSeen = s.maxHeightSeen := rfl
theorem virt_status : (virt s).status = s.status := rfl
theorem virt_currentScope : (virt s).currentScope = s.currentScope := rfl
theorem virt_propagateInvalidity : (virt s).propagateInvalidity = s.propagateInvalidity := rfl
theorem virt_handleAfterStab : (virt s).handleAfterStab = s.handleAfterStab := rfl
theorem virt_newObservers : (virt s).newObservers = s.newObservers := rfl
theorem virt_disallowedObservers : (virt s).disallowedObservers = s.disallowedObservers := rfl
theorem virt_allObservers : (virt s).allObservers = s.allObservers := rfl
theorem virt_setDuringStab : (virt s).setDuringStab = s.setDuringStab := rfl
theorem virt_deadVars : (virt s).deadVars = s.deadVars := rfl
theorem virt_counters : (virt s).counters = s.counters := rfl
theorem virt_nextToken : (virt s).nextToken = s.nextToken := rfl
theorem virt_nextDep : (virt s).nextDep = s.nextDep := rfl
theorem virt_panicCountdown : (virt s).panicCountdown = s.panicCountdown := rfl
theorem virt_currentlyRunning : (virt s).currentlyRunning = s.currentlyRunning := rfl
theorem virt_alive : (virt s).alive = s.alive := rfl
theorem virt_top : (virt s).top = s.top := rfl
theorem virt_handles : (virt s).handles = s.handles := rfl
theorem virt_slots : (virt s).slots = s.slots := rfl
theorem virt_memos : (virt s).memos = s.memos := rfl
theorem virt_perkeys : (virt s).perkeys = s.perkeys := rfl
end


/-! ## work that is invisible in the virtual state -/

/-- `s'` has the same virtual state as `s` (and the same kinds, validity; `Fr.ni` is kept) -/
structure VEq (s s' : State) : Prop where
  veq : virt s' = virt s
  kind : ∀ m, (s'.nodeD m).kind = (s.nodeD m).kind
  valid : ∀ m, (s'.nodeD m).valid = (s.nodeD m).valid
  ni : (∀ (e : Nat) (er : ExpertRec), s.experts[e]? = some er → er.numInvalidChildren = 0) →
    ∀ (e : Nat) (er : ExpertRec), s'.experts[e]? = some er → er.numInvalidChildren = 0

theorem VEq.refl (s : State) : VEq s s := ⟨rfl, fun _ => rfl, fun _ => rfl, fun h => h⟩
theorem VEq.trans {a b c : State} (h1 : VEq a b) (h2 : VEq b c) : VEq a c :=
  ⟨h2.veq.trans h1.veq, fun m => (h2.kind m).trans (h1.kind m), fun m => (h2.valid m).trans (h1.valid m),
    fun h => h2.ni (h1.ni h)⟩

theorem VEq.pc {s s' : State} (h : VEq s s') : s'.panicCountdown = s.panicCountdown :=
  show (virt s').panicCountdown = (virt s).panicCountdown from congrArg State.panicCountdown h.veq

theorem VEq.fr {s s' : State} (h : VEq s s') (hn : Fr s) : Fr s' := by
  refine ⟨h.pc.trans hn.pc, fun n => ?_, ?_, fun n => ?_, h.ni hn.ni⟩
  · rw [h.valid]; exact hn.valid n
  · have h1 : (virt s').propagateInvalidity = (virt s).propagateInvalidity := by rw [h.veq]
    exact h1.trans hn.pinv
  · rw [h.kind]; exact hn.kind n

/-- the relation of the invisible programs: they may only be run while no fault is armed -/
def VEqP (s s' : State) : Prop := s.panicCountdown = none → VEq s s'

instance : Step.PreOrd VEqP :=
  ⟨fun s _ => VEq.refl s, fun {a b c} h1 h2 hp => (h1 hp).trans (h2 ((h1 hp).pc.trans hp))⟩

theorem VEq.of_eq {s s' : State} (h : s' = s) : VEq s s' := by subst h; exact VEq.refl _

/-- the fields of an expert record the virtual state reads are unchanged, and the invalid-children counter
is not raised -/
def InvisX (f : ExpertRec → ExpertRec) : Prop :=
  ∀ x, (f x).f = x.f ∧ (f x).children = x.children ∧ (f x).forceStale = x.forceStale ∧
    (x.numInvalidChildren = 0 → (f x).numInvalidChildren = 0)

theorem xRec_modify (xs : Array ExpertRec) (e : Nat) (f : ExpertRec → ExpertRec) (hf : InvisX f) (e' : Nat) :
    (xRec (xs.modify e f) e').f = (xRec xs e').f ∧ (xRec (xs.modify e f) e').children = (xRec xs e').children ∧
      (xRec (xs.modify e f) e').forceStale = (xRec xs e').forceStale := by
  unfold xRec
  rw [Array.getElem?_modify]
  split
  · cases h : xs[e']? with
    | none => simp
    | some er => simp only [Option.map_some, Option.getD_some]; exact ⟨(hf er).1, (hf er).2.1, (hf er).2.2.1⟩
  · exact ⟨rfl, rfl, rfl⟩

theorem virtNode_modify (xs : Array ExpertRec) (e : Nat) (f : ExpertRec → ExpertRec) (hf : InvisX f) (nd : Node) :
    virtNode (xs.modify e f) nd = virtNode xs nd := by
  rcases nd with ⟨k⟩
  cases k <;> try rfl
  rename_i e'
  obtain ⟨h1, h2, h3⟩ := xRec_modify xs e f hf e'
  simp only [virtNode, virtKind, forced, h1, h2, h3]
  try rfl

theorem VEq.modExpert (s : State) (e : Nat) (f : ExpertRec → ExpertRec) (hf : InvisX f) :
    VEq s { s with experts := s.experts.modify e f } := by
  refine ⟨?_, fun _ => rfl, fun _ => rfl, fun h e' er he => ?_⟩
  · simp only [virt]
    congr 1
    apply Array.ext
    · simp
    · intro i h1 h2
      simp only [Array.getElem_map]
      exact virtNode_modify _ _ _ hf _
  · simp only [Array.getElem?_modify] at he
    split at he
    · cases h0 : s.experts[e']? with
      | none => rw [h0] at he; cases he
      | some er0 =>
        rw [h0] at he; simp only [Option.map_some, Option.some.injEq] at he
        subst he
        exact (hf er0).2.2.2 (h e' er0 h0)
    · exact h e' er he

theorem PresV.modExpert (e : Nat) (f : ExpertRec → ExpertRec) (hf : InvisX f) :
    Step.Pres VEqP (Engine.modExpert e f) := by
  unfold Engine.modExpert; exact Step.Pres.modify fun s _ => VEq.modExpert s e f hf

theorem PresV.tick : Step.Pres VEqP Engine.tick := by
  constructor
  intro s r s' h hp
  rw [run_tick_none s hp] at h
  cases h; exact VEq.refl _

theorem VEq.logEv (s : State) (e : Event) (h : keepEv e = false) : VEq s { s with log := e :: s.log } := by
  refine ⟨?_, fun _ => rfl, fun _ => rfl, fun h => h⟩
  simp only [virt, List.filter_cons, h]; rfl

theorem PresV.logEv (e : Event) (h : keepEv e = false) : Step.Pres VEqP (Engine.logEv e) := by
  unfold Engine.logEv; exact Step.Pres.modify fun s _ => VEq.logEv s e h

/-- leaves of `xpres` -/
syntax "xqleaf" : tactic
macro_rules | `(tactic| xqleaf) => `(tactic| fail "no leaf")
macro_rules | `(tactic| xqleaf) => `(tactic| with_reducible exact PresV.tick)
macro_rules | `(tactic| xqleaf) => `(tactic| ((with_reducible apply PresV.logEv); first | rfl | exact isF_cb))
macro_rules | `(tactic| xqleaf) => `(tactic|
  ((with_reducible apply PresV.modExpert); intro x; exact ⟨rfl, rfl, rfl, fun h => by first | exact h | rfl⟩))

macro "xqstep" : tactic => `(tactic| first
  | with_reducible apply Step.Pres.pure | with_reducible apply Step.Pres.get | with_reducible apply Step.Pres.panic
  | with_reducible apply Step.Pres.throw
  | with_reducible apply Step.Pres.bind | with_reducible apply Step.Pres.map | with_reducible apply Step.Pres.mapM
  | with_reducible apply Step.Pres.getNode | with_reducible apply Step.Pres.dassert
  | with_reducible apply Step.Pres.getBind | with_reducible apply Step.Pres.getExpert
  | with_reducible apply Step.Pres.getVar | with_reducible apply Step.Pres.assertM
  | intro _ | split
  | xqleaf
  | dsimp only)

/-- decompose a `Pres VEqP` goal along the structure of the program -/
macro "xpres" : tactic => `(tactic| repeat' xqstep)

theorem PresV.observabilityChange (e : Nat) (b : Bool) : Step.Pres VEqP (Engine.observabilityChange e b) := by
  unfold Engine.observabilityChange; xpres

theorem PresV.edgeOnChange (env : Env) (e : Nat) (edge : ExpertEdge) :
    Step.Pres VEqP (Engine.edgeOnChange env e edge) := by
  unfold Engine.edgeOnChange; xpres

theorem PresV.runEdgeCallback (env : Env) (e i : Nat) : Step.Pres VEqP (Engine.runEdgeCallback env e i) := by
  unfold Engine.runEdgeCallback; xpres; exact PresV.edgeOnChange _ _ _


theorem XK.absurd_kind? {nd : Node} {k : Kind} {P : Prop} (hxk : XK nd.kind) (h : nd.kind? = some k) (hk : ¬ XK k) :
    P := by
  rw [kind_of_kind? h] at hxk; exact absurd hxk hk

/-! ## the instance of `NodeSim` -/

/-- `virtNode`: the kind, and the stamp of a forced expert node -/
def rel : NodeSim.Relabel where
  kind := fun c => virtKind c.1
  value := fun _ _ v => v
  didChange := fun _ b => b
  cutoff := fun _ c => c
  recomputedAt := fun c k r => if forced c.1 k then -1 else r
  experts := fun _ => #[]
  log := fun l => l.filter keepEv

theorem virt_eq (s : State) : virt s = rel.app s := by
  unfold virt NodeSim.Relabel.app
  congr 1
  apply Array.ext
  · simp
  · intro i h1 h2
    simp only [Array.getElem_map, Array.getElem_mapIdx]
    rfl

theorem kids_xRec (xs : Array ExpertRec) (e : Nat) : (xRec xs e).children.map (·.child) = NodeSim.xkids xs e := by
  unfold xRec NodeSim.xkids
  cases xs[e]? <;> rfl

theorem blind : NodeSim.Blind rel Fr where
  default _ _ := rfl
  kind xs k := by
    cases k
    case expert e => exact Or.inr (Or.inr (Or.inl ⟨e, _, _, rfl, by rw [← kids_xRec]; rfl⟩))
    all_goals exact Or.inl rfl
  children s m := by rw [← virt_eq]; exact virt_children s m
  isStale s m := by rw [← virt_eq]; exact virt_isStale s m
  tick _ := NodeSim.Comm.tick_none fun _ h => h.pc
  of_nodes h e1 e2 e3 e4 _ := h.of_nodes e1 e2 e3 e4
  modify n f h hk := fr_modify h n f fun nd => ⟨(hk nd).1, (hk nd).2.1⟩
  rmParent c _ h := fr_modify h c _ fun _ => ⟨rfl, rfl⟩
  invalid h hn hv := absurd (h.some hn).2 (by rw [hv]; decide)

theorem addsParents : NodeSim.AddsParents Fr := fun c _ h => fr_modify h c _ fun _ => ⟨rfl, rfl⟩

theorem changesNecessity : NodeSim.ChangesNecessity Fr := fun n f h hk => fr_modify h n f fun nd => ⟨(hk nd).1, (hk nd).2.1⟩

theorem setsValues : NodeSim.SetsValues Fr := fun n _ h => fr_modify h n _ fun _ => ⟨rfl, rfl⟩

theorem noRef : NodeSim.NoRef Fr := fun h hn p i hk => by
  have := (h.some hn).1
  rw [hk] at this
  exact this

theorem refWork {E : Panic → Prop} : NodeSim.RefWork E rel Fr := .of_noRef blind noRef

/-- work that keeps the virtual state (`VEqP`) cannot be seen -/
theorem skip_of_presV {s : State} {x : M Unit} (h : Step.Pres VEqP x) :
    NodeSim.CommAt (fun _ => False) rel.app Fr s x (pure ()) := by
  refine .of_unseen fun hI r s1 hr hE => ?_
  cases r with
  | error p => exact (hE p rfl).elim
  | ok u =>
    have hv := h.h s _ s1 hr hI.pc
    exact ⟨rfl, by rw [← virt_eq, ← virt_eq]; exact hv.veq, hv.fr hI⟩

theorem obsWork : NodeSim.ObsWork (fun _ => False) (fun _ : Unit => rel) fun _ => Fr :=
  .hidden (fun _ xs e => virtKind_not_expert xs.1 (.expert e) e) fun e b _ _ _ _ _ _ => skip_of_presV (PresV.observabilityChange e b)

theorem expWork {env env' : Env} : NodeSim.ExpWork (fun _ => False) (fun _ : Unit => rel) (fun _ => Fr) env env' :=
  .hidden (fun _ xs e => virtKind_not_expert xs.1 (.expert e) e) obsWork fun e j _ _ _ _ _ _ => skip_of_presV (PresV.runEdgeCallback env e j)

section
variable {s : State} {α : Type}

/-- `SimAt` is the simulation that need not reproduce any panic -/
theorem simAt_iff {x x' : M α} : SimAt s x x' ↔ NodeSim.CommAt (fun _ => False) rel.app Fr s x x' := by
  rw [NodeSim.CommAt.fwd_iff]
  unfold SimAt
  simp only [virt_eq]

theorem Sim.of_comm {x x' : M α} (h : NodeSim.Comm (fun _ => False) rel.app Fr x x') : Sim x x' :=
  fun s => simAt_iff.2 (h s)

end

theorem Sim.dassert (c : Bool) (site : String) : Sim (Engine.dassert c site) (Engine.dassert c site) :=
  .of_comm (NodeSim.Comm.dassert c site)

theorem Sim.assertM (c : Bool) (site : String) : Sim (Engine.assertM c site) (Engine.assertM c site) :=
  .of_comm (NodeSim.Comm.assertM c site)

theorem Sim.edgeOnChange (env : Env) (e : Nat) (edge : ExpertEdge) : Sim (Engine.edgeOnChange env e edge) (pure ()) :=
  .of_comm fun _ => skip_of_presV (PresV.edgeOnChange env e edge)

theorem Sim.addParent (c i p : Nat) : Sim (Engine.addParent c i p) (Engine.addParent c i p) :=
  .of_comm (NodeSim.Comm.addParent blind addsParents c i p)

theorem Sim.removeParent (c i p : Nat) : Sim (Engine.removeParent c i p) (Engine.removeParent c i p) :=
  .of_comm (NodeSim.Comm.removeParent blind c i p)

theorem Sim.setHeight (n : Nat) (h : Int) : Sim (Engine.setHeight n h) (Engine.setHeight n h) :=
  .of_comm (NodeSim.Comm.setHeight blind n h)

theorem Sim.rchInsert (n : Nat) : Sim (Engine.rchInsert n) (Engine.rchInsert n) :=
  .of_comm (NodeSim.Comm.rchInsert blind n)

theorem Sim.rchRemoveMin : Sim Engine.rchRemoveMin Engine.rchRemoveMin :=
  .of_comm (NodeSim.Comm.rchRemoveMin blind)

theorem Sim.ensureHeightRequirement (oc op c p : Nat) :
    Sim (Engine.ensureHeightRequirement oc op c p) (Engine.ensureHeightRequirement oc op c p) :=
  .of_comm (NodeSim.Comm.ensureHeightRequirement blind oc op c p)

theorem Sim.handleAfterStabilisation (n : Nat) :
    Sim (Engine.handleAfterStabilisation n) (Engine.handleAfterStabilisation n) :=
  .of_comm (NodeSim.Comm.handleAfterStabilisation blind n)

/-- no map_ref nodes: a no-op on both sides -/
theorem Sim.markMapRefUnknown (fuel n : Nat) :
    Sim (Engine.markMapRefUnknown fuel n) (Engine.markMapRefUnknown fuel n) :=
  .of_comm (NodeSim.Comm.markMapRefUnknown blind noRef fuel n)

theorem Sim.adjustHeights (oc op fuel : Nat) :
    Sim (Engine.adjustHeights oc op fuel) (Engine.adjustHeights oc op fuel) :=
  .of_comm (NodeSim.Comm.adjustHeights blind oc op fuel)

theorem Sim.becameNecessary (env : Env) (fuel n : Nat) :
    Sim (Engine.becameNecessary env fuel n) (Engine.becameNecessary (virtEnv env) fuel n) :=
  .of_comm (NodeSim.Comm.becameNecessary blind addsParents refWork expWork fuel n)

theorem Sim.addParentWithoutAdjustingHeights (env : Env) (fuel c i p : Nat) :
    Sim (Engine.addParentWithoutAdjustingHeights env fuel c i p)
      (Engine.addParentWithoutAdjustingHeights (virtEnv env) fuel c i p) :=
  .of_comm (NodeSim.Comm.addParentWithoutAdjustingHeights blind addsParents refWork expWork fuel c i p)

theorem Sim.unlink (fuel : Nat) :
    (∀ n, Sim (becameUnnecessary fuel n) (becameUnnecessary fuel n)) ∧
    (∀ n, Sim (checkIfUnnecessary fuel n) (checkIfUnnecessary fuel n)) ∧
    (∀ n, Sim (removeChildren fuel n) (removeChildren fuel n)) :=
  ⟨fun n => .of_comm (NodeSim.Comm.becameUnnecessary blind obsWork fuel n),
    fun n => .of_comm (NodeSim.Comm.checkIfUnnecessary blind obsWork fuel n),
    fun n => .of_comm (NodeSim.Comm.removeChildren blind obsWork fuel n)⟩

theorem Sim.becameUnnecessary (fuel n : Nat) :
    Sim (Engine.becameUnnecessary fuel n) (Engine.becameUnnecessary fuel n) :=
  (Sim.unlink fuel).1 n

theorem Sim.checkIfUnnecessary (fuel n : Nat) :
    Sim (Engine.checkIfUnnecessary fuel n) (Engine.checkIfUnnecessary fuel n) :=
  (Sim.unlink fuel).2.1 n

theorem Sim.removeChildren (fuel n : Nat) :
    Sim (Engine.removeChildren fuel n) (Engine.removeChildren fuel n) :=
  (Sim.unlink fuel).2.2 n

/-- `Fr.pinv`: the stack is empty, a no-op on both sides -/
theorem Sim.propagateInvalidity (fuel : Nat) :
    Sim (Engine.propagateInvalidity fuel) (Engine.propagateInvalidity fuel) :=
  .of_comm (NodeSim.Comm.propagateInvalidity (fun _ h => h.pinv) fuel)

theorem keepEv_cut (c n : Nat) (o v : Val) (r : Bool) : keepEv (.cut c n o v r) = true := rfl

theorem Sim.shouldCutoff (env : Env) (n : Nat) (o v : Val) :
    Sim (Engine.shouldCutoff env n o v) (Engine.shouldCutoff (virtEnv env) n o v) :=
  .of_comm (NodeSim.Comm.shouldCutoff blind (fun _ _ => rfl) (fun _ _ _ _ _ _ => rfl) (virtEnv_cutoff env) n o v)

theorem Sim.parentIterCanRecomputeNow (p child : Nat) :
    Sim (Engine.parentIterCanRecomputeNow p child) (Engine.parentIterCanRecomputeNow p child) :=
  .of_comm (NodeSim.Comm.parentIterCanRecomputeNow blind p child)

theorem Sim.maybeChangeValue (env : Env) (fuel n : Nat) (v : Val) :
    Sim (Engine.maybeChangeValue env fuel n v) (Engine.maybeChangeValue (virtEnv env) fuel n v) :=
  .of_comm (NodeSim.Comm.maybeChangeValue blind noRef expWork (fun _ _ _ => rfl) setsValues (fun _ _ => rfl) (fun _ _ _ _ _ _ => rfl) (virtEnv_cutoff env) fuel n v)

theorem Sim.addNewObservers (env : Env) (fuel : Nat) :
    Sim (Engine.addNewObservers env fuel) (Engine.addNewObservers (virtEnv env) fuel) :=
  .of_comm (NodeSim.Comm.addNewObservers blind changesNecessity addsParents refWork expWork (fun _ h => h.pinv) fuel)

theorem Sim.unlinkDisallowedObservers (fuel : Nat) :
    Sim (Engine.unlinkDisallowedObservers fuel) (Engine.unlinkDisallowedObservers fuel) :=
  .of_comm (NodeSim.Comm.unlinkDisallowedObservers blind changesNecessity obsWork fuel)

theorem Sim.didSetVarWhileNotStabilising (v : Nat) :
    Sim (Engine.didSetVarWhileNotStabilising v) (Engine.didSetVarWhileNotStabilising v) :=
  .of_comm (NodeSim.Comm.didSetVarWhileNotStabilising blind v)

theorem Sim.writeVar (v : Nat) (f : Val → Val) (isSet : Bool) :
    Sim (Engine.writeVar v f isSet) (Engine.writeVar v f isSet) :=
  .of_comm (NodeSim.Comm.writeVar blind v f isSet)

end IncrVerif.Proofs.ExpertH
