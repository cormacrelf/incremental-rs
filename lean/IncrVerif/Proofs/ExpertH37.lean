import IncrVerif.Proofs.ExpertH36
/-!
# `adjustHeights`, part 2: inversions of `ensureHeightRequirement` and `rchIncreaseHeight`; the loop
invariant `AInv` and its four elementary steps (add a member, raise a member, pop, re-bucket)
-/
namespace IncrVerif.Proofs.ExpertH.QR
open IncrVerif.Engine IncrVerif.Proofs IncrVerif.Proofs.Step IncrVerif.Proofs.Sched

namespace BA

/-! ## inversions -/

theorem ehr_ok_inv {oc op c p : Nat} {s s' : State} {u : Unit}
    (h : (ensureHeightRequirement oc op c p).run.run s = (.ok u, s')) :
    c < s.nodes.size ∧ p < s.nodes.size ∧
    (((s.nodeD c).height < (s.nodeD p).height ∧ s' = s) ∨
     ((s.nodeD p).height ≤ (s.nodeD c).height ∧
       ∃ s1, ((ahhMk s p ≠ -1 ∧ s1 = s) ∨
              (ahhMk s p = -1 ∧ 0 ≤ (s.nodeD p).height ∧ (s.nodeD p).height.toNat < s.ahh.queues.size ∧
                s1 = ahhAdded p (s.nodeD p).height s)) ∧
         s' = heightSet p ((s.nodeD c).height + 1) s1)) := by
  unfold ensureHeightRequirement at h
  rw [run_bind_get] at h
  replace h := bind_dassert_inv h
  replace h := bind_dassert_inv h
  dsimp only at h
  by_cases hcyc : (p == oc) = true
  · rw [if_pos hcyc, run_bind, run_panic] at h; cases h
  rw [if_neg hcyc] at h
  obtain ⟨cn, hcn, h⟩ := bind_getNode_inv h
  obtain ⟨pn, hpn, h⟩ := bind_getNode_inv h
  have ec : s.nodeD c = cn := nodeD_of_some hcn
  have ep : s.nodeD p = pn := nodeD_of_some hpn
  refine ⟨lt_of_some hcn, lt_of_some hpn, ?_⟩
  rw [ec, ep]
  by_cases hge : cn.height ≥ pn.height
  · rw [if_pos hge] at h
    right
    refine ⟨hge, ?_⟩
    obtain ⟨_, s1, h1, h2⟩ := bind_ok_inv h
    have e2 : s' = heightSet p (cn.height + 1) s1 := by
      rw [setHeight_run] at h2
      split at h2
      · cases h2
      · cases h2; rfl
    refine ⟨s1, ?_, e2⟩
    rw [ahhAddUnlessMem_run p s pn hpn] at h1
    have emk : ahhMk s p = pn.heightInAhh := by simp only [ahhMk, ep]
    by_cases hmem : (pn.heightInAhh == -1) = false
    · rw [if_pos hmem] at h1
      cases h1
      left
      refine ⟨?_, rfl⟩
      rw [emk]
      simpa using hmem
    · rw [if_neg hmem] at h1
      have hmem' : pn.heightInAhh = -1 := by simpa using hmem
      split at h1
      · cases h1
      · split at h1
        · cases h1
        · split at h1
          · cases h1
          · rename_i hq
            cases h1
            right
            simp only [Bool.or_eq_true, decide_eq_true_eq, not_or, Int.not_lt, ge_iff_le, Nat.not_le] at hq
            exact ⟨by rw [emk]; exact hmem', hq.1, hq.2, rfl⟩
  · rw [if_neg hge] at h
    left
    exact ⟨by omega, (pure_ok_inv h).2⟩

/-! ## the loop invariant -/

/-- invariant of the adjust-heights loop, relative to the state `s0` in which `adjustHeights` was called.
`X c p i`: the recorded edge `(p, i)` of `c` is still to be looked at; `Y m`: `m` has just been popped and is
not yet re-bucketed in the recompute heap; `B`: the node whose height is raised first. -/
structure AInv (rk : Nat → Nat) (B : Nat) (s0 s : State) (X : Nat → Nat → Nat → Prop) (Y : Nat → Prop) : Prop where
  rel : HRel s0 s
  wf : AhhWF s
  heap : HeapG s
  /-- every recorded edge is fine, or its child is a member, or it is still to be looked at -/
  edge : ∀ c p i, (p, i) ∈ (s.nodeD c).parents →
    (s.nodeD c).height < (s.nodeD p).height ∨ ahhMk s c ≠ -1 ∨ X c p i
  /-- the height under which a member is bucketed is below all its parents -/
  old : ∀ c p i, (p, i) ∈ (s.nodeD c).parents → ahhMk s c ≠ -1 → ahhMk s c < (s.nodeD p).height
  hgt : ∀ m, (s.nodeD m).inRch = true → ahhMk s m = -1 → ¬ Y m →
    (s.nodeD m).heightInRch = (s.nodeD m).height
  hle : ∀ m, (s.nodeD m).inRch = true → (s.nodeD m).heightInRch ≤ (s.nodeD m).height
  /-- nodes of rank below `B` are untouched, members are of rank at or above `B` -/
  low : ∀ m, rk m < rk B → s.nodeD m = s0.nodeD m
  memB : ∀ m, ahhMk s m ≠ -1 → rk B ≤ rk m

def noX : Nat → Nat → Nat → Prop := fun _ _ _ => False
def noY : Nat → Prop := fun _ => False

theorem AInv.mono {rk : Nat → Nat} {B : Nat} {s0 s : State} {X X' : Nat → Nat → Nat → Prop} {Y Y' : Nat → Prop} (A : AInv rk B s0 s X Y)
    (hX : ∀ c p i, (p, i) ∈ (s.nodeD c).parents → X c p i → X' c p i) (hY : ∀ m, Y m → Y' m) :
    AInv rk B s0 s X' Y' :=
  ⟨A.rel, A.wf, A.heap,
    fun c p i hm => by
      rcases A.edge c p i hm with h | h | h
      · exact Or.inl h
      · exact Or.inr (Or.inl h)
      · exact Or.inr (Or.inr (hX c p i hm h)),
    A.old, fun m hq hm hy => A.hgt m hq hm (fun h => hy (hY m h)), A.hle, A.low, A.memB⟩

/-- S1: a non-member all of whose parents are higher joins the heap under its current height -/
theorem AInv.add {rk : Nat → Nat} {B : Nat} {s0 s : State} {X : Nat → Nat → Nat → Prop} {Y : Nat → Prop} (A : AInv rk B s0 s X Y) {p : Nat}
    (hp : p < s.nodes.size) (hm : ahhMk s p = -1) (h0 : 0 ≤ (s.nodeD p).height)
    (hx : (s.nodeD p).height.toNat < s.ahh.queues.size) (hlb : s.ahh.lowerBound ≤ (s.nodeD p).height)
    (hpar : ∀ q i, (q, i) ∈ (s.nodeD p).parents → (s.nodeD p).height < (s.nodeD q).height) (hB : rk B ≤ rk p) :
    AInv rk B s0 (ahhAdded p (s.nodeD p).height s) X Y := by
  have key : ∀ m, (ahhAdded p (s.nodeD p).height s).nodeD m =
      if m = p then { s.nodeD p with heightInAhh := (s.nodeD p).height } else s.nodeD m :=
    nodeD_upd (s := s) (f := fun x => { x with heightInAhh := (s.nodeD p).height }) rfl hp
  have hpar' : ∀ m, ((ahhAdded p (s.nodeD p).height s).nodeD m).parents = (s.nodeD m).parents := by
    intro m; rw [key]; split
    · rename_i e; rw [e]
    · rfl
  have hh : ∀ m, ((ahhAdded p (s.nodeD p).height s).nodeD m).height = (s.nodeD m).height := by
    intro m; rw [key]; split
    · rename_i e; rw [e]
    · rfl
  have hr : ∀ m, ((ahhAdded p (s.nodeD p).height s).nodeD m).heightInRch = (s.nodeD m).heightInRch := by
    intro m; rw [key]; split
    · rename_i e; rw [e]
    · rfl
  have hin : ∀ m, ((ahhAdded p (s.nodeD p).height s).nodeD m).inRch = (s.nodeD m).inRch := by
    intro m; simp only [Node.inRch, hr]
  have hmk : ∀ m, ahhMk (ahhAdded p (s.nodeD p).height s) m =
      if m = p then (s.nodeD p).height else ahhMk s m := by
    intro m; simp only [ahhMk]; rw [key]; split <;> rfl
  refine ⟨A.rel.trans (HRel.upd (s := s) (n := p)
      (f := fun x => { x with heightInAhh := (s.nodeD p).height }) rfl rfl (fun x => ⟨rfl, rfl⟩) rfl (Int.le_refl _)),
    A.wf.added hp hm h0 hx hlb, A.heap.congr rfl (by simp [ahhAdded]) hr, ?_, ?_, ?_, ?_, ?_, ?_⟩
  rotate_left 4
  · intro m hmB
    rw [key, if_neg (fun e => by rw [e] at hmB; omega)]; exact A.low m hmB
  · intro m hmm
    rw [hmk] at hmm
    by_cases e : m = p
    · rw [e]; exact hB
    · rw [if_neg e] at hmm; exact A.memB m hmm
  · intro c q i hmem
    rw [hpar'] at hmem
    rw [hh, hh, hmk]
    rcases A.edge c q i hmem with h | h | h
    · exact Or.inl h
    · right; left
      split
      · rename_i e; rw [← e]; rw [e]; omega
      · exact h
    · exact Or.inr (Or.inr h)
  · intro c q i hmem hmc
    rw [hpar'] at hmem
    rw [hh, hmk] at *
    by_cases e : c = p
    · rw [if_pos e]; rw [e] at hmem; exact hpar q i hmem
    · rw [if_neg e] at hmc ⊢; exact A.old c q i hmem hmc
  · intro m hq hmm hy
    rw [hin] at hq
    rw [hmk] at hmm
    rw [hr, hh]
    by_cases e : m = p
    · rw [if_pos e] at hmm; omega
    · rw [if_neg e] at hmm; exact A.hgt m hq hmm hy
  · intro m hq
    rw [hin] at hq
    rw [hr, hh]; exact A.hle m hq

/-- S2: a member `p` is raised to `v`, above its child `c` -/
theorem AInv.raise {rk : Nat → Nat} {B : Nat} {s0 s : State} {X : Nat → Nat → Nat → Prop} {Y : Nat → Prop} (A : AInv rk B s0 s X Y) {c p : Nat}
    {v : Int} (hp : p < s.nodes.size) (hm : ahhMk s p ≠ -1) (hv : (s.nodeD p).height ≤ v)
    (hcv : (s.nodeD c).height < v) (hX : ∀ x q i, X x q i → x = c)
    (hne : ∀ x q i, (q, i) ∈ (s.nodeD x).parents → x ≠ q) :
    AInv rk B s0 (heightSet p v s) (fun x q i => X x q i ∧ q ≠ p) Y := by
  have key : ∀ m, (heightSet p v s).nodeD m = if m = p then { s.nodeD p with height := v } else s.nodeD m :=
    nodeD_upd (s := s) (f := fun x => { x with height := v }) rfl hp
  have hpar' : ∀ m, ((heightSet p v s).nodeD m).parents = (s.nodeD m).parents := by
    intro m; rw [key]; split
    · rename_i e; rw [e]
    · rfl
  have hh : ∀ m, ((heightSet p v s).nodeD m).height = if m = p then v else (s.nodeD m).height := by
    intro m; rw [key]; split <;> rfl
  have hr : ∀ m, ((heightSet p v s).nodeD m).heightInRch = (s.nodeD m).heightInRch := by
    intro m; rw [key]; split
    · rename_i e; rw [e]
    · rfl
  have hin : ∀ m, ((heightSet p v s).nodeD m).inRch = (s.nodeD m).inRch := by
    intro m; simp only [Node.inRch, hr]
  have hmk : ∀ m, ahhMk (heightSet p v s) m = ahhMk s m := by
    intro m; simp only [ahhMk]; rw [key]; split
    · rename_i e; rw [e]
    · rfl
  have hgrow : ∀ m, (s.nodeD m).height ≤ ((heightSet p v s).nodeD m).height := by
    intro m; rw [hh]; split
    · rename_i e; rw [e]; exact hv
    · exact Int.le_refl _
  refine ⟨A.rel.trans (HRel.upd (s := s) (n := p) (f := fun x => { x with height := v }) rfl rfl
      (fun x => ⟨rfl, rfl⟩) rfl hv),
    A.wf.congr rfl (funext hmk), A.heap.congr rfl (by simp [heightSet]) hr, ?_, ?_, ?_, ?_, ?_, ?_⟩
  rotate_left 4
  · intro m hmB
    have := A.memB p hm
    rw [key, if_neg (fun e => by rw [e] at hmB; omega)]; exact A.low m hmB
  · intro m hmm
    rw [hmk] at hmm; exact A.memB m hmm
  · intro x q i hmem
    rw [hpar'] at hmem
    have hxq := hne x q i hmem
    rw [hmk]
    by_cases ex : x = p
    · rw [ex]; exact Or.inr (Or.inl hm)
    · rw [hh x, if_neg ex]
      by_cases eq : q = p
      · rw [hh q, if_pos eq]
        rw [eq] at hmem
        rcases A.edge x p i hmem with h | h | h
        · left; omega
        · exact Or.inr (Or.inl h)
        · left; rw [hX x p i h]; exact hcv
      · rw [hh q, if_neg eq]
        rcases A.edge x q i hmem with h | h | h
        · exact Or.inl h
        · exact Or.inr (Or.inl h)
        · exact Or.inr (Or.inr ⟨h, eq⟩)
  · intro x q i hmem hmx
    rw [hpar'] at hmem
    rw [hmk] at hmx ⊢
    have := A.old x q i hmem hmx
    have := hgrow q
    omega
  · intro m hq hmm hy
    rw [hin] at hq
    rw [hmk] at hmm
    have e : m ≠ p := fun e => hm (e ▸ hmm)
    rw [hr, hh, if_neg e]; exact A.hgt m hq hmm hy
  · intro m hq
    rw [hin] at hq
    have := A.hle m hq
    have := hgrow m
    rw [hr]; omega

/-- S3: the least member is popped -/
theorem AInv.pop {rk : Nat → Nat} {B : Nat} {s0 s : State} (A : AInv rk B s0 s noX noY) {n : Nat} {rest : List Nat}
    (hq : s.ahh.queues[ahhFirst s]? = some (n :: rest)) :
    AInv rk B s0 (ahhPopped (ahhFirst s) n rest s) (fun x _ _ => x = n) (· = n) ∧ rk B ≤ rk n ∧
      (∀ q i, (q, i) ∈ (s.nodeD n).parents →
        (ahhPopped (ahhFirst s) n rest s).ahh.lowerBound < ((ahhPopped (ahhFirst s) n rest s).nodeD q).height) ∧
      ∀ m, (ahhPopped (ahhFirst s) n rest s).nodeD m =
        if m = n then { s.nodeD n with heightInAhh := -1 } else s.nodeD m := by
  obtain ⟨hwf, hmn⟩ := A.wf.popped hq
  have hmem : ahhMk s n ≠ -1 := by rw [hmn]; omega
  have hn : n < s.nodes.size := by
    apply Decidable.byContradiction
    intro h
    apply hmem
    simp only [ahhMk]
    rw [nodeD_default s n (by omega)]; rfl
  have key : ∀ m, (ahhPopped (ahhFirst s) n rest s).nodeD m =
      if m = n then { s.nodeD n with heightInAhh := -1 } else s.nodeD m :=
    nodeD_upd (s := s) (f := fun x => { x with heightInAhh := -1 }) rfl hn
  have hpar' : ∀ m, ((ahhPopped (ahhFirst s) n rest s).nodeD m).parents = (s.nodeD m).parents := by
    intro m; rw [key]; split
    · rename_i e; rw [e]
    · rfl
  have hh : ∀ m, ((ahhPopped (ahhFirst s) n rest s).nodeD m).height = (s.nodeD m).height := by
    intro m; rw [key]; split
    · rename_i e; rw [e]
    · rfl
  have hr : ∀ m, ((ahhPopped (ahhFirst s) n rest s).nodeD m).heightInRch = (s.nodeD m).heightInRch := by
    intro m; rw [key]; split
    · rename_i e; rw [e]
    · rfl
  have hin : ∀ m, ((ahhPopped (ahhFirst s) n rest s).nodeD m).inRch = (s.nodeD m).inRch := by
    intro m; simp only [Node.inRch, hr]
  have hmk : ∀ m, ahhMk (ahhPopped (ahhFirst s) n rest s) m = if m = n then -1 else ahhMk s m := by
    intro m; simp only [ahhMk]; rw [key]; split <;> rfl
  refine ⟨⟨A.rel.trans (HRel.upd (s := s) (n := n) (f := fun x => { x with heightInAhh := -1 }) rfl rfl
      (fun x => ⟨rfl, rfl⟩) rfl (Int.le_refl _)),
    hwf, A.heap.congr rfl (by simp [ahhPopped]) hr, ?_, ?_, ?_, ?_, ?_, ?_⟩, A.memB n hmem, ?_, key⟩
  rotate_left 4
  · intro m hmB
    have := A.memB n hmem
    rw [key, if_neg (fun e => by rw [e] at hmB; omega)]; exact A.low m hmB
  · intro m hmm
    rw [hmk] at hmm
    by_cases e : m = n
    · rw [if_pos e] at hmm; exact absurd rfl hmm
    · rw [if_neg e] at hmm; exact A.memB m hmm
  rotate_left 1
  · intro c q i hm
    rw [hpar'] at hm
    rw [hh, hh, hmk]
    by_cases e : c = n
    · exact Or.inr (Or.inr e)
    · rw [if_neg e]
      rcases A.edge c q i hm with h | h | h
      · exact Or.inl h
      · exact Or.inr (Or.inl h)
      · exact h.elim
  · intro c q i hm hmc
    rw [hpar'] at hm
    rw [hh, hmk] at *
    by_cases e : c = n
    · rw [if_pos e] at hmc; exact absurd rfl hmc
    · rw [if_neg e] at hmc ⊢; exact A.old c q i hm hmc
  · intro m hq' hmm hy
    rw [hin] at hq'
    rw [hmk, if_neg hy] at hmm
    rw [hr, hh]; exact A.hgt m hq' hmm (fun h => h)
  · intro m hq'
    rw [hin] at hq'
    rw [hr, hh]; exact A.hle m hq'
  · intro q i hm
    rw [hh]
    show (ahhFirst s : Int) < _
    rw [← hmn]
    exact A.old n q i hm hmem

/-- S4: the popped node is re-bucketed in the recompute heap -/
theorem AInv.rebucket {rk : Nat → Nat} {B : Nat} {s0 s : State} {X : Nat → Nat → Nat → Prop} {Y : Nat → Prop} (A : AInv rk B s0 s X Y)
    {n : Nat} {Q : Array (List Nat)} (hn : n < s.nodes.size) (hq : (s.nodeD n).inRch = true)
    (h0 : 0 ≤ (s.nodeD n).height) (hQ : Q.size = s.rch.queues.size)
    (hwf : HeapWF (rebucketed n (s.nodeD n).height Q s)) (hY : ∀ m, Y m → m = n) (hB : rk B ≤ rk n) :
    AInv rk B s0 (rebucketed n (s.nodeD n).height Q s) X noY := by
  have key : ∀ m, (rebucketed n (s.nodeD n).height Q s).nodeD m =
      if m = n then { s.nodeD n with heightInRch := (s.nodeD n).height } else s.nodeD m :=
    nodeD_upd (s := s) (f := fun x => { x with heightInRch := (s.nodeD n).height }) rfl hn
  have hpar' : ∀ m, ((rebucketed n (s.nodeD n).height Q s).nodeD m).parents = (s.nodeD m).parents := by
    intro m; rw [key]; split
    · rename_i e; rw [e]
    · rfl
  have hh : ∀ m, ((rebucketed n (s.nodeD n).height Q s).nodeD m).height = (s.nodeD m).height := by
    intro m; rw [key]; split
    · rename_i e; rw [e]
    · rfl
  have hr : ∀ m, ((rebucketed n (s.nodeD n).height Q s).nodeD m).heightInRch =
      if m = n then (s.nodeD n).height else (s.nodeD m).heightInRch := by
    intro m; rw [key]; split <;> rfl
  have hin : ∀ m, ((rebucketed n (s.nodeD n).height Q s).nodeD m).inRch = (s.nodeD m).inRch := by
    intro m
    simp only [Node.inRch, hr]
    split
    · rename_i e
      rw [e]
      simp only [Node.inRch] at hq
      rw [hq]; simpa using h0
    · rfl
  have hmk : ∀ m, ahhMk (rebucketed n (s.nodeD n).height Q s) m = ahhMk s m := by
    intro m; simp only [ahhMk]; rw [key]; split
    · rename_i e; rw [e]
    · rfl
  refine ⟨A.rel.trans (HRel.upd (s := s) (n := n)
      (f := fun x => { x with heightInRch := (s.nodeD n).height }) rfl (by simp only [hKey, rebucketed, hQ])
      (fun x => ⟨rfl, rfl⟩) ?_ (Int.le_refl _)),
    A.wf.congr rfl (funext hmk), ⟨hwf, ?_, A.heap.lb0⟩, ?_, ?_, ?_, ?_, ?_, ?_⟩
  rotate_left 6
  · intro m hmB
    rw [key, if_neg (fun e => by rw [e] at hmB; omega)]; exact A.low m hmB
  · intro m hmm
    rw [hmk] at hmm; exact A.memB m hmm
  · have := hin n
    rw [key, if_pos rfl] at this
    exact this
  · intro m hqm
    rw [hin] at hqm
    rw [hr]
    show s.rch.lowerBound ≤ _
    have h1 := A.heap.lb m hqm
    have h2 := A.hle m hqm
    by_cases e : m = n
    · rw [if_pos e]; rw [e] at h1 h2; omega
    · rw [if_neg e]; exact h1
  · intro c q i hm
    rw [hpar'] at hm
    rw [hh, hh, hmk]; exact A.edge c q i hm
  · intro c q i hm hmc
    rw [hpar'] at hm
    rw [hh, hmk] at *
    exact A.old c q i hm hmc
  · intro m hqm hmm _
    rw [hin] at hqm
    rw [hmk] at hmm
    rw [hr, hh]
    split
    · rename_i e; rw [e]
    · rename_i e; exact A.hgt m hqm hmm (fun hy => e (hY m hy))
  · intro m hqm
    rw [hin] at hqm
    rw [hr, hh]
    split
    · rename_i e; rw [e]; exact Int.le_refl _
    · exact A.hle m hqm

end BA
end IncrVerif.Proofs.ExpertH.QR
