import IncrVerif.Proofs.FullH9
/-!
# C01 full fragment: simulation of the notification walk, part 2
(`maybeChangeValueManual`, `maybeChangeValue`)
-/
namespace IncrVerif.Proofs.FullH
open IncrVerif.Engine IncrVerif.Proofs IncrVerif.Proofs.Step IncrVerif.Proofs.Sched IncrVerif.Proofs.Quiet

section
variable {K : Kind → Prop} {g : Nat → Option Val} {sp : Nat → Val → Val}

/-- validity and parent lists are untouched -/
structure PV (s s' : State) : Prop where
  valid : ∀ m, (s'.nodeD m).valid = (s.nodeD m).valid
  parents : ∀ m, (s'.nodeD m).parents = (s.nodeD m).parents

instance : Step.PreOrd PV :=
  ⟨fun _ => ⟨fun _ => rfl, fun _ => rfl⟩,
   fun h1 h2 => ⟨fun m => (h2.valid m).trans (h1.valid m), fun m => (h2.parents m).trans (h1.parents m)⟩⟩

theorem PV.of_quiet {s s' : State} (q : Step.Quiet s s') : PV s s' :=
  ⟨fun m => (q.node m).valid, fun m => (q.node m).parents⟩

theorem PV.of_nodes {s s' : State} (e : s'.nodes = s.nodes) : PV s s' := by
  have hn : ∀ n, s'.nodeD n = s.nodeD n := fun n => by simp [State.nodeD, e]
  exact ⟨fun m => by rw [hn], fun m => by rw [hn]⟩

theorem PV.modNode (s : State) (n : Nat) (f : Node → Node) (hf : ∀ x, (f x).valid = x.valid ∧ (f x).parents = x.parents) :
    PV s { s with nodes := s.nodes.modify n f } := by
  refine ⟨fun m => ?_, fun m => ?_⟩ <;> rw [nodeD_modify] <;> split
  · exact (hf _).1
  · rfl
  · exact (hf _).2
  · rfl

/-- sequencing that remembers a frame fact about the first program -/
theorem SimAt.seqP {α β : Type} {R : State → State → Prop} {s : State} {x x' : M α} {f f' : α → M β}
    (hp : Step.Pres R x) (hx : SimAt K g s x x') (hf : ∀ a s1, R s s1 → SimAt K g s1 (f a) (f' a)) :
    SimAt K g s (x >>= f) (x' >>= f') :=
  SimAt.seq hx fun a s1 h1 => hf a s1 (hp.h s _ s1 h1)

/-- a loop whose bodies simulate each other under a state condition that the (frame relation of the) bodies keep -/
theorem SimAt.forInR {γ β : Type} {R : State → State → Prop} (I : State → Prop) (hIR : ∀ s s', I s → R s s' → I s')
    (l : List γ) {f f' : γ → β → M (ForInStep β)} (hq : ∀ a b, Step.Pres R (f a b))
    (h : ∀ a, a ∈ l → ∀ b s, I s → SimAt K g s (f a b) (f' a b)) (b : β) (s : State) (hs : I s) :
    SimAt K g s (ForIn.forIn l b f) (ForIn.forIn l b f') := by
  induction l generalizing b s with
  | nil => rw [List.forIn_nil, List.forIn_nil]; exact SimAt.ret _
  | cons a l ih =>
    rw [List.forIn_cons, List.forIn_cons]
    refine SimAt.seqP (hq a b) (h a (List.mem_cons_self ..) b s hs) fun r s1 q => ?_
    cases r with
    | done b' => exact SimAt.ret _
    | yield b' => exact ih (fun a' ha' => h a' (List.mem_cons_of_mem _ ha')) b' s1 (hIR _ _ hs q)

/-- optional notification on the actual side, (no-op) notification on the virtual side -/
theorem SimAt.ccThen {β : Type} {s : State} {b : Bool} {k k' : Unit → M β} {env : Env}
    {fuel fuel' p n ci : Nat} {o o' : Option Val}
    (hf : 0 < fuel' ∨ (b = true ∧ fuel = 0))
    (hv : b = true ∨ (s.nodeD p).valid = true)
    (hex : ∀ r s', (k ()).run.run s = (.ok r, s') → ∃ nd, s.nodes[p]? = some nd)
    (hk : Sim K g (k ()) (k' ())) :
    SimAt K g s (if b = true then Engine.childChanged env fuel p n ci o >>= k else k ())
      (Engine.childChanged (virtEnv env sp) fuel' p n ci o' >>= k') := by
  cases b with
  | true =>
    rw [if_pos rfl]
    refine SimAt.seq (Sim.childChanged' env fuel fuel' p n ci o o' ?_ s) fun _ s1 _ => hk s1
    rcases hf with h | h
    · exact Or.inl h
    · exact Or.inr h.2
  | false =>
    rw [if_neg (by decide)]
    intro hfr r s' h
    obtain ⟨nd, hnd⟩ := hex r s' h
    obtain ⟨f', rfl⟩ : ∃ f', fuel' = f' + 1 := ⟨fuel' - 1, by rcases hf with h | h; omega; cases h.1⟩
    have hval : nd.valid = true := by
      rcases hv with h | h
      · cases h
      · rwa [nodeD_of_some hnd] at h
    rw [run_bind_ok (virt_childChanged_run hnd hval (hfr.some hnd))]
    exact hk s hfr r s' h

theorem SimAt.mcvm (env : Env) (fuel fuel' n : Nat) (o o' : Option Val) (did b : Bool) {s : State}
    (hf : 0 < fuel' ∨ (b = true ∧ fuel = 0))
    (hpv : b = true ∨ ∀ x ∈ (s.nodeD n).parents, (s.nodeD x.1).valid = true) :
    SimAt K g s (Engine.maybeChangeValueManual env fuel n o did b)
      (Engine.maybeChangeValueManual (virtEnv env sp) fuel' n o' did true) := by
  unfold Engine.maybeChangeValueManual
  simp only [↓reduceIte]
  refine SimAt.cond Iff.rfl (fun _ => SimAt.ret _) (fun _ => ?_)
  refine SimAt.get_seq ?_
  fnorm
  refine SimAt.seqP (R := PV) ?_ (Sim.modNode _ (by fcomm) (by fkind) s) fun _ s1 q1 => ?_
  · exact Step.Pres.modify fun t => PV.modNode t n _ fun x => ⟨rfl, rfl⟩
  refine SimAt.seqP (R := PV) ?_ (Sim.bumpCounter _ s1) fun _ s2 q2 => ?_
  · exact Step.Pres.modify fun t => PV.of_nodes rfl
  refine SimAt.seqP (R := PV) ?_ (Sim.maybeHandleAfterStabilisation _ s2) fun _ s3 q3 => ?_
  · exact (Step.Pres.maybeHandleAfterStabilisation n).mono fun _ _ => PV.of_quiet
  have q : PV s s3 := Step.PreOrd.trans (Step.PreOrd.trans q1 q2) q3
  refine SimAt.getNode_seq fun nd hnd hne => ?_
  fnorm
  have hpar : nd.parents = (s.nodeD n).parents := by rw [← q.parents n, nodeD_of_some hnd]
  have hex : ∀ {β : Type} (p : Nat) (s : State) (k : Node → M β) (r : β) (s' : State),
      (do let t ← get
          dassert (t.needsToBeComputed p) "node:maybe_change_value:parent-needs-to-be-computed"
          let nd ← getNode p
          k nd : M β).run.run s = (.ok r, s') → ∃ nd, s.nodes[p]? = some nd := by
    intro β p s k r s' h
    rw [run_bind_get] at h
    obtain ⟨na, hna, -⟩ := bind_getNode_inv (bind_dassert_inv h)
    exact ⟨na, hna⟩
  -- the condition kept along the walk: the parents are valid (needed when the actual run does not notify)
  have hI : ∀ t, Step.Quiet s3 t → (b = true ∨ ∀ x ∈ nd.parents, (t.nodeD x.1).valid = true) := by
    intro t qt
    rcases hpv with h | h
    · exact Or.inl h
    · refine Or.inr fun x hx => ?_
      rw [(qt.node x.1).valid, q.valid]
      exact h x (hpar ▸ hx)
  revert hI
  generalize nd.parents = ps
  intro hI
  split
  · exact SimAt.ret _
  · rename_i p0 ci0 rest
    refine SimAt.seqP (R := Step.Quiet) ?_
      (SimAt.forInR (R := Step.Quiet) (fun t => Step.Quiet s3 t) (fun _ _ h1 h2 => Step.PreOrd.trans h1 h2) rest ?_ ?_ _ s3
        (Step.PreOrd.refl _)) fun _ s4 q4 => ?_
    · apply Step.Pres.forIn; intro a b'; qpres
    · intro a b'; qpres
    · intro a ha b' t qt
      refine SimAt.ccThen hf ?_ (hex _ _ _) ?_
      · rcases hI t qt with h | h
        · exact Or.inl h
        · exact Or.inr (h a (List.mem_cons_of_mem _ ha))
      · intro s5; fsim
    · refine SimAt.ccThen hf ?_ (hex _ _ _) ?_
      · rcases hI s4 q4 with h | h
        · exact Or.inl h
        · exact Or.inr (h (p0, ci0) (List.mem_cons_self ..))
      · intro s5; fsim

/-- with notification on both sides (every node but a map_ref node): no condition on the state, unrelated fuels and old values -/
theorem St.mcvm (env : Env) (fuel fuel' n : Nat) (o o' : Option Val) (did : Bool) (hf : 0 < fuel' ∨ fuel = 0) :
    Sim K g (Engine.maybeChangeValueManual env fuel n o did true)
      (Engine.maybeChangeValueManual (virtEnv env sp) fuel' n o' did true) := by
  intro s
  refine SimAt.mcvm env fuel fuel' n o o' did true ?_ (Or.inl rfl)
  rcases hf with h | h
  · exact Or.inl h
  · exact Or.inr ⟨rfl, h⟩

theorem Sim.maybeChangeValueManual (env : Env) (fuel n : Nat) (o o' : Option Val) (did : Bool) :
    Sim K g (Engine.maybeChangeValueManual env fuel n o did true)
      (Engine.maybeChangeValueManual (virtEnv env sp) fuel n o' did true) := by
  refine St.mcvm env fuel fuel n o o' did ?_
  cases fuel with
  | zero => exact Or.inr rfl
  | succ f => exact Or.inl (Nat.succ_pos _)
macro_rules | `(tactic| fsim_leaf) => `(tactic| with_reducible exact Sim.maybeChangeValueManual _ _ _ _ _ _)

/-- the own step of a map_ref node (no notification by the actual run; the virtual run notifies, which does nothing):
the parents of `n` must be valid -/
theorem SimAt.maybeChangeValueManual_quiet (env : Env) (fuel n : Nat) (o o' : Option Val) (did : Bool) {s : State}
    (hf : 0 < fuel) (hpv : ∀ x ∈ (s.nodeD n).parents, (s.nodeD x.1).valid = true) :
    SimAt K g s (Engine.maybeChangeValueManual env fuel n o did false)
      (Engine.maybeChangeValueManual (virtEnv env sp) fuel n o' did true) :=
  SimAt.mcvm env fuel fuel n o o' did false (Or.inl hf) (Or.inr hpv)

/-! ## `maybe_change_value` on a node that is not a map_ref node -/

/-- writing the value of a node that is not a map_ref node commutes with `virt` -/
theorem SimAt.modNode_value {s : State} {n : Nat} (v : Option Val)
    (h : ∀ p i, (s.nodeD n).kind ≠ .mapRef p i) :
    SimAt K g s (Engine.modNode n fun x => { x with value := v }) (Engine.modNode n fun x => { x with value := v }) := by
  intro hfr r s' hr
  rw [run_modNode] at hr ⊢
  cases hr
  refine ⟨?_, fr_modify hfr n _ (fun nd => ⟨rfl, rfl⟩), vm_modify s n _ (by fkind)⟩
  congr 1
  simp only [virt]
  congr 1
  apply Array.ext
  · simp
  · intro i h1 h2
    simp only [Array.getElem_mapIdx, Array.getElem_modify]
    split
    · rename_i e; subst e
      have hlt : n < s.nodes.size := by simpa using h1
      have hk : ∀ p i, (s.nodes[n]).kind ≠ .mapRef p i := by
        have e : s.nodeD n = s.nodes[n] := by simp [State.nodeD, hlt]
        rw [← e]; exact h
      generalize s.nodes[n] = x at hk
      rcases x with ⟨k⟩
      cases k <;> first | rfl | exact absurd rfl (hk _ _)
    · rfl

theorem SimAt.maybeChangeValue {env : Env} {fuel n : Nat} {v : Val} {t : State}
    (hk : ∀ p i, (t.nodeD n).kind ≠ .mapRef p i)
    (hc : (t.nodeD n).cutoff = virtCut (t.nodeD n).kind (t.nodeD n).cutoff) :
    SimAt K g t (Engine.maybeChangeValue env fuel n v) (Engine.maybeChangeValue (virtEnv env sp) fuel n v) := by
  unfold Engine.maybeChangeValue
  refine SimAt.getNode_seq fun nd hnd hne => ?_
  have hnk : ∀ p i, nd.kind ≠ .mapRef p i := by
    have := hk; rw [nodeD_of_some hnd] at this; exact this
  rw [virtNode_value_of_not_mapRef _ _ hnk]
  dsimp only
  refine SimAt.seq (SimAt.modNode_value none hk) fun _ s1 h1 => ?_
  rw [run_modNode] at h1; cases h1
  have hk1 : ∀ p i, (({ t with nodes := t.nodes.modify n fun x => { x with value := none } } : State).nodeD n).kind
      ≠ .mapRef p i := by
    intro p i; rw [nodeD_modify]; split <;> exact hk p i
  cases nd.value with
  | none =>
    simp only [pure_bind]
    refine SimAt.seq (SimAt.modNode_value _ hk1) fun _ _ _ => ?_
    exact Sim.maybeChangeValueManual env fuel n _ _ _ _
  | some ov =>
    dsimp only
    have hc1 : (({ t with nodes := t.nodes.modify n fun x => { x with value := none } } : State).nodeD n).cutoff =
        virtCut (({ t with nodes := t.nodes.modify n fun x => { x with value := none } } : State).nodeD n).kind
          (({ t with nodes := t.nodes.modify n fun x => { x with value := none } } : State).nodeD n).cutoff := by
      rw [nodeD_modify]; split <;> exact hc
    refine SimAt.seq (SimAt.shouldCutoff env n ov v hc1) fun c s2 h2 => ?_
    have q := (Step.Pres.shouldCutoff env n ov v).h _ _ _ h2
    have hk2 : ∀ p i, (s2.nodeD n).kind ≠ .mapRef p i := by
      intro p i; rw [(q.node n).kind]; exact hk1 p i
    simp only [pure_bind]
    refine SimAt.seq (SimAt.modNode_value _ hk2) fun _ _ _ => ?_
    exact Sim.maybeChangeValueManual env fuel n _ _ _ _

end
end IncrVerif.Proofs.FullH
