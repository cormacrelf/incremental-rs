import IncrVerif.Proofs.FaultH2
/-!
# Faults in whole histories, part 2: ticks and log entries in lockstep

In the fragment every invocation of a user closure (`tick`) is immediately followed by exactly one log entry (the `inv`
event of a node function or fold pass, the `notif` event of an update handler), and nothing else is logged.  `LockAt env P s
x`: if the fault-free run of `x` from `s` logs the events `evs` (oldest first), then the run with the fault armed at `k`
* returns the same result in the same state with the countdown decreased by `evs.length`, if `evs.length < eff k`;
* otherwise panics with `Panic.user`, the countdown consumed, at a state whose log holds exactly the first `eff k - 1`
  events of `evs`.
`eff k = max k 1`: `arm 0` fires at the first invocation, like `arm 1`.
-/
namespace IncrVerif.Proofs.FaultH
open IncrVerif.Engine IncrVerif.Proofs IncrVerif.Proofs.Step IncrVerif.Proofs.Sched

variable {env : Env}

/-- the invocation at which a fault armed with `k` fires -/
def eff (k : Nat) : Nat := max k 1

theorem eff_pos (k : Nat) : 1 ≤ eff k := by unfold eff; omega
theorem eff_sub {k c : Nat} (h : c < eff k) : eff (k - c) = eff k - c := by unfold eff at *; omega
theorem eff_of_pos {k : Nat} (h : 1 ≤ k) : eff k = k := by unfold eff; omega

structure Locked {α} (P : Event → Prop) (s : State) (x : M α) (r : Except Panic α) (s' : State) (evs : List Event) : Prop where
  all : ∀ e, e ∈ evs → P e
  log : s'.log = evs.reverse ++ s.log
  pass : ∀ k, evs.length < eff k → x.run.run (setCd (some k) s) = (r, setCd (some (k - evs.length)) s')
  fire : ∀ k, eff k ≤ evs.length → ∃ t, x.run.run (setCd (some k) s) = (.error (.site "user"), t) ∧
    t.panicCountdown = none ∧ t.log = (evs.take (eff k - 1)).reverse ++ s.log

def LockAt (env : Env) (P : Event → Prop) (s : State) {α} (x : M α) : Prop :=
  Fr env s → s.panicCountdown = none → ∀ (r : Except Panic α) s', x.run.run s = (r, s') →
    Fr env s' ∧ s'.panicCountdown = none ∧ ∃ evs, Locked P s x r s' evs

def Lock (env : Env) (P : Event → Prop) {α} (x : M α) : Prop := ∀ s, LockAt env P s x

section
variable {s : State} {α β : Type} {P : Event → Prop}

theorem Lock.at {x : M α} (h : Lock env P x) (s : State) : LockAt env P s x := h s

/-- a program that commutes with the countdown: no invocation, no log entry -/
theorem LockAt.of_comm {x : M α} (h : ∀ c, CommAt env c s x) : LockAt env P s x := by
  intro hn hp r s' hr
  obtain ⟨e0, n0, l0⟩ := h none hn r s' hr
  rw [setCd_self hp, hr] at e0
  have hp' : s'.panicCountdown = none := by
    have := congrArg (fun p => p.2.panicCountdown) e0
    exact this
  refine ⟨n0, hp', [], ⟨fun e he => (List.not_mem_nil he).elim, by simpa using l0, fun k _ => ?_, fun k hk => ?_⟩⟩
  · exact (h (some k) hn r s' hr).1
  · have := eff_pos k
    simp at hk; omega

theorem Lock.of_comm {x : M α} (h : Comm env x) : Lock env P x := fun s => LockAt.of_comm fun c => h c s

theorem LockAt.ret (a : α) : LockAt env P s (pure a : M α) := LockAt.of_comm fun _ => CommAt.ret a
theorem LockAt.thr (e : Panic) : LockAt env P s (throw e : M α) := LockAt.of_comm fun _ => CommAt.thr e
theorem LockAt.pan (e : String) : LockAt env P s (Engine.panic e : M α) := LockAt.thr _

theorem LockAt.seq {x : M α} {f : α → M β} (hx : LockAt env P s x)
    (hf : ∀ a s1, x.run.run s = (.ok a, s1) → LockAt env P s1 (f a)) :
    LockAt env P s (x >>= f) := by
  intro hn hp r s' h
  rcases h1 : x.run.run s with ⟨e | a, s1⟩
  · obtain ⟨n1, p1, evs, L⟩ := hx hn hp _ s1 h1
    rw [run_bind_err h1] at h; cases h
    refine ⟨n1, p1, evs, L.all, L.log, fun k hk => ?_, fun k hk => ?_⟩
    · exact run_bind_err (L.pass k hk)
    · obtain ⟨t, ht, h2, h3⟩ := L.fire k hk
      exact ⟨t, run_bind_err ht, h2, h3⟩
  · obtain ⟨n1, p1, evs1, L1⟩ := hx hn hp _ s1 h1
    rw [run_bind_ok h1] at h
    obtain ⟨n2, p2, evs2, L2⟩ := hf a s1 h1 n1 p1 r s' h
    refine ⟨n2, p2, evs1 ++ evs2, ?_, ?_, fun k hk => ?_, fun k hk => ?_⟩
    · intro e he; rcases List.mem_append.1 he with h | h
      · exact L1.all e h
      · exact L2.all e h
    · rw [L2.log, L1.log, List.reverse_append, List.append_assoc]
    · rw [List.length_append] at hk
      have hk1 : evs1.length < eff k := by omega
      rw [run_bind_ok (L1.pass k hk1), L2.pass (k - evs1.length) (by rw [eff_sub hk1]; omega),
        List.length_append, Nat.sub_sub]
    · rw [List.length_append] at hk
      by_cases hk1 : eff k ≤ evs1.length
      · obtain ⟨t, ht, h2, h3⟩ := L1.fire k hk1
        refine ⟨t, run_bind_err ht, h2, ?_⟩
        rw [h3, List.take_append_of_le_length (by have := eff_pos k; omega)]
      · have hk1 : evs1.length < eff k := by omega
        obtain ⟨t, ht, h2, h3⟩ := L2.fire (k - evs1.length) (by rw [eff_sub hk1]; omega)
        refine ⟨t, ?_, h2, ?_⟩
        · rw [run_bind_ok (L1.pass k hk1)]; exact ht
        · rw [h3, L1.log, eff_sub hk1]
          have e : eff k - 1 = evs1.length + (eff k - evs1.length - 1) := by omega
          rw [e, List.take_length_add_append, List.reverse_append, List.append_assoc]

/-- one invocation and its log entry -/
theorem LockAt.tickLog (e : Event) (he : P e) : LockAt env P s (tick >>= fun _ => logEv e) := by
  intro hn hp r s' h
  rw [run_bind_tick_none _ _ hp, run_logEv] at h
  cases h
  refine ⟨hn.of_nodes rfl rfl, hp, [e], fun x hx => by rw [List.mem_singleton.1 hx]; exact he, rfl, fun k hk => ?_, fun k hk => ?_⟩
  · have hk2 : ¬ k ≤ 1 := by unfold eff at hk; simp at hk; omega
    simp only [tick, run_bind, run_get, hk2, if_false, run_modify, run_logEv, List.length_cons, List.length_nil]
  · have hk2 : k ≤ 1 := by unfold eff at hk; simp at hk; omega
    refine ⟨setCd none s, ?_, rfl, ?_⟩
    · simp only [tick, run_bind, run_get, hk2, if_true, run_modify]
      rfl
    · have : eff k - 1 = 0 := by unfold eff; omega
      rw [this]; rfl

theorem LockAt.tick_log_seq {e : Event} {k : Unit → M β} (he : P e)
    (hk : LockAt env P { s with log := e :: s.log } (k ())) :
    LockAt env P s (tick >>= fun _ => logEv e >>= k) := by
  have : (tick >>= fun _ => logEv e >>= k) = ((tick >>= fun _ => logEv e) >>= k) := by
    rw [bind_assoc]
  rw [this]
  intro hn hp
  refine LockAt.seq (LockAt.tickLog e he) (fun a s1 h1 => ?_) hn hp
  rw [run_bind_tick_none _ _ hp, run_logEv] at h1
  cases h1
  exact hk

theorem LockAt.get_seq {k : State → M β} (hk : ∀ c, k (setCd c s) = k s) (h : LockAt env P s (k s)) :
    LockAt env P s (get >>= k) := by
  intro hn hp r s' hr
  rw [run_bind_get] at hr
  obtain ⟨n1, p1, evs, L⟩ := h hn hp r s' hr
  refine ⟨n1, p1, evs, L.all, L.log, fun j hj => ?_, fun j hj => ?_⟩
  · rw [run_bind_get, hk]; exact L.pass j hj
  · obtain ⟨t, ht, h2, h3⟩ := L.fire j hj
    exact ⟨t, by rw [run_bind_get, hk]; exact ht, h2, h3⟩

theorem Fr.someK {s : State} (h : Fr env s) {n : Nat} {nd : Node} (hn : s.nodes[n]? = Option.some nd) :
    StaticKind env nd.kind := by
  have := h.kind n; rw [nodeD_of_some hn] at this; exact this

theorem LockAt.getNode_seq {n : Nat} {k : Node → M β}
    (h : ∀ nd, s.nodes[n]? = some nd → StaticKind env nd.kind → nd.valid = true → LockAt env P s (k nd)) :
    LockAt env P s (getNode n >>= k) := by
  intro hn hp r s' hr
  cases hnd : s.nodes[n]? with
  | none =>
    exact LockAt.seq (LockAt.of_comm fun c => by
      intro _ r s' h; rw [run_getNode_none hnd] at h; cases h
      exact ⟨run_getNode_none (s := setCd c s) hnd, hn, rfl⟩) (fun a s1 h1 => by
        rw [run_getNode_none hnd] at h1; cases h1) hn hp r s' hr
  | some nd =>
    obtain ⟨n1, p1, evs, L⟩ := h nd hnd (hn.someK hnd) (hn.some hnd).2.2.1 hn hp r s'
      (by rw [run_bind_ok (run_getNode_some hnd)] at hr; exact hr)
    refine ⟨n1, p1, evs, L.all, L.log, fun j hj => ?_, fun j hj => ?_⟩
    · rw [run_bind_ok (run_getNode_some (s := setCd (some j) s) hnd)]; exact L.pass j hj
    · obtain ⟨t, ht, h2, h3⟩ := L.fire j hj
      exact ⟨t, by rw [run_bind_ok (run_getNode_some (s := setCd (some j) s) hnd)]; exact ht, h2, h3⟩

theorem LockAt.cond {p : Prop} {_ : Decidable p} {a b : M α}
    (ha : p → LockAt env P s a) (hb : ¬ p → LockAt env P s b) :
    LockAt env P s (if p then a else b) := by
  by_cases h : p
  · rw [if_pos h]; exact ha h
  · rw [if_neg h]; exact hb h

theorem Lock.forIn {γ : Type} (l : List γ) {f : γ → β → M (ForInStep β)} (h : ∀ a b, Lock env P (f a b))
    (b : β) : Lock env P (ForIn.forIn l b f) := by
  induction l generalizing b with
  | nil => intro s; rw [List.forIn_nil]; exact LockAt.ret _
  | cons a l ih =>
    intro s
    rw [List.forIn_cons]
    refine LockAt.seq (h a b s) fun r s1 _ => ?_
    cases r with
    | done b' => exact LockAt.ret _
    | yield b' => exact ih b' s1

theorem LockAt.map {x : M α} (f : α → β) (hx : LockAt env P s x) : LockAt env P s (f <$> x) := by
  rw [map_eq_pure_bind]
  exact LockAt.seq hx fun _ _ _ => LockAt.ret _

end

/-! ## the tactic -/

syntax "lsim_leaf" : tactic
macro_rules | `(tactic| lsim_leaf) => `(tactic| fail "no leaf")

set_option hygiene false in
macro "lsim_step" : tactic => `(tactic| first
  | with_reducible exact LockAt.ret _
  | with_reducible exact LockAt.thr _
  | with_reducible exact LockAt.pan _
  | ((with_reducible refine LockAt.get_seq (fun _ => rfl) ?_); try dsimp only)
  | ((with_reducible refine LockAt.getNode_seq fun nd hnd hsk hval => ?_); try dsimp only)
  | ((with_reducible refine LockAt.tick_log_seq ?_ ?_); (first | exact ⟨_, _, _, _, rfl⟩ | exact ⟨_, _, rfl⟩ | skip))
  | ((with_reducible refine LockAt.tickLog _ ?_); (first | exact ⟨_, _, _, _, rfl⟩ | exact ⟨_, _, rfl⟩ | skip))
  | (with_reducible refine LockAt.seq ?_ fun _ _ _ => ?_)
  | ((with_reducible refine Lock.at ?_ _); lsim_leaf)
  | ((with_reducible refine LockAt.of_comm fun c => Comm.at ?_ c _); csim_leaf)
  | ((with_reducible refine LockAt.of_comm fun c => ?_); (with_reducible refine CommAt.mod ?_ ?_ ?_ ?_) <;> rfl)
  | ((with_reducible refine Lock.at (Lock.forIn _ (fun _ _ => ?_) _) _); intro _)
  | (refine LockAt.cond (fun _ => ?_) (fun _ => ?_)))

macro "lsim" : tactic => `(tactic| repeat' lsim_step)

end IncrVerif.Proofs.FaultH
