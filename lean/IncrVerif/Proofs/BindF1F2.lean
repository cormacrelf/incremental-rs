import IncrVerif.Proofs.NestH6
/-!
# Fragment F1 inside fragment F2

The static facts `All1` of F1 are the static facts `All2` of F2 under the rank `rkOf s`, and the two structural invariants
`GInv1`, `GInv2` differ in that component only.  So a statement "`GInv1` before, `GInv1` after" about a step follows from
the statement for `GInv2` at the rank `rkOf s` and from the static facts `All1` of the state after the step.
-/
namespace IncrVerif.Proofs.BindH
open IncrVerif.Engine IncrVerif.Proofs IncrVerif.Proofs.Step IncrVerif.Proofs.Sched IncrVerif.Proofs.Quiet
open IncrVerif.Proofs.NestH

variable {env : Env} {rk : Nat → Nat} {s s' : State} {op : Nat → Op} {ex : Nat → Prop} {dy : List Nat}

theorem All1.to2 (A : All1 env s dy) : All2 env (rkOf s) s dy where
  pc := A.pc
  scope := A.scope
  node n hn :=
    have N := A.node n hn
    { kind := N.kind, cutoff := N.cutoff, kidsIn := N.kidsIn, kidsValid := N.kidsValid,
      kidLt := fun _ hc => A.kid_rk hn hc, lcRec := N.lcRec, mainRec := N.mainRec, lcChild := N.lcChild,
      top := fun h => ⟨(N.top h).1, fun c hc => ((N.top h).2 c hc).imp And.left id⟩,
      inScope := fun b h => by
        obtain ⟨-, h2, br, hb, hm, hk⟩ := N.inScope b h
        exact ⟨h2, br, hb, hm, fun c hc => (hk c hc).imp And.left (fun h => Or.inl ⟨h.1, h.2.2⟩)⟩ }
  recs b br hb := by
    obtain ⟨h1, h2, h3, h4, h5, h6⟩ := A.recs b br hb
    exact ⟨h1, h2, h3, h4, h6.trans h5.symm⟩
  gen := A.gen
  genDy := A.genDy
  dyIn := A.dyIn
  scopeValid _ b br _ _ _ hb := by
    obtain ⟨h1, h2, -, -, h5, h6⟩ := A.recs b br hb
    exact ⟨((A.node _ (by omega)).top h5).1, ((A.node _ h2).top h6).1⟩
  recValid b br hb := by
    obtain ⟨h1, h2, -, -, h5, h6⟩ := A.recs b br hb
    rw [((A.node _ (by omega)).top h5).1, ((A.node _ h2).top h6).1]
  scopeRk _ _ _ hn hsc hb := A.scope_rk hn hsc hb
  rkInj _ _ hn hm h := A.rk_inj hn hm h

theorem GInv1.to2 (I : GInv1 env s op ex dy) : GInv2 env (rkOf s) s op ex dy := { I with frag := I.frag.to2 }

end IncrVerif.Proofs.BindH

namespace IncrVerif.Proofs.NestH
open IncrVerif.Engine IncrVerif.Proofs IncrVerif.Proofs.Quiet IncrVerif.Proofs.BindH

variable {env : Env} {rk : Nat → Nat} {s s' : State} {op : Nat → Op} {ex : Nat → Prop} {dy : List Nat}

theorem GInv2.to1 (I : GInv2 env rk s op ex dy) (A : All1 env s dy) : GInv1 env s op ex dy := { I with frag := A }

/-- a step that keeps the keys of the nodes: `GInv1` afterwards from `GInv2` afterwards -/
theorem GInv2.to1_of_keyEq (I' : GInv2 env rk s' op ex dy) (A : All1 env s dy) (E : BL.KeyEq s s') :
    GInv1 env s' op ex dy := I'.to1 (E.frag1 A I'.frag.pc I'.frag.scope)

end IncrVerif.Proofs.NestH

namespace IncrVerif.Proofs.BindH
open IncrVerif.Engine IncrVerif.Proofs IncrVerif.Proofs.Step IncrVerif.Proofs.Sched IncrVerif.Proofs.Quiet
open IncrVerif.Proofs.NestH

/-! ## scope necessity and the drain's graph, fragment F1 -/

namespace GInv1
variable {env : Env} {s : State} {op : Nat → Op} {ex : Nat → Prop} {dy : List Nat}

/-- the child list of a bind's main node -/
theorem main_children (I : GInv1 env s op ex dy) {b : Nat} {br : BindRec} (hb : s.binds[b]? = some br) :
    s.children br.main = br.lhsChange :: br.rhs.toList := by
  obtain ⟨-, h2, -, -, -, h6⟩ := I.frag.recs b br hb
  exact I.to2.main_children hb ((I.frag.node br.main h2).top h6).1

/-- scope necessity (`GInv2.scope_no_parents`) -/
theorem scope_no_parents (I : GInv1 env s op ex dy) {b : Nat} {br : BindRec} (hb : s.binds[b]? = some br)
    (P : Nat → Prop) (hPs : ∀ m, P m → m < s.nodes.size ∧ (s.nodeD m).createdIn = .bind b)
    (hPup : ∀ p m, (s.nodeD p).createdIn = .bind b → m ∈ s.children p → P m → P p)
    (hmain : ∀ m, P m → br.rhs = some m → ¬ Wants s op br.main 1)
    (hnu : ∀ m k, op m ≠ .unlinking k) (hnf : ∀ m, P m → (s.nodeD m).forceNecessary = false) :
    ∀ m, P m → (s.nodeD m).parents = [] :=
  I.to2.scope_no_parents hb P hPs hPup hmain hnu hnf

end GInv1

/-- `BGraph` from the structural invariant at rest -/
theorem bgraph_of_ginv1 {env : Env} {s : State} {ex : Nat → Prop} (I : GInv1 env s allClosed ex [])
    (hnf : ∀ m, (s.nodeD m).forceNecessary = false)
    (hvar : ∀ n c, n < s.nodes.size → (s.nodeD n).kind = .var c → ∃ vc, s.vars[c]? = some vc) :
    BGraph env s :=
  bgraph_of_ginv2 I.to2 hnf hvar

theorem heapInv_of_ginv1 {env : Env} {s : State} {ex : Nat → Prop} {dy : List Nat}
    (I : GInv1 env s allClosed ex dy) : HeapInv s :=
  heapInv_of_ginv2 I.to2

end IncrVerif.Proofs.BindH
