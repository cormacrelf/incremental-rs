import IncrVerif.Proofs.Observers
/-!
# Helper lemmas for C12 (ownership: what is still allocated)

* `ReachG refs roots n`: `n` is a root or reachable from a root through `refs` edges.
* `reachFrom` is sound for every fuel, and complete once the fuel covers
  `frontier.length + Σ_{n unseen} (refs n).length` (every step pops one frontier entry; an entry is
  pushed only when its referrer is visited for the first time).
* the fuel `State.aliveSet` uses (`roots.length + Σ_{n < nodes.size} (refsOf n).length + 8`) is exactly
  of that form, so `aliveSet` is the reachable set for every state (`mem_aliveSet_iff`).
-/
namespace IncrVerif.Proofs.Own
open IncrVerif.Engine
open IncrVerif.Proofs.Step (run_bind_ok run_throw)

/-! ## reachability -/

/-- `n` is a root, or reachable from a root through `refs` edges -/
inductive ReachG (refs : Nat → List Nat) (roots : List Nat) : Nat → Prop
  | root {n : Nat} : n ∈ roots → ReachG refs roots n
  | step {m n : Nat} : ReachG refs roots m → n ∈ refs m → ReachG refs roots n

theorem ReachG.mono {refs : Nat → List Nat} {r r' : List Nat} (h : ∀ x, x ∈ r → x ∈ r') {n : Nat}
    (hn : ReachG refs r n) : ReachG refs r' n := by
  induction hn with
  | root hm => exact .root (h _ hm)
  | step _ hc ih => exact .step ih hc

/-- anything satisfying a property closed under `refs` and containing the roots contains `ReachG` -/
theorem ReachG.closed {refs : Nat → List Nat} {roots : List Nat} {P : Nat → Prop}
    (h0 : ∀ n, n ∈ roots → P n) (h1 : ∀ m n, P m → n ∈ refs m → P n) {n : Nat}
    (hn : ReachG refs roots n) : P n := by
  induction hn with
  | root hm => exact h0 _ hm
  | step _ hc ih => exact h1 _ _ ih hc

/-! ## `reachFrom`: soundness (any fuel) -/

theorem reachFrom_sound (refs : Nat → List Nat) (P : Nat → Prop)
    (hstep : ∀ m n, P m → n ∈ refs m → P n) :
    ∀ (fuel : Nat) (frontier seen : List Nat), (∀ n, n ∈ frontier → P n) → (∀ n, n ∈ seen → P n) →
      ∀ n, n ∈ reachFrom refs fuel frontier seen → P n := by
  intro fuel
  induction fuel with
  | zero => intro frontier seen _ hs n hn; exact hs n (by simpa [reachFrom] using hn)
  | succ fuel ih =>
    intro frontier seen hf hs n hn
    cases frontier with
    | nil => exact hs n (by simpa [reachFrom] using hn)
    | cons a rest =>
      rw [reachFrom] at hn
      split at hn
      · exact ih rest seen (fun x hx => hf x (List.mem_cons_of_mem _ hx)) hs n hn
      · refine ih (refs a ++ rest) (a :: seen) ?_ ?_ n hn
        · intro x hx
          rcases List.mem_append.1 hx with hx | hx
          · exact hstep a x (hf a (List.mem_cons_self ..)) hx
          · exact hf x (List.mem_cons_of_mem _ hx)
        · intro x hx
          rcases List.mem_cons.1 hx with rfl | hx
          · exact hf _ (List.mem_cons_self ..)
          · exact hs x hx

/-- `seen` only grows -/
theorem reachFrom_seen (refs : Nat → List Nat) :
    ∀ (fuel : Nat) (frontier seen : List Nat) (n : Nat), n ∈ seen →
      n ∈ reachFrom refs fuel frontier seen := by
  intro fuel
  induction fuel with
  | zero => intro _ _ n hn; simpa [reachFrom] using hn
  | succ fuel ih =>
    intro frontier seen n hn
    cases frontier with
    | nil => simpa [reachFrom] using hn
    | cons a rest =>
      rw [reachFrom]
      split
      · exact ih rest seen n hn
      · exact ih _ _ n (List.mem_cons_of_mem _ hn)

/-! ## `reachFrom`: completeness (enough fuel) -/

/-- what the search may still push: the out-degrees of the nodes in `l` -/
def degSum (refs : Nat → List Nat) (l : List Nat) : Nat := (l.map fun n => (refs n).length).sum

theorem degSum_erase (refs : Nat → List Nat) (l : List Nat) (a : Nat) (h : a ∈ l) :
    degSum refs (l.erase a) + (refs a).length = degSum refs l := by
  induction l with
  | nil => cases h
  | cons b l ih =>
    by_cases hb : b = a
    · subst hb; simp [degSum]; omega
    · have ha : a ∈ l := by
        rcases List.mem_cons.1 h with h | h
        · exact absurd h.symm hb
        · exact h
      have := ih ha
      rw [List.erase_cons_tail (by simpa using hb)]
      simp only [degSum, List.map_cons, List.sum_cons] at this ⊢
      omega

/-- The search with enough fuel returns a set that contains `seen` and `frontier` and is closed
under `refs` on everything it added.  `unseen` lists (at least) the not-yet-seen nodes that have
references; the fuel must cover the frontier plus everything those can still push. -/
theorem reachFrom_complete (refs : Nat → List Nat) :
    ∀ (fuel : Nat) (frontier seen unseen : List Nat),
      (∀ n, n ∉ seen → refs n ≠ [] → n ∈ unseen) →
      frontier.length + degSum refs unseen ≤ fuel →
      (∀ n, n ∈ frontier → n ∈ reachFrom refs fuel frontier seen) ∧
      (∀ m, m ∈ reachFrom refs fuel frontier seen → m ∉ seen →
        ∀ c, c ∈ refs m → c ∈ reachFrom refs fuel frontier seen) := by
  intro fuel
  induction fuel with
  | zero =>
    intro frontier seen unseen _ hfuel
    have : frontier = [] := List.eq_nil_of_length_eq_zero (by omega)
    subst this
    exact ⟨fun n hn => (nomatch hn), fun m hm hms => absurd (by simpa [reachFrom] using hm) hms⟩
  | succ fuel ih =>
    intro frontier seen unseen hun hfuel
    cases frontier with
    | nil => exact ⟨fun n hn => (nomatch hn), fun m hm hms => absurd (by simpa [reachFrom] using hm) hms⟩
    | cons a rest =>
      rw [reachFrom]
      split
      · rename_i hmem
        have ha : a ∈ seen := by simpa using hmem
        obtain ⟨h1, h2⟩ := ih rest seen unseen hun (by simp only [List.length_cons] at hfuel; omega)
        refine ⟨fun n hn => ?_, h2⟩
        rcases List.mem_cons.1 hn with rfl | hn
        · exact reachFrom_seen refs fuel rest seen _ ha
        · exact h1 n hn
      · rename_i hmem
        have ha : a ∉ seen := by simpa using hmem
        have hcost : (refs a ++ rest).length + degSum refs (unseen.erase a) ≤ fuel := by
          simp only [List.length_cons, List.length_append] at hfuel ⊢
          by_cases hau : a ∈ unseen
          · have := degSum_erase refs unseen a hau; omega
          · have hnil : refs a = [] := Classical.byContradiction fun hne => hau (hun a ha hne)
            rw [List.erase_of_not_mem hau, hnil]; simp; omega
        obtain ⟨h1, h2⟩ := ih (refs a ++ rest) (a :: seen) (unseen.erase a) (by
          intro n hn hne
          have hna : n ≠ a := fun e => hn (e ▸ List.mem_cons_self ..)
          have hns : n ∉ seen := fun e => hn (List.mem_cons_of_mem _ e)
          exact (List.mem_erase_of_ne hna).2 (hun n hns hne)) hcost
        refine ⟨fun n hn => ?_, fun m hm hms c hc => ?_⟩
        · rcases List.mem_cons.1 hn with rfl | hn
          · exact reachFrom_seen refs fuel _ _ _ (List.mem_cons_self ..)
          · exact h1 n (List.mem_append_right _ hn)
        · by_cases hma : m = a
          · subst hma; exact h1 c (List.mem_append_left _ hc)
          · exact h2 m hm (by simp [hma, hms]) c hc

/-! ## the alive set of a state -/

/-- reachable from a root of the state through strong references -/
def Reach (s : State) (n : Nat) : Prop := ReachG s.refsOf s.roots n

theorem nodeD_default_kind (s : State) (n : Nat) (h : s.nodes.size ≤ n) :
    (s.nodeD n).kind = .const default := by
  simp [State.nodeD, Array.getElem?_eq_none h]; rfl

/-- nodes that do not exist hold nothing -/
theorem refsOf_out_of_range (s : State) (n : Nat) (h : s.nodes.size ≤ n) : s.refsOf n = [] := by
  simp only [State.refsOf, nodeD_default_kind s n h]

theorem foldl_add_eq (f : Nat → Nat) (l : List Nat) (a : Nat) :
    l.foldl (fun acc n => acc + f n) a = a + (l.map f).sum := by
  induction l generalizing a with
  | nil => simp
  | cons x l ih => simp only [List.foldl_cons, List.map_cons, List.sum_cons, ih]; omega

/-- the fuel of `aliveSet`, in terms of `degSum` -/
theorem aliveSet_eq (s : State) :
    s.aliveSet = reachFrom s.refsOf
      (s.roots.length + degSum s.refsOf (List.range s.nodes.size) + 8) s.roots [] := by
  unfold State.aliveSet degSum
  rw [foldl_add_eq]; simp

theorem aliveSet_sound (s : State) (n : Nat) (h : n ∈ s.aliveSet) : Reach s n :=
  reachFrom_sound s.refsOf (Reach s) (fun _ _ hm hc => .step hm hc) _ s.roots []
    (fun _ hx => .root hx) (fun _ hx => by cases hx) n h

/-- the search is complete for ANY fuel that covers the roots plus all references held by existing
nodes -/
theorem search_complete (s : State) (fuel : Nat)
    (hfuel : s.roots.length + degSum s.refsOf (List.range s.nodes.size) ≤ fuel) (n : Nat)
    (h : Reach s n) : n ∈ reachFrom s.refsOf fuel s.roots [] := by
  have hc := reachFrom_complete s.refsOf fuel s.roots [] (List.range s.nodes.size)
    (by
      intro m _ hne
      refine List.mem_range.2 (Classical.byContradiction fun hge => hne ?_)
      exact refsOf_out_of_range s m (by omega))
    hfuel
  exact ReachG.closed (P := fun n => n ∈ reachFrom s.refsOf fuel s.roots []) hc.1
    (fun m c hm hcm => hc.2 m hm (by simp) c hcm) h

theorem search_sound (s : State) (fuel : Nat) (n : Nat)
    (h : n ∈ reachFrom s.refsOf fuel s.roots []) : Reach s n :=
  reachFrom_sound s.refsOf (Reach s) (fun _ _ hm hc => .step hm hc) _ s.roots []
    (fun _ hx => .root hx) (fun _ hx => by cases hx) n h

theorem aliveSet_complete (s : State) (n : Nat) (h : Reach s n) : n ∈ s.aliveSet := by
  rw [aliveSet_eq]; exact search_complete s _ (by omega) n h

theorem mem_aliveSet_iff (s : State) (n : Nat) : n ∈ s.aliveSet ↔ Reach s n :=
  ⟨aliveSet_sound s n, aliveSet_complete s n⟩

theorem isAlive_iff (s : State) (n : Nat) : s.isAlive n = true ↔ Reach s n := by
  simp only [State.isAlive, List.contains_iff_mem]
  exact mem_aliveSet_iff s n

theorem reachFrom_nil (refs : Nat → List Nat) (fuel : Nat) : reachFrom refs fuel [] [] = [] := by
  cases fuel <;> rfl

/-- fewer roots, same references: fewer nodes alive -/
theorem aliveSet_subset (s s' : State) (hrefs : s'.refsOf = s.refsOf)
    (hroots : ∀ n, n ∈ s'.roots → n ∈ s.roots) (n : Nat) (h : n ∈ s'.aliveSet) : n ∈ s.aliveSet := by
  apply aliveSet_complete s
  have := aliveSet_sound s' n h
  unfold Reach at this ⊢
  rw [hrefs] at this
  exact this.mono hroots

/-! ## roots: how they move when a handle is given up -/

theorem refsOf_congr (s s' : State) (h1 : s'.nodes = s.nodes) (h2 : s'.binds = s.binds)
    (h3 : s'.experts = s.experts) : s'.refsOf = s.refsOf := by
  funext n; simp only [State.refsOf, State.nodeD, h1, h2, h3]

theorem mem_roots (s : State) (n : Nat) : n ∈ s.roots ↔
    (n ∈ s.handles ∨ (∃ k, (k, n) ∈ s.slots) ∨
     (∃ vc, vc ∈ s.vars.toList ∧ (vc.handles > 0 ∨ vc.linked = true) ∧ vc.node = n) ∨
     (∃ ob, ob ∈ s.observers.toList ∧ (ob.clones > 0 ∨ ob.state = .inUse ∨ ob.state = .disallowed)
        ∧ ob.node = n) ∨
     (∃ q, q ∈ s.rch.queues.toList ∧ n ∈ q)) := by
  simp only [State.roots, List.mem_append, List.mem_map, List.mem_filterMap, List.mem_flatten,
    or_assoc]
  constructor
  · rintro (h | ⟨⟨k, m⟩, h, rfl⟩ | ⟨vc, h1, h2⟩ | ⟨ob, h1, h2⟩ | h)
    · exact .inl h
    · exact .inr (.inl ⟨k, h⟩)
    · split at h2
      · rename_i hc; cases h2
        exact .inr (.inr (.inl ⟨vc, h1, by simpa using hc, rfl⟩))
      · cases h2
    · split at h2
      · rename_i hc; cases h2
        exact .inr (.inr (.inr (.inl ⟨ob, h1, by simpa [or_assoc] using hc, rfl⟩)))
      · cases h2
    · exact .inr (.inr (.inr (.inr h)))
  · rintro (h | ⟨k, h⟩ | ⟨vc, h1, h2, rfl⟩ | ⟨ob, h1, h2, rfl⟩ | h)
    · exact .inl h
    · exact .inr (.inl ⟨(k, n), h, rfl⟩)
    · refine .inr (.inr (.inl ⟨vc, h1, ?_⟩))
      rw [if_pos (by simpa using h2)]
    · refine .inr (.inr (.inr (.inl ⟨ob, h1, ?_⟩)))
      rw [if_pos (by simpa [or_assoc] using h2)]
    · exact .inr (.inr (.inr (.inr h)))

/-- membership in a list modified at one position -/
theorem mem_modify_toList {α} (a : Array α) (i : Nat) (f : α → α) (x : α)
    (h : x ∈ (a.modify i f).toList) : x ∈ a.toList ∨ ∃ y, a[i]? = some y ∧ x = f y := by
  rw [Array.mem_toList_iff, Array.mem_iff_getElem?] at h
  obtain ⟨j, hj⟩ := h
  rw [Array.getElem?_modify] at hj
  split at hj
  · cases hy : a[j]? with
    | none => rw [hy] at hj; cases hj
    | some y =>
      rw [hy] at hj; cases hj
      rename_i hij
      exact .inr ⟨y, by rw [hij]; exact hy, rfl⟩
  · exact .inl (by rw [Array.mem_toList_iff, Array.mem_iff_getElem?]; exact ⟨j, hj⟩)

/-- dropping a node handle removes (at most) a root -/
theorem roots_eraseHandle (s : State) (h : Nat) (n : Nat)
    (hn : n ∈ ({ s with handles := s.handles.erase h } : State).roots) : n ∈ s.roots := by
  rw [mem_roots] at hn ⊢
  rcases hn with hn | hn
  · exact .inl (List.mem_of_mem_erase hn)
  · exact .inr hn

/-- changing one observer record in a way that keeps its node and does not give it a new reason to
be held (no extra public handle, not moved into `inUse`/`disallowed` from outside them) adds no root -/
theorem roots_modObs (s s' : State) (o : Nat) (f : ObsRec → ObsRec)
    (hobs : s'.observers = s.observers.modify o f) (hha : s'.handles = s.handles)
    (hsl : s'.slots = s.slots) (hv : s'.vars = s.vars) (hr : s'.rch = s.rch)
    (hnode : ∀ ob, s.observers[o]? = some ob → (f ob).node = ob.node)
    (hcl : ∀ ob, s.observers[o]? = some ob → (f ob).clones ≤ ob.clones)
    (hst : ∀ ob, s.observers[o]? = some ob → (f ob).state = .inUse ∨ (f ob).state = .disallowed →
      ob.state = .inUse ∨ ob.state = .disallowed)
    (n : Nat) (hn : n ∈ s'.roots) : n ∈ s.roots := by
  rw [mem_roots] at hn ⊢
  rw [hobs, hha, hsl, hv, hr] at hn
  rcases hn with hn | hn | hn | ⟨ob, h1, h2, h3⟩ | hn
  · exact .inl hn
  · exact .inr (.inl hn)
  · exact .inr (.inr (.inl hn))
  · refine .inr (.inr (.inr (.inl ?_)))
    rcases mem_modify_toList _ _ _ _ h1 with h1 | ⟨y, hy, rfl⟩
    · exact ⟨ob, h1, h2, h3⟩
    · have hmem : y ∈ s.observers.toList := by
        rw [Array.mem_toList_iff, Array.mem_iff_getElem?]; exact ⟨o, hy⟩
      refine ⟨y, hmem, ?_, (hnode y hy).symm.trans h3⟩
      have := hcl y hy
      rcases h2 with h2 | h2
      · exact .inl (by omega)
      · exact .inr (hst y hy h2)
  · exact .inr (.inr (.inr (.inr hn)))

/-- changing one variable cell in a way that keeps its node, adds no public handle and does not
re-link the `Var ↔ watch` cycle adds no root -/
theorem roots_modVar (s : State) (v : Nat) (f : VarCell → VarCell)
    (hnode : ∀ vc, (f vc).node = vc.node) (hh : ∀ vc, (f vc).handles ≤ vc.handles)
    (hl : ∀ vc, (f vc).linked = true → vc.linked = true)
    (n : Nat) (hn : n ∈ ({ s with vars := s.vars.modify v f } : State).roots) : n ∈ s.roots := by
  rw [mem_roots] at hn ⊢
  rcases hn with hn | hn | ⟨vc, h1, h2, h3⟩ | hn
  · exact .inl hn
  · exact .inr (.inl hn)
  · refine .inr (.inr (.inl ?_))
    rcases mem_modify_toList _ _ _ _ h1 with h1 | ⟨y, hy, rfl⟩
    · exact ⟨vc, h1, h2, h3⟩
    · have hmem : y ∈ s.vars.toList := by
        rw [Array.mem_toList_iff, Array.mem_iff_getElem?]; exact ⟨v, hy⟩
      refine ⟨y, hmem, ?_, (hnode y).symm.trans h3⟩
      have := hh y
      rcases h2 with h2 | h2
      · exact .inl (by omega)
      · exact .inr (hl y h2)
  · exact .inr (.inr (.inr hn))

/-! ## dropping a node handle (`stepAction (.dropHandle o)`) -/

/-- what `resolveOpnd` returns (it never changes the state) -/
def resolve (s : State) (loc : List Nat) : Opnd → Except Panic Nat
  | .outer k => match s.top[k]? with
    | some n => .ok n
    | none => .error (.site "model:bad-outer")
  | .abs n => .ok n
  | .loc j => match loc[j]? with
    | some n => .ok n
    | none => .error (.site "model:bad-local")
  | .slot k => match s.slots.lookup k with
    | some n => .ok n
    | none => .error (.site "model:empty-slot")

theorem resolveOpnd_run (s : State) (loc : List Nat) (o : Opnd) :
    (resolveOpnd loc o).run.run s = (resolve s loc o, s) := by
  cases o with
  | outer k =>
    simp only [resolveOpnd, resolve, run_bind, run_get]
    cases s.top[k]? <;> rfl
  | abs n => rfl
  | loc j =>
    simp only [resolveOpnd, resolve]
    cases loc[j]? <;> rfl
  | slot k =>
    simp only [resolveOpnd, resolve, run_bind, run_get]
    cases s.slots.lookup k <;> rfl

/-- the state after the program drops its handle on node `n` -/
def dropped (s : State) (n : Nat) : State := { s with handles := s.handles.erase n }

theorem dropHandle_run (env : Env) (o : Opnd) (tokens : Array Nat) (s : State) :
    (stepAction env (.dropHandle o) tokens).run.run s =
      match resolve s [] o with
      | .error p => (.error p, s)
      | .ok n =>
        if s.handles.contains n then (.ok ("ok", tokens), dropped s n)
        else (.ok ("noop", tokens), s) := by
  simp only [stepAction, run_bind, resolveOpnd_run]
  cases resolve s [] o with
  | error p => rfl
  | ok n =>
    simp only [run_get]
    by_cases h : s.handles.contains n = true
    · simp only [h, if_true, run_bind, run_modify, run_pure]; rfl
    · simp only [h, Bool.false_eq_true, if_false, run_pure]

/-! ## the drop actions can only shrink the set of roots -/

/-- same strong references, no new root -/
def Shrink (s s' : State) : Prop := s'.refsOf = s.refsOf ∧ ∀ n, n ∈ s'.roots → n ∈ s.roots

instance : Obs.PreOrd Shrink :=
  ⟨fun _ => ⟨rfl, fun _ h => h⟩, fun h1 h2 => ⟨h2.1.trans h1.1, fun n h => h1.2 n (h2.2 n h)⟩⟩

theorem Shrink.of_eq {s s' : State} (h1 : s'.nodes = s.nodes) (h2 : s'.binds = s.binds)
    (h3 : s'.experts = s.experts) (h4 : s'.handles = s.handles) (h5 : s'.slots = s.slots)
    (h6 : s'.vars = s.vars) (h7 : s'.observers = s.observers) (h8 : s'.rch = s.rch) :
    Shrink s s' :=
  ⟨refsOf_congr s s' h1 h2 h3, fun n hn => by simpa only [State.roots, h4, h5, h6, h7, h8] using hn⟩

theorem Shrink.alive {s s' : State} (h : Shrink s s') (n : Nat)
    (hn : n ∈ s'.aliveSet) : n ∈ s.aliveSet := aliveSet_subset s s' h.1 h.2 n hn

theorem shrink_bumpCounter (f) : Obs.Pres Shrink (bumpCounter f) := by
  unfold bumpCounter
  exact Obs.Pres.modify fun s => Shrink.of_eq rfl rfl rfl rfl rfl rfl rfl rfl

theorem shrink_modObs (o : Nat) (f : ObsRec → ObsRec)
    (hnode : ∀ ob, (f ob).node = ob.node) (hcl : ∀ ob, (f ob).clones ≤ ob.clones)
    (hst : ∀ ob, (f ob).state = .inUse ∨ (f ob).state = .disallowed →
      ob.state = .inUse ∨ ob.state = .disallowed) : Obs.Pres Shrink (modObs o f) := by
  unfold modObs
  exact Obs.Pres.modify fun s => ⟨refsOf_congr _ _ rfl rfl rfl,
    roots_modObs s _ o f rfl rfl rfl rfl rfl (fun ob _ => hnode ob) (fun ob _ => hcl ob)
      (fun ob _ => hst ob)⟩

theorem shrink_modVar (v : Nat) (f : VarCell → VarCell)
    (hnode : ∀ vc, (f vc).node = vc.node) (hh : ∀ vc, (f vc).handles ≤ vc.handles)
    (hl : ∀ vc, (f vc).linked = true → vc.linked = true) : Obs.Pres Shrink (modVar v f) := by
  unfold modVar
  exact Obs.Pres.modify fun s => ⟨refsOf_congr _ _ rfl rfl rfl, roots_modVar s v f hnode hh hl⟩

/-- `disallow_future_use`: created ↦ unlinked (the engine never held it), in use ↦ disallowed (the
engine keeps holding it until the next stabilisation): no new root -/
theorem shrink_disallowFutureUse (o : Nat) : Obs.Pres Shrink (disallowFutureUse o) := by
  refine ⟨fun s r s' hrun => ?_⟩
  unfold disallowFutureUse at hrun
  cases hob : s.observers[o]? with
  | none =>
    rw [Obs.run_bind_error (Obs.run_getObs_none hob)] at hrun
    cases hrun; exact Obs.PreOrd.refl s
  | some ob =>
    rw [run_bind_ok (Obs.run_getObs_some hob)] at hrun
    cases hst : ob.state
    all_goals simp only [hst, bumpCounter, modObs, run_bind, run_modify, run_pure] at hrun
    all_goals cases hrun
    · refine ⟨refsOf_congr _ _ rfl rfl rfl, ?_⟩
      refine roots_modObs s _ o (fun x => { x with state := .unlinked, handlers := [] })
        rfl rfl rfl rfl rfl (fun _ _ => rfl) (fun _ _ => Nat.le_refl _) ?_
      intro _ _ h; rcases h with h | h <;> cases h
    · refine ⟨refsOf_congr _ _ rfl rfl rfl, ?_⟩
      refine roots_modObs s _ o (fun x => { x with state := .disallowed })
        rfl rfl rfl rfl rfl (fun _ _ => rfl) (fun _ _ => Nat.le_refl _) ?_
      intro ob' hob' _
      rw [hob] at hob'; cases hob'
      rw [hst]; exact .inl rfl
    · exact Obs.PreOrd.refl s
    · exact Obs.PreOrd.refl s

/-- the three handle-dropping API actions -/
theorem shrink_dropHandle (env : Env) (o : Opnd) (tokens : Array Nat) :
    Obs.Pres Shrink (stepAction env (.dropHandle o) tokens) := by
  refine ⟨fun s r s' hrun => ?_⟩
  rw [dropHandle_run] at hrun
  split at hrun
  · cases hrun; exact Obs.PreOrd.refl s
  · split at hrun
    · cases hrun
      exact ⟨refsOf_congr _ _ rfl rfl rfl, roots_eraseHandle s _⟩
    · cases hrun; exact Obs.PreOrd.refl s

theorem shrink_dropObs (env : Env) (o : Nat) (tokens : Array Nat) :
    Obs.Pres Shrink (stepAction env (.dropObs o) tokens) := by
  simp only [stepAction]
  refine Obs.Pres.bind (Obs.Pres.getObs o) fun ob => ?_
  split
  · exact Obs.Pres.pure _
  · refine Obs.Pres.bind (shrink_modObs _ _ (fun _ => rfl) (fun _ => Nat.sub_le _ _) (fun _ h => h))
      fun _ => ?_
    split
    · exact Obs.Pres.bind (shrink_disallowFutureUse o) fun _ => Obs.Pres.pure _
    · exact Obs.Pres.pure _

/-- dropping a `Var` handle (as an API action or as an effect of user code) -/
theorem shrink_dropVarHandle (v : Nat) : Obs.Pres Shrink (dropVarHandle v) := by
  unfold dropVarHandle
  refine Obs.Pres.bind (Obs.Pres.getVar v) fun vc => ?_
  split
  · exact Obs.Pres.pure _
  · refine Obs.Pres.bind (shrink_modVar _ _ (fun _ => rfl) (fun _ => Nat.sub_le _ _) (fun _ h => h))
      fun _ => ?_
    split
    · exact Obs.Pres.bind (Obs.Pres.modify fun s => Shrink.of_eq rfl rfl rfl rfl rfl rfl rfl rfl)
        fun _ => Obs.Pres.pure _
    · exact Obs.Pres.pure _

theorem shrink_dropVar (env : Env) (v : Nat) (tokens : Array Nat) :
    Obs.Pres Shrink (stepAction env (.dropVar v) tokens) := by
  simp only [stepAction]
  refine Obs.Pres.bind (shrink_dropVarHandle v) fun b => ?_
  split <;> exact Obs.Pres.pure _

/-! ## closed form of dropping a `Var` handle -/

/-- the state after one `Var` handle of `v` (cell `vc`, `vc.handles ≠ 0`) was dropped -/
def varDropped (s : State) (v : Nat) (vc : VarCell) : State :=
  { s with
    vars := s.vars.modify v fun x => { x with handles := x.handles - 1 },
    deadVars := if vc.handles = 1 then s.deadVars ++ [v] else s.deadVars }

theorem dropVarHandle_run (s : State) (v : Nat) (vc : VarCell) (h : s.vars[v]? = some vc) :
    (dropVarHandle v).run.run s =
      (.ok (decide (vc.handles ≠ 0)), if vc.handles = 0 then s else varDropped s v vc) := by
  simp only [dropVarHandle, getVar, run_bind, run_get, h, run_pure]
  by_cases h0 : vc.handles = 0
  · simp only [h0, beq_self_eq_true, if_true, run_pure]; rfl
  · have hb : (vc.handles == 0) = false := by simpa using h0
    have hd : decide (vc.handles ≠ 0) = true := by simpa using h0
    simp only [hd, hb, Bool.false_eq_true, if_false, h0, modVar, run_bind, run_modify]
    by_cases h1 : vc.handles = 1
    · simp only [h1, beq_self_eq_true, if_true, run_bind, run_modify, run_pure, varDropped]
    · have hb1 : (vc.handles == 1) = false := by simpa using h1
      simp only [hb1, h1, Bool.false_eq_true, if_false, run_pure, varDropped]

theorem dropVarHandle_run_none (s : State) (v : Nat) (h : s.vars[v]? = none) :
    (dropVarHandle v).run.run s = (.error (.site "model:no-such-var"), s) := by
  simp only [dropVarHandle, getVar, run_bind, run_get, h, Engine.panic, run_throw]


/-- the effect `.dropVar v` of user code is `dropVarHandle v` with the result discarded -/
theorem dropVar_effect_run (env : Env) (s : State) (v : Nat) (vc : VarCell) (h : s.vars[v]? = some vc) :
    (runEffectBasic env (.dropVar v)).run.run s =
      (.ok (), if vc.handles = 0 then s else varDropped s v vc) := by
  simp only [runEffectBasic, Functor.discard]
  rw [LawfulFunctor.map_const]
  show (Function.const Bool () <$> dropVarHandle v).run.run s = _
  rw [← bind_pure_comp, run_bind, dropVarHandle_run s v vc h]
  rfl

/-- the API action `.dropVar v` -/
theorem dropVar_action_run (env : Env) (tokens : Array Nat) (s : State) (v : Nat) (vc : VarCell)
    (h : s.vars[v]? = some vc) :
    (stepAction env (.dropVar v) tokens).run.run s =
      (.ok (if vc.handles = 0 then "noop" else "ok", tokens),
       if vc.handles = 0 then s else varDropped s v vc) := by
  simp only [stepAction, run_bind, dropVarHandle_run s v vc h]
  by_cases h0 : vc.handles = 0 <;> simp [h0] <;> rfl

theorem varDropped_getElem? (s : State) (v : Nat) (vc : VarCell) (h : s.vars[v]? = some vc) :
    (varDropped s v vc).vars[v]? = some { vc with handles := vc.handles - 1 } := by
  simp [varDropped, Array.getElem?_modify, h]

theorem varDropped_getElem?_ne (s : State) (v w : Nat) (vc : VarCell) (hw : w ≠ v) :
    (varDropped s v vc).vars[w]? = s.vars[w]? := by
  simp [varDropped, Array.getElem?_modify, Ne.symm hw]

/-! ## concrete states for the non-vacuity examples of `Props/C12.lean` -/

/-- variable 0 is node 0 (public handle kept); node 1 maps over node 0, the program holds a handle on
it and observer 0 is in use on it; node 2 is a constant nobody holds; node 3 maps over node 1, nobody
holds a handle on it but it is queued in the recompute heap -/
def exOwn : State :=
  { State.init 4 with
    nodes := #[{ kind := .var 0, createdIn := .top }, { kind := .map 0 [0], createdIn := .top },
               { kind := .const .unit, createdIn := .top },
               { kind := .map 1 [1], createdIn := .top, heightInRch := 1 }],
    vars := #[{ value := .int 5, setAt := 0, node := 0 }],
    observers := #[{ node := 1, state := .inUse }],
    rch := { queues := #[[], [3], [], [], []], length := 1, lowerBound := 1 },
    handles := [1], top := #[0, 1, 2, 3] }

/-- `exOwn` after everything was given up: handle dropped, variable dropped and unlinked, observer
dropped and unlinked, heap drained -/
def exOwnReleased : State :=
  { exOwn with
    handles := [],
    vars := #[{ value := .int 5, setAt := 0, node := 0, handles := 0, linked := false }],
    observers := #[{ node := 1, state := .unlinked, clones := 0 }],
    rch := mkHeap 4 }

/-- three nodes: two constants and a fold that lists node 0 thirty times before node 1; the program
holds the fold only.  (With the fuel `nodes.size * (nodes.size + 2) + roots.length + 8` used before the
repair, the search ran out of fuel among the copies of node 0 and missed node 1.) -/
def exBigFold : State :=
  { State.init 4 with
    nodes := #[{ kind := .const .unit, createdIn := .top }, { kind := .const .unit, createdIn := .top },
               { kind := .fold 0 .unit (List.replicate 30 0 ++ [1]), createdIn := .top }],
    handles := [2], top := #[0, 1, 2] }

end IncrVerif.Proofs.Own
