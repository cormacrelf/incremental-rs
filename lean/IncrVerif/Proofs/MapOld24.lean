import IncrVerif.Proofs.MapOld23
import IncrVerif.Proofs.MapOld16
import IncrVerif.Proofs.MapOld22
/-!
# map_with_old fragment: every API action keeps the invariant (M2), whole histories (M3), what observers read
-/
namespace IncrVerif.Proofs.MapOldH
open IncrVerif.Engine IncrVerif.Driver IncrVerif.Proofs IncrVerif.Proofs.Step IncrVerif.Proofs.Sched IncrVerif.Proofs.Quiet

/-- **the API actions of the fragment static + map_with_old.**  Node creation (`WInstr`): `const v`/`var v`/`fold _ v _`
with `C v`; `map f args` (`f < woBase`; a user function `f < fnZip` without side effects); `zip`; `mapWithOld g i` and the
incremental-map operators `mapOp op` for a machine id in range (`WId`) that satisfies the contract (`Good`); operands
naming top-level nodes.  `observe` of a top-level node, `cloneObs`, `dropObs`, `disallow`; the five writes (written
values satisfy `C`), `get`; `stabilise`, `isStable`, `stats`. -/
def WAction (env : Env) (C : Val → Prop) (sp : Nat → Val → Val) : Action → Prop
  | .create i => WInstr env C sp i
  | .stabilise => True
  | a => WPlain C a

variable {env : Env} {C : Val → Prop} {sp : Nat → Val → Val} {s : State}

/-- **M2.** Every API action of the fragment that returns keeps the invariant. -/
theorem stepW {a : Action} {tk : Array Nat} {r : String × Array Nat} {s' : State} (V : ValOK env C sp)
    (Q : QInvW env C sp s) (ha : WAction env C sp a) (h : (stepAction env a tk).run.run s = (.ok r, s')) :
    QInvW env C sp s' := by
  cases a
  case create i => exact create_keepsW V Q ha h
  case stabilise => exact (stabiliseW V Q (step_stabilise h)).inv
  all_goals (
    simp only [WAction] at ha
    first
      | exact plain_keepsW V Q ha h
      | (simp only [WPlain] at ha))

/-- **M3 (a).** A history of actions of the fragment that runs without panic from a state satisfying the invariant
ends in a state satisfying it. -/
theorem runActionsW {acts : List Action} {s s' : State} {tk tk' : Array Nat} (V : ValOK env C sp)
    (Q : QInvW env C sp s) (ha : ∀ a, a ∈ acts → WAction env C sp a)
    (h : runActions env acts s tk = .ok (s', tk')) : QInvW env C sp s' :=
  Hist.runActions_inv_all (fun _ _ _ _ _ Q ha hx => stepW V Q ha hx) Q ha h

/-- every observer in use reads the from-scratch evaluation (`evalW`: a map_with_old node evaluates to the plain
function of its machine applied to the evaluation of its input) of its node on the current variable values -/
def ReadsOKW (env : Env) (sp : Nat → Val → Val) (s : State) : Prop :=
  ∀ (o : Nat) (ob : ObsRec), s.observers[o]? = some ob → ob.state = .inUse →
    ∀ k, (s.nodeD ob.node).height.toNat < k →
      ∃ v, s.tryGetValue env o = .ok v ∧ evalW env sp s k ob.node = some v

theorem stabilisedW_reads {fuel : Nat} {s s' : State} (R : StabilisedW env C sp fuel s s') :
    ReadsOKW env sp s' ∧ ObsSettled s' ∧ (∀ n, s'.isNecessary n = true → s'.isStale n = false) :=
  Virtual.reads_of_values R.inv.q R.virt.newObservers R.virt.disallowedObservers rfl (fun _ => by rw [virt_nodeD]; rfl) rfl rfl
    R.values

/-- **M3: whole histories.** Every state reached from the initial state by a history of actions of the fragment
static + map_with_old (that runs without panic) satisfies the invariant. -/
theorem historyW {N : Nat} {d : Bool} {acts : List Action} {s : State} {tk : Array Nat} (V : ValOK env C sp)
    (ha : ∀ a, a ∈ acts → WAction env C sp a)
    (h : runActions env acts (State.init N d) #[] = .ok (s, tk)) : QInvW env C sp s :=
  runActionsW V (init_invW env C sp N d) ha h

/-- **M3: every `stabilise` of a history.** At each `stabilise` of a history of actions of the fragment that runs from
the initial state: the state before it satisfies the invariant; the `stabilise` returns a state in which the invariant
holds, no necessary node is stale, EVERY OBSERVER IN USE READS THE FROM-SCRATCH VALUE of its node (`ReadsOKW`), and
every observer is in use or unlinked. -/
theorem historyW_stabilise {N : Nat} {d : Bool} {as bs : List Action} {s : State} {tk : Array Nat}
    (V : ValOK env C sp) (ha : ∀ a, a ∈ as ++ Action.stabilise :: bs → WAction env C sp a)
    (h : runActions env (as ++ Action.stabilise :: bs) (State.init N d) #[] = .ok (s, tk)) :
    ∃ s1 tk1 s2, runActions env as (State.init N d) #[] = .ok (s1, tk1) ∧ QInvW env C sp s1 ∧
      (stabilise env fuelDefault).run.run s1 = (.ok (), s2) ∧ StabilisedW env C sp fuelDefault s1 s2 ∧
      ReadsOKW env sp s2 ∧ ObsSettled s2 ∧ (∀ n, s2.isNecessary n = true → s2.isStale n = false) ∧
      runActions env bs s2 tk1 = .ok (s, tk) := by
  obtain ⟨s1, tk1, s2, h1, Q1, hst, -, h2⟩ :=
    Hist.runActions_stabilise_all (fun _ _ _ _ _ Q ha hx => stepW V Q ha hx) (init_invW env C sp N d) ha h
  have R := stabiliseW V Q1 hst
  obtain ⟨hr, hos, hns⟩ := stabilisedW_reads R
  exact ⟨s1, tk1, s2, h1, Q1, hst, R, hr, hos, hns, h2⟩

end IncrVerif.Proofs.MapOldH
