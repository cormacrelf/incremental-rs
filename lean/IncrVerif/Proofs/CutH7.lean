import IncrVerif.Proofs.CutH1
-- static programs with ARBITRARY cutoffs; `Proofs/Quiet1.lean` (default cutoffs) takes its lemmas from this file; overview in Props/C06History.lean
/-!
# Whole-history theorem for static programs, part 1: the structural invariant

Definitions:
* `AllStatic env s`: the fragment — every node is valid, of static kind (`const`, `var`, pure `map`, `fold`),
  (ANY cutoff), was created at top level, is not forced necessary, and its children were
  created before it; no fault armed; the current scope is the top level.
* `Op`, `Wants`, `GInv env s op`: the structural invariant *with open nodes*.  `op n = .linking k`: node
  `n` is inside `becameNecessary`, exactly its first `k` child edges are recorded; `op n = .unlinking k`:
  `n` is inside `becameUnnecessary`, exactly its child edges from index `k` on are still recorded;
  `op n = .closed`: exactly the child edges of necessary nodes are recorded.
* `Struct env s := GInv env s (fun _ => .closed)`: the invariant at rest.  It implies the structural fields
  of `Sched.Graph` and `Sched.HeapInv`.
-/
namespace IncrVerif.Proofs.CutH
open IncrVerif.Engine IncrVerif.Proofs IncrVerif.Proofs.Step IncrVerif.Proofs.Sched

/-! ## the fragment -/

structure StaticNode (env : Env) (s : State) (n : Nat) : Prop where
  valid : (s.nodeD n).valid = true
  kind : StaticKind env (s.nodeD n).kind
  top : (s.nodeD n).createdIn = .top
  force : (s.nodeD n).forceNecessary = false
  kidsLt : ∀ c, c ∈ kids (s.nodeD n).kind → c < n

structure AllStatic (env : Env) (s : State) : Prop where
  pc : s.panicCountdown = none
  scope : s.currentScope = .top
  node : ∀ n, n < s.nodes.size → StaticNode env s n

/-! ## open nodes -/

inductive Op where
  | closed
  | linking (k : Nat)
  | unlinking (k : Nat)
deriving DecidableEq, Repr

/-- should the child edge `i` of node `p` be recorded (in the parent list of the child)? -/
def Wants (s : State) (op : Nat → Op) (p i : Nat) : Prop :=
  match op p with
  | .closed => s.isNecessary p = true
  | .linking k => i < k
  | .unlinking k => k ≤ i

def upd (op : Nat → Op) (n : Nat) (x : Op) : Nat → Op := fun m => if m = n then x else op m

theorem upd_self (op : Nat → Op) (n : Nat) (x : Op) : upd op n x n = x := by simp [upd]
theorem upd_other (op : Nat → Op) (n : Nat) (x : Op) {m : Nat} (h : m ≠ n) : upd op n x m = op m := by
  simp [upd, h]
theorem upd_upd (op : Nat → Op) (n : Nat) (x y : Op) : upd (upd op n x) n y = upd op n y := by
  funext m; simp only [upd]; split <;> rfl
theorem upd_eq_self (op : Nat → Op) (n : Nat) (x : Op) (h : op n = x) : upd op n x = op := by
  funext m; simp only [upd]; split
  · rename_i e; rw [e, h]
  · rfl
theorem upd_comm (op : Nat → Op) {n m : Nat} (x y : Op) (h : n ≠ m) :
    upd (upd op n x) m y = upd (upd op m y) n x := by
  funext k; simp only [upd]
  by_cases h1 : k = m <;> by_cases h2 : k = n <;> simp only [h1, h2, if_true, if_false]
  · subst h1; subst h2; exact absurd rfl h
  · rw [← h1, if_neg h2]
  · rw [← h2, if_neg h1]

theorem wants_closed {s : State} {op : Nat → Op} {p i : Nat} (h : op p = .closed) :
    Wants s op p i ↔ s.isNecessary p = true := by simp [Wants, h]
theorem wants_linking {s : State} {op : Nat → Op} {p i k : Nat} (h : op p = .linking k) :
    Wants s op p i ↔ i < k := by simp [Wants, h]
theorem wants_unlinking {s : State} {op : Nat → Op} {p i k : Nat} (h : op p = .unlinking k) :
    Wants s op p i ↔ k ≤ i := by simp [Wants, h]

/-! ## the recompute heap, without reference to necessity -/

structure HeapG (s : State) : Prop where
  wf : HeapWF s
  lb : ∀ m, (s.nodeD m).inRch = true → s.rch.lowerBound ≤ (s.nodeD m).heightInRch
  lb0 : 0 ≤ s.rch.lowerBound

/-! ## the structural invariant with open nodes -/

structure GInv (env : Env) (s : State) (op : Nat → Op) : Prop where
  static : AllStatic env s
  /-- recorded parent entries are real child edges that should be recorded -/
  par : ∀ c p i, (p, i) ∈ (s.nodeD c).parents →
    (kids (s.nodeD p).kind)[i]? = some c ∧ Wants s op p i
  /-- child edges that should be recorded are -/
  conv : ∀ p i c, (kids (s.nodeD p).kind)[i]? = some c → Wants s op p i → (p, i) ∈ (s.nodeD c).parents
  nodup : ∀ c, (s.nodeD c).parents.Nodup
  /-- children of closed nodes are strictly lower -/
  hlt : ∀ c p i, (p, i) ∈ (s.nodeD c).parents → op p = .closed →
    (s.nodeD c).height < (s.nodeD p).height
  hpos : ∀ n, s.isNecessary n = true → op n = .closed → 0 ≤ (s.nodeD n).height
  lnec : ∀ p k, op p = .linking k → s.isNecessary p = true ∧ (s.nodeD p).inRch = false
  unec : ∀ p k, op p = .unlinking k → s.isNecessary p = false
  heap : HeapG s
  hgt : ∀ m, (s.nodeD m).inRch = true → op m = .closed → (s.nodeD m).heightInRch = (s.nodeD m).height
  qnec : ∀ m, (s.nodeD m).inRch = true → s.isNecessary m = true ∨ ∃ k, op m = .unlinking k
  /-- closed necessary stale nodes are queued -/
  queued : ∀ m, op m = .closed → s.isNecessary m = true → staleOf s m = true → (s.nodeD m).inRch = true
  /-- only stale nodes are queued -/
  qstale : ∀ m, (s.nodeD m).inRch = true → staleOf s m = true
  opLt : ∀ m, op m ≠ .closed → m < s.nodes.size

def allClosed : Nat → Op := fun _ => .closed

/-- the structural invariant at rest -/
def Struct (env : Env) (s : State) : Prop := GInv env s allClosed

/-! ## basic facts -/

namespace GInv
variable {env : Env} {s : State} {op : Nat → Op}

theorem node (I : GInv env s op) {n : Nat} (h : n < s.nodes.size) : StaticNode env s n :=
  I.static.node n h

theorem kid_lt (I : GInv env s op) {p i c : Nat} (h : (kids (s.nodeD p).kind)[i]? = some c) : c < p := by
  by_cases hp : p < s.nodes.size
  · exact (I.node hp).kidsLt c (getElem?_mem_kids h)
  · rw [nodeD_default s p (by omega)] at h
    simp [kids] at h
    cases h

theorem par_lt (I : GInv env s op) {c p i : Nat} (h : (p, i) ∈ (s.nodeD c).parents) : c < p :=
  I.kid_lt (I.par c p i h).1

theorem par_lt_size (I : GInv env s op) {c p i : Nat} (h : (p, i) ∈ (s.nodeD c).parents) :
    p < s.nodes.size := by
  by_cases hp : p < s.nodes.size
  · exact hp
  · have := (I.par c p i h).1
    rw [nodeD_default s p (by omega)] at this
    simp [kids] at this
    cases this

theorem isStale (I : GInv env s op) {m : Nat} (hm : m < s.nodes.size) : s.isStale m = staleOf s m :=
  isStale_static s m (I.node hm).valid (I.node hm).kind

theorem children (I : GInv env s op) {m : Nat} (hm : m < s.nodes.size) :
    s.children m = kids (s.nodeD m).kind :=
  children_eq_kids s m (I.node hm).valid (I.node hm).kind

end GInv

/-! ## `Struct` gives the structural part of the scheduling invariant -/

/-- var nodes and var cells name each other -/
structure VarsOK (s : State) : Prop where
  node : ∀ n c, n < s.nodes.size → (s.nodeD n).kind = .var c → ∃ vc, s.vars[c]? = some vc ∧ vc.node = n
  cell : ∀ c vc, s.vars[c]? = some vc → vc.node < s.nodes.size ∧ (s.nodeD vc.node).kind = .var c

theorem Struct.heapInv {env : Env} {s : State} (I : Struct env s) : HeapInv s where
  wf := I.heap.wf
  hgt m hm := I.hgt m hm rfl
  lb m hm := by rw [← I.hgt m hm rfl]; exact I.heap.lb m hm
  lb0 := I.heap.lb0
  nec m hm := by
    rcases I.qnec m hm with h | ⟨k, h⟩
    · exact h
    · cases h

theorem Struct.graph {env : Env} {s : State} (I : Struct env s) (V : VarsOK s) : Graph env s where
  pc := I.static.pc
  nec n hn := by
    have hlt := nec_lt_size hn
    have sn := I.node hlt
    exact ⟨hlt, sn.valid, sn.kind, I.hpos n hn rfl⟩
  var n c hn hk := by
    obtain ⟨vc, h, -⟩ := V.node n c (nec_lt_size hn) hk
    exact ⟨vc, h⟩
  child n hn i c hk := by
    have hm := I.conv n i c hk ((wants_closed rfl).2 hn)
    exact ⟨nec_of_mem_parents hm, hm, I.hlt c n i hm rfl⟩
  parent c p i h := by
    obtain ⟨h1, h2⟩ := I.par c p i h
    exact ⟨(wants_closed rfl).1 h2, h1⟩

/-- at rest the heap holds exactly the necessary stale nodes -/
theorem Struct.queued_iff {env : Env} {s : State} (I : Struct env s) (m : Nat) :
    (s.nodeD m).inRch = true ↔ (s.isNecessary m = true ∧ s.isStale m = true) := by
  constructor
  · intro h
    have hn := I.heapInv.nec m h
    rw [GInv.isStale I (nec_lt_size hn)]
    exact ⟨hn, I.qstale m h⟩
  · rintro ⟨hn, hs⟩
    rw [GInv.isStale I (nec_lt_size hn)] at hs
    exact I.queued m rfl hn hs

/-! ## what the invariant reads of a state -/

structure NodeG (a b : Node) : Prop where
  valid : b.valid = a.valid
  kind : b.kind = a.kind
  cutoff : b.cutoff = a.cutoff
  createdIn : b.createdIn = a.createdIn
  forceNecessary : b.forceNecessary = a.forceNecessary
  parents : b.parents = a.parents
  observers : b.observers = a.observers
  height : b.height = a.height
  heightInRch : b.heightInRch = a.heightInRch
  recomputedAt : b.recomputedAt = a.recomputedAt
  changedAt : b.changedAt = a.changedAt

theorem NodeG.refl (a : Node) : NodeG a a := ⟨rfl, rfl, rfl, rfl, rfl, rfl, rfl, rfl, rfl, rfl, rfl⟩

structure SameG (s s' : State) : Prop where
  pc : s'.panicCountdown = s.panicCountdown
  scope : s'.currentScope = s.currentScope
  size : s'.nodes.size = s.nodes.size
  rch : s'.rch = s.rch
  vars : s'.vars = s.vars
  node : ∀ m, NodeG (s.nodeD m) (s'.nodeD m)

theorem SameG.refl (s : State) : SameG s s := ⟨rfl, rfl, rfl, rfl, rfl, fun _ => NodeG.refl _⟩

theorem SameG.of_nodes {s s' : State} (h1 : s'.nodes = s.nodes) (h2 : s'.panicCountdown = s.panicCountdown)
    (h3 : s'.currentScope = s.currentScope) (h4 : s'.rch = s.rch) (h5 : s'.vars = s.vars) : SameG s s' := by
  refine ⟨h2, h3, by rw [h1], h4, h5, fun m => ?_⟩
  have : s'.nodeD m = s.nodeD m := by simp [State.nodeD, h1]
  rw [this]; exact NodeG.refl _

theorem SameG.nec {s s' : State} (h : SameG s s') (m : Nat) : s'.isNecessary m = s.isNecessary m := by
  simp only [State.isNecessary, Node.isNecessary, (h.node m).parents, (h.node m).observers,
    (h.node m).forceNecessary]

theorem SameG.inRch {s s' : State} (h : SameG s s') (m : Nat) : (s'.nodeD m).inRch = (s.nodeD m).inRch := by
  simp only [Node.inRch, (h.node m).heightInRch]

theorem SameG.staleOf {s s' : State} (h : SameG s s') (m : Nat) : staleOf s' m = staleOf s m :=
  staleOf_congr (h.node m).kind (h.node m).recomputedAt h.vars (fun c _ => (h.node c).changedAt)

theorem SameG.wants {s s' : State} (h : SameG s s') (op : Nat → Op) (p i : Nat) :
    Wants s' op p i ↔ Wants s op p i := by
  unfold Wants; rw [h.nec]

theorem HeapG.congr {s s' : State} (h : HeapG s) (hr : s'.rch = s.rch) (hsz : s'.nodes.size = s.nodes.size)
    (hm : ∀ m, (s'.nodeD m).heightInRch = (s.nodeD m).heightInRch) : HeapG s' := by
  refine ⟨HeapWF_congr h.wf hr hsz hm, ?_, by rw [hr]; exact h.lb0⟩
  intro m hq
  have : (s.nodeD m).inRch = true := by simpa only [Node.inRch, hm m] using hq
  rw [hr, hm m]; exact h.lb m this

/-- as `NodeG`, without the cutoff: the structural invariant does not read cutoffs -/
structure NodeGC (a b : Node) : Prop where
  valid : b.valid = a.valid
  kind : b.kind = a.kind
  createdIn : b.createdIn = a.createdIn
  forceNecessary : b.forceNecessary = a.forceNecessary
  parents : b.parents = a.parents
  observers : b.observers = a.observers
  height : b.height = a.height
  heightInRch : b.heightInRch = a.heightInRch
  recomputedAt : b.recomputedAt = a.recomputedAt
  changedAt : b.changedAt = a.changedAt

theorem NodeG.toC {a b : Node} (h : NodeG a b) : NodeGC a b :=
  ⟨h.valid, h.kind, h.createdIn, h.forceNecessary, h.parents, h.observers, h.height, h.heightInRch,
    h.recomputedAt, h.changedAt⟩

structure SameC (s s' : State) : Prop where
  pc : s'.panicCountdown = s.panicCountdown
  scope : s'.currentScope = s.currentScope
  size : s'.nodes.size = s.nodes.size
  rch : s'.rch = s.rch
  vars : s'.vars = s.vars
  node : ∀ m, NodeGC (s.nodeD m) (s'.nodeD m)

theorem SameG.toC {s s' : State} (h : SameG s s') : SameC s s' :=
  ⟨h.pc, h.scope, h.size, h.rch, h.vars, fun m => (h.node m).toC⟩

theorem SameC.nec {s s' : State} (h : SameC s s') (m : Nat) : s'.isNecessary m = s.isNecessary m := by
  simp only [State.isNecessary, Node.isNecessary, (h.node m).parents, (h.node m).observers,
    (h.node m).forceNecessary]

theorem SameC.inRch {s s' : State} (h : SameC s s') (m : Nat) : (s'.nodeD m).inRch = (s.nodeD m).inRch := by
  simp only [Node.inRch, (h.node m).heightInRch]

theorem SameC.staleOf {s s' : State} (h : SameC s s') (m : Nat) : staleOf s' m = staleOf s m :=
  staleOf_congr (h.node m).kind (h.node m).recomputedAt h.vars (fun c _ => (h.node c).changedAt)

theorem SameC.wants {s s' : State} (h : SameC s s') (op : Nat → Op) (p i : Nat) :
    Wants s' op p i ↔ Wants s op p i := by
  unfold Wants; rw [h.nec]

theorem GInv.congrC {env : Env} {s s' : State} {op : Nat → Op} (I : GInv env s op) (h : SameC s s') :
    GInv env s' op where
  static := by
    refine ⟨by rw [h.pc]; exact I.static.pc, by rw [h.scope]; exact I.static.scope, fun n hn => ?_⟩
    have sn := I.static.node n (by rw [← h.size]; exact hn)
    have g := h.node n
    exact ⟨by rw [g.valid]; exact sn.valid, by rw [g.kind]; exact sn.kind,
      by rw [g.createdIn]; exact sn.top, by rw [g.forceNecessary]; exact sn.force,
      by rw [g.kind]; exact sn.kidsLt⟩
  par c p i hm := by
    rw [(h.node c).parents] at hm
    rw [(h.node p).kind, h.wants]
    exact I.par c p i hm
  conv p i c hk hw := by
    rw [(h.node p).kind] at hk
    rw [h.wants] at hw
    rw [(h.node c).parents]
    exact I.conv p i c hk hw
  nodup c := by rw [(h.node c).parents]; exact I.nodup c
  hlt c p i hm ho := by
    rw [(h.node c).parents] at hm
    rw [(h.node c).height, (h.node p).height]
    exact I.hlt c p i hm ho
  hpos n hn ho := by
    rw [h.nec] at hn
    rw [(h.node n).height]; exact I.hpos n hn ho
  lnec p k ho := by rw [h.nec, h.inRch]; exact I.lnec p k ho
  unec p k ho := by rw [h.nec]; exact I.unec p k ho
  heap := I.heap.congr h.rch h.size (fun m => (h.node m).heightInRch)
  hgt m hq ho := by
    rw [h.inRch] at hq
    rw [(h.node m).heightInRch, (h.node m).height]; exact I.hgt m hq ho
  qnec m hq := by
    rw [h.inRch] at hq
    rw [h.nec]; exact I.qnec m hq
  queued m ho hn hs := by
    rw [h.nec] at hn
    rw [h.staleOf] at hs
    rw [h.inRch]; exact I.queued m ho hn hs
  qstale m hq := by
    rw [h.inRch] at hq
    rw [h.staleOf]; exact I.qstale m hq
  opLt m ho := by rw [h.size]; exact I.opLt m ho

theorem GInv.congr {env : Env} {s s' : State} {op : Nat → Op} (I : GInv env s op) (h : SameG s s') :
    GInv env s' op := I.congrC h.toC

end IncrVerif.Proofs.CutH
