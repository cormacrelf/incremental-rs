import IncrVerif.Proofs.BindH5
/-!
# Binds, part 3c: a run of a static or bind-main node re-establishes the drain invariant (pure logic)
-/
namespace IncrVerif.Proofs.BindH
open IncrVerif.Engine IncrVerif.Proofs IncrVerif.Proofs.Step IncrVerif.Proofs.Sched

/-! ## congruences -/

/-- the child list of a node only depends on kind, validity and — for bind kinds — the bind table -/
theorem children_congr_kind {s s' : State} {n : Nat} (hk : (s'.nodeD n).kind = (s.nodeD n).kind)
    (hv : (s'.nodeD n).valid = (s.nodeD n).valid) (hb : s'.binds = s.binds)
    (hne : ∀ e, (s.nodeD n).kind ≠ .expert e) : s'.children n = s.children n := by
  unfold State.children Node.kind?
  rw [hk, hv, hb]
  cases hvv : (s.nodeD n).valid
  · rfl
  · cases h : (s.nodeD n).kind <;> first | rfl | exact absurd h (hne _)

theorem BKind.not_expert {env : Env} {k : Kind} (h : BKind env k) (e : Nat) : k ≠ .expert e := by
  intro h'; subst h'; exact h

theorem plainVals_congr {s s' : State} (args : List Nat)
    (h : ∀ a, a ∈ args → (s'.nodeD a).value = (s.nodeD a).value) : plainVals s' args = plainVals s args :=
  evalArgs_congr _ _ _ h

/-- the defining equation only reads the node's kind, the cells, the bind table and the children's values -/
theorem TargetB.congr {env : Env} {s s' : State} {m : Nat} {w : Val}
    (hv : (s.nodeD m).valid = true) (hB : BKind env (s.nodeD m).kind)
    (hk : (s'.nodeD m).kind = (s.nodeD m).kind) (hvars : s'.vars = s.vars) (hb : s'.binds = s.binds)
    (hc : ∀ c, c ∈ s.children m → (s'.nodeD c).value = (s.nodeD c).value)
    (h : TargetB env s m w) : TargetB env s' m w := by
  have hch : ∀ c, c ∈ s.children m → c ∈ s.children m := fun _ h => h
  unfold TargetB at h ⊢
  rw [hk]
  cases hkd : (s.nodeD m).kind with
  | bindLhsChange b => rw [hkd] at h; exact h
  | bindMain b lc =>
    rw [hkd] at h
    obtain ⟨br, r, h1, h2, h3⟩ := h
    refine ⟨br, r, by rw [hb]; exact h1, h2, ?_⟩
    rw [hc r ?_]; exact h3
    unfold State.children Node.kind?
    rw [hv, hkd]
    simp only [if_true, h1, h2]
    simp
  | const w' => rw [hkd] at h; simpa only [Target, hk, hkd] using h
  | var c =>
    rw [hkd] at h
    simp only [Target, hk, hkd, hvars] at h ⊢
    exact h
  | map f args =>
    rw [hkd] at h
    have hcs : s.children m = args := by
      unfold State.children Node.kind?; rw [hv, hkd]; rfl
    simp only [Target, hk, hkd] at h ⊢
    obtain ⟨vals, h1, h2⟩ := h
    exact ⟨vals, by rw [plainVals_congr args (fun a ha => hc a (by rw [hcs]; exact ha))]; exact h1, h2⟩
  | fold f init cs =>
    rw [hkd] at h
    have hcs : s.children m = cs := by
      unfold State.children Node.kind?; rw [hv, hkd]; rfl
    simp only [Target, hk, hkd] at h ⊢
    obtain ⟨vals, h1, h2⟩ := h
    exact ⟨vals, by rw [plainVals_congr cs (fun a ha => hc a (by rw [hcs]; exact ha))]; exact h1, h2⟩
  | mapRef _ _ => rw [hkd] at hB; exact hB.elim
  | mapWithOld _ _ => rw [hkd] at hB; exact hB.elim
  | expert _ => rw [hkd] at hB; exact hB.elim

/-! ## what `StepRelB` keeps -/

section
variable {env : Env} {n : Nat} {v : Val} {ch : Bool} {r : Option Nat} {s s' : State}

theorem StepRelB.shapes (R : StepRelB n v ch r s s') (m : Nat) : SameShape (s.nodeD m) (s'.nodeD m) := by
  by_cases h : m = n
  · rw [h]; exact R.shape
  · exact SameShape.of_nodeSame (R.other m h)

theorem StepRelB.nec (R : StepRelB n v ch r s s') (m : Nat) : s'.isNecessary m = s.isNecessary m :=
  (R.shapes m).isNecessary

theorem StepRelB.children (R : StepRelB n v ch r s s') (g : BGraph env s) (m : Nat) :
    s'.children m = s.children m := by
  by_cases hm : m < s.nodes.size
  · cases hv : (s.nodeD m).valid with
    | true =>
      exact children_congr_kind (R.shapes m).kind (R.shapes m).valid R.binds
        (fun e => (g.node m hm hv).1.not_expert e)
    | false =>
      unfold State.children Node.kind?
      rw [(R.shapes m).valid, hv]
      rfl
  · unfold State.children
    rw [nodeD_default_of_ge s m (by omega), nodeD_default_of_ge s' m (by rw [R.size]; omega)]
    rfl

theorem StepRelB.edge (R : StepRelB n v ch r s s') (g : BGraph env s) {a c : Nat} :
    Edge s' a c ↔ Edge s a c := by
  constructor
  · intro h
    cases h with
    | child hc => rw [R.children g] at hc; exact Edge.child hc
    | scope hv hsc hb =>
      rw [(R.shapes a).valid] at hv
      rw [(R.shapes a).createdIn] at hsc
      rw [R.binds] at hb
      exact Edge.scope hv hsc hb
  · intro h
    cases h with
    | child hc => rw [← R.children g] at hc; exact Edge.child hc
    | scope hv hsc hb =>
      rw [← (R.shapes a).valid] at hv
      rw [← (R.shapes a).createdIn] at hsc
      rw [← R.binds] at hb
      exact Edge.scope hv hsc hb

theorem StepRelB.below (R : StepRelB n v ch r s s') (g : BGraph env s) {a d : Nat} :
    Below s' a d ↔ Below s a d := by
  constructor
  · intro h
    induction h with
    | refl => exact Below.refl _
    | step he _ ih => exact Below.step ((R.edge g).1 he) ih
  · intro h
    induction h with
    | refl => exact Below.refl _
    | step he _ ih => exact Below.step ((R.edge g).2 he) ih

theorem StepRelB.graph (R : StepRelB n v ch r s s') (g : BGraph env s) : BGraph env s' where
  pc := R.pc
  node m hm hv := by
    rw [R.size] at hm
    rw [(R.shapes m).valid] at hv
    obtain ⟨h1, h2, h3⟩ := g.node m hm hv
    refine ⟨by rw [(R.shapes m).kind]; exact h1, by rw [(R.shapes m).cutoff]; exact h2, ?_⟩
    intro c hc
    rw [R.children g] at hc
    rw [R.size, (R.shapes c).valid]
    exact h3 c hc
  nec m hm := by
    rw [R.nec] at hm
    rw [(R.shapes m).valid, (R.shapes m).height]
    exact g.nec m hm
  var m c hm hv hk := by
    rw [R.size] at hm
    rw [(R.shapes m).valid] at hv
    rw [(R.shapes m).kind] at hk
    rw [R.vars]
    exact g.var m c hm hv hk
  child m hm i c hc := by
    rw [R.nec] at hm
    rw [R.children g] at hc
    rw [R.nec, (R.shapes c).parents, (R.shapes c).height, (R.shapes m).height]
    exact g.child m hm i c hc
  parent c p i h := by
    rw [(R.shapes c).parents] at h
    rw [R.nec, R.children g]
    exact g.parent c p i h
  scope m b hm hv hsc := by
    rw [R.size] at hm
    rw [(R.shapes m).valid] at hv
    rw [(R.shapes m).createdIn] at hsc
    obtain ⟨br, h1, h2, h3, h4⟩ := g.scope m b hm hv hsc
    refine ⟨br, by rw [R.binds]; exact h1, by rw [R.size]; exact h2,
      by rw [(R.shapes _).valid]; exact h3, ?_⟩
    rw [R.nec, R.nec, (R.shapes _).height, (R.shapes m).height]
    exact h4
  lcRec m b hm hv hk := by
    rw [R.size] at hm
    rw [(R.shapes m).valid] at hv
    rw [(R.shapes m).kind] at hk
    rw [R.binds]
    exact g.lcRec m b hm hv hk
  mainRec m b lc hm hv hk := by
    rw [R.size] at hm
    rw [(R.shapes m).valid] at hv
    rw [(R.shapes m).kind] at hk
    rw [R.binds, (R.shapes lc).createdIn, (R.shapes m).createdIn]
    exact g.mainRec m b lc hm hv hk
  lcChild m c b hm hv hc hk := by
    rw [R.size] at hm
    rw [(R.shapes m).valid] at hv
    rw [R.children g] at hc
    rw [(R.shapes c).kind] at hk
    rw [(R.shapes m).kind]
    exact g.lcChild m c b hm hv hc hk
  acyc := by
    obtain ⟨rk, h⟩ := g.acyc
    exact ⟨rk, fun a c he => h a c ((R.edge g).1 he)⟩

end

/-! ## the step -/

section
variable {env : Env} {n : Nat} {v : Val} {ch : Bool} {r : Option Nat} {s s' : State}

theorem stepB_changedAt_le (I : DInv env s (some n)) (R : StepRelB n v ch r s s') (c : Nat) :
    (s.nodeD c).changedAt ≤ (s'.nodeD c).changedAt := by
  by_cases h : c = n
  · subst h
    rw [R.changedAt]
    split
    · exact (I.stamps.node c).2
    · exact Int.le_refl _
  · rw [(R.other c h).changedAt]; exact Int.le_refl _

/-- the node that ran is necessary, valid, in range -/
theorem DInv.cur_facts (I : DInv env s (some n)) :
    s.isNecessary n = true ∧ n < s.nodes.size ∧ (s.nodeD n).valid = true ∧ (s.nodeD n).inRch = false ∧
      (s.nodeD n).recomputedAt < s.stabNum := by
  obtain ⟨h1, h2⟩ := I.cur n rfl
  exact ⟨h1, I.graph.nec_lt h1, (I.graph.nec n h1).1, h2 n (Below.refl n),
    I.fresh n n (Below.refl n) (Or.inr rfl)⟩

theorem stepB_self_fresh (I : DInv env s (some n)) (R : StepRelB n v ch r s s') : s'.isStale n = false := by
  obtain ⟨hn, hlt, hv, -, -⟩ := I.cur_facts
  have hk : BKind env (s'.nodeD n).kind := by rw [R.shape.kind]; exact (I.graph.node n hlt hv).1
  apply isStale_fresh hk (by rw [R.stabNum]; exact I.stamps.now) (by rw [R.recomputedAt, R.stabNum])
  · intro c vc h
    rw [R.vars] at h
    rw [R.stabNum]; exact I.stamps.var c vc h
  · intro c
    rw [R.stabNum]
    by_cases h : c = n
    · subst h
      rw [R.changedAt]
      split
      · exact Int.le_refl _
      · exact (I.stamps.node c).2
    · rw [(R.other c h).changedAt]; exact (I.stamps.node c).2

/-- staleness of the other nodes: unchanged unless `n` changed and is a child -/
theorem stepB_stale_other (I : DInv env s (some n)) (R : StepRelB n v ch r s s') {m : Nat} (hm : m ≠ n)
    (hlt : m < s.nodes.size) (hv : (s.nodeD m).valid = true) :
    (s'.isStale m = s.isStale m ∧ (ch = false ∨ n ∉ s.children m)) ∨
      (ch = true ∧ n ∈ s.children m ∧ s'.isStale m = true) := by
  have g := I.graph
  have hB := (g.node m hlt hv).1
  by_cases hc : ch = true ∧ n ∈ s.children m
  · right
    refine ⟨hc.1, hc.2, ?_⟩
    have hfr := I.fresh m n (Below.of_edge (Edge.child hc.2)) (Or.inr rfl)
    apply isStale_of_child (c := n)
    · rw [(R.shapes m).valid]; exact hv
    · rw [R.children g]; exact hc.2
    · rw [R.changedAt, if_pos hc.1, (R.other m hm).recomputedAt]; exact hfr
  · left
    refine ⟨?_, ?_⟩
    · apply isStale_congr hB (R.shapes m).kind (R.shapes m).valid (R.other m hm).recomputedAt
        (fun c => by rw [R.vars]) (R.children g m)
      intro c hcm
      by_cases e : c = n
      · subst e
        rw [R.changedAt]
        split
        · rename_i h1; exact absurd ⟨h1, hcm⟩ hc
        · rfl
      · exact (R.other c e).changedAt
    · by_cases h1 : ch = true
      · exact Or.inr (fun h2 => hc ⟨h1, h2⟩)
      · left; cases ch <;> simp_all

theorem stepB_stale_mono (I : DInv env s (some n)) (R : StepRelB n v ch r s s') {m : Nat} (hm : m ≠ n)
    (h : s.isStale m = true) : s'.isStale m = true := by
  have hv := valid_of_isStale h
  by_cases hlt : m < s.nodes.size
  · rcases stepB_stale_other I R hm hlt hv with ⟨h1, -⟩ | ⟨-, -, h1⟩
    · rw [h1]; exact h
    · exact h1
  · -- out of range: the default node in both states
    have : s'.isStale m = s.isStale m := by
      unfold State.isStale State.children
      rw [nodeD_default_of_ge s m (by omega), nodeD_default_of_ge s' m (by rw [R.size]; omega)]
      rfl
    rw [this]; exact h

/-- **A run of a static or bind-main node re-establishes the drain invariant**, with the node handed over for
direct recomputation (if any) as the new current node. -/
theorem stepB_inv (I : DInv env s (some n)) (ht : TargetB env s n v) (R : StepRelB n v ch r s s') :
    DInv env s' r := by
  have g := I.graph
  have g' := R.graph g
  obtain ⟨hn, hnlt, hnv, hnq, hnr⟩ := I.cur_facts
  have hself := stepB_self_fresh I R
  -- a parent entry of `n` is an edge into `n`
  have hpar : ∀ p, p ∈ (s.nodeD n).parents.map (·.1) → s.isNecessary p = true ∧ n ∈ s.children p := by
    intro p hp
    obtain ⟨⟨p', i⟩, hmem, rfl⟩ := List.mem_map.1 hp
    obtain ⟨h1, h2⟩ := g.parent n p' i hmem
    exact ⟨h1, List.mem_of_getElem? h2⟩
  -- nothing below `n` is queued afterwards either
  have hbelow_n : ∀ d, Below s n d → (s'.nodeD d).inRch = false := by
    intro d hd
    cases hq : (s'.nodeD d).inRch with
    | false => rfl
    | true =>
      exfalso
      rcases R.newIn d hq with h1 | ⟨-, h1⟩
      · rw [(I.cur n rfl).2 d hd] at h1; cases h1
      · exact g.no_cycle hd (Edge.child (hpar d h1).2)
  refine ⟨g', R.heap, ?_, ?_, ?_, ?_, ?_, ?_⟩
  · -- stamps
    refine ⟨by rw [R.stabNum]; exact I.stamps.now, ?_, ?_⟩
    · intro m
      rw [R.stabNum]
      by_cases h : m = n
      · subst h
        rw [R.recomputedAt, R.changedAt]
        refine ⟨Int.le_refl _, ?_⟩
        split
        · exact Int.le_refl _
        · exact (I.stamps.node m).2
      · rw [(R.other m h).recomputedAt, (R.other m h).changedAt]; exact I.stamps.node m
    · intro c vc h
      rw [R.vars] at h
      rw [R.stabNum]; exact I.stamps.var c vc h
  · -- qstale
    intro m hq
    rcases R.newIn m hq with h1 | ⟨hc, h1⟩
    · have hne : m ≠ n := by intro e; rw [e, hnq] at h1; cases h1
      exact stepB_stale_mono I R hne (I.qstale m h1)
    · obtain ⟨hpn, hcm⟩ := hpar m h1
      have hne : m ≠ n := g.edge_ne (Edge.child hcm)
      have hmlt := g.nec_lt hpn
      have hmv := (g.nec m hpn).1
      rcases stepB_stale_other I R hne hmlt hmv with ⟨-, h2 | h2⟩ | ⟨-, -, h2⟩
      · rw [hc] at h2; cases h2
      · exact absurd hcm h2
      · exact h2
  · -- pending
    intro m hm hst
    have hne : m ≠ n := by intro e; rw [e, hself] at hst; cases hst
    rw [R.nec] at hm
    have hmlt := g.nec_lt hm
    have hmv := (g.nec m hm).1
    rcases stepB_stale_other I R hne hmlt hmv with ⟨h1, -⟩ | ⟨hc, hcm, -⟩
    · rw [h1] at hst
      rcases I.pending m hm hst with h2 | h2
      · exact Or.inl ((R.other m hne).inRch h2)
      · injection h2 with h2; exact absurd h2.symm hne
    · obtain ⟨i, hi, e⟩ := List.mem_iff_getElem.1 hcm
      have hmem := (g.child m hm i n (by rw [List.getElem?_eq_getElem hi, e])).2.1
      exact R.parentsIn hc m (List.mem_map.2 ⟨(m, i), hmem, rfl⟩)
  · -- cons
    intro m hmlt hmv hst
    rw [R.size] at hmlt
    rw [(R.shapes m).valid] at hmv
    have hB := (g.node m hmlt hmv).1
    by_cases hmn : m = n
    · subst hmn
      refine ⟨v, ?_, R.value⟩
      apply TargetB.congr hmv hB R.shape.kind R.vars R.binds _ ht
      intro c hc
      have hne : c ≠ m := fun e => g.edge_ne (Edge.child hc) e.symm
      exact (R.other c hne).value
    · have hst0 : s.isStale m = false := by
        cases h : s.isStale m with
        | false => rfl
        | true => rw [stepB_stale_mono I R hmn h] at hst; cases hst
      obtain ⟨w, hw, hval⟩ := I.cons m hmlt hmv hst0
      refine ⟨w, ?_, by rw [(R.other m hmn).value]; exact hval⟩
      apply TargetB.congr hmv hB (R.shapes m).kind R.vars R.binds _ hw
      intro c hc
      by_cases e : c = n
      · subst e
        rcases stepB_stale_other I R hmn hmlt hmv with ⟨-, h2 | h2⟩ | ⟨-, -, h2⟩
        · rw [R.value, (R.unch h2).1]
        · exact absurd hc h2
        · rw [h2] at hst; cases hst
      · exact (R.other c e).value
  · -- fresh
    intro a d hbel hd
    rw [R.below g] at hbel
    rw [R.stabNum]
    -- it suffices to find the bound in `s` and to know `a ≠ n`
    have key : (s.nodeD a).recomputedAt < s.stabNum ∧ a ≠ n := by
      -- `d` is stale in `s`, or `n` is (now) below `d` through an edge
      have hcase : (s.isStale d = true ∧ d ≠ n) ∨ Edge s d n := by
        rcases hd with hd | hd
        · have hne : d ≠ n := by intro e; rw [e, hself] at hd; cases hd
          by_cases h0 : s.isStale d = true
          · exact Or.inl ⟨h0, hne⟩
          · right
            have hdv : (s.nodeD d).valid = true := by
              rw [← (R.shapes d).valid]; exact valid_of_isStale hd
            by_cases hdlt : d < s.nodes.size
            · rcases stepB_stale_other I R hne hdlt hdv with ⟨h1, -⟩ | ⟨-, h1, -⟩
              · rw [h1] at hd; exact absurd hd h0
              · exact Edge.child h1
            · exfalso
              apply h0
              have : s'.isStale d = s.isStale d := by
                unfold State.isStale State.children
                rw [nodeD_default_of_ge s d (by omega), nodeD_default_of_ge s' d (by rw [R.size]; omega)]
                rfl
              rw [← this]; exact hd
        · obtain ⟨-, h1, -, -⟩ := R.ret d hd
          exact Or.inr (Edge.child (hpar d h1).2)
      rcases hcase with ⟨h0, hne⟩ | hedge
      · refine ⟨I.fresh a d hbel (Or.inl h0), ?_⟩
        intro e
        subst e
        have hdn := (g.below_nec hbel hn).1
        rcases I.pending d hdn h0 with h1 | h1
        · rw [(I.cur a rfl).2 d hbel] at h1; cases h1
        · injection h1 with h1; exact hne h1.symm
      · refine ⟨I.fresh a n (hbel.snoc hedge) (Or.inr rfl), ?_⟩
        intro e
        subst e
        exact g.no_cycle hbel hedge
    rw [(R.other a key.2).recomputedAt]; exact key.1
  · -- cur
    intro p hp
    obtain ⟨hc, hpp, hpq, hand⟩ := R.ret p hp
    obtain ⟨hpn, -⟩ := hpar p hpp
    refine ⟨by rw [R.nec]; exact hpn, ?_⟩
    intro d hd
    rw [R.below g] at hd
    by_cases hdp : d = p
    · rw [hdp]; exact hpq
    -- heights below a necessary node
    have hlow : ∀ {a : Nat}, s.isNecessary a = true → Below s a d →
        (∀ m, (s'.nodeD m).inRch = true → (s.nodeD a).height < (s.nodeD m).height) →
        (s'.nodeD d).inRch = false := by
      intro a ha hb hall
      cases hq : (s'.nodeD d).inRch with
      | false => rfl
      | true =>
        have := hall d hq
        have := (g.below_nec hb ha).2
        omega
    have hscope : ScopeClear s s' p → ∀ {b : Nat} {br : BindRec}, (s.nodeD p).valid = true →
        (s.nodeD p).createdIn = .bind b → s.binds[b]? = some br → Below s br.lhsChange d →
        (s'.nodeD d).inRch = false := by
      intro hsc b br hv hcr hb hbl
      have hl := (g.edge_nec hpn (Edge.scope hv hcr hb)).1
      exact hlow hl hbl (hsc b br hcr hb)
    obtain ⟨c, he, hcd⟩ := hd.cases_ne (Ne.symm hdp)
    rcases hand with ⟨hch, hsc⟩ | hmin | ⟨b, lc, hk, hch, hsc, hlc⟩
    · cases he with
      | child hcc =>
        rw [hch] at hcc
        have : c = n := by simpa using hcc
        rw [this] at hcd
        exact hbelow_n d hcd
      | scope hv hcr hb => exact hscope hsc hv hcr hb hcd
    · cases hq : (s'.nodeD d).inRch with
      | false => rfl
      | true =>
        have := hmin d hq
        have := g.below_lt hd hpn (Ne.symm hdp)
        omega
    · cases he with
      | child hcc =>
        rw [hch] at hcc
        have : c = lc ∨ c = n := by simpa using hcc
        rcases this with e | e
        · rw [e] at hcd
          have hlcn := (g.edge_nec hpn (Edge.child (by rw [hch]; simp : lc ∈ s.children p))).1
          exact hlow hlcn hcd hlc
        · rw [e] at hcd
          exact hbelow_n d hcd
      | scope hv hcr hb => exact hscope hsc hv hcr hb hcd

end

end IncrVerif.Proofs.BindH
