import IncrVerif.Proofs.Quiet3
import IncrVerif.Proofs.CutH10
/-!
# Part 3: pure step lemmas for `GInv` (linking)
-/
namespace IncrVerif.Proofs.Quiet
open IncrVerif.Engine IncrVerif.Proofs IncrVerif.Proofs.Step IncrVerif.Proofs.Sched

section
variable {env : Env} {s s' : State} {op : Nat → Op}

/-! ## linking -/

/-- `addParent c idx p` where `c` was unnecessary (and closed): `c` is now open with no edge recorded -/
theorem GInv.addEdge_open {c p idx : Nat} (I : GInv env s op)
    (U : NodeUpd c (fParents ((s.nodeD c).parents ++ [(p, idx)])) s s')
    (hop : op p = .linking idx) (hk : (kids (s.nodeD p).kind)[idx]? = some c)
    (hc : s.isNecessary c = false) (hcl : op c = .closed) :
    GInv env s' (upd (upd op p (.linking (idx + 1))) c (.linking 0)) ∧
      (s'.nodeD c).parents = [(p, idx)] :=
  have J := I.toC.addEdge_open U.toC (cop_linking.2 hop) hk hc (cop_closed.2 hcl)
  ⟨.ofC' J.1 (I.eqCut.upd U (keeps_fParents _)), J.2⟩

/-- the height of an open node whose parents are all open is not constrained -/
theorem GInv.setHeight_open {n : Nat} {h : Int} (I : GInv env s op) (U : NodeUpd n (fHeight h) s s')
    (hop : op n ≠ .closed) (hpar : ∀ p i, (p, i) ∈ (s.nodeD n).parents → op p ≠ .closed) :
    GInv env s' op :=
  .ofC (I.toC.setHeight_open U.toC (cop_ne_closed.2 hop) fun p i hp => cop_ne_closed.2 (hpar p i hp)) (I.eqCut.upd U (keeps_fHeight h))

/-- a new observer on a node that is already necessary -/
theorem GInv.addObs_nec {n : Nat} {l : List Nat} (I : GInv env s op) (U : NodeUpd n (fObservers l) s s')
    (hl : l ≠ []) (hn : s.isNecessary n = true) (hcl : op n = .closed) : GInv env s' op :=
  .ofC (I.toC.addObs_nec U.toC hl hn (cop_closed.2 hcl)) (I.eqCut.upd U (keeps_fObservers l))

/-- a new observer on an unnecessary node: it is now open with no edge recorded -/
theorem GInv.addObs_open {n : Nat} {l : List Nat} (I : GInv env s op) (U : NodeUpd n (fObservers l) s s')
    (hl : l ≠ []) (hn : s.isNecessary n = false) (hcl : op n = .closed) :
    GInv env s' (upd op n (.linking 0)) ∧ (s'.nodeD n).parents = [] :=
  have J := I.toC.addObs_open U.toC hl hn (cop_closed.2 hcl)
  ⟨.ofC' J.1 (I.eqCut.upd U (keeps_fObservers l)), J.2⟩

end

end IncrVerif.Proofs.Quiet
