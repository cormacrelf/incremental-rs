import IncrVerif.Proofs.MapOld2
/-!
# map_with_old fragment: node creation keeps `QInvW`, pure part

`Created k s s1 tp` (Quiet10): `s1` is `s` plus one fresh top-level node of kind `k`, naming table `tp`.
* `Created.qinvG` / `Created.qinv'`: `Created.qinv` for a naming table that is not (only) the pushed one;
* `Created.virt`: the virtual states are related by `Created (virtKind k)`;
* `CrCreated_keepsW`: the new state satisfies `QInvW`.
-/
namespace IncrVerif.Proofs.Quiet
open IncrVerif.Engine IncrVerif.Driver IncrVerif.Proofs IncrVerif.Proofs.Step IncrVerif.Proofs.Sched

namespace Created
variable {env : Env} {k : Kind} {s s1 : State} {tp : Array Nat}

/-- `Created.qinv` for an arbitrary naming table whose entries are nodes of the new state -/
theorem qinvG (C : Created k s s1 tp) (Q : QInv env s) (hk : StaticKind env k)
    (hkids : ∀ c, c ∈ kids k → c < s.nodes.size)
    (htp : ∀ (kk n : Nat), tp[kk]? = some n → n < s.nodes.size + 1) : QInv env s1 :=
  .ofC (C.toC.qinvG Q.toC hk hkids (fun _ => trivial) htp) (C.eqCut Q.eqCut)

/-- **creation of an intermediate node** (not entered in the naming table) -/
theorem qinv' (C : Created k s s1 s.top) (Q : QInv env s) (hk : StaticKind env k)
    (hkids : ∀ c, c ∈ kids k → c < s.nodes.size) : QInv env s1 :=
  C.qinvG Q hk hkids (fun kk n h => by have := Q.top kk n h; omega)

end Created
end IncrVerif.Proofs.Quiet

namespace IncrVerif.Proofs.MapOldH
open IncrVerif.Engine IncrVerif.Driver IncrVerif.Proofs IncrVerif.Proofs.Step IncrVerif.Proofs.Sched IncrVerif.Proofs.Quiet

theorem virtKind_var_iff (k : Kind) (c : Nat) : virtKind k = .var c ↔ k = .var c := by
  cases k <;> simp [virtKind]

theorem virtNode_newNode (k : Kind) : virtNode (newNode k) = newNode (virtKind k) := rfl

theorem virt_push (s : State) (nd : Node) :
    (virt { s with nodes := s.nodes.push nd }).nodes = (virt s).nodes.push (virtNode nd) := by
  simp [virt]

/-- the virtual states of a creation are related by the creation of the virtual kind -/
theorem CrCreated_virt {k : Kind} {s s1 : State} {tp : Array Nat} (Cr : Created k s s1 tp) :
    Created (virtKind k) (virt s) (virt s1) tp := by
  refine ⟨?_, ?_, Cr.rch, Cr.pc, Cr.scope, Cr.stabNum, Cr.status, Cr.alive, Cr.setDuringStab, Cr.deadVars,
    Cr.handleAfterStab, Cr.pinv, Cr.observers, Cr.newObservers, Cr.disallowedObservers, Cr.top⟩
  · show s1.nodes.map virtNode = (s.nodes.map virtNode).push (newNode (virtKind k))
    rw [Cr.nodes, Array.map_push, virtNode_newNode]
  · rcases Cr.vars with ⟨h, e⟩ | ⟨v, ek, ev⟩
    · exact Or.inl ⟨fun c hc => h c ((virtKind_var_iff k c).1 hc), e⟩
    · refine Or.inr ⟨v, ?_, ?_⟩
      · rw [ek]; rfl
      · show s1.vars = s.vars.push { value := v, setAt := s.stabNum, node := (virt s).nodes.size }
        rw [virt_size]; exact ev

/-- **one created node keeps the invariant**; `tp` is the old naming table or the old one plus the new node -/
theorem CrCreated_keepsW {env : Env} {C : Val → Prop} {sp : Nat → Val → Val} {k : Kind} {s s1 : State}
    {tp : Array Nat} (Cr : Created k s s1 tp) (Q : QInvW env C sp s)
    (htp : ∀ (kk n : Nat), tp[kk]? = some n → n < s.nodes.size + 1)
    (hk : WKind env (Good env C sp) k) (hl : LitOK C k) (hkids : ∀ c, c ∈ kidsW k → c < s.nodes.size)
    (hvars : ∀ (c : Nat) (vc : VarCell), s1.vars[c]? = some vc → C vc.value) : QInvW env C sp s1 := by
  refine ⟨⟨?_, ?_, ?_, ?_⟩, ?_, ⟨?_, ?_, hvars, ?_⟩⟩
  · rw [Cr.pc]; exact Q.frag.pc
  · intro n hn
    rw [Cr.size] at hn
    by_cases e : n = s.nodes.size
    · rw [e, Cr.nodeD_new]; exact hk
    · rw [Cr.nodeD_old e]; exact Q.frag.kind n (by omega)
  · intro n hn
    rw [Cr.size] at hn
    by_cases e : n = s.nodes.size
    · rw [e, Cr.nodeD_new]; rfl
    · rw [Cr.nodeD_old e]; exact Q.frag.valid n (by omega)
  · intro n hn
    rw [Cr.size] at hn
    by_cases e : n = s.nodes.size
    · rw [e, Cr.nodeD_new]; exact hkids
    · rw [Cr.nodeD_old e]; exact Q.frag.back n (by omega)
  · refine (CrCreated_virt Cr).qinvG Q.q (staticKind_virt sp hk) ?_ ?_
    · intro c hc
      rw [kids_virtKind] at hc
      rw [virt_size]; exact hkids c hc
    · intro kk n h
      rw [virt_size]; exact htp kk n h
  · intro n v h
    by_cases e : n = s.nodes.size
    · rw [e, Cr.nodeD_new] at h; cases h
    · rw [Cr.nodeD_old e] at h; exact Q.m.vals n v h
  · intro n hn
    rw [Cr.size] at hn
    by_cases e : n = s.nodes.size
    · rw [e, Cr.nodeD_new]; exact hl
    · rw [Cr.nodeD_old e]; exact Q.m.lits n (by omega)
  · intro n g i h
    by_cases e : n = s.nodes.size
    · rw [e, Cr.nodeD_new]; exact MReach.init
    · rw [Cr.nodeD_old e] at h ⊢; exact Q.m.mach n g i h

end IncrVerif.Proofs.MapOldH
