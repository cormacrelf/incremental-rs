import IncrVerif.Proofs.PerKeyFrame
import IncrVerif.Proofs.PerKeyH8
/-!
# Per-key operators, `stabilise`, part 2: the frame `PKF` of the bookkeeping invariant

`PKF s s'`: `XF s s'` (same size, kinds; the records keep `f`, `node`, `children`, `pk`, `forceStale`), every node keeps its
value and its staleness, `top`, `perkeys`, `vars` are unchanged.
* `PKF.vKind`: the kinds of `V` are unchanged.
* **`PKOK.of_frame`** (+ two hypotheses on observers: the records keep their node, a listed observer watches that node),
  `NoRem.of_pkf`.
-/
namespace IncrVerif.Proofs.PerKeyH
open IncrVerif.Engine IncrVerif.Driver IncrVerif.Proofs IncrVerif.Proofs.Step IncrVerif.Proofs.Sched
open IncrVerif.Proofs.ExpertH IncrVerif.Proofs.EffH IncrVerif.Proofs.DriverH

structure PKF (s s' : State) : Prop where
  xf : XF s s'
  value : ∀ m, (s'.nodeD m).value = (s.nodeD m).value
  stale : ∀ m, s'.isStale m = s.isStale m
  top : s'.top = s.top
  perkeys : s'.perkeys = s.perkeys
  vars : s'.vars = s.vars
  /-- the virtual stamps are kept (no node runs) -/
  stamp : ∀ m, ((V s').nodeD m).recomputedAt = ((V s).nodeD m).recomputedAt

theorem PKF.refl (s : State) : PKF s s := ⟨XF.refl s, fun _ => rfl, fun _ => rfl, rfl, rfl, rfl, fun _ => rfl⟩

theorem PKF.trans {a b c : State} (h1 : PKF a b) (h2 : PKF b c) : PKF a c :=
  ⟨h1.xf.trans h2.xf, fun m => (h2.value m).trans (h1.value m), fun m => (h2.stale m).trans (h1.stale m),
    h2.top.trans h1.top, h2.perkeys.trans h1.perkeys, h2.vars.trans h1.vars, fun m => (h2.stamp m).trans (h1.stamp m)⟩

theorem PKF.vKind {s s' : State} (F : PKF s s') (m : Nat) : ((V s').nodeD m).kind = ((V s).nodeD m).kind := by
  rw [V_kind, V_kind, F.xf.kind m, vKind_of_xf F.xf F.perkeys]

/-- **the bookkeeping invariant along the frame `PKF`** -/
theorem PKOK.of_frame {env : Env} {s s' : State} (F : PKF s s') (h : PKOK env s)
    (hrec : ∀ (o : Nat) (ob' : ObsRec), s'.observers[o]? = some ob' → ∃ ob, s.observers[o]? = some ob ∧ ob.node = ob'.node)
    (hlist : ∀ m o, o ∈ (s'.nodeD m).observers → ∃ ob', s'.observers[o]? = some ob' ∧ ob'.node = m) :
    PKOK env s' := by
  have hob : ∀ (o : Nat) (ob' : ObsRec), s'.observers[o]? = some ob' → ∃ k : Nat, s.top[k]? = some ob'.node := by
    intro o ob' ho
    obtain ⟨ob, ho', hn⟩ := hrec o ob' ho
    rw [← hn]; exact h.obsTop o ob ho'
  refine h.of_xg (XG.of_xf F.xf) F.perkeys F.top (fun op pr hpr x hp => ?_) hob
    (fun op pr hpr hst => by rw [F.stale] at hst; rw [F.value]; exact (h.ops op pr hpr).input hst)
    (fun op pr hpr v hv => by rw [F.value] at hv; exact h.maps op pr hpr v hv)
    (fun _ _ _ _ _ p _ _ _ _ _ _ _ _ h0 => Or.inl (by rw [F.stamp]; exact h0))
  -- an observer of the new state watches a named node, which is not private
  cases hl : (s'.nodeD x).observers with
  | nil => rfl
  | cons o rest =>
    exfalso
    obtain ⟨ob', ho', hn'⟩ := hlist x o (by rw [hl]; exact List.mem_cons_self ..)
    obtain ⟨k, hk⟩ := hob o ob' ho'
    rw [hn'] at hk
    exact (h.ops op pr hpr).privTop k x hk hp

theorem NoRem.of_pkf {s s' : State} (F : PKF s s') (h : NoRem s) : NoRem s' :=
  h.of_frame F.xf.kind F.perkeys F.vars fun m _ => F.value m

end IncrVerif.Proofs.PerKeyH
