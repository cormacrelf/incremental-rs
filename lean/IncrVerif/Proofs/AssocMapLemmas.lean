import IncrVerif.Proofs.SymDiff
/-!
# Laws of sorted association lists (`AMap`)

`insert` / `erase` / `lookup` laws, extensionality of `Sorted` maps, point updates (`alter`), folds of
point updates over a key-distinct list (`alterFold`), and `lookup` of key-preserving `filterMap`s.
Only core Lean.  Lemmas about `lookup` on a `cons` (`lookup_cons_self`, `lookup_cons_ne`,
`lookup_none_of_lt`, `sorted_cons`, …) are in `IncrVerif/Proofs/SymDiff.lean` and reused here.
-/
namespace IncrVerif.AMap
open IncrVerif IncrVerif.Proofs

variable {α : Type}

@[simp] theorem keys_nil : keys ([] : AMap α) = [] := rfl

@[simp] theorem keys_cons' (k : Int) (v : α) (m : AMap α) : keys ((k, v) :: m) = k :: keys m := rfl

@[simp] theorem lookup_nil (k : Int) : lookup ([] : AMap α) k = none := rfl

theorem sorted_nil : Sorted ([] : AMap α) := by simp [Sorted]

theorem Sorted.tail {kv : Int × α} {m : AMap α} (h : Sorted (kv :: m)) : Sorted m := by
  rcases kv with ⟨k, v⟩
  exact ((sorted_cons k v m).mp h).2

theorem sorted_singleton (k : Int) (v : α) : Sorted [(k, v)] := by simp [Sorted]

/-! ## `insert` -/

theorem mem_keys_insert (m : AMap α) (k : Int) (v : α) (k' : Int) :
    k' ∈ keys (insert m k v) ↔ k' = k ∨ k' ∈ keys m := by
  induction m with
  | nil => simp [insert]
  | cons kv m ih =>
    rcases kv with ⟨k0, v0⟩
    simp only [insert]
    split
    · simp
    · split
      · subst_vars; simp
      · simp only [keys_cons', List.mem_cons, ih]; grind

/-- `insert` keeps the keys strictly ascending -/
theorem sorted_insert (m : AMap α) (h : Sorted m) (k : Int) (v : α) : Sorted (insert m k v) := by
  induction m with
  | nil => exact sorted_singleton k v
  | cons kv m ih =>
    rcases kv with ⟨k0, v0⟩
    have h' := (sorted_cons k0 v0 m).mp h
    simp only [insert]
    split
    · rename_i hlt
      rw [sorted_cons]
      refine ⟨?_, h⟩
      intro k' hk'
      rcases List.mem_cons.mp hk' with rfl | hk''
      · exact hlt
      · have := h'.1 k' hk''; omega
    · split
      · subst_vars
        rw [sorted_cons]; exact h'
      · rw [sorted_cons]
        refine ⟨?_, ih h'.2⟩
        intro k' hk'
        rcases (mem_keys_insert m k v k').mp hk' with rfl | hk''
        · omega
        · exact h'.1 k' hk''

/-- `get` after `insert` (no sortedness needed) -/
theorem lookup_insert (m : AMap α) (k : Int) (v : α) (k' : Int) :
    lookup (insert m k v) k' = if k' = k then some v else lookup m k' := by
  induction m with
  | nil => simp [insert, lookup]
  | cons kv m ih =>
    rcases kv with ⟨k0, v0⟩
    simp only [insert]
    split
    · simp only [lookup]
    · split
      · subst_vars; simp only [lookup]; split <;> rfl
      · simp only [lookup, ih]
        split <;> split <;> first | rfl | omega

theorem lookup_insert_self (m : AMap α) (k : Int) (v : α) : lookup (insert m k v) k = some v := by
  simp [lookup_insert]

theorem lookup_insert_ne (m : AMap α) (k : Int) (v : α) (k' : Int) (h : k' ≠ k) :
    lookup (insert m k v) k' = lookup m k' := by
  simp [lookup_insert, h]

/-! ## `erase` -/

theorem mem_keys_of_mem_keys_erase (m : AMap α) (k k' : Int) (h : k' ∈ keys (erase m k)) :
    k' ∈ keys m := by
  induction m with
  | nil => simp [erase] at h
  | cons kv m ih =>
    rcases kv with ⟨k0, v0⟩
    simp only [erase] at h
    split at h
    · simp [h]
    · simp only [keys_cons', List.mem_cons] at h ⊢
      rcases h with h | h
      · exact .inl h
      · exact .inr (ih h)

/-- `remove` keeps the keys strictly ascending -/
theorem sorted_erase (m : AMap α) (h : Sorted m) (k : Int) : Sorted (erase m k) := by
  induction m with
  | nil => exact sorted_nil
  | cons kv m ih =>
    rcases kv with ⟨k0, v0⟩
    have h' := (sorted_cons k0 v0 m).mp h
    simp only [erase]
    split
    · exact h'.2
    · rw [sorted_cons]
      exact ⟨fun k' hk' => h'.1 k' (mem_keys_of_mem_keys_erase m k k' hk'), ih h'.2⟩

/-- `remove` leaves the other keys alone (no sortedness needed) -/
theorem lookup_erase_ne (m : AMap α) (k k' : Int) (h : k' ≠ k) :
    lookup (erase m k) k' = lookup m k' := by
  induction m with
  | nil => simp [erase]
  | cons kv m ih =>
    rcases kv with ⟨k0, v0⟩
    simp only [erase]
    split
    · subst_vars; simp only [lookup, if_neg h]
    · simp only [lookup, ih]

/-- the removed key is gone (needs sortedness: a duplicate binding would survive) -/
theorem lookup_erase_self (m : AMap α) (hs : Sorted m) (k : Int) : lookup (erase m k) k = none := by
  induction m with
  | nil => simp [erase]
  | cons kv m ih =>
    rcases kv with ⟨k0, v0⟩
    have h' := (sorted_cons k0 v0 m).mp hs
    simp only [erase]
    split
    · subst_vars; exact lookup_none_of_lt m _ h'.1
    · rename_i hne
      simp only [lookup, if_neg hne, ih h'.2]

/-- `get` after `remove` -/
theorem lookup_erase (m : AMap α) (hs : Sorted m) (k k' : Int) :
    lookup (erase m k) k' = if k' = k then none else lookup m k' := by
  split
  · subst_vars; exact lookup_erase_self m hs _
  · rename_i h; exact lookup_erase_ne m k k' h

/-- removing an absent key is the identity -/
theorem erase_of_lookup_none (m : AMap α) (k : Int) (h : lookup m k = none) : erase m k = m := by
  induction m with
  | nil => rfl
  | cons kv m ih =>
    rcases kv with ⟨k0, v0⟩
    simp only [lookup] at h
    split at h
    · simp at h
    · rename_i hne
      simp only [erase, if_neg hne, ih h]

/-! ## membership vs `lookup`, extensionality -/

theorem lookup_eq_some_iff_mem (m : AMap α) (hs : Sorted m) (k : Int) (v : α) :
    lookup m k = some v ↔ (k, v) ∈ m := by
  induction m with
  | nil => simp
  | cons kv m ih =>
    rcases kv with ⟨k0, v0⟩
    have h' := (sorted_cons k0 v0 m).mp hs
    by_cases hk : k = k0
    · subst hk
      rw [lookup_cons_self]
      constructor
      · intro h; simp at h; simp [h]
      · intro h
        rcases List.mem_cons.mp h with h | h
        · simp at h; simp [h]
        · have hm : k ∈ keys m := List.mem_map.mpr ⟨(k, v), h, rfl⟩
          have := h'.1 k hm; omega
    · rw [lookup_cons_ne _ _ _ _ hk, ih h'.2]
      simp [hk]

theorem lookup_of_mem (m : AMap α) (hs : Sorted m) (kv : Int × α) (h : kv ∈ m) :
    lookup m kv.1 = some kv.2 :=
  (lookup_eq_some_iff_mem m hs kv.1 kv.2).mpr h

theorem lookup_isSome_iff_mem_keys (m : AMap α) (k : Int) : (lookup m k).isSome ↔ k ∈ keys m := by
  constructor
  · intro h
    by_cases hk : k ∈ keys m
    · exact hk
    · rw [lookup_none_of_not_mem_keys m k hk] at h; simp at h
  · exact lookup_isSome_of_mem_keys m k

/-- Extensionality: two sorted maps with the same `get` function are the same list. -/
theorem ext_lookup (a b : AMap α) (ha : Sorted a) (hb : Sorted b)
    (h : ∀ k, lookup a k = lookup b k) : a = b := by
  induction a generalizing b with
  | nil =>
    cases b with
    | nil => rfl
    | cons kv b =>
      rcases kv with ⟨k, v⟩
      have := h k
      rw [lookup_cons_self] at this; simp at this
  | cons kv a ih =>
    rcases kv with ⟨k, v⟩
    cases b with
    | nil =>
      have := h k
      rw [lookup_cons_self] at this; simp at this
    | cons kv' b =>
      rcases kv' with ⟨k', v'⟩
      have ha' := (sorted_cons k v a).mp ha
      have hb' := (sorted_cons k' v' b).mp hb
      have hk : k = k' := by
        by_cases h1 : k < k'
        · have := h k
          rw [lookup_cons_self, lookup_none_of_lt] at this
          · simp at this
          · intro k'' hk''
            rcases List.mem_cons.mp hk'' with rfl | hk3
            · exact h1
            · have := hb'.1 k'' hk3; omega
        · by_cases h2 : k' < k
          · have := h k'
            rw [lookup_cons_self, lookup_none_of_lt] at this
            · simp at this
            · intro k'' hk''
              rcases List.mem_cons.mp hk'' with rfl | hk3
              · exact h2
              · have := ha'.1 k'' hk3; omega
          · omega
      subst hk
      have hv : v = v' := by
        have := h k
        rw [lookup_cons_self, lookup_cons_self] at this
        exact Option.some.inj this
      subst hv
      congr 1
      apply ih b ha'.2 hb'.2
      intro k''
      by_cases hk : k'' = k
      · subst hk
        rw [lookup_none_of_lt a k'' ha'.1, lookup_none_of_lt b k'' hb'.1]
      · have := h k''
        rwa [lookup_cons_ne _ _ _ _ hk, lookup_cons_ne _ _ _ _ hk] at this

/-! ## point update: `alter m k none` = leave alone, `some none` = remove, `some (some v)` = insert -/

def alter (m : AMap α) (k : Int) : Option (Option α) → AMap α
  | none => m
  | some none => erase m k
  | some (some v) => insert m k v

theorem sorted_alter (m : AMap α) (hs : Sorted m) (k : Int) (o : Option (Option α)) :
    Sorted (alter m k o) := by
  rcases o with _ | _ | v
  · exact hs
  · exact sorted_erase m hs k
  · exact sorted_insert m hs k v

theorem lookup_alter_ne (m : AMap α) (k : Int) (o : Option (Option α)) (k' : Int) (h : k' ≠ k) :
    lookup (alter m k o) k' = lookup m k' := by
  rcases o with _ | _ | v
  · rfl
  · exact lookup_erase_ne m k k' h
  · exact lookup_insert_ne m k v k' h

theorem lookup_alter_self (m : AMap α) (hs : Sorted m) (k : Int) (o : Option (Option α)) :
    lookup (alter m k o) k = o.getD (lookup m k) := by
  rcases o with _ | _ | v
  · rfl
  · exact lookup_erase_self m hs k
  · exact lookup_insert_self m k v

/-- fold of point updates: every element `e` of `d` alters key `key e` as `op e` says -/
def alterFold {δ : Type} (key : δ → Int) (op : δ → Option (Option α)) (acc : AMap α) (d : List δ) :
    AMap α :=
  d.foldl (fun m e => alter m (key e) (op e)) acc

theorem sorted_alterFold {δ : Type} (key : δ → Int) (op : δ → Option (Option α)) (acc : AMap α)
    (hs : Sorted acc) (d : List δ) : Sorted (alterFold key op acc d) := by
  induction d generalizing acc with
  | nil => exact hs
  | cons e d ih => exact ih _ (sorted_alter acc hs _ _)

/-- keys not mentioned in `d` keep their binding -/
theorem lookup_alterFold_of_not_mem {δ : Type} (key : δ → Int) (op : δ → Option (Option α))
    (acc : AMap α) (d : List δ) (k : Int) (h : ∀ e ∈ d, key e ≠ k) :
    lookup (alterFold key op acc d) k = lookup acc k := by
  induction d generalizing acc with
  | nil => rfl
  | cons e d ih =>
    show lookup (alterFold key op (alter acc (key e) (op e)) d) k = _
    rw [ih _ (fun e' he' => h e' (by simp [he']))]
    exact lookup_alter_ne acc _ _ k (fun hk => h e (by simp) hk.symm)

/-- a key mentioned (once) in `d` ends up with what its element says -/
theorem lookup_alterFold_of_mem {δ : Type} (key : δ → Int) (op : δ → Option (Option α))
    (acc : AMap α) (hs : Sorted acc) (d : List δ)
    (hd : List.Pairwise (fun x y => key x ≠ key y) d) (e : δ) (he : e ∈ d) :
    lookup (alterFold key op acc d) (key e) = (op e).getD (lookup acc (key e)) := by
  induction d generalizing acc with
  | nil => simp at he
  | cons e0 d ih =>
    rw [List.pairwise_cons] at hd
    show lookup (alterFold key op (alter acc (key e0) (op e0)) d) (key e) = _
    rcases List.mem_cons.mp he with rfl | he'
    · rw [lookup_alterFold_of_not_mem key op _ d (key e) (fun e' he' => (hd.1 e' he').symm)]
      exact lookup_alter_self acc hs _ _
    · rw [ih _ (sorted_alter acc hs _ _) hd.2 he']
      rw [lookup_alter_ne acc _ _ _ (hd.1 e he').symm]

/-! ## `lookup` of a key-preserving `filterMap` over a key-ascending list -/

section keyed
variable {δ : Type} (key : δ → Int) (g : δ → Option (Int × α))

theorem keys_filterMap_sublist (hg : ∀ e kv, g e = some kv → kv.1 = key e) (d : List δ) :
    (keys (d.filterMap g)).Sublist (d.map key) := by
  induction d with
  | nil => simp
  | cons e d ih =>
    rw [List.filterMap_cons]
    rcases hge : g e with _ | kv
    · exact List.Sublist.cons _ ih
    · have := hg e kv hge
      rcases kv with ⟨k, v⟩
      simp only at this
      subst this
      simpa using ih

theorem sorted_filterMap_keyed (hg : ∀ e kv, g e = some kv → kv.1 = key e) (d : List δ)
    (hd : List.Pairwise (· < ·) (d.map key)) : Sorted (d.filterMap g) :=
  List.Pairwise.sublist (keys_filterMap_sublist key g hg d) hd

theorem lookup_filterMap_keyed_of_not_mem (hg : ∀ e kv, g e = some kv → kv.1 = key e) (d : List δ)
    (k : Int) (h : ∀ e ∈ d, key e ≠ k) : lookup (d.filterMap g) k = none := by
  apply lookup_none_of_not_mem_keys
  intro hk
  have := (keys_filterMap_sublist key g hg d).subset hk
  obtain ⟨e, he, hke⟩ := List.mem_map.mp this
  exact h e he hke

theorem lookup_filterMap_keyed_of_mem (hg : ∀ e kv, g e = some kv → kv.1 = key e) (d : List δ)
    (hd : List.Pairwise (· < ·) (d.map key)) (e : δ) (he : e ∈ d) :
    lookup (d.filterMap g) (key e) = (g e).map (·.2) := by
  induction d with
  | nil => simp at he
  | cons e0 d ih =>
    rw [List.map_cons, List.pairwise_cons] at hd
    have hlt : ∀ e' ∈ d, key e0 < key e' := fun e' he' => hd.1 _ (List.mem_map.mpr ⟨e', he', rfl⟩)
    rw [List.filterMap_cons]
    rcases List.mem_cons.mp he with rfl | he'
    · rcases hge : g e with _ | kv
      · simp only [Option.map_none]
        exact lookup_filterMap_keyed_of_not_mem key g hg d _
          (fun e' he' => by have := hlt e' he'; omega)
      · have := hg e kv hge
        rcases kv with ⟨k, v⟩
        simp only at this
        subst this
        simp [lookup_cons_self]
    · have hne : key e ≠ key e0 := by have := hlt e he'; omega
      rcases hge : g e0 with _ | kv
      · exact ih hd.2 he'
      · have := hg e0 kv hge
        rcases kv with ⟨k, v⟩
        simp only at this
        subst this
        simp only
        rw [lookup_cons_ne _ _ _ _ hne]
        exact ih hd.2 he'

end keyed

/-- `get` on a key-wise `filter_map` of a sorted map: apply the function to the binding, if any -/
theorem lookup_filterMap_val {β : Type} (f : Int → α → Option β) (m : AMap α) (hs : Sorted m) (k : Int) :
    lookup (m.filterMap fun kv => (f kv.1 kv.2).map fun v2 => (kv.1, v2)) k =
      (lookup m k).bind (f k) := by
  have hg : ∀ (e : Int × α) (kv : Int × β),
      ((f e.1 e.2).map fun v2 => (e.1, v2)) = some kv → kv.1 = e.1 := by
    intro e kv h
    rcases hf : f e.1 e.2 with _ | v2
    · simp [hf] at h
    · simp [hf] at h; rw [← h]
  rcases hl : lookup m k with _ | v
  · rw [lookup_filterMap_keyed_of_not_mem (fun e : Int × α => e.1) _ hg m k]
    · rfl
    · intro e he hk
      have := lookup_of_mem m hs e he
      rw [hk, hl] at this; simp at this
  · have hmem := (lookup_eq_some_iff_mem m hs k v).mp hl
    have := lookup_filterMap_keyed_of_mem (fun e : Int × α => e.1) _ hg m hs (k, v) hmem
    simp only at this
    rw [this]
    rcases hf : f k v with _ | v2 <;> simp [hf]

theorem sorted_filterMap_val {β : Type} (f : Int → α → Option β) (m : AMap α) (hs : Sorted m) :
    Sorted (m.filterMap fun kv => (f kv.1 kv.2).map fun v2 => (kv.1, v2)) := by
  apply sorted_filterMap_keyed (fun e : Int × α => e.1) _ _ m hs
  intro e kv h
  rcases hf : f e.1 e.2 with _ | v2
  · simp [hf] at h
  · simp [hf] at h; rw [← h]

end IncrVerif.AMap
