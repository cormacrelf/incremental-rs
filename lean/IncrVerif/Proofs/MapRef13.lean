import IncrVerif.Proofs.MapRef12
import IncrVerif.Proofs.MapRef9
/-!
# map_ref fragment, part 6: one `recomputeOne` — the node is not a map_ref node

The actual step is simulated by the step of the virtual static engine; the scheduling invariant of the static
fragment (`Sched.step_inv`) applies to the virtual states; the `didChange` invariant is kept by `mcv_keepsK`.
-/
namespace IncrVerif.Proofs.MapRefH
open IncrVerif.Engine IncrVerif.Proofs IncrVerif.Proofs.Step IncrVerif.Proofs.Sched IncrVerif.Proofs.Quiet

/-- the runtime facts of the simulation follow from the fragment -/
theorem RFrag.fr {env : Env} {s : State} (F : RFrag env s) (hp : s.propagateInvalidity = []) : Fr s where
  noExp n e := by
    by_cases hn : n < s.nodes.size
    · intro hk; have := F.kind n hn; rw [hk] at this; exact this
    · rw [nodeD_default_of_ge s n (by omega)]; intro h; cases h
  valid n := by
    by_cases hn : n < s.nodes.size
    · exact F.valid n hn
    · rw [nodeD_default_of_ge s n (by omega)]; rfl
  pinv := hp
  cut := F.cut

/-- a node of the fragment that is not a map_ref node: its step is a `maybe_change_value` -/
theorem recomputeOne_as_mcv {env : Env} {s : State} {fuel n : Nat} (F : RFrag env s) (hn : n < s.nodes.size)
    (hk : ∀ p i, (s.nodeD n).kind ≠ .mapRef p i)
    (hvar : ∀ c, (s.nodeD n).kind = .var c → ∃ vc, s.vars[c]? = some vc)
    (hkids : ∀ a, a ∈ kidsR (s.nodeD n).kind → (s.value env a).isSome = true) :
    ∃ v es, (recomputeOne env fuel n).run.run s =
      (maybeChangeValue env fuel n v).run.run (logged es (started n s)) := by
  obtain ⟨hSK, -, hkk⟩ := (F.kind n hn).static hk
  rw [hkk] at hkids
  obtain ⟨vals, hvals⟩ := valuesOf_of_isSome env s _ hkids
  obtain ⟨v, evs, hc⟩ := computes_static n hSK hvar hvals
  exact ⟨v, evs, recomputeOne_run_of_computes (some_of_lt hn) (F.valid n hn) F.pc hc hSK⟩

section
variable {env : Env} {g : Nat → Option Val} {s : State}

/-- what is below the current node of the scheduling invariant is settled: the ghost values are the values read,
and they exist -/
theorem Inv.kids_settled {n : Nat} (F : RFrag env s) (I : Inv (virtEnv env) (virt g s) (some n)) :
    ∀ a, a ∈ kidsR (s.nodeD n).kind → tv g s a = s.value env a ∧ (s.value env a).isSome = true := by
  intro a ha
  have gr := I.graph
  obtain ⟨hn, hbelow⟩ := I.cur n rfl
  have hav : a ∈ kids ((virt g s).nodeD n).kind := by rw [virt_kids]; exact ha
  obtain ⟨han, hlt⟩ := gr.kids_nec hn hav
  have hfresh : ∀ e, Anc (virt g s) a e → s.isStale e = false := by
    intro e he
    have hen : (virt g s).isNecessary e = true := he.nec gr han
    have hanc : Anc (virt g s) n e := Anc.step hn hav he
    cases hst : s.isStale e with
    | false => rfl
    | true =>
      rcases I.pending e hen (by rw [virt_isStale]; exact hst) with h | h
      · rw [hbelow e hanc] at h; cases h
      · cases h
        have := he.height_le gr
        omega
  have hset := settled F gr (fun e he hs => I.cons e he hs) a (by rw [← virt_isNecessary g s]; exact han) hfresh
  refine ⟨hset, ?_⟩
  obtain ⟨vals, hvals⟩ := I.kids_values
  rw [virt_kids, virt_plainVals] at hvals
  rw [← hset]
  -- every element of a list with `evalArgs = some _` has a value
  have : ∀ (l : List Nat) vs, evalArgs (tv g s) l = some vs → ∀ x, x ∈ l → (tv g s x).isSome = true := by
    intro l
    induction l with
    | nil => intro _ _ x hx; cases hx
    | cons b l ih =>
      intro vs h x hx
      simp only [evalArgs] at h
      cases hb : tv g s b with
      | none => rw [hb] at h; simp at h
      | some vb =>
        rw [hb] at h
        cases hl : evalArgs (tv g s) l with
        | none => rw [hl] at h; simp at h
        | some vl =>
          rcases List.mem_cons.1 hx with rfl | hx
          · rw [hb]; rfl
          · exact ih vl hl x hx
  exact this _ vals hvals a ha

/-- **one step, not a map_ref node.** -/
theorem step_static_node {fuel n : Nat} {s' : State} {r : Option Nat} (F : RFrag env s)
    (I : Inv (virtEnv env) (virt g s) (some n)) (K : KInv env g s) (hp : s.propagateInvalidity = [])
    (hk : ∀ p i, (s.nodeD n).kind ≠ .mapRef p i)
    (h : (recomputeOne env fuel n).run.run s = (.ok r, s')) :
    (recomputeOne (virtEnv env) fuel n).run.run (virt g s) = (.ok r, virt g s') ∧
      KInv env g s' ∧ RFrag env s' ∧ s'.propagateInvalidity = [] := by
  have gr := I.graph
  obtain ⟨hnv, -⟩ := I.cur n rfl
  have hn : s.isNecessary n = true := by rw [← virt_isNecessary g s]; exact hnv
  obtain ⟨hlt, -, -, hcut, -⟩ := gr.nec n hnv
  rw [virt_size] at hlt
  rw [virt_nodeD, virtNode_cutoff] at hcut
  have hkids := Inv.kids_settled F I
  have hvar : ∀ c, (s.nodeD n).kind = .var c → ∃ vc, s.vars[c]? = some vc := by
    intro c hc
    exact gr.var n c hnv (by rw [virt_nodeD, virtNode_kind, hc]; rfl)
  obtain ⟨hsim, hfr'⟩ := recomputeOne_sim F (F.fr hp) hlt hk hvar hkids h
  obtain ⟨v, es, hrun⟩ := recomputeOne_as_mcv (fuel := fuel) F hlt hk hvar (fun a ha => (hkids a ha).2)
  rw [hrun] at h
  have hv0 : ((logged es (started n s)).nodeD n).value = (s.nodeD n).value := by
    show ((started n s).nodeD n).value = _
    rw [started_nodeD]; split <;> rfl
  obtain ⟨K', F'⟩ := mcv_keepsK F gr K hlt hk hcut ((ValFrame.started n s).logged es) hv0 h
  exact ⟨hsim, K', F', hfr'.pinv⟩

end
end IncrVerif.Proofs.MapRefH
