import IncrVerif.Proofs.MemoH4
import IncrVerif.Proofs.MemoH5
/-!
# C20 over whole histories, part 5: sharing (K2)

* `Held s h` (the program holds a node handle or an observer handle on `h`), `SReach` (paths through the
  inputs of static nodes), `Anchored s n`; `Anchored.alive`.
* `KeepA m key n` (ILocal): while `n` is anchored, the entry `key ↦ n` of table `m` stays — through EVERY
  function of the model, memoised calls from bind closures included.
* `Same m key` (`MemoH7`; ILocal): the entry of `key` in table `m` is untouched — for everything except a call with this
  very `(m, key)` and the sweep; `entry_step` (`MemoH7`): what an API action does to the entry.
-/
namespace IncrVerif.Proofs.MemoH
open IncrVerif.Engine IncrVerif.Proofs.Obs IncrVerif.Proofs.Memo IncrVerif.Proofs.Own

/-! ## anchors -/

/-- the program holds a handle on node `h`: a node handle, or a (clone of a) public observer handle -/
def Held (s : State) (h : Nat) : Prop :=
  h ∈ s.handles ∨ ∃ (o : Nat) (ob : ObsRec), s.observers[o]? = some ob ∧ ob.node = h ∧ 0 < ob.clones

/-- a path through the inputs of static nodes (`map`, `fold`, `map_ref`, `map_with_old`) -/
inductive SReach (s : State) : Nat → Nat → Prop
  | refl (n : Nat) : SReach s n n
  | step {a b c : Nat} : b ∈ kindRefs (s.nodeD a).kind → SReach s b c → SReach s a c

/-- `n` is held, or is an input (of an input …) of a held static node -/
def Anchored (s : State) (n : Nat) : Prop := ∃ h, Held s h ∧ SReach s h n

theorem kindRefs_refsOf (s : State) (a b : Nat) (h : b ∈ kindRefs (s.nodeD a).kind) : b ∈ s.refsOf a := by
  unfold State.refsOf
  cases hk : (s.nodeD a).kind <;> rw [hk] at h <;> simp only [kindRefs] at h <;>
    first | exact h | cases h

theorem Held.root {s : State} {h : Nat} (hh : Held s h) : h ∈ s.roots := by
  rw [mem_roots]
  rcases hh with hh | ⟨o, ob, h1, h2, h3⟩
  · exact .inl hh
  · exact .inr (.inr (.inr (.inl ⟨ob, Array.mem_toList_iff.2 (Array.mem_of_getElem? h1), .inl h3, h2⟩)))

theorem Anchored.alive {s : State} {n : Nat} (h : Anchored s n) : n ∈ s.aliveSet := by
  obtain ⟨r, hr, hp⟩ := h
  apply aliveSet_complete
  have h0 : Reach s r := .root hr.root
  clear hr
  induction hp with
  | refl _ => exact h0
  | step hb _ ih => exact ih (.step h0 (kindRefs_refsOf s _ _ hb))

theorem Anchored.isAlive {s : State} {n : Nat} (h : Anchored s n) : s.isAlive n = true := by
  unfold State.isAlive; simpa using h.alive

theorem nodeD_default_of_ge (s : State) (a : Nat) (h : s.nodes.size ≤ a) : s.nodeD a = default := by
  simp [State.nodeD, Array.getElem?_eq_none h]

theorem SReach.mono {s s' : State} (hf : Fut s s') {a c : Nat} (h : SReach s a c) : SReach s' a c := by
  induction h with
  | refl _ => exact .refl _
  | @step a b c hb _ ih =>
    have ha : a < s.nodes.size := by
      rcases Nat.lt_or_ge a s.nodes.size with h | h
      · exact h
      · rw [nodeD_default_of_ge s a h] at hb; cases hb
    have hc := hf.core a ha
    simp only [nodeK, Prod.mk.injEq] at hc
    exact .step (hc.1 ▸ hb) ih

theorem Held.of_f0 {s s' : State} (hf : F0 s s') {h : Nat} (hh : Held s h) : Held s' h := by
  rcases hh with hh | ⟨o, ob, h1, h2, h3⟩
  · exact .inl (hf.handles ▸ hh)
  · have := hf.obs o
    rw [h1] at this
    cases h' : s'.observers[o]? with
    | none => rw [h'] at this; cases this
    | some ob' =>
      rw [h'] at this
      simp only [Option.map_some, Option.some.injEq, obsK, Prod.mk.injEq] at this
      exact .inr ⟨o, ob', h', this.1.trans h2, this.2 ▸ h3⟩

theorem Anchored.of_f0 {s s' : State} (hf : F0 s s') {n : Nat} (h : Anchored s n) : Anchored s' n := by
  obtain ⟨r, hr, hp⟩ := h
  exact ⟨r, hr.of_f0 hf, hp.mono hf.fut⟩

/-! ## the entry of one key -/

theorem stored_memoFinish_ne (sc : Scope) (m m' : Nat) (key key' : Int) (n' : Nat) (s : State)
    (hne : ¬ (m' = m ∧ key' = key)) :
    stored (memoFinish sc m' key' n' s) m key = stored s m key := by
  simp only [stored_eq, table, memoFinish_memos, List.lookup_cons]
  by_cases hm : m = m'
  · subst hm
    have hk : key ≠ key' := fun h => hne ⟨rfl, h.symm⟩
    have hb : (key == key') = false := by simpa using hk
    simp only [beq_self_eq_true, Option.getD_some, List.lookup_cons, hb]
    exact lookup_filter_key_ne _ hk
  · have hb : (m == m') = false := by simpa using hm
    simp only [hb]
    rw [lookup_filter_key_ne _ hm]

theorem stored_sweep (s : State) (m : Nat) (key : Int) :
    stored (sweep s) m key
      = ((table s m).filter fun e => s.aliveSet.contains e.2).lookup key := by
  show List.lookup key ((List.lookup m (gcMemos s.aliveSet s.memos)).getD []) = _
  rw [gcMemos_lookup]
  unfold table
  cases s.memos.lookup m <;> rfl

theorem lookup_filter_val_keep {α β : Type} [BEq α] [LawfulBEq α] (l : List (α × β)) (p : β → Bool)
    {k : α} {v : β} (h : l.lookup k = some v) (hp : p v = true) :
    (l.filter fun e => p e.2).lookup k = some v := by
  induction l with
  | nil => cases h
  | cons e l ih =>
    obtain ⟨k0, v0⟩ := e
    rw [List.lookup_cons] at h
    rw [List.filter_cons]
    by_cases hk : k == k0
    · rw [hk] at h; cases h
      simp only [hp, if_true, List.lookup_cons, hk]
    · simp only [hk] at h
      cases p v0
      · simp only [Bool.false_eq_true, if_false]; exact ih h
      · simp only [if_true, List.lookup_cons, hk]; exact ih h

/-- the sweep keeps the entry of a node that is still allocated -/
theorem stored_sweep_keep (s : State) (m : Nat) (key : Int) (n : Nat)
    (h : stored s m key = some n) (ha : n ∈ s.aliveSet) : stored (sweep s) m key = some n := by
  rw [stored_sweep]
  exact lookup_filter_val_keep _ (fun x => s.aliveSet.contains x) h (by simpa using ha)

/-- with distinct keys: the sweep keeps the entry iff its node is still allocated -/
theorem stored_sweep_eq {env : Env} (s : State) (ht : TInv env s) (m : Nat) (key : Int) :
    stored (sweep s) m key = (stored s m key).filter fun n => s.aliveSet.contains n := by
  rw [stored_sweep, stored_eq]
  exact lookup_filter_val _ (ht.table_keys m) (fun x => s.aliveSet.contains x) key

/-! ## `KeepA`: an anchored node keeps its entry -/

structure KeepA (m : Nat) (key : Int) (n : Nat) (s s' : State) : Prop where
  anch : Anchored s n → Anchored s' n
  entry : Anchored s n → stored s m key = some n → stored s' m key = some n

instance (m : Nat) (key : Int) (n : Nat) : PreOrd (KeepA m key n) :=
  ⟨fun _ => ⟨fun h => h, fun _ h => h⟩,
   fun h1 h2 => ⟨fun h => h2.anch (h1.anch h), fun ha h => h2.entry (h1.anch ha) (h1.entry ha h)⟩⟩

instance (m : Nat) (key : Int) (n : Nat) : ILocal (KeepA m key n) :=
  ⟨fun s s' hf => ⟨fun h => h.of_f0 hf, fun _ h => by simpa only [stored, hf.memos] using h⟩⟩

theorem KeepA.of_memos {m : Nat} {key : Int} {n : Nat} {s s' : State}
    (ha : Anchored s n → Anchored s' n) (hm : s'.memos = s.memos) : KeepA m key n s s' :=
  ⟨ha, fun _ h => by simpa only [stored, hm] using h⟩

theorem SReach.congr (s s' : State) (h1 : s'.nodes = s.nodes) {a c : Nat} (h : SReach s a c) :
    SReach s' a c := by
  induction h with
  | refl _ => exact .refl _
  | step hb _ ih =>
    refine .step ?_ ih
    simpa only [State.nodeD, h1] using hb

theorem Anchored.congr (s s' : State) {n : Nat} (h1 : s'.nodes = s.nodes) (h2 : s'.handles = s.handles)
    (h3 : s'.observers = s.observers) (h : Anchored s n) : Anchored s' n := by
  obtain ⟨r, hr, hp⟩ := h
  refine ⟨r, ?_, hp.congr s s' h1⟩
  rcases hr with hr | ⟨o, ob, q1, q2, q3⟩
  · exact .inl (h2 ▸ hr)
  · exact .inr ⟨o, ob, h3 ▸ q1, q2, q3⟩

/-- a memoised call — ANY memo function, ANY key, from top level or from inside a bind closure — keeps the
entry of an anchored node: with the same `(m, key)` it is a hit -/
theorem keepA_memoCall (env : Env) (m : Nat) (key : Int) (n : Nat) (m' : Nat) (key' : Int) :
    Pres (KeepA m key n) (memoCall env m' key') := by
  refine ⟨fun s r s' hrun => ?_⟩
  rcases memoCall_cases env m' key' s s' r hrun with ⟨-, rfl⟩ | ⟨hh, hf | ⟨s1, s2, x, -, -, hf2, rfl⟩⟩
  · exact PreOrd.refl _
  · exact ILocal.of_frame0 _ _ hf.toF0
  · refine ⟨fun ha => (ha.of_f0 hf2.toF0).congr s2 _ rfl rfl rfl, fun ha hs => ?_⟩
    by_cases hne : m' = m ∧ key' = key
    · -- the same key: the stored node is anchored, hence allocated: the call was a hit
      exfalso
      obtain ⟨rfl, rfl⟩ := hne
      simp only [memoHit, hs, ha.isAlive, if_true] at hh
      cases hh
    · rw [stored_memoFinish_ne _ _ _ _ _ _ _ hne]
      simpa only [stored, hf2.memos] using hs

theorem KeepA.sweep (m : Nat) (key : Int) (n : Nat) (s : State) : KeepA m key n s (sweep s) :=
  ⟨fun h => h.congr s _ rfl rfl rfl, fun ha hs => stored_sweep_keep s m key n hs ha.alive⟩

theorem Anchored.push {s : State} {n : Nat} (h : Anchored s n) (x : Nat) :
    Anchored { s with top := s.top.push x, handles := x :: s.handles } n := by
  obtain ⟨r, hr, hp⟩ := h
  refine ⟨r, ?_, ?_⟩
  · rcases hr with hr | ⟨o, ob, q1, q2, q3⟩
    · exact .inl (List.mem_cons_of_mem _ hr)
    · exact .inr ⟨o, ob, q1, q2, q3⟩
  · refine SReach.congr s _ ?_ hp; rfl

theorem Anchored.pushObs {s : State} {n : Nat} (h : Anchored s n) (ob : ObsRec) (l : List Nat) :
    Anchored { s with observers := s.observers.push ob, newObservers := l } n := by
  obtain ⟨r, hr, hp⟩ := h
  refine ⟨r, ?_, ?_⟩
  · rcases hr with hr | ⟨o, ob', q1, q2, q3⟩
    · exact .inl hr
    · refine .inr ⟨o, ob', ?_, q2, q3⟩
      show (s.observers.push ob)[o]? = some ob'
      have : o < s.observers.size := by
        rcases Nat.lt_or_ge o s.observers.size with h | h
        · exact h
        · rw [Array.getElem?_eq_none h] at q1; cases q1
      rw [Array.getElem?_push, if_neg (Nat.ne_of_lt this)]; exact q1
  · refine SReach.congr s _ ?_ hp; rfl

theorem Anchored.modObs {s : State} {n : Nat} (h : Anchored s n) (o : Nat) (f : ObsRec → ObsRec)
    (hf : ∀ x, (f x).node = x.node ∧ x.clones ≤ (f x).clones) :
    Anchored { s with observers := s.observers.modify o f } n := by
  obtain ⟨r, hr, hp⟩ := h
  refine ⟨r, ?_, ?_⟩
  · rcases hr with hr | ⟨o', ob', q1, q2, q3⟩
    · exact .inl hr
    · by_cases ho : o = o'
      · subst ho
        refine .inr ⟨o, f ob', ?_, (hf ob').1.trans q2, Nat.lt_of_lt_of_le q3 (hf ob').2⟩
        show (s.observers.modify o f)[o]? = some (f ob')
        rw [Array.getElem?_modify, if_pos rfl, q1]; rfl
      · refine .inr ⟨o', ob', ?_, q2, q3⟩
        show (s.observers.modify o f)[o']? = some ob'
        rw [Array.getElem?_modify, if_neg ho]; exact q1
  · refine SReach.congr s _ ?_ hp; rfl

/-- EVERY API action other than the two drops keeps the entry of an anchored node (and the anchor) -/
theorem keepA_stepAction (env : Env) (m : Nat) (key : Int) (n : Nat) (a : Action) (tokens : Array Nat)
    (hd : ∀ o, a ≠ .dropObs o) (hh : ∀ o, a ≠ .dropHandle o) :
    Pres (KeepA m key n) (stepAction env a tokens) := by
  have hm : ∀ m' key', (fun _ _ => True : Nat → Int → Prop) m' key' →
      Pres (KeepA m key n) (memoCall env m' key') := fun m' key' _ => keepA_memoCall env m key n m' key'
  by_cases hp : Action.isPlain a = true
  · exact PresI.stepAction_plain env a tokens hp
  · cases a <;> simp only [Action.isPlain, not_true_eq_false] at hp
    case create i =>
      exact PresB.stepAction_create hm (fun _ _ _ => trivial) tokens
        fun s x => KeepA.of_memos (fun h => h.push x) rfl
    case observe o =>
      exact PresI.stepAction_observe env o tokens fun s ob l => KeepA.of_memos (fun h => h.pushObs ob l) rfl
    case cloneObs o =>
      exact PresI.stepAction_cloneObs env o tokens fun s f hf => KeepA.of_memos (fun h => h.modObs o f hf) rfl
    case dropObs o => exact absurd rfl (hd o)
    case dropHandle o => exact absurd rfl (hh o)
    case stabilise =>
      refine ⟨fun s r s' hrun => ?_⟩
      rcases Split.stepAction_stabilise hm (bodiesP_true env) tokens s r s' hrun with h | ⟨s1, h1, rfl⟩
      · exact h
      · exact PreOrd.trans h1 (KeepA.sweep m key n s1)

/-- the two drops do not touch the tables -/
theorem drop_memos (env : Env) (a : Action) (tokens : Array Nat)
    (hd : (∃ o, a = .dropObs o) ∨ ∃ o, a = .dropHandle o) (s s' : State) (r)
    (h : (stepAction env a tokens).run.run s = (r, s')) : s'.memos = s.memos := by
  rcases hd with ⟨o, rfl⟩ | ⟨o, rfl⟩
  · exact ((Quiet0.stepAction_dropObs env o tokens).h _ _ _ h).memos
  · exact ((Quiet0.stepAction_dropHandle env o tokens).h _ _ _ h).memos

/-- K2 (anchor form), one action: whatever the action (bind closures may call any memoised function with any
key, this one included), if `n` is anchored before and after, its entry stays -/
theorem anchored_entry_step (env : Env) (m : Nat) (key : Int) (n : Nat) (a : Action) (tokens : Array Nat)
    (s s' : State) (r) (h : (stepAction env a tokens).run.run s = (r, s'))
    (ha : Anchored s n) (hs : stored s m key = some n) : stored s' m key = some n := by
  by_cases hd : (∃ o, a = .dropObs o) ∨ ∃ o, a = .dropHandle o
  · simpa only [stored, drop_memos env a tokens hd s s' r h] using hs
  · have h1 : ∀ o, a ≠ .dropObs o := fun o e => hd (.inl ⟨o, e⟩)
    have h2 : ∀ o, a ≠ .dropHandle o := fun o e => hd (.inr ⟨o, e⟩)
    exact ((keepA_stepAction env m key n a tokens h1 h2).h _ _ _ h).entry ha hs

end IncrVerif.Proofs.MemoH
