import IncrVerif.Proofs.ExpertH68
/-!
# Expert nodes, E2: fragment X2 = X1 + closures that read the slots ("cbsum"), all of whose dependencies have callbacks

`stabilise_eq`, `step_eq`, `run_eq`: the engine behaves identically under `env` and `envS env`; hence the whole-history
theorems of fragment X1 (for `envS env`) hold for the actual runs under `env` (`history_stabilise_x2`).
-/
namespace IncrVerif.Proofs.ExpertH
open IncrVerif.Engine IncrVerif.Driver IncrVerif.Proofs IncrVerif.Proofs.Step IncrVerif.Proofs.Sched
open IncrVerif.Proofs.ExpertH.QR IncrVerif.Proofs.Xp

section
variable {env : Env}

/-- **`stabilise` behaves identically under `env` and `envS env`** -/
theorem stabilise_eq {rk : Nat → Nat} {fuel : Nat} {s : State} (Q : QInvX (envS env) rk s)
    (L : SlotInv (envS env) s) (C : CbInv env s) :
    (stabilise env fuel).run.run s = (stabilise (envS env) fuel).run.run s := by
  unfold stabilise
  rw [show addNewObservers (envS env) fuel = addNewObservers env fuel from addNewObservers_withX env _ fuel,
    show stabiliseEnd (envS env) fuel = stabiliseEnd env fuel from stabiliseEnd_withX env _ fuel]
  rw [run_bind_get, run_bind_get]
  refine bind_run_congr rfl fun _ sa ha => ?_
  have hsa : sa = s := by
    rw [run_assertM] at ha
    split at ha <;> cases ha
    rfl
  rw [hsa, run_bind_modify, run_bind_modify]
  refine bind_run_congr rfl fun _ t1 h1 => ?_
  refine bind_run_congr rfl fun _ t2 h2 => ?_
  have h1' : (addNewObservers (envS env) fuel).run.run { s with status := .stabilising } = (.ok (), t1) := by
    rw [show addNewObservers (envS env) fuel = addNewObservers env fuel from addNewObservers_withX env _ fuel]
    exact h1
  obtain ⟨D2, U2⟩ := stabilise_prefixX Q h1' h2
  have hv0 : ∀ m, (({ s with status := .stabilising } : State).nodeD m).valid = true := Q.frag.validD
  have hp0 : ({ s with status := .stabilising } : State).propagateInvalidity = [] := Q.pinv
  have L1 := addNewObservers_slots hv0 hp0 (slotInv_status L .stabilising) h1'
  have hv1 : ∀ m, (t1.nodeD m).valid = true :=
    (((PresC.addNewObservers (envS env) fuel).h _ _ _ h1') hv0 hp0).1.allValid hv0
  have L2 := unlinkDisallowedObservers_slots hv1 L1 h2
  have C0 : CbInv env ({ s with status := .stabilising } : State) := C
  have C2 : CbInv env t2 :=
    (C0.of_xw (XW.of_xf ((PresX.addNewObservers (envS env) fuel).h _ _ _ h1'))).of_xw
      (XW.of_xf ((PresX.unlinkDisallowedObservers fuel).h _ _ _ h2))
  exact bind_run_congr (drainHeap_eq fuel t2 D2 U2 L2 C2) fun _ _ _ => rfl

/-- `stabilise` keeps `CbInv` -/
theorem stabilise_cbInv {rk : Nat → Nat} {fuel : Nat} {s s' : State} (Q : QInvX (envS env) rk s) (C : CbInv env s)
    (h : (stabilise (envS env) fuel).run.run s = (.ok (), s')) : CbInv env s' := by
  have R := stabiliseX Q h
  intro e er' he'
  -- kinds/records: `f` and `children` are kept by every phase; use the from-scratch frame of `StabilisedX`
  obtain ⟨t1, t2, t3, h1, h2, D2, U2, h3, -, E⟩ := R.runs
  have C0 : CbInv env ({ s with status := .stabilising } : State) := C
  have C2 : CbInv env t2 :=
    (C0.of_xw (XW.of_xf ((PresX.addNewObservers (envS env) fuel).h _ _ _ h1))).of_xw
      (XW.of_xf ((PresX.unlinkDisallowedObservers fuel).h _ _ _ h2))
  have C3 : CbInv env t3 := by
    -- through the drain
    have key : ∀ (fuel : Nat) (s s' : State), DInvX (envS env) s none → UnnecOK (virtEnv (envS env)) (virt s) →
        CbInv env s → (drainHeap (envS env) fuel).run.run s = (.ok (), s') → CbInv env s' := by
      intro fuel
      induction fuel with
      | zero => intro s s' _ _ _ h; unfold drainHeap at h; cases h
      | succ fuel ih =>
        intro s s' D U C h
        unfold drainHeap at h
        obtain ⟨r, s1, h1, h2⟩ := bind_ok_inv h
        cases r with
        | none =>
          have C1 : CbInv env s1 := C.of_xw (XW.of_xf ((PresX.rchRemoveMin).h _ _ _ h1))
          obtain ⟨-, e⟩ := pure_ok_inv h2
          rw [e]; exact C1
        | some n =>
          obtain ⟨_, s2, h3, h4⟩ := bind_ok_inv h2
          obtain ⟨hv, F1, hp1, A1⟩ := popX D h1
          obtain ⟨I1, -⟩ := pop_inv D.inv hv
          have D1 : DInvX (envS env) s1 (some n) := ⟨F1, I1, hp1, A1⟩
          have U1 := pop_unnec D.inv.heap U hv
          have C1 : CbInv env s1 := C.of_xw (XW.of_xf ((PresX.rchRemoveMin).h _ _ _ h1))
          obtain ⟨D2, -⟩ := recomputeX_inv fuel n s1 s2 D1 h3
          obtain ⟨U2, C2⟩ := recompute_keeps fuel n s1 s2 D1 U1 C1 h3
          exact ih s2 s' D2 U2 C2 h4
    exact key fuel t2 t3 D2 U2 C2 h3
  rw [E.experts] at he'
  exact C3 e er' he'

end

/-! ## fragment X2 -/

/-- the API actions of fragment X2: those of X1 relative to `envS env` (so `create (expert f)` needs `XEnvCb env f`), and
an `addDep` WITHOUT callback only on an expert node whose closure does not read the slots -/
def XActionOK2 (env : Env) (s : State) : Action → Prop
  | .addDep eo co cb => AddDepOK s eo co ∧ (cb = true ∨
      ∀ kn n e er, eo = .outer kn → s.top[kn]? = some n → (s.nodeD n).kind = .expert e →
        s.experts[e]? = some er → XEnvOK env er.f)
  | a => XActionOK (envS env) s a

theorem XActionOK2.x1 {env : Env} {s : State} {a : Action} (h : XActionOK2 env s a) : XActionOK (envS env) s a := by
  cases a <;> first | exact h | exact h.1

section
variable {env : Env}

theorem cbInv_added {s : State} {e c : Nat} {er : ExpertRec} {cb : Bool} (C : CbInv env s)
    (hx : s.experts[e]? = some er) (hcb : cb = true ∨ XEnvOK env er.f) : CbInv env (addedState e er c cb s) := by
  intro e' er' he'
  by_cases h : e' = e
  · subst h
    rw [addedState_get hx] at he'
    cases he'
    rcases C e' er hx with hok | hall
    · exact Or.inl hok
    · rcases hcb with hcb | hok
      · refine Or.inr fun ed hed => ?_
        rcases List.mem_append.1 hed with h1 | h1
        · exact hall ed h1
        · have : ed = newEdge s c cb := by simpa using h1
          rw [this, hcb]; rfl
      · exact Or.inl hok
  · rw [addedState_get_ne h] at he'; exact C e' er' he'

/-- `addDep` keeps `CbInv` -/
theorem addDep_cbInv {rk : Nat → Nat} {s s' : State} {eo co : Opnd} {cb : Bool} {tk : Array Nat}
    {r : String × Array Nat} (Q : QInvX (envS env) rk s) (C : CbInv env s)
    (hok : XActionOK2 env s (.addDep eo co cb))
    (h : (stepAction (envS env) (.addDep eo co cb) tk).run.run s = (.ok r, s')) : CbInv env s' := by
  obtain ⟨hok1, hok2⟩ := hok
  obtain ⟨kn, kc, n, c, e, dep, rfl, hn, hcc, hk, hacyc, h3⟩ := addDep_ok_inv hok1 h
  have hnlt : n < s.nodes.size := Q.frag.lt_of_expert hk
  have hclt : c < s.nodes.size := by
    have := Q.q.top kc c hcc; rwa [virt_size] at this
  obtain ⟨er, hx, -⟩ := Q.frag.xrec n e hnlt hk
  have hX : IsExpert s n (s.nodeD n) e er := ⟨some_of_lt hnlt, Q.frag.valid n hnlt, hk, hx⟩
  have hcb : cb = true ∨ XEnvOK env er.f := hok2.elim Or.inl fun h => Or.inr (h kn n e er rfl hn hk hx)
  have CA := cbInv_added (c := c) C hx hcb
  cases hnec : (s.nodeD n).isNecessary with
  | false =>
    obtain ⟨rk', -, -, -, e'⟩ := addDep_unnec Q.frag Q.q Q.ahh hX hnec hclt hacyc h3
    rw [e']; exact CA
  | true =>
    obtain ⟨rk', -, -, -, -, xf, -⟩ := addDep_struct Q.frag Q.q.struct Q.ahh Q.q.pinv
      (fun m => by have := Q.q.handlers m; rwa [virt_nodeD] at this) hX hnec hclt hacyc h3
    exact CA.of_xw (XW.of_xf xf)

/-- every action of fragment X2 keeps `CbInv` -/
theorem step_cbInv {rk : Nat → Nat} {s s' : State} {a : Action} {tk : Array Nat} {r : String × Array Nat}
    (Q : QInvX (envS env) rk s) (C : CbInv env s) (ha : XActionOK2 env s a)
    (h : (stepAction (envS env) a tk).run.run s = (.ok r, s')) : CbInv env s' := by
  by_cases h1 : ∃ eo co cb, a = .addDep eo co cb
  · obtain ⟨eo, co, cb, rfl⟩ := h1
    exact addDep_cbInv Q C ha h
  by_cases h2 : a = .stabilise
  · subst h2; exact stabilise_cbInv Q C (step_stabilise h)
  by_cases h3 : ∃ i, a = .create i
  · obtain ⟨i, rfl⟩ := h3
    by_cases h4 : ∃ f, i = .expert f
    · obtain ⟨f, rfl⟩ := h4
      have hsc : s.currentScope = .top := Q.q.struct.static.scope
      rw [step_create_expert_inv hsc h]
      intro e er he
      have he' : (s.experts.push { f := f, node := s.nodes.size })[e]? = some er := he
      by_cases hlt : e < s.experts.size
      · rw [Array.getElem?_push_lt hlt] at he'
        exact C e er (by rw [Array.getElem?_eq_getElem hlt]; exact he')
      · by_cases heq : e = s.experts.size
        · subst heq
          simp at he'
          subst he'
          exact Or.inr fun ed hed => by cases hed
        · rw [Array.getElem?_eq_none (by simp; omega)] at he'; cases he'
    · have hst : XStaticAction (envS env) (.create i) := by
        cases i <;> first | exact ha | exact absurd ⟨_, rfl⟩ h4
      obtain ⟨-, hx, -⟩ := create_pushed hst h
      intro e er he; rw [hx] at he; exact C e er he
  · have hx : XAct a := by
      cases a <;> first | trivial | exact absurd rfl h2 | exact absurd ⟨_, rfl⟩ h3 | exact absurd ⟨_, _, _, rfl⟩ h1
    exact C.of_xw (XW.of_xf ((PresX.stepAction (envS env) a tk hx).h _ _ _ h))

/-- **every action of fragment X2 behaves identically under `env` and `envS env`** -/
theorem step_eq {rk : Nat → Nat} {s : State} {a : Action} {tk : Array Nat} (Q : QInvX (envS env) rk s)
    (L : SlotInv (envS env) s) (C : CbInv env s) :
    (stepAction env a tk).run.run s = (stepAction (envS env) a tk).run.run s := by
  by_cases h : a = .stabilise
  · subst h
    unfold stepAction
    dsimp only
    exact bind_run_congr (stabilise_eq Q L C) fun _ _ _ => rfl
  · rw [show stepAction (envS env) a tk = stepAction env a tk from stepAction_withX env _ a tk h]

/-- every action of a run is an action of fragment X2, in the state in which it is executed -/
def RunOK2 (env : Env) : List Action → State → Array Nat → Prop
  | [], _, _ => True
  | a :: as, s, tk => XActionOK2 env s a ∧
      ∀ r s', (stepAction env a tk).run.run s = (.ok r, s') → RunOK2 env as s' r.2

theorem RunOK2.append {as bs : List Action} {s s1 : State} {tk tk1 : Array Nat}
    (h : RunOK2 env (as ++ bs) s tk) (h1 : runActions env as s tk = .ok (s1, tk1)) :
    RunOK2 env as s tk ∧ RunOK2 env bs s1 tk1 := by
  induction as generalizing s tk with
  | nil => simp only [runActions] at h1; cases h1; exact ⟨trivial, h⟩
  | cons a as ih =>
    simp only [runActions] at h1
    rcases hx : (stepAction env a tk).run.run s with ⟨_ | r, s2⟩
    · rw [hx] at h1; cases h1
    · rw [hx] at h1
      obtain ⟨ha, hrest⟩ := h
      obtain ⟨i1, i2⟩ := ih (hrest r s2 hx) h1
      refine ⟨⟨ha, fun r' s' hx' => ?_⟩, i2⟩
      rw [hx] at hx'; cases hx'; exact i1

/-- **whole runs**: identical under `env` and `envS env`; a run of X2 under `env` is a run of X1 under `envS env`; the
three invariants hold at the end -/
theorem run_eq {rk : Nat → Nat} {acts : List Action} {s : State} {tk : Array Nat} (Q : QInvX (envS env) rk s)
    (L : SlotInv (envS env) s) (C : CbInv env s) (ha : RunOK2 env acts s tk) :
    runActions env acts s tk = runActions (envS env) acts s tk ∧ RunOK (envS env) acts s tk ∧
      ∀ s' tk', runActions (envS env) acts s tk = .ok (s', tk') →
        ∃ rk', QInvX (envS env) rk' s' ∧ SlotInv (envS env) s' ∧ CbInv env s' := by
  induction acts generalizing s tk rk with
  | nil => exact ⟨rfl, trivial, fun s' tk' h => by simp only [runActions] at h; cases h; exact ⟨rk, Q, L, C⟩⟩
  | cons a as ih =>
    have he := step_eq (a := a) (tk := tk) Q L C
    simp only [runActions]
    rcases hx : (stepAction (envS env) a tk).run.run s with ⟨_ | r, s1⟩
    · rw [hx] at he
      refine ⟨by rw [he], ⟨ha.1.x1, fun r s' hr => ?_⟩, fun s' tk' h => by cases h⟩
      rw [hx] at hr; cases hr
    · rw [hx] at he
      obtain ⟨rk1, Q1⟩ := step_x Q ha.1.x1 hx
      have L1 := step_x_slots Q L ha.1.x1 hx
      have C1 := step_cbInv Q C ha.1 hx
      obtain ⟨i1, i2, i3⟩ := ih Q1 L1 C1 (ha.2 r s1 he)
      refine ⟨by rw [he]; exact i1, ⟨ha.1.x1, fun r' s' hr => ?_⟩, i3⟩
      rw [hx] at hr; cases hr; exact i2

theorem cbInv_init (env : Env) (N : Nat) (d : Bool) : CbInv env (State.init N d) :=
  fun e er h => by simp [State.init] at h

/-- `evalX` does not read the closure table -/
theorem evalX_envS (s : State) (k n : Nat) : evalX (envS env) s k n = evalX env s k n := by
  induction k generalizing n with
  | zero => rfl
  | succ k ih =>
    unfold evalX
    have : (fun a => evalX (envS env) s k a) = fun a => evalX env s k a := funext ih
    rw [this]
    rfl

theorem readsOKX_envS {s : State} (h : ReadsOKX (envS env) s) : ReadsOKX env s := by
  intro o ob ho hst k hk
  obtain ⟨v, h1, h2⟩ := h o ob ho hst k hk
  exact ⟨v, h1, by rw [← evalX_envS]; exact h2⟩

/-- **E2 for fragment X2 (closures that read the slots).**  At every `stabilise` of a history of X2 that runs (under the
ACTUAL environment `env`) from the initial state: afterwards every observer in use reads `evalX` of its node (an expert
node, also a "cbsum" one: the sum of the from-scratch values of its current dependencies), every callback slot of every
necessary expert node is current, and both invariants hold (for `envS env`). -/
theorem history_stabilise_x2 {N : Nat} {d : Bool} {as bs : List Action} {s : State} {tk : Array Nat}
    (ha : RunOK2 env (as ++ Action.stabilise :: bs) (State.init N d) #[])
    (h : runActions env (as ++ Action.stabilise :: bs) (State.init N d) #[] = .ok (s, tk)) :
    ∃ s1 tk1 s2 rk1, runActions env as (State.init N d) #[] = .ok (s1, tk1) ∧ QInvX (envS env) rk1 s1 ∧
      SlotInv (envS env) s1 ∧ CbInv env s1 ∧
      (stabilise env fuelDefault).run.run s1 = (.ok (), s2) ∧ StabilisedX (envS env) rk1 fuelDefault s1 s2 ∧
      SlotInv (envS env) s2 ∧ SlotsCurrent env s2 ∧ ReadsOKX env s2 ∧
      runActions env bs s2 tk1 = .ok (s, tk) := by
  obtain ⟨s1, tk1, hp1, hp2⟩ := runActions_prefix h
  obtain ⟨i1, i2⟩ := ha.append hp1
  obtain ⟨e1, -, fin1⟩ :=
    run_eq (qinvX_init (envS env) N d) (slotInv_init (envS env) N d) (cbInv_init env N d) i1
  obtain ⟨rk1, Q1, L1, C1⟩ := fin1 s1 tk1 (by rw [← e1]; exact hp1)
  simp only [runActions] at hp2
  rcases hx : (stepAction env .stabilise tk1).run.run s1 with ⟨_ | r, s2⟩
  · rw [hx] at hp2; cases hp2
  · rw [hx] at hp2
    replace hp2 : runActions env bs s2 r.2 = .ok (s, tk) := hp2
    obtain ⟨hst, rfl⟩ := Hist.stepAction_stabilise_ok.1 hx
    have hst' : (stabilise (envS env) fuelDefault).run.run s1 = (.ok (), s2) := by
      rw [← stabilise_eq Q1 L1 C1]; exact hst
    have R := stabiliseX Q1 hst'
    have L2 := stabilise_slots Q1 L1 hst'
    have SC' : SlotsCurrent (envS env) s2 := slotsCurrent_of_stabilised R L2
    have SC : SlotsCurrent env s2 := SC'
    exact ⟨s1, tk1, s2, rk1, hp1, Q1, L1, C1, hst, R, L2, SC, readsOKX_envS (stabilisedX_reads R).1, hp2⟩

end
end IncrVerif.Proofs.ExpertH
