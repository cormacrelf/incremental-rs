import IncrVerif.Proofs.NestH19
import IncrVerif.Proofs.NestH1
import IncrVerif.Proofs.BindH77
/-!
# Nested binds (F2), the run of a change detector, part 1: phase 0 (`Pre2`)

`CC.lc_run_inv`, `CC.NKey`, `CC.started_*`, `CC.ahhEmpty_started` come from `BindH73`; `All2.congr` and `NC.ginv2_restamp` (re-stamping one node) from `NestH6`.
-/
namespace IncrVerif.Proofs.NestH
open IncrVerif.Engine IncrVerif.Proofs IncrVerif.Proofs.Step IncrVerif.Proofs.Sched IncrVerif.Proofs.Quiet
open IncrVerif.Proofs.BindH
namespace NC

/-! ## everything about the state in which the closure run starts -/

/-- what `DInv` and `F2Inv` say about the bind of the running change detector, and the structural invariant in
`started n s`.  The change detector may itself be a node of an outer scope. -/
structure Pre2 (env : Env) (rk : Nat → Nat) (n b : Nat) (br : BindRec) (s : State) : Prop where
  hlt : n < s.nodes.size
  hvn : (s.nodeD n).valid = true
  hb : s.binds[b]? = some br
  hlc : br.lhsChange = n
  hmain : br.main = n + 1
  hml : br.main < s.nodes.size
  hkm : (s.nodeD br.main).kind = .bindMain b n
  hvm : (s.nodeD br.main).valid = true
  scM : (s.nodeD br.main).createdIn = (s.nodeD n).createdIn
  hmem : n ∈ s.children br.main
  necMain : s.isNecessary br.main = true
  hmr : (s.nodeD br.main).recomputedAt < s.stabNum
  g0 : GInv2 env rk (started n s) allClosed (· = br.main) []
  ahh0 : AhhEmpty (started n s)

theorem lc_pre2 {env : Env} {rk : Nat → Nat} {s : State} {n b : Nat} (I : DInv env s (some n)) (A : F2Inv env rk s)
    (hk : (s.nodeD n).kind = .bindLhsChange b) : ∃ br, Pre2 env rk n b br s := by
  obtain ⟨hn, hlt, hv, hnq, -⟩ := I.cur_facts
  have G := ginv2_of_dinv I A
  obtain ⟨br, hb, hlc⟩ := (A.frag.node n hlt).lcRec b hk
  obtain ⟨h1, h2, -, h4, h5⟩ := A.frag.recs b br hb
  have hvm : (s.nodeD br.main).valid = true := by rw [A.frag.recValid b br hb, hlc]; exact hv
  rw [hlc] at h1 h4 h5
  have hmem : n ∈ s.children br.main := by rw [G.main_children hb hvm, hlc]; exact List.mem_cons_self ..
  have necMain : s.isNecessary br.main = true := by
    -- `n` is necessary, unobserved and not forced: it has a recorded parent, which is the main node
    rcases (isNecessary_iff s n).1 hn with hp | ho | hf
    · obtain ⟨⟨p, i⟩, hpi⟩ := List.exists_mem_of_ne_nil _ hp
      obtain ⟨hpn, hci⟩ := I.graph.parent n p i hpi
      have hpl := I.graph.nec_lt hpn
      have hkp := (A.frag.node p hpl).lcChild n b (List.mem_of_getElem? hci) hk
      obtain ⟨br', hb', hm', -⟩ := (A.frag.node p hpl).mainRec b n hkp
      rw [hb] at hb'; cases hb'
      rw [hm']; exact hpn
    · exact absurd (A.lcObs n b hk) ho
    · rw [A.noForce n] at hf; cases hf
  have hBn : BKind env ((started n s).nodeD n).kind := by
    rw [CC.started_self hlt]; show BKind env (s.nodeD n).kind; rw [hk]; trivial
  have hfresh : (started n s).isStale n = false := by
    apply isStale_fresh hBn (show 0 ≤ s.stabNum from I.stamps.now)
    · show ((started n s).nodeD n).recomputedAt = s.stabNum
      rw [CC.started_self hlt]
    · exact I.stamps.var
    · intro c
      show ((started n s).nodeD c).changedAt ≤ s.stabNum
      obtain ⟨y, e⟩ := CC.started_upto n s c
      rw [e]; exact (I.stamps.node c).2
  have G1 : GInv2 env rk (started n s) allClosed (· = br.main) [] :=
    ginv2_restamp G rfl rfl (CC.started_size n s) rfl rfl rfl (CC.started_upto n s)
      (fun m e => CC.started_other s e)
      hnq hfresh (fun m e hmn' hms _ => by
        rcases I.pending m hmn' hms with h1 | h1
        · exact h1
        · exact absurd (Option.some.inj h1).symm e)
  exact ⟨br, hlt, hv, hb, hlc, h1, h2, h4, hvm, h5, hmem, necMain,
    I.fresh br.main n (Below.of_edge (Edge.child hmem)) (Or.inr rfl), G1, CC.ahhEmpty_started A.ahh⟩

end NC
end IncrVerif.Proofs.NestH
