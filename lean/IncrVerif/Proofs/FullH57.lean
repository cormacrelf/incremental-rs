import IncrVerif.Proofs.FullH56
/-!
# C01 full fragment: the `didChange` invariant through a run of a change detector, part 4
(the skeleton of `lhsRelink`: the state `u` in which the new right-hand side is linked, `state_add_parent` = the linking cascade followed by light
steps, the unlinking of the old right-hand side)
-/
namespace IncrVerif.Proofs.FullH
open IncrVerif.Engine IncrVerif.Proofs IncrVerif.Proofs.Step IncrVerif.Proofs.Sched IncrVerif.Proofs.Quiet
namespace KL

theorem sap_tail_inv {fuel c p : Nat} {u u' : State} (hp : u.propagateInvalidity = [])
    (h : (do
          propagateInvalidity fuel
          let __do_lift ← get
          dassert (__do_lift.isNecessary p) "node:state_add_parent:parent-necessary"
          let p_1 ← getNode p
          let c ← getNode c
          if (!p_1.inRch && (p_1.recomputedAt == -1 || decide (c.changedAt > p_1.recomputedAt))) = true then rchInsert p
            else pure () : M Unit).run.run u = (.ok (), u')) : HF u u' := by
  obtain ⟨_, u2, h1, h2⟩ := bind_ok_inv h
  have e := propagateInvalidity_nil hp h1
  rw [e] at h2
  refine Step.Pres.h ?_ _ _ _ h2
  qpres
  exact (Footprint.Foot.rchInsert p).frame (HF.of_edit (by decide))

theorem stateAddParent_inv {env : Env} {fuel c i p : Nat} {u u' : State}
    (h : (stateAddParent env fuel c i p).run.run u = (.ok (), u')) :
    ∃ u1, (addParentWithoutAdjustingHeights env fuel c i p).run.run u = (.ok (), u1) ∧
      (u1.propagateInvalidity = [] → HF u1 u') := by
  unfold stateAddParent at h
  rw [run_bind_get] at h
  replace h := bind_dassert_inv h
  obtain ⟨_, u1, h1, h⟩ := bind_ok_inv h
  refine ⟨u1, h1, fun hp => ?_⟩
  obtain ⟨nc, hnc, h⟩ := bind_getNode_inv h
  obtain ⟨np, hnp, h⟩ := bind_getNode_inv h
  dsimp only at h
  split at h
  · obtain ⟨_, u2, h2, h⟩ := bind_ok_inv h
    have H2 : HF u1 u2 := (PresHF.adjustHeights c p fuel).h _ _ _ h2
    exact PreOrd.trans H2 (sap_tail_inv (H2.pinv.trans hp) h)
  · exact sap_tail_inv hp h

/-- node `b` is node `a` up to the parent list, the `forceNecessary` bit and the `changedAt` stamp -/
def NodeUp (a b : Node) : Prop := ∃ pl f c, b = { a with parents := pl, forceNecessary := f, changedAt := c }
theorem NodeUp.refl (a : Node) : NodeUp a a := ⟨a.parents, a.forceNecessary, a.changedAt, rfl⟩
theorem NodeUp.trans {a b c : Node} (h1 : NodeUp a b) (h2 : NodeUp b c) : NodeUp a c := by
  obtain ⟨p1, f1, c1, rfl⟩ := h1
  obtain ⟨p2, f2, c2, rfl⟩ := h2
  exact ⟨p2, f2, c2, rfl⟩

/-- the state `u` in which the new right-hand side is linked (`state_add_parent rhs 1 main`), against the state `s1` after the closure run -/
structure PreU (n b rhs : Nat) (s1 u : State) : Prop where
  size : u.nodes.size = s1.nodes.size
  node : ∀ m, NodeUp (s1.nodeD m) (u.nodeD m)
  chg : ∀ m, m ≠ n → (u.nodeD m).changedAt = (s1.nodeD m).changedAt
  nec : ∀ m, u.isNecessary m = s1.isNecessary m
  binds : u.binds = s1.binds.modify b fun x => { x with rhs := some rhs }
  pinv : u.propagateInvalidity = s1.propagateInvalidity
  pc : u.panicCountdown = s1.panicCountdown

theorem shk_unforce (s : State) (o : Nat) :
    SHk s { s with nodes := s.nodes.modify o fun x => { x with forceNecessary := false } } := by
  refine ⟨by simp, fun m => ?_, fun m => ?_, fun m => ?_, fun m hd => ?_, fun m hm => ?_⟩
  · rw [nodeD_modify]; split <;> rfl
  · rw [nodeD_modify]; split <;> rfl
  · rw [nodeD_modify]; split <;> rfl
  · rw [nodeD_modify] at hd; split at hd <;> exact hd
  · rw [isNecessary_iff] at hm ⊢
    rw [nodeD_modify] at hm
    split at hm
    · rcases hm with hm | hm | hm
      · exact Or.inl hm
      · exact Or.inr (Or.inl hm)
      · cases hm
    · exact hm

theorem lhsRelink_inv {env : Env} {fuel n b : Nat} {br : BindRec} {now : Int} {rhs : Nat} {s1 s2 : State}
    (h : (Inval.lhsRelink env fuel n b br now rhs).run.run s1 = (.ok (), s2)) :
    ∃ u, PreU n b rhs s1 u ∧
      (s2 = u ∨ ∃ u', (stateAddParent env fuel rhs 1 br.main).run.run u = (.ok (), u') ∧ SHk u' s2) := by
  unfold Inval.lhsRelink Engine.modBind at h
  obtain ⟨a1, ha1, h⟩ := bind_modify_inv h
  obtain ⟨a2, ha2, h⟩ := bind_modNode_inv h
  have P2 : PreU n b rhs s1 a2 := by
    rw [ha2, ha1]
    refine ⟨by simp, fun m => ?_, fun m hm => ?_, fun m => ?_, rfl, rfl, rfl⟩
    · show NodeUp (s1.nodeD m) (({ s1 with nodes := s1.nodes.modify n _ } : State).nodeD m)
      rw [nodeD_modify]; split
      · exact ⟨_, _, now, rfl⟩
      · exact NodeUp.refl _
    · show (({ s1 with nodes := s1.nodes.modify n _ } : State).nodeD m).changedAt = _
      rw [nodeD_modify, if_neg (fun e => hm e.1.symm)]
    · show (({ s1 with nodes := s1.nodes.modify n _ } : State).nodeD m).isNecessary = _
      rw [nodeD_modify]; split <;> rfl
  unfold changeChildBindRhs at h
  obtain ⟨nd, hnd, h⟩ := bind_getNode_inv h
  split at h
  · -- the main node is a valid `bindMain` node
    cases hr : br.rhs with
    | none =>
      rw [hr] at h
      exact ⟨a2, P2, Or.inr ⟨s2, h, SHk.refl _⟩⟩
    | some o =>
      rw [hr] at h
      dsimp only at h
      split at h
      · exact ⟨a2, P2, Or.inl (pure_ok_inv h).2⟩
      · unfold removeParent at h
        simp only [bind_assoc] at h
        obtain ⟨c, hc, h⟩ := bind_getNode_inv h
        cases hidx : c.parents.idxOf? (br.main, 1) with
        | none =>
          rw [hidx] at h; dsimp only at h
          obtain ⟨_, _, hp, _⟩ := bind_ok_inv h
          rw [run_panic] at hp; cases hp
        | some pi =>
          rw [hidx] at h
          dsimp only at h
          obtain ⟨a3, ha3, h⟩ := bind_modNode_inv h
          obtain ⟨a4, ha4, h⟩ := bind_modNode_inv h
          obtain ⟨_, a5, h5, h⟩ := bind_ok_inv h
          obtain ⟨a6, ha6, h⟩ := bind_modNode_inv h
          have hco : a2.nodeD o = c := nodeD_of_some hc
          have holt : o < a2.nodes.size := lt_of_some hc
          have hmem : (a2.nodeD o).parents ≠ [] := by
            rw [hco]
            unfold List.idxOf? at hidx
            rw [List.findIdx?_eq_some_iff_getElem] at hidx
            obtain ⟨hk, -, -⟩ := hidx
            intro e; rw [e] at hk; cases hk
          have e4 : a4 = { a2 with nodes := (a2.nodes.modify o (BindH.BR.fDrop pi)).modify o (BindH.BR.fForce true) } := by
            rw [ha4, ha3]; rfl
          have n4 : ∀ m, a4.nodeD m = if o = m ∧ m < a2.nodes.size then
              BindH.BR.fForce true (BindH.BR.fDrop pi (a2.nodeD m)) else a2.nodeD m := by
            intro m; rw [e4]; exact BindH.BR.nodeD_modify2 a2 o m _ _
          have P4 : PreU n b rhs s1 a4 := by
            refine ⟨?_, fun m => ?_, fun m hm => ?_, fun m => ?_, ?_, ?_, ?_⟩
            · rw [e4]; simp; exact P2.size
            · refine (P2.node m).trans ?_
              rw [n4]; split
              · exact ⟨_, _, _, rfl⟩
              · exact NodeUp.refl _
            · rw [← P2.chg m hm, n4]; split <;> rfl
            · rw [← P2.nec m]
              show (a4.nodeD m).isNecessary = (a2.nodeD m).isNecessary
              rw [n4]; split
              · rename_i hm
                obtain ⟨rfl, -⟩ := hm
                have : (a2.nodeD o).isNecessary = true := by
                  have := (isNecessary_iff a2 o).2 (Or.inl hmem)
                  exact this
                rw [this]
                simp [BindH.BR.fForce, BindH.BR.fDrop, Node.isNecessary]
              · rfl
            · rw [e4]; exact P2.binds
            · rw [e4]; exact P2.pinv
            · rw [e4]; exact P2.pc
          refine ⟨a4, P4, Or.inr ⟨a5, h5, ?_⟩⟩
          have S6 : SHk a5 a6 := by rw [ha6]; exact shk_unforce a5 o
          exact S6.trans (SHk.of_sh (MapRefH.checkIfUnnecessary_sh h))
  · exact ⟨a2, P2, Or.inl (pure_ok_inv h).2⟩

end KL
end IncrVerif.Proofs.FullH
