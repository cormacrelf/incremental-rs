import IncrVerif.Proofs.PerKeyH111
/-! # Per-key operators, non-vacuity examples (continued): family `P0` (see `PerKeyH111`) -/
namespace IncrVerif.Proofs.PerKeyH
open IncrVerif.Engine IncrVerif.Driver IncrVerif.Proofs IncrVerif.Proofs.ExpertH
open IncrVerif.Props.C14History IncrVerif.Proofs.ExpertH.QR

/-! ## `P0`: `F(k, v) = (2 v + k) mod 7` (uses the key) -/

set_option maxRecDepth 100000 in
/-- after each `stabilise` with an in-use observer (`o0`; after the re-observation `o1`): (the read, the input map, the outer variable) -/
theorem exP0_io :
    ioAfter exEnvP ((exHistP 0).take 6) 0 = some (.map [(1, 0), (5, 5)], some (.map [(1, 3), (5, 0)]), some (.int 2)) ∧
    ioAfter exEnvP ((exHistP 0).take 8) 0 = some (.map [(1, 0), (5, 5), (6, 3)], some (.map [(1, 3), (5, 0), (6, 2)]), some (.int 2)) ∧
    ioAfter exEnvP ((exHistP 0).take 10) 0 = some (.map [(1, 2), (5, 5), (6, 3)], some (.map [(1, 4), (5, 0), (6, 2)]), some (.int 2)) ∧
    ioAfter exEnvP ((exHistP 0).take 12) 0 = some (.map [(1, 2), (6, 3)], some (.map [(1, 4), (6, 2)]), some (.int 2)) ∧
    ioAfter exEnvP ((exHistP 0).take 14) 0 = some (.map [(1, 2), (6, 3)], some (.map [(1, 4), (6, 2)]), some (.int 4)) ∧
    ioAfter exEnvP ((exHistP 0).take 23) 1 = some (.map [(1, 4), (8, 0), (9, 2)], some (.map [(1, 5), (8, 3), (9, 0)]), some (.int 4)) ∧
    ioAfter exEnvP (exHistP 0) 1 = some (.map [(1, 6), (9, 2)], some (.map [(1, 6), (9, 0)]), some (.int 5)) :=
  ⟨by decide +kernel, by decide +kernel, by decide +kernel, by decide +kernel, by decide +kernel, by decide +kernel,
    by decide +kernel⟩

/-- the reads alone -/
theorem exP0_reads :
    readAfter exEnvP ((exHistP 0).take 6) 0 = some (.map [(1, 0), (5, 5)]) ∧
    readAfter exEnvP ((exHistP 0).take 8) 0 = some (.map [(1, 0), (5, 5), (6, 3)]) ∧
    readAfter exEnvP ((exHistP 0).take 10) 0 = some (.map [(1, 2), (5, 5), (6, 3)]) ∧
    readAfter exEnvP ((exHistP 0).take 12) 0 = some (.map [(1, 2), (6, 3)]) ∧
    readAfter exEnvP ((exHistP 0).take 14) 0 = some (.map [(1, 2), (6, 3)]) ∧
    readAfter exEnvP ((exHistP 0).take 23) 1 = some (.map [(1, 4), (8, 0), (9, 2)]) ∧
    readAfter exEnvP (exHistP 0) 1 = some (.map [(1, 6), (9, 2)]) := by
  obtain ⟨h1, h2, h3, h4, h5, h6, h7⟩ := exP0_io
  exact ⟨readAfter_of_io h1, readAfter_of_io h2, readAfter_of_io h3, readAfter_of_io h4, readAfter_of_io h5,
    readAfter_of_io h6, readAfter_of_io h7⟩

/-- `f0 = lin 7 0 2 1` applied to (the per-key value, the key) -/
def F0 (k v : Int) : Int := (2 * v + k) % 7

/-- C16 on the example, with the function explicit: after each `stabilise` the in-use observer reads
`{k ↦ F(k, v) | (k, v) ∈ x}` for the current value of the input variable `x` (the input
values are those of `exP0_io`) -/
theorem exP0_spec :
    readAfter exEnvP ((exHistP 0).take 6) 0 = some (.map ([(1, 3), (5, 0)].map fun (k, v) => (k, F0 k v))) ∧
    readAfter exEnvP ((exHistP 0).take 8) 0 = some (.map ([(1, 3), (5, 0), (6, 2)].map fun (k, v) => (k, F0 k v))) ∧
    readAfter exEnvP ((exHistP 0).take 10) 0 = some (.map ([(1, 4), (5, 0), (6, 2)].map fun (k, v) => (k, F0 k v))) ∧
    readAfter exEnvP ((exHistP 0).take 12) 0 = some (.map ([(1, 4), (6, 2)].map fun (k, v) => (k, F0 k v))) ∧
    readAfter exEnvP ((exHistP 0).take 14) 0 = some (.map ([(1, 4), (6, 2)].map fun (k, v) => (k, F0 k v))) ∧
    readAfter exEnvP ((exHistP 0).take 23) 1 = some (.map ([(1, 5), (8, 3), (9, 0)].map fun (k, v) => (k, F0 k v))) ∧
    readAfter exEnvP (exHistP 0) 1 = some (.map ([(1, 6), (9, 0)].map fun (k, v) => (k, F0 k v))) := exP0_reads

end IncrVerif.Proofs.PerKeyH
