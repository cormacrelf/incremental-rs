import IncrVerif.Proofs.ExpertH58
import IncrVerif.Proofs.ExpertH62
import IncrVerif.Proofs.ExpertH64
/-!
# Expert nodes, E2: the callback discipline over whole histories

`SlotInv` through `stabilise`, every action of fragment X1, whole histories; after every `stabilise` the slot of
every dependency with a callback of every necessary expert node holds the CURRENT value of the dependency's child.
-/
namespace IncrVerif.Proofs.ExpertH
open IncrVerif.Engine IncrVerif.Driver IncrVerif.Proofs IncrVerif.Proofs.Step IncrVerif.Proofs.Sched
open IncrVerif.Proofs.ExpertH.QR IncrVerif.Proofs.Xp

/-- without bind kinds the children are read from the kind and the expert records -/
theorem children_congr_x {s s' : State} (hK : ∀ m, XK (s.nodeD m).kind)
    (hk : ∀ m, (s'.nodeD m).kind = (s.nodeD m).kind) (hvl : ∀ m, (s'.nodeD m).valid = (s.nodeD m).valid)
    (hx : s'.experts = s.experts) (m : Nat) : s'.children m = s.children m := by
  unfold State.children Node.kind?
  rw [hk m, hvl m, hx]
  have hK := hK m
  by_cases hv : (s.nodeD m).valid = true
  · simp only [hv, if_true]
    cases hkd : (s.nodeD m).kind <;> rw [hkd] at hK <;> first | rfl | exact False.elim hK
  · simp only [hv]
    rfl

/-- `stabiliseEnd` (no deferred writes, no dead variables, no handlers) changes no node's staleness -/
theorem isStale_finished {t s' : State} (hK : ∀ m, XK (t.nodeD m).kind) (E : Finished' t s') (m : Nat) :
    s'.isStale m = t.isStale m := by
  have hnode : ∀ m, (s'.nodeD m).kind = (t.nodeD m).kind ∧ (s'.nodeD m).valid = (t.nodeD m).valid ∧
      (s'.nodeD m).recomputedAt = (t.nodeD m).recomputedAt ∧ (s'.nodeD m).changedAt = (t.nodeD m).changedAt := by
    intro m
    obtain ⟨b, hb⟩ := E.node m
    rw [hb]
    exact ⟨rfl, rfl, rfl, rfl⟩
  exact isStale_congr_fields hnode E.experts E.vars m
    (children_congr_x hK (fun k => (hnode k).1) (fun k => (hnode k).2.1) E.experts m)

/-- `stabiliseEnd` (no deferred writes, no dead variables, no handlers) keeps `SlotInv` -/
theorem slotInv_finished {env : Env} {t s' : State} (hK : ∀ m, XK (t.nodeD m).kind) (L : SlotInv env t)
    (E : Finished' t s') : SlotInv env s' := by
  have hnode : ∀ m, (s'.nodeD m).kind = (t.nodeD m).kind ∧ (s'.nodeD m).value = (t.nodeD m).value ∧
      (s'.nodeD m).isNecessary = (t.nodeD m).isNecessary := by
    intro m
    obtain ⟨b, hb⟩ := E.node m
    rw [hb]
    exact ⟨rfl, rfl, rfl⟩
  have xf : XF t s' :=
    ⟨E.size, fun m => (hnode m).1, by rw [E.experts], fun e => by rw [E.experts], E.nextDep⟩
  refine L.of_frame xf E.experts (fun m => ?_) (fun m => ?_) (isStale_finished hK E)
  · have hk : ∀ p i, (t.nodeD m).kind ≠ .mapRef p i := fun p i h => by have := hK m; rw [h] at this; exact this
    rw [value_plain env s' m (by rw [(hnode m).1]; exact hk), value_plain env t m hk]
    exact (hnode m).2.1
  · simp only [State.isNecessary]; exact (hnode m).2.2

/-- `SlotInv` does not read the status -/
theorem slotInv_status {env : Env} {s : State} (L : SlotInv env s) (x : Status) :
    SlotInv env { s with status := x } :=
  L.of_frame (XF.of_nodes rfl rfl rfl) rfl
    (fun m => value_congr env s { s with status := x } rfl (fun _ => rfl) m) (fun _ => rfl) (fun _ => rfl)

/-- **E2: `stabilise` keeps the callback discipline** -/
theorem stabilise_slots {env : Env} {rk : Nat → Nat} {fuel : Nat} {s s' : State} (Q : QInvX env rk s)
    (L : SlotInv env s) (h : (stabilise env fuel).run.run s = (.ok (), s')) : SlotInv env s' := by
  obtain ⟨t1, t2, t3, h1, h2, D2, U2, h3, -, E⟩ := (stabiliseX Q h).runs
  have hv0 : ∀ m, (({ s with status := .stabilising } : State).nodeD m).valid = true := Q.frag.validD
  have hp0 : ({ s with status := .stabilising } : State).propagateInvalidity = [] := Q.pinv
  have L0 := slotInv_status L .stabilising
  have L1 := addNewObservers_slots hv0 hp0 L0 h1
  have hv1 : ∀ m, (t1.nodeD m).valid = true :=
    (((PresC.addNewObservers env fuel).h _ _ _ h1) hv0 hp0).1.allValid hv0
  have L2 := unlinkDisallowedObservers_slots hv1 L1 h2
  have L3 := drainHeapX_slots fuel t2 t3 D2 U2 L2 h3
  obtain ⟨D3, -, -⟩ := drainHeapX_inv fuel t2 t3 D2 h3
  exact slotInv_finished (fun m => (D3.frag.kindD m).xk) L3 E

/-- **E2: every action of fragment X1 keeps the callback discipline** -/
theorem step_x_slots {env : Env} {rk : Nat → Nat} {s s' : State} {a : Action} {tk : Array Nat}
    {r : String × Array Nat} (Q : QInvX env rk s) (L : SlotInv env s) (ha : XActionOK env s a)
    (h : (stepAction env a tk).run.run s = (.ok r, s')) : SlotInv env s' := by
  cases a
  case create i =>
    cases i
    case expert f => exact create_expert_slots Q L h
    all_goals (refine action_static_slots Q L ?_ h; exact ha)
  case addDep eo co cb => exact addDep_slots Q L ha h
  case stabilise => exact stabilise_slots Q L (step_stabilise h)
  all_goals (refine action_static_slots Q L ?_ h; exact ha)

/-- the two invariants along a run of the fragment -/
theorem run_x_slots {env : Env} {rk : Nat → Nat} {acts : List Action} {s s' : State} {tk tk' : Array Nat}
    (Q : QInvX env rk s) (L : SlotInv env s) (ha : RunOK env acts s tk)
    (h : runActions env acts s tk = .ok (s', tk')) : ∃ rk', QInvX env rk' s' ∧ SlotInv env s' :=
  (Hist.runActions_inv (I := fun s tk rest => (∃ rk, QInvX env rk s ∧ SlotInv env s) ∧ RunOK env rest s tk)
    (fun a _ s _ r s' ⟨⟨_, Q, L⟩, ha⟩ hx =>
      ⟨(step_x Q ha.1 hx).imp fun _ Q1 => ⟨Q1, step_x_slots Q L ha.1 hx⟩, ha.2 r s' hx⟩)
    ⟨⟨rk, Q, L⟩, ha⟩ (runActions_eq .. ▸ h)).1

/-- after a `stabilise`: the slot of every dependency with a callback of every NECESSARY expert node holds the
current value of the dependency's child, which exists -/
def SlotsCurrent (env : Env) (s : State) : Prop :=
  ∀ (n e : Nat) (er : ExpertRec), s.isNecessary n = true → (s.nodeD n).kind = .expert e →
    s.experts[e]? = some er → ∀ ed, ed ∈ er.children → ed.cb.isSome = true →
      ∃ v, s.value env ed.child = some v ∧ er.slots.lookup ed.dep = some v

theorem slotsCurrent_of_stabilised {env : Env} {rk : Nat → Nat} {fuel : Nat} {s s' : State}
    (R : StabilisedX env rk fuel s s') (L : SlotInv env s') : SlotsCurrent env s' := by
  intro n e er hn hk hx ed hed hcb
  have hns := (R.values n hn _ (Nat.lt_succ_self _)).1
  have hg := L.good n e er hk hx (Or.inr hns) ed hed hcb
  obtain ⟨vals, hvals, -⟩ := expert_value_sum R hn hk hx
  have hm : s'.value env ed.child ∈ er.children.map (fun ed => s'.value env ed.child) :=
    List.mem_map.2 ⟨ed, hed, rfl⟩
  rw [hvals] at hm
  obtain ⟨v, -, hv⟩ := List.mem_map.1 hm
  exact ⟨v, hv.symm, by rw [hg, ← hv]⟩

/-- **E2 for whole histories.**  At every `stabilise` of a history of fragment X1: both invariants hold before and
after, the reads are the from-scratch values, and every callback slot of every necessary expert node is current. -/
theorem history_stabilise_slots {env : Env} {N : Nat} {d : Bool} {as bs : List Action} {s : State} {tk : Array Nat}
    (ha : RunOK env (as ++ Action.stabilise :: bs) (State.init N d) #[])
    (h : runActions env (as ++ Action.stabilise :: bs) (State.init N d) #[] = .ok (s, tk)) :
    ∃ s1 tk1 s2 rk1, runActions env as (State.init N d) #[] = .ok (s1, tk1) ∧ QInvX env rk1 s1 ∧ SlotInv env s1 ∧
      (stabilise env fuelDefault).run.run s1 = (.ok (), s2) ∧ StabilisedX env rk1 fuelDefault s1 s2 ∧
      SlotInv env s2 ∧ SlotsCurrent env s2 ∧ ReadsOKX env s2 ∧
      runActions env bs s2 tk1 = .ok (s, tk) := by
  obtain ⟨s1, tk1, s2, rk1, h1, Q1, hst, R, r1, -, -, h2⟩ := history_stabilise_x ha h
  obtain ⟨i1, -⟩ := ha.append h1
  obtain ⟨rk1', -, L1⟩ := run_x_slots (qinvX_init env N d) (slotInv_init env N d) i1 h1
  have L2 := stabilise_slots Q1 L1 hst
  exact ⟨s1, tk1, s2, rk1, h1, Q1, L1, hst, R, L2, slotsCurrent_of_stabilised R L2, r1, h2⟩

theorem history_slots {env : Env} {N : Nat} {d : Bool} {acts : List Action} {s : State} {tk : Array Nat}
    (ha : RunOK env acts (State.init N d) #[])
    (h : runActions env acts (State.init N d) #[] = .ok (s, tk)) : ∃ rk, QInvX env rk s ∧ SlotInv env s :=
  run_x_slots (qinvX_init env N d) (slotInv_init env N d) ha h

end IncrVerif.Proofs.ExpertH
