import IncrVerif.Proofs.MapRef11
/-!
# map_ref fragment, part 5: the `didChange` invariant through the step of a node that is not a map_ref node
-/
namespace IncrVerif.Proofs.MapRefH
open IncrVerif.Engine IncrVerif.Proofs IncrVerif.Proofs.Step IncrVerif.Proofs.Sched IncrVerif.Proofs.Quiet

section
variable {env : Env} {g : Nat → Option Val} {s : State}

/-- recorded parent entries of map_ref parents are real child edges: from the graph invariant of the virtual state -/
theorem edgeOK_of_graph (gr : Graph (virtEnv env) (virt g s)) : EdgeOK s := by
  intro c p ci pr i hmem hk
  have hm : (p, ci) ∈ ((virt g s).nodeD c).parents := by rw [virt_nodeD, virtNode_parents]; exact hmem
  have := (gr.parent c p ci hm).2
  rw [virt_kids, hk] at this
  simp only [kidsR] at this
  cases ci with
  | zero => simpa using this
  | succ k => simp at this

/-- the child edge of a necessary map_ref node is recorded, and the input is necessary -/
theorem mapRef_edge (gr : Graph (virtEnv env) (virt g s)) {m pr i : Nat} (hm : s.isNecessary m = true)
    (hk : (s.nodeD m).kind = .mapRef pr i) : s.isNecessary i = true ∧ (m, 0) ∈ (s.nodeD i).parents := by
  have hmv : (virt g s).isNecessary m = true := by rw [virt_isNecessary]; exact hm
  have := gr.child m hmv 0 i (by rw [virt_kids, hk]; rfl)
  rw [virt_isNecessary, virt_nodeD, virtNode_parents] at this
  exact ⟨this.1, this.2.1⟩

theorem UpM.snoc {W : State} {i n m ci : Nat} (h : UpM W i n) (hmi : (m, ci) ∈ (W.nodeD i).parents)
    (hm : IsMapRef (W.nodeD m).kind) : UpM W m n := by
  induction h with
  | base h1 h2 => exact UpM.step h1 h2 (UpM.base hmi hm)
  | step h1 h2 _ ih => exact UpM.step h1 h2 (ih hmi)

/-- `UpM` only reads kinds and parent lists -/
theorem UpM.congr {W W' : State} (hk : ∀ m, (W'.nodeD m).kind = (W.nodeD m).kind)
    (hp : ∀ m, (W'.nodeD m).parents = (W.nodeD m).parents) {m c : Nat} (h : UpM W m c) : UpM W' m c := by
  induction h with
  | base h1 h2 => exact UpM.base (by rw [hp]; exact h1) (by rw [hk]; exact h2)
  | step h1 h2 _ ih => exact UpM.step (by rw [hp]; exact h1) (by rw [hk]; exact h2) ih

/-- a necessary map_ref node is above `n`, or reads in `W` what it read in `s` — when `W` is `s` up to the stored
value of the node `n` (which is not a map_ref node) and fields that `State.value` does not read -/
theorem up_or_same {W : State} {n : Nat} (F : RFrag env s) (FW : RFrag env W)
    (gr : Graph (virtEnv env) (virt g s))
    (hk : ∀ m, (W.nodeD m).kind = (s.nodeD m).kind)
    (hval : ∀ m, m ≠ n → (W.nodeD m).value = (s.nodeD m).value) :
    ∀ m pr i, s.isNecessary m = true → (s.nodeD m).kind = .mapRef pr i →
      UpM s m n ∨ W.value env m = s.value env m := by
  intro m
  induction m using Nat.strongRecOn with
  | _ m ih =>
    intro pr i hm hkm
    obtain ⟨hin, hedge⟩ := mapRef_edge gr hm hkm
    have hlt := F.lt_of_mapRef hkm
    have hi : i < m := F.back m hlt i (by rw [hkm]; simp [kidsR])
    have hmr : IsMapRef (s.nodeD m).kind := by rw [hkm]; trivial
    by_cases hin' : i = n
    · subst hin'; exact Or.inl (UpM.base hedge hmr)
    · rw [value_mapRef FW (by rw [hk]; exact hkm), value_mapRef F hkm]
      by_cases hmi : ∀ p j, (s.nodeD i).kind ≠ .mapRef p j
      · right
        rw [value_not_mapRef hmi, value_not_mapRef (by intro p j; rw [hk]; exact hmi p j), hval i hin']
      · have : ∃ p j, (s.nodeD i).kind = .mapRef p j := by
          cases hki : (s.nodeD i).kind <;>
            first | exact ⟨_, _, rfl⟩ | (exfalso; apply hmi; intro p j; rw [hki]; intro h; cases h)
        obtain ⟨p, j, hki⟩ := this
        rcases ih i hi p j hin hki with hu | hs
        · exact Or.inl (hu.snoc hedge hmr)
        · right; rw [hs]

end

/-- what a state must share with the pre-state `s` of the step for the flag argument: everything `State.value`,
necessity and the flags read — except the stored value of `n` -/
structure ValFrame (n : Nat) (s W : State) : Prop where
  size : W.nodes.size = s.nodes.size
  kind : ∀ m, (W.nodeD m).kind = (s.nodeD m).kind
  valid : ∀ m, (W.nodeD m).valid = (s.nodeD m).valid
  cutoff : ∀ m, (W.nodeD m).cutoff = (s.nodeD m).cutoff
  parents : ∀ m, (W.nodeD m).parents = (s.nodeD m).parents
  observers : ∀ m, (W.nodeD m).observers = (s.nodeD m).observers
  force : ∀ m, (W.nodeD m).forceNecessary = (s.nodeD m).forceNecessary
  flag : ∀ m, (W.nodeD m).didChange = (s.nodeD m).didChange
  value : ∀ m, m ≠ n → (W.nodeD m).value = (s.nodeD m).value
  pc : s.panicCountdown = none → W.panicCountdown = none

theorem ValFrame.nec {n : Nat} {s W : State} (h : ValFrame n s W) (m : Nat) : W.isNecessary m = s.isNecessary m := by
  simp only [State.isNecessary, Node.isNecessary, h.parents, h.observers, h.force]

theorem ValFrame.frag {env : Env} {n : Nat} {s W : State} (h : ValFrame n s W) (F : RFrag env s) : RFrag env W where
  pc := h.pc F.pc
  kind m hm := by rw [h.kind]; exact F.kind m (by rw [← h.size]; exact hm)
  valid m hm := by rw [h.valid]; exact F.valid m (by rw [← h.size]; exact hm)
  back m hm := by rw [h.kind]; exact F.back m (by rw [← h.size]; exact hm)
  cut m p i hk := by rw [h.kind] at hk; rw [h.cutoff]; exact F.cut m p i hk

theorem ValFrame.trans_quiet {n : Nat} {s W W' : State} (h : ValFrame n s W) (q : Step.Quiet W W')
    (hf : ∀ m, (W'.nodeD m).didChange = (W.nodeD m).didChange) : ValFrame n s W' where
  size := q.size.trans h.size
  kind m := (q.node m).kind.trans (h.kind m)
  valid m := (q.node m).valid.trans (h.valid m)
  cutoff m := (q.node m).cutoff.trans (h.cutoff m)
  parents m := (q.node m).parents.trans (h.parents m)
  observers m := (q.node m).observers.trans (h.observers m)
  force m := (q.node m).forceNecessary.trans (h.force m)
  flag m := (hf m).trans (h.flag m)
  value m hm := (q.node m).value.trans (h.value m hm)
  pc hp := q.pc (h.pc hp)


theorem ValFrame.refl (n : Nat) (s : State) : ValFrame n s s :=
  ⟨rfl, fun _ => rfl, fun _ => rfl, fun _ => rfl, fun _ => rfl, fun _ => rfl, fun _ => rfl, fun _ => rfl,
    fun _ _ => rfl, id⟩

theorem ValFrame.logged {n : Nat} {s W : State} (h : ValFrame n s W) (es : List Event) :
    ValFrame n s (Step.logged es W) :=
  ⟨h.size, h.kind, h.valid, h.cutoff, h.parents, h.observers, h.force, h.flag, h.value, h.pc⟩

theorem ValFrame.setValue {n : Nat} {s W : State} (h : ValFrame n s W) (v : Option Val) :
    ValFrame n s (Step.setValue n v W) := by
  have e : ∀ m, (Step.setValue n v W).nodeD m =
      if n = m ∧ m < W.nodes.size then { W.nodeD m with value := v } else W.nodeD m := fun m => setValue_nodeD n m v W
  refine ⟨by rw [← h.size]; simp [Step.setValue], ?_, ?_, ?_, ?_, ?_, ?_, ?_, ?_, h.pc⟩
  all_goals intro m
  · rw [e]; split <;> exact h.kind m
  · rw [e]; split <;> exact h.valid m
  · rw [e]; split <;> exact h.cutoff m
  · rw [e]; split <;> exact h.parents m
  · rw [e]; split <;> exact h.observers m
  · rw [e]; split <;> exact h.force m
  · rw [e]; split <;> exact h.flag m
  · intro hm; rw [e, if_neg (fun hh => hm hh.1.symm)]; exact h.value m hm

theorem ValFrame.touched {n : Nat} {s W : State} (h : ValFrame n s W) : ValFrame n s (Step.touched n W) := by
  have e := fun m => touched_nodeD n m W
  refine ⟨by rw [← h.size]; simp [Step.touched], ?_, ?_, ?_, ?_, ?_, ?_, ?_, ?_, h.pc⟩
  all_goals intro m
  · rw [e]; split <;> exact h.kind m
  · rw [e]; split <;> exact h.valid m
  · rw [e]; split <;> exact h.cutoff m
  · rw [e]; split <;> exact h.parents m
  · rw [e]; split <;> exact h.observers m
  · rw [e]; split <;> exact h.force m
  · rw [e]; split <;> exact h.flag m
  · intro hm; rw [e, if_neg (fun hh => hm hh.1.symm)]; exact h.value m hm

theorem ValFrame.started (n : Nat) (s : State) : ValFrame n s (Step.started n s) := by
  have e := fun m => started_nodeD n m s
  refine ⟨by simp [Step.started], ?_, ?_, ?_, ?_, ?_, ?_, ?_, ?_, id⟩
  all_goals intro m
  all_goals first
    | (intro hm; rw [e, if_neg (fun hh => hm hh.1.symm)])
    | (rw [e]; split <;> rfl)

/-- the `didChange` invariant only reads necessity, kinds, flags and read values -/
theorem KInv.congr {env : Env} {g : Nat → Option Val} {s s' : State} (K : KInv env g s)
    (hn : ∀ m, s'.isNecessary m = s.isNecessary m) (hk : ∀ m, (s'.nodeD m).kind = (s.nodeD m).kind)
    (hf : ∀ m, (s'.nodeD m).didChange = false → (s.nodeD m).didChange = false)
    (hv : ∀ m p i, s.isNecessary m = true → (s.nodeD m).kind = .mapRef p i → (s'.nodeD m).didChange = false →
      s'.value env m = s.value env m) : KInv env g s' := by
  intro m p i hm hkm hd
  rw [hn] at hm; rw [hk] at hkm
  rw [K m p i hm hkm (hf m hd), hv m p i hm hkm hd]


theorem RFrag.of_quiet {env : Env} {s s' : State} (F : RFrag env s) (q : Step.Quiet s s') : RFrag env s' where
  pc := q.pc F.pc
  kind m hm := by rw [(q.node m).kind]; exact F.kind m (by rw [← q.size]; exact hm)
  valid m hm := by rw [(q.node m).valid]; exact F.valid m (by rw [← q.size]; exact hm)
  back m hm := by rw [(q.node m).kind]; exact F.back m (by rw [← q.size]; exact hm)
  cut m p i hk := by rw [(q.node m).kind] at hk; rw [(q.node m).cutoff]; exact F.cut m p i hk

theorem EdgeOK.congr {s W : State} (h : EdgeOK s) (hk : ∀ m, (W.nodeD m).kind = (s.nodeD m).kind)
    (hp : ∀ m, (W.nodeD m).parents = (s.nodeD m).parents) : EdgeOK W := by
  intro c p ci pr i hm hkp
  rw [hp] at hm; rw [hk] at hkp
  exact h c p ci pr i hm hkp

/-- **the `didChange` invariant through `maybe_change_value`** of a node `n` that is not a map_ref node, run in a
state `S0` that is the pre-state `s` up to stamps/log/counters. -/
theorem mcv_keepsK {env : Env} {g : Nat → Option Val} {s S0 s' : State} {fuel n : Nat} {v : Val} {r : Option Nat}
    (F : RFrag env s) (gr : Graph (virtEnv env) (virt g s)) (K : KInv env g s)
    (hn : n < s.nodes.size) (hnm : ∀ p i, (s.nodeD n).kind ≠ .mapRef p i)
    (hcut : (s.nodeD n).cutoff = .eq ∨ (s.nodeD n).cutoff = .never)
    (VF : ValFrame n s S0) (hv0 : (S0.nodeD n).value = (s.nodeD n).value)
    (h : (maybeChangeValue env fuel n v).run.run S0 = (.ok r, s')) : KInv env g s' ∧ RFrag env s' := by
  have hn0 : n < S0.nodes.size := by rw [VF.size]; exact hn
  have hnn := some_of_lt hn0
  have hpc : S0.panicCountdown = none := VF.pc F.pc
  have hcut0 : (S0.nodeD n).cutoff = .eq ∨ (S0.nodeD n).cutoff = .never := by rw [VF.cutoff]; exact hcut
  rcases mcvChanges_static env S0 n v hcut0 with hd | ⟨hd, hold⟩
  · -- propagate
    rw [mcv_run' env fuel n v S0 _ hnn hpc, hd] at h
    dsimp only at h
    generalize hW0 : setValue n (some v) (logged (mcvLog env S0 n v) S0) = W0 at h
    have VF0 : ValFrame n s W0 := by rw [← hW0]; exact (VF.logged _).setValue _
    have VFW : ValFrame n s (touched n W0) := VF0.touched
    have q : Step.Quiet (touched n W0) s' := mcvm_true_quiet _ _ _ _ _ _ _ _ h
    have fm : FM W0 s' := (PresFM.maybeChangeValueManual ..).h _ _ _ h
    have C : CCtx env s (touched n W0) :=
      ⟨VFW.pc F.pc, F.mapRefsBack, fun m p i hk => Or.inl ((VFW.frag F).cut m p i hk), fun m => (VFW.kind m).symm,
        fun m => (VFW.valid m).symm, (edgeOK_of_graph gr).congr VFW.kind VFW.parents, fun c p ci hm => by
          rw [VFW.parents] at hm
          rw [VFW.valid]
          have hp := (gr.parent c p ci (by rw [virt_nodeD, virtNode_parents]; exact hm)).1
          exact F.valid p (by have := nec_lt_size hp; rwa [virt_size] at this)⟩
    have hold : ∀ o, (S0.nodeD n).value = some o → s.value env n = some o := by
      intro o ho; rw [value_not_mapRef hnm, ← hv0]; exact ho
    have flags := mcvm_flags C hold h
    refine ⟨?_, (VFW.frag F).of_quiet q⟩
    refine K.congr (fun m => ?_) (fun m => (q.node m).kind.trans (VFW.kind m)) (fun m hd' => ?_) ?_
    · have : (s'.nodeD m).isNecessary = ((touched n W0).nodeD m).isNecessary := (q.node m).isNecessary
      exact this.trans (VFW.nec m)
    · cases hs : (s.nodeD m).didChange with
      | false => rfl
      | true =>
        have := fm m (by rw [VF0.flag]; exact hs)
        rw [this] at hd'; cases hd'
    · intro m p i hm hk hd'
      rw [q.value_eqM env m]
      rcases up_or_same (W := touched n W0) F (VFW.frag F) gr VFW.kind VFW.value m p i hm hk with hu | hs
      · have hu' : UpM (touched n W0) m n :=
          hu.congr VFW.kind VFW.parents
        by_cases hc : Changed env s (touched n W0) m
        · rw [flags m hu' hc] at hd'; cases hd'
        · unfold Changed at hc
          have : ¬ (s.value env m ≠ (touched n W0).value env m) := fun h => hc (Or.inr h)
          exact (Decidable.not_not.1 this).symm
      · exact hs
  · -- suppress: nothing a reader sees changes
    rw [mcv_suppress env fuel n v S0 _ hnn hpc hd] at h
    cases h
    have VF1 : ValFrame n s (setValue n (some v) (logged (mcvLog env S0 n v) S0)) := (VF.logged _).setValue _
    have hvn : ((setValue n (some v) (logged (mcvLog env S0 n v) S0)).nodeD n).value = (s.nodeD n).value := by
      rw [setValue_nodeD, if_pos ⟨rfl, hn0⟩, ← hv0, hold]
    refine ⟨?_, VF1.frag F⟩
    refine K.congr VF1.nec VF1.kind (fun m hd' => by rw [← VF1.flag]; exact hd') (fun m p i _ _ _ => ?_)
    refine value_congr env s _ VF1.size (fun k => ?_) m
    simp only [valueCore, VF1.kind, VF1.valid]
    by_cases hkn : k = n
    · subst hkn; rw [hvn]
    · rw [VF1.value k hkn]

end IncrVerif.Proofs.MapRefH
