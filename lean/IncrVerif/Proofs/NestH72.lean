import IncrVerif.Proofs.NestH63
import IncrVerif.Proofs.NestH62
import IncrVerif.Proofs.NestH40
import IncrVerif.Proofs.NestH58
import IncrVerif.Proofs.BindH103
/-!
# Nested binds (F2), part 5g1: "generations are current" (`GenOK2`) through a drain, part 1 — what `GenOK2` reads; `remove_min`; a run of a static / `bindMain` node

The counterpart of `BindH103` for nested binds.  `C3g.resolveP_mono`, `C3g.resolveAll_mono`, `C3g.kindOfInstr_mono`, `C3g.top_mono_of_eq`, `C3g.children_lc`, `C3g.isStale_lc` are
generic and reused.

`GenOK2 env s` reads: the bind table, the naming table `top` (only the entries a template's `.outer k` operands name), the KINDS of the locals (all of them registered
nodes), the records (but for their lists) of the inner binds whose main node is a local, the stored value of each bind's lhs, and — for the binds whose change detector
is VALID — the staleness of the change detector.
-/
namespace IncrVerif.Proofs.NestH
open IncrVerif.Engine IncrVerif.Proofs IncrVerif.Proofs.Step IncrVerif.Proofs.Sched IncrVerif.Proofs.Quiet
open IncrVerif.Proofs.BindH

namespace N5g

/-! ## `ElabOf2` reads the naming table, the kinds of the locals and the records of the inner binds among them, monotonically in the naming table -/

/-- two bind records agree in `lhs`, `body`, `lhsChange`, `main` (what `InstrImg` reads of the record of an inner bind) -/
structure RecSame (x y : BindRec) : Prop where
  lhs : y.lhs = x.lhs
  body : y.body = x.body
  lhsChange : y.lhsChange = x.lhsChange
  main : y.main = x.main

theorem RecSame.refl (x : BindRec) : RecSame x x := ⟨rfl, rfl, rfl, rfl⟩

theorem RecSame.of_bsame {x y : BindRec} (h : BSame x y) : RecSame x y := ⟨h.lhs, h.body, h.lhsChange, h.main⟩

/-- the image of one instruction moves to a state with a larger naming table, the same kind of the local, and — if the local is the main node of an inner bind —
the same record up to its list -/
theorem instrImg_mono {s s' : State} (htop : ∀ (k n : Nat), s.top[k]? = some n → s'.top[k]? = some n) (locs : List Nat)
    (v : Val) (i : Instr) (m : Nat) (hk : (s'.nodeD m).kind = (s.nodeD m).kind)
    (hb : ∀ (b2 : Nat) (br2 : BindRec), s.binds[b2]? = some br2 → br2.main = m →
      ∃ br2', s'.binds[b2]? = some br2' ∧ RecSame br2 br2')
    (h : InstrImg s locs v i m) : InstrImg s' locs v i m := by
  by_cases hbi : ∃ body' o, i = .bind body' o
  · obtain ⟨body', o, rfl⟩ := hbi
    obtain ⟨b2, br2, lc2, h1, h2, h3, h4, h5, h6⟩ := h
    obtain ⟨br2', k1, k2⟩ := hb b2 br2 h2 h4
    refine ⟨b2, br2', lc2, by rw [hk]; exact h1, k1, by rw [k2.body]; exact h3, by rw [k2.main]; exact h4,
      by rw [k2.lhsChange]; exact h5, ?_⟩
    rw [k2.lhs]
    exact C3g.resolveP_mono htop locs o _ h6
  · have hnb : ∀ b o, i ≠ .bind b o := fun b o e => hbi ⟨b, o, e⟩
    have h0 := N5d.instrImg_not_bind hnb h
    have h1 : kindOfInstr s' locs v i = some (s'.nodeD m).kind := by
      rw [hk]; exact C3g.kindOfInstr_mono htop locs v i _ h0
    cases i <;> first | exact h1 | exact absurd rfl (hnb _ _)

/-- `regOf` reads the kinds of the locals -/
theorem regOf_congr {s s' : State} : ∀ (locs : List Nat), (∀ m, m ∈ locs → (s'.nodeD m).kind = (s.nodeD m).kind) →
    regOf s' locs = regOf s locs := by
  intro locs
  induction locs with
  | nil => intro _; rfl
  | cons a l ih =>
    intro h
    have e1 : regOf s' (a :: l) = (match (s'.nodeD a).kind with | .bindMain _ lc => [lc, a] | _ => [a]) ++ regOf s' l := by
      unfold regOf; exact List.flatMap_cons
    have e2 : regOf s (a :: l) = (match (s.nodeD a).kind with | .bindMain _ lc => [lc, a] | _ => [a]) ++ regOf s l := by
      unfold regOf; exact List.flatMap_cons
    rw [e1, e2, h a (List.mem_cons_self ..), ih (fun m hm => h m (List.mem_cons_of_mem _ hm))]

/-- `ElabOf2` only reads the entries of the naming table that resolve, the KINDS of the locals, and the records (up to their lists) of the binds whose main node is a
local -/
theorem elabOf2_mono {s s' : State} {t : Template} {v : Val} {all locs : List Nat} {rhs : Nat}
    (htop : ∀ (k n : Nat), s.top[k]? = some n → s'.top[k]? = some n)
    (hk : ∀ m, m ∈ locs → (s'.nodeD m).kind = (s.nodeD m).kind)
    (hb : ∀ (b2 : Nat) (br2 : BindRec), s.binds[b2]? = some br2 → br2.main ∈ locs →
      ∃ br2', s'.binds[b2]? = some br2' ∧ RecSame br2 br2')
    (E : ElabOf2 s t v all locs rhs) : ElabOf2 s' t v all locs rhs where
  len := E.len
  img j i m hi hm := by
    have hmem := List.mem_of_getElem? hm
    exact instrImg_mono htop _ v i m (hk m hmem) (fun b2 br2 h2 e => hb b2 br2 h2 (by rw [e]; exact hmem))
      (E.img j i m hi hm)
  ret := C3g.resolveP_mono htop locs t.ret rhs E.ret
  reg := by rw [regOf_congr locs hk]; exact E.reg

/-- the locals are registered nodes -/
theorem loc_mem {s : State} {t : Template} {v : Val} {all locs : List Nat} {rhs : Nat}
    (E : ElabOf2 s t v all locs rhs) {m : Nat} (h : m ∈ locs) : m ∈ all := by
  rw [E.reg]; exact N5d.mem_regOf h

/-! ## facts about a LIVE bind record -/

/-- the change detector and the lhs of a bind record whose change detector is valid, in fragment F2 -/
theorem rec_facts2 {env : Env} {rk : Nat → Nat} {s : State} {dy : List Nat} {b : Nat} {br : BindRec} (A : All2 env rk s dy)
    (hb : s.binds[b]? = some br) (hv : (s.nodeD br.lhsChange).valid = true) :
    br.lhsChange < s.nodes.size ∧ (s.nodeD br.lhsChange).kind = .bindLhsChange b ∧
      s.children br.lhsChange = [br.lhs] ∧ br.lhs < s.nodes.size ∧ (s.nodeD br.lhs).valid = true ∧
      rk br.lhs < rk br.lhsChange ∧ (s.nodeD br.main).valid = true ∧
      (s.nodeD br.main).kind = .bindMain b br.lhsChange ∧ br.main = br.lhsChange + 1 := by
  obtain ⟨r1, r2, r3, r4, -⟩ := A.recs b br hb
  have hlt := A.lc_lt hb
  have N := A.node _ hlt
  have hch := NC.lc_children_all A hb hv
  have hmem : br.lhs ∈ s.children br.lhsChange := by rw [hch]; exact List.mem_singleton.2 rfl
  exact ⟨hlt, r3, hch, N.kidsIn _ hmem, N.kidsValid _ hmem, N.kidLt _ hmem, by rw [A.recValid b br hb]; exact hv, r4, r1⟩

/-- staleness of a valid change detector: its stamp against the `changedAt` stamp of the lhs -/
theorem isStale_lc2 {env : Env} {rk : Nat → Nat} {s : State} {dy : List Nat} {b : Nat} {br : BindRec} (A : All2 env rk s dy)
    (hb : s.binds[b]? = some br) (hv : (s.nodeD br.lhsChange).valid = true) :
    s.isStale br.lhsChange = ((s.nodeD br.lhsChange).recomputedAt == -1 ||
      decide ((s.nodeD br.lhs).changedAt > (s.nodeD br.lhsChange).recomputedAt)) :=
  C3g.isStale_lc hv (A.recs b br hb).2.2.1 hb

/-! ## transfer of `GenOK2` -/

/-- one record: the obligation of `GenOK2` moves to a state that agrees on the lhs value, on the naming table, on the kinds of the registered nodes and on the records
(up to their lists) of the inner binds whose main node is registered -/
theorem gen_rec2 {env : Env} {s s' : State} {b : Nat} {br : BindRec} (G : GenOK2 env s)
    (hb : s.binds[b]? = some br) (hv : (s.nodeD br.lhsChange).valid = true) (hst : s.isStale br.lhsChange = false)
    (htop : ∀ (k n : Nat), s.top[k]? = some n → s'.top[k]? = some n)
    (hval : (s'.nodeD br.lhs).value = (s.nodeD br.lhs).value)
    (hk : ∀ m, m ∈ br.allNodesCreatedOnRhs → (s'.nodeD m).kind = (s.nodeD m).kind)
    (hbs : ∀ (b2 : Nat) (br2 : BindRec), s.binds[b2]? = some br2 → br2.main ∈ br.allNodesCreatedOnRhs →
      ∃ br2', s'.binds[b2]? = some br2' ∧ RecSame br2 br2') :
    ∃ v r locs, (s'.nodeD br.lhs).value = some v ∧ br.rhs = some r ∧
      ElabOf2 s' (env.body br.body v) v br.allNodesCreatedOnRhs locs r := by
  obtain ⟨v, r, locs, h1, h2, h3⟩ := G b br hb hv hst
  exact ⟨v, r, locs, by rw [hval]; exact h1, h2,
    elabOf2_mono htop (fun m hm => hk m (loc_mem h3 hm)) (fun b2 br2 k1 k2 => hbs b2 br2 k1 (loc_mem h3 k2)) h3⟩

/-- **transfer of `GenOK2`**: every record of `s'` whose change detector is valid and not stale in `s'` is a record of `s` whose change detector was valid and not
stale, with the same lhs value, the same kinds of registered nodes and the same records of registered inner binds -/
theorem genOK2_transfer {env : Env} {s s' : State} (G : GenOK2 env s)
    (htop : ∀ (k n : Nat), s.top[k]? = some n → s'.top[k]? = some n)
    (H : ∀ (b : Nat) (br : BindRec), s'.binds[b]? = some br → (s'.nodeD br.lhsChange).valid = true →
      s'.isStale br.lhsChange = false →
      s.binds[b]? = some br ∧ (s.nodeD br.lhsChange).valid = true ∧ s.isStale br.lhsChange = false ∧
      (s'.nodeD br.lhs).value = (s.nodeD br.lhs).value ∧
      (∀ m, m ∈ br.allNodesCreatedOnRhs → (s'.nodeD m).kind = (s.nodeD m).kind) ∧
      (∀ (b2 : Nat) (br2 : BindRec), s.binds[b2]? = some br2 → br2.main ∈ br.allNodesCreatedOnRhs →
        ∃ br2', s'.binds[b2]? = some br2' ∧ RecSame br2 br2')) : GenOK2 env s' := by
  intro b br hb hv hst
  obtain ⟨h1, h2, h3, h4, h5, h6⟩ := H b br hb hv hst
  exact gen_rec2 G h1 h2 h3 htop h4 h5 h6

/-- a frame that keeps the bind table, the naming table, and the kind, validity, value and stamps of every node keeps `GenOK2` (the cells may change) -/
theorem genOK2_frame {env : Env} {rk : Nat → Nat} {s s' : State} {dy : List Nat} (G : GenOK2 env s) (A : All2 env rk s dy)
    (hb : s'.binds = s.binds) (htop : s'.top = s.top)
    (hk : ∀ m, (s'.nodeD m).kind = (s.nodeD m).kind) (hv : ∀ m, (s'.nodeD m).valid = (s.nodeD m).valid)
    (hr : ∀ m, (s'.nodeD m).recomputedAt = (s.nodeD m).recomputedAt)
    (hc : ∀ m, (s'.nodeD m).changedAt = (s.nodeD m).changedAt)
    (hval : ∀ m, (s'.nodeD m).value = (s.nodeD m).value) : GenOK2 env s' := by
  refine genOK2_transfer G (C3g.top_mono_of_eq htop) ?_
  intro b br hbr hvl hst
  rw [hb] at hbr
  rw [hv] at hvl
  have f3 := (A.recs b br hbr).2.2.1
  refine ⟨hbr, hvl, ?_, hval _, fun m _ => hk m, fun b2 br2 h2 _ => ⟨br2, by rw [hb]; exact h2, RecSame.refl _⟩⟩
  rw [C3g.isStale_lc (by rw [hv]; exact hvl) (by rw [hk]; exact f3) (by rw [hb]; exact hbr), hr, hc] at hst
  rw [C3g.isStale_lc hvl f3 hbr]; exact hst

/-! ## `remove_min` -/

theorem pop_gen2 {env : Env} {rk : Nat → Nat} {s s1 : State} {n : Nat} (I : DInv env s none) (A : F2Inv env rk s)
    (G : GenOK2 env s) (hr : rchRemoveMin.run.run s = (.ok (some n), s1)) : GenOK2 env s1 := by
  have hpop := rchRemoveMin_inv I.heap hr
  simp only at hpop
  obtain ⟨-, -, -, hs1, -⟩ := hpop
  have hnode : ∀ m, s1.nodeD m =
      if n = m ∧ m < s.nodes.size then { s.nodeD m with heightInRch := -1 } else s.nodeD m := by
    intro m
    rw [hs1]
    exact nodeD_modify { s with rch := s1.rch } n m (fun x => { x with heightInRch := -1 })
  refine genOK2_frame G A.frag (by rw [hs1]) (by rw [hs1]) (fun m => ?_) (fun m => ?_) (fun m => ?_) (fun m => ?_)
    (fun m => ?_) <;> (rw [hnode]; split <;> rfl)

/-! ## a run of a static or `bindMain` node -/

theorem static_gen2 {env : Env} {rk : Nat → Nat} {fuel n : Nat} {s s' : State} {r : Option Nat} (I : DInv env s (some n))
    (A : F2Inv env rk s) (G : GenOK2 env s)
    (hk : StaticKind env (s.nodeD n).kind ∨ ∃ b lc, (s.nodeD n).kind = .bindMain b lc)
    (h : (recomputeOne env fuel n).run.run s = (.ok r, s')) : GenOK2 env s' := by
  have g := I.graph
  obtain ⟨hn, hnlt, hnv, -, -⟩ := I.cur_facts
  obtain ⟨v, ch, -, R⟩ := recomputeOne_stepB g I.heap hn hk I.kids_values h
  have K := BF.recomputeOne_keyD_B g hn hk I.kids_values h
  simp only [KeyD, stateKeyD, Prod.mk.injEq] at K
  obtain ⟨-, -, -, htop, -⟩ := K
  refine genOK2_transfer G (C3g.top_mono_of_eq htop) ?_
  intro b br hb hvl hst
  rw [R.binds] at hb
  rw [(R.shapes _).valid] at hvl
  obtain ⟨f1, f3, f5, -⟩ := rec_facts2 A.frag hb hvl
  have hne : br.lhsChange ≠ n := by
    intro e
    rw [e] at f3
    rcases hk with hk | ⟨_, _, hk⟩
    · rw [f3] at hk; exact hk
    · rw [f3] at hk; cases hk
  rcases stepB_stale_other I R hne f1 hvl with ⟨h1, h2⟩ | ⟨-, -, h1⟩
  · refine ⟨hb, hvl, by rw [← h1]; exact hst, ?_, fun m _ => (R.shapes m).kind,
      fun b2 br2 k2 _ => ⟨br2, by rw [R.binds]; exact k2, RecSame.refl _⟩⟩
    by_cases e : br.lhs = n
    · have hchf : ch = false := by
        rcases h2 with h2 | h2
        · exact h2
        · exfalso; apply h2; rw [f5, e]; exact List.mem_singleton.2 rfl
      rw [e, R.value, (R.unch hchf).1]
    · exact (R.other _ e).value
  · rw [h1] at hst; cases hst

end N5g

end IncrVerif.Proofs.NestH
