import IncrVerif.Proofs.BindH71
/-!
# Binds, fragment F1, phase 3 (`lhsInvalidateOld`), part 2: the structural invariant after the dying generation has been invalidated

`Ctx`: the hypotheses of `InvalSpec1` + the exact description `CI.Mid s (· ∈ dy) s'` of the final state.  From it: `GInv1 env s' allClosed ex []` and
`IRel dy s s'`.  Headline: `inval_spec1 : InvalSpec1 env`.
-/
namespace IncrVerif.Proofs.BindH
open IncrVerif.Engine IncrVerif.Proofs IncrVerif.Proofs.Step IncrVerif.Proofs.Sched IncrVerif.Proofs.Quiet

namespace CI

/-- the situation after phase 3 -/
structure Ctx (env : Env) (s : State) (ex : Nat → Prop) (dy : List Nat) (b : Nat) (s' : State) : Prop where
  I : GInv1 env s allClosed ex dy
  hdy : ∀ m, m ∈ dy → (s.nodeD m).createdIn = .bind b ∧ (s.nodeD m).parents = [] ∧ (s.nodeD m).valid = true
  hrhs : ∀ br1 r, s.binds[b]? = some br1 → br1.rhs = some r → r ∉ dy
  hnf : ∀ m, (s.nodeD m).forceNecessary = false
  M : Mid s (fun m => m ∈ dy) s'

/-- the dying nodes are leaves -/
theorem leaf_of_dying {env : Env} {s : State} {ex : Nat → Prop} {dy : List Nat} {b : Nat}
    (I : GInv1 env s allClosed ex dy)
    (hdy : ∀ m, m ∈ dy → (s.nodeD m).createdIn = .bind b ∧ (s.nodeD m).parents = [] ∧ (s.nodeD m).valid = true)
    (hnf : ∀ m, (s.nodeD m).forceNecessary = false) (hnh : ∀ m, (s.nodeD m).numOnUpdateHandlers = 0)
    {a : Nat} (ha : a ∈ dy) : Leaf s a := by
  obtain ⟨hsc, hpar, hv⟩ := hdy a ha
  have hlt := (I.frag.dyIn a ha).1
  have hnec : s.isNecessary a = false := by
    simp only [State.isNecessary, Node.isNecessary, hpar, I.scopeObs a b hsc, hnf a]
    rfl
  refine ⟨hlt, hv, hnec, ?_, ?_, hnh a⟩
  · intro b' lc hk
    obtain ⟨h1, -⟩ := (I.frag.node a hlt).inScope b hsc
    rw [hk] at h1
    exact h1
  · cases hq : (s.nodeD a).inRch with
    | false => rfl
    | true =>
      rcases I.qnec a hq with h | ⟨k, h⟩
      · rw [hnec] at h; cases h
      · cases h

namespace Ctx
variable {env : Env} {s s' : State} {ex : Nat → Prop} {dy : List Nat} {b : Nat}

theorem kindEq (C : Ctx env s ex dy b s') (m : Nat) : (s'.nodeD m).kind = (s.nodeD m).kind := by
  by_cases h : m ∈ dy
  · rw [C.M.dead m h]; rfl
  · rw [C.M.other m h]

theorem createdEq (C : Ctx env s ex dy b s') (m : Nat) : (s'.nodeD m).createdIn = (s.nodeD m).createdIn := by
  by_cases h : m ∈ dy
  · rw [C.M.dead m h]; rfl
  · rw [C.M.other m h]

theorem cutoffEq (C : Ctx env s ex dy b s') (m : Nat) : (s'.nodeD m).cutoff = (s.nodeD m).cutoff := by
  by_cases h : m ∈ dy
  · rw [C.M.dead m h]; rfl
  · rw [C.M.other m h]

theorem parentsEq (C : Ctx env s ex dy b s') (m : Nat) : (s'.nodeD m).parents = (s.nodeD m).parents := by
  by_cases h : m ∈ dy
  · rw [C.M.dead m h]; rfl
  · rw [C.M.other m h]

theorem obsEq (C : Ctx env s ex dy b s') (m : Nat) : (s'.nodeD m).observers = (s.nodeD m).observers := by
  by_cases h : m ∈ dy
  · rw [C.M.dead m h]; rfl
  · rw [C.M.other m h]

theorem forceEq (C : Ctx env s ex dy b s') (m : Nat) :
    (s'.nodeD m).forceNecessary = (s.nodeD m).forceNecessary := by
  by_cases h : m ∈ dy
  · rw [C.M.dead m h]; rfl
  · rw [C.M.other m h]

theorem heightEq (C : Ctx env s ex dy b s') (m : Nat) : (s'.nodeD m).height = (s.nodeD m).height := by
  by_cases h : m ∈ dy
  · rw [C.M.dead m h]; rfl
  · rw [C.M.other m h]

theorem hrchEq (C : Ctx env s ex dy b s') (m : Nat) : (s'.nodeD m).heightInRch = (s.nodeD m).heightInRch := by
  by_cases h : m ∈ dy
  · rw [C.M.dead m h]; rfl
  · rw [C.M.other m h]

theorem inRchEq (C : Ctx env s ex dy b s') (m : Nat) : (s'.nodeD m).inRch = (s.nodeD m).inRch := by
  simp only [Node.inRch, C.hrchEq m]

theorem necEq (C : Ctx env s ex dy b s') (m : Nat) : s'.isNecessary m = s.isNecessary m := by
  simp only [State.isNecessary, Node.isNecessary, C.parentsEq m, C.obsEq m, C.forceEq m]

theorem deadInvalid (C : Ctx env s ex dy b s') {m : Nat} (h : m ∈ dy) : (s'.nodeD m).valid = false := by
  rw [C.M.dead m h]; rfl

theorem dyNec (C : Ctx env s ex dy b s') {m : Nat} (h : m ∈ dy) : s.isNecessary m = false := by
  obtain ⟨hsc, hpar, -⟩ := C.hdy m h
  simp only [State.isNecessary, Node.isNecessary, hpar, C.I.scopeObs m b hsc, C.hnf m]
  rfl

theorem dyUnq (C : Ctx env s ex dy b s') {m : Nat} (h : m ∈ dy) : (s.nodeD m).inRch = false := by
  cases hq : (s.nodeD m).inRch with
  | false => rfl
  | true =>
    rcases C.I.qnec m hq with h1 | ⟨k, h1⟩
    · rw [C.dyNec h] at h1; cases h1
    · cases h1

/-- no surviving node has a dying child -/
theorem kids_not_dying (C : Ctx env s ex dy b s') {m c : Nat} (hm : m ∉ dy) (hc : c ∈ s.children m) : c ∉ dy := by
  intro hcd
  have hml := lt_size_of_mem_children hc
  have N := C.I.frag.node m hml
  obtain ⟨hcs, -, -⟩ := C.hdy c hcd
  cases hsc : (s.nodeD m).createdIn with
  | top =>
    rcases (N.top hsc).2 c hc with ⟨h1, -⟩ | ⟨b', lc, hk, h1⟩
    · rw [hcs] at h1; cases h1
    · rw [hcs] at h1
      injection h1 with h1
      subst h1
      obtain ⟨br, hb, hmn, -⟩ := N.mainRec b lc hk
      have hch := C.I.main_children hb
      rw [hmn] at hch
      rw [hch] at hc
      rcases List.mem_cons.1 hc with e | e
      · obtain ⟨-, -, -, -, h5, -⟩ := C.I.frag.recs b br hb
        rw [← e, hcs] at h5
        cases h5
      · cases hr : br.rhs with
        | none => rw [hr] at e; cases e
        | some r =>
          rw [hr] at e
          simp only [Option.toList_some, List.mem_singleton] at e
          subst e
          exact C.hrhs br c hb hr hcd
  | bind b' =>
    obtain ⟨-, -, br, -, -, hkids⟩ := N.inScope b' hsc
    rcases hkids c hc with ⟨h1, -⟩ | ⟨-, -, h3⟩
    · rw [hcs] at h1; cases h1
    · exact hm (h3.1 hcd)

theorem children_other (C : Ctx env s ex dy b s') {m : Nat} (hm : m ∉ dy) : s'.children m = s.children m := by
  by_cases hl : m < s.nodes.size
  · exact children_congr_B (C.kindEq m) (by rw [C.M.other m hm]) C.M.binds (C.I.frag.node m hl).kind
  · rw [children_default s m (by omega), children_default s' m (by rw [C.M.size]; omega)]

theorem children_dead (C : Ctx env s ex dy b s') {m : Nat} (hm : m ∈ dy) : s'.children m = [] :=
  Inval.children_invalid s' m (C.deadInvalid hm)

theorem stale_other (C : Ctx env s ex dy b s') {m : Nat} (hm : m ∉ dy) : s'.isStale m = s.isStale m := by
  by_cases hl : m < s.nodes.size
  · refine isStale_congr_B (C.I.frag.node m hl).kind (C.kindEq m) (by rw [C.M.other m hm])
      (by rw [C.M.other m hm]) C.M.vars C.M.binds (fun c hc => ?_)
    rw [C.M.other c (C.kids_not_dying hm hc)]
  · rw [isStale_default s m (by omega), isStale_default s' m (by rw [C.M.size]; omega)]

/-! ## the static facts -/

theorem node' (C : Ctx env s ex dy b s') (n : Nat) (hn : n < s'.nodes.size) : N1 env s' [] n := by
  have hl : n < s.nodes.size := by rw [← C.M.size]; exact hn
  have N := C.I.frag.node n hl
  by_cases hd : n ∈ dy
  · -- a dead node: no children any more
    have hch := C.children_dead hd
    refine ⟨by rw [C.kindEq]; exact N.kind, by rw [C.cutoffEq]; exact N.cutoff, ?_, ?_, ?_, ?_, ?_, ?_, ?_⟩
    · intro c hc; rw [hch] at hc; cases hc
    · intro c hc; rw [hch] at hc; cases hc
    · rw [C.kindEq, C.M.binds]; exact N.lcRec
    · rw [C.kindEq, C.M.binds]; exact N.mainRec
    · intro c b' hc; rw [hch] at hc; cases hc
    · intro h
      rw [C.createdEq, (C.hdy n hd).1] at h
      cases h
    · intro b' h
      rw [C.createdEq] at h
      obtain ⟨h1, h2, br, h3, h4, -⟩ := N.inScope b' h
      refine ⟨by rw [C.kindEq]; exact h1, by rw [C.kindEq]; exact h2, br, by rw [C.M.binds]; exact h3, h4, ?_⟩
      intro c hc; rw [hch] at hc; cases hc
  · have hch := C.children_other hd
    refine ⟨by rw [C.kindEq]; exact N.kind, by rw [C.cutoffEq]; exact N.cutoff, ?_, ?_, ?_, ?_, ?_, ?_, ?_⟩
    · rw [hch, C.M.size]; exact N.kidsIn
    · intro c hc
      rw [hch] at hc
      rw [C.M.other c (C.kids_not_dying hd hc)]
      exact N.kidsValid c hc
    · rw [C.kindEq, C.M.binds]; exact N.lcRec
    · rw [C.kindEq, C.M.binds]; exact N.mainRec
    · intro c b' hc hk
      rw [hch] at hc
      rw [C.kindEq] at hk ⊢
      exact N.lcChild c b' hc hk
    · intro h
      rw [C.createdEq] at h
      obtain ⟨h1, h2⟩ := N.top h
      refine ⟨by rw [C.M.other n hd]; exact h1, ?_⟩
      intro c hc
      rw [hch] at hc
      rw [C.createdEq, C.kindEq]
      exact h2 c hc
    · intro b' h
      rw [C.createdEq] at h
      obtain ⟨h1, h2, br, h3, h4, h5⟩ := N.inScope b' h
      refine ⟨by rw [C.kindEq]; exact h1, by rw [C.kindEq]; exact h2, br, by rw [C.M.binds]; exact h3, h4, ?_⟩
      intro c hc
      rw [hch] at hc
      rw [C.createdEq]
      rcases h5 c hc with h6 | ⟨h6, h7, -⟩
      · exact Or.inl h6
      · exact Or.inr ⟨h6, h7, by simp⟩

theorem frag' (C : Ctx env s ex dy b s') : All1 env s' [] := by
  have A := C.I.frag
  refine ⟨by rw [C.M.pc]; exact A.pc, by rw [C.M.scope]; exact A.scope, C.node', ?_, ?_, ?_, ?_⟩
  · intro b' br hb
    rw [C.M.binds] at hb
    rw [C.M.size, C.kindEq, C.kindEq, C.createdEq, C.createdEq]
    exact A.recs b' br hb
  · intro b' br hb m
    rw [C.M.binds] at hb
    rw [C.M.size]
    constructor
    · rintro (h | ⟨h, -⟩)
      · have hnd := A.genDy b' br hb m h
        rw [C.M.other m hnd]
        exact (A.gen b' br hb m).1 (Or.inl h)
      · cases h
    · rintro ⟨h1, h2, h3⟩
      have hnd : m ∉ dy := fun hd => by rw [C.deadInvalid hd] at h2; cases h2
      rw [C.M.other m hnd] at h2 h3
      rcases (A.gen b' br hb m).2 ⟨h1, h2, h3⟩ with h | ⟨h, -⟩
      · exact Or.inl h
      · exact absurd h hnd
  · intro b' br _ m _ hm; cases hm
  · intro m hm; cases hm

/-! ## the structural invariant -/

theorem ginv' (C : Ctx env s ex dy b s') : GInv1 env s' allClosed ex [] where
  frag := C.frag'
  par c p i h := by
    rw [C.parentsEq] at h
    obtain ⟨h1, h2⟩ := C.I.par c p i h
    have hnec : s.isNecessary p = true := (wants_closed rfl).1 h2
    have hp : p ∉ dy := fun hd => by rw [C.dyNec hd] at hnec; cases hnec
    refine ⟨by rw [C.children_other hp]; exact h1, (wants_closed rfl).2 ?_⟩
    rw [C.necEq]; exact hnec
  conv p i c hk hw := by
    by_cases hp : p ∈ dy
    · rw [C.children_dead hp] at hk; simp at hk
    · rw [C.children_other hp] at hk
      rw [C.parentsEq]
      refine C.I.conv p i c hk ((wants_closed rfl).2 ?_)
      rw [← C.necEq]; exact (wants_closed rfl).1 hw
  nodup c := by rw [C.parentsEq]; exact C.I.nodup c
  hlt c p i h hop := by
    rw [C.parentsEq] at h
    rw [C.heightEq, C.heightEq]
    exact C.I.hlt c p i h hop
  hpos n hn hop := by
    rw [C.necEq] at hn
    rw [C.heightEq]
    exact C.I.hpos n hn hop
  lnec p k h := by cases h
  unec p k h := by cases h
  heap := C.I.heap.congr C.M.rch C.M.size C.hrchEq
  hgt m hm hop := by
    rw [C.inRchEq] at hm
    rw [C.hrchEq, C.heightEq]
    exact C.I.hgt m hm hop
  qnec m hm := by
    rw [C.inRchEq] at hm
    rw [C.necEq]
    exact C.I.qnec m hm
  queued m hop hn hs hex := by
    rw [C.necEq] at hn
    have hm : m ∉ dy := fun hd => by rw [C.dyNec hd] at hn; cases hn
    rw [C.stale_other hm] at hs
    rw [C.inRchEq]
    exact C.I.queued m hop hn hs hex
  qstale m hm := by
    rw [C.inRchEq] at hm
    have hnd : m ∉ dy := fun hd => by rw [C.dyUnq hd] at hm; cases hm
    rw [C.stale_other hnd]
    exact C.I.qstale m hm
  opLt m h := absurd rfl h
  scopeH n b' br hv hsc hb hn hop := by
    have hnd : n ∉ dy := fun hd => by rw [C.deadInvalid hd] at hv; cases hv
    rw [C.M.other n hnd] at hv
    rw [C.createdEq] at hsc
    rw [C.M.binds] at hb
    rw [C.necEq] at hn
    rw [C.heightEq, C.heightEq]
    exact C.I.scopeH n b' br hv hsc hb hn hop
  inv m hv := by
    by_cases hd : m ∈ dy
    · obtain ⟨hsc, hpar, -⟩ := C.hdy m hd
      refine ⟨by rw [C.parentsEq]; exact hpar, by rw [C.obsEq]; exact C.I.scopeObs m b hsc,
        by rw [C.forceEq]; exact C.hnf m, by rw [C.inRchEq]; exact C.dyUnq hd, rfl⟩
    · rw [C.M.other m hd] at hv ⊢
      exact C.I.inv m hv
  scopeObs m b' h := by
    rw [C.createdEq] at h
    rw [C.obsEq]
    exact C.I.scopeObs m b' h
  lcObs m b' h := by
    rw [C.kindEq] at h
    rw [C.obsEq]
    exact C.I.lcObs m b' h

/-- what phase 3 changed -/
theorem irel (C : Ctx env s ex dy b s') : IRel dy s s' where
  size := C.M.size
  other := C.M.other
  dead m hm := by
    obtain ⟨hsc, hpar, -⟩ := C.hdy m hm
    have hlt := (C.I.frag.dyIn m hm).1
    have hq := (inRch_false_iff _).1 (C.dyUnq hm)
    have hr : (s.nodeD m).heightInRch = -1 := by
      rcases C.I.heap.wf.range m hlt with h | ⟨h, -⟩
      · exact h
      · omega
    rw [C.M.dead m hm]
    exact ⟨rfl, rfl, rfl, hpar, C.I.scopeObs m b hsc, C.hnf m, hr, rfl, Int.le_refl _, Int.le_refl _, rfl⟩
  binds := C.M.binds
  vars := C.M.vars
  stabNum := C.M.stabNum
  status := C.M.status
  cfg := C.M.cfg
  scope := C.M.scope
  pc := C.M.pc
  rch := C.M.rch
  ahh := C.M.ahh
  top := C.M.top
  pinv := C.M.pinv

end Ctx

end CI

/-- **Phase 3 keeps the structural invariant**: invalidating the previous generation of a bind -/
theorem inval_spec1 (env : Env) : InvalSpec1 env := by
  intro fuel b br s s' ex h I hnone hdy hrhs hnf hnh hp
  have M := CI.lhsInvalidateOld_mid h hnone (fun a ha => CI.leaf_of_dying I hdy hnf hnh ha) hp
  have C : CI.Ctx env s ex br.allNodesCreatedOnRhs b s' := ⟨I, hdy, hrhs, hnf, M⟩
  exact ⟨C.ginv', C.irel⟩

end IncrVerif.Proofs.BindH
