import IncrVerif.Proofs.NestH111
import IncrVerif.Proofs.NestH64
/-!
# Total correctness for nested binds (F2), API actions other than `stabilise`, part 3: every such action returns (`step_total2`); histories without `stabilise`

The counterpart for nested binds of the non-`stabilise` part of `Quiet28` (`step_total`, `ActionOKc`, `ValidHist`, `runActions_total`).

* `ActionIn2 s a`: the indices named by the action exist (no room condition).
* `step_total2s` (sharp room: `s.nodes.size + (grow2 a).1 ≤ N`), `step_total2` (headline, `ActionOK2 N s a`: room for two nodes before a `create`),
  `step_totIf2` (`TotIf` form: IF the state the action ends in has at most `N` nodes THEN it returned).
* `ActionOKc2`, `ValidHist2` in terms of the numbers of naming-table entries / nodes / var cells / observers (`TInv.topSize` is gone: the naming table is
  counted separately), `runActions_total2` for histories WITHOUT `stabilise` (the segments between two `stabilise`s).
-/
namespace IncrVerif.Proofs.NestH
open IncrVerif.Engine IncrVerif.Driver IncrVerif.Proofs IncrVerif.Proofs.Step IncrVerif.Proofs.Sched IncrVerif.Proofs.Quiet
open IncrVerif.Proofs.BindH

/-- the action names existing things -/
def ActionIn2 (s : State) : Action → Prop
  | .create i => InstrIn2 s i
  | .observe n => OpndIn s n
  | .dropObs o | .disallow o => o < s.observers.size
  | .set v _ | .modify v _ | .update v _ | .replace v _ | .replaceWith v _ | .get v => v < s.vars.size
  | _ => True

theorem ActionOK2.in2 {N : Nat} {s : State} {a : Action} (h : ActionOK2 N s a) : ActionIn2 s a := by
  cases a <;> first | exact h | exact h.1 | trivial

theorem ActionOK2.room {N : Nat} {s : State} {a : Action} (T : s.nodes.size ≤ N) (h : ActionOK2 N s a) :
    s.nodes.size + (grow2 a).1 ≤ N := by
  have hg := (grow2_le a).1
  by_cases hc : ∃ i, a = .create i
  · obtain ⟨i, rfl⟩ := hc
    have := h.2
    omega
  · have h0 : (grow2 a).1 = 0 := by
      cases a <;> first | rfl | exact (hc ⟨_, rfl⟩).elim
    omega

namespace T2k

/-- the actions of F2 other than `create` and `stabilise` are the simple actions of the static fragment -/
theorem simple_of_F2 {env : Env} {T : Nat} {a : Action} (ha : ActionF2 env T a) (hc : ∀ i, a ≠ .create i) (hns : a ≠ .stabilise) :
    SimpleAction a := by
  cases a <;> first | exact ha | exact (hc _ rfl).elim | exact (hns rfl).elim

theorem actionOK_of_in2 {N : Nat} {s : State} {a : Action} (h : ActionIn2 s a) (hc : ∀ i, a ≠ .create i) (hns : a ≠ .stabilise) :
    ActionOK N s a := by
  cases a <;> first | exact h | exact (hc _ rfl).elim | exact (hns rfl).elim

/-- the simple actions keep `QInv2` under the same rank -/
theorem simple_q2 {env : Env} {rk : Nat → Nat} {s s' : State} {a : Action} {tk : Array Nat} {r : String × Array Nat}
    (Q : QInv2 env rk s) (ha : SimpleAction a) (h : (stepAction env a tk).run.run s = (.ok r, s')) : QInv2 env rk s' := by
  cases a <;> try exact ha.elim
  case observe n =>
    cases n <;> try exact ha.elim
    exact step_observe2 Q h
  case cloneObs o => exact step_cloneObs2 Q h
  case dropObs o => exact step_dropObs2 Q h
  case disallow o => exact step_disallow2 Q h
  case set v x => exact step_write2 (a := .set v x) Q trivial h
  case modify v d => exact step_write2 (a := .modify v d) Q trivial h
  case update v d => exact step_write2 (a := .update v d) Q trivial h
  case replace v x => exact step_write2 (a := .replace v x) Q trivial h
  case replaceWith v d => exact step_write2 (a := .replaceWith v d) Q trivial h
  case get v => exact step_write2 (a := .get v) Q trivial h
  case isStable => exact step_write2 (a := .isStable) Q trivial h
  case stats => exact step_write2 (a := .stats) Q trivial h

end T2k

/-- **every API action other than `stabilise` returns** (sharp room condition).  The invariants hold under a rank `rk'` that agrees with `rk` on the old
nodes (`rk' = rk` unless the action is a `create`); the exact sizes. -/
theorem step_total2s {env : Env} {rk : Nat → Nat} {N : Nat} {s : State} {a : Action} {tk : Array Nat}
    (Q : QInv2 env rk s) (T : TInv2 rk N s) (ha : ActionF2 env s.top.size a) (hin : ActionIn2 s a)
    (hroom : s.nodes.size + (grow2 a).1 ≤ N) (hns : a ≠ .stabilise) :
    ∃ r s' rk', (stepAction env a tk).run.run s = (.ok r, s') ∧ r.2 = tk ∧ QInv2 env rk' s' ∧ TInv2 rk' N s' ∧
      Grown2 a s s' ∧ (∀ x, x < s.nodes.size → rk' x = rk x) := by
  by_cases hc : ∃ i, a = .create i
  · obtain ⟨i, rfl⟩ := hc
    obtain ⟨r, s', rk', h, hr, U, Q', T', G, -⟩ := create_total2 (tk := tk) Q T ha hin hroom
    exact ⟨r, s', rk', h, hr, Q', T', G, U.old⟩
  · have hc' : ∀ i, a ≠ .create i := fun i e => hc ⟨i, e⟩
    have hs := T2k.simple_of_F2 ha hc' hns
    obtain ⟨r, s', h, hr, T', G⟩ := simple_total2 (env := env) (tk := tk) Q T hs (T2k.actionOK_of_in2 (N := N) hin hc' hns)
    exact ⟨r, s', rk, h, hr, T2k.simple_q2 Q hs h, T', G, fun _ _ => rfl⟩

/-- **G3 for F2, total (all actions but `stabilise`).**  Every API action of fragment F2 other than `stabilise` whose indices exist returns when there is
room for two nodes before a `create`; the invariants are kept (under an extended rank); nodes grow by `≤ 2`, var cells by `≤ 1`, observers by `≤ 1`,
the naming table by `≤ 1` (exactly `grow2 a`, `growTop a`). -/
theorem step_total2 {env : Env} {rk : Nat → Nat} {N : Nat} {s : State} {a : Action} {tk : Array Nat}
    (Q : QInv2 env rk s) (T : TInv2 rk N s) (ha : ActionF2 env s.top.size a) (hok : ActionOK2 N s a) (hns : a ≠ .stabilise) :
    ∃ r s' rk', (stepAction env a tk).run.run s = (.ok r, s') ∧ r.2 = tk ∧ QInv2 env rk' s' ∧ TInv2 rk' N s' ∧
      Grown2 a s s' ∧ (∀ x, x < s.nodes.size → rk' x = rk x) :=
  step_total2s Q T ha hok.in2 (hok.room T.room.size) hns

/-- the bounds of the headline, spelled out -/
theorem Grown2.le {a : Action} {s s' : State} (G : Grown2 a s s') :
    s.nodes.size ≤ s'.nodes.size ∧ s'.nodes.size ≤ s.nodes.size + 2 ∧ s.vars.size ≤ s'.vars.size ∧ s'.vars.size ≤ s.vars.size + 1 ∧
      s.observers.size ≤ s'.observers.size ∧ s'.observers.size ≤ s.observers.size + 1 ∧
      s.top.size ≤ s'.top.size ∧ s'.top.size ≤ s.top.size + 1 := by
  obtain ⟨g1, g2, g3, g4⟩ := G
  obtain ⟨l1, l2, l3⟩ := grow2_le a
  have l4 : growTop a ≤ 1 := by unfold growTop; split <;> omega
  omega

/-- **`TotIf` form** (for the runs that are bounded by the number of nodes they END with): IF the state the action ends in, whatever the outcome, has at
most `N` nodes, THEN the action returned and the invariants hold. -/
theorem step_totIf2 {env : Env} {rk : Nat → Nat} {N : Nat} {s : State} {a : Action} {tk : Array Nat}
    (Q : QInv2 env rk s) (T : TInv2 rk N s) (ha : ActionF2 env s.top.size a) (hin : ActionIn2 s a) (hns : a ≠ .stabilise) :
    TotIf (stepAction env a tk) s (ResOK N) (fun r s' => r.2 = tk ∧ ∃ rk', QInv2 env rk' s' ∧ TInv2 rk' N s' ∧
      Grown2 a s s' ∧ (∀ x, x < s.nodes.size → rk' x = rk x)) := by
  intro r s' hrun hB
  -- the action returns whatever the room is: take `N' = ` the number of nodes after it
  have hret : ∃ r0 s0, (stepAction env a tk).run.run s = (.ok r0, s0) ∧ Grown2 a s s0 := by
    by_cases hc : ∃ i, a = .create i
    · obtain ⟨i, rfl⟩ := hc
      obtain ⟨r0, s0, -, h, -, -, -, G, -⟩ := create_run2 (tk := tk) Q ha hin
      exact ⟨r0, s0, h, G⟩
    · have hc' : ∀ i, a ≠ .create i := fun i e => hc ⟨i, e⟩
      obtain ⟨r0, s0, h, -, -, G⟩ := simple_total2 (env := env) (tk := tk) Q T (T2k.simple_of_F2 ha hc' hns)
        (T2k.actionOK_of_in2 (N := N) hin hc' hns)
      exact ⟨r0, s0, h, G⟩
  obtain ⟨r0, s0, h0, G0⟩ := hret
  rw [h0] at hrun
  have e1 : r = .ok r0 := (Prod.mk.inj hrun).1.symm
  have e2 : s' = s0 := (Prod.mk.inj hrun).2.symm
  rw [e2] at hB ⊢
  rw [e1]
  have hroom : s.nodes.size + (grow2 a).1 ≤ N := by
    have : s0.nodes.size ≤ N := hB
    rw [G0.1] at this; exact this
  obtain ⟨r1, s1, rk', h1, hr, Q', T', G, hrk⟩ := step_total2s (tk := tk) Q T ha hin hroom hns
  rw [h0] at h1
  have e3 : r0 = r1 := Except.ok.inj (Prod.mk.inj h1).1
  have e4 : s0 = s1 := (Prod.mk.inj h1).2
  rw [e3, e4]
  exact ⟨r1, rfl, hr, rk', Q', T', G, hrk⟩

/-! ## histories without `stabilise` -/

/-- `ActionOK2` in terms of the numbers of naming-table entries, nodes, var cells and observers -/
def ActionOKc2 (N nt nn nv no : Nat) : Action → Prop
  | .create i =>
    (match i with
      | .map _ args => ∀ a, a ∈ args → ∃ k, a = Opnd.outer k ∧ k < nt
      | .fold _ _ cs => ∀ a, a ∈ cs → ∃ k, a = Opnd.outer k ∧ k < nt
      | .zip a b => (∃ k, a = Opnd.outer k ∧ k < nt) ∧ (∃ k, b = Opnd.outer k ∧ k < nt)
      | .bind _ lhs => ∃ k, lhs = Opnd.outer k ∧ k < nt
      | _ => True) ∧ nn + 2 ≤ N
  | .observe n => ∃ k, n = Opnd.outer k ∧ k < nt
  | .dropObs o | .disallow o => o < no
  | .set v _ | .modify v _ | .update v _ | .replace v _ | .replaceWith v _ | .get v => v < nv
  | _ => True

theorem actionOK2_of {N : Nat} {s : State} {a : Action}
    (h : ActionOKc2 N s.top.size s.nodes.size s.vars.size s.observers.size a) : ActionOK2 N s a := by
  cases a <;> try exact h
  case create i =>
    obtain ⟨h1, h2⟩ := h
    refine ⟨?_, h2⟩
    cases i <;> try trivial
    case map f args => exact fun a ha => Quiet.opndIn_of rfl (h1 a ha)
    case fold f init cs => exact fun a ha => Quiet.opndIn_of rfl (h1 a ha)
    case zip a b => exact ⟨Quiet.opndIn_of rfl h1.1, Quiet.opndIn_of rfl h1.2⟩
    case bind body lhs => exact Quiet.opndIn_of rfl h1
  case observe n => exact Quiet.opndIn_of rfl h

/-- a history without `stabilise` whose actions name existing things and which never exceeds `N` nodes;
`nt`, `nn`, `nv`, `no` = numbers of naming-table entries, nodes, var cells, observers before the history -/
def ValidHist2 (N : Nat) : Nat → Nat → Nat → Nat → List Action → Prop
  | _, _, _, _, [] => True
  | nt, nn, nv, no, a :: as =>
    a ≠ .stabilise ∧ ActionOKc2 N nt nn nv no a ∧
      ValidHist2 N (nt + growTop a) (nn + (grow2 a).1) (nv + (grow2 a).2.1) (no + (grow2 a).2.2) as

theorem histF2_top {env : Env} {T : Nat} {a : Action} {as : List Action}
    (h : HistF2 env (match a with | .create _ => T + 1 | _ => T) as) : HistF2 env (T + growTop a) as := by
  cases a <;> exact h

/-- **C04 for F2, segments without `stabilise`.** A valid history of actions of F2 without `stabilise` runs without panic from any state satisfying the
invariants; the final state satisfies them (under a rank that agrees with the old one on the old nodes), and its sizes are the predicted ones. -/
theorem runActions_total2 {env : Env} {N : Nat} {acts : List Action} {rk : Nat → Nat} {s : State} {tk : Array Nat}
    (Q : QInv2 env rk s) (T : TInv2 rk N s) (ha : HistF2 env s.top.size acts)
    (hv : ValidHist2 N s.top.size s.nodes.size s.vars.size s.observers.size acts) :
    ∃ s' rk', Quiet.runActions env acts s tk = .ok (s', tk) ∧ QInv2 env rk' s' ∧ TInv2 rk' N s' ∧
      (∀ x, x < s.nodes.size → rk' x = rk x) ∧ s.nodes.size ≤ s'.nodes.size := by
  induction acts generalizing s rk with
  | nil => exact ⟨s, rk, rfl, Q, T, fun _ _ => rfl, Nat.le_refl _⟩
  | cons a as ih =>
    obtain ⟨hns, hok, hrest⟩ := hv
    obtain ⟨haF, hH⟩ := ha
    obtain ⟨r, s1, rk1, h1, htk, Q1, T1, hg, hrk1⟩ := step_total2 (tk := tk) Q T haF (actionOK2_of hok) hns
    obtain ⟨g1, g2, g3, g4⟩ := hg
    have hH' := histF2_top hH
    rw [← g1, ← g2, ← g3, ← g4] at hrest
    rw [← g4] at hH'
    obtain ⟨s', rk', h2, Q', T', hrk', hsz⟩ := ih Q1 T1 hH' hrest
    refine ⟨s', rk', ?_, Q', T', ?_, by omega⟩
    · simp only [Quiet.runActions]
      rw [h1]
      simp only [htk]
      exact h2
    · intro x hx
      rw [hrk' x (by omega), hrk1 x hx]

end IncrVerif.Proofs.NestH
