import IncrVerif.Proofs.ExpertH57
/-!
# Expert nodes, E2: the drain keeps the callback discipline `SlotInv`

`recomputeOneX_slots`, `recomputeX_slots`, `SlotInv.pop`, `drainHeapX_slots`.  Besides the drain invariant `DInvX` the
step needs that the unnecessary nodes have not been recomputed in this round (`UnnecOK` of the virtual state, first
component; `DStepX.unnec` carries it along the drain).
-/
namespace IncrVerif.Proofs.ExpertH
open IncrVerif.Engine IncrVerif.Driver IncrVerif.Proofs IncrVerif.Proofs.Step IncrVerif.Proofs.Sched
open IncrVerif.Proofs.ExpertH.QR IncrVerif.Proofs.Xp

/-! ## small facts -/

theorem fireRec_keys (env : Env) (s : State) (r : ExpertRec) (a : ExpertEdge) :
    ∀ x, x ∈ (fireRec env s r a).slots → x ∈ r.slots ∨ x.1 = a.dep := by
  intro x hx
  unfold fireRec at hx
  split at hx
  · rcases List.mem_cons.1 hx with rfl | hx
    · exact Or.inr rfl
    · exact Or.inl (List.mem_filter.1 hx).1
  · exact Or.inl hx

theorem foldl_fireRec_keys (env : Env) (s : State) (edges : List ExpertEdge) :
    ∀ (r : ExpertRec) x, x ∈ (edges.foldl (fireRec env s) r).slots →
      x ∈ r.slots ∨ ∃ ed, ed ∈ edges ∧ x.1 = ed.dep := by
  induction edges with
  | nil => intro r x hx; exact Or.inl hx
  | cons a rest ih =>
    intro r x hx
    rw [List.foldl_cons] at hx
    rcases ih _ x hx with h | ⟨ed, hed, h⟩
    · rcases fireRec_keys env s r a x h with h | h
      · exact Or.inl h
      · exact Or.inr ⟨a, List.mem_cons_self .., h⟩
    · exact Or.inr ⟨ed, List.mem_cons_of_mem _ hed, h⟩

theorem readyRec_keys (env : Env) (s : State) (er : ExpertRec) :
    ∀ x, x ∈ (readyRec env s er).slots → x ∈ er.slots ∨ ∃ ed, ed ∈ er.children ∧ x.1 = ed.dep := by
  intro x hx
  unfold readyRec at hx
  split at hx
  · exact foldl_fireRec_keys env s er.children (resetRec er) x hx
  · exact Or.inl hx

theorem lt_of_expert {s : State} {q e : Nat} (hk : (s.nodeD q).kind = .expert e) : q < s.nodes.size := by
  by_cases h : q < s.nodes.size
  · exact h
  · rw [nodeD_default_of_ge s q (by omega)] at hk; cases hk

/-! ## the precondition of the walk, from the drain invariant -/

/-- `T` is the state `s` in which the current node `c` has been stamped "recomputed now" and — when `c` is an expert —
its record is ready for the closure (`readyRec`): it satisfies `Pre`.  Of the drain invariant of `s` this reads the edges on `c`
(`hpar`, `hchild`), the values of its children (`hvals`) and that nothing above `c` has run in this round (`hold`), through `kidsX` and
the virtual stamp, which every virtual view of `s` has in common. -/
theorem pre_of_edges {env : Env} {c : Nat} {s T : State} (F : XFrag env s) (FT : XFrag env T) (L : SlotInv env s)
    (hnec : s.isNecessary c = true) (hcut : (T.nodeD c).cutoff = .eq ∨ (T.nodeD c).cutoff = .never)
    (hpar : ∀ p ci, (p, ci) ∈ (s.nodeD c).parents → (kidsX s.experts (s.nodeD p).kind)[ci]? = some c)
    (hchild : ∀ q j, s.isNecessary q = true → (kidsX s.experts (s.nodeD q).kind)[j]? = some c →
      (q, j) ∈ (s.nodeD c).parents)
    (hvals : ∀ e, (s.nodeD c).kind = .expert e → ∀ x, x ∈ kidsX s.experts (.expert e) → ∃ w, (s.nodeD x).value = some w)
    (hold : ∀ q, q ≠ c → c ∈ kidsX s.experts (s.nodeD q).kind →
      (if forced s.experts (s.nodeD q).kind then (-1 : Int) else (s.nodeD q).recomputedAt) < s.stabNum)
    (hN : ∀ m, T.nodeD m = (started c s).nodeD m) (hsz : T.nodes.size = s.nodes.size)
    (hst : T.stabNum = s.stabNum) (hnd : T.nextDep = s.nextDep)
    (hX : ∀ e, (s.nodeD c).kind ≠ .expert e → T.experts[e]? = s.experts[e]?)
    (hXc : ∀ e, (s.nodeD c).kind = .expert e →
      ∃ er, s.experts[e]? = some er ∧ T.experts[e]? = some (readyRec env s er)) : Pre env c T := by
  have hlt : c < s.nodes.size := Step.nec_lt_size hnec
  -- the nodes of `T`
  have nK : ∀ m, (T.nodeD m).kind = (s.nodeD m).kind := fun m => by rw [hN, started_nodeD]; split <;> rfl
  have nV : ∀ m, (T.nodeD m).value = (s.nodeD m).value := fun m => by rw [hN, started_nodeD]; split <;> rfl
  have nC : ∀ m, (T.nodeD m).changedAt = (s.nodeD m).changedAt := fun m => by
    rw [hN, started_nodeD]; split <;> rfl
  have nP : ∀ m, (T.nodeD m).parents = (s.nodeD m).parents := fun m => by rw [hN, started_nodeD]; split <;> rfl
  have nNec : ∀ m, T.isNecessary m = s.isNecessary m := fun m => by
    unfold State.isNecessary; rw [hN, started_nodeD]; split <;> rfl
  have nR : ∀ m, m ≠ c → (T.nodeD m).recomputedAt = (s.nodeD m).recomputedAt := fun m hm => by
    rw [hN, started_nodeD, if_neg fun h => hm h.1.symm]
  have vS : ∀ m, s.value env m = (s.nodeD m).value := fun m => value_plain env s m (F.noMapRef m)
  have vT : ∀ m, T.value env m = s.value env m := fun m => by
    rw [value_plain env T m (FT.noMapRef m), vS, nV]
  -- the records of `T`
  have recs : ∀ (e : Nat) (erT : ExpertRec), T.experts[e]? = some erT →
      (s.experts[e]? = some erT ∧ (s.nodeD c).kind ≠ .expert e) ∨
        ((s.nodeD c).kind = .expert e ∧ ∃ er, s.experts[e]? = some er ∧ erT = readyRec env s er) := by
    intro e erT he
    by_cases hk : (s.nodeD c).kind = .expert e
    · obtain ⟨er, h1, h2⟩ := hXc e hk
      rw [he] at h2; cases h2
      exact Or.inr ⟨hk, er, h1, rfl⟩
    · rw [hX e hk] at he; exact Or.inl ⟨he, hk⟩
  have recCh : ∀ (e : Nat) (erT : ExpertRec), T.experts[e]? = some erT →
      ∃ er, s.experts[e]? = some er ∧ erT.children = er.children := by
    intro e erT he
    rcases recs e erT he with ⟨h, -⟩ | ⟨-, er, h1, rfl⟩
    · exact ⟨erT, h, rfl⟩
    · exact ⟨er, h1, (readyRec_fields env s er).2.2.1⟩
  have kidsOf : ∀ (q e : Nat) (er : ExpertRec), (s.nodeD q).kind = .expert e → s.experts[e]? = some er →
      kidsX s.experts (s.nodeD q).kind = er.children.map (·.child) := by
    intro q e er hk he
    rw [hk]; simp only [kidsX, xRec_some he]
  refine ⟨FT, by rw [hsz]; exact hlt, hcut, ?_, ?_, ?_, ?_, ?_, ?_, ?_⟩
  · -- par
    intro p ci e erT ed hp hk he hed
    rw [nP] at hp; rw [nK] at hk
    obtain ⟨er, hes, hch⟩ := recCh e erT he
    have := hpar p ci hp
    rw [kidsOf p e er hk hes, List.getElem?_map, ← hch, hed] at this
    simpa using this
  · -- child
    intro q e erT j ed hk he hq hed hc
    rw [nK] at hk; rw [nNec] at hq; rw [nP]
    obtain ⟨er, hes, hch⟩ := recCh e erT he
    exact hchild q j hq (by rw [kidsOf q e er hk hes, List.getElem?_map, ← hch, hed, ← hc]; rfl)
  · -- deps
    intro e erT he
    rw [hnd]
    rcases recs e erT he with ⟨h, -⟩ | ⟨-, er, h1, rfl⟩
    · exact L.deps e erT h
    · obtain ⟨d1, d2, d3⟩ := L.deps e er h1
      rw [(readyRec_fields env s er).2.2.1]
      refine ⟨d1, d2, fun x hx => ?_⟩
      rcases readyRec_keys env s er x hx with h | ⟨ed, hed, h⟩
      · exact d3 x h
      · rw [h]; exact d2 ed hed
  · -- flag
    intro n e erT hk he hw
    rw [nK] at hk; rw [nNec]
    rcases recs e erT he with ⟨h, -⟩ | ⟨hkc, -⟩
    · exact L.flag n e erT hk h hw
    · rw [F.xinj hk hkc]; exact hnec
  · -- good
    intro n e erT hk he hcond
    rw [nK] at hk
    rcases recs e erT he with ⟨h, hne⟩ | ⟨hkc, er, h1, rfl⟩
    · have G0 : Good env s erT := by
        refine L.good n e erT hk h ?_
        rcases hcond with hw | ⟨hnc, hstale⟩
        · exact Or.inl hw
        · refine Or.inr ?_
          rw [isStale_expert (FT.validD n) (by rw [nK]; exact hk) he, nR n hnc] at hstale
          rw [isStale_expert (F.validD n) hk h, ← hstale]
          congr 1
          apply any_congr'
          intro x _
          rw [nC]
      intro ed hed hcb
      rw [vT]; exact G0 ed hed hcb
    · obtain ⟨-, -, f3, -⟩ := readyRec_fields env s er
      obtain ⟨d1, -, -⟩ := L.deps e er h1
      intro ed hed hcb
      rw [f3] at hed
      rw [vT]
      by_cases hw : er.willFireAllCallbacks = true
      · obtain ⟨w, hw2⟩ := hvals e hkc ed.child (by
          simp only [kidsX, xRec_some h1]; exact List.mem_map.2 ⟨ed, hed, rfl⟩)
        have hvw : s.value env ed.child = some w := by rw [vS]; exact hw2
        rw [readyRec_slots env s er hw d1 ed w hed hcb hvw, hvw]
      · have hw' : er.willFireAllCallbacks = false := by simpa using hw
        rw [readyRec_slots_unchanged env s er hw']
        exact L.good c e er hkc h1 (Or.inl hw') ed hed hcb
  · -- old
    intro q e erT hk he hw hmem
    rw [nK] at hk
    rcases recs e erT he with ⟨h, hne⟩ | ⟨-, er, -, rfl⟩
    · have hqc : q ≠ c := fun hq => hne (hq ▸ hk)
      rw [nR q hqc, hst]
      have hv := hold q hqc (by rw [kidsOf q e erT hk h]; exact hmem)
      rw [hk] at hv
      simp only [forced, xRec_some h] at hv
      cases hf : erT.forceStale with
      | true => exact Or.inl rfl
      | false => rw [hf] at hv; exact Or.inr (by simpa using hv)
    · rw [(readyRec_fields env s er).2.2.2.2.2.2.2.2] at hw; cases hw
  · -- cflag
    intro e erT hk he
    rw [nK] at hk
    obtain ⟨er, -, h2⟩ := hXc e hk
    rw [he] at h2; cases h2
    exact (readyRec_fields env s er).2.2.2.2.2.2.2.2

/-- `pre_of_edges` from the drain invariant of fragment X1 -/
theorem pre_of {env : Env} {c : Nat} {s T : State} (D : DInvX env s (some c))
    (U : UnnecOK (virtEnv env) (virt s)) (L : SlotInv env s) (FT : XFrag env T)
    (hN : ∀ m, T.nodeD m = (started c s).nodeD m) (hsz : T.nodes.size = s.nodes.size)
    (hst : T.stabNum = s.stabNum) (hnd : T.nextDep = s.nextDep)
    (hX : ∀ e, (s.nodeD c).kind ≠ .expert e → T.experts[e]? = s.experts[e]?)
    (hXc : ∀ e, (s.nodeD c).kind = .expert e →
      ∃ er, s.experts[e]? = some er ∧ T.experts[e]? = some (readyRec env s er)) : Pre env c T := by
  have I := D.inv
  have G := I.graph
  have hnecv : (virt s).isNecessary c = true := (I.cur c rfl).1
  have par : ∀ q, ((virt s).nodeD q).parents = (s.nodeD q).parents := fun q => by rw [virt_nodeD, virtNode_parents]
  refine pre_of_edges D.frag FT L (by rw [← virt_isNecessary]; exact hnecv) ?_
    (fun p ci hp => by rw [← virt_kids]; exact (G.parent c p ci (by rw [par]; exact hp)).2)
    (fun q j hq hj => by
      rw [← par]; exact (G.child q (by rw [virt_isNecessary]; exact hq) j c (by rw [virt_kids]; exact hj)).2.1)
    (fun e hk x hx => ?_) (fun q hqc hmem => ?_) hN hsz hst hnd hX hXc
  · have := (G.nec c hnecv).2.2.2.1
    rw [virt_nodeD, virtNode_cutoff] at this
    rw [hN, started_nodeD]
    split <;> exact this
  · obtain ⟨vals, hvals⟩ := I.kids_values
    rw [virt_kids, hk] at hvals
    obtain ⟨w, hw⟩ := evalArgs_some_mem _ _ _ hvals _ hx
    exact ⟨w, by rw [virt_nodeD, virtNode_value] at hw; exact hw⟩
  · have hv : ((virt s).nodeD q).recomputedAt < s.stabNum := by
      by_cases hq : s.isNecessary q = true
      · have hqv : (virt s).isNecessary q = true := by rw [virt_isNecessary]; exact hq
        exact I.fresh c (Or.inr rfl) q (Anc.step hqv (by rw [virt_kids]; exact hmem) (Anc.refl c))
      · have hq' : s.isNecessary q = false := by simpa using hq
        have hlt : q < s.nodes.size := by
          apply Classical.byContradiction
          intro hge
          rw [nodeD_default_of_ge s q (by omega)] at hmem
          cases hmem
        exact (U q (by rw [virt_size]; exact hlt) (by rw [virt_isNecessary]; exact hq')).1
    rwa [virt_nodeD, virtNode_recomputedAt] at hv

/-! ## the drain -/

section
variable {env : Env} {s : State}

/-- **one `recomputeOne`.** -/
theorem recomputeOneX_slots {fuel n : Nat} {s' : State} {r : Option Nat} (D : DInvX env s (some n))
    (U : UnnecOK (virtEnv env) (virt s)) (L : SlotInv env s)
    (h : (recomputeOne env fuel n).run.run s = (.ok r, s')) : SlotInv env s' := by
  have hnec : (virt s).isNecessary n = true := (D.inv.cur n rfl).1
  have hlt : n < s.nodes.size := by rw [← virt_size]; exact (D.inv.graph.nec n hnec).1
  by_cases hk : ∀ e, (s.nodeD n).kind ≠ .expert e
  · obtain ⟨v, es, hrun⟩ := recomputeOne_as_mcv_x (D.frag.fr D.pinv) hlt (D.frag.kind n hlt) hk h
    rw [hrun] at h
    have frT : Fr (logged es (started n s)) := ((D.frag.fr D.pinv).started n).logged es
    have FT : XFrag env (logged es (started n s)) := D.frag.of_xf (xf_started_logged es n s) frT
    have P : Pre env n (logged es (started n s)) :=
      pre_of D U L FT (fun _ => rfl) (by simp [logged, started]) rfl rfl (fun _ _ => rfl)
        (fun e he => absurd he (hk e))
    exact mcv_slots P h
  · have : ∃ e, (s.nodeD n).kind = .expert e := by
      cases hkd : (s.nodeD n).kind <;>
        first | exact ⟨_, rfl⟩ | (exfalso; apply hk; intro e; rw [hkd]; intro h; cases h)
    obtain ⟨e, hkk⟩ := this
    obtain ⟨v, ch, er, -, -, -, he, hrun, -, frT⟩ := step_expert_ran D.frag D.inv D.pinv hkk h
    have FT := ranState_frag D.frag hkk he frT
    have P : Pre env n (ranState env n e s er) :=
      pre_of D U L FT (fun m => ranState_nodeD env n e s er m) (by rw [ranState_nodes]; simp [started]) rfl rfl
        (fun e' he' => ranState_get_ne env n e s er (fun h => he' (h ▸ hkk)))
        (fun e' he' => by
          rw [hkk] at he'; cases he'
          exact ⟨er, he, ranState_get env n e he⟩)
    exact mcv_slots P hrun

/-- one `recomputeOne` of the drain, with what the callback discipline needs of the drain invariant -/
theorem slots_one (fuel n : Nat) (s : State) (r : Option Nat) (s' : State)
    (i : DInvX env s (some n) ∧ UnnecOK (virtEnv env) (virt s) ∧ SlotInv env s)
    (h : (recomputeOne env fuel n).run.run s = (.ok r, s')) :
    DInvX env s' r ∧ UnnecOK (virtEnv env) (virt s') ∧ SlotInv env s' :=
  have ⟨D1, f1, _⟩ := recomputeOneX_inv i.1 h
  ⟨D1, f1.unnec i.2.1, recomputeOneX_slots i.1 i.2.1 i.2.2 h⟩

/-- **the direct-recompute chain.** -/
theorem recomputeX_slots (fuel n : Nat) (s s' : State) (D : DInvX env s (some n))
    (U : UnnecOK (virtEnv env) (virt s)) (L : SlotInv env s)
    (h : (recompute env fuel n).run.run s = (.ok (), s')) : SlotInv env s' :=
  (Drain.recompute_ind (I := fun x t => DInvX env t x ∧ UnnecOK (virtEnv env) (virt t) ∧ SlotInv env t) slots_one fuel n s s' ⟨D, U, L⟩ h).2.2

/-- `SlotInv` along work that changes neither the expert records nor what `SlotInv` reads of the nodes -/
theorem SlotInv.of_frame {s1 : State} (L : SlotInv env s) (xf : XF s s1)
    (hx : s1.experts = s.experts) (hv : ∀ m, s1.value env m = s.value env m)
    (hnec : ∀ m, s1.isNecessary m = s.isNecessary m) (hst : ∀ m, s1.isStale m = s.isStale m) :
    SlotInv env s1 := by
  refine ⟨fun e er he => ?_, fun m e er hk he hw => ?_, fun m e er hk he hc => ?_⟩
  · rw [hx] at he; rw [xf.nextDep]; exact L.deps e er he
  · rw [hx] at he; rw [xf.kind] at hk; rw [hnec]; exact L.flag m e er hk he hw
  · rw [hx] at he; rw [xf.kind] at hk; rw [hst] at hc
    intro ed hed hcb
    rw [hv]; exact L.good m e er hk he hc ed hed hcb

/-- taking a node out of the heap changes heap fields only -/
theorem SlotInv.pop {s1 : State} {r : Option Nat} (L : SlotInv env s) (hH : HeapInv s)
    (h : rchRemoveMin.run.run s = (.ok r, s1)) : SlotInv env s1 := by
  have hinv := rchRemoveMin_inv hH h
  cases r with
  | none => obtain ⟨rfl, -⟩ := hinv; exact L
  | some n =>
    obtain ⟨-, -, -, hs1, -⟩ := hinv
    have xf : XF s s1 := PresX.rchRemoveMin.h _ _ _ h
    have hnd : ∀ m, s1.nodeD m =
        if n = m ∧ m < s.nodes.size then { s.nodeD m with heightInRch := -1 } else s.nodeD m := by
      intro m; rw [hs1]; exact nodeD_modify s n m _
    have hx : s1.experts = s.experts := by rw [hs1]
    have hvars : s1.vars = s.vars := by rw [hs1]
    have hb : s1.binds = s.binds := by rw [hs1]
    refine L.of_frame xf hx (fun m => ?_) (fun m => ?_) (fun m => ?_)
    · apply value_congr env s s1 xf.size
      intro k; rw [hnd]; split <;> rfl
    · unfold State.isNecessary; rw [hnd]; split <;> rfl
    · have hk : ∀ k, (s1.nodeD k).kind? = (s.nodeD k).kind? := fun k => by rw [hnd]; split <;> rfl
      have hr : ∀ k, (s1.nodeD k).recomputedAt = (s.nodeD k).recomputedAt := fun k => by rw [hnd]; split <;> rfl
      have hc : ∀ k, (s1.nodeD k).changedAt = (s.nodeD k).changedAt := fun k => by rw [hnd]; split <;> rfl
      unfold State.isStale State.children
      simp only [hk, hr, hc, hx, hvars, hb]

/-- **the loop.** -/
theorem drainHeapX_slots (fuel : Nat) (s s' : State) (D : DInvX env s none)
    (U : UnnecOK (virtEnv env) (virt s)) (L : SlotInv env s)
    (h : (drainHeap env fuel).run.run s = (.ok (), s')) : SlotInv env s' := by
  obtain ⟨s1, ⟨D1, -, L1⟩, h1⟩ := Drain.drainHeap_ind (I := fun x t => DInvX env t x ∧ UnnecOK (virtEnv env) (virt t) ∧ SlotInv env t) slots_one
    (fun s n s1 i h1 => have ⟨D1, f1⟩ := popX_inv i.1 h1; ⟨D1, f1.unnec i.2.1, i.2.2.pop (heapInv_of_virt i.1.inv.heap) h1⟩)
    fuel s s' ⟨D, U, L⟩ h
  exact L1.pop (heapInv_of_virt D1.inv.heap) h1

end
end IncrVerif.Proofs.ExpertH
