import IncrVerif.Proofs.FullH68
/-!
# C01 full fragment: NON-VACUITY, part 8 — `exHistG` (depend_on, cutoff action) runs; reads and `changedAt` stamps (kernel-checked)
-/
namespace IncrVerif.Proofs.FullH
open IncrVerif.Engine IncrVerif.Driver IncrVerif.Proofs IncrVerif.Proofs.Step IncrVerif.Proofs.Sched IncrVerif.Proofs.Quiet
open IncrVerif.Proofs.BindH

/-- the three reads (observers on `n4 = depend_on n3 n2`, `n5 = map f1 [n1, n2]`, `n6 = map f0 [n5, n5]`) -/
def EX.reads3 (acts : List Action) : Option Val × Option Val × Option Val :=
  (C2h.readB fEnv acts 0, C2h.readB fEnv acts 1, C2h.readB fEnv acts 2)

theorem EX.reads3_split {acts : List Action} {a b c : Option Val} (h : EX.reads3 acts = (a, b, c)) :
    C2h.readB fEnv acts 0 = a ∧ C2h.readB fEnv acts 1 = b ∧ C2h.readB fEnv acts 2 = c := by
  simp only [EX.reads3, Prod.mk.injEq] at h; exact h

set_option maxRecDepth 100000 in
/-- the example history runs without panic -/
theorem exHistG_runs : ∃ s tk, Quiet.runActions fEnv exHistG (State.init 128 true) #[] = .ok (s, tk) :=
  C2h.ranB_iff (by decide +kernel)

set_option maxRecDepth 100000 in
/-- the reads after the five `stabilise`s: the depend_on node reads what the bind reads: `(5+4)+7 = 16`, `(5+6)+7 = 18`, `(5+8)+7 = 20`, `1`, `1` -/
theorem exHistG_reads :
    EX.reads3 (exHistG.take 11) = (some (.int 16), some (.int 0), some (.int 0)) ∧
    EX.reads3 (exHistG.take 13) = (some (.int 18), some (.int 0), some (.int 0)) ∧
    EX.reads3 (exHistG.take 16) = (some (.int 20), some (.int 0), some (.int 0)) ∧
    EX.reads3 (exHistG.take 18) = (some (.int 1), some (.int 1), some (.int 2)) ∧
    EX.reads3 exHistG = (some (.int 1), some (.int 1), some (.int 2)) :=
  by decide +kernel

end IncrVerif.Proofs.FullH
