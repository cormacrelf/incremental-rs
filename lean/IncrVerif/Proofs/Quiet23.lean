import IncrVerif.Proofs.Quiet21
import IncrVerif.Proofs.Quiet22
import IncrVerif.Proofs.CutH35
/-!
# Part 23: the two loops at the start of `stabilise` return
-/
namespace IncrVerif.Proofs.Quiet
open IncrVerif.Engine IncrVerif.Driver IncrVerif.Proofs IncrVerif.Proofs.Step IncrVerif.Proofs.Sched
open P12

namespace P23

theorem Tot.bind_getObs {β} {o : Nat} {ob : ObsRec} {f : ObsRec → M β} {s : State} {Q : β → State → Prop}
    (h : s.observers[o]? = some ob) (T : Tot (f ob) s Q) : Tot (getObs o >>= f) s Q :=
  Tot.bind_ok (by rw [run_getObs, h]) T

theorem Tot.bind_modObs {β} {o : Nat} {g : ObsRec → ObsRec} {f : Unit → M β} {s : State} {Q : β → State → Prop}
    (T : Tot (f ()) { s with observers := s.observers.modify o g } Q) : Tot (modObs o g >>= f) s Q := by
  unfold modObs; exact Tot.bind_modify T

/-- the height bound through a change of the observer list of `n` -/
theorem hbo_upd {n : Nat} {l : List Nat} {t t' : State} {op op' : Nat → Op} (hb : HBo t op)
    (U : NodeUpd n (fObservers l) t t')
    (hoth : ∀ m, m ≠ n → op' m = .closed → op m = .closed)
    (hself : t'.isNecessary n = true → op' n = .closed → t.isNecessary n = true ∧ op n = .closed) :
    HBo t' op' :=
  hbo_cop.1 (CutH.P23.hbo_upd (hbo_cop.2 hb) U.toC (fun m hm h => cop_closed.2 (hoth m hm (cop_closed.1 h)))
    fun hn h => have x := hself hn (cop_closed.1 h); ⟨x.1, cop_closed.2 x.2⟩)

/-- `forIn_tot` in `Tot` form -/
theorem forIn_tot' {α β} (f : α → β → M (ForInStep β)) (l : List α) (I : Nat → β → State → Prop)
    (hstep : ∀ j a b t, l[j]? = some a → I j b t →
      Tot (f a b) t (fun r t' => ∃ b', r = .yield b' ∧ I (j + 1) b' t'))
    (b : β) (s : State) (h0 : I 0 b s) : Tot (forIn l b f) s (fun b' s' => I l.length b' s') :=
  CutH.P23.forIn_tot' f l I hstep b s h0

/-- the observer records after one `created` iteration of `add_new_observers` (companion of `P12.add_created`) -/
theorem add_created_obs {env : Env} {fuel o : Nat} {rest pd : List Nat} {t t4 t' : State} {ob : ObsRec}
    {was : Bool} {r : ForInStep PUnit}
    (I : SInv env t (o :: rest) pd) (hob : t.observers[o]? = some ob)
    (hwas : was = t.isNecessary ob.node)
    (h4 : (handleAfterStabilisation ob.node).run.run (obsAdded o ob.node ((0 : Nat) : Int) t) = (.ok (), t4))
    (h : (if (!was) = true then do
            becameNecessaryPropagate env fuel ob.node
            pure (ForInStep.yield PUnit.unit)
          else pure (ForInStep.yield PUnit.unit)).run.run t4 = (.ok r, t')) :
    ObsSet o .inUse t t' :=
  .ofC (CutH.P23.add_created_obs I.toC hob hwas h4 h)

/-- the observers still to be added keep their state through an iteration for another observer -/
theorem pending_step {x : ObsState} {o : Nat} {rest : List Nat} {t t' : State} (S : ObsSet o x t t')
    (hno : o ∉ rest)
    (hst : ∀ (o' : Nat) (ob : ObsRec), o' ∈ o :: rest → t.observers[o']? = some ob →
      ob.state = .created ∨ ob.state = .unlinked) :
    ∀ (o' : Nat) (ob : ObsRec), o' ∈ rest → t'.observers[o']? = some ob →
      ob.state = .created ∨ ob.state = .unlinked :=
  CutH.P23.pending_step S.toC hno hst

end P23

theorem addNewObservers_total {env : Env} {N fuel : Nat} {s : State}
    (I : SInv env s s.newObservers s.disallowedObservers) (hb : HBo s allClosed) (R : Room N s)
    (hnd : s.newObservers.Nodup)
    (hst : ∀ (o : Nat) (ob : ObsRec), o ∈ s.newObservers → s.observers[o]? = some ob →
      ob.state = .created ∨ ob.state = .unlinked)
    (hf : 2 * s.nodes.size + 2 ≤ fuel) :
    Tot (addNewObservers env fuel) s (fun _ s' => HBo s' allClosed) :=
  (CutH.addNewObservers_total I.toC (hbo_cop.2 hb) R.toC hnd hst hf).mono fun _ _ h => hbo_cop.1 h

theorem unlinkDisallowedObservers_total {env : Env} {fuel : Nat} {s : State}
    (I : SInv env s [] s.disallowedObservers) (hn : s.newObservers = []) (hb : HBo s allClosed)
    (hf : 3 * s.nodes.size + 3 ≤ fuel) :
    Tot (unlinkDisallowedObservers fuel) s (fun _ s' => HBo s' allClosed) :=
  (CutH.unlinkDisallowedObservers_total I.toC hn (hbo_cop.2 hb) hf).mono fun _ _ h => hbo_cop.1 h

end IncrVerif.Proofs.Quiet
