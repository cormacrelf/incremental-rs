import IncrVerif.Proofs.BindH33
/-!
# Binds, `relink`, part 4: the state after the first two updates of `relink`; the pure prefix of
`changeChildBindRhs` (through virtual intermediate states); the unforcing tail
-/
namespace IncrVerif.Proofs.BindH
open IncrVerif.Engine IncrVerif.Proofs IncrVerif.Proofs.Step IncrVerif.Proofs.Sched IncrVerif.Proofs.Quiet

namespace BR

/-- the state after `modBind b (rhs := some rhs); modNode n (changedAt := v)` -/
def pre (b n rhs : Nat) (v : Int) (s : State) : State :=
  { s with binds := s.binds.modify b (fun x => { x with rhs := some rhs }),
           nodes := s.nodes.modify n (fun x => { x with changedAt := v }) }

theorem pre_binds_self {b n rhs : Nat} {v : Int} {s : State} {br : BindRec} (hb : s.binds[b]? = some br) :
    (pre b n rhs v s).binds[b]? = some { br with rhs := some rhs } := by
  show (s.binds.modify b _)[b]? = _
  rw [Array.getElem?_modify, if_pos rfl, hb]; rfl

theorem pre_binds_other {b n rhs : Nat} {v : Int} {s : State} {b' : Nat} (h : b' ≠ b) :
    (pre b n rhs v s).binds[b']? = s.binds[b']? := by
  show (s.binds.modify b _)[b']? = _
  rw [Array.getElem?_modify, if_neg (fun e => h e.symm)]

theorem pre_binds_same {b n rhs : Nat} {v : Int} {s : State} {br : BindRec} (hb : s.binds[b]? = some br)
    (hr : br.rhs = some rhs) : (pre b n rhs v s).binds = s.binds := by
  apply Array.ext_getElem?
  intro i
  by_cases e : i = b
  · rw [e, pre_binds_self hb, hb]
    congr 1
    cases br
    simp only at hr
    rw [hr]
  · exact pre_binds_other e

theorem nodeD_modify2 (s : State) (o m : Nat) (f g : Node → Node) :
    ({ s with nodes := (s.nodes.modify o f).modify o g } : State).nodeD m =
      if o = m ∧ m < s.nodes.size then g (f (s.nodeD m)) else s.nodeD m := by
  simp only [State.nodeD, Array.getElem?_modify]
  by_cases h : o = m
  · subst h
    by_cases h2 : o < s.nodes.size
    · simp [h2]
    · simp [h2]
  · simp [h]

/-- removing the recorded parent entry number `pi` -/
def fDrop (pi : Nat) : Node → Node := fun x => { x with parents := swapRemove x.parents pi }
/-- setting the force flag -/
def fForce (f : Bool) : Node → Node := fun x => { x with forceNecessary := f }

section
variable {env : Env} {s : State} {ex : Nat → Prop} {b n main rhs : Nat} {br : BindRec}

/-- the stamped state: basic facts -/
theorem stamped_main (hnm : n < main) (v : Int) : (stamped n v s).nodeD main = s.nodeD main := by
  rw [stamped_nodeD, if_neg (fun e => by omega)]

theorem stamped_self (hn : n < s.nodes.size) (v : Int) :
    (stamped n v s).nodeD n = { s.nodeD n with changedAt := v } := by
  rw [stamped_nodeD, if_pos ⟨rfl, hn⟩]

theorem stamped_other {m : Nat} (h : m ≠ n) (v : Int) : (stamped n v s).nodeD m = s.nodeD m := by
  rw [stamped_nodeD, if_neg (fun e => h e.1.symm)]

/-- case `oldRhs = none` -/
theorem pre_inv_none (I : GInvB env s allClosed ex) (hex : ex main)
    (hb : s.binds[b]? = some br) (hr : br.rhs = none) (hm : br.main = main)
    (hkn : (s.nodeD n).kind = .bindLhsChange b) (hkm : (s.nodeD main).kind = .bindMain b n) (hnm : n < main)
    (hms : main < s.nodes.size) (hnecm : s.isNecessary main = true)
    (hrn : rhs < n) (hrk : ∀ b', (s.nodeD rhs).kind ≠ .bindLhsChange b')
    (hrm : (s.nodeD main).recomputedAt < s.stabNum) :
    GInvB env (pre b n rhs s.stabNum s) (upd allClosed main (.linking 1)) ex := by
  have hn : n < s.nodes.size := by omega
  have IA := stamp I hkn hb hm hkm hms hn hex hrm
  have hmA := stamped_main (s := s) hnm s.stabNum
  have hvA : ((stamped n s.stabNum s).nodeD main).valid = true := by rw [hmA]; exact (I.node hms).valid
  have hkA : ((stamped n s.stabNum s).nodeD main).kind = .bindMain b n := by rw [hmA]; exact hkm
  have hchA : (stamped n s.stabNum s).children main = [n] := by
    rw [children_main (br := br) hvA hkA hb, hr]; rfl
  have hnA : (stamped n s.stabNum s).isNecessary main = true := by
    simp only [State.isNecessary, hmA]; exact hnecm
  have IB := open_full IA rfl hnA
  rw [hchA] at IB
  refine setRhs (b := b) (n := n) (rhs := rhs) (br := br) IB (upd_self _ _ _) hb hm hkA hnm (by omega) ?_
    (fun _ => rfl) rfl rfl rfl rfl rfl rfl (pre_binds_self hb) (fun b' e => pre_binds_other e) ?_
  · intro b'; rw [stamped_other (by omega)]; exact hrk b'
  · rw [hmA, stamped_self hn]; exact hrm

/-- case `oldRhs = some rhs`: the record does not change -/
theorem pre_inv_same (I : GInvB env s allClosed ex) (hex : ex main)
    (hb : s.binds[b]? = some br) (hr : br.rhs = some rhs) (hm : br.main = main)
    (hkn : (s.nodeD n).kind = .bindLhsChange b) (hkm : (s.nodeD main).kind = .bindMain b n) (hnm : n < main)
    (hms : main < s.nodes.size) (hrm : (s.nodeD main).recomputedAt < s.stabNum) :
    GInvB env (pre b n rhs s.stabNum s) allClosed ex := by
  have hn : n < s.nodes.size := by omega
  have IA := stamp I hkn hb hm hkm hms hn hex hrm
  exact BL.GInvB.congr IA ⟨SameG.of_nodes rfl rfl rfl rfl rfl, pre_binds_same hb hr⟩

/-- the state after the pure prefix of `changeChildBindRhs` in the case `oldRhs = some o`, `o ≠ rhs` -/
def pre4 (b n rhs o pi : Nat) (v : Int) (s : State) : State :=
  { pre b n rhs v s with nodes := ((pre b n rhs v s).nodes.modify o (fDrop pi)).modify o (fForce true) }

theorem pre4_nodeD (o pi : Nat) (v : Int) (m : Nat) :
    (pre4 b n rhs o pi v s).nodeD m =
      if o = m ∧ m < s.nodes.size then fForce true (fDrop pi ((stamped n v s).nodeD m))
      else (stamped n v s).nodeD m := by
  have := nodeD_modify2 (pre b n rhs v s) o m (fDrop pi) (fForce true)
  have hsz : (pre b n rhs v s).nodes.size = s.nodes.size := Array.size_modify
  rw [hsz] at this
  exact this

/-- a field that neither `fDrop` nor `fForce` writes.  (Stated for a VARIABLE node in `hπ`: on `(stamped n v s).nodeD m` the unifier unfolds
`Array.modify` before the two updates.) -/
theorem pre4_keeps {β} (π : Node → β) (o : Nat) {pi : Nat} (hπ : ∀ x, π (fForce true (fDrop pi x)) = π x) (v : Int) (m : Nat) :
    π ((pre4 b n rhs o pi v s).nodeD m) = π ((stamped n v s).nodeD m) := by
  rw [pre4_nodeD]; split
  · exact hπ _
  · rfl

/-- case `oldRhs = some o`, `o ≠ rhs` -/
theorem pre_inv_some {o pi : Nat} (I : GInvB env s allClosed ex) (hex : ex main)
    (hb : s.binds[b]? = some br) (hr : br.rhs = some o) (hm : br.main = main)
    (hkn : (s.nodeD n).kind = .bindLhsChange b) (hkm : (s.nodeD main).kind = .bindMain b n) (hnm : n < main)
    (hms : main < s.nodes.size) (hnecm : s.isNecessary main = true)
    (hrn : rhs < n) (hrk : ∀ b', (s.nodeD rhs).kind ≠ .bindLhsChange b') (hon : o < n)
    (hrm : (s.nodeD main).recomputedAt < s.stabNum)
    (hidx : (s.nodeD o).parents.idxOf? (main, 1) = some pi) :
    GInvB env (pre4 b n rhs o pi s.stabNum s) (upd allClosed main (.linking 1)) ex := by
  have hn : n < s.nodes.size := by omega
  have ho : o < s.nodes.size := by omega
  have IA := stamp I hkn hb hm hkm hms hn hex hrm
  -- the virtual states: stamped, then forced, then the edge dropped
  have hszA : (stamped n s.stabNum s).nodes.size = s.nodes.size := Array.size_modify
  have hoA : (stamped n s.stabNum s).nodeD o = s.nodeD o := stamped_other (by omega) _
  have hmA := stamped_main (s := s) hnm s.stabNum
  have hvA : ((stamped n s.stabNum s).nodeD main).valid = true := by rw [hmA]; exact (I.node hms).valid
  have hkA : ((stamped n s.stabNum s).nodeD main).kind = .bindMain b n := by rw [hmA]; exact hkm
  have hchA : (stamped n s.stabNum s).children main = [n, o] := by
    rw [children_main (br := br) hvA hkA hb, hr]; rfl
  have hnA : (stamped n s.stabNum s).isNecessary main = true := by
    simp only [State.isNecessary, hmA]; exact hnecm
  have memA : (main, 1) ∈ ((stamped n s.stabNum s).nodeD o).parents :=
    IA.conv main 1 o (by rw [hchA]; rfl) ((wants_closed rfl).2 hnA)
  have hoB : (forced o true (stamped n s.stabNum s)).nodeD o =
      { (stamped n s.stabNum s).nodeD o with forceNecessary := true } := by
    rw [forced_nodeD, if_pos ⟨rfl, by rw [hszA]; exact ho⟩]
  have hmB : (forced o true (stamped n s.stabNum s)).nodeD main = (stamped n s.stabNum s).nodeD main := by
    rw [forced_nodeD, if_neg (fun e => by omega)]
  have hnBo : (forced o true (stamped n s.stabNum s)).isNecessary o = true := by
    rw [isNecessary_iff, hoB]; exact Or.inr (Or.inr rfl)
  have IB := (setForce (o := o) (f := true) IA).1 (hnBo.trans (nec_of_mem_parents memA).symm)
  have hszB : (forced o true (stamped n s.stabNum s)).nodes.size = s.nodes.size := by
    rw [← hszA]; exact Array.size_modify
  have U : NodeUpd o (fParents (swapRemove ((forced o true (stamped n s.stabNum s)).nodeD o).parents pi))
      (forced o true (stamped n s.stabNum s))
      { forced o true (stamped n s.stabNum s) with
        nodes := (forced o true (stamped n s.stabNum s)).nodes.modify o (fDrop pi) } :=
    NodeUpd.modify' (by rw [hszB]; exact ho) rfl
  have hidxB : ((forced o true (stamped n s.stabNum s)).nodeD o).parents.idxOf? (main, 1) = some pi := by
    rw [hoB]; show ((stamped n s.stabNum s).nodeD o).parents.idxOf? (main, 1) = some pi
    rw [hoA]; exact hidx
  have hvB : ((forced o true (stamped n s.stabNum s)).nodeD main).valid = true := by rw [hmB]; exact hvA
  have hkB : ((forced o true (stamped n s.stabNum s)).nodeD main).kind = .bindMain b n := by rw [hmB]; exact hkA
  have hchB : (forced o true (stamped n s.stabNum s)).children main = [n, o] := by
    rw [children_main (br := br) hvB hkB hb, hr]; rfl
  have hnB : (forced o true (stamped n s.stabNum s)).isNecessary main = true := by
    simp only [State.isNecessary, hmB]; exact hnA
  -- the nodes of the last virtual state and of the real one
  have hC : ∀ m, ({ forced o true (stamped n s.stabNum s) with
        nodes := (forced o true (stamped n s.stabNum s)).nodes.modify o (fDrop pi) } : State).nodeD m =
      if o = m ∧ m < s.nodes.size then fDrop pi (fForce true ((stamped n s.stabNum s).nodeD m))
      else (stamped n s.stabNum s).nodeD m := by
    intro m
    have := nodeD_modify2 (stamped n s.stabNum s) o m (fForce true) (fDrop pi)
    rw [hszA] at this
    exact this
  have hnCo : ({ forced o true (stamped n s.stabNum s) with
        nodes := (forced o true (stamped n s.stabNum s)).nodes.modify o (fDrop pi) } : State).isNecessary o =
      true := by
    rw [isNecessary_iff, hC, if_pos ⟨rfl, ho⟩]; exact Or.inr (Or.inr rfl)
  have IC := (IB.dropLastEdge hidxB U rfl rfl hnB (by rw [hchB]; rfl) (by rw [hchB]; rfl) rfl).1 hnCo
  have hmC : ({ forced o true (stamped n s.stabNum s) with
        nodes := (forced o true (stamped n s.stabNum s)).nodes.modify o (fDrop pi) } : State).nodeD main =
      s.nodeD main := by
    rw [hC, if_neg (fun e => by omega)]; exact hmA
  refine setRhs (s' := pre4 b n rhs o pi s.stabNum s) (b := b) (n := n) (rhs := rhs) (br := br) IC
    (upd_self _ _ _) hb hm (by rw [hmC]; exact hkm) hnm
    (by omega) ?_ ?_ ?_ rfl rfl rfl rfl rfl (pre_binds_self (n := n) (v := s.stabNum) hb)
    (fun b' e => pre_binds_other (n := n) (v := s.stabNum) e) ?_
  · intro b'
    by_cases e : o = rhs
    · have hx : ∀ x : Node, (fDrop pi (fForce true x)).kind = x.kind := fun _ => rfl
      rw [hC, if_pos ⟨e, by omega⟩, hx, stamped_other (by omega)]; exact hrk b'
    · rw [hC, if_neg (fun h => e h.1), stamped_other (by omega)]; exact hrk b'
  · intro m
    rw [pre4_nodeD, hC]
    split <;> rfl
  · show ((((pre b n rhs s.stabNum s).nodes.modify o (fDrop pi)).modify o (fForce true)).size) =
      ((forced o true (stamped n s.stabNum s)).nodes.modify o (fDrop pi)).size
    rw [Array.size_modify, Array.size_modify, Array.size_modify, hszB]
    exact Array.size_modify
  · rw [hmC, hC, if_neg (fun e => by omega), stamped_self hn]; exact hrm

/-! ## the linking part, from either prefix -/

theorem link_part {fuel : Nat} {t t' : State}
    (h : (stateAddParent env fuel rhs 1 main).run.run t = (.ok (), t'))
    (I : GInvB env s allClosed ex) (It : GInvB env t (upd allClosed main (.linking 1)) ex) (hex : ex main)
    (hat : AhhEmpty t) (hb : s.binds[b]? = some br)
    (hkm : (s.nodeD main).kind = .bindMain b n) (hnm : n < main) (hms : main < s.nodes.size)
    (hnecm : s.isNecessary main = true) (hrn : rhs < n)
    (hnorhs : ∀ (b' : Nat) (br' : BindRec), s.binds[b']? = some br' → br'.allNodesCreatedOnRhs = [])
    (hpi : t.propagateInvalidity = []) (hrm : (s.nodeD main).recomputedAt < s.stabNum)
    (htm : t.nodeD main = s.nodeD main) (htn : t.nodeD n = { s.nodeD n with changedAt := s.stabNum })
    (htb : t.binds = (pre b n rhs s.stabNum s).binds) :
    GInvB env t' allClosed ex ∧ AhhEmpty t' ∧ KRel t t' := by
  have hbt : t.binds[b]? = some { br with rhs := some rhs } := by rw [htb]; exact pre_binds_self hb
  have hkt : (t.nodeD main).kind = .bindMain b n := by rw [htm]; exact hkm
  have hvm := (I.node hms).valid
  have hcht : t.children main = [n, rhs] :=
    children_main (br := { br with rhs := some rhs }) (by rw [htm]; exact hvm) hkt hbt
  have hk0 : (s.children main)[0]? = some n := by rw [children_main hvm hkm hb]; rfl
  have hmem := I.conv main 0 n hk0 ((wants_closed rfl).2 hnecm)
  refine stateAddParent_specB h It hex hat hbt hkt hcht hrn hnm ?_ ?_ ?_ hpi ?_ ?_
  · rw [htn, htm]; exact I.hlt n main 0 hmem rfl
  · rw [htm]; exact I.hpos main hnecm rfl
  · rw [htm]; exact fun hq => I.hgt main hq rfl
  · intro b' br' hb'
    rw [htb] at hb'
    by_cases e : b' = b
    · rw [e, pre_binds_self hb] at hb'
      cases hb'
      exact hnorhs b br hb
    · rw [pre_binds_other e] at hb'; exact hnorhs b' br' hb'
  · rw [htm, htn]; exact hrm

/-! ## the unforcing tail -/

theorem unforce_part {fuel o : Nat} {t t' : State}
    (h : (checkIfUnnecessary fuel o).run.run (forced o false t) = (.ok (), t'))
    (I : GInvB env t allClosed ex) (hnec : t.isNecessary o = true) (E : AhhEmpty t) :
    GInvB env t' allClosed ex ∧ AhhEmpty t' ∧ KRel (forced o false t) t' := by
  have E8 : AhhEmpty (forced o false t) := by
    refine ahhEmpty_frame E rfl fun m => ?_
    rw [forced_nodeD]; split <;> rfl
  have fin : ∀ op, GInvB env (forced o false t) op ex → upd op o .closed = allClosed →
      (∀ m, op m ≠ .closed → o ≤ m) →
      (((forced o false t).isNecessary o = true ∧ op o = .closed) ∨
        ((forced o false t).isNecessary o = false ∧ op o = .unlinking 0)) →
      GInvB env t' allClosed ex ∧ AhhEmpty t' ∧ KRel (forced o false t) t' := by
    intro op I8 hop hlow hcase
    obtain ⟨I9, -, hu⟩ := checkIfUnnecessary_specB h I8 hlow hcase
    rw [hop] at I9
    exact ⟨I9, ahhEmpty_frame E8 (CFrame.ahh hu.fr) (((PresM.unlink fuel).2.1 o).h _ _ _ h),
      KRel.of_cframe hu.fr hu.pinv⟩
  cases hno : (forced o false t).isNecessary o with
  | true =>
    exact fin allClosed ((setForce (o := o) (f := false) I).1 (by rw [hno, hnec])) (upd_allClosed_closed o)
      (fun m hm => absurd rfl hm) (Or.inl ⟨hno, rfl⟩)
  | false =>
    refine fin _ ((setForce (o := o) (f := false) I).2 hnec rfl hno) ?_ ?_ (Or.inr ⟨hno, upd_self _ _ _⟩)
    · rw [upd_upd]; exact upd_allClosed_closed o
    · intro m hm
      by_cases e : m = o
      · omega
      · rw [upd_other _ _ _ e] at hm; exact absurd rfl hm

end

end BR

end IncrVerif.Proofs.BindH
