import IncrVerif.Proofs.PerKeyH62
import IncrVerif.Proofs.PerKeyH63
import IncrVerif.Proofs.PerKeyH64
import IncrVerif.Proofs.PerKeyH39
/-!
# One `.right` iteration of the per-key loop, part e: the chain from the loop invariant
-/
namespace IncrVerif.Proofs.PerKeyH
open IncrVerif.Engine IncrVerif.Driver IncrVerif.Proofs IncrVerif.Proofs.Step IncrVerif.Proofs.Sched
open IncrVerif.Proofs.ExpertH IncrVerif.Proofs.EffH IncrVerif.Proofs.DriverH IncrVerif.Proofs.ExpertH.QR IncrVerif.Proofs.Xp

/-! ## the start of the loop and `σ` -/

/-- what `LI.lf` says about `s` itself -/
structure RS0 (eres : Nat) (s σ : State) : Prop where
  grow : s.nodes.size ≤ σ.nodes.size
  xgrow : s.experts.size ≤ σ.experts.size
  top : σ.top = s.top
  kind : ∀ m, m < s.nodes.size → (σ.nodeD m).kind = (s.nodeD m).kind
  xrec : ∀ (e : Nat) (er : ExpertRec), s.experts[e]? = some er → ∃ er', σ.experts[e]? = some er' ∧
    er'.node = er.node ∧ er'.pk = er.pk ∧ (¬ e = eres → er'.children = er.children)

theorem r_s0 {eres n : Nat} {s σ : State} (h : LF (fun e => e = eres) (started n s) σ) : RS0 eres s σ := by
  have B := LF.bf h
  refine ⟨by rw [← started_size n s]; exact B.grow, B.xrec |> fun _ => h.xgrow, B.top, fun m hm => ?_,
    fun e er he => ?_⟩
  · rw [B.kind m (by rw [started_size]; exact hm), started_kind]
  · obtain ⟨er', h1, h2, h3, h4, -⟩ := B.xrec e er he
    exact ⟨er', h1, h2, h3, h4⟩

/-- the facts about the running operator in `σ` -/
structure RCx (env : Env) (op : Nat) (pr : PerKeyRec) (pn : List (Int × (Nat × Nat))) (eres : Nat) (er0 : ExpertRec)
    (σ : State) : Prop where
  core : OpCore env σ op { pr with prevNodes := pn }
  hres : (σ.nodeD pr.result).kind = .expert eres
  he : σ.experts[eres]? = some er0
  rlt : pr.result + 2 < σ.nodes.size
  lc : pr.lhsChange = pr.result + 1
  pos : 1 ≤ pr.result
  out : ∀ k, k ∈ templOuter (env.perKey pr.fam) → ∃ o, σ.top[k]? = some o ∧ o < pr.result - 1
  named : ∀ (k x : Nat), σ.top[k]? = some x → x < σ.nodes.size
  ops : ∀ (op' : Nat) (pr' : PerKeyRec), σ.perkeys[op']? = some pr' → pr'.result < σ.nodes.size ∧
    pr'.lhsChange < σ.nodes.size ∧ ∀ key p d, (key, (p, d)) ∈ pr'.prevNodes → p < σ.nodes.size

theorem r_cx {env : Env} {s : State} {n op : Nat} {pr : PerKeyRec} {eres : Nat} {rk uk : List Int} {σ : State}
    {pn : List (Int × (Nat × Nat))} (B : LcBase env s n op pr eres) (I : LI env s n op pr eres rk uk σ)
    (hop : σ.perkeys[op]? = some { pr with prevNodes := pn }) : ∃ er0, RCx env op pr pn eres er0 σ := by
  have C := I.core _ hop
  have S0 := r_s0 I.lf
  obtain ⟨x, e, er0, hN, he, hpk, hchs, hent, hout⟩ := C.nodes
  have hOK := B.pd.aux.pk.ops op pr B.hop
  obtain ⟨xs, es, ers, hNs, -⟩ := hOK.nodes
  have hrs : pr.result < s.nodes.size := by have := hNs.lt; omega
  have hres : (σ.nodeD pr.result).kind = .expert eres := by rw [S0.kind _ hrs]; exact B.hres
  have hee : e = eres := by have := hN.result; rw [show ({ pr with prevNodes := pn } : PerKeyRec).result = pr.result from rfl, hres] at this; cases this; rfl
  subst hee
  refine ⟨er0, C, hres, he, hN.lt, hN.lc, hN.pos, hout, fun k x hk => ?_, fun op' pr' hp' => ?_⟩
  · rw [S0.top] at hk
    exact Nat.lt_of_lt_of_le (B.pd.aux.named k x hk) S0.grow
  · by_cases ho : op' = op
    · subst ho
      rw [hop] at hp'; cases hp'
      have h1 : pr.result + 2 < σ.nodes.size := hN.lt
      have h2 : pr.lhsChange = pr.result + 1 := hN.lc
      refine ⟨show pr.result < _ by omega, show pr.lhsChange < _ by omega,
        fun key p d hm => (hent key p d hm).plt⟩
    · rw [I.pother op' ho] at hp'
      have hOK' := B.pd.aux.pk.ops op' pr' hp'
      obtain ⟨x', e', er', hN', -, -, -, hent', -⟩ := hOK'.nodes
      have h1 := hN'.lt; have h2 := hN'.lc
      refine ⟨by have := S0.grow; omega, by have := S0.grow; omega, fun key p d hm => ?_⟩
      exact Nat.lt_of_lt_of_le (hent' key p d hm).plt S0.grow

/-! ## the chain -/

theorem r_chain {env : Env} {s : State} {n op : Nat} {pr : PerKeyRec} {eres : Nat} {rk uk : List Int} {σ σ' : State}
    {fuel : Nat} {key v : Int} {pn : List (Int × (Nat × Nat))} {er0 : ExpertRec}
    (I : LI env s n op pr eres rk uk σ) (hop : σ.perkeys[op]? = some { pr with prevNodes := pn })
    (X : RCx env op pr pn eres er0 σ)
    (hrun : (PKL.perKeyStep env fuel op .top (key, .right v)).run.run σ = (.ok (), σ')) :
    ∃ mapped dep σ5, σ' = rS6 op key σ.nodes.size dep σ5 ∧
      RSh env op key pr.lhsChange (env.perKey pr.fam) (fun e => e = eres) σ σ' mapped ∧
      REF op key eres er0 σ σ' mapped dep ∧
      RSh env op key pr.lhsChange (env.perKey pr.fam) (fun e => e = eres) σ σ5 mapped ∧
      σ5.perkeys = σ.perkeys := by
  have hg : σ.perkeys[op]?.getD default = { pr with prevNodes := pn } := by rw [hop]; rfl
  obtain ⟨d1, σ2, ev, mapped, σ4, dep, σ5, h1, hrest⟩ := right_run (by rw [hg]; exact X.core.cut) hrun
  rw [hg] at h1 hrest
  have h1 : (expertAddDependency env fuel σ.nodes.size pr.lhsChange false).run.run (rS1 op key σ) = (.ok d1, σ2) := h1
  have hlc : pr.lhsChange < σ.nodes.size := by have := X.lc; have := X.rlt; omega
  have hpc2 : σ2.panicCountdown = none := (r_stepAB (op := op) (key := key) I.mid I.slots hlc h1).1.frag.pc
  obtain ⟨h4, h5, hσ'⟩ := hrest hpc2
  have h4 : (elabTemplateBase (env.perKey pr.fam) (.int key) [σ.nodes.size]).run.run (rLog ev σ2) = (.ok mapped, σ4) := h4
  have h5 : (expertAddDependency env fuel pr.result mapped true).run.run σ4 = (.ok dep, σ5) := h5
  have hT : TemplOK env (env.perKey pr.fam) := X.core.templ
  have hout : ∀ k, k ∈ templOuter (env.perKey pr.fam) → ∀ o, σ.top[k]? = some o → o < pr.lhsChange := by
    intro k hk o ho
    obtain ⟨o', h1, h2⟩ := X.out k hk
    rw [ho] at h1; cases h1
    have := X.lc; omega
  obtain ⟨R4, hnd4, hpk4, hmlt⟩ := r_stepAD (op := op) I.mid I.slots hlc hT
    (fun k hk o ho => Nat.lt_trans (hout k hk o ho) hlc) h1 h4
  -- acyclicity, by the potential
  obtain ⟨ψ, P⟩ := I.pot
  have hPop := P.op op _ hop
  have hlcψ : ψ pr.lhsChange = 2 * pr.lhsChange := hPop.2.1
  have hresψ : ψ pr.result = 2 * pr.lhsChange + 1 := hPop.1
  have P4 : Pot σ4 (rPsi σ pr.lhsChange ψ) :=
    R4.pot hT I.mid P X.named hlc hlcψ hout hpk4 X.ops (fun _ _ _ _ _ _ _ h => h.elim)
  have hacyc : ¬ ExpertH.Below σ4 mapped pr.result := by
    intro hb
    have h1 := P4.below hb
    rw [rPsi_lt (by have := X.rlt; omega)] at h1
    have h2 := R4.pot_mapped hT P hlc hout
    omega
  obtain ⟨R6, E6, R5, hpk5⟩ := r_stepEF R4 hnd4 hpk4 hmlt (by have := X.rlt; omega) X.hres X.he hacyc h5
  subst hσ'
  exact ⟨mapped, dep, σ5, rfl, R6, E6, R5, hpk5⟩

end IncrVerif.Proofs.PerKeyH
