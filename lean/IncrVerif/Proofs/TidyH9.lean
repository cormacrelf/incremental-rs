import IncrVerif.Proofs.MapOld35
/-!
# T2b, part 1: the EXACT simulation for the fragment static + map_with_old

`MapOldH.SimAt` is a forward simulation of the successful runs only.  Total correctness needs the converse (the virtual
static engine returns ⇒ the actual engine returns).  `WT.SimAt s x x'`: WHATEVER the outcome of the run of `x` from `s`
(a result or a panic), the run of `x'` from `virt s` has the same outcome and ends in `virt` of the final state.  Since
runs are functions this is a bisimulation: `SimAt.fwd` (the forward simulation of MapOld3) and `SimAt.rev` (the converse),
and it transfers total-correctness statements from the virtual to the actual engine (`SimAt.tot`).
It is `NodeSim.CommAt` of the relabelling `MapOldH.rel` (`simAt_iff`).
-/
namespace IncrVerif.Proofs.TidyH.WT
open IncrVerif.Engine IncrVerif.Proofs IncrVerif.Proofs.Step IncrVerif.Proofs.Sched IncrVerif.Proofs.Quiet
open IncrVerif.Proofs.MapOldH

def SimAt (s : State) {α} (x x' : M α) : Prop :=
  Fr s → ∀ (r : Except Panic α) s', x.run.run s = (r, s') → x'.run.run (virt s) = (r, virt s') ∧ Fr s'

def Sim {α} (x x' : M α) : Prop := ∀ s, SimAt s x x'

section
variable {s : State} {α β : Type}

theorem simAt_iff {x x' : M α} : SimAt s x x' ↔ NodeSim.CommAt (fun _ => True) rel.app Fr s x x' := by
  rw [NodeSim.CommAt.all_iff]
  unfold SimAt
  simp only [virt_eq]

theorem Sim.of_comm {x x' : M α} (h : NodeSim.Comm (fun _ => True) rel.app Fr x x') : Sim x x' :=
  fun s => simAt_iff.2 (h s)

/-- the forward simulation of `MapOld3` -/
theorem SimAt.fwd {x x' : M α} (h : SimAt s x x') : MapOldH.SimAt s x x' :=
  fun hn r s' hr => h hn (.ok r) s' hr

theorem Sim.fwd {x x' : M α} (h : Sim x x') : MapOldH.Sim x x' := fun s => (h s).fwd

/-- the converse simulation: if the virtual run returns so does the actual run -/
theorem SimAt.rev {x x' : M α} (h : SimAt s x x') (hn : Fr s) {r : α} {t : State}
    (hv : x'.run.run (virt s) = (.ok r, t)) : ∃ s', x.run.run s = (.ok r, s') ∧ t = virt s' ∧ Fr s' := by
  simp only [virt_eq] at hv ⊢
  exact (simAt_iff.1 h).rev (fun _ => trivial) hn hv

/-- **transfer**: total correctness of the virtual run gives total correctness of the actual run -/
theorem SimAt.tot {x x' : M α} (h : SimAt s x x') (hn : Fr s) {Q' : α → State → Prop} (T : Tot x' (virt s) Q') :
    Tot x s (fun a s' => Q' a (virt s') ∧ Fr s') := by
  simp only [virt_eq] at T ⊢
  exact (simAt_iff.1 h).tot (fun _ => trivial) hn T

end

variable {sp : Nat → Val → Val}

theorem Sim.dassert (c : Bool) (site : String) : Sim (Engine.dassert c site) (Engine.dassert c site) :=
  .of_comm (NodeSim.Comm.dassert c site)

theorem Sim.assertM (c : Bool) (site : String) : Sim (Engine.assertM c site) (Engine.assertM c site) :=
  .of_comm (NodeSim.Comm.assertM c site)

theorem Sim.addParent (c i p : Nat) : Sim (Engine.addParent c i p) (Engine.addParent c i p) :=
  .of_comm (NodeSim.Comm.addParent blind addsParents c i p)

theorem Sim.setHeight (n : Nat) (h : Int) : Sim (Engine.setHeight n h) (Engine.setHeight n h) :=
  .of_comm (NodeSim.Comm.setHeight blind n h)

/-- in the fragment there is no map_ref node: `markMapRefUnknown` does nothing, in both states -/
theorem Sim.markMapRefUnknown (fuel n : Nat) :
    Sim (Engine.markMapRefUnknown fuel n) (Engine.markMapRefUnknown fuel n) :=
  .of_comm (NodeSim.Comm.markMapRefUnknown blind noRef fuel n)

theorem Sim.observabilityChange (e : Nat) (b : Bool) :
    Sim (Engine.observabilityChange e b) (Engine.observabilityChange e b) :=
  .of_comm (NodeSim.Comm.observabilityChange blind plain writesExperts e b)

theorem Sim.handleAfterStabilisation (n : Nat) :
    Sim (Engine.handleAfterStabilisation n) (Engine.handleAfterStabilisation n) :=
  .of_comm (NodeSim.Comm.handleAfterStabilisation blind n)

theorem Sim.removeParent (c i p : Nat) : Sim (Engine.removeParent c i p) (Engine.removeParent c i p) :=
  .of_comm (NodeSim.Comm.removeParent blind c i p)

theorem Sim.rchRemoveMin : Sim Engine.rchRemoveMin Engine.rchRemoveMin :=
  .of_comm (NodeSim.Comm.rchRemoveMin blind)

theorem Sim.rchMinHeight : Sim Engine.rchMinHeight Engine.rchMinHeight :=
  .of_comm (NodeSim.Comm.rchMinHeight blind)

theorem Sim.unlink (fuel : Nat) :
    (∀ n, Sim (becameUnnecessary fuel n) (becameUnnecessary fuel n)) ∧
    (∀ n, Sim (checkIfUnnecessary fuel n) (checkIfUnnecessary fuel n)) ∧
    (∀ n, Sim (removeChildren fuel n) (removeChildren fuel n)) :=
  ⟨fun n => .of_comm (NodeSim.Comm.becameUnnecessary blind obsWork fuel n),
    fun n => .of_comm (NodeSim.Comm.checkIfUnnecessary blind obsWork fuel n),
    fun n => .of_comm (NodeSim.Comm.removeChildren blind obsWork fuel n)⟩

theorem Sim.becameUnnecessary (fuel n : Nat) :
    Sim (Engine.becameUnnecessary fuel n) (Engine.becameUnnecessary fuel n) :=
  (Sim.unlink fuel).1 n

theorem Sim.checkIfUnnecessary (fuel n : Nat) :
    Sim (Engine.checkIfUnnecessary fuel n) (Engine.checkIfUnnecessary fuel n) :=
  (Sim.unlink fuel).2.1 n

theorem Sim.removeChildren (fuel n : Nat) :
    Sim (Engine.removeChildren fuel n) (Engine.removeChildren fuel n) :=
  (Sim.unlink fuel).2.2 n

theorem Sim.propagateInvalidity (fuel : Nat) :
    Sim (Engine.propagateInvalidity fuel) (Engine.propagateInvalidity fuel) :=
  .of_comm (NodeSim.Comm.propagateInvalidity (fun _ h => h.pinv) fuel)

theorem Sim.becameNecessary (env : Env) (fuel n : Nat) :
    Sim (Engine.becameNecessary env fuel n) (Engine.becameNecessary (virtEnv env sp) fuel n) :=
  .of_comm (NodeSim.Comm.becameNecessary blind addsParents refWork expWork fuel n)

theorem Sim.addParentWithoutAdjustingHeights (env : Env) (fuel c i p : Nat) :
    Sim (Engine.addParentWithoutAdjustingHeights env fuel c i p)
      (Engine.addParentWithoutAdjustingHeights (virtEnv env sp) fuel c i p) :=
  .of_comm (NodeSim.Comm.addParentWithoutAdjustingHeights blind addsParents refWork expWork fuel c i p)

theorem Sim.shouldCutoff (env : Env) (n : Nat) (o v : Val) :
    Sim (Engine.shouldCutoff env n o v) (Engine.shouldCutoff (virtEnv env sp) n o v) :=
  .of_comm (NodeSim.Comm.shouldCutoff blind (fun _ _ => rfl) (fun _ _ _ _ _ _ => rfl) (virtEnv_cutoff env sp) n o v)

theorem Sim.parentIterCanRecomputeNow (p child : Nat) :
    Sim (Engine.parentIterCanRecomputeNow p child) (Engine.parentIterCanRecomputeNow p child) :=
  .of_comm (NodeSim.Comm.parentIterCanRecomputeNow blind p child)

theorem Sim.maybeChangeValueManual (env : Env) (fuel n : Nat) (o : Option Val) (did b : Bool) :
    Sim (Engine.maybeChangeValueManual env fuel n o did b)
      (Engine.maybeChangeValueManual (virtEnv env sp) fuel n o did b) :=
  .of_comm (NodeSim.Comm.maybeChangeValueManual blind noRef expWork fuel n o did b)

theorem Sim.maybeChangeValue (env : Env) (fuel n : Nat) (v : Val) :
    Sim (Engine.maybeChangeValue env fuel n v) (Engine.maybeChangeValue (virtEnv env sp) fuel n v) :=
  .of_comm (NodeSim.Comm.maybeChangeValue blind noRef expWork (fun _ _ _ => rfl) setsValues (fun _ _ => rfl) (fun _ _ _ _ _ _ => rfl) (virtEnv_cutoff env sp) fuel n v)

theorem Sim.addNewObservers (env : Env) (fuel : Nat) :
    Sim (Engine.addNewObservers env fuel) (Engine.addNewObservers (virtEnv env sp) fuel) :=
  .of_comm (NodeSim.Comm.addNewObservers blind changesNecessity addsParents refWork expWork (fun _ h => h.pinv) fuel)

theorem Sim.unlinkDisallowedObservers (fuel : Nat) :
    Sim (Engine.unlinkDisallowedObservers fuel) (Engine.unlinkDisallowedObservers fuel) :=
  .of_comm (NodeSim.Comm.unlinkDisallowedObservers blind changesNecessity obsWork fuel)

theorem Sim.didSetVarWhileNotStabilising (v : Nat) :
    Sim (Engine.didSetVarWhileNotStabilising v) (Engine.didSetVarWhileNotStabilising v) :=
  .of_comm (NodeSim.Comm.didSetVarWhileNotStabilising blind v)

theorem Sim.writeVar (v : Nat) (f : Val → Val) (isSet : Bool) :
    Sim (Engine.writeVar v f isSet) (Engine.writeVar v f isSet) :=
  .of_comm (NodeSim.Comm.writeVar blind v f isSet)

end IncrVerif.Proofs.TidyH.WT
