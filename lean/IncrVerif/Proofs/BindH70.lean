import IncrVerif.Proofs.BindH67
import IncrVerif.Proofs.BindF1F2
import IncrVerif.Proofs.NestH30
/-!
# Binds, fragment F1, `lhsRelink` keeps the structural invariant — `relink_spec1 : RelinkSpec1 env`, from `relink_spec2` at the rank `rkOf s`
-/
namespace IncrVerif.Proofs.BindH
open IncrVerif.Engine IncrVerif.Proofs IncrVerif.Proofs.Step IncrVerif.Proofs.Sched IncrVerif.Proofs.Quiet
open IncrVerif.Proofs.NestH

open CR in
/-- **`lhsRelink` keeps the structural invariant** (fragment F1): the record of the bind gets the new right-hand side (an
older top-level node or a node created by this run of the closure), the change detector gets the stamp of the round, the
old right-hand side (an older top-level node or a dying node of the scope) is unlinked from the bind's main node and the
new one linked (with heights adjusted), the cone of the old right-hand side becomes unnecessary if nothing else needs it,
and everything is closed again; the main node is still necessary -/
theorem relink_spec1 (env : Env) : RelinkSpec1 env := by
  intro fuel b n rhs s s' br br1 ex dy h I hex hah hb hr1 hm1 hl hnecm hrs hrd hrhs hold hdy hnf hpi hrm
  have A := I.frag
  obtain ⟨r1, r2, -, -, r5, r6⟩ := A.recs b br1 hb
  rw [hl] at r1 r5
  have hK : 0 < s.nodes.size + 1 := by omega
  -- an older top-level node has smaller rank than the change detector; a node of the scope is no change detector
  have ok : ∀ o, o < s.nodes.size →
      ((s.nodeD o).createdIn = .top ∧ o < n ∧ ∀ b', (s.nodeD o).kind ≠ .bindLhsChange b') ∨
        (s.nodeD o).createdIn = .bind b →
      (∀ b', (s.nodeD o).kind ≠ .bindLhsChange b') ∧
        ((s.nodeD o).createdIn = .top → rkOf s o < rkOf s n) := by
    intro o ho h
    rcases h with ⟨h1, h2, h3⟩ | h1
    · refine ⟨h3, fun _ => ?_⟩
      rw [rkOf_top h1, rkOf_top r5]
      exact Nat.mul_lt_mul_of_pos_right h2 hK
    · obtain ⟨k1, -, -⟩ := (A.node o ho).inScope b h1
      refine ⟨fun b' e => by rw [e] at k1; exact k1, fun e => by rw [h1] at e; cases e⟩
  obtain ⟨I', hah', R, h4, h5, h6⟩ := relink_spec2 env fuel b n rhs (rkOf s) s s' br br1 ex dy h I.to2 hex hah hb hr1 hm1
    hl (by rw [← hm1]; exact ((A.node _ r2).top r6).1) hnecm hrs hrd
    (ok rhs hrs (hrhs.imp id And.left)).1
    (hrhs.imp (fun h => ⟨h.1, (ok rhs hrs (Or.inl h)).2 h.1⟩) id)
    (fun o ho => by
      have hos : o < s.nodes.size := by
        have hv : (s.nodeD br1.main).valid = true := ((A.node _ r2).top r6).1
        obtain ⟨-, -, -, r4, -⟩ := A.recs b br1 hb
        apply (A.node _ r2).kidsIn
        rw [BR.children_main hv r4 hb, hr1, ho]
        exact List.mem_cons_of_mem _ (List.mem_cons_self ..)
      have h0 := hold o ho
      exact ⟨(ok o hos (h0.imp id And.left)).1, h0.imp (fun h => ⟨h.1, (ok o hos (Or.inl h)).2 h.1⟩) id⟩)
    hdy hnf hpi hrm
  exact ⟨I'.to1 (all1_setRhs A hb hl hrs hrhs R), hah', R, h4, h5, h6⟩

end IncrVerif.Proofs.BindH
