import IncrVerif.Proofs.BindH48
/-!
# Binds, fragment F1, `adjustHeights`, part 1: the loop invariant `AInvR` over an abstract relation of HEIGHT PAIRS and an
abstract RANK, and its elementary steps (add a member, raise a member, pop, re-bucket, `ensureHeightRequirement`)

The invariant `AInv` of fragment F0 (`BindH27`, `BindH29`) with the node order made a parameter.  In fragment F1 the height rule speaks about two kinds of pairs `(c, p)`
("`c` must be strictly lower than `p`"): recorded edges `(p, i) ∈ parents c` and SCOPE PAIRS (`c` the change detector of a
bind, `p` a necessary registered node of the bind's scope).  Neither the parent lists nor the bind table nor necessity change
during `adjustHeights`, so the set of pairs is FIXED: the invariant takes it as a parameter `E : Nat → Nat → Prop`.  The node
order `c < p` of fragment F0 becomes a rank `rk : Nat → Nat` (instantiated with `rkOf s0`).
-/
namespace IncrVerif.Proofs.BindH
open IncrVerif.Engine IncrVerif.Proofs IncrVerif.Proofs.Step IncrVerif.Proofs.Sched IncrVerif.Proofs.Quiet

namespace CA
open BA

/-- invariant of the adjust-heights loop, relative to the state `s0` in which `adjustHeights` was called.
`E c p`: `c` has to be strictly lower than `p`; `X c p`: the pair is still to be looked at; `Y m`: `m` has just been
popped and is not yet re-bucketed in the recompute heap; `B`: the node whose height is raised first. -/
structure AInvR (rk : Nat → Nat) (E : Nat → Nat → Prop) (B : Nat) (s0 s : State) (X : Nat → Nat → Prop)
    (Y : Nat → Prop) : Prop where
  rel : HRel s0 s
  wf : AhhWF s
  heap : HeapG s
  /-- every pair is fine, or its lower node is a member, or it is still to be looked at -/
  edge : ∀ c p, E c p → (s.nodeD c).height < (s.nodeD p).height ∨ ahhMk s c ≠ -1 ∨ X c p
  /-- the height under which a member is bucketed is below all its upper nodes -/
  old : ∀ c p, E c p → ahhMk s c ≠ -1 → ahhMk s c < (s.nodeD p).height
  hgt : ∀ m, (s.nodeD m).inRch = true → ahhMk s m = -1 → ¬ Y m →
    (s.nodeD m).heightInRch = (s.nodeD m).height
  hle : ∀ m, (s.nodeD m).inRch = true → (s.nodeD m).heightInRch ≤ (s.nodeD m).height
  /-- nodes of rank below `B` are untouched, members are at or above `B` -/
  low : ∀ m, rk m < rk B → s.nodeD m = s0.nodeD m
  memB : ∀ m, ahhMk s m ≠ -1 → rk B ≤ rk m

def noXR : Nat → Nat → Prop := fun _ _ => False

variable {rk : Nat → Nat} {E : Nat → Nat → Prop}

theorem AInvR.mono {B : Nat} {s0 s : State} {X X' : Nat → Nat → Prop} {Y Y' : Nat → Prop}
    (A : AInvR rk E B s0 s X Y) (hX : ∀ c p, E c p → X c p → X' c p) (hY : ∀ m, Y m → Y' m) :
    AInvR rk E B s0 s X' Y' :=
  ⟨A.rel, A.wf, A.heap,
    fun c p hm => by
      rcases A.edge c p hm with h | h | h
      · exact Or.inl h
      · exact Or.inr (Or.inl h)
      · exact Or.inr (Or.inr (hX c p hm h)),
    A.old, fun m hq hm hy => A.hgt m hq hm (fun h => hy (hY m h)), A.hle, A.low, A.memB⟩

/-- S1: a non-member all of whose upper nodes are higher joins the heap under its current height -/
theorem AInvR.add {B : Nat} {s0 s : State} {X : Nat → Nat → Prop} {Y : Nat → Prop} (A : AInvR rk E B s0 s X Y) {p : Nat}
    (hp : p < s.nodes.size) (hm : ahhMk s p = -1) (h0 : 0 ≤ (s.nodeD p).height)
    (hx : (s.nodeD p).height.toNat < s.ahh.queues.size) (hlb : s.ahh.lowerBound ≤ (s.nodeD p).height)
    (hpar : ∀ q, E p q → (s.nodeD p).height < (s.nodeD q).height) (hB : rk B ≤ rk p) :
    AInvR rk E B s0 (ahhAdded p (s.nodeD p).height s) X Y := by
  have key : ∀ m, (ahhAdded p (s.nodeD p).height s).nodeD m =
      if m = p then { s.nodeD p with heightInAhh := (s.nodeD p).height } else s.nodeD m :=
    nodeD_upd (s := s) (f := fun x => { x with heightInAhh := (s.nodeD p).height }) rfl hp
  have hh : ∀ m, ((ahhAdded p (s.nodeD p).height s).nodeD m).height = (s.nodeD m).height := by
    intro m; rw [key]; split
    · rename_i e; rw [e]
    · rfl
  have hr : ∀ m, ((ahhAdded p (s.nodeD p).height s).nodeD m).heightInRch = (s.nodeD m).heightInRch := by
    intro m; rw [key]; split
    · rename_i e; rw [e]
    · rfl
  have hin : ∀ m, ((ahhAdded p (s.nodeD p).height s).nodeD m).inRch = (s.nodeD m).inRch := by
    intro m; simp only [Node.inRch, hr]
  have hmk : ∀ m, ahhMk (ahhAdded p (s.nodeD p).height s) m =
      if m = p then (s.nodeD p).height else ahhMk s m := by
    intro m; simp only [ahhMk]; rw [key]; split <;> rfl
  refine ⟨A.rel.trans (HRel.upd (s := s) (n := p)
      (f := fun x => { x with heightInAhh := (s.nodeD p).height }) rfl rfl (fun x => ⟨rfl, rfl⟩) rfl (Int.le_refl _)),
    A.wf.added hp hm h0 hx hlb, A.heap.congr rfl (by simp [ahhAdded]) hr, ?_, ?_, ?_, ?_, ?_, ?_⟩
  rotate_left 4
  · intro m hmB
    have e : m ≠ p := fun e => by rw [e] at hmB; omega
    rw [key, if_neg e]; exact A.low m hmB
  · intro m hmm
    rw [hmk] at hmm
    by_cases e : m = p
    · rw [e]; exact hB
    · rw [if_neg e] at hmm; exact A.memB m hmm
  · intro c q hmem
    rw [hh, hh, hmk]
    rcases A.edge c q hmem with h | h | h
    · exact Or.inl h
    · right; left
      split
      · rename_i e; rw [← e]; rw [e]; omega
      · exact h
    · exact Or.inr (Or.inr h)
  · intro c q hmem hmc
    rw [hh, hmk] at *
    by_cases e : c = p
    · rw [if_pos e]; rw [e] at hmem; exact hpar q hmem
    · rw [if_neg e] at hmc ⊢; exact A.old c q hmem hmc
  · intro m hq hmm hy
    rw [hin] at hq
    rw [hmk] at hmm
    rw [hr, hh]
    by_cases e : m = p
    · rw [if_pos e] at hmm; omega
    · rw [if_neg e] at hmm; exact A.hgt m hq hmm hy
  · intro m hq
    rw [hin] at hq
    rw [hr, hh]; exact A.hle m hq

/-- S2: a member `p` is raised to `v`, above `c` -/
theorem AInvR.raise {B : Nat} {s0 s : State} {X : Nat → Nat → Prop} {Y : Nat → Prop} (A : AInvR rk E B s0 s X Y)
    {c p : Nat} {v : Int} (hp : p < s.nodes.size) (hm : ahhMk s p ≠ -1) (hv : (s.nodeD p).height ≤ v)
    (hcv : (s.nodeD c).height < v) (hX : ∀ x q, X x q → x = c) :
    AInvR rk E B s0 (heightSet p v s) (fun x q => X x q ∧ q ≠ p) Y := by
  have key : ∀ m, (heightSet p v s).nodeD m = if m = p then { s.nodeD p with height := v } else s.nodeD m :=
    nodeD_upd (s := s) (f := fun x => { x with height := v }) rfl hp
  have hh : ∀ m, ((heightSet p v s).nodeD m).height = if m = p then v else (s.nodeD m).height := by
    intro m; rw [key]; split <;> rfl
  have hr : ∀ m, ((heightSet p v s).nodeD m).heightInRch = (s.nodeD m).heightInRch := by
    intro m; rw [key]; split
    · rename_i e; rw [e]
    · rfl
  have hin : ∀ m, ((heightSet p v s).nodeD m).inRch = (s.nodeD m).inRch := by
    intro m; simp only [Node.inRch, hr]
  have hmk : ∀ m, ahhMk (heightSet p v s) m = ahhMk s m := by
    intro m; simp only [ahhMk]; rw [key]; split
    · rename_i e; rw [e]
    · rfl
  have hgrow : ∀ m, (s.nodeD m).height ≤ ((heightSet p v s).nodeD m).height := by
    intro m; rw [hh]; split
    · rename_i e; rw [e]; exact hv
    · exact Int.le_refl _
  refine ⟨A.rel.trans (HRel.upd (s := s) (n := p) (f := fun x => { x with height := v }) rfl rfl
      (fun x => ⟨rfl, rfl⟩) rfl hv),
    A.wf.congr rfl (funext hmk), A.heap.congr rfl (by simp [heightSet]) hr, ?_, ?_, ?_, ?_, ?_, ?_⟩
  rotate_left 4
  · intro m hmB
    have := A.memB p hm
    have e : m ≠ p := fun e => by rw [e] at hmB; omega
    rw [key, if_neg e]; exact A.low m hmB
  · intro m hmm
    rw [hmk] at hmm; exact A.memB m hmm
  · intro x q hmem
    rw [hmk]
    by_cases ex : x = p
    · rw [ex]; exact Or.inr (Or.inl hm)
    · rw [hh x, if_neg ex]
      by_cases eq : q = p
      · rw [hh q, if_pos eq]
        rw [eq] at hmem
        rcases A.edge x p hmem with h | h | h
        · left; omega
        · exact Or.inr (Or.inl h)
        · left; rw [hX x p h]; exact hcv
      · rw [hh q, if_neg eq]
        rcases A.edge x q hmem with h | h | h
        · exact Or.inl h
        · exact Or.inr (Or.inl h)
        · exact Or.inr (Or.inr ⟨h, eq⟩)
  · intro x q hmem hmx
    rw [hmk] at hmx ⊢
    have := A.old x q hmem hmx
    have := hgrow q
    omega
  · intro m hq hmm hy
    rw [hin] at hq
    rw [hmk] at hmm
    have e : m ≠ p := fun e => hm (e ▸ hmm)
    rw [hr, hh, if_neg e]; exact A.hgt m hq hmm hy
  · intro m hq
    rw [hin] at hq
    have := A.hle m hq
    have := hgrow m
    rw [hr]; omega

/-- S3: the least member is popped -/
theorem AInvR.pop {B : Nat} {s0 s : State} (A : AInvR rk E B s0 s noXR noY) {n : Nat} {rest : List Nat}
    (hq : s.ahh.queues[ahhFirst s]? = some (n :: rest)) :
    AInvR rk E B s0 (ahhPopped (ahhFirst s) n rest s) (fun x _ => x = n) (· = n) ∧ rk B ≤ rk n ∧
      (∀ q, E n q →
        (ahhPopped (ahhFirst s) n rest s).ahh.lowerBound < ((ahhPopped (ahhFirst s) n rest s).nodeD q).height) ∧
      ∀ m, (ahhPopped (ahhFirst s) n rest s).nodeD m =
        if m = n then { s.nodeD n with heightInAhh := -1 } else s.nodeD m := by
  obtain ⟨hwf, hmn⟩ := A.wf.popped hq
  have hmem : ahhMk s n ≠ -1 := by rw [hmn]; omega
  have hn : n < s.nodes.size := by
    apply Decidable.byContradiction
    intro h
    apply hmem
    simp only [ahhMk]
    rw [nodeD_default s n (by omega)]; rfl
  have key : ∀ m, (ahhPopped (ahhFirst s) n rest s).nodeD m =
      if m = n then { s.nodeD n with heightInAhh := -1 } else s.nodeD m :=
    nodeD_upd (s := s) (f := fun x => { x with heightInAhh := -1 }) rfl hn
  have hh : ∀ m, ((ahhPopped (ahhFirst s) n rest s).nodeD m).height = (s.nodeD m).height := by
    intro m; rw [key]; split
    · rename_i e; rw [e]
    · rfl
  have hr : ∀ m, ((ahhPopped (ahhFirst s) n rest s).nodeD m).heightInRch = (s.nodeD m).heightInRch := by
    intro m; rw [key]; split
    · rename_i e; rw [e]
    · rfl
  have hin : ∀ m, ((ahhPopped (ahhFirst s) n rest s).nodeD m).inRch = (s.nodeD m).inRch := by
    intro m; simp only [Node.inRch, hr]
  have hmk : ∀ m, ahhMk (ahhPopped (ahhFirst s) n rest s) m = if m = n then -1 else ahhMk s m := by
    intro m; simp only [ahhMk]; rw [key]; split <;> rfl
  refine ⟨⟨A.rel.trans (HRel.upd (s := s) (n := n) (f := fun x => { x with heightInAhh := -1 }) rfl rfl
      (fun x => ⟨rfl, rfl⟩) rfl (Int.le_refl _)),
    hwf, A.heap.congr rfl (by simp [ahhPopped]) hr, ?_, ?_, ?_, ?_, ?_, ?_⟩, A.memB n hmem, ?_, key⟩
  rotate_left 4
  · intro m hmB
    have := A.memB n hmem
    have e : m ≠ n := fun e => by rw [e] at hmB; omega
    rw [key, if_neg e]; exact A.low m hmB
  · intro m hmm
    rw [hmk] at hmm
    by_cases e : m = n
    · rw [if_pos e] at hmm; exact absurd rfl hmm
    · rw [if_neg e] at hmm; exact A.memB m hmm
  rotate_left 1
  · intro c q hm
    rw [hh, hh, hmk]
    by_cases e : c = n
    · exact Or.inr (Or.inr e)
    · rw [if_neg e]
      rcases A.edge c q hm with h | h | h
      · exact Or.inl h
      · exact Or.inr (Or.inl h)
      · exact h.elim
  · intro c q hm hmc
    rw [hh, hmk] at *
    by_cases e : c = n
    · rw [if_pos e] at hmc; exact absurd rfl hmc
    · rw [if_neg e] at hmc ⊢; exact A.old c q hm hmc
  · intro m hq' hmm hy
    rw [hin] at hq'
    rw [hmk, if_neg hy] at hmm
    rw [hr, hh]; exact A.hgt m hq' hmm (fun h => h)
  · intro m hq'
    rw [hin] at hq'
    rw [hr, hh]; exact A.hle m hq'
  · intro q hm
    rw [hh]
    show (ahhFirst s : Int) < _
    rw [← hmn]
    exact A.old n q hm hmem

/-- S4: the popped node is re-bucketed in the recompute heap -/
theorem AInvR.rebucket {B : Nat} {s0 s : State} {X : Nat → Nat → Prop} {Y : Nat → Prop} (A : AInvR rk E B s0 s X Y)
    {n : Nat} {Q : Array (List Nat)} (hn : n < s.nodes.size) (hq : (s.nodeD n).inRch = true)
    (h0 : 0 ≤ (s.nodeD n).height) (hQ : Q.size = s.rch.queues.size)
    (hwf : HeapWF (rebucketed n (s.nodeD n).height Q s)) (hY : ∀ m, Y m → m = n) (hB : rk B ≤ rk n) :
    AInvR rk E B s0 (rebucketed n (s.nodeD n).height Q s) X noY := by
  have key : ∀ m, (rebucketed n (s.nodeD n).height Q s).nodeD m =
      if m = n then { s.nodeD n with heightInRch := (s.nodeD n).height } else s.nodeD m :=
    nodeD_upd (s := s) (f := fun x => { x with heightInRch := (s.nodeD n).height }) rfl hn
  have hh : ∀ m, ((rebucketed n (s.nodeD n).height Q s).nodeD m).height = (s.nodeD m).height := by
    intro m; rw [key]; split
    · rename_i e; rw [e]
    · rfl
  have hr : ∀ m, ((rebucketed n (s.nodeD n).height Q s).nodeD m).heightInRch =
      if m = n then (s.nodeD n).height else (s.nodeD m).heightInRch := by
    intro m; rw [key]; split <;> rfl
  have hin : ∀ m, ((rebucketed n (s.nodeD n).height Q s).nodeD m).inRch = (s.nodeD m).inRch := by
    intro m
    simp only [Node.inRch, hr]
    split
    · rename_i e
      rw [e]
      simp only [Node.inRch] at hq
      rw [hq]; simpa using h0
    · rfl
  have hmk : ∀ m, ahhMk (rebucketed n (s.nodeD n).height Q s) m = ahhMk s m := by
    intro m; simp only [ahhMk]; rw [key]; split
    · rename_i e; rw [e]
    · rfl
  refine ⟨A.rel.trans (HRel.upd (s := s) (n := n)
      (f := fun x => { x with heightInRch := (s.nodeD n).height }) rfl (by simp only [hKey, rebucketed, hQ])
      (fun x => ⟨rfl, rfl⟩) ?_ (Int.le_refl _)),
    A.wf.congr rfl (funext hmk), ⟨hwf, ?_, A.heap.lb0⟩, ?_, ?_, ?_, ?_, ?_, ?_⟩
  rotate_left 6
  · intro m hmB
    have e : m ≠ n := fun e => by rw [e] at hmB; omega
    rw [key, if_neg e]; exact A.low m hmB
  · intro m hmm
    rw [hmk] at hmm; exact A.memB m hmm
  · have := hin n
    rw [key, if_pos rfl] at this
    exact this
  · intro m hqm
    rw [hin] at hqm
    rw [hr]
    show s.rch.lowerBound ≤ _
    have h1 := A.heap.lb m hqm
    have h2 := A.hle m hqm
    by_cases e : m = n
    · rw [if_pos e]; rw [e] at h1 h2; omega
    · rw [if_neg e]; exact h1
  · intro c q hm
    rw [hh, hh, hmk]; exact A.edge c q hm
  · intro c q hm hmc
    rw [hh, hmk] at *
    exact A.old c q hm hmc
  · intro m hqm hmm _
    rw [hin] at hqm
    rw [hmk] at hmm
    rw [hr, hh]
    split
    · rename_i e; rw [e]
    · rename_i e; exact A.hgt m hqm hmm (fun hy => e (hY m hy))
  · intro m hqm
    rw [hin] at hqm
    rw [hr, hh]
    split
    · rename_i e; rw [e]; exact Int.le_refl _
    · exact A.hle m hqm

/-- `ensureHeightRequirement c p` inside the loop: the pair `(c, p)` is fine afterwards -/
theorem ehr_step {B : Nat} {s0 s s' : State} {X : Nat → Nat → Prop} {Y : Nat → Prop} {oc op c p : Nat} {u : Unit}
    (h : (ensureHeightRequirement oc op c p).run.run s = (.ok u, s')) (A : AInvR rk E B s0 s X Y)
    (hX : ∀ x q, X x q → x = c) (hcp : c ≠ p)
    (hlb : s.ahh.lowerBound ≤ (s.nodeD p).height) (hB : rk B ≤ rk p) :
    AInvR rk E B s0 s' (fun x q => X x q ∧ q ≠ p) Y ∧ HRel s s' ∧ s'.ahh.lowerBound = s.ahh.lowerBound := by
  obtain ⟨hc, hp, hcase⟩ := ehr_ok_inv h
  rcases hcase with ⟨hlt, e⟩ | ⟨hge, s1, hs1, e⟩
  · rw [e]
    refine ⟨⟨A.rel, A.wf, A.heap, ?_, A.old, A.hgt, A.hle, A.low, A.memB⟩, HRel.refl s, rfl⟩
    intro x q hm
    rcases A.edge x q hm with h1 | h1 | h1
    · exact Or.inl h1
    · exact Or.inr (Or.inl h1)
    · by_cases eq : q = p
      · left; rw [hX x q h1, eq]; exact hlt
      · exact Or.inr (Or.inr ⟨h1, eq⟩)
  · rcases hs1 with ⟨hmem, e1⟩ | ⟨hnm, h0, hx, e1⟩
    · rw [e1] at e
      rw [e]
      exact ⟨A.raise hp hmem (by omega) (by omega) hX, HRel.heightSet (by omega), rfl⟩
    · have hpar : ∀ q, E p q → (s.nodeD p).height < (s.nodeD q).height := by
        intro q hm
        rcases A.edge p q hm with h1 | h1 | h1
        · exact h1
        · exact absurd hnm h1
        · exact absurd (hX p q h1).symm hcp
      have A1 := A.add hp hnm h0 hx hlb hpar hB
      rw [← e1] at A1
      have key := ahhAdded_nodeD (x := (s.nodeD p).height) hp
      have hhp : (s1.nodeD p).height = (s.nodeD p).height := by rw [e1, key, if_pos rfl]
      have hhc : (s1.nodeD c).height = (s.nodeD c).height := by rw [e1, key, if_neg hcp]
      have hmem : ahhMk s1 p ≠ -1 := by
        simp only [ahhMk]
        rw [e1, key, if_pos rfl]
        show (s.nodeD p).height ≠ -1
        omega
      have hp1 : p < s1.nodes.size := by rw [e1]; simpa [ahhAdded] using hp
      rw [e]
      refine ⟨A1.raise hp1 hmem (by omega) (by omega) hX, ?_, ?_⟩
      · have r1 : HRel s s1 := by rw [e1]; exact HRel.added _ _ _
        exact r1.trans (HRel.heightSet (by omega))
      · rw [e1]; rfl

end CA
end IncrVerif.Proofs.BindH
