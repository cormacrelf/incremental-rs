import IncrVerif.Proofs.Poison
import Std.Do
import Std.Tactic.Do
import Lean
/-!
# C05 / C11 (edges): the necessity and edge invariant of the engine model

`NecWF s` (defined near the end of this file, in terms of the state) says: every recorded parent edge is a
real edge (`e1`), every recorded parent is necessary (`e2`), a node marked as queued in the recompute heap is
necessary and valid (`e3`), no edge is recorded twice (`e4`), and the record tables are consistent with the
node kinds (`kinds`).  The theorems for users are in `Props/C05.lean`.

How it is proved.  All reasoning is done on a *view* of the state (`View`, `viewOf`): per node the parent list,
"has an observer or is forced necessary", `valid`, "is queued", the kind; the children function; table sizes.
Every function `f` of the model gets ONE Hoare triple (`Std.Do`, `mvcgen`) of the shape
`⦃viewOf s = v⦄ f ⦃R v (viewOf s)⦄` (normal outcome; the exceptional postcondition is `True`), the ghost `v`
being instantiated by `mvcgen` through the precondition.  The invariant on views is `NecV` (= `J` + "no bad
node").  It is broken transiently inside the cascades; these get relational postconditions:
* unlinking (`becameUnnecessary`/`checkIfUnnecessary`/`removeChildren`): `UPost`/`RCPost`: the part `J` is kept,
  the view changes by `URel` (parent lists shrink), and the set of *bad* nodes (unnecessary but still recorded
  as a parent, or still queued) only shrinks, losing the node the cascade was started for;
* linking (`becameNecessary`/`addParentWithoutAdjustingHeights`): `BNPost`/`APost`: `NecV` is kept on the nose,
  the view changes by `LRel`, and the recorded edges of every other necessary node are untouched (needed for
  "no duplicate edges");
* invalidation (`invalidateNode`): `IPost` (`IRel`);
* `changeChildBindRhs`: `CCPost`, from the invariant modulo the one edge whose child the bind just replaced
  (`NecX`).
Everything else keeps `NecV` (`NP`), does not change the view (`VF`), or only extends it (`Ext`, node creation).

`Proofs/Poison.lean` (hence `Proofs/HeapWF.lean`) is imported on purpose (two modules running `mvcgen` over the
same model functions cannot be imported side by side); `nv_mvcgen` is `mvcgen` with all their `@[spec]` lemmas
erased, and the lemmas here are registered with priority 100000 (200000 for specs of one syntactic shape of a
primitive call).
-/
namespace IncrVerif.Proofs.Nec
open IncrVerif.Engine IncrVerif.Proofs Std.Do

set_option mvcgen.warning false

/-! ### part N1 -/

open Lean.Parser.Tactic in
/-- `mvcgen` blind to the specifications of `Proofs/HeapWF.lean` and `Proofs/Poison.lean` (which must be
imported, see the note in `Proofs/Poison.lean`) -/
macro "nv_mvcgen" " [" args:(simpStar <|> simpErase <|> simpLemma),* "]" : tactic =>
  let args : Lean.Syntax.TSepArray [``simpStar, ``simpErase, ``simpLemma] "," := ⟨args.elemsAndSeps⟩
  `(tactic| mvcgen [$args,*,
      -IncrVerif.Proofs.rchInsert_spec,
      -IncrVerif.Proofs.rchRemove_spec,
      -IncrVerif.Proofs.rchMinHeight_spec,
      -IncrVerif.Proofs.rchIncreaseHeight_spec,
      -IncrVerif.Proofs.rchRemoveMin_spec,
      -IncrVerif.Proofs.modNode_spec,
      -IncrVerif.Proofs.logEv_spec,
      -IncrVerif.Proofs.tick_spec,
      -IncrVerif.Proofs.modBind_spec,
      -IncrVerif.Proofs.modExpert_spec,
      -IncrVerif.Proofs.modObs_spec,
      -IncrVerif.Proofs.modVar_spec,
      -IncrVerif.Proofs.bumpCounter_spec,
      -IncrVerif.Proofs.setHeight_spec,
      -IncrVerif.Proofs.addParent_spec,
      -IncrVerif.Proofs.removeParent_spec,
      -IncrVerif.Proofs.handleAfterStabilisation_spec,
      -IncrVerif.Proofs.maybeHandleAfterStabilisation_spec,
      -IncrVerif.Proofs.assertM_spec,
      -IncrVerif.Proofs.dassert_spec,
      -IncrVerif.Proofs.getNode_spec,
      -IncrVerif.Proofs.getBind_spec,
      -IncrVerif.Proofs.getExpert_spec,
      -IncrVerif.Proofs.getVar_spec,
      -IncrVerif.Proofs.getObs_spec,
      -IncrVerif.Proofs.scopeHeight_spec,
      -IncrVerif.Proofs.scopeIsNecessary_spec,
      -IncrVerif.Proofs.scopeIsValid_spec,
      -IncrVerif.Proofs.isConstant_spec,
      -IncrVerif.Proofs.resolveOpnd_spec,
      -IncrVerif.Proofs.expertOf_spec,
      -IncrVerif.Proofs.expertIdxRaw_spec,
      -IncrVerif.Proofs.valueUnwrap_spec,
      -IncrVerif.Proofs.assertRunningIsChild_spec,
      -IncrVerif.Proofs.createNode_spec,
      -IncrVerif.Proofs.createVar_spec,
      -IncrVerif.Proofs.createBind_spec,
      -IncrVerif.Proofs.ahhAddUnlessMem_spec,
      -IncrVerif.Proofs.ahhRemoveMin_spec,
      -IncrVerif.Proofs.ensureHeightRequirement_spec,
      -IncrVerif.Proofs.shouldCutoff_spec,
      -IncrVerif.Proofs.edgeOnChange_spec,
      -IncrVerif.Proofs.runEdgeCallback_spec,
      -IncrVerif.Proofs.observabilityChange_spec,
      -IncrVerif.Proofs.becameUnnecessary_spec,
      -IncrVerif.Proofs.checkIfUnnecessary_spec,
      -IncrVerif.Proofs.removeChildren_spec,
      -IncrVerif.Proofs.invalidateNode_spec,
      -IncrVerif.Proofs.propagateInvalidity_spec,
      -IncrVerif.Proofs.adjustHeightsLoop_spec,
      -IncrVerif.Proofs.adjustHeights_spec,
      -IncrVerif.Proofs.markMapRefUnknown_spec,
      -IncrVerif.Proofs.becameNecessary_spec,
      -IncrVerif.Proofs.addParentWithoutAdjustingHeights_spec,
      -IncrVerif.Proofs.becameNecessaryPropagate_spec,
      -IncrVerif.Proofs.stateAddParent_spec,
      -IncrVerif.Proofs.changeChildBindRhs_spec,
      -IncrVerif.Proofs.mapM_spec,
      -IncrVerif.Proofs.mapConst_spec,
      -IncrVerif.Proofs.expertMakeStale_spec,
      -IncrVerif.Proofs.expertAddDependency_spec,
      -IncrVerif.Proofs.swapEdgeIndices_spec,
      -IncrVerif.Proofs.expertRemoveDependency_spec,
      -IncrVerif.Proofs.expertInvalidate_spec,
      -IncrVerif.Proofs.elabInstr_spec,
      -IncrVerif.Proofs.elabTemplateBase_spec,
      -IncrVerif.Proofs.memoCall_spec,
      -IncrVerif.Proofs.elabInstrM_spec,
      -IncrVerif.Proofs.elabTemplate_spec,
      -IncrVerif.Proofs.didSetVarWhileNotStabilising_spec,
      -IncrVerif.Proofs.writeVar_spec,
      -IncrVerif.Proofs.disallowFutureUse_spec,
      -IncrVerif.Proofs.subscribe_spec,
      -IncrVerif.Proofs.unsubscribe_spec,
      -IncrVerif.Proofs.runEffectBasic_spec,
      -IncrVerif.Proofs.dropVarHandle_spec,
      -IncrVerif.Proofs.childChanged_spec,
      -IncrVerif.Proofs.parentIterCanRecomputeNow_spec,
      -IncrVerif.Proofs.maybeChangeValueManual_spec,
      -IncrVerif.Proofs.maybeChangeValue_spec,
      -IncrVerif.Proofs.runEffects_spec,
      -IncrVerif.Proofs.expertValue_spec,
      -IncrVerif.Proofs.withOldEvents_spec,
      -IncrVerif.Proofs.perKeyDriver_spec,
      -IncrVerif.Proofs.recomputeOne_spec,
      -IncrVerif.Proofs.recompute_spec,
      -IncrVerif.Proofs.addNewObservers_spec,
      -IncrVerif.Proofs.unlinkDisallowedObservers_spec,
      -IncrVerif.Proofs.runAll_spec,
      -IncrVerif.Proofs.stabiliseEnd_spec,
      -IncrVerif.Proofs.drainHeap_spec,
      -IncrVerif.Proofs.stabilise_spec,
      -IncrVerif.Proofs.setMaxHeightAllowed_spec,
      -IncrVerif.Proofs.Poison.tick_fr,
      -IncrVerif.Proofs.Poison.getNode_fr,
      -IncrVerif.Proofs.Poison.modNode_fr,
      -IncrVerif.Proofs.Poison.getVar_fr,
      -IncrVerif.Proofs.Poison.modVar_fr,
      -IncrVerif.Proofs.Poison.scopeIsValid_fr,
      -IncrVerif.Proofs.Poison.rchInsert_fr,
      -IncrVerif.Proofs.Poison.rchRemove_fr,
      -IncrVerif.Proofs.Poison.rchMinHeight_fr,
      -IncrVerif.Proofs.Poison.rchIncreaseHeight_fr,
      -IncrVerif.Proofs.Poison.rchRemoveMin_fr,
      -IncrVerif.Proofs.Poison.setHeight_fr,
      -IncrVerif.Proofs.Poison.ahhAddUnlessMem_fr,
      -IncrVerif.Proofs.Poison.ahhRemoveMin_fr,
      -IncrVerif.Proofs.Poison.ensureHeightRequirement_fr,
      -IncrVerif.Proofs.Poison.adjustHeightsLoop_fr,
      -IncrVerif.Proofs.Poison.adjustHeights_fr,
      -IncrVerif.Proofs.Poison.handleAfterStabilisation_fr,
      -IncrVerif.Proofs.Poison.shouldCutoff_fr,
      -IncrVerif.Proofs.Poison.edgeOnChange_fr,
      -IncrVerif.Proofs.Poison.runEdgeCallback_fr,
      -IncrVerif.Proofs.Poison.observabilityChange_fr,
      -IncrVerif.Proofs.Poison.markMapRefUnknown_fr,
      -IncrVerif.Proofs.Poison.becameNecessary_fr,
      -IncrVerif.Proofs.Poison.addParentWithoutAdjustingHeights_fr,
      -IncrVerif.Proofs.Poison.becameUnnecessary_fr,
      -IncrVerif.Proofs.Poison.checkIfUnnecessary_fr,
      -IncrVerif.Proofs.Poison.removeChildren_fr,
      -IncrVerif.Proofs.Poison.invalidateNode_fr,
      -IncrVerif.Proofs.Poison.propagateInvalidity_fr,
      -IncrVerif.Proofs.Poison.becameNecessaryPropagate_fr,
      -IncrVerif.Proofs.Poison.stateAddParent_fr,
      -IncrVerif.Proofs.Poison.changeChildBindRhs_fr,
      -IncrVerif.Proofs.Poison.expertMakeStale_fr,
      -IncrVerif.Proofs.Poison.expertAddDependency_fr,
      -IncrVerif.Proofs.Poison.expertRemoveDependency_fr,
      -IncrVerif.Proofs.Poison.expertInvalidate_fr,
      -IncrVerif.Proofs.Poison.createNode_fr,
      -IncrVerif.Proofs.Poison.createVar_fr,
      -IncrVerif.Proofs.Poison.createBind_fr,
      -IncrVerif.Proofs.Poison.elabInstr_fr,
      -IncrVerif.Proofs.Poison.elabTemplateBase_fr,
      -IncrVerif.Proofs.Poison.memoCall_fr,
      -IncrVerif.Proofs.Poison.elabInstrM_fr,
      -IncrVerif.Proofs.Poison.elabTemplate_fr,
      -IncrVerif.Proofs.Poison.didSetVarWhileNotStabilising_fr,
      -IncrVerif.Proofs.Poison.writeVar_fr,
      -IncrVerif.Proofs.Poison.disallowFutureUse_fr,
      -IncrVerif.Proofs.Poison.subscribe_fr,
      -IncrVerif.Proofs.Poison.unsubscribe_fr,
      -IncrVerif.Proofs.Poison.runEffectBasic_fr,
      -IncrVerif.Proofs.Poison.childChanged_fr,
      -IncrVerif.Proofs.Poison.parentIterCanRecomputeNow_fr,
      -IncrVerif.Proofs.Poison.maybeChangeValueManual_fr,
      -IncrVerif.Proofs.Poison.maybeChangeValue_fr,
      -IncrVerif.Proofs.Poison.runEffects_fr,
      -IncrVerif.Proofs.Poison.expertValue_fr,
      -IncrVerif.Proofs.Poison.withOldEvents_fr,
      -IncrVerif.Proofs.Poison.perKeyDriver_fr,
      -IncrVerif.Proofs.Poison.recomputeOne_fr,
      -IncrVerif.Proofs.Poison.recompute_fr,
      -IncrVerif.Proofs.Poison.addNewObservers_fr,
      -IncrVerif.Proofs.Poison.unlinkDisallowedObservers_fr,
      -IncrVerif.Proofs.Poison.runAll_fr,
      -IncrVerif.Proofs.Poison.drainHeap_fr,
      -IncrVerif.Proofs.Poison.setMaxHeightAllowed_fr,
      -IncrVerif.Proofs.Poison.assertM_vs,
      -IncrVerif.Proofs.Poison.dassert_vs,
      -IncrVerif.Proofs.Poison.getNode_vs,
      -IncrVerif.Proofs.Poison.modNode_vs,
      -IncrVerif.Proofs.Poison.getBind_vs,
      -IncrVerif.Proofs.Poison.modBind_vs,
      -IncrVerif.Proofs.Poison.getExpert_vs,
      -IncrVerif.Proofs.Poison.modExpert_vs,
      -IncrVerif.Proofs.Poison.getObs_vs,
      -IncrVerif.Proofs.Poison.modObs_vs,
      -IncrVerif.Proofs.Poison.getVar_vs,
      -IncrVerif.Proofs.Poison.modVar_vs,
      -IncrVerif.Proofs.Poison.bumpCounter_vs,
      -IncrVerif.Proofs.Poison.handleAfterStabilisation_vs,
      -IncrVerif.Proofs.Poison.resolveOpnd_vs,
      -IncrVerif.Proofs.Poison.isConstant_vs,
      -IncrVerif.Proofs.Poison.createNode_vs,
      -IncrVerif.Proofs.Poison.createVar_vs,
      -IncrVerif.Proofs.Poison.createBind_vs,
      -IncrVerif.Proofs.Poison.mapM_vs])

/-- `nv_mvcgen` without arguments -/
macro "nv_mvcgen0" : tactic =>
  `(tactic| mvcgen [
      -IncrVerif.Proofs.rchInsert_spec,
      -IncrVerif.Proofs.rchRemove_spec,
      -IncrVerif.Proofs.rchMinHeight_spec,
      -IncrVerif.Proofs.rchIncreaseHeight_spec,
      -IncrVerif.Proofs.rchRemoveMin_spec,
      -IncrVerif.Proofs.modNode_spec,
      -IncrVerif.Proofs.logEv_spec,
      -IncrVerif.Proofs.tick_spec,
      -IncrVerif.Proofs.modBind_spec,
      -IncrVerif.Proofs.modExpert_spec,
      -IncrVerif.Proofs.modObs_spec,
      -IncrVerif.Proofs.modVar_spec,
      -IncrVerif.Proofs.bumpCounter_spec,
      -IncrVerif.Proofs.setHeight_spec,
      -IncrVerif.Proofs.addParent_spec,
      -IncrVerif.Proofs.removeParent_spec,
      -IncrVerif.Proofs.handleAfterStabilisation_spec,
      -IncrVerif.Proofs.maybeHandleAfterStabilisation_spec,
      -IncrVerif.Proofs.assertM_spec,
      -IncrVerif.Proofs.dassert_spec,
      -IncrVerif.Proofs.getNode_spec,
      -IncrVerif.Proofs.getBind_spec,
      -IncrVerif.Proofs.getExpert_spec,
      -IncrVerif.Proofs.getVar_spec,
      -IncrVerif.Proofs.getObs_spec,
      -IncrVerif.Proofs.scopeHeight_spec,
      -IncrVerif.Proofs.scopeIsNecessary_spec,
      -IncrVerif.Proofs.scopeIsValid_spec,
      -IncrVerif.Proofs.isConstant_spec,
      -IncrVerif.Proofs.resolveOpnd_spec,
      -IncrVerif.Proofs.expertOf_spec,
      -IncrVerif.Proofs.expertIdxRaw_spec,
      -IncrVerif.Proofs.valueUnwrap_spec,
      -IncrVerif.Proofs.assertRunningIsChild_spec,
      -IncrVerif.Proofs.createNode_spec,
      -IncrVerif.Proofs.createVar_spec,
      -IncrVerif.Proofs.createBind_spec,
      -IncrVerif.Proofs.ahhAddUnlessMem_spec,
      -IncrVerif.Proofs.ahhRemoveMin_spec,
      -IncrVerif.Proofs.ensureHeightRequirement_spec,
      -IncrVerif.Proofs.shouldCutoff_spec,
      -IncrVerif.Proofs.edgeOnChange_spec,
      -IncrVerif.Proofs.runEdgeCallback_spec,
      -IncrVerif.Proofs.observabilityChange_spec,
      -IncrVerif.Proofs.becameUnnecessary_spec,
      -IncrVerif.Proofs.checkIfUnnecessary_spec,
      -IncrVerif.Proofs.removeChildren_spec,
      -IncrVerif.Proofs.invalidateNode_spec,
      -IncrVerif.Proofs.propagateInvalidity_spec,
      -IncrVerif.Proofs.adjustHeightsLoop_spec,
      -IncrVerif.Proofs.adjustHeights_spec,
      -IncrVerif.Proofs.markMapRefUnknown_spec,
      -IncrVerif.Proofs.becameNecessary_spec,
      -IncrVerif.Proofs.addParentWithoutAdjustingHeights_spec,
      -IncrVerif.Proofs.becameNecessaryPropagate_spec,
      -IncrVerif.Proofs.stateAddParent_spec,
      -IncrVerif.Proofs.changeChildBindRhs_spec,
      -IncrVerif.Proofs.mapM_spec,
      -IncrVerif.Proofs.mapConst_spec,
      -IncrVerif.Proofs.expertMakeStale_spec,
      -IncrVerif.Proofs.expertAddDependency_spec,
      -IncrVerif.Proofs.swapEdgeIndices_spec,
      -IncrVerif.Proofs.expertRemoveDependency_spec,
      -IncrVerif.Proofs.expertInvalidate_spec,
      -IncrVerif.Proofs.elabInstr_spec,
      -IncrVerif.Proofs.elabTemplateBase_spec,
      -IncrVerif.Proofs.memoCall_spec,
      -IncrVerif.Proofs.elabInstrM_spec,
      -IncrVerif.Proofs.elabTemplate_spec,
      -IncrVerif.Proofs.didSetVarWhileNotStabilising_spec,
      -IncrVerif.Proofs.writeVar_spec,
      -IncrVerif.Proofs.disallowFutureUse_spec,
      -IncrVerif.Proofs.subscribe_spec,
      -IncrVerif.Proofs.unsubscribe_spec,
      -IncrVerif.Proofs.runEffectBasic_spec,
      -IncrVerif.Proofs.dropVarHandle_spec,
      -IncrVerif.Proofs.childChanged_spec,
      -IncrVerif.Proofs.parentIterCanRecomputeNow_spec,
      -IncrVerif.Proofs.maybeChangeValueManual_spec,
      -IncrVerif.Proofs.maybeChangeValue_spec,
      -IncrVerif.Proofs.runEffects_spec,
      -IncrVerif.Proofs.expertValue_spec,
      -IncrVerif.Proofs.withOldEvents_spec,
      -IncrVerif.Proofs.perKeyDriver_spec,
      -IncrVerif.Proofs.recomputeOne_spec,
      -IncrVerif.Proofs.recompute_spec,
      -IncrVerif.Proofs.addNewObservers_spec,
      -IncrVerif.Proofs.unlinkDisallowedObservers_spec,
      -IncrVerif.Proofs.runAll_spec,
      -IncrVerif.Proofs.stabiliseEnd_spec,
      -IncrVerif.Proofs.drainHeap_spec,
      -IncrVerif.Proofs.stabilise_spec,
      -IncrVerif.Proofs.setMaxHeightAllowed_spec,
      -IncrVerif.Proofs.Poison.tick_fr,
      -IncrVerif.Proofs.Poison.getNode_fr,
      -IncrVerif.Proofs.Poison.modNode_fr,
      -IncrVerif.Proofs.Poison.getVar_fr,
      -IncrVerif.Proofs.Poison.modVar_fr,
      -IncrVerif.Proofs.Poison.scopeIsValid_fr,
      -IncrVerif.Proofs.Poison.rchInsert_fr,
      -IncrVerif.Proofs.Poison.rchRemove_fr,
      -IncrVerif.Proofs.Poison.rchMinHeight_fr,
      -IncrVerif.Proofs.Poison.rchIncreaseHeight_fr,
      -IncrVerif.Proofs.Poison.rchRemoveMin_fr,
      -IncrVerif.Proofs.Poison.setHeight_fr,
      -IncrVerif.Proofs.Poison.ahhAddUnlessMem_fr,
      -IncrVerif.Proofs.Poison.ahhRemoveMin_fr,
      -IncrVerif.Proofs.Poison.ensureHeightRequirement_fr,
      -IncrVerif.Proofs.Poison.adjustHeightsLoop_fr,
      -IncrVerif.Proofs.Poison.adjustHeights_fr,
      -IncrVerif.Proofs.Poison.handleAfterStabilisation_fr,
      -IncrVerif.Proofs.Poison.shouldCutoff_fr,
      -IncrVerif.Proofs.Poison.edgeOnChange_fr,
      -IncrVerif.Proofs.Poison.runEdgeCallback_fr,
      -IncrVerif.Proofs.Poison.observabilityChange_fr,
      -IncrVerif.Proofs.Poison.markMapRefUnknown_fr,
      -IncrVerif.Proofs.Poison.becameNecessary_fr,
      -IncrVerif.Proofs.Poison.addParentWithoutAdjustingHeights_fr,
      -IncrVerif.Proofs.Poison.becameUnnecessary_fr,
      -IncrVerif.Proofs.Poison.checkIfUnnecessary_fr,
      -IncrVerif.Proofs.Poison.removeChildren_fr,
      -IncrVerif.Proofs.Poison.invalidateNode_fr,
      -IncrVerif.Proofs.Poison.propagateInvalidity_fr,
      -IncrVerif.Proofs.Poison.becameNecessaryPropagate_fr,
      -IncrVerif.Proofs.Poison.stateAddParent_fr,
      -IncrVerif.Proofs.Poison.changeChildBindRhs_fr,
      -IncrVerif.Proofs.Poison.expertMakeStale_fr,
      -IncrVerif.Proofs.Poison.expertAddDependency_fr,
      -IncrVerif.Proofs.Poison.expertRemoveDependency_fr,
      -IncrVerif.Proofs.Poison.expertInvalidate_fr,
      -IncrVerif.Proofs.Poison.createNode_fr,
      -IncrVerif.Proofs.Poison.createVar_fr,
      -IncrVerif.Proofs.Poison.createBind_fr,
      -IncrVerif.Proofs.Poison.elabInstr_fr,
      -IncrVerif.Proofs.Poison.elabTemplateBase_fr,
      -IncrVerif.Proofs.Poison.memoCall_fr,
      -IncrVerif.Proofs.Poison.elabInstrM_fr,
      -IncrVerif.Proofs.Poison.elabTemplate_fr,
      -IncrVerif.Proofs.Poison.didSetVarWhileNotStabilising_fr,
      -IncrVerif.Proofs.Poison.writeVar_fr,
      -IncrVerif.Proofs.Poison.disallowFutureUse_fr,
      -IncrVerif.Proofs.Poison.subscribe_fr,
      -IncrVerif.Proofs.Poison.unsubscribe_fr,
      -IncrVerif.Proofs.Poison.runEffectBasic_fr,
      -IncrVerif.Proofs.Poison.childChanged_fr,
      -IncrVerif.Proofs.Poison.parentIterCanRecomputeNow_fr,
      -IncrVerif.Proofs.Poison.maybeChangeValueManual_fr,
      -IncrVerif.Proofs.Poison.maybeChangeValue_fr,
      -IncrVerif.Proofs.Poison.runEffects_fr,
      -IncrVerif.Proofs.Poison.expertValue_fr,
      -IncrVerif.Proofs.Poison.withOldEvents_fr,
      -IncrVerif.Proofs.Poison.perKeyDriver_fr,
      -IncrVerif.Proofs.Poison.recomputeOne_fr,
      -IncrVerif.Proofs.Poison.recompute_fr,
      -IncrVerif.Proofs.Poison.addNewObservers_fr,
      -IncrVerif.Proofs.Poison.unlinkDisallowedObservers_fr,
      -IncrVerif.Proofs.Poison.runAll_fr,
      -IncrVerif.Proofs.Poison.drainHeap_fr,
      -IncrVerif.Proofs.Poison.setMaxHeightAllowed_fr,
      -IncrVerif.Proofs.Poison.assertM_vs,
      -IncrVerif.Proofs.Poison.dassert_vs,
      -IncrVerif.Proofs.Poison.getNode_vs,
      -IncrVerif.Proofs.Poison.modNode_vs,
      -IncrVerif.Proofs.Poison.getBind_vs,
      -IncrVerif.Proofs.Poison.modBind_vs,
      -IncrVerif.Proofs.Poison.getExpert_vs,
      -IncrVerif.Proofs.Poison.modExpert_vs,
      -IncrVerif.Proofs.Poison.getObs_vs,
      -IncrVerif.Proofs.Poison.modObs_vs,
      -IncrVerif.Proofs.Poison.getVar_vs,
      -IncrVerif.Proofs.Poison.modVar_vs,
      -IncrVerif.Proofs.Poison.bumpCounter_vs,
      -IncrVerif.Proofs.Poison.handleAfterStabilisation_vs,
      -IncrVerif.Proofs.Poison.resolveOpnd_vs,
      -IncrVerif.Proofs.Poison.isConstant_vs,
      -IncrVerif.Proofs.Poison.createNode_vs,
      -IncrVerif.Proofs.Poison.createVar_vs,
      -IncrVerif.Proofs.Poison.createBind_vs,
      -IncrVerif.Proofs.Poison.mapM_vs])


open Lean Elab Tactic Meta in
/-- split every conjunction and existential among the hypotheses -/
elab "split_ands" : tactic => do
  for _ in [0:200] do
    let g ← getMainGoal
    let found ← g.withContext do
      let mut r : Option FVarId := none
      for d in (← getLCtx) do
        if d.isImplementationDetail then continue
        let t ← instantiateMVars d.type
        if t.isAppOfArity ``And 2 || t.isAppOfArity ``Exists 2 then r := some d.fvarId
      return r
    match found with
    | none => break
    | some fv =>
      let gs ← g.cases fv
      replaceMainGoal (gs.toList.map (·.mvarId))

/-! ## the view: what the necessity invariant reads of a state -/

/-- the fields of a node the invariant reads; `base` = "has an observer or is forced necessary" -/
structure RNode where
  parents : List (Nat × Nat)
  base : Bool
  valid : Bool
  inRch : Bool
  kind : Kind

def RNode.nec (r : RNode) : Bool := !r.parents.isEmpty || r.base

def rel (nd : Node) : RNode :=
  ⟨nd.parents, !nd.observers.isEmpty || nd.forceNecessary, nd.valid, nd.inRch, nd.kind⟩

theorem rel_nec (nd : Node) : (rel nd).nec = nd.isNecessary := by
  simp [rel, RNode.nec, Node.isNecessary, Bool.or_assoc]

structure View where
  size : Nat
  nb : Nat
  ne : Nat
  rn : Nat → RNode
  ch : Nat → List Nat
  bmain : Nat → Option Nat
  debug : Bool

/-- children of a node as a function of its (valid) kind and the bind / expert tables -/
def chK (k : Option Kind) (binds : Array BindRec) (experts : Array ExpertRec) : List Nat :=
  match k with
  | none => []
  | some (.const _) => []
  | some (.var _) => []
  | some (.map _ args) => args
  | some (.mapRef _ i) => [i]
  | some (.mapWithOld _ i) => [i]
  | some (.fold _ _ cs) => cs
  | some (.bindLhsChange b) => match binds[b]? with
    | some br => [br.lhs]
    | none => []
  | some (.bindMain b lc) => match binds[b]? with
    | some br => lc :: (match br.rhs with | some r => [r] | none => [])
    | none => [lc]
  | some (.expert e) => match experts[e]? with
    | some er => er.children.map (·.child)
    | none => []

theorem children_eq (s : State) (n : Nat) :
    s.children n = chK (s.nodeD n).kind? s.binds s.experts := by
  unfold State.children chK
  rfl

def nodeAt (nodes : Array Node) (m : Nat) : Node := nodes[m]?.getD default

def mkView (nodes : Array Node) (binds : Array BindRec) (experts : Array ExpertRec) (dbg : Bool) : View :=
  { size := nodes.size, nb := binds.size, ne := experts.size
    rn := fun m => rel (nodeAt nodes m)
    ch := fun m => chK (nodeAt nodes m).kind? binds experts
    bmain := fun b => binds[b]?.map (·.main)
    debug := dbg }

def viewOf (s : State) : View := mkView s.nodes s.binds s.experts s.cfg.debug

theorem viewOf_rn (s : State) (m : Nat) : (viewOf s).rn m = rel (s.nodeD m) := rfl
theorem viewOf_ch (s : State) (m : Nat) : (viewOf s).ch m = s.children m := (children_eq s m).symm
theorem viewOf_nec (s : State) (m : Nat) : ((viewOf s).rn m).nec = s.isNecessary m := rel_nec _
theorem viewOf_valid (s : State) (m : Nat) : ((viewOf s).rn m).valid = (s.nodeD m).valid := rfl
theorem viewOf_inRch (s : State) (m : Nat) : ((viewOf s).rn m).inRch = (s.nodeD m).inRch := rfl
theorem viewOf_parents (s : State) (m : Nat) : ((viewOf s).rn m).parents = (s.nodeD m).parents := rfl
theorem viewOf_debug (s : State) : (viewOf s).debug = s.cfg.debug := rfl
theorem viewOf_size (s : State) : (viewOf s).size = s.nodes.size := rfl

theorem nodeAt_modify (nodes : Array Node) (n m : Nat) (f : Node → Node) :
    nodeAt (nodes.modify n f) m = if n = m ∧ m < nodes.size then f (nodeAt nodes m) else nodeAt nodes m := by
  simp only [nodeAt, Array.getElem?_modify]
  by_cases h : n = m
  · subst h
    by_cases h2 : n < nodes.size
    · simp [h2]
    · simp [h2, Array.getElem?_eq_none (Nat.le_of_not_lt h2)]
  · simp [h]

theorem nodeAt_of_le (nodes : Array Node) (m : Nat) (h : nodes.size ≤ m) : nodeAt nodes m = default := by
  simp [nodeAt, Array.getElem?_eq_none h]

theorem nodeAt_of_getElem? {nodes : Array Node} {m : Nat} {nd : Node} (h : nodes[m]? = some nd) :
    nodeAt nodes m = nd := by simp [nodeAt, h]

/-- a node update that leaves the fields read by the invariant alone -/
abbrev NodeFrame (f : Node → Node) : Prop := ∀ x, rel (f x) = rel x

theorem NodeFrame.kind? {f : Node → Node} (hf : NodeFrame f) (x : Node) : (f x).kind? = x.kind? := by
  have := hf x
  simp only [rel, RNode.mk.injEq] at this
  simp [Node.kind?, this.2.2.1, this.2.2.2.2]

theorem mkView_modify_frame (nodes : Array Node) (binds experts dbg) (n : Nat) (f : Node → Node)
    (hf : NodeFrame f) : mkView (nodes.modify n f) binds experts dbg = mkView nodes binds experts dbg := by
  simp only [mkView, Array.size_modify, View.mk.injEq, true_and, and_true]
  constructor
  · funext m
    rw [nodeAt_modify]; split
    · exact hf _
    · rfl
  · funext m
    rw [nodeAt_modify]; split
    · rw [hf.kind?]
    · rfl


theorem chK_binds_congr (k : Option Kind) (binds binds' : Array BindRec) (experts : Array ExpertRec)
    (h : ∀ b : Nat, (binds'[b]?.map fun (r : BindRec) => (r.lhs, r.rhs)) = (binds[b]?.map fun (r : BindRec) => (r.lhs, r.rhs))) :
    chK k binds' experts = chK k binds experts := by
  cases k with
  | none => rfl
  | some kd =>
    cases kd <;> try rfl
    · rename_i b
      have := h b
      simp only [chK]
      cases h1 : binds'[b]? <;> cases h2 : binds[b]? <;> simp_all
    · rename_i b lc
      have := h b
      simp only [chK]
      cases h1 : binds'[b]? <;> cases h2 : binds[b]? <;> simp_all

theorem mkView_binds_frame (nodes : Array Node) (binds binds' : Array BindRec) (experts dbg)
    (hsz : binds'.size = binds.size)
    (h : ∀ b : Nat, (binds'[b]?.map fun (r : BindRec) => (r.lhs, r.rhs, r.main)) =
      (binds[b]?.map fun (r : BindRec) => (r.lhs, r.rhs, r.main))) :
    mkView nodes binds' experts dbg = mkView nodes binds experts dbg := by
  simp only [mkView, hsz, View.mk.injEq, true_and, and_true]
  constructor
  · funext m
    apply chK_binds_congr
    intro b
    have := h b
    cases h1 : binds'[b]? <;> cases h2 : binds[b]? <;> simp_all
  · funext b
    have := h b
    cases h1 : binds'[b]? <;> cases h2 : binds[b]? <;> simp_all

theorem mkView_modBind_frame (nodes : Array Node) (binds : Array BindRec) (experts dbg) (b : Nat)
    (f : BindRec → BindRec) (hf : ∀ x, (f x).lhs = x.lhs ∧ (f x).rhs = x.rhs ∧ (f x).main = x.main) :
    mkView nodes (binds.modify b f) experts dbg = mkView nodes binds experts dbg := by
  apply mkView_binds_frame
  · simp
  · intro b'
    simp only [Array.getElem?_modify]
    split
    · cases binds[b']? <;> simp [hf]
    · rfl

theorem chK_experts_congr (k : Option Kind) (binds : Array BindRec) (experts experts' : Array ExpertRec)
    (h : ∀ e : Nat, (experts'[e]?.map fun (r : ExpertRec) => r.children.map (·.child)) =
      (experts[e]?.map fun (r : ExpertRec) => r.children.map (·.child))) :
    chK k binds experts' = chK k binds experts := by
  cases k with
  | none => rfl
  | some kd =>
    cases kd <;> try rfl
    rename_i e
    have := h e
    simp only [chK]
    cases h1 : experts'[e]? <;> cases h2 : experts[e]? <;> simp_all

theorem mkView_modExpert_frame (nodes : Array Node) (binds : Array BindRec) (experts : Array ExpertRec)
    (dbg) (e : Nat) (f : ExpertRec → ExpertRec) (hf : ∀ x, (f x).children = x.children) :
    mkView nodes binds (experts.modify e f) dbg = mkView nodes binds experts dbg := by
  simp only [mkView, Array.size_modify, View.mk.injEq, true_and, and_true]
  funext m
  apply chK_experts_congr
  intro e'
  simp only [Array.getElem?_modify]
  split
  · cases experts[e']? <;> simp [hf]
  · rfl

/-! ## triples over views -/

/-- `x` does not change the view -/
abbrev VF {α} (v : View) (x : M α) : Prop :=
  ⦃fun s => ⌜viewOf s = v⌝⦄ x ⦃post⟨fun _ s => ⌜viewOf s = v⌝, fun _ _ => ⌜True⌝⟩⦄

attribute [spec] IncrVerif.Engine.panic

section prims
variable (v : View)

@[spec 100000] theorem assertM_v (c : Bool) (site : String) :
    ⦃fun s => ⌜viewOf s = v⌝⦄ assertM c site ⦃post⟨fun _ s => ⌜viewOf s = v ∧ c = true⌝, fun _ _ => ⌜True⌝⟩⦄ := by
  nv_mvcgen [assertM]

@[spec 100000] theorem dassert_v (c : Bool) (site : String) :
    ⦃fun s => ⌜viewOf s = v⌝⦄ dassert c site
    ⦃post⟨fun _ s => ⌜viewOf s = v ∧ (v.debug = true → c = true)⌝, fun _ _ => ⌜True⌝⟩⦄ := by
  nv_mvcgen [dassert]
  · rename_i s h hc
    subst h
    refine ⟨rfl, fun hd => ?_⟩
    simp [viewOf_debug] at hd
    simpa [hd] using hc

@[spec 100000] theorem logEv_v (e : Event) : VF v (logEv e) := by
  nv_mvcgen [logEv]
@[spec 100000] theorem tick_v : VF v tick := by
  nv_mvcgen [tick]
@[spec 100000] theorem bumpCounter_v (f : Counters → Counters) : VF v (bumpCounter f) := by
  nv_mvcgen [bumpCounter]
@[spec 100000] theorem modVar_v (n : Nat) (f : VarCell → VarCell) : VF v (modVar n f) := by
  nv_mvcgen [modVar]
@[spec 100000] theorem modObs_v (n : Nat) (f : ObsRec → ObsRec) : VF v (modObs n f) := by
  nv_mvcgen [modObs]

@[spec 100000] theorem getNode_v (n : Nat) :
    ⦃fun s => ⌜viewOf s = v⌝⦄ getNode n
    ⦃post⟨fun nd s => ⌜viewOf s = v ∧ rel nd = v.rn n ∧ n < v.size⌝, fun _ _ => ⌜True⌝⟩⦄ := by
  nv_mvcgen [getNode]
  rename_i s h nd hnd
  subst h
  refine ⟨rfl, ?_, (Array.getElem?_eq_some_iff.1 hnd).1⟩
  simp [viewOf, mkView, nodeAt, hnd]

@[spec 100000] theorem getBind_v (b : Nat) :
    ⦃fun s => ⌜viewOf s = v⌝⦄ getBind b
    ⦃post⟨fun br s => ⌜viewOf s = v ∧ s.binds[b]? = some br⌝, fun _ _ => ⌜True⌝⟩⦄ := by
  nv_mvcgen [getBind]

@[spec 100000] theorem getExpert_v (e : Nat) :
    ⦃fun s => ⌜viewOf s = v⌝⦄ getExpert e
    ⦃post⟨fun er s => ⌜viewOf s = v ∧ s.experts[e]? = some er⌝, fun _ _ => ⌜True⌝⟩⦄ := by
  nv_mvcgen [getExpert]

@[spec 100000] theorem getVar_v (n : Nat) : VF v (getVar n) := by
  nv_mvcgen [getVar]
@[spec 100000] theorem getObs_v (n : Nat) : VF v (getObs n) := by
  nv_mvcgen [getObs]

@[spec 100000] theorem modNode_v (n : Nat) (f : Node → Node) (hf : NodeFrame f) : VF v (modNode n f) := by
  nv_mvcgen [modNode]
  rename_i s h _
  rw [← h]
  exact mkView_modify_frame _ _ _ _ _ _ hf

@[spec 100000] theorem modBind_v (b : Nat) (f : BindRec → BindRec)
    (hf : ∀ x, (f x).lhs = x.lhs ∧ (f x).rhs = x.rhs ∧ (f x).main = x.main) : VF v (modBind b f) := by
  nv_mvcgen [modBind]
  rename_i s h _
  rw [← h]
  exact mkView_modBind_frame _ _ _ _ _ _ hf

@[spec 100000] theorem modExpert_v (e : Nat) (f : ExpertRec → ExpertRec)
    (hf : ∀ x, (f x).children = x.children) : VF v (modExpert e f) := by
  nv_mvcgen [modExpert]
  rename_i s h _
  rw [← h]
  exact mkView_modExpert_frame _ _ _ _ _ _ hf

end prims


/-! ## loop rule over views -/

theorem forIn_view {α β} (l : List α) (init : β) (f : α → β → M (ForInStep β))
    (Inv : List α → View → List α → β → View → Prop)
    (hstep : ∀ (done : List α) (a : α) (rest : List α) (b : β) (v : View), l = done ++ a :: rest →
       ⦃fun s => ⌜viewOf s = v⌝⦄ f a b
       ⦃post⟨fun r s => ⌜(∃ b', r = .yield b') ∧
          ∀ v0 b', r = .yield b' → Inv l v0 done b v → Inv l v0 (done ++ [a]) b' (viewOf s)⌝,
          fun _ _ => ⌜True⌝⟩⦄)
    (v : View) :
    ⦃fun s => ⌜viewOf s = v⌝⦄ forIn l init f
    ⦃post⟨fun b s => ⌜∀ v0, Inv l v0 [] init v → Inv l v0 l b (viewOf s)⌝, fun _ _ => ⌜True⌝⟩⦄ := by
  suffices h : ∀ (rest done : List α) (b : β) (v : View), l = done ++ rest →
      ⦃fun s => ⌜viewOf s = v⌝⦄ forIn rest b f
      ⦃post⟨fun b' s => ⌜∀ v0, Inv l v0 done b v → Inv l v0 l b' (viewOf s)⌝, fun _ _ => ⌜True⌝⟩⦄ by
    exact h l [] init v rfl
  intro rest
  induction rest with
  | nil =>
    intro done b v hl
    simp only [List.forIn_nil]
    nv_mvcgen0
    rename_i s h
    intro v0 hinv
    simp only [List.append_nil] at hl
    subst hl
    rw [h]; exact hinv
  | cons a rest ih =>
    intro done b v hl
    rw [List.forIn_cons]
    have h1 := hstep done a rest b v hl
    have h2 := fun b' v' => ih (done ++ [a]) b' v' (by simp [hl])
    nv_mvcgen [h1, h2]
    · rename_i hh
      obtain ⟨⟨b', hb'⟩, -⟩ := hh
      cases hb'
    · intro hh2 v0 hinv
      rename_i hh _ _
      exact hh2 v0 (hh.2 v0 _ rfl hinv)


/-! ## view updates -/

def View.setRn (v : View) (n : Nat) (r : RNode) : View :=
  { v with rn := fun m => if m = n then r else v.rn m }

theorem mkView_modify_setRn (nodes : Array Node) (binds experts dbg) (n : Nat) (f : Node → Node)
    (hn : n < nodes.size) (hk : (f (nodeAt nodes n)).kind? = (nodeAt nodes n).kind?) :
    mkView (nodes.modify n f) binds experts dbg
      = (mkView nodes binds experts dbg).setRn n (rel (f (nodeAt nodes n))) := by
  simp only [mkView, View.setRn, Array.size_modify, View.mk.injEq, true_and, and_true]
  constructor
  · funext m
    rw [nodeAt_modify]
    by_cases h : n = m
    · subst h; simp [hn]
    · have : ¬ m = n := fun e => h e.symm
      simp [h, this]
  · funext m
    rw [nodeAt_modify]; split
    · rename_i h; rw [← h.1, hk]
    · rfl

def View.setInRch (v : View) (n : Nat) (b : Bool) : View := v.setRn n { v.rn n with inRch := b }
def View.setParents (v : View) (n : Nat) (l : List (Nat × Nat)) : View := v.setRn n { v.rn n with parents := l }

/-! ## `swapRemove` -/

/-! ## primitives that change the view -/

section prims2
variable (v : View)

macro "nf_triv" : tactic =>
  `(tactic| first
    | assumption
    | (intro x; rfl)
    | (intro x; exact ⟨rfl, rfl, rfl⟩)
    | (intros; trivial)
    | (intros; rfl))

@[spec 100000] theorem setHeight_v (n : Nat) (h : Int) : VF v (setHeight n h) := by
  nv_mvcgen [setHeight]
  all_goals nf_triv

@[spec 100000] theorem handleAfterStabilisation_v (n : Nat) : VF v (handleAfterStabilisation n) := by
  nv_mvcgen [handleAfterStabilisation]
  all_goals first | nf_triv | simp_all
  rename_i h
  exact h

@[spec 100000] theorem maybeHandleAfterStabilisation_v (n : Nat) : VF v (maybeHandleAfterStabilisation n) := by
  nv_mvcgen [maybeHandleAfterStabilisation]
  all_goals first | nf_triv | simp_all

theorem viewOf_modify_rel (s : State) (n : Nat) (f : Node → Node) (g : RNode → RNode)
    (hn : n < s.nodes.size) (hg : ∀ x, rel (f x) = g (rel x)) (hk : ∀ x, (f x).kind? = x.kind?) :
    viewOf { s with nodes := s.nodes.modify n f } = (viewOf s).setRn n (g ((viewOf s).rn n)) := by
  have := mkView_modify_setRn s.nodes s.binds s.experts s.cfg.debug n f hn (hk _)
  rw [hg] at this
  exact this

theorem modify_of_le {α} (a : Array α) (n : Nat) (f : α → α) (h : a.size ≤ n) : a.modify n f = a := by
  apply Array.ext
  · simp
  · intro j h1 h2
    rw [Array.getElem_modify]
    have : n ≠ j := by
      intro e; subst e; exact absurd h2 (Nat.not_lt.2 h)
    simp [this]

@[spec 100000] theorem addParent_v (c i p : Nat) :
    ⦃fun s => ⌜viewOf s = v⌝⦄ addParent c i p
    ⦃post⟨fun _ s => ⌜(c < v.size → viewOf s = v.setParents c ((v.rn c).parents ++ [(p, i)])) ∧
        (v.size ≤ c → viewOf s = v)⌝, fun _ _ => ⌜True⌝⟩⦄ := by
  nv_mvcgen [addParent, -modNode_v, modNode]
  rename_i s h _
  subst h
  constructor
  · intro hc
    exact viewOf_modify_rel s c _ (fun r => { r with parents := r.parents ++ [(p, i)] }) hc
      (fun _ => rfl) (fun _ => rfl)
  · intro hc
    have := modify_of_le s.nodes c (fun x => { x with parents := x.parents ++ [(p, i)] }) hc
    simp +zetaDelta only [viewOf, this]

@[spec 100000] theorem removeParent_v (c i p : Nat) :
    ⦃fun s => ⌜viewOf s = v⌝⦄ removeParent c i p
    ⦃post⟨fun _ s => ⌜∃ pi, (v.rn c).parents.idxOf? (p, i) = some pi ∧ c < v.size ∧
        viewOf s = v.setParents c (swapRemove (v.rn c).parents pi)⌝, fun _ _ => ⌜True⌝⟩⦄ := by
  nv_mvcgen [removeParent, -modNode_v, modNode]
  rename_i s1 h1 nd pi hpi s h t
  obtain ⟨h2, h3, h4⟩ := h
  subst h1
  refine ⟨pi, ?_, h4, ?_⟩
  · rw [← h3]; exact hpi
  · have hc : c < s.nodes.size := by rw [← h2] at h4; exact h4
    have := viewOf_modify_rel s c (fun x => { x with parents := swapRemove x.parents pi })
      (fun r => { r with parents := swapRemove r.parents pi }) hc (fun _ => rfl) (fun _ => rfl)
    rw [h2] at this
    exact this


theorem viewOf_def (s : State) : viewOf s = mkView s.nodes s.binds s.experts s.cfg.debug := rfl

/-- normal form of view expressions: `viewOf` of a state the program built from `s` by updating fields
the view does not read is `viewOf s` -/
macro "vnorm" : tactic =>
  `(tactic| ((try simp +zetaDelta only [viewOf] at *)
             (try simp only [← viewOf_def] at *)))

theorem node_valid (nd : Node) : nd.valid = (rel nd).valid := rfl
theorem node_inRch (nd : Node) : nd.inRch = (rel nd).inRch := rfl
theorem node_parents (nd : Node) : nd.parents = (rel nd).parents := rfl
theorem node_kind (nd : Node) : nd.kind = (rel nd).kind := rfl
theorem node_nec (nd : Node) : nd.isNecessary = (rel nd).nec := (rel_nec nd).symm
theorem node_kind? (nd : Node) : nd.kind? = if (rel nd).valid = true then some (rel nd).kind else none := rfl
theorem state_nec (s : State) (n : Nat) : s.isNecessary n = ((viewOf s).rn n).nec := (viewOf_nec s n).symm
theorem state_ch (s : State) (n : Nat) : s.children n = (viewOf s).ch n := (viewOf_ch s n).symm
theorem state_debug (s : State) : s.cfg.debug = (viewOf s).debug := rfl
theorem state_size (s : State) : s.nodes.size = (viewOf s).size := rfl
theorem state_rn (s : State) (n : Nat) : rel (s.nodeD n) = (viewOf s).rn n := rfl

/-- every fact about a state or a node expressed through the view at entry -/
macro "vsimp" : tactic =>
  `(tactic| ((try simp +zetaDelta only [node_valid, node_inRch, node_parents, node_kind, node_nec, node_kind?,
               state_nec, state_ch, state_debug, state_size, state_rn, State.needsToBeComputed] at *)
             vnorm
             split_ands
             try simp_all only [true_and, and_true]))

/-- closes frame goals -/
macro "vf_triv" : tactic =>
  `(tactic| first
    | assumption
    | exact ‹viewOf _ = _›
    | exact (‹viewOf _ = _ ∧ _›).1
    | nf_triv)

@[spec 100000] theorem rchMinHeight_v : VF v rchMinHeight := by
  nv_mvcgen [rchMinHeight]
  all_goals vf_triv

theorem viewOf_setMarker (s : State) (n : Nat) (h : Int) (hn : n < s.nodes.size) :
    viewOf { s with nodes := s.nodes.modify n fun x => { x with heightInRch := h } }
      = (viewOf s).setInRch n (decide (h ≥ 0)) :=
  viewOf_modify_rel s n _ (fun r => { r with inRch := decide (h ≥ 0) }) hn (fun _ => rfl) (fun _ => rfl)

theorem rchLink_v (n : Nat) :
    ⦃fun s => ⌜viewOf s = v⌝⦄ rchLink n
    ⦃post⟨fun _ s => ⌜viewOf s = v.setInRch n true ∧ n < v.size⌝, fun _ _ => ⌜True⌝⟩⦄ := by
  nv_mvcgen [rchLink, -modNode_v, modNode]
  rename_i s3 h3 nd s2 h2 _ s1 h1 _ s h t1 t
  have hn : n < s.nodes.size := by
    have := h2.2.2
    rw [← h2.1, ← h1.1, ← h.1] at this; exact this
  have e := viewOf_setMarker s n nd.height hn
  have hh : decide (nd.height ≥ 0) = true := h1.2
  rw [hh, h.1, h1.1, h2.1, h3] at e
  refine ⟨e, ?_⟩
  rw [← h3]; exact h2.2.2


theorem isStale_valid (s : State) (n : Nat) (h : s.isStale n = true) : (s.nodeD n).valid = true := by
  unfold State.isStale at h
  simp only [Node.kind?] at h
  by_cases hv : (s.nodeD n).valid = true
  · exact hv
  · simp [hv] at h

@[spec 100000] theorem rchInsert_v (n : Nat) :
    ⦃fun s => ⌜viewOf s = v⌝⦄ rchInsert n
    ⦃post⟨fun _ s => ⌜viewOf s = v.setInRch n true ∧ n < v.size ∧
        (v.debug = true → (v.rn n).nec = true ∧ (v.rn n).valid = true)⌝, fun _ _ => ⌜True⌝⟩⦄ := by
  have hl := rchLink_v
  nv_mvcgen [rchInsert, hl]
  all_goals vsimp
  all_goals
    intro hd
    have h := ‹v.debug = true → (!_ && (_ && _)) = true› hd
    simp only [Bool.and_eq_true] at h
    have hv := isStale_valid _ _ h.2.2
    vsimp


theorem View.setRn_self (v : View) (n : Nat) (r : RNode) (h : v.rn n = r) : v.setRn n r = v := by
  cases v
  simp only [View.setRn, View.mk.injEq, true_and, and_true]
  funext m
  split
  · rename_i e; rw [e]; exact h.symm
  · rfl

theorem View.setInRch_self (v : View) (n : Nat) (b : Bool) (h : (v.rn n).inRch = b) : v.setInRch n b = v := by
  apply View.setRn_self
  subst h; rfl

theorem viewOf_rn_of_le (s : State) (n : Nat) (h : s.nodes.size ≤ n) : (viewOf s).rn n = rel default := by
  simp [viewOf, mkView, nodeAt_of_le _ _ h]

theorem viewOf_clearMarker (s : State) (n : Nat) :
    viewOf { s with nodes := s.nodes.modify n fun x => { x with heightInRch := -1 } }
      = (viewOf s).setInRch n false := by
  by_cases hn : n < s.nodes.size
  · exact viewOf_setMarker s n (-1) hn
  · have hle : s.nodes.size ≤ n := Nat.le_of_not_lt hn
    rw [View.setInRch_self]
    · simp only [viewOf, modify_of_le _ _ _ hle]
    · rw [viewOf_rn_of_le _ _ hle]; rfl

theorem mkView_clearMarker (s : State) (n : Nat) (v : View) (h : viewOf s = v) :
    mkView (s.nodes.modify n fun x => { x with heightInRch := -1 }) s.binds s.experts s.cfg.debug
      = v.setInRch n false := by
  rw [← h]; exact viewOf_clearMarker s n

theorem rchUnlink_v (n : Nat) :
    ⦃fun s => ⌜viewOf s = v⌝⦄ rchUnlink n
    ⦃post⟨fun _ s => ⌜viewOf s = v ∧ (v.rn n).inRch = true⌝, fun _ _ => ⌜True⌝⟩⦄ := by
  nv_mvcgen [rchUnlink]
  vsimp
  rw [← ‹rel _ = v.rn n›]
  simp only [rel, Node.inRch, decide_eq_true_eq]
  have := ‹¬ Node.heightInRch _ < 0›
  omega

@[spec 100000] theorem rchRemove_v (n : Nat) :
    ⦃fun s => ⌜viewOf s = v⌝⦄ rchRemove n
    ⦃post⟨fun _ s => ⌜viewOf s = v.setInRch n false⌝, fun _ _ => ⌜True⌝⟩⦄ := by
  have hu := rchUnlink_v
  nv_mvcgen [rchRemove, hu, -modNode_v, modNode]
  vnorm
  rw [mkView_clearMarker _ n _ rfl]
  vsimp

@[spec 100000] theorem rchIncreaseHeight_v (n : Nat) : VF v (rchIncreaseHeight n) := by
  have hu := rchUnlink_v
  have hl := rchLink_v
  nv_mvcgen [rchIncreaseHeight, hu, hl]
  vsimp
  intro _ _
  exact View.setInRch_self _ _ _ (by assumption)

@[spec 100000] theorem rchRemoveMin_v :
    ⦃fun s => ⌜viewOf s = v⌝⦄ rchRemoveMin
    ⦃post⟨fun r s => ⌜match r with
        | none => viewOf s = v
        | some n => viewOf s = v.setInRch n false⌝, fun _ _ => ⌜True⌝⟩⦄ := by
  nv_mvcgen [rchRemoveMin, -modNode_v, modNode]
  all_goals vnorm
  all_goals try rw [mkView_clearMarker _ _ _ rfl]
  all_goals vsimp

end prims2

/-! ### part N3 -/

/-- loop rule: a loop whose body does not change the view does not change the view -/
theorem forIn_vf {α β} (v : View) (l : List α) (init : β) (f : α → β → M (ForInStep β))
    (hf : ∀ a b v, VF v (f a b)) : VF v (forIn l init f) := by
  induction l generalizing init with
  | nil => simp only [List.forIn_nil]; nv_mvcgen0
  | cons a l ih =>
    rw [List.forIn_cons]
    have := hf a init
    nv_mvcgen [this, ih]
    all_goals vsimp

/-- closes what `mvcgen` leaves for functions that do not change the view -/
macro "vf_fin" : tactic =>
  `(tactic| (all_goals (try vsimp); all_goals first | vf_triv | skip))

section frames
variable (v : View)

@[spec 100000] theorem scopeHeight_v (sc : Scope) : VF v (scopeHeight sc) := by
  nv_mvcgen [scopeHeight]
  vf_fin
@[spec 100000] theorem scopeIsNecessary_v (sc : Scope) : VF v (scopeIsNecessary sc) := by
  nv_mvcgen [scopeIsNecessary]
  vf_fin
@[spec 100000] theorem scopeIsValid_v (sc : Scope) : VF v (scopeIsValid sc) := by
  nv_mvcgen [scopeIsValid]
  vf_fin
@[spec 100000] theorem ahhAddUnlessMem_v (n : Nat) : VF v (ahhAddUnlessMem n) := by
  nv_mvcgen [ahhAddUnlessMem]
  vf_fin
@[spec 100000] theorem ahhRemoveMin_v : VF v ahhRemoveMin := by
  nv_mvcgen [ahhRemoveMin]
  vf_fin
@[spec 100000] theorem ensureHeightRequirement_v (oc op c p : Nat) : VF v (ensureHeightRequirement oc op c p) := by
  nv_mvcgen [ensureHeightRequirement]
  vf_fin

@[spec 100000] theorem adjustHeightsLoop_v (oc op fuel : Nat) : VF v (adjustHeightsLoop oc op fuel) := by
  induction fuel generalizing v with
  | zero => nv_mvcgen [adjustHeightsLoop]
  | succ fuel ih =>
    nv_mvcgen [adjustHeightsLoop, ih, -Spec.forIn_list, forIn_vf]
    vf_fin

@[spec 100000] theorem adjustHeights_v (oc op fuel : Nat) : VF v (adjustHeights oc op fuel) := by
  nv_mvcgen [adjustHeights]
  vf_fin

@[spec 100000] theorem shouldCutoff_v (env : Env) (n : Nat) (o w : Val) : VF v (shouldCutoff env n o w) := by
  nv_mvcgen [shouldCutoff]
  vf_fin
@[spec 100000] theorem edgeOnChange_v (env : Env) (e : Nat) (edge : ExpertEdge) : VF v (edgeOnChange env e edge) := by
  nv_mvcgen [edgeOnChange]
  vf_fin
@[spec 100000] theorem runEdgeCallback_v (env : Env) (e i : Nat) : VF v (runEdgeCallback env e i) := by
  nv_mvcgen [runEdgeCallback]
  vf_fin
@[spec 100000] theorem observabilityChange_v (e : Nat) (b : Bool) : VF v (observabilityChange e b) := by
  nv_mvcgen [observabilityChange]
  vf_fin

@[spec 100000] theorem markMapRefUnknown_v (fuel n : Nat) : VF v (markMapRefUnknown fuel n) := by
  induction fuel generalizing v n with
  | zero => nv_mvcgen [markMapRefUnknown]
  | succ fuel ih =>
    nv_mvcgen [markMapRefUnknown, ih, -Spec.forIn_list, forIn_vf]
    vf_fin

end frames

/-! ## the invariant on views -/

def HasEdge (v : View) (p : Nat) : Prop := ∃ c i, (p, i) ∈ (v.rn c).parents

/-- bind-main and expert kinds name their record injectively, the record exists, and the `main` entry of
a bind record is the main node of that bind (in particular it exists) -/
structure KindOK (v : View) : Prop where
  bmInj : ∀ n n' b lc lc', (v.rn n).kind = .bindMain b lc → (v.rn n').kind = .bindMain b lc' → n = n'
  bmLt : ∀ n b lc, (v.rn n).kind = .bindMain b lc → b < v.nb
  exInj : ∀ n n' e, (v.rn n).kind = .expert e → (v.rn n').kind = .expert e → n = n'
  exLt : ∀ n e, (v.rn n).kind = .expert e → e < v.ne
  bmHas : ∀ b m, v.bmain b = some m → ∃ lc, (v.rn m).kind = .bindMain b lc
  bmOf : ∀ m b lc, (v.rn m).kind = .bindMain b lc → v.bmain b = some m
  blLt : ∀ n b, (v.rn n).kind = .bindLhsChange b → b < v.nb

theorem KindOK.congr {v v' : View} (h : KindOK v) (hk : ∀ m, (v'.rn m).kind = (v.rn m).kind)
    (hnb : v'.nb = v.nb) (hne : v'.ne = v.ne) (hbm : v'.bmain = v.bmain) : KindOK v' := by
  refine ⟨?_, ?_, ?_, ?_, ?_, ?_, ?_⟩
  · intro n n' b lc lc' h1 h2; rw [hk] at h1 h2; exact h.bmInj n n' b lc lc' h1 h2
  · intro n b lc h1; rw [hk] at h1; rw [hnb]; exact h.bmLt n b lc h1
  · intro n n' e h1 h2; rw [hk] at h1 h2; exact h.exInj n n' e h1 h2
  · intro n e h1; rw [hk] at h1; rw [hne]; exact h.exLt n e h1
  · intro b m h1; rw [hbm] at h1; obtain ⟨lc, h2⟩ := h.bmHas b m h1; exact ⟨lc, by rw [hk]; exact h2⟩
  · intro m b lc h1; rw [hk] at h1; rw [hbm]; exact h.bmOf m b lc h1
  · intro n b h1; rw [hk] at h1; rw [hnb]; exact h.blLt n b h1

/-- the part of the invariant that holds at every point of the unlinking cascade -/
structure J (v : View) : Prop where
  dbg : v.debug = true
  e1 : ∀ c p i, (p, i) ∈ (v.rn c).parents → (v.ch p)[i]? = some c
  e3v : ∀ n, (v.rn n).inRch = true → (v.rn n).valid = true
  e4 : ∀ c, (v.rn c).parents.Nodup
  k : KindOK v
  chv : ∀ m, (v.rn m).valid = false → v.ch m = []

/-- an unnecessary node that is still recorded as a parent, or still queued -/
def Bad (v : View) (p : Nat) : Prop :=
  (v.rn p).nec = false ∧ (HasEdge v p ∨ (v.rn p).inRch = true)

/-- the invariant -/
structure NecV (v : View) : Prop extends J v where
  nobad : ∀ p, ¬ Bad v p

theorem NecV.e2 {v : View} (h : NecV v) (c p i : Nat) (hm : (p, i) ∈ (v.rn c).parents) :
    (v.rn p).nec = true := by
  cases hn : (v.rn p).nec with
  | true => rfl
  | false => exact absurd ⟨hn, Or.inl ⟨c, i, hm⟩⟩ (h.nobad p)

theorem NecV.e3 {v : View} (h : NecV v) (n : Nat) (hm : (v.rn n).inRch = true) :
    (v.rn n).nec = true ∧ (v.rn n).valid = true := by
  refine ⟨?_, h.e3v n hm⟩
  cases hn : (v.rn n).nec with
  | true => rfl
  | false => exact absurd ⟨hn, Or.inr hm⟩ (h.nobad n)

theorem NecV.of {v : View} (hj : J v) (h2 : ∀ c p i, (p, i) ∈ (v.rn c).parents → (v.rn p).nec = true)
    (h3 : ∀ n, (v.rn n).inRch = true → (v.rn n).nec = true) : NecV v := by
  refine ⟨hj, ?_⟩
  rintro p ⟨hn, ⟨c, i, hm⟩ | hq⟩
  · rw [h2 c p i hm] at hn; cases hn
  · rw [h3 p hq] at hn; cases hn

/-! ## the unlinking cascade -/

/-- what the unlinking cascade may change: parent lists shrink, queue markers are cleared -/
structure URel (v v' : View) : Prop where
  size : v'.size = v.size
  nb : v'.nb = v.nb
  ne : v'.ne = v.ne
  ch : v'.ch = v.ch
  bmain : v'.bmain = v.bmain
  debug : v'.debug = v.debug
  kind : ∀ m, (v'.rn m).kind = (v.rn m).kind
  valid : ∀ m, (v'.rn m).valid = (v.rn m).valid
  base : ∀ m, (v'.rn m).base = (v.rn m).base
  par : ∀ m x, x ∈ (v'.rn m).parents → x ∈ (v.rn m).parents
  inRch : ∀ m, (v'.rn m).inRch = true → (v.rn m).inRch = true

theorem URel.refl (v : View) : URel v v :=
  ⟨rfl, rfl, rfl, rfl, rfl, rfl, fun _ => rfl, fun _ => rfl, fun _ => rfl, fun _ _ h => h, fun _ h => h⟩

theorem URel.trans {a b c : View} (h1 : URel a b) (h2 : URel b c) : URel a c :=
  ⟨h2.size.trans h1.size, h2.nb.trans h1.nb, h2.ne.trans h1.ne, h2.ch.trans h1.ch,
   h2.bmain.trans h1.bmain, h2.debug.trans h1.debug,
   fun m => (h2.kind m).trans (h1.kind m), fun m => (h2.valid m).trans (h1.valid m),
   fun m => (h2.base m).trans (h1.base m), fun m x h => h1.par m x (h2.par m x h),
   fun m h => h1.inRch m (h2.inRch m h)⟩

theorem URel.hasEdge {v v' : View} (h : URel v v') {p : Nat} (he : HasEdge v' p) : HasEdge v p := by
  obtain ⟨c, i, hm⟩ := he
  exact ⟨c, i, h.par c _ hm⟩

theorem URel.nec {v v' : View} (h : URel v v') (m : Nat) (hn : (v'.rn m).nec = true) : (v.rn m).nec = true := by
  simp only [RNode.nec, Bool.or_eq_true, Bool.not_eq_true', List.isEmpty_eq_false_iff] at hn ⊢
  rcases hn with hn | hn
  · left
    obtain ⟨x, hx⟩ := List.exists_mem_of_ne_nil _ hn
    exact List.ne_nil_of_mem (h.par m x hx)
  · right; rw [← h.base]; exact hn

/-- the state of a view after `removeParent c i p` -/
theorem remPar_step {v : View} {c p i pi : Nat} (hJ : J v)
    (hidx : (v.rn c).parents.idxOf? (p, i) = some pi) :
    J (v.setParents c (swapRemove (v.rn c).parents pi)) ∧
    URel v (v.setParents c (swapRemove (v.rn c).parents pi)) ∧
    (∀ q, Bad (v.setParents c (swapRemove (v.rn c).parents pi)) q → Bad v q ∨ q = c) ∧
    (∀ m x, x ∈ ((v.setParents c (swapRemove (v.rn c).parents pi)).rn m).parents →
      x ∈ (v.rn m).parents ∧ ¬ (m = c ∧ x = (p, i))) := by
  obtain ⟨hmem, hnd⟩ := Step.swapRemove_spec _ _ _ (hJ.e4 c) hidx
  have hpar : ∀ m x, x ∈ ((v.setParents c (swapRemove (v.rn c).parents pi)).rn m).parents →
      x ∈ (v.rn m).parents ∧ ¬ (m = c ∧ x = (p, i)) := by
    intro m x hx
    simp only [View.setParents, View.setRn] at hx
    split at hx
    · rename_i e; subst e
      have := (hmem x).1 hx
      exact ⟨this.1, fun h => this.2 h.2⟩
    · rename_i e; exact ⟨hx, fun h => e h.1⟩
  have hother : ∀ m, m ≠ c → (v.setParents c (swapRemove (v.rn c).parents pi)).rn m = v.rn m := by
    intro m hm; simp [View.setParents, View.setRn, hm]
  have hself : (v.setParents c (swapRemove (v.rn c).parents pi)).rn c =
      { v.rn c with parents := swapRemove (v.rn c).parents pi } := by
    simp [View.setParents, View.setRn]
  have hrel : URel v (v.setParents c (swapRemove (v.rn c).parents pi)) := by
    refine ⟨rfl, rfl, rfl, rfl, rfl, rfl, ?_, ?_, ?_, fun m x h => (hpar m x h).1, ?_⟩ <;> intro m <;>
      by_cases hm : m = c
    all_goals first
      | (subst hm; rw [hself]; try (intro h; exact h))
      | (rw [hother m hm]; try (intro h; exact h))
  refine ⟨⟨hJ.dbg, ?_, ?_, ?_, ?_, fun m hm => hJ.chv m (by rw [← hrel.valid]; exact hm)⟩, hrel, ?_, hpar⟩
  · intro c' p' i' hm
    exact hJ.e1 c' p' i' (hpar c' _ hm).1
  · intro n hn
    rw [hrel.valid]; exact hJ.e3v n (hrel.inRch n hn)
  · intro c'
    by_cases hm : c' = c
    · subst hm; rw [hself]; exact hnd
    · rw [hother c' hm]; exact hJ.e4 c'
  · exact hJ.k.congr hrel.kind rfl rfl rfl
  · rintro q ⟨hn, hb⟩
    by_cases hq : q = c
    · exact Or.inr hq
    · left
      rw [hother q hq] at hn hb
      refine ⟨hn, ?_⟩
      rcases hb with hb | hb
      · exact Or.inl (hrel.hasEdge hb)
      · exact Or.inr hb

/-! ### part N5 -/

/-- result of `checkIfUnnecessary c` / `becameUnnecessary c` -/
def UPost (c : Nat) (v v' : View) : Prop :=
  J v → J v' ∧ URel v v' ∧ ∀ p, Bad v' p → Bad v p ∧ p ≠ c

/-- result of `removeChildren n` -/
def RCPost (n : Nat) (v v' : View) : Prop :=
  J v → J v' ∧ URel v v' ∧ (∀ p, Bad v' p → Bad v p) ∧ ¬ HasEdge v' n

/-- loop invariant of `removeChildren n` -/
def RCInv (n : Nat) (l : List Nat) (v0 : View) (done : List Nat) (idx : Nat) (v : View) : Prop :=
  idx = done.length ∧
  (l = v0.ch n → J v0 → J v ∧ URel v0 v ∧ (∀ p, Bad v p → Bad v0 p) ∧
    ∀ c i, (n, i) ∈ (v.rn c).parents → done.length ≤ i)

abbrev CUT (fuel : Nat) (v : View) (c : Nat) : Prop :=
  ⦃fun s => ⌜viewOf s = v⌝⦄ checkIfUnnecessary fuel c
  ⦃post⟨fun _ s => ⌜UPost c v (viewOf s)⌝, fun _ _ => ⌜True⌝⟩⦄
abbrev BUT (fuel : Nat) (v : View) (n : Nat) : Prop :=
  ⦃fun s => ⌜viewOf s = v⌝⦄ becameUnnecessary fuel n
  ⦃post⟨fun _ s => ⌜(v.rn n).nec = false → UPost n v (viewOf s)⌝, fun _ _ => ⌜True⌝⟩⦄
abbrev RCT (fuel : Nat) (v : View) (n : Nat) : Prop :=
  ⦃fun s => ⌜viewOf s = v⌝⦄ removeChildren fuel n
  ⦃post⟨fun _ s => ⌜RCPost n v (viewOf s)⌝, fun _ _ => ⌜True⌝⟩⦄

theorem rcInv_step {n : Nat} {l done rest : List Nat} {a b pi : Nat} {v v1 v2 v0 : View}
    (hl : l = done ++ a :: rest)
    (hidx : (v.rn a).parents.idxOf? (n, b) = some pi)
    (hv1 : v1 = v.setParents a (swapRemove (v.rn a).parents pi))
    (hcu : UPost a v1 v2) (hinv : RCInv n l v0 done b v) : RCInv n l v0 (done ++ [a]) (b + 1) v2 := by
  obtain ⟨hb, hinv⟩ := hinv
  refine ⟨by simp [hb], fun hl0 hJ0 => ?_⟩
  obtain ⟨hJ, hrel, hbad, hedge⟩ := hinv hl0 hJ0
  obtain ⟨hJ1, hrel1, hbad1, hpar1⟩ := remPar_step hJ hidx
  rw [← hv1] at hJ1 hrel1 hbad1 hpar1
  obtain ⟨hJ2, hrel2, hbad2⟩ := hcu hJ1
  refine ⟨hJ2, (hrel.trans hrel1).trans hrel2, ?_, ?_⟩
  · intro p hp
    obtain ⟨h1, hne⟩ := hbad2 p hp
    rcases hbad1 p h1 with h | h
    · exact hbad p h
    · exact absurd h hne
  · intro c i hm
    have hm1 := hrel2.par c _ hm
    obtain ⟨hm0, hnot⟩ := hpar1 c _ hm1
    have hle := hedge c i hm0
    simp only [List.length_append, List.length_singleton]
    by_cases hi : i = done.length
    · exfalso
      have he1 := hJ.e1 c n i hm0
      rw [hrel.ch, ← hl0, hl, hi] at he1
      simp at he1
      apply hnot
      exact ⟨he1.symm, by rw [hi, hb]⟩
    · omega

theorem rcInv_final {n : Nat} {v v' : View} {r : Nat}
    (h : ∀ v0, RCInv n (v.ch n) v0 [] 0 v → RCInv n (v.ch n) v0 (v.ch n) r v') : RCPost n v v' := by
  intro hJ
  have h0 : RCInv n (v.ch n) v [] 0 v :=
    ⟨rfl, fun _ _ => ⟨hJ, URel.refl v, fun _ h => h, fun _ _ _ => Nat.zero_le _⟩⟩
  obtain ⟨-, h1⟩ := h v h0
  obtain ⟨hJ', hrel, hbad, hedge⟩ := h1 rfl hJ
  refine ⟨hJ', hrel, hbad, ?_⟩
  rintro ⟨c, i, hm⟩
  have := hedge c i hm
  have he1 := hJ'.e1 c n i hm
  rw [hrel.ch] at he1
  have : i < (v.ch n).length := by
    rcases Nat.lt_or_ge i (v.ch n).length with h | h
    · exact h
    · rw [List.getElem?_eq_none h] at he1; cases he1
  omega

theorem rc_step (fuel : Nat) (ih : ∀ v c, CUT fuel v c) (v : View) (n : Nat) : RCT (fuel + 1) v n := by
  have hl := fun l init f => forIn_view l init f (RCInv n)
  nv_mvcgen [removeChildren, ih, -Spec.forIn_list, hl]
  · refine ⟨⟨_, rfl⟩, ?_⟩
    intro v0 b' hb' hinv
    cases hb'
    rename_i hl s2 hv r1 s1 hrp r idx s hcu
    obtain ⟨pi, hidx, -, hv1⟩ := hrp
    rw [hv] at hidx hv1
    exact rcInv_step hl hidx hv1 hcu hinv
  · rename_i s1 hv1 _ r s h
    rw [← hv1]
    apply rcInv_final (r := r)
    rw [viewOf_ch]
    exact h


theorem clearRch_step {v : View} (n : Nat) (hJ : J v) :
    J (v.setInRch n false) ∧ URel v (v.setInRch n false) ∧
    (∀ p, Bad (v.setInRch n false) p → Bad v p ∧ (p = n → HasEdge v n)) := by
  have hother : ∀ m, m ≠ n → (v.setInRch n false).rn m = v.rn m := by
    intro m hm; simp [View.setInRch, View.setRn, hm]
  have hself : (v.setInRch n false).rn n = { v.rn n with inRch := false } := by
    simp [View.setInRch, View.setRn]
  have hrel : URel v (v.setInRch n false) := by
    refine ⟨rfl, rfl, rfl, rfl, rfl, rfl, ?_, ?_, ?_, ?_, ?_⟩ <;> intro m <;> by_cases hm : m = n
    · subst hm; rw [hself]
    · rw [hother m hm]
    · subst hm; rw [hself]
    · rw [hother m hm]
    · subst hm; rw [hself]
    · rw [hother m hm]
    · subst hm; rw [hself]; exact fun x h => h
    · rw [hother m hm]; exact fun x h => h
    · subst hm; rw [hself]; intro h; cases h
    · rw [hother m hm]; exact fun h => h
  have hpar : ∀ m, ((v.setInRch n false).rn m).parents = (v.rn m).parents := by
    intro m
    by_cases hm : m = n
    · subst hm; rw [hself]
    · rw [hother m hm]
  refine ⟨⟨hJ.dbg, ?_, ?_, ?_, hJ.k.congr hrel.kind rfl rfl rfl,
    fun m hm => hJ.chv m (by rw [← hrel.valid]; exact hm)⟩, hrel, ?_⟩
  · intro c p i hm; rw [hpar] at hm; exact hJ.e1 c p i hm
  · intro m hm; rw [hrel.valid]; exact hJ.e3v m (hrel.inRch m hm)
  · intro c; rw [hpar]; exact hJ.e4 c
  · rintro p ⟨hn, hb⟩
    have hnec : (v.rn p).nec = false := by
      cases h : (v.rn p).nec with
      | false => rfl
      | true =>
        have : ((v.setInRch n false).rn p).nec = true := by
          simp only [RNode.nec, hpar, hrel.base]; exact h
        rw [this] at hn; cases hn
    have hedge : ∀ q, HasEdge (v.setInRch n false) q → HasEdge v q := fun q h => hrel.hasEdge h
    rcases hb with hb | hb
    · exact ⟨⟨hnec, Or.inl (hedge p hb)⟩, fun _ => by subst_vars; exact hedge _ hb⟩
    · by_cases hp : p = n
      · subst hp; rw [hself] at hb; cases hb
      · rw [hother p hp] at hb
        exact ⟨⟨hnec, Or.inr hb⟩, fun h => absurd h hp⟩

theorem bu_final {n : Nat} {v v1 : View} (hn : (v.rn n).nec = false) (h1 : RCPost n v v1) :
    UPost n v (v1.setInRch n false) := by
  intro hJ
  obtain ⟨hJ1, hrel1, hbad1, hne⟩ := h1 hJ
  obtain ⟨hJ2, hrel2, hbad2⟩ := clearRch_step n hJ1
  refine ⟨hJ2, hrel1.trans hrel2, ?_⟩
  intro p hp
  obtain ⟨hb, hpn⟩ := hbad2 p hp
  exact ⟨hbad1 p hb, fun e => hne (hpn e)⟩

theorem bu_step (fuel : Nat) (ih : ∀ v n, RCT fuel v n) (v : View) (n : Nat) : BUT (fuel + 1) v n := by
  nv_mvcgen [becameUnnecessary, ih]
  all_goals vsimp
  all_goals first
    | (intro _ hn; exact bu_final hn ‹RCPost n v _›)
    | (intro hn
       have h1 := bu_final hn ‹RCPost n v _›
       rw [View.setInRch_self _ _ _ (by simpa using ‹¬ _ = true›)] at h1
       exact h1)


theorem cu_step (fuel : Nat) (ih : ∀ v n, BUT fuel v n) (v : View) (c : Nat) : CUT (fuel + 1) v c := by
  nv_mvcgen [checkIfUnnecessary, ih]
  all_goals vsimp
  · intro h
    exact h (by simpa using ‹(!(v.rn c).nec) = true›)
  · intro hJ
    refine ⟨hJ, URel.refl v, ?_⟩
    rintro p hb
    refine ⟨hb, ?_⟩
    rintro rfl
    have := hb.1
    simp_all

theorem unlink_specs (fuel : Nat) :
    (∀ v n, BUT fuel v n) ∧ (∀ v c, CUT fuel v c) ∧ (∀ v n, RCT fuel v n) := by
  induction fuel with
  | zero =>
    refine ⟨?_, ?_, ?_⟩ <;> intro v n
    · nv_mvcgen [becameUnnecessary]
    · nv_mvcgen [checkIfUnnecessary]
    · nv_mvcgen [removeChildren]
  | succ fuel ih =>
    obtain ⟨ih1, ih2, ih3⟩ := ih
    exact ⟨bu_step fuel ih3, cu_step fuel ih1, rc_step fuel ih2⟩

@[spec 100000] theorem becameUnnecessary_v (v : View) (fuel n : Nat) : BUT fuel v n := (unlink_specs fuel).1 v n
@[spec 100000] theorem checkIfUnnecessary_v (v : View) (fuel c : Nat) : CUT fuel v c := (unlink_specs fuel).2.1 v c
@[spec 100000] theorem removeChildren_v (v : View) (fuel n : Nat) : RCT fuel v n := (unlink_specs fuel).2.2 v n

/-! ## the linking cascade -/

/-- what the linking cascade may change: parent lists grow, queue markers are set -/
structure LRel (v v' : View) : Prop where
  size : v'.size = v.size
  nb : v'.nb = v.nb
  ne : v'.ne = v.ne
  ch : v'.ch = v.ch
  bmain : v'.bmain = v.bmain
  debug : v'.debug = v.debug
  kind : ∀ m, (v'.rn m).kind = (v.rn m).kind
  valid : ∀ m, (v'.rn m).valid = (v.rn m).valid
  base : ∀ m, (v'.rn m).base = (v.rn m).base
  par : ∀ m x, x ∈ (v.rn m).parents → x ∈ (v'.rn m).parents
  inRch : ∀ m, (v.rn m).inRch = true → (v'.rn m).inRch = true

theorem LRel.refl (v : View) : LRel v v :=
  ⟨rfl, rfl, rfl, rfl, rfl, rfl, fun _ => rfl, fun _ => rfl, fun _ => rfl, fun _ _ h => h, fun _ h => h⟩

theorem LRel.trans {a b c : View} (h1 : LRel a b) (h2 : LRel b c) : LRel a c :=
  ⟨h2.size.trans h1.size, h2.nb.trans h1.nb, h2.ne.trans h1.ne, h2.ch.trans h1.ch,
   h2.bmain.trans h1.bmain, h2.debug.trans h1.debug,
   fun m => (h2.kind m).trans (h1.kind m), fun m => (h2.valid m).trans (h1.valid m),
   fun m => (h2.base m).trans (h1.base m), fun m x h => h2.par m x (h1.par m x h),
   fun m h => h2.inRch m (h1.inRch m h)⟩

theorem LRel.nec {v v' : View} (h : LRel v v') (m : Nat) (hn : (v.rn m).nec = true) : (v'.rn m).nec = true := by
  simp only [RNode.nec, Bool.or_eq_true, Bool.not_eq_true', List.isEmpty_eq_false_iff] at hn ⊢
  rcases hn with hn | hn
  · left
    obtain ⟨x, hx⟩ := List.exists_mem_of_ne_nil _ hn
    exact List.ne_nil_of_mem (h.par m x hx)
  · right; rw [h.base]; exact hn

theorem nec_of_mem {r : RNode} {x : Nat × Nat} (h : x ∈ r.parents) : r.nec = true := by
  simp only [RNode.nec, Bool.or_eq_true, Bool.not_eq_true', List.isEmpty_eq_false_iff]
  exact Or.inl (List.ne_nil_of_mem h)

/-- the view after `addParent c idx p` -/
theorem addPar_step {v : View} {c p idx : Nat} (h : NecV v) (hp : (v.rn p).nec = true)
    (hch : (v.ch p)[idx]? = some c) (hnew : (p, idx) ∉ (v.rn c).parents) :
    NecV (v.setParents c ((v.rn c).parents ++ [(p, idx)])) ∧
    LRel v (v.setParents c ((v.rn c).parents ++ [(p, idx)])) ∧
    (∀ m x, x ∈ ((v.setParents c ((v.rn c).parents ++ [(p, idx)])).rn m).parents →
      x ∈ (v.rn m).parents ∨ (m = c ∧ x = (p, idx))) ∧
    ((v.setParents c ((v.rn c).parents ++ [(p, idx)])).rn c).nec = true := by
  have hother : ∀ m, m ≠ c → (v.setParents c ((v.rn c).parents ++ [(p, idx)])).rn m = v.rn m := by
    intro m hm; simp [View.setParents, View.setRn, hm]
  have hself : (v.setParents c ((v.rn c).parents ++ [(p, idx)])).rn c =
      { v.rn c with parents := (v.rn c).parents ++ [(p, idx)] } := by
    simp [View.setParents, View.setRn]
  have hpar : ∀ m x, x ∈ ((v.setParents c ((v.rn c).parents ++ [(p, idx)])).rn m).parents →
      x ∈ (v.rn m).parents ∨ (m = c ∧ x = (p, idx)) := by
    intro m x hx
    by_cases hm : m = c
    · subst hm
      rw [hself] at hx
      simp only [List.mem_append, List.mem_singleton] at hx
      rcases hx with hx | hx
      · exact Or.inl hx
      · exact Or.inr ⟨rfl, hx⟩
    · rw [hother m hm] at hx; exact Or.inl hx
  have hrel : LRel v (v.setParents c ((v.rn c).parents ++ [(p, idx)])) := by
    refine ⟨rfl, rfl, rfl, rfl, rfl, rfl, ?_, ?_, ?_, ?_, ?_⟩ <;> intro m <;> by_cases hm : m = c
    · subst hm; rw [hself]
    · rw [hother m hm]
    · subst hm; rw [hself]
    · rw [hother m hm]
    · subst hm; rw [hself]
    · rw [hother m hm]
    · subst hm; rw [hself]; intro x hx; exact List.mem_append_left _ hx
    · rw [hother m hm]; exact fun x h => h
    · subst hm; rw [hself]; exact fun h => h
    · rw [hother m hm]; exact fun h => h
  have hnecc : ((v.setParents c ((v.rn c).parents ++ [(p, idx)])).rn c).nec = true := by
    rw [hself]; exact nec_of_mem (x := (p, idx)) (by simp)
  refine ⟨?_, hrel, hpar, hnecc⟩
  apply NecV.of
  · refine ⟨h.dbg, ?_, ?_, ?_, h.k.congr hrel.kind rfl rfl rfl,
      fun m hm => h.chv m (by rw [← hrel.valid]; exact hm)⟩
    · intro c' p' i' hm
      rcases hpar c' _ hm with h1 | ⟨h1, h2⟩
      · exact h.e1 c' p' i' h1
      · cases h2; subst h1; exact hch
    · intro m hm
      rw [hrel.valid]
      apply h.e3v
      by_cases hmc : m = c
      · subst hmc; rw [hself] at hm; exact hm
      · rw [hother m hmc] at hm; exact hm
    · intro m
      by_cases hmc : m = c
      · subst hmc; rw [hself]
        simp only [List.nodup_append, List.nodup_cons, List.not_mem_nil, not_false_eq_true,
          List.nodup_nil, and_self, List.mem_singleton, true_and]
        refine ⟨h.e4 m, ?_⟩
        intro a ha b hb
        subst hb
        intro e; subst e; exact hnew ha
      · rw [hother m hmc]; exact h.e4 m
  · intro c' p' i' hm
    apply hrel.nec
    rcases hpar c' _ hm with h1 | ⟨h1, h2⟩
    · exact h.e2 c' p' i' h1
    · cases h2; exact hp
  · intro m hm
    apply hrel.nec
    apply (h.e3 m _).1
    by_cases hmc : m = c
    · subst hmc; rw [hself] at hm; exact hm
    · rw [hother m hmc] at hm; exact hm

/-- the view after `rchInsert n` of a necessary valid node -/
theorem setRch_step {v : View} (n : Nat) (h : NecV v) (hn : (v.rn n).nec = true)
    (hv : (v.rn n).valid = true) :
    NecV (v.setInRch n true) ∧ LRel v (v.setInRch n true) ∧
    (∀ m, ((v.setInRch n true).rn m).parents = (v.rn m).parents) := by
  have hother : ∀ m, m ≠ n → (v.setInRch n true).rn m = v.rn m := by
    intro m hm; simp [View.setInRch, View.setRn, hm]
  have hself : (v.setInRch n true).rn n = { v.rn n with inRch := true } := by
    simp [View.setInRch, View.setRn]
  have hpar : ∀ m, ((v.setInRch n true).rn m).parents = (v.rn m).parents := by
    intro m
    by_cases hm : m = n
    · subst hm; rw [hself]
    · rw [hother m hm]
  have hrel : LRel v (v.setInRch n true) := by
    refine ⟨rfl, rfl, rfl, rfl, rfl, rfl, ?_, ?_, ?_, ?_, ?_⟩ <;> intro m <;> by_cases hm : m = n
    · subst hm; rw [hself]
    · rw [hother m hm]
    · subst hm; rw [hself]
    · rw [hother m hm]
    · subst hm; rw [hself]
    · rw [hother m hm]
    · subst hm; rw [hself]; exact fun x h => h
    · rw [hother m hm]; exact fun x h => h
    · subst hm; rw [hself]; exact fun _ => rfl
    · rw [hother m hm]; exact fun h => h
  refine ⟨?_, hrel, hpar⟩
  apply NecV.of
  · refine ⟨h.dbg, ?_, ?_, ?_, h.k.congr hrel.kind rfl rfl rfl,
      fun m hm => h.chv m (by rw [← hrel.valid]; exact hm)⟩
    · intro c p i hm; rw [hpar] at hm; exact h.e1 c p i hm
    · intro m hm
      rw [hrel.valid]
      by_cases hmn : m = n
      · subst hmn; exact hv
      · rw [hother m hmn] at hm; exact h.e3v m hm
    · intro c; rw [hpar]; exact h.e4 c
  · intro c p i hm
    rw [hpar] at hm
    exact hrel.nec p (h.e2 c p i hm)
  · intro m hm
    apply hrel.nec
    by_cases hmn : m = n
    · subst hmn; exact hn
    · rw [hother m hmn] at hm; exact (h.e3 m hm).1

/-! ### part N7 -/

def APost (c idx p : Nat) (v v' : View) : Prop :=
  NecV v → (v.ch p)[idx]? = some c → (p, idx) ∉ (v.rn c).parents →
    NecV v' ∧ LRel v v' ∧
    (∀ m c' i, (v.rn m).nec = true → (m, i) ∈ (v'.rn c').parents →
      (m, i) ∈ (v.rn c').parents ∨ (m = p ∧ i = idx ∧ c' = c))

def BNPost (n : Nat) (v v' : View) : Prop :=
  NecV v → (v.rn n).nec = true → ¬ HasEdge v n →
    NecV v' ∧ LRel v v' ∧
    (∀ m c i, (v.rn m).nec = true → m ≠ n → (m, i) ∈ (v'.rn c).parents → (m, i) ∈ (v.rn c).parents)

abbrev APT (env : Env) (fuel : Nat) (v : View) (c idx p : Nat) : Prop :=
  ⦃fun s => ⌜viewOf s = v⌝⦄ addParentWithoutAdjustingHeights env fuel c idx p
  ⦃post⟨fun _ s => ⌜APost c idx p v (viewOf s)⌝, fun _ _ => ⌜True⌝⟩⦄
abbrev BNT (env : Env) (fuel : Nat) (v : View) (n : Nat) : Prop :=
  ⦃fun s => ⌜viewOf s = v⌝⦄ becameNecessary env fuel n
  ⦃post⟨fun _ s => ⌜BNPost n v (viewOf s)⌝, fun _ _ => ⌜True⌝⟩⦄

theorem ap_size {v v1 : View} {c : Nat} {l : List (Nat × Nat)}
    (hv1 : c < v.size → v1 = v.setParents c l) (hv1' : v.size ≤ c → v1 = v) (hc : c < v1.size) :
    c < v.size ∧ v1 = v.setParents c l := by
  rcases Nat.lt_or_ge c v.size with h | h
  · exact ⟨h, hv1 h⟩
  · rw [hv1' h] at hc; omega

theorem ap_final_norec {v v1 : View} {c idx p : Nat}
    (hdbg : v.debug = true → (v.rn p).nec = true)
    (hv1 : c < v.size → v1 = v.setParents c ((v.rn c).parents ++ [(p, idx)])) (hv1' : v.size ≤ c → v1 = v)
    (hc : c < v1.size) : APost c idx p v v1 := by
  intro hN hch hnew
  obtain ⟨-, e⟩ := ap_size hv1 hv1' hc
  obtain ⟨h1, h2, h3, -⟩ := addPar_step hN (hdbg hN.dbg) hch hnew
  rw [← e] at h1 h2 h3
  refine ⟨h1, h2, ?_⟩
  intro m c' i _ hm
  rcases h3 c' _ hm with h | ⟨h, h'⟩
  · exact Or.inl h
  · cases h'; exact Or.inr ⟨rfl, rfl, h⟩

theorem ap_final_rec {v v1 v2 : View} {c idx p : Nat}
    (hdbg : v.debug = true → (v.rn p).nec = true)
    (hv1 : c < v.size → v1 = v.setParents c ((v.rn c).parents ++ [(p, idx)])) (hv1' : v.size ≤ c → v1 = v)
    (hc : c < v1.size) (hnn : (!(v.rn c).nec) = true) (hbn : BNPost c v1 v2) : APost c idx p v v2 := by
  intro hN hch hnew
  obtain ⟨-, e⟩ := ap_size hv1 hv1' hc
  have hp := hdbg hN.dbg
  have hcn : (v.rn c).nec = false := by simpa using hnn
  obtain ⟨h1, h2, h3, h4⟩ := addPar_step hN hp hch hnew
  rw [← e] at h1 h2 h3 h4
  have hpc : p ≠ c := by rintro rfl; rw [hp] at hcn; cases hcn
  have hne : ¬ HasEdge v1 c := by
    rintro ⟨c', i, hm⟩
    rcases h3 c' _ hm with h | ⟨-, h⟩
    · have := hN.e2 c' c i h; rw [this] at hcn; cases hcn
    · cases h; exact hpc rfl
  obtain ⟨g1, g2, g3⟩ := hbn h1 h4 hne
  refine ⟨g1, h2.trans g2, ?_⟩
  intro m c' i hm hmem
  have hmc : m ≠ c := by rintro rfl; rw [hm] at hcn; cases hcn
  have := g3 m c' i (h2.nec m hm) hmc hmem
  rcases h3 c' _ this with h | ⟨h, h'⟩
  · exact Or.inl h
  · cases h'; exact Or.inr ⟨rfl, rfl, h⟩

theorem ap_step (env : Env) (fuel : Nat) (ih : ∀ v n, BNT env fuel v n) (v : View) (c idx p : Nat) :
    APT env (fuel + 1) v c idx p := by
  nv_mvcgen [addParentWithoutAdjustingHeights, ih]
  all_goals vsimp
  all_goals first
    | exact ap_final_rec (by assumption) (by assumption) (by assumption) (by assumption) (by assumption) (by assumption)
    | (intro _; exact ap_final_rec (by assumption) (by assumption) (by assumption) (by assumption) (by assumption) (by assumption))
    | exact ap_final_norec (by assumption) (by assumption) (by assumption) (by assumption)
    | (intro _; exact ap_final_norec (by assumption) (by assumption) (by assumption) (by assumption))


/-- loop invariant of `becameNecessary n` -/
def BNInv (n : Nat) (l : List Nat) (v0 : View) (done : List Nat) (b : Int × Nat) (v : View) : Prop :=
  b.2 = done.length ∧
  (l = v0.ch n → NecV v0 → (v0.rn n).nec = true → ¬ HasEdge v0 n →
    NecV v ∧ LRel v0 v ∧
    (∀ m c i, (v0.rn m).nec = true → m ≠ n → (m, i) ∈ (v.rn c).parents → (m, i) ∈ (v0.rn c).parents) ∧
    ∀ c i, (n, i) ∈ (v.rn c).parents → i < done.length)

theorem bnInv_step {n : Nat} {l done rest : List Nat} {a : Nat} {b b' : Int × Nat} {v0 v1 v2 : View}
    (hl : l = done ++ a :: rest) (hap : APost a b.2 n v1 v2) (hb' : b'.2 = b.2 + 1)
    (hinv : BNInv n l v0 done b v1) : BNInv n l v0 (done ++ [a]) b' v2 := by
  obtain ⟨hb, hinv⟩ := hinv
  refine ⟨by simp [hb', hb], fun hl0 hN0 hn0 hne0 => ?_⟩
  obtain ⟨hN, hrel, hfr, hedge⟩ := hinv hl0 hN0 hn0 hne0
  have hch : (v1.ch n)[b.2]? = some a := by
    rw [hrel.ch, ← hl0, hl, hb]; simp
  have hnew : (n, b.2) ∉ (v1.rn a).parents := by
    intro hm
    have := hedge a b.2 hm
    omega
  obtain ⟨hN2, hrel2, hfr2⟩ := hap hN hch hnew
  refine ⟨hN2, hrel.trans hrel2, ?_, ?_⟩
  · intro m c i hm hmn hmem
    rcases hfr2 m c i (hrel.nec m hm) hmem with h | ⟨h, -, -⟩
    · exact hfr m c i hm hmn h
    · exact absurd h hmn
  · intro c i hmem
    simp only [List.length_append, List.length_singleton]
    rcases hfr2 n c i (hrel.nec n hn0) hmem with h | ⟨-, h, -⟩
    · have := hedge c i h; omega
    · omega

theorem bn_final_noins {n : Nat} {v v1 : View} {b0 r : Int × Nat} (hb0 : b0.2 = 0)
    (h : ∀ v0, BNInv n (v.ch n) v0 [] b0 v → BNInv n (v.ch n) v0 (v.ch n) r v1) : BNPost n v v1 := by
  intro hN hn hne
  have h0 : BNInv n (v.ch n) v [] b0 v := by
    refine ⟨by simp [hb0], fun _ _ _ _ => ⟨hN, LRel.refl v, fun _ _ _ _ _ h => h, ?_⟩⟩
    intro c i hm
    exact absurd ⟨c, i, hm⟩ hne
  obtain ⟨-, h1⟩ := h v h0
  obtain ⟨hN1, hrel, hfr, -⟩ := h1 rfl hN hn hne
  exact ⟨hN1, hrel, hfr⟩

theorem bn_final_ins {n : Nat} {v v1 : View} {b0 r : Int × Nat} (hb0 : b0.2 = 0)
    (h : ∀ v0, BNInv n (v.ch n) v0 [] b0 v → BNInv n (v.ch n) v0 (v.ch n) r v1)
    (hd1 : v1.debug = true → (v1.rn n).nec = true) (hd2 : v1.debug = true → (v1.rn n).valid = true) :
    BNPost n v (v1.setInRch n true) := by
  intro hN hn hne
  obtain ⟨hN1, hrel, hfr⟩ := bn_final_noins hb0 h hN hn hne
  have hnn := hd1 hN1.dbg
  have hvv := hd2 hN1.dbg
  obtain ⟨g1, g2, g3⟩ := setRch_step n hN1 hnn hvv
  refine ⟨g1, hrel.trans g2, ?_⟩
  intro m c i hm hmn hmem
  rw [g3] at hmem
  exact hfr m c i hm hmn hmem

theorem bn_step (env : Env) (fuel : Nat) (ih : ∀ v c idx p, APT env fuel v c idx p) (v : View) (n : Nat) :
    BNT env (fuel + 1) v n := by
  have hl := fun l init f => forIn_view l init f (BNInv n)
  nv_mvcgen [becameNecessary, ih, -Spec.forIn_list, hl]
  all_goals vsimp
  all_goals first
    | (refine ⟨⟨_, rfl⟩, ?_⟩
       intro v0 b' hb' hinv
       cases hb'
       exact bnInv_step rfl (by assumption) rfl hinv)
    | exact bn_final_ins (b0 := (_, 0)) rfl (by assumption) (by assumption) (by assumption)
    | (intro _; exact bn_final_ins (b0 := (_, 0)) rfl (by assumption) (by assumption) (by assumption))
    | exact bn_final_noins (b0 := (_, 0)) rfl (by assumption)
    | (intro _; exact bn_final_noins (b0 := (_, 0)) rfl (by assumption))


theorem link_specs (env : Env) (fuel : Nat) :
    (∀ v n, BNT env fuel v n) ∧ (∀ v c idx p, APT env fuel v c idx p) := by
  induction fuel with
  | zero =>
    refine ⟨?_, ?_⟩ <;> intros
    · nv_mvcgen [becameNecessary]
    · nv_mvcgen [addParentWithoutAdjustingHeights]
  | succ fuel ih =>
    obtain ⟨ih1, ih2⟩ := ih
    exact ⟨bn_step env fuel ih2, ap_step env fuel ih1⟩

@[spec 100000] theorem becameNecessary_v (v : View) (env : Env) (fuel n : Nat) : BNT env fuel v n :=
  (link_specs env fuel).1 v n
@[spec 100000] theorem addParentWithoutAdjustingHeights_v (v : View) (env : Env) (fuel c idx p : Nat) :
    APT env fuel v c idx p := (link_specs env fuel).2 v c idx p

/-! ## invalidation -/

/-- the view after `valid := false` on an existing node `n` -/
def View.inval' (v : View) (n : Nat) : View :=
  { v with rn := fun m => if m = n then { v.rn n with valid := false } else v.rn m
           ch := fun m => if m = n then [] else v.ch m }

/-- the view after `modNode n (valid := false)` -/
def View.inval (v : View) (n : Nat) : View := if n < v.size then v.inval' n else v

theorem viewOf_inval' (s : State) (n : Nat) (hn : n < s.nodes.size) :
    viewOf { s with nodes := s.nodes.modify n fun x => { x with valid := false } } = (viewOf s).inval' n := by
  simp only [viewOf, mkView, View.inval', Array.size_modify, View.mk.injEq, true_and, and_true]
  constructor
  · funext m
    rw [nodeAt_modify]
    by_cases h : n = m
    · subst h; simp [hn]; rfl
    · have : ¬ m = n := fun e => h e.symm
      simp [h, this]
  · funext m
    rw [nodeAt_modify]
    by_cases h : n = m
    · subst h; simp [hn, Node.kind?, chK]
    · have : ¬ m = n := fun e => h e.symm
      simp [h, this]

theorem mkView_inval (s : State) (n : Nat) (v : View) (h : viewOf s = v) :
    mkView (s.nodes.modify n fun x => { x with valid := false }) s.binds s.experts s.cfg.debug = v.inval n := by
  subst h
  unfold View.inval
  split
  · rename_i hn; exact viewOf_inval' s n hn
  · rename_i hn
    have : s.nodes.size ≤ n := Nat.le_of_not_lt hn
    simp only [viewOf, modify_of_le _ _ _ this]

theorem viewOf_chv (s : State) (m : Nat) (h : ((viewOf s).rn m).valid = false) : (viewOf s).ch m = [] := by
  have h' : (nodeAt s.nodes m).valid = false := h
  simp [viewOf, mkView, Node.kind?, h', chK]

/-- what invalidation may change -/
structure IRel (v v' : View) : Prop where
  size : v'.size = v.size
  nb : v'.nb = v.nb
  ne : v'.ne = v.ne
  bmain : v'.bmain = v.bmain
  debug : v'.debug = v.debug
  kind : ∀ m, (v'.rn m).kind = (v.rn m).kind
  base : ∀ m, (v'.rn m).base = (v.rn m).base
  valid : ∀ m, (v'.rn m).valid = true → (v.rn m).valid = true
  ch : ∀ m, (v'.rn m).valid = true → v'.ch m = v.ch m
  par : ∀ m x, x ∈ (v'.rn m).parents → x ∈ (v.rn m).parents
  inRch : ∀ m, (v'.rn m).inRch = true → (v.rn m).inRch = true

theorem IRel.refl (v : View) : IRel v v :=
  ⟨rfl, rfl, rfl, rfl, rfl, fun _ => rfl, fun _ => rfl, fun _ h => h, fun _ _ => rfl, fun _ _ h => h,
    fun _ h => h⟩

theorem IRel.trans {a b c : View} (h1 : IRel a b) (h2 : IRel b c) : IRel a c :=
  ⟨h2.size.trans h1.size, h2.nb.trans h1.nb, h2.ne.trans h1.ne, h2.bmain.trans h1.bmain,
   h2.debug.trans h1.debug, fun m => (h2.kind m).trans (h1.kind m), fun m => (h2.base m).trans (h1.base m),
   fun m h => h1.valid m (h2.valid m h), fun m h => (h2.ch m h).trans (h1.ch m (h2.valid m h)),
   fun m x h => h1.par m x (h2.par m x h), fun m h => h1.inRch m (h2.inRch m h)⟩

theorem URel.toIRel {v v' : View} (h : URel v v') : IRel v v' :=
  ⟨h.size, h.nb, h.ne, h.bmain, h.debug, h.kind, h.base, fun m hm => by rw [← h.valid]; exact hm,
    fun m _ => by rw [h.ch], h.par, h.inRch⟩

theorem IRel.hasEdge {v v' : View} (h : IRel v v') {p : Nat} (he : HasEdge v' p) : HasEdge v p := by
  obtain ⟨c, i, hm⟩ := he
  exact ⟨c, i, h.par c _ hm⟩

def IPost (v v' : View) : Prop := NecV v → NecV v' ∧ IRel v v'

/-- the view after `valid := false` and unqueueing of a node no child records -/
theorem inval_step' {v : View} (n : Nat) (h : NecV v) (hne : ¬ HasEdge v n) :
    NecV ((v.inval' n).setInRch n false) ∧ IRel v ((v.inval' n).setInRch n false) := by
  have hother : ∀ m, m ≠ n → ((v.inval' n).setInRch n false).rn m = v.rn m := by
    intro m hm; simp [View.setInRch, View.setRn, View.inval', hm]
  have hself : ((v.inval' n).setInRch n false).rn n = { v.rn n with valid := false, inRch := false } := by
    simp [View.setInRch, View.setRn, View.inval']
  have hcho : ∀ m, m ≠ n → ((v.inval' n).setInRch n false).ch m = v.ch m := by
    intro m hm; simp [View.setInRch, View.setRn, View.inval', hm]
  have hchs : ((v.inval' n).setInRch n false).ch n = [] := by
    simp [View.setInRch, View.setRn, View.inval']
  have hpar : ∀ m, (((v.inval' n).setInRch n false).rn m).parents = (v.rn m).parents := by
    intro m
    by_cases hm : m = n
    · subst hm; rw [hself]
    · rw [hother m hm]
  have hnec : ∀ m, (((v.inval' n).setInRch n false).rn m).nec = (v.rn m).nec := by
    intro m
    by_cases hm : m = n
    · subst hm; rw [hself]; rfl
    · rw [hother m hm]
  have hrel : IRel v ((v.inval' n).setInRch n false) := by
    refine ⟨rfl, rfl, rfl, rfl, rfl, ?_, ?_, ?_, ?_, ?_, ?_⟩ <;> intro m <;> by_cases hm : m = n
    · subst hm; rw [hself]
    · rw [hother m hm]
    · subst hm; rw [hself]
    · rw [hother m hm]
    · subst hm; rw [hself]; intro h; cases h
    · rw [hother m hm]; exact fun h => h
    · subst hm; rw [hself]; intro h; cases h
    · rw [hother m hm]; intro _; exact hcho m hm
    · subst hm; rw [hself]; exact fun x h => h
    · rw [hother m hm]; exact fun x h => h
    · subst hm; rw [hself]; intro h; cases h
    · rw [hother m hm]; exact fun h => h
  refine ⟨?_, hrel⟩
  apply NecV.of
  · refine ⟨h.dbg, ?_, ?_, ?_, h.k.congr hrel.kind rfl rfl rfl, ?_⟩
    · intro c p i hm
      rw [hpar] at hm
      have hpn : p ≠ n := by rintro rfl; exact hne ⟨c, i, hm⟩
      rw [hcho p hpn]; exact h.e1 c p i hm
    · intro m hm
      by_cases hmn : m = n
      · subst hmn; rw [hself] at hm; cases hm
      · rw [hother m hmn] at hm ⊢; exact h.e3v m hm
    · intro c; rw [hpar]; exact h.e4 c
    · intro m hm
      by_cases hmn : m = n
      · subst hmn; exact hchs
      · rw [hother m hmn] at hm; rw [hcho m hmn]; exact h.chv m hm
  · intro c p i hm
    rw [hpar] at hm; rw [hnec]; exact h.e2 c p i hm
  · intro m hm
    rw [hnec]
    exact (h.e3 m (hrel.inRch m hm)).1


theorem inval_step {v : View} (n : Nat) (h : NecV v) (hne : ¬ HasEdge v n) :
    NecV ((v.inval n).setInRch n false) ∧ IRel v ((v.inval n).setInRch n false) := by
  unfold View.inval
  split
  · exact inval_step' n h hne
  · obtain ⟨hJ, hrel, hbad⟩ := clearRch_step n h.toJ
    exact ⟨⟨hJ, fun p hp => h.nobad p (hbad p hp).1⟩, hrel.toIRel⟩

abbrev IT (fuel : Nat) (v : View) (n : Nat) : Prop :=
  ⦃fun s => ⌜viewOf s = v⌝⦄ invalidateNode fuel n
  ⦃post⟨fun _ s => ⌜IPost v (viewOf s)⌝, fun _ _ => ⌜True⌝⟩⦄

/-- loop invariant of the nested invalidations -/
def ILInv (_l : List Nat) (v0 : View) (_done : List Nat) (_b : PUnit.{1}) (v : View) : Prop :=
  NecV v0 → NecV v ∧ IRel v0 v

theorem inval_pre_rc {n : Nat} {v v1 : View} (h : RCPost n v v1) :
    NecV v → NecV v1 ∧ IRel v v1 ∧ ¬ HasEdge v1 n := by
  intro hN
  obtain ⟨hJ, hrel, hbad, hne⟩ := h hN.toJ
  exact ⟨⟨hJ, fun p hp => hN.nobad p (hbad p hp)⟩, hrel.toIRel, hne⟩

theorem inval_pre_norc {n : Nat} {v : View} (h : ¬ (v.rn n).nec = true) :
    NecV v → NecV v ∧ IRel v v ∧ ¬ HasEdge v n := by
  intro hN
  refine ⟨hN, IRel.refl v, ?_⟩
  rintro ⟨c, i, hm⟩
  exact h (hN.e2 c n i hm)

theorem inval_fin {n : Nat} {v v1 v2 : View}
    (hA : RCPost n v v1 ∨ (¬ (v.rn n).nec = true ∧ v1 = v))
    (hB : (∃ (l : List Nat) (b : PUnit.{1}), ∀ v0, ILInv l v0 [] PUnit.unit v1 → ILInv l v0 l b v2) ∨ v2 = v1) :
    IPost v ((v2.inval n).setInRch n false) := by
  intro hN
  have h1 : NecV v1 ∧ IRel v v1 ∧ ¬ HasEdge v1 n := by
    rcases hA with hA | ⟨hA, rfl⟩
    · exact inval_pre_rc hA hN
    · exact inval_pre_norc hA hN
  obtain ⟨h1, r1, hne⟩ := h1
  have h2 : NecV v2 ∧ IRel v1 v2 := by
    rcases hB with ⟨l, b, hB⟩ | rfl
    · exact hB v1 (fun h => ⟨h, IRel.refl v1⟩) h1
    · exact ⟨h1, IRel.refl _⟩
  obtain ⟨h2, r2⟩ := h2
  obtain ⟨h3, r3⟩ := inval_step n h2 (fun he => hne (r2.hasEdge he))
  exact ⟨h3, (r1.trans r2).trans r3⟩

theorem inval_final {n : Nat} {v v1 v2 : View}
    (hA : NecV v → NecV v1 ∧ IRel v v1 ∧ ¬ HasEdge v1 n)
    (hB : NecV v1 → NecV v2 ∧ IRel v1 v2) : IPost v ((v2.inval n).setInRch n false) := by
  intro hN
  obtain ⟨h1, r1, hne⟩ := hA hN
  obtain ⟨h2, r2⟩ := hB h1
  obtain ⟨h3, r3⟩ := inval_step n h2 (fun he => hne (r2.hasEdge he))
  exact ⟨h3, (r1.trans r2).trans r3⟩

@[spec 200000] theorem modNode_inval_v (v : View) (n : Nat) :
    ⦃fun s => ⌜viewOf s = v⌝⦄ modNode n (fun x => { x with valid := false })
    ⦃post⟨fun _ s => ⌜viewOf s = v.inval n⌝, fun _ _ => ⌜True⌝⟩⦄ := by
  nv_mvcgen [-modNode_v, modNode]
  vnorm
  exact mkView_inval _ n v ‹_›

theorem inv_step (fuel : Nat) (ih : ∀ v n, IT fuel v n) (v : View) (n : Nat) : IT (fuel + 1) v n := by
  have hl := fun (l : List Nat) init f => forIn_view l init f ILInv
  have hl2 := fun (v : View) (l : List (Nat × Nat)) (init : PUnit) f => forIn_vf v l init f
  nv_mvcgen [invalidateNode, ih, -Spec.forIn_list, hl, hl2]
  all_goals vsimp
  all_goals first
    | exact fun h => ⟨h, IRel.refl _⟩
    | (intro x; rfl)
    | (intros; trivial)
    | (refine ⟨⟨PUnit.unit, trivial⟩, ?_⟩
       intro v0 b' hinv hN
       obtain ⟨h1, r1⟩ := hinv hN
       obtain ⟨h2, r2⟩ := ‹IPost _ _› h1
       exact ⟨h2, r1.trans r2⟩)
    | skip
  all_goals try intro (_ : viewOf _ = _)
  all_goals try rw [← View.setInRch_self (View.inval _ n) n false (by simpa using ‹¬ _ = true›)]
  all_goals
    apply inval_fin
    · first
        | exact Or.inl ‹RCPost n v _›
        | exact Or.inr ⟨‹¬ _ = true›, rfl⟩
    · first
        | exact Or.inl ⟨_, _, ‹∀ v0, ILInv _ v0 [] PUnit.unit _ → ILInv _ v0 _ _ _›⟩
        | exact Or.inr rfl


@[spec 100000] theorem invalidateNode_v (v : View) (fuel n : Nat) : IT fuel v n := by
  induction fuel generalizing v n with
  | zero => nv_mvcgen [invalidateNode]
  | succ fuel ih => exact inv_step fuel ih v n

/-! ## functions that keep the invariant on the nose -/

/-- `x` keeps the invariant (normal outcome) -/
abbrev NP {α} (v : View) (x : M α) : Prop :=
  ⦃fun s => ⌜viewOf s = v⌝⦄ x ⦃post⟨fun _ s => ⌜NecV v → NecV (viewOf s)⌝, fun _ _ => ⌜True⌝⟩⦄

theorem necV_ins {v : View} {n : Nat} (h : NecV v) (h1 : v.debug = true → (v.rn n).nec = true)
    (h2 : v.debug = true → (v.rn n).valid = true) : NecV (v.setInRch n true) :=
  (setRch_step n h (h1 h.dbg) (h2 h.dbg)).1

/-- the invariant-keeping triple, composed with what happened before (for calls in tail position) -/
theorem NP.comp {α} {v v' : View} {x : M α} (hx : NP v' x) (h : NecV v → NecV v') :
    ⦃fun s => ⌜viewOf s = v'⌝⦄ x ⦃post⟨fun _ s => ⌜NecV v → NecV (viewOf s)⌝, fun _ _ => ⌜True⌝⟩⦄ := by
  nv_mvcgen [hx]
  intro h1 h2
  exact h1 (h h2)

@[spec 100000] theorem propagateInvalidity_v (v : View) (fuel : Nat) : NP v (propagateInvalidity fuel) := by
  induction fuel generalizing v with
  | zero => nv_mvcgen [propagateInvalidity]
  | succ fuel ih =>
    have ih' := fun v' (h : NecV v → NecV v') => (ih v').comp h
    clear ih
    nv_mvcgen [propagateInvalidity, ih']
    all_goals vsimp
    all_goals first
      | (intros; trivial)
      | (intro s hI hN; exact (hI hN).1)
      | (intro s _ _ h1 hN; exact necV_ins hN h1 (fun _ => by assumption))
      | (intros; assumption)


/-- chains the facts the specifications left in the context -/
macro "nv_auto" : tactic =>
  `(tactic| (intros; simp only [APost, BNPost, IPost] at *; grind [necV_ins]))

@[spec 100000] theorem becameNecessaryPropagate_v (v : View) (env : Env) (fuel n : Nat) :
    ⦃fun s => ⌜viewOf s = v⌝⦄ becameNecessaryPropagate env fuel n
    ⦃post⟨fun _ s => ⌜NecV v → (v.rn n).nec = true → ¬ HasEdge v n → NecV (viewOf s)⌝,
      fun _ _ => ⌜True⌝⟩⦄ := by
  nv_mvcgen [becameNecessaryPropagate]
  all_goals vsimp
  all_goals nv_auto

@[spec 100000] theorem stateAddParent_v (v : View) (env : Env) (fuel c idx p : Nat) :
    ⦃fun s => ⌜viewOf s = v⌝⦄ stateAddParent env fuel c idx p
    ⦃post⟨fun _ s => ⌜NecV v → (v.ch p)[idx]? = some c → (p, idx) ∉ (v.rn c).parents → NecV (viewOf s)⌝,
      fun _ _ => ⌜True⌝⟩⦄ := by
  nv_mvcgen [stateAddParent]
  all_goals vsimp
  all_goals nv_auto

/-! ## `changeChildBindRhs` -/

/-- the view after `forceNecessary := _` on node `n` (the `base` flag becomes `b`) -/
def View.setBase (v : View) (n : Nat) (b : Bool) : View :=
  if n < v.size then v.setRn n { v.rn n with base := b } else v

theorem viewOf_setForce (s : State) (n : Nat) (b : Bool) :
    viewOf { s with nodes := s.nodes.modify n fun x => { x with forceNecessary := b } }
      = (viewOf s).setBase n (!(s.nodeD n).observers.isEmpty || b) := by
  unfold View.setBase
  split
  · rename_i hn
    exact mkView_modify_setRn s.nodes s.binds s.experts s.cfg.debug n _ hn rfl
  · rename_i hn
    have : s.nodes.size ≤ n := Nat.le_of_not_lt hn
    simp only [viewOf, modify_of_le _ _ _ this]


theorem mkView_setForce (s : State) (n : Nat) (b : Bool) (v : View) (h : viewOf s = v) :
    ∃ b', (b = true → b' = true) ∧
      mkView (s.nodes.modify n fun x => { x with forceNecessary := b }) s.binds s.experts s.cfg.debug
        = v.setBase n b' := by
  subst h
  exact ⟨_, fun hb => by simp [hb], viewOf_setForce s n b⟩

@[spec 200000] theorem modNode_force_v (v : View) (n : Nat) (b : Bool) :
    ⦃fun s => ⌜viewOf s = v⌝⦄ modNode n (fun x => { x with forceNecessary := b })
    ⦃post⟨fun _ s => ⌜∃ b', (b = true → b' = true) ∧ viewOf s = v.setBase n b'⌝, fun _ _ => ⌜True⌝⟩⦄ := by
  nv_mvcgen [-modNode_v, modNode]
  vnorm
  exact mkView_setForce _ n b v ‹_›

/-- the invariant, except that the edge `(main, index)` recorded by `old` may name the wrong child -/
structure NecX (v : View) (main index : Nat) (old : Option Nat) : Prop where
  dbg : v.debug = true
  e1x : ∀ c p i, (p, i) ∈ (v.rn c).parents →
    (v.ch p)[i]? = some c ∨ (p = main ∧ i = index ∧ old = some c)
  e3v : ∀ n, (v.rn n).inRch = true → (v.rn n).valid = true
  e4 : ∀ c, (v.rn c).parents.Nodup
  k : KindOK v
  chv : ∀ m, (v.rn m).valid = false → v.ch m = []
  nobad : ∀ p, ¬ Bad v p

theorem NecV.toX {v : View} (h : NecV v) (main index : Nat) (old : Option Nat) : NecX v main index old :=
  ⟨h.dbg, fun c p i hm => Or.inl (h.e1 c p i hm), h.e3v, h.e4, h.k, h.chv, h.nobad⟩

theorem NecX.toNec {v : View} {main index : Nat} {old : Option Nat} (h : NecX v main index old)
    (hex : ∀ c, old = some c → (main, index) ∈ (v.rn c).parents → (v.ch main)[index]? = some c) : NecV v := by
  refine ⟨⟨h.dbg, ?_, h.e3v, h.e4, h.k, h.chv⟩, h.nobad⟩
  intro c p i hm
  rcases h.e1x c p i hm with h1 | ⟨rfl, rfl, h3⟩
  · exact h1
  · exact hex c h3 hm

theorem setBase_other (v : View) (n m : Nat) (b : Bool) (h : m ≠ n) : (v.setBase n b).rn m = v.rn m := by
  unfold View.setBase; split
  · simp [View.setRn, h]
  · rfl

theorem setBase_parents (v : View) (n m : Nat) (b : Bool) :
    ((v.setBase n b).rn m).parents = (v.rn m).parents := by
  unfold View.setBase; split
  · simp only [View.setRn]; split
    · subst_vars; rfl
    · rfl
  · rfl

/-- changing the `base` flag of `o`: everything but "no bad node" survives, and only `o` can be bad -/
theorem setBase_step {v : View} (o : Nat) (b : Bool) (h : NecV v) :
    J (v.setBase o b) ∧ ∀ p, Bad (v.setBase o b) p → p = o := by
  have hstat : (v.setBase o b).ch = v.ch ∧ (v.setBase o b).debug = v.debug ∧
      (v.setBase o b).nb = v.nb ∧ (v.setBase o b).ne = v.ne ∧ (v.setBase o b).bmain = v.bmain := by
    unfold View.setBase; split <;> exact ⟨rfl, rfl, rfl, rfl, rfl⟩
  have hfields : ∀ m, ((v.setBase o b).rn m).kind = (v.rn m).kind ∧
      ((v.setBase o b).rn m).valid = (v.rn m).valid ∧ ((v.setBase o b).rn m).inRch = (v.rn m).inRch := by
    intro m
    unfold View.setBase; split
    · simp only [View.setRn]; split
      · subst_vars; exact ⟨rfl, rfl, rfl⟩
      · exact ⟨rfl, rfl, rfl⟩
    · exact ⟨rfl, rfl, rfl⟩
  refine ⟨⟨by rw [hstat.2.1]; exact h.dbg, ?_, ?_, ?_, ?_, ?_⟩, ?_⟩
  · intro c p i hm
    rw [setBase_parents] at hm
    rw [hstat.1]; exact h.e1 c p i hm
  · intro m hm
    rw [(hfields m).2.2] at hm; rw [(hfields m).2.1]; exact h.e3v m hm
  · intro c; rw [setBase_parents]; exact h.e4 c
  · exact h.k.congr (fun m => (hfields m).1) hstat.2.2.1 hstat.2.2.2.1 hstat.2.2.2.2
  · intro m hm
    rw [(hfields m).2.1] at hm; rw [hstat.1]; exact h.chv m hm
  · rintro p ⟨hn, hb⟩
    by_cases hp : p = o
    · exact hp
    · exfalso
      rw [setBase_other v o p b hp] at hn
      apply h.nobad p
      refine ⟨hn, ?_⟩
      rcases hb with ⟨c, i, hm⟩ | hb
      · rw [setBase_parents] at hm; exact Or.inl ⟨c, i, hm⟩
      · rw [(hfields p).2.2] at hb; exact Or.inr hb

theorem cc_final {o : Nat} {v4 v5 : View} (hJ : J v4) (hb : ∀ p, Bad v4 p → p = o) (hcu : UPost o v4 v5) :
    NecV v5 := by
  obtain ⟨hJ5, -, hbad⟩ := hcu hJ
  refine ⟨hJ5, fun p hp => ?_⟩
  obtain ⟨h1, h2⟩ := hbad p hp
  exact h2 (hb p h1)


/-- `removeParent o index main` followed by `forceNecessary := true` on `o` repairs the invariant -/
theorem ccx_rem_force {v : View} {main index o pi : Nat} (hx : NecX v main index (some o))
    (hidx : (v.rn o).parents.idxOf? (main, index) = some pi) (ho : o < v.size) :
    NecV ((v.setParents o (swapRemove (v.rn o).parents pi)).setBase o true) ∧
    ((v.setParents o (swapRemove (v.rn o).parents pi)).setBase o true).ch = v.ch ∧
    (∀ m, m ≠ o → ((v.setParents o (swapRemove (v.rn o).parents pi)).setBase o true).rn m = v.rn m) := by
  obtain ⟨hmem, hnd⟩ := Step.swapRemove_spec _ _ _ (hx.e4 o) hidx
  have hsz : o < (v.setParents o (swapRemove (v.rn o).parents pi)).size := ho
  have hother : ∀ m, m ≠ o →
      ((v.setParents o (swapRemove (v.rn o).parents pi)).setBase o true).rn m = v.rn m := by
    intro m hm
    rw [setBase_other _ _ _ _ hm]
    simp [View.setParents, View.setRn, hm]
  have hself : ((v.setParents o (swapRemove (v.rn o).parents pi)).setBase o true).rn o =
      { v.rn o with parents := swapRemove (v.rn o).parents pi, base := true } := by
    simp [View.setBase, View.setParents, View.setRn, ho]
  have hch : ((v.setParents o (swapRemove (v.rn o).parents pi)).setBase o true).ch = v.ch := by
    simp [View.setBase, View.setParents, View.setRn, ho]
  have hpar : ∀ m x, x ∈ (((v.setParents o (swapRemove (v.rn o).parents pi)).setBase o true).rn m).parents →
      x ∈ (v.rn m).parents ∧ ¬ (m = o ∧ x = (main, index)) := by
    intro m x hm
    by_cases hmo : m = o
    · subst hmo
      rw [hself] at hm
      have := (hmem x).1 hm
      exact ⟨this.1, fun h => this.2 h.2⟩
    · rw [hother m hmo] at hm; exact ⟨hm, fun h => hmo h.1⟩
  have hedge : ∀ p, HasEdge ((v.setParents o (swapRemove (v.rn o).parents pi)).setBase o true) p → HasEdge v p := by
    rintro p ⟨c, i, hm⟩; exact ⟨c, i, (hpar c _ hm).1⟩
  have hfields : ∀ m, (((v.setParents o (swapRemove (v.rn o).parents pi)).setBase o true).rn m).kind = (v.rn m).kind ∧
      (((v.setParents o (swapRemove (v.rn o).parents pi)).setBase o true).rn m).valid = (v.rn m).valid ∧
      (((v.setParents o (swapRemove (v.rn o).parents pi)).setBase o true).rn m).inRch = (v.rn m).inRch := by
    intro m
    by_cases hmo : m = o
    · subst hmo; rw [hself]; exact ⟨rfl, rfl, rfl⟩
    · rw [hother m hmo]; exact ⟨rfl, rfl, rfl⟩
  have hstat : ((v.setParents o (swapRemove (v.rn o).parents pi)).setBase o true).debug = v.debug ∧
      ((v.setParents o (swapRemove (v.rn o).parents pi)).setBase o true).nb = v.nb ∧
      ((v.setParents o (swapRemove (v.rn o).parents pi)).setBase o true).ne = v.ne ∧
      ((v.setParents o (swapRemove (v.rn o).parents pi)).setBase o true).bmain = v.bmain := by
    simp [View.setBase, View.setParents, View.setRn, ho]
  refine ⟨⟨⟨by rw [hstat.1]; exact hx.dbg, ?_, ?_, ?_, ?_, ?_⟩, ?_⟩, hch, hother⟩
  · intro c p i hm
    obtain ⟨h1, h2⟩ := hpar c _ hm
    rw [hch]
    rcases hx.e1x c p i h1 with h | ⟨rfl, rfl, h⟩
    · exact h
    · cases h; exact absurd ⟨rfl, rfl⟩ h2
  · intro m hm
    rw [(hfields m).2.2] at hm; rw [(hfields m).2.1]; exact hx.e3v m hm
  · intro c
    by_cases hco : c = o
    · subst hco; rw [hself]; exact hnd
    · rw [hother c hco]; exact hx.e4 c
  · exact hx.k.congr (fun m => (hfields m).1) hstat.2.1 hstat.2.2.1 hstat.2.2.2
  · intro m hm
    rw [(hfields m).2.1] at hm; rw [hch]; exact hx.chv m hm
  · rintro p ⟨hn, hb⟩
    by_cases hpo : p = o
    · subst hpo; rw [hself] at hn; simp [RNode.nec] at hn
    · rw [hother p hpo] at hn
      apply hx.nobad p
      refine ⟨hn, ?_⟩
      rcases hb with hb | hb
      · exact Or.inl (hedge p hb)
      · rw [(hfields p).2.2] at hb; exact Or.inr hb


def IsBindMain (v : View) (m : Nat) : Prop :=
  (v.rn m).valid = true ∧ ∃ b lc, (v.rn m).kind = .bindMain b lc

def CCPost (main : Nat) (old : Option Nat) (new index : Nat) (v v' : View) : Prop :=
  NecX v main index old →
  (IsBindMain v main → (v.ch main)[index]? = some new) →
  (¬ IsBindMain v main → NecV v) →
  ((main, index) ∈ (v.rn new).parents → old = some new) →
  NecV v'

theorem isBindMain_of {v : View} {m b lc : Nat}
    (h : (if (v.rn m).valid = true then some (v.rn m).kind else none) = some (Kind.bindMain b lc)) :
    IsBindMain v m := by
  split at h
  · rename_i hv; exact ⟨hv, b, lc, by injection h⟩
  · cases h

theorem cc_none {v v' : View} {main new index b lc : Nat}
    (hk : (if (v.rn main).valid = true then some (v.rn main).kind else none) = some (Kind.bindMain b lc))
    (hsap : NecV v → (v.ch main)[index]? = some new → ¬ (main, index) ∈ (v.rn new).parents → NecV v') :
    CCPost main none new index v v' := by
  intro hx hnew _ hnd
  have hN : NecV v := hx.toNec (fun c h => by cases h)
  exact hsap hN (hnew (isBindMain_of hk)) (fun h => by cases hnd h)

theorem cc_same {v : View} {main new index k b lc : Nat}
    (hk : (if (v.rn main).valid = true then some (v.rn main).kind else none) = some (Kind.bindMain b lc))
    (he : (k == new) = true) : CCPost main (some k) new index v v := by
  intro hx hnew _ _
  have : k = new := by simpa using he
  subst this
  exact hx.toNec (fun c h _ => by cases h; exact hnew (isBindMain_of hk))

theorem cc_notbm {v : View} {main new index : Nat} {old : Option Nat}
    (hk : ∀ b lc, (if (v.rn main).valid = true then some (v.rn main).kind else none) = some (Kind.bindMain b lc)
      → False) : CCPost main old new index v v := by
  intro _ _ hfull _
  apply hfull
  rintro ⟨hv, b, lc, hkd⟩
  exact hk b lc (by simp [hv, hkd])

theorem cc_main {v v1 v2 v3 v4 v5 : View} {main new index k pi b lc : Nat} {b' b'' : Bool}
    (hk : (if (v.rn main).valid = true then some (v.rn main).kind else none) = some (Kind.bindMain b lc))
    (hne : ¬ (k == new) = true)
    (hidx : (v.rn k).parents.idxOf? (main, index) = some pi) (hks : k < v.size)
    (hv1 : v1 = v.setParents k (swapRemove (v.rn k).parents pi))
    (hb' : b' = true) (hv2 : v2 = v1.setBase k b')
    (hsap : NecV v2 → (v2.ch main)[index]? = some new → ¬ (main, index) ∈ (v2.rn new).parents → NecV v3)
    (hv4 : v4 = v3.setBase k b'') (hcu : UPost k v4 v5) :
    CCPost main (some k) new index v v5 := by
  intro hx hnew _ hnd
  have hkn : k ≠ new := by simpa using hne
  subst hb' hv1 hv2 hv4
  obtain ⟨hN2, hch, hoth⟩ := ccx_rem_force hx hidx hks
  have hN3 := hsap hN2 (by rw [hch]; exact hnew (isBindMain_of hk))
    (by
      rw [hoth new (Ne.symm hkn)]
      intro h
      have := hnd h
      injection this with e
      exact hkn e)
  obtain ⟨hJ4, hb4⟩ := setBase_step k b'' hN3
  exact cc_final hJ4 hb4 hcu

@[spec 100000] theorem changeChildBindRhs_v (v : View) (env : Env) (fuel main : Nat) (old : Option Nat)
    (new index : Nat) :
    ⦃fun s => ⌜viewOf s = v⌝⦄ changeChildBindRhs env fuel main old new index
    ⦃post⟨fun _ s => ⌜CCPost main old new index v (viewOf s)⌝, fun _ _ => ⌜True⌝⟩⦄ := by
  nv_mvcgen [changeChildBindRhs]
  all_goals vsimp
  · intro h; exact cc_none (by assumption) h
  · exact cc_same (by assumption) (by assumption)
  · intro h
    exact cc_main (b' := true) (by assumption) (by assumption) (by assumption) (by assumption) rfl
      rfl rfl (by assumption) rfl h
  · subst_vars; exact cc_notbm (by assumption)

/-! ## node creation -/

/-- the view after pushing a fresh node of kind `k` whose children are `cs` -/
def View.push (v : View) (k : Kind) (cs : List Nat) : View :=
  { v with size := v.size + 1
           rn := fun m => if m = v.size then ⟨[], false, true, false, k⟩ else v.rn m
           ch := fun m => if m = v.size then cs else v.ch m }

theorem nodeAt_push (nodes : Array Node) (nd : Node) (m : Nat) :
    nodeAt (nodes.push nd) m = if m = nodes.size then nd else nodeAt nodes m := by
  simp only [nodeAt, Array.getElem?_push]
  split
  · simp
  · rfl

theorem mkView_push (nodes : Array Node) (binds experts dbg) (k : Kind) (sc : Scope) (c : CutoffK) :
    mkView (nodes.push { kind := k, createdIn := sc, cutoff := c }) binds experts dbg
      = (mkView nodes binds experts dbg).push k (chK (some k) binds experts) := by
  simp only [mkView, View.push, Array.size_push, View.mk.injEq, true_and, and_true]
  constructor
  · funext m
    rw [nodeAt_push]
    by_cases h : m = nodes.size
    · simp only [h, if_true]; rfl
    · simp only [h, if_false]
  · funext m
    rw [nodeAt_push]
    by_cases h : m = nodes.size
    · simp only [h, if_true]; rfl
    · simp only [h, if_false]

theorem viewOf_push (s : State) (k : Kind) (sc : Scope) (c : CutoffK) (v : View) (h : viewOf s = v)
    (d : Bool) (hd : d = v.debug) :
    mkView (s.nodes.push { kind := k, createdIn := sc, cutoff := c }) s.binds s.experts d
      = v.push k (chK (some k) s.binds s.experts) := by
  subst h hd; exact mkView_push _ _ _ _ _ _ _

@[spec 100000] theorem createNode_v (v : View) (k : Kind) (sc : Scope) (c : CutoffK) :
    ⦃fun s => ⌜viewOf s = v⌝⦄ createNode k sc c
    ⦃post⟨fun r s => ⌜r = v.size ∧ ∃ cs, viewOf s = v.push k cs⌝, fun _ _ => ⌜True⌝⟩⦄ := by
  nv_mvcgen [createNode]
  all_goals vsimp
  all_goals first
    | (intros; trivial)
    | (apply Exists.intro
       apply viewOf_push
       · assumption
       · first | rfl | (rw [← viewOf_debug]; simp_all))


/-- indices that name no node look like the default node -/
def OOB (v : View) : Prop :=
  ∀ m, v.size ≤ m → v.rn m = ⟨[], false, true, false, .const default⟩ ∧ v.ch m = []

theorem viewOf_OOB (s : State) : OOB (viewOf s) := by
  intro m hm
  have : nodeAt s.nodes m = default := nodeAt_of_le _ _ hm
  constructor
  · show rel (nodeAt s.nodes m) = _
    rw [this]; rfl
  · show chK (nodeAt s.nodes m).kind? s.binds s.experts = []
    rw [this]; rfl

theorem OOB_of_eq {s : State} {v : View} (h : viewOf s = v) : OOB v := h ▸ viewOf_OOB s

def KindPlain : Kind → Prop
  | .bindMain _ _ => False
  | .bindLhsChange _ => False
  | .expert _ => False
  | _ => True

/-- a kind a new node may get: plain, or an expert kind naming a record no node names yet -/
def KindFresh (v : View) (k : Kind) : Prop :=
  KindPlain k ∨ ∃ e, k = .expert e ∧ e < v.ne ∧ ∀ m, (v.rn m).kind ≠ .expert e

theorem push_step {v : View} (k : Kind) (cs : List Nat) (h : NecV v) (ho : OOB v) (hk : KindFresh v k) :
    NecV (v.push k cs) := by
  have hother : ∀ m, m ≠ v.size → (v.push k cs).rn m = v.rn m := by
    intro m hm; simp [View.push, hm]
  have hself : (v.push k cs).rn v.size = ⟨[], false, true, false, k⟩ := by simp [View.push]
  have hcho : ∀ m, m ≠ v.size → (v.push k cs).ch m = v.ch m := by
    intro m hm; simp [View.push, hm]
  have hpar : ∀ m, ((v.push k cs).rn m).parents = (v.rn m).parents := by
    intro m
    by_cases hm : m = v.size
    · subst hm; rw [hself, (ho v.size (Nat.le_refl _)).1]
    · rw [hother m hm]
  have hnorec : ∀ c i, (v.size, i) ∉ (v.rn c).parents := by
    intro c i hm
    have := h.e1 c v.size i hm
    rw [(ho v.size (Nat.le_refl _)).2] at this
    cases this
  have hnec : ∀ m, ((v.push k cs).rn m).nec = (v.rn m).nec := by
    intro m
    by_cases hm : m = v.size
    · subst hm; rw [hself, (ho v.size (Nat.le_refl _)).1]; rfl
    · rw [hother m hm]
  have hinr : ∀ m, ((v.push k cs).rn m).inRch = (v.rn m).inRch := by
    intro m
    by_cases hm : m = v.size
    · subst hm; rw [hself, (ho v.size (Nat.le_refl _)).1]
    · rw [hother m hm]
  have hval : ∀ m, ((v.push k cs).rn m).valid = (v.rn m).valid := by
    intro m
    by_cases hm : m = v.size
    · subst hm; rw [hself, (ho v.size (Nat.le_refl _)).1]
    · rw [hother m hm]
  have hkold : ∀ m, m ≠ v.size → ((v.push k cs).rn m).kind = (v.rn m).kind := fun m hm => by rw [hother m hm]
  have hknew : ((v.push k cs).rn v.size).kind = k := by rw [hself]
  have hkoob : (v.rn v.size).kind = .const default := by rw [(ho v.size (Nat.le_refl _)).1]
  apply NecV.of
  · refine ⟨h.dbg, ?_, ?_, ?_, ?_, ?_⟩
    · intro c p i hm
      rw [hpar] at hm
      have hp : p ≠ v.size := by rintro rfl; exact hnorec c i hm
      rw [hcho p hp]; exact h.e1 c p i hm
    · intro m hm; rw [hinr] at hm; rw [hval]; exact h.e3v m hm
    · intro c; rw [hpar]; exact h.e4 c
    · -- kinds
      have hcase : ∀ m, ((v.push k cs).rn m).kind = (v.rn m).kind ∨ (m = v.size ∧ ((v.push k cs).rn m).kind = k) := by
        intro m
        by_cases hm : m = v.size
        · exact Or.inr ⟨hm, by rw [hm, hknew]⟩
        · exact Or.inl (hkold m hm)
      have hnotnew : ∀ m kd, (v.rn m).kind = kd → kd ≠ .const default → m ≠ v.size := by
        rintro m kd hkd hne rfl
        rw [hkoob] at hkd; exact hne hkd.symm
      rcases hk with hk | ⟨e, rfl, he, hfresh⟩
      · have hold : ∀ m kd, ((v.push k cs).rn m).kind = kd → ¬ KindPlain kd → (v.rn m).kind = kd := by
          intro m kd hkd hnp
          rcases hcase m with h1 | ⟨-, h1⟩
          · rw [← h1]; exact hkd
          · rw [h1] at hkd; subst hkd; exact absurd hk hnp
        refine ⟨?_, ?_, ?_, ?_, ?_, ?_, ?_⟩
        · intro n n' b lc lc' h1 h2
          exact h.k.bmInj n n' b lc lc' (hold _ _ h1 (by simp [KindPlain])) (hold _ _ h2 (by simp [KindPlain]))
        · intro n b lc h1; exact h.k.bmLt n b lc (hold _ _ h1 (by simp [KindPlain]))
        · intro n n' e h1 h2
          exact h.k.exInj n n' e (hold _ _ h1 (by simp [KindPlain])) (hold _ _ h2 (by simp [KindPlain]))
        · intro n e h1; exact h.k.exLt n e (hold _ _ h1 (by simp [KindPlain]))
        · intro b m h1
          obtain ⟨lc, h2⟩ := h.k.bmHas b m h1
          exact ⟨lc, by rw [hkold m (hnotnew m _ h2 (by simp))]; exact h2⟩
        · intro m b lc h1; exact h.k.bmOf m b lc (hold _ _ h1 (by simp [KindPlain]))
        · intro n b h1; exact h.k.blLt n b (hold _ _ h1 (by simp [KindPlain]))
      · have hold : ∀ m kd, ((v.push (.expert e) cs).rn m).kind = kd → (∀ e', kd ≠ .expert e') →
            (v.rn m).kind = kd := by
          intro m kd hkd hnp
          rcases hcase m with h1 | ⟨-, h1⟩
          · rw [← h1]; exact hkd
          · rw [h1] at hkd; subst hkd; exact absurd rfl (hnp e)
        refine ⟨?_, ?_, ?_, ?_, ?_, ?_, ?_⟩
        · intro n n' b lc lc' h1 h2
          exact h.k.bmInj n n' b lc lc' (hold _ _ h1 (by simp)) (hold _ _ h2 (by simp))
        · intro n b lc h1; exact h.k.bmLt n b lc (hold _ _ h1 (by simp))
        · intro n n' e' h1 h2
          rcases hcase n with g1 | ⟨g1, g1'⟩ <;> rcases hcase n' with g2 | ⟨g2, g2'⟩
          · rw [g1] at h1; rw [g2] at h2; exact h.k.exInj n n' e' h1 h2
          · rw [g1] at h1; rw [g2'] at h2; injection h2 with h2; subst h2
            exact absurd h1 (hfresh n)
          · rw [g1'] at h1; rw [g2] at h2; injection h1 with h1; subst h1
            exact absurd h2 (hfresh n')
          · rw [g1, g2]
        · intro n e' h1
          rcases hcase n with g1 | ⟨-, g1'⟩
          · rw [g1] at h1; exact h.k.exLt n e' h1
          · rw [g1'] at h1; injection h1 with h1; subst h1; exact he
        · intro b m h1
          obtain ⟨lc, h2⟩ := h.k.bmHas b m h1
          exact ⟨lc, by rw [hkold m (hnotnew m _ h2 (by simp))]; exact h2⟩
        · intro m b lc h1; exact h.k.bmOf m b lc (hold _ _ h1 (by simp))
        · intro n b h1; exact h.k.blLt n b (hold _ _ h1 (by simp))
    · intro m hm
      by_cases hmn : m = v.size
      · subst hmn; rw [hself] at hm; cases hm
      · rw [hother m hmn] at hm; rw [hcho m hmn]; exact h.chv m hm
  · intro c p i hm
    rw [hpar] at hm; rw [hnec]; exact h.e2 c p i hm
  · intro m hm
    rw [hinr] at hm; rw [hnec]; exact (h.e3 m hm).1

theorem OOB_push {v : View} (k : Kind) (cs : List Nat) (ho : OOB v) : OOB (v.push k cs) := by
  intro m hm
  have hm' : v.size + 1 ≤ m := hm
  have hne : m ≠ v.size := by omega
  simp only [View.push, hne, if_false]
  exact ho m (by omega)

/-! ### part N12 -/

section
variable (v : View)

@[spec 100000] theorem isConstant_v (n : Nat) : VF v (isConstant n) := by
  nv_mvcgen [isConstant]
  vf_fin
@[spec 100000] theorem resolveOpnd_v (loc : List Nat) (o : Opnd) : VF v (resolveOpnd loc o) := by
  nv_mvcgen [resolveOpnd]
  vf_fin

@[spec 100000] theorem mapM_v {α β} (f : α → M β) (hf : ∀ a v, VF v (f a)) (l : List α) : VF v (l.mapM f) := by
  induction l generalizing v with
  | nil => nv_mvcgen [List.mapM_nil]
  | cons a l ih =>
    have := hf a
    rw [List.mapM_cons]
    nv_mvcgen [this, ih]
    vf_fin

@[spec 100000] theorem createVar_v (x : Val) (sc : Scope) :
    ⦃fun s => ⌜viewOf s = v⌝⦄ createVar x sc
    ⦃post⟨fun r s => ⌜r = v.size ∧ ∃ k cs, KindPlain k ∧ viewOf s = v.push k cs⌝, fun _ _ => ⌜True⌝⟩⦄ := by
  nv_mvcgen [createVar]
  vsimp
  exact ⟨Kind.var _, _, trivial, rfl⟩

end

/-- node creation only extends a view: existing nodes and existing bind records keep what the view
reads of them -/
structure Ext (v v' : View) : Prop where
  size : v.size ≤ v'.size
  nb : v.nb ≤ v'.nb
  ne : v.ne ≤ v'.ne
  debug : v'.debug = v.debug
  rn : ∀ m, m < v.size → v'.rn m = v.rn m
  ch : ∀ m, m < v.size → v'.ch m = v.ch m
  bmain : ∀ b, b < v.nb → v'.bmain b = v.bmain b

theorem Ext.refl (v : View) : Ext v v :=
  ⟨Nat.le_refl _, Nat.le_refl _, Nat.le_refl _, rfl, fun _ _ => rfl, fun _ _ => rfl, fun _ _ => rfl⟩

theorem Ext.trans {a b c : View} (h1 : Ext a b) (h2 : Ext b c) : Ext a c :=
  ⟨Nat.le_trans h1.size h2.size, Nat.le_trans h1.nb h2.nb, Nat.le_trans h1.ne h2.ne,
   h2.debug.trans h1.debug,
   fun m hm => (h2.rn m (Nat.lt_of_lt_of_le hm h1.size)).trans (h1.rn m hm),
   fun m hm => (h2.ch m (Nat.lt_of_lt_of_le hm h1.size)).trans (h1.ch m hm),
   fun b hb => (h2.bmain b (Nat.lt_of_lt_of_le hb h1.nb)).trans (h1.bmain b hb)⟩

theorem Ext.push (v : View) (k : Kind) (cs : List Nat) : Ext v (v.push k cs) := by
  refine ⟨Nat.le_succ _, Nat.le_refl _, Nat.le_refl _, rfl, ?_, ?_, fun _ _ => rfl⟩
  · intro m hm
    have : m ≠ v.size := Nat.ne_of_lt hm
    simp [View.push, this]
  · intro m hm
    have : m ≠ v.size := Nat.ne_of_lt hm
    simp [View.push, this]

/-- what node creation guarantees: the invariant is kept and the view is only extended -/
def CPost (v v' : View) : Prop := Ext v v' ∧ (NecV v → NecV v')

/-! ## the expert API: frames -/

@[spec 100000] theorem assertRunningIsChild_v (v : View) (n : Nat) (name : String) :
    VF v (assertRunningIsChild n name) := by
  nv_mvcgen [assertRunningIsChild]
  vf_fin

theorem kindq_eq {r : RNode} {k : Kind} (h : (if r.valid = true then some r.kind else none) = some k) :
    r.valid = true ∧ r.kind = k := by
  split at h
  · rename_i hv; exact ⟨hv, by injection h⟩
  · cases h

@[spec 100000] theorem expertOf_v (v : View) (n : Nat) :
    ⦃fun s => ⌜viewOf s = v⌝⦄ expertOf n
    ⦃post⟨fun r s => ⌜viewOf s = v ∧
        ∀ e, r = some e → (v.rn n).valid = true ∧ (v.rn n).kind = .expert e ∧ n < v.size⌝,
      fun _ _ => ⌜True⌝⟩⦄ := by
  nv_mvcgen [expertOf]
  all_goals vsimp
  · intro e he
    cases he
    exact kindq_eq (by assumption)
  · intro e he; cases he

/-! ## views after the expert updates -/

/-- the index swap `swapEdgeIndices` applies to parent records -/
def swapIdx (n i1 i2 : Nat) (pc : Nat × Nat) : Nat × Nat :=
  if pc == (n, i1) then (n, i2) else if pc == (n, i2) then (n, i1) else pc

/-- the parent list of `c` mapped with `σ` -/
def View.mapPar (v : View) (c : Nat) (σ : Nat × Nat → Nat × Nat) : View :=
  v.setRn c { v.rn c with parents := (v.rn c).parents.map σ }

/-- the view after `swapEdgeIndices n c1 i1 c2 i2` -/
def View.swapE (v : View) (n c1 i1 c2 i2 : Nat) : View :=
  { v with rn := fun m => if m = c1 ∨ m = c2 then
      { v.rn m with parents := (v.rn m).parents.map (swapIdx n i1 i2) } else v.rn m }

/-- the view after `modExpert e f` when `f` maps the child list with `g` -/
def View.mapChE (v : View) (e : Nat) (g : List Nat → List Nat) : View :=
  { v with ch := fun m =>
      if (v.rn m).valid = true ∧ (v.rn m).kind = .expert e ∧ e < v.ne then g (v.ch m) else v.ch m }

theorem mkView_mapPar (nodes : Array Node) (binds experts dbg) (c : Nat) (σ : Nat × Nat → Nat × Nat) :
    mkView (nodes.modify c fun x => { x with parents := x.parents.map σ }) binds experts dbg
      = (mkView nodes binds experts dbg).mapPar c σ := by
  by_cases hc : c < nodes.size
  · exact mkView_modify_setRn nodes binds experts dbg c _ hc rfl
  · have hle : nodes.size ≤ c := Nat.le_of_not_lt hc
    rw [modify_of_le _ _ _ hle]
    unfold View.mapPar
    rw [View.setRn_self]
    simp only [mkView, nodeAt_of_le _ _ hle]
    rfl

theorem mapPar_swapE_ne (v : View) (n c1 i1 c2 i2 : Nat) (h : c2 ≠ c1) :
    (v.mapPar c1 (swapIdx n i1 i2)).mapPar c2 (swapIdx n i1 i2) = v.swapE n c1 i1 c2 i2 := by
  simp only [View.mapPar, View.setRn, View.swapE, View.mk.injEq, true_and, and_true]
  funext m
  by_cases h2 : m = c2
  · subst h2; simp [h]
  · by_cases h1 : m = c1
    · subst h1; simp [h2]
    · simp [h1, h2]

theorem mapPar_swapE_eq (v : View) (n c1 i1 i2 : Nat) :
    v.mapPar c1 (swapIdx n i1 i2) = v.swapE n c1 i1 c1 i2 := by
  simp only [View.mapPar, View.setRn, View.swapE, View.mk.injEq, true_and, and_true]
  funext m
  by_cases h1 : m = c1
  · subst h1; simp
  · simp [h1]

theorem mkView_modExpert_ch (nodes : Array Node) (binds : Array BindRec) (experts : Array ExpertRec) (dbg)
    (e : Nat) (f : ExpertRec → ExpertRec) (g : List Nat → List Nat)
    (hf : ∀ x, (f x).children.map (·.child) = g (x.children.map (·.child))) :
    mkView nodes binds (experts.modify e f) dbg = (mkView nodes binds experts dbg).mapChE e g := by
  simp only [mkView, View.mapChE, Array.size_modify, View.mk.injEq, true_and, and_true]
  funext m
  simp only [rel, Node.kind?]
  by_cases hv : (nodeAt nodes m).valid = true
  · simp only [hv, if_true, true_and]
    cases hk : (nodeAt nodes m).kind <;> simp only [chK, reduceCtorEq, false_and, if_false]
    rename_i e'
    by_cases he : e' = e
    · subst he
      simp only [true_and, Array.getElem?_modify, if_true]
      by_cases hlt : e' < experts.size
      · simp [hlt, hf]
      · simp [hlt]
    · have : ¬ e = e' := fun h => he h.symm
      simp [he, Array.getElem?_modify, this]
  · simp [hv, chK]

/-- `swapEdgeIndices` -/
@[spec 100000] theorem swapEdgeIndices_v (v : View) (n c1 i1 c2 i2 : Nat) :
    ⦃fun s => ⌜viewOf s = v⌝⦄ swapEdgeIndices n c1 i1 c2 i2
    ⦃post⟨fun _ s => ⌜viewOf s = v.swapE n c1 i1 c2 i2⌝, fun _ _ => ⌜True⌝⟩⦄ := by
  nv_mvcgen [swapEdgeIndices, -modNode_v, modNode]
  all_goals vnorm
  · refine (mkView_mapPar _ _ _ _ c2 (swapIdx n i1 i2)).trans ?_
    refine (congrArg (fun w => View.mapPar w c2 (swapIdx n i1 i2))
      (mkView_mapPar _ _ _ _ c1 (swapIdx n i1 i2))).trans ?_
    rw [‹mkView _ _ _ _ = v›]
    exact mapPar_swapE_ne v n c1 i1 c2 i2 (by simpa using ‹(c2 != c1) = true›)
  · refine (mkView_mapPar _ _ _ _ c1 (swapIdx n i1 i2)).trans ?_
    rw [‹mkView _ _ _ _ = v›]
    have : c2 = c1 := by simpa using ‹¬ (c2 != c1) = true›
    subst this
    exact mapPar_swapE_eq v n c2 i1 i2

@[spec 200000] theorem modExpert_swap_v (v : View) (e i j : Nat) (a b : ExpertEdge) :
    ⦃fun s => ⌜viewOf s = v⌝⦄ modExpert e (fun x => { x with children := (x.children.set i a).set j b })
    ⦃post⟨fun _ s => ⌜viewOf s = v.mapChE e (fun l => (l.set i a.child).set j b.child)⌝,
      fun _ _ => ⌜True⌝⟩⦄ := by
  nv_mvcgen [-modExpert_v, modExpert]
  vnorm
  rw [← ‹mkView _ _ _ _ = v›]
  exact mkView_modExpert_ch _ _ _ _ e _ _ (by intro x; simp [List.map_set])

@[spec 200000] theorem modExpert_dropLast_v (v : View) (e dep : Nat) :
    ⦃fun s => ⌜viewOf s = v⌝⦄
    modExpert e (fun x => { x with children := x.children.dropLast, forceStale := true,
                                   slots := x.slots.filter (·.1 != dep) })
    ⦃post⟨fun _ s => ⌜viewOf s = v.mapChE e List.dropLast⌝, fun _ _ => ⌜True⌝⟩⦄ := by
  nv_mvcgen [-modExpert_v, modExpert]
  vnorm
  rw [← ‹mkView _ _ _ _ = v›]
  exact mkView_modExpert_ch _ _ _ _ e _ _ (by intro x; simp [List.map_dropLast])

theorem viewOf_ch_expert (s : State) (e m : Nat) (er : ExpertRec) (h : s.experts[e]? = some er)
    (hv : ((viewOf s).rn m).valid = true) (hk : ((viewOf s).rn m).kind = .expert e) :
    (viewOf s).ch m = er.children.map (·.child) := by
  have hv' : (nodeAt s.nodes m).valid = true := hv
  have hk' : (nodeAt s.nodes m).kind = .expert e := hk
  simp [viewOf, mkView, Node.kind?, hv', hk', chK, h]

/-- `getExpert`, with what the record says about the view -/
theorem getExpert_x (v : View) (e : Nat) :
    ⦃fun s => ⌜viewOf s = v⌝⦄ getExpert e
    ⦃post⟨fun er s => ⌜viewOf s = v ∧ e < v.ne ∧
        ∀ m, (v.rn m).valid = true → (v.rn m).kind = .expert e → v.ch m = er.children.map (·.child)⌝,
      fun _ _ => ⌜True⌝⟩⦄ := by
  nv_mvcgen [-getExpert_v, getExpert]
  rename_i s h er her
  subst h
  exact ⟨rfl, (Array.getElem?_eq_some_iff.1 her).1, fun m hv hk => viewOf_ch_expert s e m er her hv hk⟩

/-! ## view-level lemmas -/

/-- the invariant carries over to a view with the same node data up to a re-indexing of the parent lists -/
theorem NecV.transfer {v v' : View} (h : NecV v)
    (hnb : v'.nb = v.nb) (hne : v'.ne = v.ne) (hbm : v'.bmain = v.bmain) (hdbg : v'.debug = v.debug)
    (hk : ∀ m, (v'.rn m).kind = (v.rn m).kind) (hv : ∀ m, (v'.rn m).valid = (v.rn m).valid)
    (hb : ∀ m, (v'.rn m).base = (v.rn m).base) (hq : ∀ m, (v'.rn m).inRch = (v.rn m).inRch)
    (hp : ∀ m, (v'.rn m).parents.isEmpty = (v.rn m).parents.isEmpty)
    (hedge : ∀ p, HasEdge v' p → HasEdge v p)
    (he1 : ∀ c p i, (p, i) ∈ (v'.rn c).parents → (v'.ch p)[i]? = some c)
    (he4 : ∀ c, (v'.rn c).parents.Nodup)
    (hchv : ∀ m, (v'.rn m).valid = false → v'.ch m = []) : NecV v' := by
  have hnec : ∀ m, (v'.rn m).nec = (v.rn m).nec := by
    intro m; simp only [RNode.nec, hp, hb]
  refine ⟨⟨by rw [hdbg]; exact h.dbg, he1, ?_, he4, h.k.congr hk hnb hne hbm, hchv⟩, ?_⟩
  · intro m hm; rw [hq] at hm; rw [hv]; exact h.e3v m hm
  · rintro p ⟨hn, hb'⟩
    apply h.nobad p
    rw [hnec] at hn
    refine ⟨hn, ?_⟩
    rcases hb' with hb' | hb'
    · exact Or.inl (hedge p hb')
    · rw [hq] at hb'; exact Or.inr hb'

theorem mapChE_ch_self (v : View) (e n : Nat) (g : List Nat → List Nat)
    (hv : (v.rn n).valid = true) (hk : (v.rn n).kind = .expert e) (he : e < v.ne) :
    (v.mapChE e g).ch n = g (v.ch n) := by
  simp [View.mapChE, hv, hk, he]

/-- changing the child list of the expert nodes in a way compatible with the recorded edges -/
theorem necV_mapChE {v : View} (e : Nat) (g : List Nat → List Nat) (h : NecV v)
    (hg : ∀ m c i, (v.rn m).valid = true → (v.rn m).kind = .expert e → (m, i) ∈ (v.rn c).parents →
      (g (v.ch m))[i]? = some c) : NecV (v.mapChE e g) := by
  apply h.transfer (v' := v.mapChE e g) rfl rfl rfl rfl (fun _ => rfl) (fun _ => rfl) (fun _ => rfl)
    (fun _ => rfl) (fun _ => rfl) (fun p hp => hp)
  · intro c p i hm
    simp only [View.mapChE]
    split
    · rename_i hc; exact hg p c i hc.1 hc.2.1 hm
    · exact h.e1 c p i hm
  · exact h.e4
  · intro m hm
    have hm' : (v.rn m).valid = false := hm
    simp only [View.mapChE, hm', Bool.false_eq_true, false_and, if_false]
    exact h.chv m hm'

theorem swapIdx_fst (n i1 i2 : Nat) (x : Nat × Nat) : (swapIdx n i1 i2 x).1 = x.1 := by
  unfold swapIdx
  split
  · rename_i h; simp at h; rw [h]
  · split
    · rename_i h; simp at h; rw [h]
    · rfl

theorem swapIdx_invol (n i1 i2 : Nat) (x : Nat × Nat) : swapIdx n i1 i2 (swapIdx n i1 i2 x) = x := by
  obtain ⟨p, i⟩ := x
  simp only [swapIdx, beq_iff_eq, Prod.mk.injEq]
  grind

theorem swapIdx_inj (n i1 i2 : Nat) (x y : Nat × Nat) (h : swapIdx n i1 i2 x = swapIdx n i1 i2 y) : x = y := by
  rw [← swapIdx_invol n i1 i2 x, h, swapIdx_invol]

theorem swapIdx_other (n i1 i2 : Nat) (x : Nat × Nat) (h1 : x ≠ (n, i1)) (h2 : x ≠ (n, i2)) :
    swapIdx n i1 i2 x = x := by
  simp [swapIdx, h1, h2]

theorem lt_of_getElem?_some {l : List Nat} {i c : Nat} (h : l[i]? = some c) : i < l.length := by
  rcases Nat.lt_or_ge i l.length with h' | h'
  · exact h'
  · rw [List.getElem?_eq_none h'] at h; cases h

theorem necV_swap_aux {v v' : View} {n c1 c2 i1 i2 : Nat} (h : NecV v)
    (h1 : (v.ch n)[i1]? = some c1) (h2 : (v.ch n)[i2]? = some c2)
    (hstat : v'.nb = v.nb ∧ v'.ne = v.ne ∧ v'.bmain = v.bmain ∧ v'.debug = v.debug)
    (hfields : ∀ m, (v'.rn m).kind = (v.rn m).kind ∧ (v'.rn m).valid = (v.rn m).valid ∧
      (v'.rn m).base = (v.rn m).base ∧ (v'.rn m).inRch = (v.rn m).inRch)
    (hpar : ∀ c, (v'.rn c).parents = (v.rn c).parents.map (swapIdx n i1 i2))
    (hchn : v'.ch n = ((v.ch n).set i1 c2).set i2 c1)
    (hcho : ∀ p, p ≠ n → v'.ch p = v.ch p) : NecV v' := by
  have hl1 := lt_of_getElem?_some h1
  have hl2 := lt_of_getElem?_some h2
  apply h.transfer hstat.1 hstat.2.1 hstat.2.2.1 hstat.2.2.2 (fun m => (hfields m).1)
    (fun m => (hfields m).2.1) (fun m => (hfields m).2.2.1) (fun m => (hfields m).2.2.2)
  · intro m; rw [hpar, List.isEmpty_map]
  · rintro p ⟨c, i, hm⟩
    rw [hpar, List.mem_map] at hm
    obtain ⟨x, hx, hxe⟩ := hm
    have := swapIdx_fst n i1 i2 x
    rw [hxe] at this
    refine ⟨c, x.2, ?_⟩
    have e : (p, x.2) = x := by
      have : p = x.1 := this
      rw [this]
    rw [e]; exact hx
  · intro c p i hm
    rw [hpar, List.mem_map] at hm
    obtain ⟨⟨p', i'⟩, hx, hxe⟩ := hm
    have he1 := h.e1 c p' i' hx
    by_cases ha : (p', i') = (n, i1)
    · cases ha
      have : swapIdx n i1 i2 (n, i1) = (n, i2) := by simp [swapIdx]
      rw [this] at hxe; cases hxe
      rw [h1] at he1; cases he1
      rw [hchn]
      simp [hl2]
    · by_cases hb : (p', i') = (n, i2)
      · cases hb
        have hne : i2 ≠ i1 := fun e => ha (by rw [e])
        have : swapIdx n i1 i2 (n, i2) = (n, i1) := by simp [swapIdx, hne]
        rw [this] at hxe; cases hxe
        rw [h2] at he1; cases he1
        rw [hchn]
        simp [hl1, hne]
      · rw [swapIdx_other n i1 i2 _ ha hb] at hxe
        cases hxe
        by_cases hp : p = n
        · subst hp
          have n1 : i1 ≠ i := fun e => ha (by rw [e])
          have n2 : i2 ≠ i := fun e => hb (by rw [e])
          rw [hchn]
          simp only [List.getElem?_set, n1, n2, if_false]
          exact he1
        · rw [hcho p hp]; exact he1
  · intro c
    rw [hpar]
    exact List.Pairwise.map _ (fun a b hab e => hab (swapIdx_inj n i1 i2 a b e)) (h.e4 c)
  · intro m hm
    have hm' := hm
    rw [(hfields m).2.1] at hm'
    by_cases hmn : m = n
    · subst hmn
      rw [h.chv m hm'] at h1; cases h1
    · rw [hcho m hmn]; exact h.chv m hm'

theorem swapE_valid (v : View) (n c1 i1 c2 i2 m : Nat) :
    ((v.swapE n c1 i1 c2 i2).rn m).valid = (v.rn m).valid := by
  simp only [View.swapE]; split <;> rfl

theorem swapE_kind (v : View) (n c1 i1 c2 i2 m : Nat) :
    ((v.swapE n c1 i1 c2 i2).rn m).kind = (v.rn m).kind := by
  simp only [View.swapE]; split <;> rfl

/-- swapping two entries of the child list of the expert node `n` together with the index records -/
theorem necV_swap {v : View} {n e c1 c2 i1 i2 : Nat} (h : NecV v)
    (hv : (v.rn n).valid = true) (hk : (v.rn n).kind = .expert e)
    (h1 : (v.ch n)[i1]? = some c1) (h2 : (v.ch n)[i2]? = some c2) :
    NecV ((v.swapE n c1 i1 c2 i2).mapChE e (fun l => (l.set i1 c2).set i2 c1)) := by
  have he : e < v.ne := h.k.exLt n e hk
  apply necV_swap_aux (v' := (v.swapE n c1 i1 c2 i2).mapChE e (fun l => (l.set i1 c2).set i2 c1)) h h1 h2
    ⟨rfl, rfl, rfl, rfl⟩
  · intro m
    simp only [View.mapChE, View.swapE]
    split <;> exact ⟨rfl, rfl, rfl, rfl⟩
  · intro c
    simp only [View.mapChE, View.swapE]
    split
    · rfl
    · rename_i hc
      symm
      refine (List.map_congr_left (g := id) fun x hx => ?_).trans (List.map_id _)
      apply swapIdx_other
      · rintro rfl
        have := h.e1 c n i1 hx
        rw [h1] at this; cases this
        exact hc (Or.inl rfl)
      · rintro rfl
        have := h.e1 c n i2 hx
        rw [h2] at this; cases this
        exact hc (Or.inr rfl)
  · exact mapChE_ch_self (v.swapE n c1 i1 c2 i2) e n _ ((swapE_valid v n c1 i1 c2 i2 n).trans hv)
      ((swapE_kind v n c1 i1 c2 i2 n).trans hk) he
  · intro p hp
    simp only [View.mapChE]
    split
    · rename_i hc
      exact absurd (h.k.exInj p n e (by rw [← swapE_kind v n c1 i1 c2 i2]; exact hc.2.1) hk) hp
    · rfl

/-! ## `expertRemoveDependency` -/

/-- the state of the view after the first half of `expertRemoveDependency`: the invariant holds and the
edge to remove is the last entry of the child list of the expert node `n` -/
structure Mid (v2 : View) (n e c1 li : Nat) : Prop where
  nec : NecV v2
  valid : (v2.rn n).valid = true
  kind : (v2.rn n).kind = .expert e
  last : (v2.ch n)[li]? = some c1
  len : (v2.ch n).length = li + 1

theorem edge_at (cs : List ExpertEdge) (i : Nat) (hi : i < cs.length) :
    (cs.map (·.child))[i]? = some (cs[i]?.getD default).child := by
  simp [List.getElem?_eq_getElem hi]

theorem findIdx_lt {cs : List ExpertEdge} {q : ExpertEdge → Bool} {ei : Nat}
    (hfi : cs.findIdx? q = some ei) : ei < cs.length := by
  rw [List.findIdx?_eq_some_iff_getElem] at hfi
  exact hfi.1

/-- the two entries were swapped on both sides -/
theorem midA {v v1 v2 : View} {n e ei : Nat} {cs : List ExpertEdge} {q : ExpertEdge → Bool}
    (h : NecV v) (hv : (v.rn n).valid = true) (hk : (v.rn n).kind = .expert e)
    (hch : v.ch n = cs.map (·.child)) (hfi : cs.findIdx? q = some ei)
    (hv1 : v1 = v.swapE n (cs[ei]?.getD default).child ei (cs[cs.length - 1]?.getD default).child (cs.length - 1))
    (hv2 : v2 = v1.mapChE e (fun l => (l.set ei (cs[cs.length - 1]?.getD default).child).set (cs.length - 1)
      (cs[ei]?.getD default).child)) :
    Mid v2 n e (cs[ei]?.getD default).child (cs.length - 1) := by
  have hlt := findIdx_lt hfi
  have hlt2 : cs.length - 1 < cs.length := by omega
  have h1 : (v.ch n)[ei]? = some (cs[ei]?.getD default).child := by rw [hch]; exact edge_at cs ei hlt
  have h2 : (v.ch n)[cs.length - 1]? = some (cs[cs.length - 1]?.getD default).child := by
    rw [hch]; exact edge_at cs _ hlt2
  have he : e < v.ne := h.k.exLt n e hk
  subst hv1 hv2
  have hchn := mapChE_ch_self (v.swapE n (cs[ei]?.getD default).child ei (cs[cs.length - 1]?.getD default).child
      (cs.length - 1)) e n (fun l => (l.set ei (cs[cs.length - 1]?.getD default).child).set (cs.length - 1)
      (cs[ei]?.getD default).child) ((swapE_valid _ _ _ _ _ _ n).trans hv) ((swapE_kind _ _ _ _ _ _ n).trans hk) he
  have hlen : (v.ch n).length = cs.length := by rw [hch]; simp
  refine ⟨necV_swap h hv hk h1 h2, (swapE_valid _ _ _ _ _ _ n).trans hv, (swapE_kind _ _ _ _ _ _ n).trans hk, ?_, ?_⟩
  · rw [hchn]
    show (((v.ch n).set ei _).set (cs.length - 1) _)[cs.length - 1]? = _
    simp [hlen, hlt2]
  · rw [hchn]
    show (((v.ch n).set ei _).set (cs.length - 1) _).length = _
    simp [hlen]; omega

/-- no edge of `n` is recorded: the child list may change freely -/
theorem necV_mapChE_unnec {v : View} {n e : Nat} (g : List Nat → List Nat) (h : NecV v)
    (hk : (v.rn n).kind = .expert e) (hn : (v.rn n).nec = false) : NecV (v.mapChE e g) := by
  apply necV_mapChE e g h
  intro m c i _ hkm hm
  have : m = n := h.k.exInj m n e hkm hk
  subst this
  have := h.e2 c m i hm
  rw [this] at hn; cases hn

theorem midB {v v2 : View} {n e ei : Nat} {cs : List ExpertEdge} {q : ExpertEdge → Bool}
    (h : NecV v) (hv : (v.rn n).valid = true) (hk : (v.rn n).kind = .expert e)
    (hch : v.ch n = cs.map (·.child)) (hfi : cs.findIdx? q = some ei)
    (hn : ¬ (v.rn n).nec = true)
    (hv2 : v2 = v.mapChE e (fun l => (l.set ei (cs[cs.length - 1]?.getD default).child).set (cs.length - 1)
      (cs[ei]?.getD default).child)) :
    Mid v2 n e (cs[ei]?.getD default).child (cs.length - 1) := by
  have hlt := findIdx_lt hfi
  have hlt2 : cs.length - 1 < cs.length := by omega
  have he : e < v.ne := h.k.exLt n e hk
  subst hv2
  have hchn := mapChE_ch_self v e n (fun l => (l.set ei (cs[cs.length - 1]?.getD default).child).set (cs.length - 1)
      (cs[ei]?.getD default).child) hv hk he
  have hlen : (v.ch n).length = cs.length := by rw [hch]; simp
  refine ⟨necV_mapChE_unnec _ h hk (by simpa using hn), hv, hk, ?_, ?_⟩
  · rw [hchn]
    simp [hlen, hlt2]
  · rw [hchn]
    simp [hlen]; omega

theorem midC {v : View} {n e ei : Nat} {cs : List ExpertEdge} {q : ExpertEdge → Bool}
    (h : NecV v) (hv : (v.rn n).valid = true) (hk : (v.rn n).kind = .expert e)
    (hch : v.ch n = cs.map (·.child)) (hfi : cs.findIdx? q = some ei)
    (hei : ¬ (ei != cs.length - 1) = true) :
    Mid v n e (cs[ei]?.getD default).child (cs.length - 1) := by
  have hlt := findIdx_lt hfi
  have hei' : ei = cs.length - 1 := by simpa using hei
  refine ⟨h, hv, hk, ?_, ?_⟩
  · rw [hch, ← hei']; exact edge_at cs ei hlt
  · rw [hch]; simp; omega

/-- `n` is unnecessary: dropping the last child is harmless -/
theorem finU {v2 : View} {n e c1 li : Nat} (hm : Mid v2 n e c1 li) (hn : ¬ (v2.rn n).nec = true) :
    NecV (v2.mapChE e List.dropLast) :=
  necV_mapChE_unnec _ hm.nec hm.kind (by simpa using hn)

/-- `n` is necessary: the last edge is unlinked, the cascade runs, `n` is possibly queued, and the last child
is dropped -/
theorem finN {v2 v3 v4 v5 : View} {n e c1 li pi : Nat} (hm : Mid v2 n e c1 li)
    (hidx : (v2.rn c1).parents.idxOf? (n, li) = some pi)
    (hv3 : v3 = v2.setParents c1 (swapRemove (v2.rn c1).parents pi))
    (hcu : UPost c1 v3 v4)
    (hv5 : v5 = v4 ∨ (v5 = v4.setInRch n true ∧
      (v4.debug = true → (v4.rn n).nec = true ∧ (v4.rn n).valid = true))) :
    NecV (v5.mapChE e List.dropLast) := by
  obtain ⟨hJ3, hrel3, hbad3, hpar3⟩ := remPar_step hm.nec.toJ hidx
  rw [← hv3] at hJ3 hrel3 hbad3 hpar3
  obtain ⟨hJ4, hrel4, hbad4⟩ := hcu hJ3
  have hN4 : NecV v4 := by
    refine ⟨hJ4, fun p hp => ?_⟩
    obtain ⟨hb, hne⟩ := hbad4 p hp
    rcases hbad3 p hb with hb2 | hb2
    · exact hm.nec.nobad p hb2
    · exact hne hb2
  have h5 : NecV v5 ∧ (∀ m, (v5.rn m).parents = (v4.rn m).parents) ∧ v5.ch = v4.ch ∧
      (∀ m, (v5.rn m).kind = (v4.rn m).kind) := by
    rcases hv5 with rfl | ⟨rfl, hd⟩
    · exact ⟨hN4, fun _ => rfl, rfl, fun _ => rfl⟩
    · obtain ⟨g1, g2, g3⟩ := setRch_step n hN4 (hd hN4.dbg).1 (hd hN4.dbg).2
      exact ⟨g1, g3, g2.ch, g2.kind⟩
  obtain ⟨hN5, hp5, hch5, hk5⟩ := h5
  apply necV_mapChE e _ hN5
  intro m c i _ hkm hmem
  have hkm2 : (v2.rn m).kind = .expert e := by
    rw [← hrel3.kind, ← hrel4.kind, ← hk5]; exact hkm
  have : m = n := hm.nec.k.exInj m n e hkm2 hm.kind
  subst this
  rw [hp5] at hmem
  obtain ⟨hmem2, hnot⟩ := hpar3 c _ (hrel4.par c _ hmem)
  have he1 := hm.nec.e1 c m i hmem2
  rw [hch5, hrel4.ch, hrel3.ch]
  have hil : i < (v2.ch m).length := lt_of_getElem?_some he1
  have hne : i ≠ li := by
    rintro rfl
    rw [hm.last] at he1
    cases he1
    exact hnot ⟨rfl, rfl⟩
  rw [List.getElem?_dropLast, if_pos (by rw [hm.len] at hil ⊢; omega)]
  exact he1

/-- the second half of `expertRemoveDependency` -/
macro "erd_fin " h:ident : tactic =>
  `(tactic| first
    | exact finN $h ‹List.idxOf? _ _ = some _› rfl ‹UPost _ _ _› (Or.inr ⟨rfl, ‹_ → _ ∧ _›⟩)
    | exact finN $h ‹List.idxOf? _ _ = some _› rfl ‹UPost _ _ _› (Or.inl rfl)
    | exact finU $h ‹¬ _ = true›)

@[spec 100000] theorem expertRemoveDependency_v (v : View) (fuel n dep : Nat) :
    NP v (expertRemoveDependency fuel n dep) := by
  have hge := getExpert_x
  nv_mvcgen [expertRemoveDependency, -getExpert_v, hge]
  all_goals vsimp
  all_goals first
    | (intros; trivial)
    | skip
  all_goals
    intro _ hN
    obtain ⟨hv, hk, -⟩ := ‹∀ e, some _ = some e → _› _ rfl
    have hch := ‹∀ m, (v.rn m).valid = true → (v.rn m).kind = Kind.expert _ → v.ch m = _› n hv hk
    have hfi := ‹List.findIdx? (fun (x : ExpertEdge) => x.dep == dep) _ = some _›
    first
      | (have hmid := midA hN hv hk hch hfi rfl rfl
         erd_fin hmid)
      | (have hmid := midB hN hv hk hch hfi (by assumption) rfl
         erd_fin hmid)
      | (have hmid := midC hN hv hk hch hfi (by assumption)
         erd_fin hmid)

/-! ## `expertInvalidate`, `expertMakeStale` -/

@[spec 100000] theorem expertInvalidate_v (v : View) (fuel n : Nat) : NP v (expertInvalidate fuel n) := by
  have hp := fun v' (h : NecV v → NecV v') => (propagateInvalidity_v v' fuel).comp h
  nv_mvcgen [expertInvalidate, -propagateInvalidity_v, hp]
  all_goals vsimp
  intro s hI hN
  exact (hI hN).1

@[spec 100000] theorem expertMakeStale_v (v : View) (n : Nat) : NP v (expertMakeStale n) := by
  nv_mvcgen [expertMakeStale]
  all_goals vsimp
  all_goals first
    | (intros; trivial)
    | (intro _ _ h hN; exact necV_ins hN (fun d => (h d).1) (fun d => (h d).2))

/-! ### part B1 -/

/-! ## node creation: what is needed of the entry view besides `NecV`

`Ext v v'` does not hold unconditionally for the functions that push a bind or an expert record: a
(dangling) valid node of kind `.bindLhsChange b` with `b = v.nb` has `ch = []` before and `[lhs]` after
`binds.push { lhs, body }` (bind-main and expert kinds are harmless: new records have `rhs = none` /
`children = []`, but `perKey` appends an edge to the new record).  `KindOK.blLt` / `KindOK.exLt` exclude
this (such a state is not a reachable engine state). -/

structure WF (v : View) : Prop where
  bl : ∀ n b, (v.rn n).kind = .bindLhsChange b → b < v.nb
  ex : ∀ n e, (v.rn n).kind = .expert e → e < v.ne

theorem NecV.wf {v : View} (h : NecV v) : WF v := ⟨h.k.blLt, h.k.exLt⟩

/-- what node creation guarantees -/
structure Step (v w : View) : Prop where
  ext : WF v → Ext v w
  wf : WF v → WF w
  nec : NecV v → NecV w

theorem Step.refl (v : View) : Step v v := ⟨fun _ => Ext.refl v, id, id⟩

theorem Step.trans {a b c : View} (h1 : Step a b) (h2 : Step b c) : Step a c :=
  ⟨fun h => (h1.ext h).trans (h2.ext (h1.wf h)), fun h => h2.wf (h1.wf h),
   fun hn => h2.nec (h1.nec hn)⟩

/-! ### a plain node -/

theorem step_push {v : View} (k : Kind) (cs : List Nat) (ho : OOB v) (hk : KindPlain k) :
    Step v (v.push k cs) := by
  refine ⟨fun _ => Ext.push v k cs, fun h => ?_, fun hn => push_step k cs hn ho (Or.inl hk)⟩
  have hkind : ∀ m, ((v.push k cs).rn m).kind = (v.rn m).kind ∨ ((v.push k cs).rn m).kind = k := by
    intro m
    by_cases hm : m = v.size
    · right; simp [View.push, hm]
    · left; simp [View.push, hm]
  refine ⟨?_, ?_⟩
  · intro n b h1
    rcases hkind n with h2 | h2
    · rw [h2] at h1; exact h.bl n b h1
    · rw [h2] at h1; subst h1; exact False.elim hk
  · intro n e h1
    rcases hkind n with h2 | h2
    · rw [h2] at h1; exact h.ex n e h1
    · rw [h2] at h1; subst h1; exact False.elim hk

/-! ### an expert record and its node -/

/-- the view after pushing an expert record without children -/
def View.addE (v : View) : View := { v with ne := v.ne + 1 }

theorem necV_addE {v : View} (h : NecV v) : NecV v.addE :=
  ⟨⟨h.dbg, h.e1, h.e3v, h.e4,
    { h.k with exLt := fun n e h1 => Nat.lt_succ_of_lt (h.k.exLt n e h1) }, h.chv⟩, h.nobad⟩

theorem OOB_addE {v : View} (ho : OOB v) : OOB v.addE := ho

theorem step_addE (v : View) : Step v v.addE :=
  ⟨fun _ => ⟨Nat.le_refl _, Nat.le_refl _, Nat.le_succ _, rfl, fun _ _ => rfl, fun _ _ => rfl, fun _ _ => rfl⟩,
   fun h => ⟨h.bl, fun n e h1 => Nat.lt_succ_of_lt (h.ex n e h1)⟩,
   fun h => necV_addE h⟩

theorem step_pushE {v : View} (cs : List Nat) (ho : OOB v) :
    Step v (v.addE.push (.expert v.ne) cs) := by
  refine ⟨fun h => ((step_addE v).ext h).trans (Ext.push _ _ _), fun h => ?_, fun hn => ?_⟩
  · have hkind : ∀ m, ((v.addE.push (.expert v.ne) cs).rn m).kind = (v.rn m).kind ∨
        ((v.addE.push (.expert v.ne) cs).rn m).kind = .expert v.ne := by
      intro m
      by_cases hm : m = v.size
      · right; simp [View.push, View.addE, hm]
      · left; simp [View.push, View.addE, hm]
    refine ⟨?_, ?_⟩
    · intro n b h1
      rcases hkind n with h2 | h2
      · rw [h2] at h1; exact h.bl n b h1
      · rw [h2] at h1; cases h1
    · intro n e h1
      rcases hkind n with h2 | h2
      · rw [h2] at h1; exact Nat.lt_succ_of_lt (h.ex n e h1)
      · rw [h2] at h1; injection h1 with h1; subst h1; exact Nat.lt_succ_self _
  · refine push_step _ cs (necV_addE hn) (OOB_addE ho) (Or.inr ⟨v.ne, rfl, Nat.lt_succ_self _, ?_⟩)
    intro m hk
    exact Nat.lt_irrefl _ (hn.k.exLt m _ hk)

/-- the view after appending an edge to `lc` to expert record `e` -/
def View.appCh (v : View) (e lc : Nat) : View :=
  { v with ch := fun m => if (v.rn m).valid = true ∧ (v.rn m).kind = .expert e ∧ e < v.ne
                          then v.ch m ++ [lc] else v.ch m }

theorem OOB_appCh {v : View} (e lc : Nat) (ho : OOB v) : OOB (v.appCh e lc) := by
  intro m hm
  obtain ⟨h1, h2⟩ := ho m hm
  refine ⟨h1, ?_⟩
  simp only [View.appCh]
  rw [if_neg, h2]
  rintro ⟨-, hk, -⟩
  rw [h1] at hk; cases hk

theorem appCh_necV {v : View} (e lc : Nat) (h : NecV v) : NecV (v.appCh e lc) := by
  refine ⟨⟨h.dbg, ?_, h.e3v, h.e4, h.k.congr (fun _ => rfl) rfl rfl rfl, ?_⟩, h.nobad⟩
  · intro c p i hm
    have := h.e1 c p i hm
    simp only [View.appCh]
    split
    · have hlt : i < (v.ch p).length := by
        rcases Nat.lt_or_ge i (v.ch p).length with h1 | h1
        · exact h1
        · rw [List.getElem?_eq_none h1] at this; cases this
      rw [List.getElem?_append_left hlt]; exact this
    · exact this
  · intro m hm
    simp only [View.appCh]
    rw [if_neg]
    · exact h.chv m hm
    · rintro ⟨hv, -⟩
      have hm' : (v.rn m).valid = false := hm
      rw [hm'] at hv; cases hv

/-- appending an edge to an expert record that did not exist in `v` -/
theorem Step.appCh {v w : View} (e lc : Nat) (h : Step v w) (he : v.ne ≤ e) : Step v (w.appCh e lc) := by
  refine ⟨fun hw => ?_, fun hw => ?_, fun hn => appCh_necV e lc (h.nec hn)⟩
  · have hx := h.ext hw
    refine ⟨hx.size, hx.nb, hx.ne, hx.debug, hx.rn, ?_, hx.bmain⟩
    intro m hm
    rw [← hx.ch m hm]
    simp only [View.appCh]
    rw [if_neg]
    rintro ⟨-, hk, -⟩
    rw [hx.rn m hm] at hk
    exact Nat.lt_irrefl _ (Nat.lt_of_lt_of_le (hw.ex m e hk) he)
  · have := h.wf hw
    exact ⟨this.bl, this.ex⟩

/-! ### a bind record and its two nodes -/

/-- the view after `createBind body lhs` (`cs1`, `cs2`: the children of the two new nodes) -/
def View.bindV (v : View) (lhs : Nat) (cs1 cs2 : List Nat) : View :=
  { size := v.size + 2, nb := v.nb + 1, ne := v.ne, debug := v.debug
    rn := fun m => if m = v.size + 1 then ⟨[], false, true, false, .bindMain v.nb v.size⟩
                   else if m = v.size then ⟨[], false, true, false, .bindLhsChange v.nb⟩ else v.rn m
    ch := fun m => if m = v.size + 1 then cs2 else if m = v.size then cs1
                   else if (v.rn m).valid = true ∧ (v.rn m).kind = .bindLhsChange v.nb then [lhs] else v.ch m
    bmain := fun b => if b = v.nb then some (v.size + 1) else v.bmain b }

/-- `createBind` keeps the invariant.  `KindOK.bmHas` is what makes this inductive: with the earlier clause
(`bmain b = some m → kind m = .bindMain b' lc → b' = b`) the state `nodes = #[]`,
`binds = #[{ lhs := 0, body := 0, main := 1 }]` satisfied the invariant and `createBind 0 0` broke it (the
dangling `main = 1` of record 0 then names the main node of the new record 1). -/
theorem nec_bindV {v : View} (lhs : Nat) (cs1 cs2 : List Nat) (h : NecV v) (ho : OOB v) :
    NecV (v.bindV lhs cs1 cs2) := by
  have hS := ho v.size (Nat.le_refl _)
  have hS1 := ho (v.size + 1) (Nat.le_succ _)
  have hne : v.size + 1 ≠ v.size := Nat.succ_ne_self _
  have hnobl : ∀ m, ¬ ((v.rn m).valid = true ∧ (v.rn m).kind = .bindLhsChange v.nb) :=
    fun m hm => Nat.lt_irrefl _ (h.k.blLt m _ hm.2)
  have hother : ∀ m, m ≠ v.size → m ≠ v.size + 1 → (v.bindV lhs cs1 cs2).rn m = v.rn m := by
    intro m h1 h2; simp [View.bindV, h1, h2]
  have hself : (v.bindV lhs cs1 cs2).rn v.size = ⟨[], false, true, false, .bindLhsChange v.nb⟩ := by
    simp [View.bindV]
  have hself1 : (v.bindV lhs cs1 cs2).rn (v.size + 1) = ⟨[], false, true, false, .bindMain v.nb v.size⟩ := by
    simp [View.bindV]
  have hcho : ∀ m, m ≠ v.size → m ≠ v.size + 1 → (v.bindV lhs cs1 cs2).ch m = v.ch m := by
    intro m h1 h2
    simp only [View.bindV, h1, h2, if_false]
    exact if_neg (hnobl m)
  have hflds : ∀ m, ((v.bindV lhs cs1 cs2).rn m).parents = (v.rn m).parents ∧
      ((v.bindV lhs cs1 cs2).rn m).nec = (v.rn m).nec ∧
      ((v.bindV lhs cs1 cs2).rn m).inRch = (v.rn m).inRch ∧
      ((v.bindV lhs cs1 cs2).rn m).valid = (v.rn m).valid := by
    intro m
    by_cases h1 : m = v.size
    · subst h1; rw [hself, hS.1]; exact ⟨rfl, rfl, rfl, rfl⟩
    · by_cases h2 : m = v.size + 1
      · subst h2; rw [hself1, hS1.1]; exact ⟨rfl, rfl, rfl, rfl⟩
      · rw [hother m h1 h2]; exact ⟨rfl, rfl, rfl, rfl⟩
  have hnorec : ∀ c p i, (p, i) ∈ (v.rn c).parents → p ≠ v.size ∧ p ≠ v.size + 1 := by
    intro c p i hm
    have := h.e1 c p i hm
    constructor
    · rintro rfl; rw [hS.2] at this; cases this
    · rintro rfl; rw [hS1.2] at this; cases this
  have hkind : ∀ m, (m = v.size ∧ ((v.bindV lhs cs1 cs2).rn m).kind = .bindLhsChange v.nb) ∨
      (m = v.size + 1 ∧ ((v.bindV lhs cs1 cs2).rn m).kind = .bindMain v.nb v.size) ∨
      (m ≠ v.size ∧ m ≠ v.size + 1 ∧ ((v.bindV lhs cs1 cs2).rn m).kind = (v.rn m).kind) := by
    intro m
    by_cases h1 : m = v.size
    · left; subst h1; rw [hself]; exact ⟨rfl, rfl⟩
    · by_cases h2 : m = v.size + 1
      · right; left; subst h2; rw [hself1]; exact ⟨rfl, rfl⟩
      · right; right; rw [hother m h1 h2]; exact ⟨h1, h2, rfl⟩
  have hbm : ∀ b, b ≠ v.nb → (v.bindV lhs cs1 cs2).bmain b = v.bmain b := by
    intro b hb; simp [View.bindV, hb]
  have hbmn : (v.bindV lhs cs1 cs2).bmain v.nb = some (v.size + 1) := by simp [View.bindV]
  have hold : ∀ m, (m = v.size ∨ m = v.size + 1) → (v.rn m).kind = .const default := by
    rintro m (rfl | rfl)
    · rw [hS.1]
    · rw [hS1.1]
  apply NecV.of
  · refine ⟨h.dbg, ?_, ?_, ?_, ?_, ?_⟩
    · intro c p i hm
      rw [(hflds c).1] at hm
      obtain ⟨h1, h2⟩ := hnorec c p i hm
      rw [hcho p h1 h2]; exact h.e1 c p i hm
    · intro m hm
      rw [(hflds m).2.2.1] at hm; rw [(hflds m).2.2.2]; exact h.e3v m hm
    · intro c; rw [(hflds c).1]; exact h.e4 c
    · have k := h.k
      refine ⟨?_, ?_, ?_, ?_, ?_, ?_, ?_⟩
      · intro n n' b lc lc' h1 h2
        rcases hkind n with ⟨-, g1⟩ | ⟨e1, g1⟩ | ⟨-, -, g1⟩ <;>
          rcases hkind n' with ⟨-, g2⟩ | ⟨e2, g2⟩ | ⟨-, -, g2⟩ <;> rw [g1] at h1 <;> rw [g2] at h2
        all_goals try (cases h1; done)
        all_goals try (cases h2; done)
        · rw [e1, e2]
        · injection h1 with h1 _; subst h1
          exact absurd (k.bmLt n' _ _ h2) (Nat.lt_irrefl _)
        · injection h2 with h2 _; subst h2
          exact absurd (k.bmLt n _ _ h1) (Nat.lt_irrefl _)
        · exact k.bmInj n n' b lc lc' h1 h2
      · intro n b lc h1
        rcases hkind n with ⟨-, g1⟩ | ⟨-, g1⟩ | ⟨-, -, g1⟩ <;> rw [g1] at h1
        · cases h1
        · injection h1 with h1 _; subst h1; exact Nat.lt_succ_self _
        · exact Nat.lt_succ_of_lt (k.bmLt n b lc h1)
      · intro n n' e h1 h2
        rcases hkind n with ⟨-, g1⟩ | ⟨-, g1⟩ | ⟨-, -, g1⟩ <;>
          rcases hkind n' with ⟨-, g2⟩ | ⟨-, g2⟩ | ⟨-, -, g2⟩ <;> rw [g1] at h1 <;> rw [g2] at h2
        all_goals try (cases h1; done)
        all_goals try (cases h2; done)
        exact k.exInj n n' e h1 h2
      · intro n e h1
        rcases hkind n with ⟨-, g1⟩ | ⟨-, g1⟩ | ⟨-, -, g1⟩ <;> rw [g1] at h1
        · cases h1
        · cases h1
        · exact k.exLt n e h1
      · intro b m h1
        by_cases hb : b = v.nb
        · subst hb
          rw [hbmn] at h1; injection h1 with h1; subst h1
          exact ⟨v.size, by rw [hself1]⟩
        · rw [hbm b hb] at h1
          obtain ⟨lc, hk⟩ := k.bmHas b m h1
          refine ⟨lc, ?_⟩
          rcases hkind m with ⟨e1, -⟩ | ⟨e1, -⟩ | ⟨-, -, g1⟩
          · rw [hold m (Or.inl e1)] at hk; cases hk
          · rw [hold m (Or.inr e1)] at hk; cases hk
          · rw [g1]; exact hk
      · intro m b lc h1
        rcases hkind m with ⟨-, g1⟩ | ⟨e1, g1⟩ | ⟨-, -, g1⟩ <;> rw [g1] at h1
        · cases h1
        · injection h1 with h1 _; subst h1; rw [hbmn, e1]
        · have hb : b ≠ v.nb := fun e => by
            subst e; exact Nat.lt_irrefl _ (k.bmLt m _ lc h1)
          rw [hbm b hb]; exact k.bmOf m b lc h1
      · intro n b h1
        rcases hkind n with ⟨-, g1⟩ | ⟨-, g1⟩ | ⟨-, -, g1⟩ <;> rw [g1] at h1
        · injection h1 with h1; subst h1; exact Nat.lt_succ_self _
        · cases h1
        · exact Nat.lt_succ_of_lt (k.blLt n b h1)
    · intro m hm
      rw [(hflds m).2.2.2] at hm
      have h1 : m ≠ v.size := by rintro rfl; rw [hS.1] at hm; cases hm
      have h2 : m ≠ v.size + 1 := by rintro rfl; rw [hS1.1] at hm; cases hm
      rw [hcho m h1 h2]; exact h.chv m hm
  · intro c p i hm
    rw [(hflds c).1] at hm; rw [(hflds p).2.1]; exact h.e2 c p i hm
  · intro m hm
    rw [(hflds m).2.2.1] at hm; rw [(hflds m).2.1]; exact (h.e3 m hm).1

theorem step_bindV {v : View} (lhs : Nat) (cs1 cs2 : List Nat) (ho : OOB v) :
    Step v (v.bindV lhs cs1 cs2) := by
  refine ⟨fun hw => ?_, fun hw => ?_, fun hn => nec_bindV lhs cs1 cs2 hn ho⟩
  · refine ⟨Nat.le_add_right _ _, Nat.le_succ _, Nat.le_refl _, rfl, ?_, ?_, ?_⟩
    · intro m hm
      have h1 : m ≠ v.size := Nat.ne_of_lt hm
      have h2 : m ≠ v.size + 1 := Nat.ne_of_lt (Nat.lt_succ_of_lt hm)
      simp [View.bindV, h1, h2]
    · intro m hm
      have h1 : m ≠ v.size := Nat.ne_of_lt hm
      have h2 : m ≠ v.size + 1 := Nat.ne_of_lt (Nat.lt_succ_of_lt hm)
      simp only [View.bindV, h1, h2, if_false]
      exact if_neg (fun hh => Nat.lt_irrefl _ (hw.bl m _ hh.2))
    · intro b hb
      have : b ≠ v.nb := Nat.ne_of_lt hb
      simp [View.bindV, this]
  · have hkind : ∀ m, ((v.bindV lhs cs1 cs2).rn m).kind = .bindLhsChange v.nb ∨
        ((v.bindV lhs cs1 cs2).rn m).kind = .bindMain v.nb v.size ∨
        ((v.bindV lhs cs1 cs2).rn m).kind = (v.rn m).kind := by
      intro m
      by_cases h2 : m = v.size + 1
      · right; left; simp [View.bindV, h2]
      · by_cases h1 : m = v.size
        · left; simp [View.bindV, h1]
        · right; right; simp [View.bindV, h1, h2]
    refine ⟨?_, ?_⟩
    · intro n b h1
      rcases hkind n with g | g | g <;> rw [g] at h1
      · injection h1 with h1; subst h1; exact Nat.lt_succ_self _
      · cases h1
      · exact Nat.lt_succ_of_lt (hw.bl n b h1)
    · intro n e h1
      rcases hkind n with g | g | g <;> rw [g] at h1
      · cases h1
      · cases h1
      · exact hw.ex n e h1

/-! ## state level: record tables -/

theorem mkView_pushE (nodes : Array Node) (binds : Array BindRec) (experts : Array ExpertRec) (d : Bool)
    (x : ExpertRec) (hx : x.children = []) :
    mkView nodes binds (experts.push x) d = (mkView nodes binds experts d).addE := by
  simp only [mkView, View.addE, Array.size_push, View.mk.injEq, true_and, and_true]
  funext m
  cases hk : (nodeAt nodes m).kind? with
  | none => rfl
  | some kd =>
    cases kd <;> try rfl
    rename_i e
    simp only [chK, Array.getElem?_push]
    by_cases he : e = experts.size
    · subst he
      simp [hx]
    · simp [he]

theorem mkView_appCh (nodes : Array Node) (binds : Array BindRec) (experts : Array ExpertRec) (d : Bool)
    (e : Nat) (ed : ExpertEdge) (fs : Bool) :
    mkView nodes binds (experts.modify e fun r => { r with children := r.children ++ [ed], forceStale := fs }) d
      = (mkView nodes binds experts d).appCh e ed.child := by
  simp only [mkView, View.appCh, Array.size_modify, View.mk.injEq, true_and, and_true]
  funext m
  suffices h : ∀ nd : Node, chK nd.kind? binds
      (experts.modify e fun r => { r with children := r.children ++ [ed], forceStale := fs }) =
      if (rel nd).valid = true ∧ (rel nd).kind = .expert e ∧ e < experts.size
      then chK nd.kind? binds experts ++ [ed.child] else chK nd.kind? binds experts from h _
  intro nd
  simp only [rel, Node.kind?]
  by_cases hv : nd.valid = true
  · simp only [hv, if_true, true_and]
    cases hk : nd.kind <;> simp [chK]
    rename_i e'
    simp only [Array.getElem?_modify]
    by_cases he : e' = e
    · subst he
      cases hx : experts[e']? with
      | none =>
        have : ¬ e' < experts.size := by
          intro hlt
          rw [Array.getElem?_eq_getElem hlt] at hx; cases hx
        simp [this]
      | some er =>
        have : e' < experts.size := (Array.getElem?_eq_some_iff.1 hx).1
        simp [this]
    · have he' : ¬ e = e' := fun h => he h.symm
      simp [he, he']
  · simp [hv, chK]

/-- the view after pushing a bind record without right-hand side -/
def View.addB (v : View) (lhs main : Nat) : View :=
  { v with nb := v.nb + 1
           ch := fun m => if (v.rn m).valid = true ∧ (v.rn m).kind = .bindLhsChange v.nb then [lhs] else v.ch m
           bmain := fun b => if b = v.nb then some main else v.bmain b }

theorem mkView_pushB (nodes : Array Node) (binds : Array BindRec) (experts : Array ExpertRec) (d : Bool)
    (r : BindRec) (hr : r.rhs = none) :
    mkView nodes (binds.push r) experts d = (mkView nodes binds experts d).addB r.lhs r.main := by
  simp only [mkView, View.addB, Array.size_push, View.mk.injEq, true_and, and_true]
  constructor
  · funext m
    suffices h : ∀ nd : Node, chK nd.kind? (binds.push r) experts =
        if (rel nd).valid = true ∧ (rel nd).kind = .bindLhsChange binds.size then [r.lhs]
        else chK nd.kind? binds experts from h _
    intro nd
    simp only [rel, Node.kind?]
    by_cases hv : nd.valid = true
    · simp only [hv, if_true, true_and]
      cases hk : nd.kind <;> simp [chK]
      · rename_i b
        simp only [Array.getElem?_push]
        by_cases hb : b = binds.size
        · simp [hb]
        · simp [hb]
      · rename_i b lc
        simp only [Array.getElem?_push]
        by_cases hb : b = binds.size
        · simp [hb, hr]
        · simp [hb]
    · simp [hv, chK]
  · funext b
    simp only [Array.getElem?_push]
    by_cases hb : b = binds.size
    · simp [hb]
    · simp [hb]

/-- the view after writing the `main` field of bind record `b` -/
def View.setBmain (v : View) (b main : Nat) : View :=
  { v with bmain := fun x => if x = b ∧ b < v.nb then some main else v.bmain x }

theorem mkView_setBmain (nodes : Array Node) (binds : Array BindRec) (experts : Array ExpertRec) (d : Bool)
    (b lc main : Nat) :
    mkView nodes (binds.modify b fun x => { x with lhsChange := lc, main := main }) experts d
      = (mkView nodes binds experts d).setBmain b main := by
  simp only [mkView, View.setBmain, Array.size_modify, View.mk.injEq, true_and, and_true]
  constructor
  · funext m
    apply chK_binds_congr
    intro b'
    simp only [Array.getElem?_modify]
    split
    · cases binds[b']? <;> simp
    · rfl
  · funext b'
    simp only [Array.getElem?_modify]
    by_cases hb : b = b'
    · subst hb
      cases hx : binds[b]? with
      | none =>
        have : ¬ b < binds.size := by
          intro hlt
          rw [Array.getElem?_eq_getElem hlt] at hx; cases hx
        simp [this]
      | some er =>
        have : b < binds.size := (Array.getElem?_eq_some_iff.1 hx).1
        simp [this]
    · have hb' : ¬ b' = b := fun h => hb h.symm
      simp [hb, hb']

theorem bindV_eq (v : View) (lhs : Nat) (cs1 cs2 : List Nat) :
    (((v.addB lhs 0).push (.bindLhsChange v.nb) cs1).push (.bindMain v.nb v.size) cs2).setBmain v.nb (v.size + 1)
      = v.bindV lhs cs1 cs2 := by
  simp only [View.setBmain, View.push, View.addB, View.bindV, View.mk.injEq, true_and, and_true]
  refine ⟨?_, ?_, ?_⟩
  · funext m
    by_cases h2 : m = v.size + 1
    · simp [h2]
    · by_cases h1 : m = v.size
      · simp [h1]
      · simp [h1, h2]
  · funext m
    by_cases h2 : m = v.size + 1
    · simp [h2]
    · by_cases h1 : m = v.size
      · simp [h1]
      · simp [h1, h2]
  · funext b
    by_cases hb : b = v.nb
    · simp [hb]
    · simp [hb]

/-! ## `createBind` -/

theorem state_nb (s : State) : s.binds.size = (viewOf s).nb := rfl
theorem state_ne (s : State) : s.experts.size = (viewOf s).ne := rfl

/-- `createBind` is treated atomically: between its steps the `main` entry of the new record is `0` -/
theorem createBind_raw (v : View) (body lhs : Nat) :
    ⦃fun s => ⌜viewOf s = v⌝⦄ createBind body lhs
    ⦃post⟨fun r s => ⌜r = v.size + 1 ∧ ∃ cs1 cs2, viewOf s = v.bindV lhs cs1 cs2⌝, fun _ _ => ⌜True⌝⟩⦄ := by
  nv_mvcgen [createBind, -modBind_v, modBind]
  all_goals (try simp +zetaDelta only [viewOf] at *)
  all_goals (try simp only [mkView_pushB, mkView_setBmain] at *)
  all_goals (try simp only [← viewOf_def] at *)
  split_ands
  simp only [state_nb] at *
  simp_all only []
  exact ⟨rfl, _, _, bindV_eq v lhs _ _⟩

/-! ## chaining -/

theorem Step.push {v w : View} (k : Kind) (cs : List Nat) (h : Step v w) (ho : OOB w) (hk : KindPlain k) :
    Step v (w.push k cs) := h.trans (step_push k cs ho hk)

theorem Step.pushE {v w : View} (cs : List Nat) (h : Step v w) (ho : OOB w) :
    Step v (w.addE.push (.expert w.ne) cs) := h.trans (step_pushE cs ho)

theorem Step.bindV {v w : View} (lhs : Nat) (cs1 cs2 : List Nat) (h : Step v w) (ho : OOB w) :
    Step v (w.bindV lhs cs1 cs2) := h.trans (step_bindV lhs cs1 cs2 ho)

theorem mkView_setNode (nodes : Array Node) (binds : Array BindRec) (experts : Array ExpertRec) (d : Bool)
    (e n : Nat) :
    mkView nodes binds (experts.modify e fun x => { x with node := n }) d = mkView nodes binds experts d :=
  mkView_modExpert_frame _ _ _ _ _ _ (fun _ => rfl)

/-- every fact through the entry view, record tables included -/
macro "vsimp'" : tactic =>
  `(tactic| ((try simp +zetaDelta only [viewOf] at *)
             (try simp only [mkView_pushE, mkView_appCh, mkView_setNode] at *)
             (try simp only [← viewOf_def] at *)
             (try simp only [state_nb, state_ne] at *)
             vsimp))

/-- closes `Step v (v.push … .push …)` and its side conditions -/
macro "step_auto" : tactic =>
  `(tactic| (repeat' (first
               | exact Step.refl _
               | assumption
               | exact OOB_of_eq (by assumption)
               | apply Step.pushE
               | apply Step.push
               | apply Step.bindV
               | apply Step.appCh
               | apply OOB_push
               | apply OOB_addE
               | apply OOB_appCh
               | exact Nat.le_refl _
               | trivial)))

/-! ## `elabInstr` -/

theorem elabInstr_s (v : View) (loc : List Nat) (lv : Val) (i : Instr) :
    ⦃fun s => ⌜viewOf s = v⌝⦄ elabInstr loc lv i
    ⦃post⟨fun _ s => ⌜Step v (viewOf s)⌝, fun _ _ => ⌜True⌝⟩⦄ := by
  have hb := createBind_raw
  nv_mvcgen [elabInstr, hb, -modExpert_v, modExpert]
  all_goals vsimp'
  all_goals try (intro x; rfl)
  all_goals (intros; vsimp; step_auto)

/-! ## templates -/

/-- loop invariant of the template loops -/
def TInv {α β} (_l : List α) (v0 : View) (_done : List α) (_b : β) (v : View) : Prop := Step v0 v

theorem tinv_fin {v w : View} (h : ∀ v0 : View, Step v0 v → Step v0 w) : Step v w := h v (Step.refl v)

theorem elabTemplateBase_s (v : View) (t : Template) (lv : Val) (init : List Nat) :
    ⦃fun s => ⌜viewOf s = v⌝⦄ elabTemplateBase t lv init
    ⦃post⟨fun _ s => ⌜Step v (viewOf s)⌝, fun _ _ => ⌜True⌝⟩⦄ := by
  have hl := fun (l : List Instr) (init : List Nat) f => forIn_view l init f TInv
  have hi := elabInstr_s
  nv_mvcgen [elabTemplateBase, -Spec.forIn_list, hl, hi]
  all_goals clear hl hi
  all_goals vsimp
  all_goals first
    | (refine ⟨⟨_, rfl⟩, ?_⟩
       intro v0 b' _ hinv
       exact Step.trans hinv ‹Step _ _›)
    | (intro _; exact tinv_fin (by assumption))
theorem memoCall_s (v : View) (env : Env) (m : Nat) (key : Int) :
    ⦃fun s => ⌜viewOf s = v⌝⦄ memoCall env m key
    ⦃post⟨fun _ s => ⌜Step v (viewOf s)⌝, fun _ _ => ⌜True⌝⟩⦄ := by
  have ht := elabTemplateBase_s
  nv_mvcgen [memoCall, ht]
  all_goals clear ht
  all_goals vsimp
  all_goals exact Step.refl _

theorem elabInstrM_s (v : View) (env : Env) (loc : List Nat) (lv : Val) (i : Instr) :
    ⦃fun s => ⌜viewOf s = v⌝⦄ elabInstrM env loc lv i
    ⦃post⟨fun _ s => ⌜Step v (viewOf s)⌝, fun _ _ => ⌜True⌝⟩⦄ := by
  have hm := memoCall_s
  have hi := elabInstr_s
  nv_mvcgen [elabInstrM, hm, hi]

theorem elabTemplate_s (v : View) (env : Env) (t : Template) (lv : Val) :
    ⦃fun s => ⌜viewOf s = v⌝⦄ elabTemplate env t lv
    ⦃post⟨fun _ s => ⌜Step v (viewOf s)⌝, fun _ _ => ⌜True⌝⟩⦄ := by
  have hl := fun (l : List Instr) (init : List Nat) f => forIn_view l init f TInv
  have hi := elabInstrM_s
  nv_mvcgen [elabTemplate, -Spec.forIn_list, hl, hi]
  all_goals clear hl hi
  all_goals vsimp
  all_goals first
    | (refine ⟨⟨_, rfl⟩, ?_⟩
       intro v0 b' _ hinv
       exact Step.trans hinv ‹Step _ _›)
    | (intro _; exact tinv_fin (by assumption))

/-! ## the registered specifications -/

theorem Step.toCP {v w : View} (h : Step v w) : NecV v → Ext v w ∧ NecV w :=
  fun hn => ⟨h.ext hn.wf, h.nec hn⟩

theorem Step.toCPost {v w : View} (h : Step v w) (hw : WF v) : CPost v w := ⟨h.ext hw, h.nec⟩

/-- `x` called from a state satisfying the invariant only extends the view and keeps the invariant -/
abbrev CP {α} (v : View) (x : M α) : Prop :=
  ⦃fun s => ⌜viewOf s = v⌝⦄ x
  ⦃post⟨fun _ s => ⌜NecV v → Ext v (viewOf s) ∧ NecV (viewOf s)⌝, fun _ _ => ⌜True⌝⟩⦄

theorem CP.of_step {α} {v : View} {x : M α}
    (h : ⦃fun s => ⌜viewOf s = v⌝⦄ x ⦃post⟨fun _ s => ⌜Step v (viewOf s)⌝, fun _ _ => ⌜True⌝⟩⦄) : CP v x := by
  nv_mvcgen [h]
  exact fun hs => hs.toCP

theorem createBind_s (v : View) (body lhs : Nat) :
    ⦃fun s => ⌜viewOf s = v⌝⦄ createBind body lhs
    ⦃post⟨fun _ s => ⌜Step v (viewOf s)⌝, fun _ _ => ⌜True⌝⟩⦄ := by
  have hb := createBind_raw
  nv_mvcgen [hb]
  intros
  vsimp
  exact step_bindV _ _ _ (OOB_of_eq (by assumption))

@[spec 100000] theorem createBind_v (v : View) (body lhs : Nat) : CP v (createBind body lhs) :=
  CP.of_step (createBind_s v body lhs)
@[spec 100000] theorem elabInstr_v (v : View) (loc : List Nat) (lv : Val) (i : Instr) :
    CP v (elabInstr loc lv i) := CP.of_step (elabInstr_s v loc lv i)
@[spec 100000] theorem elabTemplateBase_v (v : View) (t : Template) (lv : Val) (init : List Nat) :
    CP v (elabTemplateBase t lv init) := CP.of_step (elabTemplateBase_s v t lv init)
@[spec 100000] theorem memoCall_v (v : View) (env : Env) (m : Nat) (key : Int) : CP v (memoCall env m key) :=
  CP.of_step (memoCall_s v env m key)
@[spec 100000] theorem elabInstrM_v (v : View) (env : Env) (loc : List Nat) (lv : Val) (i : Instr) :
    CP v (elabInstrM env loc lv i) := CP.of_step (elabInstrM_s v env loc lv i)
@[spec 100000] theorem elabTemplate_v (v : View) (env : Env) (t : Template) (lv : Val) :
    CP v (elabTemplate env t lv) := CP.of_step (elabTemplate_s v env t lv)

/-! ## `expertAddDependency` -/

@[spec 200000] theorem modExpert_app_v (v : View) (e : Nat) (edge : ExpertEdge) :
    ⦃fun s => ⌜viewOf s = v⌝⦄
    modExpert e (fun x => { x with children := x.children ++ [edge], forceStale := true })
    ⦃post⟨fun _ s => ⌜viewOf s = v.mapChE e (· ++ [edge.child])⌝, fun _ _ => ⌜True⌝⟩⦄ := by
  nv_mvcgen [-modExpert_v, modExpert]
  vnorm
  rw [← ‹mkView _ _ _ _ = v›]
  exact mkView_modExpert_ch _ _ _ _ e _ _ (by intro x; simp)

/-- appending a child to an expert record keeps the invariant -/
theorem necV_appCh {v : View} (e c : Nat) (h : NecV v) : NecV (v.mapChE e (· ++ [c])) := by
  apply necV_mapChE e _ h
  intro m c' i _ _ hm
  have := h.e1 c' m i hm
  rw [List.getElem?_append_left (lt_of_getElem?_some this)]
  exact this

theorem ead_pre {v : View} {n e c : Nat} {cs : List ExpertEdge} (h : NecV v)
    (hv : (v.rn n).valid = true) (hk : (v.rn n).kind = .expert e) (he : e < v.ne)
    (hch : v.ch n = cs.map (·.child)) :
    NecV (v.mapChE e (· ++ [c])) ∧ ((v.mapChE e (· ++ [c])).ch n)[cs.length]? = some c ∧
      (n, cs.length) ∉ ((v.mapChE e (· ++ [c])).rn c).parents := by
  refine ⟨necV_appCh e c h, ?_, ?_⟩
  · simp [View.mapChE, hv, hk, he, hch]
  · intro hm
    have hm' : (n, cs.length) ∈ (v.rn c).parents := hm
    have := h.e1 c n cs.length hm'
    rw [hch] at this
    simp at this


@[spec 100000] theorem expertAddDependency_v (v : View) (env : Env) (fuel n child : Nat) (cb : Bool) :
    NP v (expertAddDependency env fuel n child cb) := by
  have hge := getExpert_x
  nv_mvcgen [expertAddDependency, -getExpert_v, hge]
  all_goals vsimp
  all_goals first
    | (intros; trivial)
    | exact fun h => necV_appCh _ _ h
    | (intro hN
       obtain ⟨hv, hk, -⟩ := ‹∀ e, some _ = some e → _› _ rfl
       have hch := ‹∀ m, (v.rn m).valid = true → (v.rn m).kind = Kind.expert _ → v.ch m = _› n hv hk
       obtain ⟨h1, h2, h3⟩ := ead_pre (c := child) hN hv hk ‹_ < v.ne› hch
       have hN2 := ‹NecV (v.mapChE _ _) → _ → _ → NecV _› h1 h2 h3
       first
         | exact hN2
         | exact necV_ins hN2 (fun d => (‹_ = true → _ ∧ _› d).1) (fun d => (‹_ = true → _ ∧ _› d).2))

/-! ## var writes, observers, effects of user code (basic) -/

/-- closes the goals left after `vsimp` by chaining the facts in the context -/
macro "nv_fin" : tactic =>
  `(tactic| all_goals first
      | done
      | (intros; trivial)
      | (intro x; rfl)
      | (intros; (try simp only [APost, BNPost, IPost] at *); grind [necV_ins]))

@[spec 100000] theorem didSetVarWhileNotStabilising_v (v : View) (x : Nat) :
    NP v (didSetVarWhileNotStabilising x) := by
  nv_mvcgen [didSetVarWhileNotStabilising]
  all_goals vsimp
  nv_fin

@[spec 100000] theorem writeVar_v (v : View) (x : Nat) (f : Val → Val) (isSet : Bool) :
    NP v (writeVar x f isSet) := by
  nv_mvcgen [writeVar]
  all_goals vsimp
  nv_fin

@[spec 100000] theorem disallowFutureUse_v (v : View) (o : Nat) : VF v (disallowFutureUse o) := by
  nv_mvcgen [disallowFutureUse]
  vf_fin

@[spec 100000] theorem subscribe_v (v : View) (o hid : Nat) : VF v (subscribe o hid) := by
  nv_mvcgen [subscribe]
  vf_fin

@[spec 100000] theorem unsubscribe_v (v : View) (o token owner : Nat) : VF v (unsubscribe o token owner) := by
  nv_mvcgen [unsubscribe]
  vf_fin

@[spec 100000] theorem mapConst_np {α β : Type} (v : View) (b : β) (x : M α) (hx : NP v x) :
    NP v (Functor.mapConst b x) := by
  rw [LawfulFunctor.map_const]
  simp only [Function.comp_apply]
  nv_mvcgen [hx]

/-- dropping a `Var` handle touches `vars` and `deadVars` only: the view is unchanged -/
@[spec 100000] theorem dropVarHandle_v (v : View) (x : Nat) : VF v (dropVarHandle x) := by
  nv_mvcgen [dropVarHandle]
  vf_fin

/-- `withVarHandle x act` is `act` or a no-op -/
theorem withVarHandle_np (v : View) (x : Nat) (act : M Unit) (h : NP v act) :
    NP v (withVarHandle x act) := by
  nv_mvcgen [withVarHandle, h]
  all_goals vsimp
  nv_fin

theorem discard_np {α : Type} (v : View) (x : M α) (h : NP v x) : NP v (discard x) := by
  nv_mvcgen [Functor.discard, h]

@[spec 100000] theorem runEffectBasic_v (v : View) (env : Env) (e : Effect) : NP v (runEffectBasic env e) := by
  cases e with
  | setVar x a =>
    simp only [runEffectBasic]
    exact withVarHandle_np v x _ (discard_np v _ (writeVar_v _ _ _ _))
  | modifyVar x a =>
    simp only [runEffectBasic]
    exact withVarHandle_np v x _ (discard_np v _ (writeVar_v _ _ _ _))
  | updateVar x a =>
    simp only [runEffectBasic]
    exact withVarHandle_np v x _ (discard_np v _ (writeVar_v _ _ _ _))
  | replaceVar x a =>
    simp only [runEffectBasic]
    apply withVarHandle_np
    nv_mvcgen [Functor.discard]
    all_goals vsimp
    nv_fin
  | replaceWithVar x a =>
    simp only [runEffectBasic]
    apply withVarHandle_np
    nv_mvcgen [Functor.discard]
    all_goals vsimp
    nv_fin
  | dropVar x =>
    nv_mvcgen [runEffectBasic, Functor.discard]
    all_goals vsimp
    nv_fin
  | _ =>
    nv_mvcgen [runEffectBasic, Functor.discard]
    all_goals vsimp
    nv_fin


/-! ## recompute: helpers -/

@[spec 100000] theorem valueUnwrap_v (v : View) (env : Env) (n : Nat) (site : String) :
    VF v (valueUnwrap env n site) := by
  nv_mvcgen [valueUnwrap]
  vf_fin

@[spec 100000] theorem expertIdxRaw_v (v : View) (n : Nat) : VF v (expertIdxRaw n) := by
  nv_mvcgen [expertIdxRaw]
  vf_fin

@[spec 100000] theorem expertValue_v (v : View) (env : Env) (e : Nat) (d sl : List (Option Val)) :
    VF v (expertValue env e d sl) := by
  nv_mvcgen [expertValue]
  vf_fin

@[spec 100000] theorem withOldEvents_v (v : View) (env : Env) (g n : Nat) (σ : Val) (old : Option Val)
    (x new : Val) (did : Bool) : VF v (withOldEvents env g n σ old x new did) := by
  nv_mvcgen [withOldEvents, -Spec.forIn_list, forIn_vf]
  vf_fin

@[spec 100000] theorem childChanged_v (v : View) (env : Env) (fuel p c ci : Nat) (o : Option Val) :
    VF v (childChanged env fuel p c ci o) := by
  induction fuel generalizing v p c ci o with
  | zero => nv_mvcgen [childChanged]
  | succ fuel ih =>
    nv_mvcgen [childChanged, ih, -Spec.forIn_list, forIn_vf]
    vf_fin

/-- what the recompute steps do to the view: the invariant is kept, parent lists and necessity only grow -/
def MPost (v v' : View) : Prop := NecV v → NecV v' ∧ LRel v v'

theorem MPost.refl (v : View) : MPost v v := fun h => ⟨h, LRel.refl v⟩

theorem MPost.ins {v : View} {n : Nat} (h1 : v.debug = true → (v.rn n).nec = true)
    (h2 : v.debug = true → (v.rn n).valid = true) : MPost v (v.setInRch n true) := by
  intro h
  obtain ⟨g1, g2, -⟩ := setRch_step n h (h1 h.dbg) (h2 h.dbg)
  exact ⟨g1, g2⟩

theorem MPost.trans {a b c : View} (h1 : MPost a b) (h2 : MPost b c) : MPost a c := by
  intro h
  obtain ⟨g1, r1⟩ := h1 h
  obtain ⟨g2, r2⟩ := h2 g1
  exact ⟨g2, r1.trans r2⟩

@[spec 100000] theorem parentIterCanRecomputeNow_v (v : View) (p child : Nat) :
    ⦃fun s => ⌜viewOf s = v⌝⦄ parentIterCanRecomputeNow p child
    ⦃post⟨fun r s => ⌜MPost v (viewOf s) ∧ (r = true → viewOf s = v ∧ (v.rn p).valid = true)⌝,
      fun _ _ => ⌜True⌝⟩⦄ := by
  nv_mvcgen [parentIterCanRecomputeNow]
  all_goals vsimp
  all_goals first
    | exact ⟨MPost.refl v, by simp⟩
    | exact ⟨MPost.refl v, (kindq_eq (by assumption)).1⟩
    | exact ⟨MPost.ins (by grind) (by grind), by simp⟩


/-- result of `maybeChangeValue…`: the invariant is kept and the node handed back for direct recomputation
is necessary and valid -/
def MVPost (r : Option Nat) (v v' : View) : Prop :=
  NecV v → NecV v' ∧ LRel v v' ∧ ∀ p, r = some p → (v'.rn p).nec = true ∧ (v'.rn p).valid = true

def MLInv (_l : List (Nat × Nat)) (v0 : View) (_done : List (Nat × Nat)) (_b : PUnit.{1}) (v : View) : Prop :=
  MPost v0 v

theorem mv_none {v v' : View} (h : MPost v v') : MVPost none v v' := by
  intro hN
  obtain ⟨h1, h2⟩ := h hN
  exact ⟨h1, h2, fun p hp => by cases hp⟩

theorem mv_some {v v' : View} {n p0 ci0 : Nat} {rest : List (Nat × Nat)} (h : MPost v v')
    (hpar : (v.rn n).parents = (p0, ci0) :: rest) (hval : (v'.rn p0).valid = true) :
    MVPost (some p0) v v' := by
  intro hN
  obtain ⟨h1, h2⟩ := h hN
  refine ⟨h1, h2, fun p hp => ?_⟩
  have : p0 = p := Option.some.inj hp
  subst this
  exact ⟨h2.nec p0 (hN.e2 n p0 ci0 (by rw [hpar]; simp)), hval⟩

@[spec 100000] theorem maybeChangeValueManual_v (v : View) (env : Env) (fuel n : Nat) (o : Option Val) (b1 b2 : Bool) :
    ⦃fun s => ⌜viewOf s = v⌝⦄ maybeChangeValueManual env fuel n o b1 b2
    ⦃post⟨fun r s => ⌜MVPost r v (viewOf s)⌝, fun _ _ => ⌜True⌝⟩⦄ := by
  have hl := fun (l : List (Nat × Nat)) init f => forIn_view l init f MLInv
  nv_mvcgen [maybeChangeValueManual, -Spec.forIn_list, hl]
  all_goals vsimp
  all_goals first
    | exact mv_none (MPost.refl v)
    | (intro x; rfl)
    | (refine ⟨⟨PUnit.unit, trivial⟩, fun v0 b' hinv => MPost.trans hinv ?_⟩
       first | exact MPost.refl _ | exact MPost.ins (by grind) (by grind))
    | (have hloop := ‹∀ v0, MLInv _ v0 [] PUnit.unit v → MLInv _ v0 _ _ _› v (MPost.refl v)
       first
         | exact mv_some hloop (by assumption) (‹True → _ ∧ _› trivial).2
         | exact mv_none hloop
         | exact mv_none (hloop.trans (by assumption)))


@[spec 100000] theorem maybeChangeValue_v (v : View) (env : Env) (fuel n : Nat) (new : Val) :
    ⦃fun s => ⌜viewOf s = v⌝⦄ maybeChangeValue env fuel n new
    ⦃post⟨fun r s => ⌜MVPost r v (viewOf s)⌝, fun _ _ => ⌜True⌝⟩⦄ := by
  nv_mvcgen [maybeChangeValue]
  all_goals vsimp
  all_goals first
    | (intro x; rfl)
    | (intro h; exact h)

/-! ### part N15 -/

/-- loop rule: a loop whose body keeps the invariant keeps the invariant -/
theorem forIn_np {α β} (v : View) (l : List α) (init : β) (f : α → β → M (ForInStep β))
    (hf : ∀ a b v, NP v (f a b)) : NP v (forIn l init f) := by
  induction l generalizing init v with
  | nil =>
    simp only [List.forIn_nil]
    nv_mvcgen0
    rename_i h; rw [h]; exact fun h => h
  | cons a l ih =>
    rw [List.forIn_cons]
    have h1 := hf a init
    have ih' := fun b v' (h : NecV v → NecV v') => (ih v' b).comp h
    nv_mvcgen [h1, ih']
    all_goals vsimp
    nv_fin

@[spec 100000] theorem runEffects_v (v : View) (env : Env) (fuel : Nat) (effs : List Effect) (arg : Int) :
    NP v (runEffects env fuel effs arg) := by
  nv_mvcgen [runEffects, -Spec.forIn_list, forIn_np]
  all_goals vsimp
  nv_fin

/-! ## the bind right-hand side changes -/

/-- the view after `rhs := some r` in bind record `b` -/
def View.setRhs (v : View) (b r : Nat) : View :=
  { v with ch := fun m =>
      if (v.rn m).valid = true ∧ b < v.nb then
        (match (v.rn m).kind with
          | .bindMain b' lc => if b' = b then [lc, r] else v.ch m
          | _ => v.ch m)
      else v.ch m }

theorem chK_setRhs (k : Option Kind) (binds : Array BindRec) (experts : Array ExpertRec) (b r : Nat)
    (f : BindRec → BindRec) (hb : b < binds.size)
    (hf : ∀ x, (f x).lhs = x.lhs ∧ (f x).rhs = some r) :
    chK k (binds.modify b f) experts =
      match k with
      | some (.bindMain b' lc) => if b' = b then [lc, r] else chK k binds experts
      | _ => chK k binds experts := by
  cases k with
  | none => rfl
  | some kd =>
    cases kd <;> try rfl
    · rename_i b'
      simp only [chK, Array.getElem?_modify]
      by_cases h : b = b'
      · subst h; simp [Array.getElem?_eq_getElem hb, (hf _).1]
      · simp [h]
    · rename_i b' lc
      simp only [chK, Array.getElem?_modify]
      by_cases h : b' = b
      · subst h; simp [Array.getElem?_eq_getElem hb, (hf _).2]
      · have : ¬ b = b' := fun e => h e.symm
        simp [h, this]

theorem mkView_setRhs (nodes : Array Node) (binds : Array BindRec) (experts : Array ExpertRec) (dbg : Bool)
    (b r : Nat) (f : BindRec → BindRec)
    (hf : ∀ x, (f x).lhs = x.lhs ∧ (f x).rhs = some r ∧ (f x).main = x.main) :
    mkView nodes (binds.modify b f) experts dbg = (mkView nodes binds experts dbg).setRhs b r := by
  by_cases hb : b < binds.size
  · have hch : ∀ m, chK (nodeAt nodes m).kind? (binds.modify b f) experts =
        ((mkView nodes binds experts dbg).setRhs b r).ch m := by
      intro m
      rw [chK_setRhs _ _ _ b r f hb (fun x => ⟨(hf x).1, (hf x).2.1⟩)]
      have hb' : b < binds.size := hb
      generalize hnd : nodeAt nodes m = nd
      have e1 : ((mkView nodes binds experts dbg).rn m) = rel nd := by simp [mkView, hnd]
      have e2 : ((mkView nodes binds experts dbg).ch m) = chK nd.kind? binds experts := by simp [mkView, hnd]
      have e3 : (mkView nodes binds experts dbg).nb = binds.size := rfl
      simp only [View.setRhs, e1, e2, e3]
      cases hv : nd.valid with
      | false => simp [rel, Node.kind?, hv]
      | true =>
        cases hk : nd.kind <;> simp [rel, Node.kind?, hv, hk, hb']
    have hbm : ∀ b' : Nat, (binds.modify b f)[b']?.map (fun (x : BindRec) => x.main) = binds[b']?.map (fun (x : BindRec) => x.main) := by
      intro b'
      simp only [Array.getElem?_modify]
      split
      · cases binds[b']? <;> simp [(hf _).2.2]
      · rfl
    show View.mk _ _ _ _ _ _ _ = View.mk _ _ _ _ _ _ _
    congr 1
    · simp; rfl
    · funext m; exact hch m
    · funext b'; exact hbm b'
  · have hle : binds.size ≤ b := Nat.le_of_not_lt hb
    rw [modify_of_le _ _ _ hle]
    have : ¬ b < (mkView nodes binds experts dbg).nb := hb
    simp only [View.setRhs, this, and_false, if_false]


@[spec 200000] theorem modBind_rhs_v (v : View) (b r : Nat) :
    ⦃fun s => ⌜viewOf s = v⌝⦄ modBind b (fun x => { x with rhs := some r })
    ⦃post⟨fun _ s => ⌜viewOf s = v.setRhs b r⌝, fun _ _ => ⌜True⌝⟩⦄ := by
  nv_mvcgen [-modBind_v, modBind]
  vnorm
  rw [← ‹mkView _ _ _ _ = v›]
  exact mkView_setRhs _ _ _ _ b r _ (fun _ => ⟨rfl, rfl, rfl⟩)

theorem viewOf_bmain (s : State) (b : Nat) (br : BindRec) (h : s.binds[b]? = some br) :
    (viewOf s).bmain b = some br.main := by
  simp [viewOf, mkView, h]

theorem viewOf_ch_bindMain (s : State) (b m lc : Nat) (br : BindRec) (h : s.binds[b]? = some br)
    (hv : ((viewOf s).rn m).valid = true) (hk : ((viewOf s).rn m).kind = .bindMain b lc) :
    (viewOf s).ch m = lc :: br.rhs.toList := by
  have hv' : (nodeAt s.nodes m).valid = true := hv
  have hk' : (nodeAt s.nodes m).kind = .bindMain b lc := hk
  simp only [viewOf, mkView, Node.kind?, hv', hk', chK, h, if_true]
  cases br.rhs <;> rfl

/-- `getBind`, with what the record says about the view -/
theorem getBind_x (v : View) (b : Nat) :
    ⦃fun s => ⌜viewOf s = v⌝⦄ getBind b
    ⦃post⟨fun br s => ⌜viewOf s = v ∧ v.bmain b = some br.main ∧ b < v.nb ∧
        ∀ m lc, (v.rn m).valid = true → (v.rn m).kind = .bindMain b lc → v.ch m = lc :: br.rhs.toList⌝,
      fun _ _ => ⌜True⌝⟩⦄ := by
  nv_mvcgen [-getBind_v, getBind]
  rename_i s h br hbr
  subst h
  exact ⟨rfl, viewOf_bmain s b br hbr, (Array.getElem?_eq_some_iff.1 hbr).1,
    fun m lc hv hk => viewOf_ch_bindMain s b m lc br hbr hv hk⟩


theorem toList_getElem?_zero {α} (o : Option α) (c : α) (h : o.toList[0]? = some c) : o = some c := by
  cases o with
  | none => simp at h
  | some x => simp at h; rw [h]

/-- after the new right-hand side has been written into the bind record, everything `changeChildBindRhs`
asks for holds -/
theorem bind_rhs_pre {v v1 : View} {b main r : Nat} {old : Option Nat}
    (hN : NecV v) (ho : OOB v) (hbm : v.bmain b = some main) (hb : b < v.nb)
    (hch : ∀ m lc, (v.rn m).valid = true → (v.rn m).kind = .bindMain b lc → v.ch m = lc :: old.toList)
    (hext : Ext v v1) (hN1 : NecV v1) :
    NecX (v1.setRhs b r) main 1 old ∧
    (IsBindMain (v1.setRhs b r) main → ((v1.setRhs b r).ch main)[1]? = some r) ∧
    (¬ IsBindMain (v1.setRhs b r) main → NecV (v1.setRhs b r)) ∧
    ((main, 1) ∈ ((v1.setRhs b r).rn r).parents → old = some r) := by
  obtain ⟨lc0, hk0⟩ := hN.k.bmHas b main hbm
  have hmsz : main < v.size := by
    rcases Nat.lt_or_ge main v.size with h | h
    · exact h
    · have := (ho main h).1; rw [this] at hk0; cases hk0
  have hrn1 : v1.rn main = v.rn main := hext.rn main hmsz
  have hch1 : v1.ch main = v.ch main := hext.ch main hmsz
  have hbm1 : v1.bmain b = some main := by rw [hext.bmain b hb]; exact hbm
  have hb1 : b < v1.nb := Nat.lt_of_lt_of_le hb hext.nb
  have hk1 : (v1.rn main).kind = .bindMain b lc0 := by rw [hrn1]; exact hk0
  have huniq : ∀ m lc, (v1.rn m).kind = .bindMain b lc → m = main := by
    intro m lc h
    have := hN1.k.bmOf m b lc h
    rw [hbm1] at this; exact (Option.some.inj this).symm
  have hrn2 : ∀ m, (v1.setRhs b r).rn m = v1.rn m := fun _ => rfl
  have hch2o : ∀ m, m ≠ main → (v1.setRhs b r).ch m = v1.ch m := by
    intro m hm
    simp only [View.setRhs]
    split
    · split
      · rename_i b' lc hk
        split
        · rename_i hb'; subst hb'; exact absurd (huniq m lc hk) hm
        · rfl
      · rfl
    · rfl
  have hch2i : (v1.rn main).valid = false → (v1.setRhs b r).ch main = v1.ch main := by
    intro hv; simp [View.setRhs, hv]
  have hch2v : (v1.rn main).valid = true → (v1.setRhs b r).ch main = [lc0, r] := by
    intro hv; simp [View.setRhs, hv, hb1, hk1]
  have hchold : (v1.rn main).valid = true → v1.ch main = lc0 :: old.toList := by
    intro hv
    rw [hch1]; exact hch main lc0 (by rw [← hrn1]; exact hv) hk0
  have hK : KindOK (v1.setRhs b r) := hN1.k.congr (fun _ => rfl) rfl rfl rfl
  have hchv : ∀ m, ((v1.setRhs b r).rn m).valid = false → (v1.setRhs b r).ch m = [] := by
    intro m hm
    have hm' : (v1.rn m).valid = false := hm
    have : (v1.setRhs b r).ch m = v1.ch m := by simp [View.setRhs, hm']
    rw [this]; exact hN1.chv m hm'
  have hbad : ∀ p, ¬ Bad (v1.setRhs b r) p := fun p hp => hN1.nobad p hp
  refine ⟨⟨hN1.dbg, ?_, hN1.e3v, hN1.e4, hK, hchv, hbad⟩, ?_, ?_, ?_⟩
  · intro c p i hm
    have hm1 : (p, i) ∈ (v1.rn c).parents := hm
    have he := hN1.e1 c p i hm1
    by_cases hp : p = main
    · subst hp
      cases hv : (v1.rn p).valid with
      | false => left; rw [hch2i hv]; exact he
      | true =>
        rw [hchold hv] at he
        rw [hch2v hv]
        match i, he with
        | 0, he => left; simpa using he
        | 1, he => right; exact ⟨rfl, rfl, toList_getElem?_zero old c (by simpa using he)⟩
        | (i+2), he =>
          exfalso
          cases old <;> simp at he
    · left; rw [hch2o p hp]; exact he
  · rintro ⟨hv, -⟩
    rw [hch2v hv]; rfl
  · intro hnb
    have hv : (v1.rn main).valid = false := by
      cases h : (v1.rn main).valid with
      | false => rfl
      | true => exact absurd ⟨h, b, lc0, hk1⟩ hnb
    refine ⟨⟨hN1.dbg, ?_, hN1.e3v, hN1.e4, hK, hchv⟩, hbad⟩
    intro c p i hm
    have he := hN1.e1 c p i hm
    by_cases hp : p = main
    · subst hp; rw [hch2i hv]; exact he
    · rw [hch2o p hp]; exact he
  · intro hm
    have he := hN1.e1 r main 1 hm
    cases hv : (v1.rn main).valid with
    | false => rw [hN1.chv main hv] at he; cases he
    | true =>
      rw [hchold hv] at he
      exact toList_getElem?_zero old r (by simpa using he)

/-! ### part N17 -/

theorem necV_pushE {v : View} (cs : List Nat) (h : NecV v) (ho : OOB v) :
    NecV (v.addE.push (.expert v.ne) cs) :=
  (step_pushE cs ho).nec h

@[spec 100000] theorem perKeyDriver_v (v : View) (env : Env) (fuel op : Nat) (newMap : List (Int × Int)) :
    NP v (perKeyDriver env fuel op newMap) := by
  nv_mvcgen [perKeyDriver, -Spec.forIn_list, forIn_np, Functor.discard]
  all_goals try exact expertAddDependency_v _ _ _ _ _ _
  all_goals vsimp'
  all_goals first
    | (intro x; rfl)
    | (intros; trivial)
    | (intro hN
       have h1 := necV_pushE (by assumption) hN (OOB_of_eq (by assumption))
       grind)

/-- result of `recomputeOne`: the invariant is kept and the node handed back is necessary and valid -/
def RPost (r : Option Nat) (v v' : View) : Prop :=
  NecV v → NecV v' ∧ ∀ p, r = some p → (v'.rn p).nec = true ∧ (v'.rn p).valid = true

theorem rpost_of_mv {r : Option Nat} {v v1 v2 : View} (hmv : MVPost r v1 v2) (h : NecV v → NecV v1) :
    RPost r v v2 := by
  intro hN
  obtain ⟨h1, -, h3⟩ := hmv (h hN)
  exact ⟨h1, h3⟩

set_option maxHeartbeats 1000000 in
@[spec 100000] theorem recomputeOne_v (v : View) (env : Env) (fuel n : Nat) :
    ⦃fun s => ⌜viewOf s = v⌝⦄ recomputeOne env fuel n
    ⦃post⟨fun r s => ⌜RPost r v (viewOf s)⌝, fun _ _ => ⌜True⌝⟩⦄ := by
  have hl2 := fun (v : View) (l : List ExpertEdge) (init : PUnit) f => forIn_vf v l init f
  have hl := fun (l : List Nat) init f => forIn_view l init f ILInv
  have hgb := getBind_x
  nv_mvcgen [recomputeOne, -Spec.forIn_list, hl2, hl, -getBind_v, hgb]
  all_goals vsimp
  all_goals first
    | (intro x; rfl)
    | (intros; trivial)
    | (intros; simp only [MVPost, RPost, IPost] at *; grind)
    | (refine ⟨⟨PUnit.unit, trivial⟩, ?_⟩
       intro v0 b' hinv hN
       obtain ⟨h1, r1⟩ := hinv hN
       obtain ⟨h2, r2⟩ := ‹IPost _ _› h1
       exact ⟨h2, r1.trans r2⟩)
    | (intro hmv
       refine rpost_of_mv hmv (fun hN => ?_)
       obtain ⟨hext, hN1⟩ := ‹NecV v → Ext v _ ∧ NecV _› hN
       obtain ⟨ha, hb, hc, hd⟩ := bind_rhs_pre (r := _) hN (OOB_of_eq ‹viewOf _ = v›) ‹v.bmain _ = some _›
         ‹_ < v.nb› ‹∀ m lc, (v.rn m).valid = true → (v.rn m).kind = Kind.bindMain _ lc → v.ch m = _› hext hN1
       have hN3 := ‹CCPost _ _ _ 1 _ _› ha hb hc hd
       first
         | exact hN3
         | (have hN4 := (‹∀ v0, ILInv _ v0 [] PUnit.unit _ → ILInv _ v0 _ _ _› _ (fun h => ⟨h, IRel.refl _⟩) hN3).1
            exact ‹NecV _ → NecV _› hN4))

/-! ## recompute chain, heap drain -/

@[spec 100000] theorem recompute_v (v : View) (env : Env) (fuel n : Nat) : NP v (recompute env fuel n) := by
  induction fuel generalizing v n with
  | zero => nv_mvcgen [recompute]
  | succ fuel ih =>
    have ih' := fun v' p (h : NecV v → NecV v') => (ih v' p).comp h
    nv_mvcgen [recompute, ih']
    all_goals vsimp
    all_goals first
      | (intros; trivial)
      | (intros; simp only [RPost] at *; grind)

theorem necV_clear {v : View} (n : Nat) (h : NecV v) : NecV (v.setInRch n false) := by
  obtain ⟨hJ, -, hbad⟩ := clearRch_step n h.toJ
  exact ⟨hJ, fun p hp => h.nobad p (hbad p hp).1⟩

@[spec 100000] theorem drainHeap_v (v : View) (env : Env) (fuel : Nat) : NP v (drainHeap env fuel) := by
  induction fuel generalizing v with
  | zero => nv_mvcgen [drainHeap]
  | succ fuel ih =>
    have ih' := fun v' (h : NecV v → NecV v') => (ih v').comp h
    nv_mvcgen [drainHeap, ih']
    all_goals vsimp
    all_goals first
      | (intros; trivial)
      | (intros; grind [necV_clear])


/-! ## observers -/

theorem mkView_setObs (s : State) (n : Nat) (f : Node → Node) (v : View) (h : viewOf s = v)
    (hf : ∀ x, (f x).parents = x.parents ∧ (f x).forceNecessary = x.forceNecessary ∧ (f x).valid = x.valid ∧
      (f x).heightInRch = x.heightInRch ∧ (f x).kind = x.kind) :
    ∃ b', (((f (s.nodeD n)).observers.isEmpty = false) → b' = true) ∧
      mkView (s.nodes.modify n f) s.binds s.experts s.cfg.debug = v.setBase n b' := by
  subst h
  refine ⟨!(f (s.nodeD n)).observers.isEmpty || (s.nodeD n).forceNecessary, fun h => by simp [h], ?_⟩
  unfold View.setBase
  split
  · rename_i hn
    have hk : (f (nodeAt s.nodes n)).kind? = (nodeAt s.nodes n).kind? := by
      simp [Node.kind?, (hf _).2.2.1, (hf _).2.2.2.2]
    have := mkView_modify_setRn s.nodes s.binds s.experts s.cfg.debug n f hn hk
    rw [this]
    congr 1
    obtain ⟨h1, h2, h3, h4, h5⟩ := hf (nodeAt s.nodes n)
    simp only [rel, h1, h2, h3, h5, Node.inRch, h4]
    rfl
  · rename_i hn
    have : s.nodes.size ≤ n := Nat.le_of_not_lt hn
    simp only [viewOf, modify_of_le _ _ _ this]

@[spec 200000] theorem modNode_addObs_v (v : View) (n o : Nat) (k : Int) :
    ⦃fun s => ⌜viewOf s = v⌝⦄
    modNode n (fun x => { x with observers := x.observers ++ [o], numOnUpdateHandlers := x.numOnUpdateHandlers + k })
    ⦃post⟨fun _ s => ⌜viewOf s = v.setBase n true⌝, fun _ _ => ⌜True⌝⟩⦄ := by
  nv_mvcgen [-modNode_v, modNode]
  vnorm
  obtain ⟨b', hb, e⟩ := mkView_setObs ‹State› n
    (fun x => { x with observers := x.observers ++ [o], numOnUpdateHandlers := x.numOnUpdateHandlers + k }) v
    (by assumption) (fun _ => ⟨rfl, rfl, rfl, rfl, rfl⟩)
  rw [hb (by simp)] at e
  exact e

@[spec 200000] theorem modNode_remObs_v (v : View) (n o : Nat) (k : Int) :
    ⦃fun s => ⌜viewOf s = v⌝⦄
    modNode n (fun x => { x with observers := x.observers.filter (· != o),
                                 numOnUpdateHandlers := x.numOnUpdateHandlers - k })
    ⦃post⟨fun _ s => ⌜∃ b', viewOf s = v.setBase n b'⌝, fun _ _ => ⌜True⌝⟩⦄ := by
  nv_mvcgen [-modNode_v, modNode]
  vnorm
  obtain ⟨b', -, e⟩ := mkView_setObs ‹State› n
    (fun x => { x with observers := x.observers.filter (· != o),
                       numOnUpdateHandlers := x.numOnUpdateHandlers - k }) v
    (by assumption) (fun _ => ⟨rfl, rfl, rfl, rfl, rfl⟩)
  exact ⟨b', e⟩


theorem necV_setBase_true {v : View} (n : Nat) (h : NecV v) : NecV (v.setBase n true) := by
  obtain ⟨hJ, hb⟩ := setBase_step n true h
  refine ⟨hJ, fun p hp => ?_⟩
  have := hb p hp
  subst this
  have hn := hp.1
  unfold View.setBase at hn hp
  split at hn
  · simp [View.setRn, RNode.nec] at hn
  · rename_i hsz
    simp only [hsz, if_false] at hp
    exact h.nobad p hp

theorem hasEdge_setBase {v : View} (n p : Nat) (b : Bool) (h : HasEdge (v.setBase n b) p) : HasEdge v p := by
  obtain ⟨c, i, hm⟩ := h
  rw [setBase_parents] at hm
  exact ⟨c, i, hm⟩

theorem addObs_step {v v2 : View} {node : Nat} (hN : NecV v) (hw : (v.rn node).nec = false)
    (hd : (v.setBase node true).debug = true → ((v.setBase node true).rn node).nec = true)
    (hbn : NecV (v.setBase node true) → ((v.setBase node true).rn node).nec = true →
      ¬ HasEdge (v.setBase node true) node → NecV v2) : NecV v2 := by
  have h1 := necV_setBase_true node hN
  refine hbn h1 (hd h1.dbg) (fun he => ?_)
  obtain ⟨c, i, hm⟩ := hasEdge_setBase _ _ _ he
  have := hN.e2 c node i hm
  rw [this] at hw; cases hw

@[spec 100000] theorem addNewObservers_v (v : View) (env : Env) (fuel : Nat) :
    NP v (addNewObservers env fuel) := by
  nv_mvcgen [addNewObservers, -Spec.forIn_list, forIn_np]
  all_goals vsimp
  all_goals first
    | (intros; trivial)
    | (intro x; rfl)
    | exact fun h => necV_setBase_true _ h
    | (intro hN
       exact addObs_step hN (by simpa using ‹(!(RNode.nec _)) = true›) (by assumption) (by assumption))


theorem remObs_step {v v2 : View} {node : Nat} {b' : Bool} (hN : NecV v)
    (hcu : UPost node (v.setBase node b') v2) : NecV v2 := by
  obtain ⟨hJ, hb⟩ := setBase_step node b' hN
  exact cc_final hJ hb hcu

@[spec 100000] theorem unlinkDisallowedObservers_v (v : View) (fuel : Nat) :
    NP v (unlinkDisallowedObservers fuel) := by
  nv_mvcgen [unlinkDisallowedObservers, -Spec.forIn_list, forIn_np]
  all_goals vsimp
  all_goals first
    | (intros; trivial)
    | (intro x; rfl)
    | (intro hN; exact remObs_step hN (by assumption))


/-! ## update handlers, `stabilise` -/

@[spec 100000] theorem runAll_v (v : View) (env : Env) (fuel o n : Nat) (nu : NodeUpdate) (now : Int) :
    NP v (runAll env fuel o n nu now) := by
  nv_mvcgen [runAll, -Spec.forIn_list, forIn_np]
  all_goals vsimp
  nv_fin

@[spec 100000] theorem stabiliseEnd_v (v : View) (env : Env) (fuel : Nat) : NP v (stabiliseEnd env fuel) := by
  nv_mvcgen [stabiliseEnd, -Spec.forIn_list, forIn_np]
  all_goals vsimp
  nv_fin

@[spec 100000] theorem stabilise_v (v : View) (env : Env) (fuel : Nat) : NP v (stabilise env fuel) := by
  have hse := fun v' (h : NecV v → NecV v') => (stabiliseEnd_v v' env fuel).comp h
  nv_mvcgen [stabilise, -stabiliseEnd_v, hse]
  all_goals vsimp
  nv_fin

/-! ## the invariant on states, and the plain (`run`) form of the triples -/

/-- The necessity / edge invariant.
* `e1`: every recorded parent edge is a real edge (so the parent is a valid node with children);
* `e2`: every recorded parent is necessary;
* `e3`: a node marked as queued in the recompute heap is necessary and valid (with `HeapWF`: every node in a
  bucket of the recompute heap is, see `NecWF.queued`);
* `e4`: no parent edge is recorded twice;
* `kinds`: bookkeeping of the record tables (`KindOK` on the view: bind-main / expert kinds name their record
  injectively, the records exist, `main` of a bind record is the bind-main node of that bind). -/
structure NecWF (s : State) : Prop where
  e1 : ∀ c p i, (p, i) ∈ (s.nodeD c).parents →
    p < s.nodes.size ∧ c < s.nodes.size ∧ (s.children p)[i]? = some c
  e2 : ∀ c p i, (p, i) ∈ (s.nodeD c).parents → s.isNecessary p = true
  e3 : ∀ n, (s.nodeD n).inRch = true → s.isNecessary n = true ∧ (s.nodeD n).valid = true
  e4 : ∀ c, (s.nodeD c).parents.Nodup
  kinds : KindOK (viewOf s)

theorem nodeD_of_le (s : State) (n : Nat) (h : s.nodes.size ≤ n) : s.nodeD n = default := nodeAt_of_le _ _ h

theorem necV_of_necWF {s : State} (h : NecWF s) (hd : s.cfg.debug = true) : NecV (viewOf s) := by
  apply NecV.of
  · refine ⟨hd, ?_, ?_, h.e4, h.kinds, viewOf_chv s⟩
    · intro c p i hm
      rw [viewOf_ch]; exact (h.e1 c p i hm).2.2
    · intro n hn; exact (h.e3 n hn).2
  · intro c p i hm
    rw [viewOf_nec]; exact h.e2 c p i hm
  · intro n hn
    rw [viewOf_nec]; exact (h.e3 n hn).1

theorem necWF_of_necV {s : State} (h : NecV (viewOf s)) : NecWF s ∧ s.cfg.debug = true := by
  refine ⟨⟨?_, ?_, ?_, h.e4, h.k⟩, h.dbg⟩
  · intro c p i hm
    have he := h.e1 c p i hm
    rw [viewOf_ch] at he
    refine ⟨?_, ?_, he⟩
    · rcases Nat.lt_or_ge p s.nodes.size with hp | hp
      · exact hp
      · have := (viewOf_OOB s p hp).2
        rw [viewOf_ch] at this; rw [this] at he; cases he
    · rcases Nat.lt_or_ge c s.nodes.size with hc | hc
      · exact hc
      · rw [nodeD_of_le s c hc] at hm; cases hm
  · intro c p i hm
    rw [← viewOf_nec]; exact h.e2 c p i hm
  · intro n hn
    have := h.e3 n hn
    rw [viewOf_nec] at this; exact this

theorem necV_iff (s : State) : NecV (viewOf s) ↔ NecWF s ∧ s.cfg.debug = true :=
  ⟨necWF_of_necV, fun h => necV_of_necWF h.1 h.2⟩

/-- with a well-formed recompute heap: every queued node is necessary and valid -/
theorem NecWF.queued {s : State} (h : NecWF s) (hh : HeapWF s) (k : Nat) (hk : k < s.rch.queues.size)
    (n : Nat) (hn : n ∈ s.rch.queues[k]) : s.isNecessary n = true ∧ (s.nodeD n).valid = true := by
  have := ((hh.mem k hk n).1 hn).2
  apply h.e3
  simp only [Node.inRch, decide_eq_true_eq, this]
  omega

/-- run form of a view triple -/
theorem run_of_triple {α} {x : M α} {R : α → View → View → Prop}
    (h : ∀ v, ⦃fun s => ⌜viewOf s = v⌝⦄ x ⦃post⟨fun r s => ⌜R r v (viewOf s)⌝, fun _ _ => ⌜True⌝⟩⦄)
    (s s' : State) (a : α) (hr : x.run.run s = (.ok a, s')) : R a (viewOf s) (viewOf s') := by
  have := (triple_iff x _ _ _).1 (h (viewOf s)) s rfl
  rw [hr] at this
  exact this

/-- run form of `NP` -/
theorem NP.run {α} {x : M α} (h : ∀ v, NP v x) (s s' : State) (a : α) (hs : NecWF s)
    (hd : s.cfg.debug = true) (hr : x.run.run s = (.ok a, s')) : NecWF s' ∧ s'.cfg.debug = true :=
  necWF_of_necV (run_of_triple (R := fun _ v v' => NecV v → NecV v') h s s' a hr (necV_of_necWF hs hd))

theorem kindOK_init (N : Nat) (d : Bool) : KindOK (viewOf (State.init N d)) := by
  have hk : ∀ m, ((viewOf (State.init N d)).rn m).kind = .const default := by
    intro m; exact (viewOf_OOB (State.init N d) m (Nat.zero_le _)).1 ▸ rfl
  refine ⟨?_, ?_, ?_, ?_, ?_, ?_, ?_⟩
  · intro n n' b lc lc' h; rw [hk] at h; cases h
  · intro n b lc h; rw [hk] at h; cases h
  · intro n n' e h; rw [hk] at h; cases h
  · intro n e h; rw [hk] at h; cases h
  · intro b m h; simp [viewOf, mkView, State.init] at h
  · intro m b lc h; rw [hk] at h; cases h
  · intro n b h; rw [hk] at h; cases h

theorem necWF_init (N : Nat) (d : Bool) : NecWF (State.init N d) := by
  have hnd : ∀ n, (State.init N d).nodeD n = default := fun n => nodeD_of_le _ n (Nat.zero_le _)
  refine ⟨?_, ?_, ?_, ?_, kindOK_init N d⟩
  · intro c p i hm; rw [hnd] at hm; cases hm
  · intro c p i hm; rw [hnd] at hm; cases hm
  · intro n hn; rw [hnd] at hn; cases hn
  · intro c; rw [hnd]; exact List.nodup_nil

/-! ### part N20: run-form theorems (restated with comments in `Props/C05.lean`) -/

theorem popped_mem (s0 : State) :
    ⦃fun s => ⌜s = s0⌝⦄ rchRemoveMin
    ⦃post⟨fun r _ => ⌜∀ n, r = some n → ∃ (k : Nat) (hk : k < s0.rch.queues.size), n ∈ s0.rch.queues[k]⌝,
      fun _ _ => ⌜True⌝⟩⦄ := by
  nv_mvcgen [-rchRemoveMin_v, rchRemoveMin, -dassert_v, dassert, -modNode_v, modNode]
  all_goals first
    | (intro n hn; cases hn; done)
    | skip
  rename_i s h _ _ lb n rest hq _ _
  intro m hm
  cases hm
  subst h
  have hlt : lb < s.rch.queues.size := (Array.getElem?_eq_some_iff.1 hq).1
  have hqe : s.rch.queues[lb] = n :: rest := (Array.getElem?_eq_some_iff.1 hq).2
  exact ⟨lb, hlt, by rw [hqe]; simp⟩


/-- plain form: the popped node sat in a bucket of the heap -/
theorem popped_in_heap (s s' : State) (n : Nat) (hr : rchRemoveMin.run.run s = (.ok (some n), s')) :
    ∃ (k : Nat) (hk : k < s.rch.queues.size), n ∈ s.rch.queues[k] := by
  have := (triple_iff rchRemoveMin _ _ _).1 (popped_mem s) s rfl
  rw [hr] at this
  exact this n rfl

/-- **C05 (a)**: in a state that satisfies the necessity invariant and whose recompute heap is well-formed, the
node `remove_min` hands to `recompute` is necessary and valid. -/
theorem popped_is_necessary (s s' : State) (n : Nat) (hN : NecWF s) (hH : HeapWF s)
    (hr : rchRemoveMin.run.run s = (.ok (some n), s')) :
    s.isNecessary n = true ∧ (s.nodeD n).valid = true := by
  obtain ⟨k, hk, hn⟩ := popped_in_heap s s' n hr
  exact hN.queued hH k hk n hn

/-- … and it still is after the pop (the pop only clears its queue marker) -/
theorem popped_is_necessary' (s s' : State) (n : Nat) (hN : NecWF s) (hH : HeapWF s)
    (hr : rchRemoveMin.run.run s = (.ok (some n), s')) :
    s'.isNecessary n = true ∧ (s'.nodeD n).valid = true := by
  obtain ⟨h1, h2⟩ := popped_is_necessary s s' n hN hH hr
  have hv := run_of_triple (R := fun r v v' => match r with
      | none => v' = v
      | some n => v' = v.setInRch n false) (fun v => rchRemoveMin_v v) s s' (some n) hr
  simp only at hv
  have e : (viewOf s').rn n = { (viewOf s).rn n with inRch := false } := by
    rw [hv]; simp [View.setInRch, View.setRn]
  constructor
  · rw [← viewOf_nec, e]; rw [← viewOf_nec] at h1; exact h1
  · rw [← viewOf_valid, e]; exact h2

/-- **C05 (b)**: if `recomputeOne` is run from a state satisfying the invariant and hands back a parent `p` for
direct recomputation, the invariant holds afterwards and `p` is necessary and valid. -/
theorem chain_is_necessary (env : Env) (fuel n p : Nat) (s s' : State) (hN : NecWF s)
    (hd : s.cfg.debug = true) (hr : (recomputeOne env fuel n).run.run s = (.ok (some p), s')) :
    NecWF s' ∧ s'.cfg.debug = true ∧ s'.isNecessary p = true ∧ (s'.nodeD p).valid = true := by
  have h := run_of_triple (R := fun r v v' => RPost r v v') (fun v => recomputeOne_v v env fuel n) s s' _ hr
    (necV_of_necWF hN hd)
  obtain ⟨h1, h2⟩ := h
  obtain ⟨g1, g2⟩ := necWF_of_necV h1
  obtain ⟨g3, g4⟩ := h2 p rfl
  exact ⟨g1, g2, by rw [← viewOf_nec]; exact g3, g4⟩


/-! ## (c) every node `stabilise` recomputes is necessary: ghost-instrumented copies -/

/-- ghost check: the node about to be recomputed is necessary and valid -/
def assertNec (n : Nat) : M Unit := do
  let s ← get
  assertM (s.isNecessary n && (s.nodeD n).valid) "C05:recompute-of-unnecessary-node"

/-- `recompute` with the ghost check in front of every `recomputeOne` -/
def recomputeChecked (env : Env) : Nat → Nat → M Unit
  | 0, _ => throw .outOfFuel
  | fuel+1, n => do
    assertNec n
    match ← recomputeOne env fuel n with
    | none => pure ()
    | some p => recomputeChecked env fuel p

/-- `drainHeap` on top of `recomputeChecked` -/
def drainHeapChecked (env : Env) : Nat → M Unit
  | 0 => throw .outOfFuel
  | fuel+1 => do
    match ← rchRemoveMin with
    | none => pure ()
    | some n =>
      recomputeChecked env fuel n
      drainHeapChecked env fuel

/-- `stabilise` on top of `drainHeapChecked` -/
def stabiliseChecked (env : Env) (fuel : Nat) : M Unit := do
  assertM ((← get).status == .notStabilising) "state:stabilise:status"
  modify fun s => { s with status := .stabilising }
  addNewObservers env fuel
  unlinkDisallowedObservers fuel
  drainHeapChecked env fuel
  stabiliseEnd env fuel

theorem run_assertNec (n : Nat) (s : State) (h1 : s.isNecessary n = true) (h2 : (s.nodeD n).valid = true) :
    (assertNec n).run.run s = (.ok (), s) := by
  simp [assertNec, run_bind, run_get, run_assertM, h1, h2]

theorem recomputeChecked_eq (env : Env) (fuel : Nat) : ∀ (n : Nat) (s : State), NecWF s → s.cfg.debug = true →
    s.isNecessary n = true → (s.nodeD n).valid = true →
    (recomputeChecked env fuel n).run.run s = (recompute env fuel n).run.run s := by
  induction fuel with
  | zero => intros; rfl
  | succ fuel ih =>
    intro n s hN hd h1 h2
    simp only [recomputeChecked, recompute, run_bind, run_assertNec n s h1 h2]
    rcases hr : (recomputeOne env fuel n).run.run s with ⟨r, s'⟩
    cases r with
    | error e => rfl
    | ok o =>
      cases o with
      | none => rfl
      | some p =>
        obtain ⟨g1, g2, g3, g4⟩ := chain_is_necessary env fuel n p s s' hN hd hr
        exact ih p s' g1 g2 g3 g4


/-- what the drain loop needs of a state: the invariant, a well-formed heap, debug assertions on -/
def Good (s : State) : Prop := NecWF s ∧ HeapWF s ∧ s.cfg.debug = true

theorem Good.step {α} {x : M α} (hn : ∀ v, NP v x) (hh : Pres .debug x) {s s' : State} {a : α}
    (hg : Good s) (hr : x.run.run s = (.ok a, s')) : Good s' := by
  obtain ⟨h1, h2, h3⟩ := hg
  obtain ⟨g1, g2⟩ := NP.run hn s s' a h1 h3 hr
  have := hh.run s ((HWF_debug_iff s).2 ⟨h2, h3⟩)
  rw [hr] at this
  exact ⟨g1, ((HWF_debug_iff s').1 this).1, g2⟩

theorem rchRemoveMin_np (v : View) : NP v rchRemoveMin := by
  nv_mvcgen [rchRemoveMin_v]
  intro h
  split at h
  · rw [h, ‹viewOf _ = v›]; exact fun h => h
  · rw [h, ‹viewOf _ = v›]; exact fun hN => necV_clear _ hN

theorem drainHeapChecked_eq (env : Env) (fuel : Nat) : ∀ (s : State), Good s →
    (drainHeapChecked env fuel).run.run s = (drainHeap env fuel).run.run s := by
  induction fuel with
  | zero => intros; rfl
  | succ fuel ih =>
    intro s hg
    simp only [drainHeapChecked, drainHeap, run_bind]
    rcases hr : rchRemoveMin.run.run s with ⟨r, s1⟩
    cases r with
    | error e => rfl
    | ok o =>
      cases o with
      | none => rfl
      | some n =>
        have hg1 : Good s1 := hg.step rchRemoveMin_np (rchRemoveMin_spec .debug) hr
        obtain ⟨p1, p2⟩ := popped_is_necessary' s s1 n hg.1 hg.2.1 hr
        have e := recomputeChecked_eq env fuel n s1 hg1.1 hg1.2.2 p1 p2
        simp only [run_bind, e]
        rcases hr2 : (recompute env fuel n).run.run s1 with ⟨r2, s2⟩
        cases r2 with
        | error e => rfl
        | ok u =>
          exact ih s2 (hg1.step (fun v => recompute_v v env fuel n) (recompute_spec env fuel n) hr2)

/-- **C05 (c)**: from a state satisfying the invariant (with a well-formed heap, debug assertions on),
`stabilise` behaves exactly like its ghost-instrumented copy, which checks in front of *every* call of
`recomputeOne` that the node is necessary and valid and would panic with the site
`"C05:recompute-of-unnecessary-node"` otherwise: the check never fires — only nodes needed by a live
observer are ever computed. -/
theorem stabiliseChecked_eq (env : Env) (fuel : Nat) (s : State) (hN : NecWF s) (hH : HeapWF s)
    (hd : s.cfg.debug = true) :
    (stabiliseChecked env fuel).run.run s = (stabilise env fuel).run.run s := by
  by_cases hst : (s.status == Status.notStabilising) = true
  · simp only [stabiliseChecked, stabilise, run_bind, run_get, run_assertM, run_modify, hst, if_true]
    have hg0 : Good { s with status := .stabilising } :=
      ⟨⟨hN.e1, hN.e2, hN.e3, hN.e4, hN.kinds⟩, ⟨hH.mem, hH.nodup, hH.length, hH.range⟩, hd⟩
    rcases hr1 : (addNewObservers env fuel).run.run { s with status := .stabilising } with ⟨r1, s1⟩
    cases r1 with
    | error e => rfl
    | ok u1 =>
      have hg1 : Good s1 := hg0.step (fun v => addNewObservers_v v env fuel) (addNewObservers_spec env fuel) hr1
      simp only []
      rcases hr2 : (unlinkDisallowedObservers fuel).run.run s1 with ⟨r2, s2⟩
      cases r2 with
      | error e => rfl
      | ok u2 =>
        have hg2 : Good s2 :=
          hg1.step (fun v => unlinkDisallowedObservers_v v fuel) (unlinkDisallowedObservers_spec .debug fuel) hr2
        simp only [drainHeapChecked_eq env fuel s2 hg2]
  · simp only [stabiliseChecked, stabilise, run_bind, run_get, run_assertM, hst]
    rfl


/-! ## (d) no necessary node, no work -/

theorem heap_empty_of_none_necessary (s : State) (hN : NecWF s) (hH : HeapWF s)
    (hnone : ∀ n, s.isNecessary n = false) : s.rch.length = 0 := by
  rw [hH.length]
  unfold bucketSum
  apply sum_length_of_all_empty
  intro x hx
  rw [Array.mem_toList_iff] at hx
  obtain ⟨k, hk, rfl⟩ := Array.mem_iff_getElem.1 hx
  cases hq : s.rch.queues[k] with
  | nil => rfl
  | cons n rest =>
    have := (hN.queued hH k hk n (by rw [hq]; simp)).1
    rw [hnone n] at this; cases this

theorem run_rchRemoveMin_empty (s : State) (h : s.rch.length = 0) :
    rchRemoveMin.run.run s = (.ok none, s) := by
  simp [rchRemoveMin, run_bind, run_get, h]
  rfl

/-- **C05 (d)**: if no node is necessary (in particular: no observer is in use and none is new) then, in a
state satisfying the invariant with a well-formed heap, the recompute heap is empty and `drainHeap` returns at
once without touching the state — nothing is computed. -/
theorem no_observers_no_work (env : Env) (fuel : Nat) (s : State) (hN : NecWF s) (hH : HeapWF s)
    (hnone : ∀ n, s.isNecessary n = false) :
    s.rch.length = 0 ∧ (drainHeap env (fuel + 1)).run.run s = (.ok (), s) := by
  have h0 := heap_empty_of_none_necessary s hN hH hnone
  refine ⟨h0, ?_⟩
  simp only [drainHeap, run_bind, run_rchRemoveMin_empty s h0]
  rfl


/-! ## the invariant holds initially and is kept by every API entry point (normal outcome) -/

/-- the initial state satisfies the invariant -/
theorem necwf_init (maxHeight : Nat) (debug : Bool) : NecWF (State.init maxHeight debug) :=
  necWF_init maxHeight debug

theorem VF.toNP {α} {x : M α} (h : ∀ v, VF v x) (v : View) : NP v x := by
  have := h v
  nv_mvcgen [this]
  intro hv; rw [hv]; exact fun h => h

/-- `stabilise` keeps the invariant (when it returns normally; debug assertions on) -/
theorem stabilise_ok (env : Env) (fuel : Nat) (s s' : State) (hN : NecWF s) (hd : s.cfg.debug = true)
    (hr : (stabilise env fuel).run.run s = (.ok (), s')) : NecWF s' ∧ s'.cfg.debug = true :=
  NP.run (fun v => stabilise_v v env fuel) s s' () hN hd hr

/-- `writeVar` (all five write operations on a var) keeps the invariant -/
theorem writeVar_ok (x : Nat) (f : Val → Val) (isSet : Bool) (s s' : State) (a : Val) (hN : NecWF s)
    (hd : s.cfg.debug = true) (hr : (writeVar x f isSet).run.run s = (.ok a, s')) :
    NecWF s' ∧ s'.cfg.debug = true :=
  NP.run (fun v => writeVar_v v x f isSet) s s' a hN hd hr

/-- `subscribe` keeps the invariant -/
theorem subscribe_ok (o hid : Nat) (s s' : State) (a : Except ObsError Nat) (hN : NecWF s)
    (hd : s.cfg.debug = true) (hr : (subscribe o hid).run.run s = (.ok a, s')) :
    NecWF s' ∧ s'.cfg.debug = true :=
  NP.run (VF.toNP fun v => subscribe_v v o hid) s s' a hN hd hr

/-- `unsubscribe` keeps the invariant -/
theorem unsubscribe_ok (o token owner : Nat) (s s' : State) (a : Except ObsError Unit) (hN : NecWF s)
    (hd : s.cfg.debug = true) (hr : (unsubscribe o token owner).run.run s = (.ok a, s')) :
    NecWF s' ∧ s'.cfg.debug = true :=
  NP.run (VF.toNP fun v => unsubscribe_v v o token owner) s s' a hN hd hr

/-- `disallowFutureUse` keeps the invariant (the observer is only unlinked by the next `stabilise`) -/
theorem disallowFutureUse_ok (o : Nat) (s s' : State) (hN : NecWF s)
    (hd : s.cfg.debug = true) (hr : (disallowFutureUse o).run.run s = (.ok (), s')) :
    NecWF s' ∧ s'.cfg.debug = true :=
  NP.run (VF.toNP fun v => disallowFutureUse_v v o) s s' () hN hd hr

/-- creating nodes at top level keeps the invariant -/
theorem elabInstr_ok (lv : Val) (i : Instr) (s s' : State) (a : Option Nat) (hN : NecWF s)
    (hd : s.cfg.debug = true) (hr : (elabInstr [] lv i).run.run s = (.ok a, s')) :
    NecWF s' ∧ s'.cfg.debug = true :=
  necWF_of_necV (run_of_triple (R := fun _ v v' => NecV v → Ext v v' ∧ NecV v')
    (fun v => elabInstr_v v [] lv i) s s' a hr (necV_of_necWF hN hd)).2

/-- `expertAddDependency` keeps the invariant -/
theorem expertAddDependency_ok (env : Env) (fuel n child : Nat) (cb : Bool) (s s' : State) (a : Nat)
    (hN : NecWF s) (hd : s.cfg.debug = true)
    (hr : (expertAddDependency env fuel n child cb).run.run s = (.ok a, s')) :
    NecWF s' ∧ s'.cfg.debug = true :=
  NP.run (fun v => expertAddDependency_v v env fuel n child cb) s s' a hN hd hr

/-- `expertRemoveDependency` keeps the invariant -/
theorem expertRemoveDependency_ok (fuel n dep : Nat) (s s' : State) (hN : NecWF s)
    (hd : s.cfg.debug = true) (hr : (expertRemoveDependency fuel n dep).run.run s = (.ok (), s')) :
    NecWF s' ∧ s'.cfg.debug = true :=
  NP.run (fun v => expertRemoveDependency_v v fuel n dep) s s' () hN hd hr

/-! ## helpers for concrete examples -/

/-- a run whose outcome is (checked by evaluation to be) `ok a` -/
theorem run_ok_of {α} [DecidableEq α] (x : M α) (s : State) (a : α)
    (h : (match (x.run.run s).1 with | .ok b => decide (b = a) | .error _ => false) = true) :
    x.run.run s = (.ok a, (x.run.run s).2) := by
  rcases hr : x.run.run s with ⟨r, s'⟩
  rw [hr] at h
  cases r with
  | error e => simp at h
  | ok b => simp at h; rw [h]

theorem good_of_run {α} {x : M α} {s s' : State} {a : α} (hg : Good s)
    (hn : NecWF s' ∧ s'.cfg.debug = true) (hh : Pres .debug x) (hr : x.run.run s = (.ok a, s')) : Good s' := by
  have := hh.run s ((HWF_debug_iff s).2 ⟨hg.2.1, hg.2.2⟩)
  rw [hr] at this
  exact ⟨hn.1, ((HWF_debug_iff s').1 this).1, hn.2⟩

theorem Good.withStatus {s : State} (h : Good s) (st : Status) : Good { s with status := st } :=
  ⟨⟨h.1.e1, h.1.e2, h.1.e3, h.1.e4, h.1.kinds⟩, ⟨h.2.1.mem, h.2.1.nodup, h.2.1.length, h.2.1.range⟩, h.2.2⟩

theorem Good.withObservers {s : State} (h : Good s) (obs : Array ObsRec) (no : List Nat) :
    Good { s with observers := obs, newObservers := no } :=
  ⟨⟨h.1.e1, h.1.e2, h.1.e3, h.1.e4, h.1.kinds⟩, ⟨h.2.1.mem, h.2.1.nodup, h.2.1.length, h.2.1.range⟩, h.2.2⟩

end IncrVerif.Proofs.Nec
