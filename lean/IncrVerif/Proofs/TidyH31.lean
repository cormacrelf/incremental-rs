import IncrVerif.Proofs.ExpertH70
import IncrVerif.Proofs.ExpertDepth
/-!
# T4 (total correctness for the expert fragment X1), part 1: the room and the depth through `PFrame`; the virtual state
-/
namespace IncrVerif.Proofs.TidyH.XT
open IncrVerif.Engine IncrVerif.Driver IncrVerif.Proofs IncrVerif.Proofs.Step IncrVerif.Proofs.Sched
open IncrVerif.Proofs.ExpertH IncrVerif.Proofs.ExpertH.QR

theorem Room.of_pframe {N : Nat} {s s' : State} (R : Room N s) (h : PFrame s s') : Room N s' := by
  have hk := h.key
  simp only [stateKeyP, Prod.mk.injEq] at hk
  have h1 : s'.rch.queues.size = s.rch.queues.size := hk.2.2.2.2.2.2.2.2.2.2.1
  have h2 : s'.ahh = s.ahh := hk.2.2.2.2.2.2.2.2.2.2.2.1
  exact ⟨by rw [h2]; exact R.ahh, by rw [← R.rch]; simp only [Heap.maxAllowed, h1], by rw [h.size]; exact R.size⟩

theorem dp_of_pframe {s s' : State} (h : PFrame s s') (m : Nat) : dp s' m = dp s m := by
  refine dp_congr (fun x => ?_) h.size m
  have := h.node x
  simp only [nodeKeyP, Prod.mk.injEq] at this
  exact this.1

/-! ## the virtual state -/

theorem dp_virt_kids (s : State) (x : Nat) :
    kids ((virt s).nodeD x).kind = kidsX s.experts (s.nodeD x).kind := virt_kids (s := s) x

end IncrVerif.Proofs.TidyH.XT
