import IncrVerif.Proofs.NestH53
import IncrVerif.Proofs.NestH19
/-!
# Nested binds (F2), part 4, `stabilise`, part 1: the structural invariant at rest from the drain invariant

The counterpart of `BindH92` for nested binds.  `C2s.stabiliseEnd_binds` (`stabiliseEnd` keeps the bind table), `C2s.evalB_congr` are generic and reused.
-/
namespace IncrVerif.Proofs.NestH
open IncrVerif.Engine IncrVerif.Driver IncrVerif.Proofs IncrVerif.Proofs.Step IncrVerif.Proofs.Sched IncrVerif.Proofs.Quiet
open IncrVerif.Proofs.BindH

namespace N4s

/-- the set of excused nodes may shrink to an equivalent one -/
theorem ginv2_ex_congr {env : Env} {rk : Nat → Nat} {s : State} {op : Nat → Op} {ex ex' : Nat → Prop} {dy : List Nat}
    (I : GInv2 env rk s op ex dy) (h : ∀ m, ex m → ex' m) : GInv2 env rk s op ex' dy :=
  { I with queued := fun m ho hn hs hex => I.queued m ho hn hs (fun e => hex (h m e)) }

end N4s

/-- between two runs of a drain the structural invariant holds at rest, with the same rank -/
theorem struct2_of_dinv {env : Env} {rk : Nat → Nat} {s : State} (I : DInv env s none) (A : F2Inv env rk s) :
    Struct2 env rk s :=
  N4s.ginv2_ex_congr (ginv2_of_dinv I A) (fun m e => by cases e)

end IncrVerif.Proofs.NestH
