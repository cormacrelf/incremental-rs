import IncrVerif.Proofs.PerKeyH47
import IncrVerif.Proofs.VarWrites
/-!
# Per-key operators, API actions part 3: the API actions that create no node keep `PQ`
(`observe`, `cloneObs`, `dropObs`, `disallow`, the five writes, `get`, `isStable`, `stats`)

`action_nocreate`: modulo the simulation on `V s` (hypothesis `hv`, from `VSim`) and `SlotInv` of the new state
(hypothesis, from `pk-slots`).
-/
namespace IncrVerif.Proofs.PerKeyH
open IncrVerif.Engine IncrVerif.Driver IncrVerif.Proofs IncrVerif.Proofs.Step IncrVerif.Proofs.Sched
open IncrVerif.Proofs.ExpertH IncrVerif.Proofs.EffH IncrVerif.Proofs.DriverH IncrVerif.Proofs.Footprint

/-! ## the pieces of `PQ` along `AF` -/

theorem AF.xg {s s' : State} (F : AF s s') : XG s s' :=
  ⟨F.size, F.kind, fun e er he => ⟨er, by rw [F.experts]; exact he, rfl, rfl, rfl, rfl⟩,
    fun e er he => ⟨er, by rw [← F.experts]; exact he, rfl, rfl, rfl, rfl⟩⟩

theorem PFrag.of_af {env : Env} {s s' : State} (P : PFrag env s) (F : AF s s') : PFrag env s' :=
  P.of_xg F.xg (by rw [F.panicCountdown]; exact P.pc) (fun m => by rw [F.valid]; exact P.validD m)
    (fun e er he => (P.xok e er (by rw [← F.experts]; exact he)).2.1)
    (fun m => ⟨F.cutoff m, F.createdIn m, F.forceNecessary m⟩) F.currentScope

theorem ahhEmpty_of_af {s s' : State} (A : QR.AhhEmpty s) (F : AF s s') : QR.AhhEmpty s' :=
  ⟨by rw [F.ahh]; exact A.length, by rw [F.ahh]; exact A.buckets, fun m => by rw [F.heightInAhh]; exact A.marks m⟩

theorem isStale_lc_af {env : Env} {s s' : State} (F : AF s s') {op : Nat} {pr : PerKeyRec} (h : OpOK env s op pr) :
    s'.isStale pr.lhsChange = s.isStale pr.lhsChange := by
  obtain ⟨x, e, er, hN, -⟩ := h.nodes
  have hk := hN.lcKind
  rw [← hN.lc] at hk
  exact isStale_map_congr hk (by rw [F.kind]; exact hk) (F.valid _) (F.recomputedAt _) (fun c _ => F.changedAt c)

theorem PKOK.of_af {env : Env} {s s' : State} (P : PKOK env s) (F : AF s s')
    (hobs : ∀ (o : Nat) (ob' : ObsRec), s'.observers[o]? = some ob' → ∃ k : Nat, s.top[k]? = some ob'.node) :
    PKOK env s' :=
  P.of_xg F.xg F.perkeys F.top (fun op pr hp x hx => by rw [F.observers]; exact (P.ops op pr hp).noObs x hx) hobs
    (fun op pr hp hs => by
      rw [isStale_lc_af F (P.ops op pr hp)] at hs
      rw [F.value]; exact (P.ops op pr hp).input hs)
    (fun op pr hp v hv => by rw [F.value] at hv; exact P.maps op pr hp v hv)
    fun _ _ _ _ _ p _ _ _ _ _ _ _ hk h0 =>
      Or.inl (V_stamp_keep hk (F.kind p) (F.recomputedAt p) (by rw [F.experts]; exact id) h0)

theorem keysSub.trans {a b c : List (Int × Int)} (h1 : keysSub a b) (h2 : keysSub b c) : keysSub a c :=
  fun k h => h2 k (h1 k h)

/-- the key sets along `AF`, when the cells that hold maps only gain keys -/
theorem NoRem.of_af {s s' : State} (N : NoRem s) (F : AF s s')
    (hvars : ∀ (c : Nat) (vc : VarCell) (mv : List (Int × Int)), s.vars[c]? = some vc → vc.value = .map mv →
      IncrVerif.AMap.Sorted mv → ∃ vc' mv', s'.vars[c]? = some vc' ∧ vc'.value = .map mv' ∧
        IncrVerif.AMap.Sorted mv' ∧ keysSub mv mv') : NoRem s' := by
  intro op pr hp
  rw [F.perkeys] at hp
  obtain ⟨x, c, vc, mv, hk1, hk2, hv, hval, hs, h1, h2, h3⟩ := (N op pr hp).input
  obtain ⟨vc', mv', hv', hval', hs', hsub⟩ := hvars c vc mv hv hval hs
  refine ⟨x, c, vc', mv', by rw [F.kind]; exact hk1, by rw [F.kind]; exact hk2, hv', hval', hs', h1.trans hsub,
    fun w hw => ?_, fun w hw => ?_⟩
  · rw [F.value] at hw
    obtain ⟨m2, e, a, b, c⟩ := h2 w hw
    exact ⟨m2, e, a, b.trans hsub, c⟩
  · rw [F.value] at hw
    obtain ⟨m1, e, a, b, c, d⟩ := h3 w hw
    refine ⟨m1, e, a, b.trans hsub, c, fun m2 hm2 => ?_⟩
    rw [F.value] at hm2
    exact d m2 hm2

/-! ## the cells: actions that are not writes keep them -/

/-- the actions of `PAct` that do not write -/
def RAct : Action → Prop
  | .observe _ | .cloneObs _ | .dropObs _ | .disallow _ | .get _ | .isStable | .stats => True
  | _ => False

theorem KV.stepAction (env : Env) (a : Action) (tk : Array Nat) (h : RAct a) :
    Step.Pres (Xp.Keeps State.vars) (Engine.stepAction env a tk) := by
  cases a
  case observe | cloneObs | dropObs | disallow | get | isStable | stats =>
    refine (Foot.stepAction env _ tk).lift fun e => ?_
    cases e
    case engine e => exact e.vars (by dsimp only [W.stepAction]; decide)
    all_goals rfl
  all_goals exact h.elim

/-! ## the cells: writes -/

theorem PAct.cases {a : Action} (h : PAct a) : RAct a ∨ ∃ v f b t, Hist.Writes a v f b t := by
  cases a <;> first | exact h.elim | exact Or.inl trivial | exact Or.inr ⟨_, _, _, _, by constructor⟩

/-- what `PActionOK` says about a write: a cell that holds a map gets a sorted map with at least the same keys -/
theorem write_ok {env : Env} {s : State} {a : Action} {v : Nat} {f : Val → Val} {b : Bool} {t : Val → String}
    (ha : PActionOK env s a) (hw : Hist.Writes a v f b t) (vc : VarCell) (m : List (Int × Int))
    (hv : s.vars[v]? = some vc) (hm : vc.value = .map m) :
    ∃ m', f vc.value = .map m' ∧ IncrVerif.AMap.Sorted m' ∧ keysSub m m' := by
  cases hw
  case set x =>
    obtain ⟨m', e, hs⟩ := ha.2 vc m hv hm
    exact ⟨m', e, ha.1 m' e, hs⟩
  case replace x =>
    obtain ⟨m', e, hs⟩ := ha.2 vc m hv hm
    exact ⟨m', e, ha.1 m' e, hs⟩
  all_goals exact absurd ⟨vc, m, hv, hm⟩ ha

/-- the cells after an action of `PAct` -/
theorem vars_pact {env : Env} {s s' : State} {a : Action} {tk : Array Nat} {r : String × Array Nat}
    (hst : s.status ≠ .stabilising) (hp : PAct a) (ha : PActionOK env s a)
    (h : (stepAction env a tk).run.run s = (.ok r, s')) :
    ∀ (c : Nat) (vc : VarCell) (mv : List (Int × Int)), s.vars[c]? = some vc → vc.value = .map mv →
      IncrVerif.AMap.Sorted mv → ∃ vc' mv', s'.vars[c]? = some vc' ∧ vc'.value = .map mv' ∧
        IncrVerif.AMap.Sorted mv' ∧ keysSub mv mv' := by
  intro c vc mv hc hm hs
  rcases hp.cases with hr | ⟨v, f, isSet, t, hw⟩
  · have e : s'.vars = s.vars := (KV.stepAction env a tk hr).h _ _ _ h
    exact ⟨vc, mv, by rw [e]; exact hc, hm, hs, fun _ h => h⟩
  · obtain ⟨rv, hrun, -⟩ := (Hist.stepAction_write_ok hw).1 h
    obtain ⟨vc0, hv0⟩ := writeVar_ok_cell hrun
    obtain ⟨-, -, hvar, hoth, -⟩ := writeVar_outside_ok_facts v f isSet s s' vc0 rv hv0 hst hrun
    by_cases e : c = v
    · subst e
      rw [hv0] at hc; cases hc
      obtain ⟨m', e', hs', hsub⟩ := write_ok ha hw vc mv hv0 hm
      exact ⟨_, m', hvar, e', hs', hsub⟩
    · exact ⟨vc, mv, by rw [hoth c e]; exact hc, hm, hs, fun _ h => h⟩

/-! ## the observer records -/

/-- same names; every observer record is an old one, watching the same node -/
structure OT (s s' : State) : Prop where
  top : s'.top = s.top
  obs : ∀ (o : Nat) (ob' : ObsRec), s'.observers[o]? = some ob' →
    ∃ ob, s.observers[o]? = some ob ∧ ob'.node = ob.node

theorem OT.refl (s : State) : OT s s := ⟨rfl, fun _ ob h => ⟨ob, h, rfl⟩⟩
theorem OT.trans {a b c : State} (h1 : OT a b) (h2 : OT b c) : OT a c := by
  refine ⟨h2.top.trans h1.top, fun o ob' ho => ?_⟩
  obtain ⟨ob1, ho1, e1⟩ := h2.obs o ob' ho
  obtain ⟨ob0, ho0, e0⟩ := h1.obs o ob1 ho1
  exact ⟨ob0, ho0, e1.trans e0⟩
instance : Step.PreOrd OT := ⟨OT.refl, OT.trans⟩

theorem OT.of_eq {s s' : State} (h1 : s'.top = s.top) (h2 : s'.observers = s.observers) : OT s s' :=
  ⟨h1, fun o ob h => ⟨ob, by rw [← h2]; exact h, rfl⟩⟩

theorem OT.modObs (s : State) (o : Nat) (f : ObsRec → ObsRec) (hf : ∀ x, (f x).node = x.node) :
    OT s { s with observers := s.observers.modify o f } := by
  refine ⟨rfl, fun j ob' hj => ?_⟩
  simp only [Array.getElem?_modify] at hj
  split at hj
  · cases h : s.observers[j]? with
    | none => rw [h] at hj; cases hj
    | some ob => rw [h] at hj; cases hj; exact ⟨ob, rfl, hf ob⟩
  · exact ⟨ob', hj, rfl⟩

/-- no write of the engine touches the naming table, pushes an observer record or changes the node of one -/
theorem OT.of_edit {L w} {s s' : State} (e : Edit L w s s') : OT s s' := by
  cases e
  case obs hf => exact OT.modObs s _ _ fun _ => by cases hf <;> rfl
  all_goals exact OT.of_eq rfl rfl

theorem PresO.didSetVarWhileNotStabilising (v) : Step.Pres OT (Engine.didSetVarWhileNotStabilising v) :=
  (Foot.didSetVarWhileNotStabilising v).frame OT.of_edit
theorem PresO.writeVar (v f b) : Step.Pres OT (Engine.writeVar v f b) :=
  (Foot.writeVar v f b).frame OT.of_edit

/-- `PAct` without `observe` -/
def PActO : Action → Prop
  | .observe _ => False
  | a => PAct a

theorem PresO.stepAction (env : Env) (a : Action) (tk : Array Nat) (h : PActO a) :
    Step.Pres OT (Engine.stepAction env a tk) := by
  refine (Foot.stepAction env a tk).lift fun e => ?_
  cases e
  case engine e => exact OT.of_edit e
  case cloned | dropped => exact OT.modObs _ _ _ fun _ => rfl
  all_goals exact h.elim

/-- the observers after an action of `PAct`: they watch named nodes -/
theorem obs_pact {env : Env} {s s' : State} {a : Action} {tk : Array Nat} {r : String × Array Nat}
    (hp : PAct a) (ha : PActionOK env s a)
    (hO : ∀ (o : Nat) (ob : ObsRec), s.observers[o]? = some ob → ∃ k : Nat, s.top[k]? = some ob.node)
    (h : (stepAction env a tk).run.run s = (.ok r, s')) :
    ∀ (o : Nat) (ob' : ObsRec), s'.observers[o]? = some ob' → ∃ k : Nat, s.top[k]? = some ob'.node := by
  by_cases hob : ∃ n, a = .observe n
  · obtain ⟨n, rfl⟩ := hob
    cases n <;> try exact ha.elim
    rename_i k
    obtain ⟨n, h0, rfl, -⟩ := Hist.stepAction_observe_ok.1 h
    obtain ⟨hk, -⟩ := Hist.resolveOuter_ok.1 h0
    intro o ob' ho
    simp only [Hist.observed, Array.getElem?_push] at ho
    split at ho
    · cases ho; exact ⟨k, hk⟩
    · exact hO o ob' ho
  · have hp' : PActO a := by
      cases a <;> first | exact hp | exact absurd ⟨_, rfl⟩ hob
    have T : OT s s' := (PresO.stepAction env a tk hp').h _ _ _ h
    intro o ob' ho
    obtain ⟨ob, ho0, e⟩ := T.obs o ob' ho
    rw [e]; exact hO o ob ho0

/-! ## the actions -/

theorem PAct.static {env : Env} {s : State} {a : Action} (hp : PAct a) (ha : PActionOK env s a) :
    QR.StaticAction (penv env) a := by
  cases a <;> first | exact hp.elim | exact ha | trivial

/-- **the API actions that create no node keep `PQ`** (`hv`: the simulation on the virtual state; `hsl`: slots) -/
theorem action_nocreate {env : Env} {rk : Nat → Nat} {s s' : State} {a : Action} {tk : Array Nat}
    {r : String × Array Nat} (Q : PQ env rk s) (hp : PAct a) (ha : PActionOK env s a)
    (hv : (stepAction (penv env) a tk).run.run (V s) = (.ok r, V s'))
    (hsl : SlotInv env s')
    (h : (stepAction env a tk).run.run s = (.ok r, s')) : PQ env rk s' := by
  have F : AF s s' := (PresA.stepAction env a tk hp).h _ _ _ h
  have hst : s.status ≠ .stabilising := by
    have := Q.q.status
    intro e
    rw [show (V s).status = s.status from rfl, e] at this
    cases this
  exact ⟨Q.frag.of_af F, QR.step_q Q.q (hp.static ha) hv, ahhEmpty_of_af Q.ahh F,
    Q.pk.of_af F (obs_pact hp ha Q.pk.obsTop h), hsl,
    Q.norem.of_af F (vars_pact hst hp ha h)⟩

end IncrVerif.Proofs.PerKeyH
