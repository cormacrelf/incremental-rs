import IncrVerif.Proofs.Heights
/-!
# LeakF1 — the program's node handles: what it means not to write them, and who does not read them

`Sim x`: a run of `x` that returns leaves `State.handles` (the ownership component's list of node handles held by
the program) unchanged.  Also here: `erase H s = { s with handles := H }` and the pure readers that do not read `handles`
(`value_erase`, …), used by `LeakF5`.
NOTE: the two-state version ("the run from `erase H s` returns the same in `erase H s'`") is FALSE for arbitrary
programs: `memoCall`, `perKeyDriver` and the weak-map sweep of `stabiliseEnd` read `State.isAlive`/`aliveSet`.
-/
namespace IncrVerif.Proofs.LeakF
open IncrVerif.Engine IncrVerif.Proofs

/-- replace the program's node handles by the list `H` -/
def erase (H : List Nat) (s : State) : State := { s with handles := H }

theorem erase_debug (H : List Nat) (s : State) : (erase H s).cfg.debug = s.cfg.debug := rfl

/-- `x` does not write the program's node handles -/
def Sim {α} (x : M α) : Prop :=
  ∀ (s s' : State) (a : α), x.run.run s = (.ok a, s') → s'.handles = s.handles

theorem Sim.modify (f : State → State) (hf : ∀ s, (f s).handles = s.handles) : Sim (modify f : M Unit) := by
  intro s s' b h
  rw [run_modify] at h
  cases h
  exact hf s

theorem Sim.ite {α} (c : Prop) [Decidable c] {x y : M α} (hx : Sim x) (hy : Sim y) :
    Sim (if c then x else y) := by
  split <;> assumption

/-! ## pure state functions that recurse with a state-dependent fuel: they do not read the erased fields -/

theorem valueWith_erase (proj : Nat → Val → Val) (H : List Nat) (s : State) (fuel n : Nat) :
    (erase H s).valueWith proj fuel n = s.valueWith proj fuel n := by
  induction fuel generalizing n with
  | zero => rfl
  | succ fuel ih =>
    simp only [State.valueWith]
    have : (erase H s).nodeD n = s.nodeD n := rfl
    rw [this]
    split
    · rw [ih]
    · rfl

theorem value_erase (env : Env) (H : List Nat) (s : State) (n : Nat) : (erase H s).value env n = s.value env n :=
  valueWith_erase env.proj H s _ n

theorem tryGetValue_erase (env : Env) (H : List Nat) (s : State) (o : Nat) :
    (erase H s).tryGetValue env o = s.tryGetValue env o := by
  unfold State.tryGetValue
  simp only [value_erase]
  rfl

theorem nodeUpdate_erase (env : Env) (H : List Nat) (s : State) (n : Nat) :
    (erase H s).nodeUpdate env n = s.nodeUpdate env n := by
  unfold State.nodeUpdate
  simp only [value_erase]
  rfl

end IncrVerif.Proofs.LeakF
