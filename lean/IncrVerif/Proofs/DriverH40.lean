import IncrVerif.Proofs.DriverH39
/-!
# Drivers, D3: a raised `forceStale` flag on a node that is needed at the end FORCES a recompute of that node

`expertMakeStale x` and every `xAdd`/`xRm`/`xSel` edit raise the flag `forceStale` of the record of the expert node `x`;
only `recomputeOne` on `x` itself resets it.

* `FS n s s'`: the frame of one step (`n`: the node the step runs, if any): a raised flag survives unless the step is
  the recompute of the flag's own node.  `FSL l s s'`: the same along a list `l` of run nodes.
* `fs_step`, `fs_pop`, `fs_drain`: the frame along `recomputeOne`, `rchRemoveMin`, `drainHeap`.
* `make_stale_forces`: from any state of a drain with no current node in which the flag of `x` is up: if `x` is needed at
  the end of the drain, `x` runs in (the rest of) the drain.
* `make_stale_next_stabilise` (`_phases`: with the four phases of the `stabilise` spelled out): the flag up when a
  `stabilise` starts, `x` needed when it ends: `x` runs in the drain of this `stabilise` (exactly once: the trace has no
  duplicates).
-/
namespace IncrVerif.Proofs.DriverH
open IncrVerif.Engine IncrVerif.Driver IncrVerif.Proofs IncrVerif.Proofs.Step IncrVerif.Proofs.Sched
open IncrVerif.Proofs.ExpertH IncrVerif.Proofs.ExpertH.QR IncrVerif.Proofs.EffH

/-! ## the frame of the flags -/

/-- a raised flag survives a step unless the step is the recompute of the flag's own node -/
def FS (n : Option Nat) (s s' : State) : Prop :=
  ∀ (e : Nat) (er : ExpertRec), s.experts[e]? = some er → er.forceStale = true → n ≠ some er.node →
    ∃ er', s'.experts[e]? = some er' ∧ er'.forceStale = true ∧ er'.node = er.node

/-- a raised flag survives the runs of the nodes of `l` unless its own node is in `l` -/
def FSL (l : List Nat) (s s' : State) : Prop :=
  ∀ (e : Nat) (er : ExpertRec), s.experts[e]? = some er → er.forceStale = true → er.node ∉ l →
    ∃ er', s'.experts[e]? = some er' ∧ er'.forceStale = true ∧ er'.node = er.node

theorem FS.refl (n : Option Nat) (s : State) : FS n s s := fun _ er he hf _ => ⟨er, he, hf, rfl⟩

theorem FS.weaken {s s' : State} (h : FS none s s') (n : Option Nat) : FS n s s' :=
  fun e er he hf _ => h e er he hf (fun h => by cases h)

theorem FS.of_xf {s s' : State} (h : XF s s') (n : Option Nat) : FS n s s' := by
  intro e er he hf _
  obtain ⟨er', he', -, hn, -, -, hfs⟩ := h.xrec he
  exact ⟨er', he', hfs.trans hf, hn⟩

theorem FSL.refl (s : State) : FSL [] s s := fun _ er he hf _ => ⟨er, he, hf, rfl⟩

theorem FSL.of_none {s s' : State} (h : FS none s s') : FSL [] s s' :=
  fun e er he hf _ => h e er he hf (fun h => by cases h)

theorem FSL.single {n : Nat} {s s' : State} (h : FS (some n) s s') : FSL [n] s s' := by
  intro e er he hf hn
  refine h e er he hf ?_
  intro hh
  cases hh
  exact hn (List.mem_singleton.2 rfl)

/-- composition along a list of run nodes -/
theorem FSL.trans {l1 l2 : List Nat} {a b c : State} (h1 : FSL l1 a b) (h2 : FSL l2 b c) : FSL (l1 ++ l2) a c := by
  intro e er he hf hn
  obtain ⟨er1, he1, hf1, hn1⟩ := h1 e er he hf (fun h => hn (List.mem_append.2 (Or.inl h)))
  obtain ⟨er2, he2, hf2, hn2⟩ := h2 e er1 he1 hf1 (by rw [hn1]; exact fun h => hn (List.mem_append.2 (Or.inr h)))
  exact ⟨er2, he2, hf2, hn2.trans hn1⟩

/-! ## one `recomputeOne` -/

/-- a user `map` node (possibly a driver): the effects keep or raise flags, the rest is `XF` -/
theorem fs_map {env : Env} {fuel n f : Nat} {args : List Nat} {s s' : State} {r : Option Nat}
    (D : DD env s (some n)) (hk : (s.nodeD n).kind = .map f args) (hf : f < fnZip)
    (h : (recomputeOne env fuel n).run.run s = (.ok r, s')) : FS none s s' := by
  have I := D.inv
  have A := D.aux
  obtain ⟨-, hltV, -, -, -⟩ := I.cur_facts
  have hlt : n < s.nodes.size := by rw [← virt_size]; exact hltV
  have hne := map_not_expert hk
  obtain ⟨vals, s2, -, hX, hrun⟩ := run_split A.frag hlt hk hf h
  have M1 : Mid (noEff env) (started n s) := midOfDInv _ n s I A hne
  have hOK : ∀ eff, eff ∈ env.fnEff f vals → EffOK (started n s) n eff := fun eff he =>
    (D.drv n f args hlt hk hf vals eff he).to_started
  obtain ⟨-, ef, -, -⟩ := effects_spec env fuel n _ _ (started n s) s2 M1 hOK hX
  have hxf : XF s2 s' :=
    (XF.of_nodes rfl rfl rfl : XF s2 (logged [mapEv env n f vals] s2)).trans
      ((PresX.maybeChangeValue env fuel n _).h _ _ _ hrun)
  intro e er he hfl _
  have he0 : (started n s).experts[e]? = some er := he
  obtain ⟨er1, he1, -, hn1, -⟩ := ef.xcore e er he0
  have hf1 : er1.forceStale = true := by
    rcases ef.xforce e er er1 he0 he1 with ⟨-, k⟩ | k
    · exact k.trans hfl
    · exact k
  obtain ⟨er2, he2, -, hn2, -, -, hf2⟩ := hxf.xrec he1
  exact ⟨er2, he2, hf2.trans hf1, hn2.trans hn1⟩

/-- a node that is neither an expert node nor a user `map` node: `XF` -/
theorem fs_static {env : Env} {fuel n : Nat} {s s' : State} {r : Option Nat} (D : DD env s (some n))
    (hne : ∀ e, (s.nodeD n).kind ≠ .expert e)
    (hm : ∀ f args, (s.nodeD n).kind = .map f args → fnZip ≤ f)
    (h : (recomputeOne env fuel n).run.run s = (.ok r, s')) : FS none s s' := by
  have hnec : (virt s).isNecessary n = true := (D.inv.cur n rfl).1
  have hlt : n < s.nodes.size := by rw [← virt_size]; exact D.inv.graph.nec_lt hnec
  have F := D.aux.frag
  have fr := F.fr D.aux.pinv
  have hE := recomputeOne_noEff_other fr hlt (F.kind n hlt) hne hm h
  obtain ⟨w, es, hrun⟩ := recomputeOne_as_mcv_x fr hlt (F.kind n hlt) hne hE
  rw [hrun] at hE
  have hxf : XF s s' :=
    (xf_started_logged es n s).trans ((PresX.maybeChangeValue (noEff env) fuel n w).h _ _ _ hE)
  exact FS.of_xf hxf none

/-- an expert node: only its own record changes -/
theorem fs_expert {env : Env} {fuel n e0 : Nat} {s s' : State} {r : Option Nat} (D : DD env s (some n))
    (hk : (s.nodeD n).kind = .expert e0)
    (h : (recomputeOne env fuel n).run.run s = (.ok r, s')) : FS (some n) s s' := by
  have hnec : (virt s).isNecessary n = true := (D.inv.cur n rfl).1
  have hlt : n < s.nodes.size := by rw [← virt_size]; exact D.inv.graph.nec_lt hnec
  have F := D.aux.frag
  obtain ⟨er0, he0, hnode0⟩ := F.xrec n e0 hlt hk
  obtain ⟨hpk, hni, -, -⟩ := F.xok e0 er0 he0
  have hx : Xp.IsExpert s n (s.nodeD n) e0 er0 := ⟨some_of_lt hlt, F.valid n hlt, hk, he0⟩
  rw [recomputeOne_noEff_expert hx hpk F.pc (by omega)] at h
  obtain ⟨v, -, er, -, -, -, he, hrun, -⟩ := step_expert_ranB F D.inv D.aux.pinv hk h
  have hxf := (PresX.maybeChangeValue (noEff env) fuel n v).h _ _ _ hrun
  intro e er1 he1 hfl hn
  by_cases hee : e = e0
  · subst hee
    rw [he0] at he1
    cases he1
    exact absurd (by rw [hnode0]) hn
  · have he1' : (ranState (noEff env) n e0 s er).experts[e]? = some er1 := by
      rw [ranState_get_ne (noEff env) n e0 s er hee]; exact he1
    obtain ⟨er2, he2, -, hn2, -, -, hf2⟩ := hxf.xrec he1'
    exact ⟨er2, he2, hf2.trans hfl, hn2⟩

/-- **one `recomputeOne` of the drain keeps every raised flag but that of the node it runs** -/
theorem fs_step (env : Env) : ∀ (fuel n : Nat) (s s' : State) (r : Option Nat), DD env s (some n) →
    (recomputeOne env fuel n).run.run s = (.ok r, s') → FS (some n) s s' := by
  intro fuel n s s' r D h
  by_cases hk : ∃ f args, (s.nodeD n).kind = .map f args ∧ f < fnZip
  · obtain ⟨f, args, hk, hf⟩ := hk
    exact (fs_map D hk hf h).weaken _
  · have hm : ∀ f args, (s.nodeD n).kind = .map f args → fnZip ≤ f := by
      intro f args hk'
      rcases Nat.lt_or_ge f fnZip with hf | hf
      · exact absurd ⟨f, args, hk', hf⟩ hk
      · exact hf
    by_cases hx : ∀ e, (s.nodeD n).kind ≠ .expert e
    · exact (fs_static D hx hm h).weaken _
    · have : ∃ e, (s.nodeD n).kind = .expert e := by
        cases hkd : (s.nodeD n).kind <;>
          first | exact ⟨_, rfl⟩ | (exfalso; apply hx; intro e; rw [hkd]; intro h; cases h)
      obtain ⟨e, hkk⟩ := this
      exact fs_expert D hkk h

/-- a pop leaves the expert records unchanged -/
theorem fs_pop {s s1 : State} {r : Option Nat} (h : rchRemoveMin.run.run s = (.ok r, s1)) : FS none s s1 :=
  FS.of_xf (PresX.rchRemoveMin.h _ _ _ h) none

/-! ## the chain and the drain -/

theorem fs_drain (env : Env) (fuel : Nat) (s s' : State) (D : DD env s none)
    (h : (drainHeap env fuel).run.run s = (.ok (), s')) : FSL (drainTrace env fuel s) s s' := by
  obtain ⟨s1, D1, O, h1, -⟩ := Drain.drainHeap_run (I := fun x t => DD env t x) (T := fun l a b => FSL (l.map (·.1)) a b)
    (fun h1 h2 => by rw [List.map_append]; exact h1.trans h2)
    (fun fuel n t r t' D h => ⟨(step_spec env fuel n t t' r D h).1, .single (fs_step env fuel n t t' r D h)⟩)
    (fun t n t' D h => ⟨(pop_spec env t t' n D h).1, .of_none (fs_pop h)⟩) (fun t _ => .refl t) fuel s s' D h
  obtain ⟨rfl, -⟩ := rchRemoveMin_inv (heapInv_of_virt D1.inv.heap) h1
  rw [← TidyH.drainSteps_fst]
  exact O

/-! ## the theorems -/

/-- **A raised flag forces a recompute.**  From ANY state `s` of a drain with no current node (in particular: between
two pops) in which the flag of the expert node `x` is up: if `x` is needed when the drain ends, `x` runs in the
remaining drain. -/
theorem make_stale_forces (env : Env) : ∀ (fuel : Nat) (s s' : State), DD env s none →
    (drainHeap env fuel).run.run s = (.ok (), s') →
    ∀ (x e : Nat) (er : ExpertRec), (s.nodeD x).kind = .expert e → s.experts[e]? = some er → er.forceStale = true →
      s'.isNecessary x = true → x ∈ drainTrace env fuel s := by
  intro fuel s s' D h x e er hk he hf hn
  have hlt : x < s.nodes.size := D.aux.frag.lt_of_expert hk
  obtain ⟨er0, he0, hnode⟩ := D.aux.frag.xrec x e hlt hk
  rw [he] at he0
  cases he0
  by_cases hx : x ∈ drainTrace env fuel s
  · exact hx
  · exfalso
    obtain ⟨er', he', hf', -⟩ := fs_drain env fuel s s' D h e er he hf (by rw [hnode]; exact hx)
    obtain ⟨D', hemp, f, -⟩ := drain_spec env fuel s s' D h
    have hk' : (s'.nodeD x).kind = .expert e := by
      rw [(dnKey_inv (f.node x)).1]; exact hk
    have hlt' : x < s'.nodes.size := by rw [f.size]; exact hlt
    have hX : Xp.IsExpert s' x (s'.nodeD x) e er' := ⟨some_of_lt hlt', D'.aux.frag.valid x hlt', hk', he'⟩
    have hst : s'.isStale x = true := hX.isStale_of_forceStale hf'
    have hnv : (virt s').isNecessary x = true := by rw [virt_isNecessary]; exact hn
    have hemp' : (virt s').rch.length = 0 := hemp
    obtain ⟨-, h2, -⟩ := BindH.drained_valuesB D'.inv hemp' x hnv _ (Nat.lt_succ_self _)
    rw [virt_isStale, hst] at h2
    cases h2

/-- the same, with the drain tied to the phases of THIS `stabilise`: `t2`, `t3` are the states in which its drain
starts and ends -/
theorem make_stale_next_stabilise_phases {env : Env} {rk : Nat → Nat} {fuel : Nat} {s s' : State}
    (Q : QInvX (noEff env) rk s) (K : DrvOK env s) (h : (stabilise env fuel).run.run s = (.ok (), s'))
    {x e : Nat} {er : ExpertRec} (hk : (s.nodeD x).kind = .expert e) (hx : s.experts[e]? = some er)
    (hf : er.forceStale = true) (hn : s'.isNecessary x = true) :
    ∃ t1 t2 t3, (addNewObservers env fuel).run.run { s with status := .stabilising } = (.ok (), t1) ∧
      (unlinkDisallowedObservers fuel).run.run t1 = (.ok (), t2) ∧
      (drainHeap env fuel).run.run t2 = (.ok (), t3) ∧ (stabiliseEnd env fuel).run.run t3 = (.ok (), s') ∧
      x ∈ drainTrace env fuel t2 ∧ (drainTrace env fuel t2).Nodup := by
  have R := stab_spec env rk fuel s s' Q K h
  obtain ⟨t1, t2, t3, h1, h2, D2, h3, D3, he3, hnd, h4⟩ := R.drain
  have Qv := Q.q
  -- the prefix keeps kinds and records
  have hxf : XF { s with status := .stabilising } t2 :=
    ((PresX.addNewObservers env fuel).h _ _ _ h1).trans ((PresX.unlinkDisallowedObservers fuel).h _ _ _ h2)
  have hk2 : (t2.nodeD x).kind = .expert e := by rw [hxf.kind]; exact hk
  have hx0 : ({ s with status := .stabilising } : State).experts[e]? = some er := hx
  obtain ⟨er2, hx2, -, -, -, -, hf2⟩ := hxf.xrec hx0
  -- the end keeps necessity
  obtain ⟨-, O2, -, -, P⟩ := stab_startD Q K rfl h1 h2
  obtain ⟨-, -, f3, -⟩ := drain_spec env fuel t2 t3 D2 h3
  obtain ⟨-, -, k_obs, -, -, k_sds, k_dead, -, -, -⟩ := eKey_inv f3.key
  have hs0v : virt { s with status := .stabilising } = { virt s with status := .stabilising } := rfl
  have E := stabiliseEnd_fin (env := env) (fuel := fuel) (s := t3) (s' := s')
    (by
      rw [k_sds]
      have := P.setDuringStab; rw [hs0v] at this
      exact this.trans Qv.setDuringStab)
    (by
      rw [k_dead]
      have := P.deadVars; rw [hs0v] at this
      exact this.trans Qv.deadVars)
    (by
      intro o ob ho
      rw [k_obs] at ho
      exact (O2.inRange o ob ho).2) h4
  have hn3 : t3.isNecessary x = true := by
    obtain ⟨b, hb⟩ := E.node x
    have : s'.isNecessary x = t3.isNecessary x := by
      unfold State.isNecessary
      rw [hb]
      rfl
    rw [← this]; exact hn
  exact ⟨t1, t2, t3, h1, h2, h3, h4, make_stale_forces env fuel t2 t3 D2 h3 x e er2 hk2 hx2 (hf2.trans hf) hn3, hnd⟩

/-- **`make_stale` (or an edit) before a `stabilise` forces exactly one recompute in it.**  If the flag of the expert
node `x` is up when a `stabilise` starts and `x` is needed when it ends, then `x` runs in the drain of this
`stabilise` (`t2`, `t3`: the states in which that drain starts and ends) — once: the trace has no duplicates. -/
theorem make_stale_next_stabilise {env : Env} {rk : Nat → Nat} {fuel : Nat} {s s' : State}
    (Q : QInvX (noEff env) rk s) (K : DrvOK env s) (h : (stabilise env fuel).run.run s = (.ok (), s'))
    {x e : Nat} {er : ExpertRec} (hk : (s.nodeD x).kind = .expert e) (hx : s.experts[e]? = some er)
    (hf : er.forceStale = true) (hn : s'.isNecessary x = true) :
    ∃ t2 t3, (drainHeap env fuel).run.run t2 = (.ok (), t3) ∧ x ∈ drainTrace env fuel t2 ∧
      (drainTrace env fuel t2).Nodup := by
  obtain ⟨-, t2, t3, -, -, h3, -, hm, hnd⟩ := make_stale_next_stabilise_phases Q K h hk hx hf hn
  exact ⟨t2, t3, h3, hm, hnd⟩

end IncrVerif.Proofs.DriverH
