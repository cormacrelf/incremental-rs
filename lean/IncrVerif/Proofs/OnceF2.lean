import IncrVerif.Proofs.FullH46
import IncrVerif.Proofs.BindH13
/-!
# C02, combined fragment, part 2: AT MOST ONCE, read off the path of the drain

A returning drain of the combined fragment is a path `FullH.PathF` of pops and steps between configurations (ghost, state) along `TidyH.drainSteps`
(`FullH.drain_pathF`).  What `C02Full`, `C03Full`, `C06Full` say of the trace of a drain is read off this path.

`PathF.once`: NO DUPLICATES in the list of nodes handed to `recomputeOne`, each of them `BindH.RanOnceB` (not yet stamped before, stamped and STILL VALID at the
end: no node of a generation that dies in this drain ran in it) — a node that runs has `recomputedAt < stabNum` (`BindH.DInv.cur_facts`), `= stabNum` afterwards,
and the progress frame `BindH.FrameB` of the virtual states keeps the stamp.
-/
namespace IncrVerif.Proofs.OnceF
open IncrVerif.Engine IncrVerif.Driver IncrVerif.Proofs IncrVerif.Proofs.Step IncrVerif.Proofs.Sched IncrVerif.Proofs.Quiet
open IncrVerif.Proofs.FullH IncrVerif.Proofs.TidyH
open IncrVerif.Proofs.BindH (DInv FrameB RanOnceB)

section
variable {env : Env} {sp : Nat → Val → Val} {t : State} {l : List (Nat × State)} {a c : (Nat → Option Val) × State} {x z : Option Nat}

/-- a relation of the actual states that the pop and every `recomputeOne` keep, whatever their outcome -/
theorem PathF.pres {R : State → State → Prop} [PreOrd R] (hpop : Step.Pres R rchRemoveMin)
    (hone : ∀ fuel n, Step.Pres R (recomputeOne env fuel n)) (h : PathF env sp t l a x c z) : R a.2 c.2 :=
  h.rel (R := fun a c => R a.2 c.2) (fun _ => PreOrd.refl _) PreOrd.trans (fun _ _ _ p => hpop.h _ _ _ p.run)
    fun n _ _ _ _ s => by
      obtain ⟨fuel, hr⟩ := s.run
      exact (hone fuel n).h _ _ _ hr

/-- every step happens in a state with the invariant (for some ghost), reached from the start -/
theorem PathF.steps (h : PathF env sp t l a x c z) {p : Nat × State} (hp : p ∈ l) :
    ∃ gp, DInvF env sp t p.2 gp (some p.1) ∧ FrameB (virt a.1 a.2) (virt gp p.2) := by
  obtain ⟨_, _, u, _, _, -, k1, e, s, -⟩ := h.of_mem hp
  exact ⟨u.1, e ▸ s.inv, e ▸ PathF.frameB k1⟩

/-- **at most once, the drain of the combined fragment** -/
theorem PathF.once (h : PathF env sp t l a x c z) (hs : Stamps (virt a.1 a.2)) :
    (l.map (·.1)).Nodup ∧ ∀ m, m ∈ l.map (·.1) → RanOnceB (virt a.1 a.2) (virt c.1 c.2) m := by
  constructor
  · refine List.pairwise_map.2 (h.pairwise fun n r a b l c z s k q hq e => ?_)
    obtain ⟨_, _, u, _, _, -, k1, -, sq, -⟩ := k.of_mem hq
    have h1 := (s.later k1).1
    have h2 := sq.inv.inv.cur_facts.2.2.2.2
    have e : q.1 = n := e.symm
    rw [e, (PathF.frameB k1).stabNum, s.fr.stabNum] at h2
    omega
  · intro m hm
    obtain ⟨p, hp, rfl⟩ := List.mem_map.1 hm
    obtain ⟨_, _, u, v, r, -, k1, -, s, k2⟩ := h.of_mem hp
    have f := PathF.frameB k1
    have h1 := s.inv.inv.cur_facts.2.2.2.2
    obtain ⟨h2, h3⟩ := s.later k2
    rw [f.stabNum] at h1 h2
    refine ⟨?_, h2, h3⟩
    -- a stamp of this round at the start would have been kept up to `u`
    have h4 := (hs.node p.1).1
    by_cases e : ((virt a.1 a.2).nodeD p.1).recomputedAt = (virt a.1 a.2).stabNum
    · have := (f.ran p.1 e).1
      omega
    · omega

end
end IncrVerif.Proofs.OnceF
