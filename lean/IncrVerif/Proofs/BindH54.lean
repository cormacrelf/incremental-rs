import IncrVerif.Proofs.BindH26
import IncrVerif.Proofs.BindH49
/-!
# Binds, unlinking side: frames and labels
-/
namespace IncrVerif.Proofs.BindH
open IncrVerif.Engine IncrVerif.Proofs IncrVerif.Proofs.Step IncrVerif.Proofs.Sched IncrVerif.Proofs.Quiet

namespace CU

theorem aboveR_mono {a b : State} {n k : Nat} (h : AboveR a n b) (hk : rkOf a n ≤ rkOf a k) : AboveR a k b :=
  CL.AboveR.mono h hk

theorem keyEq_of_fr {s s' : State} (F : BU.Fr s s') : BL.KeyEq s s' :=
  ⟨F.b.size, F.binds, F.b.vars, F.b.valid, F.b.kind, F.b.cutoff, F.b.createdIn, F.b.recomputedAt, F.b.changedAt⟩

theorem upd_unl_closed {op : Nat → Op} {p a b : Nat} (hop : op p = .unlinking a) {m : Nat}
    (h : upd op p (.unlinking b) m = .closed) : op m = .closed := BU.upd_unl_closed hop h

theorem op_ne_closed_of_linking {op : Nat → Op} {m k : Nat} (h : op m = .linking k) : op m ≠ .closed :=
  BU.op_ne_closed_of_linking h

theorem op_ne_closed_of_unlinking {op : Nat → Op} {m k : Nat} (h : op m = .unlinking k) : op m ≠ .closed :=
  BU.op_ne_closed_of_unlinking h

end CU

section
variable {env : Env} {s s' : State} {op : Nat → Op} {ex : Nat → Prop} {dy : List Nat}

/-- the entry that `removeParent c idx p` looks for exists -/
theorem GInv1.removeEdge_mem {c p idx : Nat} (I : GInv1 env s op ex dy)
    (hop : op p = .unlinking idx) (hk : (s.children p)[idx]? = some c) :
    (p, idx) ∈ (s.nodeD c).parents :=
  I.conv p idx c hk ((wants_unlinking hop).2 (Nat.le_refl _))

end

end IncrVerif.Proofs.BindH
