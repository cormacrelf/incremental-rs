import IncrVerif.Proofs.MapRef7
/-!
# map_ref fragment: simulation of the API actions (all but `stabilise`)
-/
namespace IncrVerif.Proofs.MapRefH
open IncrVerif.Engine IncrVerif.Proofs IncrVerif.Proofs.Step IncrVerif.Proofs.Sched IncrVerif.Proofs.Quiet
open IncrVerif.Proofs.NodeSim (CommAt Comm CommXAt)

def virtInstr : Instr → Instr
  | .mapRef p i => .map (projBase + p) [i]
  | i => i

def virtAction : Action → Action
  | .create i => .create (virtInstr i)
  | a => a

/-- creation instructions of the fragment static + map_ref -/
def RInstr : Instr → Prop
  | .const _ => True
  | .var _ => True
  | .map _ _ => True
  | .fold _ _ _ => True
  | .zip _ _ => True
  | .mapRef _ _ => True
  | _ => False

/-- API actions of the fragment (all but `stabilise`) -/
def RAction : Action → Prop
  | .create i => RInstr i
  | .observe _ => True
  | .cloneObs _ => True
  | .dropObs _ => True
  | .disallow _ => True
  | .set _ _ => True
  | .modify _ _ => True
  | .update _ _ => True
  | .replace _ _ => True
  | .replaceWith _ _ => True
  | .get _ => True
  | .isStable => True
  | .stats => True
  | _ => False

/-! ## programs that do not change the state -/

/-- `s' = s` -/
def SameS (s s' : State) : Prop := s' = s
instance : Step.PreOrd SameS := ⟨fun _ => rfl, fun h1 h2 => Eq.trans h2 h1⟩

theorem RO.resolveOpnd (loc : List Nat) (o : Opnd) : Step.Pres SameS (Engine.resolveOpnd loc o) := by
  unfold Engine.resolveOpnd; qpres

theorem RO.isConstant (n : Nat) : Step.Pres SameS (Engine.isConstant n) := by
  unfold Engine.isConstant; qpres

section
variable {g : Nat → Option Val} {s : State} {α β : Type}

/-- a read-only program followed by a continuation: the continuation starts in the same state -/
theorem commAt_ro_seq {E : Panic → Prop} {V : State → State} {I : State → Prop} {x x' : M α} {f f' : α → M β}
    (hro : Step.Pres SameS x) (hx : CommAt E V I s x x') (hf : ∀ a, CommAt E V I s (f a) (f' a)) :
    CommAt E V I s (x >>= f) (x' >>= f') :=
  CommXAt.ro_seq (fun _ s1 h => hro.h s _ s1 h) hx fun a _ => hf a

end

section
variable {g : Nat → Option Val}

theorem Sim.dropVarHandle (v : Nat) : Sim g (Engine.dropVarHandle v) (Engine.dropVarHandle v) :=
  .of_comm (NodeSim.Comm.dropVarHandle (blind g) v)

/-! ## node creation -/

/-- the state after `createNode k sc c` -/
def crState (k : Kind) (sc : Scope) (c : CutoffK) (s : State) : State :=
  let s1 : State := { s with
    counters := { s.counters with created := s.counters.created + 1 }
    nodes := s.nodes.push { kind := k, createdIn := sc, cutoff := c } }
  match sc with
  | .top => s1
  | .bind b => { s1 with binds := s1.binds.modify b fun x =>
      { x with allNodesCreatedOnRhs := x.allNodesCreatedOnRhs ++ [s.nodes.size] } }

theorem run_createNode (k : Kind) (sc : Scope) (c : CutoffK) (s : State) :
    (Engine.createNode k sc c).run.run s = (.ok s.nodes.size, crState k sc c s) := by
  unfold Engine.createNode crState
  cases sc <;> rfl

theorem crState_nodes (k : Kind) (sc : Scope) (c : CutoffK) (s : State) :
    (crState k sc c s).nodes = s.nodes.push { kind := k, createdIn := sc, cutoff := c } := by
  unfold crState; cases sc <;> rfl

theorem crState_pinv (k : Kind) (sc : Scope) (c : CutoffK) (s : State) :
    (crState k sc c s).propagateInvalidity = s.propagateInvalidity := by
  unfold crState; cases sc <;> rfl

theorem virtNode_new (k : Kind) (sc : Scope) (c : CutoffK) :
    virtNode none { kind := k, createdIn := sc, cutoff := c } = { kind := virtKind k, createdIn := sc, cutoff := c } := by
  cases k <;> rfl

theorem virt_push (s : State) (nd : Node) :
    (s.nodes.push nd).mapIdx (fun i x => virtNode (g i) x) =
      ((virt g s).nodes).push (virtNode (g s.nodes.size) nd) := by
  simp [virt, Array.mapIdx_push]

theorem virt_crState (k : Kind) (sc : Scope) (c : CutoffK) (s : State) (hg : g s.nodes.size = none) :
    virt g (crState k sc c s) = crState (virtKind k) sc c (virt g s) := by
  have h := virt_push (g := g) s { kind := k, createdIn := sc, cutoff := c }
  rw [hg, virtNode_new] at h
  unfold crState virt at *
  cases sc <;> simp only [] <;> rw [h] <;> simp

theorem fr_crState {k : Kind} (sc : Scope) {c : CutoffK} {s : State} (hn : Fr s) (hne : ∀ e, k ≠ .expert e)
    (hc : ∀ p i, k = .mapRef p i → c = .eq) : Fr (crState k sc c s) := by
  have hnd : ∀ m, (crState k sc c s).nodeD m = s.nodeD m ∨
      (crState k sc c s).nodeD m = { kind := k, createdIn := sc, cutoff := c } := by
    intro m
    simp only [State.nodeD, crState_nodes, Array.getElem?_push]
    split
    · right; rfl
    · left; rfl
  refine ⟨fun m e => ?_, fun m => ?_, ?_, fun m p i hk => ?_⟩
  · rcases hnd m with h | h <;> rw [h]
    · exact hn.noExp m e
    · exact hne e
  · rcases hnd m with h | h <;> rw [h]
    · exact hn.valid m
  · rw [crState_pinv]; exact hn.pinv
  · rcases hnd m with h | h <;> rw [h] at hk ⊢
    · exact hn.cut m p i hk
    · exact hc p i hk

theorem SimAt.createNode' {s : State} {k k' : Kind} (sc : Scope) (c : CutoffK) (hg : g s.nodes.size = none)
    (hk : k' = virtKind k) (hne : ∀ e, k ≠ .expert e) (hc : ∀ p i, k = .mapRef p i → c = .eq) :
    SimAt g s (Engine.createNode k sc c) (Engine.createNode k' sc c) := by
  subst hk
  intro hn r s' hr
  rw [run_createNode] at hr ⊢
  cases hr
  rw [virt_size, virt_crState k sc c s hg]
  exact ⟨rfl, fr_crState sc hn hne hc⟩

theorem SimAt.createNode {s : State} {k : Kind} {sc : Scope} {c : CutoffK} (hg : g s.nodes.size = none)
    (hne : ∀ e, k ≠ .expert e) (hc : ∀ p i, k = .mapRef p i → c = .eq) :
    SimAt g s (Engine.createNode k sc c) (Engine.createNode (virtKind k) sc c) :=
  SimAt.createNode' sc c hg rfl hne hc

theorem SimAt.createVar {s : State} (v : Val) (sc : Scope) (hg : g s.nodes.size = none) :
    SimAt g s (Engine.createVar v sc) (Engine.createVar v sc) := by
  have H := blind g
  unfold Engine.createVar
  refine simAt_iff.2 (CommXAt.get_seq ?_)
  vnorm
  refine CommXAt.seq (simAt_iff.1 (SimAt.createNode' sc .eq hg rfl (fun e h => by cases h) (fun p i h => by cases h)))
    fun _ _ _ _ => ?_
  sim

/-! ## `elabInstr`, `stepAction` -/

/-- `some <$> createNode k sc` for a kind that is neither `expert` nor `mapRef` -/
macro "cr_node" : tactic => `(tactic|
  exact CommXAt.map _
    (simAt_iff.1 (SimAt.createNode' _ _ (by assumption) rfl (fun e h => by cases h) (fun p i h => by cases h))))

theorem SimAt.elabInstr {s : State} {i : Instr} (hg : g s.nodes.size = none) (hR : RInstr i) :
    SimAt g s (Engine.elabInstr [] .unit i) (Engine.elabInstr [] .unit (virtInstr i)) := by
  have H := blind g
  unfold Engine.elabInstr
  refine simAt_iff.2 ?_
  cases i <;> simp only [RInstr] at hR <;> simp only [virtInstr] <;> refine CommXAt.get_seq ?_ <;> try vnorm
  case const v => cr_node
  case var v => exact CommXAt.map _ (simAt_iff.1 (SimAt.createVar v .top hg))
  case map f args =>
    refine commAt_ro_seq (Step.Pres.mapM (fun a => RO.resolveOpnd [] a) args)
      (NodeSim.Comm.mapM (fun a => NodeSim.Comm.resolveOpnd H [] a) args s) fun as => ?_
    cr_node
  case fold f init cs =>
    refine commAt_ro_seq (Step.Pres.mapM (fun a => RO.resolveOpnd [] a) cs)
      (NodeSim.Comm.mapM (fun a => NodeSim.Comm.resolveOpnd H [] a) cs s) fun as => ?_
    refine CommXAt.cond Iff.rfl (fun _ => ?_) (fun _ => ?_) <;> cr_node
  case mapRef p i =>
    simp only [List.mapM_cons, List.mapM_nil, bind_assoc, pure_bind]
    refine commAt_ro_seq (RO.resolveOpnd [] i) (NodeSim.Comm.resolveOpnd H [] i s) fun x => ?_
    exact CommXAt.map _ (simAt_iff.1 (SimAt.createNode' _ _ hg rfl (fun e h => by cases h) (fun _ _ _ => rfl)))
  case zip a b =>
    refine commAt_ro_seq (RO.resolveOpnd [] a) (NodeSim.Comm.resolveOpnd H [] a s) fun x => ?_
    refine commAt_ro_seq (RO.resolveOpnd [] b) (NodeSim.Comm.resolveOpnd H [] b s) fun y => ?_
    refine commAt_ro_seq (RO.isConstant x) (NodeSim.Comm.isConstant H x s) fun cx => ?_
    refine commAt_ro_seq (RO.isConstant y) (NodeSim.Comm.isConstant H y s) fun cy => ?_
    split <;> cr_node

theorem elabInstrM_eq (env : Env) (loc : List Nat) (v : Val) {i : Instr} (hR : RInstr i) :
    Engine.elabInstrM env loc v i = Engine.elabInstr loc v i := by
  cases i <;> first | rfl | exact absurd hR (by simp [RInstr])

theorem RInstr.virt {i : Instr} (hR : RInstr i) : RInstr (virtInstr i) := by
  cases i <;> first | exact hR | trivial

theorem SimAt.elabInstrM {s : State} {i : Instr} (env : Env) (hg : g s.nodes.size = none) (hR : RInstr i) :
    SimAt g s (Engine.elabInstrM env [] .unit i) (Engine.elabInstrM (virtEnv env) [] .unit (virtInstr i)) := by
  rw [elabInstrM_eq _ _ _ hR, elabInstrM_eq _ _ _ hR.virt]
  exact SimAt.elabInstr hg hR

theorem virt_isStable (s : State) : (virt g s).isStable = s.isStable := rfl

theorem actCalc : Hist.ActCalc (virt g) (fun s => SimAt g s) :=
  (NodeSim.actCalc (blind g)).congr (virt_eq g) fun _ _ _ _ => simAt_iff

theorem RAction.cases {a : Action} (h : RAction a) : (∃ i, a = .create i ∧ RInstr i) ∨ (Hist.Plain a ∧ virtAction a = a) := by
  cases a <;> first | exact Or.inl ⟨_, rfl, h⟩ | exact Or.inr ⟨trivial, rfl⟩ | exact h.elim

theorem SimAt.stepAction {s : State} {a : Action} (env : Env) (tk : Array Nat) (hg : g s.nodes.size = none)
    (hR : RAction a) :
    SimAt g s (Engine.stepAction env a tk) (Engine.stepAction (virtEnv env) (virtAction a) tk) := by
  rcases hR.cases with ⟨i, rfl, hi⟩ | ⟨hp, e⟩
  · exact actCalc.create tk (SimAt.elabInstrM env hg hi)
  · rw [e]
    exact actCalc.plain hp _ _ tk s

end
end IncrVerif.Proofs.MapRefH
