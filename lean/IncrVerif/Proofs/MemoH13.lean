import IncrVerif.Proofs.MemoH12
/-!
# K3, invalidation part (3): the contract `ASpec env`
-/
namespace IncrVerif.Proofs.MemoH
open IncrVerif.Engine IncrVerif.Proofs.Obs IncrVerif.Proofs.Memo

namespace KA

theorem TV.of_fr_gj {s s' : State} (h1 : FR s s') (h2 : GJ PT s s') : TV s s' :=
  ⟨h1.fut, h1.reg, fun _ hr ht => (h2 ⟨hr, ht⟩ trivial).2.tv⟩

theorem Pres.tv {α} {m : M α} (h1 : Pres FR m) (h2 : Pres (GJ PT) m) : Pres TV m :=
  ⟨fun s r s' e => TV.of_fr_gj (h1.h s r s' e) (h2.h s r s' e)⟩

theorem inval (fuel n : Nat) (s : State) (r : Except Panic Unit) (s' : State)
    (h : (invalidateNode fuel n).run.run s = (r, s')) (hn : ¬ STop s n) : TV s s' :=
  have h1 : FR s s' := (PresI.invalidateNode fuel n).h s r s' h
  ⟨h1.fut, h1.reg, fun _ hr ht => (inval_run fuel n s r s' h ⟨hr, ht⟩ hn).2.tv⟩

theorem prop (fuel : Nat) : Pres TV (propagateInvalidity fuel) :=
  Pres.tv (PresI.propagateInvalidity fuel) (prop_pres fuel)

end KA

memo_leaf KA.prop

/-- a `modify` that changes neither nodes, binds nor `top` -/
macro_rules
  | `(tactic| mleaf) =>
    `(tactic| ((with_reducible apply Pres.modify); intro _; exact TV.of_eq rfl rfl rfl))

namespace KA

theorem bnp (env : Env) (fuel n : Nat) : Pres TV (becameNecessaryPropagate env fuel n) := by
  unfold Engine.becameNecessaryPropagate; mpres
theorem sap (env : Env) (fuel c i p : Nat) : Pres TV (stateAddParent env fuel c i p) := by
  unfold Engine.stateAddParent; mpres
end KA
memo_leaf KA.bnp
memo_leaf KA.sap
namespace KA
theorem ccbr (env : Env) (fuel m : Nat) (o : Option Nat) (nw i : Nat) :
    Pres TV (changeChildBindRhs env fuel m o nw i) := by
  unfold Engine.changeChildBindRhs; mpres
theorem xadd (env : Env) (fuel n c : Nat) (cb : Bool) : Pres TV (expertAddDependency env fuel n c cb) := by
  unfold Engine.expertAddDependency; mpres
end KA
memo_leaf KA.ccbr
memo_leaf KA.xadd
namespace KA
theorem effs (env : Env) (fuel : Nat) (effs : List Effect) (arg : Int) (hK : ∀ e ∈ effs, EffK3 e) :
    Pres TV (runEffects env fuel effs arg) := by
  unfold Engine.runEffects
  refine Pres.bind (Pres.forIn_mem (R := TV) fun e he b => ?_) fun _ => Pres.pure _
  have hk := hK e he
  cases e <;> simp only [EffK3] at hk <;> (dsimp only; mpres)
theorem ano (env : Env) (fuel : Nat) : Pres TV (addNewObservers env fuel) := by
  unfold Engine.addNewObservers; mpres
theorem runAll (env : Env) (henv : EnvK3 env) (fuel o n : Nat) (nu : NodeUpdate) (now : Int) :
    Pres TV (runAll env fuel o n nu now) := by
  unfold Engine.runAll; mpres
  all_goals exact effs _ _ _ _ (henv.handler _ _)
theorem send (env : Env) (henv : EnvK3 env) (fuel : Nat) : Pres TV (stabiliseEnd env fuel) := by
  unfold Engine.stabiliseEnd; mpres
  all_goals exact runAll _ henv _ _ _ _ _
end KA

/-- THE CONTRACT of the invalidation part holds for user code that never calls `expert::invalidate` -/
theorem aspec (env : Env) (henv : EnvK3 env) : ASpec env where
  inval := KA.inval
  prop := KA.prop
  bnp := KA.bnp env
  sap := KA.sap env
  ccbr := KA.ccbr env
  xadd := KA.xadd env
  effs := KA.effs env
  ano := KA.ano env
  send := KA.send env henv

end IncrVerif.Proofs.MemoH
