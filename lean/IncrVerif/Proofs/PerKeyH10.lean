import IncrVerif.Proofs.PerKeyH9
/-!
# Node creation between two effects keeps `DriverH.Mid`, part 2: an expert node with a fresh record (MC2)

The state after the block is `ExpertH.xElab f t` (`Proofs/ExpertH50.lean`):
`{ t with experts := t.experts.push { f := f, node := t.nodes.size },
          nodes := t.nodes.push { kind := .expert t.experts.size, createdIn := .top, cutoff := .eq },
          counters := { t.counters with created := t.counters.created + 1 } }`.
-/
namespace IncrVerif.Proofs.PerKeyH
open IncrVerif.Engine IncrVerif.Driver IncrVerif.Proofs IncrVerif.Proofs.Step IncrVerif.Proofs.Sched
open IncrVerif.Proofs.ExpertH IncrVerif.Proofs.EffH IncrVerif.Proofs.DriverH IncrVerif.Proofs.ExpertH.QR

/-! ## the state -/

theorem xElab_nextDep (f : Nat) (t : State) : (xElab f t).nextDep = t.nextDep := rfl
theorem xElab_eKey (f : Nat) (t : State) : eKey (xElab f t) = eKey t := rfl
theorem xElab_rch (f : Nat) (t : State) : (xElab f t).rch = t.rch := rfl
theorem xElab_ahh (f : Nat) (t : State) : (xElab f t).ahh = t.ahh := rfl
theorem xElab_log (f : Nat) (t : State) : (xElab f t).log = t.log := rfl
theorem xElab_slots (f : Nat) (t : State) : (xElab f t).slots = t.slots := rfl
theorem xElab_perkeys (f : Nat) (t : State) : (xElab f t).perkeys = t.perkeys := rfl
theorem xElab_top (f : Nat) (t : State) : (xElab f t).top = t.top := rfl
theorem xElab_scope (f : Nat) (t : State) : (xElab f t).currentScope = t.currentScope := rfl

theorem xElab_isNecessary_new (f : Nat) (t : State) : (xElab f t).isNecessary t.nodes.size = false := by
  rw [State.isNecessary, xElab_nodeD_new]; rfl

theorem xElab_isNecessary_ne (f : Nat) (t : State) {m : Nat} (h : m ≠ t.nodes.size) :
    (xElab f t).isNecessary m = t.isNecessary m := by
  rw [State.isNecessary, State.isNecessary, xElab_nodeD_ne f t h]

/-! ## the run -/

/-- the block of `perKeyDriver` (case `.right`) that creates the per-key input node, on the twin -/
def expertBlock : M Nat := do
  let e := (← get).experts.size
  modify fun s => { s with experts := s.experts.push { f := 0 } }
  let node ← createNode (.expert e) .top
  modExpert e fun r => { r with node := node }
  pure node

theorem run_expertBlock (t : State) : expertBlock.run.run t = (.ok t.nodes.size, xElab 0 t) := by
  simp only [expertBlock, createNode, bumpCounter, modExpert, xElab, bind_assoc, run_bind_get,
    run_bind_modify, pure_bind, run_pure]
  rw [push_modify_last]

/-- the same block followed by an arbitrary continuation -/
theorem run_expertBlock_bind {α : Type} (k : Nat → M α) (t : State) :
    (do
      let e := (← get).experts.size
      modify fun s => { s with experts := s.experts.push { f := 0 } }
      let node ← createNode (.expert e) .top
      modExpert e fun r => { r with node := node }
      k node : M α).run.run t = (k t.nodes.size).run.run (xElab 0 t) := by
  simp only [createNode, bumpCounter, modExpert, xElab, bind_assoc, run_bind_get,
    run_bind_modify, pure_bind]
  rw [push_modify_last]

/-! ## `Mid` -/

/-- **MC2, pure form**: a fresh expert node with a fresh record keeps `Mid` -/
theorem mid_xElab {E : Env} {t : State} {f : Nat} (M : Mid E t) (hf : XEnvOK E f) (hfb : f < xBase) :
    Mid E (xElab f t) := by
  obtain ⟨rk, I⟩ := M.st
  refine ⟨xfrag_xElab M.frag hf hfb, ahhEmpty_xElab M.ahh, ⟨rk, ?_⟩, M.pinv, fun m => ?_⟩
  · exact created_struct (created_virt_xElab f M.frag) I rfl trivial (fun c hc => by cases hc)
  · by_cases e : m = t.nodes.size
    · rw [e, xElab_nodeD_new]; exact Int.le_refl _
    · rw [xElab_nodeD_ne f t e]; exact M.handlers m

/-- **MC2**: the run of the block -/
theorem expertBlock_mid {E : Env} {t t' : State} {node : Nat} (Md : Mid E t) (hf : XEnvOK E 0)
    (h : (do
      let e := (← get).experts.size
      modify fun s => { s with experts := s.experts.push { f := 0 } }
      let node ← createNode (.expert e) .top
      modExpert e fun r => { r with node := node }
      pure node : M Nat).run.run t = (.ok node, t')) :
    node = t.nodes.size ∧ t' = xElab 0 t ∧ Mid E t' ∧
      t'.experts = t.experts.push { f := 0, node := t.nodes.size } ∧
      t'.nodes = t.nodes.push { kind := .expert t.experts.size, createdIn := .top } ∧
      t'.nextDep = t.nextDep ∧ eKey t' = eKey t ∧ (∀ m, m < t.nodes.size → t'.nodeD m = t.nodeD m) := by
  have h' : expertBlock.run.run t = (.ok node, t') := h
  rw [run_expertBlock] at h'
  cases h'
  exact ⟨rfl, rfl, mid_xElab Md hf (by decide), rfl, rfl, rfl, rfl, fun m hm => xElab_nodeD_lt 0 t hm⟩

end IncrVerif.Proofs.PerKeyH
