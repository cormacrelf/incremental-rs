import IncrVerif.Proofs.DriverH5
import IncrVerif.Proofs.DriverH3
import IncrVerif.Proofs.ExpertH40
import IncrVerif.Proofs.BindH12
import IncrVerif.Proofs.Footprint
/-!
# Drivers, the steps of the drain that are not driver runs, part 1: `cfg` is never written

`CfgF s s'`: the configuration is the same.  No primitive write of the engine touches `cfg` (`Edit.cfg`), so every function of the engine keeps it.
-/
namespace IncrVerif.Proofs.DriverH
open IncrVerif.Engine IncrVerif.Driver IncrVerif.Proofs IncrVerif.Proofs.Step IncrVerif.Proofs.Sched
open IncrVerif.Proofs.ExpertH IncrVerif.Proofs.ExpertH.QR IncrVerif.Proofs.EffH IncrVerif.Proofs.Footprint

def CfgF (s s' : State) : Prop := s'.cfg = s.cfg

theorem CfgF.refl (s : State) : CfgF s s := rfl
theorem CfgF.trans {a b c : State} (h1 : CfgF a b) (h2 : CfgF b c) : CfgF a c := Eq.trans h2 h1
instance : Step.PreOrd CfgF := ⟨CfgF.refl, CfgF.trans⟩

theorem CfgF.of_edit {L w} {s s' : State} (e : Edit L w s s') : CfgF s s' := e.cfg

theorem PresCfg.discard {α} {x : M α} (h : Step.Pres CfgF x) : Step.Pres CfgF (discard x) := by
  unfold Functor.discard; exact Step.Pres.map _ h
theorem PresCfg.rchUnlink (n) : Step.Pres CfgF (Engine.rchUnlink n) := (Foot.rchUnlink n).frame CfgF.of_edit
theorem PresCfg.rchRemoveMin : Step.Pres CfgF Engine.rchRemoveMin := Foot.rchRemoveMin.frame CfgF.of_edit
theorem PresCfg.scopeHeight (sc) : Step.Pres CfgF (Engine.scopeHeight sc) := Step.Pres.scopeHeight sc
theorem PresCfg.handleAfterStabilisation (n) : Step.Pres CfgF (Engine.handleAfterStabilisation n) :=
  (Foot.handleAfterStabilisation n).frame CfgF.of_edit
theorem PresCfg.shouldCutoff (env n o v) : Step.Pres CfgF (Engine.shouldCutoff env n o v) :=
  (Foot.shouldCutoff env n o v).frame CfgF.of_edit
theorem PresCfg.parentIterCanRecomputeNow (p c : Nat) :
    Step.Pres CfgF (Engine.parentIterCanRecomputeNow p c) :=
  (Foot.parentIterCanRecomputeNow p c).frame CfgF.of_edit
theorem PresCfg.maybeChangeValue (env fuel n v) : Step.Pres CfgF (Engine.maybeChangeValue env fuel n v) :=
  (Foot.maybeChangeValue env fuel n v).lift CfgF.of_edit

end IncrVerif.Proofs.DriverH
