import IncrVerif.Proofs.DriverH29
import IncrVerif.Proofs.BindH11
/-!
# Drivers, the steps of the drain that are not driver runs, part 3: `stepOtherSpec` and `popSpec`

* a node that is neither an expert node nor a `map` with a user function: the run under `env` is the run under
  `noEff env`; `recomputeOne_sim` + `BindH.recomputeOne_stepB`;
* an expert node: the run factors through `ranState` (`Xp.recomputeOne_expert_run`); `BindH.BS.mcv_stepB`;
* a pop: `Sim.rchRemoveMin` + `BindH.pop_invB`.
-/
namespace IncrVerif.Proofs.DriverH
open IncrVerif.Engine IncrVerif.Driver IncrVerif.Proofs IncrVerif.Proofs.Step IncrVerif.Proofs.Sched
open IncrVerif.Proofs.ExpertH IncrVerif.Proofs.ExpertH.QR IncrVerif.Proofs.EffH

/-! ## the run under `env` is the run under `noEff env` -/

/-- a node that is neither an expert node nor a `map` with a user function never reads `fnEff`/`handler` -/
theorem recomputeOne_noEff_other {env : Env} {fuel n : Nat} {s s' : State} {r : Option Nat}
    (hfr : Fr s) (hn : n < s.nodes.size) (hxk : XKind (noEff env) (s.nodeD n).kind)
    (hne : ∀ e, (s.nodeD n).kind ≠ .expert e)
    (hm : ∀ f args, (s.nodeD n).kind = .map f args → fnZip ≤ f)
    (h : (recomputeOne env fuel n).run.run s = (.ok r, s')) :
    (recomputeOne (noEff env) fuel n).run.run s = (.ok r, s') := by
  have hnd := some_of_lt hn
  have hval := hfr.valid n
  cases hkd : (s.nodeD n).kind with
  | const v =>
    rw [recomputeOne_const_run env fuel n s _ v hnd hval hkd] at h
    rw [recomputeOne_const_run (noEff env) fuel n s _ v hnd hval hkd, mcv_noEff]; exact h
  | var c =>
    obtain ⟨vc, hvc⟩ := recomputeOne_ok_var hnd hval hkd h
    rw [recomputeOne_var_run env fuel n s _ c vc hnd hval hkd hvc] at h
    rw [recomputeOne_var_run (noEff env) fuel n s _ c vc hnd hval hkd hvc, mcv_noEff]; exact h
  | map f args =>
    rw [hkd] at hxk
    obtain ⟨vals, hvals⟩ := recomputeOne_ok_vals hnd hval (Or.inl ⟨f, hkd⟩) h
    have hf : ¬ f < fnZip := Nat.not_lt.2 (hm f args hkd)
    rw [recomputeOne_mapBuiltin_run env fuel n s _ f args vals hnd hval hkd hf hxk.1 hvals] at h
    rw [recomputeOne_mapBuiltin_run (noEff env) fuel n s _ f args vals hnd hval hkd hf hxk.1
      (by rw [valuesOf_noEff]; exact hvals), mcv_noEff]
    exact h
  | fold f init cs =>
    obtain ⟨vals, hvals⟩ := recomputeOne_ok_vals hnd hval (Or.inr ⟨f, init, hkd⟩) h
    rw [recomputeOne_fold_run env fuel n s _ f init cs vals hnd hval hkd hvals hfr.pc] at h
    rw [recomputeOne_fold_run (noEff env) fuel n s _ f init cs vals hnd hval hkd
      (by rw [valuesOf_noEff]; exact hvals) hfr.pc, mcv_noEff]
    exact h
  | expert e => exact absurd hkd (hne e)
  | _ => rw [hkd] at hxk; exact hxk.elim

/-- an expert node never reads `fnEff`/`handler` -/
theorem recomputeOne_noEff_expert {env : Env} {fuel n e : Nat} {s : State} {er : ExpertRec}
    (hx : Xp.IsExpert s n (s.nodeD n) e er) (hpk : er.pk = none) (hp : s.panicCountdown = none)
    (hinv : ¬ er.numInvalidChildren > 0) :
    (recomputeOne env fuel n).run.run s = (recomputeOne (noEff env) fuel n).run.run s := by
  rw [Xp.recomputeOne_expert_run env fuel n hx hpk hp hinv,
    Xp.recomputeOne_expert_run (noEff env) fuel n hx hpk hp hinv, mcv_noEff]
  rfl

/-! ## a node that is not an expert node -/

theorem step_static {env : Env} {fuel n : Nat} {s s' : State} {r : Option Nat} (D : DD env s (some n))
    (hne : ∀ e, (s.nodeD n).kind ≠ .expert e)
    (hm : ∀ f args, (s.nodeD n).kind = .map f args → fnZip ≤ f)
    (h : (recomputeOne env fuel n).run.run s = (.ok r, s')) :
    DD env s' r ∧ DStep s s' ∧ ((virt s').nodeD n).recomputedAt = s.stabNum := by
  have hnec : (virt s).isNecessary n = true := (D.inv.cur n rfl).1
  have hlt : n < s.nodes.size := by rw [← virt_size]; exact D.inv.graph.nec_lt hnec
  have F := D.aux.frag
  have fr := F.fr D.aux.pinv
  have hE := recomputeOne_noEff_other fr hlt (F.kind n hlt) hne hm h
  obtain ⟨hsim, fr'⟩ := recomputeOne_sim fr hlt (F.kind n hlt) hne hE
  have hsk : StaticKind (virtEnv (noEff env)) ((virt s).nodeD n).kind := by
    rw [virt_nodeD, virtNode_kind]; exact staticKind_virt (F.kind n hlt)
  obtain ⟨v, ch, ht, R⟩ :=
    BindH.recomputeOne_stepB D.inv.graph D.inv.heap hnec (Or.inl hsk) D.inv.kids_values hsim
  obtain ⟨w, es, hrun⟩ := recomputeOne_as_mcv_x fr hlt (F.kind n hlt) hne hE
  rw [hrun] at hE
  have df : DFX s s' := (DFX.started_logged es n s).trans (DFX.maybeChangeValue hE)
  have hxf : XF s s' :=
    (xf_started_logged es n s).trans ((PresX.maybeChangeValue (noEff env) fuel n w).h _ _ _ hE)
  exact dd_of_stepB D ht R (F.of_xf hxf fr') fr' df (fun m x => Drives.of_xf_xs hxf df.xs)

/-! ## an expert node -/

/-- `ExpertH.step_expert_ran` for the drain invariant with a changing graph -/
theorem step_expert_ranB {E : Env} {s s' : State} {fuel n e : Nat} {r : Option Nat} (F : XFrag E s)
    (I : BindH.DInv (virtEnv E) (virt s) (some n)) (hp : s.propagateInvalidity = [])
    (hk : (s.nodeD n).kind = .expert e)
    (h : (recomputeOne E fuel n).run.run s = (.ok r, s')) :
    ∃ (v : Val) (ch : Bool) (er : ExpertRec),
      BindH.TargetB (virtEnv E) (virt s) n v ∧ BindH.StepRelB n v ch r (virt s) (virt s') ∧ Fr s' ∧
      s.experts[e]? = some er ∧
      (maybeChangeValue E fuel n v).run.run (ranState E n e s er) = (.ok r, s') ∧
      Fr (ranState E n e s er) := by
  have hnec : (virt s).isNecessary n = true := (I.cur n rfl).1
  have hlt : n < s.nodes.size := by rw [← virt_size]; exact I.graph.nec_lt hnec
  have hsk : StaticKind (virtEnv E) ((virt s).nodeD n).kind := by
    rw [virt_nodeD, virtNode_kind]; exact staticKind_virt (F.kind n hlt)
  obtain ⟨vals, hvals, -⟩ := BindH.BS.vals_of_children I.graph (by rw [virt_size]; exact hlt)
    (I.graph.nec n hnec).1 hsk I.kids_values
  obtain ⟨er, v, he, htarget, h, hvirt, hFr, hFr'⟩ := recomputeOne_expert_ran F hp hlt hk hvals h
  have hself := ranState_virt_self (env := E) hlt hk he
  obtain ⟨ch, hS⟩ := BindH.BS.mcv_stepB I.graph I.heap hnec (ranState_upd F hlt hk he) rfl (by rw [hself, virt_nodeD])
    (by rw [hself]; rfl) (by rw [hself, virt_nodeD]) hvirt
  refine ⟨v, ch, er, ?_, hS, hFr', he, h, hFr⟩
  unfold BindH.TargetB
  have hkv : ((virt s).nodeD n).kind = .fold (xBase + er.f) (.int 0) (er.children.map (·.child)) := by
    rw [virt_nodeD, virtNode_kind, hk]; simp only [virtKind, xRec_some he]
  rw [hkv]
  exact htarget

section
variable (env : Env) (n e : Nat) (s : State) (er : ExpertRec)

theorem ranState_size : (ranState env n e s er).nodes.size = s.nodes.size := by
  rw [ranState_nodes]; simp [started]

theorem ranState_kind (m : Nat) : ((ranState env n e s er).nodeD m).kind = (s.nodeD m).kind := by
  rw [ranState_nodeD, started_nodeD]; split <;> rfl

theorem ranState_xs {e : Nat} {s : State} {er : ExpertRec} (he : s.experts[e]? = some er) :
    XS s (ranState env n e s er) := by
  obtain ⟨_, _, _, f4, f5, _, _, _, _⟩ := Xp.readyRec_fields env s er
  refine ⟨by rw [ranState_experts]; simp, fun e' => ?_⟩
  by_cases hee : e' = e
  · subst hee
    rw [ranState_get env n e' he, he]
    simp only [Option.map_some, xSS, f4, f5]
  · rw [ranState_get_ne env n e s er hee]

theorem ranState_df {e : Nat} {s : State} {er : ExpertRec} (he : s.experts[e]? = some er) :
    DFX s (ranState env n e s er) :=
  ⟨ranState_size env n e s er, ranState_kind env n e s er, ranState_ahf env n e s er, ranState_xs env n he, rfl,
    ⟨rfl, rfl, rfl, rfl, rfl, fun m => by rw [ranState_nodeD, started_nodeD]; split <;> rfl, fun _ => rfl⟩, rfl⟩

theorem ranState_drives {e : Nat} {s : State} {er : ExpertRec}
    (he : s.experts[e]? = some er) {m x : Nat} (h : Drives s m x) : Drives (ranState env n e s er) m x := by
  obtain ⟨hlt, e', er', hk, he', ed, hmem, hc, hdep, hscr, hsel⟩ := h
  obtain ⟨_, _, f3, f4, f5, _, _, _, _⟩ := Xp.readyRec_fields env s er
  refine ⟨by rw [ranState_size]; exact hlt, e', ?_⟩
  by_cases hee : e' = e
  · subst hee
    rw [he] at he'; cases he'
    exact ⟨_, by rw [ranState_kind]; exact hk, ranState_get env n e' he, ed, by rw [f3]; exact hmem, hc, hdep,
      by rw [f4]; exact hscr, fun d c h => hsel d c (by rw [← f5]; exact h)⟩
  · exact ⟨er', by rw [ranState_kind]; exact hk, by rw [ranState_get_ne env n e s er hee]; exact he', ed, hmem, hc,
      hdep, hscr, hsel⟩
end

theorem step_expert {env : Env} {fuel n e : Nat} {s s' : State} {r : Option Nat} (D : DD env s (some n))
    (hk : (s.nodeD n).kind = .expert e)
    (h : (recomputeOne env fuel n).run.run s = (.ok r, s')) :
    DD env s' r ∧ DStep s s' ∧ ((virt s').nodeD n).recomputedAt = s.stabNum := by
  have hnec : (virt s).isNecessary n = true := (D.inv.cur n rfl).1
  have hlt : n < s.nodes.size := by rw [← virt_size]; exact D.inv.graph.nec_lt hnec
  have F := D.aux.frag
  obtain ⟨er0, he0, -⟩ := F.xrec n e hlt hk
  obtain ⟨hpk, hni, -, -⟩ := F.xok e er0 he0
  have hx : Xp.IsExpert s n (s.nodeD n) e er0 := ⟨some_of_lt hlt, F.valid n hlt, hk, he0⟩
  rw [recomputeOne_noEff_expert hx hpk F.pc (by omega)] at h
  obtain ⟨v, ch, er, ht, R, fr', he, hrun, frT⟩ := step_expert_ranB F D.inv D.aux.pinv hk h
  have FT := ranState_frag F hk he frT
  have hxf := (PresX.maybeChangeValue (noEff env) fuel n v).h _ _ _ hrun
  have dfT := DFX.maybeChangeValue hrun
  exact dd_of_stepB D ht R (FT.of_xf hxf fr') fr' ((ranState_df (noEff env) n he).trans dfT)
    (fun m x hd => Drives.of_xf_xs hxf dfT.xs (ranState_drives (noEff env) n he hd))

/-! ## the two contracts -/

/-- **one `recomputeOne` of a node that is not a `map` with a user function** -/
theorem stepOtherSpec (env : Env) : StepOtherSpec env := by
  intro fuel n s s' r D hm h
  by_cases hk : ∀ e, (s.nodeD n).kind ≠ .expert e
  · exact step_static D hk hm h
  · have : ∃ e, (s.nodeD n).kind = .expert e := by
      cases hkd : (s.nodeD n).kind <;>
        first | exact ⟨_, rfl⟩ | (exfalso; apply hk; intro e; rw [hkd]; intro h; cases h)
    obtain ⟨e, hkk⟩ := this
    exact step_expert D hkk h

/-- **one pop** -/
theorem popSpec (env : Env) : PopSpec env := by
  intro s s1 n D h
  have F := D.aux.frag
  have fr := F.fr D.aux.pinv
  obtain ⟨hv, fr1⟩ := Sim.rchRemoveMin s fr (some n) s1 h
  obtain ⟨I1, hfb⟩ := BindH.pop_invB D.inv hv
  have hxf := PresX.rchRemoveMin.h _ _ _ h
  have hi : HeapInv s := heapInv_of_virt D.inv.heap
  have df : DFX s s1 := ⟨hxf.size, hxf.kind, PresAh.rchRemoveMin.h _ _ _ h, PresS.rchRemoveMin.h _ _ _ h,
    PresCfg.rchRemoveMin.h _ _ _ h, pop_calm hi h, pop_keyD hi h⟩
  have hpop := rchRemoveMin_inv hi h
  simp only at hpop
  obtain ⟨-, -, -, hs1, hqs⟩ := hpop
  have hex : s1.experts = s.experts := by rw [hs1]
  have hnode : ∀ m, s1.nodeD m =
      if n = m ∧ m < s.nodes.size then { s.nodeD m with heightInRch := -1 } else s.nodeD m := by
    intro m
    rw [hs1]
    exact nodeD_modify { s with rch := s1.rch } n m _
  have hsh : ∀ m, SameShape ((virt s).nodeD m) ((virt s1).nodeD m) := by
    intro m
    rw [virt_nodeD, virt_nodeD, hex, hnode]
    split <;> exact ⟨rfl, rfl, rfl, rfl, rfl, rfl, rfl, rfl⟩
  have htop : s1.top = s.top := by rw [hs1]
  have hD : ∀ m x, Drives s m x → Drives s1 m x := fun m x => Drives.of_xf_xs hxf df.xs
  exact ⟨⟨I1, auxD_of_frames D.aux (F.of_xf hxf fr1) fr1 df hsh hfb.vars, drvOK_frameX df.size df.kind htop hD D.drv⟩,
    dstep_of_frames hfb df hsh hfb.vars hfb.stabNum hqs (fr1.pc.trans F.pc.symm) D.aux.handlers⟩

end IncrVerif.Proofs.DriverH
