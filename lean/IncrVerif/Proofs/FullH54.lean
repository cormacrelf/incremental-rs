import IncrVerif.Proofs.FullH18
import IncrVerif.Proofs.FullH22
import IncrVerif.Proofs.NestH40
import IncrVerif.Proofs.MapRef24
/-!
# C01 full fragment: the `didChange` invariant through a run of a change detector, part 1
(generic transfer tools: the value read along a chain of stable nodes, `KInv.transfer`; the closure run (phase 1) and the invalidation of the
old generation (phase 3) from the structural facts `P1` / `P3` of NestH about the VIRTUAL states)
-/
namespace IncrVerif.Proofs.FullH
open IncrVerif.Engine IncrVerif.Proofs IncrVerif.Proofs.Step IncrVerif.Proofs.Sched IncrVerif.Proofs.Quiet
open IncrVerif.Proofs.MapRefH (IsMapRef isMapRef_iff not_isMapRef_iff FM value_mapRef')
open IncrVerif.Proofs.BindH (DInv BGraph Below Edge)
open IncrVerif.Proofs.NestH (F2Inv GInv2 All2 Dying IRel2 CRel2)
open IncrVerif.Proofs.NestH.NC (Pre2 P1 P2 P3)

namespace KL

theorem lt_of_mapRef {s : State} {m p i : Nat} (hk : (s.nodeD m).kind = .mapRef p i) : m < s.nodes.size := by
  by_cases h : m < s.nodes.size
  · exact h
  · rw [nodeD_default_of_ge s m (by omega)] at hk; cases hk

theorem mapRefsBack_of_vm {s s' : State} (hb : MapRefsBack s) (v : VM s s') : MapRefsBack s' := by
  intro m nd p i hm hk
  have hk' : (s'.nodeD m).kind = .mapRef p i := by rw [nodeD_of_some hm]; exact hk
  have hlt' : m < s'.nodes.size := lt_of_some hm
  by_cases hlt : m < s.nodes.size
  · have := (v.kind m hlt).1
    rw [hk'] at this
    exact hb m (s.nodeD m) p i (some_of_lt hlt) this.symm
  · exact (v.newn m (by omega) hlt').2.2 p i hk'

/-- **the value read is stable along chains of stable valid nodes**: `P` a set of nodes that are valid in `s`, keep kind and validity, keep
their stored value unless they are map_ref nodes, and is closed under taking the input of a map_ref node -/
theorem value_eq_chain {env : Env} {s s' : State} (hb : MapRefsBack s) (hb' : MapRefsBack s') (P : Nat → Prop)
    (hPv : ∀ m, P m → (s.nodeD m).valid = true)
    (hk : ∀ m, P m → (s'.nodeD m).kind = (s.nodeD m).kind)
    (hv : ∀ m, P m → (s'.nodeD m).valid = (s.nodeD m).valid)
    (hval : ∀ m, P m → (∀ p i, (s.nodeD m).kind ≠ .mapRef p i) → (s'.nodeD m).value = (s.nodeD m).value)
    (hkid : ∀ m p i, P m → (s.nodeD m).kind = .mapRef p i → P i) :
    ∀ m, P m → s'.value env m = s.value env m := by
  intro m
  induction m using Nat.strongRecOn with
  | _ m ih =>
    intro hm
    by_cases hmr : ∀ p i, (s.nodeD m).kind ≠ .mapRef p i
    · rw [value_stored (Or.inr hmr), value_stored (Or.inr (by intro p i; rw [hk m hm]; exact hmr p i)), hval m hm hmr]
    · have : ∃ p i, (s.nodeD m).kind = .mapRef p i := by
        cases hkd : (s.nodeD m).kind <;>
          first | exact ⟨_, _, rfl⟩ | (exfalso; apply hmr; intro p i; rw [hkd]; intro h; cases h)
      obtain ⟨p, i, hkm⟩ := this
      have hvm := hPv m hm
      have hi : i < m := hb m (s.nodeD m) p i (some_of_lt (lt_of_mapRef hkm)) hkm
      rw [value_mapRef' hb hvm hkm, value_mapRef' hb' (by rw [hv m hm]; exact hvm) (by rw [hk m hm]; exact hkm),
        ih i hi (hkid m p i hm hkm)]

/-- **transfer of the `didChange` invariant** between two states (and two ghosts) that agree on a set `P` of stable valid nodes which contains
every node the invariant of `s'` speaks about -/
theorem KInv.transfer {env : Env} {g g' : Nat → Option Val} {s s' : State} (K : KInv env g s)
    (hb : MapRefsBack s) (hb' : MapRefsBack s') (P : Nat → Prop)
    (hPv : ∀ m, P m → (s.nodeD m).valid = true)
    (hk : ∀ m, P m → (s'.nodeD m).kind = (s.nodeD m).kind)
    (hv : ∀ m, P m → (s'.nodeD m).valid = (s.nodeD m).valid)
    (hval : ∀ m, P m → (∀ p i, (s.nodeD m).kind ≠ .mapRef p i) → (s'.nodeD m).value = (s.nodeD m).value)
    (hkid : ∀ m p i, P m → (s.nodeD m).kind = .mapRef p i → P i)
    (hg : ∀ m p i, P m → (s.nodeD m).kind = .mapRef p i → g' m = g m)
    (hn : ∀ m, P m → s'.isNecessary m = true → s.isNecessary m = true)
    (hf : ∀ m, P m → (s'.nodeD m).didChange = false → (s.nodeD m).didChange = false)
    (hall : ∀ m p i, (s'.nodeD m).valid = true → s'.isNecessary m = true → (s'.nodeD m).kind = .mapRef p i → P m) :
    KInv env g' s' := by
  intro m p i hvm hnm hkm hd
  have hm := hall m p i hvm hnm hkm
  have hkm0 : (s.nodeD m).kind = .mapRef p i := by rw [← hk m hm]; exact hkm
  rw [hg m p i hm hkm0, value_eq_chain hb hb' P hPv hk hv hval hkid m hm]
  exact K m p i (hPv m hm) (hn m hm hnm) hkm0 (hf m hm hd)

/-- the ghost may be replaced by one that agrees on the valid nodes -/
theorem KInv.of_gr {env : Env} {g g' : Nat → Option Val} {s0 s : State} (K : KInv env g s) (R : GR g g' s0 s) :
    KInv env g' s := by
  intro m p i hv hn hk hd
  rw [R.valid_eq hv]; exact K m p i hv hn hk hd

/-! ## what the equality of two VIRTUAL nodes says about the actual nodes -/

/-- the virtual nodes of `m` agree on validity, stored value and the fields of necessity; the actual kinds agree -/
structure VS (g g' : Nat → Option Val) (s s' : State) (m : Nat) : Prop where
  kind : (s'.nodeD m).kind = (s.nodeD m).kind
  valid : ((virt g' s').nodeD m).valid = ((virt g s).nodeD m).valid
  value : ((virt g' s').nodeD m).value = ((virt g s).nodeD m).value
  nec : ((virt g' s').nodeD m).isNecessary = ((virt g s).nodeD m).isNecessary

namespace VS
variable {g g' : Nat → Option Val} {s s' : State} {m : Nat}

theorem valid' (h : VS g g' s s' m) : (s'.nodeD m).valid = (s.nodeD m).valid := by
  have := h.valid; rw [virt_nodeD, virt_nodeD, virtNode_valid, virtNode_valid] at this; exact this

theorem nec' (h : VS g g' s s' m) : s'.isNecessary m = s.isNecessary m := by
  have := h.nec; rw [virt_nodeD, virt_nodeD, virtNode_isNecessary, virtNode_isNecessary] at this; exact this

theorem value' (h : VS g g' s s' m) (hk : ∀ p i, (s.nodeD m).kind ≠ .mapRef p i) :
    (s'.nodeD m).value = (s.nodeD m).value := by
  have := h.value
  rw [virt_nodeD, virt_nodeD, virtNode_value_of_not_mapRef _ _ hk,
    virtNode_value_of_not_mapRef _ _ (by intro p i; rw [h.kind]; exact hk p i)] at this
  exact this

theorem ghost (h : VS g g' s s' m) {p i : Nat} (hk : (s.nodeD m).kind = .mapRef p i) : g' m = g m := by
  have := h.value
  rw [virt_nodeD, virt_nodeD, virtNode_value_mapRef _ _ hk, virtNode_value_mapRef _ _ (by rw [h.kind]; exact hk)] at this
  exact this

/-- from the equality of the virtual nodes up to the stamp -/
theorem of_upto (hk : (s'.nodeD m).kind = (s.nodeD m).kind)
    (h : ∃ y, (virt g' s').nodeD m = { (virt g s).nodeD m with recomputedAt := y }) : VS g g' s s' m := by
  obtain ⟨y, e⟩ := h
  exact ⟨hk, by rw [e], by rw [e], by rw [e]; rfl⟩

theorem of_eq (hk : (s'.nodeD m).kind = (s.nodeD m).kind)
    (h : (virt g' s').nodeD m = (virt g s).nodeD m) : VS g g' s s' m :=
  ⟨hk, by rw [h], by rw [h], by rw [h]⟩

end VS

/-- `KInv.transfer` from the agreement of the virtual nodes -/
theorem KInv.transfer_vs {env : Env} {g g' : Nat → Option Val} {s s' : State} (K : KInv env g s)
    (hb : MapRefsBack s) (hb' : MapRefsBack s') (P : Nat → Prop)
    (hPv : ∀ m, P m → (s.nodeD m).valid = true)
    (hvs : ∀ m, P m → VS g g' s s' m)
    (hkid : ∀ m p i, P m → (s.nodeD m).kind = .mapRef p i → P i)
    (hf : ∀ m, P m → (s'.nodeD m).didChange = false → (s.nodeD m).didChange = false)
    (hall : ∀ m p i, (s'.nodeD m).valid = true → s'.isNecessary m = true → (s'.nodeD m).kind = .mapRef p i → P m) :
    KInv env g' s' :=
  KInv.transfer K hb hb' P hPv (fun m hm => (hvs m hm).kind) (fun m hm => (hvs m hm).valid')
    (fun m hm hk => (hvs m hm).value' hk) hkid (fun m p i hm hk => (hvs m hm).ghost hk)
    (fun m hm h => by rw [← (hvs m hm).nec']; exact h) hf hall

/-- values read by the nodes of `P` are the same -/
theorem value_eq_vs {env : Env} {g g' : Nat → Option Val} {s s' : State}
    (hb : MapRefsBack s) (hb' : MapRefsBack s') (P : Nat → Prop)
    (hPv : ∀ m, P m → (s.nodeD m).valid = true)
    (hvs : ∀ m, P m → VS g g' s s' m)
    (hkid : ∀ m p i, P m → (s.nodeD m).kind = .mapRef p i → P i) :
    ∀ m, P m → s'.value env m = s.value env m :=
  value_eq_chain hb hb' P hPv (fun m hm => (hvs m hm).kind) (fun m hm => (hvs m hm).valid')
    (fun m hm hk => (hvs m hm).value' hk) hkid

end KL
end IncrVerif.Proofs.FullH
