import IncrVerif.Proofs.Quiet20
import IncrVerif.Proofs.CutH39
/-!
# Part 27: `TInv` is an invariant of which the observer actions read only the list of observers waiting to be added (`CutH.ObsTot`)
-/
namespace IncrVerif.Proofs.Quiet
open IncrVerif.Engine IncrVerif.Driver IncrVerif.Proofs IncrVerif.Proofs.Step IncrVerif.Proofs.Sched

/-- the actions of the fragment other than `create` and `stabilise` -/
def SimpleAction : Action → Prop
  | .observe n => OpndOK n
  | .cloneObs _ | .dropObs _ | .disallow _ => True
  | .set _ _ | .modify _ _ | .update _ _ | .replace _ _ | .replaceWith _ _ | .get _ => True
  | .isStable | .stats => True
  | _ => False

namespace P27

/-! ## `TInv` under changes of the observer bookkeeping -/

/-- `TInv` reads the nodes, the var cells, `top`, the two heaps (their number of buckets) and the
observers waiting to be added -/
theorem TInv_of_frame {N : Nat} {s s' : State} (T : TInv N s) (hn : s'.nodes = s.nodes)
    (hv : s'.vars = s.vars) (ht : s'.top = s.top) (ha : s'.ahh = s.ahh) (hr : s'.rch = s.rch)
    (h1 : s'.newObservers.Nodup)
    (h2 : ∀ (o : Nat) (ob : ObsRec), o ∈ s'.newObservers → s'.observers[o]? = some ob →
      ob.state = .created ∨ ob.state = .unlinked) : TInv N s' where
  hb m hm ho := by
    have hD : s'.nodeD m = s.nodeD m := by simp only [State.nodeD, hn]
    have hnec : s'.isNecessary m = s.isNecessary m := by simp only [State.isNecessary, hD]
    rw [hnec] at hm; rw [hD]; exact T.hb m hm ho
  room := ⟨by rw [ha]; exact T.room.ahh, by rw [hr]; exact T.room.rch, by rw [hn]; exact T.room.size⟩
  linked c vc h := by rw [hv] at h; exact T.linked c vc h
  topSize := by rw [ht, hn]; exact T.topSize
  newNodup := h1
  newState := h2

theorem obsTot (N : Nat) : CutH.ObsTot (TInv N) :=
  ⟨fun T => T.newNodup, fun T => T.newState, fun T hn hv ht ha hr _ h1 h2 => TInv_of_frame T hn hv ht ha hr h1 h2⟩

theorem Grown_same {a : Action} {s s' : State} (hg : grow a = (0, 0, 0)) (h1 : s'.nodes.size = s.nodes.size)
    (h2 : s'.vars.size = s.vars.size) (h3 : s'.observers.size = s.observers.size) : Grown a s s' := by
  unfold Grown; rw [hg]; exact ⟨h1, h2, h3⟩

theorem _root_.IncrVerif.Proofs.CutH.ObsOnly.grownQ {a : Action} {k : Nat} {s s' : State} (h : CutH.ObsOnly k s s') (hg : grow a = (0, 0, k)) :
    Grown a s s' := by
  unfold Grown; rw [hg, h.nodes, h.vars]; exact ⟨rfl, rfl, h.obsSize⟩

theorem discard_total {α} {x : M α} {s : State} {P : State → Prop} (h : Tot x s (fun _ s' => P s')) :
    Tot (discard x) s (fun _ s' => P s') := by
  have e : discard x = x >>= fun _ => pure () := by
    rw [Functor.discard, map_const, Function.comp_apply, map_eq_pure_bind]
  rw [e]
  exact Tot.bind h (fun a s1 _ hp => Tot.pure hp)

end P27

end IncrVerif.Proofs.Quiet
