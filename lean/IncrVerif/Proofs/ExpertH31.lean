import IncrVerif.Proofs.ExpertH29
import IncrVerif.Proofs.History
/-!
# Expert fragment: simulation of the API actions (all but `stabilise`, `addDep`, the creation of an expert node)

The action is the same on both sides: a newly created node is not an expert node.
-/
namespace IncrVerif.Proofs.ExpertH
open IncrVerif.Engine IncrVerif.Driver IncrVerif.Proofs IncrVerif.Proofs.Step IncrVerif.Proofs.Sched
open IncrVerif.Proofs.NodeSim (CommAt Comm CommXAt)

/-- creation instructions of the static fragment -/
def XInstr : Instr → Prop
  | .const _ => True
  | .var _ => True
  | .map _ _ => True
  | .fold _ _ _ => True
  | .zip _ _ => True
  | _ => False

/-- API actions simulated here -/
def XAction : Action → Prop
  | .create i => XInstr i
  | .observe _ => True
  | .cloneObs _ => True
  | .dropObs _ => True
  | .disallow _ => True
  | .set _ _ => True
  | .modify _ _ => True
  | .update _ _ => True
  | .replace _ _ => True
  | .replaceWith _ _ => True
  | .get _ => True
  | .isStable => True
  | .stats => True
  | _ => False

/-! ## programs that do not change the state -/

/-- `s' = s` -/
def SameS (s s' : State) : Prop := s' = s
instance : Step.PreOrd SameS := ⟨fun _ => rfl, fun h1 h2 => Eq.trans h2 h1⟩

theorem RO.resolveOpnd (loc : List Nat) (o : Opnd) : Step.Pres SameS (Engine.resolveOpnd loc o) := by
  unfold Engine.resolveOpnd; qpres

theorem RO.isConstant (n : Nat) : Step.Pres SameS (Engine.isConstant n) := by
  unfold Engine.isConstant; qpres

section
variable {s : State} {α β : Type}

/-- a read-only program followed by a continuation: the continuation starts in the same state -/
theorem commAt_ro_seq {E : Panic → Prop} {V : State → State} {I : State → Prop} {x x' : M α} {f f' : α → M β}
    (hro : Step.Pres SameS x) (hx : CommAt E V I s x x') (hf : ∀ a, CommAt E V I s (f a) (f' a)) :
    CommAt E V I s (x >>= f) (x' >>= f') :=
  CommXAt.ro_seq (fun _ s1 h => hro.h s _ s1 h) hx fun a _ => hf a

end

/-! ## node creation -/

/-- the state after `createNode k sc c` -/
def crState (k : Kind) (sc : Scope) (c : CutoffK) (s : State) : State :=
  let s1 : State := { s with
    counters := { s.counters with created := s.counters.created + 1 }
    nodes := s.nodes.push { kind := k, createdIn := sc, cutoff := c } }
  match sc with
  | .top => s1
  | .bind b => { s1 with binds := s1.binds.modify b fun x =>
      { x with allNodesCreatedOnRhs := x.allNodesCreatedOnRhs ++ [s.nodes.size] } }

theorem run_createNode (k : Kind) (sc : Scope) (c : CutoffK) (s : State) :
    (Engine.createNode k sc c).run.run s = (.ok s.nodes.size, crState k sc c s) := by
  unfold Engine.createNode crState
  cases sc <;> rfl

theorem crState_nodes (k : Kind) (sc : Scope) (c : CutoffK) (s : State) :
    (crState k sc c s).nodes = s.nodes.push { kind := k, createdIn := sc, cutoff := c } := by
  unfold crState; cases sc <;> rfl

theorem crState_pinv (k : Kind) (sc : Scope) (c : CutoffK) (s : State) :
    (crState k sc c s).propagateInvalidity = s.propagateInvalidity := by
  unfold crState; cases sc <;> rfl

theorem crState_pc (k : Kind) (sc : Scope) (c : CutoffK) (s : State) :
    (crState k sc c s).panicCountdown = s.panicCountdown := by
  unfold crState; cases sc <;> rfl

theorem crState_experts (k : Kind) (sc : Scope) (c : CutoffK) (s : State) :
    (crState k sc c s).experts = s.experts := by
  unfold crState; cases sc <;> rfl

theorem virt_crState (k : Kind) (sc : Scope) (c : CutoffK) (s : State) (hne : ∀ e, k ≠ .expert e) :
    virt (crState k sc c s) = crState k sc c (virt s) := by
  have h : (s.nodes.push { kind := k, createdIn := sc, cutoff := c }).map (virtNode s.experts)
      = (virt s).nodes.push { kind := k, createdIn := sc, cutoff := c } := by
    rw [Array.map_push, virtNode_of_not_expert _ _ (by exact hne)]; rfl
  unfold crState virt at *
  cases sc <;> simp only [] <;> rw [h] <;> simp

theorem fr_crState {k : Kind} (sc : Scope) {c : CutoffK} {s : State} (hn : Fr s) (hk : XK k) :
    Fr (crState k sc c s) := by
  have hnd : ∀ m, (crState k sc c s).nodeD m = s.nodeD m ∨
      (crState k sc c s).nodeD m = { kind := k, createdIn := sc, cutoff := c } := by
    intro m
    simp only [State.nodeD, crState_nodes, Array.getElem?_push]
    split
    · right; rfl
    · left; rfl
  refine ⟨?_, fun m => ?_, ?_, fun m => ?_, ?_⟩
  · rw [crState_pc]; exact hn.pc
  · rcases hnd m with h | h <;> rw [h]
    · exact hn.valid m
  · rw [crState_pinv]; exact hn.pinv
  · rcases hnd m with h | h <;> rw [h]
    · exact hn.kind m
    · exact hk
  · rw [crState_experts]; exact hn.ni

theorem SimAt.createNode {s : State} {k : Kind} (sc : Scope) (c : CutoffK) (hne : ∀ e, k ≠ .expert e) (hk : XK k) :
    SimAt s (Engine.createNode k sc c) (Engine.createNode k sc c) := by
  intro hn r s' hr
  rw [run_createNode] at hr ⊢
  cases hr
  rw [virt_size, virt_crState k sc c s hne]
  exact ⟨rfl, fr_crState sc hn hk⟩

theorem SimAt.createVar {s : State} (v : Val) (sc : Scope) :
    SimAt s (Engine.createVar v sc) (Engine.createVar v sc) := by
  have H := blind
  unfold Engine.createVar
  refine simAt_iff.2 (CommXAt.get_seq ?_)
  vnorm
  refine CommXAt.seq (simAt_iff.1 (SimAt.createNode sc .eq (fun e h => by cases h) trivial)) fun _ _ _ _ => ?_
  sim

/-! ## `elabInstr`, `stepAction` -/

/-- `some <$> createNode k sc` for a static kind -/
macro "xcr_node" : tactic => `(tactic|
  exact IncrVerif.Proofs.NodeSim.CommXAt.map _ (IncrVerif.Proofs.ExpertH.simAt_iff.1
    (IncrVerif.Proofs.ExpertH.SimAt.createNode _ _ (fun e h => by cases h) trivial)))

theorem SimAt.elabInstr {s : State} {i : Instr} (hR : XInstr i) :
    SimAt s (Engine.elabInstr [] .unit i) (Engine.elabInstr [] .unit i) := by
  have H := blind
  unfold Engine.elabInstr
  refine simAt_iff.2 ?_
  cases i <;> simp only [XInstr] at hR <;> refine CommXAt.get_seq ?_ <;> try vnorm
  case const v => xcr_node
  case var v => exact CommXAt.map _ (simAt_iff.1 (SimAt.createVar v .top))
  case map f args =>
    refine commAt_ro_seq (Step.Pres.mapM (fun a => RO.resolveOpnd [] a) args)
      (NodeSim.Comm.mapM (fun a => NodeSim.Comm.resolveOpnd H [] a) args s) fun as => ?_
    xcr_node
  case fold f init cs =>
    refine commAt_ro_seq (Step.Pres.mapM (fun a => RO.resolveOpnd [] a) cs)
      (NodeSim.Comm.mapM (fun a => NodeSim.Comm.resolveOpnd H [] a) cs s) fun as => ?_
    refine CommXAt.cond Iff.rfl (fun _ => ?_) (fun _ => ?_) <;> xcr_node
  case zip a b =>
    refine commAt_ro_seq (RO.resolveOpnd [] a) (NodeSim.Comm.resolveOpnd H [] a s) fun x => ?_
    refine commAt_ro_seq (RO.resolveOpnd [] b) (NodeSim.Comm.resolveOpnd H [] b s) fun y => ?_
    refine commAt_ro_seq (RO.isConstant x) (NodeSim.Comm.isConstant H x s) fun cx => ?_
    refine commAt_ro_seq (RO.isConstant y) (NodeSim.Comm.isConstant H y s) fun cy => ?_
    split <;> xcr_node

theorem elabInstrM_eq (env : Env) (loc : List Nat) (v : Val) {i : Instr} (hR : XInstr i) :
    Engine.elabInstrM env loc v i = Engine.elabInstr loc v i := by
  cases i <;> first | rfl | exact absurd hR (by simp [XInstr])

theorem SimAt.elabInstrM {s : State} {i : Instr} (env : Env) (hR : XInstr i) :
    SimAt s (Engine.elabInstrM env [] .unit i) (Engine.elabInstrM (virtEnv env) [] .unit i) := by
  rw [elabInstrM_eq _ _ _ hR, elabInstrM_eq _ _ _ hR]
  exact SimAt.elabInstr hR

theorem virt_isStable (s : State) : (virt s).isStable = s.isStable := rfl

theorem actCalc : Hist.ActCalc virt (fun s => SimAt s) :=
  (NodeSim.actCalc blind).congr virt_eq fun _ _ _ _ => simAt_iff

theorem XAction.cases {a : Action} (h : XAction a) : (∃ i, a = .create i ∧ XInstr i) ∨ Hist.Plain a := by
  cases a <;> first | exact Or.inl ⟨_, rfl, h⟩ | exact Or.inr trivial | exact h.elim

/-- every API action of the fragment (identical on both sides) -/
theorem SimAt.stepAction {s : State} {a : Action} (env : Env) (tk : Array Nat) (hR : XAction a) :
    SimAt s (Engine.stepAction env a tk) (Engine.stepAction (virtEnv env) a tk) := by
  rcases hR.cases with ⟨i, rfl, hi⟩ | hp
  · exact actCalc.create tk (SimAt.elabInstrM env hi)
  · exact actCalc.plain hp _ _ tk s

end IncrVerif.Proofs.ExpertH
