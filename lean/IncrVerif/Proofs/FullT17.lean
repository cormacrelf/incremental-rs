import IncrVerif.Proofs.FullT16
import IncrVerif.Proofs.FullT9
import IncrVerif.Proofs.FullH30
import IncrVerif.Proofs.NestH109
/-!
# C04 combined fragment: THE OWN STEP OF A `map_ref` NODE returns and keeps the totality invariants

The step `modNode n {value := none, didChange := false}; maybeChangeValueManual env fuel n none nd.didChange false` (after the common prologue) is not simulated by the virtual
engine.  It returns: if the flag is down the walk is `return none`; if it is up, by `BSimAt.maybeChangeValueManual_quiet` (the actual walk WITHOUT `child_changed` against the
virtual walk WITH it) it suffices that the virtual walk returns, which is `NestH.T2b.mcvm_noerr_cur`.  The totality invariant `NestH.DT` of the virtual state is kept: `dt_vstep` on the
`VStep` of `FullH.step_mapRef_vstep`.
-/
namespace IncrVerif.Proofs.FullT
open IncrVerif.Engine IncrVerif.Proofs IncrVerif.Proofs.Step IncrVerif.Proofs.Sched IncrVerif.Proofs.Quiet IncrVerif.Proofs.FullH
open IncrVerif.Proofs.MapRefH (upd1 upd1_self upd1_other cleared cleared_nodeD cleared_started_nodeD After IsMapRef FM value_congr_mr)
open IncrVerif.Proofs.BindH (DInv BGraph StepRelB TargetB DKey NKey FrameB Below Edge children_congr_kind)

section
variable {env : Env} {sp : Nat → Val → Val}

/-- the prologue and the `modNode` keep the carried invariant -/
theorem pinv_cleared_started {s : State} {n : Nat} (hP : PInv s) (hlt : n < s.nodes.size) : PInv (cleared n (started n s)) := by
  have hX := fun m => cleared_started_nodeD n m s hlt
  refine hP.of_nodeD (by simp [cleared, started]) (fun m => ?_) (fun m x hx => ?_)
  · rw [hX]; split
    · rename_i e; rw [e]
    · rfl
  · rw [hX] at hx; split at hx
    · rename_i e; rw [e]; exact hx
    · exact hx

/-- **the own step of a `map_ref` node returns**, and keeps the carried invariant -/
theorem step_mapRef_returns {t s : State} {g : Nat → Option Val} {N fuel n p i : Nat}
    (D : DInvF env sp t s g (some n)) (hP : PInv s) (T : NestH.DT (VE env sp) N (virt g s)) (hroom : s.nodes.size ≤ N)
    (hk : (s.nodeD n).kind = .mapRef p i) (hf : 1 ≤ fuel) :
    ∃ r s', (recomputeOne env fuel n).run.run s = (.ok r, s') ∧ PInv s' := by
  obtain ⟨vi, S⟩ := mrs_of_dinvF D hk
  have I := D.inv
  have gr := I.graph
  have hi := I.heap
  have hlt := S.lt
  rw [MapRefH.recomputeOne_mapRef_run (some_of_lt hlt) S.valid hk]
  have hPX := pinv_cleared_started hP hlt
  cases hd : (s.nodeD n).didChange with
  | false => rw [run_mcvm_false]; exact ⟨_, _, rfl, hPX⟩
  | true =>
    have hUW := S.upd
    have frX := (S.frX (some (env.proj p vi))).fr
    generalize hg' : upd1 g n (some (env.proj p vi)) = g' at hUW frX
    have B := BSimAt.maybeChangeValueManual_quiet (K := FK env sp) (P := PInv) (g := g') (s := cleared n (started n s)) (sp := sp) env fuel n none none true
      (by omega) S.parentsValid
    generalize hW : virt g' (cleared n (started n s)) = W at hUW
    -- the virtual notification walk cannot panic
    obtain ⟨rk, -, hb, -, L⟩ := T
    have hmax := NestH.T2b.hmax_of gr hb (L.room (by rw [virt_size]; exact hroom))
    have hbW : W.binds = (virt g s).binds := by rw [← hW]; rfl
    rcases hvr : (maybeChangeValueManual (VE env sp) fuel n none true true).run.run W with ⟨e | r, t'⟩
    · exact (NestH.T2b.mcvm_noerr_cur I hmax hUW hbW hf hvr).elim
    · rw [← hW] at hvr
      obtain ⟨s', hs', -, -, -, hp'⟩ := B.rev frX hPX hvr
      exact ⟨r, s', hs', hp'⟩

/-- **the own step of a `map_ref` node keeps the drain invariant and the totality invariant** of the virtual state -/
theorem step_mapRef_dt {t s s' : State} {g : Nat → Option Val} {N fuel n p i : Nat} {r : Option Nat}
    (D : DInvF env sp t s g (some n)) (T : NestH.DT (VE env sp) N (virt g s)) (hk : (s.nodeD n).kind = .mapRef p i)
    (h : (recomputeOne env fuel n).run.run s = (.ok r, s')) :
    ∃ g', DInvF env sp t s' g' r ∧ BindH.FrameB (virt g s) (virt g' s') ∧ ((virt g' s').nodeD n).recomputedAt = s.stabNum ∧
      ((virt g' s').nodeD n).valid = true ∧ NestH.DT (VE env sp) N (virt g' s') := by
  obtain ⟨g', v, ch, D', V⟩ := step_mapRef_vstep D hk h
  obtain ⟨-, -, hvv, -, -⟩ := D.inv.cur_facts
  have hk' : ∀ b, ((virt g s).nodeD n).kind ≠ .bindLhsChange b := by
    intro b; rw [virt_nodeD, virtNode_kind, hk]; intro e; cases e
  exact ⟨g', D', V.rel.frame, V.rel.recomputedAt, V.rel.shape.valid.trans hvv, dt_vstep T D.inv V hk'⟩

end
end IncrVerif.Proofs.FullT
