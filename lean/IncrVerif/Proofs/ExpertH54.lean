import IncrVerif.Proofs.BindH13
/-!
# Drivers: a run of a node that REWIRES other (static, fold-like) nodes re-establishes the drain invariant
(pure logic, from the contract `StepD`; the analogue of `StepL`/`stepL_inv`)
-/
namespace IncrVerif.Proofs.ExpertH.Drv
open IncrVerif.Engine IncrVerif.Proofs IncrVerif.Proofs.Step IncrVerif.Proofs.Sched IncrVerif.Proofs.BindH

/-- `s'` is `s` after a successful run of the driver `n` that computed `v` (stamped `changedAt` iff `ch`), returned `r`,
and rewired the nodes `x` with `X x` -/
structure StepD (env : Env) (X : Nat → Prop) (n : Nat) (v : Val) (ch : Bool) (r : Option Nat) (s s' : State) :
    Prop where
  size : s'.nodes.size = s.nodes.size
  vars : s'.vars = s.vars
  binds : s'.binds = s.binds
  stabNum : s'.stabNum = s.stabNum
  /-- structure and heap of the new state, wholesale -/
  graph' : BGraph env s'
  heap' : HeapInv s'
  stamps' : Stamps s'
  qstale' : ∀ m, (s'.nodeD m).inRch = true → s'.isStale m = true
  pending' : ∀ m, s'.isNecessary m = true → s'.isStale m = true → (s'.nodeD m).inRch = true ∨ r = some m
  /-- the driver itself: a node whose own edges are not touched -/
  notX : ¬ X n
  self : (s'.nodeD n).recomputedAt = s.stabNum ∧
    (s'.nodeD n).changedAt = (if ch = true then s.stabNum else (s.nodeD n).changedAt) ∧
    (s'.nodeD n).value = some v ∧ (s'.nodeD n).valid = true ∧ (s'.nodeD n).kind = (s.nodeD n).kind ∧
    s'.children n = s.children n ∧ (s'.nodeD n).createdIn = (s.nodeD n).createdIn
  target : TargetB env s n v
  unch : ch = false → (s.nodeD n).value = some v ∧ r = none
  /-- the other nodes: unchanged in what evaluation reads; kind, own stamp and own edges unchanged unless they are
  rewired -/
  old : ∀ m, m < s.nodes.size → m ≠ n →
    (s'.nodeD m).valid = (s.nodeD m).valid ∧
    (s'.nodeD m).createdIn = (s.nodeD m).createdIn ∧ (s'.nodeD m).value = (s.nodeD m).value ∧
    (s'.nodeD m).changedAt = (s.nodeD m).changedAt ∧
    (¬ X m → (s'.nodeD m).kind = (s.nodeD m).kind ∧
      (s'.nodeD m).recomputedAt = (s.nodeD m).recomputedAt ∧ s'.children m = s.children m)
  /-- the rewired nodes: the driver was their child, they are stale afterwards, and their own stamp (which the
  rewiring may reset in order to force staleness) is not of this round -/
  rewired : ∀ x, X x → n ∈ s.children x ∧ s'.isStale x = true ∧ (s'.nodeD x).recomputedAt < s.stabNum
  /-- the handed-over parent (direct recompute): a necessary unqueued parent of `n`, nothing queued is lower -/
  ret : ∀ p, r = some p → n ∈ s'.children p ∧ (s'.nodeD p).inRch = false ∧ s'.isNecessary p = true ∧
    ∀ m, (s'.nodeD m).inRch = true → (s'.nodeD p).height ≤ (s'.nodeD m).height

/-- a parent of the current node has not been recomputed in this round (discharges the stamp clause of
`StepD.rewired` when the rewiring leaves `recomputedAt` alone) -/
theorem parent_fresh {env : Env} {s : State} {n x : Nat} (I : DInv env s (some n)) (h : n ∈ s.children x) :
    (s.nodeD x).recomputedAt < s.stabNum :=
  I.fresh x n (Below.of_edge (Edge.child h)) (Or.inr rfl)

section
variable {env : Env} {X : Nat → Prop} {n : Nat} {v : Val} {ch : Bool} {r : Option Nat} {s s' : State}

/-- the rewired nodes are valid nodes of the old state, different from the driver -/
theorem StepD.rewired_facts (R : StepD env X n v ch r s s') {x : Nat} (hx : X x) :
    x < s.nodes.size ∧ (s.nodeD x).valid = true ∧ x ≠ n := by
  have he : Edge s x n := Edge.child (R.rewired x hx).1
  exact ⟨he.lt_size, he.valid, fun e => R.notX (e ▸ hx)⟩

/-- the driver is not stale afterwards -/
theorem StepD.self_fresh (R : StepD env X n v ch r s s') (I : DInv env s (some n)) : s'.isStale n = false := by
  have hlt' : n < s'.nodes.size := by rw [R.size]; exact I.cur_facts.2.1
  apply isStale_fresh (R.graph'.node n hlt' R.self.2.2.2.1).1 R.stamps'.now (by rw [R.self.1, R.stabNum])
  · exact R.stamps'.var
  · intro c; exact (R.stamps'.node c).2

/-- the stamp `changedAt` of a node is unchanged, except for the driver when it changed -/
theorem StepD.changedAt_same (R : StepD env X n v ch r s s') {c : Nat} (hc : c < s.nodes.size)
    (h : c ≠ n ∨ ch = false) : (s'.nodeD c).changedAt = (s.nodeD c).changedAt := by
  by_cases hcn : c = n
  · subst hcn
    rcases h with h | h
    · exact absurd rfl h
    · rw [R.self.2.1, h]; rfl
  · exact (R.old c hc hcn).2.2.2.1

/-- the stored value of a node is unchanged, except for the driver when it changed -/
theorem StepD.value_same (R : StepD env X n v ch r s s') {c : Nat} (hc : c < s.nodes.size)
    (h : c ≠ n ∨ ch = false) : (s'.nodeD c).value = (s.nodeD c).value := by
  by_cases hcn : c = n
  · subst hcn
    rcases h with h | h
    · exact absurd rfl h
    · rw [R.self.2.2.1, (R.unch h).1]
  · exact (R.old c hc hcn).2.2.1

/-- staleness of a node that is neither the driver nor rewired is unchanged, unless it is a parent of a driver
that changed -/
theorem StepD.stale_kept (R : StepD env X n v ch r s s') (g : BGraph env s) {m : Nat} (hm : m < s.nodes.size)
    (hne : m ≠ n) (hX : ¬ X m) (hp : n ∉ s.children m ∨ ch = false) : s'.isStale m = s.isStale m := by
  obtain ⟨k0, -, -, -, k⟩ := R.old m hm hne
  obtain ⟨k1, k4, k6⟩ := k hX
  cases hv : (s.nodeD m).valid with
  | false => rw [isStale_invalid hv, isStale_invalid (by rw [k0]; exact hv)]
  | true =>
    have hB := (g.node m hm hv).1
    apply isStale_congr hB k1 k0 k4 (fun c => by rw [R.vars]) k6
    intro c hc
    have hclt := ((g.node m hm hv).2.2 c hc).1
    apply R.changedAt_same hclt
    rcases hp with hp | hp
    · exact Or.inl (fun e => hp (e ▸ hc))
    · exact Or.inr hp

/-- a parent (neither the driver nor rewired) of a driver that changed is stale afterwards -/
theorem StepD.parent_stale (R : StepD env X n v ch r s s') (I : DInv env s (some n)) {m : Nat}
    (hm : m < s.nodes.size) (hne : m ≠ n) (hX : ¬ X m) (hv' : (s'.nodeD m).valid = true)
    (hc : n ∈ s.children m) (hch : ch = true) : s'.isStale m = true := by
  obtain ⟨-, -, -, -, k⟩ := R.old m hm hne
  obtain ⟨-, k4, k6⟩ := k hX
  have hm' : m < s'.nodes.size := by rw [R.size]; exact hm
  apply isStale_of_child hv' (by rw [k6]; exact hc)
  rw [R.self.2.1, if_pos hch, k4]
  exact parent_fresh I hc

/-- an edge of the new graph that leaves a node that is not rewired is an edge of the old graph -/
theorem StepD.edge_old (R : StepD env X n v ch r s s') (hnv : (s.nodeD n).valid = true) {a c : Nat}
    (ha : a < s.nodes.size) (hX : ¬ X a) (he : Edge s' a c) : Edge s a c := by
  have hv' := he.valid
  by_cases han : a = n
  · subst han
    cases he with
    | child hc => rw [R.self.2.2.2.2.2.1] at hc; exact Edge.child hc
    | scope hv2 hsc hb =>
      rw [R.binds] at hb
      exact Edge.scope hnv (R.self.2.2.2.2.2.2.symm.trans hsc) hb
  · obtain ⟨k0, k2, -, -, k⟩ := R.old a ha han
    cases he with
    | child hc => rw [(k hX).2.2] at hc; exact Edge.child hc
    | scope hv2 hsc hb =>
      rw [R.binds] at hb
      rw [k2] at hsc
      exact Edge.scope (by rw [← k0]; exact hv2) hsc hb

/-- the key of the `fresh` field: a path of the new graph to a node that is stale (or handed over) afterwards gives,
in the OLD graph, a path to a node that was stale before (and is not `n`), or to `n` itself -/
theorem StepD.path_old (R : StepD env X n v ch r s s') (I : DInv env s (some n)) {a d : Nat} (h : Below s' a d)
    (hd : s'.isStale d = true ∨ r = some d) (ha : a < s.nodes.size) :
    ∃ d0, Below s a d0 ∧ ((s.isStale d0 = true ∧ d0 ≠ n) ∨ (d0 = n ∧ a ≠ n)) := by
  have g := I.graph
  obtain ⟨hn, hnlt, hnv, -, -⟩ := I.cur_facts
  -- a parent of the driver (in the old graph) always works; the rewired nodes are such parents
  have hparOK : ∀ x, n ∈ s.children x →
      ∃ d0, Below s x d0 ∧ ((s.isStale d0 = true ∧ d0 ≠ n) ∨ (d0 = n ∧ x ≠ n)) := by
    intro x hx
    exact ⟨n, Below.of_edge (Edge.child hx), Or.inr ⟨rfl, g.edge_ne (Edge.child hx)⟩⟩
  induction h with
  | refl a =>
    by_cases haX : X a
    · exact hparOK a (R.rewired a haX).1
    by_cases hap : n ∈ s.children a
    · exact hparOK a hap
    by_cases han : a = n
    · exfalso
      subst han
      rcases hd with hd | hd
      · rw [R.self_fresh I] at hd; cases hd
      · exact R.graph'.edge_ne (Edge.child (R.ret a hd).1) rfl
    · rcases hd with hd | hd
      · rw [R.stale_kept g ha han haX (Or.inl hap)] at hd
        exact ⟨a, Below.refl a, Or.inl ⟨hd, han⟩⟩
      · exfalso
        have h1 := (R.ret a hd).1
        rw [((R.old a ha han).2.2.2.2 haX).2.2] at h1
        exact hap h1
  | step he hcd ih =>
    rename_i a c d
    by_cases haX : X a
    · exact hparOK a (R.rewired a haX).1
    have he0 : Edge s a c := R.edge_old hnv ha haX he
    obtain ⟨d0, hb0, hcase⟩ := ih hd (g.edge_target he0).1
    refine ⟨d0, Below.step he0 hb0, ?_⟩
    rcases hcase with h1 | ⟨h1, h2⟩
    · exact Or.inl h1
    · refine Or.inr ⟨h1, ?_⟩
      intro e
      subst e
      subst h1
      exact g.no_cycle hb0 he0

/-- **A run of a driver re-establishes the drain invariant**, with the handed-over parent (if any) as the new current
node. -/
theorem stepD_inv (I : DInv env s (some n)) (R : StepD env X n v ch r s s') : DInv env s' r := by
  have g := I.graph
  obtain ⟨hn, hnlt, hnv, hnq, hnr⟩ := I.cur_facts
  refine ⟨R.graph', R.heap', R.stamps', R.qstale', R.pending', ?_, ?_, ?_⟩
  · -- cons
    intro m hmlt' hmv hst
    have hm : m < s.nodes.size := by rw [← R.size]; exact hmlt'
    by_cases hmn' : m = n
    · subst hmn'
      refine ⟨v, ?_, R.self.2.2.1⟩
      apply TargetB.congr' hnv (g.node m hm hnv).1 R.self.2.2.2.2.1 R.vars _ _ R.target
      · intro b lc _; rw [R.binds]
      · intro c hc
        have hclt := ((g.node m hm hnv).2.2 c hc).1
        exact R.value_same hclt (Or.inl (Ne.symm (g.edge_ne (Edge.child hc))))
    by_cases hmX : X m
    · rw [(R.rewired m hmX).2.1] at hst; cases hst
    obtain ⟨k0, -, k3, -, k⟩ := R.old m hm hmn'
    obtain ⟨k1, -, k6⟩ := k hmX
    have hv : (s.nodeD m).valid = true := by rw [← k0]; exact hmv
    have hB := (g.node m hm hv).1
    -- `m` is not a parent of a driver that changed
    have hp : n ∉ s.children m ∨ ch = false := by
      by_cases hc : n ∈ s.children m
      · cases hch : ch with
        | false => exact Or.inr rfl
        | true => rw [R.parent_stale I hm hmn' hmX hmv hc hch] at hst; cases hst
      · exact Or.inl hc
    rw [R.stale_kept g hm hmn' hmX hp] at hst
    obtain ⟨w, hw, hval⟩ := I.cons m hm hv hst
    refine ⟨w, ?_, by rw [k3]; exact hval⟩
    apply TargetB.congr' hv hB k1 R.vars _ _ hw
    · intro b lc _; rw [R.binds]
    · intro c hc
      have hclt := ((g.node m hm hv).2.2 c hc).1
      apply R.value_same hclt
      rcases hp with hp | hp
      · exact Or.inl (fun e => hp (e ▸ hc))
      · exact Or.inr hp
  · -- fresh
    intro a d hbel hd
    rw [R.stabNum]
    by_cases hnew : s.nodes.size ≤ a
    · rw [nodeD_default_of_ge s' a (by rw [R.size]; omega)]
      show (-1 : Int) < s.stabNum
      have := I.stamps.now; omega
    have ha : a < s.nodes.size := by omega
    obtain ⟨d0, hb0, hcase⟩ := R.path_old I hbel hd ha
    have key : (s.nodeD a).recomputedAt < s.stabNum ∧ a ≠ n := by
      rcases hcase with ⟨h1, h2⟩ | ⟨h1, h2⟩
      · refine ⟨I.fresh a d0 hb0 (Or.inl h1), ?_⟩
        intro e
        subst e
        have hdn := (g.below_nec hb0 hn).1
        rcases I.pending d0 hdn h1 with h3 | h3
        · rw [(I.cur a rfl).2 d0 hb0] at h3; cases h3
        · injection h3 with h3; exact h2 h3.symm
      · subst h1
        exact ⟨I.fresh a d0 hb0 (Or.inr rfl), h2⟩
    by_cases haX : X a
    · exact (R.rewired a haX).2.2
    · rw [((R.old a ha key.2).2.2.2.2 haX).2.1]
      exact key.1
  · -- cur
    intro p hp
    obtain ⟨-, hq, hnec, hmin⟩ := R.ret p hp
    refine ⟨hnec, ?_⟩
    intro d hd
    by_cases hdp : d = p
    · rw [hdp]; exact hq
    · cases hq' : (s'.nodeD d).inRch with
      | false => rfl
      | true =>
        have := hmin d hq'
        have := R.graph'.below_lt hd hnec (Ne.symm hdp)
        omega

end

/-! ## consequences of the invariant for a node that is about to run -/

/-- an expert node runs after its drivers: when `x` is about to run, every child of `x` is necessary, not queued and
not stale -/
theorem children_settled {env : Env} {x : Nat} {s : State} (I : DInv env s (some x)) :
    ∀ c, c ∈ s.children x → s.isNecessary c = true ∧ (s.nodeD c).inRch = false ∧ s.isStale c = false := by
  intro c hc
  obtain ⟨hn, hbel⟩ := I.cur x rfl
  have he : Edge s x c := Edge.child hc
  have hcn := (I.graph.edge_nec hn he).1
  have hq := hbel c (Below.of_edge he)
  refine ⟨hcn, hq, ?_⟩
  cases hst : s.isStale c with
  | false => rfl
  | true =>
    exfalso
    rcases I.pending c hcn hst with h | h
    · rw [hq] at h; cases h
    · injection h with h; exact I.graph.edge_ne he h

/-- … and carries its defining value (so all drivers have run on the current inputs) -/
theorem children_consistent {env : Env} {x : Nat} {s : State} (I : DInv env s (some x)) :
    ∀ c, c ∈ s.children x → ConsistentB env s c := by
  intro c hc
  obtain ⟨hlt, hv⟩ := I.graph.edge_target (Edge.child hc)
  exact I.cons c hlt hv (children_settled I c hc).2.2

end IncrVerif.Proofs.ExpertH.Drv
