import IncrVerif.Proofs.Quiet13
import IncrVerif.Proofs.Quiet14
import IncrVerif.Proofs.Quiet15
import IncrVerif.Proofs.CutH27
/-!
# Part 15: `stabilise` with pending observers (G2)
-/
namespace IncrVerif.Proofs.Quiet
open IncrVerif.Engine IncrVerif.Driver IncrVerif.Proofs IncrVerif.Proofs.Step IncrVerif.Proofs.Sched

/-! ## reading `PFrame` -/

namespace PFrame
variable {s s' : State}

theorem nk (h : PFrame s s') (m : Nat) :
    (s'.nodeD m).kind = (s.nodeD m).kind ∧ (s'.nodeD m).createdIn = (s.nodeD m).createdIn ∧
    (s'.nodeD m).cutoff = (s.nodeD m).cutoff ∧ (s'.nodeD m).value = (s.nodeD m).value ∧
    (s'.nodeD m).valid = (s.nodeD m).valid ∧ (s'.nodeD m).recomputedAt = (s.nodeD m).recomputedAt ∧
    (s'.nodeD m).changedAt = (s.nodeD m).changedAt ∧
    (s'.nodeD m).forceNecessary = (s.nodeD m).forceNecessary ∧
    (s'.nodeD m).numOnUpdateHandlers = (s.nodeD m).numOnUpdateHandlers := by
  have := h.node m
  simpa only [nodeKeyP, Prod.mk.injEq] using this

theorem kind (h : PFrame s s') (m : Nat) : (s'.nodeD m).kind = (s.nodeD m).kind := (h.nk m).1
theorem value (h : PFrame s s') (m : Nat) : (s'.nodeD m).value = (s.nodeD m).value := (h.nk m).2.2.2.1
theorem recomputedAt (h : PFrame s s') (m : Nat) :
    (s'.nodeD m).recomputedAt = (s.nodeD m).recomputedAt := (h.nk m).2.2.2.2.2.1
theorem changedAt (h : PFrame s s') (m : Nat) :
    (s'.nodeD m).changedAt = (s.nodeD m).changedAt := (h.nk m).2.2.2.2.2.2.1

theorem sk (h : PFrame s s') :
    s'.vars = s.vars ∧ s'.stabNum = s.stabNum ∧ s'.status = s.status ∧ s'.cfg = s.cfg ∧
    s'.currentScope = s.currentScope ∧ s'.setDuringStab = s.setDuringStab ∧ s'.deadVars = s.deadVars ∧
    s'.top = s.top ∧ s'.handles = s.handles ∧ s'.alive = s.alive ∧
    s'.rch.queues.size = s.rch.queues.size ∧ s'.ahh = s.ahh ∧ s'.binds = s.binds ∧ s'.memos = s.memos ∧
    s'.slots = s.slots := by
  have := h.key
  simpa only [stateKeyP, Prod.mk.injEq] using this

theorem vars (h : PFrame s s') : s'.vars = s.vars := h.sk.1
theorem stabNum (h : PFrame s s') : s'.stabNum = s.stabNum := h.sk.2.1
theorem status (h : PFrame s s') : s'.status = s.status := h.sk.2.2.1
theorem setDuringStab (h : PFrame s s') : s'.setDuringStab = s.setDuringStab := h.sk.2.2.2.2.2.1
theorem deadVars (h : PFrame s s') : s'.deadVars = s.deadVars := h.sk.2.2.2.2.2.2.1
theorem top (h : PFrame s s') : s'.top = s.top := h.sk.2.2.2.2.2.2.2.1
theorem alive (h : PFrame s s') : s'.alive = s.alive := h.sk.2.2.2.2.2.2.2.2.2.1

theorem staleOf (h : PFrame s s') (m : Nat) : staleOf s' m = staleOf s m :=
  staleOf_congr (h.kind m) (h.recomputedAt m) h.vars (fun c _ => h.changedAt c)

theorem consistent {env : Env} (h : PFrame s s') {m : Nat} (hc : Consistent env s m) :
    Consistent env s' m := by
  obtain ⟨w, hw, hv⟩ := hc
  exact ⟨w, Target.congr (h.kind m) h.vars (fun c _ => h.value c) hw, by rw [h.value]; exact hv⟩

theorem varsOK (h : PFrame s s') (V : VarsOK s) : VarsOK s' where
  node n c hn hk := by
    rw [h.size] at hn
    rw [h.kind] at hk
    rw [h.vars]; exact V.node n c hn hk
  cell c vc hc := by
    rw [h.vars] at hc
    rw [h.size, h.kind]; exact V.cell c vc hc

end PFrame

/-! ## the two ends of the drain -/

/-- the state in which `drainHeap` starts satisfies the drain invariant -/
theorem drainInv_of {env : Env} {t : State} (S : Struct env t) (V : VarsOK t) (now : 0 ≤ t.stabNum)
    (st : ∀ m, (t.nodeD m).recomputedAt < t.stabNum ∧ (t.nodeD m).changedAt < t.stabNum)
    (vs : ∀ (c : Nat) (vc : VarCell), t.vars[c]? = some vc → vc.setAt ≤ t.stabNum)
    (cons : ∀ m, m < t.nodes.size → staleOf t m = false → Consistent env t m) : DrainInv env t where
  graph := S.graph V
  heap := S.heapInv
  stamps := ⟨now, fun m => ⟨Int.le_of_lt (st m).1, Int.le_of_lt (st m).2⟩, vs⟩
  pending m hm hs := Or.inl ((S.queued_iff m).2 ⟨hm, hs⟩)
  cons m hm hs := cons m (nec_lt_size hm) (by rw [← GInv.isStale S (nec_lt_size hm)]; exact hs)
  fresh _ _ a _ := (st a).1
  cur _ h := by cases h

/-- after the drain the structural invariant still holds -/
theorem Struct.ofDrained {env : Env} {t t3 : State} (S : Struct env t) (f : Frame t t3)
    (D : DrainInv env t3) (he : t3.rch.length = 0) (hscope : t3.currentScope = t.currentScope) :
    Struct env t3 where
  static := by
    refine ⟨D.graph.pc, by rw [hscope]; exact S.static.scope, fun n hn => ?_⟩
    have sn := S.static.node n (by rw [← f.size]; exact hn)
    have g := f.shape n
    exact ⟨by rw [g.valid]; exact sn.valid, by rw [g.kind]; exact sn.kind, by rw [g.cutoff]; exact sn.cutoff,
      by rw [g.createdIn]; exact sn.top, by rw [g.forceNecessary]; exact sn.force,
      by rw [g.kind]; exact sn.kidsLt⟩
  par c p i hm := by
    rw [(f.shape c).parents] at hm
    obtain ⟨h1, h2⟩ := S.par c p i hm
    rw [(f.shape p).kind]
    exact ⟨h1, (wants_closed rfl).2 (by rw [f.nec]; exact (wants_closed rfl).1 h2)⟩
  conv p i c hk hw := by
    rw [(f.shape p).kind] at hk
    rw [(f.shape c).parents]
    exact S.conv p i c hk ((wants_closed rfl).2 (by rw [← f.nec]; exact (wants_closed rfl).1 hw))
  nodup c := by rw [(f.shape c).parents]; exact S.nodup c
  hlt c p i hm ho := by
    rw [(f.shape c).parents] at hm
    rw [(f.shape c).height, (f.shape p).height]; exact S.hlt c p i hm ho
  hpos n hn ho := by
    rw [f.nec] at hn
    rw [(f.shape n).height]; exact S.hpos n hn ho
  lnec p k ho := by cases ho
  unec p k ho := by cases ho
  heap := ⟨D.heap.wf, fun m hm => by rw [D.heap.hgt m hm]; exact D.heap.lb m hm, D.heap.lb0⟩
  hgt m hm _ := D.heap.hgt m hm
  qnec m hm := Or.inl (D.heap.nec m hm)
  queued m _ hn hs := by
    rw [← D.graph.isStale hn] at hs
    rcases D.pending m hn hs with h | h
    · exact h
    · cases h
  qstale m hm := by rw [D.heap.empty he m] at hm; cases hm
  opLt m ho := absurd rfl ho

/-! ## `stabilise` -/

/-- what `stabilise` does to the state of an observer -/
def stabilisedState : ObsState → ObsState
  | .created => .inUse
  | .disallowed => .unlinked
  | x => x

theorem stabilisedState_eq (x : ObsState) : stabilisedState x = unlinkedState (addedState x) := by
  cases x <;> rfl

/-- the conclusions of `stabilise_q` about the final state -/
structure Stabilised (env : Env) (fuel : Nat) (s s' : State) : Prop where
  inv : QInv env s'
  newObservers : s'.newObservers = []
  disallowedObservers : s'.disallowedObservers = []
  vars : s'.vars = s.vars
  stabNum : s'.stabNum = s.stabNum + 1
  size : s'.nodes.size = s.nodes.size
  kind : ∀ m, (s'.nodeD m).kind = (s.nodeD m).kind
  obs : ObsMap stabilisedState s s'
  /-- necessity only grew by `addNewObservers`… and this is what is necessary at the end -/
  values : ∀ n, s'.isNecessary n = true → ∀ k, (s'.nodeD n).height.toNat < k →
    (s'.nodeD n).valid = true ∧ s'.isStale n = false ∧ (s'.nodeD n).value = eval env s' k n ∧
      s'.value env n = eval env s' k n ∧ (eval env s' k n).isSome = true
  /-- the drain: it starts in a state `t` with the drain invariant and the final graph; no node runs
  twice, only necessary nodes run -/
  drain : ∃ t t3, DrainInv env t ∧ (drainHeap env fuel).run.run t = (.ok (), t3) ∧
    (∀ m, s'.isNecessary m = t.isNecessary m) ∧ t.vars = s.vars ∧ t.stabNum = s.stabNum ∧
    (∀ m, (t.nodeD m).kind = (s.nodeD m).kind) ∧
    (drainTrace env fuel t).Nodup ∧
    ∀ m, m ∈ drainTrace env fuel t → s'.isNecessary m = true ∧
      (t.nodeD m).recomputedAt < t.stabNum ∧ (s'.nodeD m).recomputedAt = s.stabNum

theorem anc_toC {s : State} {a d : Nat} (h : Anc s a d) : CutH.Anc s a d := by
  induction h with
  | refl a => exact .refl a
  | step hn hc _ ih => exact .step hn hc ih

/-- with the flag up, the scheduling invariant for arbitrary cutoffs is the one of `Proofs/Sched1.lean` -/
theorem inv_ofC {env : Env} {s : State} {x : Option Nat} (I : CutH.Inv env true s x) : Inv env s x where
  graph := ⟨I.graph.pc, fun n hn => let ⟨a, b, c, d⟩ := I.graph.nec n hn; ⟨a, b, c, (CutH.exactCut_iff _).1 (I.exact rfl n), d⟩,
    I.graph.var, I.graph.child, I.graph.parent⟩
  heap := I.heap
  stamps := I.stamps
  pending := I.pending
  cons m hm hs := (I.cons m hm hs).consistent
  fresh d hd a ha := I.fresh d hd a (anc_toC ha)
  cur n hn := ⟨(I.cur n hn).1, fun d hd => (I.cur n hn).2 d (anc_toC hd)⟩


/-- **G2: `stabilise` with pending observers.** -/
theorem stabilise_q {env : Env} {fuel : Nat} {s s' : State} (Q : QInv env s)
    (h : (stabilise env fuel).run.run s = (.ok (), s')) : Stabilised env fuel s s' :=
  have J := CutH.stabilise_q Q.toC h
  have E : EqCut s' := Q.eqCut.of_eq J.size (CutH.stabilise_gate Q.toC h).cutoff
  have ⟨t, t3, D, r⟩ := J.drain
  ⟨.ofC J.inv E, J.newObservers, J.disallowedObservers, J.vars, J.stabNum, J.size, J.kind, J.obs, J.values rfl, t, t3, inv_ofC D, r⟩

end IncrVerif.Proofs.Quiet
