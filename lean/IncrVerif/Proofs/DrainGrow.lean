import IncrVerif.Proofs.Drain
/-!
# The drain of a graph that grows

Whatever the outcome of `recompute` / `drainHeap`, the run returned if the state `s'` it ends in has room (`s'.nodes.size ≤ N`, enough fuel for
`need s'.nodes.size`): a step on the current node returns under that proviso on the state IT ends in, and lowers the potential
`μ c + (M - size)`, `M` the node count of the final state (a new node adds at most one to `μ` and removes one from `M - size`).  The potential is
written without subtraction.  `grow`: no run removes nodes (`Inval.PresMono`).
-/
namespace IncrVerif.Proofs.Drain
open IncrVerif.Engine IncrVerif.Proofs IncrVerif.Proofs.Step

section
variable {env : Env} {σ : Type} {st : σ → State} {J : σ → Option Nat → Prop} {μ : σ → Nat} {need : Nat → Nat} {N : Nat}

theorem recompute_totIf (hmono : ∀ a b, a ≤ b → need a ≤ need b) (hpos : ∀ sz, 1 ≤ need sz)
    (grow : ∀ fuel n s r s', (recompute env fuel n).run.run s = (r, s') → s.nodes.size ≤ s'.nodes.size)
    (pos : ∀ c n, J c (some n) → 0 < μ c)
    (step : ∀ c n fuel r1 s1, J c (some n) → (recomputeOne env fuel n).run.run (st c) = (r1, s1) → s1.nodes.size ≤ N →
      need s1.nodes.size ≤ fuel → ∃ r c', r1 = .ok r ∧ st c' = s1 ∧ J c' r ∧ μ c' + (st c).nodes.size + 1 ≤ μ c + s1.nodes.size) :
    ∀ (fuel n : Nat) (c : σ) (r : Except Panic Unit) (s' : State), J c (some n) → (recompute env fuel n).run.run (st c) = (r, s') →
      s'.nodes.size ≤ N → need s'.nodes.size + μ c + s'.nodes.size ≤ fuel + (st c).nodes.size →
      r = .ok () ∧ ∃ c', st c' = s' ∧ J c' none ∧ μ c' + (st c).nodes.size + 1 ≤ μ c + s'.nodes.size := by
  intro fuel
  induction fuel with
  | zero =>
    intro n c r s' j h _ hf
    exfalso
    unfold recompute at h
    rw [run_throw] at h
    cases h
    have := pos c n j
    have := hpos (st c).nodes.size
    omega
  | succ fuel ih =>
    intro n c r s' j h hN hf
    have hup := pos c n j
    have hall := grow _ _ _ _ _ h
    unfold recompute at h
    rcases h1 : (recomputeOne env fuel n).run.run (st c) with ⟨r1, s1⟩
    rw [run_bind_of h1] at h
    have hp := hpos s'.nodes.size
    cases r1 with
    | error e =>
      exfalso
      cases h
      obtain ⟨r0, _, e0, -⟩ := step c n fuel _ _ j h1 hN (by omega)
      cases e0
    | ok r1 =>
      cases r1 with
      | none =>
        have h' : (pure () : M Unit).run.run s1 = (r, s') := h
        rw [run_pure] at h'
        cases h'
        obtain ⟨r0, c1, e0, e1, j1, hlt⟩ := step c n fuel _ _ j h1 hN (by omega)
        cases e0
        exact ⟨rfl, c1, e1, j1, hlt⟩
      | some p =>
        have h' : (recompute env fuel p).run.run s1 = (r, s') := h
        have hm := hmono _ _ (grow _ _ _ _ _ h')
        obtain ⟨r0, c1, e0, e1, j1, hlt⟩ := step c n fuel _ _ j h1 (Nat.le_trans (grow _ _ _ _ _ h') hN) (by omega)
        cases e0
        subst e1
        obtain ⟨e, c2, e2, j2, hlt'⟩ := ih p c1 r s' j1 h' hN (by omega)
        exact ⟨e, c2, e2, j2, by omega⟩

theorem drainHeap_totIf (hmono : ∀ a b, a ≤ b → need a ≤ need b) (hpos : ∀ sz, 1 ≤ need sz)
    (grow : ∀ fuel n s r s', (recompute env fuel n).run.run s = (r, s') → s.nodes.size ≤ s'.nodes.size)
    (growD : ∀ fuel s r s', (drainHeap env fuel).run.run s = (r, s') → s.nodes.size ≤ s'.nodes.size)
    (pos : ∀ c n, J c (some n) → 0 < μ c)
    (step : ∀ c n fuel r1 s1, J c (some n) → (recomputeOne env fuel n).run.run (st c) = (r1, s1) → s1.nodes.size ≤ N →
      need s1.nodes.size ≤ fuel → ∃ r c', r1 = .ok r ∧ st c' = s1 ∧ J c' r ∧ μ c' + (st c).nodes.size + 1 ≤ μ c + s1.nodes.size)
    (pop : ∀ c, J c none → ∃ r s1, rchRemoveMin.run.run (st c) = (.ok r, s1) ∧
      match r with
      | none => s1 = st c
      | some n => ∃ c1, st c1 = s1 ∧ J c1 (some n) ∧ μ c1 + (st c).nodes.size ≤ μ c + s1.nodes.size) :
    ∀ (fuel : Nat) (c : σ) (r : Except Panic Unit) (s' : State), J c none → (drainHeap env fuel).run.run (st c) = (r, s') →
      s'.nodes.size ≤ N → need s'.nodes.size + μ c + s'.nodes.size + 1 ≤ fuel + (st c).nodes.size →
      r = .ok () ∧ ∃ c', st c' = s' ∧ J c' none := by
  intro fuel
  induction fuel with
  | zero =>
    intro c r s' _ h _ hf
    exfalso
    have := growD _ _ _ _ h
    have := hpos s'.nodes.size
    omega
  | succ fuel ih =>
    intro c r s' j h hN hf
    have hall := growD _ _ _ _ h
    unfold drainHeap at h
    obtain ⟨r1, s1, h1, hp⟩ := pop c j
    rw [run_bind_of h1] at h
    cases r1 with
    | none =>
      have h' : (pure () : M Unit).run.run s1 = (r, s') := h
      rw [run_pure] at h'
      cases h'
      exact ⟨rfl, c, hp.symm, j⟩
    | some n =>
      obtain ⟨c1, rfl, j1, hle⟩ := hp
      rcases h2 : (recompute env fuel n).run.run (st c1) with ⟨r2, s2⟩
      have h' : (recompute env fuel n >>= fun _ => drainHeap env fuel).run.run (st c1) = (r, s') := h
      rw [run_bind_of h2] at h'
      cases r2 with
      | error e =>
        exfalso
        cases h'
        obtain ⟨e0, -⟩ := recompute_totIf hmono hpos grow pos step fuel n c1 _ _ j1 h2 hN (by omega)
        cases e0
      | ok u =>
        have h'' : (drainHeap env fuel).run.run s2 = (r, s') := h'
        have hs' := growD _ _ _ _ h''
        have hm := hmono _ _ hs'
        obtain ⟨-, c2, rfl, j2, hlt⟩ := recompute_totIf hmono hpos grow pos step fuel n c1 _ _ j1 h2 (by omega) (by omega)
        exact ih c2 r s' j2 h'' hN (by omega)

end
end IncrVerif.Proofs.Drain
