import IncrVerif.Proofs.NestH87
import IncrVerif.Proofs.NestH43
/-!
# Total correctness for nested binds, the CONTRACTS between the layers (runs that create nodes)

A run that creates nodes (a run of a change detector, the drain, `stabilise`, a history) is shown to return under the proviso that THE STATE IT ENDS IN — whatever the
outcome; `M` keeps the state when a panic is raised — still has room: at most `N` nodes (the height limit: heights are bounded by the position in the rank order of all
nodes ever created, `HBo2`) and `needFuel` of its node count `≤ fuel` (`TotIf`, `NestH76`).  The node count only grows (`Step.Stamp`), so every intermediate state has room too.
-/
namespace IncrVerif.Proofs.NestH
open IncrVerif.Engine IncrVerif.Driver IncrVerif.Proofs IncrVerif.Proofs.Step IncrVerif.Proofs.Sched IncrVerif.Proofs.Quiet
open IncrVerif.Proofs.BindH

/-- both heaps have `N + 1` buckets -/
structure Lim (N : Nat) (s : State) : Prop where
  ahh : s.ahh.maxAllowed = (N : Int)
  rch : s.rch.maxAllowed = (N : Int)

theorem Lim.room {N : Nat} {s : State} (L : Lim N s) (h : s.nodes.size ≤ N) : Room N s := ⟨L.ahh, L.rch, h⟩
theorem Room.lim {N : Nat} {s : State} (R : Room N s) : Lim N s := ⟨R.ahh, R.rch⟩

/-- fuel that suffices for every cascade / loop inside one step of the drain, and for the steps themselves, in a state with `sz` nodes -/
def needFuel (sz : Nat) : Nat := 4 * sz + 8

/-- the room proviso on the final state -/
def HasRoom (N fuel : Nat) (s' : State) : Prop := s'.nodes.size ≤ N ∧ needFuel s'.nodes.size ≤ fuel

/-- what the "no panic" argument carries through a drain besides `DInv`: the auxiliary structural invariant (for some ghost rank), the height bound, "a change detector
that has run has installed a right-hand side", the bucket counts -/
def DT (env : Env) (N : Nat) (s : State) : Prop :=
  ∃ rk, F2Inv env rk s ∧ HBo2 rk s allClosed ∧ RhsRan s ∧ Lim N s

/-- CONTRACT: a run of a change detector returns if the state it ends in has room -/
def LcStepTot (env : Env) (N : Nat) : Prop :=
  ∀ (fuel n b : Nat) (s : State), DInv env s (some n) → DT env N s → (s.nodeD n).kind = .bindLhsChange b →
    TotIf (recomputeOne env fuel n) s (HasRoom N fuel) (fun _ s' => DT env N s')

/-- CONTRACT: the drain returns if the state it ends in has room; `fuel0` is the fuel `stabilise` was called with (the drain's own fuel is the same) -/
def DrainTot (env : Env) (N : Nat) : Prop :=
  ∀ (fuel : Nat) (s : State), DInv env s none → DT env N s →
    TotIf (drainHeap env fuel) s (HasRoom N fuel) (fun _ s' => DT env N s')

/-- the invariant between API actions for the "no panic" argument -/
def QT (env : Env) (N : Nat) (s : State) : Prop :=
  ∃ rk, QInv2 env rk s ∧ TInv2 rk N s ∧ RhsRan s

/-- CONTRACT: `stabilise` returns if the state it ends in has room -/
def StabTot (env : Env) (N : Nat) : Prop :=
  ∀ (fuel : Nat) (s : State), QT env N s →
    TotIf (stabilise env fuel) s (HasRoom N fuel) (fun _ s' => QT env N s')

end IncrVerif.Proofs.NestH
