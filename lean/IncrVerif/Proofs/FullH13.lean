import IncrVerif.Proofs.FullH12
/-!
# C01 full fragment: virtualisation commutes with node creation, part 2
(`elabInstr`, `elabInstrM`, `elabTemplate`)
-/
namespace IncrVerif.Proofs.FullH
open IncrVerif.Engine IncrVerif.Proofs IncrVerif.Proofs.Step IncrVerif.Proofs.Sched IncrVerif.Proofs.Quiet
open IncrVerif.Proofs.MapOldH (enc dec WId dec_enc MReach GoodMachine)

namespace SC

/-! ## what the creation functions do to the naming data (`top`, number of nodes, result) -/

/-- the result of a successful `resolveOpnd` of an `OpndS` operand -/
theorem resolveOpnd_inv {loc : List Nat} {o : Opnd} {s s' : State} {a : Nat} (ho : OpndS o)
    (h : (Engine.resolveOpnd loc o).run.run s = (.ok a, s')) :
    s' = s ∧ ((∃ k : Nat, s.top[k]? = some a) ∨ a ∈ loc) := by
  unfold Engine.resolveOpnd at h
  cases o
  case abs n => exact ho.elim
  case slot n => exact ho.elim
  case outer k =>
    simp only at h
    rw [run_bind_get] at h
    cases hm : s.top[k]? with
    | some m =>
      rw [hm] at h
      obtain ⟨e1, e2⟩ := pure_ok_inv h
      subst e1; exact ⟨e2, Or.inl ⟨k, hm⟩⟩
    | none => rw [hm] at h; cases h
  case loc j =>
    simp only at h
    cases hm : loc[j]? with
    | some m =>
      rw [hm] at h
      obtain ⟨e1, e2⟩ := pure_ok_inv h
      subst e1; exact ⟨e2, Or.inr (List.mem_of_getElem? hm)⟩
    | none => rw [hm] at h; cases h

theorem resolveOpnd_lt {loc : List Nat} {o : Opnd} {s s' : State} {a : Nat} (ho : OpndS o) (ht : TopLt s)
    (hl : ∀ m ∈ loc, m < s.nodes.size) (h : (Engine.resolveOpnd loc o).run.run s = (.ok a, s')) :
    a < s.nodes.size := by
  obtain ⟨-, ⟨k, hk⟩ | hm⟩ := resolveOpnd_inv ho h
  · exact ht k a hk
  · exact hl a hm

/-- a creator: `top` unchanged, the state grows, the result is a node of the final state -/
def Cr (x : M Nat) : Prop :=
  ∀ s n s', x.run.run s = (.ok n, s') → s'.top = s.top ∧ s.nodes.size ≤ s'.nodes.size ∧ n < s'.nodes.size

def CrO (x : M (Option Nat)) : Prop :=
  ∀ s r s', x.run.run s = (.ok r, s') →
    s'.top = s.top ∧ s.nodes.size ≤ s'.nodes.size ∧ ∃ n, r = some n ∧ n < s'.nodes.size

theorem Cr.createNode (k : Kind) (sc : Scope) (c : CutoffK) : Cr (Engine.createNode k sc c) := by
  intro s n s' h
  obtain ⟨e, h1, h2⟩ := createNode_inv h
  exact ⟨h1, by omega, by omega⟩

theorem Cr.createVar (v : Val) (sc : Scope) : Cr (Engine.createVar v sc) := by
  intro s n s' h
  unfold Engine.createVar at h
  rw [run_bind_get] at h
  obtain ⟨m, s1, h1, h2⟩ := bind_ok_inv h
  obtain ⟨e, t1, z1⟩ := createNode_inv h1
  rw [run_bind_modify] at h2
  obtain ⟨e1, e2⟩ := pure_ok_inv h2
  subst e1 e2
  exact ⟨t1, by simp only []; omega, by simp only []; omega⟩

theorem Cr.createBind (body lhs : Nat) : Cr (Engine.createBind body lhs) := by
  intro s n s' h
  unfold Engine.createBind at h
  rw [run_bind_get, run_bind_modify] at h
  obtain ⟨lc, s1, h1, h⟩ := bind_ok_inv h
  obtain ⟨-, t1, z1⟩ := createNode_inv h1
  obtain ⟨mn, s2, h2, h⟩ := bind_ok_inv h
  obtain ⟨e2, t2, z2⟩ := createNode_inv h2
  unfold Engine.modBind at h
  rw [run_bind_modify] at h
  obtain ⟨e3, e4⟩ := pure_ok_inv h
  subst e3 e4
  simp only [] at t1 z1
  exact ⟨by simp only []; rw [t2, t1], by simp only []; omega, by simp only []; omega⟩

theorem CrO.some {x : M Nat} (h : Cr x) : CrO (some <$> x) := by
  intro s r s' hr
  obtain ⟨n, h1, e⟩ := map_ok_inv hr
  obtain ⟨a, b, c⟩ := h s n s' h1
  exact ⟨a, b, n, e, c⟩

theorem CrO.ro {α} {x : M α} {f : α → M (Option Nat)} (hro : Step.Pres SameS x) (hf : ∀ a, CrO (f a)) :
    CrO (x >>= f) := by
  intro s r s' hr
  obtain ⟨a, s1, h1, h2⟩ := bind_ok_inv hr
  have e : s1 = s := hro.h s _ s1 h1
  subst e
  exact hf a s1 r s' h2

macro "cro" : tactic => `(tactic| first
  | with_reducible exact CrO.some (Cr.createNode _ _ _)
  | with_reducible exact CrO.some (Cr.createVar _ _)
  | with_reducible exact CrO.some (Cr.createBind _ _))

theorem CrO.elabInstr {env : Env} {sp : Nat → Val → Val} (loc : List Nat) (v : Val) {i : Instr}
    (hi : InstrS env sp i) : CrO (Engine.elabInstr loc v i) := by
  unfold Engine.elabInstr
  cases i <;> simp only [InstrS] at hi <;> refine CrO.ro Step.Pres.get fun s0 => ?_ <;> simp only []
  case const v => cro
  case lhsConst => cro
  case var v => cro
  case map f args =>
    refine CrO.ro (Step.Pres.mapM (fun a => RO.resolveOpnd loc a) args) fun as => ?_
    cro
  case fold f init cs =>
    refine CrO.ro (Step.Pres.mapM (fun a => RO.resolveOpnd loc a) cs) fun as => ?_
    split <;> cro
  case mapRef p o => exact CrO.ro (RO.resolveOpnd loc o) fun x => by cro
  case mapWithOld m o => exact CrO.ro (RO.resolveOpnd loc o) fun x => by cro
  case bind b o => exact CrO.ro (RO.resolveOpnd loc o) fun x => by cro
  case zip a b =>
    refine CrO.ro (RO.resolveOpnd loc a) fun x => ?_
    refine CrO.ro (RO.resolveOpnd loc b) fun y => ?_
    refine CrO.ro (RO.isConstant x) fun cx => ?_
    refine CrO.ro (RO.isConstant y) fun cy => ?_
    split <;> cro
  case dependOn a b =>
    refine CrO.ro (RO.resolveOpnd loc a) fun x => ?_
    refine CrO.ro (RO.resolveOpnd loc b) fun y => ?_
    cro

end SC

/-! ## `elabInstr`, `elabInstrM` -/

section
variable {env : Env} {sp : Nat → Val → Val} {g : Nat → Option Val}

theorem SimAt.createNode' {s : State} {k k' : Kind} (sc : Scope) (c : CutoffK) {c' : CutoffK} (hk' : k' = virtKind k)
    (hc' : c' = virtCut k c) (hk : FK env sp k) (hb : ∀ p i, k = .mapRef p i → i < s.nodes.size) (hc : CutK k c) :
    SimAt (FK env sp) g s (Engine.createNode k sc c) (Engine.createNode k' sc c') := by
  subst hk' hc'; exact SimAt.createNode k sc c hk hb hc

/-- `some <$> createNode k sc c` for a kind that is not `mapRef` -/
macro "cr_node" : tactic => `(tactic|
  exact SC.simAt_map _ (SimAt.createNode' _ _ rfl rfl
    (by first | trivial | assumption | exact ⟨by decide, fun h => absurd h (by decide)⟩)
    (fun p i h => by cases h) (by first | exact Or.inl rfl | exact Or.inr (Or.inr ⟨_, _, rfl, rfl⟩))))

theorem SimAt.elabInstr {s : State} (loc : List Nat) (v : Val) (i : Instr) (hi : InstrS env sp i)
    (hop : ∀ o ∈ InstrOpnds i, OpndS o) (ht : TopLt s) (hl : ∀ m ∈ loc, m < s.nodes.size) :
    SimAt (FK env sp) g s (Engine.elabInstr loc v i) (Engine.elabInstr loc v (virtI i)) := by
  unfold Engine.elabInstr
  cases i <;> simp only [InstrS] at hi <;> simp only [virtI] <;> refine SimAt.get_seq ?_ <;> try fnorm
  case const v => cr_node
  case lhsConst => cr_node
  case var v => exact SC.simAt_map _ (Sim.createVar v .top s)
  case map f args =>
    refine SC.ro_seq (Step.Pres.mapM (fun a => SC.RO.resolveOpnd loc a) args)
      (SC.sim_mapM (fun a => Sim.resolveOpnd loc a) args s) fun as _ => ?_
    cr_node
  case fold f init cs =>
    refine SC.ro_seq (Step.Pres.mapM (fun a => SC.RO.resolveOpnd loc a) cs)
      (SC.sim_mapM (fun a => Sim.resolveOpnd loc a) cs s) fun as _ => ?_
    refine SimAt.cond Iff.rfl (fun _ => ?_) (fun _ => ?_) <;> cr_node
  case mapRef p o =>
    simp only [List.mapM_cons, List.mapM_nil, bind_assoc, pure_bind]
    refine SC.ro_seq (SC.RO.resolveOpnd loc o) (Sim.resolveOpnd loc o s) fun x hx => ?_
    have hlt : x < s.nodes.size := SC.resolveOpnd_lt (hop o (by simp [InstrOpnds])) ht hl hx
    exact SC.simAt_map _ (SimAt.createNode' _ _ rfl rfl hi (fun p' i' h => by cases h; exact hlt) (Or.inl rfl))
  case mapWithOld m o =>
    simp only [List.mapM_cons, List.mapM_nil, bind_assoc, pure_bind]
    refine SC.ro_seq (SC.RO.resolveOpnd loc o) (Sim.resolveOpnd loc o s) fun x _ => ?_
    cr_node
  case bind b o =>
    refine SC.ro_seq (SC.RO.resolveOpnd loc o) (Sim.resolveOpnd loc o s) fun x _ => ?_
    exact SC.simAt_map _ (SimAt.createBind b x)
  case zip a b =>
    refine SC.ro_seq (SC.RO.resolveOpnd loc a) (Sim.resolveOpnd loc a s) fun x _ => ?_
    refine SC.ro_seq (SC.RO.resolveOpnd loc b) (Sim.resolveOpnd loc b s) fun y _ => ?_
    refine SC.ro_seq (SC.RO.isConstant x) (Sim.isConstant x s) fun cx _ => ?_
    refine SC.ro_seq (SC.RO.isConstant y) (Sim.isConstant y s) fun cy _ => ?_
    split <;> cr_node
  case dependOn a b =>
    simp only [List.mapM_cons, List.mapM_nil, bind_assoc, pure_bind]
    refine SC.ro_seq (SC.RO.resolveOpnd loc a) (Sim.resolveOpnd loc a s) fun x _ => ?_
    refine SC.ro_seq (SC.RO.resolveOpnd loc b) (Sim.resolveOpnd loc b s) fun y _ => ?_
    cr_node

theorem elabInstrM_eq (env' : Env) (loc : List Nat) (v : Val) {i : Instr} (hi : InstrS env sp i) :
    Engine.elabInstrM env' loc v i = Engine.elabInstr loc v i := by
  cases i <;> first | rfl | exact absurd hi (by simp [InstrS])

theorem elabInstrM_virt_eq (env' : Env) (loc : List Nat) (v : Val) {i : Instr} (hi : InstrS env sp i) :
    Engine.elabInstrM env' loc v (virtI i) = Engine.elabInstr loc v (virtI i) := by
  cases i <;> first | rfl | exact absurd hi (by simp [InstrS])

theorem SimAt.elabInstrM {s : State} (loc : List Nat) (v : Val) (i : Instr) (hi : InstrS env sp i)
    (hop : ∀ o ∈ InstrOpnds i, OpndS o) (ht : TopLt s) (hl : ∀ m ∈ loc, m < s.nodes.size) :
    SimAt (FK env sp) g s (Engine.elabInstrM env loc v i) (Engine.elabInstrM (VE env sp) loc v (virtI i)) := by
  rw [elabInstrM_eq _ _ _ hi, elabInstrM_virt_eq _ _ _ hi]
  exact SimAt.elabInstr loc v i hi hop ht hl

/-! ## `elabTemplate` -/

/-- the loop of `elabTemplate`: same locals on both sides; invariant `TopLt` and "the locals are nodes" -/
theorem SC.sim_loop (v : Val) (l : List Instr) : ∀ (loc : List Nat) (s : State),
    (∀ i ∈ l, InstrS env sp i ∧ ∀ o ∈ InstrOpnds i, OpndS o) → TopLt s → (∀ m ∈ loc, m < s.nodes.size) →
    SimAt (FK env sp) g s
      (forIn l loc fun i r => do
        let x ← Engine.elabInstrM env r v i
        match x with
        | some n => pure (ForInStep.yield (r ++ [n]))
        | none => pure (ForInStep.yield r))
      (forIn (l.map virtI) loc fun i r => do
        let x ← Engine.elabInstrM (VE env sp) r v i
        match x with
        | some n => pure (ForInStep.yield (r ++ [n]))
        | none => pure (ForInStep.yield r)) := by
  induction l with
  | nil => intro loc s _ _ _; rw [List.map_nil, List.forIn_nil, List.forIn_nil]; exact SimAt.ret _
  | cons i l ih =>
    intro loc s hI ht hl
    have hi := hI i List.mem_cons_self
    rw [List.map_cons, List.forIn_cons, List.forIn_cons]
    refine SimAt.seq (SimAt.seq (SimAt.elabInstrM loc v i hi.1 hi.2 ht hl) fun ro s1 _ => ?_) fun r s1 h1 => ?_
    · cases ro <;> exact SimAt.ret _
    · obtain ⟨ro, s2, h2, h3⟩ := bind_ok_inv h1
      rw [elabInstrM_eq _ _ _ hi.1] at h2
      obtain ⟨htop, hsz, n, rfl, hn⟩ := SC.CrO.elabInstr loc v hi.1 s ro s2 h2
      have ht2 : TopLt s2 := fun k r hk => Nat.lt_of_lt_of_le (ht k r (by rw [← htop]; exact hk)) hsz
      have hl2 : ∀ m ∈ loc ++ [n], m < s2.nodes.size := by
        intro m hm
        rcases List.mem_append.1 hm with hm | hm
        · exact Nat.lt_of_lt_of_le (hl m hm) hsz
        · rw [List.mem_singleton.1 hm]; exact hn
      obtain ⟨rfl, rfl⟩ := pure_ok_inv h3
      exact ih _ _ (fun j hj => hI j (List.mem_cons_of_mem _ hj)) ht2 hl2

/-- **virtualisation commutes with the elaboration of a template** -/
theorem SimAt.elabTemplate {s : State} (t : Template) (v : Val)
    (hi : ∀ i ∈ t.instrs, InstrS env sp i ∧ ∀ o ∈ InstrOpnds i, OpndS o) (_hr : OpndS t.ret) (ht : TopLt s) :
    SimAt (FK env sp) g s (Engine.elabTemplate env t v) (Engine.elabTemplate (VE env sp) (virtT t) v) := by
  unfold Engine.elabTemplate
  exact SimAt.seq (SC.sim_loop v t.instrs [] s hi ht (fun m hm => by cases hm)) fun loc s1 _ =>
    Sim.resolveOpnd loc t.ret s1

/-! ## what `elabTemplate` does to the naming data -/

theorem SC.loop_post (env' : Env) (v : Val) (l : List Instr) : ∀ (loc : List Nat) (s : State) (loc' : List Nat) (s' : State),
    (∀ i ∈ l, InstrS env sp i) → (∀ m ∈ loc, m < s.nodes.size) →
    (forIn l loc fun i r => do
        let x ← Engine.elabInstrM env' r v i
        match x with
        | some n => pure (ForInStep.yield (r ++ [n]))
        | none => pure (ForInStep.yield r)).run.run s = (.ok loc', s') →
    s'.top = s.top ∧ s.nodes.size ≤ s'.nodes.size ∧ ∀ m ∈ loc', m < s'.nodes.size := by
  induction l with
  | nil =>
    intro loc s loc' s' _ hl h
    rw [List.forIn_nil] at h
    obtain ⟨rfl, rfl⟩ := pure_ok_inv h
    exact ⟨rfl, Nat.le_refl _, hl⟩
  | cons i l ih =>
    intro loc s loc' s' hI hl h
    have hi := hI i List.mem_cons_self
    rw [List.forIn_cons] at h
    obtain ⟨r, s1, h1, h4⟩ := bind_ok_inv h
    obtain ⟨ro, s2, h2, h3⟩ := bind_ok_inv h1
    rw [elabInstrM_eq _ _ _ hi] at h2
    obtain ⟨htop, hsz, n, rfl, hn⟩ := SC.CrO.elabInstr loc v hi s ro s2 h2
    have hl2 : ∀ m ∈ loc ++ [n], m < s2.nodes.size := by
      intro m hm
      rcases List.mem_append.1 hm with hm | hm
      · exact Nat.lt_of_lt_of_le (hl m hm) hsz
      · rw [List.mem_singleton.1 hm]; exact hn
    obtain ⟨rfl, rfl⟩ := pure_ok_inv h3
    obtain ⟨a, b, c⟩ := ih _ _ _ _ (fun j hj => hI j (List.mem_cons_of_mem _ hj)) hl2 h4
    exact ⟨a.trans htop, Nat.le_trans hsz b, c⟩

/-- a successful `elabTemplate` (of simulated instructions): `top` unchanged, the state grows, the result is a node -/
theorem SC.elabTemplate_post (env' : Env) {s s' : State} {t : Template} {v : Val} {rhs : Nat}
    (hi : ∀ i ∈ t.instrs, InstrS env sp i) (hr : OpndS t.ret) (ht : TopLt s)
    (h : (Engine.elabTemplate env' t v).run.run s = (.ok rhs, s')) :
    s'.top = s.top ∧ s.nodes.size ≤ s'.nodes.size ∧ rhs < s'.nodes.size := by
  unfold Engine.elabTemplate at h
  obtain ⟨loc, s1, h1, h2⟩ := bind_ok_inv h
  obtain ⟨a, b, c⟩ := SC.loop_post env' v t.instrs [] s loc s1 hi (fun m hm => by cases hm) h1
  have ht1 : TopLt s1 := fun k r hk => Nat.lt_of_lt_of_le (ht k r (by rw [← a]; exact hk)) b
  have hlt := SC.resolveOpnd_lt hr ht1 c h2
  obtain ⟨e, -⟩ := SC.resolveOpnd_inv hr h2
  subst e
  exact ⟨a, b, hlt⟩

end
end IncrVerif.Proofs.FullH
