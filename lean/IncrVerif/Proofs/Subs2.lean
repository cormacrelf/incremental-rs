import IncrVerif.Proofs.Subs1
/-!
# Subscriptions, part 2: node creation through the API keeps the core invariant `SubsH.QInv`

`Created` is `Quiet.Created` with the log and the token counter kept, and takes its lemmas from there; `step_create` also exports the
frame `KFrame` (observers, `nextToken`, log, `handleAfterStab`, per-node observer list/handler count/flag/value kept).
-/
namespace IncrVerif.Proofs.SubsH
open IncrVerif.Engine IncrVerif.Driver IncrVerif.Proofs IncrVerif.Proofs.Step IncrVerif.Proofs.Sched IncrVerif.Proofs.Quiet

/-- `s1` is `s` plus one fresh top-level node of kind `k` (and, for a `var`, its cell); `tp`: the naming table after -/
structure Created (k : Kind) (s s1 : State) (tp : Array Nat) : Prop where
  nodes : s1.nodes = s.nodes.push (newNode k)
  vars : ((∀ c, k ≠ .var c) ∧ s1.vars = s.vars) ∨
    ∃ v, k = .var s.vars.size ∧
      s1.vars = s.vars.push { value := v, setAt := s.stabNum, node := s.nodes.size }
  rch : s1.rch = s.rch
  pc : s1.panicCountdown = s.panicCountdown
  scope : s1.currentScope = s.currentScope
  stabNum : s1.stabNum = s.stabNum
  status : s1.status = s.status
  alive : s1.alive = s.alive
  setDuringStab : s1.setDuringStab = s.setDuringStab
  deadVars : s1.deadVars = s.deadVars
  handleAfterStab : s1.handleAfterStab = s.handleAfterStab
  pinv : s1.propagateInvalidity = s.propagateInvalidity
  observers : s1.observers = s.observers
  newObservers : s1.newObservers = s.newObservers
  disallowedObservers : s1.disallowedObservers = s.disallowedObservers
  top : s1.top = tp
  log : s1.log = s.log
  nextToken : s1.nextToken = s.nextToken

namespace Created
variable {env : Env} {k : Kind} {s s1 : State} {tp : Array Nat}

theorem toQ (C : Created k s s1 tp) : Quiet.Created k s s1 tp :=
  ⟨C.nodes, C.vars, C.rch, C.pc, C.scope, C.stabNum, C.status, C.alive, C.setDuringStab, C.deadVars, C.handleAfterStab, C.pinv, C.observers,
    C.newObservers, C.disallowedObservers, C.top⟩

theorem obsOK (C : Created k s s1 tp) (O : ObsOK s) : ObsOK s1 := by
  have C' := C.toQ
  unfold ObsOK at O ⊢
  rw [C.newObservers, C.disallowedObservers]
  refine ⟨?_, ?_, ?_, ?_, ?_, ?_, O.disNodup⟩
  · intro o ob h
    rw [C.observers] at h
    have := O.inRange o ob h
    rw [C'.size]; omega
  · intro n o
    rw [C.observers]
    by_cases e : n = s.nodes.size
    · rw [e, C'.nodeD_new]
      constructor
      · intro h; cases h
      · rintro ⟨ob, h1, h2, -⟩
        have := O.inRange o ob h1
        omega
    · rw [C'.nodeD_old e]; exact O.mem n o
  · rw [C.observers]; exact O.created
  · rw [C.observers]; exact O.newIn
  · rw [C.observers]; exact O.dis
  · rw [C.observers]; exact O.disIn

/-- **creation, pure part.** -/
theorem qinv (C : Created k s s1 (s.top.push s.nodes.size)) (Q : QInv env s) (hk : StaticKind env k)
    (hkids : ∀ c, c ∈ kids k → c < s.nodes.size) : QInv env s1 :=
  have C' := C.toQ
  { struct := C'.struct Q.struct Q.vars hk hkids
    vars := C'.varsOK Q.vars
    obs := C.obsOK Q.obs
    now := by rw [C.stabNum]; exact Q.now
    stamps := fun m => by
      rw [C.stabNum]
      by_cases e : m = s.nodes.size
      · rw [e, C'.nodeD_new]
        have := Q.now
        exact ⟨show (-1 : Int) < _ by omega, show (-1 : Int) < _ by omega⟩
      · rw [C'.nodeD_old e]; exact Q.stamps m
    varStamp := fun c vc h => by
      rw [C.stabNum]
      rcases C.vars with ⟨-, e⟩ | ⟨v, -, ev⟩
      · rw [e] at h; exact Q.varStamp c vc h
      · rw [ev, Array.getElem?_push] at h
        split at h
        · injection h with h
          rw [← h]; exact Int.le_refl _
        · exact Q.varStamp c vc h
    cons := fun m hm hs => by
      rw [C'.size] at hm
      by_cases e : m = s.nodes.size
      · rw [e, C'.stale_new Q.now hk] at hs; cases hs
      · have hlt : m < s.nodes.size := by omega
        rw [C'.staleOf_old Q.struct Q.vars hlt] at hs
        exact C'.consistent_old Q.struct hlt (Q.cons m hlt hs)
    status := by rw [C.status]; exact Q.status
    alive := by rw [C.alive]; exact Q.alive
    setDuringStab := by rw [C.setDuringStab]; exact Q.setDuringStab
    deadVars := by rw [C.deadVars]; exact Q.deadVars
    pinv := by rw [C.pinv]; exact Q.pinv
    top := fun kk n h => by
      rw [C.top, Array.getElem?_push] at h
      rw [C'.size]
      split at h
      · injection h with h; omega
      · have := Q.top kk n h; omega }

end Created

/-- **creation.** A successful `create` action with a static instruction keeps the invariant. -/
theorem step_create {env : Env} {s s' : State} {i : Instr} {tokens : Array Nat} {r : String × Array Nat}
    (Q : QInv env s) (hi : StaticInstr env i)
    (h : (stepAction env (.create i) tokens).run.run s = (.ok r, s')) :
    QInv env s' ∧ r.2 = tokens ∧ KFrame s s' := by
  obtain ⟨er, ⟨k, cut, hk, hkids, hcut, C, hl, hn⟩ | ⟨n, c, m, ei, -⟩⟩ :=
    CutH.create_static Q.struct.static.scope Q.top hi.toC h
  · cases hcut hi.exact
    have C' : Created k s s' (s.top.push s.nodes.size) :=
      ⟨C.nodes, C.vars, C.rch, C.pc, C.scope, C.stabNum, C.status, C.alive, C.setDuringStab, C.deadVars, C.handleAfterStab, C.pinv,
        C.observers, C.newObservers, C.disallowedObservers, C.top, hl, hn⟩
    refine ⟨C'.qinv Q hk hkids, er, C'.observers, C'.nextToken, C'.stabNum, C'.handleAfterStab, C'.log, fun m => ?_⟩
    by_cases e : m = s.nodes.size
    · rw [e, C.nodeD_new, nodeD_default s _ (Nat.le_refl _)]; rfl
    · rw [C.nodeD_old e]
  · rw [ei] at hi; exact hi.elim

end IncrVerif.Proofs.SubsH
