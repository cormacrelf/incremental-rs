import IncrVerif.Proofs.NestH115
import IncrVerif.Proofs.NestH122
import IncrVerif.Spec.Props
/-!
# Nested binds (F2), part 7d: the program text of a history (`progOf`); frames for `ProgOK`; the exact image of a top-level creation instruction

* `progStep`/`progOf`: what `Spec.Shadow.step` does to the `prog` component (`shadow_step_prog`, `NestH123`), as a pure function of the history;
* `N7.topImg_ext`: `TopImg` moves to a state whose naming table extends the old one and which keeps the kinds of the old nodes and the closures/left-hand sides of
  the old bind records (`N7k.BKey`);
* `StaticImg` and the inversions for `N7.elab_static_img` (`NestH117`): the closed form of the elaboration of a static top-level instruction, with the EXACT kind of the new node
  (BindH84 `C2c.elab_static1` only says that the kind is static and that its children are named).
-/
namespace IncrVerif.Proofs.NestH
open IncrVerif.Engine IncrVerif.Driver IncrVerif.Proofs IncrVerif.Proofs.Step IncrVerif.Proofs.Sched IncrVerif.Proofs.Quiet
open IncrVerif.Proofs.BindH
open IncrVerif.Spec

/-! ## the program text of a history -/

/-- what `Shadow.step` does to the program text when the implementation answers `ok …` -/
def progStep (p : RefProg) : Action → RefProg
  | .create i =>
    match i with
    | .cutoff _ _ => p
    | .var v => { p with nodes := p.nodes.push (.var v), varOf := (p.nodes.size, p.vars.size) :: p.varOf, vars := p.vars.push v }
    | i => { p with nodes := p.nodes.push i }
  | .set v x => { p with vars := p.vars.modify v fun _ => x }
  | .modify v d => { p with vars := p.vars.modify v fun x => addInt7 x d }
  | .update v d => { p with vars := p.vars.modify v fun x => addInt7 x d }
  | .replaceWith v d => { p with vars := p.vars.modify v fun x => addInt7 x d }
  | .replace v x => { p with vars := p.vars.modify v fun _ => x }
  | _ => p

/-- the empty program -/
def progInit (env : Env) (po : Nat → Bool) : RefProg := { env := env, pureOld := po }

/-- **the program text of a history**: its creation instructions in order, the current values of its variables -/
def progOf (env : Env) (po : Nat → Bool) (acts : List Action) : RefProg := acts.foldl progStep (progInit env po)

theorem progOf_append (env : Env) (po : Nat → Bool) (as bs : List Action) :
    progOf env po (as ++ bs) = bs.foldl progStep (progOf env po as) := by
  unfold progOf; rw [List.foldl_append]

theorem progStep_env (p : RefProg) (a : Action) : (progStep p a).env = p.env := by
  cases a <;> try rfl
  rename_i i; cases i <;> rfl

namespace N7
open IncrVerif.Proofs.BindH.C3d IncrVerif.Proofs.NestH.N5d IncrVerif.Proofs.NestH.N7k

/-! ## frames -/

theorem kindOfInstr_ext {s s' : State} (htop : ∀ (k n : Nat), s.top[k]? = some n → s'.top[k]? = some n) (i : Instr)
    (k : Kind) (h : kindOfInstr s [] .unit i = some k) : kindOfInstr s' [] .unit i = some k := by
  cases i <;> simp only [kindOfInstr] at h ⊢ <;> try (first | exact h | cases h)
  · rename_i g args
    cases h1 : resolveAll s [] args with
    | none => rw [h1] at h; cases h
    | some ns => rw [h1] at h; rw [C3g.resolveAll_mono htop [] args ns h1]; exact h
  · rename_i g init cs
    cases h1 : resolveAll s [] cs with
    | none => rw [h1] at h; cases h
    | some ns => rw [h1] at h; rw [C3g.resolveAll_mono htop [] cs ns h1]; exact h

/-- **frame for `TopImg`** -/
theorem topImg_ext {p p' : RefProg} {s s' : State} {j : Nat}
    (htop : ∀ (k n : Nat), s.top[k]? = some n → s'.top[k]? = some n)
    (hin : ∀ (k n : Nat), s.top[k]? = some n → n < s.nodes.size) (K : BKey s s')
    (hvo : p'.varOf.lookup j = p.varOf.lookup j) (henv : p'.env = p.env) {i : Instr} {n : Nat} (hn : n < s.nodes.size)
    (h : TopImg p s j i n) : TopImg p' s' j i n := by
  have hk := K.kind n hn
  cases i <;> simp only [TopImg] at h ⊢ <;> try exact ⟨h.1, by rw [hk]; exact kindOfInstr_ext htop _ _ h.2⟩
  · obtain ⟨c, h1, h2⟩ := h
    exact ⟨c, by rw [hk]; exact h1, by rw [hvo]; exact h2⟩
  · obtain ⟨k, b, lc, br, h1, h2, h3, h4, h5, g, h6⟩ := h
    obtain ⟨br', k1, k2, k3⟩ := K.binds b br h3
    exact ⟨k, b, lc, br', h1, by rw [hk]; exact h2, k1, k2.trans h4, by rw [k3]; exact htop _ _ h5, g, by rw [henv]; exact h6⟩
  · obtain ⟨ka, kb, na, nb, h1, h2, h3, h4, h5, h6, h7⟩ := h
    refine ⟨ka, kb, na, nb, h1, h2, h3, h4, htop _ _ h5, htop _ _ h6, ?_⟩
    rw [hk, K.kind na (hin _ _ h5), K.kind nb (hin _ _ h6)]
    exact h7

/-- **frame for `ProgOK`**: the naming table, the kinds of the old nodes, the closures and left-hand sides of the old bind records and the values of the variables are
unchanged -/
theorem progOK_frame {p : RefProg} {env : Env} {s s' : State} (P : ProgOK p env s)
    (hin : ∀ (k n : Nat), s.top[k]? = some n → n < s.nodes.size) (ht : s'.top = s.top) (K : BKey s s')
    (hv : ∀ c : Nat, (s'.vars[c]?).map VarCell.value = (s.vars[c]?).map VarCell.value) : ProgOK p env s' := by
  refine ⟨P.env, by rw [ht]; exact P.size, fun c => by rw [hv c]; exact P.vars c, ?_⟩
  intro j i n hi hn
  rw [ht] at hn
  exact topImg_ext (fun k n h => by rw [ht]; exact h) hin K rfl rfl (hin j n hn) (P.img j i n hi hn)

theorem vars_size {p : RefProg} {env : Env} {s : State} (P : ProgOK p env s) : p.vars.size = s.vars.size := by
  by_cases h1 : p.vars.size < s.vars.size
  · have := P.vars p.vars.size
    rw [Array.getElem?_eq_none (Nat.le_refl _), Array.getElem?_eq_getElem h1] at this
    cases this
  · by_cases h2 : s.vars.size < p.vars.size
    · have := P.vars s.vars.size
      rw [Array.getElem?_eq_none (Nat.le_refl _), Array.getElem?_eq_getElem h2] at this
      cases this
    · omega

/-! ## the exact image of a static top-level instruction -/

/-- kind `k` is the image of the static instruction `i` in state `s` -/
def StaticImg (s : State) (i : Instr) (k : Kind) : Prop :=
  match i with
  | .var _ => k = .var s.vars.size
  | .zip a b => ∃ ka kb na nb, a = .outer ka ∧ b = .outer kb ∧ s.top[ka]? = some na ∧ s.top[kb]? = some nb ∧
      (k = .map fnZip [na, nb] ∨
        ∃ va vb, (s.nodeD na).kind = .const va ∧ (s.nodeD nb).kind = .const vb ∧ k = .const (.pair va vb))
  | i => kindOfInstr s [] .unit i = some k

theorem resolveOpnd_outer_run {s s1 : State} {k n : Nat} (h : (resolveOpnd [] (.outer k)).run.run s = (.ok n, s1)) :
    s1 = s ∧ s.top[k]? = some n := by
  unfold resolveOpnd at h
  simp only at h
  rw [run_bind_get] at h
  cases hm : s.top[k]? with
  | some m =>
    rw [hm] at h
    obtain ⟨e1, e2⟩ := pure_ok_inv h
    rw [e1]; exact ⟨e2, rfl⟩
  | none => rw [hm] at h; cases h

theorem mapM_resolve_exact {s : State} :
    ∀ (l : List Opnd) (r : List Nat) (s1 : State), (∀ a, a ∈ l → Quiet.OpndOK a) →
      (l.mapM (fun o => resolveOpnd [] o)).run.run s = (.ok r, s1) → s1 = s ∧ resolveAll s [] l = some r := by
  intro l
  induction l with
  | nil =>
    intro r s1 _ h
    rw [List.mapM_nil] at h
    obtain ⟨e1, e2⟩ := pure_ok_inv h
    rw [e1]; exact ⟨e2, rfl⟩
  | cons a l ih =>
    intro r s1 hl h
    rw [List.mapM_cons] at h
    obtain ⟨b, t, h1, h2⟩ := bind_ok_inv h
    have ha := hl a (List.mem_cons_self ..)
    cases a with
    | outer k =>
      obtain ⟨et, hk⟩ := resolveOpnd_outer_run h1
      rw [et] at h2
      obtain ⟨bs, t2, h3, h4⟩ := bind_ok_inv h2
      obtain ⟨et2, hbs⟩ := ih bs t2 (fun x hx => hl x (List.mem_cons_of_mem _ hx)) h3
      obtain ⟨e1, e2⟩ := pure_ok_inv h4
      rw [e1, e2]
      refine ⟨et2, ?_⟩
      simp only [resolveAll, resolveP, hk, hbs]
    | loc _ => exact ha.elim
    | abs _ => exact ha.elim
    | slot _ => exact ha.elim

theorem isConstant_run {a : Nat} {s s1 : State} {r : Option Val} (h : (isConstant a).run.run s = (.ok r, s1)) :
    s1 = s ∧ ∀ v, r = some v → (s.nodeD a).kind = .const v := by
  refine ⟨isConstant_ok_inv h, ?_⟩
  unfold isConstant at h
  obtain ⟨nd, hnd, h⟩ := bind_getNode_inv h
  intro v hv
  have hnd' : s.nodeD a = nd := by
    simp only [State.nodeD, hnd, Option.getD_some]
  rw [hnd']
  unfold Node.kind? at h
  split at h
  · rename_i w hw
    obtain ⟨e1, -⟩ := pure_ok_inv h
    rw [hv] at e1
    injection e1 with e1
    split at hw
    · injection hw with hw; rw [hw, e1]
    · cases hw
  · obtain ⟨e1, -⟩ := pure_ok_inv h
    rw [hv] at e1; cases e1

end N7
end IncrVerif.Proofs.NestH
