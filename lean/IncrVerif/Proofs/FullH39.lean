import IncrVerif.Proofs.FullH22
import IncrVerif.Proofs.FullH37
import IncrVerif.Proofs.Footprint
/-!
# C01 full fragment: the ghost invariants through `unlink_disallowed_observers`

The frames `MapRefH.UF`, `MapRefH.SH` and `MapRefH.unlinkDisallowedObservers_sh` hold for EVERY state of the engine and are reused
as they are.  `OS`: the machine states and the bind records are untouched, which holds of every primitive write other than the store of a
`map_with_old` node and the writes of bind records (`OS.of_edit`); and the consequences for the invariants of the full fragment.
-/
namespace IncrVerif.Proofs.FullH
open IncrVerif.Engine IncrVerif.Proofs IncrVerif.Proofs.Step IncrVerif.Proofs.Sched IncrVerif.Proofs.Quiet
open IncrVerif.Proofs.MapRefH IncrVerif.Proofs.Footprint

/-! ## `OS`: the machine states (`oldState`) and the bind records are untouched -/

structure OS (s s' : State) : Prop where
  old : ∀ m, (s'.nodeD m).oldState = (s.nodeD m).oldState
  binds : s'.binds = s.binds

instance : Step.PreOrd OS :=
  ⟨fun _ => ⟨fun _ => rfl, rfl⟩, fun h1 h2 => ⟨fun m => (h2.old m).trans (h1.old m), h2.binds.trans h1.binds⟩⟩

theorem OS.of_nodes {s s' : State} (h1 : s'.nodes = s.nodes) (h2 : s'.binds = s.binds) : OS s s' := by
  refine ⟨fun m => ?_, h2⟩
  have : s'.nodeD m = s.nodeD m := by simp [State.nodeD, h1]
  rw [this]

theorem OS.modNode (s : State) (n : Nat) (f : Node → Node) (hf : ∀ x, (f x).oldState = x.oldState) :
    OS s { s with nodes := s.nodes.modify n f } := by
  refine ⟨fun m => ?_, rfl⟩
  rw [nodeD_modify]; split
  · exact hf _
  · rfl

/-- the only write of an `oldState` is the store of a `map_with_old` node; a pushed node has the default `oldState` -/
theorem OS.of_edit {L w} (hL : ∀ t ∈ L, t ∉ [Tag.vStoreOld, .bCreated, .bRegister, .bNodes, .bRhs, .pushBind]) {s s' : State}
    (e : Edit L w s s') : OS s s' := by
  cases e
  case node n f hf => exact OS.modNode s n f fun x => by cases hf <;> rfl
  case value n hn f hf => exact OS.modNode s n f fun x => by cases hf <;> first | rfl | exact absurd (hL _ ‹_›) (by decide)
  case stamp n _ | erase n _ => exact OS.modNode s n _ fun _ => rfl
  case pushNode k sc c _ =>
    refine ⟨fun m => ?_, rfl⟩
    simp only [State.nodeD, Array.getElem?_push]
    split
    · rw [Array.getElem?_eq_none (by omega)]; rfl
    · rfl
  case bind b f hf => cases hf <;> exact absurd (hL _ ‹_›) (by decide)
  case pushBind => exact absurd (hL _ ‹_›) (by decide)
  all_goals exact OS.of_nodes rfl rfl

theorem PresOS.setHeight (n h) : Step.Pres OS (Engine.setHeight n h) := (Foot.setHeight n h).frame (OS.of_edit (by decide))
theorem PresOS.handleAfterStabilisation (n) : Step.Pres OS (Engine.handleAfterStabilisation n) :=
  (Foot.handleAfterStabilisation n).frame (OS.of_edit (by decide))
theorem PresOS.removeParent (c i p) : Step.Pres OS (Engine.removeParent c i p) :=
  (Foot.removeParent c i p).frame (OS.of_edit (by decide))

theorem PresOS.unlink (fuel : Nat) :
    (∀ n, Step.Pres OS (becameUnnecessary fuel n)) ∧
    (∀ n, Step.Pres OS (checkIfUnnecessary fuel n)) ∧
    (∀ n, Step.Pres OS (removeChildren fuel n)) :=
  ⟨fun n => (Foot.becameUnnecessary fuel n).frame (OS.of_edit (by decide)),
   fun n => (Foot.checkIfUnnecessary fuel n).frame (OS.of_edit (by decide)),
   fun n => (Foot.removeChildren fuel n).frame (OS.of_edit (by decide))⟩

theorem PresOS.checkIfUnnecessary (fuel n) : Step.Pres OS (Engine.checkIfUnnecessary fuel n) :=
  (PresOS.unlink fuel).2.1 n
theorem PresOS.becameUnnecessary (fuel n) : Step.Pres OS (Engine.becameUnnecessary fuel n) :=
  (PresOS.unlink fuel).1 n
theorem PresOS.removeChildren (fuel n) : Step.Pres OS (Engine.removeChildren fuel n) :=
  (PresOS.unlink fuel).2.2 n

/-- every run of `unlink_disallowed_observers` (also a panicking one) leaves the machine states alone -/
theorem PresOS.unlinkDisallowedObservers (fuel) : Step.Pres OS (Engine.unlinkDisallowedObservers fuel) :=
  (Foot.unlinkDisallowedObservers fuel).frame (OS.of_edit (by decide))

/-! ## the frame of `unlink_disallowed_observers` -/

/-- the frame of the unlinking phase: kinds, validity, cutoffs, stored values, stamps (`VFrame`), `didChange` flags, `forceNecessary`
and `propagateInvalidity` unchanged, parent and observer lists only shrink (`MapRefH.SH`); machine states unchanged (`OS`) -/
structure UFr (s s' : State) : Prop where
  sh : SH s s'
  os : OS s s'

theorem UFr.nec {s s' : State} (h : UFr s s') {m : Nat} (hm : s'.isNecessary m = true) : s.isNecessary m = true :=
  h.sh.nec hm

/-- necessity shrinks, everything else the invariant reads is constant: the invariant is inherited -/
theorem KInv.of_sh {env : Env} {g : Nat → Option Val} {s s' : State} (K : KInv env g s) (h : SH s s') :
    KInv env g s' := by
  intro m p i hv hm hk hd
  rw [h.vf.valid] at hv; rw [h.vf.kind] at hk; rw [h.flag] at hd; rw [h.vf.value_eq]
  exact K m p i hv (h.nec hm) hk hd

theorem unlinkDisallowedObservers_ufr {fuel : Nat} {s s' : State}
    (h : (unlinkDisallowedObservers fuel).run.run s = (.ok (), s')) : UFr s s' :=
  ⟨unlinkDisallowedObservers_sh h, (PresOS.unlinkDisallowedObservers fuel).h _ _ _ h⟩

/-- every run of `check_if_unnecessary` -/
theorem checkIfUnnecessary_ufr {fuel n : Nat} {s s' : State} {r : Except Panic Unit}
    (h : (Engine.checkIfUnnecessary fuel n).run.run s = (r, s')) : UFr s s' :=
  ⟨checkIfUnnecessary_sh h, (PresOS.checkIfUnnecessary fuel n).h _ _ _ h⟩

/-- **(5a)** the unlinking cascade (every run, also a panicking one) -/
theorem checkIfUnnecessary_keepsK {env : Env} {g : Nat → Option Val} {fuel n : Nat} {s s' : State}
    {r : Except Panic Unit} (K : KInv env g s) (h : (Engine.checkIfUnnecessary fuel n).run.run s = (r, s')) :
    KInv env g s' ∧ UFr s s' :=
  ⟨K.of_sh (checkIfUnnecessary_sh h), checkIfUnnecessary_ufr h⟩

/-- **(5b)** `unlink_disallowed_observers` -/
theorem unlinkDisallowedObservers_keepsK {env : Env} {g : Nat → Option Val} {fuel : Nat} {s s' : State}
    (K : KInv env g s) (h : (unlinkDisallowedObservers fuel).run.run s = (.ok (), s')) :
    KInv env g s' ∧ UFr s s' :=
  ⟨K.of_sh (unlinkDisallowedObservers_sh h), unlinkDisallowedObservers_ufr h⟩

/-! ## `MInv`, `GSome`, `Inherit` through the two phases -/

/-- kinds, validity, stored values and machine states unchanged: the machine invariant is inherited -/
theorem MInv.of_frame {env : Env} {s s' : State} (M : MInv env s) (v : VFrame s s') (o : OS s s') : MInv env s' := by
  intro n m i hv hk
  rw [v.valid] at hv; rw [v.kind] at hk
  rw [o.old n, v.value]
  exact M n m i hv hk

/-- kinds and validity unchanged, flags only raised: `GSome` is inherited -/
theorem GSome.of_frame {g : Nat → Option Val} {s s' : State} (G : GSome g s) (v : VFrame s s') (fm : FM s s') :
    GSome g s' := by
  intro m p i hv hk hd
  rw [v.valid] at hv; rw [v.kind] at hk
  refine G m p i hv hk ?_
  cases hd0 : (s.nodeD m).didChange with
  | false => rfl
  | true => rw [fm m hd0] at hd; cases hd

theorem UFr.mInv {env : Env} {s s' : State} (h : UFr s s') (M : MInv env s) : MInv env s' := M.of_frame h.sh.vf h.os
theorem UFr.gSome {g : Nat → Option Val} {s s' : State} (h : UFr s s') (G : GSome g s) : GSome g s' :=
  G.of_frame h.sh.vf h.sh.fm
theorem UFr.inherit {env : Env} {g : Nat → Option Val} {s s' : State} (h : UFr s s') (T : Inherit env g s) :
    Inherit env g s' := T.of_vframe h.sh.vf
theorem UFr.pinv {s s' : State} (h : UFr s s') : s'.propagateInvalidity = s.propagateInvalidity := h.sh.pinv
theorem UFr.ck {rk : Nat → Nat} {s s' : State} (h : UFr s s') (F : CK rk s) : CK rk s' := F.of_vframe h.sh.vf h.os.binds

theorem unlinkDisallowedObservers_mInv {env : Env} {fuel : Nat} {s s' : State} (M : MInv env s)
    (h : (unlinkDisallowedObservers fuel).run.run s = (.ok (), s')) : MInv env s' :=
  (unlinkDisallowedObservers_ufr h).mInv M

theorem unlinkDisallowedObservers_gSome {g : Nat → Option Val} {fuel : Nat} {s s' : State} (G : GSome g s)
    (h : (unlinkDisallowedObservers fuel).run.run s = (.ok (), s')) : GSome g s' :=
  (unlinkDisallowedObservers_ufr h).gSome G

/-! ### `add_new_observers`: the machine states from `VM` of the simulation -/

/-- `add_new_observers` leaves the machine states alone (from the simulation) -/
theorem addNewObservers_os {K : Kind → Prop} {env : Env} {sp : Nat → Val → Val} {g : Nat → Option Val} {fuel : Nat}
    {s s' : State} (hf : Fr K g s) (a : AF s s') (h : (addNewObservers env fuel).run.run s = (.ok (), s')) :
    OS s s' := by
  obtain ⟨g', -, -, R⟩ := SimX.addNewObservers (K := K) (sp := sp) env fuel g s hf () s' h
  refine ⟨fun m => ?_, a.binds⟩
  by_cases hm : m < s.nodes.size
  · exact (R.vm.kind m hm).2.2
  · rw [nodeD_default_of_ge s m (by omega), nodeD_default_of_ge s' m (by rw [a.vf.size]; omega)]

theorem addNewObservers_mInv {env : Env} {sp : Nat → Val → Val} {g : Nat → Option Val} {rk : Nat → Nat} {fuel : Nat}
    {s s' : State} (C : CFrag env sp g rk s) (T : Inherit env g s) (hp : s.propagateInvalidity = [])
    (K : KInv env g s) (M : MInv env s) (h : (addNewObservers env fuel).run.run s = (.ok (), s')) : MInv env s' := by
  obtain ⟨-, -, a⟩ := addNewObservers_keepsK' C.toCK T hp K h
  exact M.of_frame a.vf (addNewObservers_os (sp := sp) C.frag.fr a h)

theorem addNewObservers_gSome {env : Env} {sp : Nat → Val → Val} {g : Nat → Option Val} {rk : Nat → Nat} {fuel : Nat}
    {s s' : State} (C : CFrag env sp g rk s) (T : Inherit env g s) (hp : s.propagateInvalidity = [])
    (K : KInv env g s) (G : GSome g s) (h : (addNewObservers env fuel).run.run s = (.ok (), s')) : GSome g s' := by
  obtain ⟨-, -, fm, v⟩ := addNewObservers_keepsK C T hp K h
  exact G.of_frame v fm

end IncrVerif.Proofs.FullH
