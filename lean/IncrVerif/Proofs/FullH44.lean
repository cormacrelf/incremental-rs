import IncrVerif.Proofs.FullH43
import IncrVerif.Proofs.FullH14
/-!
# C01 full fragment: the global hypothesis on the environment (`EnvS`, `FullH14`) gives the template condition of `recomputeOne_simX`
-/
namespace IncrVerif.Proofs.FullH
open IncrVerif.Engine IncrVerif.Proofs IncrVerif.Proofs.Step IncrVerif.Proofs.Sched IncrVerif.Proofs.Quiet

theorem ST.opndS_of_raw {o : Opnd} (h : match o with | .outer _ => True | .loc _ => True | _ => False) : OpndS o := by
  cases o <;> first | trivial | exact h.elim

theorem ST.templS_of_envS {env : Env} {sp : Nat → Val → Val} (h : EnvS env sp) (b : Nat) (v : Val) :
    ST.TemplS env sp (env.body b v) := by
  obtain ⟨hi, hr⟩ := h b v
  refine ⟨fun i hm => ?_, ST.opndS_of_raw hr⟩
  obtain ⟨h1, h2⟩ := hi i hm
  cases i <;> first
    | exact h1.elim
    | exact ⟨h1, fun o ho => ST.opndS_of_raw (h2 o ho)⟩
    | exact ⟨trivial, fun o ho => ST.opndS_of_raw (h2 o ho)⟩

end IncrVerif.Proofs.FullH
