import IncrVerif.Proofs.MapRef13
import IncrVerif.Proofs.Virtual
/-!
# map_ref fragment, part 7: one `recomputeOne` — a map_ref node

No simulation here (the actual node fires iff its `didChange` flag is up, the virtual node iff its ghost value
differs from the new projection): the step relation `Sched.StepRel` of the virtual states is assembled from the
actual run, with the new ghost value `g' n = some (proj p (value of the input))`.
-/
namespace IncrVerif.Proofs.MapRefH
open IncrVerif.Engine IncrVerif.Proofs IncrVerif.Proofs.Step IncrVerif.Proofs.Sched IncrVerif.Proofs.Quiet

/-- `g` with the ghost value of `n` replaced -/
def upd1 (g : Nat → Option Val) (n : Nat) (x : Option Val) : Nat → Option Val := fun m => if m = n then x else g m

theorem upd1_self (g : Nat → Option Val) (n : Nat) (x : Option Val) : upd1 g n x n = x := by simp [upd1]
theorem upd1_other (g : Nat → Option Val) (n : Nat) (x : Option Val) {m : Nat} (h : m ≠ n) : upd1 g n x m = g m := by
  simp [upd1, h]

/-- `State.value` does not read the stored value of a (valid) map_ref node -/
theorem value_congr_mr (env : Env) (s s' : State) (hsz : s'.nodes.size = s.nodes.size)
    (h : ∀ m, (s'.nodeD m).kind = (s.nodeD m).kind ∧ (s'.nodeD m).valid = (s.nodeD m).valid ∧
      ((s'.nodeD m).value = (s.nodeD m).value ∨ (IsMapRef (s.nodeD m).kind ∧ (s.nodeD m).valid = true)))
    (n : Nat) : s'.value env n = s.value env n := by
  simp only [State.value, hsz]
  generalize s.nodes.size + 1 = fuel
  induction fuel generalizing n with
  | zero => rfl
  | succ f ih =>
    rw [valueWith_succ', valueWith_succ']
    have hrec : (s'.valueWith env.proj f) = (s.valueWith env.proj f) := funext ih
    rw [hrec]
    obtain ⟨hk, hv, hval⟩ := h n
    simp only [valueCore, hk, hv]
    rcases hval with hval | ⟨hmr, hvt⟩
    · rw [hval]
    · obtain ⟨p, i, hkk⟩ := isMapRef_iff.1 hmr
      rw [hkk, hvt]; rfl

theorem cleared_nodeD (n m : Nat) (s : State) :
    (cleared n s).nodeD m =
      if n = m ∧ m < s.nodes.size then { s.nodeD m with value := none, didChange := false } else s.nodeD m :=
  nodeD_modify s n m _

/-- the node fields of the state in which the notifications of a map_ref step start -/
theorem cleared_started_nodeD (n m : Nat) (s : State) (hn : n < s.nodes.size) :
    (cleared n (started n s)).nodeD m =
      if m = n then { s.nodeD n with recomputedAt := s.stabNum, value := none, didChange := false } else s.nodeD m := by
  rw [cleared_nodeD, started_nodeD]
  have hsz : (started n s).nodes.size = s.nodes.size := by simp [started]
  by_cases hm : m = n
  · subst hm; rw [if_pos ⟨rfl, by rw [hsz]; exact hn⟩, if_pos ⟨rfl, hn⟩, if_pos rfl]
  · rw [if_neg (fun h => hm h.1.symm), if_neg (fun h => hm h.1.symm), if_neg hm]

section
variable {env : Env} {g : Nat → Option Val} {s : State}

/-- the `didChange` invariant after the step of the map_ref node `n`, for any state that agrees with the
pre-state on necessity, kinds, read values and (off `n`) lowered flags -/
theorem kInv_after_mapRef {n : Nat} {v : Val} {Y : State} (K : KInv env g s)
    (hvn : s.value env n = some v)
    (hnec : ∀ m, Y.isNecessary m = s.isNecessary m) (hkind : ∀ m, (Y.nodeD m).kind = (s.nodeD m).kind)
    (hflag : ∀ m, m ≠ n → (Y.nodeD m).didChange = false → (s.nodeD m).didChange = false)
    (hval : ∀ m, Y.value env m = s.value env m) : KInv env (upd1 g n (some v)) Y := by
  intro m p i hm hk hd
  rw [hval]
  by_cases hmn : m = n
  · subst hmn; rw [upd1_self, hvn]
  · rw [upd1_other _ _ _ hmn]
    exact K m p i (by rw [← hnec]; exact hm) (by rw [← hkind]; exact hk) (hflag m hmn hd)


/-- the facts of the map_ref step that do not depend on whether the node fires -/
structure MRSetup (env : Env) (g : Nat → Option Val) (s : State) (n p i : Nat) (vi : Val) : Prop where
  frag : RFrag env s
  inv : Inv (virtEnv env) (virt g s) (some n)
  lt : n < s.nodes.size
  kind : (s.nodeD n).kind = .mapRef p i
  nec : s.isNecessary n = true
  hvi : s.value env i = some vi
  htvi : tv g s i = some vi

theorem MRSetup.value (S : MRSetup env g s n p i vi) : s.value env n = some (env.proj p vi) := by
  rw [value_mapRef S.frag S.kind, S.hvi]; rfl

theorem MRSetup.target (S : MRSetup env g s n p i vi) : Target (virtEnv env) (virt g s) n (env.proj p vi) := by
  unfold Target
  have hkv : ((virt g s).nodeD n).kind = .map (projBase + p) [i] := by
    rw [virt_nodeD, virtNode_kind, S.kind]; rfl
  rw [hkv]
  refine ⟨[vi], ?_, by rw [virtEnv_fn_proj]; rfl⟩
  rw [virt_plainVals]
  simp only [evalArgs, S.htvi]

/-- the virtual image of the state in which the notifications start -/
theorem MRSetup.upd (S : MRSetup env g s n p i vi) :
    Upd n (virt g s) (virt (upd1 g n (some (env.proj p vi))) (cleared n (started n s))) := by
  have hX := fun m => cleared_started_nodeD n m s S.lt
  refine ⟨by simp [virt_size, cleared, started], rfl, rfl, S.frag.pc, rfl, fun m hm => ?_, ?_, ?_⟩
  · rw [virt_nodeD, virt_nodeD, hX, if_neg hm, upd1_other _ _ _ hm]
  · rw [virt_nodeD, virt_nodeD, hX, if_pos rfl]
    refine ⟨?_, ?_, ?_, ?_, ?_, ?_, ?_, ?_⟩ <;>
      simp only [virtNode_kind, virtNode_createdIn, virtNode_valid, virtNode_cutoff, virtNode_height,
        virtNode_parents, virtNode_observers, virtNode_forceNecessary]
  · rw [virt_nodeD, virt_nodeD, hX, if_pos rfl]
    simp only [virtNode_heightInRch]


theorem MRSetup.xnode (S : MRSetup env g s n p i vi) :
    (virt (upd1 g n (some (env.proj p vi))) (cleared n (started n s))).nodeD n =
      virtNode (some (env.proj p vi))
        { s.nodeD n with recomputedAt := s.stabNum, value := none, didChange := false } := by
  rw [virt_nodeD, cleared_started_nodeD n n s S.lt, if_pos rfl, upd1_self]

/-- the flag is down: nothing happens; the virtual node keeps its value -/
theorem MRSetup.stepRel_quiet (S : MRSetup env g s n p i vi) (K : KInv env g s)
    (hd : (s.nodeD n).didChange = false) :
    StepRel n (env.proj p vi) false none (virt g s)
      (virt (upd1 g n (some (env.proj p vi))) (cleared n (started n s))) := by
  have hU := S.upd
  have hk' : ({ s.nodeD n with recomputedAt := s.stabNum, value := none, didChange := false } : Node).kind
      = .mapRef p i := S.kind
  refine Virtual.stepRel_still hU S.inv.heap ?_ ?_ ?_ ?_
  · rw [S.xnode, virtNode_value_mapRef _ _ hk']
  · rw [S.xnode, virtNode_recomputedAt]; rfl
  · rw [S.xnode, virtNode_changedAt, virt_nodeD, virtNode_changedAt]
  · show tv g s n = _
    rw [tv_mapRef S.kind, K n p i S.nec S.kind hd, S.value]

/-- the flag is up: the node fires; the notification part is simulated by the virtual engine -/
theorem MRSetup.stepRel_fire (S : MRSetup env g s n p i vi) {fuel : Nat} {s' : State} {r : Option Nat}
    (frX : Fr (cleared n (started n s)))
    (h : (maybeChangeValueManual env fuel n none true false).run.run (cleared n (started n s)) = (.ok r, s')) :
    StepRel n (env.proj p vi) true r (virt g s) (virt (upd1 g n (some (env.proj p vi))) s') ∧ Fr s' := by
  have gr := S.inv.graph
  have hi := S.inv.heap
  generalize hg' : upd1 g n (some (env.proj p vi)) = g' at *
  have hUW := S.upd
  rw [hg'] at hUW
  generalize hW : virt g' (cleared n (started n s)) = W at hUW
  obtain ⟨hsim, hfr'⟩ := St.mcvm (g := g') env fuel (fuel + 1) n none none true false (Or.inl (Nat.succ_pos _))
    (cleared n (started n s)) frX r s' h
  rw [hW] at hsim
  have eWn : W.nodeD n = virtNode (some (env.proj p vi))
      { s.nodeD n with recomputedAt := s.stabNum, value := none, didChange := false } := by
    rw [← hW, ← hg']; exact S.xnode
  have hk' : ({ s.nodeD n with recomputedAt := s.stabNum, value := none, didChange := false } : Node).kind
      = .mapRef p i := S.kind
  have hnv : (virt g s).isNecessary n = true := by rw [virt_isNecessary]; exact S.nec
  refine ⟨Virtual.stepRel_fire gr hi hnv hUW ?_ ?_ hsim, hfr'⟩
  · rw [eWn]; exact virtNode_value_mapRef _ _ hk'
  · rw [eWn, virtNode_recomputedAt]; rfl

/-- what a state after the step of the map_ref node `n` shares with the pre-state -/
structure After (n : Nat) (s Y : State) : Prop where
  size : Y.nodes.size = s.nodes.size
  kind : ∀ m, (Y.nodeD m).kind = (s.nodeD m).kind
  valid : ∀ m, (Y.nodeD m).valid = (s.nodeD m).valid
  cutoff : ∀ m, (Y.nodeD m).cutoff = (s.nodeD m).cutoff
  parents : ∀ m, (Y.nodeD m).parents = (s.nodeD m).parents
  observers : ∀ m, (Y.nodeD m).observers = (s.nodeD m).observers
  force : ∀ m, (Y.nodeD m).forceNecessary = (s.nodeD m).forceNecessary
  value : ∀ m, m ≠ n → (Y.nodeD m).value = (s.nodeD m).value
  flag : ∀ m, m ≠ n → (Y.nodeD m).didChange = false → (s.nodeD m).didChange = false
  pc : s.panicCountdown = none → Y.panicCountdown = none

theorem After.cleared (n : Nat) (s : State) (hn : n < s.nodes.size) : After n s (MapRefH.cleared n (started n s)) := by
  have hX := fun m => cleared_started_nodeD n m s hn
  refine ⟨by simp [MapRefH.cleared, started], ?_, ?_, ?_, ?_, ?_, ?_, ?_, ?_, id⟩
  · intro m; rw [hX]; split
    · rename_i e; rw [e]
    · rfl
  · intro m; rw [hX]; split
    · rename_i e; rw [e]
    · rfl
  · intro m; rw [hX]; split
    · rename_i e; rw [e]
    · rfl
  · intro m; rw [hX]; split
    · rename_i e; rw [e]
    · rfl
  · intro m; rw [hX]; split
    · rename_i e; rw [e]
    · rfl
  · intro m; rw [hX]; split
    · rename_i e; rw [e]
    · rfl
  · intro m hm; rw [hX, if_neg hm]
  · intro m hm; rw [hX, if_neg hm]; exact id

theorem After.touched {n : Nat} {s Y : State} (h : After n s Y) : After n s (Step.touched n Y) := by
  have e := fun m => touched_nodeD n m Y
  refine ⟨by rw [← h.size]; simp [Step.touched], ?_, ?_, ?_, ?_, ?_, ?_, ?_, ?_, h.pc⟩
  all_goals intro m
  · rw [e]; split <;> exact h.kind m
  · rw [e]; split <;> exact h.valid m
  · rw [e]; split <;> exact h.cutoff m
  · rw [e]; split <;> exact h.parents m
  · rw [e]; split <;> exact h.observers m
  · rw [e]; split <;> exact h.force m
  · intro hm; rw [e, if_neg (fun hh => hm hh.1.symm)]; exact h.value m hm
  · intro hm; rw [e, if_neg (fun hh => hm hh.1.symm)]; exact h.flag m hm

theorem After.quiet {n : Nat} {s Y Y' : State} (h : After n s Y) (q : Step.Quiet Y Y') (f : FM Y Y') : After n s Y' where
  size := q.size.trans h.size
  kind m := (q.node m).kind.trans (h.kind m)
  valid m := (q.node m).valid.trans (h.valid m)
  cutoff m := (q.node m).cutoff.trans (h.cutoff m)
  parents m := (q.node m).parents.trans (h.parents m)
  observers m := (q.node m).observers.trans (h.observers m)
  force m := (q.node m).forceNecessary.trans (h.force m)
  value m hm := (q.node m).value.trans (h.value m hm)
  flag m hm hd := by
    apply h.flag m hm
    cases hy : (Y.nodeD m).didChange with
    | false => rfl
    | true => rw [f m hy] at hd; cases hd
  pc hp := q.pc (h.pc hp)

theorem After.nec {n : Nat} {s Y : State} (h : After n s Y) (m : Nat) : Y.isNecessary m = s.isNecessary m := by
  simp only [State.isNecessary, Node.isNecessary, h.parents, h.observers, h.force]

theorem After.frag {env : Env} {n : Nat} {s Y : State} (h : After n s Y) (F : RFrag env s) : RFrag env Y where
  pc := h.pc F.pc
  kind m hm := by rw [h.kind]; exact F.kind m (by rw [← h.size]; exact hm)
  valid m hm := by rw [h.valid]; exact F.valid m (by rw [← h.size]; exact hm)
  back m hm := by rw [h.kind]; exact F.back m (by rw [← h.size]; exact hm)
  cut m p i hk := by rw [h.kind] at hk; rw [h.cutoff]; exact F.cut m p i hk

theorem After.value_eq {env : Env} {n p i : Nat} {s Y : State} (h : After n s Y) (F : RFrag env s)
    (hk : (s.nodeD n).kind = .mapRef p i) (m : Nat) : Y.value env m = s.value env m := by
  refine value_congr_mr env s Y h.size (fun k => ⟨h.kind k, h.valid k, ?_⟩) m
  by_cases hkn : k = n
  · subst hkn
    exact Or.inr ⟨by rw [hk]; trivial, F.valid k (F.lt_of_mapRef hk)⟩
  · exact Or.inl (h.value k hkn)

theorem stateKeyD_virt (g : Nat → Option Val) (s : State) : stateKeyD (virt g s) = stateKeyD s := rfl

theorem calm_virt {s s' : State} (g g' : Nat → Option Val) (c : Calm s s') : Calm (virt g s) (virt g' s') where
  status := c.status
  setDuringStab := c.setDuringStab
  deadVars := c.deadVars
  newObservers := c.newObservers
  disallowedObservers := c.disallowedObservers
  num m := by rw [virt_nodeD, virt_nodeD, virtNode_num, virtNode_num]; exact c.num m
  has h := c.has (fun m => by have := h m; rwa [virt_nodeD, virtNode_num] at this)

theorem keyD_virt {s s' : State} (g g' : Nat → Option Val) (c : KeyD s s') : KeyD (virt g s) (virt g' s') := by
  unfold KeyD at *; rw [stateKeyD_virt, stateKeyD_virt]; exact c

/-- **one step, a map_ref node.** -/
theorem step_mapRef_node {fuel n p i : Nat} {s' : State} {r : Option Nat} (F : RFrag env s)
    (I : Inv (virtEnv env) (virt g s) (some n)) (K : KInv env g s) (hp : s.propagateInvalidity = [])
    (hk : (s.nodeD n).kind = .mapRef p i)
    (h : (recomputeOne env fuel n).run.run s = (.ok r, s')) :
    ∃ g' v ch, Target (virtEnv env) (virt g s) n v ∧ StepRel n v ch r (virt g s) (virt g' s') ∧
      KInv env g' s' ∧ RFrag env s' ∧ s'.propagateInvalidity = [] ∧ Calm s s' ∧ KeyD s s' := by
  obtain ⟨hnv, -⟩ := I.cur n rfl
  have hn : s.isNecessary n = true := by rw [← virt_isNecessary g s]; exact hnv
  have hlt := F.lt_of_mapRef hk
  have hnn := some_of_lt hlt
  obtain ⟨htv, hsome⟩ := Inv.kids_settled F I i (by rw [hk]; simp [kidsR])
  obtain ⟨vi, hvi⟩ := Option.isSome_iff_exists.1 hsome
  have S : MRSetup env g s n p i vi := ⟨F, I, hlt, hk, hn, hvi, by rw [htv]; exact hvi⟩
  rw [recomputeOne_mapRef_run hnn (F.valid n hlt) hk] at h
  have A0 := After.cleared n s hlt
  have c0 : Calm s (cleared n (started n s)) :=
    (Calm.started n s).trans (Calm.modNode _ n _ (fun _ => rfl))
  have k0 : KeyD s (cleared n (started n s)) := rfl
  cases hd : (s.nodeD n).didChange with
  | false =>
    rw [hd, run_mcvm_false] at h
    cases h
    refine ⟨_, _, false, S.target, S.stepRel_quiet K hd, ?_, A0.frag F, hp, c0, k0⟩
    exact kInv_after_mapRef K S.value A0.nec A0.kind A0.flag (A0.value_eq F hk)
  | true =>
    rw [hd] at h
    obtain ⟨R, hfr⟩ := S.stepRel_fire ((A0.frag F).fr hp) h
    have q : Step.Quiet (touched n (cleared n (started n s))) s' := mcvm_true_quiet _ _ _ _ _ _ _ _ h
    have fm : FM (cleared n (started n s)) s' := (PresFM.maybeChangeValueManual ..).h _ _ _ h
    have fmT : FM (touched n (cleared n (started n s))) s' := by
      intro m hm
      apply fm m
      rw [touched_nodeD] at hm
      split at hm <;> exact hm
    have A1 : After n s s' := A0.touched.quiet q fmT
    refine ⟨_, _, true, S.target, R, ?_, A1.frag F, hfr.pinv,
      c0.trans ((PresC.maybeChangeValueManual ..).h _ _ _ h),
      KeyD.trans k0 ((PresK.maybeChangeValueManual ..).h _ _ _ h)⟩
    exact kInv_after_mapRef K S.value A1.nec A1.kind A1.flag (A1.value_eq F hk)

end
end IncrVerif.Proofs.MapRefH
