import IncrVerif.Proofs.PerKeyH6
/-!
# Per-key operators, kind-twins part 2: transfer of kind-agnostic statements along `Kin t t'` (one state)

`SK env t`: every kind of `t` is static for `env` (all indices; the default node is a constant).  Statements that
read `State.children`/`State.isStale` need `SK` on both sides (`children = kids` only for static kinds).
-/
namespace IncrVerif.Proofs.PerKeyH
open IncrVerif.Engine IncrVerif.Driver IncrVerif.Proofs IncrVerif.Proofs.Step IncrVerif.Proofs.Sched
open IncrVerif.Proofs.ExpertH IncrVerif.Proofs.EffH IncrVerif.Proofs.ExpertH.QR

/-- every kind of the state is static -/
def SK (env : Env) (t : State) : Prop := ∀ m, StaticKind env (t.nodeD m).kind

theorem SK.of_lt {env : Env} {t : State} (h : ∀ m, m < t.nodes.size → StaticKind env (t.nodeD m).kind) : SK env t := by
  intro m
  by_cases hm : m < t.nodes.size
  · exact h m hm
  · rw [nodeD_default_of_ge t m (by omega)]; trivial

theorem SK.of_allStatic {env : Env} {rk : Nat → Nat} {t : State} (A : AllStatic env rk t) : SK env t :=
  SK.of_lt fun m hm => (A.node m hm).kind

theorem sk_V {env : Env} {s : State} (F : PFrag env s) : SK (penv env) (V s) := staticKind_VD F

theorem sk_virt_twin {env : Env} (l : List Event) {s : State} (F : PFrag env s) :
    SK (virtEnv (twEnv env)) (virt (twL l s)) := by
  intro m
  rw [virt_nodeD, virtNode_kind]
  exact staticKind_virt ((xfrag_twin l F).kindD m)

theorem node_swap {a b : Node} (h : a = { b with kind := a.kind }) : b = { a with kind := b.kind } := by
  cases a; cases b
  simp only [Node.mk.injEq, true_and] at h ⊢
  simp only [h, and_self]

namespace Kin
variable {t t' : State}

theorem refl (t : State) : Kin t t :=
  ⟨rfl, fun _ => rfl, fun _ => rfl, fun _ _ => Iff.rfl, fun _ => Iff.rfl, rfl⟩

theorem symm (K : Kin t t') : Kin t' t :=
  ⟨K.size.symm, fun m => node_swap (K.node m), fun m => (K.kids m).symm, fun m c => (K.var m c).symm,
    fun m => (K.const m).symm, K.rest.symm⟩

theorem trans {t'' : State} (K : Kin t t') (L : Kin t' t'') : Kin t t'' where
  size := L.size.trans K.size
  node m := by
    have h1 := K.node m
    have h2 := L.node m
    rw [h1] at h2
    exact h2
  kids m := (L.kids m).trans (K.kids m)
  var m c := (L.var m c).trans (K.var m c)
  const m := (L.const m).trans (K.const m)
  rest := L.rest.trans K.rest

section fields
variable (K : Kin t t') (m : Nat)
include K

theorem valid : (t'.nodeD m).valid = (t.nodeD m).valid := by
  have := congrArg Node.valid (K.node m); exact this
theorem cutoff : (t'.nodeD m).cutoff = (t.nodeD m).cutoff := by
  have := congrArg Node.cutoff (K.node m); exact this
theorem createdIn : (t'.nodeD m).createdIn = (t.nodeD m).createdIn := by
  have := congrArg Node.createdIn (K.node m); exact this
theorem value : (t'.nodeD m).value = (t.nodeD m).value := by
  have := congrArg Node.value (K.node m); exact this
theorem recomputedAt : (t'.nodeD m).recomputedAt = (t.nodeD m).recomputedAt := by
  have := congrArg Node.recomputedAt (K.node m); exact this
theorem changedAt : (t'.nodeD m).changedAt = (t.nodeD m).changedAt := by
  have := congrArg Node.changedAt (K.node m); exact this
theorem height : (t'.nodeD m).height = (t.nodeD m).height := by
  have := congrArg Node.height (K.node m); exact this
theorem heightInRch : (t'.nodeD m).heightInRch = (t.nodeD m).heightInRch := by
  have := congrArg Node.heightInRch (K.node m); exact this
theorem heightInAhh : (t'.nodeD m).heightInAhh = (t.nodeD m).heightInAhh := by
  have := congrArg Node.heightInAhh (K.node m); exact this
theorem parents : (t'.nodeD m).parents = (t.nodeD m).parents := by
  have := congrArg Node.parents (K.node m); exact this
theorem observers : (t'.nodeD m).observers = (t.nodeD m).observers := by
  have := congrArg Node.observers (K.node m); exact this
theorem forceNecessary : (t'.nodeD m).forceNecessary = (t.nodeD m).forceNecessary := by
  have := congrArg Node.forceNecessary (K.node m); exact this
theorem numOnUpdateHandlers : (t'.nodeD m).numOnUpdateHandlers = (t.nodeD m).numOnUpdateHandlers := by
  have := congrArg Node.numOnUpdateHandlers (K.node m); exact this
theorem inHandleAfterStab : (t'.nodeD m).inHandleAfterStab = (t.nodeD m).inHandleAfterStab := by
  have := congrArg Node.inHandleAfterStab (K.node m); exact this
theorem oldState : (t'.nodeD m).oldState = (t.nodeD m).oldState := by
  have := congrArg Node.oldState (K.node m); exact this
theorem didChange : (t'.nodeD m).didChange = (t.nodeD m).didChange := by
  have := congrArg Node.didChange (K.node m); exact this

theorem inRch : (t'.nodeD m).inRch = (t.nodeD m).inRch := by
  simp only [Node.inRch, K.heightInRch]

theorem isNecessary : t'.isNecessary m = t.isNecessary m := by
  simp only [State.isNecessary, Node.isNecessary, K.parents, K.observers, K.forceNecessary]

end fields

section statefields
variable (K : Kin t t')
include K

theorem vars : t'.vars = t.vars := by have := congrArg State.vars K.rest; exact this
theorem binds : t'.binds = t.binds := by have := congrArg State.binds K.rest; exact this
theorem experts : t'.experts = t.experts := by have := congrArg State.experts K.rest; exact this
theorem stObservers : t'.observers = t.observers := by have := congrArg State.observers K.rest; exact this
theorem rch : t'.rch = t.rch := by have := congrArg State.rch K.rest; exact this
theorem ahh : t'.ahh = t.ahh := by have := congrArg State.ahh K.rest; exact this
theorem cfg : t'.cfg = t.cfg := by have := congrArg State.cfg K.rest; exact this
theorem maxHeightSeen : t'.maxHeightSeen = t.maxHeightSeen := by
  have := congrArg State.maxHeightSeen K.rest; exact this
theorem status : t'.status = t.status := by have := congrArg State.status K.rest; exact this
theorem stabNum : t'.stabNum = t.stabNum := by have := congrArg State.stabNum K.rest; exact this
theorem scope : t'.currentScope = t.currentScope := by have := congrArg State.currentScope K.rest; exact this
theorem pinv : t'.propagateInvalidity = t.propagateInvalidity := by
  have := congrArg State.propagateInvalidity K.rest; exact this
theorem handleAfterStab : t'.handleAfterStab = t.handleAfterStab := by
  have := congrArg State.handleAfterStab K.rest; exact this
theorem newObservers : t'.newObservers = t.newObservers := by
  have := congrArg State.newObservers K.rest; exact this
theorem disallowedObservers : t'.disallowedObservers = t.disallowedObservers := by
  have := congrArg State.disallowedObservers K.rest; exact this
theorem allObservers : t'.allObservers = t.allObservers := by
  have := congrArg State.allObservers K.rest; exact this
theorem setDuringStab : t'.setDuringStab = t.setDuringStab := by
  have := congrArg State.setDuringStab K.rest; exact this
theorem deadVars : t'.deadVars = t.deadVars := by have := congrArg State.deadVars K.rest; exact this
theorem counters : t'.counters = t.counters := by have := congrArg State.counters K.rest; exact this
theorem pc : t'.panicCountdown = t.panicCountdown := by
  have := congrArg State.panicCountdown K.rest; exact this
theorem currentlyRunning : t'.currentlyRunning = t.currentlyRunning := by
  have := congrArg State.currentlyRunning K.rest; exact this
theorem alive : t'.alive = t.alive := by have := congrArg State.alive K.rest; exact this
theorem top : t'.top = t.top := by have := congrArg State.top K.rest; exact this
theorem handles : t'.handles = t.handles := by have := congrArg State.handles K.rest; exact this
theorem slots : t'.slots = t.slots := by have := congrArg State.slots K.rest; exact this
theorem memos : t'.memos = t.memos := by have := congrArg State.memos K.rest; exact this
theorem perkeys : t'.perkeys = t.perkeys := by have := congrArg State.perkeys K.rest; exact this
theorem nextToken : t'.nextToken = t.nextToken := by have := congrArg State.nextToken K.rest; exact this
theorem nextDep : t'.nextDep = t.nextDep := by have := congrArg State.nextDep K.rest; exact this

end statefields

/-! ## staleness, children -/

theorem staleOf_generic (s : State) (m : Nat) (hv : ∀ c, (s.nodeD m).kind ≠ .var c)
    (hc : ∀ v, (s.nodeD m).kind ≠ .const v) :
    staleOf s m = ((s.nodeD m).recomputedAt == -1 ||
      (Sched.kids (s.nodeD m).kind).any fun c => decide ((s.nodeD c).changedAt > (s.nodeD m).recomputedAt)) := by
  unfold Sched.staleOf
  cases h : (s.nodeD m).kind <;> first | rfl | exact absurd h (hv _) | exact absurd h (hc _)

theorem staleOf (K : Kin t t') (m : Nat) : staleOf t' m = staleOf t m := by
  by_cases hv : ∃ c, (t.nodeD m).kind = .var c
  · obtain ⟨c, hc⟩ := hv
    have hc' := (K.var m c).2 hc
    unfold Sched.staleOf
    rw [hc, hc', K.vars, K.recomputedAt]
  by_cases hc : ∃ v, (t.nodeD m).kind = .const v
  · obtain ⟨v', hc'⟩ := (K.const m).2 hc
    obtain ⟨v, hc⟩ := hc
    unfold Sched.staleOf
    rw [hc, hc', K.recomputedAt]
  · have hv' : ∀ c, (t'.nodeD m).kind ≠ .var c := fun c h => hv ⟨c, (K.var m c).1 h⟩
    have hc' : ∀ v, (t'.nodeD m).kind ≠ .const v := fun v h => hc ((K.const m).1 ⟨v, h⟩)
    rw [staleOf_generic t' m hv' hc', staleOf_generic t m (fun c h => hv ⟨c, h⟩) (fun v h => hc ⟨v, h⟩),
      K.kids, K.recomputedAt]
    congr 1
    apply any_congr'
    intro a _
    rw [K.changedAt]

theorem children_invalid (s : State) (m : Nat) (h : (s.nodeD m).valid = false) : s.children m = [] := by
  unfold State.children Node.kind?
  rw [h]; rfl

/-- `children` of a node whose two kinds are static -/
theorem children {env env' : Env} (K : Kin t t') {m : Nat} (hs : StaticKind env (t.nodeD m).kind)
    (hs' : StaticKind env' (t'.nodeD m).kind) : t'.children m = t.children m := by
  cases hv : (t.nodeD m).valid with
  | false => rw [children_invalid t m hv, children_invalid t' m (by rw [K.valid]; exact hv)]
  | true =>
    rw [children_eq_kids t m hv hs, children_eq_kids t' m (by rw [K.valid]; exact hv) hs', K.kids]

theorem isStale {env env' : Env} (K : Kin t t') {m : Nat} (hs : StaticKind env (t.nodeD m).kind)
    (hs' : StaticKind env' (t'.nodeD m).kind) : t'.isStale m = t.isStale m := by
  cases hv : (t.nodeD m).valid with
  | false => rw [BindH.isStale_invalid hv, BindH.isStale_invalid (s := t') (m := m) (by rw [K.valid]; exact hv)]
  | true =>
    rw [isStale_static t m hv hs, isStale_static t' m (by rw [K.valid]; exact hv) hs', K.staleOf]

theorem needsToBeComputed {env env' : Env} (K : Kin t t') {m : Nat} (hs : StaticKind env (t.nodeD m).kind)
    (hs' : StaticKind env' (t'.nodeD m).kind) : t'.needsToBeComputed m = t.needsToBeComputed m := by
  simp only [State.needsToBeComputed, K.isNecessary, K.isStale hs hs']

/-- stored values: no map_ref nodes on either side -/
theorem stValue {env env' : Env} (K : Kin t t') {m : Nat} (hs : StaticKind env (t.nodeD m).kind)
    (hs' : StaticKind env' (t'.nodeD m).kind) : t'.value env' m = t.value env m := by
  rw [value_plain env' t' m (fun p i => hs'.not_mapRef p i), value_plain env t m (fun p i => hs.not_mapRef p i),
    K.value]

theorem plainVals (K : Kin t t') (args : List Nat) : plainVals t' args = plainVals t args := by
  unfold Sched.plainVals
  exact evalArgs_congr _ _ _ fun a _ => K.value a

/-! ## heap, stamps -/

theorem heapWF (K : Kin t t') (h : HeapWF t) : HeapWF t' :=
  HeapWF_congr h K.rch K.size (fun m => K.heightInRch m)

theorem heapInv (K : Kin t t') (h : HeapInv t) : HeapInv t' :=
  h.congr K.rch K.size (fun m => ⟨K.heightInRch m, K.height m, K.isNecessary m⟩)

theorem heapG (K : Kin t t') (h : HeapG t) : HeapG t' :=
  h.congr K.rch K.size (fun m => K.heightInRch m)

theorem stamps (K : Kin t t') (h : Stamps t) : Stamps t' where
  now := by rw [K.stabNum]; exact h.now
  node m := by rw [K.recomputedAt, K.changedAt, K.stabNum]; exact h.node m
  var c vc hc := by rw [K.vars] at hc; rw [K.stabNum]; exact h.var c vc hc

theorem ahhEmpty (K : Kin t t') (h : AhhEmpty t) : AhhEmpty t' where
  length := by rw [K.ahh]; exact h.length
  buckets := by rw [K.ahh]; exact h.buckets
  marks m := by rw [K.heightInAhh]; exact h.marks m

theorem varsOK (K : Kin t t') (h : VarsOK t) : VarsOK t' where
  node n c hn hk := by
    rw [K.size] at hn
    rw [K.vars]; exact h.node n c hn ((K.var n c).1 hk)
  cell c vc hc := by
    rw [K.vars] at hc
    obtain ⟨h1, h2⟩ := h.cell c vc hc
    exact ⟨by rw [K.size]; exact h1, (K.var _ c).2 h2⟩

/-! ## the structural invariants -/

theorem wants (K : Kin t t') (op : Nat → Op) (p i : Nat) : Wants t' op p i ↔ Wants t op p i := by
  unfold Wants; rw [K.isNecessary]

theorem allStatic {env env' : Env} {rk : Nat → Nat} (K : Kin t t') (A : AllStatic env rk t) (hs' : SK env' t') :
    AllStatic env' rk t' := by
  refine ⟨by rw [K.pc]; exact A.pc, by rw [K.scope]; exact A.scope, fun n hn => ?_, A.inj,
    by rw [K.size]; exact A.top⟩
  have sn := A.node n (by rw [← K.size]; exact hn)
  exact ⟨by rw [K.valid]; exact sn.valid, hs' n, by rw [K.cutoff]; exact sn.cutoff,
    by rw [K.createdIn]; exact sn.top, by rw [K.forceNecessary]; exact sn.force,
    by rw [K.kids]; exact sn.kidsLt, by rw [K.kids, K.size]; exact sn.kidsIn⟩

theorem gInv {env env' : Env} {rk : Nat → Nat} {op : Nat → Op} (K : Kin t t') (I : GInv env rk t op)
    (hs' : SK env' t') : GInv env' rk t' op where
  static := K.allStatic I.static hs'
  par c p i hm := by
    rw [K.parents] at hm
    rw [K.kids, K.wants]
    exact I.par c p i hm
  conv p i c hk hw := by
    rw [K.kids] at hk
    rw [K.wants] at hw
    rw [K.parents]
    exact I.conv p i c hk hw
  nodup c := by rw [K.parents]; exact I.nodup c
  hlt c p i hm ho := by
    rw [K.parents] at hm
    rw [K.height, K.height]
    exact I.hlt c p i hm ho
  hpos n hn ho := by
    rw [K.isNecessary] at hn
    rw [K.height]; exact I.hpos n hn ho
  lnec p k ho := by rw [K.isNecessary]; exact I.lnec p k ho
  unec p k ho := by rw [K.isNecessary]; exact I.unec p k ho
  heap := K.heapG I.heap
  hgt m hq ho := by
    rw [K.inRch] at hq
    rw [K.heightInRch, K.height]; exact I.hgt m hq ho
  qnec m hq := by
    rw [K.inRch] at hq
    rw [K.isNecessary]; exact I.qnec m hq
  queued m ho hn hs := by
    rw [K.isNecessary] at hn
    rw [K.staleOf] at hs
    rw [K.inRch]; exact I.queued m ho hn hs
  qstale m hq := by
    rw [K.inRch] at hq
    rw [K.staleOf]; exact I.qstale m hq
  opLt m ho := by rw [K.size]; exact I.opLt m ho

theorem struct {env env' : Env} {rk : Nat → Nat} (K : Kin t t') (I : Struct env rk t) (hs' : SK env' t') :
    Struct env' rk t' := K.gInv I hs'

/-! ## the graph of the bind fragment (static states) -/

theorem edge {env env' : Env} (K : Kin t t') (hs : SK env t) (hs' : SK env' t') {a c : Nat}
    (he : BindH.Edge t' a c) : BindH.Edge t a c := by
  cases he with
  | child hc => rw [K.children (hs a) (hs' a)] at hc; exact BindH.Edge.child hc
  | scope hv hsc hb =>
    rw [K.valid] at hv; rw [K.createdIn] at hsc; rw [K.binds] at hb
    exact BindH.Edge.scope hv hsc hb

theorem below {env env' : Env} (K : Kin t t') (hs : SK env t) (hs' : SK env' t') {a d : Nat}
    (h : BindH.Below t' a d) : BindH.Below t a d := by
  induction h with
  | refl a => exact BindH.Below.refl a
  | step he _ ih => exact BindH.Below.step (K.edge hs hs' he) ih

theorem bgraph {env env' : Env} (K : Kin t t') (g : BindH.BGraph env t) (hs : SK env t) (hs' : SK env' t') :
    BindH.BGraph env' t' where
  pc := by rw [K.pc]; exact g.pc
  node n hn hv := by
    rw [K.size] at hn; rw [K.valid] at hv
    obtain ⟨_, h2, h3⟩ := g.node n hn hv
    rw [K.cutoff, K.children (hs n) (hs' n)]
    refine ⟨DriverH.bkind_of_static (hs' n), h2, fun c hc => ?_⟩
    rw [K.size, K.valid]; exact h3 c hc
  nec n hn := by
    rw [K.isNecessary] at hn; rw [K.valid, K.height]; exact g.nec n hn
  var n c hn hv hk := by
    rw [K.size] at hn; rw [K.valid] at hv
    rw [K.vars]; exact g.var n c hn hv ((K.var n c).1 hk)
  child n hn i c hc := by
    rw [K.isNecessary] at hn; rw [K.children (hs n) (hs' n)] at hc
    rw [K.isNecessary, K.parents, K.height, K.height]; exact g.child n hn i c hc
  parent c p i hm := by
    rw [K.parents] at hm
    rw [K.isNecessary, K.children (hs p) (hs' p)]; exact g.parent c p i hm
  scope n b hn hv hsc := by
    rw [K.size] at hn; rw [K.valid] at hv; rw [K.createdIn] at hsc
    obtain ⟨br, h1, h2, h3, h4⟩ := g.scope n b hn hv hsc
    refine ⟨br, by rw [K.binds]; exact h1, by rw [K.size]; exact h2, by rw [K.valid]; exact h3, ?_⟩
    rw [K.isNecessary, K.isNecessary, K.height, K.height]; exact h4
  lcRec n b _ _ hk := by have := hs' n; rw [hk] at this; exact this.elim
  mainRec n b lc _ _ hk := by have := hs' n; rw [hk] at this; exact this.elim
  lcChild m c b _ _ _ hk := by have := hs' c; rw [hk] at this; exact this.elim
  acyc := by
    obtain ⟨rk, hrk⟩ := g.acyc
    exact ⟨rk, fun a c he => hrk a c (K.edge hs hs' he)⟩

/-- `Sched.Graph` (the static-fragment graph invariant) -/
theorem graph {env env' : Env} (K : Kin t t') (g : Graph env t) (hs' : SK env' t') : Graph env' t' where
  pc := by rw [K.pc]; exact g.pc
  nec n hn := by
    rw [K.isNecessary] at hn
    obtain ⟨h1, h2, _, h4, h5⟩ := g.nec n hn
    exact ⟨by rw [K.size]; exact h1, by rw [K.valid]; exact h2, hs' n, by rw [K.cutoff]; exact h4,
      by rw [K.height]; exact h5⟩
  var n c hn hk := by
    rw [K.isNecessary] at hn
    rw [K.vars]; exact g.var n c hn ((K.var n c).1 hk)
  child n hn i c hk := by
    rw [K.isNecessary] at hn; rw [K.kids] at hk
    rw [K.isNecessary, K.parents, K.height, K.height]; exact g.child n hn i c hk
  parent c p i hm := by
    rw [K.parents] at hm
    rw [K.isNecessary, K.kids]; exact g.parent c p i hm

end Kin

end IncrVerif.Proofs.PerKeyH
