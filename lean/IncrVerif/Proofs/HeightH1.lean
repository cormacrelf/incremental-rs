import IncrVerif.Proofs.Quiet28
import IncrVerif.Proofs.Heights
/-!
# C19 for whole histories, part 1: the static height `needH`, the exact-height invariant

* `needH s n`: the height node `n` needs when it is necessary: `1 + max` over its children (`kids`), `1` for a leaf.
* `HEx s op`: closed necessary nodes have EXACTLY `height = needH` and `needH ≤ maxHeightSeen`.
* `RoomH N s`: both heaps allow heights up to exactly `N`, `0 ≤ maxHeightSeen ≤ N`.
* `Out x s Q P`: the run of `x` from `s` either returns in a state satisfying `Q`, or panics with the height
  diagnostic `Panic.site "height-limit"` in a state satisfying `P` (no other panic, fuel suffices).
-/
namespace IncrVerif.Proofs.HeightH
open IncrVerif.Engine IncrVerif.Driver IncrVerif.Proofs IncrVerif.Proofs.Step IncrVerif.Proofs.Sched
open IncrVerif.Proofs.Quiet

/-! ## the static height -/

/-- greatest element of a list of naturals (`0` for the empty list) -/
def lmax (l : List Nat) : Nat := l.foldl max 0

theorem foldl_max_init (l : List Nat) (a : Nat) : l.foldl max a = max a (l.foldl max 0) := by
  induction l generalizing a with
  | nil => simp
  | cons x l ih =>
    simp only [List.foldl_cons]
    rw [ih (max a x), ih (max 0 x)]
    omega

theorem lmax_nil : lmax [] = 0 := rfl
theorem lmax_cons (x : Nat) (l : List Nat) : lmax (x :: l) = max x (lmax l) := by
  unfold lmax; simp only [List.foldl_cons]; rw [foldl_max_init]; omega
theorem lmax_append (l1 l2 : List Nat) : lmax (l1 ++ l2) = max (lmax l1) (lmax l2) := by
  induction l1 with
  | nil => simp [lmax_nil]
  | cons x l ih => rw [List.cons_append, lmax_cons, lmax_cons, ih]; omega
theorem le_lmax {l : List Nat} {x : Nat} (h : x ∈ l) : x ≤ lmax l := by
  induction l with
  | nil => cases h
  | cons y l ih =>
    rw [lmax_cons]
    rcases List.mem_cons.1 h with e | e
    · omega
    · have := ih e; omega
theorem lmax_le {l : List Nat} {b : Nat} (h : ∀ x, x ∈ l → x ≤ b) : lmax l ≤ b := by
  induction l with
  | nil => rw [lmax_nil]; omega
  | cons y l ih =>
    rw [lmax_cons]
    have := h y (List.mem_cons_self ..)
    have := ih (fun x hx => h x (List.mem_cons_of_mem _ hx))
    omega
theorem lmax_attained {l : List Nat} (h : l ≠ []) : lmax l ∈ l := by
  induction l with
  | nil => exact absurd rfl h
  | cons y l ih =>
    rw [lmax_cons]
    by_cases hl : l = []
    · subst hl; rw [lmax_nil]; simp
    · have := ih hl
      by_cases hy : lmax l ≤ y
      · rw [Nat.max_eq_left hy]; exact List.mem_cons_self ..
      · rw [Nat.max_eq_right (by omega)]; exact List.mem_cons_of_mem _ this

/-- the height node `n` needs, with fuel -/
def needHF (s : State) : Nat → Nat → Nat
  | 0, _ => 0
  | fuel+1, n => 1 + lmax ((kids (s.nodeD n).kind).map (needHF s fuel))

/-- **the static height**: `1` for a leaf (`const`, `var`), `1 + max` over the children for `map`/`fold` -/
def needH (s : State) (n : Nat) : Nat := needHF s (n + 1) n

/-- children were created before their parents -/
def KidsLt (s : State) : Prop := ∀ n c, c ∈ kids (s.nodeD n).kind → c < n

theorem kidsLt_of_static {env : Env} {s : State} (A : AllStatic env s) : KidsLt s := by
  intro n c hc
  by_cases hn : n < s.nodes.size
  · exact (A.node n hn).kidsLt c hc
  · rw [nodeD_default s n (by omega)] at hc
    simp [kids] at hc
    cases hc

theorem kidsLt_of_ginv {env : Env} {s : State} {op : Nat → Op} (I : GInv env s op) : KidsLt s :=
  kidsLt_of_static I.static

theorem needHF_stable {s : State} (K : KidsLt s) : ∀ (n fuel : Nat), n < fuel → needHF s fuel n = needHF s (n + 1) n := by
  intro n
  induction n using Nat.strongRecOn with
  | _ n ih =>
    intro fuel hf
    obtain ⟨f, rfl⟩ : ∃ f, fuel = f + 1 := ⟨fuel - 1, by omega⟩
    simp only [needHF]
    congr 2
    apply List.map_congr_left
    intro c hc
    have hcn := K n c hc
    rw [ih c hcn f (by omega), ih c hcn n hcn]

/-- the defining equation -/
theorem needH_eq {s : State} (K : KidsLt s) (n : Nat) :
    needH s n = 1 + lmax ((kids (s.nodeD n).kind).map (needH s)) := by
  show needHF s (n + 1) n = _
  simp only [needHF]
  congr 2
  apply List.map_congr_left
  intro c hc
  exact needHF_stable K c n (K n c hc)

theorem needH_pos (s : State) (n : Nat) : 1 ≤ needH s n := by
  show 1 ≤ needHF s (n + 1) n
  simp only [needHF]; omega

theorem needH_leaf {s : State} {n : Nat} (h : kids (s.nodeD n).kind = []) : needH s n = 1 := by
  show needHF s (n + 1) n = 1
  simp only [needHF, h, List.map_nil, lmax_nil]

theorem needH_child_lt {s : State} (K : KidsLt s) {n c : Nat} (h : c ∈ kids (s.nodeD n).kind) :
    needH s c < needH s n := by
  rw [needH_eq K n]
  have := le_lmax (List.mem_map.2 ⟨c, h, rfl⟩ : needH s c ∈ (kids (s.nodeD n).kind).map (needH s))
  omega

/-- the static height is at most the creation index + 1 -/
theorem needH_le_index {s : State} (K : KidsLt s) (n : Nat) : needH s n ≤ n + 1 := by
  induction n using Nat.strongRecOn with
  | _ n ih =>
    rw [needH_eq K n]
    have : lmax ((kids (s.nodeD n).kind).map (needH s)) ≤ n := by
      apply lmax_le
      intro x hx
      obtain ⟨c, hc, rfl⟩ := List.mem_map.1 hx
      have := K n c hc
      have := ih c this
      omega
    omega

theorem needHF_congr {s s' : State} (h : ∀ m, (s'.nodeD m).kind = (s.nodeD m).kind) :
    ∀ fuel n, needHF s' fuel n = needHF s fuel n := by
  intro fuel
  induction fuel with
  | zero => intro n; rfl
  | succ f ih =>
    intro n
    simp only [needHF, h n]
    congr 2
    apply List.map_congr_left
    intro c _; exact ih c

/-- `needH` only reads the kinds -/
theorem needH_congr {s s' : State} (h : ∀ m, (s'.nodeD m).kind = (s.nodeD m).kind) (n : Nat) :
    needH s' n = needH s n := needHF_congr h _ _

theorem needHF_congr_lt {s s' : State} (K : KidsLt s) :
    ∀ fuel n, (∀ m, m ≤ n → (s'.nodeD m).kind = (s.nodeD m).kind) → needHF s' fuel n = needHF s fuel n := by
  intro fuel
  induction fuel with
  | zero => intro n _; rfl
  | succ f ih =>
    intro n h
    simp only [needHF, h n (Nat.le_refl _)]
    congr 2
    apply List.map_congr_left
    intro c hc
    have := K n c hc
    exact ih c (fun m hm => h m (by omega))

/-- `needH n` only reads the kinds of the nodes up to `n` (new nodes do not change old static heights) -/
theorem needH_congr_lt {s s' : State} (K : KidsLt s) {n : Nat}
    (h : ∀ m, m ≤ n → (s'.nodeD m).kind = (s.nodeD m).kind) : needH s' n = needH s n :=
  needHF_congr_lt K _ _ h

theorem needH_cframe {s s' : State} (h : CFrame s s') (n : Nat) : needH s' n = needH s n :=
  needH_congr h.kind n

theorem needH_pframe {s s' : State} (h : PFrame s s') (n : Nat) : needH s' n = needH s n :=
  needH_congr (PFrame.kind h) n

/-- the height the loop of `becameNecessary` has computed after `j` children -/
def linkH (s : State) (n j : Nat) : Nat := 1 + lmax (((kids (s.nodeD n).kind).take j).map (needH s))

theorem linkH_zero (s : State) (n : Nat) : linkH s n 0 = 1 := by simp [linkH, lmax_nil]

theorem linkH_succ {s : State} {n j c : Nat} (h : (kids (s.nodeD n).kind)[j]? = some c) :
    linkH s n (j + 1) = max (linkH s n j) (needH s c + 1) := by
  unfold linkH
  have hj : j < (kids (s.nodeD n).kind).length := by
    rcases Nat.lt_or_ge j (kids (s.nodeD n).kind).length with h1 | h1
    · exact h1
    · rw [List.getElem?_eq_none h1] at h; cases h
  rw [List.take_add_one, h]
  simp only [Option.toList_some, List.map_append, List.map_cons, List.map_nil]
  rw [lmax_append, lmax_cons, lmax_nil]
  omega

theorem linkH_full {s : State} (K : KidsLt s) (n : Nat) :
    linkH s n (kids (s.nodeD n).kind).length = needH s n := by
  rw [needH_eq K n, linkH, List.take_length]

/-! ## the invariants -/

/-- closed necessary nodes have exactly their static height, and it has been seen -/
def HEx (s : State) (op : Nat → Op) : Prop :=
  ∀ m, s.isNecessary m = true → op m = .closed →
    (s.nodeD m).height = (needH s m : Int) ∧ (needH s m : Int) ≤ s.maxHeightSeen

/-- both heaps have `N + 1` buckets; the largest height seen is within the limit -/
structure RoomH (N : Nat) (s : State) : Prop where
  ahh : s.ahh.maxAllowed = (N : Int)
  rch : s.rch.maxAllowed = (N : Int)
  seen : s.maxHeightSeen ≤ (N : Int)
  seen0 : 0 ≤ s.maxHeightSeen

theorem HEx.le {N : Nat} {s : State} {op : Nat → Op} (H : HEx s op) (R : RoomH N s) {m : Nat}
    (hm : s.isNecessary m = true) (ho : op m = .closed) : needH s m ≤ N := by
  have := (H m hm ho).2; have := R.seen; omega

/-- the exact heights imply the crude bound of the total-correctness proof -/
theorem HEx.hbo {env : Env} {s : State} {op : Nat → Op} (H : HEx s op) (I : GInv env s op) : HBo s op := by
  intro m hm ho
  rw [(H m hm ho).1]
  have := needH_le_index (kidsLt_of_ginv I) m
  omega

/-- transfer along a step that keeps kinds, `maxHeightSeen`, and necessity/heights of the nodes in question -/
theorem HEx.transfer {s s' : State} {op op' : Nat → Op} (H : HEx s op)
    (hk : ∀ m, (s'.nodeD m).kind = (s.nodeD m).kind) (hs : s.maxHeightSeen ≤ s'.maxHeightSeen)
    (h : ∀ m, s'.isNecessary m = true → op' m = .closed →
      s.isNecessary m = true ∧ op m = .closed ∧ (s'.nodeD m).height = (s.nodeD m).height) : HEx s' op' := by
  intro m hm ho
  obtain ⟨h1, h2, h3⟩ := h m hm ho
  obtain ⟨h4, h5⟩ := H m h1 h2
  rw [needH_congr hk, h3]
  exact ⟨h4, by omega⟩

/-! ## outcome calculus: returns, or panics with the height diagnostic -/

/-- the site string of the height diagnostic (`AdjustHeightsHeap::set_height`) -/
def heightPanic : Panic := .site "height-limit"

/-- the run returns in a state satisfying `Q`, or panics with the height diagnostic in a state satisfying `P` -/
def Out {α} (x : M α) (s : State) (Q : α → State → Prop) (P : State → Prop) : Prop :=
  (∃ a s', x.run.run s = (.ok a, s') ∧ Q a s') ∨ (∃ s', x.run.run s = (.error heightPanic, s') ∧ P s')

section out
variable {α β : Type} {x : M α} {s : State} {Q : α → State → Prop} {P : State → Prop}

theorem Out.of_tot (T : Tot x s Q) : Out x s Q P := Or.inl T

theorem Out.of_ok {a : α} {s1 : State} (h : x.run.run s = (.ok a, s1)) (hq : Q a s1) : Out x s Q P :=
  Or.inl ⟨a, s1, h, hq⟩

theorem Out.of_err {s1 : State} (h : x.run.run s = (.error heightPanic, s1)) (hp : P s1) : Out x s Q P :=
  Or.inr ⟨s1, h, hp⟩

theorem Out.mono {Q' : α → State → Prop} {P' : State → Prop} (T : Out x s Q P)
    (hq : ∀ a t, Q a t → Q' a t) (hp : ∀ t, P t → P' t) : Out x s Q' P' := by
  rcases T with ⟨a, s1, h1, h2⟩ | ⟨s1, h1, h2⟩
  · exact Or.inl ⟨a, s1, h1, hq a s1 h2⟩
  · exact Or.inr ⟨s1, h1, hp s1 h2⟩

theorem run_bind_err {f : α → M β} {e : Panic} {s1 : State} (h : x.run.run s = (.error e, s1)) :
    (x >>= f).run.run s = (.error e, s1) := by
  rw [run_bind, h]

theorem Out.bind {f : α → M β} {Q' : β → State → Prop} (hx : Out x s Q P)
    (hf : ∀ a s1, x.run.run s = (.ok a, s1) → Q a s1 → Out (f a) s1 Q' P) : Out (x >>= f) s Q' P := by
  rcases hx with ⟨a, s1, h1, h2⟩ | ⟨s1, h1, h2⟩
  · rcases hf a s1 h1 h2 with ⟨b, s2, h3, h4⟩ | ⟨s2, h3, h4⟩
    · exact Or.inl ⟨b, s2, by rw [run_bind_ok h1]; exact h3, h4⟩
    · exact Or.inr ⟨s2, by rw [run_bind_ok h1]; exact h3, h4⟩
  · exact Or.inr ⟨s1, run_bind_err h1, h2⟩

/-- `bind` where the first part may panic in a state satisfying a different predicate -/
theorem Out.bind' {f : α → M β} {Q' : β → State → Prop} {P' : State → Prop} (hx : Out x s Q P')
    (hp : ∀ t, P' t → P t)
    (hf : ∀ a s1, x.run.run s = (.ok a, s1) → Q a s1 → Out (f a) s1 Q' P) : Out (x >>= f) s Q' P :=
  Out.bind (hx.mono (fun _ _ h => h) hp) hf

theorem Out.bind_ok {f : α → M β} {Q' : β → State → Prop} {a : α} {s1 : State}
    (h : x.run.run s = (.ok a, s1)) (T : Out (f a) s1 Q' P) : Out (x >>= f) s Q' P := by
  rcases T with ⟨b, s2, h3, h4⟩ | ⟨s2, h3, h4⟩
  · exact Or.inl ⟨b, s2, by rw [run_bind_ok h]; exact h3, h4⟩
  · exact Or.inr ⟨s2, by rw [run_bind_ok h]; exact h3, h4⟩

theorem Out.pure {a : α} (h : Q a s) : Out (pure a : M α) s Q P := Or.inl ⟨a, s, run_pure a s, h⟩

theorem Out.bind_get {f : State → M β} {Q' : β → State → Prop} (T : Out (f s) s Q' P) :
    Out ((MonadState.get : M State) >>= f) s Q' P := Out.bind_ok (run_get s) T

theorem Out.bind_modify {g : State → State} {f : Unit → M β} {Q' : β → State → Prop}
    (T : ∀ s1, s1 = g s → Out (f ()) s1 Q' P) : Out (modify g >>= f) s Q' P :=
  Out.bind_ok (run_modify g s) (T _ rfl)

theorem Out.bind_modNode {n : Nat} {g : Node → Node} {f : Unit → M β} {Q' : β → State → Prop}
    (T : ∀ s1, s1 = { s with nodes := s.nodes.modify n g } → Out (f ()) s1 Q' P) :
    Out (modNode n g >>= f) s Q' P :=
  Out.bind_ok (run_modNode n g s) (T _ rfl)

theorem Out.bind_dassert {c : Bool} {site : String} {f : Unit → M β} {Q' : β → State → Prop}
    (hc : s.cfg.debug = true → c = true) (T : Out (f ()) s Q' P) : Out (Engine.dassert c site >>= f) s Q' P :=
  Out.bind_ok (run_dassert_true s hc) T

theorem Out.bind_getNode {n : Nat} {f : Node → M β} {Q' : β → State → Prop} (hn : n < s.nodes.size)
    (T : Out (f (s.nodeD n)) s Q' P) : Out (Engine.getNode n >>= f) s Q' P :=
  Out.bind_ok (run_getNode_some (some_of_lt hn)) T

/-- an outcome whose panic branch is impossible is a return -/
theorem Out.tot (T : Out x s Q P) (h : ∀ t, P t → False) : Tot x s Q := by
  rcases T with T | ⟨s1, _, h2⟩
  · exact T
  · exact (h s1 h2).elim

/-- an outcome whose return branch is impossible is a panic -/
theorem Out.panics (T : Out x s Q P) (h : ∀ a t, Q a t → False) :
    ∃ s', x.run.run s = (.error heightPanic, s') ∧ P s' := by
  rcases T with ⟨a, s1, _, h2⟩ | T
  · exact (h a s1 h2).elim
  · exact T

end out

/-- loop rule: every iteration returns and yields, or panics -/
theorem forIn_out {α β} (f : α → β → M (ForInStep β)) (l : List α) (I : Nat → β → State → Prop)
    (P : State → Prop)
    (hstep : ∀ j a b t, l[j]? = some a → I j b t →
      Out (f a b) t (fun r t' => ∃ b', r = .yield b' ∧ I (j + 1) b' t') P)
    (b : β) (s : State) (h0 : I 0 b s) : Out (forIn l b f) s (fun b' s' => I l.length b' s') P := by
  suffices H : ∀ (rest : List α) (j : Nat) (b : β) (s : State), l.drop j = rest → j ≤ l.length → I j b s →
      Out (forIn rest b f) s (fun b' s' => I l.length b' s') P from
    H l 0 b s (by simp) (Nat.zero_le _) h0
  intro rest
  induction rest with
  | nil =>
    intro j b s hd hle hI
    have : l.length ≤ j := List.drop_eq_nil_iff.1 hd
    have hj : j = l.length := by omega
    rw [hj] at hI
    rw [List.forIn_nil]
    exact Out.pure hI
  | cons a rest ih =>
    intro j b s hd hle hI
    have hj : l[j]? = some a := by
      have := congrArg List.head? hd
      simpa [List.head?_drop] using this
    have hlt : j < l.length := by
      rcases Nat.lt_or_ge j l.length with hlt | hge
      · exact hlt
      · rw [List.getElem?_eq_none hge] at hj; cases hj
    have hd' : l.drop (j + 1) = rest := by
      have := congrArg List.tail hd
      simpa [List.tail_drop] using this
    rw [List.forIn_cons]
    refine Out.bind (hstep j a b s hj hI) ?_
    rintro r t1 - ⟨b1, rfl, hI1⟩
    exact ih (j + 1) b1 t1 hd' hlt hI1

end IncrVerif.Proofs.HeightH
