import IncrVerif.Proofs.FullH47
import IncrVerif.Proofs.OnceF2
/-!
# C02, combined fragment, part 3: AT MOST ONCE per `stabilise`

`stabilise_pathF`: from the invariant between API actions `FullH.QInvF` a successful `stabilise` is its phases (`t1`, `t2`, `t3` tied to the run by the four phase
equations); the drain starts in `t2` with the drain invariant `DInvF`, no node carries the stamp of this round there, and the drain is a path `FullH.PathF`
(`drain_pathF`).  The proof is `FullH.stabilise_full` (`FullH.prefix_full` for the observer phases) with `drain_pathF` in place of `drainHeap_full`.  `stabilise_once_actual`: the same in terms of the ACTUAL states only.
-/
namespace IncrVerif.Proofs.OnceF
open IncrVerif.Engine IncrVerif.Driver IncrVerif.Proofs IncrVerif.Proofs.Step IncrVerif.Proofs.Sched IncrVerif.Proofs.Quiet
open IncrVerif.Proofs.FullH IncrVerif.Proofs.TidyH
open IncrVerif.Proofs.BindH (DInv BGraph StepRelB FrameB TargetB ConsistentB DKey NKey RanOnceB)
open IncrVerif.Proofs.NestH (AuxS2 Aux2 GenOK2 F2Inv StepL2 LcStepsOK2 QG2 QI2 QInv2 SInv2 den2)

section
variable {env : Env} {sp : Nat → Val → Val}

/-- **the drain of a `stabilise` of the combined fragment** -/
theorem stabilise_pathF (X : Kit env sp) {fuel : Nat} {s s' : State} {g : Nat → Option Val} (Q : QInvF env sp s g)
    (h : (stabilise env fuel).run.run s = (.ok (), s')) :
    ∃ t1 t2 t3 g2 g3,
      (addNewObservers env fuel).run.run { s with status := .stabilising } = (.ok (), t1) ∧
      (unlinkDisallowedObservers fuel).run.run t1 = (.ok (), t2) ∧
      (drainHeap env fuel).run.run t2 = (.ok (), t3) ∧ (stabiliseEnd env fuel).run.run t3 = (.ok (), s') ∧
      t2.stabNum = s.stabNum ∧ DInvF env sp (virt g2 t2) t2 g2 none ∧
      PathF env sp (virt g2 t2) (drainSteps env fuel t2) (g2, t2) none (g3, t3) none ∧
      (∀ m, (t2.nodeD m).recomputedAt < s.stabNum) ∧
      (∀ m, ∃ b, s'.nodeD m = { t3.nodeD m with inHandleAfterStab := b }) := by
  obtain ⟨⟨rk, Qv⟩, -⟩ := Q.q
  obtain ⟨t1, t2, t3, -, h1, h2, h3, h4⟩ := stabilise_phases.1 h
  obtain ⟨g1, h1v, Fr1, R1⟩ := SimX.addNewObservers (K := FK env sp) (sp := sp) env fuel g { s with status := .stabilising }
    (Q.frag.fr.of_nodes rfl) () t1 h1
  obtain ⟨h2v, Fr2, vm2⟩ := Sim.unlinkDisallowedObservers (K := FK env sp) (g := g1) fuel t1 Fr1 () t2 h2
  have P := prefix_full Q Qv h1 h1v R1 h2 h2v Fr2 vm2
  have F := P.F
  -- the drain
  obtain ⟨g3, D3, -, p3⟩ := drain_pathF X fuel _ t2 t3 g1 P.d h3
  obtain ⟨⟨rk3, A3⟩, K3, N3⟩ := D3.aux
  obtain ⟨-, hsd, hdv, hoh, -⟩ := after_drainF P Qv A3 K3 N3 (PathF.frameB p3).vars
  have E := stabiliseEnd_fin (env := env) (fuel := fuel) hsd hdv hoh h4
  refine ⟨t1, t2, t3, g1, g3, h1, h2, h3, h4, F.stabNum, P.d, p3, ?_, E.node⟩
  intro m
  have k1 := F.recomputedAt m
  have k3 := (Qv.stamps m).1
  rw [virt_nodeD, virt_nodeD, virtNode_recomputedAt, virtNode_recomputedAt] at k1
  rw [virt_nodeD, virtNode_recomputedAt] at k3
  have e2 : (virt g s).stabNum = s.stabNum := rfl
  rw [e2] at k3
  rw [k1]; exact k3

/-- what `BindH.DInv.cur_facts` says of a step of the drain, in terms of the actual state -/
theorem cur_actual {t u : State} {gu : Nat → Option Val} {n : Nat} (D : DInvF env sp t u gu (some n)) :
    u.isNecessary n = true ∧ (u.nodeD n).valid = true ∧ (u.nodeD n).inRch = false ∧ (u.nodeD n).recomputedAt < u.stabNum := by
  obtain ⟨c1, -, c3, c4, c5⟩ := D.inv.cur_facts
  rw [virt_isNecessary] at c1
  rw [virt_nodeD, virtNode_valid] at c3
  rw [virt_nodeD, virtNode_inRch] at c4
  rw [virt_nodeD, virtNode_recomputedAt] at c5
  exact ⟨c1, c3, c4, c5⟩

/-- **AT MOST ONCE PER `stabilise`, combined fragment, in terms of the actual states.**  `t2` is the state in which the drain of this `stabilise` starts.  The nodes handed
to `recomputeOne` (`drainTrace`) are pairwise distinct; each had not run in this round, carries the stamp of this round in the final state and is still VALID there; at the
moment it runs (`drainSteps`: the trace with the states) it is necessary, valid, not queued and not yet stamped, and the round number is the one of the start. -/
theorem stabilise_once_actual (X : Kit env sp) {fuel : Nat} {s s' : State} {g : Nat → Option Val} (Q : QInvF env sp s g)
    (h : (stabilise env fuel).run.run s = (.ok (), s')) :
    ∃ t1 t2 t3,
      (addNewObservers env fuel).run.run { s with status := .stabilising } = (.ok (), t1) ∧
      (unlinkDisallowedObservers fuel).run.run t1 = (.ok (), t2) ∧
      (drainHeap env fuel).run.run t2 = (.ok (), t3) ∧ (stabiliseEnd env fuel).run.run t3 = (.ok (), s') ∧
      (drainTrace env fuel t2).Nodup ∧
      (∀ m, m ∈ drainTrace env fuel t2 →
        (t2.nodeD m).recomputedAt < s.stabNum ∧ (s'.nodeD m).recomputedAt = s.stabNum ∧ (s'.nodeD m).valid = true) ∧
      (drainSteps env fuel t2).map (·.1) = drainTrace env fuel t2 ∧
      (∀ p, p ∈ drainSteps env fuel t2 →
        p.2.isNecessary p.1 = true ∧ (p.2.nodeD p.1).valid = true ∧ (p.2.nodeD p.1).inRch = false ∧
          (p.2.nodeD p.1).recomputedAt < s.stabNum ∧ p.2.stabNum = s.stabNum) ∧
      (∀ m, (t2.nodeD m).recomputedAt < s.stabNum) := by
  obtain ⟨t1, t2, t3, g2, g3, h1, h2, h3, h4, hs2, D2, P, hlt, hE⟩ := stabilise_pathF X Q h
  have hfst := drainSteps_fst env fuel t2
  obtain ⟨hnd, honce⟩ := PathF.once P D2.inv.stamps
  refine ⟨t1, t2, t3, h1, h2, h3, h4, ?_, ?_, hfst, ?_, hlt⟩
  · rw [← hfst]; exact hnd
  · intro m hm
    rw [← hfst] at hm
    obtain ⟨-, a2, a3⟩ := honce m hm
    obtain ⟨b, hb⟩ := hE m
    rw [virt_nodeD, virtNode_recomputedAt] at a2
    rw [virt_nodeD, virtNode_valid] at a3
    have e2 : (virt g2 t2).stabNum = s.stabNum := hs2
    rw [e2] at a2
    refine ⟨hlt m, ?_, ?_⟩
    · rw [hb]; exact a2
    · rw [hb]; exact a3
  · intro p hp
    obtain ⟨gp, Dp, fp⟩ := PathF.steps P hp
    obtain ⟨c1, c3, c4, c5⟩ := cur_actual Dp
    have e1 : p.2.stabNum = t2.stabNum := fp.stabNum
    rw [e1, hs2] at c5
    exact ⟨c1, c3, c4, c5, e1.trans hs2⟩

end
end IncrVerif.Proofs.OnceF
