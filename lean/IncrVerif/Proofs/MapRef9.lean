import IncrVerif.Proofs.MapRef7
/-!
# map_ref fragment: one `recomputeOne`
* a node that is not a map_ref node: the actual step is simulated by the virtual step (`recomputeOne_sim`);
* a map_ref node: master equation of the actual step (`recomputeOne_mapRef_run`).
-/
namespace IncrVerif.Proofs.MapRefH
open IncrVerif.Engine IncrVerif.Proofs IncrVerif.Proofs.Step IncrVerif.Proofs.Sched IncrVerif.Proofs.Quiet

section
variable {g : Nat → Option Val}

/-! ## `virt` commutes with the bookkeeping at the start of a step -/

theorem virt_nodes_modify (s : State) (n : Nat) (f : Node → Node)
    (hf : ∀ gv nd, virtNode gv (f nd) = f (virtNode gv nd)) :
    (s.nodes.modify n f).mapIdx (fun i nd => virtNode (g i) nd)
      = (s.nodes.mapIdx fun i nd => virtNode (g i) nd).modify n f := by
  apply Array.ext
  · simp
  · intro i h1 h2
    simp only [Array.getElem_mapIdx, Array.getElem_modify]
    split
    · rename_i e; subst e; exact hf _ _
    · rfl

theorem virt_started (n : Nat) (s : State) : virt g (started n s) = started n (virt g s) := by
  simp only [virt, started]
  rw [virt_nodes_modify s n _ (by intro gv nd; rcases nd with ⟨k⟩; cases k <;> rfl)]
  rfl

theorem virt_logged (es : List Event) (s : State) : virt g (logged es s) = logged es (virt g s) := rfl

theorem Fr.started {s : State} (h : Fr s) (n : Nat) : Fr (started n s) :=
  Fr.of_nodes (fr_modify h n (fun x => { x with recomputedAt := s.stabNum }) fun _ => ⟨rfl, rfl, rfl⟩) rfl rfl

theorem Fr.logged {s : State} (h : Fr s) (es : List Event) : Fr (logged es s) := Fr.of_nodes h rfl rfl

/-! ## the arguments -/

theorem valuesOf_of_isSome (env : Env) (s : State) (args : List Nat)
    (h : ∀ a, a ∈ args → (s.value env a).isSome = true) : ∃ vals, valuesOf env s args = some vals := by
  induction args with
  | nil => exact ⟨[], rfl⟩
  | cons a as ih =>
    obtain ⟨vs, hvs⟩ := ih fun b hb => h b (List.mem_cons_of_mem _ hb)
    have ha := h a (List.mem_cons_self ..)
    cases hv : s.value env a with
    | none => rw [hv] at ha; cases ha
    | some v => exact ⟨v :: vs, by simp only [valuesOf, hv, hvs]⟩

theorem valuesOf_virt (env : Env) (s : State) (args : List Nat)
    (h : ∀ a, a ∈ args → tv g s a = s.value env a) :
    valuesOf (virtEnv env) (virt g s) args = valuesOf env s args := by
  induction args with
  | nil => rfl
  | cons a as ih =>
    simp only [valuesOf]
    rw [virt_value, h a (List.mem_cons_self ..), ih fun b hb => h b (List.mem_cons_of_mem _ hb)]

/-! ## a node that is not a map_ref node -/

/-- off the map_ref nodes the kinds of the fragment are static and are kept by `virtKind` -/
theorem RKind.static {env : Env} {k : Kind} (h : RKind env k) (hk : ∀ p i, k ≠ .mapRef p i) :
    StaticKind env k ∧ virtKind k = k ∧ kidsR k = kids k := by
  cases k <;> simp only [RKind] at h <;> simp only [StaticKind, virtKind, kidsR, kids]
  case map f args =>
    refine ⟨⟨?_, h.2⟩, trivial, trivial⟩
    have := h.1; unfold projBase at this; unfold fnPerKey; omega
  case mapRef p i => exact absurd rfl (hk p i)
  all_goals first | exact ⟨trivial, trivial, trivial⟩ | exact h.elim

/-- the actual and the virtual step of a node that is not a map_ref node are `maybe_change_value` of the same value, with the same log
entries: the virtual children store what the actual ones read -/
theorem recomputeOne_both {env : Env} {s : State} {fuel n : Nat} (F : RFrag env s) (hn : n < s.nodes.size)
    (hk : ∀ p i, (s.nodeD n).kind ≠ .mapRef p i)
    (hvar : ∀ c, (s.nodeD n).kind = .var c → ∃ vc, s.vars[c]? = some vc)
    (hkids : ∀ a, a ∈ kidsR (s.nodeD n).kind → tv g s a = s.value env a ∧ (s.value env a).isSome = true) :
    ∃ v es, (recomputeOne env fuel n).run.run s
        = (maybeChangeValue env fuel n v).run.run (logged es (started n s)) ∧
      (recomputeOne (virtEnv env) fuel n).run.run (virt g s)
        = (maybeChangeValue (virtEnv env) fuel n v).run.run (logged es (started n (virt g s))) := by
  have hnd := some_of_lt hn
  obtain ⟨hSK, hvk, hkk⟩ := (F.kind n hn).static hk
  rw [hkk] at hkids
  obtain ⟨vals, hvals⟩ := valuesOf_of_isSome env s _ fun a ha => (hkids a ha).2
  obtain ⟨v, evs, hc⟩ := computes_static n hSK hvar hvals
  have hvk' : (virtNode (g n) (s.nodeD n)).kind = (s.nodeD n).kind := by rw [virtNode_kind, hvk]
  have hc' : Computes (virtEnv env) (virt g s) n (virtNode (g n) (s.nodeD n)) v _ evs :=
    hc.transfer hSK hvk' rfl (valuesOf_virt env s _ fun a ha => (hkids a ha).1)
      (fun f args hf => ⟨funext (virtEnv_fn_real env (by have := F.kind n hn; rw [hf] at this; exact this.1)), rfl⟩) fun _ _ _ _ => rfl
  exact ⟨v, evs, recomputeOne_run_of_computes hnd (F.valid n hn) F.pc hc hSK,
    recomputeOne_run_of_computes (by rw [virt_getElem?, hnd]; rfl) (by rw [virtNode_valid]; exact F.valid n hn) F.pc hc'
      (by rw [hvk']; exact hSK)⟩

theorem recomputeOne_sim {env : Env} {s s' : State} {fuel n : Nat} {r : Option Nat}
    (F : RFrag env s) (hfr : Fr s) (hn : n < s.nodes.size)
    (hk : ∀ p i, (s.nodeD n).kind ≠ .mapRef p i)
    (hvar : ∀ c, (s.nodeD n).kind = .var c → ∃ vc, s.vars[c]? = some vc)
    (hkids : ∀ a, a ∈ kidsR (s.nodeD n).kind → tv g s a = s.value env a ∧ (s.value env a).isSome = true)
    (h : (recomputeOne env fuel n).run.run s = (.ok r, s')) :
    (recomputeOne (virtEnv env) fuel n).run.run (virt g s) = (.ok r, virt g s') ∧ Fr s' := by
  obtain ⟨v, evs, ha, hv⟩ := recomputeOne_both (g := g) (fuel := fuel) F hn hk hvar hkids
  rw [ha] at h
  rw [hv, ← virt_started, ← virt_logged]
  have hk' : ∀ p i, ((logged evs (started n s)).nodeD n).kind ≠ .mapRef p i := by
    intro p i
    show ((started n s).nodeD n).kind ≠ _
    rw [started_nodeD]; split <;> exact hk p i
  exact SimAt.maybeChangeValue hk' ((hfr.started n).logged evs) r s' h

/-! ## a map_ref node -/

/-- node `n` after the actual recompute of a map_ref node has dropped its value and lowered its flag -/
def cleared (n : Nat) (s : State) : State :=
  { s with nodes := s.nodes.modify n fun x => { x with value := none, didChange := false } }

theorem recomputeOne_mapRef_run {env : Env} {fuel n : Nat} {s : State} {nd : Node} {p i : Nat}
    (hn : s.nodes[n]? = some nd) (hv : nd.valid = true) (hk : nd.kind = .mapRef p i) :
    (recomputeOne env fuel n).run.run s =
      (maybeChangeValueManual env fuel n none nd.didChange false).run.run (cleared n (started n s)) := by
  have hk? : ({ nd with recomputedAt := s.stabNum } : Node).kind? = some (.mapRef p i) := by
    simp [Node.kind?, hv, hk]
  have hn' := started_getElem? n s nd hn
  unfold recomputeOne
  simp only [run_bind_get]
  cases hd : s.cfg.debug
  all_goals
    simp only [started, hd, Bool.false_eq_true, if_false, if_true, run_bind_modify,
      run_bind_bumpCounter, run_bind_get, run_bind_modNode] at hn' ⊢
    rw [run_bind_ok (run_getNode_some hn'), hk?]
    dsimp only
    rw [run_bind_modNode]
    rfl

end
end IncrVerif.Proofs.MapRefH
