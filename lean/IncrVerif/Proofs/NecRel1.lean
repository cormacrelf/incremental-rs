import IncrVerif.Proofs.Heights
/-!
# NecRel1 — "a debug assertion that passes is a no-op": the simulation calculus

`erase s` is the release-mode twin of a state: `cfg.debug := false` and the debug-only field
`currentlyRunning` cleared.  `Sim x` says: whenever `x` returns normally from `s` (whatever `s.cfg.debug` is),
`x` returns the same value from `erase s`, in the state `erase s'`.  The calculus below (bind, get, modify,
loops, …) and the tactic `sim` push this through the monadic structure of the engine functions.
-/
namespace IncrVerif.Proofs.NecRel
open IncrVerif.Engine IncrVerif.Proofs

/-- the release-mode twin of a state -/
def erase (s : State) : State := { s with cfg := { debug := false }, currentlyRunning := none }

theorem erase_erase (s : State) : erase (erase s) = erase s := rfl
theorem erase_debug (s : State) : (erase s).cfg.debug = false := rfl

/-- `x`'s normal outcomes survive the erasure of the debug switch -/
def Sim {α} (x : M α) : Prop :=
  ∀ (s s' : State) (a : α), x.run.run s = (.ok a, s') → x.run.run (erase s) = (.ok a, erase s')

theorem Sim.pure {α} (a : α) : Sim (Pure.pure a : M α) := by
  intro s s' b h
  rw [run_pure] at h ⊢
  cases h; rfl

theorem Sim.throw {α} (e : Panic) : Sim (throw e : M α) := by
  intro s s' b h
  cases h

theorem Sim.panic {α} (site : String) : Sim (Engine.panic site : M α) := by
  intro s s' b h
  cases h

theorem Sim.bind {α β} {x : M α} {f : α → M β} (hx : Sim x) (hf : ∀ a, Sim (f a)) : Sim (x >>= f) := by
  intro s s' b h
  rw [run_bind] at h ⊢
  rcases hx1 : x.run.run s with ⟨r, s1⟩
  rw [hx1] at h
  cases r with
  | error e => cases h
  | ok a =>
    rw [hx s s1 a hx1]
    exact hf a s1 s' b h

/-- pointwise rule for a block that starts by reading the state -/
theorem Sim.get_bind_pt {β} {k : State → M β}
    (h : ∀ s s' b, (k s).run.run s = (.ok b, s') → (k (erase s)).run.run (erase s) = (.ok b, erase s')) :
    Sim (get >>= k) := by
  intro s s' b hr
  rw [run_bind, run_get] at hr ⊢
  exact h s s' b hr

/-- a block that starts by reading the state and uses neither `cfg` nor `currentlyRunning` of what it read -/
theorem Sim.get_bind {β} {k : State → M β} (hk : ∀ s, k (erase s) = k s) (h : ∀ s, Sim (k s)) :
    Sim (get >>= k) := by
  apply Sim.get_bind_pt
  intro s s' b hr
  rw [hk]
  exact h s s s' b hr

theorem Sim.modify (f : State → State) (hf : ∀ s, f (erase s) = erase (f s)) : Sim (modify f : M Unit) := by
  intro s s' b h
  rw [run_modify] at h ⊢
  cases h
  rw [hf]

theorem Sim.ite {α} (c : Prop) [Decidable c] {x y : M α} (hx : Sim x) (hy : Sim y) :
    Sim (if c then x else y) := by
  split <;> assumption

theorem Sim.forIn {α β} (l : List α) (init : β) (f : α → β → M (ForInStep β))
    (hf : ∀ a b, Sim (f a b)) : Sim (forIn l init f) := by
  induction l generalizing init with
  | nil => simp only [List.forIn_nil]; exact Sim.pure _
  | cons a l ih =>
    rw [List.forIn_cons]
    apply Sim.bind (hf a init)
    intro r
    cases r with
    | done b => exact Sim.pure _
    | yield b => exact ih b

theorem Sim.mapM {α β} (f : α → M β) (hf : ∀ a, Sim (f a)) (l : List α) : Sim (l.mapM f) := by
  induction l with
  | nil => rw [List.mapM_nil]; exact Sim.pure _
  | cons a l ih =>
    rw [List.mapM_cons]
    apply Sim.bind (hf a)
    intro b
    apply Sim.bind ih
    intro bs
    exact Sim.pure _

theorem Sim.map {α β} (g : α → β) {x : M α} (hx : Sim x) : Sim (g <$> x) := by
  rw [map_eq_pure_bind]
  apply Sim.bind hx
  intro a
  exact Sim.pure _

theorem Sim.discard {α} {x : M α} (hx : Sim x) : Sim (discard x) := by
  unfold Functor.discard
  rw [LawfulFunctor.map_const]
  exact Sim.map _ hx

/-- the assertion combinators -/
theorem sim_assertM (c : Bool) (site : String) : Sim (assertM c site) := by
  intro s s' b h
  rw [run_assertM] at h ⊢
  cases c with
  | false => cases h
  | true => cases h; rfl

/-- **a debug assertion that passes is a no-op** -/
theorem sim_dassert (c : Bool) (site : String) : Sim (dassert c site) := by
  intro s s' b h
  rw [run_dassert] at h ⊢
  rw [erase_debug]
  split at h
  · cases h
  · cases h; simp

/-! ## pure state functions that recurse with a state-dependent fuel: they do not read the erased fields -/

theorem valueWith_erase (proj : Nat → Val → Val) (s : State) (fuel n : Nat) :
    (erase s).valueWith proj fuel n = s.valueWith proj fuel n := by
  induction fuel generalizing n with
  | zero => rfl
  | succ fuel ih =>
    simp only [State.valueWith]
    have : (erase s).nodeD n = s.nodeD n := rfl
    rw [this]
    split
    · rw [ih]
    · rfl

theorem value_erase (env : Env) (s : State) (n : Nat) : (erase s).value env n = s.value env n :=
  valueWith_erase env.proj s _ n

theorem tryGetValue_erase (env : Env) (s : State) (o : Nat) :
    (erase s).tryGetValue env o = s.tryGetValue env o := by
  unfold State.tryGetValue
  simp only [value_erase]
  rfl

theorem nodeUpdate_erase (env : Env) (s : State) (n : Nat) :
    (erase s).nodeUpdate env n = s.nodeUpdate env n := by
  unfold State.nodeUpdate
  simp only [value_erase]
  rfl

theorem aliveSet_erase (s : State) : (erase s).aliveSet = s.aliveSet := rfl
theorem isAlive_erase (s : State) (n : Nat) : (erase s).isAlive n = s.isAlive n := rfl

/-- extensible: closes a goal `Sim x` by a `Sim` lemma registered with `macro_rules` -/
syntax "sim_lemma" : tactic
macro_rules | `(tactic| sim_lemma) => `(tactic| exact sim_dassert _ _)
macro_rules | `(tactic| sim_lemma) => `(tactic| exact sim_assertM _ _)

/-- the side condition "this block does not read the erased fields" -/
macro "sim_side" : tactic => `(tactic| first
  | exact fun _ => rfl
  | (intro s
     simp only [value_erase, tryGetValue_erase, nodeUpdate_erase, aliveSet_erase, isAlive_erase] <;> rfl))

set_option hygiene false in
/-- induction hypotheses, by their conventional names -/
macro "sim_ih" : tactic => `(tactic| with_reducible first
  | exact ih | exact ih _ | exact ih _ _ | exact ih _ _ _ | exact ih _ _ _ _ | exact ih _ _ _ _ _
  | exact ih1 _ | exact ih1 _ _ | exact ih1 _ _ _
  | exact ih2 _ | exact ih2 _ _ | exact ih2 _ _ _ | exact ih2 _ _ _ _
  | exact ih3 _ | exact ih3 _ _)

macro "sim_step" : tactic => `(tactic| first
  | assumption
  | with_reducible exact Sim.pure _
  | with_reducible exact Sim.throw _
  | with_reducible exact Sim.panic _
  | ((with_reducible refine Sim.modify _ ?_); sim_side)
  | ((with_reducible refine Sim.get_bind ?hk ?h); (case hk => sim_side); intro _)
  | with_reducible apply Sim.forIn
  | with_reducible apply Sim.mapM
  | with_reducible apply Sim.map
  | with_reducible apply Sim.discard
  | with_reducible apply Sim.bind
  | with_reducible intro _
  | sim_ih
  | with_reducible sim_lemma
  | split
  | dsimp only)

macro "sim" : tactic => `(tactic| repeat' sim_step)

end IncrVerif.Proofs.NecRel
