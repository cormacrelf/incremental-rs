import IncrVerif.Proofs.PerKeyH2
import IncrVerif.Proofs.Ownership
/-!
# A necessary node is alive

`perKeyDriver` calls `expertMakeStale node` only `if (← get).isAlive node`.  During a stabilisation of our fragment a
necessary node is alive: it has an observer in use (a root) or a parent entry, whose parent is necessary and holds it
strongly; parents are strictly higher in a bounded rank.
-/
namespace IncrVerif.Proofs.PerKeyH
open IncrVerif.Engine IncrVerif.Proofs IncrVerif.Proofs.Step IncrVerif.Proofs.Sched IncrVerif.Proofs.Own

/-- every child edge is a strong reference (whether or not the node is valid) -/
theorem children_sub_refsOf (s : State) (p c : Nat) (h : c ∈ s.children p) : c ∈ s.refsOf p := by
  unfold State.children at h
  unfold State.refsOf
  unfold Node.kind? at h
  cases hv : (s.nodeD p).valid with
  | false => simp [hv] at h
  | true =>
    simp only [hv, if_true] at h
    cases hk : (s.nodeD p).kind with
    | const v => simp [hk] at h
    | var v => simp [hk] at h
    | map f args => simpa [hk] using h
    | mapRef f i => simpa [hk] using h
    | mapWithOld f i => simpa [hk] using h
    | fold f i cs => simpa [hk] using h
    | bindLhsChange b =>
      simp only [hk] at h ⊢
      cases hb : s.binds[b]? with
      | none => simp [hb] at h
      | some br =>
        simp only [hb, List.mem_singleton] at h
        simp [h]
    | bindMain b lc =>
      simp only [hk] at h ⊢
      cases hb : s.binds[b]? with
      | none =>
        simp only [hb, List.mem_singleton] at h
        simp [h]
      | some br =>
        simp only [hb, List.mem_cons] at h
        rcases h with h | h
        · simp [h]
        · exact List.mem_cons_of_mem _ (List.mem_cons_of_mem _ h)
    | expert e =>
      simp only [hk] at h ⊢
      cases he : s.experts[e]? with
      | none => simp [he] at h
      | some er => simpa [he] using h

/-- an observer that is in use or disallowed makes its node a root -/
theorem observer_root (s : State) (o : Nat) (ob : ObsRec) (h : s.observers[o]? = some ob)
    (hst : ob.state = .inUse ∨ ob.state = .disallowed) : ob.node ∈ s.roots := by
  unfold State.roots
  apply List.mem_append_left
  apply List.mem_append_right
  rw [List.mem_filterMap]
  refine ⟨ob, ?_, ?_⟩
  · rw [Array.mem_toList_iff]
    exact Array.mem_of_getElem? h
  · rcases hst with h1 | h1 <;> simp [h1]

/-- A NECESSARY NODE IS ALIVE.  Hypotheses: no `forceNecessary`; a parent entry is a child edge of a necessary parent
(`BindH.BGraph.parent`); parents are strictly higher in a rank bounded by `K` on parents; a listed observer is in use
or disallowed (`QR.ObsInv.mem`, left to right). -/
theorem nec_alive {s : State} {rk : Nat → Nat} {K : Nat}
    (hforce : ∀ m, (s.nodeD m).forceNecessary = false)
    (hpar : ∀ c p i, (p, i) ∈ (s.nodeD c).parents → s.isNecessary p = true ∧ (s.children p)[i]? = some c)
    (hrk : ∀ c p i, (p, i) ∈ (s.nodeD c).parents → rk c < rk p ∧ rk p ≤ K)
    (hobs : ∀ m o, o ∈ (s.nodeD m).observers →
      ∃ ob, s.observers[o]? = some ob ∧ ob.node = m ∧ (ob.state = .inUse ∨ ob.state = .disallowed))
    {n : Nat} (hn : s.isNecessary n = true) : s.isAlive n = true := by
  rw [isAlive_iff]
  -- a necessary node without parent entries has an observer, which is a root
  have root : ∀ n, s.isNecessary n = true → (s.nodeD n).parents = [] → Reach s n := by
    intro n hn hps
    unfold State.isNecessary Node.isNecessary at hn
    rw [hforce n, Bool.or_false, hps] at hn
    cases hos : (s.nodeD n).observers with
    | nil => rw [hos] at hn; simp at hn
    | cons o rest =>
      obtain ⟨ob, h1, h2, h3⟩ := hobs n o (by rw [hos]; exact List.mem_cons_self)
      exact h2 ▸ ReachG.root (observer_root s o ob h1 h3)
  suffices H : ∀ d n, K + 1 - rk n ≤ d → s.isNecessary n = true → Reach s n from H _ n (Nat.le_refl _) hn
  intro d
  induction d with
  | zero =>
    intro n hd hn
    -- `rk n ≥ K + 1`: no parent entry possible
    cases hps : (s.nodeD n).parents with
    | cons pi rest =>
      obtain ⟨p, i⟩ := pi
      have := hrk n p i (by rw [hps]; exact List.mem_cons_self)
      omega
    | nil => exact root n hn hps
  | succ d ih =>
    intro n hd hn
    cases hps : (s.nodeD n).parents with
    | cons pi rest =>
      obtain ⟨p, i⟩ := pi
      have hmem : (p, i) ∈ (s.nodeD n).parents := by rw [hps]; exact List.mem_cons_self
      have hr := hrk n p i hmem
      obtain ⟨hpn, hch⟩ := hpar n p i hmem
      have hp : Reach s p := ih p (by omega) hpn
      exact ReachG.step hp (children_sub_refsOf s p n (List.mem_of_getElem? hch))
    | nil => exact root n hn hps

/-- the form the loop of `perKeyDriver` needs -/
theorem parents_alive {s : State} {rk : Nat → Nat} {K : Nat}
    (hforce : ∀ m, (s.nodeD m).forceNecessary = false)
    (hpar : ∀ c p i, (p, i) ∈ (s.nodeD c).parents → s.isNecessary p = true ∧ (s.children p)[i]? = some c)
    (hrk : ∀ c p i, (p, i) ∈ (s.nodeD c).parents → rk c < rk p ∧ rk p ≤ K)
    (hobs : ∀ m o, o ∈ (s.nodeD m).observers →
      ∃ ob, s.observers[o]? = some ob ∧ ob.node = m ∧ (ob.state = .inUse ∨ ob.state = .disallowed))
    {p : Nat} (hp : (s.nodeD p).parents ≠ []) : s.isAlive p = true := by
  apply nec_alive hforce hpar hrk hobs
  unfold State.isNecessary Node.isNecessary
  cases h : (s.nodeD p).parents with
  | nil => exact absurd h hp
  | cons a b => rfl

/-! ## instances: heights as the rank -/

theorem exists_bound (f : Nat → Nat) (n : Nat) : ∃ K, ∀ m, m < n → f m ≤ K := by
  induction n with
  | zero => exact ⟨0, fun m h => absurd h (Nat.not_lt_zero _)⟩
  | succ n ih =>
    obtain ⟨K, hK⟩ := ih
    refine ⟨max K (f n), fun m hm => ?_⟩
    rcases Nat.lt_succ_iff_lt_or_eq.mp hm with h | h
    · exact Nat.le_trans (hK m h) (Nat.le_max_left _ _)
    · subst h; exact Nat.le_max_right _ _

/-- the fragment has no `forceNecessary` node -/
theorem PFrag.force_all {env : Env} {s : State} (hf : PFrag env s) (m : Nat) :
    (s.nodeD m).forceNecessary = false := by
  by_cases h : m < s.nodes.size
  · exact hf.force m h
  · rw [nodeD_default_of_ge s m (Nat.le_of_not_lt h)]; rfl

/-- with the structural invariant of `BindH`: the rank is the height -/
theorem nec_alive_BGraph {env : Env} {s : State} (hg : BindH.BGraph env s)
    (hforce : ∀ m, (s.nodeD m).forceNecessary = false)
    (hobs : ∀ m o, o ∈ (s.nodeD m).observers →
      ∃ ob, s.observers[o]? = some ob ∧ ob.node = m ∧ (ob.state = .inUse ∨ ob.state = .disallowed))
    {n : Nat} (hn : s.isNecessary n = true) : s.isAlive n = true := by
  obtain ⟨K, hK⟩ := exists_bound (fun m => ((s.nodeD m).height + 1).toNat) s.nodes.size
  refine nec_alive (rk := fun m => ((s.nodeD m).height + 1).toNat) (K := K) hforce hg.parent ?_ hobs hn
  intro c p i hmem
  obtain ⟨hpn, hch⟩ := hg.parent c p i hmem
  obtain ⟨hcn, _, hlt⟩ := hg.child p hpn i c hch
  have h0 := (hg.nec c hcn).2
  refine ⟨?_, hK p (Step.nec_lt_size hpn)⟩
  show ((s.nodeD c).height + 1).toNat < ((s.nodeD p).height + 1).toNat
  omega

/-- the statement in the fragment: `PFrag`, `BGraph` and the observer bookkeeping `ObsInv` of `ExpertH11` -/
theorem nec_alive_frag {env env' : Env} {s : State} {pn pd : List Nat} (hf : PFrag env' s)
    (hg : BindH.BGraph env s) (ho : ExpertH.QR.ObsInv s pn pd)
    {n : Nat} (hn : s.isNecessary n = true) : s.isAlive n = true :=
  nec_alive_BGraph hg hf.force_all (fun m o h => (ho.mem m o).mp h) hn

theorem parents_alive_frag {env env' : Env} {s : State} {pn pd : List Nat} (hf : PFrag env' s)
    (hg : BindH.BGraph env s) (ho : ExpertH.QR.ObsInv s pn pd)
    {p : Nat} (hp : (s.nodeD p).parents ≠ []) : s.isAlive p = true := by
  apply nec_alive_frag hf hg ho
  unfold State.isNecessary Node.isNecessary
  cases h : (s.nodeD p).parents with
  | nil => exact absurd h hp
  | cons a b => rfl

end IncrVerif.Proofs.PerKeyH
