import IncrVerif.Proofs.MapOld30
/-!
# C17 at every operator step of a reachable drain state (definitions tables of the history language)

In any state of a drain that satisfies the drain invariant `DInvW` (every state of a `stabilise` of a history of the
fragment does), the recompute step of an operator node logs exactly the user-function calls `opCalls d g σ old x`, where
`x` is the CURRENT value of the node's input and `(σ, old)` — the node's closure state and stored output — is either the
state of a fresh node or `(x0, opSpec d g x0)` for the canonical input `x0` THE OPERATOR LAST RAN ON.
-/
namespace IncrVerif.Proofs.MapOldH
open IncrVerif IncrVerif.Engine IncrVerif.Driver IncrVerif.MapOps IncrVerif.Proofs IncrVerif.Proofs.Step IncrVerif.Proofs.Sched IncrVerif.Proofs.Quiet

theorem toEnv_withOldCalls_op (d : Defs) {g : Nat} (hg : opBase ≤ g) (σ : Val) (old : Option Val) (x : Val) :
    d.toEnv.withOldCalls g σ old x = opCalls d g σ old x := by
  show (if g ≥ opBase then opCalls d g σ old x else []) = _
  rw [if_pos hg]

/-- the `inv` events of one operator step, most recent first -/
def callEvents (n : Nat) (calls : List (String × List Val × String)) : List Event :=
  (calls.map fun c => Event.inv c.1 n c.2.1 c.2.2).reverse

/-- **C17, engine level.** -/
theorem operator_step_calls {d : Defs} {fuel n g i : Nat} {s s' : State} {r : Option Nat}
    (D : DInvW d.toEnv Canon (machSpec d) s (some n)) (hk : (s.nodeD n).kind = .mapWithOld g i)
    (hg : opBase ≤ g) (h : (recomputeOne d.toEnv fuel n).run.run s = (.ok r, s')) :
    ∃ x tail, (s.nodeD i).value = some x ∧ Canon x ∧
      s'.log = tail ++ callEvents n (opCalls d g (s.nodeD n).oldState (s.nodeD n).value x) ++ s.log ∧
      (∀ e, e ∈ tail → Noise e) ∧
      (((s.nodeD n).oldState = .unit ∧ (s.nodeD n).value = none) ∨
        (Canon (s.nodeD n).oldState ∧ (s.nodeD n).value = some (opSpec d g (s.nodeD n).oldState))) := by
  have F := D.frag
  have hlt := F.lt_of_mwo hk
  obtain ⟨x, hx⟩ := Inv.kids_some D.inv i (by rw [hk]; simp [kidsW])
  have hxv : s.value d.toEnv i = some x := by rw [F.value i]; exact hx
  obtain ⟨tail, hlog, hnoise⟩ := mwo_step_log hlt (F.valid n hlt) hk hxv F.pc h
  refine ⟨x, tail, hx, D.m.vals i x hx, ?_, hnoise, ?_⟩
  · rw [hlog]
    have hng : ¬ g < opBase := by omega
    simp only [woEvents, hng, if_false, toEnv_withOldCalls_op d hg, callEvents]
  · exact (opSt_iff d g _ _).1 (opReach d g hg _ _ (D.m.mach n g i hk))

/-! ## every `recomputeOne` of a drain happens in a state with the drain invariant -/

/-- induction principle over the steps of a drain: a reflexive, transitive relation that holds across every pop and
across every `recomputeOne` on the current node of a state with the drain invariant holds across the whole drain -/
theorem drain_steps_ind {env : Env} {C : Val → Prop} {sp : Nat → Val → Val} (V : ValOK env C sp)
    (P : State → State → Prop) (hrefl : ∀ s, P s s) (htrans : ∀ a b c, P a b → P b c → P a c)
    (hpop : ∀ s r s1, DInvW env C sp s none → rchRemoveMin.run.run s = (.ok r, s1) → P s s1)
    (hstep : ∀ s n fuel r s', DInvW env C sp s (some n) → (recomputeOne env fuel n).run.run s = (.ok r, s') → P s s') :
    ∀ (fuel : Nat) (s s' : State), DInvW env C sp s none → (drainHeap env fuel).run.run s = (.ok (), s') → P s s' := by
  intro fuel s s' D h
  obtain ⟨s1, D1, p, hl, -⟩ := Drain.drainHeap_run (I := fun x t => DInvW env C sp t x) (T := fun _ => P) (htrans _ _ _)
    (fun fuel n t r t' D h => ⟨(recomputeOneW_inv V D h).1, hstep t n fuel r t' D h⟩)
    (fun t n t' D h => by
      obtain ⟨hv, F1, M1, hp1⟩ := popW D h
      exact ⟨⟨F1, (pop_inv D.inv hv).1, M1, hp1⟩, hpop t (some n) t' D h⟩)
    (fun t _ => hrefl t) fuel s s' D h
  exact htrans _ _ _ p (hpop s1 none s' D1 hl)

end IncrVerif.Proofs.MapOldH
