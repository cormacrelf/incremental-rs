import IncrVerif.Proofs.NestH68
import IncrVerif.Proofs.NestH70
import IncrVerif.Proofs.NestH74
import IncrVerif.Proofs.NestH67
/-!
# Nested binds (F2), END TO END, part b: "generations are current" and the specification-level semantics over whole histories

`QG2 env s := QI2 env s ∧ GenOK2 env s` is kept by every API action of the fragment (`step_F2`); at every `stabilise` of a history every in-use observer reads
`den2` — evaluate the lhs of each bind, run the closure on that value, evaluate the template it returns, inner binds recursively (`history_stabilise_F2`).
-/
namespace IncrVerif.Proofs.NestH
open IncrVerif.Engine IncrVerif.Driver IncrVerif.Proofs IncrVerif.Proofs.Step IncrVerif.Proofs.Sched IncrVerif.Proofs.Quiet
open IncrVerif.Proofs.BindH

/-- the closure run registers exactly the image of the closure's template -/
theorem closure_elab2' (env : Env) : ClosureElabSpec2 env := closure_elab2 env

/-- the invariant between API actions, with "generations are current" -/
def QG2 (env : Env) (s : State) : Prop := QI2 env s ∧ GenOK2 env s

/-- **`GenOK2` is kept by a run of a change detector** -/
theorem lc_gen2' {env : Env} {fuel n b : Nat} {rk : Nat → Nat} {s s' : State} {r : Option Nat}
    (I : DInv env s (some n)) (A : F2Inv env rk s) (G : GenOK2 env s) (hk : (s.nodeD n).kind = .bindLhsChange b)
    (h : (recomputeOne env fuel n).run.run s = (.ok r, s')) : GenOK2 env s' :=
  N5g.lc_gen2 (closure_spec2 env) (relink_spec2 env) (inval_spec2 env) (closure_elab2 env) I A G hk h

/-- **after a `stabilise` every in-use observer reads the specification-level from-scratch value `den2` of its node** -/
theorem stabilise_reads_den2' {env : Env} {fuel : Nat} {s s' : State} (Q : QI2 env s) (G : GenOK2 env s)
    (h : (stabilise env fuel).run.run s = (.ok (), s')) :
    ∀ (o : Nat) (ob : ObsRec), s'.observers[o]? = some ob → ob.state = .inUse →
      ∃ v, s'.tryGetValue env o = .ok v ∧ ∃ K, ∀ k, K ≤ k → den2 env s' k ob.node = some v :=
  stabilise_reads_den2 (closure_spec2 env) (relink_spec2 env) (inval_spec2 env) (closure_elab2 env) Q G h

/-- **Every API action of the fragment keeps the invariant.** -/
theorem step_F2 {env : Env} {s s' : State} {a : Action} {tokens : Array Nat} {r : String × Array Nat}
    (Q : QG2 env s) (ha : ActionF2 env s.top.size a) (h : (stepAction env a tokens).run.run s = (.ok r, s')) :
    QG2 env s' :=
  ⟨step_q2' Q.1 ha h,
    step_gen2 (closure_spec2 env) (relink_spec2 env) (inval_spec2 env) (closure_elab2 env) Q.1 Q.2 ha h⟩

theorem qg2_init (env : Env) (N : Nat) (d : Bool) : QG2 env (State.init N d) :=
  ⟨qi2_init env N d, genOK2_init env N d⟩

theorem histF2_stepG {env : Env} {a : Action} {rest : List Action} {s s' : State} {tk : Array Nat} {r : String × Array Nat}
    (i : QG2 env s ∧ HistF2 env s.top.size (a :: rest)) (hx : (stepAction env a tk).run.run s = (.ok r, s')) :
    QG2 env s' ∧ HistF2 env s'.top.size rest :=
  ⟨step_F2 i.1 i.2.1 hx, by rw [N4h.top_step2 i.1.1 i.2.1 hx]; exact i.2.2⟩

/-- **Whole histories.** Every state reached from the initial state by a history of the fragment (that runs without panic) satisfies the invariant. -/
theorem history_F2 {env : Env} {N : Nat} {d : Bool} {acts : List Action} {s : State} {tk : Array Nat}
    (hH : HistF2 env 0 acts) (h : Quiet.runActions env acts (State.init N d) #[] = .ok (s, tk)) : QG2 env s :=
  (Hist.runActions_inv (I := fun s _ rest => QG2 env s ∧ HistF2 env s.top.size rest) (fun _ _ _ _ _ _ => histF2_stepG)
    ⟨qg2_init env N d, hH⟩ h).1

/-- **Every `stabilise` of a history.** At each `stabilise` action of a history of the fragment that runs from the initial state: the state `s1` before it satisfies
the invariant; the `stabilise` returns a state `s2` with all conclusions of `stabilise_F2'` (invariant again, values = `evalB`, the drain ran no node twice and no node of
a dying generation of any depth); and every in-use observer reads the FROM-SCRATCH value `den2` of its node. -/
theorem history_stabilise_F2 {env : Env} {N : Nat} {d : Bool} {as bs : List Action} {s : State} {tk : Array Nat}
    (hH : HistF2 env 0 (as ++ Action.stabilise :: bs))
    (h : Quiet.runActions env (as ++ Action.stabilise :: bs) (State.init N d) #[] = .ok (s, tk)) :
    ∃ s1 tk1 s2, Quiet.runActions env as (State.init N d) #[] = .ok (s1, tk1) ∧ QG2 env s1 ∧
      (stabilise env fuelDefault).run.run s1 = (.ok (), s2) ∧ Stabilised2 env fuelDefault s1 s2 ∧ QG2 env s2 ∧
      (∀ (o : Nat) (ob : ObsRec), s2.observers[o]? = some ob → ob.state = .inUse →
        ∃ v, s2.tryGetValue env o = .ok v ∧ ∃ K, ∀ k, K ≤ k → den2 env s2 k ob.node = some v) ∧
      Quiet.runActions env bs s2 tk1 = .ok (s, tk) := by
  obtain ⟨s1, tk1, s2, h1, ⟨Q1, -⟩, hst, ⟨Q2, -⟩, h2⟩ :=
    Hist.runActions_stabilise (I := fun s _ rest => QG2 env s ∧ HistF2 env s.top.size rest) (fun _ _ _ _ _ _ => histF2_stepG)
      ⟨qg2_init env N d, hH⟩ h
  exact ⟨s1, tk1, s2, h1, Q1, hst, stabilise_F2' Q1.1 hst, Q2, stabilise_reads_den2' Q1.1 Q1.2 hst, h2⟩

/-- the nested example history is a history of the fragment, it runs, and every state it reaches satisfies the invariant -/
theorem exHistN_F2 : HistF2 nEnv 0 exHistN ∧
    (∃ s tk, Quiet.runActions nEnv exHistN (State.init 128 true) #[] = .ok (s, tk) ∧ QG2 nEnv s) := by
  refine ⟨exHistN_frag, ?_⟩
  obtain ⟨s, tk, h⟩ := exHistN_runs
  exact ⟨s, tk, h, history_F2 exHistN_frag h⟩

end IncrVerif.Proofs.NestH
