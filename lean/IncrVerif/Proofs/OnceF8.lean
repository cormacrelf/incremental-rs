import IncrVerif.Proofs.OnceF3
import IncrVerif.Proofs.NestH122
/-!
# C02, combined fragment, part 8: INPUTS BEFORE OUTPUTS — no child of a node runs after the node in the same drain

`SKid s n c`: `c` is a child of `n` in `s` whose edge cannot be re-pointed — every child of a map / fold / map_ref / map_with_old node, the lhs of a change detector, the change
detector of a bind's main node (NOT the current rhs of a main node: that edge is re-pointed by the change detector's run).
`PathF.order`: in the list of steps of a drain of the combined fragment (`FullH.PathF`), whenever step `p` comes before step `q`, the node of `q` is not such a child (taken at the
moment `p` ran) of the node of `p`.  Proof: the node of `p` keeps its stamp and its validity (`FrameB.ran`), existing nodes keep their kind and bind records their lhs
(`NestH.N7k.BKey`, preserved by every engine function), so the edge still exists when `q` runs, and `DInv.fresh` (nothing above the current node has run in this round) is
contradicted.
-/
namespace IncrVerif.Proofs.OnceF
open IncrVerif.Engine IncrVerif.Driver IncrVerif.Proofs IncrVerif.Proofs.Step IncrVerif.Proofs.Sched IncrVerif.Proofs.Quiet
open IncrVerif.Proofs.FullH IncrVerif.Proofs.TidyH
open IncrVerif.Proofs.BindH (DInv FrameB RanOnceB Edge Below)
open IncrVerif.Proofs.NestH.N7k

/-- `c` is a child of `n` whose edge is not re-pointed while `n` stays valid -/
def SKid (s : State) (n c : Nat) : Prop :=
  c ∈ s.children n ∧ ∀ b lc, (s.nodeD n).kind = .bindMain b lc → c = lc

/-- "the node of the later step `q` is no stable child of the node of the earlier step `p`" -/
def Ord (p q : Nat × State) : Prop := ∀ c, SKid p.2 p.1 c → q.1 ≠ c

/-- a stable child is still a child later, as long as the node is valid -/
theorem kid_stable {s s' : State} {n c : Nat} (K : BKey s s') (hn : n < s.nodes.size) (hv : (s.nodeD n).valid = true)
    (hv' : (s'.nodeD n).valid = true) (hx : ∀ e, (s.nodeD n).kind ≠ .expert e) (h : SKid s n c) : c ∈ s'.children n := by
  obtain ⟨hc, hm⟩ := h
  have hk := K.kind n hn
  have hk1 : (s.nodeD n).kind? = some (s.nodeD n).kind := by simp [Node.kind?, hv]
  have hk2 : (s'.nodeD n).kind? = some (s.nodeD n).kind := by simp [Node.kind?, hv', hk]
  unfold State.children at hc ⊢
  rw [hk1] at hc
  rw [hk2]
  cases hkd : (s.nodeD n).kind with
  | const v => rw [hkd] at hc; cases hc
  | var v => rw [hkd] at hc; cases hc
  | map f args => rw [hkd] at hc; exact hc
  | mapRef p i => rw [hkd] at hc; exact hc
  | mapWithOld m i => rw [hkd] at hc; exact hc
  | fold f i cs => rw [hkd] at hc; exact hc
  | expert e => exact absurd hkd (hx e)
  | bindLhsChange b =>
    rw [hkd] at hc
    simp only at hc ⊢
    cases hb : s.binds[b]? with
    | none => rw [hb] at hc; cases hc
    | some br =>
      rw [hb] at hc
      obtain ⟨br', k1, -, k3⟩ := K.binds b br hb
      rw [k1]
      simp only [List.mem_singleton] at hc ⊢
      rw [k3]; exact hc
  | bindMain b lc =>
    have := hm b lc hkd
    subst this
    simp only
    cases s'.binds[b]? with
    | none => simp
    | some br' => simp

section
variable {env : Env} {sp : Nat → Val → Val}

/-- the core: `n` ran in state `a` (it was the current node there), it is stamped and valid in the later state `b` where `c'` is the current node: `c'` is no stable child of `n` -/
theorem ord_core {t a b : State} {ga gb : Nat → Option Val} {n c' : Nat} (Da : DInvF env sp t a ga (some n))
    (Db : DInvF env sp t b gb (some c')) (K : BKey a b)
    (hst : ((virt gb b).nodeD n).recomputedAt = (virt gb b).stabNum) (hvb : ((virt gb b).nodeD n).valid = true) :
    Ord (n, a) (c', b) := by
  intro c hk e
  simp only at hk e
  subst e
  obtain ⟨-, hlt, hv, -, -⟩ := Da.inv.cur_facts
  rw [virt_size] at hlt
  have hva : (a.nodeD n).valid = true := by rw [virt_nodeD, virtNode_valid] at hv; exact hv
  have hvb' : (b.nodeD n).valid = true := by rw [virt_nodeD, virtNode_valid] at hvb; exact hvb
  have hx : ∀ e, (a.nodeD n).kind ≠ .expert e := by
    intro e he
    have := (Da.inv.graph.node n (by rw [virt_size]; exact hlt) hv).1
    rw [virt_nodeD, virtNode_kind, he] at this
    exact this
  have hmem := kid_stable K hlt hva hvb' hx hk
  have hedge : Edge (virt gb b) n c' := Edge.child (by rw [virt_children]; exact hmem)
  have := Db.inv.fresh n c' (Below.of_edge hedge) (Or.inr rfl)
  omega

/-- **INPUTS BEFORE OUTPUTS, the drain of the combined fragment**: the node of the earlier step keeps its stamp and its validity (`StepF.later`), the kinds and the
bind records are kept by every run (`PresBK`) -/
theorem PathF.order {t : State} {l : List (Nat × State)} {a c : (Nat → Option Val) × State} {x z : Option Nat}
    (h : PathF env sp t l a x c z) : l.Pairwise Ord := by
  refine h.pairwise fun n r a b l c z s k q hq => ?_
  obtain ⟨_, _, u, _, _, -, k1, -, sq, -⟩ := k.of_mem hq
  obtain ⟨fuel, hr⟩ := s.run
  have K : BKey a.2 u.2 := PreOrd.trans ((PresBK.recomputeOne env fuel n).h _ _ _ hr)
    (PathF.pres PresBK.rchRemoveMin (PresBK.recomputeOne env) k1)
  obtain ⟨h1, h2⟩ := s.later k1
  have o : Ord (n, a.2) (q.1, u.2) :=
    ord_core s.inv sq.inv K (by rw [(PathF.frameB k1).stabNum, s.fr.stabNum]; exact h1) h2
  exact o

end
end IncrVerif.Proofs.OnceF
