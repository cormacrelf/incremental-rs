import IncrVerif.Proofs.TidyH39
/-!
# Converse simulation, part 4: one `recomputeOne` of a node that is not an expert node (mirror of ExpertH29)
-/
namespace IncrVerif.Proofs.TidyH.XT
namespace XR
open IncrVerif.Engine IncrVerif.Driver IncrVerif.Proofs IncrVerif.Proofs.Step IncrVerif.Proofs.Sched
open IncrVerif.Proofs.ExpertH

theorem FrR.started {s : State} (h : FrR s) (n : Nat) : FrR (started n s) :=
  FrR.of_nodes (frr_modify h n (fun x => { x with recomputedAt := s.stabNum }) fun _ => ⟨rfl, rfl⟩) rfl rfl rfl rfl

theorem FrR.logged {s : State} (h : FrR s) (es : List Event) : FrR (logged es s) := FrR.of_nodes h rfl rfl rfl rfl

/-- both steps reduce to `maybe_change_value` from corresponding states -/
theorem recomputeOne_simR_finish {env : Env} {s t : State} {fuel n : Nat} {r : Option Nat} {es : List Event} {v : Val}
    (hfr : FrR s) (hne : ∀ e, (s.nodeD n).kind ≠ .expert e) (hes : ∀ e, e ∈ es → keepEv e = true)
    (ha : (recomputeOne env fuel n).run.run s
      = (maybeChangeValue env fuel n v).run.run (logged es (started n s)))
    (hv : (recomputeOne (virtEnv env) fuel n).run.run (virt s)
      = (maybeChangeValue (virtEnv env) fuel n v).run.run (logged es (started n (virt s))))
    (h : (recomputeOne (virtEnv env) fuel n).run.run (virt s) = (.ok r, t)) :
    ∃ s', (recomputeOne env fuel n).run.run s = (.ok r, s') ∧ t = virt s' ∧ FrR s' := by
  rw [hv, ← virt_started n s hne, ← virt_logged es _ hes] at h
  rw [ha]
  exact SimR.maybeChangeValue env fuel n v _ ((hfr.started n).logged es) r t h

/-- one `recomputeOne` of a node of the fragment that is not an expert node: if the virtual step returns, so does
the actual step -/
theorem recomputeOne_simR {env : Env} {s t : State} {fuel n : Nat} {r : Option Nat}
    (hfr : FrR s) (hn : n < s.nodes.size) (hxk : XKind env (s.nodeD n).kind)
    (hne : ∀ e, (s.nodeD n).kind ≠ .expert e)
    (h : (recomputeOne (virtEnv env) fuel n).run.run (virt s) = (.ok r, t)) :
    ∃ s', (recomputeOne env fuel n).run.run s = (.ok r, s') ∧ t = virt s' ∧ FrR s' := by
  have hnd := some_of_lt hn
  have hval := hfr.fr.valid n
  have hpc := hfr.fr.pc
  have hvn : (virt s).nodes[n]? = some (s.nodeD n) := by
    rw [virt_getElem?, hnd]; simp only [Option.map_some]; rw [virtNode_of_not_expert _ _ hne]
  have hSK := hxk.static hne
  have hSK' : StaticKind (virtEnv env) (s.nodeD n).kind := by
    cases hkd : (s.nodeD n).kind <;> rw [hkd] at hSK <;> exact hSK
  obtain ⟨v, evs, hc'⟩ := computes_of_ok hvn hval hSK' h
  have hc : Computes env s n (s.nodeD n) v (s.nodeD n).oldState evs :=
    Computes.transfer (env := virtEnv env) (env' := env) (s := virt s) (S := s) hc' hSK' rfl rfl
      (valuesOf_virt env s hfr.fr _).symm (fun _ _ _ => ⟨rfl, rfl⟩) fun f init cs hk =>
      (virtEnv_foldStep_real env (by rw [hk] at hxk; exact hxk)).symm
  exact recomputeOne_simR_finish hfr hne (keepEv_of_computes hc hSK) (recomputeOne_run_of_computes hnd hval hpc hc hSK)
    (recomputeOne_run_of_computes hvn hval hpc hc' hSK') h

end XR
end IncrVerif.Proofs.TidyH.XT
