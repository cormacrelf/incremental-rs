import IncrVerif.Proofs.Life1
/-!
# Observer lifecycle over whole histories, part 2: effects, recompute, handlers; the two observer
phases, `stabilise` and every API action

* generic in `R` (`ObsLocal R`): operator closures, `childChanged`, `maybeChangeValue`, …
* `DisLocal R`: `ObsLocal R` for which `disallow_future_use` is a step; then everything user effects can
  do is a step: `runEffects`, `recomputeOne`, `recompute`, `drainHeap` (generic in `R`).
* `Pres Dis` for `runAll`, `stabiliseEnd`; `Pres Life` for `addNewObservers`,
  `unlinkDisallowedObservers`, `stabilise`, `stepAction` (every action).
-/
namespace IncrVerif.Proofs.Life
open IncrVerif.Engine IncrVerif.Proofs.Obs
open IncrVerif.Proofs.Step (run_bind_ok run_throw run_modObs)

/-! ## operator closures, change propagation: generic in the relation -/
section
variable {R : State → State → Prop} [ObsLocal R]

theorem PresD.parentIterCanRecomputeNow (p c) : Pres R (parentIterCanRecomputeNow p c) :=
  PresD.of_foot (Footprint.Foot.parentIterCanRecomputeNow p c) (by decide)
life_leaf PresD.parentIterCanRecomputeNow
theorem PresD.maybeChangeValue (env fuel n v) : Pres R (maybeChangeValue env fuel n v) :=
  PresD.of_foot ((Footprint.Foot.maybeChangeValue env fuel n v).weaken (fun _ h => h) fun _ _ => trivial) (by decide)
life_leaf PresD.maybeChangeValue
end

/-! ## `disallow_future_use` is the one `Dis` step that moves a state -/

theorem run_bumpCounter (f : Counters → Counters) (s : State) :
    (bumpCounter f).run.run s = (.ok (), { s with counters := f s.counters }) := Step.run_bumpCounter f s

/-- the state after `disallow_future_use o` on an in-use observer -/
def afterDisInUse (s : State) (o : Nat) : State :=
  { s with
    counters := { s.counters with activeObservers := s.counters.activeObservers - 1 },
    observers := s.observers.modify o fun x => { x with state := .disallowed },
    disallowedObservers := s.disallowedObservers ++ [o] }

/-- the state after `disallow_future_use o` on a created observer -/
def afterDisCreated (s : State) (o : Nat) : State :=
  { s with
    counters := { s.counters with activeObservers := s.counters.activeObservers - 1 },
    observers := s.observers.modify o fun x => { x with state := .unlinked, handlers := [] } }

/-- `disallow_future_use`, in closed form -/
theorem disallowFutureUse_run (s : State) (o : Nat) :
    (disallowFutureUse o).run.run s =
      match s.observers[o]? with
      | none => (.error (.site "model:no-such-observer"), s)
      | some ob => match ob.state with
        | .created => (.ok (), afterDisCreated s o)
        | .inUse => (.ok (), afterDisInUse s o)
        | .disallowed => (.ok (), s)
        | .unlinked => (.ok (), s) := by
  cases h : s.observers[o]? with
  | none => exact disallow_out_of_range s o h
  | some ob =>
    unfold disallowFutureUse
    rw [run_bind_ok (run_getObs_some h)]
    cases hst : ob.state <;>
      simp only [hst, run_bind, run_bumpCounter, run_modObs, run_modify, run_pure] <;> rfl

theorem Dis.disInUse (s : State) (o : Nat) (ob : ObsRec) (h : s.observers[o]? = some ob)
    (hst : ob.state = .inUse) : Dis s (afterDisInUse s o) := by
  have hmod : ∀ m, (afterDisInUse s o).observers[m]? =
      if o = m then (s.observers[m]?).map (fun x => { x with state := .disallowed })
      else s.observers[m]? := by
    intro m; simp only [afterDisInUse, Array.getElem?_modify]
  refine ⟨by simp [afterDisInUse], fun m x e => ?_, rfl, [o], rfl, by simp, fun m => ?_⟩
  · rw [hmod]
    split
    · rename_i hm; subst hm
      rw [e]
      rw [h] at e; cases e
      exact ⟨_, rfl, rfl, rfl, .inr (by rw [hst]; rfl), .inl rfl⟩
    · exact ⟨x, e, RecDis.refl _⟩
  · constructor
    · intro hm
      have hm : m = o := by simpa using hm
      subst hm
      exact ⟨ob, _, h, by rw [hmod, if_pos rfl, h]; rfl, hst, rfl⟩
    · rintro ⟨x, x', e, e', u, d⟩
      rw [hmod] at e'
      split at e'
      · rename_i hm; simp [hm]
      · rw [e] at e'; cases e'; rw [u] at d; cases d

theorem Dis.disCreated (s : State) (o : Nat) (ob : ObsRec) (h : s.observers[o]? = some ob)
    (hst : ob.state = .created) : Dis s (afterDisCreated s o) := by
  have hmod : ∀ m, (afterDisCreated s o).observers[m]? =
      if o = m then (s.observers[m]?).map (fun x => { x with state := .unlinked, handlers := [] })
      else s.observers[m]? := by
    intro m; simp only [afterDisCreated, Array.getElem?_modify]
  refine ⟨by simp [afterDisCreated], fun m x e => ?_, rfl, [], by simp [afterDisCreated],
    List.nodup_nil, fun m => ⟨fun hm => absurd hm List.not_mem_nil, ?_⟩⟩
  · rw [hmod]
    split
    · rename_i hm; subst hm
      rw [e]
      rw [h] at e; cases e
      exact ⟨_, rfl, rfl, rfl, .inr (by rw [hst]; rfl), .inr ⟨hst, rfl, rfl⟩⟩
    · exact ⟨x, e, RecDis.refl _⟩
  · rintro ⟨x, x', e, e', u, d⟩
    rw [hmod] at e'
    split at e'
    · rename_i hm; subst hm
      rw [e] at e'; cases e'; cases d
    · rw [e] at e'; cases e'; rw [u] at d; cases d

theorem PresD.disallowFutureUse (o) : Pres Dis (disallowFutureUse o) := by
  constructor
  intro s r s' h
  rw [disallowFutureUse_run] at h
  split at h
  · cases h; exact Dis.refl _
  · rename_i ob hob
    split at h <;> cases h
    · rename_i hst; exact Dis.disCreated s o ob hob hst
    · rename_i hst; exact Dis.disInUse s o ob hob hst
    · exact Dis.refl _
    · exact Dis.refl _

/-- relations for which `disallow_future_use` is a step: everything user effects can do is then a step -/
class DisLocal (R : State → State → Prop) : Prop extends ObsLocal R where
  disallow : ∀ o, Pres R (disallowFutureUse o)

instance : DisLocal Dis := ⟨PresD.disallowFutureUse⟩

theorem PresE.disallowFutureUse {R : State → State → Prop} [DisLocal R] (o) :
    Pres R (disallowFutureUse o) := DisLocal.disallow o
life_leaf PresE.disallowFutureUse

/-- `Dis` does not look at the log -/
theorem PresD.logEv_any (e) : Pres Dis (Engine.logEv e) := by
  unfold Engine.logEv; exact Pres.modify fun _ => Dis.of_eq rfl rfl rfl
life_leaf PresD.logEv_any

/-! ## effects, recompute: generic in the relation -/
section
variable {R : State → State → Prop} [DisLocal R]

/-- `disallow_future_use` as a whole is a step of a `DisLocal` relation; the other calls are made of writes that no `ObsLocal` relation sees -/
theorem DisLocal.of_call {L w} (hL : ∀ t ∈ L, t ∉ obsWrites) {s s' : State} (c : Footprint.Call L w s s') : R s s' := by
  cases c with
  | edit e => exact ObsLocal.of_edit hL e
  | call _ c =>
    have : Step.PreOrd R := ⟨PreOrd.refl, PreOrd.trans⟩
    have hs := c.steps (w := fun _ => True)
    cases c with
    | disallow s o h => exact (DisLocal.disallow o).h _ _ _ h
    | createNode | mark | markNotified | touch | setHeight => exact hs.lift (ObsLocal.of_edit (by decide))

/-- a function that makes none of the writes in `obsWrites` outside `disallow_future_use` keeps every `DisLocal` relation -/
theorem PresE.of_foot {L α} {m : M α} (hm : Footprint.Foot L (fun _ => True) m) (hL : ∀ t ∈ Footprint.partsB L, t ∉ obsWrites) :
    Pres R m :=
  have : Step.PreOrd R := ⟨PreOrd.refl, PreOrd.trans⟩
  ⟨(hm.calls (DisLocal.of_call hL)).h⟩

theorem PresD.runEffects (env fuel effs arg) : Pres R (runEffects env fuel effs arg) :=
  PresE.of_foot (Footprint.Foot.runEffects env fuel effs arg) (by decide)
life_leaf PresD.runEffects
theorem PresD.recomputeOne (env fuel n) : Pres R (recomputeOne env fuel n) :=
  PresE.of_foot ((Footprint.Foot.recomputeOne env fuel n).weaken (fun _ h => h) fun _ _ => trivial) (by decide)
theorem PresD.recompute (env fuel n) : Pres R (recompute env fuel n) := PresE.of_foot (Footprint.Foot.recompute env fuel n) (by decide)
theorem PresD.drainHeap (env fuel) : Pres R (drainHeap env fuel) := PresE.of_foot (Footprint.Foot.drainHeap env fuel) (by decide)
life_leaf PresD.drainHeap
end

/-! ## handlers -/

/-- the `prev` update of `run_all` keeps every registration -/
theorem RecDis.setPrev (x : ObsRec) (g : HandlerRec → HandlerRec) (hg : ∀ h, hkey (g h) = hkey h) :
    RecDis x { x with handlers := x.handlers.map g } := by
  refine ⟨rfl, rfl, .inl rfl, .inl ?_⟩
  simp only [List.map_map]
  exact List.map_congr_left fun h _ => hg h

theorem PresD.modObs_setPrev (o : Nat) (g : HandlerRec → HandlerRec) (hg : ∀ h, hkey (g h) = hkey h) :
    Pres Dis (modObs o fun x => { x with handlers := x.handlers.map g }) := by
  unfold Engine.modObs
  refine Pres.modify fun s => Dis.modObs s o _ fun x => ⟨RecDis.setPrev x g hg, ?_⟩
  rintro ⟨u, d⟩
  rw [u] at d; cases d

macro_rules
  | `(tactic| lleaf) =>
    `(tactic| ((with_reducible apply PresD.modObs_setPrev); intro h; dsimp only [hkey]; split <;> rfl))

theorem PresD.runAll (env fuel o n nu now) : Pres Dis (runAll env fuel o n nu now) := by
  unfold Engine.runAll; lpres
life_leaf PresD.runAll
theorem PresD.stabiliseEnd (env fuel) : Pres Dis (stabiliseEnd env fuel) := by
  unfold Engine.stabiliseEnd; lpres
life_leaf PresD.stabiliseEnd

/-! ## `Life` for everything -/

theorem PresL.ofDis {α} {m : M α} (h : Pres Dis m) : Pres Life m := h.mono fun _ _ q => q.life
theorem PresL.ofFrameS {α} {m : M α} (h : Pres FrameS m) : Pres Life m :=
  h.mono fun _ _ q => Life.of_frame q.toFrame

macro_rules | `(tactic| lleaf) => `(tactic| ((with_reducible apply PresL.ofDis); lleaf))
macro_rules
  | `(tactic| lleaf) =>
    `(tactic| ((with_reducible apply Pres.modify); intro _; exact Life.of_eq rfl))

theorem Life.of_push {s s' : State} (ob : ObsRec) (h : s'.observers = s.observers.push ob) :
    Life s s' := by
  refine ⟨by simp [h], fun m x e => ?_⟩
  have hlt : m < s.observers.size := (Array.getElem?_eq_some_iff.1 e).1
  refine ⟨x, ?_, rfl, lifeLe_refl _⟩
  simp [h, Array.getElem?_push, Nat.ne_of_lt hlt, e]

theorem lifeLe_unlinked (a : ObsState) : lifeLe a .unlinked := by cases a <;> decide

theorem PresL.modObs (o : Nat) (f : ObsRec → ObsRec)
    (hf : ∀ x, (f x).node = x.node ∧ lifeLe x.state (f x).state) : Pres Life (modObs o f) := by
  unfold Engine.modObs; exact Pres.modify fun s => Life.modObs s o f hf

macro_rules
  | `(tactic| lleaf) =>
    `(tactic| ((with_reducible apply PresL.modObs); intro x; exact ⟨rfl, by first | exact lifeLe_refl _ | exact lifeLe_unlinked _⟩))

/-- the first half of the loop body of `add_new_observers`: created ↦ in use -/
theorem PresL.getObs_match {β} (o : Nat) (k1 k2 : M β) (k3 : M β) (f : ObsRec → ObsRec)
    (k4 : ObsRec → M β)
    (hf : ∀ x : ObsRec, x.state = .created → (f x).node = x.node ∧ lifeLe x.state (f x).state)
    (h1 : Pres Life k1) (h2 : Pres Life k2) (h3 : Pres Life k3) (h4 : ∀ ob, Pres Life (k4 ob)) :
    Pres Life (getObs o >>= fun ob => match ob.state with
      | .inUse => k1 | .disallowed => k2 | .unlinked => k3
      | .created => Engine.modObs o f >>= fun _ => k4 ob) := by
  constructor
  intro s r s' h
  cases hob : s.observers[o]? with
  | none => rw [run_bind_error (run_getObs_none hob)] at h; cases h; exact Life.refl _
  | some ob =>
    rw [run_bind_ok (run_getObs_some hob)] at h
    cases hst : ob.state <;> simp only [hst] at h
    · rw [run_bind, run_modObs] at h
      refine Life.trans ?_ ((h4 ob).h _ _ _ h)
      refine ⟨by simp, fun m x e => ?_⟩
      simp only [Array.getElem?_modify, e]
      split
      · rename_i hm; subst hm
        rw [hob] at e; cases e
        exact ⟨f ob, rfl, (hf ob hst).1, (hf ob hst).2⟩
      · exact ⟨x, rfl, rfl, lifeLe_refl _⟩
    · exact h1.h _ _ _ h
    · exact h2.h _ _ _ h
    · exact h3.h _ _ _ h

/-- `add_new_observers`: created ↦ in use -/
theorem PresL.addNewObservers (env fuel) : Pres Life (addNewObservers env fuel) := by
  unfold Engine.addNewObservers
  apply Pres.bind Pres.get; intro _
  apply Pres.bind
  · lpres
  intro _
  apply Pres.bind _ (fun _ => Pres.pure _)
  apply Pres.forIn; intro o _
  refine PresL.getObs_match o _ _ _ _ _ (fun x hx => ⟨rfl, by rw [hx]; exact (by decide : lifeLe .created .inUse)⟩) ?_ ?_ ?_ fun ob => ?_
  all_goals lpres
/-- `unlink_disallowed_observers`: (disallowed) ↦ unlinked -/
theorem PresL.unlinkDisallowedObservers (fuel) : Pres Life (unlinkDisallowedObservers fuel) := by
  unfold Engine.unlinkDisallowedObservers; lpres
life_leaf PresL.addNewObservers
life_leaf PresL.unlinkDisallowedObservers

theorem PresL.stabilise (env fuel) : Pres Life (stabilise env fuel) := by
  unfold Engine.stabilise; lpres
life_leaf PresL.stabilise

theorem PresL.subscribe (o h) : Pres Life (subscribe o h) := PresL.ofFrameS (Pres.subscribe o h)
theorem PresL.unsubscribe (o t w) : Pres Life (unsubscribe o t w) :=
  PresL.ofFrameS (Pres.unsubscribe o t w)
life_leaf PresL.subscribe
life_leaf PresL.unsubscribe

macro_rules
  | `(tactic| lleaf) =>
    `(tactic| ((with_reducible apply Pres.modify); intro _; exact Life.of_push _ rfl))

/-- every API action, every outcome -/
theorem PresL.stepAction (env : Env) (a : Action) (tokens : Array Nat) :
    Pres Life (stepAction env a tokens) := by
  cases a <;> (simp only [Engine.stepAction]; lpres)

end IncrVerif.Proofs.Life
