import IncrVerif.Proofs.PerKeyH53
/-!
# A run of a per-key change detector, part 7d: the frame from `s` to the final state `s'`, the bookkeeping invariant
`PKOK env s'`
-/
namespace IncrVerif.Proofs.PerKeyH
open IncrVerif.Engine IncrVerif.Driver IncrVerif.Proofs IncrVerif.Proofs.Step IncrVerif.Proofs.Sched
open IncrVerif.Proofs.ExpertH IncrVerif.Proofs.EffH IncrVerif.Proofs.DriverH IncrVerif.Proofs.ExpertH.QR
open IncrVerif.Proofs.Xp

/-! ## frames -/

theorem bf_of_sf (D : Nat → Prop) {a b : State} (sf : SF a b)
    (hst : ∀ m e, m < a.nodes.size → (a.nodeD m).kind = .expert e → ((V a).nodeD m).recomputedAt = -1 →
      ((V b).nodeD m).recomputedAt = -1) : BF D a b := by
  refine ⟨Nat.le_of_eq sf.size.symm, fun x _ => sf.kind x, sf.top, fun e er he => ?_, hst⟩
  obtain ⟨er', he', -, h2, h3, h4, -⟩ := sf.xf.xrec he
  exact ⟨er', he', h2, h4, fun _ => h3, [], by rw [h3, List.append_nil]⟩

section
variable {env : Env} {s s2 s' : State} {n op eres fuel : Nat} {pr : PerKeyRec} {m : List (Int × Int)} {r : Option Nat}

/-- the final static step of the change detector keeps the virtual stamps of the expert nodes -/
theorem lc_stamp_final (B : LcBase env s n op pr eres) (E : LE env s n op pr eres m s2) {ch : Bool} {r0 : Int}
    (R : BindH.StepRelB n .unit ch r (unstamp n r0 (V s2)) (V s')) :
    ∀ x e, x < s2.nodes.size → (s2.nodeD x).kind = .expert e → ((V s2).nodeD x).recomputedAt = -1 →
      ((V s').nodeD x).recomputedAt = -1 := by
  intro x e _ hk hs
  obtain ⟨-, -, -, -, -, -, -, -, -, hnlt, hnk⟩ := B.facts
  have hxn : x ≠ n := by
    rintro rfl
    rw [(lf_old E.lf hnlt).1, hnk] at hk
    cases hk
  have O := R.other x hxn
  rw [unstamp_other _ _ _ hxn] at O
  rw [O.recomputedAt]; exact hs

/-- the bookkeeping frame of the whole run -/
theorem lc_bf (B : LcBase env s n op pr eres) (E : LE env s n op pr eres m s2) {ch : Bool} {r0 : Int}
    (R : BindH.StepRelB n .unit ch r (unstamp n r0 (V s2)) (V s')) (sf : SF s2 s') :
    BF (fun e => e = eres) s s' :=
  ((bf_started _ n s B.n_not_expert).trans E.lf.bf).trans (bf_of_sf _ sf (lc_stamp_final B E R))

/-- the old nodes after the whole run -/
theorem lc_old_final (E : LE env s n op pr eres m s2) {ch : Bool} {r0 : Int}
    (R : BindH.StepRelB n .unit ch r (unstamp n r0 (V s2)) (V s')) (sf : SF s2 s') {x : Nat}
    (hx : x < s.nodes.size) :
    (s'.nodeD x).kind = (s.nodeD x).kind ∧ (s'.nodeD x).observers = (s.nodeD x).observers ∧
    (s'.nodeD x).valid = (s.nodeD x).valid ∧
    (x ≠ n → (s'.nodeD x).value = (s.nodeD x).value ∧ (s'.nodeD x).changedAt = (s.nodeD x).changedAt ∧
      ((∀ e, (s.nodeD x).kind ≠ .expert e) → (s'.nodeD x).recomputedAt = (s.nodeD x).recomputedAt)) := by
  obtain ⟨k1, -, -, k4, k5, k6, k7, -, -, k10⟩ := lf_old E.lf hx
  obtain ⟨-, h2, -, -, -, h6, -⟩ := shape_actualV (lc_shv R) x
  refine ⟨(sf.kind x).trans k1, h6.trans k7, h2.trans k5, fun hxn => ?_⟩
  have O := R.other x hxn
  rw [unstamp_other _ _ _ hxn] at O
  refine ⟨?_, ?_, fun hne => ?_⟩
  · have := O.value; rw [V_nodeD, V_nodeD] at this; exact this.trans k4
  · have := O.changedAt; rw [V_nodeD, V_nodeD] at this; exact this.trans k6
  · have := O.recomputedAt
    rw [V_recomputedAt_of_not_expert s' x (fun e he => hne e (by rw [← k1, ← sf.kind]; exact he)),
      V_recomputedAt_of_not_expert s2 x (fun e he => hne e (by rw [← k1]; exact he)), k10, if_neg hxn] at this
    exact this

/-- the conversion node of any operator is not the running change detector -/
theorem LcBase.conv_ne (B : LcBase env s n op pr eres) {op' x e : Nat} {pr' : PerKeyRec}
    (N : OpNodes s op' pr' x e) : pr'.result - 1 ≠ n ∧ pr'.result - 1 < s.nodes.size ∧ x ≠ n ∧ x < s.nodes.size := by
  obtain ⟨-, -, -, -, -, -, -, -, -, -, hnk⟩ := B.facts
  have h0 := N.lt
  have h1 := N.xlt
  refine ⟨?_, by omega, ?_, by omega⟩
  · intro h
    have := N.conv
    rw [h, hnk] at this
    injection this with e1 e2
    simp only [fnIdent, fnPerKey] at e1
    omega
  · rintro rfl
    obtain ⟨c, hc⟩ := N.xvar
    rw [hnk] at hc; cases hc

/-- the change detector of another operator is not the running change detector -/
theorem LcBase.lc_ne (B : LcBase env s n op pr eres) {op' x e : Nat} {pr' : PerKeyRec}
    (N : OpNodes s op' pr' x e) (hne : op' ≠ op) : pr'.lhsChange ≠ n ∧ pr'.lhsChange < s.nodes.size ∧
      (s.nodeD pr'.lhsChange).kind = .map (fnPerKey + op') [pr'.result - 1] := by
  obtain ⟨-, -, -, -, -, -, -, -, -, -, hnk⟩ := B.facts
  have h0 := N.lt
  have hk : (s.nodeD pr'.lhsChange).kind = .map (fnPerKey + op') [pr'.result - 1] := by
    rw [N.lc]; exact N.lcKind
  refine ⟨?_, by rw [N.lc]; omega, hk⟩
  intro h
  rw [h, hnk] at hk
  injection hk with e1 e2
  exact hne (by omega)

/-- the staleness of the change detector of another operator is unchanged by the whole run -/
theorem lc_stale_other (B : LcBase env s n op pr eres) (E : LE env s n op pr eres m s2) {ch : Bool} {r0 : Int}
    (R : BindH.StepRelB n .unit ch r (unstamp n r0 (V s2)) (V s')) (sf : SF s2 s') {op' x e : Nat}
    {pr' : PerKeyRec} (N : OpNodes s op' pr' x e) (hne : op' ≠ op) :
    s'.isStale pr'.lhsChange = s.isStale pr'.lhsChange := by
  obtain ⟨h1, h2, hk⟩ := B.lc_ne N hne
  obtain ⟨c1, c2, -, -⟩ := B.conv_ne N
  obtain ⟨k1, -, k3, k4⟩ := lc_old_final E R sf h2
  obtain ⟨-, -, k6⟩ := k4 h1
  refine isStale_map_congr hk (by rw [k1]; exact hk) k3 (k6 fun e he => by rw [hk] at he; cases he) fun c hc => ?_
  rw [List.mem_singleton] at hc
  subst hc
  exact ((lc_old_final E R sf c2).2.2.2 c1).2.1

/-! ## the operator records -/

/-- the operator records of the final state -/
theorem lc_perkeys (E : LE env s n op pr eres m s2) (sf : SF s2 s') {op' : Nat} {pr' : PerKeyRec}
    (h : s'.perkeys[op']? = some pr') :
    (op' = op ∧ ∃ pn, pr' = { pr with prevNodes := pn, prevMap := m }) ∨ (op' ≠ op ∧ s.perkeys[op']? = some pr') := by
  rw [sf.perkeys] at h
  by_cases hop : op' = op
  · subst hop
    obtain ⟨pn, hpn⟩ := E.pop
    rw [hpn] at h
    cases h
    exact Or.inl ⟨rfl, pn, rfl⟩
  · rw [E.pother op' hop] at h
    exact Or.inr ⟨hop, h⟩

/-- **the bookkeeping of the running operator in the final state** -/
theorem lc_opok_self (B : LcBase env s n op pr eres) (E : LE env s n op pr eres m s2) {ch : Bool} {r0 : Int}
    (R : BindH.StepRelB n .unit ch r (unstamp n r0 (V s2)) (V s')) (sf : SF s2 s') {pr2 : PerKeyRec}
    (h2 : s2.perkeys[op]? = some pr2) : OpOK env s' op pr2 := by
  obtain ⟨pn, hpn⟩ := E.pop
  rw [hpn] at h2
  cases h2
  have C := E.core _ hpn
  have C' : OpCore env s' op { pr with prevNodes := pn, prevMap := m } :=
    C.bf_same_size (bf_of_sf (fun _ => False) sf (lc_stamp_final B E R)) E.frag sf.size
      (fun e er er' he he' => by
        obtain ⟨er1, he1, -, -, h3, -⟩ := sf.xf.xrec he
        rw [he'] at he1; cases he1; exact h3)
      (fun x _ => (shape_actualV (lc_shv R) x).2.2.2.2.2.1)
  refine C'.toOK (E.dom _ hpn) fun _ => ?_
  obtain ⟨x0, -, hN, -⟩ := B.facts
  obtain ⟨c1, c2, -, -⟩ := B.conv_ne hN
  show (s'.nodeD (pr.result - 1)).value = some (.map m)
  rw [((lc_old_final E R sf c2).2.2.2 c1).1]
  exact E.conv

/-- **the bookkeeping of another operator in the final state** -/
theorem lc_opok_other (B : LcBase env s n op pr eres) (E : LE env s n op pr eres m s2) {ch : Bool} {r0 : Int}
    (R : BindH.StepRelB n .unit ch r (unstamp n r0 (V s2)) (V s')) (sf : SF s2 s') {op' : Nat} {pr' : PerKeyRec}
    (hne : op' ≠ op) (hp : s.perkeys[op']? = some pr') : OpOK env s' op' pr' := by
  have A := B.pd.aux
  have H := A.pk.ops op' pr' hp
  obtain ⟨x, e, er, hN, -⟩ := H.nodes
  obtain ⟨c1, c2, -, -⟩ := B.conv_ne hN
  refine OpOK.bf_other (lc_bf B E R sf) A.frag B.hop hp hne B.opok B.hres H
    (fun x hx => (lc_old_final E R sf hx).2.1) ?_ ?_ (lc_stale_other B E R sf hN hne)
    ((lc_old_final E R sf c2).2.2.2 c1).1
  · intro c x hc1 hc2 hx
    rw [sf.xf.kidsX] at hx
    rw [sf.size] at hc2
    exact E.newKids c x hc1 hc2 hx
  · intro er er' he he' ed hed
    obtain ⟨er2, he2, -, -, h3, -⟩ := sf.xf.xrec_back he'
    rw [h3] at hed
    exact E.resKids er er2 he he2 ed hed

theorem lf_observers {D : Nat → Prop} (lf : LF D (started n s) s2) : s2.observers = s.observers := by
  have h := lf.key.trans (eKey_started n s)
  simp only [eKey, Prod.mk.injEq] at h
  exact h.2.2.2.2.2.2.1

/-- **part C, `pk`**: the bookkeeping invariant of the final state -/
theorem lc_pkok (B : LcBase env s n op pr eres) (E : LE env s n op pr eres m s2) {ch : Bool} {r0 : Int}
    (R : BindH.StepRelB n .unit ch r (unstamp n r0 (V s2)) (V s')) (sf : SF s2 s') : PKOK env s' := by
  have A := B.pd.aux
  obtain ⟨pn, hpn⟩ := E.pop
  refine ⟨fun op' pr' h => ?_, ?_, ?_, fun x f args hx hk hf => ?_, fun o ob ho => ?_, fun op' pr' h v hv => ?_⟩
  · -- ops
    rw [sf.perkeys] at h
    by_cases hop : op' = op
    · subst hop; exact lc_opok_self B E R sf h
    · rw [E.pother op' hop] at h
      exact lc_opok_other B E R sf hop h
  · -- recs
    refine recsOK_bf (op := op) A.pk.recs (fun e er he => ?_) (fun e er' he' => ?_) (fun op' pr' hp => ?_)
      (fun e er' hge he' => ?_)
    · obtain ⟨er', he', h1, h2, -⟩ := (lc_bf B E R sf).xrec e er he
      exact ⟨er', he', h2, h1⟩
    · by_cases he : e < s.experts.size
      · exact Or.inl ⟨s.experts[e], Array.getElem?_eq_getElem he⟩
      · exact Or.inr (Nat.le_of_not_lt he)
    · by_cases hop : op' = op
      · subst hop
        rw [B.hop] at hp; cases hp
        exact ⟨{ pr with prevNodes := pn, prevMap := m }, by rw [sf.perkeys]; exact hpn, rfl,
          fun ⟨k, p, d⟩ hx => E.pnOld _ hpn k p d hx⟩
      · exact ⟨pr', by rw [sf.perkeys, E.pother op' hop]; exact hp, rfl, fun _ h => h⟩
    · obtain ⟨er2, he2, -, h2, -, h4, -⟩ := sf.xf.xrec_back he'
      obtain ⟨pr2, key, d, k1, k2, k3⟩ := E.newrec e er2 hge he2
      exact ⟨pr2, key, d, by rw [sf.perkeys]; exact k1, by rw [h4]; exact k2, by rw [h2]; exact k3⟩
  · -- pot
    obtain ⟨ψ, hψ⟩ := E.pot
    exact ⟨ψ, hψ.of_frame sf.size sf.xf.kidsX sf.top sf.perkeys⟩
  · -- lcs
    rw [sf.size] at hx
    rw [sf.kind] at hk
    rw [sf.perkeys]
    by_cases hxs : x < s.nodes.size
    · rw [(lf_old E.lf hxs).1] at hk
      obtain ⟨pr0, hp0, hl0⟩ := A.pk.lcs x f args hxs hk hf
      by_cases hop : f - fnPerKey = op
      · rw [hop] at hp0 ⊢
        rw [B.hop] at hp0; cases hp0
        exact ⟨{ pr with prevNodes := pn, prevMap := m }, hpn, hl0⟩
      · exact ⟨pr0, by rw [E.pother _ hop]; exact hp0, hl0⟩
    · have := (lf_new E.lf (Nat.le_of_not_lt hxs) hx).notLc f args hk
      omega
  · -- obsTop
    rw [sf.stObservers, lf_observers E.lf] at ho
    rw [sf.top, (lf_key E.lf).2.2.2.1]
    exact A.pk.obsTop o ob ho
  · -- maps
    rw [sf.perkeys] at h
    by_cases hop : op' = op
    · subst hop
      rw [hpn] at h; cases h
      obtain ⟨x0, -, hN, -⟩ := B.facts
      obtain ⟨c1, c2, -, -⟩ := B.conv_ne hN
      have hv' : (s.nodeD (pr.result - 1)).value = some v := by
        rw [← ((lc_old_final E R sf c2).2.2.2 c1).1]; exact hv
      exact A.pk.maps op' pr B.hop v hv'
    · rw [E.pother op' hop] at h
      obtain ⟨x, e, er, hN, -⟩ := (A.pk.ops op' pr' h).nodes
      obtain ⟨c1, c2, -, -⟩ := B.conv_ne hN
      exact A.pk.maps op' pr' h v (by rw [← ((lc_old_final E R sf c2).2.2.2 c1).1]; exact hv)

end

end IncrVerif.Proofs.PerKeyH
