import IncrVerif.Proofs.FullT4
/-!
# C04 combined fragment: bisimulation of the notification walk, part 1 (twin of `FullH9`)
(`tick`, `bumpCounter`, `shouldCutoff`, `childChanged`, `parentIterCanRecomputeNow`)

The one place where the actual engine does MORE than the virtual one: `child_changed` on a valid `map_ref` parent re-projects, raises the flag and walks on through the
recorded parents of the parent.  `childChanged_returns`: it returns — given `PInv` (indices increase along the chain), the changed node READS a value, and `MRPV`:
the recorded parents of a valid `map_ref` node are valid (the virtual run never looks at them).
-/
namespace IncrVerif.Proofs.FullT
set_option linter.unusedSectionVars false
open IncrVerif.Engine IncrVerif.Proofs IncrVerif.Proofs.Step IncrVerif.Proofs.Sched IncrVerif.Proofs.Quiet IncrVerif.Proofs.FullH

section
variable {K : Kind → Prop} {P : State → Prop} [Keeps P] {g : Nat → Option Val} {sp : Nat → Val → Val}

theorem BSim.tick : BSim K P g Engine.tick Engine.tick :=
  .of_comm (Sim.tick) fun s0 => (blindT s0).tick _
macro_rules | `(tactic| bsim_leaf) => `(tactic| with_reducible exact BSim.tick)

theorem BSim.bumpCounter (f : Counters → Counters) : BSim K P g (Engine.bumpCounter f) (Engine.bumpCounter f) :=
  .of_comm (Sim.bumpCounter f) fun s0 => NodeSim.Comm.bumpCounter (blindT s0) f
macro_rules | `(tactic| bsim_leaf) => `(tactic| with_reducible exact BSim.bumpCounter _)

/-- the cutoff test of an EXACT node (its actual cutoff is the virtual one) -/
theorem BSimAt.shouldCutoff (env : Env) (n : Nat) (o v : Val) {s : State}
    (hc : (s.nodeD n).cutoff = virtCut (s.nodeD n).kind (s.nodeD n).cutoff) :
    BSimAt K P g s (Engine.shouldCutoff env n o v) (Engine.shouldCutoff (virtEnv env sp) n o v) := by
  unfold Engine.shouldCutoff; simp only [virtEnv_cutoff]
  refine BSimAt.getNode_seq fun nd hnd hne => ?_
  fnorm
  rw [nodeD_of_some hnd] at hc
  rw [← hc]
  split <;> bsim

theorem BSim.parentIterCanRecomputeNow (p child : Nat) :
    BSim K P g (Engine.parentIterCanRecomputeNow p child) (Engine.parentIterCanRecomputeNow p child) :=
  .of_comm (Sim.parentIterCanRecomputeNow p child) fun s0 => NodeSim.Comm.parentIterCanRecomputeNow (blindT s0) p child
macro_rules | `(tactic| bsim_leaf) => `(tactic| with_reducible exact BSim.parentIterCanRecomputeNow _ _)

end

/-! ## what benign updates and the notification walk keep -/

/-- the recorded parents of a valid `map_ref` node are valid (the actual `child_changed` walks through them, the virtual one never looks at them) -/
def MRPV (s : State) : Prop :=
  ∀ c pr j p i, (s.nodeD c).kind = .mapRef pr j → (s.nodeD c).valid = true → (p, i) ∈ (s.nodeD c).parents → (s.nodeD p).valid = true

/-- `MRPV` from the graph invariant of the virtual state: recorded parents are necessary, necessary nodes are valid -/
theorem mrpv_of_bgraph {env' : Env} {g : Nat → Option Val} {s : State} (G : BindH.BGraph env' (virt g s)) : MRPV s := by
  intro c pr j p i _ _ hm
  have h1 : (p, i) ∈ ((virt g s).nodeD c).parents := by rw [virt_nodeD, virtNode_parents]; exact hm
  have h2 := (G.nec p (G.parent c p i h1).1).1
  rwa [virt_nodeD, virtNode_valid] at h2

/-- same size, same kind / validity / stored value everywhere, parent lists may shrink -/
structure SubSt (s s' : State) : Prop where
  size : s'.nodes.size = s.nodes.size
  core : ∀ m, valueCore (s'.nodeD m) = valueCore (s.nodeD m)
  par : ∀ m x, x ∈ (s'.nodeD m).parents → x ∈ (s.nodeD m).parents

theorem SubSt.kind {s s' : State} (h : SubSt s s') (m : Nat) : (s'.nodeD m).kind = (s.nodeD m).kind := by
  have := congrArg Prod.fst (h.core m); simpa [valueCore] using this

theorem SubSt.valid {s s' : State} (h : SubSt s s') (m : Nat) : (s'.nodeD m).valid = (s.nodeD m).valid := by
  have := congrArg (fun x => x.2.1) (h.core m); simpa [valueCore] using this

theorem SubSt.value {s s' : State} (h : SubSt s s') (env : Env) (m : Nat) : s'.value env m = s.value env m :=
  value_congr env s s' h.size h.core m

theorem SubSt.of_quiet {s s' : State} (q : Step.Quiet s s') : SubSt s s' :=
  ⟨q.size, fun m => by simp only [valueCore, (q.node m).kind, (q.node m).valid, (q.node m).value],
    fun m x hx => by rw [(q.node m).parents] at hx; exact hx⟩

theorem SubSt.pinv {s s' : State} (h : SubSt s s') (hp : PInv s) : PInv s' := hp.of_nodeD h.size h.kind h.par

theorem SubSt.mrpv {s s' : State} (h : SubSt s s') (hm : MRPV s) : MRPV s' := by
  intro c pr j p i hk hv hx
  rw [h.valid]
  exact hm c pr j p i (by rw [← h.kind]; exact hk) (by rw [← h.valid]; exact hv) (h.par c _ hx)

/-- a predicate kept along `SubSt` can be carried by the bisimulation -/
theorem keeps_of_sub {P : State → Prop} (h : ∀ s s', P s → SubSt s s' → P s') : Keeps P where
  of_nodes := fun {s s'} hp e _ => h s s' hp
    ⟨by rw [e], fun m => by simp [State.nodeD, e], fun m x hx => by simpa [State.nodeD, e] using hx⟩
  modify := fun {s} n f hp hk => h s _ hp
    ⟨by simp, fun m => by
        rw [nodeD_modify]; split
        · simp only [valueCore, (hk _).1, (hk _).2.1, (hk _).2.2.2.2.1]
        · rfl,
      fun m x hx => by
        rw [nodeD_modify] at hx; split at hx
        · rw [(hk _).2.2.2.1] at hx; exact hx
        · exact hx⟩
  rmParent := fun {s} c k hp => h s _ hp
    ⟨by simp, fun m => by rw [nodeD_modify]; split <;> rfl,
      fun m x hx => by
        rw [nodeD_modify] at hx; split at hx
        · exact MapRefH.mem_of_mem_swapRemove hx
        · exact hx⟩

/-- a valid map_ref node reads the projection of what its input reads (`FullH.value_mapRef`, from `PInv`) -/
theorem value_mapRef' {env : Env} {s : State} (hp : PInv s) {n p i : Nat} (hv : (s.nodeD n).valid = true)
    (hk : (s.nodeD n).kind = .mapRef p i) : s.value env n = (s.value env i).map (env.proj p) := by
  have hi : i < n := hp.back n p i hk
  have hlt : n < s.nodes.size := by
    by_cases h : n < s.nodes.size
    · exact h
    · rw [nodeD_default_of_ge s n (by omega)] at hk; cases hk
  unfold State.value
  rw [valueWith_succ']
  have hc : valueCore (s.nodeD n) = (.mapRef p i, true, (s.nodeD n).value) := by
    simp [valueCore, hk, hv]
  rw [hc]
  simp only [valueStep']
  congr 1
  exact valueWith_congr_below env.proj s s hp.mapRefsBack i (fun _ _ => rfl) _ _ (by omega) (by omega)

/-! ## `child_changed` returns -/

section
variable {K : Kind → Prop} {g : Nat → Option Val} {sp : Nat → Val → Val}

/-- **`childChanged` returns**: on a valid parent `p` which, if it is a `map_ref` node, has input `c` (which READS a value) and enough fuel for the chain of `map_ref`
nodes above it (indices increase along the chain: at most `size - 1 - p` further `map_ref` nodes, then one node of another kind) -/
theorem childChanged_returns (env : Env) : ∀ (fuel p c ci : Nat) (o : Option Val) (s : State), Fr K g s → PInv s → MRPV s →
    p < s.nodes.size → (s.nodeD p).valid = true → (∀ pr j, (s.nodeD p).kind = .mapRef pr j → j = c) →
    (s.value env c).isSome = true → 0 < fuel → (∀ pr j, (s.nodeD p).kind = .mapRef pr j → s.nodes.size + 1 ≤ fuel + p) →
    ∃ s', (childChanged env fuel p c ci o).run.run s = (.ok (), s') := by
  intro fuel
  induction fuel with
  | zero => intro p c ci o s _ _ _ _ _ _ _ h0; omega
  | succ fuel ih =>
    intro p c ci o s hfr hp hm hlt hval hin hcv _ hf
    suffices T : Tot (childChanged env (fuel + 1) p c ci o) s (fun _ _ => True) by
      obtain ⟨_, s', h, -⟩ := T; exact ⟨s', h⟩
    unfold childChanged
    refine Tot.bind_getNode hlt ?_
    have hk? : (s.nodeD p).kind? = some (s.nodeD p).kind := by simp [Node.kind?, hval]
    rw [hk?]
    cases hkp : (s.nodeD p).kind
    case expert e => exact absurd hkp (hfr.noExp p e)
    case mapRef pr i =>
      dsimp only
      have hci : i = c := hin pr i hkp
      subst hci
      have hfu := hf pr i hkp
      obtain ⟨cv, hcv'⟩ := Option.isSome_iff_exists.1 hcv
      refine Tot.bind_ok (a := cv) (s1 := s) (by rw [run_valueUnwrap, hcv']) ?_
      have hcut : (s.nodeD p).cutoff = .eq ∨ (s.nodeD p).cutoff = .never := by
        have := hfr.cut p; rw [hkp] at this
        rcases this with h | h | ⟨a, b, -, h⟩
        · exact Or.inl h
        · exact Or.inr h
        · cases h
      have hsc : ∀ (a b : Val), ∃ r, (shouldCutoff env p a b).run.run s = (.ok r, s) := by
        intro a b
        unfold shouldCutoff
        rcases hcut with h | h
        · exact ⟨_, by rw [run_bind_ok (run_getNode_some (some_of_lt hlt)), h]; rfl⟩
        · exact ⟨_, by rw [run_bind_ok (run_getNode_some (some_of_lt hlt)), h]; rfl⟩
      suffices tail : ∀ (oo : Option Val) (did : Bool), Tot (do
          modNode p fun x => { x with didChange := x.didChange || did }
          let nd ← getNode p
          forIn nd.parents PUnit.unit fun x _ => do
            childChanged env fuel x.fst p x.snd oo
            pure (ForInStep.yield PUnit.unit)
          pure ()) s (fun _ _ => True) by
        cases o with
        | none =>
          simp only [Option.map_none, pure_bind]
          exact tail _ true
        | some ov =>
          simp only [Option.map_some]
          obtain ⟨r, hr⟩ := hsc (env.proj pr ov) (env.proj pr cv)
          refine Tot.bind_ok hr ?_
          simp only [pure_bind]
          exact tail _ _
      intro oo did
      refine Tot.bind_modNode ?_
      have q1 : Step.Quiet s { s with nodes := s.nodes.modify p fun x => { x with didChange := x.didChange || did } } :=
        Step.Quiet.modNode s p _ (by nodesame)
      have v1 : VEq g s { s with nodes := s.nodes.modify p fun x => { x with didChange := x.didChange || did } } :=
        VEq.modNode s p _ (by fflag)
      have hfr1 := v1.fr hfr
      have u1 := SubSt.of_quiet q1
      -- `p` reads a value
      have hvp : (s.value env p).isSome = true := by
        rw [value_mapRef' hp hval hkp]
        rw [hcv']; rfl
      generalize ({ s with nodes := s.nodes.modify p fun x => { x with didChange := x.didChange || did } } : State)
        = s1 at hfr1 u1
      have hlt1 : p < s1.nodes.size := by rw [u1.size]; exact hlt
      refine Tot.bind_getNode hlt1 ?_
      refine Tot.bind (Q := fun _ _ => True) ?_ (fun _ _ _ _ => Tot.pure trivial)
      have key := forIn_tot (fun (x : Nat × Nat) (r : PUnit) => do
          let _ ← childChanged env fuel x.1 p x.2 oo
          pure (ForInStep.yield PUnit.unit)) (s1.nodeD p).parents
        (fun _ _ t => Fr K g t ∧ SubSt s t ∧ ∀ x ∈ (s1.nodeD p).parents, x ∈ (t.nodeD p).parents) ?_
        (s1.nodeD p).parents 0 PUnit.unit s1 (by simp) (Nat.zero_le _) ⟨hfr1, u1, fun _ h => h⟩
      · obtain ⟨b', s', h, -⟩ := key
        exact ⟨b', s', h, trivial⟩
      · intro j a b t hj ⟨hft, ut, hpt⟩
        have hmem : a ∈ (t.nodeD p).parents := hpt a (List.mem_of_getElem? hj)
        obtain ⟨pp, ci'⟩ := a
        have hpt' := ut.pinv hp
        have hmt := ut.mrpv hm
        have hkt : (t.nodeD p).kind = .mapRef pr i := by rw [ut.kind]; exact hkp
        have hvt : (t.nodeD p).valid = true := by rw [ut.valid]; exact hval
        obtain ⟨h1, h2⟩ := hpt'.pu p pp ci' hmem
        have hsz : t.nodes.size = s.nodes.size := ut.size
        obtain ⟨t', ht'⟩ := ih pp p ci' oo t hft hpt' hmt h1 (hmt p pr i pp ci' hkt hvt hmem) h2
          (by rw [ut.value]; exact hvp) (by omega)
          (fun pr' j' hk' => by
            have := h2 pr' j' hk'; subst this
            have := hpt'.back pp pr' j' hk'
            omega)
        have v := childChanged_veq (g := g) hft ht'
        have q := (Step.Pres.childChanged env fuel pp p ci' oo).h _ _ _ ht'
        have u := SubSt.of_quiet q
        refine ⟨PUnit.unit, t', by rw [run_bind_ok ht', run_pure], v.fr hft, ?_, fun x hx => ?_⟩
        · exact ⟨u.size.trans ut.size, fun m => (u.core m).trans (ut.core m), fun m x hx => ut.par m x (u.par m x hx)⟩
        · rw [(q.node p).parents]; exact hpt x hx
    all_goals exact Tot.pure trivial

/-! ## switching the carried invariant -/

/-- the carried invariant may be strengthened (from the facts of the current state) for a part of the program -/
theorem BSimAt.change {P P' : State → Prop} {α : Type} {s : State} {x x' : M α} (h : BSimAt K P' g s x x')
    (h1 : Fr K g s → P s → P' s) (h2 : ∀ s', P' s' → P s') : BSimAt K P g s x x' :=
  ⟨h.1, fun hf hp => ⟨fun r s' hr => h2 s' ((h.2 hf (h1 hf hp)).1 r s' hr), (h.2 hf (h1 hf hp)).2⟩⟩

/-- the carried invariant of a notification walk from the changed node `n` to its parents `l` with fuel `fuel`: `PInv`, `MRPV`, `n` READS a value, `size ≤ fuel`, and
the entries of `l` are sane parent entries of `n` -/
structure WalkInv (env : Env) (fuel n : Nat) (l : List (Nat × Nat)) (s : State) : Prop where
  inv : PInv s
  mr : MRPV s
  val : (s.value env n).isSome = true
  sz : s.nodes.size ≤ fuel
  par : ∀ x ∈ l, x.1 < s.nodes.size ∧ ∀ pr j, (s.nodeD x.1).kind = .mapRef pr j → j = n

theorem WalkInv.of_sub {env : Env} {fuel n : Nat} {l : List (Nat × Nat)} {s s' : State} (h : WalkInv env fuel n l s) (u : SubSt s s') :
    WalkInv env fuel n l s' :=
  ⟨u.pinv h.inv, u.mrpv h.mr, by rw [u.value]; exact h.val, by rw [u.size]; exact h.sz,
    fun x hx => ⟨by rw [u.size]; exact (h.par x hx).1, fun pr j hk => (h.par x hx).2 pr j (by rw [← u.kind]; exact hk)⟩⟩

instance (env : Env) (fuel n : Nat) (l : List (Nat × Nat)) : Keeps (WalkInv env fuel n l) := keeps_of_sub fun _ _ h u => h.of_sub u

/-- the recorded parents of `n` are sane parent entries -/
theorem WalkInv.of_parents {env : Env} {fuel n : Nat} {l : List (Nat × Nat)} {s : State} (h : WalkInv env fuel n l s) :
    WalkInv env fuel n (s.nodeD n).parents s :=
  ⟨h.inv, h.mr, h.val, h.sz, fun x hx => h.inv.pu n x.1 x.2 hx⟩

theorem WalkInv.weaken {env : Env} {fuel n : Nat} {l l' : List (Nat × Nat)} {s : State} (h : WalkInv env fuel n l s) (hl : ∀ x ∈ l', x ∈ l) :
    WalkInv env fuel n l' s :=
  ⟨h.inv, h.mr, h.val, h.sz, fun x hx => h.par x (hl x hx)⟩

/-- the converse for one notification -/
theorem childChanged_conv {env : Env} {fuel p n ci : Nat} {o o' : Option Val} {s : State} (hfr : Fr K g s) (hp : PInv s) (hm : MRPV s)
    (hv : (s.value env n).isSome = true) (hsz : s.nodes.size ≤ fuel)
    (hpar : p < s.nodes.size ∧ ∀ pr j, (s.nodeD p).kind = .mapRef pr j → j = n)
    {r : Unit} {t : State} (hr : (Engine.childChanged (virtEnv env sp) fuel p n ci o').run.run (virt g s) = (.ok r, t)) :
    ∃ s', (Engine.childChanged env fuel p n ci o).run.run s = (.ok r, s') := by
  cases fuel with
  | zero => unfold Engine.childChanged at hr; cases hr
  | succ fuel =>
    obtain ⟨vnd, hvnd, hvalid⟩ := childChanged_ok_parent hr
    have hval : (s.nodeD p).valid = true := by
      have := nodeD_of_some hvnd
      rw [virt_nodeD] at this
      rw [← virtNode_valid (gv := g p), this]; exact hvalid
    exact childChanged_returns env (fuel + 1) p n ci o s hfr hp hm hpar.1 hval hpar.2 hv (Nat.succ_pos _)
      (fun pr j hk => by
        have := hpar.2 pr j hk; subst this
        have := hp.back p pr j hk
        omega)

/-- **`child_changed`, inside a walk**: the parent entry is one of the list the carried invariant speaks about -/
theorem BSimAt.childChanged_pv {env : Env} {fuel n : Nat} {l : List (Nat × Nat)} {x : Nat × Nat} (hx : x ∈ l) (o o' : Option Val) (s : State) :
    BSimAt K (WalkInv env fuel n l) g s (Engine.childChanged env fuel x.1 n x.2 o) (Engine.childChanged (virtEnv env sp) fuel x.1 n x.2 o') := by
  refine BSimAt.mk' (Sim.childChanged env fuel x.1 n x.2 o o' s) (fun _ hp r s' hr => ?_) (fun hfr hp r t hr => ?_)
  · exact hp.of_sub (SubSt.of_quiet ((Step.Pres.childChanged env fuel x.1 n x.2 o).h _ _ _ hr))
  · exact childChanged_conv hfr hp.inv hp.mr hp.val hp.sz (hp.par x hx) hr

/-- **`child_changed`** from the changed node `n` (which READS a value) to a sane parent entry, with `size ≤ fuel` -/
theorem BSimAt.childChanged {env : Env} {fuel p n ci : Nat} {o o' : Option Val} {s : State}
    (hpar : p < s.nodes.size ∧ ∀ pr j, (s.nodeD p).kind = .mapRef pr j → j = n)
    (hv : (s.value env n).isSome = true) (hm : MRPV s) (hsz : s.nodes.size ≤ fuel) :
    BSimAt K PInv g s (Engine.childChanged env fuel p n ci o) (Engine.childChanged (virtEnv env sp) fuel p n ci o') :=
  (BSimAt.childChanged_pv (l := [(p, ci)]) (x := (p, ci)) (List.mem_singleton.2 rfl) o o' s).change
    (fun _ hp => ⟨hp, hm, hv, hsz, fun x hx => by rw [List.mem_singleton.1 hx]; exact hpar⟩) (fun _ h => h.inv)

/-- … for a RECORDED parent entry -/
theorem BSimAt.childChanged_mem {env : Env} {fuel p n ci : Nat} {o o' : Option Val} {s : State}
    (hpar : (p, ci) ∈ (s.nodeD n).parents)
    (hv : (s.value env n).isSome = true) (hm : MRPV s) (hsz : s.nodes.size ≤ fuel) :
    BSimAt K PInv g s (Engine.childChanged env fuel p n ci o) (Engine.childChanged (virtEnv env sp) fuel p n ci o') :=
  (BSimAt.childChanged_pv (l := [(p, ci)]) (x := (p, ci)) (List.mem_singleton.2 rfl) o o' s).change
    (fun _ hp => ⟨hp, hm, hv, hsz, fun x hx => by rw [List.mem_singleton.1 hx]; exact hp.pu n p ci hpar⟩) (fun _ h => h.inv)

end
end IncrVerif.Proofs.FullT
