import IncrVerif.Proofs.PerKeyH82
/-!
# Per-key operators, the semantic theorem, part 2: reading consistency in `V s`; template instances

`Settled env s`: the hypotheses of the semantic theorem (fragment, necessity goes down, no necessary node is stale, every
node that is not stale is consistent in `V s` under `penv env`).
-/
namespace IncrVerif.Proofs.PerKeyH
open IncrVerif IncrVerif.Engine IncrVerif.Driver IncrVerif.Proofs IncrVerif.Proofs.Step IncrVerif.Proofs.Sched
open IncrVerif.Proofs.ExpertH IncrVerif.Proofs.EffH IncrVerif.Proofs.DriverH

/-! ## children in the actual state -/

theorem children_map' {s : State} {n f : Nat} {args : List Nat} (hv : (s.nodeD n).valid = true)
    (hk : (s.nodeD n).kind = .map f args) : s.children n = args := by
  unfold State.children Node.kind?
  simp [hv, hk]

theorem children_fold' {s : State} {n f : Nat} {init : Val} {cs : List Nat} (hv : (s.nodeD n).valid = true)
    (hk : (s.nodeD n).kind = .fold f init cs) : s.children n = cs := by
  unfold State.children Node.kind?
  simp [hv, hk]

/-! ## consistency in `V s`, by actual kind -/

theorem plainVals_V (s : State) (args : List Nat) : plainVals (V s) args = plainVals s args := by
  unfold plainVals
  apply evalArgs_congr
  intro a _
  rw [V_nodeD, vNode_value]

theorem V_value' (s : State) (m : Nat) : ((V s).nodeD m).value = (s.nodeD m).value := by
  rw [V_nodeD, vNode_value]

theorem consV_const {env : Env} {s : State} {m : Nat} {v : Val} (hk : (s.nodeD m).kind = .const v)
    (h : Consistent (penv env) (V s) m) : (s.nodeD m).value = some v := by
  obtain ⟨w, ht, hv⟩ := h
  unfold Target at ht
  rw [V_kind, hk] at ht
  simp only [vKind] at ht
  rw [V_value'] at hv
  rw [hv, ht]

theorem consV_var {env : Env} {s : State} {m c : Nat} (hk : (s.nodeD m).kind = .var c)
    (h : Consistent (penv env) (V s) m) : ∃ vc, s.vars[c]? = some vc ∧ (s.nodeD m).value = some vc.value := by
  obtain ⟨w, ht, hv⟩ := h
  unfold Target at ht
  rw [V_kind, hk] at ht
  simp only [vKind] at ht
  obtain ⟨vc, h1, h2⟩ := ht
  rw [V_value'] at hv
  exact ⟨vc, h1, by rw [hv, h2]⟩

theorem consV_map {env : Env} {s : State} {m f : Nat} {args : List Nat} (hk : (s.nodeD m).kind = .map f args)
    (hf : f < fnPerKey) (h : Consistent (penv env) (V s) m) :
    ∃ vals, plainVals s args = some vals ∧ (s.nodeD m).value = some ((penv env).fn f vals) := by
  obtain ⟨w, ht, hv⟩ := h
  unfold Target at ht
  rw [V_kind, hk] at ht
  simp only [vKind, if_neg (Nat.not_le.mpr hf)] at ht
  obtain ⟨vals, h1, h2⟩ := ht
  rw [V_value'] at hv
  rw [plainVals_V] at h1
  exact ⟨vals, h1, by rw [hv, h2]⟩

theorem consV_fold {env : Env} {s : State} {m f : Nat} {init : Val} {cs : List Nat}
    (hk : (s.nodeD m).kind = .fold f init cs) (h : Consistent (penv env) (V s) m) :
    ∃ vals, plainVals s cs = some vals ∧ (s.nodeD m).value = some (vals.foldl ((penv env).foldStep f) init) := by
  obtain ⟨w, ht, hv⟩ := h
  unfold Target at ht
  rw [V_kind, hk] at ht
  simp only [vKind] at ht
  obtain ⟨vals, h1, h2⟩ := ht
  rw [V_value'] at hv
  rw [plainVals_V] at h1
  exact ⟨vals, h1, by rw [hv, h2]⟩

/-- a per-key input node that is consistent stores the value `prevMap` has for its key -/
theorem consV_key {env : Env} {s : State} {m e op : Nat} {key : Int} {er : ExpertRec}
    (hk : (s.nodeD m).kind = .expert e) (hx : s.experts[e]? = some er) (hpk : er.pk = some (op, some key))
    (h : Consistent (penv env) (V s) m) :
    (s.nodeD m).value = some (.int (((pkRec s op).prevMap.lookup key).getD 0)) := by
  obtain ⟨w, ht, hv⟩ := h
  unfold Target at ht
  have hpk' : (xRec s.experts e).pk = some (op, some key) := by rw [xRec_some hx]; exact hpk
  rw [V_kind, hk, vKind_expert_key s hpk'] at ht
  simp only at ht
  obtain ⟨vals, _, h2⟩ := ht
  rw [penv_fold_xConst] at h2
  rw [V_value'] at hv
  rw [hv, h2]

/-- the result node of an operator that is consistent stores the map assembled from its dependencies -/
theorem consV_res {env : Env} {s : State} {m e op : Nat} {er : ExpertRec}
    (hk : (s.nodeD m).kind = .expert e) (hx : s.experts[e]? = some er) (hpk : er.pk = some (op, none))
    (hne : er.children ≠ [])
    (h : Consistent (penv env) (V s) m) :
    ∃ vals, plainVals s (er.children.map (·.child)) = some vals ∧
      (s.nodeD m).value = some (.map (AMap.ofList (asmPairs (tagsOf (pkRec s op).prevNodes er.children) vals))) := by
  obtain ⟨w, ht, hv⟩ := h
  unfold Target at ht
  have hpk' : (xRec s.experts e).pk = some (op, none) := by rw [xRec_some hx]; exact hpk
  rw [V_kind, hk, vKind_expert_res s hpk'] at ht
  simp only at ht
  obtain ⟨vals, h1, h2⟩ := ht
  rw [xRec_some hx] at h1 h2
  rw [plainVals_V] at h1
  have hl : vals.length = er.children.length := by
    have := evalArgs_length _ _ _ h1
    rw [this, List.length_map]
  rw [penv_fold_xAsm env _ vals (by rw [tagsOf_length, hl]) (tagsOf_ne_nil _ hne)] at h2
  rw [V_value'] at hv
  exact ⟨vals, h1, by rw [hv, h2]⟩

/-! ## the hypotheses of the semantic theorem -/

structure Settled (env : Env) (s : State) : Prop where
  frag : PFrag env s
  /-- necessity goes down (`BGraph.child`) -/
  down : ∀ n, s.isNecessary n = true → ∀ c, c ∈ s.children n → s.isNecessary c = true
  /-- no necessary node is stale -/
  settled : ∀ n, s.isNecessary n = true → s.isStale n = false
  /-- every node that is not stale is consistent -/
  cons : ∀ m, m < s.nodes.size → s.isStale m = false → Consistent (penv env) (V s) m

namespace Settled
variable {env : Env} {s : State}

theorem necCons (H : Settled env s) {n : Nat} (hn : s.isNecessary n = true) : Consistent (penv env) (V s) n :=
  H.cons n (nec_lt_size hn) (H.settled n hn)

theorem valid (H : Settled env s) {n : Nat} (hn : s.isNecessary n = true) : (s.nodeD n).valid = true :=
  H.frag.valid n (nec_lt_size hn)

theorem value_some (H : Settled env s) {n : Nat} (hn : s.isNecessary n = true) : ∃ w, (s.nodeD n).value = some w := by
  obtain ⟨w, _, hv⟩ := H.necCons hn
  rw [V_value'] at hv
  exact ⟨w, hv⟩

theorem value_plain (H : Settled env s) (n : Nat) : s.value env n = (s.nodeD n).value := by
  apply Step.value_plain
  intro p i e
  have := H.frag.kindD n
  rw [e] at this
  exact this

end Settled

end IncrVerif.Proofs.PerKeyH
