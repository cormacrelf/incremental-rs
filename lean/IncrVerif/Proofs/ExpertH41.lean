import IncrVerif.Proofs.ExpertH40
/-!
# Expert fragment: the values after the drain (the counterpart of MapRef16)
-/
namespace IncrVerif.Proofs.ExpertH
open IncrVerif.Engine IncrVerif.Driver IncrVerif.Proofs IncrVerif.Proofs.Step IncrVerif.Proofs.Sched
open IncrVerif.Proofs.ExpertH.QR

/-- `evalX` only reads the kinds, the variables and — for expert kinds — the closure id and the dependency list of
the records -/
theorem evalX_congr {env : Env} {s s' : State} (hk : ∀ m, (s'.nodeD m).kind = (s.nodeD m).kind)
    (hv : s'.vars = s.vars)
    (hx : ∀ m e, (s.nodeD m).kind = .expert e →
      (xRec s'.experts e).f = (xRec s.experts e).f ∧ (xRec s'.experts e).children = (xRec s.experts e).children)
    (k n : Nat) : evalX env s' k n = evalX env s k n := by
  induction k generalizing n with
  | zero => rfl
  | succ k ih =>
    unfold evalX
    have hfun : (fun a => evalX env s' k a) = (fun a => evalX env s k a) := funext ih
    rw [hk n, hv, hfun]
    cases hkd : (s.nodeD n).kind with
    | expert e =>
      obtain ⟨h1, h2⟩ := hx n e hkd
      simp only [h1, h2]
    | _ => rfl

/-- the records read through `xRec` along the frame `XF` -/
theorem XF.xRec_core {s s' : State} (h : XF s s') (e : Nat) :
    (xRec s'.experts e).f = (xRec s.experts e).f ∧ (xRec s'.experts e).children = (xRec s.experts e).children := by
  cases he : s.experts[e]? with
  | none => rw [xRec_none he, xRec_none (h.xnone he)]; exact ⟨rfl, rfl⟩
  | some er =>
    obtain ⟨er', he', hf, -, hc, -⟩ := h.xrec he
    rw [xRec_some he, xRec_some he']; exact ⟨hf, hc⟩

theorem evalX_of_xf {env : Env} {s s' : State} (h : XF s s') (hv : s'.vars = s.vars) (k n : Nat) :
    evalX env s' k n = evalX env s k n :=
  evalX_congr h.kind hv (fun _ e _ => h.xRec_core e) k n

section
variable {env : Env} {s : State}

/-- **the values after the drain.** With the drain invariant and an empty recompute heap, every necessary node is
valid, is not stale, and what it reads is its from-scratch evaluation. -/
theorem drainedX_values (D : DInvX env s none) (he : s.rch.length = 0) (n : Nat)
    (hn : s.isNecessary n = true) (k : Nat) (hk : (s.nodeD n).height.toNat < k) :
    (s.nodeD n).valid = true ∧ s.isStale n = false ∧ s.value env n = evalX env s k n ∧
      (evalX env s k n).isSome = true := by
  have hnv : (virt s).isNecessary n = true := by rw [virt_isNecessary]; exact hn
  have hk' : ((virt s).nodeD n).height.toNat < k := by rw [virt_nodeD, virtNode_height]; exact hk
  have he' : (virt s).rch.length = 0 := he
  obtain ⟨h1, h2, -, h4, h5⟩ := drained_values D.inv he' n hnv k hk'
  rw [virt_nodeD, virtNode_valid] at h1
  rw [virt_isStale] at h2
  rw [eval_virt D.frag] at h4 h5
  rw [virt_value s env n D.frag.noMapRef] at h4
  exact ⟨h1, h2, h4, h5⟩

/-- after a successful `drainHeap` from the drain invariant: the drain invariant, an empty heap, the same variables,
and every necessary node reads its from-scratch value (in the final state) -/
theorem drainHeapX_values {fuel : Nat} {s' : State} (D : DInvX env s none)
    (h : (drainHeap env fuel).run.run s = (.ok (), s')) :
    DInvX env s' none ∧ s'.rch.length = 0 ∧ DStepX env s s' ∧ s'.vars = s.vars ∧
      ∀ n, s.isNecessary n = true → ∀ k, (s.nodeD n).height.toNat < k →
        s'.isNecessary n = true ∧ s'.isStale n = false ∧ s'.value env n = evalX env s' k n ∧
          (evalX env s' k n).isSome = true := by
  obtain ⟨D', he, f⟩ := drainHeapX_inv fuel s s' D h
  refine ⟨D', he, f, f.frame.vars, fun n hn k hk => ?_⟩
  have hn' : s'.isNecessary n = true := by
    have := f.frame.nec n; rw [virt_isNecessary, virt_isNecessary] at this; rw [this]; exact hn
  have hh : (s'.nodeD n).height = (s.nodeD n).height := by
    have := (f.frame.shape n).height
    rwa [virt_nodeD, virt_nodeD, virtNode_height, virtNode_height] at this
  obtain ⟨-, h2, h3, h4⟩ := drainedX_values D' he n hn' k (by rw [hh]; exact hk)
  exact ⟨hn', h2, h3, h4⟩

end
end IncrVerif.Proofs.ExpertH
