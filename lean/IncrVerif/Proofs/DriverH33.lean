import IncrVerif.Proofs.DriverH32
/-!
# Drivers, `stabilise`, part 2: the start and the end of the drain

* `stab_startD`: after the prefix of `stabilise` (status set, observers added and unlinked) the drain invariant with
  drivers `DD env t2 none` holds.
* `qinv_of_finished`: on virtual states, whatever the fragment: the drain invariant at an empty heap and `Finished'` give the
  quiescent invariant.
* `stab_endD`: from `DD env t3 none`, the empty heap, the frame `DStep t2 t3` of the drain and the description
  `Finished'` of `stabiliseEnd`: the invariant between API actions for the rank of `t3`, and well-formed drivers.
* `qinvX_values`: with `QInvX` and an empty heap every necessary node reads its from-scratch value.
-/
namespace IncrVerif.Proofs.DriverH
open IncrVerif.Engine IncrVerif.Driver IncrVerif.Proofs IncrVerif.Proofs.Step IncrVerif.Proofs.Sched
open IncrVerif.Proofs.ExpertH IncrVerif.Proofs.ExpertH.QR IncrVerif.Proofs.EffH

/-- the components of `eKey` used below -/
theorem eKey_inv {a b : State} (h : eKey a = eKey b) :
    a.vars = b.vars ∧ a.stabNum = b.stabNum ∧ a.observers = b.observers ∧ a.newObservers = b.newObservers ∧
      a.disallowedObservers = b.disallowedObservers ∧ a.setDuringStab = b.setDuringStab ∧
      a.deadVars = b.deadVars ∧ a.propagateInvalidity = b.propagateInvalidity ∧ a.top = b.top ∧
      a.alive = b.alive := by
  simp only [eKey, Prod.mk.injEq] at h
  obtain ⟨k_vars, -, k_stab, -, -, -, k_obs, k_new, k_dis, -, k_sds, k_dead, -, k_pinv, k_top, k_alive, -, -⟩ := h
  exact ⟨k_vars, k_stab, k_obs, k_new, k_dis, k_sds, k_dead, k_pinv, k_top, k_alive⟩

theorem dnKey_inv {a b : Node} (h : dnKey a = dnKey b) :
    a.kind = b.kind ∧ a.observers = b.observers ∧ a.numOnUpdateHandlers = b.numOnUpdateHandlers := by
  simp only [dnKey, Prod.mk.injEq] at h
  exact ⟨h.1, h.2.2.2.2.1, h.2.2.2.2.2.2⟩

/-! ## the start of the drain -/

/-- **the prefix of `stabilise`** ends in the drain invariant with drivers -/
theorem stab_startD {env : Env} {rk : Nat → Nat} {fuel : Nat} {s s0 t1 t2 : State}
    (Q : QInvX (noEff env) rk s) (hd : DrvOK env s) (hs0 : s0 = { s with status := .stabilising })
    (h1 : (addNewObservers env fuel).run.run s0 = (.ok (), t1))
    (h2 : (unlinkDisallowedObservers fuel).run.run t1 = (.ok (), t2)) :
    DD env t2 none ∧ ObsInv (virt t2) [] [] ∧ t2.newObservers = [] ∧ t2.disallowedObservers = [] ∧
      PFrame (virt s0) (virt t2) := by
  have Qv := Q.q
  have h1E : (addNewObservers (noEff env) fuel).run.run s0 = (.ok (), t1) := by
    rw [addNewObservers_noEff]; exact h1
  have hs0v : virt s0 = { virt s with status := .stabilising } := by rw [hs0]; rfl
  have F0 : XFrag (noEff env) s0 := by
    rw [hs0]; exact ⟨Q.frag.pc, Q.frag.kind, Q.frag.valid, Q.frag.xrec, Q.frag.xok⟩
  have A0 : QR.AhhEmpty s0 := by
    rw [hs0]; exact ⟨Q.ahh.length, Q.ahh.buckets, Q.ahh.marks⟩
  have hp0 : s0.propagateInvalidity = [] := by rw [hs0]; exact Q.pinv
  have S0 : SInv (virtEnv (noEff env)) rk (virt s0) (virt s0).newObservers (virt s0).disallowedObservers := by
    rw [hs0v]
    exact ⟨Qv.struct.congr (SameG.of_nodes rfl rfl rfl rfl rfl),
      ⟨Qv.obs.inRange, Qv.obs.mem, Qv.obs.created, Qv.obs.newIn, Qv.obs.dis, Qv.obs.disIn, Qv.obs.disNodup⟩,
      Qv.pinv, Qv.handlers⟩
  -- the prefix: simulated by the virtual engine
  obtain ⟨hv1, fr1⟩ := Sim.addNewObservers (noEff env) fuel s0 (F0.fr hp0) _ t1 h1E
  obtain ⟨S1, hn1, hd1, P1, O1, -⟩ := addNewObservers_s S0 hv1
  have F1 : XFrag (noEff env) t1 := F0.of_xf ((PresX.addNewObservers (noEff env) fuel).h _ _ _ h1E) fr1
  have A1 : QR.AhhEmpty t1 := ahhEmpty_of_ahf A0 ((PresAh.addNewObservers (noEff env) fuel).h _ _ _ h1E)
  obtain ⟨hv2, fr2⟩ := Sim.unlinkDisallowedObservers fuel t1 fr1 _ t2 h2
  obtain ⟨S2, hn2, hd2, P2, O2⟩ := unlinkDisallowedObservers_s S1 hn1 hv2
  have F2 : XFrag (noEff env) t2 := F1.of_xf ((PresX.unlinkDisallowedObservers fuel).h _ _ _ h2) fr2
  have A2 : QR.AhhEmpty t2 := ahhEmpty_of_ahf A1 ((PresAh.unlinkDisallowedObservers fuel).h _ _ _ h2)
  have P := P1.trans P2
  -- the drain invariant of the virtual state
  obtain ⟨V2, now2, st2, vs2, cons2⟩ := Qv.at_start hs0v P
  have D2 : BindH.DInv (virtEnv (noEff env)) (virt t2) none := dinv_of_struct S2.struct V2 now2 st2 vs2 cons2
  -- the auxiliary invariant
  have X2 : AuxD (noEff env) t2 :=
    ⟨F2, A2, fr2.pinv, fun m => by have := S2.handlers m; rwa [virt_nodeD, virtNode_num] at this,
      ⟨rk, S2.struct.static⟩, fun c => by have := S2.struct.nodup c; rwa [virt_nodeD, virtNode_parents] at this, V2⟩
  -- the drivers
  have df0 : DF s s0 := by
    rw [hs0]; exact ⟨rfl, fun _ => rfl, rfl, fun _ er h => ⟨er, h, rfl, rfl, rfl⟩, Nat.le_refl _⟩
  have df1 : DF s0 t1 := DF.of_xf_xs ((PresX.addNewObservers env fuel).h _ _ _ h1)
    ((PresS.addNewObservers env fuel).h _ _ _ h1) P1.top
  have df2 : DF t1 t2 := DF.of_xf_xs ((PresX.unlinkDisallowedObservers fuel).h _ _ _ h2)
    ((PresS.unlinkDisallowedObservers fuel).h _ _ _ h2) P2.top
  exact ⟨⟨D2, X2, drvOK_frame ((df0.trans df1).trans df2) hd⟩, S2.obs, hn2, hd2, P⟩

/-! ## the end of the drain -/

/-- the quiescent invariant after `stabiliseEnd`, from the drain invariant at an empty heap and the observers as the prefix of
`stabilise` left them; all three states are virtual, the fragment is not read -/
theorem qinv_of_finished {venv : Env} {rk' : Nat → Nat} {S2 S3 S' : State} (I3 : BindH.DInv venv S3 none)
    (AS3 : AllStatic venv rk' S3) (hnd : ∀ c, (S3.nodeD c).parents.Nodup) (V3 : VarsOK S3)
    (hh : ∀ m, (S3.nodeD m).numOnUpdateHandlers ≤ 0) (hp : S3.propagateInvalidity = []) (Ev : Finished' S3 S')
    (O2 : ObsInv S2 [] []) (hobs : S3.observers = S2.observers)
    (hnobs : ∀ m, (S3.nodeD m).observers = (S2.nodeD m).observers) (hsz : S2.nodes.size ≤ S3.nodes.size)
    (hno : S3.newObservers = []) (hdo : S3.disallowedObservers = []) (hal : S3.alive = true)
    (htop : ∀ (k n : Nat), S3.top[k]? = some n → n < S3.nodes.size) :
    QInv venv rk' S' ∧ S'.newObservers = [] ∧ S'.disallowedObservers = [] := by
  have S3s : Struct venv rk' S3 := struct_of_dinv AS3 I3 hnd
  have hE : ∀ m, NodeG (S3.nodeD m) (S'.nodeD m) ∧ (S'.nodeD m).value = (S3.nodeD m).value ∧
      (S'.nodeD m).numOnUpdateHandlers = (S3.nodeD m).numOnUpdateHandlers := by
    intro m
    obtain ⟨b, hb⟩ := Ev.node m
    rw [hb]
    exact ⟨⟨rfl, rfl, rfl, rfl, rfl, rfl, rfl, rfl, rfl, rfl, rfl⟩, rfl, rfl⟩
  have G3 : SameG S3 S' := ⟨Ev.pc, Ev.scope, Ev.size, Ev.rch, Ev.vars, fun m => (hE m).1⟩
  have V' : VarsOK S' := by
    refine ⟨?_, ?_⟩
    · intro n c hn hk
      rw [(hE n).1.kind] at hk; rw [Ev.vars]; exact V3.node n c (by rw [← Ev.size]; exact hn) hk
    · intro c vc hc
      rw [Ev.vars] at hc; rw [Ev.size, (hE _).1.kind]; exact V3.cell c vc hc
  have hno' : S'.newObservers = [] := by rw [Ev.newObservers]; exact hno
  have hdo' : S'.disallowedObservers = [] := by rw [Ev.disallowedObservers]; exact hdo
  have O' : ObsOK S' := by
    unfold ObsOK
    rw [hno', hdo']
    refine ⟨?_, ?_, ?_, ?_, ?_, ?_, List.nodup_nil⟩
    · intro o ob ho; rw [Ev.observers, hobs] at ho
      exact ⟨by rw [Ev.size]; exact Nat.lt_of_lt_of_le (O2.inRange o ob ho).1 hsz, (O2.inRange o ob ho).2⟩
    · intro n o; rw [(hE n).1.observers, hnobs, Ev.observers, hobs]; exact O2.mem n o
    · intro o ob ho hc; rw [Ev.observers, hobs] at ho; exact O2.created o ob ho hc
    · intro o ho; cases ho
    · intro o ob ho; rw [Ev.observers, hobs] at ho; exact O2.dis o ob ho
    · intro o ho; cases ho
  refine ⟨⟨S3s.congr G3, V', O', ?_, ?_, ?_, ?_, Ev.status, ?_, Ev.setDuringStab, Ev.deadVars, Ev.handleAfterStab, ?_, ?_, ?_⟩,
    hno', hdo'⟩
  · rw [Ev.stabNum]; have := I3.stamps.now; omega
  · intro m
    rw [(hE m).1.recomputedAt, (hE m).1.changedAt, Ev.stabNum]
    have := I3.stamps.node m; omega
  · intro c vc hc
    rw [Ev.vars] at hc; rw [Ev.stabNum]; have := I3.stamps.var c vc hc; omega
  · intro m hm hs
    rw [G3.staleOf] at hs
    have hm3 : m < S3.nodes.size := by rw [← Ev.size]; exact hm
    have sn := S3s.node hm3
    have hst : S3.isStale m = false := by rw [GInv.isStale S3s hm3]; exact hs
    obtain ⟨w, hw, hv⟩ := cons_of_consB sn.kind (I3.cons m hm3 sn.valid hst)
    exact ⟨w, Target.congr (hE m).1.kind Ev.vars (fun c _ => (hE c).2.1) hw, by rw [(hE m).2.1]; exact hv⟩
  · rw [Ev.alive]; exact hal
  · intro m
    rw [(hE m).2.2]; exact hh m
  · rw [Ev.pinv]; exact hp
  · intro k n hk
    rw [Ev.top] at hk
    rw [Ev.size]; exact htop k n hk

/-- **the end of `stabilise`**: from the drain invariant with an empty heap to the invariant between API actions -/
theorem stab_endD {env : Env} {t2 t3 s' : State}
    (D3 : DD env t3 none) (f3 : DStep t2 t3)
    (O2 : ObsInv (virt t2) [] []) (hn2 : t2.newObservers = []) (hd2 : t2.disallowedObservers = [])
    (hal : t2.alive = true) (htop : ∀ (k n : Nat), t2.top[k]? = some n → n < t2.nodes.size)
    (E : Finished' t3 s') :
    (∃ rk', QInvX (noEff env) rk' s') ∧ s'.newObservers = [] ∧ s'.disallowedObservers = [] ∧ DrvOK env s' := by
  have A3 := D3.aux
  obtain ⟨rk', AS3⟩ := A3.rank
  obtain ⟨-, -, k_obs, k_new, k_dis, -, -, -, k_top, k_alive⟩ := eKey_inv f3.key
  obtain ⟨Q', hno', hdo'⟩ := qinv_of_finished (S2 := virt t2) D3.inv AS3
    (fun c => by rw [virt_nodeD, virtNode_parents]; exact A3.nodup c) A3.vars
    (fun m => by rw [virt_nodeD, virtNode_num]; exact A3.handlers m) A3.pinv (finished_virt E) O2 k_obs
    (fun m => by
      rw [virt_nodeD, virt_nodeD, virtNode_observers, virtNode_observers]; exact (dnKey_inv (f3.node m)).2.1)
    (by rw [virt_size, virt_size, f3.size]; exact Nat.le_refl _) (k_new.trans hn2) (k_dis.trans hd2)
    (k_alive.trans hal)
    (fun k n hk => by
      have hk' : t3.top[k]? = some n := hk
      rw [k_top] at hk'
      rw [virt_size, f3.size]; exact htop k n hk')
  have hEn : ∀ m, ∃ b, s'.nodeD m = { t3.nodeD m with inHandleAfterStab := b } := E.node
  have hkind : ∀ m, (s'.nodeD m).kind = (t3.nodeD m).kind := fun m => by obtain ⟨b, hb⟩ := hEn m; rw [hb]
  have hvalid : ∀ m, (s'.nodeD m).valid = (t3.nodeD m).valid := fun m => by obtain ⟨b, hb⟩ := hEn m; rw [hb]
  have hmark : ∀ m, (s'.nodeD m).heightInAhh = (t3.nodeD m).heightInAhh := fun m => by
    obtain ⟨b, hb⟩ := hEn m; rw [hb]
  have F' : XFrag (noEff env) s' :=
    ⟨by rw [E.pc]; exact A3.frag.pc, fun m hm => by rw [hkind]; exact A3.frag.kind m (by rw [← E.size]; exact hm),
      fun m hm => by rw [hvalid]; exact A3.frag.valid m (by rw [← E.size]; exact hm),
      fun m e hm hk => by
        rw [hkind] at hk; rw [E.experts]; exact A3.frag.xrec m e (by rw [← E.size]; exact hm) hk,
      fun e er he => by rw [E.experts] at he; exact A3.frag.xok e er he⟩
  have A' : QR.AhhEmpty s' :=
    ⟨by rw [E.ahh]; exact A3.ahh.length, by rw [E.ahh]; exact A3.ahh.buckets,
      fun m => by rw [hmark]; exact A3.ahh.marks m⟩
  have df : DF t3 s' :=
    ⟨E.size, hkind, E.top, fun e er he => ⟨er, by rw [E.experts]; exact he, rfl, rfl, rfl⟩,
      Nat.le_of_eq E.nextDep.symm⟩
  exact ⟨⟨rk', F', Q', A'⟩, hno', hdo', drvOK_frame df D3.drv⟩

/-! ## the values between API actions when the heap is empty -/

/-- with the invariant between API actions and an empty recompute heap, every necessary node is not stale and reads its
from-scratch value -/
theorem qinvX_values {E : Env} {rk : Nat → Nat} {s : State} (Q : QInvX E rk s) (he : s.rch.length = 0)
    (n : Nat) (hn : s.isNecessary n = true) (k : Nat) (hk : (s.nodeD n).height.toNat < k) :
    s.isStale n = false ∧ s.value E n = evalX E s k n ∧ (evalX E s k n).isSome = true := by
  have Qv := Q.q
  have D : DrainInv (virtEnv E) (virt s) :=
    drainInv_of Qv.struct Qv.vars Qv.now Qv.stamps Qv.varStamp Qv.cons
  have hnv : (virt s).isNecessary n = true := by rw [virt_isNecessary]; exact hn
  have hk' : ((virt s).nodeD n).height.toNat < k := by rw [virt_nodeD, virtNode_height]; exact hk
  have he' : (virt s).rch.length = 0 := he
  obtain ⟨-, h2, -, h4, h5⟩ := drained_values D he' n hnv k hk'
  rw [virt_isStale] at h2
  rw [eval_virt Q.frag] at h4 h5
  rw [virt_value s E n Q.frag.noMapRef] at h4
  exact ⟨h2, h4, h5⟩

/-- what the observers read when nothing is pending -/
theorem qinvX_reads {E : Env} {rk : Nat → Nat} {s : State} (Q : QInvX E rk s) (he : s.rch.length = 0)
    (hno : s.newObservers = []) (hdo : s.disallowedObservers = []) : ReadsOKX E s ∧ ObsSettled s :=
  reads_of_values Q hno hdo (qinvX_values Q he)

end IncrVerif.Proofs.DriverH
