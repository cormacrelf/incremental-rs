import IncrVerif.Engine.Recompute
/-!
# Helper definitions and lemmas for C09 (update-handler automaton)
-/
namespace IncrVerif.Proofs
open IncrVerif.Engine

/-- what one handler delivers over a sequence of per-round classifications, starting from `prev`;
this is exactly the loop body of `runAll` (match on `handlerStep`, then `prev := d.toPrev`). -/
def deliveries : Previously → List NodeUpdate → List NodeUpdate
  | _, [] => []
  | prev, nu :: rest =>
    match handlerStep prev nu with
    | none => deliveries prev rest
    | some d => d :: deliveries d.toPrev rest

/-- the specification: `Initialised` for the first round (whatever its classification, unless it is the
invalidation), `Changed` for each later round classified `changed`, until the first `invalidated`,
which is delivered once; nothing afterwards. -/
def specDeliveries (nus : List NodeUpdate) : List NodeUpdate :=
  (match nus.takeWhile (· != .invalidated) with
    | [] => []
    | _ :: rest => .necessary :: rest.filter (· == .changed))
  ++ (if nus.any (· == .invalidated) then [.invalidated] else [])

/-! ## the automaton, state by state -/

/-- what an already initialised handler (`prev ∈ {necessary, changed}`) delivers -/
def initDeliveries (nus : List NodeUpdate) : List NodeUpdate :=
  (nus.takeWhile (· != .invalidated)).filter (· == .changed)
    ++ (if nus.any (· == .invalidated) then [.invalidated] else [])

theorem deliveries_invalidated (nus : List NodeUpdate) : deliveries .invalidated nus = [] := by
  induction nus with
  | nil => rfl
  | cons nu rest ih => cases nu <;> simp [deliveries, handlerStep, ih]

theorem deliveries_init (nus : List NodeUpdate) (h : ∀ nu ∈ nus, nu ≠ .unnecessary) :
    deliveries .necessary nus = initDeliveries nus ∧ deliveries .changed nus = initDeliveries nus := by
  induction nus with
  | nil => exact ⟨rfl, rfl⟩
  | cons nu rest ih =>
    have ih := ih (fun x hx => h x (List.mem_cons_of_mem _ hx))
    have hnu := h nu (List.mem_cons_self)
    cases nu <;>
      simp_all [deliveries, handlerStep, NodeUpdate.toPrev, initDeliveries, deliveries_invalidated]

theorem deliveries_eq_spec (nus : List NodeUpdate) (h : ∀ nu ∈ nus, nu ≠ .unnecessary) :
    deliveries .neverBeenUpdated nus = specDeliveries nus := by
  cases nus with
  | nil => rfl
  | cons nu rest =>
    have ih := deliveries_init rest (fun x hx => h x (List.mem_cons_of_mem _ hx))
    have hnu := h nu (List.mem_cons_self)
    cases nu <;>
      simp_all [deliveries, handlerStep, NodeUpdate.toPrev, initDeliveries, specDeliveries,
        deliveries_invalidated]

/-! ## consequences of the closed form -/

theorem append_invalidated_split (l pre post : List NodeUpdate)
    (hl : ∀ x ∈ l, x ≠ .invalidated) (h : l ++ [.invalidated] = pre ++ .invalidated :: post) :
    post = [] := by
  induction l generalizing pre with
  | nil =>
    cases pre with
    | nil => simpa using h.symm
    | cons a pre' => simp at h
  | cons a l ih =>
    cases pre with
    | nil =>
      simp at h
      exact absurd h.1 (hl a List.mem_cons_self)
    | cons b pre' =>
      simp at h
      exact ih pre' (fun x hx => hl x (List.mem_cons_of_mem _ hx)) (by simpa using h.2)

/-! ## engine link -/

theorem nodeUpdate_ne_unnecessary (env : Env) (s : State) (n : Nat)
    (h : (s.nodeD n).observers ≠ []) : s.nodeUpdate env n ≠ .unnecessary := by
  have hn : (s.nodeD n).isNecessary = true := by
    simp [Node.isNecessary, h]
  unfold State.nodeUpdate
  simp only [hn]
  split
  · simp
  · simp
    split <;> simp

end IncrVerif.Proofs
