import IncrVerif.Proofs.CutH26
import IncrVerif.Proofs.CutH25
/-!
# C06 for whole histories, part 8: THE GATING THEOREM for one `stabilise`

`stabilise_gate`: from the invariant between actions (`QInv env e s`, any cutoffs), a successful `stabilise` from `s`
to `s'` satisfies `Gated env e fuel s s'` (see the structure).  Corollaries: `Gated.never_lost`, `Gated.always_keeps`,
`Gated.always_parent`, `Gated.never_bumps`, `Gated.eq_iff`, `Gated.fn_verdict`, `Gated.dependOn_verdict`.
-/
namespace IncrVerif.Proofs.CutH
open IncrVerif.Engine IncrVerif.Driver IncrVerif.Proofs IncrVerif.Proofs.Step IncrVerif.Proofs.Sched
variable {e : Bool}

/-- one invocation `ρ` inside the `stabilise` from `s` to `s'`, seen from outside -/
structure Invoked (env : Env) (s s' : State) (ρ : Run) : Prop where
  /-- at the moment of the invocation the node is necessary and stale -/
  nec : ρ.pre.isNecessary ρ.node = true
  stale : ρ.pre.isStale ρ.node = true
  /-- until then the node had the value, stamps, cutoff it had before the `stabilise` … -/
  value : (ρ.pre.nodeD ρ.node).value = (s.nodeD ρ.node).value
  recomputedAt : (ρ.pre.nodeD ρ.node).recomputedAt = (s.nodeD ρ.node).recomputedAt
  changedAt : (ρ.pre.nodeD ρ.node).changedAt = (s.nodeD ρ.node).changedAt
  cutoff : ∀ m, (ρ.pre.nodeD m).cutoff = (s.nodeD m).cutoff
  kind : ∀ m, (ρ.pre.nodeD m).kind = (s.nodeD m).kind
  stabNum : ρ.pre.stabNum = s.stabNum
  vars : ρ.pre.vars = s.vars
  /-- … and its children already have the value and the `changedAt` stamp they have after the `stabilise` -/
  kids : ∀ c, c ∈ kids (s.nodeD ρ.node).kind →
    (ρ.pre.nodeD c).changedAt = (s'.nodeD c).changedAt ∧ (ρ.pre.nodeD c).value = (s'.nodeD c).value
  /-- the call: it computes the node's defining expression `v` on the current values of the children; it stamps
  `changedAt` iff `ch`, where `ch` is `mcvChanges` in the pre-state (the gate); see `StepRel` for the log -/
  step : ∃ v ch r, Target env ρ.pre ρ.node v ∧ StepRel env ρ.node v ch r ρ.pre ρ.post ∧
    (s'.nodeD ρ.node).value = some v ∧
    (s'.nodeD ρ.node).changedAt = (if ch = true then s.stabNum else (s.nodeD ρ.node).changedAt)

/-- **the gating theorem**, conclusions for one `stabilise` from `s` to `s'` -/
structure Gated (env : Env) (e : Bool) (fuel : Nat) (s s' : State) : Prop where
  /-- the state in which the drain starts, and the list of invocations of node functions -/
  runs : ∃ t, ∃ L : List Run, L = drainRuns env fuel t ∧ (L.map (·.node)).Nodup ∧
    (∀ m, (∃ ρ, ρ ∈ L ∧ ρ.node = m) ↔ (s'.nodeD m).recomputedAt = s.stabNum) ∧
    (∀ ρ, ρ ∈ L → Invoked env s s' ρ)
  /-- **who runs**: exactly the nodes that are necessary after the observer phases and never ran, or whose variable
  was set since, or one of whose children has (at the moment of the invocation = after the `stabilise`) a `changedAt`
  newer than the node's previous `recomputedAt` -/
  ran_iff : ∀ m, (s'.nodeD m).recomputedAt = s.stabNum ↔ (s'.isNecessary m = true ∧ staleMix s s' m = true)
  /-- a node that did not run keeps value and stamps -/
  notRan : ∀ m, (s'.nodeD m).recomputedAt ≠ s.stabNum → Untouched s s' m
  /-- stamps of `s` are from earlier rounds -/
  old : ∀ m, (s.nodeD m).recomputedAt < s.stabNum ∧ (s.nodeD m).changedAt < s.stabNum
  kind : ∀ m, (s'.nodeD m).kind = (s.nodeD m).kind
  cutoff : ∀ m, (s'.nodeD m).cutoff = (s.nodeD m).cutoff
  vars : s'.vars = s.vars
  stabNum : s'.stabNum = s.stabNum + 1

theorem sameData_staleMix {s t t3 s' : State} (h1 : SameData s t) (h2 : SameData t3 s') (hv : t.vars = s.vars)
    (m : Nat) : staleMix s s' m = staleMix t t3 m := by
  unfold staleMix
  rw [(h1 m).1, (h1 m).2.2.2.1, hv]
  cases (s.nodeD m).kind <;> try rfl
  all_goals
    simp only
    congr 1
    apply any_congr'
    intro a _
    rw [(h2 a).2.2.2.2]

/-- **THE GATING THEOREM.** -/
theorem stabilise_gate {env : Env} {fuel : Nat} {s s' : State} (Q : QInv env e s)
    (h : (stabilise env fuel).run.run s = (.ok (), s')) : Gated env e fuel s s' := by
  have R := stabilise_q Q h
  obtain ⟨t, t3, D, hd, d1, d2, hvars, hstab, hnec⟩ := R.gate
  obtain ⟨dR, dU⟩ := drain_gate fuel t t3 D hd
  obtain ⟨hnodup, honce⟩ := drain_once fuel t t3 D hd
  obtain ⟨D3, he3, f⟩ := drainHeap_inv fuel t t3 D hd
  have hold : ∀ m, (s.nodeD m).recomputedAt < s.stabNum ∧ (s.nodeD m).changedAt < s.stabNum := Q.stamps
  -- membership in the trace ⟺ stamped in this round
  have hmem : ∀ m, m ∈ drainTrace env fuel t ↔ (s'.nodeD m).recomputedAt = s.stabNum := by
    intro m
    constructor
    · intro hm
      rw [(d2 m).2.2.2.1, (honce m hm).2.2, hstab]
    · intro hm
      refine Classical.byContradiction fun hnot => ?_
      have := (dU m hnot).2.1
      rw [(d2 m).2.2.2.1, this, (d1 m).2.2.2.1] at hm
      have := (hold m).1
      omega
  refine ⟨⟨t, drainRuns env fuel t, rfl, by rw [drainRuns_nodes]; exact hnodup, ?_, ?_⟩, ?_, ?_, hold,
    fun m => by rw [(d2 m).1, (f.shape m).kind, (d1 m).1], fun m => by rw [(d2 m).2.1, (f.shape m).cutoff, (d1 m).2.1], R.vars, R.stabNum⟩
  · intro m; rw [← mem_trace_iff]; exact hmem m
  · intro ρ hρ
    have K := dR ρ hρ
    obtain ⟨v, ch, r, ht, SR⟩ := K.step
    have sh := K.fromStart.shape
    refine ⟨K.stale.1, K.stale.2, ?_, ?_, ?_, fun m => ?_, fun m => ?_, ?_, ?_, fun c hc => ?_, v, ch, r, ht, SR, ?_, ?_⟩
    · rw [K.before.1, (d1 _).2.2.1]
    · rw [K.before.2.1, (d1 _).2.2.2.1]
    · rw [K.before.2.2, (d1 _).2.2.2.2]
    · rw [(sh m).cutoff, (d1 m).2.1]
    · rw [(sh m).kind, (d1 m).1]
    · rw [K.fromStart.stabNum, hstab]
    · rw [K.fromStart.vars, hvars]
    · have hc' : c ∈ kids (ρ.pre.nodeD ρ.node).kind := by rw [(sh _).kind, (d1 _).1]; exact hc
      have hu := K.kidsAfter c hc'
      exact ⟨by rw [(d2 c).2.2.2.2, hu.2.2], by rw [(d2 c).2.2.1, hu.1]⟩
    · rw [(d2 _).2.2.1, K.after.1, SR.value]
    · rw [(d2 _).2.2.2.2, K.after.2.2, SR.changedAt, K.fromStart.stabNum, hstab, K.before.2.2, (d1 _).2.2.2.2]
  · intro m
    rw [← hmem m, ran_iff D hd m, hnec m, sameData_staleMix d1 d2 hvars]
  · intro m hm
    have hnot : m ∉ drainTrace env fuel t := fun hc => hm ((hmem m).1 hc)
    have hu := dU m hnot
    exact ⟨by rw [(d2 m).2.2.1, hu.1, (d1 m).2.2.1], by rw [(d2 m).2.2.2.1, hu.2.1, (d1 m).2.2.2.1],
      by rw [(d2 m).2.2.2.2, hu.2.2, (d1 m).2.2.2.2]⟩

/-! ## closed form of the gate -/

/-- the gate in closed form: the first result always counts as a change; otherwise `.never ↦ change`,
`.always ↦ no change`, `.eq ↦ change iff unequal`, a user predicate `c` is asked `env.cutoff c old new` with
(old, new) in that order, `dependOn i ↦ change iff the input's changedAt differs from the node's` (pre-state) -/
theorem mcvChanges_closed (env : Env) (p : State) (n : Nat) (new : Val) :
    mcvChanges env p n new =
      match (p.nodeD n).value with
      | none => some true
      | some old =>
        match (p.nodeD n).cutoff with
        | .never => some true
        | .always => some false
        | .eq => some (!(old == new))
        | .fn c => some (!(env.cutoff c old new))
        | .boxed c => some (!(env.cutoff c old new))
        | .dependOn i => (p.nodes[i]?).map fun ni => !(ni.changedAt == (p.nodeD n).changedAt) := by
  unfold mcvChanges cutoffVerdict
  cases (p.nodeD n).value with
  | none => rfl
  | some old =>
    cases (p.nodeD n).cutoff <;> simp only [Option.map_some, Bool.not_true, Bool.not_false, Option.map_map] <;> rfl

/-- the `cut` event a run logs, in closed form: only for `.fn c` / `.boxed c` on a node that had a value; the
predicate's arguments are (old, new) in that order -/
theorem mcvLog_closed (env : Env) (p : State) (n : Nat) (new : Val) :
    mcvLog env p n new =
      match (p.nodeD n).value with
      | none => []
      | some old =>
        match (p.nodeD n).cutoff with
        | .fn c => [.cut c n old new (env.cutoff c old new)]
        | .boxed c => [.cut c n old new (env.cutoff c old new)]
        | _ => [] := by
  unfold mcvLog cutoffLog
  cases (p.nodeD n).value with
  | none => rfl
  | some old => cases (p.nodeD n).cutoff <;> rfl

namespace Gated
variable {env : Env} {fuel : Nat} {s s' : State}

/-- the invocation of a node that ran -/
theorem run_of_ran (G : Gated env e fuel s s') {m : Nat} (hm : (s'.nodeD m).recomputedAt = s.stabNum) :
    ∃ ρ, ρ.node = m ∧ Invoked env s s' ρ := by
  obtain ⟨t, L, -, -, h1, h2⟩ := G.runs
  obtain ⟨ρ, hρ, e⟩ := (h1 m).2 hm
  exact ⟨ρ, e, h2 ρ hρ⟩

/-- **`changedAt` is set to this round iff the node ran and its result was not suppressed.** -/
theorem bump_iff (G : Gated env e fuel s s') (m : Nat) :
    (s'.nodeD m).changedAt = s.stabNum ↔
      ∃ ρ, ρ.node = m ∧ Invoked env s s' ρ ∧ (s'.nodeD m).recomputedAt = s.stabNum ∧
        ∃ v, (s'.nodeD m).value = some v ∧ mcvChanges env ρ.pre m v = some true := by
  constructor
  · intro hc
    have hran : (s'.nodeD m).recomputedAt = s.stabNum := by
      refine Classical.byContradiction fun hn => ?_
      have := (G.notRan m hn).2.2
      have := (G.old m).2
      omega
    obtain ⟨ρ, rfl, I⟩ := G.run_of_ran hran
    obtain ⟨v, ch, r, -, SR, hv, hch⟩ := I.step
    refine ⟨ρ, rfl, I, hran, v, hv, ?_⟩
    cases ch with
    | true => exact SR.verdict
    | false =>
      exfalso
      rw [hc] at hch
      simp only [Bool.false_eq_true, if_false] at hch
      have := (G.old ρ.node).2
      omega
  · rintro ⟨ρ, rfl, I, -, v, hv, hm⟩
    obtain ⟨v', ch, r, -, SR, hv', hch⟩ := I.step
    rw [hv] at hv'
    cases hv'
    have := SR.verdict
    rw [hm] at this
    cases this
    simpa using hch

/-- **the relational statement that stands for `Sched.Inv.cons`.** A node that ran in this `stabilise` carries, after it, its
defining expression applied to the values its children have AFTER the `stabilise` (whatever the cutoffs are); a node
that did not run keeps its value (`notRan`), and if it is necessary no child has a newer `changedAt` (`Stabilised.settled`). -/
theorem ran_consistent (G : Gated env e fuel s s') {m : Nat} (hm : (s'.nodeD m).recomputedAt = s.stabNum) :
    Consistent env s' m := by
  obtain ⟨ρ, rfl, I⟩ := G.run_of_ran hm
  obtain ⟨v, ch, r, ht, -, hv, -⟩ := I.step
  refine ⟨v, ?_, hv⟩
  refine Target.congr (by rw [G.kind, I.kind]) (by rw [G.vars, I.vars]) (fun c hc => ?_) ht
  rw [I.kind] at hc
  exact ((I.kids c hc).2).symm

/-- **(a) changes are never lost.** If the new result of `c` was not suppressed (its `changedAt` is this round), every
NECESSARY node `p` that has `c` among its children is invoked in the same `stabilise`. -/
theorem never_lost (G : Gated env e fuel s s') {c p : Nat} (hc : (s'.nodeD c).changedAt = s.stabNum)
    (hp : s'.isNecessary p = true) (hk : c ∈ kids (s.nodeD p).kind) :
    (s'.nodeD p).recomputedAt = s.stabNum := by
  rw [G.ran_iff]
  refine ⟨hp, ?_⟩
  unfold staleMix
  have hany : ((kids (s.nodeD p).kind).any fun c =>
      decide ((s'.nodeD c).changedAt > (s.nodeD p).recomputedAt)) = true := by
    rw [List.any_eq_true]
    refine ⟨c, hk, ?_⟩
    have := (G.old p).1
    simp only [gt_iff_lt, decide_eq_true_eq]
    omega
  cases hkd : (s.nodeD p).kind <;> rw [hkd] at hk hany <;>
    first
    | (simp only [kids] at hk; cases hk; done)
    | (simp only [hany, Bool.or_true])

/-- **(b) `Cutoff::Always`.** A node with cutoff `.always` that already has a value does not bump `changedAt`,
whether it runs or not. -/
theorem always_keeps (G : Gated env e fuel s s') {m : Nat} (hc : (s.nodeD m).cutoff = .always)
    (hv : (s.nodeD m).value ≠ none) : (s'.nodeD m).changedAt = (s.nodeD m).changedAt := by
  by_cases hran : (s'.nodeD m).recomputedAt = s.stabNum
  · obtain ⟨ρ, rfl, I⟩ := G.run_of_ran hran
    obtain ⟨v, ch, r, -, SR, -, hch⟩ := I.step
    have hver := SR.verdict
    rw [mcvChanges_closed, I.value, I.cutoff, hc] at hver
    cases hold : (s.nodeD ρ.node).value with
    | none => exact absurd hold hv
    | some old =>
      rw [hold] at hver
      simp only at hver
      cases hver
      simpa using hch
  · exact (G.notRan m hran).2.2

/-- **(b) … its parents are never re-invoked because of it.** If `p` runs although it had run before and was not
stale with respect to `m` before the `stabilise`, some OTHER child of `p` has a newer `changedAt`. -/
theorem always_parent (G : Gated env e fuel s s') {m p : Nat} (hc : (s.nodeD m).cutoff = .always)
    (hv : (s.nodeD m).value ≠ none) (hran : (s'.nodeD p).recomputedAt = s.stabNum)
    (hk : m ∈ kids (s.nodeD p).kind)
    (hnever : (s.nodeD p).recomputedAt ≠ -1) (hbefore : (s.nodeD m).changedAt ≤ (s.nodeD p).recomputedAt) :
    ∃ c, c ∈ kids (s.nodeD p).kind ∧ c ≠ m ∧ (s'.nodeD c).changedAt > (s.nodeD p).recomputedAt := by
  have hst := ((G.ran_iff p).1 hran).2
  have hm := G.always_keeps hc hv
  have key : ((kids (s.nodeD p).kind).any fun c =>
      decide ((s'.nodeD c).changedAt > (s.nodeD p).recomputedAt)) = true := by
    unfold staleMix at hst
    have hne : ((s.nodeD p).recomputedAt == -1) = false := by simpa using hnever
    cases hkd : (s.nodeD p).kind <;> rw [hkd] at hst hk <;>
      first
      | (simp only [kids] at hk; cases hk; done)
      | (simp only [hne, Bool.false_or] at hst; exact hst)
  rw [List.any_eq_true] at key
  obtain ⟨c, hck, hgt⟩ := key
  refine ⟨c, hck, ?_, by simpa using hgt⟩
  intro ecm
  rw [ecm, hm] at hgt
  simp only [gt_iff_lt, decide_eq_true_eq] at hgt
  omega

/-- **(c) `Cutoff::Never`.** Every run of a node with cutoff `.never` bumps `changedAt` (hence, by `never_lost`,
every necessary parent runs in the same `stabilise`). -/
theorem never_bumps (G : Gated env e fuel s s') {m : Nat} (hc : (s.nodeD m).cutoff = .never)
    (hran : (s'.nodeD m).recomputedAt = s.stabNum) : (s'.nodeD m).changedAt = s.stabNum := by
  obtain ⟨ρ, rfl, I⟩ := G.run_of_ran hran
  obtain ⟨v, ch, r, -, SR, -, hch⟩ := I.step
  have hver := SR.verdict
  rw [mcvChanges_closed, I.cutoff, hc] at hver
  have : ch = true := by
    cases hold : (ρ.pre.nodeD ρ.node).value <;> rw [hold] at hver <;> simp only at hver <;> cases hver <;> rfl
  rw [this] at hch
  simpa using hch

/-- **(d) the default cutoff.** A node with cutoff `.eq` that ran: `changedAt` is bumped iff it had no value or the
new value differs from the old one.  (A run producing an equal value bumps nothing; by `ran_iff` no parent runs
because of it.) -/
theorem eq_iff (G : Gated env e fuel s s') {m : Nat} (hc : (s.nodeD m).cutoff = .eq)
    (hran : (s'.nodeD m).recomputedAt = s.stabNum) :
    ((s'.nodeD m).changedAt = s.stabNum ↔ ((s.nodeD m).value = none ∨ (s'.nodeD m).value ≠ (s.nodeD m).value)) ∧
    ((s'.nodeD m).changedAt ≠ s.stabNum → (s'.nodeD m).changedAt = (s.nodeD m).changedAt) := by
  obtain ⟨ρ, rfl, I⟩ := G.run_of_ran hran
  obtain ⟨v, ch, r, -, SR, hv, hch⟩ := I.step
  have hver := SR.verdict
  rw [mcvChanges_closed, I.value, I.cutoff, hc] at hver
  have hlt := (G.old ρ.node).2
  cases hold : (s.nodeD ρ.node).value with
  | none =>
    rw [hold] at hver
    simp only at hver
    cases hver
    simp only [if_true] at hch
    exact ⟨⟨fun _ => Or.inl rfl, fun _ => hch⟩, fun h => absurd hch h⟩
  | some old =>
    rw [hold] at hver
    simp only at hver
    cases hver
    by_cases heq : old = v
    · subst heq
      simp only [beq_self_eq_true, Bool.not_true, Bool.false_eq_true, if_false] at hch
      refine ⟨⟨fun h => ?_, fun h => ?_⟩, fun _ => hch⟩
      · rw [hch] at h; omega
      · rcases h with h | h
        · cases h
        · exact absurd hv h
    · have hb : (!(old == v)) = true := by simp [heq]
      rw [hb] at hch
      simp only [if_true] at hch
      refine ⟨⟨fun _ => Or.inr ?_, fun _ => hch⟩, fun h => absurd hch h⟩
      rw [hv]
      intro h; cases h; exact heq rfl

/-- **function cutoffs** (`Cutoff::Fn c`, `Cutoff::FnBoxed c`).  A node with such a cutoff that ran and had a value
`old`: the predicate is consulted ONCE with `(old, new)` in that order; the node's `changedAt` is bumped iff the
answer is `false`; the call is logged as the `cut` event at the head of the log of the invocation, just after the
events of the node's own function. -/
theorem fn_verdict (G : Gated env e fuel s s') {m c : Nat} {old : Val}
    (hc : (s.nodeD m).cutoff = .fn c ∨ (s.nodeD m).cutoff = .boxed c)
    (hold : (s.nodeD m).value = some old) (hran : (s'.nodeD m).recomputedAt = s.stabNum) :
    ∃ ρ new, ρ.node = m ∧ Invoked env s s' ρ ∧ (s'.nodeD m).value = some new ∧
      (s'.nodeD m).changedAt = (if env.cutoff c old new = true then (s.nodeD m).changedAt else s.stabNum) ∧
      ∃ evs, ρ.post.log = Event.cut c m old new (env.cutoff c old new) :: (evs ++ ρ.pre.log) ∧
        ∀ ev, ev ∈ evs → IsInvOf m ev := by
  obtain ⟨ρ, rfl, I⟩ := G.run_of_ran hran
  obtain ⟨v, ch, r, -, SR, hv, hch⟩ := I.step
  have hver := SR.verdict
  obtain ⟨evs, hlog, hevs⟩ := SR.log
  rw [mcvChanges_closed, I.value, I.cutoff, hold] at hver
  rw [mcvLog_closed, I.value, I.cutoff, hold] at hlog
  refine ⟨ρ, v, rfl, I, hv, ?_, evs, ?_, hevs⟩
  · rcases hc with hc | hc <;> rw [hc] at hver <;> simp only at hver <;> cases hver <;>
      cases hb : env.cutoff c old v <;> rw [hb] at hch <;> simpa using hch
  · rcases hc with hc | hc <;> rw [hc] at hlog <;> exact hlog

/-- **`depend_on`** (`preserve_cutoff`): a node with cutoff `.dependOn i`, `i` one of its children, that ran and had a
value: `changedAt` is bumped iff the input's `changedAt` (after the `stabilise` = at the moment of the invocation)
differs from the node's previous `changedAt`. -/
theorem dependOn_verdict (G : Gated env e fuel s s') {m i : Nat} {old : Val}
    (hc : (s.nodeD m).cutoff = .dependOn i) (hi : i ∈ kids (s.nodeD m).kind)
    (hold : (s.nodeD m).value = some old) (hran : (s'.nodeD m).recomputedAt = s.stabNum) :
    (s'.nodeD m).changedAt =
      (if (s'.nodeD i).changedAt = (s.nodeD m).changedAt then (s.nodeD m).changedAt else s.stabNum) := by
  obtain ⟨ρ, rfl, I⟩ := G.run_of_ran hran
  obtain ⟨v, ch, r, -, SR, hv, hch⟩ := I.step
  have hver := SR.verdict
  rw [mcvChanges_closed, I.value, I.cutoff, hold, hc] at hver
  simp only at hver
  rw [getElem?_eq_nodeD] at hver
  split at hver
  · simp only [Option.map_some, Option.some.injEq] at hver
    rw [(I.kids i hi).1, I.changedAt] at hver
    rw [← hver] at hch
    by_cases heq : (s'.nodeD i).changedAt = (s.nodeD ρ.node).changedAt
    · simp only [heq, beq_self_eq_true, Bool.not_true, Bool.false_eq_true, if_false, if_true] at hch ⊢
      exact hch
    · have : ((s'.nodeD i).changedAt == (s.nodeD ρ.node).changedAt) = false := by simpa using heq
      simp only [this, Bool.not_false, if_true, heq, if_false] at hch ⊢
      exact hch
  · cases hver

end Gated

end IncrVerif.Proofs.CutH
