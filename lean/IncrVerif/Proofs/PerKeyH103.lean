import IncrVerif.Proofs.PerKeyH23
import IncrVerif.Proofs.PerKeyH30
import IncrVerif.Proofs.PerKeyLoop
/-!
# The callback discipline `SlotInv` in the per-key fragment, part 3: inside a run of a change detector (D)

All statements are about the ACTUAL state `σ` between two engine calls of `perKeyDriver`; the structural hypothesis is
what `DriverH.Mid (twEnv env) (twL l σ)` provides (`XFrag` of the twin, `propagateInvalidity = []`, `Struct`).

* `addDep_slots_pk` / `addDep_slots_mid`: `expertAddDependency` (any fuel).
* `makeStale_slots`: `expertMakeStale` (no hypothesis at all).
* `cfx_slots_mid` (`PerKeyH104`): `SlotInv` along the creation frame `ExpertH.CFX`; there too `cfx_withInputNode` (the fresh per-key record and its
  node), `PresCF.elabTemplateBase_t` (the instance of the template), `PresCF.tick`, `cfx_of_nodes` (log, `perkeys`).
-/
namespace IncrVerif.Proofs.PerKeyH
open IncrVerif.Engine IncrVerif.Driver IncrVerif.Proofs IncrVerif.Proofs.Step IncrVerif.Proofs.Sched
open IncrVerif.Proofs.ExpertH IncrVerif.Proofs.EffH IncrVerif.Proofs.Xp IncrVerif.Proofs.DriverH

/-! ## the frame fragment, back from the twin -/

theorem noMapRef_of_twin {env : Env} {l : List Event} {σ : State} (F : XFrag (twEnv env) (twL l σ)) (m p i : Nat) :
    (σ.nodeD m).kind ≠ .mapRef p i := by
  intro h
  have := F.noMapRef m p i
  rw [twL_nodeD, twNode_kind, h] at this
  exact this rfl

/-! ## `expertAddDependency` -/

/-- **D1.** `expertAddDependency` keeps the callback discipline (hypotheses: what `Mid` of the twin provides) -/
theorem addDep_slots_pk {env : Env} {l : List Event} {σ σ' : State} {fuel n c e dep : Nat} {cb : Bool} {er : ExpertRec}
    (F : XFrag (twEnv env) (twL l σ)) (hp : σ.propagateInvalidity = []) (L : SlotInv env σ)
    (hk : (σ.nodeD n).kind = .expert e) (hx : σ.experts[e]? = some er)
    (h : (expertAddDependency env fuel n c cb).run.run σ = (.ok dep, σ')) : SlotInv env σ' := by
  have frσ : Fr σ := fr_of_twin (F.fr hp)
  obtain ⟨⟨l', htw⟩, -⟩ := TSim.expertAddDependency env fuel n c cb σ frσ l dep σ' h
  have Lt := (slotInv_twin env l σ).1 L
  have hkt := (twL_kind_expert l σ n e).2 hk
  have hxt := tw_rec_get (l := l) hx
  exact (slotInv_twin env l' σ').2 (expertAddDependency_slots F hp Lt hkt hxt htw)

theorem addDep_slots_mid {env : Env} {l : List Event} {σ σ' : State} {fuel n c e dep : Nat} {cb : Bool} {er : ExpertRec}
    (M : Mid (twEnv env) (twL l σ)) (L : SlotInv env σ)
    (hk : (σ.nodeD n).kind = .expert e) (hx : σ.experts[e]? = some er)
    (h : (expertAddDependency env fuel n c cb).run.run σ = (.ok dep, σ')) : SlotInv env σ' :=
  addDep_slots_pk M.frag M.pinv L hk hx h

/-- the same from the fragment of the actual state -/
theorem addDep_slots_pf {env : Env} {σ σ' : State} {fuel n c e dep : Nat} {cb : Bool} {er : ExpertRec}
    (F : PFrag env σ) (hp : σ.propagateInvalidity = []) (L : SlotInv env σ)
    (hk : (σ.nodeD n).kind = .expert e) (hx : σ.experts[e]? = some er)
    (h : (expertAddDependency env fuel n c cb).run.run σ = (.ok dep, σ')) : SlotInv env σ' :=
  addDep_slots_pk (xfrag_twin [] F) hp L hk hx h

/-! ## `expertMakeStale` -/

/-- raising `forceStale` of one record: the `good` clause gets weaker -/
theorem slotInv_forced {env : Env} {s : State} {e : Nat} {er : ExpertRec} (L : SlotInv env s)
    (hx : s.experts[e]? = some er) : SlotInv env (Xp.forced e er s) := by
  have hget : (Xp.forced e er s).experts[e]? = some { er with forceStale := true } := putExpert_get _ hx
  have hne : ∀ e', e' ≠ e → (Xp.forced e er s).experts[e']? = s.experts[e']? :=
    fun e' h => putExpert_get_ne s _ (Ne.symm h)
  have hv : ∀ m, (Xp.forced e er s).value env m = s.value env m := fun m => putExpert_value env e _ s m
  refine ⟨fun e' er' he' => ?_, fun n e' er' hk he' hw => ?_, fun n e' er' hk he' hpre => ?_⟩
  · by_cases h : e' = e
    · subst h; rw [hget] at he'; cases he'
      exact L.deps e' er hx
    · rw [hne e' h] at he'; exact L.deps e' er' he'
  · by_cases h : e' = e
    · subst h; rw [hget] at he'; cases he'
      exact L.flag n e' er hk hx hw
    · rw [hne e' h] at he'; exact L.flag n e' er' hk he' hw
  · have hk0 : (s.nodeD n).kind = .expert e' := hk
    by_cases h : e' = e
    · subst h; rw [hget] at he'; cases he'
      have hpre0 : er.willFireAllCallbacks = false ∨ s.isStale n = false := by
        rcases hpre with h | h
        · exact Or.inl h
        · cases hval : (s.nodeD n).valid with
          | false => exact Or.inr (BindH.isStale_invalid hval)
          | true =>
            have : (Xp.forced e' er s).isStale n = true :=
              isStale_of_forceStale (s := Xp.forced e' er s) hk hval hget rfl
            rw [this] at h; cases h
      intro ed hed hcb
      rw [hv]; exact L.good n e' er hk0 hx hpre0 ed hed hcb
    · rw [hne e' h] at he'
      have hst : (Xp.forced e er s).isStale n = s.isStale n :=
        isStale_expert_congr (s := s) (s' := Xp.forced e er s) (fun _ => rfl) hk0 he'
          (by rw [hne e' h]; exact he') rfl rfl
      rw [hst] at hpre
      intro ed hed hcb
      rw [hv]; exact L.good n e' er' hk0 he' hpre ed hed hcb

/-- **D2.** `expertMakeStale` keeps the callback discipline -/
theorem makeStale_slots {env : Env} {σ σ' : State} {n : Nat} {u : Unit} (L : SlotInv env σ)
    (h : (expertMakeStale n).run.run σ = (.ok u, σ')) : SlotInv env σ' := by
  cases hnd : σ.nodes[n]? with
  | none =>
    exfalso
    unfold expertMakeStale at h
    obtain ⟨nd, hnd', -⟩ := bind_getNode_inv h
    rw [hnd] at hnd'; cases hnd'
  | some nd =>
    cases hv : nd.valid with
    | false => rw [expertMakeStale_invalid hnd hv] at h; cases h; exact L
    | true =>
      by_cases hk : ∀ e, nd.kind ≠ .expert e
      · rw [expertMakeStale_not_expert hnd hk] at h; cases h; exact L
      · have : ∃ e, nd.kind = .expert e := by
          cases hkd : nd.kind <;>
            first | exact ⟨_, rfl⟩ | (exfalso; apply hk; intro e; rw [hkd]; intro h; cases h)
        obtain ⟨e, hkk⟩ := this
        cases hx : σ.experts[e]? with
        | none =>
          exfalso
          unfold expertMakeStale at h
          rw [run_bind_ok (run_getNode_some hnd)] at h
          simp only [hv, Bool.not_true, Bool.false_eq_true, if_false] at h
          rw [run_bind_ok (Xp.run_expertOf hnd)] at h
          simp only [Node.kind?, hv, hkk, if_true] at h
          cases hr : runningOk σ n with
          | false =>
            obtain ⟨p, hp⟩ := run_assertRunningIsChild_fail (name := "make_stale") hr
            rw [run_bind, hp] at h; cases h
          | true =>
            rw [run_bind_ok (run_assertRunningIsChild_ok hr)] at h
            obtain ⟨er, he, -⟩ := bind_getExpert_inv h
            rw [hx] at he; cases he
        | some er =>
          have hX : IsExpert σ n nd e er := ⟨hnd, hv, hkk, hx⟩
          cases hr : runningOk σ n with
          | false =>
            obtain ⟨p, hp⟩ := expertMakeStale_assert_fails hX hr
            rw [hp] at h; cases h
          | true =>
            rw [expertMakeStale_run hX hr] at h
            have Lf := slotInv_forced L hx
            split at h
            · cases h; exact L
            · split at h
              · exact slotInv_of_sr_fm Lf ((PresR.rchInsert n).h _ _ _ h) ((PresM.rchInsert n).h _ _ _ h)
              · cases h; exact Lf

end IncrVerif.Proofs.PerKeyH
