import IncrVerif.Proofs.Step
import IncrVerif.Engine.Run
/-!
# The footprint of the engine

Every function of `Engine/{Core,Expert,Recompute}` changes the state only through a fixed set of primitive writes: `modNode n f` for a dozen
field updates `f`, the stores of a value by the node that runs, the stamp of `recompute_one` and the erasure of `invalidate_node`, `modVar`,
`modBind`, `modExpert`, `modObs`, updates of a per-key record, pushes of fresh records, the step to the next round, and `modify` of one
bookkeeping field.  Each write has a name (`Tag`).  `Edit L w s s'` is one write whose name is in the list `L`, made in state `s` (`w n`: node `n`
may store a value); `Steps E` is the reflexive-transitive closure.

`Foot.f : Foot W.f w (Engine.f …)` says that every run of `f`, returning or panicking, is a sequence of the writes named in `W.f` (functions that only
read are stated at `[]`; `maybeChangeValue` and `recomputeOne` at `w := (· = n)`, the node that runs; the loops over many nodes at `fun _ => True`).
`Foot.recomputeOne_started` splits `recompute_one` at its start: after the count and the stamp it neither counts nor stamps again.
`Foot.stepAction` adds the bookkeeping of the API action itself (`ActEdit`).  The sections "the walk" and "the API actions" are the one place in this file where
the program text of each function is taken apart.

A preorder `R` on states that is kept by the writes in `W.f` is therefore kept by `f`: `(Foot.f …).lift h`, or `(Foot.f …).frame h` when `h` does not
care which node stores a value.  Whether a write keeps `R` is read off the constructors, field by field (section "what an edit does to each
field").  A write says exactly what is written where a relation of the development needs it: which counter, which kind of log entry, that a heap
keeps its number of buckets, that `stamp` and `erase` write the round number of the state they are made in; and it carries what the program has
checked just before where a single function knows it: a queued handler node exists (`queueHandler`) or has update handlers (`queueNotified`), a
fault that is counted down is armed (`panicCountdown`).  These three guards are read before the write, so `handleAfterStabilisation`,
`maybeHandleAfterStabilisation` and `tick` are walked by hand.  The new `changedAt`, parent lists and handler counts are arbitrary.

Some writes keep a relation only together: the push of a node and its registration with the bind in whose scope it is created; the flag
`inHandleAfterStab` and the handler queue; the stamp `changedAt` and the queueing that follows it; the observer record, the count and the queue
that `disallow_future_use` writes.  `Call L w s s'` is therefore one write or one such call (`Compound t`, under a tag `t` of its own:
`createNode`, `mark`, `markNotified`, `touch`, `disallow`), and `Foot` is stated over calls.  A call is a sequence of the writes named by
`Tag.sub` (`Compound.steps`), so a relation that every single write keeps is proved from `Edit` alone (`Foot.frame`, `Foot.lift`, at the list
`parts L`); one that needs a call as a whole is proved from `Call` (`Foot.calls`).

`set_height` raises `maxHeightSeen` first, panics if the new height is beyond the limit, and writes the height only then: the pair is one call
(`Compound.setHeight`, carrying the bound) in a run that returns; a run that panics in it has made the first write only.  `Foot L w m` therefore says of a run
that returns that it is a sequence of the calls named in `L` (`Foot.ok`), and of a run that panics the same where a call may also appear as the writes `Tag.below`
names (`FootR`, `Foot.run` for both kinds of run).  `PresB` is `Pres` for such a pair of relations; the walk is the same.  An invariant
that only runs that return keep is proved from `Foot.ok`.
-/
namespace IncrVerif.Proofs.Footprint
open IncrVerif.Engine IncrVerif.Proofs IncrVerif.Proofs.Step

/-- reflexive-transitive closure -/
inductive Steps (E : State → State → Prop) : State → State → Prop
  | refl (s) : Steps E s s
  | tail {a b c} : Steps E a b → E b c → Steps E a c

theorem Steps.single {E : State → State → Prop} {a b : State} (h : E a b) : Steps E a b := .tail (.refl a) h

theorem Steps.trans {E : State → State → Prop} {a b c : State} (h1 : Steps E a b) (h2 : Steps E b c) : Steps E a c := by
  induction h2 with
  | refl => exact h1
  | tail _ e ih => exact .tail ih e

instance (E : State → State → Prop) : PreOrd (Steps E) := ⟨Steps.refl, Steps.trans⟩

theorem Steps.lift {E R : State → State → Prop} [PreOrd R] {a b : State} (hs : Steps E a b) (h : ∀ {s s'}, E s s' → R s s') : R a b := by
  induction hs with
  | refl => exact PreOrd.refl _
  | tail _ e ih => exact PreOrd.trans ih (h e)

theorem Steps.mono {E E' : State → State → Prop} (h : ∀ s s', E s s' → E' s s') {a b : State} (hs : Steps E a b) : Steps E' a b :=
  hs.lift fun e => Steps.single (h _ _ e)

/-- a program all of whose writes are in `E` keeps every preorder that `E` keeps -/
theorem _root_.IncrVerif.Proofs.Step.Pres.lift {E R : State → State → Prop} [PreOrd R] {α} {m : M α} (hm : Pres (Steps E) m)
    (h : ∀ {s s'}, E s s' → R s s') : Pres R m :=
  hm.mono fun _ _ hs => hs.lift h

/-! ## relations that see whether the run returned -/

class PreOrdB (R : Bool → State → State → Prop) : Prop where
  refl : ∀ k s, R k s s
  trans : ∀ {k a b c}, R true a b → R k b c → R k a c

/-- `R true` relates the initial and the final state of every run of `m` that returns, `R false` those of every run that panics -/
structure PresB (R : Bool → State → State → Prop) {α} (m : M α) : Prop where
  h : ∀ s r s', m.run.run s = (r, s') → R r.isOk s s'

section
variable {R : Bool → State → State → Prop} [PreOrdB R]
theorem PresB.pure {α} (a : α) : PresB R (pure a : M α) := by
  constructor; intro s r s' h; rw [run_pure] at h; cases h; exact PreOrdB.refl _ s
theorem PresB.get : PresB R (get : M State) := by
  constructor; intro s r s' h; rw [run_get] at h; cases h; exact PreOrdB.refl _ s
theorem PresB.throw {α} (e : Panic) : PresB R (throw e : M α) := by
  constructor; intro s r s' h; rw [run_throw] at h; cases h; exact PreOrdB.refl _ s
theorem PresB.panic {α} (e : String) : PresB R (IncrVerif.Engine.panic e : M α) := PresB.throw _
omit [PreOrdB R] in
theorem PresB.modify {f : State → State} (hf : ∀ s, R true s (f s)) : PresB R (modify f : M Unit) := by
  constructor; intro s r s' h; rw [run_modify] at h; cases h; exact hf s
theorem PresB.bind {α β} {x : M α} {f : α → M β} (hx : PresB R x) (hf : ∀ a, PresB R (f a)) : PresB R (x >>= f) := by
  constructor
  intro s r s' h
  rw [run_bind] at h
  rcases hx' : x.run.run s with ⟨r1, s1⟩
  rw [hx'] at h
  have h1 := hx.h s r1 s1 hx'
  cases r1 with
  | ok a => exact PreOrdB.trans h1 ((hf a).h s1 r s' h)
  | error e => cases h; exact h1
/-- a bind whose first half is related from an earlier state -/
theorem PresB.bind_from {α β} {x : M α} {f : α → M β} {s0 s s' : State} {r : Except Panic β}
    (hx : ∀ r1 s1, x.run.run s = (r1, s1) → R r1.isOk s0 s1) (hf : ∀ a, PresB R (f a)) (h : (x >>= f).run.run s = (r, s')) :
    R r.isOk s0 s' := by
  rw [run_bind] at h
  rcases hx' : x.run.run s with ⟨r1, s1⟩
  rw [hx'] at h
  have h1 := hx r1 s1 hx'
  cases r1 with
  | ok a => exact PreOrdB.trans h1 ((hf a).h s1 r s' h)
  | error e => cases h; exact h1
theorem PresB.map {α β} {x : M α} (f : α → β) (hx : PresB R x) : PresB R (f <$> x) := by
  rw [map_eq_pure_bind]; exact PresB.bind hx (fun _ => PresB.pure _)
theorem PresB.mapM {α β} {f : α → M β} (hf : ∀ a, PresB R (f a)) (l : List α) : PresB R (l.mapM f) := by
  induction l with
  | nil => simp; exact PresB.pure _
  | cons a l ih => simp; exact PresB.bind (hf a) (fun _ => PresB.bind ih (fun _ => PresB.pure _))
theorem PresB.forIn {α β} (l : List α) (init : β) (f : α → β → M (ForInStep β)) (hf : ∀ a b, PresB R (f a b)) :
    PresB R (forIn l init f) := by
  induction l generalizing init with
  | nil => rw [List.forIn_nil]; exact PresB.pure _
  | cons a l ih =>
    rw [List.forIn_cons]
    refine PresB.bind (hf a init) fun r => ?_
    cases r with
    | done b => exact PresB.pure _
    | yield b => exact ih b
/-- a program that never changes the state -/
theorem PresB.of_readonly {α} {m : M α} (h : Pres Eq m) : PresB R m := by
  constructor
  intro s r s' e
  cases h.h s r s' e
  exact PreOrdB.refl _ _
end

/-! ## the primitive writes -/

/-- names of the primitive writes: node fields `n…`, value stores `v…`, var cells `var…`, bind records `b…`, expert records `x…`,
observer records `o…`, per-key records `pk…`, pushes, `stamp`, `erase`, the five kinds of log entry `log…`, the eight counters `c…`, `nextRound`,
and the bookkeeping fields of the state under their own names.  `handleAfterStab` names the emptying of the handler queue and the queueing of
any existing node, `queueNotified` the queueing of a node that has update handlers; `rch`/`ahh` a write that keeps the number of buckets,
`rchResize`/`ahhResize` any other; `panicCountdown` the countdown of an armed fault, `arm` any other write of it; `bCreated` the emptying of a
bind's list of created nodes, `bRegister` the registration of one more.  The last six name calls (`Compound`); in a run that panics a `setHeight` may also appear as its writes. -/
inductive Tag
  | nHeightInRch | nHeightInAhh | nHeight | nCutoff | nChangedAt | nParents | nInHandleAfterStab | nForceNecessary | nDidChange
  | nHandlers | nObservers | nInvalid | vClear | vClearRef | vStore | vStoreOld | varSetAt | varPending | varValue | varCommit
  | varHandles | varUnlink | bCreated | bRegister | bNodes | bRhs | xSlots | xObservability | xInvalidChildren | xForceStale | xAddChild | xChildren
  | xDropChild | xNode | xScript | xSel | xRan | oState | oDropped | oHandlers | pkPrevNodes | pkPrevMap | stamp | erase | pushNode
  | pushVar | pushBind | pushExpert | pushPerKey | logInv | logCb | logCut | logNotif | logNote | cCreated | cChanged | cRecomputed
  | cInvalidated | cBecameNecessary | cBecameUnnecessary | cVarSets | cActiveObservers | nextRound | rch | rchResize | ahh | ahhResize
  | maxHeightSeen | status | currentScope | propagateInvalidity | handleAfterStab | queueNotified | newObservers | disallowedObservers
  | allObservers | setDuringStab | deadVars | nextToken | nextDep | panicCountdown | arm | currentlyRunning | slots | memos
  | createNode | mark | markNotified | touch | disallow | setHeight
deriving DecidableEq

/-- the updates `f` of the engine's `modNode n f` that do not store a value -/
inductive NodeEdit (L : List Tag) : (Node → Node) → Prop
  | heightInRch (h : Int) (ht : .nHeightInRch ∈ L) : NodeEdit L fun x => { x with heightInRch := h }
  | heightInAhh (h : Int) (ht : .nHeightInAhh ∈ L) : NodeEdit L fun x => { x with heightInAhh := h }
  | height (h : Int) (ht : .nHeight ∈ L) : NodeEdit L fun x => { x with height := h }
  | cutoff (c : CutoffK) (ht : .nCutoff ∈ L) : NodeEdit L fun x => { x with cutoff := c }
  | changedAt (t : Int) (ht : .nChangedAt ∈ L) : NodeEdit L fun x => { x with changedAt := t }
  | parents (g : Node → List (Nat × Nat)) (ht : .nParents ∈ L) : NodeEdit L fun x => { x with parents := g x }
  | inHandleAfterStab (b : Bool) (ht : .nInHandleAfterStab ∈ L) : NodeEdit L fun x => { x with inHandleAfterStab := b }
  | forceNecessary (b : Bool) (ht : .nForceNecessary ∈ L) : NodeEdit L fun x => { x with forceNecessary := b }
  | didChange (ht : .nDidChange ∈ L) : NodeEdit L fun x => { x with didChange := true }
  | didChangeOr (d : Bool) (ht : .nDidChange ∈ L) : NodeEdit L fun x => { x with didChange := x.didChange || d }
  | handlers (g : Node → Int) (ht : .nHandlers ∈ L) : NodeEdit L fun x => { x with numOnUpdateHandlers := g x }
  | observers (g : Node → List Nat) (k : Node → Int) (ht : .nObservers ∈ L) : NodeEdit L fun x => { x with observers := g x, numOnUpdateHandlers := k x }
  | invalid (ht : .nInvalid ∈ L) : NodeEdit L fun x => { x with valid := false }

/-- the updates by which a node that runs stores (or clears) its own value -/
inductive ValueEdit (L : List Tag) : (Node → Node) → Prop
  | clear (ht : .vClear ∈ L) : ValueEdit L fun x => { x with value := none }
  | clearRef (ht : .vClearRef ∈ L) : ValueEdit L fun x => { x with value := none, didChange := false }
  | store (v : Val) (ht : .vStore ∈ L) : ValueEdit L fun x => { x with value := some v }
  | storeOld (v σ : Val) (ht : .vStoreOld ∈ L) : ValueEdit L fun x => { x with value := some v, oldState := σ }

inductive VarEdit (L : List Tag) : (VarCell → VarCell) → Prop
  | setAt (t : Int) (ht : .varSetAt ∈ L) : VarEdit L fun x => { x with setAt := t }
  | pending (p : Option Val) (ht : .varPending ∈ L) : VarEdit L fun x => { x with pending := p }
  | value (v : Val) (ht : .varValue ∈ L) : VarEdit L fun x => { x with value := v }
  | commit (v : Val) (ht : .varCommit ∈ L) : VarEdit L fun x => { x with pending := none, value := v }
  | handles (g : VarCell → Nat) (ht : .varHandles ∈ L) : VarEdit L fun x => { x with handles := g x }
  | unlink (ht : .varUnlink ∈ L) : VarEdit L fun x => { x with linked := false }

inductive BindEdit (L : List Tag) : (BindRec → BindRec) → Prop
  | created (ht : .bCreated ∈ L) : BindEdit L fun x => { x with allNodesCreatedOnRhs := [] }
  | register (n : Nat) (ht : .bRegister ∈ L) : BindEdit L fun x => { x with allNodesCreatedOnRhs := x.allNodesCreatedOnRhs ++ [n] }
  | nodes (lc main : Nat) (ht : .bNodes ∈ L) : BindEdit L fun x => { x with lhsChange := lc, main := main }
  | rhs (r : Option Nat) (ht : .bRhs ∈ L) : BindEdit L fun x => { x with rhs := r }

inductive ExpertEdit (L : List Tag) : (ExpertRec → ExpertRec) → Prop
  | slots (g : ExpertRec → List (Nat × Val)) (ht : .xSlots ∈ L) : ExpertEdit L fun x => { x with slots := g x }
  | observability (ht : .xObservability ∈ L) : ExpertEdit L fun x => { x with willFireAllCallbacks := true, numInvalidChildren := 0 }
  | invalidChildren (g : ExpertRec → Int) (ht : .xInvalidChildren ∈ L) : ExpertEdit L fun x => { x with numInvalidChildren := g x }
  | forceStale (ht : .xForceStale ∈ L) : ExpertEdit L fun x => { x with forceStale := true }
  | addChild (g : ExpertRec → List ExpertEdge) (ht : .xAddChild ∈ L) : ExpertEdit L fun x => { x with children := g x, forceStale := true }
  | children (g : ExpertRec → List ExpertEdge) (ht : .xChildren ∈ L) : ExpertEdit L fun x => { x with children := g x }
  | dropChild (g : ExpertRec → List ExpertEdge) (k : ExpertRec → List (Nat × Val)) (ht : .xDropChild ∈ L) :
      ExpertEdit L fun x => { x with children := g x, forceStale := true, slots := k x }
  | node (n : Nat) (ht : .xNode ∈ L) : ExpertEdit L fun x => { x with node := n }
  | script (g : ExpertRec → List Nat) (ht : .xScript ∈ L) : ExpertEdit L fun x => { x with script := g x }
  | sel (o : Option (Nat × Nat)) (ht : .xSel ∈ L) : ExpertEdit L fun x => { x with sel := o }
  | ran (ht : .xRan ∈ L) : ExpertEdit L fun x => { x with forceStale := false, willFireAllCallbacks := false }

inductive ObsEdit (L : List Tag) : (ObsRec → ObsRec) → Prop
  | state (st : ObsState) (ht : .oState ∈ L) : ObsEdit L fun x => { x with state := st }
  | dropped (ht : .oDropped ∈ L) : ObsEdit L fun x => { x with state := .unlinked, handlers := [] }
  | handlers (g : ObsRec → List HandlerRec) (ht : .oHandlers ∈ L) : ObsEdit L fun x => { x with handlers := g x }

inductive PerKeyEdit (L : List Tag) : (PerKeyRec → PerKeyRec) → Prop
  | prevNodes (g : PerKeyRec → List (Int × (Nat × Nat))) (ht : .pkPrevNodes ∈ L) : PerKeyEdit L fun p => { p with prevNodes := g p }
  | prevMap (m : List (Int × Int)) (ht : .pkPrevMap ∈ L) : PerKeyEdit L fun p => { p with prevMap := m }

/-- the log entries: an invocation, the invocation `"cb"` of an expert edge callback, a cutoff call, a handler notification, a note -/
inductive LogEdit (L : List Tag) : Event → Prop
  | cb (n : Nat) (args : List Val) (res : String) (ht : .logCb ∈ L) : LogEdit L (.inv "cb" n args res)
  | inv (what : String) (n : Nat) (args : List Val) (res : String) (ht : .logInv ∈ L) : LogEdit L (.inv what n args res)
  | cut (c n : Nat) (old new : Val) (res : Bool) (ht : .logCut ∈ L) : LogEdit L (.cut c n old new res)
  | notif (t : Nat) (u : Update) (ht : .logNotif ∈ L) : LogEdit L (.notif t u)
  | note (str : String) (ht : .logNote ∈ L) : LogEdit L (.note str)

/-- an update of one counter -/
inductive CounterEdit (L : List Tag) (c : Counters) : Counters → Prop
  | created (v : Nat) (ht : .cCreated ∈ L) : CounterEdit L c { c with created := v }
  | changed (v : Nat) (ht : .cChanged ∈ L) : CounterEdit L c { c with changed := v }
  | recomputed (v : Nat) (ht : .cRecomputed ∈ L) : CounterEdit L c { c with recomputed := v }
  | invalidated (v : Nat) (ht : .cInvalidated ∈ L) : CounterEdit L c { c with invalidated := v }
  | becameNecessary (v : Nat) (ht : .cBecameNecessary ∈ L) : CounterEdit L c { c with becameNecessary := v }
  | becameUnnecessary (v : Nat) (ht : .cBecameUnnecessary ∈ L) : CounterEdit L c { c with becameUnnecessary := v }
  | varSets (v : Nat) (ht : .cVarSets ∈ L) : CounterEdit L c { c with varSets := v }
  | activeObservers (v : Int) (ht : .cActiveObservers ∈ L) : CounterEdit L c { c with activeObservers := v }

/-- one primitive write of the engine; `w n`: node `n` may store a value -/
inductive Edit (L : List Tag) (w : Nat → Prop) : State → State → Prop
  /-- `recompute_one` stamps the node with the current round -/
  | stamp (s : State) (n : Nat) (ht : .stamp ∈ L) : Edit L w s { s with nodes := s.nodes.modify n fun x => { x with recomputedAt := s.stabNum } }
  /-- `invalidate_node` erases the value and stamps both timestamps with the current round -/
  | erase (s : State) (n : Nat) (ht : .erase ∈ L) :
      Edit L w s { s with nodes := s.nodes.modify n fun x => { x with value := none, changedAt := s.stabNum, recomputedAt := s.stabNum } }
  | node (s : State) (n : Nat) {f} (hf : NodeEdit L f) : Edit L w s { s with nodes := s.nodes.modify n f }
  | value (s : State) (n : Nat) (hn : w n) {f} (hf : ValueEdit L f) : Edit L w s { s with nodes := s.nodes.modify n f }
  | pushNode (s : State) (k : Kind) (sc : Scope) (c : CutoffK) (ht : .pushNode ∈ L) : Edit L w s { s with nodes := s.nodes.push { kind := k, createdIn := sc, cutoff := c } }
  | var (s : State) (v : Nat) {f} (hf : VarEdit L f) : Edit L w s { s with vars := s.vars.modify v f }
  /-- `create_var` pushes a cell that has nothing pending and one handle -/
  | pushVar (s : State) (v : Val) (n : Nat) (ht : .pushVar ∈ L) :
      Edit L w s { s with vars := s.vars.push { value := v, setAt := s.stabNum, node := n } }
  | bind (s : State) (b : Nat) {f} (hf : BindEdit L f) : Edit L w s { s with binds := s.binds.modify b f }
  | pushBind (s : State) (lhs body : Nat) (ht : .pushBind ∈ L) : Edit L w s { s with binds := s.binds.push { lhs := lhs, body := body } }
  | expert (s : State) (e : Nat) {f} (hf : ExpertEdit L f) : Edit L w s { s with experts := s.experts.modify e f }
  | pushExpert (s : State) (r : ExpertRec) (ht : .pushExpert ∈ L) : Edit L w s { s with experts := s.experts.push r }
  | obs (s : State) (o : Nat) {f} (hf : ObsEdit L f) : Edit L w s { s with observers := s.observers.modify o f }
  | perKey (s : State) (op : Nat) {f} (hf : PerKeyEdit L f) : Edit L w s { s with perkeys := s.perkeys.modify op f }
  | pushPerKey (s : State) (r : PerKeyRec) (ht : .pushPerKey ∈ L) : Edit L w s { s with perkeys := s.perkeys.push r }
  | log (s : State) {e : Event} (he : LogEdit L e) : Edit L w s { s with log := e :: s.log }
  | counters (s : State) {c : Counters} (hc : CounterEdit L s.counters c) : Edit L w s { s with counters := c }
  | nextRound (s : State) (ht : .nextRound ∈ L) : Edit L w s { s with stabNum := s.stabNum + 1, currentlyRunning := none }
  /-- a write of the recompute heap that keeps the number of buckets -/
  | rch (s : State) (h : Heap) (hq : h.queues.size = s.rch.queues.size) (ht : .rch ∈ L) : Edit L w s { s with rch := h }
  | rchResize (s : State) (h : Heap) (ht : .rchResize ∈ L) : Edit L w s { s with rch := h }
  | ahh (s : State) (h : Heap) (hq : h.queues.size = s.ahh.queues.size) (ht : .ahh ∈ L) : Edit L w s { s with ahh := h }
  | ahhResize (s : State) (h : Heap) (ht : .ahhResize ∈ L) : Edit L w s { s with ahh := h }
  | maxHeightSeen (s : State) (h : Int) (ht : .maxHeightSeen ∈ L) : Edit L w s { s with maxHeightSeen := h }
  | status (s : State) (st : Status) (ht : .status ∈ L) : Edit L w s { s with status := st }
  | currentScope (s : State) (sc : Scope) (ht : .currentScope ∈ L) : Edit L w s { s with currentScope := sc }
  | propagateInvalidity (s : State) (l : List Nat) (ht : .propagateInvalidity ∈ L) : Edit L w s { s with propagateInvalidity := l }
  /-- `handle_after_stabilisation` queues a node it has just read, hence an existing one -/
  | queueHandler (s : State) (n : Nat) (hn : n < s.nodes.size) (ht : .handleAfterStab ∈ L) :
      Edit L w s { s with handleAfterStab := s.handleAfterStab ++ [n] }
  /-- `maybe_handle_after_stabilisation` queues a node only if it has update handlers -/
  | queueNotified (s : State) (n : Nat) (hn : n < s.nodes.size) (hh : 0 < (s.nodeD n).numOnUpdateHandlers) (ht : .queueNotified ∈ L) :
      Edit L w s { s with handleAfterStab := s.handleAfterStab ++ [n] }
  | clearHandlers (s : State) (ht : .handleAfterStab ∈ L) : Edit L w s { s with handleAfterStab := [] }
  | newObservers (s : State) (l : List Nat) (ht : .newObservers ∈ L) : Edit L w s { s with newObservers := l }
  | disallowedObservers (s : State) (l : List Nat) (ht : .disallowedObservers ∈ L) : Edit L w s { s with disallowedObservers := l }
  | allObservers (s : State) (l : List Nat) (ht : .allObservers ∈ L) : Edit L w s { s with allObservers := l }
  | setDuringStab (s : State) (l : List Nat) (ht : .setDuringStab ∈ L) : Edit L w s { s with setDuringStab := l }
  | deadVars (s : State) (l : List Nat) (ht : .deadVars ∈ L) : Edit L w s { s with deadVars := l }
  | nextToken (s : State) (k : Nat) (ht : .nextToken ∈ L) : Edit L w s { s with nextToken := k }
  | nextDep (s : State) (k : Nat) (ht : .nextDep ∈ L) : Edit L w s { s with nextDep := k }
  | arm (s : State) (p : Option Nat) (ht : .arm ∈ L) : Edit L w s { s with panicCountdown := p }
  /-- `tick` counts down only a fault that is armed -/
  | panicCountdown (s : State) (p : Option Nat) (hs : s.panicCountdown ≠ none) (ht : .panicCountdown ∈ L) :
      Edit L w s { s with panicCountdown := p }
  | currentlyRunning (s : State) (r : Option Nat) (ht : .currentlyRunning ∈ L) : Edit L w s { s with currentlyRunning := r }
  | slots (s : State) (l : List (Nat × Nat)) (ht : .slots ∈ L) : Edit L w s { s with slots := l }
  | memos (s : State) (l : List (Nat × List (Int × Nat))) (ht : .memos ∈ L) : Edit L w s { s with memos := l }

theorem Edit.mono {L L' : List Tag} {w w' : Nat → Prop} (hL : ∀ t ∈ L, t ∈ L') (h : ∀ n, w n → w' n) {s s' : State}
    (e : Edit L w s s') : Edit L' w' s s' := by
  cases e
  case value n hn f hf => exact .value s n (h n hn) (by cases hf <;> constructor <;> exact hL _ ‹_›)
  case queueHandler n hn ht => exact .queueHandler s n hn (hL _ ht)
  case queueNotified n hn hh ht => exact .queueNotified s n hn hh (hL _ ht)
  case rch h' hq ht => exact .rch s h' hq (hL _ ht)
  case rchResize h' ht => exact .rchResize s h' (hL _ ht)
  case ahh h' hq ht => exact .ahh s h' hq (hL _ ht)
  case ahhResize h' ht => exact .ahhResize s h' (hL _ ht)
  case panicCountdown p hs ht => exact .panicCountdown s p hs (hL _ ht)
  all_goals first
    | (constructor; exact hL _ ‹_›)
    | (constructor; rename_i hf; cases hf <;> constructor <;> exact hL _ ‹_›)

section readers
variable {R : State → State → Prop} [PreOrd R]
theorem _root_.IncrVerif.Proofs.Step.Pres.getObs (o) : Pres R (getObs o) :=
  Pres.of_readonly _ fun s => by simp only [Engine.getObs, run_bind, run_get]; cases s.observers[o]? <;> rfl
theorem _root_.IncrVerif.Proofs.Step.Pres.discard {α} {x : M α} (hx : Pres R x) : Pres R (discard x) := by
  unfold Functor.discard; rw [LawfulFunctor.map_const]; exact Pres.map _ hx
end readers

/-! ## calls -/

/-- the writes that a call is made of -/
def Tag.sub : Tag → List Tag
  | .createNode => [.cCreated, .pushNode, .bRegister]
  | .mark => [.nInHandleAfterStab, .handleAfterStab]
  | .markNotified => [.nInHandleAfterStab, .queueNotified]
  | .touch => [.nChangedAt, .cChanged, .nInHandleAfterStab, .queueNotified]
  | .disallow => [.oState, .oDropped, .cActiveObservers, .disallowedObservers]
  | .setHeight => [.nHeight, .maxHeightSeen]
  | _ => []

/-- the writes as which a run that panics may see the call `t`: `set_height` raises `maxHeightSeen`, panics if the new height is beyond
the limit, and writes the height only then -/
def Tag.below : Tag → List Tag
  | .setHeight => [.nHeight, .maxHeightSeen]
  | _ => []

/-- the tags under which a run that panics is described -/
def partsB (L : List Tag) : List Tag := L ++ L.flatMap Tag.below

/-- the tags of `L` and of the writes its calls are made of -/
def parts (L : List Tag) : List Tag := partsB L ++ (partsB L).flatMap Tag.sub

theorem partsB_mono {L L' : List Tag} (hL : ∀ t ∈ L, t ∈ L') : ∀ t ∈ partsB L, t ∈ partsB L' := by
  intro t ht
  rcases List.mem_append.1 ht with h | h
  · exact List.mem_append_left _ (hL t h)
  · obtain ⟨u, hu, hut⟩ := List.mem_flatMap.1 h
    exact List.mem_append_right _ (List.mem_flatMap.2 ⟨u, hL u hu, hut⟩)

/-- the state after `create_node k sc c` -/
def created (s : State) (k : Kind) (sc : Scope) (c : CutoffK) : State :=
  { s with
    counters := { s.counters with created := s.counters.created + 1 }
    nodes := s.nodes.push { kind := k, createdIn := sc, cutoff := c }
    binds := match sc with
      | .top => s.binds
      | .bind b => s.binds.modify b fun x => { x with allNodesCreatedOnRhs := x.allNodesCreatedOnRhs ++ [s.nodes.size] } }

/-- the state after `handle_after_stabilisation n` has queued `n` -/
def marked (s : State) (n : Nat) : State :=
  { s with nodes := s.nodes.modify n fun x => { x with inHandleAfterStab := true }, handleAfterStab := s.handleAfterStab ++ [n] }

/-- the outcomes of `maybe_handle_after_stabilisation`: nothing, or a node with update handlers whose flag was down is queued -/
theorem run_maybeHandleAfterStabilisation {n : Nat} {s s' : State} {r : Except Panic Unit}
    (h : (Engine.maybeHandleAfterStabilisation n).run.run s = (r, s')) :
    s' = s ∨ (s' = marked s n ∧ n < s.nodes.size ∧ (s.nodeD n).inHandleAfterStab = false ∧ 0 < (s.nodeD n).numOnUpdateHandlers) := by
  unfold Engine.maybeHandleAfterStabilisation Engine.handleAfterStabilisation at h
  rw [run_bind, run_getNode] at h
  cases hn : s.nodes[n]? with
  | none => rw [hn] at h; cases h; exact .inl rfl
  | some nd =>
    rw [hn] at h
    simp only at h
    split at h
    · rename_i hh
      rw [run_bind, run_getNode, hn] at h
      simp only at h
      split at h
      · rename_i hf
        rw [run_bind_modNode, run_modify] at h
        cases h
        exact .inr ⟨rfl, lt_of_some hn, by rw [nodeD_of_some hn]; simpa using hf, by rw [nodeD_of_some hn]; exact hh⟩
      · rw [run_pure] at h; cases h; exact .inl rfl
    · rw [run_pure] at h; cases h; exact .inl rfl

/-- the calls whose writes belong together, each under its tag -/
inductive Compound : Tag → State → State → Prop
  /-- `create_node` counts the node, pushes it, and registers it with the bind in whose scope it is created -/
  | createNode (s : State) (k : Kind) (sc : Scope) (c : CutoffK) : Compound .createNode s (created s k sc c)
  /-- `handle_after_stabilisation` queues an existing node whose flag is down, and sets the flag -/
  | mark (s : State) (n : Nat) (hn : n < s.nodes.size) (hf : (s.nodeD n).inHandleAfterStab = false) : Compound .mark s (marked s n)
  /-- `maybe_handle_after_stabilisation` does so only for a node that has update handlers -/
  | markNotified (s : State) (n : Nat) (hn : n < s.nodes.size) (hf : (s.nodeD n).inHandleAfterStab = false)
      (hh : 0 < (s.nodeD n).numOnUpdateHandlers) : Compound .markNotified s (marked s n)
  /-- `maybe_change_value` stamps `changedAt`, counts the change, and runs `maybe_handle_after_stabilisation` -/
  | touch (s : State) (n : Nat) {r : Except Panic Unit} {s' : State} (h : (maybeHandleAfterStabilisation n).run.run (touched n s) = (r, s')) :
      Compound .touch s s'
  /-- a `set_height` that returns: the new height is at most the largest seen, or raises it within the limit -/
  | setHeight (s : State) (n : Nat) (h : Int) (hle : h ≤ s.maxHeightSeen ∨ h ≤ s.ahh.maxAllowed) :
      Compound .setHeight s
        { s with maxHeightSeen := if h > s.maxHeightSeen then h else s.maxHeightSeen, nodes := s.nodes.modify n fun x => { x with height := h } }
  /-- a run of `disallow_future_use` -/
  | disallow (s : State) (o : Nat) {r : Except Panic Unit} {s' : State} (h : (disallowFutureUse o).run.run s = (r, s')) :
      Compound .disallow s s'

theorem marked_steps {L : List Tag} {w : Nat → Prop} {s : State} {n : Nat} (hn : n < s.nodes.size) (hh : 0 < (s.nodeD n).numOnUpdateHandlers)
    (h1 : .nInHandleAfterStab ∈ L) (h2 : .queueNotified ∈ L) : Steps (Edit L w) s (marked s n) := by
  refine (Steps.single (.node s n (.inHandleAfterStab true h1))).tail (.queueNotified _ n (by rw [Array.size_modify]; exact hn) ?_ h2)
  rw [nodeD_modify, if_pos ⟨rfl, hn⟩]
  exact hh

/-- a call is a sequence of the writes it is made of -/
theorem Compound.steps {t : Tag} {w : Nat → Prop} {s s' : State} (c : Compound t s s') : Steps (Edit t.sub w) s s' := by
  cases c with
  | createNode s k sc c =>
    have e1 : Edit Tag.createNode.sub w s _ := .counters s (.created (s.counters.created + 1) (by decide))
    have e2 := Edit.pushNode (L := Tag.createNode.sub) (w := w) { s with counters := { s.counters with created := s.counters.created + 1 } }
      k sc c (by decide)
    cases sc with
    | top => exact (Steps.single e1).tail e2
    | bind b => exact ((Steps.single e1).tail e2).tail (.bind _ b (.register s.nodes.size (by decide)))
  | mark s n hn hf =>
    exact (Steps.single (.node s n (.inHandleAfterStab true (by decide)))).tail
      (.queueHandler _ n (by rw [Array.size_modify]; exact hn) (by decide))
  | markNotified s n hn hf hh => exact marked_steps hn hh (by decide) (by decide)
  | touch s n h =>
    let s1 : State := { s with nodes := s.nodes.modify n fun x => { x with changedAt := s.stabNum } }
    have e1 : Edit Tag.touch.sub w s s1 := .node s n (.changedAt _ (by decide))
    have e2 : Edit Tag.touch.sub w s1 (touched n s) := .counters s1 (.changed (s.counters.changed + 1) (by decide))
    refine ((Steps.single e1).tail e2).trans ?_
    rcases run_maybeHandleAfterStabilisation h with rfl | ⟨rfl, hn, hf, hh⟩
    · exact .refl _
    · exact marked_steps hn hh (by decide) (by decide)
  | setHeight s n h hle =>
    let s1 : State := { s with maxHeightSeen := if h > s.maxHeightSeen then h else s.maxHeightSeen }
    have e1 : Edit Tag.setHeight.sub w s s1 := .maxHeightSeen s _ (by decide)
    exact (Steps.single e1).tail (.node s1 n (.height h (by decide)))
  | disallow s o h =>
    have hc : CounterEdit Tag.disallow.sub s.counters { s.counters with activeObservers := s.counters.activeObservers - 1 } :=
      .activeObservers _ (by decide)
    simp only [Engine.disallowFutureUse, Engine.getObs, run_bind, run_get] at h
    cases hob : s.observers[o]? with
    | none => rw [hob] at h; cases h; exact .refl _
    | some ob =>
      rw [hob] at h
      simp only [run_pure] at h
      cases hst : ob.state <;> rw [hst] at h <;> simp only [run_bind, run_bumpCounter, Engine.modObs, run_modify, run_pure] at h <;> cases h
      · exact (Steps.single (.counters s hc)).tail (.obs _ o (.dropped (by decide)))
      · exact ((Steps.single (.counters s hc)).tail (.obs _ o (.state .disallowed (by decide)))).tail (.disallowedObservers _ _ (by decide))
      · exact .refl _
      · exact .refl _

/-- one primitive write, or one call -/
inductive Call (L : List Tag) (w : Nat → Prop) : State → State → Prop
  | edit {s s' : State} (e : Edit L w s s') : Call L w s s'
  | call {t : Tag} {s s' : State} (ht : t ∈ L) (c : Compound t s s') : Call L w s s'

theorem Call.mono {L L' : List Tag} {w w' : Nat → Prop} (hL : ∀ t ∈ L, t ∈ L') (h : ∀ n, w n → w' n) {s s' : State}
    (c : Call L w s s') : Call L' w' s s' := by
  cases c with
  | edit e => exact .edit (e.mono hL h)
  | call ht c => exact .call (hL _ ht) c

theorem Call.steps {L : List Tag} {w : Nat → Prop} {s s' : State} (c : Call (partsB L) w s s') : Steps (Edit (parts L) w) s s' := by
  cases c with
  | edit e => exact .single (e.mono (fun _ h => List.mem_append_left _ h) fun _ h => h)
  | call ht c =>
    exact Steps.mono (fun _ _ e => e.mono (fun _ hu => List.mem_append_right _ (List.mem_flatMap.2 ⟨_, ht, hu⟩)) fun _ h => h) c.steps

theorem Steps.edits {L : List Tag} {w : Nat → Prop} {a b : State} (h : Steps (Call (partsB L) w) a b) : Steps (Edit (parts L) w) a b :=
  h.lift Call.steps

/-- a run that returns is a sequence of writes and calls named in `L`; in a run that panics a call may also appear as the writes `Tag.below` names -/
def FootR (L : List Tag) (w : Nat → Prop) : Bool → State → State → Prop
  | true => Steps (Call L w)
  | false => Steps (Call (partsB L) w)

theorem FootR.all {L : List Tag} {w : Nat → Prop} {k : Bool} {a b : State} (h : FootR L w k a b) : Steps (Call (partsB L) w) a b := by
  cases k with
  | false => exact h
  | true => exact Steps.mono (fun _ _ c => c.mono (fun _ h => List.mem_append_left _ h) fun _ h => h) h

theorem FootR.mono {L L' : List Tag} {w w' : Nat → Prop} (hL : ∀ t ∈ L, t ∈ L') (h : ∀ n, w n → w' n) {k : Bool} {a b : State}
    (hs : FootR L w k a b) : FootR L' w' k a b := by
  cases k with
  | true => exact Steps.mono (fun _ _ c => c.mono hL h) hs
  | false => exact Steps.mono (fun _ _ c => c.mono (partsB_mono hL) h) hs

theorem FootR.of_steps {L : List Tag} {w : Nat → Prop} {k : Bool} {a b : State} (h : Steps (Call L w) a b) : FootR L w k a b := by
  cases k with
  | true => exact h
  | false => exact FootR.all (k := true) h

theorem FootR.single {L : List Tag} {w : Nat → Prop} {k : Bool} {a b : State} (c : Call L w a b) : FootR L w k a b := .of_steps (.single c)

instance (L : List Tag) (w : Nat → Prop) : PreOrdB (FootR L w) where
  refl k s := by cases k <;> exact Steps.refl s
  trans {k} _ _ _ h1 h2 := by
    cases k with
    | true => exact Steps.trans h1 h2
    | false => exact Steps.trans (FootR.all h1) h2

/-- every run of the program is a sequence of primitive writes and calls -/
abbrev Foot (L : List Tag) (w : Nat → Prop) {α} (m : M α) : Prop := PresB (FootR L w) m

variable {L : List Tag} {w : Nat → Prop}

theorem Foot.modify {f : State → State} (h : ∀ s, Edit L w s (f s)) : Foot L w (modify f : M Unit) :=
  PresB.modify fun s => Steps.single (.edit (h s))

theorem Foot.modNode (n : Nat) {f : Node → Node} (hf : NodeEdit L f) : Foot L w (Engine.modNode n f) :=
  Foot.modify fun s => .node s n hf
/-- the node that runs stores its own value -/
theorem Foot.modNode_self (n : Nat) {f : Node → Node} (hf : ValueEdit L f) : Foot L (· = n) (Engine.modNode n f) :=
  Foot.modify fun s => .value (w := (· = n)) s n rfl hf
theorem Foot.modVar (v : Nat) {f : VarCell → VarCell} (hf : VarEdit L f) : Foot L w (Engine.modVar v f) :=
  Foot.modify fun s => .var s v hf
theorem Foot.modBind (b : Nat) {f : BindRec → BindRec} (hf : BindEdit L f) : Foot L w (Engine.modBind b f) :=
  Foot.modify fun s => .bind s b hf
theorem Foot.modExpert (e : Nat) {f : ExpertRec → ExpertRec} (hf : ExpertEdit L f) : Foot L w (Engine.modExpert e f) :=
  Foot.modify fun s => .expert s e hf
theorem Foot.modObs (o : Nat) {f : ObsRec → ObsRec} (hf : ObsEdit L f) : Foot L w (Engine.modObs o f) :=
  Foot.modify fun s => .obs s o hf
theorem Foot.logEv {e : Event} (he : LogEdit L e) : Foot L w (Engine.logEv e) := Foot.modify fun s => .log s he
theorem Foot.bumpCounter {f : Counters → Counters} (hf : ∀ c, CounterEdit L c (f c)) : Foot L w (Engine.bumpCounter f) :=
  Foot.modify fun s => .counters s (hf _)

/-- `let now := (← get).stabNum; modNode n (… now …)`: the write is judged in the state it is made in -/
theorem Foot.get_modNode {β} (n : Nat) (F : State → Node → Node) (k : State → Unit → M β)
    (hF : ∀ st, Edit L w st { st with nodes := st.nodes.modify n (F st) }) (hk : ∀ st u, Foot L w (k st u)) :
    Foot L w (get >>= fun st => Engine.modNode n (F st) >>= k st) := by
  constructor
  intro s r s' h
  rw [run_bind_get, run_bind_modNode] at h
  exact PreOrdB.trans (R := FootR L w) (Steps.single (.edit (hF s))) ((hk s ()).h _ _ _ h)

/-- every run, returning or not, under the tags `partsB L` -/
theorem Foot.run {α} {m : M α} (hm : Foot L w m) : Pres (Steps (Call (partsB L) w)) m :=
  ⟨fun s r s' h => (hm.h s r s' h).all⟩

/-- a run that returns -/
theorem Foot.ok {α} {m : M α} (hm : Foot L w m) {s s' : State} {a : α} (h : m.run.run s = (.ok a, s')) : Steps (Call L w) s s' :=
  hm.h s _ s' h

/-- a relation that every call keeps is kept by the program -/
theorem Foot.calls {R : State → State → Prop} [PreOrd R] {α} {m : M α} (hm : Foot L w m) (h : ∀ {s s'}, Call (partsB L) w s s' → R s s') :
    Pres R m :=
  hm.run.lift h

/-- a relation that every write keeps: the calls are taken apart -/
theorem Foot.lift {R : State → State → Prop} [PreOrd R] {α} {m : M α} (hm : Foot L w m) (h : ∀ {s s'}, Edit (parts L) w s s' → R s s') :
    Pres R m :=
  hm.run.mono fun _ _ hs => hs.edits.lift h

/-- `Foot.lift` for a relation that does not care which node stores a value: most `Foot.f` leave `w` open, and this fixes it -/
theorem Foot.frame {R : State → State → Prop} [PreOrd R] {α} {m : M α} (hm : Foot L (fun _ => True) m)
    (h : ∀ {w s s'}, Edit (parts L) w s s' → R s s') : Pres R m :=
  Foot.lift hm h

theorem Foot.weaken {L' : List Tag} {w' : Nat → Prop} (hL : ∀ t ∈ L, t ∈ L') (h : ∀ n, w n → w' n) {α} {m : M α} (hm : Foot L w m) :
    Foot L' w' m :=
  ⟨fun s r s' hr => (hm.h s r s' hr).mono hL h⟩

/-! ## what an edit does to each field

Each lemma is read off the constructors; a relation between states is kept by every `Edit` when the lemmas for the fields it mentions say so. -/

theorem nodeD_push_lt (s : State) (nd : Node) {m : Nat} (hm : m < s.nodes.size) :
    ({ s with nodes := s.nodes.push nd } : State).nodeD m = s.nodeD m := by
  simp only [State.nodeD, Array.getElem?_push, Nat.ne_of_lt hm, if_false]

theorem nodeD_push_ge (s : State) (nd : Node) {m : Nat} (h1 : s.nodes.size ≤ m) (h2 : m < s.nodes.size + 1) :
    ({ s with nodes := s.nodes.push nd } : State).nodeD m = nd := by
  have : m = s.nodes.size := by omega
  subst this
  simp [State.nodeD]

/-- how the node array changes: not at all, by a push of a fresh node, or by one update `f` of one node `n` -/
inductive NodesStep (L : List Tag) (w : Nat → Prop) (s s' : State) : Prop
  | same (h : s'.nodes = s.nodes)
  | push (k : Kind) (sc : Scope) (c : CutoffK) (h : s'.nodes = s.nodes.push { kind := k, createdIn := sc, cutoff := c })
  | edit (n : Nat) (f : Node → Node) (hf : NodeEdit L f) (h : s'.nodes = s.nodes.modify n f)
  | value (n : Nat) (f : Node → Node) (hn : w n) (hf : ValueEdit L f) (h : s'.nodes = s.nodes.modify n f)
  | stamp (n : Nat) (h : s'.nodes = s.nodes.modify n fun x => { x with recomputedAt := s.stabNum })
  | erase (n : Nat)
      (h : s'.nodes = s.nodes.modify n fun x => { x with value := none, changedAt := s.stabNum, recomputedAt := s.stabNum })

variable {s s' : State}

theorem Edit.nodes (e : Edit L w s s') : NodesStep L w s s' := by
  cases e
  case node n f hf => exact .edit n f hf rfl
  case value n hn f hf => exact .value n f hn hf rfl
  case stamp n _ => exact .stamp n rfl
  case erase n _ => exact .erase n rfl
  case pushNode k sc c _ => exact .push k sc c rfl
  all_goals exact .same rfl

/-- a field of a node that no update of the engine writes: it is the same after every edit, at every existing node -/
theorem Edit.node_keeps {β} (π : Node → β) (e : Edit L w s s')
    (h1 : ∀ f, NodeEdit L f → ∀ x, π (f x) = π x) (h2 : ∀ f, ValueEdit L f → ∀ x, π (f x) = π x)
    (h3 : ∀ (x : Node) (t : Int), π { x with recomputedAt := t } = π x)
    (h4 : ∀ (x : Node) (t : Int), π { x with value := none, changedAt := t, recomputedAt := t } = π x)
    {m : Nat} (hm : m < s.nodes.size) : π (s'.nodeD m) = π (s.nodeD m) := by
  have key : ∀ (n : Nat) (f : Node → Node), (∀ x, π (f x) = π x) → s'.nodes = s.nodes.modify n f → π (s'.nodeD m) = π (s.nodeD m) := by
    intro n f hf h
    have : s'.nodeD m = ({ s with nodes := s.nodes.modify n f } : State).nodeD m := by simp only [State.nodeD, h]
    rw [this, nodeD_modify]; split
    · exact hf _
    · rfl
  cases e.nodes with
  | same h => simp only [State.nodeD, h]
  | push k sc c h =>
    have : s'.nodeD m = ({ s with nodes := s.nodes.push { kind := k, createdIn := sc, cutoff := c } } : State).nodeD m := by simp only [State.nodeD, h]
    rw [this, nodeD_push_lt s _ hm]
  | edit n f hf h => exact key n f (h1 f hf) h
  | value n f _ hf h => exact key n f (h2 f hf) h
  | stamp n h => exact key n _ (fun x => h3 x _) h
  | erase n h => exact key n _ (fun x => h4 x _) h

theorem Edit.size_le (e : Edit L w s s') : s.nodes.size ≤ s'.nodes.size := by
  cases e.nodes with
  | same h => rw [h]; exact Nat.le_refl _
  | push k sc c h => rw [h, Array.size_push]; exact Nat.le_succ _
  | edit n f _ h | value n f _ _ h => rw [h, Array.size_modify]; exact Nat.le_refl _
  | stamp n h | erase n h => rw [h, Array.size_modify]; exact Nat.le_refl _

theorem Edit.kind (e : Edit L w s s') {m : Nat} (hm : m < s.nodes.size) : (s'.nodeD m).kind = (s.nodeD m).kind :=
  e.node_keeps (·.kind) (fun _ h _ => by cases h <;> rfl) (fun _ h _ => by cases h <;> rfl) (fun _ _ => rfl) (fun _ _ => rfl) hm

theorem Edit.createdIn (e : Edit L w s s') {m : Nat} (hm : m < s.nodes.size) :
    (s'.nodeD m).createdIn = (s.nodeD m).createdIn :=
  e.node_keeps (·.createdIn) (fun _ h _ => by cases h <;> rfl) (fun _ h _ => by cases h <;> rfl) (fun _ _ => rfl) (fun _ _ => rfl) hm

/-- a node that does not run keeps its value or loses it -/
theorem Edit.value_or_none (e : Edit L w s s') {m : Nat} (hw : ¬ w m) (hm : m < s.nodes.size) :
    (s'.nodeD m).value = (s.nodeD m).value ∨ (s'.nodeD m).value = none := by
  have key : ∀ (n : Nat) (f : Node → Node), s'.nodes = s.nodes.modify n f → (n = m → ∀ x, (f x).value = x.value ∨ (f x).value = none) →
      (s'.nodeD m).value = (s.nodeD m).value ∨ (s'.nodeD m).value = none := by
    intro n f h hf
    have : s'.nodeD m = ({ s with nodes := s.nodes.modify n f } : State).nodeD m := by simp only [State.nodeD, h]
    rw [this, nodeD_modify]; split
    · rename_i c; exact hf c.1 _
    · exact Or.inl rfl
  cases e.nodes with
  | same h => exact Or.inl (by simp only [State.nodeD, h])
  | push k sc c h =>
    have : s'.nodeD m = ({ s with nodes := s.nodes.push { kind := k, createdIn := sc, cutoff := c } } : State).nodeD m := by
      simp only [State.nodeD, h]
    rw [this, nodeD_push_lt s _ hm]; exact Or.inl rfl
  | edit n f hf h => exact key n f h (fun _ x => by cases hf <;> exact Or.inl rfl)
  | value n f hn _ h => exact key n f h (fun e => absurd (e ▸ hn) hw)
  | stamp n h => exact key n _ h (fun _ _ => Or.inl rfl)
  | erase n h => exact key n _ h (fun _ _ => Or.inr rfl)

/-- a node created by an edit is the fresh record -/
theorem Edit.new_node (e : Edit L w s s') {m : Nat} (h1 : s.nodes.size ≤ m) (h2 : m < s'.nodes.size) :
    ∃ k sc c, s'.nodeD m = { kind := k, createdIn := sc, cutoff := c } := by
  cases e.nodes with
  | push k sc c h =>
    refine ⟨k, sc, c, ?_⟩
    have : s'.nodeD m = ({ s with nodes := s.nodes.push { kind := k, createdIn := sc, cutoff := c } } : State).nodeD m := by
      simp only [State.nodeD, h]
    rw [this]; exact nodeD_push_ge s _ h1 (by rw [h, Array.size_push] at h2; exact h2)
  | same h => rw [h] at h2; omega
  | edit n f _ h | value n f _ _ h => rw [h, Array.size_modify] at h2; omega
  | stamp n h | erase n h => rw [h, Array.size_modify] at h2; omega

/-- bind records stay, with their closure and left-hand side -/
theorem Edit.bind_keeps (e : Edit L w s s') {b : Nat} {br : BindRec} (h : s.binds[b]? = some br) :
    ∃ br', s'.binds[b]? = some br' ∧ br'.body = br.body ∧ br'.lhs = br.lhs := by
  cases e
  case bind b' f hf =>
    show ∃ br', (s.binds.modify b' f)[b]? = some br' ∧ _
    rw [Array.getElem?_modify]
    by_cases e : b' = b
    · rw [if_pos e, h]; exact ⟨f br, rfl, by cases hf <;> exact ⟨rfl, rfl⟩⟩
    · rw [if_neg e]; exact ⟨br, h, rfl, rfl⟩
  case pushBind lhs body _ =>
    have hlt : b < s.binds.size := (Array.getElem?_eq_some_iff.1 h).1
    exact ⟨br, by show (s.binds.push _)[b]? = _; rw [Array.getElem?_push, if_neg (by omega)]; exact h, rfl, rfl⟩
  all_goals exact ⟨br, h, rfl, rfl⟩

theorem Edit.top (e : Edit L w s s') : s'.top = s.top := by cases e <;> rfl
theorem Edit.cfg (e : Edit L w s s') : s'.cfg = s.cfg := by cases e <;> rfl
theorem Edit.handles (e : Edit L w s s') : s'.handles = s.handles := by cases e <;> rfl
theorem Edit.alive (e : Edit L w s s') : s'.alive = s.alive := by cases e <;> rfl

/-- a `heightInAhh` marker is written only under `.nHeightInAhh`; a pushed node has the marker `-1`, which is what `nodeD` gave there before -/
theorem Edit.heightInAhh (hp : Tag.nHeightInAhh ∉ L) (e : Edit L w s s') (m : Nat) : (s'.nodeD m).heightInAhh = (s.nodeD m).heightInAhh := by
  cases e
  case pushNode =>
    simp only [State.nodeD, Array.getElem?_push]; split
    · rename_i h; rw [h, Array.getElem?_eq_none (Nat.le_refl _)]; rfl
    · rfl
  case node n f hf =>
    rw [nodeD_modify]; split
    · cases hf <;> first | rfl | exact absurd ‹_› hp
    · rfl
  case value n hn f hf =>
    rw [nodeD_modify]; split
    · cases hf <;> rfl
    · rfl
  case stamp | erase => rw [nodeD_modify]; split <;> rfl
  all_goals rfl

theorem Edit.size_eq (hp : Tag.pushNode ∉ L) (e : Edit L w s s') : s'.nodes.size = s.nodes.size := by
  cases e
  case pushNode _ _ _ ht => exact absurd ht hp
  all_goals first | rfl | exact Array.size_modify ..

/-- beyond the node array both states read the default node -/
theorem Edit.nodeD_ge (hp : Tag.pushNode ∉ L) (e : Edit L w s s') {m : Nat} (hm : s.nodes.size ≤ m) : s'.nodeD m = s.nodeD m := by
  simp only [State.nodeD, Array.getElem?_eq_none hm, Array.getElem?_eq_none (e.size_eq hp ▸ hm)]

theorem Edit.kind_all (hp : Tag.pushNode ∉ L) (e : Edit L w s s') (m : Nat) : (s'.nodeD m).kind = (s.nodeD m).kind :=
  if hm : m < s.nodes.size then e.kind hm else congrArg _ (e.nodeD_ge hp (Nat.le_of_not_lt hm))

/-- a cutoff is written under `.nCutoff`, or comes with a pushed node -/
theorem Edit.cutoff (hc : Tag.nCutoff ∉ L) (hp : Tag.pushNode ∉ L) (e : Edit L w s s') (m : Nat) :
    (s'.nodeD m).cutoff = (s.nodeD m).cutoff :=
  if hm : m < s.nodes.size then
    e.node_keeps (·.cutoff) (fun _ h _ => by cases h <;> first | rfl | exact absurd ‹_› hc) (fun _ h _ => by cases h <;> rfl) (fun _ _ => rfl)
      (fun _ _ => rfl) hm
  else congrArg _ (e.nodeD_ge hp (Nat.le_of_not_lt hm))

/-- a projection `π` of the expert records that no update allowed by `L` writes: without `pushExpert` it reads the same in every slot -/
theorem Edit.expert_keeps {β} (π : ExpertRec → β) (hp : Tag.pushExpert ∉ L) (e : Edit L w s s')
    (h : ∀ f, ExpertEdit L f → ∀ x, π (f x) = π x) :
    s'.experts.size = s.experts.size ∧ ∀ j : Nat, (s'.experts[j]?).map π = (s.experts[j]?).map π := by
  cases e
  case expert i f hf =>
    refine ⟨Array.size_modify .., fun j => ?_⟩
    show ((s.experts.modify i f)[j]?).map π = _
    rw [Array.getElem?_modify]
    split
    · cases s.experts[j]? <;> simp [h f hf]
    · rfl
  case pushExpert _ ht => exact absurd ht hp
  all_goals exact ⟨rfl, fun _ => rfl⟩

/-- a field of a node that no update writes and that reads the same in a fresh node as beyond the node array: it is the same after every edit, at every index -/
theorem Edit.node_keeps_all {β} (π : Node → β) (e : Edit L w s s')
    (h0 : ∀ k sc c, π { kind := k, createdIn := sc, cutoff := c } = π default)
    (h1 : ∀ f, NodeEdit L f → ∀ x, π (f x) = π x) (h2 : ∀ f, ValueEdit L f → ∀ x, π (f x) = π x)
    (h3 : ∀ (x : Node) (t : Int), π { x with recomputedAt := t } = π x)
    (h4 : ∀ (x : Node) (t : Int), π { x with value := none, changedAt := t, recomputedAt := t } = π x)
    (m : Nat) : π (s'.nodeD m) = π (s.nodeD m) := by
  by_cases hm : m < s.nodes.size
  · exact e.node_keeps π h1 h2 h3 h4 hm
  · have hd : s.nodeD m = default := by simp only [State.nodeD, Array.getElem?_eq_none (Nat.le_of_not_lt hm)]; rfl
    rw [hd]
    by_cases hm' : m < s'.nodes.size
    · obtain ⟨k, sc, c, hk⟩ := e.new_node (Nat.le_of_not_lt hm) hm'
      rw [hk]; exact h0 k sc c
    · simp only [State.nodeD, Array.getElem?_eq_none (Nat.le_of_not_lt hm')]; rfl

/-- the writes that the linking and unlinking cascades do not make -/
def cascadeBreaks : List Tag :=
  [.nCutoff, .nChangedAt, .nForceNecessary, .nHandlers, .nObservers, .nInvalid, .vClear, .vClearRef, .vStore, .vStoreOld, .varSetAt, .varPending,
   .varValue, .varCommit, .varHandles, .varUnlink, .bCreated, .bRegister, .bNodes, .bRhs, .oState, .oDropped, .oHandlers, .stamp, .erase, .pushNode, .pushVar,
   .pushBind, .nextRound, .rchResize, .ahh, .ahhResize, .status, .currentScope, .newObservers, .disallowedObservers, .allObservers,
   .setDuringStab, .deadVars, .arm, .slots, .memos]

/-- what the linking and unlinking cascades leave alone: ten fields of every node, the number of nodes, eighteen fields of the state and the number
of buckets of `rch`; and they arm no fault -/
theorem Edit.cascadeFrame (hL : ∀ t ∈ L, t ∉ cascadeBreaks)
    (e : Edit L w s s') :
    s'.nodes.size = s.nodes.size ∧
    (∀ m, ((s'.nodeD m).kind, (s'.nodeD m).createdIn, (s'.nodeD m).cutoff, (s'.nodeD m).value, (s'.nodeD m).valid, (s'.nodeD m).recomputedAt,
        (s'.nodeD m).changedAt, (s'.nodeD m).observers, (s'.nodeD m).forceNecessary, (s'.nodeD m).numOnUpdateHandlers) =
      ((s.nodeD m).kind, (s.nodeD m).createdIn, (s.nodeD m).cutoff, (s.nodeD m).value, (s.nodeD m).valid, (s.nodeD m).recomputedAt,
        (s.nodeD m).changedAt, (s.nodeD m).observers, (s.nodeD m).forceNecessary, (s.nodeD m).numOnUpdateHandlers)) ∧
    (s'.vars, s'.observers, s'.stabNum, s'.status, s'.cfg, s'.currentScope, s'.setDuringStab, s'.deadVars, s'.newObservers,
        s'.disallowedObservers, s'.allObservers, s'.top, s'.handles, s'.alive, s'.rch.queues.size, s'.ahh, s'.binds, s'.memos, s'.slots) =
      (s.vars, s.observers, s.stabNum, s.status, s.cfg, s.currentScope, s.setDuringStab, s.deadVars, s.newObservers, s.disallowedObservers,
        s.allObservers, s.top, s.handles, s.alive, s.rch.queues.size, s.ahh, s.binds, s.memos, s.slots) ∧
    (s.panicCountdown = none → s'.panicCountdown = none) := by
  cases e
  case node n f hf =>
    refine ⟨Array.size_modify .., fun m => ?_, rfl, id⟩
    rw [nodeD_modify]; split
    · cases hf <;> first | rfl | exact absurd (hL _ ‹_›) (by decide)
    · rfl
  case rch h hq _ => exact ⟨rfl, fun _ => rfl, by rw [show ({ s with rch := h } : State).rch.queues.size = s.rch.queues.size from hq], id⟩
  case panicCountdown p hs _ => exact ⟨rfl, fun _ => rfl, rfl, fun h => absurd h hs⟩
  all_goals first
    | exact ⟨rfl, fun _ => rfl, rfl, id⟩
    | exact absurd (hL _ ‹_›) (by decide)
    | (rename_i hf; cases hf <;> exact absurd (hL _ ‹_›) (by decide))

/-- while no node has update handlers, only the unconditional writes of the handler queue change it -/
theorem Edit.idleQueue (hp : Tag.handleAfterStab ∉ L) (e : Edit L w s s') (h : ∀ m, (s.nodeD m).numOnUpdateHandlers ≤ 0) :
    s'.handleAfterStab = s.handleAfterStab := by
  cases e
  case queueNotified n _ hh _ => exact absurd hh (Int.not_lt.2 (h n))
  all_goals first | rfl | exact absurd ‹_› hp

/-- a handler count is written only under `.nHandlers` and `.nObservers`; a pushed node has none, which is what `nodeD` gave there before -/
theorem Edit.numOnUpdateHandlers (h1 : Tag.nHandlers ∉ L) (h2 : Tag.nObservers ∉ L) (e : Edit L w s s') (m : Nat) :
    (s'.nodeD m).numOnUpdateHandlers = (s.nodeD m).numOnUpdateHandlers :=
  e.node_keeps_all (·.numOnUpdateHandlers) (fun _ _ _ => rfl)
    (fun _ hf _ => by cases hf <;> first | rfl | exact absurd ‹_› h1 | exact absurd ‹_› h2)
    (fun _ hf _ => by cases hf <;> rfl) (fun _ _ => rfl) (fun _ _ => rfl) m

theorem Edit.nextDep_eq (hp : Tag.nextDep ∉ L) (e : Edit L w s s') : s'.nextDep = s.nextDep := by
  cases e <;> first | rfl | exact absurd ‹_› hp

theorem Edit.ahh_eq (hp : Tag.ahh ∉ L) (hr : Tag.ahhResize ∉ L) (e : Edit L w s s') : s'.ahh = s.ahh := by
  cases e <;> first | rfl | exact absurd ‹_› hp | exact absurd ‹_› hr

theorem Edit.perkeys (hL : ∀ t ∈ L, t ∉ [Tag.pkPrevNodes, .pkPrevMap, .pushPerKey]) (e : Edit L w s s') : s'.perkeys = s.perkeys := by
  cases e
  case perKey hf => cases hf <;> exact (hL _ ‹_› (by decide)).elim
  case pushPerKey ht => exact (hL _ ht (by decide)).elim
  all_goals rfl

theorem Edit.vars (hL : ∀ t ∈ L, t ∉ [Tag.varSetAt, .varPending, .varValue, .varCommit, .varHandles, .varUnlink, .pushVar])
    (e : Edit L w s s') : s'.vars = s.vars := by
  cases e
  case var hf => cases hf <;> exact (hL _ ‹_› (by decide)).elim
  case pushVar ht => exact (hL _ ht (by decide)).elim
  all_goals rfl

/-- observer and bind records, `ahh` and five bookkeeping fields are written under fifteen tags; `top`, `handles` and `alive` by no edit at all -/
theorem Edit.keyD
    (hL : ∀ t ∈ L, t ∉ [Tag.bCreated, .bRegister, .bNodes, .bRhs, .oState, .oDropped, .oHandlers, .pushBind, .ahh, .ahhResize, .currentScope,
      .propagateInvalidity, .allObservers, .slots, .memos])
    (e : Edit L w s s') :
    (s'.observers, s'.allObservers, s'.currentScope, s'.top, s'.handles, s'.alive, s'.propagateInvalidity, s'.binds, s'.memos, s'.slots, s'.ahh) =
      (s.observers, s.allObservers, s.currentScope, s.top, s.handles, s.alive, s.propagateInvalidity, s.binds, s.memos, s.slots, s.ahh) := by
  cases e <;> first
    | rfl
    | exact absurd (hL _ ‹_›) (by decide)
    | (rename_i hf; cases hf <;> exact absurd (hL _ ‹_›) (by decide))

theorem Edit.maxHeightSeen_eq (hp : Tag.maxHeightSeen ∉ L) (e : Edit L w s s') : s'.maxHeightSeen = s.maxHeightSeen := by
  cases e <;> first | rfl | exact absurd ‹_› hp

/-- the nodes queued for the update handlers exist: the queue grows by an existing node or is emptied, and the node array never shrinks -/
theorem Edit.handlerRange (e : Edit L w s s') :
    s.nodes.size ≤ s'.nodes.size ∧
      ((∀ n, n ∈ s.handleAfterStab → n < s.nodes.size) → ∀ n, n ∈ s'.handleAfterStab → n < s'.nodes.size) := by
  refine ⟨e.size_le, fun h n hn => ?_⟩
  have hle := e.size_le
  cases e
  case queueHandler m hm _ =>
    rcases List.mem_append.1 hn with hn | hn
    · exact h n hn
    · rw [List.mem_singleton.1 hn]; exact hm
  case queueNotified m hm _ _ =>
    rcases List.mem_append.1 hn with hn | hn
    · exact h n hn
    · rw [List.mem_singleton.1 hn]; exact hm
  case clearHandlers => cases hn
  all_goals exact Nat.lt_of_lt_of_le (h n hn) hle

/-! ## the walk -/


section readersB
variable {R : Bool → State → State → Prop} [PreOrdB R]
local instance : PreOrd (Eq : State → State → Prop) := ⟨fun _ => rfl, fun h1 h2 => h1.trans h2⟩
theorem PresB.getNode (n) : PresB R (getNode n) := .of_readonly (Pres.getNode n)
theorem PresB.getVar (n) : PresB R (getVar n) := .of_readonly (Pres.getVar n)
theorem PresB.getBind (n) : PresB R (getBind n) := .of_readonly (Pres.getBind n)
theorem PresB.getExpert (n) : PresB R (getExpert n) := .of_readonly (Pres.getExpert n)
theorem PresB.getObs (o) : PresB R (getObs o) := .of_readonly (Pres.getObs o)
theorem PresB.dassert (c s) : PresB R (dassert c s) := .of_readonly (Pres.dassert c s)
theorem PresB.assertM (c s) : PresB R (assertM c s) := .of_readonly (Pres.assertM c s)
theorem PresB.valueUnwrap (env n site) : PresB R (valueUnwrap env n site) := .of_readonly (Pres.valueUnwrap env n site)
theorem PresB.scopeHeight (sc) : PresB R (scopeHeight sc) := .of_readonly (Pres.scopeHeight sc)
theorem PresB.discard {α} {x : M α} (hx : PresB R x) : PresB R (discard x) := by
  unfold Functor.discard; rw [LawfulFunctor.map_const]; exact PresB.map _ hx
end readersB

/-- the structural steps of `qpres` for a `PresB` goal, in the order of `qstep`; the three writes of the current round number (`stamp`, `erase`,
`changedAt := now`) follow the `get` that reads it, and are taken before that bind is taken apart -/
local macro_rules
  | `(tactic| qspecial) =>
    `(tactic| first
      | with_reducible apply PresB.pure | with_reducible apply PresB.get | with_reducible apply PresB.panic | with_reducible apply PresB.throw
      | ((with_reducible apply Foot.get_modNode)
         · (intro _; (with_reducible first | refine .stamp _ _ ?_ | refine .erase _ _ ?_ | refine .node _ _ (.changedAt _ ?_)); decide))
      | with_reducible apply PresB.bind | with_reducible apply PresB.map | with_reducible apply PresB.mapM
      | with_reducible apply PresB.getNode | with_reducible apply PresB.dassert | with_reducible apply PresB.getBind
      | with_reducible apply PresB.getExpert | with_reducible apply PresB.getVar | with_reducible apply PresB.assertM)

local macro_rules | `(tactic| qleaf) => `(tactic| with_reducible apply PresB.valueUnwrap)
local macro_rules | `(tactic| qleaf) => `(tactic| with_reducible apply PresB.scopeHeight)
local macro_rules | `(tactic| qleaf) => `(tactic| with_reducible apply PresB.discard)
local macro_rules | `(tactic| qleaf) => `(tactic| with_reducible apply PresB.getObs)
local macro_rules | `(tactic| qleaf) => `(tactic| with_reducible apply PresB.forIn)
local macro_rules | `(tactic| qleaf) => `(tactic| ((with_reducible (refine Foot.modify fun _ => ?_; constructor)); decide))
local macro_rules | `(tactic| qleaf) => `(tactic| ((with_reducible (refine Foot.modify fun _ => .perKey _ _ ?_; constructor)); decide))
/-- a heap write keeps the number of buckets when it leaves `queues` alone or sets one bucket -/
local macro_rules
  | `(tactic| qleaf) =>
    `(tactic| ((with_reducible refine Foot.modify fun _ => ?_)
               first
                 | ((with_reducible first | refine .rch _ _ ?_ ?_ | refine .ahh _ _ ?_ ?_)
                    · first | exact rfl | exact Array.size_modify .. | exact Array.size_setIfInBounds ..
                    · decide)
                 | ((with_reducible first | refine .rchResize _ _ ?_ | refine .ahhResize _ _ ?_); decide)))
local macro_rules
  | `(tactic| qleaf) =>
    `(tactic| ((with_reducible refine Foot.logEv ?_)
               (with_reducible_and_instances first | refine .cb _ _ _ ?_ | refine .inv _ _ _ _ ?_ | constructor)
               decide))
local macro_rules | `(tactic| qleaf) => `(tactic| ((with_reducible (refine Foot.bumpCounter fun _ => ?_; constructor)); decide))
local macro_rules | `(tactic| qleaf) => `(tactic| ((with_reducible (refine Foot.modify fun _ => .counters _ ?_; constructor)); decide))
local macro_rules | `(tactic| qleaf) => `(tactic| ((with_reducible (refine Foot.modObs _ ?_; constructor)); decide))
local macro_rules | `(tactic| qleaf) => `(tactic| ((with_reducible (refine Foot.modExpert _ ?_; constructor)); decide))
local macro_rules | `(tactic| qleaf) => `(tactic| ((with_reducible (refine Foot.modBind _ ?_; constructor)); decide))
local macro_rules | `(tactic| qleaf) => `(tactic| ((with_reducible (refine Foot.modVar _ ?_; constructor)); decide))
local macro_rules | `(tactic| qleaf) => `(tactic| ((with_reducible (refine Foot.modNode_self _ ?_; constructor)); decide))
local macro_rules | `(tactic| qleaf) => `(tactic| ((with_reducible (refine Foot.modNode _ ?_; constructor)); decide))
/-- `foot_leaf Foot.f` makes `Foot.f` a leaf of the walk: where a caller `g` runs `f`, the goal `Foot W.g w (f …)` is closed by `Foot.f` weakened to
the caller's list, and `decide` checks that every write of `f` is listed for `g`.  Leaves are tried at reducible transparency, so that the leaf
of another function fails at once instead of unfolding both programs. -/
local macro "foot_leaf " n:ident : command =>
  `(local macro_rules | `(tactic| qleaf) => `(tactic| (refine Foot.weaken ?_ (fun _ h => h) (by with_reducible apply $n); decide)))

theorem Foot.scopeIsNecessary (sc) : Foot [] w (Engine.scopeIsNecessary sc) := by unfold Engine.scopeIsNecessary; qpres
foot_leaf Foot.scopeIsNecessary
theorem Foot.scopeIsValid (sc) : Foot [] w (Engine.scopeIsValid sc) := by unfold Engine.scopeIsValid; qpres
theorem Foot.expertOf (n) : Foot [] w (Engine.expertOf n) := by unfold Engine.expertOf; qpres
foot_leaf Foot.expertOf
theorem Foot.isConstant (n) : Foot [] w (Engine.isConstant n) := by unfold Engine.isConstant; qpres
foot_leaf Foot.isConstant
theorem Foot.resolveOpnd (l o) : Foot [] w (Engine.resolveOpnd l o) := by unfold Engine.resolveOpnd; qpres
foot_leaf Foot.resolveOpnd
theorem Foot.expertIdxRaw (n) : Foot [] w (Engine.expertIdxRaw n) := by unfold Engine.expertIdxRaw; qpres
foot_leaf Foot.expertIdxRaw
theorem Foot.withVarHandle (v) {act : M Unit} (h : Foot L w act) : Foot L w (Engine.withVarHandle v act) := by
  unfold Engine.withVarHandle; qpres; exact h; exact h
local macro_rules | `(tactic| qleaf) => `(tactic| with_reducible apply Foot.withVarHandle)

def W.tick : List Tag := [.panicCountdown]
/-- that the fault is armed is known from the `get` that precedes the write, which no single leaf sees -/
theorem Foot.tick : Foot W.tick w Engine.tick := by
  constructor
  intro s r s' h
  unfold Engine.tick at h
  rw [run_bind_get] at h
  cases hp : s.panicCountdown with
  | none => rw [hp] at h; cases h; exact PreOrdB.refl _ _
  | some k =>
    have hs : s.panicCountdown ≠ none := by rw [hp]; exact Option.some_ne_none k
    rw [hp] at h
    simp only at h
    split at h
    · rw [run_bind_modify] at h; cases h; exact FootR.single (.edit (.panicCountdown s _ hs (by decide)))
    · rw [run_modify] at h; cases h; exact FootR.single (.edit (.panicCountdown s _ hs (by decide)))
foot_leaf Foot.tick
def W.rchLink : List Tag := [.nHeightInRch, .rch]
theorem Foot.rchLink (n) : Foot W.rchLink w (Engine.rchLink n) := by unfold Engine.rchLink; qpres
foot_leaf Foot.rchLink
def W.rchUnlink : List Tag := [.rch]
theorem Foot.rchUnlink (n) : Foot W.rchUnlink w (Engine.rchUnlink n) := by unfold Engine.rchUnlink; qpres
foot_leaf Foot.rchUnlink
def W.rchInsert : List Tag := [.nHeightInRch, .rch]
theorem Foot.rchInsert (n) : Foot W.rchInsert w (Engine.rchInsert n) := by unfold Engine.rchInsert; qpres
foot_leaf Foot.rchInsert
def W.rchRemove : List Tag := [.nHeightInRch, .rch]
theorem Foot.rchRemove (n) : Foot W.rchRemove w (Engine.rchRemove n) := by unfold Engine.rchRemove; qpres
foot_leaf Foot.rchRemove
def W.rchMinHeight : List Tag := [.rch]
theorem Foot.rchMinHeight : Foot W.rchMinHeight w Engine.rchMinHeight := by unfold Engine.rchMinHeight; qpres
foot_leaf Foot.rchMinHeight
def W.rchIncreaseHeight : List Tag := [.nHeightInRch, .rch]
theorem Foot.rchIncreaseHeight (n) : Foot W.rchIncreaseHeight w (Engine.rchIncreaseHeight n) := by
  unfold Engine.rchIncreaseHeight; qpres
foot_leaf Foot.rchIncreaseHeight
def W.setHeight : List Tag := [.setHeight]
/-- a `set_height` that returns has passed the check of the limit: one call; one that panics has only raised `maxHeightSeen` -/
theorem Foot.setHeight (n h) : Foot W.setHeight w (Engine.setHeight n h) := by
  constructor
  intro s r s' hr
  unfold Engine.setHeight at hr
  rw [run_bind_get] at hr
  by_cases hgt : h > s.maxHeightSeen
  · rw [if_pos hgt, run_bind_modify] at hr
    by_cases hlim : h > s.ahh.maxAllowed
    · rw [if_pos hlim, run_bind, run_panic] at hr
      cases hr
      exact Steps.single (.edit (.maxHeightSeen s h (by decide)))
    · have c := Compound.setHeight s n h (.inr (Int.not_lt.1 hlim))
      rw [if_pos hgt] at c
      rw [if_neg hlim] at hr
      unfold Engine.modNode at hr
      dsimp only at hr
      first | rw [run_modify] at hr | (rw [run_bind, run_pure] at hr; dsimp only at hr; rw [run_modify] at hr)
      cases hr
      exact Steps.single (.call (by decide) c)
  · have c := Compound.setHeight s n h (.inl (Int.not_lt.1 hgt))
    rw [if_neg hgt] at c
    rw [if_neg hgt] at hr
    unfold Engine.modNode at hr
    dsimp only at hr
    first | rw [run_modify] at hr | (rw [run_bind, run_pure] at hr; dsimp only at hr; rw [run_modify] at hr)
    cases hr
    exact Steps.single (.call (by decide) c)
foot_leaf Foot.setHeight
def W.ahhAddUnlessMem : List Tag := [.nHeightInAhh, .ahh]
theorem Foot.ahhAddUnlessMem (n) : Foot W.ahhAddUnlessMem w (Engine.ahhAddUnlessMem n) := by
  unfold Engine.ahhAddUnlessMem; qpres
foot_leaf Foot.ahhAddUnlessMem
def W.ahhRemoveMin : List Tag := [.nHeightInAhh, .ahh]
theorem Foot.ahhRemoveMin : Foot W.ahhRemoveMin w Engine.ahhRemoveMin := by unfold Engine.ahhRemoveMin; qpres
foot_leaf Foot.ahhRemoveMin
def W.ensureHeightRequirement : List Tag := [.nHeightInAhh, .ahh, .setHeight]
theorem Foot.ensureHeightRequirement (a b c d) : Foot W.ensureHeightRequirement w (Engine.ensureHeightRequirement a b c d) := by
  unfold Engine.ensureHeightRequirement; qpres
foot_leaf Foot.ensureHeightRequirement

def W.adjustHeightsLoop : List Tag := [.nHeightInRch, .nHeightInAhh, .rch, .ahh, .setHeight]
theorem Foot.adjustHeightsLoop (oc op fuel) : Foot W.adjustHeightsLoop w (Engine.adjustHeightsLoop oc op fuel) := by
  induction fuel with
  | zero => unfold Engine.adjustHeightsLoop; qpres
  | succ fuel ih => unfold Engine.adjustHeightsLoop; qpres; all_goals exact ih
foot_leaf Foot.adjustHeightsLoop
def W.adjustHeights : List Tag := [.nHeightInRch, .nHeightInAhh, .rch, .ahh, .setHeight]
theorem Foot.adjustHeights (oc op fuel) : Foot W.adjustHeights w (Engine.adjustHeights oc op fuel) := by
  unfold Engine.adjustHeights; qpres
foot_leaf Foot.adjustHeights
def W.addParent : List Tag := [.nParents]
theorem Foot.addParent (a b c) : Foot W.addParent w (Engine.addParent a b c) := by unfold Engine.addParent; qpres
foot_leaf Foot.addParent
def W.removeParent : List Tag := [.nParents]
theorem Foot.removeParent (a b c) : Foot W.removeParent w (Engine.removeParent a b c) := by
  unfold Engine.removeParent; qpres
foot_leaf Foot.removeParent
def W.handleAfterStabilisation : List Tag := [.mark]
/-- what the call knows of the node comes from the `getNode` that precedes the writes, which no single leaf sees -/
theorem Foot.handleAfterStabilisation (n) : Foot W.handleAfterStabilisation w (Engine.handleAfterStabilisation n) := by
  constructor
  intro s r s' h
  unfold Engine.handleAfterStabilisation at h
  rw [run_bind, run_getNode] at h
  cases hn : s.nodes[n]? with
  | none => rw [hn] at h; cases h; exact PreOrdB.refl _ _
  | some nd =>
    rw [hn] at h
    simp only at h
    split at h
    · rename_i hf
      rw [run_bind_modNode, run_modify] at h
      cases h
      exact FootR.single (.call (by decide) (.mark s n (lt_of_some hn) (by rw [nodeD_of_some hn]; simpa using hf)))
    · rw [run_pure] at h; cases h; exact PreOrdB.refl _ _
foot_leaf Foot.handleAfterStabilisation
def W.maybeHandleAfterStabilisation : List Tag := [.markNotified]
theorem Foot.maybeHandleAfterStabilisation (n) : Foot W.maybeHandleAfterStabilisation w (Engine.maybeHandleAfterStabilisation n) := by
  constructor
  intro s r s' h
  rcases run_maybeHandleAfterStabilisation h with rfl | ⟨rfl, hn, hf, hh⟩
  · exact PreOrdB.refl _ _
  · exact FootR.single (.call (by decide) (.markNotified s n hn hf hh))
foot_leaf Foot.maybeHandleAfterStabilisation
def W.shouldCutoff : List Tag := [.logCut, .panicCountdown]
theorem Foot.shouldCutoff (env n o v) : Foot W.shouldCutoff w (Engine.shouldCutoff env n o v) := by
  unfold Engine.shouldCutoff; qpres
foot_leaf Foot.shouldCutoff
def W.edgeOnChange : List Tag := [.xSlots, .logCb, .panicCountdown]
theorem Foot.edgeOnChange (env e edge) : Foot W.edgeOnChange w (Engine.edgeOnChange env e edge) := by
  unfold Engine.edgeOnChange; qpres
foot_leaf Foot.edgeOnChange
def W.runEdgeCallback : List Tag := [.xSlots, .logCb, .panicCountdown]
theorem Foot.runEdgeCallback (env e i) : Foot W.runEdgeCallback w (Engine.runEdgeCallback env e i) := by
  unfold Engine.runEdgeCallback; qpres
foot_leaf Foot.runEdgeCallback
def W.observabilityChange : List Tag := [.xObservability, .logNote]
theorem Foot.observabilityChange (e b) : Foot W.observabilityChange w (Engine.observabilityChange e b) := by
  unfold Engine.observabilityChange; qpres
foot_leaf Foot.observabilityChange
def W.markMapRefUnknown : List Tag := [.nDidChange]
theorem Foot.markMapRefUnknown (fuel n) : Foot W.markMapRefUnknown w (Engine.markMapRefUnknown fuel n) := by
  induction fuel generalizing n with
  | zero => unfold Engine.markMapRefUnknown; qpres
  | succ fuel ih => unfold Engine.markMapRefUnknown; qpres; all_goals exact ih _
foot_leaf Foot.markMapRefUnknown

def W.necessary : List Tag :=
  [.nHeightInRch, .nParents, .nDidChange, .xSlots, .xObservability, .logCb, .logNote, .cBecameNecessary, .rch, .propagateInvalidity, .panicCountdown,
   .markNotified, .setHeight]
theorem Foot.necessary (env : Env) (fuel : Nat) :
    (∀ n, Foot W.necessary w (Engine.becameNecessary env fuel n)) ∧
    (∀ c i p, Foot W.necessary w (Engine.addParentWithoutAdjustingHeights env fuel c i p)) := by
  induction fuel with
  | zero =>
    constructor
    · intro n; unfold Engine.becameNecessary; qpres
    · intro c i p; unfold Engine.addParentWithoutAdjustingHeights; qpres
  | succ fuel ih =>
    constructor
    · intro n; unfold Engine.becameNecessary; qpres; all_goals exact ih.2 _ _ _
    · intro c i p; unfold Engine.addParentWithoutAdjustingHeights; qpres; all_goals exact ih.1 _
theorem Foot.becameNecessary (env fuel n) : Foot W.necessary w (Engine.becameNecessary env fuel n) :=
  (Foot.necessary env fuel).1 n
foot_leaf Foot.becameNecessary
theorem Foot.addParentWithoutAdjustingHeights (env fuel c i p) :
    Foot W.necessary w (Engine.addParentWithoutAdjustingHeights env fuel c i p) := (Foot.necessary env fuel).2 c i p
foot_leaf Foot.addParentWithoutAdjustingHeights

def W.unnecessary : List Tag := [.nHeightInRch, .nParents, .xObservability, .logNote, .cBecameUnnecessary, .rch, .markNotified, .setHeight]
theorem Foot.unnecessary (fuel : Nat) :
    (∀ n, Foot W.unnecessary w (Engine.becameUnnecessary fuel n)) ∧ (∀ n, Foot W.unnecessary w (Engine.checkIfUnnecessary fuel n)) ∧
    (∀ n, Foot W.unnecessary w (Engine.removeChildren fuel n)) := by
  induction fuel with
  | zero =>
    refine ⟨?_, ?_, ?_⟩
    · intro n; unfold Engine.becameUnnecessary; qpres
    · intro n; unfold Engine.checkIfUnnecessary; qpres
    · intro n; unfold Engine.removeChildren; qpres
  | succ fuel ih =>
    refine ⟨?_, ?_, ?_⟩
    · intro n; unfold Engine.becameUnnecessary; qpres; all_goals exact ih.2.2 _
    · intro n; unfold Engine.checkIfUnnecessary; qpres; all_goals exact ih.1 _
    · intro n; unfold Engine.removeChildren; qpres; all_goals exact ih.2.1 _
theorem Foot.becameUnnecessary (fuel n) : Foot W.unnecessary w (Engine.becameUnnecessary fuel n) :=
  (Foot.unnecessary fuel).1 n
foot_leaf Foot.becameUnnecessary
theorem Foot.checkIfUnnecessary (fuel n) : Foot W.unnecessary w (Engine.checkIfUnnecessary fuel n) :=
  (Foot.unnecessary fuel).2.1 n
foot_leaf Foot.checkIfUnnecessary
theorem Foot.removeChildren (fuel n) : Foot W.unnecessary w (Engine.removeChildren fuel n) :=
  (Foot.unnecessary fuel).2.2 n
foot_leaf Foot.removeChildren

def W.invalidateNode : List Tag :=
  [.nHeightInRch, .nParents, .nInvalid, .bCreated, .xObservability, .erase, .logNote, .cInvalidated, .cBecameUnnecessary, .rch, .propagateInvalidity,
   .markNotified, .setHeight]
theorem Foot.invalidateNode (fuel n) : Foot W.invalidateNode w (Engine.invalidateNode fuel n) := by
  induction fuel generalizing n with
  | zero => unfold Engine.invalidateNode; qpres
  | succ fuel ih => unfold Engine.invalidateNode; qpres; all_goals exact ih _
foot_leaf Foot.invalidateNode

def W.propagateInvalidity : List Tag :=
  [.nHeightInRch, .nParents, .nInvalid, .bCreated, .xObservability, .xInvalidChildren, .erase, .logNote, .cInvalidated, .cBecameUnnecessary, .rch,
   .propagateInvalidity, .markNotified, .setHeight]
theorem Foot.propagateInvalidity (fuel) : Foot W.propagateInvalidity w (Engine.propagateInvalidity fuel) := by
  induction fuel with
  | zero => unfold Engine.propagateInvalidity; qpres
  | succ fuel ih => unfold Engine.propagateInvalidity; qpres; all_goals exact ih
foot_leaf Foot.propagateInvalidity
def W.stateAddParent : List Tag :=
  [.nHeightInRch, .nHeightInAhh, .nParents, .nDidChange, .nInvalid, .bCreated, .xSlots, .xObservability, .xInvalidChildren, .erase, .logCb, .logNote,
   .cInvalidated, .cBecameNecessary, .cBecameUnnecessary, .rch, .ahh, .propagateInvalidity, .panicCountdown, .markNotified, .setHeight]
theorem Foot.stateAddParent (env fuel c i p) : Foot W.stateAddParent w (Engine.stateAddParent env fuel c i p) := by
  unfold Engine.stateAddParent; qpres
foot_leaf Foot.stateAddParent
def W.changeChildBindRhs : List Tag :=
  [.nHeightInRch, .nHeightInAhh, .nParents, .nForceNecessary, .nDidChange, .nInvalid, .bCreated, .xSlots, .xObservability, .xInvalidChildren, .erase,
   .logCb, .logNote, .cInvalidated, .cBecameNecessary, .cBecameUnnecessary, .rch, .ahh, .propagateInvalidity, .panicCountdown, .markNotified,
   .setHeight]
theorem Foot.changeChildBindRhs (env fuel m o nw i) :
    Foot W.changeChildBindRhs w (Engine.changeChildBindRhs env fuel m o nw i) := by
  unfold Engine.changeChildBindRhs; qpres
foot_leaf Foot.changeChildBindRhs

/-! ### expert API -/
theorem Foot.assertRunningIsChild (n name) : Foot [] w (Engine.assertRunningIsChild n name) := by
  unfold Engine.assertRunningIsChild; qpres
foot_leaf Foot.assertRunningIsChild
def W.expertMakeStale : List Tag := [.nHeightInRch, .xForceStale, .rch]
theorem Foot.expertMakeStale (n) : Foot W.expertMakeStale w (Engine.expertMakeStale n) := by
  unfold Engine.expertMakeStale; qpres
foot_leaf Foot.expertMakeStale
def W.expertAddDependency : List Tag :=
  [.nHeightInRch, .nHeightInAhh, .nParents, .nDidChange, .nInvalid, .bCreated, .xSlots, .xObservability, .xInvalidChildren, .xAddChild, .erase,
   .logCb, .logNote, .cInvalidated, .cBecameNecessary, .cBecameUnnecessary, .rch, .ahh, .propagateInvalidity, .nextDep, .panicCountdown,
   .markNotified, .setHeight]
theorem Foot.expertAddDependency (env fuel n c cb) :
    Foot W.expertAddDependency w (Engine.expertAddDependency env fuel n c cb) := by
  unfold Engine.expertAddDependency; qpres
foot_leaf Foot.expertAddDependency
def W.swapEdgeIndices : List Tag := [.nParents]
theorem Foot.swapEdgeIndices (n c1 i1 c2 i2) : Foot W.swapEdgeIndices w (Engine.swapEdgeIndices n c1 i1 c2 i2) := by
  unfold Engine.swapEdgeIndices; qpres
foot_leaf Foot.swapEdgeIndices
def W.expertRemoveDependency : List Tag :=
  [.nHeightInRch, .nParents, .xObservability, .xInvalidChildren, .xForceStale, .xChildren, .xDropChild, .logNote, .cBecameUnnecessary, .rch,
   .markNotified, .setHeight]
theorem Foot.expertRemoveDependency (fuel n dep) : Foot W.expertRemoveDependency w (Engine.expertRemoveDependency fuel n dep) := by
  unfold Engine.expertRemoveDependency; qpres
foot_leaf Foot.expertRemoveDependency
def W.expertInvalidate : List Tag := W.propagateInvalidity
theorem Foot.expertInvalidate (fuel n) : Foot W.expertInvalidate w (Engine.expertInvalidate fuel n) := by
  unfold Engine.expertInvalidate; qpres
foot_leaf Foot.expertInvalidate

/-! ### node creation, var writes, effects -/
def W.createNode : List Tag := [.createNode]
theorem run_createNode (k : Kind) (sc : Scope) (c : CutoffK) (s : State) :
    (Engine.createNode k sc c).run.run s = (.ok s.nodes.size, created s k sc c) := by
  unfold Engine.createNode
  cases sc <;> rfl
theorem Foot.createNode (k sc c) : Foot W.createNode w (Engine.createNode k sc c) := by
  constructor
  intro s r s' h
  rw [run_createNode] at h
  cases h
  exact FootR.single (.call (by decide) (.createNode s k sc c))
foot_leaf Foot.createNode
def W.createVar : List Tag := [.pushVar, .createNode]
theorem Foot.createVar (v sc) : Foot W.createVar w (Engine.createVar v sc) := by unfold Engine.createVar; qpres
foot_leaf Foot.createVar
def W.createBind : List Tag := [.bNodes, .pushBind, .createNode]
theorem Foot.createBind (b l) : Foot W.createBind w (Engine.createBind b l) := by unfold Engine.createBind; qpres
foot_leaf Foot.createBind
def W.elabInstr : List Tag := [.nCutoff, .bNodes, .xAddChild, .xNode, .pushVar, .pushBind, .pushExpert, .pushPerKey, .nextDep, .slots, .createNode]
theorem Foot.elabInstr (loc v i) : Foot W.elabInstr w (Engine.elabInstr loc v i) := by
  cases i with
  | mapOp op => cases op <;> (simp only [Engine.elabInstr]; qpres)
  | _ => simp only [Engine.elabInstr]; qpres
foot_leaf Foot.elabInstr
def W.elabTemplateBase : List Tag := W.elabInstr
theorem Foot.elabTemplateBase (t v init) : Foot W.elabTemplateBase w (Engine.elabTemplateBase t v init) := by
  unfold Engine.elabTemplateBase; qpres
foot_leaf Foot.elabTemplateBase
def W.memoCall : List Tag :=
  [.nCutoff, .bNodes, .xAddChild, .xNode, .pushVar, .pushBind, .pushExpert, .pushPerKey, .logNote, .currentScope, .nextDep, .panicCountdown, .slots,
   .memos, .createNode]
theorem Foot.memoCall (env m key) : Foot W.memoCall w (Engine.memoCall env m key) := by
  unfold Engine.memoCall; qpres
foot_leaf Foot.memoCall
def W.elabInstrM : List Tag := W.memoCall
theorem Foot.elabInstrM (env loc v i) : Foot W.elabInstrM w (Engine.elabInstrM env loc v i) := by
  unfold Engine.elabInstrM; qpres
foot_leaf Foot.elabInstrM
def W.elabTemplate : List Tag := W.memoCall
theorem Foot.elabTemplate (env t v) : Foot W.elabTemplate w (Engine.elabTemplate env t v) := by
  unfold Engine.elabTemplate; qpres
foot_leaf Foot.elabTemplate
def W.didSetVarWhileNotStabilising : List Tag := [.nHeightInRch, .varSetAt, .cVarSets, .rch]
theorem Foot.didSetVarWhileNotStabilising (v) : Foot W.didSetVarWhileNotStabilising w (Engine.didSetVarWhileNotStabilising v) := by
  unfold Engine.didSetVarWhileNotStabilising; qpres
foot_leaf Foot.didSetVarWhileNotStabilising
def W.writeVar : List Tag := [.nHeightInRch, .varSetAt, .varPending, .varValue, .cVarSets, .rch, .setDuringStab]
theorem Foot.writeVar (v f b) : Foot W.writeVar w (Engine.writeVar v f b) := by unfold Engine.writeVar; qpres
foot_leaf Foot.writeVar
def W.disallowFutureUse : List Tag := [.disallow]
theorem Foot.disallowFutureUse (o) : Foot W.disallowFutureUse w (Engine.disallowFutureUse o) :=
  ⟨fun s _ _ h => FootR.single (.call (by decide) (.disallow s o h))⟩
foot_leaf Foot.disallowFutureUse
def W.dropVarHandle : List Tag := [.varHandles, .deadVars]
theorem Foot.dropVarHandle (v) : Foot W.dropVarHandle w (Engine.dropVarHandle v) := by
  unfold Engine.dropVarHandle; qpres
foot_leaf Foot.dropVarHandle
def W.runEffectBasic : List Tag :=
  [.nHeightInRch, .varSetAt, .varPending, .varValue, .varHandles, .logNote, .cVarSets, .rch, .setDuringStab, .deadVars, .disallow]
theorem Foot.runEffectBasic (env e) : Foot W.runEffectBasic w (Engine.runEffectBasic env e) := by
  unfold Engine.runEffectBasic; qpres
foot_leaf Foot.runEffectBasic
def W.runEffects : List Tag :=
  [.nHeightInRch, .nHeightInAhh, .nParents, .nDidChange, .nInvalid, .varSetAt, .varPending, .varValue, .varHandles, .bCreated, .xSlots,
   .xObservability, .xInvalidChildren, .xForceStale, .xAddChild, .xChildren, .xDropChild, .xScript, .xSel, .erase, .logCb, .logNote, .cInvalidated,
   .cBecameNecessary, .cBecameUnnecessary, .cVarSets, .rch, .ahh, .propagateInvalidity, .setDuringStab, .deadVars, .nextDep, .panicCountdown,
   .markNotified, .disallow, .setHeight]
theorem Foot.runEffects (env fuel effs arg) : Foot W.runEffects w (Engine.runEffects env fuel effs arg) := by
  unfold Engine.runEffects; qpres
foot_leaf Foot.runEffects

/-! ### per-key operators, operator closures -/
theorem Foot.expertValue (env e d sl) : Foot [] w (Engine.expertValue env e d sl) := by
  unfold Engine.expertValue; qpres
foot_leaf Foot.expertValue
def W.withOldEvents : List Tag := [.logInv, .panicCountdown]
theorem Foot.withOldEvents (env g n σ old x new did) :
    Foot W.withOldEvents w (Engine.withOldEvents env g n σ old x new did) := by
  unfold Engine.withOldEvents; qpres
foot_leaf Foot.withOldEvents
def W.perKeyDriver : List Tag :=
  [.nHeightInRch, .nHeightInAhh, .nCutoff, .nParents, .nDidChange, .nInvalid, .bCreated, .bNodes, .xSlots, .xObservability, .xInvalidChildren,
   .xForceStale, .xAddChild, .xChildren, .xDropChild, .xNode, .pkPrevNodes, .pkPrevMap, .erase, .pushVar, .pushBind, .pushExpert, .pushPerKey, .logCb,
   .logNote, .cInvalidated, .cBecameNecessary, .cBecameUnnecessary, .rch, .ahh, .propagateInvalidity, .nextDep, .panicCountdown, .slots, .createNode,
   .markNotified, .setHeight]
theorem Foot.perKeyDriver (env fuel op m) : Foot W.perKeyDriver w (Engine.perKeyDriver env fuel op m) := by
  unfold Engine.perKeyDriver; qpres
foot_leaf Foot.perKeyDriver

/-! ### notifications, `maybeChangeValue`, `recomputeOne` -/
def W.childChanged : List Tag := [.nDidChange, .xSlots, .logCb, .logCut, .panicCountdown]
theorem Foot.childChanged (env fuel p c ci o) : Foot W.childChanged w (Engine.childChanged env fuel p c ci o) := by
  induction fuel generalizing p c ci o with
  | zero => unfold Engine.childChanged; qpres
  | succ fuel ih => unfold Engine.childChanged; qpres; all_goals exact ih _ _ _ _
foot_leaf Foot.childChanged
def W.parentIterCanRecomputeNow : List Tag := [.nHeightInRch, .rch]
theorem Foot.parentIterCanRecomputeNow (p c) : Foot W.parentIterCanRecomputeNow w (Engine.parentIterCanRecomputeNow p c) := by
  unfold Engine.parentIterCanRecomputeNow; qpres
foot_leaf Foot.parentIterCanRecomputeNow
def W.maybeChangeValueManual : List Tag := [.nHeightInRch, .nDidChange, .xSlots, .logCb, .logCut, .rch, .panicCountdown, .touch]
/-- the stamp, the count and the queueing at the head of the function are one call; the rest is walked -/
theorem Foot.maybeChangeValueManual (env fuel n o d b) :
    Foot W.maybeChangeValueManual w (Engine.maybeChangeValueManual env fuel n o d b) := by
  constructor
  intro s r s' h
  cases d with
  | false => rw [run_mcvm_false] at h; cases h; exact PreOrdB.refl _ _
  | true =>
    unfold Engine.maybeChangeValueManual at h
    simp only [Bool.not_true, Bool.false_eq_true, if_false, run_bind_get, run_bind_modNode, run_bind_bumpCounter] at h
    refine PresB.bind_from (s := touched n s) (fun _ _ h1 => FootR.single (.call (by decide) (.touch s n h1))) ?_ h
    intro _
    qpres
foot_leaf Foot.maybeChangeValueManual
def W.maybeChangeValue : List Tag := [.nHeightInRch, .nDidChange, .vClear, .vStore, .xSlots, .logCb, .logCut, .rch, .panicCountdown, .touch]
theorem Foot.maybeChangeValue (env fuel n v) : Foot W.maybeChangeValue (· = n) (Engine.maybeChangeValue env fuel n v) := by
  unfold Engine.maybeChangeValue; qpres
foot_leaf Foot.maybeChangeValue

def W.recomputeOneRest : List Tag :=
  [.nHeightInRch, .nHeightInAhh, .nCutoff, .nChangedAt, .nParents, .nForceNecessary, .nDidChange, .nInvalid, .vClear, .vClearRef, .vStore, .vStoreOld,
   .varSetAt, .varPending, .varValue, .varHandles, .bCreated, .bNodes, .bRhs, .xSlots, .xObservability, .xInvalidChildren, .xForceStale, .xAddChild,
   .xChildren, .xDropChild, .xNode, .xScript, .xSel, .xRan, .pkPrevNodes, .pkPrevMap, .erase, .pushVar, .pushBind, .pushExpert, .pushPerKey, .logInv,
   .logCb, .logCut, .logNote, .cInvalidated, .cBecameNecessary, .cBecameUnnecessary, .cVarSets, .rch, .ahh, .currentScope, .propagateInvalidity,
   .setDuringStab, .deadVars, .nextDep, .panicCountdown, .slots, .memos, .createNode, .markNotified, .touch, .disallow, .setHeight]
/-- after its start (`Step.started`: the running node noted in debug builds, the count, the stamp) `recompute_one` neither counts nor stamps again -/
theorem Foot.recomputeOne_started (env fuel n) {s s' : State} {r} (h : (Engine.recomputeOne env fuel n).run.run s = (r, s')) :
    FootR W.recomputeOneRest (· = n) r.isOk (started n s) s' := by
  unfold Engine.recomputeOne at h
  rw [run_bind_get] at h
  generalize hJ : (fun (_ : Unit) => (Engine.bumpCounter _ >>= _ : M (Option Nat))) = J at h
  have tail : ∀ (s0 : State) r s', (J ()).run.run s0 = (r, s') →
      FootR W.recomputeOneRest (· = n) r.isOk
        { s0 with
          counters := { s0.counters with recomputed := s0.counters.recomputed + 1 },
          nodes := s0.nodes.modify n fun x => { x with recomputedAt := s0.stabNum } } s' := by
    subst hJ
    intro s0 r s' h0
    simp only [run_bind_bumpCounter, run_bind_get, run_bind_modNode] at h0
    refine PresB.h ?_ _ _ _ h0
    qpres
  cases hd : s.cfg.debug
  · simp only [hd, Bool.false_eq_true, if_false] at h
    have := tail _ _ _ h
    simpa only [started, hd, Bool.false_eq_true, if_false] using this
  · simp only [hd, if_true, run_bind_modify] at h
    have := tail _ _ _ h
    simpa only [started, hd, if_true] using this

def W.recomputeOne : List Tag := .stamp :: .cRecomputed :: .currentlyRunning :: W.recomputeOneRest
theorem Foot.recomputeOne (env fuel n) : Foot W.recomputeOne (· = n) (Engine.recomputeOne env fuel n) := by
  constructor
  intro s r s' h
  let s1 : State := { s with currentlyRunning := if s.cfg.debug = true then some n else s.currentlyRunning }
  let s2 : State := { s1 with counters := { s.counters with recomputed := s.counters.recomputed + 1 } }
  have e1 : Edit W.recomputeOne (· = n) s s1 := .currentlyRunning s _ (by decide)
  have e2 : Edit W.recomputeOne (· = n) s1 s2 := .counters s1 (.recomputed _ (by decide))
  have e3 : Edit W.recomputeOne (· = n) s2 (started n s) := .stamp s2 n (by decide)
  exact PreOrdB.trans (R := FootR W.recomputeOne (· = n)) (((Steps.single (.edit e1)).tail (.edit e2)).tail (.edit e3))
    ((Foot.recomputeOne_started env fuel n h).mono (by decide) fun _ h => h)
/-- the chain runs one node after another: from here on any node may store a value -/
local macro_rules | `(tactic| qleaf) => `(tactic| (refine Foot.weaken ?_ (fun _ _ => trivial) (Foot.recomputeOne _ _ _); decide))

def W.recompute : List Tag := W.recomputeOne
theorem Foot.recompute (env fuel n) : Foot W.recompute (fun _ => True) (Engine.recompute env fuel n) := by
  induction fuel generalizing n with
  | zero => unfold Engine.recompute; qpres
  | succ fuel ih => unfold Engine.recompute; qpres; all_goals exact ih _
foot_leaf Foot.recompute

def W.rchRemoveMin : List Tag := [.nHeightInRch, .rch]
theorem Foot.rchRemoveMin : Foot W.rchRemoveMin w Engine.rchRemoveMin := by unfold Engine.rchRemoveMin; qpres
foot_leaf Foot.rchRemoveMin

def W.drainHeap : List Tag := W.recomputeOne
theorem Foot.drainHeap (env fuel) : Foot W.drainHeap (fun _ => True) (Engine.drainHeap env fuel) := by
  induction fuel with
  | zero => unfold Engine.drainHeap; qpres
  | succ fuel ih => unfold Engine.drainHeap; qpres; all_goals exact ih
foot_leaf Foot.drainHeap

def W.becameNecessaryPropagate : List Tag :=
  [.nHeightInRch, .nParents, .nDidChange, .nInvalid, .bCreated, .xSlots, .xObservability, .xInvalidChildren, .erase, .logCb, .logNote, .cInvalidated,
   .cBecameNecessary, .cBecameUnnecessary, .rch, .propagateInvalidity, .panicCountdown, .markNotified, .setHeight]
theorem Foot.becameNecessaryPropagate (env fuel n) : Foot W.becameNecessaryPropagate w (Engine.becameNecessaryPropagate env fuel n) := by
  unfold Engine.becameNecessaryPropagate; qpres
foot_leaf Foot.becameNecessaryPropagate
def W.addNewObservers : List Tag :=
  [.nHeightInRch, .nParents, .nDidChange, .nObservers, .nInvalid, .bCreated, .xSlots, .xObservability, .xInvalidChildren, .oState, .erase, .logCb,
   .logNote, .cInvalidated, .cBecameNecessary, .cBecameUnnecessary, .rch, .propagateInvalidity, .newObservers, .allObservers, .panicCountdown, .mark,
   .markNotified, .setHeight]
theorem Foot.addNewObservers (env fuel) : Foot W.addNewObservers w (Engine.addNewObservers env fuel) := by
  unfold Engine.addNewObservers; qpres
foot_leaf Foot.addNewObservers
def W.unlinkDisallowedObservers : List Tag :=
  [.nHeightInRch, .nParents, .nObservers, .xObservability, .oState, .logNote, .cBecameUnnecessary, .rch, .disallowedObservers, .allObservers,
   .markNotified, .setHeight]
theorem Foot.unlinkDisallowedObservers (fuel) : Foot W.unlinkDisallowedObservers w (Engine.unlinkDisallowedObservers fuel) := by
  unfold Engine.unlinkDisallowedObservers; qpres
foot_leaf Foot.unlinkDisallowedObservers
def W.runAll : List Tag :=
  [.nHeightInRch, .nHeightInAhh, .nParents, .nDidChange, .nInvalid, .varSetAt, .varPending, .varValue, .varHandles, .bCreated, .xSlots,
   .xObservability, .xInvalidChildren, .xForceStale, .xAddChild, .xChildren, .xDropChild, .xScript, .xSel, .oHandlers, .erase, .logCb, .logNotif,
   .logNote, .cInvalidated, .cBecameNecessary, .cBecameUnnecessary, .cVarSets, .rch, .ahh, .propagateInvalidity, .setDuringStab, .deadVars, .nextDep,
   .panicCountdown, .markNotified, .disallow, .setHeight]
theorem Foot.runAll (env fuel o n nu now) : Foot W.runAll w (Engine.runAll env fuel o n nu now) := by
  unfold Engine.runAll; qpres
foot_leaf Foot.runAll
def W.stabiliseEnd : List Tag :=
  [.nHeightInRch, .nHeightInAhh, .nParents, .nInHandleAfterStab, .nDidChange, .nInvalid, .varSetAt, .varPending, .varValue, .varCommit, .varHandles,
   .varUnlink, .bCreated, .xSlots, .xObservability, .xInvalidChildren, .xForceStale, .xAddChild, .xChildren, .xDropChild, .xScript, .xSel, .oHandlers,
   .erase, .logCb, .logNotif, .logNote, .cInvalidated, .cBecameNecessary, .cBecameUnnecessary, .cVarSets, .nextRound, .rch, .ahh, .status,
   .propagateInvalidity, .handleAfterStab, .setDuringStab, .deadVars, .nextDep, .panicCountdown, .memos, .markNotified, .disallow, .setHeight]
theorem Foot.stabiliseEnd (env fuel) : Foot W.stabiliseEnd w (Engine.stabiliseEnd env fuel) := by
  unfold Engine.stabiliseEnd; qpres
foot_leaf Foot.stabiliseEnd

def W.stabilise : List Tag :=
  [.nHeightInRch, .nHeightInAhh, .nCutoff, .nChangedAt, .nParents, .nInHandleAfterStab, .nForceNecessary, .nDidChange, .nObservers, .nInvalid,
   .vClear, .vClearRef, .vStore, .vStoreOld, .varSetAt, .varPending, .varValue, .varCommit, .varHandles, .varUnlink, .bCreated, .bNodes, .bRhs,
   .xSlots, .xObservability, .xInvalidChildren, .xForceStale, .xAddChild, .xChildren, .xDropChild, .xNode, .xScript, .xSel, .xRan, .oState,
   .oHandlers, .pkPrevNodes, .pkPrevMap, .stamp, .erase, .pushVar, .pushBind, .pushExpert, .pushPerKey, .logInv, .logCb, .logCut, .logNotif, .logNote,
   .cRecomputed, .cInvalidated, .cBecameNecessary, .cBecameUnnecessary, .cVarSets, .nextRound, .rch, .ahh, .status, .currentScope,
   .propagateInvalidity, .handleAfterStab, .newObservers, .disallowedObservers, .allObservers, .setDuringStab, .deadVars, .nextDep, .panicCountdown,
   .currentlyRunning, .slots, .memos, .createNode, .mark, .markNotified, .touch, .disallow, .setHeight]
theorem Foot.stabilise (env fuel) : Foot W.stabilise (fun _ => True) (Engine.stabilise env fuel) := by
  unfold Engine.stabilise; qpres

/-! ## the API actions -/

def W.subscribe : List Tag := [.nHandlers, .oHandlers, .nextToken, .mark]
theorem Foot.subscribe (o h) : Foot W.subscribe w (Engine.subscribe o h) := by unfold Engine.subscribe; qpres
foot_leaf Foot.subscribe
def W.unsubscribe : List Tag := [.nHandlers, .oHandlers]
theorem Foot.unsubscribe (o t ow) : Foot W.unsubscribe w (Engine.unsubscribe o t ow) := by unfold Engine.unsubscribe; qpres
foot_leaf Foot.unsubscribe
def W.setMaxHeightAllowed : List Tag := [.rchResize, .ahhResize]
theorem Foot.setMaxHeightAllowed (k) : Foot W.setMaxHeightAllowed w (Engine.setMaxHeightAllowed k) := by
  unfold Engine.setMaxHeightAllowed; qpres
foot_leaf Foot.setMaxHeightAllowed
foot_leaf Foot.stabilise

/-- one write of `stepAction env a`: a write of the engine, or the bookkeeping of the action itself (naming table and handles, a fresh observer, the
clone count of an observer handle, dropping everything) -/
inductive ActEdit (L : List Tag) : Action → State → State → Prop
  | engine {a s s'} (e : Edit L (fun _ => True) s s') : ActEdit L a s s'
  | created (s : State) (i : Instr) (n : Nat) : ActEdit L (.create i) s { s with top := s.top.push n, handles := n :: s.handles }
  | observed (s : State) (x : Opnd) (n : Nat) (l : List Nat) :
      ActEdit L (.observe x) s { s with observers := s.observers.push { node := n }, newObservers := l }
  | cloned (s : State) (o : Nat) : ActEdit L (.cloneObs o) s { s with observers := s.observers.modify o fun x => { x with clones := x.clones + 1 } }
  | dropped (s : State) (o : Nat) : ActEdit L (.dropObs o) s { s with observers := s.observers.modify o fun x => { x with clones := x.clones - 1 } }
  | dropAll (s : State) : ActEdit L .dropAll s { s with alive := false }
  | dropHandle (s : State) (x : Opnd) (l : List Nat) : ActEdit L (.dropHandle x) s { s with handles := l }

/-- the same with the calls of the engine whole -/
inductive ActCall (L : List Tag) : Action → State → State → Prop
  | engine {a s s'} (c : Call (partsB L) (fun _ => True) s s') : ActCall L a s s'
  | own {a s s'} (e : ActEdit [] a s s') : ActCall L a s s'

theorem ActCall.steps {a : Action} {s s' : State} (c : ActCall L a s s') : Steps (ActEdit (parts L) a) s s' := by
  cases c with
  | engine c => exact Steps.mono (fun _ _ => .engine) c.steps
  | own e =>
    refine .single ?_
    cases e with
    | engine e => exact .engine (e.mono (fun _ h => absurd h List.not_mem_nil) fun _ h => h)
    | created s i n => exact .created s i n
    | observed s x n l => exact .observed s x n l
    | cloned s o => exact .cloned s o
    | dropped s o => exact .dropped s o
    | dropAll s => exact .dropAll s
    | dropHandle s x l => exact .dropHandle s x l

theorem Foot.act {a : Action} {α} {m : M α} (h : Foot L (fun _ => True) m) : Pres (Steps (ActCall L a)) m :=
  h.run.mono fun _ _ => Steps.mono fun _ _ => .engine

local macro_rules
  | `(tactic| qleaf) =>
    `(tactic| (refine Pres.modify fun _ => Steps.single (.own ?_)
               with_reducible first
                 | exact .created _ _ _ | exact .observed _ _ _ _ | exact .cloned _ _ | exact .dropped _ _
                 | exact .dropAll _ | exact .dropHandle _ _ _))
local macro_rules
  | `(tactic| qleaf) =>
    `(tactic| ((with_reducible (refine Pres.modify fun _ => Steps.single (.engine (.edit ?_)); constructor)); decide))
/-- an engine call inside an action: its footprint lemma, weakened to `fun _ => True` where it is stated at the node that runs -/
local macro_rules | `(tactic| qleaf) => `(tactic| (refine Foot.act ?_; first | qleaf | exact Foot.weaken (fun _ h => h) (fun _ _ => trivial) (by qleaf)))

/-- what `stepAction env a` writes through the engine -/
def W.stepAction : Action → List Tag
  | .create _ => W.elabInstrM
  | .observe _ => [.cActiveObservers]
  | .dropObs _ | .disallow _ => W.disallowFutureUse
  | .subscribe .. => W.subscribe
  | .unsubscribe .. | .stateUnsub _ => W.unsubscribe
  | .set .. | .modify .. | .update .. | .replace .. | .replaceWith .. => W.writeVar
  | .dropVar _ => W.dropVarHandle
  | .addDep .. => W.expertAddDependency
  | .arm _ => [.arm]
  | .setMaxHeight _ => W.setMaxHeightAllowed
  | .stabilise => W.stabilise
  | _ => []

/-- `create` is walked on its own -/
theorem Foot.stepAction_create (env : Env) (i : Instr) (tokens : Array Nat) :
    Pres (Steps (ActCall W.elabInstrM (.create i))) (stepAction env (.create i) tokens) := by
  simp only [Engine.stepAction]; qpres

theorem Foot.stepAction_calls (env : Env) (a : Action) (tokens : Array Nat) :
    Pres (Steps (ActCall (W.stepAction a) a)) (stepAction env a tokens) := by
  cases a
  case create i => exact Foot.stepAction_create env i tokens
  all_goals (simp only [Engine.stepAction, W.stepAction]; qpres)

theorem Foot.stepAction (env : Env) (a : Action) (tokens : Array Nat) :
    Pres (Steps (ActEdit (parts (W.stepAction a)) a)) (stepAction env a tokens) :=
  (Foot.stepAction_calls env a tokens).mono fun _ _ hs => hs.lift ActCall.steps

end IncrVerif.Proofs.Footprint
