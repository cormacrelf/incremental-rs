import IncrVerif.Proofs.EffH13
import IncrVerif.Proofs.EffH14
import IncrVerif.Proofs.EffH15
/-!
# Effects, part 16 (V3): one `stabilise` with subscriptions, write effects in node functions AND in update handlers
-/
namespace IncrVerif.Proofs.EffH
open IncrVerif.Engine IncrVerif.Driver IncrVerif.Proofs IncrVerif.Proofs.Step IncrVerif.Proofs.Sched
open IncrVerif.Proofs.Quiet
open IncrVerif.Proofs.SubsH (HInv UInv hOf numOf PrevOK HasOK Hush stepPrev nuAt endNotifs NotNotif hOf_of_some)

/-- of the handler phase the notifications and the handler bookkeeping see what they see of the effect-free one -/
theorem EndedW.toH {env : Env} {s s' : State} (E : EndedW env s s') : SubsH.EndedH env s s' := by
  refine ⟨fun m => ?_, fun m => ?_, fun m => ?_, fun m => ?_, fun m => ?_, E.nextToken, E.stabNum, E.handleAfterStab, E.obsSize, E.obs⟩
  all_goals
    obtain ⟨h, e⟩ := E.node m
    rw [e]


theorem MidStateW.toH {env : Env} {s t3 s' : State} (M : MidStateW env s t3 s') : SubsH.MidH env s t3 s' :=
  ⟨M.ended.toH, M.log, M.handlers, M.obs, M.obsMap, M.hinv, M.stabNum, M.nextToken, M.hval, M.plain, M.valchg, M.queued⟩

/-! ## `stabilise` -/

/-- the conclusions of `stabilise_w`: `t2`/`t3` are the states in which the drain starts/ends -/
structure WStab (env : Env) (fuel : Nat) (s t2 t3 s' : State) : Prop where
  inv : UInvE env s'
  start : DI env t2 none
  startVars : t2.vars = s.vars
  startStab : t2.stabNum = s.stabNum
  startKind : ∀ m, (t2.nodeD m).kind = (s.nodeD m).kind
  nec : ∀ m, s'.isNecessary m = t2.isNecessary m
  run : (drainHeap env fuel).run.run t2 = (.ok (), t3)
  drain : RunOK env (drainSteps env fuel t2) t2 t3
  drained : t3.rch.length = 0
  hush : Hush t2 t3
  /-- the state between the drain and `stabiliseEnd` (`mid.ended : EndedW env t3 s'`: deferred writes applied,
  handlers run — their writes are immediate; `mid.log`: nothing is delivered before the end of the drain;
  `mid.valchg`: the `changedAt` stamp of the round is exact) -/
  mid : MidStateW env s t3 s'
  /-- **the variables**: the functions' deferred writes in the order the functions ran, then the handlers' writes
  in delivery order, folded over the pre-stabilise value -/
  vars : ∀ (v : Nat) (c : VarCell), s.vars[v]? = some c →
    s'.vars[v]? = some (cellAfter (s.stabNum + 1)
      (writesTo v (stepsWrites env (drainSteps env fuel t2) ++ writesOf (endEffs env t3))) c)
  vsize : s'.vars.size = s.vars.size
  newObservers : s'.newObservers = []
  disallowedObservers : s'.disallowedObservers = []
  stabNum : s'.stabNum = s.stabNum + 1
  size : s'.nodes.size = s.nodes.size
  kind : ∀ m, (s'.nodeD m).kind = (s.nodeD m).kind
  obs : ObsMap stabilisedState s s'
  /-- every necessary node carries `eval` of the final graph on the PRE-STABILISE variables -/
  values : ∀ n, s'.isNecessary n = true → ∀ k, (s'.nodeD n).height.toNat < k →
    (s'.nodeD n).valid = true ∧ (s'.nodeD n).value = eval env { s' with vars := s.vars } k n ∧
      s'.value env n = eval env { s' with vars := s.vars } k n ∧
      (eval env { s' with vars := s.vars } k n).isSome = true
  called : ∀ (o : Nat) (ob : ObsRec) (h : HandlerRec), s'.observers[o]? = some ob → ob.state = .inUse →
    h ∈ ob.handlers → h.prev ≠ .neverBeenUpdated

/-- **V3: one `stabilise`** of a program with subscriptions whose node functions and update handlers have write
effects. -/
theorem stabilise_w {env : Env} (hw : WOnly env) (hH : WHandlers env) {fuel : Nat} {s s' : State}
    (UE : UInvE env s) (h : (stabilise env fuel).run.run s = (.ok (), s')) :
    ∃ t2 t3, WStab env fuel s t2 t3 s' := by
  have U := UE.u
  have Q := U.core
  obtain ⟨t1, t2, t3, -, h1, h2, h3, h4⟩ := stabilise_phases.1 h
  obtain ⟨s0, hs0⟩ : ∃ s0 : State, s0 = { s with status := .stabilising } := ⟨_, rfl⟩
  rw [← hs0] at h1
  rw [← addNewObservers_noEff] at h1
  have hnd0 : ∀ m, s0.nodeD m = s.nodeD m := fun m => by rw [hs0]; rfl
  have S0 : SubsH.SInv (noEff env) s0 s0.newObservers s0.disallowedObservers := by
    rw [hs0]
    exact ⟨Q.struct.congr (SameG.of_nodes rfl rfl rfl rfl rfl),
      ⟨Q.obs.inRange, Q.obs.mem, Q.obs.created, Q.obs.newIn, Q.obs.dis, Q.obs.disIn, Q.obs.disNodup⟩,
      Q.pinv, U.hinv.of_nodes rfl rfl rfl rfl rfl⟩
  obtain ⟨S1, hn1, hd1, F1, O1, N1, K1, L1, T1⟩ := SubsH.addNewObservers_s S0 h1
  obtain ⟨S2, hn2, hd2, F2, O2, K2, L2, T2⟩ := SubsH.unlinkDisallowedObservers_s S1 hn1 h2
  have F : SubsH.PFrame s0 t2 := F1.trans F2
  have hvars0 : s0.vars = s.vars := by rw [hs0]
  have hstab0 : s0.stabNum = s.stabNum := by rw [hs0]
  have hsz0 : s0.nodes.size = s.nodes.size := by rw [hs0]
  have hlog0 : s0.log = s.log := by rw [hs0]
  have hobs0 : s0.observers = s.observers := by rw [hs0]
  have hv2 : t2.vars = s.vars := by rw [F.vars, hvars0]
  have hst2 : t2.stabNum = s.stabNum := by rw [F.stabNum, hstab0]
  have V2 : VarsOK t2 := F.varsOK (by
    refine ⟨?_, ?_⟩
    · intro n c hn hk; rw [hnd0] at hk; rw [hvars0]; exact Q.vars.node n c (by rw [← hsz0]; exact hn) hk
    · intro c vc hc; rw [hvars0] at hc; rw [hsz0, hnd0]; exact Q.vars.cell c vc hc)
  have st2 : ∀ m, (t2.nodeD m).recomputedAt < t2.stabNum ∧ (t2.nodeD m).changedAt < t2.stabNum := by
    intro m
    rw [F.recomputedAt, F.changedAt, F.stabNum, hstab0, hnd0]; exact Q.stamps m
  have cons2 : ∀ m, m < t2.nodes.size → staleOf t2 m = false → Consistent (noEff env) t2 m := by
    intro m hm hs
    rw [F.staleOf] at hs
    have hs' : staleOf s m = false := by
      rw [← hs]; exact (staleOf_congr (by rw [hnd0]) (by rw [hnd0]) hvars0 (fun c _ => by rw [hnd0])).symm
    have hc := Q.cons m (by rw [← hsz0, ← F.size]; exact hm) hs'
    have hc0 : Consistent (noEff env) s0 m := by
      obtain ⟨w, hw, hv⟩ := hc
      exact ⟨w, Target.congr (by rw [hnd0]) hvars0 (fun c _ => by rw [hnd0]) hw, by rw [hnd0]; exact hv⟩
    exact F.consistent hc0
  have D2 : DrainInv (noEff env) t2 :=
    drainInv_of S2.struct V2 (by rw [F.stabNum, hstab0]; exact Q.now) st2
      (fun c vc hc => by rw [F.vars, hvars0] at hc; rw [F.stabNum, hstab0]; exact Q.varStamp c vc hc) cons2
  have U2 : UnnecOK (noEff env) t2 := fun m hm _ => ⟨(st2 m).1, cons2 m hm⟩
  have DI2 : DI env t2 none :=
    ⟨D2, U2, by rw [F.status, hs0], fun v c hc => (UE.cells v c (by rw [← hv2]; exact hc)).2⟩
  -- the drain
  obtain ⟨R, he3⟩ := drainHeap_eff hw fuel t2 t3 DI2 h3
  have hu3 := drainHeap_eff_hush hw fuel t2 t3 DI2 h3
  have vc3 := drainHeap_eff_valchg hw DI2 st2 (fun m hm => (S2.struct.node (nec_lt_size hm)).cutoff) h3
  have P2 : Pend t2 [] t2 :=
    Pend.start (fun v c hc => (UE.cells v c (by rw [← hv2]; exact hc)).1)
      (by rw [F.setDuringStab, hs0]; exact Q.setDuringStab)
  have P3 := R.pend t2 [] P2
  rw [List.nil_append] at P3
  generalize hW : stepsWrites env (drainSteps env fuel t2) = W at P3
  have D3 := R.di.inv
  have k3 : stateKeyD t3 = stateKeyD t2 := R.dr.keyD
  simp only [stateKeyD, Prod.mk.injEq] at k3
  obtain ⟨k_obs, k_all, k_scope, k_top, k_handles, k_alive, k_pinv, -⟩ := k3
  have hst3 : t3.stabNum = s.stabNum := by rw [R.dr.frame.stabNum, hst2]
  have hdead : t3.deadVars = [] := by rw [R.dr.calm.deadVars, F.deadVars, hs0]; exact Q.deadVars
  have hno3 : t3.newObservers = [] := by rw [R.dr.calm.newObservers]; exact hn2
  have hdo3 : t3.disallowedObservers = [] := by rw [R.dr.calm.disallowedObservers]; exact hd2
  -- the drained state without the deferred writes
  let t3c : State := { t3 with vars := t2.vars, setDuringStab := t2.setDuringStab }
  have Pc : SameP t3c t3 := ⟨rfl, P3.size, fun v a ha => P3.sameP_vars.2 v a ha⟩
  have Pc' : SameP t3 t3c := Pc.symm
  have D3c : DrainInv (noEff env) t3c := Pc'.inv D3
  have U3c : UnnecOK (noEff env) t3c := Pc'.unnecOK R.di.unnec
  have f3 : Frame t2 t3c := (R.dr.frame.trans (FrameP.of_sameP Pc')).toFrame rfl
  have S3c : Struct (noEff env) t3c := Struct.ofDrained S2.struct f3 D3c he3 k_scope
  have O3 : SubsH.ObsInv t3 [] [] :=
    SubsH.obsInv_congr' S2.obs k_obs R.dr.frame.size (fun m => (R.dr.frame.shape m).observers)
  have H3 : HInv t3 :=
    SubsH.P12u.hinv_hush S2.hinv hu3 k_obs (fun m => (R.dr.frame.shape m).observers) R.dr.frame.stabNum
  have hval3 : ∀ n, t3.isNecessary n = true →
      (t3.nodeD n).valid = true ∧ (t3.value env n).isSome = true := by
    intro n hn
    obtain ⟨v1, -, v3, -, v5⟩ := drained_values D3 he3 n hn ((t3.nodeD n).height.toNat + 1) (Nat.lt_succ_self _)
    refine ⟨v1, ?_⟩
    rw [← value_noEff, D3.graph.value_plain hn, v3]; exact v5
  -- the invariant for the state after the bump, read with the status reset
  have V3c : VarsOK t3c := by
    refine ⟨?_, ?_⟩
    · intro n c hn hk
      rw [(f3.shape n).kind] at hk
      exact V2.node n c (by rw [← f3.size]; exact hn) hk
    · intro c vc hc
      have := V2.cell c vc hc
      rw [f3.size, (f3.shape vc.node).kind]; exact this
  have hcons3 : ∀ m, m < t3c.nodes.size → staleOf t3c m = false → Consistent (noEff env) t3c m := by
    intro m hm hs
    cases hn : t3c.isNecessary m with
    | true => exact (D3c.all_consistent he3 m hn).2
    | false => exact (U3c m hm hn).2 hs
  have Qc : SubsH.QInv (noEff env) (quiet (bump t3c)) := by
    refine ⟨S3c.congr (SameG.of_nodes rfl rfl rfl rfl rfl), ⟨V3c.node, V3c.cell⟩, ?_, ?_, ?_, ?_, ?_, rfl, ?_, rfl,
      hdead, ?_, ?_⟩
    · show SubsH.ObsInv (quiet (bump t3c)) t3.newObservers t3.disallowedObservers
      rw [hno3, hdo3]
      exact ⟨O3.inRange, O3.mem, O3.created, O3.newIn, O3.dis, O3.disIn, O3.disNodup⟩
    · show 0 ≤ t3.stabNum + 1
      have := D3.stamps.now; omega
    · intro m
      show (t3.nodeD m).recomputedAt < t3.stabNum + 1 ∧ (t3.nodeD m).changedAt < t3.stabNum + 1
      have := D3.stamps.node m; omega
    · intro c vc hc
      show vc.setAt ≤ t3.stabNum + 1
      have := D3c.stamps.var c vc hc
      have e : t3c.stabNum = t3.stabNum := rfl
      omega
    · intro m hm hs
      exact hcons3 m hm hs
    · show t3.alive = true
      rw [k_alive, F.alive, hs0]; exact Q.alive
    · show t3.propagateInvalidity = []
      rw [k_pinv]; exact S2.pinv
    · intro k n hk
      have hk' : t3.top[k]? = some n := hk
      rw [k_top, F.top, hs0] at hk'
      show n < t3.nodes.size
      rw [R.dr.frame.size, F.size, hsz0]; exact Q.top k n hk'
  have PQ : SameP (quiet (bump t3c)) (quiet (bump t3)) := ⟨rfl, Pc.size, Pc.cell⟩
  have QB : SubsH.QInv (noEff env) (quiet (bump t3)) := PQ.qinvU Qc rfl
  -- the end
  have hh3 : HandlesOK t3 := R.di.handles
  have E := stabiliseEnd_specW hH D3.graph.pc R.di.status hdead O3 H3 hval3 hh3 QB h4
  obtain ⟨H', hcalled⟩ := E.toH.hinv O3 H3 hval3
  -- the variables
  have hcell : ∀ (v : Nat) (c0 : VarCell), s.vars[v]? = some c0 →
      s'.vars[v]? = some (cellAfter (s.stabNum + 1) (writesTo v (W ++ writesOf (endEffs env t3))) c0) := by
    intro v c0 h0
    have h2c : t2.vars[v]? = some c0 := by rw [hv2]; exact h0
    have h3c := P3.cell v c0 h2c
    have hp := (UE.cells v c0 h0).1
    have hsa := Q.varStamp v c0 h0
    rw [E.vars v _ h3c, hst3, e2_writesTo_append, ← cellAfter_cellAfter]
    by_cases hm : v ∈ t3.setDuringStab
    · rw [if_pos hm, cellW_clean_applyCell _ _ _ hp (by omega)]
    · rw [if_neg hm]
      have : writesTo v W = [] := by
        cases hw' : writesTo v W with
        | nil => rfl
        | cons f fs => exact absurd ((P3.mem v).2 (by rw [hw']; exact List.cons_ne_nil _ _)) hm
      rw [this]; rfl
  have hvsz : s'.vars.size = s.vars.size := by rw [E.vsize, P3.size, hv2]
  have hcells : CellsOK s' := by
    intro v cv hcv
    have hlt : v < s.vars.size := by
      rw [← hvsz]
      rcases Nat.lt_or_ge v s'.vars.size with h | h
      · exact h
      · rw [Array.getElem?_eq_none h] at hcv; cases hcv
    have h0 : s.vars[v]? = some s.vars[v] := Array.getElem?_eq_getElem hlt
    have := hcell v _ h0
    rw [hcv] at this
    cases this
    obtain ⟨hp, hh⟩ := UE.cells v _ h0
    cases hw' : writesTo v (W ++ writesOf (endEffs env t3)) with
    | nil => exact ⟨hp, hh⟩
    | cons f fs => exact ⟨hp, hh⟩
  -- nodes
  have hnodeS : ∀ m, (s'.nodeD m).kind = (t3.nodeD m).kind ∧ (s'.nodeD m).value = (t3.nodeD m).value ∧
      (s'.nodeD m).valid = (t3.nodeD m).valid ∧ (s'.nodeD m).height = (t3.nodeD m).height ∧
      s'.isNecessary m = t3.isNecessary m := by
    intro m
    obtain ⟨hh, e⟩ := E.node m
    refine ⟨by rw [e], by rw [e], by rw [e], by rw [e], ?_⟩
    simp only [State.isNecessary, Node.isNecessary, e]
  have hnec : ∀ m, s'.isNecessary m = t2.isNecessary m := fun m => by
    rw [(hnodeS m).2.2.2.2, R.dr.frame.nec]
  have hkind2 : ∀ m, (t2.nodeD m).kind = (s.nodeD m).kind := fun m => by rw [F.kind, hnd0]
  -- observers
  have hmap3 : ObsMap stabilisedState s t3 := by
    refine ⟨by rw [k_obs, O2.1, O1.1, hs0], fun o ob ho => ?_⟩
    have ho0 : s0.observers[o]? = some ob := by rw [hs0]; exact ho
    obtain ⟨ob1, h1o, h1n, h1s⟩ := O1.2 o ob ho0
    obtain ⟨ob2, h2o, h2n, h2s⟩ := O2.2 o ob1 h1o
    exact ⟨ob2, by rw [k_obs]; exact h2o, by rw [h2n, h1n], by rw [h2s, h1s, stabilisedState_eq]⟩
  have hrec : ∀ (o : Nat) (ob : ObsRec), t3.observers[o]? = some ob →
      ∃ ob', s'.observers[o]? = some ob' ∧ ob'.node = ob.node ∧ ob'.state = ob.state := by
    intro o ob ho
    refine ⟨_, E.obs o ob ho, ?_, ?_⟩ <;> split <;> rfl
  have hmid : MidStateW env s t3 s' := by
    refine ⟨E, ?_, fun o => by rw [SubsH.hOf_congr k_obs, K2, K1, SubsH.hOf_congr hobs0], O3, hmap3, H3, hst3,
      by rw [hu3.nextToken, T2, T1, hs0], hval3,
      fun n hn => by rw [← value_noEff]; exact D3.graph.value_plain hn, fun m => ?_, fun n hc hnum => ?_⟩
    · obtain ⟨p1, e1, q1⟩ := L1
      obtain ⟨p2, e2, q2⟩ := L2
      obtain ⟨p3, e3, q3⟩ := hu3.log
      refine ⟨p3 ++ (p2 ++ p1), by rw [e3, e2, e1, hlog0]; simp only [List.append_assoc], fun e he => ?_⟩
      rcases List.mem_append.1 he with h | h
      · exact q3 e h
      · rcases List.mem_append.1 h with h | h
        · exact q2 e h
        · exact q1 e h
    · have := vc3 m
      rw [hst2, F.value, hnd0, F.changedAt, hnd0] at this
      exact this
    · refine hu3.changed S2.hinv.has n ?_ (by rw [← hu3.num]; exact hnum)
      have := (st2 n).2
      rw [hc]; omega
  refine ⟨t2, t3, ⟨⟨⟨E.q, H'⟩, hcells⟩, DI2, hv2, hst2, hkind2, hnec, h3, R, he3, hu3, hmid,
    ?_, hvsz, ?_, ?_, ?_, ?_, ?_, ?_, ?_, hcalled⟩⟩
  · rw [hW]; exact hcell
  · rw [E.newObservers]; exact hno3
  · rw [E.disallowedObservers]; exact hdo3
  · rw [E.stabNum, hst3]
  · rw [E.size, R.dr.frame.size, F.size, hsz0]
  · intro m; rw [(hnodeS m).1, (R.dr.frame.shape m).kind, hkind2]
  · refine ⟨by rw [E.obsSize]; exact hmap3.1, fun o ob ho => ?_⟩
    obtain ⟨ob3, h3o, h3n, h3s⟩ := hmap3.2 o ob ho
    obtain ⟨ob', h1, h2, h3⟩ := hrec o ob3 h3o
    exact ⟨ob', h1, by rw [h2, h3n], by rw [h3, h3s]⟩
  · intro n hn k hk
    obtain ⟨e1, e2, e3, e4, e5⟩ := hnodeS n
    have hn3 : t3.isNecessary n = true := by rw [← e5]; exact hn
    obtain ⟨v1, -, v3, -, v5⟩ := drained_values D3 he3 n hn3 k (by rw [← e4]; exact hk)
    have hev : eval env { s' with vars := s.vars } k n = eval (noEff env) t3 k n := by
      rw [R.dr.frame.eval, ← eval_noEff]
      exact eval_congr (s := t2) (s' := { s' with vars := s.vars })
        (fun m => by
          show (s'.nodeD m).kind = _
          rw [(hnodeS m).1, (R.dr.frame.shape m).kind]) hv2.symm k n
    have hval : (s'.nodeD n).value = eval env { s' with vars := s.vars } k n := by rw [e2, hev]; exact v3
    refine ⟨by rw [e3]; exact v1, hval, ?_, by rw [hev]; exact v5⟩
    rw [← value_noEff, (SubsH.QInv.quiet E.q).graph.value_plain hn]; exact hval

end IncrVerif.Proofs.EffH
