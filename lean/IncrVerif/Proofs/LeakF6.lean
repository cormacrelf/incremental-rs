import IncrVerif.Proofs.LeakF4
import IncrVerif.Proofs.LeakF5
import IncrVerif.Proofs.LeakH8
import IncrVerif.Proofs.FullH61
/-!
# LeakF6 — C12 for the combined fragment: drops of node handles / observers, then one `stabilise`

* `HDrop a`: `dropHandle`, `dropObs`, `disallow` (NOT `dropVar`).  `hdrop_step`: such an action keeps `QInvFE`
  (`dropHandle` only changes `handles`, which the invariant does not read: `qinvFE_erase`; the other two are actions
  of the fragment).
* `stabilise_handles` (`LeakF1…4`): for ALL programs, a `stabilise` that returns leaves `handles` unchanged.
* `engine_roots`: from `QInvFE s`, `ObsDead s`, all clone counts `0`, `handles = []`: after a `stabilise` that returns
  the roots are the shared cells and the variables' nodes only.
-/
namespace IncrVerif.Proofs.LeakF
open IncrVerif.Engine IncrVerif.Driver IncrVerif.Proofs IncrVerif.Proofs.FullH IncrVerif.Proofs.LeakH
open IncrVerif.Proofs.Own

variable {env : Env} {sp : Nat → Val → Val}

/-- the drops of this file: everything but `dropVar` -/
def HDrop : Action → Prop
  | .dropHandle _ | .dropObs _ | .disallow _ => True
  | _ => False

theorem HDrop.drop {a : Action} (h : HDrop a) : DropAction a := by
  cases a <;> first | exact h.elim | trivial

/-- **for all programs**: a `stabilise` that returns does not change the program's node handles -/
theorem stabilise_handles {fuel : Nat} {s s' : State} (h : (stabilise env fuel).run.run s = (.ok (), s')) :
    s'.handles = s.handles := sim_stabilise env fuel s s' () h

theorem hdrop_step (E : EnvS env sp) (hF : FirstFn env) {s s' : State} {a : Action} {tk : Array Nat}
    {r : String × Array Nat} (Q : QInvFE env sp s) (ha : HDrop a)
    (h : (stepAction env a tk).run.run s = (.ok r, s')) : QInvFE env sp s' := by
  cases a <;> try exact ha.elim
  case dropHandle o =>
    obtain ⟨-, rfl, -⟩ := drop_inv (a := .dropHandle o) trivial h
    simp only [afterDrop]
    split
    · exact qinvFE_erase Q
    · exact Q
  case dropObs o => exact FullH.step_all E hF Q (a := .dropObs o) trivial h
  case disallow o => exact FullH.step_all E hF Q (a := .disallow o) trivial h

theorem hdrop_run (E : EnvS env sp) (hF : FirstFn env) {acts : List Action} {s s' : State} {tk tk' : Array Nat}
    (Q : QInvFE env sp s) (ha : ∀ a, a ∈ acts → HDrop a) (h : Quiet.runActions env acts s tk = .ok (s', tk')) :
    QInvFE env sp s' :=
  Hist.runActions_inv_all (fun _ _ _ _ _ Q ha hx => hdrop_step E hF Q ha hx) Q ha h

/-- the part of `State.roots` that belongs to the variables -/
def varRoots (s : State) : List Nat :=
  s.vars.toList.filterMap fun vc => if vc.handles > 0 || vc.linked then some vc.node else none

theorem flatten_nil_of_buckets (q : Array (List Nat)) (h : ∀ (i : Nat) (hi : i < q.size), q[i] = []) :
    q.toList.flatten = [] := by
  rw [List.flatten_eq_nil_iff]
  intro x hx
  obtain ⟨i, hi, e⟩ := List.getElem_of_mem hx
  have hi' : i < q.size := by simpa using hi
  rw [← e]
  simpa using h i hi'

/-- **state level**: the invariant of the combined fragment, no node handle, every observer dropped; after one
`stabilise` the engine itself roots nothing: the roots are the shared cells and the nodes of the variables -/
theorem engine_roots (E : EnvS env sp) (hF : FirstFn env) {fuel : Nat} {s s' : State} (Q : QInvFE env sp s)
    (OD : ObsDead s) (hh : s.handles = [])
    (hc : ∀ (o : Nat) (ob : ObsRec), s.observers[o]? = some ob → ob.clones = 0)
    (h : (stabilise env fuel).run.run s = (.ok (), s')) :
    s'.handles = [] ∧ s'.vars = s.vars ∧ s'.rch.queues.toList.flatten = [] ∧
      (∀ (o : Nat) (ob : ObsRec), s'.observers[o]? = some ob → ob.clones = 0 ∧ ob.state = .unlinked) ∧
      s'.roots = s'.slots.map (·.2) ++ varRoots s := by
  obtain ⟨g, Q⟩ := Q
  obtain ⟨g', R⟩ := stabilise_full (kit E hF) Q h
  have A := AuditF.audit_of_qinvF R.inv
  have hheap := flatten_nil_of_buckets _ (A.heap_empty (fun n hn => (R.fresh n hn).2)).2.1
  have h1 : s'.handles = [] := by rw [stabilise_handles h]; exact hh
  obtain ⟨-, -, hsz, -, hobs, -, -⟩ := IncrVerif.Proofs.Life.stabilise_spec env fuel s s' h
  have hob : ∀ (o : Nat) (ob : ObsRec), s'.observers[o]? = some ob → ob.clones = 0 ∧ ob.state = .unlinked := by
    intro o ob' ho'
    have hlt : o < s.observers.size := by
      rw [← hsz]
      by_cases hlt : o < s'.observers.size
      · exact hlt
      · rw [Array.getElem?_eq_none (by omega)] at ho'; cases ho'
    have hob0 := Array.getElem?_eq_getElem hlt
    obtain ⟨ob1, ho1, -, hcl, -⟩ := hobs o _ hob0
    obtain ⟨ob2, ho2, -, hst⟩ := R.obs.2 o _ hob0
    rw [ho'] at ho1 ho2
    cases ho1; cases ho2
    refine ⟨by rw [hcl]; exact hc o _ hob0, ?_⟩
    rw [hst]
    rcases OD o _ hob0 (hc o _ hob0) with e | e <;> rw [e] <;> rfl
  have h4 : (s'.observers.toList.filterMap fun ob =>
      if ob.clones > 0 || ob.state == .inUse || ob.state == .disallowed then some ob.node else none) = [] := by
    rw [List.filterMap_eq_nil_iff]
    intro ob' hm
    obtain ⟨o, ho⟩ := mem_toList_getElem? hm
    obtain ⟨hc0, hun⟩ := hob o ob' ho
    simp [hc0, hun]
  refine ⟨h1, R.vars, hheap, hob, ?_⟩
  unfold State.roots
  rw [h1, h4, hheap, R.vars]
  simp [varRoots]

/-- history of the combined fragment, then drops of node handles / observers: the invariant and `ObsDead` -/
theorem history_hdrops (E : EnvS env sp) (hF : FirstFn env) {N : Nat} {d : Bool} {acts drops : List Action}
    {s : State} {tk : Array Nat} (hH : HistFull env sp 0 acts) (hd : ∀ a, a ∈ drops → HDrop a)
    (h : Quiet.runActions env (acts ++ drops) (State.init N d) #[] = .ok (s, tk)) :
    QInvFE env sp s ∧ ObsDead s := by
  refine ⟨?_, obsDead_run (obsDead_init N d) h⟩
  obtain ⟨s1, tk1, h1, h⟩ := Quiet.runActions_prefix h
  exact hdrop_run E hF (FullH.history_inv E hF hH h1) hd h

end IncrVerif.Proofs.LeakF
