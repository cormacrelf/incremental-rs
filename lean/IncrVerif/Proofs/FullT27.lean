import IncrVerif.Proofs.FullT9
/-!
# C04 combined fragment: the CONVERSE of one simulated step, part 1 (twin of `FullH41`)
(static kinds, and `bindMain` with a valid right-hand side: if the VIRTUAL `recomputeOne` returns, so does the actual one)
-/
namespace IncrVerif.Proofs.FullT
set_option linter.unusedSectionVars false
open IncrVerif.Engine IncrVerif.Proofs IncrVerif.Proofs.Step IncrVerif.Proofs.Sched IncrVerif.Proofs.Quiet IncrVerif.Proofs.FullH

/-! ## the bookkeeping at the start of a step is benign -/

theorem sub_started (n : Nat) (es : List Event) (s : State) : SubSt s (logged es (started n s)) := by
  refine ⟨by simp [started, logged], fun m => ?_, fun m x hx => ?_⟩
  · show valueCore ((started n s).nodeD m) = _
    rw [started_nodeD]; split <;> rfl
  · have e : ((logged es (started n s)).nodeD m).parents = (s.nodeD m).parents := by
      show ((started n s).nodeD m).parents = _
      rw [started_nodeD]; split <;> rfl
    rw [e] at hx; exact hx

theorem pinv_started {s : State} (h : PInv s) (n : Nat) (es : List Event) : PInv (logged es (started n s)) :=
  (sub_started n es s).pinv h

theorem mrpv_started {s : State} (h : MRPV s) (n : Nat) (es : List Event) : MRPV (logged es (started n s)) :=
  (sub_started n es s).mrpv h

theorem size_started (n : Nat) (es : List Event) (s : State) : (logged es (started n s)).nodes.size = s.nodes.size :=
  (sub_started n es s).size

section
variable {K : Kind → Prop} {P : State → Prop} {g : Nat → Option Val} {env : Env} {sp : Nat → Val → Val}

/-- twin of `ST.simAt_of_started` -/
theorem bsimAt_of_started {α} {s : State} {n : Nat} {es : List Event} {x x' y y' : M α}
    (ha : x.run.run s = y.run.run (logged es (started n s)))
    (hv : x'.run.run (virt g s) = y'.run.run (logged es (started n (virt g s))))
    (hP : P s → P (logged es (started n s)))
    (hy : BSimAt K P g (logged es (started n s)) y y') : BSimAt K P g s x x' := by
  refine BSimAt.mk' (ST.simAt_of_started ha hv hy.1) (fun hfr hp r s' h => ?_) (fun hfr hp r t h => ?_)
  · rw [ha] at h
    exact (hy.fwd (ST.fr_logged (ST.fr_started hfr n) es) (hP hp) h).2.2.2
  · rw [hv, ← ST.virt_started, ← ST.virt_logged] at h
    obtain ⟨s', hs', -⟩ := hy.rev (ST.fr_logged (ST.fr_started hfr n) es) (hP hp) h
    exact ⟨s', by rw [ha]; exact hs'⟩

/-- twin of `ST.simXAt_of_started` -/
theorem bsimXAt_of_started {α} {s : State} {n : Nat} {es : List Event} {x x' y y' : M α}
    (ha : x.run.run s = y.run.run (logged es (started n s)))
    (hv : x'.run.run (virt g s) = y'.run.run (logged es (started n (virt g s))))
    (hP : P s → P (logged es (started n s)))
    (hy : BSimXAt K P g (logged es (started n s)) y y') : BSimXAt K P g s x x' := by
  refine BSimXAt.mk' (ST.simXAt_of_started ha hv hy.1) (fun hfr hp r s' h => ?_) (fun hfr hp r t h => ?_)
  · rw [ha] at h
    obtain ⟨_, -, -, -, p⟩ := hy.fwd (ST.fr_logged (ST.fr_started hfr n) es) (hP hp) h
    exact p
  · rw [hv, ← ST.virt_started, ← ST.virt_logged] at h
    obtain ⟨s', -, hs', -⟩ := hy.rev (ST.fr_logged (ST.fr_started hfr n) es) (hP hp) h
    exact ⟨s', by rw [ha]; exact hs'⟩

/-- twin of `ST.sim_finish`: both steps reduce to `maybe_change_value` from corresponding states -/
theorem bsim_finish {s : State} {fuel n : Nat} (es : List Event) (v : Val)
    (hm : MRPV s) (hk : ∀ p i, (s.nodeD n).kind ≠ .mapRef p i) (hc : ST.Exact s n) (hfuel : s.nodes.size ≤ fuel)
    (ha : (recomputeOne env fuel n).run.run s
      = (maybeChangeValue env fuel n v).run.run (logged es (started n s)))
    (hv : (recomputeOne (VE env sp) fuel n).run.run (virt g s)
      = (maybeChangeValue (VE env sp) fuel n v).run.run (logged es (started n (virt g s)))) :
    BSimAt K PInv g s (recomputeOne env fuel n) (recomputeOne (VE env sp) fuel n) := by
  have hk' : ∀ p i, ((logged es (started n s)).nodeD n).kind ≠ .mapRef p i := by
    intro p i
    show ((started n s).nodeD n).kind ≠ _
    rw [ST.started_kind]; exact hk p i
  exact bsimAt_of_started ha hv (fun hp => pinv_started hp n es)
    (mcvC' K env sp g fuel n v _ hk' (ST.exact_started hc es) (mrpv_started hm n es) (by rw [size_started]; exact hfuel))

/-- the `bindMain` branch when the right-hand side is valid: same ghost (twin of `ST.SimAt.bindMainTail`) -/
theorem BSimAt.bindMainTail {fuel n b : Nat} {t : State} (hk : ∀ p i, (t.nodeD n).kind ≠ .mapRef p i)
    (hc : ST.Exact t n) (hm : MRPV t) (hfuel : t.nodes.size ≤ fuel)
    (hread : ∀ br r, t.binds[b]? = some br → br.rhs = some r →
      tv g t r = t.value env r ∧ (t.nodeD r).valid = true) :
    BSimAt K PInv g t (ST.bindMainTail env fuel n b) (ST.bindMainTail (VE env sp) fuel n b) := by
  unfold ST.bindMainTail
  refine BSimAt.seq (BSim.getBind b t) fun br t1 h1 => ?_
  obtain ⟨rfl, hb⟩ := ST.getBind_inv h1
  cases hr : br.rhs with
  | none => exact BSimAt.pan _ _
  | some r =>
    obtain ⟨hrd, hrv⟩ := hread br r hb hr
    dsimp only
    refine BSimAt.getNode_seq fun nd hnd _ => ?_
    rw [virtNode_valid]
    have hv : nd.valid = true := by rw [nodeD_of_some hnd] at hrv; exact hrv
    rw [if_pos hv, if_pos hv]
    refine BSimAt.get_seq ?_
    rw [virt_value, hrd]
    cases t1.value env r with
    | none => exact BSimAt.ret _
    | some v => exact mcvC' K env sp g fuel n v t1 hk hc hm hfuel

end

section
variable {env : Env} {sp : Nat → Val → Val} {g : Nat → Option Val}

/-- **one `recomputeOne` of a node of a static kind, or of a `bindMain` node whose right-hand side is valid, CONVERSE**: if the virtual step returns, the
actual step returns the same result, in a state whose virtual image is the virtual final state -/
theorem recomputeOne_sim_rev {s t : State} {fuel n : Nat} {r : Option Nat} 
    (F : FFrag env sp g s) (hP : PInv s) (hM : MRPV s) (hfuel : s.nodes.size ≤ fuel)
    (hn : n < s.nodes.size) (hv : (s.nodeD n).valid = true)
    (hk1 : ∀ p i, (s.nodeD n).kind ≠ .mapRef p i) (hk2 : ∀ m i, (s.nodeD n).kind ≠ .mapWithOld m i)
    (hk3 : ∀ b, (s.nodeD n).kind ≠ .bindLhsChange b) (hcn0 : (s.nodeD n).cutoff = .eq)
    (hrhs : ∀ b lc br r, (s.nodeD n).kind = .bindMain b lc → s.binds[b]? = some br → br.rhs = some r →
      (s.nodeD r).valid = true)
    (hkids : ∀ a, a ∈ s.children n → tv g s a = s.value env a)
    (h : (recomputeOne (VE env sp) fuel n).run.run (virt g s) = (.ok r, t)) :
    ∃ s', (recomputeOne env fuel n).run.run s = (.ok r, s') ∧ t = virt g s' ∧ Fr (FK env sp) g s' ∧ VM s s' ∧ PInv s' := by
  have hcn : ST.Exact s n := ST.exact_of_eq hcn0
  have hnd := some_of_lt hn
  have hrk := F.fr.kinds n hn
  have hvn : (virt g s).nodes[n]? = some (virtNode (g n) (s.nodeD n)) := by rw [virt_getElem?, hnd]; rfl
  have hvval : (virtNode (g n) (s.nodeD n)).valid = true := by rw [virtNode_valid]; exact hv
  have hvk := virtNode_kind (g n) (s.nodeD n)
  have hk? : (s.nodeD n).kind? = some (s.nodeD n).kind := by simp [Node.kind?, hv]
  have hkl : ∀ es, ∀ p i, ((logged es (started n s)).nodeD n).kind ≠ .mapRef p i := by
    intro es p i
    show ((started n s).nodeD n).kind ≠ _
    rw [ST.started_kind]; exact hk1 p i
  rcases hrk.cases with hSK | ⟨p, i, e⟩ | ⟨m, i, e⟩ | ⟨b, e⟩ | ⟨b, lc, hkd⟩
  · -- `const`, `var`, `map`, `fold`: the virtual step has computed something, and the actual node computes the same
    have hkk : virtKind (s.nodeD n).kind = (s.nodeD n).kind ∧ s.children n = kids (s.nodeD n).kind := by
      unfold State.children
      rw [hk?]
      cases hkd : (s.nodeD n).kind <;> rw [hkd] at hSK <;> first | exact ⟨rfl, rfl⟩ | exact hSK.elim
    have hvk' : (virtNode (g n) (s.nodeD n)).kind = (s.nodeD n).kind := hvk.trans hkk.1
    have hSK' : StaticKind (VE env sp) (virtNode (g n) (s.nodeD n)).kind := by rw [hvk']; exact hSK
    obtain ⟨v, evs, hc'⟩ := computes_of_ok hvn hvval hSK' h
    have hc : Computes env s n (s.nodeD n) v _ evs :=
      hc'.transfer hSK' hvk'.symm rfl
        (by rw [hvk']; exact (ST.valuesOf_virt s _ fun a ha => hkids a (by rw [hkk.2]; exact ha)).symm)
        (fun f args hf => ⟨(funext (virtEnv_fn_real env sp (by rw [hvk'] at hf; rw [hf] at hrk; exact hrk.1))).symm, rfl⟩)
        fun _ _ _ _ => rfl
    exact (bsim_finish evs v hM hk1 hcn hfuel (recomputeOne_run_of_computes hnd hv F.pc hc hSK)
      (recomputeOne_run_of_computes hvn hvval F.pc hc' hSK')).rev F.fr hP h
  · exact absurd e (hk1 p i)
  · exact absurd e (hk2 m i)
  · exact absurd e (hk3 b)
  · rw [hkd] at hvk
    refine (bsimAt_of_started (es := []) (ST.recomputeOne_bindMain_tail env fuel n s _ b lc hnd hv hkd)
      (ST.recomputeOne_bindMain_tail (VE env sp) fuel n (virt g s) _ b lc hvn hvval hvk)
      (fun hp => pinv_started hp n [])
      (BSimAt.bindMainTail (hkl []) (ST.exact_started hcn []) (mrpv_started hM n [])
        (by rw [size_started]; exact hfuel) ?_)).rev F.fr hP h
    intro br r0 hb hr
    have hb' : s.binds[b]? = some br := hb
    refine ⟨?_, ?_⟩
    · show tv g (started n s) r0 = (started n s).value env r0
      rw [ST.tv_started, started_value]
      apply hkids
      unfold State.children
      rw [hk?, hkd]
      simp only [hb', hr]
      simp
    · show ((started n s).nodeD r0).valid = true
      rw [ST.started_valid]
      exact hrhs b lc br r0 hkd hb' hr

end
end IncrVerif.Proofs.FullT
