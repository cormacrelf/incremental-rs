import IncrVerif.Proofs.PerKeyH3
import IncrVerif.Proofs.PerKeyH8
import IncrVerif.Proofs.PerKeyH18
/-!
# The callback discipline `SlotInv` in the per-key fragment, part 1

* `slotInv_twin`: `SlotInv` does not read `pk`, the kinds of non-expert nodes, the log: it is the same statement on the
  structural twin.
* `pre_of_edges_twin`, `pre_of_pd`: the precondition `ExpertH.Pre` of `mcv_slots` for the TWIN of the state in which the current
  node has been stamped and (for an expert node) its record is ready: `ExpertH.pre_of_edges` reads nothing that `twL` changes; the
  edges on the current node come from the drain invariant `PD`.
-/
namespace IncrVerif.Proofs.PerKeyH
open IncrVerif.Engine IncrVerif.Driver IncrVerif.Proofs IncrVerif.Proofs.Step IncrVerif.Proofs.Sched
open IncrVerif.Proofs.ExpertH IncrVerif.Proofs.EffH IncrVerif.Proofs.Xp

/-! ## A. `SlotInv` on the twin -/

theorem tw_rec_inv {l : List Event} {s : State} {e : Nat} {er' : ExpertRec} (h : (twL l s).experts[e]? = some er') :
    ∃ er, s.experts[e]? = some er ∧ er' = twRec er := by
  rw [twL_experts_getElem?] at h
  cases hx : s.experts[e]? with
  | none => rw [hx] at h; cases h
  | some er => rw [hx] at h; cases h; exact ⟨er, rfl, rfl⟩

theorem tw_rec_get {l : List Event} {s : State} {e : Nat} {er : ExpertRec} (h : s.experts[e]? = some er) :
    (twL l s).experts[e]? = some (twRec er) := by
  rw [twL_experts_getElem?, h]; rfl

theorem fr_of_twin {l : List Event} {σ : State} (h : Fr (twL l σ)) : Fr σ where
  pc := h.pc
  valid n := by have := h.valid n; rwa [twL_nodeD, twNode_valid] at this
  pinv := h.pinv
  kind n := by have := h.kind n; rwa [twL_nodeD, twNode_kind, XK_twKind] at this
  ni e er he := h.ni e (twRec er) (tw_rec_get he)

theorem twL_kind_expert (l : List Event) (s : State) (n e : Nat) :
    ((twL l s).nodeD n).kind = .expert e ↔ (s.nodeD n).kind = .expert e := by
  rw [twL_nodeD, twNode_kind, KtwKind_eq_expert]

theorem good_twin (env : Env) (l : List Event) (s : State) (er : ExpertRec) :
    Good (twEnv env) (twL l s) (twRec er) ↔ Good env s er := by
  unfold Good
  simp only [twRec_children, twRec_slots, twL_value]

/-- **A.** the callback discipline of `s` is the callback discipline of its structural twin -/
theorem slotInv_twin (env : Env) (l : List Event) (s : State) :
    SlotInv env s ↔ SlotInv (twEnv env) (twL l s) := by
  constructor
  · intro L
    refine ⟨fun e er' he' => ?_, fun n e er' hk he' hw => ?_, fun n e er' hk he' hc => ?_⟩
    · obtain ⟨er, he, rfl⟩ := tw_rec_inv he'
      exact L.deps e er he
    · obtain ⟨er, he, rfl⟩ := tw_rec_inv he'
      rw [twL_kind_expert] at hk
      rw [twL_isNecessary]
      exact L.flag n e er hk he hw
    · obtain ⟨er, he, rfl⟩ := tw_rec_inv he'
      rw [twL_kind_expert] at hk
      rw [twL_isStale] at hc
      exact (good_twin env l s er).2 (L.good n e er hk he hc)
  · intro L
    refine ⟨fun e er he => ?_, fun n e er hk he hw => ?_, fun n e er hk he hc => ?_⟩
    · exact L.deps e (twRec er) (tw_rec_get he)
    · have := L.flag n e (twRec er) ((twL_kind_expert l s n e).2 hk) (tw_rec_get he) hw
      rwa [twL_isNecessary] at this
    · exact (good_twin env l s er).1
        (L.good n e (twRec er) ((twL_kind_expert l s n e).2 hk) (tw_rec_get he) (by rw [twL_isStale]; exact hc))

/-! ## B. the precondition of the walk, from the drain invariant -/

theorem twL_started (l : List Event) (n : Nat) (s : State) : twL l (started n s) = started n (twL l s) := by
  simp only [twL, started]
  rw [tw_map_modify s.nodes n (fun x => { x with recomputedAt := s.stabNum })
    (fun x => { x with recomputedAt := s.stabNum }) (fun _ => rfl)]
  rfl

theorem readyRec_twin (env : Env) (l : List Event) (s : State) (er : ExpertRec) :
    readyRec (twEnv env) (twL l s) (twRec er) = twRec (readyRec env s er) := by
  have hfold : ∀ (edges : List ExpertEdge) (r : ExpertRec),
      edges.foldl (fireRec (twEnv env) (twL l s)) (twRec r) = twRec (edges.foldl (fireRec env s) r) := by
    intro edges
    induction edges with
    | nil => intro r; rfl
    | cons a rest ih =>
      intro r
      have : fireRec (twEnv env) (twL l s) (twRec r) a = twRec (fireRec env s r a) := by
        unfold fireRec; rw [twL_value]; split <;> rfl
      rw [List.foldl_cons, List.foldl_cons, this, ih]
  unfold readyRec
  rw [twRec_willFireAllCallbacks, twRec_children]
  split
  · exact hfold er.children (resetRec er)
  · rfl

theorem kidsX_twL (l : List Event) (σ : State) (a : Nat) :
    kidsX (twL l σ).experts ((twL l σ).nodeD a).kind = kidsX σ.experts (σ.nodeD a).kind := by
  rw [KtwL_experts, KtwL_kind, KkidsX_tw]

/-- `ExpertH.pre_of_edges` on the twins: what it reads is not changed by `twL` -/
theorem pre_of_edges_twin {env : Env} {c : Nat} {s T : State} (l : List Event) (F : PFrag env s) (FT : PFrag env T)
    (L : SlotInv env s) (hnec : s.isNecessary c = true)
    (hpar : ∀ p ci, (p, ci) ∈ (s.nodeD c).parents → (kidsX s.experts (s.nodeD p).kind)[ci]? = some c)
    (hchild : ∀ q j, s.isNecessary q = true → (kidsX s.experts (s.nodeD q).kind)[j]? = some c →
      (q, j) ∈ (s.nodeD c).parents)
    (hvals : ∀ e, (s.nodeD c).kind = .expert e → ∀ x, x ∈ kidsX s.experts (.expert e) → ∃ w, (s.nodeD x).value = some w)
    (hold : ∀ q, q ≠ c → c ∈ kidsX s.experts (s.nodeD q).kind →
      (if forced s.experts (s.nodeD q).kind then (-1 : Int) else (s.nodeD q).recomputedAt) < s.stabNum)
    (hN : ∀ m, T.nodeD m = (started c s).nodeD m) (hsz : T.nodes.size = s.nodes.size)
    (hst : T.stabNum = s.stabNum) (hnd : T.nextDep = s.nextDep)
    (hX : ∀ e, (s.nodeD c).kind ≠ .expert e → T.experts[e]? = s.experts[e]?)
    (hXc : ∀ e, (s.nodeD c).kind = .expert e →
      ∃ er, s.experts[e]? = some er ∧ T.experts[e]? = some (readyRec env s er)) :
    Pre (twEnv env) c (twL l T) := by
  refine pre_of_edges (xfrag_twin l F) (xfrag_twin l FT) ((slotInv_twin env l s).1 L) (by rw [twL_isNecessary]; exact hnec)
    ?_ (fun p ci hp => ?_) (fun q j hq hj => ?_) (fun e hk x hx => ?_) (fun q hqc hm => ?_) (fun m => ?_)
    (by rw [twL_size, twL_size]; exact hsz) hst hnd (fun e hk => ?_) (fun e hk => ?_)
  · rw [twL_nodeD, twNode_cutoff]
    exact Or.inl (FT.cutoff c (by rw [hsz]; exact Step.nec_lt_size hnec))
  · rw [kidsX_twL]
    exact hpar p ci (by rwa [twL_nodeD, twNode_parents] at hp)
  · rw [twL_nodeD, twNode_parents]
    exact hchild q j (by rwa [twL_isNecessary] at hq) (by rwa [kidsX_twL] at hj)
  · rw [twL_kind_expert] at hk
    rw [twL_nodeD, twNode_value]
    exact hvals e hk x (by rw [← KkidsX_tw]; exact hx)
  · have := hold q hqc (by rwa [kidsX_twL] at hm)
    rwa [twL_nodeD, twNode_recomputedAt, twNode_kind, KtwL_experts, Kforced_tw]
  · rw [twL_nodeD, hN, ← twL_nodeD l, twL_started]
  · rw [twL_experts_getElem?, twL_experts_getElem?, hX e (fun h => hk ((twL_kind_expert l s c e).2 h))]
  · obtain ⟨er, h1, h2⟩ := hXc e ((twL_kind_expert l s c e).1 hk)
    exact ⟨twRec er, tw_rec_get h1, by rw [readyRec_twin]; exact tw_rec_get h2⟩

/-- `T` is the state `s` in which the current node `c` has been stamped "recomputed now" and — when `c` is an expert —
its record is ready for the closure (`readyRec`): its twin satisfies `ExpertH.Pre` -/
theorem pre_of_pd {env : Env} {c : Nat} {s T : State} (l : List Event) (D : PD env s (some c))
    (FT : PFrag env T)
    (hN : ∀ m, T.nodeD m = (started c s).nodeD m) (hsz : T.nodes.size = s.nodes.size)
    (hst : T.stabNum = s.stabNum) (hnd : T.nextDep = s.nextDep)
    (hX : ∀ e, (s.nodeD c).kind ≠ .expert e → T.experts[e]? = s.experts[e]?)
    (hXc : ∀ e, (s.nodeD c).kind = .expert e →
      ∃ er, s.experts[e]? = some er ∧ T.experts[e]? = some (readyRec env s er)) :
    Pre (twEnv env) c (twL l T) := by
  have I := D.inv
  have G := I.graph
  have par : ∀ q, ((V s).nodeD q).parents = (s.nodeD q).parents := fun q => by rw [V_nodeD, vNode_parents]
  have ch : ∀ q, (V s).children q = kidsX s.experts (s.nodeD q).kind := fun q => by
    rw [V_children, D.aux.frag.children_kidsX]
  refine pre_of_edges_twin l D.aux.frag FT D.aux.slots (by rw [← V_isNecessary]; exact (I.cur c rfl).1)
    (fun p ci hp => by rw [← ch]; exact (G.parent c p ci (by rw [par]; exact hp)).2)
    (fun q j hq hj => by
      rw [← par]; exact (G.child q (by rw [V_isNecessary]; exact hq) j c (by rw [ch]; exact hj)).2.1)
    (fun e hk x hx => ?_) (fun q _ hm => ?_) hN hsz hst hnd hX hXc
  · obtain ⟨w, hw⟩ := I.kids_values x (by rw [ch, hk]; exact hx)
    exact ⟨w, by rwa [V_nodeD, vNode_value] at hw⟩
  · have := I.fresh q c (BindH.Below.step (BindH.Edge.child (by rw [ch]; exact hm)) (BindH.Below.refl c)) (Or.inr rfl)
    rwa [V_nodeD, vNode_recomputedAt, V_stabNum] at this

end IncrVerif.Proofs.PerKeyH
