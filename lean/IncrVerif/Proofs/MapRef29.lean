import IncrVerif.Proofs.MapRef28
/-!
# map_ref fragment, part 13: what the observers read after every `stabilise` of a history (M3)
-/
namespace IncrVerif.Proofs.MapRefH
open IncrVerif.Engine IncrVerif.Driver IncrVerif.Proofs IncrVerif.Proofs.Step IncrVerif.Proofs.Sched IncrVerif.Proofs.Quiet

/-- every observer in use reads the from-scratch evaluation (`evalR`: through map_ref nodes) of its node on the
current variable values -/
def ReadsOKR (env : Env) (s : State) : Prop :=
  ∀ (o : Nat) (ob : ObsRec), s.observers[o]? = some ob → ob.state = .inUse →
    ∀ k, (s.nodeD ob.node).height.toNat < k →
      ∃ v, s.tryGetValue env o = .ok v ∧ evalR env s k ob.node = some v

theorem stabilisedR_reads {env : Env} {fuel : Nat} {s s' : State} {g g' : Nat → Option Val}
    (R : StabilisedR env fuel s s' g g') : ReadsOKR env s' ∧ ObsSettled s' ∧
      (∀ n, s'.isNecessary n = true → s'.isStale n = false) :=
  Virtual.reads_of_values R.inv.q R.virt.newObservers R.virt.disallowedObservers rfl
    (fun m => by rw [virt_nodeD, virtNode_observers]) rfl rfl R.values

/-- **M3: whole histories.** Every state reached from the initial state by a history of actions of the fragment
static + map_ref (that runs without panic) satisfies the invariant. -/
theorem historyR {env : Env} {N : Nat} {d : Bool} {acts : List Action} {s : State} {tk : Array Nat}
    (ha : ∀ a, a ∈ acts → MapRefAction env a)
    (h : runActions env acts (State.init N d) #[] = .ok (s, tk)) : QInvRE env s :=
  runActionsR (init_invR env N d) ha h

/-- **M3: every `stabilise` of a history.** At each `stabilise` of a history of actions of the fragment that runs from
the initial state: the state before it satisfies the invariant; the `stabilise` returns a state in which the invariant
holds, no necessary node is stale, EVERY OBSERVER IN USE READS THE FROM-SCRATCH VALUE of its node (`ReadsOKR`), and
every observer is in use or unlinked. -/
theorem historyR_stabilise {env : Env} {N : Nat} {d : Bool} {as bs : List Action} {s : State} {tk : Array Nat}
    (ha : ∀ a, a ∈ as ++ Action.stabilise :: bs → MapRefAction env a)
    (h : runActions env (as ++ Action.stabilise :: bs) (State.init N d) #[] = .ok (s, tk)) :
    ∃ s1 tk1 s2 g1 g2, runActions env as (State.init N d) #[] = .ok (s1, tk1) ∧ QInvR env s1 g1 ∧
      (stabilise env fuelDefault).run.run s1 = (.ok (), s2) ∧ StabilisedR env fuelDefault s1 s2 g1 g2 ∧
      ReadsOKR env s2 ∧ ObsSettled s2 ∧ (∀ n, s2.isNecessary n = true → s2.isStale n = false) ∧
      runActions env bs s2 tk1 = .ok (s, tk) := by
  obtain ⟨s1, tk1, s2, h1, ⟨g1, Q1⟩, hst, -, h2⟩ :=
    Hist.runActions_stabilise_all (fun _ _ _ _ _ Q ha hx => stepR Q ha hx) (init_invR env N d) ha h
  obtain ⟨g2, R⟩ := stabiliseR Q1 hst
  obtain ⟨hr, hos, hns⟩ := stabilisedR_reads R
  exact ⟨s1, tk1, s2, g1, g2, h1, Q1, hst, R, hr, hos, hns, h2⟩

end IncrVerif.Proofs.MapRefH
