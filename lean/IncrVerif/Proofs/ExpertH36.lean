import IncrVerif.Proofs.ExpertH10
/-!
# `adjustHeights`, part 1: definitions (`AhhEmpty`, `HRel`, `AhhWF`), the adjust-heights heap as a bucket
structure against the marker `heightInAhh`, and the run-form inversions of the heap primitives
-/
namespace IncrVerif.Proofs.ExpertH.QR
open IncrVerif.Engine IncrVerif.Proofs IncrVerif.Proofs.Step IncrVerif.Proofs.Sched

/-- the adjust-heights heap is empty and no node is marked as a member -/
structure AhhEmpty (s : State) : Prop where
  length : s.ahh.length = 0
  buckets : ∀ i (hi : i < s.ahh.queues.size), s.ahh.queues[i] = []
  marks : ∀ m, (s.nodeD m).heightInAhh = -1

/-- what `adjustHeights` may change: heights (only upwards), the recompute-heap position of queued nodes,
`maxHeightSeen`, the adjust-heights heap -/
structure HRel (s s' : State) : Prop where
  size : s'.nodes.size = s.nodes.size
  node : ∀ m, nodeKey (s'.nodeD m) = nodeKey (s.nodeD m)
  parents : ∀ m, (s'.nodeD m).parents = (s.nodeD m).parents
  inRch : ∀ m, (s'.nodeD m).inRch = (s.nodeD m).inRch
  height : ∀ m, (s.nodeD m).height ≤ (s'.nodeD m).height
  vars : s'.vars = s.vars
  binds : s'.binds = s.binds
  experts : s'.experts = s.experts
  observers : s'.observers = s.observers
  stabNum : s'.stabNum = s.stabNum
  status : s'.status = s.status
  cfg : s'.cfg = s.cfg
  scope : s'.currentScope = s.currentScope
  pinv : s'.propagateInvalidity = s.propagateInvalidity
  pc : s'.panicCountdown = s.panicCountdown
  qsize : s'.rch.queues.size = s.rch.queues.size
  top : s'.top = s.top
  misc : s'.setDuringStab = s.setDuringStab ∧ s'.deadVars = s.deadVars ∧ s'.newObservers = s.newObservers ∧
    s'.disallowedObservers = s.disallowedObservers ∧ s'.allObservers = s.allObservers ∧
    s'.handleAfterStab = s.handleAfterStab ∧ s'.alive = s.alive

/-! ## `HRel` -/

/-- the state fields `HRel` wants unchanged -/
def BA.hKey (s : State) :=
  (s.vars, s.binds, s.experts, s.observers, s.stabNum, s.status, s.cfg, s.currentScope, s.propagateInvalidity,
    s.panicCountdown, s.rch.queues.size, s.top, s.setDuringStab, s.deadVars, s.newObservers,
    s.disallowedObservers, s.allObservers, s.handleAfterStab, s.alive)

theorem HRel.of_key {s s' : State} (hsz : s'.nodes.size = s.nodes.size)
    (hnode : ∀ m, nodeKey (s'.nodeD m) = nodeKey (s.nodeD m) ∧ (s'.nodeD m).parents = (s.nodeD m).parents ∧
      (s'.nodeD m).inRch = (s.nodeD m).inRch ∧ (s.nodeD m).height ≤ (s'.nodeD m).height)
    (hk : BA.hKey s' = BA.hKey s) : HRel s s' := by
  simp only [BA.hKey, Prod.mk.injEq] at hk
  obtain ⟨h1, h2, h3, h4, h5, h6, h7, h8, h9, h10, h11, h12, h13, h14, h15, h16, h17, h18, h19⟩ := hk
  exact ⟨hsz, fun m => (hnode m).1, fun m => (hnode m).2.1, fun m => (hnode m).2.2.1, fun m => (hnode m).2.2.2,
    h1, h2, h3, h4, h5, h6, h7, h8, h9, h10, h11, h12, h13, h14, h15, h16, h17, h18, h19⟩

theorem HRel.key {s s' : State} (h : HRel s s') : BA.hKey s' = BA.hKey s := by
  obtain ⟨m1, m2, m3, m4, m5, m6, m7⟩ := h.misc
  simp only [BA.hKey, h.vars, h.binds, h.experts, h.observers, h.stabNum, h.status, h.cfg, h.scope, h.pinv, h.pc,
    h.qsize, h.top, m1, m2, m3, m4, m5, m6, m7]

theorem HRel.refl (s : State) : HRel s s :=
  HRel.of_key rfl (fun _ => ⟨rfl, rfl, rfl, Int.le_refl _⟩) rfl

theorem HRel.trans {a b c : State} (h1 : HRel a b) (h2 : HRel b c) : HRel a c :=
  HRel.of_key (h2.size.trans h1.size)
    (fun m => ⟨(h2.node m).trans (h1.node m), (h2.parents m).trans (h1.parents m),
      (h2.inRch m).trans (h1.inRch m), Int.le_trans (h1.height m) (h2.height m)⟩)
    (h2.key.trans h1.key)

/-- one node is updated by a function that touches only `height`, `heightInRch`, `heightInAhh` -/
theorem HRel.upd {s s' : State} {n : Nat} {f : Node → Node} (hn : s'.nodes = s.nodes.modify n f)
    (hk : BA.hKey s' = BA.hKey s) (hf : ∀ x, nodeKey (f x) = nodeKey x ∧ (f x).parents = x.parents)
    (hin : (f (s.nodeD n)).inRch = (s.nodeD n).inRch) (hh : (s.nodeD n).height ≤ (f (s.nodeD n)).height) :
    HRel s s' := by
  refine HRel.of_key (by rw [hn]; simp) (fun m => ?_) hk
  rw [nodeD_of_modify hn]
  split
  · rename_i e
    rw [← e.1]
    exact ⟨(hf _).1, (hf _).2, hin, hh⟩
  · exact ⟨rfl, rfl, rfl, Int.le_refl _⟩

theorem HRel.same_nodes {s s' : State} (hn : s'.nodes = s.nodes) (hk : BA.hKey s' = BA.hKey s) : HRel s s' := by
  have e : ∀ m, s'.nodeD m = s.nodeD m := fun m => by simp [State.nodeD, hn]
  exact HRel.of_key (by rw [hn]) (fun m => by rw [e]; exact ⟨rfl, rfl, rfl, Int.le_refl _⟩) hk

section proj
variable {s s' : State} (h : HRel s s') (m : Nat)
include h
theorem HRel.kind : (s'.nodeD m).kind = (s.nodeD m).kind := by
  have := h.node m; simp only [nodeKey, Prod.mk.injEq] at this; exact this.1
theorem HRel.createdIn : (s'.nodeD m).createdIn = (s.nodeD m).createdIn := by
  have := h.node m; simp only [nodeKey, Prod.mk.injEq] at this; exact this.2.1
theorem HRel.cutoff : (s'.nodeD m).cutoff = (s.nodeD m).cutoff := by
  have := h.node m; simp only [nodeKey, Prod.mk.injEq] at this; exact this.2.2.1
theorem HRel.valid : (s'.nodeD m).valid = (s.nodeD m).valid := by
  have := h.node m; simp only [nodeKey, Prod.mk.injEq] at this; exact this.2.2.2.2.1
theorem HRel.recomputedAt : (s'.nodeD m).recomputedAt = (s.nodeD m).recomputedAt := by
  have := h.node m; simp only [nodeKey, Prod.mk.injEq] at this; exact this.2.2.2.2.2.1
theorem HRel.changedAt : (s'.nodeD m).changedAt = (s.nodeD m).changedAt := by
  have := h.node m; simp only [nodeKey, Prod.mk.injEq] at this; exact this.2.2.2.2.2.2.1
theorem HRel.nobservers : (s'.nodeD m).observers = (s.nodeD m).observers := by
  have := h.node m; simp only [nodeKey, Prod.mk.injEq] at this; exact this.2.2.2.2.2.2.2.1
theorem HRel.forceNecessary : (s'.nodeD m).forceNecessary = (s.nodeD m).forceNecessary := by
  have := h.node m; simp only [nodeKey, Prod.mk.injEq] at this; exact this.2.2.2.2.2.2.2.2.1
theorem HRel.nec : s'.isNecessary m = s.isNecessary m := by
  simp only [State.isNecessary, Node.isNecessary, h.parents m, h.nobservers m, h.forceNecessary m]
end proj

theorem HRel.staleOf {s s' : State} (h : HRel s s') (m : Nat) : staleOf s' m = staleOf s m :=
  staleOf_congr (h.kind m) (h.recomputedAt m) h.vars (fun c _ => h.changedAt c)

theorem HRel.static {env : Env} {rk : Nat → Nat} {s s' : State} (h : HRel s s') (A : AllStatic env rk s) :
    AllStatic env rk s' := by
  refine ⟨by rw [h.pc]; exact A.pc, by rw [h.scope]; exact A.scope, fun n hn => ?_, A.inj,
    by rw [h.size]; exact A.top⟩
  have sn := A.node n (by rw [← h.size]; exact hn)
  exact ⟨by rw [h.valid]; exact sn.valid, by rw [h.kind]; exact sn.kind, by rw [h.cutoff]; exact sn.cutoff,
    by rw [h.createdIn]; exact sn.top, by rw [h.forceNecessary]; exact sn.force,
    by rw [h.kind]; exact sn.kidsLt, by rw [h.kind, h.size]; exact sn.kidsIn⟩

namespace BA

/-! ## the adjust-heights heap against its marker -/

/-- the marker of the adjust-heights heap -/
def ahhMk (s : State) (m : Nat) : Int := (s.nodeD m).heightInAhh

/-- well-formedness of the adjust-heights heap: buckets ↔ markers, `length`, and the lower bound -/
structure AhhWF (s : State) : Prop where
  b : BucketsOK s.ahh.queues (ahhMk s)
  len : s.ahh.length = bucketSum s.ahh.queues
  lb : ∀ m, ahhMk s m ≠ -1 → s.ahh.lowerBound ≤ ahhMk s m

theorem AhhEmpty.wf {s : State} (h : AhhEmpty s) : AhhWF s := by
  refine ⟨⟨fun j hj n => ?_, fun j hj => ?_, fun n => Or.inl (h.marks n)⟩, ?_, fun m hm => ?_⟩
  · rw [h.buckets j hj]
    simp only [ahhMk, h.marks n]
    constructor
    · intro x; cases x
    · intro x; omega
  · rw [h.buckets j hj]; exact List.nodup_nil
  · rw [h.length, (bucketSum_zero_iff _).2 h.buckets]
  · exact absurd (h.marks m) hm

/-- the bucket `ahhRemoveMin` looks at -/
def ahhFirst (s : State) : Nat :=
  firstNonEmpty s.ahh.queues (s.ahh.queues.size + 1) s.ahh.lowerBound.toNat

/-- a member sits in a non-empty bucket at or above the first non-empty one -/
theorem AhhWF.first_le {s : State} (w : AhhWF s) {m : Nat} (hm : ahhMk s m ≠ -1) :
    (ahhFirst s : Int) ≤ ahhMk s m ∧ ∃ x xs, s.ahh.queues[ahhFirst s]? = some (x :: xs) := by
  have hr := w.b.range m
  have hlb := w.lb m hm
  have h0 : 0 ≤ ahhMk s m := by omega
  have hlt : (ahhMk s m).toNat < s.ahh.queues.size := by omega
  have hmem : m ∈ s.ahh.queues[(ahhMk s m).toNat] := (w.b.mem _ hlt m).2 (by omega)
  have := firstNonEmpty_spec s.ahh.queues (s.ahh.queues.size + 1) s.ahh.lowerBound.toNat (ahhMk s m).toNat
    (by omega) hlt (List.ne_nil_of_mem hmem) (by omega)
  refine ⟨?_, this.2⟩
  have := this.1
  unfold ahhFirst
  omega

theorem AhhWF.none_empty {s : State} (w : AhhWF s)
    (h : s.ahh.length = 0 ∨ s.ahh.queues[ahhFirst s]? = none ∨ s.ahh.queues[ahhFirst s]? = some []) :
    AhhEmpty s := by
  have hnm : ∀ m, ahhMk s m = -1 := by
    intro m
    apply Decidable.byContradiction
    intro hm
    have hr := w.b.range m
    obtain ⟨-, x, xs, hq⟩ := w.first_le hm
    rcases h with h | h | h
    · rw [w.len, bucketSum_zero_iff] at h
      have hlt : (ahhMk s m).toNat < s.ahh.queues.size := by omega
      have hmem : m ∈ s.ahh.queues[(ahhMk s m).toNat] := (w.b.mem _ hlt m).2 (by omega)
      rw [h _ hlt] at hmem; cases hmem
    · rw [h] at hq; cases hq
    · rw [h] at hq; cases hq
  have hb : ∀ i (hi : i < s.ahh.queues.size), s.ahh.queues[i] = [] := by
    intro i hi
    apply List.eq_nil_iff_forall_not_mem.2
    intro n hn
    have := (w.b.mem i hi n).1 hn
    rw [hnm n] at this
    omega
  exact ⟨by rw [w.len]; exact (bucketSum_zero_iff _).2 hb, hb, hnm⟩

theorem default_heightInAhh : (default : Node).heightInAhh = -1 := rfl

theorem ahhMk_modify {s s' : State} {n : Nat} {v : Int}
    (hn : s'.nodes = s.nodes.modify n fun x => { x with heightInAhh := v })
    (hv : n < s.nodes.size ∨ v = -1) : ahhMk s' = setMk n v (ahhMk s) := by
  funext m
  simp only [ahhMk, setMk]
  rw [nodeD_of_modify hn]
  by_cases e : m = n
  · subst e
    by_cases hlt : m < s.nodes.size
    · rw [if_pos ⟨rfl, hlt⟩, if_pos rfl]
    · rw [if_neg (fun h => hlt h.2), if_pos rfl, nodeD_default s m (by omega)]
      rcases hv with hv | hv
      · exact absurd hv hlt
      · rw [hv]; rfl
  · rw [if_neg (fun h => e h.1.symm), if_neg e]

theorem ahhMk_frame {s s' : State} {n : Nat} {f : Node → Node} (hn : s'.nodes = s.nodes.modify n f)
    (hf : ∀ x, (f x).heightInAhh = x.heightInAhh) : ahhMk s' = ahhMk s := by
  funext m
  simp only [ahhMk]
  rw [nodeD_of_modify hn]
  split
  · exact hf _
  · rfl

theorem AhhWF.congr {s s' : State} (w : AhhWF s) (ha : s'.ahh = s.ahh) (hm : ahhMk s' = ahhMk s) : AhhWF s' := by
  refine ⟨?_, ?_, ?_⟩
  · rw [ha, hm]; exact w.b
  · rw [ha]; exact w.len
  · rw [ha, hm]; exact w.lb

/-- the state after a successful pop of `n` from bucket `lb` -/
def ahhPopped (lb n : Nat) (rest : List Nat) (s : State) : State :=
  { s with
    ahh := { s.ahh with queues := s.ahh.queues.set! lb rest, lowerBound := lb, length := s.ahh.length - 1 }
    nodes := s.nodes.modify n fun x => { x with heightInAhh := -1 } }

theorem AhhWF.popped {s : State} (w : AhhWF s) {n : Nat} {rest : List Nat}
    (hq : s.ahh.queues[ahhFirst s]? = some (n :: rest)) :
    AhhWF (ahhPopped (ahhFirst s) n rest s) ∧ ahhMk s n = (ahhFirst s : Int) := by
  have hlt : ahhFirst s < s.ahh.queues.size := (Array.getElem?_eq_some_iff.1 hq).1
  have hqe : s.ahh.queues[ahhFirst s] = n :: rest := (Array.getElem?_eq_some_iff.1 hq).2
  obtain ⟨hb, hs, hn⟩ := w.b.pop (ahhFirst s) hlt hqe
  have hmk : ahhMk (ahhPopped (ahhFirst s) n rest s) = setMk n (-1) (ahhMk s) :=
    ahhMk_modify (s := s) rfl (Or.inr rfl)
  refine ⟨⟨?_, ?_, ?_⟩, hn⟩
  · rw [hmk]
    show BucketsOK (s.ahh.queues.set! (ahhFirst s) rest) _
    rw [Array.set!_eq_setIfInBounds]; exact hb
  · show s.ahh.length - 1 = bucketSum (s.ahh.queues.set! (ahhFirst s) rest)
    rw [Array.set!_eq_setIfInBounds, w.len]; omega
  · intro m hm
    rw [hmk] at hm ⊢
    show (ahhFirst s : Int) ≤ _
    simp only [setMk] at hm ⊢
    by_cases e : m = n
    · rw [if_pos e] at hm; exact absurd rfl hm
    · rw [if_neg e] at hm ⊢
      exact (w.first_le hm).1

theorem AhhWF.added {s : State} (w : AhhWF s) {p : Nat} {x : Int} (hp : p < s.nodes.size)
    (hm : ahhMk s p = -1) (h0 : 0 ≤ x) (hx : x.toNat < s.ahh.queues.size) (hlb : s.ahh.lowerBound ≤ x) :
    AhhWF (ahhAdded p x s) := by
  have hb0 : BucketsOK s.ahh.queues (setMk p (-1) (ahhMk s)) := by
    rw [setMk_self p _ _ hm]; exact w.b
  obtain ⟨hb', hs'⟩ := BucketsOK.link hb0 x.toNat hx
  have e : ((x.toNat : Nat) : Int) = x := by omega
  rw [e] at hb'
  have hmk : ahhMk (ahhAdded p x s) = setMk p x (ahhMk s) := ahhMk_modify (s := s) rfl (Or.inl hp)
  refine ⟨?_, ?_, ?_⟩
  · rw [hmk]; exact hb'
  · show s.ahh.length + 1 = bucketSum (s.ahh.queues.modify x.toNat (· ++ [p]))
    rw [hs', w.len]
  · intro m hmm
    rw [hmk] at hmm ⊢
    show s.ahh.lowerBound ≤ _
    simp only [setMk] at hmm ⊢
    by_cases e : m = p
    · rw [if_pos e]; exact hlb
    · rw [if_neg e] at hmm ⊢; exact w.lb m hmm

/-! ## inversions -/

theorem ahhRemoveMin_ok_inv {s s' : State} {r : Option Nat} (h : ahhRemoveMin.run.run s = (.ok r, s')) :
    (r = none ∧ s' = s ∧
      (s.ahh.length = 0 ∨ s.ahh.queues[ahhFirst s]? = none ∨ s.ahh.queues[ahhFirst s]? = some [])) ∨
    (∃ n rest, r = some n ∧ s.ahh.queues[ahhFirst s]? = some (n :: rest) ∧
      s' = ahhPopped (ahhFirst s) n rest s) := by
  unfold ahhRemoveMin at h
  rw [run_bind_get] at h
  dsimp only at h
  by_cases hl : s.ahh.length = 0
  · simp only [hl, beq_self_eq_true, if_true] at h
    obtain ⟨e1, e2⟩ := pure_ok_inv h
    exact Or.inl ⟨e1, e2, Or.inl hl⟩
  · have hl' : (s.ahh.length == 0) = false := by simpa using hl
    simp only [hl', Bool.false_eq_true, if_false] at h
    change (match s.ahh.queues[ahhFirst s]? with
      | none => pure none
      | some [] => pure none
      | some (n :: rest) => _ : M (Option Nat)).run.run s = _ at h
    cases hq : s.ahh.queues[ahhFirst s]? with
    | none =>
      rw [hq] at h
      obtain ⟨e1, e2⟩ := pure_ok_inv h
      exact Or.inl ⟨e1, e2, Or.inr (Or.inl rfl)⟩
    | some l =>
      cases l with
      | nil =>
        rw [hq] at h
        obtain ⟨e1, e2⟩ := pure_ok_inv h
        exact Or.inl ⟨e1, e2, Or.inr (Or.inr rfl)⟩
      | cons n rest =>
        rw [hq] at h
        dsimp only at h
        rw [run_bind_modify, run_bind_modNode, run_pure] at h
        cases h
        exact Or.inr ⟨n, rest, rfl, rfl, rfl⟩

end BA
end IncrVerif.Proofs.ExpertH.QR
