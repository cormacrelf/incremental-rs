import IncrVerif.Proofs.PerKeyH18
/-! # twin simulation, part 7: the expert API (`expert_make_stale`, `expert_add_dependency`,
`expert_remove_dependency`); no `Sim` analogue -/
namespace IncrVerif.Proofs.PerKeyH
open IncrVerif.Engine IncrVerif.Driver IncrVerif.Proofs IncrVerif.Proofs.Step IncrVerif.Proofs.Sched
open IncrVerif.Proofs.ExpertH IncrVerif.Proofs.EffH

theorem TSim.assertRunningIsChild (n : Nat) (name : String) :
    TSim (Engine.assertRunningIsChild n name) (Engine.assertRunningIsChild n name) := by
  have H := @twBlind
  refine .of_commX fun l s => ?_
  unfold Engine.assertRunningIsChild; sim
  cases s.currentlyRunning <;> sim
set_option hygiene false in
macro_rules | `(tactic| simx_leaf) => `(tactic| with_reducible exact (IncrVerif.Proofs.PerKeyH.TSim.assertRunningIsChild _ _).commX)

theorem TSim.expertOf (n : Nat) : TSim (Engine.expertOf n) (Engine.expertOf n) := by
  have H := @twBlind
  refine .of_commX fun l s => ?_
  unfold Engine.expertOf; sim
  sim_kind_at (twBlind (l := l))
  cases e
set_option hygiene false in
macro_rules | `(tactic| simx_leaf) => `(tactic| with_reducible exact (IncrVerif.Proofs.PerKeyH.TSim.expertOf _).commX)

theorem TSim.expertMakeStale (n : Nat) : TSim (Engine.expertMakeStale n) (Engine.expertMakeStale n) := by
  have H := @twBlind
  have hρ := twExperts
  refine .of_commX fun l s => ?_
  unfold Engine.expertMakeStale; sim
  rename_i r _ _ _
  cases r <;> sim

theorem TSim.expertAddDependency (env : Env) (fuel n child : Nat) (cb : Bool) :
    TSim (Engine.expertAddDependency env fuel n child cb) (Engine.expertAddDependency (twEnv env) fuel n child cb) := by
  have H := @twBlind
  have hρ := twExperts
  refine .of_commX fun l s => ?_
  unfold Engine.expertAddDependency; sim
  rename_i r _ _ _
  cases r <;> sim
  simp only [twRec_children]
  sim

theorem TSim.swapEdgeIndices (n c1 i1 c2 i2 : Nat) :
    TSim (Engine.swapEdgeIndices n c1 i1 c2 i2) (Engine.swapEdgeIndices n c1 i1 c2 i2) := by
  have H := @twBlind
  have hρ := twExperts
  refine .of_commX fun l s => ?_
  unfold Engine.swapEdgeIndices; sim
set_option hygiene false in
macro_rules | `(tactic| simx_leaf) => `(tactic| with_reducible exact (IncrVerif.Proofs.PerKeyH.TSim.swapEdgeIndices _ _ _ _ _).commX)

theorem TSim.expertRemoveDependency (fuel n dep : Nat) :
    TSim (Engine.expertRemoveDependency fuel n dep) (Engine.expertRemoveDependency fuel n dep) := by
  have H := @twBlind
  have hρ := twExperts
  refine .of_commX fun l s => ?_
  unfold Engine.expertRemoveDependency; sim
  rename_i r _ _ _
  cases r <;> sim
  simp only [twRec_children]
  cases List.findIdx? (fun x => x.dep == dep) er.children <;> sim
  all_goals (exfalso; rename_i h; simp [(hI.some hnd).2] at h)

end IncrVerif.Proofs.PerKeyH
