import IncrVerif.Proofs.NestH10
/-!
# Nested binds (F2), linking cascade, part 4: `becameNecessary` step, the mutual induction, the headline theorems

The node that becomes necessary may be a node of a scope `b` whose kind is
`bindLhsChange b2` / `bindMain b2 lc2` (an inner bind): its first height is `height lc_b + 1` where `lc_b` is necessary,
closed (lower rank than every open node) and keeps its height; when an inner change detector becomes necessary its scope is
quiet (`GInv2.scopeQuiet_of`), exactly as for top-level change detectors.

What can panic in `becameNecessary n` and why it does not:
* `getNode`/`getBind`: `n` is a node of the state (`opLt`), the bind record of its scope exists (`All2.scope_bind`, `All2.recs`);
* `"node:became_necessary:bind-not-necessary"`: `MainNec s n`;
* `setHeight` (`"height-limit"`): the first height is `scopeHeight + 1` where the scope's change detector is necessary, closed and of smaller rank;
  the later ones are `child height + 1`, every child being necessary, closed and of smaller rank after its edge is recorded — by `HBo2` and `cnt_lt_cnt`
  the height is `≤ position of n + 1 ≤ N`;
* the two `dassert`s (`n` is not queued — hypothesis `hnq`, kept by the cascade below `n`; `n` is necessary — `lnec`);
* `rchInsert`: `0 ≤ height ≤ maxAllowed`;
* fuel: the recursion descends along child edges, the position strictly decreases.
-/
namespace IncrVerif.Proofs.NestH
open IncrVerif.Engine IncrVerif.Proofs IncrVerif.Proofs.Step IncrVerif.Proofs.Sched IncrVerif.Proofs.Quiet
open IncrVerif.Proofs.BindH

namespace NL
open BL CL

theorem bn_corr2 (env : Env) (N fuel : Nat) (ih : APCorr2 env N fuel) : BNCorr2 env N (fuel + 1) := by
  intro rk n s op ex dy I hop hnq hlow hpar hnu hF hlc
  have hopn : op n ≠ .closed := by rw [hop]; exact fun e => by cases e
  have hn : n < s.nodes.size := I.opLt n hopn
  have sn := GInv2.node I hn
  have hnv : (s.nodeD n).valid = true := GInv2.valid_of_open I hopn
  have hnn : s.isNecessary n = true := I.lnec n 0 hop
  have hsq : ScopeQuiet s n := GInv2.scopeQuiet_of I hnu hF hopn hlc
  have hclosed : ∀ m, rk m < rk n → op m = .closed := by
    intro m hm
    cases e : op m with
    | closed => rfl
    | linking k => have := hlow m (by rw [e]; exact fun e => by cases e); omega
    | unlinking k => have := hlow m (by rw [e]; exact fun e => by cases e); omega
  unfold becameNecessary
  refine Corr.bind_getNode hn ?_
  -- the scope is necessary (else a panic)
  obtain ⟨x, hsin, hx⟩ : ∃ x, (scopeIsNecessary (s.nodeD n).createdIn).run.run s = (.ok x, s) ∧ (MainNec s n → x = true) := by
    cases hcr : (s.nodeD n).createdIn with
    | top => exact ⟨true, scopeIsNecessary_top_run s, fun _ => rfl⟩
    | bind b =>
      obtain ⟨-, br, hbb, -, -⟩ := sn.inScope b hcr
      obtain ⟨-, r2, -, -, -⟩ := I.frag.recs b br hbb
      exact ⟨_, scopeIsNecessary_bind_run hbb r2, fun hm => hm b br hcr hbb⟩
  refine Corr.bind_ok hsin ?_
  dsimp only
  cases x with
  | false =>
    simp only [hnv, Bool.not_false, Bool.and_true, if_true]
    exact Corr.bind_panic (fun hP => Bool.noConfusion (hx hP.2.2.1))
  | true =>
  simp only [Bool.not_true, Bool.and_false, Bool.false_eq_true, if_false]
  refine Corr.bind_modify (fun s0 hs0 => ?_)
  -- the prefix: counters, handler bookkeeping, first height
  have R0 : Irrel n s s0 := by rw [hs0]; exact Irrel.of_nodes rfl rfl rfl rfl rfl
  have hn0 : n < s0.nodes.size := by rw [R0.same.size]; exact hn
  obtain ⟨s1, h1⟩ := mhas_ok hn0
  refine Corr.bind_ok h1 ?_
  have R1 : Irrel n s s1 := R0.trans (Irrel.mhas h1)
  have O1 : Only n s s1 := by
    refine Only.trans ?_ (Only.mhas h1)
    rw [hs0]; exact Only.of_nodes n rfl
  have hB1 : SameB s s1 := ⟨R1.same, CFrame.binds (R1.rel (fun _ => False)).fr⟩
  have E1 : KeyEq s s1 := KeyEq.of_same hB1
  have I1 : GInv2 env rk s1 op ex dy := GInv2.congr I hB1
  have hn1 : n < s1.nodes.size := by rw [R1.same.size]; exact hn
  have hsz1 : s1.nodes.size = s.nodes.size := R1.same.size
  have hnq1 : (s1.nodeD n).inRch = false := by rw [R1.same.inRch]; exact hnq
  have hpar1 : ∀ p i, (p, i) ∈ (s1.nodeD n).parents → op p ≠ .closed := by
    intro p i hp; rw [(R1.same.node n).parents] at hp; exact hpar p i hp
  have hsq1 : ScopeQuiet s1 n := scopeQuiet_transport2 I.frag hsq E1 (only_aboveR2 O1)
  have hb1 : HBo2 rk s op → HBo2 rk s1 op := by
    intro hb
    refine HBo2_transport hb hsz1 (fun m hm ho => ⟨?_, ho, (R1.same.node m).height⟩)
    rw [← R1.same.nec m]; exact hm
  -- the scope height
  obtain ⟨h0, hsh, hh00, h0c, hhsc⟩ : ∃ h0 : Int, (scopeHeight (s.nodeD n).createdIn).run.run s1 = (.ok h0, s1) ∧ 0 ≤ h0 ∧
      (HBo2 rk s op → h0 ≤ (cnt rk s.nodes.size n : Int)) ∧
      ∀ (b : Nat) (br : BindRec), (s.nodeD n).createdIn = .bind b → s.binds[b]? = some br →
        (s1.nodeD br.lhsChange).height = h0 ∧ s1.isNecessary br.lhsChange = true ∧ br.lhsChange ≠ n := by
    cases hcr : (s.nodeD n).createdIn with
    | top =>
      exact ⟨0, scopeHeight_top_run s1, Int.le_refl _, fun _ => Int.natCast_nonneg _, fun b br hc => by cases hc⟩
    | bind b =>
      obtain ⟨-, br, hbb, -, -⟩ := sn.inScope b hcr
      have hlcl := I.frag.lc_lt hbb
      have hbb1 : s1.binds[b]? = some br := by rw [hB1.binds]; exact hbb
      have hrk := (I.frag.scope_rk hn hcr hbb).1
      have hlne : br.lhsChange ≠ n := fun e => by rw [e] at hrk; exact Nat.lt_irrefl _ hrk
      have hlnec : s.isNecessary br.lhsChange = true := GInv2.scope_lc_nec I hnu hF hcr hbb hnn
      have hlcc : op br.lhsChange = .closed := hclosed _ hrk
      refine ⟨_, scopeHeight_bind_run hbb1 (by rw [hsz1]; exact hlcl), ?_, fun hb => ?_, ?_⟩
      · rw [(R1.same.node br.lhsChange).height]; exact I.hpos _ hlnec hlcc
      · rw [(R1.same.node br.lhsChange).height]
        have h1 := hb _ hlnec hlcc
        have h2 := cnt_lt_cnt (rk := rk) hlcl hrk
        omega
      · intro b' br' hc hb'
        cases hc
        rw [hbb] at hb'; cases hb'
        exact ⟨rfl, by rw [R1.same.nec]; exact hlnec, hlne⟩
  refine Corr.bind_ok hsh ?_
  have hcntN : Room N s → (cnt rk s.nodes.size n : Int) + 1 ≤ (N : Int) := by
    intro R
    have := cnt_lt_size (rk := rk) hn
    have := R.size
    omega
  refine Corr.bind_ret (fun ⟨hb, R, _, _⟩ => ?_) (fun _ s2 h2 => ?_)
  · obtain ⟨s2, h2⟩ := setHeight_ok (n := n) (h := h0 + 1) (s := s1)
      (by rw [(R.of_cframe (R1.rel (fun _ => False)).fr).ahh]; have := h0c hb; have := hcntN R; omega)
    exact ⟨(), s2, h2⟩
  obtain ⟨U2, -, hl2, hh2, hoth2⟩ := setHeight_ok_upd hn1 h2
  have O2 : Only n s1 s2 := hoth2
  have I2 : GInv2 env rk s2 op ex dy := GInv2.setHeight_open I1 U2 (CFrame.binds hl2.fr) hopn hpar1 hsq1
  have hn2 : n < s2.nodes.size := by rw [U2.size]; exact hn1
  have hsz2 : s2.nodes.size = s.nodes.size := by rw [U2.size]; exact hsz1
  have hnq2 : (s2.nodeD n).inRch = false := by rw [U2.inRch (keeps_fHeight _)]; exact hnq1
  have hL2 : LRel (· = n) s s2 := (R1.rel _).trans hl2
  have hA2 : AboveR2 rk s n s2 := only_aboveR2 (Only.trans O1 O2)
  have hb2 : HBo2 rk s op → HBo2 rk s2 op := by
    intro hb
    refine HBo2_transport (hb1 hb) U2.size (fun m hm ho => ?_)
    have hmn : m ≠ n := fun e => by rw [e] at ho; exact hopn ho
    rw [State.isNecessary, hoth2 m hmn] at hm
    exact ⟨hm, ho, by rw [hoth2 m hmn]⟩
  refine Corr.bind_getNode hn2 ?_
  refine Corr.bind_get ?_
  -- the loop
  refine Corr.bind (Corr.forIn _ (s2.children n)
      (fun j (b : Int × Nat) t => b.2 = j ∧ GInv2 env rk t (upd op n (.linking j)) ex dy ∧
        (∀ m, rk n ≤ rk m → t.nodeD m = s2.nodeD m) ∧ LRel (fun _ => False) s2 t ∧ h0 + 1 ≤ b.1 ∧
        (∀ i c, i < j → (s2.children n)[i]? = some c → (t.nodeD c).height < b.1) ∧
        (HBo2 rk s op → HBo2 rk t (upd op n (.linking j)) ∧ b.1 ≤ (cnt rk s.nodes.size n : Int) + 1))
      ?hstep (s2.children n) 0 _ (by simp) (Nat.zero_le _) ?hinit) id ?rest
  case hinit =>
    exact ⟨rfl, by rw [upd_eq_self _ _ _ hop]; exact I2, fun _ _ => rfl, LRel.refl _ _, by rw [hh2]; omega,
      fun i c hi _ => by omega,
      fun hb => ⟨by rw [upd_eq_self _ _ _ hop]; exact hb2 hb, by rw [hh2]; have := h0c hb; omega⟩⟩
  case hstep =>
    intro j c b t hj ⟨hbj, It, hsame, hrel, hb1', hlt, hHB⟩
    have hcht : t.children n = s2.children n := KeyEq2.children2 (KeyEq.of_cframe hrel.fr) I2.frag n
    have hkj : (t.children n)[b.2]? = some c := by
      rw [hcht, hbj]; exact hj
    have hcn : rk c < rk n := It.kid_rk hkj
    have hszt : t.nodes.size = s.nodes.size := by rw [hrel.fr.size]; exact hsz2
    have hct : c < s.nodes.size := by rw [← hszt]; exact GInv2.kid_in It hkj
    have hLt : LRel (· = n) s t := hL2.trans (hrel.mono (fun _ h => h.elim))
    have hcne : c ≠ n := fun e => by rw [e] at hcn; exact Nat.lt_irrefl _ hcn
    have hcc := cnt_lt_cnt (rk := rk) hct hcn
    refine Corr.bind (ih rk c b.2 n t _ ex dy It (by rw [upd_self, hbj]) hkj ?a1 ?a2 ?a3) ?hP ?body
    case a1 =>
      intro m hm
      by_cases e : m = n
      · rw [e]; exact hcn
      · rw [upd_other _ _ _ e] at hm
        have := hlow m hm
        omega
    case a2 =>
      intro m k
      by_cases e : m = n
      · rw [e, upd_self]; exact fun e => by cases e
      · rw [upd_other _ _ _ e]; exact hnu m k
    case a3 =>
      exact hF.lrel hLt (by
        intro m ho _
        have e : m ≠ n := fun e => by rw [e] at ho; exact hopn ho
        rw [upd_other _ _ _ e]; exact ho)
    case hP =>
      intro ⟨hb, R, hmain, hf⟩
      refine ⟨(hHB hb).1, R.of_cframe hLt.fr, ?_, by rw [hszt]; omega⟩
      intro b' br hsc hb'
      rw [(KeyEq.of_cframe hLt.fr).createdIn] at hsc
      rw [CFrame.binds hLt.fr] at hb'
      exact hLt.nec (hmain b' br hsc hb')
    case body =>
      intro _ t1 _ ⟨It1, hab, hl, hnecc, hHB1⟩
      rw [upd_upd, hbj] at It1 hHB1
      have hszt1 : t1.nodes.size = s.nodes.size := by rw [hl.fr.size]; exact hszt
      have hct1 : c < t1.nodes.size := by rw [hszt1]; exact hct
      have hstep : ∀ h' : Int, b.1 ≤ h' → (t1.nodeD c).height < h' →
          (HBo2 rk s op → h' ≤ (cnt rk s.nodes.size n : Int) + 1) →
          (j + 1 = j + 1) ∧ GInv2 env rk t1 (upd op n (.linking (j + 1))) ex dy ∧
          (∀ m, rk n ≤ rk m → t1.nodeD m = s2.nodeD m) ∧ LRel (fun _ => False) s2 t1 ∧ h0 + 1 ≤ h' ∧
          (∀ i c', i < j + 1 → (s2.children n)[i]? = some c' → (t1.nodeD c').height < h') ∧
          (HBo2 rk s op → HBo2 rk t1 (upd op n (.linking (j + 1))) ∧ h' ≤ (cnt rk s.nodes.size n : Int) + 1) := by
        intro h' hle' hxl hn'
        refine ⟨rfl, It1, fun m hm => (hab m (by omega)).trans (hsame m hm), hrel.trans hl, by omega, ?_,
          fun hb => ⟨hHB1 (hHB hb).1, hn' hb⟩⟩
        intro i c' hi hc'
        by_cases e : i = j
        · rw [e, hj] at hc'
          cases hc'
          exact hxl
        · have hij : i < j := by omega
          have hk' : (t.children n)[i]? = some c' := by
            rw [hcht]; exact hc'
          have hmem := It.conv n i c' hk' ((wants_linking (upd_self _ _ _)).2 hij)
          rw [hl.hgt c' (fun h => h) (nec_of_mem_parents hmem)]
          have := hlt i c' hij hc'
          omega
      refine Corr.bind_getNode hct1 ?_
      by_cases hge : (t1.nodeD c).height ≥ b.1
      · rw [if_pos hge]
        refine Corr.pure ⟨_, rfl, ?_⟩
        have := hstep ((t1.nodeD c).height + 1) (by omega) (by omega) (fun hb => by
          have := hHB1 (hHB hb).1 c hnecc (by rw [upd_other _ _ _ hcne]; exact hclosed c hcn)
          rw [hszt1] at this
          omega)
        rw [hbj]; exact this
      · rw [if_neg hge]
        refine Corr.pure ⟨_, rfl, ?_⟩
        have := hstep b.1 (by omega) (by omega) (fun hb => (hHB hb).2)
        rw [hbj]; exact this
  case rest =>
    intro b s3 _ ⟨hbl, I3, hsame3, hrel3, hb1', hlt3, hHB3⟩
    have hn3 : n < s3.nodes.size := by rw [hrel3.fr.size]; exact hn2
    have hsz3 : s3.nodes.size = s.nodes.size := by rw [hrel3.fr.size]; exact hsz2
    have hnq3 : (s3.nodeD n).inRch = false := by rw [hsame3 n (Nat.le_refl _)]; exact hnq2
    have hL3 : LRel (· = n) s s3 := hL2.trans (hrel3.mono (fun _ h => h.elim))
    have hA3 : AboveR2 rk s n s3 :=
      AboveR2.trans hA2 (fun m hm => hsame3 m (Nat.le_of_lt hm))
    have hsq3 : ScopeQuiet s3 n := scopeQuiet_transport2 I.frag hsq (KeyEq.of_cframe hL3.fr) hA3
    -- the final height
    refine Corr.bind_ret (fun ⟨hb, R, _, _⟩ => ?_) (fun _ s4 h4 => ?_)
    · obtain ⟨s4, h4⟩ := setHeight_ok (n := n) (h := b.1) (s := s3)
        (by rw [(R.of_cframe hL3.fr).ahh]; have := (hHB3 hb).2; have := hcntN R; omega)
      exact ⟨(), s4, h4⟩
    obtain ⟨U4, -, hl4, hh4, hoth4⟩ := setHeight_ok_upd hn3 h4
    have O4 : Only n s3 s4 := hoth4
    have hpar3 : ∀ p i, (p, i) ∈ (s3.nodeD n).parents →
        upd op n (.linking (s2.children n).length) p ≠ .closed := by
      intro p i hp
      have hpn : p ≠ n := fun e => by
        have := GInv2.par_rk I3 hp
        rw [e] at this; exact Nat.lt_irrefl _ this
      rw [upd_other _ _ _ hpn]
      rw [hsame3 n (Nat.le_refl _), U2.self.parents] at hp
      exact hpar1 p i hp
    have I4 : GInv2 env rk s4 (upd op n (.linking (s2.children n).length)) ex dy :=
      GInv2.setHeight_open I3 U4 (CFrame.binds hl4.fr) (by rw [upd_self]; exact fun e => by cases e) hpar3 hsq3
    have hn4 : n < s4.nodes.size := by rw [U4.size]; exact hn3
    have hsz4 : s4.nodes.size = s.nodes.size := by rw [U4.size]; exact hsz3
    have hnq4 : (s4.nodeD n).inRch = false := by rw [U4.inRch (keeps_fHeight _)]; exact hnq3
    have hL4 : LRel (· = n) s s4 := hL3.trans hl4
    have hA4 : AboveR2 rk s n s4 := AboveR2.trans hA3 (only_aboveR2 O4)
    have hsq4 : ScopeQuiet s4 n := scopeQuiet_transport2 I.frag hsq (KeyEq.of_cframe hL4.fr) hA4
    have hch4 : s4.children n = s2.children n :=
      KeyEq2.children2 (KeyEq.of_cframe (hrel3.fr.trans hl4.fr)) I2.frag n
    have hhh : ∀ (i c : Nat), (s4.children n)[i]? = some c →
        (s4.nodeD c).height < (s4.nodeD n).height := by
      intro i c hc
      rw [hch4] at hc
      have hi : i < (s2.children n).length := by
        rcases Nat.lt_or_ge i (s2.children n).length with h | h
        · exact h
        · rw [List.getElem?_eq_none h] at hc; cases hc
      have hcn : c ≠ n := GInv2.kid_ne I2 hc
      rw [hh4, hoth4 c hcn]
      exact hlt3 i c hi hc
    have hklen : (s4.children n).length ≤ (s2.children n).length := by rw [hch4]; exact Nat.le_refl _
    have hnec4 : s4.isNecessary n = true := I4.lnec n _ (upd_self _ _ _)
    have h04 : 0 ≤ (s4.nodeD n).height := by rw [hh4]; omega
    have hself4 : ∀ (b' : Nat) (br : BindRec), (s4.nodeD n).createdIn = .bind b' → s4.binds[b']? = some br →
        (s4.nodeD br.lhsChange).height < (s4.nodeD n).height := by
      intro b' br hc hb'
      rw [(KeyEq.of_cframe hL4.fr).createdIn] at hc
      rw [CFrame.binds hL4.fr] at hb'
      obtain ⟨e1, e2, e3⟩ := hhsc b' br hc hb'
      rw [hh4, hoth4 _ e3, hrel3.hgt _ (fun h => h) (by rw [U2.nec_other e3]; exact e2), hoth2 _ e3, e1]
      omega
    have hnv4 : (s4.nodeD n).valid = true := by rw [(KeyEq.of_cframe hL4.fr).valid]; exact hnv
    have hnk4 : BKind env (s4.nodeD n).kind := (GInv2.node I4 hn4).kind
    -- the height bound for the final labelling, for any state with the same heights, necessity and node count
    have hfin : ∀ s' : State, s'.nodes.size = s4.nodes.size → (∀ m, (s'.nodeD m).height = (s4.nodeD m).height) →
        (∀ m, s'.isNecessary m = s4.isNecessary m) → HBo2 rk s op → HBo2 rk s' (upd op n .closed) := by
      intro s' hsz hh hnc hb m hm ho
      rw [hh, hsz, hsz4]
      by_cases e : m = n
      · rw [e, hh4]; exact (hHB3 hb).2
      · rw [upd_other _ _ _ e] at ho
        rw [hnc, State.isNecessary, hoth4 m e] at hm
        have := (hHB3 hb).1 m hm (by rw [upd_other _ _ _ e]; exact ho)
        rw [hsz3] at this
        rw [hoth4 m e]; exact this
    refine Corr.bind_get ?_
    refine Corr.bind_dassert (fun _ _ => by rw [hnq4]; rfl) ?_
    refine Corr.bind_dassert (fun _ _ => hnec4) ?_
    cases hst : s4.isStale n with
    | false =>
      simp only [Bool.false_eq_true, if_false]
      have I5 := GInv2.close_link_fresh I4 (upd_self _ _ _) hnq4 hklen hhh h04 hsq4 hself4 hst
      rw [upd_upd] at I5
      exact tail_corr2 _ hn4 hnv4 hnk4 ⟨I5, hA4, hL4, hfin s4 rfl (fun _ => rfl) (fun _ => rfl)⟩
    | true =>
      simp only [if_true]
      refine Corr.bind_ret (fun ⟨_, _, _, hf⟩ => ⟨(), s4, markMapRefUnknown_B_run (by omega) hn4 hnv4 hnk4⟩)
        (fun _ s5 h5 => ?_)
      have e5 : s5 = s4 := markMapRefUnknown_B hnv4 hnk4 h5
      subst e5
      have hpre : (!(s5.nodeD n).inRch && s5.needsToBeComputed n) = true := by
        rw [hnq4, State.needsToBeComputed, hnec4, hst]; rfl
      refine Corr.bind_ret (fun ⟨hb, R, _, _⟩ => ⟨(), _, rchInsert_run_ok hn4 hpre h04 (by
          rw [(R.of_cframe hL4.fr).rch, hh4]; have := (hHB3 hb).2; have := hcntN R; omega)⟩)
        (fun _ s6 h6 => ?_)
      obtain ⟨nd6, hnd6, -, hmax6, e6, -, hl6⟩ := rchInsert_rel h6
      have hnd6D : s5.nodeD n = nd6 := nodeD_of_some hnd6
      have I5 := GInv2.close_link_stale I4 (upd_self _ _ _) hnq4 hklen hhh h04 hsq4 hself4
        (by rw [hnd6D]; exact hmax6) hst
      rw [upd_upd, hnd6D, ← e6] at I5
      have O6 : Only n s5 s6 := by
        rw [e6]; intro m hm
        rw [inserted_nodeD, if_neg (fun e => hm e.1.symm)]
      have hnd : ∀ m, ∃ x, s6.nodeD m = { s5.nodeD m with heightInRch := x } := by
        intro m
        rw [e6, inserted_nodeD]
        split
        · exact ⟨_, rfl⟩
        · exact ⟨_, rfl⟩
      have hsz : s6.nodes.size = s5.nodes.size := (hl6 (· = n)).fr.size
      refine tail_corr2 (env := env) _ (by rw [hsz]; exact hn4) ?_ ?_
        ⟨I5, AboveR2.trans hA4 (only_aboveR2 O6), hL4.trans (hl6 _), hfin _ hsz ?_ ?_⟩
      · obtain ⟨x, hx⟩ := hnd n; rw [hx]; exact hnv4
      · obtain ⟨x, hx⟩ := hnd n; rw [hx]; exact hnk4
      · intro m; obtain ⟨x, hx⟩ := hnd m; rw [hx]
      · intro m; obtain ⟨x, hx⟩ := hnd m; rw [State.isNecessary, hx]; rfl

theorem link_corr2 (env : Env) (N fuel : Nat) : BNCorr2 env N fuel ∧ APCorr2 env N fuel := by
  induction fuel with
  | zero =>
    constructor
    · intro rk n s op ex dy _ _ _ _ _ _ _ _
      unfold becameNecessary
      exact Corr.throw (fun hP => by omega)
    · intro rk c idx p s op ex dy _ _ _ _ _ _
      unfold addParentWithoutAdjustingHeights
      exact Corr.throw (fun hP => by omega)
  | succ fuel ih => exact ⟨bn_corr2 env N fuel ih.2, ap_corr2 env N fuel ih.1⟩

end NL

open BL CL NL

/-- **The linking cascade, fragment F2 (nested binds).** A successful `becameNecessary n` on a node that has just become
necessary (labelled `.linking 0`: none of its child edges is recorded yet), that is not queued, all of whose recorded parents
are open and which has the lowest RANK among the open nodes, closes `n`: the structural invariant holds with `n` closed; nodes
of higher rank than `n` are untouched; parent lists only grew; necessary nodes other than `n` kept their height.
`n` may be a node of a scope, and may itself be the change detector or the main node of an inner bind.
Extra hypotheses: no node is unlinking; a forced node of a scope has its scope's change detector necessary and
closed; if `n` is the change detector of a bind, the bind's main node does not want the edge to its right-hand side. -/
theorem becameNecessary_spec2 {env : Env} {rk : Nat → Nat} {fuel n : Nat} {s s' : State} {op : Nat → Op} {ex : Nat → Prop}
    {dy : List Nat}
    (h : (becameNecessary env fuel n).run.run s = (.ok (), s')) (I : GInv2 env rk s op ex dy)
    (hop : op n = .linking 0) (hnq : (s.nodeD n).inRch = false)
    (hlow : ∀ m, op m ≠ .closed → rk n ≤ rk m)
    (hpar : ∀ p i, (p, i) ∈ (s.nodeD n).parents → op p ≠ .closed)
    (hnu : ∀ m k, op m ≠ .unlinking k)
    (hF : ∀ m b br, (s.nodeD m).forceNecessary = true → (s.nodeD m).createdIn = .bind b → s.binds[b]? = some br →
      s.isNecessary br.lhsChange = true ∧ op br.lhsChange = .closed)
    (hlc : ∀ (b : Nat) (br : BindRec), s.binds[b]? = some br → br.lhsChange = n → ¬ Wants s op br.main 1) :
    GInv2 env rk s' (upd op n .closed) ex dy ∧ AboveR2 rk s n s' ∧ LRel (· = n) s s' :=
  have ⟨I', hA, hL, _⟩ := ((link_corr2 env 0 fuel).1 rk n s op ex dy I hop hnq hlow hpar hnu hF hlc).ok h
  ⟨I', hA, hL⟩

/-- `add_parent_without_adjusting_heights child index parent`, fragment F2: `parent` is open (`.linking index`; it MAY be
queued), `child` is its `index`-th child, every open node has higher rank than `child`.  Afterwards the edge is recorded,
`child` is necessary and closed; nodes of higher rank than `child` are untouched; parent lists only grew; all nodes that
were necessary kept their height. -/
theorem addParentWithoutAdjustingHeights_spec2 {env : Env} {rk : Nat → Nat} {fuel c idx p : Nat} {s s' : State}
    {op : Nat → Op} {ex : Nat → Prop} {dy : List Nat}
    (h : (addParentWithoutAdjustingHeights env fuel c idx p).run.run s = (.ok (), s')) (I : GInv2 env rk s op ex dy)
    (hop : op p = .linking idx) (hk : (s.children p)[idx]? = some c)
    (hlow : ∀ m, op m ≠ .closed → rk c < rk m)
    (hnu : ∀ m k, op m ≠ .unlinking k)
    (hF : ∀ m b br, (s.nodeD m).forceNecessary = true → (s.nodeD m).createdIn = .bind b → s.binds[b]? = some br →
      s.isNecessary br.lhsChange = true ∧ op br.lhsChange = .closed) :
    GInv2 env rk s' (upd op p (.linking (idx + 1))) ex dy ∧ AboveR2 rk s c s' ∧ LRel (fun _ => False) s s' ∧
      s'.isNecessary c = true :=
  have ⟨I', hA, hL, hn, _⟩ := ((link_corr2 env 0 fuel).2 rk c idx p s op ex dy I hop hk hlow hnu hF).ok h
  ⟨I', hA, hL, hn⟩

/-- **The linking cascade returns, fragment F2 (nested binds)** — no assertion fails, no record is missing, the scope of `n` is necessary, the height limit
is not hit, the fuel suffices — and the height bound is kept.  Hypotheses: those of `becameNecessary_spec2`, the height bound `HBo2`, room for `N`
nodes, `MainNec s n` (see `NL.scope_main_nec`, `NL.child_main_nec`) and fuel linear in the position of `n` in the rank order. -/
theorem becameNecessary_total2 {env : Env} {rk : Nat → Nat} {N fuel n : Nat} {s : State} {op : Nat → Op} {ex : Nat → Prop}
    {dy : List Nat}
    (I : GInv2 env rk s op ex dy) (hb : HBo2 rk s op) (R : Room N s)
    (hop : op n = .linking 0) (hnq : (s.nodeD n).inRch = false)
    (hlow : ∀ m, op m ≠ .closed → rk n ≤ rk m)
    (hpar : ∀ p i, (p, i) ∈ (s.nodeD n).parents → op p ≠ .closed)
    (hnu : ∀ m k, op m ≠ .unlinking k) (hF : HF s op)
    (hlc : ∀ (b : Nat) (br : BindRec), s.binds[b]? = some br → br.lhsChange = n → ¬ Wants s op br.main 1)
    (hmain : MainNec s n) (hf : 2 * cnt rk s.nodes.size n + 2 ≤ fuel) :
    Tot (becameNecessary env fuel n) s (fun _ s' => HBo2 rk s' (upd op n .closed) ∧
      GInv2 env rk s' (upd op n .closed) ex dy ∧ AboveR2 rk s n s' ∧ LRel (· = n) s s' ∧ Room N s') :=
  have ⟨u, s', h, I', hA, hL, hb'⟩ :=
    ((link_corr2 env N fuel).1 rk n s op ex dy I hop hnq hlow hpar hnu hF hlc).tot ⟨hb, R, hmain, hf⟩
  ⟨u, s', h, hb' hb, I', hA, hL, R.of_cframe hL.fr⟩

end IncrVerif.Proofs.NestH
