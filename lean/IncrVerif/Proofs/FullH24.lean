import IncrVerif.Proofs.Footprint
/-!
# Only the node that runs gets a new stored value: the relation `NVn`

`NVn n s s'`: only node `n` gets a new stored value; the stored value of any other existing node is kept or
erased; new nodes have no stored value.  Every primitive write of the engine keeps it as long as `n` is the only node
allowed to store a value (`NVn.of_edit`), hence so does every function whose writes are such (`NVn.of_foot`).
-/
namespace IncrVerif.Proofs.FullH
open IncrVerif.Engine IncrVerif.Proofs IncrVerif.Proofs.Step IncrVerif.Proofs.Footprint

/-- only node `n` gets a new stored value; the stored value of any other existing node is kept or erased;
new nodes have no stored value -/
structure NVn (n : Nat) (s s' : State) : Prop where
  size : s.nodes.size ≤ s'.nodes.size
  old : ∀ m, m ≠ n → m < s.nodes.size → (s'.nodeD m).value = (s.nodeD m).value ∨ (s'.nodeD m).value = none
  new : ∀ m, m ≠ n → s.nodes.size ≤ m → m < s'.nodes.size → (s'.nodeD m).value = none

theorem NVn.refl (n : Nat) (s : State) : NVn n s s :=
  ⟨Nat.le_refl _, fun _ _ _ => .inl rfl, fun m _ h1 h2 => absurd h2 (by omega)⟩

theorem NVn.trans {n : Nat} {a b c : State} (h1 : NVn n a b) (h2 : NVn n b c) : NVn n a c where
  size := Nat.le_trans h1.size h2.size
  old m hm hlt := by
    rcases h2.old m hm (Nat.lt_of_lt_of_le hlt h1.size) with q2 | q2
    · rcases h1.old m hm hlt with q1 | q1
      · exact .inl (q2.trans q1)
      · exact .inr (q2.trans q1)
    · exact .inr q2
  new m hm hge hlt := by
    by_cases hb : m < b.nodes.size
    · rcases h2.old m hm hb with q2 | q2
      · exact q2.trans (h1.new m hm hge hb)
      · exact q2
    · exact h2.new m hm (by omega) hlt

instance (n : Nat) : PreOrd (NVn n) := ⟨NVn.refl n, NVn.trans⟩

/-- a node created by a single write is the fresh record, which has no value; `PreOrd (NVn n)` carries this over to the nodes created by a run -/
theorem NVn.of_edit {n : Nat} {L} {w : Nat → Prop} (hw : ∀ m, w m → m = n) {s s' : State} (e : Edit L w s s') : NVn n s s' where
  size := e.size_le
  old m hm hlt := e.value_or_none (fun h => hm (hw m h)) hlt
  new m _ h1 h2 := by obtain ⟨k, sc, c, h⟩ := e.new_node h1 h2; rw [h]

theorem NVn.of_foot {n : Nat} {L} {α} {m : M α} (h : Foot L (· = n) m) : Pres (NVn n) m :=
  h.lift (NVn.of_edit fun _ h => h)

namespace NV

theorem nodeD_push (s : State) (nd : Node) (i : Nat) :
    ({ s with nodes := s.nodes.push nd } : State).nodeD i
      = if i = s.nodes.size then nd else s.nodeD i := by
  simp only [State.nodeD, Array.getElem?_push]
  split <;> simp

section
variable {R : State → State → Prop} [PreOrd R]
theorem Pres.forIn_mem {α β} {l : List α} {init : β}
    {f : α → β → M (ForInStep β)} (hf : ∀ a, a ∈ l → ∀ b, Pres R (f a b)) :
    Pres R (forIn l init f) := by
  induction l generalizing init with
  | nil => rw [List.forIn_nil]; exact Pres.pure _
  | cons a l ih =>
    rw [List.forIn_cons]
    refine Pres.bind (hf a List.mem_cons_self init) fun r => ?_
    cases r with
    | done b => exact Pres.pure _
    | yield b => exact ih fun a' ha' b => hf a' (List.mem_cons_of_mem _ ha') b
end
end NV

namespace PresNV
variable {n : Nat}

theorem scopeIsValid (sc) : Pres (NVn n) (scopeIsValid sc) := NVn.of_foot (Foot.scopeIsValid sc)

theorem rchRemoveMin : Pres (NVn n) rchRemoveMin := NVn.of_foot Foot.rchRemoveMin
theorem setHeight (k h) : Pres (NVn n) (setHeight k h) := NVn.of_foot (Foot.setHeight k h)
theorem ensureHeightRequirement (a b c d) : Pres (NVn n) (ensureHeightRequirement a b c d) :=
  NVn.of_foot (Foot.ensureHeightRequirement a b c d)
theorem adjustHeights (oc op fuel) : Pres (NVn n) (adjustHeights oc op fuel) :=
  NVn.of_foot (Foot.adjustHeights oc op fuel)

theorem addParent (a b c) : Pres (NVn n) (addParent a b c) := NVn.of_foot (Foot.addParent a b c)
theorem removeParent (a b c) : Pres (NVn n) (removeParent a b c) :=
  NVn.of_foot (Foot.removeParent a b c)
theorem handleAfterStabilisation (k) : Pres (NVn n) (handleAfterStabilisation k) :=
  NVn.of_foot (Foot.handleAfterStabilisation k)
theorem shouldCutoff (env k o v) : Pres (NVn n) (shouldCutoff env k o v) :=
  NVn.of_foot (Foot.shouldCutoff env k o v)
theorem markMapRefUnknown (fuel k) : Pres (NVn n) (markMapRefUnknown fuel k) :=
  NVn.of_foot (Foot.markMapRefUnknown fuel k)

theorem necessary (env : Env) (fuel : Nat) :
    (∀ k, Pres (NVn n) (becameNecessary env fuel k)) ∧
    (∀ c i p, Pres (NVn n) (addParentWithoutAdjustingHeights env fuel c i p)) :=
  ⟨fun k => NVn.of_foot (Foot.becameNecessary env fuel k),
   fun c i p => NVn.of_foot (Foot.addParentWithoutAdjustingHeights env fuel c i p)⟩
theorem becameNecessary (env fuel k) : Pres (NVn n) (becameNecessary env fuel k) :=
  (necessary env fuel).1 k
theorem addParentWithoutAdjustingHeights (env fuel c i p) :
    Pres (NVn n) (addParentWithoutAdjustingHeights env fuel c i p) := (necessary env fuel).2 c i p

theorem unnecessary (fuel : Nat) :
    (∀ k, Pres (NVn n) (becameUnnecessary fuel k)) ∧ (∀ k, Pres (NVn n) (checkIfUnnecessary fuel k)) ∧
    (∀ k, Pres (NVn n) (removeChildren fuel k)) :=
  ⟨fun k => NVn.of_foot (Foot.becameUnnecessary fuel k), fun k => NVn.of_foot (Foot.checkIfUnnecessary fuel k),
   fun k => NVn.of_foot (Foot.removeChildren fuel k)⟩
theorem becameUnnecessary (fuel k) : Pres (NVn n) (becameUnnecessary fuel k) :=
  (unnecessary fuel).1 k
theorem checkIfUnnecessary (fuel k) : Pres (NVn n) (checkIfUnnecessary fuel k) :=
  (unnecessary fuel).2.1 k
theorem removeChildren (fuel k) : Pres (NVn n) (removeChildren fuel k) :=
  (unnecessary fuel).2.2 k

theorem invalidateNode (fuel k) : Pres (NVn n) (invalidateNode fuel k) :=
  NVn.of_foot (Foot.invalidateNode fuel k)
theorem propagateInvalidity (fuel) : Pres (NVn n) (propagateInvalidity fuel) :=
  NVn.of_foot (Foot.propagateInvalidity fuel)
theorem becameNecessaryPropagate (env fuel k) :
    Pres (NVn n) (becameNecessaryPropagate env fuel k) :=
  NVn.of_foot (Foot.becameNecessaryPropagate env fuel k)
theorem changeChildBindRhs (env fuel m o nw i) :
    Pres (NVn n) (changeChildBindRhs env fuel m o nw i) :=
  NVn.of_foot (Foot.changeChildBindRhs env fuel m o nw i)

theorem assertRunningIsChild (k name) : Pres (NVn n) (assertRunningIsChild k name) :=
  NVn.of_foot (Foot.assertRunningIsChild k name)
theorem expertAddDependency (env fuel k c cb) :
    Pres (NVn n) (expertAddDependency env fuel k c cb) :=
  NVn.of_foot (Foot.expertAddDependency env fuel k c cb)

end PresNV

end IncrVerif.Proofs.FullH
