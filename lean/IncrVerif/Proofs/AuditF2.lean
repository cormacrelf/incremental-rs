import IncrVerif.Proofs.AuditF1
import IncrVerif.Proofs.FullH61
/-!
# C11, part 2: the audit holds at every quiescent point of every history of the COMBINED fragment

`QInvF env sp s g` contains `QG2 (VE env sp) (virt g s)`; `AuditF1` turns that into `Audit s`.  Here: whole histories (`history_audit`), every intermediate
state (`history_audit_every`), and the extra clauses right after a `stabilise` (`history_stabilise_audit`: the recompute heap is EMPTY, every needed node is
valid, not stale and — unless it is a `map_ref` node, which stores nothing — has a value).  Corollaries for fragment F2 (static core + nested binds, `C03Nested`)
and for the static core (`C01History`'s action list).
-/
namespace IncrVerif.Proofs.AuditF
open IncrVerif.Engine IncrVerif.Driver IncrVerif.Proofs IncrVerif.Proofs.Step IncrVerif.Proofs.Sched IncrVerif.Proofs.Quiet
open IncrVerif.Proofs.NestH (QG2 QI2 QInv2 HistF2 ActionF2)
open IncrVerif.Proofs.FullH

section
variable {env : Env} {sp : Nat → Val → Val}

theorem audit_of_qinvF {s : State} {g : Nat → Option Val} (Q : QInvF env sp s g) : Audit s := audit_of_virt_qg2 Q.q

theorem audit_of_qinvFE {s : State} (Q : QInvFE env sp s) : Audit s := by
  obtain ⟨g, Q⟩ := Q
  exact audit_of_qinvF Q

/-- every valid node that is not stale and is not a `map_ref` node stores a value -/
theorem value_of_qinvF {s : State} {g : Nat → Option Val} (Q : QInvF env sp s g) (n : Nat) (hn : n < s.nodes.size)
    (hv : (s.nodeD n).valid = true) (hs : s.isStale n = false) (hk : ∀ p i, (s.nodeD n).kind ≠ .mapRef p i) :
    ∃ v, (s.nodeD n).value = some v := by
  obtain ⟨rk, Qv⟩ := Q.q.1
  obtain ⟨v, -, h⟩ := Qv.cons n (by rw [virt_size]; exact hn) (by rw [virt_nodeD, virtNode_valid]; exact hv)
    (by rw [virt_isStale]; exact hs)
  rw [virt_nodeD, virtNode_value_of_not_mapRef _ _ hk] at h
  exact ⟨v, h⟩

/-- when no needed node is stale the recompute heap is empty: every bucket, and the counter -/
theorem Audit.heap_empty {s : State} (A : Audit s) (hf : ∀ n, s.isNecessary n = true → s.isStale n = false) :
    s.rch.length = 0 ∧ (∀ (h : Nat) (hh : h < s.rch.queues.size), s.rch.queues[h] = []) ∧ ∀ m, (s.nodeD m).inRch = false := by
  have hb := A.buckets_empty hf
  refine ⟨?_, hb, fun m => ?_⟩
  · rw [A.heapWF.length]
    unfold bucketSum
    apply sum_length_of_all_empty
    intro x hx
    obtain ⟨i, hi, e⟩ := List.getElem_of_mem hx
    rw [← e, Array.getElem_toList]
    exact hb i (by simpa using hi)
  · cases hq : (s.nodeD m).inRch with
    | false => rfl
    | true =>
      obtain ⟨h1, h2⟩ := (A.queued m).1 hq
      rw [hf m h1] at h2; cases h2

/-- **C11 for the combined fragment: whole histories.** -/
theorem history_audit (E : EnvS env sp) (hF : FirstFn env) {N : Nat} {d : Bool} {acts : List Action} {s : State} {tk : Array Nat}
    (hH : HistFull env sp 0 acts) (h : Quiet.runActions env acts (State.init N d) #[] = .ok (s, tk)) : Audit s :=
  audit_of_qinvFE (history_inv E hF hH h)

/-- **… audited after every single API action**: every intermediate state of the history passes the audit -/
theorem history_audit_every (E : EnvS env sp) (hF : FirstFn env) {N : Nat} {d : Bool} {as bs : List Action} {s : State} {tk : Array Nat}
    (hH : HistFull env sp 0 (as ++ bs)) (h : Quiet.runActions env (as ++ bs) (State.init N d) #[] = .ok (s, tk)) :
    ∃ s1 tk1, Quiet.runActions env as (State.init N d) #[] = .ok (s1, tk1) ∧ Audit s1 ∧
      Quiet.runActions env bs s1 tk1 = .ok (s, tk) := by
  obtain ⟨s1, tk1, h1, h2⟩ := Quiet.runActions_prefix h
  exact ⟨s1, tk1, h1, history_audit E hF (histFull_append as bs 0 hH) h1, h2⟩

/-- **… and after every `stabilise`** the recompute heap is empty, the observer work lists are empty, and every needed node is valid, not stale and (unless it is
a `map_ref` node) has a value -/
theorem history_stabilise_audit (E : EnvS env sp) (hF : FirstFn env) {N : Nat} {d : Bool} {as bs : List Action} {s : State} {tk : Array Nat}
    (hH : HistFull env sp 0 (as ++ Action.stabilise :: bs))
    (h : Quiet.runActions env (as ++ Action.stabilise :: bs) (State.init N d) #[] = .ok (s, tk)) :
    ∃ s1 tk1 s2, Quiet.runActions env as (State.init N d) #[] = .ok (s1, tk1) ∧ Audit s1 ∧
      (stabilise env fuelDefault).run.run s1 = (.ok (), s2) ∧ Audit s2 ∧
      s2.rch.length = 0 ∧ (∀ (k : Nat) (hk : k < s2.rch.queues.size), s2.rch.queues[k] = []) ∧ (∀ m, (s2.nodeD m).inRch = false) ∧
      s2.newObservers = [] ∧ s2.disallowedObservers = [] ∧
      (∀ n, s2.isNecessary n = true → (s2.nodeD n).valid = true ∧ s2.isStale n = false ∧
        ((∃ v, (s2.nodeD n).value = some v) ∨ ∃ p i, (s2.nodeD n).kind = .mapRef p i)) ∧
      Quiet.runActions env bs s2 tk1 = .ok (s, tk) := by
  obtain ⟨s1, tk1, h1, h2⟩ := Quiet.runActions_prefix h
  have Q1 := history_inv E hF (histFull_append as _ 0 hH) h1
  obtain ⟨r, s2, hx, h2⟩ := Hist.runActions_cons_ok.1 h2
  obtain ⟨hst, rfl⟩ := Hist.stepAction_stabilise_ok.1 hx
  obtain ⟨g, Q⟩ := Q1
  obtain ⟨g', R⟩ := stabilise_full (kit E hF) Q hst
  have A2 := audit_of_qinvF R.inv
  obtain ⟨e1, e2, e3⟩ := A2.heap_empty (fun n hn => (R.fresh n hn).2)
  refine ⟨s1, tk1, s2, h1, audit_of_qinvF Q, hst, A2, e1, e2, e3, R.newObservers, R.disallowedObservers, ?_, h2⟩
  intro n hn
  obtain ⟨k1, k2⟩ := R.fresh n hn
  refine ⟨k1, k2, ?_⟩
  by_cases hk : ∃ p i, (s2.nodeD n).kind = .mapRef p i
  · exact Or.inr hk
  · exact Or.inl (value_of_qinvF R.inv n (A2.nec n hn).1 k1 k2 (fun p i e => hk ⟨p, i, e⟩))

end

/-! ## corollaries: fragment F2 (static core + nested binds) and the static core -/

/-- **C11 for fragment F2** (`C03Nested`: static core + binds, nested binds) -/
theorem history_audit_F2 {env : Env} {N : Nat} {d : Bool} {acts : List Action} {s : State} {tk : Array Nat}
    (hH : HistF2 env 0 acts) (h : Quiet.runActions env acts (State.init N d) #[] = .ok (s, tk)) : Audit s :=
  audit_of_qg2 (NestH.history_F2 hH h)

theorem actionF2_of_static {env : Env} {T : Nat} {a : Action} (h : Quiet.StaticAction env a) : ActionF2 env T a := by
  cases a <;> first | exact h | skip
  rename_i i
  cases i <;> first | exact h | exact h.elim

theorem histF2_of_static {env : Env} : ∀ (acts : List Action) (T : Nat), (∀ a, a ∈ acts → Quiet.StaticAction env a) → HistF2 env T acts
  | [], _, _ => trivial
  | a :: as, _, h => ⟨actionF2_of_static (h a List.mem_cons_self), histF2_of_static as _ (fun b hb => h b (List.mem_cons_of_mem _ hb))⟩

/-- **C11 for the static core** (the histories of `C01History`) -/
theorem history_audit_static {env : Env} {N : Nat} {d : Bool} {acts : List Action} {s : State} {tk : Array Nat}
    (hH : ∀ a, a ∈ acts → Quiet.StaticAction env a) (h : Quiet.runActions env acts (State.init N d) #[] = .ok (s, tk)) : Audit s :=
  history_audit_F2 (histF2_of_static acts 0 hH) h

end IncrVerif.Proofs.AuditF
