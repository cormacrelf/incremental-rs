import IncrVerif.Proofs.Quiet24
import IncrVerif.Proofs.Quiet26
import IncrVerif.Proofs.Quiet27
import IncrVerif.Proofs.CutH40
/-!
# Part 28: valid histories of static actions never panic (C04 for the fragment)
-/
namespace IncrVerif.Proofs.Quiet
open IncrVerif.Engine IncrVerif.Driver IncrVerif.Proofs IncrVerif.Proofs.Step IncrVerif.Proofs.Sched

/-- **G3, total.** Every static API action whose indices exist returns; the invariants are kept. -/
theorem step_total {env : Env} {N : Nat} {s : State} {a : Action} {tk : Array Nat}
    (Q : QInv env s) (T : TInv N s) (ha : StaticAction env a) (hok : ActionOK N s a) :
    Tot (stepAction env a tk) s (fun r s' => r.2 = tk ∧ QInv env s' ∧ TInv N s' ∧ Grown a s s') := by
  obtain ⟨r, s', h, h1, -, T', G⟩ := CutH.step_total (tk := tk) Q.toC (T.toC Q.eqCut) ha.toC (hok.toC ha)
  exact ⟨r, s', h, h1, step_q Q ha h, .ofC T', .ofC ha G⟩

/-! ## valid histories -/

/-- `ActionOK` in terms of the numbers of nodes, var cells and observers -/
def ActionOKc (N nn nv no : Nat) : Action → Prop
  | .create i =>
    (match i with
      | .map _ args => ∀ a, a ∈ args → ∃ k, a = Opnd.outer k ∧ k < nn
      | .fold _ _ cs => ∀ a, a ∈ cs → ∃ k, a = Opnd.outer k ∧ k < nn
      | .zip a b => (∃ k, a = Opnd.outer k ∧ k < nn) ∧ (∃ k, b = Opnd.outer k ∧ k < nn)
      | _ => True) ∧ nn + 1 ≤ N
  | .observe n => ∃ k, n = Opnd.outer k ∧ k < nn
  | .dropObs o | .disallow o => o < no
  | .set v _ | .modify v _ | .update v _ | .replace v _ | .replaceWith v _ | .get v => v < nv
  | .stabilise => 3 * nn + 4 ≤ fuelDefault
  | _ => True

theorem opndIn_of {s : State} {a : Opnd} {nn : Nat} (ht : s.top.size = nn)
    (h : ∃ k, a = Opnd.outer k ∧ k < nn) : OpndIn s a :=
  CutH.opndIn_of ht h

theorem actionOK_of {N : Nat} {s : State} {a : Action} (ht : s.top.size = s.nodes.size)
    (h : ActionOKc N s.nodes.size s.vars.size s.observers.size a) : ActionOK N s a := by
  cases a <;> try exact h
  case create i =>
    obtain ⟨h1, h2⟩ := h
    refine ⟨?_, h2⟩
    cases i <;> try trivial
    case map f args => exact fun a ha => opndIn_of ht (h1 a ha)
    case fold f init cs => exact fun a ha => opndIn_of ht (h1 a ha)
    case zip a b => exact ⟨opndIn_of ht h1.1, opndIn_of ht h1.2⟩
  case observe n => exact opndIn_of ht h

/-- a history whose actions name existing things, never exceeds `N` nodes, and whose `stabilise`s have fuel;
`nn`, `nv`, `no` = numbers of nodes, var cells, observers before the history -/
def ValidHist (N : Nat) : Nat → Nat → Nat → List Action → Prop
  | _, _, _, [] => True
  | nn, nv, no, a :: as =>
    ActionOKc N nn nv no a ∧ ValidHist N (nn + (grow a).1) (nv + (grow a).2.1) (no + (grow a).2.2) as

theorem tinv_init (N : Nat) (d : Bool) : TInv N (State.init N d) := .ofC (CutH.tinv_init N d)

/-- **C04 for the fragment.** A valid history of static actions runs without panic from any state
satisfying the invariants; the final state satisfies them. -/
theorem runActions_total {env : Env} {N : Nat} {acts : List Action} {s : State} {tk : Array Nat}
    (Q : QInv env s) (T : TInv N s) (ha : ∀ a, a ∈ acts → StaticAction env a)
    (hv : ValidHist N s.nodes.size s.vars.size s.observers.size acts) :
    ∃ s', runActions env acts s tk = .ok (s', tk) ∧ QInv env s' ∧ TInv N s' := by
  induction acts generalizing s with
  | nil => exact ⟨s, rfl, Q, T⟩
  | cons a as ih =>
    obtain ⟨hok, hrest⟩ := hv
    obtain ⟨r, s1, h1, htk, Q1, T1, hg⟩ :=
      step_total (tk := tk) Q T (ha a (List.mem_cons_self ..)) (actionOK_of T.topSize hok)
    obtain ⟨g1, g2, g3⟩ := hg
    rw [← g1, ← g2, ← g3] at hrest
    obtain ⟨s', h2, Q', T'⟩ := ih Q1 T1 (fun b hb => ha b (List.mem_cons_of_mem _ hb)) hrest
    refine ⟨s', ?_, Q', T'⟩
    simp only [runActions]
    rw [h1]
    simp only [htk]
    exact h2

/-- from the initial state -/
theorem history_total {env : Env} {N : Nat} {d : Bool} {acts : List Action}
    (ha : ∀ a, a ∈ acts → StaticAction env a) (hv : ValidHist N 0 0 0 acts) :
    ∃ s', runActions env acts (State.init N d) #[] = .ok (s', #[]) ∧ QInv env s' ∧ TInv N s' :=
  runActions_total (qinv_init env N d) (tinv_init N d) ha hv

end IncrVerif.Proofs.Quiet
