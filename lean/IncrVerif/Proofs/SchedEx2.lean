import IncrVerif.Proofs.SchedW
import IncrVerif.Proofs.SchedEx
/-!
# A concrete quiescent state (non-vacuity witness for L4)
-/
namespace IncrVerif.Proofs.Sched
open IncrVerif.Engine IncrVerif.Proofs IncrVerif.Proofs.Step

/-- the three-node graph of `exD` at rest in round 1: var 0 holds 1 (written in round 0), node 1 =
`map f0 [0]` = 1, node 2 = `map f0 [0, 1]` = 2 (observed); empty heap, nothing deferred -/
def exQ : State :=
  { State.init 3 with
    nodes := #[
      { kind := .var 0, createdIn := .top, value := some (.int 1), recomputedAt := 0, changedAt := 0,
        height := 0, parents := [(1, 0), (2, 0)] },
      { kind := .map 0 [0], createdIn := .top, value := some (.int 1), recomputedAt := 0, changedAt := 0,
        height := 1, parents := [(2, 1)] },
      { kind := .map 0 [0, 1], createdIn := .top, value := some (.int 2), recomputedAt := 0,
        changedAt := 0, height := 2, observers := [0], cutoff := .never }],
    vars := #[{ value := .int 1, setAt := 0, node := 0 }],
    stabNum := 1 }

theorem exQ_ge (m : Nat) (h : 3 ≤ m) : exQ.nodeD m = default :=
  nodeD_default_of_ge exQ m h

theorem exQ_static (n : Nat) (h : n < 3) : StaticKind exEnv (exQ.nodeD n).kind := by
  match n, h with
  | 0, _ => exact True.intro
  | 1, _ => exact ⟨by decide, fun _ _ => rfl⟩
  | 2, _ => exact ⟨by decide, fun _ _ => rfl⟩

theorem exQ_graph : Graph exEnv exQ where
  pc := rfl
  nec := by
    refine cases3 _ ?_ ?_ ?_ ?_
    · intro _; exact ⟨by decide, rfl, exQ_static 0 (by omega), Or.inl rfl, by decide⟩
    · intro _; exact ⟨by decide, rfl, exQ_static 1 (by omega), Or.inl rfl, by decide⟩
    · intro _; exact ⟨by decide, rfl, exQ_static 2 (by omega), Or.inr rfl, by decide⟩
    · intro m hm h; rw [State.isNecessary, exQ_ge m hm] at h; cases h
  var := by
    refine cases3 _ ?_ ?_ ?_ ?_
    · intro c _ hk; cases hk; exact ⟨_, rfl⟩
    · intro c _ hk; cases hk
    · intro c _ hk; cases hk
    · intro m hm c h; rw [State.isNecessary, exQ_ge m hm] at h; cases h
  child := by
    refine cases3 _ ?_ ?_ ?_ ?_
    · intro _ i c h; simp [exQ, State.nodeD, kids] at h
    · intro _ i c h
      match i with
      | 0 => cases h; exact ⟨rfl, by decide, by decide⟩
      | i + 1 => simp [exQ, State.nodeD, kids] at h
    · intro _ i c h
      match i with
      | 0 => cases h; exact ⟨rfl, by decide, by decide⟩
      | 1 => cases h; exact ⟨rfl, by decide, by decide⟩
      | i + 2 => simp [exQ, State.nodeD, kids] at h
    · intro m hm h; rw [State.isNecessary, exQ_ge m hm] at h; cases h
  parent := by
    refine cases3 _ ?_ ?_ ?_ ?_
    · intro p i h
      have : (p, i) = (1, 0) ∨ (p, i) = (2, 0) := by simpa [exQ, State.nodeD] using h
      rcases this with h | h <;> cases h <;> exact ⟨rfl, rfl⟩
    · intro p i h
      have : (p, i) = (2, 1) := by simpa [exQ, State.nodeD] using h
      cases this; exact ⟨rfl, rfl⟩
    · intro p i h; simp [exQ, State.nodeD] at h
    · intro m hm p i h; rw [exQ_ge m hm] at h; cases h

theorem exQ_not_queued : ∀ m, (exQ.nodeD m).heightInRch = -1 := by
  refine cases3 _ rfl rfl rfl ?_
  intro m hm; rw [exQ_ge m hm]; rfl

theorem exQ_inRch (m : Nat) : (exQ.nodeD m).inRch = false := by
  simp [Node.inRch, exQ_not_queued m]

theorem exQ_bucket (h : Nat) (hh : h < exQ.rch.queues.size) : exQ.rch.queues[h] = [] := by
  have h4 : h < 4 := hh
  match h, hh, h4 with
  | 0, _, _ => rfl
  | 1, _, _ => rfl
  | 2, _, _ => rfl
  | 3, _, _ => rfl

theorem exQ_heapWF : HeapWF exQ where
  mem := by
    intro h hh n
    rw [exQ_bucket h hh]
    constructor
    · intro h'; cases h'
    · intro ⟨_, h'⟩
      rw [exQ_not_queued n] at h'
      omega
  nodup := by intro h hh; rw [exQ_bucket h hh]; exact List.nodup_nil
  length := by decide
  range := by intro n _; exact Or.inl (exQ_not_queued n)

theorem exQ_heap : HeapInv exQ where
  wf := exQ_heapWF
  hgt m h := by rw [exQ_inRch m] at h; cases h
  lb m h := by rw [exQ_inRch m] at h; cases h
  lb0 := by decide
  nec m h := by rw [exQ_inRch m] at h; cases h

theorem exQ_not_stale : ∀ m, exQ.isNecessary m = true → exQ.isStale m = false := by
  refine cases3 _ ?_ ?_ ?_ ?_
  · intro _; decide
  · intro _; decide
  · intro _; decide
  · intro m hm h; rw [State.isNecessary, exQ_ge m hm] at h; cases h

/-- the example state satisfies the quiescent invariant -/
theorem exQ_quietInv : QuietInv exEnv exQ where
  graph := exQ_graph
  heap := exQ_heap
  now := by decide
  stamps := by
    refine cases3 _ ?_ ?_ ?_ ?_
    · decide
    · decide
    · decide
    · intro m hm; rw [exQ_ge m hm]; decide
  varStamp := by
    intro c vc h
    match c with
    | 0 =>
      have h' : some ({ value := .int 1, setAt := 0, node := 0 } : VarCell) = some vc := h
      cases h'; decide
    | c + 1 => simp [exQ] at h
  queued m := by
    constructor
    · intro h; rw [exQ_inRch m] at h; cases h
    · intro ⟨hm, hs⟩; rw [exQ_not_stale m hm] at hs; cases hs
  cons := by
    refine cases3 _ ?_ ?_ ?_ ?_
    · intro _ _; exact ⟨.int 1, ⟨_, rfl, rfl⟩, rfl⟩
    · intro _ _; exact ⟨.int 1, ⟨[.int 1], rfl, rfl⟩, rfl⟩
    · intro _ _; exact ⟨.int 2, ⟨[.int 1, .int 1], rfl, rfl⟩, rfl⟩
    · intro m hm h; rw [State.isNecessary, exQ_ge m hm] at h; cases h
  watch := by
    refine cases3 _ ?_ ?_ ?_ ?_
    · intro c _ hk; cases hk; exact ⟨_, rfl, rfl⟩
    · intro c _ hk; cases hk
    · intro c _ hk; cases hk
    · intro m hm c h; rw [State.isNecessary, exQ_ge m hm] at h; cases h
  cell := by
    intro c vc h _
    match c with
    | 0 =>
      have h' : some ({ value := .int 1, setAt := 0, node := 0 } : VarCell) = some vc := h
      cases h'; rfl
    | c + 1 => simp [exQ] at h
  status := rfl

theorem exQ_idle : Idle exQ where
  newObservers := rfl
  disallowedObservers := rfl
  setDuringStab := rfl
  deadVars := rfl
  handleAfterStab := rfl
  handlers := by
    refine cases3 _ ?_ ?_ ?_ ?_
    · decide
    · decide
    · decide
    · intro m hm; rw [exQ_ge m hm]; decide

/-- a write to the variable of the example returns … -/
theorem exQ_write : ∃ r s1, (writeVar 0 (fun _ => .int 4) true).run.run exQ = (.ok r, s1) :=
  (returned_iff _).1 (by decide +kernel)

/-- … and so does the `stabilise` after it -/
theorem exQ_write_stabilise :
    ∃ s2, (stabilise exEnv 10).run.run ((writeVar 0 (fun _ => .int 4) true).run.run exQ).2 = (.ok (), s2) := by
  have h : returned ((stabilise exEnv 10).run.run
      ((writeVar 0 (fun _ => .int 4) true).run.run exQ).2) = true := by decide +kernel
  obtain ⟨r, s', e⟩ := (returned_iff _).1 h
  exact ⟨s', e⟩

/-- the observed node then reads `4 + 4` -/
example : ((stabilise exEnv 10).run.run ((writeVar 0 (fun _ => .int 4) true).run.run exQ).2).2.value
    exEnv 2 = some (.int 8) := by decide +kernel

end IncrVerif.Proofs.Sched
