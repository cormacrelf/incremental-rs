import IncrVerif.Proofs.PerKeyH88
import IncrVerif.Proofs.PerKeyH96
import IncrVerif.Proofs.PerKeyH102
import IncrVerif.Proofs.PerKeyH105
/-!
# Per-key operators, API actions part 12: **`ActionSpecP env`** — every action of the fragment other than `stabilise`
keeps the invariant between actions (for some rank)
-/
namespace IncrVerif.Proofs.PerKeyH
open IncrVerif.Engine IncrVerif.Driver IncrVerif.Proofs IncrVerif.Proofs.Step IncrVerif.Proofs.Sched
open IncrVerif.Proofs.ExpertH IncrVerif.Proofs.EffH IncrVerif.Proofs.DriverH

theorem PStaticAct.vaction {env : Env} {s : State} {a : Action} (hs : PStaticAct a) (ha : PActionOK env s a) :
    VAction a := by
  cases a <;> first | exact hs.elim | trivial | skip
  rename_i i
  cases i <;> first | exact hs.elim | trivial | skip
  exact Nat.lt_trans ha.1 (by decide)

/-- the run on the virtual state -/
theorem vsim_static {env : Env} {rk : Nat → Nat} {s s' : State} {a : Action} {tk : Array Nat}
    {r : String × Array Nat} (Q : PQ env rk s) (ha : PActionOK env s a) (hs : PStaticAct a)
    (h : (stepAction env a tk).run.run s = (.ok r, s')) :
    (stepAction (penv env) a tk).run.run (V s) = (.ok r, V s') :=
  (VSimAt.stepAction env tk (hs.vaction ha) (fr_of_pfrag Q.frag Q.q.pinv) r s' h).1

/-- **every action of the fragment other than `stabilise` keeps `PQ`** (the rank changes only for `create (.perKey ..)`) -/
theorem actionSpecP (env : Env) : ActionSpecP env := by
  intro rk s s' a tk r Q ha hns h
  by_cases hpk : ∃ cut fam x, a = .create (.perKey cut fam x)
  · obtain ⟨cut, fam, x, rfl⟩ := hpk
    exact action_create_perKey Q ha h
  · have hnp : ∀ cut fam x, a ≠ .create (.perKey cut fam x) := fun cut fam x e => hpk ⟨cut, fam, x, e⟩
    exact ⟨rk, action_static_p Q ha (pstaticAct_of ha hns hnp) (vsim_static Q ha (pstaticAct_of ha hns hnp) h)
      (action_static_slots_pk Q ha hns hnp h) h⟩

end IncrVerif.Proofs.PerKeyH
