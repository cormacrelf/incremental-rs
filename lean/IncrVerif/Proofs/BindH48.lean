import IncrVerif.Proofs.BindH46
/-!
# Binds, fragment F1, part d: frames — what `All1`, child lists, staleness and the rank read (`BL.KeyEq`), `AboveR`
-/
namespace IncrVerif.Proofs.BindH
open IncrVerif.Engine IncrVerif.Proofs IncrVerif.Proofs.Step IncrVerif.Proofs.Sched IncrVerif.Proofs.Quiet

/-- nodes of higher rank than `n` are untouched (the rank version of `Quiet.Above`) -/
def AboveR (s : State) (n : Nat) (s' : State) : Prop := ∀ m, rkOf s n < rkOf s m → s'.nodeD m = s.nodeD m

namespace BL.KeyEq
variable {env : Env} {s s' : State} {dy : List Nat}

theorem rk (E : BL.KeyEq s s') (m : Nat) : rkOf s' m = rkOf s m := rkOf_congr E.size E.binds E.createdIn m

theorem children1 (E : BL.KeyEq s s') (A : All1 env s dy) (m : Nat) : s'.children m = s.children m := by
  by_cases hm : m < s.nodes.size
  · exact children_congr_B (E.kind m) (E.valid m) E.binds (A.node m hm).kind
  · rw [children_default s m (by omega), children_default s' m (by rw [E.size]; omega)]

theorem isStale1 (E : BL.KeyEq s s') (A : All1 env s dy) (m : Nat) : s'.isStale m = s.isStale m := by
  by_cases hm : m < s.nodes.size
  · exact isStale_congr_B (A.node m hm).kind (E.kind m) (E.valid m) (E.recomputedAt m) E.vars E.binds
      (fun c _ => E.changedAt c)
  · rw [isStale_default s m (by omega), isStale_default s' m (by rw [E.size]; omega)]

/-- `All1` only reads kinds, validity, cutoffs, scopes, the bind table and the node count -/
theorem _root_.IncrVerif.Proofs.BindH.All1.congr (A : All1 env s dy)
    (hsz : s'.nodes.size = s.nodes.size) (hbs : s'.binds = s.binds)
    (eK : ∀ m, (s'.nodeD m).kind = (s.nodeD m).kind) (eV : ∀ m, (s'.nodeD m).valid = (s.nodeD m).valid)
    (eCut : ∀ m, (s'.nodeD m).cutoff = (s.nodeD m).cutoff)
    (eC : ∀ m, (s'.nodeD m).createdIn = (s.nodeD m).createdIn)
    (hpc : s'.panicCountdown = none) (hsc : s'.currentScope = .top) : All1 env s' dy := by
  have hch : ∀ m, s'.children m = s.children m := fun m => by
    by_cases hm : m < s.nodes.size
    · exact children_congr_B (eK m) (eV m) hbs (A.node m hm).kind
    · rw [children_default s m (by omega), children_default s' m (by rw [hsz]; omega)]
  refine ⟨hpc, hsc, fun n hn => ?_, ?_, ?_, ?_, ?_⟩
  · have sn := A.node n (by rw [← hsz]; exact hn)
    refine ⟨by rw [eK]; exact sn.kind, by rw [eCut]; exact sn.cutoff, ?_, ?_, ?_, ?_, ?_, ?_, ?_⟩
    · rw [hch, hsz]; exact sn.kidsIn
    · intro c hc; rw [hch] at hc; rw [eV]; exact sn.kidsValid c hc
    · rw [eK, hbs]; exact sn.lcRec
    · rw [eK, hbs]; exact sn.mainRec
    · intro c b hc hk
      rw [hch] at hc
      rw [eK] at hk ⊢
      exact sn.lcChild c b hc hk
    · intro h
      rw [eC] at h
      obtain ⟨h1, h2⟩ := sn.top h
      refine ⟨by rw [eV]; exact h1, ?_⟩
      intro c hc
      rw [hch] at hc
      rw [eC, eK]
      exact h2 c hc
    · intro b h
      rw [eC] at h
      obtain ⟨h1, h2, br, h3, h4, h5⟩ := sn.inScope b h
      refine ⟨by rw [eK]; exact h1, by rw [eK]; exact h2, br, by rw [hbs]; exact h3, h4, ?_⟩
      intro c hc
      rw [hch] at hc
      rw [eC]
      exact h5 c hc
  · intro b br hb
    rw [hbs] at hb
    rw [hsz, eK, eK, eC, eC]
    exact A.recs b br hb
  · intro b br hb m
    rw [hbs] at hb
    rw [hsz, eV, eC]
    exact A.gen b br hb m
  · intro b br hb
    rw [hbs] at hb
    exact A.genDy b br hb
  · intro m hm
    rw [hsz, eC]
    exact A.dyIn m hm


theorem frag1 (E : BL.KeyEq s s') (A : All1 env s dy) (hpc : s'.panicCountdown = none)
    (hsc : s'.currentScope = .top) : All1 env s' dy :=
  A.congr E.size E.binds E.kind E.valid E.cutoff E.createdIn hpc hsc

end BL.KeyEq

end IncrVerif.Proofs.BindH
