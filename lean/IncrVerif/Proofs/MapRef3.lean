import IncrVerif.Proofs.MapRef2
import IncrVerif.Proofs.NodeSim
/-!
# map_ref fragment: the simulation of the engine functions that do not look at `map_ref` nodes

`Sim g x x'`: every successful run of `x` from `s` is matched by a successful run of `x'` from `virt g s`, with the
same result and ending in `virt g` of the final state.  `virt g` is `NodeSim.Relabel.app` of the relabelling `rel g`, and
`(rel g, Fr)` is `NodeSim.Blind`, so `Sim g` of such a function is the forward half of its `NodeSim.Comm`.
-/
namespace IncrVerif.Proofs.MapRefH
open IncrVerif.Engine IncrVerif.Proofs IncrVerif.Proofs.Step IncrVerif.Proofs.Sched IncrVerif.Proofs.Quiet

/-- what the simulation needs to know of the actual state all along: no expert nodes (their edge callbacks
read child values, which differ in the virtual state), no invalid nodes, no pending invalidation -/
structure Fr (s : State) : Prop where
  noExp : ∀ n e, (s.nodeD n).kind ≠ .expert e
  valid : ∀ n, (s.nodeD n).valid = true
  pinv : s.propagateInvalidity = []
  /-- map_ref nodes have the default cutoff (no cutoff closure runs, nothing is logged, in `child_changed`) -/
  cut : ∀ n p i, (s.nodeD n).kind = .mapRef p i → (s.nodeD n).cutoff = .eq

theorem Fr.of_nodes {s s' : State} (h : Fr s) (e : s'.nodes = s.nodes)
    (e2 : s'.propagateInvalidity = s.propagateInvalidity) : Fr s' := by
  have hn : ∀ n, s'.nodeD n = s.nodeD n := fun n => by simp [State.nodeD, e]
  exact ⟨fun n x => by rw [hn]; exact h.noExp n x, fun n => by rw [hn]; exact h.valid n, by rw [e2]; exact h.pinv,
    fun n p i => by rw [hn]; exact h.cut n p i⟩

theorem Fr.some {s : State} (h : Fr s) {n : Nat} {nd : Node} (hn : s.nodes[n]? = some nd) :
    (∀ e, nd.kind ≠ .expert e) ∧ nd.valid = true := by
  have h1 := h.noExp n; have h2 := h.valid n
  rw [nodeD_of_some hn] at h1 h2; exact ⟨h1, h2⟩

def SimAt (g : Nat → Option Val) (s : State) {α} (x x' : M α) : Prop :=
  Fr s → ∀ r s', x.run.run s = (.ok r, s') → x'.run.run (virt g s) = (.ok r, virt g s') ∧ Fr s'

def Sim (g : Nat → Option Val) {α} (x x' : M α) : Prop := ∀ s, SimAt g s x x'

theorem fr_modify {s : State} (hn : Fr s) (n : Nat) (f : Node → Node)
    (hk : ∀ nd, (f nd).kind = nd.kind ∧ (f nd).valid = nd.valid ∧ (f nd).cutoff = nd.cutoff) :
    Fr { s with nodes := s.nodes.modify n f } := by
  refine ⟨fun m e => ?_, fun m => ?_, hn.pinv, fun m p i => ?_⟩
  rotate_left 2
  · rw [nodeD_modify]
    split
    · rw [(hk _).1, (hk _).2.2]; exact hn.cut m p i
    · exact hn.cut m p i
  · rw [nodeD_modify]
    split
    · rw [(hk _).1]; exact hn.noExp m e
    · exact hn.noExp m e
  · rw [nodeD_modify]
    split
    · rw [(hk _).2.1]; exact hn.valid m
    · exact hn.valid m

/-- `virtNode`: the kind, the ghost value on `map_ref` nodes, the flag raised -/
def rel (g : Nat → Option Val) : NodeSim.Relabel where
  kind := fun _ => virtKind
  value := fun i k v => match k with
    | .mapRef _ _ => g i
    | _ => v
  didChange := fun _ _ => true
  cutoff := fun _ c => c
  recomputedAt := fun _ _ r => r
  experts := fun xs => xs
  log := fun l => l

theorem virtNode_eq (g : Nat → Option Val) (xs : NodeSim.Ctx) (i : Nat) (nd : Node) :
    virtNode (g i) nd = (rel g).node xs i nd := by
  rcases nd with ⟨k⟩
  cases k <;> rfl

theorem virt_eq (g : Nat → Option Val) (s : State) : virt g s = (rel g).app s := by
  unfold virt
  simp only [virtNode_eq g (NodeSim.ctx s)]
  rfl

theorem blind (g : Nat → Option Val) : NodeSim.Blind (rel g) Fr where
  default _ _ := rfl
  kind _ k := by
    cases k
    case mapRef p i => exact Or.inr (Or.inl ⟨_, _, rfl, Or.inl ⟨_, rfl⟩⟩)
    all_goals exact Or.inl rfl
  children s m := by rw [← virt_eq]; exact virt_children g s m
  isStale s m := by rw [← virt_eq]; exact virt_isStale g s m
  tick _ := NodeSim.Comm.tick_of fun _ h => h.of_nodes rfl rfl
  of_nodes h e1 e2 _ _ _ := h.of_nodes e1 e2
  modify n f h hk := fr_modify h n f fun nd => ⟨(hk nd).1, (hk nd).2.1, (hk nd).2.2.1⟩
  rmParent c _ h := fr_modify h c _ fun _ => ⟨rfl, rfl, rfl⟩
  invalid h hn hv := absurd (h.some hn).2 (by rw [hv]; decide)

theorem addsParents : NodeSim.AddsParents Fr := fun c _ h => fr_modify h c _ fun _ => ⟨rfl, rfl, rfl⟩

theorem changesNecessity : NodeSim.ChangesNecessity Fr := fun n f h hk =>
  fr_modify h n f fun nd => ⟨(hk nd).1, (hk nd).2.1, (hk nd).2.2.1⟩

theorem noExp : NodeSim.NoExp Fr := fun h hn => (h.some hn).1

theorem obsWork {E : Panic → Prop} (g : Nat → Option Val) : NodeSim.ObsWork E (fun _ : Unit => rel g) fun _ => Fr :=
  .of_noExp noExp

theorem expWork {E : Panic → Prop} {env env' : Env} (g : Nat → Option Val) :
    NodeSim.ExpWork E (fun _ : Unit => rel g) (fun _ => Fr) env env' :=
  .of_noExp noExp env env'

theorem plain (g : Nat → Option Val) : NodeSim.Plain (rel g) := ⟨fun _ _ => rfl, fun _ => rfl, fun _ => rfl⟩

theorem writesExperts : NodeSim.WritesExperts Fr := fun _ _ h => h.of_nodes rfl rfl

section
variable {g : Nat → Option Val}

/-- `SimAt g` is the simulation that need not reproduce any panic -/
theorem simAt_iff {s : State} {α : Type} {x x' : M α} :
    SimAt g s x x' ↔ NodeSim.CommAt (fun _ => False) (rel g).app Fr s x x' := by
  rw [NodeSim.CommAt.fwd_iff]
  unfold SimAt
  simp only [virt_eq]

theorem Sim.of_comm {α : Type} {x x' : M α} (h : NodeSim.Comm (fun _ => False) (rel g).app Fr x x') : Sim g x x' :=
  fun s => simAt_iff.2 (h s)

theorem Sim.comm {α : Type} {x x' : M α} (h : Sim g x x') : NodeSim.Comm (fun _ => False) (rel g).app Fr x x' :=
  fun s => simAt_iff.1 (h s)

end

/-! ## field projections of `virt` -/
section
variable (g : Nat → Option Val) (s : State)
theorem virt_cfg : (virt g s).cfg = s.cfg := rfl
theorem virt_binds : (virt g s).binds = s.binds := rfl
theorem virt_experts : (virt g s).experts = s.experts := rfl
theorem virt_observers : (virt g s).observers = s.observers := rfl
theorem virt_ahh : (virt g s).ahh = s.ahh := rfl
theorem virt_maxHeightSeen : (virt g s).maxHeightSeen = s.maxHeightSeen := rfl
theorem virt_status : (virt g s).status = s.status := rfl
theorem virt_currentScope : (virt g s).currentScope = s.currentScope := rfl
theorem virt_propagateInvalidity : (virt g s).propagateInvalidity = s.propagateInvalidity := rfl
theorem virt_handleAfterStab : (virt g s).handleAfterStab = s.handleAfterStab := rfl
theorem virt_newObservers : (virt g s).newObservers = s.newObservers := rfl
theorem virt_disallowedObservers : (virt g s).disallowedObservers = s.disallowedObservers := rfl
theorem virt_allObservers : (virt g s).allObservers = s.allObservers := rfl
theorem virt_setDuringStab : (virt g s).setDuringStab = s.setDuringStab := rfl
theorem virt_deadVars : (virt g s).deadVars = s.deadVars := rfl
theorem virt_counters : (virt g s).counters = s.counters := rfl
theorem virt_panicCountdown : (virt g s).panicCountdown = s.panicCountdown := rfl
theorem virt_alive : (virt g s).alive = s.alive := rfl
theorem virt_top : (virt g s).top = s.top := rfl
theorem virt_handles : (virt g s).handles = s.handles := rfl
theorem virt_slots : (virt g s).slots = s.slots := rfl
theorem virt_log : (virt g s).log = s.log := rfl
end


section
variable {g : Nat → Option Val}

theorem Sim.dassert (c : Bool) (site : String) : Sim g (Engine.dassert c site) (Engine.dassert c site) :=
  .of_comm (NodeSim.Comm.dassert c site)

theorem Sim.addParent (c i p : Nat) : Sim g (Engine.addParent c i p) (Engine.addParent c i p) :=
  .of_comm (NodeSim.Comm.addParent (blind g) addsParents c i p)

theorem Sim.setHeight (n : Nat) (h : Int) : Sim g (Engine.setHeight n h) (Engine.setHeight n h) :=
  .of_comm (NodeSim.Comm.setHeight (blind g) n h)

theorem Sim.observabilityChange (e : Nat) (b : Bool) :
    Sim g (Engine.observabilityChange e b) (Engine.observabilityChange e b) :=
  .of_comm (NodeSim.Comm.observabilityChange (blind g) (plain g) writesExperts e b)

theorem Sim.handleAfterStabilisation (n : Nat) :
    Sim g (Engine.handleAfterStabilisation n) (Engine.handleAfterStabilisation n) :=
  .of_comm (NodeSim.Comm.handleAfterStabilisation (blind g) n)

theorem Sim.removeParent (c i p : Nat) : Sim g (Engine.removeParent c i p) (Engine.removeParent c i p) :=
  .of_comm (NodeSim.Comm.removeParent (blind g) c i p)

theorem Sim.rchRemoveMin : Sim g Engine.rchRemoveMin Engine.rchRemoveMin :=
  .of_comm (NodeSim.Comm.rchRemoveMin (blind g))

theorem Sim.rchMinHeight : Sim g Engine.rchMinHeight Engine.rchMinHeight :=
  .of_comm (NodeSim.Comm.rchMinHeight (blind g))

theorem Sim.unlink (fuel : Nat) :
    (∀ n, Sim g (becameUnnecessary fuel n) (becameUnnecessary fuel n)) ∧
    (∀ n, Sim g (checkIfUnnecessary fuel n) (checkIfUnnecessary fuel n)) ∧
    (∀ n, Sim g (removeChildren fuel n) (removeChildren fuel n)) :=
  ⟨fun n => .of_comm (NodeSim.Comm.becameUnnecessary (blind g) (obsWork g) fuel n),
    fun n => .of_comm (NodeSim.Comm.checkIfUnnecessary (blind g) (obsWork g) fuel n),
    fun n => .of_comm (NodeSim.Comm.removeChildren (blind g) (obsWork g) fuel n)⟩

theorem Sim.becameUnnecessary (fuel n : Nat) :
    Sim g (Engine.becameUnnecessary fuel n) (Engine.becameUnnecessary fuel n) :=
  (Sim.unlink fuel).1 n

theorem Sim.checkIfUnnecessary (fuel n : Nat) :
    Sim g (Engine.checkIfUnnecessary fuel n) (Engine.checkIfUnnecessary fuel n) :=
  (Sim.unlink fuel).2.1 n

theorem Sim.removeChildren (fuel n : Nat) :
    Sim g (Engine.removeChildren fuel n) (Engine.removeChildren fuel n) :=
  (Sim.unlink fuel).2.2 n

theorem Sim.propagateInvalidity (fuel : Nat) :
    Sim g (Engine.propagateInvalidity fuel) (Engine.propagateInvalidity fuel) :=
  .of_comm (NodeSim.Comm.propagateInvalidity (fun _ h => h.pinv) fuel)

theorem Sim.parentIterCanRecomputeNow (p child : Nat) :
    Sim g (Engine.parentIterCanRecomputeNow p child) (Engine.parentIterCanRecomputeNow p child) :=
  .of_comm (NodeSim.Comm.parentIterCanRecomputeNow (blind g) p child)

theorem Sim.unlinkDisallowedObservers (fuel : Nat) :
    Sim g (Engine.unlinkDisallowedObservers fuel) (Engine.unlinkDisallowedObservers fuel) :=
  .of_comm (NodeSim.Comm.unlinkDisallowedObservers (blind g) changesNecessity (obsWork g) fuel)

theorem Sim.didSetVarWhileNotStabilising (v : Nat) :
    Sim g (Engine.didSetVarWhileNotStabilising v) (Engine.didSetVarWhileNotStabilising v) :=
  .of_comm (NodeSim.Comm.didSetVarWhileNotStabilising (blind g) v)

theorem Sim.writeVar (v : Nat) (f : Val → Val) (isSet : Bool) :
    Sim g (Engine.writeVar v f isSet) (Engine.writeVar v f isSet) :=
  .of_comm (NodeSim.Comm.writeVar (blind g) v f isSet)

end
end IncrVerif.Proofs.MapRefH
