import IncrVerif.Proofs.TidyH21
/-!
# T3a part 5: `subscribe`, `unsubscribe`, `stateUnsub` return
-/
namespace IncrVerif.Proofs.TidyH.SubsT
open IncrVerif.Engine IncrVerif.Driver IncrVerif.Proofs IncrVerif.Proofs.Step IncrVerif.Proofs.Sched
open IncrVerif.Proofs.Quiet

/-- the frame of the subscription actions, with the adjust-heights heap -/
def HFa (s s' : State) : Prop := SubsH.P9.HF s s' ∧ s'.ahh = s.ahh

theorem HFa.refl (s : State) : HFa s s := ⟨SubsH.P9.HF.refl s, rfl⟩
theorem HFa.trans {a b c : State} (h1 : HFa a b) (h2 : HFa b c) : HFa a c :=
  ⟨h1.1.trans h2.1, h2.2.trans h1.2⟩

theorem HFa.tinv {N : Nat} {s s' : State} (F : HFa s s') (T : TInv N s) : TInv N s' := tinv_of_hf T F.1 F.2

theorem HFa.sizes {s s' : State} (F : HFa s s') :
    s'.nodes.size = s.nodes.size ∧ s'.vars.size = s.vars.size ∧ s'.observers.size = s.observers.size :=
  ⟨F.1.size, by rw [F.1.vars], F.1.obsSize⟩

/-- `handleAfterStabilisation` of an existing node returns, within the frame -/
theorem has_total {n : Nat} {s : State} (hn : n < s.nodes.size) :
    Tot (handleAfterStabilisation n) s (fun _ s' => HFa s s') := by
  obtain ⟨s', h⟩ := has_ok (n := n) (s := s) hn
  refine Tot.of_ok h ?_
  rcases has_cases h with e | e
  · rw [e]; exact HFa.refl s
  · rw [e]; exact ⟨SubsH.P9.HF.of_hasMarked s n, rfl⟩

/-- **`subscribe` returns** when the observer exists -/
theorem subscribe_total {env : Env} {s : State} {o hid : Nat} (Q : SubsH.QInv env s)
    (ho : o < s.observers.size) : Tot (subscribe o hid) s (fun _ s' => HFa s s') := by
  have h0 : s.observers[o]? = some s.observers[o] := Array.getElem?_eq_getElem ho
  generalize s.observers[o] = ob at h0
  have hlt : ob.node < s.nodes.size := Q.obs.inRange o ob h0
  unfold subscribe
  refine Tot.bind_get ?_
  rw [if_neg (by rw [Q.alive]; decide)]
  refine P23.Tot.bind_getObs h0 ?_
  cases hst : ob.state with
  | disallowed => exact Tot.pure (HFa.refl s)
  | unlinked => exact Tot.pure (HFa.refl s)
  | created =>
    dsimp only
    refine Tot.bind_modify ?_
    refine P23.Tot.bind_modObs ?_
    rw [if_neg (by decide)]
    have F3 : HFa s { ({ s with nextToken := s.nextToken + 1 } : State) with
        observers := s.observers.modify o fun x =>
          { x with handlers := x.handlers ++ [{ token := s.nextToken, hid := hid, createdAt := s.stabNum }] } } :=
      ⟨(SubsH.P9.HF.of_nextToken s 1).trans (SubsH.P9.HF.of_modObs _ o _), rfl⟩
    refine Tot.bind (has_total (by exact hlt)) ?_
    intro _ s4 _ F4
    exact Tot.pure (F3.trans F4)
  | inUse =>
    dsimp only
    refine Tot.bind_modify ?_
    refine P23.Tot.bind_modObs ?_
    rw [if_pos (by decide)]
    refine Tot.bind_modNode ?_
    have F3 : HFa s { ({ ({ s with nextToken := s.nextToken + 1 } : State) with
        observers := s.observers.modify o fun x =>
          { x with handlers := x.handlers ++ [{ token := s.nextToken, hid := hid, createdAt := s.stabNum }] } } :
          State) with
        nodes := s.nodes.modify ob.node fun x => { x with numOnUpdateHandlers := x.numOnUpdateHandlers + 1 } } :=
      ⟨((SubsH.P9.HF.of_nextToken s 1).trans (SubsH.P9.HF.of_modObs _ o _)).trans
        (SubsH.P9.HF.of_modNode _ _ _), rfl⟩
    refine Tot.bind (has_total (by rw [Array.size_modify]; exact hlt)) ?_
    intro _ s4 _ F4
    exact Tot.pure (F3.trans F4)

/-- **`unsubscribe` returns** when the owner of the token exists -/
theorem unsubscribe_total {s : State} {o t owner : Nat} (ho : owner < s.observers.size) :
    Tot (unsubscribe o t owner) s (fun _ s' => HFa s s') := by
  unfold unsubscribe
  split
  · exact Tot.pure (HFa.refl s)
  rename_i hne
  have hown : owner = o := by simpa using hne
  rw [hown] at ho
  have h0 : s.observers[o]? = some s.observers[o] := Array.getElem?_eq_getElem ho
  generalize s.observers[o] = ob at h0
  refine P23.Tot.bind_getObs h0 ?_
  cases hst : ob.state with
  | disallowed => exact Tot.pure (HFa.refl s)
  | unlinked => exact Tot.pure (HFa.refl s)
  | created =>
    dsimp only
    refine P23.Tot.bind_modObs ?_
    rw [if_neg (by simp)]
    exact Tot.pure ⟨SubsH.P9.HF.of_modObs s o _, rfl⟩
  | inUse =>
    dsimp only
    refine P23.Tot.bind_modObs ?_
    split
    · refine Tot.bind_modNode ?_
      exact Tot.pure ⟨(SubsH.P9.HF.of_modObs s o _).trans (SubsH.P9.HF.of_modNode _ _ _), rfl⟩
    · exact Tot.pure ⟨SubsH.P9.HF.of_modObs s o _, rfl⟩

/-- the token table names existing observers -/
def TokIn (tk : Array Nat) (s : State) : Prop := ∀ (t o : Nat), tk[t]? = some o → o < s.observers.size

theorem TokIn.mono {tk : Array Nat} {s s' : State} (h : TokIn tk s) (hsz : s.observers.size ≤ s'.observers.size) :
    TokIn tk s' := fun t o ht => Nat.lt_of_lt_of_le (h t o ht) hsz

theorem TokIn.push {tk : Array Nat} {s : State} {o : Nat} (h : TokIn tk s) (ho : o < s.observers.size) :
    TokIn (tk.push o) s := by
  intro t o' ht
  rw [Array.getElem?_push] at ht
  split at ht
  · cases ht; exact ho
  · exact h t o' ht

/-- the three subscription actions -/
def SubsOnly : Action → Prop
  | .subscribe _ _ | .unsubscribe _ _ | .stateUnsub _ => True
  | _ => False

/-- what a subscription action needs: `subscribe` names an existing observer (`unsubscribe` and `stateUnsub`
look the owner up in the token table, whose entries exist) -/
def SubsOK (s : State) : Action → Prop
  | .subscribe o _ => o < s.observers.size
  | _ => True

theorem subs_total {env : Env} {N : Nat} {s : State} {a : Action} {tk : Array Nat}
    (Q : SubsH.QInv env s) (T : TInv N s) (K : TokIn tk s) (ha : SubsOnly a) (hok : SubsOK s a) :
    Tot (stepAction env a tk) s (fun r s' => TokIn r.2 s' ∧ TInv N s' ∧ Grown a s s') := by
  cases a <;> try exact ha.elim
  case subscribe o hid =>
    simp only [stepAction]
    refine Tot.bind (subscribe_total (hid := hid) Q hok) ?_
    intro r s1 _ F
    have hz := F.sizes
    cases r with
    | ok t =>
      refine Tot.pure ⟨?_, F.tinv T, P27.Grown_same rfl hz.1 hz.2.1 hz.2.2⟩
      exact (K.push hok).mono (Nat.le_of_eq hz.2.2.symm)
    | error e =>
      exact Tot.pure ⟨K.mono (Nat.le_of_eq hz.2.2.symm), F.tinv T, P27.Grown_same rfl hz.1 hz.2.1 hz.2.2⟩
  case unsubscribe o t =>
    simp only [stepAction]
    cases ht : tk[t]? with
    | none => exact Tot.pure ⟨K, T, P27.Grown_same rfl rfl rfl rfl⟩
    | some owner =>
      dsimp only
      refine Tot.bind (unsubscribe_total (o := o) (t := t) (K t owner ht)) ?_
      intro r s1 _ F
      have hz := F.sizes
      cases r with
      | ok u =>
        cases u
        exact Tot.pure ⟨K.mono (Nat.le_of_eq hz.2.2.symm), F.tinv T, P27.Grown_same rfl hz.1 hz.2.1 hz.2.2⟩
      | error e =>
        exact Tot.pure ⟨K.mono (Nat.le_of_eq hz.2.2.symm), F.tinv T, P27.Grown_same rfl hz.1 hz.2.1 hz.2.2⟩
  case stateUnsub t =>
    simp only [stepAction]
    cases ht : tk[t]? with
    | none => exact Tot.pure ⟨K, T, P27.Grown_same rfl rfl rfl rfl⟩
    | some owner =>
      dsimp only
      refine Tot.bind_get ?_
      split
      · refine Tot.bind (P27.discard_total (unsubscribe_total (o := owner) (t := t) (K t owner ht))) ?_
        intro _ s1 _ F
        have hz := F.sizes
        exact Tot.pure ⟨K.mono (Nat.le_of_eq hz.2.2.symm), F.tinv T, P27.Grown_same rfl hz.1 hz.2.1 hz.2.2⟩
      · exact Tot.pure ⟨K, T, P27.Grown_same rfl rfl rfl rfl⟩

end IncrVerif.Proofs.TidyH.SubsT
