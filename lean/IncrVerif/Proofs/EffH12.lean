import IncrVerif.Proofs.EffH11
/-!
# Effects, part 12 (V3): the subscription invariant does not read deferred writes; the var phase of `stabiliseEnd`
and the handlers' immediate writes keep it
-/
namespace IncrVerif.Proofs.EffH
open IncrVerif.Engine IncrVerif.Driver IncrVerif.Proofs IncrVerif.Proofs.Step IncrVerif.Proofs.Sched
open IncrVerif.Proofs.Quiet

/-- `SubsH.QInv` does not read `pending`, `log` (it does require an empty stack) -/
theorem SameP.e12_obsInv {s s' : State} (h : SameP s s') {pn pd : List Nat} (O : SubsH.ObsInv s pn pd) :
    SubsH.ObsInv s' pn pd where
  inRange o ob ho := by rw [h.observers] at ho; rw [h.nodes]; exact O.inRange o ob ho
  mem n o := by rw [h.nodeD, h.observers]; exact O.mem n o
  created o ob ho := by rw [h.observers] at ho; exact O.created o ob ho
  newIn o ho := by rw [h.observers]; exact O.newIn o ho
  dis o ob ho := by rw [h.observers] at ho; exact O.dis o ob ho
  disIn o ho := by rw [h.observers]; exact O.disIn o ho
  disNodup := O.disNodup

theorem SameP.qinvU {s s' : State} (h : SameP s s') {env : Env} (Q : SubsH.QInv env s)
    (hs : s'.setDuringStab = []) : SubsH.QInv env s' where
  struct := h.struct Q.struct
  vars := h.varsOK Q.vars
  obs := by
    have := h.e12_obsInv Q.obs
    unfold SubsH.ObsOK
    rw [h.newObservers, h.disallowedObservers]; exact this
  now := by rw [h.stabNum]; exact Q.now
  stamps m := by rw [h.nodeD, h.stabNum]; exact Q.stamps m
  varStamp c vc hc := by
    obtain ⟨a, ha, hab⟩ := h.cell' c vc hc
    rw [hab.setAt, h.stabNum]; exact Q.varStamp c a ha
  cons m hm hst := by
    rw [h.nodes] at hm; rw [h.staleOf] at hst
    exact h.consistent (Q.cons m hm hst)
  status := by rw [h.status]; exact Q.status
  alive := by rw [h.alive]; exact Q.alive
  setDuringStab := hs
  deadVars := by rw [h.deadVars]; exact Q.deadVars
  pinv := by rw [h.propagateInvalidity]; exact Q.pinv
  top k n hk := by rw [h.top] at hk; rw [h.nodes]; exact Q.top k n hk

/-- the handler bookkeeping does not read `vars`, `setDuringStab`, `log` -/
theorem SameP.hinv {s s' : State} (h : SameP s s') (H : SubsH.HInv s) : SubsH.HInv s' :=
  H.of_nodes h.observers (by rw [h.eq]) h.stabNum h.handleAfterStab h.nodes

/-- everything `SubsH.QInv` may read apart from the nodes and the observer records -/
def coreQ (s : State) : State :=
  { s with observers := #[], nodes := #[], memos := [], log := [], counters := ({} : Counters),
           handleAfterStab := [], currentlyRunning := none, nextToken := 0 }

/-- `SubsH.QInv` only reads `node`/`state` of observer records, and neither `memos`, `log`, `counters`,
`handleAfterStab`, `currentlyRunning`, `nextToken` nor the flags `inHandleAfterStab` -/
theorem qinvU_congr {env : Env} {s s' : State} (Q : SubsH.QInv env s) (heq : coreQ s' = coreQ s)
    (hsz : s'.nodes.size = s.nodes.size)
    (hnode : ∀ m, ∃ b, s'.nodeD m = { s.nodeD m with inHandleAfterStab := b })
    (hosz : s'.observers.size = s.observers.size)
    (hobs : ∀ (o : Nat) (ob : ObsRec), s.observers[o]? = some ob →
      ∃ ob', s'.observers[o]? = some ob' ∧ ob'.node = ob.node ∧ ob'.state = ob.state) :
    SubsH.QInv env s' := by
  have hE : ∀ m, NodeG (s.nodeD m) (s'.nodeD m) ∧ (s'.nodeD m).value = (s.nodeD m).value := by
    intro m
    obtain ⟨b, hb⟩ := hnode m
    rw [hb]
    exact ⟨⟨rfl, rfl, rfl, rfl, rfl, rfl, rfl, rfl, rfl, rfl, rfl⟩, rfl⟩
  have evars : s'.vars = s.vars := (congrArg State.vars heq :)
  have G : SameG s s' := ⟨(congrArg State.panicCountdown heq :), (congrArg State.currentScope heq :), hsz,
    (congrArg State.rch heq :), evars, fun m => (hE m).1⟩
  have hno : s'.newObservers = s.newObservers := (congrArg State.newObservers heq :)
  have hdo : s'.disallowedObservers = s.disallowedObservers := (congrArg State.disallowedObservers heq :)
  have estab : s'.stabNum = s.stabNum := (congrArg State.stabNum heq :)
  have hback : ∀ (o : Nat) (ob' : ObsRec), s'.observers[o]? = some ob' →
      ∃ ob, s.observers[o]? = some ob ∧ ob'.node = ob.node ∧ ob'.state = ob.state := by
    intro o ob' ho
    have hlt : o < s.observers.size := hosz ▸ lt_of_getElem? ho
    obtain ⟨ob, hob⟩ := e2_some_of_lt hlt
    obtain ⟨ob2, h2, h3, h4⟩ := hobs o ob hob
    rw [ho] at h2; cases h2
    exact ⟨ob, hob, h3, h4⟩
  refine ⟨Q.struct.congr G, ⟨?_, ?_⟩, ?_, by rw [estab]; exact Q.now, ?_, ?_, ?_,
    (congrArg State.status heq).trans Q.status, (congrArg State.alive heq).trans Q.alive,
    (congrArg State.setDuringStab heq).trans Q.setDuringStab, (congrArg State.deadVars heq).trans Q.deadVars,
    (congrArg State.propagateInvalidity heq).trans Q.pinv, ?_⟩
  · intro n c hlt hk; rw [(hE n).1.kind] at hk; rw [evars]; exact Q.vars.node n c (by rw [← hsz]; exact hlt) hk
  · intro c vc hc; rw [evars] at hc; rw [hsz, (hE _).1.kind]; exact Q.vars.cell c vc hc
  · unfold SubsH.ObsOK
    rw [hno, hdo]
    have o2 := Q.obs
    refine ⟨?_, ?_, ?_, ?_, ?_, ?_, o2.disNodup⟩
    · intro o ob' ho
      obtain ⟨ob, hob, h3, -⟩ := hback o ob' ho
      rw [hsz, h3]; exact o2.inRange o ob hob
    · intro n o
      rw [(hE n).1.observers, o2.mem n o]
      constructor
      · rintro ⟨ob, hob, h1, h2⟩
        obtain ⟨ob', h3, h4, h5⟩ := hobs o ob hob
        exact ⟨ob', h3, by rw [h4]; exact h1, by rw [h5]; exact h2⟩
      · rintro ⟨ob', hob', h1, h2⟩
        obtain ⟨ob, h3, h4, h5⟩ := hback o ob' hob'
        exact ⟨ob, h3, by rw [← h4]; exact h1, by rw [← h5]; exact h2⟩
    · intro o ob' ho hc
      obtain ⟨ob, hob, -, h4⟩ := hback o ob' ho
      exact o2.created o ob hob (by rw [← h4]; exact hc)
    · intro o ho
      obtain ⟨ob, hob⟩ := o2.newIn o ho
      obtain ⟨ob', h3, -⟩ := hobs o ob hob
      exact ⟨ob', h3⟩
    · intro o ob' ho
      obtain ⟨ob, hob, -, h4⟩ := hback o ob' ho
      rw [h4]; exact o2.dis o ob hob
    · intro o ho
      obtain ⟨ob, hob⟩ := o2.disIn o ho
      obtain ⟨ob', h3, -⟩ := hobs o ob hob
      exact ⟨ob', h3⟩
  · intro m
    rw [(hE m).1.recomputedAt, (hE m).1.changedAt, estab]; exact Q.stamps m
  · intro c vc hc
    rw [evars] at hc; rw [estab]; exact Q.varStamp c vc hc
  · intro m hm hs
    rw [G.staleOf] at hs
    obtain ⟨w, hw, hv⟩ := Q.cons m (by rw [← hsz]; exact hm) hs
    exact ⟨w, Target.congr (hE m).1.kind evars (fun c _ => (hE c).2) hw, by rw [(hE m).2]; exact hv⟩
  · intro k n hk
    have : s'.top = s.top := (congrArg State.top heq :)
    rw [this] at hk
    rw [hsz]; exact Q.top k n hk

/-- one deferred write applied by the var phase of `stabiliseEnd` keeps the subscription invariant (read with the
status reset) -/
theorem applyPending_qU {env : Env} {v : Nat} {b c : State} {u : Unit} (Q : SubsH.QInv env (quiet b))
    (h : (applyPending v).run.run b = (.ok u, c)) : SubsH.QInv env (quiet c) ∧ Applied b c := by
  rw [applyPending_run] at h
  cases hv : b.vars[v]? with
  | none => rw [hv] at h; cases h
  | some vc =>
    simp only [hv] at h
    cases hp : vc.pending with
    | none =>
      simp only [hp] at h; cases h
      exact ⟨Q, Applied.refl _⟩
    | some x =>
      simp only [hp] at h
      have hv1 := withCell_get v { vc with pending := none, value := x } vc b hv
      obtain ⟨hc, -, hh⟩ := e6_didSet_ok v _ _ _ _ hv1 h
      have hv0 : (quiet (withCell v { vc with pending := none } b)).vars[v]? = some { vc with pending := none } :=
        withCell_get v { vc with pending := none } vc b hv
      have P : SameP (quiet b) (quiet (withCell v { vc with pending := none } b)) := by
        refine ⟨rfl, by simp [quiet, withCell], fun w a ha => ?_⟩
        by_cases hw : w = v
        · subst hw
          have ha' : b.vars[w]? = some a := ha
          rw [hv] at ha'; cases ha'
          exact ⟨_, hv0, rfl⟩
        · exact ⟨a, by rw [← ha]; exact withCell_get_ne v w _ b hw, CellP.refl a⟩
      have Q0 : SubsH.QInv env (quiet (withCell v { vc with pending := none } b)) :=
        P.qinvU Q Q.setDuringStab
      obtain ⟨-, Q1⟩ := SubsH.wroteOutside_q x Q0 hv0 hh
      have e : quiet c = wroteOutside v { vc with pending := none } x
          (quiet (withCell v { vc with pending := none } b)) := by
        rw [hc, e6_quiet_didSetFinal, ← e6_didSetFinal_wrote]
        have : quiet (withCell v { vc with pending := none, value := x } b) =
            withCell v { vc with pending := none, value := x }
              (quiet (withCell v { vc with pending := none } b)) := by
          rw [← withCell_withCell v { vc with pending := none } { vc with pending := none, value := x } b]
          rfl
        rw [this]
      rw [e]
      refine ⟨Q1, ?_⟩
      rw [hc]
      exact (e6_applied_withCell v _ b).trans (e6_applied_didSetFinal v _ _)

theorem applyAll_qU {env : Env} : ∀ (stack : List Nat) (b c : State) (u : Unit), SubsH.QInv env (quiet b) →
    (applyAll stack).run.run b = (.ok u, c) → SubsH.QInv env (quiet c) ∧ Applied b c := by
  intro stack
  induction stack with
  | nil =>
    intro b c u Q h
    cases h
    exact ⟨Q, Applied.refl _⟩
  | cons v vs ih =>
    intro b c u Q h
    simp only [applyAll] at h
    obtain ⟨u1, s1, h1, h2⟩ := bind_ok_inv h
    obtain ⟨Q1, A1⟩ := applyPending_qU Q h1
    obtain ⟨Q2, A2⟩ := ih s1 c u Q1 h2
    exact ⟨Q2, A1.trans A2⟩

/-- `s'` is `s` after some immediate writes issued by handlers: only `vars`, the heap markers of nodes, the recompute
heap, the counters and the log differ; only `note`s were logged -/
structure AppliedL (s s' : State) : Prop where
  eq : s' = { s with vars := s'.vars, nodes := s'.nodes, rch := s'.rch, counters := s'.counters, log := s'.log }
  size : s'.nodes.size = s.nodes.size
  node : ∀ m, ∃ h, s'.nodeD m = { s.nodeD m with heightInRch := h }
  vsize : s'.vars.size = s.vars.size
  log : ∃ new, s'.log = new ++ s.log ∧ ∀ e, e ∈ new → ∃ str, e = .note str

theorem AppliedL.refl (s : State) : AppliedL s s :=
  ⟨rfl, rfl, fun _ => ⟨_, rfl⟩, rfl, ⟨[], rfl, fun e he => by cases he⟩⟩
theorem AppliedL.trans {a b c : State} (h1 : AppliedL a b) (h2 : AppliedL b c) : AppliedL a c where
  eq := by rw [h2.eq, h1.eq]
  size := h2.size.trans h1.size
  node m := by
    obtain ⟨x, hx⟩ := h1.node m
    obtain ⟨y, hy⟩ := h2.node m
    exact ⟨y, by rw [hy, hx]⟩
  vsize := h2.vsize.trans h1.vsize
  log := by
    obtain ⟨n1, e1, p1⟩ := h1.log
    obtain ⟨n2, e2, p2⟩ := h2.log
    refine ⟨n2 ++ n1, by rw [e2, e1, List.append_assoc], fun e he => ?_⟩
    rcases List.mem_append.1 he with he | he
    · exact p2 e he
    · exact p1 e he

/-! ## one immediate write -/

theorem e12_quiet_wroteOutside (v : Nat) (vc : VarCell) (x : Val) (s : State) :
    quiet (wroteOutside v vc x s) = wroteOutside v vc x (quiet s) := by
  unfold wroteOutside
  by_cases h2 : s.stabNum ≤ vc.setAt
  · rw [if_pos h2, if_pos (show (quiet s).stabNum ≤ vc.setAt from h2)]; rfl
  · rw [if_neg h2, if_neg (show ¬ (quiet s).stabNum ≤ vc.setAt from h2)]
    by_cases h4 : ((s.nodeD vc.node).valid && s.isNecessary vc.node && !(s.nodeD vc.node).inRch) = true
    · rw [if_pos h4, if_pos (show (((quiet s).nodeD vc.node).valid && (quiet s).isNecessary vc.node &&
        !((quiet s).nodeD vc.node).inRch) = true from h4)]; rfl
    · rw [if_neg h4, if_neg (show ¬ (((quiet s).nodeD vc.node).valid && (quiet s).isNecessary vc.node &&
        !((quiet s).nodeD vc.node).inRch) = true from h4)]; rfl

theorem e12_applied_wroteOutside (v : Nat) (vc : VarCell) (x : Val) (s : State) :
    Applied s (wroteOutside v vc x s) := by
  rw [← e6_didSetFinal_wrote]
  exact (e6_applied_withCell v _ s).trans (e6_applied_didSetFinal v _ _)

theorem e12_appliedL_logged {s t : State} (A : Applied s t) (es : List Event)
    (hes : ∀ e, e ∈ es → ∃ str, e = .note str) : AppliedL s (logged es t) where
  eq := by
    have hl : t.log = s.log := by rw [A.eq]
    show logged es t =
      { s with vars := t.vars, nodes := t.nodes, rch := t.rch, counters := t.counters, log := es ++ t.log }
    rw [hl]
    conv => lhs; rw [A.eq]
    rfl
  size := A.size
  node := A.node
  vsize := A.vsize
  log := ⟨es, by
    have : t.log = s.log := by rw [A.eq]
    show es ++ t.log = es ++ s.log
    rw [this], hes⟩

theorem e12_effNote_notes (e : Effect) (old : Val) : ∀ ev, ev ∈ effNote e old → ∃ str, ev = .note str := by
  intro ev hev
  cases e <;> simp only [effNote, List.mem_cons, List.not_mem_nil, or_false] at hev <;>
    first | exact hev.elim | exact ⟨_, hev⟩

theorem e12_sameP_logged (es : List Event) (s : State) : SameP s (logged es s) :=
  ⟨rfl, rfl, fun _ a h => ⟨a, h, CellP.refl a⟩⟩

/-- everything we need about one immediate write followed by a log entry -/
theorem e12_wrote {env0 : Env} {s : State} {v : Nat} {vc : VarCell} (f : Val → Val) (es : List Event)
    (hes : ∀ e, e ∈ es → ∃ str, e = .note str)
    (hh : HandlesOK s) (Q : SubsH.QInv env0 (quiet s)) (hv : s.vars[v]? = some vc)
    (hht : vc.setAt < s.stabNum →
      ((s.nodeD vc.node).valid && s.isNecessary vc.node && !(s.nodeD vc.node).inRch) = true →
      0 ≤ (s.nodeD vc.node).height ∧ (s.nodeD vc.node).height ≤ s.rch.maxAllowed) :
    let s1 := logged es (wroteOutside v vc (f vc.value) s)
    s1.status = s.status ∧ s1.stabNum = s.stabNum ∧ SubsH.QInv env0 (quiet s1) ∧ AppliedL s s1 ∧ HandlesOK s1 ∧
    (∀ (w : Nat) (c : VarCell), s.vars[w]? = some c →
      s1.vars[w]? = some (cellAfter s.stabNum (writesTo w [(v, f)]) c)) := by
  intro s1
  have hfr := wroteOutside_frame v vc (f vc.value) s
  have hvars := wroteOutside_vars v vc (f vc.value) s hv
  have hle : vc.setAt ≤ s.stabNum := Q.varStamp v vc hv
  have hset : (if vc.setAt < s.stabNum then s.stabNum else vc.setAt) = s.stabNum := by
    split <;> omega
  rw [hset] at hvars
  have hv1 : s1.vars[v]? = some { vc with value := f vc.value, setAt := s.stabNum } := hvars.1
  have hother : ∀ w, w ≠ v → s1.vars[w]? = s.vars[w]? := hvars.2
  refine ⟨hfr.2.1, hfr.1, ?_, e12_appliedL_logged (e12_applied_wroteOutside v vc _ s) es hes, ?_, ?_⟩
  · have Q1 : SubsH.QInv env0 (wroteOutside v vc (f vc.value) (quiet s)) :=
      (SubsH.wroteOutside_q (f vc.value) Q (show (quiet s).vars[v]? = some vc from hv) hht).2
    rw [← e12_quiet_wroteOutside] at Q1
    exact (e12_sameP_logged es _).qinvU Q1 Q1.setDuringStab
  · intro w c hc
    by_cases hw : w = v
    · subst hw
      rw [hv1] at hc; cases hc
      exact hh w vc hv
    · rw [hother w hw] at hc; exact hh w c hc
  · intro w c hc
    by_cases hw : w = v
    · subst hw
      rw [hv] at hc; cases hc
      rw [hv1, e2_writesTo_single_self]
      rfl
    · rw [hother w hw, e2_writesTo_single_ne f (Ne.symm hw)]
      exact hc

theorem e12_write_core (v : Nat) (f : Val → Val) (isSet : Bool) (k : Val → M Unit) (note : Val → List Event)
    (hk : ∀ x s, (k x).run.run s = (.ok (), logged (note x) s)) {s s1 : State} {u : Unit}
    (hst : s.status ≠ .stabilising) (hh : HandlesOK s)
    (h : (withVarHandle v (writeVar v f isSet >>= k)).run.run s = (.ok u, s1)) :
    ∃ vc, s.vars[v]? = some vc ∧ s1 = logged (note vc.value) (wroteOutside v vc (f vc.value) s) ∧
      (vc.setAt < s.stabNum →
        ((s.nodeD vc.node).valid && s.isNecessary vc.node && !(s.nodeD vc.node).inRch) = true →
        0 ≤ (s.nodeD vc.node).height ∧ (s.nodeD vc.node).height ≤ s.rch.maxAllowed) := by
  rw [e2_run_withVarHandle _ _ _ hh] at h
  obtain ⟨a, s2, h1, h2⟩ := bind_ok_inv h
  cases hv : s.vars[v]? with
  | none =>
    exfalso
    unfold writeVar at h1
    obtain ⟨a', s3, h3, -⟩ := bind_ok_inv h1
    rw [run_getVar, hv] at h3
    cases h3
  | some vc =>
    obtain ⟨ha, hs2, -, -, hht⟩ := writeVar_outside_ok v f isSet s s2 vc a hv hst h1
    refine ⟨vc, rfl, ?_, hht⟩
    rw [hk] at h2
    cases h2
    rw [ha, hs2]

/-- one write effect outside the drain: the written cell exists, the final state is `immStep` -/
theorem e12_runEffectBasic_imm {env : Env} {e : Effect} {s s1 : State} {u : Unit}
    (hst : s.status ≠ .stabilising) (hw : (effWrite e).isSome = true) (hh : HandlesOK s)
    (h : (runEffectBasic env e).run.run s = (.ok u, s1)) :
    ∃ v f vc, effWrite e = some (v, f) ∧ s.vars[v]? = some vc ∧
      s1 = logged (effNote e vc.value) (wroteOutside v vc (f vc.value) s) ∧
      (vc.setAt < s.stabNum →
        ((s.nodeD vc.node).valid && s.isNecessary vc.node && !(s.nodeD vc.node).inRch) = true →
        0 ≤ (s.nodeD vc.node).height ∧ (s.nodeD vc.node).height ≤ s.rch.maxAllowed) := by
  cases e <;> first | (exact Bool.noConfusion hw) | skip
  case setVar v x =>
    unfold runEffectBasic at h
    simp only [e2_discard_eq] at h
    obtain ⟨vc, hv, e1, hht⟩ := e12_write_core v _ _ _ (fun _ => []) (fun _ _ => rfl) hst hh h
    exact ⟨v, _, vc, rfl, hv, e1, hht⟩
  case modifyVar v d =>
    unfold runEffectBasic at h
    simp only [e2_discard_eq] at h
    obtain ⟨vc, hv, e1, hht⟩ := e12_write_core v _ _ _ (fun _ => []) (fun _ _ => rfl) hst hh h
    exact ⟨v, _, vc, rfl, hv, e1, hht⟩
  case updateVar v d =>
    unfold runEffectBasic at h
    simp only [e2_discard_eq] at h
    obtain ⟨vc, hv, e1, hht⟩ := e12_write_core v _ _ _ (fun _ => []) (fun _ _ => rfl) hst hh h
    exact ⟨v, _, vc, rfl, hv, e1, hht⟩
  case replaceVar v x =>
    unfold runEffectBasic at h
    obtain ⟨vc, hv, e1, hht⟩ := e12_write_core v _ _ _
      (fun old => [.note s!"replace v{v} -> {old.render}"]) (fun _ _ => rfl) hst hh h
    exact ⟨v, _, vc, rfl, hv, e1, hht⟩
  case replaceWithVar v d =>
    unfold runEffectBasic at h
    obtain ⟨vc, hv, e1, hht⟩ := e12_write_core v _ _ _
      (fun old => [.note s!"replacewith v{v} -> {old.render}"]) (fun _ _ => rfl) hst hh h
    exact ⟨v, _, vc, rfl, hv, e1, hht⟩

/-- **immediate writes.** A returning run of write effects while the handlers run (`status ≠ stabilising`): closed
form `immSteps`; the subscription invariant (read with the status reset) is kept; the cells are updated in program
order and stamped with the current round. -/
theorem runEffects_imm {env env0 : Env} {fuel : Nat} {es : List Effect} {arg : Int} {s s' : State} {u : Unit}
    (hst : s.status ≠ .stabilising) (hw : ∀ e, e ∈ es → (effWrite e).isSome = true) (hh : HandlesOK s)
    (Q : SubsH.QInv env0 (quiet s))
    (h : (runEffects env fuel es arg).run.run s = (.ok u, s')) :
    s' = immSteps es s ∧ SubsH.QInv env0 (quiet s') ∧ AppliedL s s' ∧ HandlesOK s' ∧
    (∀ (v : Nat) (c : VarCell), s.vars[v]? = some c →
      s'.vars[v]? = some (cellAfter s.stabNum (writesTo v (writesOf es)) c)) := by
  induction es generalizing s with
  | nil =>
    rw [runEffects_nil] at h
    obtain ⟨-, e1⟩ := pure_ok_inv h
    subst e1
    exact ⟨rfl, Q, AppliedL.refl _, hh, fun v c hc => hc⟩
  | cons e es ih =>
    have he := hw e (List.mem_cons_self ..)
    rw [e2_runEffects_cons env fuel e es arg he] at h
    obtain ⟨u1, s1, h1, h2⟩ := bind_ok_inv h
    obtain ⟨v, f, vc, hwe, hv, e1, hht⟩ := e12_runEffectBasic_imm hst he hh h1
    obtain ⟨hst1, hnum1, Q1, A1, hh1, hc1⟩ :=
      e12_wrote f (effNote e vc.value) (e12_effNote_notes e vc.value) hh Q hv hht
    rw [← e1] at hst1 hnum1 Q1 A1 hh1 hc1
    obtain ⟨e2, Q2, A2, hh2, hc2⟩ := ih (s := s1) (by rw [hst1]; exact hst)
      (fun e' he' => hw e' (List.mem_cons_of_mem _ he')) hh1 Q1 h2
    refine ⟨?_, Q2, A1.trans A2, hh2, ?_⟩
    · rw [e2, immSteps_cons]
      congr 1
      rw [e1]; unfold immStep; simp only [hwe, hv]
    · intro w c hc
      rw [hc2 w _ (hc1 w c hc), hnum1, cellAfter_cellAfter, ← e2_writesTo_append,
        e2_writesOf_cons_some es hwe]
      rfl

end IncrVerif.Proofs.EffH
