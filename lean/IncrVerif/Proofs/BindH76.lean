import IncrVerif.Proofs.BindH75
/-!
# Binds, the run of a change detector in fragment F1, part 4: `StepL`
-/
namespace IncrVerif.Proofs.BindH
open IncrVerif.Engine IncrVerif.Proofs IncrVerif.Proofs.Step IncrVerif.Proofs.Sched IncrVerif.Proofs.Quiet
namespace CC

/-- a valid node that has never been computed (not a variable) is stale -/
theorem isStale_pristine {env : Env} {s : State} {m : Nat} (hv : (s.nodeD m).valid = true)
    (hk : StaticKind env (s.nodeD m).kind) (hnv : ∀ c, (s.nodeD m).kind ≠ .var c)
    (hr : (s.nodeD m).recomputedAt = -1) : s.isStale m = true := by
  unfold State.isStale
  simp only [Node.kind?, hv, if_true, hr]
  cases hkd : (s.nodeD m).kind <;> rw [hkd] at hk <;> first
    | exact hk.elim
    | exact absurd hkd (hnv _)
    | rfl
    | simp

namespace MidRel
variable {env : Env} {n b rhs : Nat} {br : BindRec} {l : List Nat} {s t : State}

/-- the record a bind index names after phase 3, against the one before -/
theorem bind_cases (M : MidRel n b rhs br l s t) (hb : s.binds[b]? = some br) (b' : Nat) :
    (b' = b ∧ t.binds[b']? = some { { br with allNodesCreatedOnRhs := l } with rhs := some rhs } ∧
      s.binds[b']? = some br) ∨ (b' ≠ b ∧ t.binds[b']? = s.binds[b']?) := by
  by_cases e : b' = b
  · subst e; exact Or.inl ⟨rfl, M.bind, hb⟩
  · exact Or.inr ⟨e, M.bindsOther b' e⟩

/-- the child list of a surviving node other than the bind's main node is unchanged -/
theorem children (M : MidRel n b rhs br l s t) (A : All1 env s []) (hb : s.binds[b]? = some br) {m : Nat}
    (hlt : m < s.nodes.size) (hd : m ∉ br.allNodesCreatedOnRhs) (hm : m ≠ br.main) :
    t.children m = s.children m := by
  have sn := A.node m hlt
  have k := M.nk m hlt hd
  unfold State.children Node.kind?
  rw [k.kind, k.valid]
  cases hv : (s.nodeD m).valid
  · rfl
  · simp only [if_true]
    cases hkd : (s.nodeD m).kind with
    | bindLhsChange b' =>
      dsimp only
      rcases M.bind_cases hb b' with ⟨-, h1, h2⟩ | ⟨-, h1⟩
      · rw [h1, h2]
      · rw [h1]
    | bindMain b' lc =>
      dsimp only
      rcases M.bind_cases hb b' with ⟨e, -, h2⟩ | ⟨-, h1⟩
      · exfalso
        obtain ⟨br', hb', hm', -⟩ := sn.mainRec b' lc hkd
        rw [h2] at hb'; cases hb'
        exact hm hm'.symm
      · rw [h1]
    | expert e => have := sn.kind; rw [hkd] at this; exact this.elim
    | _ => rfl

end MidRel

namespace Mid
variable {env : Env} {n b rhs : Nat} {br : BindRec} {l : List Nat} {r : Option Nat} {s t s' : State}

theorem stab (X : Mid env n b rhs br l r s t s') : s'.stabNum = s.stabNum :=
  X.step.stabNum.trans X.rel.stabNum

theorem nd (X : Mid env n b rhs br l r s t s') (A : F1Inv env s) : n ∉ br.allNodesCreatedOnRhs :=
  fun h => X.pre.dy_ne_n A h rfl

theorem md (X : Mid env n b rhs br l r s t s') (A : F1Inv env s) : br.main ∉ br.allNodesCreatedOnRhs :=
  fun h => X.pre.dy_ne_main A h rfl

/-- the four kinds of indices -/
theorem classes (_X : Mid env n b rhs br l r s t s') (m : Nat) :
    (m < s.nodes.size ∧ m ∉ br.allNodesCreatedOnRhs) ∨ m ∈ br.allNodesCreatedOnRhs ∨
      (s.nodes.size ≤ m ∧ m < t.nodes.size) ∨ t.nodes.size ≤ m := by
  by_cases hd : m ∈ br.allNodesCreatedOnRhs
  · exact Or.inr (Or.inl hd)
  · by_cases h1 : m < s.nodes.size
    · exact Or.inl ⟨h1, hd⟩
    · by_cases h2 : m < t.nodes.size
      · exact Or.inr (Or.inr (Or.inl ⟨by omega, h2⟩))
      · exact Or.inr (Or.inr (Or.inr (by omega)))

/-- no stamp of `t` is in the future -/
theorem stampsT (X : Mid env n b rhs br l r s t s') (I : DInv env s (some n)) (m : Nat) :
    (t.nodeD m).recomputedAt ≤ s.stabNum ∧ (t.nodeD m).changedAt ≤ s.stabNum := by
  have M := X.rel
  rcases X.classes m with ⟨h1, hd⟩ | hd | ⟨h1, h2⟩ | h1
  · by_cases e : m = n
    · subst e; rw [M.recN, M.chgN]; exact ⟨Int.le_refl _, Int.le_refl _⟩
    · rw [M.recO m h1 hd e, M.chgO m h1 hd e]; exact I.stamps.node m
  · obtain ⟨-, -, -, -, -, d6, d7, -⟩ := M.dead m hd
    exact ⟨d6, d7⟩
  · obtain ⟨-, -, c3, c4, -⟩ := M.new m h1 h2
    rw [c3, c4]
    have := I.stamps.now
    exact ⟨by omega, by omega⟩
  · rw [nodeD_default t m h1, ← nodeD_default s m (by have := M.grow; omega)]
    exact I.stamps.node m

/-- the last step changes no stamp at all (`n` was stamped by `started` and by `lhsRelink`) -/
theorem recT (X : Mid env n b rhs br l r s t s') (m : Nat) :
    (s'.nodeD m).recomputedAt = (t.nodeD m).recomputedAt := by
  by_cases e : m = n
  · subst e; rw [X.step.recomputedAt, X.rel.recN, X.rel.stabNum]
  · exact (X.step.other m e).recomputedAt

theorem chgT (X : Mid env n b rhs br l r s t s') (m : Nat) :
    (s'.nodeD m).changedAt = (t.nodeD m).changedAt := by
  by_cases e : m = n
  · subst e; rw [X.step.changedAt, if_pos rfl, X.rel.chgN, X.rel.stabNum]
  · exact (X.step.other m e).changedAt

theorem keyEq (X : Mid env n b rhs br l r s t s') : BL.KeyEq t s' :=
  ⟨X.step.size, X.step.binds, X.step.vars, fun m => (X.step.shapes m).valid, fun m => (X.step.shapes m).kind,
    fun m => (X.step.shapes m).cutoff, fun m => (X.step.shapes m).createdIn, X.recT, X.chgT⟩

theorem staleT (X : Mid env n b rhs br l r s t s') (m : Nat) : s'.isStale m = t.isStale m :=
  X.keyEq.isStale1 X.ginv.frag m

theorem childrenT (X : Mid env n b rhs br l r s t s') (m : Nat) : s'.children m = t.children m :=
  X.keyEq.children1 X.ginv.frag m

theorem children_other (X : Mid env n b rhs br l r s t s') (A : F1Inv env s) {m : Nat}
    (hlt : m < s.nodes.size) (hd : m ∉ br.allNodesCreatedOnRhs) (hm : m ≠ br.main) :
    s'.children m = s.children m :=
  (X.childrenT m).trans (X.rel.children A.frag X.pre.hb hlt hd hm)

theorem main_lt (X : Mid env n b rhs br l r s t s') : br.main < t.nodes.size := by
  have := X.rel.grow; have := X.pre.hml; omega

/-- the main node is stale after phase 3 -/
theorem main_stale (X : Mid env n b rhs br l r s t s') (A : F1Inv env s) : t.isStale br.main = true := by
  have N := X.ginv.frag.node br.main X.main_lt
  have k := X.rel.nk br.main X.pre.hml (X.md A)
  have hv : (t.nodeD br.main).valid = true := (N.top (k.createdIn.trans X.pre.topM)).1
  apply isStale_of_child hv (c := n)
  · rw [X.kidsMain]; exact List.mem_cons_self ..
  · rw [X.rel.chgN, X.rel.recO br.main X.pre.hml (X.md A) X.pre.ne]; exact X.pre.hmr

/-- the change detector is not stale after phase 3 -/
theorem n_fresh (X : Mid env n b rhs br l r s t s') (I : DInv env s (some n)) : t.isStale n = false := by
  have hlt : n < t.nodes.size := nec_lt_size X.necN
  apply isStale_fresh (X.ginv.frag.node n hlt).kind (by rw [X.rel.stabNum]; exact I.stamps.now)
    (by rw [X.rel.recN, X.rel.stabNum])
  · intro c vc h
    rw [X.rel.vars] at h
    rw [X.rel.stabNum]; exact I.stamps.var c vc h
  · intro c
    rw [X.rel.stabNum]; exact (X.stampsT I c).2

/-- the only recorded parent of `n` after phase 3 is the main node -/
theorem par_n (X : Mid env n b rhs br l r s t s') (A : F1Inv env s) (hk : (s.nodeD n).kind = .bindLhsChange b)
    {p : Nat} (hp : p ∈ (t.nodeD n).parents.map (·.1)) : p = br.main := by
  obtain ⟨⟨p', i⟩, hmem, rfl⟩ := List.mem_map.1 hp
  obtain ⟨hci, -⟩ := X.ginv.par n p' i hmem
  have hpl := children_lt_size hci
  have N := X.ginv.frag.node p' hpl
  have hkp := N.lcChild n b (List.mem_of_getElem? hci)
    (by rw [(X.rel.nk n X.pre.hlt (X.nd A)).kind]; exact hk)
  obtain ⟨br', hb', hm', -⟩ := N.mainRec b n hkp
  rw [X.rel.bind] at hb'
  cases hb'
  exact hm'.symm

theorem main_par (X : Mid env n b rhs br l r s t s') : br.main ∈ (t.nodeD n).parents.map (·.1) := by
  have h0 : (t.children br.main)[0]? = some n := by rw [X.kidsMain]; rfl
  exact List.mem_map.2 ⟨(br.main, 0), X.ginv.conv br.main 0 n h0 ((wants_closed rfl).2 X.necMain), rfl⟩

theorem rhs_ne (X : Mid env n b rhs br l r s t s') : rhs ≠ n := by
  have := X.pre.hlt
  rcases X.rhsOK with ⟨-, h, -⟩ | ⟨h, -⟩ <;> omega

end Mid

/-- **the run of a change detector in F1 satisfies `StepL`** -/
theorem stepL_of_mid {env : Env} {n b rhs : Nat} {br : BindRec} {l : List Nat} {r : Option Nat} {s t s' : State}
    (I : DInv env s (some n)) (A : F1Inv env s) (hk : (s.nodeD n).kind = .bindLhsChange b)
    (X : Mid env n b rhs br l r s t s') :
    StepL env n b br { { br with allNodesCreatedOnRhs := l } with rhs := some rhs } r s s' := by
  have R := X.step
  have M := X.rel
  have hmst := X.main_stale A
  have kn := M.nk n X.pre.hlt (X.nd A)
  refine
    { bind := X.pre.hb
      bind' := by rw [R.binds]; exact M.bind
      lc := ⟨X.pre.hlc, X.pre.hlc, rfl, rfl, rfl⟩
      bindsOther := ⟨by rw [R.binds]; exact M.bindsSize, fun b' e => by rw [R.binds]; exact M.bindsOther b' e⟩
      grow := by rw [R.size]; exact M.grow
      vars := R.vars.trans M.vars
      stabNum := X.stab
      graph' := R.graph X.graph
      heap' := R.heap
      stamps' := ⟨by rw [X.stab]; exact I.stamps.now, fun m => ?_, fun c vc h => ?_⟩
      qstale' := fun m hm => ?_
      pending' := fun m hn hs => ?_
      self := ?_
      old := fun m hm e => ?_
      new := fun m h1 h2 => ?_
      main := ⟨X.pre.hml, X.pre.hmem, by rw [X.childrenT, X.kidsMain]; exact List.mem_cons_self .., X.pre.ne⟩
      ret := fun p hp => ?_ }
  · -- stamps of the nodes
    rw [X.stab, X.recT, X.chgT]
    exact X.stampsT I m
  · -- stamps of the variables
    rw [R.vars, M.vars] at h
    rw [X.stab]; exact I.stamps.var c vc h
  · -- only stale nodes are queued
    rw [X.staleT]
    rcases R.newIn m hm with h1 | ⟨-, h1⟩
    · exact X.ginv.qstale m h1
    · rw [X.par_n A hk h1]; exact hmst
  · -- stale necessary nodes are queued or handed over
    rw [R.nec] at hn
    rw [X.staleT] at hs
    by_cases e : m = br.main
    · rw [e]; exact R.parentsIn rfl br.main X.main_par
    · left
      have hq := X.ginv.queued m rfl hn hs e
      by_cases e2 : m = n
      · exfalso
        rw [e2, X.n_fresh I] at hs; cases hs
      · exact (R.other m e2).inRch hq
  · -- the change detector itself
    refine ⟨by rw [R.recomputedAt, M.stabNum], by rw [R.changedAt, if_pos rfl, M.stabNum], R.value, ?_,
      (R.shapes n).kind.trans kn.kind, X.children_other A X.pre.hlt (X.nd A) (Ne.symm X.pre.ne),
      (R.shapes n).createdIn.trans kn.createdIn⟩
    rw [(R.shapes n).valid, kn.valid]; exact X.pre.hvn
  · -- the other old nodes
    by_cases hd : m ∈ br.allNodesCreatedOnRhs
    · left
      obtain ⟨-, k1, k2⟩ := X.pre.dyOld A hd
      exact ⟨k1, by rw [(R.shapes m).valid]; exact (M.dead m hd).1, k2⟩
    · right
      have k := M.nk m hm hd
      refine ⟨(R.shapes m).valid.trans k.valid, (R.shapes m).kind.trans k.kind,
        (R.shapes m).createdIn.trans k.createdIn, ?_, ?_, ?_, fun hm' => X.children_other A hm hd hm'⟩
      · rw [(R.other m e).value, k.value]
      · rw [(R.other m e).recomputedAt, M.recO m hm hd e]
      · rw [(R.other m e).changedAt, M.chgO m hm hd e]
  · -- the new nodes
    rw [R.size] at h2
    have e : m ≠ n := by have := X.pre.hlt; omega
    obtain ⟨c1, c2, c3, -⟩ := M.new m h1 h2
    refine ⟨(R.other m e).recomputedAt.trans c3, (R.shapes m).createdIn.trans c1, fun _ => ?_⟩
    rw [X.staleT]
    obtain ⟨k1, k2, -⟩ := (X.ginv.frag.node m h2).inScope b c1
    exact isStale_pristine c2 k1 k2 c3
  · -- the handed-over node
    obtain ⟨-, h1, h2, h3⟩ := R.ret p hp
    have hpm := X.par_n A hk h1
    subst hpm
    refine ⟨rfl, h2, by rw [R.nec]; exact X.necMain, fun m hm => ?_⟩
    have hcm := X.kidsMain
    rw [(R.shapes _).height, (R.shapes m).height]
    rcases h3 with ⟨h4, -⟩ | h4 | ⟨b', lc, -, h4, -⟩
    · rw [hcm] at h4; cases h4
    · exact h4 m hm
    · rw [hcm] at h4
      injection h4 with _ h5
      injection h5 with h6 _
      exact absurd h6 X.rhs_ne

end CC
end IncrVerif.Proofs.BindH
