import IncrVerif.Proofs.Life3
/-!
# Observer lifecycle over whole histories, part 4: what one `stabilise` does to the observer table

* `MoveIn L fr to s s'`: the only thing that happened to the observers is that some observers in `L`
  whose state satisfied `fr` moved to `to` (`addNewObservers`: `L = newObservers`, created ↦ in use;
  `unlinkDisallowedObservers`: `L = disallowedObservers`, anything ↦ unlinked).
* `addNewObservers_spec`, `unlinkDisallowedObservers_spec` (`stabilise_spec`: `Life5`; the queue invariants `ObsWF`: `Life6`).
-/
namespace IncrVerif.Proofs.Life
open IncrVerif.Engine IncrVerif.Proofs.Obs
open IncrVerif.Proofs.Step (run_bind_ok run_throw run_modObs bind_ok_inv)

/-! ## small inversion calculus for normal returns -/

/-- every normal return of `m` returns `v` -/
def Rets {α} (v : α) (m : M α) : Prop := ∀ s r s', m.run.run s = (.ok r, s') → r = v

theorem Rets.pure {α} (v : α) : Rets v (pure v : M α) := by
  intro s r s' h; rw [run_pure] at h; cases h; rfl
theorem Rets.bind {α β} {v : β} {x : M α} {f : α → M β} (hf : ∀ a, Rets v (f a)) :
    Rets v (x >>= f) := by
  intro s r s' h
  obtain ⟨a, s1, _, h2⟩ := bind_ok_inv h
  exact hf a _ _ _ h2

/-- every normal return of `m` ends in a state satisfying `Q` -/
def Ends {α} (Q : State → Prop) (m : M α) : Prop := ∀ s r s', m.run.run s = (.ok r, s') → Q s'

theorem Ends.bind {α β} {Q : State → Prop} {x : M α} {f : α → M β} (hf : ∀ a, Ends Q (f a)) :
    Ends Q (x >>= f) := by
  intro s r s' h
  obtain ⟨a, s1, _, h2⟩ := bind_ok_inv h
  exact hf a _ _ _ h2
theorem Ends.modify {Q : State → Prop} {g : State → State} (h : ∀ s, Q (g s)) :
    Ends Q (modify g : M Unit) := by
  intro s r s' e; rw [run_modify] at e; cases e; exact h s

/-! ## loops -/

/-- loop rule with a per-element postcondition that the other iterations keep -/
theorem forIn_post {α} (P : α → State → Prop) (f : α → PUnit → M (ForInStep PUnit)) (l : List α)
    (hyield : ∀ a, Rets (.yield ⟨⟩) (f a ⟨⟩))
    (hkeep : ∀ a b, b ∈ l → ∀ s r s', P a s → (f b ⟨⟩).run.run s = (r, s') → P a s')
    (hpost : ∀ a, a ∈ l → ∀ s r s', (f a ⟨⟩).run.run s = (.ok r, s') → P a s') :
    ∀ s r s', (forIn l PUnit.unit f).run.run s = (.ok r, s') → ∀ a, a ∈ l → P a s' := by
  induction l with
  | nil => intro s r s' _ a ha; cases ha
  | cons a l ih =>
    intro s r s' h
    rw [List.forIn_cons] at h
    obtain ⟨x, s1, hx, hrest⟩ := bind_ok_inv h
    have hxy := hyield a _ _ _ hx
    subst hxy
    have hp := hpost a List.mem_cons_self s _ s1 hx
    simp only at hrest
    have ih' := ih (fun a b hb => hkeep a b (List.mem_cons_of_mem _ hb))
      (fun a ha => hpost a (List.mem_cons_of_mem _ ha)) s1 r s' hrest
    have keepAll : ∀ (l' : List α), (∀ b, b ∈ l' → b ∈ a :: l) → ∀ a' s r s', P a' s →
        (forIn l' PUnit.unit f).run.run s = (.ok r, s') → P a' s' := by
      intro l'
      induction l' with
      | nil => intro _ a' s r s' hp h; rw [List.forIn_nil, run_pure] at h; cases h; exact hp
      | cons b l' ih2 =>
        intro hsub a' s r s' hp h
        rw [List.forIn_cons] at h
        obtain ⟨x, s1, hx, hrest⟩ := bind_ok_inv h
        have hxy := hyield b _ _ _ hx
        subst hxy
        simp only at hrest
        exact ih2 (fun c hc => hsub c (List.mem_cons_of_mem _ hc)) a' s1 r s'
          (hkeep a' b (hsub b List.mem_cons_self) s _ s1 hp hx) hrest
    intro a' ha'
    rcases List.mem_cons.1 ha' with rfl | hmem
    · exact keepAll l (fun b hb => List.mem_cons_of_mem _ hb) a' s1 r s' hp hrest
    · exact ih' a' hmem

/-! ## `MoveIn` -/

structure MoveIn (L : List Nat) (fr : ObsState → Prop) (to : ObsState) (s s' : State) : Prop where
  size : s'.observers.size = s.observers.size
  obs : ∀ (o : Nat) (ob : ObsRec), s.observers[o]? = some ob →
    ∃ ob' : ObsRec, s'.observers[o]? = some ob' ∧ ob'.node = ob.node ∧ ob'.clones = ob.clones ∧
      ob'.handlers = ob.handlers ∧
      (ob'.state = ob.state ∨ (o ∈ L ∧ fr ob.state ∧ ob'.state = to))
  newObs : s'.newObservers = s.newObservers
  dis : s'.disallowedObservers = s.disallowedObservers

theorem MoveIn.of_eq {L fr to} {s s' : State} (h1 : s'.observers = s.observers)
    (h2 : s'.newObservers = s.newObservers)
    (h3 : s'.disallowedObservers = s.disallowedObservers) : MoveIn L fr to s s' :=
  ⟨by rw [h1], fun o ob e => ⟨ob, by rw [h1]; exact e, rfl, rfl, rfl, .inl rfl⟩, h2, h3⟩

theorem MoveIn.trans {L fr to} {a b c : State} (h1 : MoveIn L fr to a b) (h2 : MoveIn L fr to b c) :
    MoveIn L fr to a c where
  size := h2.size.trans h1.size
  newObs := h2.newObs.trans h1.newObs
  dis := h2.dis.trans h1.dis
  obs o ob e := by
    obtain ⟨ob1, e1, n1, c1, hd1, m1⟩ := h1.obs o ob e
    obtain ⟨ob2, e2, n2, c2, hd2, m2⟩ := h2.obs o ob1 e1
    refine ⟨ob2, e2, n2.trans n1, c2.trans c1, hd2.trans hd1, ?_⟩
    rcases m1 with m1 | ⟨hl, hf, ht⟩ <;> rcases m2 with m2 | ⟨hl2, hf2, ht2⟩
    · exact .inl (m2.trans m1)
    · exact .inr ⟨hl2, by rw [← m1]; exact hf2, ht2⟩
    · exact .inr ⟨hl, hf, m2.trans ht⟩
    · exact .inr ⟨hl, hf, ht2⟩

instance (L fr to) : ObsLocal (MoveIn L fr to) where
  refl _ := MoveIn.of_eq rfl rfl rfl
  trans := MoveIn.trans
  of_eq _ _ h1 h2 h3 _ _ := MoveIn.of_eq h1 h2 h3
  logEv _ _ _ := MoveIn.of_eq rfl rfl rfl

theorem MoveIn.of_same {L fr to} {s s' : State} (h : Same s s')
    (hh : ∀ o : Nat, (s'.observers[o]?).map ObsRec.handlers = (s.observers[o]?).map ObsRec.handlers) :
    MoveIn L fr to s s' := by
  have hsz : s'.observers.size = s.observers.size := by
    have := congrArg Array.size h.obs
    simpa [table] using this
  refine ⟨hsz, fun o ob e => ?_, h.newObs, h.dis⟩
  have hlt : o < s'.observers.size := by rw [hsz]; exact (Array.getElem?_eq_some_iff.1 e).1
  have e' : s'.observers[o]? = some s'.observers[o] := Array.getElem?_eq_getElem hlt
  have hrow := congrArg (fun t : Array Row => t[o]?) h.obs
  simp only [table, Array.getElem?_map, e, e', Option.map_some, Option.some.injEq, core3,
    Prod.mk.injEq] at hrow
  have hh' := hh o
  rw [e, e'] at hh'
  simp only [Option.map_some, Option.some.injEq] at hh'
  exact ⟨_, e', hrow.1, hrow.2.2, hh', .inl hrow.2.1⟩

/-- the state of observer `o`, if it exists -/
def stOf (s : State) (o : Nat) : Option ObsState := (s.observers[o]?).map (·.state)

theorem MoveIn.stOf_cases {L fr to} {s s' : State} (h : MoveIn L fr to s s') (o : Nat) :
    stOf s' o = stOf s o ∨ (o ∈ L ∧ (∃ st, stOf s o = some st ∧ fr st) ∧ stOf s' o = some to) := by
  cases e : s.observers[o]? with
  | none =>
    have : s'.observers[o]? = none := by
      have := Array.getElem?_eq_none_iff.1 e
      exact Array.getElem?_eq_none_iff.2 (by rw [h.size]; exact this)
    exact .inl (by simp [Life.stOf, e, this])
  | some ob =>
    obtain ⟨ob', e', _, _, _, m⟩ := h.obs o ob e
    rcases m with m | ⟨hl, hf, ht⟩
    · exact .inl (by simp [Life.stOf, e, e', m])
    · exact .inr ⟨hl, ⟨ob.state, by simp [Life.stOf, e], hf⟩, by simp [Life.stOf, e', ht]⟩

theorem Same.stOf_eq {s s' : State} (h : Same s s') (o : Nat) : stOf s' o = stOf s o := by
  have hrow := congrArg (fun t : Array Row => (t[o]?).map (·.2.1)) h.obs
  simpa [table, Array.getElem?_map, core3, Life.stOf, Option.map_map, Function.comp_def] using hrow

/-! ## a relation that keeps the handler lists too (for the frame of the two phases) -/

/-- `Same` and the handler lists -/
structure SameH (s s' : State) : Prop extends Same s s' where
  handlers : ∀ o : Nat, (s'.observers[o]?).map ObsRec.handlers = (s.observers[o]?).map ObsRec.handlers

instance : ObsLocal SameH where
  refl s := ⟨Same.refl s, fun _ => rfl⟩
  trans h1 h2 := ⟨h1.toSame.trans h2.toSame, fun o => (h2.handlers o).trans (h1.handlers o)⟩
  of_eq s s' h1 h2 h3 h4 h5 := ⟨ObsLocal.of_eq s s' h1 h2 h3 h4 h5, fun o => by rw [h1]⟩
  logEv e s he := ⟨ObsLocal.logEv e s he, fun _ => rfl⟩

theorem PresM.ofSameH {L fr to α} {m : M α} (h : Pres SameH m) : Pres (MoveIn L fr to) m :=
  h.mono fun _ _ q => MoveIn.of_same q.toSame q.handlers

/-! ## `add_new_observers` -/

/-- the loop body of `add_new_observers` -/
def addNewBody (env : Env) (fuel : Nat) (o : Nat) : M (ForInStep PUnit) := do
  let ob ← getObs o
  match ob.state with
  | .inUse | .disallowed => Engine.panic "state:add_new_observers:state"
  | .unlinked => pure ()
  | .created =>
    modObs o fun x => { x with state := .inUse }
    let was := (← get).isNecessary ob.node
    modify fun s => { s with allObservers := s.allObservers ++ [o] }
    modNode ob.node fun x => { x with
      observers := x.observers ++ [o],
      numOnUpdateHandlers := x.numOnUpdateHandlers + ob.handlers.length }
    handleAfterStabilisation ob.node
    dassert ((← get).isNecessary ob.node) "state:add_new_observers:necessary"
    if !was then becameNecessaryPropagate env fuel ob.node
  pure (ForInStep.yield ⟨⟩)

theorem addNewObservers_eq (env : Env) (fuel : Nat) :
    addNewObservers env fuel = (do
      let no := (← get).newObservers
      modify fun s => { s with newObservers := [] }
      let _ ← forIn no PUnit.unit fun o _ => addNewBody env fuel o
      pure ()) := by
  unfold addNewObservers addNewBody
  rfl

macro "rets" : tactic =>
  `(tactic| repeat (first | exact Rets.pure _ | (apply Rets.bind; intro _) | split | dsimp only))

theorem addNewBody_yields (env : Env) (fuel o : Nat) : Rets (.yield ⟨⟩) (addNewBody env fuel o) := by
  unfold addNewBody; rets

theorem MoveIn.mono_list {L L' fr to} {s s' : State} (h : MoveIn L fr to s s')
    (hl : ∀ o, o ∈ L → o ∈ L') : MoveIn L' fr to s s' :=
  ⟨h.size, fun o ob e => by
    obtain ⟨ob', e', n, c, hd, m⟩ := h.obs o ob e
    exact ⟨ob', e', n, c, hd, m.imp id fun ⟨a, b, c⟩ => ⟨hl o a, b, c⟩⟩, h.newObs, h.dis⟩

/-- the one `modObs` of each phase -/
theorem MoveIn.modObs_at {fr to} (s : State) (o : Nat) (ob : ObsRec) (f : ObsRec → ObsRec)
    (hob : s.observers[o]? = some ob) (hfr : fr ob.state)
    (hf : (f ob).node = ob.node ∧ (f ob).clones = ob.clones ∧ (f ob).handlers = ob.handlers ∧
      (f ob).state = to) :
    MoveIn [o] fr to s { s with observers := s.observers.modify o f } := by
  refine ⟨by simp, fun m x e => ?_, rfl, rfl⟩
  simp only [Array.getElem?_modify, e]
  split
  · rename_i hm; subst hm
    rw [hob] at e; cases e
    exact ⟨f ob, rfl, hf.1, hf.2.1, hf.2.2.1, .inr ⟨List.mem_singleton.2 rfl, hfr, hf.2.2.2⟩⟩
  · exact ⟨x, rfl, rfl, rfl, rfl, .inl rfl⟩

theorem stOf_modObs_self (s : State) (o : Nat) (ob : ObsRec) (f : ObsRec → ObsRec)
    (hob : s.observers[o]? = some ob) :
    stOf { s with observers := s.observers.modify o f } o = some (f ob).state := by
  simp [stOf, Array.getElem?_modify, hob]

/-- one iteration of `add_new_observers`, every outcome -/
theorem addNewBody_run (env : Env) (fuel o : Nat) (s s' : State) (r : Except Panic (ForInStep PUnit))
    (hrun : (addNewBody env fuel o).run.run s = (r, s')) :
    MoveIn [o] (· = .created) .inUse s s' ∧ (∀ v, r = .ok v → stOf s' o ≠ some .created) := by
  unfold addNewBody at hrun
  cases hob : s.observers[o]? with
  | none =>
    rw [run_bind_error (run_getObs_none hob)] at hrun; cases hrun
    exact ⟨PreOrd.refl _, fun v hv => by cases hv⟩
  | some ob =>
    rw [run_bind_ok (run_getObs_some hob)] at hrun
    cases hst : ob.state <;> simp only [hst] at hrun
    · -- created
      rw [run_bind, run_modObs] at hrun
      have h1 := MoveIn.modObs_at (fr := (· = ObsState.created)) (to := .inUse) s o ob
        (fun x => { x with state := .inUse }) hob hst ⟨rfl, rfl, rfl, rfl⟩
      have hrest := Pres.h (R := SameH) (by lpres) _ _ _ hrun
      refine ⟨PreOrd.trans h1 (MoveIn.of_same hrest.toSame hrest.handlers), fun _ _ => ?_⟩
      rw [hrest.toSame.stOf_eq, stOf_modObs_self s o ob _ hob]
      simp
    · -- in use: panic
      simp only [run_bind, Engine.panic, run_throw] at hrun; cases hrun
      exact ⟨PreOrd.refl _, fun v hv => by cases hv⟩
    · simp only [run_bind, Engine.panic, run_throw] at hrun; cases hrun
      exact ⟨PreOrd.refl _, fun v hv => by cases hv⟩
    · -- unlinked
      simp only [run_pure] at hrun; cases hrun
      refine ⟨PreOrd.refl _, fun _ _ => ?_⟩
      simp [stOf, hob, hst]

theorem MoveIn.keeps_not_created {L fr} {s s' : State} (h : MoveIn L fr .inUse s s') (o : Nat)
    (hs : stOf s o ≠ some .created) : stOf s' o ≠ some .created := by
  rcases h.stOf_cases o with e | ⟨_, _, e⟩
  · rw [e]; exact hs
  · rw [e]; simp

/-- `add_new_observers`: for every outcome, the only change to the observers is that some created
observers named in `newObservers` are now in use, and `newObservers` is empty; when it returns, no
observer named in `newObservers` is still created -/
theorem addNewObservers_spec (env : Env) (fuel : Nat) (s s' : State) (r : Except Panic Unit)
    (hrun : (addNewObservers env fuel).run.run s = (r, s')) :
    MoveIn s.newObservers (· = .created) .inUse { s with newObservers := [] } s' ∧
      (r = .ok () → ∀ o, o ∈ s.newObservers → stOf s' o ≠ some .created) := by
  rw [addNewObservers_eq] at hrun
  simp only [run_bind, run_get, run_modify] at hrun
  rcases hl : (forIn s.newObservers PUnit.unit fun o _ => addNewBody env fuel o).run.run
    { s with newObservers := [] } with ⟨rl, sl⟩
  rw [hl] at hrun
  have hfr : MoveIn s.newObservers (· = ObsState.created) .inUse { s with newObservers := [] } sl := by
    refine Pres.h (Pres.forIn_mem fun a ha b => ⟨fun t r t' e => ?_⟩) _ _ _ hl
    exact (addNewBody_run env fuel a t t' r e).1.mono_list
      (fun o ho => by rw [List.mem_singleton.1 ho]; exact ha)
  cases rl with
  | error e => cases hrun; exact ⟨hfr, fun h => by cases h⟩
  | ok v =>
    simp only [run_pure] at hrun; cases hrun
    refine ⟨hfr, fun _ => ?_⟩
    refine forIn_post (fun o t => stOf t o ≠ some .created) _ s.newObservers
      (fun a => addNewBody_yields env fuel a) ?_ ?_ _ _ _ hl
    · intro a b _ t r t' hp e
      exact (addNewBody_run env fuel b t t' r e).1.keeps_not_created a hp
    · intro a _ t r t' e
      exact (addNewBody_run env fuel a t t' (.ok r) e).2 r rfl

/-! ## `unlink_disallowed_observers` -/

/-- the loop body of `unlink_disallowed_observers` -/
def unlinkBody (fuel : Nat) (o : Nat) : M (ForInStep PUnit) := do
  let ob ← getObs o
  dassert (ob.state == .disallowed) "state:unlink_disallowed_observers:state"
  modObs o fun x => { x with state := .unlinked }
  modNode ob.node fun x => { x with
    observers := x.observers.filter (· != o),
    numOnUpdateHandlers := x.numOnUpdateHandlers - ob.handlers.length }
  modify fun s => { s with allObservers := s.allObservers.filter (· != o) }
  checkIfUnnecessary fuel ob.node
  pure (ForInStep.yield ⟨⟩)

theorem unlinkDisallowedObservers_eq (fuel : Nat) :
    unlinkDisallowedObservers fuel = (do
      let ds := (← get).disallowedObservers
      modify fun s => { s with disallowedObservers := [] }
      let _ ← forIn ds PUnit.unit fun o _ => unlinkBody fuel o
      pure ()) := by
  unfold unlinkDisallowedObservers unlinkBody
  rfl

theorem unlinkBody_yields (fuel o : Nat) : Rets (.yield ⟨⟩) (unlinkBody fuel o) := by
  unfold unlinkBody; rets

/-- one iteration of `unlink_disallowed_observers`, every outcome -/
theorem unlinkBody_run (fuel o : Nat) (s s' : State) (r : Except Panic (ForInStep PUnit))
    (hrun : (unlinkBody fuel o).run.run s = (r, s')) :
    MoveIn [o] (fun _ => True) .unlinked s s' ∧ (∀ v, r = .ok v → stOf s' o = some .unlinked) := by
  unfold unlinkBody at hrun
  cases hob : s.observers[o]? with
  | none =>
    rw [run_bind_error (run_getObs_none hob)] at hrun; cases hrun
    exact ⟨PreOrd.refl _, fun v hv => by cases hv⟩
  | some ob =>
    rw [run_bind_ok (run_getObs_some hob)] at hrun
    by_cases hd : s.cfg.debug = true ∧ (ob.state == .disallowed) = false
    · have hda := run_dassert (ob.state == .disallowed) "state:unlink_disallowed_observers:state" s
      rw [if_pos hd] at hda
      rw [run_bind_error hda] at hrun
      cases hrun; exact ⟨PreOrd.refl _, fun v hv => by cases hv⟩
    · have hda := run_dassert (ob.state == .disallowed) "state:unlink_disallowed_observers:state" s
      rw [if_neg hd] at hda
      rw [run_bind_ok hda, run_bind, run_modObs] at hrun
      have h1 := MoveIn.modObs_at (fr := fun _ => True) (to := .unlinked) s o ob
        (fun x => { x with state := .unlinked }) hob trivial ⟨rfl, rfl, rfl, rfl⟩
      have hrest := Pres.h (R := SameH) (by lpres) _ _ _ hrun
      refine ⟨PreOrd.trans h1 (MoveIn.of_same hrest.toSame hrest.handlers), fun _ _ => ?_⟩
      rw [hrest.toSame.stOf_eq, stOf_modObs_self s o ob _ hob]

theorem MoveIn.keeps_unlinked {L fr} {s s' : State} (h : MoveIn L fr .unlinked s s') (o : Nat)
    (hs : stOf s o = some .unlinked) : stOf s' o = some .unlinked := by
  rcases h.stOf_cases o with e | ⟨_, _, e⟩
  · rw [e]; exact hs
  · exact e

/-- `unlink_disallowed_observers`: for every outcome, the only change to the observers is that some
observers named in `disallowedObservers` are now unlinked, and `disallowedObservers` is empty; when it
returns, every observer named in `disallowedObservers` is unlinked -/
theorem unlinkDisallowedObservers_spec (fuel : Nat) (s s' : State) (r : Except Panic Unit)
    (hrun : (unlinkDisallowedObservers fuel).run.run s = (r, s')) :
    MoveIn s.disallowedObservers (fun _ => True) .unlinked { s with disallowedObservers := [] } s' ∧
      (r = .ok () → ∀ o, o ∈ s.disallowedObservers → stOf s' o = some .unlinked) := by
  rw [unlinkDisallowedObservers_eq] at hrun
  simp only [run_bind, run_get, run_modify] at hrun
  rcases hl : (forIn s.disallowedObservers PUnit.unit fun o _ => unlinkBody fuel o).run.run
    { s with disallowedObservers := [] } with ⟨rl, sl⟩
  rw [hl] at hrun
  have hfr : MoveIn s.disallowedObservers (fun _ => True) .unlinked
      { s with disallowedObservers := [] } sl := by
    refine Pres.h (Pres.forIn_mem fun a ha b => ⟨fun t r t' e => ?_⟩) _ _ _ hl
    exact (unlinkBody_run fuel a t t' r e).1.mono_list
      (fun o ho => by rw [List.mem_singleton.1 ho]; exact ha)
  cases rl with
  | error e => cases hrun; exact ⟨hfr, fun h => by cases h⟩
  | ok v =>
    simp only [run_pure] at hrun; cases hrun
    refine ⟨hfr, fun _ => ?_⟩
    refine forIn_post (fun o t => stOf t o = some .unlinked) _ s.disallowedObservers
      (fun a => unlinkBody_yields fuel a) ?_ ?_ _ _ _ hl
    · intro a b _ t r t' hp e
      exact (unlinkBody_run fuel b t t' r e).1.keeps_unlinked a hp
    · intro a _ t r t' e
      exact (unlinkBody_run fuel a t t' (.ok r) e).2 r rfl

end IncrVerif.Proofs.Life
