import IncrVerif.Proofs.MapOld9
/-!
# map_with_old fragment: one `recomputeOne` of a map_with_old node — master equation

Generalisation of `Step.recomputeOne_mapWithOld_run` to every machine id (the operator closures `g ≥ opBase` log one
event per user-function call): with no fault armed, the step is `maybe_change_value_manual n none did true` run in the
state in which `n` is stamped, the closure's events `woEvents` are logged, and the new output and closure state are stored.
-/
namespace IncrVerif.Proofs.MapOldH
open IncrVerif.Engine IncrVerif.Proofs IncrVerif.Proofs.Step IncrVerif.Proofs.Sched IncrVerif.Proofs.Quiet

theorem logged_logged (es es' : List Event) (t : State) : logged es (logged es' t) = logged (es ++ es') t := by
  simp [logged, List.append_assoc]

theorem logged_nil (t : State) : logged [] t = t := rfl

/-- the events a `map_with_old` closure logs (most recent first, as in `State.log`) -/
def woEvents (env : Env) (g n : Nat) (σ : Val) (old : Option Val) (x new : Val) (did : Bool) : List Event :=
  if g < opBase then
    [.inv s!"g{g}" n ((match old with | some o => [o] | none => []) ++ [x]) s!"{new.render},{did}"]
  else ((env.withOldCalls g σ old x).map fun c => Event.inv c.1 n c.2.1 c.2.2).reverse

/-- a loop whose body logs exactly `ev a` logs the events of the list, in order -/
theorem forIn_log_exact {α} (ev : α → Event) (body : α → PUnit → M (ForInStep PUnit)) (l : List α)
    (hb : ∀ a (t : State), t.panicCountdown = none →
      (body a PUnit.unit).run.run t = (.ok (ForInStep.yield PUnit.unit), logged [ev a] t))
    (t : State) (hp : t.panicCountdown = none) :
    (forIn l PUnit.unit body : M PUnit).run.run t = (.ok PUnit.unit, logged (l.map ev).reverse t) := by
  induction l generalizing t with
  | nil => rfl
  | cons a l ih =>
    rw [List.forIn_cons, run_bind_ok (hb a t hp)]
    dsimp only
    rw [ih (logged [ev a] t) hp, logged_logged]
    simp

theorem withOldEvents_run' (env : Env) (g n : Nat) (σ : Val) (old : Option Val) (x new : Val) (did : Bool)
    (t : State) (hp : t.panicCountdown = none) :
    (withOldEvents env g n σ old x new did).run.run t = (.ok (), logged (woEvents env g n σ old x new did) t) := by
  unfold withOldEvents woEvents
  by_cases hg : g < opBase
  · rw [if_pos hg, if_pos hg, run_bind_tick_none _ _ hp, run_logEv]
    rfl
  · rw [if_neg hg, if_neg hg]
    have := forIn_log_exact (fun (c : String × List Val × String) => Event.inv c.1 n c.2.1 c.2.2)
      (fun (c : String × List Val × String) (_ : PUnit) => (do
        tick
        logEv (Event.inv c.1 n c.2.1 c.2.2)
        pure (ForInStep.yield PUnit.unit) : M (ForInStep PUnit))) (env.withOldCalls g σ old x)
      (fun a t ht => by rw [run_bind_tick_none _ _ ht, run_bind_logEv]; rfl) t hp
    rw [run_bind_ok this]
    rfl

/-- the master equation of the step of a map_with_old node -/
theorem recomputeOne_mwo_run' (env : Env) (fuel n : Nat) (s : State) (nd : Node) (g i : Nat) (x : Val)
    (hn : s.nodes[n]? = some nd) (hv : nd.valid = true) (hk : nd.kind = .mapWithOld g i)
    (hx : s.value env i = some x) (hp : s.panicCountdown = none) :
    (recomputeOne env fuel n).run.run s =
      (maybeChangeValueManual env fuel n none (env.withOld g nd.oldState nd.value x).2.2 true).run.run
        (setWithOld n (env.withOld g nd.oldState nd.value x).2.1 (env.withOld g nd.oldState nd.value x).1
          (logged (woEvents env g n nd.oldState nd.value x (env.withOld g nd.oldState nd.value x).2.1
            (env.withOld g nd.oldState nd.value x).2.2) (started n s))) := by
  have hk? : ({ nd with recomputedAt := s.stabNum } : Node).kind? = some (.mapWithOld g i) := by
    simp [Node.kind?, hv, hk]
  have hx' : (started n s).value env i = some x := by rw [started_value]; exact hx
  have hn' := started_getElem? n s nd hn
  have hpc : (setValue n none (started n s)).panicCountdown = none := hp
  have hes := withOldEvents_run' env g n nd.oldState nd.value x
    (env.withOld g nd.oldState nd.value x).2.1 (env.withOld g nd.oldState nd.value x).2.2
    (setValue n none (started n s)) hpc
  unfold recomputeOne
  simp only [run_bind_get]
  cases hd : s.cfg.debug
  all_goals
    simp only [started, hd, Bool.false_eq_true, if_false, if_true, run_bind_modify,
      run_bind_bumpCounter, run_bind_get, run_bind_modNode] at hn' hx' hes ⊢
    rw [run_bind_ok (run_getNode_some hn'), hk?]
    dsimp only
    rw [run_bind_of (run_valueUnwrap env i _ _), hx']
    dsimp only
    rw [run_bind_modNode]
    simp only [setValue] at hes
    rw [run_bind_ok hes, run_bind_modNode]
    simp only [setWithOld, logged, array_modify_modify]
    rfl

theorem recomputeOne_mwo_run (env : Env) (fuel n : Nat) (s : State) (nd : Node) (g i : Nat) (x : Val)
    (hn : s.nodes[n]? = some nd) (hv : nd.valid = true) (hk : nd.kind = .mapWithOld g i)
    (hx : s.value env i = some x) (hp : s.panicCountdown = none) :
    ∃ es, (recomputeOne env fuel n).run.run s =
      (maybeChangeValueManual env fuel n none (env.withOld g nd.oldState nd.value x).2.2 true).run.run
        (setWithOld n (env.withOld g nd.oldState nd.value x).2.1 (env.withOld g nd.oldState nd.value x).1
          (logged es (started n s))) :=
  ⟨_, recomputeOne_mwo_run' env fuel n s nd g i x hn hv hk hx hp⟩

end IncrVerif.Proofs.MapOldH
