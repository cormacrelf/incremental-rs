import IncrVerif.Proofs.HeightH3
import IncrVerif.Proofs.HeightH4
/-!
# C19 for whole histories, part 4: the two loops at the start of `stabilise`

`addNewObservers` returns iff the greatest static height it has to set (`pendingNeed`) is within the limit, and then
`maxHeightSeen` has become `max old pendingNeed`; otherwise it panics with the height diagnostic.
`unlinkDisallowedObservers` returns and sets no height.
-/
namespace IncrVerif.Proofs.HeightH
open IncrVerif.Engine IncrVerif.Driver IncrVerif.Proofs IncrVerif.Proofs.Step IncrVerif.Proofs.Sched
open IncrVerif.Proofs.Quiet IncrVerif.Proofs.Quiet.P12

/-- an outcome together with a relation that every run (returning or panicking) satisfies -/
theorem Out.and_pres {α} {x : M α} {s : State} {Q : α → State → Prop} {P : State → Prop}
    {R : State → State → Prop} (T : Out x s Q P) (hp : Step.Pres R x) :
    Out x s (fun a s' => Q a s' ∧ R s s') (fun s' => P s' ∧ R s s') := by
  rcases T with ⟨a, s1, h1, h2⟩ | ⟨s1, h1, h2⟩
  · exact Or.inl ⟨a, s1, h1, h2, hp.h s _ s1 h1⟩
  · exact Or.inr ⟨s1, h1, h2, hp.h s _ s1 h1⟩

namespace P4

theorem Out.bind_getObs {β} {o : Nat} {ob : ObsRec} {f : ObsRec → M β} {s : State} {Q : β → State → Prop}
    {P : State → Prop} (h : s.observers[o]? = some ob) (T : Out (f ob) s Q P) : Out (getObs o >>= f) s Q P :=
  Out.bind_ok (by rw [run_getObs, h]) T

theorem Out.bind_modObs {β} {o : Nat} {g : ObsRec → ObsRec} {f : Unit → M β} {s : State} {Q : β → State → Prop}
    {P : State → Prop} (T : Out (f ()) { s with observers := s.observers.modify o g } Q P) :
    Out (modObs o g >>= f) s Q P := by
  unfold modObs; exact Out.bind_modify (fun s1 hs1 => by rw [hs1]; exact T)

theorem nodeUpd_kind {n : Nat} {l : List Nat} {t t' : State} (U : NodeUpd n (fObservers l) t t') (m : Nat) :
    (t'.nodeD m).kind = (t.nodeD m).kind := by
  by_cases e : m = n
  · rw [e]; exact U.self.kind
  · exact (U.other m e).kind

/-- the exact heights through a change of the observer list of `n` -/
theorem hex_upd {n : Nat} {l : List Nat} {t t' : State} {op op' : Nat → Op} (hb : HEx t op)
    (U : NodeUpd n (fObservers l) t t') (hs : t'.maxHeightSeen = t.maxHeightSeen)
    (hoth : ∀ m, m ≠ n → op' m = .closed → op m = .closed)
    (hself : t'.isNecessary n = true → op' n = .closed → t.isNecessary n = true ∧ op n = .closed) :
    HEx t' op' := by
  refine hb.transfer (nodeUpd_kind U) (by rw [hs]; exact Int.le_refl _) (fun m hm hc => ?_)
  by_cases e : m = n
  · rw [e] at hm hc ⊢
    obtain ⟨h1, h2⟩ := hself hm hc
    exact ⟨h1, h2, U.height_self⟩
  · rw [U.nec_other e] at hm
    exact ⟨hm, hoth m e hc, U.height_other e⟩

theorem has_seen {n : Nat} {s s' : State} {r : Except Panic Unit}
    (h : (handleAfterStabilisation n).run.run s = (r, s')) : s'.maxHeightSeen = s.maxHeightSeen := by
  rcases has_cases h with e | e <;> rw [e] <;> rfl

theorem roomH_of_pframe {N : Nat} {s s' : State} (R : RoomH N s) (h : PFrame s s')
    (hs : s.maxHeightSeen ≤ s'.maxHeightSeen) (hN : s'.maxHeightSeen ≤ (N : Int)) : RoomH N s' := by
  have hk := h.key
  simp only [stateKeyP, Prod.mk.injEq] at hk
  have h1 : s'.rch.queues.size = s.rch.queues.size := hk.2.2.2.2.2.2.2.2.2.2.1
  have h2 : s'.ahh = s.ahh := hk.2.2.2.2.2.2.2.2.2.2.2.1
  exact ⟨by rw [h2]; exact R.ahh, by rw [← R.rch]; simp only [Heap.maxAllowed, h1], hN,
    by have := R.seen0; omega⟩

/-- the end of a `created` iteration of `add_new_observers`: the assertion holds; the cascade returns iff the
node's static height is within the limit -/
theorem add_tail_out {env : Env} {N fuel o : Nat} {rest pd : List Nat} {t t4 : State} {ob : ObsRec}
    (I : SInv env t (o :: rest) pd) (hob : t.observers[o]? = some ob) (hbt : HEx t allClosed) (Rt : RoomH N t)
    (hf : 2 * t.nodes.size + 2 ≤ fuel)
    (h4 : (handleAfterStabilisation ob.node).run.run (obsAdded o ob.node ((0 : Nat) : Int) t) = (.ok (), t4)) :
    t4.isNecessary ob.node = true ∧
      Out (if (!t.isNecessary ob.node) = true then do
            becameNecessaryPropagate env fuel ob.node
            pure (ForInStep.yield PUnit.unit)
          else pure (ForInStep.yield PUnit.unit)) t4
        (fun _ t' => needH t ob.node ≤ N ∧ HEx t' allClosed ∧
          t'.maxHeightSeen = max t.maxHeightSeen (needH t ob.node : Int))
        (fun t' => N < needH t ob.node ∧ t'.maxHeightSeen = (N : Int) + 1 ∧ t'.status = t.status) := by
  have hn : ob.node < t.nodes.size := (I.obs.inRange o ob hob).1
  have U3 : NodeUpd ob.node (fObservers ((t.nodeD ob.node).observers ++ [o])) t
      (obsAdded o ob.node ((0 : Nat) : Int) t) := obsAdded_upd hn
  have R : Irrel ob.node (obsAdded o ob.node ((0 : Nat) : Int) t) t4 := by
    rcases has_cases h4 with e | e
    · rw [e]; exact Irrel.refl _ _
    · rw [e]; exact Irrel.marked _ _
  have hs4 : t4.maxHeightSeen = t.maxHeightSeen := (has_seen h4).trans rfl
  have U4 := U3.then_same R.same
  have L := R.rel (fun _ => False)
  have hp4 : t4.propagateInvalidity = [] := (L.pinv.trans rfl).trans I.pinv
  have hl : (t.nodeD ob.node).observers ++ [o] ≠ [] := by simp
  have P4 : PFrame t t4 := (obsAdded_frame o ob.node t).trans L.fr.toP
  have hk4 : ∀ m, (t4.nodeD m).kind = (t.nodeD m).kind := PFrame.kind P4
  have R4 : RoomH N t4 := roomH_of_pframe Rt P4 (by rw [hs4]; exact Int.le_refl _) (by rw [hs4]; exact Rt.seen)
  refine ⟨(U4.nec_self_iff (keeps_fObservers _)).2 (Or.inr (Or.inl hl)), ?_⟩
  cases hw : t.isNecessary ob.node with
  | true =>
    simp only [Bool.not_true, Bool.false_eq_true, if_false]
    refine Out.pure ⟨hbt.le Rt hw rfl, hex_upd hbt U4 hs4 (fun _ _ h => h) (fun _ _ => ⟨hw, rfl⟩), ?_⟩
    rw [hs4]; have := (hbt _ hw rfl).2; omega
  | false =>
    simp only [Bool.not_false, if_true]
    obtain ⟨I1, hpar⟩ := GInv.addObs_open I.struct U4 hl hw rfl
    have hlow : ∀ m, upd allClosed ob.node (.linking 0) m ≠ .closed → ob.node ≤ m := by
      intro m hm
      by_cases e : m = ob.node
      · omega
      · rw [upd_other _ _ _ e] at hm; exact absurd rfl hm
    have hpar' : ∀ p i, (p, i) ∈ (t4.nodeD ob.node).parents →
        upd allClosed ob.node (.linking 0) p ≠ .closed := by
      intro p i hpi; rw [hpar] at hpi; cases hpi
    have T := becameNecessary_out (fuel := fuel) I1
      (hex_upd hbt U4 hs4 (op' := upd allClosed ob.node (.linking 0)) (fun _ _ _ => rfl)
        (fun _ h => by rw [upd_self] at h; cases h))
      R4 (upd_self _ _ _) hlow hpar' (by omega)
    rw [upd_upd, upd_eq_self allClosed _ .closed rfl, needH_congr hk4, hs4] at T
    unfold becameNecessaryPropagate
    simp only [bind_assoc]
    have hst4 : t4.status = t.status := by
      have hk := P4.key
      simp only [stateKeyP, Prod.mk.injEq] at hk
      exact hk.2.2.1
    refine Out.bind' (Out.and_pres T (PresF.becameNecessary env fuel ob.node))
      (fun t' ⟨⟨p1, p2⟩, F⟩ => ⟨p1, p2, by
        have hk := F.key
        simp only [stateKey, Prod.mk.injEq] at hk
        rw [hk.2.2.2.1, hst4]⟩) (fun _ t6 h6 ⟨⟨q1, q2, q3⟩, _⟩ => ?_)
    obtain ⟨-, -, hL⟩ := Quiet.becameNecessary_spec h6 I1 (upd_self _ _ _) hlow hpar'
    have hp6 : t6.propagateInvalidity = [] := by rw [hL.pinv]; exact hp4
    refine Out.bind_ok (propagateInvalidity_ok hp6 (by omega)) ?_
    exact Out.pure ⟨q1, q2, q3⟩

end P4

/-- **`add_new_observers`, exactly.**  It returns iff `pendingNeed s ≤ N`; then the exact heights hold and
`maxHeightSeen = max old (pendingNeed s)`.  Otherwise it panics with `"height-limit"`. -/
theorem addNewObservers_out {env : Env} {N fuel : Nat} {s : State}
    (I : SInv env s s.newObservers s.disallowedObservers) (hb : HEx s allClosed) (R : RoomH N s)
    (hnd : s.newObservers.Nodup)
    (hst : ∀ (o : Nat) (ob : ObsRec), o ∈ s.newObservers → s.observers[o]? = some ob →
      ob.state = .created ∨ ob.state = .unlinked)
    (hf : 2 * s.nodes.size + 2 ≤ fuel) :
    Out (addNewObservers env fuel) s
      (fun _ s' => pendingNeed s ≤ N ∧ HEx s' allClosed ∧
        s'.maxHeightSeen = max s.maxHeightSeen (pendingNeed s : Int))
      (fun s' => N < pendingNeed s ∧ s'.maxHeightSeen = (N : Int) + 1 ∧ s'.status = s.status) := by
  unfold addNewObservers
  refine Out.bind_get ?_
  refine Out.bind_modify (fun s0 hs0 => ?_)
  have I0 : SInv env s0 s.newObservers s.disallowedObservers := by
    rw [hs0]; exact sInv_congr I rfl rfl rfl rfl rfl rfl rfl
  have hb0 : HEx s0 allClosed := by
    rw [hs0]; exact hb.transfer (fun _ => rfl) (Int.le_refl _) (fun m hm ho => ⟨hm, ho, rfl⟩)
  have hstat0 : s0.status = s.status := by rw [hs0]
  have R0 : RoomH N s0 := by rw [hs0]; exact ⟨R.ahh, R.rch, R.seen, R.seen0⟩
  have hobs0 : s0.observers = s.observers := by rw [hs0]
  have hseen0 : s0.maxHeightSeen = s.maxHeightSeen := by rw [hs0]
  have hkind0 : ∀ m, (s0.nodeD m).kind = (s.nodeD m).kind := by intro m; rw [hs0]; rfl
  have hneed0 : ∀ l, needsOf s0 l = needsOf s l := by
    intro l
    have : obsNeed s0 = obsNeed s := by
      funext o; simp only [obsNeed, hobs0, needH_congr hkind0]
    unfold needsOf; rw [this]
  rw [show pendingNeed s = lmax (needsOf s0 s.newObservers) by rw [hneed0]; rfl]
  refine Out.bind (forIn_out _ s.newObservers
    (fun j (_ : PUnit) t => SInv env t (s.newObservers.drop j) s.disallowedObservers ∧
      t.nodes.size = s.nodes.size ∧ HEx t allClosed ∧ RoomH N t ∧
      (∀ (o : Nat) (ob : ObsRec), o ∈ s.newObservers.drop j → t.observers[o]? = some ob →
        ob.state = .created ∨ ob.state = .unlinked) ∧
      (∀ o, o ∈ s.newObservers.drop j → t.observers[o]? = s0.observers[o]?) ∧
      PFrame s0 t ∧
      lmax (needsOf s0 (s.newObservers.take j)) ≤ N ∧
      t.maxHeightSeen = max s0.maxHeightSeen (lmax (needsOf s0 (s.newObservers.take j)) : Int))
    (fun s' => N < lmax (needsOf s0 s.newObservers) ∧ s'.maxHeightSeen = (N : Int) + 1 ∧
      s'.status = s.status) ?_ _ _
    ⟨by rw [List.drop_zero]; exact I0, by rw [hs0], hb0, R0, by rw [List.drop_zero, hobs0]; exact hst,
      fun _ _ => rfl, PFrame.refl _, by simp [needsOf_nil, lmax_nil],
      by simp only [List.take_zero, needsOf_nil, lmax_nil]; have := R0.seen0; omega⟩) ?_
  · intro j o b t hj ⟨It, hsz, hbt, Rt, hpt, hrec, hfr, hmaxN, hseen⟩
    have hndj : (o :: s.newObservers.drop (j + 1)).Nodup := by
      rw [← drop_of_getElem? hj]; exact List.Nodup.sublist (List.drop_sublist _ _) hnd
    rw [drop_of_getElem? hj] at It hpt hrec
    obtain ⟨ob, hob⟩ := It.obs.newIn o (List.mem_cons_self ..)
    have hob0 : s0.observers[o]? = some ob := by rw [← hrec o (List.mem_cons_self ..)]; exact hob
    have hkind : ∀ m, (t.nodeD m).kind = (s0.nodeD m).kind := PFrame.kind hfr
    have hstat : t.status = s.status := by
      have hk := hfr.key
      simp only [stateKeyP, Prod.mk.injEq] at hk
      rw [hk.2.2.1, hstat0]
    have hh : ob.handlers = [] := (It.obs.inRange o ob hob).2
    have hn : ob.node < t.nodes.size := (It.obs.inRange o ob hob).1
    have htake : s.newObservers.take (j + 1) = s.newObservers.take j ++ [o] := by
      rw [List.take_add_one, hj]; rfl
    have hmemo : o ∈ s.newObservers := List.mem_of_getElem? hj
    refine P4.Out.bind_getObs hob ?_
    rcases hpt o ob (List.mem_cons_self ..) hob with hc | hu
    · rw [hc]
      dsimp only
      have hnd1 : needsOf s0 [o] = [needH s0 ob.node] := needsOf_single_created hob0 hc
      have hneedt : needH t ob.node = needH s0 ob.node := needH_congr hkind _
      have hmem : needH s0 ob.node ∈ needsOf s0 s.newObservers :=
        mem_needsOf.2 ⟨o, ob, hmemo, hob0, hc, rfl⟩
      refine P4.Out.bind_modObs ?_
      refine Out.bind_get ?_
      refine Out.bind_modify (fun u1 hu1 => ?_)
      refine Out.bind_modNode (fun u2 hu2 => ?_)
      have e2 : u2 = obsAdded o ob.node ((ob.handlers.length : Nat) : Int) t := by rw [hu2, hu1]; rfl
      rw [e2, hh, List.length_nil]
      obtain ⟨t4, h4⟩ := has_ok (n := ob.node) (s := obsAdded o ob.node ((0 : Nat) : Int) t)
        (by rw [(obsAdded_upd (o := o) (k := ((0 : Nat) : Int)) hn).size]; exact hn)
      obtain ⟨hnec4, T⟩ := P4.add_tail_out (env := env) (fuel := fuel) It hob hbt Rt
        (by rw [hsz]; exact hf) h4
      refine Out.bind_ok h4 ?_
      refine Out.bind_get ?_
      refine Out.bind_dassert (fun _ => hnec4) ?_
      rw [hneedt] at T
      rcases T with ⟨r, t', hrun, q1, q2, q3⟩ | ⟨t', hrun, p1, p2, p3⟩
      · obtain ⟨hr, I', R', -⟩ := add_created (was := t.isNecessary ob.node) It hob hc rfl h4 hrun
        have S := Quiet.P23.add_created_obs (was := t.isNecessary ob.node) It hob rfl h4 hrun
        have hlm : lmax (needsOf s0 (s.newObservers.take (j + 1))) =
            max (lmax (needsOf s0 (s.newObservers.take j))) (needH s0 ob.node) := by
          rw [htake, needsOf_append, lmax_append, hnd1, lmax_cons, lmax_nil]; omega
        refine Out.of_ok hrun ⟨_, hr, I', R'.frame.size.trans hsz, q2,
          P4.roomH_of_pframe Rt R'.frame (by rw [q3]; omega) (by rw [q3]; have := Rt.seen; omega),
          Quiet.P23.pending_step S (List.nodup_cons.1 hndj).1 hpt, ?_, ?_, ?_, ?_⟩
        · intro o' ho'
          have e : o' ≠ o := fun e => (List.nodup_cons.1 hndj).1 (e ▸ ho')
          rw [S.other o' e]; exact hrec o' (List.mem_cons_of_mem _ ho')
        · exact hfr.trans R'.frame
        · rw [hlm]; omega
        · rw [q3, hseen, hlm]; omega
      · exact Out.of_err hrun ⟨Nat.lt_of_lt_of_le p1 (le_lmax hmem), p2, p3.trans hstat⟩
    · rw [hu]
      dsimp only
      have hnd1 : needsOf s0 [o] = [] := needsOf_single_other hob0 (by rw [hu]; exact fun e => by cases e)
      have hlm : lmax (needsOf s0 (s.newObservers.take (j + 1))) =
          lmax (needsOf s0 (s.newObservers.take j)) := by
        rw [htake, needsOf_append, hnd1, List.append_nil]
      exact Out.pure ⟨_, rfl, ⟨It.struct, obsInv_skip_step It.obs hob (by rw [hu]; exact fun e => by cases e),
        It.pinv, It.handlers⟩, hsz, hbt, Rt, fun o' ob' ho' h' => hpt o' ob' (List.mem_cons_of_mem _ ho') h',
        fun o' ho' => hrec o' (List.mem_cons_of_mem _ ho'), hfr, by rw [hlm]; exact hmaxN,
        by rw [hlm]; exact hseen⟩
  · intro _ s1 _ ⟨_, _, hb1, _, _, _, _, hmN, hseen1⟩
    rw [List.take_length] at hmN hseen1
    exact Out.pure ⟨hmN, hb1, by rw [hseen1, hseen0]⟩

/-- the exact heights through a step under which necessity shrinks and necessary nodes keep their height -/
theorem hex_of_necH {s s' : State} {op op' : Nat → Op} (hb : HEx s op) (h : Quiet.P22.NecH s s')
    (hk : ∀ m, (s'.nodeD m).kind = (s.nodeD m).kind) (hs : s'.maxHeightSeen = s.maxHeightSeen)
    (hop : ∀ m, op' m = .closed → s.isNecessary m = true → op m = .closed) : HEx s' op' := by
  refine hb.transfer hk (by rw [hs]; exact Int.le_refl _) (fun m hm ho => ?_)
  obtain ⟨hm0, hh⟩ := h m hm
  exact ⟨hm0, hop m ho hm0, hh⟩

/-- **the unlinking cascade returns**, keeps the exact heights, and sets no (non-negative) height -/
theorem checkIfUnnecessary_totalH {env : Env} {fuel c : Nat} {s : State} {op : Nat → Op}
    (I : GInv env s op) (hb : HEx s op) (h0 : 0 ≤ s.maxHeightSeen) (hlow : ∀ m, op m ≠ .closed → c ≤ m)
    (hcase : (s.isNecessary c = true ∧ op c = .closed) ∨ (s.isNecessary c = false ∧ op c = .unlinking 0))
    (hf : 3 * c + 3 ≤ fuel) :
    Tot (checkIfUnnecessary fuel c) s (fun _ s' => HEx s' (upd op c .closed) ∧
      s'.maxHeightSeen = s.maxHeightSeen) := by
  obtain ⟨u, s', hrun, Nh⟩ := (Quiet.P22.unlink_tot fuel).2.1 env c s op I hlow hcase hf
  have hs := checkIfUnnecessary_seen hrun h0
  have F : CFrame s s' := (PresF.checkIfUnnecessary fuel c).h s _ s' hrun
  refine ⟨u, s', hrun, hex_of_necH hb Nh F.kind hs (fun m ho hm => ?_), hs⟩
  by_cases e : m = c
  · rw [e] at hm ⊢
    rcases hcase with ⟨_, h⟩ | ⟨h, _⟩
    · exact h
    · rw [h] at hm; cases hm
  · rw [upd_other _ _ _ e] at ho; exact ho

/-- `unlink_disallowed_observers` returns, keeps the exact heights, and sets no height -/
theorem unlinkDisallowedObservers_totalH {env : Env} {fuel : Nat} {s : State}
    (I : SInv env s [] s.disallowedObservers) (_hn : s.newObservers = []) (hb : HEx s allClosed)
    (h0 : 0 ≤ s.maxHeightSeen) (hf : 3 * s.nodes.size + 3 ≤ fuel) :
    Tot (unlinkDisallowedObservers fuel) s (fun _ s' => HEx s' allClosed ∧
      s'.maxHeightSeen = s.maxHeightSeen) := by
  unfold unlinkDisallowedObservers
  refine Tot.bind_get ?_
  refine Tot.bind_modify ?_
  have I0 : SInv env { s with disallowedObservers := [] } [] s.disallowedObservers :=
    sInv_congr I rfl rfl rfl rfl rfl rfl rfl
  have hb0 : HEx { s with disallowedObservers := [] } allClosed :=
    hb.transfer (fun _ => rfl) (Int.le_refl _) (fun m hm ho => ⟨hm, ho, rfl⟩)
  refine Tot.bind (Quiet.P23.forIn_tot' _ _
    (fun j (_ : PUnit) t => SInv env t [] (s.disallowedObservers.drop j) ∧ t.nodes.size = s.nodes.size ∧
      HEx t allClosed ∧ t.maxHeightSeen = s.maxHeightSeen) ?_ _ _
      ⟨by rw [List.drop_zero]; exact I0, rfl, hb0, rfl⟩) ?_
  · intro j o b t hj ⟨It, hsz, hbt, hseen⟩
    rw [drop_of_getElem? hj] at It
    obtain ⟨ob, hob⟩ := It.obs.disIn o (List.mem_cons_self ..)
    have hstd : ob.state = .disallowed := (It.obs.dis o ob hob).2 (List.mem_cons_self ..)
    have hh : ob.handlers = [] := (It.obs.inRange o ob hob).2
    have hn : ob.node < t.nodes.size := (It.obs.inRange o ob hob).1
    refine Quiet.P23.Tot.bind_getObs hob ?_
    refine Tot.bind_dassert (fun _ => by rw [hstd]; rfl) ?_
    refine Quiet.P23.Tot.bind_modObs ?_
    refine Tot.bind_modNode ?_
    refine Tot.bind_modify ?_
    change Tot _ (obsRemoved o ob.node ((ob.handlers.length : Nat) : Int) t) _
    rw [hh, List.length_nil]
    have hmem : o ∈ (t.nodeD ob.node).observers := (It.obs.mem ob.node o).2 ⟨ob, hob, rfl, Or.inr hstd⟩
    have hnec : t.isNecessary ob.node = true :=
      (isNecessary_iff t ob.node).2 (Or.inr (Or.inl (List.ne_nil_of_mem hmem)))
    have U3 : NodeUpd ob.node (fObservers ((t.nodeD ob.node).observers.filter (· != o))) t
        (obsRemoved o ob.node ((0 : Nat) : Int) t) := obsRemoved_upd hn
    have hs3 : (obsRemoved o ob.node ((0 : Nat) : Int) t).maxHeightSeen = t.maxHeightSeen := rfl
    have h03 : 0 ≤ (obsRemoved o ob.node ((0 : Nat) : Int) t).maxHeightSeen := by rw [hs3, hseen]; exact h0
    obtain ⟨H1, H2⟩ := GInv.remObs It.struct U3 rfl hnec
    have hfuel : 3 * ob.node + 3 ≤ fuel := by omega
    have T : Tot (checkIfUnnecessary fuel ob.node) (obsRemoved o ob.node ((0 : Nat) : Int) t)
        (fun _ s' => HEx s' allClosed ∧
          s'.maxHeightSeen = (obsRemoved o ob.node ((0 : Nat) : Int) t).maxHeightSeen) := by
      cases hnc : (obsRemoved o ob.node ((0 : Nat) : Int) t).isNecessary ob.node with
      | true =>
        have T := checkIfUnnecessary_totalH (H1 hnc)
          (P4.hex_upd hbt U3 hs3 (fun _ _ h => h) (fun _ _ => ⟨hnec, rfl⟩)) h03 (allClosed_low _)
          (Or.inl ⟨hnc, rfl⟩) hfuel
        rw [upd_eq_self allClosed _ .closed rfl] at T; exact T
      | false =>
        have T := checkIfUnnecessary_totalH (H2 hnc)
          (P4.hex_upd hbt U3 hs3 (fun _ _ _ => rfl) (fun h _ => by rw [hnc] at h; cases h)) h03
          (by
            intro m hm
            by_cases e : m = ob.node
            · omega
            · rw [upd_other _ _ _ e] at hm; exact absurd rfl hm)
          (Or.inr ⟨hnc, upd_self _ _ _⟩) hfuel
        rw [upd_upd, upd_eq_self allClosed _ .closed rfl] at T; exact T
    obtain ⟨u, t', hrun, hb', hs'⟩ := T
    obtain ⟨I', R'⟩ := unlink_iter It hob hrun
    exact Tot.bind_ok hrun (Tot.pure ⟨_, rfl, I', by rw [R'.frame.size]; exact hsz, hb',
      by rw [hs', hs3]; exact hseen⟩)
  · intro _ s1 _ ⟨_, _, hb1, hs1⟩
    exact Tot.pure ⟨hb1, hs1⟩

end IncrVerif.Proofs.HeightH
