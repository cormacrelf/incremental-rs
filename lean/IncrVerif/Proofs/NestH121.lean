import IncrVerif.Proofs.NestH120
/-!
# Nested binds (F2), part 7g: observers watch NAMED nodes; `ProgOK` along histories; HEADLINE `history_stabilise_denote`
-/
namespace IncrVerif.Proofs.NestH
open IncrVerif.Engine IncrVerif.Driver IncrVerif.Proofs IncrVerif.Proofs.Step IncrVerif.Proofs.Sched IncrVerif.Proofs.Quiet
open IncrVerif.Proofs.BindH
open IncrVerif.Spec

/-- every observer watches a node named by the naming table (it was created by `observe (.outer j)`) -/
def ObsNamed (s : State) : Prop := ∀ (o : Nat) (ob : ObsRec), s.observers[o]? = some ob → ∃ j : Nat, s.top[j]? = some ob.node

namespace N7

/-- the naming table is unchanged and the observers watch the nodes they watched -/
structure ON (s s' : State) : Prop where
  top : s'.top = s.top
  obs : ∀ (o : Nat) (ob' : ObsRec), s'.observers[o]? = some ob' → ∃ ob, s.observers[o]? = some ob ∧ ob'.node = ob.node

instance : PreOrd ON where
  refl _ := ⟨rfl, fun o ob h => ⟨ob, h, rfl⟩⟩
  trans h1 h2 := ⟨h2.top.trans h1.top, fun o ob' h => by
    obtain ⟨ob1, k1, k2⟩ := h2.obs o ob' h
    obtain ⟨ob0, k3, k4⟩ := h1.obs o ob1 k1
    exact ⟨ob0, k3, k2.trans k4⟩⟩

theorem ON.of_eq {s s' : State} (ht : s'.top = s.top) (ho : s'.observers = s.observers) : ON s s' :=
  ⟨ht, fun o ob h => ⟨ob, by rw [← ho]; exact h, rfl⟩⟩

theorem ON.named {s s' : State} (F : ON s s') (O : ObsNamed s) : ObsNamed s' := by
  intro o ob' h
  obtain ⟨ob, k1, k2⟩ := F.obs o ob' h
  obtain ⟨j, hj⟩ := O o ob k1
  exact ⟨j, by rw [F.top, k2]; exact hj⟩

macro_rules
  | `(tactic| qleaf) => `(tactic| ((with_reducible apply Step.Pres.modify); intro _; exact ON.of_eq rfl rfl))

theorem presON_modObs (o : Nat) (f : ObsRec → ObsRec) (hf : ∀ x, (f x).node = x.node) : Step.Pres ON (modObs o f) := by
  unfold Engine.modObs
  apply Step.Pres.modify
  intro s
  refine ⟨rfl, fun o' ob' h => ?_⟩
  have h' : (s.observers.modify o f)[o']? = some ob' := h
  rw [Array.getElem?_modify] at h'
  by_cases e : o = o'
  · rw [if_pos e] at h'
    cases hx : s.observers[o']? with
    | none => rw [hx] at h'; cases h'
    | some ob =>
      rw [hx] at h'
      simp only [Option.map_some] at h'
      cases h'
      exact ⟨ob, rfl, hf ob⟩
  · rw [if_neg e] at h'
    exact ⟨ob', h', rfl⟩
macro_rules
  | `(tactic| qleaf) => `(tactic| ((with_reducible apply presON_modObs); intro _; rfl))

theorem presON_getObs (o : Nat) : Step.Pres ON (getObs o) := by unfold Engine.getObs; qpres
macro_rules | `(tactic| qleaf) => `(tactic| with_reducible apply presON_getObs)
theorem presON_bumpCounter (f) : Step.Pres ON (bumpCounter f) := by unfold Engine.bumpCounter; qpres
macro_rules | `(tactic| qleaf) => `(tactic| with_reducible apply presON_bumpCounter)
theorem presON_disallowFutureUse (o) : Step.Pres ON (disallowFutureUse o) := by unfold Engine.disallowFutureUse; qpres
macro_rules | `(tactic| qleaf) => `(tactic| with_reducible apply presON_disallowFutureUse)

theorem presON_cloneObs (env : Env) (o : Nat) (tokens : Array Nat) : Step.Pres ON (stepAction env (.cloneObs o) tokens) := by
  unfold Engine.stepAction; qpres
theorem presON_dropObs (env : Env) (o : Nat) (tokens : Array Nat) : Step.Pres ON (stepAction env (.dropObs o) tokens) := by
  unfold Engine.stepAction; qpres
theorem presON_disallow (env : Env) (o : Nat) (tokens : Array Nat) : Step.Pres ON (stepAction env (.disallow o) tokens) := by
  unfold Engine.stepAction; qpres

theorem obsNamed_write {env : Env} {rk : Nat → Nat} {s s' : State} {v : Nat} {f : Val → Val} {isSet : Bool} {r : Val}
    (Q : QInv2 env rk s) (h : (writeVar v f isSet).run.run s = (.ok r, s')) (O : ObsNamed s) : ObsNamed s' := by
  obtain ⟨vc, hv⟩ := writeVar_ok_cell h
  have hst : s.status ≠ .stabilising := by rw [Q.status]; intro e; cases e
  obtain ⟨hr, hs', -, -, hh⟩ := writeVar_outside_ok v f isSet s s' vc r hv hst h
  obtain ⟨R, -⟩ := N4w.wroteOutside_q (f vc.value) Q hv hh
  rw [← hs'] at R
  exact (ON.of_eq R.top R.observers).named O

theorem obsNamed_stabilise {env : Env} {fuel : Nat} {s s' : State} (Q : QI2 env s)
    (hst : (stabilise env fuel).run.run s = (.ok (), s')) (O : ObsNamed s) : ObsNamed s' := by
  have S := stabilise_F2' Q hst
  have ht := ((C2h.PresTop.stabilise env fuel).h _ _ _ hst).top
  intro o ob' ho
  have hlt : o < s.observers.size := by rw [← S.obs.1]; exact (Array.getElem?_eq_some_iff.1 ho).1
  obtain ⟨ob1, k1, k2, -⟩ := S.obs.2 o s.observers[o] (Array.getElem?_eq_getElem hlt)
  rw [ho] at k1; cases k1
  obtain ⟨j, hj⟩ := O o s.observers[o] (Array.getElem?_eq_getElem hlt)
  exact ⟨j, by rw [ht, k2]; exact hj⟩

theorem progOK_stabilise {p : RefProg} {env : Env} {fuel : Nat} {s s' : State} (Q : QI2 env s)
    (hst : (stabilise env fuel).run.run s = (.ok (), s')) (P : ProgOK p env s) : ProgOK p env s' := by
  have S := stabilise_F2' Q hst
  obtain ⟨rk, Q'⟩ := Q
  exact progOK_frame P (top_in Q') ((C2h.PresTop.stabilise env fuel).h _ _ _ hst).top
    ((N7k.PresBK.stabilise env fuel).h _ _ _ hst) (fun c => by rw [S.vars])

theorem histF2_prefix {env : Env} : ∀ (as bs : List Action) (T : Nat), HistF2 env T (as ++ bs) → HistF2 env T as := by
  intro as
  induction as with
  | nil => intro _ _ _; trivial
  | cons a as ih => intro bs T h; exact ⟨h.1, ih bs _ h.2⟩

end N7

/-- **observers watch named nodes**: kept by every API action of the fragment -/
theorem obsNamed_step {env : Env} {s s' : State} {a : Action} {tokens : Array Nat} {r : String × Array Nat}
    (Q : QI2 env s) (ha : ActionF2 env s.top.size a) (h : (stepAction env a tokens).run.run s = (.ok r, s'))
    (O : ObsNamed s) : ObsNamed s' := by
  cases a <;> try exact ha.elim
  case create i =>
    obtain ⟨-, E, m, hm, -⟩ := step_create2 Q ha h
    intro o ob ho
    rw [E.observers] at ho
    obtain ⟨j, hj⟩ := O o ob ho
    refine ⟨j, ?_⟩
    rw [hm, Array.getElem?_push, if_neg (by have := (Array.getElem?_eq_some_iff.1 hj).1; omega)]
    exact hj
  case observe n =>
    cases n <;> try exact ha.elim
    rename_i k
    simp only [stepAction, resolveOpnd] at h
    obtain ⟨n, s0, h0, h⟩ := bind_ok_inv h
    rw [run_bind_get] at h0
    cases hk : s.top[k]? with
    | none => rw [hk] at h0; cases h0
    | some n' =>
      rw [hk] at h0
      obtain ⟨en, e0⟩ := pure_ok_inv h0
      rw [e0] at h
      rw [run_bind_get] at h
      obtain ⟨s1, e1, h⟩ := bind_modify_inv h
      obtain ⟨s2, e2, h⟩ := bind_bumpCounter_inv h
      obtain ⟨-, e⟩ := pure_ok_inv h
      rw [e, e2, e1]
      intro o ob ho
      have ho' : (s.observers.push { node := n })[o]? = some ob := ho
      rw [Array.getElem?_push] at ho'
      split at ho'
      · cases ho'
        exact ⟨k, by rw [en]; exact hk⟩
      · exact O o ob ho'
  case cloneObs o => exact ((N7.presON_cloneObs env o tokens).h _ _ _ h).named O
  case dropObs o => exact ((N7.presON_dropObs env o tokens).h _ _ _ h).named O
  case disallow o => exact ((N7.presON_disallow env o tokens).h _ _ _ h).named O
  case stabilise => exact N7.obsNamed_stabilise Q (step_stabilise h) O
  all_goals obtain ⟨rk, Q⟩ := Q
  case get v => rw [(Hist.stepAction_read_ok (.get v) h).1]; exact O
  case isStable => rw [(Hist.stepAction_read_ok .isStable h).1]; exact O
  case stats => rw [(Hist.stepAction_read_ok .stats h).1]; exact O
  all_goals
    obtain ⟨old, h1, -⟩ := (Hist.stepAction_write_ok (by constructor)).1 h
    exact N7.obsNamed_write Q h1 O

/-! ## whole histories -/

theorem progOK_init (env : Env) (po : Nat → Bool) (N : Nat) (d : Bool) : ProgOK (progInit env po) env (State.init N d) := by
  refine ⟨rfl, rfl, fun c => ?_, fun j i n hi _ => ?_⟩
  · show (#[] : Array Val)[c]? = ((#[] : Array VarCell)[c]?).map VarCell.value
    simp
  · have : (#[] : Array Instr)[j]? = some i := hi
    simp at this

theorem obsNamed_init (N : Nat) (d : Bool) : ObsNamed (State.init N d) := by
  intro o ob ho
  have : (#[] : Array ObsRec)[o]? = some ob := ho
  simp at this

/-- a run of a list of actions of the fragment moves the text by `progStep` -/
theorem runActions_progOK {env : Env} : ∀ (acts : List Action) {p : RefProg} {s s' : State} {tk tk' : Array Nat},
    QG2 env s → HistF2 env s.top.size acts → ProgOK p env s → ObsNamed s →
    Quiet.runActions env acts s tk = .ok (s', tk') → ProgOK (acts.foldl progStep p) env s' ∧ ObsNamed s' := by
  intro acts
  induction acts with
  | nil =>
    intro p s s' tk tk' _ _ P O h
    simp only [Quiet.runActions] at h
    cases h
    exact ⟨P, O⟩
  | cons a as ih =>
    intro p s s' tk tk' Q hH P O h
    simp only [Quiet.runActions] at h
    obtain ⟨ha, hrest⟩ := hH
    rcases hx : (stepAction env a tk).run.run s with ⟨_ | r, s1⟩
    · rw [hx] at h; cases h
    · rw [hx] at h
      have Q1 := step_F2 Q ha hx
      have ht := N4h.top_step2 Q.1 ha hx
      have hrest' : HistF2 env s1.top.size as := by rw [ht]; exact hrest
      exact ih Q1 hrest' (progOK_step Q.1 ha hx P) (obsNamed_step Q.1 ha hx O) h

/-- **`ProgOK` along histories.**  In every state reached from the initial state by a history of the fragment, the top-level nodes are the images of the creation
instructions of the history and the variables have the values the history wrote: `ProgOK (progOf env po acts) env s`; and the observers watch named nodes. -/
theorem progOK_history {env : Env} (po : Nat → Bool) {N : Nat} {d : Bool} {acts : List Action} {s : State} {tk : Array Nat}
    (hH : HistF2 env 0 acts) (h : Quiet.runActions env acts (State.init N d) #[] = .ok (s, tk)) :
    ProgOK (progOf env po acts) env s ∧ ObsNamed s :=
  runActions_progOK acts (qg2_init env N d) hH (progOK_init env po N d) (obsNamed_init N d) h

/-- **HEADLINE: observers read the TEXT-LEVEL reference value.**  At each `stabilise` action of a history of fragment F2 that runs from the initial state, with
`p := progOf env po as` the program text of the prefix (creation instructions in order, current variable values): the state `s2` after the `stabilise` is described
by `p` (`ProgOK`), and every in-use observer watches a named node `top[j]` and reads `Spec.denoteTop p f j` for all large enough `f` — the value obtained from the
program text alone: evaluate the operands; for a `bind`, evaluate the lhs, run the closure on that value, evaluate the template it returns, nested binds recursively. -/
theorem history_stabilise_denote {env : Env} (po : Nat → Bool) (Z : ZipPair env) {N : Nat} {d : Bool} {as bs : List Action}
    {s : State} {tk : Array Nat} (hH : HistF2 env 0 (as ++ Action.stabilise :: bs))
    (h : Quiet.runActions env (as ++ Action.stabilise :: bs) (State.init N d) #[] = .ok (s, tk)) :
    ∃ s1 tk1 s2, Quiet.runActions env as (State.init N d) #[] = .ok (s1, tk1) ∧
      (stabilise env fuelDefault).run.run s1 = (.ok (), s2) ∧ QG2 env s2 ∧ ProgOK (progOf env po as) env s2 ∧
      (∀ (o : Nat) (ob : ObsRec), s2.observers[o]? = some ob → ob.state = .inUse →
        ∃ v j, s2.tryGetValue env o = .ok v ∧ s2.top[j]? = some ob.node ∧
          ∃ F, ∀ f, F ≤ f → denoteTop (progOf env po as) f j = some v) ∧
      Quiet.runActions env bs s2 tk1 = .ok (s, tk) := by
  obtain ⟨s1, tk1, s2, h1, Q1, hst, S, Q2, hread, h2⟩ := history_stabilise_F2 hH h
  obtain ⟨P1, O1⟩ := progOK_history po (N7.histF2_prefix as _ 0 hH) h1
  have P2 := N7.progOK_stabilise Q1.1 hst P1
  have O2 := N7.obsNamed_stabilise Q1.1 hst O1
  refine ⟨s1, tk1, s2, h1, hst, Q2, P2, ?_, h2⟩
  intro o ob ho hu
  obtain ⟨v, hv, K, hK⟩ := hread o ob ho hu
  obtain ⟨j, hj⟩ := O2 o ob ho
  exact ⟨v, j, hv, hj, (agree_large P2 Z hj v).1 ⟨K, hK⟩⟩

end IncrVerif.Proofs.NestH
