import IncrVerif.Proofs.MapOld19
/-!
# map_with_old fragment: node creation keeps `QInvW`
-/
namespace IncrVerif.Proofs.MapOldH
open IncrVerif.Engine IncrVerif.Driver IncrVerif.Proofs IncrVerif.Proofs.Step IncrVerif.Proofs.Sched IncrVerif.Proofs.Quiet

/-- creation instructions of the fragment static + map_with_old -/
def WInstr (env : Env) (C : Val → Prop) (sp : Nat → Val → Val) : Instr → Prop
  | .const v => C v
  | .var v => C v
  | .map f args => f < woBase ∧ (f < fnZip → ∀ vals, env.fnEff f vals = []) ∧ ∀ a, a ∈ args → OpndOK a
  | .fold _ init cs => C init ∧ ∀ a, a ∈ cs → OpndOK a
  | .zip a b => OpndOK a ∧ OpndOK b
  | .mapWithOld g i => WId g ∧ Good env C sp g ∧ OpndOK i
  | .mapOp op => WId (opId op) ∧ Good env C sp (opId op) ∧ ∀ a, a ∈ opOpnds op → OpndOK a
  | _ => False

section
variable {env : Env} {C : Val → Prop} {sp : Nat → Val → Val}

theorem QInvW.top_lt {s : State} (Q : QInvW env C sp s) (k n : Nat) (h : s.top[k]? = some n) : n < s.nodes.size := by
  have := Q.q.top k n h
  rwa [virt_size] at this

theorem QInvW.scope {s : State} (Q : QInvW env C sp s) : s.currentScope = .top := Q.q.struct.static.scope

theorem CrVars_old {k : Kind} {s s1 : State} {tp : Array Nat} (Cr : Created k s s1 tp) (hnv : ∀ c, k ≠ .var c)
    (M : MInv env C s) : ∀ (c : Nat) (vc : VarCell), s1.vars[c]? = some vc → C vc.value := by
  intro c vc h
  rcases Cr.vars with ⟨-, e⟩ | ⟨v, ek, -⟩
  · rw [e] at h; exact M.vars c vc h
  · exact absurd ek (hnv _)

/-- **an intermediate node** (not entered in the naming table) keeps the invariant -/
theorem CrMid {k : Kind} {s s1 : State} (Q : QInvW env C sp s) (Cr : Created k s s1 s.top)
    (hnv : ∀ c, k ≠ .var c) (hk : WKind env (Good env C sp) k) (hl : LitOK C k)
    (hkids : ∀ c, c ∈ kidsW k → c < s.nodes.size) : QInvW env C sp s1 :=
  CrCreated_keepsW Cr Q (fun kk n h => by have := Q.top_lt kk n h; omega) hk hl hkids (CrVars_old Cr hnv Q.m)

/-- **the last node**, entered in the naming table, keeps the invariant -/
theorem CrLast {k : Kind} {s s1 : State} (Q : QInvW env C sp s) (Cr : Created k s s1 (s.top.push s.nodes.size))
    (hk : WKind env (Good env C sp) k) (hl : LitOK C k)
    (hkids : ∀ c, c ∈ kidsW k → c < s.nodes.size)
    (hvars : ∀ (c : Nat) (vc : VarCell), s1.vars[c]? = some vc → C vc.value) : QInvW env C sp s1 := by
  refine CrCreated_keepsW Cr Q (fun kk n h => ?_) hk hl hkids hvars
  rw [Array.getElem?_push] at h
  split at h
  · injection h with h; omega
  · have := Q.top_lt kk n h; omega

theorem CrIsConstant_some {a : Nat} {s s1 : State} {v : Val}
    (h : (isConstant a).run.run s = (.ok (some v), s1)) : a < s.nodes.size ∧ (s.nodeD a).kind = .const v := by
  unfold isConstant at h
  obtain ⟨nd, hnd, h⟩ := bind_getNode_inv h
  have hlt : a < s.nodes.size := (Array.getElem?_eq_some_iff.1 hnd).1
  have hD : s.nodeD a = nd := by simp [State.nodeD, hnd]
  split at h
  · rename_i w hw
    have e := (pure_ok_inv h).1
    injection e with e
    unfold Node.kind? at hw
    split at hw
    · injection hw with hw
      rw [hD, hw, e]; exact ⟨hlt, rfl⟩
    · cases hw
  · have e := (pure_ok_inv h).1
    cases e

theorem mapM_resolve_top {s : State} :
    ∀ (l : List Opnd) (r : List Nat) (s1 : State), (∀ a, a ∈ l → OpndOK a) →
      (l.mapM (fun o => resolveOpnd [] o)).run.run s = (.ok r, s1) →
      s1 = s ∧ ∀ c, c ∈ r → ∃ k : Nat, s.top[k]? = some c :=
  mapM_resolve_inv1

/-- what a creation instruction of the fragment does: some intermediate nodes (the state `s0` satisfies the
invariant and has the naming table of `s`), then one last node of kind `k` (the returned one) -/
def CrRes (env : Env) (C : Val → Prop) (sp : Nat → Val → Val) (s s1 : State) (ro : Option Nat) : Prop :=
  ∃ k s0, QInvW env C sp s0 ∧ s0.top = s.top ∧ ro = some s0.nodes.size ∧ Created k s0 s1 s0.top ∧
    WKind env (Good env C sp) k ∧ LitOK C k ∧ (∀ c, c ∈ kidsW k → c < s0.nodes.size) ∧
    (∀ (c : Nat) (vc : VarCell), s1.vars[c]? = some vc → C vc.value)

theorem CrRes_one {k : Kind} {s s1 : State} {ro : Option Nat} {n : Nat} (Q : QInvW env C sp s)
    (hnv : ∀ c, k ≠ .var c) (h : (createNode k .top).run.run s = (.ok n, s1)) (e : ro = some n)
    (hk : WKind env (Good env C sp) k) (hl : LitOK C k) (hkids : ∀ c, c ∈ kidsW k → c < s.nodes.size) :
    CrRes env C sp s s1 ro := by
  obtain ⟨en, Cr⟩ := createNode_created hnv h
  exact ⟨k, s, Q, rfl, by rw [e, en], Cr, hk, hl, hkids, CrVars_old Cr hnv Q.m⟩

end
end IncrVerif.Proofs.MapOldH
