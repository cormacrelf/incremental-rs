import IncrVerif.Proofs.MapRef12
/-!
# map_ref fragment: what the `didChange` invariant reads, and the frames the linking cascade keeps

Definitions (`Mk`, `Unclean`, `KN`, `Inherit`), the frames `VFrame` (what `RFrag`, `State.value`, staleness of
map_ref nodes read) and `PP` (parent lists and `propagateInvalidity` equal), `markMapRefUnknown`.

`PP` is kept by every primitive write of the engine but those of a parent list and of `propagateInvalidity` (`PP.of_edit`).
`Lt` = `CFrame`, `FM` and `PP` together: `CFrame` is the frame of `Quiet6` (not a matter of which writes are made: a `tick`
keeps it only because an unarmed countdown stays unarmed), the other two are read off the writes (`PresLt.of_foot`).
-/
namespace IncrVerif.Proofs.MapRefH
open IncrVerif.Engine IncrVerif.Proofs IncrVerif.Proofs.Step IncrVerif.Proofs.Sched IncrVerif.Proofs.Quiet

/-- the nodes `markMapRefUnknown n` marks: `n` if it is a map_ref node, and from a map_ref node on to its recorded
parents.  `Mk s a n`: `a` is marked by `markMapRefUnknown n` -/
inductive Mk (s : State) : Nat → Nat → Prop
  | self {n : Nat} : IsMapRef (s.nodeD n).kind → Mk s n n
  | up {n p ci a : Nat} : IsMapRef (s.nodeD n).kind → (p, ci) ∈ (s.nodeD n).parents → Mk s a p → Mk s a n

/-- the ghost value is not what the node reads -/
def Unclean (env : Env) (g : Nat → Option Val) (s : State) (m : Nat) : Prop := g m ≠ s.value env m

/-- the invariant at one node -/
def KN (env : Env) (g : Nat → Option Val) (s : State) (m : Nat) : Prop :=
  IsMapRef (s.nodeD m).kind → Unclean env g s m → (s.nodeD m).didChange = true

/-- a map_ref node that is not stale is unclean only because its input is an unclean map_ref node -/
def Inherit (env : Env) (g : Nat → Option Val) (s : State) : Prop :=
  ∀ m pr i, (s.nodeD m).kind = .mapRef pr i → s.isStale m = false → Unclean env g s m →
    IsMapRef (s.nodeD i).kind ∧ Unclean env g s i

theorem kInv_iff {env : Env} {g : Nat → Option Val} {s : State} :
    KInv env g s ↔ ∀ m, s.isNecessary m = true → KN env g s m := by
  constructor
  · intro K m hm hk hu
    obtain ⟨p, i, hk⟩ := isMapRef_iff.1 hk
    cases hd : (s.nodeD m).didChange with
    | true => rfl
    | false => exact absurd (K m p i hm hk hd) hu
  · intro H m p i hm hk hd
    by_cases hu : g m = s.value env m
    · exact hu
    · have := H m hm (by rw [hk]; trivial) hu
      rw [this] at hd; cases hd

/-! ## `VFrame`: what `RFrag`, `State.value` and the staleness of map_ref nodes read -/

structure VFrame (s s' : State) : Prop where
  size : s'.nodes.size = s.nodes.size
  kind : ∀ m, (s'.nodeD m).kind = (s.nodeD m).kind
  valid : ∀ m, (s'.nodeD m).valid = (s.nodeD m).valid
  cutoff : ∀ m, (s'.nodeD m).cutoff = (s.nodeD m).cutoff
  value : ∀ m, (s'.nodeD m).value = (s.nodeD m).value
  rcp : ∀ m, (s'.nodeD m).recomputedAt = (s.nodeD m).recomputedAt
  chg : ∀ m, (s'.nodeD m).changedAt = (s.nodeD m).changedAt
  pc : s.panicCountdown = none → s'.panicCountdown = none

theorem VFrame.refl (s : State) : VFrame s s :=
  ⟨rfl, fun _ => rfl, fun _ => rfl, fun _ => rfl, fun _ => rfl, fun _ => rfl, fun _ => rfl, id⟩

theorem VFrame.trans {a b c : State} (h1 : VFrame a b) (h2 : VFrame b c) : VFrame a c :=
  ⟨h2.size.trans h1.size, fun m => (h2.kind m).trans (h1.kind m), fun m => (h2.valid m).trans (h1.valid m),
    fun m => (h2.cutoff m).trans (h1.cutoff m), fun m => (h2.value m).trans (h1.value m),
    fun m => (h2.rcp m).trans (h1.rcp m), fun m => (h2.chg m).trans (h1.chg m), fun h => h2.pc (h1.pc h)⟩

instance : Step.PreOrd VFrame := ⟨VFrame.refl, VFrame.trans⟩

theorem VFrame.of_nodes {s s' : State} (h1 : s'.nodes = s.nodes) (h2 : s'.panicCountdown = s.panicCountdown) :
    VFrame s s' := by
  have hnd : ∀ m, s'.nodeD m = s.nodeD m := fun m => by simp [State.nodeD, h1]
  exact ⟨by rw [h1], fun m => by rw [hnd], fun m => by rw [hnd], fun m => by rw [hnd], fun m => by rw [hnd],
    fun m => by rw [hnd], fun m => by rw [hnd], fun h => by rw [h2]; exact h⟩

/-- what a `modNode` must keep of a node -/
def NodeV (a b : Node) : Prop :=
  b.kind = a.kind ∧ b.valid = a.valid ∧ b.cutoff = a.cutoff ∧ b.value = a.value ∧
    b.recomputedAt = a.recomputedAt ∧ b.changedAt = a.changedAt

theorem VFrame.modNode (s : State) (n : Nat) (f : Node → Node) (hf : ∀ x, NodeV x (f x)) :
    VFrame s { s with nodes := s.nodes.modify n f } := by
  refine ⟨by simp, ?_, ?_, ?_, ?_, ?_, ?_, id⟩
  all_goals intro m; rw [nodeD_modify]; split
  any_goals rfl
  · exact (hf _).1
  · exact (hf _).2.1
  · exact (hf _).2.2.1
  · exact (hf _).2.2.2.1
  · exact (hf _).2.2.2.2.1
  · exact (hf _).2.2.2.2.2

theorem _root_.IncrVerif.Proofs.Quiet.CFrame.toV {s s' : State} (h : CFrame s s') : VFrame s s' := by
  have e := fun m => h.node m
  simp only [nodeKey, Prod.mk.injEq] at e
  exact ⟨h.size, fun m => (e m).1, fun m => (e m).2.2.2.2.1, fun m => (e m).2.2.1, fun m => (e m).2.2.2.1,
    fun m => (e m).2.2.2.2.2.1, fun m => (e m).2.2.2.2.2.2.1, h.pc⟩

theorem _root_.IncrVerif.Proofs.Quiet.CFrame.varsM {s s' : State} (h : CFrame s s') : s'.vars = s.vars := by
  have := h.key; simp only [stateKey, Prod.mk.injEq] at this; exact this.1

theorem VFrame.value_eq {s s' : State} (h : VFrame s s') (env : Env) (m : Nat) : s'.value env m = s.value env m :=
  value_congr env s s' h.size (fun k => by simp only [valueCore, h.kind, h.valid, h.value]) m

theorem VFrame.kind? {s s' : State} (h : VFrame s s') (m : Nat) : (s'.nodeD m).kind? = (s.nodeD m).kind? := by
  simp only [Node.kind?, h.kind, h.valid]

/-- staleness of a map_ref node -/
theorem isStale_mapRef {s : State} {m pr i : Nat} (hk : (s.nodeD m).kind = .mapRef pr i) :
    s.isStale m = ((s.nodeD m).valid &&
      ((s.nodeD m).recomputedAt == -1 || decide ((s.nodeD i).changedAt > (s.nodeD m).recomputedAt))) := by
  unfold State.isStale State.children
  cases hv : (s.nodeD m).valid with
  | false => simp [Node.kind?, hv]
  | true => simp [Node.kind?, hv, hk]

theorem VFrame.isStale_mapRef {s s' : State} (h : VFrame s s') {m pr i : Nat}
    (hk : (s.nodeD m).kind = .mapRef pr i) : s'.isStale m = s.isStale m := by
  rw [MapRefH.isStale_mapRef hk, MapRefH.isStale_mapRef (s := s') (by rw [h.kind]; exact hk), h.valid, h.rcp, h.chg]

theorem VFrame.unclean {env : Env} {g : Nat → Option Val} {s s' : State} (h : VFrame s s') (m : Nat) :
    Unclean env g s' m ↔ Unclean env g s m := by
  unfold Unclean; rw [h.value_eq]

theorem RFrag.of_vframe {env : Env} {s s' : State} (h : VFrame s s') (F : RFrag env s) : RFrag env s' where
  pc := h.pc F.pc
  kind m hm := by rw [h.kind]; exact F.kind m (by rw [← h.size]; exact hm)
  valid m hm := by rw [h.valid]; exact F.valid m (by rw [← h.size]; exact hm)
  back m hm := by rw [h.kind]; exact F.back m (by rw [← h.size]; exact hm)
  cut m p i hk := by rw [h.kind] at hk; rw [h.cutoff]; exact F.cut m p i hk

theorem Inherit.of_vframe {env : Env} {g : Nat → Option Val} {s s' : State} (h : VFrame s s')
    (T : Inherit env g s) : Inherit env g s' := by
  intro m pr i hk hst hu
  rw [h.kind] at hk
  rw [h.isStale_mapRef hk] at hst
  rw [h.unclean] at hu
  obtain ⟨h1, h2⟩ := T m pr i hk hst hu
  exact ⟨by rw [h.kind]; exact h1, (h.unclean i).2 h2⟩

theorem RFrag.of_cframe {env : Env} {s s' : State} (h : CFrame s s') (F : RFrag env s) : RFrag env s' :=
  F.of_vframe h.toV

theorem RFrag.mapRef_valid {env : Env} {s : State} (F : RFrag env s) {m : Nat} (h : IsMapRef (s.nodeD m).kind) :
    (s.nodeD m).valid = true := by
  obtain ⟨p, i, hk⟩ := isMapRef_iff.1 h
  exact F.valid m (F.lt_of_mapRef hk)

theorem RFrag.children {env : Env} {s : State} (F : RFrag env s) {n : Nat} (hn : n < s.nodes.size) :
    s.children n = kidsR (s.nodeD n).kind := by
  unfold State.children
  have hv := F.valid n hn
  have hk := F.kind n hn
  simp only [Node.kind?, hv, if_true]
  cases hkd : (s.nodeD n).kind <;> rw [hkd] at hk <;> first | rfl | exact hk.elim

/-! ## `PP`: parent lists and `propagateInvalidity` are unchanged -/

def PP (s s' : State) : Prop :=
  (∀ m, (s'.nodeD m).parents = (s.nodeD m).parents) ∧ s'.propagateInvalidity = s.propagateInvalidity

instance : Step.PreOrd PP :=
  ⟨fun _ => ⟨fun _ => rfl, rfl⟩, fun h1 h2 => ⟨fun m => (h2.1 m).trans (h1.1 m), h2.2.trans h1.2⟩⟩

theorem PP.of_nodes {s s' : State} (h1 : s'.nodes = s.nodes) (h2 : s'.propagateInvalidity = s.propagateInvalidity) :
    PP s s' := by
  refine ⟨fun m => ?_, h2⟩
  have : s'.nodeD m = s.nodeD m := by simp [State.nodeD, h1]
  rw [this]

theorem PP.modNode (s : State) (n : Nat) (f : Node → Node) (hf : ∀ x, (f x).parents = x.parents) :
    PP s { s with nodes := s.nodes.modify n f } := by
  refine ⟨fun m => ?_, rfl⟩
  rw [nodeD_modify]; split
  · exact hf _
  · rfl

section
open Footprint

/-- parent lists are written under `.nParents` only, and a fresh node has none, which is what `nodeD` gave there before -/
theorem PP.of_edit {L w} (hL : ∀ t ∈ L, t ∉ [Tag.nParents, .propagateInvalidity]) {s s' : State} (e : Edit L w s s') : PP s s' := by
  cases e
  case node n f hf => exact PP.modNode s n f fun x => by cases hf <;> first | rfl | exact (hL _ ‹_› (by decide)).elim
  case value n hn f hf => exact PP.modNode s n f fun x => by cases hf <;> rfl
  case stamp n _ | erase n _ => exact PP.modNode s n _ fun _ => rfl
  case pushNode =>
    refine ⟨fun m => ?_, rfl⟩
    simp only [State.nodeD, Array.getElem?_push]; split
    · rename_i h; rw [h, Array.getElem?_eq_none (Nat.le_refl _)]; rfl
    · rfl
  case propagateInvalidity l ht => exact (hL _ ht (by decide)).elim
  all_goals exact PP.of_nodes rfl rfl

theorem PresPP.setHeight (n h) : Step.Pres PP (Engine.setHeight n h) := (Foot.setHeight n h).frame (PP.of_edit (by decide))
theorem PresPP.handleAfterStabilisation (n) : Step.Pres PP (Engine.handleAfterStabilisation n) :=
  (Foot.handleAfterStabilisation n).frame (PP.of_edit (by decide))

theorem PresPP.markMapRefUnknown (fuel n) : Step.Pres PP (Engine.markMapRefUnknown fuel n) :=
  (Foot.markMapRefUnknown fuel n).frame (PP.of_edit (by decide))

theorem PresFM.setHeight (n h) : Step.Pres FM (Engine.setHeight n h) := (Foot.setHeight n h).frame (FM.of_edit (by decide))

theorem PresFM.markMapRefUnknown (fuel n) : Step.Pres FM (Engine.markMapRefUnknown fuel n) :=
  (Foot.markMapRefUnknown fuel n).frame (FM.of_edit (by decide))

end

/-! ## the light relation: everything the invariant reads is constant, except that flags go up -/

structure Lt (s s' : State) : Prop where
  fr : CFrame s s'
  fm : FM s s'
  pp : PP s s'

theorem Lt.refl (s : State) : Lt s s := ⟨CFrame.refl s, PreOrd.refl s, PreOrd.refl s⟩
theorem Lt.trans {a b c : State} (h1 : Lt a b) (h2 : Lt b c) : Lt a c :=
  ⟨h1.fr.trans h2.fr, PreOrd.trans h1.fm h2.fm, PreOrd.trans h1.pp h2.pp⟩
instance : Step.PreOrd Lt := ⟨Lt.refl, Lt.trans⟩

theorem Lt.nec {s s' : State} (h : Lt s s') (m : Nat) : s'.isNecessary m = s.isNecessary m :=
  nec_congr (h.pp.1 m) (h.fr.observers m) (h.fr.forceNecessary m)

theorem Lt.of_nodes {s s' : State} (h1 : s'.nodes = s.nodes) (h2 : stateKey s' = stateKey s)
    (h3 : s'.panicCountdown = s.panicCountdown) (h4 : s'.propagateInvalidity = s.propagateInvalidity) : Lt s s' :=
  ⟨CFrame.of_nodes h1 h2 h3, FM.of_nodes h1, PP.of_nodes h1 h4⟩

section
open Footprint

/-- a program that keeps the frame, lowers no flag, and writes neither a parent list nor `propagateInvalidity` -/
theorem PresLt.of_foot {L α} {m : M α} (hF : Step.Pres CFrame m) (hm : Foot L (fun _ => True) m)
    (hL : ∀ t ∈ parts L, t ∉ [Tag.vClearRef, .nParents, .propagateInvalidity]) : Step.Pres Lt m :=
  ⟨fun _ _ _ h => ⟨hF.h _ _ _ h, (hm.frame (FM.of_edit fun t ht e => hL t ht (by rw [e]; decide))).h _ _ _ h,
    (hm.frame (PP.of_edit fun t ht e => hL t ht (List.mem_cons_of_mem _ e))).h _ _ _ h⟩⟩

theorem PresLt.setHeight (n h) : Step.Pres Lt (Engine.setHeight n h) := PresLt.of_foot (PresF.setHeight n h) (Foot.setHeight n h) (by decide)
theorem PresLt.rchInsert (n) : Step.Pres Lt (Engine.rchInsert n) := PresLt.of_foot (PresF.rchInsert n) (Foot.rchInsert n) (by decide)
theorem PresLt.handleAfterStabilisation (n) : Step.Pres Lt (Engine.handleAfterStabilisation n) :=
  PresLt.of_foot (PresF.handleAfterStabilisation n) (Foot.handleAfterStabilisation n) (by decide)
theorem PresLt.maybeHandleAfterStabilisation (n) : Step.Pres Lt (Engine.maybeHandleAfterStabilisation n) :=
  PresLt.of_foot (PresF.maybeHandleAfterStabilisation n) (Foot.maybeHandleAfterStabilisation n) (by decide)
theorem PresLt.markMapRefUnknown (fuel n) : Step.Pres Lt (Engine.markMapRefUnknown fuel n) :=
  PresLt.of_foot (PresF.markMapRefUnknown fuel n) (Foot.markMapRefUnknown fuel n) (by decide)

theorem PresLt.observabilityChange (e b) : Step.Pres Lt (Engine.observabilityChange e b) :=
  PresLt.of_foot (PresF.observabilityChange e b) (Foot.observabilityChange e b) (by decide)
theorem PresLt.runEdgeCallback (env e i) : Step.Pres Lt (Engine.runEdgeCallback env e i) :=
  PresLt.of_foot (PresF.runEdgeCallback env e i) (Foot.runEdgeCallback env e i) (by decide)

/-- the last step of `became_necessary` (`k = observabilityChange · true`) and of `add_parent_without_adjusting_heights`
(`k = runEdgeCallback env · idx`): a call on the expert record of `n`, if `n` is an expert node -/
theorem _root_.IncrVerif.Proofs.Step.Pres.onExpert {R : State → State → Prop} [PreOrd R] (n : Nat) {k : Nat → M Unit}
    (hk : ∀ e, Step.Pres R (k e)) :
    Step.Pres R (do
      match (← getNode n).kind? with
      | some (.expert e) => k e
      | _ => pure ()) :=
  Step.Pres.bind (Step.Pres.getNode n) fun x => by
    split
    · exact hk _
    · exact Step.Pres.pure _

end

theorem markMapRefUnknown_lt {fuel n : Nat} {s s' : State} {r : Except Panic Unit}
    (h : (Engine.markMapRefUnknown fuel n).run.run s = (r, s')) : Lt s s' :=
  (PresLt.markMapRefUnknown fuel n).h _ _ _ h

def SameC (s s' : State) : Prop := s' = s
instance : Step.PreOrd SameC := ⟨fun _ => rfl, fun h1 h2 => h2.trans h1⟩

theorem PresS.scopeIsNecessary (sc) : Step.Pres SameC (Engine.scopeIsNecessary sc) := by
  unfold Engine.scopeIsNecessary; qpres

end IncrVerif.Proofs.MapRefH
