import IncrVerif.Proofs.FullH57
/-!
# C01 full fragment: the `didChange` invariant through a run of a change detector, part 5
(phase 2: the new right-hand side is linked — the one place where nodes BECOME necessary is the call of
`add_parent_without_adjusting_heights rhs 1 main`, handled by `addParent_keepsK_all'` (KC3) —, the old one is unlinked)
-/
namespace IncrVerif.Proofs.FullH
open IncrVerif.Engine IncrVerif.Proofs IncrVerif.Proofs.Step IncrVerif.Proofs.Sched IncrVerif.Proofs.Quiet
open IncrVerif.Proofs.MapRefH (IsMapRef isMapRef_iff not_isMapRef_iff FM)
open IncrVerif.Proofs.BindH (DInv BGraph Below Edge)
open IncrVerif.Proofs.NestH (F2Inv GInv2 All2)
open IncrVerif.Proofs.NestH.NC (Pre2 P1 P2 P3)

namespace KL

section
variable {env : Env} {sp : Nat → Val → Val} {g g2 : Nat → Option Val} {s s1 s2 u : State}
  {rk rk' : Nat → Nat} {n b rhs : Nat} {br : BindRec} {l : List Nat}

/-- `u` against `s1`: what the invariant reads is the same -/
theorem PreU.shk (PU : PreU n b rhs s1 u) : SHk s1 u := by
  refine ⟨PU.size, fun m => ?_, fun m => ?_, fun m => ?_, fun m hd => ?_, fun m hm => by rw [← PU.nec m]; exact hm⟩
  · obtain ⟨pl, f, c, e⟩ := PU.node m; rw [e]
  · obtain ⟨pl, f, c, e⟩ := PU.node m; rw [e]
  · obtain ⟨pl, f, c, e⟩ := PU.node m; rw [e]
  · obtain ⟨pl, f, c, e⟩ := PU.node m; rw [e] at hd; exact hd

theorem PreU.rcp (PU : PreU n b rhs s1 u) (m : Nat) : (u.nodeD m).recomputedAt = (s1.nodeD m).recomputedAt := by
  obtain ⟨pl, f, c, e⟩ := PU.node m; rw [e]

/-- kinds after phase 2 -/
theorem kind2 (Q : P2 (VE env sp) rk' n b rhs br l (virt g s1) (virt g2 s2)) (V : VM s1 s2) (m : Nat) :
    (s2.nodeD m).kind = (s1.nodeD m).kind := by
  have hsz : s2.nodes.size = s1.nodes.size := by have := Q.rel.size; rw [virt_size, virt_size] at this; exact this
  by_cases hm : m < s1.nodes.size
  · exact (V.kind m hm).1
  · rw [nodeD_default_of_ge s1 m (by omega), nodeD_default_of_ge s2 m (by omega)]

/-- validity after phase 2 -/
theorem valid2 (Q : P2 (VE env sp) rk' n b rhs br l (virt g s1) (virt g2 s2)) (m : Nat) :
    (s2.nodeD m).valid = (s1.nodeD m).valid := by
  have := Q.valid m
  rw [virt_nodeD, virt_nodeD, virtNode_valid, virtNode_valid] at this
  exact this

/-- the bind table in `u` is the final one -/
theorem binds_u (P : P1 (VE env sp) rk rk' n b rhs br l (virt g s) (virt g s1))
    (Q : P2 (VE env sp) rk' n b rhs br l (virt g s1) (virt g2 s2)) (PU : PreU n b rhs s1 u) : u.binds = s2.binds := by
  rw [PU.binds]
  apply Array.ext_getElem?
  intro i
  rw [Array.getElem?_modify]
  by_cases e : b = i
  · subst e
    rw [if_pos rfl]
    have h1 : s1.binds[b]? = some { br with allNodesCreatedOnRhs := l } := P.bind
    have h2 : s2.binds[b]? = some { { br with allNodesCreatedOnRhs := l } with rhs := some rhs } := Q.rel.bind
    rw [h1, h2]; rfl
  · rw [if_neg e]
    exact (Q.rel.bindsOther i (Ne.symm e)).symm

/-- the child lists in `u` are the final ones -/
theorem children_u (P : P1 (VE env sp) rk rk' n b rhs br l (virt g s) (virt g s1))
    (Q : P2 (VE env sp) rk' n b rhs br l (virt g s1) (virt g2 s2)) (V : VM s1 s2) (PU : PreU n b rhs s1 u)
    (hx : ∀ m e, (s1.nodeD m).kind ≠ .expert e) (m : Nat) : u.children m = s2.children m := by
  apply KC.children_congr
  · simp only [Node.kind?, PU.shk.kind, PU.shk.valid, kind2 Q V, valid2 Q]
  · exact binds_u P Q PU
  · intro e; rw [kind2 Q V]; exact hx m e

/-- what the linking cascade reads of the fragment, in `u` -/
theorem ck_u (P : P1 (VE env sp) rk rk' n b rhs br l (virt g s) (virt g s1))
    (Q : P2 (VE env sp) rk' n b rhs br l (virt g s1) (virt g2 s2)) (V : VM s1 s2) (PU : PreU n b rhs s1 u)
    (hx : ∀ m e, (s1.nodeD m).kind ≠ .expert e) : CK rk' u := by
  have hch := children_u P Q V PU hx
  refine ⟨fun m e => by rw [PU.shk.kind]; exact hx m e, fun m c hc => ?_, fun m c hc => ?_⟩
  · rw [hch] at hc
    have hm := BindH.lt_size_of_mem_children hc
    exact (Q.g.frag.node m (by rw [virt_size]; exact hm)).kidLt c (by rw [virt_children]; exact hc)
  · rw [hch] at hc
    have hm := BindH.lt_size_of_mem_children hc
    have := (Q.g.frag.node m (by rw [virt_size]; exact hm)).kidsValid c (by rw [virt_children]; exact hc)
    rw [virt_nodeD, virtNode_valid] at this
    rw [PU.shk.valid, ← valid2 Q]; exact this

/-- the new right-hand side is a valid child of the main node, of smaller rank -/
theorem rhs_u (X : Pre2 (VE env sp) rk n b br (virt g s))
    (P : P1 (VE env sp) rk rk' n b rhs br l (virt g s) (virt g s1))
    (Q : P2 (VE env sp) rk' n b rhs br l (virt g s1) (virt g2 s2)) (PU : PreU n b rhs s1 u) :
    rk' rhs < rk' br.main ∧ (u.nodeD rhs).valid = true := by
  have emain : (virt g s1).nodeD br.main = (virt g s).nodeD br.main := P.old_other X.hml X.ne
  have hvm2 : ((virt g2 s2).nodeD br.main).valid = true := by rw [Q.valid, emain]; exact X.hvm
  have hml2 : br.main < (virt g2 s2).nodes.size := by
    rw [Q.rel.size]; exact Nat.lt_of_lt_of_le X.hml P.grow
  have hc : rhs ∈ (virt g2 s2).children br.main := by
    have := NestH.NC.main_children_all Q.g.frag (br := { { br with allNodesCreatedOnRhs := l } with rhs := some rhs })
      Q.rel.bind hvm2
    rw [this]
    exact List.mem_cons_of_mem _ (List.mem_singleton.2 rfl)
  have N := Q.g.frag.node br.main hml2
  refine ⟨N.kidLt rhs hc, ?_⟩
  have := N.kidsValid rhs hc
  rw [virt_nodeD, virtNode_valid] at this
  rw [PU.shk.valid, ← valid2 Q]; exact this

/-- **`Inherit` in `u`**: a valid map_ref node that is not stale in `u` is an old valid node that was not stale before the run -/
theorem inherit_u (F : FFrag env sp g s) (T : Inherit env g s) (A : F2Inv (VE env sp) rk (virt g s))
    (hkn : (s.nodeD n).kind = .bindLhsChange b) (hn : n < s.nodes.size)
    (O : Old1 env n s s1) (PU : PreU n b rhs s1 u) : Inherit env g u := by
  have S := PU.shk
  intro m pr i hv hk hst hu
  have hk1 : (s1.nodeD m).kind = .mapRef pr i := by rw [← S.kind]; exact hk
  have hv1 : (s1.nodeD m).valid = true := by rw [← S.valid]; exact hv
  have hm1 := lt_of_mapRef hk1
  rw [MapRefH.isStale_mapRef hk, hv, Bool.true_and] at hst
  -- `m` is old
  have hm : m < s.nodes.size := by
    false_or_by_contra
    rename_i hge
    have := O.new m (by omega) hm1
    rw [PU.rcp, this] at hst
    simp at hst
  have hmn : m ≠ n := by
    intro e; subst e
    rw [O.kind m hm, hkn] at hk1; cases hk1
  have hk0 : (s.nodeD m).kind = .mapRef pr i := by rw [← O.kind m hm]; exact hk1
  have hv0 : (s.nodeD m).valid = true := by rw [← O.valid m hm]; exact hv1
  obtain ⟨hi, hvi⟩ := kid_old A hm hv0 hk0
  have hin : i ≠ n := by
    intro e; subst e
    have hc : i ∈ (virt g s).children m := by
      rw [virt_children, KC.children_mapRef hv0 hk0]; exact List.mem_singleton.2 rfl
    have := (A.frag.node m (by rw [virt_size]; exact hm)).lcChild i b hc
      (by rw [virt_nodeD, virtNode_kind, hkn]; rfl)
    rw [virt_nodeD, virtNode_kind, hk0] at this
    cases this
  -- not stale before the run
  have hst0 : s.isStale m = false := by
    rw [MapRefH.isStale_mapRef hk0, hv0, Bool.true_and]
    rw [PU.rcp, PU.chg i hin, (O.stamps m hm hmn).1, (O.stamps i hi hin).2] at hst
    exact hst
  have hval : ∀ a, a < s.nodes.size → (s.nodeD a).valid = true → u.value env a = s.value env a := fun a ha hva => by
    rw [S.value_eq, O.value a ha hva]
  have hu0 : Unclean env g s m := by
    unfold Unclean at hu ⊢; rw [← hval m hm hv0]; exact hu
  obtain ⟨h1, h2⟩ := T m pr i hv0 hk0 hst0 hu0
  refine ⟨by rw [S.kind, O.kind i hi]; exact h1, ?_⟩
  unfold Unclean at h2 ⊢
  rw [hval i hi hvi]; exact h2

/-- **phase 2 keeps the `didChange` invariant**: `K1`, `hpinv`, `O` come from phase 1, `T` from the drain invariant -/
theorem phase2_keepsK {fuel : Nat} (F : FFrag env sp g s) (T : Inherit env g s) (A : F2Inv (VE env sp) rk (virt g s))
    (X : Pre2 (VE env sp) rk n b br (virt g s))
    (hkn : (s.nodeD n).kind = .bindLhsChange b)
    (P : P1 (VE env sp) rk rk' n b rhs br l (virt g s) (virt g s1))
    (Q : P2 (VE env sp) rk' n b rhs br l (virt g s1) (virt g2 s2))
    (O : Old1 env n s s1) (K1 : KInv env g s1) (hx : ∀ m e, (s1.nodeD m).kind ≠ .expert e)
    (hpinv : s1.propagateInvalidity = [])
    (h2 : (Inval.lhsRelink env fuel n b br s.stabNum rhs).run.run s1 = (.ok (), s2)) (R : GR g g2 s1 s2) :
    KInv env g2 s2 := by
  have hn : n < s.nodes.size := by have := X.hlt; rw [virt_size] at this; exact this
  obtain ⟨u, PU, hcase⟩ := lhsRelink_inv h2
  have KU : KInv env g u := KInv.of_shk K1 PU.shk
  refine KInv.of_gr ?_ R
  rcases hcase with rfl | ⟨u', hsap, S⟩
  · exact KU
  · obtain ⟨u1, hapw, hHF⟩ := stateAddParent_inv hsap
    obtain ⟨hcp, hcv⟩ := rhs_u X P Q PU
    obtain ⟨K_1, G, -⟩ := addParent_keepsK_all' (ck_u P Q R.vm PU hx) (inherit_u F T A hkn hn O PU) KU hapw hcp hcv
    have hp1 : u1.propagateInvalidity = [] := by rw [G.pinv, PU.pinv]; exact hpinv
    exact KInv.of_shk (KInv.of_shk K_1 (SHk.of_hf (hHF hp1))) S

end
end KL
end IncrVerif.Proofs.FullH
