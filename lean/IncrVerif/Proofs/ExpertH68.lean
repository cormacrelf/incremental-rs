import IncrVerif.Proofs.ExpertH66
import IncrVerif.Proofs.ExpertH67
import IncrVerif.Proofs.ExpertH65
/-!
# Expert nodes, E2: closures that READ THE SLOTS ("cbsum"), for records all of whose dependencies have callbacks

`envS env`: the environment in which every expert closure gets the dependency values in place of the slots.
Under the callback discipline (`SlotInv`) and `CbInv` (a closure that is not slot-independent belongs to a record all of
whose dependencies have callbacks) the engine behaves IDENTICALLY under `env` and `envS env` (`recomputeOne_eq`,
`drainHeap_eq`, `stabilise_eq`, `step_eq`, `run_eq`), so every theorem of fragment X1 for `envS env` holds for `env`.
-/
namespace IncrVerif.Proofs.ExpertH
open IncrVerif.Engine IncrVerif.Driver IncrVerif.Proofs IncrVerif.Proofs.Step IncrVerif.Proofs.Sched
open IncrVerif.Proofs.ExpertH.QR IncrVerif.Proofs.Xp

/-- every closure reads the dependency values in place of the slots -/
def sumX (env : Env) : Nat → List (Option Val) → List (Option Val) → Val := fun f deps _ => env.expertFn f deps deps

def envS (env : Env) : Env := withX env (sumX env)

/-- the closure `f`, applied to slots that ARE the dependency values, is the sum of the dependencies modulo `f / 10` -/
def XEnvCb (env : Env) (f : Nat) : Prop :=
  ∀ vals : List Val, env.expertFn f (vals.map some) (vals.map some) = vals.foldl (xStep f) (.int 0)

theorem xEnvOK_envS {env : Env} {f : Nat} (h : XEnvCb env f) : XEnvOK (envS env) f := fun vals _ => h vals

theorem xEnvCb_of_ok {env : Env} {f : Nat} (h : XEnvOK env f) : XEnvCb env f := fun vals => h vals _

/-- a closure that is not slot-independent belongs to a record all of whose dependencies have callbacks -/
def CbInv (env : Env) (s : State) : Prop :=
  ∀ (e : Nat) (er : ExpertRec), s.experts[e]? = some er →
    XEnvOK env er.f ∨ ∀ ed, ed ∈ er.children → ed.cb.isSome = true

/-- `f` and `children` of every record unchanged -/
def XW (s s' : State) : Prop :=
  ∀ e : Nat, (s'.experts[e]?).map (fun r => (r.f, r.children)) = (s.experts[e]?).map (fun r => (r.f, r.children))

theorem XW.refl (s : State) : XW s s := fun _ => rfl
theorem XW.trans {a b c : State} (h1 : XW a b) (h2 : XW b c) : XW a c := fun e => (h2 e).trans (h1 e)

theorem XW.of_xf {s s' : State} (h : XF s s') : XW s s' := by
  intro e
  have := h.xcore e
  cases h1 : s.experts[e]? <;> cases h2 : s'.experts[e]? <;> rw [h1, h2] at this <;> simp only [Option.map_some,
    Option.map_none, xCore] at this ⊢
  · cases this
  · cases this
  · simp only [Option.some.injEq, Prod.mk.injEq] at this
    simp [this.1, this.2.2.1]

theorem CbInv.of_xw {env : Env} {s s' : State} (C : CbInv env s) (h : XW s s') : CbInv env s' := by
  intro e er' he'
  have := h e
  rw [he'] at this
  cases h1 : s.experts[e]? with
  | none => rw [h1] at this; simp at this
  | some er =>
    rw [h1] at this
    simp only [Option.map_some, Option.some.injEq, Prod.mk.injEq] at this
    rw [this.1, this.2]
    exact C e er h1

section
variable {env : Env}

theorem value_envS (s : State) (n : Nat) : s.value (envS env) n = s.value env n := rfl

/-- when the current node is an expert node: in the record the closure reads, the slots of the callback edges are the
dependency values -/
theorem readyRec_good {n e : Nat} {s : State} {er : ExpertRec} (D : DInvX (envS env) s (some n))
    (U : UnnecOK (virtEnv (envS env)) (virt s)) (L : SlotInv (envS env) s)
    (hk : (s.nodeD n).kind = .expert e) (he : s.experts[e]? = some er) :
    Good (envS env) s (readyRec (envS env) s er) := by
  have F := D.frag
  have frT := ranState_fr (env := envS env) (n := n) (F.fr D.pinv) he
  have FT := ranState_frag F hk he frT
  have P : Pre (envS env) n (ranState (envS env) n e s er) := by
    refine pre_of D U L FT (fun m => ranState_nodeD _ n e s er m) ?_ rfl rfl ?_ ?_
    · rw [ranState_nodes]; simp [started]
    · intro e' hne
      have : e' ≠ e := fun h => hne (by rw [h]; exact hk)
      exact ranState_get_ne _ n e s er this
    · intro e' hk'
      rw [hk] at hk'; cases hk'
      exact ⟨er, he, ranState_get _ n e he⟩
  have hkT : ((ranState (envS env) n e s er).nodeD n).kind = .expert e := by
    rw [ranState_nodeD, started_nodeD]; split <;> exact hk
  have hflag := P.cflag e _ hkT (ranState_get _ n e he)
  have hg := P.good n e _ hkT (ranState_get _ n e he) (Or.inl hflag)
  intro ed hed hcb
  rw [hg ed hed hcb]
  rw [value_plain (envS env) _ ed.child (FT.noMapRef ed.child), value_plain (envS env) s ed.child
    (F.noMapRef ed.child), ranState_nodeD, started_nodeD]
  split <;> rfl

/-- the dependency values the closure of the current expert node is applied to: all present -/
theorem depVals_some {n e : Nat} {s : State} {er : ExpertRec} (F : XFrag (envS env) s)
    (hk : (s.nodeD n).kind = .expert e) (he : s.experts[e]? = some er) {vals : List Val}
    (hv : plainVals (virt s) (kids ((virt s).nodeD n).kind) = some vals) :
    depValsOf env s (readyRec env s er) = vals.map some := by
  obtain ⟨_, _, f3, _⟩ := readyRec_fields env s er
  rw [virt_kids, hk] at hv
  simp only [kidsX, xRec_some he] at hv
  have hv2 : evalArgs (s.value env) (er.children.map (·.child)) = some vals := by
    rw [← hv]
    unfold plainVals
    apply evalArgs_congr
    intro a _
    rw [value_plain env s a (F.noMapRef a), virt_nodeD, virtNode_value]
  have hm := evalArgs_map hv2
  unfold depValsOf
  rw [f3, ← hm, List.map_map]
  rfl

theorem bind_run_congr {α β} {x x' : M α} {f f' : α → M β} {s : State}
    (hx : x.run.run s = x'.run.run s)
    (hf : ∀ a s1, x'.run.run s = (.ok a, s1) → (f a).run.run s1 = (f' a).run.run s1) :
    (x >>= f).run.run s = (x' >>= f').run.run s := by
  rcases hr : x'.run.run s with ⟨res, s1⟩
  rw [run_bind_of (hx.trans hr), run_bind_of hr]
  cases res with
  | ok a => exact hf a s1 hr
  | error e => rfl

/-- **one `recomputeOne` of the drain behaves identically under `env` and `envS env`** -/
theorem recomputeOne_eq {fuel n : Nat} {s : State} (D : DInvX (envS env) s (some n))
    (U : UnnecOK (virtEnv (envS env)) (virt s)) (L : SlotInv (envS env) s) (C : CbInv env s) :
    (recomputeOne env fuel n).run.run s = (recomputeOne (envS env) fuel n).run.run s := by
  have F := D.frag
  by_cases hk : ∃ e, (s.nodeD n).kind = .expert e
  · obtain ⟨e, hk⟩ := hk
    have hlt := F.lt_of_expert hk
    obtain ⟨er, he, -⟩ := F.xrec n e hlt hk
    obtain ⟨hpk, hni, -, -⟩ := F.xok e er he
    have hx : IsExpert s n (s.nodeD n) e er := ⟨some_of_lt hlt, F.valid n hlt, hk, he⟩
    refine (recomputeOne_withX_expert env (sumX env) fuel n hx hpk F.pc (by omega) ?_).symm
    show env.expertFn er.f (depValsOf env s (readyRec env s er)) (depValsOf env s (readyRec env s er)) = _
    obtain ⟨vals, hvals⟩ := D.inv.kids_values
    have hd := depVals_some F hk he hvals
    rcases C e er he with hok | hcb
    · rw [hd, hok vals, hok vals]
    · have hG := readyRec_good D U L hk he
      have : slotValsOf (readyRec env s er) = depValsOf env s (readyRec env s er) := by
        unfold slotValsOf depValsOf
        apply List.map_congr_left
        intro ed hed
        have hed' : ed ∈ er.children := by rw [← (readyRec_fields env s er).2.2.1]; exact hed
        have h1 := hcb ed hed'
        have h2 := hG ed hed h1
        cases hc : ed.cb with
        | none => rw [hc] at h1; cases h1
        | some d => exact h2
      rw [this]
  · refine (recomputeOne_withX_of_not_expert env (sumX env) fuel n s ?_).symm
    intro nd e hnd hk?
    apply hk
    refine ⟨e, ?_⟩
    rw [nodeD_of_some hnd]
    unfold Node.kind? at hk?
    split at hk?
    · exact (Option.some.inj hk?)
    · cases hk?

/-- a successful `recomputeOne` leaves `f` and `children` of every record alone -/
theorem recomputeOne_xw {fuel n : Nat} {s s' : State} {r : Option Nat} (D : DInvX (envS env) s (some n))
    (h : (recomputeOne (envS env) fuel n).run.run s = (.ok r, s')) : XW s s' := by
  have F := D.frag
  have hnec : (virt s).isNecessary n = true := (D.inv.cur n rfl).1
  have hlt : n < s.nodes.size := by rw [← virt_size]; exact (D.inv.graph.nec n hnec).1
  by_cases hk : ∃ e, (s.nodeD n).kind = .expert e
  · obtain ⟨e, hk⟩ := hk
    obtain ⟨v, ch, er, -, -, -, he, hrun, -, -⟩ := step_expert_ran F D.inv D.pinv hk h
    have h1 : XW s (ranState (envS env) n e s er) := by
      intro e'
      by_cases hee : e' = e
      · rw [hee, ranState_get _ n e he, he]
        simp only [Option.map_some]
        rw [(readyRec_fields (envS env) s er).1, (readyRec_fields (envS env) s er).2.2.1]
      · rw [ranState_get_ne _ n e s er hee]
    exact h1.trans (XW.of_xf ((PresX.maybeChangeValue (envS env) fuel n v).h _ _ _ hrun))
  · exact XW.of_xf (recomputeOne_static_frames (F.fr D.pinv) hlt (F.kind n hlt) (fun e he => hk ⟨e, he⟩) h).1

/-- the direct-recompute chain -/
theorem recompute_eq : ∀ (fuel n : Nat) (s : State), DInvX (envS env) s (some n) →
    UnnecOK (virtEnv (envS env)) (virt s) → SlotInv (envS env) s → CbInv env s →
    (recompute env fuel n).run.run s = (recompute (envS env) fuel n).run.run s := by
  intro fuel
  induction fuel with
  | zero => intro n s _ _ _ _; rfl
  | succ fuel ih =>
    intro n s D U L C
    unfold recompute
    refine bind_run_congr (recomputeOne_eq D U L C) fun r s1 h1 => ?_
    cases r with
    | none => rfl
    | some p =>
      obtain ⟨D1, f1, -⟩ := recomputeOneX_inv D h1
      exact ih p s1 D1 (f1.unnec U) (recomputeOneX_slots D U L h1) (C.of_xw (recomputeOne_xw D h1))

/-- what the chain keeps -/
theorem recompute_keeps : ∀ (fuel n : Nat) (s s' : State), DInvX (envS env) s (some n) →
    UnnecOK (virtEnv (envS env)) (virt s) → CbInv env s →
    (recompute (envS env) fuel n).run.run s = (.ok (), s') →
    UnnecOK (virtEnv (envS env)) (virt s') ∧ CbInv env s' := by
  intro fuel
  induction fuel with
  | zero => intro n s s' _ _ _ h; unfold recompute at h; cases h
  | succ fuel ih =>
    intro n s s' D U C h
    unfold recompute at h
    obtain ⟨r, s1, h1, h2⟩ := bind_ok_inv h
    obtain ⟨D1, f1, -⟩ := recomputeOneX_inv D h1
    have C1 := C.of_xw (recomputeOne_xw D h1)
    cases r with
    | none => obtain ⟨-, rfl⟩ := pure_ok_inv h2; exact ⟨f1.unnec U, C1⟩
    | some p => exact ih p s1 s' D1 (f1.unnec U) C1 h2

/-- **the drain behaves identically under `env` and `envS env`** -/
theorem drainHeap_eq : ∀ (fuel : Nat) (s : State), DInvX (envS env) s none →
    UnnecOK (virtEnv (envS env)) (virt s) → SlotInv (envS env) s → CbInv env s →
    (drainHeap env fuel).run.run s = (drainHeap (envS env) fuel).run.run s := by
  intro fuel
  induction fuel with
  | zero => intro s _ _ _ _; rfl
  | succ fuel ih =>
    intro s D U L C
    unfold drainHeap
    refine bind_run_congr rfl fun r s1 h1 => ?_
    cases r with
    | none => rfl
    | some n =>
      obtain ⟨hv, F1, hp1, A1⟩ := popX D h1
      obtain ⟨I1, -⟩ := pop_inv D.inv hv
      have D1 : DInvX (envS env) s1 (some n) := ⟨F1, I1, hp1, A1⟩
      have U1 := pop_unnec D.inv.heap U hv
      have L1 := L.pop (heapInv_of_virt D.inv.heap) h1
      have C1 : CbInv env s1 := C.of_xw (XW.of_xf ((PresX.rchRemoveMin).h _ _ _ h1))
      refine bind_run_congr (recompute_eq fuel n s1 D1 U1 L1 C1) fun _ s2 h2 => ?_
      obtain ⟨D2, -⟩ := recomputeX_inv fuel n s1 s2 D1 h2
      obtain ⟨U2, C2⟩ := recompute_keeps fuel n s1 s2 D1 U1 C1 h2
      exact ih s2 D2 U2 (recomputeX_slots fuel n s1 s2 D1 U1 L1 h2) C2

end
end IncrVerif.Proofs.ExpertH
