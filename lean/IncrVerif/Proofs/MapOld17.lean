import IncrVerif.Proofs.MapOld16
import IncrVerif.Proofs.Footprint
/-!
# map_with_old fragment: the two cascades at the start of `stabilise` do not touch what `MInv`/`WFrag` read

`WFr s s'`: node count, `kind`/`valid`/`value`/`oldState` of every node, the variables unchanged; `panicCountdown = none`
kept.  Unconditional (`Step.Pres WFr`, all runs) for `unlinkDisallowedObservers` and `rchRemoveMin`; for
`addNewObservers` (which ends in `propagateInvalidity`) from states without invalid nodes and without pending
invalidation (`Act.Cl s`, implied by `Fr s`).
-/
namespace IncrVerif.Proofs.MapOldH
open IncrVerif.Engine IncrVerif.Proofs IncrVerif.Proofs.Step IncrVerif.Proofs.Sched IncrVerif.Proofs.Quiet
open IncrVerif.Proofs.Footprint

structure WFr (s s' : State) : Prop where
  size : s'.nodes.size = s.nodes.size
  node : ∀ m, wKey (s'.nodeD m) = wKey (s.nodeD m)
  vars : s'.vars = s.vars
  pc : s.panicCountdown = none → s'.panicCountdown = none

theorem WFr.refl (s : State) : WFr s s := ⟨rfl, fun _ => rfl, rfl, id⟩
theorem WFr.trans {a b c : State} (h1 : WFr a b) (h2 : WFr b c) : WFr a c :=
  ⟨h2.size.trans h1.size, fun m => (h2.node m).trans (h1.node m), h2.vars.trans h1.vars, fun h => h2.pc (h1.pc h)⟩
instance : Step.PreOrd WFr := ⟨WFr.refl, WFr.trans⟩

/-- no invalid node, no pending invalidation -/
def Act.Cl (s : State) : Prop := s.propagateInvalidity = [] ∧ ∀ n, (s.nodeD n).valid = true

theorem Fr.cl {s : State} (h : Fr s) : Act.Cl s := ⟨h.pinv, h.valid⟩

theorem Act.Cl.next {s s' : State} (h : Act.Cl s) (f : WFr s s') (hp : s'.propagateInvalidity = []) : Act.Cl s' :=
  ⟨hp, fun n => by rw [wKey_valid (f.node n)]; exact h.2 n⟩

/-- `WFr`, and from a clean state no invalidation gets pending -/
structure Act.WFr2 (s s' : State) : Prop where
  fr : WFr s s'
  pinv : Act.Cl s → s'.propagateInvalidity = []

theorem Act.WFr2.refl (s : State) : Act.WFr2 s s := ⟨WFr.refl s, fun h => h.1⟩
theorem Act.WFr2.trans {a b c : State} (h1 : Act.WFr2 a b) (h2 : Act.WFr2 b c) : Act.WFr2 a c :=
  ⟨h1.fr.trans h2.fr, fun h => h2.pinv (h.next h1.fr (h1.pinv h))⟩
instance : Step.PreOrd Act.WFr2 := ⟨Act.WFr2.refl, Act.WFr2.trans⟩

theorem Act.WFr2.of_same {s s' : State} (h1 : s'.nodes = s.nodes) (h2 : s'.vars = s.vars)
    (h3 : s'.panicCountdown = s.panicCountdown) (h4 : s'.propagateInvalidity = s.propagateInvalidity) :
    Act.WFr2 s s' := by
  refine ⟨⟨by rw [h1], fun m => ?_, h2, fun h => by rw [h3]; exact h⟩, fun h => by rw [h4]; exact h.1⟩
  have : s'.nodeD m = s.nodeD m := by simp [State.nodeD, h1]
  rw [this]

theorem Act.WFr2.modNode (s : State) (n : Nat) (f : Node → Node) (hf : ∀ x, wKey (f x) = wKey x) :
    Act.WFr2 s { s with nodes := s.nodes.modify n f } := by
  refine ⟨⟨by simp, fun m => ?_, rfl, id⟩, fun h => h.1⟩
  rw [nodeD_modify]; split
  · exact hf _
  · rfl

/-- the writes that keep `WFr2` are all but those of `valid`, `value`, `oldState`, of the node count, of the variables, the arming of a fault
and the pending invalidations; the countdown of an armed fault starts from `panicCountdown ≠ none` -/
theorem Act.WFr2.of_edit {L w}
    (hL : ∀ t ∈ L, t ∉ [Tag.nInvalid, .vClear, .vClearRef, .vStore, .vStoreOld, .erase, .pushNode, .varSetAt, .varPending, .varValue,
      .varCommit, .varHandles, .varUnlink, .pushVar, .propagateInvalidity, .arm]) {s s' : State} (e : Edit L w s s') :
    Act.WFr2 s s' := by
  cases e
  case node n f hf => exact .modNode s n f fun x => by cases hf <;> first | rfl | exact absurd (hL _ ‹_›) (by decide)
  case value n hn f hf => cases hf <;> exact absurd (hL _ ‹_›) (by decide)
  case stamp n _ => exact .modNode s n _ fun _ => rfl
  case var v f hf => cases hf <;> exact absurd (hL _ ‹_›) (by decide)
  case erase | pushNode | pushVar | propagateInvalidity | arm => exact absurd (hL _ ‹_›) (by decide)
  case panicCountdown p hs _ => exact ⟨⟨rfl, fun _ => rfl, rfl, fun h => absurd h hs⟩, fun h => h.1⟩
  all_goals exact .of_same rfl rfl rfl rfl

theorem PresW2.of_foot {L α} {m : M α} (hm : Foot L (fun _ => True) m)
    (hL : ∀ t ∈ parts L, t ∉ [Tag.nInvalid, .vClear, .vClearRef, .vStore, .vStoreOld, .erase, .pushNode, .varSetAt, .varPending, .varValue,
      .varCommit, .varHandles, .varUnlink, .pushVar, .propagateInvalidity, .arm]) : Step.Pres Act.WFr2 m :=
  hm.frame (Act.WFr2.of_edit hL)

theorem PresW2.modNode (n : Nat) (f : Node → Node) (hf : ∀ x, wKey (f x) = wKey x) :
    Step.Pres Act.WFr2 (Engine.modNode n f) := Step.Pres.modify fun s => .modNode s n f hf
theorem PresW2.modObs (o f) : Step.Pres Act.WFr2 (modObs o f) := Step.Pres.modify fun _ => .of_same rfl rfl rfl rfl
theorem PresW2.modBind (e f) : Step.Pres Act.WFr2 (modBind e f) := Step.Pres.modify fun _ => .of_same rfl rfl rfl rfl
theorem PresW2.bumpCounter (f) : Step.Pres Act.WFr2 (bumpCounter f) := Step.Pres.modify fun _ => .of_same rfl rfl rfl rfl
theorem PresW2.setHeight (n h) : Step.Pres Act.WFr2 (setHeight n h) := PresW2.of_foot (Foot.setHeight n h) (by decide)
theorem PresW2.addParent (c i p) : Step.Pres Act.WFr2 (addParent c i p) :=
  PresW2.of_foot (Foot.addParent c i p) (by decide)
theorem PresW2.removeParent (c i p) : Step.Pres Act.WFr2 (removeParent c i p) :=
  PresW2.of_foot (Foot.removeParent c i p) (by decide)
theorem PresW2.handleAfterStabilisation (n) : Step.Pres Act.WFr2 (handleAfterStabilisation n) :=
  PresW2.of_foot (Foot.handleAfterStabilisation n) (by decide)
theorem PresW2.markMapRefUnknown (fuel n) : Step.Pres Act.WFr2 (markMapRefUnknown fuel n) :=
  PresW2.of_foot (Foot.markMapRefUnknown fuel n) (by decide)

/-- the leaves of the walks below, each from its footprint -/
local macro_rules
  | `(tactic| qleaf) =>
    `(tactic| (refine PresW2.of_foot (by with_reducible first
        | apply Foot.scopeIsNecessary | apply Foot.maybeHandleAfterStabilisation | apply Foot.handleAfterStabilisation
        | apply Foot.setHeight | apply Foot.markMapRefUnknown | apply Foot.rchInsert | apply Foot.observabilityChange
        | apply Foot.runEdgeCallback | apply Foot.addParent) ?_; decide))
local macro_rules
  | `(tactic| qleaf) =>
    `(tactic| ((with_reducible apply Step.Pres.modify); intro _; exact Act.WFr2.of_same rfl rfl rfl rfl))
local macro_rules | `(tactic| qleaf) => `(tactic| ((with_reducible apply PresW2.modNode); intro _; rfl))
local macro_rules | `(tactic| qleaf) => `(tactic| with_reducible apply PresW2.modObs)
local macro_rules | `(tactic| qleaf) => `(tactic| with_reducible apply Step.Pres.getObs)

/-- the one place of the linking cascade where an invalidation gets pending: only for an invalid child -/
theorem PresW2.pushInv {β : Type} (child parent : Nat) (k : Unit → M β) (hk : Step.Pres Act.WFr2 (k ())) :
    Step.Pres Act.WFr2 (getNode child >>= fun nd =>
      if (!nd.valid) = true then
        (modify fun s => { s with propagateInvalidity := parent :: s.propagateInvalidity }) >>= k
      else k ()) := by
  constructor
  intro s r s' h
  rw [run_bind, run_getNode] at h
  cases hn : s.nodes[child]? with
  | none => rw [hn] at h; cases h; exact Act.WFr2.refl s
  | some nd =>
    rw [hn] at h
    simp only at h
    by_cases hv : nd.valid = true
    · simp only [hv, Bool.not_true, Bool.false_eq_true, if_false] at h
      exact hk.h _ _ _ h
    · simp only [hv, Bool.not_false, if_true, run_bind_modify] at h
      have h2 := hk.h _ _ _ h
      refine ⟨⟨h2.fr.size, h2.fr.node, h2.fr.vars, h2.fr.pc⟩, fun hc => ?_⟩
      have := hc.2 child
      rw [nodeD_of_some hn] at this
      exact absurd this hv

theorem PresW2.link (env : Env) (fuel : Nat) :
    (∀ n, Step.Pres Act.WFr2 (becameNecessary env fuel n)) ∧
    (∀ c i p, Step.Pres Act.WFr2 (addParentWithoutAdjustingHeights env fuel c i p)) := by
  induction fuel with
  | zero =>
    constructor
    · intro n; unfold becameNecessary; qpres
    · intro c i p; unfold addParentWithoutAdjustingHeights; qpres
  | succ fuel ih =>
    constructor
    · intro n
      unfold becameNecessary
      qpres
      all_goals (apply Step.Pres.forIn; intro a b; qpres; exact ih.2 _ _ _)
    · intro c i p
      unfold addParentWithoutAdjustingHeights
      refine Step.Pres.bind Step.Pres.get fun _ => ?_
      refine Step.Pres.bind (Step.Pres.dassert _ _) fun _ => ?_
      refine Step.Pres.bind Step.Pres.get fun _ => ?_
      dsimp only
      refine Step.Pres.bind (PresW2.addParent _ _ _) fun _ => ?_
      refine PresW2.pushInv c p _ ?_
      qpres
      all_goals exact ih.1 _

theorem PresW2.becameNecessary (env fuel n) : Step.Pres Act.WFr2 (becameNecessary env fuel n) :=
  (PresW2.link env fuel).1 n

theorem PresW2.unlink (fuel : Nat) :
    (∀ n, Step.Pres Act.WFr2 (becameUnnecessary fuel n)) ∧
    (∀ n, Step.Pres Act.WFr2 (checkIfUnnecessary fuel n)) ∧
    (∀ n, Step.Pres Act.WFr2 (removeChildren fuel n)) :=
  ⟨fun n => PresW2.of_foot (Foot.becameUnnecessary fuel n) (by decide),
    fun n => PresW2.of_foot (Foot.checkIfUnnecessary fuel n) (by decide),
    fun n => PresW2.of_foot (Foot.removeChildren fuel n) (by decide)⟩

theorem PresW2.checkIfUnnecessary (fuel n) : Step.Pres Act.WFr2 (checkIfUnnecessary fuel n) :=
  (PresW2.unlink fuel).2.1 n

/-! ## `addNewObservers`: from a clean state -/

/-- from a clean state: `WFr`, and the final state has no pending invalidation -/
def Act.WFrC (s s' : State) : Prop := Act.Cl s → WFr s s' ∧ s'.propagateInvalidity = []

theorem Act.WFrC.refl (s : State) : Act.WFrC s s := fun h => ⟨WFr.refl s, h.1⟩
theorem Act.WFrC.trans {a b c : State} (h1 : Act.WFrC a b) (h2 : Act.WFrC b c) : Act.WFrC a c := by
  intro h
  obtain ⟨f1, p1⟩ := h1 h
  obtain ⟨f2, p2⟩ := h2 (h.next f1 p1)
  exact ⟨f1.trans f2, p2⟩
instance : Step.PreOrd Act.WFrC := ⟨Act.WFrC.refl, Act.WFrC.trans⟩

theorem Act.WFr2.toC {s s' : State} (h : Act.WFr2 s s') : Act.WFrC s s' := fun hc => ⟨h.fr, h.pinv hc⟩

local macro_rules
  | `(tactic| qleaf) =>
    `(tactic| ((refine Step.Pres.mono (R := Act.WFr2) (R' := Act.WFrC) ?_ (fun _ _ => Act.WFr2.toC)); qleaf))

theorem PresWC.propagateInvalidity (fuel : Nat) : Step.Pres Act.WFrC (propagateInvalidity fuel) := by
  constructor
  intro s r s' h hc
  cases fuel with
  | zero =>
    unfold Engine.propagateInvalidity at h
    rw [run_throw] at h; cases h; exact ⟨WFr.refl s, hc.1⟩
  | succ fuel =>
    unfold Engine.propagateInvalidity at h
    rw [run_bind, run_get] at h
    simp only [hc.1, run_pure] at h
    cases h; exact ⟨WFr.refl s, hc.1⟩

theorem PresWC.becameNecessaryPropagate (env fuel n) :
    Step.Pres Act.WFrC (becameNecessaryPropagate env fuel n) := by
  unfold Engine.becameNecessaryPropagate
  exact Step.Pres.bind ((PresW2.becameNecessary env fuel n).mono fun _ _ => Act.WFr2.toC)
    fun _ => PresWC.propagateInvalidity fuel

theorem PresWC.addNewObservers (env : Env) (fuel : Nat) : Step.Pres Act.WFrC (addNewObservers env fuel) := by
  unfold Engine.addNewObservers
  qpres
  all_goals (apply Step.Pres.forIn; intro a b; qpres)
  all_goals exact PresWC.becameNecessaryPropagate _ _ _

/-! ## the statements -/

theorem PresW.unlinkDisallowedObservers (fuel : Nat) : Step.Pres WFr (unlinkDisallowedObservers fuel) :=
  (PresW2.of_foot (Foot.unlinkDisallowedObservers fuel) (by decide)).mono fun _ _ h => h.fr

theorem PresW.rchRemoveMin : Step.Pres WFr rchRemoveMin :=
  (PresW2.of_foot Foot.rchRemoveMin (by decide)).mono fun _ _ h => h.fr

/-- every run (returning or panicking) of `addNewObservers` from a clean state -/
theorem addNewObservers_wfr' {env : Env} {fuel : Nat} {s s' : State} {r : Except Panic Unit} (hc : Act.Cl s)
    (h : (addNewObservers env fuel).run.run s = (r, s')) : WFr s s' ∧ s'.propagateInvalidity = [] :=
  (PresWC.addNewObservers env fuel).h _ _ _ h hc

theorem addNewObservers_wfr {env : Env} {fuel : Nat} {s s' : State} (hfr : Fr s)
    (h : (addNewObservers env fuel).run.run s = (.ok (), s')) : WFr s s' :=
  (addNewObservers_wfr' hfr.cl h).1

theorem unlinkDisallowedObservers_wfr {fuel : Nat} {s s' : State} {r : Except Panic Unit}
    (h : (unlinkDisallowedObservers fuel).run.run s = (r, s')) : WFr s s' :=
  (PresW.unlinkDisallowedObservers fuel).h _ _ _ h

theorem rchRemoveMin_wfr {s s' : State} {r : Except Panic (Option Nat)}
    (h : rchRemoveMin.run.run s = (r, s')) : WFr s s' :=
  PresW.rchRemoveMin.h _ _ _ h

theorem WFr.frag {env : Env} {G : Nat → Prop} {s s' : State} (h : WFr s s') (F : WFrag env G s) :
    WFrag env G s' := by
  refine ⟨h.pc F.pc, fun n hn => ?_, fun n hn => ?_, fun n hn c hc => ?_⟩
  · rw [wKey_kind (h.node n)]; exact F.kind n (by rw [← h.size]; exact hn)
  · rw [wKey_valid (h.node n)]; exact F.valid n (by rw [← h.size]; exact hn)
  · rw [wKey_kind (h.node n)] at hc; exact F.back n (by rw [← h.size]; exact hn) c hc

theorem WFr.minv {env : Env} {C : Val → Prop} {s s' : State} (h : WFr s s') (M : MInv env C s) :
    MInv env C s' := by
  refine ⟨fun n v hv => ?_, fun n hn => ?_, fun c vc hc => ?_, fun n g i hk => ?_⟩
  · rw [wKey_value (h.node n)] at hv; exact M.vals n v hv
  · rw [wKey_kind (h.node n)]; exact M.lits n (by rw [← h.size]; exact hn)
  · rw [h.vars] at hc; exact M.vars c vc hc
  · rw [wKey_kind (h.node n)] at hk
    rw [wKey_oldState (h.node n), wKey_value (h.node n)]; exact M.mach n g i hk

end IncrVerif.Proofs.MapOldH
