import IncrVerif.Proofs.ExpertH18
/-!
# rank-ordered fragment: the end of `stabilise`, as a lemma about abstract states

`stab_core` is the second half of the proof of `stabilise_q` (`ExpertH18`), with its conclusions in place of
the drain: it is applied to the VIRTUAL states of a `stabilise` of the expert fragment (`ExpertH42`).
-/
namespace IncrVerif.Proofs.ExpertH.QR
open IncrVerif.Engine IncrVerif.Driver IncrVerif.Proofs IncrVerif.Proofs.Step IncrVerif.Proofs.Sched

/-- the conclusions of `stabilise_q` about the final state, without the description of the drain -/
structure StabilisedC (env : Env) (rk : Nat → Nat) (s s' : State) : Prop where
  inv : QInv env rk s'
  newObservers : s'.newObservers = []
  disallowedObservers : s'.disallowedObservers = []
  vars : s'.vars = s.vars
  stabNum : s'.stabNum = s.stabNum + 1
  size : s'.nodes.size = s.nodes.size
  kind : ∀ m, (s'.nodeD m).kind = (s.nodeD m).kind
  obs : ObsMap stabilisedState s s'
  values : ∀ n, s'.isNecessary n = true → ∀ k, (s'.nodeD n).height.toNat < k →
    (s'.nodeD n).valid = true ∧ s'.isStale n = false ∧ (s'.nodeD n).value = eval env s' k n ∧
      s'.value env n = eval env s' k n ∧ (eval env s' k n).isSome = true

/-- what the quiescent invariant of `s` leaves in the state `t2` in which the drain starts: the variables, stamps that are all older than
this round, and consistency of the nodes that are not stale -/
theorem QInv.at_start {env : Env} {rk : Nat → Nat} {s s0 t2 : State} (Q : QInv env rk s)
    (hs0 : s0 = { s with status := .stabilising }) (F : PFrame s0 t2) :
    VarsOK t2 ∧ 0 ≤ t2.stabNum ∧
      (∀ m, (t2.nodeD m).recomputedAt < t2.stabNum ∧ (t2.nodeD m).changedAt < t2.stabNum) ∧
      (∀ (c : Nat) (vc : VarCell), t2.vars[c]? = some vc → vc.setAt ≤ t2.stabNum) ∧
      (∀ m, m < t2.nodes.size → staleOf t2 m = false → Consistent env t2 m) := by
  have hnd0 : ∀ m, s0.nodeD m = s.nodeD m := fun m => by rw [hs0]; rfl
  have hvars0 : s0.vars = s.vars := by rw [hs0]
  have hstab0 : s0.stabNum = s.stabNum := by rw [hs0]
  have hsz0 : s0.nodes.size = s.nodes.size := by rw [hs0]
  refine ⟨F.varsOK ⟨?_, ?_⟩, by rw [F.stabNum, hstab0]; exact Q.now, fun m => ?_, fun c vc hc => ?_, fun m hm hs => ?_⟩
  · intro n c hn hk; rw [hnd0] at hk; rw [hvars0]; exact Q.vars.node n c (by rw [← hsz0]; exact hn) hk
  · intro c vc hc; rw [hvars0] at hc; rw [hsz0, hnd0]; exact Q.vars.cell c vc hc
  · rw [F.recomputedAt, F.changedAt, F.stabNum, hstab0, hnd0]; exact Q.stamps m
  · rw [F.vars, hvars0] at hc; rw [F.stabNum, hstab0]; exact Q.varStamp c vc hc
  · rw [F.staleOf] at hs
    have hs' : staleOf s m = false := by
      rw [← hs]; exact (staleOf_congr (by rw [hnd0]) (by rw [hnd0]) hvars0 (fun c _ => by rw [hnd0])).symm
    obtain ⟨w, hw, hv⟩ := Q.cons m (by rw [← hsz0, ← F.size]; exact hm) hs'
    exact F.consistent ⟨w, Target.congr (by rw [hnd0]) hvars0 (fun c _ => by rw [hnd0]) hw, by rw [hnd0]; exact hv⟩

/-- the state in which the drain starts satisfies the drain invariant -/
theorem drain_start {env : Env} {rk : Nat → Nat} {s s0 t2 : State} (Q : QInv env rk s)
    (hs0 : s0 = { s with status := .stabilising }) (S2 : SInv env rk t2 [] []) (F : PFrame s0 t2) :
    DrainInv env t2 ∧ UnnecOK env t2 := by
  obtain ⟨V2, now2, st2, vs2, cons2⟩ := Q.at_start hs0 F
  exact ⟨drainInv_of S2.struct V2 now2 st2 vs2 cons2, fun m hm _ => ⟨(st2 m).1, cons2 m hm⟩⟩

/-- the end of `stabilise`: from the facts about the prefix (`s0`: status set; `t1`: observers added; `t2`: observers
unlinked), the conclusions of the drain `t2 → t3`, and the description of `stabiliseEnd` `t3 → s'` -/
theorem stab_core {env : Env} {rk : Nat → Nat} {s s0 t1 t2 t3 s' : State} (Q : QInv env rk s)
    (hs0 : s0 = { s with status := .stabilising })
    (S2 : SInv env rk t2 [] []) (hn2 : t2.newObservers = []) (hd2 : t2.disallowedObservers = [])
    (F : PFrame s0 t2) (O1 : ObsMap addedState s0 t1) (O2 : ObsMap unlinkedState t1 t2)
    (D3 : DrainInv env t3) (he3 : t3.rch.length = 0) (f3 : Frame t2 t3) (c3 : Calm t2 t3)
    (k3 : stateKeyD t3 = stateKeyD t2) (U3 : UnnecOK env t3) (E : Finished' t3 s') :
    StabilisedC env rk s s' := by
  have hnd0 : ∀ m, s0.nodeD m = s.nodeD m := fun m => by rw [hs0]; rfl
  have hvars0 : s0.vars = s.vars := by rw [hs0]
  have hstab0 : s0.stabNum = s.stabNum := by rw [hs0]
  have hsz0 : s0.nodes.size = s.nodes.size := by rw [hs0]
  have V2 : VarsOK t2 := F.varsOK (by
    refine ⟨?_, ?_⟩
    · intro n c hn hk; rw [hnd0] at hk; rw [hvars0]; exact Q.vars.node n c (by rw [← hsz0]; exact hn) hk
    · intro c vc hc; rw [hvars0] at hc; rw [hsz0, hnd0]; exact Q.vars.cell c vc hc)
  simp only [stateKeyD, Prod.mk.injEq] at k3
  obtain ⟨k_obs, k_all, k_scope, k_top, k_handles, k_alive, k_pinv, -⟩ := k3
  have S3 : Struct env rk t3 := Struct.ofDrained S2.struct f3 D3 he3 k_scope
  -- nodes of the final state
  have hE : ∀ m, NodeG (t3.nodeD m) (s'.nodeD m) ∧ (s'.nodeD m).value = (t3.nodeD m).value ∧
      (s'.nodeD m).numOnUpdateHandlers = (t3.nodeD m).numOnUpdateHandlers := by
    intro m
    obtain ⟨b, hb⟩ := E.node m
    rw [hb]
    exact ⟨⟨rfl, rfl, rfl, rfl, rfl, rfl, rfl, rfl, rfl, rfl, rfl⟩, rfl, rfl⟩
  have G3 : SameG t3 s' := ⟨E.pc, E.scope, E.size, E.rch, E.vars, fun m => (hE m).1⟩
  have S' : Struct env rk s' := S3.congr G3
  have hnec' : ∀ m, s'.isNecessary m = t2.isNecessary m := fun m => by rw [G3.nec, f3.nec]
  have hkind' : ∀ m, (s'.nodeD m).kind = (t2.nodeD m).kind := fun m => by
    rw [(hE m).1.kind, (f3.shape m).kind]
  have hvars' : s'.vars = t2.vars := by rw [E.vars, f3.vars]
  have hsize' : s'.nodes.size = t2.nodes.size := by rw [E.size, f3.size]
  have V' : VarsOK s' := by
    refine ⟨?_, ?_⟩
    · intro n c hn hk; rw [hkind'] at hk; rw [hvars']; exact V2.node n c (by rw [← hsize']; exact hn) hk
    · intro c vc hc; rw [hvars'] at hc; rw [hsize', hkind']; exact V2.cell c vc hc
  have hobs' : s'.observers = t2.observers := by rw [E.observers, k_obs]
  have hnobs' : ∀ m, (s'.nodeD m).observers = (t2.nodeD m).observers := fun m => by
    rw [(hE m).1.observers, (f3.shape m).observers]
  have hno' : s'.newObservers = [] := by rw [E.newObservers, c3.newObservers]; exact hn2
  have hdo' : s'.disallowedObservers = [] := by rw [E.disallowedObservers, c3.disallowedObservers]; exact hd2
  have O' : ObsOK s' := by
    unfold ObsOK
    rw [hno', hdo']
    have o2 := S2.obs
    refine ⟨?_, ?_, ?_, ?_, ?_, ?_, List.nodup_nil⟩
    · intro o ob ho; rw [hobs'] at ho; rw [hsize']; exact o2.inRange o ob ho
    · intro n o; rw [hnobs', hobs']; exact o2.mem n o
    · intro o ob ho hc; rw [hobs'] at ho; exact o2.created o ob ho hc
    · intro o ho; cases ho
    · intro o ob ho; rw [hobs'] at ho; exact o2.dis o ob ho
    · intro o ho; cases ho
  have hstale' : ∀ m, staleOf s' m = staleOf t3 m := G3.staleOf
  have hcons3 : ∀ m, m < t3.nodes.size → staleOf t3 m = false → Consistent env t3 m := by
    intro m hm hs
    cases hn : t3.isNecessary m with
    | true => exact (D3.all_consistent he3 m hn).2
    | false => exact (U3 m hm hn).2 hs
  have Q' : QInv env rk s' := by
    refine ⟨S', V', O', ?_, ?_, ?_, ?_, E.status, ?_, E.setDuringStab, E.deadVars, E.handleAfterStab, ?_, ?_, ?_⟩
    · rw [E.stabNum]; have := D3.stamps.now; omega
    · intro m
      rw [(hE m).1.recomputedAt, (hE m).1.changedAt, E.stabNum]
      have := D3.stamps.node m; omega
    · intro c vc hc
      rw [E.vars] at hc; rw [E.stabNum]; have := D3.stamps.var c vc hc; omega
    · intro m hm hs
      rw [hstale'] at hs
      obtain ⟨w, hw, hv⟩ := hcons3 m (by rw [← E.size]; exact hm) hs
      exact ⟨w, Target.congr (hE m).1.kind E.vars (fun c _ => (hE c).2.1) hw, by rw [(hE m).2.1]; exact hv⟩
    · rw [E.alive, k_alive, F.alive, hs0]; exact Q.alive
    · intro m
      rw [(hE m).2.2, c3.num, P12.pf_num F, hnd0]; exact Q.handlers m
    · rw [E.pinv, k_pinv]; exact S2.pinv
    · intro k n hk
      rw [E.top, k_top, F.top, hs0] at hk
      rw [hsize', F.size, hsz0]; exact Q.top k n hk
  refine ⟨Q', hno', hdo', by rw [hvars', F.vars, hvars0], by rw [E.stabNum, f3.stabNum, F.stabNum, hstab0],
    by rw [hsize', F.size, hsz0], fun m => by rw [hkind', F.kind, hnd0], ?_, ?_⟩
  · -- observers
    refine ⟨by rw [hobs', O2.1, O1.1, hs0], fun o ob ho => ?_⟩
    have ho0 : s0.observers[o]? = some ob := by rw [hs0]; exact ho
    obtain ⟨ob1, h1o, h1n, h1s⟩ := O1.2 o ob ho0
    obtain ⟨ob2, h2o, h2n, h2s⟩ := O2.2 o ob1 h1o
    exact ⟨ob2, by rw [hobs']; exact h2o, by rw [h2n, h1n], by rw [h2s, h1s, stabilisedState_eq]⟩
  · -- values
    intro n hn k hk
    have hn3 : t3.isNecessary n = true := by rw [← G3.nec]; exact hn
    have hk3 : (t3.nodeD n).height.toNat < k := by rw [← (hE n).1.height]; exact hk
    obtain ⟨v1, v2, v3, -, v5⟩ := drained_values D3 he3 n hn3 k hk3
    have hev : eval env s' k n = eval env t3 k n := eval_congr (fun m => (hE m).1.kind) E.vars k n
    have hv' : (s'.nodeD n).value = eval env s' k n := by rw [(hE n).2.1, hev]; exact v3
    refine ⟨by rw [(hE n).1.valid]; exact v1, ?_, hv', ?_, by rw [hev]; exact v5⟩
    · rw [GInv.isStale S' (nec_lt_size hn), hstale', ← D3.graph.isStale hn3]; exact v2
    · rw [(Q'.quiet.graph).value_plain hn]; exact hv'

end IncrVerif.Proofs.ExpertH.QR
