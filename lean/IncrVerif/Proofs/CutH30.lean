import IncrVerif.Proofs.CutH29
-- `Proofs/Sched11.lean` for ARBITRARY cutoffs; overview in Props/C06History.lean
/-!
# Safety of the drain for ARBITRARY cutoffs: the theorems

`mhas_ok`, `mcvm_safe`, `rchRemoveMin_ok` are `Sched`'s.
-/
namespace IncrVerif.Proofs.CutH
open IncrVerif.Engine IncrVerif.Proofs IncrVerif.Proofs.Step IncrVerif.Proofs.Sched
variable {e : Bool}

/-- under `Safe.dep` the cutoff check of `maybe_change_value` has a verdict -/
theorem mcvChanges_isSome (env : Env) {s : State} {n : Nat} (v : Val)
    (hdep : ∀ i, (s.nodeD n).cutoff = .dependOn i → i < s.nodes.size) :
    ∃ d, mcvChanges env s n v = some d := by
  unfold mcvChanges
  cases (s.nodeD n).value with
  | none => exact ⟨_, rfl⟩
  | some old =>
    dsimp only
    unfold cutoffVerdict
    cases hc : (s.nodeD n).cutoff with
    | dependOn i => simp only [some_of_lt (hdep i hc), Option.map_some]; exact ⟨_, rfl⟩
    | _ => exact ⟨_, rfl⟩

/-! ## `maybe_change_value` and `recompute_one` -/

/-- `maybe_change_value n v` run in a state `S0` of the `Upd` family of `s` -/
theorem mcv_safe {env : Env} {fuel n : Nat} {v : Val} {s S0 s' : State} {pe : Panic}
    (g : Graph env s) (hi : HeapInv s) (S : Safe s) (hn : s.isNecessary n = true)
    (hfresh : ∀ p, p ∈ (s.nodeD n).parents.map (·.1) → (s.nodeD p).recomputedAt < s.stabNum)
    (hU : Upd n s S0)
    (h : (maybeChangeValue env fuel n v).run.run S0 = (.error pe, s')) :
    pe = .outOfFuel ∧ fuel = 0 := by
  obtain ⟨hlt, _, _, _⟩ := g.nec n hn
  have hlt0 : n < S0.nodes.size := by rw [hU.size]; exact hlt
  have hn0 := some_of_lt hlt0
  generalize hW : setValue n (some v) (logged (mcvLog env S0 n v) S0) = W
  have hUW : Upd n s W := by rw [← hW]; exact (hU.logged _).setValue _
  obtain ⟨d, hd⟩ := mcvChanges_isSome env (s := S0) (n := n) v (fun i hi => by
    rw [hU.shape.cutoff] at hi; rw [hU.size]; exact S.dep n i hi)
  cases d
  rotate_left
  · rw [mcv_run' env fuel n v S0 _ hn0 hU.pc, hd] at h
    dsimp only at h
    rw [hW] at h
    have hltW : n < W.nodes.size := by rw [hUW.size]; exact hlt
    have hUT : Upd n s (touched n W) := hUW.touched
    have eT : (touched n W).nodeD n = { W.nodeD n with changedAt := W.stabNum } := by
      rw [touched_nodeD, if_pos ⟨rfl, hltW⟩]
    have hparT : ((touched n W).nodeD n).parents = (s.nodeD n).parents := hUT.shape.parents
    refine mcvm_safe hltW (hUT.heap hi) ?_ h
    intro p hp
    rw [hparT] at hp
    obtain ⟨hpn, hkid, -, -, hne⟩ := g.parent_facts hp
    obtain ⟨h1, h2, h3, h5⟩ := g.nec p hpn
    have ep : (touched n W).nodeD p = s.nodeD p := hUT.other p hne
    refine ⟨⟨by rw [hUT.size]; exact h1, by rw [ep]; exact h2, by rw [ep]; exact h3,
      by rw [hUT.nec]; exact hpn⟩, by rw [ep]; exact hkid, ?_, by rw [ep]; exact h5, ?_, ?_⟩
    · rw [ep, eT]
      show _ < W.stabNum
      rw [hUW.stabNum]; exact hfresh p hp
    · rw [ep, hUT.rch]; exact S.height p hpn
    · rw [ep]; exact S.scope p hpn
  · rw [mcv_suppress env fuel n v S0 _ hn0 hU.pc hd] at h
    cases h

/-- a `recomputeOne` on a necessary node of a static graph whose children all have values and whose
parents have not been recomputed in this round cannot fail an assertion -/
theorem recomputeOne_safe_static {env : Env} {fuel n : Nat} {s s' : State} {pe : Panic}
    (g : Graph env s) (hi : HeapInv s) (S : Safe s) (hn : s.isNecessary n = true)
    (hfresh : ∀ p, p ∈ (s.nodeD n).parents.map (·.1) → (s.nodeD p).recomputedAt < s.stabNum)
    (hvals : ∃ vals, plainVals s (kids (s.nodeD n).kind) = some vals)
    (h : (recomputeOne env fuel n).run.run s = (.error pe, s')) : pe = .outOfFuel ∧ fuel = 0 := by
  obtain ⟨hlt, hv, hk, _⟩ := g.nec n hn
  obtain ⟨vals, hvals⟩ := hvals
  have hvo := g.valuesOf hn
  rw [hvals] at hvo
  obtain ⟨v, evs, hc⟩ := computes_static n hk (fun c hkd => g.var n c hn hkd) hvo
  rw [recomputeOne_run_of_computes (some_of_lt hlt) hv g.pc hc hk] at h
  exact mcv_safe g hi S hn hfresh ((Upd.started n s g.pc).logged evs) h

/-- a `recomputeOne` on the current node of the invariant cannot fail an assertion; it can only run
out of fuel, and only with `fuel = 0` -/
theorem recomputeOne_safe {env : Env} {fuel n : Nat} {s s' : State} {pe : Panic}
    (I : Inv env e s (some n)) (S : Safe s)
    (h : (recomputeOne env fuel n).run.run s = (.error pe, s')) : pe = .outOfFuel ∧ fuel = 0 := by
  refine recomputeOne_safe_static I.graph I.heap S (I.cur n rfl).1 ?_ I.kids_values h
  intro p hp
  exact I.fresh n (Or.inr rfl) p (I.graph.parent_facts hp).2.2.1

/-- a successful `recomputeOne` keeps `Safe` -/
theorem recomputeOne_keeps_safe {env : Env} {fuel n : Nat} {s s' : State} {r : Option Nat}
    (I : Inv env e s (some n)) (S : Safe s)
    (h : (recomputeOne env fuel n).run.run s = (.ok r, s')) : Safe s' :=
  S.frame (recomputeOne_inv I h).2.1

/-- `remove_min` under the heap invariant cannot fail, and keeps `Safe` -/
theorem rchRemoveMin_safe {env : Env} {s : State} (I : DrainInv env e s) (S : Safe s) :
    ∃ r s1, rchRemoveMin.run.run s = (.ok r, s1) ∧ Safe s1 := by
  obtain ⟨r, s1, hr⟩ := rchRemoveMin_ok I.heap
  refine ⟨r, s1, hr, ?_⟩
  cases r with
  | none => obtain ⟨rfl, -⟩ := rchRemoveMin_inv I.heap hr; exact S
  | some n => exact S.frame (pop_inv I hr).2

/-! ## the chain and the loop -/

theorem recompute_safe {env : Env} : ∀ (fuel n : Nat) (s s' : State) (pe : Panic), Inv env e s (some n) →
    Safe s → (recompute env fuel n).run.run s = (.error pe, s') → pe = .outOfFuel := by
  intro fuel
  induction fuel with
  | zero => intro n s s' pe _ _ h; unfold recompute at h; cases h; rfl
  | succ fuel ih =>
    intro n s s' pe I S h
    unfold recompute at h
    rcases bind_err_inv h with h1 | ⟨r, s1, h1, h2⟩
    · exact (recomputeOne_safe I S h1).1
    · have I1 := (recomputeOne_inv I h1).1
      have S1 := recomputeOne_keeps_safe I S h1
      cases r with
      | none => rw [run_pure] at h2; cases h2
      | some p => exact ih p s1 s' pe I1 S1 h2

/-- **no assertion fails during a drain**: a `drainHeap` from a state with the drain invariant and
`Safe` either returns or runs out of fuel -/
theorem drainHeap_safe {env : Env} : ∀ (fuel : Nat) (s s' : State) (pe : Panic), DrainInv env e s →
    Safe s → (drainHeap env fuel).run.run s = (.error pe, s') → pe = .outOfFuel := by
  intro fuel
  induction fuel with
  | zero => intro s s' pe _ _ h; unfold drainHeap at h; cases h; rfl
  | succ fuel ih =>
    intro s s' pe I S h
    unfold drainHeap at h
    obtain ⟨r0, t0, hr0, S0⟩ := rchRemoveMin_safe I S
    rcases bind_err_inv h with h1 | ⟨r, s1, h1, h2⟩
    · rw [hr0] at h1; cases h1
    cases r with
    | none => rw [run_pure] at h2; cases h2
    | some n =>
      obtain ⟨I1, f1⟩ := pop_inv I h1
      have S1 := S.frame f1
      rcases bind_err_inv h2 with h3 | ⟨u, s2, h3, h4⟩
      · exact recompute_safe fuel n s1 s' pe I1 S1 h3
      · obtain ⟨I2, f2⟩ := recompute_inv fuel n s1 s2 I1 h3
        exact ih s2 s' pe I2 (S1.frame f2) h4

end IncrVerif.Proofs.CutH
