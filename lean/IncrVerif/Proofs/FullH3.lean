import IncrVerif.Proofs.FullH2
import IncrVerif.Proofs.MapRefLink
/-!
# C01 full fragment, part 2: the fragment of states, the ghost invariants, the drain invariant

* `Good env sp m`: machine `m` computes the plain function `sp m` from every reachable machine state, on every input.
* `FK env sp`: the kinds of the actual state.  `FFrag env sp g s`: what the simulation and the special steps need of the actual state.
* `KInv env g s` (the `didChange` invariant for VALID nodes, `Proofs/MapRefLink.lean`): a valid necessary `map_ref` node whose flag is down reads its ghost value.
* `MInv env s`: the machine state of every valid `map_with_old` node is reachable.
* `DInvF env sp t s g x`: the drain invariant: the invariants of fragment F2 for the VIRTUAL state + the ghost invariants.
-/
namespace IncrVerif.Proofs.FullH
open IncrVerif.Engine IncrVerif.Proofs IncrVerif.Proofs.Step IncrVerif.Proofs.Sched IncrVerif.Proofs.Quiet
open IncrVerif.Proofs.MapOldH (enc dec WId dec_enc MReach GoodMachine)
open IncrVerif.Proofs.BindH (DInv BGraph StepRelB)
open IncrVerif.Proofs.NestH (AuxS2 Aux2 GenOK2 F2Inv)

/-- the total machine contract: from every reachable machine state, on every input, machine `m` outputs `sp m x`; it reports "unchanged" only if
the previous output is the new one (or there was none) -/
def Good (env : Env) (sp : Nat → Val → Val) (m : Nat) : Prop := GoodMachine env (fun _ => True) m (sp m)

/-- the kinds of the actual state -/
abbrev FK (env : Env) (sp : Nat → Val → Val) : Kind → Prop := FKind env (Good env sp)

/-- a kind of the fragment is static, or one of the four kinds with a step of their own -/
theorem FKind.cases {env : Env} {G : Nat → Prop} {k : Kind} (h : FKind env G k) :
    StaticKind env k ∨ (∃ p i, k = .mapRef p i) ∨ (∃ m i, k = .mapWithOld m i) ∨ (∃ b, k = .bindLhsChange b) ∨
      ∃ b lc, k = .bindMain b lc := by
  cases k with
  | const _ | var _ | fold _ _ _ => exact Or.inl trivial
  | map f args => exact Or.inl ⟨by have := h.1; unfold pBase at this; unfold fnPerKey; omega, h.2⟩
  | mapRef p i => exact Or.inr (Or.inl ⟨p, i, rfl⟩)
  | mapWithOld m i => exact Or.inr (Or.inr (Or.inl ⟨m, i, rfl⟩))
  | bindLhsChange b => exact Or.inr (Or.inr (Or.inr (Or.inl ⟨b, rfl⟩)))
  | bindMain b lc => exact Or.inr (Or.inr (Or.inr (Or.inr ⟨b, lc, rfl⟩)))
  | expert _ => exact h.elim

/-- the fragment of actual states -/
structure FFrag (env : Env) (sp : Nat → Val → Val) (g : Nat → Option Val) (s : State) : Prop where
  fr : Fr (FK env sp) g s
  /-- the input of a `map_ref` node is an earlier node -/
  back : MapRefsBack s
  pc : s.panicCountdown = none

/-- the machine invariant -/
def MInv (env : Env) (s : State) : Prop :=
  ∀ n m i, (s.nodeD n).valid = true → (s.nodeD n).kind = .mapWithOld m i →
    MReach env (fun _ => True) m (s.nodeD n).oldState (s.nodeD n).value

/-- a valid `map_ref` node whose flag is down has a ghost value (a flag is lowered only by the node's own step, which stores a ghost value; the ghost is
erased only on nodes that end up invalid) -/
def GSome (g : Nat → Option Val) (s : State) : Prop :=
  ∀ m p i, (s.nodeD m).valid = true → (s.nodeD m).kind = .mapRef p i → (s.nodeD m).didChange = false → (g m).isSome = true

/-- the `depend_on` invariant: a valid `depend_on` node `n = map fnFirst [a, b]` (cutoff `.dependOn a`) whose `changedAt` equals its input's stores what the input
stores in the virtual state — so when the cutoff `a.changedAt == n.changedAt` suppresses a change, the value is unchanged -/
def DepInv (g : Nat → Option Val) (s : State) : Prop :=
  ∀ n a b v, (s.nodeD n).valid = true → (s.nodeD n).kind = .map fnFirst [a, b] → (s.nodeD n).cutoff = .dependOn a →
    (s.nodeD n).changedAt = (s.nodeD a).changedAt → (s.nodeD n).value = some v → tv g s a = some v

/-- a valid node with a stored value whose `changedAt` is the current round has been recomputed in this round -/
def CRl (s : State) : Prop :=
  ∀ n, (s.nodeD n).valid = true → (∀ p i, (s.nodeD n).kind ≠ .mapRef p i) → (s.nodeD n).value.isSome = true →
    (s.nodeD n).changedAt = s.stabNum → (s.nodeD n).recomputedAt = s.stabNum

/-- the built-in function of `depend_on` nodes returns its first argument -/
def FirstFn (env : Env) : Prop := ∀ a b : Val, env.fn fnFirst [a, b] = a

/-- the virtual environment -/
abbrev VE (env : Env) (sp : Nat → Val → Val) : Env := virtEnv env sp

/-- **the drain invariant** of the full fragment: `t` = the (virtual) state in which the drain started (for the key frames `DKey`/`NKey` of `AuxS2`) -/
structure DInvF (env : Env) (sp : Nat → Val → Val) (t : State) (s : State) (g : Nat → Option Val) (x : Option Nat) : Prop where
  frag : FFrag env sp g s
  inv : DInv (VE env sp) (virt g s) x
  aux : AuxS2 (VE env sp) t (virt g s)
  gen : GenOK2 (VE env sp) (virt g s)
  k : KInv env g s
  m : MInv env s
  gs : GSome g s
  dep : DepInv g s
  cr : CRl s

/-- `GSome` is kept by every simulated step -/
theorem GSome.of_gr {g g' : Nat → Option Val} {s s' : State} (G : GSome g s) (R : GR g g' s s') : GSome g' s' := by
  intro m p i hv hk hd
  by_cases hm : m < s.nodes.size
  · obtain ⟨k1, -, -⟩ := R.vm.kind m hm
    have hv0 : (s.nodeD m).valid = true := by
      cases h : (s.nodeD m).valid with
      | true => rfl
      | false => rw [R.vm.valid m h] at hv; cases hv
    rw [R.valid_eq hv]
    exact G m p i hv0 (by rw [← k1]; exact hk) (R.vm.flag m hm hd)
  · by_cases hm' : m < s'.nodes.size
    · rw [(R.vm.newn m (by omega) hm').1] at hd; cases hd
    · rw [nodeD_default_of_ge s' m (by omega)] at hk; cases hk

section
variable {env : Env} {sp : Nat → Val → Val} {g : Nat → Option Val} {s : State}

theorem FFrag.lt_of_mapRef (_F : FFrag env sp g s) {n p i : Nat} (hk : (s.nodeD n).kind = .mapRef p i) :
    n < s.nodes.size := by
  by_cases h : n < s.nodes.size
  · exact h
  · rw [nodeD_default_of_ge s n (by omega)] at hk; cases hk

theorem FFrag.lt_of_mwo (_F : FFrag env sp g s) {n m i : Nat} (hk : (s.nodeD n).kind = .mapWithOld m i) :
    n < s.nodes.size := by
  by_cases h : n < s.nodes.size
  · exact h
  · rw [nodeD_default_of_ge s n (by omega)] at hk; cases hk

theorem FFrag.input_lt (F : FFrag env sp g s) {n p i : Nat} (hk : (s.nodeD n).kind = .mapRef p i) : i < n := by
  have hn := F.lt_of_mapRef hk
  exact F.back n (s.nodeD n) p i (some_of_lt hn) hk

theorem FFrag.pid (F : FFrag env sp g s) {n p i : Nat} (hk : (s.nodeD n).kind = .mapRef p i) : PId p := by
  have := F.fr.kinds n (F.lt_of_mapRef hk); rw [hk] at this; exact this

theorem FFrag.wid (F : FFrag env sp g s) {n m i : Nat} (hk : (s.nodeD n).kind = .mapWithOld m i) :
    WId m ∧ Good env sp m := by
  have := F.fr.kinds n (F.lt_of_mwo hk); rw [hk] at this; exact this

/-- a valid map_ref node reads the projection of what its input reads -/
theorem value_mapRef (F : FFrag env sp g s) {n p i : Nat} (hv : (s.nodeD n).valid = true)
    (hk : (s.nodeD n).kind = .mapRef p i) : s.value env n = (s.value env i).map (env.proj p) := by
  have hlt := F.lt_of_mapRef hk
  have hi : i < n := F.input_lt hk
  unfold State.value
  rw [valueWith_succ']
  have hc : valueCore (s.nodeD n) = (.mapRef p i, true, (s.nodeD n).value) := by
    simp [valueCore, hk, hv]
  rw [hc]
  simp only [valueStep']
  congr 1
  exact valueWith_congr_below env.proj s s F.back i (fun _ _ => rfl) _ _ (by omega) (by omega)

/-- an invalid node, or a node that is not a map_ref node, reads its stored value -/
theorem value_stored (h : (s.nodeD n).valid = false ∨ ∀ p i, (s.nodeD n).kind ≠ .mapRef p i) :
    s.value env n = (s.nodeD n).value := by
  unfold State.value
  rw [valueWith_succ']
  unfold valueCore valueStep'
  rcases h with h | h
  · simp only [h]
    cases (s.nodeD n).kind <;> rfl
  · cases hk : (s.nodeD n).kind <;> first | rfl | exact absurd hk (h _ _)

theorem tv_eq_value_of_not_mapRef (h : ∀ p i, (s.nodeD n).kind ≠ .mapRef p i) : tv g s n = s.value env n := by
  rw [tv_not_mapRef h, value_stored (Or.inr h)]

end
end IncrVerif.Proofs.FullH
