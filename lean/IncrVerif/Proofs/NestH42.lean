import IncrVerif.Proofs.NestH41
import IncrVerif.Proofs.NestH3
/-!
# Nested binds, fragment F2 end to end (modulo the lc-step theorem) — the hypothesis `LcStepsOK2` of the scheduling theorem

The counterpart of `BindH79` for nested binds.  The auxiliary invariant of a drain is `Aux2 env s := ∃ rk, F2Inv env rk s` (the ghost rank is re-chosen by every run of a
change detector, which creates nodes; runs of the other nodes and `remove_min` keep it, `NestH41`).  The description of a run of a change detector
(`LcStepF2`, the composition of the four phases) is TAKEN AS A HYPOTHESIS here.
-/
namespace IncrVerif.Proofs.NestH
open IncrVerif.Engine IncrVerif.Proofs IncrVerif.Proofs.Step IncrVerif.Proofs.Sched IncrVerif.Proofs.Quiet
open IncrVerif.Proofs.BindH

/-- the auxiliary invariant of a drain in fragment F2: `F2Inv` for SOME rank -/
def Aux2 (env : Env) (s : State) : Prop := ∃ rk, F2Inv env rk s

/-- the lc-step theorem of fragment F2 (statement): a successful run of a change detector from a state with the drain invariant and `F2Inv` is described by
`StepL2` and ends with `F2Inv` for a rank that orders the old nodes as before -/
def LcStepF2 (env : Env) : Prop :=
  ∀ (fuel n b : Nat) (rk : Nat → Nat) (s s' : State) (r : Option Nat),
    DInv env s (some n) → F2Inv env rk s → (s.nodeD n).kind = .bindLhsChange b →
    (recomputeOne env fuel n).run.run s = (.ok r, s') →
    ∃ br br' rk', StepL2 env n b br br' r s s' ∧ F2Inv env rk' s' ∧ RkExt rk rk' s.nodes.size

/-- **In fragment F2 every step of a drain is described by the step relations** and keeps `Aux2` (given the lc-step theorem). -/
theorem lcStepsOK_F2 {env : Env} (H : LcStepF2 env) : LcStepsOK2 env (Aux2 env) where
  lc fuel n b s s' r I A hk h := by
    obtain ⟨rk, A⟩ := A
    obtain ⟨br, br', rk', R, A', -⟩ := H fuel n b rk s s' r I A hk h
    exact ⟨⟨br, br', R⟩, rk', A'⟩
  other _ _ _ _ _ I A hk h := by
    obtain ⟨rk, A⟩ := A
    exact ⟨rk, recomputeOne_stepB_F2 I.graph I.heap I.cur_facts.1 hk I.kids_values h A⟩
  pop _ _ _ I A h := by
    obtain ⟨rk, A⟩ := A
    exact ⟨rk, pop_F2 I.heap h A⟩

/-- **The drain in fragment F2** (given the lc-step theorem): from the drain invariant and `Aux2`, a successful `drainHeap` ends with both again, an empty
heap, the cells and the round number unchanged, and every necessary node valid, non-stale and equal (stored value and observer read) to its from-scratch value `evalB`
in the FINAL graph. -/
theorem drainHeap_F2 {env : Env} (H : LcStepF2 env) {fuel : Nat} {s s' : State} (I : DInv env s none) (A : Aux2 env s)
    (h : (drainHeap env fuel).run.run s = (.ok (), s')) :
    DInv env s' none ∧ Aux2 env s' ∧ s'.rch.length = 0 ∧ s'.vars = s.vars ∧ s'.stabNum = s.stabNum ∧
    ∀ n, s'.isNecessary n = true → ∀ k, (s'.nodeD n).height.toNat < k →
      (s'.nodeD n).valid = true ∧ s'.isStale n = false ∧
        (s'.nodeD n).value = evalB env s' k n ∧ s'.value env n = evalB env s' k n ∧
        (evalB env s' k n).isSome = true :=
  drainHeap_valuesB2 (lcStepsOK_F2 H) I A h

/-- **No node runs twice, and no node of a generation that dies in the drain runs in it** (fragment F2, given the lc-step theorem): the nodes run by the drain
are pairwise distinct, each had not run in this round before, and each is still VALID at the end of the drain (so no node of a generation of a bind or of an
inner bind that is invalidated during this drain was recomputed in it). -/
theorem drain_once_F2 {env : Env} (H : LcStepF2 env) (fuel : Nat) (s s' : State) (I : DInv env s none) (A : Aux2 env s)
    (h : (drainHeap env fuel).run.run s = (.ok (), s')) :
    (drainTrace env fuel s).Nodup ∧ ∀ m, m ∈ drainTrace env fuel s → RanOnceB s s' m :=
  drain_onceB2 (lcStepsOK_F2 H) fuel s s' I A h

end IncrVerif.Proofs.NestH
