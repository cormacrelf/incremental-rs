import IncrVerif.Proofs.NestH63
import IncrVerif.Proofs.NestH25
import IncrVerif.Proofs.NestH69
/-!
# Nested binds (F2), part 5e2: the closure run registers exactly the IMAGE of the closure's template — the loop, the run, `closure_elab2`

The counterpart of BindH102 for nested binds.  The loop invariant `N5e.LK2` is self-contained (it carries the current scope), so the loop needs neither `NN.LI2` nor the structural
invariant; `GInv2` is used only for `All2.recs` (the main node of `b` is a node of the state), `All2.pc`, and for "the lhs is not a `mapRef`".
-/
namespace IncrVerif.Proofs.NestH
open IncrVerif.Engine IncrVerif.Proofs IncrVerif.Proofs.Step IncrVerif.Proofs.Sched IncrVerif.Proofs.Quiet
open IncrVerif.Proofs.BindH

namespace N5e

/-- `ElabOf2` only reads the naming table, the nodes and the bind table -/
theorem elabOf2_congr {s s' : State} {t : Template} {v : Val} {all locs : List Nat} {rhs : Nat}
    (htop : s'.top = s.top) (hn : ∀ m, s'.nodeD m = s.nodeD m) (hb : s'.binds = s.binds)
    (E : ElabOf2 s t v all locs rhs) : ElabOf2 s' t v all locs rhs where
  len := E.len
  img j i m hi hm :=
    instrImg_frame htop (hn m) (fun b2 br2 h _ => by rw [hb]; exact h) (E.img j i m hi hm)
  ret := by
    rw [C3e.resolveP_congr htop]
    exact E.ret
  reg := by
    rw [regOf_congr (s := s) (s' := s') (fun m _ => hn m)]
    exact E.reg

/-- the second loop invariant when `elabTemplate` starts -/
theorem entered_lk2 {s : State} {b : Nat} {br : BindRec} (e : Event) (tm : Template) (v : Val)
    (hb : s.binds[b]? = some br) (hm : br.main < s.nodes.size) : LK2 b br s tm v 0 [] (CN.entered b e s) := by
  refine ⟨?_, rfl, rfl, rfl, hm, ?_, ?_⟩
  · show (s.binds.modify b _)[b]? = _
    rw [Array.getElem?_modify, if_pos rfl, hb]; rfl
  · intro m hm
    cases hm
  · intro j' i m _ hm
    cases hm

/-- **the template**: `elabTemplate` inside the closure run registers the image of the template -/
theorem elabTemplate_elab2 {env : Env} {rk0 : Nat → Nat} {P : Nat → Prop} {b : Nat} {br : BindRec} {s0 : State}
    {tm : Template} {v : Val} {t t' : State} {rhs : Nat}
    (K : LK2 b br s0 tm v 0 [] t) (hT : TemplOK2 env rk0 s0 P br.lhsChange tm)
    (h : (elabTemplate env tm v).run.run t = (.ok rhs, t')) :
    ∃ loc, t'.binds[b]? = some { br with allNodesCreatedOnRhs := regOf t' loc } ∧
      ElabOf2 t' tm v (regOf t' loc) loc rhs := by
  unfold elabTemplate at h
  obtain ⟨loc, t1, h1, h2⟩ := bind_ok_inv h
  have hloop := forIn_ok_inv _ tm.instrs (fun j loc t => LK2 b br s0 tm v j loc t) ?_ tm.instrs 0 [] t loc t1 rfl
    (Nat.zero_le _) K h1
  · have K1 : LK2 b br s0 tm v tm.instrs.length loc t1 := hloop
    obtain ⟨et, hr⟩ := resolve_eq2 K1.top K1.len hT.2 h2
    subst et
    exact ⟨loc, K1.bind, K1.len, K1.img, hr, rfl⟩
  · intro j a loc0 t0 r t0' hj hK hrun
    have hK : LK2 b br s0 tm v j loc0 t0 := hK
    obtain ⟨ro, t2, h3, h4⟩ := bind_ok_inv hrun
    rcases elab_kind2 hK.top hK.len hK.scope (hT.1 j a hj) h3 with ⟨k, e, hk, C⟩ | ⟨body', o, lhs, ei, e, hr, C⟩
    · subst e
      simp only at h4
      obtain ⟨e1, e2⟩ := pure_ok_inv h4
      subst e2
      exact ⟨_, e1, hK.step_push hj hk C⟩
    · subst e
      subst ei
      simp only at h4
      obtain ⟨e1, e2⟩ := pure_ok_inv h4
      subst e2
      exact ⟨_, e1, hK.step_bind hj hr C⟩

/-- the lhs of a LIVE bind is a node of the fragment, hence not a `mapRef` (so its `State.value` is the stored value) -/
theorem lhs_plain2 {env : Env} {rk : Nat → Nat} {s : State} {b : Nat} {br : BindRec} (A : All2 env rk s [])
    (hb : s.binds[b]? = some br) (hv : (s.nodeD br.lhsChange).valid = true) :
    ∀ p i, (s.nodeD br.lhs).kind ≠ .mapRef p i := by
  obtain ⟨h1, h2, h3, -⟩ := A.recs b br hb
  have hlc : br.lhsChange < s.nodes.size := by omega
  have N := A.node br.lhsChange hlc
  have hch : br.lhs ∈ s.children br.lhsChange := by
    unfold State.children Node.kind?
    rw [hv, h3]
    simp only [if_true, hb]
    exact List.mem_singleton.2 rfl
  have hB := (A.node br.lhs (N.kidsIn _ hch)).kind
  intro p i hk
  rw [hk] at hB
  exact hB

end N5e

/-- **the closure run registers exactly the image of the closure's template** (fragment F2): after `lhsRunClosure` the list of registered nodes of bind `b`,
in creation order, is `regOf s' locs` for the list `locs` of locals, `locs` is the image (`ElabOf2`) of the template the closure yields for the stored
value `v` of the lhs, and the result is the resolved `ret` operand. -/
theorem closure_elab2 (env : Env) : ClosureElabSpec2 env := by
  intro n b rhs br rk s s' ex h I _ hb hlc hvalid hbody _
  have A0 := I.frag
  obtain ⟨f, hbody⟩ := hbody
  cases f with
  | zero => exact hbody.elim
  | succ f =>
    obtain ⟨v, e, t, hv, hrun, es'⟩ := C3e.lhsRunClosure_inv A0.pc h
    have hT : TemplOK2 env rk s (fun b' => BodyOK2 env rk s br.lhsChange f b') br.lhsChange (env.body br.body v) := by
      rw [hlc]; exact hbody v
    have hvlc : (s.nodeD br.lhsChange).valid = true := by rw [hlc]; exact hvalid
    obtain ⟨loc, hbl, E⟩ :=
      N5e.elabTemplate_elab2 (N5e.entered_lk2 e _ v hb (A0.recs b br hb).2.1) hT hrun
    have hval : (s.nodeD br.lhs).value = some v := by
      have hp : ∀ p i, ((CN.reset b s).nodeD br.lhs).kind ≠ .mapRef p i := N5e.lhs_plain2 (s := s) A0 hb hvlc
      rw [Step.value_plain env (CN.reset b s) br.lhs hp] at hv
      exact hv
    refine ⟨v, regOf t loc, loc, hval, ?_, ?_⟩
    · rw [es']; exact hbl
    · rw [es']
      exact N5e.elabOf2_congr (s := t) rfl (fun _ => rfl) rfl E

end IncrVerif.Proofs.NestH
