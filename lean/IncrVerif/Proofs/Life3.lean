import IncrVerif.Proofs.Life2
/-!
# Observer lifecycle over whole histories, part 3: exactness outside `stabilise`, histories

* `Same s s'`: `(node, state, clones)` of every observer, `newObservers` and `disallowedObservers` are
  unchanged.  `Pres Same (stepAction env a tokens)` for every action other than `stabilise`, `observe`,
  `cloneObs`, `dropObs`, `disallow` (`Action.touchesObs`).
* closed forms of those four actions; the observer table `table s` after a step as the explicit
  function `stepTable` of the table before.
* `Run env P s s'`: histories (lists of API actions satisfying `P`, every outcome, any token table,
  the harness's log reset); `Life` along every history.
-/
namespace IncrVerif.Proofs.Life
open IncrVerif.Engine IncrVerif.Proofs.Obs
open IncrVerif.Proofs.Step (run_bind_ok run_throw run_modObs array_modify_modify)

/-! ## `Same` -/

/-- one row of the observer table: `(node, state, clones)` -/
abbrev Row := Nat × ObsState × Nat

def core3 (ob : ObsRec) : Row := (ob.node, ob.state, ob.clones)

/-- the observer table -/
def table (s : State) : Array Row := s.observers.map core3

structure Same (s s' : State) : Prop where
  obs : table s' = table s
  newObs : s'.newObservers = s.newObservers
  dis : s'.disallowedObservers = s.disallowedObservers

theorem Same.refl (s : State) : Same s s := ⟨rfl, rfl, rfl⟩
theorem Same.trans {a b c : State} (h1 : Same a b) (h2 : Same b c) : Same a c :=
  ⟨h2.obs.trans h1.obs, h2.newObs.trans h1.newObs, h2.dis.trans h1.dis⟩
instance : ObsLocal Same where
  refl := Same.refl
  trans := Same.trans
  of_eq _ _ h1 h2 h3 _ _ := ⟨by simp only [table, h1], h2, h3⟩
  logEv _ _ _ := ⟨rfl, rfl, rfl⟩

/-- `Same` does not look at `nextToken` or the log -/
macro_rules
  | `(tactic| lleaf) =>
    `(tactic| ((with_reducible apply Pres.modify); intro _; exact Same.mk rfl rfl rfl))

theorem map_modify_row (a : Array ObsRec) (o : Nat) (g : ObsRec → ObsRec) (row : Row → Row)
    (h : ∀ x, a[o]? = some x → core3 (g x) = row (core3 x)) :
    (a.modify o g).map core3 = (a.map core3).modify o row := by
  apply Array.ext_getElem?
  intro i
  simp only [Array.getElem?_map, Array.getElem?_modify]
  split
  · rename_i hi; subst hi
    cases hx : a[o]? with
    | none => rfl
    | some x => simp [h x hx]
  · rfl

theorem Same.modObs (s : State) (o : Nat) (f : ObsRec → ObsRec) (hf : ∀ x, core3 (f x) = core3 x) :
    Same s { s with observers := s.observers.modify o f } := by
  refine ⟨?_, rfl, rfl⟩
  simp only [table]
  rw [map_modify_row _ o f id (fun x _ => hf x)]
  exact Step.modify_eq_self _ _ _ (fun _ _ => rfl)

theorem PresS.modObs (o : Nat) (f : ObsRec → ObsRec) (hf : ∀ x, core3 (f x) = core3 x) :
    Pres Same (modObs o f) := by
  unfold Engine.modObs; exact Pres.modify fun s => Same.modObs s o f hf

macro_rules
  | `(tactic| lleaf) => `(tactic| ((with_reducible apply PresS.modObs); intro _; rfl))

theorem PresS.subscribe (o h) : Pres Same (subscribe o h) := by unfold Engine.subscribe; lpres
theorem PresS.unsubscribe (o t w) : Pres Same (unsubscribe o t w) := by
  unfold Engine.unsubscribe; lpres
life_leaf PresS.subscribe
life_leaf PresS.unsubscribe

/-- the actions that create an observer, move a lifecycle state or change a clone count -/
def Action.touchesObs : Action → Bool
  | .stabilise | .observe _ | .cloneObs _ | .dropObs _ | .disallow _ => true
  | _ => false

/-- every other API action, whatever its outcome, leaves `(node, state, clones)` of every observer and
the two observer queues unchanged -/
theorem PresS.stepAction_other (env : Env) (a : Action) (tokens : Array Nat)
    (ha : Action.touchesObs a = false) : Pres Same (stepAction env a tokens) := by
  cases a <;> simp only [Action.touchesObs, Bool.true_eq_false] at ha
  all_goals (simp only [Engine.stepAction]; lpres)

/-! ## closed forms of the four observer actions -/

/-- `resolveOpnd` as a function of the state -/
def resolvePure (s : State) (loc : List Nat) (o : Opnd) : Except Panic Nat :=
  match o with
  | .outer k => match s.top[k]? with
    | some n => .ok n
    | none => .error (.site "model:bad-outer")
  | .abs n => .ok n
  | .loc j => match loc[j]? with
    | some n => .ok n
    | none => .error (.site "model:bad-local")
  | .slot k => match s.slots.lookup k with
    | some n => .ok n
    | none => .error (.site "model:empty-slot")

theorem resolveOpnd_run (s : State) (loc : List Nat) (o : Opnd) :
    (resolveOpnd loc o).run.run s = (resolvePure s loc o, s) := by
  cases o with
  | outer k => simp only [resolveOpnd, resolvePure, run_bind, run_get]; cases s.top[k]? <;> rfl
  | abs n => rfl
  | loc j => simp only [resolveOpnd, resolvePure]; cases loc[j]? <;> rfl
  | slot k =>
    simp only [resolveOpnd, resolvePure, run_bind, run_get]; cases List.lookup k s.slots <;> rfl

theorem stepAction_observe_run (env : Env) (s : State) (n : Opnd) (tokens : Array Nat) :
    (stepAction env (.observe n) tokens).run.run s =
      match resolvePure s [] n with
      | .ok m => (.ok (s!"ok o{s.observers.size}", tokens), pushObserver s m)
      | .error e => (.error e, s) := by
  simp only [stepAction, run_bind, resolveOpnd_run]
  cases resolvePure s [] n with
  | error e => rfl
  | ok m => simp only [run_get, run_modify, run_bumpCounter, run_pure]; rfl

theorem stepAction_cloneObs_run (env : Env) (s : State) (o : Nat) (tokens : Array Nat) :
    (stepAction env (.cloneObs o) tokens).run.run s =
      (.ok ("ok", tokens),
        { s with observers := s.observers.modify o fun x => { x with clones := x.clones + 1 } }) := by
  simp only [stepAction, run_bind, run_modObs, run_pure]

/-- the state after `disallow_future_use o` -/
def disallowState (s : State) (o : Nat) : State :=
  match s.observers[o]? with
  | none => s
  | some ob => match ob.state with
    | .created => afterDisCreated s o
    | .inUse => afterDisInUse s o
    | .disallowed => s
    | .unlinked => s

theorem disallowFutureUse_run' (s : State) (o : Nat) :
    (disallowFutureUse o).run.run s =
      (if (s.observers[o]?).isSome then .ok () else .error (.site "model:no-such-observer"),
        disallowState s o) := by
  rw [disallowFutureUse_run, disallowState]
  cases h : s.observers[o]? with
  | none => rfl
  | some ob =>
    rcases ob with ⟨n, st, hs, c⟩
    cases st <;> rfl

theorem stepAction_disallow_run (env : Env) (s : State) (o : Nat) (tokens : Array Nat) :
    (stepAction env (.disallow o) tokens).run.run s =
      (if (s.observers[o]?).isSome then .ok ("ok", tokens)
        else .error (.site "model:no-such-observer"), disallowState s o) := by
  simp only [stepAction, run_bind, disallowFutureUse_run']
  cases (s.observers[o]?).isSome <;> rfl

/-- the state after dropping one handle of observer `o` -/
def dropObsState (s : State) (o : Nat) : State :=
  match s.observers[o]? with
  | none => s
  | some ob =>
    if ob.clones = 0 then s
    else
      let s1 := { s with observers := s.observers.modify o fun x => { x with clones := x.clones - 1 } }
      if ob.clones = 1 then disallowState s1 o else s1

theorem stepAction_dropObs_run (env : Env) (s : State) (o : Nat) (tokens : Array Nat) :
    (stepAction env (.dropObs o) tokens).run.run s =
      (match s.observers[o]? with
        | none => .error (.site "model:no-such-observer")
        | some ob => if ob.clones = 0 then .ok ("noop", tokens) else .ok ("ok", tokens),
       dropObsState s o) := by
  simp only [stepAction, dropObsState]
  cases h : s.observers[o]? with
  | none => rw [run_bind_error (run_getObs_none h)]
  | some ob =>
    rw [run_bind_ok (run_getObs_some h)]
    obtain ⟨n, st, hs, c⟩ := ob
    match c with
    | 0 => rfl
    | 1 =>
      have hs' : ((s.observers.modify o fun x => { x with clones := x.clones - 1 })[o]?).isSome
          = true := by
        simp [Array.getElem?_modify, h]
      simp only [Nat.reduceBEq, Bool.false_eq_true, if_false, if_true, run_bind, run_modObs,
        disallowFutureUse_run', hs', run_pure, Nat.one_ne_zero]
    | c + 2 => rfl

/-! ## the observer table after a step, as a function of the table before -/

def disallowRow : Row → Row := fun r => (r.1, afterDisallow r.2.1, r.2.2)
def cloneRow : Row → Row := fun r => (r.1, r.2.1, r.2.2 + 1)
def dropRow : Row → Row := fun r =>
  if r.2.2 = 0 then r else if r.2.2 = 1 then (r.1, afterDisallow r.2.1, 0) else (r.1, r.2.1, r.2.2 - 1)

/-- what an API action other than `stabilise` does to the observer table; `resolved` is the node the
operand of `observe` names -/
def stepTable (a : Action) (resolved : Except Panic Nat) (t : Array Row) : Array Row :=
  match a with
  | .observe _ => match resolved with
    | .ok n => t.push (n, .created, 1)
    | .error _ => t
  | .cloneObs o => t.modify o cloneRow
  | .disallow o => t.modify o disallowRow
  | .dropObs o => t.modify o dropRow
  | _ => t

/-- the operand of `observe` -/
def Action.observed (s : State) : Action → Except Panic Nat
  | .observe n => resolvePure s [] n
  | _ => .error .outOfFuel

theorem table_disallowState (s : State) (o : Nat) :
    table (disallowState s o) = (table s).modify o disallowRow := by
  simp only [disallowState, table, afterDisCreated, afterDisInUse]
  cases h : s.observers[o]? with
  | none =>
    exact (Step.modify_eq_self _ _ _ (fun x hx => by simp [Array.getElem?_map, h] at hx)).symm
  | some ob =>
    obtain ⟨n, st, hs, c⟩ := ob
    cases st <;> dsimp only
    · refine map_modify_row _ o _ disallowRow ?_
      intro x hx; rw [h] at hx; cases hx; rfl
    · refine map_modify_row _ o _ disallowRow ?_
      intro x hx; rw [h] at hx; cases hx; rfl
    · refine (Step.modify_eq_self _ _ _ (fun x hx => ?_)).symm
      simp only [Array.getElem?_map, h, Option.map_some, Option.some.injEq] at hx
      subst hx; rfl
    · refine (Step.modify_eq_self _ _ _ (fun x hx => ?_)).symm
      simp only [Array.getElem?_map, h, Option.map_some, Option.some.injEq] at hx
      subst hx; rfl

theorem table_dropObsState (s : State) (o : Nat) :
    table (dropObsState s o) = (table s).modify o dropRow := by
  simp only [dropObsState]
  cases h : s.observers[o]? with
  | none =>
    exact (Step.modify_eq_self _ _ _ (fun x hx => by simp [table, Array.getElem?_map, h] at hx)).symm
  | some ob =>
    have hrow : (table s)[o]? = some (core3 ob) := by simp [table, Array.getElem?_map, h]
    by_cases h0 : ob.clones = 0
    · simp only [h0, if_true]
      refine (Step.modify_eq_self _ _ _ (fun x hx => ?_)).symm
      rw [hrow] at hx; cases hx; simp [dropRow, core3, h0]
    · have hdec : table { s with observers := s.observers.modify o fun x => { x with clones := x.clones - 1 } }
          = (table s).modify o (fun r => (r.1, r.2.1, r.2.2 - 1)) := by
        simp only [table]
        refine map_modify_row _ o _ _ ?_
        intro _ _; rfl
      by_cases h1 : ob.clones = 1
      · simp only [h1, Nat.one_ne_zero, if_false, if_true]
        rw [table_disallowState, hdec, array_modify_modify]
        apply Array.ext_getElem?
        intro i
        simp only [Array.getElem?_modify]
        split
        · rename_i hi; subst hi
          rw [hrow]; simp [dropRow, disallowRow, core3, h1]
        · rfl
      · simp only [h0, h1, if_false]
        rw [hdec]
        apply Array.ext_getElem?
        intro i
        simp only [Array.getElem?_modify]
        split
        · rename_i hi; subst hi
          rw [hrow]; simp [dropRow, core3, h0, h1]
        · rfl

/-- O2: for every API action other than `stabilise`, every state, every token table and every
outcome (return or panic), the observer table afterwards is `stepTable` of the table before -/
theorem table_step (env : Env) (a : Action) (tokens : Array Nat) (s s' : State)
    (r : Except Panic (String × Array Nat)) (ha : a ≠ .stabilise)
    (hrun : (stepAction env a tokens).run.run s = (r, s')) :
    table s' = stepTable a (Action.observed s a) (table s) := by
  by_cases ht : Action.touchesObs a = false
  · have := ((PresS.stepAction_other env a tokens ht).h s r s' hrun).obs
    rw [this]
    cases a <;> first | rfl | (simp [Action.touchesObs] at ht)
  · cases a <;> simp only [Action.touchesObs, not_true_eq_false, Bool.true_eq_false] at ht
    · -- observe
      rename_i n
      rw [stepAction_observe_run] at hrun
      simp only [stepTable, Action.observed]
      cases hres : resolvePure s [] n with
      | error e => rw [hres] at hrun; cases hrun; rfl
      | ok m =>
        rw [hres] at hrun; cases hrun
        simp [table, pushObserver, Array.map_push, core3]
    · -- cloneObs
      rename_i o
      rw [stepAction_cloneObs_run] at hrun; cases hrun
      simp only [table]
      refine map_modify_row _ o _ cloneRow ?_
      intro _ _; rfl
    · -- dropObs
      rename_i o
      rw [stepAction_dropObs_run] at hrun; cases hrun
      exact table_dropObsState s o
    · -- disallow
      rename_i o
      rw [stepAction_disallow_run] at hrun; cases hrun
      exact table_disallowState s o
    · exact absurd rfl ha

/-! ## histories -/

/-- `s'` is reached from `s` by running API actions, one after the other (`P a r`: action `a` with
outcome `r` is allowed in the history), each with
any token table and whatever its outcome (the state after a panic is the state at the panic point, as
in the harness); the harness's reset of the event log between actions is a step too -/
inductive Run (env : Env) (P : Action → Except Panic (String × Array Nat) → Prop) :
    State → State → Prop
  | nil (s : State) : Run env P s s
  | step {s s1 s2 : State} (a : Action) (tokens : Array Nat) (r : Except Panic (String × Array Nat)) :
      P a r → (stepAction env a tokens).run.run s = (r, s1) → Run env P s1 s2 → Run env P s s2
  | clearLog {s s2 : State} : Run env P { s with log := [] } s2 → Run env P s s2

theorem Run.trans {env : Env} {P : Action → Except Panic (String × Array Nat) → Prop} {a b c : State} (h1 : Run env P a b)
    (h2 : Run env P b c) : Run env P a c := by
  induction h1 with
  | nil => exact h2
  | step a tokens r hp hrun _ ih => exact .step a tokens r hp hrun (ih h2)
  | clearLog _ ih => exact .clearLog (ih h2)

theorem Run.mono {env : Env} {P Q : Action → Except Panic (String × Array Nat) → Prop}
    (hpq : ∀ a r, P a r → Q a r) {a b : State}
    (h : Run env P a b) : Run env Q a b := by
  induction h with
  | nil => exact .nil _
  | step a tokens r hp hrun _ ih => exact .step a tokens r (hpq a r hp) hrun ih
  | clearLog _ ih => exact .clearLog ih

/-- a relation that holds for every allowed step and for the log reset holds along histories -/
theorem Run.induct {env : Env} {P : Action → Except Panic (String × Array Nat) → Prop}
    {R : State → State → Prop} [PreOrd R]
    (hstep : ∀ a tokens, (∃ r, P a r) → Pres R (stepAction env a tokens))
    (hlog : ∀ s : State, R s { s with log := [] }) {s s' : State} (h : Run env P s s') : R s s' := by
  induction h with
  | nil => exact PreOrd.refl _
  | step a tokens r hp hrun _ ih => exact PreOrd.trans ((hstep a tokens ⟨r, hp⟩).h _ _ _ hrun) ih
  | clearLog _ ih => exact PreOrd.trans (hlog _) ih

/-- the states the harness (`traceAction`, `runHistory`) goes through -/
def runStates (env : Env) : List Action → Nat → RunState → RunState
  | [], _, rs => rs
  | a :: rest, idx, rs => runStates env rest (idx + 1) (traceAction env idx a rs).1

theorem traceAction_state (env : Env) (idx : Nat) (a : Action) (rs : RunState) :
    (traceAction env idx a rs).1.s
      = ((stepAction env a rs.tokens).run.run { rs.s with log := [] }).2 := by
  unfold traceAction
  rcases h : (stepAction env a rs.tokens).run.run { rs.s with log := [] } with ⟨res, s1⟩
  simp only [h]

/-- what the harness runs is a history -/
theorem run_runStates (env : Env) (P : Action → Except Panic (String × Array Nat) → Prop)
    (as : List Action) (hP : ∀ a ∈ as, ∀ r, P a r)
    (idx : Nat) (rs : RunState) : Run env P rs.s (runStates env as idx rs).s := by
  induction as generalizing idx rs with
  | nil => exact .nil _
  | cons a rest ih =>
    refine .clearLog (.step a rs.tokens _ (hP a List.mem_cons_self _) (run_eta _ _) ?_)
    rw [← traceAction_state env idx a rs]
    exact ih (fun b hb => hP b (List.mem_cons_of_mem _ hb)) (idx + 1) _

/-- O1: along every history — any actions, any outcomes — no observer is removed, none changes its
node, and lifecycle states only move forward -/
theorem Run.life {env : Env} {P : Action → Except Panic (String × Array Nat) → Prop} {s s' : State} (h : Run env P s s') : Life s s' :=
  Run.induct (fun a tokens _ => PresL.stepAction env a tokens) (fun _ => Life.of_eq rfl) h

end IncrVerif.Proofs.Life
