import IncrVerif.Proofs.FaultH1
/-!
# Faults in whole histories, part 1: the commutation ladder (heap, heights, necessity cascades, unlinking,
notification walk, observers, variables).
-/
namespace IncrVerif.Proofs.FaultH
open IncrVerif.Engine IncrVerif.Proofs IncrVerif.Proofs.Step

variable {env : Env}


section
macro_rules | `(tactic| csim_leaf) => `(tactic| with_reducible exact Comm.dassert _ _)
macro_rules | `(tactic| csim_leaf) => `(tactic| with_reducible exact Comm.assertM _ _)
macro_rules | `(tactic| csim_leaf) => `(tactic| ((with_reducible refine Comm.modNode _ ?_); intro nd; exact ⟨rfl, rfl, rfl⟩))

theorem Comm.addParent (c i p : Nat) : Comm env (Engine.addParent c i p) := by
  intro c s; unfold Engine.addParent; csim
macro_rules | `(tactic| csim_leaf) => `(tactic| with_reducible exact Comm.addParent _ _ _)

theorem Comm.setHeight (n : Nat) (h : Int) : Comm env (Engine.setHeight n h) := by
  intro c s; unfold Engine.setHeight; csim
macro_rules | `(tactic| csim_leaf) => `(tactic| with_reducible exact Comm.setHeight _ _)


theorem Comm.rchLink (n : Nat) : Comm env (Engine.rchLink n) := by
  intro c s; unfold Engine.rchLink; csim
macro_rules | `(tactic| csim_leaf) => `(tactic| with_reducible exact Comm.rchLink _)

theorem Comm.rchInsert (n : Nat) : Comm env (Engine.rchInsert n) := by
  intro c s; unfold Engine.rchInsert; csim
macro_rules | `(tactic| csim_leaf) => `(tactic| with_reducible exact Comm.rchInsert _)



/-- in the fragment there is no map_ref node: `markMapRefUnknown` does nothing, in both states -/
theorem Comm.markMapRefUnknown (fuel n : Nat) :
    Comm env (Engine.markMapRefUnknown fuel n) := by
  intro c s
  cases fuel with
  | zero => unfold Engine.markMapRefUnknown; exact CommAt.thr _
  | succ fuel =>
    unfold Engine.markMapRefUnknown
    csim
    csim_kind
macro_rules | `(tactic| csim_leaf) => `(tactic| with_reducible exact Comm.markMapRefUnknown _ _)

end


section
/-- loops: same list, bodies simulate each other -/
macro "csim_loop" : tactic =>
  `(tactic| ((with_reducible refine Comm.at (Comm.forIn _ (fun _ _ => ?_) _) _); intro _))

theorem Comm.getBind (b : Nat) : Comm env (Engine.getBind b) := by
  intro c s; unfold Engine.getBind; csim
  split <;> csim
macro_rules | `(tactic| csim_leaf) => `(tactic| with_reducible exact Comm.getBind _)

theorem Comm.getExpert (b : Nat) : Comm env (Engine.getExpert b) := by
  intro c s; unfold Engine.getExpert; csim
  split <;> csim
macro_rules | `(tactic| csim_leaf) => `(tactic| with_reducible exact Comm.getExpert _)


theorem Comm.modExpert (e : Nat) (f : ExpertRec → ExpertRec) : Comm env (Engine.modExpert e f) := by
  intro c s; unfold Engine.modExpert; csim
macro_rules | `(tactic| csim_leaf) => `(tactic| with_reducible exact Comm.modExpert _ _)


theorem Comm.scopeHeight (sc : Scope) : Comm env (Engine.scopeHeight sc) := by
  intro c s; unfold Engine.scopeHeight
  cases sc with
  | top => csim
  | bind b => csim
macro_rules | `(tactic| csim_leaf) => `(tactic| with_reducible exact Comm.scopeHeight _)

theorem Comm.scopeIsNecessary (sc : Scope) : Comm env (Engine.scopeIsNecessary sc) := by
  intro c s; unfold Engine.scopeIsNecessary
  cases sc with
  | top => csim
  | bind b => csim
macro_rules | `(tactic| csim_leaf) => `(tactic| with_reducible exact Comm.scopeIsNecessary _)

theorem Comm.handleAfterStabilisation (n : Nat) :
    Comm env (Engine.handleAfterStabilisation n) := by
  intro c s; unfold Engine.handleAfterStabilisation; csim
macro_rules | `(tactic| csim_leaf) => `(tactic| with_reducible exact Comm.handleAfterStabilisation _)

theorem Comm.maybeHandleAfterStabilisation (n : Nat) :
    Comm env (Engine.maybeHandleAfterStabilisation n) := by
  intro c s; unfold Engine.maybeHandleAfterStabilisation; csim
macro_rules | `(tactic| csim_leaf) => `(tactic| with_reducible exact Comm.maybeHandleAfterStabilisation _)


theorem Comm.link (env : Env) (fuel : Nat) :
    (∀ n, Comm env (becameNecessary env fuel n)) ∧
    (∀ c i p, Comm env (addParentWithoutAdjustingHeights env fuel c i p)) := by
  induction fuel with
  | zero =>
    constructor
    · intro n c s; unfold becameNecessary; csim
    · intro c0 i p c s; unfold addParentWithoutAdjustingHeights; csim
  | succ fuel ih =>
    constructor
    · intro n c s
      unfold becameNecessary
      csim
      all_goals first
        | exact ih.2 _ _ _ _ _
        | csim_kind
    · intro c0 i p c s
      unfold addParentWithoutAdjustingHeights
      csim
      all_goals first
        | exact ih.1 _ _ _
        | (exfalso; simp_all; done)
        | csim_kind
      all_goals csim_kind

end


section
theorem Comm.removeParent (c i p : Nat) : Comm env (Engine.removeParent c i p) := by
  intro c s; unfold Engine.removeParent; csim
  split <;> csim
macro_rules | `(tactic| csim_leaf) => `(tactic| with_reducible exact Comm.removeParent _ _ _)

theorem Comm.rchUnlink (n : Nat) : Comm env (Engine.rchUnlink n) := by
  intro c s; unfold Engine.rchUnlink; csim
  split <;> csim
  split <;> csim
  split <;> csim
macro_rules | `(tactic| csim_leaf) => `(tactic| with_reducible exact Comm.rchUnlink _)

theorem Comm.rchRemove (n : Nat) : Comm env (Engine.rchRemove n) := by
  intro c s; unfold Engine.rchRemove; csim
macro_rules | `(tactic| csim_leaf) => `(tactic| with_reducible exact Comm.rchRemove _)

theorem Comm.rchRemoveMin : Comm env Engine.rchRemoveMin := by
  intro c s; unfold Engine.rchRemoveMin; csim
  split <;> csim
macro_rules | `(tactic| csim_leaf) => `(tactic| with_reducible exact Comm.rchRemoveMin)

theorem Comm.rchMinHeight : Comm env Engine.rchMinHeight := by
  intro c s; unfold Engine.rchMinHeight; csim
macro_rules | `(tactic| csim_leaf) => `(tactic| with_reducible exact Comm.rchMinHeight)

theorem Comm.unlink (fuel : Nat) :
    (∀ n, Comm env (becameUnnecessary fuel n)) ∧
    (∀ n, Comm env (checkIfUnnecessary fuel n)) ∧
    (∀ n, Comm env (removeChildren fuel n)) := by
  induction fuel with
  | zero =>
    refine ⟨?_, ?_, ?_⟩
    · intro n c s; unfold becameUnnecessary; csim
    · intro n c s; unfold checkIfUnnecessary; csim
    · intro n c s; unfold removeChildren; csim
  | succ fuel ih =>
    refine ⟨?_, ?_, ?_⟩
    · intro n c s
      unfold becameUnnecessary
      csim
      all_goals first
        | exact ih.2.2 _ _ _
        | csim_kind
    · intro n c s
      unfold checkIfUnnecessary
      csim
      all_goals exact ih.1 _ _ _
    · intro n c s
      unfold removeChildren
      csim
      all_goals exact ih.2.1 _ _ _

theorem Comm.becameUnnecessary (fuel n : Nat) :
    Comm env (Engine.becameUnnecessary fuel n) := (Comm.unlink fuel).1 n
theorem Comm.checkIfUnnecessary (fuel n : Nat) :
    Comm env (Engine.checkIfUnnecessary fuel n) := (Comm.unlink fuel).2.1 n
theorem Comm.removeChildren (fuel n : Nat) :
    Comm env (Engine.removeChildren fuel n) := (Comm.unlink fuel).2.2 n
macro_rules | `(tactic| csim_leaf) => `(tactic| with_reducible exact Comm.becameUnnecessary _ _)
macro_rules | `(tactic| csim_leaf) => `(tactic| with_reducible exact Comm.checkIfUnnecessary _ _)
macro_rules | `(tactic| csim_leaf) => `(tactic| with_reducible exact Comm.removeChildren _ _)

theorem Comm.propagateInvalidity (fuel : Nat) :
    Comm env (Engine.propagateInvalidity fuel) := by
  intro c s hn r s' hr
  cases fuel with
  | zero => unfold Engine.propagateInvalidity at hr ⊢; exact CommAt.thr _ hn r s' hr
  | succ fuel =>
    unfold Engine.propagateInvalidity at hr ⊢
    rw [run_bind_get] at hr ⊢
    have e : (setCd c s).propagateInvalidity = [] := hn.pinv
    rw [hn.pinv] at hr
    rw [e]
    cases hr
    exact ⟨rfl, hn, rfl⟩
macro_rules | `(tactic| csim_leaf) => `(tactic| with_reducible exact Comm.propagateInvalidity _)

theorem Comm.becameNecessary (env : Env) (fuel n : Nat) :
    Comm env (Engine.becameNecessary env fuel n) := (Comm.link env fuel).1 n
theorem Comm.addParentWithoutAdjustingHeights (env : Env) (fuel c i p : Nat) :
    Comm env (Engine.addParentWithoutAdjustingHeights env fuel c i p) := (Comm.link env fuel).2 c i p
macro_rules | `(tactic| csim_leaf) => `(tactic| with_reducible exact Comm.becameNecessary _ _ _)
macro_rules | `(tactic| csim_leaf) => `(tactic| with_reducible exact Comm.addParentWithoutAdjustingHeights _ _ _ _ _)

theorem Comm.becameNecessaryPropagate (env : Env) (fuel n : Nat) :
    Comm env (Engine.becameNecessaryPropagate env fuel n) := by
  intro c s; unfold Engine.becameNecessaryPropagate; csim
macro_rules | `(tactic| csim_leaf) => `(tactic| with_reducible exact Comm.becameNecessaryPropagate _ _ _)

end






section


theorem Comm.bumpCounter (f : Counters → Counters) : Comm env (Engine.bumpCounter f) := by
  intro c s; unfold Engine.bumpCounter; csim
macro_rules | `(tactic| csim_leaf) => `(tactic| with_reducible exact Comm.bumpCounter _)

theorem Comm.shouldCutoff (env : Env) (n : Nat) (o v : Val) :
    Comm env (Engine.shouldCutoff env n o v) := by
  intro c s; unfold Engine.shouldCutoff
  refine CommAt.getNode_seq fun nd hnd hne hnr hval hcut => ?_
  cases hc : nd.cutoff <;> dsimp only
  case fn x => exact absurd hc (hcut x).1
  case boxed x => exact absurd hc (hcut x).2
  all_goals csim
macro_rules | `(tactic| csim_leaf) => `(tactic| with_reducible exact Comm.shouldCutoff _ _ _ _)

/-! ## `child_changed`: the parent is neither an expert nor a map_ref node, so nothing happens -/

theorem Comm.childChanged (env : Env) (fuel p c ci : Nat) (o : Option Val) :
    Comm env (Engine.childChanged env fuel p c ci o) := by
  intro c s
  cases fuel with
  | zero => unfold Engine.childChanged; exact CommAt.thr _
  | succ fuel =>
    unfold Engine.childChanged
    csim
    csim_kind
macro_rules | `(tactic| csim_leaf) => `(tactic| with_reducible exact Comm.childChanged _ _ _ _ _ _)

/-! ## `parent_iter_can_recompute_now` -/

theorem Comm.parentIterCanRecomputeNow (p child : Nat) :
    Comm env (Engine.parentIterCanRecomputeNow p child) := by
  intro c s; unfold Engine.parentIterCanRecomputeNow; csim
  csim_kind
macro_rules | `(tactic| csim_leaf) => `(tactic| with_reducible exact Comm.parentIterCanRecomputeNow _ _)

end


section

theorem Comm.maybeChangeValueManual (env : Env) (fuel n : Nat) (o : Option Val) (did b : Bool) :
    Comm env (Engine.maybeChangeValueManual env fuel n o did b) := by
  intro c s
  unfold Engine.maybeChangeValueManual
  refine CommAt.cond (fun _ => CommAt.ret _) (fun _ => ?_)
  csim
  split
  · csim
  · csim
macro_rules | `(tactic| csim_leaf) => `(tactic| with_reducible exact Comm.maybeChangeValueManual _ _ _ _ _ _)

theorem Comm.maybeChangeValue (env : Env) (fuel n : Nat) (v : Val) :
    Comm env (Engine.maybeChangeValue env fuel n v) := by
  intro c s
  unfold Engine.maybeChangeValue
  csim
  all_goals (split <;> csim)
macro_rules | `(tactic| csim_leaf) => `(tactic| with_reducible exact Comm.maybeChangeValue _ _ _ _)

end


section
theorem Comm.getObs (o : Nat) : Comm env (Engine.getObs o) := by
  intro c s; unfold Engine.getObs; csim
  split <;> csim
macro_rules | `(tactic| csim_leaf) => `(tactic| with_reducible exact Comm.getObs _)

theorem Comm.modObs (o : Nat) (f : ObsRec → ObsRec) : Comm env (Engine.modObs o f) := by
  intro c s; unfold Engine.modObs; csim
macro_rules | `(tactic| csim_leaf) => `(tactic| with_reducible exact Comm.modObs _ _)


theorem Comm.getVar (v : Nat) : Comm env (Engine.getVar v) := by
  intro c s; unfold Engine.getVar; csim
  split <;> csim
macro_rules | `(tactic| csim_leaf) => `(tactic| with_reducible exact Comm.getVar _)

theorem Comm.modVar (v : Nat) (f : VarCell → VarCell) : Comm env (Engine.modVar v f) := by
  intro c s; unfold Engine.modVar; csim
macro_rules | `(tactic| csim_leaf) => `(tactic| with_reducible exact Comm.modVar _ _)

theorem Comm.addNewObservers (env : Env) (fuel : Nat) :
    Comm env (Engine.addNewObservers env fuel) := by
  intro c s; unfold Engine.addNewObservers; csim
  split <;> csim
macro_rules | `(tactic| csim_leaf) => `(tactic| with_reducible exact Comm.addNewObservers _ _)

theorem Comm.unlinkDisallowedObservers (fuel : Nat) :
    Comm env (Engine.unlinkDisallowedObservers fuel) := by
  intro c s; unfold Engine.unlinkDisallowedObservers; csim
macro_rules | `(tactic| csim_leaf) => `(tactic| with_reducible exact Comm.unlinkDisallowedObservers _)

theorem Comm.disallowFutureUse (o : Nat) : Comm env (Engine.disallowFutureUse o) := by
  intro c s; unfold Engine.disallowFutureUse; csim
  split <;> csim
macro_rules | `(tactic| csim_leaf) => `(tactic| with_reducible exact Comm.disallowFutureUse _)

theorem Comm.didSetVarWhileNotStabilising (v : Nat) :
    Comm env (Engine.didSetVarWhileNotStabilising v) := by
  intro c s; unfold Engine.didSetVarWhileNotStabilising; csim
macro_rules | `(tactic| csim_leaf) => `(tactic| with_reducible exact Comm.didSetVarWhileNotStabilising _)

theorem Comm.writeVar (v : Nat) (f : Val → Val) (isSet : Bool) :
    Comm env (Engine.writeVar v f isSet) := by
  intro c s; unfold Engine.writeVar; csim
  split <;> csim
  split <;> csim
macro_rules | `(tactic| csim_leaf) => `(tactic| with_reducible exact Comm.writeVar _ _ _)

end



end IncrVerif.Proofs.FaultH
