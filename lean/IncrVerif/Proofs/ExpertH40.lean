import IncrVerif.Proofs.ExpertH39
import IncrVerif.Proofs.ExpertH29
import IncrVerif.Proofs.ExpertH29
import IncrVerif.Proofs.ExpertH16
import IncrVerif.Proofs.ExpertH32
import IncrVerif.Proofs.ExpertH34
import IncrVerif.Proofs.ExpertH36
import IncrVerif.Proofs.Drain
/-!
# Expert fragment: the drain invariant `DInvX` through `recomputeOne`, `recompute`, a pop and `drainHeap`
(the counterpart of MapRef15, without ghost values and without `KInv`)
-/
namespace IncrVerif.Proofs.ExpertH
open IncrVerif.Engine IncrVerif.Driver IncrVerif.Proofs IncrVerif.Proofs.Step IncrVerif.Proofs.Sched
open IncrVerif.Proofs.ExpertH.QR

/-- the drain invariant of the fragment static + expert, with the current node `x`: the state is in the fragment;
the virtual static state satisfies the scheduling invariant of the static fragment; nothing to invalidate; the
adjust-heights heap is empty -/
structure DInvX (env : Env) (s : State) (x : Option Nat) : Prop where
  frag : XFrag env s
  inv : Inv (virtEnv env) (virt s) x
  pinv : s.propagateInvalidity = []
  ahh : QR.AhhEmpty s

/-- what the drain keeps, read in the virtual states -/
structure DStepX (env : Env) (s s' : State) : Prop where
  frame : Frame (virt s) (virt s')
  calm : Calm (virt s) (virt s')
  keyD : KeyD (virt s) (virt s')
  unnec : UnnecOK (virtEnv env) (virt s) → UnnecOK (virtEnv env) (virt s')

theorem DStepX.refl (env : Env) (s : State) : DStepX env s s :=
  ⟨Frame.refl _, Calm.refl _, KeyD.refl _, id⟩

theorem DStepX.trans {env : Env} {a b c : State} (h1 : DStepX env a b) (h2 : DStepX env b c) : DStepX env a c :=
  ⟨h1.frame.trans h2.frame, h1.calm.trans h2.calm, KeyD.trans h1.keyD h2.keyD, fun h => h2.unnec (h1.unnec h)⟩

/-! ## the fragment and the adjust-heights heap along the frames `XF`, `AhF` -/

/-- the fragment along the frame `XF`: validity, the countdown and the counts of invalid children come from `Fr` -/
theorem XFrag.of_xf {env : Env} {s s' : State} (F : XFrag env s) (h : XF s s') (fr : Fr s') : XFrag env s' := by
  refine ⟨fr.pc, fun m _ => ?_, fun m _ => fr.valid m, fun m e hm hk => ?_, fun e er' he' => ?_⟩
  · rw [h.kind]; exact F.kindD m
  · rw [h.kind] at hk; rw [h.size] at hm
    obtain ⟨er, he, hnode⟩ := F.xrec m e hm hk
    obtain ⟨er', he', -, hn', -⟩ := h.xrec he
    exact ⟨er', he', by rw [hn', hnode]⟩
  · obtain ⟨er, he, hf, -, -, hpk, -⟩ := h.xrec_back he'
    obtain ⟨h1, -, h3, h4⟩ := F.xok e er he
    exact ⟨by rw [hpk, h1], fr.ni e er' he', by rw [hf]; exact h3, by rw [hf]; exact h4⟩

theorem ahhEmpty_of_ahf {s s' : State} (A : QR.AhhEmpty s) (h : AhF s s') : QR.AhhEmpty s' := by
  refine ⟨by rw [h.ahh]; exact A.length, ?_, fun m => by rw [h.mark]; exact A.marks m⟩
  rw [h.ahh]; exact A.buckets

theorem xf_started_logged (es : List Event) (n : Nat) (s : State) : XF s (logged es (started n s)) := by
  refine ⟨by simp [logged, started], fun m => ?_, rfl, fun _ => rfl, rfl⟩
  show ((started n s).nodeD m).kind = _
  rw [started_nodeD]; split <;> rfl

theorem ahf_started_logged (es : List Event) (n : Nat) (s : State) : AhF s (logged es (started n s)) := by
  refine ⟨by simp [logged, started], rfl, fun m => ?_⟩
  show ((started n s).nodeD m).heightInAhh = _
  rw [started_nodeD]; split <;> rfl

/-- a successful `recomputeOne` of a node of the fragment that is not an expert node is a `maybeChangeValue` run -/
theorem recomputeOne_as_mcv_x {env : Env} {s s' : State} {fuel n : Nat} {r : Option Nat}
    (hfr : Fr s) (hn : n < s.nodes.size) (hxk : XKind env (s.nodeD n).kind)
    (hne : ∀ e, (s.nodeD n).kind ≠ .expert e)
    (h : (recomputeOne env fuel n).run.run s = (.ok r, s')) :
    ∃ v es, (recomputeOne env fuel n).run.run s =
      (maybeChangeValue env fuel n v).run.run (logged es (started n s)) :=
  recomputeOne_eq_mcv_of_ok (some_of_lt hn) (hfr.valid n) hfr.pc (hxk.static hne) h

/-- a successful `recomputeOne` of a node that is not an expert node keeps the frames `XF` and `AhF` -/
theorem recomputeOne_static_frames {env : Env} {s s' : State} {fuel n : Nat} {r : Option Nat}
    (hfr : Fr s) (hn : n < s.nodes.size) (hxk : XKind env (s.nodeD n).kind)
    (hne : ∀ e, (s.nodeD n).kind ≠ .expert e)
    (h : (recomputeOne env fuel n).run.run s = (.ok r, s')) : XF s s' ∧ AhF s s' := by
  obtain ⟨v, es, hrun⟩ := recomputeOne_as_mcv_x hfr hn hxk hne h
  rw [hrun] at h
  exact ⟨(xf_started_logged es n s).trans ((PresX.maybeChangeValue env fuel n v).h _ _ _ h),
    (ahf_started_logged es n s).trans ((PresAh.maybeChangeValue env fuel n v).h _ _ _ h)⟩

/-! ## the state in which the closure of an expert node has run -/

/-- the state in which the closure has run is in the fragment -/
theorem ranState_frag {env : Env} {n e : Nat} {s : State} {er : ExpertRec} (F : XFrag env s)
    (hk : (s.nodeD n).kind = .expert e) (he : s.experts[e]? = some er)
    (hFr : Fr (ranState env n e s er)) : XFrag env (ranState env n e s er) := by
  obtain ⟨f1, f2, _, _, _, f6, _, _, _⟩ := Xp.readyRec_fields env s er
  have hsz : (ranState env n e s er).nodes.size = s.nodes.size := by
    rw [ranState_nodes]; simp [started]
  have hkind : ∀ m, ((ranState env n e s er).nodeD m).kind = (s.nodeD m).kind := by
    intro m; rw [ranState_nodeD, started_nodeD]; split <;> rfl
  refine ⟨hFr.pc, fun m _ => by rw [hkind]; exact F.kindD m, fun m _ => hFr.valid m, fun m e' hm hk' => ?_,
    fun e' er' he' => ?_⟩
  · rw [hkind] at hk'; rw [hsz] at hm
    obtain ⟨er0, he0, hnode0⟩ := F.xrec m e' hm hk'
    by_cases hee : e' = e
    · subst hee
      rw [he] at he0; cases he0
      exact ⟨_, ranState_get env n e' he, by rw [f2]; exact hnode0⟩
    · exact ⟨er0, by rw [ranState_get_ne env n e s er hee]; exact he0, hnode0⟩
  · by_cases hee : e' = e
    · subst hee
      rw [ranState_get env n e' he] at he'; cases he'
      obtain ⟨h1, -, h3, h4⟩ := F.xok e' er he
      exact ⟨by rw [f6, h1], hFr.ni _ _ (ranState_get env n e' he), by rw [f1]; exact h3, by rw [f1]; exact h4⟩
    · rw [ranState_get_ne env n e s er hee] at he'
      obtain ⟨h1, -, h3, h4⟩ := F.xok e' er' he'
      exact ⟨h1, hFr.ni _ _ (by rw [ranState_get_ne env n e s er hee]; exact he'), h3, h4⟩

theorem ranState_ahf (env : Env) (n e : Nat) (s : State) (er : ExpertRec) : AhF s (ranState env n e s er) := by
  refine ⟨by rw [ranState_nodes]; simp [started], rfl, fun m => ?_⟩
  rw [ranState_nodeD, started_nodeD]; split <;> rfl

theorem ranState_calm (env : Env) (n e : Nat) (s : State) (er : ExpertRec) :
    Calm (virt s) (virt (ranState env n e s er)) := by
  refine ⟨rfl, rfl, rfl, rfl, rfl, fun m => ?_, fun _ => rfl⟩
  rw [virt_nodeD, virt_nodeD, virtNode_num, virtNode_num, ranState_nodeD, started_nodeD]; split <;> rfl

theorem ranState_keyD (env : Env) (n e : Nat) (s : State) (er : ExpertRec) :
    KeyD (virt s) (virt (ranState env n e s er)) := rfl

section
variable {env : Env} {s : State}

/-- **one `recomputeOne`.** On the current node of the invariant a successful `recomputeOne` re-establishes the
invariant, the handed-over parent being the new current node. -/
theorem recomputeOneX_inv {fuel n : Nat} {s' : State} {r : Option Nat} (D : DInvX env s (some n))
    (h : (recomputeOne env fuel n).run.run s = (.ok r, s')) :
    DInvX env s' r ∧ DStepX env s s' ∧ ((virt s').nodeD n).recomputedAt = s.stabNum := by
  have hnec : (virt s).isNecessary n = true := (D.inv.cur n rfl).1
  have hlt : n < s.nodes.size := by rw [← virt_size]; exact (D.inv.graph.nec n hnec).1
  by_cases hk : ∀ e, (s.nodeD n).kind ≠ .expert e
  · obtain ⟨hsim, fr'⟩ := recomputeOne_sim (D.frag.fr D.pinv) hlt (D.frag.kind n hlt) hk h
    obtain ⟨I', fr, hrec⟩ := recomputeOne_inv D.inv hsim
    have hc := recomputeOne_calm D.inv.graph hnec hsim
    have hkd := recomputeOne_keyD D.inv.graph hnec hsim
    obtain ⟨hxf, hahf⟩ := recomputeOne_static_frames (D.frag.fr D.pinv) hlt (D.frag.kind n hlt) hk h
    exact ⟨⟨D.frag.of_xf hxf fr', I', fr'.pinv, ahhEmpty_of_ahf D.ahh hahf⟩,
      ⟨fr, hc, hkd, fun hU => recomputeOne_unnec D.inv hU hsim⟩, hrec⟩
  · have : ∃ e, (s.nodeD n).kind = .expert e := by
      cases hkd : (s.nodeD n).kind <;>
        first | exact ⟨_, rfl⟩ | (exfalso; apply hk; intro e; rw [hkd]; intro h; cases h)
    obtain ⟨e, hkk⟩ := this
    obtain ⟨v, ch, er, ht, R, fr', he, hrun, hvrun, frT⟩ := step_expert_ran D.frag D.inv D.pinv hkk h
    have FT := ranState_frag D.frag hkk he frT
    have F' : XFrag env s' := FT.of_xf ((PresX.maybeChangeValue env fuel n v).h _ _ _ hrun) fr'
    have A' : QR.AhhEmpty s' :=
      ahhEmpty_of_ahf D.ahh ((ranState_ahf env n e s er).trans ((PresAh.maybeChangeValue env fuel n v).h _ _ _ hrun))
    have hc : Calm (virt s) (virt s') :=
      (ranState_calm env n e s er).trans ((PresC.maybeChangeValue (virtEnv env) fuel n v).h _ _ _ hvrun)
    have hkd : KeyD (virt s) (virt s') :=
      KeyD.trans (ranState_keyD env n e s er) ((PresK.maybeChangeValue (virtEnv env) fuel n v).h _ _ _ hvrun)
    refine ⟨⟨F', step_inv D.inv ht R, fr'.pinv, A'⟩,
      ⟨⟨R.size, R.vars, R.stabNum, R.shapes, ?_, R.qsize⟩, hc, hkd, fun hU => step_unnec hnec R hU⟩, R.recomputedAt⟩
    intro m hm
    by_cases hmn : m = n
    · subst hmn; exact R.recomputedAt
    · rw [(R.other m hmn).recomputedAt]; exact hm

/-- **the direct-recompute chain.** -/
theorem recomputeX_inv (fuel n : Nat) (s s' : State) (D : DInvX env s (some n))
    (h : (recompute env fuel n).run.run s = (.ok (), s')) : DInvX env s' none ∧ DStepX env s s' :=
  Drain.recompute_ind (I := fun x t => DInvX env t x ∧ DStepX env s t)
    (fun _ _ _ _ _ i h1 => have ⟨D1, f1, _⟩ := recomputeOneX_inv i.1 h1; ⟨D1, i.2.trans f1⟩)
    fuel n s s' ⟨D, .refl env s⟩ h

theorem heapInv_of_virt (h : HeapInv (virt s)) : HeapInv s :=
  h.congr rfl (virt_size s).symm fun m => by
    rw [virt_nodeD]
    exact ⟨(virtNode_heightInRch _ _).symm, (virtNode_height _ _).symm, (virt_isNecessary s m).symm⟩

/-- taking a node out of the heap, in the actual and in the virtual state -/
theorem popX {s1 : State} {r : Option Nat} (D : DInvX env s none)
    (h : rchRemoveMin.run.run s = (.ok r, s1)) :
    rchRemoveMin.run.run (virt s) = (.ok r, virt s1) ∧ XFrag env s1 ∧ s1.propagateInvalidity = [] ∧
      QR.AhhEmpty s1 := by
  obtain ⟨hv, hfr⟩ := Sim.rchRemoveMin s (D.frag.fr D.pinv) r s1 h
  exact ⟨hv, D.frag.of_xf (PresX.rchRemoveMin.h _ _ _ h) hfr, hfr.pinv,
    ahhEmpty_of_ahf D.ahh (PresAh.rchRemoveMin.h _ _ _ h)⟩

/-- **one pop of `drainHeap`.** -/
theorem popX_inv {n : Nat} {s1 : State} (D : DInvX env s none)
    (hpop : rchRemoveMin.run.run s = (.ok (some n), s1)) : DInvX env s1 (some n) ∧ DStepX env s s1 := by
  obtain ⟨hv, F1, hp1, A1⟩ := popX D hpop
  obtain ⟨I1, f1⟩ := pop_inv D.inv hv
  exact ⟨⟨F1, I1, hp1, A1⟩, f1, pop_calm D.inv.heap hv, pop_keyD D.inv.heap hv, fun hU => pop_unnec D.inv.heap hU hv⟩

/-- **the loop.** A successful `drainHeap` from the drain invariant ends with the drain invariant and an empty
heap. -/
theorem drainHeapX_inv (fuel : Nat) (s s' : State) (D : DInvX env s none)
    (h : (drainHeap env fuel).run.run s = (.ok (), s')) :
    DInvX env s' none ∧ s'.rch.length = 0 ∧ DStepX env s s' := by
  obtain ⟨s1, ⟨D1, f1⟩, h1⟩ := Drain.drainHeap_ind (I := fun x t => DInvX env t x ∧ DStepX env s t)
    (fun _ _ _ _ _ i h1 => have ⟨D1, f1, _⟩ := recomputeOneX_inv i.1 h1; ⟨D1, i.2.trans f1⟩)
    (fun _ _ _ i h1 => have ⟨D1, f1⟩ := popX_inv i.1 h1; ⟨D1, i.2.trans f1⟩) fuel s s' ⟨D, .refl env s⟩ h
  obtain ⟨rfl, he⟩ := rchRemoveMin_inv (heapInv_of_virt D1.inv.heap) h1
  exact ⟨D1, he, f1⟩

end
end IncrVerif.Proofs.ExpertH
