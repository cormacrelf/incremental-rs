import IncrVerif.Proofs.PerKeyH44
import IncrVerif.Proofs.PerKeyH47
/-!
# Per-key operators, static steps part 4: the bookkeeping invariants along a step that changes one value

`VStep s s' n v`: what `NoRem` and `PKOK` read of a step of the node `n` (not a change detector, not an expert node)
that stored `v`: the frames `SF`, the cells, the values of the other nodes, the new value of a variable node / of a
conversion node, and the staleness of the change detectors.
-/
namespace IncrVerif.Proofs.PerKeyH
open IncrVerif.Engine IncrVerif.Driver IncrVerif.Proofs IncrVerif.Proofs.Step IncrVerif.Proofs.Sched
open IncrVerif.Proofs.ExpertH IncrVerif.Proofs.EffH IncrVerif.Proofs.DriverH IncrVerif.Proofs.Xp
open IncrVerif.Proofs.ExpertH.QR

structure VStep (s s' : State) (n : Nat) (v : Val) : Prop where
  sf : SF s s'
  vars : s'.vars = s.vars
  other : ∀ m, m ≠ n → (s'.nodeD m).value = (s.nodeD m).value
  self : n < s.nodes.size → (s'.nodeD n).value = some v
  obsN : ∀ m, (s'.nodeD m).observers = (s.nodeD m).observers
  /-- a variable node takes the value of its cell -/
  tvar : ∀ c vc, (s.nodeD n).kind = .var c → s.vars[c]? = some vc → v = vc.value
  /-- a conversion node takes the value of its input -/
  tconv : ∀ x, (s.nodeD n).kind = .map fnIdent [x] → (s.nodeD x).value = some v
  /-- a change detector that is not stale afterwards was not stale, and if `n` is its input the value is unchanged -/
  lcStale : ∀ lc f c, (s.nodeD lc).kind = .map f [c] → fnPerKey ≤ f → s'.isStale lc = false →
    s.isStale lc = false ∧ (c = n → (s'.nodeD n).value = (s.nodeD n).value)
  /-- expert nodes whose virtual stamp is `-1` keep it (`n` is not an expert node) -/
  stamp : ∀ m e, (s.nodeD m).kind = .expert e → ((V s).nodeD m).recomputedAt = -1 → ((V s').nodeD m).recomputedAt = -1

theorem lt_of_kind_map {s : State} {m f : Nat} {args : List Nat} (h : (s.nodeD m).kind = .map f args) :
    m < s.nodes.size := by
  by_cases hm : m < s.nodes.size
  · exact hm
  · rw [nodeD_default_of_ge s m (by omega)] at h; cases h

theorem lt_of_kind_var {s : State} {m c : Nat} (h : (s.nodeD m).kind = .var c) : m < s.nodes.size := by
  by_cases hm : m < s.nodes.size
  · exact hm
  · rw [nodeD_default_of_ge s m (by omega)] at h; cases h

theorem keysSub_refl (a : List (Int × Int)) : keysSub a a := fun _ h => h

/-! ## `NoRem` -/

theorem NoRem.of_vstep {s s' : State} {n : Nat} {v : Val} (N : NoRem s) (S : VStep s s' n v) : NoRem s' := by
  intro op pr hpr
  rw [S.sf.perkeys] at hpr
  obtain ⟨x, c, vc, mv, hconv, hx, hvc, hval, hsorted, hsub, hxv, hcv⟩ := (N op pr hpr).input
  -- the new value of the variable node, if `n` is it
  have hxnew : x = n → (s'.nodeD x).value = some (.map mv) := by
    intro ex
    rw [ex, S.self (by rw [← ex]; exact lt_of_kind_var hx), S.tvar c vc (by rw [← ex]; exact hx) hvc, hval]
  have hxv' : ∀ w, (s'.nodeD x).value = some w → ∃ m2, w = .map m2 ∧ IncrVerif.AMap.Sorted m2 ∧ keysSub m2 mv ∧
      keysSub pr.prevMap m2 := by
    intro w hw
    by_cases ex : x = n
    · rw [hxnew ex] at hw
      cases hw
      exact ⟨mv, rfl, hsorted, keysSub_refl mv, hsub⟩
    · rw [S.other x ex] at hw; exact hxv w hw
  refine ⟨x, c, vc, mv, by rw [S.sf.kind]; exact hconv, by rw [S.sf.kind]; exact hx, by rw [S.vars]; exact hvc, hval,
    hsorted, hsub, hxv', ?_⟩
  intro w hw
  by_cases ec : pr.result - 1 = n
  · -- the conversion node ran: it took the value of the variable node
    have hxn : x ≠ n := by
      intro ex
      rw [ec] at hconv; rw [ex] at hx
      rw [hconv] at hx; cases hx
    have hv := S.tconv x (by rw [← ec]; exact hconv)
    rw [ec, S.self (by rw [← ec]; exact lt_of_kind_map hconv)] at hw
    cases hw
    obtain ⟨m2, rfl, h2, h3, h4⟩ := hxv _ hv
    refine ⟨m2, rfl, h2, h3, h4, fun m2' h' => ?_⟩
    rw [S.other x hxn, hv] at h'
    cases h'
    exact keysSub_refl _
  · rw [S.other _ ec] at hw
    obtain ⟨m1, rfl, h2, h3, h4, h5⟩ := hcv w hw
    refine ⟨m1, rfl, h2, h3, h4, fun m2 h' => ?_⟩
    by_cases ex : x = n
    · rw [hxnew ex] at h'
      cases h'
      exact h3
    · rw [S.other x ex] at h'; exact h5 m2 h'

/-! ## `PKOK` -/

theorem SF.stObservers {s s' : State} (f : SF s s') : s'.observers = s.observers := by
  have := f.df.keyD; simp only [KeyD, stateKeyD, Prod.mk.injEq] at this; exact this.1

/-- the semantic link of an operator after the step -/
theorem OpOK.input_vstep {env : Env} {s s' : State} {n : Nat} {v : Val} {op : Nat} {pr : PerKeyRec}
    (O : OpOK env s op pr) (S : VStep s s' n v) (hst : s'.isStale pr.lhsChange = false) :
    (s'.nodeD (pr.result - 1)).value = some (.map pr.prevMap) := by
  obtain ⟨x, e, er, hN, -⟩ := O.nodes
  have hlk : (s.nodeD pr.lhsChange).kind = .map (fnPerKey + op) [pr.result - 1] := by rw [hN.lc]; exact hN.lcKind
  obtain ⟨h1, h2⟩ := S.lcStale pr.lhsChange (fnPerKey + op) (pr.result - 1) hlk (Nat.le_add_right _ _) hst
  by_cases ec : pr.result - 1 = n
  · have h3 := O.input h1
    rw [ec] at h3 ⊢
    rw [h2 ec]; exact h3
  · rw [S.other _ ec]; exact O.input h1

theorem PKOK.of_vstep {env : Env} {s s' : State} {n : Nat} {v : Val} (P : PKOK env s) (S : VStep s s' n v)
    (N' : NoRem s') : PKOK env s' :=
  P.of_xg (XG.of_xf S.sf.xf) S.sf.perkeys S.sf.top
    (fun op pr hpr x hx => by rw [S.obsN]; exact (P.ops op pr hpr).noObs x hx)
    (fun o ob ho => by rw [S.sf.stObservers] at ho; exact P.obsTop o ob ho)
    (fun op pr hpr => (P.ops op pr hpr).input_vstep S)
    (fun op pr hpr w hw => by
      obtain ⟨x, c, vc, mv, -, -, -, -, -, -, -, hcv⟩ := (N' op pr (by rw [S.sf.perkeys]; exact hpr)).input
      obtain ⟨m1, h1, h2, -⟩ := hcv w hw
      exact ⟨m1, h1, h2⟩)
    fun _ _ _ _ _ p _ ep _ _ _ _ _ hk h0 => Or.inl (S.stamp p ep hk h0)

end IncrVerif.Proofs.PerKeyH
