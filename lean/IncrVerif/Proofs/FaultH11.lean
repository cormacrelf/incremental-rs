import IncrVerif.Proofs.FaultH10
import IncrVerif.Proofs.FaultH8
/-!
# Faults in whole histories, part 7: the events of the fault-free run are those of `Props/C09History`; the state left by
a handler panic shows the completed propagation
-/
namespace IncrVerif.Proofs.FaultH
open IncrVerif.Engine IncrVerif.Driver IncrVerif.Proofs IncrVerif.Proofs.Step
open IncrVerif.Proofs.SubsH (PureHandlers UInv SubAction)

variable {env : Env}

theorem notNotif_of_isInv {e : Event} (h : IsInv e) : ¬ IsNotif e := by
  obtain ⟨w, n, a, r, rfl⟩ := h
  rintro ⟨t, u, h⟩; cases h

/-- the notifications `del` of `stabilise_armed` are the delivery list of `SubsH.stabilise_delivers`, the events `pre` are
its prefix (there newest first) -/
theorem armed_lists {fuel : Nat} {s s' : State} {pre del pre' del' : List Event}
    (h1 : s'.log = del.reverse ++ (pre.reverse ++ s.log)) (hp : ∀ e, e ∈ pre → IsInv e)
    (hd : ∀ e, e ∈ del → IsNotif e)
    (h2 : s'.log = del'.reverse ++ (pre' ++ s.log)) (hp' : ∀ e, e ∈ pre' → SubsH.NotNotif e)
    (hd' : ∀ e, e ∈ del' → ∃ t u, e = .notif t u) : del = del' ∧ pre.reverse = pre' := by
  have e : del.reverse ++ pre.reverse = del'.reverse ++ pre' := by
    rw [h1, ← List.append_assoc, ← List.append_assoc] at h2
    exact List.append_cancel_right h2
  obtain ⟨e1, e2⟩ := P4.split_unique (Q := IsNotif) e
    (fun x hx => hd x (List.mem_reverse.1 hx)) (fun x hx => hd' x (List.mem_reverse.1 hx))
    (fun x hx => notNotif_of_isInv (hp x (List.mem_reverse.1 hx)))
    (fun x hx => by
      have := hp' x hx
      rintro ⟨t, u, rfl⟩
      exact this)
  exact ⟨by have := congrArg List.reverse e1; simpa using this, e2⟩

/-- **F1, complete statement.**  For a state satisfying the invariant and a fault-free `stabilise` that returns: the events
`pre` (node functions and fold passes, oldest first; no notification) and the notifications `del` it logs, with the
characterisation of `del` of `Props/C09History` (S2), and for every `k` the outcome of the same call with the fault armed -/
theorem stabilise_classified {fuel : Nat} {s s' : State} (U : UInv env s) (heff : PureHandlers env)
    (h : (stabilise env fuel).run.run s = (.ok (), s')) :
    ∃ pre del : List Event, s'.log = del.reverse ++ (pre.reverse ++ s.log) ∧
      (∀ e, e ∈ pre → IsInv e) ∧ (∀ e, e ∈ del → IsNotif e) ∧
      (∀ t u, Event.notif t u ∈ del ↔
        ∃ (o : Nat) (ob : ObsRec) (hr : HandlerRec), s.observers[o]? = some ob ∧ hr ∈ ob.handlers ∧
          hr.token = t ∧ SubsH.expected s s' o hr = some u) ∧
      (del.filterMap SubsH.notifTok).Nodup ∧
      ∀ k, Armed env fuel s s' k pre del := by
  obtain ⟨pre, del, h1, hp, hd, A⟩ := stabilise_armed U heff h
  obtain ⟨pre', del', h2, hp', hd', hiff, hnd⟩ := SubsH.stabilise_delivers U heff h
  obtain ⟨e1, -⟩ := armed_lists (fuel := fuel) h1 hp hd h2 hp' hd'
  subst e1
  exact ⟨pre, del, h1, hp, hd, hiff, hnd, A⟩

/-! ## the state left by a handler panic -/

theorem HRel.nodeD {a b : State} (h : HRel a b) (n : Nat) : b.nodeD n = a.nodeD n := by
  simp only [State.nodeD, h.nodes]

theorem HRel.isNecessary {a b : State} (h : HRel a b) (n : Nat) : b.isNecessary n = a.isNecessary n := by
  simp only [State.isNecessary, h.nodeD]

theorem HRel.children {a b : State} (h : HRel a b) (n : Nat) : b.children n = a.children n := by
  simp only [State.children, h.nodeD, h.binds, h.experts]

theorem HRel.isStale {a b : State} (h : HRel a b) (n : Nat) : b.isStale n = a.isStale n := by
  simp only [State.isStale, h.nodeD, h.children, h.vars, h.experts]

theorem HRel.value {a b : State} (h : HRel a b) (n : Nat) : b.value env n = a.value env n :=
  value_congr env a b (by rw [h.nodes]) (fun m => by rw [h.nodeD]) n

theorem HRel.eval {a b : State} (h : HRel a b) (k n : Nat) : Sched.eval env b k n = Sched.eval env a k n :=
  Sched.eval_congr (fun m => by rw [h.nodeD]) h.vars k n

/-- reads in a state that is `HRel` to `a` up to the status, neither status being `stabilising` -/
theorem HRel.read {a b : State} (h : HRel a { b with status := a.status }) (ha : a.status ≠ .stabilising)
    (hb : b.status ≠ .stabilising) (o : Nat) : b.tryGetValue env o = a.tryGetValue env o := by
  have hal : b.alive = a.alive := h.alive
  have hval : ∀ n, b.value env n = a.value env n := fun n => by
    have := h.value (env := env) n
    rw [← this]
    exact value_congr env ({ b with status := a.status } : State) b rfl (fun _ => rfl) n
  unfold State.tryGetValue
  have e1 : (b.status == Status.stabilising) = false := by
    cases hs : b.status <;> simp_all
  have e2 : (a.status == Status.stabilising) = false := by
    cases hs : a.status <;> simp_all
  rw [hal, e1, e2]
  cases hoa : a.observers[o]? with
  | none =>
    have := h.obsAt o
    rw [hoa] at this
    have hob : b.observers[o]? = none := by
      cases hb' : b.observers[o]? with
      | none => rfl
      | some x =>
        have hb'' : ({ b with status := a.status } : State).observers[o]? = some x := hb'
        rw [hb''] at this; cases this
    rw [hob]
  | some oa =>
    obtain ⟨ob, hob, hn, hs, -⟩ := h.obsSome hoa
    have hob' : b.observers[o]? = some ob := hob
    rw [hob']
    dsimp only
    rw [hs, hn, hval]

/-- (as `Props.C09History.delivered_value_is_eval`) an observer that was created or in use before a fault-free `stabilise`
is in use afterwards and reads the from-scratch value of its node -/
theorem delivered_eval {fuel : Nat} {s s' : State} (U : UInv env s)
    (heff : PureHandlers env) (hrun : (stabilise env fuel).run.run s = (.ok (), s')) {o : Nat} {ob : ObsRec}
    (ho : s.observers[o]? = some ob) (hs : ob.state = .created ∨ ob.state = .inUse) :
    ∃ ob' v, s'.observers[o]? = some ob' ∧ ob'.node = ob.node ∧ ob'.state = .inUse ∧
      s'.tryGetValue env o = .ok v ∧
      ∀ k, (s'.nodeD ob.node).height.toNat < k → Sched.eval env s' k ob.node = some v := by
  have R := SubsH.stabilise_u U heff hrun
  obtain ⟨t3, M⟩ := R.mid
  obtain ⟨ob', v, ho', hn', hst', hval, hread, -⟩ := SubsH.stab_live R M (default : HandlerRec) ho hs
  refine ⟨ob', v, ho', hn', hst', hread, fun k hk => ?_⟩
  have O' := SubsH.obsInv_final R
  have hmem : o ∈ (s'.nodeD ob.node).observers :=
    (O'.mem ob.node o).2 ⟨ob', ho', hn', Or.inl hst'⟩
  have hnec : s'.isNecessary ob.node = true := nec_of_mem_observers hmem
  obtain ⟨-, -, h3, -, -⟩ := R.values ob.node hnec k hk
  rw [← h3]; exact hval

/-- **the handler case shows the completed propagation.**  `t` is the state left by a panic in an update handler
(`Armed.inHandlers`), `s'` the final state of the fault-free run: every read in `t` answers what it answers in `s'`, and
every necessary node of `t` is valid, not stale, and holds — stored and as read through an observer — the from-scratch
value `Sched.eval` on the current variable values. -/
theorem handler_panic_state {fuel : Nat} {s s' t : State} (U : UInv env s) (heff : PureHandlers env)
    (h : (stabilise env fuel).run.run s = (.ok (), s'))
    (hst : t.status = .runningOnUpdateHandlers) (R : HRel s' { t with status := .notStabilising }) :
    (∀ o, t.tryGetValue env o = s'.tryGetValue env o) ∧ t.vars = s.vars ∧
    (∀ n, t.isNecessary n = true → ∀ k, (t.nodeD n).height.toNat < k →
      (t.nodeD n).valid = true ∧ t.isStale n = false ∧ (t.nodeD n).value = Sched.eval env t k n ∧
        t.value env n = Sched.eval env t k n ∧ (Sched.eval env t k n).isSome = true) ∧
    (∀ (o : Nat) (ob : ObsRec), s.observers[o]? = some ob → ob.state = .created ∨ ob.state = .inUse →
      ∃ ob' v, t.observers[o]? = some ob' ∧ ob'.node = ob.node ∧ ob'.state = .inUse ∧
        t.tryGetValue env o = .ok v ∧ ∀ k, (t.nodeD ob.node).height.toNat < k → Sched.eval env t k ob.node = some v) := by
  have S := SubsH.stabilise_u U heff h
  have hs' : s'.status = .notStabilising := S.inv.core.status
  have R' : HRel s' { t with status := s'.status } := by rw [hs']; exact R
  have hread : ∀ o, t.tryGetValue env o = s'.tryGetValue env o := fun o =>
    HRel.read R' (by rw [hs']; intro e; cases e) (by rw [hst]; intro e; cases e) o
  have hnd : ∀ n, t.nodeD n = s'.nodeD n := fun n => R.nodeD n
  have hnec : ∀ n, t.isNecessary n = s'.isNecessary n := fun n => R.isNecessary n
  have hstale : ∀ n, t.isStale n = s'.isStale n := fun n => R.isStale n
  have hval : ∀ n, t.value env n = s'.value env n := fun n => by
    rw [← R.value (env := env) n]; exact value_congr env ({ t with status := .notStabilising } : State) t rfl (fun _ => rfl) n
  have hev : ∀ k n, Sched.eval env t k n = Sched.eval env s' k n := fun k n => by
    rw [← R.eval (env := env) k n]; exact Sched.eval_congr (s := ({ t with status := .notStabilising } : State)) (s' := t) (fun _ => rfl) rfl k n
  have hvars : t.vars = s'.vars := R.vars
  have hrch : t.rch = s'.rch := R.rch
  refine ⟨hread, hvars.trans S.vars, ?_, ?_⟩
  · intro n hn k hk
    rw [hnd, hstale, hval, hev]
    rw [hnec] at hn
    rw [hnd] at hk
    exact S.values n hn k hk
  · intro o ob ho hs
    obtain ⟨ob', v, ho', hn', hst', hr, he⟩ := delivered_eval U heff h ho hs
    obtain ⟨ot, hot, hnt, hstt, -⟩ := R.obsSome ho'
    refine ⟨ot, v, hot, hnt.trans hn', hstt.trans hst', by rw [hread]; exact hr, fun k hk => ?_⟩
    rw [hev]
    rw [hnd] at hk
    exact he k hk

end IncrVerif.Proofs.FaultH
