import IncrVerif.Proofs.EffH5
import IncrVerif.Proofs.EffH6
/-!
# Effects, part 7: one `stabilise` of a program whose node functions have write effects (V1)
-/
namespace IncrVerif.Proofs.EffH
open IncrVerif.Engine IncrVerif.Driver IncrVerif.Proofs IncrVerif.Proofs.Step IncrVerif.Proofs.Sched
open IncrVerif.Proofs.Quiet

/-- a cell after `stabiliseEnd` has applied the deferred writes `fs` (program order): the value is their fold over
the old value, the stamp is the NEW round number; an unwritten cell is untouched -/
def cellAfter (now : Int) (fs : List (Val → Val)) (c : VarCell) : VarCell :=
  match fs with
  | [] => c
  | _ :: _ => { c with value := foldW fs c.value, setAt := now }

/-- the conclusions of `stabilise_eff`: `t2` is the state in which the drain starts, `t3` the state in which it ends,
`S` the state the `stabilise` would have ended in WITHOUT the deferred writes (same nodes, the variables of `s`) -/
structure EStab (env : Env) (fuel : Nat) (s t2 t3 S s' : State) : Prop where
  inv : EInv env s'
  /-- everything `Quiet.stabilise_q` says about the effect-free outcome -/
  clean : MapRefH.StabilisedC (noEff env) s S
  start : DI env t2 none
  startVars : t2.vars = s.vars
  startStab : t2.stabNum = s.stabNum
  startKind : ∀ m, (t2.nodeD m).kind = (s.nodeD m).kind
  nec : ∀ m, s'.isNecessary m = t2.isNecessary m
  run : (drainHeap env fuel).run.run t2 = (.ok (), t3)
  drain : RunOK env (drainSteps env fuel t2) t2 t3
  /-- (b) the deferred writes compose in program order, over the pre-stabilise value -/
  vars : ∀ (v : Nat) (c : VarCell), s.vars[v]? = some c →
    s'.vars[v]? = some (cellAfter (s.stabNum + 1) (writesTo v (stepsWrites env (drainSteps env fuel t2))) c)
  vsize : s'.vars.size = s.vars.size
  /-- the nodes are those of the effect-free outcome, up to the heap marker (and the handler-queue flag) -/
  node : ∀ m, ∃ h b, s'.nodeD m = { S.nodeD m with heightInRch := h, inHandleAfterStab := b }
  size : s'.nodes.size = S.nodes.size
  observers : s'.observers = S.observers
  newObservers : s'.newObservers = []
  disallowedObservers : s'.disallowedObservers = []
  stabNum : s'.stabNum = s.stabNum + 1

theorem cellW_clean_applyCell (now : Int) (fs : List (Val → Val)) (c : VarCell) (hp : c.pending = none)
    (hs : c.setAt < now) : applyCell now (cellW fs c) = cellAfter now fs c := by
  cases fs with
  | nil => simp [cellW, applyCell, hp, cellAfter]
  | cons f fs =>
    simp only [cellW, applyCell, cellAfter, hp, Option.getD_none, if_pos hs]

/-- **V1: one `stabilise` with write effects.** -/
theorem stabilise_eff {env : Env} (hw : WOnly env) {fuel : Nat} {s s' : State} (E : EInv env s)
    (h : (stabilise env fuel).run.run s = (.ok (), s')) : ∃ t2 t3 S, EStab env fuel s t2 t3 S s' := by
  have Q := E.q
  obtain ⟨t1, t2, t3, -, h1, h2, h3, h4⟩ := stabilise_phases.1 h
  obtain ⟨s0, hs0⟩ : ∃ s0 : State, s0 = { s with status := .stabilising } := ⟨_, rfl⟩
  rw [← hs0] at h1
  rw [← addNewObservers_noEff] at h1
  have hnd0 : ∀ m, s0.nodeD m = s.nodeD m := fun m => by rw [hs0]; rfl
  have S0 : SInv (noEff env) s0 s0.newObservers s0.disallowedObservers := by
    rw [hs0]
    exact ⟨Q.struct.congr (SameG.of_nodes rfl rfl rfl rfl rfl),
      ⟨Q.obs.inRange, Q.obs.mem, Q.obs.created, Q.obs.newIn, Q.obs.dis, Q.obs.disIn, Q.obs.disNodup⟩,
      Q.pinv, Q.handlers⟩
  obtain ⟨S1, hn1, hd1, F1, O1, N1⟩ := addNewObservers_s S0 h1
  obtain ⟨S2, hn2, hd2, F2, O2⟩ := unlinkDisallowedObservers_s S1 hn1 h2
  have F : PFrame s0 t2 := F1.trans F2
  have hvars0 : s0.vars = s.vars := by rw [hs0]
  have hstab0 : s0.stabNum = s.stabNum := by rw [hs0]
  have hv2 : t2.vars = s.vars := by rw [F.vars, hvars0]
  have hst2 : t2.stabNum = s.stabNum := by rw [F.stabNum, hstab0]
  obtain ⟨D2, U2⟩ := MapRefH.drain_start Q hs0 S2 F
  have DI2 : DI env t2 none :=
    ⟨D2, U2, by rw [F.status, hs0], fun v c hc => (E.cells v c (by rw [← hv2]; exact hc)).2⟩
  -- the drain
  obtain ⟨R, he3⟩ := drainHeap_eff hw fuel t2 t3 DI2 h3
  have P2 : Pend t2 [] t2 :=
    Pend.start (fun v c hc => (E.cells v c (by rw [← hv2]; exact hc)).1)
      (by rw [F.setDuringStab, hs0]; exact Q.setDuringStab)
  have P3 := R.pend t2 [] P2
  rw [List.nil_append] at P3
  generalize hW : stepsWrites env (drainSteps env fuel t2) = W at P3
  -- the drained state without the deferred writes
  let t3c : State := { t3 with vars := t2.vars, setDuringStab := t2.setDuringStab }
  have Pc : SameP t3c t3 := ⟨rfl, P3.size, fun v a ha => P3.sameP_vars.2 v a ha⟩
  have Pc' : SameP t3 t3c := Pc.symm
  have D3c : DrainInv (noEff env) t3c := Pc'.inv R.di.inv
  have U3c : UnnecOK (noEff env) t3c := Pc'.unnecOK R.di.unnec
  have f3 : Frame t2 t3c := (R.dr.frame.trans (FrameP.of_sameP Pc')).toFrame rfl
  have c3 : Calm t2 t3c := (R.dr.calm.trans (CalmP.of_sameP Pc')).toCalm rfl
  have k3 : stateKeyD t3c = stateKeyD t2 := R.dr.keyD
  have hdead : t3.deadVars = [] := by
    rw [R.dr.calm.deadVars, F.deadVars, hs0]; exact Q.deadVars
  have E' : Finished' t3c (quiet (bump t3c)) :=
    ⟨rfl, fun m => ⟨_, rfl⟩, rfl, rfl, rfl, rfl, rfl, rfl, rfl, rfl, rfl, rfl, rfl, rfl, rfl, rfl, rfl, rfl, rfl,
      hdead, rfl⟩
  have SC := MapRefH.stab_core Q hs0 S2 hn2 hd2 F O1 O2 D3c he3 f3 c3 k3 U3c E'
  have PQ : SameP (quiet (bump t3c)) (quiet (bump t3)) := ⟨rfl, Pc.size, Pc.cell⟩
  have QB : QInv (noEff env) (quiet (bump t3)) := PQ.qinv SC.inv rfl
  obtain ⟨Q', c, A, es', hsz', hnode', hvars'⟩ := stabiliseEnd_eff QB h4
  -- the variables of the final state
  have hsv : s'.vars = c.vars := by rw [es']; rfl
  have hst3 : t3.stabNum = s.stabNum := by rw [R.dr.frame.stabNum, hst2]
  have hcell : ∀ (v : Nat) (c0 : VarCell), s.vars[v]? = some c0 →
      s'.vars[v]? = some (cellAfter (s.stabNum + 1) (writesTo v W) c0) := by
    intro v c0 h0
    have h2c : t2.vars[v]? = some c0 := by rw [hv2]; exact h0
    have h3c := P3.cell v c0 h2c
    have hp := (E.cells v c0 h0).1
    have hsa := Q.varStamp v c0 h0
    rw [hsv, hvars' v, h3c, hst3]
    by_cases hm : v ∈ t3.setDuringStab
    · rw [if_pos hm, Option.map_some, cellW_clean_applyCell _ _ _ hp (by omega)]
    · rw [if_neg hm]
      have : writesTo v W = [] := by
        cases hw' : writesTo v W with
        | nil => rfl
        | cons f fs => exact absurd ((P3.mem v).2 (by rw [hw']; exact List.cons_ne_nil _ _)) hm
      rw [this]; rfl
  have hvsz : s'.vars.size = s.vars.size := by
    rw [hsv, A.vsize]; show t3.vars.size = _; rw [P3.size, hv2]
  have hcells : CellsOK s' := by
    intro v cv hcv
    have hlt : v < s.vars.size := by
      rw [← hvsz]
      rcases Nat.lt_or_ge v s'.vars.size with h | h
      · exact h
      · rw [Array.getElem?_eq_none h] at hcv; cases hcv
    have h0 : s.vars[v]? = some s.vars[v] := Array.getElem?_eq_getElem hlt
    have := hcell v _ h0
    rw [hcv] at this
    cases this
    obtain ⟨hp, hh⟩ := E.cells v _ h0
    cases hw' : writesTo v W with
    | nil => exact ⟨hp, hh⟩
    | cons f fs => exact ⟨hp, hh⟩
  -- nodes of the final state
  have hnodeS : ∀ m, ∃ hh b, s'.nodeD m = { (quiet (bump t3c)).nodeD m with heightInRch := hh, inHandleAfterStab := b } := by
    intro m
    obtain ⟨b, hb⟩ := hnode' m
    obtain ⟨hh, hc⟩ := A.node m
    refine ⟨hh, b, ?_⟩
    rw [hb, hc]
    rfl
  have hnec : ∀ m, s'.isNecessary m = t2.isNecessary m := by
    intro m
    obtain ⟨hh, b, e⟩ := hnodeS m
    have : s'.isNecessary m = t3.isNecessary m := by
      simp only [State.isNecessary, e, Node.isNecessary]
      rfl
    rw [this, R.dr.frame.nec]
  refine ⟨t2, t3, quiet (bump t3c), ⟨⟨Q', hcells⟩, SC, DI2, hv2, hst2, ?_, hnec, h3, R, ?_, hvsz, hnodeS, ?_, ?_, ?_, ?_, ?_⟩⟩
  · intro m; rw [F.kind, hnd0]
  · rw [hW]; exact hcell
  · rw [hsz', A.size]; rfl
  · have e1 : s'.observers = c.observers := by rw [es']; rfl
    have e2 : c.observers = t3.observers := by rw [A.eq]; rfl
    rw [e1, e2]; rfl
  · have e1 : s'.newObservers = c.newObservers := by rw [es']; rfl
    have e2 : c.newObservers = t3.newObservers := by rw [A.eq]; rfl
    rw [e1, e2, R.dr.calm.newObservers]; exact hn2
  · have e1 : s'.disallowedObservers = c.disallowedObservers := by rw [es']; rfl
    have e2 : c.disallowedObservers = t3.disallowedObservers := by rw [A.eq]; rfl
    rw [e1, e2, R.dr.calm.disallowedObservers]; exact hd2
  · have e1 : s'.stabNum = c.stabNum := by rw [es']; rfl
    have e2 : c.stabNum = t3.stabNum + 1 := by rw [A.eq]; rfl
    rw [e1, e2, hst3]

end IncrVerif.Proofs.EffH
