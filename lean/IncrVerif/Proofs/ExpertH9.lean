import IncrVerif.Proofs.ExpertH8
import IncrVerif.Proofs.ExpertDepth
import IncrVerif.Proofs.Sched11
import IncrVerif.Proofs.Corr
/-!
# Part 6: the linking cascade keeps the structural invariant, and returns

Each of the two functions has one statement (`BNCorr`, `APCorr`, a `Step.Corr`): what a returning run establishes, and that the run returns (no
assertion fails, the height limit is not hit, the fuel suffices) under the height bound by DEPTH `HBd`, room for `N` nodes and fuel linear in the
depth `dp s n` of the node.
-/
namespace IncrVerif.Proofs.ExpertH.QR
open IncrVerif.Engine IncrVerif.Proofs IncrVerif.Proofs.Step IncrVerif.Proofs.Sched
open IncrVerif.Proofs.TidyH.XT (HBd HBd.transfer Room dp dp_of_cframe dp_kid_lt' dp_room dp_congr)

/-! ## steps that the invariant does not see -/

/-- a step that changes only fields of node `n` that neither the invariant nor the relations read -/
structure Irrel (rk : Nat → Nat) (n : Nat) (s s' : State) : Prop where
  same : SameG s s'
  above : Above rk n s s'
  rel : ∀ X, LRel X s s'

theorem Irrel.refl (rk : Nat → Nat) (n : Nat) (s : State) : Irrel rk n s s :=
  ⟨SameG.refl s, Above.refl rk n s, fun X => LRel.refl X s⟩
theorem Irrel.trans {rk : Nat → Nat} {n : Nat} {a b c : State} (h1 : Irrel rk n a b) (h2 : Irrel rk n b c) :
    Irrel rk n a c :=
  ⟨h1.same.trans h2.same, h1.above.trans h2.above, fun X => (h1.rel X).trans (h2.rel X)⟩

theorem Irrel.of_nodes {rk : Nat → Nat} {n : Nat} {s s' : State} (h1 : s'.nodes = s.nodes) (h2 : stateKey s' = stateKey s)
    (h3 : s'.panicCountdown = s.panicCountdown) (h4 : s'.propagateInvalidity = s.propagateInvalidity)
    (h5 : s'.rch = s.rch) : Irrel rk n s s' := by
  have hk := h2
  simp only [stateKey, Prod.mk.injEq] at hk
  exact ⟨SameG.of_nodes h1 h3 hk.2.2.2.2.2.1 h5 hk.1, Above.of_nodes rk n h1, fun X => LRel.of_nodes h1 h2 h3 h4⟩

theorem Irrel.marked (rk : Nat → Nat) (n : Nat) (s : State) : Irrel rk n s (Sched.hasMarked n s) := by
  have hnd : ∀ m, ((Sched.hasMarked n s).nodeD m) =
      if n = m ∧ m < s.nodes.size then { s.nodeD m with inHandleAfterStab := true } else s.nodeD m := by
    intro m
    show ({ s with nodes := s.nodes.modify n _ } : State).nodeD m = _
    rw [nodeD_modify]
  refine ⟨⟨rfl, rfl, by simp [Sched.hasMarked], rfl, rfl, fun m => ?_⟩, ?_, fun X => ⟨⟨by simp [Sched.hasMarked], fun m => ?_, rfl, id⟩,
    rfl, fun m x hx => ?_, fun m _ _ => ?_⟩⟩
  · rw [hnd]; split
    · exact ⟨rfl, rfl, rfl, rfl, rfl, rfl, rfl, rfl, rfl, rfl, rfl⟩
    · exact NodeG.refl _
  · intro m hm
    rw [hnd, if_neg (fun e => by rw [e.1] at hm; omega)]
  · rw [hnd]; split <;> rfl
  · rw [hnd]; split
    · exact hx
    · exact hx
  · rw [hnd]; split <;> rfl

theorem Irrel.mhas {rk : Nat → Nat} {n : Nat} {s s' : State} {r : Except Panic Unit}
    (h : (maybeHandleAfterStabilisation n).run.run s = (r, s')) : Irrel rk n s s' := by
  rcases mhas_cases h with e | e
  · rw [e]; exact Irrel.refl rk n s
  · rw [e]; exact Irrel.marked rk n s

def heightSet (n : Nat) (h : Int) (s : State) : State :=
  { s with maxHeightSeen := max s.maxHeightSeen h, nodes := s.nodes.modify n fun x => { x with height := h } }

/-- `setHeight n h` that returns -/
theorem setHeight_ok_upd {rk : Nat → Nat} {n : Nat} {h : Int} {s s' : State} {u : Unit} (hn : n < s.nodes.size)
    (hr : (setHeight n h).run.run s = (.ok u, s')) :
    NodeUpd n (fHeight h) s s' ∧ Above rk n s s' ∧ LRel (· = n) s s' ∧ (s'.nodeD n).height = h ∧
      (∀ m, m ≠ n → s'.nodeD m = s.nodeD m) := by
  rw [setHeight_run] at hr
  split at hr
  · cases hr
  · have e : s' = heightSet n h s := by cases hr; rfl
    rw [e]
    have hnd : ∀ m, (heightSet n h s).nodeD m =
        if n = m ∧ m < s.nodes.size then { s.nodeD m with height := h } else s.nodeD m := by
      intro m
      show ({ s with nodes := s.nodes.modify n _ } : State).nodeD m = _
      rw [nodeD_modify]
    refine ⟨⟨hn, rfl, rfl, by simp [heightSet], rfl, rfl, fun m hm => ?_, ?_⟩, ?_,
      ⟨⟨by simp [heightSet], fun m => ?_, rfl, id⟩, rfl,
      fun m x hx => ?_, fun m hm _ => ?_⟩, ?_, fun m hm => ?_⟩
    · rw [hnd, if_neg (fun e => hm e.1.symm)]; exact NodeG.refl _
    · rw [hnd, if_pos ⟨rfl, hn⟩]; exact NodeG.refl _
    · intro m hm; rw [hnd, if_neg (fun e => by rw [e.1] at hm; omega)]
    · rw [hnd]; split <;> rfl
    · rw [hnd]; split
      · exact hx
      · exact hx
    · rw [hnd, if_neg (fun e => hm e.1.symm)]
    · rw [hnd, if_pos ⟨rfl, hn⟩]
    · rw [hnd, if_neg (fun e => hm e.1.symm)]

/-- the relations through a successful `rchInsert` -/
theorem rchInsert_rel {rk : Nat → Nat} {n : Nat} {s s' : State} {u : Unit} (hr : (rchInsert n).run.run s = (.ok u, s')) :
    ∃ nd, s.nodes[n]? = some nd ∧ 0 ≤ nd.height ∧ nd.height ≤ s.rch.maxAllowed ∧
      s' = inserted n nd.height s ∧ Above rk n s s' ∧ ∀ X, LRel X s s' := by
  obtain ⟨nd, hnd, h0, hmax, e⟩ := rchInsert_ok_inv hr
  refine ⟨nd, hnd, h0, hmax, e, ?_, fun X => ⟨(PresF.rchInsert n).h _ _ _ hr, ?_, ?_, ?_⟩⟩
  · rw [e]; intro m hm; rw [inserted_nodeD, if_neg (fun e => by rw [e.1] at hm; omega)]
  · rw [e]; rfl
  · rw [e]; intro m x hx; rw [inserted_nodeD]; split
    · exact hx
    · exact hx
  · rw [e]; intro m _ _; rw [inserted_nodeD]; split <;> rfl

/-! ## the two statements -/

def BNCorr (env : Env) (rk : Nat → Nat) (N fuel : Nat) : Prop :=
  ∀ n s op, GInv env rk s op → op n = .linking 0 → (s.nodeD n).inRch = false →
    (∀ m, op m ≠ .closed → rk n ≤ rk m) →
    (∀ p i, (p, i) ∈ (s.nodeD n).parents → op p ≠ .closed) →
    Corr (becameNecessary env fuel n) s (HBd s op ∧ Room N s ∧ 2 * dp s n + 2 ≤ fuel)
      (fun _ s' => GInv env rk s' (upd op n .closed) ∧ Above rk n s s' ∧ LRel (· = n) s s' ∧
        (HBd s op → HBd s' (upd op n .closed)))

def APCorr (env : Env) (rk : Nat → Nat) (N fuel : Nat) : Prop :=
  ∀ c idx p s op, GInv env rk s op → op p = .linking idx → (kids (s.nodeD p).kind)[idx]? = some c →
    (∀ m, op m ≠ .closed → rk c < rk m) →
    Corr (addParentWithoutAdjustingHeights env fuel c idx p) s (HBd s op ∧ Room N s ∧ 2 * dp s c + 3 ≤ fuel)
      (fun _ s' => GInv env rk s' (upd op p (.linking (idx + 1))) ∧ Above rk c s s' ∧ LRel (fun _ => False) s s' ∧
        s'.isNecessary c = true ∧ (HBd s op → HBd s' (upd op p (.linking (idx + 1)))))

/-- the tail `match kind? with | some (.expert e) => … | _ => pure ()` of both cascade functions does nothing
for a static node -/
theorem tail_corr {env : Env} {p : Nat} {t : State} {P : Prop} {Q : Unit → State → Prop} (g : Nat → M Unit)
    (hp : p < t.nodes.size) (hv : (t.nodeD p).valid = true) (hk : StaticKind env (t.nodeD p).kind)
    (hq : Q () t) :
    Corr (do let x ← getNode p
             match x.kind? with
             | some (.expert e) => g e
             | _ => pure ()) t P Q := by
  refine Corr.bind_getNode hp ?_
  have hq' : (t.nodeD p).kind? = some (t.nodeD p).kind := by rw [Node.kind?, hv]; rfl
  rw [hq']
  cases hkd : (t.nodeD p).kind <;> rw [hkd] at hk <;> first | exact Corr.pure hq | exact hk.elim

theorem ap_corr (env : Env) {rk : Nat → Nat} (N fuel : Nat) (ih : BNCorr env rk N fuel) :
    APCorr env rk N (fuel + 1) := by
  intro c idx p s op I hop hk hlow
  have hp : p < s.nodes.size := I.opLt p (by rw [hop]; exact fun e => by cases e)
  have hcp : rk c < rk p := I.kid_lt hk
  have hc : c < s.nodes.size := I.kid_in hk
  have hne : c ≠ p := I.kid_ne hk
  have hcl : op c = .closed := by
    cases e : op c with
    | closed => rfl
    | linking k => have := hlow c (by rw [e]; exact fun e => by cases e); omega
    | unlinking k => have := hlow c (by rw [e]; exact fun e => by cases e); omega
  unfold addParentWithoutAdjustingHeights
  refine Corr.bind_get (Corr.bind_dassert (fun _ _ => I.lnec p idx hop) ?_)
  refine Corr.bind_get ?_
  dsimp only
  unfold addParent
  refine Corr.bind_modNode (fun s1 hs1 => ?_)
  have U : NodeUpd c (fParents ((s.nodeD c).parents ++ [(p, idx)])) s s1 := by
    rw [hs1]; exact NodeUpd.modify' hc rfl
  have hab1 : Above rk c s s1 := by rw [hs1]; exact Above.modify rk c _ s c (Nat.le_refl _)
  have hl1 : LRel (fun _ => False) s s1 := by
    rw [hs1]
    refine ⟨CFrame.modNode s c _ (fun _ => rfl), rfl, fun m x hx => ?_, fun m _ _ => ?_⟩
    · rw [nodeD_modify]; split
      · rename_i e; rw [← e.1] at hx ⊢; exact List.mem_append_left _ hx
      · exact hx
    · rw [nodeD_modify]; split <;> rfl
  have hnec1 : s1.isNecessary c = true := by
    rw [isNecessary_iff]; left
    rw [U.self.parents]; simp [fParents]
  have hoth1 : ∀ m, m ≠ c → s1.nodeD m = s.nodeD m := by
    intro m hm; rw [hs1, nodeD_modify, if_neg (fun e => hm e.1.symm)]
  have hhgt1 : ∀ m, (s1.nodeD m).height = (s.nodeD m).height := by
    intro m; rw [hs1, nodeD_modify]; split <;> rfl
  have hc1 : c < s1.nodes.size := by rw [U.size]; exact hc
  have hp1 : p < s1.nodes.size := by rw [U.size]; exact hp
  have hd1 : ∀ m, dp s1 m = dp s m := dp_of_cframe hl1.fr
  have hvalid : (s1.nodeD c).valid = true := by rw [U.self.valid]; exact (I.node hc).valid
  refine Corr.bind_getNode hc1 ?_
  simp only [hvalid, Bool.not_true, Bool.false_eq_true, if_false]
  cases hwas : s.isNecessary c with
  | true =>
    simp only [Bool.not_true, Bool.false_eq_true, if_false]
    -- (D15) the child is not a `map_ref` node
    refine Corr.bind_getNode hc1 ?_
    have hcq : (s1.nodeD c).kind? = some (s.nodeD c).kind := by
      rw [Node.kind?, U.self.valid, U.self.kind]
      show (if (s.nodeD c).valid = true then some (s.nodeD c).kind else none) = _
      rw [(I.node hc).valid]; rfl
    rw [hcq]
    have hsk := (I.node hc).kind
    have hfin : HBd s op → HBd s1 (upd op p (.linking (idx + 1))) := by
      intro hb
      refine HBd.transfer hb hd1 (fun m hm ho => ?_)
      have hmp : m ≠ p := fun e => by rw [e, upd_self] at ho; cases ho
      rw [upd_other _ _ _ hmp] at ho
      refine ⟨?_, ho, hhgt1 m⟩
      by_cases e : m = c
      · rw [e]; exact hwas
      · rw [State.isNecessary, hoth1 m e] at hm; exact hm
    have hpv : (s1.nodeD p).valid = true := by rw [hoth1 p (Ne.symm hne)]; exact (I.node hp).valid
    have hpk : StaticKind env (s1.nodeD p).kind := by rw [hoth1 p (Ne.symm hne)]; exact (I.node hp).kind
    have hq := And.intro (I.addEdge_nec U hop hk hwas hcl) (And.intro hab1 (And.intro hl1 (And.intro hnec1 hfin)))
    cases hkd : (s.nodeD c).kind <;> rw [hkd] at hsk <;>
      first | exact tail_corr _ hp1 hpv hpk hq | exact hsk.elim
  | false =>
    simp only [Bool.not_false, if_true]
    obtain ⟨I1, hpar1⟩ := I.addEdge_open U hop hk hwas hcl
    have hnq1 : (s1.nodeD c).inRch = false := by
      rw [U.inRch (keeps_fParents _)]; exact I.not_queued_of_not_nec hwas hcl
    have hb1 : HBd s op → HBd s1 (upd (upd op p (.linking (idx + 1))) c (.linking 0)) := by
      intro hb
      refine HBd.transfer hb hd1 (fun m hm ho => ?_)
      have hmc : m ≠ c := fun e => by rw [e, upd_self] at ho; cases ho
      rw [upd_other _ _ _ hmc] at ho
      have hmp : m ≠ p := fun e => by rw [e, upd_self] at ho; cases ho
      rw [upd_other _ _ _ hmp] at ho
      refine ⟨?_, ho, hhgt1 m⟩
      rw [State.isNecessary, hoth1 m hmc] at hm; exact hm
    refine Corr.bind (ih c s1 _ I1 (upd_self _ _ _) hnq1
      (by
        intro m hm
        by_cases e : m = c
        · rw [e]; exact Nat.le_refl _
        · rw [upd_other _ _ _ e] at hm
          by_cases e2 : m = p
          · rw [e2]; omega
          · rw [upd_other _ _ _ e2] at hm
            exact Nat.le_of_lt (hlow m hm))
      (by
        intro q i hq
        rw [hpar1] at hq
        simp only [List.mem_singleton, Prod.mk.injEq] at hq
        rw [hq.1, upd_other _ _ _ (Ne.symm hne), upd_self]
        exact fun e => by cases e))
      (fun ⟨hb, R, hf⟩ => ⟨hb1 hb, R.of_cframe hl1.fr, by rw [hd1]; omega⟩) ?_
    rintro _ s2 - ⟨I2, hab2, hl2, hHB2⟩
    rw [upd_upd, upd_eq_self _ c .closed (by rw [upd_other _ _ _ hne]; exact hcl)] at I2 hHB2
    have hp2 : p < s2.nodes.size := by rw [hl2.fr.size]; exact hp1
    have hpe : s2.nodeD p = s.nodeD p := by rw [hab2 p hcp]; exact hoth1 p (Ne.symm hne)
    refine tail_corr _ hp2 (by rw [hpe]; exact (I.node hp).valid) (by rw [hpe]; exact (I.node hp).kind)
      ⟨I2, hab1.trans hab2, ?_, hl2.nec hnec1, fun hb => hHB2 (hb1 hb)⟩
    -- `c` was not necessary in `s`, so its height is not constrained by the relation from `s`
    refine ⟨hl1.fr.trans hl2.fr, hl2.pinv.trans hl1.pinv, fun m x hx => hl2.par m x (hl1.par m x hx),
      fun m _ hm => ?_⟩
    have e : m ≠ c := fun e => by rw [e, hwas] at hm; cases hm
    exact (hl2.hgt m e (hl1.nec hm)).trans (hl1.hgt m (fun h => h) hm)

theorem bn_corr (env : Env) {rk : Nat → Nat} (N fuel : Nat) (ih : APCorr env rk N fuel) :
    BNCorr env rk N (fuel + 1) := by
  intro n s op I hop hnq hlow hpar
  have hn : n < s.nodes.size := I.opLt n (by rw [hop]; exact fun e => by cases e)
  have sn := I.node hn
  have hopn : op n ≠ .closed := by rw [hop]; exact fun e => by cases e
  have hclosed : ∀ m, rk m < rk n → op m = .closed := by
    intro m hm
    cases e : op m with
    | closed => rfl
    | linking k => have := hlow m (by rw [e]; exact fun e => by cases e); omega
    | unlinking k => have := hlow m (by rw [e]; exact fun e => by cases e); omega
  unfold becameNecessary
  refine Corr.bind_getNode hn ?_
  rw [sn.top]
  refine Corr.bind_ok (scopeIsNecessary_top_run s) ?_
  dsimp only
  simp only [Bool.not_true, Bool.and_false, Bool.false_eq_true, if_false]
  refine Corr.bind_modify (fun s0 hs0 => ?_)
  -- the prefix: counters, handler bookkeeping, first height
  have R0 : Irrel rk n s s0 := by rw [hs0]; exact Irrel.of_nodes rfl rfl rfl rfl rfl
  have hn0 : n < s0.nodes.size := by rw [R0.same.size]; exact hn
  obtain ⟨s1, h1⟩ := mhas_ok hn0
  refine Corr.bind_ok h1 ?_
  refine Corr.bind_ok (scopeHeight_top_run s1) ?_
  have R1 : Irrel rk n s s1 := R0.trans (Irrel.mhas h1)
  have I1 : GInv env rk s1 op := I.congr R1.same
  have hn1 : n < s1.nodes.size := by rw [R1.same.size]; exact hn
  have hpar1 : ∀ p i, (p, i) ∈ (s1.nodeD n).parents → op p ≠ .closed := by
    intro p i hp; rw [(R1.same.node n).parents] at hp; exact hpar p i hp
  have hnq1 : (s1.nodeD n).inRch = false := by rw [R1.same.inRch]; exact hnq
  have hd1 : ∀ m, dp s1 m = dp s m := dp_of_cframe (R1.rel (fun _ => False)).fr
  refine Corr.bind_ret (fun ⟨_, R, _⟩ => ?_) (fun _ s2 h2 => ?_)
  · have Rm1 : Room N s1 := R.of_cframe (R1.rel (fun _ => False)).fr
    obtain ⟨s2, h2⟩ := setHeight_ok (n := n) (h := 0 + 1) (s := s1)
      (by rw [Rm1.ahh]; have := dp_room I1.static Rm1 hn1; omega)
    exact ⟨(), s2, h2⟩
  obtain ⟨U2, hab2, hl2, hh2, hoth2⟩ := setHeight_ok_upd (rk := rk) hn1 h2
  have hnq2 : (s2.nodeD n).inRch = false := by rw [U2.inRch (keeps_fHeight _)]; exact hnq1
  have I2 : GInv env rk s2 op := I1.setHeight_open U2 hopn hpar1
  have hn2 : n < s2.nodes.size := by rw [U2.size]; exact hn1
  have hcs : s2.children n = kids (s2.nodeD n).kind := I2.children hn2
  have hL2 : LRel (· = n) s s2 := (R1.rel _).trans hl2
  have hd2 : ∀ m, dp s2 m = dp s m := dp_of_cframe hL2.fr
  have hroom2 : Room N s → (dp s2 n : Int) + 1 ≤ (N : Int) := fun R => dp_room I2.static (R.of_cframe hL2.fr) hn2
  have hb2 : HBd s op → HBd s2 op := by
    intro hb
    refine HBd.transfer hb hd2 (fun m hm ho => ?_)
    have hmn : m ≠ n := fun e => by rw [e] at ho; exact hopn ho
    rw [State.isNecessary, hoth2 m hmn] at hm
    refine ⟨?_, ho, by rw [hoth2 m hmn, (R1.same.node m).height]⟩
    rw [← R1.same.nec m]; exact hm
  refine Corr.bind_getNode hn2 ?_
  refine Corr.bind_get ?_
  -- the loop
  refine Corr.bind (Corr.forIn _ (s2.children n)
      (fun j (b : Int × Nat) t => b.2 = j ∧ GInv env rk t (upd op n (.linking j)) ∧
        (∀ m, rk n ≤ rk m → t.nodeD m = s2.nodeD m) ∧ LRel (fun _ => False) s2 t ∧ 1 ≤ b.1 ∧
        (∀ i c, i < j → (s2.children n)[i]? = some c → (t.nodeD c).height < b.1) ∧
        (HBd s op → HBd t (upd op n (.linking j)) ∧ b.1 ≤ (dp s2 n : Int) + 1))
      ?hstep (s2.children n) 0 _ (by simp) (Nat.zero_le _) ?hinit) id ?rest
  case hinit =>
    exact ⟨rfl, by rw [upd_eq_self _ _ _ hop]; exact I2, fun _ _ => rfl, LRel.refl _ _, by rw [hh2]; omega,
      fun i c hi _ => by omega, fun hb => ⟨by rw [upd_eq_self _ _ _ hop]; exact hb2 hb, by rw [hh2]; omega⟩⟩
  case hstep =>
    intro j c b t hj ⟨hbj, It, hsame, hrel, hb1, hlt, hHB⟩
    have hkj : (kids (t.nodeD n).kind)[b.2]? = some c := by
      rw [hsame n (Nat.le_refl _), ← hcs, hbj]; exact hj
    have hcn : rk c < rk n := It.kid_lt hkj
    have hcne : c ≠ n := It.kid_ne hkj
    have hdt : ∀ m, dp t m = dp s2 m := dp_of_cframe hrel.fr
    have hdc : dp t c < dp t n := dp_kid_lt' It.static hkj
    have hlowc : ∀ m, upd op n (.linking j) m ≠ .closed → rk c < rk m := by
      intro m hm
      by_cases e : m = n
      · rw [e]; exact hcn
      · rw [upd_other _ _ _ e] at hm; have := hlow m hm; omega
    refine Corr.bind (ih c b.2 n t _ It (by rw [upd_self, hbj]) hkj hlowc)
      (fun ⟨hb, R, hf⟩ => ⟨(hHB hb).1, R.of_cframe (hL2.fr.trans hrel.fr),
        by have := hdt c; have := hdt n; have := hd2 n; omega⟩) ?_
    rintro _ t1 - ⟨It1, hab, hl, hnecc, hHB1⟩
    rw [upd_upd, hbj] at It1 hHB1
    have hct1 : c < t1.nodes.size := by
      rw [hl.fr.size]; exact It.kid_in hkj
    have hdt1 : ∀ m, dp t1 m = dp t m := dp_of_cframe hl.fr
    have hstep : ∀ h' : Int, b.1 ≤ h' → (t1.nodeD c).height < h' → (HBd s op → h' ≤ (dp s2 n : Int) + 1) →
        (j + 1 = j + 1) ∧ GInv env rk t1 (upd op n (.linking (j + 1))) ∧
        (∀ m, rk n ≤ rk m → t1.nodeD m = s2.nodeD m) ∧ LRel (fun _ => False) s2 t1 ∧ 1 ≤ h' ∧
        (∀ i c', i < j + 1 → (s2.children n)[i]? = some c' → (t1.nodeD c').height < h') ∧
        (HBd s op → HBd t1 (upd op n (.linking (j + 1))) ∧ h' ≤ (dp s2 n : Int) + 1) := by
      intro h' hle' hxl hn'
      refine ⟨rfl, It1, fun m hm => (hab m (by omega)).trans (hsame m hm), hrel.trans hl, by omega, ?_,
        fun hb => ⟨hHB1 (hHB hb).1, hn' hb⟩⟩
      intro i c' hi hc'
      by_cases e : i = j
      · rw [e, hj] at hc'
        cases hc'
        exact hxl
      · have hij : i < j := by omega
        have hk' : (kids (t.nodeD n).kind)[i]? = some c' := by
          rw [hsame n (Nat.le_refl _), ← hcs]; exact hc'
        have hmem := It.conv n i c' hk' ((wants_linking (upd_self _ _ _)).2 hij)
        rw [hl.hgt c' (fun h => h) (nec_of_mem_parents hmem)]
        have := hlt i c' hij hc'
        omega
    refine Corr.bind_getNode hct1 ?_
    by_cases hge : (t1.nodeD c).height ≥ b.1
    · rw [if_pos hge]
      refine Corr.pure ⟨_, rfl, ?_⟩
      have := hstep ((t1.nodeD c).height + 1) (by omega) (by omega) (fun hb => by
        have := hHB1 (hHB hb).1 c hnecc (by rw [upd_other _ _ _ hcne]; exact hclosed c hcn)
        have := hdt1 c; have := hdt n
        omega)
      rw [hbj]; exact this
    · rw [if_neg hge]
      refine Corr.pure ⟨_, rfl, ?_⟩
      have := hstep b.1 (by omega) (by omega) (fun hb => (hHB hb).2)
      rw [hbj]; exact this
  case rest =>
    rintro b s3 - ⟨hbl, I3, hsame3, hrel3, hb1, hlt3, hHB3⟩
    have hn3 : n < s3.nodes.size := by rw [hrel3.fr.size]; exact hn2
    have hL3 : LRel (· = n) s s3 := hL2.trans (hrel3.mono (fun _ h => h.elim))
    have hnq3 : (s3.nodeD n).inRch = false := by rw [hsame3 n (Nat.le_refl _)]; exact hnq2
    -- the final height
    refine Corr.bind_ret (fun ⟨hb, R, _⟩ => ?_) (fun _ s4 h4 => ?_)
    · obtain ⟨s4, h4⟩ := setHeight_ok (n := n) (h := b.1) (s := s3)
        (by rw [(R.of_cframe hL3.fr).ahh]; have := (hHB3 hb).2; have := hroom2 R; omega)
      exact ⟨(), s4, h4⟩
    obtain ⟨U4, hab4, hl4, hh4, hoth4⟩ := setHeight_ok_upd (rk := rk) hn3 h4
    have hnq4 : (s4.nodeD n).inRch = false := by rw [U4.inRch (keeps_fHeight _)]; exact hnq3
    have hpar3 : ∀ p i, (p, i) ∈ (s3.nodeD n).parents →
        upd op n (.linking (s2.children n).length) p ≠ .closed := by
      intro p i hp
      rw [upd_other _ _ _ (I3.par_ne hp).symm]
      rw [hsame3 n (Nat.le_refl _), U2.self.parents] at hp
      exact hpar1 p i hp
    have I4 : GInv env rk s4 (upd op n (.linking (s2.children n).length)) :=
      I3.setHeight_open U4 (by rw [upd_self]; exact fun e => by cases e) hpar3
    have hn4 : n < s4.nodes.size := by rw [U4.size]; exact hn3
    have hkind4 : (s4.nodeD n).kind = (s2.nodeD n).kind := by
      rw [U4.self.kind]; show (s3.nodeD n).kind = _; rw [hsame3 n (Nat.le_refl _)]
    have hpar4 : ∀ p i, (p, i) ∈ (s4.nodeD n).parents →
        upd op n (.linking (s2.children n).length) p ≠ .closed := by
      intro p i hp; rw [U4.self.parents] at hp; exact hpar3 p i hp
    have hhh : ∀ (i c : Nat), (kids (s4.nodeD n).kind)[i]? = some c →
        (s4.nodeD c).height < (s4.nodeD n).height := by
      intro i c hc
      rw [hkind4, ← hcs] at hc
      have hi : i < (s2.children n).length := by
        rcases Nat.lt_or_ge i (s2.children n).length with h | h
        · exact h
        · rw [List.getElem?_eq_none h] at hc; cases hc
      have hcn : c ≠ n := by
        have : (kids (s2.nodeD n).kind)[i]? = some c := by rw [← hcs]; exact hc
        exact I2.kid_ne this
      rw [hh4, hoth4 c hcn]
      exact hlt3 i c hi hc
    have hklen : (kids (s4.nodeD n).kind).length ≤ (s2.children n).length := by rw [hkind4, ← hcs]; exact Nat.le_refl _
    have hnec4 := I4.lnec n _ (upd_self _ _ _)
    have h04 : 0 ≤ (s4.nodeD n).height := by rw [hh4]; omega
    have hA : Above rk n s s4 := ((R1.above.trans hab2).trans (fun m hm => hsame3 m (by omega))).trans hab4
    have hL : LRel (· = n) s s4 := hL3.trans hl4
    have hd4 : ∀ m, dp s4 m = dp s2 m :=
      fun m => (dp_of_cframe hl4.fr m).trans (dp_of_cframe hrel3.fr m)
    -- the height bound for the final labelling, for any state with the same heights, depths and necessity
    have hfin : ∀ s' : State, (∀ m, (s'.nodeD m).height = (s4.nodeD m).height) →
        (∀ m, s'.isNecessary m = s4.isNecessary m) → (∀ m, dp s' m = dp s4 m) →
        HBd s op → HBd s' (upd op n .closed) := by
      intro s' hh hnc hdd hb m hm ho
      rw [hh, hdd]
      by_cases e : m = n
      · rw [e, hh4, hd4]; exact (hHB3 hb).2
      · rw [upd_other _ _ _ e] at ho
        rw [hnc, State.isNecessary, hoth4 m e] at hm
        rw [hoth4 m e, dp_of_cframe hl4.fr]
        exact (hHB3 hb).1 m hm (by rw [upd_other _ _ _ e]; exact ho)
    refine Corr.bind_get ?_
    refine Corr.bind_dassert (fun _ _ => by rw [hnq4]; rfl) ?_
    refine Corr.bind_dassert (fun _ _ => hnec4) ?_
    rw [I4.isStale hn4]
    cases hst : staleOf s4 n with
    | false =>
      simp only [Bool.false_eq_true, if_false]
      have I5 := I4.close_link_fresh (upd_self _ _ _) hnq4 hklen hpar4 hhh h04 hst
      rw [upd_upd] at I5
      exact tail_corr _ hn4 (I4.node hn4).valid (I4.node hn4).kind
        ⟨I5, hA, hL, hfin s4 (fun _ => rfl) (fun _ => rfl) (fun _ => rfl)⟩
    | true =>
      simp only [if_true]
      refine Corr.bind_ret (fun ⟨_, _, hf⟩ =>
          ⟨(), s4, markMapRefUnknown_static_run (by omega) hn4 (I4.node hn4).valid (I4.node hn4).kind⟩)
        (fun _ s5 h5 => ?_)
      have e5 : s5 = s4 := markMapRefUnknown_static hn4 (I4.node hn4).valid (I4.node hn4).kind h5
      subst e5
      have hpre : (!(s5.nodeD n).inRch && s5.needsToBeComputed n) = true := by
        rw [hnq4, State.needsToBeComputed, hnec4, I4.isStale hn4, hst]; rfl
      refine Corr.bind_ret (fun ⟨hb, R, _⟩ => ⟨(), _, rchInsert_run_ok hn4 hpre h04 (by
          rw [(R.of_cframe hL.fr).rch, hh4]; have := (hHB3 hb).2; have := hroom2 R; omega)⟩)
        (fun _ s6 h6 => ?_)
      obtain ⟨nd6, hnd6, -, hmax6, e6, hab6, hl6⟩ := rchInsert_rel (rk := rk) h6
      have hnd6D : s5.nodeD n = nd6 := nodeD_of_some hnd6
      have I5 := I4.close_link_stale (upd_self _ _ _) hnq4 hklen hpar4 hhh h04 (by rw [hnd6D]; exact hmax6) hst
      rw [upd_upd, hnd6D, ← e6] at I5
      have hnd : ∀ m, ∃ x, s6.nodeD m = { s5.nodeD m with heightInRch := x } := by
        intro m
        rw [e6, inserted_nodeD]
        split
        · exact ⟨_, rfl⟩
        · exact ⟨_, rfl⟩
      have hsz : s6.nodes.size = s5.nodes.size := (hl6 (· = n)).fr.size
      refine tail_corr (env := env) _ (by rw [hsz]; exact hn4) ?_ ?_
        ⟨I5, hA.trans hab6, hL.trans (hl6 _), hfin _ ?_ ?_ ?_⟩
      · obtain ⟨x, hx⟩ := hnd n; rw [hx]; exact (I4.node hn4).valid
      · obtain ⟨x, hx⟩ := hnd n; rw [hx]; exact (I4.node hn4).kind
      · intro m; obtain ⟨x, hx⟩ := hnd m; rw [hx]
      · intro m; obtain ⟨x, hx⟩ := hnd m; rw [State.isNecessary, hx]; rfl
      · exact dp_congr (fun m => by obtain ⟨x, hx⟩ := hnd m; rw [hx]) hsz

theorem link_corr (env : Env) {rk : Nat → Nat} (N fuel : Nat) : BNCorr env rk N fuel ∧ APCorr env rk N fuel := by
  induction fuel with
  | zero =>
    constructor
    · intro n s op _ _ _ _ _; unfold becameNecessary; exact Corr.throw (fun h => by omega)
    · intro c idx p s op _ _ _ _; unfold addParentWithoutAdjustingHeights; exact Corr.throw (fun h => by omega)
  | succ fuel ih => exact ⟨bn_corr env N fuel ih.2, ap_corr env N fuel ih.1⟩

/-- `addParentWithoutAdjustingHeights c idx p` that returned: the edge is recorded, `c` is necessary and closed -/
theorem addParentWithoutAdjustingHeights_specR {env : Env} {rk : Nat → Nat} {fuel c idx p : Nat} {s s' : State} {op : Nat → Op}
    (h : (addParentWithoutAdjustingHeights env fuel c idx p).run.run s = (.ok (), s')) (I : GInv env rk s op)
    (hop : op p = .linking idx) (hk : (kids (s.nodeD p).kind)[idx]? = some c) (hlow : ∀ m, op m ≠ .closed → rk c < rk m) :
    GInv env rk s' (upd op p (.linking (idx + 1))) ∧ Above rk c s s' ∧ LRel (fun _ => False) s s' ∧
      s'.isNecessary c = true :=
  have ⟨I', A, L, hn, _⟩ := ((link_corr env (rk := rk) 0 fuel).2 c idx p s op I hop hk hlow).ok h
  ⟨I', A, L, hn⟩

/-- **The linking cascade.** A successful `becameNecessary n` on a node that has just become necessary
(labelled `.linking 0`: none of its child edges is recorded yet), all of whose recorded parents are open and which
is the lowest open node, closes `n`: the structural invariant holds with `n` closed; nodes above `n` are
untouched; parent lists only grew; necessary nodes other than `n` kept their height. -/
theorem becameNecessary_spec {env : Env} {rk : Nat → Nat} {fuel n : Nat} {s s' : State} {op : Nat → Op}
    (h : (becameNecessary env fuel n).run.run s = (.ok (), s')) (I : GInv env rk s op)
    (hop : op n = .linking 0) (hnq : (s.nodeD n).inRch = false) (hlow : ∀ m, op m ≠ .closed → rk n ≤ rk m)
    (hpar : ∀ p i, (p, i) ∈ (s.nodeD n).parents → op p ≠ .closed) :
    GInv env rk s' (upd op n .closed) ∧ Above rk n s s' ∧ LRel (· = n) s s' :=
  have ⟨I', A, L, _⟩ := ((link_corr env (rk := rk) 0 fuel).1 n s op I hop hnq hlow hpar).ok h
  ⟨I', A, L⟩

end IncrVerif.Proofs.ExpertH.QR
