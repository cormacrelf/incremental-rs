import IncrVerif.Proofs.FullH63
/-!
# C01 full fragment: NON-VACUITY, part 3 — structural facts about the states of the example history (kernel-checked)
-/
namespace IncrVerif.Proofs.FullH
open IncrVerif.Engine IncrVerif.Driver IncrVerif.Proofs IncrVerif.Proofs.Step IncrVerif.Proofs.Sched IncrVerif.Proofs.Quiet
open IncrVerif.Proofs.BindH

theorem EX.fact_split {α β : Type} {acts : List Action} {f : State → α} {g : State → β} {a : α} {b : β}
    (h : EX.factF acts (fun s => (f s, g s)) = some (a, b)) : EX.factF acts f = some a ∧ EX.factF acts g = some b := by
  unfold EX.factF at *
  cases hs : C2h.stateB fEnv acts with
  | none => rw [hs] at h; cases h
  | some s =>
    rw [hs] at h
    simp only [Option.map_some, Option.some.injEq, Prod.mk.injEq] at h ⊢
    exact h

set_option maxRecDepth 100000 in
set_option synthInstance.maxSize 4000 in
/-- after the first `stabilise`: nodes 3, 4 = the bind; the outer closure created, in scope `.bind 0`, the map_ref CHAIN 5, 6 (`mapRef 1 n0`, `mapRef 1 %0`),
the `mapWithOld 7` node 7 (stored value `a = 5`), `map f0 [7, n2]`, the inner bind 9, 10 (record 1) and `map f0 [8, 10]`; the inner closure created, in scope
`.bind 1`, `mapRef 2 n0` (node 12) and `mapWithOld 7 12` (node 13, stored value `c = 7`) -/
theorem exHistF_first :
    EX.factF (exHistF.take 6) (fun s => s.nodes.size) = some 14 ∧
    EX.factF (exHistF.take 6) (fun s => ((s.nodeD 5).kind, (s.nodeD 6).kind, (s.nodeD 7).kind, (s.nodeD 8).kind)) =
      some (.mapRef 1 0, .mapRef 1 5, .mapWithOld 7 6, .map 0 [7, 2]) ∧
    EX.factF (exHistF.take 6) (fun s => ((s.nodeD 9).kind, (s.nodeD 10).kind, (s.nodeD 11).kind)) =
      some (.bindLhsChange 1, .bindMain 1 9, .map 0 [8, 10]) ∧
    EX.factF (exHistF.take 6) (fun s => ((s.nodeD 12).kind, (s.nodeD 13).kind)) = some (.mapRef 2 0, .mapWithOld 7 12) ∧
    EX.factF (exHistF.take 6) (fun s => ((s.nodeD 5).createdIn, (s.nodeD 7).createdIn, (s.nodeD 12).createdIn)) =
      some (.bind 0, .bind 0, .bind 1) ∧
    EX.factF (exHistF.take 6) (fun s => s.binds.toList.map (·.allNodesCreatedOnRhs)) = some [[5, 6, 7, 8, 9, 10, 11], [12, 13]] ∧
    EX.factF (exHistF.take 6) (fun s => ((s.nodeD 7).value, (s.nodeD 13).value, (s.nodeD 5).value)) =
      some (some (.int 5), some (.int 7), none) := by
  have aux : EX.factF (exHistF.take 6) (fun s => ((s.nodes.size), (((s.nodeD 5).kind, (s.nodeD 6).kind, (s.nodeD 7).kind, (s.nodeD 8).kind)), (((s.nodeD 9).kind, (s.nodeD 10).kind, (s.nodeD 11).kind)), (((s.nodeD 12).kind, (s.nodeD 13).kind)), (((s.nodeD 5).createdIn, (s.nodeD 7).createdIn, (s.nodeD 12).createdIn)), (s.binds.toList.map (·.allNodesCreatedOnRhs)), (((s.nodeD 7).value, (s.nodeD 13).value, (s.nodeD 5).value)))) =
      some ((14), ((.mapRef 1 0, .mapRef 1 5, .mapWithOld 7 6, .map 0 [7, 2])), ((.bindLhsChange 1, .bindMain 1 9, .map 0 [8, 10])), ((.mapRef 2 0, .mapWithOld 7 12)), ((.bind 0, .bind 0, .bind 1)), ([[5, 6, 7, 8, 9, 10, 11], [12, 13]]), ((some (.int 5), some (.int 7), none))) := by decide +kernel
  obtain ⟨h1, aux⟩ := EX.fact_split aux
  obtain ⟨h2, aux⟩ := EX.fact_split aux
  obtain ⟨h3, aux⟩ := EX.fact_split aux
  obtain ⟨h4, aux⟩ := EX.fact_split aux
  obtain ⟨h5, aux⟩ := EX.fact_split aux
  obtain ⟨h6, aux⟩ := EX.fact_split aux
  exact ⟨h1, h2, h3, h4, h5, h6, aux⟩

set_option maxRecDepth 100000 in
set_option synthInstance.maxSize 4000 in
/-- the second `stabilise` (ONLY `c` changed; it ran at stamp 1): the first map_ref node 5 was recomputed (stamp 1) but did NOT change (`changedAt = 0`), its
flag is down; the rest of the chain (6, the machine 7, node 8) was NOT recomputed; `mapRef 2 n0` (node 12) changed, the inner machine 13 now stores `70` -/
theorem exHistF_c_only :
    EX.factF (exHistF.take 8) (fun s => ((s.nodeD 5).recomputedAt, (s.nodeD 5).changedAt, (s.nodeD 5).didChange)) = some (1, 0, false) ∧
    EX.factF (exHistF.take 8) (fun s => ((s.nodeD 6).recomputedAt, (s.nodeD 7).recomputedAt, (s.nodeD 8).recomputedAt)) = some (0, 0, 0) ∧
    EX.factF (exHistF.take 8) (fun s => ((s.nodeD 12).recomputedAt, (s.nodeD 12).changedAt, (s.nodeD 13).value, (s.nodeD 7).value)) =
      some (1, 1, some (.int 70), some (.int 5)) := by
  have aux : EX.factF (exHistF.take 8) (fun s => ((((s.nodeD 5).recomputedAt, (s.nodeD 5).changedAt, (s.nodeD 5).didChange)), (((s.nodeD 6).recomputedAt, (s.nodeD 7).recomputedAt, (s.nodeD 8).recomputedAt)), (((s.nodeD 12).recomputedAt, (s.nodeD 12).changedAt, (s.nodeD 13).value, (s.nodeD 7).value)))) =
      some (((1, 0, false)), ((0, 0, 0)), ((1, 1, some (.int 70), some (.int 5)))) := by decide +kernel
  obtain ⟨h1, aux⟩ := EX.fact_split aux
  obtain ⟨h2, aux⟩ := EX.fact_split aux
  exact ⟨h1, h2, aux⟩

set_option maxRecDepth 100000 in
set_option synthInstance.maxSize 4000 in
/-- the third `stabilise` (`a` changed; stamp 2): the whole chain changed, the machine stores `9`; `mapRef 2 n0` was recomputed but did not change,
the inner machine was not recomputed -/
theorem exHistF_a_changed :
    EX.factF (exHistF.take 10) (fun s => ((s.nodeD 5).changedAt, (s.nodeD 6).changedAt, (s.nodeD 7).changedAt, (s.nodeD 7).value)) =
      some (2, 2, 2, some (.int 9)) ∧
    EX.factF (exHistF.take 10) (fun s => ((s.nodeD 12).recomputedAt, (s.nodeD 12).changedAt, (s.nodeD 13).recomputedAt)) = some (2, 1, 1) ∧
    EX.factF (exHistF.take 10) (fun s => (List.range 14).all fun n => (s.nodeD n).valid) = some true := by
  have aux : EX.factF (exHistF.take 10) (fun s => ((((s.nodeD 5).changedAt, (s.nodeD 6).changedAt, (s.nodeD 7).changedAt, (s.nodeD 7).value)), (((s.nodeD 12).recomputedAt, (s.nodeD 12).changedAt, (s.nodeD 13).recomputedAt)), ((List.range 14).all fun n => (s.nodeD n).valid))) =
      some (((2, 2, 2, some (.int 9))), ((2, 1, 1)), (true)) := by decide +kernel
  obtain ⟨h1, aux⟩ := EX.fact_split aux
  obtain ⟨h2, aux⟩ := EX.fact_split aux
  exact ⟨h1, h2, aux⟩

end IncrVerif.Proofs.FullH
