import IncrVerif.Proofs.BindH83
import IncrVerif.Engine.Run
/-!
# Binds, part 4c-4 (B4): the monadic part of top-level creation — closed forms of `createNode`, `createVar`, `createBind` at top level, and the
elaboration of the instructions of the fragment
-/
namespace IncrVerif.Proofs.BindH
open IncrVerif.Engine IncrVerif.Driver IncrVerif.Proofs IncrVerif.Proofs.Step IncrVerif.Proofs.Sched IncrVerif.Proofs.Quiet

namespace C2c

theorem nodeD_push (nodes : Array Node) (nd : Node) (m : Nat) :
    (nodes.push nd)[m]?.getD default = if m = nodes.size then nd else nodes[m]?.getD default := by
  rw [Array.getElem?_push]
  split <;> rfl

theorem fresh_getD_of_ge (nodes : Array Node) (m : Nat) (h : nodes.size ≤ m) :
    Fresh (nodes[m]?.getD default) := by
  rw [Array.getElem?_eq_none h]; exact fresh_default

/-- `s1` is `s` plus one pristine top-level node of kind `k` (and, for a `var`, its cell) -/
structure Made (k : Kind) (s s1 : State) : Prop where
  ext : Ext s s1
  nodes : s1.nodes = s.nodes.push (newNode k)
  binds : s1.binds = s.binds
  top : s1.top = s.top
  vars : ((∀ c, k ≠ .var c) ∧ s1.vars = s.vars) ∨
    ∃ v, k = .var s.vars.size ∧
      s1.vars = s.vars.push { value := v, setAt := s.stabNum, node := s.nodes.size }

/-- `s1` is `s` plus the record and the two nodes of a bind with closure `body` on `lhs` -/
structure MadeBind (body lhs : Nat) (s s1 : State) : Prop where
  ext : Ext s s1
  nodes : s1.nodes =
    (s.nodes.push { kind := .bindLhsChange s.binds.size, createdIn := .top, cutoff := .never }).push
      { kind := .bindMain s.binds.size s.nodes.size, createdIn := .top, cutoff := .eq }
  binds : s1.binds = (s.binds.push { lhs := lhs, body := body }).modify s.binds.size
    (fun x => { x with lhsChange := s.nodes.size, main := s.nodes.size + 1 })
  top : s1.top = s.top
  vars : s1.vars = s.vars

theorem ext_push1 {s s1 : State} {nd : Node} (hf : Fresh nd) (hn : s1.nodes = s.nodes.push nd)
    (hb : s1.binds = s.binds)
    (hv : s1.vars = s.vars ∨
      ∃ v, s1.vars = s.vars.push { value := v, setAt := s.stabNum, node := s.nodes.size })
    (h1 : s1.rch = s.rch) (h2 : s1.ahh = s.ahh) (h3 : s1.panicCountdown = s.panicCountdown)
    (h4 : s1.currentScope = s.currentScope) (h5 : s1.stabNum = s.stabNum) (h6 : s1.status = s.status)
    (h7 : s1.alive = s.alive) (h8 : s1.setDuringStab = s.setDuringStab) (h9 : s1.deadVars = s.deadVars)
    (h10 : s1.handleAfterStab = s.handleAfterStab) (h11 : s1.propagateInvalidity = s.propagateInvalidity)
    (h12 : s1.observers = s.observers) (h13 : s1.newObservers = s.newObservers)
    (h14 : s1.disallowedObservers = s.disallowedObservers) : Ext s s1 := by
  refine ⟨by rw [hn, Array.size_push]; omega, ?_, ?_, by rw [hb]; exact Nat.le_refl _, fun b _ => by rw [hb],
    hv, h1, h2, h3, h4, h5, h6, h7, h8, h9, h10, h11, h12, h13, h14⟩
  · intro m hm
    show s1.nodes[m]?.getD default = s.nodes[m]?.getD default
    rw [hn, nodeD_push, if_neg (by omega)]
  · intro m hm
    show Fresh (s1.nodes[m]?.getD default)
    rw [hn, nodeD_push]
    split
    · exact hf
    · exact fresh_getD_of_ge _ _ hm

theorem createNode_made {k : Kind} {s s1 : State} {n : Nat} (hk : ∀ c, k ≠ .var c)
    (h : (createNode k .top).run.run s = (.ok n, s1)) : n = s.nodes.size ∧ Made k s s1 := by
  rw [createNode_top_run] at h
  cases h
  refine ⟨rfl, ⟨?_, rfl, rfl, rfl, Or.inl ⟨hk, rfl⟩⟩⟩
  exact ext_push1 (nd := newNode k) ⟨k, .eq, rfl⟩ rfl rfl (Or.inl rfl) rfl rfl rfl rfl rfl rfl rfl rfl rfl rfl
    rfl rfl rfl rfl

theorem createVar_made {v : Val} {s s1 : State} {n : Nat}
    (h : (createVar v .top).run.run s = (.ok n, s1)) :
    n = s.nodes.size ∧ Made (.var s.vars.size) s s1 := by
  rw [createVar_top_run] at h
  cases h
  refine ⟨rfl, ⟨?_, rfl, rfl, rfl, Or.inr ⟨v, rfl, rfl⟩⟩⟩
  exact ext_push1 (nd := newNode (.var s.vars.size)) ⟨_, .eq, rfl⟩ rfl rfl (Or.inr ⟨v, rfl⟩) rfl rfl rfl rfl
    rfl rfl rfl rfl rfl rfl rfl rfl rfl rfl

/-! ## `createBind` at top level -/

theorem createNode_top_run' (k : Kind) (c : CutoffK) (s : State) :
    (createNode k .top c).run.run s = (.ok s.nodes.size,
      { s with counters := { s.counters with created := s.counters.created + 1 },
               nodes := s.nodes.push { kind := k, createdIn := .top, cutoff := c } }) := rfl

/-- the closed form of `createBind` at top level -/
theorem createBind_run (body lhs : Nat) (s : State) (hsc : s.currentScope = .top) :
    (createBind body lhs).run.run s = (.ok (s.nodes.size + 1),
      { s with counters := { s.counters with created := s.counters.created + 1 + 1 },
               binds := (s.binds.push { lhs := lhs, body := body }).modify s.binds.size
                  (fun x => { x with lhsChange := s.nodes.size, main := s.nodes.size + 1 }),
               nodes := (s.nodes.push { kind := .bindLhsChange s.binds.size, createdIn := .top, cutoff := .never }).push
                  { kind := .bindMain s.binds.size s.nodes.size, createdIn := .top, cutoff := .eq } }) := by
  unfold createBind
  rw [run_bind_get, run_bind_modify]
  simp only [hsc]
  rw [run_bind_ok (createNode_top_run' _ _ _), run_bind_ok (createNode_top_run' _ _ _)]
  simp only [Array.size_push]
  rfl

theorem createBind_made {body lhs : Nat} {s s1 : State} {n : Nat} (hsc : s.currentScope = .top)
    (h : (createBind body lhs).run.run s = (.ok n, s1)) : n = s.nodes.size + 1 ∧ MadeBind body lhs s s1 := by
  rw [createBind_run body lhs s hsc] at h
  cases h
  refine ⟨rfl, ⟨?_, rfl, rfl, rfl, rfl⟩⟩
  refine ⟨?_, ?_, ?_, ?_, ?_, Or.inl rfl, rfl, rfl, rfl, rfl, rfl, rfl, rfl, rfl, rfl, rfl, rfl, rfl, rfl, rfl⟩
  · show s.nodes.size ≤ ((s.nodes.push _).push _).size
    rw [Array.size_push, Array.size_push]; omega
  · intro m hm
    show ((s.nodes.push _).push _)[m]?.getD default = s.nodes[m]?.getD default
    rw [nodeD_push, Array.size_push, if_neg (by omega), nodeD_push, if_neg (by omega)]
  · intro m hm
    show Fresh (((s.nodes.push _).push _)[m]?.getD default)
    rw [nodeD_push]
    split
    · exact ⟨_, _, rfl⟩
    · rw [nodeD_push]
      split
      · exact ⟨_, _, rfl⟩
      · exact fresh_getD_of_ge _ _ hm
  · show s.binds.size ≤ ((s.binds.push _).modify _ _).size
    rw [Array.size_modify, Array.size_push]; omega
  · intro b hb
    show ((s.binds.push _).modify _ _)[b]? = s.binds[b]?
    rw [Array.getElem?_modify, if_neg (by omega), Array.getElem?_push, if_neg (by omega)]

/-! ## elaboration -/

/-- elaboration of a static instruction at top level: one pristine node whose children are named by the table -/
theorem elab_static1 {env : Env} {s s1 : State} {i : Instr} {ro : Option Nat} (hsc : s.currentScope = .top)
    (hi : StaticInstr env i) (h : (elabInstrM env [] .unit i).run.run s = (.ok ro, s1)) :
    ∃ k, ro = some s.nodes.size ∧ StaticKind env k ∧ (∀ c, c ∈ kids k → ∃ j : Nat, s.top[j]? = some c) ∧
      Made k s s1 := by
  cases i with
  | const v =>
    unfold elabInstrM at h
    simp only at h
    unfold elabInstr at h
    rw [run_bind_get] at h
    simp only [hsc] at h
    obtain ⟨n, h1, e⟩ := map_ok_inv h
    obtain ⟨en, C⟩ := createNode_made (by intro c e; cases e) h1
    exact ⟨.const v, by rw [e, en], trivial, (fun c hc => by cases hc), C⟩
  | var v =>
    unfold elabInstrM at h
    simp only at h
    unfold elabInstr at h
    rw [run_bind_get] at h
    simp only at h
    obtain ⟨n, h1, e⟩ := map_ok_inv h
    obtain ⟨en, C⟩ := createVar_made h1
    exact ⟨.var s.vars.size, by rw [e, en], trivial, (fun c hc => by cases hc), C⟩
  | map f args =>
    unfold elabInstrM at h
    simp only at h
    unfold elabInstr at h
    rw [run_bind_get] at h
    simp only [hsc] at h
    obtain ⟨as, t, h1, h2⟩ := bind_ok_inv h
    obtain ⟨et, has⟩ := mapM_resolve_inv1 args as t hi.2.2 h1
    rw [et] at h2
    obtain ⟨n, h3, e⟩ := map_ok_inv h2
    obtain ⟨en, C⟩ := createNode_made (by intro c e; cases e) h3
    exact ⟨.map f as, by rw [e, en], ⟨hi.1, hi.2.1⟩, has, C⟩
  | fold f init cs =>
    unfold elabInstrM at h
    simp only at h
    unfold elabInstr at h
    rw [run_bind_get] at h
    simp only [hsc] at h
    obtain ⟨as, t, h1, h2⟩ := bind_ok_inv h
    obtain ⟨et, has⟩ := mapM_resolve_inv1 cs as t hi h1
    rw [et] at h2
    split at h2
    · obtain ⟨n, h3, e⟩ := map_ok_inv h2
      obtain ⟨en, C⟩ := createNode_made (by intro c e; cases e) h3
      exact ⟨.const init, by rw [e, en], trivial, (fun c hc => by cases hc), C⟩
    · obtain ⟨n, h3, e⟩ := map_ok_inv h2
      obtain ⟨en, C⟩ := createNode_made (by intro c e; cases e) h3
      exact ⟨.fold f init as, by rw [e, en], trivial, has, C⟩
  | zip a b =>
    unfold elabInstrM at h
    simp only at h
    unfold elabInstr at h
    rw [run_bind_get] at h
    simp only [hsc] at h
    obtain ⟨na, t, h1, h2⟩ := bind_ok_inv h
    obtain ⟨et, ka, hka⟩ := resolveOpnd_outer_inv hi.1 h1
    rw [et] at h2
    obtain ⟨nb, t, h1, h2⟩ := bind_ok_inv h2
    obtain ⟨et, kb, hkb⟩ := resolveOpnd_outer_inv hi.2 h1
    rw [et] at h2
    obtain ⟨ca, t, h1, h2⟩ := bind_ok_inv h2
    rw [isConstant_ok_inv h1] at h2
    obtain ⟨cb, t, h1, h2⟩ := bind_ok_inv h2
    rw [isConstant_ok_inv h1] at h2
    split at h2
    · obtain ⟨n, h3, e⟩ := map_ok_inv h2
      obtain ⟨en, C⟩ := createNode_made (by intro c e; cases e) h3
      rename_i va vb _ _
      exact ⟨.const (.pair va vb), by rw [e, en], trivial, (fun c hc => by cases hc), C⟩
    · obtain ⟨n, h3, e⟩ := map_ok_inv h2
      obtain ⟨en, C⟩ := createNode_made (by intro c e; cases e) h3
      refine ⟨.map fnZip [na, nb], by rw [e, en], ⟨by decide, fun hlt => absurd hlt (by decide)⟩, ?_, C⟩
      intro c hc
      simp only [kids, List.mem_cons, List.not_mem_nil, or_false] at hc
      rcases hc with e | e
      · rw [e]; exact ⟨ka, hka⟩
      · rw [e]; exact ⟨kb, hkb⟩
  | _ => exact hi.elim

/-- elaboration of a `bind` instruction at top level -/
theorem elab_bind1 {env : Env} {s s1 : State} {body k : Nat} {ro : Option Nat} (hsc : s.currentScope = .top)
    (h : (elabInstrM env [] .unit (.bind body (.outer k))).run.run s = (.ok ro, s1)) :
    ∃ lhs, s.top[k]? = some lhs ∧ ro = some (s.nodes.size + 1) ∧ MadeBind body lhs s s1 := by
  unfold elabInstrM at h
  simp only at h
  unfold elabInstr at h
  rw [run_bind_get] at h
  simp only at h
  obtain ⟨lhs, t, h1, h2⟩ := bind_ok_inv h
  obtain ⟨et, k', hk'⟩ := resolveOpnd_outer_inv (o := .outer k) trivial h1
  rw [et] at h2
  obtain ⟨n, h3, e⟩ := map_ok_inv h2
  obtain ⟨en, C⟩ := createBind_made hsc h3
  refine ⟨lhs, ?_, by rw [e, en], C⟩
  -- the table entry: redo the inversion to get the index
  unfold resolveOpnd at h1
  simp only at h1
  rw [run_bind_get] at h1
  cases hm : s.top[k]? with
  | some m =>
    rw [hm] at h1
    obtain ⟨e1, -⟩ := pure_ok_inv h1
    rw [e1]
  | none => rw [hm] at h1; cases h1

end C2c
end IncrVerif.Proofs.BindH
