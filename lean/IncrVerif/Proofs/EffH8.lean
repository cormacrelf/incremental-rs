import IncrVerif.Proofs.EffH7
import IncrVerif.Proofs.Subs1
/-!
# Effects, part 8: what a node function saw; the values after a `stabilise` with write effects; staleness and
`isStable` afterwards
-/
namespace IncrVerif.Proofs.EffH
open IncrVerif.Engine IncrVerif.Driver IncrVerif.Proofs IncrVerif.Proofs.Step IncrVerif.Proofs.Sched
open IncrVerif.Proofs.Quiet

/-! ## the nodes below the current node carry their from-scratch values -/

theorem eval_of_consistent_on (env : Env) (s : State) (g : Graph env s) (P : Nat → Prop)
    (hP : ∀ m, P m → s.isNecessary m = true ∧ Consistent env s m ∧ ∀ a, a ∈ kids (s.nodeD m).kind → P a) :
    ∀ k n, P n → (s.nodeD n).height.toNat < k → (s.nodeD n).value = eval env s k n := by
  intro k
  induction k with
  | zero => intro n _ h; omega
  | succ k ih =>
    intro n hn hk
    obtain ⟨hnec, ⟨v, ht, hv⟩, hkidsP⟩ := hP n hn
    have hkids : ∀ a, a ∈ kids (s.nodeD n).kind → (s.nodeD a).value = eval env s k a := by
      intro a ha
      obtain ⟨h1, h2⟩ := g.kids_nec hnec ha
      have h0 := (g.nec a h1).2.2.2.2
      exact ih a (hkidsP a ha) (by omega)
    rw [hv]
    unfold Target at ht
    unfold Sched.eval
    cases hkd : (s.nodeD n).kind with
    | const w => rw [hkd] at ht; simp only [ht]
    | var c =>
      rw [hkd] at ht
      obtain ⟨vc, h1, h2⟩ := ht
      simp only [h1, h2, Option.map_some]
    | map f args =>
      rw [hkd] at ht hkids
      obtain ⟨vals, h1, h2⟩ := ht
      simp only
      rw [← evalArgs_congr _ _ args (fun a ha => hkids a ha)]
      unfold plainVals at h1
      rw [h1, h2]; rfl
    | fold f init cs =>
      rw [hkd] at ht hkids
      obtain ⟨vals, h1, h2⟩ := ht
      simp only
      rw [← evalArgs_congr _ _ cs (fun a ha => hkids a ha)]
      unfold plainVals at h1
      rw [h1, h2]; rfl
    | mapRef _ _ => rw [hkd] at ht; exact ht.elim
    | mapWithOld _ _ => rw [hkd] at ht; exact ht.elim
    | bindLhsChange _ => rw [hkd] at ht; exact ht.elim
    | bindMain _ _ => rw [hkd] at ht; exact ht.elim
    | expert _ => rw [hkd] at ht; exact ht.elim

/-- every node strictly below the current node of the scheduling invariant is up to date: its stored value (also as
read through `State.value`) is its from-scratch value on the current values of the variables -/
theorem inv_below_values {env : Env} {s : State} {n : Nat} (I : Inv env s (some n)) (d : Nat)
    (hd : Anc s n d) (hne : d ≠ n) (k : Nat) (hk : (s.nodeD d).height.toNat < k) :
    (s.nodeD d).value = eval env s k d ∧ s.value env d = eval env s k d ∧ (eval env s k d).isSome = true := by
  have g := I.graph
  obtain ⟨hn, hbelow⟩ := I.cur n rfl
  let P : Nat → Prop := fun m => Anc s n m ∧ m ≠ n
  have hP : ∀ m, P m → s.isNecessary m = true ∧ Consistent env s m ∧
      ∀ a, a ∈ kids (s.nodeD m).kind → P a := by
    intro m ⟨hm, hmn⟩
    have hnec := hm.nec g hn
    have hnst : s.isStale m = false := by
      cases hst : s.isStale m with
      | false => rfl
      | true =>
        rcases I.pending m hnec hst with h | h
        · rw [hbelow m hm] at h; cases h
        · cases h; exact absurd rfl hmn
    refine ⟨hnec, I.cons m hnec hnst, fun a ha => ?_⟩
    have ha' : Anc s m a := Anc.step hnec ha (Anc.refl a)
    refine ⟨hm.trans ha', fun e => ?_⟩
    have h1 := (g.kids_nec hnec ha).2
    have h2 := hm.height_le g
    rw [e] at h1; omega
  have hv := eval_of_consistent_on env s g P hP k d ⟨hd, hne⟩ hk
  obtain ⟨-, ⟨v, -, hval⟩, -⟩ := hP d ⟨hd, hne⟩
  refine ⟨hv, ?_, ?_⟩
  · rw [g.value_plain (hd.nec g hn)]; exact hv
  · rw [← hv, hval]; rfl

/-! ## what the node function of a step saw -/

/-- the from-scratch values of a list of nodes in state `t` (each with fuel just above its height) -/
def argVals (env : Env) (t : State) (args : List Nat) : Option (List Val) :=
  evalArgs (fun a => eval env t ((t.nodeD a).height.toNat + 1) a) args

/-- the effects node `m` issues when its function is applied to the from-scratch values of its children in `t` -/
def evalEffs (env : Env) (t : State) (m : Nat) : List Effect :=
  match (t.nodeD m).kind with
  | .map f args =>
    if f < fnZip then
      match argVals env t args with
      | some vals => env.fnEff f vals
      | none => []
    else []
  | _ => []

/-- **(a)** the state `p.2` in which node `p.1` ran during a drain that started in `t`: the variables have the
values they had in `t` (only `pending` differs), and every child of the node carries — as seen by the node function —
its from-scratch value on the variables of `t` -/
theorem step_saw {env : Env} {t : State} {p : Nat × State} (o : StepOK env t p) :
    (∀ (v : Nat) (c : VarCell), t.vars[v]? = some c → ∃ c', p.2.vars[v]? = some c' ∧ c'.value = c.value) ∧
    (p.2.nodeD p.1).kind = (t.nodeD p.1).kind ∧
    ∀ a, a ∈ kids (p.2.nodeD p.1).kind → ∀ k, (t.nodeD a).height.toNat < k →
      p.2.value env a = eval env t k a ∧ (eval env t k a).isSome = true := by
  have I := o.di.inv
  have F := o.dr.frame
  refine ⟨fun v c hc => ?_, (F.shape p.1).kind, fun a ha k hk => ?_⟩
  · obtain ⟨c', h1, h2⟩ := F.cell v c hc
    exact ⟨c', h1, h2.value⟩
  · have hn := (I.cur p.1 rfl).1
    have hanc : Anc p.2 p.1 a := Anc.step hn ha (Anc.refl a)
    have hne : a ≠ p.1 := by
      intro e
      have := (I.graph.kids_nec hn ha).2
      rw [e] at this; omega
    obtain ⟨-, h2, h3⟩ := inv_below_values I a hanc hne k (by rw [(F.shape a).height]; exact hk)
    rw [F.eval, eval_noEff] at h2 h3
    exact ⟨by rw [← value_noEff]; exact h2, h3⟩

theorem nodeEffs_eq_evalEffs {env : Env} {t : State} {p : Nat × State} (o : StepOK env t p) :
    nodeEffs env p.2 p.1 = evalEffs env t p.1 := by
  obtain ⟨-, hk, hsaw⟩ := step_saw o
  unfold nodeEffs evalEffs
  rw [hk]
  cases hkd : (t.nodeD p.1).kind <;> try rfl
  rename_i f args
  by_cases hf : f < fnZip
  · simp only [if_pos hf]
    have : valuesOf env p.2 args = argVals env t args := by
      rw [valuesOf_eq_evalArgs]
      unfold argVals
      apply evalArgs_congr
      intro a ha
      exact (hsaw a (by rw [hk, hkd]; exact ha) _ (Nat.lt_succ_self _)).1
    rw [this]
    rfl
  · simp only [if_neg hf]

/-- **(b), the order:** the deferred writes of a drain are those of its trace, in the order the functions ran, each
function applied to the from-scratch values of its arguments on the PRE-STABILISE variables -/
theorem stepsWrites_eq_trace {env : Env} {fuel : Nat} {t t' : State}
    (R : RunOK env (drainSteps env fuel t) t t') :
    stepsWrites env (drainSteps env fuel t) =
      (drainTrace env fuel t).flatMap fun m => writesOf (evalEffs env t m) := by
  rw [← drainSteps_fst, List.flatMap_map]
  unfold stepsWrites
  have key : ∀ l : List (Nat × State), (∀ p, p ∈ l → StepOK env t p) →
      (l.flatMap fun p => writesOf (nodeEffs env p.2 p.1)) =
        l.flatMap fun p => writesOf (evalEffs env t p.1) := by
    intro l
    induction l with
    | nil => intro _; rfl
    | cons p l ih =>
      intro hl
      simp only [List.flatMap_cons]
      rw [nodeEffs_eq_evalEffs (hl p (List.mem_cons_self ..)), ih (fun q hq => hl q (List.mem_cons_of_mem _ hq))]
  exact key _ R.steps

/-! ## the final state -/

section final
variable {env : Env} {fuel : Nat} {s t2 t3 S s' : State}

theorem EStab.nodeS (X : EStab env fuel s t2 t3 S s') (m : Nat) :
    (s'.nodeD m).kind = (S.nodeD m).kind ∧ (s'.nodeD m).value = (S.nodeD m).value ∧
    (s'.nodeD m).valid = (S.nodeD m).valid ∧ (s'.nodeD m).height = (S.nodeD m).height ∧
    (s'.nodeD m).recomputedAt = (S.nodeD m).recomputedAt ∧ (s'.nodeD m).changedAt = (S.nodeD m).changedAt ∧
    s'.isNecessary m = S.isNecessary m := by
  obtain ⟨h, b, e⟩ := X.node m
  refine ⟨by rw [e], by rw [e], by rw [e], by rw [e], by rw [e], by rw [e], ?_⟩
  simp only [State.isNecessary, Node.isNecessary, e]

/-- **(a)/(d) values.** After the `stabilise`, every necessary node is valid and carries — in its `value` field and
as read by observers — its defining expression evaluated from scratch in the final graph on the PRE-STABILISE
variables `s.vars` (not on the written ones). -/
theorem EStab.values (X : EStab env fuel s t2 t3 S s') (n : Nat) (hn : s'.isNecessary n = true) (k : Nat)
    (hk : (s'.nodeD n).height.toNat < k) :
    (s'.nodeD n).valid = true ∧ (s'.nodeD n).value = eval env { s' with vars := s.vars } k n ∧
      s'.value env n = eval env { s' with vars := s.vars } k n ∧
      (eval env { s' with vars := s.vars } k n).isSome = true := by
  obtain ⟨e1, e2, e3, e4, -, -, e7⟩ := X.nodeS n
  obtain ⟨v1, -, v3, -, v5⟩ := X.clean.values n (by rw [← e7]; exact hn) k (by rw [← e4]; exact hk)
  have hev : eval env { s' with vars := s.vars } k n = eval (noEff env) S k n := by
    rw [← eval_noEff]
    exact eval_congr (s := S) (s' := { s' with vars := s.vars }) (fun m => (X.nodeS m).1) X.clean.vars.symm k n
  have hval : (s'.nodeD n).value = eval env { s' with vars := s.vars } k n := by rw [e2, hev]; exact v3
  refine ⟨by rw [e3]; exact v1, hval, ?_, by rw [hev]; exact v5⟩
  rw [← value_noEff, X.inv.q.quiet.graph.value_plain hn]; exact hval

/-- the deferred writes of the stabilisation, in program order -/
def EStab.writes (_ : EStab env fuel s t2 t3 S s') : Writes := stepsWrites env (drainSteps env fuel t2)

/-- a node `m` that is not stale in `R`; `s'` has the nodes of `R` up to fields staleness does not read, and the variables of `R` (up to
fields other than `setAt`) after the writes `W` stamped `now`: `m` is stale in `s'` iff it is the watch node of a written variable -/
theorem staleOf_written {env : Env} {R s' : State} {m : Nat} {W : Writes} {now : Int} (hsR : staleOf R m = false)
    (hstat : StaticKind env (R.nodeD m).kind) (hkind : (s'.nodeD m).kind = (R.nodeD m).kind)
    (hrec : (s'.nodeD m).recomputedAt = (R.nodeD m).recomputedAt)
    (hch : ∀ c, (s'.nodeD c).changedAt = (R.nodeD c).changedAt) (hlt : (R.nodeD m).recomputedAt < now)
    (hvar : ∀ c, (R.nodeD m).kind = .var c → ∃ vcR c0, R.vars[c]? = some vcR ∧ c0.setAt = vcR.setAt ∧
      s'.vars[c]? = some (cellAfter now (writesTo c W) c0)) :
    staleOf s' m = true ↔ ∃ v, (s'.nodeD m).kind = .var v ∧ writesTo v W ≠ [] := by
  unfold staleOf at hsR ⊢
  rw [hkind, hrec]
  cases hk : (R.nodeD m).kind with
  | var c =>
    rw [hk] at hsR
    simp only at hsR ⊢
    obtain ⟨vcR, c0, hvc, hset, hv'⟩ := hvar c hk
    simp only [hvc] at hsR
    rw [hv']
    cases hw : writesTo c W with
    | nil =>
      simp only [cellAfter]
      constructor
      · intro h
        have h' := of_decide_eq_true h
        rw [hset] at h'
        exact absurd h' (of_decide_eq_false hsR)
      · rintro ⟨v, hv, hne⟩
        cases hv
        exact absurd hw hne
    | cons f fs =>
      simp only [cellAfter]
      constructor
      · intro _; exact ⟨c, rfl, by rw [hw]; exact List.cons_ne_nil _ _⟩
      · intro _
        simp only [gt_iff_lt, decide_eq_true_eq]
        exact hlt
  | const w =>
    rw [hk] at hsR
    simp only at hsR ⊢
    rw [hsR]
    constructor
    · intro h; cases h
    · rintro ⟨v, hv, -⟩; cases hv
  | map f args =>
    rw [hk] at hsR
    simp only at hsR ⊢
    simp only [hch]
    rw [hsR]
    constructor
    · intro h; cases h
    · rintro ⟨v, hv, -⟩; cases hv
  | fold f init cs =>
    rw [hk] at hsR
    simp only at hsR ⊢
    simp only [hch]
    rw [hsR]
    constructor
    · intro h; cases h
    · rintro ⟨v, hv, -⟩; cases hv
  | mapRef _ _ => exact absurd hk (hstat.not_mapRef _ _)
  | mapWithOld _ _ => rw [hk] at hstat; exact hstat.elim
  | bindLhsChange _ => rw [hk] at hstat; exact hstat.elim
  | bindMain _ _ => rw [hk] at hstat; exact hstat.elim
  | expert _ => rw [hk] at hstat; exact hstat.elim

/-- **(c) staleness afterwards.** A necessary node is stale after the `stabilise` iff it is the watch node of a
variable that was written (by at least one deferred write — even one that stored the old value). -/
theorem EStab.stale_iff (X : EStab env fuel s t2 t3 S s') (m : Nat) (hm : s'.isNecessary m = true) :
    s'.isStale m = true ↔ ∃ v, (s'.nodeD m).kind = .var v ∧ writesTo v X.writes ≠ [] := by
  obtain ⟨e1, -, -, -, e5, -, e7⟩ := X.nodeS m
  have hmS : S.isNecessary m = true := by rw [← e7]; exact hm
  have gS := X.clean.inv.quiet.graph
  have hsS : staleOf S m = false := by
    rw [← gS.isStale hmS]
    exact (X.clean.values m hmS _ (Nat.lt_succ_self _)).2.1
  have h1 := (X.clean.inv.stamps m).1
  rw [X.clean.stabNum] at h1
  rw [X.inv.q.quiet.graph.isStale hm]
  refine staleOf_written hsS (gS.nec m hmS).2.2.1 e1 e5 (fun c => (X.nodeS c).2.2.2.2.2.1) h1 fun c hk => ?_
  obtain ⟨vc, hvc⟩ := gS.var m c hmS hk
  exact ⟨vc, vc, hvc, rfl, X.vars c vc (by rw [← X.clean.vars]; exact hvc)⟩

/-! ## `isStable` -/

/-- the heap is empty iff no node is marked as queued -/
theorem heap_empty_iff {s : State} (h : HeapInv s) :
    s.rch.length = 0 ↔ ∀ m, (s.nodeD m).inRch = false := by
  constructor
  · exact fun he m => h.empty he m
  · intro hall
    rw [h.wf.length]
    apply bucketSum_eq_zero_of_nil
    intro i hi
    cases hq : s.rch.queues[i] with
    | nil => rfl
    | cons n rest =>
      exfalso
      have hmem : n ∈ s.rch.queues[i] := by rw [hq]; exact List.mem_cons_self ..
      obtain ⟨hlt, hh⟩ := (h.wf.mem i hi n).1 hmem
      have := hall n
      simp only [Node.inRch, hh] at this
      simp at this

/-- what `State.isStable` is in a state satisfying the invariant between actions (update handlers allowed): no new observer is waiting
and no necessary node is stale -/
theorem isStable_iffU {env : Env} {s : State} (Q : SubsH.QInv env s) :
    s.isStable = true ↔ (s.newObservers = [] ∧ ∀ m, s.isNecessary m = true → s.isStale m = false) := by
  have hq := Q.quiet
  unfold State.isStable
  rw [Q.deadVars]
  simp only [List.isEmpty_nil, Bool.and_true, Bool.and_eq_true, beq_iff_eq, List.isEmpty_iff]
  rw [heap_empty_iff hq.heap]
  constructor
  · rintro ⟨h1, h2⟩
    refine ⟨h2, fun m hm => ?_⟩
    cases hst : s.isStale m with
    | false => rfl
    | true => have := (hq.queued m).2 ⟨hm, hst⟩; rw [h1 m] at this; cases this
  · rintro ⟨h1, h2⟩
    refine ⟨fun m => ?_, h1⟩
    cases hq' : (s.nodeD m).inRch with
    | false => rfl
    | true =>
      obtain ⟨a, b⟩ := (hq.queued m).1 hq'
      rw [h2 m a] at b; cases b

theorem isStable_iff {env : Env} {s : State} (Q : QInv env s) :
    s.isStable = true ↔ (s.newObservers = [] ∧ ∀ m, s.isNecessary m = true → s.isStale m = false) :=
  isStable_iffU (.of_quiet Q)

/-- `isStable` in a state between actions whose necessary stale nodes are the watch nodes of the variables written by `W` -/
theorem isStable_iff_written {env : Env} {s' : State} {W : Writes} (Q : SubsH.QInv env s') (hno : s'.newObservers = [])
    (hst : ∀ m, s'.isNecessary m = true → (s'.isStale m = true ↔ ∃ v, (s'.nodeD m).kind = .var v ∧ writesTo v W ≠ [])) :
    s'.isStable = true ↔ ∀ v, writesTo v W ≠ [] → ∀ m, (s'.nodeD m).kind = .var v → s'.isNecessary m = false := by
  rw [isStable_iffU Q]
  constructor
  · rintro ⟨-, h⟩ v hv m hk
    cases hn : s'.isNecessary m with
    | false => rfl
    | true =>
      have := (hst m hn).2 ⟨v, hk, hv⟩
      rw [h m hn] at this; cases this
  · intro h
    refine ⟨hno, fun m hm => ?_⟩
    cases hs : s'.isStale m with
    | false => rfl
    | true =>
      obtain ⟨v, hk, hv⟩ := (hst m hm).1 hs
      rw [h v hv m hk] at hm; cases hm

/-- **(c) `isStable` after a `stabilise` with write effects:** it is `true` iff no written variable has a necessary
watch node, i.e. iff no written variable is observed (directly or through the graph). -/
theorem EStab.isStable_iff (X : EStab env fuel s t2 t3 S s') :
    s'.isStable = true ↔
      ∀ v, writesTo v X.writes ≠ [] → ∀ m, (s'.nodeD m).kind = .var v → s'.isNecessary m = false :=
  isStable_iff_written (.of_quiet X.inv.q) X.newObservers X.stale_iff

end final

end IncrVerif.Proofs.EffH
