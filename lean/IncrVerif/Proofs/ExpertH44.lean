import IncrVerif.Proofs.ExpertH11
import IncrVerif.Proofs.ExpertH2
/-!
# Expert nodes, `add_dependency`: changing the (virtual) kind of one node — pure lemmas about `QR.GInv` / `QR.QInv`

`Rekind n k' S S2`: `S2` is `S` with the kind of node `n` replaced by `k'` and its `recomputedAt` reset to `-1`
(this is what `modExpert … children := … ++ [edge], forceStale := true` does to the virtual state).
* `GInv.rekind_unnec`, `QInv.rekind_unnec`: an UNNECESSARY node may get any static kind (with a rank for the new graph).
* `GInv.open_extend`: a NECESSARY closed node whose kind gets one more child becomes `.linking k` (`k` = old number of
  children): exactly the old child edges are recorded.
-/
namespace IncrVerif.Proofs.ExpertH
open IncrVerif.Engine IncrVerif.Driver IncrVerif.Proofs IncrVerif.Proofs.Step IncrVerif.Proofs.Sched
open IncrVerif.Proofs.ExpertH.QR

/-- the state fields the invariant between actions reads besides nodes, heap and variables -/
def qKey (s : State) :=
  (s.stabNum, s.status, s.alive, s.setDuringStab, s.deadVars, s.handleAfterStab, s.propagateInvalidity, s.top,
    s.observers, s.newObservers, s.disallowedObservers)

structure Rekind (n : Nat) (k' : Kind) (S S2 : State) : Prop where
  lt : n < S.nodes.size
  size : S2.nodes.size = S.nodes.size
  pc : S2.panicCountdown = S.panicCountdown
  scope : S2.currentScope = S.currentScope
  rch : S2.rch = S.rch
  vars : S2.vars = S.vars
  key : qKey S2 = qKey S
  other : ∀ m, m ≠ n → S2.nodeD m = S.nodeD m
  self : S2.nodeD n = { S.nodeD n with kind := k', recomputedAt := -1 }

namespace Rekind
variable {n : Nat} {k' : Kind} {S S2 : State}

theorem parents (R : Rekind n k' S S2) (m : Nat) : (S2.nodeD m).parents = (S.nodeD m).parents := by
  by_cases h : m = n
  · subst h; rw [R.self]
  · rw [R.other m h]
theorem observers (R : Rekind n k' S S2) (m : Nat) : (S2.nodeD m).observers = (S.nodeD m).observers := by
  by_cases h : m = n
  · subst h; rw [R.self]
  · rw [R.other m h]
theorem height (R : Rekind n k' S S2) (m : Nat) : (S2.nodeD m).height = (S.nodeD m).height := by
  by_cases h : m = n
  · subst h; rw [R.self]
  · rw [R.other m h]
theorem heightInRch (R : Rekind n k' S S2) (m : Nat) : (S2.nodeD m).heightInRch = (S.nodeD m).heightInRch := by
  by_cases h : m = n
  · subst h; rw [R.self]
  · rw [R.other m h]
theorem changedAt (R : Rekind n k' S S2) (m : Nat) : (S2.nodeD m).changedAt = (S.nodeD m).changedAt := by
  by_cases h : m = n
  · subst h; rw [R.self]
  · rw [R.other m h]
theorem value (R : Rekind n k' S S2) (m : Nat) : (S2.nodeD m).value = (S.nodeD m).value := by
  by_cases h : m = n
  · subst h; rw [R.self]
  · rw [R.other m h]
theorem num (R : Rekind n k' S S2) (m : Nat) :
    (S2.nodeD m).numOnUpdateHandlers = (S.nodeD m).numOnUpdateHandlers := by
  by_cases h : m = n
  · subst h; rw [R.self]
  · rw [R.other m h]
theorem nec (R : Rekind n k' S S2) (m : Nat) : S2.isNecessary m = S.isNecessary m := by
  by_cases h : m = n
  · subst h; simp only [State.isNecessary, Node.isNecessary, R.self]
  · simp only [State.isNecessary, R.other m h]
theorem inRch (R : Rekind n k' S S2) (m : Nat) : (S2.nodeD m).inRch = (S.nodeD m).inRch := by
  simp only [Node.inRch, R.heightInRch m]
theorem kind_self (R : Rekind n k' S S2) : (S2.nodeD n).kind = k' := by rw [R.self]
theorem kind_other (R : Rekind n k' S S2) {m : Nat} (h : m ≠ n) : (S2.nodeD m).kind = (S.nodeD m).kind := by
  rw [R.other m h]
theorem rec_self (R : Rekind n k' S S2) : (S2.nodeD n).recomputedAt = -1 := by rw [R.self]

theorem staleOf_other (R : Rekind n k' S S2) {m : Nat} (h : m ≠ n) : staleOf S2 m = staleOf S m :=
  staleOf_congr (R.kind_other h) (by rw [R.other m h]) R.vars (fun c _ => R.changedAt c)

theorem heap {S S2 : State} (R : Rekind n k' S S2) (h : HeapG S) : HeapG S2 :=
  h.congr R.rch R.size R.heightInRch

theorem plainVals (R : Rekind n k' S S2) (l : List Nat) : plainVals S2 l = plainVals S l := by
  unfold Sched.plainVals
  exact evalArgs_congr _ _ l (fun a _ => R.value a)

theorem consistent_other {env : Env} (R : Rekind n k' S S2) {m : Nat} (h : m ≠ n) (hc : Consistent env S m) :
    Consistent env S2 m := by
  obtain ⟨v, hv, hval⟩ := hc
  refine ⟨v, ?_, by rw [R.value]; exact hval⟩
  unfold Target at hv ⊢
  rw [R.kind_other h, R.vars]
  cases hk : (S.nodeD m).kind <;> rw [hk] at hv <;> simp only [] at hv ⊢ <;> first
    | exact hv
    | (rw [R.plainVals]; exact hv)

end Rekind

section
variable {env : Env} {rk rk' : Nat → Nat} {n : Nat} {k' : Kind} {S S2 : State}

/-- **The kind of ONE node `n` changes** (and its stamp is reset); `op'` differs from `op` at `n` only.  The child edges of `n` that are to be
recorded, with the children they name, are the same before and after (`hkid`); what `op' n` claims of `n` is given (`hc`: closed only if it was
and, then, queued if necessary; `hl`, `hu`); `n` is stale afterwards if it is queued. -/
theorem GInv.rekind {op op' : Nat → Op} (I : GInv env rk S op) (R : Rekind n k' S S2) (A : AllStatic env rk' S2)
    (hop : ∀ m, m ≠ n → op' m = op m)
    (hkid : ∀ i c, ((kids k')[i]? = some c ∧ Wants S2 op' n i) ↔ ((kids (S.nodeD n).kind)[i]? = some c ∧ Wants S op n i))
    (hc : op' n = .closed → op n = .closed ∧ (S.isNecessary n = true → (S.nodeD n).inRch = true))
    (hl : ∀ k, op' n = .linking k → S.isNecessary n = true)
    (hu : ∀ k, op' n = .unlinking k → S.isNecessary n = false)
    (hq : (S.nodeD n).inRch = true → staleOf S2 n = true ∧ (S.isNecessary n = true ∨ ∃ k, op' n = .unlinking k)) :
    GInv env rk' S2 op' := by
  have hkk : ∀ p i c, ((kids (S2.nodeD p).kind)[i]? = some c ∧ Wants S2 op' p i) ↔
      ((kids (S.nodeD p).kind)[i]? = some c ∧ Wants S op p i) := by
    intro p i c
    by_cases e : p = n
    · rw [e, R.kind_self]; exact hkid i c
    · rw [R.kind_other e]; unfold Wants; rw [hop p e, R.nec]
  have hcl : ∀ m, op' m = .closed → op m = .closed := by
    intro m h
    by_cases e : m = n
    · rw [e] at h ⊢; exact (hc h).1
    · rw [← hop m e]; exact h
  refine { static := A, par := ?_, conv := ?_, nodup := ?_, hlt := ?_, hpos := ?_, lnec := ?_, unec := ?_,
           heap := R.heap I.heap, hgt := ?_, qnec := ?_, queued := ?_, qstale := ?_, opLt := ?_ }
  · intro c p i hm
    rw [R.parents] at hm
    exact (hkk p i c).2 (I.par c p i hm)
  · intro p i c hkp hw'
    obtain ⟨h1, h2⟩ := (hkk p i c).1 ⟨hkp, hw'⟩
    rw [R.parents]; exact I.conv p i c h1 h2
  · intro c; rw [R.parents]; exact I.nodup c
  · intro c p i hm ho
    rw [R.parents] at hm
    rw [R.height, R.height]; exact I.hlt c p i hm (hcl p ho)
  · intro m hm ho
    rw [R.nec] at hm; rw [R.height]; exact I.hpos m hm (hcl m ho)
  · intro p k ho
    rw [R.nec]
    by_cases e : p = n
    · rw [e] at ho ⊢; exact hl k ho
    · rw [hop p e] at ho; exact I.lnec p k ho
  · intro p k ho
    rw [R.nec]
    by_cases e : p = n
    · rw [e] at ho ⊢; exact hu k ho
    · rw [hop p e] at ho; exact I.unec p k ho
  · intro m hqm ho
    rw [R.inRch] at hqm
    rw [R.heightInRch, R.height]; exact I.hgt m hqm (hcl m ho)
  · intro m hqm
    rw [R.inRch] at hqm
    rw [R.nec]
    by_cases e : m = n
    · rw [e] at hqm ⊢; exact (hq hqm).2
    · rw [hop m e]; exact I.qnec m hqm
  · intro m ho hm hs
    rw [R.nec] at hm
    rw [R.inRch]
    by_cases e : m = n
    · rw [e] at ho hm ⊢; exact (hc ho).2 hm
    · rw [R.staleOf_other e] at hs
      exact I.queued m (hcl m ho) hm hs
  · intro m hqm
    rw [R.inRch] at hqm
    by_cases e : m = n
    · rw [e] at hqm ⊢; exact (hq hqm).1
    · rw [R.staleOf_other e]; exact I.qstale m hqm
  · intro m ho
    by_cases e : m = n
    · rw [e, R.size]; exact R.lt
    · rw [hop m e] at ho; rw [R.size]; exact I.opLt m ho

/-- an unnecessary node may get any static kind -/
theorem GInv.rekind_unnec (I : GInv env rk S allClosed) (R : Rekind n k' S S2) (A : AllStatic env rk' S2)
    (hn : S.isNecessary n = false) : GInv env rk' S2 allClosed := by
  have hnw : ∀ T i, ¬ (Wants T allClosed n i ∧ T.isNecessary n = false) := fun T i h => by
    rw [wants_closed rfl, h.2] at h; cases h.1
  refine GInv.rekind I R A (fun _ _ => rfl) (fun i c => ⟨fun h => ?_, fun h => ?_⟩)
    (fun _ => ⟨rfl, fun h => ?_⟩) (fun k h => nomatch h) (fun k h => nomatch h) (fun hq => ?_)
  · exact (hnw S2 i ⟨h.2, by rw [R.nec]; exact hn⟩).elim
  · exact (hnw S i ⟨h.2, hn⟩).elim
  · rw [hn] at h; cases h
  · rcases I.qnec n hq with h | ⟨k, h⟩
    · rw [hn] at h; cases h
    · cases h

theorem obsOK_rekind (R : Rekind n k' S S2) (O : ObsOK S) : ObsOK S2 := by
  have hk := R.key
  simp only [qKey, Prod.mk.injEq] at hk
  obtain ⟨-, -, -, -, -, -, -, -, ho, hno, hdo⟩ := hk
  unfold ObsOK at O ⊢
  rw [hno, hdo]
  exact ⟨fun o ob h => by rw [ho] at h; rw [R.size]; exact O.inRange o ob h,
    fun m o => by rw [R.observers, ho]; exact O.mem m o,
    fun o ob h => by rw [ho] at h; exact O.created o ob h,
    fun o h => by rw [ho]; exact O.newIn o h,
    fun o ob h => by rw [ho] at h; exact O.dis o ob h,
    fun o h => by rw [ho]; exact O.disIn o h, O.disNodup⟩

/-- everything of `QInv` but the structure -/
structure QRest (env : Env) (s : State) : Prop where
  vars : VarsOK s
  obs : ObsOK s
  now : 0 ≤ s.stabNum
  stamps : ∀ m, (s.nodeD m).recomputedAt < s.stabNum ∧ (s.nodeD m).changedAt < s.stabNum
  varStamp : ∀ (c : Nat) (vc : VarCell), s.vars[c]? = some vc → vc.setAt ≤ s.stabNum
  cons : ∀ m, m < s.nodes.size → staleOf s m = false → Consistent env s m
  status : s.status = .notStabilising
  alive : s.alive = true
  setDuringStab : s.setDuringStab = []
  deadVars : s.deadVars = []
  handleAfterStab : s.handleAfterStab = []
  handlers : ∀ m, (s.nodeD m).numOnUpdateHandlers ≤ 0
  pinv : s.propagateInvalidity = []
  top : ∀ (k n : Nat), s.top[k]? = some n → n < s.nodes.size

theorem QInv.rest (Q : QInv env rk S) : QRest env S :=
  ⟨Q.vars, Q.obs, Q.now, Q.stamps, Q.varStamp, Q.cons, Q.status, Q.alive, Q.setDuringStab, Q.deadVars,
    Q.handleAfterStab, Q.handlers, Q.pinv, Q.top⟩

theorem QRest.inv (Q : QRest env S) (I : Struct env rk S) : QInv env rk S :=
  ⟨I, Q.vars, Q.obs, Q.now, Q.stamps, Q.varStamp, Q.cons, Q.status, Q.alive, Q.setDuringStab, Q.deadVars,
    Q.handleAfterStab, Q.handlers, Q.pinv, Q.top⟩

/-- everything of `QInv` but the structure, after a kind change of a node that is stale afterwards -/
theorem QRest.rekind (Q : QRest env S) (R : Rekind n k' S S2)
    (hst : staleOf S2 n = true) (hkv : ∀ c, k' ≠ .var c) (hko : ∀ c, (S.nodeD n).kind ≠ .var c) :
    QRest env S2 := by
  have hk := R.key
  simp only [qKey, Prod.mk.injEq] at hk
  obtain ⟨h1, h2, h3, h4, h5, h6, h7, h8, -, -, -⟩ := hk
  refine { vars := ?_, obs := obsOK_rekind R Q.obs, now := by rw [h1]; exact Q.now, stamps := ?_,
           varStamp := ?_, cons := ?_, status := by rw [h2]; exact Q.status, alive := by rw [h3]; exact Q.alive,
           setDuringStab := by rw [h4]; exact Q.setDuringStab, deadVars := by rw [h5]; exact Q.deadVars,
           handleAfterStab := by rw [h6]; exact Q.handleAfterStab, handlers := ?_,
           pinv := by rw [h7]; exact Q.pinv, top := ?_ }
  · refine ⟨fun m c hm hkm => ?_, fun c vc hc => ?_⟩
    · rw [R.size] at hm
      by_cases e : m = n
      · subst e; rw [R.kind_self] at hkm; exact absurd hkm (hkv c)
      · rw [R.kind_other e] at hkm; rw [R.vars]; exact Q.vars.node m c hm hkm
    · rw [R.vars] at hc
      obtain ⟨h1, h2⟩ := Q.vars.cell c vc hc
      have e : vc.node ≠ n := by intro e; rw [e] at h2; exact hko c h2
      rw [R.size, R.kind_other e]; exact ⟨h1, h2⟩
  · intro m
    rw [h1, R.changedAt]
    by_cases e : m = n
    · subst e; rw [R.rec_self]; exact ⟨by have := Q.now; omega, (Q.stamps m).2⟩
    · rw [R.other m e]; exact ⟨(Q.stamps m).1, (Q.stamps m).2⟩
  · intro c vc hc; rw [R.vars] at hc; rw [h1]; exact Q.varStamp c vc hc
  · intro m hm hs
    rw [R.size] at hm
    by_cases e : m = n
    · subst e; rw [hst] at hs; cases hs
    · rw [R.staleOf_other e] at hs
      exact R.consistent_other e (Q.cons m hm hs)
  · intro m; rw [R.num]; exact Q.handlers m
  · intro k m hkm; rw [h8] at hkm; rw [R.size]; exact Q.top k m hkm

/-- what the rest of the invariant reads of a node -/
def restKey (nd : Node) :=
  (nd.kind, nd.value, nd.recomputedAt, nd.changedAt, nd.observers, nd.numOnUpdateHandlers)

/-- the rest of the invariant only reads `restKey` of the nodes, the variables and `qKey` -/
theorem QRest.frame {S S' : State} (Q : QRest env S) (hsz : S'.nodes.size = S.nodes.size)
    (hnode : ∀ m, restKey (S'.nodeD m) = restKey (S.nodeD m)) (hv : S'.vars = S.vars) (hk : qKey S' = qKey S) :
    QRest env S' := by
  simp only [qKey, Prod.mk.injEq] at hk
  obtain ⟨h1, h2, h3, h4, h5, h6, h7, h8, ho, hno, hdo⟩ := hk
  have hn : ∀ m, (S'.nodeD m).kind = (S.nodeD m).kind ∧ (S'.nodeD m).value = (S.nodeD m).value ∧
      (S'.nodeD m).recomputedAt = (S.nodeD m).recomputedAt ∧ (S'.nodeD m).changedAt = (S.nodeD m).changedAt ∧
      (S'.nodeD m).observers = (S.nodeD m).observers ∧
      (S'.nodeD m).numOnUpdateHandlers = (S.nodeD m).numOnUpdateHandlers := by
    intro m
    have := hnode m
    simp only [restKey, Prod.mk.injEq] at this
    exact this
  have hstale : ∀ m, staleOf S' m = staleOf S m := fun m =>
    staleOf_congr (hn m).1 (hn m).2.2.1 hv (fun c _ => (hn c).2.2.2.1)
  have hpv : ∀ l, plainVals S' l = plainVals S l := fun l => by
    unfold Sched.plainVals
    exact evalArgs_congr _ _ l (fun a _ => (hn a).2.1)
  refine { vars := ?_, obs := ?_, now := by rw [h1]; exact Q.now, stamps := ?_,
           varStamp := ?_, cons := ?_, status := by rw [h2]; exact Q.status, alive := by rw [h3]; exact Q.alive,
           setDuringStab := by rw [h4]; exact Q.setDuringStab, deadVars := by rw [h5]; exact Q.deadVars,
           handleAfterStab := by rw [h6]; exact Q.handleAfterStab, handlers := ?_,
           pinv := by rw [h7]; exact Q.pinv, top := ?_ }
  · refine ⟨fun m c hm hkm => ?_, fun c vc hc => ?_⟩
    · rw [hsz] at hm; rw [(hn m).1] at hkm; rw [hv]; exact Q.vars.node m c hm hkm
    · rw [hv] at hc
      obtain ⟨h1, h2⟩ := Q.vars.cell c vc hc
      rw [hsz, (hn _).1]; exact ⟨h1, h2⟩
  · have O := Q.obs
    unfold ObsOK at O ⊢
    rw [hno, hdo]
    exact ⟨fun o ob h => by rw [ho] at h; rw [hsz]; exact O.inRange o ob h,
      fun m o => by rw [(hn m).2.2.2.2.1, ho]; exact O.mem m o,
      fun o ob h => by rw [ho] at h; exact O.created o ob h,
      fun o h => by rw [ho]; exact O.newIn o h,
      fun o ob h => by rw [ho] at h; exact O.dis o ob h,
      fun o h => by rw [ho]; exact O.disIn o h, O.disNodup⟩
  · intro m; rw [h1, (hn m).2.2.1, (hn m).2.2.2.1]; exact Q.stamps m
  · intro c vc hc; rw [hv] at hc; rw [h1]; exact Q.varStamp c vc hc
  · intro m hm hs
    rw [hsz] at hm
    rw [hstale] at hs
    obtain ⟨v, hv1, hv2⟩ := Q.cons m hm hs
    refine ⟨v, ?_, by rw [(hn m).2.1]; exact hv2⟩
    unfold Target at hv1 ⊢
    rw [(hn m).1, hv]
    cases hkd : (S.nodeD m).kind <;> rw [hkd] at hv1 <;> simp only [] at hv1 ⊢ <;> first
      | exact hv1
      | (rw [hpv]; exact hv1)
  · intro m; rw [(hn m).2.2.2.2.2]; exact Q.handlers m
  · intro k m hkm; rw [h8] at hkm; rw [hsz]; exact Q.top k m hkm

/-- **an unnecessary node may change its static kind** (it is stale afterwards) -/
theorem QInv.rekind_unnec (Q : QInv env rk S) (R : Rekind n k' S S2) (A : AllStatic env rk' S2)
    (hn : S.isNecessary n = false) (hst : staleOf S2 n = true) (hkv : ∀ c, k' ≠ .var c)
    (hko : ∀ c, (S.nodeD n).kind ≠ .var c) : QInv env rk' S2 :=
  (QRest.rekind (QInv.rest Q) R hst hkv hko).inv (GInv.rekind_unnec Q.struct R A hn)

/-- **a necessary closed node whose kind gets one more child is opened**: `.linking k`, `k` the old number of
children -/
theorem GInv.open_extend (I : GInv env rk S allClosed) (R : Rekind n k' S S2) (A : AllStatic env rk' S2)
    (hn : S.isNecessary n = true) {c : Nat} (hk : kids k' = kids (S.nodeD n).kind ++ [c])
    (hst : staleOf S2 n = true) :
    GInv env rk' S2 (upd allClosed n (.linking (kids (S.nodeD n).kind).length)) := by
  have hopn : upd allClosed n (.linking (kids (S.nodeD n).kind).length) n =
      .linking (kids (S.nodeD n).kind).length := upd_self ..
  refine GInv.rekind I R A (fun m h => upd_other _ _ _ h) (fun i c' => ?_) (fun h => ?_)
    (fun _ _ => hn) (fun k h => ?_) (fun _ => ⟨hst, Or.inl hn⟩)
  · -- recorded are the old child edges: all of them, the node being necessary
    rw [wants_linking hopn, wants_closed rfl, hk]
    constructor
    · rintro ⟨h1, h2⟩
      rw [List.getElem?_append_left h2] at h1
      exact ⟨h1, hn⟩
    · rintro ⟨h1, -⟩
      have hi : i < (kids (S.nodeD n).kind).length := by
        rcases Nat.lt_or_ge i (kids (S.nodeD n).kind).length with h | h
        · exact h
        · rw [List.getElem?_eq_none h] at h1; cases h1
      exact ⟨by rw [List.getElem?_append_left hi]; exact h1, hi⟩
  · rw [hopn] at h; cases h
  · rw [hopn] at h; cases h

end
end IncrVerif.Proofs.ExpertH
