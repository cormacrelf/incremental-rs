import IncrVerif.Proofs.FullT27
import IncrVerif.Proofs.FullT13
import IncrVerif.Proofs.FullT11
import IncrVerif.Proofs.FullT6
/-!
# C04 combined fragment: the CONVERSE of one simulated step, part 2: the phases of a change detector (twin of `FullH42`)
(phase 1 `lhsRunClosure`, phase 4 `lhsFinish`; phases 2, 3 are `BSimXAt.lhsRelink`, `BSimX.lhsInvalidateOld` of `FullT13`), and `bindMain` with a right-hand side that may be invalid
-/
namespace IncrVerif.Proofs.FullT
set_option linter.unusedSectionVars false
open IncrVerif.Engine IncrVerif.Proofs IncrVerif.Proofs.Step IncrVerif.Proofs.Sched IncrVerif.Proofs.Quiet IncrVerif.Proofs.FullH

section
variable {g : Nat → Option Val} {env : Env} {sp : Nat → Val → Val}

/-- phase 1 after the reset of the list of the nodes created on the right-hand side (twin of `ST.SimAt.lhsRunRest`) -/
theorem BSimAt.lhsRunRest {n b lhs body : Nat} {t : State}
    (hrd : tv g t lhs = t.value env lhs) (htop : TopLt t) (htempl : ∀ v, ST.TemplS env sp (env.body body v)) :
    BSimAt (FK env sp) PInv g t
      (do let lhsVal ← valueUnwrap env lhs "node:recompute_one:child-value"
          let oldScope := (← get).currentScope
          modify fun s => { s with currentScope := .bind b }
          tick
          let t := env.body body lhsVal
          logEv (.inv s!"b{body}" n [lhsVal] "")
          let rhs ← Engine.elabTemplate env t lhsVal
          modify fun s => { s with currentScope := oldScope }
          pure rhs)
      (do let lhsVal ← valueUnwrap (VE env sp) lhs "node:recompute_one:child-value"
          let oldScope := (← get).currentScope
          modify fun s => { s with currentScope := .bind b }
          tick
          let t := (VE env sp).body body lhsVal
          logEv (.inv s!"b{body}" n [lhsVal] "")
          let rhs ← Engine.elabTemplate (VE env sp) t lhsVal
          modify fun s => { s with currentScope := oldScope }
          pure rhs) := by
  unfold Engine.valueUnwrap
  simp only [bind_assoc]
  refine BSimAt.get_seq ?_
  rw [virt_value, hrd]
  cases t.value env lhs with
  | none => exact BSimAt.pan _ _
  | some v =>
    simp only [pure_bind]
    refine BSimAt.get_seq ?_
    rw [virt_currentScope]
    refine BSimAt.mod_seq rfl rfl rfl ?_
    refine BSimAt.seq (BSim.tick _) fun _ t2 h2 => ?_
    refine BSimAt.seq (BSim.logEv _ _) fun _ t3 h3 => ?_
    have e2 := ST.tick_inv h2
    have ht3 : TopLt t3 := ST.TopLt.of_eq (ST.TopLt.of_eq htop e2) (ST.logEv_inv h3)
    refine BSimAt.seq (BSimAt.elabTemplate_PInv _ v (htempl v).1 (htempl v).2 ht3) fun rhs t4 _ => ?_
    exact BSimAt.mod_seq rfl rfl rfl (BSimAt.ret _)

/-- phase 1: the closure runs (twin of `ST.SimAt.lhsRunClosure`) -/
theorem BSimAt.lhsRunClosure {n b : Nat} {br : BindRec} {s : State}
    (hrd : tv g s br.lhs = s.value env br.lhs) (htop : TopLt s) (htempl : ∀ v, ST.TemplS env sp (env.body br.body v)) :
    BSimAt (FK env sp) PInv g s (Inval.lhsRunClosure env n b br) (Inval.lhsRunClosure (VE env sp) n b br) := by
  unfold Inval.lhsRunClosure Engine.modBind
  refine BSimAt.modG_seq rfl rfl (BSimAt.lhsRunRest ?_ (ST.TopLt.of_eq htop ⟨rfl, rfl⟩) htempl)
  generalize hs' : ({ s with binds := s.binds.modify b fun x => { x with allNodesCreatedOnRhs := [] } } : State) = s'
  have e1 : tv g s' br.lhs = tv g s br.lhs := by subst hs'; rfl
  have e2 : s'.value env br.lhs = s.value env br.lhs :=
    value_congr env s s' (by subst hs'; rfl) (fun m => by subst hs'; rfl) br.lhs
  rw [e1, e2]; exact hrd

end

section
variable {K : Kind → Prop} {g : Nat → Option Val} {env : Env} {sp : Nat → Val → Val}

/-- phase 4: the change detector "changes" (twin of `ST.SimAt.lhsFinish`) -/
theorem BSimAt.lhsFinish {fuel n : Nat} {t : State} (hk : ∀ p i, (t.nodeD n).kind ≠ .mapRef p i) (hc : ST.Exact t n)
    (hm : MRPV t) (hfuel : t.nodes.size ≤ fuel) :
    BSimAt K PInv g t (Inval.lhsFinish env fuel n) (Inval.lhsFinish (VE env sp) fuel n) := by
  unfold Inval.lhsFinish
  refine BSimAt.getNode_seq fun nd hnd _ => ?_
  rw [virtNode_valid]
  refine BSimAt.seq (BSim.dassert _ _ t) fun _ t1 h1 => ?_
  have e : t1 = t := by
    rw [run_dassert] at h1; split at h1 <;> cases h1; rfl
  subst e
  exact mcvC' K env sp g fuel n .unit _ hk hc hm hfuel

/-- phase 4 for a change detector: no condition on the cutoff -/
theorem BSimAt.lhsFinish_lc {fuel n : Nat} {t : State} (hk : ∃ b, (t.nodeD n).kind = .bindLhsChange b)
    (hm : MRPV t) (hfuel : t.nodes.size ≤ fuel) :
    BSimAt K PInv g t (Inval.lhsFinish env fuel n) (Inval.lhsFinish (VE env sp) fuel n) := by
  obtain ⟨b, hb⟩ := hk
  exact BSimAt.lhsFinish (fun p i => by rw [hb]; exact fun e => by cases e) (ST.exact_of_lc hb) hm hfuel

end
end IncrVerif.Proofs.FullT
