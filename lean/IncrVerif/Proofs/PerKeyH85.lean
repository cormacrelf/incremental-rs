import IncrVerif.Proofs.PerKeyH84
/-!
# Per-key operators, the semantic theorem, part 4: a settled state reads the specified map

* `output_ok_settled`: `Settled env s` + `PKOK env s` (+ distinct dependency names, + the input is a variable) ⟹ `OutputOK env s`.
* `output_ok`: the same from `BGraph`/`ConsistentB` hypotheses; `output_ok_of_pq`: from `PQ env rk s`.
* `output_reads`, `output_reads_of_pq`: observers in use of an operator's output node read the specified map.
-/
namespace IncrVerif.Proofs.PerKeyH
open IncrVerif IncrVerif.Engine IncrVerif.Driver IncrVerif.Proofs IncrVerif.Proofs.Step IncrVerif.Proofs.Sched
open IncrVerif.Proofs.ExpertH IncrVerif.Proofs.EffH IncrVerif.Proofs.DriverH

variable {env : Env} {s : State}

theorem plainVals_single {s : State} {x : Nat} {vals : List Val} (h : plainVals s [x] = some vals) :
    ∃ w, (s.nodeD x).value = some w ∧ vals = [w] := by
  unfold plainVals at h
  simp only [evalArgs] at h
  cases hv : (s.nodeD x).value with
  | none => rw [hv] at h; cases h
  | some w =>
    rw [hv] at h
    simp only [Option.some.injEq] at h
    exact ⟨w, rfl, h.symm⟩

/-- a consistent identity conversion stores the value of its child -/
theorem consV_ident (hE : EnvP env) {m x : Nat} (hk : (s.nodeD m).kind = .map fnIdent [x])
    (h : Consistent (penv env) (V s) m) : ∃ w, (s.nodeD x).value = some w ∧ (s.nodeD m).value = some w := by
  obtain ⟨vals, hpv, hv⟩ := consV_map hk (by decide) h
  obtain ⟨w, hw, rfl⟩ := plainVals_single hpv
  refine ⟨w, hw, ?_⟩
  rw [hv, penv_fn_fnIdent, hE]
  rfl

/-- **a settled state reads the specified map** -/
theorem output_ok_settled (hE : EnvP env) (H : Settled env s) (K : PKOK env s)
    (depsNodup : ∀ (e : Nat) (er : ExpertRec), s.experts[e]? = some er → (er.children.map (·.dep)).Nodup)
    (inVar : ∀ (op : Nat) (pr : PerKeyRec), s.perkeys[op]? = some pr → ∀ x,
      (s.nodeD (pr.result - 1)).kind = .map fnIdent [x] → ∃ c, (s.nodeD x).kind = .var c) :
    OutputOK env s := by
  intro op pr hpr hnec
  have O := K.ops op pr hpr
  obtain ⟨x, e, er, N, hx, hpk, ⟨d0, rest, hch, _, _⟩, hent, _⟩ := O.nodes
  have hpkr : pkRec s op = pr := by simp [pkRec, hpr]
  -- necessity goes down
  have hchOut : s.children (pr.result + 2) = [pr.result] := children_map' (H.valid hnec) N.out
  have hnRes : s.isNecessary pr.result = true := H.down _ hnec _ (by rw [hchOut]; simp)
  have hchRes : s.children pr.result = er.children.map (·.child) := children_expert (H.valid hnRes) N.result hx
  have hnLc : s.isNecessary pr.lhsChange = true := H.down _ hnRes _ (by rw [hchRes, hch]; simp)
  have hnLc' : s.isNecessary (pr.result + 1) = true := by rw [← N.lc]; exact hnLc
  have hchLc : s.children (pr.result + 1) = [pr.result - 1] := children_map' (H.valid hnLc') N.lcKind
  have hnConv : s.isNecessary (pr.result - 1) = true := H.down _ hnLc' _ (by rw [hchLc]; simp)
  have hchConv : s.children (pr.result - 1) = [x] := children_map' (H.valid hnConv) N.conv
  have hnX : s.isNecessary x = true := H.down _ hnConv _ (by rw [hchConv]; simp)
  -- the input: the cell holds `prevMap`
  obtain ⟨c, hxk⟩ := inVar op pr hpr x N.conv
  obtain ⟨vc, hvc, hxv⟩ := consV_var hxk (H.necCons hnX)
  obtain ⟨w, hw1, hw2⟩ := consV_ident hE N.conv (H.necCons hnConv)
  have hin := O.input (H.settled _ hnLc)
  have hcell : vc.value = .map pr.prevMap := by
    have e1 : vc.value = w := Option.some.inj (hxv.symm.trans hw1)
    have e2 : w = .map pr.prevMap := Option.some.inj (hw2.symm.trans hin)
    exact e1.trans e2
  -- the result and the output
  obtain ⟨vals, hpv, hresV⟩ := consV_res N.result hx hpk (by rw [hch]; simp) (H.necCons hnRes)
  rw [hpkr] at hresV
  obtain ⟨wo, hwo1, hwo2⟩ := consV_ident hE N.out (H.necCons hnec)
  rw [hresV] at hwo1
  cases hwo1
  refine ⟨x, c, vc, pr.prevMap, AMap.ofList (asmPairs (tagsOf pr.prevNodes er.children) vals), N.conv, hxk, hvc, hcell, ?_, ?_⟩
  · rw [H.value_plain]
    exact hwo2
  · have hnd := depsNodup e er hx
    refine specMap_eq env (ovOf env s) (env.perKey pr.fam) pr.prevMap _ O.sorted (ofList_sorted _) ?_ ?_
    · intro k v hkv
      have hl : pr.prevMap.lookup k = some v := by
        rw [← amap_lookup_eq]
        exact AMap.lookup_of_mem _ O.sorted (k, v) hkv
      have hsome : (pr.prevNodes.lookup k).isSome = true := by rw [← O.dom, hl]; rfl
      obtain ⟨⟨p, d⟩, hpd⟩ := Option.isSome_iff_exists.mp hsome
      have hmem : (k, (p, d)) ∈ pr.prevNodes := (list_lookup_eq_some_iff_mem O.keys k (p, d)).mp hpd
      have E := hent k p d hmem
      obtain ⟨ed, locs, hed, hedd, _, I, _, _⟩ := E.edge
      obtain ⟨ep, erp, dp, hpk1, hpx, hppk, _⟩ := E.pnode
      obtain ⟨i, hi⟩ := List.mem_iff_getElem?.mp hed
      have hnChild : s.isNecessary ed.child = true :=
        H.down _ hnRes _ (by rw [hchRes]; exact List.mem_map.mpr ⟨ed, hed, rfl⟩)
      have hpval : s.isNecessary p = true → (s.nodeD p).value = some (.int v) := by
        intro hn
        have := consV_key hpk1 hpx hppk (H.necCons hn)
        rw [hpkr, hl] at this
        exact this
      have hret := inst_ret H O.templ I hpval hnChild
      obtain ⟨w, hw1, hw2⟩ := evalArgs_getElem? _ _ _ hpv i ed.child (by simp [hi])
      exact ⟨w, by rw [hret, hw2], lookup_asm_some O.keys O.deps hnd hmem hi hedd hw1⟩
    · intro k hk
      have hl : pr.prevMap.lookup k = none := by rw [← amap_lookup_eq]; exact hk
      have hnone : pr.prevNodes.lookup k = none := by
        have := O.dom k
        rw [hl] at this
        cases h : pr.prevNodes.lookup k with
        | none => rfl
        | some _ => rw [h] at this; cases this
      exact lookup_asm_none O.keys hnd ((list_lookup_eq_none_iff_not_mem_keys _ k).mp hnone)

/-! ## from the graph invariant -/

theorem settled_of_bgraph (F : PFrag env s) (g : BindH.BGraph (penv env) (V s))
    (settled : ∀ n, s.isNecessary n = true → s.isStale n = false)
    (cons : ∀ m, m < s.nodes.size → s.isStale m = false → BindH.ConsistentB (penv env) (V s) m) :
    Settled env s where
  frag := F
  down n hn c hc := by
    obtain ⟨i, hi⟩ := List.mem_iff_getElem?.mp hc
    have := (g.child n (by rw [V_isNecessary]; exact hn) i c (by rw [V_children]; exact hi)).1
    rw [V_isNecessary] at this
    exact this
  settled := settled
  cons m hm hs := cons_of_consB (staticKind_VD F m) (cons m hm hs)

/-- **the semantic theorem** -/
theorem output_ok (hE : EnvP env) (F : PFrag env s) (K : PKOK env s)
    (g : BindH.BGraph (penv env) (V s))
    (settled : ∀ n, s.isNecessary n = true → s.isStale n = false)
    (cons : ∀ m, m < s.nodes.size → s.isStale m = false → BindH.ConsistentB (penv env) (V s) m)
    (depsNodup : ∀ (e : Nat) (er : ExpertRec), s.experts[e]? = some er → (er.children.map (·.dep)).Nodup)
    (inVar : ∀ (op : Nat) (pr : PerKeyRec), s.perkeys[op]? = some pr → ∀ x,
      (s.nodeD (pr.result - 1)).kind = .map fnIdent [x] → ∃ c, (s.nodeD x).kind = .var c) :
    OutputOK env s :=
  output_ok_settled hE (settled_of_bgraph F g settled cons) K depsNodup inVar

theorem settled_of_pq {rk : Nat → Nat} (Q : PQ env rk s)
    (settled : ∀ n, s.isNecessary n = true → s.isStale n = false) : Settled env s := by
  refine settled_of_bgraph Q.frag (bgraph_of_struct Q.q.struct Q.q.vars) settled ?_
  intro m hm hs
  have hlt : m < (V s).nodes.size := by rw [V_size]; exact hm
  refine consB_of_cons (staticKind_VD Q.frag m) (Q.q.cons m hlt ?_)
  rw [← QR.GInv.isStale Q.q.struct hlt, V_isStale]
  exact hs

theorem inVar_of_norem (R : NoRem s) : ∀ (op : Nat) (pr : PerKeyRec), s.perkeys[op]? = some pr → ∀ x,
    (s.nodeD (pr.result - 1)).kind = .map fnIdent [x] → ∃ c, (s.nodeD x).kind = .var c := by
  intro op pr hpr x hk
  obtain ⟨x', c, _, _, hk', hv, _⟩ := (R op pr hpr).input
  rw [hk] at hk'
  cases hk'
  exact ⟨c, hv⟩

/-- **the semantic theorem, from the invariant between API actions** -/
theorem output_ok_of_pq (hE : EnvP env) {rk : Nat → Nat} (Q : PQ env rk s)
    (settled : ∀ n, s.isNecessary n = true → s.isStale n = false) : OutputOK env s :=
  output_ok_settled hE (settled_of_pq Q settled) Q.pk (fun e er h => (Q.slots.deps e er h).1) (inVar_of_norem Q.norem)

/-! ## observers -/

/-- every observer in use of the output node of an operator reads the specified map -/
theorem output_reads (O : OutputOK env s) (alive : s.alive = true) (status : s.status = .notStabilising)
    (obsNec : ∀ (o : Nat) (ob : ObsRec), s.observers[o]? = some ob → ob.state = .inUse →
      s.isNecessary ob.node = true)
    (op : Nat) (pr : PerKeyRec) (o : Nat) (ob : ObsRec) (hpr : s.perkeys[op]? = some pr)
    (ho : s.observers[o]? = some ob) (hst : ob.state = .inUse) (hnode : ob.node = pr.result + 2) :
    ∃ x c vc mx mo, (s.nodeD (pr.result - 1)).kind = .map fnIdent [x] ∧ (s.nodeD x).kind = .var c ∧
      s.vars[c]? = some vc ∧ vc.value = .map mx ∧
      s.tryGetValue env o = .ok (.map mo) ∧
      specMap env (fun k => (s.top[k]?).bind fun o => s.value env o) (env.perKey pr.fam) mx = some mo := by
  have hn := obsNec o ob ho hst
  rw [hnode] at hn
  obtain ⟨x, c, vc, mx, mo, h1, h2, h3, h4, h5, h6⟩ := O op pr hpr hn
  refine ⟨x, c, vc, mx, mo, h1, h2, h3, h4, ?_, h6⟩
  exact tryGetValue_inUse alive status ho hst (by rw [hnode]; exact h5)

theorem obsNec_of_pq {rk : Nat → Nat} (Q : PQ env rk s) (o : Nat) (ob : ObsRec)
    (ho : s.observers[o]? = some ob) (hst : ob.state = .inUse) : s.isNecessary ob.node = true := by
  have hmem : o ∈ ((V s).nodeD ob.node).observers := (Q.q.obs.mem ob.node o).2 ⟨ob, ho, rfl, Or.inl hst⟩
  rw [V_nodeD, vNode_observers] at hmem
  rw [isNecessary_iff]
  right; left
  exact List.ne_nil_of_mem hmem

theorem output_reads_of_pq (hE : EnvP env) {rk : Nat → Nat} (Q : PQ env rk s)
    (settled : ∀ n, s.isNecessary n = true → s.isStale n = false)
    (op : Nat) (pr : PerKeyRec) (o : Nat) (ob : ObsRec) (hpr : s.perkeys[op]? = some pr)
    (ho : s.observers[o]? = some ob) (hst : ob.state = .inUse) (hnode : ob.node = pr.result + 2) :
    ∃ x c vc mx mo, (s.nodeD (pr.result - 1)).kind = .map fnIdent [x] ∧ (s.nodeD x).kind = .var c ∧
      s.vars[c]? = some vc ∧ vc.value = .map mx ∧
      s.tryGetValue env o = .ok (.map mo) ∧
      specMap env (fun k => (s.top[k]?).bind fun o => s.value env o) (env.perKey pr.fam) mx = some mo :=
  output_reads (output_ok_of_pq hE Q settled) Q.q.alive Q.q.status (obsNec_of_pq Q) op pr o ob hpr ho hst hnode

end IncrVerif.Proofs.PerKeyH
