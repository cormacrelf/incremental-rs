import IncrVerif.Proofs.PerKeyH51
/-!
# One `.right` iteration of the per-key loop, part a: the run, as an explicit chain of states

`σ → σ1 = rS1 op key σ` (the per-key input node and its record) `→ σ2` (`expertAddDependency node lhsChange false`)
`→ σ3 = rLog ev σ2` (one more log entry) `→ σ4` (the template instance) `→ σ5` (`expertAddDependency result mapped true`)
`→ σ6 = rS6 op key node dep σ5` (`prevNodes`).
-/
namespace IncrVerif.Proofs.PerKeyH
open IncrVerif.Engine IncrVerif.Driver IncrVerif.Proofs IncrVerif.Proofs.Step IncrVerif.Proofs.Sched
open IncrVerif.Proofs.ExpertH IncrVerif.Proofs.EffH IncrVerif.Proofs.DriverH IncrVerif.Proofs.ExpertH.QR IncrVerif.Proofs.Xp

/-! ## the explicit states -/

/-- after the first three actions: the per-key input node `σ.nodes.size` with its record `σ.experts.size` -/
def rS1 (op : Nat) (key : Int) (σ : State) : State :=
  { σ with
    experts := σ.experts.push { f := 0, node := σ.nodes.size, pk := some (op, some key) },
    nodes := σ.nodes.push { kind := .expert σ.experts.size, createdIn := .top },
    counters := { σ.counters with created := σ.counters.created + 1 } }

/-- one more log entry -/
def rLog (ev : Event) (σ : State) : State := { σ with log := ev :: σ.log }

/-- the new entry of `prevNodes` -/
def rS6 (op : Nat) (key : Int) (node dep : Nat) (σ : State) : State :=
  { σ with perkeys := σ.perkeys.modify op fun p =>
      { p with prevNodes := (key, (node, dep)) :: p.prevNodes.filter (·.1 != key) } }

theorem rS1_eq_withInputNode (op : Nat) (key : Int) (σ : State) : PKL.withInputNode op key .top σ = rS1 op key σ := by
  simp only [PKL.withInputNode, PerKey.created, rS1]
  congr 1
  simp [push_modify_last]

/-- **the run of one `.right` iteration** -/
theorem right_run {env : Env} {fuel op : Nat} {key v : Int} {σ σ' : State}
    (hcut : (σ.perkeys[op]?.getD default).cut = none ∨ (σ.perkeys[op]?.getD default).cut = some .eq)
    (h : (PKL.perKeyStep env fuel op .top (key, .right v)).run.run σ = (.ok (), σ')) :
    ∃ d1 σ2 ev mapped σ4 dep σ5,
      (expertAddDependency env fuel σ.nodes.size (σ.perkeys[op]?.getD default).lhsChange false).run.run (rS1 op key σ)
        = (.ok d1, σ2) ∧
      (σ2.panicCountdown = none →
        (elabTemplateBase (env.perKey (σ.perkeys[op]?.getD default).fam) (.int key) [σ.nodes.size]).run.run (rLog ev σ2)
          = (.ok mapped, σ4) ∧
        (expertAddDependency env fuel (σ.perkeys[op]?.getD default).result mapped true).run.run σ4 = (.ok dep, σ5) ∧
        σ' = rS6 op key σ.nodes.size dep σ5) := by
  unfold PKL.perKeyStep at h
  rw [run_bind_get] at h
  dsimp only at h
  rw [run_bind_get, run_bind_modify, Proofs.run_bind, PerKey.createNode_run'] at h
  dsimp only at h
  rw [Proofs.run_bind] at h
  have hm : ∀ (S : State) (e : Nat) (f : ExpertRec → ExpertRec),
      (modExpert e f).run.run S = (.ok (), { S with experts := S.experts.modify e f }) := fun _ _ _ => rfl
  rw [hm] at h
  dsimp only at h
  have hs1 : ({ PerKey.created (.expert σ.experts.size) .top .eq
        { σ with experts := σ.experts.push { f := 0, pk := some (op, some key) } } with
      experts := (PerKey.created (.expert σ.experts.size) .top .eq
        { σ with experts := σ.experts.push { f := 0, pk := some (op, some key) } }).experts.modify σ.experts.size
          fun r => { r with node := σ.nodes.size } } : State) = rS1 op key σ := rS1_eq_withInputNode op key σ
  rw [hs1] at h
  /- `cut = some .eq`: the extra `modNode` writes the cutoff the new node already has: the state is unchanged -/
  have hmn : (modNode σ.nodes.size fun x => { x with cutoff := CutoffK.eq }).run.run (rS1 op key σ) =
      (.ok (), rS1 op key σ) := by
    show (Except.ok (), ({ rS1 op key σ with
      nodes := (rS1 op key σ).nodes.modify σ.nodes.size (fun x => { x with cutoff := CutoffK.eq }) } : State)) = _
    congr 1
    simp only [rS1, push_modify_last]
  have h : (do
      discard <| expertAddDependency env fuel σ.nodes.size (σ.perkeys[op]?.getD default).lhsChange false
      tick
      logEv (.note s!"pk P{(σ.perkeys[op]?.getD default).fam} key {key} node n{σ.nodes.size}")
      let mapped ← elabTemplateBase (env.perKey (σ.perkeys[op]?.getD default).fam) (.int key) [σ.nodes.size]
      let dep ← expertAddDependency env fuel (σ.perkeys[op]?.getD default).result mapped true
      modify fun s => { s with perkeys := s.perkeys.modify op fun p =>
        { p with prevNodes := (key, (σ.nodes.size, dep)) :: p.prevNodes.filter (·.1 != key) } } : M Unit).run.run
        (rS1 op key σ) = (.ok (), σ') := by
    rcases hcut with hcut | hcut
    · rw [hcut] at h
      exact h
    · rw [hcut] at h
      dsimp only at h
      rw [Proofs.run_bind, hmn] at h
      exact h
  obtain ⟨u, σ2, h1, h⟩ := bind_ok_inv h
  unfold Functor.discard at h1
  obtain ⟨d1, h1, -⟩ := map_ok_inv h1
  refine ⟨d1, σ2, .note s!"pk P{(σ.perkeys[op]?.getD default).fam} key {key} node n{σ.nodes.size}", ?_⟩
  by_cases hp2 : σ2.panicCountdown = none
  · have ht : tick.run.run σ2 = (.ok (), σ2) := by
      unfold tick
      rw [run_bind_get, hp2]
      rfl
    rw [run_bind_ok ht] at h
    unfold logEv at h
    rw [run_bind_modify] at h
    obtain ⟨mapped, σ4, h4, h⟩ := bind_ok_inv h
    obtain ⟨dep, σ5, h5, h⟩ := bind_ok_inv h
    rw [run_modify] at h
    cases h
    exact ⟨mapped, σ4, dep, σ5, h1, fun _ => ⟨h4, h5, rfl⟩⟩
  · exact ⟨0, σ, 0, σ, h1, fun hh => absurd hh hp2⟩

/-! ## twin/actual transport of frames -/

theorem r_eKey_tw (l : List Event) (s : State) : eKey (twL l s) = eKey s := rfl

theorem r_nodeKey_tw {a b : Node} (h : nodeKey (twNode b) = nodeKey (twNode a)) (hk : b.kind = a.kind) :
    nodeKey b = nodeKey a := by
  simp only [nodeKey, Prod.mk.injEq] at h ⊢
  obtain ⟨-, h2, h3, h4, h5, h6, h7, h8, h9, h10⟩ := h
  exact ⟨hk, h2, h3, h4, h5, h6, h7, h8, h9, h10⟩

/-- a freshly created top-level node -/
theorem NewNode.fresh {k : Kind} (h1 : ∀ c, k ≠ .var c) (h2 : ∀ f args, k = .map f args → f < fnPerKey) :
    NewNode ({ kind := k, createdIn := .top } : Node) :=
  ⟨rfl, rfl, rfl, rfl, rfl, h1, h2⟩

/-- the log is not part of any frame -/
theorem LF.of_same {D : Nat → Prop} {a b : State} (h1 : b.nodes = a.nodes) (h2 : b.experts = a.experts)
    (h3 : eKey b = eKey a) (h4 : b.nextDep = a.nextDep) : LF D a b := by
  have hn : ∀ m, b.nodeD m = a.nodeD m := fun m => by simp [State.nodeD, h1]
  refine ⟨by rw [h1]; exact Nat.le_refl _, fun m _ => by rw [hn], h3, by rw [h2]; exact Nat.le_refl _,
    fun e er he => ⟨er, by rw [h2]; exact he, rfl, rfl, rfl, rfl, rfl, rfl, id, fun _ => rfl,
      ⟨[], (List.append_nil _).symm⟩, Or.inl ⟨rfl, rfl⟩⟩,
    by rw [h4]; exact Nat.le_refl _, fun m hm1 hm2 => ?_, fun m hm => ?_⟩
  · rw [h1] at hm2; omega
  · simp only [State.isNecessary, hn]; exact hm

/-! ## step A: the per-key input node -/

section stepA
variable (op : Nat) (key : Int) (σ : State)

theorem rS1_nodes : (rS1 op key σ).nodes = σ.nodes.push { kind := .expert σ.experts.size, createdIn := .top } := rfl
theorem rS1_experts : (rS1 op key σ).experts
    = σ.experts.push { f := 0, node := σ.nodes.size, pk := some (op, some key) } := rfl
theorem rS1_size : (rS1 op key σ).nodes.size = σ.nodes.size + 1 := by rw [rS1_nodes, Array.size_push]
theorem rS1_xsize : (rS1 op key σ).experts.size = σ.experts.size + 1 := by rw [rS1_experts, Array.size_push]
theorem rS1_nextDep : (rS1 op key σ).nextDep = σ.nextDep := rfl
theorem rS1_eKey : eKey (rS1 op key σ) = eKey σ := rfl
theorem rS1_perkeys : (rS1 op key σ).perkeys = σ.perkeys := rfl
theorem rS1_top : (rS1 op key σ).top = σ.top := rfl
theorem rS1_log : (rS1 op key σ).log = σ.log := rfl

theorem rS1_nodeD_new : (rS1 op key σ).nodeD σ.nodes.size = { kind := .expert σ.experts.size, createdIn := .top } := by
  simp only [State.nodeD, rS1_nodes, Array.getElem?_push, if_true, Option.getD_some]

theorem rS1_nodeD_ne {m : Nat} (h : m ≠ σ.nodes.size) : (rS1 op key σ).nodeD m = σ.nodeD m := by
  simp only [State.nodeD, rS1_nodes, Array.getElem?_push, if_neg h]

theorem rS1_nodeD_lt {m : Nat} (h : m < σ.nodes.size) : (rS1 op key σ).nodeD m = σ.nodeD m :=
  rS1_nodeD_ne op key σ (by omega)

theorem rS1_experts_new : (rS1 op key σ).experts[σ.experts.size]?
    = some { f := 0, node := σ.nodes.size, pk := some (op, some key) } := by
  rw [rS1_experts]; simp

theorem rS1_experts_lt {e : Nat} (h : e < σ.experts.size) : (rS1 op key σ).experts[e]? = σ.experts[e]? := by
  rw [rS1_experts, Array.getElem?_push_lt h, Array.getElem?_eq_getElem h]

theorem rS1_experts_old {e : Nat} {er : ExpertRec} (h : σ.experts[e]? = some er) :
    (rS1 op key σ).experts[e]? = some er := by
  rw [rS1_experts_lt op key σ (Array.getElem?_eq_some_iff.1 h).1]; exact h

theorem twL_rS1 (l : List Event) : twL l (rS1 op key σ) = xElab 0 (twL l σ) := by
  simp only [twL, rS1, xElab, Array.map_push, Array.size_map]
  rfl

theorem lf_rS1 (D : Nat → Prop) : LF D σ (rS1 op key σ) := by
  refine ⟨by rw [rS1_size]; omega, fun m hm => by rw [rS1_nodeD_lt op key σ hm], rfl, by rw [rS1_xsize]; omega,
    fun e er he => ⟨er, rS1_experts_old op key σ he, rfl, rfl, rfl, rfl, rfl, rfl, id, fun _ => rfl,
      ⟨[], (List.append_nil _).symm⟩, Or.inl ⟨rfl, rfl⟩⟩,
    Nat.le_refl _, fun m hm1 hm2 => ?_, fun m hm => ?_⟩
  · rw [rS1_size] at hm2
    have : m = σ.nodes.size := by omega
    rw [this, rS1_nodeD_new]
    exact NewNode.fresh (fun c h => by cases h) (fun f args h => by cases h)
  · by_cases h : m < σ.nodes.size
    · simp only [State.isNecessary, rS1_nodeD_lt op key σ h]; exact hm
    · simp only [State.isNecessary, nodeD_default_of_ge σ m (by omega)] at hm
      cases hm

theorem cfx_rS1 : CFX σ (rS1 op key σ) := by
  refine ⟨by rw [rS1_size]; omega, fun m hm => rS1_nodeD_lt op key σ hm, fun m e hm hk => ?_,
    by rw [rS1_xsize]; omega, fun e he => rS1_experts_lt op key σ he, fun e er he h => ?_, rfl⟩
  · by_cases hm' : m = σ.nodes.size
    · rw [hm', rS1_nodeD_new] at hk
      cases hk; exact Nat.le_refl _
    · have : (rS1 op key σ).nodeD m = default := by
        apply nodeD_default_of_ge; rw [rS1_size]; omega
      rw [this] at hk; cases hk
  · by_cases he' : e = σ.experts.size
    · rw [he', rS1_experts_new] at h
      cases h; exact ⟨rfl, rfl, rfl⟩
    · have := (Array.getElem?_eq_some_iff.1 h).1
      rw [rS1_xsize] at this; omega

end stepA

/-! ## `LFX`: `LF` plus "records outside `D` keep `forceStale`" -/

structure LFX (D : Nat → Prop) (a b : State) : Prop where
  lf : LF D a b
  fs : ∀ (e : Nat) (er er' : ExpertRec), ¬ D e → a.experts[e]? = some er → b.experts[e]? = some er' →
    er'.forceStale = er.forceStale

theorem LFX.refl (D : Nat → Prop) (a : State) : LFX D a a :=
  ⟨LF.refl D a, fun _ er er' _ h h' => by rw [h] at h'; cases h'; rfl⟩

theorem LFX.trans {D : Nat → Prop} {a b c : State} (h1 : LFX D a b) (h2 : LFX D b c) : LFX D a c := by
  refine ⟨h1.lf.trans h2.lf, fun e er er2 hD he he2 => ?_⟩
  obtain ⟨er1, he1, -⟩ := h1.lf.xrec e er he
  exact (h2.fs e er1 er2 hD he1 he2).trans (h1.fs e er er1 hD he he1)

theorem LFX.restrict {D D' : Nat → Prop} {a b : State} (h : LFX D' a b)
    (hD : ∀ e, e < a.experts.size → D' e → D e) : LFX D a b :=
  ⟨h.lf.restrict hD, fun e er er' hn he he' =>
    h.fs e er er' (fun hd => hn (hD e (Array.getElem?_eq_some_iff.1 he).1 hd)) he he'⟩

theorem LFX.mono {D D' : Nat → Prop} {a b : State} (h : LFX D a b) (hD : ∀ e, D e → D' e) : LFX D' a b :=
  h.restrict (D := D') fun e _ hd => hD e hd

theorem LFX.of_same {D : Nat → Prop} {a b : State} (h1 : b.nodes = a.nodes) (h2 : b.experts = a.experts)
    (h3 : eKey b = eKey a) (h4 : b.nextDep = a.nextDep) : LFX D a b :=
  ⟨LF.of_same h1 h2 h3 h4, fun e er er' _ he he' => by rw [h2, he] at he'; cases he'; rfl⟩

/-- **an engine call that keeps `LKF`, described by `EF` on the twin** -/
theorem lfx_of_twin {E : Env} {D : Nat → Prop} {a b : State} {l l' : List Event}
    (Ma : Mid E (twL l a)) (Mb : Mid E (twL l' b))
    (ef : EF D (twL l a) (twL l' b)) (lk : LKF a b)
    (hD : ∀ e er er', D e → a.experts[e]? = some er → b.experts[e]? = some er' →
      ∃ ext, er'.children = er.children ++ ext)
    (hnec : ∀ m, a.isNecessary m = true → b.isNecessary m = true) : LFX D a b := by
  refine ⟨⟨by rw [lk.size]; exact Nat.le_refl _, fun m _ => ?_, ?_, by rw [lk.xsize]; exact Nat.le_refl _,
    fun e er he => ?_, ef.nextDep, fun m hm1 hm2 => ?_, hnec⟩, fun e er er' hn he he' => ?_⟩
  · have := ef.node m
    rw [twL_nodeD, twL_nodeD] at this
    exact r_nodeKey_tw this (lk.kind m)
  · have := ef.key
    rwa [r_eKey_tw, r_eKey_tw] at this
  · obtain ⟨er', he', k1, k2, k3, k4, k5⟩ := lk.xrec he
    have hx := ef.xforce e (twRec er) (twRec er') (tw_rec_get he) (tw_rec_get he')
    have n1 := (Ma.frag.xok e (twRec er) (tw_rec_get he)).2.1
    have n2 := (Mb.frag.xok e (twRec er') (tw_rec_get he')).2.1
    refine ⟨er', he', k1, k2, k3, k4, k5, n2.trans n1.symm, fun hf => ?_, fun hn => ?_, ?_, hx⟩
    · rcases hx with ⟨-, h⟩ | h
      · exact h.trans hf
      · exact h
    · have := ef.xsame e (twRec er) (twRec er') hn (tw_rec_get he) (tw_rec_get he')
      simp only [recK, Prod.mk.injEq] at this
      exact this.1
    · by_cases hd : D e
      · exact hD e er er' hd he he'
      · have := ef.xsame e (twRec er) (twRec er') hd (tw_rec_get he) (tw_rec_get he')
        simp only [recK, Prod.mk.injEq] at this
        exact ⟨[], by rw [List.append_nil]; exact this.1⟩
  · rw [lk.size] at hm2; omega
  · have := ef.xsame e (twRec er) (twRec er') hn (tw_rec_get he) (tw_rec_get he')
    simp only [recK, Prod.mk.injEq] at this
    exact this.2.1

/-! ## the generic `expertAddDependency` step -/

/-- a successful `expertAddDependency` on an expert node also succeeds with one more unit of fuel
(fuel `0` fails on a necessary node; an unnecessary node does not read the fuel) -/
theorem r_addDep_fuel {env : Env} {fuel n c : Nat} {cb : Bool} {s s' : State} {dep : Nat} {nd : Node} {e : Nat}
    {er : ExpertRec} (hx : IsExpert s n nd e er)
    (h : (expertAddDependency env fuel n c cb).run.run s = (.ok dep, s')) :
    ∃ f, (expertAddDependency env (f + 1) n c cb).run.run s = (.ok dep, s') := by
  cases fuel with
  | succ f => exact ⟨f, h⟩
  | zero =>
    cases hnec : nd.isNecessary with
    | false =>
      rw [expertAddDependency_unnecessary env 0 n c cb hx hnec] at h
      exact ⟨0, by rw [expertAddDependency_unnecessary env 1 n c cb hx hnec]; exact h⟩
    | true => exact (addDep_fuel0_nec hx hnec h).elim

/-- the children of a node are existing nodes (from `Mid` of the twin) -/
theorem r_kids_lt {E : Env} {l : List Event} {σ : State} (M : Mid E (twL l σ)) {m c : Nat}
    (h : c ∈ kidsX σ.experts (σ.nodeD m).kind) : c < σ.nodes.size := by
  by_cases hm : m < σ.nodes.size
  · obtain ⟨rk, I⟩ := M.st
    have := (I.static.node m (by rw [virt_size, twL_size]; exact hm)).kidsIn c
      (by rw [virt_kids, kidsX_twL]; exact h)
    rwa [virt_size, twL_size] at this
  · rw [nodeD_default_of_ge σ m (by omega)] at h
    cases h

/-- **one `expertAddDependency` between two engine calls of the loop**, on the actual state -/
theorem r_addDep {env : Env} {fuel x c e : Nat} {cb : Bool} {a b : State} {dep : Nat} {er : ExpertRec}
    (Ma : Mid (twEnv env) (twL [] a)) (S : SlotInv env a)
    (hx : x < a.nodes.size) (hk : (a.nodeD x).kind = .expert e) (he : a.experts[e]? = some er)
    (hc : c < a.nodes.size) (hacyc : ¬ ExpertH.Below a c x)
    (h : (expertAddDependency env fuel x c cb).run.run a = (.ok dep, b)) :
    Mid (twEnv env) (twL [] b) ∧ SlotInv env b ∧ LFX (fun e' => e' = e) a b ∧ LKF a b ∧ dep = a.nextDep ∧
      b.nextDep = a.nextDep + 1 ∧
      ∃ er', b.experts[e]? = some er' ∧ er'.children = er.children ++ [Xp.newEdge a c cb] ∧
        er'.forceStale = true ∧ er'.f = er.f ∧ er'.node = er.node ∧ er'.pk = er.pk := by
  have fra : Fr a := fr_of_twin Ma.fr
  obtain ⟨⟨l', htw⟩, -⟩ := TSim.expertAddDependency env fuel x c cb a fra [] dep b h
  have hk' : ((twL [] a).nodeD x).kind = .expert e := by rw [KtwL_kind, hk]; rfl
  obtain ⟨Mb, ef, hdep, hnd, ⟨er', he', hch, -, -, hfs⟩, hnec⟩ :=
    addSpec (twEnv env) fuel x c e cb (twL [] a) (twL l' b) dep (twRec er) Ma (by rw [twL_size]; exact hx) hk'
      (tw_rec_get he) (by rw [twL_size]; exact hc) (by rw [below_tw]; exact hacyc) htw
  have lk : LKF a b := expertAddDependency_lkf h
  obtain ⟨er2, he2, k1, k2, k3, -, -⟩ := lk.xrec he
  have he2' := tw_rec_get (l := l') he2
  rw [he'] at he2'
  cases he2'
  have hch2 : er2.children = er.children ++ [Xp.newEdge a c cb] := hch
  have Mb0 : Mid (twEnv env) (twL [] b) := mid_relog Mb []
  refine ⟨Mb0, ?_, ?_, lk, hdep, hnd, er2, he2, hch2, hfs, k1, k2, k3⟩
  · -- slots, on the twin
    have hX : IsExpert (twL [] a) x ((twL [] a).nodeD x) e (twRec er) :=
      ⟨some_of_lt (by rw [twL_size]; exact hx), Ma.frag.valid x (by rw [twL_size]; exact hx), hk', tw_rec_get he⟩
    obtain ⟨f, hf⟩ := r_addDep_fuel hX htw
    have := expertAddDependency_slots Ma.frag Ma.pinv ((slotInv_twin env [] a).1 S) hk' (tw_rec_get he) hf
    exact (slotInv_twin env l' b).2 this
  · refine lfx_of_twin Ma Mb ef lk (fun e0 er0 er0' hd h0 h0' => ?_) (fun m hm => ?_)
    · subst hd
      rw [he] at h0; cases h0
      rw [he2] at h0'; cases h0'
      exact ⟨_, hch2⟩
    · have := hnec m (by rw [twL_isNecessary]; exact hm)
      rwa [twL_isNecessary] at this

end IncrVerif.Proofs.PerKeyH
