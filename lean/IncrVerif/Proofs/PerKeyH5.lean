import IncrVerif.Proofs.PerKeyH4
/-!
# Per-key operators over whole histories, part 4: the fragment of histories, contracts of the action/history level

`EnvP env`: the built-in identity function is the identity (true of `Defs.toEnv`).  Every contract of PK3 may assume it.
`PActionOK env s a`: the API actions of the fragment, relative to the state in which the action is executed.
-/
namespace IncrVerif.Proofs.PerKeyH
open IncrVerif.Engine IncrVerif.Driver IncrVerif.Proofs IncrVerif.Proofs.Step IncrVerif.Proofs.Sched
open IncrVerif.Proofs.ExpertH IncrVerif.Proofs.EffH IncrVerif.Proofs.DriverH

/-- the conversion nodes around an operator are identities -/
def EnvP (env : Env) : Prop := ∀ args : List Val, env.fn fnIdent args = args.headD .unit

theorem toEnv_envP (d : Defs) : EnvP d.toEnv := by
  intro args
  simp [Defs.toEnv, fnIdent, fnZip, fnFirst]

/-- the node-creating instructions of the fragment (top level): static instructions over top-level operands, and
`perKey cut fam x` (`cut` absent or the default `.eq`) over a variable holding a map, for a template of the fragment whose outer nodes already exist -/
def PInstrOK (env : Env) (s : State) : Instr → Prop
  | .const _ => True
  | .var v => ∀ m, v = .map m → IncrVerif.AMap.Sorted m
  | .map f args => f < fnZip ∧ (∀ vals, env.fnEff f vals = []) ∧ ∀ a, a ∈ args → QR.OpndOK a
  | .fold f _ cs => f < xBase ∧ ∀ a, a ∈ cs → QR.OpndOK a
  | .zip a b => QR.OpndOK a ∧ QR.OpndOK b
  | .perKey cut fam x => (cut = none ∨ cut = some .eq) ∧ TemplOK env (env.perKey fam) ∧
      (∃ k o c vc m, x = .outer k ∧ s.top[k]? = some o ∧ (s.nodeD o).kind = .var c ∧ s.vars[c]? = some vc ∧
        vc.value = .map m ∧ IncrVerif.AMap.Sorted m ∧
        (∀ w, (s.nodeD o).value = some w → ∃ m2, w = .map m2 ∧ IncrVerif.AMap.Sorted m2 ∧ keysSub m2 m)) ∧
      (∀ k : Nat, k ∈ templOuter (env.perKey fam) → ∃ o, s.top[k]? = some o)
  | _ => False

/-- a write to a variable that holds a map must store a sorted map with at least the same keys (no removal) -/
def PWriteOK (s : State) (v : Nat) (new : Val) : Prop :=
  (∀ m', new = .map m' → IncrVerif.AMap.Sorted m') ∧
  ∀ vc m, s.vars[v]? = some vc → vc.value = .map m → ∃ m', new = .map m' ∧ keysSub m m'

def MapVar (s : State) (v : Nat) : Prop := ∃ vc m, s.vars[v]? = some vc ∧ vc.value = .map m

def PActionOK (env : Env) (s : State) : Action → Prop
  | .create i => PInstrOK env s i
  | .observe n => QR.OpndOK n
  | .cloneObs _ | .dropObs _ | .disallow _ => True
  | .set v x => PWriteOK s v x
  | .replace v x => PWriteOK s v x
  | .modify v _ | .update v _ | .replaceWith v _ => ¬ MapVar s v
  | .get _ | .stabilise | .isStable | .stats => True
  | _ => False

/-- every action of a run is an action of the fragment, in the state in which it is executed -/
def RunOKP (env : Env) : List Action → State → Array Nat → Prop
  | [], _, _ => True
  | a :: as, s, tk => PActionOK env s a ∧
      ∀ r s', (stepAction env a tk).run.run s = (.ok r, s') → RunOKP env as s' r.2

/-- every action but `stabilise` keeps the invariant between actions -/
def ActionSpecP (env : Env) : Prop :=
  ∀ (rk : Nat → Nat) (s s' : State) (a : Action) (tk : Array Nat) (r : String × Array Nat),
    PQ env rk s → PActionOK env s a → a ≠ .stabilise →
    (stepAction env a tk).run.run s = (.ok r, s') → ∃ rk', PQ env rk' s'

end IncrVerif.Proofs.PerKeyH
