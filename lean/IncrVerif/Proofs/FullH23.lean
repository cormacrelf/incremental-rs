import IncrVerif.Proofs.FullH14
import IncrVerif.Proofs.FullH15
/-!
# C01 full fragment: `Inherit` and `CFrag` from the invariants of the virtual state
-/
namespace IncrVerif.Proofs.FullH
open IncrVerif.Engine IncrVerif.Driver IncrVerif.Proofs IncrVerif.Proofs.Step IncrVerif.Proofs.Sched IncrVerif.Proofs.Quiet
open IncrVerif.Proofs.MapRefH (IsMapRef isMapRef_iff not_isMapRef_iff)
open IncrVerif.Proofs.BindH (DInv BGraph ConsistentB TargetB)
open IncrVerif.Proofs.NestH (All2 GInv2 QInv2)

section
variable {env : Env} {sp : Nat → Val → Val} {g : Nat → Option Val} {s : State}

/-- a valid map_ref node that is not stale is unclean only through its input: from the consistency of the virtual state -/
theorem inherit_of_cons (F : FFrag env sp g s)
    (hcons : ∀ m, m < s.nodes.size → (s.nodeD m).valid = true → s.isStale m = false → ConsistentB (VE env sp) (virt g s) m) :
    Inherit env g s := by
  intro m pr i hvm hk hst hu
  have hlt := F.lt_of_mapRef hk
  obtain ⟨w, hw, hv⟩ := hcons m hlt hvm hst
  have hkv : ((virt g s).nodeD m).kind = .map (pBase + pr) [i] := by
    rw [virt_nodeD, virtNode_kind, hk]; rfl
  unfold TargetB at hw
  rw [hkv] at hw
  simp only [Target, hkv] at hw
  obtain ⟨vals, hvals, hwv⟩ := hw
  rw [virt_plainVals] at hvals
  simp only [evalArgs] at hvals
  have hgm : g m = tv g s m := (tv_mapRef hk).symm
  have hread : s.value env m = (s.value env i).map (env.proj pr) := value_mapRef F hvm hk
  cases hx : tv g s i with
  | none => rw [hx] at hvals; simp at hvals
  | some x =>
    rw [hx] at hvals
    simp at hvals
    subst hvals
    have hgm' : g m = some (env.proj pr x) := by
      rw [hgm]; show ((virt g s).nodeD m).value = _; rw [hv, hwv, virtEnv_fn_proj env sp (F.pid hk)]; rfl
    have hne : s.value env i ≠ some x := by
      intro h; apply hu; unfold Unclean at *; rw [hgm', hread, h]; rfl
    by_cases hmi : ∀ p j, (s.nodeD i).kind ≠ .mapRef p j
    · exact absurd ((tv_eq_value_of_not_mapRef (env := env) hmi).symm.trans hx) hne
    · have hmr : IsMapRef (s.nodeD i).kind := Classical.byContradiction fun h => hmi (not_isMapRef_iff.1 h)
      refine ⟨hmr, ?_⟩
      obtain ⟨p, j, hki⟩ := isMapRef_iff.1 hmr
      unfold Unclean
      have : g i = some x := by rw [← tv_mapRef (g := g) hki]; exact hx
      rw [this]
      exact fun h => hne h.symm

/-- the facts the linking cascade needs, from the structural invariant of the virtual state -/
theorem cfrag_of_ginv2 {rk : Nat → Nat} {op : Nat → Op} {ex : Nat → Prop} {dy : List Nat} (F : FFrag env sp g s)
    (I : GInv2 (VE env sp) rk (virt g s) op ex dy) (hop : ∀ m, op m = .closed) (hnf : ∀ m, (s.nodeD m).forceNecessary = false) :
    CFrag env sp g rk s := by
  have A := I.frag
  have hch : ∀ n c, c ∈ s.children n → n < s.nodes.size := by
    intro n c hc
    by_cases hn : n < s.nodes.size
    · exact hn
    · rw [Step.children_default s n (by omega)] at hc; cases hc
  refine ⟨F, fun n c hc => ?_, fun n c hc => ?_, fun n c hc => ?_, fun n hn => ?_, fun c p i hp => ?_⟩
  · have := (A.node n (by rw [virt_size]; exact hch n c hc)).kidLt c (by rw [virt_children]; exact hc)
    exact this
  · have := (A.node n (by rw [virt_size]; exact hch n c hc)).kidsValid c (by rw [virt_children]; exact hc)
    rw [virt_nodeD, virtNode_valid] at this; exact this
  · have := (A.node n (by rw [virt_size]; exact hch n c hc)).kidsIn c (by rw [virt_children]; exact hc)
    rw [virt_size] at this; exact this
  · cases hv : (s.nodeD n).valid with
    | true => rfl
    | false =>
      obtain ⟨h1, h2, h3, -, -⟩ := I.inv n (by rw [virt_nodeD, virtNode_valid]; exact hv)
      rw [virt_nodeD, virtNode_parents] at h1
      rw [virt_nodeD, virtNode_observers] at h2
      rw [virt_nodeD, virtNode_forceNecessary] at h3
      simp [State.isNecessary, Node.isNecessary, h1, h2, h3] at hn
  · have := (I.par c p i (by rw [virt_nodeD, virtNode_parents]; exact hp)).1
    rw [virt_children] at this; exact this

end
end IncrVerif.Proofs.FullH
