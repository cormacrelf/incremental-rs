import IncrVerif.Proofs.Footprint
import IncrVerif.Proofs.Quiet25
/-!
# `stabilise`'s observer phases and `stabiliseEnd` only log mute events
-/
namespace IncrVerif.Proofs.TidyH
open IncrVerif.Engine IncrVerif.Driver IncrVerif.Proofs IncrVerif.Proofs.Step IncrVerif.Proofs.Sched IncrVerif.Proofs.Quiet

/-- events that are not calls of a node's user function: cutoff calls, notes, expert edge callbacks -/
def Mute : Event → Prop
  | .cut .. => True
  | .note _ => True
  | .inv what _ _ _ => what = "cb"
  | _ => False

/-- the log only grew, by mute events -/
def LogN (s s' : State) : Prop := ∃ new, s'.log = new ++ s.log ∧ ∀ e, e ∈ new → Mute e

namespace P5

theorem LogN.refl (s : State) : LogN s s := ⟨[], rfl, fun _ h => nomatch h⟩
theorem LogN.trans {a b c : State} (h1 : LogN a b) (h2 : LogN b c) : LogN a c := by
  obtain ⟨n1, e1, m1⟩ := h1
  obtain ⟨n2, e2, m2⟩ := h2
  refine ⟨n2 ++ n1, by rw [e2, e1, List.append_assoc], fun e he => ?_⟩
  rcases List.mem_append.mp he with h | h
  · exact m2 e h
  · exact m1 e h

theorem LogN.of_same {s s' : State} (h : s'.log = s.log) : LogN s s' :=
  ⟨[], by rw [h]; rfl, fun _ h => nomatch h⟩

end P5

instance : Step.PreOrd LogN := ⟨P5.LogN.refl, P5.LogN.trans⟩

namespace P5
open Footprint

/-- a primitive write other than the log of a user-function call or of a notification keeps `LogN` -/
theorem LogN.of_edit {L w} (h1 : Tag.logInv ∉ L) (h2 : Tag.logNotif ∉ L) {s s' : State} (e : Edit L w s s') : LogN s s' := by
  cases e
  case log ev he =>
    refine ⟨[ev], rfl, fun x hx => ?_⟩
    rw [List.mem_singleton.1 hx]
    cases he
    case cb => exact rfl
    case inv ht => exact absurd ht h1
    case cut => exact trivial
    case notif ht => exact absurd ht h2
    case note => exact trivial
  all_goals exact LogN.of_same rfl

theorem PresL.handleAfterStabilisation (n) : Step.Pres LogN (handleAfterStabilisation n) :=
  (Foot.handleAfterStabilisation n).frame (LogN.of_edit (by decide) (by decide))
theorem PresL.bumpCounter (f) : Step.Pres LogN (bumpCounter f) := Step.Pres.modify fun _ => LogN.of_same rfl
theorem PresL.setHeight (n h) : Step.Pres LogN (setHeight n h) :=
  (Foot.setHeight n h).frame (LogN.of_edit (by decide) (by decide))
theorem PresL.addParent (c i p) : Step.Pres LogN (addParent c i p) :=
  (Foot.addParent c i p).frame (LogN.of_edit (by decide) (by decide))
theorem PresL.removeParent (c i p) : Step.Pres LogN (removeParent c i p) :=
  (Foot.removeParent c i p).frame (LogN.of_edit (by decide) (by decide))
theorem PresL.markMapRefUnknown (fuel n) : Step.Pres LogN (markMapRefUnknown fuel n) :=
  (Foot.markMapRefUnknown fuel n).frame (LogN.of_edit (by decide) (by decide))
theorem PresL.becameNecessary (env fuel n) : Step.Pres LogN (becameNecessary env fuel n) :=
  (Foot.becameNecessary env fuel n).frame (LogN.of_edit (by decide) (by decide))
theorem PresL.unlink (fuel : Nat) :
    (∀ n, Step.Pres LogN (becameUnnecessary fuel n)) ∧
    (∀ n, Step.Pres LogN (checkIfUnnecessary fuel n)) ∧
    (∀ n, Step.Pres LogN (removeChildren fuel n)) :=
  ⟨fun n => (Foot.becameUnnecessary fuel n).frame (LogN.of_edit (by decide) (by decide)),
   fun n => (Foot.checkIfUnnecessary fuel n).frame (LogN.of_edit (by decide) (by decide)),
   fun n => (Foot.removeChildren fuel n).frame (LogN.of_edit (by decide) (by decide))⟩
theorem PresL.checkIfUnnecessary (fuel n) : Step.Pres LogN (checkIfUnnecessary fuel n) :=
  (PresL.unlink fuel).2.1 n
theorem PresL.removeChildren (fuel n) : Step.Pres LogN (removeChildren fuel n) :=
  (PresL.unlink fuel).2.2 n
theorem PresL.invalidateNode (fuel n) : Step.Pres LogN (invalidateNode fuel n) :=
  (Foot.invalidateNode fuel n).frame (LogN.of_edit (by decide) (by decide))
theorem PresL.propagateInvalidity (fuel) : Step.Pres LogN (propagateInvalidity fuel) :=
  (Foot.propagateInvalidity fuel).frame (LogN.of_edit (by decide) (by decide))

end P5

theorem addNewObservers_logN (env : Env) (fuel : Nat) : Step.Pres LogN (addNewObservers env fuel) :=
  (Footprint.Foot.addNewObservers env fuel).frame (P5.LogN.of_edit (by decide) (by decide))

theorem unlinkDisallowedObservers_logN (fuel : Nat) : Step.Pres LogN (unlinkDisallowedObservers fuel) :=
  (Footprint.Foot.unlinkDisallowedObservers fuel).frame (P5.LogN.of_edit (by decide) (by decide))

/-- without pending writes, dead variables and update handlers `stabiliseEnd` logs nothing -/
theorem stabiliseEnd_log {env : Env} {fuel : Nat} {s s' : State} (h1 : s.setDuringStab = [])
    (h2 : s.deadVars = []) (hobs : ∀ (o : Nat) (ob : ObsRec), s.observers[o]? = some ob → ob.handlers = [])
    (h : (stabiliseEnd env fuel).run.run s = (.ok (), s')) : s'.log = s.log := by
  unfold stabiliseEnd at h
  obtain ⟨s1, e1, h⟩ := bind_modify_inv h
  rw [run_bind_get] at h
  try dsimp only at h
  obtain ⟨s2, e2, h⟩ := bind_modify_inv h
  have h1' : s1.setDuringStab = [] := by rw [e1]; exact h1
  rw [h1', List.forIn_nil] at h
  obtain ⟨_, s3, hp, h⟩ := bind_ok_inv h
  obtain ⟨_, e3⟩ := pure_ok_inv hp
  rw [e3] at h
  rw [run_bind_get] at h
  try dsimp only at h
  obtain ⟨s4, e4, h⟩ := bind_modify_inv h
  have h2' : s2.deadVars = [] := by rw [e2, e1]; exact h2
  rw [h2', List.forIn_nil] at h
  obtain ⟨_, s5, hp5, h⟩ := bind_ok_inv h
  obtain ⟨_, e5⟩ := pure_ok_inv hp5
  rw [e5] at h
  rw [run_bind_get] at h
  try dsimp only at h
  obtain ⟨s6, e6, h⟩ := bind_modify_inv h
  have M6 : s6.log = s.log ∧ s6.observers = s.observers := by
    rw [e6, e4, e2, e1]
    exact ⟨rfl, rfl⟩
  -- loop 3: only `inHandleAfterStab` flags change
  obtain ⟨q, s7, hl3, h⟩ := bind_ok_inv h
  have M7 : s7.log = s.log ∧ s7.observers = s.observers := by
    refine forIn_ok_keepB (fun t => t.log = s.log ∧ t.observers = s.observers) _ _ ?_ _ _ _ _ M6 hl3
    intro n _ b t r t' Mt hb
    obtain ⟨t1, et1, hb⟩ := bind_modNode_inv hb
    rw [run_bind_get] at hb
    obtain ⟨_, et'⟩ := pure_ok_inv hb
    rw [et', et1]
    exact Mt
  obtain ⟨s8, e8, h⟩ := bind_modify_inv h
  rw [run_bind_get] at h
  -- loop 4: no handler runs
  obtain ⟨_, s9, hl4, h⟩ := bind_ok_inv h
  have e9 : s9 = s8 := by
    refine forIn_ok_keepB (fun t => t = s8) _ _ ?_ _ _ _ _ rfl hl4
    intro x _ b t r t' et hb
    obtain ⟨nd, _, hb⟩ := bind_getNode_inv hb
    obtain ⟨_, t1, hb1, hb⟩ := bind_ok_inv hb
    obtain ⟨_, et'⟩ := pure_ok_inv hb
    rw [et']
    refine forIn_ok_keepB (fun t => t = s8) _ _ ?_ _ _ _ _ et hb1
    intro o _ b2 u r2 u' eu hr
    obtain ⟨_, u1, hr1, hr⟩ := bind_ok_inv hr
    obtain ⟨_, eu'⟩ := pure_ok_inv hr
    rw [eu']
    have hobs' : ∀ (o : Nat) (ob : ObsRec), u.observers[o]? = some ob → ob.handlers = [] := by
      intro o ob ho
      rw [eu, e8] at ho
      exact hobs o ob (by rw [← M7.2]; exact ho)
    rw [runAll_nohandlers hobs' hr1]; exact eu
  obtain ⟨s10, e10, h⟩ := bind_modify_inv h
  rw [run_modify] at h
  obtain ⟨_, e11⟩ := Prod.mk.inj h
  rw [← e11, e10, e9, e8]
  exact M7.1

end IncrVerif.Proofs.TidyH
