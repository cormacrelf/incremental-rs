import IncrVerif.Proofs.FullH6
/-!
# C01 full fragment: simulation of the necessity cascades
-/
namespace IncrVerif.Proofs.FullH
open IncrVerif.Engine IncrVerif.Proofs IncrVerif.Proofs.Step IncrVerif.Proofs.Sched IncrVerif.Proofs.Quiet

section
variable {K : Kind → Prop} {g : Nat → Option Val} {sp : Nat → Val → Val}

/-- loops: same list, bodies simulate each other -/
macro "fsim_loop" : tactic =>
  `(tactic| ((with_reducible refine Sim.at (Sim.forIn _ (fun _ _ => ?_) _) _); intro _))

theorem Sim.getBind (b : Nat) : Sim K g (Engine.getBind b) (Engine.getBind b) :=
  .of_comm fun s0 => NodeSim.Comm.getBind (blind s0) b
macro_rules | `(tactic| fsim_leaf) => `(tactic| with_reducible exact Sim.getBind _)

theorem Sim.getExpert (b : Nat) : Sim K g (Engine.getExpert b) (Engine.getExpert b) :=
  .of_comm fun s0 => NodeSim.Comm.getExpert (blind s0) (plain g) b
macro_rules | `(tactic| fsim_leaf) => `(tactic| with_reducible exact Sim.getExpert _)

theorem Sim.logEv (e : Event) : Sim K g (Engine.logEv e) (Engine.logEv e) :=
  .of_comm fun s0 => NodeSim.Comm.logEv (blind s0) (plain g) e
macro_rules | `(tactic| fsim_leaf) => `(tactic| with_reducible exact Sim.logEv _)

theorem Sim.modExpert (e : Nat) (f : ExpertRec → ExpertRec) : Sim K g (Engine.modExpert e f) (Engine.modExpert e f) :=
  .of_comm fun s0 => NodeSim.Comm.modExpert (blind s0) (plain g) (writesExperts s0) e f
macro_rules | `(tactic| fsim_leaf) => `(tactic| with_reducible exact Sim.modExpert _ _)

theorem Sim.modBind (b : Nat) (f : BindRec → BindRec) : Sim K g (Engine.modBind b f) (Engine.modBind b f) :=
  .of_comm fun s0 => NodeSim.Comm.modBind (blind s0) (writesBinds s0) b f
macro_rules | `(tactic| fsim_leaf) => `(tactic| with_reducible exact Sim.modBind _ _)

theorem Sim.observabilityChange (e : Nat) (b : Bool) :
    Sim K g (Engine.observabilityChange e b) (Engine.observabilityChange e b) :=
  .of_comm fun s0 => NodeSim.Comm.observabilityChange (blind s0) (plain g) (writesExperts s0) e b
macro_rules | `(tactic| fsim_leaf) => `(tactic| with_reducible exact Sim.observabilityChange _ _)

theorem Sim.scopeHeight (sc : Scope) : Sim K g (Engine.scopeHeight sc) (Engine.scopeHeight sc) :=
  .of_comm fun s0 => NodeSim.Comm.scopeHeight (blind s0) sc
macro_rules | `(tactic| fsim_leaf) => `(tactic| with_reducible exact Sim.scopeHeight _)

theorem Sim.scopeIsNecessary (sc : Scope) : Sim K g (Engine.scopeIsNecessary sc) (Engine.scopeIsNecessary sc) :=
  .of_comm fun s0 => NodeSim.Comm.scopeIsNecessary (blind s0) sc
macro_rules | `(tactic| fsim_leaf) => `(tactic| with_reducible exact Sim.scopeIsNecessary _)

theorem Sim.scopeIsValid (sc : Scope) : Sim K g (Engine.scopeIsValid sc) (Engine.scopeIsValid sc) :=
  .of_comm fun s0 => NodeSim.Comm.scopeIsValid (blind s0) sc
macro_rules | `(tactic| fsim_leaf) => `(tactic| with_reducible exact Sim.scopeIsValid _)

theorem Sim.handleAfterStabilisation (n : Nat) :
    Sim K g (Engine.handleAfterStabilisation n) (Engine.handleAfterStabilisation n) :=
  .of_comm fun s0 => NodeSim.Comm.handleAfterStabilisation (blind s0) n
macro_rules | `(tactic| fsim_leaf) => `(tactic| with_reducible exact Sim.handleAfterStabilisation _)

theorem Sim.maybeHandleAfterStabilisation (n : Nat) :
    Sim K g (Engine.maybeHandleAfterStabilisation n) (Engine.maybeHandleAfterStabilisation n) :=
  .of_comm fun s0 => NodeSim.Comm.maybeHandleAfterStabilisation (blind s0) n
macro_rules | `(tactic| fsim_leaf) => `(tactic| with_reducible exact Sim.maybeHandleAfterStabilisation _)

theorem Sim.becameNecessary (env : Env) (fuel n : Nat) :
    Sim K g (Engine.becameNecessary env fuel n) (Engine.becameNecessary (virtEnv env sp) fuel n) :=
  .of_comm fun s0 => NodeSim.Comm.becameNecessary (blind s0) (addsParents s0) (refWork s0) (expWork s0) fuel n
theorem Sim.addParentWithoutAdjustingHeights (env : Env) (fuel c i p : Nat) :
    Sim K g (Engine.addParentWithoutAdjustingHeights env fuel c i p)
      (Engine.addParentWithoutAdjustingHeights (virtEnv env sp) fuel c i p) :=
  .of_comm fun s0 =>
    NodeSim.Comm.addParentWithoutAdjustingHeights (blind s0) (addsParents s0) (refWork s0) (expWork s0) fuel c i p
macro_rules | `(tactic| fsim_leaf) => `(tactic| with_reducible exact Sim.becameNecessary _ _ _)
macro_rules | `(tactic| fsim_leaf) => `(tactic| with_reducible exact Sim.addParentWithoutAdjustingHeights _ _ _ _ _)

end
end IncrVerif.Proofs.FullH
