import IncrVerif.Proofs.LeakF2
/-!
# LeakF3 — the observer API does not write the program's node handles
-/
namespace IncrVerif.Proofs.LeakF
open IncrVerif.Engine IncrVerif.Proofs IncrVerif.Proofs.Footprint

theorem sim_subscribe (o hid : Nat) : Sim (subscribe o hid) := Sim.of_foot (Foot.subscribe o hid)
theorem sim_unsubscribe (o token owner : Nat) : Sim (unsubscribe o token owner) := Sim.of_foot (Foot.unsubscribe o token owner)

end IncrVerif.Proofs.LeakF
