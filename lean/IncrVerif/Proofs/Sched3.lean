import IncrVerif.Proofs.Sched1
/-!
# The scheduling invariant through one recompute step — pure logic

`step_inv`: if `Inv env s (some n)` holds, `v` is the target value of `n`, and `s'` is related to `s` by
`StepRel n v ch r s s'` (what a successful `recomputeOne` does), then `Inv env s' r` holds.
-/
namespace IncrVerif.Proofs.Sched
open IncrVerif.Engine IncrVerif.Proofs IncrVerif.Proofs.Step

/-! ## transfer of the structural part -/

theorem SameShape.symm {a b : Node} (h : SameShape a b) : SameShape b a :=
  ⟨h.kind.symm, h.createdIn.symm, h.valid.symm, h.cutoff.symm, h.height.symm, h.parents.symm, h.observers.symm,
   h.forceNecessary.symm⟩

theorem isNecessary_of_shape {s s' : State} (h : ∀ m, SameShape (s.nodeD m) (s'.nodeD m)) (m : Nat) :
    s'.isNecessary m = s.isNecessary m := (h m).isNecessary

end IncrVerif.Proofs.Sched

namespace IncrVerif.Proofs.CutH
open IncrVerif.Engine IncrVerif.Proofs IncrVerif.Proofs.Step IncrVerif.Proofs.Sched

theorem Graph.transfer {env : Env} {s s' : State} (g : Graph env s)
    (hsz : s'.nodes.size = s.nodes.size) (hsh : ∀ m, SameShape (s.nodeD m) (s'.nodeD m))
    (hv : s'.vars = s.vars) (hpc : s'.panicCountdown = none) : Graph env s' where
  pc := hpc
  nec n hn := by
    rw [isNecessary_of_shape hsh] at hn
    have := g.nec n hn
    rw [hsz, (hsh n).valid, (hsh n).kind, (hsh n).height]
    exact this
  var n c hn hk := by
    rw [isNecessary_of_shape hsh] at hn
    rw [(hsh n).kind] at hk
    rw [hv]; exact g.var n c hn hk
  child n hn i c hc := by
    rw [isNecessary_of_shape hsh] at hn
    rw [(hsh n).kind] at hc
    have := g.child n hn i c hc
    rw [isNecessary_of_shape hsh, (hsh c).parents, (hsh c).height, (hsh n).height]
    exact this
  parent c p i hp := by
    rw [(hsh c).parents] at hp
    have := g.parent c p i hp
    rw [isNecessary_of_shape hsh, (hsh p).kind]
    exact this

end IncrVerif.Proofs.CutH

namespace IncrVerif.Proofs.Sched
open IncrVerif.Engine IncrVerif.Proofs IncrVerif.Proofs.Step

theorem Graph.transfer {env : Env} {s s' : State} (g : Graph env s)
    (hsz : s'.nodes.size = s.nodes.size) (hsh : ∀ m, SameShape (s.nodeD m) (s'.nodeD m))
    (hv : s'.vars = s.vars) (hpc : s'.panicCountdown = none) : Graph env s' :=
  have g' := g.toC.transfer hsz hsh hv hpc
  ⟨hpc, fun n hn => by
      obtain ⟨h1, h2, h3, h4⟩ := g'.nec n hn
      rw [isNecessary_of_shape hsh] at hn
      exact ⟨h1, h2, h3, by rw [(hsh n).cutoff]; exact (g.nec n hn).2.2.2.1, h4⟩,
    g'.var, g'.child, g'.parent⟩

theorem Anc.transfer {s s' : State} (hsh : ∀ m, SameShape (s.nodeD m) (s'.nodeD m)) {a d : Nat}
    (h : Anc s a d) : Anc s' a d := by
  induction h with
  | refl a => exact Anc.refl a
  | step hn hc _ ih =>
    refine Anc.step ?_ ?_ ih
    · rw [isNecessary_of_shape hsh]; exact hn
    · rw [(hsh _).kind]; exact hc

theorem Anc.transfer_iff {s s' : State} (hsh : ∀ m, SameShape (s.nodeD m) (s'.nodeD m)) {a d : Nat} :
    Anc s' a d ↔ Anc s a d :=
  ⟨Anc.transfer (fun m => (hsh m).symm), Anc.transfer hsh⟩

/-- a strict descendant is reached through a child -/
theorem Anc.cases_ne {s : State} {a d : Nat} (h : Anc s a d) (hne : a ≠ d) :
    ∃ c, s.isNecessary a = true ∧ c ∈ kids (s.nodeD a).kind ∧ Anc s c d := by
  cases h with
  | refl => exact absurd rfl hne
  | step hn hc h2 => exact ⟨_, hn, hc, h2⟩

/-! ## staleness of a static node -/

/-- `is_stale` of a valid node of static kind -/
def staleOf (s : State) (m : Nat) : Bool :=
  match (s.nodeD m).kind with
  | .var c => match s.vars[c]? with
    | some vc => decide (vc.setAt > (s.nodeD m).recomputedAt)
    | none => false
  | .const _ => (s.nodeD m).recomputedAt == -1
  | k => (s.nodeD m).recomputedAt == -1 ||
      (kids k).any fun c => decide ((s.nodeD c).changedAt > (s.nodeD m).recomputedAt)

theorem isStale_static {env : Env} (s : State) (m : Nat) (hv : (s.nodeD m).valid = true)
    (hk : StaticKind env (s.nodeD m).kind) : s.isStale m = staleOf s m := by
  have hch := children_eq_kids (env := env) s m hv hk
  unfold State.isStale staleOf
  simp only [hch, Node.kind?, hv, if_true]
  cases h : (s.nodeD m).kind <;> rw [h] at hk <;> first | rfl | exact hk.elim

theorem Graph.isStale {env : Env} {s : State} (g : Graph env s) {m : Nat}
    (hm : s.isNecessary m = true) : s.isStale m = staleOf s m :=
  isStale_static s m (g.nec m hm).2.1 (g.nec m hm).2.2.1

theorem any_congr' {α} (l : List α) (f g : α → Bool) (h : ∀ a, a ∈ l → f a = g a) :
    l.any f = l.any g := by
  induction l with
  | nil => rfl
  | cons a l ih =>
    simp only [List.any_cons]
    rw [h a (List.mem_cons_self ..), ih (fun b hb => h b (List.mem_cons_of_mem _ hb))]

theorem staleOf_congr {s s' : State} {m : Nat} (hk : (s'.nodeD m).kind = (s.nodeD m).kind)
    (hr : (s'.nodeD m).recomputedAt = (s.nodeD m).recomputedAt) (hv : s'.vars = s.vars)
    (hc : ∀ c, c ∈ kids (s.nodeD m).kind → (s'.nodeD c).changedAt = (s.nodeD c).changedAt) :
    staleOf s' m = staleOf s m := by
  unfold staleOf
  rw [hk, hr, hv]
  cases h : (s.nodeD m).kind <;> rw [h] at hc <;> try rfl
  all_goals
    simp only
    congr 1
    apply any_congr'
    intro a ha
    rw [hc a ha]

/-- just recomputed: not stale -/
theorem staleOf_fresh {s : State} {m : Nat} (h0 : 0 ≤ s.stabNum)
    (hr : (s.nodeD m).recomputedAt = s.stabNum)
    (hv : ∀ (c : Nat) (vc : VarCell), s.vars[c]? = some vc → vc.setAt ≤ s.stabNum)
    (hc : ∀ c, (s.nodeD c).changedAt ≤ s.stabNum) : staleOf s m = false := by
  unfold staleOf
  rw [hr]
  have hne : (s.stabNum == -1) = false := by
    simp only [beq_eq_false_iff_ne, ne_eq]; omega
  have hany : ∀ l : List Nat, (l.any fun c => decide ((s.nodeD c).changedAt > s.stabNum)) = false := by
    intro l
    rw [List.any_eq_false]
    intro c _
    have := hc c
    simp only [gt_iff_lt, decide_eq_true_eq]; omega
  cases h : (s.nodeD m).kind <;> simp only [hne, hany, Bool.or_false]
  rename_i c
  cases hvc : s.vars[c]? with
  | none => rfl
  | some vc =>
    have := hv c vc hvc
    simp only [gt_iff_lt, decide_eq_false_iff_not]; omega

/-- a child stamped after the node's last recomputation: stale -/
theorem staleOf_of_child {s : State} {m c : Nat} (hc : c ∈ kids (s.nodeD m).kind)
    (h : (s.nodeD c).changedAt > (s.nodeD m).recomputedAt) : staleOf s m = true := by
  unfold staleOf
  have hany : ((kids (s.nodeD m).kind).any fun c =>
      decide ((s.nodeD c).changedAt > (s.nodeD m).recomputedAt)) = true := by
    rw [List.any_eq_true]
    exact ⟨c, hc, by simpa using h⟩
  cases hk : (s.nodeD m).kind <;> rw [hk] at hc hany <;>
    first
    | (simp only [kids] at hc; cases hc; done)
    | (simp only [hany, Bool.or_true])

/-! ## the target value only depends on the children's values and the variables -/

theorem Target.congr {env : Env} {s s' : State} {m : Nat} {w : Val}
    (hk : (s'.nodeD m).kind = (s.nodeD m).kind) (hv : s'.vars = s.vars)
    (hc : ∀ c, c ∈ kids (s.nodeD m).kind → (s'.nodeD c).value = (s.nodeD c).value)
    (h : Target env s m w) : Target env s' m w := by
  unfold Target at h ⊢
  rw [hk, hv]
  cases hkd : (s.nodeD m).kind <;> rw [hkd] at h hc <;> try exact h
  all_goals
    obtain ⟨vals, h1, h2⟩ := h
    refine ⟨vals, ?_, h2⟩
    unfold plainVals at h1 ⊢
    exact (evalArgs_congr _ _ _ (fun a ha => hc a ha)).trans h1

/-! ## the step -/

section step
variable {env : Env} {s s' : State} {n : Nat} {v : Val} {ch : Bool} {r : Option Nat}

theorem StepRel.shapes (R : StepRel n v ch r s s') (m : Nat) : SameShape (s.nodeD m) (s'.nodeD m) := by
  by_cases h : m = n
  · subst h; exact R.shape
  · exact SameShape.of_nodeSame (R.other m h)

theorem StepRel.nec (R : StepRel n v ch r s s') (m : Nat) : s'.isNecessary m = s.isNecessary m :=
  isNecessary_of_shape R.shapes m

theorem mem_parents_iff {nd : Node} {p : Nat} :
    p ∈ nd.parents.map (·.1) ↔ ∃ i, (p, i) ∈ nd.parents := by
  rw [List.mem_map]
  constructor
  · rintro ⟨⟨a, i⟩, h, rfl⟩; exact ⟨i, h⟩
  · rintro ⟨i, h⟩; exact ⟨(p, i), h, rfl⟩

/-- facts about a parent entry of `n` -/
theorem Graph.parent_facts (g : Graph env s) {p : Nat} (hp : p ∈ (s.nodeD n).parents.map (·.1)) :
    s.isNecessary p = true ∧ n ∈ kids (s.nodeD p).kind ∧ Anc s p n ∧
      (s.nodeD n).height < (s.nodeD p).height ∧ p ≠ n := by
  obtain ⟨i, hi⟩ := mem_parents_iff.1 hp
  obtain ⟨hn, hk⟩ := g.parent n p i hi
  have hmem := List.mem_of_getElem? hk
  have hlt := (g.kids_nec hn hmem).2
  refine ⟨hn, hmem, g.parent_anc hi, hlt, ?_⟩
  intro e; subst e; omega

/-- a necessary node with `n` among its children is listed in `n`'s parents -/
theorem Graph.mem_parents (g : Graph env s) {m : Nat} (hm : s.isNecessary m = true)
    (hk : n ∈ kids (s.nodeD m).kind) : m ∈ (s.nodeD n).parents.map (·.1) := by
  obtain ⟨i, hi, e⟩ := List.mem_iff_getElem.1 hk
  have h := g.child m hm i n (by rw [List.getElem?_eq_getElem hi, e])
  exact mem_parents_iff.2 ⟨i, h.2.1⟩

/-- staleness after the step, for a necessary node other than `n` -/
theorem step_stale_other (I : Inv env s (some n)) (R : StepRel n v ch r s s') {m : Nat}
    (hm : s.isNecessary m = true) (hne : m ≠ n) :
    (staleOf s' m = staleOf s m) ∨
      (ch = true ∧ m ∈ (s.nodeD n).parents.map (·.1) ∧ staleOf s' m = true) := by
  have g := I.graph
  by_cases hk : n ∈ kids (s.nodeD m).kind
  · have hpar := g.mem_parents hm hk
    cases hch : ch with
    | false =>
      left
      refine staleOf_congr (R.other m hne).kind (R.other m hne).recomputedAt R.vars ?_
      intro c _
      by_cases hc : c = n
      · subst hc; rw [R.changedAt, hch]; simp
      · exact (R.other c hc).changedAt
    | true =>
      right
      refine ⟨rfl, hpar, ?_⟩
      have hfr := I.fresh n (Or.inr rfl) m (g.parent_facts hpar).2.2.1
      refine staleOf_of_child (c := n) (by rw [(R.other m hne).kind]; exact hk) ?_
      rw [R.changedAt, hch, (R.other m hne).recomputedAt]
      simpa using hfr
  · left
    refine staleOf_congr (R.other m hne).kind (R.other m hne).recomputedAt R.vars ?_
    intro c hc
    have : c ≠ n := by intro e; subst e; exact hk hc
    exact (R.other c this).changedAt

theorem step_stamps (I : Inv env s (some n)) (R : StepRel n v ch r s s') : Stamps s' where
  now := by rw [R.stabNum]; exact I.stamps.now
  node m := by
    rw [R.stabNum]
    by_cases h : m = n
    · subst h
      rw [R.recomputedAt, R.changedAt]
      refine ⟨Int.le_refl _, ?_⟩
      split
      · exact Int.le_refl _
      · exact (I.stamps.node m).2
    · rw [(R.other m h).recomputedAt, (R.other m h).changedAt]; exact I.stamps.node m
  var c vc h := by rw [R.stabNum]; rw [R.vars] at h; exact I.stamps.var c vc h

/-- `n` itself is not stale after the step -/
theorem step_self_fresh (I : Inv env s (some n)) (R : StepRel n v ch r s s') : staleOf s' n = false := by
  have st := step_stamps I R
  exact staleOf_fresh st.now (by rw [R.recomputedAt, R.stabNum]) st.var (fun c => (st.node c).2)

/-- `n` is not queued after the step -/
theorem step_self_not_queued (I : Inv env s (some n)) (R : StepRel n v ch r s s') :
    (s'.nodeD n).inRch = false := by
  cases h : (s'.nodeD n).inRch with
  | false => rfl
  | true =>
    exfalso
    rcases R.newIn n h with h1 | ⟨_, h1⟩
    · rw [(I.cur n rfl).2 n (Anc.refl n)] at h1; cases h1
    · exact (I.graph.parent_facts h1).2.2.2.2 rfl

/-- **the step lemma** -/
theorem step_inv (I : Inv env s (some n)) (ht : Target env s n v) (R : StepRel n v ch r s s') :
    Inv env s' r := by
  have g := I.graph
  have hnn := (I.cur n rfl).1
  have g' : Graph env s' := g.transfer R.size R.shapes R.vars R.pc
  have st := step_stamps I R
  have hnotkid : n ∉ kids (s.nodeD n).kind := by
    intro h; have := (g.kids_nec hnn h).2; omega
  refine ⟨g', R.heap, st, ?_, ?_, ?_, ?_⟩
  · -- pending
    intro m hm hst
    have hm' := hm; rw [R.nec] at hm'
    rw [g'.isStale hm] at hst
    by_cases hne : m = n
    · subst hne; rw [step_self_fresh I R] at hst; cases hst
    · rcases step_stale_other I R hm' hne with h1 | ⟨hc, hp, _⟩
      · rw [h1, ← g.isStale hm'] at hst
        rcases I.pending m hm' hst with h2 | h2
        · exact Or.inl ((R.other m hne).inRch h2)
        · cases h2; exact absurd rfl hne
      · exact R.parentsIn hc m hp
  · -- cons
    intro m hm hst
    have hm' := hm; rw [R.nec] at hm'
    rw [g'.isStale hm] at hst
    by_cases hne : m = n
    · subst hne
      refine ⟨v, ?_, R.value⟩
      refine Target.congr R.shape.kind R.vars ?_ ht
      intro c hc
      have : c ≠ m := by intro e; subst e; exact hnotkid hc
      exact (R.other c this).value
    · rcases step_stale_other I R hm' hne with h1 | ⟨_, _, h3⟩
      · rw [h1, ← g.isStale hm'] at hst
        obtain ⟨w, hw, hval⟩ := I.cons m hm' hst
        refine ⟨w, ?_, by rw [(R.other m hne).value]; exact hval⟩
        refine Target.congr (R.other m hne).kind R.vars ?_ hw
        intro c hc
        by_cases hcn : c = n
        · subst hcn
          -- `n` is a child of `m`: had `n` changed, `m` would be stale
          cases hch : ch with
          | false => rw [R.value, (R.unch hch).1]
          | true =>
            exfalso
            have hpar := g.mem_parents hm' hc
            have hfr := I.fresh c (Or.inr rfl) m (g.parent_facts hpar).2.2.1
            have : staleOf s' m = true := by
              refine staleOf_of_child (c := c) (by rw [(R.other m hne).kind]; exact hc) ?_
              rw [R.changedAt, hch, (R.other m hne).recomputedAt]
              simpa using hfr
            rw [h1, ← g.isStale hm'] at this
            rw [this] at hst; cases hst
        · exact (R.other c hcn).value
      · rw [h3] at hst; cases hst
  · -- fresh
    intro d hd a ha
    rw [Anc.transfer_iff R.shapes] at ha
    rw [R.stabNum]
    -- either `d` was pending before, or it is a parent of `n`
    have key : ((s.nodeD d).inRch = true) ∨ d ∈ (s.nodeD n).parents.map (·.1) := by
      rcases hd with h | h
      · rcases R.newIn d h with h1 | ⟨_, h1⟩
        · exact Or.inl h1
        · exact Or.inr h1
      · exact Or.inr (R.ret d h).2.1
    rcases key with h | h
    · have hlt := I.fresh d (Or.inl h) a ha
      by_cases han : a = n
      · subst han
        rw [(I.cur a rfl).2 d ha] at h; cases h
      · rw [(R.other a han).recomputedAt]; exact hlt
    · have pf := g.parent_facts h
      have hlt := I.fresh n (Or.inr rfl) a (ha.trans pf.2.2.1)
      by_cases han : a = n
      · subst han
        have := ha.height_le g
        omega
      · rw [(R.other a han).recomputedAt]; exact hlt
  · -- cur
    intro p hp
    obtain ⟨hch, hpar, hnq, hwhy⟩ := R.ret p hp
    have pf := g.parent_facts hpar
    refine ⟨by rw [R.nec]; exact pf.1, ?_⟩
    intro d hd
    rw [Anc.transfer_iff R.shapes] at hd
    by_cases hdp : p = d
    · subst hdp; exact hnq
    cases hq : (s'.nodeD d).inRch with
    | false => rfl
    | true =>
      exfalso
      rcases hwhy with ⟨f, args, hk, hlen⟩ | hmin
      · obtain ⟨c, _, hc, hcd⟩ := hd.cases_ne hdp
        have hn_in := pf.2.1
        rw [hk] at hc hn_in
        simp only [kids] at hc hn_in
        have hcn : c = n := by
          match args, hlen, hc, hn_in with
          | [x], _, hc, hn_in =>
            simp only [List.mem_singleton] at hc hn_in
            rw [hc, hn_in]
        subst hcn
        rcases R.newIn d hq with h1 | ⟨_, h1⟩
        · rw [(I.cur c rfl).2 d hcd] at h1; cases h1
        · have := (g.parent_facts h1).2.2.2.1
          have := hcd.height_le g
          omega
      · have h1 := hmin d hq
        have h2 := hd.height_lt g hdp
        omega

end step

end IncrVerif.Proofs.Sched
