import IncrVerif.Proofs.MapOld12
import IncrVerif.Proofs.MapOld3
import IncrVerif.Proofs.MapOld17
import IncrVerif.Proofs.Virtual
/-!
# map_with_old fragment: the drain invariant `DInvW` through `recomputeOne`, `recompute`, a pop and `drainHeap` (M1)
-/
namespace IncrVerif.Proofs.MapOldH
open IncrVerif.Engine IncrVerif.Proofs IncrVerif.Proofs.Step IncrVerif.Proofs.Sched IncrVerif.Proofs.Quiet

variable {env : Env} {C : Val → Prop} {sp : Nat → Val → Val} {s : State}

/-- what the drain keeps, read in the virtual states -/
abbrev DStep (env : Env) (sp : Nat → Val → Val) (s s' : State) : Prop :=
  Virtual.DStep (virtEnv env sp) (virt s) (virt s')

/-- what the drain invariant requires of the actual state (there is no ghost data) -/
def Side (env : Env) (C : Val → Prop) (sp : Nat → Val → Val) (_ : Unit) (s : State) : Prop :=
  WFrag env (Good env C sp) s ∧ MInv env C s ∧ s.propagateInvalidity = []

theorem DInvW.side {x : Option Nat} (D : DInvW env C sp s x) : Side env C sp () s := ⟨D.frag, D.m, D.pinv⟩

theorem Side.dinv {x : Option Nat} (P : Side env C sp () s) (I : Inv (virtEnv env sp) (virt s) x) : DInvW env C sp s x :=
  ⟨P.1, I, P.2.1, P.2.2⟩

theorem Side.of_wfr {s' : State} (P : Side env C sp () s) (h : WFr s s') (hp : s'.propagateInvalidity = []) :
    Side env C sp () s' := ⟨h.frag P.1, h.minv P.2.1, hp⟩

/-- **M1, one `recomputeOne`.** On the current node of the invariant a successful `recomputeOne` re-establishes the
invariant, the handed-over parent being the new current node. -/
theorem recomputeOneW_inv {fuel n : Nat} {s' : State} {r : Option Nat} (V : ValOK env C sp)
    (D : DInvW env C sp s (some n)) (h : (recomputeOne env fuel n).run.run s = (.ok r, s')) :
    DInvW env C sp s' r ∧ DStep env sp s s' ∧ ((virt s').nodeD n).recomputedAt = s.stabNum := by
  by_cases hk : ∀ g i, (s.nodeD n).kind ≠ .mapWithOld g i
  · obtain ⟨hsim, F', M', hp'⟩ := step_static_node V D hk h
    obtain ⟨I', -, hrec⟩ := recomputeOne_inv D.inv hsim
    exact ⟨⟨F', I', M', hp'⟩, .recomputeOne D.inv hsim, hrec⟩
  · have : ∃ g i, (s.nodeD n).kind = .mapWithOld g i := by
      cases hkd : (s.nodeD n).kind <;>
        first | exact ⟨_, _, rfl⟩ | (exfalso; apply hk; intro g i; rw [hkd]; intro h; cases h)
    obtain ⟨g, i, hkk⟩ := this
    have O := step_mwo_node V D hkk h
    exact ⟨⟨O.frag, O.inv, O.m, O.pinv⟩, ⟨O.frame, O.calm, O.keyD, O.unnec⟩, O.ran⟩

theorem heapInv_of_virt (h : HeapInv (virt s)) : HeapInv s :=
  h.congr rfl (virt_size s).symm fun m => by
    rw [virt_nodeD]
    exact ⟨(virtNode_heightInRch _).symm, (virtNode_height _).symm, (virt_isNecessary s m).symm⟩

/-- taking a node out of the heap, in the actual and in the virtual state -/
theorem popW {s1 : State} {r : Option Nat} (D : DInvW env C sp s none)
    (h : rchRemoveMin.run.run s = (.ok r, s1)) :
    rchRemoveMin.run.run (virt s) = (.ok r, virt s1) ∧ WFrag env (Good env C sp) s1 ∧ MInv env C s1 ∧
      s1.propagateInvalidity = [] := by
  obtain ⟨hv, hfr⟩ := Sim.rchRemoveMin s (D.frag.fr D.pinv) r s1 h
  exact ⟨hv, D.side.of_wfr (rchRemoveMin_wfr h) hfr.pinv⟩

/-- the drain of the fragment static + map_with_old is the drain of the static engine on the virtual state -/
theorem drain (V : ValOK env C sp) : Virtual.Drain env (virtEnv env sp) (fun _ : Unit => virt) (Side env C sp) where
  heap := heapInv_of_virt
  pop P I h := popW (P.dinv I) h
  step P I h := by
    obtain ⟨D', f, hr⟩ := recomputeOneW_inv V (P.dinv I) h
    exact ⟨(), D'.side, D'.inv, f, hr⟩

/-- **M1, the loop.** A successful `drainHeap` from the drain invariant ends with the drain invariant and an empty
heap. -/
theorem drainHeapW_inv (V : ValOK env C sp) (fuel : Nat) (s s' : State) (D : DInvW env C sp s none)
    (h : (drainHeap env fuel).run.run s = (.ok (), s')) :
    DInvW env C sp s' none ∧ s'.rch.length = 0 ∧ DStep env sp s s' := by
  obtain ⟨⟨⟩, P', I', he, f⟩ := (drain V).drainHeap fuel s s' () D.side D.inv h
  exact ⟨P'.dinv I', he, f⟩

end IncrVerif.Proofs.MapOldH
