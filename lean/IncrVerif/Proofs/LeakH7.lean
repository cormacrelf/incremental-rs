import IncrVerif.Proofs.LeakH6
/-!
# C12 over histories, part 7: the static prefix, and the whole-history theorem

`VarLive`: in a history of the static fragment (which has no `dropVar`) every variable cell keeps its handle.
`PrefixAction`: `dropHandle` changes nothing but the program's list of node handles, which the invariant does not read, so the
prefix may interleave it with the static actions.  Then: prefix ++ drops (any order) ++ one `stabilise` ⇒ `roots = []`.
-/
namespace IncrVerif.Proofs.LeakH
open IncrVerif.Engine IncrVerif.Driver IncrVerif.Proofs IncrVerif.Proofs.Step IncrVerif.Proofs.Sched
open IncrVerif.Proofs.Quiet IncrVerif.Proofs.Own

def VarLive (s : State) : Prop := ∀ (c : Nat) (vc : VarCell), s.vars[c]? = some vc → vc.handles ≠ 0

theorem varLive_write {env : Env} {s s' : State} {v : Nat} {f : Val → Val} {isSet : Bool} {r : Val}
    (Q : QInv env s) (L : VarLive s) (h : (writeVar v f isSet).run.run s = (.ok r, s')) : VarLive s' := by
  obtain ⟨-, vc, hv, -, hvar, hother⟩ := writeVar_q Q h
  intro c vc' hc
  by_cases hcv : c = v
  · subst hcv
    rw [hvar] at hc
    cases hc
    exact L c vc hv
  · rw [hother c hcv] at hc
    exact L c vc' hc

theorem varLive_step {env : Env} {s s' : State} {a : Action} {tokens : Array Nat} {r : String × Array Nat}
    (Q : QInv env s) (L : VarLive s) (ha : StaticAction env a)
    (h : (stepAction env a tokens).run.run s = (.ok r, s')) : VarLive s' := by
  cases a <;> try exact ha.elim
  case create i =>
    unfold stepAction at h
    simp only at h
    obtain ⟨ro, s1, h1, h2⟩ := bind_ok_inv h
    obtain ⟨k, ero, hk, hkids, C⟩ := elab_static Q.struct.static.scope Q.top ha h1
    rw [ero] at h2
    simp only at h2
    obtain ⟨s2, e2, h3⟩ := bind_modify_inv h2
    obtain ⟨-, e3⟩ := pure_ok_inv h3
    have hv : s'.vars = s1.vars := by rw [e3, e2]
    intro c vc hc
    rw [hv] at hc
    rcases C.vars with ⟨-, e⟩ | ⟨v, -, e⟩
    · rw [e] at hc; exact L c vc hc
    · rw [e, Array.getElem?_push] at hc
      split at hc
      · cases hc; exact Nat.one_ne_zero
      · exact L c vc hc
  case observe n =>
    rw [IncrVerif.Proofs.Life.stepAction_observe_run] at h
    cases hr : IncrVerif.Proofs.Life.resolvePure s [] n with
    | error e => rw [hr] at h; cases h
    | ok m =>
      rw [hr] at h
      obtain ⟨-, e⟩ := Prod.mk.inj h
      rw [← e]; exact L
  case cloneObs o =>
    rw [IncrVerif.Proofs.Life.stepAction_cloneObs_run] at h
    obtain ⟨-, e⟩ := Prod.mk.inj h
    rw [← e]; exact L
  case dropObs o =>
    rw [IncrVerif.Proofs.Life.stepAction_dropObs_run] at h
    obtain ⟨-, e⟩ := Prod.mk.inj h
    intro c vc hc
    rw [← e, (dropObsState_vars s o).1] at hc
    exact L c vc hc
  case disallow o =>
    rw [IncrVerif.Proofs.Life.stepAction_disallow_run] at h
    obtain ⟨-, e⟩ := Prod.mk.inj h
    intro c vc hc
    rw [← e, (disallowState_vars s o).1] at hc
    exact L c vc hc
  case stabilise =>
    have R := stabilise_q Q (step_stabilise h)
    intro c vc hc
    rw [R.vars] at hc
    exact L c vc hc
  case get v => rw [(Hist.stepAction_read_ok (.get v) h).1]; exact L
  case isStable => rw [(Hist.stepAction_read_ok .isStable h).1]; exact L
  case stats => rw [(Hist.stepAction_read_ok .stats h).1]; exact L
  all_goals
    obtain ⟨old, h1, -⟩ := (Hist.stepAction_write_ok (by constructor)).1 h
    exact varLive_write Q L h1

/-- the static fragment plus `dropHandle` -/
def PrefixAction (env : Env) (a : Action) : Prop := StaticAction env a ∨ ∃ o, a = .dropHandle o

theorem qinv_handles {env : Env} {s : State} (Q : QInv env s) (hs : List Nat) :
    QInv env { s with handles := hs } :=
  ⟨Q.struct.congr (SameG.of_nodes rfl rfl rfl rfl rfl), ⟨Q.vars.node, Q.vars.cell⟩,
    ⟨Q.obs.inRange, Q.obs.mem, Q.obs.created, Q.obs.newIn, Q.obs.dis, Q.obs.disIn, Q.obs.disNodup⟩,
    Q.now, Q.stamps, Q.varStamp, Q.cons, Q.status, Q.alive, Q.setDuringStab, Q.deadVars, Q.handleAfterStab,
    Q.handlers, Q.pinv, Q.top⟩

theorem prefix_step {env : Env} {s s' : State} {a : Action} {tk : Array Nat} {r : String × Array Nat}
    (Q : QInv env s) (L : VarLive s) (ha : PrefixAction env a)
    (h : (stepAction env a tk).run.run s = (.ok r, s')) : QInv env s' ∧ VarLive s' := by
  rcases ha with ha | ⟨o, rfl⟩
  · exact ⟨step_q Q ha h, varLive_step Q L ha h⟩
  · obtain ⟨-, rfl, -⟩ := drop_inv (a := .dropHandle o) trivial h
    simp only [afterDrop]
    split
    · exact ⟨qinv_handles Q _, L⟩
    · exact ⟨Q, L⟩

theorem prefix_run {env : Env} {acts : List Action} {s s' : State} {tk tk' : Array Nat}
    (Q : QInv env s) (L : VarLive s) (ha : ∀ a, a ∈ acts → PrefixAction env a)
    (h : runActions env acts s tk = .ok (s', tk')) : QInv env s' ∧ VarLive s' :=
  Hist.runActions_inv_all (I := fun s => QInv env s ∧ VarLive s) (fun _ _ _ _ _ i ha hx => prefix_step i.1 i.2 ha hx) ⟨Q, L⟩ ha h

theorem varLive_init (N : Nat) (d : Bool) : VarLive (State.init N d) := by
  intro c vc hc
  simp [State.init] at hc

/-- the invariant does not read the ownership counters: `QInv s → QInv (strip s)` -/
theorem qinv_strip {env : Env} {s : State} (Q : QInv env s) : QInv env (strip s) := by
  have hv : VEq s.vars (s.vars.map fun vc => { vc with handles := 1 }) := (veq_strip s.vars).symm
  have hnd : ∀ m, (strip s).nodeD m = s.nodeD m := fun _ => rfl
  have S1 : Struct env { s with vars := s.vars.map fun vc => { vc with handles := 1 } } :=
    ginv_vars Q.struct hv
  refine ⟨S1.congr (SameG.of_nodes rfl rfl rfl rfl rfl), varsOK_veq (a := s) (b := strip s) rfl hnd hv Q.vars,
    ⟨Q.obs.inRange, Q.obs.mem, Q.obs.created, Q.obs.newIn, Q.obs.dis, Q.obs.disIn, Q.obs.disNodup⟩,
    Q.now, Q.stamps, ?_, ?_, Q.status, Q.alive, Q.setDuringStab, rfl, Q.handleAfterStab, Q.handlers, Q.pinv,
    Q.top⟩
  · intro c vc' hc
    obtain ⟨vc, h0, -, -, e⟩ := hv.get_some hc
    show vc'.setAt ≤ s.stabNum
    rw [← e]; exact Q.varStamp c vc h0
  · intro m hm hs
    rw [staleOf_veq (a := s) (b := strip s) hnd hv] at hs
    exact consistent_veq (a := s) (b := strip s) hnd hv (Q.cons m hm hs)

/-- a state in which every variable is held satisfies `DInv` once `QInv` and `ObsDead` hold -/
theorem dinv_of_live {env : Env} {s : State} (Q : QInv env s) (L : VarLive s) (OD : ObsDead s) :
    DInv env s :=
  ⟨qinv_strip Q, OD, fun c vc hc hz _ => absurd hz (L c vc hc)⟩

/-- **state level.** -/
theorem freed_roots {env : Env} {fuel : Nat} {s s' : State} (I : DInv env s) (H : HoldsNothing s)
    (h : (stabilise env fuel).run.run s = (.ok (), s')) : s'.roots = [] :=
  roots_nil_of_freed (stabilise_freed I.q h) H I.od I.vd

/-- **history level.** -/
theorem history_dinv_gen {env : Env} {N : Nat} {d : Bool} {acts drops : List Action} {s : State}
    {tk : Array Nat} (ha : ∀ a, a ∈ acts → PrefixAction env a) (hd : ∀ a, a ∈ drops → DropAction a)
    (h : runActions env (acts ++ drops) (State.init N d) #[] = .ok (s, tk)) : DInv env s := by
  obtain ⟨s1, tk1, h1, h⟩ := runActions_prefix h
  obtain ⟨Q1, L1⟩ := prefix_run (qinv_init env N d) (varLive_init N d) ha h1
  exact drop_run (dinv_of_live Q1 L1 (obsDead_run (obsDead_init N d) h1)) hd h

theorem history_dinv {env : Env} {N : Nat} {d : Bool} {acts drops : List Action} {s : State} {tk : Array Nat}
    (ha : ∀ a, a ∈ acts → StaticAction env a) (hd : ∀ a, a ∈ drops → DropAction a)
    (h : runActions env (acts ++ drops) (State.init N d) #[] = .ok (s, tk)) : DInv env s :=
  history_dinv_gen (fun a hm => Or.inl (ha a hm)) hd h

end IncrVerif.Proofs.LeakH
