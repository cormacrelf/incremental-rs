import IncrVerif.Proofs.ExpertH33
/-!
# The frame `XS`: the driver fields `script` and `sel` of an expert record, which only `runEffects` touches

Every primitive write but the three of `XS.breaks` keeps `XS` (`XS.of_edit`), so every function of the engine that makes none of them does.
-/
namespace IncrVerif.Proofs.DriverH
open IncrVerif.Engine IncrVerif.Proofs IncrVerif.Proofs.Step IncrVerif.Proofs.ExpertH IncrVerif.Proofs.Footprint

/-- the driver fields of an expert record -/
def xSS (er : ExpertRec) := (er.script, er.sel)

structure XS (s s' : State) : Prop where
  xsize : s'.experts.size = s.experts.size
  xss : ∀ e : Nat, (s'.experts[e]?).map xSS = (s.experts[e]?).map xSS

theorem XS.refl (s : State) : XS s s := ⟨rfl, fun _ => rfl⟩
theorem XS.trans {a b c : State} (h1 : XS a b) (h2 : XS b c) : XS a c :=
  ⟨h2.xsize.trans h1.xsize, fun e => (h2.xss e).trans (h1.xss e)⟩
instance : Step.PreOrd XS := ⟨XS.refl, XS.trans⟩

theorem XS.of_experts {s s' : State} (h : s'.experts = s.experts) : XS s s' :=
  ⟨by rw [h], fun e => by rw [h]⟩

/-- the writes that do not keep `XS` -/
def XS.breaks : List Tag := [.pushExpert, .xScript, .xSel]

theorem XS.of_edit {L w} (hL : ∀ t ∈ L, t ∉ XS.breaks) {s s' : State} (e : Edit L w s s') : XS s s' :=
  have hx := e.expert_keeps xSS (fun h => hL _ h (by decide)) fun f hf x => by
    cases hf <;> first | rfl | exact absurd (hL _ ‹_›) (by decide)
  ⟨hx.1, hx.2⟩

theorem PresS.discard {α} {x : M α} (h : Step.Pres XS x) : Step.Pres XS (discard x) := by
  unfold Functor.discard; exact Step.Pres.map _ h

theorem PresS.getVar (v) : Step.Pres XS (Engine.getVar v) := Step.Pres.getVar v
theorem PresS.addParent (c i p) : Step.Pres XS (Engine.addParent c i p) := (Foot.addParent c i p).frame (XS.of_edit (by decide))
theorem PresS.removeParent (c i p) : Step.Pres XS (Engine.removeParent c i p) :=
  (Foot.removeParent c i p).frame (XS.of_edit (by decide))
theorem PresS.setHeight (n h) : Step.Pres XS (Engine.setHeight n h) := (Foot.setHeight n h).frame (XS.of_edit (by decide))
theorem PresS.rchRemoveMin : Step.Pres XS Engine.rchRemoveMin := Foot.rchRemoveMin.frame (XS.of_edit (by decide))
theorem PresS.ensureHeightRequirement (oc op c p) : Step.Pres XS (Engine.ensureHeightRequirement oc op c p) :=
  (Foot.ensureHeightRequirement oc op c p).frame (XS.of_edit (by decide))
theorem PresS.adjustHeights (oc op fuel) : Step.Pres XS (Engine.adjustHeights oc op fuel) :=
  (Foot.adjustHeights oc op fuel).frame (XS.of_edit (by decide))
theorem PresS.scopeHeight (sc) : Step.Pres XS (Engine.scopeHeight sc) := Step.Pres.scopeHeight sc
theorem PresS.handleAfterStabilisation (n) : Step.Pres XS (Engine.handleAfterStabilisation n) :=
  (Foot.handleAfterStabilisation n).frame (XS.of_edit (by decide))
theorem PresS.markMapRefUnknown (fuel n) : Step.Pres XS (Engine.markMapRefUnknown fuel n) :=
  (Foot.markMapRefUnknown fuel n).frame (XS.of_edit (by decide))
theorem PresS.becameNecessary (env fuel n) : Step.Pres XS (Engine.becameNecessary env fuel n) :=
  (Foot.becameNecessary env fuel n).frame (XS.of_edit (by decide))
theorem PresS.addParentWithoutAdjustingHeights (env fuel c i p) :
    Step.Pres XS (Engine.addParentWithoutAdjustingHeights env fuel c i p) :=
  (Foot.addParentWithoutAdjustingHeights env fuel c i p).frame (XS.of_edit (by decide))

theorem PresS.unlink (fuel : Nat) :
    (∀ n, Step.Pres XS (Engine.becameUnnecessary fuel n)) ∧
    (∀ n, Step.Pres XS (Engine.checkIfUnnecessary fuel n)) ∧
    (∀ n, Step.Pres XS (Engine.removeChildren fuel n)) :=
  ⟨fun n => (Foot.becameUnnecessary fuel n).frame (XS.of_edit (by decide)),
   fun n => (Foot.checkIfUnnecessary fuel n).frame (XS.of_edit (by decide)),
   fun n => (Foot.removeChildren fuel n).frame (XS.of_edit (by decide))⟩

theorem PresS.becameUnnecessary (fuel n) : Step.Pres XS (Engine.becameUnnecessary fuel n) :=
  (PresS.unlink fuel).1 n
theorem PresS.checkIfUnnecessary (fuel n) : Step.Pres XS (Engine.checkIfUnnecessary fuel n) :=
  (PresS.unlink fuel).2.1 n
theorem PresS.removeChildren (fuel n) : Step.Pres XS (Engine.removeChildren fuel n) :=
  (PresS.unlink fuel).2.2 n

theorem PresS.invalidateNode (fuel n) : Step.Pres XS (Engine.invalidateNode fuel n) :=
  (Foot.invalidateNode fuel n).frame (XS.of_edit (by decide))
theorem PresS.propagateInvalidity (fuel) : Step.Pres XS (Engine.propagateInvalidity fuel) :=
  (Foot.propagateInvalidity fuel).frame (XS.of_edit (by decide))
theorem PresS.shouldCutoff (env n o v) : Step.Pres XS (Engine.shouldCutoff env n o v) :=
  (Foot.shouldCutoff env n o v).frame (XS.of_edit (by decide))
theorem PresS.parentIterCanRecomputeNow (p c : Nat) : Step.Pres XS (Engine.parentIterCanRecomputeNow p c) :=
  (Foot.parentIterCanRecomputeNow p c).frame (XS.of_edit (by decide))
theorem PresS.maybeChangeValue (env fuel n v) : Step.Pres XS (Engine.maybeChangeValue env fuel n v) :=
  (Foot.maybeChangeValue env fuel n v).lift (XS.of_edit (by decide))
theorem PresS.addNewObservers (env fuel) : Step.Pres XS (Engine.addNewObservers env fuel) :=
  (Foot.addNewObservers env fuel).frame (XS.of_edit (by decide))
theorem PresS.unlinkDisallowedObservers (fuel) : Step.Pres XS (Engine.unlinkDisallowedObservers fuel) :=
  (Foot.unlinkDisallowedObservers fuel).frame (XS.of_edit (by decide))
theorem PresS.disallowFutureUse (o) : Step.Pres XS (Engine.disallowFutureUse o) :=
  (Foot.disallowFutureUse o).frame (XS.of_edit (by decide))
theorem PresS.didSetVarWhileNotStabilising (v) : Step.Pres XS (Engine.didSetVarWhileNotStabilising v) :=
  (Foot.didSetVarWhileNotStabilising v).frame (XS.of_edit (by decide))
theorem PresS.writeVar (v f b) : Step.Pres XS (Engine.writeVar v f b) := (Foot.writeVar v f b).frame (XS.of_edit (by decide))
theorem PresS.dropVarHandle (v) : Step.Pres XS (Engine.dropVarHandle v) := (Foot.dropVarHandle v).frame (XS.of_edit (by decide))
theorem PresS.subscribe (o h) : Step.Pres XS (Engine.subscribe o h) := (Foot.subscribe o h).frame (XS.of_edit (by decide))
theorem PresS.unsubscribe (o t w) : Step.Pres XS (Engine.unsubscribe o t w) :=
  (Foot.unsubscribe o t w).frame (XS.of_edit (by decide))
theorem PresS.resolveOpnd (loc o) : Step.Pres XS (Engine.resolveOpnd loc o) := (Foot.resolveOpnd loc o).frame (XS.of_edit (by decide))
theorem PresS.isConstant (n) : Step.Pres XS (Engine.isConstant n) := (Foot.isConstant n).frame (XS.of_edit (by decide))
theorem PresS.setMaxHeightAllowed (k) : Step.Pres XS (Engine.setMaxHeightAllowed k) :=
  (Foot.setMaxHeightAllowed k).frame (XS.of_edit (by decide))

/-! ## the expert API -/

theorem PresS.getExpert (e) : Step.Pres XS (Engine.getExpert e) := Step.Pres.getExpert e
theorem PresS.assertRunningIsChild (n name) : Step.Pres XS (Engine.assertRunningIsChild n name) :=
  (Foot.assertRunningIsChild n name).frame (XS.of_edit (by decide))
theorem PresS.expertMakeStale (n) : Step.Pres XS (Engine.expertMakeStale n) :=
  (Foot.expertMakeStale n).frame (XS.of_edit (by decide))
theorem PresS.expertRemoveDependency (fuel n dep) : Step.Pres XS (Engine.expertRemoveDependency fuel n dep) :=
  (Foot.expertRemoveDependency fuel n dep).frame (XS.of_edit (by decide))
theorem PresS.expertAddDependency (env fuel n c cb) : Step.Pres XS (Engine.expertAddDependency env fuel n c cb) :=
  (Foot.expertAddDependency env fuel n c cb).frame (XS.of_edit (by decide))
theorem PresS.expertInvalidate (fuel n) : Step.Pres XS (Engine.expertInvalidate fuel n) :=
  (Foot.expertInvalidate fuel n).frame (XS.of_edit (by decide))

/-! ## reading the frame -/

theorem XS.get {s s' : State} (h : XS s s') {e : Nat} {er : ExpertRec} (he : s.experts[e]? = some er) :
    ∃ er', s'.experts[e]? = some er' ∧ er'.script = er.script ∧ er'.sel = er.sel := by
  have := h.xss e
  rw [he] at this
  cases h' : s'.experts[e]? with
  | none => rw [h'] at this; cases this
  | some er' =>
    rw [h'] at this
    simp only [Option.map_some, Option.some.injEq, xSS, Prod.mk.injEq] at this
    exact ⟨er', rfl, this⟩

theorem XS.get_back {s s' : State} (h : XS s s') {e : Nat} {er' : ExpertRec} (he : s'.experts[e]? = some er') :
    ∃ er, s.experts[e]? = some er ∧ er'.script = er.script ∧ er'.sel = er.sel := by
  have := h.xss e
  rw [he] at this
  cases h' : s.experts[e]? with
  | none => rw [h'] at this; cases this
  | some er =>
    rw [h'] at this
    simp only [Option.map_some, Option.some.injEq, xSS, Prod.mk.injEq] at this
    exact ⟨er, rfl, this⟩

theorem XS.none {s s' : State} (h : XS s s') {e : Nat} (he : s.experts[e]? = none) : s'.experts[e]? = none := by
  have := h.xss e
  rw [he] at this
  cases h' : s'.experts[e]? with
  | none => rfl
  | some er' => rw [h'] at this; cases this

end IncrVerif.Proofs.DriverH
