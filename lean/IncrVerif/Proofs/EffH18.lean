import IncrVerif.Proofs.EffH17
/-!
# Effects, part 18 (V3): what the handlers are told (S2) and the per-token log of whole histories (S3) when node
functions and update handlers have write effects — the statements of `Proofs/Subs11.lean` and `Proofs/Subs15.lean` with effects
-/
namespace IncrVerif.Proofs.EffH
open IncrVerif.Engine IncrVerif.Driver IncrVerif.Proofs IncrVerif.Proofs.Step IncrVerif.Proofs.Sched
open IncrVerif.Proofs.Quiet
open IncrVerif.Proofs.SubsH (HInv UInv hOf expected notifTok endNotifs tokLog specT liveObs TInv NStep Shape)


namespace P18
open IncrVerif.Proofs.SubsH

/-! ## the log: only the notifications matter -/

theorem filterMap_pick_filter (t : Nat) : ∀ l : List Event,
    (l.filter isNotif).filterMap (pickTok t) = l.filterMap (pickTok t)
  | [] => rfl
  | e :: l => by
    cases e <;> simp [List.filter_cons, isNotif, List.filterMap_cons, pickTok, filterMap_pick_filter t l]

theorem tokLog_notifs (t : Nat) (l : List Event) : tokLog t l = tokLog t (notifs l) := by
  unfold tokLog notifs
  rw [← List.filter_reverse, filterMap_pick_filter]

theorem notifs_log {env : Env} {s t3 s' : State} (M : MidStateW env s t3 s') :
    notifs s'.log = (endNotifs env t3).reverse ++ notifs s.log := by
  obtain ⟨pre, e, hp⟩ := M.log
  rw [M.ended.logN, e]
  unfold notifs
  rw [List.filter_append]
  have : pre.filter isNotif = [] := by
    rw [List.filter_eq_nil_iff]
    intro a ha
    have := hp a ha
    cases a <;> first | exact this.elim | simp [isNotif]
  rw [this, List.nil_append]

theorem obsInv_final {env : Env} {fuel : Nat} {s t2 t3 s' : State} (X : WStab env fuel s t2 t3 s') :
    SubsH.ObsInv s' [] [] := by
  have := X.inv.u.core.obs
  unfold SubsH.ObsOK at this
  rw [X.newObservers, X.disallowedObservers] at this
  exact this

/-- of a `stabilise` whose functions and handlers write variables the notifications of a token see what they see of an effect-free one -/
theorem toH {env : Env} {fuel : Nat} {s t2 t3 s' : State} (X : WStab env fuel s t2 t3 s') : SubsH.StabH env s t3 s' where
  mid := X.mid.toH
  obs := X.obs
  obsInv := obsInv_final X
  alive := X.inv.u.core.alive
  status := X.inv.u.core.status
  reads n hn := by
    obtain ⟨-, hval, hv, hsome⟩ := X.values n hn _ (Nat.lt_succ_self _)
    obtain ⟨v, hev⟩ := Option.isSome_iff_exists.1 hsome
    exact ⟨v, by rw [hval]; exact hev, by rw [hv]; exact hev⟩
  called := X.called
  tokLog t := by rw [tokLog_notifs, notifs_log X.mid, tokLog_append, tokLog_reverse, ← tokLog_notifs]

end P18

/-- **S2** (`SubsH.stabilise_delivers` with write effects): the notifications in the log grow by `del` — the expected
notification of every handler record registered before the call, every token at most once; besides notifications the
call logs only non-notifications (function invocations, `note`s of `replace*`) -/
theorem stabilise_delivers_w {env : Env} (hw : WOnly env) (hH : WHandlers env) {fuel : Nat} {s s' : State}
    (U : UInvE env s) (h : (stabilise env fuel).run.run s = (.ok (), s')) :
    ∃ del : List Event, notifs s'.log = del.reverse ++ notifs s.log ∧
      (∀ e, e ∈ del → ∃ t u, e = .notif t u) ∧
      (∀ t u, Event.notif t u ∈ del ↔
        ∃ (o : Nat) (ob : ObsRec) (h : HandlerRec), s.observers[o]? = some ob ∧ h ∈ ob.handlers ∧
          h.token = t ∧ expected s s' o h = some u) ∧
      (del.filterMap notifTok).Nodup := by
  obtain ⟨t2, t3, X⟩ := stabilise_w hw hH U h
  obtain ⟨a, b, c⟩ := SubsH.endNotifs_spec X.mid.toH
  exact ⟨endNotifs env t3, P18.notifs_log X.mid, a, b, c⟩

/-- `SubsH.stab_live` / `Props.C09History.expected_live` with write effects: what a record on a created or in-use observer is
told: the observer is in use afterwards and reads `v` (the value computed from the PRE-STABILISE variables);
`Initialised v` if the handler was never called, else `Changed v` iff the stored value of the node is not the one from
before the call, else nothing -/
theorem expected_live_w {env : Env} {fuel : Nat} {s t2 t3 s' : State} (U : UInvE env s)
    (X : WStab env fuel s t2 t3 s') {o : Nat} {ob : ObsRec} (h : HandlerRec)
    (ho : s.observers[o]? = some ob) (hs : ob.state = .created ∨ ob.state = .inUse) :
    ∃ ob' v, s'.observers[o]? = some ob' ∧ ob'.node = ob.node ∧ ob'.state = .inUse ∧
      (s'.nodeD ob.node).value = some v ∧ s'.tryGetValue env o = .ok v ∧
      expected s s' o h = (if h.prev = .neverBeenUpdated then some (.initialised v)
        else if (s.nodeD ob.node).value = some v then none else some (.changed v)) := by
  have _ := U
  exact (P18.toH X).live h ho hs

/-- a record on a disallowed or unlinked observer is told nothing -/
theorem expected_dead_w {env : Env} {fuel : Nat} {s t2 t3 s' : State} (U : UInvE env s)
    (X : WStab env fuel s t2 t3 s') {o : Nat} {ob : ObsRec} (h : HandlerRec)
    (ho : s.observers[o]? = some ob) (hs : ¬ (ob.state = .created ∨ ob.state = .inUse)) :
    expected s s' o h = none := by
  have _ := U
  exact SubsH.expected_dead X.obs h ho hs

namespace P18
open IncrVerif.Proofs.SubsH

/-- **a `stabilise` keeps the link between the log of `t` and the state** -/
theorem tinv_stabilise {env : Env} (hw : WOnly env) (hH : WHandlers env) {fuel : Nat} {s s' : State} {t : Nat}
    {acc : List Update} (U : UInvE env s) (hrun : (stabilise env fuel).run.run s = (.ok (), s'))
    (T : TInv s t acc) : TInv s' t (accAfter env s s' t acc) := by
  obtain ⟨t2, t3, X⟩ := stabilise_w hw hH U hrun
  exact TInv.stabilise_of U.u.hinv (toH X) T

/-- `SubsH.specT_run` with write effects -/
theorem specT_run {env : Env} (hw : WOnly env) (hH : WHandlers env) {t : Nat} {acts : List Action} {s s' : State}
    {tk tk' : Array Nat} {acc : List Update} (U : UInvE env s) (T : TInv s t acc)
    (ha : ∀ a, a ∈ acts → WAction env a) (h : runActions env acts s tk = .ok (s', tk')) :
    TInv s' t (specT env t acts s tk acc) := by
  induction acts generalizing s tk acc with
  | nil => simp only [runActions] at h; cases h; exact T
  | cons a as ih =>
    simp only [runActions] at h
    rcases hx : (stepAction env a tk).run.run s with ⟨_ | r, s1⟩
    · rw [hx] at h; cases h
    · rw [hx] at h
      have haa := ha a (List.mem_cons_self ..)
      have U1 := step_w hw hH U haa hx
      rw [specT_cons_ok env t a as s s1 tk acc r hx]
      refine ih U1 ?_ (fun b hb => ha b (List.mem_cons_of_mem _ hb)) h
      by_cases e : a = .stabilise
      · subst e
        exact tinv_stabilise hw hH U (step_stabilise hx) T
      · rw [stepAcc_other env t s s1 acc e]
        have hnd : ∀ e c cb, a ≠ .addDep e c cb := by
          intro e c cb heq; rw [heq] at haa; exact haa.elim
        have h0 := hx
        rw [← stepAction_noEff env a tk e hnd] at h0
        exact T.nstep ((SubsH.step_u U.u (pureHandlers_noEff env) haa h0).2 e)

end P18


/-- **S3 / C09 with effects** (as `SubsH.history_notifications`): along every history of the fragment from the
initial state, the updates logged for token `t` are exactly `specT` -/
theorem history_notifications_w {env : Env} (hw : WOnly env) (hH : WHandlers env) {N : Nat} {d : Bool}
    {acts : List Action} {s : State} {tk : Array Nat} (ha : ∀ a, a ∈ acts → WAction env a)
    (h : runActions env acts (State.init N d) #[] = .ok (s, tk)) (t : Nat) :
    tokLog t s.log = specT env t acts (State.init N d) #[] [] :=
  (P18.specT_run hw hH (uinve_init env N d) (SubsH.tinv_init N d t) ha h).log

/-- hence: `Initialised` at most once and first, then only `Changed`; never `Invalidated` -/
theorem history_shape_w {env : Env} (hw : WOnly env) (hH : WHandlers env) {N : Nat} {d : Bool}
    {acts : List Action} {s : State} {tk : Array Nat} (ha : ∀ a, a ∈ acts → WAction env a)
    (h : runActions env acts (State.init N d) #[] = .ok (s, tk)) (t : Nat) : Shape (tokLog t s.log) := by
  rw [history_notifications_w hw hH ha h t]
  exact SubsH.specT_shape env t acts _ _ trivial

end IncrVerif.Proofs.EffH
