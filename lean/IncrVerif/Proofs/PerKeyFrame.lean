import IncrVerif.Proofs.PerKeyH4
import IncrVerif.Proofs.PerKeyH6
/-!
# Per-key operators: what the bookkeeping reads of two states

`GF D a b`: nodes and expert records are only appended, old nodes keep their kind, old names keep their node, old
records keep `node` and `pk`, their `children` are only appended and, outside `D`, unchanged.  `Inst`, `OpNodes`,
`EntryOK` and `ExpertH.Below` are kept along it, and so is `OpCore` for the nodes that keep their children
(`OpCore.gf`); every frame of the development (`BF`, `KF`, `XG`) gives a `GF`.

`XG s s'`: the same without creation, in both directions; `PFrag.of_xg`.
-/
namespace IncrVerif.Proofs.PerKeyH
open IncrVerif.Engine IncrVerif.Driver IncrVerif.Proofs IncrVerif.Proofs.Step IncrVerif.Proofs.Sched
open IncrVerif.Proofs.ExpertH IncrVerif.Proofs.EffH IncrVerif.Proofs.DriverH

structure GF (D : Nat → Prop) (a b : State) : Prop where
  grow : a.nodes.size ≤ b.nodes.size
  kind : ∀ m, m < a.nodes.size → (b.nodeD m).kind = (a.nodeD m).kind
  top : ∀ (k n : Nat), a.top[k]? = some n → b.top[k]? = some n
  xrec : ∀ (e : Nat) (er : ExpertRec), a.experts[e]? = some er → ∃ er', b.experts[e]? = some er' ∧
    er'.node = er.node ∧ er'.pk = er.pk ∧ (¬ D e → er'.children = er.children) ∧
    (∃ ext, er'.children = er.children ++ ext)

theorem kidsX_of_ge (s : State) (m : Nat) (h : s.nodes.size ≤ m) : kidsX s.experts (s.nodeD m).kind = [] := by
  rw [nodeD_default_of_ge s m h]; rfl

namespace GF
variable {D : Nat → Prop} {a b : State}

/-- the children of a node are still its children -/
theorem kidsX_sub (G : GF D a b) {c x : Nat} (hx : x ∈ kidsX a.experts (a.nodeD c).kind) :
    x ∈ kidsX b.experts (b.nodeD c).kind := by
  by_cases hc : c < a.nodes.size
  · rw [G.kind c hc]
    cases hk : (a.nodeD c).kind <;> rw [hk] at hx <;> try exact hx
    rename_i e
    simp only [kidsX] at hx ⊢
    cases he : a.experts[e]? with
    | none => rw [xRec_none he] at hx; simp at hx
    | some er =>
      obtain ⟨er', he', -, -, -, ext, hext⟩ := G.xrec e er he
      rw [xRec_some he] at hx
      rw [xRec_some he', hext, List.map_append]
      exact List.mem_append_left _ hx
  · rw [kidsX_of_ge a c (by omega)] at hx
    cases hx

/-- an old node whose record (if any) is outside `D` keeps its children -/
theorem kidsX_same (G : GF D a b) {c : Nat} (hc : c < a.nodes.size)
    (h : ∀ e, (a.nodeD c).kind = .expert e → ¬ D e ∧ ∃ er, a.experts[e]? = some er) :
    kidsX b.experts (b.nodeD c).kind = kidsX a.experts (a.nodeD c).kind := by
  rw [G.kind c hc]
  cases hk : (a.nodeD c).kind <;> try rfl
  rename_i e
  obtain ⟨hnD, er, he⟩ := h e hk
  obtain ⟨er', he', -, -, hsame, -⟩ := G.xrec e er he
  simp only [kidsX]
  rw [xRec_some he, xRec_some he', hsame hnD]

theorem below (G : GF D a b) {x y : Nat} (h : ExpertH.Below a x y) : ExpertH.Below b x y := by
  induction h with
  | refl a => exact .refl a
  | step h1 _ ih => exact .step (G.kidsX_sub h1) ih

end GF

/-! ## along `XF` -/

theorem xCore_inj {a b : ExpertRec} (h : xCore a = xCore b) :
    a.f = b.f ∧ a.node = b.node ∧ a.children = b.children ∧ a.pk = b.pk ∧ a.forceStale = b.forceStale := by
  simp only [xCore, Prod.mk.injEq] at h; exact h

theorem _root_.IncrVerif.Proofs.ExpertH.XF.xRec {s s' : State} (h : XF s s') (e : Nat) :
    xCore (xRec s'.experts e) = xCore (xRec s.experts e) := by
  have := h.xcore e
  cases he : s.experts[e]? <;> cases he' : s'.experts[e]? <;> rw [he, he'] at this <;> try cases this
  · rw [xRec_none he, xRec_none he']
  · rw [xRec_some he, xRec_some he']
    exact Option.some.inj this

theorem _root_.IncrVerif.Proofs.ExpertH.XF.kidsX {s s' : State} (h : XF s s') (m : Nat) :
    kidsX s'.experts (s'.nodeD m).kind = kidsX s.experts (s.nodeD m).kind := by
  rw [h.kind m]
  cases (s.nodeD m).kind <;> try rfl
  simp only [ExpertH.kidsX, (xCore_inj (h.xRec _)).2.2.1]

/-- the kinds of `V` read `pk`, `children` and `f` of the records, and the operator records -/
theorem vKind_congr {s s' : State} (hp : s'.perkeys = s.perkeys)
    (hx : ∀ e, (xRec s'.experts e).pk = (xRec s.experts e).pk ∧
      (xRec s'.experts e).children = (xRec s.experts e).children ∧ (xRec s'.experts e).f = (xRec s.experts e).f)
    (k : Kind) : vKind s' k = vKind s k := by
  cases k <;> try rfl
  rename_i e
  simp only [vKind, pkRec, hp, (hx e).1, (hx e).2.1, (hx e).2.2]

theorem vKind_of_xf {s s' : State} (h : XF s s') (hp : s'.perkeys = s.perkeys) (k : Kind) :
    vKind s' k = vKind s k :=
  vKind_congr hp (fun e => have ⟨h1, _, h2, h3, _⟩ := xCore_inj (h.xRec e); ⟨h3, h2, h1⟩) k

/-! ## templates -/

theorem resP_mono {top top' : Array Nat} (h : ∀ (k n : Nat), top[k]? = some n → top'[k]? = some n) (loc : List Nat)
    {o : Opnd} {n : Nat} (hr : resP top loc o = some n) : resP top' loc o = some n := by
  cases o <;> first | exact h _ _ hr | exact hr

theorem mapM_resP_mono {top top' : Array Nat} (h : ∀ (k n : Nat), top[k]? = some n → top'[k]? = some n)
    (loc : List Nat) : ∀ (args : List Opnd) (l : List Nat), args.mapM (resP top loc) = some l →
      args.mapM (resP top' loc) = some l := by
  intro args
  induction args with
  | nil => intro l hl; simpa using hl
  | cons a as ih =>
    intro l hl
    simp only [List.mapM_cons, Option.pure_def, Option.bind_eq_bind] at hl ⊢
    cases ha : resP top loc a with
    | none => rw [ha] at hl; simp at hl
    | some n =>
      rw [ha] at hl
      rw [resP_mono h loc ha]
      cases has : as.mapM (resP top loc) with
      | none => rw [has] at hl; simp at hl
      | some l' =>
        rw [has] at hl
        rw [ih l' has]
        exact hl

theorem option_mapM_mem {α β} {f : α → Option β} :
    ∀ (l : List α) (r : List β), l.mapM f = some r → ∀ a, a ∈ l → ∃ b, f a = some b ∧ b ∈ r := by
  intro l
  induction l with
  | nil => intro r _ a ha; cases ha
  | cons a0 l ih =>
    intro r h a ha
    rw [List.mapM_cons] at h
    cases hk : f a0 with
    | none => rw [hk] at h; cases h
    | some x =>
      cases hxs : l.mapM f with
      | none => rw [hk, hxs] at h; cases h
      | some xs =>
        rw [hk, hxs] at h
        cases h
        rcases List.mem_cons.1 ha with e | ha
        · subst e; exact ⟨x, hk, List.mem_cons_self⟩
        · obtain ⟨b, h1, h2⟩ := ih xs hxs a ha
          exact ⟨b, h1, List.mem_cons_of_mem _ h2⟩

theorem option_mapM_mem_back {α β} {f : α → Option β} :
    ∀ (l : List α) (r : List β), l.mapM f = some r → ∀ b, b ∈ r → ∃ a, a ∈ l ∧ f a = some b := by
  intro l
  induction l with
  | nil =>
    intro r h b hb
    rw [List.mapM_nil] at h
    cases h
    cases hb
  | cons a0 l ih =>
    intro r h b hb
    rw [List.mapM_cons] at h
    cases hk : f a0 with
    | none => rw [hk] at h; cases h
    | some x =>
      cases hxs : l.mapM f with
      | none => rw [hk, hxs] at h; cases h
      | some xs =>
        rw [hk, hxs] at h
        cases h
        rcases List.mem_cons.1 hb with e | hb
        · subst e; exact ⟨a0, List.mem_cons_self, hk⟩
        · obtain ⟨a, h1, h2⟩ := ih xs hxs b hb
          exact ⟨a, List.mem_cons_of_mem _ h1, h2⟩

/-- **what `instrKind` is**: the four instructions of the fragment and the kinds of the nodes they create -/
theorem instrKind_cases {top : Array Nat} {loc : List Nat} {v : Val} {i : Instr} {k : Kind}
    (h : instrKind top loc v i = some k) :
    (∃ w, i = .const w ∧ k = .const w) ∨ (i = .lhsConst ∧ k = .const v) ∨
    (∃ f args as, i = .map f args ∧ args.mapM (resP top loc) = some as ∧ k = .map f as) ∨
    (∃ f init cs as, i = .fold f init cs ∧ cs.isEmpty = false ∧ cs.mapM (resP top loc) = some as ∧
      k = .fold f init as) := by
  cases i <;> try cases h
  case const w => exact Or.inl ⟨w, rfl, rfl⟩
  case lhsConst => exact Or.inr (Or.inl ⟨rfl, rfl⟩)
  case map f args =>
    simp only [instrKind, Option.map_eq_some_iff] at h
    obtain ⟨as, has, rfl⟩ := h
    exact Or.inr (Or.inr (Or.inl ⟨f, args, as, rfl, has, rfl⟩))
  case fold f init cs =>
    simp only [instrKind] at h
    split at h
    · cases h
    · rename_i hne
      simp only [Option.map_eq_some_iff] at h
      obtain ⟨as, has, rfl⟩ := h
      exact Or.inr (Or.inr (Or.inr ⟨f, init, cs, as, rfl, by simpa using hne, has, rfl⟩))

theorem instrKind_not_expert {top : Array Nat} {loc : List Nat} {v : Val} {i : Instr} {k : Kind}
    (h : instrKind top loc v i = some k) (e : Nat) : k ≠ .expert e := by
  rcases instrKind_cases h with ⟨w, -, rfl⟩ | ⟨-, rfl⟩ | ⟨f, args, as, -, -, rfl⟩ | ⟨f, init, cs, as, -, -, -, rfl⟩ <;>
    exact fun h => nomatch h

theorem instrKind_facts {env : Env} {top : Array Nat} {loc : List Nat} {v : Val} {i : Instr} {k : Kind}
    (hi : TInstrOK env i) (h : instrKind top loc v i = some k) :
    PKind env k ∧ (∀ c, k ≠ .var c) ∧ (∀ e, k ≠ .expert e) ∧ (∀ p j, k ≠ .mapRef p j) ∧
      (∀ f args, k = .map f args → f < fnZip) := by
  rcases instrKind_cases h with ⟨w, rfl, rfl⟩ | ⟨rfl, rfl⟩ | ⟨f, args, as, rfl, -, rfl⟩ | ⟨f, init, cs, as, rfl, -, -, rfl⟩
  · exact ⟨trivial, fun _ h => (by cases h), fun _ h => (by cases h), fun _ _ h => (by cases h), fun _ _ h => (by cases h)⟩
  · exact ⟨trivial, fun _ h => (by cases h), fun _ h => (by cases h), fun _ _ h => (by cases h), fun _ _ h => (by cases h)⟩
  · exact ⟨Or.inl hi, fun _ h => (by cases h), fun _ h => (by cases h), fun _ _ h => (by cases h),
      fun _ _ h => by cases h; exact hi.1⟩
  · exact ⟨hi.1, fun _ h => (by cases h), fun _ h => (by cases h), fun _ _ h => (by cases h), fun _ _ h => (by cases h)⟩

/-- the children of the node an instruction creates are the resolutions of its operands -/
theorem instrKind_kids {top : Array Nat} {loc : List Nat} {v : Val} {i : Instr} {k : Kind} {xs : Array ExpertRec}
    (h : instrKind top loc v i = some k) {x : Nat} (hx : x ∈ kidsX xs k) :
    ∃ o, o ∈ instrOpnds i ∧ resP top loc o = some x := by
  rcases instrKind_cases h with ⟨w, rfl, rfl⟩ | ⟨rfl, rfl⟩ | ⟨f, args, as, rfl, has, rfl⟩ | ⟨f, init, cs, as, rfl, -, has, rfl⟩
  · cases hx
  · cases hx
  · exact option_mapM_mem_back args as has x hx
  · exact option_mapM_mem_back cs as has x hx

theorem instrKind_mono {top top' : Array Nat} (h : ∀ (k n : Nat), top[k]? = some n → top'[k]? = some n)
    (loc : List Nat) (v : Val) {i : Instr} {kd : Kind} (hk : instrKind top loc v i = some kd) :
    instrKind top' loc v i = some kd := by
  rcases instrKind_cases hk with ⟨w, rfl, rfl⟩ | ⟨rfl, rfl⟩ | ⟨f, args, as, rfl, has, rfl⟩ | ⟨f, init, cs, as, rfl, hne, has, rfl⟩
  · rfl
  · rfl
  · simp only [instrKind, mapM_resP_mono h loc args as has, Option.map_some]
  · simp only [instrKind, hne, Bool.false_eq_true, if_false, mapM_resP_mono h loc cs as has, Option.map_some]

theorem Inst.gf {D : Nat → Prop} {a b : State} (G : GF D a b) {t : Template} {key : Int} {p : Nat}
    {locs : List Nat} {m : Nat} (I : Inst a t key p locs m) : Inst b t key p locs m := by
  refine ⟨I.len, fun c hc => Nat.lt_of_lt_of_le (I.lt c hc) G.grow, fun j i c hi hc => ?_, resP_mono G.top _ I.ret⟩
  rw [G.kind c (I.lt c (List.mem_of_getElem? hc))]
  exact instrKind_mono G.top _ _ (I.kind j i c hi hc)

/-! ## the bookkeeping of one operator -/

theorem OpNodes.gf {D : Nat → Prop} {a b : State} (G : GF D a b) {op : Nat} {pr pr' : PerKeyRec} {x e : Nat}
    (hr : pr'.result = pr.result) (hl : pr'.lhsChange = pr.lhsChange)
    (N : OpNodes a op pr x e) : OpNodes b op pr' x e := by
  have h0 := N.lt
  have hx := N.xlt
  refine ⟨by rw [hr]; exact N.pos, by rw [hr, hl]; exact N.lc, by rw [hr]; exact Nat.lt_of_lt_of_le N.lt G.grow,
    ?_, by rw [hr]; exact N.xlt, ?_, ?_, ?_, ?_⟩
  · rw [hr, G.kind _ (by omega)]; exact N.conv
  · rw [G.kind _ (by omega)]; exact N.xvar
  · rw [hr, G.kind _ (by omega)]; exact N.result
  · rw [hr, G.kind _ (by omega)]; exact N.lcKind
  · rw [hr, G.kind _ (by omega)]; exact N.out

/-- one entry: the record of its per-key input node is outside `D`, the dependencies of the result are kept, and the
virtual stamp `-1` of the input node is kept unless the node has come to be used by its instance (`hin`) -/
theorem EntryOK.gf {env : Env} {D : Nat → Prop} {a b : State} {op : Nat} {pr pr' : PerKeyRec}
    {er er' : ExpertRec} {key : Int} {p d : Nat} (G : GF D a b)
    (hP : ∀ ep erp, a.experts[ep]? = some erp → erp.pk = some (op, some key) → ¬ D ep)
    (hc : ∀ ed : ExpertEdge, ed ∈ er.children → ed ∈ er'.children)
    (hr : pr'.result = pr.result) (hl : pr'.lhsChange = pr.lhsChange) (hf : pr'.fam = pr.fam)
    (hin : ∀ ep, (a.nodeD p).kind = .expert ep → ((V a).nodeD p).recomputedAt = -1 →
      ((V b).nodeD p).recomputedAt = -1 ∨ ∃ ed, ed ∈ er.children ∧ ed.dep = d ∧ ExpertH.Below a ed.child p)
    (h : EntryOK env a op pr er key p d) : EntryOK env b op pr' er' key p d where
  plt := Nat.lt_of_lt_of_le h.plt G.grow
  pnode := by
    obtain ⟨ep, erp, d0, h1, h2, h3, h4⟩ := h.pnode
    obtain ⟨erp', h2', -, k3, k4, -⟩ := G.xrec ep erp h2
    exact ⟨ep, erp', d0, by rw [G.kind p h.plt]; exact h1, h2', k3.trans h3,
      by rw [k4 (hP ep erp h2 h3), hl]; exact h4⟩
  edge := by
    obtain ⟨ed, locs, h1, h2, h3, h4, h5, h6⟩ := h.edge
    rw [hr, hf]
    exact ⟨ed, locs, hc ed h1, h2, h3, h4.gf G, h5, h6⟩
  input := by
    rcases h.input with ⟨ed, h1, h2, h3⟩ | h0
    · exact Or.inl ⟨ed, hc ed h1, h2, G.below h3⟩
    · obtain ⟨ep, erp, d0, hk, -⟩ := h.pnode
      rcases hin ep hk h0 with h1 | ⟨ed, h1, h2, h3⟩
      · exact Or.inr h1
      · exact Or.inl ⟨ed, hc ed h1, h2, G.below h3⟩
  consec := by
    obtain ⟨ed, h1, h2, h3, h4⟩ := h.consec
    rw [hf]
    exact ⟨ed, hc ed h1, h2, h3.gf G, Nat.lt_of_lt_of_le h4 G.grow⟩

/-- `OpOK` without the two clauses that fail inside a run of the change detector (`dom`, `input`) -/
structure OpCore (env : Env) (s : State) (op : Nat) (pr : PerKeyRec) : Prop where
  cut : pr.cut = none ∨ pr.cut = some .eq
  own : ∀ c x, c < s.nodes.size → x ∈ kidsX s.experts (s.nodeD c).kind → Priv env pr x → c = pr.result ∨ Priv env pr c
  noObs : ∀ x, Priv env pr x → (s.nodeD x).observers = []
  privTop : ∀ (k x : Nat), s.top[k]? = some x → ¬ Priv env pr x
  templ : TemplOK env (env.perKey pr.fam)
  nodes : ∃ x e er, OpNodes s op pr x e ∧ s.experts[e]? = some er ∧ er.pk = some (op, none) ∧
    (∃ d0 rest, er.children = { dep := d0, child := pr.lhsChange, cb := none } :: rest ∧
      (∀ ed, ed ∈ rest → ∃ key p, (key, (p, ed.dep)) ∈ pr.prevNodes) ∧
      (∀ key p d, (key, (p, d)) ∈ pr.prevNodes → d ≠ d0)) ∧
    (∀ key p d, (key, (p, d)) ∈ pr.prevNodes → EntryOK env s op pr er key p d) ∧
    (∀ k : Nat, k ∈ templOuter (env.perKey pr.fam) → ∃ o, s.top[k]? = some o ∧ o < pr.result - 1)
  keys : (pr.prevNodes.map (·.1)).Nodup
  deps : (pr.prevNodes.map (·.2.2)).Nodup
  sorted : IncrVerif.AMap.Sorted pr.prevMap

theorem OpOK.core {env : Env} {s : State} {op : Nat} {pr : PerKeyRec} (h : OpOK env s op pr) : OpCore env s op pr :=
  ⟨h.cut, h.own, h.noObs, h.privTop, h.templ, h.nodes, h.keys, h.deps, h.sorted⟩

theorem OpCore.toOK {env : Env} {s : State} {op : Nat} {pr : PerKeyRec} (h : OpCore env s op pr)
    (dom : ∀ key, (pr.prevMap.lookup key).isSome = (pr.prevNodes.lookup key).isSome)
    (input : s.isStale pr.lhsChange = false → (s.nodeD (pr.result - 1)).value = some (.map pr.prevMap)) :
    OpOK env s op pr :=
  ⟨h.cut, h.own, h.noObs, h.privTop, h.templ, h.nodes, h.keys, h.deps, h.sorted, dom, input⟩

/-- a private node exists -/
theorem OpCore.priv_lt {env : Env} {s : State} {op : Nat} {pr : PerKeyRec} (h : OpCore env s op pr) {x : Nat}
    (hx : Priv env pr x) : x < s.nodes.size := by
  obtain ⟨x0, e, er, hN, he, hpk, hch, hent, hout⟩ := h.nodes
  rcases hx with rfl | ⟨key, p, d, hm, h1, h2⟩
  · have := hN.lt; have := hN.lc; omega
  · obtain ⟨ed, -, -, -, hlt⟩ := (hent key p d hm).consec
    omega

/-- **the bookkeeping of an operator none of whose records is in `D`.**  `hown`: what the new nodes and the nodes
whose record is in `D` reference in `b` is not private, or was referenced in `a` already.  `hin`: as in `EntryOK.gf`. -/
theorem OpCore.gf {env : Env} {D : Nat → Prop} {a b : State} {op : Nat} {pr : PerKeyRec} (G : GF D a b)
    (h : OpCore env a op pr)
    (hD : ∀ (e : Nat) (er : ExpertRec) (k : Option Int), D e → a.experts[e]? = some er → er.pk ≠ some (op, k))
    (hkids : ∀ c, c < a.nodes.size → (∀ e, (a.nodeD c).kind = .expert e → ¬ D e) →
      kidsX b.experts (b.nodeD c).kind = kidsX a.experts (a.nodeD c).kind)
    (hobs : ∀ x, Priv env pr x → (a.nodeD x).observers = [] → (b.nodeD x).observers = [])
    (htop : ∀ (k x : Nat), b.top[k]? = some x → a.top[k]? = some x ∨ ¬ Priv env pr x)
    (hown : ∀ c x, c < b.nodes.size → (a.nodes.size ≤ c ∨ ∃ e, D e ∧ (a.nodeD c).kind = .expert e) →
      x ∈ kidsX b.experts (b.nodeD c).kind → ¬ Priv env pr x ∨ x ∈ kidsX a.experts (a.nodeD c).kind)
    (hin : ∀ (e : Nat) (er : ExpertRec) (key : Int) (p d ep : Nat), (a.nodeD pr.result).kind = .expert e →
      a.experts[e]? = some er → (key, (p, d)) ∈ pr.prevNodes → p < a.nodes.size → (a.nodeD p).kind = .expert ep →
      ((V a).nodeD p).recomputedAt = -1 →
      ((V b).nodeD p).recomputedAt = -1 ∨ ∃ ed, ed ∈ er.children ∧ ed.dep = d ∧ ExpertH.Below a ed.child p) :
    OpCore env b op pr := by
  refine ⟨h.cut, fun c x hc hx hp => ?_, fun x hp => hobs x hp (h.noObs x hp), fun k x hk hp => ?_, h.templ, ?_,
    h.keys, h.deps, h.sorted⟩
  · by_cases hlt : c < a.nodes.size
    · by_cases hd : ∃ e, D e ∧ (a.nodeD c).kind = .expert e
      · rcases hown c x hc (Or.inr hd) hx with h1 | h1
        · exact absurd hp h1
        · exact h.own c x hlt h1 hp
      · rw [hkids c hlt fun e hk hde => hd ⟨e, hde, hk⟩] at hx
        exact h.own c x hlt hx hp
    · rcases hown c x hc (Or.inl (by omega)) hx with h1 | h1
      · exact absurd hp h1
      · rw [kidsX_of_ge a c (by omega)] at h1; cases h1
  · rcases htop k x hk with h1 | h1
    · exact h.privTop k x h1 hp
    · exact h1 hp
  · obtain ⟨x, e, er, hN, he, hpk, hch, hent, hout⟩ := h.nodes
    obtain ⟨er', he', -, k3, k4, -⟩ := G.xrec e er he
    have hne : ¬ D e := fun hd => hD e er none hd he hpk
    refine ⟨x, e, er', hN.gf G rfl rfl, he', k3.trans hpk, by rw [k4 hne]; exact hch,
      fun key p d hm => (hent key p d hm).gf G (fun ep erp h1 h2 hd => hD ep erp (some key) hd h1 h2)
        (fun ed hed => by rw [k4 hne]; exact hed) rfl rfl rfl
        (fun ep hk h0 => hin e er key p d ep hN.result he hm (hent key p d hm).plt hk h0), fun k hk => ?_⟩
    obtain ⟨o, ho, hlt⟩ := hout k hk
    exact ⟨o, G.top k o ho, hlt⟩

/-! ## same size: the frame `XG` -/

/-- sizes, kinds, and the structure of the expert records are kept -/
structure XG (s s' : State) : Prop where
  size : s'.nodes.size = s.nodes.size
  kind : ∀ m, (s'.nodeD m).kind = (s.nodeD m).kind
  fwd : ∀ (e : Nat) (er : ExpertRec), s.experts[e]? = some er → ∃ er', s'.experts[e]? = some er' ∧ er'.f = er.f ∧
    er'.node = er.node ∧ er'.children = er.children ∧ er'.pk = er.pk
  bwd : ∀ (e : Nat) (er' : ExpertRec), s'.experts[e]? = some er' → ∃ er, s.experts[e]? = some er ∧ er'.f = er.f ∧
    er'.node = er.node ∧ er'.children = er.children ∧ er'.pk = er.pk

namespace XG
variable {s s' s'' : State}

theorem refl (s : State) : XG s s :=
  ⟨rfl, fun _ => rfl, fun _ er h => ⟨er, h, rfl, rfl, rfl, rfl⟩, fun _ er h => ⟨er, h, rfl, rfl, rfl, rfl⟩⟩

theorem trans (h1 : XG s s') (h2 : XG s' s'') : XG s s'' where
  size := h2.size.trans h1.size
  kind m := (h2.kind m).trans (h1.kind m)
  fwd e er he := by
    obtain ⟨er1, he1, a1, a2, a3, a4⟩ := h1.fwd e er he
    obtain ⟨er2, he2, b1, b2, b3, b4⟩ := h2.fwd e er1 he1
    exact ⟨er2, he2, b1.trans a1, b2.trans a2, b3.trans a3, b4.trans a4⟩
  bwd e er2 he2 := by
    obtain ⟨er1, he1, b1, b2, b3, b4⟩ := h2.bwd e er2 he2
    obtain ⟨er, he, a1, a2, a3, a4⟩ := h1.bwd e er1 he1
    exact ⟨er, he, b1.trans a1, b2.trans a2, b3.trans a3, b4.trans a4⟩

theorem of_xf (h : XF s s') : XG s s' where
  size := h.size
  kind := h.kind
  fwd e er he := by
    obtain ⟨er', he', h1, h2, h3, h4, -⟩ := h.xrec he
    exact ⟨er', he', h1, h2, h3, h4⟩
  bwd e er' he' := by
    obtain ⟨er, he, h1, h2, h3, h4, -⟩ := h.xrec_back he'
    exact ⟨er, he, h1, h2, h3, h4⟩

theorem xnone (G : XG s s') {e : Nat} (he : s.experts[e]? = none) : s'.experts[e]? = none := by
  cases h' : s'.experts[e]? with
  | none => rfl
  | some er' =>
    obtain ⟨er, h, -⟩ := G.bwd e er' h'
    rw [he] at h; cases h

theorem xRec (G : XG s s') (e : Nat) :
    (xRec s'.experts e).pk = (xRec s.experts e).pk ∧
      (xRec s'.experts e).children = (xRec s.experts e).children ∧ (xRec s'.experts e).f = (xRec s.experts e).f := by
  cases he : s.experts[e]? with
  | none => rw [xRec_none he, xRec_none (G.xnone he)]; exact ⟨rfl, rfl, rfl⟩
  | some er =>
    obtain ⟨er', he', h1, -, h3, h4⟩ := G.fwd e er he
    rw [xRec_some he, xRec_some he']
    exact ⟨h4, h3, h1⟩

theorem kidsX (G : XG s s') (m : Nat) :
    kidsX s'.experts (s'.nodeD m).kind = kidsX s.experts (s.nodeD m).kind := by
  rw [G.kind]
  cases (s.nodeD m).kind <;> try rfl
  rename_i e
  simp only [ExpertH.kidsX, (G.xRec e).2.1]

theorem gf (G : XG s s') (ht : s'.top = s.top) : GF (fun _ => False) s s' := by
  refine ⟨Nat.le_of_eq G.size.symm, fun m _ => G.kind m, fun k n h => by rw [ht]; exact h, fun e er he => ?_⟩
  obtain ⟨er', he', -, h2, h3, h4⟩ := G.fwd e er he
  exact ⟨er', he', h2, h4, fun _ => h3, [], by rw [h3, List.append_nil]⟩

end XG

/-- **the fragment along `XG`**; the panic countdown, validity and "no invalid children" are read in the new state -/
theorem PFrag.of_xg {env : Env} {s s' : State} (F : PFrag env s) (G : XG s s')
    (hpc : s'.panicCountdown = none) (hvalid : ∀ m, (s'.nodeD m).valid = true)
    (hni : ∀ (e : Nat) (er : ExpertRec), s'.experts[e]? = some er → er.numInvalidChildren = 0)
    (hn : ∀ m, (s'.nodeD m).cutoff = (s.nodeD m).cutoff ∧ (s'.nodeD m).createdIn = (s.nodeD m).createdIn ∧
      (s'.nodeD m).forceNecessary = (s.nodeD m).forceNecessary)
    (hsc : s'.currentScope = s.currentScope) : PFrag env s' where
  pc := hpc
  kind n hn' := by rw [G.kind]; exact F.kind n (by rw [← G.size]; exact hn')
  valid n _ := hvalid n
  cutoff n hn' := by rw [(hn n).1]; exact F.cutoff n (by rw [← G.size]; exact hn')
  top n hn' := by rw [(hn n).2.1]; exact F.top n (by rw [← G.size]; exact hn')
  force n hn' := by rw [(hn n).2.2]; exact F.force n (by rw [← G.size]; exact hn')
  xrec n e hn' hk := by
    rw [G.size] at hn'; rw [G.kind] at hk
    obtain ⟨er, he, h2⟩ := F.xrec n e hn' hk
    obtain ⟨er', he', -, h4, -⟩ := G.fwd e er he
    exact ⟨er', he', h4.trans h2⟩
  xnode e er' he' := by
    obtain ⟨er, he, -, h2, -⟩ := G.bwd e er' he'
    obtain ⟨k1, k2⟩ := F.xnode e er he
    rw [h2, G.size, G.kind]
    exact ⟨k1, k2⟩
  xok e er' he' := by
    obtain ⟨er, he, h1, -, -, h4⟩ := G.bwd e er' he'
    obtain ⟨k1, -, k3⟩ := F.xok e er he
    exact ⟨by rw [h4]; exact k1, hni e er' he', by rw [h1]; exact k3⟩
  scope := by rw [hsc]; exact F.scope

/-! ## the records and the potential along a frame that creates nothing -/

theorem RecsOK.of_frame {s s' : State} (R : RecsOK s) (hp : s'.perkeys = s.perkeys)
    (hx : ∀ (e : Nat) (er' : ExpertRec), s'.experts[e]? = some er' →
      ∃ er, s.experts[e]? = some er ∧ er'.pk = er.pk ∧ er'.node = er.node) : RecsOK s' := by
  intro e er' he'
  obtain ⟨er, he, hpk, hnode⟩ := hx e er' he'
  obtain ⟨op, pr, hpr, h⟩ := R e er he
  refine ⟨op, pr, by rw [hp]; exact hpr, ?_⟩
  rw [hpk, hnode]; exact h

/-- the potential reads `result`, `lhsChange` and the nodes of `prevNodes` of an operator record -/
theorem Pot.modify {σ : State} {ψ : Nat → Nat} (P : Pot σ ψ) {op : Nat} {pr : PerKeyRec} (hop : σ.perkeys[op]? = some pr)
    (f : PerKeyRec → PerKeyRec) (hr : (f pr).result = pr.result) (hl : (f pr).lhsChange = pr.lhsChange)
    (hn : ∀ key p d, (key, (p, d)) ∈ (f pr).prevNodes → ψ p = 2 * pr.lhsChange) :
    Pot { σ with perkeys := σ.perkeys.modify op f } ψ := by
  refine ⟨P.mono, P.top, fun op' pr' hop' => ?_, P.le⟩
  have hop' : (σ.perkeys.modify op f)[op']? = some pr' := hop'
  rw [Array.getElem?_modify] at hop'
  by_cases h : op = op'
  · subst h
    rw [if_pos rfl, hop] at hop'
    simp only [Option.map_some, Option.some.injEq] at hop'
    subst hop'
    obtain ⟨p1, p2, p3, -⟩ := P.op op pr hop
    rw [hr, hl]
    exact ⟨p1, p2, p3, hn⟩
  · rw [if_neg h] at hop'
    exact P.op op' pr' hop'

theorem Pot.of_frame {s s' : State} {ψ : Nat → Nat} (P : Pot s ψ) (hsz : s'.nodes.size = s.nodes.size)
    (hkids : ∀ n, kidsX s'.experts (s'.nodeD n).kind = kidsX s.experts (s.nodeD n).kind)
    (htop : s'.top = s.top) (hp : s'.perkeys = s.perkeys) : Pot s' ψ := by
  refine ⟨fun n c hn hc => ?_, fun k n h => ?_, fun op pr h => ?_, fun n hn => ?_⟩
  · rw [hkids] at hc; exact P.mono n c (by omega) hc
  · rw [htop] at h; exact P.top k n h
  · rw [hp] at h; exact P.op op pr h
  · exact P.le n (by omega)

/-- `OpCore.gf` without creation -/
theorem OpCore.of_xg {env : Env} {s s' : State} {op : Nat} {pr : PerKeyRec} (G : XG s s') (ht : s'.top = s.top)
    (h : OpCore env s op pr)
    (hobs : ∀ x, Priv env pr x → (s.nodeD x).observers = [] → (s'.nodeD x).observers = [])
    (hin : ∀ (e : Nat) (er : ExpertRec) (key : Int) (p d ep : Nat), (s.nodeD pr.result).kind = .expert e →
      s.experts[e]? = some er → (key, (p, d)) ∈ pr.prevNodes → p < s.nodes.size → (s.nodeD p).kind = .expert ep →
      ((V s).nodeD p).recomputedAt = -1 →
      ((V s').nodeD p).recomputedAt = -1 ∨ ∃ ed, ed ∈ er.children ∧ ed.dep = d ∧ ExpertH.Below s ed.child p) :
    OpCore env s' op pr :=
  h.gf (G.gf ht) (fun _ _ _ hd => hd.elim) (fun c _ _ => G.kidsX c) hobs (fun k x hk => Or.inl (by rw [← ht]; exact hk))
    (fun c x hc hcase _ => hcase.elim (fun hge => absurd hc (by rw [G.size]; omega)) fun ⟨_, hd, _⟩ => hd.elim) hin

/-- **the bookkeeping invariant along `XG`**: the clauses about observers, the semantic link `OpOK.input` and the values
of the conversion nodes are read in the new state; `hin` as in `EntryOK.gf` -/
theorem PKOK.of_xg {env : Env} {s s' : State} (P : PKOK env s) (G : XG s s') (hp : s'.perkeys = s.perkeys)
    (ht : s'.top = s.top)
    (hobs : ∀ (op : Nat) (pr : PerKeyRec), s.perkeys[op]? = some pr → ∀ x, Priv env pr x →
      (s'.nodeD x).observers = [])
    (hob : ∀ (o : Nat) (ob' : ObsRec), s'.observers[o]? = some ob' → ∃ k : Nat, s.top[k]? = some ob'.node)
    (hinput : ∀ (op : Nat) (pr : PerKeyRec), s.perkeys[op]? = some pr → s'.isStale pr.lhsChange = false →
      (s'.nodeD (pr.result - 1)).value = some (.map pr.prevMap))
    (hmaps : ∀ (op : Nat) (pr : PerKeyRec), s.perkeys[op]? = some pr → ∀ v,
      (s'.nodeD (pr.result - 1)).value = some v → ∃ m, v = .map m ∧ IncrVerif.AMap.Sorted m)
    (hin : ∀ (op : Nat) (pr : PerKeyRec) (e : Nat) (er : ExpertRec) (key : Int) (p d ep : Nat),
      s.perkeys[op]? = some pr → (s.nodeD pr.result).kind = .expert e → s.experts[e]? = some er →
      (key, (p, d)) ∈ pr.prevNodes → p < s.nodes.size → (s.nodeD p).kind = .expert ep →
      ((V s).nodeD p).recomputedAt = -1 →
      ((V s').nodeD p).recomputedAt = -1 ∨ ∃ ed, ed ∈ er.children ∧ ed.dep = d ∧ ExpertH.Below s ed.child p) :
    PKOK env s' where
  ops op pr h := by
    rw [hp] at h
    exact ((P.ops op pr h).core.of_xg G ht (fun x hx _ => hobs op pr h x hx)
      fun e er key p d ep => hin op pr e er key p d ep h).toOK (P.ops op pr h).dom (hinput op pr h)
  recs := P.recs.of_frame hp fun e er' he' => by
    obtain ⟨er, he, -, h2, -, h4⟩ := G.bwd e er' he'
    exact ⟨er, he, h4, h2⟩
  pot := by
    obtain ⟨ψ, Q⟩ := P.pot
    exact ⟨ψ, Q.of_frame G.size G.kidsX ht hp⟩
  lcs n f args hn hk hf := by
    rw [G.size] at hn; rw [G.kind] at hk
    rw [hp]; exact P.lcs n f args hn hk hf
  obsTop o ob ho := by rw [ht]; exact hob o ob ho
  maps op pr h := by rw [hp] at h; exact hmaps op pr h

/-- `NoRemOp` reads the cells and, of the conversion node and the input node, kind and value -/
theorem NoRemOp.of_nodes {a b : State} {op : Nat} {pr pr' : PerKeyRec} {x e : Nat} (h : NoRemOp a pr)
    (N : OpNodes a op pr x e) (hr : pr'.result = pr.result) (hm : pr'.prevMap = pr.prevMap)
    (hv : ∀ (c : Nat) (vc : VarCell), a.vars[c]? = some vc → b.vars[c]? = some vc)
    (hc : (b.nodeD (pr.result - 1)).kind = (a.nodeD (pr.result - 1)).kind ∧
      (b.nodeD (pr.result - 1)).value = (a.nodeD (pr.result - 1)).value)
    (hx : (b.nodeD x).kind = (a.nodeD x).kind ∧ (b.nodeD x).value = (a.nodeD x).value) : NoRemOp b pr' := by
  obtain ⟨x', c, vc, mv, h1, h2, h3, h4, h5, h6, h7, h8⟩ := h.input
  have ex : x' = x := by
    have := N.conv
    rw [h1] at this
    cases this; rfl
  subst ex
  exact ⟨x', c, vc, mv, by rw [hr, hc.1]; exact h1, by rw [hx.1]; exact h2, hv c vc h3, h4, h5, by rw [hm]; exact h6,
    by rw [hx.2, hm]; exact h7, by rw [hr, hc.2, hx.2, hm]; exact h8⟩

/-- **`NoRem` (no key is ever removed) along a frame**: it reads kinds, cells, `perkeys`, the values of the nodes that are not expert nodes -/
theorem NoRem.of_frame {s s' : State} (N : NoRem s) (hk : ∀ m, (s'.nodeD m).kind = (s.nodeD m).kind)
    (hp : s'.perkeys = s.perkeys) (hvars : s'.vars = s.vars)
    (hval : ∀ m, (∀ e, (s.nodeD m).kind ≠ .expert e) → (s'.nodeD m).value = (s.nodeD m).value) : NoRem s' := by
  intro op pr h
  rw [hp] at h
  obtain ⟨x, c, vc, mv, h1, h2, h3, h4, h5, h6, h7, h8⟩ := (N op pr h).input
  have hx : (s'.nodeD x).value = (s.nodeD x).value := hval x (fun e he => by rw [h2] at he; cases he)
  have hcv : (s'.nodeD (pr.result - 1)).value = (s.nodeD (pr.result - 1)).value :=
    hval _ (fun e he => by rw [h1] at he; cases he)
  refine ⟨x, c, vc, mv, by rw [hk]; exact h1, by rw [hk]; exact h2, by rw [hvars]; exact h3, h4, h5, h6, ?_, ?_⟩
  · rw [hx]; exact h7
  · rw [hcv, hx]; exact h8

end IncrVerif.Proofs.PerKeyH
