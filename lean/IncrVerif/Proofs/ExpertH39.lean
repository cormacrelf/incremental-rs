import IncrVerif.Proofs.ExpertH23
import IncrVerif.Proofs.ExpertH2
import IncrVerif.Proofs.ExpertLemmas
/-!
# Expert fragment: one `recomputeOne` on an expert node (`step_expert_node`)

The run factors through the state `T` in which the closure has run (`Xp.recomputeOne_expert_run`); from `T` on it is
`maybeChangeValue`, which the simulation calculus (`Sim.maybeChangeValue`) transports to the virtual state, where
`mcv_static` describes it.
-/
namespace IncrVerif.Proofs.ExpertH
open IncrVerif.Engine IncrVerif.Driver IncrVerif.Proofs IncrVerif.Proofs.Step IncrVerif.Proofs.Sched

theorem XKind.xk {env : Env} {k : Kind} (h : XKind env k) : XK k := by
  cases k <;> first | trivial | exact h.elim

theorem XFrag.fr {env : Env} {s : State} (F : XFrag env s) (hp : s.propagateInvalidity = []) : Fr s :=
  ⟨F.pc, F.validD, hp, fun n => (F.kindD n).xk, fun e er h => (F.xok e er h).2.1⟩

theorem evalArgs_map {ev : Nat → Option Val} {l : List Nat} {vals : List Val} (h : evalArgs ev l = some vals) :
    l.map ev = vals.map some := by
  induction l generalizing vals with
  | nil => simp only [evalArgs] at h; cases h; rfl
  | cons a as ih =>
    simp only [evalArgs] at h
    cases ha : ev a with
    | none => rw [ha] at h; cases h
    | some v =>
      cases hs : evalArgs ev as with
      | none => rw [ha, hs] at h; cases h
      | some vs =>
        rw [ha, hs] at h; cases h
        simp only [List.map_cons, ha, ih hs]

/-- `virtNode` reads the record of the node's own expert only -/
theorem virtNode_congr (xs xs' : Array ExpertRec) (nd : Node)
    (h : ∀ e', nd.kind = .expert e' → xRec xs' e' = xRec xs e') : virtNode xs' nd = virtNode xs nd := by
  rcases nd with ⟨k⟩
  cases k <;> try rfl
  rename_i e'
  have := h e' rfl
  simp only [virtNode, virtKind, forced, this]
  try rfl

/-- the state in which the closure of expert node `n` has run and logged its invocation -/
def ranState (env : Env) (n e : Nat) (s : State) (er : ExpertRec) : State :=
  logged [.inv s!"x{er.f}" n [] (Xp.expertResult env s (Xp.readyRec env s er)).render] (Xp.readyState env n e s er)

theorem ranState_nodes (env : Env) (n e : Nat) (s : State) (er : ExpertRec) :
    (ranState env n e s er).nodes = (started n s).nodes := rfl

theorem ranState_nodeD (env : Env) (n e : Nat) (s : State) (er : ExpertRec) (m : Nat) :
    (ranState env n e s er).nodeD m = (started n s).nodeD m := rfl

theorem ranState_experts (env : Env) (n e : Nat) (s : State) (er : ExpertRec) :
    (ranState env n e s er).experts = s.experts.setIfInBounds e (Xp.readyRec env s er) := rfl

theorem ranState_get (env : Env) (n e : Nat) {s : State} {er : ExpertRec} (h : s.experts[e]? = some er) :
    (ranState env n e s er).experts[e]? = some (Xp.readyRec env s er) := by
  rw [ranState_experts]; exact Xp.getElem?_set_self _ _ _ _ h

theorem ranState_get_ne (env : Env) (n e : Nat) (s : State) (er : ExpertRec) {e' : Nat} (h : e' ≠ e) :
    (ranState env n e s er).experts[e']? = s.experts[e']? := by
  rw [ranState_experts]; simp [Ne.symm h]

theorem ranState_fr {env : Env} {n e : Nat} {s : State} {er : ExpertRec} (hF : Fr s)
    (he : s.experts[e]? = some er) : Fr (ranState env n e s er) := by
  obtain ⟨_, _, _, _, _, _, _, f8, _⟩ := Xp.readyRec_fields env s er
  refine ⟨hF.pc, fun m => ?_, hF.pinv, fun m => ?_, fun e' er' h' => ?_⟩
  · rw [ranState_nodeD, started_nodeD]; split <;> exact hF.valid m
  · rw [ranState_nodeD, started_nodeD]; split <;> exact hF.kind m
  · by_cases h : e' = e
    · subst h
      rw [ranState_get env n _ he] at h'; cases h'
      rw [f8]; exact hF.ni _ _ he
    · rw [ranState_get_ne env n e s er h] at h'; exact hF.ni _ _ h'

/-- the virtual node `n` after the closure ran -/
theorem ranState_virt_self {env : Env} {n e : Nat} {s : State} {er : ExpertRec} (hlt : n < s.nodes.size)
    (hk : (s.nodeD n).kind = .expert e) (he : s.experts[e]? = some er) :
    (virt (ranState env n e s er)).nodeD n =
      { virtNode s.experts (s.nodeD n) with recomputedAt := s.stabNum } := by
  obtain ⟨f1, _, f3, _, _, _, f7, _, _⟩ := Xp.readyRec_fields env s er
  rw [virt_nodeD, ranState_nodeD, started_nodeD, if_pos ⟨rfl, hlt⟩]
  have hr := xRec_some (ranState_get env n e he)
  have hr0 := xRec_some he
  generalize s.nodeD n = nd at hk ⊢
  rcases nd with ⟨k⟩
  simp only at hk
  subst hk
  simp only [virtNode, virtKind, forced, hr, hr0, f1, f3, f7]
  rfl

theorem ranState_virt_other {env : Env} {n e : Nat} {s : State} {er : ExpertRec} (F : XFrag env s)
    (hk : (s.nodeD n).kind = .expert e) {m : Nat} (hm : m ≠ n) :
    (virt (ranState env n e s er)).nodeD m = (virt s).nodeD m := by
  rw [virt_nodeD, virt_nodeD, ranState_nodeD, started_nodeD, if_neg (fun h => hm h.1.symm)]
  apply virtNode_congr
  intro e' hk'
  have hne : e' ≠ e := by
    intro h; subst h; exact hm (F.xinj hk' hk)
  unfold xRec
  rw [ranState_get_ne env n e s er hne]

theorem ranState_upd {env : Env} {n e : Nat} {s : State} {er : ExpertRec} (F : XFrag env s) (hlt : n < s.nodes.size)
    (hk : (s.nodeD n).kind = .expert e) (he : s.experts[e]? = some er) :
    Upd n (virt s) (virt (ranState env n e s er)) := by
  have hself := ranState_virt_self (env := env) hlt hk he
  refine ⟨?_, rfl, rfl, F.pc, rfl, fun m hm => ranState_virt_other F hk hm, ?_, ?_⟩
  · rw [virt_size, virt_size, ranState_nodes]; simp [started]
  · rw [hself, virt_nodeD]; exact ⟨rfl, rfl, rfl, rfl, rfl, rfl, rfl, rfl⟩
  · rw [hself, virt_nodeD]

theorem cbEvents_filter (env : Env) (s : State) (node : Nat) (edges : List ExpertEdge) :
    ∀ acc : List Event, (Xp.cbEvents env s node edges acc).filter keepEv = acc.filter keepEv := by
  induction edges with
  | nil => intro acc; rfl
  | cons a rest ih =>
    intro acc
    show (Xp.cbEvents env s node rest (Xp.cbEvent env s node a ++ acc)).filter keepEv = _
    rw [ih, List.filter_append]
    have : (Xp.cbEvent env s node a).filter keepEv = [] := by
      unfold Xp.cbEvent
      split
      · simp [keepEv, isF_cb]
      · rfl
    rw [this]; rfl

/-- the events of the closure run are invisible in the virtual log -/
theorem ranState_log (env : Env) (n e : Nat) (s : State) (er : ExpertRec) :
    (ranState env n e s er).log.filter keepEv = s.log.filter keepEv := by
  show (_ :: ((if er.willFireAllCallbacks = true then Xp.cbEvents env s er.node er.children [] else []) ++ s.log)).filter
    keepEv = _
  have h1 : keepEv (.inv s!"x{er.f}" n [] (Xp.expertResult env s (Xp.readyRec env s er)).render) = false := isF_x _
  rw [List.filter_cons_of_neg (by rw [h1]; simp), List.filter_append]
  cases er.willFireAllCallbacks
  · rfl
  · rw [if_pos rfl, cbEvents_filter]; rfl

/-- what the closure returns is the target value of the virtual fold node -/
theorem expert_target {env : Env} {n e : Nat} {s : State} {er : ExpertRec} (F : XFrag env s)
    (hk : (s.nodeD n).kind = .expert e) (he : s.experts[e]? = some er) {vals : List Val}
    (hv : plainVals (virt s) (kids ((virt s).nodeD n).kind) = some vals) :
    Xp.expertResult env s (Xp.readyRec env s er) = vals.foldl (xStep er.f) (.int 0) ∧
      Target (virtEnv env) (virt s) n (vals.foldl (xStep er.f) (.int 0)) := by
  obtain ⟨f1, _, f3, _, _, _, _, _, _⟩ := Xp.readyRec_fields env s er
  rw [virt_kids, hk] at hv
  simp only [kidsX, xRec_some he] at hv
  constructor
  · have hv2 : evalArgs (s.value env) (er.children.map (·.child)) = some vals := by
      rw [← hv]
      unfold plainVals
      apply evalArgs_congr
      intro a _
      rw [value_plain env s a (F.noMapRef a), virt_nodeD, virtNode_value]
    have hm := evalArgs_map hv2
    have hd : Xp.depValsOf env s (Xp.readyRec env s er) = vals.map some := by
      unfold Xp.depValsOf
      rw [f3, ← hm, List.map_map]
      rfl
    unfold Xp.expertResult
    rw [hd, f1]
    exact (F.xok e er he).2.2.1 vals _
  · unfold Target
    rw [virt_nodeD, virtNode_kind, hk]
    simp only [virtKind, xRec_some he]
    exact ⟨vals, hv, by rw [virtEnv_foldStep_x]⟩

/-- **A returning `recomputeOne` of an expert node is `maybeChangeValue` from the state `ranState` in which the closure has run**, in the
actual state and (by the simulation) in the virtual one; `vals`: the values of the dependencies, `v` what the closure returns. -/
theorem recomputeOne_expert_ran {env : Env} {s s' : State} {fuel n e : Nat} {r : Option Nat} {vals : List Val} (F : XFrag env s)
    (hp : s.propagateInvalidity = []) (hlt : n < s.nodes.size) (hk : (s.nodeD n).kind = .expert e)
    (hvals : plainVals (virt s) (kids ((virt s).nodeD n).kind) = some vals)
    (h : (recomputeOne env fuel n).run.run s = (.ok r, s')) :
    ∃ (er : ExpertRec) (v : Val), s.experts[e]? = some er ∧ Target (virtEnv env) (virt s) n v ∧
      (maybeChangeValue env fuel n v).run.run (ranState env n e s er) = (.ok r, s') ∧
      (maybeChangeValue (virtEnv env) fuel n v).run.run (virt (ranState env n e s er)) = (.ok r, virt s') ∧
      Fr (ranState env n e s er) ∧ Fr s' := by
  obtain ⟨er, he, hnode⟩ := F.xrec n e hlt hk
  obtain ⟨hpk, hni, hok, _⟩ := F.xok e er he
  have hx : Xp.IsExpert s n (s.nodeD n) e er := ⟨some_of_lt hlt, F.valid n hlt, hk, he⟩
  rw [Xp.recomputeOne_expert_run env fuel n hx hpk F.pc (by omega)] at h
  obtain ⟨hv0, htarget⟩ := expert_target F hk he hvals
  rw [hv0] at h
  have hT : logged [.inv s!"x{er.f}" n [] (List.foldl (xStep er.f) (.int 0) vals).render] (Xp.readyState env n e s er) =
      ranState env n e s er := by
    unfold ranState; rw [hv0]
  rw [hT] at h
  have hFr : Fr (ranState env n e s er) := ranState_fr (F.fr hp) he
  obtain ⟨hvirt, hFr'⟩ := Sim.maybeChangeValue env fuel n _ (ranState env n e s er) hFr r s' h
  exact ⟨er, _, he, htarget, h, hvirt, hFr, hFr'⟩

/-- the recompute of an expert node is a step of the virtual static node -/
theorem step_expert_ran {env : Env} {s s' : State} {fuel n e : Nat} {r : Option Nat} (F : XFrag env s)
    (I : Inv (virtEnv env) (virt s) (some n)) (hp : s.propagateInvalidity = [])
    (hk : (s.nodeD n).kind = .expert e)
    (h : (recomputeOne env fuel n).run.run s = (.ok r, s')) :
    ∃ (v : Val) (ch : Bool) (er : ExpertRec),
      Target (virtEnv env) (virt s) n v ∧ StepRel n v ch r (virt s) (virt s') ∧ Fr s' ∧
      s.experts[e]? = some er ∧
      (maybeChangeValue env fuel n v).run.run (ranState env n e s er) = (.ok r, s') ∧
      (maybeChangeValue (virtEnv env) fuel n v).run.run (virt (ranState env n e s er)) = (.ok r, virt s') ∧
      Fr (ranState env n e s er) := by
  have hnec : (virt s).isNecessary n = true := (I.cur n rfl).1
  have hlt : n < s.nodes.size := by rw [← virt_size]; exact (I.graph.nec n hnec).1
  obtain ⟨vals, hvals⟩ := I.kids_values
  obtain ⟨er, v, he, htarget, h, hvirt, hFr, hFr'⟩ := recomputeOne_expert_ran F hp hlt hk hvals h
  have hself := ranState_virt_self (env := env) hlt hk he
  obtain ⟨ch, hS⟩ := mcv_static I.graph I.heap hnec (ranState_upd F hlt hk he) (by rw [hself, virt_nodeD])
    (by rw [hself]; rfl) (by rw [hself, virt_nodeD]) hvirt
  exact ⟨v, ch, er, htarget, hS, hFr', he, h, hvirt, hFr⟩

theorem step_expert_node {env : Env} {s s' : State} {fuel n e : Nat} {r : Option Nat} (F : XFrag env s)
    (I : Inv (virtEnv env) (virt s) (some n)) (hp : s.propagateInvalidity = [])
    (hk : (s.nodeD n).kind = .expert e)
    (h : (recomputeOne env fuel n).run.run s = (.ok r, s')) :
    ∃ (v : Val) (ch : Bool) (T : State) (er : ExpertRec),
      Target (virtEnv env) (virt s) n v ∧ StepRel n v ch r (virt s) (virt s') ∧ Fr s' ∧
      s.experts[e]? = some er ∧
      (maybeChangeValue env fuel n v).run.run T = (.ok r, s') ∧
      (maybeChangeValue (virtEnv env) fuel n v).run.run (virt T) = (.ok r, virt s') ∧
      Upd n (virt s) (virt T) ∧ Fr T ∧
      T.nodes = (started n s).nodes ∧ T.vars = s.vars ∧ T.rch = s.rch ∧ T.ahh = s.ahh ∧ T.observers = s.observers ∧
      T.nextDep = s.nextDep ∧ T.experts.size = s.experts.size ∧
      (∀ e', e' ≠ e → T.experts[e']? = s.experts[e']?) ∧
      (∃ er', T.experts[e]? = some er' ∧ er'.f = er.f ∧ er'.node = er.node ∧ er'.children = er.children ∧
        er'.pk = er.pk ∧ er'.forceStale = false ∧ er'.numInvalidChildren = er.numInvalidChildren ∧
        er'.willFireAllCallbacks = false) ∧
      T.stabNum = s.stabNum ∧ T.status = s.status ∧ T.propagateInvalidity = [] ∧ T.binds = s.binds ∧
      T.top = s.top ∧ T.cfg = s.cfg ∧ T.panicCountdown = none ∧ T.handleAfterStab = s.handleAfterStab ∧
      T.log.filter keepEv = s.log.filter keepEv := by
  obtain ⟨v, ch, er, ht, hS, hFr', he, h, hvirt, hFr⟩ := step_expert_ran F I hp hk h
  have hnec : (virt s).isNecessary n = true := (I.cur n rfl).1
  have hlt : n < s.nodes.size := by rw [← virt_size]; exact (I.graph.nec n hnec).1
  obtain ⟨f1, f2, f3, _, _, f6, f7, f8, f9⟩ := Xp.readyRec_fields env s er
  refine ⟨v, ch, ranState env n e s er, er, ht, hS, hFr', he, h, hvirt, ranState_upd F hlt hk he, hFr, rfl, rfl, rfl, rfl, rfl,
    rfl, ?_, fun e' he' => ranState_get_ne env n e s er he', ⟨_, ranState_get env n e he, f1, f2, f3, f6, f7, f8, f9⟩,
    rfl, rfl, hp, rfl, rfl, rfl, F.pc, rfl, ranState_log env n e s er⟩
  rw [ranState_experts]; simp

end IncrVerif.Proofs.ExpertH
