import IncrVerif.Proofs.TidyH18
/-!
# T3a part 2: `run_all` and `stabilise_end` return (effect-free update handlers)
-/
namespace IncrVerif.Proofs.TidyH.SubsT
open IncrVerif.Engine IncrVerif.Driver IncrVerif.Proofs IncrVerif.Proofs.Step IncrVerif.Proofs.Sched
open IncrVerif.Proofs.Quiet

/-- what the "no panic" argument needs to know about the state while the update handlers run: the nodes and
the fault-injection counter are untouched, the observer records keep their state -/
structure RA (t t' : State) : Prop where
  nodes : t'.nodes = t.nodes
  pc : t'.panicCountdown = t.panicCountdown
  obs : ∀ (o : Nat) (ob : ObsRec), t.observers[o]? = some ob →
    ∃ ob', t'.observers[o]? = some ob' ∧ ob'.state = ob.state

theorem RA.refl (t : State) : RA t t := ⟨rfl, rfl, fun _ ob h => ⟨ob, h, rfl⟩⟩

theorem RA.trans {a b c : State} (h1 : RA a b) (h2 : RA b c) : RA a c := by
  refine ⟨h2.nodes.trans h1.nodes, h2.pc.trans h1.pc, fun o ob h => ?_⟩
  obtain ⟨ob1, e1, s1⟩ := h1.obs o ob h
  obtain ⟨ob2, e2, s2⟩ := h2.obs o ob1 e1
  exact ⟨ob2, e2, s2.trans s1⟩

theorem RA.value {env : Env} {t t' : State} (h : RA t t') (n : Nat) : t'.value env n = t.value env n :=
  Obs.value_congr_nodes env h.nodes n

/-- changing the handler list of one observer -/
theorem RA.modHandlers (t : State) (o : Nat) (g : List HandlerRec → List HandlerRec) :
    RA t { t with observers := t.observers.modify o fun x => { x with handlers := g x.handlers } } := by
  refine ⟨rfl, rfl, fun o' ob h => ?_⟩
  show ∃ ob', (t.observers.modify o _)[o']? = some ob' ∧ _
  rw [Array.getElem?_modify]
  by_cases e : o = o'
  · rw [if_pos e, h]; exact ⟨_, rfl, rfl⟩
  · rw [if_neg e]; exact ⟨ob, h, rfl⟩

/-- **`run_all` returns**: effect-free handlers, the observer is in use or disallowed, the node reports
`changed` or `necessary` and has a value, no fault injection armed -/
theorem runAll_total {env : Env} {fuel o n : Nat} {nu : NodeUpdate} {now : Int} {s : State} {ob : ObsRec}
    (heff : SubsH.PureHandlers env) (hpc : s.panicCountdown = none)
    (hob : s.observers[o]? = some ob) (hst : ob.state = .inUse ∨ ob.state = .disallowed)
    (hnu : nu = .changed ∨ nu = .necessary) (hv : (s.value env n).isSome = true) :
    Tot (runAll env fuel o n nu now) s (fun _ s' => RA s s') := by
  unfold runAll
  refine P23.Tot.bind_getObs hob ?_
  dsimp only
  refine Tot.bind (P23.forIn_tot' _ ob.handlers (fun _ (_ : PUnit) t => RA s t) ?_ _ _ (RA.refl s))
    (fun _ _ _ h => Tot.pure h)
  intro j a b t hj Rt
  obtain ⟨obt, hobt, hstt⟩ := Rt.obs o ob hob
  obtain ⟨v, hvs⟩ := Option.isSome_iff_exists.1 hv
  have hvt : t.value env n = some v := (Rt.value n).trans hvs
  have hpct : t.panicCountdown = none := Rt.pc.trans hpc
  refine P23.Tot.bind_getObs hobt ?_
  rcases hst with hst | hst
  · rw [hstt, hst]
    dsimp only
    split
    · rcases SubsH.P8.handlerStep_cases (p := a.prev) hnu with hd | hd | hd
      · rw [hd]
        exact Tot.pure ⟨_, rfl, Rt⟩
      · rw [hd]
        dsimp only
        refine P23.Tot.bind_modObs ?_
        have R1 := RA.modHandlers t o (fun l => l.map fun h' =>
          if h'.token == a.token then { h' with prev := NodeUpdate.changed.toPrev } else h')
        have hv1 := (R1.value (env := env) n).trans hvt
        have hpc1 := R1.pc.trans hpct
        refine Tot.bind_ok (SubsH.P8.run_valueUnwrap hv1) ?_
        simp only [pure_bind]
        refine Tot.bind_ok (run_tick_none _ hpc1) ?_
        rw [heff]
        refine Tot.bind_ok (run_logEv _ _) ?_
        refine Tot.bind_ok (SubsH.P8.run_runEffects_nil ..) ?_
        exact Tot.pure ⟨_, rfl, Rt.trans ⟨R1.nodes, R1.pc, R1.obs⟩⟩
      · rw [hd]
        dsimp only
        refine P23.Tot.bind_modObs ?_
        have R1 := RA.modHandlers t o (fun l => l.map fun h' =>
          if h'.token == a.token then { h' with prev := NodeUpdate.necessary.toPrev } else h')
        have hv1 := (R1.value (env := env) n).trans hvt
        have hpc1 := R1.pc.trans hpct
        refine Tot.bind_ok (SubsH.P8.run_valueUnwrap hv1) ?_
        simp only [pure_bind]
        refine Tot.bind_ok (run_tick_none _ hpc1) ?_
        rw [heff]
        refine Tot.bind_ok (run_logEv _ _) ?_
        refine Tot.bind_ok (SubsH.P8.run_runEffects_nil ..) ?_
        exact Tot.pure ⟨_, rfl, Rt.trans ⟨R1.nodes, R1.pc, R1.obs⟩⟩
    · exact Tot.pure ⟨_, rfl, Rt⟩
  · rw [hstt, hst]
    dsimp only
    exact Tot.pure ⟨_, rfl, Rt⟩

/-- the third loop of `stabiliseEnd` (stated for any body that behaves like it), with the queue it builds -/
theorem loop3 {env : Env} {s : State}
    (f : Nat → List (Nat × NodeUpdate) → M (ForInStep (List (Nat × NodeUpdate))))
    (hf : ∀ n q t, (f n q).run.run t = (.ok (.yield (q ++ [(n, State.nodeUpdate env
        { t with nodes := t.nodes.modify n fun x => { x with inHandleAfterStab := false } } n)])),
      { t with nodes := t.nodes.modify n fun x => { x with inHandleAfterStab := false } }))
    (hs : List Nat) (hhs : ∀ n, n ∈ hs → n < s.nodes.size) :
    ∀ q t, Mid s t → (∀ p, p ∈ q → p.1 < s.nodes.size ∧ p.2 = SubsH.nuAt env s p.1) →
      ∃ q' t', (forIn hs q f).run.run t = (.ok q', t') ∧ Mid s t' ∧
        (∀ p, p ∈ q' → p.1 < s.nodes.size ∧ p.2 = SubsH.nuAt env s p.1) := by
  induction hs with
  | nil => intro q t M hq; exact ⟨q, t, by rw [List.forIn_nil, run_pure], M, hq⟩
  | cons a l ih =>
    intro q t M hq
    have h1 := hf a q t
    have M1 := M.modNode a false
    have hnu := SubsH.P8.nodeUpdate_congr (env := env) M1.size M1.node M1.stabNum a
    have hq' : ∀ p, p ∈ q ++ [(a, State.nodeUpdate env
        { t with nodes := t.nodes.modify a fun x => { x with inHandleAfterStab := false } } a)] →
        p.1 < s.nodes.size ∧ p.2 = SubsH.nuAt env s p.1 := by
      intro p hp
      simp only [List.mem_append, List.mem_singleton] at hp
      rcases hp with hp | hp
      · exact hq p hp
      · rw [hp]; exact ⟨hhs a (List.mem_cons_self ..), hnu⟩
    obtain ⟨q2, t2, h2, M2, hq2⟩ := ih (fun n hn => hhs n (List.mem_cons_of_mem _ hn)) _ _ M1 hq'
    exact ⟨q2, t2, by rw [List.forIn_cons, run_bind_ok h1]; exact h2, M2, hq2⟩

/-- **`stabilise_end` returns** with effect-free update handlers.  `s` is the state after the drain: nothing
deferred, no observer waiting to be added or unlinked, every queued node exists, every necessary node is valid
and has a value, no fault injection armed. -/
theorem stabiliseEnd_total {env : Env} {fuel : Nat} {s : State} (heff : SubsH.PureHandlers env)
    (hpc : s.panicCountdown = none) (h1 : s.setDuringStab = []) (h2 : s.deadVars = [])
    (O : SubsH.ObsInv s [] []) (hhs : HasRange s)
    (hval : ∀ n, s.isNecessary n = true → (s.nodeD n).valid = true ∧ (s.value env n).isSome = true) :
    Tot (stabiliseEnd env fuel) s (fun _ _ => True) := by
  unfold stabiliseEnd
  refine Tot.bind_modify ?_
  refine Tot.bind_get ?_
  dsimp only
  refine Tot.bind_modify ?_
  rw [h1, List.forIn_nil]
  refine Tot.bind_ok (run_pure _ _) ?_
  refine Tot.bind_get ?_
  dsimp only
  refine Tot.bind_modify ?_
  rw [h2, List.forIn_nil]
  refine Tot.bind_ok (run_pure _ _) ?_
  refine Tot.bind_get ?_
  dsimp only
  refine Tot.bind_modify ?_
  refine Tot.bind (Q := fun q t => Mid s t ∧ ∀ p, p ∈ q → p.1 < s.nodes.size ∧ p.2 = SubsH.nuAt env s p.1) ?_ ?_
  · refine loop3 (env := env) (s := s) _ ?_ s.handleAfterStab hhs [] _ ?_ ?_
    · intro n q t
      rw [run_bind_modNode, run_bind_get, run_pure]
    · exact ⟨rfl, fun m => ⟨_, rfl⟩, rfl, rfl, rfl, rfl, rfl, rfl, rfl, rfl, rfl, rfl, rfl, rfl, rfl, rfl, rfl,
        rfl, rfl, rfl⟩
    · intro p hp; cases hp
  intro q t _ ⟨M, hq⟩
  refine Tot.bind_modify ?_
  refine Tot.bind_get ?_
  -- the state in which the handlers start to run
  obtain ⟨t8, ht8⟩ : ∃ t8 : State, t8 = { t with status := .runningOnUpdateHandlers } := ⟨_, rfl⟩
  rw [← ht8]
  have hnodes8 : t8.nodes = t.nodes := by rw [ht8]
  have hobs8 : t8.observers = s.observers := by rw [ht8]; exact M.observers
  have hpc8 : t8.panicCountdown = none := by rw [ht8]; exact M.pc.trans hpc
  have hnd8 : ∀ m, t8.nodeD m = t.nodeD m := fun m => by simp only [State.nodeD, hnodes8]
  have hv8 : ∀ n, t8.value env n = s.value env n := by
    intro n
    refine Step.value_congr env s t8 (by rw [hnodes8, M.size]) (fun m => ?_) n
    obtain ⟨b, hb⟩ := M.node m
    rw [hnd8, hb]; rfl
  refine Tot.bind (Q := fun _ tc => RA t8 tc) ?_ ?_
  · refine P23.forIn_tot' _ q (fun _ (_ : PUnit) tc => RA t8 tc) ?_ _ _ (RA.refl t8)
    intro j x b tc hj Rc
    obtain ⟨hxlt, hxnu⟩ := hq x (List.mem_of_getElem? hj)
    have hndc : ∀ m, tc.nodeD m = t.nodeD m := fun m => by simp only [State.nodeD, Rc.nodes, hnodes8]
    have hlt : x.1 < tc.nodes.size := by rw [Rc.nodes, hnodes8, M.size]; exact hxlt
    refine Tot.bind_getNode hlt ?_
    have hobsl : (tc.nodeD x.1).observers = (s.nodeD x.1).observers := by
      obtain ⟨bb, hbb⟩ := M.node x.1
      rw [hndc, hbb]
    rw [hobsl]
    refine Tot.bind (Q := fun _ td => RA t8 td) ?_ (fun _ td _ Rd => Tot.pure ⟨_, rfl, Rd⟩)
    refine P23.forIn_tot' _ (s.nodeD x.1).observers (fun _ (_ : PUnit) td => RA t8 td) ?_ _ _ Rc
    intro k o b2 td hk Rd
    have ho : o ∈ (s.nodeD x.1).observers := List.mem_of_getElem? hk
    obtain ⟨ob, hob, -, hst⟩ := (O.mem x.1 o).1 ho
    have hnec : s.isNecessary x.1 = true :=
      (isNecessary_iff s x.1).2 (Or.inr (Or.inl (List.ne_nil_of_mem ho)))
    obtain ⟨hvalid, hsome⟩ := hval x.1 hnec
    obtain ⟨obd, hobd, hstd⟩ := Rd.obs o ob (by rw [hobs8]; exact hob)
    have T := runAll_total (env := env) (fuel := fuel) (o := o) (n := x.1) (nu := x.2) (now := t8.stabNum)
      (s := td) heff (Rd.pc.trans hpc8) hobd (by rw [hstd]; exact hst)
      (by rw [hxnu]; exact SubsH.P8.nuAt_cases hvalid hnec)
      (by rw [Rd.value, hv8]; exact hsome)
    refine Tot.bind T (fun _ te _ Re => Tot.pure ⟨_, rfl, Rd.trans Re⟩)
  intro _ t9 _ _
  refine Tot.bind_modify ?_
  exact ⟨(), _, run_modify _ _, trivial⟩

end IncrVerif.Proofs.TidyH.SubsT
