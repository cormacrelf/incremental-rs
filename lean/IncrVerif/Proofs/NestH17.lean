import IncrVerif.Proofs.NestH6
import IncrVerif.Proofs.NestH82
import IncrVerif.Proofs.Corr
/-!
# Nested binds (F2), `adjustHeights`, part 1: the loop keeps `AInvR`, and returns

`BindH58` (`AInvR` and its elementary steps, `ehr_step`) is generic in the rank `rk` and the relation `E` of height pairs; `SP`, `HP` are
those of `BindH59`.  With nesting the records of dead inner binds stay in the table and their change detectors are invalid: `LoopHyp2` asks for validity
only for records that still have a registered node (`All2.gen` + `All2.scopeValid`); the kind of the change detector is known for every record (`All2.recs`).

The rank argument: every height pair (recorded edge, or scope pair change detector → necessary registered node of its scope) goes UP in rank
(`up`), so the nodes put into the adjust-heights heap have rank ≥ the rank of the first raised node `B`, nodes of smaller rank are untouched.  With nesting a
registered node `r` of the popped change detector `c = lc_b` may itself be an inner change detector `lc_b2`: `ensureHeightRequirement c r` raises it and puts
it into the heap (a scope pair `(lc_b, lc_b2)` of `HP`); when IT is popped, its own scope pairs `(lc_b2, r')` are "still to be looked at" (`X`) and the second
loop runs over the registered nodes of `b2`.  Nothing in the invariant `AInvR` distinguishes the two cases.

That the loop returns needs `LoopHypT` and the invariant `TI` (`NestH82`) besides; FUEL: every node is popped at most once, `mu s0 dn` = the number of nodes
not yet popped, the loop needs `mu s0 dn < fuel`, i.e. `s.nodes.size + 1 ≤ fuel` initially.
-/
namespace IncrVerif.Proofs.NestH
open IncrVerif.Engine IncrVerif.Proofs IncrVerif.Proofs.Step IncrVerif.Proofs.Sched IncrVerif.Proofs.Quiet
open IncrVerif.Proofs.BindH

namespace NA
open BA CA TA

/-- the static facts about `s0` the loop needs (F2): height pairs go up in rank; change detectors know their bind; the change detector of a bind that
has a registered node is valid -/
structure LoopHyp2 (rk : Nat → Nat) (s0 : State) : Prop where
  up : ∀ x q, HP s0 x q → rk x < rk q
  lcKind : ∀ b br, s0.binds[b]? = some br → (s0.nodeD br.lhsChange).kind = .bindLhsChange b
  lcValid : ∀ (b : Nat) (br : BindRec) (r : Nat), s0.binds[b]? = some br → r ∈ br.allNodesCreatedOnRhs → (s0.nodeD br.lhsChange).valid = true
  lcRec : ∀ n b br, n < s0.nodes.size → (s0.nodeD n).kind = .bindLhsChange b → s0.binds[b]? = some br →
    br.lhsChange = n

variable {rk : Nat → Nat} {N : Nat}

/-- the kind of a change detector, in any later state -/
theorem LoopHyp2.kind? {s0 t : State} (H : LoopHyp2 rk s0) (R : HRel s0 t) {b r : Nat} {br : BindRec}
    (hb : s0.binds[b]? = some br) (hr : r ∈ br.allNodesCreatedOnRhs) :
    (t.nodeD br.lhsChange).kind? = some (.bindLhsChange b) := by
  have h1 := H.lcValid b br r hb hr
  have h2 := H.lcKind b br hb
  unfold Node.kind?
  rw [R.valid, R.kind, h1, h2]
  rfl

/-- the static facts about `s0` that the loop needs to return (besides `LoopHyp2`); `oc`: the original child, `B`: the node raised first -/
structure LoopHypT (rk : Nat → Nat) (oc B : Nat) (s0 : State) : Prop where
  pnec : ∀ c p, HP s0 c p → s0.isNecessary p = true
  pin : ∀ c p, HP s0 c p → p < s0.nodes.size
  pos0 : ∀ m, s0.isNecessary m = true → 0 ≤ (s0.nodeD m).height
  /-- every height pair whose lower node is not the original child is fine in `s0` -/
  fine0 : ∀ c p, HP s0 c p → c ≠ oc → (s0.nodeD c).height < (s0.nodeD p).height
  lcEx : ∀ n b, n < s0.nodes.size → (s0.nodeD n).valid = true → (s0.nodeD n).kind = .bindLhsChange b →
    ∃ br, s0.binds[b]? = some br
  rkoc : rk oc < rk B

/-- the number of nodes not yet popped -/
def mu (s0 : State) (dn : List Nat) : Nat := (List.range s0.nodes.size).countP fun m => decide (m ∉ dn)

theorem mu_nil (s0 : State) : mu s0 [] = s0.nodes.size := by
  unfold mu
  simp

theorem mu_cons_lt {s0 : State} {dn : List Nat} {n : Nat} (hn : n < s0.nodes.size) (hd : n ∉ dn) :
    mu s0 (n :: dn) < mu s0 dn := by
  unfold mu
  apply countP_lt_of_imp _ _ _ _ n (List.mem_range.2 hn)
  · exact decide_eq_true hd
  · exact decide_eq_false (fun h => h (List.mem_cons_self ..))
  · intro m _ hm
    have := of_decide_eq_true hm
    exact decide_eq_true (fun h => this (List.mem_cons_of_mem _ h))

theorem run_getBind_some {b : Nat} {s : State} {br : BindRec} (h : s.binds[b]? = some br) :
    (getBind b).run.run s = (.ok br, s) := by
  unfold getBind
  rw [run_bind_get, h]
  rfl

/-- what the two inner loops need to return while the popped node `c` is looked at: `TI`, `c` was necessary, the lower bound is `c`'s old height -/
def TP (rk : Nat → Nat) (N oc B : Nat) (s0 : State) (c : Nat) (dn : List Nat) (lb : Int) (u : State) : Prop :=
  LoopHypT rk oc B s0 ∧ TI rk N s0 u dn noZ ∧ s0.isNecessary c = true ∧ lb ≤ (s0.nodeD c).height

/-- `ensureHeightRequirement c p` for a height pair `(c, p)` of the popped node `c` -/
theorem ehr_loop_corr {B : Nat} {s0 u : State} {dn : List Nat} {X : Nat → Nat → Prop} {oc op c p : Nat}
    (H : LoopHyp2 rk s0) (A : AInvR rk (HP s0) B s0 u X noY) (hX : ∀ x q, X x q → x = c)
    (hm0 : HP s0 c p) (hB : rk B ≤ rk c) (hlbp : u.ahh.lowerBound ≤ (u.nodeD p).height) :
    Corr (ensureHeightRequirement oc op c p) u (TP rk N oc B s0 c dn u.ahh.lowerBound u)
      (fun _ u' => AInvR rk (HP s0) B s0 u' (fun x q => X x q ∧ q ≠ p) noY ∧ HRel u u' ∧
        u'.ahh.lowerBound = u.ahh.lowerBound ∧
        (TP rk N oc B s0 c dn u.ahh.lowerBound u → TI rk N s0 u' dn noZ)) := by
  have hrk := H.up c p hm0
  have hcp : c ≠ p := fun e => by rw [← e] at hrk; omega
  have hT : TP rk N oc B s0 c dn u.ahh.lowerBound u → c < s0.nodes.size ∧ p < s0.nodes.size ∧ p ≠ oc ∧
      s0.isNecessary p = true ∧ (u.nodeD c).height ≤ (cnt rk s0.nodes.size c : Int) + 1 ∧ p ∉ dn := by
    intro ⟨HT, T, hcn, hlc⟩
    have hroc := HT.rkoc
    refine ⟨nec_lt_size hcn, HT.pin c p hm0, fun e => by rw [e] at hrk; omega, HT.pnec c p hm0,
      T.bound c hcn (fun h => h), fun hd => ?_⟩
    have h1 := (T.dnLow p hd).2
    have h2 := HT.fine0 c p hm0 (fun e => by rw [e] at hB; omega)
    omega
  refine ⟨fun hP => ?_, fun _ u' hrun => ?_⟩
  · obtain ⟨hc0, hp0, hpo, hnp0, hcb, -⟩ := hT hP
    obtain ⟨HT, T, hcn, -⟩ := hP
    have hmax : (u.nodeD c).height + 1 ≤ u.ahh.maxAllowed := by
      have h1 := cnt_lt_cnt (rk := rk) hc0 hrk
      have h2 := cnt_lt_size (rk := rk) hp0
      have h3 := T.room.size
      have h4 := T.room.ahh
      have h5 := A.rel.size
      omega
    have h0 : 0 ≤ (u.nodeD p).height := by
      have := HT.pos0 p hnp0
      have := A.rel.height p
      omega
    obtain ⟨u', hrun⟩ := ehr_tot (oc := oc) (op := op) (c := c) (p := p) (s := u) (by rw [A.rel.size]; exact hc0)
      (by rw [A.rel.size]; exact hp0) (by rw [A.rel.nec]; exact hcn) (by rw [A.rel.nec]; exact hnp0) hpo hlbp h0 hmax
    exact ⟨(), u', hrun⟩
  · obtain ⟨A', hr, hlb'⟩ := ehr_step hrun A hX hcp hlbp (by omega)
    refine ⟨A', hr, hlb', fun hP => ?_⟩
    obtain ⟨-, -, -, hnp0, hcb, hpd⟩ := hT hP
    exact (TI.ehr hrun A hP.2.1 hcb hrk hpd hnp0 (fun h => h.elim)).1.mono (fun m h => h.1)

/-- the loop over the parents of the popped node `c` -/
theorem parents_loop2 {B : Nat} {s0 s : State} {dn : List Nat} {oc op c : Nat} {nd : Node} (H : LoopHyp2 rk s0)
    (hndD : s.nodeD c = nd)
    {f : Nat × Nat → PUnit → M (ForInStep PUnit)}
    (hf : ∀ a u (P : Prop) (Q : Unit → State → Prop), Corr (ensureHeightRequirement oc op c a.1) u P Q →
      Corr (f a PUnit.unit) u P (fun r u' => ∃ b', r = .yield b' ∧ Q () u'))
    (A : AInvR rk (HP s0) B s0 s (fun x _ => x = c) noY)
    (hlb : ∀ q, HP s0 c q → s.ahh.lowerBound ≤ (s.nodeD q).height) (hB : rk B ≤ rk c) :
    Corr (forIn nd.parents PUnit.unit f) s (TP rk N oc B s0 c dn s.ahh.lowerBound s) (fun _ t =>
      AInvR rk (HP s0) B s0 t (fun x q => x = c ∧ SP s0 c q) noY ∧ t.ahh.lowerBound = s.ahh.lowerBound ∧
      (∀ m, (s.nodeD m).height ≤ (t.nodeD m).height) ∧
      (TP rk N oc B s0 c dn s.ahh.lowerBound s → TI rk N s0 t dn noZ)) := by
  refine (Corr.forIn f nd.parents
    (fun j (_ : PUnit) (t : State) =>
      AInvR rk (HP s0) B s0 t
        (fun x q => x = c ∧ ((∃ i k, j ≤ k ∧ nd.parents[k]? = some (q, i)) ∨ SP s0 c q)) noY ∧
        t.ahh.lowerBound = s.ahh.lowerBound ∧ (∀ m, (s.nodeD m).height ≤ (t.nodeD m).height) ∧
        (TP rk N oc B s0 c dn s.ahh.lowerBound s → TI rk N s0 t dn noZ))
    ?hstep nd.parents 0 PUnit.unit (by simp) (Nat.zero_le _) ?hinit).mono id ?hfin
  case hinit =>
    refine ⟨A.mono ?_ (fun _ hy => hy), rfl, fun _ => Int.le_refl _, fun hP => hP.2.1⟩
    intro x q hm hx
    refine ⟨hx, ?_⟩
    rw [hx] at hm
    rcases hm with ⟨i, hm⟩ | hm
    · left
      rw [← A.rel.parents, hndD] at hm
      obtain ⟨k, hk⟩ := List.mem_iff_getElem?.1 hm
      exact ⟨i, k, Nat.zero_le _, hk⟩
    · exact Or.inr hm
  case hfin =>
    rintro _ t ⟨At, h2, h3, Tt⟩
    refine ⟨At.mono ?_ (fun _ hy => hy), h2, h3, Tt⟩
    rintro x q - ⟨hx, hq⟩
    refine ⟨hx, ?_⟩
    rcases hq with ⟨i, k, hk, hkq⟩ | hq
    · rw [List.getElem?_eq_none hk] at hkq
      cases hkq
    · exact hq
  case hstep =>
    intro j a b t hj ⟨At, hlbt, hgrow, Tt⟩
    have hmem : (a.1, a.2) ∈ (s.nodeD c).parents := by
      rw [hndD]; exact List.mem_of_getElem? hj
    have hmem0 : HP s0 c a.1 := Or.inl ⟨a.2, by rw [← A.rel.parents]; exact hmem⟩
    have hP : TP rk N oc B s0 c dn s.ahh.lowerBound s → TP rk N oc B s0 c dn t.ahh.lowerBound t :=
      fun hP => ⟨hP.1, Tt hP, hP.2.2.1, by rw [hlbt]; exact hP.2.2.2⟩
    refine ((hf a t _ _ (ehr_loop_corr (N := N) (dn := dn) (oc := oc) (op := op) H At (fun x q hx => hx.1) hmem0 hB
      (by
        rw [hlbt]
        have := hlb a.1 hmem0
        have := hgrow a.1
        omega))).mono hP ?_)
    rintro r t' ⟨b', hr, At1, hr1, hlb1, Tt1⟩
    refine ⟨b', hr, At1.mono ?_ (fun _ hy => hy), by rw [hlb1, hlbt],
      fun m => Int.le_trans (hgrow m) (hr1.height m), fun h => Tt1 (hP h)⟩
    rintro x q - ⟨⟨hx, hq⟩, hqa⟩
    refine ⟨hx, ?_⟩
    rcases hq with ⟨i, k, hk, hkq⟩ | hq
    · left
      refine ⟨i, k, ?_, hkq⟩
      rcases Nat.lt_or_ge j k with hlt | hge
      · exact hlt
      · have : k = j := by omega
        rw [this, hj] at hkq
        cases hkq
        exact absurd rfl hqa
    · exact Or.inr hq

/-- the loop over the registered nodes of the scope of the popped change detector `c` -/
theorem scope_loop2 {B : Nat} {s0 s t : State} {dn : List Nat} {oc op c b : Nat} {br : BindRec} (H : LoopHyp2 rk s0)
    (hb : s0.binds[b]? = some br) (hc : br.lhsChange = c)
    {f : Nat → PUnit → M (ForInStep PUnit)}
    (hf1 : ∀ r u (P : Prop) (Q : Unit → State → Prop), u.isNecessary r = true →
      Corr (ensureHeightRequirement oc op c r) u P Q →
      Corr (f r PUnit.unit) u P (fun x u' => ∃ b', x = .yield b' ∧ Q () u'))
    (hf2 : ∀ r u, u.isNecessary r = false → (f r PUnit.unit).run.run u = (.ok (.yield PUnit.unit), u))
    (A : AInvR rk (HP s0) B s0 t (fun x q => x = c ∧ SP s0 c q) noY)
    (hlbt : t.ahh.lowerBound = s.ahh.lowerBound) (hgrow : ∀ m, (s.nodeD m).height ≤ (t.nodeD m).height)
    (hlb : ∀ q, HP s0 c q → s.ahh.lowerBound ≤ (s.nodeD q).height) (hB : rk B ≤ rk c) :
    Corr (forIn br.allNodesCreatedOnRhs PUnit.unit f) t (TP rk N oc B s0 c dn t.ahh.lowerBound t) (fun _ t' =>
      AInvR rk (HP s0) B s0 t' noXR noY ∧ (TP rk N oc B s0 c dn t.ahh.lowerBound t → TI rk N s0 t' dn noZ)) := by
  refine (Corr.forIn f br.allNodesCreatedOnRhs
    (fun j (_ : PUnit) (u : State) =>
      AInvR rk (HP s0) B s0 u
        (fun x q => x = c ∧ s0.isNecessary q = true ∧ ∃ k, j ≤ k ∧ br.allNodesCreatedOnRhs[k]? = some q) noY ∧
        u.ahh.lowerBound = s.ahh.lowerBound ∧ (∀ m, (s.nodeD m).height ≤ (u.nodeD m).height) ∧
        (TP rk N oc B s0 c dn t.ahh.lowerBound t → TI rk N s0 u dn noZ))
    ?hstep br.allNodesCreatedOnRhs 0 PUnit.unit (by simp) (Nat.zero_le _) ?hinit).mono id ?hfin
  case hinit =>
    refine ⟨A.mono ?_ (fun _ hy => hy), hlbt, hgrow, fun hP => hP.2.1⟩
    rintro x q - ⟨hx, b', br', hb', hc', hmem, hn⟩
    refine ⟨hx, hn, ?_⟩
    have e1 := H.lcKind b br hb
    have e2 := H.lcKind b' br' hb'
    rw [hc] at e1
    rw [hc', e1] at e2
    injection e2 with e2
    subst e2
    rw [hb] at hb'
    cases hb'
    obtain ⟨k, hk⟩ := List.mem_iff_getElem?.1 hmem
    exact ⟨k, Nat.zero_le _, hk⟩
  case hfin =>
    rintro _ t' ⟨At, -, -, Tt⟩
    refine ⟨At.mono ?_ (fun _ hy => hy), Tt⟩
    rintro x q - ⟨-, -, k, hk, hkq⟩
    rw [List.getElem?_eq_none hk] at hkq
    cases hkq
  case hstep =>
    intro j a _ u hj ⟨Au, hlbu, hgrowu, Tu⟩
    have hP : TP rk N oc B s0 c dn t.ahh.lowerBound t → TP rk N oc B s0 c dn u.ahh.lowerBound u :=
      fun hP => ⟨hP.1, Tu hP, hP.2.2.1, by rw [hlbu, ← hlbt]; exact hP.2.2.2⟩
    cases hn : u.isNecessary a with
    | true =>
      have hn0 : s0.isNecessary a = true := by rw [← Au.rel.nec]; exact hn
      have hmem0 : HP s0 c a := Or.inr ⟨b, br, hb, hc, List.mem_of_getElem? hj, hn0⟩
      refine ((hf1 a u _ _ hn (ehr_loop_corr (N := N) (dn := dn) (oc := oc) (op := op) H Au (fun x q hx => hx.1) hmem0 hB
        (by
          rw [hlbu]
          have := hlb a hmem0
          have := hgrowu a
          omega))).mono hP ?_)
      rintro r u' ⟨b', hr, Au1, hr1, hlb1, Tu1⟩
      refine ⟨b', hr, Au1.mono ?_ (fun _ hy => hy), by rw [hlb1, hlbu],
        fun m => Int.le_trans (hgrowu m) (hr1.height m), fun h => Tu1 (hP h)⟩
      rintro x q - ⟨⟨hx, hq, k, hk, hkq⟩, hqa⟩
      refine ⟨hx, hq, k, ?_, hkq⟩
      rcases Nat.lt_or_ge j k with hlt | hge
      · exact hlt
      · have : k = j := by omega
        rw [this, hj] at hkq
        cases hkq
        exact absurd rfl hqa
    | false =>
      refine Corr.of_ok (hf2 a u hn) ⟨_, rfl, Au.mono ?_ (fun _ hy => hy), hlbu, hgrowu, Tu⟩
      rintro x q - ⟨hx, hq, k, hk, hkq⟩
      refine ⟨hx, hq, k, ?_, hkq⟩
      rcases Nat.lt_or_ge j k with hlt | hge
      · exact hlt
      · have : k = j := by omega
        rw [this, hj] at hkq
        cases hkq
        rw [← Au.rel.nec, hn] at hq
        cases hq

/-- what the loop guarantees; it returns when every node still to be popped has its unit of fuel -/
def LoopCorr (rk : Nat → Nat) (N B : Nat) (s0 : State) (oc op fuel : Nat) : Prop :=
  ∀ s dn, AInvR rk (HP s0) B s0 s noXR noY →
    Corr (adjustHeightsLoop oc op fuel) s (LoopHypT rk oc B s0 ∧ TI rk N s0 s dn noZ ∧ mu s0 dn < fuel)
      (fun _ s' => AInvR rk (HP s0) B s0 s' noXR noY ∧ AhhEmpty s' ∧
        (LoopHypT rk oc B s0 ∧ TI rk N s0 s dn noZ ∧ mu s0 dn < fuel → ∃ dn', TI rk N s0 s' dn' noZ))

/-- the tail of one iteration of the loop, after the popped node has been re-bucketed -/
theorem tail_corr2 {B : Nat} {s0 s : State} {dn : List Nat} {oc op c fuel : Nat} (H : LoopHyp2 rk s0)
    (ih : LoopCorr rk N B s0 oc op fuel)
    (A : AInvR rk (HP s0) B s0 s (fun x _ => x = c) noY)
    (hlb : ∀ q, HP s0 c q → s.ahh.lowerBound ≤ (s.nodeD q).height) (hB : rk B ≤ rk c) (hc : c < s.nodes.size) :
    Corr (loopTail oc op c fuel) s (TP rk N oc B s0 c dn s.ahh.lowerBound s ∧ mu s0 dn < fuel)
      (fun _ s' => AInvR rk (HP s0) B s0 s' noXR noY ∧ AhhEmpty s' ∧
        (TP rk N oc B s0 c dn s.ahh.lowerBound s ∧ mu s0 dn < fuel → ∃ dn', TI rk N s0 s' dn' noZ)) := by
  have hc0 : c < s0.nodes.size := by rw [← A.rel.size]; exact hc
  unfold loopTail
  refine Corr.bind_getNode hc ?_
  refine Corr.bind (parents_loop2 (N := N) (dn := dn) (oc := oc) (op := op) H rfl ?_ A hlb hB) (fun h => h.1) ?_
  · intro a u P Q C
    exact Corr.bind C id (fun _ u' _ hq => Corr.pure ⟨_, rfl, hq⟩)
  rintro _ t - ⟨At, hlbt, hgrow, Tt⟩
  have hct : c < t.nodes.size := by rw [At.rel.size]; exact hc0
  have hPt : TP rk N oc B s0 c dn s.ahh.lowerBound s → TP rk N oc B s0 c dn t.ahh.lowerBound t :=
    fun hP => ⟨hP.1, Tt hP, hP.2.2.1, by rw [hlbt]; exact hP.2.2.2⟩
  refine Corr.bind_getNode hct ?_
  dsimp only
  split
  · rename_i b hkb
    have hvk : (t.nodeD c).valid = true ∧ (t.nodeD c).kind = .bindLhsChange b := by
      unfold Node.kind? at hkb
      split at hkb
      · rename_i hv
        injection hkb with hkb
        exact ⟨hv, hkb⟩
      · cases hkb
    -- the bind record exists when the loop has to return; if it exists it is the record of `c`
    cases hbt : t.binds[b]? with
    | none =>
      refine Corr.bind (Q := fun _ _ => False) ⟨fun hP => ?_, fun br t1 hb => ?_⟩ id (fun _ _ _ h => h.elim)
      · obtain ⟨br, hbr⟩ := hP.1.1.lcEx c b hc0 (by rw [← At.rel.valid]; exact hvk.1) (by rw [← At.rel.kind]; exact hvk.2)
        rw [At.rel.binds, hbr] at hbt
        cases hbt
      · rw [(getBind_ok_inv hb).2] at hbt
        cases hbt
    | some br =>
    have hbr : s0.binds[b]? = some br := by rw [← At.rel.binds]; exact hbt
    have hcc : br.lhsChange = c := H.lcRec c b br hc0 (by rw [← At.rel.kind]; exact hvk.2) hbr
    refine Corr.bind_ok (run_getBind_some hbt) ?_
    refine Corr.bind (scope_loop2 (N := N) (dn := dn) (oc := oc) (op := op) H hbr hcc ?_ ?_ At hlbt hgrow hlb hB)
      (fun h => hPt h.1) ?_
    · intro r u P Q hn C
      refine Corr.bind_get ?_
      rw [hn]
      simp only [if_true]
      exact Corr.bind C id (fun _ u' _ hq => Corr.pure ⟨_, rfl, hq⟩)
    · intro r u hn
      rw [run_bind_get, hn]
      simp only [Bool.false_eq_true, if_false]
      rfl
    rintro _ t2 - ⟨At2, Tt2⟩
    exact (ih t2 dn At2).mono (fun h => ⟨h.1.1, Tt2 (hPt h.1), h.2⟩)
      (fun _ s' ⟨A', E', T'⟩ => ⟨A', E', fun h => T' ⟨h.1.1, Tt2 (hPt h.1), h.2⟩⟩)
  · rename_i hnk
    refine (ih t dn (At.mono ?_ (fun _ hy => hy))).mono (fun h => ⟨h.1.1, Tt h.1, h.2⟩)
      (fun _ s' ⟨A', E', T'⟩ => ⟨A', E', fun h => T' ⟨h.1.1, Tt h.1, h.2⟩⟩)
    rintro x q - ⟨-, b', br', hb', hc', hmem, -⟩
    have := H.kind? At.rel hb' hmem
    rw [hc'] at this
    exact hnk b' this

theorem loop_corr2 {B : Nat} {s0 : State} {oc op : Nat} (H : LoopHyp2 rk s0) (fuel : Nat) :
    LoopCorr rk N B s0 oc op fuel := by
  induction fuel with
  | zero => intro s dn _; unfold adjustHeightsLoop; exact Corr.throw (fun h => by omega)
  | succ fuel ih =>
    intro s dn A
    unfold adjustHeightsLoop
    obtain ⟨r, s1, h1⟩ := TidyH.XT.X4e.ahhRemoveMin_tot s
    refine Corr.bind_ok h1 ?_
    rcases ahhRemoveMin_ok_inv h1 with ⟨er, e1, hnone⟩ | ⟨c, rest, er, hq, e1⟩
    · rw [er, e1]
      exact Corr.pure ⟨A, A.wf.none_empty hnone, fun h => ⟨dn, h.2.1⟩⟩
    · rw [er]
      dsimp only
      obtain ⟨A1, hBc, hlb1, key⟩ := A.pop hq
      have hcs : c < s.nodes.size := lt_size_of_mk (by rw [(A.wf.popped hq).2]; omega)
      -- what the pop gives for `TI`
      have hT : LoopHypT rk oc B s0 ∧ TI rk N s0 s dn noZ ∧ mu s0 dn < fuel + 1 →
          TP rk N oc B s0 c (c :: dn) (ahhPopped (ahhFirst s) c rest s).ahh.lowerBound (ahhPopped (ahhFirst s) c rest s) ∧
            mu s0 (c :: dn) < fuel ∧ ((s.nodeD c).inRch = true → (s.nodeD c).heightInRch < (s.nodeD c).height) := by
        intro ⟨HT, T, hfuel⟩
        obtain ⟨T1, hcd, -, hcn, hlbc, hstr⟩ := TI.pop A T hq
        have := mu_cons_lt (s0 := s0) (dn := dn) (n := c) (by rw [← A.rel.size]; exact hcs) hcd
        exact ⟨⟨HT, T1, hcn, by rw [hlbc]; exact Int.le_refl _⟩, by omega, hstr⟩
      rw [← e1] at A1 hlb1 key hT
      have hc0 : c < s0.nodes.size := by rw [← A.rel.size]; exact hcs
      have hc1 : c < s1.nodes.size := by rw [A1.rel.size]; exact hc0
      have hmk1 : ahhMk s1 c = -1 := by
        simp only [ahhMk]
        rw [key, if_pos rfl]
      refine Corr.bind_getNode hc1 ?_
      by_cases hin : (s1.nodeD c).inRch = true
      · rw [if_pos hin]
        refine Corr.bind_ret (fun hP => ?_) (fun _ s2 h2 => ?_)
        · obtain ⟨⟨-, T1, hcn, -⟩, -, hstr⟩ := hT hP
          have hstr1 : (s1.nodeD c).heightInRch < (s1.nodeD c).height := by
            have hin' := hin
            rw [key, if_pos rfl] at hin' ⊢
            exact hstr hin'
          have hmax : (s1.nodeD c).height ≤ s1.rch.maxAllowed := by
            have h1 := T1.bound c hcn (fun h => h)
            have h2 := cnt_lt_size (rk := rk) hc0
            have h3 := T1.room.size
            have h4 := T1.room.rch
            have h5 := A1.rel.size
            omega
          obtain ⟨s2, h2⟩ := rchIncreaseHeight_tot A1.heap.wf hc1 hin hstr1 hmax
          exact ⟨(), s2, h2⟩
        obtain ⟨Q, -, h0, hmx, hQ, e2⟩ := rchIncreaseHeight_ok_inv h2
        have hwf : HeapWF s2 := by
          have := (triple_iff _ _ _ _).1 (rchIncreaseHeight_spec .release c) s1
            ⟨(HWF_release_iff s1).2 A1.heap.wf, Or.inr ⟨s1.nodeD c, some_of_lt hc1, h0, by
              simp only [Heap.maxAllowed] at hmx; omega⟩⟩
          rw [h2] at this
          exact (HWF_release_iff s2).1 this
        rw [e2] at hwf
        have A2 := A1.rebucket hc1 hin h0 hQ hwf (fun _ hy => hy) hBc
        rw [← e2] at A2
        have key2 : ∀ m, (s2.nodeD m).height = (s1.nodeD m).height := by
          intro m
          rw [e2, nodeD_upd (s := s1) (f := fun y => { y with heightInRch := (s1.nodeD c).height }) rfl hc1]
          split
          · rename_i e; rw [e]
          · rfl
        have elb : s2.ahh.lowerBound = s1.ahh.lowerBound := by rw [e2]; rfl
        have hP2 : LoopHypT rk oc B s0 ∧ TI rk N s0 s dn noZ ∧ mu s0 dn < fuel + 1 →
            TP rk N oc B s0 c (c :: dn) s2.ahh.lowerBound s2 ∧ mu s0 (c :: dn) < fuel := by
          intro hP
          obtain ⟨⟨HT, T1, hcn, hlc⟩, hfu, -⟩ := hT hP
          have T2 := T1.rebucket hc1 hmk1 hQ
          rw [← e2] at T2
          exact ⟨⟨HT, T2, hcn, by rw [elb]; exact hlc⟩, hfu⟩
        refine (tail_corr2 (dn := c :: dn) H ih A2 ?_ hBc (by rw [e2]; simpa [rebucketed] using hc1)).mono hP2
          (fun _ s' ⟨A', E', T'⟩ => ⟨A', E', fun h => T' (hP2 h)⟩)
        intro q hm
        have := hlb1 q hm
        rw [key2 q, elb]; omega
      · rw [if_neg hin]
        have A2 : AInvR rk (HP s0) B s0 s1 (fun x _ => x = c) noY := by
          refine ⟨A1.rel, A1.wf, A1.heap, A1.edge, A1.old, ?_, A1.hle, A1.low, A1.memB⟩
          intro m hq' hm _
          by_cases e : m = c
          · rw [e] at hq'; exact absurd hq' hin
          · exact A1.hgt m hq' hm e
        have hP2 : LoopHypT rk oc B s0 ∧ TI rk N s0 s dn noZ ∧ mu s0 dn < fuel + 1 →
            TP rk N oc B s0 c (c :: dn) s1.ahh.lowerBound s1 ∧ mu s0 (c :: dn) < fuel :=
          fun hP => ⟨(hT hP).1, (hT hP).2.1⟩
        refine (tail_corr2 (dn := c :: dn) H ih A2 ?_ hBc hc1).mono hP2
          (fun _ s' ⟨A', E', T'⟩ => ⟨A', E', fun h => T' (hP2 h)⟩)
        intro q hm
        have := hlb1 q hm
        omega

end NA
end IncrVerif.Proofs.NestH
