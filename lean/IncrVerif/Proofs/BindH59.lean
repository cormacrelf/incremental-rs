import IncrVerif.Proofs.BindH58
/-!
# Binds, `adjustHeights`: the height pairs of a state (`HP`: recorded edges and scope pairs)
-/
namespace IncrVerif.Proofs.BindH
open IncrVerif.Engine IncrVerif.Proofs IncrVerif.Proofs.Step IncrVerif.Proofs.Sched IncrVerif.Proofs.Quiet

namespace CA
open BA

/-- SCOPE PAIR: `l` is the change detector of a bind, `r` a necessary registered node of the bind's scope -/
def SP (s0 : State) (l r : Nat) : Prop :=
  ∃ (b : Nat) (br : BindRec), s0.binds[b]? = some br ∧ br.lhsChange = l ∧ r ∈ br.allNodesCreatedOnRhs ∧ s0.isNecessary r = true

/-- HEIGHT PAIR: `c` has to be strictly lower than `p` -/
def HP (s0 : State) (c p : Nat) : Prop := (∃ i, (p, i) ∈ (s0.nodeD c).parents) ∨ SP s0 c p

/-- `adjustHeights` changes nothing of what the fragment, the child lists, staleness and the rank read -/
theorem keyEq_of_hrel {s s' : State} (R : HRel s s') : BL.KeyEq s s' :=
  ⟨R.size, R.binds, R.vars, R.valid, R.kind, R.cutoff, R.createdIn, R.recomputedAt, R.changedAt⟩

end CA
end IncrVerif.Proofs.BindH
