import IncrVerif.Proofs.NestH48
import IncrVerif.Proofs.NestH49
import IncrVerif.Proofs.NestH50
import IncrVerif.Proofs.BindH107
import IncrVerif.Proofs.BindH109
/-!
# Nested binds (F2), part 4h-1: every API action of the fragment keeps `QI2`; the initial state

The counterpart of `BindH.step_q1` / `BindH.qinv1_init` (`Proofs/BindH108.lean`) for programs with nested binds (fragment F2).  The `stabilise` action is taken from a
hypothesis `STAB`, so that this file does not depend on the files of the `stabilise` proof.
-/
namespace IncrVerif.Proofs.NestH
open IncrVerif.Engine IncrVerif.Driver IncrVerif.Proofs IncrVerif.Proofs.Step IncrVerif.Proofs.Sched IncrVerif.Proofs.Quiet
open IncrVerif.Proofs.BindH

/-- **one action.** Every API action of the fragment that returns keeps the invariant between actions. -/
theorem step_q2 {env : Env}
    (STAB : ∀ {fuel : Nat} {s s' : State}, QI2 env s → (stabilise env fuel).run.run s = (.ok (), s') → QI2 env s')
    {s s' : State} {a : Action} {tokens : Array Nat} {r : String × Array Nat}
    (Q : QI2 env s) (ha : ActionF2 env s.top.size a)
    (h : (stepAction env a tokens).run.run s = (.ok r, s')) : QI2 env s' := by
  cases a <;> try exact ha.elim
  case create i => exact (step_create2 Q ha h).1
  case stabilise => exact STAB Q (step_stabilise h)
  all_goals obtain ⟨rk, Q⟩ := Q
  case observe n =>
    cases n <;> try exact ha.elim
    exact ⟨rk, step_observe2 Q h⟩
  case cloneObs o => exact ⟨rk, step_cloneObs2 Q h⟩
  case dropObs o => exact ⟨rk, step_dropObs2 Q h⟩
  case disallow o => exact ⟨rk, step_disallow2 Q h⟩
  case set v x => exact ⟨rk, step_write2 (a := .set v x) Q trivial h⟩
  case modify v d => exact ⟨rk, step_write2 (a := .modify v d) Q trivial h⟩
  case update v d => exact ⟨rk, step_write2 (a := .update v d) Q trivial h⟩
  case replace v x => exact ⟨rk, step_write2 (a := .replace v x) Q trivial h⟩
  case replaceWith v d => exact ⟨rk, step_write2 (a := .replaceWith v d) Q trivial h⟩
  case get v => exact ⟨rk, step_write2 (a := .get v) Q trivial h⟩
  case isStable => exact ⟨rk, step_write2 (a := .isStable) Q trivial h⟩
  case stats => exact ⟨rk, step_write2 (a := .stats) Q trivial h⟩

/-! ## the initial state -/

namespace N4h

theorem all2_init (env : Env) (rk : Nat → Nat) (N : Nat) (d : Bool) : All2 env rk (State.init N d) [] where
  pc := rfl
  scope := rfl
  node n hn := by
    have hsz : (State.init N d).nodes.size = 0 := rfl
    rw [hsz] at hn; omega
  recs b br hb := by rw [C2h.init_binds] at hb; cases hb
  gen b br hb := by rw [C2h.init_binds] at hb; cases hb
  genDy b br hb := by rw [C2h.init_binds] at hb; cases hb
  dyIn m hm := by cases hm
  scopeValid n b br hn := by
    have hsz : (State.init N d).nodes.size = 0 := rfl
    rw [hsz] at hn; omega
  recValid b br hb := by rw [C2h.init_binds] at hb; cases hb
  scopeRk n b br hn := by
    have hsz : (State.init N d).nodes.size = 0 := rfl
    rw [hsz] at hn; omega
  rkInj n m hn := by
    have hsz : (State.init N d).nodes.size = 0 := rfl
    rw [hsz] at hn; omega

end N4h

/-- the initial state satisfies the invariant, for any rank -/
theorem qinv2_init (env : Env) (rk : Nat → Nat) (N : Nat) (d : Bool) : QInv2 env rk (State.init N d) := by
  have hnd := init_nodeD N d
  have hnec : ∀ m, (State.init N d).isNecessary m = false := fun m => by
    rw [State.isNecessary, hnd]; rfl
  have hin : ∀ m, ((State.init N d).nodeD m).inRch = false := fun m => by rw [hnd]; rfl
  have hsz : (State.init N d).nodes.size = 0 := rfl
  have hpar : ∀ m, ((State.init N d).nodeD m).parents = [] := fun m => by rw [hnd]; rfl
  have hobs : ∀ m, ((State.init N d).nodeD m).observers = [] := fun m => by rw [hnd]; rfl
  have hval : ∀ m, ((State.init N d).nodeD m).valid = true := fun m => by rw [hnd]; rfl
  have hkind : ∀ m, ((State.init N d).nodeD m).kind = .const .unit := fun m => by rw [hnd]; rfl
  have hsc : ∀ m, ((State.init N d).nodeD m).createdIn = .top := fun m => by rw [hnd]; rfl
  have A := N4h.all2_init env rk N d
  have hnodup : ∀ c, ((State.init N d).nodeD c).parents.Nodup := fun c => by rw [hpar]; exact List.nodup_nil
  have hinv : ∀ m, ((State.init N d).nodeD m).valid = false → False := fun m h => by
    rw [hval] at h; cases h
  refine
    { struct := ?_, f2 := ?_, vars := ?_, obs := ?_, obsTop := ?_, now := Int.le_refl _, stamps := ?_, varStamp := ?_,
      cons := ?_, status := rfl, alive := rfl, setDuringStab := rfl, deadVars := rfl, handleAfterStab := rfl }
  · -- the structural invariant
    refine
      { frag := A, par := ?_, conv := ?_, nodup := hnodup, hlt := ?_, hpos := ?_, lnec := ?_, unec := ?_, heap := ?_, hgt := ?_,
        qnec := ?_, queued := ?_, qstale := ?_, opLt := ?_, scopeH := ?_, inv := ?_, scopeObs := ?_, lcObs := ?_ }
    · intro c p i hm; rw [hpar] at hm; cases hm
    · intro p i c hk hw
      have e : (State.init N d).children p = [] := by
        rw [State.children, hnd]; rfl
      rw [e] at hk; cases hk
    · intro c p i hm; rw [hpar] at hm; cases hm
    · intro n hn; rw [hnec] at hn; cases hn
    · intro p k ho; cases ho
    · intro p k ho; cases ho
    · refine ⟨heapWF_init N d, ?_, ?_⟩
      · intro m hm; rw [hin] at hm; cases hm
      · show (0 : Int) ≤ (N : Int) + 1
        omega
    · intro m hm; rw [hin] at hm; cases hm
    · intro m hm; rw [hin] at hm; cases hm
    · intro m _ hn; rw [hnec] at hn; cases hn
    · intro m hm; rw [hin] at hm; cases hm
    · intro m ho; exact absurd rfl ho
    · intro n b br _ hb; rw [hsc] at hb; cases hb
    · intro m hv; exact (hinv m hv).elim
    · intro m b hb; rw [hsc] at hb; cases hb
    · intro m b hb; rw [hkind] at hb; cases hb
  · -- the auxiliary invariant
    refine
      { frag := A, nodup := hnodup, ahh := ?_, pinv := rfl, noForce := ?_, noHandlers := ?_, inv := ?_, scopeObs := ?_,
        lcObs := ?_, lcCut := ?_, topOK := ?_, closures := ?_, lhsOK := ?_, rhsNone := ?_, deadNone := ?_, rhsOK := ?_ }
    · refine ⟨rfl, ?_, fun m => by rw [hnd]; rfl⟩
      intro i hi
      simp [State.init, mkHeap]
    · intro m; rw [hnd]; rfl
    · intro m; rw [hnd]; rfl
    · intro m hv; exact (hinv m hv).elim
    · intro m b hb; rw [hsc] at hb; cases hb
    · intro m b hb; rw [hkind] at hb; cases hb
    · intro m b hb; rw [hkind] at hb; cases hb
    · intro k r hk; rw [C2h.init_top] at hk; cases hk
    · intro b br hb; rw [C2h.init_binds] at hb; cases hb
    · intro b br hb; rw [C2h.init_binds] at hb; cases hb
    · intro b br hb; rw [C2h.init_binds] at hb; cases hb
    · intro b br hb; rw [C2h.init_binds] at hb; cases hb
    · intro b br o hb; rw [C2h.init_binds] at hb; cases hb
  · refine ⟨fun n c hn => by rw [hsz] at hn; omega, fun c vc hc => ?_⟩
    simp [State.init] at hc
  · refine ⟨fun o ob ho => ?_, fun n o => ?_, fun o ob ho => ?_, fun o ho => ?_, fun o ob ho => ?_,
      fun o ho => ?_, List.nodup_nil⟩
    · simp [State.init] at ho
    · rw [hobs]
      constructor
      · intro h; cases h
      · rintro ⟨ob, ho, -⟩; simp [State.init] at ho
    · simp [State.init] at ho
    · simp [State.init] at ho
    · simp [State.init] at ho
    · simp [State.init] at ho
  · intro o ob ho; simp [State.init] at ho
  · intro m; rw [hnd]; exact ⟨show (-1 : Int) < 0 by decide, show (-1 : Int) < 0 by decide⟩
  · intro c vc hc; simp [State.init] at hc
  · intro m hm; rw [hsz] at hm; omega

theorem qi2_init (env : Env) (N : Nat) (d : Bool) : QI2 env (State.init N d) :=
  ⟨fun m => m, qinv2_init env (fun m => m) N d⟩

end IncrVerif.Proofs.NestH
