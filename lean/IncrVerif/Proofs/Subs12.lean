import IncrVerif.Proofs.Subs3
/-!
# Subscriptions, part 9: the actions `subscribe`, `unsubscribe`, `stateUnsub` keep the invariant
-/
namespace IncrVerif.Proofs.SubsH
open IncrVerif.Engine IncrVerif.Driver IncrVerif.Proofs IncrVerif.Proofs.Step IncrVerif.Proofs.Sched
open IncrVerif.Proofs.Quiet

/-- what the three subscription actions keep: nothing is logged, the round number, every stored value, and
of every observer record its node, state and number of handles; only handler lists (and `nextToken`,
handler counts, the queue `handleAfterStab`) change -/
structure SFrame (s s' : State) : Prop where
  log : s'.log = s.log
  stabNum : s'.stabNum = s.stabNum
  value : ∀ m, (s'.nodeD m).value = (s.nodeD m).value
  nodeObs : ∀ m, (s'.nodeD m).observers = (s.nodeD m).observers
  vars : s'.vars = s.vars
  obsSize : s'.observers.size = s.observers.size
  obsSame : ∀ (o : Nat) (ob : ObsRec), s.observers[o]? = some ob →
    ∃ ob', s'.observers[o]? = some ob' ∧ ob'.node = ob.node ∧ ob'.state = ob.state ∧ ob'.clones = ob.clones
  nextToken : s.nextToken ≤ s'.nextToken

theorem SFrame.refl (s : State) : SFrame s s :=
  ⟨rfl, rfl, fun _ => rfl, fun _ => rfl, rfl, rfl, fun _ ob h => ⟨ob, h, rfl, rfl, rfl⟩, Nat.le_refl _⟩

/-- a record of the new state is an old record with another handler list -/
theorem P9.rec_inv {s s' : State} (hobs : s'.observers.size = s.observers.size)
    (hrec : ∀ (o : Nat) (ob : ObsRec), s.observers[o]? = some ob →
      ∃ hs, s'.observers[o]? = some { ob with handlers := hs })
    {o : Nat} {ob' : ObsRec} (h : s'.observers[o]? = some ob') :
    ∃ ob hs, s.observers[o]? = some ob ∧ ob' = { ob with handlers := hs } := by
  have hlt : o < s.observers.size := by
    rw [← hobs]
    rcases Nat.lt_or_ge o s'.observers.size with hlt | hge
    · exact hlt
    · rw [Array.getElem?_eq_none hge] at h; cases h
  have hs : s.observers[o]? = some s.observers[o] := Array.getElem?_eq_getElem hlt
  obtain ⟨hs', h'⟩ := hrec o _ hs
  rw [h] at h'; cases h'
  exact ⟨_, hs', hs, rfl⟩

/-- `QInv` does not read handler lists, handler counts, queue flags, `handleAfterStab`, `nextToken` -/
theorem QInv.of_handlers {env : Env} {s s' : State} (Q : QInv env s)
    (hsz : s'.nodes.size = s.nodes.size)
    (hnode : ∀ m, ∃ (k : Int) (b : Bool),
      s'.nodeD m = { s.nodeD m with numOnUpdateHandlers := k, inHandleAfterStab := b })
    (hobs : s'.observers.size = s.observers.size)
    (hrec : ∀ (o : Nat) (ob : ObsRec), s.observers[o]? = some ob →
      ∃ hs, s'.observers[o]? = some { ob with handlers := hs })
    (h1 : s'.vars = s.vars) (h2 : s'.rch = s.rch) (h3 : s'.stabNum = s.stabNum) (h4 : s'.status = s.status)
    (h5 : s'.alive = s.alive) (h6 : s'.setDuringStab = s.setDuringStab) (h7 : s'.deadVars = s.deadVars)
    (h8 : s'.propagateInvalidity = s.propagateInvalidity) (h9 : s'.top = s.top)
    (h10 : s'.panicCountdown = s.panicCountdown) (h11 : s'.currentScope = s.currentScope)
    (h12 : s'.newObservers = s.newObservers) (h13 : s'.disallowedObservers = s.disallowedObservers) :
    QInv env s' := by
  have G : ∀ m, NodeG (s.nodeD m) (s'.nodeD m) := by
    intro m
    obtain ⟨k, b, e⟩ := hnode m
    rw [e]; exact ⟨rfl, rfl, rfl, rfl, rfl, rfl, rfl, rfl, rfl, rfl, rfl⟩
  have hval : ∀ m, (s'.nodeD m).value = (s.nodeD m).value := by
    intro m
    obtain ⟨k, b, e⟩ := hnode m
    rw [e]
  have S : SameG s s' := ⟨h10, h11, hsz, h2, h1, G⟩
  refine
    { struct := GInv.congr Q.struct S
      vars := ⟨fun n c hn hk => ?_, fun c vc h => ?_⟩
      obs := ⟨?_, ?_, ?_, ?_, ?_, ?_, ?_⟩
      now := by rw [h3]; exact Q.now
      stamps := fun m => by rw [(G m).recomputedAt, (G m).changedAt, h3]; exact Q.stamps m
      varStamp := fun c vc h => by rw [h1] at h; rw [h3]; exact Q.varStamp c vc h
      cons := fun m hm hs => ?_
      status := by rw [h4]; exact Q.status
      alive := by rw [h5]; exact Q.alive
      setDuringStab := by rw [h6]; exact Q.setDuringStab
      deadVars := by rw [h7]; exact Q.deadVars
      pinv := by rw [h8]; exact Q.pinv
      top := fun k n h => by rw [h9] at h; rw [hsz]; exact Q.top k n h }
  · rw [hsz] at hn; rw [(G n).kind] at hk; rw [h1]; exact Q.vars.node n c hn hk
  · rw [h1] at h; rw [hsz, (G _).kind]; exact Q.vars.cell c vc h
  · intro o ob' h
    obtain ⟨ob, hs, hob, e⟩ := P9.rec_inv hobs hrec h
    rw [hsz, e]; exact Q.obs.inRange o ob hob
  · intro n o
    rw [(G n).observers, Q.obs.mem]
    constructor
    · rintro ⟨ob, hob, hn, hst⟩
      obtain ⟨hs, h'⟩ := hrec o ob hob
      exact ⟨_, h', hn, hst⟩
    · rintro ⟨ob', h, hn, hst⟩
      obtain ⟨ob, hs, hob, e⟩ := P9.rec_inv hobs hrec h
      rw [e] at hn hst
      exact ⟨ob, hob, hn, hst⟩
  · intro o ob' h hc
    obtain ⟨ob, hs, hob, e⟩ := P9.rec_inv hobs hrec h
    rw [e] at hc
    rw [h12]; exact Q.obs.created o ob hob hc
  · intro o hm
    rw [h12] at hm
    obtain ⟨ob, hob⟩ := Q.obs.newIn o hm
    obtain ⟨hs, h'⟩ := hrec o ob hob
    exact ⟨_, h'⟩
  · intro o ob' h
    obtain ⟨ob, hs, hob, e⟩ := P9.rec_inv hobs hrec h
    rw [h13, e]; exact Q.obs.dis o ob hob
  · intro o hm
    rw [h13] at hm
    obtain ⟨ob, hob⟩ := Q.obs.disIn o hm
    obtain ⟨hs, h'⟩ := hrec o ob hob
    exact ⟨_, h'⟩
  · rw [h13]; exact Q.obs.disNodup
  · rw [hsz] at hm
    rw [S.staleOf] at hs
    obtain ⟨v, hT, hv⟩ := Q.cons m hm hs
    refine ⟨v, Target.congr (G m).kind h1 (fun c _ => hval c) hT, ?_⟩
    rw [hval]; exact hv

/-! ## the frame of the elementary steps -/

/-- everything but handler lists, handler counts, queue flags, `handleAfterStab`, `nextToken` is kept -/
structure P9.HF (s s' : State) : Prop where
  size : s'.nodes.size = s.nodes.size
  node : ∀ m, ∃ (k : Int) (b : Bool),
    s'.nodeD m = { s.nodeD m with numOnUpdateHandlers := k, inHandleAfterStab := b }
  obsSize : s'.observers.size = s.observers.size
  recs : ∀ (o : Nat) (ob : ObsRec), s.observers[o]? = some ob →
    ∃ hs, s'.observers[o]? = some { ob with handlers := hs }
  vars : s'.vars = s.vars
  rch : s'.rch = s.rch
  stabNum : s'.stabNum = s.stabNum
  status : s'.status = s.status
  alive : s'.alive = s.alive
  setDuringStab : s'.setDuringStab = s.setDuringStab
  deadVars : s'.deadVars = s.deadVars
  pinv : s'.propagateInvalidity = s.propagateInvalidity
  top : s'.top = s.top
  pc : s'.panicCountdown = s.panicCountdown
  scope : s'.currentScope = s.currentScope
  newObs : s'.newObservers = s.newObservers
  disObs : s'.disallowedObservers = s.disallowedObservers
  log : s'.log = s.log
  nextToken : s.nextToken ≤ s'.nextToken

theorem P9.HF.refl (s : State) : P9.HF s s :=
  ⟨rfl, fun _ => ⟨_, _, rfl⟩, rfl, fun _ ob h => ⟨ob.handlers, h⟩, rfl, rfl, rfl, rfl, rfl, rfl, rfl, rfl, rfl,
    rfl, rfl, rfl, rfl, rfl, Nat.le_refl _⟩

theorem P9.HF.trans {a b c : State} (h1 : P9.HF a b) (h2 : P9.HF b c) : P9.HF a c := by
  refine ⟨h2.size.trans h1.size, fun m => ?_, h2.obsSize.trans h1.obsSize, fun o ob h => ?_,
    h2.vars.trans h1.vars, h2.rch.trans h1.rch, h2.stabNum.trans h1.stabNum, h2.status.trans h1.status,
    h2.alive.trans h1.alive, h2.setDuringStab.trans h1.setDuringStab, h2.deadVars.trans h1.deadVars,
    h2.pinv.trans h1.pinv, h2.top.trans h1.top, h2.pc.trans h1.pc, h2.scope.trans h1.scope,
    h2.newObs.trans h1.newObs, h2.disObs.trans h1.disObs, h2.log.trans h1.log,
    Nat.le_trans h1.nextToken h2.nextToken⟩
  · obtain ⟨k, b', e⟩ := h1.node m
    obtain ⟨k', b'', e'⟩ := h2.node m
    exact ⟨k', b'', by rw [e', e]⟩
  · obtain ⟨hs, e⟩ := h1.recs o ob h
    obtain ⟨hs', e'⟩ := h2.recs o _ e
    exact ⟨hs', e'⟩

theorem P9.HF.qinv {env : Env} {s s' : State} (F : P9.HF s s') (Q : QInv env s) : QInv env s' :=
  Q.of_handlers F.size F.node F.obsSize F.recs F.vars F.rch F.stabNum F.status F.alive F.setDuringStab
    F.deadVars F.pinv F.top F.pc F.scope F.newObs F.disObs

theorem P9.HF.sframe {s s' : State} (F : P9.HF s s') : SFrame s s' := by
  refine ⟨F.log, F.stabNum, fun m => ?_, fun m => ?_, F.vars, F.obsSize, fun o ob h => ?_, F.nextToken⟩
  · obtain ⟨k, b, e⟩ := F.node m; rw [e]
  · obtain ⟨k, b, e⟩ := F.node m; rw [e]
  · obtain ⟨hs, e⟩ := F.recs o ob h
    exact ⟨_, e, rfl, rfl, rfl⟩


theorem P9.HF.of_nextToken (s : State) (k : Nat) : P9.HF s { s with nextToken := s.nextToken + k } :=
  ⟨rfl, fun _ => ⟨_, _, rfl⟩, rfl, fun _ ob h => ⟨ob.handlers, h⟩, rfl, rfl, rfl, rfl, rfl, rfl, rfl, rfl, rfl,
    rfl, rfl, rfl, rfl, rfl, Nat.le_add_right _ _⟩

theorem P9.HF.of_modObs (s : State) (o : Nat) (g : ObsRec → List HandlerRec) :
    P9.HF s { s with observers := s.observers.modify o fun x => { x with handlers := g x } } := by
  refine ⟨rfl, fun _ => ⟨_, _, rfl⟩, by simp, fun o' ob h => ?_, rfl, rfl, rfl, rfl, rfl, rfl, rfl, rfl, rfl,
    rfl, rfl, rfl, rfl, rfl, Nat.le_refl _⟩
  show ∃ hs, (s.observers.modify o fun x => { x with handlers := g x })[o']? = _
  rw [Array.getElem?_modify, h]
  split
  · exact ⟨g ob, rfl⟩
  · exact ⟨ob.handlers, rfl⟩

theorem P9.HF.of_modNode (s : State) (n : Nat) (k : Node → Int) :
    P9.HF s { s with nodes := s.nodes.modify n fun x => { x with numOnUpdateHandlers := k x } } := by
  refine ⟨by simp, fun m => ?_, rfl, fun _ ob h => ⟨ob.handlers, h⟩, rfl, rfl, rfl, rfl, rfl, rfl, rfl, rfl, rfl,
    rfl, rfl, rfl, rfl, rfl, Nat.le_refl _⟩
  rw [nodeD_modify]
  split
  · exact ⟨_, _, rfl⟩
  · exact ⟨_, _, rfl⟩

theorem P9.HF.of_hasMarked (s : State) (n : Nat) : P9.HF s (Sched.hasMarked n s) := by
  refine ⟨by simp [Sched.hasMarked], fun m => ?_, rfl, fun _ ob h => ⟨ob.handlers, h⟩, rfl, rfl, rfl, rfl, rfl,
    rfl, rfl, rfl, rfl, rfl, rfl, rfl, rfl, rfl, Nat.le_refl _⟩
  have : (Sched.hasMarked n s).nodeD m =
      ({ s with nodes := s.nodes.modify n fun x => { x with inHandleAfterStab := true } } : State).nodeD m := rfl
  rw [this, nodeD_modify]
  split
  · exact ⟨_, _, rfl⟩
  · exact ⟨_, _, rfl⟩

/-! ## two facts about lists -/

theorem P9.sum_map_change (f g : Nat → Int) (o : Nat) (h : ∀ x, x ≠ o → g x = f x) :
    ∀ (l : List Nat), l.Nodup → (l.map g).sum = (l.map f).sum + (if o ∈ l then g o - f o else 0)
  | [], _ => by simp
  | a :: l, hnd => by
    obtain ⟨ha, hl⟩ := List.nodup_cons.1 hnd
    have ih := P9.sum_map_change f g o h l hl
    simp only [List.map_cons, List.sum_cons, ih, List.mem_cons]
    by_cases e : a = o
    · subst e
      simp only [ha, or_false, if_true, if_false]
      omega
    · rw [h a e]
      have : (o = a ∨ o ∈ l) ↔ o ∈ l := ⟨fun h => h.elim (fun e' => absurd e'.symm e) id, Or.inr⟩
      simp only [this]
      omega

theorem P9.filter_token_length (t : Nat) :
    ∀ (l : List HandlerRec), (l.map (·.token)).Nodup →
      ((l.filter (·.token != t)).length : Int) = (l.length : Int) - (if l.any (·.token == t) = true then 1 else 0)
  | [], _ => by simp
  | a :: l, hnd => by
    rw [List.map_cons] at hnd
    obtain ⟨ha, hl⟩ := List.nodup_cons.1 hnd
    have ih := P9.filter_token_length t l hl
    by_cases e : a.token = t
    · have hany : l.any (·.token == t) = false := by
        rw [List.any_eq_false]
        intro x hx hxt
        have : x.token = t := by simpa using hxt
        exact ha (List.mem_map.2 ⟨x, hx, by rw [this, e]⟩)
      rw [hany] at ih
      simp only [List.filter_cons, List.any_cons, e, bne_self_eq_false, beq_self_eq_true, Bool.true_or,
        if_true, List.length_cons, Bool.false_eq_true, if_false] at ih ⊢
      omega
    · have h1 : (a.token != t) = true := by simpa using e
      have h2 : (a.token == t) = false := by simpa using e
      simp only [List.filter_cons, List.any_cons, h1, h2, if_true, Bool.false_or, List.length_cons]
      omega


/-! ## `HInv` after the handler list of one (created or in use) observer was changed -/

theorem P9.hinv_upd {s s' : State} {o : Nat} {ob : ObsRec} {g : List HandlerRec → List HandlerRec}
    (H : HInv s) (O : ObsOK s) (hob : s.observers[o]? = some ob)
    (hst : ob.state = .created ∨ ob.state = .inUse)
    (hobs : s'.observers = s.observers.modify o fun x => { x with handlers := g x.handlers })
    (hstab : s'.stabNum = s.stabNum)
    (hno : ∀ m, (s'.nodeD m).observers = (s.nodeD m).observers)
    (hnum : ∀ m, (s'.nodeD m).numOnUpdateHandlers = (s.nodeD m).numOnUpdateHandlers +
      if m = ob.node ∧ ob.state = .inUse then ((g ob.handlers).length : Int) - (ob.handlers.length : Int) else 0)
    (tok : Life.TokWF s') (hnd : ((g ob.handlers).map (·.token)).Nodup)
    (has : HasOK s') (hmono : ∀ m, m ∈ s.handleAfterStab → m ∈ s'.handleAfterStab)
    (hnew : ∀ h, h ∈ g ob.handlers → h ∈ ob.handlers ∨
      (h.createdAt ≤ s.stabNum ∧ PrevOK h.prev ∧ ob.node ∈ s'.handleAfterStab)) : HInv s' := by
  have hget : ∀ o', s'.observers[o']? =
      if o = o' then some { ob with handlers := g ob.handlers } else s.observers[o']? := by
    intro o'
    rw [hobs, Array.getElem?_modify]
    split
    · rename_i e; rw [← e, hob]; rfl
    · rfl
  have hOf' : ∀ o', o' ≠ o → hOf s' o' = hOf s o' := by
    intro o' ne
    have : ¬ o = o' := fun e => ne e.symm
    simp only [hOf, hget, if_neg this]
  have hOfo : hOf s' o = g ob.handlers := by simp only [hOf, hget, if_true]
  have hOfs : hOf s o = ob.handlers := hOf_of_some hob
  have hmem : ∀ n, o ∈ (s.nodeD n).observers ↔ (n = ob.node ∧ ob.state = .inUse) := by
    intro n
    rw [O.mem]
    constructor
    · rintro ⟨ob', h', hn, hs⟩
      rw [hob] at h'; cases h'
      rcases hs with hs | hs
      · exact ⟨hn.symm, hs⟩
      · rcases hst with h | h <;> rw [h] at hs <;> cases hs
    · rintro ⟨hn, hs⟩
      exact ⟨ob, hob, hn.symm, Or.inl hs⟩
  refine ⟨fun n => ?_, fun n => by rw [hno]; exact H.obsNodup n, tok, fun o' ob' h' => ?_, has,
    fun o' ob' h h' hh => ?_, fun o' ob' h h' hh => ?_, fun o' ob' h h' hs hh hp => ?_⟩
  · rw [hnum, H.count n]
    unfold numOf
    rw [hno, P9.sum_map_change (fun o' => ((hOf s o').length : Int)) (fun o' => ((hOf s' o').length : Int)) o
      (fun x hx => by rw [hOf' x hx]) _ (H.obsNodup n), hOfo, hOfs]
    by_cases c : n = ob.node ∧ ob.state = .inUse
    · rw [if_pos c, if_pos ((hmem n).2 c)]
    · rw [if_neg c, if_neg (fun hm => c ((hmem n).1 hm))]
  · rw [hget] at h'
    split at h'
    · cases h'; exact hnd
    · exact H.tokNodup o' ob' h'
  · rw [hget] at h'; rw [hstab]
    split at h'
    · cases h'
      rcases hnew h hh with hm | ⟨hc, -, -⟩
      · exact H.createdAt o ob h hob hm
      · exact hc
    · exact H.createdAt o' ob' h h' hh
  · rw [hget] at h'
    split at h'
    · cases h'
      rcases hnew h hh with hm | ⟨-, hc, -⟩
      · exact H.prev o ob h hob hm
      · exact hc
    · exact H.prev o' ob' h h' hh
  · rw [hget] at h'
    split at h'
    · cases h'
      rcases hnew h hh with hm | ⟨-, -, hc⟩
      · exact hmono _ (H.pending o ob h hob hst hm hp)
      · exact hc
    · exact hmono _ (H.pending o' ob' h h' hs hh hp)


/-! ## `handleAfterStabilisation` -/

theorem P9.has_step {n : Nat} {s s' : State} {u : Unit}
    (h : (handleAfterStabilisation n).run.run s = (.ok u, s')) (K : HasOK s) :
    P9.HF s s' ∧ s'.observers = s.observers ∧ s'.nextToken = s.nextToken ∧
    (∀ m, (s'.nodeD m).observers = (s.nodeD m).observers) ∧
    (∀ m, (s'.nodeD m).numOnUpdateHandlers = (s.nodeD m).numOnUpdateHandlers) ∧
    HasOK s' ∧ n ∈ s'.handleAfterStab ∧ (∀ m, m ∈ s.handleAfterStab → m ∈ s'.handleAfterStab) := by
  unfold handleAfterStabilisation at h
  obtain ⟨nd, hnd, h⟩ := bind_getNode_inv h
  have hlt : n < s.nodes.size := by
    rcases Nat.lt_or_ge n s.nodes.size with hlt | hge
    · exact hlt
    · rw [Array.getElem?_eq_none hge] at hnd; cases hnd
  have hD : s.nodeD n = nd := by simp [State.nodeD, hnd]
  split at h
  · rename_i hf
    obtain ⟨s1, e1, h⟩ := bind_modNode_inv h
    rw [run_modify] at h
    have e : s' = Sched.hasMarked n s := by cases h; rw [e1]; rfl
    have hf' : (s.nodeD n).inHandleAfterStab = false := by rw [hD]; simpa using hf
    have hN : ∀ m, (Sched.hasMarked n s).nodeD m =
        if n = m ∧ m < s.nodes.size then { s.nodeD m with inHandleAfterStab := true } else s.nodeD m := by
      intro m
      exact nodeD_modify s n m _
    rw [e]
    refine ⟨P9.HF.of_hasMarked s n, rfl, rfl, fun m => ?_, fun m => ?_, ⟨?_, fun m => ?_⟩, ?_, fun m hm => ?_⟩
    · rw [hN]; split <;> rfl
    · rw [hN]; split <;> rfl
    · show (s.handleAfterStab ++ [n]).Nodup
      rw [List.nodup_append]
      refine ⟨K.nodup, List.nodup_cons.2 ⟨List.not_mem_nil, List.nodup_nil⟩, ?_⟩
      intro a ha b hb
      rw [List.mem_singleton] at hb
      rw [hb]; intro eab; rw [eab] at ha
      have := (K.flag n).1 ha
      rw [hf'] at this; cases this
    · show m ∈ s.handleAfterStab ++ [n] ↔ _
      rw [hN, List.mem_append, List.mem_singleton, K.flag m]
      by_cases c : n = m
      · subst c
        rw [if_pos ⟨rfl, hlt⟩]
        exact ⟨fun _ => rfl, fun _ => Or.inr rfl⟩
      · rw [if_neg (fun h => c h.1)]
        exact ⟨fun h => h.elim id (fun e' => absurd e'.symm c), Or.inl⟩
    · show n ∈ s.handleAfterStab ++ [n]
      simp
    · show m ∈ s.handleAfterStab ++ [n]
      exact List.mem_append_left _ hm
  · rename_i hf
    obtain ⟨-, e⟩ := pure_ok_inv h
    have hf' : (s.nodeD n).inHandleAfterStab = true := by rw [hD]; simpa using hf
    rw [e]
    exact ⟨P9.HF.refl s, rfl, rfl, fun _ => rfl, fun _ => rfl, K, (K.flag n).2 hf', fun _ h => h⟩


/-! ## `subscribe` -/

theorem P9.subscribe_fin {env : Env} {s s3 s' : State} {o hid : Nat} {ob : ObsRec} {u : Unit}
    (U : UInv env s) (hob : s.observers[o]? = some ob) (hst : ob.state = .created ∨ ob.state = .inUse)
    (F3 : P9.HF s s3)
    (hobs3 : s3.observers = s.observers.modify o fun x =>
      { x with handlers := x.handlers ++ [{ token := s.nextToken, hid := hid, createdAt := s.stabNum }] })
    (hnt3 : s3.nextToken = s.nextToken + 1)
    (hno3 : ∀ m, (s3.nodeD m).observers = (s.nodeD m).observers)
    (hnum3 : ∀ m, (s3.nodeD m).numOnUpdateHandlers = (s.nodeD m).numOnUpdateHandlers +
      if m = ob.node ∧ ob.state = .inUse then 1 else 0)
    (hhas3 : s3.handleAfterStab = s.handleAfterStab)
    (hfl3 : ∀ m, (s3.nodeD m).inHandleAfterStab = (s.nodeD m).inHandleAfterStab)
    (tok' : Life.TokWF s')
    (h : (handleAfterStabilisation ob.node).run.run s3 = (.ok u, s')) :
    UInv env s' ∧ P9.HF s s' ∧ s'.nextToken = s.nextToken + 1 ∧
      s'.observers = s.observers.modify o fun x =>
        { x with handlers := x.handlers ++ [{ token := s.nextToken, hid := hid, createdAt := s.stabNum }] } := by
  have H := U.hinv
  have K3 : HasOK s3 :=
    ⟨by rw [hhas3]; exact H.has.nodup, fun n => by rw [hhas3, hfl3]; exact H.has.flag n⟩
  obtain ⟨F, e1, e2, e3, e4, K', hq, hmono⟩ := P9.has_step h K3
  have F' := F3.trans F
  refine ⟨⟨F'.qinv U.core, ?_⟩, F', e2.trans hnt3, e1.trans hobs3⟩
  refine P9.hinv_upd (g := fun l => l ++ [{ token := s.nextToken, hid := hid, createdAt := s.stabNum }])
    H U.core.obs hob hst (e1.trans hobs3) F'.stabNum (fun m => (e3 m).trans (hno3 m)) (fun m => ?_) tok' ?_ K'
    (fun m hm => hmono m (by rw [hhas3]; exact hm)) (fun x hx => ?_)
  · rw [e4, hnum3]
    simp only [List.length_append, List.length_cons, List.length_nil]
    split <;> omega
  · simp only [List.map_append, List.map_cons, List.map_nil]
    rw [List.nodup_append]
    refine ⟨H.tokNodup o ob hob, List.nodup_cons.2 ⟨List.not_mem_nil, List.nodup_nil⟩, ?_⟩
    intro a ha b hb
    rw [List.mem_singleton] at hb
    rw [hb]; intro eab; rw [eab] at ha
    exact Nat.lt_irrefl _ (H.tok.fresh o ob hob _ ha)
  · rcases List.mem_append.1 hx with hx | hx
    · exact Or.inl hx
    · rw [List.mem_singleton] at hx
      rw [hx]
      exact Or.inr ⟨Int.le_refl _, trivial, hq⟩

theorem P9.subscribe_ok {env : Env} {s s' : State} {o hid : Nat} {a : Except ObsError Nat}
    (U : UInv env s) (h : (subscribe o hid).run.run s = (.ok a, s')) :
    UInv env s' ∧ P9.HF s s' ∧
    ((s' = s ∧ (∃ e, a = .error e) ∧
        ∃ ob, s.observers[o]? = some ob ∧ (ob.state = .disallowed ∨ ob.state = .unlinked)) ∨
     ((∃ t, a = .ok t) ∧ s'.nextToken = s.nextToken + 1 ∧
       ∃ ob, s.observers[o]? = some ob ∧ (ob.state = .created ∨ ob.state = .inUse) ∧
         s'.observers = s.observers.modify o fun x =>
           { x with handlers := x.handlers ++ [{ token := s.nextToken, hid := hid, createdAt := s.stabNum }] })) := by
  have tok' : Life.TokWF s' := (Life.PresT.subscribe o hid).h s _ s' h U.hinv.tok
  unfold subscribe at h
  rw [run_bind_get] at h
  rw [if_neg (by rw [U.core.alive]; decide)] at h
  obtain ⟨ob, hob, h⟩ := bind_getObs_inv h
  cases hst : ob.state with
  | disallowed =>
    rw [hst] at h
    obtain ⟨ea, e⟩ := pure_ok_inv h
    rw [e]
    exact ⟨U, P9.HF.refl s, Or.inl ⟨rfl, ⟨_, ea⟩, ob, hob, Or.inl hst⟩⟩
  | unlinked =>
    rw [hst] at h
    obtain ⟨ea, e⟩ := pure_ok_inv h
    rw [e]
    exact ⟨U, P9.HF.refl s, Or.inl ⟨rfl, ⟨_, ea⟩, ob, hob, Or.inr hst⟩⟩
  | created =>
    rw [hst] at h
    dsimp only at h
    obtain ⟨s1, e1, h⟩ := bind_modify_inv h
    obtain ⟨s2, e2, h⟩ := bind_modObs_inv h
    rw [if_neg (by decide)] at h
    obtain ⟨u, s4, h4, h⟩ := bind_ok_inv h
    obtain ⟨ea, e⟩ := pure_ok_inv h
    subst e
    have F3 : P9.HF s s2 := by
      rw [e2, e1]
      exact (P9.HF.of_nextToken s 1).trans (P9.HF.of_modObs _ o _)
    have hD : ∀ m, s2.nodeD m = s.nodeD m := fun m => by rw [e2, e1]; rfl
    obtain ⟨U', F', hn, ho⟩ := P9.subscribe_fin (hid := hid) U hob (Or.inl hst) F3 (by rw [e2, e1])
      (by rw [e2, e1]) (fun m => by rw [hD]) (fun m => by rw [hD, hst]; simp) (by rw [e2, e1])
      (fun m => by rw [hD]) tok' h4
    exact ⟨U', F', Or.inr ⟨⟨_, ea⟩, hn, ob, hob, Or.inl hst, ho⟩⟩
  | inUse =>
    rw [hst] at h
    dsimp only at h
    obtain ⟨s1, e1, h⟩ := bind_modify_inv h
    obtain ⟨s2, e2, h⟩ := bind_modObs_inv h
    rw [if_pos (by decide)] at h
    obtain ⟨s3, e3, h⟩ := bind_modNode_inv h
    obtain ⟨u, s4, h4, h⟩ := bind_ok_inv h
    obtain ⟨ea, e⟩ := pure_ok_inv h
    subst e
    have F3 : P9.HF s s3 := by
      rw [e3, e2, e1]
      exact ((P9.HF.of_nextToken s 1).trans (P9.HF.of_modObs _ o _)).trans (P9.HF.of_modNode _ _ _)
    have hD : ∀ m, s3.nodeD m = if ob.node = m ∧ m < s.nodes.size then
        { s.nodeD m with numOnUpdateHandlers := (s.nodeD m).numOnUpdateHandlers + 1 } else s.nodeD m := by
      intro m; rw [e3, e2, e1]; exact nodeD_modify _ _ _ _
    have hlt : ob.node < s.nodes.size := U.core.obs.inRange o ob hob
    have hnum : ∀ m, (s3.nodeD m).numOnUpdateHandlers = (s.nodeD m).numOnUpdateHandlers +
        if m = ob.node ∧ ob.state = .inUse then 1 else 0 := by
      intro m
      rw [hD]
      by_cases c : ob.node = m
      · subst c
        rw [if_pos ⟨rfl, hlt⟩, if_pos ⟨rfl, hst⟩]
      · rw [if_neg (fun h => c h.1), if_neg (fun h => c h.1.symm)]; simp
    obtain ⟨U', F', hn, ho⟩ := P9.subscribe_fin (hid := hid) U hob (Or.inr hst) F3 (by rw [e3, e2, e1])
      (by rw [e3, e2, e1]) (fun m => by rw [hD]; split <;> rfl) hnum (by rw [e3, e2, e1])
      (fun m => by rw [hD]; split <;> rfl) tok' h4
    exact ⟨U', F', Or.inr ⟨⟨_, ea⟩, hn, ob, hob, Or.inr hst, ho⟩⟩

/-- **`subscribe`.**  Either the observer is disallowed/unlinked (error, nothing changes) or a handler record
with the fresh token `s.nextToken`, `prev = neverBeenUpdated`, `createdAt = s.stabNum` is appended to the
handler list of `o`, and the token table is extended by `o`. -/
theorem step_subscribe {env : Env} {s s' : State} {o hid : Nat} {tokens : Array Nat} {r : String × Array Nat}
    (U : UInv env s) (h : (stepAction env (.subscribe o hid) tokens).run.run s = (.ok r, s')) :
    UInv env s' ∧ SFrame s s' ∧
    ((s' = s ∧ r.2 = tokens ∧ ∃ ob, s.observers[o]? = some ob ∧ (ob.state = .disallowed ∨ ob.state = .unlinked)) ∨
     (r.2 = tokens.push o ∧ s'.nextToken = s.nextToken + 1 ∧
       ∃ ob, s.observers[o]? = some ob ∧ (ob.state = .created ∨ ob.state = .inUse) ∧
         s'.observers = s.observers.modify o fun x =>
           { x with handlers := x.handlers ++ [{ token := s.nextToken, hid := hid, createdAt := s.stabNum }] })) := by
  simp only [stepAction] at h
  obtain ⟨a, s1, h1, h⟩ := bind_ok_inv h
  obtain ⟨U', F, hc⟩ := P9.subscribe_ok U h1
  rcases hc with ⟨e1, ⟨e, ea⟩, hx⟩ | ⟨⟨t, ea⟩, hn, hx⟩
  · rw [ea] at h
    obtain ⟨er, e⟩ := pure_ok_inv h
    subst e
    exact ⟨U', F.sframe, Or.inl ⟨e1, by rw [er], hx⟩⟩
  · rw [ea] at h
    obtain ⟨er, e⟩ := pure_ok_inv h
    subst e
    exact ⟨U', F.sframe, Or.inr ⟨by rw [er], hn, hx⟩⟩

/-! ## `unsubscribe` -/

theorem P9.unsubscribe_fin {env : Env} {s s' : State} {o t : Nat} {ob : ObsRec}
    (U : UInv env s) (hob : s.observers[o]? = some ob) (hst : ob.state = .created ∨ ob.state = .inUse)
    (F : P9.HF s s')
    (hobs : s'.observers = s.observers.modify o fun x =>
      { x with handlers := x.handlers.filter (·.token != t) })
    (hno : ∀ m, (s'.nodeD m).observers = (s.nodeD m).observers)
    (hnum : ∀ m, (s'.nodeD m).numOnUpdateHandlers = (s.nodeD m).numOnUpdateHandlers -
      if m = ob.node ∧ ob.state = .inUse ∧ ob.handlers.any (·.token == t) = true then 1 else 0)
    (hhas : s'.handleAfterStab = s.handleAfterStab)
    (hfl : ∀ m, (s'.nodeD m).inHandleAfterStab = (s.nodeD m).inHandleAfterStab)
    (tok' : Life.TokWF s') : UInv env s' := by
  have H := U.hinv
  have K' : HasOK s' :=
    ⟨by rw [hhas]; exact H.has.nodup, fun n => by rw [hhas, hfl]; exact H.has.flag n⟩
  refine ⟨F.qinv U.core, ?_⟩
  refine P9.hinv_upd (g := fun l => l.filter (·.token != t))
    H U.core.obs hob hst hobs F.stabNum hno (fun m => ?_) tok' ?_ K'
    (fun m hm => by rw [hhas]; exact hm) (fun x hx => Or.inl (List.mem_filter.1 hx).1)
  · rw [hnum, P9.filter_token_length t ob.handlers (H.tokNodup o ob hob)]
    by_cases c1 : m = ob.node ∧ ob.state = .inUse
    · rw [if_pos c1]
      by_cases c2 : ob.handlers.any (·.token == t) = true
      · rw [if_pos ⟨c1.1, c1.2, c2⟩, if_pos c2]; omega
      · rw [if_neg (fun h => c2 h.2.2), if_neg c2]; omega
    · rw [if_neg c1, if_neg (fun h => c1 ⟨h.1, h.2.1⟩)]; omega
  · exact ((List.filter_sublist (l := ob.handlers)).map _).nodup (H.tokNodup o ob hob)

theorem P9.unsubscribe_ok {env : Env} {s s' : State} {o t owner : Nat} {a : Except ObsError Unit}
    (U : UInv env s) (h : (unsubscribe o t owner).run.run s = (.ok a, s')) :
    UInv env s' ∧ P9.HF s s' ∧ s'.nextToken = s.nextToken ∧
    (s' = s ∨
     (owner = o ∧ ∃ ob, s.observers[o]? = some ob ∧ (ob.state = .created ∨ ob.state = .inUse) ∧
        s'.observers = s.observers.modify o fun x =>
          { x with handlers := x.handlers.filter (·.token != t) })) := by
  have tok' : Life.TokWF s' := (Life.PresT.unsubscribe o t owner).h s _ s' h U.hinv.tok
  unfold unsubscribe at h
  split at h
  · obtain ⟨-, e⟩ := pure_ok_inv h
    subst e
    exact ⟨U, P9.HF.refl _, rfl, Or.inl rfl⟩
  rename_i hne
  have hown : owner = o := by simpa using hne
  obtain ⟨ob, hob, h⟩ := bind_getObs_inv h
  cases hst : ob.state with
  | disallowed =>
    rw [hst] at h
    obtain ⟨-, e⟩ := pure_ok_inv h
    subst e
    exact ⟨U, P9.HF.refl _, rfl, Or.inl rfl⟩
  | unlinked =>
    rw [hst] at h
    obtain ⟨-, e⟩ := pure_ok_inv h
    subst e
    exact ⟨U, P9.HF.refl _, rfl, Or.inl rfl⟩
  | created =>
    rw [hst] at h
    dsimp only at h
    obtain ⟨s2, e2, h⟩ := bind_modObs_inv h
    rw [if_neg (by simp)] at h
    obtain ⟨-, e⟩ := pure_ok_inv h
    subst e
    have F : P9.HF s s' := by rw [e2]; exact P9.HF.of_modObs s o _
    have hD : ∀ m, s'.nodeD m = s.nodeD m := fun m => by rw [e2]; rfl
    have U' := P9.unsubscribe_fin (t := t) U hob (Or.inl hst) F (by rw [e2]) (fun m => by rw [hD])
      (fun m => by rw [hD, hst]; simp) (by rw [e2]) (fun m => by rw [hD]) tok'
    exact ⟨U', F, by rw [e2], Or.inr ⟨hown, ob, hob, Or.inl hst, by rw [e2]⟩⟩
  | inUse =>
    rw [hst] at h
    dsimp only at h
    obtain ⟨s2, e2, h⟩ := bind_modObs_inv h
    have hlt : ob.node < s.nodes.size := U.core.obs.inRange o ob hob
    split at h
    · rename_i hc
      have hrem : ob.handlers.any (·.token == t) = true := by simpa using hc
      obtain ⟨s3, e3, h⟩ := bind_modNode_inv h
      obtain ⟨-, e⟩ := pure_ok_inv h
      subst e
      have F : P9.HF s s' := by
        rw [e3, e2]; exact (P9.HF.of_modObs s o _).trans (P9.HF.of_modNode _ _ _)
      have hD : ∀ m, s'.nodeD m = if ob.node = m ∧ m < s.nodes.size then
          { s.nodeD m with numOnUpdateHandlers := (s.nodeD m).numOnUpdateHandlers - 1 } else s.nodeD m := by
        intro m; rw [e3, e2]; exact nodeD_modify _ _ _ _
      have hnum : ∀ m, (s'.nodeD m).numOnUpdateHandlers = (s.nodeD m).numOnUpdateHandlers -
          if m = ob.node ∧ ob.state = .inUse ∧ ob.handlers.any (·.token == t) = true then 1 else 0 := by
        intro m
        rw [hD]
        by_cases c : ob.node = m
        · subst c
          rw [if_pos ⟨rfl, hlt⟩, if_pos ⟨rfl, hst, hrem⟩]
        · rw [if_neg (fun h => c h.1), if_neg (fun h => c h.1.symm)]; simp
      have U' := P9.unsubscribe_fin (t := t) U hob (Or.inr hst) F (by rw [e3, e2])
        (fun m => by rw [hD]; split <;> rfl) hnum (by rw [e3, e2]) (fun m => by rw [hD]; split <;> rfl) tok'
      exact ⟨U', F, by rw [e3, e2], Or.inr ⟨hown, ob, hob, Or.inr hst, by rw [e3, e2]⟩⟩
    · rename_i hc
      have hrem : ¬ ob.handlers.any (·.token == t) = true := by simpa using hc
      obtain ⟨-, e⟩ := pure_ok_inv h
      subst e
      have F : P9.HF s s' := by rw [e2]; exact P9.HF.of_modObs s o _
      have hD : ∀ m, s'.nodeD m = s.nodeD m := fun m => by rw [e2]; rfl
      have U' := P9.unsubscribe_fin (t := t) U hob (Or.inr hst) F (by rw [e2]) (fun m => by rw [hD])
        (fun m => by rw [hD, if_neg (fun h => hrem h.2.2)]; simp) (by rw [e2]) (fun m => by rw [hD]) tok'
      exact ⟨U', F, by rw [e2], Or.inr ⟨hown, ob, hob, Or.inr hst, by rw [e2]⟩⟩

/-- **`unsubscribe`.**  Either nothing changes, or the handler list of `o` (created or in use, and the owner of
token `t` according to the token table) loses the record of token `t`. -/
theorem step_unsubscribe {env : Env} {s s' : State} {o t : Nat} {tokens : Array Nat} {r : String × Array Nat}
    (U : UInv env s) (h : (stepAction env (.unsubscribe o t) tokens).run.run s = (.ok r, s')) :
    UInv env s' ∧ SFrame s s' ∧ r.2 = tokens ∧ s'.nextToken = s.nextToken ∧
    (s' = s ∨
     (tokens[t]? = some o ∧ ∃ ob, s.observers[o]? = some ob ∧ (ob.state = .created ∨ ob.state = .inUse) ∧
        s'.observers = s.observers.modify o fun x =>
          { x with handlers := x.handlers.filter (·.token != t) })) := by
  simp only [stepAction] at h
  cases ht : tokens[t]? with
  | none =>
    rw [ht] at h
    obtain ⟨er, e⟩ := pure_ok_inv h
    subst e
    exact ⟨U, SFrame.refl _, by rw [er], rfl, Or.inl rfl⟩
  | some owner =>
    rw [ht] at h
    dsimp only at h
    obtain ⟨a, s1, h1, h⟩ := bind_ok_inv h
    obtain ⟨U', F, hn, hc⟩ := P9.unsubscribe_ok U h1
    have hr : r.2 = tokens ∧ s' = s1 := by
      cases a with
      | ok u => cases u; obtain ⟨er, e⟩ := pure_ok_inv h; exact ⟨by rw [er], e⟩
      | error e => obtain ⟨er, e⟩ := pure_ok_inv h; exact ⟨by rw [er], e⟩
    obtain ⟨hr, e⟩ := hr
    subst e
    refine ⟨U', F.sframe, hr, hn, ?_⟩
    rcases hc with hc | ⟨hown, hc⟩
    · exact Or.inl hc
    · rw [hown]; exact Or.inr ⟨rfl, hc⟩

/-- **`stateUnsub`** (`State::unsubscribe`): as `unsubscribe owner t` when the owner is in `allObservers` -/
theorem step_stateUnsub {env : Env} {s s' : State} {t : Nat} {tokens : Array Nat} {r : String × Array Nat}
    (U : UInv env s) (h : (stepAction env (.stateUnsub t) tokens).run.run s = (.ok r, s')) :
    UInv env s' ∧ SFrame s s' ∧ r.2 = tokens ∧ s'.nextToken = s.nextToken ∧
    (s' = s ∨
     (∃ o ob, tokens[t]? = some o ∧ s.observers[o]? = some ob ∧ (ob.state = .created ∨ ob.state = .inUse) ∧
        s'.observers = s.observers.modify o fun x =>
          { x with handlers := x.handlers.filter (·.token != t) })) := by
  simp only [stepAction] at h
  cases ht : tokens[t]? with
  | none =>
    rw [ht] at h
    obtain ⟨er, e⟩ := pure_ok_inv h
    subst e
    exact ⟨U, SFrame.refl _, by rw [er], rfl, Or.inl rfl⟩
  | some owner =>
    rw [ht] at h
    dsimp only at h
    rw [run_bind_get] at h
    split at h
    · obtain ⟨u, s1, h1, h⟩ := bind_ok_inv h
      obtain ⟨er, e⟩ := pure_ok_inv h
      subst e
      obtain ⟨a, h1⟩ := discard_ok_inv h1
      obtain ⟨U', F, hn, hc⟩ := P9.unsubscribe_ok U h1
      refine ⟨U', F.sframe, by rw [er], hn, ?_⟩
      rcases hc with hc | ⟨-, ob, hc⟩
      · exact Or.inl hc
      · exact Or.inr ⟨owner, ob, rfl, hc⟩
    · obtain ⟨er, e⟩ := pure_ok_inv h
      subst e
      exact ⟨U, SFrame.refl _, by rw [er], rfl, Or.inl rfl⟩

end IncrVerif.Proofs.SubsH
