import IncrVerif.Proofs.MemoH11
/-!
# K3, invalidation part (2): `invalidateNode` in run form, `propagateInvalidity`

`inval_run`: invalidating a node that is not hereditarily static keeps `J` (`RegScoped` ∧ `TopValid`);
`sbi_not_stop`: a valid node that `should_be_invalidated` is not `STop` (its invalid child would be);
`prop_pres`: `propagateInvalidity` is a `GJ PT` step.
-/
namespace IncrVerif.Proofs.MemoH
open IncrVerif.Engine IncrVerif.Proofs.Obs IncrVerif.Proofs.Memo
open IncrVerif.Proofs.Step (run_bind_ok run_throw)
namespace KA

theorem inval_run (fuel n : Nat) (s : State) (r : Except Panic Unit) (s' : State)
    (h : (invalidateNode fuel n).run.run s = (r, s')) (hj : J s) (hn : ¬ STop s n) : Fut s s' ∧ J s' := by
  by_cases hlt : n < s.nodes.size
  · exact (inval_pres fuel n).h s r s' h hj ⟨hlt, hn⟩
  · have hnone : s.nodes[n]? = none := Array.getElem?_eq_none (Nat.le_of_not_lt hlt)
    cases fuel with
    | zero =>
      unfold Engine.invalidateNode at h
      rw [run_throw] at h
      cases h; exact ⟨Fut.refl _, hj⟩
    | succ fuel =>
      unfold Engine.invalidateNode at h
      have hg : (getNode n).run.run s = (.error (.site "model:no-such-node"), s) := by
        unfold Engine.getNode
        rw [run_bind, run_get]
        dsimp only
        rw [hnone]
        rfl
      rw [run_bind, hg] at h
      cases h; exact ⟨Fut.refl _, hj⟩

/-- a valid hereditarily static node whose inputs are all valid is not invalidated by `propagate_invalidity` -/
theorem sbi_not_stop {s : State} (hj : J s) {n : Nat} (hv : (s.nodeD n).valid = true)
    (hs : s.shouldBeInvalidated n = true) : ¬ STop s n := by
  intro hst
  have hk : (s.nodeD n).kind? = some (s.nodeD n).kind := by simp [Node.kind?, hv]
  have hkids := hst.kids
  have hstat := hst.static
  unfold State.shouldBeInvalidated State.children at hs
  rw [hk] at hs
  cases hkind : (s.nodeD n).kind <;> rw [hkind] at hs hstat hkids <;> simp only [StaticK] at hstat
  all_goals simp only [kindRefs] at hkids
  all_goals simp only [Bool.false_eq_true, List.any_eq_true, Bool.not_eq_true'] at hs
  all_goals
    obtain ⟨c, hc, hcv⟩ := hs
    have := hj.tv c (hkids c hc).2
    rw [hcv] at this
    cases this

/-- a run from one given state -/
def PresAt (R : State → State → Prop) {α} (m : M α) (s : State) : Prop :=
  ∀ r s', m.run.run s = (r, s') → R s s'

theorem Pres.at {R : State → State → Prop} {α} {m : M α} (h : Pres R m) (s : State) : PresAt R m s :=
  fun r s' e => h.h s r s' e

theorem PresAt.bind {R : State → State → Prop} [PreOrd R] {α β} {x : M α} {f : α → M β} {s : State}
    (hx : PresAt R x s) (hf : ∀ a, Pres R (f a)) : PresAt R (x >>= f) s := by
  intro r s' h
  rw [run_bind] at h
  rcases hx' : x.run.run s with ⟨r1, s1⟩
  rw [hx'] at h
  have h1 := hx r1 s1 hx'
  cases r1 with
  | ok a => exact PreOrd.trans h1 ((hf a).h s1 r s' h)
  | error e => cases h; exact h1

theorem bind_get_at {R : State → State → Prop} {β} (f : State → M β) (h : ∀ s0, PresAt R (f s0) s0) :
    Pres R (get >>= f) := by
  constructor
  intro s r s' e
  rw [run_bind, run_get] at e
  exact h s r s' e

theorem prop_pres (fuel : Nat) : Pres (GJ PT) (propagateInvalidity fuel) := by
  induction fuel with
  | zero => unfold Engine.propagateInvalidity; mpres
  | succ fuel ih =>
    unfold Engine.propagateInvalidity
    refine Pres.bind Pres.get fun l => ?_
    split
    · exact Pres.pure _
    · refine Pres.bind (by mleaf) fun _ => ?_
      refine bind_get_at _ fun s0 => ?_
      dsimp only
      split
      · split
        · refine PresAt.bind ?_ fun _ => ih
          intro r s' h hj _
          exact inval_run _ _ _ _ _ h hj (sbi_not_stop hj (by assumption) (by assumption))
        · refine Pres.at ?_ _
          mpres
          all_goals exact ih
      · exact Pres.at ih _

end KA
end IncrVerif.Proofs.MemoH
