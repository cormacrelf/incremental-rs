import IncrVerif.Proofs.BindH19
/-!
# Binds, linking cascade, part 1: what `GInvB` reads of a state; the pure step lemmas `addEdge_*`, `setHeight_open`

The `GInv`-dependent lemmas of `Quiet2`, `Quiet3` and the first half of `Quiet4`, for `GInvB`.
-/
namespace IncrVerif.Proofs.BindH
open IncrVerif.Engine IncrVerif.Proofs IncrVerif.Proofs.Step IncrVerif.Proofs.Sched IncrVerif.Proofs.Quiet

namespace BL

/-- the two states agree on what the fragment, the child lists and staleness read -/
structure KeyEq (s s' : State) : Prop where
  size : s'.nodes.size = s.nodes.size
  binds : s'.binds = s.binds
  vars : s'.vars = s.vars
  valid : ∀ m, (s'.nodeD m).valid = (s.nodeD m).valid
  kind : ∀ m, (s'.nodeD m).kind = (s.nodeD m).kind
  cutoff : ∀ m, (s'.nodeD m).cutoff = (s.nodeD m).cutoff
  createdIn : ∀ m, (s'.nodeD m).createdIn = (s.nodeD m).createdIn
  recomputedAt : ∀ m, (s'.nodeD m).recomputedAt = (s.nodeD m).recomputedAt
  changedAt : ∀ m, (s'.nodeD m).changedAt = (s.nodeD m).changedAt

namespace KeyEq
variable {env : Env} {s s' : State}

theorem children (E : KeyEq s s') (A : AllB env s) (m : Nat) : s'.children m = s.children m := by
  by_cases hm : m < s.nodes.size
  · exact children_congr_B (E.kind m) (E.valid m) E.binds (A.node m hm).kind
  · rw [children_default s m (by omega), children_default s' m (by rw [E.size]; omega)]

theorem isStale (E : KeyEq s s') (A : AllB env s) (m : Nat) : s'.isStale m = s.isStale m := by
  by_cases hm : m < s.nodes.size
  · exact isStale_congr_B (A.node m hm).kind (E.kind m) (E.valid m) (E.recomputedAt m) E.vars E.binds
      (fun c _ => E.changedAt c)
  · rw [isStale_default s m (by omega), isStale_default s' m (by rw [E.size]; omega)]

theorem frag (E : KeyEq s s') (A : AllB env s) (hpc : s'.panicCountdown = none)
    (hsc : s'.currentScope = .top) : AllB env s' := by
  refine ⟨hpc, hsc, fun n hn => ?_⟩
  have sn := A.node n (by rw [← E.size]; exact hn)
  refine ⟨by rw [E.valid]; exact sn.valid, by rw [E.kind]; exact sn.kind, by rw [E.cutoff]; exact sn.cutoff,
    by rw [E.createdIn]; exact sn.top, ?_, ?_, ?_, ?_⟩
  · rw [E.children A]; exact sn.kidsLt
  · rw [E.kind, E.binds]; exact sn.lcRec
  · rw [E.kind, E.binds]; exact sn.mainRec
  · intro c b hc hk
    rw [E.children A] at hc
    rw [E.kind] at hk ⊢
    exact sn.lcChild c b hc hk

theorem of_upd {n : Nat} {f : Node → Node} (U : NodeUpd n f s s') (K : KeepsG f) (hb : s'.binds = s.binds) :
    KeyEq s s' :=
  ⟨U.size, hb, U.vars, U.valid K, U.kind K, U.cutoff K, U.createdIn K, U.recomputedAt K, U.changedAt K⟩

theorem of_same (h : SameB s s') : KeyEq s s' :=
  ⟨h.g.size, h.binds, h.g.vars, fun m => (h.g.node m).valid, fun m => (h.g.node m).kind,
    fun m => (h.g.node m).cutoff, fun m => (h.g.node m).createdIn, fun m => (h.g.node m).recomputedAt,
    fun m => (h.g.node m).changedAt⟩

end KeyEq

theorem CFrame.binds {s s' : State} (h : CFrame s s') : s'.binds = s.binds := by
  have := h.key; simp only [stateKey, Prod.mk.injEq] at this; exact this.2.2.2.2.2.2.2.2.2.2.2.2.2.2.2.2.1

theorem CFrame.vars {s s' : State} (h : CFrame s s') : s'.vars = s.vars := by
  have := h.key; simp only [stateKey, Prod.mk.injEq] at this; exact this.1

theorem CFrame.scope {s s' : State} (h : CFrame s s') : s'.currentScope = s.currentScope := by
  have := h.key; simp only [stateKey, Prod.mk.injEq] at this; exact this.2.2.2.2.2.1

theorem KeyEq.of_cframe {s s' : State} (h : CFrame s s') : KeyEq s s' := by
  have hn : ∀ m, _ := fun m => by have := h.node m; simp only [nodeKey, Prod.mk.injEq] at this; exact this
  exact ⟨h.size, CFrame.binds h, CFrame.vars h, fun m => (hn m).2.2.2.2.1, fun m => (hn m).1,
    fun m => (hn m).2.2.1, fun m => (hn m).2.1, fun m => (hn m).2.2.2.2.2.1, fun m => (hn m).2.2.2.2.2.2.1⟩

/-! ## congruence -/

theorem GInvB.congr {env : Env} {s s' : State} {op : Nat → Op} {ex : Nat → Prop} (I : GInvB env s op ex)
    (hB : SameB s s') : GInvB env s' op ex := by
  have h := hB.g
  have E := KeyEq.of_same hB
  exact {
    frag := E.frag I.frag (by rw [h.pc]; exact I.frag.pc) (by rw [h.scope]; exact I.frag.scope)
    par := fun c p i hm => by
      rw [(h.node c).parents] at hm
      rw [E.children I.frag, h.wants]
      exact I.par c p i hm
    conv := fun p i c hk hw => by
      rw [E.children I.frag] at hk
      rw [h.wants] at hw
      rw [(h.node c).parents]
      exact I.conv p i c hk hw
    nodup := fun c => by rw [(h.node c).parents]; exact I.nodup c
    hlt := fun c p i hm ho => by
      rw [(h.node c).parents] at hm
      rw [(h.node c).height, (h.node p).height]
      exact I.hlt c p i hm ho
    hpos := fun n hn ho => by
      rw [h.nec] at hn
      rw [(h.node n).height]; exact I.hpos n hn ho
    lnec := fun p k ho => by rw [h.nec]; exact I.lnec p k ho
    unec := fun p k ho => by rw [h.nec]; exact I.unec p k ho
    heap := I.heap.congr h.rch h.size (fun m => (h.node m).heightInRch)
    hgt := fun m hq ho => by
      rw [h.inRch] at hq
      rw [(h.node m).heightInRch, (h.node m).height]; exact I.hgt m hq ho
    qnec := fun m hq => by
      rw [h.inRch] at hq
      rw [h.nec]; exact I.qnec m hq
    queued := fun m ho hn hs hx => by
      rw [h.nec] at hn
      rw [E.isStale I.frag] at hs
      rw [h.inRch]; exact I.queued m ho hn hs hx
    qstale := fun m hq => by
      rw [h.inRch] at hq
      rw [E.isStale I.frag]; exact I.qstale m hq
    opLt := fun m ho => by rw [h.size]; exact I.opLt m ho }

/-- an unnecessary closed node is not queued -/
theorem GInvB.not_queued_of_not_nec {env : Env} {s : State} {op : Nat → Op} {ex : Nat → Prop}
    (I : GInvB env s op ex) {c : Nat}
    (hc : s.isNecessary c = false) (hcl : op c = .closed) : (s.nodeD c).inRch = false := by
  cases h : (s.nodeD c).inRch
  · rfl
  · rcases I.qnec c h with h1 | ⟨k, h1⟩
    · rw [hc] at h1; cases h1
    · rw [hcl] at h1; cases h1

section
variable {env : Env} {s s' : State} {op : Nat → Op} {ex : Nat → Prop}

/-! ## linking -/

/-- `addParent c idx p` where `c` is already necessary (and closed) -/
theorem GInvB.addEdge_nec {c p idx : Nat} (I : GInvB env s op ex)
    (U : NodeUpd c (fParents ((s.nodeD c).parents ++ [(p, idx)])) s s') (hb : s'.binds = s.binds)
    (hop : op p = .linking idx) (hk : (s.children p)[idx]? = some c)
    (hc : s.isNecessary c = true) (_hcl : op c = .closed) :
    GInvB env s' (upd op p (.linking (idx + 1))) ex := by
  have K := keeps_fParents ((s.nodeD c).parents ++ [(p, idx)])
  have E := KeyEq.of_upd U K hb
  have hcp : c < p := I.kid_lt hk
  have hne : c ≠ p := by omega
  have hpc : (s'.nodeD c).parents = (s.nodeD c).parents ++ [(p, idx)] := U.parents_self
  have hht : ∀ m, (s'.nodeD m).height = (s.nodeD m).height := fun m => by
    by_cases h : m = c
    · rw [h]; exact U.height_self
    · exact U.height_other h
  have hmem : ∀ m x, x ∈ (s'.nodeD m).parents ↔ (x ∈ (s.nodeD m).parents ∨ (m = c ∧ x = (p, idx))) := by
    intro m x
    by_cases h : m = c
    · rw [h, hpc, List.mem_append, List.mem_singleton]; simp
    · rw [U.parents_other h]; simp [h]
  have hnec : ∀ m, s'.isNecessary m = s.isNecessary m := fun m => by
    by_cases h : m = c
    · rw [h, hc]; exact nec_of_mem_parents (x := (p, idx)) ((hmem c _).2 (Or.inr ⟨rfl, rfl⟩))
    · exact U.nec_other h
  have hcl' : ∀ m, upd op p (.linking (idx + 1)) m = .closed → m ≠ p ∧ op m = .closed :=
    fun m h => upd_closed_inv (Op.linking_ne_closed _) h
  have hw : ∀ q i, Wants s' (upd op p (.linking (idx + 1))) q i ↔ (Wants s op q i ∨ (q = p ∧ i = idx)) := by
    intro q i
    by_cases h : q = p
    · rw [h, wants_linking (upd_self ..), wants_linking hop]
      constructor
      · intro h1
        by_cases h2 : i = idx
        · exact Or.inr ⟨rfl, h2⟩
        · exact Or.inl (by omega)
      · rintro (h1 | ⟨-, h1⟩) <;> omega
    · unfold Wants
      rw [upd_other _ _ _ h, hnec]
      simp [h]
  refine { frag := E.frag I.frag (by rw [U.pc]; exact I.frag.pc) (by rw [U.scope]; exact I.frag.scope),
           par := ?_, conv := ?_, nodup := ?_, hlt := ?_, hpos := ?_,
           lnec := ?_, unec := ?_, heap := U.heap K I.heap, hgt := ?_, qnec := ?_, queued := ?_,
           qstale := ?_, opLt := ?_ }
  · intro c' q i hm
    rw [E.children I.frag, hw]
    rcases (hmem _ _).1 hm with h | ⟨h1, h2⟩
    · exact ⟨(I.par c' q i h).1, Or.inl (I.par c' q i h).2⟩
    · cases h2; rw [h1]; exact ⟨hk, Or.inr ⟨rfl, rfl⟩⟩
  · intro q i c' hk' hw'
    rw [E.children I.frag] at hk'
    rw [hmem]
    rcases (hw q i).1 hw' with h | ⟨h1, h2⟩
    · exact Or.inl (I.conv q i c' hk' h)
    · rw [h1, h2, hk] at hk'; cases hk'; exact Or.inr ⟨rfl, by rw [h1, h2]⟩
  · intro m
    by_cases h : m = c
    · rw [h, hpc, List.nodup_append]
      refine ⟨I.nodup c, by simp, ?_⟩
      intro a ha b hb
      rw [List.mem_singleton] at hb
      rw [hb]; intro e; rw [e] at ha
      have := (wants_linking hop).1 (I.par c p idx ha).2
      omega
    · rw [U.parents_other h]; exact I.nodup m
  · intro c' q i hm ho
    obtain ⟨h1, h2⟩ := hcl' q ho
    rw [hht, hht]
    rcases (hmem _ _).1 hm with h | ⟨-, h3⟩
    · exact I.hlt c' q i h h2
    · cases h3; exact absurd rfl h1
  · intro m hn ho
    rw [hnec] at hn
    rw [hht]; exact I.hpos m hn (hcl' m ho).2
  · intro q k ho
    rw [hnec]
    by_cases h : q = p
    · rw [h]; exact I.lnec p idx hop
    · rw [upd_other _ _ _ h] at ho; exact I.lnec q k ho
  · intro q k ho
    rw [hnec]
    by_cases h : q = p
    · rw [h, upd_self] at ho; cases ho
    · rw [upd_other _ _ _ h] at ho; exact I.unec q k ho
  · intro m hq ho
    rw [U.inRch K] at hq
    rw [U.heightInRch K, hht]; exact I.hgt m hq (hcl' m ho).2
  · intro m hq
    rw [U.inRch K] at hq
    rw [hnec]
    rcases I.qnec m hq with h | ⟨k, h⟩
    · exact Or.inl h
    · refine Or.inr ⟨k, ?_⟩
      have : m ≠ p := by intro e; rw [e, hop] at h; cases h
      rw [upd_other _ _ _ this]; exact h
  · intro m ho hn hs hx
    rw [hnec] at hn
    rw [E.isStale I.frag] at hs
    rw [U.inRch K]; exact I.queued m (hcl' m ho).2 hn hs hx
  · intro m hq
    rw [U.inRch K] at hq
    rw [E.isStale I.frag]; exact I.qstale m hq
  · intro m ho
    rw [U.size]
    by_cases h : m = p
    · rw [h]; exact I.opLt p (by rw [hop]; exact Op.linking_ne_closed _)
    · rw [upd_other _ _ _ h] at ho; exact I.opLt m ho

/-- `addParent c idx p` where `c` was unnecessary (and closed): `c` is now open with no edge recorded, and it is
not queued -/
theorem GInvB.addEdge_open {c p idx : Nat} (I : GInvB env s op ex)
    (U : NodeUpd c (fParents ((s.nodeD c).parents ++ [(p, idx)])) s s') (hb : s'.binds = s.binds)
    (hop : op p = .linking idx) (hk : (s.children p)[idx]? = some c)
    (hc : s.isNecessary c = false) (hcl : op c = .closed) :
    GInvB env s' (upd (upd op p (.linking (idx + 1))) c (.linking 0)) ex ∧
      (s'.nodeD c).parents = [(p, idx)] ∧ (s'.nodeD c).inRch = false := by
  have K := keeps_fParents ((s.nodeD c).parents ++ [(p, idx)])
  have E := KeyEq.of_upd U K hb
  have hcp : c < p := I.kid_lt hk
  have hne : c ≠ p := by omega
  have hpar0 : (s.nodeD c).parents = [] := parents_nil_of_not_nec hc
  have hpc : (s'.nodeD c).parents = [(p, idx)] := by rw [U.parents_self]; simp [fParents, hpar0]
  have hcq : (s.nodeD c).inRch = false := GInvB.not_queued_of_not_nec I hc hcl
  refine ⟨?_, hpc, by rw [U.inRch K]; exact hcq⟩
  have hht : ∀ m, (s'.nodeD m).height = (s.nodeD m).height := fun m => by
    by_cases h : m = c
    · rw [h]; exact U.height_self
    · exact U.height_other h
  have hmem : ∀ m x, x ∈ (s'.nodeD m).parents ↔ (x ∈ (s.nodeD m).parents ∨ (m = c ∧ x = (p, idx))) := by
    intro m x
    by_cases h : m = c
    · rw [h, hpc, hpar0, List.mem_singleton]; simp
    · rw [U.parents_other h]; simp [h]
  have hnec : ∀ m, m ≠ c → s'.isNecessary m = s.isNecessary m := fun m h => U.nec_other h
  have hnecc : s'.isNecessary c = true :=
    nec_of_mem_parents (x := (p, idx)) ((hmem c _).2 (Or.inr ⟨rfl, rfl⟩))
  have hopc : upd (upd op p (.linking (idx + 1))) c (.linking 0) c = .linking 0 := upd_self ..
  have hopp : upd (upd op p (.linking (idx + 1))) c (.linking 0) p = .linking (idx + 1) := by
    rw [upd_other _ _ _ (Ne.symm hne), upd_self]
  have hopo : ∀ m, m ≠ c → m ≠ p → upd (upd op p (.linking (idx + 1))) c (.linking 0) m = op m := by
    intro m h1 h2; rw [upd_other _ _ _ h1, upd_other _ _ _ h2]
  have hcl' : ∀ m, upd (upd op p (.linking (idx + 1))) c (.linking 0) m = .closed →
      m ≠ c ∧ m ≠ p ∧ op m = .closed := by
    intro m h
    obtain ⟨h1, h2⟩ := upd_closed_inv (Op.linking_ne_closed _) h
    obtain ⟨h3, h4⟩ := upd_closed_inv (Op.linking_ne_closed _) h2
    exact ⟨h1, h3, h4⟩
  have hw : ∀ q i, Wants s' (upd (upd op p (.linking (idx + 1))) c (.linking 0)) q i ↔
      (Wants s op q i ∨ (q = p ∧ i = idx)) := by
    intro q i
    by_cases h : q = p
    · rw [h, wants_linking hopp, wants_linking hop]
      constructor
      · intro h1
        by_cases h2 : i = idx
        · exact Or.inr ⟨rfl, h2⟩
        · exact Or.inl (by omega)
      · rintro (h1 | ⟨-, h1⟩) <;> omega
    · by_cases h' : q = c
      · rw [h', wants_linking hopc, wants_closed hcl, hc]; simp [hne]
      · unfold Wants
        rw [hopo q h' h, hnec q h']
        simp [h]
  refine { frag := E.frag I.frag (by rw [U.pc]; exact I.frag.pc) (by rw [U.scope]; exact I.frag.scope),
           par := ?_, conv := ?_, nodup := ?_, hlt := ?_, hpos := ?_,
           lnec := ?_, unec := ?_, heap := U.heap K I.heap, hgt := ?_, qnec := ?_, queued := ?_,
           qstale := ?_, opLt := ?_ }
  · intro c' q i hm
    rw [E.children I.frag, hw]
    rcases (hmem _ _).1 hm with h | ⟨h1, h2⟩
    · exact ⟨(I.par c' q i h).1, Or.inl (I.par c' q i h).2⟩
    · cases h2; rw [h1]; exact ⟨hk, Or.inr ⟨rfl, rfl⟩⟩
  · intro q i c' hk' hw'
    rw [E.children I.frag] at hk'
    rw [hmem]
    rcases (hw q i).1 hw' with h | ⟨h1, h2⟩
    · exact Or.inl (I.conv q i c' hk' h)
    · rw [h1, h2, hk] at hk'; cases hk'; exact Or.inr ⟨rfl, by rw [h1, h2]⟩
  · intro m
    by_cases h : m = c
    · rw [h, hpc]; simp
    · rw [U.parents_other h]; exact I.nodup m
  · intro c' q i hm ho
    obtain ⟨-, h1, h2⟩ := hcl' q ho
    rw [hht, hht]
    rcases (hmem _ _).1 hm with h | ⟨-, h3⟩
    · exact I.hlt c' q i h h2
    · cases h3; exact absurd rfl h1
  · intro m hn ho
    obtain ⟨h1, -, h2⟩ := hcl' m ho
    rw [hnec m h1] at hn
    rw [hht]; exact I.hpos m hn h2
  · intro q k ho
    by_cases h' : q = c
    · rw [h']; exact hnecc
    · rw [hnec q h']
      by_cases h : q = p
      · rw [h]; exact I.lnec p idx hop
      · rw [hopo q h' h] at ho; exact I.lnec q k ho
  · intro q k ho
    by_cases h' : q = c
    · rw [h', hopc] at ho; cases ho
    · rw [hnec q h']
      by_cases h : q = p
      · rw [h, hopp] at ho; cases ho
      · rw [hopo q h' h] at ho; exact I.unec q k ho
  · intro m hq ho
    rw [U.inRch K] at hq
    rw [U.heightInRch K, hht]; exact I.hgt m hq (hcl' m ho).2.2
  · intro m hq
    rw [U.inRch K] at hq
    have h' : m ≠ c := by intro e; rw [e, hcq] at hq; cases hq
    rw [hnec m h']
    rcases I.qnec m hq with h | ⟨k, h⟩
    · exact Or.inl h
    · refine Or.inr ⟨k, ?_⟩
      have : m ≠ p := by intro e; rw [e, hop] at h; cases h
      rw [hopo m h' this]; exact h
  · intro m ho hn hs hx
    obtain ⟨h1, -, h2⟩ := hcl' m ho
    rw [hnec m h1] at hn
    rw [E.isStale I.frag] at hs
    rw [U.inRch K]; exact I.queued m h2 hn hs hx
  · intro m hq
    rw [U.inRch K] at hq
    rw [E.isStale I.frag]; exact I.qstale m hq
  · intro m ho
    rw [U.size]
    by_cases h' : m = c
    · rw [h']; exact U.lt
    · by_cases h : m = p
      · rw [h]; exact I.opLt p (by rw [hop]; exact Op.linking_ne_closed _)
      · rw [hopo m h' h] at ho; exact I.opLt m ho

/-- the height of an open node whose parents are all open is not constrained -/
theorem GInvB.setHeight_open {n : Nat} {h : Int} (I : GInvB env s op ex) (U : NodeUpd n (fHeight h) s s')
    (hb : s'.binds = s.binds)
    (hop : op n ≠ .closed) (hpar : ∀ p i, (p, i) ∈ (s.nodeD n).parents → op p ≠ .closed) :
    GInvB env s' op ex := by
  have K := keeps_fHeight h
  have E := KeyEq.of_upd U K hb
  have hpa : ∀ m, (s'.nodeD m).parents = (s.nodeD m).parents := fun m => by
    by_cases e : m = n
    · rw [e]; exact U.parents_self
    · exact U.parents_other e
  have hnec : ∀ m, s'.isNecessary m = s.isNecessary m := fun m => by
    by_cases e : m = n
    · rw [e]
      simp only [State.isNecessary, Node.isNecessary, U.self.parents, U.self.observers, U.self.forceNecessary]
      rfl
    · exact U.nec_other e
  have hw : ∀ q i, Wants s' op q i ↔ Wants s op q i := fun q i => by unfold Wants; rw [hnec]
  have hcn : ∀ m, op m = .closed → m ≠ n := fun m ho e => hop (e ▸ ho)
  refine { frag := E.frag I.frag (by rw [U.pc]; exact I.frag.pc) (by rw [U.scope]; exact I.frag.scope),
           par := ?_, conv := ?_, nodup := ?_, hlt := ?_, hpos := ?_,
           lnec := ?_, unec := ?_, heap := U.heap K I.heap, hgt := ?_, qnec := ?_, queued := ?_,
           qstale := ?_, opLt := ?_ }
  · intro c q i hm
    rw [hpa] at hm
    rw [E.children I.frag, hw]; exact I.par c q i hm
  · intro q i c hk hw'
    rw [E.children I.frag] at hk
    rw [hw] at hw'
    rw [hpa]; exact I.conv q i c hk hw'
  · intro m; rw [hpa]; exact I.nodup m
  · intro c q i hm ho
    rw [hpa] at hm
    have h1 : c ≠ n := by intro e; rw [e] at hm; exact hpar q i hm ho
    rw [U.height_other h1, U.height_other (hcn q ho)]
    exact I.hlt c q i hm ho
  · intro m hn ho
    rw [hnec] at hn
    rw [U.height_other (hcn m ho)]; exact I.hpos m hn ho
  · intro q k ho
    rw [hnec]; exact I.lnec q k ho
  · intro q k ho
    rw [hnec]; exact I.unec q k ho
  · intro m hq ho
    rw [U.inRch K] at hq
    rw [U.heightInRch K, U.height_other (hcn m ho)]; exact I.hgt m hq ho
  · intro m hq
    rw [U.inRch K] at hq
    rw [hnec]; exact I.qnec m hq
  · intro m ho hn hs hx
    rw [hnec] at hn
    rw [E.isStale I.frag] at hs
    rw [U.inRch K]; exact I.queued m ho hn hs hx
  · intro m hq
    rw [U.inRch K] at hq
    rw [E.isStale I.frag]; exact I.qstale m hq
  · intro m ho
    rw [U.size]; exact I.opLt m ho

end

end BL

end IncrVerif.Proofs.BindH
