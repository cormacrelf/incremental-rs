import IncrVerif.Proofs.DriverH26
/-!
# Drivers: the real run of a driver, part 2 — `stepMapSpec`

One `recomputeOne` of a `map` node with a user function: its effects rewire the expert nodes it drives (`StepW` on
the virtual states, by the contracts `EffectsSpec`, `MidOfDInv`, `StepWOfMid`), then `maybeChangeValue` is an ordinary
static step `BindH.StepRelB` of the node in the new graph.
-/
namespace IncrVerif.Proofs.DriverH
open IncrVerif.Engine IncrVerif.Driver IncrVerif.Proofs IncrVerif.Proofs.Step IncrVerif.Proofs.Sched
open IncrVerif.Proofs.ExpertH IncrVerif.Proofs.ExpertH.QR IncrVerif.Proofs.EffH

/-- the fields of `nodeKey`, one by one -/
theorem EF.nk {D : Nat → Prop} {s s' : State} (h : EF D s s') (m : Nat) :
    (s'.nodeD m).kind = (s.nodeD m).kind ∧ (s'.nodeD m).createdIn = (s.nodeD m).createdIn ∧
    (s'.nodeD m).cutoff = (s.nodeD m).cutoff ∧ (s'.nodeD m).value = (s.nodeD m).value ∧
    (s'.nodeD m).valid = (s.nodeD m).valid ∧ (s'.nodeD m).recomputedAt = (s.nodeD m).recomputedAt ∧
    (s'.nodeD m).changedAt = (s.nodeD m).changedAt ∧ (s'.nodeD m).observers = (s.nodeD m).observers ∧
    (s'.nodeD m).forceNecessary = (s.nodeD m).forceNecessary ∧
    (s'.nodeD m).numOnUpdateHandlers = (s.nodeD m).numOnUpdateHandlers := by
  have := h.node m
  simpa only [nodeKey, Prod.mk.injEq] using this

theorem EF.dnKey {D : Nat → Prop} {s s' : State} (h : EF D s s') (m : Nat) :
    dnKey (s'.nodeD m) = dnKey (s.nodeD m) := by
  obtain ⟨h1, h2, h3, -, h5, -, -, h8, h9, h10⟩ := h.nk m
  simp only [DriverH.dnKey, h1, h2, h3, h5, h8, h9, h10]


/-! ## the run, split -/

/-- the event a user `map` node logs -/
def mapEv (env : Env) (n f : Nat) (vals : List Val) : Event := .inv s!"f{f}" n vals (env.fn f vals).render

theorem keep_mapEv (env : Env) (n f : Nat) (vals : List Val) : ∀ e, e ∈ [mapEv env n f vals] → keepEv e = true := by
  intro e he; simp only [List.mem_singleton] at he; subst he; exact isF_f f

/-- a successful run of a user `map` node: the arguments were read, the effects ran from `started n s` to some `s2`,
then `maybeChangeValue` ran from `s2` (with the event logged) to the final state -/
theorem run_split {env : Env} {fuel n f : Nat} {args : List Nat} {s s' : State} {r : Option Nat}
    (F : XFrag (noEff env) s) (hlt : n < s.nodes.size) (hk : (s.nodeD n).kind = .map f args) (hf : f < fnZip)
    (h : (recomputeOne env fuel n).run.run s = (.ok r, s')) :
    ∃ vals s2, valuesOf env s args = some vals ∧
      (runEffects env fuel (env.fnEff f vals) ((vals.headD .unit).toInt)).run.run (started n s) = (.ok (), s2) ∧
      (maybeChangeValue env fuel n (env.fn f vals)).run.run (logged [mapEv env n f vals] s2) = (.ok r, s') := by
  have hnd := some_of_lt hlt
  have hval := F.valid n hlt
  obtain ⟨vals, hvals⟩ := recomputeOne_ok_vals hnd hval (Or.inl ⟨f, hk⟩) h
  rw [recomputeOne_mapEff_run env fuel n s _ f args vals hnd hval hk hf hvals F.pc] at h
  obtain ⟨u, s2, hX, h2⟩ := bind_ok_inv h
  rw [run_bind_logEv] at h2
  exact ⟨vals, s2, hvals, hX, h2⟩


/-! ## the static step in the new graph -/

theorem eKey_fields {a b : State} (h : eKey a = eKey b) :
    a.vars = b.vars ∧ a.binds = b.binds ∧ a.stabNum = b.stabNum ∧ a.top = b.top ∧
      a.propagateInvalidity = b.propagateInvalidity ∧ a.panicCountdown = b.panicCountdown := by
  simp only [eKey, Prod.mk.injEq] at h
  obtain ⟨h1, h2, h3, -, -, -, -, -, -, -, -, -, -, h14, h15, -, -, h18⟩ := h
  exact ⟨h1, h2, h3, h15, h14, h18⟩

theorem map_not_expert {k : Kind} {f : Nat} {args : List Nat} (hk : k = .map f args) : ∀ e, k ≠ .expert e := by
  intro e h; rw [hk] at h; cases h

/-- the run of `maybeChangeValue` after the effects is a static step `StepRelB` of `n` from the unstamped virtual
state of `s2`, towards the target of `n`'s defining expression -/
theorem static_step {env : Env} {fuel n f : Nat} {args : List Nat} {vals : List Val} {s s2 s' : State}
    {r : Option Nat} {D : Nat → Prop}
    (frs : Fr s) (hlt : n < s.nodes.size)
    (hk : (s.nodeD n).kind = .map f args) (hvals : valuesOf env s args = some vals)
    (M2 : Mid (noEff env) s2) (ef : EF D (started n s) s2)
    (I' : BindH.DInv (virtEnv (noEff env)) (unstamp n (s.nodeD n).recomputedAt (virt s2)) (some n))
    (h : (maybeChangeValue env fuel n (env.fn f vals)).run.run (logged [mapEv env n f vals] s2) = (.ok r, s')) :
    ∃ ch, BindH.StepRelB n (env.fn f vals) ch r (unstamp n (s.nodeD n).recomputedAt (virt s2)) (virt s') ∧
      BindH.TargetB (virtEnv (noEff env)) (unstamp n (s.nodeD n).recomputedAt (virt s2)) n (env.fn f vals) ∧
      Fr s' := by
  have fr2 : Fr s2 := M2.fr
  obtain ⟨hvirt, fr'⟩ := Sim.maybeChangeValue env fuel n _ _ (fr2.logged _) r s' h
  rw [virt_logged _ _ (keep_mapEv env n f vals)] at hvirt
  have henv : maybeChangeValue (virtEnv (noEff env)) fuel n (env.fn f vals) =
      maybeChangeValue (virtEnv env) fuel n (env.fn f vals) := mcv_noEff (virtEnv env) fuel n _
  rw [← henv] at hvirt
  obtain ⟨k1, -, -, -, -, k6, -, -, -, -⟩ := ef.nk n
  have hkn2 : (s2.nodeD n).kind = .map f args := by rw [k1, started_kind, hk]
  have hvn : (virt s2).nodeD n = s2.nodeD n := by
    rw [virt_nodeD, virtNode_of_not_expert _ _ (map_not_expert hkn2)]
  have hstab : s2.stabNum = s.stabNum := (eKey_fields ef.key).2.2.1
  have hrec : ((logged [mapEv env n f vals] (virt s2)).nodeD n).recomputedAt =
      (unstamp n (s.nodeD n).recomputedAt (virt s2)).stabNum := by
    show ((virt s2).nodeD n).recomputedAt = s2.stabNum
    rw [hvn, k6, hstab, started_nodeD, if_pos ⟨rfl, hlt⟩]
  obtain ⟨ch, R⟩ := BindH.BS.mcv_stepB I'.graph I'.heap (I'.cur n rfl).1
    (upd_unstamp n _ (virt s2) _ fr2.pc) rfl (unstamp_fields n _ (virt s2) n).1.symm hrec
    (unstamp_fields n _ (virt s2) n).2.1.symm hvirt
  refine ⟨ch, R, ?_, fr'⟩
  have hkU : ((unstamp n (s.nodeD n).recomputedAt (virt s2)).nodeD n).kind = .map f args := by
    rw [← (unstamp_shape n _ (virt s2) n).kind, hvn, hkn2]
  simp only [BindH.TargetB, Target, hkU]
  refine ⟨vals, ?_, rfl⟩
  rw [valuesOf_eq_evalArgs] at hvals
  rw [← hvals]
  unfold plainVals
  refine evalArgs_congr _ _ _ fun a _ => ?_
  rw [value_plain env s a (frs.not_mapRef a), (unstamp_fields n _ (virt s2) a).1, virt_nodeD, virtNode_value,
    (ef.nk a).2.2.2.1, (started_value_field n s a).1]


/-! ## what the run of `maybeChangeValue` keeps -/

/-- the auxiliary invariant, the state fields, the node fields and the protected edges along the run of
`maybeChangeValue` that ends a run of a `map` node -/
theorem post_frames {env : Env} {fuel n : Nat} {v : Val} {ch : Bool} {r0 : Int} {es : List Event} {s2 s' : State}
    {r : Option Nat}
    (A2 : AuxD (noEff env) s2) (fr' : Fr s')
    (R : BindH.StepRelB n v ch r (unstamp n r0 (virt s2)) (virt s'))
    (h : (maybeChangeValue env fuel n v).run.run (logged es s2) = (.ok r, s')) :
    AuxD (noEff env) s' ∧ s'.nodes.size = s2.nodes.size ∧ eKey s' = eKey s2 ∧
      (∀ m, dnKey (s'.nodeD m) = dnKey (s2.nodeD m)) ∧ (∀ m x, Drives s2 m x → Drives s' m x) := by
  have hxf : XF s2 s' :=
    (XF.of_nodes rfl rfl rfl : XF s2 (logged es s2)).trans ((PresX.maybeChangeValue env fuel n v).h _ _ _ h)
  have hahf : AhF s2 s' :=
    (AhF.of_nodes rfl rfl : AhF s2 (logged es s2)).trans ((PresAh.maybeChangeValue env fuel n v).h _ _ _ h)
  have hxs : XS s2 s' :=
    (XS.of_experts rfl : XS s2 (logged es s2)).trans ((PresS.maybeChangeValue env fuel n v).h _ _ _ h)
  have C : Calm (logged es s2) s' := (PresC.maybeChangeValue env fuel n v).h _ _ _ h
  have hnum : ∀ m, (s'.nodeD m).numOnUpdateHandlers = (s2.nodeD m).numOnUpdateHandlers := fun m => C.num m
  -- the shapes, read in the virtual states
  have shv : ∀ m, SameShape ((virt s2).nodeD m) ((virt s').nodeD m) := fun m =>
    (SameShape.symm (unstamp_shape n r0 (virt s2) m)).trans (R.shapes m)
  have sh : ∀ m, (s'.nodeD m).createdIn = (s2.nodeD m).createdIn ∧ (s'.nodeD m).valid = (s2.nodeD m).valid ∧
      (s'.nodeD m).cutoff = (s2.nodeD m).cutoff ∧ (s'.nodeD m).parents = (s2.nodeD m).parents ∧
      (s'.nodeD m).observers = (s2.nodeD m).observers ∧
      (s'.nodeD m).forceNecessary = (s2.nodeD m).forceNecessary := by
    intro m
    have k := shv m
    rw [virt_nodeD, virt_nodeD] at k
    exact ⟨k.createdIn, k.valid, k.cutoff, k.parents, k.observers, k.forceNecessary⟩
  have hsz : s'.nodes.size = s2.nodes.size := hxf.size
  have hkey : eKey s' = eKey s2 :=
    eKey_mcv (s := logged es s2) A2.handlers R.vars R.stabNum R.qsize (R.pc.trans A2.frag.pc.symm) h
  refine ⟨⟨A2.frag.of_xf hxf fr', ahhEmpty_of_ahf A2.ahh hahf, fr'.pinv, fun m => by rw [hnum]; exact A2.handlers m,
    ?_, fun c => by rw [(sh c).2.2.2.1]; exact A2.nodup c, ?_⟩, hsz, hkey, fun m => ?_,
    fun m x hd => hd.of_xf_xs hxf hxs⟩
  · obtain ⟨rk, A⟩ := A2.rank
    refine ⟨rk, allStatic_of_shapes A (by rw [virt_size, virt_size, hsz]) shv R.pc ?_⟩
    have K : KeyD (logged es s2) s' := (PresK.maybeChangeValue env fuel n v).h _ _ _ h
    have hK : stateKeyD s' = stateKeyD (logged es s2) := K
    simp only [stateKeyD, Prod.mk.injEq] at hK
    exact hK.2.2.1
  · exact varsOK_of_shapes A2.vars (by rw [virt_size, virt_size, hsz]) shv R.vars
  · obtain ⟨h1, h2, h3, -, h5, h6⟩ := sh m
    simp only [dnKey, hxf.kind m, h1, h2, h3, h5, h6, hnum m]


/-! ## the rewiring step keeps the stamps of this round -/

theorem frameB_of_stepW {env : Env} {X : Nat → Prop} {n : Nat} {S S' : State} (I : BindH.DInv env S (some n))
    (W : StepW env X n S S') : BindH.FrameB S S' :=
  PerKeyH.frameB_of_stepP I W.toP

/-! ## the theorem -/

/-- **One `recomputeOne` of a `map` node with a user function** (possibly a driver), from the drain invariant with
drivers, given the contracts of the effect list and the two bridges. -/
theorem stepMapSpec (env : Env) (hEff : EffectsSpec env) (hM : MidOfDInv (EffH.noEff env))
    (hW : StepWOfMid (EffH.noEff env)) : StepMapSpec env := by
  intro fuel n f args s s' r D hk hf h
  have I := D.inv
  have A := D.aux
  obtain ⟨hnecV, hltV, -, -, -⟩ := I.cur_facts
  have hlt : n < s.nodes.size := by rw [← virt_size]; exact hltV
  have hnec : s.isNecessary n = true := by rw [← virt_isNecessary]; exact hnecV
  have frs : Fr s := A.frag.fr A.pinv
  have hne := map_not_expert hk
  -- the run, split
  obtain ⟨vals, s2, hvals, hX, hrun⟩ := run_split A.frag hlt hk hf h
  -- the effects
  have M1 : Mid (noEff env) (started n s) := hM n s I A hne
  have hOK : ∀ eff, eff ∈ env.fnEff f vals → EffOK (started n s) n eff := fun eff he =>
    (D.drv n f args hlt hk hf vals eff he).to_started
  obtain ⟨M2, ef, hDr, hn2⟩ := hEff fuel n _ _ (started n s) s2 M1 hOK hX
  have hnec2 : s2.isNecessary n = true := hn2 (by rw [started_isNecessary]; exact hnec)
  -- the rewiring step of the virtual states
  obtain ⟨W, A2⟩ := hW n (DOf (started n s) n) s s2 I A hne M2 ef
    (fun e x hD hkx => driver_child A.frag hD hkx) hnec2
  have I' := stepW_inv I W
  -- the static step of `n` in the new graph
  obtain ⟨ch, R, ht, fr'⟩ := static_step frs hlt hk hvals M2 ef I' hrun
  have I'' := BindH.stepB_inv I' ht R
  -- frames
  obtain ⟨A', hsz, hkey, hnode, hDr'⟩ := post_frames A2 fr' R hrun
  have hsize : s'.nodes.size = s.nodes.size := hsz.trans (ef.size.trans (started_size n s))
  have hkey' : eKey s' = eKey s := hkey.trans ef.key
  have hnode' : ∀ m, dnKey (s'.nodeD m) = dnKey (s.nodeD m) := fun m =>
    (hnode m).trans ((ef.dnKey m).trans (started_dnKey n s m))
  have hkind : ∀ m, (s'.nodeD m).kind = (s.nodeD m).kind := fun m => congrArg Prod.fst (hnode' m)
  have hstab : s2.stabNum = s.stabNum := (eKey_fields ef.key).2.2.1
  refine ⟨⟨I'', A', ?_⟩, ⟨(frameB_of_stepW I W).trans R.frame, hsize, hkey', hnode'⟩, R.recomputedAt.trans hstab⟩
  exact drvOK_frameX hsize hkind (eKey_fields hkey').2.2.2.1
    (fun m x hd => hDr' m x (hDr m x hd.to_started)) D.drv

end IncrVerif.Proofs.DriverH
