import IncrVerif.Proofs.PerKeyH30
import IncrVerif.Proofs.PerKeyH33
/-! all of the twin simulation calculus `TSim` (T1 … T11; T12 = bridge to PK2) -/
