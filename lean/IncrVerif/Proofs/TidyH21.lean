import IncrVerif.Proofs.TidyH20
/-!
# T3a part 4: `create`, `observe`, the variable writes return under `SubsH.QInv`

`create_total` of `Proofs/CutH38.lean` and the two lemmas of `Proofs/CutH39.lean` that read the invariant
(`writeVar_total`), for `SubsH.QInv`; the observer actions are `CutH.ObsTot`'s at `Quiet.P27.obsTot`.  `tinv_of_hf`: `TInv` does not read handler lists, handler counts, queue flags.
-/
namespace IncrVerif.Proofs.TidyH.SubsT
open IncrVerif.Engine IncrVerif.Driver IncrVerif.Proofs IncrVerif.Proofs.Step IncrVerif.Proofs.Sched
open IncrVerif.Proofs.Quiet

/-- `TInv` is kept by the frame of the subscription actions -/
theorem tinv_of_hf {N : Nat} {s s' : State} (T : TInv N s) (F : SubsH.P9.HF s s') (ha : s'.ahh = s.ahh) :
    TInv N s' := by
  have hnec : ∀ m, s'.isNecessary m = s.isNecessary m := by
    intro m
    obtain ⟨k, b, e⟩ := F.node m
    rw [State.isNecessary, State.isNecessary, e]; rfl
  have hh : ∀ m, (s'.nodeD m).height = (s.nodeD m).height := by
    intro m
    obtain ⟨k, b, e⟩ := F.node m
    rw [e]
  refine ⟨fun m hm ho => ?_, ⟨by rw [ha]; exact T.room.ahh, by rw [F.rch]; exact T.room.rch,
    by rw [F.size]; exact T.room.size⟩, fun c vc h => ?_, by rw [F.top, F.size]; exact T.topSize,
    by rw [F.newObs]; exact T.newNodup, fun o ob' hm h => ?_⟩
  · rw [hnec] at hm; rw [hh]; exact T.hb m hm ho
  · rw [F.vars] at h; exact T.linked c vc h
  · rw [F.newObs] at hm
    obtain ⟨ob, hs, hob, e⟩ := SubsH.P9.rec_inv F.obsSize F.recs h
    rw [e]; exact T.newState o ob hm hob

/-! ## `create` -/

theorem create_total {env : Env} {N : Nat} {s : State} {i : Instr} {tk : Array Nat}
    (Q : SubsH.QInv env s) (T : TInv N s) (hi : StaticInstr env i) (hok : ActionOK N s (.create i)) :
    Tot (stepAction env (.create i) tk) s (fun r s' => r.2 = tk ∧ TInv N s' ∧ Grown (.create i) s s') :=
  (CutH.create_total Q.struct.static.scope Q.top (T.toC Q.struct.eqCut) hi.toC (ActionOK.toC (env := env) hi hok)).mono
    fun _ _ h => ⟨h.1, .ofC h.2.1, .ofC (env := env) hi h.2.2⟩

/-! ## `observe` and the writes -/

open Quiet.P27

/-- a write outside `stabilise` returns -/
theorem writeVar_total {env : Env} {N : Nat} {s : State} {v : Nat} {f : Val → Val} {isSet : Bool}
    (Q : SubsH.QInv env s) (T : TInv N s) (hv : v < s.vars.size) :
    Tot (writeVar v f isSet) s (fun _ s' => TInv N s' ∧ s'.nodes.size = s.nodes.size ∧
      s'.vars.size = s.vars.size ∧ s'.observers.size = s.observers.size) := by
  have hv0 : s.vars[v]? = some s.vars[v] := Array.getElem?_eq_getElem hv
  generalize s.vars[v] = vc at hv0
  have I : GInv env s allClosed := Q.struct
  have hsz : vc.node < s.nodes.size := (Q.vars.cell v vc hv0).1
  have hl : vc.linked = true := T.linked v vc hv0
  obtain ⟨hrun, hh⟩ := CutH.writeVar_ret f isSet hv0 (by rw [Q.status]; intro e; cases e) hl hsz (Q.vars.cell v vc hv0).2
    (I.node hsz).valid (Q.stamps vc.node).1 fun hnec => by
      have h0 := I.hpos _ hnec rfl
      have hle := T.hb _ hnec rfl
      have hmax := T.room.rch
      have hN := T.room.size
      omega
  obtain ⟨R, -⟩ := SubsH.wroteOutside_q (f vc.value) Q hv0 hh
  have hF := wroteOutside_frame v vc (f vc.value) s
  have hS := wroteOutside_sizes v vc (f vc.value) s
  refine Tot.of_ok hrun ⟨?_, R.size, hS.1, by rw [R.observers]⟩
  refine ⟨fun m hm ho => ?_, ⟨?_, ?_, ?_⟩, fun c vc' h => ?_, ?_, ?_, ?_⟩
  · rw [R.nec] at hm; rw [R.height]; exact T.hb m hm ho
  · rw [hF.2.2.2.2.1]; exact T.room.ahh
  · rw [← T.room.rch]; simp only [Heap.maxAllowed, hS.2]
  · rw [R.size]; exact T.room.size
  · by_cases hc : c = v
    · rw [hc, R.var] at h; cases h; exact hl
    · rw [R.other c hc] at h; exact T.linked c vc' h
  · rw [R.top, R.size]; exact T.topSize
  · rw [R.newObservers]; exact T.newNodup
  · intro o ob hm h
    rw [R.newObservers] at hm; rw [R.observers] at h
    exact T.newState o ob hm h

/-- the simple actions (everything static except `create` and `stabilise`) return -/
theorem simple_total {env : Env} {N : Nat} {s : State} {a : Action} {tk : Array Nat}
    (Q : SubsH.QInv env s) (T : TInv N s) (ha : SimpleAction a) (hok : ActionOK N s a) :
    Tot (stepAction env a tk) s (fun r s' => r.2 = tk ∧ TInv N s' ∧ Grown a s s') := by
  cases a <;> try exact ha.elim
  case observe n =>
    cases n <;> try exact ha.elim
    exact ((obsTot N).observe Q.obs.newIn T hok).mono fun _ _ h => ⟨h.1, h.2.1, h.2.2.grownQ rfl⟩
  case cloneObs o => exact ((obsTot N).cloneObs T).mono fun _ _ h => ⟨h.1, h.2.1, h.2.2.grownQ rfl⟩
  case dropObs o => exact ((obsTot N).dropObs T hok).mono fun _ _ h => ⟨h.1, h.2.1, h.2.2.grownQ rfl⟩
  case disallow o => exact ((obsTot N).disallow T hok).mono fun _ _ h => ⟨h.1, h.2.1, h.2.2.grownQ rfl⟩
  case get v => exact ⟨_, s, Hist.stepAction_get_ok.2 ⟨_, getVar_total hok, rfl⟩, rfl, T, Grown_same rfl rfl rfl rfl⟩
  case isStable => exact ⟨_, s, Hist.stepAction_isStable_run .., rfl, T, Grown_same rfl rfl rfl rfl⟩
  case stats => exact ⟨_, s, Hist.stepAction_stats_run .., rfl, T, Grown_same rfl rfl rfl rfl⟩
  all_goals
    obtain ⟨old, s1, h1, T1, e1, e2, e3⟩ := writeVar_total Q T hok
    exact ⟨_, s1, (Hist.stepAction_write_ok (by constructor)).2 ⟨old, h1, rfl⟩, rfl, T1, Grown_same rfl e1 e2 e3⟩

end IncrVerif.Proofs.TidyH.SubsT
