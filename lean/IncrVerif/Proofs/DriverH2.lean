import IncrVerif.Proofs.ExpertH54
/-!
# Drivers, part 1 (pure logic): a REWIRING step keeps the drain invariant

A run of a driver `n` is split into two steps of the (virtual) state:
  (1) the REWIRING `StepW`: the effects of `n` edit the nodes `x` with `X x` (their child lists change, children become
      necessary/unnecessary, heights are adjusted, `x` is stale afterwards), while `n` itself is unchanged: it is
      still the current node, not yet recomputed;
  (2) an ordinary static step `BindH.StepRelB` of `n` in the new graph (`BindH.stepB_inv`).
`StepD` of `ExpertH54` asks for more than the model does: its clause `ret` demands that nothing queued is lower than a
handed-over parent, which is false when the driver's first parent is a one-child `map` (recompute-now shortcut) and
the rewiring has just queued a lower node (transient necessity).  `StepW` + `StepRelB` is the corrected contract.

The invariant is proved for the rewiring WITH node creation `PerKeyH.StepP` (a run of a per-key change detector), of which
`StepW` is the case that creates nothing.
-/
namespace IncrVerif.Proofs.PerKeyH
open IncrVerif.Engine IncrVerif.Proofs IncrVerif.Proofs.Step IncrVerif.Proofs.Sched IncrVerif.Proofs.BindH

/-- `s'` is `s` after the change detector `n` (current, stamped virtually back: not yet recomputed) has CREATED nodes
and REWIRED the nodes `x` with `X x` (the operator's result: new dependency list; the per-key input nodes of the keys
whose value changed: new constant).  `DriverH.StepW` is the case without creation. -/
structure StepP (env : Env) (X : Nat → Prop) (n : Nat) (s s' : State) : Prop where
  grow : s.nodes.size ≤ s'.nodes.size
  vars : s'.vars = s.vars
  binds : s'.binds = s.binds
  stabNum : s'.stabNum = s.stabNum
  /-- structure and heap of the new state, wholesale -/
  graph' : BindH.BGraph env s'
  heap' : HeapInv s'
  stamps' : Stamps s'
  qstale' : ∀ m, (s'.nodeD m).inRch = true → s'.isStale m = true
  pending' : ∀ m, s'.isNecessary m = true → s'.isStale m = true → (s'.nodeD m).inRch = true ∨ m = n
  /-- the change detector itself is not rewired and is unchanged in what the invariant reads; it is not queued -/
  notX : ¬ X n
  selfNec : s'.isNecessary n = true
  selfQ : (s'.nodeD n).inRch = false
  /-- the rewired nodes are old nodes -/
  xOld : ∀ x, X x → x < s.nodes.size
  /-- old nodes: unchanged in what evaluation reads; kind, own stamp and own edges unchanged unless rewired -/
  old : ∀ m, m < s.nodes.size →
    (s'.nodeD m).valid = (s.nodeD m).valid ∧
    (s'.nodeD m).createdIn = (s.nodeD m).createdIn ∧ (s'.nodeD m).value = (s.nodeD m).value ∧
    (s'.nodeD m).changedAt = (s.nodeD m).changedAt ∧
    (¬ X m → (s'.nodeD m).kind = (s.nodeD m).kind ∧
      (s'.nodeD m).recomputedAt = (s.nodeD m).recomputedAt ∧ s'.children m = s.children m)
  /-- the rewired nodes: the change detector was (and is) their child, they are stale afterwards, and their own
  stamp is not of this round -/
  rewired : ∀ x, X x → n ∈ s.children x ∧ s'.isStale x = true ∧ (s'.nodeD x).recomputedAt < s.stabNum
  /-- new nodes: never computed -/
  new : ∀ m, s.nodes.size ≤ m → m < s'.nodes.size → (s'.nodeD m).recomputedAt = -1

/-- the clause missing from `StepP`: valid new nodes are stale -/
def NewStale (s s' : State) : Prop :=
  ∀ m, s.nodes.size ≤ m → m < s'.nodes.size → (s'.nodeD m).valid = true → s'.isStale m = true

section
variable {env : Env} {X : Nat → Prop} {n : Nat} {s s' : State}

/-- staleness of an old node that is not rewired is unchanged -/
theorem StepP.stale_kept (R : StepP env X n s s') (g : BGraph env s) {m : Nat} (hm : m < s.nodes.size)
    (hX : ¬ X m) : s'.isStale m = s.isStale m := by
  obtain ⟨k0, -, -, -, k⟩ := R.old m hm
  obtain ⟨k1, k4, k6⟩ := k hX
  cases hv : (s.nodeD m).valid with
  | false => rw [isStale_invalid hv, isStale_invalid (by rw [k0]; exact hv)]
  | true =>
    have hB := (g.node m hm hv).1
    apply isStale_congr hB k1 k0 k4 (fun c => by rw [R.vars]) k6
    intro c hc
    have hclt := ((g.node m hm hv).2.2 c hc).1
    exact (R.old c hclt).2.2.2.1

/-- an edge of the new graph that leaves an old node that is not rewired is an edge of the old graph -/
theorem StepP.edge_old (R : StepP env X n s s') {a c : Nat}
    (ha : a < s.nodes.size) (hX : ¬ X a) (he : Edge s' a c) : Edge s a c := by
  obtain ⟨k0, k2, -, -, k⟩ := R.old a ha
  cases he with
  | child hc => rw [(k hX).2.2] at hc; exact Edge.child hc
  | scope hv2 hsc hb =>
    rw [R.binds] at hb
    rw [k2] at hsc
    exact Edge.scope (by rw [← k0]; exact hv2) hsc hb

/-- a path of the new graph that starts at an OLD node is, in the OLD graph, a path to its first rewired node, or (no
rewired node on it) a path to the same end, which is an old node: the path never reaches a new node -/
theorem StepP.path_old (R : StepP env X n s s') (g : BGraph env s) {a d : Nat} (h : Below s' a d)
    (ha : a < s.nodes.size) :
    (∃ x, X x ∧ Below s a x) ∨ (Below s a d ∧ ¬ X d ∧ d < s.nodes.size) := by
  induction h with
  | refl a =>
    by_cases haX : X a
    · exact Or.inl ⟨a, haX, Below.refl a⟩
    · exact Or.inr ⟨Below.refl a, haX, ha⟩
  | step he hcd ih =>
    rename_i a c d
    by_cases haX : X a
    · exact Or.inl ⟨a, haX, Below.refl a⟩
    have he0 : Edge s a c := R.edge_old ha haX he
    rcases ih (g.edge_target he0).1 with ⟨x, hx, hb⟩ | ⟨hb, hdX, hd⟩
    · exact Or.inl ⟨x, hx, Below.step he0 hb⟩
    · exact Or.inr ⟨Below.step he0 hb, hdX, hd⟩

/-- **A rewiring-with-creation step keeps the drain invariant**, with the same current node.  `N`: the clause missing
from `StepP` (valid new nodes are stale). -/
theorem stepP_inv' (I : DInv env s (some n)) (R : StepP env X n s s') (N : NewStale s s') :
    DInv env s' (some n) := by
  have g := I.graph
  obtain ⟨hn, hnlt, hnv, hnq, hnr⟩ := I.cur_facts
  refine ⟨R.graph', R.heap', R.stamps', R.qstale', ?_, ?_, ?_, ?_⟩
  · -- pending
    intro m h1 h2
    rcases R.pending' m h1 h2 with h | h
    · exact Or.inl h
    · exact Or.inr (by rw [h])
  · -- cons
    intro m hmlt' hmv hst
    by_cases hnew : s.nodes.size ≤ m
    · rw [N m hnew hmlt' hmv] at hst; cases hst
    have hm : m < s.nodes.size := by omega
    by_cases hmX : X m
    · rw [(R.rewired m hmX).2.1] at hst; cases hst
    obtain ⟨k0, -, k3, -, k⟩ := R.old m hm
    obtain ⟨k1, -, k6⟩ := k hmX
    have hv : (s.nodeD m).valid = true := by rw [← k0]; exact hmv
    have hB := (g.node m hm hv).1
    rw [R.stale_kept g hm hmX] at hst
    obtain ⟨w, hw, hval⟩ := I.cons m hm hv hst
    refine ⟨w, ?_, by rw [k3]; exact hval⟩
    apply TargetB.congr' hv hB k1 R.vars _ _ hw
    · intro b lc _; rw [R.binds]
    · intro c hc
      have hclt := ((g.node m hm hv).2.2 c hc).1
      exact (R.old c hclt).2.2.1
  · -- fresh
    intro a d hbel hd
    rw [R.stabNum]
    have hnow := I.stamps.now
    by_cases hnew : s.nodes.size ≤ a
    · by_cases hlt' : a < s'.nodes.size
      · rw [R.new a hnew hlt']; omega
      · rw [nodeD_default_of_ge s' a (by omega)]
        show (-1 : Int) < s.stabNum
        omega
    have ha : a < s.nodes.size := by omega
    have key : (s.nodeD a).recomputedAt < s.stabNum := by
      rcases R.path_old g hbel ha with ⟨x, hx, hb⟩ | ⟨hb, hdX, hdlt⟩
      · exact I.fresh a n (hb.snoc (Edge.child (R.rewired x hx).1)) (Or.inr rfl)
      · rcases hd with hd | hd
        · rw [R.stale_kept g hdlt hdX] at hd
          exact I.fresh a d hb (Or.inl hd)
        · exact I.fresh a d hb (Or.inr hd)
    by_cases haX : X a
    · exact (R.rewired a haX).2.2
    · rw [((R.old a ha).2.2.2.2 haX).2.1]
      exact key
  · -- cur
    intro p hp
    injection hp with hp
    subst hp
    refine ⟨R.selfNec, ?_⟩
    intro d hd
    rcases R.path_old g hd hnlt with ⟨x, hx, hb⟩ | ⟨hb, hdX, hdlt⟩
    · exact (g.no_cycle hb (Edge.child (R.rewired x hx).1)).elim
    · cases hq' : (s'.nodeD d).inRch with
      | false => rfl
      | true =>
        exfalso
        have hst' := R.qstale' d hq'
        have hdn : d ≠ n := by
          intro e
          rw [e, R.selfQ] at hq'
          cases hq'
        rw [R.stale_kept g hdlt hdX] at hst'
        have hnec := (g.below_nec hb hn).1
        rcases I.pending d hnec hst' with h3 | h3
        · rw [(I.cur n rfl).2 d hb] at h3; cases h3
        · injection h3 with h3; exact hdn h3.symm

/-- the rewiring-with-creation step keeps the stamps of this round (as `DriverH.frameB_of_stepW` for `StepW`) -/
theorem frameB_of_stepP {env : Env} {X : Nat → Prop} {n : Nat} {S S' : State} (I : DInv env S (some n))
    (W : StepP env X n S S') : FrameB S S' where
  stabNum := W.stabNum
  vars := W.vars
  grow := W.grow
  ran x hx := by
    by_cases hlt : x < S.nodes.size
    · obtain ⟨k0, -, -, -, k⟩ := W.old x hlt
      by_cases hX : X x
      · exfalso
        have := I.fresh x n (Below.of_edge (Edge.child (W.rewired x hX).1)) (Or.inr rfl)
        omega
      · exact ⟨by rw [(k hX).2.1]; exact hx, k0⟩
    · exfalso
      rw [nodeD_default_of_ge S x (by omega)] at hx
      have h1 := I.stamps.now
      have h2 : (default : Node).recomputedAt = -1 := rfl
      omega

end

end IncrVerif.Proofs.PerKeyH

namespace IncrVerif.Proofs.DriverH
open IncrVerif.Engine IncrVerif.Proofs IncrVerif.Proofs.Step IncrVerif.Proofs.Sched IncrVerif.Proofs.BindH

/-- `s'` is `s` after the driver `n` (current, not yet recomputed) has rewired the nodes `x` with `X x` -/
structure StepW (env : Env) (X : Nat → Prop) (n : Nat) (s s' : State) : Prop where
  size : s'.nodes.size = s.nodes.size
  vars : s'.vars = s.vars
  binds : s'.binds = s.binds
  stabNum : s'.stabNum = s.stabNum
  /-- structure and heap of the new state, wholesale -/
  graph' : BGraph env s'
  heap' : HeapInv s'
  stamps' : Stamps s'
  qstale' : ∀ m, (s'.nodeD m).inRch = true → s'.isStale m = true
  pending' : ∀ m, s'.isNecessary m = true → s'.isStale m = true → (s'.nodeD m).inRch = true ∨ m = n
  /-- the driver itself is not rewired and is unchanged in what the invariant reads; it is not queued -/
  notX : ¬ X n
  selfNec : s'.isNecessary n = true
  selfQ : (s'.nodeD n).inRch = false
  /-- all nodes: unchanged in what evaluation reads; kind, own stamp and own edges unchanged unless rewired -/
  old : ∀ m, m < s.nodes.size →
    (s'.nodeD m).valid = (s.nodeD m).valid ∧
    (s'.nodeD m).createdIn = (s.nodeD m).createdIn ∧ (s'.nodeD m).value = (s.nodeD m).value ∧
    (s'.nodeD m).changedAt = (s.nodeD m).changedAt ∧
    (¬ X m → (s'.nodeD m).kind = (s.nodeD m).kind ∧
      (s'.nodeD m).recomputedAt = (s.nodeD m).recomputedAt ∧ s'.children m = s.children m)
  /-- the rewired nodes: the driver was (and is) their child, they are stale afterwards, and their own stamp is not
  of this round -/
  rewired : ∀ x, X x → n ∈ s.children x ∧ s'.isStale x = true ∧ (s'.nodeD x).recomputedAt < s.stabNum

section
variable {env : Env} {X : Nat → Prop} {n : Nat} {s s' : State}

theorem StepW.toP (R : StepW env X n s s') : PerKeyH.StepP env X n s s' :=
  { R with
    grow := Nat.le_of_eq R.size.symm
    xOld := fun x hx => by
      refine Nat.lt_of_not_le fun hge => ?_
      have := (R.rewired x hx).1
      unfold State.children at this
      rw [nodeD_default_of_ge s x hge] at this
      cases this
    new := fun m _ h2 => absurd h2 (by rw [R.size]; omega) }

/-- **A rewiring step keeps the drain invariant**, with the same current node. -/
theorem stepW_inv (I : DInv env s (some n)) (R : StepW env X n s s') : DInv env s' (some n) :=
  PerKeyH.stepP_inv' I R.toP fun m h1 h2 => absurd h2 (by rw [R.size]; omega)

end

end IncrVerif.Proofs.DriverH
