import IncrVerif.Proofs.Subs16
import IncrVerif.Proofs.VarWrites
/-!
# Faults in whole histories, part G0: histories that continue after a panic; what every later action keeps

`stepCatch`/`runCatch`: a history in which a panic of an action is caught (as the harness and `traceAction` do): the state
is the one at the panic point, the token table is unchanged, the next action runs.
`AfterR s s'`: what every action of the fragment OTHER THAN `stabilise` guarantees, whether it returns or panics, from ANY
state (no invariant): status and configuration kept, liveness only lowered, NOTHING logged, stored node values / kinds /
validity kept, an observer that is in use afterwards was in use before on the same node, and in status `stabilising` no
variable value changes (writes are parked).
-/
namespace IncrVerif.Proofs.FaultH
open IncrVerif.Engine IncrVerif.Driver IncrVerif.Proofs IncrVerif.Proofs.Step

/-- the actions of the fragment with faults: static actions, subscriptions, `arm k`, `dropAll` -/
def FAction (env : Env) : Action → Prop
  | .arm _ | .dropAll => True
  | a => SubsH.SubAction env a

/-- one action; a panic is caught: state at the panic point, token table unchanged -/
def stepCatch (env : Env) (a : Action) (st : State × Array Nat) : State × Array Nat :=
  match (stepAction env a st.2).run.run st.1 with
  | (.ok r, s1) => (s1, r.2)
  | (.error _, s1) => (s1, st.2)

/-- a history that continues after panics -/
def runCatch (env : Env) (acts : List Action) (st : State × Array Nat) : State × Array Nat :=
  acts.foldl (fun st a => stepCatch env a st) st

theorem runCatch_nil (env : Env) (st : State × Array Nat) : runCatch env [] st = st := rfl
theorem runCatch_cons (env : Env) (a : Action) (as : List Action) (st : State × Array Nat) :
    runCatch env (a :: as) st = runCatch env as (stepCatch env a st) := rfl
theorem runCatch_append (env : Env) (as bs : List Action) (st : State × Array Nat) :
    runCatch env (as ++ bs) st = runCatch env bs (runCatch env as st) := by
  simp [runCatch, List.foldl_append]

structure AfterR (s s' : State) : Prop where
  status : s'.status = s.status
  cfg : s'.cfg = s.cfg
  alive : s'.alive = true → s.alive = true
  log : s'.log = s.log
  nodes : ∀ (n : Nat) (nd : Node), s.nodes[n]? = some nd →
    ∃ nd', s'.nodes[n]? = some nd' ∧ nd'.value = nd.value ∧ nd'.kind = nd.kind ∧ nd'.valid = nd.valid
  obsInUse : ∀ (o : Nat) (ob' : ObsRec), s'.observers[o]? = some ob' → ob'.state = .inUse →
    ∃ ob, s.observers[o]? = some ob ∧ ob.state = .inUse ∧ ob.node = ob'.node
  parked : s.status = .stabilising → ∀ (v : Nat) (vc : VarCell), s.vars[v]? = some vc →
    ∃ vc', s'.vars[v]? = some vc' ∧ vc'.value = vc.value

theorem AfterR.refl (s : State) : AfterR s s :=
  ⟨rfl, rfl, id, rfl, fun _ nd h => ⟨nd, h, rfl, rfl, rfl⟩, fun _ ob h hs => ⟨ob, h, hs, rfl⟩,
    fun _ _ vc h => ⟨vc, h, rfl⟩⟩

theorem AfterR.trans {a b c : State} (h1 : AfterR a b) (h2 : AfterR b c) : AfterR a c where
  status := h2.status.trans h1.status
  cfg := h2.cfg.trans h1.cfg
  alive h := h1.alive (h2.alive h)
  log := h2.log.trans h1.log
  nodes n nd h := by
    obtain ⟨nd1, e1, v1, k1, w1⟩ := h1.nodes n nd h
    obtain ⟨nd2, e2, v2, k2, w2⟩ := h2.nodes n nd1 e1
    exact ⟨nd2, e2, v2.trans v1, k2.trans k1, w2.trans w1⟩
  obsInUse o ob'' h hs := by
    obtain ⟨ob', e1, s1, n1⟩ := h2.obsInUse o ob'' h hs
    obtain ⟨ob, e0, s0, n0⟩ := h1.obsInUse o ob' e1 s1
    exact ⟨ob, e0, s0, n0.trans n1⟩
  parked hst v vc h := by
    obtain ⟨vc1, e1, v1⟩ := h1.parked hst v vc h
    obtain ⟨vc2, e2, v2⟩ := h2.parked (h1.status.trans hst) v vc1 e1
    exact ⟨vc2, e2, v2.trans v1⟩

instance : PreOrd AfterR := ⟨AfterR.refl, AfterR.trans⟩

end IncrVerif.Proofs.FaultH
