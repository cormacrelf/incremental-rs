import IncrVerif.Proofs.Life5
/-!
# Observer lifecycle over whole histories, part 6: the queue invariants `ObsWF`, the lifecycle
statement of `stabilise` under them
-/
namespace IncrVerif.Proofs.Life
open IncrVerif.Engine IncrVerif.Proofs.Obs
open IncrVerif.Proofs.Step (bind_ok_inv)

/-- the two observer queues agree with the lifecycle states: every created observer is queued in
`newObservers`, and `disallowedObservers` names exactly the disallowed observers.  True of
`State.init`, kept by every API action that is not a panicking `stabilise` (`ObsWF.step`). -/
structure ObsWF (s : State) : Prop where
  created : ∀ o, stOf s o = some .created → o ∈ s.newObservers
  disallowed : ∀ o, stOf s o = some .disallowed ↔ o ∈ s.disallowedObservers

theorem stOf_eq_some {s : State} {o : Nat} {st : ObsState} :
    stOf s o = some st ↔ ∃ ob : ObsRec, s.observers[o]? = some ob ∧ ob.state = st := by
  simp only [stOf]
  cases s.observers[o]? <;> simp

theorem ObsWF.init (maxHeight : Nat) (debug : Bool) : ObsWF (State.init maxHeight debug) :=
  ⟨fun o h => by simp [stOf, State.init] at h, fun o => by simp [stOf, State.init]⟩

theorem stOf_of_modify {s t : State} {o : Nat} {f : ObsRec → ObsRec}
    (h : t.observers = s.observers.modify o f) (m : Nat) :
    stOf t m = if o = m then (s.observers[m]?).map (fun x => (f x).state) else stOf s m := by
  simp only [stOf, h, Array.getElem?_modify]
  split
  · cases s.observers[m]? <;> rfl
  · rfl

theorem ObsWF.of_states {s s' : State} (hst : ∀ o, stOf s' o = stOf s o)
    (hn : s'.newObservers = s.newObservers) (hd : s'.disallowedObservers = s.disallowedObservers)
    (hw : ObsWF s) : ObsWF s' :=
  ⟨fun o e => by rw [hn]; exact hw.created o (by rw [← hst]; exact e),
   fun o => by rw [hd, hst]; exact hw.disallowed o⟩

theorem ObsWF.of_same {s s' : State} (h : Same s s') (hw : ObsWF s) : ObsWF s' :=
  ObsWF.of_states h.stOf_eq h.newObs h.dis hw

/-- a `modObs` that keeps the lifecycle state -/
theorem ObsWF.modObs {s : State} (hw : ObsWF s) (o : Nat) (f : ObsRec → ObsRec)
    (hf : ∀ x, (f x).state = x.state) :
    ObsWF { s with observers := s.observers.modify o f } := by
  refine ObsWF.of_states (s := s) (fun m => ?_) rfl rfl hw
  rw [stOf_of_modify (s := s) (o := o) (f := f) rfl]
  split
  · simp only [stOf]; cases s.observers[m]? <;> simp [hf]
  · rfl

theorem ObsWF.disallowState {s : State} (hw : ObsWF s) (o : Nat) : ObsWF (disallowState s o) := by
  unfold Life.disallowState
  cases hob : s.observers[o]? with
  | none => exact hw
  | some ob =>
    have hso : stOf s o = some ob.state := by simp [stOf, hob]
    cases hst : ob.state <;> simp only [hst]
    · -- created ↦ unlinked
      have key : ∀ m, stOf (afterDisCreated s o) m = if o = m then some .unlinked else stOf s m := by
        intro m
        rw [stOf_of_modify (s := s) (o := o) (f := fun x => { x with state := .unlinked, handlers := [] }) rfl]
        split
        · rename_i hm; subst hm; simp [hob]
        · rfl
      refine ⟨fun m e => ?_, fun m => ?_⟩
      · rw [key] at e
        split at e
        · cases e
        · exact hw.created m e
      · rw [key]
        split
        · rename_i hm; subst hm
          constructor
          · intro e; cases e
          · intro e
            have := (hw.disallowed o).2 e
            rw [hso, hst] at this; cases this
        · exact hw.disallowed m
    · -- in use ↦ disallowed
      have key : ∀ m, stOf (afterDisInUse s o) m = if o = m then some .disallowed else stOf s m := by
        intro m
        rw [stOf_of_modify (s := s) (o := o) (f := fun x => { x with state := .disallowed }) rfl]
        split
        · rename_i hm; subst hm; simp [hob]
        · rfl
      refine ⟨fun m e => ?_, fun m => ?_⟩
      · rw [key] at e
        split at e
        · cases e
        · exact hw.created m e
      · rw [key]
        show _ ↔ m ∈ s.disallowedObservers ++ [o]
        rw [List.mem_append, List.mem_singleton]
        split
        · rename_i hm; subst hm; simp
        · rename_i hm
          rw [hw.disallowed m]
          constructor
          · exact .inl
          · rintro (h | h)
            · exact h
            · exact absurd h.symm hm
    · exact hw
    · exact hw

theorem ObsWF.pushObserver {s : State} (hw : ObsWF s) (n : Nat) : ObsWF (Obs.pushObserver s n) := by
  have key : ∀ m, stOf (Obs.pushObserver s n) m
      = if m = s.observers.size then some .created else stOf s m := by
    intro m
    simp only [stOf, Obs.pushObserver, Array.getElem?_push]
    split <;> rfl
  have hnone : stOf s s.observers.size = none := by simp [stOf]
  refine ⟨fun m e => ?_, fun m => ?_⟩
  · show m ∈ s.newObservers ++ [s.observers.size]
    rw [key] at e
    rw [List.mem_append, List.mem_singleton]
    split at e
    · rename_i hm; exact .inr hm
    · exact .inl (hw.created m e)
  · rw [key]
    show _ ↔ m ∈ s.disallowedObservers
    split
    · rename_i hm; subst hm
      constructor
      · intro e; cases e
      · intro e
        have := (hw.disallowed _).2 e
        rw [hnone] at this; cases this
    · exact hw.disallowed m

theorem ObsWF.dropObsState {s : State} (hw : ObsWF s) (o : Nat) : ObsWF (dropObsState s o) := by
  unfold Life.dropObsState
  cases hob : s.observers[o]? with
  | none => exact hw
  | some ob =>
    simp only []
    have hs1 : ObsWF { s with observers := s.observers.modify o fun x => { x with clones := x.clones - 1 } } :=
      hw.modObs o _ (fun _ => rfl)
    split
    · exact hw
    · split
      · exact hs1.disallowState o
      · exact hs1

/-- O3 under the queue invariants: a `stabilise` that returns moves every created observer to in use
(or disallowed, if an effect disallowed it during this stabilisation), leaves an in-use observer in
use (or disallowed, likewise), unlinks every observer that was disallowed before the call, leaves
unlinked observers unlinked; afterwards `newObservers` is empty, `disallowedObservers` lists (once
each) exactly the observers whose state is disallowed, and the invariants hold again. -/
theorem stabilise_lifecycle (env : Env) (fuel : Nat) (s s' : State) (hw : ObsWF s)
    (hrun : (stabilise env fuel).run.run s = (.ok (), s')) :
    s'.observers.size = s.observers.size ∧
    (∀ (o : Nat) (ob : ObsRec), s.observers[o]? = some ob →
      ∃ ob' : ObsRec, s'.observers[o]? = some ob' ∧ ob'.node = ob.node ∧ ob'.clones = ob.clones ∧
        match ob.state with
        | .created => ob'.state = .inUse ∨ ob'.state = .disallowed
        | .inUse => ob'.state = .inUse ∨ ob'.state = .disallowed
        | .disallowed => ob'.state = .unlinked
        | .unlinked => ob'.state = .unlinked) ∧
    s'.newObservers = [] ∧ s'.disallowedObservers.Nodup ∧
    (∀ o, o ∈ s'.disallowedObservers ↔ stOf s' o = some .disallowed) ∧
    s.status = .notStabilising ∧ s'.status = .notStabilising ∧ ObsWF s' := by
  obtain ⟨h0, h1, hsz, hnew, hobs, hnd, hmem⟩ := stabilise_spec env fuel s s' hrun
  -- `phase2` under the invariants
  have hp : ∀ (o : Nat) (ob : ObsRec), s.observers[o]? = some ob →
      phase2 s o ob.state = match ob.state with
        | .created => .inUse | .inUse => .inUse | .disallowed => .unlinked | .unlinked => .unlinked := by
    intro o ob e
    have hso : stOf s o = some ob.state := by simp [stOf, e]
    unfold phase2
    cases hst : ob.state <;> simp only []
    · have h1 : o ∈ s.newObservers := hw.created o (by rw [hso, hst])
      have h2 : o ∉ s.disallowedObservers := fun h => by
        have := (hw.disallowed o).2 h; rw [hso, hst] at this; cases this
      simp [h1, h2]
    · have h2 : o ∉ s.disallowedObservers := fun h => by
        have := (hw.disallowed o).2 h; rw [hso, hst] at this; cases this
      simp [h2]
    · have h2 : o ∈ s.disallowedObservers := (hw.disallowed o).1 (by rw [hso, hst])
      simp [h2]
    · have h2 : o ∉ s.disallowedObservers := fun h => by
        have := (hw.disallowed o).2 h; rw [hso, hst] at this; cases this
      simp [h2]
  have hobs' : ∀ (o : Nat) (ob : ObsRec), s.observers[o]? = some ob →
      ∃ ob' : ObsRec, s'.observers[o]? = some ob' ∧ ob'.node = ob.node ∧ ob'.clones = ob.clones ∧
        match ob.state with
        | .created => ob'.state = .inUse ∨ ob'.state = .disallowed
        | .inUse => ob'.state = .inUse ∨ ob'.state = .disallowed
        | .disallowed => ob'.state = .unlinked
        | .unlinked => ob'.state = .unlinked := by
    intro o ob e
    obtain ⟨ob', e', n, c, st⟩ := hobs o ob e
    refine ⟨ob', e', n, c, ?_⟩
    rw [hp o ob e] at st
    cases hst : ob.state <;> simp only [hst, afterDisallow] at st ⊢
    · exact st
    · exact st
    · rcases st with st | st <;> exact st
    · rcases st with st | st <;> exact st
  have hdis : ∀ o, o ∈ s'.disallowedObservers ↔ stOf s' o = some .disallowed := by
    intro o
    rw [hmem]
    constructor
    · rintro ⟨ob, ob', _, e', _, d⟩
      simp [stOf, e', d]
    · intro e
      obtain ⟨ob', e', d⟩ := stOf_eq_some.1 e
      · have hlt : o < s.observers.size := by
          rw [← hsz]; exact (Array.getElem?_eq_some_iff.1 e').1
        have eo : s.observers[o]? = some s.observers[o] := Array.getElem?_eq_getElem hlt
        obtain ⟨ob'', e'', _, _, st⟩ := hobs' o _ eo
        rw [e'] at e''; cases e''
        refine ⟨_, ob', eo, e', ?_, d⟩
        rw [hp o _ eo]
        cases hst : (s.observers[o]).state <;> simp only [hst] at st ⊢
        · rw [d] at st; cases st
        · rw [d] at st; cases st
  refine ⟨hsz, hobs', hnew, hnd, hdis, h0, h1, ⟨fun o e => ?_, fun o => (hdis o).symm⟩⟩
  -- no created observer is left
  exfalso
  obtain ⟨ob', e', c⟩ := stOf_eq_some.1 e
  · have hlt : o < s.observers.size := by
      rw [← hsz]; exact (Array.getElem?_eq_some_iff.1 e').1
    have eo : s.observers[o]? = some s.observers[o] := Array.getElem?_eq_getElem hlt
    obtain ⟨ob'', e'', _, _, st⟩ := hobs' o _ eo
    rw [e'] at e''; cases e''
    cases hst : (s.observers[o]).state <;> simp only [hst] at st
    · rcases st with st | st <;> (rw [c] at st; cases st)
    · rcases st with st | st <;> (rw [c] at st; cases st)
    · rw [c] at st; cases st
    · rw [c] at st; cases st

/-- the queue invariants are kept by every API action, whatever its outcome, except by a `stabilise`
that panics -/
theorem ObsWF.step (env : Env) (a : Action) (tokens : Array Nat) (s s' : State)
    (r : Except Panic (String × Array Nat)) (hw : ObsWF s)
    (hok : a = .stabilise → ∃ v, r = .ok v)
    (hrun : (stepAction env a tokens).run.run s = (r, s')) : ObsWF s' := by
  by_cases ht : Action.touchesObs a = false
  · exact ObsWF.of_same ((PresS.stepAction_other env a tokens ht).h s r s' hrun) hw
  · cases a <;> simp only [Action.touchesObs, not_true_eq_false, Bool.true_eq_false] at ht
    · rename_i n
      rw [stepAction_observe_run] at hrun
      cases hres : resolvePure s [] n with
      | error e => rw [hres] at hrun; cases hrun; exact hw
      | ok m => rw [hres] at hrun; cases hrun; exact hw.pushObserver m
    · rename_i o
      rw [stepAction_cloneObs_run] at hrun; cases hrun
      exact hw.modObs o _ (fun _ => rfl)
    · rename_i o
      rw [stepAction_dropObs_run] at hrun; cases hrun
      exact hw.dropObsState o
    · rename_i o
      rw [stepAction_disallow_run] at hrun; cases hrun
      exact hw.disallowState o
    · obtain ⟨v, rfl⟩ := hok rfl
      simp only [stepAction] at hrun
      obtain ⟨u, s1, h1, h2⟩ := bind_ok_inv hrun
      rw [run_pure] at h2; cases h2
      exact (stabilise_lifecycle env fuelDefault s s' hw h1).2.2.2.2.2.2.2

/-- a state predicate kept by every allowed step and by the log reset is kept along histories -/
theorem Run.invariant {env : Env} {P : Action → Except Panic (String × Array Nat) → Prop}
    (I : State → Prop)
    (hstep : ∀ a tokens s r s', P a r → I s → (stepAction env a tokens).run.run s = (r, s') → I s')
    (hlog : ∀ s : State, I s → I { s with log := [] }) {s s' : State} (h : Run env P s s')
    (hi : I s) : I s' := by
  induction h with
  | nil => exact hi
  | step a tokens r hp hrun _ ih => exact ih (hstep a tokens _ r _ hp hi hrun)
  | clearLog _ ih => exact ih (hlog _ hi)

/-- histories in which no `stabilise` panics -/
def NoStabPanic (a : Action) (r : Except Panic (String × Array Nat)) : Prop :=
  a = .stabilise → ∃ v, r = .ok v

theorem Run.obsWF {env : Env} {s s' : State} (h : Run env NoStabPanic s s') (hw : ObsWF s) :
    ObsWF s' :=
  Run.invariant ObsWF (fun a tokens s r s' hp hi hrun => ObsWF.step env a tokens s s' r hi hp hrun)
    (fun s hi => ObsWF.of_states (s := s) (fun _ => rfl) rfl rfl hi) h hw

end IncrVerif.Proofs.Life
