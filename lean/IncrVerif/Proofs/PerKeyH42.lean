import IncrVerif.Proofs.PerKeyH1
/-!
# Per-key operators, pure logic: the clause `NewStale` of a rewiring-with-creation step `StepP`

`stepP_inv'` (Proofs/DriverH2.lean): a `StepP` with `NewStale` keeps the drain invariant.

CONTRACT NOTE.  `StepP.new` only says that a new node has `recomputedAt = -1`.  For every kind of the fragment EXCEPT
`var` this makes a valid new node stale (`isStale_new_of_notVar`); for a `var` node staleness is `vc.setAt > -1`, which
`Stamps` does not give (`Stamps.var` is only an upper bound).  A valid non-stale new node would have to be consistent
(`DInv.cons`), of which `StepP` says nothing, so the clause
  `newStale : ∀ m, s.nodes.size ≤ m → m < s'.nodes.size → (s'.nodeD m).valid = true → s'.isStale m = true`
(the third conjunct of `BindH.StepL.new`) is MISSING from `StepP`.  Here it is the explicit hypothesis `NewStale s s'`;
`newStale_of_noNewVar` derives it from `StepP` when no valid new node is a `var`.
-/
namespace IncrVerif.Proofs.PerKeyH
open IncrVerif.Engine IncrVerif.Proofs IncrVerif.Proofs.Step IncrVerif.Proofs.Sched IncrVerif.Proofs.BindH

/-- a valid node of a kind of the bind fragment that has never been computed and is not a variable is stale -/
theorem isStale_new_of_notVar {env : Env} {s : State} {m : Nat} (hv : (s.nodeD m).valid = true)
    (hk : BKind env (s.nodeD m).kind) (hnv : ∀ c, (s.nodeD m).kind ≠ .var c)
    (hr : (s.nodeD m).recomputedAt = -1) : s.isStale m = true := by
  unfold State.isStale
  simp only [Node.kind?, hv, if_true, hr]
  cases hkd : (s.nodeD m).kind <;> rw [hkd] at hk <;> first
    | exact hk.elim
    | exact absurd hkd (hnv _)
    | rfl
    | simp

section
variable {env : Env} {X : Nat → Prop} {n : Nat} {s s' : State}

/-- `NewStale` from the contract, when no valid new node is a variable -/
theorem newStale_of_noNewVar (R : StepP env X n s s')
    (h : ∀ m c, s.nodes.size ≤ m → m < s'.nodes.size → (s'.nodeD m).valid = true → (s'.nodeD m).kind ≠ .var c) :
    NewStale s s' := by
  intro m h1 h2 hv
  exact isStale_new_of_notVar hv (R.graph'.node m h2 hv).1 (fun c => h m c h1 h2 hv) (R.new m h1 h2)

/-- a rewiring-with-creation step followed by a static step of the change detector keeps the drain invariant
(as `DriverH.driver_step_keeps'`) -/
theorem stepP_stepB_inv' {v : Val} {ch : Bool} {r : Option Nat} {ŝ : State}
    (I : DInv env s (some n)) (W : StepP env X n s ŝ) (N : NewStale s ŝ)
    (ht : TargetB env ŝ n v) (R : StepRelB n v ch r ŝ s') : DInv env s' r :=
  stepB_inv (stepP_inv' I W N) ht R

/-! ## the contract with the missing clause added (proposed replacement of `StepP`) -/

/-- `StepP` plus `newStale` -/
structure StepP' (env : Env) (X : Nat → Prop) (n : Nat) (s s' : State) : Prop extends StepP env X n s s' where
  /-- new nodes that are valid are stale (as `BindH.StepL.new`) -/
  newStale : ∀ m, s.nodes.size ≤ m → m < s'.nodes.size → (s'.nodeD m).valid = true → s'.isStale m = true

theorem stepP_inv (I : DInv env s (some n)) (R : StepP' env X n s s') : DInv env s' (some n) :=
  stepP_inv' I R.toStepP R.newStale

theorem stepP_stepB_inv {v : Val} {ch : Bool} {r : Option Nat} {ŝ : State}
    (I : DInv env s (some n)) (W : StepP' env X n s ŝ)
    (ht : TargetB env ŝ n v) (R : StepRelB n v ch r ŝ s') : DInv env s' r :=
  stepB_inv (stepP_inv I W) ht R

end

end IncrVerif.Proofs.PerKeyH
