import IncrVerif.Proofs.PerKeyH111
/-! # Per-key operators, non-vacuity examples (continued): families `P1`, `P2` (see `PerKeyH111`) -/
namespace IncrVerif.Proofs.PerKeyH
open IncrVerif.Engine IncrVerif.Driver IncrVerif.Proofs IncrVerif.Proofs.ExpertH
open IncrVerif.Props.C14History IncrVerif.Proofs.ExpertH.QR

/-! ## `P1`: `F(k, v) = (1 + n2) mod 7` (a node per key that ignores the key's value) -/

set_option maxRecDepth 100000 in
/-- after each `stabilise` with an in-use observer (`o0`; after the re-observation `o1`): (the read, the input map, the outer variable) -/
theorem exP1_io :
    ioAfter exEnvP ((exHistP 1).take 6) 0 = some (.map [(1, 3), (5, 3)], some (.map [(1, 3), (5, 0)]), some (.int 2)) ∧
    ioAfter exEnvP ((exHistP 1).take 8) 0 = some (.map [(1, 3), (5, 3), (6, 3)], some (.map [(1, 3), (5, 0), (6, 2)]), some (.int 2)) ∧
    ioAfter exEnvP ((exHistP 1).take 10) 0 = some (.map [(1, 3), (5, 3), (6, 3)], some (.map [(1, 4), (5, 0), (6, 2)]), some (.int 2)) ∧
    ioAfter exEnvP ((exHistP 1).take 12) 0 = some (.map [(1, 3), (6, 3)], some (.map [(1, 4), (6, 2)]), some (.int 2)) ∧
    ioAfter exEnvP ((exHistP 1).take 14) 0 = some (.map [(1, 5), (6, 5)], some (.map [(1, 4), (6, 2)]), some (.int 4)) ∧
    ioAfter exEnvP ((exHistP 1).take 23) 1 = some (.map [(1, 5), (8, 5), (9, 5)], some (.map [(1, 5), (8, 3), (9, 0)]), some (.int 4)) ∧
    ioAfter exEnvP (exHistP 1) 1 = some (.map [(1, 6), (9, 6)], some (.map [(1, 6), (9, 0)]), some (.int 5)) :=
  ⟨by decide +kernel, by decide +kernel, by decide +kernel, by decide +kernel, by decide +kernel, by decide +kernel,
    by decide +kernel⟩

/-- the reads alone -/
theorem exP1_reads :
    readAfter exEnvP ((exHistP 1).take 6) 0 = some (.map [(1, 3), (5, 3)]) ∧
    readAfter exEnvP ((exHistP 1).take 8) 0 = some (.map [(1, 3), (5, 3), (6, 3)]) ∧
    readAfter exEnvP ((exHistP 1).take 10) 0 = some (.map [(1, 3), (5, 3), (6, 3)]) ∧
    readAfter exEnvP ((exHistP 1).take 12) 0 = some (.map [(1, 3), (6, 3)]) ∧
    readAfter exEnvP ((exHistP 1).take 14) 0 = some (.map [(1, 5), (6, 5)]) ∧
    readAfter exEnvP ((exHistP 1).take 23) 1 = some (.map [(1, 5), (8, 5), (9, 5)]) ∧
    readAfter exEnvP (exHistP 1) 1 = some (.map [(1, 6), (9, 6)]) := by
  obtain ⟨h1, h2, h3, h4, h5, h6, h7⟩ := exP1_io
  exact ⟨readAfter_of_io h1, readAfter_of_io h2, readAfter_of_io h3, readAfter_of_io h4, readAfter_of_io h5,
    readAfter_of_io h6, readAfter_of_io h7⟩

/-- `f1 n2` -/
def F1 (o : Int) (_k _v : Int) : Int := (1 + o) % 7

/-- C16 on the example, with the function explicit: after each `stabilise` the in-use observer reads
`{k ↦ F(k, v) | (k, v) ∈ x}` for the current value of the input variable `x` and of the outer variable (`2`, `4`, `5`) (the input
values are those of `exP1_io`) -/
theorem exP1_spec :
    readAfter exEnvP ((exHistP 1).take 6) 0 = some (.map ([(1, 3), (5, 0)].map fun (k, v) => (k, (F1 2) k v))) ∧
    readAfter exEnvP ((exHistP 1).take 8) 0 = some (.map ([(1, 3), (5, 0), (6, 2)].map fun (k, v) => (k, (F1 2) k v))) ∧
    readAfter exEnvP ((exHistP 1).take 10) 0 = some (.map ([(1, 4), (5, 0), (6, 2)].map fun (k, v) => (k, (F1 2) k v))) ∧
    readAfter exEnvP ((exHistP 1).take 12) 0 = some (.map ([(1, 4), (6, 2)].map fun (k, v) => (k, (F1 2) k v))) ∧
    readAfter exEnvP ((exHistP 1).take 14) 0 = some (.map ([(1, 4), (6, 2)].map fun (k, v) => (k, (F1 4) k v))) ∧
    readAfter exEnvP ((exHistP 1).take 23) 1 = some (.map ([(1, 5), (8, 3), (9, 0)].map fun (k, v) => (k, (F1 4) k v))) ∧
    readAfter exEnvP (exHistP 1) 1 = some (.map ([(1, 6), (9, 0)].map fun (k, v) => (k, (F1 5) k v))) := exP1_reads

/-! ## `P2`: `F(k, v) = n2` (the SAME node for every key) -/

set_option maxRecDepth 100000 in
/-- after each `stabilise` with an in-use observer (`o0`; after the re-observation `o1`): (the read, the input map, the outer variable) -/
theorem exP2_io :
    ioAfter exEnvP ((exHistP 2).take 6) 0 = some (.map [(1, 2), (5, 2)], some (.map [(1, 3), (5, 0)]), some (.int 2)) ∧
    ioAfter exEnvP ((exHistP 2).take 8) 0 = some (.map [(1, 2), (5, 2), (6, 2)], some (.map [(1, 3), (5, 0), (6, 2)]), some (.int 2)) ∧
    ioAfter exEnvP ((exHistP 2).take 10) 0 = some (.map [(1, 2), (5, 2), (6, 2)], some (.map [(1, 4), (5, 0), (6, 2)]), some (.int 2)) ∧
    ioAfter exEnvP ((exHistP 2).take 12) 0 = some (.map [(1, 2), (6, 2)], some (.map [(1, 4), (6, 2)]), some (.int 2)) ∧
    ioAfter exEnvP ((exHistP 2).take 14) 0 = some (.map [(1, 4), (6, 4)], some (.map [(1, 4), (6, 2)]), some (.int 4)) ∧
    ioAfter exEnvP ((exHistP 2).take 23) 1 = some (.map [(1, 4), (8, 4), (9, 4)], some (.map [(1, 5), (8, 3), (9, 0)]), some (.int 4)) ∧
    ioAfter exEnvP (exHistP 2) 1 = some (.map [(1, 5), (9, 5)], some (.map [(1, 6), (9, 0)]), some (.int 5)) :=
  ⟨by decide +kernel, by decide +kernel, by decide +kernel, by decide +kernel, by decide +kernel, by decide +kernel,
    by decide +kernel⟩

/-- the reads alone -/
theorem exP2_reads :
    readAfter exEnvP ((exHistP 2).take 6) 0 = some (.map [(1, 2), (5, 2)]) ∧
    readAfter exEnvP ((exHistP 2).take 8) 0 = some (.map [(1, 2), (5, 2), (6, 2)]) ∧
    readAfter exEnvP ((exHistP 2).take 10) 0 = some (.map [(1, 2), (5, 2), (6, 2)]) ∧
    readAfter exEnvP ((exHistP 2).take 12) 0 = some (.map [(1, 2), (6, 2)]) ∧
    readAfter exEnvP ((exHistP 2).take 14) 0 = some (.map [(1, 4), (6, 4)]) ∧
    readAfter exEnvP ((exHistP 2).take 23) 1 = some (.map [(1, 4), (8, 4), (9, 4)]) ∧
    readAfter exEnvP (exHistP 2) 1 = some (.map [(1, 5), (9, 5)]) := by
  obtain ⟨h1, h2, h3, h4, h5, h6, h7⟩ := exP2_io
  exact ⟨readAfter_of_io h1, readAfter_of_io h2, readAfter_of_io h3, readAfter_of_io h4, readAfter_of_io h5,
    readAfter_of_io h6, readAfter_of_io h7⟩

def F2 (o : Int) (_k _v : Int) : Int := o

/-- C16 on the example, with the function explicit: after each `stabilise` the in-use observer reads
`{k ↦ F(k, v) | (k, v) ∈ x}` for the current value of the input variable `x` and of the outer variable (`2`, `4`, `5`) (the input
values are those of `exP2_io`) -/
theorem exP2_spec :
    readAfter exEnvP ((exHistP 2).take 6) 0 = some (.map ([(1, 3), (5, 0)].map fun (k, v) => (k, (F2 2) k v))) ∧
    readAfter exEnvP ((exHistP 2).take 8) 0 = some (.map ([(1, 3), (5, 0), (6, 2)].map fun (k, v) => (k, (F2 2) k v))) ∧
    readAfter exEnvP ((exHistP 2).take 10) 0 = some (.map ([(1, 4), (5, 0), (6, 2)].map fun (k, v) => (k, (F2 2) k v))) ∧
    readAfter exEnvP ((exHistP 2).take 12) 0 = some (.map ([(1, 4), (6, 2)].map fun (k, v) => (k, (F2 2) k v))) ∧
    readAfter exEnvP ((exHistP 2).take 14) 0 = some (.map ([(1, 4), (6, 2)].map fun (k, v) => (k, (F2 4) k v))) ∧
    readAfter exEnvP ((exHistP 2).take 23) 1 = some (.map ([(1, 5), (8, 3), (9, 0)].map fun (k, v) => (k, (F2 4) k v))) ∧
    readAfter exEnvP (exHistP 2) 1 = some (.map ([(1, 6), (9, 0)].map fun (k, v) => (k, (F2 5) k v))) := exP2_reads

end IncrVerif.Proofs.PerKeyH
