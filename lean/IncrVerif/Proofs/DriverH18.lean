import IncrVerif.Proofs.DriverH4
import IncrVerif.Proofs.DriverH3
/-!
# Effects of a driver, part 1: bookkeeping

* run rules of `resolveOpnd []`, `expertIdxRaw`;
* `putExpert e er'` with `er'` differing from the record in `script`/`sel` only keeps `Mid` and is an `EF`;
* `Prot`: protected edges, and how `Drives` moves along one effect;
* `PS` along `EF`; a driven-by-a-necessary-node driver is necessary.
-/
namespace IncrVerif.Proofs.DriverH
open IncrVerif.Engine IncrVerif.Driver IncrVerif.Proofs IncrVerif.Proofs.Step IncrVerif.Proofs.Sched
open IncrVerif.Proofs.ExpertH IncrVerif.Proofs.ExpertH.QR IncrVerif.Proofs.EffH

/-! ## run rules -/

theorem run_resolveOpnd {s : State} {o : Opnd} {x : Nat} (h : resOp s o = some x) :
    (resolveOpnd [] o).run.run s = (.ok x, s) := by
  cases o with
  | outer k =>
    simp only [resOp] at h
    unfold resolveOpnd
    simp only [run_bind_get, h]
    rfl
  | abs n =>
    simp only [resOp, Option.some.injEq] at h
    subst h
    rfl
  | loc j => simp [resOp] at h
  | slot k => simp [resOp] at h

theorem run_expertIdxRaw {s : State} {x e : Nat} (hx : x < s.nodes.size) (hk : (s.nodeD x).kind = .expert e) :
    (expertIdxRaw x).run.run s = (.ok (some e), s) := by
  unfold expertIdxRaw
  rw [run_bind_ok (run_getNode_some (some_of_lt hx))]
  simp only [hk]
  rfl

/-! ## editing `script`/`sel` of one record -/

/-- `er'` is `er` except for the driver fields -/
def SameBut (er er' : ExpertRec) : Prop := er' = { er with script := er'.script, sel := er'.sel }

theorem SameBut.script (er : ExpertRec) (sc : List Nat) : SameBut er { er with script := sc } := rfl
theorem SameBut.sel (er : ExpertRec) (sl : Option (Nat × Nat)) : SameBut er { er with sel := sl } := rfl

section put
variable {E : Env} {s : State} {e : Nat} {er er' : ExpertRec}

theorem xRec_put (hx : s.experts[e]? = some er) (e0 : Nat) :
    xRec (s.experts.setIfInBounds e er') e0 = if e0 = e then er' else xRec s.experts e0 := by
  have hlt := (Array.getElem?_eq_some_iff.1 hx).1
  unfold xRec
  rw [Array.getElem?_setIfInBounds]
  by_cases h : e0 = e
  · subst h; simp [hlt]
  · simp [h, Ne.symm h]

theorem virtNode_put (hx : s.experts[e]? = some er) (hs : SameBut er er') :
    virtNode (s.experts.setIfInBounds e er') = virtNode s.experts := by
  funext nd
  have key : ∀ e0, (xRec (s.experts.setIfInBounds e er') e0).f = (xRec s.experts e0).f ∧
      (xRec (s.experts.setIfInBounds e er') e0).children = (xRec s.experts e0).children ∧
      (xRec (s.experts.setIfInBounds e er') e0).forceStale = (xRec s.experts e0).forceStale := by
    intro e0
    rw [xRec_put hx]
    by_cases h : e0 = e
    · subst h
      rw [if_pos rfl, xRec_some hx, hs]
      exact ⟨rfl, rfl, rfl⟩
    · rw [if_neg h]; exact ⟨rfl, rfl, rfl⟩
  have h1 : ∀ k, virtKind (s.experts.setIfInBounds e er') k = virtKind s.experts k := by
    intro k
    cases k <;> first | rfl | skip
    rename_i e0
    obtain ⟨k1, k2, -⟩ := key e0
    simp only [virtKind, k1, k2]
  have h2 : ∀ k, forced (s.experts.setIfInBounds e er') k = forced s.experts k := by
    intro k
    cases k <;> first | rfl | skip
    rename_i e0
    exact (key e0).2.2
  unfold virtNode
  rw [h1, h2]

theorem virt_put (hx : s.experts[e]? = some er) (hs : SameBut er er') :
    virt (Xp.putExpert e er' s) = virt s := by
  unfold virt Xp.putExpert
  simp only [virtNode_put hx hs]

theorem put_get (hx : s.experts[e]? = some er) (e0 : Nat) :
    (Xp.putExpert e er' s).experts[e0]? = if e0 = e then some er' else s.experts[e0]? := by
  by_cases h : e0 = e
  · subst h; rw [if_pos rfl]; exact Xp.putExpert_get er' hx
  · rw [if_neg h]; exact Xp.putExpert_get_ne s er' (Ne.symm h)

theorem Mid.put (M : Mid E s) (hx : s.experts[e]? = some er) (hs : SameBut er er') :
    Mid E (Xp.putExpert e er' s) := by
  refine ⟨⟨M.frag.pc, M.frag.kind, M.frag.valid, ?_, ?_⟩, ⟨M.ahh.length, M.ahh.buckets, M.ahh.marks⟩, ?_,
    M.pinv, M.handlers⟩
  · intro n e0 hn hk
    obtain ⟨er0, h0, h1⟩ := M.frag.xrec n e0 hn hk
    rw [put_get hx]
    by_cases h : e0 = e
    · subst h
      rw [hx] at h0; cases h0
      rw [if_pos rfl]
      exact ⟨er', rfl, by rw [hs]; exact h1⟩
    · rw [if_neg h]; exact ⟨er0, h0, h1⟩
  · intro e0 er0 h0
    rw [put_get hx] at h0
    by_cases h : e0 = e
    · subst h
      rw [if_pos rfl] at h0; cases h0
      have := M.frag.xok e0 er hx
      rw [hs]; exact this
    · rw [if_neg h] at h0; exact M.frag.xok e0 er0 h0
  · rw [virt_put hx hs]; exact M.st

theorem EF.put (hx : s.experts[e]? = some er) (hs : SameBut er er') :
    EF (fun e' => e' = e) s (Xp.putExpert e er' s) := by
  refine ⟨rfl, fun _ => rfl, rfl, by simp [Xp.putExpert], ?_, ?_, ?_, Nat.le_refl _⟩
  · intro e0 er0 h0
    rw [put_get hx]
    by_cases h : e0 = e
    · subst h
      rw [hx] at h0; cases h0
      rw [if_pos rfl]
      exact ⟨er', rfl, by rw [hs], by rw [hs], by rw [hs]⟩
    · rw [if_neg h]; exact ⟨er0, h0, rfl, rfl, rfl⟩
  · intro e0 er0 er0' hD h0 h0'
    rw [put_get hx, if_neg hD, h0] at h0'
    cases h0'; rfl
  · intro e0 er0 er0' h0 h0'
    rw [put_get hx] at h0'
    by_cases h : e0 = e
    · subst h
      rw [hx] at h0; cases h0
      rw [if_pos rfl] at h0'; cases h0'
      exact Or.inl ⟨by rw [hs], by rw [hs]⟩
    · rw [if_neg h, h0] at h0'; cases h0'
      exact Or.inl ⟨rfl, rfl⟩

end put

/-! ## protected edges -/

/-- `ed` is a protected edge of the record `er` (names below `lim`) -/
def Prot (lim : Nat) (er : ExpertRec) (ed : ExpertEdge) : Prop :=
  ed ∈ er.children ∧ ed.dep < lim ∧ ed.dep ∉ er.script ∧ ∀ d c, er.sel = some (d, c) → d ≠ ed.dep

theorem drives_iff (s : State) (n x : Nat) :
    Drives s n x ↔ x < s.nodes.size ∧ ∃ e er, (s.nodeD x).kind = .expert e ∧ s.experts[e]? = some er ∧
      ∃ ed, Prot s.nextDep er ed ∧ ed.child = n := by
  unfold Drives Prot
  constructor
  · rintro ⟨h1, e, er, h2, h3, ed, h4, h5, h6, h7, h8⟩
    exact ⟨h1, e, er, h2, h3, ed, ⟨h4, h6, h7, h8⟩, h5⟩
  · rintro ⟨h1, e, er, h2, h3, ed, ⟨h4, h6, h7, h8⟩, h5⟩
    exact ⟨h1, e, er, h2, h3, ed, h4, h5, h6, h7, h8⟩

/-- one effect on the record `e`: the protected edges of `e` stay protected -/
theorem drives_step {t t' : State} {e : Nat} (ef : EF (fun e' => e' = e) t t')
    (hp : ∀ er, t.experts[e]? = some er → ∃ er', t'.experts[e]? = some er' ∧
      ∀ ed, Prot t.nextDep er ed → Prot t.nextDep er' ed) :
    ∀ m y, Drives t m y → Drives t' m y := by
  intro m y h
  rw [drives_iff] at h ⊢
  obtain ⟨hy, e0, er0, hk, hr, ed, hpr, hc⟩ := h
  have hk' : (t'.nodeD y).kind = .expert e0 := by
    have := congrArg (·.1) (ef.node y)
    exact this.trans hk
  have hmono : ∀ er1, Prot t.nextDep er1 ed → Prot t'.nextDep er1 ed := fun er1 h =>
    ⟨h.1, Nat.lt_of_lt_of_le h.2.1 ef.nextDep, h.2.2⟩
  refine ⟨by rw [ef.size]; exact hy, e0, ?_⟩
  by_cases h : e0 = e
  · subst h
    obtain ⟨er', h1, h2⟩ := hp er0 hr
    exact ⟨er', hk', h1, ed, hmono _ (h2 ed hpr), hc⟩
  · obtain ⟨er', h1, -⟩ := ef.xcore e0 er0 hr
    have hsame := ef.xsame e0 er0 er' h hr h1
    simp only [recK, Prod.mk.injEq] at hsame
    obtain ⟨c1, -, c3, c4⟩ := hsame
    refine ⟨er', hk', h1, ed, hmono _ ?_, hc⟩
    unfold Prot at hpr ⊢
    rw [c1, c3, c4]; exact hpr

/-! ## `PS`, `resOp`, kinds along `EF` -/

theorem EF.kind {D : Nat → Prop} {s s' : State} (ef : EF D s s') (m : Nat) : (s'.nodeD m).kind = (s.nodeD m).kind :=
  congrArg (·.1) (ef.node m)

theorem EF.top {D : Nat → Prop} {s s' : State} (ef : EF D s s') : s'.top = s.top := by
  have := ef.key
  simp only [eKey, Prod.mk.injEq] at this
  exact this.2.2.2.2.2.2.2.2.2.2.2.2.2.2.1

theorem EF.resOp {D : Nat → Prop} {s s' : State} (ef : EF D s s') (o : Opnd) : resOp s' o = resOp s o :=
  resOp_congr ef.top o

/-! ## the driver of a necessary node is necessary -/

theorem nec_of_child {E : Env} {s : State} (M : Mid E s) {n x e : Nat} {er : ExpertRec} {ed : ExpertEdge}
    (hk : (s.nodeD x).kind = .expert e) (hr : s.experts[e]? = some er) (hm : ed ∈ er.children) (hc : ed.child = n)
    (hx : s.isNecessary x = true) : s.isNecessary n = true := by
  obtain ⟨rk, I⟩ := M.st
  have hkids : kids ((virt s).nodeD x).kind = er.children.map (·.child) := by
    rw [virt_kids, hk]; simp only [kidsX, xRec_some hr]
  have hmem : n ∈ er.children.map (·.child) := List.mem_map.2 ⟨ed, hm, hc⟩
  obtain ⟨j, hj⟩ := List.getElem?_of_mem hmem
  have := I.conv x j n (by rw [hkids]; exact hj) ((wants_closed rfl).2 (by rw [virt_isNecessary]; exact hx))
  rw [virt_nodeD, virtNode_parents] at this
  exact nec_of_mem_parents this

theorem nec_of_drives {E : Env} {s : State} (M : Mid E s) {n x : Nat} (h : Drives s n x)
    (hx : s.isNecessary x = true) : s.isNecessary n = true := by
  obtain ⟨-, e, er, hk, hr, ed, hm, hc, -⟩ := h
  exact nec_of_child M hk hr hm hc hx

end IncrVerif.Proofs.DriverH
