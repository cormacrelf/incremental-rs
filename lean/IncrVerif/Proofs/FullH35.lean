import IncrVerif.Proofs.FullH34
import IncrVerif.Proofs.FullH26
import IncrVerif.Proofs.FullH29
/-!
# C01 full fragment, MW5: **the recompute step of a `map_with_old` node** (`MapOldH.step_mwo_node` for graphs with binds)

No simulation (the actual node fires iff the machine says so): the step relation `BindH.StepRelB` of the virtual states is assembled from the
actual run and the machine contract.  When the machine reports "no change" on its very first run (the node has no value yet) the virtual
pre-state is patched (`MW.DInv.patch`).  The ghost does not change.
-/
namespace IncrVerif.Proofs.FullH
open IncrVerif.Engine IncrVerif.Proofs IncrVerif.Proofs.Step IncrVerif.Proofs.Sched IncrVerif.Proofs.Quiet
open IncrVerif.Proofs.BindH (DInv BGraph StepRelB Edge Below TargetB ConsistentB BKind FrameB)
open IncrVerif.Proofs.NestH (AuxS2 Aux2 GenOK2 F2Inv)
open IncrVerif.Proofs.MapOldH (enc mwoX mwoX_nodeD mwoX_size MReach GoodMachine setValue_nodeD_with setValue_size setValue_changedAt)
open IncrVerif.Proofs.MapRefH (ValFrame)

/-- **one step, a map_with_old node.** -/
theorem step_mwo {env : Env} {sp : Nat → Val → Val} {t s : State} {g : Nat → Option Val} {fuel n m i : Nat} {r : Option Nat}
    {s' : State} (D : DInvF env sp t s g (some n)) (hk : (s.nodeD n).kind = .mapWithOld m i)
    (h : (recomputeOne env fuel n).run.run s = (.ok r, s')) :
    DInvF env sp t s' g r ∧ BindH.FrameB (virt g s) (virt g s') ∧
      ((virt g s').nodeD n).recomputedAt = s.stabNum ∧ ((virt g s').nodeD n).valid = true ∧ MR.VFr (virt g s) (virt g s') ∧
      ∃ P v ch, (P = virt g s ∨ ∃ u, P = setValue n u (virt g s)) ∧ DInv (VE env sp) P (some n) ∧ StepRelB n v ch r P (virt g s') := by
  have F := D.frag
  have I := D.inv
  have gr := I.graph
  have hi := I.heap
  obtain ⟨⟨rk, A⟩, hDK, hNK⟩ := D.aux
  obtain ⟨hnnec, hltv, hnvv, -, -⟩ := I.cur_facts
  have hlt := F.lt_of_mwo hk
  have hnv : (s.nodeD n).valid = true := by rw [virt_nodeD, virtNode_valid] at hnvv; exact hnvv
  obtain ⟨hW, hG⟩ := F.wid hk
  have hnm : ∀ p i', (s.nodeD n).kind ≠ .mapRef p i' := by intro p i'; rw [hk]; intro e; cases e
  -- the input
  have hci : i ∈ s.children n := by rw [children_mwo hnv hk]; exact List.mem_singleton.2 rfl
  obtain ⟨htvi, hsome⟩ := kids_settled D i hci
  obtain ⟨x, hxv⟩ := Option.isSome_iff_exists.1 hsome
  have htx : tv g s i = some x := htvi.trans hxv
  have hreach := D.m n m i hnv hk
  -- the machine
  obtain ⟨es, hrun⟩ := MapOldH.recomputeOne_mwo_run env fuel n s (s.nodeD n) m i x (some_of_lt hlt) hnv hk hxv F.pc
  have hout0 := hG.out _ _ hreach x trivial
  have hflag0 := hG.flag _ _ hreach x trivial
  have hreach0 : MReach env (fun _ => True) m _ _ := MReach.step (x := x) hreach trivial
  generalize env.withOld m (s.nodeD n).oldState (s.nodeD n).value x = w at hrun hout0 hflag0 hreach0
  have hout : w.2.1 = sp m x := hout0
  have hreach' : MReach env (fun _ => True) m w.1 (some (sp m x)) := by rw [← hout]; exact hreach0
  rw [hrun] at h
  have hXe : setWithOld n w.2.1 w.1 (logged es (started n s)) = mwoX n w.2.1 w.1 es s := rfl
  rw [hXe] at h
  -- the state in which the notifications start
  have hX := fun k => mwoX_nodeD n k w.2.1 w.1 es s hlt
  have hXsz := mwoX_size n w.2.1 w.1 es s
  have VF : ValFrame n s (mwoX n w.2.1 w.1 es s) := MW.mwoX_valFrame n w.2.1 w.1 es hlt
  have hXn : (mwoX n w.2.1 w.1 es s).nodeD n =
      { s.nodeD n with recomputedAt := s.stabNum, value := some w.2.1, oldState := w.1 } := by
    rw [hX, if_pos rfl]
  have hXv : ((mwoX n w.2.1 w.1 es s).nodeD n).value = some (sp m x) := by rw [hXn]; show some w.2.1 = _; rw [hout]
  have hXo : ((mwoX n w.2.1 w.1 es s).nodeD n).oldState = w.1 := by rw [hXn]
  have hXold : ∀ k, k ≠ n → ((mwoX n w.2.1 w.1 es s).nodeD k).oldState = (s.nodeD k).oldState := by
    intro k hk'; rw [hX, if_neg hk']
  have hXpc : (mwoX n w.2.1 w.1 es s).panicCountdown = none := F.pc
  -- the frames of the actual run
  have k0 : KeyD s (mwoX n w.2.1 w.1 es s) := rfl
  have a0 : BindH.BF.HAh s (mwoX n w.2.1 w.1 es s) := by
    intro k; rw [hX]; split
    · rename_i e; rw [e]
    · rfl
  have c0 : Calm s (mwoX n w.2.1 w.1 es s) :=
    ((Calm.started n s).trans (Calm.logged es _)).trans (Calm.modNode _ n _ (fun _ => rfl))
  have d0 : BindH.C2k.DK 0 s (mwoX n w.2.1 w.1 es s) :=
    ((BindH.C2k.DKS.started 0 n s).1.trans (BindH.C2k.DKS.logged 0 es _).1).trans
      (BindH.C2k.DKS.modNode (b := 0) (logged es (started n s)) n (fun y => { y with value := some w.2.1, oldState := w.1 })
        (fun _ => rfl)).1
  have k1 := (PresK.maybeChangeValueManual env fuel n none w.2.2 true).h _ _ _ h
  have a1 := (BindH.BF.PresA.maybeChangeValueManual env fuel n none w.2.2 true).h _ _ _ h
  have c1 := (PresC.maybeChangeValueManual env fuel n none w.2.2 true).h _ _ _ h
  have d1 := (BindH.C2k.PresD.maybeChangeValueManual (b := 0) env fuel n none w.2.2 true).h _ _ _ h
  have fm : MapRefH.FM _ s' := (MapRefH.PresFM.maybeChangeValueManual env fuel n none w.2.2 true).h _ _ _ h
  obtain ⟨htop, hahh, hpinv, hsc⟩ := MW.keyD_fields (KeyD.trans k0 k1)
  have hAH : BindH.BF.HAh (virt g s) (virt g s') := MW.hah_virt (a0.trans a1)
  have hNUM := MW.num_virt (g := g) (g' := g) (fun k => ((c1.num k).trans (c0.num k)))
  have Fv : MR.VFr (virt g s) (virt g s') := ⟨(KeyD.trans k0 k1 : KeyD s s'), hAH, hNUM, MW.dk_virt (g := g) (g' := g) (d0.trans d1.1)⟩
  obtain ⟨hDK', hNK'⟩ := BindH.C2k.dkey_of_dk Fv.dk A.noHandlers
  -- the virtual node
  have hkv : ((virt g s).nodeD n).kind = .map (wBase + enc m) [i] := by rw [virt_nodeD, virtNode_kind, hk]; rfl
  have hstatic : StaticKind (VE env sp) ((virt g s).nodeD n).kind := by
    have := (gr.node n hltv hnvv).1
    rw [hkv] at this ⊢; exact this
  have htarget : TargetB (VE env sp) (virt g s) n (sp m x) := by
    unfold TargetB Target
    rw [hkv]
    refine ⟨[x], ?_, by rw [virtEnv_fn_mach env sp hW]; rfl⟩
    rw [virt_plainVals]
    simp only [evalArgs, htx]
  have hvnv : ((virt g s).nodeD n).value = (s.nodeD n).value := by
    rw [virt_nodeD, virtNode_value_of_not_mapRef _ _ hnm]
  have hUself : Upd n (virt g s) (virt g (mwoX n w.2.1 w.1 es s)) :=
    MW.mwoX_upd (virt g s) hlt F.pc (fun k => ⟨_, rfl⟩) (fun _ _ => rfl) (virt_size g s) rfl rfl rfl
  have hXk : ∀ p i', ((mwoX n w.2.1 w.1 es s).nodeD n).kind ≠ .mapRef p i' := by intro p i'; rw [VF.kind]; exact hnm p i'
  have hXnv : ((virt g (mwoX n w.2.1 w.1 es s)).nodeD n).value = some (sp m x) := by
    rw [virt_nodeD, virtNode_value_of_not_mapRef _ _ hXk]; exact hXv
  have hXnr : ((virt g (mwoX n w.2.1 w.1 es s)).nodeD n).recomputedAt = (virt g s).stabNum := by
    rw [virt_nodeD, virtNode_recomputedAt, hXn]; rfl
  have hXnc : ((virt g (mwoX n w.2.1 w.1 es s)).nodeD n).changedAt = ((virt g s).nodeD n).changedAt := by
    rw [virt_nodeD, virtNode_changedAt, hXn, virt_nodeD, virtNode_changedAt]
  -- what is left to do once the step relation is there
  have fin : ∀ {P : State} {ch : Bool}, (P = virt g s ∨ ∃ u, P = setValue n u (virt g s)) →
      DInv (VE env sp) P (some n) → F2Inv (VE env sp) rk P → GenOK2 (VE env sp) P → TargetB (VE env sp) P n (sp m x) →
      StepRelB n (sp m x) ch r P (virt g s') → MW.NV (mwoX n w.2.1 w.1 es s) s' → KInv env g s' → DepInv g s' ∧ CRl s' →
      DInvF env sp t s' g r ∧ BindH.FrameB (virt g s) (virt g s') ∧
        ((virt g s').nodeD n).recomputedAt = s.stabNum ∧ ((virt g s').nodeD n).valid = true ∧ MR.VFr (virt g s) (virt g s') ∧
        ∃ P v ch, (P = virt g s ∨ ∃ u, P = setValue n u (virt g s)) ∧ DInv (VE env sp) P (some n) ∧ StepRelB n v ch r P (virt g s') := by
    intro P ch hP IP AP GP ht R nv K' hdc
    obtain ⟨i1, i2, i3, i4, i5, i6⟩ := MW.finish hP IP AP GP ht R (Or.inl hstatic) hnvv hNUM hAH htop hahh hpinv hsc
    exact ⟨⟨MW.ffrag_after F VF nv, i1, ⟨⟨rk, i2⟩, hDK.trans hDK', hNK.trans hNK'⟩, i3, K',
      MW.minv_after D.m VF nv hXold hk hXv hXo hreach', MW.gsome_after D.gs VF nv fm, hdc.1, hdc.2⟩, i4, i5, i6, Fv, P, _, ch, hP, IP, R⟩
  have hdep : ∀ {ch : Bool}, StepRelB n (sp m x) ch r (virt g s) (virt g s') → MW.NV (mwoX n w.2.1 w.1 es s) s' →
      DepInv g s' ∧ CRl s' := by
    intro ch R nv
    exact dep_stepB D.dep D.cr I R (fun k => (nv.kind k).trans (VF.kind k)) (fun k => (nv.cutoff k).trans (VF.cutoff k))
      (fun a b e => by rw [hk] at e; cases e)
  cases hdid : w.2.2 with
  | false =>
    rw [hdid, run_mcvm_false] at h
    cases h
    have nv : MW.NV (mwoX n w.2.1 w.1 es s) (mwoX n w.2.1 w.1 es s) := MW.NV.refl hXpc
    rcases hflag0 hdid with hnone | hsome
    · -- first run, "no change": patch the virtual pre-state
      have hvn : ((virt g s).nodeD n).value = none := hvnv.trans hnone
      have IP : DInv (VE env sp) (setValue n (some (sp m x)) (virt g s)) (some n) := MW.DInv.patch I hvn
      have hUP : Upd n (setValue n (some (sp m x)) (virt g s)) (virt g (mwoX n w.2.1 w.1 es s)) := by
        refine MW.mwoX_upd _ hlt F.pc (fun k => ?_) (fun k hk' => ?_) ?_ rfl rfl rfl
        · exact setValue_nodeD_with n _ (virt g s) k
        · rw [setValue_nodeD, if_neg (fun e => hk' e.1.symm)]
        · rw [setValue_size, virt_size]
      have hPn : ((setValue n (some (sp m x)) (virt g s)).nodeD n).value = some (sp m x) := by
        rw [setValue_nodeD, if_pos ⟨rfl, hltv⟩]
      have R : StepRelB n (sp m x) false none (setValue n (some (sp m x)) (virt g s)) (virt g (mwoX n w.2.1 w.1 es s)) :=
        MW.rel_false IP.graph IP.heap hUP rfl hXnv hXnr (by rw [hXnc, setValue_changedAt]) hPn
      exact fin (Or.inr ⟨_, rfl⟩) IP (MW.F2Inv.patch _ A) (MW.GenOK2.patch _ D.gen hvn) (MW.TargetB.patch_self hvn htarget) R nv
        (MW.kinv_first F D.k D.gs VF hnm hnone)
        (MW.dep_first D.dep D.cr VF (fun f args e => by rw [hk] at e; cases e) hnm hnone rfl
          (fun k => by rw [hX]; split
                       · rename_i e; rw [e]
                       · rfl)
          (fun k hk' => by rw [hX, if_neg hk']) (by rw [hXn]))
    · have R : StepRelB n (sp m x) false none (virt g s) (virt g (mwoX n w.2.1 w.1 es s)) :=
        MW.rel_false gr hi hUself rfl hXnv hXnr hXnc (hvnv.trans hsome)
      exact fin (Or.inl rfl) I A D.gen htarget R nv (valFrame_keepsK D.k VF (by rw [hXv, hsome])) (hdep R nv)
  | true =>
    rw [hdid] at h
    have FX : FFrag env sp g (mwoX n w.2.1 w.1 es s) := F.of_valFrame VF
    obtain ⟨hsim, -, -⟩ := Sim.maybeChangeValueManual (K := FK env sp) (g := g) (sp := sp) env fuel n none none true _ FX.fr r s' h
    have R : StepRelB n (sp m x) true r (virt g s) (virt g s') := MW.rel_true gr hi hltv hUself rfl hXnv hXnr hsim
    have qa : Step.Quiet (touched n (mwoX n w.2.1 w.1 es s)) s' := mcvm_true_quiet _ _ _ _ _ _ _ _ h
    exact fin (Or.inl rfl) I A D.gen htarget R (MW.NV.of_touched hXpc qa)
      (mcvm_keepsK F gr D.k VF (fun o ho => by cases ho) h) (hdep R (MW.NV.of_touched hXpc qa))

end IncrVerif.Proofs.FullH
