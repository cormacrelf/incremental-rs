import IncrVerif.Proofs.MapOld10
import IncrVerif.Proofs.BindH6
/-!
# C01 full fragment, MW1: the "patch" device for `BindH.DInv`

If the current node `n` of the drain invariant of a graph with binds has no stored value, pretending that it stores `some v` keeps
`BindH.DInv … (some n)`: only `cons` (and `TargetB`) read stored values; a consistent node has a value (so it is not `n`) and all the
values its defining equation reads exist (so `n` is not among them).
-/
namespace IncrVerif.Proofs.FullH
open IncrVerif.Engine IncrVerif.Proofs IncrVerif.Proofs.Step IncrVerif.Proofs.Sched IncrVerif.Proofs.Quiet
open IncrVerif.Proofs.BindH (DInv BGraph StepRelB Edge Below TargetB ConsistentB BKind)
open IncrVerif.Proofs.MapOldH (setValue_nodeD_with setValue_kind setValue_kind? setValue_recomputedAt setValue_changedAt
  setValue_heightInRch setValue_inRch setValue_shape setValue_value_ne setValue_size setValue_children setValue_isStale
  setValue_isNecessary Target.setValue_iff Target.kids_valued)
namespace MW

/-- a frame that keeps size, shapes, child lists, `binds`, `vars`, keeps the structure of the graph -/
theorem BGraph.transfer {env : Env} {s s' : State} (g : BGraph env s) (hsz : s'.nodes.size = s.nodes.size)
    (hsh : ∀ m, SameShape (s.nodeD m) (s'.nodeD m)) (hch : ∀ m, s'.children m = s.children m)
    (hb : s'.binds = s.binds) (hvars : s'.vars = s.vars) (hpc : s'.panicCountdown = none) : BGraph env s' := by
  have hnec : ∀ m, s'.isNecessary m = s.isNecessary m := fun m => (hsh m).isNecessary
  have hedge : ∀ a c, Edge s' a c → Edge s a c := by
    intro a c h
    cases h with
    | child hc => rw [hch] at hc; exact Edge.child hc
    | scope hv hsc hbr =>
      rw [(hsh a).valid] at hv
      rw [(hsh a).createdIn] at hsc
      rw [hb] at hbr
      exact Edge.scope hv hsc hbr
  refine
    { pc := hpc
      node := fun m hm hv => ?_
      nec := fun m hm => ?_
      var := fun m c hm hv hk => ?_
      child := fun m hm i c hc => ?_
      parent := fun c p i h => ?_
      scope := fun m b hm hv hsc => ?_
      lcRec := fun m b hm hv hk => ?_
      mainRec := fun m b lc hm hv hk => ?_
      lcChild := fun m c b hm hv hc hk => ?_
      acyc := ?_ }
  · rw [hsz] at hm
    rw [(hsh m).valid] at hv
    obtain ⟨h1, h2, h3⟩ := g.node m hm hv
    refine ⟨by rw [(hsh m).kind]; exact h1, by rw [(hsh m).cutoff]; exact h2, ?_⟩
    intro c hc
    rw [hch] at hc
    rw [hsz, (hsh c).valid]
    exact h3 c hc
  · rw [hnec] at hm
    rw [(hsh m).valid, (hsh m).height]
    exact g.nec m hm
  · rw [hsz] at hm
    rw [(hsh m).valid] at hv
    rw [(hsh m).kind] at hk
    rw [hvars]
    exact g.var m c hm hv hk
  · rw [hnec] at hm
    rw [hch] at hc
    rw [hnec, (hsh c).parents, (hsh c).height, (hsh m).height]
    exact g.child m hm i c hc
  · rw [(hsh c).parents] at h
    rw [hnec, hch]
    exact g.parent c p i h
  · rw [hsz] at hm
    rw [(hsh m).valid] at hv
    rw [(hsh m).createdIn] at hsc
    obtain ⟨br, h1, h2, h3, h4⟩ := g.scope m b hm hv hsc
    refine ⟨br, by rw [hb]; exact h1, by rw [hsz]; exact h2, by rw [(hsh _).valid]; exact h3, ?_⟩
    rw [hnec, hnec, (hsh _).height, (hsh m).height]
    exact h4
  · rw [hsz] at hm
    rw [(hsh m).valid] at hv
    rw [(hsh m).kind] at hk
    rw [hb]
    exact g.lcRec m b hm hv hk
  · rw [hsz] at hm
    rw [(hsh m).valid] at hv
    rw [(hsh m).kind] at hk
    rw [hb, (hsh lc).createdIn, (hsh m).createdIn]
    exact g.mainRec m b lc hm hv hk
  · rw [hsz] at hm
    rw [(hsh m).valid] at hv
    rw [hch] at hc
    rw [(hsh c).kind] at hk
    rw [(hsh m).kind]
    exact g.lcChild m c b hm hv hc hk
  · obtain ⟨rk, h⟩ := g.acyc
    exact ⟨rk, fun a c he => h a c (hedge a c he)⟩

section
variable {env : Env} {S : State} {n : Nat}

theorem setValue_edge (u : Option Val) {a c : Nat} : Edge (setValue n u S) a c ↔ Edge S a c := by
  constructor
  · intro h
    cases h with
    | child hc => rw [setValue_children] at hc; exact Edge.child hc
    | scope hv hsc hbr =>
      rw [(setValue_shape n u S a).valid] at hv
      rw [(setValue_shape n u S a).createdIn] at hsc
      exact Edge.scope hv hsc hbr
  · intro h
    cases h with
    | child hc => rw [← setValue_children n u S] at hc; exact Edge.child hc
    | scope hv hsc hbr =>
      rw [← (setValue_shape n u S a).valid] at hv
      rw [← (setValue_shape n u S a).createdIn] at hsc
      exact Edge.scope (s := setValue n u S) hv hsc hbr

theorem setValue_below (u : Option Val) {a d : Nat} : Below (setValue n u S) a d ↔ Below S a d := by
  constructor
  · intro h
    induction h with
    | refl => exact Below.refl _
    | step he _ ih => exact Below.step ((setValue_edge u).1 he) ih
  · intro h
    induction h with
    | refl => exact Below.refl _
    | step he _ ih => exact Below.step ((setValue_edge u).2 he) ih

/-- the defining equation of a node only reads values that exist -/
theorem TargetB.setVal {m : Nat} {u : Option Val} {w : Val} (hv : (S.nodeD n).value = none)
    (h : TargetB env S m w) : TargetB env (setValue n u S) m w := by
  unfold TargetB at h ⊢
  rw [setValue_kind]
  cases hk : (S.nodeD m).kind <;> rw [hk] at h <;> dsimp only at h ⊢
  case bindLhsChange b => exact h
  case bindMain b lc =>
    obtain ⟨br, r, h1, h2, h3⟩ := h
    refine ⟨br, r, h1, h2, ?_⟩
    rw [setValue_value_ne u S (fun e => by rw [e, hv] at h3; cases h3)]
    exact h3
  all_goals
    have hkk : n ∉ kids (S.nodeD m).kind := by
      intro hmem
      obtain ⟨x, hx⟩ := Target.kids_valued h n hmem
      rw [hv] at hx; cases hx
    exact (Target.setValue_iff hkk).2 h

theorem ConsistentB.patch {m : Nat} {u : Option Val} (hv : (S.nodeD n).value = none) (hc : ConsistentB env S m) :
    ConsistentB env (setValue n u S) m := by
  obtain ⟨w, ht, hw⟩ := hc
  have hne : m ≠ n := by intro e; rw [e, hv] at hw; cases hw
  exact ⟨w, TargetB.setVal hv ht, by rw [setValue_value_ne u S hne]; exact hw⟩

/-- **the patch device for `BindH.DInv`** -/
theorem DInv.patch {v : Val} (I : DInv env S (some n)) (hv : (S.nodeD n).value = none) :
    DInv env (setValue n (some v) S) (some n) := by
  have hsh := setValue_shape n (some v) S
  refine ⟨BGraph.transfer I.graph (setValue_size _ _ _) hsh (setValue_children n (some v) S) rfl rfl I.graph.pc, ?_, ?_, ?_, ?_, ?_,
    ?_, ?_⟩
  · exact I.heap.congr rfl (setValue_size _ _ _)
      (fun m => ⟨setValue_heightInRch _ _ _ m, (hsh m).height, setValue_isNecessary _ _ _ m⟩)
  · refine ⟨I.stamps.now, ?_, I.stamps.var⟩
    intro m
    rw [setValue_recomputedAt, setValue_changedAt]
    exact I.stamps.node m
  · intro m hm
    rw [setValue_inRch] at hm
    rw [setValue_isStale]
    exact I.qstale m hm
  · intro m hm hst
    rw [setValue_isNecessary] at hm
    rw [setValue_isStale] at hst
    rw [setValue_inRch]
    exact I.pending m hm hst
  · intro m hm hvl hst
    rw [setValue_size] at hm
    rw [(hsh m).valid] at hvl
    rw [setValue_isStale] at hst
    exact ConsistentB.patch hv (I.cons m hm hvl hst)
  · intro a d hb hd
    rw [setValue_below] at hb
    rw [setValue_isStale] at hd
    rw [setValue_recomputedAt]
    exact I.fresh a d hb hd
  · intro k hk
    obtain ⟨h1, h2⟩ := I.cur k hk
    refine ⟨by rw [setValue_isNecessary]; exact h1, ?_⟩
    intro d hd
    rw [setValue_below] at hd
    rw [setValue_inRch]
    exact h2 d hd

/-- the target of `n` itself is unaffected -/
theorem TargetB.patch_self {v w : Val} (hv : (S.nodeD n).value = none) (h : TargetB env S n w) :
    TargetB env (setValue n (some v) S) n w := TargetB.setVal hv h

end
end MW
end IncrVerif.Proofs.FullH
