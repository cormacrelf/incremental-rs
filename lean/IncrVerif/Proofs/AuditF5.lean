import IncrVerif.Proofs.Footprint
/-!
# C11, the HEIGHT-LIMIT clause, part a: `HL s` is kept by every function of the engine THAT RETURNS

`HL s`: every node's height is at most the largest height seen, which is within the limit of the adjust-heights heap; both heaps have the same number of buckets.
The only writer of `height` and `maxHeightSeen` is `setHeight`, which PANICS (`height-limit`) when the new height exceeds the limit — so the invariant is kept by runs
that return `.ok` (not by the panicking run, which leaves `maxHeightSeen` beyond the limit).  `POk m` ("every run of `m` that RETURNS keeps `HL`") is the ok-only
variant of `Step.Pres`.  For the functions of the engine it follows from their footprint (`POk.of_foot`); the calculus and `okpres` take the API actions apart (part c).
-/
open IncrVerif.Engine IncrVerif.Proofs IncrVerif.Proofs.Step
namespace IncrVerif.Proofs.AuditF.HLim

structure HL (s : State) : Prop where
  seen0 : 0 ≤ s.maxHeightSeen
  node : ∀ n, (s.nodeD n).height ≤ s.maxHeightSeen
  lim : s.maxHeightSeen ≤ s.ahh.maxAllowed
  same : s.rch.queues.size = s.ahh.queues.size

theorem HL.of_eq {s s' : State} (h : HL s) (hn : s'.nodes = s.nodes) (hm : s'.maxHeightSeen = s.maxHeightSeen)
    (ha : s'.ahh.queues.size = s.ahh.queues.size) (hr : s'.rch.queues.size = s.rch.queues.size) : HL s' :=
  ⟨by rw [hm]; exact h.seen0, fun n => by simp only [State.nodeD, hn, hm]; exact h.node n,
    by rw [hm]; simp only [Heap.maxAllowed, ha]; exact h.lim, by rw [hr, ha]; exact h.same⟩

theorem HL.of_push {s s' : State} {nd : Node} (h : HL s) (hn : s'.nodes = s.nodes.push nd) (hh : nd.height = -1)
    (hm : s'.maxHeightSeen = s.maxHeightSeen)
    (ha : s'.ahh.queues.size = s.ahh.queues.size) (hr : s'.rch.queues.size = s.rch.queues.size) : HL s' := by
  refine ⟨by rw [hm]; exact h.seen0, fun n => ?_, by rw [hm]; simp only [Heap.maxAllowed, ha]; exact h.lim, by rw [hr, ha]; exact h.same⟩
  rw [hm]
  simp only [State.nodeD, hn, Array.getElem?_push]
  split
  · simp only [Option.getD_some, hh]; have := h.seen0; omega
  · exact h.node n

/-- every run of `m` that returns keeps `HL` -/
structure POk {α} (m : M α) : Prop where
  h : ∀ s a s', m.run.run s = (.ok a, s') → HL s → HL s'

theorem POk.pure {α} (a : α) : POk (pure a : M α) := by
  constructor; intro s r s' h; rw [run_pure] at h; cases h; exact id
theorem POk.get : POk (get : M State) := by
  constructor; intro s r s' h; rw [run_get] at h; cases h; exact id
theorem POk.throw {α} (e : Panic) : POk (throw e : M α) := by
  constructor; intro s r s' h; rw [run_throw] at h; cases h
theorem POk.panic {α} (e : String) : POk (IncrVerif.Engine.panic e : M α) := POk.throw _
theorem POk.modify {f : State → State} (hf : ∀ s, HL s → HL (f s)) : POk (modify f : M Unit) := by
  constructor; intro s r s' h; rw [run_modify] at h; cases h; exact hf s
theorem POk.bind {α β} {x : M α} {f : α → M β} (hx : POk x) (hf : ∀ a, POk (f a)) : POk (x >>= f) := by
  constructor
  intro s r s' h H
  rw [run_bind] at h
  rcases hx' : x.run.run s with ⟨r1, s1⟩
  rw [hx'] at h
  cases r1 with
  | ok a => exact (hf a).h s1 r s' h (hx.h s a s1 hx' H)
  | error e => cases h
theorem POk.map {α β} {x : M α} (f : α → β) (hx : POk x) : POk (f <$> x) := by
  rw [map_eq_pure_bind]; exact POk.bind hx (fun _ => POk.pure _)
theorem POk.of_readonly {α} (m : M α) (h : ∀ s, (m.run.run s).2 = s) : POk m := by
  constructor
  intro s r s' e
  have := h s
  rw [e] at this
  cases this
  exact id
theorem POk.getVar (n) : POk (getVar n) :=
  POk.of_readonly _ fun s => by simp only [Engine.getVar, run_bind, run_get]; cases s.vars[n]? <;> rfl
theorem POk.dassert (c s) : POk (dassert c s) :=
  POk.of_readonly _ fun t => by rw [run_dassert]; split <;> rfl

syntax "okleaf" : tactic
macro_rules | `(tactic| okleaf) => `(tactic| fail "no leaf")

macro "okstep" : tactic => `(tactic| first
  | with_reducible apply POk.pure | with_reducible apply POk.get | with_reducible apply POk.panic
  | with_reducible apply POk.throw
  | with_reducible apply POk.bind | with_reducible apply POk.map
  | with_reducible apply POk.dassert
  | with_reducible apply POk.getVar
  | intro _ | split
  | okleaf
  | dsimp only)

macro "okpres" : tactic => `(tactic| repeat (any_goals okstep))

macro_rules
  | `(tactic| okleaf) => `(tactic| ((with_reducible apply POk.modify); intro _ hHL; exact HL.of_push hHL rfl rfl rfl rfl rfl))
macro_rules
  | `(tactic| okleaf) => `(tactic| ((with_reducible apply POk.modify); intro _ hHL; exact HL.of_eq hHL rfl rfl (by first | rfl | simp) (by first | rfl | simp)))

theorem POk.modNode (n : Nat) (f : Node → Node) (hf : ∀ x, (f x).height = x.height) : POk (modNode n f) := by
  unfold Engine.modNode
  apply POk.modify
  intro s h
  refine ⟨h.seen0, fun m => ?_, h.lim, h.same⟩
  show ((State.nodeD { s with nodes := s.nodes.modify n f } m)).height ≤ s.maxHeightSeen
  rw [nodeD_modify]
  split
  · rw [hf]; exact h.node _
  · exact h.node m
macro_rules
  | `(tactic| okleaf) => `(tactic| ((with_reducible apply POk.modNode); intro _; rfl))

/-- register a `POk` lemma as a leaf -/
macro "ok_leaf " n:ident : command =>
  `(macro_rules | `(tactic| okleaf) => `(tactic| with_reducible apply $n))

/-- **the one writer of heights**: a `setHeight` that RETURNS keeps the invariant -/
theorem POk.setHeight (n h) : POk (setHeight n h) := by
  constructor
  intro s a s' hr H
  unfold Engine.setHeight at hr
  rw [run_bind_get] at hr
  by_cases hgt : h > s.maxHeightSeen
  · rw [if_pos hgt] at hr
    rw [run_bind_modify] at hr
    by_cases hlim : h > s.ahh.maxAllowed
    · rw [if_pos hlim, run_bind, run_panic] at hr
      cases hr
    · rw [if_neg hlim] at hr
      unfold Engine.modNode at hr
      dsimp only at hr
      rw [run_modify] at hr
      cases hr
      refine ⟨?_, fun m => ?_, ?_, H.same⟩
      · show 0 ≤ h; have := H.seen0; omega
      · show (State.nodeD { s with nodes := s.nodes.modify n fun x => { x with height := h } } m).height ≤ h
        rw [nodeD_modify]
        split
        · exact Int.le_refl _
        · have := H.node m; omega
      · show h ≤ s.ahh.maxAllowed; omega
  · rw [if_neg hgt] at hr
    unfold Engine.modNode at hr
    dsimp only at hr
    first | rw [run_modify] at hr | (rw [run_bind, run_pure] at hr; dsimp only at hr; rw [run_modify] at hr)
    cases hr
    refine ⟨H.seen0, fun m => ?_, H.lim, H.same⟩
    show (State.nodeD { s with nodes := s.nodes.modify n fun x => { x with height := h } } m).height ≤ s.maxHeightSeen
    rw [nodeD_modify]
    split
    · show h ≤ _; omega
    · exact H.node m
ok_leaf POk.setHeight

/-! ### from the footprint -/

theorem HL.modNode {s : State} (h : HL s) (n : Nat) (f : Node → Node) (hf : ∀ x, (f x).height = x.height) :
    HL { s with nodes := s.nodes.modify n f } :=
  (POk.modNode n f hf).h s () _ (run_modNode n f s) h

/-- the writes that do not keep `HL` on their own: of a height, of `maxHeightSeen`, and a resizing of a heap -/
def HL.breaks : List Footprint.Tag := [.nHeight, .maxHeightSeen, .rchResize, .ahhResize]

theorem HL.of_edit {L w} (hL : ∀ t ∈ L, t ∉ HL.breaks) {s s' : State} (e : Footprint.Edit L w s s') (h : HL s) : HL s' := by
  cases e
  case node n f hf => exact h.modNode n f fun x => by cases hf <;> first | rfl | exact absurd (hL _ ‹_›) (by decide)
  case value n _ f hf => exact h.modNode n f fun x => by cases hf <;> rfl
  case stamp n _ | erase n _ => exact h.modNode n _ fun _ => rfl
  case pushNode => exact HL.of_push h rfl rfl rfl rfl rfl
  case rch q hq _ => exact HL.of_eq h rfl rfl rfl hq
  case ahh q hq _ => exact HL.of_eq h rfl rfl hq rfl
  all_goals first | exact HL.of_eq h rfl rfl rfl rfl | exact absurd (hL _ ‹_›) (by decide)

/-- a `setHeight` that returned keeps `HL`: the new height is at most `maxHeightSeen`, or raises it within the limit -/
theorem HL.of_call {L w} (hL : ∀ t ∈ L, t ∉ HL.breaks) {s s' : State} (c : Footprint.Call L w s s') (H : HL s) : HL s' := by
  cases c with
  | edit e => exact HL.of_edit hL e H
  | call _ c =>
    have : PreOrd fun a b : State => HL a → HL b := ⟨fun _ h => h, fun h1 h2 h => h2 (h1 h)⟩
    have hs := c.steps (w := fun _ => True)
    cases c with
    | setHeight s n h hle =>
      refine ⟨?_, fun m => ?_, ?_, H.same⟩
      · show 0 ≤ if h > s.maxHeightSeen then h else s.maxHeightSeen
        have := H.seen0; split <;> omega
      · show (State.nodeD { s with nodes := s.nodes.modify n fun x => { x with height := h } } m).height ≤
          if h > s.maxHeightSeen then h else s.maxHeightSeen
        rw [nodeD_modify]
        have := H.node m
        split
        · show h ≤ _
          split <;> omega
        · split <;> omega
      · show (if h > s.maxHeightSeen then h else s.maxHeightSeen) ≤ s.ahh.maxAllowed
        have := H.lim; split <;> omega
    | createNode | mark | markNotified | touch | disallow => exact hs.lift (R := fun a b => HL a → HL b) (fun e => HL.of_edit (by decide) e) H

/-- a function whose returning runs make no write in `HL.breaks` outside a `setHeight` that returned -/
theorem POk.of_foot {L w α} {m : M α} (hm : Footprint.Foot L w m) (hL : ∀ t ∈ L, t ∉ HL.breaks) : POk m :=
  have : PreOrd fun a b : State => HL a → HL b := ⟨fun _ h => h, fun h1 h2 h => h2 (h1 h)⟩
  ⟨fun _ _ _ hr => (hm.ok hr).lift (R := fun a b => HL a → HL b) (HL.of_call hL)⟩

end IncrVerif.Proofs.AuditF.HLim
