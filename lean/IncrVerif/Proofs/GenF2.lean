import IncrVerif.Proofs.NestH75
import IncrVerif.Proofs.Footprint
/-!
# C03, combined fragment, part 2: no function of the engine changes the SCOPE FIELD `createdIn` of an existing node or removes a bind record

`CKey s s'` is kept by EVERY function reachable from `stabilise` (and from the other API actions), whatever the outcome, because every primitive write of the
engine (`Footprint.Edit`) keeps it.
-/
open IncrVerif.Engine IncrVerif.Proofs IncrVerif.Proofs.Step IncrVerif.Proofs.Footprint
namespace IncrVerif.Proofs.GenF.CK

/-- existing nodes keep their scope field `createdIn`, existing bind records stay (closure and left-hand side kept) -/
structure CKey (s s' : State) : Prop where
  size : s.nodes.size ≤ s'.nodes.size
  cin : ∀ m, m < s.nodes.size → (s'.nodeD m).createdIn = (s.nodeD m).createdIn
  binds : ∀ (b : Nat) (br : BindRec), s.binds[b]? = some br →
    ∃ br', s'.binds[b]? = some br' ∧ br'.body = br.body ∧ br'.lhs = br.lhs

instance : PreOrd CKey where
  refl _ := ⟨Nat.le_refl _, fun _ _ => rfl, fun b br h => ⟨br, h, rfl, rfl⟩⟩
  trans h1 h2 := by
    refine ⟨Nat.le_trans h1.size h2.size, fun m hm => ?_, fun b br h => ?_⟩
    · rw [h2.cin m (Nat.lt_of_lt_of_le hm h1.size), h1.cin m hm]
    · obtain ⟨br1, k1, k2, k3⟩ := h1.binds b br h
      obtain ⟨br2, k4, k5, k6⟩ := h2.binds b br1 k1
      exact ⟨br2, k4, k5.trans k2, k6.trans k3⟩

theorem CKey.of_eq {s s' : State} (hn : s'.nodes = s.nodes) (hb : s'.binds = s.binds) : CKey s s' :=
  ⟨by rw [hn]; exact Nat.le_refl _, fun m _ => by simp only [State.nodeD, hn], fun b br h => ⟨br, by rw [hb]; exact h, rfl, rfl⟩⟩

theorem CKey.of_edit {L w} {s s' : State} (e : Edit L w s s') : CKey s s' :=
  ⟨e.size_le, fun _ hm => e.createdIn hm, fun _ _ h => e.bind_keeps h⟩

theorem PresCK.necessary (env : Env) (fuel : Nat) :
    (∀ n, Step.Pres CKey (becameNecessary env fuel n)) ∧
    (∀ c i p, Step.Pres CKey (addParentWithoutAdjustingHeights env fuel c i p)) :=
  ⟨fun n => (Foot.becameNecessary env fuel n).frame CKey.of_edit,
   fun c i p => (Foot.addParentWithoutAdjustingHeights env fuel c i p).frame CKey.of_edit⟩
theorem PresCK.unnecessary (fuel : Nat) :
    (∀ n, Step.Pres CKey (becameUnnecessary fuel n)) ∧ (∀ n, Step.Pres CKey (checkIfUnnecessary fuel n)) ∧
    (∀ n, Step.Pres CKey (removeChildren fuel n)) :=
  ⟨fun n => (Foot.becameUnnecessary fuel n).frame CKey.of_edit, fun n => (Foot.checkIfUnnecessary fuel n).frame CKey.of_edit,
   fun n => (Foot.removeChildren fuel n).frame CKey.of_edit⟩
theorem PresCK.setHeight (n h) : Step.Pres CKey (setHeight n h) :=
  (Foot.setHeight n h).frame CKey.of_edit
theorem PresCK.ensureHeightRequirement (a b c d) : Step.Pres CKey (ensureHeightRequirement a b c d) :=
  (Foot.ensureHeightRequirement a b c d).frame CKey.of_edit
theorem PresCK.adjustHeights (oc op fuel) : Step.Pres CKey (adjustHeights oc op fuel) :=
  (Foot.adjustHeights oc op fuel).frame CKey.of_edit
theorem PresCK.addParent (a b c) : Step.Pres CKey (addParent a b c) :=
  (Foot.addParent a b c).frame CKey.of_edit
theorem PresCK.removeParent (a b c) : Step.Pres CKey (removeParent a b c) :=
  (Foot.removeParent a b c).frame CKey.of_edit
theorem PresCK.handleAfterStabilisation (n) : Step.Pres CKey (handleAfterStabilisation n) :=
  (Foot.handleAfterStabilisation n).frame CKey.of_edit
theorem PresCK.shouldCutoff (env n o v) : Step.Pres CKey (shouldCutoff env n o v) :=
  (Foot.shouldCutoff env n o v).frame CKey.of_edit
theorem PresCK.markMapRefUnknown (fuel n) : Step.Pres CKey (markMapRefUnknown fuel n) :=
  (Foot.markMapRefUnknown fuel n).frame CKey.of_edit
theorem PresCK.becameNecessary (env fuel n) : Step.Pres CKey (becameNecessary env fuel n) :=
  (Foot.becameNecessary env fuel n).frame CKey.of_edit
theorem PresCK.addParentWithoutAdjustingHeights (env fuel c i p) :
    Step.Pres CKey (addParentWithoutAdjustingHeights env fuel c i p) :=
  (Foot.addParentWithoutAdjustingHeights env fuel c i p).frame CKey.of_edit
theorem PresCK.becameUnnecessary (fuel n) : Step.Pres CKey (becameUnnecessary fuel n) :=
  (Foot.becameUnnecessary fuel n).frame CKey.of_edit
theorem PresCK.checkIfUnnecessary (fuel n) : Step.Pres CKey (checkIfUnnecessary fuel n) :=
  (Foot.checkIfUnnecessary fuel n).frame CKey.of_edit
theorem PresCK.removeChildren (fuel n) : Step.Pres CKey (removeChildren fuel n) :=
  (Foot.removeChildren fuel n).frame CKey.of_edit
theorem PresCK.invalidateNode (fuel n) : Step.Pres CKey (invalidateNode fuel n) :=
  (Foot.invalidateNode fuel n).frame CKey.of_edit
theorem PresCK.propagateInvalidity (fuel) : Step.Pres CKey (propagateInvalidity fuel) :=
  (Foot.propagateInvalidity fuel).frame CKey.of_edit
theorem PresCK.changeChildBindRhs (env fuel m o nw i) :
    Step.Pres CKey (changeChildBindRhs env fuel m o nw i) :=
  (Foot.changeChildBindRhs env fuel m o nw i).frame CKey.of_edit
theorem PresCK.assertRunningIsChild (n name) : Step.Pres CKey (assertRunningIsChild n name) :=
  (Foot.assertRunningIsChild n name).frame CKey.of_edit
theorem PresCK.expertAddDependency (env fuel n c cb) :
    Step.Pres CKey (expertAddDependency env fuel n c cb) :=
  (Foot.expertAddDependency env fuel n c cb).frame CKey.of_edit
theorem PresCK.elabInstr (loc v i) : Step.Pres CKey (elabInstr loc v i) :=
  (Foot.elabInstr loc v i).frame CKey.of_edit
theorem PresCK.didSetVarWhileNotStabilising (v) : Step.Pres CKey (didSetVarWhileNotStabilising v) :=
  (Foot.didSetVarWhileNotStabilising v).frame CKey.of_edit
theorem PresCK.writeVar (v f b) : Step.Pres CKey (writeVar v f b) :=
  (Foot.writeVar v f b).frame CKey.of_edit
theorem PresCK.parentIterCanRecomputeNow (p c) : Step.Pres CKey (parentIterCanRecomputeNow p c) :=
  (Foot.parentIterCanRecomputeNow p c).frame CKey.of_edit
theorem PresCK.maybeChangeValue (env fuel n v) : Step.Pres CKey (maybeChangeValue env fuel n v) :=
  (Foot.maybeChangeValue env fuel n v).lift CKey.of_edit
theorem PresCK.recomputeOne (env fuel n) : Step.Pres CKey (recomputeOne env fuel n) :=
  (Foot.recomputeOne env fuel n).lift CKey.of_edit
theorem PresCK.recompute (env fuel n) : Step.Pres CKey (recompute env fuel n) :=
  (Foot.recompute env fuel n).frame CKey.of_edit
theorem PresCK.drainHeap (env fuel) : Step.Pres CKey (drainHeap env fuel) :=
  (Foot.drainHeap env fuel).frame CKey.of_edit
theorem PresCK.runAll (env fuel o n nu now) : Step.Pres CKey (runAll env fuel o n nu now) :=
  (Foot.runAll env fuel o n nu now).frame CKey.of_edit
theorem PresCK.stabiliseEnd (env fuel) : Step.Pres CKey (stabiliseEnd env fuel) :=
  (Foot.stabiliseEnd env fuel).frame CKey.of_edit
theorem PresCK.stabilise (env fuel) : Step.Pres CKey (stabilise env fuel) :=
  (Foot.stabilise env fuel).frame CKey.of_edit

end IncrVerif.Proofs.GenF.CK
