import IncrVerif.Proofs.CutH4
/-!
# C06 for whole histories, part 5: no node runs twice in one round (any cutoff)

The drain invariant `Inv env e` is a `TidyH.OnceKit`; `Sched.chainTrace`, `Sched.drainTrace`, `Sched.RanOnce` are used as they are.  Overview
in Props/C06History.lean.
-/
namespace IncrVerif.Proofs.CutH
open IncrVerif.Engine IncrVerif.Proofs IncrVerif.Proofs.Step IncrVerif.Proofs.Sched

theorem onceKit (env : Env) (e : Bool) : TidyH.OnceKit env (fun s x => Inv env e s x) where
  stamps _ _ m I := (I.stamps.node m).1
  cur _ n I := ⟨(I.cur n rfl).1, I.cur_not_yet⟩
  step _ _ _ _ _ I h := have ⟨I1, f1, hn1⟩ := recomputeOne_inv I h; ⟨I1, .of_frame f1, hn1⟩
  pop _ _ _ I h := have ⟨I1, f1⟩ := pop_inv I h; ⟨I1, .of_frame f1⟩
  popNone _ _ I h := (rchRemoveMin_inv I.heap h).1

theorem chain_once {env : Env} {e : Bool} : ∀ (fuel n : Nat) (s s' : State), Inv env e s (some n) →
    (recompute env fuel n).run.run s = (.ok (), s') →
    (chainTrace env fuel n s).Nodup ∧ ∀ m, m ∈ chainTrace env fuel n s → RanOnce s s' m :=
  fun _ _ _ _ I h => TidyH.chain_once_trace (onceKit env e) I h

/-- **at most once.** The nodes run by a successful `drainHeap` from a state satisfying the drain
invariant are pairwise distinct; each is necessary, had `recomputedAt < stabNum` before the drain and
has `recomputedAt = stabNum` after it. -/
theorem drain_once {env : Env} {e : Bool} : ∀ (fuel : Nat) (s s' : State), DrainInv env e s →
    (drainHeap env fuel).run.run s = (.ok (), s') →
    (drainTrace env fuel s).Nodup ∧ ∀ m, m ∈ drainTrace env fuel s → RanOnce s s' m :=
  fun _ _ _ I h => TidyH.drain_once_trace (onceKit env e) I h

end IncrVerif.Proofs.CutH
