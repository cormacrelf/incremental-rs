import IncrVerif.Proofs.MapRef17
import IncrVerif.Proofs.Computes
import IncrVerif.Proofs.Drain
/-!
# Fragments that the static engine schedules on a virtual state

A fragment of the engine's programs (`map_ref` nodes, `map_with_old` nodes) is reduced to the static fragment by a state map
`V g` (`g`: ghost data, which a step may replace) into states of the static fragment over an environment `venv`: the
scheduling invariants `Sched.Inv` / `Quiet.QInv` are required of `V g s`, and `P g s` says what else the fragment needs of the
actual state.  What a fragment has to supply is one step of the drain on the current node, the pop, the two cascades at the start
of `stabilise` and its end phase (`Fragment`); the direct-recompute chain, the drain loop and `stabilise` follow here, once.
-/
namespace IncrVerif.Proofs.Virtual
open IncrVerif.Engine IncrVerif.Driver IncrVerif.Proofs IncrVerif.Proofs.Step IncrVerif.Proofs.Sched IncrVerif.Proofs.Quiet

/-! ## a node that fires -/

/-- `W` is `s` with the new value `v` stored in `n` and `n` stamped; the notifications that follow (`n` touched, its parents queued or
handed over) make the step that `Sched.StepRel` describes -/
theorem stepRel_fire {env : Env} {fuel n : Nat} {v : Val} {o : Option Val} {s W s' : State} {r : Option Nat}
    (g : Graph env s) (hi : HeapInv s) (hn : s.isNecessary n = true) (hUW : Upd n s W)
    (hval : (W.nodeD n).value = some v) (hrec : (W.nodeD n).recomputedAt = s.stabNum)
    (h : (maybeChangeValueManual env fuel n o true true).run.run W = (.ok r, s')) : StepRel n v true r s s' := by
  obtain ⟨hlt, -⟩ := g.nec n hn
  have hltW : n < W.nodes.size := by rw [hUW.size]; exact hlt
  have q : Step.Quiet (touched n W) s' := mcvm_true_quiet _ _ _ _ _ _ _ _ h
  have hUT : Upd n s (touched n W) := hUW.touched
  have eT : (touched n W).nodeD n = { W.nodeD n with changedAt := W.stabNum } := by
    rw [touched_nodeD, if_pos ⟨rfl, hltW⟩]
  have hparT : ((touched n W).nodeD n).parents = (s.nodeD n).parents := hUT.shape.parents
  have hpar : ∀ p, p ∈ ((touched n W).nodeD n).parents.map (·.1) → ParentOK env (touched n W) p := by
    intro p hp
    rw [hparT] at hp
    obtain ⟨⟨p', ci⟩, hmem, rfl⟩ := List.mem_map.1 hp
    have hpn := (g.parent n p' ci hmem).1
    obtain ⟨h1, h2, h3, _, _⟩ := g.nec p' hpn
    have sh := hUT.shapeAll p'
    exact ⟨by rw [hUT.size]; exact h1, by rw [sh.valid]; exact h2, by rw [sh.kind]; exact h3,
      by rw [hUT.nec]; exact hpn⟩
  obtain ⟨k, hret⟩ := mcvm_heap (hUT.heap hi) hpar h
  have hpin := mcvm_parents env fuel n _ W s' r _ (some_of_lt hltW) h
  have hparW : (W.nodeD n).parents = (s.nodeD n).parents := hUW.shape.parents
  refine stepRel_of_quiet hUT q ?_ ?_ ?_ (fun hc => by cases hc) k.heap k.qsize ?_ ?_ ?_
  · rw [eT]; exact hval
  · rw [eT]; exact hrec
  · rw [eT, if_pos rfl]; exact hUW.stabNum
  · intro m hm
    rcases k.only m hm with h1 | h1
    · exact Or.inl h1
    · rw [hparT] at h1; exact Or.inr ⟨rfl, h1⟩
  · intro _ p hp
    rw [← hparW] at hp
    rcases hpin p hp with h1 | h1
    · exact Or.inl h1.2
    · exact Or.inr h1.2.1
  · intro p hp
    obtain ⟨h1, h2, h3⟩ := hret p hp
    rw [hparT] at h1
    exact ⟨rfl, h1, h2, h3⟩

/-- a node whose step leaves everything as it is: the value `v` is stored already (or again), nobody is notified -/
theorem stepRel_still {n : Nat} {v : Val} {s X : State} (hU : Upd n s X) (hi : HeapInv s)
    (hv : (X.nodeD n).value = some v) (hr : (X.nodeD n).recomputedAt = s.stabNum)
    (hc : (X.nodeD n).changedAt = (s.nodeD n).changedAt) (hold : (s.nodeD n).value = some v) :
    StepRel n v false none s X :=
  stepRel_of_quiet hU (Step.Quiet.refl _) hv hr (by rw [hc]; simp) (fun _ => ⟨hold, rfl⟩) (hU.heap hi) rfl
    (fun _ hm => Or.inl hm) (fun hc => by cases hc) (fun _ hq => by cases hq)

theorem frame_of_stepRel {n : Nat} {v : Val} {ch : Bool} {r : Option Nat} {S S' : State}
    (R : StepRel n v ch r S S') : Frame S S' := by
  refine ⟨R.size, R.vars, R.stabNum, R.shapes, ?_, R.qsize⟩
  intro m hm
  by_cases hmn : m = n
  · subst hmn; exact R.recomputedAt
  · rw [(R.other m hmn).recomputedAt]; exact hm

/-! ## what the drain keeps -/

/-- what an action of the drain keeps, read in two virtual states -/
structure DStep (venv : Env) (S S' : State) : Prop where
  frame : Frame S S'
  calm : Calm S S'
  keyD : KeyD S S'
  unnec : UnnecOK venv S → UnnecOK venv S'

theorem DStep.refl (venv : Env) (S : State) : DStep venv S S := ⟨Frame.refl _, Calm.refl _, KeyD.refl _, id⟩

theorem DStep.trans {venv : Env} {a b c : State} (h1 : DStep venv a b) (h2 : DStep venv b c) : DStep venv a c :=
  ⟨h1.frame.trans h2.frame, h1.calm.trans h2.calm, KeyD.trans h1.keyD h2.keyD, fun h => h2.unnec (h1.unnec h)⟩

theorem DStep.of_stepRel {venv : Env} {n : Nat} {v : Val} {ch : Bool} {r : Option Nat} {S S' : State}
    (hn : S.isNecessary n = true) (R : StepRel n v ch r S S') (c : Calm S S') (k : KeyD S S') : DStep venv S S' :=
  ⟨frame_of_stepRel R, c, k, step_unnec hn R⟩

/-- the step of the static engine itself -/
theorem DStep.recomputeOne {venv : Env} {fuel n : Nat} {S S' : State} {r : Option Nat} (I : Inv venv S (some n))
    (h : (recomputeOne venv fuel n).run.run S = (.ok r, S')) : DStep venv S S' :=
  ⟨(recomputeOne_inv I h).2.1, recomputeOne_calm I.graph (I.cur n rfl).1 h,
    recomputeOne_keyD I.graph (I.cur n rfl).1 h, fun hU => recomputeOne_unnec I hU h⟩

theorem DStep.pop {venv : Env} {n : Nat} {S S1 : State} (I : Inv venv S none)
    (h : rchRemoveMin.run.run S = (.ok (some n), S1)) : DStep venv S S1 :=
  ⟨(pop_inv I h).2, pop_calm I.heap h, pop_keyD I.heap h, fun hU => pop_unnec I.heap hU h⟩

/-! ## the drain -/

/-- the drain of a fragment: `V g s` is the virtual state of `s` for the ghost data `g`, `P g s` what the fragment requires of `s`
besides the scheduling invariant of `V g s` -/
structure Drain {G : Type} (env venv : Env) (V : G → State → State) (P : G → State → Prop) : Prop where
  heap : ∀ {g s}, HeapInv (V g s) → HeapInv s
  /-- taking a node out of the heap, in the actual and in the virtual state -/
  pop : ∀ {g s s1 r}, P g s → Inv venv (V g s) none → rchRemoveMin.run.run s = (.ok r, s1) →
    rchRemoveMin.run.run (V g s) = (.ok r, V g s1) ∧ P g s1
  /-- one `recomputeOne` on the current node: the invariant again, for new ghost data, with the parent handed over as current node -/
  step : ∀ {g s s' fuel n r}, P g s → Inv venv (V g s) (some n) → (recomputeOne env fuel n).run.run s = (.ok r, s') →
    ∃ g', P g' s' ∧ Inv venv (V g' s') r ∧ DStep venv (V g s) (V g' s') ∧ ((V g' s').nodeD n).recomputedAt = s.stabNum

namespace Drain
variable {G : Type} {env venv : Env} {V : G → State → State} {P : G → State → Prop} (X : Drain env venv V P)
include X

/-- the invariant of the drain that started in `V g0 s0`, on configurations `(g, s)` -/
def J (_ : Drain env venv V P) (g0 : G) (s0 : State) (c : G × State) (cur : Option Nat) : Prop :=
  P c.1 c.2 ∧ Inv venv (V c.1 c.2) cur ∧ DStep venv (V g0 s0) (V c.1 c.2)

theorem J_step {g0 : G} {s0 : State} (c : G × State) (n fuel : Nat) (r : Option Nat) (s' : State) (j : X.J g0 s0 c (some n))
    (h : (recomputeOne env fuel n).run.run c.2 = (.ok r, s')) : ∃ c' : G × State, c'.2 = s' ∧ X.J g0 s0 c' r := by
  obtain ⟨g1, P1, I1, f1, -⟩ := X.step j.1 j.2.1 h
  exact ⟨(g1, s'), rfl, P1, I1, j.2.2.trans f1⟩

theorem J_pop {g0 : G} {s0 : State} (c : G × State) (n : Nat) (s1 : State) (j : X.J g0 s0 c none)
    (h : rchRemoveMin.run.run c.2 = (.ok (some n), s1)) : ∃ c1 : G × State, c1.2 = s1 ∧ X.J g0 s0 c1 (some n) := by
  obtain ⟨hv, P1⟩ := X.pop j.1 j.2.1 h
  exact ⟨(c.1, s1), rfl, P1, (pop_inv j.2.1 hv).1, j.2.2.trans (DStep.pop j.2.1 hv)⟩

/-- the direct-recompute chain -/
theorem recompute (fuel n : Nat) (s s' : State) (g : G) (hP : P g s) (I : Inv venv (V g s) (some n))
    (h : (recompute env fuel n).run.run s = (.ok (), s')) :
    ∃ g', P g' s' ∧ Inv venv (V g' s') none ∧ DStep venv (V g s) (V g' s') := by
  obtain ⟨⟨g', _⟩, rfl, j⟩ := Drain.recompute_inv X.J_step fuel n (g, s) s' ⟨hP, I, DStep.refl venv _⟩ h
  exact ⟨g', j⟩

/-- one pop of `drainHeap` -/
theorem pop_recompute {fuel n : Nat} {s s1 s' : State} {g : G} (hP : P g s) (I : Inv venv (V g s) none)
    (hpop : rchRemoveMin.run.run s = (.ok (some n), s1)) (hrec : (Engine.recompute env fuel n).run.run s1 = (.ok (), s')) :
    ∃ g', P g' s' ∧ Inv venv (V g' s') none ∧ DStep venv (V g s) (V g' s') := by
  obtain ⟨hv, P1⟩ := X.pop hP I hpop
  obtain ⟨g', P', I', f2⟩ := X.recompute fuel n s1 s' g P1 (pop_inv I hv).1 hrec
  exact ⟨g', P', I', (DStep.pop I hv).trans f2⟩

/-- the loop: a `drainHeap` that returns ends with an empty heap -/
theorem drainHeap (fuel : Nat) (s s' : State) (g : G) (hP : P g s) (I : Inv venv (V g s) none)
    (h : (drainHeap env fuel).run.run s = (.ok (), s')) :
    ∃ g', P g' s' ∧ Inv venv (V g' s') none ∧ s'.rch.length = 0 ∧ DStep venv (V g s) (V g' s') := by
  obtain ⟨⟨g', s1⟩, j, hlast⟩ := Drain.drainHeap_inv X.J_step X.J_pop fuel (g, s) s' ⟨hP, I, DStep.refl venv _⟩ h
  obtain ⟨rfl, he⟩ := rchRemoveMin_inv (X.heap j.2.1.heap) hlast
  exact ⟨g', j.1, j.2.1, he, j.2.2⟩

end Drain

/-! ## `stabilise` -/

/-- a fragment: its drain, the two cascades at the start of `stabilise`, the end phase (`fin`), and how `V g` reads necessity and the state outside the node table -/
structure Fragment {G : Type} (env venv : Env) (V : G → State → State) (P : G → State → Prop) : Prop
    extends Drain env venv V P where
  vars : ∀ g s, (V g s).vars = s.vars
  rch : ∀ g s, (V g s).rch = s.rch
  observers : ∀ g s, (V g s).observers = s.observers
  setDuringStab : ∀ g s, (V g s).setDuringStab = s.setDuringStab
  deadVars : ∀ g s, (V g s).deadVars = s.deadVars
  nec : ∀ g s m, (V g s).isNecessary m = s.isNecessary m
  /-- the linking cascade, from the state in which `stabilise` has set the status -/
  link : ∀ {g s t fuel}, P g s → QInv venv (V g s) →
    (addNewObservers env fuel).run.run { s with status := .stabilising } = (.ok (), t) →
    (addNewObservers venv fuel).run.run { V g s with status := .stabilising } = (.ok (), V g t) ∧ P g t
  unlink : ∀ {g s t fuel}, P g s → (unlinkDisallowedObservers fuel).run.run s = (.ok (), t) →
    (unlinkDisallowedObservers fuel).run.run (V g s) = (.ok (), V g t) ∧ P g t
  fin : ∀ {g t s'}, P g t → Finished' t s' → Finished' (V g t) (V g s') ∧ P g s'

namespace Fragment
variable {G : Type} {env venv : Env} {V : G → State → State} {P : G → State → Prop} (X : Fragment env venv V P)
include X

/-- **`stabilise` with pending observers.**  From `P` and the quiescent invariant of the virtual state a `stabilise` that returns ends
in `P` (new ghost data) and in what `Quiet.stabilise_q` says of the virtual states; `t2` is the state in which the drain starts, `t3`
the one in which it ends. -/
theorem stabilise {fuel : Nat} {s s' : State} {g : G} (hP : P g s) (Q : QInv venv (V g s))
    (h : (stabilise env fuel).run.run s = (.ok (), s')) :
    ∃ g' t2 t3, P g' s' ∧ MapRefH.StabilisedC venv (V g s) (V g' s') ∧
      P g t2 ∧ DrainInv venv (V g t2) ∧ (drainHeap env fuel).run.run t2 = (.ok (), t3) ∧
      P g' t3 ∧ DrainInv venv (V g' t3) ∧ t3.rch.length = 0 ∧ Finished' t3 s' ∧
      t2.vars = s.vars ∧ ∀ m, s'.isNecessary m = t2.isNecessary m := by
  obtain ⟨t1, t2, t3, -, h1, h2, h3, h4⟩ := stabilise_phases.1 h
  generalize hS0 : ({ V g s with status := .stabilising } : State) = S0
  have S0 : SInv venv S0 S0.newObservers S0.disallowedObservers := by
    rw [← hS0]
    exact ⟨Q.struct.congr (SameG.of_nodes rfl rfl rfl rfl rfl),
      ⟨Q.obs.inRange, Q.obs.mem, Q.obs.created, Q.obs.newIn, Q.obs.dis, Q.obs.disIn, Q.obs.disNodup⟩,
      Q.pinv, Q.handlers⟩
  -- the two cascades are run by the virtual engine as well
  obtain ⟨hv1, P1⟩ := X.link hP Q h1
  rw [hS0] at hv1
  obtain ⟨S1, hn1, hd1, F1, O1, -⟩ := addNewObservers_s S0 hv1
  obtain ⟨hv2, P2⟩ := X.unlink P1 h2
  obtain ⟨S2, hn2, hd2, F2, O2⟩ := unlinkDisallowedObservers_s S1 hn1 hv2
  have F := F1.trans F2
  -- the drain
  obtain ⟨D2, U2⟩ := MapRefH.drain_start Q hS0.symm S2 F
  obtain ⟨g3, P3, D3, he3, f3⟩ := X.drainHeap fuel t2 t3 g P2 D2 h3
  have U3 := f3.unnec U2
  -- the end
  have c3 := f3.calm
  have E := stabiliseEnd_fin (env := env) (fuel := fuel) (s := t3) (s' := s')
    (by rw [← X.setDuringStab g3, c3.setDuringStab, F.setDuringStab, ← hS0]; exact Q.setDuringStab)
    (by rw [← X.deadVars g3, c3.deadVars, F.deadVars, ← hS0]; exact Q.deadVars)
    (by
      intro o ob ho
      have hk := f3.keyD
      simp only [KeyD, stateKeyD, Prod.mk.injEq] at hk
      rw [← X.observers g3, hk.1] at ho
      exact (S2.obs.inRange o ob ho).2) h4
  obtain ⟨Ev, P'⟩ := X.fin P3 E
  refine ⟨g3, t2, t3, P', MapRefH.stab_core Q hS0.symm S2 hn2 hd2 F O1 O2 D3 (by rw [X.rch]; exact he3) f3.frame c3 f3.keyD U3 Ev,
    P2, D2, h3, P3, D3, he3, E, ?_, fun m => ?_⟩
  · rw [← X.vars g t2, F.vars, ← hS0]; exact X.vars g s
  · rw [← X.nec g t2, ← f3.frame.nec, X.nec]
    obtain ⟨b, hb⟩ := E.node m
    simp only [State.isNecessary, hb]
    rfl

end Fragment

/-! ## what the observers read -/

/-- in a state `s'` whose virtual image `S'` is quiescent with no observer pending, and whose necessary nodes are fresh and read `ev`:
every observer in use reads `ev` of its node, and every observer is in use or unlinked -/
theorem reads_of_values {env venv : Env} {s' S' : State} {ev : Nat → Nat → Option Val} (Q' : QInv venv S')
    (hno : S'.newObservers = []) (hdo : S'.disallowedObservers = [])
    (hobs : S'.observers = s'.observers) (hnobs : ∀ m, (S'.nodeD m).observers = (s'.nodeD m).observers)
    (halive : S'.alive = s'.alive) (hstatus : S'.status = s'.status)
    (values : ∀ n, s'.isNecessary n = true → ∀ k, (s'.nodeD n).height.toNat < k →
      s'.isStale n = false ∧ s'.value env n = ev k n ∧ (ev k n).isSome = true) :
    (∀ (o : Nat) (ob : ObsRec), s'.observers[o]? = some ob → ob.state = .inUse →
      ∀ k, (s'.nodeD ob.node).height.toNat < k → ∃ v, s'.tryGetValue env o = .ok v ∧ ev k ob.node = some v) ∧
    ObsSettled s' ∧ ∀ n, s'.isNecessary n = true → s'.isStale n = false := by
  have O' : ObsInv S' [] [] := by
    have := Q'.obs
    unfold ObsOK at this
    rw [hno, hdo] at this
    exact this
  refine ⟨?_, ?_, fun n hn => (values n hn _ (Nat.lt_succ_self _)).1⟩
  · intro o ob ho hst k hk
    have hmem : o ∈ (S'.nodeD ob.node).observers := (O'.mem ob.node o).2 ⟨ob, by rw [hobs]; exact ho, rfl, Or.inl hst⟩
    rw [hnobs] at hmem
    have hn : s'.isNecessary ob.node = true := by
      rw [isNecessary_iff]; right; left; exact List.ne_nil_of_mem hmem
    obtain ⟨-, hv, hs⟩ := values ob.node hn k hk
    obtain ⟨v, hev⟩ := Option.isSome_iff_exists.1 hs
    refine ⟨v, ?_, hev⟩
    unfold State.tryGetValue
    rw [← halive, ← hstatus, Q'.alive, Q'.status, ho]
    simp only [Bool.not_true, Bool.false_eq_true, if_false, hst]
    rw [hv, hev]
    rfl
  · intro o ob ho
    rw [← hobs] at ho
    cases hst : ob.state with
    | inUse => exact Or.inl rfl
    | unlinked => exact Or.inr rfl
    | created => have := O'.created o ob ho hst; cases this
    | disallowed => have := (O'.dis o ob ho).1 hst; cases this

end IncrVerif.Proofs.Virtual
