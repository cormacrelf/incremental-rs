import IncrVerif.Proofs.CutH32
import IncrVerif.Proofs.CutH14
-- static programs with ARBITRARY cutoffs; `Proofs/Quiet22.lean` (default cutoffs) takes its lemmas from this file; overview in Props/C06History.lean
/-!
# Part 22: the unlinking cascade returns
-/
namespace IncrVerif.Proofs.CutH
open IncrVerif.Engine IncrVerif.Driver IncrVerif.Proofs IncrVerif.Proofs.Step IncrVerif.Proofs.Sched

namespace P22

theorem hbo_of_necH {s s' : State} {op op' : Nat → Op} (hb : HBo s op) (h : NecH s s')
    (hop : ∀ m, op' m = .closed → s.isNecessary m = true → op m = .closed) : HBo s' op' := by
  intro m hm ho
  obtain ⟨hm0, hh⟩ := h m hm
  rw [hh]
  exact hb m hm0 (hop m ho hm0)

end P22
open P22

/-- **the unlinking cascade returns**, and the height bound is kept -/
theorem checkIfUnnecessary_total {env : Env} {fuel c : Nat} {s : State} {op : Nat → Op}
    (I : GInv env s op) (hb : HBo s op) (hlow : ∀ m, op m ≠ .closed → c ≤ m)
    (hcase : (s.isNecessary c = true ∧ op c = .closed) ∨ (s.isNecessary c = false ∧ op c = .unlinking 0))
    (hf : 3 * c + 3 ≤ fuel) :
    Tot (checkIfUnnecessary fuel c) s (fun _ s' => HBo s' (upd op c .closed)) := by
  obtain ⟨u, s', h, -, -, -, N⟩ := ((unlink_corr fuel).2.1 env c s op I hlow hcase).tot hf
  refine ⟨u, s', h, hbo_of_necH hb N (fun m ho hm => ?_)⟩
  by_cases e : m = c
  · rw [e] at hm ⊢
    rcases hcase with ⟨_, h⟩ | ⟨h, _⟩
    · exact h
    · rw [h] at hm; cases hm
  · rw [upd_other _ _ _ e] at ho; exact ho

end IncrVerif.Proofs.CutH
