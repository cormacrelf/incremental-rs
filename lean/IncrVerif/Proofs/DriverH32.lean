import IncrVerif.Proofs.DriverH6
import IncrVerif.Proofs.DriverH23
import IncrVerif.Proofs.DriverH3
/-!
# Drivers, `stabilise`, part 1: the two ends of the drain

* `targetB_static`, `consB_of_cons`, `cons_of_consB`: the defining equations of the bind fragment and of the static
  fragment coincide on static kinds.
* `dinv_of_struct`: the state in which the drain starts (`QR.Struct`, stamps of earlier rounds, every non-stale node
  consistent) satisfies the drain invariant with a changing graph `BindH.DInv … none`.
* `struct_of_dinv`: conversely, `BindH.DInv … none` in the static fragment gives `QR.Struct`.
-/
namespace IncrVerif.Proofs.DriverH
open IncrVerif.Engine IncrVerif.Driver IncrVerif.Proofs IncrVerif.Proofs.Step IncrVerif.Proofs.Sched
open IncrVerif.Proofs.ExpertH IncrVerif.Proofs.ExpertH.QR IncrVerif.Proofs.EffH

/-! ## defining equations -/

theorem targetB_static {env : Env} {s : State} {n : Nat} {v : Val} (hk : StaticKind env (s.nodeD n).kind) :
    BindH.TargetB env s n v ↔ Target env s n v := by
  unfold BindH.TargetB
  cases hkd : (s.nodeD n).kind <;> first | exact Iff.rfl | (rw [hkd] at hk; exact hk.elim)

theorem consB_of_cons {env : Env} {s : State} {n : Nat} (hk : StaticKind env (s.nodeD n).kind)
    (h : Consistent env s n) : BindH.ConsistentB env s n := by
  obtain ⟨v, ht, hv⟩ := h
  exact ⟨v, (targetB_static hk).2 ht, hv⟩

theorem cons_of_consB {env : Env} {s : State} {n : Nat} (hk : StaticKind env (s.nodeD n).kind)
    (h : BindH.ConsistentB env s n) : Consistent env s n := by
  obtain ⟨v, ht, hv⟩ := h
  exact ⟨v, (targetB_static hk).1 ht, hv⟩

/-! ## the two ends of the drain -/

/-- the state in which `drainHeap` starts satisfies the drain invariant with a changing graph -/
theorem dinv_of_struct {env : Env} {rk : Nat → Nat} {t : State} (S : Struct env rk t) (V : VarsOK t)
    (now : 0 ≤ t.stabNum)
    (st : ∀ m, (t.nodeD m).recomputedAt < t.stabNum ∧ (t.nodeD m).changedAt < t.stabNum)
    (vs : ∀ (c : Nat) (vc : VarCell), t.vars[c]? = some vc → vc.setAt ≤ t.stabNum)
    (cons : ∀ m, m < t.nodes.size → staleOf t m = false → Consistent env t m) : BindH.DInv env t none where
  graph := bgraph_of_struct S V
  heap := S.heapInv
  stamps := ⟨now, fun m => ⟨Int.le_of_lt (st m).1, Int.le_of_lt (st m).2⟩, vs⟩
  qstale m hm := by rw [GInv.isStale S (lt_size_of_inRch hm)]; exact S.qstale m hm
  pending m hm hs := Or.inl ((S.queued_iff m).2 ⟨hm, hs⟩)
  cons m hm _ hs := consB_of_cons (S.node hm).kind (cons m hm (by rw [← GInv.isStale S hm]; exact hs))
  fresh a _ _ _ := (st a).1
  cur _ h := by cases h

/-- the drain invariant with no current node, in the static fragment, gives the structural invariant at rest -/
theorem struct_of_dinv {env : Env} {rk : Nat → Nat} {t : State} (A : AllStatic env rk t)
    (I : BindH.DInv env t none) (nd : ∀ c, (t.nodeD c).parents.Nodup) : Struct env rk t := by
  have hst : ∀ m, m < t.nodes.size → t.isStale m = staleOf t m := fun m hm =>
    isStale_static t m (A.node m hm).valid (A.node m hm).kind
  refine struct_of_bgraph A I.graph I.heap nd (fun m hn hs => ?_) (fun m hq => ?_)
  · rw [← hst m (nec_lt_size hn)] at hs
    rcases I.pending m hn hs with h | h
    · exact h
    · cases h
  · rw [← hst m (lt_size_of_inRch hq)]; exact I.qstale m hq

end IncrVerif.Proofs.DriverH
