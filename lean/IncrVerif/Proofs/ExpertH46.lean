import IncrVerif.Proofs.ExpertH45
import IncrVerif.Proofs.ExpertH38
import IncrVerif.Proofs.ExpertH40
/-!
# Expert nodes, `add_dependency` on a NECESSARY node: helper lemmas

* transfer of `AhhEmpty` between a state and its virtual image, along `AhF`;
* `XFrag` along `XF`;
* `link_phase`: `addParentWithoutAdjustingHeights c k n` on the opened node `n` (virtual state);
* `close_phase`: closing the opened node after `rchInsert`;
* `DriverH.NF`: what the tail of the call (linking cascade, `adjustHeights`, `rchInsert`) leaves of the nodes and the state, and the rest of
  the invariant between actions along it (`QRest.along`).
-/
namespace IncrVerif.Proofs.ExpertH
open IncrVerif.Engine IncrVerif.Driver IncrVerif.Proofs IncrVerif.Proofs.Step IncrVerif.Proofs.Sched
open IncrVerif.Proofs.ExpertH.QR IncrVerif.Proofs.Xp

theorem ahhEmpty_virt {s : State} : AhhEmpty (virt s) ↔ AhhEmpty s := by
  constructor
  · intro h
    exact ⟨h.length, h.buckets, fun m => by have := h.marks m; rwa [virt_nodeD] at this⟩
  · intro h
    exact ⟨h.length, h.buckets, fun m => by rw [virt_nodeD]; exact h.marks m⟩

theorem AhhEmpty.of_ahf {s s' : State} (h : AhhEmpty s) (f : AhF s s') : AhhEmpty s' :=
  ahhEmpty_of_ahf h f

/-! ## the linking phase, in the virtual state -/

section
variable {env : Env} {rk : Nat → Nat} {S2 S3 : State} {n c k fuel : Nat}

/-- `addParentWithoutAdjustingHeights c k n` on the opened node `n` whose `k`-th child edge is the new one -/
theorem link_phase (I2 : GInv env rk S2 (upd allClosed n (.linking k)))
    (hkid : (kids (S2.nodeD n).kind)[k]? = some c)
    (hother : ∀ c' i, (n, i) ∈ (S2.nodeD c').parents → (S2.nodeD c').height < (S2.nodeD n).height)
    (hv : (addParentWithoutAdjustingHeights env fuel c k n).run.run S2 = (.ok (), S3)) :
    GInv env rk S3 (upd allClosed n (.linking (k + 1))) ∧ S3.nodeD n = S2.nodeD n ∧ CFrame S2 S3 ∧
      S3.propagateInvalidity = S2.propagateInvalidity ∧ (n, k) ∈ (S3.nodeD c).parents ∧
      (∀ c' i, (n, i) ∈ (S3.nodeD c').parents → c' ≠ c → (S3.nodeD c').height < (S3.nodeD n).height) := by
  have hopn : upd allClosed n (.linking k) n = .linking k := upd_self ..
  have hcn : rk c < rk n := I2.kid_lt hkid
  have hlow : ∀ m, upd allClosed n (.linking k) m ≠ .closed → rk c < rk m := by
    intro m hm
    by_cases e : m = n
    · rw [e]; exact hcn
    · rw [upd_other _ _ _ e] at hm; exact absurd rfl hm
  obtain ⟨I3, hab, hl, -⟩ := addParentWithoutAdjustingHeights_specR hv I2 hopn hkid hlow
  rw [upd_upd] at I3
  have hn3 : S3.nodeD n = S2.nodeD n := hab n hcn
  have hop3 : upd allClosed n (.linking (k + 1)) n = .linking (k + 1) := upd_self ..
  refine ⟨I3, hn3, hl.fr, hl.pinv, ?_, ?_⟩
  · refine I3.conv n k c ?_ ((wants_linking hop3).2 (Nat.lt_succ_self k))
    rw [hn3]; exact hkid
  · intro c' i hm hne
    obtain ⟨h1, h2⟩ := I3.par c' n i hm
    rw [wants_linking hop3] at h2
    rw [hn3] at h1
    have hik : i < k := by
      rcases Nat.lt_or_ge i k with h | h
      · exact h
      · have : i = k := by omega
        rw [this, hkid] at h1
        cases h1; exact absurd rfl hne
    have hm2 : (n, i) ∈ (S2.nodeD c').parents := I2.conv n i c' h1 ((wants_linking hopn).2 hik)
    have hnec : S2.isNecessary c' = true := nec_of_mem_parents hm2
    rw [hl.hgt c' (fun h => h) hnec, hn3]
    exact hother c' i hm2

/-- no node stops being necessary in the linking cascade -/
theorem link_nec (I2 : GInv env rk S2 (upd allClosed n (.linking k)))
    (hkid : (kids (S2.nodeD n).kind)[k]? = some c)
    (hv : (addParentWithoutAdjustingHeights env fuel c k n).run.run S2 = (.ok (), S3)) {m : Nat}
    (hm : S2.isNecessary m = true) : S3.isNecessary m = true := by
  have hlow : ∀ m, upd allClosed n (.linking k) m ≠ .closed → rk c < rk m := by
    intro m hm
    by_cases e : m = n
    · rw [e]; exact I2.kid_lt hkid
    · rw [upd_other _ _ _ e] at hm; exact absurd rfl hm
  exact (addParentWithoutAdjustingHeights_specR hv I2 (upd_self ..) hkid hlow).2.2.1.nec hm

end

/-! ## closing the opened node -/

section
variable {env : Env} {rk : Nat → Nat} {S4 S' : State} {n k : Nat}

theorem upd_closed_all (n : Nat) (x : Op) : upd (upd allClosed n x) n .closed = allClosed := by
  rw [upd_upd]; exact upd_eq_self allClosed n .closed rfl

/-- the opened node has all its edges recorded, its children are lower, it is stale: once it is queued (it was
already, or `rchInsert` has just run) the structure is closed again -/
theorem close_phase (I4 : GInv env rk S4 (upd allClosed n (.linking (k + 1))))
    (hlen : (kids (S4.nodeD n).kind).length ≤ k + 1)
    (hh : ∀ c' i, (n, i) ∈ (S4.nodeD c').parents → (S4.nodeD c').height < (S4.nodeD n).height)
    (h0 : 0 ≤ (S4.nodeD n).height)
    (hg : (S4.nodeD n).inRch = true → (S4.nodeD n).heightInRch = (S4.nodeD n).height)
    (hst : staleOf S4 n = true)
    (hcase : ((S4.nodeD n).inRch = true ∧ S' = S4) ∨
      ((S4.nodeD n).inRch = false ∧ (rchInsert n).run.run S4 = (.ok (), S'))) :
    Struct env rk S' := by
  have hop : upd allClosed n (.linking (k + 1)) n = .linking (k + 1) := upd_self ..
  have hhk : ∀ (i c : Nat), (kids (S4.nodeD n).kind)[i]? = some c → (S4.nodeD c).height < (S4.nodeD n).height := by
    intro i c hc
    have hi : i < k + 1 := by
      rcases Nat.lt_or_ge i (kids (S4.nodeD n).kind).length with h | h
      · omega
      · rw [List.getElem?_eq_none h] at hc; cases hc
    exact hh c i (I4.conv n i c hc ((wants_linking hop).2 hi))
  rcases hcase with ⟨hq, rfl⟩ | ⟨hnq, hr⟩
  · have := GInv.close_link_queued I4 hop hlen hhk h0 hq (hg hq)
    rwa [upd_closed_all] at this
  · obtain ⟨nd, hnd, -, hmax, e⟩ := rchInsert_ok_inv hr
    have hD : S4.nodeD n = nd := nodeD_of_some hnd
    have hlt : n < S4.nodes.size := I4.opLt n (by rw [hop]; exact Op.linking_ne_closed _)
    rw [← hD] at e hmax
    have := I4.close_link_gen (s' := inserted n (S4.nodeD n).height S4) hop hnq hlen hhk h0 rfl rfl
      (Array.size_modify ..) rfl ?_ ?_ (I4.heap.inserted hlt hnq h0 hmax) (Or.inr ⟨hst, ?_⟩)
    · rw [upd_closed_all, ← e] at this; exact this
    · intro m
      rw [inserted_nodeD]
      split
      · exact ⟨_, rfl⟩
      · exact ⟨_, rfl⟩
    · intro m hm
      rw [inserted_nodeD, if_neg (fun e => hm e.1.symm)]
    · rw [inserted_nodeD, if_pos ⟨rfl, hlt⟩]

end

end IncrVerif.Proofs.ExpertH

namespace IncrVerif.Proofs.DriverH
open IncrVerif.Engine IncrVerif.Proofs IncrVerif.Proofs.Step IncrVerif.Proofs.ExpertH IncrVerif.Proofs.ExpertH.QR

/-- the state fields no effect changes -/
def eKey (s : State) :=
  (s.vars, s.binds, s.stabNum, s.status, s.cfg, s.currentScope, s.observers, s.newObservers,
    s.disallowedObservers, s.allObservers, s.setDuringStab, s.deadVars, s.handleAfterStab, s.propagateInvalidity,
    s.top, s.alive, s.rch.queues.size, s.panicCountdown)

/-- what the linking cascade, `adjustHeights` and `rchInsert` leave alone: ten fields of every node, the fields `eKey` of the state;
no node stops being necessary -/
structure NF (s s' : State) : Prop where
  size : s'.nodes.size = s.nodes.size
  node : ∀ m, nodeKey (s'.nodeD m) = nodeKey (s.nodeD m)
  key : eKey s' = eKey s
  nec : ∀ m, s.isNecessary m = true → s'.isNecessary m = true

theorem NF.refl (s : State) : NF s s := ⟨rfl, fun _ => rfl, rfl, fun _ h => h⟩
theorem NF.trans {a b c : State} (h1 : NF a b) (h2 : NF b c) : NF a c :=
  ⟨h2.size.trans h1.size, fun m => (h2.node m).trans (h1.node m), h2.key.trans h1.key,
    fun m h => h2.nec m (h1.nec m h)⟩
instance : Step.PreOrd NF := ⟨NF.refl, NF.trans⟩

theorem NF.num {s s' : State} (h : NF s s') (m : Nat) :
    (s'.nodeD m).numOnUpdateHandlers = (s.nodeD m).numOnUpdateHandlers := by
  have := h.node m; simp only [nodeKey, Prod.mk.injEq] at this; exact this.2.2.2.2.2.2.2.2.2

/-- a cascade (frame `CFrame` on the real states) that leaves `propagateInvalidity` and `handleAfterStab` alone -/
theorem NF.of_cframe {s s' : State} (h : CFrame s s') (hp : s'.propagateInvalidity = s.propagateInvalidity)
    (hh : s'.handleAfterStab = s.handleAfterStab) (hpc : s'.panicCountdown = s.panicCountdown)
    (hn : ∀ m, s.isNecessary m = true → s'.isNecessary m = true) : NF s s' := by
  refine ⟨h.size, h.node, ?_, hn⟩
  have := h.key
  simp only [stateKey, Prod.mk.injEq] at this
  obtain ⟨h1, h2, h3, h4, h5, h6, h7, h8, h9, h10, h11, h12, -, h14, h15, -, h17, -, -⟩ := this
  simp only [eKey, Prod.mk.injEq]
  exact ⟨h1, h17, h3, h4, h5, h6, h2, h9, h10, h11, h7, h8, hh, hp, h12, h14, h15, hpc⟩

/-- the writes of `adjustHeights` and of `rchInsert` -/
theorem NF.of_edit {L w} (hL : ∀ t ∈ L, t ∈ Footprint.parts Footprint.W.adjustHeights) {s s' : State} (e : Footprint.Edit L w s s') :
    NF s s' := by
  cases e
  case node n f hf =>
    have hf' : ∀ x, nodeKey (f x) = nodeKey x ∧ (f x).isNecessary = x.isNecessary := by
      cases hf <;> first | exact fun _ => ⟨rfl, rfl⟩ | exact absurd (hL _ ‹_›) (by decide)
    refine ⟨Array.size_modify .., fun m => ?_, rfl, fun m hm => ?_⟩
    · rw [nodeD_modify]; split
      · exact (hf' _).1
      · rfl
    · simp only [State.isNecessary] at hm ⊢
      rw [nodeD_modify]; split
      · rw [(hf' _).2]; exact hm
      · exact hm
  case rch h hq _ =>
    exact ⟨rfl, fun _ => rfl, by rw [eKey, show ({ s with rch := h } : State).rch.queues.size = s.rch.queues.size from hq]; rfl,
      fun _ h => h⟩
  case ahh => exact ⟨rfl, fun _ => rfl, rfl, fun _ h => h⟩
  case maxHeightSeen => exact ⟨rfl, fun _ => rfl, rfl, fun _ h => h⟩
  all_goals first
    | exact absurd (hL _ ‹_›) (by decide)
    | (rename_i hf; cases hf <;> exact absurd (hL _ ‹_›) (by decide))

theorem NF.adjustHeights (oc op fuel) : Step.Pres NF (adjustHeights oc op fuel) :=
  (Footprint.Foot.adjustHeights oc op fuel).frame (NF.of_edit fun _ h => h)
theorem NF.rchInsert (n) : Step.Pres NF (rchInsert n) :=
  (Footprint.Foot.rchInsert n).frame (NF.of_edit (by decide))

end IncrVerif.Proofs.DriverH

namespace IncrVerif.Proofs.ExpertH
open IncrVerif.Engine IncrVerif.Proofs IncrVerif.Proofs.Step IncrVerif.Proofs.Sched IncrVerif.Proofs.ExpertH.QR

theorem xCore_xRec {xs xs' : Array ExpertRec} {e : Nat} (h : (xs'[e]?).map xCore = (xs[e]?).map xCore) :
    xCore (xRec xs' e) = xCore (xRec xs e) := by
  unfold xRec
  cases h1 : xs'[e]? <;> cases h2 : xs[e]? <;> rw [h1, h2] at h <;> first | rfl | cases h | exact Option.some.inj h

/-- the virtual node reads of the records only `xCore` of the record its kind names -/
theorem virtNode_of_xcore {xs xs' : Array ExpertRec} {nd : Node}
    (h : ∀ e, nd.kind = .expert e → (xs'[e]?).map xCore = (xs[e]?).map xCore) : virtNode xs' nd = virtNode xs nd := by
  have key : virtKind xs' nd.kind = virtKind xs nd.kind ∧ forced xs' nd.kind = forced xs nd.kind := by
    cases hk : nd.kind <;> try exact ⟨rfl, rfl⟩
    rename_i e
    have hc := xCore_xRec (h e hk)
    simp only [xCore, Prod.mk.injEq] at hc
    simp only [virtKind, forced, hc.1, hc.2.2.1, hc.2.2.2.2, and_self]
  unfold virtNode
  rw [key.1, key.2]

/-- the virtual nodes along the frames of the tail of `expert_add_dependency` -/
theorem restKey_virt {s s' : State} (nf : DriverH.NF s s') (xf : XF s s') (m : Nat) :
    restKey ((virt s').nodeD m) = restKey ((virt s).nodeD m) := by
  rw [virt_nodeD, virt_nodeD, virtNode_of_xcore (xs := s.experts) (fun e _ => xf.xcore e)]
  have hn := nf.node m
  have hk : (s'.nodeD m).kind = (s.nodeD m).kind := xf.kind m
  simp only [nodeKey, Prod.mk.injEq] at hn
  obtain ⟨-, -, -, h4, -, h6, h7, h8, -, h10⟩ := hn
  simp only [restKey, virtNode, hk, h4, h6, h7, h8, h10]

/-- the rest of the invariant between actions along these frames -/
theorem QRest.along {env : Env} {s s' : State} (Q : QRest env (virt s)) (nf : DriverH.NF s s') (xf : XF s s') :
    QRest env (virt s') := by
  have hk := nf.key
  simp only [DriverH.eKey, Prod.mk.injEq] at hk
  obtain ⟨h1, -, h3, h4, -, -, h7, h8, h9, -, h11, h12, h13, h14, h15, h16, -, -⟩ := hk
  refine Q.frame (by rw [virt_size, virt_size]; exact nf.size) (restKey_virt nf xf) h1 ?_
  simp only [qKey, Prod.mk.injEq]
  exact ⟨h3, h4, h16, h11, h12, h13, h14, h15, h7, h8, h9⟩

end IncrVerif.Proofs.ExpertH
