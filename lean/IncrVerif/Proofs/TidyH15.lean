import IncrVerif.Proofs.TidyH14
import IncrVerif.Proofs.CutH39
/-!
# T2b, part 6: validity of actions; the observer actions, the writes and the read-only actions return

`growW`, `GrownW`, `ActionOKW`: as `Quiet.grow`/`Grown`/`ActionOK`, counting also the top-level names (a `create` adds ONE
name and 1, 3 (`mapOp fm/fold/part`) or 5 (`mapOp merge`) nodes).
`simple_totalV`: `CutH.simple_total` (CutH39) for `Quiet.QInv` and `TInvW` (= `TInv` without `top.size = nodes.size`), with the naming
table unchanged in the conclusion; the observer actions are `CutH.ObsTot`'s at `P27W.obsTot`.  `plain_totalW`: the same for the ACTUAL engine, by the exact
simulation.
-/
namespace IncrVerif.Proofs.TidyH.WT
open IncrVerif.Engine IncrVerif.Driver IncrVerif.Proofs IncrVerif.Proofs.Step IncrVerif.Proofs.Sched IncrVerif.Proofs.Quiet
open IncrVerif.Proofs.MapOldH

/-- how many nodes / top-level names / var cells / observers an action adds -/
def growW : Action → Nat × Nat × Nat × Nat
  | .create (.var _) => (1, 1, 1, 0)
  | .create (.mapOp (.merge _ _ _)) => (5, 1, 0, 0)
  | .create (.mapOp _) => (3, 1, 0, 0)
  | .create _ => (1, 1, 0, 0)
  | .observe _ => (0, 0, 0, 1)
  | _ => (0, 0, 0, 0)

/-- the sizes after an action -/
def GrownW (a : Action) (s s' : State) : Prop :=
  s'.nodes.size = s.nodes.size + (growW a).1 ∧ s'.top.size = s.top.size + (growW a).2.1 ∧
    s'.vars.size = s.vars.size + (growW a).2.2.1 ∧ s'.observers.size = s.observers.size + (growW a).2.2.2

/-- the operands of a creation instruction of the fragment name existing top-level nodes -/
def InstrInW (s : State) : Instr → Prop
  | .map _ args => ∀ a, a ∈ args → OpndIn s a
  | .fold _ _ cs => ∀ a, a ∈ cs → OpndIn s a
  | .zip a b => OpndIn s a ∧ OpndIn s b
  | .mapWithOld _ i => OpndIn s i
  | .mapOp op => ∀ a, a ∈ opOpnds op → OpndIn s a
  | _ => True

/-- the action names existing things, there is room for the new nodes, and the fuel of `stabilise` suffices -/
def ActionOKW (N : Nat) (s : State) : Action → Prop
  | .create i => InstrInW s i ∧ s.nodes.size + (growW (.create i)).1 ≤ N
  | a => ActionOK N s a

namespace P27W

/-! ## `TInvW` under changes of the observer bookkeeping -/

/-- `TInvW` reads the nodes, the var cells, `top`, the two heaps (their number of buckets) and the
observers waiting to be added -/
theorem TInv_of_frame {N : Nat} {s s' : State} (T : TInvW N s) (hn : s'.nodes = s.nodes)
    (hv : s'.vars = s.vars) (_ht : s'.top = s.top) (ha : s'.ahh = s.ahh) (hr : s'.rch = s.rch)
    (h1 : s'.newObservers.Nodup)
    (h2 : ∀ (o : Nat) (ob : ObsRec), o ∈ s'.newObservers → s'.observers[o]? = some ob →
      ob.state = .created ∨ ob.state = .unlinked) : TInvW N s' where
  hb m hm ho := by
    have hD : s'.nodeD m = s.nodeD m := by simp only [State.nodeD, hn]
    have hnec : s'.isNecessary m = s.isNecessary m := by simp only [State.isNecessary, hD]
    rw [hnec] at hm; rw [hD]; exact T.hb m hm ho
  room := ⟨by rw [ha]; exact T.room.ahh, by rw [hr]; exact T.room.rch, by rw [hn]; exact T.room.size⟩
  linked c vc h := by rw [hv] at h; exact T.linked c vc h
  newNodup := h1
  newState := h2

theorem obsTot (N : Nat) : CutH.ObsTot (TInvW N) :=
  ⟨fun T => T.newNodup, fun T => T.newState, fun T hn hv ht ha hr _ h1 h2 => TInv_of_frame T hn hv ht ha hr h1 h2⟩

theorem _root_.IncrVerif.Proofs.CutH.ObsOnly.grownW {a : Action} {k : Nat} {s s' : State} (h : CutH.ObsOnly k s s')
    (hg : growW a = (0, 0, 0, k)) : GrownW a s s' := by
  unfold GrownW; rw [hg, h.nodes, h.vars, h.top]; exact ⟨rfl, rfl, rfl, h.obsSize⟩

theorem Grown_same {a : Action} {s s' : State} (hg : growW a = (0, 0, 0, 0)) (h1 : s'.nodes.size = s.nodes.size)
    (h2 : s'.vars.size = s.vars.size) (h3 : s'.observers.size = s.observers.size) (h4 : s'.top = s.top) :
    GrownW a s s' := by
  unfold GrownW; rw [hg, h4]; exact ⟨h1, rfl, h2, h3⟩

/-! ## the writes -/

/-- a write outside `stabilise` returns -/
theorem writeVar_total {env : Env} {N : Nat} {s : State} {v : Nat} {f : Val → Val} {isSet : Bool}
    (Q : QInv env s) (T : TInvW N s) (hv : v < s.vars.size) :
    Tot (writeVar v f isSet) s (fun _ s' => TInvW N s' ∧ s'.nodes.size = s.nodes.size ∧
      s'.vars.size = s.vars.size ∧ s'.observers.size = s.observers.size ∧ s'.top = s.top) := by
  have hv0 : s.vars[v]? = some s.vars[v] := Array.getElem?_eq_getElem hv
  generalize s.vars[v] = vc at hv0
  have I : GInv env s allClosed := Q.struct
  have hsz : vc.node < s.nodes.size := (Q.vars.cell v vc hv0).1
  have hl : vc.linked = true := T.linked v vc hv0
  obtain ⟨hrun, hh⟩ := CutH.writeVar_ret f isSet hv0 (by rw [Q.status]; intro e; cases e) hl hsz (Q.vars.cell v vc hv0).2
    (I.node hsz).valid (Q.stamps vc.node).1 fun hnec => by
      have h0 := I.hpos _ hnec rfl
      have hle := T.hb _ hnec rfl
      have hmax := T.room.rch
      have hN := T.room.size
      omega
  obtain ⟨R, -⟩ := wroteOutside_q (f vc.value) Q hv0 hh
  have hF := wroteOutside_frame v vc (f vc.value) s
  have hS := wroteOutside_sizes v vc (f vc.value) s
  refine Tot.of_ok hrun ⟨?_, R.size, hS.1, by rw [R.observers], R.top⟩
  refine ⟨fun m hm ho => ?_, ⟨?_, ?_, ?_⟩, fun c vc' h => ?_, ?_, ?_⟩
  · rw [R.nec] at hm; rw [R.height]; exact T.hb m hm ho
  · rw [hF.2.2.2.2.1]; exact T.room.ahh
  · rw [← T.room.rch]; simp only [Heap.maxAllowed, hS.2]
  · rw [R.size]; exact T.room.size
  · by_cases hc : c = v
    · rw [hc, R.var] at h; cases h; exact hl
    · rw [R.other c hc] at h; exact T.linked c vc' h
  · rw [R.newObservers]; exact T.newNodup
  · intro o ob hm h
    rw [R.newObservers] at hm; rw [R.observers] at h
    exact T.newState o ob hm h

end P27W
open P27W

theorem simple_totalV {env : Env} {N : Nat} {s : State} {a : Action} {tk : Array Nat}
    (Q : QInv env s) (T : TInvW N s) (ha : SimpleAction a) (hok : ActionOK N s a) :
    Tot (stepAction env a tk) s (fun r s' => r.2 = tk ∧ TInvW N s' ∧ GrownW a s s') := by
  cases a <;> try exact ha.elim
  case observe n =>
    cases n <;> try exact ha.elim
    exact ((obsTot N).observe Q.obs.newIn T hok).mono fun _ _ h => ⟨h.1, h.2.1, h.2.2.grownW rfl⟩
  case cloneObs o => exact ((obsTot N).cloneObs T).mono fun _ _ h => ⟨h.1, h.2.1, h.2.2.grownW rfl⟩
  case dropObs o => exact ((obsTot N).dropObs T hok).mono fun _ _ h => ⟨h.1, h.2.1, h.2.2.grownW rfl⟩
  case disallow o => exact ((obsTot N).disallow T hok).mono fun _ _ h => ⟨h.1, h.2.1, h.2.2.grownW rfl⟩
  case get v => exact ⟨_, s, Hist.stepAction_get_ok.2 ⟨_, getVar_total hok, rfl⟩, rfl, T, Grown_same rfl rfl rfl rfl rfl⟩
  case isStable => exact ⟨_, s, Hist.stepAction_isStable_run .., rfl, T, Grown_same rfl rfl rfl rfl rfl⟩
  case stats => exact ⟨_, s, Hist.stepAction_stats_run .., rfl, T, Grown_same rfl rfl rfl rfl rfl⟩
  all_goals
    obtain ⟨old, s1, h1, T1, e1, e2, e3, e4⟩ := writeVar_total Q T hok
    exact ⟨_, s1, (Hist.stepAction_write_ok (by constructor)).2 ⟨old, h1, rfl⟩, rfl, T1, Grown_same rfl e1 e2 e3 e4⟩

/-- **the API actions other than `create` and `stabilise` return**, in the actual engine -/
theorem plain_totalW {env : Env} {C : Val → Prop} {sp : Nat → Val → Val} {N : Nat} {s : State} {a : Action}
    {tk : Array Nat} (Q : QInvW env C sp s) (T : TInvW N s) (ha : WPlain C a) (hok : ActionOK N s a) :
    Tot (stepAction env a tk) s (fun r s' => r.2 = tk ∧ TInvW N s' ∧ GrownW a s s') := by
  have hs : SimpleAction a := by
    cases a <;> simp only [WPlain] at ha <;> first | exact ha | trivial | exact ha.elim
  have hokv : ActionOK N (virt s) a := by
    cases a <;> first | exact hok | (simp only [WPlain] at ha)
  have Tv := simple_totalV (env := virtEnv env sp) (tk := tk) Q.q (tinvW_virt.2 T) hs hokv
  refine ((Act.simAt_stepAction env sp tk ha).tot Q.fr Tv).mono ?_
  rintro r s' ⟨⟨h1, h2, g1, g2, g3, g4⟩, -⟩
  refine ⟨h1, tinvW_virt.1 h2, ?_, g2, g3, g4⟩
  rw [virt_size, virt_size] at g1; exact g1

end IncrVerif.Proofs.TidyH.WT
