import IncrVerif.Proofs.NestH31
/-!
# Nested binds (F2), phase 3 (`lhsInvalidateOld`), part 2: the run of `invalidateNode` on a dying subtree, the loop, the whole phase
-/
namespace IncrVerif.Proofs.NestH
open IncrVerif.Engine IncrVerif.Proofs IncrVerif.Proofs.Step IncrVerif.Proofs.Sched IncrVerif.Proofs.Quiet
open IncrVerif.Proofs.BindH

namespace NI

/-! ## the pieces of `invalidateNode` on an unnecessary, unqueued, handler-free main node -/

theorem handled_noh (n : Nat) (s : State) (h : (s.nodeD n).numOnUpdateHandlers = 0) : Inval.handled n s = s := by
  unfold Inval.handled
  rw [if_neg]
  rw [h]
  intro hc
  exact absurd hc.1 (by decide)

/-- the state in which the cascade loop of a main node starts -/
def openedT (r b2 : Nat) (t : State) : State :=
  { opened r b2 t with counters := { t.counters with invalidated := t.counters.invalidated + 1 } }

theorem invCascade_main_run (fuel b2 lc2 : Nat) (t : State) (br2 : BindRec) (hb : t.binds[b2]? = some br2) :
    (Inval.invCascade fuel (.bindMain b2 lc2)).run.run t =
      (forIn br2.allNodesCreatedOnRhs PUnit.unit fun (r : Nat) (_ : PUnit) => do
          invalidateNode fuel r
          pure (ForInStep.yield PUnit.unit) : M PUnit).run.run
        { t with binds := t.binds.modify b2 fun x => { x with allNodesCreatedOnRhs := [] } } := by
  unfold Inval.invCascade
  simp only [getBind, modBind, bind_assoc, run_bind_get, hb, pure_bind, run_bind_modify, bind_pure_unit]

/-! ## what the run needs to know about a dying subtree -/

/-- the dying subtree of `r` in the reference state `s`: its nodes are valid, unnecessary, unqueued, handler-free; the main nodes among them have their
records, whose lists are exactly the valid nodes of their scopes; scope nodes have smaller rank than the main node -/
structure Sub (rk : Nat → Nat) (s : State) (r : Nat) : Prop where
  leaf : ∀ m, Dying s [r] m → m < s.nodes.size ∧ (s.nodeD m).valid = true ∧ s.isNecessary m = false ∧
    (s.nodeD m).inRch = false ∧ (s.nodeD m).numOnUpdateHandlers = 0
  main : ∀ m b2 lc2, Dying s [r] m → (s.nodeD m).kind = .bindMain b2 lc2 →
    ∃ br2, s.binds[b2]? = some br2 ∧ br2.main = m ∧
      (∀ x, x ∈ br2.allNodesCreatedOnRhs ↔
        (x < s.nodes.size ∧ (s.nodeD x).valid = true ∧ (s.nodeD x).createdIn = .bind b2)) ∧
      (∀ x, x < s.nodes.size → (s.nodeD x).createdIn = .bind b2 → rk x < rk m)

/-- the main node of record `b'` has kind `bindMain b' _` -/
def RecsK (s : State) : Prop :=
  ∀ (b' : Nat) (br0 : BindRec), s.binds[b']? = some br0 → ∃ lc, (s.nodeD br0.main).kind = .bindMain b' lc

theorem recsK_opened {s : State} {r b2 : Nat} (h : RecsK s) : RecsK (opened r b2 s) := by
  intro b' br0 hb
  rw [opened_binds] at hb
  rw [(opened_sameSk r b2 s).kind]
  by_cases e : b2 = b'
  · rw [if_pos e] at hb
    cases hs : s.binds[b']? with
    | none => rw [hs] at hb; cases hb
    | some br1 =>
      rw [hs] at hb
      simp only [Option.map_some, Option.some.injEq] at hb
      rw [← hb]
      exact h b' br1 hs
  · rw [if_neg e] at hb
    exact h b' br0 hb

theorem closed_congr {s t : State} {D : Nat → Prop} (hsk : SameSk s t) (h : Closed s D) : Closed t D :=
  fun p m hp hm => h p m hp ((dying_congr hsk [p] m).1 hm)

/-- ranks in a subtree are at most the rank of its root -/
theorem rk_le_root {rk : Nat → Nat} {s : State} {r : Nat}
    (H : ∀ p b3 lc3 x, Dying s [r] p → (s.nodeD p).kind = .bindMain b3 lc3 → x < s.nodes.size →
      (s.nodeD x).createdIn = .bind b3 → rk x < rk p) {m : Nat} (hm : Dying s [r] m) : rk m ≤ rk r := by
  induction hm with
  | base h1 => rw [List.mem_singleton.1 h1]; exact Nat.le_refl _
  | inner hp hk hl _ hsc ih =>
    have := H _ _ _ _ hp hk hl hsc
    omega

theorem Sub.rk_le {rk : Nat → Nat} {s : State} {r m : Nat} (S : Sub rk s r) (hm : Dying s [r] m) : rk m ≤ rk r := by
  refine rk_le_root (fun p b3 lc3 x hp hk hl hsc => ?_) hm
  obtain ⟨_, _, _, _, h⟩ := S.main p b3 lc3 hp hk
  exact h x hl hsc

/-- the subtrees of the registered nodes of a dying main node -/
theorem Sub.below {rk : Nat → Nat} {s : State} {r b2 lc2 r' m : Nat} {br2 : BindRec} (S : Sub rk s r)
    (hk : (s.nodeD r).kind = .bindMain b2 lc2) (hb2 : s.binds[b2]? = some br2)
    (hr' : r' ∈ br2.allNodesCreatedOnRhs) (hm : Dying s [r'] m) : Dying s [r] m ∧ rk m < rk r := by
  obtain ⟨br, hb, -, hlist, hrk⟩ := S.main r b2 lc2 (dying_self s r) hk
  rw [hb2] at hb; cases hb
  obtain ⟨hl, hv, hsc⟩ := (hlist r').1 hr'
  have hsub : ∀ x, Dying s [r'] x → Dying s [r] x :=
    fun x hx => dying_trans (.inner (dying_self s r) hk hl hv hsc) hx
  refine ⟨hsub m hm, ?_⟩
  have h1 : rk m ≤ rk r' := by
    refine rk_le_root (fun p b3 lc3 x hp hk3 hl3 hsc3 => ?_) hm
    obtain ⟨_, _, _, _, h⟩ := S.main p b3 lc3 (hsub p hp) hk3
    exact h x hl3 hsc3
  have := hrk r' hl hsc
  omega

theorem sub_child {rk : Nat → Nat} {s : State} {r b2 lc2 r' : Nat} {br2 : BindRec} (S : Sub rk s r)
    (hk : (s.nodeD r).kind = .bindMain b2 lc2) (hb2 : s.binds[b2]? = some br2)
    (hr' : r' ∈ br2.allNodesCreatedOnRhs) : Sub rk (opened r b2 s) r' := by
  have hsk := opened_sameSk r b2 s
  obtain ⟨br, hb, hmain, -, -⟩ := S.main r b2 lc2 (dying_self s r) hk
  rw [hb2] at hb; cases hb
  refine ⟨fun m hm => ?_, fun m b3 lc3 hm hk3 => ?_⟩
  · have hm' := (dying_congr hsk [r'] m).1 hm
    obtain ⟨hd, hlt⟩ := S.below hk hb2 hr' hm'
    have hne : m ≠ r := fun e => by rw [e] at hlt; exact Nat.lt_irrefl _ hlt
    obtain ⟨h1, h2, h3, h4, h5⟩ := S.leaf m hd
    unfold State.isNecessary at h3 ⊢
    rw [opened_other s hne, hsk.size]
    exact ⟨h1, h2, h3, h4, h5⟩
  · have hm' := (dying_congr hsk [r'] m).1 hm
    obtain ⟨hd, hlt⟩ := S.below hk hb2 hr' hm'
    have hne : m ≠ r := fun e => by rw [e] at hlt; exact Nat.lt_irrefl _ hlt
    rw [hsk.kind] at hk3
    obtain ⟨br3, hb3, hmain3, hlist3, hrk3⟩ := S.main m b3 lc3 hd hk3
    have hbne : b2 ≠ b3 := by
      intro e
      subst e
      rw [hb2] at hb3; cases hb3
      exact hne (hmain3.symm.trans hmain)
    refine ⟨br3, by rw [opened_binds, if_neg hbne]; exact hb3, hmain3, fun x => ?_, fun x hx hsc => ?_⟩
    · rw [hsk.size, hsk.valid, hsk.createdIn]
      exact hlist3 x
    · rw [hsk.size] at hx; rw [hsk.createdIn] at hsc
      exact hrk3 x hx hsc

/-- the dying subtree of a main node: the node and the subtrees of the registered nodes of its bind -/
theorem dying_main_iff {rk : Nat → Nat} {s : State} {r b2 lc2 : Nat} {br2 : BindRec} (S : Sub rk s r)
    (hk : (s.nodeD r).kind = .bindMain b2 lc2) (hb2 : s.binds[b2]? = some br2) (m : Nat) :
    Dying s [r] m ↔ (m = r ∨ Dying s br2.allNodesCreatedOnRhs m) := by
  obtain ⟨br, hb, -, hlist, -⟩ := S.main r b2 lc2 (dying_self s r) hk
  rw [hb2] at hb; cases hb
  constructor
  · intro hm
    induction hm with
    | base h1 => exact Or.inl (List.mem_singleton.1 h1)
    | inner _ hk3 hl hv hsc ih =>
      rcases ih with e | h
      · rw [e, hk] at hk3
        injection hk3 with e1 e2
        subst e1
        exact Or.inr (.base ((hlist _).2 ⟨hl, hv, hsc⟩))
      · exact Or.inr (.inner h hk3 hl hv hsc)
  · rintro (e | h)
    · rw [e]; exact dying_self s r
    · obtain ⟨r', hr', hd⟩ := dying_split h
      exact (S.below hk hb2 hr' hd).1

end NI

end IncrVerif.Proofs.NestH
