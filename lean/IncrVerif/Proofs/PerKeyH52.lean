import IncrVerif.Proofs.PerKeyH50
import IncrVerif.Proofs.PerKeyH89
/-!
# A run of a per-key change detector, part 7b: the static step of the change detector in the new graph
(as `DriverH.static_step`; the static engine runs `maybeChangeValue` on `V s2` by `VSim`)
-/
namespace IncrVerif.Proofs.PerKeyH
open IncrVerif.Engine IncrVerif.Driver IncrVerif.Proofs IncrVerif.Proofs.Step IncrVerif.Proofs.Sched
open IncrVerif.Proofs.ExpertH IncrVerif.Proofs.EffH IncrVerif.Proofs.DriverH IncrVerif.Proofs.ExpertH.QR
open IncrVerif.Proofs.Xp

/-! ## `unstamp` -/

theorem unstamp_kind (n : Nat) (r : Int) (S : State) (x : Nat) : ((unstamp n r S).nodeD x).kind = (S.nodeD x).kind :=
  (unstamp_shape n r S x).kind.symm

/-! ## the frames of the final `maybeChangeValue` -/

theorem sf_mcv {env : Env} {fuel n : Nat} {v : Val} {s2 s' : State} {r : Option Nat}
    (h : (maybeChangeValue env fuel n v).run.run s2 = (.ok r, s')) : SF s2 s' := by
  refine ⟨(PresX.maybeChangeValue env fuel n v).h _ _ _ h, DFX.maybeChangeValue h, ?_⟩
  have hk : Keeps State.perkeys s2 s' := (KQ.maybeChangeValue env fuel n v).h _ _ _ h
  exact hk

section
variable {env : Env} {s s2 s' : State} {n op eres fuel : Nat} {pr : PerKeyRec} {m : List (Int × Int)} {r : Option Nat}

theorem LE.pinv (E : LE env s n op pr eres m s2) : s2.propagateInvalidity = [] := E.mid.pinv

theorem LE.fr (E : LE env s n op pr eres m s2) : Fr s2 := fr_of_pfrag E.frag E.pinv

/-- the change detector is stamped in `s2` -/
theorem lc_stamp2 (B : LcBase env s n op pr eres) (E : LE env s n op pr eres m s2) :
    (s2.nodeD n).recomputedAt = s.stabNum ∧ (s2.nodeD n).kind = .map (fnPerKey + op) [pr.result - 1] ∧
      n < s.nodes.size := by
  obtain ⟨-, -, -, -, -, -, -, -, -, hnlt, hnk⟩ := B.facts
  obtain ⟨k1, -, -, -, -, -, -, -, -, k10⟩ := lf_old E.lf hnlt
  exact ⟨by rw [k10, if_pos rfl], by rw [k1]; exact hnk, hnlt⟩

/-- **part B**: the run of `maybeChangeValue` is a static step `StepRelB` of `n` from the unstamped `V s2` to `V s'`,
towards the target `()` of the virtual change detector -/
theorem lc_static (B : LcBase env s n op pr eres) (E : LE env s n op pr eres m s2)
    (h : (maybeChangeValue env fuel n .unit).run.run s2 = (.ok r, s')) :
    ∃ ch, BindH.StepRelB n .unit ch r (unstamp n (s.nodeD n).recomputedAt (V s2)) (V s') ∧
      BindH.TargetB (penv env) (unstamp n (s.nodeD n).recomputedAt (V s2)) n .unit ∧ Fr s' ∧ SF s2 s' ∧
      ∃ l', (maybeChangeValue (twEnv env) fuel n .unit).run.run (twL [] s2) = (.ok r, twL l' s') := by
  have F2 := E.frag
  have fr2 := E.fr
  obtain ⟨hst2, hk2, hnlt⟩ := lc_stamp2 B E
  obtain ⟨-, -, hstab, -, -, -⟩ := lf_key E.lf
  have sf := sf_mcv h
  -- the twin run (for the callback discipline); the static engine on the virtual states
  obtain ⟨⟨l', htw⟩, fr'⟩ := TSim.maybeChangeValue env fuel n .unit s2 fr2 [] r s' h
  obtain ⟨hvirt, -⟩ := VSim.maybeChangeValue env fuel n .unit s2 fr2 r s' h
  have I' := lc_inv' B E
  have hrec : ((V s2).nodeD n).recomputedAt = (unstamp n (s.nodeD n).recomputedAt (V s2)).stabNum := by
    rw [V_recomputedAt_of_not_expert s2 n (fun e he => by rw [hk2] at he; cases he), hst2]
    exact hstab.symm
  obtain ⟨ch, R⟩ := BindH.BS.mcv_stepB I'.graph I'.heap (I'.cur n rfl).1
    (upd_unstamp n _ (V s2) [] F2.pc) rfl (unstamp_fields n _ (V s2) n).1.symm hrec
    (unstamp_fields n _ (V s2) n).2.1.symm hvirt
  refine ⟨ch, R, ?_, fr', sf, l', htw⟩
  -- the target
  have hkU : ((unstamp n (s.nodeD n).recomputedAt (V s2)).nodeD n).kind = .map fLc [pr.result - 1] := by
    rw [unstamp_kind, V_kind, hk2, vKind_map, if_pos (Nat.le_add_right _ _)]
  simp only [BindH.TargetB, Target, hkU]
  refine ⟨[.map m], ?_, (penv_fn_fLc env _).symm⟩
  obtain ⟨x0, -, hN, -⟩ := B.facts
  have hclt : pr.result - 1 < s.nodes.size := by have := hN.lt; omega
  have hval : ((unstamp n (s.nodeD n).recomputedAt (V s2)).nodeD (pr.result - 1)).value = some (.map m) := by
    rw [(unstamp_fields n _ (V s2) _).1, V_nodeD, vNode_value, (lf_old E.lf hclt).2.2.2.1]
    exact E.conv
  simp only [plainVals, evalArgs, hval]

end

end IncrVerif.Proofs.PerKeyH
