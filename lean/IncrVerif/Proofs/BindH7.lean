import IncrVerif.Proofs.BindH6
/-!
# Binds, part 3d: a run of a change detector re-establishes the drain invariant (pure logic, from `StepL`)
-/
namespace IncrVerif.Proofs.BindH
open IncrVerif.Engine IncrVerif.Proofs IncrVerif.Proofs.Step IncrVerif.Proofs.Sched

/-- the defining equation, pointwise version of `TargetB.congr` -/
theorem TargetB.congr' {env : Env} {s s' : State} {m : Nat} {w : Val}
    (hv : (s.nodeD m).valid = true) (hB : BKind env (s.nodeD m).kind)
    (hk : (s'.nodeD m).kind = (s.nodeD m).kind) (hvars : s'.vars = s.vars)
    (hb : ∀ b lc, (s.nodeD m).kind = .bindMain b lc → s'.binds[b]? = s.binds[b]?)
    (hc : ∀ c, c ∈ s.children m → (s'.nodeD c).value = (s.nodeD c).value)
    (h : TargetB env s m w) : TargetB env s' m w := by
  unfold TargetB at h ⊢
  rw [hk]
  cases hkd : (s.nodeD m).kind with
  | bindLhsChange b => rw [hkd] at h; exact h
  | bindMain b lc =>
    rw [hkd] at h
    obtain ⟨br, r, h1, h2, h3⟩ := h
    refine ⟨br, r, by rw [hb b lc hkd]; exact h1, h2, ?_⟩
    rw [hc r ?_]; exact h3
    unfold State.children Node.kind?
    rw [hv, hkd]
    simp only [if_true, h1, h2]
    simp
  | const w' => rw [hkd] at h; simpa only [Target, hk, hkd] using h
  | var c =>
    rw [hkd] at h
    simp only [Target, hk, hkd, hvars] at h ⊢
    exact h
  | map f args =>
    rw [hkd] at h
    have hcs : s.children m = args := by
      unfold State.children Node.kind?; rw [hv, hkd]; rfl
    simp only [Target, hk, hkd] at h ⊢
    obtain ⟨vals, h1, h2⟩ := h
    exact ⟨vals, by rw [plainVals_congr args (fun a ha => hc a (by rw [hcs]; exact ha))]; exact h1, h2⟩
  | fold f init cs =>
    rw [hkd] at h
    have hcs : s.children m = cs := by
      unfold State.children Node.kind?; rw [hv, hkd]; rfl
    simp only [Target, hk, hkd] at h ⊢
    obtain ⟨vals, h1, h2⟩ := h
    exact ⟨vals, by rw [plainVals_congr cs (fun a ha => hc a (by rw [hcs]; exact ha))]; exact h1, h2⟩
  | mapRef _ _ => rw [hkd] at hB; exact hB.elim
  | mapWithOld _ _ => rw [hkd] at hB; exact hB.elim
  | expert _ => rw [hkd] at hB; exact hB.elim

section
variable {env : Env} {n b : Nat} {br br' : BindRec} {r : Option Nat} {s s' : State}

/-- an old node other than `n` that is still valid: unchanged in what evaluation reads -/
theorem StepL.kept (R : StepL env n b br br' r s s') {m : Nat} (hm : m < s.nodes.size) (hne : m ≠ n)
    (hv' : (s'.nodeD m).valid = true) :
    (s.nodeD m).valid = true ∧ (s'.nodeD m).kind = (s.nodeD m).kind ∧
      (s'.nodeD m).createdIn = (s.nodeD m).createdIn ∧
      (s'.nodeD m).value = (s.nodeD m).value ∧ (s'.nodeD m).recomputedAt = (s.nodeD m).recomputedAt ∧
      (s'.nodeD m).changedAt = (s.nodeD m).changedAt ∧ (m ≠ br.main → s'.children m = s.children m) := by
  rcases R.old m hm hne with ⟨-, h2, -⟩ | ⟨h1, h2, h3, h4, h5, h6, h7⟩
  · rw [hv'] at h2; cases h2
  · exact ⟨by rw [← h1]; exact hv', h2, h3, h4, h5, h6, h7⟩

/-- the main node of the bind is the only node that has `n` as a child -/
theorem StepL.lc_only (R : StepL env n b br br' r s s') (g : BGraph env s)
    (hk : (s.nodeD n).kind = .bindLhsChange b) {m : Nat} (hm : m < s.nodes.size)
    (hv : (s.nodeD m).valid = true) (hc : n ∈ s.children m) : m = br.main := by
  have h1 := g.lcChild m n b hm hv hc hk
  obtain ⟨br0, h2, h3, -⟩ := g.mainRec m b n hm hv h1
  rw [R.bind] at h2; cases h2
  exact h3.symm

/-- staleness of a kept node other than the main node is unchanged -/
theorem StepL.stale_kept (R : StepL env n b br br' r s s') (g : BGraph env s)
    (hk : (s.nodeD n).kind = .bindLhsChange b) {m : Nat} (hm : m < s.nodes.size) (hne : m ≠ n)
    (hmain : m ≠ br.main) (hv' : (s'.nodeD m).valid = true) : s'.isStale m = s.isStale m := by
  obtain ⟨hv, k1, -, -, k4, -, k6⟩ := R.kept hm hne hv'
  have hB := (g.node m hm hv).1
  have hch := k6 hmain
  apply isStale_congr hB k1 (by rw [hv', hv]) k4 (fun c => by rw [R.vars]) hch
  intro c hc
  have hclt := ((g.node m hm hv).2.2 c hc).1
  have hcn : c ≠ n := by
    intro e; subst e
    exact hmain (R.lc_only g hk hm hv hc)
  have hcv' : (s'.nodeD c).valid = true := by
    have hm' : m < s'.nodes.size := Nat.lt_of_lt_of_le hm R.grow
    exact ((R.graph'.node m hm' hv').2.2 c (by rw [hch]; exact hc)).2
  exact (R.kept hclt hcn hcv').2.2.2.2.2.1

/-- the main node is stale afterwards (if it is still a valid node) -/
theorem StepL.main_stale (R : StepL env n b br br' r s s') (I : DInv env s (some n))
    (hv' : (s'.nodeD br.main).valid = true) : s'.isStale br.main = true := by
  obtain ⟨hm, hc, hc', hne⟩ := R.main
  have hm' : br.main < s'.nodes.size := Nat.lt_of_lt_of_le hm R.grow
  have hfr := I.fresh br.main n (Below.of_edge (Edge.child hc)) (Or.inr rfl)
  apply isStale_of_child hv' hc'
  rw [R.self.2.1, (R.kept hm hne hv').2.2.2.2.1]
  exact hfr

theorem StepL.self_fresh (R : StepL env n b br br' r s s') (I : DInv env s (some n)) :
    s'.isStale n = false := by
  have hlt' : n < s'.nodes.size := Nat.lt_of_lt_of_le I.cur_facts.2.1 R.grow
  apply isStale_fresh (R.graph'.node n hlt' R.self.2.2.2.1).1 R.stamps'.now (by rw [R.self.1, R.stabNum])
  · exact R.stamps'.var
  · intro c; exact (R.stamps'.node c).2

/-- an edge of the new graph that leaves a kept node other than the main node is an edge of the old graph -/
theorem StepL.edge_old (R : StepL env n b br br' r s s') (hnv : (s.nodeD n).valid = true) {a c : Nat}
    (ha : a < s.nodes.size) (hmain : a ≠ br.main) (he : Edge s' a c) : Edge s a c := by
  have hv' := he.valid
  by_cases han : a = n
  · subst han
    cases he with
    | child hc => rw [R.self.2.2.2.2.2.1] at hc; exact Edge.child hc
    | scope hv2 hsc hb =>
      -- the change detector keeps its scope; rebuild the edge from the old tables
      rename_i b2 br2
      have hold : (s.nodeD a).valid = true ∧ (s.nodeD a).createdIn = (s'.nodeD a).createdIn :=
        ⟨hnv, R.self.2.2.2.2.2.2.symm⟩
      by_cases hb2 : b2 = b
      · subst hb2
        rw [R.bind'] at hb; cases hb
        rw [show br'.lhsChange = br.lhsChange from R.lc.2.1.trans R.lc.1.symm]
        exact Edge.scope hold.1 (hold.2.trans hsc) R.bind
      · rw [R.bindsOther.2 b2 hb2] at hb
        exact Edge.scope hold.1 (hold.2.trans hsc) hb
  · obtain ⟨hv, -, k2, -, -, -, k6⟩ := R.kept ha han hv'
    cases he with
    | child hc => rw [k6 hmain] at hc; exact Edge.child hc
    | scope hv2 hsc hb =>
      rename_i b2 br2
      rw [k2] at hsc
      by_cases hb2 : b2 = b
      · subst hb2
        rw [R.bind'] at hb; cases hb
        rw [show br'.lhsChange = br.lhsChange from R.lc.2.1.trans R.lc.1.symm]
        exact Edge.scope hv hsc R.bind
      · rw [R.bindsOther.2 b2 hb2] at hb
        exact Edge.scope hv hsc hb

end

end IncrVerif.Proofs.BindH
