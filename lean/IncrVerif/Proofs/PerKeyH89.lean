import IncrVerif.Proofs.PerKeyH6
import IncrVerif.Proofs.ExpertH31
/-!
# The value-faithful simulation `VSim`: `V` as a relabelling, invisible work, the engine functions

`VSim x x'`: every successful run of `x` from `s` (in the frame fragment `ExpertH.Fr`) is matched by a successful run
of `x'` from `V s`, with the same result, ending in `V` of the final state.  `V` is `rel.app` for a relabelling `rel`
(`NodeSim`) whose kind map reads the expert and the per-key records; `(rel, Fr)` is `NodeSim.Blind`, what the engine
does for expert nodes keeps `V s` (`VVEq`), so `VSim` of an engine function is the forward half of its `NodeSim.Comm`.
-/
namespace IncrVerif.Proofs.PerKeyH
open IncrVerif.Engine IncrVerif.Driver IncrVerif.Proofs IncrVerif.Proofs.Step IncrVerif.Proofs.Sched
open IncrVerif.Proofs.ExpertH IncrVerif.Proofs.EffH

/-! ## field projections of `V` (those not in `K1`; prefix `Vf_`) -/
section
variable (s : State)
theorem Vf_cfg : (V s).cfg = s.cfg := rfl
theorem Vf_binds : (V s).binds = s.binds := rfl
theorem Vf_observers : (V s).observers = s.observers := rfl
theorem Vf_ahh : (V s).ahh = s.ahh := rfl
theorem Vf_vars : (V s).vars = s.vars := rfl
theorem Vf_rch : (V s).rch = s.rch := rfl
theorem Vf_stabNum : (V s).stabNum = s.stabNum := rfl
theorem Vf_maxHeightSeen : (V s).maxHeightSeen = s.maxHeightSeen := rfl
theorem Vf_status : (V s).status = s.status := rfl
theorem Vf_currentScope : (V s).currentScope = s.currentScope := rfl
theorem Vf_handleAfterStab : (V s).handleAfterStab = s.handleAfterStab := rfl
theorem Vf_newObservers : (V s).newObservers = s.newObservers := rfl
theorem Vf_disallowedObservers : (V s).disallowedObservers = s.disallowedObservers := rfl
theorem Vf_allObservers : (V s).allObservers = s.allObservers := rfl
theorem Vf_setDuringStab : (V s).setDuringStab = s.setDuringStab := rfl
theorem Vf_deadVars : (V s).deadVars = s.deadVars := rfl
theorem Vf_counters : (V s).counters = s.counters := rfl
theorem Vf_nextToken : (V s).nextToken = s.nextToken := rfl
theorem Vf_nextDep : (V s).nextDep = s.nextDep := rfl
theorem Vf_panicCountdown : (V s).panicCountdown = s.panicCountdown := rfl
theorem Vf_currentlyRunning : (V s).currentlyRunning = s.currentlyRunning := rfl
theorem Vf_alive : (V s).alive = s.alive := rfl
theorem Vf_top : (V s).top = s.top := rfl
theorem Vf_handles : (V s).handles = s.handles := rfl
theorem Vf_slots : (V s).slots = s.slots := rfl
theorem Vf_memos : (V s).memos = s.memos := rfl
theorem Vf_perkeys : (V s).perkeys = s.perkeys := rfl
theorem Vf_isStable : (V s).isStable = s.isStable := rfl
end

/-! ## the virtual kind of an expert node in closed form; `vNode` reads only `experts`, `perkeys` of the state -/

/-- fold id of the virtual kind of expert node `e` -/
def vF (s : State) (e : Nat) : Nat :=
  match (xRec s.experts e).pk with
  | some (_, some _) => xConst
  | some (_, none) => xAsm
  | none => xBase + (xRec s.experts e).f

/-- initial accumulator of the virtual kind of expert node `e` -/
def vInit (s : State) (e : Nat) : Val :=
  match (xRec s.experts e).pk with
  | some (op, some key) => .int (((pkRec s op).prevMap.lookup key).getD 0)
  | some (op, none) => asmInit (tagsOf (pkRec s op).prevNodes (xRec s.experts e).children)
  | none => .int 0

theorem vKind_expert_eq (s : State) (e : Nat) :
    vKind s (.expert e) = .fold (vF s e) (vInit s e) ((xRec s.experts e).children.map (·.child)) := by
  cases h : (xRec s.experts e).pk with
  | none => rw [vKind_expert_none s h]; simp only [vF, vInit, h]
  | some p =>
    obtain ⟨op, k⟩ := p
    cases k with
    | none => rw [vKind_expert_res s h]; simp only [vF, vInit, h]
    | some key => rw [vKind_expert_key s h]; simp only [vF, vInit, h]

theorem vNode_congr {s s' : State} (h1 : s'.experts = s.experts) (h2 : s'.perkeys = s.perkeys) :
    vNode s' = vNode s := by
  funext nd
  rcases nd with ⟨k⟩
  cases k <;> simp [vNode, vKind, forced, pkRec, h1, h2] <;> rfl

theorem vNode_of_not_expert_map (s : State) (nd : Node) (h : ∀ e, nd.kind ≠ .expert e)
    (h2 : ∀ f args, nd.kind = .map f args → f < fnPerKey) : vNode s nd = nd := by
  rcases nd with ⟨k⟩
  cases k <;> try rfl
  · rename_i f args
    have := h2 f args rfl
    simp only [vNode, vKind, forced, Nat.not_le.2 this, if_false]
    rfl
  · exact absurd rfl (h _)

theorem vKind_map_lt (s : State) {f : Nat} (args : List Nat) (h : f < fnPerKey) :
    vKind s (.map f args) = .map f args := by
  simp only [vKind, Nat.not_le.2 h, if_false]

theorem XK_vKind (s : State) (k : Kind) : XK (vKind s k) ↔ XK k := by
  cases k <;> try (simp [vKind, XK]; done)
  rw [vKind_expert_eq]; simp [XK]

/-! ## the environment `penv` (local names `vpenv_*`) -/
theorem vpenv_cutoff (env : Env) : (penv env).cutoff = env.cutoff := rfl
theorem vpenv_proj (env : Env) : (penv env).proj = env.proj := rfl
theorem vpenv_fnEff (env : Env) (f : Nat) (vals : List Val) : (penv env).fnEff f vals = [] := rfl
theorem vpenv_fn_ne (env : Env) {f : Nat} (h : f ≠ fLc) (vals : List Val) : (penv env).fn f vals = env.fn f vals := by
  simp [penv, h]
theorem vpenv_foldStep_lt (env : Env) {F : Nat} (h : F < xBase) : (penv env).foldStep F = env.foldStep F := by
  funext acc x
  have h1 : F ≠ xConst := by unfold xConst; omega
  have h2 : F ≠ xAsm := by unfold xAsm; omega
  simp [penv, h1, h2]

def VSimAt (s : State) {α} (x x' : M α) : Prop :=
  Fr s → ∀ r s', x.run.run s = (.ok r, s') → x'.run.run (V s) = (.ok r, V s') ∧ Fr s'

def VSim {α} (x x' : M α) : Prop := ∀ s, VSimAt s x x'

section
variable {s : State} {α β : Type}

/-- the virtual side does nothing for the first half -/
theorem VSimAt.seq_left {x : M α} {f : α → M β} {y' : M β} (hx : VSimAt s (x >>= fun _ => pure ()) (pure ()))
    (hf : ∀ a s1, x.run.run s = (.ok a, s1) → VSimAt s1 (f a) y') :
    VSimAt s (x >>= f) y' := by
  intro hn r s' h
  obtain ⟨a, s1, h1, h2⟩ := bind_ok_inv h
  have h3 : (x >>= fun _ => (pure () : M Unit)).run.run s = (.ok (), s1) := by
    rw [run_bind_ok h1, run_pure]
  obtain ⟨e1, n1⟩ := hx hn () s1 h3
  rw [run_pure] at e1
  have e2 : V s = V s1 := congrArg Prod.snd e1
  rw [e2]
  exact hf a s1 h1 n1 r s' h2


/-- a read of the state on the actual side only -/
theorem VSimAt.getL_seq {k : State → M β} {x' : M β} (h : VSimAt s (k s) x') :
    VSimAt s (get >>= k) x' := by
  intro hn r s' hr
  rw [run_bind_get] at hr
  exact h hn r s' hr

/-- a read of a node on the actual side only -/
theorem VSimAt.getNodeL_seq {n : Nat} {k : Node → M β} {x' : M β}
    (h : ∀ nd, s.nodes[n]? = some nd → XK nd.kind → nd.valid = true → VSimAt s (k nd) x') :
    VSimAt s (getNode n >>= k) x' := by
  intro hn r s' hr
  obtain ⟨nd, hnd, hr⟩ := bind_getNode_inv hr
  exact h nd hnd (hn.some hnd).1 (hn.some hnd).2 hn r s' hr

/-- the expert records exist on the actual side only -/
theorem VSimAt.getExpertL_seq {e : Nat} {k : ExpertRec → M β} {x' : M β}
    (h : ∀ er, s.experts[e]? = some er → VSimAt s (k er) x') :
    VSimAt s (getExpert e >>= k) x' := by
  intro hn r s' hr
  obtain ⟨er, he, hr⟩ := bind_getExpert_inv hr
  exact h er he hn r s' hr

theorem VSimAt.ite_left {c : Prop} {_ : Decidable c} {a b x' : M α}
    (ha : c → VSimAt s a x') (hb : ¬ c → VSimAt s b x') : VSimAt s (if c then a else b) x' := by
  by_cases h : c
  · rw [if_pos h]; exact ha h
  · rw [if_neg h]; exact hb h

end

/-! ## work that is invisible in the virtual state -/

/-- `s'` has the same virtual state as `s` (and the same kinds, validity; `Fr.ni` is kept) -/
structure VVEq (s s' : State) : Prop where
  veq : V s' = V s
  kind : ∀ m, (s'.nodeD m).kind = (s.nodeD m).kind
  valid : ∀ m, (s'.nodeD m).valid = (s.nodeD m).valid
  ni : (∀ (e : Nat) (er : ExpertRec), s.experts[e]? = some er → er.numInvalidChildren = 0) →
    ∀ (e : Nat) (er : ExpertRec), s'.experts[e]? = some er → er.numInvalidChildren = 0

theorem VVEq.refl (s : State) : VVEq s s := ⟨rfl, fun _ => rfl, fun _ => rfl, fun h => h⟩
theorem VVEq.trans {a b c : State} (h1 : VVEq a b) (h2 : VVEq b c) : VVEq a c :=
  ⟨h2.veq.trans h1.veq, fun m => (h2.kind m).trans (h1.kind m), fun m => (h2.valid m).trans (h1.valid m),
    fun h => h2.ni (h1.ni h)⟩

theorem VVEq.pc {s s' : State} (h : VVEq s s') : s'.panicCountdown = s.panicCountdown :=
  show (V s').panicCountdown = (V s).panicCountdown from congrArg State.panicCountdown h.veq

theorem VVEq.fr {s s' : State} (h : VVEq s s') (hn : Fr s) : Fr s' := by
  refine ⟨h.pc.trans hn.pc, fun n => ?_, ?_, fun n => ?_, h.ni hn.ni⟩
  · rw [h.valid]; exact hn.valid n
  · have h1 : (V s').propagateInvalidity = (V s).propagateInvalidity := by rw [h.veq]
    exact h1.trans hn.pinv
  · rw [h.kind]; exact hn.kind n

/-- the relation of the invisible programs: they may only be run while no fault is armed -/
def VVEqP (s s' : State) : Prop := s.panicCountdown = none → VVEq s s'

instance : Step.PreOrd VVEqP :=
  ⟨fun s _ => VVEq.refl s, fun {a b c} h1 h2 hp => (h1 hp).trans (h2 ((h1 hp).pc.trans hp))⟩

theorem VVEq.of_eq {s s' : State} (h : s' = s) : VVEq s s' := by subst h; exact VVEq.refl _

/-- the fields of an expert record the virtual state reads (`f`, `children`, `forceStale`, and `pk`) are unchanged,
and the invalid-children counter is not raised -/
def InvisV (f : ExpertRec → ExpertRec) : Prop :=
  ∀ x, (f x).f = x.f ∧ (f x).children = x.children ∧ (f x).forceStale = x.forceStale ∧ (f x).pk = x.pk ∧
    (x.numInvalidChildren = 0 → (f x).numInvalidChildren = 0)

theorem vxRec_modify (xs : Array ExpertRec) (e : Nat) (f : ExpertRec → ExpertRec) (hf : InvisV f) (e' : Nat) :
    (xRec (xs.modify e f) e').f = (xRec xs e').f ∧ (xRec (xs.modify e f) e').children = (xRec xs e').children ∧
      (xRec (xs.modify e f) e').forceStale = (xRec xs e').forceStale ∧
      (xRec (xs.modify e f) e').pk = (xRec xs e').pk := by
  unfold xRec
  rw [Array.getElem?_modify]
  split
  · cases h : xs[e']? with
    | none => simp
    | some er =>
      simp only [Option.map_some, Option.getD_some]
      exact ⟨(hf er).1, (hf er).2.1, (hf er).2.2.1, (hf er).2.2.2.1⟩
  · exact ⟨rfl, rfl, rfl, rfl⟩

theorem vNode_modExpert (s : State) (e : Nat) (f : ExpertRec → ExpertRec) (hf : InvisV f) (nd : Node) :
    vNode { s with experts := s.experts.modify e f } nd = vNode s nd := by
  rcases nd with ⟨k⟩
  cases k <;> try rfl
  rename_i e'
  obtain ⟨h1, h2, h3, h4⟩ := vxRec_modify s.experts e f hf e'
  simp only [vNode, vKind, forced, pkRec, h1, h2, h3, h4]
  rfl

theorem VVEq.modExpert (s : State) (e : Nat) (f : ExpertRec → ExpertRec) (hf : InvisV f) :
    VVEq s { s with experts := s.experts.modify e f } := by
  refine ⟨?_, fun _ => rfl, fun _ => rfl, fun h e' er he => ?_⟩
  · have e1 : vNode { s with experts := s.experts.modify e f } = vNode s :=
      funext (vNode_modExpert s e f hf)
    simp only [V, e1]
  · simp only [Array.getElem?_modify] at he
    split at he
    · cases h0 : s.experts[e']? with
      | none => rw [h0] at he; cases he
      | some er0 =>
        rw [h0] at he; simp only [Option.map_some, Option.some.injEq] at he
        subst he
        exact (hf er0).2.2.2.2 (h e' er0 h0)
    · exact h e' er he

theorem PresVV.modExpert (e : Nat) (f : ExpertRec → ExpertRec) (hf : InvisV f) :
    Step.Pres VVEqP (Engine.modExpert e f) := by
  unfold Engine.modExpert; exact Step.Pres.modify fun s _ => VVEq.modExpert s e f hf

theorem PresVV.tick : Step.Pres VVEqP Engine.tick := by
  constructor
  intro s r s' h hp
  rw [run_tick_none s hp] at h
  cases h; exact VVEq.refl _

theorem VVEq.logEv (s : State) (e : Event) (h : keepEv e = false) : VVEq s { s with log := e :: s.log } := by
  refine ⟨?_, fun _ => rfl, fun _ => rfl, fun h => h⟩
  simp only [V, List.filter_cons, h]; rfl

theorem PresVV.logEv (e : Event) (h : keepEv e = false) : Step.Pres VVEqP (Engine.logEv e) := by
  unfold Engine.logEv; exact Step.Pres.modify fun s _ => VVEq.logEv s e h

-- the leaves for `VVEqP` of the walk `xpres` (`Proofs/ExpertH23.lean`)
macro_rules | `(tactic| xqleaf) => `(tactic| with_reducible exact PresVV.tick)
macro_rules | `(tactic| xqleaf) => `(tactic| ((with_reducible apply PresVV.logEv); first | rfl | exact isF_cb))
macro_rules | `(tactic| xqleaf) => `(tactic|
  ((with_reducible apply PresVV.modExpert); intro x; exact ⟨rfl, rfl, rfl, rfl, fun h => by first | exact h | rfl⟩))

theorem PresVV.observabilityChange (e : Nat) (b : Bool) : Step.Pres VVEqP (Engine.observabilityChange e b) := by
  unfold Engine.observabilityChange; xpres

theorem PresVV.edgeOnChange (env : Env) (e : Nat) (edge : ExpertEdge) :
    Step.Pres VVEqP (Engine.edgeOnChange env e edge) := by
  unfold Engine.edgeOnChange; xpres

theorem PresVV.runEdgeCallback (env : Env) (e i : Nat) : Step.Pres VVEqP (Engine.runEdgeCallback env e i) := by
  unfold Engine.runEdgeCallback; xpres; exact PresVV.edgeOnChange _ _ _

/-! ## the instance of `NodeSim` -/

/-- `vNode`: the kind, read off the expert and per-key records, and the stamp of a forced expert node -/
def rel : NodeSim.Relabel where
  kind := fun c => vKind { State.init 0 false with experts := c.1, perkeys := c.2 }
  value := fun _ _ v => v
  didChange := fun _ b => b
  cutoff := fun _ c => c
  recomputedAt := fun c k r => if forced c.1 k then -1 else r
  experts := fun _ => #[]
  log := fun l => l.filter keepEv

theorem vNode_eq (s : State) (i : Nat) (nd : Node) : vNode s nd = rel.node (NodeSim.ctx s) i nd :=
  congrFun (vNode_congr (s := { State.init 0 false with experts := s.experts, perkeys := s.perkeys }) (s' := s) rfl rfl) nd

theorem V_eq (s : State) : V s = rel.app s := by
  unfold V NodeSim.Relabel.app
  congr 1
  apply Array.ext
  · simp
  · intro i h1 h2
    simp only [Array.getElem_map, Array.getElem_mapIdx]
    exact vNode_eq s i _

theorem blind : NodeSim.Blind rel Fr where
  default _ _ := rfl
  kind c k := by
    cases k
    case expert e =>
      exact Or.inr (Or.inr (Or.inl ⟨e, _, _, rfl, (vKind_expert_eq _ e).trans (by rw [← kids_xRec])⟩))
    case map f args => exact Or.inr (Or.inr (Or.inr ⟨f, _, args, rfl, rfl⟩))
    all_goals exact Or.inl rfl
  children s m := by rw [← V_eq]; exact V_children s m
  isStale s m := by rw [← V_eq]; exact V_isStale s m
  tick _ := NodeSim.Comm.tick_none fun _ h => h.pc
  of_nodes := ExpertH.blind.of_nodes
  modify := ExpertH.blind.modify
  rmParent := ExpertH.blind.rmParent
  invalid := ExpertH.blind.invalid

theorem refWork {E : Panic → Prop} : NodeSim.RefWork E rel Fr := .of_noRef blind noRef

/-- work that keeps the virtual state (`VVEqP`) cannot be seen -/
theorem skip_of_presVV {s : State} {x : M Unit} (h : Step.Pres VVEqP x) :
    NodeSim.CommAt (fun _ => False) rel.app Fr s x (pure ()) := by
  refine .of_unseen fun hI r s1 hr hE => ?_
  cases r with
  | error p => exact (hE p rfl).elim
  | ok u =>
    have hv := h.h s _ s1 hr hI.pc
    exact ⟨rfl, by rw [← V_eq, ← V_eq]; exact hv.veq, hv.fr hI⟩

theorem obsWork : NodeSim.ObsWork (fun _ => False) (fun _ : Unit => rel) fun _ => Fr :=
  .hidden (fun _ _ e => vKind_not_expert _ (.expert e) e) fun e b _ _ _ _ _ _ => skip_of_presVV (PresVV.observabilityChange e b)

theorem expWork {env env' : Env} : NodeSim.ExpWork (fun _ => False) (fun _ : Unit => rel) (fun _ => Fr) env env' :=
  .hidden (fun _ _ e => vKind_not_expert _ (.expert e) e) obsWork fun e j _ _ _ _ _ _ => skip_of_presVV (PresVV.runEdgeCallback env e j)

section
variable {s : State} {α : Type}

/-- `VSimAt` is the simulation that need not reproduce any panic -/
theorem vsimAt_iff {x x' : M α} : VSimAt s x x' ↔ NodeSim.CommAt (fun _ => False) rel.app Fr s x x' := by
  rw [NodeSim.CommAt.fwd_iff]
  unfold VSimAt
  simp only [V_eq]

theorem VSim.of_comm {x x' : M α} (h : NodeSim.Comm (fun _ => False) rel.app Fr x x') : VSim x x' :=
  fun s => vsimAt_iff.2 (h s)

end

/-! ## the engine functions -/

theorem VSim.dassert (c : Bool) (site : String) : VSim (Engine.dassert c site) (Engine.dassert c site) :=
  .of_comm (NodeSim.Comm.dassert c site)

theorem VSim.assertM (c : Bool) (site : String) : VSim (Engine.assertM c site) (Engine.assertM c site) :=
  .of_comm (NodeSim.Comm.assertM c site)

theorem VSim.edgeOnChange (env : Env) (e : Nat) (edge : ExpertEdge) : VSim (Engine.edgeOnChange env e edge) (pure ()) :=
  .of_comm fun _ => skip_of_presVV (PresVV.edgeOnChange env e edge)

theorem VSim.addParent (c i p : Nat) : VSim (Engine.addParent c i p) (Engine.addParent c i p) :=
  .of_comm (NodeSim.Comm.addParent blind addsParents c i p)

theorem VSim.removeParent (c i p : Nat) : VSim (Engine.removeParent c i p) (Engine.removeParent c i p) :=
  .of_comm (NodeSim.Comm.removeParent blind c i p)

theorem VSim.setHeight (n : Nat) (h : Int) : VSim (Engine.setHeight n h) (Engine.setHeight n h) :=
  .of_comm (NodeSim.Comm.setHeight blind n h)

theorem VSim.rchRemoveMin : VSim Engine.rchRemoveMin Engine.rchRemoveMin :=
  .of_comm (NodeSim.Comm.rchRemoveMin blind)

theorem VSim.ensureHeightRequirement (oc op c p : Nat) :
    VSim (Engine.ensureHeightRequirement oc op c p) (Engine.ensureHeightRequirement oc op c p) :=
  .of_comm (NodeSim.Comm.ensureHeightRequirement blind oc op c p)

theorem VSim.handleAfterStabilisation (n : Nat) :
    VSim (Engine.handleAfterStabilisation n) (Engine.handleAfterStabilisation n) :=
  .of_comm (NodeSim.Comm.handleAfterStabilisation blind n)

/-- no map_ref nodes: a no-op on both sides -/
theorem VSim.markMapRefUnknown (fuel n : Nat) :
    VSim (Engine.markMapRefUnknown fuel n) (Engine.markMapRefUnknown fuel n) :=
  .of_comm (NodeSim.Comm.markMapRefUnknown blind noRef fuel n)

theorem VSim.adjustHeights (oc op fuel : Nat) :
    VSim (Engine.adjustHeights oc op fuel) (Engine.adjustHeights oc op fuel) :=
  .of_comm (NodeSim.Comm.adjustHeights blind oc op fuel)

theorem VSim.becameNecessary (env : Env) (fuel n : Nat) :
    VSim (Engine.becameNecessary env fuel n) (Engine.becameNecessary (penv env) fuel n) :=
  .of_comm (NodeSim.Comm.becameNecessary blind addsParents refWork expWork fuel n)
theorem VSim.addParentWithoutAdjustingHeights (env : Env) (fuel c i p : Nat) :
    VSim (Engine.addParentWithoutAdjustingHeights env fuel c i p)
      (Engine.addParentWithoutAdjustingHeights (penv env) fuel c i p) :=
  .of_comm (NodeSim.Comm.addParentWithoutAdjustingHeights blind addsParents refWork expWork fuel c i p)

theorem VSim.unlink (fuel : Nat) :
    (∀ n, VSim (becameUnnecessary fuel n) (becameUnnecessary fuel n)) ∧
    (∀ n, VSim (checkIfUnnecessary fuel n) (checkIfUnnecessary fuel n)) ∧
    (∀ n, VSim (removeChildren fuel n) (removeChildren fuel n)) :=
  ⟨fun n => .of_comm (NodeSim.Comm.becameUnnecessary blind obsWork fuel n),
    fun n => .of_comm (NodeSim.Comm.checkIfUnnecessary blind obsWork fuel n),
    fun n => .of_comm (NodeSim.Comm.removeChildren blind obsWork fuel n)⟩

theorem VSim.becameUnnecessary (fuel n : Nat) :
    VSim (Engine.becameUnnecessary fuel n) (Engine.becameUnnecessary fuel n) := (VSim.unlink fuel).1 n
theorem VSim.checkIfUnnecessary (fuel n : Nat) :
    VSim (Engine.checkIfUnnecessary fuel n) (Engine.checkIfUnnecessary fuel n) := (VSim.unlink fuel).2.1 n
theorem VSim.removeChildren (fuel n : Nat) :
    VSim (Engine.removeChildren fuel n) (Engine.removeChildren fuel n) := (VSim.unlink fuel).2.2 n

/-- `Fr.pinv`: the stack is empty, a no-op on both sides -/
theorem VSim.propagateInvalidity (fuel : Nat) :
    VSim (Engine.propagateInvalidity fuel) (Engine.propagateInvalidity fuel) :=
  .of_comm (NodeSim.Comm.propagateInvalidity (fun _ h => h.pinv) fuel)

theorem keepEv_cut (c n : Nat) (o v : Val) (r : Bool) : keepEv (.cut c n o v r) = true := rfl

theorem VSim.shouldCutoff (env : Env) (n : Nat) (o v : Val) :
    VSim (Engine.shouldCutoff env n o v) (Engine.shouldCutoff (penv env) n o v) :=
  .of_comm (NodeSim.Comm.shouldCutoff blind (fun _ _ => rfl) (fun _ _ _ _ _ _ => rfl) (vpenv_cutoff env) n o v)

theorem VSim.parentIterCanRecomputeNow (p child : Nat) :
    VSim (Engine.parentIterCanRecomputeNow p child) (Engine.parentIterCanRecomputeNow p child) :=
  .of_comm (NodeSim.Comm.parentIterCanRecomputeNow blind p child)

theorem VSim.maybeChangeValue (env : Env) (fuel n : Nat) (v : Val) :
    VSim (Engine.maybeChangeValue env fuel n v) (Engine.maybeChangeValue (penv env) fuel n v) :=
  .of_comm (NodeSim.Comm.maybeChangeValue blind noRef expWork (fun _ _ _ => rfl) setsValues (fun _ _ => rfl) (fun _ _ _ _ _ _ => rfl) (vpenv_cutoff env) fuel n v)

theorem VSim.addNewObservers (env : Env) (fuel : Nat) :
    VSim (Engine.addNewObservers env fuel) (Engine.addNewObservers (penv env) fuel) :=
  .of_comm (NodeSim.Comm.addNewObservers blind changesNecessity addsParents refWork expWork (fun _ h => h.pinv) fuel)

theorem VSim.unlinkDisallowedObservers (fuel : Nat) :
    VSim (Engine.unlinkDisallowedObservers fuel) (Engine.unlinkDisallowedObservers fuel) :=
  .of_comm (NodeSim.Comm.unlinkDisallowedObservers blind changesNecessity obsWork fuel)

theorem VSim.didSetVarWhileNotStabilising (v : Nat) :
    VSim (Engine.didSetVarWhileNotStabilising v) (Engine.didSetVarWhileNotStabilising v) :=
  .of_comm (NodeSim.Comm.didSetVarWhileNotStabilising blind v)

theorem VSim.writeVar (v : Nat) (f : Val → Val) (isSet : Bool) :
    VSim (Engine.writeVar v f isSet) (Engine.writeVar v f isSet) :=
  .of_comm (NodeSim.Comm.writeVar blind v f isSet)

end IncrVerif.Proofs.PerKeyH
