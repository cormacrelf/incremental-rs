import IncrVerif.Proofs.EffH3
/-!
# Effects, part 6: `stabiliseEnd` with deferred writes — each deferred write is an ordinary immediate write
-/
namespace IncrVerif.Proofs.EffH
open IncrVerif.Engine IncrVerif.Driver IncrVerif.Proofs IncrVerif.Proofs.Step IncrVerif.Proofs.Sched
open IncrVerif.Proofs.Quiet

/-- the first thing `stabiliseEnd` does: the round number goes up, the stack of deferred writes is taken -/
def bump (s : State) : State :=
  { s with stabNum := s.stabNum + 1, currentlyRunning := none, setDuringStab := [] }

/-- the last thing `stabiliseEnd` does -/
def quiet (s : State) : State := { s with status := .notStabilising, handleAfterStab := [] }

/-- `s'` is `s` after some immediate writes: only `vars`, the heap markers of nodes, the recompute heap and the
counters differ -/
structure Applied (s s' : State) : Prop where
  eq : s' = { s with vars := s'.vars, nodes := s'.nodes, rch := s'.rch, counters := s'.counters }
  size : s'.nodes.size = s.nodes.size
  node : ∀ m, ∃ h, s'.nodeD m = { s.nodeD m with heightInRch := h }
  vsize : s'.vars.size = s.vars.size

theorem Applied.refl (s : State) : Applied s s := ⟨rfl, rfl, fun _ => ⟨_, rfl⟩, rfl⟩
theorem Applied.trans {a b c : State} (h1 : Applied a b) (h2 : Applied b c) : Applied a c where
  eq := by rw [h2.eq, h1.eq]
  size := h2.size.trans h1.size
  node m := by
    obtain ⟨x, hx⟩ := h1.node m
    obtain ⟨y, hy⟩ := h2.node m
    exact ⟨y, by rw [hy, hx]⟩
  vsize := h2.vsize.trans h1.vsize

/-- `didSet_ok` with the height facts of the heap insertion -/
theorem e6_didSet_ok (v : Nat) (s s' : State) (vc : VarCell) (u : Unit)
    (hv : s.vars[v]? = some vc)
    (hr : (didSetVarWhileNotStabilising v).run.run s = (.ok u, s')) :
    s' = didSetFinal v vc s ∧ vc.linked = true ∧
    (vc.setAt < s.stabNum →
      ((s.nodeD vc.node).valid && s.isNecessary vc.node && !(s.nodeD vc.node).inRch) = true →
      0 ≤ (s.nodeD vc.node).height ∧ (s.nodeD vc.node).height ≤ s.rch.maxAllowed) := by
  rw [didSet_run v s vc hv] at hr
  unfold didSetFinal
  by_cases h1 : vc.linked = false
  · rw [if_pos h1] at hr; cases hr
  rw [if_neg h1] at hr
  have hl : vc.linked = true := by simpa using h1
  by_cases h2 : s.stabNum ≤ vc.setAt
  · rw [if_pos h2] at hr; cases hr
    rw [if_pos h2]; exact ⟨rfl, hl, fun h => by omega⟩
  rw [if_neg h2] at hr
  rw [if_neg h2]
  simp only at hr
  by_cases h3 : s.cfg.debug = true ∧
      (!(s.nodeD vc.node).valid ||
        (bumped (withCell v { vc with setAt := s.stabNum } s)).isStale vc.node) = false
  · rw [if_pos h3] at hr; cases hr
  rw [if_neg h3] at hr
  by_cases h4 : ((s.nodeD vc.node).valid && s.isNecessary vc.node && !(s.nodeD vc.node).inRch) = true
  · rw [if_pos h4] at hr
    rw [if_pos h4]
    obtain ⟨nd, hnd, hge, hle, hs'⟩ := rchInsert_ok_inv hr
    have hD : s.nodeD vc.node = nd := by
      have : s.nodes[vc.node]? = some nd := hnd
      simp [State.nodeD, this]
    rw [hD]
    exact ⟨hs', hl, fun _ _ => ⟨hge, hle⟩⟩
  · rw [if_neg h4] at hr
    rw [if_neg h4]
    cases hr
    exact ⟨rfl, hl, fun _ h => absurd h h4⟩

theorem e6_quiet_didSetFinal (v : Nat) (vc : VarCell) (s : State) :
    quiet (didSetFinal v vc s) = didSetFinal v vc (quiet s) := by
  unfold didSetFinal
  by_cases h2 : s.stabNum ≤ vc.setAt
  · rw [if_pos h2, if_pos (show (quiet s).stabNum ≤ vc.setAt from h2)]; rfl
  · rw [if_neg h2, if_neg (show ¬ (quiet s).stabNum ≤ vc.setAt from h2)]
    by_cases h4 : ((s.nodeD vc.node).valid && s.isNecessary vc.node && !(s.nodeD vc.node).inRch) = true
    · rw [if_pos h4, if_pos (show (((quiet s).nodeD vc.node).valid && (quiet s).isNecessary vc.node &&
        !((quiet s).nodeD vc.node).inRch) = true from h4)]; rfl
    · rw [if_neg h4, if_neg (show ¬ (((quiet s).nodeD vc.node).valid && (quiet s).isNecessary vc.node &&
        !((quiet s).nodeD vc.node).inRch) = true from h4)]; rfl

theorem e6_didSetFinal_wrote (v : Nat) (vc0 : VarCell) (x : Val) (s : State) :
    didSetFinal v { vc0 with value := x } (withCell v { vc0 with value := x } s) = wroteOutside v vc0 x s := by
  unfold didSetFinal wroteOutside stampedWrite
  simp only [withCell_withCell]
  rfl

theorem e6_applied_withCell (v : Nat) (vc : VarCell) (s : State) : Applied s (withCell v vc s) :=
  ⟨rfl, rfl, fun m => ⟨_, rfl⟩, by simp [withCell]⟩

theorem e6_inserted_node (n : Nat) (h : Int) (s : State) (m : Nat) :
    ∃ h', (inserted n h s).nodeD m = { s.nodeD m with heightInRch := h' } := by
  have e : (inserted n h s).nodeD m =
      ({ s with nodes := s.nodes.modify n fun x => { x with heightInRch := h } } : State).nodeD m := rfl
  rw [e, nodeD_modify]
  split
  · exact ⟨_, rfl⟩
  · exact ⟨_, rfl⟩

theorem e6_applied_didSetFinal (v : Nat) (vc : VarCell) (s : State) : Applied s (didSetFinal v vc s) := by
  unfold didSetFinal
  split
  · exact ⟨rfl, rfl, fun m => ⟨_, rfl⟩, rfl⟩
  · split
    · refine ⟨rfl, ?_, fun m => ?_, by simp [inserted, bumped, withCell]⟩
      · exact Array.size_modify ..
      · exact e6_inserted_node _ _ _ m
    · exact ⟨rfl, rfl, fun m => ⟨_, rfl⟩, by simp [bumped, withCell]⟩

/-- one deferred write applied by the var phase of `stabiliseEnd` keeps the invariant between actions (read with
the status reset): it is `wroteOutside` -/
theorem applyPending_q {env : Env} {v : Nat} {b c : State} {u : Unit} (Q : QInv env (quiet b))
    (h : (applyPending v).run.run b = (.ok u, c)) : QInv env (quiet c) ∧ Applied b c := by
  rw [applyPending_run] at h
  cases hv : b.vars[v]? with
  | none => rw [hv] at h; cases h
  | some vc =>
    simp only [hv] at h
    cases hp : vc.pending with
    | none =>
      simp only [hp] at h; cases h
      exact ⟨Q, Applied.refl _⟩
    | some x =>
      simp only [hp] at h
      have hv1 := withCell_get v { vc with pending := none, value := x } vc b hv
      obtain ⟨hc, -, hh⟩ := e6_didSet_ok v _ _ _ _ hv1 h
      have hv0 : (quiet (withCell v { vc with pending := none } b)).vars[v]? = some { vc with pending := none } :=
        withCell_get v { vc with pending := none } vc b hv
      have P : SameP (quiet b) (quiet (withCell v { vc with pending := none } b)) := by
        refine ⟨rfl, by simp [quiet, withCell], fun w a ha => ?_⟩
        by_cases hw : w = v
        · subst hw
          have ha' : b.vars[w]? = some a := ha
          rw [hv] at ha'; cases ha'
          exact ⟨_, hv0, rfl⟩
        · exact ⟨a, by rw [← ha]; exact withCell_get_ne v w _ b hw, CellP.refl a⟩
      have Q0 : QInv env (quiet (withCell v { vc with pending := none } b)) := P.qinv Q Q.setDuringStab
      obtain ⟨-, Q1⟩ := wroteOutside_q x Q0 hv0 hh
      have e : quiet c = wroteOutside v { vc with pending := none } x
          (quiet (withCell v { vc with pending := none } b)) := by
        rw [hc, e6_quiet_didSetFinal, ← e6_didSetFinal_wrote]
        have : quiet (withCell v { vc with pending := none, value := x } b) =
            withCell v { vc with pending := none, value := x }
              (quiet (withCell v { vc with pending := none } b)) := by
          rw [← withCell_withCell v { vc with pending := none } { vc with pending := none, value := x } b]
          rfl
        rw [this]
      rw [e]
      refine ⟨Q1, ?_⟩
      rw [hc]
      exact (e6_applied_withCell v _ b).trans (e6_applied_didSetFinal v _ _)

/-- the var phase -/
theorem applyAll_q {env : Env} : ∀ (stack : List Nat) (b c : State) (u : Unit), QInv env (quiet b) →
    (applyAll stack).run.run b = (.ok u, c) → QInv env (quiet c) ∧ Applied b c := by
  intro stack
  induction stack with
  | nil =>
    intro b c u Q h
    cases h
    exact ⟨Q, Applied.refl _⟩
  | cons v vs ih =>
    intro b c u Q h
    simp only [applyAll] at h
    obtain ⟨u1, s1, h1, h2⟩ := bind_ok_inv h
    obtain ⟨Q1, A1⟩ := applyPending_q Q h1
    obtain ⟨Q2, A2⟩ := ih s1 c u Q1 h2
    exact ⟨Q2, A1.trans A2⟩

/-- the rest of `stabiliseEnd` when no var died and no node has update handlers: the status is reset (and the
weak tables are collected) -/
theorem e6_qinv_flags {env : Env} {s s' : State} (Q : QInv env s)
    (heq : s' = { s with memos := s'.memos, nodes := s'.nodes }) (hsz : s'.nodes.size = s.nodes.size)
    (hn : ∀ m, ∃ b, s'.nodeD m = { s.nodeD m with inHandleAfterStab := b }) : QInv env s' := by
  have hE : ∀ m, NodeG (s.nodeD m) (s'.nodeD m) ∧ (s'.nodeD m).value = (s.nodeD m).value ∧
      (s'.nodeD m).numOnUpdateHandlers = (s.nodeD m).numOnUpdateHandlers := by
    intro m
    obtain ⟨b, hb⟩ := hn m
    rw [hb]
    exact ⟨⟨rfl, rfl, rfl, rfl, rfl, rfl, rfl, rfl, rfl, rfl, rfl⟩, rfl, rfl⟩
  have evars : s'.vars = s.vars := by rw [heq]
  have eobs : s'.observers = s.observers := by rw [heq]
  have G : SameG s s' := ⟨by rw [heq], by rw [heq], hsz, by rw [heq], evars, fun m => (hE m).1⟩
  have hno : s'.newObservers = s.newObservers := by rw [heq]
  have hdo : s'.disallowedObservers = s.disallowedObservers := by rw [heq]
  have estab : s'.stabNum = s.stabNum := by rw [heq]
  refine ⟨Q.struct.congr G, ⟨?_, ?_⟩, ?_, by rw [estab]; exact Q.now, ?_, ?_, ?_, by rw [heq]; exact Q.status,
    by rw [heq]; exact Q.alive, by rw [heq]; exact Q.setDuringStab, by rw [heq]; exact Q.deadVars,
    by rw [heq]; exact Q.handleAfterStab, ?_, by rw [heq]; exact Q.pinv, ?_⟩
  · intro n c hlt hk; rw [(hE n).1.kind] at hk; rw [evars]; exact Q.vars.node n c (by rw [← hsz]; exact hlt) hk
  · intro c vc hc; rw [evars] at hc; rw [hsz, (hE _).1.kind]; exact Q.vars.cell c vc hc
  · unfold ObsOK
    rw [hno, hdo]
    have o2 := Q.obs
    refine ⟨?_, ?_, ?_, fun o ho => by rw [eobs]; exact o2.newIn o ho, ?_,
      fun o ho => by rw [eobs]; exact o2.disIn o ho, o2.disNodup⟩
    · intro o ob ho; rw [eobs] at ho; rw [hsz]; exact o2.inRange o ob ho
    · intro n o; rw [(hE n).1.observers, eobs]; exact o2.mem n o
    · intro o ob ho hc; rw [eobs] at ho; exact o2.created o ob ho hc
    · intro o ob ho; rw [eobs] at ho; exact o2.dis o ob ho
  · intro m
    rw [(hE m).1.recomputedAt, (hE m).1.changedAt, estab]; exact Q.stamps m
  · intro c vc hc
    rw [evars] at hc; rw [estab]; exact Q.varStamp c vc hc
  · intro m hm hs
    rw [G.staleOf] at hs
    obtain ⟨w, hw, hv⟩ := Q.cons m (by rw [← hsz]; exact hm) hs
    exact ⟨w, Target.congr (hE m).1.kind evars (fun c _ => (hE c).2.1) hw, by rw [(hE m).2.1]; exact hv⟩
  · intro m
    rw [(hE m).2.2]; exact Q.handlers m
  · intro k n hk
    have : s'.top = s.top := by rw [heq]
    rw [this] at hk
    rw [hsz]; exact Q.top k n hk

theorem e6_dead (c : State) (h : c.deadVars = []) : ({ c with deadVars := [] } : State) = c := by rw [← h]

/-- loop invariant of the second loop of `stabiliseEndRest` -/
structure e6_Mid (c t : State) : Prop where
  eq : t = { c with nodes := t.nodes, deadVars := [], handleAfterStab := [] }
  size : t.nodes.size = c.nodes.size
  node : ∀ m, ∃ b, t.nodeD m = { c.nodeD m with inHandleAfterStab := b }

theorem e6_Mid.modNode {c t : State} (M : e6_Mid c t) (n : Nat) (b : Bool) :
    e6_Mid c { t with nodes := t.nodes.modify n fun x => { x with inHandleAfterStab := b } } := by
  refine ⟨?_, ?_, ?_⟩
  · conv => lhs; rw [M.eq]
  · rw [← M.size]; exact Array.size_modify ..
  · intro m
    obtain ⟨b0, hb0⟩ := M.node m
    rw [nodeD_modify]
    split
    · exact ⟨b, by rw [hb0]⟩
    · exact ⟨b0, hb0⟩

theorem endRest_q {env env' : Env} {fuel : Nat} {c s' : State} (Q : QInv env (quiet c))
    (h : (stabiliseEndRest env' fuel).run.run c = (.ok (), s')) :
    QInv env s' ∧ s' = { quiet c with memos := s'.memos, nodes := s'.nodes } ∧
      s'.nodes.size = c.nodes.size ∧ ∀ m, ∃ b, s'.nodeD m = { c.nodeD m with inHandleAfterStab := b } := by
  have hd : c.deadVars = [] := Q.deadVars
  have hobs : ∀ (o : Nat) (ob : ObsRec), c.observers[o]? = some ob → ob.handlers = [] :=
    fun o ob ho => (Q.obs.inRange o ob ho).2
  unfold stabiliseEndRest at h
  rw [run_bind_get] at h
  try dsimp only at h
  obtain ⟨s4, e4, h⟩ := bind_modify_inv h
  rw [hd, List.forIn_nil] at h
  obtain ⟨_, s5, hp5, h⟩ := bind_ok_inv h
  obtain ⟨_, e5⟩ := pure_ok_inv hp5
  rw [e5] at h
  rw [run_bind_get] at h
  try dsimp only at h
  obtain ⟨s6, e6, h⟩ := bind_modify_inv h
  have M6 : e6_Mid c s6 := by
    rw [e6, e4]
    exact ⟨rfl, rfl, fun m => ⟨_, rfl⟩⟩
  obtain ⟨q, s7, hl3, h⟩ := bind_ok_inv h
  have M7 : e6_Mid c s7 := by
    refine forIn_ok_keepB (e6_Mid c) _ _ ?_ _ _ _ _ M6 hl3
    intro n _ b t r t' Mt hb
    obtain ⟨t1, et1, hb⟩ := bind_modNode_inv hb
    rw [run_bind_get] at hb
    obtain ⟨_, et'⟩ := pure_ok_inv hb
    rw [et', et1]
    exact Mt.modNode n false
  obtain ⟨s8, e8, h⟩ := bind_modify_inv h
  rw [run_bind_get] at h
  obtain ⟨_, s9, hl4, h⟩ := bind_ok_inv h
  have e7o : s7.observers = c.observers := by rw [M7.eq]
  have e9 : s9 = s8 := by
    refine forIn_ok_keepB (fun t => t = s8) _ _ ?_ _ _ _ _ rfl hl4
    intro x _ b t r t' et hb
    obtain ⟨nd, _, hb⟩ := bind_getNode_inv hb
    obtain ⟨_, t1, hb1, hb⟩ := bind_ok_inv hb
    obtain ⟨_, et'⟩ := pure_ok_inv hb
    rw [et']
    refine forIn_ok_keepB (fun t => t = s8) _ _ ?_ _ _ _ _ et hb1
    intro o _ b2 u r2 u' eu hr
    obtain ⟨_, u1, hr1, hr⟩ := bind_ok_inv hr
    obtain ⟨_, eu'⟩ := pure_ok_inv hr
    rw [eu']
    have hobs' : ∀ (o : Nat) (ob : ObsRec), u.observers[o]? = some ob → ob.handlers = [] := by
      intro o ob ho
      rw [eu, e8] at ho
      exact hobs o ob (by rw [← e7o]; exact ho)
    rw [runAll_nohandlers hobs' hr1]; exact eu
  obtain ⟨s10, e10, h⟩ := bind_modify_inv h
  rw [run_modify] at h
  obtain ⟨_, e11⟩ := Prod.mk.inj h
  have hn' : s'.nodes = s7.nodes := by rw [← e11, e10, e9, e8]
  have heq : s' = { quiet c with memos := s'.memos, nodes := s'.nodes } := by
    have e7 : s7 = { ({ c with deadVars := [] } : State) with nodes := s7.nodes, handleAfterStab := [] } := M7.eq
    rw [e6_dead c hd] at e7
    have key : ∀ (a : State), a = { c with nodes := a.nodes, handleAfterStab := [] } →
        ∀ m, ({ a with status := .notStabilising, memos := m } : State) =
          { quiet c with memos := m, nodes := a.nodes } := by
      intro a ha m
      conv => lhs; rw [ha]
      rfl
    have h1 : s' = { s7 with status := .notStabilising, memos := s'.memos } := by rw [← e11, e10, e9, e8]
    rw [hn']
    exact h1.trans (key s7 e7 _)
  have hsz : s'.nodes.size = c.nodes.size := by rw [hn']; exact M7.size
  have hnode : ∀ m, ∃ b, s'.nodeD m = { c.nodeD m with inHandleAfterStab := b } := by
    intro m
    have : s'.nodeD m = s7.nodeD m := by simp only [State.nodeD, hn']
    rw [this]; exact M7.node m
  exact ⟨e6_qinv_flags Q heq hsz hnode, heq, hsz, hnode⟩

/-- **`stabiliseEnd` with deferred writes.**  If the state after the bump of the round number, read with the status
reset, satisfies the invariant between actions, then so does the final state; the final state is the bumped state
after the immediate writes (`Applied`), with the status reset; the variables are described by `applyCell`. -/
theorem stabiliseEnd_eff {env env' : Env} {fuel : Nat} {t s' : State} (Q : QInv env (quiet (bump t)))
    (h : (stabiliseEnd env' fuel).run.run t = (.ok (), s')) :
    QInv env s' ∧ ∃ c, Applied (bump t) c ∧ s' = { quiet c with memos := s'.memos, nodes := s'.nodes } ∧
      s'.nodes.size = c.nodes.size ∧ (∀ m, ∃ b, s'.nodeD m = { c.nodeD m with inHandleAfterStab := b }) ∧
      ∀ w, c.vars[w]? =
        if w ∈ t.setDuringStab then (t.vars[w]?).map (applyCell (t.stabNum + 1)) else t.vars[w]? := by
  rw [stabiliseEnd_eq] at h
  obtain ⟨u, c, h1, h2⟩ := bind_ok_inv h
  rw [stabiliseEndVars_run] at h1
  have h1' : (applyAll t.setDuringStab).run.run (bump t) = (.ok u, c) := h1
  obtain ⟨Qc, A⟩ := applyAll_q t.setDuringStab (bump t) c u Q h1'
  obtain ⟨Q', heq, hsz, hnode⟩ := endRest_q Qc h2
  exact ⟨Q', c, A, heq, hsz, hnode, (applyAll_ok _ _ _ _ h1').2.2.2⟩


end IncrVerif.Proofs.EffH
