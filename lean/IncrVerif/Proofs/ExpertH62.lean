import IncrVerif.Proofs.ExpertH61
/-!
# Expert nodes, E2: the `flag` clause of `SlotInv` through the UNLINKING cascade

`FlagE s X`: a record whose "fire all" flag is down belongs to a necessary node, but for the nodes in `X`.
Between the removal of the last parent/observer of `c` and the end of `becameUnnecessary c` the node `c` is exempted;
`observabilityChange e false` at the end of `becameUnnecessary c` raises the flag and discharges the exemption.

* `PresM.rchRemove` (the rest of the `FM` ladder is in `ExpertH61`).
* `unlinkF_spec`: the mutual fuel induction over `becameUnnecessary` / `checkIfUnnecessary` / `removeChildren`.
* `checkIfUnnecessary_flagE`, `unlinkDisallowedObservers_slots`.
-/
namespace IncrVerif.Proofs.ExpertH
open IncrVerif.Engine IncrVerif.Driver IncrVerif.Proofs IncrVerif.Proofs.Step IncrVerif.Proofs.Sched
open IncrVerif.Proofs.ExpertH.QR IncrVerif.Proofs.Xp

/-! ## `FM` for the neutral steps -/

theorem PresM.rchRemove (n) : Step.Pres FM (Engine.rchRemove n) := PresM.of_foot (Footprint.Foot.rchRemove n) (by decide)
fm_leaf PresM.rchRemove

/-! ## the `flag` clause with exemptions -/

def FlagE (s : State) (X : Nat → Prop) : Prop :=
  ∀ (n e : Nat) (er : ExpertRec), (s.nodeD n).kind = .expert e → s.experts[e]? = some er →
    er.willFireAllCallbacks = false → s.isNecessary n = true ∨ X n

theorem FlagE.mono {s : State} {X Y : Nat → Prop} (F : FlagE s X) (h : ∀ m, X m → Y m) : FlagE s Y :=
  fun n e er hk he hw => (F n e er hk he hw).imp id (h n)

/-- carried along the neutral frame -/
theorem FlagE.fm {s s' : State} {X : Nat → Prop} (F : FlagE s X) (R : FM s s') : FlagE s' X := by
  intro n e er' hk' he' hw
  obtain ⟨er, he, hww⟩ := R.flag_back he'
  exact (F n e er (by rw [← R.kind]; exact hk') he (by rw [hww]; exact hw)).imp (R.nec n) id

theorem FM.allValid {s s' : State} (R : FM s s') (hv : ∀ m, (s.nodeD m).valid = true) :
    ∀ m, (s'.nodeD m).valid = true := fun m => by rw [R.valid]; exact hv m

/-- an exemption of a necessary node, or of a node that is not an expert node, is not needed -/
theorem FlagE.drop {s : State} {X : Nat → Prop} {c : Nat} (F : FlagE s (fun m => X m ∨ m = c))
    (h : s.isNecessary c = true ∨ ∀ e, (s.nodeD c).kind ≠ .expert e) : FlagE s X := by
  intro n e er hk he hw
  rcases F n e er hk he hw with h1 | h1 | h1
  · exact Or.inl h1
  · exact Or.inr h1
  · subst h1
    rcases h with h | h
    · exact Or.inl h
    · exact absurd hk (h e)

/-- a change of one node: only that node may have lost necessity -/
theorem FlagE.modNode {s : State} {X : Nat → Prop} (c : Nat) (f : Node → Node)
    (F : FlagE s X) : FlagE { s with nodes := s.nodes.modify c f } (fun m => X m ∨ m = c) := by
  intro n e er hk he hw
  by_cases hnc : n = c
  · exact Or.inr (Or.inr hnc)
  · have hD : ({ s with nodes := s.nodes.modify c f } : State).nodeD n = s.nodeD n := by
      rw [nodeD_modify, if_neg (fun e => hnc e.1.symm)]
    rw [hD] at hk
    rcases F n e er hk he hw with h | h
    · left; simp only [State.isNecessary, hD]; exact h
    · exact Or.inr (Or.inl h)

theorem allValid_modNode {s : State} (c : Nat) (f : Node → Node) (hf : ∀ x, (f x).valid = x.valid)
    (hv : ∀ m, (s.nodeD m).valid = true) :
    ∀ m, (({ s with nodes := s.nodes.modify c f } : State).nodeD m).valid = true := by
  intro m
  rw [nodeD_modify]; split
  · rw [hf]; exact hv m
  · exact hv m

/-! ## `observabilityChange e false` raises the flag -/

theorem observabilityChange_false_inv {e : Nat} {s s' : State} {u : Unit}
    (h : (observabilityChange e false).run.run s = (.ok u, s')) :
    s'.nodes = s.nodes ∧
      s'.experts = s.experts.modify e fun x => { x with willFireAllCallbacks := true, numInvalidChildren := 0 } := by
  unfold observabilityChange at h
  obtain ⟨er, he, h⟩ := bind_getExpert_inv h
  cases hpk : er.pk.isNone <;> rw [hpk] at h <;>
    simp only [Bool.false_eq_true, if_false, if_true, Bool.not_false, run_bind, run_get,
      run_logEv, run_modExpert] at h <;> cases h <;> exact ⟨rfl, rfl⟩

theorem FlagE.raise {s s' : State} {X : Nat → Prop} {n e : Nat} (hn : s'.nodes = s.nodes)
    (he : s'.experts = s.experts.modify e fun x => { x with willFireAllCallbacks := true, numInvalidChildren := 0 })
    (hk : (s.nodeD n).kind = .expert e) (F : FlagE s (fun m => X m ∨ m = n)) : FlagE s' X := by
  have hD : ∀ m, s'.nodeD m = s.nodeD m := fun m => by simp [State.nodeD, hn]
  intro m e' er' hk' he' hw
  rw [hD] at hk'
  rw [he, Array.getElem?_modify] at he'
  by_cases hee : e = e'
  · subst hee
    rw [if_pos rfl] at he'
    cases hx : s.experts[e]? with
    | none => rw [hx] at he'; cases he'
    | some x =>
      rw [hx] at he'
      simp only [Option.map_some, Option.some.injEq] at he'
      rw [← he'] at hw; cases hw
  · rw [if_neg hee] at he'
    rcases F m e' er' hk' he' hw with h | h | h
    · left; simp only [State.isNecessary, hD]; exact h
    · exact Or.inr h
    · subst h; rw [hk] at hk'; cases hk'; exact absurd rfl hee

/-! ## the mutual fuel induction -/

def BUF (fuel : Nat) : Prop :=
  ∀ n s s' (X : Nat → Prop), (∀ m, (s.nodeD m).valid = true) → FlagE s (fun m => X m ∨ m = n) →
    (becameUnnecessary fuel n).run.run s = (.ok (), s') → FlagE s' X ∧ ∀ m, (s'.nodeD m).valid = true

def CUF (fuel : Nat) : Prop :=
  ∀ c s s' (X : Nat → Prop), (∀ m, (s.nodeD m).valid = true) → FlagE s (fun m => X m ∨ m = c) →
    (checkIfUnnecessary fuel c).run.run s = (.ok (), s') → FlagE s' X ∧ ∀ m, (s'.nodeD m).valid = true

def RCF (fuel : Nat) : Prop :=
  ∀ n s s' (Y : Nat → Prop), (∀ m, (s.nodeD m).valid = true) → FlagE s Y →
    (removeChildren fuel n).run.run s = (.ok (), s') → FlagE s' Y ∧ ∀ m, (s'.nodeD m).valid = true

theorem cuF_step (fuel : Nat) (ih : BUF fuel) : CUF (fuel + 1) := by
  intro c s s' X hv F h
  unfold checkIfUnnecessary at h
  rw [run_bind_get] at h
  cases hn : s.isNecessary c with
  | true =>
    rw [hn] at h
    simp only [Bool.not_true, Bool.false_eq_true, if_false] at h
    obtain ⟨-, rfl⟩ := pure_ok_inv h
    exact ⟨F.drop (Or.inl hn), hv⟩
  | false =>
    rw [hn] at h
    simp only [Bool.not_false, if_true] at h
    exact ih c s s' X hv F h

theorem rcF_step (fuel : Nat) (ih : CUF fuel) : RCF (fuel + 1) := by
  intro n s s' Y hv F h
  unfold removeChildren at h
  rw [run_bind_get] at h
  obtain ⟨b, s3, h3, h⟩ := bind_ok_inv h
  obtain ⟨-, e3⟩ := pure_ok_inv h
  rw [e3]
  exact forIn_ok_inv _ (s.children n)
    (fun _ (_ : Nat) t => FlagE t Y ∧ ∀ m, (t.nodeD m).valid = true)
    (by
      intro j c b t r t' _ ⟨Ft, hvt⟩ hbody
      obtain ⟨_, t1, ha, hbody⟩ := bind_ok_inv hbody
      obtain ⟨_, t2, hc, hbody⟩ := bind_ok_inv hbody
      obtain ⟨hr, ht'⟩ := pure_ok_inv hbody
      rw [ht']
      refine ⟨_, hr, ?_⟩
      obtain ⟨nd, pi, -, -, e1⟩ := removeParent_ok_inv ha
      rw [e1] at hc
      refine ih c _ t2 Y ?_ ?_ hc
      · exact allValid_modNode c _ (fun _ => rfl) hvt
      · exact Ft.modNode c _)
    (s.children n) 0 0 s b s3 (by simp) (Nat.zero_le _) ⟨F, hv⟩ h3

theorem buF_step (fuel : Nat) (ih : RCF fuel) : BUF (fuel + 1) := by
  intro n s s' X hv F h
  unfold becameUnnecessary at h
  obtain ⟨s0, hs0, h⟩ := bind_modify_inv h
  obtain ⟨_, s1, h1, h⟩ := bind_ok_inv h
  obtain ⟨_, s2, h2, h⟩ := bind_ok_inv h
  obtain ⟨_, s3, h3, h⟩ := bind_ok_inv h
  obtain ⟨nd3, hnd3, h⟩ := bind_getNode_inv h
  have R0 : FM s s0 := by rw [hs0]; exact FM.of_nodes rfl rfl rfl
  have R2 : FM s s2 :=
    FM.trans (FM.trans R0 ((PresM.maybeHandleAfterStabilisation n).h _ _ _ h1)) ((PresM.setHeight n (-1)).h _ _ _ h2)
  obtain ⟨F3, hv3⟩ := ih n s2 s3 _ (R2.allValid hv) (F.fm R2) h3
  have hD : s3.nodeD n = nd3 := nodeD_of_some hnd3
  have hq : nd3.kind? = some (s3.nodeD n).kind := by rw [← hD, Node.kind?, hv3 n]; rfl
  have fin : ∀ t t', FlagE t X → (∀ m, (t.nodeD m).valid = true) → (do
        let s ← get
        dassert (!s.needsToBeComputed n) "node:became_unnecessary:not-needs-to-be-computed"
        if (s.nodeD n).inRch = true then rchRemove n else pure ()).run.run t = (.ok (), t') →
      FlagE t' X ∧ ∀ m, (t'.nodeD m).valid = true := by
    intro t t' Ft hvt ht
    rw [run_bind_get] at ht
    replace ht := bind_dassert_inv ht
    cases hin : (t.nodeD n).inRch with
    | false =>
      rw [hin] at ht
      simp only [Bool.false_eq_true, if_false] at ht
      obtain ⟨-, e⟩ := pure_ok_inv ht
      rw [e]; exact ⟨Ft, hvt⟩
    | true =>
      rw [hin] at ht
      simp only [if_true] at ht
      have R5 : FM t t' := (PresM.rchRemove n).h _ _ _ ht
      exact ⟨Ft.fm R5, R5.allValid hvt⟩
  rw [hq] at h
  cases hkd : (s3.nodeD n).kind with
  | expert e =>
    rw [hkd] at h
    obtain ⟨_, s4, h4, h⟩ := bind_ok_inv h
    obtain ⟨g1, g2⟩ := observabilityChange_false_inv h4
    refine fin s4 s' (F3.raise g1 g2 hkd) (fun m => ?_) h
    have : s4.nodeD m = s3.nodeD m := by simp [State.nodeD, g1]
    rw [this]; exact hv3 m
  | _ =>
    rw [hkd] at h
    exact fin s3 s' (F3.drop (Or.inr fun e he => by rw [hkd] at he; cases he)) hv3 h

theorem unlinkF_spec (fuel : Nat) : BUF fuel ∧ CUF fuel ∧ RCF fuel := by
  induction fuel with
  | zero =>
    refine ⟨?_, ?_, ?_⟩
    · intro n s s' X _ _ h; unfold becameUnnecessary at h; cases h
    · intro n s s' X _ _ h; unfold checkIfUnnecessary at h; cases h
    · intro n s s' X _ _ h; unfold removeChildren at h; cases h
  | succ fuel ih => exact ⟨buF_step fuel ih.2.2, cuF_step fuel ih.1, rcF_step fuel ih.2.1⟩

/-- **The unlinking cascade discharges the exemption of its root.** -/
theorem checkIfUnnecessary_flagE {fuel c : Nat} {s s' : State} {X : Nat → Prop}
    (hv : ∀ m, (s.nodeD m).valid = true) (F : FlagE s (fun m => X m ∨ m = c))
    (h : (checkIfUnnecessary fuel c).run.run s = (.ok (), s')) : FlagE s' X :=
  ((unlinkF_spec fuel).2.1 c s s' X hv F h).1

theorem checkIfUnnecessary_allValid {fuel c : Nat} {s s' : State} {X : Nat → Prop}
    (hv : ∀ m, (s.nodeD m).valid = true) (F : FlagE s (fun m => X m ∨ m = c))
    (h : (checkIfUnnecessary fuel c).run.run s = (.ok (), s')) : ∀ m, (s'.nodeD m).valid = true :=
  ((unlinkF_spec fuel).2.1 c s s' X hv F h).2

theorem becameUnnecessary_flagE {fuel n : Nat} {s s' : State} {X : Nat → Prop}
    (hv : ∀ m, (s.nodeD m).valid = true) (F : FlagE s (fun m => X m ∨ m = n))
    (h : (becameUnnecessary fuel n).run.run s = (.ok (), s')) : FlagE s' X :=
  ((unlinkF_spec fuel).1 n s s' X hv F h).1

theorem removeChildren_flagE {fuel n : Nat} {s s' : State} {Y : Nat → Prop}
    (hv : ∀ m, (s.nodeD m).valid = true) (F : FlagE s Y)
    (h : (removeChildren fuel n).run.run s = (.ok (), s')) : FlagE s' Y :=
  ((unlinkF_spec fuel).2.2 n s s' Y hv F h).1

/-! ## `unlinkDisallowedObservers` keeps `SlotInv` -/

theorem SlotInv.flagE {env : Env} {s : State} (L : SlotInv env s) : FlagE s (fun _ => False) :=
  fun n e er hk he hw => Or.inl (L.flag n e er hk he hw)

theorem unlinkDisallowedObservers_flagE {fuel : Nat} {s s' : State}
    (hv : ∀ m, (s.nodeD m).valid = true) (F : FlagE s (fun _ => False))
    (h : (unlinkDisallowedObservers fuel).run.run s = (.ok (), s')) : FlagE s' (fun _ => False) := by
  unfold unlinkDisallowedObservers at h
  rw [run_bind_get] at h
  obtain ⟨s0, hs0, h⟩ := bind_modify_inv h
  obtain ⟨u, s1, hloop, h⟩ := bind_ok_inv h
  obtain ⟨-, e⟩ := pure_ok_inv h
  rw [e]
  have R0 : FM s s0 := by rw [hs0]; exact FM.of_nodes rfl rfl rfl
  exact (forIn_ok_inv _ s.disallowedObservers
    (fun _ (_ : PUnit) t => FlagE t (fun _ => False) ∧ ∀ m, (t.nodeD m).valid = true)
    (by
      intro j o b t r t' _ ⟨Ft, hvt⟩ hbody
      obtain ⟨ob, -, hbody⟩ := bind_getObs_inv hbody
      replace hbody := bind_dassert_inv hbody
      obtain ⟨t1, ht1, hbody⟩ := bind_modObs_inv hbody
      obtain ⟨t2, ht2, hbody⟩ := bind_modNode_inv hbody
      obtain ⟨t3, ht3, hbody⟩ := bind_modify_inv hbody
      obtain ⟨_, t4, h4, hbody⟩ := bind_ok_inv hbody
      obtain ⟨hr, e⟩ := pure_ok_inv hbody
      rw [e]
      refine ⟨_, hr, ?_⟩
      have R1 : FM t t1 := by rw [ht1]; exact FM.of_nodes rfl rfl rfl
      have F2 : FlagE t2 (fun m => False ∨ m = ob.node) := by
        rw [ht2]; exact (Ft.fm R1).modNode _ _
      have hv2 : ∀ m, (t2.nodeD m).valid = true := by
        rw [ht2]; exact allValid_modNode _ _ (fun _ => rfl) (R1.allValid hvt)
      have R3 : FM t2 t3 := by rw [ht3]; exact FM.of_nodes rfl rfl rfl
      exact (unlinkF_spec fuel).2.1 ob.node t3 t4 _ (R3.allValid hv2) (F2.fm R3) h4)
    s.disallowedObservers 0 PUnit.unit s0 u s1 (by simp) (Nat.zero_le _)
    ⟨F.fm R0, R0.allValid hv⟩ hloop).1

theorem unlinkDisallowedObservers_slots {env : Env} {fuel : Nat} {s s' : State}
    (hv : ∀ m, (s.nodeD m).valid = true) (L : SlotInv env s)
    (h : (unlinkDisallowedObservers fuel).run.run s = (.ok (), s')) : SlotInv env s' := by
  have R : SR env s s' := (PresR.unlinkDisallowedObservers fuel).h s _ s' h
  have F := unlinkDisallowedObservers_flagE hv L.flagE h
  exact (R.slotInvEx (L.toEx _) fun n e er hk he hw => (F n e er hk he hw).elim id False.elim).toInv

end IncrVerif.Proofs.ExpertH
