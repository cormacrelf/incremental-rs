import IncrVerif.Proofs.NestH52
import IncrVerif.Proofs.NestH11
import IncrVerif.Proofs.NestH16
import IncrVerif.Proofs.Quiet23
/-!
# Total correctness for nested binds (F2), part h: the two observer loops at the start of `stabilise` return

The lemmas of `Quiet23` (`add_created_obs`, `add_tail_run`, `addNewObservers_total`, `unlinkDisallowedObservers_total`) from the static fragment
(`SInv`, `HBo`, `becameNecessary_total`, `checkIfUnnecessary_total`) to graphs with nested binds (`SInv2 env rk`, `HBo2 rk`,
`becameNecessary_total2`, `checkIfUnnecessary_full2_size`).  Observers watch top-level nodes that are not change detectors
(`SInv2.obsTop`): `hmain` of `becameNecessary_total2` is vacuous, `hF` comes from `SInv2.noForce`, `hlc` from the kind of the observed node —
exactly as in `N4p.struct_add2`.  No node is created: the ghost rank `rk` and the node count stay the same.

What can panic in the two loops and why it does not:
* `getObs`: the pending observers exist (`ObsInv.newIn`, `ObsInv.disIn`);
* `"add_new_observers:observer-in-use-or-disallowed"`: a pending new observer is `created` or `unlinked` (hypothesis `hst`, from `TInv2.newState`);
  it stays so while OTHER observers are added (`pending_step`, needs `hnd`: no duplicates, from `TInv2.newNodup`);
* `modNode`, `handleAfterStabilisation`: the observed node exists (`ObsInv.inRange`);
* the `dassert` "the node is necessary": it has an observer now;
* the linking cascade: `becameNecessary_total2`; `propagateInvalidity`: the list is empty;
* the `dassert` "the observer is disallowed": `ObsInv.dis`; the unlinking cascade: `checkIfUnnecessary_full2_size`.
-/
namespace IncrVerif.Proofs.NestH
open IncrVerif.Engine IncrVerif.Driver IncrVerif.Proofs IncrVerif.Proofs.Step IncrVerif.Proofs.Sched IncrVerif.Proofs.Quiet
open IncrVerif.Proofs.Quiet.P12
open IncrVerif.Proofs.BindH

namespace T2h
open IncrVerif.Proofs.Quiet.P23

/-- the height bound through a change of the observer list of `n` -/
theorem hbo2_upd {rk : Nat → Nat} {n : Nat} {l : List Nat} {t t' : State} {op op' : Nat → Op} (hb : HBo2 rk t op)
    (U : NodeUpd n (fObservers l) t t')
    (hoth : ∀ m, m ≠ n → op' m = .closed → op m = .closed)
    (hself : t'.isNecessary n = true → op' n = .closed → t.isNecessary n = true ∧ op n = .closed) :
    HBo2 rk t' op' := by
  intro m hm hc
  rw [U.size]
  by_cases e : m = n
  · rw [e] at hm hc ⊢
    obtain ⟨h1, h2⟩ := hself hm hc
    rw [U.height_self]; exact hb n h1 h2
  · rw [U.nec_other e] at hm
    rw [U.height_other e]; exact hb m hm (hoth m e hc)

/-- the observer records after one `created` iteration of `add_new_observers` (companion of `N4p.add_created2`) -/
theorem add_created_obs2 {env : Env} {rk : Nat → Nat} {fuel o : Nat} {rest pd : List Nat} {t t4 t' : State} {ob : ObsRec}
    {was : Bool} {r : ForInStep PUnit}
    (I : SInv2 env rk t (o :: rest) pd) (hob : t.observers[o]? = some ob)
    (hwas : was = t.isNecessary ob.node)
    (h4 : (handleAfterStabilisation ob.node).run.run (obsAdded o ob.node ((0 : Nat) : Int) t) = (.ok (), t4))
    (h : (if (!was) = true then do
            becameNecessaryPropagate env fuel ob.node
            pure (ForInStep.yield PUnit.unit)
          else pure (ForInStep.yield PUnit.unit)).run.run t4 = (.ok r, t')) :
    ObsSet o .inUse t t' := by
  have hn : ob.node < t.nodes.size := (I.obs.inRange o ob hob).1
  have U3 : NodeUpd ob.node (fObservers ((t.nodeD ob.node).observers ++ [o])) t
      (obsAdded o ob.node ((0 : Nat) : Int) t) := obsAdded_upd hn
  have R : Irrel ob.node (obsAdded o ob.node ((0 : Nat) : Int) t) t4 := by
    rcases has_cases h4 with e | e
    · rw [e]; exact Irrel.refl _ _
    · rw [e]; exact Irrel.marked _ _
  have U4 := U3.then_same R.same
  have L := R.rel (fun _ => False)
  have hp4 : t4.propagateInvalidity = [] := (L.pinv.trans rfl).trans I.pinv
  have hb4 : t4.binds = t.binds := (BL.CFrame.binds L.fr).trans rfl
  have hl : (t.nodeD ob.node).observers ++ [o] ≠ [] := by simp
  obtain ⟨htop, hnlc⟩ := I.obsTop o ob hob
  obtain ⟨-, -, F, -, -, -⟩ := N4p.struct_add2 I.struct U4 hb4 hl hwas htop hnlc I.noForce hp4 h
  have F3 : CFrame (obsAdded o ob.node ((0 : Nat) : Int) t) t' := L.fr.trans F
  exact (ObsSet.of_modify (t' := obsAdded o ob.node ((0 : Nat) : Int) t) rfl).then_eq (cf_obsArr F3)

/-- the end of a `created` iteration of `add_new_observers` returns: the assertion holds, the cascade returns -/
theorem add_tail_run2 {env : Env} {rk : Nat → Nat} {N fuel o : Nat} {rest pd : List Nat} {t t4 : State} {ob : ObsRec}
    (I : SInv2 env rk t (o :: rest) pd) (hob : t.observers[o]? = some ob) (hbt : HBo2 rk t allClosed) (Rt : Room N t)
    (hf : 2 * t.nodes.size + 1 ≤ fuel)
    (h4 : (handleAfterStabilisation ob.node).run.run (obsAdded o ob.node ((0 : Nat) : Int) t) = (.ok (), t4)) :
    t4.isNecessary ob.node = true ∧ ∃ (r : ForInStep PUnit) (t' : State),
      (if (!t.isNecessary ob.node) = true then do
            becameNecessaryPropagate env fuel ob.node
            pure (ForInStep.yield PUnit.unit)
          else pure (ForInStep.yield PUnit.unit)).run.run t4 = (.ok r, t') ∧ HBo2 rk t' allClosed := by
  have hn : ob.node < t.nodes.size := (I.obs.inRange o ob hob).1
  have U3 : NodeUpd ob.node (fObservers ((t.nodeD ob.node).observers ++ [o])) t
      (obsAdded o ob.node ((0 : Nat) : Int) t) := obsAdded_upd hn
  have R : Irrel ob.node (obsAdded o ob.node ((0 : Nat) : Int) t) t4 := by
    rcases has_cases h4 with e | e
    · rw [e]; exact Irrel.refl _ _
    · rw [e]; exact Irrel.marked _ _
  have U4 := U3.then_same R.same
  have L := R.rel (fun _ => False)
  have hp4 : t4.propagateInvalidity = [] := (L.pinv.trans rfl).trans I.pinv
  have hb4 : t4.binds = t.binds := (BL.CFrame.binds L.fr).trans rfl
  have hl : (t.nodeD ob.node).observers ++ [o] ≠ [] := by simp
  have P4 : PFrame t t4 := (obsAdded_frame o ob.node t).trans L.fr.toP
  obtain ⟨htop, hnlc⟩ := I.obsTop o ob hob
  have K := keeps_fObservers ((t.nodeD ob.node).observers ++ [o])
  refine ⟨(U4.nec_self_iff K).2 (Or.inr (Or.inl hl)), ?_⟩
  cases hw : t.isNecessary ob.node with
  | true =>
    simp only [Bool.not_true, Bool.false_eq_true, if_false]
    exact ⟨_, t4, run_pure _ _, hbo2_upd hbt U4 (fun _ _ h => h) (fun _ _ => ⟨hw, rfl⟩)⟩
  | false =>
    simp only [Bool.not_false, if_true]
    obtain ⟨I1, hpar, hnq⟩ := NL.GInv2.addObs_open I.struct U4 hb4 hl hw rfl htop hnlc
    have hk4 : (t4.nodeD ob.node).kind = (t.nodeD ob.node).kind := U4.kind K ob.node
    have hsz4 : t4.nodes.size = t.nodes.size := U4.size
    have hcnt := cnt_lt_size (rk := rk) hn
    have T := becameNecessary_total2 (fuel := fuel) I1
      (hbo2_upd hbt U4 (op' := upd allClosed ob.node (.linking 0)) (fun _ _ _ => rfl)
        (fun _ h => by rw [upd_self] at h; cases h))
      (Rt.of_pframe P4) (upd_self _ _ _) hnq
      (by
        intro m hm
        by_cases e : m = ob.node
        · rw [e]; exact Nat.le_refl _
        · rw [upd_other _ _ _ e] at hm; exact absurd rfl hm)
      (by intro p i hpi; rw [hpar] at hpi; cases hpi)
      (by
        intro m k
        by_cases e : m = ob.node
        · rw [e, upd_self]; exact fun e => by cases e
        · rw [upd_other _ _ _ e]; exact fun e => by cases e)
      (by
        intro m b br hfo
        rw [U4.forceNecessary K, I.noForce m] at hfo; cases hfo)
      (by
        intro b br hbr hlc
        exfalso
        have := (I1.frag.recs b br hbr).2.2.1
        rw [hlc, hk4] at this
        exact hnlc b this)
      (by
        intro b br hsc _
        rw [C2p.pf_createdIn P4, htop] at hsc; cases hsc)
      (by rw [hsz4]; omega)
    rw [upd_upd, upd_eq_self allClosed _ .closed rfl] at T
    obtain ⟨u, t6, h6, hb6, -, -, hL, -⟩ := T
    have hp6 : t6.propagateInvalidity = [] := by rw [hL.pinv]; exact hp4
    have h5 : (becameNecessaryPropagate env fuel ob.node).run.run t4 = (.ok (), t6) := by
      unfold becameNecessaryPropagate
      rw [run_bind_ok h6]; exact propagateInvalidity_ok hp6 (by omega)
    exact ⟨_, t6, by rw [run_bind_ok h5, run_pure], hb6⟩

/-- `addNewObservers` returns, and keeps the height bound -/
theorem addNewObservers_tot2 {env : Env} {rk : Nat → Nat} {N fuel : Nat} {s : State}
    (I : SInv2 env rk s s.newObservers s.disallowedObservers) (hb : HBo2 rk s allClosed) (R : Room N s)
    (hnd : s.newObservers.Nodup)
    (hst : ∀ (o : Nat) (ob : ObsRec), o ∈ s.newObservers → s.observers[o]? = some ob →
      ob.state = .created ∨ ob.state = .unlinked)
    (hf : 2 * s.nodes.size + 1 ≤ fuel) :
    Tot (addNewObservers env fuel) s (fun _ s' => HBo2 rk s' allClosed) := by
  unfold addNewObservers
  refine Tot.bind_get ?_
  refine Tot.bind_modify ?_
  have I0 : SInv2 env rk { s with newObservers := [] } s.newObservers s.disallowedObservers :=
    N4p.sInv2_congr I rfl rfl rfl rfl rfl rfl rfl rfl
  have R0 : Room N { s with newObservers := [] } := ⟨R.ahh, R.rch, R.size⟩
  refine Tot.bind (forIn_tot' _ _
    (fun j (_ : PUnit) t => SInv2 env rk t (s.newObservers.drop j) s.disallowedObservers ∧
      t.nodes.size = s.nodes.size ∧ HBo2 rk t allClosed ∧ Room N t ∧
      (∀ (o : Nat) (ob : ObsRec), o ∈ s.newObservers.drop j → t.observers[o]? = some ob →
        ob.state = .created ∨ ob.state = .unlinked)) ?_ _ _
    ⟨by rw [List.drop_zero]; exact I0, rfl, hb, R0, by rw [List.drop_zero]; exact hst⟩) ?_
  · intro j o b t hj ⟨It, hsz, hbt, Rt, hpt⟩
    have hndj : (o :: s.newObservers.drop (j + 1)).Nodup := by
      rw [← drop_of_getElem? hj]; exact List.Nodup.sublist (List.drop_sublist _ _) hnd
    rw [drop_of_getElem? hj] at It hpt
    obtain ⟨ob, hob⟩ := It.obs.newIn o (List.mem_cons_self ..)
    have hh : ob.handlers = [] := (It.obs.inRange o ob hob).2
    have hn : ob.node < t.nodes.size := (It.obs.inRange o ob hob).1
    refine Tot.bind_getObs hob ?_
    rcases hpt o ob (List.mem_cons_self ..) hob with hc | hu
    · rw [hc]
      dsimp only
      refine Tot.bind_modObs ?_
      refine Tot.bind_get ?_
      refine Tot.bind_modify ?_
      refine Tot.bind_modNode ?_
      change Tot _ (obsAdded o ob.node ((ob.handlers.length : Nat) : Int) t) _
      rw [hh, List.length_nil]
      obtain ⟨t4, h4⟩ := has_ok (n := ob.node) (s := obsAdded o ob.node ((0 : Nat) : Int) t)
        (by rw [(obsAdded_upd (o := o) (k := ((0 : Nat) : Int)) hn).size]; exact hn)
      obtain ⟨hnec4, r, t', hrun, hb'⟩ := add_tail_run2 (env := env) (fuel := fuel) It hob hbt Rt
        (by rw [hsz]; exact hf) h4
      refine Tot.bind_ok h4 ?_
      refine Tot.bind_get ?_
      refine Tot.bind_dassert (fun _ => hnec4) ?_
      obtain ⟨hr, I', R', -, -⟩ := N4p.add_created2 (was := t.isNecessary ob.node) It hob hc rfl h4 hrun
      have S := add_created_obs2 (was := t.isNecessary ob.node) It hob rfl h4 hrun
      exact Tot.of_ok hrun ⟨_, hr, I', R'.frame.size.trans hsz, hb', Rt.of_pframe R'.frame,
        pending_step S (List.nodup_cons.1 hndj).1 hpt⟩
    · rw [hu]
      dsimp only
      exact Tot.pure ⟨_, rfl, ⟨It.struct, obsInv_skip_step It.obs hob (by rw [hu]; exact fun e => by cases e),
        It.obsTop, It.pinv, It.handlers, It.noForce⟩, hsz, hbt, Rt,
        fun o' ob' ho' h' => hpt o' ob' (List.mem_cons_of_mem _ ho') h'⟩
  · intro _ s1 _ ⟨_, _, hb1, _⟩
    exact Tot.pure hb1

/-- `unlinkDisallowedObservers` returns, and keeps the height bound -/
theorem unlinkDisallowedObservers_tot2 {env : Env} {rk : Nat → Nat} {fuel : Nat} {s : State}
    (I : SInv2 env rk s [] s.disallowedObservers) (hb : HBo2 rk s allClosed)
    (hf : 3 * s.nodes.size ≤ fuel) :
    Tot (unlinkDisallowedObservers fuel) s (fun _ s' => HBo2 rk s' allClosed) := by
  unfold unlinkDisallowedObservers
  refine Tot.bind_get ?_
  refine Tot.bind_modify ?_
  have I0 : SInv2 env rk { s with disallowedObservers := [] } [] s.disallowedObservers :=
    N4p.sInv2_congr I rfl rfl rfl rfl rfl rfl rfl rfl
  refine Tot.bind (forIn_tot' _ _
    (fun j (_ : PUnit) t => SInv2 env rk t [] (s.disallowedObservers.drop j) ∧ t.nodes.size = s.nodes.size ∧
      HBo2 rk t allClosed) ?_ _ _ ⟨by rw [List.drop_zero]; exact I0, rfl, hb⟩) ?_
  · intro j o b t hj ⟨It, hsz, hbt⟩
    rw [drop_of_getElem? hj] at It
    obtain ⟨ob, hob⟩ := It.obs.disIn o (List.mem_cons_self ..)
    have hstd : ob.state = .disallowed := (It.obs.dis o ob hob).2 (List.mem_cons_self ..)
    have hh : ob.handlers = [] := (It.obs.inRange o ob hob).2
    have hn : ob.node < t.nodes.size := (It.obs.inRange o ob hob).1
    refine Tot.bind_getObs hob ?_
    refine Tot.bind_dassert (fun _ => by rw [hstd]; rfl) ?_
    refine Tot.bind_modObs ?_
    refine Tot.bind_modNode ?_
    refine Tot.bind_modify ?_
    change Tot _ (obsRemoved o ob.node ((ob.handlers.length : Nat) : Int) t) _
    rw [hh, List.length_nil]
    have hmem : o ∈ (t.nodeD ob.node).observers := (It.obs.mem ob.node o).2 ⟨ob, hob, rfl, Or.inr hstd⟩
    have hnec : t.isNecessary ob.node = true :=
      (isNecessary_iff t ob.node).2 (Or.inr (Or.inl (List.ne_nil_of_mem hmem)))
    have U3 : NodeUpd ob.node (fObservers ((t.nodeD ob.node).observers.filter (· != o))) t
        (obsRemoved o ob.node ((0 : Nat) : Int) t) := obsRemoved_upd hn
    obtain ⟨H1, H2⟩ := GInv2.remObs It.struct U3 rfl rfl hnec (fun e => by rw [e]; rfl)
    have hfuel : 3 * (obsRemoved o ob.node ((0 : Nat) : Int) t).nodes.size ≤ fuel := by
      rw [U3.size, hsz]; exact hf
    have T : Tot (checkIfUnnecessary fuel ob.node) (obsRemoved o ob.node ((0 : Nat) : Int) t)
        (fun _ s' => HBo2 rk s' allClosed) := by
      cases hnc : (obsRemoved o ob.node ((0 : Nat) : Int) t).isNecessary ob.node with
      | true =>
        have T := checkIfUnnecessary_full2_size (H1 hnc)
          (hbo2_upd hbt U3 (fun _ _ h => h) (fun _ _ => ⟨hnec, rfl⟩)) (fun m hm => absurd rfl hm)
          (Or.inl ⟨hnc, rfl⟩) hfuel
        rw [upd_eq_self allClosed _ .closed rfl] at T
        exact T.mono (fun _ _ h => h.2.2.2.2)
      | false =>
        have T := checkIfUnnecessary_full2_size (H2 hnc)
          (hbo2_upd hbt U3 (op' := upd allClosed ob.node (.unlinking 0)) (fun _ _ _ => rfl)
            (fun h _ => by rw [hnc] at h; cases h))
          (by
            intro m hm
            by_cases e : m = ob.node
            · rw [e]; exact Nat.le_refl _
            · rw [upd_other _ _ _ e] at hm; exact absurd rfl hm)
          (Or.inr ⟨hnc, upd_self _ _ _⟩) hfuel
        rw [upd_upd, upd_eq_self allClosed _ .closed rfl] at T
        exact T.mono (fun _ _ h => h.2.2.2.2)
    obtain ⟨u, t', hrun, hb'⟩ := T
    obtain ⟨I', R', -⟩ := N4p.unlink_iter2 It hob hrun
    exact Tot.bind_ok hrun (Tot.pure ⟨_, rfl, I', by rw [R'.frame.size]; exact hsz, hb'⟩)
  · intro _ s1 _ ⟨_, _, hb1⟩
    exact Tot.pure hb1

end T2h

/-- **`addNewObservers` returns, graphs with nested binds (fragment F2)** — no observer record is missing, no pending observer is in use or
disallowed, the linking cascades return (`becameNecessary_total2`) — and keeps the height bound, the room and the prefix invariant (same ghost
rank: no node is created).  `hnd`/`hst` are `TInv2.newNodup`/`TInv2.newState`. -/
theorem addNewObservers_total2 {env : Env} {rk : Nat → Nat} {N fuel : Nat} {s : State}
    (I : SInv2 env rk s s.newObservers s.disallowedObservers) (hb : HBo2 rk s allClosed) (R : Room N s)
    (hnd : s.newObservers.Nodup)
    (hst : ∀ (o : Nat) (ob : ObsRec), o ∈ s.newObservers → s.observers[o]? = some ob →
      ob.state = .created ∨ ob.state = .unlinked)
    (hf : 2 * s.nodes.size + 1 ≤ fuel) :
    Tot (addNewObservers env fuel) s (fun _ s' => HBo2 rk s' allClosed ∧ Room N s' ∧
      SInv2 env rk s' [] s'.disallowedObservers ∧ s'.newObservers = [] ∧
      s'.disallowedObservers = s.disallowedObservers ∧ PFrame s s' ∧ ObsMap addedState s s' ∧
      (∀ m, s.isNecessary m = true → s'.isNecessary m = true) ∧
      (∀ m, (s'.nodeD m).heightInAhh = (s.nodeD m).heightInAhh)) := by
  obtain ⟨u, s', h, hb'⟩ := T2h.addNewObservers_tot2 I hb R hnd hst hf
  cases u
  obtain ⟨⟨I', h1, h2, P, h3, h4⟩, hM⟩ := N4p.addNewObservers_full2 I h
  exact ⟨(), s', h, hb', R.of_pframe P, I', h1, h2, P, h3, h4, hM⟩

/-- **`unlinkDisallowedObservers` returns, graphs with nested binds (fragment F2)** — the unlinking cascades return
(`checkIfUnnecessary_full2_size`) — and keeps the height bound, the room and the prefix invariant. -/
theorem unlinkDisallowedObservers_total2 {env : Env} {rk : Nat → Nat} {N fuel : Nat} {s : State}
    (I : SInv2 env rk s [] s.disallowedObservers) (hn : s.newObservers = []) (hb : HBo2 rk s allClosed) (R : Room N s)
    (hf : 3 * s.nodes.size ≤ fuel) :
    Tot (unlinkDisallowedObservers fuel) s (fun _ s' => HBo2 rk s' allClosed ∧ Room N s' ∧
      SInv2 env rk s' [] [] ∧ s'.newObservers = [] ∧ s'.disallowedObservers = [] ∧ PFrame s s' ∧
      ObsMap unlinkedState s s' ∧ (∀ m, (s'.nodeD m).heightInAhh = (s.nodeD m).heightInAhh)) := by
  obtain ⟨u, s', h, hb'⟩ := T2h.unlinkDisallowedObservers_tot2 I hb hf
  cases u
  obtain ⟨⟨I', h1, h2, P, h3⟩, hM⟩ := N4p.unlinkDisallowedObservers_full2 I hn h
  exact ⟨(), s', h, hb', R.of_pframe P, I', h1, h2, P, h3, hM⟩

end IncrVerif.Proofs.NestH
