import IncrVerif.Proofs.DriverH1
/-!
# `RmSpec`, part 2: along the unlinking cascade the heights of the nodes that are still necessary do not change
-/
namespace IncrVerif.Proofs.DriverH
open IncrVerif.Engine IncrVerif.Driver IncrVerif.Proofs IncrVerif.Proofs.Step IncrVerif.Proofs.Sched
open IncrVerif.Proofs.ExpertH IncrVerif.Proofs.ExpertH.QR

/-- necessity does not grow, and the nodes that are still necessary keep their height -/
def NH (s s' : State) : Prop :=
  ∀ m, s'.isNecessary m = true → s.isNecessary m = true ∧ (s'.nodeD m).height = (s.nodeD m).height

theorem NH.refl (s : State) : NH s s := fun _ h => ⟨h, rfl⟩
theorem NH.trans {a b c : State} (h1 : NH a b) (h2 : NH b c) : NH a c := fun m h =>
  ⟨(h1 m (h2 m h).1).1, ((h2 m h).2).trans (h1 m (h2 m h).1).2⟩

/-! ## a small frame: the fields necessity reads are unchanged, heights are unchanged outside `X` -/

/-- what necessity reads of a node -/
def necKey (nd : Node) := (nd.parents, nd.observers, nd.forceNecessary)

structure NHF (X : Nat → Prop) (s s' : State) : Prop where
  key : ∀ m, necKey (s'.nodeD m) = necKey (s.nodeD m)
  hgt : ∀ m, ¬ X m → (s'.nodeD m).height = (s.nodeD m).height

theorem NHF.refl (X : Nat → Prop) (s : State) : NHF X s s := ⟨fun _ => rfl, fun _ _ => rfl⟩
theorem NHF.trans {X : Nat → Prop} {a b c : State} (h1 : NHF X a b) (h2 : NHF X b c) : NHF X a c :=
  ⟨fun m => (h2.key m).trans (h1.key m), fun m hm => (h2.hgt m hm).trans (h1.hgt m hm)⟩
instance (X : Nat → Prop) : Step.PreOrd (NHF X) := ⟨NHF.refl X, NHF.trans⟩

theorem NHF.of_nodes {X : Nat → Prop} {s s' : State} (h1 : s'.nodes = s.nodes) : NHF X s s' := by
  have : ∀ m, s'.nodeD m = s.nodeD m := fun m => by simp [State.nodeD, h1]
  exact ⟨fun m => by rw [this], fun m _ => by rw [this]⟩

theorem NHF.modNode {X : Nat → Prop} (s : State) (n : Nat) (f : Node → Node)
    (hf : ∀ x, necKey (f x) = necKey x) (hh : ∀ x, ¬ X n → (f x).height = x.height) :
    NHF X s { s with nodes := s.nodes.modify n f } := by
  refine ⟨fun m => ?_, fun m hm => ?_⟩
  · rw [nodeD_modify]; split
    · exact hf _
    · rfl
  · rw [nodeD_modify]; split
    · rename_i e; exact hh _ (by rw [e.1]; exact hm)
    · rfl

theorem PresNH.modNode {X : Nat → Prop} (n : Nat) (f : Node → Node)
    (hf : ∀ x, necKey (f x) = necKey x) (hh : ∀ x, ¬ X n → (f x).height = x.height) :
    Step.Pres (NHF X) (Engine.modNode n f) := by
  unfold Engine.modNode; exact Step.Pres.modify fun s => NHF.modNode s n f hf hh

macro_rules
  | `(tactic| qleaf) =>
    `(tactic| ((with_reducible apply Step.Pres.modify); intro _; exact NHF.of_nodes rfl))
macro_rules
  | `(tactic| qleaf) =>
    `(tactic| ((with_reducible apply PresNH.modNode) <;> intros <;> first | rfl | (exfalso; rename_i hx; exact hx rfl)))

macro "nh_leaf " n:ident : command =>
  `(macro_rules | `(tactic| qleaf) => `(tactic| with_reducible apply $n))

section
variable {X : Nat → Prop}
theorem PresNH.logEv (e) : Step.Pres (NHF X) (Engine.logEv e) := by unfold Engine.logEv; qpres
nh_leaf PresNH.logEv
theorem PresNH.modExpert (e f) : Step.Pres (NHF X) (Engine.modExpert e f) := by unfold Engine.modExpert; qpres
nh_leaf PresNH.modExpert
theorem PresNH.observabilityChange (e b) : Step.Pres (NHF X) (Engine.observabilityChange e b) := by
  unfold Engine.observabilityChange; qpres
nh_leaf PresNH.observabilityChange
theorem PresNH.rchUnlink (n) : Step.Pres (NHF X) (Engine.rchUnlink n) := by unfold Engine.rchUnlink; qpres
nh_leaf PresNH.rchUnlink
theorem PresNH.rchRemove (n) : Step.Pres (NHF X) (Engine.rchRemove n) := by unfold Engine.rchRemove; qpres
nh_leaf PresNH.rchRemove
theorem PresNH.handleAfterStabilisation (n) : Step.Pres (NHF X) (Engine.handleAfterStabilisation n) := by
  unfold Engine.handleAfterStabilisation; qpres
nh_leaf PresNH.handleAfterStabilisation
theorem PresNH.maybeHandleAfterStabilisation (n) : Step.Pres (NHF X) (Engine.maybeHandleAfterStabilisation n) := by
  unfold Engine.maybeHandleAfterStabilisation; qpres
nh_leaf PresNH.maybeHandleAfterStabilisation
end

theorem PresNH.setHeight (n h) : Step.Pres (NHF (· = n)) (Engine.setHeight n h) := by
  unfold Engine.setHeight; qpres

theorem NHF.nec {X : Nat → Prop} {s s' : State} (h : NHF X s s') (m : Nat) : s'.isNecessary m = s.isNecessary m := by
  have := h.key m
  simp only [necKey, Prod.mk.injEq] at this
  exact nec_congr this.1 this.2.1 this.2.2

/-- the frame gives `NH` when the nodes whose height may have changed were not necessary -/
theorem NHF.nh {X : Nat → Prop} {s s' : State} (h : NHF X s s') (hX : ∀ m, X m → s.isNecessary m = false) :
    NH s s' := by
  intro m hm
  rw [h.nec m] at hm
  refine ⟨hm, h.hgt m (fun hx => ?_)⟩
  rw [hX m hx] at hm; cases hm

theorem NHF.nh0 {s s' : State} (h : NHF (fun _ => False) s s') : NH s s' := h.nh (fun _ hx => hx.elim)

/-! ## `removeParent` -/

theorem swapRemove_nil {α} (i : Nat) : swapRemove ([] : List α) i = [] := by simp [swapRemove]

theorem NH.removeParent {c i p : Nat} {s s' : State} {u : Unit}
    (h : (removeParent c i p).run.run s = (.ok u, s')) : NH s s' := by
  obtain ⟨nd, pi, -, -, e⟩ := removeParent_ok_inv h
  rw [e]
  intro m hm
  rw [isNecessary_iff] at hm
  rw [isNecessary_iff]
  rw [nodeD_modify] at hm ⊢
  split at hm
  · rename_i hc
    rw [if_pos hc]
    refine ⟨?_, rfl⟩
    rcases hm with hm | hm
    · left
      intro e0
      apply hm
      show swapRemove (s.nodeD m).parents pi = []
      rw [e0]; exact swapRemove_nil _
    · exact Or.inr hm
  · rename_i hc
    rw [if_neg hc]
    exact ⟨hm, rfl⟩

/-! ## the cascade -/

def BUnh (fuel : Nat) : Prop :=
  ∀ n s s', (becameUnnecessary fuel n).run.run s = (.ok (), s') → s.isNecessary n = false → NH s s'
def CUnh (fuel : Nat) : Prop :=
  ∀ c s s', (checkIfUnnecessary fuel c).run.run s = (.ok (), s') → NH s s'
def RCnh (fuel : Nat) : Prop :=
  ∀ n s s', (removeChildren fuel n).run.run s = (.ok (), s') → NH s s'

theorem cu_nh (fuel : Nat) (ih : BUnh fuel) : CUnh (fuel + 1) := by
  intro c s s' h
  unfold Engine.checkIfUnnecessary at h
  rw [run_bind_get] at h
  cases hn : s.isNecessary c with
  | true =>
    rw [hn] at h
    simp only [Bool.not_true, Bool.false_eq_true, if_false] at h
    obtain ⟨-, rfl⟩ := pure_ok_inv h
    exact NH.refl _
  | false =>
    rw [hn] at h
    simp only [Bool.not_false, if_true] at h
    exact ih c s s' h hn

theorem rc_nh (fuel : Nat) (ih : CUnh fuel) : RCnh (fuel + 1) := by
  intro n s s' h
  unfold Engine.removeChildren at h
  rw [run_bind_get] at h
  obtain ⟨b, s3, h3, h⟩ := bind_ok_inv h
  obtain ⟨-, e3⟩ := pure_ok_inv h
  rw [e3]
  exact forIn_ok_inv _ (s.children n) (fun _ (_ : Nat) t => NH s t)
    (by
      intro j c b t r t' _ hrel hbody
      obtain ⟨_, t1, ha, hbody⟩ := bind_ok_inv hbody
      obtain ⟨_, t2, hc, hbody⟩ := bind_ok_inv hbody
      obtain ⟨hr, ht'⟩ := pure_ok_inv hbody
      rw [ht']
      exact ⟨_, hr, (hrel.trans (NH.removeParent ha)).trans (ih c t1 t2 hc)⟩)
    (s.children n) 0 0 s b s3 (by simp) (Nat.zero_le _) (NH.refl s) h3

theorem bu_nh (fuel : Nat) (ih : RCnh fuel) : BUnh (fuel + 1) := by
  intro n s s' h hn
  unfold Engine.becameUnnecessary at h
  obtain ⟨s0, hs0, h⟩ := bind_modify_inv h
  obtain ⟨_, s1, h1, h⟩ := bind_ok_inv h
  obtain ⟨_, s2, h2, h⟩ := bind_ok_inv h
  obtain ⟨_, s3, h3, h⟩ := bind_ok_inv h
  have F0 : NHF (· = n) s s0 := by rw [hs0]; exact NHF.of_nodes rfl
  have F1 : NHF (· = n) s0 s1 := (PresNH.maybeHandleAfterStabilisation n).h _ _ _ h1
  have F2 : NHF (· = n) s1 s2 := (PresNH.setHeight n (-1)).h _ _ _ h2
  have N2 : NH s s2 := ((F0.trans F1).trans F2).nh (fun m hm => by rw [hm]; exact hn)
  have N3 : NH s2 s3 := ih n s2 s3 h3
  have F4 : NHF (fun _ => False) s3 s' := by
    refine Step.Pres.h ?_ _ _ _ h
    qpres
  exact (N2.trans N3).trans F4.nh0

theorem unlink_nh (fuel : Nat) : BUnh fuel ∧ CUnh fuel ∧ RCnh fuel := by
  induction fuel with
  | zero =>
    refine ⟨?_, ?_, ?_⟩
    · intro n s s' h; unfold Engine.becameUnnecessary at h; cases h
    · intro n s s' h; unfold Engine.checkIfUnnecessary at h; cases h
    · intro n s s' h; unfold Engine.removeChildren at h; cases h
  | succ fuel ih => exact ⟨bu_nh fuel ih.2.2, cu_nh fuel ih.1, rc_nh fuel ih.2.1⟩

theorem NH.checkIfUnnecessary {fuel c : Nat} {s s' : State}
    (h : (checkIfUnnecessary fuel c).run.run s = (.ok (), s')) : NH s s' :=
  (unlink_nh fuel).2.1 c s s' h

end IncrVerif.Proofs.DriverH
