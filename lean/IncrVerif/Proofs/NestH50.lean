import IncrVerif.Proofs.NestH43
import IncrVerif.Proofs.NestH41
import IncrVerif.Proofs.BindH88
/-!
# Nested binds (F2), part 4w: variable writes outside `stabilise` (and the read-only actions) keep `QInv2 env rk` (SAME ghost rank)

The counterpart of `BindH88` for `QInv2 env rk s` in place of `QInv1 env s`.  A write outside `stabilise` changes one cell and possibly inserts the cell's watch
node (a `var` node: top-level by `N2.inScope`, hence valid by `N2.top`) into the recompute heap.  `BindH.C2w.WRel1` and its lemmas (`kind`, …, `children`,
`isStale_eq`, `isStale_watch`, `targetB`) are REUSED; `var_top`, `struct2` (= `WRel1.struct`), `qinv2` (= `WRel1.qinv`), `wroteOutside_q` are restated for
`All2`/`GInv2`/`QInv2` (sub-namespace `N4w`): `NF.all2_transfer` / `NF.F2Inv.transfer` replace `CF.all1_transfer` / `CF.F1Inv.transfer`.
-/
namespace IncrVerif.Proofs.NestH
open IncrVerif.Engine IncrVerif.Driver IncrVerif.Proofs IncrVerif.Proofs.Step IncrVerif.Proofs.Sched IncrVerif.Proofs.Quiet
open IncrVerif.Proofs.BindH

namespace N4w

section rel
variable {env : Env} {rk : Nat → Nat} {s s' : State} {v : Nat} {vc : VarCell} {x : Val}

/-- a `var` node is a top-level node, hence valid -/
theorem var_top {dy : List Nat} {m c : Nat} (A : All2 env rk s dy) (hm : m < s.nodes.size)
    (hk : (s.nodeD m).kind = .var c) : (s.nodeD m).createdIn = .top ∧ (s.nodeD m).valid = true := by
  have N := A.node m hm
  cases hsc : (s.nodeD m).createdIn with
  | top => exact ⟨rfl, (N.top hsc).1⟩
  | bind b => exact absurd hk ((N.inScope b hsc).1 c)

/-- the structural invariant after a write: the heap is well formed, only the marker of the watch node may
have changed, and either nothing changed (and the watch node was queued if necessary) or the watch node
(necessary, not queued) has been queued at its height -/
theorem struct2 (Q : QInv2 env rk s) (hv : s.vars[v]? = some vc) (R : C2w.WRel1 v vc x s s')
    (hheap : HeapG s')
    (hmark : ∀ m, m ≠ vc.node → (s'.nodeD m).heightInRch = (s.nodeD m).heightInRch)
    (hq : ((s'.nodeD vc.node).heightInRch = (s.nodeD vc.node).heightInRch ∧
            (s.isNecessary vc.node = true → (s.nodeD vc.node).inRch = true)) ∨
          (s.isNecessary vc.node = true ∧ (s.nodeD vc.node).inRch = false ∧
            (s'.nodeD vc.node).heightInRch = (s.nodeD vc.node).height)) :
    Struct2 env rk s' := by
  have I : GInv2 env rk s allClosed noEx [] := Q.struct
  have hkn : (s.nodeD vc.node).kind = .var v := (Q.vars.cell v vc hv).2
  have hsz : vc.node < s.nodes.size := (Q.vars.cell v vc hv).1
  have hwv : (s.nodeD vc.node).valid = true := (var_top I.frag hsz hkn).2
  have hinr : ∀ m, m ≠ vc.node → (s'.nodeD m).inRch = (s.nodeD m).inRch := fun m h => by
    simp only [Node.inRch, hmark m h]
  have hw : ∀ q i, Wants s' allClosed q i ↔ Wants s allClosed q i := by
    intro q i; unfold Wants; rw [R.nec]
  have hother : ∀ m, m < s.nodes.size → m ≠ vc.node → (s.nodeD m).kind ≠ .var v := by
    intro m hm hne hk
    obtain ⟨vc0, h0, h1⟩ := Q.vars.node m v hm hk
    rw [hv] at h0; cases h0; exact hne h1.symm
  have hmono : ∀ m, s.isStale m = true → s'.isStale m = true := by
    intro m hs
    by_cases hk : (s.nodeD m).kind = .var v
    · refine R.isStale_watch hk ?_ (Q.stamps m).1
      cases hval : (s.nodeD m).valid with
      | true => rfl
      | false =>
        exfalso
        unfold State.isStale at hs
        simp only [Node.kind?, hval] at hs
        cases hs
    · rw [R.isStale_eq hk]; exact hs
  show GInv2 env rk s' allClosed noEx []
  refine { frag := NF.all2_transfer I.frag R.size R.shape R.binds (R.scope.trans I.frag.scope) (R.pc.trans I.frag.pc),
           par := ?_, conv := ?_, nodup := ?_, hlt := ?_, hpos := ?_,
           lnec := ?_, unec := ?_, heap := hheap, hgt := ?_, qnec := ?_, queued := ?_,
           qstale := ?_, opLt := ?_, scopeH := ?_, inv := ?_, scopeObs := ?_, lcObs := ?_ }
  · intro c q i hm
    rw [R.parents] at hm
    rw [R.children, hw]; exact I.par c q i hm
  · intro q i c hkq hw'
    rw [R.children] at hkq
    rw [hw] at hw'
    rw [R.parents]; exact I.conv q i c hkq hw'
  · intro m; rw [R.parents]; exact I.nodup m
  · intro c q i hm ho
    rw [R.parents] at hm
    rw [R.height, R.height]; exact I.hlt c q i hm ho
  · intro m hn ho
    rw [R.nec] at hn
    rw [R.height]; exact I.hpos m hn ho
  · intro q k ho; cases ho
  · intro q k ho; cases ho
  · intro m hq' _
    by_cases e : m = vc.node
    · rw [e] at hq' ⊢
      rcases hq with ⟨h1, -⟩ | ⟨-, -, h2⟩
      · have hq0 : (s.nodeD vc.node).inRch = true := by simpa only [Node.inRch, h1] using hq'
        rw [h1, R.height]; exact I.hgt _ hq0 rfl
      · rw [h2, R.height]
    · rw [hinr m e] at hq'
      rw [hmark m e, R.height]; exact I.hgt m hq' rfl
  · intro m hq'
    rw [R.nec]
    by_cases e : m = vc.node
    · rw [e] at hq' ⊢
      rcases hq with ⟨h1, -⟩ | ⟨h2, -, -⟩
      · have hq0 : (s.nodeD vc.node).inRch = true := by simpa only [Node.inRch, h1] using hq'
        exact I.qnec _ hq0
      · exact Or.inl h2
    · rw [hinr m e] at hq'; exact I.qnec m hq'
  · intro m _ hn hs hex
    rw [R.nec] at hn
    by_cases e : m = vc.node
    · rw [e] at hn ⊢
      rcases hq with ⟨h1, h2⟩ | ⟨-, -, h2⟩
      · have := h2 hn
        simpa only [Node.inRch, h1] using this
      · have h0 := I.hpos _ hn rfl
        simp only [Node.inRch, h2]; simpa using h0
    · rw [R.isStale_eq (hother m (nec_lt_size hn) e)] at hs
      rw [hinr m e]; exact I.queued m rfl hn hs hex
  · intro m hq'
    by_cases e : m = vc.node
    · rw [e]; exact R.isStale_watch hkn hwv (Q.stamps _).1
    · rw [hinr m e] at hq'; exact hmono m (I.qstale m hq')
  · intro m ho; exact absurd rfl ho
  · intro n b br hval hsc hb hn ho
    rw [R.valid] at hval; rw [R.createdIn] at hsc; rw [R.binds] at hb; rw [R.nec] at hn
    rw [R.height, R.height]; exact I.scopeH n b br hval hsc hb hn ho
  · intro m hval
    rw [R.valid] at hval
    obtain ⟨h1, h2, h3, h4, h5⟩ := I.inv m hval
    have e : m ≠ vc.node := by intro e; rw [e, hwv] at hval; cases hval
    exact ⟨by rw [R.parents]; exact h1, by rw [R.nodeObs]; exact h2, by rw [R.force]; exact h3,
      by rw [hinr m e]; exact h4, h5⟩
  · intro m b h
    rw [R.createdIn] at h
    rw [R.nodeObs]; exact I.scopeObs m b h
  · intro m b h
    rw [R.kind] at h
    rw [R.nodeObs]; exact I.lcObs m b h

/-- the invariant between API actions after a write -/
theorem qinv2 (Q : QInv2 env rk s) (hv : s.vars[v]? = some vc) (R : C2w.WRel1 v vc x s s')
    (S : Struct2 env rk s')
    (hmark : ∀ m, m ≠ vc.node → (s'.nodeD m).heightInRch = (s.nodeD m).heightInRch) : QInv2 env rk s' := by
  have I : GInv2 env rk s allClosed noEx [] := Q.struct
  have hkn : (s.nodeD vc.node).kind = .var v := (Q.vars.cell v vc hv).2
  have hsz : vc.node < s.nodes.size := (Q.vars.cell v vc hv).1
  have hwv : (s.nodeD vc.node).valid = true := (var_top I.frag hsz hkn).2
  refine { struct := S, f2 := ?_, vars := ?_, obs := ?_, obsTop := ?_, now := by rw [R.stabNum]; exact Q.now,
           stamps := ?_, varStamp := ?_, cons := ?_, status := R.status.trans Q.status,
           alive := R.alive.trans Q.alive,
           setDuringStab := R.setDuringStab.trans Q.setDuringStab, deadVars := R.deadVars.trans Q.deadVars,
           handleAfterStab := R.handleAfterStab.trans Q.handleAfterStab }
  · refine NF.F2Inv.transfer Q.f2 R.size R.shape R.handlers ?_ R.heightInAhh R.binds R.top R.ahh R.pinv R.scope
      (R.pc.trans Q.f2.frag.pc)
    intro m hq
    by_cases e : m = vc.node
    · rw [e]; exact Or.inr hwv
    · left
      simpa only [Node.inRch, hmark m e] using hq
  · constructor
    · intro n c hn hk
      rw [R.size] at hn
      rw [R.kind] at hk
      obtain ⟨vc0, h0, h1⟩ := Q.vars.node n c hn hk
      by_cases hc : c = v
      · rw [hc] at h0 ⊢
        rw [hv] at h0; cases h0
        exact ⟨_, R.var, h1⟩
      · exact ⟨vc0, by rw [R.other c hc]; exact h0, h1⟩
    · intro c vc0 h0
      rw [R.size, R.kind]
      by_cases hc : c = v
      · rw [hc] at h0 ⊢
        rw [R.var] at h0; cases h0
        exact Q.vars.cell v vc hv
      · rw [R.other c hc] at h0; exact Q.vars.cell c vc0 h0
  · have O := Q.obs
    unfold ObsOK at O ⊢
    rw [R.newObservers, R.disallowedObservers]
    refine ⟨?_, ?_, ?_, ?_, ?_, ?_, O.disNodup⟩
    · intro o ob h; rw [R.observers] at h; rw [R.size]; exact O.inRange o ob h
    · intro n o; rw [R.nodeObs, R.observers]; exact O.mem n o
    · intro o ob h; rw [R.observers] at h; exact O.created o ob h
    · intro o h; rw [R.observers]; exact O.newIn o h
    · intro o ob h; rw [R.observers] at h; exact O.dis o ob h
    · intro o h; rw [R.observers]; exact O.disIn o h
  · intro o ob h
    rw [R.observers] at h
    rw [R.createdIn, R.kind]; exact Q.obsTop o ob h
  · intro m
    rw [R.recomputedAt, R.changedAt, R.stabNum]; exact Q.stamps m
  · intro c vc0 h0
    rw [R.stabNum]
    by_cases hc : c = v
    · rw [hc] at h0; rw [R.var] at h0; cases h0; exact Int.le_refl _
    · rw [R.other c hc] at h0; exact Q.varStamp c vc0 h0
  · intro m hm hval hst
    rw [R.size] at hm
    rw [R.valid] at hval
    by_cases hk : (s.nodeD m).kind = .var v
    · rw [R.isStale_watch hk hval (Q.stamps m).1] at hst; cases hst
    · rw [R.isStale_eq hk] at hst
      obtain ⟨w, hw, hvalue⟩ := Q.cons m hm hval hst
      exact ⟨w, R.targetB hk hw, by rw [R.value]; exact hvalue⟩

end rel

/-! ## the concrete write -/

/-- the final state of a successful write outside `stabilise` keeps the invariant -/
theorem wroteOutside_q {env : Env} {rk : Nat → Nat} {s : State} {v : Nat} {vc : VarCell} (x : Val)
    (Q : QInv2 env rk s) (hv : s.vars[v]? = some vc)
    (hh : vc.setAt < s.stabNum →
      ((s.nodeD vc.node).valid && s.isNecessary vc.node && !(s.nodeD vc.node).inRch) = true →
      0 ≤ (s.nodeD vc.node).height ∧ (s.nodeD vc.node).height ≤ s.rch.maxAllowed) :
    C2w.WRel1 v vc x s (wroteOutside v vc x s) ∧ QInv2 env rk (wroteOutside v vc x s) := by
  have I : GInv2 env rk s allClosed noEx [] := Q.struct
  have hle := Q.varStamp v vc hv
  have hvars := wroteOutside_vars v vc x s hv
  have hset : (if vc.setAt < s.stabNum then s.stabNum else vc.setAt) = s.stabNum := by
    split <;> omega
  rw [hset] at hvars
  have hsz : vc.node < s.nodes.size := (Q.vars.cell v vc hv).1
  have hkn : (s.nodeD vc.node).kind = .var v := (Q.vars.cell v vc hv).2
  have hwv : (s.nodeD vc.node).valid = true := (var_top I.frag hsz hkn).2
  -- the cases in which the nodes and the heap are untouched
  have same : ∀ s' : State, s'.nodes = s.nodes → s'.rch = s.rch →
      s'.vars[v]? = some { vc with value := x, setAt := s.stabNum } →
      (∀ w, w ≠ v → s'.vars[w]? = s.vars[w]?) →
      s'.stabNum = s.stabNum → s'.status = s.status → s'.panicCountdown = s.panicCountdown →
      s'.currentScope = s.currentScope → s'.observers = s.observers →
      s'.newObservers = s.newObservers → s'.disallowedObservers = s.disallowedObservers →
      s'.alive = s.alive →
      s'.setDuringStab = s.setDuringStab → s'.deadVars = s.deadVars →
      s'.handleAfterStab = s.handleAfterStab → s'.propagateInvalidity = s.propagateInvalidity →
      s'.top = s.top → s'.binds = s.binds → s'.experts = s.experts → s'.ahh = s.ahh →
      (s.isNecessary vc.node = true → (s.nodeD vc.node).inRch = true) →
      C2w.WRel1 v vc x s s' ∧ QInv2 env rk s' := by
    intro s' hn hr h1 h2 h3 h4 h5 h6 h7 h8 h9 h10 h11 h12 h13 h14 h15 h16 h17 h18 hq
    have hD : ∀ m, s'.nodeD m = s.nodeD m := fun m => by simp only [State.nodeD, hn]
    have R : C2w.WRel1 v vc x s s' :=
      ⟨⟨by rw [hn], fun m => ⟨(s.nodeD m).heightInRch, hD m⟩, h1, h2, h3, h4, h5, h6, h7, h8, h9, h10,
        h11, h12, h13, h14, h15⟩, h16, h17, h18⟩
    refine ⟨R, qinv2 Q hv R (struct2 Q hv R ?_ (fun m _ => by rw [hD]) (Or.inl ⟨by rw [hD], hq⟩))
      (fun m _ => by rw [hD])⟩
    exact I.heap.congr hr (by rw [hn]) (fun m => by rw [hD])
  by_cases h2 : s.stabNum ≤ vc.setAt
  · have e := wroteOutside_same_round v vc x s h2
    rw [e] at hvars ⊢
    refine same _ rfl rfl hvars.1 hvars.2 rfl rfl rfl rfl rfl rfl rfl rfl rfl rfl rfl rfl rfl rfl rfl rfl ?_
    intro hn
    apply I.queued _ rfl hn ?_ (fun h => h)
    unfold State.isStale
    simp only [Node.kind?, hwv, if_true, hkn, hv]
    have := (Q.stamps vc.node).1
    simp only [gt_iff_lt, decide_eq_true_eq]; omega
  · have hlt : vc.setAt < s.stabNum := by omega
    by_cases h4 : ((s.nodeD vc.node).valid && s.isNecessary vc.node && !(s.nodeD vc.node).inRch) = true
    · have e : wroteOutside v vc x s =
          inserted vc.node (s.nodeD vc.node).height (stampedWrite v vc x s) := by
        unfold wroteOutside; rw [if_neg h2, if_pos h4]
      rw [e] at hvars ⊢
      obtain ⟨h0, hmax⟩ := hh hlt h4
      rw [Bool.and_eq_true, Bool.and_eq_true] at h4
      obtain ⟨⟨hval, hnec⟩, hnq⟩ := h4
      have hnq' : (s.nodeD vc.node).inRch = false := by simpa using hnq
      have hW : HeapG (stampedWrite v vc x s) := I.heap.congr rfl rfl (fun m => rfl)
      have hI : HeapG (inserted vc.node (s.nodeD vc.node).height (stampedWrite v vc x s)) :=
        HeapG.inserted hW (p := vc.node) hsz hnq' h0 hmax
      have hD : ∀ m, (inserted vc.node (s.nodeD vc.node).height (stampedWrite v vc x s)).nodeD m =
          if vc.node = m ∧ m < s.nodes.size then
            { s.nodeD m with heightInRch := (s.nodeD vc.node).height } else s.nodeD m :=
        fun m => inserted_nodeD _ _ _ m
      have R : C2w.WRel1 v vc x s (inserted vc.node (s.nodeD vc.node).height (stampedWrite v vc x s)) := by
        refine ⟨⟨by simp [inserted, stampedWrite, bumped, withCell], ?_, hvars.1, hvars.2, rfl, rfl, rfl,
          rfl, rfl, rfl, rfl, rfl, rfl, rfl, rfl, rfl, rfl⟩, rfl, rfl, rfl⟩
        intro m
        rw [hD]
        split
        · exact ⟨_, rfl⟩
        · exact ⟨(s.nodeD m).heightInRch, rfl⟩
      have hmark : ∀ m, m ≠ vc.node →
          ((inserted vc.node (s.nodeD vc.node).height (stampedWrite v vc x s)).nodeD m).heightInRch =
            (s.nodeD m).heightInRch := by
        intro m hm
        rw [hD, if_neg (fun e => hm e.1.symm)]
      refine ⟨R, qinv2 Q hv R (struct2 Q hv R hI hmark (Or.inr ⟨hnec, hnq', ?_⟩)) hmark⟩
      rw [hD, if_pos ⟨rfl, hsz⟩]
    · have e : wroteOutside v vc x s = stampedWrite v vc x s := by
        unfold wroteOutside; rw [if_neg h2, if_neg h4]
      rw [e] at hvars ⊢
      refine same _ rfl rfl hvars.1 hvars.2 rfl rfl rfl rfl rfl rfl rfl rfl rfl rfl rfl rfl rfl rfl rfl rfl ?_
      intro hn
      cases hq : (s.nodeD vc.node).inRch with
      | true => rfl
      | false =>
        exfalso; apply h4
        rw [hwv, hn, hq]; rfl

end N4w

/-- **write.** A successful write outside `stabilise` keeps the invariant; the cell gets the new value. -/
theorem writeVar_q2 {env : Env} {rk : Nat → Nat} {s s' : State} {v : Nat} {f : Val → Val} {isSet : Bool} {r : Val}
    (Q : QInv2 env rk s) (h : (writeVar v f isSet).run.run s = (.ok r, s')) :
    QInv2 env rk s' ∧ ∃ vc, s.vars[v]? = some vc ∧ r = vc.value ∧
      s'.vars[v]? = some { vc with value := f vc.value, setAt := s.stabNum } ∧
      (∀ w, w ≠ v → s'.vars[w]? = s.vars[w]?) := by
  obtain ⟨vc, hv⟩ := writeVar_ok_cell h
  have hst : s.status ≠ .stabilising := by rw [Q.status]; intro e; cases e
  obtain ⟨hr, hs', -, -, hh⟩ := writeVar_outside_ok v f isSet s s' vc r hv hst h
  obtain ⟨R, Q'⟩ := N4w.wroteOutside_q (f vc.value) Q hv hh
  rw [← hs'] at R Q'
  exact ⟨Q', vc, hv, hr, R.var, R.other⟩

theorem step_write2 {env : Env} {rk : Nat → Nat} {s s' : State} {a : Action} {tokens : Array Nat} {r : String × Array Nat}
    (Q : QInv2 env rk s) (ha : Quiet.WriteOrRead a) (h : (stepAction env a tokens).run.run s = (.ok r, s')) :
    QInv2 env rk s' :=
  C2w.step_write_p (fun Q h => (writeVar_q2 Q h).1) Q ha h

end IncrVerif.Proofs.NestH
