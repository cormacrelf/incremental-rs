import IncrVerif.Proofs.FullH3
/-!
# C01 full fragment, part 3: what the linking cascade needs of the actual state (`Proofs/MapRefLink.lean` has the invariant and the cascade)
-/
namespace IncrVerif.Proofs.FullH
open IncrVerif.Engine IncrVerif.Proofs IncrVerif.Proofs.Step IncrVerif.Proofs.Sched IncrVerif.Proofs.Quiet
open IncrVerif.Proofs.MapRefH (IsMapRef isMapRef_iff not_isMapRef_iff FM)

/-- what the linking cascade needs of the actual (possibly mid-operation) state; `rk`: the ghost rank of fragment F2 (it decreases along child edges) -/
structure CFrag (env : Env) (sp : Nat → Val → Val) (g : Nat → Option Val) (rk : Nat → Nat) (s : State) : Prop where
  frag : FFrag env sp g s
  kidLt : ∀ n c, c ∈ s.children n → rk c < rk n
  kidsValid : ∀ n c, c ∈ s.children n → (s.nodeD c).valid = true
  kidsIn : ∀ n c, c ∈ s.children n → c < s.nodes.size
  /-- necessary nodes are valid -/
  necValid : ∀ n, s.isNecessary n = true → (s.nodeD n).valid = true
  /-- recorded parent entries are child edges: `(p, i) ∈ parents c → (children p)[i]? = some c` -/
  par : ∀ c p i, (p, i) ∈ (s.nodeD c).parents → (s.children p)[i]? = some c

theorem CFrag.toCK {env : Env} {sp : Nat → Val → Val} {g : Nat → Option Val} {rk : Nat → Nat} {s : State}
    (F : CFrag env sp g rk s) : CK rk s := ⟨F.frag.fr.noExp, F.kidLt, F.kidsValid⟩

end IncrVerif.Proofs.FullH
