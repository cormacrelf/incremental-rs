import IncrVerif.Proofs.NestH1
/-!
# Nested binds, pure part b: a run of a change detector re-establishes the drain invariant (pure logic, from `StepL2`)

The lemmas of `BindH7`/`BindH8` (`StepL.kept` … `stepL_inv`) for the nested contract `StepL2` in place of the flat contract `StepL`.
-/
namespace IncrVerif.Proofs.NestH
open IncrVerif.Engine IncrVerif.Proofs IncrVerif.Proofs.Step IncrVerif.Proofs.Sched
open IncrVerif.Proofs.BindH

/-- the defining equation, pointwise version of `TargetB.congr`; the record of a bind's main node need only keep its `rhs` -/
theorem TargetB.congr2 {env : Env} {s s' : State} {m : Nat} {w : Val}
    (hv : (s.nodeD m).valid = true) (hB : BKind env (s.nodeD m).kind)
    (hk : (s'.nodeD m).kind = (s.nodeD m).kind) (hvars : s'.vars = s.vars)
    (hb : ∀ b lc, (s.nodeD m).kind = .bindMain b lc → ∀ br0, s.binds[b]? = some br0 →
      ∃ br1, s'.binds[b]? = some br1 ∧ br1.rhs = br0.rhs)
    (hc : ∀ c, c ∈ s.children m → (s'.nodeD c).value = (s.nodeD c).value)
    (h : TargetB env s m w) : TargetB env s' m w := by
  unfold TargetB at h ⊢
  rw [hk]
  cases hkd : (s.nodeD m).kind with
  | bindLhsChange b => rw [hkd] at h; exact h
  | bindMain b lc =>
    rw [hkd] at h
    obtain ⟨br, r, h1, h2, h3⟩ := h
    obtain ⟨br1, k1, k2⟩ := hb b lc hkd br h1
    refine ⟨br1, r, k1, by rw [k2]; exact h2, ?_⟩
    rw [hc r ?_]; exact h3
    unfold State.children Node.kind?
    rw [hv, hkd]
    simp only [if_true, h1, h2]
    simp
  | const w' => rw [hkd] at h; simpa only [Target, hk, hkd] using h
  | var c =>
    rw [hkd] at h
    simp only [Target, hk, hkd, hvars] at h ⊢
    exact h
  | map f args =>
    rw [hkd] at h
    have hcs : s.children m = args := by
      unfold State.children Node.kind?; rw [hv, hkd]; rfl
    simp only [Target, hk, hkd] at h ⊢
    obtain ⟨vals, h1, h2⟩ := h
    exact ⟨vals, by rw [plainVals_congr args (fun a ha => hc a (by rw [hcs]; exact ha))]; exact h1, h2⟩
  | fold f init cs =>
    rw [hkd] at h
    have hcs : s.children m = cs := by
      unfold State.children Node.kind?; rw [hv, hkd]; rfl
    simp only [Target, hk, hkd] at h ⊢
    obtain ⟨vals, h1, h2⟩ := h
    exact ⟨vals, by rw [plainVals_congr cs (fun a ha => hc a (by rw [hcs]; exact ha))]; exact h1, h2⟩
  | mapRef _ _ => rw [hkd] at hB; exact hB.elim
  | mapWithOld _ _ => rw [hkd] at hB; exact hB.elim
  | expert _ => rw [hkd] at hB; exact hB.elim

section
variable {env : Env} {n b : Nat} {br br' : BindRec} {r : Option Nat} {s s' : State}

/-- the record of ANY old bind survives with the same `lhs`/`body`/`lhsChange`/`main`; of a bind other than `b` also the same `rhs` -/
theorem P3.rec_old (R : StepL2 env n b br br' r s s') {b2 : Nat} {br0 : BindRec}
    (h0 : s.binds[b2]? = some br0) :
    ∃ br1, s'.binds[b2]? = some br1 ∧ br1.lhsChange = br0.lhsChange ∧ br1.main = br0.main ∧
      (b2 ≠ b → br1.rhs = br0.rhs) := by
  by_cases hb2 : b2 = b
  · subst hb2
    rw [R.bind] at h0; cases h0
    exact ⟨br', R.bind', R.lc.2.1.trans R.lc.1.symm, R.lc.2.2.1, fun h => absurd rfl h⟩
  · obtain ⟨br1, k1, k2, -⟩ := R.bindsOld.2 b2 br0 hb2 h0
    exact ⟨br1, k1, k2.lhsChange, k2.main, fun _ => k2.rhs⟩

/-- an old node other than `n` that is still valid: unchanged in what evaluation reads -/
theorem StepL2.kept (R : StepL2 env n b br br' r s s') {m : Nat} (hm : m < s.nodes.size) (hne : m ≠ n)
    (hv' : (s'.nodeD m).valid = true) :
    (s.nodeD m).valid = true ∧ (s'.nodeD m).kind = (s.nodeD m).kind ∧
      (s'.nodeD m).createdIn = (s.nodeD m).createdIn ∧
      (s'.nodeD m).value = (s.nodeD m).value ∧ (s'.nodeD m).recomputedAt = (s.nodeD m).recomputedAt ∧
      (s'.nodeD m).changedAt = (s.nodeD m).changedAt ∧ (m ≠ br.main → s'.children m = s.children m) := by
  rcases R.old m hm hne with ⟨-, h2, -⟩ | ⟨h1, h2, h3, h4, h5, h6, h7⟩
  · rw [hv'] at h2; cases h2
  · exact ⟨by rw [← h1]; exact hv', h2, h3, h4, h5, h6, h7⟩

/-- the main node of the bind is the only node that has `n` as a child -/
theorem StepL2.lc_only (R : StepL2 env n b br br' r s s') (g : BGraph env s)
    (hk : (s.nodeD n).kind = .bindLhsChange b) {m : Nat} (hm : m < s.nodes.size)
    (hv : (s.nodeD m).valid = true) (hc : n ∈ s.children m) : m = br.main := by
  have h1 := g.lcChild m n b hm hv hc hk
  obtain ⟨br0, h2, h3, -⟩ := g.mainRec m b n hm hv h1
  rw [R.bind] at h2; cases h2
  exact h3.symm

/-- staleness of a kept node other than the main node is unchanged -/
theorem StepL2.stale_kept (R : StepL2 env n b br br' r s s') (g : BGraph env s)
    (hk : (s.nodeD n).kind = .bindLhsChange b) {m : Nat} (hm : m < s.nodes.size) (hne : m ≠ n)
    (hmain : m ≠ br.main) (hv' : (s'.nodeD m).valid = true) : s'.isStale m = s.isStale m := by
  obtain ⟨hv, k1, -, -, k4, -, k6⟩ := R.kept hm hne hv'
  have hB := (g.node m hm hv).1
  have hch := k6 hmain
  apply isStale_congr hB k1 (by rw [hv', hv]) k4 (fun c => by rw [R.vars]) hch
  intro c hc
  have hclt := ((g.node m hm hv).2.2 c hc).1
  have hcn : c ≠ n := by
    intro e; subst e
    exact hmain (R.lc_only g hk hm hv hc)
  have hcv' : (s'.nodeD c).valid = true := by
    have hm' : m < s'.nodes.size := Nat.lt_of_lt_of_le hm R.grow
    exact ((R.graph'.node m hm' hv').2.2 c (by rw [hch]; exact hc)).2
  exact (R.kept hclt hcn hcv').2.2.2.2.2.1

/-- the main node is stale afterwards (if it is still a valid node) -/
theorem StepL2.main_stale (R : StepL2 env n b br br' r s s') (I : DInv env s (some n))
    (hv' : (s'.nodeD br.main).valid = true) : s'.isStale br.main = true := by
  obtain ⟨hm, hc, hc', hne⟩ := R.main
  have hm' : br.main < s'.nodes.size := Nat.lt_of_lt_of_le hm R.grow
  have hfr := I.fresh br.main n (Below.of_edge (Edge.child hc)) (Or.inr rfl)
  apply isStale_of_child hv' hc'
  rw [R.self.2.1, (R.kept hm hne hv').2.2.2.2.1]
  exact hfr

theorem StepL2.self_fresh (R : StepL2 env n b br br' r s s') (I : DInv env s (some n)) :
    s'.isStale n = false := by
  have hlt' : n < s'.nodes.size := Nat.lt_of_lt_of_le I.cur_facts.2.1 R.grow
  apply isStale_fresh (R.graph'.node n hlt' R.self.2.2.2.1).1 R.stamps'.now (by rw [R.self.1, R.stabNum])
  · exact R.stamps'.var
  · intro c; exact (R.stamps'.node c).2

/-- an edge of the new graph that leaves a kept node other than the main node is an edge of the old graph -/
theorem StepL2.edge_old (R : StepL2 env n b br br' r s s') (g : BGraph env s)
    (hnv : (s.nodeD n).valid = true) {a c : Nat}
    (ha : a < s.nodes.size) (hmain : a ≠ br.main) (he : Edge s' a c) : Edge s a c := by
  have hv' := he.valid
  -- a scope edge of an old valid node that keeps its scope: rebuild the edge from the old tables
  have hscope : ∀ (b2 : Nat) (br2 : BindRec), (s.nodeD a).valid = true → (s.nodeD a).createdIn = .bind b2 →
      s'.binds[b2]? = some br2 → Edge s a br2.lhsChange := by
    intro b2 br2 hv hsc hb
    obtain ⟨br0, h0, -⟩ := g.scope a b2 ha hv hsc
    obtain ⟨br1, k1, k2, -⟩ := P3.rec_old R h0
    rw [k1] at hb; cases hb
    rw [k2]
    exact Edge.scope hv hsc h0
  by_cases han : a = n
  · subst han
    cases he with
    | child hc => rw [R.self.2.2.2.2.2.1] at hc; exact Edge.child hc
    | scope hv2 hsc hb =>
      rename_i b2 br2
      exact hscope b2 br2 hnv (R.self.2.2.2.2.2.2.symm.trans hsc) hb
  · obtain ⟨hv, -, k2, -, -, -, k6⟩ := R.kept ha han hv'
    cases he with
    | child hc => rw [k6 hmain] at hc; exact Edge.child hc
    | scope hv2 hsc hb =>
      rename_i b2 br2
      rw [k2] at hsc
      exact hscope b2 br2 hv hsc hb

/-- the key of the `fresh` field: a path of the new graph from a kept old node to a node that is stale (or handed
over) afterwards gives, in the OLD graph, a path to a node that was stale before (and is not `n`), or to `n` itself -/
theorem StepL2.path_old (R : StepL2 env n b br br' r s s') (I : DInv env s (some n))
    (hk : (s.nodeD n).kind = .bindLhsChange b) {a d : Nat} (h : Below s' a d)
    (hd : s'.isStale d = true ∨ r = some d) (ha : a < s.nodes.size)
    (hva : (s'.nodeD a).valid = true) :
    ∃ d0, Below s a d0 ∧ ((s.isStale d0 = true ∧ d0 ≠ n) ∨ (d0 = n ∧ a ≠ n)) := by
  have g := I.graph
  obtain ⟨hn, hnlt, hnv, -, -⟩ := I.cur_facts
  obtain ⟨hmlt, hmc, hmc', hmn⟩ := R.main
  -- the main node always works
  have hmainOK : ∀ x, x = br.main → ∃ d0, Below s x d0 ∧ ((s.isStale d0 = true ∧ d0 ≠ n) ∨ (d0 = n ∧ x ≠ n)) := by
    intro x hx
    subst hx
    exact ⟨n, Below.of_edge (Edge.child hmc), Or.inr ⟨rfl, hmn⟩⟩
  induction h with
  | refl a =>
    by_cases ham : a = br.main
    · exact hmainOK a ham
    by_cases han : a = n
    · exfalso
      subst han
      rcases hd with hd | hd
      · rw [R.self_fresh I] at hd; cases hd
      · exact hmn.symm ((R.ret a hd).1)
    · rcases hd with hd | hd
      · rw [R.stale_kept g hk ha han ham hva] at hd
        exact ⟨a, Below.refl a, Or.inl ⟨hd, han⟩⟩
      · exact absurd (R.ret a hd).1 ham
  | step he hcd ih =>
    rename_i a c d
    by_cases ham : a = br.main
    · exact hmainOK a ham
    have he0 : Edge s a c := R.edge_old g hnv ha ham he
    -- `c` is an old node that is still valid
    have hc : c < s.nodes.size ∧ (s'.nodeD c).valid = true :=
      ⟨(g.edge_target he0).1, (R.graph'.edge_target he).2⟩
    obtain ⟨d0, hb0, hcase⟩ := ih hd hc.1 hc.2
    refine ⟨d0, Below.step he0 hb0, ?_⟩
    rcases hcase with h1 | ⟨h1, h2⟩
    · exact Or.inl h1
    · refine Or.inr ⟨h1, ?_⟩
      intro e
      subst e
      subst h1
      exact g.no_cycle hb0 he0

/-- **A run of a change detector re-establishes the drain invariant** (nested contract), with the bind's main node as
the new current node if it was handed over. -/
theorem stepL2_inv (I : DInv env s (some n)) (hk : (s.nodeD n).kind = .bindLhsChange b)
    (R : StepL2 env n b br br' r s s') : DInv env s' r := by
  have g := I.graph
  obtain ⟨hn, hnlt, hnv, hnq, hnr⟩ := I.cur_facts
  obtain ⟨hmlt, hmc, hmc', hmn⟩ := R.main
  refine ⟨R.graph', R.heap', R.stamps', R.qstale', R.pending', ?_, ?_, ?_⟩
  · -- cons
    intro m hmlt' hmv hst
    by_cases hnew : s.nodes.size ≤ m
    · rw [(R.new m hnew hmlt').2.2 hmv] at hst; cases hst
    have hm : m < s.nodes.size := by omega
    by_cases hmn' : m = n
    · subst hmn'
      refine ⟨.unit, ?_, R.self.2.2.1⟩
      unfold TargetB
      rw [R.self.2.2.2.2.1, hk]
    by_cases hmm : m = br.main
    · subst hmm
      rw [R.main_stale I hmv] at hst; cases hst
    obtain ⟨hv, k1, -, k3, -, -, k6⟩ := R.kept hm hmn' hmv
    have hB := (g.node m hm hv).1
    rw [R.stale_kept g hk hm hmn' hmm hmv] at hst
    obtain ⟨w, hw, hval⟩ := I.cons m hm hv hst
    refine ⟨w, ?_, by rw [k3]; exact hval⟩
    apply TargetB.congr2 hv hB k1 R.vars _ _ hw
    · intro b2 lc2 hk2 br0 h0
      have hb2 : b2 ≠ b := by
        intro hb2
        subst hb2
        obtain ⟨br1, h2, h3, -⟩ := g.mainRec m b2 lc2 hm hv hk2
        rw [R.bind] at h2; cases h2
        exact hmm h3.symm
      obtain ⟨br1, k1, -, -, k4⟩ := P3.rec_old R h0
      exact ⟨br1, k1, k4 hb2⟩
    · intro c hc
      have hclt := ((g.node m hm hv).2.2 c hc).1
      have hcn : c ≠ n := by
        intro e; subst e
        exact hmm (R.lc_only g hk hm hv hc)
      have hcv' : (s'.nodeD c).valid = true :=
        ((R.graph'.node m hmlt' hmv).2.2 c (by rw [k6 hmm]; exact hc)).2
      exact (R.kept hclt hcn hcv').2.2.2.1
  · -- fresh
    intro a d hbel hd
    rw [R.stabNum]
    by_cases hnew : s.nodes.size ≤ a
    · by_cases ha' : a < s'.nodes.size
      · rw [(R.new a hnew ha').1]; have := I.stamps.now; omega
      · rw [nodeD_default_of_ge s' a (by omega)]
        show (-1 : Int) < s.stabNum
        have := I.stamps.now; omega
    have ha : a < s.nodes.size := by omega
    -- an invalid node has no edges and is neither stale nor handed over
    cases hva : (s'.nodeD a).valid with
    | false =>
      exfalso
      have had : a = d := by
        cases hbel with
        | refl => rfl
        | step he _ => rw [he.valid] at hva; cases hva
      subst had
      rcases hd with hd | hd
      · rw [isStale_invalid hva] at hd; cases hd
      · obtain ⟨-, -, h3, -⟩ := R.ret a hd
        rw [(R.graph'.nec a h3).1] at hva; cases hva
    | true =>
      obtain ⟨d0, hb0, hcase⟩ := R.path_old I hk hbel hd ha hva
      have key : (s.nodeD a).recomputedAt < s.stabNum ∧ a ≠ n := by
        rcases hcase with ⟨h1, h2⟩ | ⟨h1, h2⟩
        · refine ⟨I.fresh a d0 hb0 (Or.inl h1), ?_⟩
          intro e
          subst e
          have hdn := (g.below_nec hb0 hn).1
          rcases I.pending d0 hdn h1 with h3 | h3
          · rw [(I.cur a rfl).2 d0 hb0] at h3; cases h3
          · injection h3 with h3; exact h2 h3.symm
        · subst h1
          exact ⟨I.fresh a d0 hb0 (Or.inr rfl), h2⟩
      rw [(R.kept ha key.2 hva).2.2.2.2.1]
      exact key.1
  · -- cur
    intro p hp
    obtain ⟨-, hq, hnec, hmin⟩ := R.ret p hp
    refine ⟨hnec, ?_⟩
    intro d hd
    by_cases hdp : d = p
    · rw [hdp]; exact hq
    · cases hq' : (s'.nodeD d).inRch with
      | false => rfl
      | true =>
        have := hmin d hq'
        have := R.graph'.below_lt hd hnec (Ne.symm hdp)
        omega

end

end IncrVerif.Proofs.NestH
