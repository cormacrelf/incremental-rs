import IncrVerif.Proofs.CutH32
-- static programs with ARBITRARY cutoffs; `Proofs/Quiet26.lean` (default cutoffs) takes its lemmas from this file; overview in Props/C06History.lean
/-!
# Part 26: `create` returns, `dependOn` and `cutoff` included; the clause `TInv.dep`
-/
namespace IncrVerif.Proofs.CutH
open IncrVerif.Engine IncrVerif.Driver IncrVerif.Proofs IncrVerif.Proofs.Step IncrVerif.Proofs.Sched
variable {e : Bool}

/-- a top-level handle that exists resolves -/
theorem resolveOpnd_run {s : State} {o : Opnd} (ho : OpndIn s o) :
    ∃ n, (resolveOpnd [] o).run.run s = (.ok n, s) := by
  cases o with
  | outer k =>
    have hk : k < s.top.size := ho
    refine ⟨s.top[k], ?_⟩
    unfold resolveOpnd
    simp only
    rw [run_bind_get, Array.getElem?_eq_getElem hk]
    rfl
  | _ => exact ho.elim

theorem mapM_resolve_run {s : State} :
    ∀ (l : List Opnd), (∀ a, a ∈ l → OpndIn s a) →
      ∃ r, (l.mapM (fun o => resolveOpnd [] o)).run.run s = (.ok r, s) := by
  intro l
  induction l with
  | nil => intro _; exact ⟨[], by rw [List.mapM_nil, run_pure]⟩
  | cons a l ih =>
    intro hl
    obtain ⟨n, hn⟩ := resolveOpnd_run (hl a (List.mem_cons_self ..))
    obtain ⟨r, hr⟩ := ih (fun x hx => hl x (List.mem_cons_of_mem _ hx))
    exact ⟨n :: r, by rw [List.mapM_cons, run_bind_ok hn, run_bind_ok hr, run_pure]⟩

/-- the input of every `dependOn` cutoff exists -/
def DepOK (s : State) : Prop := ∀ m i, (s.nodeD m).cutoff = .dependOn i → i < s.nodes.size

theorem DepOK.push {s s1 : State} {nd : Node} (D : DepOK s) (h : s1.nodes = s.nodes.push nd)
    (hnd : ∀ i, nd.cutoff = .dependOn i → i < s.nodes.size) : DepOK s1 := by
  intro m i hm
  have hsz : s1.nodes.size = s.nodes.size + 1 := by rw [h, Array.size_push]
  rw [hsz]
  have e : s1.nodeD m = if m < s.nodes.size then s.nodeD m else if m = s.nodes.size then nd else default := by
    unfold State.nodeD
    rw [h, Array.getElem?_push]
    by_cases h1 : m = s.nodes.size
    · rw [if_pos h1, if_neg (by omega), if_pos h1]; rfl
    · rw [if_neg h1]
      by_cases h2 : m < s.nodes.size
      · rw [if_pos h2]
      · rw [if_neg h2, if_neg h1, Array.getElem?_eq_none (by omega)]; rfl
  rw [e] at hm
  split at hm
  · have := D m i hm; omega
  · split at hm
    · have := hnd i hm; omega
    · cases hm

theorem DepOK.cut_set {s : State} (D : DepOK s) (m : Nat) {c : CutoffK} (hc : PlainCut c) :
    DepOK (CutH.cutSet m c s) := by
  intro m' i h
  have hsz : (cutSet m c s).nodes.size = s.nodes.size := (cutSet_sameC m c s).size
  rw [hsz]
  rw [cutSet_cutoff] at h
  split at h
  · rw [h] at hc; exact hc.elim
  · exact D m' i h

/-- the elaboration, at top level, of a static instruction whose operands exist returns -/
theorem elab_ret {env : Env} {s : State} {i : Instr} (hsc : s.currentScope = .top)
    (htop : ∀ (k n : Nat), s.top[k]? = some n → n < s.nodes.size) (hi : StaticInstr env i)
    (hin : InstrIn s i) (D : DepOK s) :
    ∃ ro s1, (elabInstrM env [] .unit i).run.run s = (.ok ro, s1) ∧ s1.ahh = s.ahh ∧
      s1.vars.size = s.vars.size + (grow (.create i)).2.1 ∧ DepOK s1 ∧ (∀ n c, i = .cutoff n c → ro = none) := by
  have hnew : ∀ (k : Kind) (i : Nat), (newNode k).cutoff = .dependOn i → i < s.nodes.size := by
    intro k i h; cases h
  cases i with
  | const v =>
    unfold elabInstrM
    simp only
    unfold elabInstr
    rw [run_bind_get]
    simp only [hsc]
    exact ⟨_, _, map_run_ok (createNode_top_run _ _ s), rfl, rfl, D.push rfl (hnew _), fun _ _ h => by cases h⟩
  | var v =>
    unfold elabInstrM
    simp only
    unfold elabInstr
    rw [run_bind_get]
    simp only
    exact ⟨_, _, map_run_ok (createVar_top_run _ s), rfl, by simp only [Array.size_push]; rfl, D.push rfl (hnew _), fun _ _ h => by cases h⟩
  | map f args =>
    unfold elabInstrM
    simp only
    unfold elabInstr
    rw [run_bind_get]
    simp only [hsc]
    obtain ⟨r, hr⟩ := mapM_resolve_run args hin
    rw [run_bind_ok hr]
    exact ⟨_, _, map_run_ok (createNode_top_run _ _ s), rfl, rfl, D.push rfl (hnew _), fun _ _ h => by cases h⟩
  | fold f init cs =>
    unfold elabInstrM
    simp only
    unfold elabInstr
    rw [run_bind_get]
    simp only [hsc]
    obtain ⟨r, hr⟩ := mapM_resolve_run cs hin
    rw [run_bind_ok hr]
    split
    · exact ⟨_, _, map_run_ok (createNode_top_run _ _ s), rfl, rfl, D.push rfl (hnew _), fun _ _ h => by cases h⟩
    · exact ⟨_, _, map_run_ok (createNode_top_run _ _ s), rfl, rfl, D.push rfl (hnew _), fun _ _ h => by cases h⟩
  | zip a b =>
    unfold elabInstrM
    simp only
    unfold elabInstr
    rw [run_bind_get]
    simp only [hsc]
    obtain ⟨na, hna⟩ := resolveOpnd_run hin.1
    obtain ⟨nb, hnb⟩ := resolveOpnd_run hin.2
    obtain ⟨-, ka, hka⟩ := resolveOpnd_outer_inv hi.1 hna
    obtain ⟨-, kb, hkb⟩ := resolveOpnd_outer_inv hi.2 hnb
    obtain ⟨ca, hca⟩ := isConstant_run (htop ka na hka)
    obtain ⟨cb, hcb⟩ := isConstant_run (htop kb nb hkb)
    rw [run_bind_ok hna, run_bind_ok hnb, run_bind_ok hca, run_bind_ok hcb]
    split
    · exact ⟨_, _, map_run_ok (createNode_top_run _ _ s), rfl, rfl, D.push rfl (hnew _), fun _ _ h => by cases h⟩
    · exact ⟨_, _, map_run_ok (createNode_top_run _ _ s), rfl, rfl, D.push rfl (hnew _), fun _ _ h => by cases h⟩
  | dependOn a b =>
    unfold elabInstrM
    simp only
    unfold elabInstr
    rw [run_bind_get]
    simp only [hsc]
    obtain ⟨na, hna⟩ := resolveOpnd_run hin.1
    obtain ⟨nb, hnb⟩ := resolveOpnd_run hin.2
    obtain ⟨-, ka, hka⟩ := resolveOpnd_outer_inv hi.1 hna
    rw [run_bind_ok hna, run_bind_ok hnb]
    refine ⟨_, _, map_run_ok (createNode_top_run _ _ s), rfl, rfl, D.push rfl ?_, fun _ _ h => by cases h⟩
    intro i h
    have : i = na := by cases h; rfl
    rw [this]; exact htop ka na hka
  | cutoff n c =>
    unfold elabInstrM
    simp only
    unfold elabInstr
    rw [run_bind_get]
    simp only
    obtain ⟨m, hm⟩ := resolveOpnd_run hin.1
    rw [run_bind_ok hm, run_bind_ok (run_modNode _ _ _), run_pure]
    exact ⟨_, _, rfl, rfl, rfl, D.cut_set m hin.2, fun _ _ _ => rfl⟩
  | _ => exact hi.elim

theorem actionOK_create {N : Nat} {s : State} {i : Instr} (h : ActionOK N s (.create i)) :
    InstrIn s i ∧ ((∀ n c, i ≠ .cutoff n c) → s.nodes.size + 1 ≤ N) := by
  cases i <;> first | exact ⟨h.1, fun _ => h.2⟩ | exact ⟨h, fun hne => absurd rfl (hne _ _)⟩

theorem create_total {env : Env} {N : Nat} {s : State} {i : Instr} {tk : Array Nat}
    (hsc : s.currentScope = .top) (htop : ∀ (k n : Nat), s.top[k]? = some n → n < s.nodes.size)
    (T : TInv N s) (hi : StaticInstr env i) (hok : ActionOK N s (.create i)) :
    Tot (stepAction env (.create i) tk) s (fun r s' => r.2 = tk ∧ TInv N s' ∧ Grown (.create i) s s') := by
  obtain ⟨hin, hroom⟩ := actionOK_create hok
  obtain ⟨ro, s1, hrun, hahh, hvs, D1, hnone⟩ := elab_ret hsc htop hi hin T.dep
  unfold stepAction
  simp only
  refine Tot.bind_ok hrun ?_
  rcases elab_static hsc htop hi hrun with ⟨k, cut, ero, hk, hkids, -, C, -⟩ | ⟨n, c, ei, m, ero, es1⟩
  rotate_left
  · -- `cutoff n c`: only a cutoff is replaced
    rw [ero]
    simp only
    have G := cutSet_sameC m c s
    have hsz : s1.nodes.size = s.nodes.size := by rw [es1]; exact G.size
    have hnec : ∀ x, s1.isNecessary x = s.isNecessary x := by intro x; rw [es1]; exact G.nec x
    refine Tot.pure ⟨rfl, ⟨?_, ⟨?_, ?_, ?_⟩, ?_, ?_, ?_, ?_, D1⟩, ?_⟩
    · intro x hn ho
      rw [hnec] at hn
      have := T.hb x hn ho
      rw [es1, (G.node x).height]; exact this
    · rw [hahh]; exact T.room.ahh
    · rw [es1]; exact T.room.rch
    · rw [hsz]; exact T.room.size
    · intro c' vc h; rw [es1] at h; exact T.linked c' vc h
    · rw [hsz, es1]; exact T.topSize
    · rw [es1]; exact T.newNodup
    · intro o ob h1 h2; rw [es1] at h1 h2; exact T.newState o ob h1 h2
    · rw [ei]
      exact ⟨by rw [hsz]; rfl, by rw [es1]; rfl, by rw [es1]; rfl⟩
  have hne : ∀ n c, i ≠ .cutoff n c := by
    intro n c h
    have := hnone n c h
    rw [ero] at this; cases this
  have hroom := hroom hne
  rw [ero]
  simp only
  refine Tot.bind_modify (Tot.pure ⟨rfl, ?_, ?_⟩)
  · refine ⟨?_, ⟨?_, ?_, ?_⟩, ?_, ?_, ?_, ?_, D1⟩
    · intro m hn ho
      have hn' : s1.isNecessary m = true := hn
      have e := C.ne_of_nec hn'
      rw [C.nec_old e] at hn'
      show (s1.nodeD m).height ≤ _
      rw [C.nodeD_old e]; exact T.hb m hn' ho
    · show s1.ahh.maxAllowed = _
      rw [hahh]; exact T.room.ahh
    · show s1.rch.maxAllowed = _
      rw [C.rch]; exact T.room.rch
    · show s1.nodes.size ≤ N
      rw [C.size]; exact hroom
    · intro c vc h
      have h' : s1.vars[c]? = some vc := h
      rcases C.vars with ⟨-, e⟩ | ⟨v, -, ev⟩
      · rw [e] at h'; exact T.linked c vc h'
      · rw [ev, Array.getElem?_push] at h'
        split at h'
        · injection h' with h'
          rw [← h']
        · exact T.linked c vc h'
    · show (s1.top.push _).size = s1.nodes.size
      rw [Array.size_push, C.top, C.size, T.topSize]
    · show s1.newObservers.Nodup
      rw [C.newObservers]; exact T.newNodup
    · intro o ob h1 h2
      have h1' : o ∈ s1.newObservers := h1
      have h2' : s1.observers[o]? = some ob := h2
      rw [C.newObservers] at h1'
      rw [C.observers] at h2'
      exact T.newState o ob h1' h2'
  · refine ⟨?_, ?_, ?_⟩
    · show s1.nodes.size = _
      rw [C.size]
      cases i <;> first | rfl | exact hi.elim | exact absurd rfl (hne _ _)
    · exact hvs
    · show s1.observers.size = _
      rw [C.observers]
      cases i <;> first | rfl | exact hi.elim | exact absurd rfl (hne _ _)

end IncrVerif.Proofs.CutH
