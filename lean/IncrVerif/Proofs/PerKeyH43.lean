import IncrVerif.Proofs.PerKeyH8
import IncrVerif.Proofs.Footprint
/-!
# Per-key operators, static steps part 1: `maybeChangeValue` keeps `State.perkeys`

`KQ.*`: `maybeChangeValue` and the functions it calls write the nodes, the expert records, the log, the counters, the recompute heap, the
handler queue and the fault countdown, never `perkeys` (`Edit.perkeys`).
-/
namespace IncrVerif.Proofs.PerKeyH
open IncrVerif.Engine IncrVerif.Driver IncrVerif.Proofs IncrVerif.Proofs.Step IncrVerif.Proofs.Sched
open IncrVerif.Proofs.ExpertH IncrVerif.Proofs.EffH IncrVerif.Proofs.DriverH IncrVerif.Proofs.Xp IncrVerif.Proofs.Footprint

theorem KQ.shouldCutoff (env n o v) : Step.Pres (Xp.Keeps State.perkeys) (shouldCutoff env n o v) :=
  (Foot.shouldCutoff env n o v).frame (Edit.perkeys (by decide))
theorem KQ.handleAfterStabilisation (n) : Step.Pres (Xp.Keeps State.perkeys) (handleAfterStabilisation n) :=
  (Foot.handleAfterStabilisation n).frame (Edit.perkeys (by decide))
theorem KQ.parentIterCanRecomputeNow (p child) : Step.Pres (Xp.Keeps State.perkeys) (parentIterCanRecomputeNow p child) :=
  (Foot.parentIterCanRecomputeNow p child).frame (Edit.perkeys (by decide))

theorem KQ.maybeChangeValue (env fuel n v) : Step.Pres (Xp.Keeps State.perkeys) (maybeChangeValue env fuel n v) :=
  (Foot.maybeChangeValue env fuel n v).lift (Edit.perkeys (by decide))

end IncrVerif.Proofs.PerKeyH
