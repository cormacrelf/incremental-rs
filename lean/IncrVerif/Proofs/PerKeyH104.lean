import IncrVerif.Proofs.PerKeyH103
/-!
# The callback discipline `SlotInv` in the per-key fragment, part 4: node creation inside a run of a change detector (D)

`ExpertH.CFX σ σ'` (Proofs/ExpertH63): nodes and records only appended, a new expert node names a new record, a new record
has its flag up and neither dependencies nor slots.
* `cfx_slots_mid`: `SlotInv` along `CFX` from `Mid` of the twin; `cfx_slots_pf`: the same from `PFrag` and what the children
  of the records are (`hkids`).
* producers of `CFX`: `cfx_withInputNode` (the fresh per-key record `pk = some (op, some key)` with its node),
  `PresCF.elabTemplateBase_t` (the instance of a template of the fragment), `PresCF.tick`, `PresCF.logEv`,
  `cfx_of_nodes` (anything that keeps `nodes`, `experts`, `nextDep`: the `perkeys` bookkeeping).
-/
namespace IncrVerif.Proofs.PerKeyH
open IncrVerif.Engine IncrVerif.Driver IncrVerif.Proofs IncrVerif.Proofs.Step IncrVerif.Proofs.Sched
open IncrVerif.Proofs.ExpertH IncrVerif.Proofs.EffH IncrVerif.Proofs.Xp IncrVerif.Proofs.DriverH
open IncrVerif.Proofs.ExpertH.QR

/-! ## `SlotInv` along `CFX` -/

/-- **D3.** creation keeps the callback discipline (hypothesis: `Mid` of the twin of the state BEFORE) -/
theorem cfx_slots_mid {env : Env} {l : List Event} {σ σ' : State} (M : Mid (twEnv env) (twL l σ))
    (L : SlotInv env σ) (C : CFX σ σ') : SlotInv env σ' := by
  have F := M.frag
  obtain ⟨rk, S⟩ := M.st
  have R := rankOK_of_allStatic S.static
  refine CFX.slotInv L C (fun n e hk => ?_) (fun n e er hk he ed hed => ?_) (noMapRef_of_twin F)
  · have hkt := (twL_kind_expert l σ n e).2 hk
    obtain ⟨er', h, -⟩ := F.xrec n e (F.lt_of_expert hkt) hkt
    have := (Array.getElem?_eq_some_iff.1 h).1
    rwa [twL_experts_size] at this
  · have hkt := (twL_kind_expert l σ n e).2 hk
    have := R.kidsIn n (F.lt_of_expert hkt) ed.child (by
      rw [hkt]
      simp only [kidsX, xRec_some (tw_rec_get (l := l) he), twRec_children]
      exact List.mem_map_of_mem hed)
    rwa [twL_size] at this

/-- the same from the fragment of the actual state -/
theorem cfx_slots_pf {env : Env} {σ σ' : State} (F : PFrag env σ)
    (hkids : ∀ n e er, (σ.nodeD n).kind = .expert e → σ.experts[e]? = some er →
      ∀ ed, ed ∈ er.children → ed.child < σ.nodes.size)
    (L : SlotInv env σ) (C : CFX σ σ') : SlotInv env σ' := by
  refine CFX.slotInv L C (fun n e hk => ?_) hkids F.noMapRef
  obtain ⟨er, h, -⟩ := F.xrec n e (lt_of_expert hk) hk
  exact (Array.getElem?_eq_some_iff.1 h).1

/-! ## producers of `CFX` -/

theorem cfx_of_nodes {s s' : State} (h1 : s'.nodes = s.nodes) (h2 : s'.experts = s.experts)
    (h3 : s'.nextDep = s.nextDep) : CFX s s' := CFX.of_nodes h1 h2 h3

/-- the first three actions of a new key: the per-key record is pushed, its node created, the record names the node -/
theorem cfx_withInputNode (op : Nat) (key : Int) (sc : Scope) (s : State) : CFX s (PKL.withInputNode op key sc s) :=
  CFX.pushX (PKL.withInputNode_nodes op key sc s) rfl (PKL.withInputNode_experts op key sc s) ⟨rfl, rfl, rfl⟩
    (by simp [PKL.withInputNode])

theorem PresCF.tick : Step.Pres CFX Engine.tick := by unfold Engine.tick; qpres
theorem PresCF.logEv (e : Event) : Step.Pres CFX (Engine.logEv e) := by unfold Engine.logEv; qpres

/-- one instruction of a template of the fragment creates a static node -/
theorem PresCF.elabInstr_t {env : Env} {i : Instr} (hi : TInstrOK env i) (loc : List Nat) (lhsVal : Val) :
    Step.Pres CFX (Engine.elabInstr loc lhsVal i) := by
  unfold Engine.elabInstr
  cases i <;> first | exact hi.elim | (dsimp only; qpres; done)

/-- the instance of a template of the fragment -/
theorem PresCF.elabTemplateBase_t {env : Env} {t : Template} (ht : ∀ i, i ∈ t.instrs → TInstrOK env i)
    (lhsVal : Val) (init : List Nat) : Step.Pres CFX (Engine.elabTemplateBase t lhsVal init) := by
  unfold Engine.elabTemplateBase
  refine Step.Pres.bind (Step.Pres.forIn_mem fun i hi b => ?_) fun _ => ?_
  · have := PresCF.elabInstr_t (ht i hi) b lhsVal
    qpres
    exact this
  · qpres

/-- a successful instance of a template keeps the callback discipline -/
theorem elabTemplateBase_slots {env : Env} {l : List Event} {σ σ' : State} {t : Template} {lhsVal : Val}
    {init : List Nat} {r : Except Panic Nat} (M : Mid (twEnv env) (twL l σ)) (L : SlotInv env σ)
    (ht : ∀ i, i ∈ t.instrs → TInstrOK env i)
    (h : (elabTemplateBase t lhsVal init).run.run σ = (r, σ')) : SlotInv env σ' :=
  cfx_slots_mid M L ((PresCF.elabTemplateBase_t ht lhsVal init).h _ _ _ h)

end IncrVerif.Proofs.PerKeyH
