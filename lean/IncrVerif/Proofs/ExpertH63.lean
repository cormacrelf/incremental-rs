import IncrVerif.Proofs.ExpertH61
/-!
# Expert nodes, E2: `SlotInv` through the API actions outside `stabilise`

* `action_static_slots`: the static actions (node creation pushes a non-expert node: `CFX`; the others are neutral:
  `SR`/`FM`);
* `create_expert_slots`: `create (expert f)` (`CFX` again: a fresh record, flag up, no dependencies);
* `addDep_slots` is in `ExpertH64`.
-/
namespace IncrVerif.Proofs.ExpertH
open IncrVerif.Engine IncrVerif.Driver IncrVerif.Proofs IncrVerif.Proofs.Step IncrVerif.Proofs.Sched
open IncrVerif.Proofs.ExpertH.QR IncrVerif.Proofs.Xp

/-! ## `FM` for the remaining API functions -/

theorem PresM.getVar (v) : Step.Pres FM (Engine.getVar v) := Step.Pres.getVar v
theorem PresM.didSetVarWhileNotStabilising (v) : Step.Pres FM (Engine.didSetVarWhileNotStabilising v) :=
  PresM.of_foot (Footprint.Foot.didSetVarWhileNotStabilising v) (by decide)
fm_leaf PresM.didSetVarWhileNotStabilising
theorem PresM.writeVar (v f b) : Step.Pres FM (Engine.writeVar v f b) := PresM.of_foot (Footprint.Foot.writeVar v f b) (by decide)
fm_leaf PresM.writeVar
theorem PresM.subscribe (o h) : Step.Pres FM (Engine.subscribe o h) := PresM.of_foot (Footprint.Foot.subscribe o h) (by decide)
fm_leaf PresM.subscribe
theorem PresM.unsubscribe (o t w) : Step.Pres FM (Engine.unsubscribe o t w) := PresM.of_foot (Footprint.Foot.unsubscribe o t w) (by decide)
fm_leaf PresM.unsubscribe
theorem PresM.setMaxHeightAllowed (k) : Step.Pres FM (Engine.setMaxHeightAllowed k) :=
  PresM.of_foot (Footprint.Foot.setMaxHeightAllowed k) (by decide)
fm_leaf PresM.setMaxHeightAllowed

theorem FM.of_act {L a} (hL : ∀ t ∈ L, t ∉ FM.breaks) {s s' : State} (e : Footprint.ActEdit L a s s') : FM s s' := by
  cases e with
  | engine e => exact FM.of_edit hL e
  | _ => exact FM.of_nodes rfl rfl rfl

theorem PresM.stepAction (env : Env) (a : Action) (tk : Array Nat) (h : XAct a) :
    Step.Pres FM (Engine.stepAction env a tk) :=
  (Footprint.Foot.stepAction env a tk).lift
    (FM.of_act (by cases a <;> first | exact False.elim h | (dsimp only [Footprint.W.stepAction]; decide)))

/-- every action but `create`, `addDep`, `stabilise` keeps `SlotInv` (returning or panicking) -/
theorem xact_slots {env : Env} {s s' : State} {a : Action} {tk : Array Nat} {r : Except Panic (String × Array Nat)}
    (L : SlotInv env s) (ha : XAct a) (h : (stepAction env a tk).run.run s = (r, s')) : SlotInv env s' :=
  slotInv_of_sr_fm L ((PresR.stepAction env a tk ha).h _ _ _ h) ((PresM.stepAction env a tk ha).h _ _ _ h)

/-! ## creation: the frame `CFX` -/

/-- nodes and records are only appended; a new expert node names a new record; a new record has its flag up and
neither dependencies nor slots -/
structure CFX (s s' : State) : Prop where
  size : s.nodes.size ≤ s'.nodes.size
  old : ∀ m, m < s.nodes.size → s'.nodeD m = s.nodeD m
  new : ∀ m e, s.nodes.size ≤ m → (s'.nodeD m).kind = .expert e → s.experts.size ≤ e
  xsize : s.experts.size ≤ s'.experts.size
  xold : ∀ e : Nat, e < s.experts.size → s'.experts[e]? = s.experts[e]?
  xnew : ∀ (e : Nat) (er : ExpertRec), s.experts.size ≤ e → s'.experts[e]? = some er →
    er.children = [] ∧ er.slots = [] ∧ er.willFireAllCallbacks = true
  nextDep : s'.nextDep = s.nextDep

theorem CFX.refl (s : State) : CFX s s := by
  refine ⟨Nat.le_refl _, fun _ _ => rfl, fun m e hm hk => ?_, Nat.le_refl _, fun _ _ => rfl,
    fun e er he h => ?_, rfl⟩
  · rw [nodeD_default_of_ge s m hm] at hk; cases hk
  · have := (Array.getElem?_eq_some_iff.1 h).1; omega

theorem CFX.trans {a b c : State} (h1 : CFX a b) (h2 : CFX b c) : CFX a c := by
  refine ⟨Nat.le_trans h1.size h2.size, fun m hm => ?_, fun m e hm hk => ?_, Nat.le_trans h1.xsize h2.xsize,
    fun e he => ?_, fun e er he h => ?_, h2.nextDep.trans h1.nextDep⟩
  · rw [h2.old m (Nat.lt_of_lt_of_le hm h1.size), h1.old m hm]
  · by_cases hb : m < b.nodes.size
    · rw [h2.old m hb] at hk; exact h1.new m e hm hk
    · exact Nat.le_trans h1.xsize (h2.new m e (by omega) hk)
  · rw [h2.xold e (Nat.lt_of_lt_of_le he h1.xsize), h1.xold e he]
  · by_cases hb : e < b.experts.size
    · rw [h2.xold e hb] at h; exact h1.xnew e er he h
    · exact h2.xnew e er (by omega) h
instance : Step.PreOrd CFX := ⟨CFX.refl, CFX.trans⟩

theorem CFX.of_nodes {s s' : State} (h1 : s'.nodes = s.nodes) (h2 : s'.experts = s.experts)
    (h3 : s'.nextDep = s.nextDep) : CFX s s' := by
  have hn : ∀ m, s'.nodeD m = s.nodeD m := fun m => by simp [State.nodeD, h1]
  refine ⟨by rw [h1]; exact Nat.le_refl _, fun m _ => hn m, fun m e hm hk => ?_, by rw [h2]; exact Nat.le_refl _,
    fun e _ => by rw [h2], fun e er he h => ?_, h3⟩
  · rw [hn, nodeD_default_of_ge s m hm] at hk; cases hk
  · rw [h2] at h; have := (Array.getElem?_eq_some_iff.1 h).1; omega

macro_rules
  | `(tactic| qleaf) =>
    `(tactic| ((with_reducible apply Step.Pres.modify); intro _; exact CFX.of_nodes rfl rfl rfl))

/-- one node pushed -/
theorem CFX.push {s s' : State} {nd : Node} (h1 : s'.nodes = s.nodes.push nd) (hne : ∀ e, nd.kind ≠ .expert e)
    (h2 : s'.experts = s.experts) (h3 : s'.nextDep = s.nextDep) : CFX s s' := by
  refine ⟨by rw [h1, Array.size_push]; omega, fun m hm => ?_, fun m e hm hk => ?_, by rw [h2]; exact Nat.le_refl _,
    fun e _ => by rw [h2], fun e er he h => ?_, h3⟩
  · simp only [State.nodeD, h1, Array.getElem?_push, if_neg (Nat.ne_of_lt hm)]
  · by_cases hm' : m = s.nodes.size
    · have : s'.nodeD m = nd := by
        simp only [State.nodeD, h1, Array.getElem?_push, hm', if_true, Option.getD_some]
      rw [this] at hk; exact absurd hk (hne e)
    · have : s'.nodeD m = default := by
        apply nodeD_default_of_ge; rw [h1, Array.size_push]; omega
      rw [this] at hk; cases hk
  · rw [h2] at h; have := (Array.getElem?_eq_some_iff.1 h).1; omega

theorem PresCF.createNode (k : Kind) (sc : Scope) (c : CutoffK) (hne : ∀ e, k ≠ .expert e) :
    Step.Pres CFX (Engine.createNode k sc c) := by
  constructor
  intro s r s' h
  rw [run_createNode] at h
  cases h
  refine CFX.push (crState_nodes k sc c s) hne (crState_experts k sc c s) ?_
  unfold crState; cases sc <;> rfl
macro_rules
  | `(tactic| qleaf) => `(tactic| ((with_reducible apply PresCF.createNode); intro _ h; cases h))

theorem PresCF.resolveOpnd (loc o) : Step.Pres CFX (Engine.resolveOpnd loc o) := by
  unfold Engine.resolveOpnd; qpres
macro_rules | `(tactic| qleaf) => `(tactic| with_reducible apply PresCF.resolveOpnd)
theorem PresCF.isConstant (n) : Step.Pres CFX (Engine.isConstant n) := by unfold Engine.isConstant; qpres
macro_rules | `(tactic| qleaf) => `(tactic| with_reducible apply PresCF.isConstant)
theorem PresCF.createVar (v sc) : Step.Pres CFX (Engine.createVar v sc) := by unfold Engine.createVar; qpres
macro_rules | `(tactic| qleaf) => `(tactic| with_reducible apply PresCF.createVar)

theorem PresCF.elabInstr {i : Instr} (hi : XInstr i) : Step.Pres CFX (Engine.elabInstr [] .unit i) := by
  unfold Engine.elabInstr
  cases i <;> first | exact hi.elim | (dsimp only; qpres; done)

theorem PresCF.create (env : Env) {i : Instr} (tk : Array Nat) (hi : XInstr i) :
    Step.Pres CFX (Engine.stepAction env (.create i) tk) := by
  unfold Engine.stepAction
  dsimp only
  rw [elabInstrM_eq _ _ _ hi]
  have := PresCF.elabInstr hi
  qpres
  exact this

/-- one expert node pushed, with its fresh record -/
theorem CFX.pushX {s s' : State} {nd : Node} {er : ExpertRec} (h1 : s'.nodes = s.nodes.push nd)
    (hk : nd.kind = .expert s.experts.size) (h2 : s'.experts = s.experts.push er)
    (hnew : er.children = [] ∧ er.slots = [] ∧ er.willFireAllCallbacks = true) (h3 : s'.nextDep = s.nextDep) :
    CFX s s' := by
  have hsz : s'.nodes.size = s.nodes.size + 1 := by rw [h1, Array.size_push]
  refine ⟨by rw [hsz]; omega, fun m hm => ?_, fun m e hm hke => ?_, by rw [h2, Array.size_push]; omega, fun e he => ?_,
    fun e er' he h => ?_, h3⟩
  · simp only [State.nodeD, h1, Array.getElem?_push, if_neg (Nat.ne_of_lt hm)]
  · by_cases hm' : m = s.nodes.size
    · have : s'.nodeD m = nd := by
        simp only [State.nodeD, h1, Array.getElem?_push, hm', if_true, Option.getD_some]
      rw [this, hk] at hke
      cases hke; exact Nat.le_refl _
    · have : s'.nodeD m = default := by
        apply nodeD_default_of_ge; rw [hsz]; omega
      rw [this] at hke; cases hke
  · simp only [h2, Array.getElem?_push, if_neg (Nat.ne_of_lt he)]
  · simp only [h2, Array.getElem?_push] at h
    split at h
    · cases h; exact hnew
    · have := (Array.getElem?_eq_some_iff.1 h).1; omega

/-- the state after `create (expert f)` -/
theorem cfx_xCreated (f : Nat) (s : State) : CFX s (xCreated f s) :=
  CFX.pushX rfl rfl rfl ⟨rfl, rfl, rfl⟩ rfl

/-! ## `SlotInv` along `CFX` -/

theorem isStale_expert_congr' {s s' : State} {n e : Nat} {er : ExpertRec}
    (hn : s'.nodeD n = s.nodeD n) (hk : (s.nodeD n).kind = .expert e)
    (he : s.experts[e]? = some er) (he' : s'.experts[e]? = some er)
    (hc : ∀ ed, ed ∈ er.children → s'.nodeD ed.child = s.nodeD ed.child) : s'.isStale n = s.isStale n := by
  unfold State.isStale State.children
  simp only [hn]
  cases hv : (s.nodeD n).valid with
  | false => simp [Node.kind?, hv]
  | true =>
    have : (s.nodeD n).kind? = some (.expert e) := by simp [Node.kind?, hv, hk]
    simp only [this, he, he']
    have hany : ∀ l : List ExpertEdge, (∀ ed, ed ∈ l → s'.nodeD ed.child = s.nodeD ed.child) →
        (l.map (·.child)).any (fun c => decide ((s'.nodeD c).changedAt > (s.nodeD n).recomputedAt)) =
        (l.map (·.child)).any (fun c => decide ((s.nodeD c).changedAt > (s.nodeD n).recomputedAt)) := by
      intro l
      induction l with
      | nil => intro _; rfl
      | cons a l ih =>
        intro h
        simp only [List.map_cons, List.any_cons]
        rw [h a List.mem_cons_self, ih (fun ed hed => h ed (List.mem_cons_of_mem _ hed))]
    rw [hany er.children hc]

theorem CFX.slotInv {env : Env} {s s' : State} (L : SlotInv env s) (C : CFX s s')
    (hx : ∀ n e, (s.nodeD n).kind = .expert e → e < s.experts.size)
    (hkids : ∀ n e er, (s.nodeD n).kind = .expert e → s.experts[e]? = some er →
      ∀ ed, ed ∈ er.children → ed.child < s.nodes.size)
    (hmr : ∀ m p i, (s.nodeD m).kind ≠ .mapRef p i) : SlotInv env s' := by
  -- an expert node of `s'` with its record: old node and old record, or a fresh record
  have key : ∀ n e er', (s'.nodeD n).kind = .expert e → s'.experts[e]? = some er' →
      (n < s.nodes.size ∧ s'.nodeD n = s.nodeD n ∧ (s.nodeD n).kind = .expert e ∧ s.experts[e]? = some er') ∨
      (er'.children = [] ∧ er'.willFireAllCallbacks = true) := by
    intro n e er' hk he
    by_cases hn : n < s.nodes.size
    · have hk0 : (s.nodeD n).kind = .expert e := by rw [← C.old n hn]; exact hk
      have := C.xold e (hx n e hk0)
      exact Or.inl ⟨hn, C.old n hn, hk0, by rw [← this]; exact he⟩
    · have := C.xnew e er' (C.new n e (by omega) hk) he
      exact Or.inr ⟨this.1, this.2.2⟩
  refine ⟨fun e er' he => ?_, fun n e er' hk he hw => ?_, fun n e er' hk he hpre => ?_⟩
  · by_cases hlt : e < s.experts.size
    · rw [C.xold e hlt] at he; rw [C.nextDep]; exact L.deps e er' he
    · obtain ⟨h1, h2, -⟩ := C.xnew e er' (by omega) he
      rw [h1, h2]
      refine ⟨List.nodup_nil, ?_, ?_⟩ <;> intro _ h <;> cases h
  · rcases key n e er' hk he with ⟨-, hn, hk0, he0⟩ | ⟨-, hf⟩
    · have := L.flag n e er' hk0 he0 hw
      simp only [State.isNecessary, hn] at this ⊢; exact this
    · rw [hf] at hw; cases hw
  · rcases key n e er' hk he with ⟨hlt, hn, hk0, he0⟩ | ⟨hc, -⟩
    · have hkid := hkids n e er' hk0 he0
      have hst : s'.isStale n = s.isStale n :=
        isStale_expert_congr' hn hk0 he0 he fun ed hed => C.old _ (hkid ed hed)
      rw [hst] at hpre
      intro ed hed hcb
      have hnd := C.old _ (hkid ed hed)
      rw [L.good n e er' hk0 he0 hpre ed hed hcb, value_plain env s _ (hmr _), value_plain env s' _ (by
        rw [hnd]; exact hmr _), hnd]
    · intro ed hed; rw [hc] at hed; cases hed

/-- the facts of the fragment that the creation frame needs -/
theorem qinvX_expert_facts {env : Env} {rk : Nat → Nat} {s : State} (Q : QInvX env rk s) :
    (∀ n e, (s.nodeD n).kind = .expert e → e < s.experts.size) ∧
    (∀ n e er, (s.nodeD n).kind = .expert e → s.experts[e]? = some er →
      ∀ ed, ed ∈ er.children → ed.child < s.nodes.size) ∧
    (∀ m p i, (s.nodeD m).kind ≠ .mapRef p i) := by
  refine ⟨fun n e hk => ?_, fun n e er hk he ed hed => ?_, Q.frag.noMapRef⟩
  · obtain ⟨er, h, -⟩ := Q.frag.xrec n e (Q.frag.lt_of_expert hk) hk
    exact (Array.getElem?_eq_some_iff.1 h).1
  · have R := rankOK_of_allStatic Q.q.struct.static
    refine R.kidsIn n (Q.frag.lt_of_expert hk) ed.child ?_
    rw [hk]; simp only [kidsX, xRec_some he]
    exact List.mem_map_of_mem hed

/-- **the static API actions keep `SlotInv`** -/
theorem action_static_slots {env : Env} {rk : Nat → Nat} {s s' : State} {a : Action} {tk : Array Nat}
    {r : String × Array Nat} (Q : QInvX env rk s) (L : SlotInv env s) (ha : XStaticAction env a)
    (h : (stepAction env a tk).run.run s = (.ok r, s')) : SlotInv env s' := by
  by_cases hc : ∃ i, a = .create i
  · obtain ⟨i, rfl⟩ := hc
    obtain ⟨h1, h2, h3⟩ := qinvX_expert_facts Q
    exact CFX.slotInv L ((PresCF.create env tk (XStaticInstr.xinstr ha)).h _ _ _ h) h1 h2 h3
  · exact xact_slots L (ha.xact fun i e => hc ⟨i, e⟩) h

/-- **`create (expert f)` keeps `SlotInv`** -/
theorem create_expert_slots {env : Env} {rk : Nat → Nat} {f : Nat} {tk : Array Nat} {s s' : State}
    {r : String × Array Nat} (Q : QInvX env rk s) (L : SlotInv env s)
    (h : (stepAction env (.create (.expert f)) tk).run.run s = (.ok r, s')) : SlotInv env s' := by
  have hsc : s.currentScope = .top := Q.q.struct.static.scope
  rw [step_create_expert_inv hsc h]
  obtain ⟨h1, h2, h3⟩ := qinvX_expert_facts Q
  exact CFX.slotInv L (cfx_xCreated f s) h1 h2 h3

end IncrVerif.Proofs.ExpertH
