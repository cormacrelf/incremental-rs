import IncrVerif.Proofs.PerKeyH1
import IncrVerif.Proofs.ExpertH23
/-!
# The twin simulation `TSim`, part 1: field lemmas of `twL`; the twin as a family of relabellings; the one-sided rules

`TSimL s l x x'` is `TSimAt s x x'` at a FIXED twin log `l` (the log of the twin after the run is existentially quantified).
`TSim x x' ↔ ∀ s l, TSimL s l x x'`.  `twL l` is `(twRel l).app` for a family of relabellings (`NodeSim`), one for each log of the twin;
`(twRel l, Fr)` is `NodeSim.Blind`, and `TSimL` is `NodeSim.CommXAt` over the family (`tsimL_iff`): the shared calculus and walk apply.
What is special to the twin are the steps that only one side takes (`getL_seq`, `logR_seq`, …).
-/
namespace IncrVerif.Proofs.PerKeyH
open IncrVerif.Engine IncrVerif.Driver IncrVerif.Proofs IncrVerif.Proofs.Step IncrVerif.Proofs.Sched
open IncrVerif.Proofs.ExpertH IncrVerif.Proofs.EffH

/-! ## field projections -/

section fields
variable (l : List Event) (s : State)
theorem twL_cfg : (twL l s).cfg = s.cfg := rfl
theorem twL_vars : (twL l s).vars = s.vars := rfl
theorem twL_binds : (twL l s).binds = s.binds := rfl
theorem twL_observers : (twL l s).observers = s.observers := rfl
theorem twL_rch : (twL l s).rch = s.rch := rfl
theorem twL_ahh : (twL l s).ahh = s.ahh := rfl
theorem twL_maxHeightSeen : (twL l s).maxHeightSeen = s.maxHeightSeen := rfl
theorem twL_status : (twL l s).status = s.status := rfl
theorem twL_currentScope : (twL l s).currentScope = s.currentScope := rfl
theorem twL_handleAfterStab : (twL l s).handleAfterStab = s.handleAfterStab := rfl
theorem twL_newObservers : (twL l s).newObservers = s.newObservers := rfl
theorem twL_disallowedObservers : (twL l s).disallowedObservers = s.disallowedObservers := rfl
theorem twL_allObservers : (twL l s).allObservers = s.allObservers := rfl
theorem twL_setDuringStab : (twL l s).setDuringStab = s.setDuringStab := rfl
theorem twL_deadVars : (twL l s).deadVars = s.deadVars := rfl
theorem twL_counters : (twL l s).counters = s.counters := rfl
theorem twL_nextToken : (twL l s).nextToken = s.nextToken := rfl
theorem twL_nextDep : (twL l s).nextDep = s.nextDep := rfl
theorem twL_panicCountdown : (twL l s).panicCountdown = s.panicCountdown := rfl
theorem twL_currentlyRunning : (twL l s).currentlyRunning = s.currentlyRunning := rfl
theorem twL_alive : (twL l s).alive = s.alive := rfl
theorem twL_top : (twL l s).top = s.top := rfl
theorem twL_handles : (twL l s).handles = s.handles := rfl
theorem twL_slots : (twL l s).slots = s.slots := rfl
theorem twL_memos : (twL l s).memos = s.memos := rfl
theorem twL_perkeys : (twL l s).perkeys = s.perkeys := rfl
theorem twL_log : (twL l s).log = l := rfl
theorem twL_nodes : (twL l s).nodes = s.nodes.map twNode := rfl
theorem twL_experts : (twL l s).experts = s.experts.map twRec := rfl
theorem twL_size : (twL l s).nodes.size = s.nodes.size := by simp [twL]
theorem twL_experts_size : (twL l s).experts.size = s.experts.size := by simp [twL]
end fields

theorem twKind_idem (k : Kind) : twKind (twKind k) = twKind k := by
  cases k <;> try rfl
  rename_i f args
  simp only [twKind]
  split
  · simp [fnIdent, fnPerKey]
  · rename_i h; simp [h]

theorem twNode_idem (nd : Node) : twNode (twNode nd) = twNode nd := by
  simp only [twNode, twKind_idem]

theorem twRec_idem (er : ExpertRec) : twRec (twRec er) = twRec er := rfl

theorem twL_relog (l l' : List Event) (s : State) : twL l' (twL l s) = twL l' s := by
  have h1 : twNode ∘ twNode = twNode := funext twNode_idem
  have h2 : twRec ∘ twRec = twRec := funext twRec_idem
  simp only [twL, Array.map_map, h1, h2]

section nodes
variable (nd : Node)
theorem twNode_kind : (twNode nd).kind = twKind nd.kind := rfl
theorem twNode_valid : (twNode nd).valid = nd.valid := rfl
theorem twNode_cutoff : (twNode nd).cutoff = nd.cutoff := rfl
theorem twNode_createdIn : (twNode nd).createdIn = nd.createdIn := rfl
theorem twNode_parents : (twNode nd).parents = nd.parents := rfl
theorem twNode_observers : (twNode nd).observers = nd.observers := rfl
theorem twNode_forceNecessary : (twNode nd).forceNecessary = nd.forceNecessary := rfl
theorem twNode_height : (twNode nd).height = nd.height := rfl
theorem twNode_heightInRch : (twNode nd).heightInRch = nd.heightInRch := rfl
theorem twNode_heightInAhh : (twNode nd).heightInAhh = nd.heightInAhh := rfl
theorem twNode_changedAt : (twNode nd).changedAt = nd.changedAt := rfl
theorem twNode_recomputedAt : (twNode nd).recomputedAt = nd.recomputedAt := rfl
theorem twNode_value : (twNode nd).value = nd.value := rfl
theorem twNode_num : (twNode nd).numOnUpdateHandlers = nd.numOnUpdateHandlers := rfl
theorem twNode_inHas : (twNode nd).inHandleAfterStab = nd.inHandleAfterStab := rfl
theorem twNode_oldState : (twNode nd).oldState = nd.oldState := rfl
theorem twNode_didChange : (twNode nd).didChange = nd.didChange := rfl
theorem twNode_isNecessary : (twNode nd).isNecessary = nd.isNecessary := rfl
theorem twNode_inRch : (twNode nd).inRch = nd.inRch := rfl
theorem twNode_default : twNode default = default := rfl
theorem twNode_kind? : (twNode nd).kind? = (nd.kind?).map twKind := by
  simp only [Node.kind?, twNode_valid, twNode_kind]
  by_cases h : nd.valid = true <;> simp [h]
end nodes

section recs
variable (er : ExpertRec)
theorem twRec_f : (twRec er).f = er.f := rfl
theorem twRec_node : (twRec er).node = er.node := rfl
theorem twRec_children : (twRec er).children = er.children := rfl
theorem twRec_slots : (twRec er).slots = er.slots := rfl
theorem twRec_script : (twRec er).script = er.script := rfl
theorem twRec_sel : (twRec er).sel = er.sel := rfl
theorem twRec_pk : (twRec er).pk = none := rfl
theorem twRec_forceStale : (twRec er).forceStale = er.forceStale := rfl
theorem twRec_numInvalidChildren : (twRec er).numInvalidChildren = er.numInvalidChildren := rfl
theorem twRec_willFireAllCallbacks : (twRec er).willFireAllCallbacks = er.willFireAllCallbacks := rfl
end recs

theorem twKind_not_map {k : Kind} (h : ∀ f args, k ≠ .map f args) : twKind k = k := by
  cases k <;> first | rfl | exact absurd rfl (h _ _)

theorem twKind_small {f : Nat} {args : List Nat} (h : f < fnPerKey) : twKind (.map f args) = .map f args := by
  simp [twKind, Nat.not_le.2 h]

theorem XK_twKind (k : Kind) : XK (twKind k) ↔ XK k := by
  cases k <;> simp [twKind, XK]

/-! ## state-level readers -/

section readers
variable (l : List Event) (s : State)

theorem twL_getElem? (m : Nat) : (twL l s).nodes[m]? = (s.nodes[m]?).map twNode := by
  simp [twL, Array.getElem?_map]

theorem twL_experts_getElem? (e : Nat) : (twL l s).experts[e]? = (s.experts[e]?).map twRec := by
  simp [twL, Array.getElem?_map]

theorem twL_nodeD (m : Nat) : (twL l s).nodeD m = twNode (s.nodeD m) := by
  unfold State.nodeD
  rw [twL_getElem?]
  cases h : s.nodes[m]? with
  | none => simp [twNode_default]
  | some nd => simp

theorem twL_isNecessary (m : Nat) : (twL l s).isNecessary m = s.isNecessary m := by
  simp [State.isNecessary, twL_nodeD, twNode_isNecessary]

theorem twL_kind? (m : Nat) : ((twL l s).nodeD m).kind? = ((s.nodeD m).kind?).map twKind := by
  rw [twL_nodeD, twNode_kind?]

theorem twL_children (m : Nat) : (twL l s).children m = s.children m := by
  unfold State.children
  rw [twL_kind?]
  cases h : (s.nodeD m).kind? with
  | none => rfl
  | some k =>
    cases k <;> try rfl
    rename_i e
    simp only [Option.map_some, twKind, twL_experts_getElem?]
    cases s.experts[e]? <;> rfl

theorem twL_isStale (m : Nat) : (twL l s).isStale m = s.isStale m := by
  unfold State.isStale
  simp only [twL_children, twL_nodeD, twNode_kind?, twNode_changedAt, twL_vars, twNode_recomputedAt]
  cases h : (s.nodeD m).kind? with
  | none => rfl
  | some k =>
    cases k <;> try rfl
    rename_i e
    simp only [Option.map_some, twKind, twL_experts_getElem?]
    cases s.experts[e]? <;> rfl

theorem twL_needsToBeComputed (m : Nat) : (twL l s).needsToBeComputed m = s.needsToBeComputed m := by
  simp [State.needsToBeComputed, twL_isNecessary, twL_isStale]

theorem twL_valueWith (proj : Nat → Val → Val) (fuel n : Nat) :
    (twL l s).valueWith proj fuel n = s.valueWith proj fuel n := by
  induction fuel generalizing n with
  | zero => rfl
  | succ fuel ih =>
    simp only [State.valueWith, twL_nodeD, twNode_kind?, twNode_value]
    cases h : (s.nodeD n).kind? with
    | none => rfl
    | some k =>
      cases k <;> try rfl
      simp only [Option.map_some, twKind, ih]

theorem twL_value' (env : Env) (n : Nat) : (twL l s).value env n = s.value env n := by
  simp only [State.value, twL_size, twL_valueWith]

theorem twEnv_fn (env : Env) : (twEnv env).fn = env.fn := rfl
theorem twEnv_fnEff (env : Env) (f : Nat) (vals : List Val) : (twEnv env).fnEff f vals = [] := rfl
theorem twEnv_cutoff (env : Env) : (twEnv env).cutoff = env.cutoff := rfl
theorem twEnv_proj (env : Env) : (twEnv env).proj = env.proj := rfl
theorem twEnv_foldStep (env : Env) : (twEnv env).foldStep = env.foldStep := rfl

theorem twL_value (env : Env) (n : Nat) : (twL l s).value (twEnv env) n = s.value env n := by
  simp only [State.value, twL_size, twL_valueWith, twEnv_proj]

end readers

/-! ## the relation at a fixed log of the twin -/

/-- `TSimAt` at a fixed twin log -/
def TSimL (s : State) (l : List Event) {α} (x x' : M α) : Prop :=
  Fr s → ∀ r s', x.run.run s = (.ok r, s') → (∃ l', x'.run.run (twL l s) = (.ok r, twL l' s')) ∧ Fr s'

theorem TSim.atL {α} {x x' : M α} (h : TSim x x') (s : State) (l : List Event) : TSimL s l x x' :=
  fun hfr r s' hr => h s hfr l r s' hr

theorem TSim.ofL {α} {x x' : M α} (h : ∀ s l, TSimL s l x x') : TSim x x' :=
  fun s hfr l r s' hr => h s l hfr r s' hr

theorem TSimAt.ofL {α} {x x' : M α} {s : State} (h : ∀ l, TSimL s l x x') : TSimAt s x x' :=
  fun hfr l r s' hr => h l hfr r s' hr

theorem TSimAt.atL {α} {x x' : M α} {s : State} (h : TSimAt s x x') (l : List Event) : TSimL s l x x' :=
  fun hfr r s' hr => h hfr l r s' hr

/-! ## the twin as a family of relabellings -/

/-- `twNode`, `twRec`; the log of the twin is `l` -/
def twRel (l : List Event) : NodeSim.Relabel where
  kind := fun _ => twKind
  value := fun _ _ v => v
  didChange := fun _ b => b
  cutoff := fun _ c => c
  recomputedAt := fun _ _ r => r
  experts := fun xs => xs.map twRec
  log := fun _ => l

theorem twL_eq (l : List Event) (s : State) : twL l s = (twRel l).app s := by
  unfold twL NodeSim.Relabel.app
  congr 1
  apply Array.ext
  · simp
  · intro i h1 h2
    simp only [Array.getElem_map, Array.getElem_mapIdx]
    rfl

theorem twBlind {l : List Event} : NodeSim.Blind (twRel l) Fr where
  default _ _ := rfl
  kind _ k := by
    cases k
    case map f args => exact Or.inr (Or.inr (Or.inr ⟨f, _, args, rfl, rfl⟩))
    all_goals exact Or.inl rfl
  children s m := by rw [← twL_eq]; exact twL_children l s m
  isStale s m := by rw [← twL_eq]; exact twL_isStale l s m
  tick _ := NodeSim.Comm.tick_none fun _ h => h.pc
  of_nodes := ExpertH.blind.of_nodes
  modify := ExpertH.blind.modify
  rmParent := ExpertH.blind.rmParent
  invalid := ExpertH.blind.invalid

section
variable {s : State} {l : List Event} {α : Type}

/-- `TSimL` is the simulation over the family that need not reproduce any panic -/
theorem tsimL_iff {x x' : M α} :
    TSimL s l x x' ↔ NodeSim.CommXAt (fun _ => False) (fun l => (twRel l).app) (fun _ => Fr) l s x x' := by
  rw [NodeSim.CommXAt.fwd_iff]
  unfold TSimL
  simp only [twL_eq, exists_and_right]

theorem TSim.of_commX {x x' : M α} (h : NodeSim.CommX (fun _ => False) (fun l => (twRel l).app) (fun _ => Fr) x x') : TSim x x' :=
  TSim.ofL fun s l => tsimL_iff.2 (h l s)

theorem TSim.commX {x x' : M α} (h : TSim x x') : NodeSim.CommX (fun _ => False) (fun l => (twRel l).app) (fun _ => Fr) x x' :=
  fun l s => tsimL_iff.1 (h.atL s l)

/-- a function that neither logs nor does the work of an expert node keeps the log of the twin -/
theorem TSim.of_comm {x x' : M α} (h : ∀ l, NodeSim.Comm (fun _ => False) (twRel l).app Fr x x') : TSim x x' :=
  .of_commX fun l s => (h l s).toX

end

theorem twExperts (l : List Event) (xs : Array ExpertRec) : (twRel l).experts xs = xs.map twRec := rfl

/-! ## steps of one side only -/

section
variable {s : State} {l : List Event} {α β : Type}

/-- a read of the state on the actual side only -/
theorem TSimL.getL_seq {k : State → M β} {x' : M β} (h : TSimL s l (k s) x') :
    TSimL s l (get >>= k) x' := by
  intro hn r s' hr
  rw [run_bind_get] at hr
  exact h hn r s' hr

/-- a read of the state on the twin side only -/
theorem TSimL.getR_seq {x : M β} {k' : State → M β} (h : TSimL s l x (k' (twL l s))) :
    TSimL s l x (get >>= k') := by
  intro hn r s' hr
  rw [run_bind_get]
  exact h hn r s' hr

theorem TSimL.ite_left {c : Prop} {_ : Decidable c} {a b x' : M α}
    (ha : c → TSimL s l a x') (hb : ¬ c → TSimL s l b x') : TSimL s l (if c then a else b) x' := by
  by_cases h : c
  · rw [if_pos h]; exact ha h
  · rw [if_neg h]; exact hb h

theorem TSimL.ite_right {c : Prop} {_ : Decidable c} {x a' b' : M α}
    (ha : c → TSimL s l x a') (hb : ¬ c → TSimL s l x b') : TSimL s l x (if c then a' else b') := by
  by_cases h : c
  · rw [if_pos h]; exact ha h
  · rw [if_neg h]; exact hb h

/-! ### one-sided `tick` and `logEv` (the log of the twin is free; no fault is armed) -/

theorem TSimL.tickL_seq {k : Unit → M β} {x' : M β} (h : TSimL s l (k ()) x') :
    TSimL s l (Engine.tick >>= k) x' := by
  intro hn r s' hr
  rw [run_bind_tick_none _ _ hn.pc] at hr
  exact h hn r s' hr

theorem TSimL.tickR_seq {x : M β} {k' : Unit → M β} (h : TSimL s l x (k' ())) :
    TSimL s l x (Engine.tick >>= k') := by
  intro hn r s' hr
  rw [run_bind_tick_none _ _ (by exact hn.pc)]
  exact h hn r s' hr

theorem TSimL.logL_seq {e : Event} {k : Unit → M β} {x' : M β}
    (h : TSimL { s with log := e :: s.log } l (k ()) x') :
    TSimL s l (Engine.logEv e >>= k) x' := by
  intro hn r s' hr
  rw [run_bind_logEv] at hr
  exact h (hn.of_nodes rfl rfl rfl rfl) r s' hr

theorem TSimL.logR_seq {e : Event} {x : M β} {k' : Unit → M β} (h : TSimL s (e :: l) x (k' ())) :
    TSimL s l x (Engine.logEv e >>= k') := by
  intro hn r s' hr
  rw [run_bind_logEv]
  exact h hn r s' hr

theorem TSimL.logL {e : Event} : TSimL s l (Engine.logEv e) (pure ()) := by
  intro hn r s' hr
  rw [run_logEv] at hr; cases hr
  exact ⟨⟨l, rfl⟩, hn.of_nodes rfl rfl rfl rfl⟩

theorem TSimL.logR {e : Event} : TSimL s l (pure ()) (Engine.logEv e) := by
  intro hn r s' hr
  rw [run_pure] at hr; cases hr
  exact ⟨⟨e :: l, rfl⟩, hn⟩

theorem TSimL.discard {x x' : M α} (hx : TSimL s l x x') : TSimL s l (discard x) (discard x') :=
  tsimL_iff.2 (NodeSim.CommXAt.discard (tsimL_iff.1 hx))

end

/-! ## node and record updates -/

theorem tw_map_modify (a : Array Node) (n : Nat) (f f' : Node → Node)
    (hf : ∀ nd, twNode (f nd) = f' (twNode nd)) :
    (a.modify n f).map twNode = (a.map twNode).modify n f' := by
  apply Array.ext
  · simp
  · intro i h1 h2
    simp only [Array.getElem_map, Array.getElem_modify]
    split
    · exact hf _
    · rfl

theorem twL_modNode (l : List Event) (s : State) (n : Nat) (f f' : Node → Node)
    (hf : ∀ nd, twNode (f nd) = f' (twNode nd)) :
    twL l { s with nodes := s.nodes.modify n f } = { twL l s with nodes := (twL l s).nodes.modify n f' } := by
  simp only [twL]
  rw [tw_map_modify s.nodes n f f' hf]

/-- a commuting node update -/
theorem TSim.modNode (n : Nat) {f f' : Node → Node} (hf : ∀ nd, twNode (f nd) = f' (twNode nd))
    (hk : ∀ nd, (f nd).kind = nd.kind ∧ (f nd).valid = nd.valid) :
    TSim (Engine.modNode n f) (Engine.modNode n f') := by
  intro s hne l r s' hr
  rw [run_modNode] at hr ⊢
  cases hr
  exact ⟨⟨l, by rw [twL_modNode l s n f f' hf]⟩, fr_modify hne n f hk⟩

theorem tw_map_modifyRec (a : Array ExpertRec) (e : Nat) (f f' : ExpertRec → ExpertRec)
    (hf : ∀ er, twRec (f er) = f' (twRec er)) :
    (a.modify e f).map twRec = (a.map twRec).modify e f' := by
  apply Array.ext
  · simp
  · intro i h1 h2
    simp only [Array.getElem_map, Array.getElem_modify]
    split
    · exact hf _
    · rfl

theorem twL_modExpert (l : List Event) (s : State) (e : Nat) (f f' : ExpertRec → ExpertRec)
    (hf : ∀ er, twRec (f er) = f' (twRec er)) :
    twL l { s with experts := s.experts.modify e f }
      = { twL l s with experts := (twL l s).experts.modify e f' } := by
  simp only [twL]
  rw [tw_map_modifyRec s.experts e f f' hf]

theorem fr_modExpert {s : State} (hn : Fr s) (e : Nat) (f : ExpertRec → ExpertRec)
    (hni : ∀ er, er.numInvalidChildren = 0 → (f er).numInvalidChildren = 0) :
    Fr { s with experts := s.experts.modify e f } := by
  refine ⟨hn.pc, hn.valid, hn.pinv, hn.kind, fun e' er he => ?_⟩
  simp only [Array.getElem?_modify] at he
  split at he
  · cases h0 : s.experts[e']? with
    | none => rw [h0] at he; cases he
    | some er0 =>
      rw [h0] at he; simp only [Option.map_some, Option.some.injEq] at he
      subst he
      exact hni er0 (hn.ni e' er0 h0)
  · exact hn.ni e' er he

/-- a commuting record update that does not raise the invalid-children counter from `0` -/
theorem TSim.modExpert (e : Nat) {f f' : ExpertRec → ExpertRec} (hf : ∀ er, twRec (f er) = f' (twRec er))
    (hni : ∀ er, er.numInvalidChildren = 0 → (f er).numInvalidChildren = 0) :
    TSim (Engine.modExpert e f) (Engine.modExpert e f') := by
  intro s hne l r s' hr
  unfold Engine.modExpert at hr ⊢
  rw [run_modify] at hr ⊢
  cases hr
  exact ⟨⟨l, by rw [twL_modExpert l s e f f' hf]⟩, fr_modExpert hne e f hni⟩

/-- the record read on the twin is `twRec` of the record read (for continuations use `TSimL.getExpert_seq`) -/
theorem TSim.getExpert (e : Nat) : TSim (twRec <$> Engine.getExpert e) (Engine.getExpert e) := by
  intro s hne l r s' hr
  rw [map_eq_pure_bind] at hr
  obtain ⟨er, he, hr2⟩ := bind_getExpert_inv hr
  rw [run_pure] at hr2
  have e1 : twRec er = r := by cases hr2; rfl
  have e2 : s = s' := by cases hr2; rfl
  subst e1; subst e2
  have hv : (twL l s).experts[e]? = some (twRec er) := by rw [twL_experts_getElem?, he]; rfl
  exact ⟨⟨l, PerKey.run_getExpert_some hv⟩, hne⟩

/-! ## leaves -/

theorem TSim.dassert (c : Bool) (site : String) : TSim (Engine.dassert c site) (Engine.dassert c site) :=
  .of_comm fun _ => NodeSim.Comm.dassert c site

theorem TSim.assertM (c : Bool) (site : String) : TSim (Engine.assertM c site) (Engine.assertM c site) :=
  .of_comm fun _ => NodeSim.Comm.assertM c site

/-- any two log entries match: the log of the twin is free -/
theorem TSim.logEv (e e' : Event) : TSim (Engine.logEv e) (Engine.logEv e') := by
  intro s hn l r s' h
  rw [run_logEv] at h
  cases h
  exact ⟨⟨e' :: l, by rw [run_logEv]; rfl⟩, hn.of_nodes rfl rfl rfl rfl⟩

end IncrVerif.Proofs.PerKeyH
