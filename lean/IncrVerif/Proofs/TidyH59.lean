import IncrVerif.Proofs.TidyH56
/-!
# T1b, part 5: bisimulation ladder — node creation, `elabInstr`, `stepAction` for the API actions other than
`stabilise` (conversion of the second half of MapRef19).  The carried invariant is `Fr` here (a new node must be shown
to keep it).
-/
namespace IncrVerif.Proofs.TidyH.RT
open IncrVerif.Engine IncrVerif.Driver IncrVerif.Proofs IncrVerif.Proofs.Step IncrVerif.Proofs.Sched IncrVerif.Proofs.Quiet
open IncrVerif.Proofs.MapRefH

section
variable {g : Nat → Option Val}

/-! ## node creation -/

theorem BSimAt.createNode' {s : State} {k k' : Kind} (sc : Scope) (c : CutoffK) (hg : g s.nodes.size = none)
    (hk : k' = virtKind k) (hne : ∀ e, k ≠ .expert e) (hc : ∀ p i, k = .mapRef p i → c = .eq) :
    BSimAt Fr g s (Engine.createNode k sc c) (Engine.createNode k' sc c) := by
  subst hk
  intro hn
  refine ⟨fun r s' hr => ?_, fun r t hr => ?_⟩
  · rw [run_createNode] at hr ⊢
    cases hr
    rw [virt_size, virt_crState k sc c s hg]
    exact ⟨rfl, fr_crState sc hn hne hc⟩
  · rw [run_createNode] at hr
    cases hr
    exact ⟨_, by rw [run_createNode, virt_size]⟩

theorem BSimAt.createNode {s : State} {k : Kind} {sc : Scope} {c : CutoffK} (hg : g s.nodes.size = none)
    (hne : ∀ e, k ≠ .expert e) (hc : ∀ p i, k = .mapRef p i → c = .eq) :
    BSimAt Fr g s (Engine.createNode k sc c) (Engine.createNode (virtKind k) sc c) :=
  BSimAt.createNode' sc c hg rfl hne hc

theorem BSimAt.createVar {s : State} (v : Val) (sc : Scope) (hg : g s.nodes.size = none) :
    BSimAt Fr g s (Engine.createVar v sc) (Engine.createVar v sc) := by
  unfold Engine.createVar
  refine BSimAt.get_seq ?_
  vnorm
  refine BSimAt.seq (BSimAt.createNode' sc .eq hg rfl (fun e h => by cases h) (fun p i h => by cases h)) fun _ _ _ => ?_
  bsim

/-! ## `elabInstr`, `stepAction` -/

/-- `some <$> createNode k sc` for a kind that is neither `expert` nor `mapRef` -/
macro "bcr_node" : tactic => `(tactic|
  exact BSimAt.map _ (BSimAt.createNode' _ _ (by assumption) rfl (fun e h => by cases h) (fun p i h => by cases h)))

theorem BSimAt.elabInstr {s : State} {i : Instr} (hg : g s.nodes.size = none) (hR : RInstr i) :
    BSimAt Fr g s (Engine.elabInstr [] .unit i) (Engine.elabInstr [] .unit (virtInstr i)) := by
  unfold Engine.elabInstr
  cases i <;> simp only [RInstr] at hR <;> simp only [virtInstr] <;> refine BSimAt.get_seq ?_ <;> try vnorm
  case const v => bcr_node
  case var v => exact BSimAt.map _ (BSimAt.createVar v .top hg)
  case map f args =>
    refine BSimAt.ro_seq (Step.Pres.mapM (fun a => RO.resolveOpnd [] a) args)
      (BSim.mapM (fun a => BSim.resolveOpnd [] a) args s) fun as => ?_
    bcr_node
  case fold f init cs =>
    refine BSimAt.ro_seq (Step.Pres.mapM (fun a => RO.resolveOpnd [] a) cs)
      (BSim.mapM (fun a => BSim.resolveOpnd [] a) cs s) fun as => ?_
    refine BSimAt.cond Iff.rfl (fun _ => ?_) (fun _ => ?_) <;> bcr_node
  case mapRef p i =>
    simp only [List.mapM_cons, List.mapM_nil, bind_assoc, pure_bind]
    refine BSimAt.ro_seq (RO.resolveOpnd [] i) (BSim.resolveOpnd [] i s) fun x => ?_
    exact BSimAt.map _ (BSimAt.createNode' _ _ hg rfl (fun e h => by cases h) (fun _ _ _ => rfl))
  case zip a b =>
    refine BSimAt.ro_seq (RO.resolveOpnd [] a) (BSim.resolveOpnd [] a s) fun x => ?_
    refine BSimAt.ro_seq (RO.resolveOpnd [] b) (BSim.resolveOpnd [] b s) fun y => ?_
    refine BSimAt.ro_seq (RO.isConstant x) (BSim.isConstant x s) fun cx => ?_
    refine BSimAt.ro_seq (RO.isConstant y) (BSim.isConstant y s) fun cy => ?_
    split <;> bcr_node

theorem BSimAt.elabInstrM {s : State} {i : Instr} (env : Env) (hg : g s.nodes.size = none) (hR : RInstr i) :
    BSimAt Fr g s (Engine.elabInstrM env [] .unit i) (Engine.elabInstrM (virtEnv env) [] .unit (virtInstr i)) := by
  rw [elabInstrM_eq _ _ _ hR, elabInstrM_eq _ _ _ hR.virt]
  exact BSimAt.elabInstr hg hR

theorem actCalc : Hist.ActCalc (virt g) (fun s => BSimAt Fr g s) where
  ret _ a := BSimAt.ret a
  seq := BSimAt.seq
  get := BSimAt.get_seq
  created _ _ := BSimAt.mod rfl rfl rfl
  observed _ _ _ := BSimAt.mod rfl rfl rfl
  observers _ := rfl
  isStable := virt_isStable
  resolveOpnd s loc o := BSim.resolveOpnd loc o s
  bumpCounter s f := BSim.bumpCounter f s
  getObs s o := BSim.getObs o s
  modObs s o f := BSim.modObs o f s
  disallowFutureUse s o := BSim.disallowFutureUse o s
  writeVar s v f b := BSim.writeVar v f b s
  getVar s v := BSim.getVar v s

theorem BSimAt.stepAction {s : State} {a : Action} (env : Env) (tk : Array Nat) (hg : g s.nodes.size = none)
    (hR : RAction a) :
    BSimAt Fr g s (Engine.stepAction env a tk) (Engine.stepAction (virtEnv env) (virtAction a) tk) := by
  rcases hR.cases with ⟨i, rfl, hi⟩ | ⟨hp, e⟩
  · exact actCalc.create tk (BSimAt.elabInstrM env hg hi)
  · rw [e]
    exact actCalc.plain hp _ _ tk s

end
end IncrVerif.Proofs.TidyH.RT
