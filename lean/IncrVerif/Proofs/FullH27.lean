import IncrVerif.Proofs.FullH4
import IncrVerif.Proofs.FullH10
import IncrVerif.Proofs.MapRef14
/-!
# C01 full fragment, the recompute step of a `map_ref` node, part 1: from a step relation `StepRelB` of the VIRTUAL
states (plus the state-field frames) to the auxiliary invariants `AuxS2`, `GenOK2` of the virtual end state

Everything here is generic in the environment and the two states (no `virt`): the step of a node that is NOT a change
detector, described by `StepRelB`, with the frames `KeyD`, `HAh`, `DK`, and the handler counts unchanged.
-/
namespace IncrVerif.Proofs.FullH
open IncrVerif.Engine IncrVerif.Proofs IncrVerif.Proofs.Step IncrVerif.Proofs.Sched IncrVerif.Proofs.Quiet
open IncrVerif.Proofs.BindH (DInv BGraph StepRelB TargetB DKey NKey FrameB)
open IncrVerif.Proofs.NestH (AuxS2 Aux2 GenOK2 F2Inv)
namespace MR

/-- what one step of a node that is not a change detector does to the state, as far as `F2Inv`, `DKey`/`NKey` and `GenOK2` can see -/
structure VStep (n : Nat) (v : Val) (ch : Bool) (r : Option Nat) (s s' : State) : Prop where
  rel : StepRelB n v ch r s s'
  key : KeyD s s'
  hah : BindH.BF.HAh s s'
  num : ∀ m, (s'.nodeD m).numOnUpdateHandlers = (s.nodeD m).numOnUpdateHandlers
  dk : BindH.C2k.DK 0 s s'

section
variable {env : Env} {n : Nat} {v : Val} {ch : Bool} {r : Option Nat} {s s' : State}

theorem VStep.facts (V : VStep n v ch r s s') (hv : (s.nodeD n).valid = true) :
    FrameB s s' ∧ (s'.nodeD n).recomputedAt = s.stabNum ∧ (s'.nodeD n).valid = true :=
  ⟨V.rel.frame, V.rel.recomputedAt, V.rel.shape.valid.trans hv⟩

/-- `F2Inv` (same rank) after the step -/
theorem VStep.f2 {rk : Nat → Nat} (V : VStep n v ch r s s') (g : BGraph env s) (A : F2Inv env rk s) : F2Inv env rk s' := by
  have R := V.rel
  have K := V.key
  simp only [KeyD, stateKeyD, Prod.mk.injEq] at K
  obtain ⟨-, -, hsc, htop, -, -, hpinv, -, -, -, hahh⟩ := K
  refine NestH.NF.F2Inv.transfer A R.size (fun m => R.shapes m) V.num (fun m hq => ?_) V.hah R.binds htop hahh hpinv hsc R.pc
  rcases R.newIn m hq with h1 | ⟨-, h2⟩
  · exact Or.inl h1
  · obtain ⟨⟨p, i⟩, hpi, rfl⟩ := List.mem_map.1 h2
    exact Or.inr (g.nec p (g.parent n p i hpi).1).1

/-- `GenOK2` after the step (the argument of `NestH.N5g.static_gen2`, from the step relation) -/
theorem VStep.gen {rk : Nat → Nat} (V : VStep n v ch r s s') (I : DInv env s (some n)) (A : F2Inv env rk s) (G : GenOK2 env s)
    (hk : ∀ b, (s.nodeD n).kind ≠ .bindLhsChange b) : GenOK2 env s' := by
  have R := V.rel
  have K := V.key
  simp only [KeyD, stateKeyD, Prod.mk.injEq] at K
  obtain ⟨-, -, -, htop, -⟩ := K
  refine NestH.N5g.genOK2_transfer G (BindH.C3g.top_mono_of_eq htop) ?_
  intro b br hb hvl hst
  rw [R.binds] at hb
  rw [(R.shapes _).valid] at hvl
  obtain ⟨f1, f3, f5, -⟩ := NestH.N5g.rec_facts2 A.frag hb hvl
  have hne : br.lhsChange ≠ n := by
    intro e
    rw [e] at f3
    exact hk b f3
  rcases BindH.stepB_stale_other I R hne f1 hvl with ⟨h1, h2⟩ | ⟨-, -, h1⟩
  · refine ⟨hb, hvl, by rw [← h1]; exact hst, ?_, fun m _ => (R.shapes m).kind,
      fun b2 br2 k2 _ => ⟨br2, by rw [R.binds]; exact k2, NestH.N5g.RecSame.refl _⟩⟩
    by_cases e : br.lhs = n
    · have hchf : ch = false := by
        rcases h2 with h2 | h2
        · exact h2
        · exfalso; apply h2; rw [f5, e]; exact List.mem_singleton.2 rfl
      rw [e, R.value, (R.unch hchf).1]
    · exact (R.other _ e).value
  · rw [h1] at hst; cases hst

/-- **the auxiliary invariants after the step** -/
theorem VStep.aux {t : State} (V : VStep n v ch r s s') (I : DInv env s (some n)) (A : AuxS2 env t s) (G : GenOK2 env s)
    (hk : ∀ b, (s.nodeD n).kind ≠ .bindLhsChange b) : AuxS2 env t s' ∧ GenOK2 env s' := by
  obtain ⟨⟨rk, A2⟩, dk, nk⟩ := A
  obtain ⟨k1, k2⟩ := BindH.C2k.dkey_of_dk V.dk A2.noHandlers
  exact ⟨⟨⟨rk, V.f2 I.graph A2⟩, dk.trans k1, nk.trans k2⟩, V.gen I A2 G hk⟩

end
end MR
end IncrVerif.Proofs.FullH
