import IncrVerif.Proofs.NestH56
import IncrVerif.Proofs.BindH94
/-!
# Nested binds (F2), part 4, `stabilise`, part 3: `stabilise` on a program with nested binds (fragment F2)

The counterpart of `BindH94` for nested binds.  From the invariant between actions `QI2 env s = ∃ rk, QInv2 env rk s` through the observer prefix (keeps the rank), the drain
(re-chooses the rank: `Aux2`) and `stabiliseEnd` (keeps the rank) back to `QI2`, with the from-scratch values.  The scheduling theorem's hypothesis is a
hypothesis: `∀ t, LcStepsOK2 env (AuxS2 env t)`.  `ReadsOK1` (what observers read: `evalB`) is generic and reused.
-/
namespace IncrVerif.Proofs.NestH
open IncrVerif.Engine IncrVerif.Driver IncrVerif.Proofs IncrVerif.Proofs.Step IncrVerif.Proofs.Sched IncrVerif.Proofs.Quiet
open IncrVerif.Proofs.BindH

/-- the structure of the graph between two actions -/
theorem QInv2.bgraph {env : Env} {rk : Nat → Nat} {s : State} (Q : QInv2 env rk s) : BGraph env s :=
  bgraph_of_ginv2 (ex := noEx) Q.struct Q.f2.noForce (fun n c hn hk => by
    obtain ⟨vc, h, -⟩ := Q.vars.node n c hn hk
    exact ⟨vc, h⟩)

/-- the conclusions of `stabilise_q2` about the final state (`BindH.Stabilised1` with `QInv1 ↦ QI2`, `F1Inv ↦ Aux2`) -/
structure Stabilised2 (env : Env) (fuel : Nat) (s s' : State) : Prop where
  inv : QI2 env s'
  newObservers : s'.newObservers = []
  disallowedObservers : s'.disallowedObservers = []
  vars : s'.vars = s.vars
  stabNum : s'.stabNum = s.stabNum + 1
  /-- runs of change detectors create nodes -/
  grow : s.nodes.size ≤ s'.nodes.size
  obs : ObsMap stabilisedState s s'
  /-- every necessary node is valid, not stale, and holds its from-scratch value -/
  values : ∀ n, s'.isNecessary n = true → ∀ k, (s'.nodeD n).height.toNat < k →
    (s'.nodeD n).valid = true ∧ s'.isStale n = false ∧ (s'.nodeD n).value = evalB env s' k n ∧
      s'.value env n = evalB env s' k n ∧ (evalB env s' k n).isSome = true
  /-- the drain: it starts in a state `t` with the drain invariant; no node runs twice, and no node that ran was invalidated later in the drain -/
  drain : ∃ t t3, DInv env t none ∧ Aux2 env t ∧ (drainHeap env fuel).run.run t = (.ok (), t3) ∧
    t.vars = s.vars ∧ t.stabNum = s.stabNum ∧ (drainTrace env fuel t).Nodup ∧
    ∀ m, m ∈ drainTrace env fuel t → RanOnceB t t3 m

/-- **`stabilise` on a program with nested binds (fragment F2).** -/
theorem stabilise_q2 {env : Env} {fuel : Nat} {s s' : State} (H : ∀ t, LcStepsOK2 env (AuxS2 env t)) (Q : QI2 env s)
    (h : (stabilise env fuel).run.run s = (.ok (), s')) : Stabilised2 env fuel s s' := by
  obtain ⟨rk, Q⟩ := Q
  obtain ⟨t1, t2, t3, -, h1, h2, h3, h4⟩ := stabilise_phases.1 h
  obtain ⟨s0, hs0⟩ : ∃ s0 : State, s0 = { s with status := .stabilising } := ⟨_, rfl⟩
  rw [← hs0] at h1
  -- the state with the status set
  have S0 : SInv2 env rk s0 s0.newObservers s0.disallowedObservers := by
    have I0 : SInv2 env rk s s.newObservers s.disallowedObservers := SInv2.of_qinv2 Q
    rw [hs0]
    exact N4p.sInv2_congr I0 rfl rfl rfl rfl rfl rfl rfl rfl
  -- the prefix (keeps the rank)
  obtain ⟨S1, hn1, hd1, F1, O1, -⟩ := addNewObservers_s2 S0 h1
  have M1 := addNewObservers_marks2 S0 h1
  obtain ⟨S2, hn2, hd2, F2, O2⟩ := unlinkDisallowedObservers_s2 S1 hn1 h2
  have M2 := unlinkDisallowedObservers_marks2 S1 hn1 h2
  have F : C2s.PreF s t2 := C2s.PreF.of hs0 (F1.trans F2) (fun m => (M2 m).trans (M1 m))
  obtain ⟨D2, A2⟩ := N4s.drain_start2 Q F S2
  -- the drain (re-chooses the rank)
  have X2 : AuxS2 env t2 t2 := ⟨⟨rk, A2⟩, DKey.refl _, NKey.refl _⟩
  obtain ⟨D3, ⟨⟨rk3, A3⟩, K3, N3⟩, he3, f3⟩ := drainHeap_invB2 (H t2) fuel t2 t3 D2 X2 h3
  obtain ⟨hnodup, honce⟩ := drain_onceB2 (H t2) fuel t2 t3 D2 X2 h3
  obtain ⟨V3, O3, T3⟩ := N4s.after_drain2 A3 K3 N3 f3.vars (F.varsOK Q.vars) S2.obs S2.obsTop
  -- the end (keeps the rank)
  have hsd : t3.setDuringStab = [] := by rw [K3.setDuringStab, F.setDuringStab]; exact Q.setDuringStab
  have hdv : t3.deadVars = [] := by rw [K3.deadVars, F.deadVars]; exact Q.deadVars
  have hoh : ∀ (o : Nat) (ob : ObsRec), t3.observers[o]? = some ob → ob.handlers = [] :=
    fun o ob ho => (O3.inRange o ob ho).2
  have E := stabiliseEnd_fin (env := env) (fuel := fuel) hsd hdv hoh h4
  have hb := C2s.stabiliseEnd_binds hsd hdv hoh h4
  have hno3 : t3.newObservers = [] := by rw [K3.newObservers]; exact hn2
  have hdo3 : t3.disallowedObservers = [] := by rw [K3.disallowedObservers]; exact hd2
  obtain ⟨Q', G, hval⟩ := N4s.qinv2_end D3 A3 E hb V3 O3 hno3 hdo3 T3
    (by rw [K3.alive, F.alive]; exact Q.alive)
  have hobs' : s'.observers = t2.observers := by rw [E.observers, K3.observers]
  refine
    { inv := ⟨rk3, Q'⟩
      newObservers := by rw [E.newObservers]; exact hno3
      disallowedObservers := by rw [E.disallowedObservers]; exact hdo3
      vars := by rw [E.vars, f3.vars, F.vars]
      stabNum := by rw [E.stabNum, f3.stabNum, F.stabNum]
      grow := by rw [E.size, ← F.size]; exact f3.grow
      obs := ?_
      values := ?_
      drain := ⟨t2, t3, D2, ⟨rk, A2⟩, h3, F.vars, F.stabNum, hnodup, honce⟩ }
  · -- observers
    refine ⟨by rw [hobs', O2.1, O1.1, hs0], fun o ob ho => ?_⟩
    have ho0 : s0.observers[o]? = some ob := by rw [hs0]; exact ho
    obtain ⟨ob1, h1o, h1n, h1s⟩ := O1.2 o ob ho0
    obtain ⟨ob2, h2o, h2n, h2s⟩ := O2.2 o ob1 h1o
    exact ⟨ob2, by rw [hobs']; exact h2o, by rw [h2n, h1n], by rw [h2s, h1s, stabilisedState_eq]⟩
  · -- values
    intro n hn k hk
    have hn3 : t3.isNecessary n = true := by rw [← G.g.nec]; exact hn
    have hk3 : (t3.nodeD n).height.toNat < k := by rw [← (G.g.node n).height]; exact hk
    obtain ⟨v1, v2, v3, -, v5⟩ := drained_valuesB D3 he3 n hn3 k hk3
    have hev : evalB env s' k n = evalB env t3 k n :=
      C2s.evalB_congr (fun m => (G.g.node m).kind) E.vars hb k n
    have hv' : (s'.nodeD n).value = evalB env s' k n := by rw [hval, hev]; exact v3
    have hvalid : (s'.nodeD n).valid = true := by rw [(G.g.node n).valid]; exact v1
    refine ⟨hvalid, ?_, hv', ?_, by rw [hev]; exact v5⟩
    · rw [KeyEq2.isStale2 (BL.KeyEq.of_same G) A3.frag]; exact v2
    · rw [Q'.bgraph.value_plain (Q'.bgraph.nec_lt hn) hvalid]; exact hv'

/-! ## what observers read -/

/-- **After a `stabilise` every in-use observer reads the from-scratch value of its node**, and no observer is waiting to be added or unlinked. -/
theorem stabilised_reads2 {env : Env} {fuel : Nat} {s s' : State} (R : Stabilised2 env fuel s s') :
    ReadsOK1 env s' ∧ ObsSettled s' := by
  obtain ⟨rk', Q'⟩ := R.inv
  have O' : ObsInv s' [] [] := by
    have := Q'.obs
    unfold ObsOK at this
    rw [R.newObservers, R.disallowedObservers] at this
    exact this
  constructor
  · intro o ob ho hst k hk
    have hmem : o ∈ (s'.nodeD ob.node).observers := (O'.mem ob.node o).2 ⟨ob, ho, rfl, Or.inl hst⟩
    have hn : s'.isNecessary ob.node = true := nec_of_mem_observers hmem
    obtain ⟨-, -, -, hv, hs⟩ := R.values ob.node hn k hk
    obtain ⟨v, hev⟩ := Option.isSome_iff_exists.1 hs
    refine ⟨v, ?_, hev⟩
    exact tryGetValue_inUse Q'.alive Q'.status ho hst (hv.trans hev)
  · intro o ob ho
    cases hst : ob.state with
    | inUse => exact Or.inl rfl
    | unlinked => exact Or.inr rfl
    | created => have := O'.created o ob ho hst; cases this
    | disallowed => have := (O'.dis o ob ho).1 hst; cases this

end IncrVerif.Proofs.NestH
