import IncrVerif.Proofs.CutH21
import IncrVerif.Engine.Run
/-!
# Part 14: `stabiliseEnd` when no observer has update handlers
-/
namespace IncrVerif.Proofs.Quiet
open IncrVerif.Engine IncrVerif.Driver IncrVerif.Proofs IncrVerif.Proofs.Step IncrVerif.Proofs.Sched

/-- `s'` is `s` after a `stabiliseEnd` with no deferred writes, no dead vars and no update handlers -/
structure Finished' (s s' : State) : Prop where
  size : s'.nodes.size = s.nodes.size
  node : ∀ m, ∃ b, s'.nodeD m = { s.nodeD m with inHandleAfterStab := b }
  vars : s'.vars = s.vars
  rch : s'.rch = s.rch
  ahh : s'.ahh = s.ahh
  observers : s'.observers = s.observers
  newObservers : s'.newObservers = s.newObservers
  disallowedObservers : s'.disallowedObservers = s.disallowedObservers
  allObservers : s'.allObservers = s.allObservers
  scope : s'.currentScope = s.currentScope
  pc : s'.panicCountdown = s.panicCountdown
  top : s'.top = s.top
  handles : s'.handles = s.handles
  alive : s'.alive = s.alive
  pinv : s'.propagateInvalidity = s.propagateInvalidity
  cfg : s'.cfg = s.cfg
  stabNum : s'.stabNum = s.stabNum + 1
  status : s'.status = .notStabilising
  setDuringStab : s'.setDuringStab = []
  deadVars : s'.deadVars = []
  handleAfterStab : s'.handleAfterStab = []



/-- the part of `Finished'` that holds from the third loop of `stabiliseEnd` on (everything but `status`) -/
theorem Finished'.ofC {s s' : State} (h : CutH.Finished' s s') : Finished' s s' :=
  ⟨h.size, h.node, h.vars, h.rch, h.ahh, h.observers, h.newObservers, h.disallowedObservers, h.allObservers, h.scope, h.pc, h.top, h.handles,
    h.alive, h.pinv, h.cfg, h.stabNum, h.status, h.setDuringStab, h.deadVars, h.handleAfterStab⟩


structure Mid (s t : State) : Prop where
  size : t.nodes.size = s.nodes.size
  node : ∀ m, ∃ b, t.nodeD m = { s.nodeD m with inHandleAfterStab := b }
  vars : t.vars = s.vars
  rch : t.rch = s.rch
  ahh : t.ahh = s.ahh
  observers : t.observers = s.observers
  newObservers : t.newObservers = s.newObservers
  disallowedObservers : t.disallowedObservers = s.disallowedObservers
  allObservers : t.allObservers = s.allObservers
  scope : t.currentScope = s.currentScope
  pc : t.panicCountdown = s.panicCountdown
  top : t.top = s.top
  handles : t.handles = s.handles
  alive : t.alive = s.alive
  pinv : t.propagateInvalidity = s.propagateInvalidity
  cfg : t.cfg = s.cfg
  stabNum : t.stabNum = s.stabNum + 1
  setDuringStab : t.setDuringStab = []
  deadVars : t.deadVars = []
  handleAfterStab : t.handleAfterStab = []

theorem Mid.modNode {s t : State} (M : Mid s t) (n : Nat) (b : Bool) :
    Mid s { t with nodes := t.nodes.modify n fun x => { x with inHandleAfterStab := b } } := by
  refine ⟨?_, ?_, M.vars, M.rch, M.ahh, M.observers, M.newObservers, M.disallowedObservers, M.allObservers,
    M.scope, M.pc, M.top, M.handles, M.alive, M.pinv, M.cfg, M.stabNum, M.setDuringStab, M.deadVars,
    M.handleAfterStab⟩
  · rw [← M.size]; exact Array.size_modify ..
  · intro m
    obtain ⟨b0, hb0⟩ := M.node m
    rw [nodeD_modify]
    split
    · exact ⟨b, by rw [hb0]⟩
    · exact ⟨b0, hb0⟩

theorem stabiliseEnd_fin {env : Env} {fuel : Nat} {s s' : State} (h1 : s.setDuringStab = [])
    (h2 : s.deadVars = []) (hobs : ∀ (o : Nat) (ob : ObsRec), s.observers[o]? = some ob → ob.handlers = [])
    (h : (stabiliseEnd env fuel).run.run s = (.ok (), s')) : Finished' s s' :=
  .ofC (CutH.stabiliseEnd_fin h1 h2 hobs h)

end IncrVerif.Proofs.Quiet
