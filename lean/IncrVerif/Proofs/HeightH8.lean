import IncrVerif.Proofs.HeightH3
import IncrVerif.Proofs.HeightH6
/-!
# C19 for whole histories: `create` returns and keeps the exact-height invariant
-/
namespace IncrVerif.Proofs.HeightH
open IncrVerif.Engine IncrVerif.Driver IncrVerif.Proofs IncrVerif.Proofs.Step IncrVerif.Proofs.Sched
open IncrVerif.Proofs.Quiet

/-- the elaboration of a static instruction whose operands exist returns; it touches neither the adjust-heights
heap nor `maxHeightSeen` -/
theorem elab_retH {env : Env} {s : State} {i : Instr} (Q : QInv env s) (hi : StaticInstr env i)
    (hin : InstrIn s i) :
    ∃ ro s1, (elabInstrM env [] .unit i).run.run s = (.ok ro, s1) ∧ s1.ahh = s.ahh ∧
      s1.maxHeightSeen = s.maxHeightSeen ∧
      s1.vars.size = s.vars.size + (grow (.create i)).2.1 := by
  have hin' : CutH.InstrIn s i := by cases i <;> first | exact hin | exact hi.elim
  obtain ⟨ro, s1, hrun, hahh, hvs, -, -⟩ := CutH.elab_ret Q.struct.static.scope Q.top hi.toC hin' Q.struct.eqCut.dep
  refine ⟨ro, s1, hrun, hahh, ?_, ?_⟩
  · exact ((Footprint.Foot.elabInstrM env [] .unit i).frame (R := SeenEq) (Footprint.Edit.maxHeightSeen_eq (by decide))).h _ _ _ hrun
  · rw [← grow_toC (env := env) (a := .create i) hi]; exact hvs

/-- creating a node of the static fragment returns and keeps the exact-height invariant; no height is set -/
theorem create_totalH {env : Env} {N : Nat} {s : State} {i : Instr} {tk : Array Nat}
    (Q : QInv env s) (T : TInvH N s) (hi : StaticInstr env i) (hok : InstrIn s i) :
    Tot (stepAction env (.create i) tk) s (fun r s' => r.2 = tk ∧ TInvH N s' ∧ Grown (.create i) s s' ∧
      s'.maxHeightSeen = s.maxHeightSeen ∧ (∀ m, m < s.nodes.size → (s'.nodeD m).kind = (s.nodeD m).kind)) := by
  obtain ⟨ro, s1, hrun, hahh, hmhs, hvs⟩ := elab_retH Q hi hok
  obtain ⟨k, ero, hk, hkids, C⟩ := elab_static Q.struct.static.scope Q.top hi hrun
  have K : KidsLt s := kidsLt_of_static Q.struct.static
  unfold stepAction
  simp only
  refine Tot.bind_ok hrun ?_
  rw [ero]
  simp only
  refine Tot.bind_modify (Tot.pure ⟨rfl, ?_, ?_, ?_, ?_⟩)
  · refine ⟨?_, ⟨?_, ?_, ?_, ?_⟩, ?_, ?_, ?_, ?_, ?_⟩
    · intro m hn ho
      have hn' : s1.isNecessary m = true := hn
      have e := C.ne_of_nec hn'
      rw [C.nec_old e] at hn'
      obtain ⟨h1, h2⟩ := T.hx m hn' ho
      have hm : m < s.nodes.size := by
        rcases Nat.lt_or_ge m s.nodes.size with h | h
        · exact h
        · have hd : s.isNecessary m = false := by
            rw [State.isNecessary, nodeD_default s m h]; rfl
          rw [hd] at hn'; cases hn'
      rw [needH_congr_lt K (fun j hj => by
        show (s1.nodeD j).kind = _
        rw [C.nodeD_lt (by omega)])]
      show (s1.nodeD m).height = (needH s m : Int) ∧ (needH s m : Int) ≤ s1.maxHeightSeen
      rw [C.nodeD_old e, hmhs]
      exact ⟨h1, h2⟩
    · show s1.ahh.maxAllowed = _
      rw [hahh]; exact T.room.ahh
    · show s1.rch.maxAllowed = _
      rw [C.rch]; exact T.room.rch
    · show s1.maxHeightSeen ≤ _
      rw [hmhs]; exact T.room.seen
    · show 0 ≤ s1.maxHeightSeen
      rw [hmhs]; exact T.room.seen0
    · show s1.ahh.length = 0
      rw [hahh]; exact T.ahh0
    · intro c vc h
      have h' : s1.vars[c]? = some vc := h
      rcases C.vars with ⟨-, e⟩ | ⟨v, -, ev⟩
      · rw [e] at h'; exact T.linked c vc h'
      · rw [ev, Array.getElem?_push] at h'
        split at h'
        · injection h' with h'
          rw [← h']
        · exact T.linked c vc h'
    · show (s1.top.push _).size = s1.nodes.size
      rw [Array.size_push, C.top, C.size, T.topSize]
    · show s1.newObservers.Nodup
      rw [C.newObservers]; exact T.newNodup
    · intro o ob h1 h2
      have h1' : o ∈ s1.newObservers := h1
      have h2' : s1.observers[o]? = some ob := h2
      rw [C.newObservers] at h1'
      rw [C.observers] at h2'
      exact T.newState o ob h1' h2'
  · refine ⟨?_, ?_, ?_⟩
    · show s1.nodes.size = _
      rw [C.size]
      cases i <;> first | rfl | exact hi.elim
    · exact hvs
    · show s1.observers.size = _
      rw [C.observers]
      cases i <;> first | rfl | exact hi.elim
  · exact hmhs
  · intro m hm
    show (s1.nodeD m).kind = _
    rw [C.nodeD_lt hm]

end IncrVerif.Proofs.HeightH
