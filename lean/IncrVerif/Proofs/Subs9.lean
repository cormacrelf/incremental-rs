import IncrVerif.Proofs.Subs1
/-!
# Subscriptions, part 8: `runAll` and `stabiliseEnd` with effect-free update handlers
-/
namespace IncrVerif.Proofs.SubsH
open IncrVerif.Engine IncrVerif.Driver IncrVerif.Proofs IncrVerif.Proofs.Step IncrVerif.Proofs.Sched
open IncrVerif.Proofs.Quiet

/-- the handlers of the environment have no effects -/
def PureHandlers (env : Env) : Prop := ∀ hid u, env.handler hid u = []

/-- the record of a handler after its observer's node reported `nu` -/
def stepPrev (nu : NodeUpdate) (h : HandlerRec) : HandlerRec :=
  match handlerStep h.prev nu with
  | none => h
  | some d => { h with prev := d.toPrev }

/-- what is delivered to a handler when its observer's node reports `nu` and holds `v` -/
def notifOf (nu : NodeUpdate) (v : Val) (h : HandlerRec) : Option Event :=
  match handlerStep h.prev nu with
  | some .changed => some (.notif h.token (.changed v))
  | some .necessary => some (.notif h.token (.initialised v))
  | _ => none

def P8.st (s : State) (o : Nat) (L : List HandlerRec) (lg : List Event) : State :=
  { s with observers := s.observers.modify o (fun x => { x with handlers := L }), log := lg ++ s.log }

theorem P8.map_upd (x : Previously) (a : HandlerRec) : ∀ (L1 L2 : List HandlerRec),
    a.token ∉ L1.map (·.token) → a.token ∉ L2.map (·.token) →
    (L1 ++ a :: L2).map (fun h' => if h'.token == a.token then { h' with prev := x } else h') =
      L1 ++ { a with prev := x } :: L2 := by
  have key : ∀ L : List HandlerRec, a.token ∉ L.map (·.token) →
      L.map (fun h' => if h'.token == a.token then { h' with prev := x } else h') = L := by
    intro L hL
    induction L with
    | nil => rfl
    | cons b L ih =>
      simp only [List.map_cons, List.mem_cons, not_or] at hL
      rw [List.map_cons, ih hL.2]
      have : (b.token == a.token) = false := by
        rw [beq_eq_false_iff_ne]; exact fun e => hL.1 e.symm
      rw [this]; rfl
  intro L1 L2 h1 h2
  rw [List.map_append, List.map_cons, key L1 h1, key L2 h2]
  simp

theorem P8.stepPrev_token (nu : NodeUpdate) (h : HandlerRec) : (stepPrev nu h).token = h.token := by
  unfold stepPrev; split <;> rfl

theorem P8.handlerStep_cases {p : Previously} {nu : NodeUpdate} (hnu : nu = .changed ∨ nu = .necessary) :
    handlerStep p nu = none ∨ handlerStep p nu = some .changed ∨ handlerStep p nu = some .necessary := by
  rcases hnu with rfl | rfl <;> cases p <;> simp [handlerStep]

theorem P8.st_obs {s : State} {o : Nat} {ob : ObsRec} (hob : s.observers[o]? = some ob)
    (L : List HandlerRec) (lg : List Event) :
    (P8.st s o L lg).observers[o]? = some { ob with handlers := L } := by
  simp [P8.st, Array.getElem?_modify, hob]

theorem P8.run_valueUnwrap {env : Env} {n : Nat} {site : String} {s : State} {v : Val}
    (hv : s.value env n = some v) : (valueUnwrap env n site).run.run s = (.ok v, s) := by
  unfold valueUnwrap
  rw [run_bind_get, hv]; rfl

theorem P8.run_runEffects_nil (env : Env) (fuel : Nat) (arg : Int) (s : State) :
    (runEffects env fuel [] arg).run.run s = (.ok (), s) := by
  unfold runEffects
  rw [List.forIn_nil]; rfl

theorem P8.take_succ {α} {l : List α} {j : Nat} {a : α} (hj : l[j]? = some a) :
    l.take (j + 1) = l.take j ++ [a] ∧ l.drop j = a :: l.drop (j + 1) := by
  obtain ⟨hlt, rfl⟩ := List.getElem?_eq_some_iff.1 hj
  exact ⟨List.take_succ_eq_append_getElem hlt, List.drop_eq_getElem_cons hlt⟩

theorem P8.st_mod (s : State) (o : Nat) (L : List HandlerRec) (lg : List Event) (g : HandlerRec → HandlerRec) :
    ({ (P8.st s o L lg) with
        observers := (P8.st s o L lg).observers.modify o (fun x => { x with handlers := x.handlers.map g }) } :
      State) = P8.st s o (L.map g) lg := by
  simp only [P8.st, array_modify_modify]
  rfl

theorem P8.st_log (s : State) (o : Nat) (L : List HandlerRec) (lg : List Event) (e : Event) :
    ({ P8.st s o L lg with log := e :: (P8.st s o L lg).log } : State) = P8.st s o L (e :: lg) := rfl

theorem P8.nodup_split (nu : NodeUpdate) {l : List HandlerRec} {j : Nat} {a : HandlerRec} (hj : l[j]? = some a)
    (hnd : (l.map (·.token)).Nodup) :
    a.token ∉ ((l.take j).map (stepPrev nu)).map (·.token) ∧ a.token ∉ (l.drop (j + 1)).map (·.token) := by
  obtain ⟨_, hdr⟩ := P8.take_succ hj
  have hl : l = l.take j ++ a :: l.drop (j + 1) := by rw [← hdr, List.take_append_drop]
  rw [hl, List.map_append, List.map_cons, List.nodup_append] at hnd
  obtain ⟨_, h2, h3⟩ := hnd
  have : ((l.take j).map (stepPrev nu)).map (·.token) = (l.take j).map (·.token) := by
    rw [List.map_map]; exact List.map_congr_left fun h _ => P8.stepPrev_token nu h
  rw [this]
  exact ⟨fun hm => h3 _ hm _ (List.mem_cons_self ..) rfl, (List.nodup_cons.1 h2).1⟩

theorem P8.modify_congr {α} {a : Array α} {i : Nat} {x : α} {f g : α → α} (hx : a[i]? = some x)
    (hfg : f x = g x) : a.modify i f = a.modify i g := by
  apply Array.ext_getElem?
  intro k
  simp only [Array.getElem?_modify]
  by_cases hk : i = k
  · subst hk; simp [hx, hfg]
  · simp [hk]

theorem P8.modify_id {α} {a : Array α} {i : Nat} {x : α} {f : α → α} (hx : a[i]? = some x)
    (hf : f x = x) : a.modify i f = a := by
  apply Array.ext_getElem?
  intro k
  simp only [Array.getElem?_modify]
  by_cases hk : i = k
  · subst hk; simp [hx, hf]
  · simp [hk]

/-- **`run_all` with effect-free handlers**, on an observer in use whose node reports `changed` or `necessary`
and has a value: every handler record is stepped, the notifications are logged in handler order. -/
theorem runAll_spec {env : Env} {fuel o n : Nat} {nu : NodeUpdate} {now : Int} {s s' : State} {ob : ObsRec}
    {v : Val} (heff : PureHandlers env) (hpc : s.panicCountdown = none)
    (hob : s.observers[o]? = some ob) (hst : ob.state = .inUse)
    (hnu : nu = .changed ∨ nu = .necessary) (hv : s.value env n = some v)
    (hnd : (ob.handlers.map (·.token)).Nodup) (hca : ∀ h, h ∈ ob.handlers → h.createdAt < now)
    (h : (runAll env fuel o n nu now).run.run s = (.ok (), s')) :
    s' = { s with observers := s.observers.modify o
                    (fun x => { x with handlers := x.handlers.map (stepPrev nu) }),
                  log := (ob.handlers.filterMap (notifOf nu v)).reverse ++ s.log } := by
  unfold runAll at h
  obtain ⟨ob1, s1, h1, h⟩ := bind_ok_inv h
  obtain ⟨e1, hob1⟩ := getObs_ok_inv h1
  rw [e1] at h
  rw [hob] at hob1; cases hob1
  obtain ⟨_, s2, hl, h⟩ := bind_ok_inv h
  obtain ⟨_, e3⟩ := pure_ok_inv h
  rw [e3]
  have hI := forIn_ok_inv _ ob.handlers
    (fun j _ t => t = P8.st s o ((ob.handlers.take j).map (stepPrev nu) ++ ob.handlers.drop j)
      ((ob.handlers.take j).filterMap (notifOf nu v)).reverse) ?step ob.handlers 0 _ s _ s2 rfl (Nat.zero_le _)
      ?init hl
  case init =>
    simp only [P8.st, List.take_zero, List.drop_zero, List.map_nil, List.filterMap_nil, List.reverse_nil,
      List.nil_append]
    rw [P8.modify_id hob rfl]
  case step =>
    intro j a b t r t' hj hI hb
    obtain ⟨obt, hobt, hb⟩ := bind_getObs_inv hb
    obtain ⟨htk, hdr⟩ := P8.take_succ hj
    obtain ⟨hn1, hn2⟩ := P8.nodup_split nu hj hnd
    have ha : a ∈ ob.handlers := List.mem_of_getElem? hj
    subst hI
    rw [P8.st_obs hob] at hobt
    cases hobt
    simp only [hst] at hb
    rw [if_pos (hca a ha)] at hb
    rcases P8.handlerStep_cases (p := a.prev) hnu with hd | hd | hd
    · simp only [hd] at hb
      obtain ⟨rfl, rfl⟩ := pure_ok_inv hb
      refine ⟨_, rfl, ?_⟩
      have h1 : stepPrev nu a = a := by simp only [stepPrev, hd]
      have h2 : notifOf nu v a = none := by simp only [notifOf, hd]
      rw [htk, hdr, List.map_append, List.filterMap_append, List.map_cons, List.map_nil, h1,
        List.filterMap_cons, h2, List.filterMap_nil, List.append_nil, List.append_assoc]
      rfl
    · simp only [hd] at hb
      obtain ⟨t1, et1, hb⟩ := bind_modObs_inv hb
      rw [P8.st_mod, hdr, P8.map_upd _ _ _ _ hn1 hn2] at et1
      have hv1 : t1.value env n = some v := by rw [et1]; exact (Obs.value_congr_nodes env (s := s) (s' := P8.st s o _ _) rfl n).trans hv
      have hpc1 : t1.panicCountdown = none := by rw [et1]; exact hpc
      rw [run_bind_ok (P8.run_valueUnwrap hv1)] at hb
      simp only [pure_bind] at hb
      rw [run_bind_ok (run_tick_none _ hpc1), run_bind_logEv, heff, run_bind_ok (P8.run_runEffects_nil ..)] at hb
      obtain ⟨rfl, rfl⟩ := pure_ok_inv hb
      refine ⟨_, rfl, ?_⟩
      have h1 : stepPrev nu a = { a with prev := NodeUpdate.changed.toPrev } := by simp only [stepPrev, hd]
      have h2 : notifOf nu v a = some (.notif a.token (.changed v)) := by simp only [notifOf, hd]
      rw [et1, P8.st_log]
      rw [htk, List.map_append, List.filterMap_append, List.map_cons, List.map_nil, h1,
        List.filterMap_cons, h2, List.filterMap_nil, List.append_assoc, List.reverse_append]
      rfl
    · simp only [hd] at hb
      obtain ⟨t1, et1, hb⟩ := bind_modObs_inv hb
      rw [P8.st_mod, hdr, P8.map_upd _ _ _ _ hn1 hn2] at et1
      have hv1 : t1.value env n = some v := by rw [et1]; exact (Obs.value_congr_nodes env (s := s) (s' := P8.st s o _ _) rfl n).trans hv
      have hpc1 : t1.panicCountdown = none := by rw [et1]; exact hpc
      rw [run_bind_ok (P8.run_valueUnwrap hv1)] at hb
      simp only [pure_bind] at hb
      rw [run_bind_ok (run_tick_none _ hpc1), run_bind_logEv, heff, run_bind_ok (P8.run_runEffects_nil ..)] at hb
      obtain ⟨rfl, rfl⟩ := pure_ok_inv hb
      refine ⟨_, rfl, ?_⟩
      have h1 : stepPrev nu a = { a with prev := NodeUpdate.necessary.toPrev } := by simp only [stepPrev, hd]
      have h2 : notifOf nu v a = some (.notif a.token (.initialised v)) := by simp only [notifOf, hd]
      rw [et1, P8.st_log]
      rw [htk, List.map_append, List.filterMap_append, List.map_cons, List.map_nil, h1,
        List.filterMap_cons, h2, List.filterMap_nil, List.append_assoc, List.reverse_append]
      rfl
  simp only [List.take_length, List.drop_length, List.append_nil] at hI
  rw [hI, P8.st]
  rw [P8.modify_congr (f := fun x => { x with handlers := List.map (stepPrev nu) ob.handlers })
    (g := fun x => { x with handlers := x.handlers.map (stepPrev nu) }) hob rfl]

/-- the `NodeUpdate` that `stabiliseEnd` computes for a queued node: `nodeUpdate` after the round number
was bumped -/
def nuAt (env : Env) (s : State) (n : Nat) : NodeUpdate :=
  State.nodeUpdate env { s with stabNum := s.stabNum + 1 } n

/-- the notifications for the handlers of observer `o` of node `n` -/
def obsNotifs (env : Env) (s : State) (n o : Nat) : List Event :=
  match s.observers[o]?, s.value env n with
  | some ob, some v => ob.handlers.filterMap (notifOf (nuAt env s n) v)
  | _, _ => []

/-- the notifications `stabiliseEnd` logs, in the order of the model's lists: queued nodes, their observers,
their handlers -/
def endNotifs (env : Env) (s : State) : List Event :=
  s.handleAfterStab.flatMap fun n => (s.nodeD n).observers.flatMap (obsNotifs env s n)

/-! ## `stabiliseEnd` -/

/-- everything but the nodes -/
def P8.restN (s : State) : State := { s with nodes := #[] }

/-- everything but the nodes, the observer records, the log, the memo tables and the status -/
def P8.core (s : State) : State :=
  { s with nodes := #[], observers := #[], log := [], memos := [], status := .notStabilising }

/-- the state after the first part of `stabiliseEnd` (nothing deferred) -/
def P8.s6 (s : State) : State :=
  { s with stabNum := s.stabNum + 1, currentlyRunning := none, setDuringStab := [], deadVars := [],
           handleAfterStab := [] }

def P8.stepOb (env : Env) (s : State) (ob : ObsRec) : ObsRec :=
  { ob with handlers := ob.handlers.map (stepPrev (nuAt env s ob.node)) }

/-- the state during the last loop of `stabiliseEnd`: the observers in `po` have been processed and the
notifications `lg` logged -/
structure P8.Run4 (env : Env) (s s8 t : State) (po : List Nat) (lg : List Event) : Prop where
  core : P8.core t = P8.core s8
  nodes : t.nodes = s8.nodes
  obsSize : t.observers.size = s.observers.size
  obs : ∀ (o : Nat) (ob : ObsRec), s.observers[o]? = some ob →
    t.observers[o]? = some (if o ∈ po then P8.stepOb env s ob else ob)
  log : t.log = lg.reverse ++ s.log

theorem P8.default_flag : (default : Node).inHandleAfterStab = false := rfl

theorem P8.nodeUpdate_congr {env : Env} {s t : State} (hsz : t.nodes.size = s.nodes.size)
    (hnode : ∀ m, ∃ b, t.nodeD m = { s.nodeD m with inHandleAfterStab := b })
    (hstab : t.stabNum = s.stabNum + 1) (n : Nat) : t.nodeUpdate env n = nuAt env s n := by
  have hv : t.value env n = s.value env n := by
    refine Step.value_congr env s t hsz (fun m => ?_) n
    obtain ⟨b, hb⟩ := hnode m
    rw [hb]; rfl
  have hv' : State.value env { s with stabNum := s.stabNum + 1 } n = s.value env n :=
    Obs.value_congr_nodes env (s := s) (s' := { s with stabNum := s.stabNum + 1 }) rfl n
  obtain ⟨b, hb⟩ := hnode n
  unfold nuAt State.nodeUpdate
  simp only [hv, hv', hb, hstab]
  rfl

theorem P8.nuAt_cases {env : Env} {s : State} {n : Nat} (h1 : (s.nodeD n).valid = true)
    (h2 : s.isNecessary n = true) : nuAt env s n = .changed ∨ nuAt env s n = .necessary := by
  have e1 : (State.nodeD { s with stabNum := s.stabNum + 1 } n) = s.nodeD n := rfl
  unfold nuAt State.nodeUpdate
  simp only [e1, h1]
  rw [State.isNecessary] at h2
  simp only [h2]
  simp only [Bool.not_true, Bool.false_eq_true, if_false]
  split
  · exact Or.inl rfl
  · exact Or.inr rfl

/-- one `runAll` of the last loop of `stabiliseEnd` -/
theorem P8.run4_step {env : Env} {fuel : Nat} {s s8 t t' : State} {po : List Nat} {lg : List Event} {n o : Nat}
    (heff : PureHandlers env) (O : ObsInv s [] []) (H : HInv s)
    (hval : ∀ n, s.isNecessary n = true → (s.nodeD n).valid = true ∧ (s.value env n).isSome = true)
    (hpc : s8.panicCountdown = none) (hv8 : ∀ n, s8.value env n = s.value env n)
    (R : P8.Run4 env s s8 t po lg) (ho : o ∈ (s.nodeD n).observers) (hnp : o ∉ po)
    (hr : (runAll env fuel o n (nuAt env s n) (s.stabNum + 1)).run.run t = (.ok (), t')) :
    P8.Run4 env s s8 t' (po ++ [o]) (lg ++ obsNotifs env s n o) := by
  obtain ⟨ob, hob, hon, hst⟩ := (O.mem n o).1 ho
  have hst : ob.state = .inUse := by
    rcases hst with h | h
    · exact h
    · exact absurd ((O.dis o ob hob).1 h) (by simp)
  have hnec : s.isNecessary n = true := (isNecessary_iff s n).2 (Or.inr (Or.inl (List.ne_nil_of_mem ho)))
  obtain ⟨hvalid, hsome⟩ := hval n hnec
  obtain ⟨v, hv⟩ := Option.isSome_iff_exists.1 hsome
  have hobt : t.observers[o]? = some ob := by rw [R.obs o ob hob, if_neg hnp]
  have hpct : t.panicCountdown = none := (congrArg State.panicCountdown R.core).trans hpc
  have hvt : t.value env n = some v := by
    rw [Obs.value_congr_nodes env R.nodes n, hv8, hv]
  have := runAll_spec heff hpct hobt hst (P8.nuAt_cases hvalid hnec) hvt (H.tokNodup o ob hob)
    (fun h hh => Int.lt_add_one_iff.2 (H.createdAt o ob h hob hh)) hr
  subst this
  refine ⟨R.core, R.nodes, ?_, ?_, ?_⟩
  · rw [← R.obsSize]; exact Array.size_modify ..
  · intro o' ob' hob'
    show (t.observers.modify o _)[o']? = _
    rw [Array.getElem?_modify]
    by_cases e : o = o'
    · subst e
      rw [hob] at hob'; cases hob'
      rw [if_pos rfl, hobt, if_pos (List.mem_append_right _ (List.mem_singleton_self _))]
      simp only [Option.map_some, P8.stepOb, hon]
    · rw [if_neg e, R.obs o' ob' hob']
      have : o' ∈ po ++ [o] ↔ o' ∈ po := by
        simp only [List.mem_append, List.mem_singleton]
        exact ⟨fun h => h.resolve_right (fun h => e h.symm), Or.inl⟩
      simp only [this]
  · show _ ++ t.log = _
    have : obsNotifs env s n o = ob.handlers.filterMap (notifOf (nuAt env s n) v) := by
      simp only [obsNotifs, hob, hv]
    rw [R.log, this, List.reverse_append, List.append_assoc]

theorem P8.not_mem_take {α} {l : List α} {j : Nat} {a : α} (hj : l[j]? = some a) (hnd : l.Nodup) :
    a ∉ l.take j := by
  obtain ⟨_, hdr⟩ := P8.take_succ hj
  have hl : l = l.take j ++ a :: l.drop (j + 1) := by rw [← hdr, List.take_append_drop]
  rw [hl, List.nodup_append] at hnd
  intro hm
  have hm' : a ∈ (l.take j ++ a :: l.drop (j + 1)).take j := by rw [← hl]; exact hm
  have hlen : (l.take j).length = j := by
    have := (List.getElem?_eq_some_iff.1 hj).1
    rw [List.length_take]; omega
  rw [List.take_append_of_le_length (by omega), List.take_of_length_le (by omega)] at hm'
  exact hnd.2.2 a hm' a (List.mem_cons_self ..) rfl

theorem P8.flatMap_take_succ {α β} {l : List α} {j : Nat} {a : α} (g : α → List β) (hj : l[j]? = some a) :
    (l.take (j + 1)).flatMap g = (l.take j).flatMap g ++ g a := by
  rw [(P8.take_succ hj).1, List.flatMap_append]
  simp

/-- the `runAll`s for the observers of one queued node -/
theorem P8.run4_inner {env : Env} {fuel : Nat} {s s8 t t' : State} {po : List Nat} {lg : List Event} {n : Nat}
    {f : Nat → PUnit → M (ForInStep PUnit)} {u u' : PUnit}
    (hf : ∀ o b, f o b = (runAll env fuel o n (nuAt env s n) (s.stabNum + 1) >>= fun _ =>
      pure (ForInStep.yield PUnit.unit)))
    (heff : PureHandlers env) (O : ObsInv s [] []) (H : HInv s)
    (hval : ∀ n, s.isNecessary n = true → (s.nodeD n).valid = true ∧ (s.value env n).isSome = true)
    (hpc : s8.panicCountdown = none) (hv8 : ∀ n, s8.value env n = s.value env n)
    (R : P8.Run4 env s s8 t po lg) (hdis : ∀ o, o ∈ (s.nodeD n).observers → o ∉ po)
    (hl : (forIn (s.nodeD n).observers u f).run.run t = (.ok u', t')) :
    P8.Run4 env s s8 t' (po ++ (s.nodeD n).observers)
      (lg ++ (s.nodeD n).observers.flatMap (obsNotifs env s n)) := by
  have hI := forIn_ok_inv f (s.nodeD n).observers
    (fun k _ t => P8.Run4 env s s8 t (po ++ (s.nodeD n).observers.take k)
      (lg ++ ((s.nodeD n).observers.take k).flatMap (obsNotifs env s n))) ?step (s.nodeD n).observers 0 u t u' t'
      rfl (Nat.zero_le _) ?init hl
  case init =>
    simpa using R
  case step =>
    intro k o b t1 r t2 hk R1 hb
    rw [hf] at hb
    obtain ⟨x, t3, hr, hb⟩ := bind_ok_inv hb
    obtain ⟨rfl, rfl⟩ := pure_ok_inv hb
    refine ⟨_, rfl, ?_⟩
    have hmem : o ∈ (s.nodeD n).observers := List.mem_of_getElem? hk
    have hnp : o ∉ po ++ (s.nodeD n).observers.take k := by
      rw [List.mem_append, not_or]
      exact ⟨hdis o hmem, P8.not_mem_take hk (H.obsNodup n)⟩
    have := P8.run4_step heff O H hval hpc hv8 R1 hmem hnp hr
    rw [P8.flatMap_take_succ _ hk, (P8.take_succ hk).1, ← List.append_assoc, ← List.append_assoc]
    exact this
  simpa using hI

/-- the last loop of `stabiliseEnd` -/
theorem P8.loop4 {env : Env} {fuel : Nat} {s s8 t' : State}
    {f : Nat × NodeUpdate → PUnit → M (ForInStep PUnit)} {u u' : PUnit}
    (hf : ∀ x b, f x b = (getNode x.1 >>= fun nd =>
      forIn nd.observers PUnit.unit (fun o _ => runAll env fuel o x.1 x.2 (s.stabNum + 1) >>= fun _ =>
        pure (ForInStep.yield PUnit.unit)) >>= fun _ => pure (ForInStep.yield PUnit.unit)))
    (heff : PureHandlers env) (O : ObsInv s [] []) (H : HInv s)
    (hval : ∀ n, s.isNecessary n = true → (s.nodeD n).valid = true ∧ (s.value env n).isSome = true)
    (hpc : s8.panicCountdown = none) (hv8 : ∀ n, s8.value env n = s.value env n)
    (hn8 : ∀ m, (s8.nodeD m).observers = (s.nodeD m).observers)
    (R0 : P8.Run4 env s s8 s8 [] [])
    (hl : (forIn (s.handleAfterStab.map fun n => (n, nuAt env s n)) u f).run.run s8 = (.ok u', t')) :
    P8.Run4 env s s8 t' (s.handleAfterStab.flatMap fun n => (s.nodeD n).observers) (endNotifs env s) := by
  have hI := forIn_ok_inv f (s.handleAfterStab.map fun n => (n, nuAt env s n))
    (fun j _ t => P8.Run4 env s s8 t ((s.handleAfterStab.take j).flatMap fun n => (s.nodeD n).observers)
      ((s.handleAfterStab.take j).flatMap fun n => (s.nodeD n).observers.flatMap (obsNotifs env s n)))
    ?step _ 0 u s8 u' t' rfl (Nat.zero_le _) ?init hl
  case init =>
    simpa using R0
  case step =>
    intro j x b t r t2 hj R hb
    rw [List.getElem?_map] at hj
    cases hn : s.handleAfterStab[j]? with
    | none => rw [hn] at hj; cases hj
    | some n =>
      rw [hn] at hj
      simp only [Option.map_some, Option.some.injEq] at hj
      subst hj
      rw [hf] at hb
      obtain ⟨nd, hnd, hb⟩ := bind_getNode_inv hb
      have hndo : nd.observers = (s.nodeD n).observers := by
        rw [← nodeD_of_some hnd, ← hn8]
        simp only [State.nodeD, R.nodes]
      dsimp only at hb
      rw [hndo] at hb
      obtain ⟨x, t3, hin, hb⟩ := bind_ok_inv hb
      obtain ⟨rfl, rfl⟩ := pure_ok_inv hb
      refine ⟨_, rfl, ?_⟩
      have hdis : ∀ o, o ∈ (s.nodeD n).observers →
          o ∉ (s.handleAfterStab.take j).flatMap fun n => (s.nodeD n).observers := by
        intro o ho hm
        obtain ⟨n', hn', ho'⟩ := List.mem_flatMap.1 hm
        obtain ⟨ob, hob, hon, _⟩ := (O.mem n o).1 ho
        obtain ⟨ob', hob', hon', _⟩ := (O.mem n' o).1 ho'
        rw [hob] at hob'; cases hob'
        rw [hon] at hon'; subst hon'
        exact P8.not_mem_take hn H.has.nodup hn'
      have := P8.run4_inner (f := fun o _ => runAll env fuel o n (nuAt env s n) (s.stabNum + 1) >>= fun _ =>
        pure (ForInStep.yield PUnit.unit)) (fun _ _ => rfl) heff O H hval hpc hv8 R hdis hin
      rw [P8.flatMap_take_succ _ hn, P8.flatMap_take_succ _ hn]
      exact this
  simpa [endNotifs] using hI

/-- the loop of `stabiliseEnd` that empties the queue of nodes with handlers -/
theorem P8.loop3 {env : Env} {s t : State} {f : Nat → List (Nat × NodeUpdate) → M (ForInStep (List (Nat × NodeUpdate)))}
    {q : List (Nat × NodeUpdate)}
    (hf : ∀ n q, f n q = (modNode n (fun x => { x with inHandleAfterStab := false }) >>= fun _ =>
      get >>= fun st => pure (ForInStep.yield (q ++ [(n, st.nodeUpdate env n)]))))
    (hl : (forIn s.handleAfterStab [] f).run.run (P8.s6 s) = (.ok q, t)) :
    P8.restN t = P8.restN (P8.s6 s) ∧ t.nodes.size = s.nodes.size ∧
    (∀ m, t.nodeD m = { s.nodeD m with inHandleAfterStab :=
      if m ∈ s.handleAfterStab then false else (s.nodeD m).inHandleAfterStab }) ∧
    q = s.handleAfterStab.map fun n => (n, nuAt env s n) := by
  have hI := forIn_ok_inv f s.handleAfterStab
    (fun j q t => P8.restN t = P8.restN (P8.s6 s) ∧ t.nodes.size = s.nodes.size ∧
      (∀ m, t.nodeD m = { s.nodeD m with inHandleAfterStab :=
        if m ∈ (s.handleAfterStab.take j) then false else (s.nodeD m).inHandleAfterStab }) ∧
      q = (s.handleAfterStab.take j).map fun n => (n, nuAt env s n))
    ?step _ 0 [] (P8.s6 s) q t rfl (Nat.zero_le _) ?init hl
  case init =>
    refine ⟨rfl, rfl, fun m => ?_, by simp⟩
    simp only [List.take_zero, List.not_mem_nil, if_false]
    rfl
  case step =>
    intro j n b t1 r t2 hj ⟨hrest, hsz, hnode, hq⟩ hb
    rw [hf] at hb
    obtain ⟨t3, et3, hb⟩ := bind_modNode_inv hb
    rw [run_bind_get] at hb
    obtain ⟨rfl, e2⟩ := pure_ok_inv hb
    refine ⟨_, rfl, ?_⟩
    rw [e2]
    have hsz3 : t3.nodes.size = s.nodes.size := by rw [et3, ← hsz]; exact Array.size_modify ..
    have hnode3 : ∀ m, t3.nodeD m = { s.nodeD m with inHandleAfterStab :=
        if m ∈ (s.handleAfterStab.take (j + 1)) then false else (s.nodeD m).inHandleAfterStab } := by
      intro m
      rw [et3, nodeD_modify, hnode m, (P8.take_succ hj).1]
      by_cases e : n = m
      · subst e
        have hin : n ∈ List.take j s.handleAfterStab ++ [n] :=
          List.mem_append_right _ (List.mem_singleton_self _)
        rw [if_pos hin]
        by_cases hlt : n < t1.nodes.size
        · rw [if_pos ⟨rfl, hlt⟩]
        · rw [if_neg (fun h => hlt h.2)]
          have hd : s.nodeD n = default := nodeD_default s n (by omega)
          rw [hd, P8.default_flag]
          simp
      · rw [if_neg (fun h => e h.1)]
        have : m ∈ List.take j s.handleAfterStab ++ [n] ↔ m ∈ List.take j s.handleAfterStab := by
          simp only [List.mem_append, List.mem_singleton]
          exact ⟨fun h => h.resolve_right (fun h => e h.symm), Or.inl⟩
        simp only [this]
    refine ⟨?_, hsz3, hnode3, ?_⟩
    · rw [et3]; exact hrest
    · have hstab : t3.stabNum = s.stabNum + 1 := by
        rw [et3]; exact congrArg State.stabNum hrest
      rw [P8.nodeUpdate_congr hsz3 (fun m => ⟨_, hnode3 m⟩) hstab n, hq, (P8.take_succ hj).1, List.map_append]
      rfl
  simpa using hI

/-- `s'` is `s` after `stabiliseEnd` (nothing deferred, effect-free handlers) -/
structure Ended (env : Env) (s s' : State) : Prop where
  size : s'.nodes.size = s.nodes.size
  node : ∀ m, s'.nodeD m = { s.nodeD m with inHandleAfterStab := false }
  vars : s'.vars = s.vars
  rch : s'.rch = s.rch
  ahh : s'.ahh = s.ahh
  newObservers : s'.newObservers = s.newObservers
  disallowedObservers : s'.disallowedObservers = s.disallowedObservers
  allObservers : s'.allObservers = s.allObservers
  scope : s'.currentScope = s.currentScope
  pc : s'.panicCountdown = s.panicCountdown
  top : s'.top = s.top
  handles : s'.handles = s.handles
  alive : s'.alive = s.alive
  pinv : s'.propagateInvalidity = s.propagateInvalidity
  cfg : s'.cfg = s.cfg
  nextToken : s'.nextToken = s.nextToken
  stabNum : s'.stabNum = s.stabNum + 1
  status : s'.status = .notStabilising
  setDuringStab : s'.setDuringStab = []
  deadVars : s'.deadVars = []
  handleAfterStab : s'.handleAfterStab = []
  obsSize : s'.observers.size = s.observers.size
  /-- the handler records of the in-use observers of queued nodes are stepped, nothing else changes -/
  obs : ∀ (o : Nat) (ob : ObsRec), s.observers[o]? = some ob →
    s'.observers[o]? = some (if ob.state = .inUse ∧ ob.node ∈ s.handleAfterStab then
      { ob with handlers := ob.handlers.map (stepPrev (nuAt env s ob.node)) } else ob)
  log : s'.log = (endNotifs env s).reverse ++ s.log

/-- what the handler phase of `stabiliseEnd` does to the observer records, the handler bookkeeping and the stored values.  The statements about
notifications use nothing else of `Ended` (`Ended.toH`); a `stabiliseEnd` whose handlers write variables gives the same (`EffH.EndedW.toH`). -/
structure EndedH (env : Env) (s s' : State) : Prop where
  value : ∀ m, (s'.nodeD m).value = (s.nodeD m).value
  changedAt : ∀ m, (s'.nodeD m).changedAt = (s.nodeD m).changedAt
  flag : ∀ m, (s'.nodeD m).inHandleAfterStab = false
  nodeObs : ∀ m, (s'.nodeD m).observers = (s.nodeD m).observers
  num : ∀ m, (s'.nodeD m).numOnUpdateHandlers = (s.nodeD m).numOnUpdateHandlers
  nextToken : s'.nextToken = s.nextToken
  stabNum : s'.stabNum = s.stabNum + 1
  handleAfterStab : s'.handleAfterStab = []
  obsSize : s'.observers.size = s.observers.size
  obs : ∀ (o : Nat) (ob : ObsRec), s.observers[o]? = some ob →
    s'.observers[o]? = some (if ob.state = .inUse ∧ ob.node ∈ s.handleAfterStab then
      { ob with handlers := ob.handlers.map (stepPrev (nuAt env s ob.node)) } else ob)

theorem Ended.toH {env : Env} {s s' : State} (E : Ended env s s') : EndedH env s s' :=
  ⟨fun m => by rw [E.node m], fun m => by rw [E.node m], fun m => by rw [E.node m], fun m => by rw [E.node m], fun m => by rw [E.node m],
    E.nextToken, E.stabNum, E.handleAfterStab, E.obsSize, E.obs⟩

/-- an observer is in the observer list of a queued node iff it is in use and its node is queued -/
theorem P8.mem_work {s : State} (O : ObsInv s [] []) {o : Nat} {ob : ObsRec} (hob : s.observers[o]? = some ob) :
    (o ∈ s.handleAfterStab.flatMap fun n => (s.nodeD n).observers) ↔
      (ob.state = .inUse ∧ ob.node ∈ s.handleAfterStab) := by
  constructor
  · intro hm
    obtain ⟨n, hn, ho⟩ := List.mem_flatMap.1 hm
    obtain ⟨ob', hob', hon, hst⟩ := (O.mem n o).1 ho
    rw [hob] at hob'; cases hob'
    subst hon
    refine ⟨?_, hn⟩
    rcases hst with h | h
    · exact h
    · exact absurd ((O.dis o ob hob).1 h) (by simp)
  · intro ⟨hst, hn⟩
    exact List.mem_flatMap.2 ⟨ob.node, hn, (O.mem ob.node o).2 ⟨ob, hob, rfl, Or.inl hst⟩⟩

/-- **`stabilise_end` with effect-free handlers.**  `s` is the state after the drain: nothing deferred, no
observer waiting to be added or unlinked (`ObsInv s [] []`), the handler bookkeeping `HInv s`, and every
necessary node is valid and has a value. -/
theorem stabiliseEnd_spec {env : Env} {fuel : Nat} {s s' : State} (heff : PureHandlers env)
    (hpc : s.panicCountdown = none) (h1 : s.setDuringStab = []) (h2 : s.deadVars = [])
    (O : ObsInv s [] []) (H : HInv s)
    (hval : ∀ n, s.isNecessary n = true → (s.nodeD n).valid = true ∧ (s.value env n).isSome = true)
    (h : (stabiliseEnd env fuel).run.run s = (.ok (), s')) : Ended env s s' := by
  unfold stabiliseEnd at h
  obtain ⟨s1, e1, h⟩ := bind_modify_inv h
  rw [run_bind_get] at h
  try dsimp only at h
  obtain ⟨s2, e2, h⟩ := bind_modify_inv h
  have h1' : s1.setDuringStab = [] := by rw [e1]; exact h1
  rw [h1', List.forIn_nil] at h
  obtain ⟨_, s3, hp, h⟩ := bind_ok_inv h
  obtain ⟨_, e3⟩ := pure_ok_inv hp
  rw [e3] at h
  rw [run_bind_get] at h
  try dsimp only at h
  obtain ⟨s4, e4, h⟩ := bind_modify_inv h
  have h2' : s2.deadVars = [] := by rw [e2, e1]; exact h2
  rw [h2', List.forIn_nil] at h
  obtain ⟨_, s5, hp5, h⟩ := bind_ok_inv h
  obtain ⟨_, e5⟩ := pure_ok_inv hp5
  rw [e5] at h
  rw [run_bind_get] at h
  try dsimp only at h
  obtain ⟨s6, e6, h⟩ := bind_modify_inv h
  have hs6 : s6 = P8.s6 s := by rw [e6, e4, e2, e1]; rfl
  have hhs : s4.handleAfterStab = s.handleAfterStab := by rw [e4, e2, e1]
  rw [hhs, hs6] at h
  clear hp hp5 e3 e5 e6 hs6 hhs h1' h2'
  -- loop 3
  obtain ⟨q, s7, hl3, h⟩ := bind_ok_inv h
  obtain ⟨hrest, hsz7, hnode7, hq⟩ := P8.loop3 (env := env) (fun _ _ => rfl) hl3
  clear hl3
  have hnode7' : ∀ m, s7.nodeD m = { s.nodeD m with inHandleAfterStab := false } := by
    intro m
    rw [hnode7 m]
    by_cases hm : m ∈ s.handleAfterStab
    · rw [if_pos hm]
    · rw [if_neg hm]
      have : (s.nodeD m).inHandleAfterStab = false := by
        cases hf : (s.nodeD m).inHandleAfterStab
        · rfl
        · exact absurd ((H.has.flag m).2 hf) hm
      rw [this]
  obtain ⟨s8, e8, h⟩ := bind_modify_inv h
  rw [run_bind_get] at h
  have hstab8 : s8.stabNum = s.stabNum + 1 := by rw [e8]; exact (congrArg State.stabNum hrest :)
  have hobs8 : s8.observers = s.observers := by rw [e8]; exact (congrArg State.observers hrest :)
  have hlog8 : s8.log = s.log := by rw [e8]; exact (congrArg State.log hrest :)
  have hpc8 : s8.panicCountdown = none := by
    rw [e8]; exact (show s7.panicCountdown = s.panicCountdown from (congrArg State.panicCountdown hrest :)).trans hpc
  have hnodes8 : s8.nodes = s7.nodes := by rw [e8]
  have hnd8 : ∀ m, s8.nodeD m = s7.nodeD m := fun m => by simp only [State.nodeD, hnodes8]
  have hv8 : ∀ n, s8.value env n = s.value env n := by
    intro n
    refine Step.value_congr env s s8 (by rw [hnodes8, hsz7]) (fun m => ?_) n
    rw [hnd8, hnode7']; rfl
  have hn8 : ∀ m, (s8.nodeD m).observers = (s.nodeD m).observers := fun m => by rw [hnd8, hnode7']
  have R0 : P8.Run4 env s s8 s8 [] [] :=
    ⟨rfl, rfl, by rw [hobs8], fun o ob hob => by rw [hobs8, hob]; simp, by rw [hlog8]; rfl⟩
  -- loop 4
  rw [hq, hstab8] at h
  obtain ⟨_, s9, hl4, h⟩ := bind_ok_inv h
  have R9 := P8.loop4 (fuel := fuel) (fun _ _ => rfl) heff O H hval hpc8 hv8 hn8 R0 hl4
  clear hl4
  obtain ⟨s10, e10, h⟩ := bind_modify_inv h
  rw [run_modify] at h
  obtain ⟨_, e11⟩ := Prod.mk.inj h
  clear h
  have hcore : P8.core s' = P8.core (P8.s6 s) := by
    have a1 : P8.core s' = P8.core s9 := by rw [← e11, e10]; rfl
    have a2 : P8.core s8 = P8.core s7 := by rw [e8]; rfl
    have a3 : P8.core s7 = P8.core (P8.s6 s) := (congrArg P8.core hrest :)
    rw [a1, R9.core, a2, a3]
  have hnodes : s'.nodes = s7.nodes := by
    have : s'.nodes = s9.nodes := by rw [← e11, e10]
    rw [this, R9.nodes, hnodes8]
  have hobs : s'.observers = s9.observers := by rw [← e11, e10]
  have hlog : s'.log = s9.log := by rw [← e11, e10]
  have hstatus : s'.status = .notStabilising := by rw [← e11]
  refine ⟨by rw [hnodes, hsz7], fun m => ?_, (congrArg State.vars hcore :), (congrArg State.rch hcore :),
    (congrArg State.ahh hcore :), (congrArg State.newObservers hcore :), (congrArg State.disallowedObservers hcore :),
    (congrArg State.allObservers hcore :), (congrArg State.currentScope hcore :), (congrArg State.panicCountdown hcore :),
    (congrArg State.top hcore :), (congrArg State.handles hcore :), (congrArg State.alive hcore :),
    (congrArg State.propagateInvalidity hcore :), (congrArg State.cfg hcore :), (congrArg State.nextToken hcore :),
    (congrArg State.stabNum hcore :), hstatus, (congrArg State.setDuringStab hcore :), (congrArg State.deadVars hcore :),
    (congrArg State.handleAfterStab hcore :), by rw [hobs, R9.obsSize], fun o ob hob => ?_, by rw [hlog, R9.log]⟩
  · rw [← hnode7' m]
    simp only [State.nodeD, hnodes]
  · rw [hobs, R9.obs o ob hob]
    by_cases hc : ob.state = .inUse ∧ ob.node ∈ s.handleAfterStab
    · rw [if_pos hc, if_pos ((P8.mem_work O hob).2 hc)]; rfl
    · rw [if_neg hc, if_neg (fun hm => hc ((P8.mem_work O hob).1 hm))]

theorem P8.stepPrev_prev {nu : NodeUpdate} {h : HandlerRec} (hnu : nu = .changed ∨ nu = .necessary)
    (hp : PrevOK h.prev) : PrevOK (stepPrev nu h).prev ∧ (stepPrev nu h).prev ≠ .neverBeenUpdated := by
  rcases hnu with rfl | rfl <;> cases hq : h.prev <;> rw [hq] at hp <;>
    simp [stepPrev, handlerStep, hq, PrevOK, NodeUpdate.toPrev] at hp ⊢

theorem P8.stepPrev_createdAt (nu : NodeUpdate) (h : HandlerRec) : (stepPrev nu h).createdAt = h.createdAt := by
  unfold stepPrev; split <;> rfl

/-- an observer record after `stabiliseEnd`: unchanged, or (in use, node queued) stepped with `changed` or
`necessary` -/
theorem P8.ended_rec {env : Env} {s s' : State} (E : EndedH env s s') (O : ObsInv s [] [])
    (hval : ∀ n, s.isNecessary n = true → (s.nodeD n).valid = true ∧ (s.value env n).isSome = true)
    {o : Nat} {ob' : ObsRec} (h : s'.observers[o]? = some ob') :
    ∃ ob, s.observers[o]? = some ob ∧ ob'.node = ob.node ∧ ob'.state = ob.state ∧
      ((ob' = ob ∧ ¬(ob.state = .inUse ∧ ob.node ∈ s.handleAfterStab)) ∨
       (ob.state = .inUse ∧ ob.node ∈ s.handleAfterStab ∧
        ∃ nu, (nu = .changed ∨ nu = .necessary) ∧ ob'.handlers = ob.handlers.map (stepPrev nu))) := by
  have hlt : o < s.observers.size := by
    rw [← E.obsSize]; exact (Array.getElem?_eq_some_iff.1 h).1
  have hob : s.observers[o]? = some s.observers[o] := Array.getElem?_eq_getElem hlt
  refine ⟨_, hob, ?_⟩
  have h' := E.obs o _ hob
  rw [h] at h'
  by_cases hc : (s.observers[o]).state = .inUse ∧ (s.observers[o]).node ∈ s.handleAfterStab
  · rw [if_pos hc] at h'
    cases h'
    refine ⟨rfl, rfl, Or.inr ⟨hc.1, hc.2, _, ?_, rfl⟩⟩
    have ho : o ∈ (s.nodeD (s.observers[o]).node).observers := (O.mem _ o).2 ⟨_, hob, rfl, Or.inl hc.1⟩
    have hnec := (isNecessary_iff s _).2 (Or.inr (Or.inl (List.ne_nil_of_mem ho)))
    exact P8.nuAt_cases (hval _ hnec).1 hnec
  · rw [if_neg hc] at h'
    cases h'
    exact ⟨rfl, rfl, Or.inl ⟨rfl, hc⟩⟩

/-- the handler bookkeeping after `stabiliseEnd` -/
theorem EndedH.hinv {env : Env} {s s' : State} (E : EndedH env s s') (O : ObsInv s [] []) (H : HInv s)
    (hval : ∀ n, s.isNecessary n = true → (s.nodeD n).valid = true ∧ (s.value env n).isSome = true) :
    HInv s' ∧
    ∀ (o : Nat) (ob : ObsRec) (h : HandlerRec), s'.observers[o]? = some ob → ob.state = .inUse →
      h ∈ ob.handlers → h.prev ≠ .neverBeenUpdated := by
  have hflag := E.flag
  have hobsl := E.nodeObs
  have hlen : ∀ o, (hOf s' o).length = (hOf s o).length := by
    intro o
    cases ho : s'.observers[o]? with
    | none =>
      have : s.observers[o]? = none := by
        rw [Array.getElem?_eq_none_iff] at ho ⊢
        rw [← E.obsSize]; exact ho
      simp [hOf, ho, this]
    | some ob' =>
      obtain ⟨ob, hob, _, _, hc⟩ := P8.ended_rec E O hval ho
      rw [hOf_of_some ho, hOf_of_some hob]
      rcases hc with ⟨rfl, _⟩ | ⟨_, _, nu, _, e⟩
      · rfl
      · rw [e, List.length_map]
  have htoks : ∀ (o : Nat) (ob' : ObsRec), s'.observers[o]? = some ob' →
      ∃ ob, s.observers[o]? = some ob ∧ ob'.handlers.map (·.token) = ob.handlers.map (·.token) := by
    intro o ob' ho
    obtain ⟨ob, hob, _, _, hc⟩ := P8.ended_rec E O hval ho
    refine ⟨ob, hob, ?_⟩
    rcases hc with ⟨rfl, _⟩ | ⟨_, _, nu, _, e⟩
    · rfl
    · rw [e, List.map_map]; exact List.map_congr_left fun h _ => P8.stepPrev_token nu h
  have hlast : ∀ (o : Nat) (ob : ObsRec) (h : HandlerRec), s'.observers[o]? = some ob → ob.state = .inUse →
      h ∈ ob.handlers → h.prev ≠ .neverBeenUpdated := by
    intro o ob' h ho hst hh
    obtain ⟨ob, hob, _, est, hc⟩ := P8.ended_rec E O hval ho
    rcases hc with ⟨rfl, hn⟩ | ⟨_, _, nu, hnu, e⟩
    · intro hp
      exact hn ⟨hst, H.pending o ob' h hob (Or.inr hst) hh hp⟩
    · rw [e] at hh
      obtain ⟨h0, hh0, rfl⟩ := List.mem_map.1 hh
      exact (P8.stepPrev_prev hnu (H.prev o ob h0 hob hh0)).2
  refine ⟨⟨fun n => ?_, fun n => by rw [hobsl]; exact H.obsNodup n, ?_, ?_, ⟨?_, fun n => ?_⟩, ?_, ?_, ?_⟩, hlast⟩
  · rw [E.num n, H.count n]
    unfold numOf
    rw [hobsl]
    congr 1
    exact List.map_congr_left fun o _ => by rw [hlen]
  · refine Life.TokWF.of_sub (Nat.le_of_eq E.nextToken.symm) (fun o ob' ho => ?_) H.tok
    obtain ⟨ob, hob, e⟩ := htoks o ob' ho
    exact Or.inr ⟨ob, hob, fun t ht => by unfold Life.tokensOf at ht ⊢; rw [← e]; exact ht⟩
  · intro o ob' ho
    obtain ⟨ob, hob, e⟩ := htoks o ob' ho
    rw [e]; exact H.tokNodup o ob hob
  · rw [E.handleAfterStab]; exact List.nodup_nil
  · rw [E.handleAfterStab, hflag]; simp
  · intro o ob' h ho hh
    obtain ⟨ob, hob, _, _, hc⟩ := P8.ended_rec E O hval ho
    rw [E.stabNum]
    rcases hc with ⟨rfl, _⟩ | ⟨_, _, nu, _, e⟩
    · have := H.createdAt o ob' h hob hh; omega
    · rw [e] at hh
      obtain ⟨h0, hh0, rfl⟩ := List.mem_map.1 hh
      rw [P8.stepPrev_createdAt]
      have := H.createdAt o ob h0 hob hh0; omega
  · intro o ob' h ho hh
    obtain ⟨ob, hob, _, _, hc⟩ := P8.ended_rec E O hval ho
    rcases hc with ⟨rfl, _⟩ | ⟨_, _, nu, hnu, e⟩
    · exact H.prev o ob' h hob hh
    · rw [e] at hh
      obtain ⟨h0, hh0, rfl⟩ := List.mem_map.1 hh
      exact (P8.stepPrev_prev hnu (H.prev o ob h0 hob hh0)).1
  · intro o ob' h ho hst hh hp
    obtain ⟨ob, hob, _, est, _⟩ := P8.ended_rec E O hval ho
    rcases hst with hst | hst
    · exact absurd (O.created o ob hob (est ▸ hst)) (by simp)
    · exact absurd hp (hlast o ob' h ho hst hh)

end IncrVerif.Proofs.SubsH
