import IncrVerif.Proofs.Quiet20
import IncrVerif.Proofs.Footprint
/-!
# Part 25: `stabiliseEnd` returns
-/
namespace IncrVerif.Proofs.Quiet
open IncrVerif.Engine IncrVerif.Driver IncrVerif.Proofs IncrVerif.Proofs.Step IncrVerif.Proofs.Sched

/-- the nodes queued for the update handlers exist (kept by every engine function: `handleAfterStabilisation n`
pushes `n` only after a successful `getNode n`, and nodes are never removed) -/
def HasRange (s : State) : Prop := ∀ n, n ∈ s.handleAfterStab → n < s.nodes.size

namespace P25

/-- the node array does not shrink and `HasRange` is kept -/
def HasR (s s' : State) : Prop := s.nodes.size ≤ s'.nodes.size ∧ (HasRange s → HasRange s')

instance : PreOrd HasR :=
  ⟨fun _ => ⟨Nat.le_refl _, id⟩, fun h1 h2 => ⟨Nat.le_trans h1.1 h2.1, fun h => h2.2 (h1.2 h)⟩⟩

theorem HasR.of_edit {L w} {s s' : State} (e : Footprint.Edit L w s s') : HasR s s' := e.handlerRange

theorem PresH.handleAfterStabilisation (n) : Step.Pres HasR (handleAfterStabilisation n) :=
  (Footprint.Foot.handleAfterStabilisation n).frame HasR.of_edit
theorem PresH.bumpCounter (f) : Step.Pres HasR (bumpCounter f) := Step.Pres.modify fun _ => ⟨Nat.le_refl _, id⟩
theorem PresH.setHeight (n h) : Step.Pres HasR (setHeight n h) := (Footprint.Foot.setHeight n h).frame HasR.of_edit
theorem PresH.addParent (c i p) : Step.Pres HasR (addParent c i p) := (Footprint.Foot.addParent c i p).frame HasR.of_edit
theorem PresH.removeParent (c i p) : Step.Pres HasR (removeParent c i p) :=
  (Footprint.Foot.removeParent c i p).frame HasR.of_edit
theorem PresH.markMapRefUnknown (fuel n) : Step.Pres HasR (markMapRefUnknown fuel n) :=
  (Footprint.Foot.markMapRefUnknown fuel n).frame HasR.of_edit
theorem PresH.becameNecessary (env fuel n) : Step.Pres HasR (becameNecessary env fuel n) :=
  (Footprint.Foot.becameNecessary env fuel n).frame HasR.of_edit
theorem PresH.unlink (fuel : Nat) :
    (∀ n, Step.Pres HasR (becameUnnecessary fuel n)) ∧
    (∀ n, Step.Pres HasR (checkIfUnnecessary fuel n)) ∧
    (∀ n, Step.Pres HasR (removeChildren fuel n)) :=
  ⟨fun n => (Footprint.Foot.becameUnnecessary fuel n).frame HasR.of_edit,
   fun n => (Footprint.Foot.checkIfUnnecessary fuel n).frame HasR.of_edit,
   fun n => (Footprint.Foot.removeChildren fuel n).frame HasR.of_edit⟩
theorem PresH.checkIfUnnecessary (fuel n) : Step.Pres HasR (checkIfUnnecessary fuel n) :=
  (PresH.unlink fuel).2.1 n
theorem PresH.removeChildren (fuel n) : Step.Pres HasR (removeChildren fuel n) :=
  (PresH.unlink fuel).2.2 n
theorem PresH.invalidateNode (fuel n) : Step.Pres HasR (invalidateNode fuel n) :=
  (Footprint.Foot.invalidateNode fuel n).frame HasR.of_edit
theorem PresH.propagateInvalidity (fuel) : Step.Pres HasR (propagateInvalidity fuel) :=
  (Footprint.Foot.propagateInvalidity fuel).frame HasR.of_edit
theorem PresH.addNewObservers (env fuel) : Step.Pres HasR (addNewObservers env fuel) :=
  (Footprint.Foot.addNewObservers env fuel).frame HasR.of_edit
theorem PresH.unlinkDisallowedObservers (fuel) : Step.Pres HasR (unlinkDisallowedObservers fuel) :=
  (Footprint.Foot.unlinkDisallowedObservers fuel).frame HasR.of_edit


/-- a loop whose iterations all return, yield, and leave the state `K` alone -/
theorem forIn_same {α β} (K : State) (f : α → β → M (ForInStep β)) (l : List α)
    (hf : ∀ a, a ∈ l → ∀ b, Tot (f a b) K (fun r t => t = K ∧ ∃ b', r = .yield b')) :
    ∀ b, Tot (forIn l b f) K (fun _ t => t = K) := by
  induction l with
  | nil => intro b; exact ⟨b, K, by rw [List.forIn_nil, run_pure], rfl⟩
  | cons a l ih =>
    intro b
    obtain ⟨r, t, h1, e1, b1, er⟩ := hf a (List.mem_cons_self ..) b
    rw [e1, er] at h1
    obtain ⟨b2, t2, h2, e2⟩ := ih (fun a' ha' => hf a' (List.mem_cons_of_mem _ ha')) b1
    exact ⟨b2, t2, by rw [List.forIn_cons, run_bind_ok h1]; exact h2, e2⟩

/-- the third loop of `stabiliseEnd` (stated for any body that behaves like it) -/
theorem loop3 {s : State}
    (f : Nat → List (Nat × NodeUpdate) → M (ForInStep (List (Nat × NodeUpdate))))
    (hf : ∀ n q t, ∃ nu, (f n q).run.run t = (.ok (.yield (q ++ [(n, nu)])),
      { t with nodes := t.nodes.modify n fun x => { x with inHandleAfterStab := false } }))
    (hs : List Nat) (hhs : ∀ n, n ∈ hs → n < s.nodes.size) :
    ∀ q t, Mid s t → (∀ p, p ∈ q → p.1 < s.nodes.size) →
      ∃ q' t', (forIn hs q f).run.run t = (.ok q', t') ∧ Mid s t' ∧ (∀ p, p ∈ q' → p.1 < s.nodes.size) := by
  induction hs with
  | nil => intro q t M hq; exact ⟨q, t, by rw [List.forIn_nil, run_pure], M, hq⟩
  | cons a l ih =>
    intro q t M hq
    obtain ⟨nu, h1⟩ := hf a q t
    have hq' : ∀ p, p ∈ q ++ [(a, nu)] → p.1 < s.nodes.size := by
      intro p hp
      simp only [List.mem_append, List.mem_singleton] at hp
      rcases hp with hp | hp
      · exact hq p hp
      · rw [hp]; exact hhs a (List.mem_cons_self ..)
    obtain ⟨q2, t2, h2, M2, hq2⟩ := ih (fun n hn => hhs n (List.mem_cons_of_mem _ hn)) _ _ (M.modNode a false) hq'
    exact ⟨q2, t2, by rw [List.forIn_cons, run_bind_ok h1]; exact h2, M2, hq2⟩

end P25

theorem addNewObservers_hasRange {env : Env} {fuel : Nat} {s s' : State} {r : Except Panic Unit}
    (h : (addNewObservers env fuel).run.run s = (r, s')) (hs : HasRange s) : HasRange s' :=
  ((P25.PresH.addNewObservers env fuel).h _ _ _ h).2 hs

theorem unlinkDisallowedObservers_hasRange {fuel : Nat} {s s' : State} {r : Except Panic Unit}
    (h : (unlinkDisallowedObservers fuel).run.run s = (r, s')) (hs : HasRange s) : HasRange s' :=
  ((P25.PresH.unlinkDisallowedObservers fuel).h _ _ _ h).2 hs

theorem stabiliseEnd_total {env : Env} {fuel : Nat} {s : State} (h1 : s.setDuringStab = [])
    (h2 : s.deadVars = [])
    (hobs : ∀ (o : Nat) (ob : ObsRec), s.observers[o]? = some ob → ob.handlers = [])
    (hhs : ∀ n, n ∈ s.handleAfterStab → n < s.nodes.size)
    (hno : ∀ n o, o ∈ (s.nodeD n).observers → o < s.observers.size) :
    Tot (stabiliseEnd env fuel) s (fun _ _ => True) := by
  unfold stabiliseEnd
  refine Tot.bind_modify ?_
  refine Tot.bind_get ?_
  dsimp only
  refine Tot.bind_modify ?_
  rw [h1, List.forIn_nil]
  refine Tot.bind_ok (run_pure _ _) ?_
  refine Tot.bind_get ?_
  dsimp only
  refine Tot.bind_modify ?_
  rw [h2, List.forIn_nil]
  refine Tot.bind_ok (run_pure _ _) ?_
  refine Tot.bind_get ?_
  dsimp only
  refine Tot.bind_modify ?_
  refine Tot.bind (Q := fun q t => Mid s t ∧ ∀ p, p ∈ q → p.1 < s.nodes.size) ?_ ?_
  · refine P25.loop3 (s := s) _ ?_ s.handleAfterStab hhs [] _ ?_ ?_
    · intro n q t
      exact ⟨_, by rw [run_bind_modNode, run_bind_get, run_pure]⟩
    · exact ⟨rfl, fun m => ⟨_, rfl⟩, rfl, rfl, rfl, rfl, rfl, rfl, rfl, rfl, rfl, rfl, rfl, rfl, rfl, rfl, rfl,
        rfl, rfl, rfl⟩
    · intro p hp; cases hp
  intro q t _ ⟨M, hq⟩
  refine Tot.bind_modify ?_
  refine Tot.bind_get ?_
  refine Tot.bind (P25.forIn_same _ _ q ?_ _) ?_
  · intro x hx b
    have hlt : x.1 < t.nodes.size := by rw [M.size]; exact hq x hx
    refine Tot.bind_getNode hlt ?_
    refine Tot.bind (P25.forIn_same _ _ _ ?_ _) ?_
    · intro o ho b2
      have ho' : o ∈ (s.nodeD x.1).observers := by
        obtain ⟨bb, hbb⟩ := M.node x.1
        have : (t.nodeD x.1).observers = (s.nodeD x.1).observers := by rw [hbb]
        rw [← this]; exact ho
      have hlo := hno _ _ ho'
      have hsome : s.observers[o]? = some s.observers[o] := Array.getElem?_eq_getElem hlo
      have hh := hobs o _ hsome
      refine Tot.bind_ok (runAll_ret (ob := s.observers[o]) ?_ hh) (Tot.pure ⟨rfl, _, rfl⟩)
      show t.observers[o]? = _
      rw [M.observers]; exact hsome
    · intro _ t1 _ e
      rw [e]
      exact Tot.pure ⟨rfl, _, rfl⟩
  intro _ t1 _ e
  rw [e]
  refine Tot.bind_modify ?_
  exact ⟨(), _, run_modify _ _, trivial⟩

end IncrVerif.Proofs.Quiet
