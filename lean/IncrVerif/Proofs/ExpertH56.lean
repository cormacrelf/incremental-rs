import IncrVerif.Proofs.ExpertH55
import IncrVerif.Proofs.ExpertH40
/-!
# Expert nodes, E2: what the parent loop of `maybeChangeValueManual` does to the slots of the expert records

* `KE.*`: the heap operations of the loop leave the expert records alone (`Keeps State.experts`).
* `childChanged_x_run`, `childChanged_step`: one `childChanged` on a parent of the fragment, as a state transformer.
* `Walk env c v R S D`: `S` is the state `R` after the callbacks of the parent entries in `D` (of node `c`, whose value
  is `some v`) have been delivered: every record differs from the one in `R` only in `slots`; a slot that was hit by an
  entry of `D` (record with the flag down) holds `v`; every other slot is as in `R`.
* `mcvm_walk`: a successful propagating `maybeChangeValueManual` is a `Walk` over all parent entries.
-/
namespace IncrVerif.Proofs.ExpertH
open IncrVerif.Engine IncrVerif.Driver IncrVerif.Proofs IncrVerif.Proofs.Step IncrVerif.Proofs.Sched
open IncrVerif.Proofs.ExpertH.QR IncrVerif.Proofs.Xp

/-! ## the heap operations keep the expert records -/

macro_rules
  | `(tactic| qleaf) =>
    `(tactic| ((with_reducible apply Step.Pres.modify); intro _; exact (rfl : State.experts _ = State.experts _)))

/-- only the writes of a record and the push of a fresh one change `experts` -/
theorem KE.of_edit {L w} (hL : ∀ t ∈ L, t ∉ [Footprint.Tag.xSlots, .xObservability, .xInvalidChildren, .xForceStale, .xAddChild,
    .xChildren, .xDropChild, .xNode, .xScript, .xSel, .xRan, .pushExpert]) {s s' : State} (e : Footprint.Edit L w s s') :
    Keeps State.experts s s' := by
  cases e
  case expert i f hf => cases hf <;> exact absurd (hL _ ‹_›) (by decide)
  case pushExpert r ht => exact absurd (hL _ ht) (by decide)
  all_goals rfl

theorem KE.handleAfterStabilisation (n) : Step.Pres (Keeps State.experts) (handleAfterStabilisation n) :=
  (Footprint.Foot.handleAfterStabilisation n).frame (KE.of_edit (by decide))
theorem KE.maybeHandleAfterStabilisation (n) : Step.Pres (Keeps State.experts) (maybeHandleAfterStabilisation n) :=
  (Footprint.Foot.maybeHandleAfterStabilisation n).frame (KE.of_edit (by decide))
macro_rules | `(tactic| qleaf) => `(tactic| with_reducible apply KE.maybeHandleAfterStabilisation)
theorem KE.rchInsert (n) : Step.Pres (Keeps State.experts) (rchInsert n) :=
  (Footprint.Foot.rchInsert n).frame (KE.of_edit (by decide))
macro_rules | `(tactic| qleaf) => `(tactic| with_reducible apply KE.rchInsert)
theorem KE.parentIterCanRecomputeNow (p child) : Step.Pres (Keeps State.experts) (parentIterCanRecomputeNow p child) :=
  (Footprint.Foot.parentIterCanRecomputeNow p child).frame (KE.of_edit (by decide))
macro_rules | `(tactic| qleaf) => `(tactic| with_reducible apply KE.parentIterCanRecomputeNow)

/-! ## one `childChanged` on a parent of the fragment -/

/-- `child_changed` on a valid parent that is not a map_ref: the edge callback of an expert parent, nothing otherwise -/
theorem childChanged_x_run (env : Env) (fuel p c i : Nat) (old : Option Val) {s : State} {nd : Node}
    (hn : s.nodes[p]? = some nd) (hv : nd.valid = true) (hk : ∀ pr inp, nd.kind ≠ .mapRef pr inp) :
    (childChanged env (fuel + 1) p c i old).run.run s =
      match nd.kind with
      | .expert e => (runEdgeCallback env e i).run.run s
      | _ => (.ok (), s) := by
  unfold childChanged
  rw [run_bind_ok (run_getNode_some hn)]
  have : nd.kind? = some nd.kind := by simp [Node.kind?, hv]
  rw [this]
  cases hkd : nd.kind <;> first | rfl | exact absurd hkd (hk _ _)

/-- the slots after the callback of dependency `d0` delivered `v` -/
theorem lookup_deliver (d0 : Nat) (v : Val) (l : List (Nat × Val)) (d : Nat) :
    (((d0, v) :: l.filter (·.1 != d0)).lookup d) = if d = d0 then some v else l.lookup d := by
  by_cases h : d = d0
  · subst h; simp [List.lookup]
  · rw [if_neg h]
    have : (d == d0) = false := by simpa using h
    simp only [List.lookup, this]
    exact lookup_filter_ne d d0 l h

/-- a successful `childChanged` on a valid parent `p` (not a map_ref) of a state without armed fault whose records are
user-defined: nothing happens unless `p` is an expert whose flag is down and that has an edge `ci`; then the callback
of that edge is delivered -/
theorem childChanged_step {env : Env} {fuel p c ci : Nat} {old : Option Val} {S S' : State} {u : Unit}
    (hvalid : (S.nodeD p).valid = true) (hk : ∀ pr inp, (S.nodeD p).kind ≠ .mapRef pr inp)
    (hpk : ∀ (e : Nat) (er : ExpertRec), S.experts[e]? = some er → er.pk = none) (hpc : S.panicCountdown = none)
    (h : (childChanged env fuel p c ci old).run.run S = (.ok u, S')) :
    ((∀ e, (S.nodeD p).kind ≠ .expert e) → S' = S) ∧
    ∀ e, (S.nodeD p).kind = .expert e → ∃ er, S.experts[e]? = some er ∧
      (er.willFireAllCallbacks = true → S' = S) ∧
      (er.willFireAllCallbacks = false → er.children[ci]? = none → S' = S) ∧
      (∀ ed, er.willFireAllCallbacks = false → er.children[ci]? = some ed →
        S' = putExpert e (fireRec env S er ed) (logged (cbEvent env S er.node ed) S)) := by
  cases fuel with
  | zero => unfold childChanged at h; cases h
  | succ fuel =>
    have hn : S.nodes[p]? = some (S.nodeD p) := by
      cases hq : S.nodes[p]? with
      | some x => rw [nodeD_of_some hq]
      | none =>
        exfalso
        unfold childChanged at h
        obtain ⟨nd, _, hg, _⟩ := bind_ok_inv h
        obtain ⟨_, hnd⟩ := getNode_ok_inv hg
        rw [hq] at hnd; cases hnd
    rw [childChanged_x_run env fuel p c ci old hn hvalid hk] at h
    constructor
    · intro hne
      cases hkd : (S.nodeD p).kind <;> rw [hkd] at h <;>
        first
          | (cases h; rfl)
          | exact absurd hkd (hne _)
    · intro e hke
      rw [hke] at h
      dsimp only at h
      cases hx : S.experts[e]? with
      | none =>
        exfalso
        unfold runEdgeCallback at h
        obtain ⟨er, _, hg, _⟩ := bind_ok_inv h
        rw [run_getExpert, hx] at hg; cases hg
      | some er =>
        rw [runEdgeCallback_run env ci hx] at h
        refine ⟨er, rfl, ?_, ?_, ?_⟩
        · intro hw; rw [if_pos hw] at h; cases h; rfl
        · intro hw hc
          rw [if_neg (by rw [hw]; simp), hc] at h; cases h; rfl
        · intro ed hw hc
          rw [if_neg (by rw [hw]; simp), hc] at h
          dsimp only at h
          rw [edgeOnChange_run env ed hx (hpk e er hx) hpc] at h
          cases h
          exact fireEdge_eq env e er.node ed hx

/-! ## the walk over the parent entries -/

/-- dependency `d` of record `er` (expert `e`) is the callback edge named by a parent entry in `D` -/
def Hit (R : State) (D : Nat × Nat → Prop) (e : Nat) (er : ExpertRec) (d : Nat) : Prop :=
  ∃ p ci ed, D (p, ci) ∧ (R.nodeD p).kind = .expert e ∧ er.children[ci]? = some ed ∧ ed.dep = d ∧
    ed.cb.isSome = true

theorem Hit.mono {R : State} {D D' : Nat × Nat → Prop} {e : Nat} {er : ExpertRec} {d : Nat}
    (h : Hit R D e er d) (hD : ∀ a, D a → D' a) : Hit R D' e er d := by
  obtain ⟨p, ci, ed, h1, h2⟩ := h
  exact ⟨p, ci, ed, hD _ h1, h2⟩

/-- how the record `er'` relates to the record `er` it was before the entries in `D` were processed -/
structure SlotsRel (v : Val) (R : State) (D : Nat × Nat → Prop) (e : Nat) (er er' : ExpertRec) : Prop where
  hit : ∀ d, er.willFireAllCallbacks = false → Hit R D e er d → er'.slots.lookup d = some v
  keep : ∀ d, er'.slots.lookup d = er.slots.lookup d ∨ (er.willFireAllCallbacks = false ∧ Hit R D e er d)
  keys : ∀ x, x ∈ er'.slots → x ∈ er.slots ∨ ∃ ed, ed ∈ er.children ∧ x.1 = ed.dep

structure Walk (v : Val) (R S : State) (D : Nat × Nat → Prop) : Prop where
  quiet : Quiet R S
  core : Keeps xcore R S
  slots : ∀ e er, R.experts[e]? = some er → ∃ er', S.experts[e]? = some er' ∧ SlotsRel v R D e er er'

theorem Walk.refl (v : Val) (R : State) : Walk v R R (fun _ => False) :=
  ⟨Quiet.refl R, rfl, fun _ er he => ⟨er, he, fun _ _ h => by
    obtain ⟨_, _, _, hD, _⟩ := h; exact hD.elim, fun _ => Or.inl rfl, fun _ hx => Or.inl hx⟩⟩

theorem hit_cons {R : State} {D : Nat × Nat → Prop} {p ci e : Nat} {er : ExpertRec} {d : Nat} :
    Hit R (fun a => a = (p, ci) ∨ D a) e er d ↔
      Hit R D e er d ∨ ((R.nodeD p).kind = .expert e ∧ ∃ ed, er.children[ci]? = some ed ∧ ed.dep = d ∧
        ed.cb.isSome = true) := by
  constructor
  · rintro ⟨p2, ci2, ed, h1 | h1, h2, h3, h4, h5⟩
    · cases h1; exact Or.inr ⟨h2, ed, h3, h4, h5⟩
    · exact Or.inl ⟨p2, ci2, ed, h1, h2, h3, h4, h5⟩
  · rintro (h | ⟨h2, ed, h3, h4, h5⟩)
    · exact h.mono fun a ha => Or.inr ha
    · exact ⟨p, ci, ed, Or.inl rfl, h2, h3, h4, h5⟩

theorem SlotsRel.mono {v : Val} {R : State} {D D' : Nat × Nat → Prop} {e : Nat} {er er' : ExpertRec}
    (h : SlotsRel v R D e er er') (hD : ∀ a, D a → D' a)
    (hnew : ∀ d, er.willFireAllCallbacks = false → Hit R D' e er d → Hit R D e er d) :
    SlotsRel v R D' e er er' :=
  ⟨fun d hw hh => h.hit d hw (hnew d hw hh),
    fun d => (h.keep d).imp id fun ⟨hw, hh⟩ => ⟨hw, hh.mono hD⟩, h.keys⟩

/-- reading a record of `S` back in `R` through `xcore` -/
theorem core_back {R S : State} (k : Keeps xcore R S) {e : Nat} {er' : ExpertRec} (he' : S.experts[e]? = some er') :
    ∃ er, R.experts[e]? = some er ∧ stripSlots er' = stripSlots er := by
  have := xcore_get k e
  rw [he'] at this
  cases hr : R.experts[e]? with
  | none => rw [hr] at this; cases this
  | some er =>
    rw [hr] at this
    simp only [Option.map_some, Option.some.injEq] at this
    exact ⟨er, rfl, this⟩

theorem core_eq {R S : State} (k : Keeps xcore R S) {e : Nat} {er er' : ExpertRec} (he : R.experts[e]? = some er)
    (he' : S.experts[e]? = some er') : stripSlots er' = stripSlots er := by
  obtain ⟨er0, h0, h1⟩ := core_back k he'
  rw [he] at h0; cases h0; exact h1

theorem strip_fields {a b : ExpertRec} (h : stripSlots a = stripSlots b) :
    a.children = b.children ∧ a.willFireAllCallbacks = b.willFireAllCallbacks ∧ a.pk = b.pk ∧
      a.forceStale = b.forceStale ∧ a.node = b.node :=
  ⟨congrArg (·.children) h, congrArg (·.willFireAllCallbacks) h, congrArg (·.pk) h, congrArg (·.forceStale) h,
    congrArg (·.node) h⟩

/-- what the walk needs of the state `R` it starts from: node `c` holds `v`, and its parent entries name edges on `c` -/
structure WalkPre (env : Env) (c : Nat) (v : Val) (R : State) : Prop where
  valid : ∀ m, (R.nodeD m).valid = true
  nomr : ∀ m p i, (R.nodeD m).kind ≠ .mapRef p i
  pk : ∀ (e : Nat) (er : ExpertRec), R.experts[e]? = some er → er.pk = none
  pc : R.panicCountdown = none
  val : (R.nodeD c).value = some v
  edge : ∀ (p ci e : Nat) (er : ExpertRec) (ed : ExpertEdge), (p, ci) ∈ (R.nodeD c).parents →
    (R.nodeD p).kind = .expert e → R.experts[e]? = some er → er.children[ci]? = some ed → ed.child = c

theorem Walk.value {env : Env} {c : Nat} {v : Val} {R S : State} {D : Nat × Nat → Prop} (P : WalkPre env c v R)
    (W : Walk v R S D) : S.value env c = some v := by
  rw [value_plain env S c (by rw [(W.quiet.node c).kind]; exact P.nomr c), (W.quiet.node c).value]
  exact P.val

/-- work that leaves the expert records alone -/
theorem Walk.frame {v : Val} {R S S' : State} {D : Nat × Nat → Prop} (W : Walk v R S D) (q : Quiet S S')
    (k : Keeps State.experts S S') : Walk v R S' D := by
  have k' : S'.experts = S.experts := k
  refine ⟨W.quiet.trans q, ?_, fun e er he => ?_⟩
  · show xcore S' = xcore R
    have : xcore S' = xcore S := by unfold xcore; rw [k']
    rw [this]; exact W.core
  · rw [k']; exact W.slots e er he

theorem Walk.mono {v : Val} {R S : State} {D D' : Nat × Nat → Prop} (W : Walk v R S D)
    (h1 : ∀ a, D a → D' a) (h2 : ∀ a, D' a → D a) : Walk v R S D' :=
  ⟨W.quiet, W.core, fun e er he => by
    obtain ⟨er', he', rel⟩ := W.slots e er he
    exact ⟨er', he', rel.mono h1 fun d _ hh => hh.mono h2⟩⟩

/-- **one parent entry.** -/
theorem Walk.step {env : Env} {c : Nat} {v : Val} {R S S' : State} {D : Nat × Nat → Prop} {fuel p ci : Nat}
    {old : Option Val} {u : Unit} (P : WalkPre env c v R) (W : Walk v R S D)
    (hp : (p, ci) ∈ (R.nodeD c).parents)
    (h : (childChanged env fuel p c ci old).run.run S = (.ok u, S')) :
    Walk v R S' (fun a => a = (p, ci) ∨ D a) := by
  have q : Quiet S S' := (Step.Pres.childChanged env fuel p c ci old).h _ _ _ h
  have k : Keeps xcore S S' := (K.childChanged env fuel p c ci old).h _ _ _ h
  have kindS : ∀ m, (S.nodeD m).kind = (R.nodeD m).kind := fun m => (W.quiet.node m).kind
  have pkS : ∀ (e : Nat) (er' : ExpertRec), S.experts[e]? = some er' → er'.pk = none := by
    intro e er' he'
    obtain ⟨er, he, hs⟩ := core_back W.core he'
    rw [(strip_fields hs).2.2.1]; exact P.pk e er he
  have valS := W.value P
  obtain ⟨hA, hB⟩ := childChanged_step (by rw [(W.quiet.node p).valid]; exact P.valid p)
    (by rw [kindS]; exact P.nomr p) pkS (W.quiet.pc P.pc) h
  refine ⟨W.quiet.trans q, (show xcore S' = xcore R from (show xcore S' = xcore S from k).trans W.core),
    fun e er he => ?_⟩
  obtain ⟨er', he', rel⟩ := W.slots e er he
  obtain ⟨hch, hwf, -, -, -⟩ := strip_fields (core_eq W.core he he')
  by_cases hfire : (R.nodeD p).kind = .expert e ∧ er.willFireAllCallbacks = false ∧ ∃ ed, er.children[ci]? = some ed
  · obtain ⟨hk, hw, ed, hed⟩ := hfire
    obtain ⟨er2, he2, -, -, hfireS⟩ := hB e (by rw [kindS]; exact hk)
    rw [he'] at he2; cases he2
    have hS' := hfireS ed (by rw [hwf]; exact hw) (by rw [hch]; exact hed)
    have hchild : ed.child = c := P.edge p ci e er ed hp hk he hed
    have hget : S'.experts[e]? = some (fireRec env S er' ed) := by
      rw [hS']; exact putExpert_get (s := logged _ S) _ he'
    refine ⟨_, hget, ?_⟩
    cases hcb : ed.cb with
    | none =>
      rw [fireRec_noop env S er' ed (Or.inl hcb)]
      refine rel.mono (fun a ha => Or.inr ha) fun d _ hh => ?_
      rcases hit_cons.1 hh with hh | ⟨-, ed2, h3, -, h5⟩
      · exact hh
      · rw [hed] at h3; cases h3; rw [hcb] at h5; cases h5
    | some cb =>
      have hrec : (fireRec env S er' ed).slots = (ed.dep, v) :: er'.slots.filter (·.1 != ed.dep) := by
        unfold fireRec; rw [hcb, hchild, valS]
      refine ⟨fun d hw' hh => ?_, fun d => ?_, fun x hx => ?_⟩
      · rw [hrec, lookup_deliver]
        split
        · rfl
        · rcases hit_cons.1 hh with hh | ⟨-, ed2, h3, h4, -⟩
          · exact rel.hit d hw' hh
          · rw [hed] at h3; cases h3; exact absurd h4.symm ‹_›
      · rw [hrec, lookup_deliver]
        split
        · rename_i hd
          exact Or.inr ⟨hw, hit_cons.2 (Or.inr ⟨hk, ed, hed, hd.symm, by rw [hcb]; rfl⟩)⟩
        · exact (rel.keep d).imp id fun ⟨hw', hh⟩ => ⟨hw', hh.mono fun a ha => Or.inr ha⟩
      · rw [hrec] at hx
        rcases List.mem_cons.1 hx with rfl | hx
        · exact Or.inr ⟨ed, List.mem_of_getElem? hed, rfl⟩
        · exact rel.keys x (List.mem_filter.1 hx).1
  · have hget : S'.experts[e]? = some er' := by
      by_cases hx : ∃ e2, (S.nodeD p).kind = .expert e2
      · obtain ⟨e2, hk2⟩ := hx
        obtain ⟨er2, he2, h1, h2, h3⟩ := hB e2 hk2
        by_cases hw2 : er2.willFireAllCallbacks = true
        · rw [h1 hw2]; exact he'
        have hw2' : er2.willFireAllCallbacks = false := by simpa using hw2
        cases hc2 : er2.children[ci]? with
        | none => rw [h2 hw2' hc2]; exact he'
        | some ed2 =>
          rw [h3 ed2 hw2' hc2]
          by_cases hee : e2 = e
          · subst hee
            rw [he'] at he2; cases he2
            exact absurd ⟨by rw [← kindS]; exact hk2, by rw [← hwf]; exact hw2', ed2, by rw [← hch]; exact hc2⟩ hfire
          · rw [← he']; exact putExpert_get_ne (logged _ S) _ hee
      · rw [hA fun e2 h2 => hx ⟨e2, h2⟩]; exact he'
    refine ⟨er', hget, rel.mono (fun a ha => Or.inr ha) fun d hw hh => ?_⟩
    rcases hit_cons.1 hh with hh | ⟨hk, ed2, h3, -, -⟩
    · exact hh
    · exact absurd ⟨hk, hw, ed2, h3⟩ hfire

/-- **the loop over the parent entries**, for any loop body that is a `childChanged` followed by work that leaves
the expert records alone -/
theorem Walk.loop {env : Env} {c : Nat} {v : Val} {R : State} {fuel : Nat} {old : Option Val}
    (P : WalkPre env c v R) (f : Nat × Nat → PUnit → M (ForInStep PUnit))
    (hf : ∀ p ci S S' r, (f (p, ci) ⟨⟩).run.run S = (.ok r, S') →
      ∃ u S1, (childChanged env fuel p c ci old).run.run S = (.ok u, S1) ∧ Quiet S1 S' ∧
        Keeps State.experts S1 S' ∧ r = .yield ⟨⟩) :
    ∀ (rest : List (Nat × Nat)) (S S2 : State) (D : Nat × Nat → Prop) (r : PUnit),
      (∀ a, a ∈ rest → a ∈ (R.nodeD c).parents) → Walk v R S D →
      (forIn rest PUnit.unit f).run.run S = (.ok r, S2) → Walk v R S2 (fun a => a ∈ rest ∨ D a) := by
  intro rest
  induction rest with
  | nil =>
    intro S S2 D r _ W h
    rw [List.forIn_nil] at h
    obtain ⟨-, rfl⟩ := pure_ok_inv h
    exact W.mono (fun a ha => Or.inr ha) fun a ha => ha.elim (fun h => by cases h) id
  | cons a l ih =>
    intro S S2 D r hin W h
    obtain ⟨p, ci⟩ := a
    rw [List.forIn_cons] at h
    obtain ⟨x, S1', hx, hrest⟩ := bind_ok_inv h
    obtain ⟨u, S1, hcc, q, k, rfl⟩ := hf p ci S S1' x hx
    have W1 := (W.step P (hin _ (List.mem_cons_self ..)) hcc).frame q k
    have W2 := ih S1' S2 _ r (fun b hb => hin b (List.mem_cons_of_mem _ hb)) W1 hrest
    refine W2.mono ?_ ?_
    · rintro b (hb | hb | hb)
      · exact Or.inl (List.mem_cons_of_mem _ hb)
      · exact Or.inl (by rw [hb]; exact List.mem_cons_self ..)
      · exact Or.inr hb
    · rintro b (hb | hb)
      · rcases List.mem_cons.1 hb with hb | hb
        · exact Or.inr (Or.inl hb)
        · exact Or.inl hb
      · exact Or.inr (Or.inr hb)

/-- **the parent loop of `maybeChangeValueManual`** (the node changed, `child_changed` notifications on): all parent
entries of `c` are walked -/
theorem mcvm_walk {env : Env} {fuel c : Nat} {old : Option Val} {v : Val} {W s' : State} {r : Option Nat}
    (P : WalkPre env c v (touched c W))
    (h : (maybeChangeValueManual env fuel c old true true).run.run W = (.ok r, s')) :
    Walk v (touched c W) s' (fun a => a ∈ ((touched c W).nodeD c).parents) := by
  unfold maybeChangeValueManual at h
  simp only [Bool.not_true, Bool.false_eq_true, if_false, if_true, run_bind_get, run_bind_modNode,
    run_bind_bumpCounter] at h
  obtain ⟨u, s1, h1, h2⟩ := bind_ok_inv h
  have q1 : Quiet (touched c W) s1 := (Step.Pres.maybeHandleAfterStabilisation c).h _ _ _ h1
  have k1 : Keeps State.experts (touched c W) s1 := (KE.maybeHandleAfterStabilisation c).h _ _ _ h1
  have W1 : Walk v (touched c W) s1 (fun _ => False) := (Walk.refl v _).frame q1 k1
  obtain ⟨nd1, s1', hg, h3⟩ := bind_ok_inv h2
  obtain ⟨rfl, hnd1⟩ := getNode_ok_inv hg
  have hpar : nd1.parents = ((touched c W).nodeD c).parents := by
    have := (q1.node c).parents
    rwa [nodeD_of_some hnd1] at this
  rw [← hpar]
  rcases hps : nd1.parents with _ | ⟨⟨p0, ci0⟩, rest⟩
  · rw [hps] at h3
    obtain ⟨-, rfl⟩ := pure_ok_inv h3
    exact W1.mono (fun _ h => h.elim) fun a (h : a ∈ []) => by cases h
  rw [hps] at h3
  dsimp only at h3
  obtain ⟨u2, s2, hloop, hlast⟩ := bind_ok_inv h3
  have hin : ∀ a, a ∈ (p0, ci0) :: rest → a ∈ ((touched c W).nodeD c).parents := by
    intro a ha; rw [← hpar, hps]; exact ha
  have W2 := Walk.loop (fuel := fuel) (old := old) P _ (by
    intro p ci S S' r hb
    obtain ⟨u, t1, hcc, hb1⟩ := bind_ok_inv hb
    refine ⟨u, t1, hcc, Step.Pres.h (by qpres) _ _ _ hb1, Step.Pres.h (by qpres) _ _ _ hb1, ?_⟩
    rw [run_bind_get] at hb1
    obtain ⟨na, hna, hb4⟩ := bind_getNode_inv (bind_dassert_inv hb1)
    split at hb4
    · obtain ⟨_, t5, hins, hb5⟩ := bind_ok_inv hb4
      exact (pure_ok_inv hb5).1
    · exact (pure_ok_inv hb4).1) rest s1' s2 _ u2 (fun a ha => hin a (List.mem_cons_of_mem _ ha)) W1 hloop
  obtain ⟨u3, s3, hcc, hl1⟩ := bind_ok_inv hlast
  have W3 := W2.step P (hin _ (List.mem_cons_self ..)) hcc
  have W4 := W3.frame (Step.Pres.h (by qpres) _ _ _ hl1) (Step.Pres.h (by qpres) _ _ _ hl1)
  refine W4.mono ?_ ?_
  · rintro b (hb | hb | hb)
    · rw [hb]; exact List.mem_cons_self ..
    · exact List.mem_cons_of_mem _ hb
    · exact hb.elim
  · intro b hb
    rcases List.mem_cons.1 hb with hb | hb
    · exact Or.inl hb
    · exact Or.inr (Or.inl hb)

end IncrVerif.Proofs.ExpertH
