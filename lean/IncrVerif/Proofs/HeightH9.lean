import IncrVerif.Proofs.HeightH3
import IncrVerif.Proofs.Quiet27
/-!
# C19 for whole histories: the observer actions, the writes and the read-only actions return, keep `TInvH`
(as `CutH39.lean`, for `TInvH`)
-/
namespace IncrVerif.Proofs.HeightH
open IncrVerif.Engine IncrVerif.Driver IncrVerif.Proofs IncrVerif.Proofs.Step IncrVerif.Proofs.Sched
open IncrVerif.Proofs.Quiet

namespace S4

/-! ## `TInvH` under changes of the observer bookkeeping -/

/-- `TInvH` reads the nodes, the var cells, `top`, the two heaps, `maxHeightSeen` and the observers waiting to be
added -/
theorem TInvH_of_frame {N : Nat} {s s' : State} (T : TInvH N s) (hn : s'.nodes = s.nodes)
    (hv : s'.vars = s.vars) (ht : s'.top = s.top) (ha : s'.ahh = s.ahh) (hr : s'.rch = s.rch)
    (hs : s'.maxHeightSeen = s.maxHeightSeen)
    (h1 : s'.newObservers.Nodup)
    (h2 : ∀ (o : Nat) (ob : ObsRec), o ∈ s'.newObservers → s'.observers[o]? = some ob →
      ob.state = .created ∨ ob.state = .unlinked) : TInvH N s' where
  hx := by
    have hD : ∀ m, s'.nodeD m = s.nodeD m := fun m => by simp only [State.nodeD, hn]
    refine HEx.transfer T.hx (fun m => by rw [hD]) (by rw [hs]; exact Int.le_refl _) ?_
    intro m hm ho
    have hnec : s'.isNecessary m = s.isNecessary m := by simp only [State.isNecessary, hD]
    rw [hnec] at hm
    exact ⟨hm, ho, by rw [hD]⟩
  room := ⟨by rw [ha]; exact T.room.ahh, by rw [hr]; exact T.room.rch, by rw [hs]; exact T.room.seen,
    by rw [hs]; exact T.room.seen0⟩
  ahh0 := by rw [ha]; exact T.ahh0
  linked c vc h := by rw [hv] at h; exact T.linked c vc h
  topSize := by rw [ht, hn]; exact T.topSize
  newNodup := h1
  newState := h2

theorem obsTot (N : Nat) : CutH.ObsTot (TInvH N) :=
  ⟨fun T => T.newNodup, fun T => T.newState, fun T hn hv ht ha hr hs h1 h2 => TInvH_of_frame T hn hv ht ha hr hs h1 h2⟩

/-- what every simple action keeps besides the invariant -/
def Same (s s' : State) : Prop :=
  s'.maxHeightSeen = s.maxHeightSeen ∧ s'.nodes.size = s.nodes.size ∧
    (∀ m, (s'.nodeD m).kind = (s.nodeD m).kind)

theorem Same.refl (s : State) : Same s s := ⟨rfl, rfl, fun _ => rfl⟩

theorem Same.of_nodes {s s' : State} (hn : s'.nodes = s.nodes) (hs : s'.maxHeightSeen = s.maxHeightSeen) :
    Same s s' := ⟨hs, by rw [hn], fun m => by simp only [State.nodeD, hn]⟩

theorem Same.of_obsOnly {k : Nat} {s s' : State} (h : CutH.ObsOnly k s s') : Same s s' := Same.of_nodes h.nodes h.seen

/-! ## the writes -/

/-- a write outside `stabilise` returns -/
theorem writeVar_total {env : Env} {N : Nat} {s : State} {v : Nat} {f : Val → Val} {isSet : Bool}
    (Q : QInv env s) (T : TInvH N s) (hv : v < s.vars.size) :
    Tot (writeVar v f isSet) s (fun _ s' => TInvH N s' ∧ s'.nodes.size = s.nodes.size ∧
      s'.vars.size = s.vars.size ∧ s'.observers.size = s.observers.size ∧ Same s s') := by
  have hv0 : s.vars[v]? = some s.vars[v] := Array.getElem?_eq_getElem hv
  generalize s.vars[v] = vc at hv0
  have I : GInv env s allClosed := Q.struct
  have hsz : vc.node < s.nodes.size := (Q.vars.cell v vc hv0).1
  have hl : vc.linked = true := T.linked v vc hv0
  obtain ⟨hrun, hh⟩ := CutH.writeVar_ret f isSet hv0 (by rw [Q.status]; intro e; cases e) hl hsz (Q.vars.cell v vc hv0).2
    (I.node hsz).valid (Q.stamps vc.node).1 fun hnec => by
      have h0 := I.hpos _ hnec rfl
      have heq := (T.hx _ hnec rfl).1
      have hle : needH s vc.node ≤ N := HEx.le T.hx T.room hnec rfl
      have hmax := T.room.rch
      omega
  obtain ⟨R, -⟩ := wroteOutside_q (f vc.value) Q hv0 hh
  have hF := wroteOutside_frame v vc (f vc.value) s
  have hS := wroteOutside_sizes v vc (f vc.value) s
  have hms := hF.2.2.2.2.2.1
  refine Tot.of_ok hrun ⟨?_, R.size, hS.1, by rw [R.observers], hms, R.size, R.kind⟩
  refine ⟨?_, ⟨?_, ?_, ?_, ?_⟩, ?_, fun c vc' h => ?_, ?_, ?_, ?_⟩
  · refine HEx.transfer T.hx R.kind (by rw [hms]; exact Int.le_refl _) ?_
    intro m hm ho
    rw [R.nec] at hm
    exact ⟨hm, ho, R.height m⟩
  · rw [hF.2.2.2.2.1]; exact T.room.ahh
  · rw [← T.room.rch]; simp only [Heap.maxAllowed, hS.2]
  · rw [hms]; exact T.room.seen
  · rw [hms]; exact T.room.seen0
  · rw [hF.2.2.2.2.1]; exact T.ahh0
  · by_cases hc : c = v
    · rw [hc, R.var] at h; cases h; exact hl
    · rw [R.other c hc] at h; exact T.linked c vc' h
  · rw [R.top, R.size]; exact T.topSize
  · rw [R.newObservers]; exact T.newNodup
  · intro o ob hm h
    rw [R.newObservers] at hm; rw [R.observers] at h
    exact T.newState o ob hm h

end S4
open S4

/-- the observer actions, the writes and the read-only actions return, keep the exact-height invariant, and set
no height -/
theorem simple_totalH {env : Env} {N : Nat} {s : State} {a : Action} {tk : Array Nat}
    (Q : QInv env s) (T : TInvH N s) (ha : SimpleAction a) (hok : ActionOKH s a) :
    Tot (stepAction env a tk) s (fun r s' => r.2 = tk ∧ TInvH N s' ∧ Grown a s s' ∧
      s'.maxHeightSeen = s.maxHeightSeen ∧ s'.nodes.size = s.nodes.size ∧
      (∀ m, (s'.nodeD m).kind = (s.nodeD m).kind)) := by
  cases a <;> try exact ha.elim
  case observe n =>
    cases n <;> try exact ha.elim
    exact ((obsTot N).observe Q.obs.newIn T hok).mono fun _ _ h => ⟨h.1, h.2.1, h.2.2.grownQ rfl, Same.of_obsOnly h.2.2⟩
  case cloneObs o => exact ((obsTot N).cloneObs T).mono fun _ _ h => ⟨h.1, h.2.1, h.2.2.grownQ rfl, Same.of_obsOnly h.2.2⟩
  case dropObs o => exact ((obsTot N).dropObs T hok).mono fun _ _ h => ⟨h.1, h.2.1, h.2.2.grownQ rfl, Same.of_obsOnly h.2.2⟩
  case disallow o => exact ((obsTot N).disallow T hok).mono fun _ _ h => ⟨h.1, h.2.1, h.2.2.grownQ rfl, Same.of_obsOnly h.2.2⟩
  case get v => exact ⟨_, s, Hist.stepAction_get_ok.2 ⟨_, getVar_total hok, rfl⟩, rfl, T, P27.Grown_same rfl rfl rfl rfl, Same.refl s⟩
  case isStable => exact ⟨_, s, Hist.stepAction_isStable_run .., rfl, T, P27.Grown_same rfl rfl rfl rfl, Same.refl s⟩
  case stats => exact ⟨_, s, Hist.stepAction_stats_run .., rfl, T, P27.Grown_same rfl rfl rfl rfl, Same.refl s⟩
  all_goals
    obtain ⟨old, s1, h1, T1, e1, e2, e3, S1⟩ := writeVar_total Q T hok
    exact ⟨_, s1, (Hist.stepAction_write_ok (by constructor)).2 ⟨old, h1, rfl⟩, rfl, T1, P27.Grown_same rfl e1 e2 e3, S1⟩

end IncrVerif.Proofs.HeightH
