import IncrVerif.Proofs.Footprint
import IncrVerif.Proofs.Drain
import IncrVerif.Proofs.Virtual
/-!
# `maxHeightSeen` is untouched by the drain of a static graph and by a handler-free `stabiliseEnd`
-/
namespace IncrVerif.Proofs.HeightH
open IncrVerif.Engine IncrVerif.Driver IncrVerif.Proofs IncrVerif.Proofs.Step IncrVerif.Proofs.Sched
open IncrVerif.Proofs.Quiet

/-- the frame on `maxHeightSeen` -/
def SeenEq (s s' : State) : Prop := s'.maxHeightSeen = s.maxHeightSeen

theorem SeenEq.refl (s : State) : SeenEq s s := rfl
theorem SeenEq.trans {a b c : State} (h1 : SeenEq a b) (h2 : SeenEq b c) : SeenEq a c :=
  Eq.trans h2 h1
instance : PreOrd SeenEq := ⟨SeenEq.refl, SeenEq.trans⟩

section
open Footprint
theorem PresQ.shouldCutoff (env n o v) : Step.Pres SeenEq (shouldCutoff env n o v) :=
  (Foot.shouldCutoff env n o v).frame (Edit.maxHeightSeen_eq (by decide))
theorem PresQ.handleAfterStabilisation (n) : Step.Pres SeenEq (handleAfterStabilisation n) :=
  (Foot.handleAfterStabilisation n).frame (Edit.maxHeightSeen_eq (by decide))
theorem PresQ.parentIterCanRecomputeNow (p c : Nat) :
    Step.Pres SeenEq (parentIterCanRecomputeNow p c) :=
  (Foot.parentIterCanRecomputeNow p c).frame (Edit.maxHeightSeen_eq (by decide))
theorem PresQ.maybeChangeValue (env fuel n v) : Step.Pres SeenEq (maybeChangeValue env fuel n v) :=
  (Foot.maybeChangeValue env fuel n v).lift (Edit.maxHeightSeen_eq (by decide))
end

theorem SeenEq.started (n : Nat) (s : State) : SeenEq s (Step.started n s) := rfl
theorem SeenEq.logged (es : List Event) (s : State) : SeenEq s (Step.logged es s) := rfl

theorem recomputeOne_seen {env : Env} {fuel n : Nat} {s s' : State} {r : Option Nat}
    (g : Graph env s) (hn : s.isNecessary n = true)
    (hvals : ∃ vals, plainVals s (kids (s.nodeD n).kind) = some vals)
    (h : (recomputeOne env fuel n).run.run s = (.ok r, s')) : SeenEq s s' := by
  obtain ⟨hlt, hv, hk, _, _⟩ := g.nec n hn
  obtain ⟨vals, hvals⟩ := hvals
  have hvo := g.valuesOf hn
  rw [hvals] at hvo
  obtain ⟨v, evs, hc⟩ := computes_static n hk (fun c hkd => g.var n c hn hkd) hvo
  rw [recomputeOne_run_of_computes (some_of_lt hlt) hv g.pc hc hk] at h
  exact ((SeenEq.started n s).trans (SeenEq.logged evs _)).trans ((PresQ.maybeChangeValue env fuel n v).h _ _ s' h)

theorem pop_seen {s s1 : State} {n : Nat} (hi : HeapInv s)
    (hr : rchRemoveMin.run.run s = (.ok (some n), s1)) : SeenEq s s1 := by
  obtain ⟨-, -, -, hs1, -⟩ := rchRemoveMin_inv hi hr
  show s1.maxHeightSeen = s.maxHeightSeen
  rw [hs1]

/-- the drain of a static graph never sets a height -/
theorem drainHeap_seen {env : Env} {fuel : Nat} {s s' : State} (I : DrainInv env s)
    (h : (drainHeap env fuel).run.run s = (.ok (), s')) : s'.maxHeightSeen = s.maxHeightSeen := by
  obtain ⟨s1, i, h1⟩ := Drain.drainHeap_ind (I := fun x t => Inv env t x ∧ SeenEq s t)
    (fun _ n _ _ _ i h1 =>
      ⟨(recomputeOne_inv i.1 h1).1, i.2.trans (recomputeOne_seen i.1.graph (i.1.cur n rfl).1 i.1.kids_values h1)⟩)
    (fun _ _ _ i h1 => ⟨(pop_inv i.1 h1).1, i.2.trans (pop_seen i.1.heap h1)⟩) fuel s s' ⟨I, SeenEq.refl s⟩ h
  obtain ⟨rfl, -⟩ := rchRemoveMin_inv i.1.heap h1
  exact i.2

/-! ## `stabiliseEnd` -/

/-- the invariant of the loops of `stabiliseEnd` -/
def MidQ (s t : State) : Prop := t.maxHeightSeen = s.maxHeightSeen ∧ t.observers = s.observers

/-- the end of a stabilisation without pending writes/handlers never sets a height -/
theorem stabiliseEnd_seen {env : Env} {fuel : Nat} {s s' : State} (h1 : s.setDuringStab = [])
    (h2 : s.deadVars = []) (hobs : ∀ (o : Nat) (ob : ObsRec), s.observers[o]? = some ob → ob.handlers = [])
    (h : (stabiliseEnd env fuel).run.run s = (.ok (), s')) : s'.maxHeightSeen = s.maxHeightSeen := by
  unfold stabiliseEnd at h
  obtain ⟨s1, e1, h⟩ := bind_modify_inv h
  rw [run_bind_get] at h
  try dsimp only at h
  obtain ⟨s2, e2, h⟩ := bind_modify_inv h
  have h1' : s1.setDuringStab = [] := by rw [e1]; exact h1
  rw [h1', List.forIn_nil] at h
  obtain ⟨_, s3, hp, h⟩ := bind_ok_inv h
  obtain ⟨_, e3⟩ := pure_ok_inv hp
  rw [e3] at h
  rw [run_bind_get] at h
  try dsimp only at h
  obtain ⟨s4, e4, h⟩ := bind_modify_inv h
  have h2' : s2.deadVars = [] := by rw [e2, e1]; exact h2
  rw [h2', List.forIn_nil] at h
  obtain ⟨_, s5, hp5, h⟩ := bind_ok_inv h
  obtain ⟨_, e5⟩ := pure_ok_inv hp5
  rw [e5] at h
  rw [run_bind_get] at h
  try dsimp only at h
  obtain ⟨s6, e6, h⟩ := bind_modify_inv h
  have M6 : MidQ s s6 := by
    rw [e6, e4, e2, e1]
    exact ⟨rfl, rfl⟩
  -- loop 3: only `inHandleAfterStab` flags change
  obtain ⟨q, s7, hl3, h⟩ := bind_ok_inv h
  have M7 : MidQ s s7 := by
    refine forIn_ok_keepB (MidQ s) _ _ ?_ _ _ _ _ M6 hl3
    intro n _ b t r t' Mt hb
    obtain ⟨t1, et1, hb⟩ := bind_modNode_inv hb
    rw [run_bind_get] at hb
    obtain ⟨_, et'⟩ := pure_ok_inv hb
    rw [et', et1]
    exact Mt
  obtain ⟨s8, e8, h⟩ := bind_modify_inv h
  rw [run_bind_get] at h
  -- loop 4: no handler runs
  obtain ⟨_, s9, hl4, h⟩ := bind_ok_inv h
  have e9 : s9 = s8 := by
    refine forIn_ok_keepB (fun t => t = s8) _ _ ?_ _ _ _ _ rfl hl4
    intro x _ b t r t' et hb
    obtain ⟨nd, _, hb⟩ := bind_getNode_inv hb
    obtain ⟨_, t1, hb1, hb⟩ := bind_ok_inv hb
    obtain ⟨_, et'⟩ := pure_ok_inv hb
    rw [et']
    refine forIn_ok_keepB (fun t => t = s8) _ _ ?_ _ _ _ _ et hb1
    intro o _ b2 u r2 u' eu hr
    obtain ⟨_, u1, hr1, hr⟩ := bind_ok_inv hr
    obtain ⟨_, eu'⟩ := pure_ok_inv hr
    rw [eu']
    have hobs' : ∀ (o : Nat) (ob : ObsRec), u.observers[o]? = some ob → ob.handlers = [] := by
      intro o ob ho
      rw [eu, e8] at ho
      exact hobs o ob (by rw [← M7.2]; exact ho)
    rw [runAll_nohandlers hobs' hr1]; exact eu
  obtain ⟨s10, e10, h⟩ := bind_modify_inv h
  rw [run_modify] at h
  obtain ⟨_, e11⟩ := Prod.mk.inj h
  rw [← e11, e10, e9, e8]
  exact M7.1

end IncrVerif.Proofs.HeightH
