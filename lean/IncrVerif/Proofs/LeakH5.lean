import IncrVerif.Proofs.LeakH4
import IncrVerif.Proofs.Life5
/-!
# C12 over histories, part 5: `ObsDead` is an invariant of EVERY history

An observer record whose clone count is `0` is disallowed or unlinked: the record is created with one handle,
`dropObs` of the last handle calls `disallow_future_use`, the lifecycle never goes back, and `stabilise` keeps
clone counts (`Proofs/Life3.lean`: `table_step`, `Proofs/Life5.lean`: `stabilise_spec`).  No hypothesis on the
state or on the action.
-/
namespace IncrVerif.Proofs.LeakH
open IncrVerif.Engine IncrVerif.Driver IncrVerif.Proofs IncrVerif.Proofs.Obs IncrVerif.Proofs.Life

def RowDead (r : Row) : Prop := r.2.2 = 0 → (r.2.1 = .disallowed ∨ r.2.1 = .unlinked)

def TableDead (t : Array Row) : Prop := ∀ (o : Nat) (r : Row), t[o]? = some r → RowDead r

theorem obsDead_iff_table (s : State) : ObsDead s ↔ TableDead (table s) := by
  unfold ObsDead TableDead table
  constructor
  · intro h o r hr
    rw [Array.getElem?_map] at hr
    cases ho : s.observers[o]? with
    | none => rw [ho] at hr; cases hr
    | some ob =>
      rw [ho] at hr
      simp only [Option.map_some, Option.some.injEq] at hr
      rw [← hr]
      exact h o ob ho
  · intro h o ob ho hc
    exact h o (core3 ob) (by rw [Array.getElem?_map, ho]; rfl) hc

theorem afterDisallow_dead (x : ObsState) : afterDisallow x = .disallowed ∨ afterDisallow x = .unlinked := by
  cases x <;> simp [afterDisallow]

theorem tableDead_modify {t : Array Row} (h : TableDead t) (o : Nat) (f : Row → Row)
    (hf : ∀ r, RowDead r → RowDead (f r)) : TableDead (t.modify o f) := by
  intro i r hr
  rw [Array.getElem?_modify] at hr
  by_cases hoi : o = i
  · rw [if_pos hoi] at hr
    cases hi : t[i]? with
    | none => rw [hi] at hr; cases hr
    | some r0 =>
      rw [hi] at hr
      simp only [Option.map_some, Option.some.injEq] at hr
      rw [← hr]; exact hf r0 (h i r0 hi)
  · rw [if_neg hoi] at hr; exact h i r hr

theorem tableDead_step {t : Array Row} (h : TableDead t) (a : Action) (res : Except Panic Nat) :
    TableDead (stepTable a res t) := by
  cases a <;> try exact h
  case observe n =>
    simp only [stepTable]
    cases res with
    | error e => exact h
    | ok m =>
      intro i r hr
      rw [Array.getElem?_push] at hr
      split at hr
      · cases hr; intro hc; cases hc
      · exact h i r hr
  case cloneObs o =>
    exact tableDead_modify h o cloneRow (fun r _ hc => by simp [cloneRow] at hc)
  case disallow o =>
    exact tableDead_modify h o disallowRow (fun r _ _ => afterDisallow_dead r.2.1)
  case dropObs o =>
    refine tableDead_modify h o dropRow (fun r hr => ?_)
    unfold dropRow
    split
    · exact hr
    · split
      · intro _; exact afterDisallow_dead r.2.1
      · intro hc
        simp only at hc
        omega

theorem obsDead_step {env : Env} {a : Action} {tokens : Array Nat} {s s' : State}
    {r : Except Panic (String × Array Nat)} (ha : a ≠ .stabilise) (OD : ObsDead s)
    (h : (stepAction env a tokens).run.run s = (r, s')) : ObsDead s' := by
  rw [obsDead_iff_table] at OD ⊢
  rw [table_step env a tokens s s' r ha h]
  exact tableDead_step OD a _

theorem phase2_dead (s : State) (o : Nat) {x : ObsState} (hx : x = .disallowed ∨ x = .unlinked) :
    phase2 s o x = .disallowed ∨ phase2 s o x = .unlinked := by
  unfold phase2
  split
  · exact Or.inr rfl
  · split
    · rename_i h; rcases hx with e | e <;> rw [e] at h <;> cases h.2
    · exact hx

theorem afterDisallow_dead' {x : ObsState} (_hx : x = .disallowed ∨ x = .unlinked) :
    afterDisallow x = .disallowed ∨ afterDisallow x = .unlinked := afterDisallow_dead x

theorem obsDead_stabilise {env : Env} {fuel : Nat} {s s' : State} (OD : ObsDead s)
    (h : (stabilise env fuel).run.run s = (.ok (), s')) : ObsDead s' := by
  obtain ⟨-, -, hsz, -, hobs, -, -⟩ := IncrVerif.Proofs.Life.stabilise_spec env fuel s s' h
  intro o ob' ho' hc
  have hlt : o < s.observers.size := by
    rw [← hsz]
    by_cases hlt : o < s'.observers.size
    · exact hlt
    · rw [Array.getElem?_eq_none (by omega)] at ho'; cases ho'
  have hob := Array.getElem?_eq_getElem hlt
  obtain ⟨ob2, ho2, -, hcl, hst⟩ := hobs o _ hob
  rw [ho'] at ho2
  cases ho2
  have hd := OD o _ hob (by rw [← hcl]; exact hc)
  rcases hst with e | e
  · rw [e]; exact phase2_dead s o hd
  · rw [e]; exact afterDisallow_dead _

/-- any API action that returns -/
theorem obsDead_action {env : Env} {a : Action} {tokens : Array Nat} {s s' : State}
    {r : String × Array Nat} (OD : ObsDead s)
    (h : (stepAction env a tokens).run.run s = (.ok r, s')) : ObsDead s' := by
  by_cases ha : a = .stabilise
  · subst ha
    exact obsDead_stabilise OD (Step.step_stabilise h)
  · exact obsDead_step ha OD h

theorem obsDead_init (N : Nat) (d : Bool) : ObsDead (State.init N d) := by
  intro o ob ho
  simp [State.init] at ho

theorem obsDead_run {env : Env} {acts : List Action} {s s' : State} {tk tk' : Array Nat} (OD : ObsDead s)
    (h : Quiet.runActions env acts s tk = .ok (s', tk')) : ObsDead s' :=
  Hist.runActions_inv (I := fun s _ _ => ObsDead s) (fun _ _ _ _ _ _ OD hx => obsDead_action OD hx) OD h

end IncrVerif.Proofs.LeakH
