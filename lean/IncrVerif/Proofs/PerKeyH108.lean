import IncrVerif.Proofs.PerKeyH5
import IncrVerif.Proofs.PerKeyH39
import IncrVerif.Proofs.ExpertH52
/-!
# Per-key operators: a decidable sufficient check of `RunOKP` (for kernel-checked example histories)

`effOf : Nat → List Effect` with `∀ f vals, env.fnEff f vals = effOf f` (the shape of `Defs.toEnv`).
* `usesB t`: one backward pass over the instruction list computing the used local indices; sound for `UsesInput t`
  (NOT part of the check: families that ignore their input are in the fragment).
* `templOKB effOf t` → `TemplOK env t`.
* `keysSubB a b` ↔ `keysSub a b`; `sortedValB`.
* `pInstrOKB`, `pWriteOKB`, `mapVarB`, `pActionOKB env effOf s a` → `PActionOK env s a`.
* `runOKPB env effOf acts s tk` runs the history on the model; `runOKPB_sound`.
* `toEnv_heff`: the effect lists of `Defs.toEnv d`.
-/
namespace IncrVerif.Proofs.PerKeyH
open IncrVerif.Engine IncrVerif.Driver IncrVerif.Proofs IncrVerif.Proofs.Step IncrVerif.Proofs.Sched
open IncrVerif.Proofs.ExpertH IncrVerif.Proofs.EffH IncrVerif.Proofs.DriverH

/-! ## `UsesInput` -/

/-- the local indices among operands -/
def locsOf : List Opnd → List Nat
  | [] => []
  | .loc i :: os => i :: locsOf os
  | _ :: os => locsOf os

theorem mem_locsOf {os : List Opnd} {u : Nat} (h : u ∈ locsOf os) : Opnd.loc u ∈ os := by
  induction os with
  | nil => cases h
  | cons o os ih =>
    cases o <;> simp only [locsOf, List.mem_cons] at h ⊢
    case loc i =>
      rcases h with h | h
      · exact Or.inl (by rw [h])
      · exact Or.inr (ih h)
    all_goals exact Or.inr (ih h)

/-- backward pass from instruction `j - 1` down to instruction `0`: `U` = the used local indices found so far
(instruction `j` creates `.loc (j + 1)`; its operands are earlier locals, so one pass suffices) -/
def usedB (t : Template) : Nat → List Nat → List Nat
  | 0, U => U
  | j + 1, U =>
    match t.instrs[j]? with
    | some i => if U.contains (j + 1) then usedB t j (locsOf (instrOpnds i) ++ U) else usedB t j U
    | none => usedB t j U

def usesB (t : Template) : Bool := (usedB t t.instrs.length (locsOf [t.ret])).contains 0

theorem usedB_sound (t : Template) : ∀ (j : Nat) (U : List Nat), (∀ u, u ∈ U → Uses t (.loc u)) →
    ∀ u, u ∈ usedB t j U → Uses t (.loc u) := by
  intro j
  induction j with
  | zero => intro U hU u hu; exact hU u hu
  | succ j ih =>
    intro U hU u hu
    unfold usedB at hu
    cases hi : t.instrs[j]? with
    | none => rw [hi] at hu; exact ih U hU u hu
    | some i =>
      rw [hi] at hu
      simp only at hu
      by_cases hc : U.contains (j + 1) = true
      · rw [if_pos hc] at hu
        refine ih _ ?_ u hu
        intro w hw
        rcases List.mem_append.1 hw with h1 | h2
        · exact Uses.step (hU (j + 1) (by simpa using hc)) hi (mem_locsOf h1)
        · exact hU w h2
      · rw [if_neg hc] at hu
        exact ih U hU u hu

theorem usesB_sound {t : Template} (h : usesB t = true) : UsesInput t := by
  unfold usesB at h
  refine usedB_sound t _ _ ?_ 0 (by simpa using h)
  intro u hu
  have := mem_locsOf hu
  simp only [List.mem_singleton] at this
  rw [this]
  exact Uses.ret

/-! ## templates -/

def tInstrOKB (effOf : Nat → List Effect) : Instr → Bool
  | .const _ | .lhsConst => true
  | .map f _ => decide (f < fnZip) && (effOf f).isEmpty
  | .fold f _ cs => decide (f < xBase) && !cs.isEmpty
  | _ => false

theorem tInstrOKB_sound {env : Env} {effOf : Nat → List Effect} (heff : ∀ f vals, env.fnEff f vals = effOf f)
    {i : Instr} (h : tInstrOKB effOf i = true) : TInstrOK env i := by
  cases i <;> simp only [tInstrOKB] at h <;> try (first | trivial | cases h)
  case map f args =>
    simp only [Bool.and_eq_true, decide_eq_true_eq, List.isEmpty_iff] at h
    exact ⟨h.1, fun vals => by rw [heff f vals]; exact h.2⟩
  case fold f init cs =>
    simp only [Bool.and_eq_true, decide_eq_true_eq, Bool.not_eq_true', List.isEmpty_eq_false_iff] at h
    exact ⟨h.1, h.2⟩

def tOpndOKB (j : Nat) : Opnd → Bool
  | .outer _ => true
  | .loc i => decide (i ≤ j)
  | _ => false

theorem tOpndOKB_sound {j : Nat} {o : Opnd} (h : tOpndOKB j o = true) : OpndOK j o := by
  cases o <;> simp only [tOpndOKB] at h <;> try (first | trivial | cases h)
  simpa [OpndOK] using h

def templOKB (effOf : Nat → List Effect) (t : Template) : Bool :=
  t.instrs.all (tInstrOKB effOf) &&
  ((List.range t.instrs.length).all fun j =>
    match t.instrs[j]? with
    | some i => (instrOpnds i).all (tOpndOKB j)
    | none => true) &&
  tOpndOKB t.instrs.length t.ret

theorem templOKB_sound {env : Env} {effOf : Nat → List Effect} (heff : ∀ f vals, env.fnEff f vals = effOf f)
    {t : Template} (h : templOKB effOf t = true) : TemplOK env t := by
  unfold templOKB at h
  simp only [Bool.and_eq_true] at h
  obtain ⟨⟨h1, h2⟩, h3⟩ := h
  refine ⟨fun i hi => tInstrOKB_sound heff (List.all_eq_true.1 h1 i hi), ?_, tOpndOKB_sound h3⟩
  intro j i hj o ho
  have hlt : j < t.instrs.length := by
    obtain ⟨hlt, -⟩ := List.getElem?_eq_some_iff.1 hj
    exact hlt
  have := List.all_eq_true.1 h2 j (List.mem_range.2 hlt)
  rw [hj] at this
  exact tOpndOKB_sound (List.all_eq_true.1 this o ho)

/-! ## `keysSub`, sortedness -/

def keysSubB (a b : List (Int × Int)) : Bool := a.all fun kv => (b.lookup kv.1).isSome

theorem lookup_isSome_mem {a : List (Int × Int)} {k : Int} (h : (a.lookup k).isSome = true) : ∃ v, (k, v) ∈ a := by
  induction a with
  | nil => simp at h
  | cons kv a ih =>
    obtain ⟨k', v'⟩ := kv
    by_cases hk : k = k'
    · exact ⟨v', by rw [hk]; exact List.mem_cons_self⟩
    · have hb : (k == k') = false := by simpa using hk
      rw [List.lookup_cons, hb] at h
      obtain ⟨v, hv⟩ := ih h
      exact ⟨v, List.mem_cons_of_mem _ hv⟩

theorem keysSubB_iff {a b : List (Int × Int)} : keysSubB a b = true ↔ keysSub a b := by
  unfold keysSubB keysSub
  rw [List.all_eq_true]
  constructor
  · intro h k hk
    obtain ⟨v, hv⟩ := lookup_isSome_mem hk
    exact h (k, v) hv
  · intro h kv hkv
    exact h kv.1 (lookup_isSome_of_mem (v := kv.2) hkv)

theorem keysSubB_sound {a b : List (Int × Int)} (h : keysSubB a b = true) : keysSub a b := keysSubB_iff.1 h

/-- a stored value is not a map, or a sorted map -/
def sortedValB : Val → Bool
  | .map m => decide (IncrVerif.AMap.Sorted m)
  | _ => true

theorem sortedValB_sound {v : Val} (h : sortedValB v = true) : ∀ m, v = .map m → IncrVerif.AMap.Sorted m := by
  intro m hm
  subst hm
  simpa [sortedValB] using h

/-! ## instructions, writes, actions -/

/-- the value of the var node, if any, is a sorted map whose keys are keys of `m` -/
def nodeValB (s : State) (o : Nat) (m : List (Int × Int)) : Bool :=
  match (s.nodeD o).value with
  | none => true
  | some (.map m2) => decide (IncrVerif.AMap.Sorted m2) && keysSubB m2 m
  | some _ => false

theorem nodeValB_sound {s : State} {o : Nat} {m : List (Int × Int)} (h : nodeValB s o m = true) :
    ∀ w, (s.nodeD o).value = some w → ∃ m2, w = .map m2 ∧ IncrVerif.AMap.Sorted m2 ∧ keysSub m2 m := by
  intro w hw
  unfold nodeValB at h
  rw [hw] at h
  cases w <;> simp only at h <;> try (cases h)
  rename_i m2
  simp only [Bool.and_eq_true, decide_eq_true_eq] at h
  exact ⟨m2, rfl, h.1, keysSubB_sound h.2⟩

/-- the operand of the operator is a top-level variable node holding a sorted map (and the node's value, if any, is a
sorted map with a smaller key set) -/
def mapInputB (s : State) : Opnd → Bool
  | .outer k =>
    match s.top[k]? with
    | some o =>
      match (s.nodeD o).kind with
      | .var c =>
        match s.vars[c]? with
        | some vc =>
          match vc.value with
          | .map m => decide (IncrVerif.AMap.Sorted m) && nodeValB s o m
          | _ => false
        | none => false
      | _ => false
    | none => false
  | _ => false

theorem mapInputB_sound {s : State} {x : Opnd} (h : mapInputB s x = true) :
    ∃ k o c vc m, x = .outer k ∧ s.top[k]? = some o ∧ (s.nodeD o).kind = .var c ∧ s.vars[c]? = some vc ∧
      vc.value = .map m ∧ IncrVerif.AMap.Sorted m ∧
      (∀ w, (s.nodeD o).value = some w → ∃ m2, w = .map m2 ∧ IncrVerif.AMap.Sorted m2 ∧ keysSub m2 m) := by
  cases x <;> simp only [mapInputB] at h <;> try (cases h)
  rename_i k
  cases ho : s.top[k]? with
  | none => rw [ho] at h; cases h
  | some o =>
    rw [ho] at h
    simp only at h
    cases hk : (s.nodeD o).kind <;> rw [hk] at h <;> simp only at h <;> try (cases h)
    rename_i c
    cases hc : s.vars[c]? with
    | none => rw [hc] at h; cases h
    | some vc =>
      rw [hc] at h
      simp only at h
      cases hv : vc.value <;> rw [hv] at h <;> simp only at h <;> try (cases h)
      rename_i m
      simp only [Bool.and_eq_true, decide_eq_true_eq] at h
      exact ⟨k, o, c, vc, m, rfl, ho, hk, hc, hv, h.1, nodeValB_sound h.2⟩

/-- the cutoff argument of a per-key operator: absent, or the default `.eq` -/
def cutOKB : Option CutoffK → Bool
  | none => true
  | some .eq => true
  | _ => false

theorem cutOKB_sound {cut : Option CutoffK} (h : cutOKB cut = true) : cut = none ∨ cut = some .eq := by
  cases cut with
  | none => exact Or.inl rfl
  | some c => cases c <;> first | exact Or.inr rfl | cases h

def pInstrOKB (env : Env) (effOf : Nat → List Effect) (s : State) : Instr → Bool
  | .const _ => true
  | .var v => sortedValB v
  | .map f args => decide (f < fnZip) && (effOf f).isEmpty && args.all ExpertH.opndB
  | .fold f _ cs => decide (f < xBase) && cs.all ExpertH.opndB
  | .zip a b => ExpertH.opndB a && ExpertH.opndB b
  | .perKey cut fam x => cutOKB cut && templOKB effOf (env.perKey fam) && mapInputB s x &&
      (templOuter (env.perKey fam)).all fun k => (s.top[k]?).isSome
  | _ => false

theorem pInstrOKB_sound {env : Env} {effOf : Nat → List Effect} (heff : ∀ f vals, env.fnEff f vals = effOf f)
    {s : State} {i : Instr} (h : pInstrOKB env effOf s i = true) : PInstrOK env s i := by
  have hall : ∀ (l : List Opnd), l.all ExpertH.opndB = true → ∀ a, a ∈ l → QR.OpndOK a :=
    fun l hl a ha => ExpertH.opndB_sound (List.all_eq_true.1 hl a ha)
  cases i <;> simp only [pInstrOKB] at h <;> try (first | trivial | cases h)
  case var v => exact sortedValB_sound h
  case map f args =>
    simp only [Bool.and_eq_true, decide_eq_true_eq, List.isEmpty_iff] at h
    exact ⟨h.1.1, fun vals => by rw [heff f vals]; exact h.1.2, hall args h.2⟩
  case fold f init cs =>
    simp only [Bool.and_eq_true, decide_eq_true_eq] at h
    exact ⟨h.1, hall cs h.2⟩
  case zip a b =>
    simp only [Bool.and_eq_true] at h
    exact ⟨ExpertH.opndB_sound h.1, ExpertH.opndB_sound h.2⟩
  case perKey cut fam x =>
    simp only [Bool.and_eq_true] at h
    obtain ⟨⟨⟨h1, h2⟩, h3⟩, h4⟩ := h
    refine ⟨cutOKB_sound h1, templOKB_sound heff h2, mapInputB_sound h3, fun k hk => ?_⟩
    have := List.all_eq_true.1 h4 k hk
    exact Option.isSome_iff_exists.1 this

def pWriteOKB (s : State) (v : Nat) (new : Val) : Bool :=
  sortedValB new &&
    match s.vars[v]? with
    | some vc =>
      match vc.value with
      | .map m =>
        (match new with
         | .map m' => keysSubB m m'
         | _ => false)
      | _ => true
    | none => true

theorem pWriteOKB_sound {s : State} {v : Nat} {new : Val} (h : pWriteOKB s v new = true) : PWriteOK s v new := by
  unfold pWriteOKB at h
  simp only [Bool.and_eq_true] at h
  refine ⟨sortedValB_sound h.1, ?_⟩
  intro vc m hvc hm
  have h2 := h.2
  rw [hvc] at h2
  simp only [hm] at h2
  cases new <;> simp only at h2 <;> try (cases h2)
  rename_i m'
  exact ⟨m', rfl, keysSubB_sound h2⟩

def mapVarB (s : State) (v : Nat) : Bool :=
  match s.vars[v]? with
  | some vc =>
    match vc.value with
    | .map _ => true
    | _ => false
  | none => false

theorem mapVarB_false {s : State} {v : Nat} (h : mapVarB s v = false) : ¬ MapVar s v := by
  rintro ⟨vc, m, hvc, hm⟩
  unfold mapVarB at h
  rw [hvc] at h
  simp only [hm] at h
  cases h

def pActionOKB (env : Env) (effOf : Nat → List Effect) (s : State) : Action → Bool
  | .create i => pInstrOKB env effOf s i
  | .observe n => ExpertH.opndB n
  | .cloneObs _ | .dropObs _ | .disallow _ => true
  | .set v x => pWriteOKB s v x
  | .replace v x => pWriteOKB s v x
  | .modify v _ | .update v _ | .replaceWith v _ => !mapVarB s v
  | .get _ | .stabilise | .isStable | .stats => true
  | _ => false

theorem pActionOKB_sound {env : Env} {effOf : Nat → List Effect} (heff : ∀ f vals, env.fnEff f vals = effOf f)
    {s : State} {a : Action} (h : pActionOKB env effOf s a = true) : PActionOK env s a := by
  cases a <;> simp only [pActionOKB] at h <;> try (first | trivial | cases h)
  case create i => exact pInstrOKB_sound heff h
  case observe n => exact ExpertH.opndB_sound h
  case set v x => exact pWriteOKB_sound h
  case replace v x => exact pWriteOKB_sound h
  case modify v d => exact mapVarB_false (by simpa using h)
  case update v d => exact mapVarB_false (by simpa using h)
  case replaceWith v d => exact mapVarB_false (by simpa using h)

/-! ## runs -/

/-- run the history on the model and check every action in the state in which it is executed -/
def runOKPB (env : Env) (effOf : Nat → List Effect) : List Action → State → Array Nat → Bool
  | [], _, _ => true
  | a :: as, s, tk =>
    pActionOKB env effOf s a &&
      match (stepAction env a tk).run.run s with
      | (.ok r, s') => runOKPB env effOf as s' r.2
      | (.error _, _) => true

theorem runOKPB_sound {env : Env} {effOf : Nat → List Effect} (heff : ∀ f vals, env.fnEff f vals = effOf f) :
    ∀ (acts : List Action) (s : State) (tk : Array Nat), runOKPB env effOf acts s tk = true →
      RunOKP env acts s tk := by
  intro acts
  induction acts with
  | nil => intro s tk _; trivial
  | cons a as ih =>
    intro s tk h
    simp only [runOKPB, Bool.and_eq_true] at h
    refine ⟨pActionOKB_sound heff h.1, fun r s' hr => ?_⟩
    have h2 := h.2
    rw [hr] at h2
    exact ih s' r.2 h2

/-! ## the harness environment -/

/-- the effect list of function `f` in `Defs.toEnv d` -/
def effOfDefs (d : Defs) (f : Nat) : List Effect := ((d.fns.lookup f).map (·.effects)).getD []

theorem toEnv_heff (d : Defs) : ∀ f vals, d.toEnv.fnEff f vals = effOfDefs d f := by
  intro f vals
  simp only [Defs.toEnv, effOfDefs]
  cases d.fns.lookup f <;> rfl

/-- the check for harness environments -/
theorem runOKP_of_check {d : Defs} {acts : List Action} {s : State} {tk : Array Nat}
    (h : runOKPB d.toEnv (effOfDefs d) acts s tk = true) : RunOKP d.toEnv acts s tk :=
  runOKPB_sound (toEnv_heff d) acts s tk h

end IncrVerif.Proofs.PerKeyH
