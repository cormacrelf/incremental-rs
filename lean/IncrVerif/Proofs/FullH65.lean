import IncrVerif.Proofs.FullH64
/-!
# C01 full fragment: NON-VACUITY, part 4 — structural facts about the states of the example history, continued (kernel-checked)
-/
namespace IncrVerif.Proofs.FullH
open IncrVerif.Engine IncrVerif.Driver IncrVerif.Proofs IncrVerif.Proofs.Step IncrVerif.Proofs.Sched IncrVerif.Proofs.Quiet
open IncrVerif.Proofs.BindH

set_option maxRecDepth 100000 in
set_option synthInstance.maxSize 4000 in
/-- the fourth `stabilise` (the lhs `n1` is odd): the generation with the map_ref chain, the machines and the inner bind (nodes 5 … 13) is invalidated;
the new generation is the constant 14 -/
theorem exHistF_lhs_switch :
    EX.factF (exHistF.take 12) (fun s => s.nodes.size) = some 15 ∧
    EX.factF (exHistF.take 12) (fun s => ([5, 6, 7, 8, 9, 10, 11, 12, 13].map fun n => (s.nodeD n).valid)) =
      some [false, false, false, false, false, false, false, false, false] ∧
    EX.factF (exHistF.take 12) (fun s => ((s.nodeD 14).kind, (s.nodeD 14).valid, (s.nodeD 14).createdIn)) = some (.const (.int 1), true, .bind 0) ∧
    EX.factF (exHistF.take 12) (fun s => s.binds.toList.map (·.allNodesCreatedOnRhs)) = some [[14], []] := by
  have aux : EX.factF (exHistF.take 12) (fun s => ((s.nodes.size), (([5, 6, 7, 8, 9, 10, 11, 12, 13].map fun n => (s.nodeD n).valid)), (((s.nodeD 14).kind, (s.nodeD 14).valid, (s.nodeD 14).createdIn)), (s.binds.toList.map (·.allNodesCreatedOnRhs)))) =
      some ((15), ([false, false, false, false, false, false, false, false, false]), ((.const (.int 1), true, .bind 0)), ([[14], []])) := by decide +kernel
  obtain ⟨h1, aux⟩ := EX.fact_split aux
  obtain ⟨h2, aux⟩ := EX.fact_split aux
  obtain ⟨h3, aux⟩ := EX.fact_split aux
  exact ⟨h1, h2, h3, aux⟩

set_option maxRecDepth 100000 in
set_option synthInstance.maxSize 4000 in
/-- the sixth `stabilise` (re-observed; `n1 = 2`): a FRESH map_ref chain 15, 16 into a fresh machine 17 (stored value `a = 2`), a fresh inner bind (record 2)
whose generation (`n2 = 3` odd) is the constant 22 -/
theorem exHistF_fresh :
    EX.factF (exHistF.take 19) (fun s => (s.nodes.size, s.binds.size)) = some (23, 3) ∧
    EX.factF (exHistF.take 19) (fun s => ((s.nodeD 15).kind, (s.nodeD 16).kind, (s.nodeD 17).kind, (s.nodeD 17).value)) =
      some (.mapRef 1 0, .mapRef 1 15, .mapWithOld 7 16, some (.int 2)) ∧
    EX.factF (exHistF.take 19) (fun s => ((s.nodeD 19).kind, (s.nodeD 20).kind, (s.nodeD 22).kind, (s.nodeD 22).createdIn)) =
      some (.bindLhsChange 2, .bindMain 2 19, .const (.int 3), .bind 2) ∧
    EX.factF (exHistF.take 19) (fun s => ((s.nodeD 14).valid, (List.range 9).all fun n => (s.nodeD (15 + n)).valid)) = some (false, true) := by
  have aux : EX.factF (exHistF.take 19) (fun s => (((s.nodes.size, s.binds.size)), (((s.nodeD 15).kind, (s.nodeD 16).kind, (s.nodeD 17).kind, (s.nodeD 17).value)), (((s.nodeD 19).kind, (s.nodeD 20).kind, (s.nodeD 22).kind, (s.nodeD 22).createdIn)), (((s.nodeD 14).valid, (List.range 9).all fun n => (s.nodeD (15 + n)).valid)))) =
      some (((23, 3)), ((.mapRef 1 0, .mapRef 1 15, .mapWithOld 7 16, some (.int 2))), ((.bindLhsChange 2, .bindMain 2 19, .const (.int 3), .bind 2)), ((false, true))) := by decide +kernel
  obtain ⟨h1, aux⟩ := EX.fact_split aux
  obtain ⟨h2, aux⟩ := EX.fact_split aux
  obtain ⟨h3, aux⟩ := EX.fact_split aux
  exact ⟨h1, h2, h3, aux⟩

set_option maxRecDepth 100000 in
set_option synthInstance.maxSize 4000 in
/-- the seventh `stabilise` (`n2 := 6`, the INNER lhs changed): the inner generation 22 is invalidated, the inner closure created `mapRef 2 n0` (23) and
`mapWithOld 7 23` (24, stored value `c = 70`) in scope `.bind 2`; the outer generation is untouched -/
theorem exHistF_inner_switch :
    EX.factF exHistF (fun s => s.nodes.size) = some 25 ∧
    EX.factF exHistF (fun s => ((s.nodeD 22).valid, (s.nodeD 23).kind, (s.nodeD 24).kind, (s.nodeD 24).value, (s.nodeD 24).createdIn)) =
      some (false, .mapRef 2 0, .mapWithOld 7 23, some (.int 70), .bind 2) ∧
    EX.factF exHistF (fun s => s.binds.toList.map (·.allNodesCreatedOnRhs)) = some [[15, 16, 17, 18, 19, 20, 21], [], [23, 24]] ∧
    EX.factF exHistF (fun s => (List.range 7).all fun n => (s.nodeD (15 + n)).valid) = some true := by
  have aux : EX.factF exHistF (fun s => ((s.nodes.size), (((s.nodeD 22).valid, (s.nodeD 23).kind, (s.nodeD 24).kind, (s.nodeD 24).value, (s.nodeD 24).createdIn)), (s.binds.toList.map (·.allNodesCreatedOnRhs)), ((List.range 7).all fun n => (s.nodeD (15 + n)).valid))) =
      some ((25), ((false, .mapRef 2 0, .mapWithOld 7 23, some (.int 70), .bind 2)), ([[15, 16, 17, 18, 19, 20, 21], [], [23, 24]]), (true)) := by decide +kernel
  obtain ⟨h1, aux⟩ := EX.fact_split aux
  obtain ⟨h2, aux⟩ := EX.fact_split aux
  obtain ⟨h3, aux⟩ := EX.fact_split aux
  exact ⟨h1, h2, h3, aux⟩

end IncrVerif.Proofs.FullH
