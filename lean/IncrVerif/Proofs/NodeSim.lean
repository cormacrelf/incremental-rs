import IncrVerif.Proofs.Quiet20
import IncrVerif.Proofs.History
/-!
# State maps that relabel nodes commute with the engine

`CommAt E V I s x x'`: from a state `s` satisfying `I`, whatever the outcome of the run of `x` (a result, or a panic in `E`), the run of `x'`
from `V s` has the same outcome and ends in `V` of the final state, where `I` holds again.  With `E` all panics this is an exact simulation and,
runs being functions, a bisimulation (`CommAt.fwd`, `CommAt.rev`, and the transfer of total correctness `CommAt.tot`); with `E` empty it is a
forward simulation of the returning runs (`CommAt.fwd_iff`).  It is the case `ι = Unit` of `CommXAt E V I i s x x'` for a family of state maps
`V i`, where the run of `x'` starts in `V i s` and ends in `V i' s'` for some index `i'` (the right-hand run writes a log of its own; a ghost
value is erased).  The calculus and the walk tactic `sim` are stated for families.

The state maps are `R.app` for a relabelling `R` (`Relabel`): the `i`-th node gets another `kind`, `value`, `didChange`, `cutoff` and
`recomputedAt`, each a function of the old ones (kind and stamp may look at the expert and per-key records); the expert records and the log are
mapped; everything else is kept.  Outside the recompute of a node itself the engine reads the kind of a node only through its children, through
staleness, and through "is it an expert / bind / `map_ref` node".  A relabelling that keeps these (`Blind R I`: `map_ref` and `map_with_old`
kinds may become unary `map` kinds, expert kinds `fold` kinds over the current dependencies, a `map` kind may get another function) commutes
with every such engine function (`Comm.*`, below).  What the engine does for expert nodes (`ObsWork`, `ExpWork`) and for `map_ref` nodes
(`RefWork`) enters as a hypothesis: it is excluded by `I`, it cannot be seen through `R.app`, or (expert nodes that are their own image) it is
done on both sides.  The functions that do this work, or log, are walked for a family (`CommX.*`); `Comm.*` are their instances.
-/
namespace IncrVerif.Proofs.NodeSim
open IncrVerif.Engine IncrVerif.Proofs IncrVerif.Proofs.Step IncrVerif.Proofs.Quiet

/-- `E`: the panics of `x` that `x'` has to reproduce (all of them: an exact simulation; none: a forward simulation).  The state maps are a
family `V i`; the index may change along the run (a log that the right-hand run is free to write, a ghost that is erased) -/
def CommXAt (E : Panic → Prop) {ι : Type} (V : ι → State → State) (I : ι → State → Prop) (i : ι) (s : State) {α} (x x' : M α) : Prop :=
  I i s → ∀ (r : Except Panic α) s', x.run.run s = (r, s') → (∀ p, r = .error p → E p) →
    ∃ i', x'.run.run (V i s) = (r, V i' s') ∧ I i' s'

def CommX (E : Panic → Prop) {ι : Type} (V : ι → State → State) (I : ι → State → Prop) {α} (x x' : M α) : Prop :=
  ∀ i s, CommXAt E V I i s x x'

/-- one state map -/
abbrev CommAt (E : Panic → Prop) (V : State → State) (I : State → Prop) (s : State) {α} (x x' : M α) : Prop :=
  CommXAt E (fun _ : Unit => V) (fun _ => I) () s x x'

def Comm (E : Panic → Prop) (V : State → State) (I : State → Prop) {α} (x x' : M α) : Prop :=
  ∀ s, CommAt E V I s x x'

section calculus
variable {E : Panic → Prop} {ι : Type} {V : ι → State → State} {I : ι → State → Prop} {i : ι} {s : State} {α β : Type}

theorem run_bind_err {x : M α} {f : α → M β} {e : Panic} {s1 : State} (h : x.run.run s = (.error e, s1)) :
    (x >>= f).run.run s = (.error e, s1) := by
  rw [run_bind, h]

theorem CommX.at {x x' : M α} (h : CommX E V I x x') (i : ι) (s : State) : CommXAt E V I i s x x' := h i s

/-- the simulation that need not reproduce any panic, spelt out -/
theorem CommXAt.fwd_iff {x x' : M α} : CommXAt (fun _ => False) V I i s x x' ↔
    (I i s → ∀ a s', x.run.run s = (.ok a, s') → ∃ i', x'.run.run (V i s) = (.ok a, V i' s') ∧ I i' s') := by
  refine ⟨fun h hI a s' hr => h hI _ s' hr nofun, fun h hI r s' hr hE => ?_⟩
  cases r with
  | error p => exact (hE p rfl).elim
  | ok a => exact h hI a s' hr

/-- the carried invariant of the current state may be used -/
theorem CommXAt.intro {x x' : M α} (h : I i s → CommXAt E V I i s x x') : CommXAt E V I i s x x' := fun hI => h hI hI

theorem CommXAt.ret (a : α) : CommXAt E V I i s (pure a : M α) (pure a) := by
  intro hI r s' h _; rw [run_pure] at h; cases h; exact ⟨i, rfl, hI⟩

theorem CommXAt.thr (e : Panic) : CommXAt E V I i s (throw e : M α) (throw e) := by
  intro hI r s' h _; rw [run_throw] at h; cases h; exact ⟨i, rfl, hI⟩

theorem CommXAt.pan (e : String) : CommXAt E V I i s (Engine.panic e : M α) (Engine.panic e) := CommXAt.thr _

/-- a panic that need not be reproduced -/
theorem CommXAt.thr_any {e : Panic} (he : ¬ E e) (x' : M α) : CommXAt E V I i s (throw e : M α) x' := by
  intro _ r s' h hE; rw [run_throw] at h; cases h; exact absurd (hE e rfl) he

theorem CommXAt.seq {x x' : M α} {f f' : α → M β} (hx : CommXAt E V I i s x x')
    (hf : ∀ a s1 i1, x.run.run s = (.ok a, s1) → CommXAt E V I i1 s1 (f a) (f' a)) :
    CommXAt E V I i s (x >>= f) (x' >>= f') := by
  intro hI r s' h hE
  rcases h1 : x.run.run s with ⟨a | a, s1⟩
  · rw [run_bind_err h1] at h; cases h
    obtain ⟨i1, e1, n1⟩ := hx hI _ _ h1 fun p hp => hE p (by cases hp; rfl)
    exact ⟨i1, run_bind_err e1, n1⟩
  · obtain ⟨i1, e1, n1⟩ := hx hI _ s1 h1 nofun
    rw [run_bind_ok h1] at h; rw [run_bind_ok e1]
    exact hf a s1 i1 h1 n1 r s' h hE

theorem CommXAt.get_seq {k k' : State → M β} (h : CommXAt E V I i s (k s) (k' (V i s))) :
    CommXAt E V I i s (get >>= k) (get >>= k') := by
  intro hI r s' hr
  rw [run_bind_get] at hr ⊢
  exact h hI r s' hr

theorem run_getNode_none {n : Nat} (h : s.nodes[n]? = none) :
    (getNode n).run.run s = (.error (.site "model:no-such-node"), s) := by
  rw [run_getNode, h]

theorem CommXAt.cond {c c' : Prop} {_ : Decidable c} {_ : Decidable c'} {a b a' b' : M α} (hc : c ↔ c')
    (ha : c → CommXAt E V I i s a a') (hb : ¬ c → CommXAt E V I i s b b') :
    CommXAt E V I i s (if c then a else b) (if c' then a' else b') := by
  by_cases h : c
  · rw [if_pos h, if_pos (hc.1 h)]; exact ha h
  · rw [if_neg h, if_neg (fun h' => h (hc.2 h'))]; exact hb h

theorem CommXAt.ite_left {c : Prop} {_ : Decidable c} {a b x' : M α} (ha : c → CommXAt E V I i s a x')
    (hb : ¬ c → CommXAt E V I i s b x') : CommXAt E V I i s (if c then a else b) x' := by
  by_cases h : c
  · rw [if_pos h]; exact ha h
  · rw [if_neg h]; exact hb h

/-- work that the right-hand run does not do (it cannot be seen through `V`), followed by `k` -/
theorem CommXAt.left_seq {x : M Unit} {k : Unit → M β} {k' : M β} (hx : CommXAt E V I i s x (pure ()))
    (hk : ∀ s1 i1, x.run.run s = (.ok (), s1) → CommXAt E V I i1 s1 (k ()) k') : CommXAt E V I i s (x >>= k) k' := by
  intro hI r s' hr hE
  rcases h1 : x.run.run s with ⟨a | a, s1⟩
  · rw [run_bind_err h1] at hr; cases hr
    obtain ⟨i1, e1, -⟩ := hx hI _ _ h1 fun p hp => hE p (by cases hp; rfl)
    rw [run_pure] at e1; cases e1
  · obtain ⟨i1, e1, hI1⟩ := hx hI _ _ h1 nofun
    rw [run_pure] at e1
    rw [run_bind_ok h1] at hr
    have e2 : V i s = V i1 s1 := congrArg Prod.snd e1
    rw [e2]
    exact hk s1 i1 h1 hI1 r s' hr hE

/-- a program that does not change the state, followed by a continuation: the continuation starts in the same state -/
theorem CommXAt.ro_seq {x x' : M α} {f f' : α → M β} (hro : ∀ a s1, x.run.run s = (.ok a, s1) → s1 = s)
    (hx : CommXAt E V I i s x x') (hf : ∀ a i1, CommXAt E V I i1 s (f a) (f' a)) : CommXAt E V I i s (x >>= f) (x' >>= f') := by
  refine CommXAt.seq hx fun a s1 i1 h1 => ?_
  rw [hro a s1 h1]; exact hf a i1

theorem CommX.forIn {γ : Type} (l : List γ) {f f' : γ → β → M (ForInStep β)} (h : ∀ a b, CommX E V I (f a b) (f' a b))
    (b : β) : CommX E V I (ForIn.forIn l b f) (ForIn.forIn l b f') := by
  induction l generalizing b with
  | nil => intro i s; rw [List.forIn_nil, List.forIn_nil]; exact CommXAt.ret _
  | cons a l ih =>
    intro i s
    rw [List.forIn_cons, List.forIn_cons]
    refine CommXAt.seq (h a b i s) fun r s1 i1 _ => ?_
    cases r with
    | done b' => exact CommXAt.ret _
    | yield b' => exact ih b' i1 s1

theorem CommX.mapM {γ : Type} {f f' : γ → M β} (h : ∀ a, CommX E V I (f a) (f' a)) (l : List γ) :
    CommX E V I (l.mapM f) (l.mapM f') := by
  induction l with
  | nil => intro i s; rw [List.mapM_nil, List.mapM_nil]; exact CommXAt.ret _
  | cons a l ih =>
    intro i s
    rw [List.mapM_cons, List.mapM_cons]
    exact CommXAt.seq (h a i s) fun b s1 i1 _ => CommXAt.seq (ih i1 s1) fun bs s2 _ _ => CommXAt.ret _

theorem CommXAt.map {x x' : M α} (f : α → β) (hx : CommXAt E V I i s x x') : CommXAt E V I i s (f <$> x) (f <$> x') := by
  rw [map_eq_pure_bind, map_eq_pure_bind]
  exact CommXAt.seq hx fun _ _ _ _ => CommXAt.ret _

theorem CommXAt.discard {x x' : M α} (hx : CommXAt E V I i s x x') : CommXAt E V I i s (discard x) (discard x') := by
  unfold Functor.discard
  exact CommXAt.map (Function.const α PUnit.unit) hx

/-- the two conditions are written apart: the walk leaves `Decidable` instances that are equal only by computation -/
theorem CommX.assertM {c c' : Bool} (hc : c = c') (site : String) : CommX E V I (Engine.assertM c site) (Engine.assertM c' site) := by
  subst hc
  intro i s hI r s' h _
  rw [run_assertM] at h ⊢
  split at h
  · rename_i hc; cases h; rw [if_pos hc]; exact ⟨i, rfl, hI⟩
  · rename_i hc; cases h; rw [if_neg hc]; exact ⟨i, rfl, hI⟩

end calculus

/-! ### one state map -/
section one
variable {E : Panic → Prop} {V : State → State} {I : State → Prop} {s : State} {α β : Type}

theorem Comm.at {x x' : M α} (h : Comm E V I x x') (s : State) : CommAt E V I s x x' := h s

theorem CommAt.of {x x' : M α} (h : I s → ∀ (r : Except Panic α) s', x.run.run s = (r, s') → (∀ p, r = .error p → E p) →
    x'.run.run (V s) = (r, V s') ∧ I s') : CommAt E V I s x x' :=
  fun hI r s' hr hE => ⟨(), h hI r s' hr hE⟩

theorem CommAt.run {x x' : M α} (h : CommAt E V I s x x') (hI : I s) {r : Except Panic α} {s' : State}
    (hr : x.run.run s = (r, s')) (hE : ∀ p, r = .error p → E p) : x'.run.run (V s) = (r, V s') ∧ I s' := by
  obtain ⟨_, h1⟩ := h hI r s' hr hE
  exact h1

/-- `x` returns and cannot be seen through `V`, as far as `E` asks: it is simulated by doing nothing -/
theorem CommAt.of_unseen {x : M Unit} (h : I s → ∀ (r : Except Panic Unit) s1, x.run.run s = (r, s1) → (∀ p, r = .error p → E p) →
    r = .ok () ∧ V s1 = V s ∧ I s1) : CommAt E V I s x (pure ()) := by
  refine .of fun hI r s1 hr hE => ?_
  obtain ⟨rfl, e, hI1⟩ := h hI r s1 hr hE
  rw [run_pure, e]
  exact ⟨rfl, hI1⟩

/-- a family of simulations, each for one state map, is a simulation for the family (the index stays) -/
theorem CommAt.toX {ι : Type} {V : ι → State → State} {I : ι → State → Prop} {i : ι} {x x' : M α}
    (h : CommAt E (V i) (I i) s x x') : CommXAt E V I i s x x' :=
  fun hI r s' hr hE => ⟨i, h.run hI hr hE⟩

/-- sequencing after a step that keeps the index -/
theorem CommXAt.seq_at {ι : Type} {V : ι → State → State} {I : ι → State → Prop} {i : ι} {x x' : M α} {f f' : α → M β}
    (hx : CommAt E (V i) (I i) s x x') (hf : ∀ a s1, x.run.run s = (.ok a, s1) → CommXAt E V I i s1 (f a) (f' a)) :
    CommXAt E V I i s (x >>= f) (x' >>= f') := by
  intro hI r s' h hE
  rcases h1 : x.run.run s with ⟨a | a, s1⟩
  · rw [run_bind_err h1] at h; cases h
    obtain ⟨e1, n1⟩ := hx.run hI h1 fun p hp => hE p (by cases hp; rfl)
    exact ⟨i, run_bind_err e1, n1⟩
  · obtain ⟨e1, n1⟩ := hx.run hI h1 nofun
    rw [run_bind_ok h1] at h; rw [run_bind_ok e1]
    exact hf a s1 h1 n1 r s' h hE

theorem CommX.comm {x x' : M α} (h : CommX E (fun _ : Unit => V) (fun _ => I) x x') : Comm E V I x x' := h ()

theorem Comm.assertM (c : Bool) (site : String) : Comm E V I (Engine.assertM c site) (Engine.assertM c site) :=
  (CommX.assertM rfl site).comm

theorem Comm.forIn {γ : Type} (l : List γ) {f f' : γ → β → M (ForInStep β)} (h : ∀ a b, Comm E V I (f a b) (f' a b))
    (b : β) : Comm E V I (ForIn.forIn l b f) (ForIn.forIn l b f') :=
  (CommX.forIn l (fun a b _ => h a b) b).comm

theorem Comm.mapM {γ : Type} {f f' : γ → M β} (h : ∀ a, Comm E V I (f a) (f' a)) (l : List γ) :
    Comm E V I (l.mapM f) (l.mapM f') :=
  (CommX.mapM (fun a _ => h a) l).comm

theorem CommAt.fwd {x x' : M α} (h : CommAt E V I s x x') (hI : I s) {a : α} {s' : State}
    (hr : x.run.run s = (.ok a, s')) : x'.run.run (V s) = (.ok a, V s') ∧ I s' :=
  h.run hI hr nofun

theorem CommAt.rev {x x' : M α} (h : CommAt E V I s x x') (hE : ∀ p, E p) (hI : I s) {a : α} {t : State}
    (hv : x'.run.run (V s) = (.ok a, t)) : ∃ s', x.run.run s = (.ok a, s') ∧ t = V s' ∧ I s' := by
  rcases h1 : x.run.run s with ⟨r1, s1⟩
  obtain ⟨e1, n1⟩ := h.run hI h1 fun p _ => hE p
  rw [hv] at e1
  cases e1
  exact ⟨s1, rfl, rfl, n1⟩

theorem CommAt.tot {x x' : M α} (h : CommAt E V I s x x') (hE : ∀ p, E p) (hI : I s) {Q : α → State → Prop}
    (T : Tot x' (V s) Q) : Tot x s (fun a s' => Q a (V s') ∧ I s') := by
  obtain ⟨a, t, hv, hq⟩ := T
  obtain ⟨s', h1, rfl, n1⟩ := h.rev hE hI hv
  exact ⟨a, s', h1, hq, n1⟩

/-- the simulation that need not reproduce any panic, spelt out -/
theorem CommAt.fwd_iff {x x' : M α} : CommAt (fun _ => False) V I s x x' ↔
    (I s → ∀ a s', x.run.run s = (.ok a, s') → x'.run.run (V s) = (.ok a, V s') ∧ I s') := by
  refine ⟨fun h hI a s' hr => h.fwd hI hr, fun h => .of fun hI r s' hr hE => ?_⟩
  cases r with
  | error p => exact (hE p rfl).elim
  | ok a => exact h hI a s' hr

/-- the simulation that reproduces every panic, spelt out -/
theorem CommAt.all_iff {x x' : M α} : CommAt (fun _ => True) V I s x x' ↔
    (I s → ∀ (r : Except Panic α) s', x.run.run s = (r, s') → x'.run.run (V s) = (r, V s') ∧ I s') :=
  ⟨fun h hI _ _ hr => h.run hI hr fun _ _ => trivial, fun h => .of fun hI r s' hr _ => h hI r s' hr⟩

end one

/-! ## relabellings -/

/-- what the new kind and stamp of a node may look at besides the old ones: the expert records and the per-key records -/
abbrev Ctx := Array ExpertRec × Array PerKeyRec

@[reducible] def ctx (s : State) : Ctx := (s.experts, s.perkeys)

/-- what replaces `kind`, `value`, `didChange`, `cutoff` and `recomputedAt` of node `i`, the expert records and the log; everything else is
kept -/
structure Relabel where
  kind : Ctx → Kind → Kind
  value : Nat → Kind → Option Val → Option Val
  didChange : Kind → Bool → Bool
  cutoff : Kind → CutoffK → CutoffK
  recomputedAt : Ctx → Kind → Int → Int
  experts : Array ExpertRec → Array ExpertRec
  log : List Event → List Event

def Relabel.node (R : Relabel) (xs : Ctx) (i : Nat) (nd : Node) : Node :=
  { nd with kind := R.kind xs nd.kind, value := R.value i nd.kind nd.value,
            didChange := R.didChange nd.kind nd.didChange, cutoff := R.cutoff nd.kind nd.cutoff,
            recomputedAt := R.recomputedAt xs nd.kind nd.recomputedAt }

def Relabel.app (R : Relabel) (s : State) : State :=
  { s with nodes := s.nodes.mapIdx (R.node (ctx s)), experts := R.experts s.experts, log := R.log s.log }

section fields
variable (R : Relabel) (xs : Ctx) (i : Nat) (nd : Node)
theorem Relabel.node_kind : (R.node xs i nd).kind = R.kind xs nd.kind := rfl
theorem Relabel.node_value : (R.node xs i nd).value = R.value i nd.kind nd.value := rfl
theorem Relabel.node_didChange : (R.node xs i nd).didChange = R.didChange nd.kind nd.didChange := rfl
theorem Relabel.node_cutoff : (R.node xs i nd).cutoff = R.cutoff nd.kind nd.cutoff := rfl
theorem Relabel.node_recomputedAt : (R.node xs i nd).recomputedAt = R.recomputedAt xs nd.kind nd.recomputedAt := rfl
theorem Relabel.node_createdIn : (R.node xs i nd).createdIn = nd.createdIn := rfl
theorem Relabel.node_valid : (R.node xs i nd).valid = nd.valid := rfl
theorem Relabel.node_changedAt : (R.node xs i nd).changedAt = nd.changedAt := rfl
theorem Relabel.node_height : (R.node xs i nd).height = nd.height := rfl
theorem Relabel.node_heightInRch : (R.node xs i nd).heightInRch = nd.heightInRch := rfl
theorem Relabel.node_heightInAhh : (R.node xs i nd).heightInAhh = nd.heightInAhh := rfl
theorem Relabel.node_parents : (R.node xs i nd).parents = nd.parents := rfl
theorem Relabel.node_observers : (R.node xs i nd).observers = nd.observers := rfl
theorem Relabel.node_num : (R.node xs i nd).numOnUpdateHandlers = nd.numOnUpdateHandlers := rfl
theorem Relabel.node_inHas : (R.node xs i nd).inHandleAfterStab = nd.inHandleAfterStab := rfl
theorem Relabel.node_forceNecessary : (R.node xs i nd).forceNecessary = nd.forceNecessary := rfl
theorem Relabel.node_oldState : (R.node xs i nd).oldState = nd.oldState := rfl
theorem Relabel.node_isNecessary : (R.node xs i nd).isNecessary = nd.isNecessary := rfl
theorem Relabel.node_inRch : (R.node xs i nd).inRch = nd.inRch := rfl
theorem Relabel.node_kind? : (R.node xs i nd).kind? = (nd.kind?).map (R.kind xs) := by
  unfold Node.kind?
  rw [Relabel.node_valid, Relabel.node_kind]
  cases nd.valid <;> rfl
end fields

/-! ### what `R.app` keeps -/
section
variable (R : Relabel) (s : State)
theorem Relabel.app_cfg : (R.app s).cfg = s.cfg := rfl
theorem Relabel.app_vars : (R.app s).vars = s.vars := rfl
theorem Relabel.app_binds : (R.app s).binds = s.binds := rfl
theorem Relabel.app_experts : (R.app s).experts = R.experts s.experts := rfl
theorem Relabel.app_observers : (R.app s).observers = s.observers := rfl
theorem Relabel.app_rch : (R.app s).rch = s.rch := rfl
theorem Relabel.app_ahh : (R.app s).ahh = s.ahh := rfl
theorem Relabel.app_maxHeightSeen : (R.app s).maxHeightSeen = s.maxHeightSeen := rfl
theorem Relabel.app_status : (R.app s).status = s.status := rfl
theorem Relabel.app_stabNum : (R.app s).stabNum = s.stabNum := rfl
theorem Relabel.app_currentScope : (R.app s).currentScope = s.currentScope := rfl
theorem Relabel.app_propagateInvalidity : (R.app s).propagateInvalidity = s.propagateInvalidity := rfl
theorem Relabel.app_handleAfterStab : (R.app s).handleAfterStab = s.handleAfterStab := rfl
theorem Relabel.app_newObservers : (R.app s).newObservers = s.newObservers := rfl
theorem Relabel.app_disallowedObservers : (R.app s).disallowedObservers = s.disallowedObservers := rfl
theorem Relabel.app_allObservers : (R.app s).allObservers = s.allObservers := rfl
theorem Relabel.app_setDuringStab : (R.app s).setDuringStab = s.setDuringStab := rfl
theorem Relabel.app_deadVars : (R.app s).deadVars = s.deadVars := rfl
theorem Relabel.app_counters : (R.app s).counters = s.counters := rfl
theorem Relabel.app_nextToken : (R.app s).nextToken = s.nextToken := rfl
theorem Relabel.app_nextDep : (R.app s).nextDep = s.nextDep := rfl
theorem Relabel.app_panicCountdown : (R.app s).panicCountdown = s.panicCountdown := rfl
theorem Relabel.app_currentlyRunning : (R.app s).currentlyRunning = s.currentlyRunning := rfl
theorem Relabel.app_alive : (R.app s).alive = s.alive := rfl
theorem Relabel.app_top : (R.app s).top = s.top := rfl
theorem Relabel.app_handles : (R.app s).handles = s.handles := rfl
theorem Relabel.app_slots : (R.app s).slots = s.slots := rfl
theorem Relabel.app_memos : (R.app s).memos = s.memos := rfl
theorem Relabel.app_perkeys : (R.app s).perkeys = s.perkeys := rfl
theorem Relabel.app_log : (R.app s).log = R.log s.log := rfl

theorem Relabel.app_getElem? (m : Nat) : (R.app s).nodes[m]? = (s.nodes[m]?).map (R.node (ctx s) m) := by
  simp [Relabel.app, Array.getElem?_mapIdx]

theorem Relabel.app_size : (R.app s).nodes.size = s.nodes.size := by simp [Relabel.app]

theorem Relabel.app_modify (n : Nat) {f f' : Node → Node}
    (hf : ∀ i nd, R.node (ctx s) i (f nd) = f' (R.node (ctx s) i nd)) :
    R.app { s with nodes := s.nodes.modify n f } = { R.app s with nodes := (R.app s).nodes.modify n f' } := by
  simp only [Relabel.app]
  congr 1
  apply Array.ext
  · simp
  · intro i h1 h2
    simp only [Array.getElem_mapIdx, Array.getElem_modify]
    split
    · exact hf _ _
    · rfl
end

/-- `tick` under an invariant that does not speak of the fault countdown -/
theorem Comm.tick_of {E : Panic → Prop} {R : Relabel} {I : State → Prop}
    (hpc : ∀ {s : State} (c : Option Nat), I s → I { s with panicCountdown := c }) :
    Comm E R.app I Engine.tick Engine.tick := by
  have arm : ∀ (s : State) (c : Option Nat), CommAt E R.app I s
      (modify fun s => { s with panicCountdown := c }) (modify fun s => { s with panicCountdown := c }) := by
    intro s c
    refine .of fun hI r s' hr _ => ?_
    rw [run_modify] at hr ⊢
    cases hr
    exact ⟨rfl, hpc c hI⟩
  intro s
  unfold Engine.tick
  refine CommXAt.get_seq ?_
  rw [Relabel.app_panicCountdown]
  split
  · exact CommXAt.ret _
  · split
    · exact CommXAt.seq (arm s _) fun _ _ _ _ => CommXAt.pan _
    · exact arm s _

/-- `tick` under an invariant that says that no fault is armed -/
theorem Comm.tick_none {E : Panic → Prop} {R : Relabel} {I : State → Prop}
    (hpc : ∀ s, I s → s.panicCountdown = none) : Comm E R.app I Engine.tick Engine.tick := by
  intro s
  refine .of fun hI r s' hr _ => ?_
  rw [run_tick_none s (hpc s hI)] at hr
  cases hr
  exact ⟨run_tick_none (R.app s) (hpc s hI), hI⟩

/-- the dependencies of expert `e` (`State.children` of an expert node) -/
def xkids (xs : Array ExpertRec) (e : Nat) : List Nat :=
  match xs[e]? with
  | some er => er.children.map (·.child)
  | none => []

/-- what a node update must keep for the carried invariant to survive it -/
def Benign (nd nd' : Node) : Prop :=
  nd'.kind = nd.kind ∧ nd'.valid = nd.valid ∧ nd'.cutoff = nd.cutoff ∧ nd'.oldState = nd.oldState ∧
    nd'.didChange = nd.didChange ∧ nd'.parents = nd.parents ∧ nd'.value = nd.value ∧ nd'.isNecessary = nd.isNecessary

/-- the hypotheses on a relabelling `R` and a carried invariant `I` under which the engine functions that do not
recompute a node commute with `R.app` -/
structure Blind (R : Relabel) (I : State → Prop) : Prop where
  default : ∀ xs i, R.node xs i default = default
  /-- `R.kind` is the identity, except that a `map_ref` or `map_with_old` node may become a unary `map` node over the same input, an
  expert node a `fold` node over its current dependencies, and a `map` node a `map` node with another function over the same inputs: same
  class in `parent_iter_can_recompute_now`, still no bind or `map_ref` node -/
  kind : ∀ xs k, R.kind xs k = k ∨
    (∃ f i, R.kind xs k = .map f [i] ∧ ((∃ p, k = .mapRef p i) ∨ ∃ g, k = .mapWithOld g i)) ∨
    (∃ e f v, k = .expert e ∧ R.kind xs k = .fold f v (xkids xs.1 e)) ∨
    ∃ f f' args, k = .map f args ∧ R.kind xs k = .map f' args
  children : ∀ s m, (R.app s).children m = s.children m
  isStale : ∀ s m, (R.app s).isStale m = s.isStale m
  tick : ∀ E, Comm E R.app I Engine.tick Engine.tick
  of_nodes : ∀ {s s' : State}, I s → s'.nodes = s.nodes → s'.propagateInvalidity = s.propagateInvalidity →
    s'.panicCountdown = s.panicCountdown → s'.experts = s.experts → s'.binds = s.binds → I s'
  modify : ∀ {s : State} (n : Nat) (f : Node → Node), I s → (∀ nd, Benign nd (f nd)) →
    I { s with nodes := s.nodes.modify n f }
  rmParent : ∀ {s : State} (c k : Nat), I s →
    I { s with nodes := s.nodes.modify c fun x => { x with parents := swapRemove x.parents k } }
  /-- an invalid node may be there only if `I` does not speak of the pending invalidations -/
  invalid : ∀ {s : State} {n : Nat} {nd : Node}, I s → s.nodes[n]? = some nd → nd.valid = false →
    ∀ l, I { s with propagateInvalidity := l }

section blind
variable {E : Panic → Prop} {R : Relabel} {I : State → Prop} (H : Blind R I) {s : State} {α β : Type}
include H

theorem Blind.kind_mapRef (xs : Ctx) {k : Kind} {p i : Nat} (h : R.kind xs k = .mapRef p i) :
    k = .mapRef p i := by
  rcases H.kind xs k with e | ⟨f, j, e, -⟩ | ⟨x, f, v, -, e⟩ | ⟨f, f', args, -, e⟩
  · rw [e] at h; exact h
  · rw [e] at h; cases h
  · rw [e] at h; cases h
  · rw [e] at h; cases h

/-- an expert node in the image is the image of that expert node -/
theorem Blind.kind_of_expert (xs : Ctx) {k : Kind} {e : Nat} (h : R.kind xs k = .expert e) : k = .expert e := by
  rcases H.kind xs k with e1 | ⟨f, j, e1, -⟩ | ⟨x, f, v, -, e1⟩ | ⟨f, f', args, -, e1⟩
  · rw [e1] at h; exact h
  · rw [e1] at h; cases h
  · rw [e1] at h; cases h
  · rw [e1] at h; cases h

theorem Blind.kind?_expert (xs : Ctx) (i : Nat) (nd : Node) {e : Nat} (h : (R.node xs i nd).kind? = some (.expert e)) :
    nd.kind? = some (.expert e) := by
  rw [Relabel.node_kind?] at h
  rcases hk : nd.kind? with _ | k
  · rw [hk] at h; cases h
  · rw [hk, Option.map_some] at h
    rw [H.kind_of_expert xs (Option.some.inj h)]

/-- a bind node is what it was -/
theorem Blind.kind?_lhsChange (xs : Ctx) (i : Nat) (nd : Node) (b : Nat) :
    (R.node xs i nd).kind? = some (.bindLhsChange b) ↔ nd.kind? = some (.bindLhsChange b) := by
  rw [Relabel.node_kind?]
  cases nd.kind? with
  | none => exact ⟨nofun, nofun⟩
  | some k =>
    rcases H.kind xs k with e | ⟨f, j, e, ⟨p, rfl⟩ | ⟨g, rfl⟩⟩ | ⟨x, f, v, rfl, e⟩ | ⟨f, f', args, rfl, e⟩
    · rw [Option.map_some, e]
    · rw [Option.map_some, e]; exact ⟨nofun, nofun⟩
    · rw [Option.map_some, e]; exact ⟨nofun, nofun⟩
    · rw [Option.map_some, e]; exact ⟨nofun, nofun⟩
    · rw [Option.map_some, e]; exact ⟨nofun, nofun⟩

theorem app_nodeD (m : Nat) : (R.app s).nodeD m = R.node (ctx s) m (s.nodeD m) := by
  unfold State.nodeD
  rw [Relabel.app_getElem?]
  cases s.nodes[m]? with
  | none => exact (H.default _ m).symm
  | some nd => rfl

theorem app_isNecessary (m : Nat) : (R.app s).isNecessary m = s.isNecessary m := by
  unfold State.isNecessary
  rw [app_nodeD H]
  rfl

theorem app_needsToBeComputed (m : Nat) : (R.app s).needsToBeComputed m = s.needsToBeComputed m := by
  unfold State.needsToBeComputed
  rw [app_isNecessary H, H.isStale]

/-- `I` after a write that leaves nodes, fault countdown, expert and bind records alone; the pending invalidations may change only where an
invalid node is at hand (`Blind.invalid`) -/
theorem Blind.of_write {s' : State} (hI : I s) (hn : s'.nodes = s.nodes)
    (hp : s'.propagateInvalidity = s.propagateInvalidity ∨ ∃ (n : Nat) (nd : Node), s.nodes[n]? = some nd ∧ nd.valid = false)
    (hc : s'.panicCountdown = s.panicCountdown) (hx : s'.experts = s.experts) (hb : s'.binds = s.binds) : I s' := by
  rcases hp with hp | ⟨n, nd, hnd, hv⟩
  · exact H.of_nodes hI hn hp hc hx hb
  · exact H.of_nodes (H.invalid hI hnd hv s'.propagateInvalidity) hn rfl hc hx hb

omit H in
theorem Comm.dassert_eq {c c' : Bool} (hc : c = c') (site : String) :
    Comm E R.app I (Engine.dassert c site) (Engine.dassert c' site) := by
  subst hc
  intro s
  refine .of fun hI r s' h _ => ?_
  rw [run_dassert] at h ⊢
  by_cases hc : s.cfg.debug = true ∧ c = false
  · rw [if_pos hc] at h; cases h; exact ⟨if_pos hc, hI⟩
  · rw [if_neg hc] at h; cases h; exact ⟨if_neg hc, hI⟩

omit H in
theorem Comm.dassert (c : Bool) (site : String) : Comm E R.app I (Engine.dassert c site) (Engine.dassert c site) :=
  Comm.dassert_eq rfl site

/-- a commuting node update -/
theorem Comm.modNode (n : Nat) {f f' : Node → Node} (hf : ∀ xs i nd, R.node xs i (f nd) = f' (R.node xs i nd))
    (hk : ∀ nd, Benign nd (f nd)) :
    Comm E R.app I (Engine.modNode n f) (Engine.modNode n f') := by
  intro s
  refine .of fun hI r s' hr _ => ?_
  rw [run_modNode] at hr ⊢
  cases hr
  exact ⟨congrArg (Prod.mk (Except.ok ())) (R.app_modify s n (hf _)).symm, H.modify n f hI hk⟩

end blind

/-! ### a family of relabellings -/
section family
variable {E : Panic → Prop} {ι : Type} {R : ι → Relabel} {I : ι → State → Prop} {i : ι} {s : State} {β : Type}

theorem CommXAt.getNode_seq {n : Nat} {k k' : Node → M β}
    (h : ∀ nd xs, xs = ctx s → s.nodes[n]? = some nd → I i s →
      CommXAt E (fun i => (R i).app) I i s (k nd) (k' ((R i).node xs n nd))) :
    CommXAt E (fun i => (R i).app) I i s (getNode n >>= k) (getNode n >>= k') := by
  intro hI r s' hr hE
  dsimp only
  cases hnd : s.nodes[n]? with
  | none =>
    have hv : ((R i).app s).nodes[n]? = none := by rw [Relabel.app_getElem?, hnd]; rfl
    rw [run_bind_err (run_getNode_none hnd)] at hr
    cases hr
    exact ⟨i, run_bind_err (run_getNode_none hv), hI⟩
  | some nd =>
    have hv : ((R i).app s).nodes[n]? = some ((R i).node (ctx s) n nd) := by rw [Relabel.app_getElem?, hnd]; rfl
    rw [run_bind_ok (run_getNode_some hnd)] at hr
    rw [run_bind_ok (run_getNode_some hv)]
    exact h nd _ rfl hnd hI hI r s' hr hE

/-- for relabellings that map every expert record by `ρ` -/
theorem CommXAt.getExpert_seq {ρ : ExpertRec → ExpertRec} (hρ : ∀ i xs, (R i).experts xs = xs.map ρ) {e : Nat}
    {k k' : ExpertRec → M β}
    (h : ∀ er, s.experts[e]? = some er → I i s → CommXAt E (fun i => (R i).app) I i s (k er) (k' (ρ er))) :
    CommXAt E (fun i => (R i).app) I i s (getExpert e >>= k) (getExpert e >>= k') := by
  unfold Engine.getExpert
  rw [bind_assoc, bind_assoc]
  refine CommXAt.get_seq ?_
  rw [Relabel.app_experts, hρ, Array.getElem?_map]
  cases he : s.experts[e]? with
  | none => exact CommXAt.seq (CommXAt.pan _) fun _ _ _ h => by cases h
  | some er =>
    rw [Option.map_some, pure_bind, pure_bind]
    exact CommXAt.intro fun hI => h er he hI

theorem CommXAt.mod (H : ∀ i, Blind (R i) (I i)) {f f' : State → State} (h : (R i).app (f s) = f' ((R i).app s))
    (hn : (f s).nodes = s.nodes)
    (hp : (f s).propagateInvalidity = s.propagateInvalidity ∨ ∃ (n : Nat) (nd : Node), s.nodes[n]? = some nd ∧ nd.valid = false)
    (hc : (f s).panicCountdown = s.panicCountdown) (hx : (f s).experts = s.experts) (hb : (f s).binds = s.binds) :
    CommXAt E (fun i => (R i).app) I i s (modify f : M Unit) (modify f') := by
  intro hI r s' hr _
  dsimp only
  rw [run_modify] at hr ⊢; cases hr; rw [← h]
  exact ⟨i, rfl, (H i).of_write hI hn hp hc hx hb⟩

theorem CommXAt.mod_seq (H : ∀ i, Blind (R i) (I i)) {f f' : State → State} {k k' : Unit → M β}
    (h : (R i).app (f s) = f' ((R i).app s)) (hn : (f s).nodes = s.nodes)
    (hp : (f s).propagateInvalidity = s.propagateInvalidity ∨ ∃ (n : Nat) (nd : Node), s.nodes[n]? = some nd ∧ nd.valid = false)
    (hc : (f s).panicCountdown = s.panicCountdown) (hx : (f s).experts = s.experts) (hb : (f s).binds = s.binds)
    (hk : I i (f s) → CommXAt E (fun i => (R i).app) I i (f s) (k ()) (k' ())) :
    CommXAt E (fun i => (R i).app) I i s ((modify f : M Unit) >>= k) ((modify f' : M Unit) >>= k') := by
  intro hI r s' hr
  have hI' := (H i).of_write hI hn hp hc hx hb
  dsimp only
  rw [run_bind_modify] at hr ⊢
  rw [← h]; exact hk hI' hI' r s' hr

end family



/-! ## the walk

`sim` peels the two programs in parallel with the rules above; `vnorm` rewrites what the right-hand program has read of `R.app s` and
`R.node xs i nd` into what the left-hand program has read of `s` and `nd`; `sim_leaf` is the table of the functions already walked. -/

set_option hygiene false in
macro "vnorm" : tactic => `(tactic| simp only [NodeSim.Relabel.app_cfg, NodeSim.Relabel.app_vars, NodeSim.Relabel.app_binds,
  NodeSim.Relabel.app_observers, NodeSim.Relabel.app_rch, NodeSim.Relabel.app_ahh, NodeSim.Relabel.app_maxHeightSeen,
  NodeSim.Relabel.app_status, NodeSim.Relabel.app_stabNum, NodeSim.Relabel.app_currentScope,
  NodeSim.Relabel.app_propagateInvalidity, NodeSim.Relabel.app_handleAfterStab, NodeSim.Relabel.app_newObservers,
  NodeSim.Relabel.app_disallowedObservers, NodeSim.Relabel.app_allObservers, NodeSim.Relabel.app_setDuringStab,
  NodeSim.Relabel.app_deadVars, NodeSim.Relabel.app_counters, NodeSim.Relabel.app_nextToken, NodeSim.Relabel.app_nextDep,
  NodeSim.Relabel.app_panicCountdown, NodeSim.Relabel.app_currentlyRunning, NodeSim.Relabel.app_alive, NodeSim.Relabel.app_top,
  NodeSim.Relabel.app_handles, NodeSim.Relabel.app_slots, NodeSim.Relabel.app_memos, NodeSim.Relabel.app_perkeys,
  NodeSim.Relabel.app_size, NodeSim.app_nodeD H, NodeSim.app_isNecessary H, H.isStale, NodeSim.app_needsToBeComputed H, H.children,
  NodeSim.Relabel.node_createdIn, NodeSim.Relabel.node_valid, NodeSim.Relabel.node_changedAt, NodeSim.Relabel.node_height,
  NodeSim.Relabel.node_heightInRch, NodeSim.Relabel.node_heightInAhh, NodeSim.Relabel.node_parents,
  NodeSim.Relabel.node_observers, NodeSim.Relabel.node_num, NodeSim.Relabel.node_inHas, NodeSim.Relabel.node_forceNecessary,
  NodeSim.Relabel.node_oldState, NodeSim.Relabel.node_isNecessary, NodeSim.Relabel.node_inRch])

syntax "sim_leaf" : tactic
macro_rules | `(tactic| sim_leaf) => `(tactic| fail "no leaf")
syntax "simx_leaf" : tactic
macro_rules | `(tactic| simx_leaf) => `(tactic| fail "no leaf")

set_option hygiene false in
macro "sim_step" : tactic => `(tactic| first
  | with_reducible exact NodeSim.CommXAt.ret _
  | with_reducible exact NodeSim.CommXAt.thr _
  | with_reducible exact NodeSim.CommXAt.pan _
  | ((with_reducible refine NodeSim.CommXAt.get_seq ?_); try vnorm)
  | ((with_reducible refine NodeSim.CommXAt.getNode_seq fun nd xs hxs hnd hI => ?_); try vnorm)
  | ((with_reducible refine NodeSim.CommXAt.getExpert_seq hρ fun er her hI => ?_); try vnorm)
  | ((with_reducible refine NodeSim.CommXAt.mod_seq (fun _ => H) ?_ ?_ ?_ ?_ ?_ ?_ fun _ => ?_) <;> (first | exact rfl | exact Or.inl rfl | skip))
  | ((with_reducible refine NodeSim.CommXAt.mod (fun _ => H) ?_ ?_ ?_ ?_ ?_ ?_) <;> first | exact rfl | exact Or.inl rfl)
  | (with_reducible refine NodeSim.CommXAt.seq ?_ fun _ _ _ _ => ?_)
  | ((with_reducible refine NodeSim.CommX.at ?_ _ _); simx_leaf)
  | ((with_reducible refine NodeSim.CommAt.toX (NodeSim.Comm.at ?_ _)); sim_leaf)
  | ((with_reducible refine NodeSim.CommX.at (NodeSim.CommX.forIn _ (fun _ _ => ?_) _) _ _); intro _ _)
  | (refine NodeSim.CommXAt.cond Iff.rfl (fun _ => ?_) (fun _ => ?_)))

/-- every goal is walked as far as the rules go; a goal where none applies is left, and not tried again -/
macro "sim" : tactic => `(tactic| repeat' sim_step)

set_option hygiene false in
/-- a `match` on a kind `k` against `R.kind xs k`, with `hkr : ` the case of `Blind.kind xs k`: the right-hand scrutinee is the same kind, the
unary `map` kind that stands for a `map_ref` / `map_with_old` kind, the `fold` kind that stands for an expert kind, or a `map` kind with another
function -/
macro "sim_kind'" : tactic => `(tactic| (
  rcases hkr with e | ⟨f, i, e, ⟨p, rfl⟩ | ⟨g, rfl⟩⟩ | ⟨x, f, v, rfl, e⟩ | ⟨f, f', args, rfl, e⟩
  cases k
  all_goals simp only [e]
  sim))

set_option hygiene false in
/-- the same for a `match` on the kind of the node `nd` last read by `getNode` (with `xs` the context it was read under); `hb` is `Blind` of the
relabelling at hand -/
macro "sim_kind_at" hb:term : tactic => `(tactic| (
  simp only [NodeSim.Relabel.node_kind?]
  rcases hk : nd.kind? with _ | k
  rotate_left
  rcases ($hb).kind xs k with e | ⟨f, i, e, ⟨p, rfl⟩ | ⟨g, rfl⟩⟩ | ⟨x, f, v, rfl, e⟩ | ⟨f, f', args, rfl, e⟩
  cases k
  all_goals first
    | simp only [Option.map_some, e]
    | simp only [Option.map_none]
  sim))

set_option hygiene false in
macro "sim_kind" : tactic => `(tactic| sim_kind_at H)

/-- the invariant excludes `map_ref` nodes: `markMapRefUnknown` and the `map_ref` branch of `child_changed` do nothing, on either side -/
def NoRef (I : State → Prop) : Prop :=
  ∀ {s : State} {n : Nat} {nd : Node}, I s → s.nodes[n]? = some nd → ∀ p i, nd.kind ≠ .mapRef p i

/-- the invariant excludes expert nodes -/
def NoExp (I : State → Prop) : Prop :=
  ∀ {s : State} {n : Nat} {nd : Node}, I s → s.nodes[n]? = some nd → ∀ e, nd.kind ≠ .expert e

/-- `I` is kept when an entry is added to the parents of a node -/
def AddsParents (I : State → Prop) : Prop := ∀ {s : State} (c : Nat) (e : Nat × Nat), I s →
  I { s with nodes := s.nodes.modify c fun x => { x with parents := x.parents ++ [e] } }

/-- `I` is kept when the value of a node is written -/
def SetsValues (I : State → Prop) : Prop := ∀ {s : State} (n : Nat) (w : Option Val), I s →
  I { s with nodes := s.nodes.modify n fun x => { x with value := w } }

/-- what the engine does for `map_ref` nodes (the flag work of the repaired D1, D15) -/
structure RefWork (E : Panic → Prop) (R : Relabel) (I : State → Prop) : Prop where
  /-- there is no `map_ref` node in the image -/
  ref : ∀ {s : State} {n : Nat} {nd : Node}, I s → s.nodes[n]? = some nd → ∀ p j, R.kind (ctx s) nd.kind ≠ .mapRef p j
  mark : ∀ fuel n, Comm E R.app I (Engine.markMapRefUnknown fuel n) (Engine.markMapRefUnknown fuel n)
  /-- marking the parents that link late to a `map_ref` child is not seen -/
  late : ∀ (fuel n : Nat) {s : State} {c : Nat} {nd : Node} {p j : Nat}, s.nodes[c]? = some nd →
    nd.kind = .mapRef p j → CommAt E R.app I s (Engine.markMapRefUnknown fuel n) (pure ())

/-- what the engine does for expert nodes when their observability changes: where the image of an expert node is that expert node, the work
is done on both sides; where it is not (it is a `fold` node), the work is not seen -/
structure ObsWork (E : Panic → Prop) {ι : Type} (R : ι → Relabel) (I : ι → State → Prop) : Prop where
  obs : ∀ (e : Nat) (b : Bool) {i : ι} {s : State} {n : Nat} {nd : Node}, s.nodes[n]? = some nd → nd.kind = .expert e →
    ((R i).kind (ctx s) (.expert e) = .expert e →
      CommXAt E (fun i => (R i).app) I i s (Engine.observabilityChange e b) (Engine.observabilityChange e b)) ∧
    ((R i).kind (ctx s) (.expert e) ≠ .expert e →
      CommXAt E (fun i => (R i).app) I i s (Engine.observabilityChange e b) (pure ()))

/-- … and the edge callbacks (they read the environment) -/
structure ExpWork (E : Panic → Prop) {ι : Type} (R : ι → Relabel) (I : ι → State → Prop) (env env' : Env) : Prop
    extends ObsWork E R I where
  edge : ∀ (e j : Nat) {i : ι} {s : State} {n : Nat} {nd : Node}, s.nodes[n]? = some nd → nd.kind = .expert e →
    ((R i).kind (ctx s) (.expert e) = .expert e →
      CommXAt E (fun i => (R i).app) I i s (Engine.runEdgeCallback env e j) (Engine.runEdgeCallback env' e j)) ∧
    ((R i).kind (ctx s) (.expert e) ≠ .expert e →
      CommXAt E (fun i => (R i).app) I i s (Engine.runEdgeCallback env e j) (pure ()))

section walk
variable {E : Panic → Prop} {R : Relabel} {I : State → Prop} (H : Blind R I)
include H
-- every walk takes `H`, also the few whose proof does not use it (the linter says which): `sim_leaf` passes it to all of them

set_option hygiene false in
macro_rules | `(tactic| sim_leaf) => `(tactic| ((with_reducible refine NodeSim.Comm.dassert_eq ?_ _); exact rfl))
set_option hygiene false in
macro_rules | `(tactic| simx_leaf) => `(tactic| ((with_reducible refine NodeSim.CommX.assertM ?_ _); exact rfl))
set_option hygiene false in
macro_rules | `(tactic| sim_leaf) => `(tactic| with_reducible exact H.tick _)
set_option hygiene false in
macro_rules | `(tactic| sim_leaf) => `(tactic|
  ((with_reducible refine NodeSim.Comm.modNode H _ ?_ ?_) <;> first | exact fun _ _ _ => rfl | exact fun _ => ⟨rfl, rfl, rfl, rfl, rfl, rfl, rfl, rfl⟩))

theorem Comm.addParent (hA : AddsParents I) (c i p : Nat) :
    Comm E R.app I (Engine.addParent c i p) (Engine.addParent c i p) := by
  intro s
  refine .of fun hI r s' hr _ => ?_
  unfold Engine.addParent at hr ⊢
  rw [run_modNode] at hr ⊢
  cases hr
  exact ⟨congrArg (Prod.mk (Except.ok ())) (R.app_modify s c fun _ _ => rfl).symm, hA c _ hI⟩
set_option hygiene false in
macro_rules | `(tactic| sim_leaf) => `(tactic| with_reducible exact NodeSim.Comm.addParent H hA _ _ _)

theorem Comm.setHeight (n : Nat) (h : Int) : Comm E R.app I (Engine.setHeight n h) (Engine.setHeight n h) := by
  intro s; unfold Engine.setHeight; sim
set_option hygiene false in
macro_rules | `(tactic| sim_leaf) => `(tactic| with_reducible exact NodeSim.Comm.setHeight H _ _)

theorem Comm.rchLink (n : Nat) : Comm E R.app I (Engine.rchLink n) (Engine.rchLink n) := by
  intro s; unfold Engine.rchLink; sim
set_option hygiene false in
macro_rules | `(tactic| sim_leaf) => `(tactic| with_reducible exact NodeSim.Comm.rchLink H _)

theorem Comm.rchInsert (n : Nat) : Comm E R.app I (Engine.rchInsert n) (Engine.rchInsert n) := by
  intro s; unfold Engine.rchInsert; sim
set_option hygiene false in
macro_rules | `(tactic| sim_leaf) => `(tactic| with_reducible exact NodeSim.Comm.rchInsert H _)

theorem Comm.markMapRefUnknown (hR : NoRef I) (fuel n : Nat) :
    Comm E R.app I (Engine.markMapRefUnknown fuel n) (Engine.markMapRefUnknown fuel n) := by
  intro s
  cases fuel with
  | zero => unfold Engine.markMapRefUnknown; exact CommXAt.thr _
  | succ fuel =>
    unfold Engine.markMapRefUnknown
    sim
    split
    · rename_i hk
      exact absurd (kind_of_kind? hk) (hR hI hnd _ _)
    · split
      · rename_i hk'
        exact absurd (H.kind_mapRef _ (kind_of_kind? hk')) (hR hI hnd _ _)
      · exact CommXAt.ret _

theorem RefWork.of_noRef (hR : NoRef I) : RefWork E R I where
  ref hI hnd p j := by
    rcases H.kind _ _ with e | ⟨f, i, e, -⟩ | ⟨y, f, v, -, e⟩ | ⟨f, f', args, -, e⟩
    · rw [e]; exact hR hI hnd p j
    · rw [e]; nofun
    · rw [e]; nofun
    · rw [e]; nofun
  mark := Comm.markMapRefUnknown H hR
  late _ _ _ _ _ _ _ hnd hk hI := absurd hk (hR hI hnd _ _)
set_option hygiene false in
macro_rules | `(tactic| sim_leaf) => `(tactic| with_reducible exact hW.mark _ _)

theorem Comm.getBind (b : Nat) : Comm E R.app I (Engine.getBind b) (Engine.getBind b) := by
  intro s; unfold Engine.getBind; sim
  split <;> sim
set_option hygiene false in
macro_rules | `(tactic| sim_leaf) => `(tactic| with_reducible exact NodeSim.Comm.getBind H _)

/-- `I` is kept when a bind record is written -/
def WritesBinds (I : State → Prop) : Prop := ∀ {s : State} (b : Nat) (f : BindRec → BindRec), I s →
  I { s with binds := s.binds.modify b f }

theorem Comm.modBind (hB : WritesBinds I) (b : Nat) (f : BindRec → BindRec) :
    Comm E R.app I (Engine.modBind b f) (Engine.modBind b f) := by
  intro s
  refine .of fun hI r s' hr _ => ?_
  unfold Engine.modBind at hr ⊢
  rw [run_modify] at hr ⊢
  cases hr
  exact ⟨rfl, hB b f hI⟩
set_option hygiene false in
macro_rules | `(tactic| sim_leaf) => `(tactic| with_reducible exact NodeSim.Comm.modBind H hB _ _)

theorem Comm.scopeHeight (sc : Scope) : Comm E R.app I (Engine.scopeHeight sc) (Engine.scopeHeight sc) := by
  intro s; unfold Engine.scopeHeight
  cases sc with
  | top => sim
  | bind b => sim
set_option hygiene false in
macro_rules | `(tactic| sim_leaf) => `(tactic| with_reducible exact NodeSim.Comm.scopeHeight H _)

theorem Comm.scopeIsNecessary (sc : Scope) :
    Comm E R.app I (Engine.scopeIsNecessary sc) (Engine.scopeIsNecessary sc) := by
  intro s; unfold Engine.scopeIsNecessary
  cases sc with
  | top => sim
  | bind b => sim
set_option hygiene false in
macro_rules | `(tactic| sim_leaf) => `(tactic| with_reducible exact NodeSim.Comm.scopeIsNecessary H _)

theorem Comm.scopeIsValid (sc : Scope) : Comm E R.app I (Engine.scopeIsValid sc) (Engine.scopeIsValid sc) := by
  intro s; unfold Engine.scopeIsValid
  cases sc with
  | top => sim
  | bind b => sim
set_option hygiene false in
macro_rules | `(tactic| sim_leaf) => `(tactic| with_reducible exact NodeSim.Comm.scopeIsValid H _)

theorem Comm.handleAfterStabilisation (n : Nat) :
    Comm E R.app I (Engine.handleAfterStabilisation n) (Engine.handleAfterStabilisation n) := by
  intro s; unfold Engine.handleAfterStabilisation; sim
set_option hygiene false in
macro_rules | `(tactic| sim_leaf) => `(tactic| with_reducible exact NodeSim.Comm.handleAfterStabilisation H _)

theorem Comm.maybeHandleAfterStabilisation (n : Nat) :
    Comm E R.app I (Engine.maybeHandleAfterStabilisation n) (Engine.maybeHandleAfterStabilisation n) := by
  intro s; unfold Engine.maybeHandleAfterStabilisation; sim
set_option hygiene false in
macro_rules | `(tactic| sim_leaf) => `(tactic| with_reducible exact NodeSim.Comm.maybeHandleAfterStabilisation H _)

/-- a `cut` event that stays in the log is logged on both sides -/
theorem Comm.logCut (hl : ∀ c n o v r l, R.log (.cut c n o v r :: l) = .cut c n o v r :: R.log l) (c n : Nat) (o v : Val) (r : Bool) :
    Comm E R.app I (Engine.logEv (.cut c n o v r)) (Engine.logEv (.cut c n o v r)) := by
  intro s
  unfold Engine.logEv
  refine CommXAt.mod (fun _ => H) ?_ rfl (Or.inl rfl) rfl rfl rfl
  simp only [Relabel.app, hl]

theorem Comm.rmParent (c k : Nat) :
    Comm E R.app I (Engine.modNode c fun x => { x with parents := swapRemove x.parents k })
      (Engine.modNode c fun x => { x with parents := swapRemove x.parents k }) := by
  intro s
  refine .of fun hI r s' hr _ => ?_
  rw [run_modNode] at hr ⊢
  cases hr
  exact ⟨congrArg (Prod.mk (Except.ok ())) (R.app_modify s c fun _ _ => rfl).symm, H.rmParent c k hI⟩
set_option hygiene false in
macro_rules | `(tactic| sim_leaf) => `(tactic| with_reducible exact NodeSim.Comm.rmParent H _ _)

theorem Comm.removeParent (c i p : Nat) : Comm E R.app I (Engine.removeParent c i p) (Engine.removeParent c i p) := by
  intro s; unfold Engine.removeParent; sim
  split <;> sim
set_option hygiene false in
macro_rules | `(tactic| sim_leaf) => `(tactic| with_reducible exact NodeSim.Comm.removeParent H _ _ _)

theorem Comm.rchUnlink (n : Nat) : Comm E R.app I (Engine.rchUnlink n) (Engine.rchUnlink n) := by
  intro s; unfold Engine.rchUnlink; sim
  split <;> sim
  split <;> sim
  split <;> sim
set_option hygiene false in
macro_rules | `(tactic| sim_leaf) => `(tactic| with_reducible exact NodeSim.Comm.rchUnlink H _)

theorem Comm.rchRemove (n : Nat) : Comm E R.app I (Engine.rchRemove n) (Engine.rchRemove n) := by
  intro s; unfold Engine.rchRemove; sim
set_option hygiene false in
macro_rules | `(tactic| sim_leaf) => `(tactic| with_reducible exact NodeSim.Comm.rchRemove H _)

theorem Comm.rchRemoveMin : Comm E R.app I Engine.rchRemoveMin Engine.rchRemoveMin := by
  intro s; unfold Engine.rchRemoveMin; sim
  split <;> sim
set_option hygiene false in
macro_rules | `(tactic| sim_leaf) => `(tactic| with_reducible exact NodeSim.Comm.rchRemoveMin H)

theorem Comm.rchMinHeight : Comm E R.app I Engine.rchMinHeight Engine.rchMinHeight := by
  intro s; unfold Engine.rchMinHeight; sim
  exact CommXAt.ret _
set_option hygiene false in
macro_rules | `(tactic| sim_leaf) => `(tactic| with_reducible exact NodeSim.Comm.rchMinHeight H)

theorem Comm.rchIncreaseHeight (n : Nat) : Comm E R.app I (Engine.rchIncreaseHeight n) (Engine.rchIncreaseHeight n) := by
  intro s; unfold Engine.rchIncreaseHeight; sim
set_option hygiene false in
macro_rules | `(tactic| sim_leaf) => `(tactic| with_reducible exact NodeSim.Comm.rchIncreaseHeight H _)

omit H in
/-- with no invalidation pending `propagate_invalidity` returns at once -/
theorem Comm.propagateInvalidity (hP : ∀ s, I s → s.propagateInvalidity = []) (fuel : Nat) :
    Comm E R.app I (Engine.propagateInvalidity fuel) (Engine.propagateInvalidity fuel) := by
  intro s
  cases fuel with
  | zero => unfold Engine.propagateInvalidity; exact CommXAt.thr _
  | succ fuel =>
    refine .of fun hI r s' hr _ => ?_
    unfold Engine.propagateInvalidity at hr ⊢
    rw [run_bind_get] at hr ⊢
    rw [Relabel.app_propagateInvalidity]
    rw [hP s hI] at hr ⊢
    cases hr
    exact ⟨rfl, hI⟩
set_option hygiene false in
macro_rules | `(tactic| sim_leaf) => `(tactic| with_reducible exact NodeSim.Comm.propagateInvalidity hP _)

theorem Comm.bumpCounter (f : Counters → Counters) : Comm E R.app I (Engine.bumpCounter f) (Engine.bumpCounter f) := by
  intro s; unfold Engine.bumpCounter; sim
set_option hygiene false in
macro_rules | `(tactic| sim_leaf) => `(tactic| with_reducible exact NodeSim.Comm.bumpCounter H _)

theorem Comm.parentIterCanRecomputeNow (p child : Nat) :
    Comm E R.app I (Engine.parentIterCanRecomputeNow p child) (Engine.parentIterCanRecomputeNow p child) := by
  intro s; unfold Engine.parentIterCanRecomputeNow; sim
  simp only [Relabel.node_kind?]
  rcases nd.kind? with _ | k
  · exact CommXAt.ret _
  · simp only [Option.map_some]
    have hkr := H.kind xs k
    -- the walk stops at the inner `match` on the kind: the code after it is walked once, not once for each kind
    sim
    sim_kind'
    all_goals try rw [if_neg (by simp)]
    all_goals sim
    all_goals exact CommXAt.ret _
set_option hygiene false in
macro_rules | `(tactic| sim_leaf) => `(tactic| with_reducible exact NodeSim.Comm.parentIterCanRecomputeNow H _ _)

theorem Comm.setValue (hv : ∀ i k v, R.value i k v = v) (hV : SetsValues I) (n : Nat) (w : Option Val) :
    Comm E R.app I (Engine.modNode n fun x => { x with value := w }) (Engine.modNode n fun x => { x with value := w }) := by
  intro s
  refine .of fun hI r s' hr _ => ?_
  rw [run_modNode] at hr ⊢
  cases hr
  refine ⟨congrArg (Prod.mk (Except.ok ())) (R.app_modify s n fun i nd => ?_).symm, hV n w hI⟩
  simp only [Relabel.node, hv]
set_option hygiene false in
macro_rules | `(tactic| sim_leaf) => `(tactic| with_reducible exact NodeSim.Comm.setValue H hv hV _ _)

theorem Comm.getObs (o : Nat) : Comm E R.app I (Engine.getObs o) (Engine.getObs o) := by
  intro s; unfold Engine.getObs; sim
  split <;> sim
set_option hygiene false in
macro_rules | `(tactic| sim_leaf) => `(tactic| with_reducible exact NodeSim.Comm.getObs H _)

theorem Comm.modObs (o : Nat) (f : ObsRec → ObsRec) : Comm E R.app I (Engine.modObs o f) (Engine.modObs o f) := by
  intro s; unfold Engine.modObs; sim
set_option hygiene false in
macro_rules | `(tactic| sim_leaf) => `(tactic| with_reducible exact NodeSim.Comm.modObs H _ _)

theorem Comm.getVar (v : Nat) : Comm E R.app I (Engine.getVar v) (Engine.getVar v) := by
  intro s; unfold Engine.getVar; sim
  split <;> sim
set_option hygiene false in
macro_rules | `(tactic| sim_leaf) => `(tactic| with_reducible exact NodeSim.Comm.getVar H _)

theorem Comm.modVar (v : Nat) (f : VarCell → VarCell) : Comm E R.app I (Engine.modVar v f) (Engine.modVar v f) := by
  intro s; unfold Engine.modVar; sim
set_option hygiene false in
macro_rules | `(tactic| sim_leaf) => `(tactic| with_reducible exact NodeSim.Comm.modVar H _ _)

/-- `I` is kept by a node update that may change the necessity of the node -/
def ChangesNecessity (I : State → Prop) : Prop := ∀ {s : State} (n : Nat) (f : Node → Node), I s →
  (∀ nd, (f nd).kind = nd.kind ∧ (f nd).valid = nd.valid ∧ (f nd).cutoff = nd.cutoff ∧ (f nd).oldState = nd.oldState ∧
    (f nd).didChange = nd.didChange ∧ (f nd).parents = nd.parents ∧ (f nd).value = nd.value) →
  I { s with nodes := s.nodes.modify n f }

theorem Comm.modNodeN (hO : ChangesNecessity I) (n : Nat) {f f' : Node → Node}
    (hf : ∀ xs i nd, R.node xs i (f nd) = f' (R.node xs i nd))
    (hk : ∀ nd, (f nd).kind = nd.kind ∧ (f nd).valid = nd.valid ∧ (f nd).cutoff = nd.cutoff ∧ (f nd).oldState = nd.oldState ∧
      (f nd).didChange = nd.didChange ∧ (f nd).parents = nd.parents ∧ (f nd).value = nd.value) :
    Comm E R.app I (Engine.modNode n f) (Engine.modNode n f') := by
  intro s
  refine .of fun hI r s' hr _ => ?_
  rw [run_modNode] at hr ⊢
  cases hr
  exact ⟨congrArg (Prod.mk (Except.ok ())) (R.app_modify s n (hf _)).symm, hO n f hI hk⟩
set_option hygiene false in
macro_rules | `(tactic| sim_leaf) => `(tactic|
  ((with_reducible refine NodeSim.Comm.modNodeN H hO _ ?_ ?_) <;> first | exact fun _ _ _ => rfl | exact fun _ => ⟨rfl, rfl, rfl, rfl, rfl, rfl, rfl⟩))

theorem Comm.disallowFutureUse (o : Nat) : Comm E R.app I (Engine.disallowFutureUse o) (Engine.disallowFutureUse o) := by
  intro s; unfold Engine.disallowFutureUse; sim
  split <;> sim
set_option hygiene false in
macro_rules | `(tactic| sim_leaf) => `(tactic| with_reducible exact NodeSim.Comm.disallowFutureUse H _)

theorem Comm.didSetVarWhileNotStabilising (v : Nat) :
    Comm E R.app I (Engine.didSetVarWhileNotStabilising v) (Engine.didSetVarWhileNotStabilising v) := by
  intro s; unfold Engine.didSetVarWhileNotStabilising; sim
set_option hygiene false in
macro_rules | `(tactic| sim_leaf) => `(tactic| with_reducible exact NodeSim.Comm.didSetVarWhileNotStabilising H _)

theorem Comm.writeVar (v : Nat) (f : Val → Val) (isSet : Bool) :
    Comm E R.app I (Engine.writeVar v f isSet) (Engine.writeVar v f isSet) := by
  intro s; unfold Engine.writeVar; sim
  split <;> sim
  split <;> sim
set_option hygiene false in
macro_rules | `(tactic| sim_leaf) => `(tactic| with_reducible exact NodeSim.Comm.writeVar H _ _ _)

theorem Comm.dropVarHandle (v : Nat) : Comm E R.app I (Engine.dropVarHandle v) (Engine.dropVarHandle v) := by
  intro s; unfold Engine.dropVarHandle; sim
set_option hygiene false in
macro_rules | `(tactic| sim_leaf) => `(tactic| with_reducible exact NodeSim.Comm.dropVarHandle H _)

theorem Comm.resolveOpnd (loc : List Nat) (o : Opnd) :
    Comm E R.app I (Engine.resolveOpnd loc o) (Engine.resolveOpnd loc o) := by
  intro s; unfold Engine.resolveOpnd
  cases o <;> dsimp only <;> sim <;> split <;> sim
set_option hygiene false in
macro_rules | `(tactic| sim_leaf) => `(tactic| with_reducible exact NodeSim.Comm.resolveOpnd H _ _)

/-! ### the adjust-heights heap -/

theorem Comm.isConstant (n : Nat) : Comm E R.app I (Engine.isConstant n) (Engine.isConstant n) := by
  intro s; unfold Engine.isConstant; sim
  sim_kind
set_option hygiene false in
macro_rules | `(tactic| sim_leaf) => `(tactic| with_reducible exact NodeSim.Comm.isConstant H _)

theorem Comm.ahhAddUnlessMem (n : Nat) : Comm E R.app I (Engine.ahhAddUnlessMem n) (Engine.ahhAddUnlessMem n) := by
  intro s; unfold Engine.ahhAddUnlessMem; sim
set_option hygiene false in
macro_rules | `(tactic| sim_leaf) => `(tactic| with_reducible exact NodeSim.Comm.ahhAddUnlessMem H _)

theorem Comm.ahhRemoveMin : Comm E R.app I Engine.ahhRemoveMin Engine.ahhRemoveMin := by
  intro s; unfold Engine.ahhRemoveMin; sim
  split <;> sim
set_option hygiene false in
macro_rules | `(tactic| sim_leaf) => `(tactic| with_reducible exact NodeSim.Comm.ahhRemoveMin H)

theorem Comm.ensureHeightRequirement (oc op child parent : Nat) :
    Comm E R.app I (Engine.ensureHeightRequirement oc op child parent)
      (Engine.ensureHeightRequirement oc op child parent) := by
  intro s; unfold Engine.ensureHeightRequirement; sim
set_option hygiene false in
macro_rules | `(tactic| sim_leaf) => `(tactic| with_reducible exact NodeSim.Comm.ensureHeightRequirement H _ _ _ _)

theorem Comm.adjustHeightsLoop (oc op fuel : Nat) :
    Comm E R.app I (Engine.adjustHeightsLoop oc op fuel) (Engine.adjustHeightsLoop oc op fuel) := by
  induction fuel with
  | zero => intro s; unfold Engine.adjustHeightsLoop; sim
  | succ fuel ih =>
    intro s
    unfold Engine.adjustHeightsLoop
    refine CommXAt.seq (Comm.ahhRemoveMin H s) fun r s1 _ _ => ?_
    cases r with
    | none => exact CommXAt.ret _
    | some c =>
      dsimp only
      sim
      -- the `match` for a bind node: both sides take the same branch (`Blind.kind?_lhsChange`)
      all_goals
        split
        · rename_i hk
          simp only [(H.kind?_lhsChange _ _ _ _).2 hk]
          sim
          exact ih _
        · split
          · rename_i hn _ _ hk
            exact absurd ((H.kind?_lhsChange _ _ _ _).1 hk) (hn _)
          · exact ih _
set_option hygiene false in
macro_rules | `(tactic| sim_leaf) => `(tactic| with_reducible exact NodeSim.Comm.adjustHeightsLoop H _ _ _)

theorem Comm.adjustHeights (oc op fuel : Nat) :
    Comm E R.app I (Engine.adjustHeights oc op fuel) (Engine.adjustHeights oc op fuel) := by
  intro s; unfold Engine.adjustHeights; sim
  simp only [app_nodeD H, Relabel.node_height]
  rfl
set_option hygiene false in
macro_rules | `(tactic| sim_leaf) => `(tactic| with_reducible exact NodeSim.Comm.adjustHeights H _ _ _)


/-! ### relabellings that keep the expert records and the log -/

/-- `R` does not look at the expert records, and keeps them and the log -/
structure Plain (R : Relabel) : Prop where
  node : ∀ xs xs', R.node xs = R.node xs'
  experts : ∀ xs, R.experts xs = xs
  log : ∀ l, R.log l = l

omit H in
theorem Plain.app (hP : Plain R) (xs : Ctx) (s : State) :
    R.app s = { s with nodes := s.nodes.mapIdx (R.node xs) } := by
  unfold Relabel.app
  rw [hP.node (ctx s) xs, hP.experts, hP.log]

theorem Comm.getExpert (hP : Plain R) (b : Nat) : Comm E R.app I (Engine.getExpert b) (Engine.getExpert b) := by
  intro s; unfold Engine.getExpert; sim
  simp only [Relabel.app_experts, hP.experts]
  split <;> sim
set_option hygiene false in
macro_rules | `(tactic| sim_leaf) => `(tactic| with_reducible exact NodeSim.Comm.getExpert H hP _)

theorem Comm.logEv (hP : Plain R) (e : Event) : Comm E R.app I (Engine.logEv e) (Engine.logEv e) := by
  intro s
  unfold Engine.logEv
  refine CommXAt.mod (fun _ => H) ?_ rfl (Or.inl rfl) rfl rfl rfl
  rw [hP.app (#[], #[]), hP.app (#[], #[])]
set_option hygiene false in
macro_rules | `(tactic| sim_leaf) => `(tactic| with_reducible exact NodeSim.Comm.logEv H hP _)

/-- `I` is kept when an expert record is written -/
def WritesExperts (I : State → Prop) : Prop := ∀ {s : State} (e : Nat) (f : ExpertRec → ExpertRec), I s →
  I { s with experts := s.experts.modify e f }

theorem Comm.modExpert (hP : Plain R) (hXw : WritesExperts I) (e : Nat) (f : ExpertRec → ExpertRec) :
    Comm E R.app I (Engine.modExpert e f) (Engine.modExpert e f) := by
  intro s
  refine .of fun hI r s' hr _ => ?_
  unfold Engine.modExpert at hr ⊢
  rw [run_modify] at hr ⊢
  cases hr
  refine ⟨?_, hXw e f hI⟩
  rw [hP.app (#[], #[]), hP.app (#[], #[])]
set_option hygiene false in
macro_rules | `(tactic| sim_leaf) => `(tactic| with_reducible exact NodeSim.Comm.modExpert H hP hXw _ _)

theorem Comm.observabilityChange (hP : Plain R) (hXw : WritesExperts I) (e : Nat) (b : Bool) :
    Comm E R.app I (Engine.observabilityChange e b) (Engine.observabilityChange e b) := by
  intro s; unfold Engine.observabilityChange; sim

/-- the calculus of the API actions (`Hist.ActCalc`) -/
theorem actCalc : Hist.ActCalc R.app (fun s => CommAt E R.app I s) where
  ret _ a := CommXAt.ret a
  seq hx hf := CommXAt.seq hx fun a s1 _ h => hf a s1 h
  get := CommXAt.get_seq
  created _ _ := CommXAt.mod (fun _ => H) rfl rfl (Or.inl rfl) rfl rfl rfl
  observed _ _ _ := CommXAt.mod (fun _ => H) rfl rfl (Or.inl rfl) rfl rfl rfl
  observers _ := rfl
  isStable _ := rfl
  resolveOpnd s loc o := Comm.resolveOpnd H loc o s
  bumpCounter s f := Comm.bumpCounter H f s
  getObs s o := Comm.getObs H o s
  modObs s o f := Comm.modObs H o f s
  disallowFutureUse s o := Comm.disallowFutureUse H o s
  writeVar s v f b := Comm.writeVar H v f b s
  getVar s v := Comm.getVar H v s

end walk

/-! ## the walk, where the index may change

The functions that do the work of expert nodes (in `ExpWork`: where it is done on both sides the two runs may write different log entries) and
`should_cutoff` (it logs the calls of closure cutoffs) are walked for a family `R i`: `H`, `hA`, … hold at every index. -/
section walkX
variable {E : Panic → Prop} {ι : Type} {R : ι → Relabel} {I : ι → State → Prop}

theorem ObsWork.of_noExp (hN : ∀ {i : ι}, NoExp (I i)) : ObsWork E R I where
  obs _ _ _ _ _ _ hnd hk := ⟨fun _ hI => absurd hk (hN hI hnd _), fun _ hI => absurd hk (hN hI hnd _)⟩

theorem ExpWork.of_noExp (hN : ∀ {i : ι}, NoExp (I i)) (env env' : Env) : ExpWork E R I env env' where
  toObsWork := .of_noExp hN
  edge _ _ _ _ _ _ hnd hk := ⟨fun _ hI => absurd hk (hN hI hnd _), fun _ hI => absurd hk (hN hI hnd _)⟩

/-- no expert node is the image of an expert node: the work is not seen -/
theorem ObsWork.hidden (himg : ∀ i xs e, (R i).kind xs (.expert e) ≠ .expert e)
    (obs : ∀ (e : Nat) (b : Bool) {i : ι} {s : State} {n : Nat} {nd : Node}, s.nodes[n]? = some nd → nd.kind = .expert e →
      CommXAt E (fun i => (R i).app) I i s (Engine.observabilityChange e b) (pure ())) : ObsWork E R I where
  obs e b _ _ _ _ hnd hk := ⟨fun h => absurd h (himg _ _ _), fun _ => obs e b hnd hk⟩

theorem ExpWork.hidden {env env' : Env} (himg : ∀ i xs e, (R i).kind xs (.expert e) ≠ .expert e) (hO : ObsWork E R I)
    (edge : ∀ (e j : Nat) {i : ι} {s : State} {n : Nat} {nd : Node}, s.nodes[n]? = some nd → nd.kind = .expert e →
      CommXAt E (fun i => (R i).app) I i s (Engine.runEdgeCallback env e j) (pure ())) : ExpWork E R I env env' where
  toObsWork := hO
  edge e j _ _ _ _ hnd hk := ⟨fun h => absurd h (himg _ _ _), fun _ => edge e j hnd hk⟩

/-- every expert node is its own image: the work is done on both sides -/
theorem ObsWork.kept (hk : ∀ i xs e, (R i).kind xs (.expert e) = .expert e)
    (obs : ∀ e b, CommX E (fun i => (R i).app) I (Engine.observabilityChange e b) (Engine.observabilityChange e b)) :
    ObsWork E R I where
  obs e b _ _ _ _ _ _ := ⟨fun _ => obs e b _ _, fun h => absurd (hk _ _ _) h⟩

theorem ExpWork.kept {env env' : Env} (hk : ∀ i xs e, (R i).kind xs (.expert e) = .expert e) (hO : ObsWork E R I)
    (edge : ∀ e j, CommX E (fun i => (R i).app) I (Engine.runEdgeCallback env e j) (Engine.runEdgeCallback env' e j)) :
    ExpWork E R I env env' where
  toObsWork := hO
  edge e j _ _ _ _ _ _ := ⟨fun _ => edge e j _ _, fun h => absurd (hk _ _ _) h⟩

variable (H : ∀ {i : ι}, Blind (R i) (I i))
include H

/-- the last step of `became_necessary` and of `add_parent_without_adjusting_heights`, for an expert node -/
theorem CommXAt.onExpert {a a' : Nat → M Unit} {i : ι} {s : State} {n : Nat} {nd : Node} {xs : Ctx} (hxs : xs = ctx s)
    (ha : ∀ e, nd.kind = .expert e →
      ((R i).kind (ctx s) (.expert e) = .expert e → CommXAt E (fun i => (R i).app) I i s (a e) (a' e)) ∧
      ((R i).kind (ctx s) (.expert e) ≠ .expert e → CommXAt E (fun i => (R i).app) I i s (a e) (pure ()))) :
    CommXAt E (fun i => (R i).app) I i s
      (match nd.kind? with
        | some (.expert e) => a e
        | _ => pure ())
      (match ((R i).node xs n nd).kind? with
        | some (.expert e) => a' e
        | _ => pure ()) := by
  subst hxs
  split
  · rename_i e hk
    split
    · rename_i e' hk'
      cases (H.kind?_expert _ _ _ hk').symm.trans hk
      rw [Relabel.node_kind?, hk, Option.map_some] at hk'
      exact (ha e (kind_of_kind? hk)).1 (Option.some.inj hk')
    · rename_i hne
      refine (ha e (kind_of_kind? hk)).2 fun h => hne e ?_
      rw [Relabel.node_kind?, hk, Option.map_some, h]
  · rename_i hne
    split
    · rename_i e' hk'
      exact absurd (H.kind?_expert _ _ _ hk') (hne e')
    · exact CommXAt.ret _

/-- the environment is read only by the edge callbacks of expert parents (`ExpWork.edge`) -/
theorem CommX.link (hA : ∀ {i : ι}, AddsParents (I i)) (hW : ∀ {i : ι}, RefWork E (R i) (I i)) {env env' : Env}
    (hX : ExpWork E R I env env') (fuel : Nat) :
    (∀ n, CommX E (fun i => (R i).app) I (becameNecessary env fuel n) (becameNecessary env' fuel n)) ∧
    (∀ c j p, CommX E (fun i => (R i).app) I (addParentWithoutAdjustingHeights env fuel c j p)
      (addParentWithoutAdjustingHeights env' fuel c j p)) := by
  induction fuel with
  | zero =>
    constructor
    · intro n i s; unfold becameNecessary; sim
    · intro c j p i s; unfold addParentWithoutAdjustingHeights; sim
  | succ fuel ih =>
    constructor
    · intro n i s
      unfold becameNecessary
      sim
      all_goals first
        | exact ih.2 _ _ _ _ _
        | exact CommXAt.onExpert H hxs fun e he => hX.obs e true hnd he
    · intro c j p i s
      unfold addParentWithoutAdjustingHeights
      sim
      all_goals first
        | exact ih.1 _ _ _
        | (rename_i hv; exact Or.inr ⟨_, _, hnd, by simpa using hv⟩)
        | exact CommXAt.onExpert H hxs fun e he => hX.edge e j hnd he
        | skip
      -- the child is necessary already: if it is a `map_ref` node its parent is marked (repaired D15), which is not seen
      all_goals
        subst hxs
        split
        · rename_i hk
          have hk1 := kind_of_kind? hk
          rcases H.kind _ (.mapRef _ _) with e | ⟨f, i, e, -⟩ | ⟨y, f, v, h, -⟩ | ⟨f, f', args, h, -⟩
          · exact absurd (by rw [hk1]; exact e) (hW.ref hI hnd _ _)
          · simp only [Relabel.node_kind?, hk, Option.map_some, e]
            refine CommXAt.ite_left (fun _ => CommXAt.left_seq (hW.late _ _ hnd hk1).toX fun _ _ _ => ?_) (fun _ => ?_)
            all_goals
              sim
              exact CommXAt.onExpert H hxs fun e he => hX.edge e _ hnd he
          · cases h
          · cases h
        · split
          · rename_i hk'
            exact absurd (kind_of_kind? hk') (hW.ref hI hnd _ _)
          · sim
            exact CommXAt.onExpert H hxs fun e he => hX.edge e _ hnd he

theorem CommX.becameNecessary (hA : ∀ {i : ι}, AddsParents (I i)) (hW : ∀ {i : ι}, RefWork E (R i) (I i)) {env env' : Env}
    (hX : ExpWork E R I env env') (fuel n : Nat) :
    CommX E (fun i => (R i).app) I (Engine.becameNecessary env fuel n) (Engine.becameNecessary env' fuel n) :=
  (CommX.link H hA hW hX fuel).1 n
theorem CommX.addParentWithoutAdjustingHeights (hA : ∀ {i : ι}, AddsParents (I i)) (hW : ∀ {i : ι}, RefWork E (R i) (I i))
    {env env' : Env} (hX : ExpWork E R I env env') (fuel c j p : Nat) :
    CommX E (fun i => (R i).app) I (Engine.addParentWithoutAdjustingHeights env fuel c j p)
      (Engine.addParentWithoutAdjustingHeights env' fuel c j p) := (CommX.link H hA hW hX fuel).2 c j p
set_option hygiene false in
macro_rules | `(tactic| simx_leaf) => `(tactic| with_reducible exact NodeSim.CommX.becameNecessary H hA hW hX _ _)
set_option hygiene false in
macro_rules | `(tactic| simx_leaf) => `(tactic| with_reducible exact NodeSim.CommX.addParentWithoutAdjustingHeights H hA hW hX _ _ _ _)

theorem CommX.unlink (hX : ObsWork E R I) (fuel : Nat) :
    (∀ n, CommX E (fun i => (R i).app) I (becameUnnecessary fuel n) (becameUnnecessary fuel n)) ∧
    (∀ n, CommX E (fun i => (R i).app) I (checkIfUnnecessary fuel n) (checkIfUnnecessary fuel n)) ∧
    (∀ n, CommX E (fun i => (R i).app) I (removeChildren fuel n) (removeChildren fuel n)) := by
  induction fuel with
  | zero =>
    refine ⟨?_, ?_, ?_⟩
    · intro n i s; unfold becameUnnecessary; sim
    · intro n i s; unfold checkIfUnnecessary; sim
    · intro n i s; unfold removeChildren; sim
  | succ fuel ih =>
    refine ⟨?_, ?_, ?_⟩
    · intro n i s
      unfold becameUnnecessary
      sim
      all_goals first
        | exact ih.2.2 _ _ _
        | skip
      -- the observability change of an expert node
      subst hxs
      split
      · rename_i e hk
        split
        · rename_i e' hk'
          cases (H.kind?_expert _ _ _ hk').symm.trans hk
          rw [Relabel.node_kind?, hk, Option.map_some] at hk'
          refine CommXAt.seq ((hX.obs e false hnd (kind_of_kind? hk)).1 (Option.some.inj hk')) fun _ _ _ _ => ?_
          sim
        · rename_i hne
          refine CommXAt.left_seq ((hX.obs e false hnd (kind_of_kind? hk)).2 fun h => hne e ?_) fun _ _ _ => ?_
          · rw [Relabel.node_kind?, hk, Option.map_some, h]
          · sim
      · rename_i hne
        split
        · rename_i e' hk'
          exact absurd (H.kind?_expert _ _ _ hk') (hne e')
        · sim
    · intro n i s
      unfold checkIfUnnecessary
      sim
      all_goals exact ih.1 _ _ _
    · intro n i s
      unfold removeChildren
      sim
      all_goals exact ih.2.1 _ _ _

theorem CommX.becameUnnecessary (hX : ObsWork E R I) (fuel n : Nat) :
    CommX E (fun i => (R i).app) I (Engine.becameUnnecessary fuel n) (Engine.becameUnnecessary fuel n) :=
  (CommX.unlink H hX fuel).1 n
theorem CommX.checkIfUnnecessary (hX : ObsWork E R I) (fuel n : Nat) :
    CommX E (fun i => (R i).app) I (Engine.checkIfUnnecessary fuel n) (Engine.checkIfUnnecessary fuel n) :=
  (CommX.unlink H hX fuel).2.1 n
theorem CommX.removeChildren (hX : ObsWork E R I) (fuel n : Nat) :
    CommX E (fun i => (R i).app) I (Engine.removeChildren fuel n) (Engine.removeChildren fuel n) :=
  (CommX.unlink H hX fuel).2.2 n
set_option hygiene false in
macro_rules | `(tactic| simx_leaf) => `(tactic| with_reducible exact NodeSim.CommX.becameUnnecessary H hX.toObsWork _ _)
set_option hygiene false in
macro_rules | `(tactic| simx_leaf) => `(tactic| with_reducible exact NodeSim.CommX.checkIfUnnecessary H hX.toObsWork _ _)
set_option hygiene false in
macro_rules | `(tactic| simx_leaf) => `(tactic| with_reducible exact NodeSim.CommX.removeChildren H hX.toObsWork _ _)
-- where no environment is at hand
set_option hygiene false in
macro_rules | `(tactic| simx_leaf) => `(tactic| with_reducible exact NodeSim.CommX.becameUnnecessary H hXo _ _)
set_option hygiene false in
macro_rules | `(tactic| simx_leaf) => `(tactic| with_reducible exact NodeSim.CommX.checkIfUnnecessary H hXo _ _)
set_option hygiene false in
macro_rules | `(tactic| simx_leaf) => `(tactic| with_reducible exact NodeSim.CommX.removeChildren H hXo _ _)

theorem CommX.becameNecessaryPropagate (hA : ∀ {i : ι}, AddsParents (I i)) (hW : ∀ {i : ι}, RefWork E (R i) (I i))
    {env env' : Env} (hX : ExpWork E R I env env') (hP : ∀ {i : ι} s, I i s → s.propagateInvalidity = []) (fuel n : Nat) :
    CommX E (fun i => (R i).app) I (Engine.becameNecessaryPropagate env fuel n) (Engine.becameNecessaryPropagate env' fuel n) := by
  intro i s; unfold Engine.becameNecessaryPropagate; sim
set_option hygiene false in
macro_rules | `(tactic| simx_leaf) => `(tactic| with_reducible exact NodeSim.CommX.becameNecessaryPropagate H hA hW hX hP _ _)

/-- for relabellings that keep the cutoffs; the two environments have the same cutoff functions; `hL`: the call of a closure cutoff is logged
on both sides -/
theorem CommX.shouldCutoff (hc : ∀ i k c, (R i).cutoff k c = c)
    (hL : ∀ c n o v r, CommX E (fun i => (R i).app) I (Engine.logEv (.cut c n o v r)) (Engine.logEv (.cut c n o v r)))
    {env env' : Env} (he : env'.cutoff = env.cutoff) (n : Nat) (o v : Val) :
    CommX E (fun i => (R i).app) I (Engine.shouldCutoff env n o v) (Engine.shouldCutoff env' n o v) := by
  intro i s; unfold Engine.shouldCutoff; simp only [he]; sim
  simp only [Relabel.node_cutoff, hc]
  split <;> sim
  all_goals exact hL _ _ _ _ _ _ _
set_option hygiene false in
macro_rules | `(tactic| simx_leaf) => `(tactic| with_reducible exact NodeSim.CommX.shouldCutoff H hc hL he _ _ _)

/-- the parent is not a `map_ref` node -/
theorem CommX.childChanged (hR : ∀ {i : ι}, NoRef (I i)) {env env' : Env} (hX : ExpWork E R I env env') (fuel p c ci : Nat)
    (o o' : Option Val) :
    CommX E (fun i => (R i).app) I (Engine.childChanged env fuel p c ci o) (Engine.childChanged env' fuel p c ci o') := by
  intro i s
  cases fuel with
  | zero => unfold Engine.childChanged; exact CommXAt.thr _
  | succ fuel =>
    unfold Engine.childChanged
    sim
    sim_kind_at (H (i := i))
    all_goals
      subst hxs
      first
      | exact absurd (kind_of_kind? hk) (hR hI hnd _ _)
      | exact (hX.edge _ ci hnd (kind_of_kind? hk)).1 e
      | exact (hX.edge _ ci hnd (kind_of_kind? hk)).2 (by rw [e]; nofun)
set_option hygiene false in
macro_rules | `(tactic| simx_leaf) => `(tactic| with_reducible exact NodeSim.CommX.childChanged H hR hX _ _ _ _ _ _)

theorem CommX.maybeChangeValueManual (hR : ∀ {i : ι}, NoRef (I i)) {env env' : Env} (hX : ExpWork E R I env env') (fuel n : Nat)
    (o : Option Val) (did b : Bool) :
    CommX E (fun i => (R i).app) I (Engine.maybeChangeValueManual env fuel n o did b)
      (Engine.maybeChangeValueManual env' fuel n o did b) := by
  intro i s
  unfold Engine.maybeChangeValueManual
  refine CommXAt.cond Iff.rfl (fun _ => CommXAt.ret _) (fun _ => ?_)
  sim
  split
  · sim
  · sim
set_option hygiene false in
macro_rules | `(tactic| simx_leaf) => `(tactic| with_reducible exact NodeSim.CommX.maybeChangeValueManual H hR hX _ _ _ _ _)

/-- for relabellings that keep values and cutoffs -/
theorem CommX.maybeChangeValue (hR : ∀ {i : ι}, NoRef (I i)) {env env' : Env} (hX : ExpWork E R I env env')
    (hv : ∀ {i : ι} j k v, (R i).value j k v = v) (hV : ∀ {i : ι}, SetsValues (I i)) (hc : ∀ i k c, (R i).cutoff k c = c)
    (hL : ∀ c n o v r, CommX E (fun i => (R i).app) I (Engine.logEv (.cut c n o v r)) (Engine.logEv (.cut c n o v r)))
    (he : env'.cutoff = env.cutoff) (fuel n : Nat) (v : Val) :
    CommX E (fun i => (R i).app) I (Engine.maybeChangeValue env fuel n v) (Engine.maybeChangeValue env' fuel n v) := by
  intro i s
  unfold Engine.maybeChangeValue
  sim
  simp only [Relabel.node_value, hv]
  split <;> sim

theorem CommX.addNewObservers (hO : ∀ {i : ι}, ChangesNecessity (I i)) (hA : ∀ {i : ι}, AddsParents (I i))
    (hW : ∀ {i : ι}, RefWork E (R i) (I i)) {env env' : Env} (hX : ExpWork E R I env env')
    (hP : ∀ {i : ι} s, I i s → s.propagateInvalidity = []) (fuel : Nat) :
    CommX E (fun i => (R i).app) I (Engine.addNewObservers env fuel) (Engine.addNewObservers env' fuel) := by
  intro i s; unfold Engine.addNewObservers; sim
  split <;> sim

theorem CommX.unlinkDisallowedObservers (hO : ∀ {i : ι}, ChangesNecessity (I i)) (hX : ObsWork E R I) (fuel : Nat) :
    CommX E (fun i => (R i).app) I (Engine.unlinkDisallowedObservers fuel) (Engine.unlinkDisallowedObservers fuel) := by
  intro i s; unfold Engine.unlinkDisallowedObservers; sim
  all_goals exact CommX.checkIfUnnecessary H hX _ _ _ _

end walkX

/-! ### the same for one relabelling -/
section walk1
variable {E : Panic → Prop} {R : Relabel} {I : State → Prop} (H : Blind R I) {env env' : Env}
include H

theorem Comm.becameNecessary (hA : AddsParents I) (hW : RefWork E R I) (hX : ExpWork E (fun _ : Unit => R) (fun _ => I) env env')
    (fuel n : Nat) : Comm E R.app I (Engine.becameNecessary env fuel n) (Engine.becameNecessary env' fuel n) :=
  (CommX.becameNecessary H hA hW hX fuel n).comm

theorem Comm.addParentWithoutAdjustingHeights (hA : AddsParents I) (hW : RefWork E R I)
    (hX : ExpWork E (fun _ : Unit => R) (fun _ => I) env env') (fuel c j p : Nat) :
    Comm E R.app I (Engine.addParentWithoutAdjustingHeights env fuel c j p)
      (Engine.addParentWithoutAdjustingHeights env' fuel c j p) :=
  (CommX.addParentWithoutAdjustingHeights H hA hW hX fuel c j p).comm

omit env env' in
theorem Comm.becameUnnecessary (hX : ObsWork E (fun _ : Unit => R) fun _ => I) (fuel n : Nat) :
    Comm E R.app I (Engine.becameUnnecessary fuel n) (Engine.becameUnnecessary fuel n) :=
  (CommX.becameUnnecessary H hX fuel n).comm

omit env env' in
theorem Comm.checkIfUnnecessary (hX : ObsWork E (fun _ : Unit => R) fun _ => I) (fuel n : Nat) :
    Comm E R.app I (Engine.checkIfUnnecessary fuel n) (Engine.checkIfUnnecessary fuel n) :=
  (CommX.checkIfUnnecessary H hX fuel n).comm

omit env env' in
theorem Comm.removeChildren (hX : ObsWork E (fun _ : Unit => R) fun _ => I) (fuel n : Nat) :
    Comm E R.app I (Engine.removeChildren fuel n) (Engine.removeChildren fuel n) :=
  (CommX.removeChildren H hX fuel n).comm

/-- `hl`: a `cut` event stays in the log -/
theorem Comm.shouldCutoff (hc : ∀ k c, R.cutoff k c = c)
    (hl : ∀ c n o v r l, R.log (.cut c n o v r :: l) = .cut c n o v r :: R.log l) (he : env'.cutoff = env.cutoff)
    (n : Nat) (o v : Val) : Comm E R.app I (Engine.shouldCutoff env n o v) (Engine.shouldCutoff env' n o v) :=
  (CommX.shouldCutoff H (fun _ => hc) (fun c n o v r _ => Comm.logCut H hl c n o v r) he n o v).comm

theorem Comm.maybeChangeValueManual (hR : NoRef I) (hX : ExpWork E (fun _ : Unit => R) (fun _ => I) env env') (fuel n : Nat)
    (o : Option Val) (did b : Bool) :
    Comm E R.app I (Engine.maybeChangeValueManual env fuel n o did b) (Engine.maybeChangeValueManual env' fuel n o did b) :=
  (CommX.maybeChangeValueManual H hR hX fuel n o did b).comm

theorem Comm.maybeChangeValue (hR : NoRef I) (hX : ExpWork E (fun _ : Unit => R) (fun _ => I) env env')
    (hv : ∀ i k v, R.value i k v = v) (hV : SetsValues I) (hc : ∀ k c, R.cutoff k c = c)
    (hl : ∀ c n o v r l, R.log (.cut c n o v r :: l) = .cut c n o v r :: R.log l) (he : env'.cutoff = env.cutoff)
    (fuel n : Nat) (v : Val) : Comm E R.app I (Engine.maybeChangeValue env fuel n v) (Engine.maybeChangeValue env' fuel n v) :=
  (CommX.maybeChangeValue H hR hX hv hV (fun _ => hc) (fun c n o v r _ => Comm.logCut H hl c n o v r) he fuel n v).comm

theorem Comm.addNewObservers (hO : ChangesNecessity I) (hA : AddsParents I) (hW : RefWork E R I)
    (hX : ExpWork E (fun _ : Unit => R) (fun _ => I) env env') (hP : ∀ s, I s → s.propagateInvalidity = []) (fuel : Nat) :
    Comm E R.app I (Engine.addNewObservers env fuel) (Engine.addNewObservers env' fuel) :=
  (CommX.addNewObservers H hO hA hW hX hP fuel).comm

omit env env' in
theorem Comm.unlinkDisallowedObservers (hO : ChangesNecessity I) (hX : ObsWork E (fun _ : Unit => R) fun _ => I) (fuel : Nat) : Comm E R.app I (Engine.unlinkDisallowedObservers fuel) (Engine.unlinkDisallowedObservers fuel) :=
  (CommX.unlinkDisallowedObservers H hO hX fuel).comm

end walk1

/-- the calculus of the API actions for an equivalent relation over an equal state map -/
theorem _root_.IncrVerif.Proofs.Hist.ActCalc.congr {V V' : State → State}
    {R R' : State → {α : Type} → M α → M α → Prop} (C : Hist.ActCalc V R) (hV : ∀ s, V' s = V s)
    (hR : ∀ (s : State) {α : Type} (x x' : M α), R' s x x' ↔ R s x x') : Hist.ActCalc V' R' where
  ret s a := (hR s _ _).2 (C.ret s a)
  seq h hf := (hR _ _ _).2 (C.seq ((hR _ _ _).1 h) fun a s1 e => (hR _ _ _).1 (hf a s1 e))
  get h := (hR _ _ _).2 (C.get (by rw [← hV]; exact (hR _ _ _).1 h))
  created s n := (hR s _ _).2 (C.created s n)
  observed s n l := (hR s _ _).2 (C.observed s n l)
  observers s := by rw [hV]; exact C.observers s
  isStable s := by rw [hV]; exact C.isStable s
  resolveOpnd s loc o := (hR s _ _).2 (C.resolveOpnd s loc o)
  bumpCounter s f := (hR s _ _).2 (C.bumpCounter s f)
  getObs s o := (hR s _ _).2 (C.getObs s o)
  modObs s o f := (hR s _ _).2 (C.modObs s o f)
  disallowFutureUse s o := (hR s _ _).2 (C.disallowFutureUse s o)
  writeVar s v f b := (hR s _ _).2 (C.writeVar s v f b)
  getVar s v := (hR s _ _).2 (C.getVar s v)

end IncrVerif.Proofs.NodeSim
