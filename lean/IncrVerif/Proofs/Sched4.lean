import IncrVerif.Proofs.Sched1
import IncrVerif.Proofs.Sched2
/-!
# One `recomputeOne` in the static fragment, as a relation between pre- and post-state

The notification walk (`mcvm_heap`) and the whole step (`recomputeOne_static`) are taken apart once, for ANY cutoff and with what is logged
(`CutH.KInv`, `CutH.StepRel`); the statements for exact cutoffs are read off.  `mcv_static` and `stepRel_of_quiet` are stated without the log,
which their other users (MapRef, MapOld, Expert nodes) do not know.
-/
namespace IncrVerif.Proofs.Sched
open IncrVerif.Engine IncrVerif.Proofs IncrVerif.Proofs.Step

/-! ## small tools -/

/-- loop rule for successful runs, with membership: a state predicate kept by every successful
iteration is kept by a successful loop -/
theorem forIn_ok_keep {α} (K : State → Prop) (f : α → PUnit → M (ForInStep PUnit)) (l : List α)
    (hkeep : ∀ b, b ∈ l → ∀ s r s', K s → (f b ⟨⟩).run.run s = (.ok r, s') → K s') :
    ∀ s r s', K s → (forIn l PUnit.unit f).run.run s = (.ok r, s') → K s' :=
  forIn_ok_keepB K f l (fun a ha _ => hkeep a ha) PUnit.unit

/-- `child_changed` on a valid parent of a static kind does nothing -/
theorem childChanged_static {env : Env} {fuel p c ci : Nat} {o : Option Val} {t t' : State} {u : Unit}
    {pn : Node} (hp : t.nodes[p]? = some pn) (hv : pn.valid = true) (hk : StaticKind env pn.kind)
    (h : (childChanged env fuel p c ci o).run.run t = (.ok u, t')) : t' = t := by
  cases fuel with
  | zero => unfold childChanged at h; cases h
  | succ fuel =>
    unfold childChanged at h
    rw [run_bind_ok (run_getNode_some hp)] at h
    have hk? : pn.kind? = some pn.kind := by simp [Node.kind?, hv]
    rw [hk?] at h
    cases hkd : pn.kind <;> rw [hkd] at h hk
    case const => exact (pure_ok_inv h).2
    case var => exact (pure_ok_inv h).2
    case map => exact (pure_ok_inv h).2
    case fold => exact (pure_ok_inv h).2
    all_goals exact hk.elim

/-- `markMapRefUnknown` on a valid node of a static kind does nothing -/
theorem markMapRefUnknown_static {env : Env} {fuel n : Nat} {s s' : State} {u : Unit}
    (hn : n < s.nodes.size) (hv : (s.nodeD n).valid = true) (hk : StaticKind env (s.nodeD n).kind)
    (h : (markMapRefUnknown fuel n).run.run s = (.ok u, s')) : s' = s := by
  cases fuel with
  | zero => unfold markMapRefUnknown at h; cases h
  | succ fuel =>
    unfold markMapRefUnknown at h
    obtain ⟨nd, hnd, h⟩ := bind_getNode_inv h
    have e : s.nodeD n = nd := nodeD_of_some hnd
    have hq : nd.kind? = some (s.nodeD n).kind := by rw [← e, Node.kind?, hv]; rfl
    rw [hq] at h
    cases hkd : (s.nodeD n).kind <;> rw [hkd] at h hk <;>
      first | exact (pure_ok_inv h).2 | exact hk.elim

/-- `markMapRefUnknown` does nothing on a static node (forward form) -/
theorem markMapRefUnknown_static_run {env : Env} {fuel n : Nat} {s : State} (hf : 0 < fuel)
    (hn : n < s.nodes.size) (hv : (s.nodeD n).valid = true) (hk : StaticKind env (s.nodeD n).kind) :
    (markMapRefUnknown fuel n).run.run s = (.ok (), s) := by
  cases fuel with
  | zero => omega
  | succ fuel =>
    unfold markMapRefUnknown
    rw [run_bind_ok (run_getNode_some (some_of_lt hn))]
    have hq : (s.nodeD n).kind? = some (s.nodeD n).kind := by rw [Node.kind?, hv]; rfl
    rw [hq]
    cases hkd : (s.nodeD n).kind <;> rw [hkd] at hk <;> first | rfl | exact hk.elim

/-- the state after `handle_after_stabilisation n` has queued `n` -/
def hasMarked (n : Nat) (s : State) : State :=
  { s with nodes := s.nodes.modify n fun x => { x with inHandleAfterStab := true },
           handleAfterStab := s.handleAfterStab ++ [n] }

theorem has_cases {n : Nat} {s s' : State} {r : Except Panic Unit}
    (h : (handleAfterStabilisation n).run.run s = (r, s')) : s' = s ∨ s' = hasMarked n s := by
  unfold handleAfterStabilisation at h
  simp only [run_bind, run_getNode] at h
  cases hn : s.nodes[n]? with
  | none => rw [hn] at h; cases h; exact Or.inl rfl
  | some nd =>
    rw [hn] at h
    simp only [run_ite, run_pure, run_bind, run_modNode, run_modify] at h
    split at h
    · cases h; exact Or.inr rfl
    · cases h; exact Or.inl rfl

theorem mhas_cases {n : Nat} {s s' : State} {r : Except Panic Unit}
    (h : (maybeHandleAfterStabilisation n).run.run s = (r, s')) : s' = s ∨ s' = hasMarked n s := by
  unfold maybeHandleAfterStabilisation handleAfterStabilisation at h
  simp only [run_bind, run_getNode] at h
  cases hn : s.nodes[n]? with
  | none => rw [hn] at h; cases h; exact Or.inl rfl
  | some nd =>
    rw [hn] at h
    simp only [run_ite, run_pure, run_bind, run_getNode, hn, run_modNode, run_modify] at h
    split at h
    · split at h
      · cases h; exact Or.inr rfl
      · cases h; exact Or.inl rfl
    · cases h; exact Or.inl rfl

theorem hasMarked_heightInRch (n : Nat) (s : State) (m : Nat) :
    ((hasMarked n s).nodeD m).heightInRch = (s.nodeD m).heightInRch := by
  show (({ s with nodes := s.nodes.modify n _ } : State).nodeD m).heightInRch = _
  rw [nodeD_modify]; split <;> rfl

/-- `parent_iter_can_recompute_now` on a valid, not queued parent of a static kind: either "yes"
(a map with at most one argument, or not above the heap's minimum), or the parent is queued -/
theorem picrn_static {env : Env} {p child : Nat} {t t' : State} {b : Bool} {pn : Node}
    (hp : t.nodes[p]? = some pn) (hv : pn.valid = true) (hk : StaticKind env pn.kind)
    (h : (parentIterCanRecomputeNow p child).run.run t = (.ok b, t')) :
    (b = true ∧ t' = withMinHeight t ∧
      ((∃ f args, pn.kind = .map f args ∧ args.length ≤ 1) ∨ pn.height ≤ minHeightOf t)) ∨
    (b = false ∧ 0 ≤ pn.height ∧ pn.height ≤ (withMinHeight t).rch.maxAllowed ∧
      t' = inserted p pn.height (withMinHeight t)) := by
  rw [picrn_run, hp] at h
  have hk? : pn.kind? = some pn.kind := by simp [Node.kind?, hv]
  simp only [hk?] at h
  cases hc : t.nodes[child]? with
  | none => rw [hc] at h; cases h
  | some cn =>
    rw [hc] at h
    dsimp only at h
    cases hcan : canRecomputeNow t pn pn.kind cn.height (minHeightOf t) with
    | error e => rw [hcan] at h; cases h
    | ok can =>
      rw [hcan] at h
      dsimp only at h
      split at h
      · rename_i hyes
        cases h
        refine Or.inl ⟨rfl, rfl, ?_⟩
        rw [Bool.or_eq_true] at hyes
        rcases hyes with hyes | hyes
        · left
          subst hyes
          cases hkd : pn.kind <;> rw [hkd] at hcan hk <;> simp only [canRecomputeNow] at hcan
          case const => cases hcan
          case var => cases hcan
          case fold => cases hcan
          case map f args =>
            refine ⟨f, args, rfl, ?_⟩
            split at hcan
            · cases hcan
            · omega
          all_goals exact hk.elim
        · right; simpa using hyes
      split at h
      · cases h
      split at h
      · cases h
      rcases hi : (rchInsert p).run.run (withMinHeight t) with ⟨_ | u, s2⟩
      · rw [hi] at h; cases h
      · rw [hi] at h
        cases h
        obtain ⟨nd, hnd, h0, hmax, rfl⟩ := rchInsert_ok_inv hi
        have : nd = pn := by
          have e : (withMinHeight t).nodes[p]? = t.nodes[p]? := rfl
          rw [e, hp] at hnd; cases hnd; rfl
        subst this
        exact Or.inr ⟨rfl, h0, hmax, rfl⟩

/-! ## the notification walk keeps the heap invariant -/

theorem HeapInv.quiet_same {t t' : State} (h : HeapInv t) (q : Quiet t t') (hr : t'.rch = t.rch)
    (hh : ∀ m, (t'.nodeD m).heightInRch = (t.nodeD m).heightInRch) : HeapInv t' :=
  h.congr hr q.size fun m => ⟨hh m, (q.node m).height, (q.node m).isNecessary⟩

/-- the state predicate carried through the notification part of `maybe_change_value_manual`:
only notification work since `T`, heap invariant, only nodes of `P` newly queued -/
structure KInv (T : State) (P : List Nat) (t : State) : Prop where
  q : Quiet T t
  heap : HeapInv t
  only : ∀ m, (t.nodeD m).inRch = true → (T.nodeD m).inRch = true ∨ m ∈ P
  qsize : t.rch.queues.size = T.rch.queues.size

/-- what is needed of a parent that gets notified -/
structure ParentOK (env : Env) (T : State) (p : Nat) : Prop where
  lt : p < T.nodes.size
  valid : (T.nodeD p).valid = true
  kind : StaticKind env (T.nodeD p).kind
  nec : T.isNecessary p = true

theorem ParentOK.quiet {env : Env} {T t : State} {p : Nat} (h : ParentOK env T p) (q : Quiet T t) :
    ParentOK env t p :=
  ⟨by rw [q.size]; exact h.lt, by rw [(q.node p).valid]; exact h.valid,
   by rw [(q.node p).kind]; exact h.kind,
   by have := (q.node p).isNecessary; unfold State.isNecessary; rw [this]; exact h.nec⟩

theorem KInv.refl {T : State} (P : List Nat) (h : HeapInv T) : KInv T P T :=
  ⟨Quiet.refl T, h, fun _ hm => Or.inl hm, rfl⟩

theorem KInv.mhas {T t t' : State} {P : List Nat} {n : Nat} {r : Except Panic Unit} (k : KInv T P t)
    (h : (maybeHandleAfterStabilisation n).run.run t = (r, t')) : KInv T P t' := by
  have q : Quiet t t' := (Step.Pres.maybeHandleAfterStabilisation n).h _ _ _ h
  rcases mhas_cases h with rfl | rfl
  · exact k
  · refine ⟨k.q.trans q, k.heap.quiet_same q rfl (hasMarked_heightInRch n t), fun m hm => ?_, k.qsize⟩
    apply k.only m
    unfold Node.inRch at hm ⊢
    rw [hasMarked_heightInRch] at hm
    exact hm

theorem KInv.inserted {env : Env} {T t : State} {P : List Nat} {p : Nat} {na : Node} (k : KInv T P t)
    (hp : ParentOK env T p) (hmem : p ∈ P) (hna : t.nodes[p]? = some na) (hnot : na.inRch = false)
    (h0 : 0 ≤ na.height) (hmax : na.height ≤ t.rch.maxAllowed) :
    KInv T P (inserted p na.height t) := by
  refine ⟨k.q.trans (Quiet.inserted p na.height t h0),
    k.heap.inserted hna hnot h0 hmax (hp.quiet k.q).nec, fun m hm => ?_, ?_⟩
  rotate_left
  · show (t.rch.queues.modify na.height.toNat (· ++ [p])).size = T.rch.queues.size
    rw [Array.size_modify]; exact k.qsize
  rcases (inserted_inRch p na.height t (lt_of_some hna) h0 m).1 hm with rfl | hm
  · exact Or.inr hmem
  · exact k.only m hm

theorem KInv.withMinHeight {T t : State} {P : List Nat} (k : KInv T P t) :
    KInv T P (withMinHeight t) :=
  ⟨k.q.trans (Quiet.of_eq rfl rfl rfl rfl rfl rfl rfl rfl rfl), k.heap.withMinHeight,
   fun m hm => k.only m hm, k.qsize⟩

end IncrVerif.Proofs.Sched

/-! ## the notification walk, with the log

`CutH.KInv` adds to `KInv` that the walk logs nothing; the walk is taken apart once, for it. -/
namespace IncrVerif.Proofs.CutH
open IncrVerif.Engine IncrVerif.Proofs IncrVerif.Proofs.Step IncrVerif.Proofs.Sched

/-- the state predicate carried through the notification part of `maybe_change_value_manual`:
only notification work since `T`, heap invariant, only nodes of `P` newly queued, nothing logged -/
structure KInv (T : State) (P : List Nat) (t : State) : Prop where
  q : Quiet T t
  heap : HeapInv t
  only : ∀ m, (t.nodeD m).inRch = true → (T.nodeD m).inRch = true ∨ m ∈ P
  qsize : t.rch.queues.size = T.rch.queues.size
  log : t.log = T.log

theorem KInv.refl {T : State} (P : List Nat) (h : HeapInv T) : KInv T P T :=
  ⟨Quiet.refl T, h, fun _ hm => Or.inl hm, rfl, rfl⟩

theorem KInv.mhas {T t t' : State} {P : List Nat} {n : Nat} {r : Except Panic Unit} (k : KInv T P t)
    (h : (maybeHandleAfterStabilisation n).run.run t = (r, t')) : KInv T P t' := by
  have q : Quiet t t' := (Step.Pres.maybeHandleAfterStabilisation n).h _ _ _ h
  rcases mhas_cases h with rfl | rfl
  · exact k
  · refine ⟨k.q.trans q, k.heap.quiet_same q rfl (hasMarked_heightInRch n t), fun m hm => ?_, k.qsize, k.log⟩
    apply k.only m
    unfold Node.inRch at hm ⊢
    rw [hasMarked_heightInRch] at hm
    exact hm

theorem KInv.inserted {env : Env} {T t : State} {P : List Nat} {p : Nat} {na : Node} (k : KInv T P t)
    (hp : ParentOK env T p) (hmem : p ∈ P) (hna : t.nodes[p]? = some na) (hnot : na.inRch = false)
    (h0 : 0 ≤ na.height) (hmax : na.height ≤ t.rch.maxAllowed) :
    KInv T P (inserted p na.height t) := by
  refine ⟨k.q.trans (Quiet.inserted p na.height t h0),
    k.heap.inserted hna hnot h0 hmax (hp.quiet k.q).nec, fun m hm => ?_, ?_, k.log⟩
  rotate_left
  · show (t.rch.queues.modify na.height.toNat (· ++ [p])).size = T.rch.queues.size
    rw [Array.size_modify]; exact k.qsize
  rcases (inserted_inRch p na.height t (lt_of_some hna) h0 m).1 hm with rfl | hm
  · exact Or.inr hmem
  · exact k.only m hm

theorem KInv.withMinHeight {T t : State} {P : List Nat} (k : KInv T P t) :
    KInv T P (withMinHeight t) :=
  ⟨k.q.trans (Quiet.of_eq rfl rfl rfl rfl rfl rfl rfl rfl rfl), k.heap.withMinHeight,
   fun m hm => k.only m hm, k.qsize, k.log⟩

/-- the notification part of a propagating `maybe_change_value_manual`, in terms of the state `T` in
which it starts (value stored, `changedAt` stamped): heap invariant kept, only parents queued, and
the handed-over parent is not queued and a one-argument map or not above the heap's minimum -/
theorem mcvm_heap {env : Env} {fuel n : Nat} {o : Option Val} {T0 s' : State} {r : Option Nat}
    (hi : HeapInv (touched n T0))
    (hpar : ∀ p, p ∈ ((touched n T0).nodeD n).parents.map (·.1) → ParentOK env (touched n T0) p)
    (h : (maybeChangeValueManual env fuel n o true true).run.run T0 = (.ok r, s')) :
    KInv (touched n T0) (((touched n T0).nodeD n).parents.map (·.1)) s' ∧
    ∀ p, r = some p → p ∈ ((touched n T0).nodeD n).parents.map (·.1) ∧
      (s'.nodeD p).inRch = false ∧
      ((∃ f args, ((touched n T0).nodeD p).kind = .map f args ∧ args.length ≤ 1) ∨
        ∀ m, (s'.nodeD m).inRch = true →
          ((touched n T0).nodeD p).height ≤ ((touched n T0).nodeD m).height) := by
  generalize hT : touched n T0 = T at hi hpar ⊢
  generalize hP : (T.nodeD n).parents.map (·.1) = P at hpar ⊢
  unfold maybeChangeValueManual at h
  simp only [Bool.not_true, Bool.false_eq_true, if_false, if_true, run_bind_get, run_bind_modNode,
    run_bind_bumpCounter] at h
  obtain ⟨u, s1, h1, h2⟩ := bind_ok_inv h
  have h1' : (maybeHandleAfterStabilisation n).run.run T = (.ok u, s1) := by rw [← hT]; exact h1
  have k1 : KInv T P s1 := (KInv.refl P hi).mhas h1'
  obtain ⟨nd1, s1', hg, h3⟩ := bind_ok_inv h2
  obtain ⟨rfl, hnd1⟩ := getNode_ok_inv hg
  have hpar1 : nd1.parents = (T.nodeD n).parents := by
    have := (k1.q.node n).parents
    rw [nodeD_of_some hnd1] at this
    exact this
  rw [hpar1] at h3
  rcases hps : (T.nodeD n).parents with _ | ⟨⟨p0, ci0⟩, rest⟩
  · rw [hps] at h3
    obtain ⟨rfl, rfl⟩ := pure_ok_inv h3
    exact ⟨k1, fun p hp => by cases hp⟩
  rw [hps] at h3 hP
  dsimp only at h3
  obtain ⟨u2, s2, hloop, hlast⟩ := bind_ok_inv h3
  have hmem0 : p0 ∈ P := by rw [← hP]; simp
  have hmemr : ∀ a, a ∈ rest → a.1 ∈ P := by
    intro a ha; rw [← hP]; exact List.mem_cons_of_mem _ (List.mem_map_of_mem ha)
  -- the loop over the other parents
  have k2 : KInv T P s2 := by
    refine forIn_ok_keep (KInv T P) _ rest ?_ s1' _ s2 k1 hloop
    intro a ha t r t' k hb
    obtain ⟨p, ci⟩ := a
    have hpT := hpar p (hmemr _ ha)
    have hpt := hpT.quiet k.q
    obtain ⟨_, t1, hcc, hb1⟩ := bind_ok_inv hb
    have hpn := some_of_lt hpt.lt
    obtain rfl := childChanged_static hpn hpt.valid hpt.kind hcc
    rw [run_bind_get] at hb1
    obtain ⟨na, hna, hb4⟩ := bind_getNode_inv (bind_dassert_inv hb1)
    split at hb4
    · rename_i hin
      obtain ⟨_, t5, hins, hb5⟩ := bind_ok_inv hb4
      obtain ⟨rfl, rfl⟩ := pure_ok_inv hb5
      obtain ⟨nd, hnd, h0, hmax, rfl⟩ := rchInsert_ok_inv hins
      rw [hna] at hnd; cases hnd
      exact k.inserted hpT (hmemr _ ha) hna (by simpa using hin) h0 hmax
    · obtain ⟨rfl, rfl⟩ := pure_ok_inv hb4
      exact k
  -- the first parent
  have hp0T := hpar p0 hmem0
  have hp0 := hp0T.quiet k2.q
  obtain ⟨_, s3, hcc, hl1⟩ := bind_ok_inv hlast
  have hpn0 := some_of_lt hp0.lt
  obtain rfl := childChanged_static hpn0 hp0.valid hp0.kind hcc
  rw [run_bind_get] at hl1
  obtain ⟨nd0, hnd0, hl4⟩ := bind_getNode_inv (bind_dassert_inv hl1)
  have e0 : s3.nodeD p0 = nd0 := nodeD_of_some hnd0
  split at hl4
  · rename_i hin
    have hnot : nd0.inRch = false := by simpa using hin
    obtain ⟨b, s4, hpi, hl5⟩ := bind_ok_inv hl4
    have hv0 : nd0.valid = true := by rw [← e0]; exact hp0.valid
    have hk0 : StaticKind env nd0.kind := by rw [← e0]; exact hp0.kind
    rcases picrn_static hnd0 hv0 hk0 hpi with ⟨rfl, rfl, hyes⟩ | ⟨rfl, h0, hmax, rfl⟩
    · simp only [if_true] at hl5
      obtain ⟨rfl, rfl⟩ := pure_ok_inv hl5
      refine ⟨k2.withMinHeight, fun p hp => ?_⟩
      cases hp
      refine ⟨hmem0, ?_, ?_⟩
      · show (s3.nodeD p0).inRch = false
        rw [e0]; exact hnot
      · rcases hyes with ⟨f, args, hk, hl⟩ | hle
        · left
          refine ⟨f, args, ?_, hl⟩
          rw [← (k2.q.node p0).kind, e0]; exact hk
        · right
          intro m hm
          have hm' : (s3.nodeD m).inRch = true := hm
          have := minHeightOf_le k2.heap hm'
          rw [← (k2.q.node p0).height, ← (k2.q.node m).height, e0]
          omega
    · simp only [Bool.false_eq_true, if_false] at hl5
      obtain ⟨rfl, rfl⟩ := pure_ok_inv hl5
      refine ⟨k2.withMinHeight.inserted hp0T hmem0 (by exact hnd0) hnot h0 hmax,
        fun p hp => by cases hp⟩
  · obtain ⟨rfl, rfl⟩ := pure_ok_inv hl4
    exact ⟨k2, fun p hp => by cases hp⟩

end IncrVerif.Proofs.CutH

namespace IncrVerif.Proofs.Sched
open IncrVerif.Engine IncrVerif.Proofs IncrVerif.Proofs.Step

/-- the notification part of a propagating `maybe_change_value_manual`, in terms of the state `T` in
which it starts (value stored, `changedAt` stamped): heap invariant kept, only parents queued, and
the handed-over parent is not queued and a one-argument map or not above the heap's minimum -/
theorem mcvm_heap {env : Env} {fuel n : Nat} {o : Option Val} {T0 s' : State} {r : Option Nat}
    (hi : HeapInv (touched n T0))
    (hpar : ∀ p, p ∈ ((touched n T0).nodeD n).parents.map (·.1) → ParentOK env (touched n T0) p)
    (h : (maybeChangeValueManual env fuel n o true true).run.run T0 = (.ok r, s')) :
    KInv (touched n T0) (((touched n T0).nodeD n).parents.map (·.1)) s' ∧
    ∀ p, r = some p → p ∈ ((touched n T0).nodeD n).parents.map (·.1) ∧
      (s'.nodeD p).inRch = false ∧
      ((∃ f args, ((touched n T0).nodeD p).kind = .map f args ∧ args.length ≤ 1) ∨
        ∀ m, (s'.nodeD m).inRch = true →
          ((touched n T0).nodeD p).height ≤ ((touched n T0).nodeD m).height) := by
  obtain ⟨k, hr⟩ := CutH.mcvm_heap hi hpar h
  exact ⟨⟨k.q, k.heap, k.only, k.qsize⟩, hr⟩

/-! ## states that differ from `s` only in non-structural, non-heap fields of node `n` -/

/-- `S` is `s` up to the log, counters, `currentlyRunning`, and `value`/stamps of node `n` -/
structure Upd (n : Nat) (s S : State) : Prop where
  size : S.nodes.size = s.nodes.size
  vars : S.vars = s.vars
  stabNum : S.stabNum = s.stabNum
  pc : S.panicCountdown = none
  rch : S.rch = s.rch
  other : ∀ m, m ≠ n → S.nodeD m = s.nodeD m
  shape : SameShape (s.nodeD n) (S.nodeD n)
  hrch : (S.nodeD n).heightInRch = (s.nodeD n).heightInRch

theorem Upd.shapeAll {n : Nat} {s S : State} (h : Upd n s S) (m : Nat) :
    SameShape (s.nodeD m) (S.nodeD m) := by
  by_cases hm : m = n
  · subst hm; exact h.shape
  · rw [h.other m hm]; exact SameShape.refl _

theorem Upd.hrchAll {n : Nat} {s S : State} (h : Upd n s S) (m : Nat) :
    (S.nodeD m).heightInRch = (s.nodeD m).heightInRch := by
  by_cases hm : m = n
  · subst hm; exact h.hrch
  · rw [h.other m hm]

theorem Upd.inRch {n : Nat} {s S : State} (h : Upd n s S) (m : Nat) :
    (S.nodeD m).inRch = (s.nodeD m).inRch := by
  unfold Node.inRch; rw [h.hrchAll m]

theorem Upd.nec {n : Nat} {s S : State} (h : Upd n s S) (m : Nat) :
    S.isNecessary m = s.isNecessary m := (h.shapeAll m).isNecessary

theorem Upd.heap {n : Nat} {s S : State} (h : Upd n s S) (hi : HeapInv s) : HeapInv S :=
  hi.congr h.rch h.size fun m => ⟨h.hrchAll m, (h.shapeAll m).height, h.nec m⟩

theorem Upd.started (n : Nat) (s : State) (hpc : s.panicCountdown = none) : Upd n s (started n s) := by
  refine ⟨by simp [Step.started], rfl, rfl, hpc, rfl, fun m hm => ?_, ?_, ?_⟩
  · rw [started_nodeD, if_neg (fun h => hm h.1.symm)]
  · rw [started_nodeD]; split
    · exact ⟨rfl, rfl, rfl, rfl, rfl, rfl, rfl, rfl⟩
    · exact SameShape.refl _
  · rw [started_nodeD]; split <;> rfl

theorem Upd.logged {n : Nat} {s S : State} (h : Upd n s S) (es : List Event) :
    Upd n s (logged es S) :=
  ⟨h.size, h.vars, h.stabNum, h.pc, h.rch, h.other, h.shape, h.hrch⟩

theorem Upd.setValue {n : Nat} {s S : State} (h : Upd n s S) (v : Option Val) :
    Upd n s (setValue n v S) := by
  refine ⟨by rw [← h.size]; simp [Step.setValue], h.vars, h.stabNum, h.pc, h.rch, fun m hm => ?_, ?_, ?_⟩
  · rw [setValue_nodeD, if_neg (fun h => hm h.1.symm)]; exact h.other m hm
  · rw [setValue_nodeD]; split
    · exact h.shape.trans ⟨rfl, rfl, rfl, rfl, rfl, rfl, rfl, rfl⟩
    · exact h.shape
  · rw [setValue_nodeD]; split <;> exact h.hrch

theorem Upd.touched {n : Nat} {s S : State} (h : Upd n s S) : Upd n s (touched n S) := by
  refine ⟨by rw [← h.size]; simp [Step.touched], h.vars, h.stabNum, h.pc, h.rch, fun m hm => ?_, ?_, ?_⟩
  · rw [touched_nodeD, if_neg (fun h => hm h.1.symm)]; exact h.other m hm
  · rw [touched_nodeD]; split
    · exact h.shape.trans ⟨rfl, rfl, rfl, rfl, rfl, rfl, rfl, rfl⟩
    · exact h.shape
  · rw [touched_nodeD]; split <;> exact h.hrch

/-- the cutoffs of the static fragment: no log, and "no change" only for an equal old value -/
theorem mcvChanges_static (env : Env) (S : State) (n : Nat) (v : Val)
    (hc : (S.nodeD n).cutoff = .eq ∨ (S.nodeD n).cutoff = .never) :
    mcvChanges env S n v = some true ∨
      (mcvChanges env S n v = some false ∧ (S.nodeD n).value = some v) := by
  unfold mcvChanges cutoffVerdict
  cases hv : (S.nodeD n).value with
  | none => exact Or.inl rfl
  | some old =>
    rcases hc with hc | hc <;> rw [hc]
    · by_cases e : old = v
      · subst e; right; simp
      · left; simp [e]
    · left; rfl

/-- assembling `StepRel` from a state `X` of the `Upd` family and notification work after it -/
theorem stepRel_of_quiet {n : Nat} {v : Val} {ch : Bool} {r : Option Nat} {s X s' : State}
    (hU : Upd n s X) (q : Quiet X s')
    (hv : (X.nodeD n).value = some v) (hr : (X.nodeD n).recomputedAt = s.stabNum)
    (hc : (X.nodeD n).changedAt = if ch = true then s.stabNum else (s.nodeD n).changedAt)
    (unch : ch = false → (s.nodeD n).value = some v ∧ r = none)
    (heap : HeapInv s') (hqs : s'.rch.queues.size = X.rch.queues.size)
    (newIn : ∀ m, (s'.nodeD m).inRch = true →
      (X.nodeD m).inRch = true ∨ (ch = true ∧ m ∈ (s.nodeD n).parents.map (·.1)))
    (parentsIn : ch = true → ∀ p, p ∈ (s.nodeD n).parents.map (·.1) →
      (s'.nodeD p).inRch = true ∨ r = some p)
    (ret : ∀ p, r = some p → ch = true ∧ p ∈ (s.nodeD n).parents.map (·.1) ∧
      (s'.nodeD p).inRch = false ∧
      ((∃ f args, (X.nodeD p).kind = .map f args ∧ args.length ≤ 1) ∨
        ∀ m, (s'.nodeD m).inRch = true → (X.nodeD p).height ≤ (X.nodeD m).height)) :
    StepRel n v ch r s s' where
  size := q.size.trans hU.size
  vars := q.vars.trans hU.vars
  stabNum := q.stabNum.trans hU.stabNum
  pc := q.pc hU.pc
  qsize := by rw [hqs, hU.rch]
  other m hm := by have := q.node m; rw [hU.other m hm] at this; exact this
  shape := hU.shape.trans (SameShape.of_nodeSame (q.node n))
  value := (q.node n).value.trans hv
  recomputedAt := (q.node n).recomputedAt.trans hr
  changedAt := (q.node n).changedAt.trans hc
  unch := unch
  heap := heap
  newIn m hm := by
    rcases newIn m hm with h | h
    · left; rw [← hU.inRch m]; exact h
    · exact Or.inr h
  parentsIn := parentsIn
  ret p hp := by
    obtain ⟨h1, h2, h3, h4⟩ := ret p hp
    refine ⟨h1, h2, h3, ?_⟩
    rcases h4 with ⟨f, args, hk, hl⟩ | h4
    · left; exact ⟨f, args, by rw [← (hU.shapeAll p).kind]; exact hk, hl⟩
    · right
      intro m hm
      have := h4 m hm
      rw [(hU.shapeAll p).height, (hU.shapeAll m).height] at this
      exact this

/-! ## `maybe_change_value` in the static fragment -/

/-- the common part: `maybe_change_value n v` run in a state `S0` that is `s` with `n`'s
`recomputedAt` stamped (and log/counters moved) -/
theorem mcv_static {env : Env} {fuel n : Nat} {v : Val} {s S0 s' : State} {r : Option Nat}
    (g : Graph env s) (hi : HeapInv s) (hn : s.isNecessary n = true)
    (hU : Upd n s S0) (hval : (S0.nodeD n).value = (s.nodeD n).value)
    (hrec : (S0.nodeD n).recomputedAt = s.stabNum)
    (hch : (S0.nodeD n).changedAt = (s.nodeD n).changedAt)
    (h : (maybeChangeValue env fuel n v).run.run S0 = (.ok r, s')) :
    ∃ ch, StepRel n v ch r s s' := by
  obtain ⟨hlt, _, _, hcut, _⟩ := g.nec n hn
  have hlt0 : n < S0.nodes.size := by rw [hU.size]; exact hlt
  have hn0 := some_of_lt hlt0
  have hcut0 : (S0.nodeD n).cutoff = .eq ∨ (S0.nodeD n).cutoff = .never := by
    rw [hU.shape.cutoff]; exact hcut
  -- the state with the new value stored
  generalize hW : setValue n (some v) (logged (mcvLog env S0 n v) S0) = W
  have hUW : Upd n s W := by rw [← hW]; exact (hU.logged _).setValue _
  have eW : W.nodeD n = { S0.nodeD n with value := some v } := by
    rw [← hW, setValue_nodeD, if_pos ⟨rfl, hlt0⟩]; rfl
  rcases mcvChanges_static env S0 n v hcut0 with hd | ⟨hd, hold⟩
  · -- propagate
    rw [mcv_run' env fuel n v S0 _ hn0 hU.pc, hd] at h
    dsimp only at h
    rw [hW] at h
    have hltW : n < W.nodes.size := by rw [hUW.size]; exact hlt
    have q : Quiet (touched n W) s' := mcvm_true_quiet _ _ _ _ _ _ _ _ h
    have hUT : Upd n s (touched n W) := hUW.touched
    have eT : (touched n W).nodeD n = { W.nodeD n with changedAt := W.stabNum } := by
      rw [touched_nodeD, if_pos ⟨rfl, hltW⟩]
    have hparT : ((touched n W).nodeD n).parents = (s.nodeD n).parents := hUT.shape.parents
    have hpar : ∀ p, p ∈ ((touched n W).nodeD n).parents.map (·.1) →
        ParentOK env (touched n W) p := by
      intro p hp
      rw [hparT] at hp
      obtain ⟨⟨p', ci⟩, hmem, rfl⟩ := List.mem_map.1 hp
      have hpn := (g.parent n p' ci hmem).1
      obtain ⟨h1, h2, h3, _, _⟩ := g.nec p' hpn
      have sh := hUT.shapeAll p'
      exact ⟨by rw [hUT.size]; exact h1, by rw [sh.valid]; exact h2, by rw [sh.kind]; exact h3,
        by rw [hUT.nec]; exact hpn⟩
    obtain ⟨k, hret⟩ := mcvm_heap (hUT.heap hi) hpar h
    have hpin := mcvm_parents env fuel n _ W s' r _ (some_of_lt hltW) h
    have hparW : (W.nodeD n).parents = (s.nodeD n).parents := hUW.shape.parents
    refine ⟨true, stepRel_of_quiet hUT q ?_ ?_ ?_ (fun hc => by cases hc) k.heap k.qsize ?_ ?_ ?_⟩
    · rw [eT, eW]
    · rw [eT, eW]; exact hrec
    · rw [eT, if_pos rfl]; exact hUW.stabNum
    · intro m hm
      rcases k.only m hm with h1 | h1
      · exact Or.inl h1
      · rw [hparT] at h1; exact Or.inr ⟨rfl, h1⟩
    · intro _ p hp
      rw [← hparW] at hp
      rcases hpin p hp with h1 | h1
      · exact Or.inl h1.2
      · exact Or.inr h1.2.1
    · intro p hp
      obtain ⟨h1, h2, h3⟩ := hret p hp
      rw [hparT] at h1
      exact ⟨rfl, h1, h2, h3⟩
  · -- suppress
    rw [mcv_suppress env fuel n v S0 _ hn0 hU.pc hd, hW] at h
    cases h
    refine ⟨false, stepRel_of_quiet hUW (Quiet.refl _) ?_ ?_ ?_ (fun _ => ⟨?_, rfl⟩)
      (hUW.heap hi) rfl (fun m hm => Or.inl hm) (fun hc => by cases hc) (fun p hp => by cases hp)⟩
    · rw [eW]
    · rw [eW]; exact hrec
    · rw [eW, if_neg (by simp)]; exact hch
    · rw [← hval]; exact hold

end IncrVerif.Proofs.Sched

/-! ## one `recomputeOne` with ANY cutoff, as a relation

`CutH.StepRel` records the verdict of the cutoff and what was logged; for an exact cutoff it gives `StepRel` (`StepRel.ofC`). -/
namespace IncrVerif.Proofs.CutH
open IncrVerif.Engine IncrVerif.Proofs IncrVerif.Proofs.Step IncrVerif.Proofs.Sched

theorem getElem?_eq_nodeD (s : State) (i : Nat) :
    s.nodes[i]? = if i < s.nodes.size then some (s.nodeD i) else none := by
  split
  · rename_i h; exact some_of_lt h
  · rename_i h; exact Array.getElem?_eq_none (by omega)

theorem cutoffVerdict_congr (env : Env) {s S : State} {n : Nat} (hsz : S.nodes.size = s.nodes.size)
    (hcut : (S.nodeD n).cutoff = (s.nodeD n).cutoff)
    (hch : ∀ m, (S.nodeD m).changedAt = (s.nodeD m).changedAt) (old new : Val) :
    cutoffVerdict env S n old new = cutoffVerdict env s n old new := by
  unfold cutoffVerdict
  rw [hcut]
  cases (s.nodeD n).cutoff <;> try rfl
  rename_i i
  simp only [getElem?_eq_nodeD, hsz]
  split
  · simp only [Option.map_some, hch]
  · rfl

theorem cutoffLog_congr (env : Env) {s S : State} {n : Nat}
    (hcut : (S.nodeD n).cutoff = (s.nodeD n).cutoff) (old new : Val) :
    cutoffLog env S n old new = cutoffLog env s n old new := by
  unfold cutoffLog; rw [hcut]

theorem mcvChanges_congr (env : Env) {s S : State} {n : Nat} (hsz : S.nodes.size = s.nodes.size)
    (hcut : (S.nodeD n).cutoff = (s.nodeD n).cutoff) (hval : (S.nodeD n).value = (s.nodeD n).value)
    (hch : ∀ m, (S.nodeD m).changedAt = (s.nodeD m).changedAt) (new : Val) :
    mcvChanges env S n new = mcvChanges env s n new := by
  unfold mcvChanges
  rw [hval]
  cases (s.nodeD n).value with
  | none => rfl
  | some old => simp only [cutoffVerdict_congr env hsz hcut hch]

theorem mcvLog_congr (env : Env) {s S : State} {n : Nat}
    (hcut : (S.nodeD n).cutoff = (s.nodeD n).cutoff) (hval : (S.nodeD n).value = (s.nodeD n).value)
    (new : Val) : mcvLog env S n new = mcvLog env s n new := by
  unfold mcvLog
  rw [hval]
  cases (s.nodeD n).value with
  | none => rfl
  | some old => simp only [cutoffLog_congr env hcut]

/-- "suppressed": there was an old value; for an exact cutoff it equals the new one -/
theorem mcvChanges_false {env : Env} {s : State} {n : Nat} {v : Val}
    (h : mcvChanges env s n v = some false) :
    ∃ old, (s.nodeD n).value = some old ∧ cutoffVerdict env s n old v = some true ∧
      (ExactCut (s.nodeD n).cutoff → old = v) := by
  unfold mcvChanges at h
  cases hv : (s.nodeD n).value with
  | none => rw [hv] at h; cases h
  | some old =>
    rw [hv] at h
    simp only at h
    have hcv : cutoffVerdict env s n old v = some true := by
      cases hc : cutoffVerdict env s n old v with
      | none => rw [hc] at h; cases h
      | some b => rw [hc] at h; cases b <;> simp at h ⊢
    refine ⟨old, rfl, hcv, fun hx => ?_⟩
    unfold cutoffVerdict at hcv
    cases hk : (s.nodeD n).cutoff <;> rw [hk] at hx hcv <;> try exact hx.elim
    · cases hcv
    · simpa using hcv

/-! ## assembling `StepRel` -/

/-- assembling `StepRel` from a state `X` of the `Upd` family and notification work after it -/
theorem stepRel_of_quiet {env : Env} {n : Nat} {v : Val} {ch : Bool} {r : Option Nat} {s X s' : State}
    (hU : Upd n s X) (q : Quiet X s')
    (hv : (X.nodeD n).value = some v) (hr : (X.nodeD n).recomputedAt = s.stabNum)
    (hc : (X.nodeD n).changedAt = if ch = true then s.stabNum else (s.nodeD n).changedAt)
    (verdict : mcvChanges env s n v = some ch)
    (unch : ch = false → r = none)
    (log : ∃ evs, s'.log = mcvLog env s n v ++ (evs ++ s.log) ∧ ∀ e, e ∈ evs → IsInvOf n e)
    (heap : HeapInv s') (hqs : s'.rch.queues.size = X.rch.queues.size)
    (newIn : ∀ m, (s'.nodeD m).inRch = true →
      (X.nodeD m).inRch = true ∨ (ch = true ∧ m ∈ (s.nodeD n).parents.map (·.1)))
    (parentsIn : ch = true → ∀ p, p ∈ (s.nodeD n).parents.map (·.1) →
      (s'.nodeD p).inRch = true ∨ r = some p)
    (ret : ∀ p, r = some p → ch = true ∧ p ∈ (s.nodeD n).parents.map (·.1) ∧
      (s'.nodeD p).inRch = false ∧
      ((∃ f args, (X.nodeD p).kind = .map f args ∧ args.length ≤ 1) ∨
        ∀ m, (s'.nodeD m).inRch = true → (X.nodeD p).height ≤ (X.nodeD m).height)) :
    StepRel env n v ch r s s' where
  size := q.size.trans hU.size
  vars := q.vars.trans hU.vars
  stabNum := q.stabNum.trans hU.stabNum
  pc := q.pc hU.pc
  qsize := by rw [hqs, hU.rch]
  other m hm := by have := q.node m; rw [hU.other m hm] at this; exact this
  shape := hU.shape.trans (SameShape.of_nodeSame (q.node n))
  value := (q.node n).value.trans hv
  recomputedAt := (q.node n).recomputedAt.trans hr
  changedAt := (q.node n).changedAt.trans hc
  verdict := verdict
  unch hch := by
    rw [hch] at verdict
    obtain ⟨old, h1, -, h3⟩ := mcvChanges_false verdict
    exact ⟨⟨old, h1, h3⟩, unch hch⟩
  log := log
  heap := heap
  newIn m hm := by
    rcases newIn m hm with h | h
    · left; rw [← hU.inRch m]; exact h
    · exact Or.inr h
  parentsIn := parentsIn
  ret p hp := by
    obtain ⟨h1, h2, h3, h4⟩ := ret p hp
    refine ⟨h1, h2, h3, ?_⟩
    rcases h4 with ⟨f, args, hk, hl⟩ | h4
    · left; exact ⟨f, args, by rw [← (hU.shapeAll p).kind]; exact hk, hl⟩
    · right
      intro m hm
      have := h4 m hm
      rw [(hU.shapeAll p).height, (hU.shapeAll m).height] at this
      exact this

/-! ## `maybe_change_value` in the static fragment, any cutoff -/

/-- the common part: `maybe_change_value n v` run in a state `S0` that is `s` with `n`'s
`recomputedAt` stamped (and log/counters moved) -/
theorem mcv_static {env : Env} {fuel n : Nat} {v : Val} {s S0 s' : State} {r : Option Nat}
    (g : Graph env s) (hi : HeapInv s) (hn : s.isNecessary n = true)
    (hU : Upd n s S0) (hval : (S0.nodeD n).value = (s.nodeD n).value)
    (hrec : (S0.nodeD n).recomputedAt = s.stabNum)
    (hch : (S0.nodeD n).changedAt = (s.nodeD n).changedAt)
    (hlog : ∃ evs, S0.log = evs ++ s.log ∧ ∀ e, e ∈ evs → IsInvOf n e)
    (h : (maybeChangeValue env fuel n v).run.run S0 = (.ok r, s')) :
    ∃ ch, StepRel env n v ch r s s' := by
  obtain ⟨hlt, _, _, _⟩ := g.nec n hn
  have hlt0 : n < S0.nodes.size := by rw [hU.size]; exact hlt
  have hn0 := some_of_lt hlt0
  have hchAll : ∀ m, (S0.nodeD m).changedAt = (s.nodeD m).changedAt := by
    intro m
    by_cases hm : m = n
    · subst hm; exact hch
    · rw [hU.other m hm]
  have eV : mcvChanges env S0 n v = mcvChanges env s n v :=
    mcvChanges_congr env hU.size hU.shape.cutoff hval hchAll v
  have eL : mcvLog env S0 n v = mcvLog env s n v := mcvLog_congr env hU.shape.cutoff hval v
  obtain ⟨evs, hevs, hinv⟩ := hlog
  -- the state with the new value stored
  generalize hW : setValue n (some v) (logged (mcvLog env S0 n v) S0) = W
  have hUW : Upd n s W := by rw [← hW]; exact (hU.logged _).setValue _
  have eW : W.nodeD n = { S0.nodeD n with value := some v } := by
    rw [← hW, setValue_nodeD, if_pos ⟨rfl, hlt0⟩]; rfl
  have hWlog : W.log = mcvLog env s n v ++ (evs ++ s.log) := by
    rw [← hW, ← eL, ← hevs]; rfl
  cases hd : mcvChanges env S0 n v with
  | none =>
    rw [mcv_run' env fuel n v S0 _ hn0 hU.pc, hd] at h
    cases h
  | some d =>
    cases d with
    | true =>
      -- propagate
      rw [mcv_run' env fuel n v S0 _ hn0 hU.pc, hd] at h
      dsimp only at h
      rw [hW] at h
      have hltW : n < W.nodes.size := by rw [hUW.size]; exact hlt
      have q : Quiet (touched n W) s' := mcvm_true_quiet _ _ _ _ _ _ _ _ h
      have hUT : Upd n s (touched n W) := hUW.touched
      have eT : (touched n W).nodeD n = { W.nodeD n with changedAt := W.stabNum } := by
        rw [touched_nodeD, if_pos ⟨rfl, hltW⟩]
      have hparT : ((touched n W).nodeD n).parents = (s.nodeD n).parents := hUT.shape.parents
      have hpar : ∀ p, p ∈ ((touched n W).nodeD n).parents.map (·.1) →
          ParentOK env (touched n W) p := by
        intro p hp
        rw [hparT] at hp
        obtain ⟨⟨p', ci⟩, hmem, rfl⟩ := List.mem_map.1 hp
        have hpn := (g.parent n p' ci hmem).1
        obtain ⟨h1, h2, h3, _⟩ := g.nec p' hpn
        have sh := hUT.shapeAll p'
        exact ⟨by rw [hUT.size]; exact h1, by rw [sh.valid]; exact h2, by rw [sh.kind]; exact h3,
          by rw [hUT.nec]; exact hpn⟩
      obtain ⟨k, hret⟩ := mcvm_heap (hUT.heap hi) hpar h
      have hpin := mcvm_parents env fuel n _ W s' r _ (some_of_lt hltW) h
      have hparW : (W.nodeD n).parents = (s.nodeD n).parents := hUW.shape.parents
      refine ⟨true, stepRel_of_quiet hUT q ?_ ?_ ?_ (by rw [← eV]; exact hd) (fun hc => by cases hc)
        ⟨evs, by rw [k.log]; exact hWlog, hinv⟩ k.heap k.qsize ?_ ?_ ?_⟩
      · rw [eT, eW]
      · rw [eT, eW]; exact hrec
      · rw [eT, if_pos rfl]; exact hUW.stabNum
      · intro m hm
        rcases k.only m hm with h1 | h1
        · exact Or.inl h1
        · rw [hparT] at h1; exact Or.inr ⟨rfl, h1⟩
      · intro _ p hp
        rw [← hparW] at hp
        rcases hpin p hp with h1 | h1
        · exact Or.inl h1.2
        · exact Or.inr h1.2.1
      · intro p hp
        obtain ⟨h1, h2, h3⟩ := hret p hp
        rw [hparT] at h1
        exact ⟨rfl, h1, h2, h3⟩
    | false =>
      -- suppress
      rw [mcv_suppress env fuel n v S0 _ hn0 hU.pc hd, hW] at h
      cases h
      refine ⟨false, stepRel_of_quiet hUW (Quiet.refl _) ?_ ?_ ?_ (by rw [← eV]; exact hd) (fun _ => rfl)
        ⟨evs, hWlog, hinv⟩ (hUW.heap hi) rfl (fun m hm => Or.inl hm) (fun hc => by cases hc)
        (fun p hp => by cases hp)⟩
      · rw [eW]
      · rw [eW]; exact hrec
      · rw [eW, if_neg (by simp)]; exact hch

theorem isInvOf_inv (what : String) (n : Nat) (args : List Val) (res : String) :
    IsInvOf n (.inv what n args res) := rfl

/-! ## the theorem -/

/-- a successful `recomputeOne` on a necessary node of a static graph whose children all have values:
it stores the target value `v` of the node's defining expression and is described by `StepRel` -/
theorem recomputeOne_static {env : Env} {fuel n : Nat} {s s' : State} {r : Option Nat}
    (g : Graph env s) (hi : HeapInv s) (hn : s.isNecessary n = true)
    (hvals : ∃ vals, plainVals s (kids (s.nodeD n).kind) = some vals)
    (h : (recomputeOne env fuel n).run.run s = (.ok r, s')) :
    ∃ v ch, Target env s n v ∧ StepRel env n v ch r s s' := by
  obtain ⟨hlt, hv, hk, _⟩ := g.nec n hn
  have hnn := some_of_lt hlt
  have hU := Upd.started n s g.pc
  have e1 : ((started n s).nodeD n).value = (s.nodeD n).value := by
    rw [started_nodeD]; split <;> rfl
  have e2 : ((started n s).nodeD n).recomputedAt = s.stabNum := by
    rw [started_nodeD, if_pos ⟨rfl, hlt⟩]
  have e3 : ((started n s).nodeD n).changedAt = (s.nodeD n).changedAt := by
    rw [started_nodeD]; split <;> rfl
  have l0 : ∃ evs, (started n s).log = evs ++ s.log ∧ ∀ e, e ∈ evs → IsInvOf n e :=
    ⟨[], rfl, fun _ h => by cases h⟩
  have l1 : ∀ ev, IsInvOf n ev →
      ∃ evs, (logged [ev] (started n s)).log = evs ++ s.log ∧ ∀ e, e ∈ evs → IsInvOf n e := by
    intro ev hev
    refine ⟨[ev], rfl, fun e he => ?_⟩
    rw [List.mem_singleton] at he; rw [he]; exact hev
  obtain ⟨vals, hvals⟩ := hvals
  have hvo := g.valuesOf hn
  rw [hvals] at hvo
  cases hkd : (s.nodeD n).kind with
  | const w =>
    rw [recomputeOne_const_run env fuel n s _ w hnn hv hkd] at h
    obtain ⟨ch, hs⟩ := mcv_static g hi hn hU e1 e2 e3 l0 h
    exact ⟨w, ch, by simp only [Target, hkd], hs⟩
  | var c =>
    obtain ⟨vc, hvc⟩ := g.var n c hn hkd
    rw [recomputeOne_var_run env fuel n s _ c vc hnn hv hkd hvc] at h
    obtain ⟨ch, hs⟩ := mcv_static g hi hn hU e1 e2 e3 l0 h
    exact ⟨vc.value, ch, by simp only [Target, hkd]; exact ⟨vc, hvc, rfl⟩, hs⟩
  | map f args =>
    rw [hkd] at hk hvals hvo
    have ht : Target env s n (env.fn f vals) := by
      simp only [Target, hkd]; exact ⟨vals, hvals, rfl⟩
    by_cases hf : f < fnZip
    · rw [recomputeOne_map_run env fuel n s _ f args vals hnn hv hkd hf hvo (hk.2 hf vals) g.pc] at h
      obtain ⟨ch, hs⟩ := mcv_static g hi hn (hU.logged _) e1 e2 e3 (l1 _ (isInvOf_inv _ _ _ _)) h
      exact ⟨_, ch, ht, hs⟩
    · rw [recomputeOne_mapBuiltin_run env fuel n s _ f args vals hnn hv hkd hf hk.1 hvo] at h
      obtain ⟨ch, hs⟩ := mcv_static g hi hn hU e1 e2 e3 l0 h
      exact ⟨_, ch, ht, hs⟩
  | fold f init cs =>
    rw [hkd] at hvals hvo
    have ht : Target env s n (vals.foldl (env.foldStep f) init) := by
      simp only [Target, hkd]; exact ⟨vals, hvals, rfl⟩
    rw [recomputeOne_fold_run env fuel n s _ f init cs vals hnn hv hkd hvo g.pc] at h
    obtain ⟨ch, hs⟩ := mcv_static g hi hn (hU.logged _) e1 e2 e3 (l1 _ (isInvOf_inv _ _ _ _)) h
    exact ⟨_, ch, ht, hs⟩
  | mapRef _ _ => rw [hkd] at hk; exact hk.elim
  | mapWithOld _ _ => rw [hkd] at hk; exact hk.elim
  | bindLhsChange _ => rw [hkd] at hk; exact hk.elim
  | bindMain _ _ => rw [hkd] at hk; exact hk.elim
  | expert _ => rw [hkd] at hk; exact hk.elim

end IncrVerif.Proofs.CutH

namespace IncrVerif.Proofs.Sched
open IncrVerif.Engine IncrVerif.Proofs IncrVerif.Proofs.Step

/-- a successful `recomputeOne` on a necessary node of a static graph whose children all have values:
it stores the target value `v` of the node's defining expression and is described by `StepRel` -/
theorem recomputeOne_static {env : Env} {fuel n : Nat} {s s' : State} {r : Option Nat}
    (g : Graph env s) (hi : HeapInv s) (hn : s.isNecessary n = true)
    (hvals : ∃ vals, plainVals s (kids (s.nodeD n).kind) = some vals)
    (h : (recomputeOne env fuel n).run.run s = (.ok r, s')) :
    ∃ v ch, Target env s n v ∧ StepRel n v ch r s s' := by
  obtain ⟨v, ch, ht, R⟩ := CutH.recomputeOne_static g.toC hi hn hvals h
  exact ⟨v, ch, ht, .ofC R ((CutH.exactCut_iff _).2 (g.nec n hn).2.2.2.1)⟩

end IncrVerif.Proofs.Sched
