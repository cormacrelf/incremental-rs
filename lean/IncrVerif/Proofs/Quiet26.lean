import IncrVerif.Proofs.Quiet20
import IncrVerif.Proofs.CutH38
/-!
# Part 26: operands that exist resolve
-/
namespace IncrVerif.Proofs.Quiet
open IncrVerif.Engine IncrVerif.Driver IncrVerif.Proofs IncrVerif.Proofs.Step IncrVerif.Proofs.Sched

/-- a top-level handle that exists resolves -/
theorem resolveOpnd_run {s : State} {o : Opnd} (ho : OpndIn s o) :
    ∃ n, (resolveOpnd [] o).run.run s = (.ok n, s) :=
  CutH.resolveOpnd_run ho

theorem mapM_resolve_run {s : State} :
    ∀ (l : List Opnd), (∀ a, a ∈ l → OpndIn s a) →
      ∃ r, (l.mapM (fun o => resolveOpnd [] o)).run.run s = (.ok r, s) :=
  CutH.mapM_resolve_run

end IncrVerif.Proofs.Quiet
