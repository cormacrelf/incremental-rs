import IncrVerif.Proofs.BindH4
/-!
# Binds, BS1: helpers for one `recomputeOne` on a static-kind or `bindMain` node in a graph with binds

`Sched4`'s `childChanged_static`, `picrn_static`, `ParentOK`, `mcvm_heap` for parents of `BKind`;
the decoded `can_recompute_now` flag (`CanOK`) and the derivation of `HandOK` from it.
-/
namespace IncrVerif.Proofs.BindH
open IncrVerif.Engine IncrVerif.Proofs IncrVerif.Proofs.Step IncrVerif.Proofs.Sched
namespace BS

/-! ## small tools -/

theorem kind?_of_valid {nd : Node} (hv : nd.valid = true) : nd.kind? = some nd.kind := by
  simp [Node.kind?, hv]

theorem BKind.not_mapRef {env : Env} {k : Kind} (h : BKind env k) (p i : Nat) : k ≠ .mapRef p i := by
  intro e; subst e; exact h

/-- a list of length at most one with an entry `n` is `[n]` -/
theorem singleton_of_getElem? {l : List Nat} {i n : Nat} (hl : l.length ≤ 1) (h : l[i]? = some n) :
    l = [n] := by
  match l, i with
  | [], _ => simp at h
  | [a], 0 => simp at h; rw [h]
  | [a], i+1 => simp at h
  | _ :: _ :: _, _ => simp at hl

/-- `child_changed` on a valid parent of a kind of the bind fragment does nothing -/
theorem childChanged_bkind {env : Env} {fuel p c ci : Nat} {o : Option Val} {t t' : State} {u : Unit}
    {pn : Node} (hp : t.nodes[p]? = some pn) (hv : pn.valid = true) (hk : BKind env pn.kind)
    (h : (childChanged env fuel p c ci o).run.run t = (.ok u, t')) : t' = t := by
  cases fuel with
  | zero => unfold childChanged at h; cases h
  | succ fuel =>
    unfold childChanged at h
    rw [run_bind_ok (run_getNode_some hp)] at h
    rw [kind?_of_valid hv] at h
    cases hkd : pn.kind <;> rw [hkd] at h hk
    case const => exact (pure_ok_inv h).2
    case var => exact (pure_ok_inv h).2
    case map => exact (pure_ok_inv h).2
    case fold => exact (pure_ok_inv h).2
    case bindLhsChange => exact (pure_ok_inv h).2
    case bindMain => exact (pure_ok_inv h).2
    all_goals exact False.elim hk

/-! ## the decoded `can_recompute_now` flag -/

/-- the change detector of the scope `p` was created in is below `minH` -/
def ScopeAbove (X : State) (p : Nat) (minH : Int) : Prop :=
  ∀ b br, (X.nodeD p).createdIn = .bind b → X.binds[b]? = some br →
    (X.nodeD br.lhsChange).height < minH

/-- why `parent_iter_can_recompute_now p n` answered "yes" (`minH` = what `min_height` returned) -/
def CanOK (X : State) (n p : Nat) (minH : Int) : Prop :=
  (((∃ f args, (X.nodeD p).kind = .map f args ∧ args.length ≤ 1) ∨
      (∃ b, (X.nodeD p).kind = .bindLhsChange b)) ∧ ScopeAbove X p minH) ∨
  (∃ b lc, (X.nodeD p).kind = .bindMain b lc ∧ (X.nodeD lc).height < (X.nodeD n).height ∧
      (X.nodeD lc).height < minH) ∨
  (X.nodeD p).height ≤ minH

theorem CanOK.congr {X Y : State} {n p : Nat} {minH : Int}
    (hk : ∀ m, (Y.nodeD m).kind = (X.nodeD m).kind)
    (hc : ∀ m, (Y.nodeD m).createdIn = (X.nodeD m).createdIn)
    (hh : ∀ m, (Y.nodeD m).height = (X.nodeD m).height) (hb : Y.binds = X.binds)
    (h : CanOK X n p minH) : CanOK Y n p minH := by
  have hsa : ScopeAbove X p minH → ScopeAbove Y p minH := by
    intro hs b br hsc hbr
    rw [hh]
    exact hs b br (by rw [← hc]; exact hsc) (by rw [← hb]; exact hbr)
  rcases h with ⟨hkk, hs⟩ | ⟨b, lc, h1, h2, h3⟩ | h
  · refine Or.inl ⟨?_, hsa hs⟩
    rcases hkk with ⟨f, args, h1, h2⟩ | ⟨b, h1⟩
    · exact Or.inl ⟨f, args, by rw [hk]; exact h1, h2⟩
    · exact Or.inr ⟨b, by rw [hk]; exact h1⟩
  · exact Or.inr (Or.inl ⟨b, lc, by rw [hk]; exact h1, by rw [hh, hh]; exact h2, by rw [hh]; exact h3⟩)
  · exact Or.inr (Or.inr (by rw [hh]; exact h))

theorem scopeAbove_of {t : State} {p : Nat} {ch minH : Int}
    (h : (scopeHeightOf t (t.nodeD p).createdIn).map
      (fun sh => decide (ch > sh) && decide (minH > sh)) = .ok true) :
    ScopeAbove t p minH := by
  intro b br hsc hb
  rw [hsc] at h
  simp only [scopeHeightOf, hb] at h
  cases hl : t.nodes[br.lhsChange]? with
  | none => rw [hl] at h; cases h
  | some x =>
    rw [hl] at h
    simp only [Except.map] at h
    injection h with h
    simp only [Bool.and_eq_true, decide_eq_true_eq] at h
    rw [nodeD_of_some hl]; omega

/-- `parent_iter_can_recompute_now` on a valid parent of a kind of the bind fragment: either "yes" with the
decoded reason, or the parent is queued -/
theorem picrn_b {env : Env} {p child : Nat} {t t' : State} {b : Bool} {pn : Node}
    (hp : t.nodes[p]? = some pn) (hv : pn.valid = true) (hk : BKind env pn.kind)
    (h : (parentIterCanRecomputeNow p child).run.run t = (.ok b, t')) :
    (b = true ∧ t' = withMinHeight t ∧ CanOK t child p (minHeightOf t)) ∨
    (b = false ∧ 0 ≤ pn.height ∧ pn.height ≤ (withMinHeight t).rch.maxAllowed ∧
      t' = inserted p pn.height (withMinHeight t)) := by
  rw [picrn_run, hp] at h
  have hk? : pn.kind? = some pn.kind := kind?_of_valid hv
  have epn : t.nodeD p = pn := nodeD_of_some hp
  simp only [hk?] at h
  cases hc : t.nodes[child]? with
  | none => rw [hc] at h; cases h
  | some cn =>
    rw [hc] at h
    have ecn : t.nodeD child = cn := nodeD_of_some hc
    dsimp only at h
    cases hcan : canRecomputeNow t pn pn.kind cn.height (minHeightOf t) with
    | error e => rw [hcan] at h; cases h
    | ok can =>
      rw [hcan] at h
      dsimp only at h
      split at h
      · rename_i hyes
        cases h
        refine Or.inl ⟨rfl, rfl, ?_⟩
        rw [Bool.or_eq_true] at hyes
        rcases hyes with hyes | hyes
        · subst hyes
          cases hkd : pn.kind <;> rw [hkd] at hcan hk <;> simp only [canRecomputeNow] at hcan
          case const => cases hcan
          case var => cases hcan
          case fold => cases hcan
          case map f args =>
            split at hcan
            · cases hcan
            · rename_i hlen
              rw [← epn] at hcan
              exact Or.inl ⟨Or.inl ⟨f, args, by rw [epn]; exact hkd, by omega⟩, scopeAbove_of hcan⟩
          case bindLhsChange b =>
            rw [← epn] at hcan
            exact Or.inl ⟨Or.inr ⟨b, by rw [epn]; exact hkd⟩, scopeAbove_of hcan⟩
          case bindMain b lc =>
            cases hl : t.nodes[lc]? with
            | none => rw [hl] at hcan; cases hcan
            | some l =>
              rw [hl] at hcan
              injection hcan with hcan
              simp only [Bool.and_eq_true, decide_eq_true_eq] at hcan
              refine Or.inr (Or.inl ⟨b, lc, by rw [epn]; exact hkd, ?_, ?_⟩)
              · rw [nodeD_of_some hl, ecn]; omega
              · rw [nodeD_of_some hl]; omega
          all_goals exact False.elim hk
        · right; right
          rw [epn]; simpa using hyes
      split at h
      · cases h
      split at h
      · cases h
      rcases hi : (rchInsert p).run.run (withMinHeight t) with ⟨_ | u, s2⟩
      · rw [hi] at h; cases h
      · rw [hi] at h
        cases h
        obtain ⟨nd, hnd, h0, hmax, rfl⟩ := rchInsert_ok_inv hi
        have : nd = pn := by
          have e : (withMinHeight t).nodes[p]? = t.nodes[p]? := rfl
          rw [e, hp] at hnd; cases hnd; rfl
        subst this
        exact Or.inr ⟨rfl, h0, hmax, rfl⟩

/-! ## `HandOK` from the decoded flag -/

theorem handOK_of_can {env : Env} {s s' : State} {n p : Nat} {minH : Int} (g : BGraph env s)
    (hmem : p ∈ (s.nodeD n).parents.map (·.1)) (hcan : CanOK s n p minH)
    (hle : ∀ m, (s'.nodeD m).inRch = true → minH ≤ (s.nodeD m).height) : HandOK s s' n p := by
  obtain ⟨⟨p', i⟩, hmem', rfl⟩ := List.mem_map.1 hmem
  dsimp only at hcan ⊢
  obtain ⟨hpn, hci⟩ := g.parent n p' i hmem'
  have hv := (g.nec p' hpn).1
  have hlt := nec_lt_size hpn
  have hk? := kind?_of_valid hv
  have sclear : ScopeAbove s p' minH → ScopeClear s s' p' := by
    intro h b br hsc hb m hm
    have := h b br hsc hb
    have := hle m hm
    omega
  rcases hcan with ⟨hkk, hs⟩ | ⟨b, lc, hkd, hlt1, hlt2⟩ | hh
  · -- one child
    refine Or.inl ⟨singleton_of_getElem? ?_ hci, sclear hs⟩
    rcases hkk with ⟨f, args, hkd, hlen⟩ | ⟨b, hkd⟩
    · simp only [State.children, hk?, hkd]; exact hlen
    · simp only [State.children, hk?, hkd]
      split <;> simp
  · -- bind main
    obtain ⟨br, hbr, -, -, hsc⟩ := g.mainRec p' b lc hlt hv hkd
    have hch : s.children p' = [lc, n] := by
      simp only [State.children, hk?, hkd, hbr] at hci ⊢
      cases hr : br.rhs with
      | none =>
        rw [hr] at hci
        have e := singleton_of_getElem? (by simp) hci
        injection e with e
        rw [e] at hlt1; omega
      | some r =>
        rw [hr] at hci
        dsimp only at hci ⊢
        match i, hci with
        | 0, hci => simp at hci; rw [hci] at hlt1; omega
        | 1, hci => simp at hci; rw [hci]
        | _+2, hci => simp at hci
    refine Or.inr (Or.inr ⟨b, lc, hkd, hch, ?_, ?_⟩)
    · intro b' br' hsc' hb' m hm
      have hlcmem : lc ∈ s.children p' := by rw [hch]; simp
      obtain ⟨hlclt, hlcv⟩ := (g.node p' hlt hv).2.2 lc hlcmem
      have hlcn := (g.child p' hpn 0 lc (by rw [hch]; rfl)).1
      obtain ⟨br2, hb2, -, -, hrule⟩ := g.scope lc b' hlclt hlcv (hsc.trans hsc')
      rw [hb'] at hb2; cases hb2
      have := (hrule hlcn).2
      have := hle m hm
      omega
    · intro m hm
      have := hle m hm
      omega
  · refine Or.inr (Or.inl ?_)
    intro m hm
    have := hle m hm
    omega

/-! ## the notification walk keeps the heap invariant -/

/-- what is needed of a parent that gets notified -/
structure ParentOK (env : Env) (T : State) (p : Nat) : Prop where
  lt : p < T.nodes.size
  valid : (T.nodeD p).valid = true
  kind : BKind env (T.nodeD p).kind
  nec : T.isNecessary p = true

theorem ParentOK.quiet {env : Env} {T t : State} {p : Nat} (h : ParentOK env T p) (q : Quiet T t) :
    ParentOK env t p :=
  ⟨by rw [q.size]; exact h.lt, by rw [(q.node p).valid]; exact h.valid,
   by rw [(q.node p).kind]; exact h.kind,
   by have := (q.node p).isNecessary; unfold State.isNecessary; rw [this]; exact h.nec⟩

theorem kinv_inserted {T t : State} {P : List Nat} {p : Nat} {na : Node} (k : KInv T P t)
    (hnec : t.isNecessary p = true) (hmem : p ∈ P) (hna : t.nodes[p]? = some na)
    (hnot : na.inRch = false) (h0 : 0 ≤ na.height) (hmax : na.height ≤ t.rch.maxAllowed) :
    KInv T P (inserted p na.height t) := by
  refine ⟨k.q.trans (Quiet.inserted p na.height t h0),
    k.heap.inserted hna hnot h0 hmax hnec, fun m hm => ?_, ?_⟩
  rotate_left
  · show (t.rch.queues.modify na.height.toNat (· ++ [p])).size = T.rch.queues.size
    rw [Array.size_modify]; exact k.qsize
  rcases (inserted_inRch p na.height t (lt_of_some hna) h0 m).1 hm with rfl | hm
  · exact Or.inr hmem
  · exact k.only m hm

/-- the notification part of a propagating `maybe_change_value_manual`, in terms of the state `T` in which it
starts (value stored, `changedAt` stamped): heap invariant kept, only parents queued; the handed-over parent
is not queued, comes with the decoded flag, and everything queued is at or above `min_height` -/
theorem mcvm_heapB {env : Env} {fuel n : Nat} {o : Option Val} {T0 s' : State} {r : Option Nat}
    (hi : HeapInv (touched n T0))
    (hpar : ∀ p, p ∈ ((touched n T0).nodeD n).parents.map (·.1) → ParentOK env (touched n T0) p)
    (h : (maybeChangeValueManual env fuel n o true true).run.run T0 = (.ok r, s')) :
    KInv (touched n T0) (((touched n T0).nodeD n).parents.map (·.1)) s' ∧
    ∀ p, r = some p → p ∈ ((touched n T0).nodeD n).parents.map (·.1) ∧
      (s'.nodeD p).inRch = false ∧
      ∃ minH, CanOK (touched n T0) n p minH ∧
        ∀ m, (s'.nodeD m).inRch = true → minH ≤ ((touched n T0).nodeD m).height := by
  generalize hT : touched n T0 = T at hi hpar ⊢
  generalize hP : (T.nodeD n).parents.map (·.1) = P at hpar ⊢
  unfold maybeChangeValueManual at h
  simp only [Bool.not_true, Bool.false_eq_true, if_false, if_true, run_bind_get, run_bind_modNode,
    run_bind_bumpCounter] at h
  obtain ⟨u, s1, h1, h2⟩ := bind_ok_inv h
  have h1' : (maybeHandleAfterStabilisation n).run.run T = (.ok u, s1) := by rw [← hT]; exact h1
  have k1 : KInv T P s1 := (KInv.refl P hi).mhas h1'
  obtain ⟨nd1, s1', hg, h3⟩ := bind_ok_inv h2
  obtain ⟨rfl, hnd1⟩ := getNode_ok_inv hg
  have hpar1 : nd1.parents = (T.nodeD n).parents := by
    have := (k1.q.node n).parents
    rw [nodeD_of_some hnd1] at this
    exact this
  rw [hpar1] at h3
  rcases hps : (T.nodeD n).parents with _ | ⟨⟨p0, ci0⟩, rest⟩
  · rw [hps] at h3
    obtain ⟨rfl, rfl⟩ := pure_ok_inv h3
    exact ⟨k1, fun p hp => by cases hp⟩
  rw [hps] at h3 hP
  dsimp only at h3
  obtain ⟨u2, s2, hloop, hlast⟩ := bind_ok_inv h3
  have hmem0 : p0 ∈ P := by rw [← hP]; simp
  have hmemr : ∀ a, a ∈ rest → a.1 ∈ P := by
    intro a ha; rw [← hP]; exact List.mem_cons_of_mem _ (List.mem_map_of_mem ha)
  -- the loop over the other parents
  have k2 : KInv T P s2 := by
    refine forIn_ok_keep (KInv T P) _ rest ?_ s1' _ s2 k1 hloop
    intro a ha t r t' k hb
    obtain ⟨p, ci⟩ := a
    have hpT := hpar p (hmemr _ ha)
    have hpt := hpT.quiet k.q
    obtain ⟨_, t1, hcc, hb1⟩ := bind_ok_inv hb
    have hpn := some_of_lt hpt.lt
    obtain rfl := childChanged_bkind hpn hpt.valid hpt.kind hcc
    rw [run_bind_get] at hb1
    obtain ⟨na, hna, hb4⟩ := bind_getNode_inv (bind_dassert_inv hb1)
    split at hb4
    · rename_i hin
      obtain ⟨_, t5, hins, hb5⟩ := bind_ok_inv hb4
      obtain ⟨rfl, rfl⟩ := pure_ok_inv hb5
      obtain ⟨nd, hnd, h0, hmax, rfl⟩ := rchInsert_ok_inv hins
      rw [hna] at hnd; cases hnd
      exact kinv_inserted k hpt.nec (hmemr _ ha) hna (by simpa using hin) h0 hmax
    · obtain ⟨rfl, rfl⟩ := pure_ok_inv hb4
      exact k
  -- the first parent
  have hp0T := hpar p0 hmem0
  have hp0 := hp0T.quiet k2.q
  obtain ⟨_, s3, hcc, hl1⟩ := bind_ok_inv hlast
  have hpn0 := some_of_lt hp0.lt
  obtain rfl := childChanged_bkind hpn0 hp0.valid hp0.kind hcc
  rw [run_bind_get] at hl1
  obtain ⟨nd0, hnd0, hl4⟩ := bind_getNode_inv (bind_dassert_inv hl1)
  have e0 : s3.nodeD p0 = nd0 := nodeD_of_some hnd0
  split at hl4
  · rename_i hin
    have hnot : nd0.inRch = false := by simpa using hin
    obtain ⟨b, s4, hpi, hl5⟩ := bind_ok_inv hl4
    have hv0 : nd0.valid = true := by rw [← e0]; exact hp0.valid
    have hk0 : BKind env nd0.kind := by rw [← e0]; exact hp0.kind
    rcases picrn_b hnd0 hv0 hk0 hpi with ⟨rfl, rfl, hyes⟩ | ⟨rfl, h0, hmax, rfl⟩
    · simp only [if_true] at hl5
      obtain ⟨rfl, rfl⟩ := pure_ok_inv hl5
      refine ⟨k2.withMinHeight, fun p hp => ?_⟩
      cases hp
      refine ⟨hmem0, ?_, minHeightOf s3, ?_, ?_⟩
      · show (s3.nodeD p0).inRch = false
        rw [e0]; exact hnot
      · exact CanOK.congr (fun m => ((k2.q.node m).kind).symm) (fun m => ((k2.q.node m).createdIn).symm)
          (fun m => ((k2.q.node m).height).symm) k2.q.binds.symm hyes
      · intro m hm
        have hm' : (s3.nodeD m).inRch = true := hm
        have := minHeightOf_le k2.heap hm'
        rw [← (k2.q.node m).height]
        exact this
    · simp only [Bool.false_eq_true, if_false] at hl5
      obtain ⟨rfl, rfl⟩ := pure_ok_inv hl5
      refine ⟨kinv_inserted k2.withMinHeight hp0.nec hmem0 (by exact hnd0) hnot h0 hmax,
        fun p hp => by cases hp⟩
  · obtain ⟨rfl, rfl⟩ := pure_ok_inv hl4
    exact ⟨k2, fun p hp => by cases hp⟩

end BS
end IncrVerif.Proofs.BindH
