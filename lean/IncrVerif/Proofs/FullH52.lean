import IncrVerif.Proofs.FullH48
import IncrVerif.Proofs.FullH50
import IncrVerif.Proofs.FullH51
/-!
# C01 full fragment: whole histories
-/
namespace IncrVerif.Proofs.FullH
open IncrVerif.Engine IncrVerif.Driver IncrVerif.Proofs IncrVerif.Proofs.Step IncrVerif.Proofs.Sched IncrVerif.Proofs.Quiet
open IncrVerif.Proofs.NestH (GenOK2 F2Inv QG2 QI2 QInv2 den2 ProgOK progOf progStep ObsNamed ZipPair)
open IncrVerif.Proofs.NestH.N7k (BKey)

section
variable {env : Env} {sp : Nat → Val → Val}

/-- the invariant of a history: the invariant between API actions, the virtual state is described by the program text of the VIRTUAL history, observers watch named nodes -/
def HI (env : Env) (sp : Nat → Val → Val) (po : Nat → Bool) (acts : List Action) (s : State) : Prop :=
  ∃ g, QInvF env sp s g ∧ ProgOK (progOf (VE env sp) po (acts.map virtA)) (VE env sp) (virt g s) ∧ ObsNamed s

theorem zipPair_virt (Z : ZipPair env) : ZipPair (VE env sp) := by
  intro a b
  rw [virtEnv_fn_real env sp (by decide : fnZip < pBase)]
  exact Z a b

theorem bkey_virt {s s' : State} (g g' : Nat → Option Val) (K : BKey s s') : BKey (virt g s) (virt g' s') where
  size := by rw [virt_size, virt_size]; exact K.size
  kind m hm := by
    rw [virt_size] at hm
    rw [virt_nodeD, virt_nodeD, virtNode_kind, virtNode_kind, K.kind m hm]
  binds := K.binds

theorem stabilise_run_of_step {s s' : State} {tk : Array Nat} {r : String × Array Nat}
    (h : (stepAction env .stabilise tk).run.run s = (.ok r, s')) :
    (stabilise env fuelDefault).run.run s = (.ok (), s') ∧ r.2 = tk := by
  obtain ⟨hst, rfl⟩ := Hist.stepAction_stabilise_ok.1 h
  exact ⟨hst, rfl⟩

/-- **one API action of the full fragment keeps the history invariant** -/
theorem step_hi (X : Kit env sp) {po : Nat → Bool} {acts : List Action} {s s' : State} {a : Action} {tk : Array Nat}
    {r : String × Array Nat} (H : HI env sp po acts s) (hA : ActionFull env sp s.top.size a)
    (h : (stepAction env a tk).run.run s = (.ok r, s')) : HI env sp po (acts ++ [a]) s' := by
  obtain ⟨g, Q, P, O⟩ := H
  have hprog : progOf (VE env sp) po ((acts ++ [a]).map virtA) = progStep (progOf (VE env sp) po (acts.map virtA)) (virtA a) := by
    rw [List.map_append, NestH.progOf_append]; rfl
  by_cases hs : a = .stabilise
  · subst hs
    obtain ⟨hst, -⟩ := stabilise_run_of_step h
    obtain ⟨g', R⟩ := stabilise_full X Q hst
    obtain ⟨rk, Qv⟩ := Q.q.1
    refine ⟨g', R.inv, ?_, ?_⟩
    · rw [hprog]
      show ProgOK (progOf (VE env sp) po (acts.map virtA)) (VE env sp) (virt g' s')
      have K := bkey_virt g g' ((NestH.N7k.PresBK.stabilise env fuelDefault).h _ _ _ hst)
      exact NestH.N7.progOK_frame P (NestH.N7.top_in Qv) R.top K (fun c => by
        show (s'.vars[c]?).map VarCell.value = (s.vars[c]?).map VarCell.value
        rw [R.vars])
    · intro o ob' ho
      have hlt : o < s.observers.size := by rw [← R.obs.1]; exact (Array.getElem?_eq_some_iff.1 ho).1
      obtain ⟨ob1, k1, k2, -⟩ := R.obs.2 o s.observers[o] (Array.getElem?_eq_getElem hlt)
      rw [ho] at k1; cases k1
      obtain ⟨j, hj⟩ := O o s.observers[o] (Array.getElem?_eq_getElem hlt)
      exact ⟨j, by rw [R.top, k2]; exact hj⟩
  · obtain ⟨ht, hlc⟩ := topLt_of_qg2 Q.q
    obtain ⟨hv, -, -⟩ := stepAction_sim hA hs Q.frag ht hlc h
    have Q' := step_fullG Q hA hs h
    have haV : NestH.ActionF2 (VE env sp) (virt g s).top.size (virtA a) := actionF2_virt hA
    refine ⟨g, Q', ?_, ?_⟩
    · rw [hprog]
      exact NestH.progOK_step Q.q.1 haV hv P
    · exact NestH.obsNamed_step (s := virt g s) (s' := virt g s') Q.q.1 haV hv O

theorem hi_init (env : Env) (sp : Nat → Val → Val) (po : Nat → Bool) (N : Nat) (d : Bool) :
    HI env sp po [] (State.init N d) := by
  obtain ⟨g, Q⟩ := qinvF_init env sp N d
  refine ⟨g, Q, ?_, NestH.obsNamed_init N d⟩
  rw [virt_init]
  exact NestH.progOK_init (VE env sp) po N d

theorem histFull_cons {T : Nat} {a : Action} {as : List Action} (h : HistFull env sp T (a :: as)) :
    ActionFull env sp T a ∧ HistFull env sp (nextT a T) as := h

theorem top_step {s s' : State} {a : Action} {tk : Array Nat} {r : String × Array Nat} {g : Nat → Option Val}
    (X : Kit env sp) (Q : QInvF env sp s g) (hA : ActionFull env sp s.top.size a)
    (h : (stepAction env a tk).run.run s = (.ok r, s')) (l : List Action)
    (hl : HistFull env sp (nextT a s.top.size) l) :
    HistFull env sp s'.top.size l := by
  by_cases hs : a = .stabilise
  · subst hs
    obtain ⟨hst, -⟩ := stabilise_run_of_step h
    obtain ⟨g', R⟩ := stabilise_full X Q hst
    rw [R.top]; exact hl
  · obtain ⟨ht, hlc⟩ := topLt_of_qg2 Q.q
    obtain ⟨hv, -, -⟩ := stepAction_sim hA hs Q.frag ht hlc h
    have haV : NestH.ActionF2 (VE env sp) (virt g s).top.size (virtA a) := actionF2_virt hA
    have := NestH.N4h.top_step2 Q.q.1 haV hv
    have e : (virt g s').top.size = s'.top.size := rfl
    have e2 : (virt g s).top.size = s.top.size := rfl
    rw [e, e2] at this
    rw [this]
    cases a <;> try exact hl
    rename_i i
    cases i <;> exact hl

/-- a run of `as ++ bs` from a state satisfying the history invariant -/
theorem runActions_split (X : Kit env sp) {po : Nat → Bool} {pre as bs : List Action} {s s' : State} {tk tk' : Array Nat}
    (H : HI env sp po pre s) (hH : HistFull env sp s.top.size (as ++ bs))
    (h : Quiet.runActions env (as ++ bs) s tk = .ok (s', tk')) :
    ∃ s1 tk1, Quiet.runActions env as s tk = .ok (s1, tk1) ∧ HI env sp po (pre ++ as) s1 ∧ HistFull env sp s1.top.size bs ∧
      Quiet.runActions env bs s1 tk1 = .ok (s', tk') := by
  obtain ⟨s1, tk1, h1, ⟨done, e, H1, hH1⟩, h2⟩ := Hist.runActions_split
    (I := fun s _ rest => ∃ done, done ++ rest = pre ++ (as ++ bs) ∧ HI env sp po done s ∧ HistFull env sp s.top.size rest)
    (fun a rest s tk r s' ⟨done, e, H, hH⟩ hx => by
      obtain ⟨ha, hrest⟩ := histFull_cons hH
      have H1 := step_hi X H ha hx
      obtain ⟨g, Q, -, -⟩ := H
      exact ⟨done ++ [a], by rw [List.append_assoc]; exact e, H1, top_step X Q ha hx _ hrest⟩)
    ⟨pre, rfl, H, hH⟩ h
  rw [← List.append_assoc] at e
  rw [List.append_cancel_right e] at H1
  exact ⟨s1, tk1, h1, H1, hH1, h2⟩

/-- **Whole histories.** Every state reached from the initial state by a history of the full fragment (that runs without panic) satisfies the invariant. -/
theorem history_full (X : Kit env sp) {po : Nat → Bool} {N : Nat} {d : Bool} {acts : List Action} {s : State} {tk : Array Nat}
    (hH : HistFull env sp 0 acts) (h : Quiet.runActions env acts (State.init N d) #[] = .ok (s, tk)) :
    HI env sp po acts s := by
  have hH' : HistFull env sp (State.init N d).top.size (acts ++ []) := by rw [List.append_nil]; exact hH
  have h' : Quiet.runActions env (acts ++ []) (State.init N d) #[] = .ok (s, tk) := by
    rw [List.append_nil]; exact h
  obtain ⟨s1, tk1, -, Q1, -, h2⟩ := runActions_split X (hi_init env sp po N d) hH' h'
  simp only [Quiet.runActions] at h2
  cases h2
  exact Q1

/-- **Every `stabilise` of a history of the full fragment**: the state before it satisfies the invariant, and afterwards every in-use observer watches a named
node `top[j]` and reads `Spec.denoteTop` of handle `j` in the program text of the VIRTUAL history (map_ref / map_with_old instructions replaced by pure `map`s
with the projection / the machine's specification `sp m`) -/
theorem history_stabilise_virt (X : Kit env sp) (po : Nat → Bool) (Z : ZipPair env) {N : Nat} {d : Bool} {as bs : List Action}
    {s : State} {tk : Array Nat} (hH : HistFull env sp 0 (as ++ Action.stabilise :: bs))
    (h : Quiet.runActions env (as ++ Action.stabilise :: bs) (State.init N d) #[] = .ok (s, tk)) :
    ∃ s1 tk1 s2, Quiet.runActions env as (State.init N d) #[] = .ok (s1, tk1) ∧ QInvFE env sp s1 ∧
      (stabilise env fuelDefault).run.run s1 = (.ok (), s2) ∧ QInvFE env sp s2 ∧
      (∀ (o : Nat) (ob : ObsRec), s2.observers[o]? = some ob → ob.state = .inUse →
        ∃ v j, s2.tryGetValue env o = .ok v ∧ s2.top[j]? = some ob.node ∧
          ∃ F, ∀ f, F ≤ f → Spec.denoteTop (progOf (VE env sp) po (as.map virtA)) f j = some v) ∧
      (∀ n, s2.isNecessary n = true → (s2.nodeD n).valid = true ∧ s2.isStale n = false) ∧
      Quiet.runActions env bs s2 tk1 = .ok (s, tk) := by
  obtain ⟨s1, tk1, h1, H1, hH1, h2⟩ := runActions_split X (hi_init env sp po N d) hH h
  rw [List.nil_append] at H1
  simp only [Quiet.runActions] at h2
  rcases hx : (stepAction env .stabilise tk1).run.run s1 with ⟨_ | r, s2⟩
  · rw [hx] at h2; cases h2
  · rw [hx] at h2
    replace h2 : Quiet.runActions env bs s2 r.2 = .ok (s, tk) := h2
    obtain ⟨hst, htk⟩ := stabilise_run_of_step hx
    rw [htk] at h2
    obtain ⟨g, Q, P, O⟩ := H1
    obtain ⟨g', R⟩ := stabilise_full X Q hst
    obtain ⟨rk, Qv⟩ := Q.q.1
    have P2 : ProgOK (progOf (VE env sp) po (as.map virtA)) (VE env sp) (virt g' s2) := by
      have K := bkey_virt g g' ((NestH.N7k.PresBK.stabilise env fuelDefault).h _ _ _ hst)
      exact NestH.N7.progOK_frame P (NestH.N7.top_in Qv) R.top K (fun c => by
        show (s2.vars[c]?).map VarCell.value = (s1.vars[c]?).map VarCell.value
        rw [R.vars])
    refine ⟨s1, tk1, s2, h1, ⟨g, Q⟩, hst, ⟨g', R.inv⟩, ?_, R.fresh, h2⟩
    intro o ob ho hu
    obtain ⟨v, hv, K, hK⟩ := stabF_reads R o ob ho hu
    have hlt : o < s1.observers.size := by rw [← R.obs.1]; exact (Array.getElem?_eq_some_iff.1 ho).1
    obtain ⟨ob1, k1, k2, -⟩ := R.obs.2 o s1.observers[o] (Array.getElem?_eq_getElem hlt)
    rw [ho] at k1; cases k1
    obtain ⟨j, hj⟩ := O o s1.observers[o] (Array.getElem?_eq_getElem hlt)
    have hj2 : (virt g' s2).top[j]? = some ob.node := by
      show s2.top[j]? = _
      rw [R.top, k2]; exact hj
    exact ⟨v, j, hv, hj2, (NestH.agree_large P2 (zipPair_virt Z) hj2 v).1 ⟨K, hK⟩⟩

/-- **HEADLINE (identity machines): reads = the text-level reference semantics of the ACTUAL program.**  If every `map_with_old` machine is a pure identity
machine (`sp m v = v`; the reference semantics `Spec.denote` covers exactly these: `po m = true`), then at every `stabilise` of a history of the full fragment
every in-use observer reads `Spec.denoteTop` of its handle in the program text of the prefix, evaluated on the current variable values. -/
theorem history_stabilise_denote (X : Kit env sp) (E : EnvS env sp) (po : Nat → Bool) (Z : ZipPair env)
    (hpo : ∀ m, po m = true) (hsp : ∀ m v, sp m v = v) (hF : FirstFn env) {N : Nat} {d : Bool} {as bs : List Action}
    {s : State} {tk : Array Nat} (hH : HistFull env sp 0 (as ++ Action.stabilise :: bs))
    (h : Quiet.runActions env (as ++ Action.stabilise :: bs) (State.init N d) #[] = .ok (s, tk)) :
    ∃ s1 tk1 s2, Quiet.runActions env as (State.init N d) #[] = .ok (s1, tk1) ∧
      (stabilise env fuelDefault).run.run s1 = (.ok (), s2) ∧ QInvFE env sp s2 ∧
      (∀ (o : Nat) (ob : ObsRec), s2.observers[o]? = some ob → ob.state = .inUse →
        ∃ v j, s2.tryGetValue env o = .ok v ∧ s2.top[j]? = some ob.node ∧
          ∃ F, ∀ f, F ≤ f → Spec.denoteTop (progOf env po as) f j = some v) ∧
      Quiet.runActions env bs s2 tk1 = .ok (s, tk) := by
  obtain ⟨s1, tk1, s2, h1, -, hst, Q2, hr, -, h2⟩ := history_stabilise_virt X po Z hH h
  refine ⟨s1, tk1, s2, h1, hst, Q2, ?_, h2⟩
  intro o ob ho hu
  obtain ⟨v, j, hv, hj, F, hFv⟩ := hr o ob ho hu
  refine ⟨v, j, hv, hj, F, fun f hf => ?_⟩
  rw [← denoteTop_virt_hist E (histFull_append as _ 0 hH) hpo hsp hF f j]
  exact hFv f hf

end
end IncrVerif.Proofs.FullH
