import IncrVerif.Proofs.FullT4
/-!
# C01 full fragment: simulation of the unlinking cascade, the rest of the recompute heap, and `adjust_heights`
-/
namespace IncrVerif.Proofs.FullT
set_option linter.unusedSectionVars false
open IncrVerif.Engine IncrVerif.Proofs IncrVerif.Proofs.Step IncrVerif.Proofs.Sched IncrVerif.Proofs.Quiet IncrVerif.Proofs.FullH

section
variable {K : Kind → Prop} {P : State → Prop} [Keeps P] {g : Nat → Option Val} {sp : Nat → Val → Val}

theorem BSim.removeParent (c i p : Nat) : BSim K P g (Engine.removeParent c i p) (Engine.removeParent c i p) :=
  .of_comm (Sim.removeParent c i p) fun s0 => NodeSim.Comm.removeParent (blindT s0) c i p
macro_rules | `(tactic| bsim_leaf) => `(tactic| with_reducible exact BSim.removeParent _ _ _)

theorem BSim.rchRemove (n : Nat) : BSim K P g (Engine.rchRemove n) (Engine.rchRemove n) :=
  .of_comm (Sim.rchRemove n) fun s0 => NodeSim.Comm.rchRemove (blindT s0) n
macro_rules | `(tactic| bsim_leaf) => `(tactic| with_reducible exact BSim.rchRemove _)

theorem BSim.rchRemoveMin : BSim K P g Engine.rchRemoveMin Engine.rchRemoveMin :=
  .of_comm (Sim.rchRemoveMin) fun s0 => NodeSim.Comm.rchRemoveMin (blindT s0)
macro_rules | `(tactic| bsim_leaf) => `(tactic| with_reducible exact BSim.rchRemoveMin)

theorem BSim.rchMinHeight : BSim K P g Engine.rchMinHeight Engine.rchMinHeight :=
  .of_comm (Sim.rchMinHeight) fun s0 => NodeSim.Comm.rchMinHeight (blindT s0)
macro_rules | `(tactic| bsim_leaf) => `(tactic| with_reducible exact BSim.rchMinHeight)

theorem BSim.unlink (fuel : Nat) :
    (∀ n, BSim K P g (becameUnnecessary fuel n) (becameUnnecessary fuel n)) ∧
    (∀ n, BSim K P g (checkIfUnnecessary fuel n) (checkIfUnnecessary fuel n)) ∧
    (∀ n, BSim K P g (removeChildren fuel n) (removeChildren fuel n)) :=
  ⟨fun n => .of_comm (Sim.becameUnnecessary fuel n) fun s0 => NodeSim.Comm.becameUnnecessary (blindT s0) (obsWorkT s0) fuel n,
    fun n => .of_comm (Sim.checkIfUnnecessary fuel n) fun s0 => NodeSim.Comm.checkIfUnnecessary (blindT s0) (obsWorkT s0) fuel n,
    fun n => .of_comm (Sim.removeChildren fuel n) fun s0 => NodeSim.Comm.removeChildren (blindT s0) (obsWorkT s0) fuel n⟩

theorem BSim.becameUnnecessary (fuel n : Nat) :
    BSim K P g (Engine.becameUnnecessary fuel n) (Engine.becameUnnecessary fuel n) := (BSim.unlink fuel).1 n
theorem BSim.checkIfUnnecessary (fuel n : Nat) :
    BSim K P g (Engine.checkIfUnnecessary fuel n) (Engine.checkIfUnnecessary fuel n) := (BSim.unlink fuel).2.1 n
theorem BSim.removeChildren (fuel n : Nat) :
    BSim K P g (Engine.removeChildren fuel n) (Engine.removeChildren fuel n) := (BSim.unlink fuel).2.2 n
macro_rules | `(tactic| bsim_leaf) => `(tactic| with_reducible exact BSim.becameUnnecessary _ _)
macro_rules | `(tactic| bsim_leaf) => `(tactic| with_reducible exact BSim.checkIfUnnecessary _ _)
macro_rules | `(tactic| bsim_leaf) => `(tactic| with_reducible exact BSim.removeChildren _ _)

/-! ## the adjust-heights heap -/

theorem BSim.ensureHeightRequirement (oc op child parent : Nat) :
    BSim K P g (Engine.ensureHeightRequirement oc op child parent) (Engine.ensureHeightRequirement oc op child parent) :=
  .of_comm (Sim.ensureHeightRequirement oc op child parent) fun s0 => NodeSim.Comm.ensureHeightRequirement (blindT s0) oc op child parent
macro_rules | `(tactic| bsim_leaf) => `(tactic| with_reducible exact BSim.ensureHeightRequirement _ _ _ _)

theorem BSim.adjustHeights (oc op fuel : Nat) :
    BSim K P g (Engine.adjustHeights oc op fuel) (Engine.adjustHeights oc op fuel) :=
  .of_comm (Sim.adjustHeights oc op fuel) fun s0 => NodeSim.Comm.adjustHeights (blindT s0) oc op fuel
macro_rules | `(tactic| bsim_leaf) => `(tactic| with_reducible exact BSim.adjustHeights _ _ _)

end
end IncrVerif.Proofs.FullT
