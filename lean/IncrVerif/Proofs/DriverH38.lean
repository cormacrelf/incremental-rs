import IncrVerif.Proofs.DriverH37
import IncrVerif.Props.C14History
/-!
# Drivers: non-vacuity examples (kernel-checked)
-/
namespace IncrVerif.Proofs.DriverH
open IncrVerif.Engine IncrVerif.Driver IncrVerif.Proofs IncrVerif.Proofs.Step IncrVerif.Proofs.Sched
open IncrVerif.Proofs.ExpertH IncrVerif.Proofs.ExpertH.QR IncrVerif.Proofs.EffH
open IncrVerif.Props.C14History

def effOfD : Nat → List Effect
  | 10 => [.xSel (.outer 4) false false [.outer 1, .outer 2]]
  | 11 => [.xAdd (.outer 3) (.outer 2) false, .xAdd (.outer 3) (.outer 2) true, .xRm (.outer 3) 0]
  | _ => []

def exEnvD : Env :=
  { exEnvX with
    fn := fun f args =>
      let x : Int := (args.headD .unit).toInt
      match f with
      | 0 => .int (emod x 7)
      | 1 => .int (emod (1 + x) 7)
      | 10 => .int (emod x 7)
      | 11 => .int (emod x 7)
      | _ => .int 0
    fnEff := fun f _ => effOfD f }

def exSel : List Action :=
  [.create (.var (.int 0)), .create (.var (.int 3)), .create (.var (.int 5)), .create (.map 1 [.outer 2]),
   .create (.expert 70), .create (.map 10 [.outer 0]), .addDep (.outer 4) (.outer 5) false, .observe (.outer 4),
   .stabilise, .set 0 (.int 1), .stabilise, .set 2 (.int 6), .stabilise, .set 0 (.int 2), .set 1 (.int 4), .stabilise]

def exAddRm : List Action :=
  [.create (.var (.int 1)), .create (.var (.int 2)), .create (.map 1 [.outer 1]), .create (.expert 70),
   .create (.map 11 [.outer 0]), .addDep (.outer 3) (.outer 4) false, .observe (.outer 3), .stabilise,
   .set 0 (.int 2), .stabilise, .set 1 (.int 5), .set 0 (.int 3), .stabilise]

/-- the dependency list (dependency id, child) of expert record `e` after the history -/
def depsAfter (env : Env) (acts : List Action) (e : Nat) : List (Nat × Nat) :=
  match runActions env acts (State.init 128 true) #[] with
  | .ok (s, _) => ((s.experts[e]?).map fun er => er.children.map fun ed => (ed.dep, ed.child)).getD []
  | .error _ => []

theorem effOfD_spec : ∀ f vals, exEnvD.fnEff f vals = effOfD f := fun _ _ => rfl

theorem exEnvD_sumdeps (f : Nat) (h : f % 10 = 0) : XEnvOK exEnvD f := exEnvX_sumdeps f h

/-- the user functions of the examples (`f0`, `f1`, the drivers `f10`, `f11`) and the closure `expert sumdeps 7` -/
def mapOKD : Nat → Bool := fun f => decide (f < 2) || f == 10 || f == 11
def xOKD : Nat → Bool := fun f => f == 70

theorem runOKD_of_check {acts : List Action}
    (h : runOKDB exEnvD effOfD mapOKD xOKD acts (State.init 128 true) #[] = true) :
    RunOKD exEnvD acts (State.init 128 true) #[] :=
  runOKDB_sound effOfD_spec
    (fun f hf => by
      have : f < 2 ∨ f = 10 ∨ f = 11 := by simpa [mapOKD, or_assoc] using hf
      unfold fnPerKey; omega)
    (fun f hf => by
      have : f = 70 := by simpa [xOKD] using hf
      subst this
      exact ⟨exEnvD_sumdeps 70 (by decide), by decide⟩)
    _ _ _ h

set_option maxRecDepth 100000 in
/-- `exSel` is a history of the fragment with drivers: at each of its four `stabilise`s the driver `n5 = map f10 n0` is
attached to the expert node `n4` by the protected dependency `d0`, and its targets `n1`, `n2` are expert-free -/
theorem exSel_ok : RunOKD exEnvD exSel (State.init 128 true) #[] := runOKD_of_check (by decide +kernel)

set_option maxRecDepth 100000 in
/-- `exAddRm` is a history of the fragment with drivers -/
theorem exAddRm_ok : RunOKD exEnvD exAddRm (State.init 128 true) #[] := runOKD_of_check (by decide +kernel)

set_option maxRecDepth 100000 in
/-- both histories run -/
theorem exSel_runs : ∃ s tk, runActions exEnvD exSel (State.init 128 true) #[] = .ok (s, tk) :=
  ranOk_iff (env := exEnvD) (acts := exSel) (by decide +kernel)

set_option maxRecDepth 100000 in
theorem exAddRm_runs : ∃ s tk, runActions exEnvD exAddRm (State.init 128 true) #[] = .ok (s, tk) :=
  ranOk_iff (env := exEnvD) (acts := exAddRm) (by decide +kernel)

/-- relative to the contract of `stabilise`: the final states satisfy the invariant -/
theorem exSel_inv (hStab : StabSpec exEnvD) : ∃ s tk rk,
    runActions exEnvD exSel (State.init 128 true) #[] = .ok (s, tk) ∧ QInvX (noEff exEnvD) rk s := by
  obtain ⟨s, tk, h⟩ := exSel_runs
  obtain ⟨rk, Q⟩ := history_d hStab exSel_ok h
  exact ⟨s, tk, rk, h, Q⟩

theorem exAddRm_inv (hStab : StabSpec exEnvD) : ∃ s tk rk,
    runActions exEnvD exAddRm (State.init 128 true) #[] = .ok (s, tk) ∧ QInvX (noEff exEnvD) rk s := by
  obtain ⟨s, tk, h⟩ := exAddRm_runs
  obtain ⟨rk, Q⟩ := history_d hStab exAddRm_ok h
  exact ⟨s, tk, rk, h, Q⟩

set_option maxRecDepth 100000 in
/-- `exSel`: the reads of observer `o0` (on the expert node `n4 = driver + selected target mod 7`) after each of the four
`stabilise`s: `0 + n1 = 3`; `1 + n2 = 6`; `1 + 6 = 0`; `2 + n1 = 2 + 4 = 6` -/
theorem exSel_reads : readAfter exEnvD (exSel.take 9) 0 = some (.int 3) ∧
    readAfter exEnvD (exSel.take 11) 0 = some (.int 6) ∧ readAfter exEnvD (exSel.take 13) 0 = some (.int 0) ∧
    readAfter exEnvD exSel 0 = some (.int 6) :=
  by decide +kernel

set_option maxRecDepth 100000 in
/-- `exSel`: the dependency list (dependency, child) of the expert record after `observe` and after each `stabilise`: the
driver's protected edge `d0` stays; the selected edge moves `n1` → `n2` → (unchanged: same target, the driver did not
run) → `n1`, each time under a new dependency id -/
theorem exSel_deps : depsAfter exEnvD (exSel.take 8) 0 = [(0, 5)] ∧
    depsAfter exEnvD (exSel.take 9) 0 = [(0, 5), (1, 1)] ∧ depsAfter exEnvD (exSel.take 11) 0 = [(0, 5), (2, 2)] ∧
    depsAfter exEnvD (exSel.take 13) 0 = [(0, 5), (2, 2)] ∧ depsAfter exEnvD exSel 0 = [(0, 5), (3, 1)] :=
  by decide +kernel

set_option maxRecDepth 100000 in
/-- `exAddRm`: the reads of observer `o0` (on the expert node `n3`) after each of the three `stabilise`s:
`1 + 3 = 4`; `2 + 3 + 3 = 1`; `3 + 6 + 6 + 6 = 0` -/
theorem exAddRm_reads : readAfter exEnvD (exAddRm.take 8) 0 = some (.int 4) ∧
    readAfter exEnvD (exAddRm.take 10) 0 = some (.int 1) ∧ readAfter exEnvD exAddRm 0 = some (.int 0) :=
  by decide +kernel

set_option maxRecDepth 100000 in
/-- `exAddRm`: the dependency list of the expert record after `observe` and after each `stabilise`: every run of the
driver adds `n2` twice and removes the oldest scripted dependency (the last edge is swapped into its place) -/
theorem exAddRm_deps : depsAfter exEnvD (exAddRm.take 7) 0 = [(0, 4)] ∧
    depsAfter exEnvD (exAddRm.take 8) 0 = [(0, 4), (2, 2)] ∧
    depsAfter exEnvD (exAddRm.take 10) 0 = [(0, 4), (4, 2), (3, 2)] ∧
    depsAfter exEnvD exAddRm 0 = [(0, 4), (4, 2), (6, 2), (5, 2)] :=
  by decide +kernel

set_option maxRecDepth 100000 in
/-- the check is not vacuous: without the `addDep` that attaches the driver `n5` to the expert node `n4` (the driver
rewires an expert node of which it is not a dependency) the history is rejected, at its first `stabilise` -/
example : runOKDB exEnvD effOfD mapOKD xOKD (exSel.eraseIdx 6) (State.init 128 true) #[] = false ∧
    runOKDB exEnvD effOfD mapOKD xOKD ((exSel.eraseIdx 6).take 8) (State.init 128 true) #[] = false ∧
    runOKDB exEnvD effOfD mapOKD xOKD ((exSel.eraseIdx 6).take 7) (State.init 128 true) #[] = true :=
  by decide +kernel

end IncrVerif.Proofs.DriverH
