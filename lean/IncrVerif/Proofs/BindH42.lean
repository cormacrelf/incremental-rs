import IncrVerif.Proofs.BindH11
import IncrVerif.Proofs.Quiet14
import IncrVerif.Proofs.Footprint
/-!
# Binds, BF1: frames of one `recomputeOne` on a static-kind or `bindMain` node in a graph with binds

* `BF.HAh`: no node's `heightInAhh` marker changes; kept by `maybeChangeValue` and what it calls, which neither write a marker
  (`.nHeightInAhh`) nor create a node (`Footprint.Edit.heightInAhh`).
* `BF.recomputeOne_closed`: the closed form of `recomputeOne` for the static kinds and for `bindMain`
  (`maybeChangeValue` run in `started n s`, possibly with some events logged).
* `BF.recomputeOne_keyD_B`, `BF.recomputeOne_hah`: `Quiet.recomputeOne_keyD` for `BGraph` (static kinds AND
  `bindMain`), and the `heightInAhh` frame.
-/
namespace IncrVerif.Proofs.BindH
open IncrVerif.Engine IncrVerif.Proofs IncrVerif.Proofs.Step IncrVerif.Proofs.Sched IncrVerif.Proofs.Quiet

namespace BF

/-- no node's adjust-heights-heap marker changes -/
def HAh (s s' : State) : Prop := ∀ m, (s'.nodeD m).heightInAhh = (s.nodeD m).heightInAhh

theorem HAh.refl (s : State) : HAh s s := fun _ => rfl
theorem HAh.trans {a b c : State} (h1 : HAh a b) (h2 : HAh b c) : HAh a c :=
  fun m => (h2 m).trans (h1 m)
instance : PreOrd HAh := ⟨HAh.refl, HAh.trans⟩

section
open Footprint

theorem PresA.shouldCutoff (env n o v) : Step.Pres HAh (shouldCutoff env n o v) :=
  (Foot.shouldCutoff env n o v).frame (Edit.heightInAhh (by decide))
theorem PresA.handleAfterStabilisation (n) : Step.Pres HAh (handleAfterStabilisation n) :=
  (Foot.handleAfterStabilisation n).frame (Edit.heightInAhh (by decide))
theorem PresA.parentIterCanRecomputeNow (p c : Nat) :
    Step.Pres HAh (parentIterCanRecomputeNow p c) :=
  (Foot.parentIterCanRecomputeNow p c).frame (Edit.heightInAhh (by decide))
theorem PresA.maybeChangeValueManual (env fuel n o d b) :
    Step.Pres HAh (maybeChangeValueManual env fuel n o d b) :=
  (Foot.maybeChangeValueManual env fuel n o d b).frame (Edit.heightInAhh (by decide))
theorem PresA.maybeChangeValue (env fuel n v) : Step.Pres HAh (maybeChangeValue env fuel n v) :=
  (Foot.maybeChangeValue env fuel n v).lift (Edit.heightInAhh (by decide))

end

theorem HAh.started (n : Nat) (s : State) : HAh s (Step.started n s) := by
  intro m; rw [started_nodeD]; split <;> rfl
theorem HAh.logged (es : List Event) (s : State) : HAh s (Step.logged es s) := fun _ => rfl

/-! ## the closed form of `recomputeOne` on the static kinds and on `bindMain` -/

/-- a successful `recomputeOne` on a necessary node of a static kind or of kind `bindMain` whose children have
values is `maybeChangeValue` run in a state `S0` that is `s` up to `recomputedAt` of `n`, the log, the counters and
`currentlyRunning` -/
theorem recomputeOne_closed {env : Env} {fuel n : Nat} {s s' : State} {r : Option Nat}
    (g : BGraph env s) (hn : s.isNecessary n = true)
    (hk : StaticKind env (s.nodeD n).kind ∨ ∃ b lc, (s.nodeD n).kind = .bindMain b lc)
    (hvals : ∀ c, c ∈ s.children n → ∃ v, (s.nodeD c).value = some v)
    (h : (recomputeOne env fuel n).run.run s = (.ok r, s')) :
    ∃ v S0, KeyD s S0 ∧ HAh s S0 ∧ (maybeChangeValue env fuel n v).run.run S0 = (.ok r, s') := by
  have hlt := nec_lt_size hn
  have hv := (g.nec n hn).1
  have hnn := some_of_lt hlt
  have k1 := KeyD.started n s
  have a1 := HAh.started n s
  rcases hk with hk | ⟨b, lc, hkd⟩
  · obtain ⟨vals, hpv, hvo⟩ := BS.vals_of_children g hlt hv hk hvals
    cases hkd : (s.nodeD n).kind with
    | const w =>
      rw [recomputeOne_const_run env fuel n s _ w hnn hv hkd] at h
      exact ⟨_, _, k1, a1, h⟩
    | var c =>
      obtain ⟨vc, hvc⟩ := g.var n c hlt hv hkd
      rw [recomputeOne_var_run env fuel n s _ c vc hnn hv hkd hvc] at h
      exact ⟨_, _, k1, a1, h⟩
    | map f args =>
      rw [hkd] at hk hpv hvo
      by_cases hf : f < fnZip
      · rw [recomputeOne_map_run env fuel n s _ f args vals hnn hv hkd hf hvo (hk.2 hf vals) g.pc] at h
        exact ⟨_, _, k1.trans (KeyD.logged _ _), a1.trans (HAh.logged _ _), h⟩
      · rw [recomputeOne_mapBuiltin_run env fuel n s _ f args vals hnn hv hkd hf hk.1 hvo] at h
        exact ⟨_, _, k1, a1, h⟩
    | fold f init cs =>
      rw [hkd] at hpv hvo
      rw [recomputeOne_fold_run env fuel n s _ f init cs vals hnn hv hkd hvo g.pc] at h
      exact ⟨_, _, k1.trans (KeyD.logged _ _), a1.trans (HAh.logged _ _), h⟩
    | mapRef _ _ => rw [hkd] at hk; exact hk.elim
    | mapWithOld _ _ => rw [hkd] at hk; exact hk.elim
    | bindLhsChange _ => rw [hkd] at hk; exact hk.elim
    | bindMain _ _ => rw [hkd] at hk; exact hk.elim
    | expert _ => rw [hkd] at hk; exact hk.elim
  · obtain ⟨br, hbr, -, -, -⟩ := g.mainRec n b lc hlt hv hkd
    cases hr : br.rhs with
    | none =>
      obtain ⟨e, t, he⟩ := BS.recomputeOne_bindMain_norhs env fuel n s _ b lc br hnn hv hkd hbr hr
      rw [he] at h; cases h
    | some r0 =>
      have hch : s.children n = [lc, r0] := by
        simp only [State.children, BS.kind?_of_valid hv, hkd, hbr, hr]
      have hmem : r0 ∈ s.children n := by rw [hch]; simp
      obtain ⟨hrlt, hrv⟩ := (g.node n hlt hv).2.2 r0 hmem
      obtain ⟨v, hval⟩ := hvals r0 hmem
      have hval' : s.value env r0 = some v := by
        rw [value_plain env s r0 (BS.BKind.not_mapRef (g.node r0 hrlt hrv).1)]; exact hval
      rw [recomputeOne_bindMain_run env fuel n s _ b lc r0 br _ v hnn hv hkd hbr hr (some_of_lt hrlt) hrv
        hval'] at h
      exact ⟨_, _, k1, a1, h⟩

/-- `Quiet.recomputeOne_keyD` for graphs with binds: static kinds and `bindMain` -/
theorem recomputeOne_keyD_B {env : Env} {fuel n : Nat} {s s' : State} {r : Option Nat}
    (g : BGraph env s) (hn : s.isNecessary n = true)
    (hk : StaticKind env (s.nodeD n).kind ∨ ∃ b lc, (s.nodeD n).kind = .bindMain b lc)
    (hvals : ∀ c, c ∈ s.children n → ∃ v, (s.nodeD c).value = some v)
    (h : (recomputeOne env fuel n).run.run s = (.ok r, s')) : KeyD s s' := by
  obtain ⟨v, S0, k0, -, h0⟩ := recomputeOne_closed g hn hk hvals h
  exact k0.trans ((PresK.maybeChangeValue env fuel n v).h S0 _ s' h0)

/-- no `heightInAhh` marker changes -/
theorem recomputeOne_hah {env : Env} {fuel n : Nat} {s s' : State} {r : Option Nat}
    (g : BGraph env s) (hn : s.isNecessary n = true)
    (hk : StaticKind env (s.nodeD n).kind ∨ ∃ b lc, (s.nodeD n).kind = .bindMain b lc)
    (hvals : ∀ c, c ∈ s.children n → ∃ v, (s.nodeD c).value = some v)
    (h : (recomputeOne env fuel n).run.run s = (.ok r, s')) : HAh s s' := by
  obtain ⟨v, S0, -, a0, h0⟩ := recomputeOne_closed g hn hk hvals h
  exact a0.trans ((PresA.maybeChangeValue env fuel n v).h S0 _ s' h0)

end BF
end IncrVerif.Proofs.BindH
