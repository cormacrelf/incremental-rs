import IncrVerif.Proofs.MapOld14
import IncrVerif.Proofs.MapOld3
import IncrVerif.Proofs.MapOld17
/-!
# map_with_old fragment: `stabilise` with pending observers (M2)
-/
namespace IncrVerif.Proofs.MapOldH
open IncrVerif.Engine IncrVerif.Driver IncrVerif.Proofs IncrVerif.Proofs.Step IncrVerif.Proofs.Sched IncrVerif.Proofs.Quiet

variable {env : Env} {C : Val → Prop} {sp : Nat → Val → Val} {s : State}

theorem QInvW.pinv (Q : QInvW env C sp s) : s.propagateInvalidity = [] := Q.q.pinv

/-- `Finished'` (the description of `stabiliseEnd`) of the actual states gives it for the virtual states -/
theorem finished_virt {t s' : State} (E : Finished' t s') : Finished' (virt t) (virt s') where
  size := by rw [virt_size, virt_size]; exact E.size
  node m := by
    obtain ⟨b, hb⟩ := E.node m
    refine ⟨b, ?_⟩
    rw [virt_nodeD, virt_nodeD, hb]
    rfl
  vars := E.vars
  rch := E.rch
  ahh := E.ahh
  observers := E.observers
  newObservers := E.newObservers
  disallowedObservers := E.disallowedObservers
  allObservers := E.allObservers
  scope := E.scope
  pc := E.pc
  top := E.top
  handles := E.handles
  alive := E.alive
  pinv := E.pinv
  cfg := E.cfg
  stabNum := E.stabNum
  status := E.status
  setDuringStab := E.setDuringStab
  deadVars := E.deadVars
  handleAfterStab := E.handleAfterStab

/-- what `stabilise` establishes, in terms of the actual state -/
structure StabilisedW (env : Env) (C : Val → Prop) (sp : Nat → Val → Val) (fuel : Nat) (s s' : State) : Prop where
  inv : QInvW env C sp s'
  virt : MapRefH.StabilisedC (virtEnv env sp) (virt s) (virt s')
  /-- every necessary node is not stale and READS its from-scratch value -/
  values : ∀ n, s'.isNecessary n = true → ∀ k, (s'.nodeD n).height.toNat < k →
    s'.isStale n = false ∧ s'.value env n = evalW env sp s' k n ∧ (evalW env sp s' k n).isSome = true
  /-- the drain starts in a state with the drain invariant of M1 and ends in one, with an empty heap -/
  drain : ∃ t2 t3, DrainInvW env C sp t2 ∧ (drainHeap env fuel).run.run t2 = (.ok (), t3) ∧ DrainInvW env C sp t3 ∧
    t3.rch.length = 0 ∧ t2.vars = s.vars ∧ ∀ m, s'.isNecessary m = t2.isNecessary m

theorem QInvW.side (Q : QInvW env C sp s) : Side env C sp () s := ⟨Q.frag, Q.m, Q.pinv⟩

/-- `stabiliseEnd` writes `inHandleAfterStab` only -/
theorem wfr_of_finished {t s' : State} (E : Finished' t s') : WFr t s' := by
  refine ⟨E.size, fun m => ?_, E.vars, fun hp => by rw [E.pc]; exact hp⟩
  obtain ⟨b, hb⟩ := E.node m
  rw [hb]
  rfl

/-- the fragment static + map_with_old: what `Virtual.Fragment` asks for.  The prefix of `stabilise` is simulated by the virtual
engine; it does not touch what the fragment and the value invariant read. -/
theorem fragment (V : ValOK env C sp) :
    Virtual.Fragment env (virtEnv env sp) (fun _ : Unit => virt) (Side env C sp) where
  toDrain := drain V
  vars _ _ := rfl
  rch _ _ := rfl
  observers _ _ := rfl
  setDuringStab _ _ := rfl
  deadVars _ _ := rfl
  nec _ := virt_isNecessary
  link {_ s t fuel} P _ h := by
    have P0 : Side env C sp () { s with status := .stabilising } := P.of_wfr ⟨rfl, fun _ => rfl, rfl, id⟩ P.2.2
    obtain ⟨hv, fr1⟩ := Sim.addNewObservers (sp := sp) env fuel _ (P0.1.fr P0.2.2) _ t h
    exact ⟨hv, P0.of_wfr (addNewObservers_wfr (P0.1.fr P0.2.2) h) fr1.pinv⟩
  unlink {_ s t fuel} P h := by
    obtain ⟨hv, fr2⟩ := Sim.unlinkDisallowedObservers fuel s (P.1.fr P.2.2) _ t h
    exact ⟨hv, P.of_wfr (unlinkDisallowedObservers_wfr h) fr2.pinv⟩
  fin P E := ⟨finished_virt E, P.of_wfr (wfr_of_finished E) (E.pinv.trans P.2.2)⟩

/-- **M2: `stabilise` with pending observers**, fragment static + map_with_old. -/
theorem stabiliseW {fuel : Nat} {s' : State} (V : ValOK env C sp) (Q : QInvW env C sp s)
    (h : (stabilise env fuel).run.run s = (.ok (), s')) : StabilisedW env C sp fuel s s' := by
  obtain ⟨⟨⟩, t2, t3, P', SC, P2, D2, h3, P3, D3, he3, E, hvars, hnec2⟩ := (fragment V).stabilise Q.side Q.q h
  have DR3 : DInvW env C sp t3 none := P3.dinv D3
  refine ⟨⟨P'.1, SC.inv, P'.2.1⟩, SC, fun n hn k hk => ?_, t2, t3, P2.dinv D2, h3, DR3, he3, hvars, hnec2⟩
  -- the values are those at the end of the drain
  have W3 := wfr_of_finished E
  obtain ⟨b, hb⟩ := E.node n
  have hnec : s'.isNecessary n = t3.isNecessary n := by simp only [State.isNecessary, hb]; rfl
  have hheight : (s'.nodeD n).height = (t3.nodeD n).height := by rw [hb]
  obtain ⟨-, v2, v3, v4⟩ := drainedW_values DR3 he3 n (by rw [← hnec]; exact hn) k (by rw [← hheight]; exact hk)
  have hev : evalW env sp s' k n = evalW env sp t3 k n := evalW_congr (fun m => wKey_kind (W3.node m)) E.vars k n
  refine ⟨?_, ?_, by rw [hev]; exact v4⟩
  · have := (SC.values n (by rw [virt_isNecessary]; exact hn) k
      (by rw [virt_nodeD, virtNode_height]; exact hk)).2.1
    rwa [virt_isStale] at this
  · rw [P'.1.value, wKey_value (W3.node n), ← DR3.frag.value, hev]; exact v3

end IncrVerif.Proofs.MapOldH
