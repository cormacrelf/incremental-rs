import IncrVerif.Proofs.FullH46
import IncrVerif.Proofs.FullH23
import IncrVerif.Proofs.FullH39
import IncrVerif.Proofs.FullH40
import IncrVerif.Proofs.NestH123
/-!
# C01 full fragment: `stabilise` — the invariant between API actions is re-established, every in-use observer reads `den2` of the virtual state
-/
namespace IncrVerif.Proofs.FullH
open IncrVerif.Engine IncrVerif.Driver IncrVerif.Proofs IncrVerif.Proofs.Step IncrVerif.Proofs.Sched IncrVerif.Proofs.Quiet
open IncrVerif.Proofs.BindH (DInv BGraph StepRelB FrameB TargetB ConsistentB DKey NKey)
open IncrVerif.Proofs.NestH (AuxS2 Aux2 GenOK2 F2Inv StepL2 LcStepsOK2 QG2 QI2 QInv2 SInv2 den2)

section
variable {env : Env} {sp : Nat → Val → Val}

/-- `Finished'` (the description of `stabiliseEnd`) of the actual states gives it for the virtual states -/
theorem finished_virt {t s' : State} (g : Nat → Option Val) (E : Finished' t s') : Finished' (virt g t) (virt g s') where
  size := by rw [virt_size, virt_size]; exact E.size
  node m := by
    obtain ⟨b, hb⟩ := E.node m
    refine ⟨b, ?_⟩
    rw [virt_nodeD, virt_nodeD, hb]
    unfold virtNode
    cases (t.nodeD m).kind <;> rfl
  vars := E.vars
  rch := E.rch
  ahh := E.ahh
  observers := E.observers
  newObservers := E.newObservers
  disallowedObservers := E.disallowedObservers
  allObservers := E.allObservers
  scope := E.scope
  pc := E.pc
  top := E.top
  handles := E.handles
  alive := E.alive
  pinv := E.pinv
  cfg := E.cfg
  stabNum := E.stabNum
  status := E.status
  setDuringStab := E.setDuringStab
  deadVars := E.deadVars
  handleAfterStab := E.handleAfterStab

/-- `DepInv` for another ghost that agrees on the valid nodes (the inputs of valid nodes are valid) -/
theorem DepInv.of_ghost {g g' : Nat → Option Val} {s : State} (D : DepInv g s)
    (hg : ∀ m, (s.nodeD m).valid = true → g' m = g m)
    (hkv : ∀ x c, (s.nodeD x).valid = true → c ∈ s.children x → (s.nodeD c).valid = true) : DepInv g' s := by
  intro x a b w hv hk hc hca hw
  have hav : (s.nodeD a).valid = true := hkv x a hv (by rw [children_depend hv hk]; simp)
  have : tv g' s a = tv g s a := by
    by_cases hmr : ∀ p i, (s.nodeD a).kind ≠ .mapRef p i
    · rw [tv_not_mapRef hmr, tv_not_mapRef hmr]
    · have : ∃ p i, (s.nodeD a).kind = .mapRef p i := by
        cases hkd : (s.nodeD a).kind <;>
          first | exact ⟨_, _, rfl⟩ | (exfalso; apply hmr; intro p i; rw [hkd]; intro h; cases h)
      obtain ⟨p, i, hka⟩ := this
      rw [tv_mapRef hka, tv_mapRef hka, hg a hav]
  rw [this]
  exact D x a b w hv hk hc hca hw

/-- what `stabilise` establishes -/
structure StabF (env : Env) (sp : Nat → Val → Val) (s s' : State) (g' : Nat → Option Val) : Prop where
  inv : QInvF env sp s' g'
  newObservers : s'.newObservers = []
  disallowedObservers : s'.disallowedObservers = []
  vars : s'.vars = s.vars
  stabNum : s'.stabNum = s.stabNum + 1
  top : s'.top = s.top
  obs : ObsMap stabilisedState s s'
  /-- every necessary node is valid and not stale -/
  fresh : ∀ n, s'.isNecessary n = true → (s'.nodeD n).valid = true ∧ s'.isStale n = false

/-- what the two observer phases of `stabilise` establish: `s` = the state `stabilise` was called in (ghost `g`, rank `rk`), `t2` = the state in which the drain
starts (ghost `g1`) -/
structure PreOut (env : Env) (sp : Nat → Val → Val) (rk : Nat → Nat) (s t2 : State) (g g1 : Nat → Option Val) : Prop where
  d : DInvF env sp (virt g1 t2) t2 g1 none
  f2 : F2Inv (VE env sp) rk (virt g1 t2)
  F : BindH.C2s.PreF (virt g s) (virt g1 t2)
  V2 : VarsOK (virt g1 t2)
  O2 : ObsInv (virt g1 t2) [] []
  T2 : ∀ (o : Nat) (ob : ObsRec), (virt g1 t2).observers[o]? = some ob →
    ((virt g1 t2).nodeD ob.node).createdIn = .top ∧ ∀ b, ((virt g1 t2).nodeD ob.node).kind ≠ .bindLhsChange b
  hn2 : t2.newObservers = []
  hd2 : t2.disallowedObservers = []
  has : HasRange t2
  obs : ObsMap stabilisedState s t2

/-- **the two observer phases**, given their runs in the actual and in the virtual engine and what the simulation says of the end states (from the forward simulation when
the actual runs are given, from its converse when the virtual ones are): the drain starts in a state with the drain invariant -/
theorem prefix_full {fuel : Nat} {s t1 t2 : State} {g g1 : Nat → Option Val} {rk : Nat → Nat} (Q : QInvF env sp s g)
    (Qv : QInv2 (VE env sp) rk (virt g s))
    (h1 : (addNewObservers env fuel).run.run { s with status := .stabilising } = (.ok (), t1))
    (h1v : (addNewObservers (VE env sp) fuel).run.run (virt g { s with status := .stabilising }) = (.ok (), virt g1 t1))
    (R1 : GR g g1 { s with status := .stabilising } t1)
    (h2 : (unlinkDisallowedObservers fuel).run.run t1 = (.ok (), t2))
    (h2v : (unlinkDisallowedObservers fuel).run.run (virt g1 t1) = (.ok (), virt g1 t2))
    (Fr2 : Fr (FK env sp) g1 t2) (vm2 : VM t1 t2) : PreOut env sp rk s t2 g g1 := by
  have Gv := Q.q.2
  obtain ⟨s0, hs0⟩ : ∃ s0 : State, s0 = { s with status := .stabilising } := ⟨_, rfl⟩
  rw [← hs0] at h1 h1v R1
  have hn0 : s0.nodes = s.nodes := by rw [hs0]
  have hnd0 : ∀ m, s0.nodeD m = s.nodeD m := fun m => by simp [State.nodeD, hn0]
  have e0 : virt g s0 = { virt g s with status := .stabilising } := by rw [hs0]; rfl
  have S0 : SInv2 (VE env sp) rk (virt g s0) (virt g s0).newObservers (virt g s0).disallowedObservers := by
    have I0 := SInv2.of_qinv2 Qv
    rw [e0]
    exact NestH.N4p.sInv2_congr I0 rfl rfl rfl rfl rfl rfl rfl rfl
  have Fr0 : Fr (FK env sp) g s0 := Q.frag.fr.of_nodes hn0
  have hp0 : s0.propagateInvalidity = [] := by
    have := Qv.f2.pinv; rw [hs0]; exact this
  have vm1 := R1.vm
  obtain ⟨S1, hn1, hd1, F1, O1, -⟩ := NestH.addNewObservers_s2 S0 h1v
  have M1 := NestH.addNewObservers_marks2 S0 h1v
  obtain ⟨S2, hn2, hd2, F2, O2⟩ := NestH.unlinkDisallowedObservers_s2 S1 hn1 h2v
  have M2 := NestH.unlinkDisallowedObservers_marks2 S1 hn1 h2v
  have F : BindH.C2s.PreF (virt g s) (virt g1 t2) := BindH.C2s.PreF.of e0 (F1.trans F2) (fun m => (M2 m).trans (M1 m))
  obtain ⟨D2, A2⟩ := NestH.N4s.drain_start2 Qv F S2
  have G2 : GenOK2 (VE env sp) (virt g1 t2) :=
    NestH.N5g.genOK2_frame Gv Qv.f2.frag F.binds F.top F.kind F.valid F.recomputedAt F.changedAt F.value
  have X2 : AuxS2 (VE env sp) (virt g1 t2) (virt g1 t2) := ⟨⟨rk, A2⟩, DKey.refl _, NKey.refl _⟩
  -- the ghost invariants through the two phases
  have F0 : FFrag env sp g s0 := ⟨Fr0, by
    intro n nd p i hn hk; exact Q.frag.back n nd p i (by rw [← hn0]; exact hn) hk, by rw [hs0]; exact Q.frag.pc⟩
  have C0 : CFrag env sp g rk (s0) := by
    refine cfrag_of_ginv2 F0 S0.struct (fun _ => rfl) (fun m => ?_)
    have := S0.noForce m
    rw [virt_nodeD, virtNode_forceNecessary] at this; exact this
  have K0' : KInv env g s0 :=
    Q.k.congr (fun m => by rw [hnd0]) (fun m => by simp [State.isNecessary, hnd0]) (fun m => by rw [hnd0])
      (fun m hd => by rw [← hnd0]; exact hd)
      (fun m p i _ _ _ _ => value_congr env s s0 (by rw [hn0]) (fun k => by simp only [valueCore, hnd0]) m)
  have T0 : Inherit env g s0 := inherit_of_cons F0 (fun m hm hv hst => by
    have := Qv.cons m (by rw [virt_size, ← hn0]; exact hm) (by rw [virt_nodeD, virtNode_valid, ← hnd0]; exact hv)
      (by rw [virt_isStale]; rw [hs0] at hst; exact hst)
    rw [e0]; exact this)
  have Mi0 : MInv env s0 := fun n m i hv hk => by
    rw [hnd0] at hv hk ⊢; exact Q.m n m i hv hk
  have Gs0 : GSome g s0 := fun m p i hv hk hd => by
    rw [hnd0] at hv hk hd; exact Q.gs m p i hv hk hd
  obtain ⟨K1g, hp1, -, -⟩ := addNewObservers_keepsK C0 T0 hp0 K0' h1
  have K1 : KInv env g1 t1 := K1g.of_ghost (fun m hv => R1.valid_eq hv)
  have Mi1 := addNewObservers_mInv C0 T0 hp0 K0' Mi0 h1
  have Gs1 : GSome g1 t1 := Gs0.of_gr R1
  obtain ⟨K2, -⟩ := unlinkDisallowedObservers_keepsK K1 h2
  have Mi2 := unlinkDisallowedObservers_mInv Mi1 h2
  have Gs2 := unlinkDisallowedObservers_gSome Gs1 h2
  have Dp0 : DepInv g s0 := fun x a b w hv hk hc hca hw => by
    rw [hnd0] at hv hk hc hw
    rw [hnd0, hnd0] at hca
    have : tv g s0 a = tv g s a := by simp only [tv, virt_nodeD, hnd0]
    rw [this]; exact Q.dep x a b w hv hk hc hca hw
  have Dp1g := addNewObservers_depInv C0 T0 hp0 K0' Dp0 h1
  have hkv1 : ∀ x c, (t1.nodeD x).valid = true → c ∈ t1.children x → (t1.nodeD c).valid = true := by
    intro x c hxv hc
    have hx : x < t1.nodes.size := by
      by_cases hx : x < t1.nodes.size
      · exact hx
      · rw [Step.children_default t1 x (by omega)] at hc; cases hc
    have := (S1.struct.frag.node x (by rw [virt_size]; exact hx)).kidsValid c (by rw [virt_children]; exact hc)
    rw [virt_nodeD, virtNode_valid] at this; exact this
  have Dp1 : DepInv g1 t1 := Dp1g.of_ghost (fun m hv => R1.valid_eq hv) hkv1
  have Dp2 := unlinkDisallowedObservers_depInv Dp1 h2
  have C2 : CRl t2 := by
    intro m _ _ _ hcm
    exfalso
    have h1' := F.changedAt m
    have h2' := F.stabNum
    have h3' := (Qv.stamps m).2
    rw [virt_nodeD, virt_nodeD, virtNode_changedAt, virtNode_changedAt] at h1'
    rw [virt_nodeD, virtNode_changedAt] at h3'
    have e1 : (virt g1 t2).stabNum = t2.stabNum := rfl
    have e2 : (virt g s).stabNum = s.stabNum := rfl
    rw [e1, e2] at h2'
    rw [e2] at h3'
    omega
  have Fg2 : FFrag env sp g1 t2 :=
    ⟨Fr2, mapRefsBack_of_vm (mapRefsBack_of_vm F0.back vm1) vm2, D2.graph.pc⟩
  have DF2 : DInvF env sp (virt g1 t2) t2 g1 none := ⟨Fg2, D2, X2, G2, K2, Mi2, Gs2, Dp2, C2⟩
  -- `handleAfterStab`
  have hhas0 : HasRange s0 := by
    intro n hn; rw [hs0] at hn
    have : s.handleAfterStab = [] := Qv.handleAfterStab
    rw [show ({ s with status := Status.stabilising } : State).handleAfterStab = s.handleAfterStab from rfl,
      this] at hn
    cases hn
  have hhas2 : HasRange t2 :=
    unlinkDisallowedObservers_hasRange h2 (addNewObservers_hasRange h1 hhas0)
  refine ⟨DF2, A2, F, F.varsOK Qv.vars, S2.obs, S2.obsTop, hn2, hd2, hhas2, ?_⟩
  refine ⟨by have a := O2.1; have b := O1.1; rw [hs0] at b; exact a.trans b, fun o ob ho => ?_⟩
  have ho0 : (virt g s0).observers[o]? = some ob := by rw [hs0]; exact ho
  obtain ⟨ob1, h1o, h1n, h1s⟩ := O1.2 o ob ho0
  obtain ⟨ob2, h2o, h2n, h2s⟩ := O2.2 o ob1 h1o
  exact ⟨ob2, h2o, by rw [h2n, h1n], by rw [h2s, h1s, stabilisedState_eq]⟩

/-- the facts about the state after the drain that `stabiliseEnd` and the final invariant need (from the drain invariant, any ghost) -/
theorem after_drainF {s t2 t3 : State} {g g1 g3 : Nat → Option Val} {rk rk3 : Nat → Nat} (P : PreOut env sp rk s t2 g g1) (Qv : QInv2 (VE env sp) rk (virt g s))
    (A3 : F2Inv (VE env sp) rk3 (virt g3 t3)) (K3 : DKey (virt g1 t2) (virt g3 t3)) (N3 : NKey (virt g1 t2) (virt g3 t3)) (hvars : t3.vars = t2.vars) :
    (VarsOK (virt g3 t3) ∧ ObsInv (virt g3 t3) [] [] ∧
      ∀ (o : Nat) (ob : ObsRec), (virt g3 t3).observers[o]? = some ob →
        ((virt g3 t3).nodeD ob.node).createdIn = .top ∧ ∀ b, ((virt g3 t3).nodeD ob.node).kind ≠ .bindLhsChange b) ∧
    t3.setDuringStab = [] ∧ t3.deadVars = [] ∧ (∀ (o : Nat) (ob : ObsRec), t3.observers[o]? = some ob → ob.handlers = []) ∧
      HasRange t3 ∧ (∀ n o, o ∈ (t3.nodeD n).observers → o < t3.observers.size) ∧ t3.newObservers = [] ∧ t3.disallowedObservers = [] ∧
      t3.alive = true ∧ t3.observers = t2.observers := by
  have F := P.F
  have VOT := NestH.N4s.after_drain2 A3 K3 N3 hvars P.V2 P.O2 P.T2
  obtain ⟨V3, O3, T3⟩ := VOT
  have hsd : t3.setDuringStab = [] := by
    have := K3.setDuringStab; have h2' := F.setDuringStab; have h3' := Qv.setDuringStab
    exact this.trans (h2'.trans h3')
  have hdv : t3.deadVars = [] := by
    have := K3.deadVars; have h2' := F.deadVars; have h3' := Qv.deadVars
    exact this.trans (h2'.trans h3')
  have hoh : ∀ (o : Nat) (ob : ObsRec), t3.observers[o]? = some ob → ob.handlers = [] :=
    fun o ob ho => (O3.inRange o ob ho).2
  have hhas3 : HasRange t3 := by
    intro n hn
    have e : t3.handleAfterStab = t2.handleAfterStab := K3.handleAfterStab
    rw [e] at hn
    have := N3.grow
    rw [virt_size, virt_size] at this
    exact Nat.lt_of_lt_of_le (P.has n hn) this
  have hno : ∀ n o, o ∈ (t3.nodeD n).observers → o < t3.observers.size := by
    intro n o ho
    obtain ⟨ob, hob, -⟩ := (O3.mem n o).1 (by rw [virt_nodeD, virtNode_observers]; exact ho)
    exact (Array.getElem?_eq_some_iff.1 hob).1
  exact ⟨⟨V3, O3, T3⟩, hsd, hdv, hoh, hhas3, hno, K3.newObservers.trans P.hn2, K3.disallowedObservers.trans P.hd2,
    (K3.alive.trans F.alive).trans Qv.alive, K3.observers⟩

/-- **the end**: after a drain that ended with the drain invariant (ghost `g3`, rank `rk3`), `stabiliseEnd` re-establishes the invariant between API actions -/
theorem end_full {fuel : Nat} {s t2 t3 s' : State} {g g1 g3 : Nat → Option Val} {rk rk3 : Nat → Nat} (P : PreOut env sp rk s t2 g g1)
    (Qv : QInv2 (VE env sp) rk (virt g s)) (DF3 : DInvF env sp (virt g1 t2) t3 g3 none) (A3 : F2Inv (VE env sp) rk3 (virt g3 t3))
    (he3 : t3.rch.length = 0) (hvars : t3.vars = t2.vars) (hstab : t3.stabNum = t2.stabNum)
    (h4 : (stabiliseEnd env fuel).run.run t3 = (.ok (), s')) (htop : s'.top = s.top) :
    QInv2 (VE env sp) rk3 (virt g3 s') ∧ StabF env sp s s' g3 := by
  obtain ⟨-, K3, N3⟩ := DF3.aux
  have D3 := DF3.inv
  have F := P.F
  obtain ⟨⟨V3, O3, T3⟩, hsd, hdv, hoh, -, -, hno3, hdo3, hal3, hobs3⟩ := after_drainF P Qv A3 K3 N3 hvars
  have E := stabiliseEnd_fin (env := env) (fuel := fuel) hsd hdv hoh h4
  have E := stabiliseEnd_fin (env := env) (fuel := fuel) hsd hdv hoh h4
  have hb := BindH.C2s.stabiliseEnd_binds hsd hdv hoh h4
  have Ev := finished_virt g3 E
  obtain ⟨Q', GG, hval⟩ := NestH.N4s.qinv2_end D3 A3 Ev hb V3 O3 hno3 hdo3 T3 hal3
  have KE := BindH.BL.KeyEq.of_same GG
  have G' : GenOK2 (VE env sp) (virt g3 s') :=
    NestH.N5g.genOK2_frame DF3.gen A3.frag hb Ev.top KE.kind KE.valid KE.recomputedAt KE.changedAt hval
  -- the ghost invariants at the end
  have hnE : ∀ m, ∃ b, s'.nodeD m = { t3.nodeD m with inHandleAfterStab := b } := E.node
  have hk' : ∀ m, (s'.nodeD m).kind = (t3.nodeD m).kind := fun m => by obtain ⟨b, hb⟩ := hnE m; rw [hb]
  have hv' : ∀ m, (s'.nodeD m).valid = (t3.nodeD m).valid := fun m => by obtain ⟨b, hb⟩ := hnE m; rw [hb]
  have hc' : ∀ m, (s'.nodeD m).cutoff = (t3.nodeD m).cutoff := fun m => by obtain ⟨b, hb⟩ := hnE m; rw [hb]
  have hval' : ∀ m, (s'.nodeD m).value = (t3.nodeD m).value := fun m => by obtain ⟨b, hb⟩ := hnE m; rw [hb]
  have hos' : ∀ m, (s'.nodeD m).oldState = (t3.nodeD m).oldState := fun m => by obtain ⟨b, hb⟩ := hnE m; rw [hb]
  have hfl' : ∀ m, (s'.nodeD m).didChange = (t3.nodeD m).didChange := fun m => by obtain ⟨b, hb⟩ := hnE m; rw [hb]
  have hnec' : ∀ m, s'.isNecessary m = t3.isNecessary m := fun m => by
    obtain ⟨b, hb⟩ := hnE m; simp only [State.isNecessary, hb]; rfl
  have hvalue' : ∀ m, s'.value env m = t3.value env m :=
    fun m => value_congr env t3 s' E.size (fun k => by simp only [valueCore, hk', hv', hval']) m
  have FgE : FFrag env sp g3 s' := DF3.frag.of_frame E.size hk' hc' (E.pc.trans DF3.frag.pc)
  have KE' : KInv env g3 s' := DF3.k.congr hv' hnec' hk' (fun m hd => by rw [← hfl']; exact hd) (fun m p i _ _ _ _ => hvalue' m)
  have ME : MInv env s' := fun n m i hv hk => by
    rw [hval', hos']; exact DF3.m n m i (by rw [← hv']; exact hv) (by rw [← hk']; exact hk)
  have GE : GSome g3 s' := fun m p i hv hk hd => DF3.gs m p i (by rw [← hv']; exact hv) (by rw [← hk']; exact hk) (by rw [← hfl']; exact hd)
  have hcg' : ∀ m, (s'.nodeD m).changedAt = (t3.nodeD m).changedAt := fun m => by obtain ⟨b, hb⟩ := hnE m; rw [hb]
  have htv' : ∀ m, tv g3 s' m = tv g3 t3 m := by
    intro m
    obtain ⟨b, hb⟩ := hnE m
    simp only [tv, virt_nodeD, hb]
    unfold virtNode
    cases (t3.nodeD m).kind <;> rfl
  have DE : DepInv g3 s' := fun x a b w hv hk hc hca hw => by
    rw [htv']
    exact DF3.dep x a b w (by rw [← hv']; exact hv) (by rw [← hk']; exact hk) (by rw [← hc']; exact hc)
      (by rw [← hcg', ← hcg']; exact hca) (by rw [← hval']; exact hw)
  have QE : QInvF env sp s' g3 := ⟨FgE, ⟨⟨rk3, Q'⟩, G'⟩, KE', ME, GE, DE⟩
  refine ⟨Q', ⟨FgE, ⟨⟨rk3, Q'⟩, G'⟩, KE', ME, GE, DE⟩, ?_, ?_, ?_, ?_, htop, ?_, ?_⟩
  · rw [E.newObservers]; exact hno3
  · rw [E.disallowedObservers]; exact hdo3
  · have h2' := F.vars
    rw [E.vars]; exact hvars.trans h2'
  · have h2' := F.stabNum
    rw [E.stabNum]
    show t3.stabNum + 1 = s.stabNum + 1
    rw [show t3.stabNum = s.stabNum from hstab.trans h2']
  · have hobs' : s'.observers = t2.observers := by rw [E.observers]; exact hobs3
    refine ⟨by rw [hobs']; exact P.obs.1, fun o ob ho => ?_⟩
    obtain ⟨ob2, h2o, h2n, h2s⟩ := P.obs.2 o ob ho
    exact ⟨ob2, by rw [hobs']; exact h2o, h2n, h2s⟩
  · intro n hn
    have hn3 : (virt g3 t3).isNecessary n = true := by rw [virt_isNecessary, ← hnec']; exact hn
    obtain ⟨v1, v2, -⟩ := BindH.drained_valuesB D3 he3 n hn3 (((virt g3 t3).nodeD n).height.toNat + 1) (Nat.lt_succ_self _)
    rw [virt_nodeD, virtNode_valid] at v1
    refine ⟨by rw [hv']; exact v1, ?_⟩
    have := NestH.KeyEq2.isStale2 (BindH.BL.KeyEq.of_same GG) A3.frag (m := n)
    rw [virt_isStale, virt_isStale] at this
    rw [this]; rw [virt_isStale] at v2; exact v2

/-- **`stabilise` on a program of the full fragment.** -/
theorem stabilise_full (X : Kit env sp) {fuel : Nat} {s s' : State} {g : Nat → Option Val} (Q : QInvF env sp s g)
    (h : (stabilise env fuel).run.run s = (.ok (), s')) : ∃ g', StabF env sp s s' g' := by
  obtain ⟨⟨rk, Qv⟩, -⟩ := Q.q
  obtain ⟨t1, t2, t3, -, h1, h2, h3, h4⟩ := stabilise_phases.1 h
  obtain ⟨g1, h1v, Fr1, R1⟩ := SimX.addNewObservers (K := FK env sp) (sp := sp) env fuel g { s with status := .stabilising }
    (Q.frag.fr.of_nodes rfl) () t1 h1
  obtain ⟨h2v, Fr2, vm2⟩ := Sim.unlinkDisallowedObservers (K := FK env sp) (g := g1) fuel t1 Fr1 () t2 h2
  have P := prefix_full Q Qv h1 h1v R1 h2 h2v Fr2 vm2
  obtain ⟨g3, DF3, he3, f3⟩ := drainHeap_full X fuel (virt g1 t2) t2 t3 g1 P.d h3
  obtain ⟨⟨rk3, A3⟩, -, -⟩ := DF3.aux
  exact ⟨g3, (end_full P Qv DF3 A3 he3 f3.vars f3.stabNum h4 ((BindH.C2h.PresTop.stabilise env fuel).h _ _ _ h).top).2⟩

end
end IncrVerif.Proofs.FullH
