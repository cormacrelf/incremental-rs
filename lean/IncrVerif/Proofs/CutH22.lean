import IncrVerif.Proofs.CutH19
import IncrVerif.Proofs.CutH20
import IncrVerif.Proofs.CutH21
-- static programs with ARBITRARY cutoffs; `Proofs/Quiet16.lean` (default cutoffs) takes its lemmas from this file; overview in Props/C06History.lean
/-!
# Part 15: `stabilise` with pending observers (G2)
-/
namespace IncrVerif.Proofs.CutH
open IncrVerif.Engine IncrVerif.Driver IncrVerif.Proofs IncrVerif.Proofs.Step IncrVerif.Proofs.Sched
variable {e : Bool}

/-! ## reading `PFrame` -/

namespace PFrame
variable {s s' : State}

theorem nk (h : PFrame s s') (m : Nat) :
    (s'.nodeD m).kind = (s.nodeD m).kind ∧ (s'.nodeD m).createdIn = (s.nodeD m).createdIn ∧
    (s'.nodeD m).cutoff = (s.nodeD m).cutoff ∧ (s'.nodeD m).value = (s.nodeD m).value ∧
    (s'.nodeD m).valid = (s.nodeD m).valid ∧ (s'.nodeD m).recomputedAt = (s.nodeD m).recomputedAt ∧
    (s'.nodeD m).changedAt = (s.nodeD m).changedAt ∧
    (s'.nodeD m).forceNecessary = (s.nodeD m).forceNecessary ∧
    (s'.nodeD m).numOnUpdateHandlers = (s.nodeD m).numOnUpdateHandlers := by
  have := h.node m
  simpa only [nodeKeyP, Prod.mk.injEq] using this

theorem kind (h : PFrame s s') (m : Nat) : (s'.nodeD m).kind = (s.nodeD m).kind := (h.nk m).1
theorem value (h : PFrame s s') (m : Nat) : (s'.nodeD m).value = (s.nodeD m).value := (h.nk m).2.2.2.1
theorem recomputedAt (h : PFrame s s') (m : Nat) :
    (s'.nodeD m).recomputedAt = (s.nodeD m).recomputedAt := (h.nk m).2.2.2.2.2.1
theorem changedAt (h : PFrame s s') (m : Nat) :
    (s'.nodeD m).changedAt = (s.nodeD m).changedAt := (h.nk m).2.2.2.2.2.2.1

theorem sk (h : PFrame s s') :
    s'.vars = s.vars ∧ s'.stabNum = s.stabNum ∧ s'.status = s.status ∧ s'.cfg = s.cfg ∧
    s'.currentScope = s.currentScope ∧ s'.setDuringStab = s.setDuringStab ∧ s'.deadVars = s.deadVars ∧
    s'.top = s.top ∧ s'.handles = s.handles ∧ s'.alive = s.alive ∧
    s'.rch.queues.size = s.rch.queues.size ∧ s'.ahh = s.ahh ∧ s'.binds = s.binds ∧ s'.memos = s.memos ∧
    s'.slots = s.slots := by
  have := h.key
  simpa only [stateKeyP, Prod.mk.injEq] using this

theorem vars (h : PFrame s s') : s'.vars = s.vars := h.sk.1
theorem stabNum (h : PFrame s s') : s'.stabNum = s.stabNum := h.sk.2.1
theorem status (h : PFrame s s') : s'.status = s.status := h.sk.2.2.1
theorem setDuringStab (h : PFrame s s') : s'.setDuringStab = s.setDuringStab := h.sk.2.2.2.2.2.1
theorem deadVars (h : PFrame s s') : s'.deadVars = s.deadVars := h.sk.2.2.2.2.2.2.1
theorem top (h : PFrame s s') : s'.top = s.top := h.sk.2.2.2.2.2.2.2.1
theorem alive (h : PFrame s s') : s'.alive = s.alive := h.sk.2.2.2.2.2.2.2.2.2.1

theorem staleOf (h : PFrame s s') (m : Nat) : staleOf s' m = staleOf s m :=
  staleOf_congr (h.kind m) (h.recomputedAt m) h.vars (fun c _ => h.changedAt c)

theorem consistent {env : Env} (h : PFrame s s') {m : Nat} (hc : Consistent env s m) :
    Consistent env s' m := by
  obtain ⟨w, hw, hv⟩ := hc
  exact ⟨w, Target.congr (h.kind m) h.vars (fun c _ => h.value c) hw, by rw [h.value]; exact hv⟩

theorem cutoff (h : PFrame s s') (m : Nat) : (s'.nodeD m).cutoff = (s.nodeD m).cutoff := (h.nk m).2.2.1

theorem consE {env : Env} (h : PFrame s s') {m : Nat} (hc : ConsE env e s m) :
    ConsE env e s' m := by
  obtain ⟨w, hv, hw⟩ := hc
  exact ⟨w, by rw [h.value]; exact hv, fun he => Target.congr (h.kind m) h.vars (fun c _ => h.value c) (hw he)⟩

theorem varsOK (h : PFrame s s') (V : VarsOK s) : VarsOK s' where
  node n c hn hk := by
    rw [h.size] at hn
    rw [h.kind] at hk
    rw [h.vars]; exact V.node n c hn hk
  cell c vc hc := by
    rw [h.vars] at hc
    rw [h.size, h.kind]; exact V.cell c vc hc

end PFrame

/-! ## the two ends of the drain -/

/-- the state in which `drainHeap` starts satisfies the drain invariant -/
theorem drainInv_of {env : Env} {t : State} (S : Struct env t) (V : VarsOK t) (now : 0 ≤ t.stabNum)
    (st : ∀ m, (t.nodeD m).recomputedAt < t.stabNum ∧ (t.nodeD m).changedAt < t.stabNum)
    (vs : ∀ (c : Nat) (vc : VarCell), t.vars[c]? = some vc → vc.setAt ≤ t.stabNum)
    (cons : ∀ m, m < t.nodes.size → staleOf t m = false → ConsE env e t m)
    (exact : e = true → ∀ m, ExactCut (t.nodeD m).cutoff) : DrainInv env e t where
  graph := S.graph V
  heap := S.heapInv
  stamps := ⟨now, fun m => ⟨Int.le_of_lt (st m).1, Int.le_of_lt (st m).2⟩, vs⟩
  pending m hm hs := Or.inl ((S.queued_iff m).2 ⟨hm, hs⟩)
  cons m hm hs := cons m (nec_lt_size hm) (by rw [← GInv.isStale S (nec_lt_size hm)]; exact hs)
  exact := exact
  fresh _ _ a _ := (st a).1
  cur _ h := by cases h
  qstale m hm := by
    rcases hm with hm | hm
    · rw [GInv.isStale S (lt_size_of_inRch hm)]; exact S.qstale m hm
    · cases hm

/-- after the drain the structural invariant still holds -/
theorem Struct.ofDrained {env : Env} {t t3 : State} (S : Struct env t) (f : Frame t t3)
    (D : DrainInv env e t3) (he : t3.rch.length = 0) (hscope : t3.currentScope = t.currentScope) :
    Struct env t3 where
  static := by
    refine ⟨D.graph.pc, by rw [hscope]; exact S.static.scope, fun n hn => ?_⟩
    have sn := S.static.node n (by rw [← f.size]; exact hn)
    have g := f.shape n
    exact ⟨by rw [g.valid]; exact sn.valid, by rw [g.kind]; exact sn.kind,
      by rw [g.createdIn]; exact sn.top, by rw [g.forceNecessary]; exact sn.force,
      by rw [g.kind]; exact sn.kidsLt⟩
  par c p i hm := by
    rw [(f.shape c).parents] at hm
    obtain ⟨h1, h2⟩ := S.par c p i hm
    rw [(f.shape p).kind]
    exact ⟨h1, (wants_closed rfl).2 (by rw [f.nec]; exact (wants_closed rfl).1 h2)⟩
  conv p i c hk hw := by
    rw [(f.shape p).kind] at hk
    rw [(f.shape c).parents]
    exact S.conv p i c hk ((wants_closed rfl).2 (by rw [← f.nec]; exact (wants_closed rfl).1 hw))
  nodup c := by rw [(f.shape c).parents]; exact S.nodup c
  hlt c p i hm ho := by
    rw [(f.shape c).parents] at hm
    rw [(f.shape c).height, (f.shape p).height]; exact S.hlt c p i hm ho
  hpos n hn ho := by
    rw [f.nec] at hn
    rw [(f.shape n).height]; exact S.hpos n hn ho
  lnec p k ho := by cases ho
  unec p k ho := by cases ho
  heap := ⟨D.heap.wf, fun m hm => by rw [D.heap.hgt m hm]; exact D.heap.lb m hm, D.heap.lb0⟩
  hgt m hm _ := D.heap.hgt m hm
  qnec m hm := Or.inl (D.heap.nec m hm)
  queued m _ hn hs := by
    rw [← D.graph.isStale hn] at hs
    rcases D.pending m hn hs with h | h
    · exact h
    · cases h
  qstale m hm := by rw [D.heap.empty he m] at hm; cases hm
  opLt m ho := absurd rfl ho

/-! ## `stabilise` -/

/-- what `stabilise` does to the state of an observer -/
def stabilisedState : ObsState → ObsState
  | .created => .inUse
  | .disallowed => .unlinked
  | x => x

theorem stabilisedState_eq (x : ObsState) : stabilisedState x = unlinkedState (addedState x) := by
  cases x <;> rfl

/-- kind, cutoff, value and both stamps of every node agree -/
def SameData (a b : State) : Prop :=
  ∀ m, (b.nodeD m).kind = (a.nodeD m).kind ∧ (b.nodeD m).cutoff = (a.nodeD m).cutoff ∧
    (b.nodeD m).value = (a.nodeD m).value ∧ (b.nodeD m).recomputedAt = (a.nodeD m).recomputedAt ∧
    (b.nodeD m).changedAt = (a.nodeD m).changedAt

/-- the conclusions of `stabilise_q` about the final state -/
structure Stabilised (env : Env) (e : Bool) (fuel : Nat) (s s' : State) : Prop where
  inv : QInv env e s'
  newObservers : s'.newObservers = []
  disallowedObservers : s'.disallowedObservers = []
  vars : s'.vars = s.vars
  stabNum : s'.stabNum = s.stabNum + 1
  size : s'.nodes.size = s.nodes.size
  kind : ∀ m, (s'.nodeD m).kind = (s.nodeD m).kind
  obs : ObsMap stabilisedState s s'
  /-- necessity only grew by `addNewObservers`… and this is what is necessary at the end -/
  settled : ∀ n, s'.isNecessary n = true →
    (s'.nodeD n).valid = true ∧ s'.isStale n = false ∧
      ∃ v, (s'.nodeD n).value = some v ∧ s'.value env n = some v
  /-- with exact cutoffs throughout: the from-scratch values -/
  values : e = true → ∀ n, s'.isNecessary n = true → ∀ k, (s'.nodeD n).height.toNat < k →
    (s'.nodeD n).valid = true ∧ s'.isStale n = false ∧ (s'.nodeD n).value = eval env s' k n ∧
      s'.value env n = eval env s' k n ∧ (eval env s' k n).isSome = true
  /-- the drain: it starts in a state `t` with the drain invariant and the final graph; no node runs
  twice, only necessary nodes run -/
  drain : ∃ t t3, DrainInv env e t ∧ (drainHeap env fuel).run.run t = (.ok (), t3) ∧
    (∀ m, s'.isNecessary m = t.isNecessary m) ∧ t.vars = s.vars ∧ t.stabNum = s.stabNum ∧
    (∀ m, (t.nodeD m).kind = (s.nodeD m).kind) ∧
    (drainTrace env fuel t).Nodup ∧
    ∀ m, m ∈ drainTrace env fuel t → s'.isNecessary m = true ∧
      (t.nodeD m).recomputedAt < t.stabNum ∧ (s'.nodeD m).recomputedAt = s.stabNum
  /-- the same drain, for the gating theorem: the state `t` in which it starts has the kinds, cutoffs, values and
  stamps of `s` (and the necessity of `s'`); `s'` has the kinds, cutoffs, values and stamps of the state `t3` in
  which it ends -/
  gate : ∃ t t3, DrainInv env e t ∧ (drainHeap env fuel).run.run t = (.ok (), t3) ∧
    SameData s t ∧ SameData t3 s' ∧ t.vars = s.vars ∧ t.stabNum = s.stabNum ∧
    (∀ m, s'.isNecessary m = t.isNecessary m)

/-- **G2: `stabilise` with pending observers.** -/
theorem stabilise_q {env : Env} {fuel : Nat} {s s' : State} (Q : QInv env e s)
    (h : (stabilise env fuel).run.run s = (.ok (), s')) : Stabilised env e fuel s s' := by
  obtain ⟨t1, t2, t3, -, h1, h2, h3, h4⟩ := stabilise_phases.1 h
  obtain ⟨s0, hs0⟩ : ∃ s0 : State, s0 = { s with status := .stabilising } := ⟨_, rfl⟩
  rw [← hs0] at h1
  -- the state with the status set
  have hnd0 : ∀ m, s0.nodeD m = s.nodeD m := fun m => by rw [hs0]; rfl
  have S0 : SInv env s0 s0.newObservers s0.disallowedObservers := by
    rw [hs0]
    exact ⟨Q.struct.congr (SameG.of_nodes rfl rfl rfl rfl rfl),
      ⟨Q.obs.inRange, Q.obs.mem, Q.obs.created, Q.obs.newIn, Q.obs.dis, Q.obs.disIn, Q.obs.disNodup⟩,
      Q.pinv, Q.handlers⟩
  -- the prefix
  obtain ⟨S1, hn1, hd1, F1, O1, N1⟩ := addNewObservers_s S0 h1
  obtain ⟨S2, hn2, hd2, F2, O2⟩ := unlinkDisallowedObservers_s S1 hn1 h2
  have F : PFrame s0 t2 := F1.trans F2
  have hvars0 : s0.vars = s.vars := by rw [hs0]
  have hstab0 : s0.stabNum = s.stabNum := by rw [hs0]
  have hsz0 : s0.nodes.size = s.nodes.size := by rw [hs0]
  have V2 : VarsOK t2 := F.varsOK (by
    refine ⟨?_, ?_⟩
    · intro n c hn hk; rw [hnd0] at hk; rw [hvars0]; exact Q.vars.node n c (by rw [← hsz0]; exact hn) hk
    · intro c vc hc; rw [hvars0] at hc; rw [hsz0, hnd0]; exact Q.vars.cell c vc hc)
  have st2 : ∀ m, (t2.nodeD m).recomputedAt < t2.stabNum ∧ (t2.nodeD m).changedAt < t2.stabNum := by
    intro m
    rw [F.recomputedAt, F.changedAt, F.stabNum, hstab0, hnd0]; exact Q.stamps m
  have cons2 : ∀ m, m < t2.nodes.size → staleOf t2 m = false → ConsE env e t2 m := by
    intro m hm hs
    rw [F.staleOf] at hs
    have hs' : staleOf s m = false := by
      rw [← hs]; exact (staleOf_congr (by rw [hnd0]) (by rw [hnd0]) hvars0 (fun c _ => by rw [hnd0])).symm
    have hc := Q.cons m (by rw [← hsz0, ← F.size]; exact hm) hs'
    have hc0 : ConsE env e s0 m := by
      obtain ⟨w, hv, hw⟩ := hc
      exact ⟨w, by rw [hnd0]; exact hv, fun he => Target.congr (by rw [hnd0]) hvars0 (fun c _ => by rw [hnd0]) (hw he)⟩
    exact F.consE hc0
  have ex2 : e = true → ∀ m, ExactCut (t2.nodeD m).cutoff := by
    intro he m
    rw [F.cutoff, hnd0]; exact Q.exact he m
  have D2 : DrainInv env e t2 :=
    drainInv_of S2.struct V2 (by rw [F.stabNum, hstab0]; exact Q.now) st2
      (fun c vc hc => by rw [F.vars, hvars0] at hc; rw [F.stabNum, hstab0]; exact Q.varStamp c vc hc) cons2 ex2
  have U2 : UnnecOK env e t2 := fun m hm _ => ⟨(st2 m).1, cons2 m hm⟩
  -- the drain
  obtain ⟨D3, he3, f3⟩ := drainHeap_inv fuel t2 t3 D2 h3
  have c3 := drainHeap_calm fuel t2 t3 D2 h3
  have k3 := drainHeap_keyD D2 h3
  have U3 := drainHeap_unnec D2 U2 h3
  obtain ⟨hnodup, honce⟩ := drain_once fuel t2 t3 D2 h3
  simp only [stateKeyD, Prod.mk.injEq] at k3
  obtain ⟨k_obs, k_all, k_scope, k_top, k_handles, k_alive, k_pinv, -⟩ := k3
  have S3 : Struct env t3 := Struct.ofDrained S2.struct f3 D3 he3 k_scope
  -- the end
  have E := stabiliseEnd_fin (env := env) (fuel := fuel) (s := t3) (s' := s')
    (by rw [c3.setDuringStab, F.setDuringStab, hs0]; exact Q.setDuringStab)
    (by rw [c3.deadVars, F.deadVars, hs0]; exact Q.deadVars)
    (by intro o ob ho; rw [k_obs] at ho; exact (S2.obs.inRange o ob ho).2) h4
  -- nodes of the final state
  have hE : ∀ m, NodeG (t3.nodeD m) (s'.nodeD m) ∧ (s'.nodeD m).value = (t3.nodeD m).value ∧
      (s'.nodeD m).numOnUpdateHandlers = (t3.nodeD m).numOnUpdateHandlers := by
    intro m
    obtain ⟨b, hb⟩ := E.node m
    rw [hb]
    exact ⟨⟨rfl, rfl, rfl, rfl, rfl, rfl, rfl, rfl, rfl, rfl, rfl⟩, rfl, rfl⟩
  have G3 : SameG t3 s' := ⟨E.pc, E.scope, E.size, E.rch, E.vars, fun m => (hE m).1⟩
  have S' : Struct env s' := S3.congr G3
  have hnec' : ∀ m, s'.isNecessary m = t2.isNecessary m := fun m => by rw [G3.nec, f3.nec]
  have hkind' : ∀ m, (s'.nodeD m).kind = (t2.nodeD m).kind := fun m => by
    rw [(hE m).1.kind, (f3.shape m).kind]
  have hvars' : s'.vars = t2.vars := by rw [E.vars, f3.vars]
  have hsize' : s'.nodes.size = t2.nodes.size := by rw [E.size, f3.size]
  have V' : VarsOK s' := by
    refine ⟨?_, ?_⟩
    · intro n c hn hk; rw [hkind'] at hk; rw [hvars']; exact V2.node n c (by rw [← hsize']; exact hn) hk
    · intro c vc hc; rw [hvars'] at hc; rw [hsize', hkind']; exact V2.cell c vc hc
  have hobs' : s'.observers = t2.observers := by rw [E.observers, k_obs]
  have hnobs' : ∀ m, (s'.nodeD m).observers = (t2.nodeD m).observers := fun m => by
    rw [(hE m).1.observers, (f3.shape m).observers]
  have hno' : s'.newObservers = [] := by rw [E.newObservers, c3.newObservers]; exact hn2
  have hdo' : s'.disallowedObservers = [] := by rw [E.disallowedObservers, c3.disallowedObservers]; exact hd2
  have O' : ObsOK s' := by
    unfold ObsOK
    rw [hno', hdo']
    have o2 := S2.obs
    refine ⟨?_, ?_, ?_, ?_, ?_, ?_, List.nodup_nil⟩
    · intro o ob ho; rw [hobs'] at ho; rw [hsize']; exact o2.inRange o ob ho
    · intro n o; rw [hnobs', hobs']; exact o2.mem n o
    · intro o ob ho hc; rw [hobs'] at ho; exact o2.created o ob ho hc
    · intro o ho; cases ho
    · intro o ob ho; rw [hobs'] at ho; exact o2.dis o ob ho
    · intro o ho; cases ho
  have hstale' : ∀ m, staleOf s' m = staleOf t3 m := G3.staleOf
  have hcons3 : ∀ m, m < t3.nodes.size → staleOf t3 m = false → ConsE env e t3 m := by
    intro m hm hs
    cases hn : t3.isNecessary m with
    | true => exact (D3.all_consistent he3 m hn).2
    | false => exact (U3 m hm hn).2 hs
  have Q' : QInv env e s' := by
    refine ⟨S', V', O', ?_, ?_, ?_, ?_, ?_, E.status, ?_, E.setDuringStab, E.deadVars, E.handleAfterStab, ?_, ?_, ?_⟩
    · rw [E.stabNum]; have := D3.stamps.now; omega
    · intro m
      rw [(hE m).1.recomputedAt, (hE m).1.changedAt, E.stabNum]
      have := D3.stamps.node m; omega
    · intro c vc hc
      rw [E.vars] at hc; rw [E.stabNum]; have := D3.stamps.var c vc hc; omega
    · intro m hm hs
      rw [hstale'] at hs
      obtain ⟨w, hv, hw⟩ := hcons3 m (by rw [← E.size]; exact hm) hs
      exact ⟨w, by rw [(hE m).2.1]; exact hv, fun he => Target.congr (hE m).1.kind E.vars (fun c _ => (hE c).2.1) (hw he)⟩
    · intro he m
      rw [(hE m).1.cutoff]; exact D3.exact he m
    · rw [E.alive, k_alive, F.alive, hs0]; exact Q.alive
    · intro m
      rw [(hE m).2.2, c3.num, P12.pf_num F, hnd0]; exact Q.handlers m
    · rw [E.pinv, k_pinv]; exact S2.pinv
    · intro k n hk
      rw [E.top, k_top, F.top, hs0] at hk
      rw [hsize', F.size, hsz0]; exact Q.top k n hk
  refine ⟨Q', hno', hdo', by rw [hvars', F.vars, hvars0], by rw [E.stabNum, f3.stabNum, F.stabNum, hstab0],
    by rw [hsize', F.size, hsz0], fun m => by rw [hkind', F.kind, hnd0], ?_, ?_, ?_, ?_, ?_⟩
  · -- observers
    refine ⟨by rw [hobs', O2.1, O1.1, hs0], fun o ob ho => ?_⟩
    have ho0 : s0.observers[o]? = some ob := by rw [hs0]; exact ho
    obtain ⟨ob1, h1o, h1n, h1s⟩ := O1.2 o ob ho0
    obtain ⟨ob2, h2o, h2n, h2s⟩ := O2.2 o ob1 h1o
    exact ⟨ob2, by rw [hobs']; exact h2o, by rw [h2n, h1n], by rw [h2s, h1s, stabilisedState_eq]⟩
  · -- settled
    intro n hn
    have hn3 : t3.isNecessary n = true := by rw [← G3.nec]; exact hn
    obtain ⟨v1, v2, v, v3, -⟩ := drained_settled D3 he3 n hn3
    have hv' : (s'.nodeD n).value = some v := by rw [(hE n).2.1]; exact v3
    refine ⟨by rw [(hE n).1.valid]; exact v1, ?_, v, hv', ?_⟩
    · rw [GInv.isStale S' (nec_lt_size hn), hstale', ← D3.graph.isStale hn3]; exact v2
    · rw [(S'.graph V').value_plain hn]; exact hv'
  · -- values
    intro he n hn k hk
    subst he
    have hn3 : t3.isNecessary n = true := by rw [← G3.nec]; exact hn
    have hk3 : (t3.nodeD n).height.toNat < k := by rw [← (hE n).1.height]; exact hk
    obtain ⟨v1, v2, v3, -, v5⟩ := drained_values D3 he3 n hn3 k hk3
    have hev : eval env s' k n = eval env t3 k n := eval_congr (fun m => (hE m).1.kind) E.vars k n
    have hv' : (s'.nodeD n).value = eval env s' k n := by rw [(hE n).2.1, hev]; exact v3
    refine ⟨by rw [(hE n).1.valid]; exact v1, ?_, hv', ?_, by rw [hev]; exact v5⟩
    · rw [GInv.isStale S' (nec_lt_size hn), hstale', ← D3.graph.isStale hn3]; exact v2
    · rw [(S'.graph V').value_plain hn]; exact hv'
  · -- the drain
    refine ⟨t2, t3, D2, h3, hnec', by rw [F.vars, hvars0], by rw [F.stabNum, hstab0],
      fun m => by rw [F.kind, hnd0], hnodup, fun m hm => ?_⟩
    obtain ⟨a1, a2, a3⟩ := honce m hm
    exact ⟨by rw [hnec']; exact a1, a2, by rw [(hE m).1.recomputedAt, a3, F.stabNum, hstab0]⟩
  · -- the gate
    refine ⟨t2, t3, D2, h3, fun m => ?_, fun m => ?_, by rw [F.vars, hvars0], by rw [F.stabNum, hstab0], hnec'⟩
    · rw [F.kind, F.cutoff, F.value, F.recomputedAt, F.changedAt, hnd0]
      exact ⟨rfl, rfl, rfl, rfl, rfl⟩
    · exact ⟨(hE m).1.kind, (hE m).1.cutoff, (hE m).2.1, (hE m).1.recomputedAt, (hE m).1.changedAt⟩

end IncrVerif.Proofs.CutH
