import IncrVerif.Proofs.NestH6
import IncrVerif.Proofs.BindH61
/-!
# Nested binds (F2), part f: the auxiliary invariant `F2Inv` of a drain, and the CONTRACTS of the phases of a run of a change detector

A run of a change detector `n` of bind `b` is (`Inval.recomputeOne_bindLhsChange_run`, `Proofs/Invalidation.lean`), from `started n s`:
`lhsRunClosure` (reset the list of registered nodes, run the closure = elaborate the template in scope `.bind b`; `bind body' o` instructions create a
fresh bind record and its two nodes in scope `.bind b`), `lhsRelink` (install the new right-hand side), `lhsInvalidateOld` (invalidate the previous
generation; `invalidateNode` on the main node of an inner bind recursively invalidates the nodes of the inner bind's scope and empties its list),
`lhsFinish` (`maybeChangeValue n ()`).
-/
namespace IncrVerif.Proofs.NestH
open IncrVerif.Engine IncrVerif.Proofs IncrVerif.Proofs.Step IncrVerif.Proofs.Sched IncrVerif.Proofs.Quiet
open IncrVerif.Proofs.BindH

/-! ## templates of fragment F2 -/

/-- an operand of a closure whose bind has change detector `lc`, with `nloc` locals created so far: a top-level node of SMALLER RANK than `lc` or an earlier local -/
def OpndOK2 (rk : Nat → Nat) (s : State) (lc nloc : Nat) : Opnd → Prop
  | .outer k => ∃ r, s.top[k]? = some r ∧ rk r < rk lc
  | .loc j => j < nloc
  | _ => False

/-- instructions of F2 closures: each creates exactly one LOCAL (an inner bind creates two nodes; its main node is the local); `P body'`: the inner body is fine -/
def InstrOK2 (env : Env) (rk : Nat → Nat) (s : State) (P : Nat → Prop) (lc nloc : Nat) : Instr → Prop
  | .const _ => True
  | .lhsConst => True
  | .map f args => f < fnPerKey ∧ (f < fnZip → ∀ vals, env.fnEff f vals = []) ∧ ∀ a, a ∈ args → OpndOK2 rk s lc nloc a
  | .fold _ _ cs => ∀ a, a ∈ cs → OpndOK2 rk s lc nloc a
  | .bind body' o => P body' ∧ OpndOK2 rk s lc nloc o
  | _ => False

def TemplOK2 (env : Env) (rk : Nat → Nat) (s : State) (P : Nat → Prop) (lc : Nat) (t : Template) : Prop :=
  (∀ j i, t.instrs[j]? = some i → InstrOK2 env rk s P lc j i) ∧ OpndOK2 rk s lc t.instrs.length t.ret

/-- the closure `body` (and, with one unit of fuel less, every closure it nests) is fine for a bind whose change detector is `lc`.
All operands `.outer k` of all nesting levels are below `lc` (the inner change detectors have larger rank, see `BodyOK2.mono`). -/
def BodyOK2 (env : Env) (rk : Nat → Nat) (s : State) (lc : Nat) : Nat → Nat → Prop
  | 0, _ => False
  | f+1, body => ∀ v, TemplOK2 env rk s (fun b' => BodyOK2 env rk s lc f b') lc (env.body body v)

/-- two ranks order the nodes of the state alike -/
def RkExt (rk rk' : Nat → Nat) (N : Nat) : Prop := ∀ a c, a < N → c < N → (rk' a < rk' c ↔ rk a < rk c)

theorem OpndOK2.mono_top {rk rk' : Nat → Nat} {s s' : State} {lc lc' nloc : Nat} {o : Opnd}
    (htop : ∀ (k r : Nat), s.top[k]? = some r → s'.top[k]? = some r)
    (h : ∀ r, rk r < rk lc → (∃ k : Nat, s.top[k]? = some r) → rk' r < rk' lc')
    (ho : OpndOK2 rk s lc nloc o) : OpndOK2 rk' s' lc' nloc o := by
  cases o with
  | outer k =>
    obtain ⟨r, h1, h2⟩ := ho
    exact ⟨r, htop k r h1, h r h2 ⟨k, h1⟩⟩
  | loc j => exact ho
  | abs _ => exact ho.elim
  | slot _ => exact ho.elim

theorem InstrOK2.mono_top {env : Env} {rk rk' : Nat → Nat} {s s' : State} {P P' : Nat → Prop} {lc lc' nloc : Nat} {i : Instr}
    (htop : ∀ (k r : Nat), s.top[k]? = some r → s'.top[k]? = some r)
    (h : ∀ r, rk r < rk lc → (∃ k : Nat, s.top[k]? = some r) → rk' r < rk' lc')
    (hP : ∀ b, P b → P' b) (hi : InstrOK2 env rk s P lc nloc i) : InstrOK2 env rk' s' P' lc' nloc i := by
  cases i <;> first | exact hi | exact hi.elim | skip
  · exact ⟨hi.1, hi.2.1, fun a ha => OpndOK2.mono_top htop h (hi.2.2 a ha)⟩
  · exact fun a ha => OpndOK2.mono_top htop h (hi a ha)
  · exact ⟨hP _ hi.1, OpndOK2.mono_top htop h hi.2⟩

theorem TemplOK2.mono_top {env : Env} {rk rk' : Nat → Nat} {s s' : State} {P P' : Nat → Prop} {lc lc' : Nat} {t : Template}
    (htop : ∀ (k r : Nat), s.top[k]? = some r → s'.top[k]? = some r)
    (h : ∀ r, rk r < rk lc → (∃ k : Nat, s.top[k]? = some r) → rk' r < rk' lc')
    (hP : ∀ b, P b → P' b) (ht : TemplOK2 env rk s P lc t) : TemplOK2 env rk' s' P' lc' t :=
  ⟨fun j i hj => InstrOK2.mono_top htop h hP (ht.1 j i hj), OpndOK2.mono_top htop h ht.2⟩

/-- a body that is fine for `lc` under `rk` is fine for `lc'` under `rk'` when the naming table only grows and every named top-level node below `lc` is below `lc'` -/
theorem BodyOK2.mono_top {env : Env} {rk rk' : Nat → Nat} {s s' : State} {lc lc' : Nat}
    (htop : ∀ (k r : Nat), s.top[k]? = some r → s'.top[k]? = some r)
    (h : ∀ r, rk r < rk lc → (∃ k : Nat, s.top[k]? = some r) → rk' r < rk' lc') :
    ∀ (f body : Nat), BodyOK2 env rk s lc f body → BodyOK2 env rk' s' lc' f body := by
  intro f
  induction f with
  | zero => intro body hb; exact hb.elim
  | succ f ih =>
    intro body hb v
    exact TemplOK2.mono_top htop h (fun b' hb' => ih b' hb') (hb v)

theorem OpndOK2.mono {rk rk' : Nat → Nat} {s s' : State} {lc lc' nloc : Nat} {o : Opnd}
    (htop : s'.top = s.top) (h : ∀ r, rk r < rk lc → (∃ k : Nat, s.top[k]? = some r) → rk' r < rk' lc')
    (ho : OpndOK2 rk s lc nloc o) : OpndOK2 rk' s' lc' nloc o :=
  OpndOK2.mono_top (fun k r hk => by rw [htop]; exact hk) h ho

theorem InstrOK2.mono {env : Env} {rk rk' : Nat → Nat} {s s' : State} {P P' : Nat → Prop} {lc lc' nloc : Nat} {i : Instr}
    (htop : s'.top = s.top) (h : ∀ r, rk r < rk lc → (∃ k : Nat, s.top[k]? = some r) → rk' r < rk' lc')
    (hP : ∀ b, P b → P' b) (hi : InstrOK2 env rk s P lc nloc i) : InstrOK2 env rk' s' P' lc' nloc i :=
  InstrOK2.mono_top (fun k r hk => by rw [htop]; exact hk) h hP hi

theorem TemplOK2.mono {env : Env} {rk rk' : Nat → Nat} {s s' : State} {P P' : Nat → Prop} {lc lc' : Nat} {t : Template}
    (htop : s'.top = s.top) (h : ∀ r, rk r < rk lc → (∃ k : Nat, s.top[k]? = some r) → rk' r < rk' lc')
    (hP : ∀ b, P b → P' b) (ht : TemplOK2 env rk s P lc t) : TemplOK2 env rk' s' P' lc' t :=
  TemplOK2.mono_top (fun k r hk => by rw [htop]; exact hk) h hP ht

/-- a body that is fine for `lc` under `rk` is fine for `lc'` under `rk'` when every named top-level node below `lc` is below `lc'` -/
theorem BodyOK2.mono {env : Env} {rk rk' : Nat → Nat} {s s' : State} {lc lc' : Nat}
    (htop : s'.top = s.top) (h : ∀ r, rk r < rk lc → (∃ k : Nat, s.top[k]? = some r) → rk' r < rk' lc') :
    ∀ (f body : Nat), BodyOK2 env rk s lc f body → BodyOK2 env rk' s' lc' f body :=
  BodyOK2.mono_top (fun k r hk => by rw [htop]; exact hk) h

/-! ## the auxiliary invariant -/

structure F2Inv (env : Env) (rk : Nat → Nat) (s : State) : Prop where
  frag : All2 env rk s []
  nodup : ∀ c, (s.nodeD c).parents.Nodup
  ahh : AhhEmpty s
  pinv : s.propagateInvalidity = []
  noForce : ∀ m, (s.nodeD m).forceNecessary = false
  noHandlers : ∀ m, (s.nodeD m).numOnUpdateHandlers = 0
  /-- invalid nodes are isolated -/
  inv : ∀ m, (s.nodeD m).valid = false →
    (s.nodeD m).parents = [] ∧ (s.nodeD m).observers = [] ∧ (s.nodeD m).inRch = false
  scopeObs : ∀ m b, (s.nodeD m).createdIn = .bind b → (s.nodeD m).observers = []
  lcObs : ∀ m b, (s.nodeD m).kind = .bindLhsChange b → (s.nodeD m).observers = []
  lcCut : ∀ m b, (s.nodeD m).kind = .bindLhsChange b → (s.nodeD m).cutoff = .never
  /-- the naming table names top-level nodes that are not change detectors -/
  topOK : ∀ (k r : Nat), s.top[k]? = some r →
    r < s.nodes.size ∧ (s.nodeD r).createdIn = .top ∧ ∀ b', (s.nodeD r).kind ≠ .bindLhsChange b'
  /-- the closure of every bind record (also of inner and of dead ones) is fine for its change detector -/
  closures : ∀ (b : Nat) (br : BindRec), s.binds[b]? = some br → ∃ f, BodyOK2 env rk s br.lhsChange f br.body
  /-- the lhs of a LIVE bind is not a change detector -/
  lhsOK : ∀ (b : Nat) (br : BindRec), s.binds[b]? = some br → (s.nodeD br.lhsChange).valid = true →
    ∀ b', (s.nodeD br.lhs).kind ≠ .bindLhsChange b'
  /-- a bind that never ran has no registered nodes -/
  rhsNone : ∀ (b : Nat) (br : BindRec), s.binds[b]? = some br → br.rhs = none → br.allNodesCreatedOnRhs = []
  /-- a dead bind has no registered nodes -/
  deadNone : ∀ (b : Nat) (br : BindRec), s.binds[b]? = some br → (s.nodeD br.main).valid = false →
    br.allNodesCreatedOnRhs = []
  /-- the installed right-hand side of a LIVE bind: a top-level node below the change detector, or a valid node of the scope; never a change detector -/
  rhsOK : ∀ (b : Nat) (br : BindRec) (o : Nat), s.binds[b]? = some br → br.rhs = some o →
    (s.nodeD br.main).valid = true →
    (∀ b', (s.nodeD o).kind ≠ .bindLhsChange b') ∧
    (((s.nodeD o).createdIn = .top ∧ rk o < rk br.lhsChange) ∨
     ((s.nodeD o).createdIn = .bind b ∧ (s.nodeD o).valid = true))

/-- during a drain the structural invariant holds with every node closed and the current node excused -/
theorem ginv2_of_dinv {env : Env} {rk : Nat → Nat} {s : State} {x : Option Nat} (I : DInv env s x) (A : F2Inv env rk s) :
    GInv2 env rk s allClosed (fun m => x = some m) [] where
  frag := A.frag
  par c p i h := by
    obtain ⟨h1, h2⟩ := I.graph.parent c p i h
    exact ⟨h2, (wants_closed rfl).2 h1⟩
  conv p i c hk hw := (I.graph.child p ((wants_closed rfl).1 hw) i c hk).2.1
  nodup := A.nodup
  hlt c p i h _ := by
    obtain ⟨h1, h2⟩ := I.graph.parent c p i h
    exact (I.graph.child p h1 i c h2).2.2
  hpos n hn _ := (I.graph.nec n hn).2
  lnec p k h := by cases h
  unec p k h := by cases h
  heap := ⟨I.heap.wf, fun m hm => by rw [I.heap.hgt m hm]; exact I.heap.lb m hm, I.heap.lb0⟩
  hgt m hm _ := I.heap.hgt m hm
  qnec m hm := Or.inl (I.heap.nec m hm)
  queued m _ hn hs hex := by
    rcases I.pending m hn hs with h | h
    · exact h
    · exact absurd h hex
  qstale := I.qstale
  opLt m h := absurd rfl h
  scopeH n b br hv hsc hb hn _ := by
    obtain ⟨br', hb', -, -, h⟩ := I.graph.scope n b (I.graph.nec_lt hn) hv hsc
    rw [hb] at hb'; cases hb'
    exact (h hn).2
  inv m hv := by
    obtain ⟨h1, h2, h3⟩ := A.inv m hv
    exact ⟨h1, h2, A.noForce m, h3, rfl⟩
  scopeObs := A.scopeObs
  lcObs := A.lcObs

/-! ## phase 1: the closure run -/

/-- what the closure run changes: it appends nodes (created in scope `.bind b`, pristine) and registers exactly them; it appends bind records (the inner binds) -/
structure CRel2 (b : Nat) (br : BindRec) (s s' : State) : Prop where
  grow : s.nodes.size ≤ s'.nodes.size
  old : ∀ m, m < s.nodes.size → s'.nodeD m = s.nodeD m
  new : ∀ m, s.nodes.size ≤ m → m < s'.nodes.size →
    (s'.nodeD m).createdIn = .bind b ∧ (s'.nodeD m).valid = true ∧ (s'.nodeD m).recomputedAt = -1 ∧
    (s'.nodeD m).changedAt = -1 ∧ (s'.nodeD m).value = none ∧ (s'.nodeD m).parents = [] ∧
    (s'.nodeD m).observers = [] ∧ (s'.nodeD m).forceNecessary = false ∧ (s'.nodeD m).heightInRch = -1 ∧
    (s'.nodeD m).heightInAhh = -1 ∧ (s'.nodeD m).numOnUpdateHandlers = 0
  bind : ∃ l, s'.binds[b]? = some { br with allNodesCreatedOnRhs := l } ∧
    ∀ m, m ∈ l ↔ (s.nodes.size ≤ m ∧ m < s'.nodes.size)
  bindsGrow : s.binds.size ≤ s'.binds.size
  bindsOther : ∀ b', b' ≠ b → b' < s.binds.size → s'.binds[b']? = s.binds[b']?
  /-- the records of the inner binds: never run, their two nodes are new -/
  bindsNew : ∀ b' br', s.binds.size ≤ b' → s'.binds[b']? = some br' →
    br'.rhs = none ∧ br'.allNodesCreatedOnRhs = [] ∧ s.nodes.size ≤ br'.lhsChange
  vars : s'.vars = s.vars
  stabNum : s'.stabNum = s.stabNum
  status : s'.status = s.status
  cfg : s'.cfg = s.cfg
  scope : s'.currentScope = s.currentScope
  pc : s'.panicCountdown = s.panicCountdown
  rch : s'.rch = s.rch
  ahh : s'.ahh = s.ahh
  top : s'.top = s.top
  pinv : s'.propagateInvalidity = s.propagateInvalidity

/-- the specification of the closure run (phase 1) in fragment F2.  The rank is extended: `rk'` orders the old nodes as `rk` does. -/
def ClosureSpec2 (env : Env) : Prop :=
  ∀ (n b rhs : Nat) (br : BindRec) (rk : Nat → Nat) (s s' : State) (ex : Nat → Prop),
    (Inval.lhsRunClosure env n b br).run.run s = (.ok rhs, s') →
    GInv2 env rk s allClosed ex [] → AhhEmpty s → s.binds[b]? = some br → br.lhsChange = n →
    (s.nodeD n).valid = true →
    (∃ f, BodyOK2 env rk s n f br.body) →
    (∀ (k r : Nat), s.top[k]? = some r →
      r < s.nodes.size ∧ (s.nodeD r).createdIn = .top ∧ ∀ b', (s.nodeD r).kind ≠ .bindLhsChange b') →
    (∀ m b', (s.nodeD m).kind = .bindLhsChange b' → (s.nodeD m).cutoff = .never) →
    ∃ rk', RkExt rk rk' s.nodes.size ∧
    GInv2 env rk' s' allClosed ex br.allNodesCreatedOnRhs ∧ AhhEmpty s' ∧ CRel2 b br s s' ∧
    rhs < s'.nodes.size ∧ (∀ b', (s'.nodeD rhs).kind ≠ .bindLhsChange b') ∧
    (((s'.nodeD rhs).createdIn = .top ∧ rk' rhs < rk' n) ∨ s.nodes.size ≤ rhs) ∧
    (∀ m b', (s'.nodeD m).kind = .bindLhsChange b' → (s'.nodeD m).cutoff = .never) ∧
    (∀ b' br', s.binds.size ≤ b' → s'.binds[b']? = some br' →
      (∃ f, BodyOK2 env rk' s' br'.lhsChange f br'.body) ∧ ∀ b'', (s'.nodeD br'.lhs).kind ≠ .bindLhsChange b'')

/-! ## phase 2: installing the new right-hand side -/

/-- the specification of `lhsRelink` (phase 2) in fragment F2; `br` is the record as it was when the run started (`br.rhs` = the old right-hand side),
`br1` the current record (its list of registered nodes is the new generation), `dy` the dying generation (the nodes of scope `b` registered before) -/
def RelinkSpec2 (env : Env) : Prop :=
  ∀ (fuel b n rhs : Nat) (rk : Nat → Nat) (s s' : State) (br br1 : BindRec) (ex : Nat → Prop) (dy : List Nat),
    (Inval.lhsRelink env fuel n b br s.stabNum rhs).run.run s = (.ok (), s') →
    GInv2 env rk s allClosed ex dy → ex br.main → AhhEmpty s →
    s.binds[b]? = some br1 → br1.rhs = br.rhs → br1.main = br.main → br1.lhsChange = n →
    (s.nodeD br.main).valid = true →
    s.isNecessary br.main = true →
    rhs < s.nodes.size → rhs ∉ dy → (∀ b', (s.nodeD rhs).kind ≠ .bindLhsChange b') →
    (((s.nodeD rhs).createdIn = .top ∧ rk rhs < rk n) ∨
      ((s.nodeD rhs).createdIn = .bind b ∧ (s.nodeD rhs).valid = true)) →
    (∀ o, br.rhs = some o → (∀ b', (s.nodeD o).kind ≠ .bindLhsChange b') ∧
      (((s.nodeD o).createdIn = .top ∧ rk o < rk n) ∨
       ((s.nodeD o).createdIn = .bind b ∧ o ∈ dy))) →
    (∀ m, m ∈ dy → (s.nodeD m).createdIn = .bind b) →
    (∀ m, (s.nodeD m).forceNecessary = false) → s.propagateInvalidity = [] →
    (s.nodeD br.main).recomputedAt < s.stabNum →
    GInv2 env rk s' allClosed ex dy ∧ AhhEmpty s' ∧ RRelB b n rhs br1 s s' ∧ s'.propagateInvalidity = [] ∧
      (∀ m, (s'.nodeD m).forceNecessary = false) ∧ s'.isNecessary br.main = true

/-! ## phase 3: invalidating the previous generation -/

/-- the nodes that die when the generation `dy` is invalidated: the nodes of `dy` and, recursively, the valid nodes of the scopes of the inner binds among them -/
inductive Dying (s : State) (dy : List Nat) : Nat → Prop
  | base {m : Nat} : m ∈ dy → Dying s dy m
  | inner {p m b2 lc2 : Nat} : Dying s dy p → (s.nodeD p).kind = .bindMain b2 lc2 → m < s.nodes.size →
      (s.nodeD m).valid = true → (s.nodeD m).createdIn = .bind b2 → Dying s dy m

/-- what phase 3 changes: the dying nodes become invalid (value dropped, stamped with the round number), the records of the dying inner binds lose their
lists; nothing else -/
structure IRel2 (dy : List Nat) (s s' : State) : Prop where
  size : s'.nodes.size = s.nodes.size
  other : ∀ m, ¬ Dying s dy m → s'.nodeD m = s.nodeD m
  dead : ∀ m, Dying s dy m → (s'.nodeD m).valid = false ∧ (s'.nodeD m).kind = (s.nodeD m).kind ∧
    (s'.nodeD m).createdIn = (s.nodeD m).createdIn ∧ (s'.nodeD m).cutoff = (s.nodeD m).cutoff ∧
    (s'.nodeD m).parents = [] ∧ (s'.nodeD m).observers = [] ∧
    (s'.nodeD m).forceNecessary = false ∧ (s'.nodeD m).heightInRch = -1 ∧
    (s'.nodeD m).heightInAhh = (s.nodeD m).heightInAhh ∧
    (s'.nodeD m).recomputedAt ≤ s.stabNum ∧ (s'.nodeD m).changedAt ≤ s.stabNum ∧
    (s'.nodeD m).numOnUpdateHandlers = (s.nodeD m).numOnUpdateHandlers
  bindsSize : s'.binds.size = s.binds.size
  /-- the record of a bind whose main node dies loses its list; every other record is unchanged -/
  binds : ∀ (b' : Nat) (br0 : BindRec), s.binds[b']? = some br0 →
    (Dying s dy br0.main → s'.binds[b']? = some { br0 with allNodesCreatedOnRhs := [] }) ∧
    (¬ Dying s dy br0.main → s'.binds[b']? = some br0)
  vars : s'.vars = s.vars
  stabNum : s'.stabNum = s.stabNum
  status : s'.status = s.status
  cfg : s'.cfg = s.cfg
  scope : s'.currentScope = s.currentScope
  pc : s'.panicCountdown = s.panicCountdown
  rch : s'.rch = s.rch
  ahh : s'.ahh = s.ahh
  top : s'.top = s.top
  pinv : s'.propagateInvalidity = s.propagateInvalidity

/-- the specification of `lhsInvalidateOld` (phase 3) in fragment F2 -/
def InvalSpec2 (env : Env) : Prop :=
  ∀ (fuel b : Nat) (br : BindRec) (rk : Nat → Nat) (s s' : State) (ex : Nat → Prop),
    (Inval.lhsInvalidateOld fuel br).run.run s = (.ok (), s') →
    GInv2 env rk s allClosed ex br.allNodesCreatedOnRhs →
    (br.rhs = none → br.allNodesCreatedOnRhs = []) →
    (∀ m, m ∈ br.allNodesCreatedOnRhs → (s.nodeD m).createdIn = .bind b ∧ (s.nodeD m).parents = [] ∧
      (s.nodeD m).valid = true) →
    (∀ br1 r, s.binds[b]? = some br1 → br1.rhs = some r → r ∉ br.allNodesCreatedOnRhs) →
    (∀ m, (s.nodeD m).forceNecessary = false) → (∀ m, (s.nodeD m).numOnUpdateHandlers = 0) →
    s.propagateInvalidity = [] →
    (∀ (b' : Nat) (br' : BindRec), s.binds[b']? = some br' → br'.rhs = none → br'.allNodesCreatedOnRhs = []) →
    GInv2 env rk s' allClosed ex [] ∧ IRel2 br.allNodesCreatedOnRhs s s'

end IncrVerif.Proofs.NestH
