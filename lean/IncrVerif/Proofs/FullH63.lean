import IncrVerif.Proofs.FullH62
import IncrVerif.Proofs.BindH110
/-!
# C01 full fragment: NON-VACUITY, part 2 — the example history runs; what the observers read (kernel-checked)
-/
namespace IncrVerif.Proofs.FullH
open IncrVerif.Engine IncrVerif.Driver IncrVerif.Proofs IncrVerif.Proofs.Step IncrVerif.Proofs.Sched IncrVerif.Proofs.Quiet
open IncrVerif.Proofs.BindH

/-- a fact about the state a history of `fEnv` ends in -/
def EX.factF {α} (acts : List Action) (f : State → α) : Option α := (C2h.stateB fEnv acts).map f

set_option maxRecDepth 100000 in
/-- the example history runs without panic -/
theorem exHistF_runs : ∃ s tk, Quiet.runActions fEnv exHistF (State.init 128 true) #[] = .ok (s, tk) :=
  C2h.ranB_iff (by decide +kernel)

set_option maxRecDepth 100000 in
/-- the reads of the first observer after the first four `stabilise`s: `(5+4)+7 = 16`; only `c` changed: `(5+4)+70 = 79`; `a` changed: `(9+4)+70 = 83`;
the lhs `n1` became odd: `1` -/
theorem exHistF_reads : C2h.readB fEnv (exHistF.take 6) 0 = some (.int 16) ∧
    C2h.readB fEnv (exHistF.take 8) 0 = some (.int 79) ∧
    C2h.readB fEnv (exHistF.take 10) 0 = some (.int 83) ∧
    C2h.readB fEnv (exHistF.take 12) 0 = some (.int 1) :=
  by decide +kernel

end IncrVerif.Proofs.FullH
