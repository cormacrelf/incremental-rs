import IncrVerif.Proofs.GateF6
/-!
# C06, combined fragment, part 7: the stamp frame `RR` for successful runs (continued) — node creation, variable writes, effects, per-key operators
-/
open IncrVerif.Engine IncrVerif.Proofs IncrVerif.Proofs.Step
namespace IncrVerif.Proofs.GateF

theorem POk.map {α β} {R : State → State → Prop} [PreOrd R] {x : M α} (f : α → β) (hx : POk R x) : POk R (f <$> x) := by
  rw [map_eq_pure_bind]; exact POk.bind hx (fun _ => POk.of_pres (Step.Pres.pure _))
macro_rules | `(tactic| okleaf) => `(tactic| with_reducible apply POk.map)
theorem POk.discard {α} {R : State → State → Prop} [PreOrd R] {x : M α} (hx : POk R x) : POk R (discard x) := by
  unfold Functor.discard
  rw [LawfulFunctor.map_const]
  exact POk.map _ hx
macro_rules | `(tactic| okleaf) => `(tactic| with_reducible apply POk.discard)

/-! ### node creation, var writes, effects: they neither stamp nor erase, so every run keeps `RR ex` -/

theorem POk.of_foot {ex : Nat → Prop} {L w α} {m : M α} (hm : Footprint.Foot L w m) (h1 : Footprint.Tag.stamp ∉ Footprint.parts L)
    (h2 : Footprint.Tag.erase ∉ Footprint.parts L) : POk (RR ex) m :=
  .of_pres (hm.lift (RR.of_edit h1 h2))

theorem POk.createNode (ex : Nat → Prop) (k sc c) : POk (RR ex) (createNode k sc c) :=
  .of_foot (Footprint.Foot.createNode (w := fun _ => True) k sc c) (by decide) (by decide)
o_leaf POk.createNode
theorem POk.elabInstr (ex : Nat → Prop) (loc v i) : POk (RR ex) (elabInstr loc v i) :=
  .of_foot (Footprint.Foot.elabInstr (w := fun _ => True) loc v i) (by decide) (by decide)
theorem POk.elabTemplateBase (ex : Nat → Prop) (t v init) : POk (RR ex) (elabTemplateBase t v init) :=
  .of_foot (Footprint.Foot.elabTemplateBase (w := fun _ => True) t v init) (by decide) (by decide)
o_leaf POk.elabTemplateBase
theorem POk.elabTemplate (ex : Nat → Prop) (env t v) : POk (RR ex) (elabTemplate env t v) :=
  .of_foot (Footprint.Foot.elabTemplate (w := fun _ => True) env t v) (by decide) (by decide)
theorem POk.didSetVarWhileNotStabilising (ex : Nat → Prop) (v) : POk (RR ex) (didSetVarWhileNotStabilising v) :=
  .of_foot (Footprint.Foot.didSetVarWhileNotStabilising (w := fun _ => True) v) (by decide) (by decide)
theorem POk.writeVar (ex : Nat → Prop) (v f b) : POk (RR ex) (writeVar v f b) :=
  .of_foot (Footprint.Foot.writeVar (w := fun _ => True) v f b) (by decide) (by decide)
theorem POk.runEffectBasic (ex : Nat → Prop) (env e) : POk (RR ex) (runEffectBasic env e) :=
  .of_foot (Footprint.Foot.runEffectBasic (w := fun _ => True) env e) (by decide) (by decide)
o_leaf POk.runEffectBasic
theorem POk.runEffects (ex : Nat → Prop) (env fuel effs arg) : POk (RR ex) (runEffects env fuel effs arg) := by
  unfold Engine.runEffects; okpres

/-! ### per-key operators, operator closures -/
theorem POk.expertValue (ex : Nat → Prop) (env e d sl) : POk (RR ex) (expertValue env e d sl) :=
  .of_foot (Footprint.Foot.expertValue (w := fun _ => True) env e d sl) (by decide) (by decide)
theorem POk.withOldEvents (ex : Nat → Prop) (env g n σ old x new did) :
    POk (RR ex) (withOldEvents env g n σ old x new did) :=
  .of_foot (Footprint.Foot.withOldEvents (w := fun _ => True) env g n σ old x new did) (by decide) (by decide)
theorem POk.perKeyDriver (ex : Nat → Prop) (env fuel op m) : POk (RR ex) (perKeyDriver env fuel op m) := by
  unfold Engine.perKeyDriver; okpres

end IncrVerif.Proofs.GateF
