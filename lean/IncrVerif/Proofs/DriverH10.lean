import IncrVerif.Proofs.DriverH1
/-!
# `RmSpec`, part 1: pure step lemmas about `QR.GInv` for `expert_remove_dependency`

* `coreG`: `BindH.BU.core` for `QR.GInv` (the parents/observers of a closed necessary node shrink; the labels of
  the other nodes may move, the caller shows the edge conditions for the nodes that are open afterwards).
* `GInv.dropLastLinking`: `removeParent c idx p` where `p` is `.linking (idx + 1)` and `c` its child number `idx`:
  afterwards `p` is `.linking idx`.
* `removeParent_dropLastLinking`: its run form.
* `GInv.shrink`: an open node `.linking k` whose kind is replaced by one with exactly its first `k` children.
-/
namespace IncrVerif.Proofs.DriverH
open IncrVerif.Engine IncrVerif.Driver IncrVerif.Proofs IncrVerif.Proofs.Step IncrVerif.Proofs.Sched
open IncrVerif.Proofs.ExpertH IncrVerif.Proofs.ExpertH.QR

/-- the parents / observers of a closed necessary node `n` shrink; `n` stays closed if it is still necessary and
becomes `unlinking 0` otherwise; closed nodes may open and the labels of open nodes may move -/
theorem coreG {env : Env} {rk : Nat → Nat} {s s' : State} {op op' : Nat → Op} {n : Nat} (I : GInv env rk s op)
    (B : U4.SameB s s')
    (hrch : s'.rch = s.rch) (hhr : ∀ m, (s'.nodeD m).heightInRch = (s.nodeD m).heightInRch)
    (hoth : ∀ m, m ≠ n → (s'.nodeD m).parents = (s.nodeD m).parents ∧
      (s'.nodeD m).observers = (s.nodeD m).observers)
    (hsub : ∀ x, x ∈ (s'.nodeD n).parents → x ∈ (s.nodeD n).parents)
    (hnd : (s'.nodeD n).parents.Nodup)
    (hkeep : ∀ q i, (q, i) ∈ (s.nodeD n).parents → op' q = .closed → (q, i) ∈ (s'.nodeD n).parents)
    (hn : s.isNecessary n = true) (hcl : op n = .closed)
    (hd : (s'.isNecessary n = true ∧ op' n = .closed) ∨ (s'.isNecessary n = false ∧ op' n = .unlinking 0))
    (cl : ∀ m, op' m = .closed → op m = .closed)
    (hln : ∀ m k, m ≠ n → op' m = .linking k → s.isNecessary m = true)
    (hun : ∀ m k, m ≠ n → op' m = .unlinking k → s.isNecessary m = false)
    (hqn : ∀ m, m ≠ n → (∃ k, op m = .unlinking k) → ∃ k, op' m = .unlinking k)
    (hlt : ∀ m, m ≠ n → op' m ≠ .closed → m < s.nodes.size)
    (hpar : ∀ c q i, (q, i) ∈ (s'.nodeD c).parents → q ≠ n → op' q ≠ .closed → Wants s' op' q i)
    (hconv : ∀ q i c, (kids (s.nodeD q).kind)[i]? = some c → q ≠ n → op' q ≠ .closed → Wants s' op' q i →
      (q, i) ∈ (s'.nodeD c).parents) :
    GInv env rk s' op' := by
  have necO : ∀ m, m ≠ n → s'.isNecessary m = s.isNecessary m := fun m h =>
    nec_congr (hoth m h).1 (hoth m h).2 (B.forceNecessary m)
  have necI : ∀ m, s'.isNecessary m = true → s.isNecessary m = true := by
    intro m h
    by_cases e : m = n
    · rw [e]; exact hn
    · rw [← necO m e]; exact h
  have mem0 : ∀ c x, x ∈ (s'.nodeD c).parents → x ∈ (s.nodeD c).parents := by
    intro c x h
    by_cases e : c = n
    · rw [e] at h ⊢; exact hsub x h
    · rw [← (hoth c e).1]; exact h
  have Wn : ∀ i, Wants s' op' n i := by
    intro i
    rcases hd with ⟨h1, h2⟩ | ⟨h1, h2⟩
    · exact (wants_closed h2).2 h1
    · exact (wants_unlinking h2).2 (Nat.zero_le _)
  have inR : ∀ m, (s'.nodeD m).inRch = (s.nodeD m).inRch := fun m => inRch_of_hir (hhr m)
  have nopen : ∀ k, op' n ≠ .linking k := by
    intro k h
    rcases hd with ⟨_, h2⟩ | ⟨_, h2⟩ <;> rw [h2] at h <;> cases h
  refine { static := B.static I.static, par := ?_, conv := ?_, nodup := ?_, hlt := ?_, hpos := ?_, lnec := ?_,
           unec := ?_, heap := I.heap.congr hrch B.size hhr, hgt := ?_, qnec := ?_, queued := ?_, qstale := ?_,
           opLt := ?_ }
  · -- par
    intro c q i hm
    have hm0 := mem0 c _ hm
    refine ⟨by rw [B.kind]; exact (I.par c q i hm0).1, ?_⟩
    by_cases e : q = n
    · rw [e]; exact Wn i
    · by_cases hq : op' q = .closed
      · rw [wants_closed hq, necO q e]
        exact (wants_closed (cl q hq)).1 (I.par c q i hm0).2
      · exact hpar c q i hm e hq
  · -- conv
    intro q i c hk hw
    rw [B.kind] at hk
    by_cases e : q = n
    · rw [e] at hk ⊢
      have hm0 := I.conv n i c hk ((wants_closed hcl).2 hn)
      have hc : c ≠ n := I.kid_ne hk
      rw [(hoth c hc).1]; exact hm0
    · by_cases hq : op' q = .closed
      · rw [wants_closed hq] at hw
        have hm0 := I.conv q i c hk ((wants_closed (cl q hq)).2 (necI q hw))
        by_cases hc : c = n
        · rw [hc] at hm0 ⊢; exact hkeep q i hm0 hq
        · rw [(hoth c hc).1]; exact hm0
      · exact hconv q i c hk e hq hw
  · -- nodup
    intro c
    by_cases hc : c = n
    · rw [hc]; exact hnd
    · rw [(hoth c hc).1]; exact I.nodup c
  · -- hlt
    intro c q i hm ho
    rw [B.height, B.height]
    exact I.hlt c q i (mem0 c _ hm) (cl q ho)
  · -- hpos
    intro m hm ho
    rw [B.height]; exact I.hpos m (necI m hm) (cl m ho)
  · -- lnec
    intro q k ho
    have e : q ≠ n := fun e => nopen k (e ▸ ho)
    rw [necO q e]
    exact hln q k e ho
  · -- unec
    intro q k ho
    by_cases e : q = n
    · rw [e] at ho ⊢
      rcases hd with ⟨_, h2⟩ | ⟨h1, _⟩
      · rw [h2] at ho; cases ho
      · exact h1
    · rw [necO q e]; exact hun q k e ho
  · -- hgt
    intro m hq ho
    rw [inR] at hq
    rw [hhr, B.height]; exact I.hgt m hq (cl m ho)
  · -- qnec
    intro m hq
    rw [inR] at hq
    by_cases e : m = n
    · rw [e]
      rcases hd with ⟨h1, _⟩ | ⟨_, h2⟩
      · exact Or.inl h1
      · exact Or.inr ⟨0, h2⟩
    · rcases I.qnec m hq with h | h
      · exact Or.inl (by rw [necO m e]; exact h)
      · exact Or.inr (hqn m e h)
  · -- queued
    intro m ho hm hs
    rw [B.staleOf] at hs
    rw [inR]; exact I.queued m (cl m ho) (necI m hm) hs
  · -- qstale
    intro m hq
    rw [inR] at hq
    rw [B.staleOf]; exact I.qstale m hq
  · -- opLt
    intro m ho
    rw [B.size]
    by_cases e : m = n
    · rw [e]; exact nec_lt_size hn
    · exact hlt m e ho

section
variable {env : Env} {rk : Nat → Nat} {s s' : State} {op : Nat → Op}

/-- `removeParent c idx p` where `p` is open, `.linking (idx + 1)`, and `c` is its child number `idx` (the last recorded
one): afterwards `p` is `.linking idx`; `c` stays closed if it is still necessary and is relabelled `.unlinking 0`
otherwise (the caller runs `checkIfUnnecessary c` next) -/
theorem GInv.dropLastLinking {c p idx pi : Nat} (I : GInv env rk s op)
    (hidx : (s.nodeD c).parents.idxOf? (p, idx) = some pi)
    (U : NodeUpd c (fParents (swapRemove (s.nodeD c).parents pi)) s s')
    (hop : op p = .linking (idx + 1)) (hk : (kids (s.nodeD p).kind)[idx]? = some c) (hcl : op c = .closed) :
    (s'.isNecessary c = true → GInv env rk s' (upd op p (.linking idx))) ∧
    (s'.isNecessary c = false →
      GInv env rk s' (upd (upd op p (.linking idx)) c (.unlinking 0))) := by
  have B := U4.sameB_of_upd U (U4.keepB_fParents _)
  have hhr := U4.hir_of_upd U (U4.keepB_fParents _)
  have hpc : (s'.nodeD c).parents = swapRemove (s.nodeD c).parents pi := U.self.parents
  obtain ⟨hmem, hnd'⟩ := swapRemove_spec _ _ _ (I.nodup c) hidx
  rw [← hpc] at hmem hnd'
  have hoth : ∀ m, m ≠ c → (s'.nodeD m).parents = (s.nodeD m).parents ∧
      (s'.nodeD m).observers = (s.nodeD m).observers :=
    fun m h => ⟨(U.other m h).parents, (U.other m h).observers⟩
  have hin : (p, idx) ∈ (s.nodeD c).parents :=
    I.conv p idx c hk ((wants_linking hop).2 (Nat.lt_succ_self idx))
  have hn : s.isNecessary c = true := nec_of_mem_parents hin
  have hnp : s.isNecessary p = true := I.lnec p _ hop
  have hpc' : p ≠ c := (I.kid_ne hk).symm
  have mem0 : ∀ c' x, x ∈ (s'.nodeD c').parents → x ∈ (s.nodeD c').parents := by
    intro c' x h
    by_cases e : c' = c
    · rw [e] at h ⊢; exact ((hmem x).1 h).1
    · rw [← (hoth c' e).1]; exact h
  have common : ∀ op' : Nat → Op,
      ((s'.isNecessary c = true ∧ op' c = .closed) ∨ (s'.isNecessary c = false ∧ op' c = .unlinking 0)) →
      (∀ m, m ≠ c → op' m = upd op p (.linking idx) m) → GInv env rk s' op' := by
    intro op' hd ho
    have hop' : op' p = .linking idx := by rw [ho p hpc', upd_self]
    have oo : ∀ m, m ≠ c → m ≠ p → op' m = op m := fun m e1 e2 => by rw [ho m e1, upd_other _ _ _ e2]
    refine coreG I B U.rch hhr hoth (fun x h => ((hmem x).1 h).1) hnd' ?_ hn hcl hd ?_ ?_ ?_ ?_ ?_ ?_ ?_
    · -- hkeep
      intro q i h hq
      refine (hmem (q, i)).2 ⟨h, fun e => ?_⟩
      have e1 : q = p := congrArg Prod.fst e
      rw [e1, hop'] at hq; cases hq
    · -- cl
      intro m h
      by_cases e : m = c
      · rw [e]; exact hcl
      · by_cases e2 : m = p
        · rw [e2, hop'] at h; cases h
        · rw [← oo m e e2]; exact h
    · -- hln
      intro m k e h
      by_cases e2 : m = p
      · rw [e2]; exact hnp
      · rw [oo m e e2] at h; exact I.lnec m k h
    · -- hun
      intro m k e h
      by_cases e2 : m = p
      · rw [e2, hop'] at h; cases h
      · rw [oo m e e2] at h; exact I.unec m k h
    · -- hqn
      intro m e h
      by_cases e2 : m = p
      · obtain ⟨k, h⟩ := h
        rw [e2, hop] at h; cases h
      · rw [oo m e e2]; exact h
    · -- hlt
      intro m e h
      by_cases e2 : m = p
      · rw [e2]; exact nec_lt_size hnp
      · rw [oo m e e2] at h; exact I.opLt m h
    · -- hpar
      intro c' q i hm e hq'
      have hm0 := mem0 c' _ hm
      by_cases ep : q = p
      · rw [ep] at hm hm0 ⊢
        have h1 := I.par c' p i hm0
        have h3 : i < idx + 1 := (wants_linking hop).1 h1.2
        rw [wants_linking hop']
        by_cases ei : i = idx
        · rw [ei] at h1 hm
          have : c' = c := by
            have := h1.1; rw [hk] at this; exact (Option.some.inj this).symm
          rw [this] at hm
          exact absurd rfl ((hmem _).1 hm).2
        · omega
      · have hoq : op' q = op q := oo q e ep
        have hq : op q ≠ .closed := by rw [← hoq]; exact hq'
        exact (U4.wants_open hoq hq).2 (I.par c' q i hm0).2
    · -- hconv
      intro q i c' hk' e hq' hw
      by_cases ep : q = p
      · rw [ep] at hk' hw ⊢
        rw [wants_linking hop'] at hw
        have hm0 := I.conv p i c' hk' ((wants_linking hop).2 (by omega))
        by_cases ec : c' = c
        · rw [ec] at hm0 ⊢
          refine (hmem _).2 ⟨hm0, fun h => ?_⟩
          have : i = idx := congrArg Prod.snd h
          omega
        · rw [(hoth c' ec).1]; exact hm0
      · have hoq : op' q = op q := oo q e ep
        have hq : op q ≠ .closed := by rw [← hoq]; exact hq'
        have hm0 := I.conv q i c' hk' ((U4.wants_open hoq hq).1 hw)
        by_cases ec : c' = c
        · rw [ec] at hm0 ⊢
          exact (hmem _).2 ⟨hm0, fun h => ep (congrArg Prod.fst h)⟩
        · rw [(hoth c' ec).1]; exact hm0
  constructor
  · intro h
    refine common _ (Or.inl ⟨h, ?_⟩) (fun _ _ => rfl)
    rw [upd_other _ _ _ (Ne.symm hpc')]; exact hcl
  · intro h
    exact common _ (Or.inr ⟨h, upd_self _ _ _⟩) (fun m e => upd_other _ _ _ e)

/-- run form of `GInv.dropLastLinking` -/
theorem removeParent_dropLastLinking {c p idx : Nat} {u : Unit}
    (h : (removeParent c idx p).run.run s = (.ok u, s')) (I : GInv env rk s op)
    (hop : op p = .linking (idx + 1)) (hk : (kids (s.nodeD p).kind)[idx]? = some c) (hcl : op c = .closed) :
    (s'.isNecessary c = true → GInv env rk s' (upd op p (.linking idx))) ∧
    (s'.isNecessary c = false → GInv env rk s' (upd (upd op p (.linking idx)) c (.unlinking 0))) ∧
    Above rk c s s' ∧ URel s s' ∧ (∀ m, m ≠ c → s'.nodeD m = s.nodeD m) ∧
    (s'.nodeD c).height = (s.nodeD c).height := by
  obtain ⟨nd, pi, hnd, hidx, e1⟩ := removeParent_ok_inv h
  have hndD : s.nodeD c = nd := nodeD_of_some hnd
  rw [← hndD] at hidx
  have hct : c < s.nodes.size := lt_of_some hnd
  have U : NodeUpd c (fParents (swapRemove (s.nodeD c).parents pi)) s s' := by
    rw [e1]; exact NodeUpd.modify' hct rfl
  obtain ⟨h1, h2⟩ := GInv.dropLastLinking I hidx U hop hk hcl
  refine ⟨h1, h2, ?_, ?_, ?_, U.self.height⟩
  · rw [e1]; exact Above.modify rk c _ s c (Nat.le_refl _)
  · refine ⟨?_, ?_, ?_⟩
    · rw [e1]; exact CFrame.modNode s c _ (fun _ => rfl)
    · rw [e1]
    · intro m x hx
      by_cases e : m = c
      · rw [e] at hx ⊢
        rw [U.self.parents] at hx
        exact ((swapRemove_spec _ _ _ (I.nodup c) hidx).1 x).1 hx |>.1
      · rw [(U.other m e).parents] at hx; exact hx
  · intro m hm
    rw [e1, nodeD_modify, if_neg (fun e => hm e.1.symm)]

end

/-- an open node `.linking k` whose kind is replaced by one with exactly its first `k` children (and whose
`recomputedAt` is reset to `-1`): nothing else changes, the same rank is still valid -/
theorem GInv.shrink {env : Env} {rk : Nat → Nat} {n k : Nat} {k' : Kind} {S S2 : State} {op : Nat → Op}
    (I : GInv env rk S op) (R : Rekind n k' S S2) (hop : op n = .linking k)
    (hk : kids k' = (kids (S.nodeD n).kind).take k) (hsk : StaticKind env k')
    (hst : staleOf S2 n = true) : GInv env rk S2 op := by
  have hkidsn : kids (S2.nodeD n).kind = (kids (S.nodeD n).kind).take k := by rw [R.kind_self]; exact hk
  have hsub : ∀ c, c ∈ kids (S2.nodeD n).kind → c ∈ kids (S.nodeD n).kind := by
    intro c hc; rw [hkidsn] at hc; exact List.mem_of_mem_take hc
  have A : AllStatic env rk S2 := by
    refine ⟨by rw [R.pc]; exact I.static.pc, by rw [R.scope]; exact I.static.scope, fun m hm => ?_,
      I.static.inj, by rw [R.size]; exact I.static.top⟩
    rw [R.size] at hm
    have sn := I.static.node m hm
    by_cases e : m = n
    · subst e
      refine ⟨by rw [R.self]; exact sn.valid, by rw [R.self]; exact hsk, by rw [R.self]; exact sn.cutoff,
        by rw [R.self]; exact sn.top, by rw [R.self]; exact sn.force, ?_, ?_⟩
      · intro c hc; exact sn.kidsLt c (hsub c hc)
      · intro c hc; rw [R.size]; exact sn.kidsIn c (hsub c hc)
    · refine ⟨by rw [R.other m e]; exact sn.valid, by rw [R.other m e]; exact sn.kind,
        by rw [R.other m e]; exact sn.cutoff, by rw [R.other m e]; exact sn.top,
        by rw [R.other m e]; exact sn.force, by rw [R.other m e]; exact sn.kidsLt,
        by rw [R.other m e, R.size]; exact sn.kidsIn⟩
  refine GInv.rekind I R A (fun _ _ => rfl) (fun i c => ?_) (fun h => by rw [hop] at h; cases h)
    (fun k' h => I.lnec n k' h) (fun k' h => I.unec n k' h) (fun hq => ⟨hst, I.qnec n hq⟩)
  unfold Wants
  rw [hop, R.nec, hk, List.getElem?_take]
  constructor
  · rintro ⟨h1, h2⟩
    rw [if_pos (by simpa using h2)] at h1
    exact ⟨h1, h2⟩
  · rintro ⟨h1, h2⟩
    exact ⟨by rw [if_pos (by simpa using h2)]; exact h1, h2⟩

end IncrVerif.Proofs.DriverH
