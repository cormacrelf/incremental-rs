import IncrVerif.Proofs.DriverH33
/-!
# Drivers, `stabilise`, part 3: `stabSpec`

The four phases of `stabilise env fuel`: the prefix (`stab_startD`), the drain (the contract `DrainSpec env`), and the
end (`stabiliseEnd_fin`, `stab_endD`); the values of the final state from `qinvX_values`.
-/
namespace IncrVerif.Proofs.DriverH
open IncrVerif.Engine IncrVerif.Driver IncrVerif.Proofs IncrVerif.Proofs.Step IncrVerif.Proofs.Sched
open IncrVerif.Proofs.ExpertH IncrVerif.Proofs.ExpertH.QR IncrVerif.Proofs.EffH

/-- **`stabilise` with drivers.** -/
theorem stabSpec (env : Env) (hDrain : DrainSpec env) : StabSpec env := by
  intro rk fuel s s' Q hd h
  obtain ⟨t1, t2, t3, -, h1, h2, h3, h4⟩ := stabilise_phases.1 h
  obtain ⟨s0, hs0⟩ : ∃ s0 : State, s0 = { s with status := .stabilising } := ⟨_, rfl⟩
  rw [← hs0] at h1
  have Qv := Q.q
  have hs0v : virt s0 = { virt s with status := .stabilising } := by rw [hs0]; rfl
  -- the prefix
  obtain ⟨D2, O2, hn2, hd2, P⟩ := stab_startD Q hd hs0 h1 h2
  -- the drain
  obtain ⟨D3, he3, f3, hnd⟩ := hDrain fuel t2 t3 D2 h3
  obtain ⟨k_vars, k_stab, k_obs, -, -, k_sds, k_dead, -, -, -⟩ := eKey_inv f3.key
  -- the end
  have hvars2 : t2.vars = s.vars := by
    have := P.vars; rw [hs0v] at this; exact this
  have hstab2 : t2.stabNum = s.stabNum := by
    have := P.stabNum; rw [hs0v] at this; exact this
  have hsize2 : t2.nodes.size = s.nodes.size := by
    have := P.size; rw [hs0v, virt_size] at this
    have e : ({ virt s with status := Status.stabilising } : State).nodes.size = s.nodes.size := virt_size s
    rw [e] at this; exact this
  have E := stabiliseEnd_fin (env := env) (fuel := fuel) (s := t3) (s' := s')
    (by
      rw [k_sds]
      have := P.setDuringStab; rw [hs0v] at this
      exact this.trans Qv.setDuringStab)
    (by
      rw [k_dead]
      have := P.deadVars; rw [hs0v] at this
      exact this.trans Qv.deadVars)
    (by
      intro o ob ho
      rw [k_obs] at ho
      exact (O2.inRange o ob ho).2) h4
  have hal : t2.alive = true := by
    have := P.alive; rw [hs0v] at this
    exact this.trans Qv.alive
  have htop : ∀ (k n : Nat), t2.top[k]? = some n → n < t2.nodes.size := by
    intro k n hk
    have e : t2.top = s.top := by
      have := P.top; rw [hs0v] at this; exact this
    rw [e] at hk
    have := Qv.top k n hk
    rw [virt_size] at this
    rw [hsize2]; exact this
  obtain ⟨⟨rk', Q'⟩, hno', hdo', hd'⟩ := stab_endD D3 f3 O2 hn2 hd2 hal htop E
  have he' : s'.rch.length = 0 := by rw [E.rch]; exact he3
  obtain ⟨R1, R2⟩ := qinvX_reads Q' he' hno' hdo'
  refine ⟨⟨rk', Q'⟩, ?_, ?_, R2, hd', by rw [E.vars, k_vars, hvars2], by rw [E.stabNum, k_stab, hstab2],
    by rw [E.size, f3.size, hsize2], ⟨t1, t2, t3, by rw [← hs0]; exact h1, h2, D2, h3, D3, he3, hnd, h4⟩⟩
  · intro n hn k hk
    obtain ⟨v1, v2, v3⟩ := qinvX_values Q' he' n hn k hk
    rw [evalX_noEff] at v2 v3
    exact ⟨v1, v2, v3⟩
  · intro o ob ho hst k hk
    obtain ⟨v, hv, hev⟩ := R1 o ob ho hst k hk
    rw [evalX_noEff] at hev
    exact ⟨v, hv, hev⟩

end IncrVerif.Proofs.DriverH
