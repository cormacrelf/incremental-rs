import IncrVerif.Proofs.NestH17
/-!
# Nested binds (F2), `adjustHeights`, part 2: closing the open node; the headline theorems `adjustHeights_spec2`, `adjustHeights_total2`
-/
namespace IncrVerif.Proofs.NestH
open IncrVerif.Engine IncrVerif.Proofs IncrVerif.Proofs.Step IncrVerif.Proofs.Sched IncrVerif.Proofs.Quiet
open IncrVerif.Proofs.BindH

namespace NA
open BA CA

variable {env : Env} {rk : Nat → Nat} {s : State} {op : Nat → Op} {ex : Nat → Prop} {dy : List Nat}

/-- a registered node of a bind is a valid node of the bind's scope -/
theorem reg_scope2 (I : GInv2 env rk s op ex dy) {b : Nat} {br : BindRec} (hb : s.binds[b]? = some br) {r : Nat}
    (hr : r ∈ br.allNodesCreatedOnRhs) :
    r < s.nodes.size ∧ (s.nodeD r).valid = true ∧ (s.nodeD r).createdIn = .bind b :=
  (I.frag.gen b br hb r).1 (Or.inl hr)

/-- the static facts the loop needs -/
theorem loopHyp2 (I : GInv2 env rk s op ex dy) : LoopHyp2 rk s where
  up x q h := by
    rcases h with ⟨i, hm⟩ | ⟨b, br, hb, hl, hmem, -⟩
    · have hk := (I.par x q i hm).1
      exact I.frag.kid_rk (children_lt_size hk) (List.mem_of_getElem? hk)
    · obtain ⟨h1, -, h3⟩ := reg_scope2 I hb hmem
      rw [← hl]
      exact (I.frag.scope_rk h1 h3 hb).1
  lcKind b br hb := (I.frag.recs b br hb).2.2.1
  lcValid b br r hb hr := by
    obtain ⟨h1, h2, h3⟩ := reg_scope2 I hb hr
    exact (I.frag.scopeValid r b br h1 h2 h3 hb).1
  lcRec n b br hn hk hb := by
    obtain ⟨br', hb', hl⟩ := (I.frag.node n hn).lcRec b hk
    rw [hb] at hb'
    cases hb'
    exact hl

/-- closing the open node -/
theorem close2 {s' : State} {oc op' i0 : Nat}
    (A : AInvR rk (HP s) op' s s' noXR noY) (E : AhhEmpty s') (I : GInv2 env rk s op ex dy)
    (hopen : op op' = .linking (s.children op').length) (hclosed : ∀ m, m ≠ op' → op m = .closed)
    (hedge : (op', i0) ∈ (s.nodeD oc).parents)
    (hq : s.isStale op' = true → ex op' ∨ (s.nodeD op').inRch = true)
    (hdy : ∀ m, m ∈ dy → ∀ b br, (s.nodeD m).createdIn = .bind b → s.binds[b]? = some br →
      rk br.lhsChange < rk op')
    (hscope : ∀ b br, (s.nodeD op').createdIn = .bind b → s.binds[b]? = some br →
      (s.nodeD br.lhsChange).height < (s.nodeD op').height) :
    GInv2 env rk s' (upd op op' .closed) ex dy := by
  have R := A.rel
  have K := keyEq_of_hrel R
  have H := loopHyp2 I
  have hfine : ∀ c p, HP s c p → (s'.nodeD c).height < (s'.nodeD p).height := by
    intro c p hm
    rcases A.edge c p hm with h | h | h
    · exact h
    · exact absurd (E.marks c) h
    · exact h.elim
  have hocp : oc ≠ op' := by
    have := H.up oc op' (Or.inl ⟨i0, hedge⟩)
    intro e; rw [e] at this; omega
  have hcl : ∀ m, upd op op' .closed m = .closed := by
    intro m
    by_cases e : m = op'
    · rw [e, upd_self]
    · rw [upd_other _ _ _ e]; exact hclosed m e
  refine ⟨KeyEq2.frag2 K I.frag (by rw [R.pc]; exact I.frag.pc) (by rw [R.scope]; exact I.frag.scope),
    ?_, ?_, ?_, ?_, ?_, ?_, ?_, A.heap, ?_, ?_, ?_, ?_, ?_, ?_, ?_, ?_, ?_⟩
  · intro c p i hm
    rw [R.parents] at hm
    obtain ⟨h1, h2⟩ := I.par c p i hm
    refine ⟨by rw [KeyEq2.children2 K I.frag]; exact h1, (wants_closed (hcl p)).2 ?_⟩
    rw [R.nec]
    by_cases e : p = op'
    · rw [e]; exact I.lnec _ _ hopen
    · exact (wants_closed (hclosed p e)).1 h2
  · intro p i c hk hw
    rw [KeyEq2.children2 K I.frag] at hk
    rw [R.parents]
    apply I.conv p i c hk
    have hn := (wants_closed (hcl p)).1 hw
    rw [R.nec] at hn
    by_cases e : p = op'
    · rw [e] at hk ⊢
      refine (wants_linking hopen).2 ?_
      rcases Nat.lt_or_ge i (s.children op').length with h | h
      · exact h
      · rw [List.getElem?_eq_none h] at hk; cases hk
    · exact (wants_closed (hclosed p e)).2 hn
  · intro c; rw [R.parents]; exact I.nodup c
  · intro c p i hm _
    rw [R.parents] at hm
    exact hfine c p (Or.inl ⟨i, hm⟩)
  · intro n hn _
    rw [R.nec] at hn
    by_cases e : n = op'
    · have h1 := hfine oc op' (Or.inl ⟨i0, hedge⟩)
      have h2 := I.hpos oc (nec_of_mem_parents hedge) (hclosed oc hocp)
      have h3 := R.height oc
      rw [e]; omega
    · have h2 := I.hpos n hn (hclosed n e)
      have h3 := R.height n
      omega
  · intro p k ho; rw [hcl p] at ho; cases ho
  · intro p k ho; rw [hcl p] at ho; cases ho
  · intro m hqm _
    exact A.hgt m hqm (E.marks m) (fun h => h)
  · intro m hqm
    rw [R.inRch] at hqm
    rw [R.nec]
    rcases I.qnec m hqm with h | ⟨k, h⟩
    · exact Or.inl h
    · by_cases e : m = op'
      · rw [e, hopen] at h; cases h
      · rw [hclosed m e] at h; cases h
  · intro m _ hn hs hex
    rw [R.nec] at hn
    rw [KeyEq2.isStale2 K I.frag] at hs
    rw [R.inRch]
    by_cases e : m = op'
    · rw [e] at hs hex ⊢
      rcases hq hs with h | h
      · exact absurd h hex
      · exact h
    · exact I.queued m (hclosed m e) hn hs hex
  · intro m hqm
    rw [R.inRch] at hqm
    rw [KeyEq2.isStale2 K I.frag]; exact I.qstale m hqm
  · intro m ho; exact absurd (hcl m) ho
  · -- the scope height rule
    intro n b br hv hsc hb hn _
    rw [R.valid] at hv
    rw [R.createdIn] at hsc
    rw [R.binds] at hb
    rw [R.nec] at hn
    have hnl := nec_lt_size hn
    by_cases hd : n ∈ dy
    · -- a dying node: the change detector of its scope is untouched, its own height only grows
      have h1 := A.low br.lhsChange (hdy n hd b br hsc hb)
      have h2 : (s.nodeD br.lhsChange).height < (s.nodeD n).height := by
        by_cases e : n = op'
        · rw [e] at hsc ⊢; exact hscope b br hsc hb
        · exact I.scopeH n b br hv hsc hb hn (hclosed n e)
      have h3 := R.height n
      rw [h1]; omega
    · -- a registered node: a scope pair
      have hreg : n ∈ br.allNodesCreatedOnRhs := by
        rcases (I.frag.gen b br hb n).2 ⟨hnl, hv, hsc⟩ with h | ⟨h, -⟩
        · exact h
        · exact absurd h hd
      exact hfine br.lhsChange n (Or.inr ⟨b, br, hb, rfl, hreg, hn⟩)
  · intro m hv
    rw [R.valid] at hv
    obtain ⟨h1, h2, h3, h4, h5⟩ := I.inv m hv
    refine ⟨by rw [R.parents]; exact h1, by rw [R.nobservers]; exact h2, by rw [R.forceNecessary]; exact h3,
      by rw [R.inRch]; exact h4, hcl m⟩
  · intro m b hsc
    rw [R.createdIn] at hsc
    rw [R.nobservers]; exact I.scopeObs m b hsc
  · intro m b hk
    rw [R.kind] at hk
    rw [R.nobservers]; exact I.lcObs m b hk

/-- the static facts the loop needs to return -/
theorem loopHypT (I : GInv2 env rk s op ex dy) {oc op' : Nat}
    (hopen : op op' = .linking (s.children op').length) (hclosed : ∀ m, m ≠ op' → op m = .closed)
    (hother : ∀ c i, (op', i) ∈ (s.nodeD c).parents → c ≠ oc → (s.nodeD c).height < (s.nodeD op').height)
    (hscope : ∀ b br, (s.nodeD op').createdIn = .bind b → s.binds[b]? = some br →
      (s.nodeD br.lhsChange).height < (s.nodeD op').height)
    (h0 : 0 ≤ (s.nodeD op').height) (hrk : rk oc < rk op') : LoopHypT rk oc op' s where
  pnec c p h := by
    rcases h with ⟨i, hm⟩ | ⟨b, br, hb, hl, hmem, hn⟩
    · have h2 := (I.par c p i hm).2
      by_cases e : p = op'
      · rw [e]; exact I.lnec _ _ hopen
      · exact (wants_closed (hclosed p e)).1 h2
    · exact hn
  pin c p h := by
    rcases h with ⟨i, hm⟩ | ⟨b, br, hb, hl, hmem, hn⟩
    · exact children_lt_size (I.par c p i hm).1
    · exact (reg_scope2 I hb hmem).1
  pos0 m hn := by
    by_cases e : m = op'
    · rw [e]; exact h0
    · exact I.hpos m hn (hclosed m e)
  fine0 c p h hco := by
    rcases h with ⟨i, hm⟩ | ⟨b, br, hb, hl, hmem, hn⟩
    · by_cases e : p = op'
      · rw [e] at hm ⊢; exact hother c i hm hco
      · exact I.hlt c p i hm (hclosed p e)
    · obtain ⟨-, hv, hsc⟩ := reg_scope2 I hb hmem
      rw [← hl]
      by_cases e : p = op'
      · rw [e] at hsc ⊢; exact hscope b br hsc hb
      · exact I.scopeH p b br hv hsc hb hn (hclosed p e)
  lcEx n b hn _ hk := by
    obtain ⟨br, hb, -⟩ := (I.frag.node n hn).lcRec b hk
    exact ⟨br, hb⟩
  rkoc := hrk

/-- what `adjustHeights oc op'` needs to return: `hb` every closed necessary node is within the bound before the call (`op'` is open: nothing is
assumed about it except `h0`), the heaps have room, `hge` the precondition of the call (`stateAddParent` calls `adjustHeights child parent` only if
`child.height ≥ parent.height`), fuel for one pop per node -/
structure AdjP (rk : Nat → Nat) (N oc op' fuel : Nat) (s : State) (op : Nat → Op) : Prop where
  hb : HBo2 rk s op
  room : Room N s
  hge : (s.nodeD op').height ≤ (s.nodeD oc).height
  h0 : 0 ≤ (s.nodeD op').height
  fuel : s.nodes.size + 1 ≤ fuel

open TA in
/-- `adjustHeights`, both correctness statements: `adjustHeights_spec2`, `adjustHeights_total2` -/
theorem adjustHeights_corr2 {N oc op' fuel : Nat}
    (I : GInv2 env rk s op ex dy)
    (hopen : op op' = .linking (s.children op').length) (hclosed : ∀ m, m ≠ op' → op m = .closed)
    (hedge : ∃ i, (op', i) ∈ (s.nodeD oc).parents)
    (hother : ∀ c i, (op', i) ∈ (s.nodeD c).parents → c ≠ oc → (s.nodeD c).height < (s.nodeD op').height)
    (hgtop : (s.nodeD op').inRch = true → (s.nodeD op').heightInRch = (s.nodeD op').height)
    (hq : s.isStale op' = true → ex op' ∨ (s.nodeD op').inRch = true)
    (hah : AhhEmpty s)
    (hdy : ∀ m, m ∈ dy → ∀ b br, (s.nodeD m).createdIn = .bind b → s.binds[b]? = some br →
      rk br.lhsChange < rk op')
    (hscope : ∀ b br, (s.nodeD op').createdIn = .bind b → s.binds[b]? = some br →
      (s.nodeD br.lhsChange).height < (s.nodeD op').height) :
    Corr (adjustHeights oc op' fuel) s (AdjP rk N oc op' fuel s op) (fun _ s' =>
      GInv2 env rk s' (upd op op' .closed) ex dy ∧ AhhEmpty s' ∧ HRel s s' ∧
        (∀ m, rk m < rk op' → s'.nodeD m = s.nodeD m) ∧
        (AdjP rk N oc op' fuel s op → HBo2 rk s' (upd op op' .closed) ∧ Room N s')) := by
  obtain ⟨i0, hedge⟩ := hedge
  have H := loopHyp2 I
  have hrk := H.up oc op' (Or.inl ⟨i0, hedge⟩)
  have hocp : oc ≠ op' := by
    intro e; rw [e] at hrk; omega
  have hnoc : s.isNecessary oc = true := nec_of_mem_parents hedge
  have hnop : s.isNecessary op' = true := I.lnec _ _ hopen
  have hoc : oc < s.nodes.size := nec_lt_size hnoc
  have hop : op' < s.nodes.size := nec_lt_size hnop
  unfold adjustHeights
  refine Corr.bind_get ?_
  refine Corr.bind_dassert (fun _ _ => by rw [hah.length]; rfl) ?_
  refine Corr.bind_dassert (fun hP _ => by simpa using hP.hge) ?_
  refine Corr.bind_modify ?_
  intro s1 hs1
  -- the invariants hold initially, with the edges `oc → op'` still to be looked at
  have hnd1 : ∀ m, s1.nodeD m = s.nodeD m := fun m => by rw [hs1]; rfl
  have hlb1 : s1.ahh.lowerBound = (s.nodeD op').height := by rw [hs1]
  have E1 : AhhEmpty s1 := by
    rw [hs1]; exact ⟨hah.length, hah.buckets, hah.marks⟩
  have A1 : AInvR rk (HP s) op' s s1 (fun x q => x = oc ∧ q = op') noY := by
    refine ⟨by rw [hs1]; exact HRel.same_nodes rfl rfl, AhhEmpty.wf E1,
      I.heap.congr (by rw [hs1]) (by rw [hs1]) (fun m => by rw [hnd1]), ?_, ?_, ?_, ?_, fun m _ => hnd1 m,
      fun m hmm => absurd (E1.marks m) hmm⟩
    · intro c p hm
      rw [hnd1, hnd1]
      rcases hm with ⟨i, hm⟩ | ⟨b, br, hb, hl, hmem, hn⟩
      · by_cases e : p = op'
        · by_cases ec : c = oc
          · exact Or.inr (Or.inr ⟨ec, e⟩)
          · rw [e] at hm ⊢; exact Or.inl (hother c i hm ec)
        · exact Or.inl (I.hlt c p i hm (hclosed p e))
      · left
        obtain ⟨-, hv, hsc⟩ := reg_scope2 I hb hmem
        rw [← hl]
        by_cases e : p = op'
        · rw [e] at hsc ⊢; exact hscope b br hsc hb
        · exact I.scopeH p b br hv hsc hb hn (hclosed p e)
    · intro c p _ hmc
      exact absurd (E1.marks c) hmc
    · intro m hqm _ _
      rw [hnd1] at hqm ⊢
      by_cases e : m = op'
      · rw [e] at hqm ⊢; exact hgtop hqm
      · exact I.hgt m hqm (hclosed m e)
    · intro m hqm
      rw [hnd1] at hqm ⊢
      by_cases e : m = op'
      · rw [e] at hqm ⊢; rw [hgtop hqm]; exact Int.le_refl _
      · rw [I.hgt m hqm (hclosed m e)]; exact Int.le_refl _
  have T1 : AdjP rk N oc op' fuel s op → TI rk N s s1 [] (· = op') := by
    intro hP
    refine ⟨room_congr hP.room (by rw [hs1]) (by rw [hs1]) (by rw [hs1]), ?_,
      fun m hm => absurd (E1.marks m) hm, fun m hm => absurd (E1.marks m) hm, fun m hm => absurd (E1.marks m) hm,
      fun m _ _ => by rw [hnd1], fun m hm => by cases hm⟩
    intro m hn hz
    rw [hnd1]
    exact hP.hb m hn (hclosed m hz)
  -- the first `ensureHeightRequirement`
  refine Corr.bind_ret (fun hP => ?_) (fun _ s2 h2 => ?_)
  · obtain ⟨s2, h2⟩ := ehr_tot (oc := oc) (op := op') (c := oc) (p := op') (s := s1) (by rw [A1.rel.size]; exact hoc)
      (by rw [A1.rel.size]; exact hop) (by rw [A1.rel.nec]; exact hnoc) (by rw [A1.rel.nec]; exact hnop)
      (fun e => hocp e.symm) (by rw [hlb1, hnd1]; exact Int.le_refl _) (by rw [hnd1]; exact hP.h0)
      (by
        have h0 := (T1 hP).bound oc hnoc hocp
        have h1 := cnt_lt_cnt (rk := rk) hoc hrk
        have h2 := cnt_lt_size (rk := rk) hop
        have h3 := (T1 hP).room.size
        have h4 := (T1 hP).room.ahh
        have h5 := A1.rel.size
        omega)
    exact ⟨(), s2, h2⟩
  obtain ⟨A2, -, -⟩ := ehr_step h2 A1 (fun x q hx => hx.1) hocp
    (by rw [hnd1, hlb1]; exact Int.le_refl _) (Nat.le_refl _)
  have A2' : AInvR rk (HP s) op' s s2 noXR noY := A2.mono (fun x q _ hx => hx.2 hx.1.2) (fun _ hy => hy)
  have hPl : AdjP rk N oc op' fuel s op → LoopHypT rk oc op' s ∧ TI rk N s s2 [] noZ ∧ mu s [] < fuel := by
    intro hP
    refine ⟨loopHypT I hopen hclosed hother hscope hP.h0 hrk, ?_, by rw [mu_nil]; exact hP.fuel⟩
    exact (TI.ehr h2 A1 (T1 hP) ((T1 hP).bound oc hnoc hocp) hrk (List.not_mem_nil) hnop
      (fun _ => by rw [hnd1, hnd1]; exact hP.hge)).1.mono (fun m h => h.2 h.1)
  -- the loop
  refine Corr.bind (loop_corr2 (N := N) H fuel s2 [] A2') hPl ?_
  rintro _ s3 - ⟨A3, E3, T3⟩
  have hfine : (s3.nodeD oc).height < (s3.nodeD op').height := by
    rcases A3.edge oc op' (Or.inl ⟨i0, hedge⟩) with h | h | h
    · exact h
    · exact absurd (E3.marks oc) h
    · exact h.elim
  refine Corr.bind_get ?_
  refine Corr.bind_dassert (fun _ _ => by rw [E3.length]; rfl) ?_
  refine Corr.of_ok (run_dassert_true s3 (fun _ => by simpa using hfine))
    ⟨close2 A3 E3 I hopen hclosed hedge hq hdy hscope, E3, A3.rel, A3.low, fun hP => ?_⟩
  obtain ⟨dn3, T3⟩ := T3 (hPl hP)
  refine ⟨fun m hn _ => ?_, T3.room⟩
  rw [A3.rel.size]
  rw [A3.rel.nec] at hn
  exact T3.bound m hn (fun h => h)

end NA

section
variable {env : Env} {rk : Nat → Nat} {s : State} {op : Nat → Op} {ex : Nat → Prop} {dy : List Nat}
open BA CA NA

/-- **`adjustHeights` restores the height invariant** (partial correctness, fragment F2).  `op'` is the only open node, all
its child edges are recorded, the edges `oc → op'` are the only height pairs (recorded edges, scope pairs of registered
nodes) that may violate the height rule; no change detector of a dying node's scope is touched.  Also: nodes of rank below
`op'` are untouched. -/
theorem adjustHeights_spec2 {oc op' fuel : Nat} {s' : State}
    (h : (adjustHeights oc op' fuel).run.run s = (.ok (), s'))
    (I : GInv2 env rk s op ex dy)
    (hopen : op op' = .linking (s.children op').length) (hclosed : ∀ m, m ≠ op' → op m = .closed)
    (hedge : ∃ i, (op', i) ∈ (s.nodeD oc).parents)
    (hother : ∀ c i, (op', i) ∈ (s.nodeD c).parents → c ≠ oc → (s.nodeD c).height < (s.nodeD op').height)
    (hgtop : (s.nodeD op').inRch = true → (s.nodeD op').heightInRch = (s.nodeD op').height)
    (hq : s.isStale op' = true → ex op' ∨ (s.nodeD op').inRch = true)
    (hah : AhhEmpty s)
    (hdy : ∀ m, m ∈ dy → ∀ b br, (s.nodeD m).createdIn = .bind b → s.binds[b]? = some br →
      rk br.lhsChange < rk op')
    (hscope : ∀ b br, (s.nodeD op').createdIn = .bind b → s.binds[b]? = some br →
      (s.nodeD br.lhsChange).height < (s.nodeD op').height) :
    GInv2 env rk s' (upd op op' .closed) ex dy ∧ AhhEmpty s' ∧ HRel s s' ∧
      ∀ m, rk m < rk op' → s'.nodeD m = s.nodeD m :=
  have ⟨I', E, R, hlo, _⟩ :=
    (adjustHeights_corr2 (N := 0) I hopen hclosed hedge hother hgtop hq hah hdy hscope).ok h
  ⟨I', E, R, hlo⟩

/-- **`adjustHeights` returns and restores the height invariant and the height bound** (TOTAL correctness, fragment F2): no `cyclic` panic
(every pair handled has increasing rank above `rk oc`), no `height-limit` (the bound is a loop invariant), `s.nodes.size + 1 ≤ fuel` suffices
(every node is popped from the adjust-heights heap at most once); the height bound `HBo2` then holds for ALL necessary nodes, `op'` included.
Hypotheses of `adjustHeights_spec2`, plus those of `AdjP`.  The rank condition `rk oc < rk op'` ("the new edge respects the rank") FOLLOWS from
`hedge` (the edge is already recorded and `GInv2.par` + `kidLt`). -/
theorem adjustHeights_total2 {N oc op' fuel : Nat}
    (I : GInv2 env rk s op ex dy) (hb : HBo2 rk s op) (R : Room N s)
    (hopen : op op' = .linking (s.children op').length) (hclosed : ∀ m, m ≠ op' → op m = .closed)
    (hedge : ∃ i, (op', i) ∈ (s.nodeD oc).parents)
    (hother : ∀ c i, (op', i) ∈ (s.nodeD c).parents → c ≠ oc → (s.nodeD c).height < (s.nodeD op').height)
    (hgtop : (s.nodeD op').inRch = true → (s.nodeD op').heightInRch = (s.nodeD op').height)
    (hq : s.isStale op' = true → ex op' ∨ (s.nodeD op').inRch = true)
    (hah : AhhEmpty s)
    (hdy : ∀ m, m ∈ dy → ∀ b br, (s.nodeD m).createdIn = .bind b → s.binds[b]? = some br →
      rk br.lhsChange < rk op')
    (hscope : ∀ b br, (s.nodeD op').createdIn = .bind b → s.binds[b]? = some br →
      (s.nodeD br.lhsChange).height < (s.nodeD op').height)
    (hge : (s.nodeD op').height ≤ (s.nodeD oc).height)
    (h0 : 0 ≤ (s.nodeD op').height)
    (hf : s.nodes.size + 1 ≤ fuel) :
    Tot (adjustHeights oc op' fuel) s (fun _ s' =>
      GInv2 env rk s' (upd op op' .closed) ex dy ∧ AhhEmpty s' ∧ HRel s s' ∧
        (∀ m, rk m < rk op' → s'.nodeD m = s.nodeD m) ∧
        HBo2 rk s' (upd op op' .closed) ∧ Room N s') :=
  have hP : AdjP rk N oc op' fuel s op := ⟨hb, R, hge, h0, hf⟩
  have ⟨u, s', h, I', E, R', hlo, hT⟩ :=
    (adjustHeights_corr2 I hopen hclosed hedge hother hgtop hq hah hdy hscope).tot hP
  ⟨u, s', h, I', E, R', hlo, hT hP⟩

end

end IncrVerif.Proofs.NestH
