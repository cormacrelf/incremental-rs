import IncrVerif.Proofs.PerKeyH1
import IncrVerif.Proofs.AssocMapLemmas
/-!
# Per-key operators, pure part: `AMap.ofList`, the assembling fold, `penv`

Only list/map lemmas: no engine state.
-/
namespace IncrVerif.Proofs.PerKeyH
open IncrVerif IncrVerif.Engine IncrVerif.Proofs IncrVerif.Proofs.ExpertH IncrVerif.Proofs.EffH

/-! ## 1. `ofList` is sorted; `lookup` of `insert` -/

theorem foldl_insert_sorted (l : List (Int × Int)) (acc : AMap Int) (h : AMap.Sorted acc) :
    AMap.Sorted (l.foldl (fun m kv => AMap.insert m kv.1 kv.2) acc) := by
  induction l generalizing acc with
  | nil => exact h
  | cons kv l ih => exact ih _ (AMap.sorted_insert acc h kv.1 kv.2)

theorem ofList_sorted (l : List (Int × Int)) : AMap.Sorted (AMap.ofList l) :=
  foldl_insert_sorted l [] AMap.sorted_nil

/-- (`AssocMapLemmas`) no sortedness needed -/
theorem lookup_insert (m : AMap Int) (k v k' : Int) :
    AMap.lookup (AMap.insert m k v) k' = if k' = k then some v else AMap.lookup m k' :=
  AMap.lookup_insert m k v k'

theorem lookup_insert_self (m : AMap Int) (k v : Int) : AMap.lookup (AMap.insert m k v) k = some v :=
  AMap.lookup_insert_self m k v

theorem lookup_insert_ne (m : AMap Int) (k v k' : Int) (h : k' ≠ k) :
    AMap.lookup (AMap.insert m k v) k' = AMap.lookup m k' :=
  AMap.lookup_insert_ne m k v k' h

/-! ## 2. `lookup` of `ofList` of a key-distinct list -/

theorem lookup_foldl_insert_nodup (l : List (Int × Int)) (h : (l.map (·.1)).Nodup) (acc : AMap Int) (k : Int) :
    AMap.lookup (l.foldl (fun m kv => AMap.insert m kv.1 kv.2) acc) k = (l.lookup k).or (AMap.lookup acc k) := by
  induction l generalizing acc with
  | nil => simp
  | cons kv l ih =>
    rcases kv with ⟨k0, v0⟩
    rw [List.map_cons, List.nodup_cons] at h
    rw [List.foldl_cons, ih h.2, List.lookup_cons]
    by_cases hk : k = k0
    · subst hk
      have hn : l.lookup k = none := by
        rw [List.lookup_eq_none_iff]
        intro p hp
        have : p.1 ≠ k := fun e => h.1 (List.mem_map.mpr ⟨p, hp, e⟩)
        simpa [bne_iff_ne] using fun e => this e.symm
      simp [hn, AMap.lookup_insert_self]
    · have : (k == k0) = false := by simpa using hk
      simp only [this]
      rw [AMap.lookup_insert_ne _ _ _ _ hk]

theorem lookup_ofList_nodup {l : List (Int × Int)} (h : (l.map (·.1)).Nodup) (k : Int) :
    AMap.lookup (AMap.ofList l) k = l.lookup k := by
  unfold AMap.ofList
  rw [lookup_foldl_insert_nodup l h [] k]
  simp

theorem list_lookup_eq_find (l : List (Int × Int)) (k : Int) :
    l.lookup k = (l.find? (fun p => p.1 == k)).map (·.2) := by
  induction l with
  | nil => rfl
  | cons kv l ih =>
    rcases kv with ⟨k0, v0⟩
    rw [List.lookup_cons, List.find?_cons]
    by_cases hk : k = k0
    · subst hk; simp
    · have h1 : (k == k0) = false := by simpa using hk
      have h2 : (k0 == k) = false := by simpa using fun e : k0 = k => hk e.symm
      simp only [h1, h2, ih]

theorem lookup_ofList_nodup_find {l : List (Int × Int)} (h : (l.map (·.1)).Nodup) (k : Int) :
    AMap.lookup (AMap.ofList l) k = (l.find? (fun p => p.1 == k)).map (·.2) := by
  rw [lookup_ofList_nodup h, list_lookup_eq_find]

/-- in a key-distinct list, `lookup` is membership -/
theorem list_lookup_eq_some_iff_mem {β : Type} {l : List (Int × β)} (h : (l.map (·.1)).Nodup) (k : Int) (v : β) :
    l.lookup k = some v ↔ (k, v) ∈ l := by
  induction l with
  | nil => simp
  | cons kv l ih =>
    rcases kv with ⟨k0, v0⟩
    rw [List.map_cons, List.nodup_cons] at h
    rw [List.lookup_cons, List.mem_cons]
    by_cases hk : k = k0
    · subst hk
      simp only [beq_self_eq_true, Option.some.injEq, Prod.mk.injEq, true_and]
      constructor
      · intro e; exact .inl e.symm
      · rintro (e | hm)
        · exact e.symm
        · exact absurd (List.mem_map.mpr ⟨(k, v), hm, rfl⟩) h.1
    · have h1 : (k == k0) = false := by simpa using hk
      simp only [h1, ih h.2, Prod.mk.injEq, hk, false_and, false_or]

theorem list_lookup_eq_none_iff_not_mem_keys {β : Type} (l : List (Int × β)) (k : Int) :
    l.lookup k = none ↔ k ∉ l.map (·.1) := by
  rw [List.lookup_eq_none_iff]
  constructor
  · intro h hm
    obtain ⟨p, hp, e⟩ := List.mem_map.mp hm
    have := h p hp
    simp [e] at this
  · intro h p hp
    have : p.1 ≠ k := fun e => h (List.mem_map.mpr ⟨p, hp, e⟩)
    simpa [bne_iff_ne] using fun e => this e.symm

theorem lookup_ofList_eq_some_iff {l : List (Int × Int)} (h : (l.map (·.1)).Nodup) (k v : Int) :
    AMap.lookup (AMap.ofList l) k = some v ↔ (k, v) ∈ l := by
  rw [lookup_ofList_nodup h, list_lookup_eq_some_iff_mem h]

theorem lookup_ofList_eq_none_iff {l : List (Int × Int)} (h : (l.map (·.1)).Nodup) (k : Int) :
    AMap.lookup (AMap.ofList l) k = none ↔ k ∉ l.map (·.1) := by
  rw [lookup_ofList_nodup h, list_lookup_eq_none_iff_not_mem_keys]

/-! ## 3. extensionality -/

theorem sorted_ext {a b : AMap Int} (ha : AMap.Sorted a) (hb : AMap.Sorted b)
    (h : ∀ k, AMap.lookup a k = AMap.lookup b k) : a = b :=
  AMap.ext_lookup a b ha hb h

/-! ## 4. `ofList` of key-distinct lists depends only on the set of bindings -/

theorem ofList_eq_of_mem_iff {l l' : List (Int × Int)} (hn : (l.map (·.1)).Nodup) (hn' : (l'.map (·.1)).Nodup)
    (h : ∀ k v, (k, v) ∈ l ↔ (k, v) ∈ l') : AMap.ofList l = AMap.ofList l' := by
  apply sorted_ext (ofList_sorted l) (ofList_sorted l')
  intro k
  apply Option.ext
  intro v
  rw [lookup_ofList_eq_some_iff hn, lookup_ofList_eq_some_iff hn', h]

theorem ofList_perm {l l' : List (Int × Int)} (hn : (l.map (·.1)).Nodup) (hp : l.Perm l') :
    AMap.ofList l = AMap.ofList l' :=
  ofList_eq_of_mem_iff hn ((hp.map _).nodup_iff.mp hn) (fun _ _ => hp.mem_iff)

/-! ## 5. the assembling fold -/

theorem asmPairs_cons (k t : Int) (tags : List (Int × Int)) (v : Val) (vals : List Val) :
    asmPairs ((k, t) :: tags) (v :: vals) = (if t = 1 then [(k, v.toInt)] else []) ++ asmPairs tags vals := rfl

@[simp] theorem asmPairs_nil_left (vals : List Val) : asmPairs [] vals = [] := rfl

@[simp] theorem asmPairs_nil_right (tags : List (Int × Int)) : asmPairs tags [] = [] := by
  cases tags with
  | nil => rfl
  | cons kt tags => rcases kt with ⟨k, t⟩; rfl

theorem asmStep_cons (k t : Int) (rest built : List (Int × Int)) (x : Val) :
    asmStep (.pair (.map ((k, t) :: rest)) (.map built)) x =
      (if rest.isEmpty then .map (AMap.ofList (if t = 1 then built ++ [(k, x.toInt)] else built))
       else .pair (.map rest) (.map (if t = 1 then built ++ [(k, x.toInt)] else built))) := rfl

theorem asm_fold_gen (tags : List (Int × Int)) (vals : List Val) (built : List (Int × Int))
    (hl : tags.length = vals.length) (hne : tags ≠ []) :
    vals.foldl asmStep (.pair (.map tags) (.map built)) = .map (AMap.ofList (built ++ asmPairs tags vals)) := by
  induction tags generalizing vals built with
  | nil => exact absurd rfl hne
  | cons kt rest ih =>
    rcases kt with ⟨k, t⟩
    cases vals with
    | nil => simp at hl
    | cons v vs =>
      simp only [List.length_cons, Nat.add_right_cancel_iff] at hl
      rw [List.foldl_cons, asmStep_cons, asmPairs_cons]
      cases rest with
      | nil =>
        have : vs = [] := List.length_eq_zero_iff.mp hl.symm
        subst this
        simp only [List.isEmpty_nil, if_true, List.foldl_nil, asmPairs_nil_left, List.append_nil]
        split <;> simp
      | cons kt' rest' =>
        simp only [List.isEmpty_cons, Bool.false_eq_true, if_false]
        rw [ih vs _ hl (by simp)]
        split <;> simp

theorem asm_fold (tags : List (Int × Int)) (vals : List Val)
    (hl : tags.length = vals.length) (hne : tags ≠ []) :
    vals.foldl asmStep (asmInit tags) = .map (AMap.ofList (asmPairs tags vals)) := by
  unfold asmInit
  rw [asm_fold_gen tags vals [] hl hne]
  simp

/-! ### through `penv` -/

theorem penv_foldStep_xAsm (env : Env) : (penv env).foldStep xAsm = asmStep := by
  funext acc x
  simp [penv, xAsm, xConst]

theorem penv_foldStep_xConst (env : Env) (acc x : Val) : (penv env).foldStep xConst acc x = acc := by
  simp [penv]

theorem penv_fn_fLc (env : Env) (vals : List Val) : (penv env).fn fLc vals = .unit := by
  simp [penv]

theorem penv_fn_lt (env : Env) {f : Nat} (h : f < fnZip) : (penv env).fn f = env.fn f := by
  funext vals
  have : f ≠ fLc := by unfold fLc; unfold fnZip at h; omega
  simp [penv, this]

theorem penv_fn_ne (env : Env) {f : Nat} (h : f ≠ fLc) : (penv env).fn f = env.fn f := by
  funext vals
  simp [penv, h]

theorem penv_fn_fnIdent (env : Env) : (penv env).fn fnIdent = env.fn fnIdent :=
  penv_fn_ne env (by decide)

theorem penv_fn_fnZip (env : Env) : (penv env).fn fnZip = env.fn fnZip :=
  penv_fn_ne env (by decide)

theorem penv_foldStep_lt (env : Env) {F : Nat} (h : F < xBase) : (penv env).foldStep F = env.foldStep F := by
  funext acc x
  have h1 : F ≠ xConst := by unfold xConst; omega
  have h2 : F ≠ xAsm := by unfold xAsm; omega
  simp [penv, h1, h2]

theorem penv_foldStep_other (env : Env) {F : Nat} (h1 : F ≠ xConst) (h2 : F ≠ xAsm) :
    (penv env).foldStep F = env.foldStep F := by
  funext acc x
  simp [penv, h1, h2]

theorem penv_fold_xConst (env : Env) (vals : List Val) (init : Val) :
    vals.foldl ((penv env).foldStep xConst) init = init := by
  induction vals with
  | nil => rfl
  | cons v vs ih => rw [List.foldl_cons, penv_foldStep_xConst, ih]

theorem penv_fold_xAsm (env : Env) (tags : List (Int × Int)) (vals : List Val)
    (hl : tags.length = vals.length) (hne : tags ≠ []) :
    vals.foldl ((penv env).foldStep xAsm) (asmInit tags) = .map (AMap.ofList (asmPairs tags vals)) := by
  rw [penv_foldStep_xAsm, asm_fold tags vals hl hne]

/-! ## `lookup` -/

/-- `AMap.lookup` is `List.lookup` -/
theorem amap_lookup_eq (m : List (Int × Int)) (k : Int) : IncrVerif.AMap.lookup m k = m.lookup k := by
  induction m with
  | nil => rfl
  | cons kv m ih =>
    rcases kv with ⟨k0, v0⟩
    rw [IncrVerif.AMap.lookup, List.lookup_cons]
    by_cases hk : k = k0
    · subst hk; simp
    · have h1 : (k == k0) = false := by simpa using hk
      simp only [hk, if_false, h1, ih]

theorem lookup_isSome_of_mem {β : Type} {l : List (Int × β)} {k : Int} {v : β} (h : (k, v) ∈ l) :
    (l.lookup k).isSome = true := by
  induction l with
  | nil => cases h
  | cons kv l ih =>
    rcases kv with ⟨k0, v0⟩
    rw [List.lookup_cons]
    by_cases hk : k = k0
    · subst hk; simp
    · have h1 : (k == k0) = false := by simpa using hk
      simp only [h1]
      rcases List.mem_cons.1 h with e | e
      · cases e; exact absurd rfl hk
      · exact ih e

end IncrVerif.Proofs.PerKeyH
