import IncrVerif.Proofs.FullT5
/-!
# C04 combined fragment, part 6b: the linking cascade (`becameNecessary`, `addParentWithoutAdjustingHeights`) bisimulates, with fuel `size + 2 * UN + 2`
-/
namespace IncrVerif.Proofs.FullT
set_option linter.unusedSectionVars false
open IncrVerif.Engine IncrVerif.Proofs IncrVerif.Proofs.Step IncrVerif.Proofs.Sched IncrVerif.Proofs.Quiet IncrVerif.Proofs.FullH

/-! ## the measure -/

theorem UN_le_of {s s' : State} (hsz : s'.nodes.size = s.nodes.size)
    (h : ∀ m, s.isNecessary m = true → s'.isNecessary m = true) : UN s' ≤ UN s := by
  unfold UN; rw [hsz]
  apply countP_le_of_imp
  intro m _ hm
  cases h1 : s.isNecessary m with
  | false => rfl
  | true => rw [h m h1] at hm; exact hm

theorem UN_lt_of {s s' : State} (hsz : s'.nodes.size = s.nodes.size)
    (h : ∀ m, s.isNecessary m = true → s'.isNecessary m = true) {c : Nat} (hc : c < s.nodes.size)
    (h0 : s.isNecessary c = false) (h1 : s'.isNecessary c = true) : UN s' < UN s := by
  unfold UN; rw [hsz]
  refine countP_lt_of_imp _ _ _ ?_ c (List.mem_range.2 hc) (by simp [h0]) (by simp [h1])
  intro m _ hm
  cases h1 : s.isNecessary m with
  | false => rfl
  | true => rw [h m h1] at hm; exact hm

theorem UN_eq_of {s s' : State} (hsz : s'.nodes.size = s.nodes.size)
    (h : ∀ m, s'.isNecessary m = s.isNecessary m) : UN s' = UN s := by
  unfold UN; rw [hsz]; congr 1; funext m; rw [h]

/-- the carried invariant of the cascade: `PInv`, `N` nodes with the kind table `kd`, and the fuel bound `N + 2 * UN ≤ F` -/
structure PK (F N : Nat) (kd : Nat → Kind) (s : State) : Prop where
  inv : PInv s
  size : s.nodes.size = N
  kind : ∀ m, (s.nodeD m).kind = kd m
  un : N + 2 * UN s ≤ F

theorem PK.of_frame {F N : Nat} {kd : Nat → Kind} {s s' : State} (h : PK F N kd s) (hi : PInv s')
    (hsz : s'.nodes.size = s.nodes.size) (hk : ∀ m, (s'.nodeD m).kind = (s.nodeD m).kind)
    (hn : ∀ m, s.isNecessary m = true → s'.isNecessary m = true) : PK F N kd s' :=
  ⟨hi, hsz.trans h.size, fun m => (hk m).trans (h.kind m), by have := UN_le_of hsz hn; have := h.un; omega⟩

instance (F N : Nat) (kd : Nat → Kind) : KeepsN (PK F N kd) where
  of_nodes {s s'} h e1 e2 := by
    have hn : ∀ n, s'.nodeD n = s.nodeD n := fun n => by simp [State.nodeD, e1]
    exact h.of_frame (Keeps.of_nodes h.inv e1 e2) (by rw [e1]) (fun m => by rw [hn])
      (fun m hm => by simpa [State.isNecessary, hn] using hm)
  modify {s} n f h hk := by
    refine h.of_frame (Keeps.modify n f h.inv hk) (by simp) (fun m => ?_) (fun m hm => ?_)
    · rw [nodeD_modify]; split
      · exact (hk _).1
      · rfl
    · unfold State.isNecessary at hm ⊢
      rw [nodeD_modify]; split
      · rw [(hk _).2.2.2.2.2]; exact hm
      · exact hm

theorem PK.of_veq {F N : Nat} {kd : Nat → Kind} {g : Nat → Option Val} {s s' : State} (h : PK F N kd s) (v : VEq g s s') :
    PK F N kd s' :=
  h.of_frame (h.inv.of_veq v) v.size v.kind (fun m hm => by rw [v.isNecessary]; exact hm)

theorem PK.mono {F F' N : Nat} {kd : Nat → Kind} {s : State} (h : PK F N kd s) (hF : F ≤ F') : PK F' N kd s :=
  ⟨h.inv, h.size, h.kind, Nat.le_trans h.un hF⟩

/-- recording a sane parent entry keeps the carried invariant -/
theorem PK.addParent {F N : Nat} {kd : Nat → Kind} {s : State} (h : PK F N kd s) {c i p : Nat} (hp : p < N)
    (hedge : ∀ pr j, kd p = .mapRef pr j → j = c) :
    PK F N kd { s with nodes := s.nodes.modify c fun x => { x with parents := x.parents ++ [(p, i)] } } := by
  have hnd := fun m => nodeD_modify s c m (fun x => { x with parents := x.parents ++ [(p, i)] })
  have hk : ∀ m, (({ s with nodes := s.nodes.modify c fun x => { x with parents := x.parents ++ [(p, i)] } } : State).nodeD m).kind
      = (s.nodeD m).kind := fun m => by rw [hnd]; split <;> rfl
  refine h.of_frame ⟨fun n pr j e => h.inv.back n pr j (by rw [← hk]; exact e), fun c' p' i' hm => ?_⟩ (by simp) hk (fun m hm => ?_)
  · have hsz : ({ s with nodes := s.nodes.modify c fun x => { x with parents := x.parents ++ [(p, i)] } } : State).nodes.size
        = s.nodes.size := by simp
    rw [hsz]
    have old : (p', i') ∈ (s.nodeD c').parents → p' < s.nodes.size ∧ ∀ pr j,
        (({ s with nodes := s.nodes.modify c fun x => { x with parents := x.parents ++ [(p, i)] } } : State).nodeD p').kind = .mapRef pr j →
          j = c' := fun hm' => by
      obtain ⟨h1, h2⟩ := h.inv.pu c' p' i' hm'
      exact ⟨h1, fun pr j e => h2 pr j (by rw [← hk]; exact e)⟩
    rw [hnd] at hm; split at hm
    · rename_i e
      rcases List.mem_append.1 hm with hm' | hm'
      · exact old hm'
      · simp only [List.mem_singleton, Prod.mk.injEq] at hm'
        obtain ⟨rfl, rfl⟩ := hm'
        refine ⟨by rw [h.size]; exact hp, fun pr j e' => ?_⟩
        rw [hk, h.kind] at e'
        rw [← e.1]; exact hedge pr j e'
    · exact old hm
  · unfold State.isNecessary at hm ⊢
    rw [hnd]; split
    · simp [Node.isNecessary]
    · exact hm

/-- … and if the child was unnecessary, two units of fuel are gained -/
theorem PK.addParent_lt {F N : Nat} {kd : Nat → Kind} {s s3 : State} (h : PK F N kd s) {c i p : Nat}
    (h3 : PK F N kd s3) (hn : s3.nodes = s.nodes.modify c fun x => { x with parents := x.parents ++ [(p, i)] })
    (hc : c < N) (h0 : (!s.isNecessary c) = true) : 2 ≤ F ∧ PK (F - 2) N kd s3 := by
  have hnd : ∀ m, s3.nodeD m = if c = m ∧ m < s.nodes.size then
      (fun x : Node => { x with parents := x.parents ++ [(p, i)] }) (s.nodeD m) else s.nodeD m := fun m => by
    have := nodeD_modify s c m (fun x : Node => { x with parents := x.parents ++ [(p, i)] })
    rw [← this]; simp [State.nodeD, hn]
  have hlt : UN s3 < UN s := by
    refine UN_lt_of (by rw [h3.size, h.size]) (fun m hm => ?_) (by rw [h.size]; exact hc) (by simpa using h0) ?_
    · unfold State.isNecessary at hm ⊢
      rw [hnd]; split
      · simp [Node.isNecessary]
      · exact hm
    · unfold State.isNecessary
      rw [hnd, if_pos ⟨rfl, by rw [h.size]; exact hc⟩]; simp [Node.isNecessary]
  have := h.un
  exact ⟨by omega, h3.inv, h3.size, h3.kind, by omega⟩

/-- the children of a `map_ref` node -/
theorem PK.hedge {F N : Nat} {kd : Nat → Kind} {s : State} (h : PK F N kd s) {n c : Nat} (hc : c ∈ s.children n) :
    ∀ pr j, kd n = .mapRef pr j → j = c := by
  intro pr j e
  rw [← h.kind] at e
  cases hv : (s.nodeD n).valid
  · simp [State.children, Node.kind?, hv] at hc
  · simp [State.children, Node.kind?, hv, e] at hc
    exact hc.symm

section
variable {K : Kind → Prop} {g : Nat → Option Val} {sp : Nat → Val → Val} {N : Nat} {kd : Nat → Kind}

/-- `markMapRefUnknown` in the cascade -/
theorem BPs.mmu {F fuel n : Nat} (hn : n < N) (hf : F ≤ fuel) :
    BPs K (PK F N kd) g (Engine.markMapRefUnknown fuel n) (Engine.markMapRefUnknown fuel n) := fun s =>
  BP.of (BSimAt.markMapRefUnknown_gen (fun _ v hp => hp.of_veq v) fun hp =>
    markMapRefUnknown_returns_of_size fuel n s hp.inv (by rw [hp.size]; exact hn) (by have := hp.un; rw [hp.size]; omega))

theorem BPs.mmu_noop {F fuel n : Nat} (hn : n < N) (hf : F ≤ fuel) :
    BPs K (PK F N kd) g (Engine.markMapRefUnknown fuel n) (pure ()) := fun s =>
  BP.of (BSimAt.mmu_noop_gen (fun _ v hp => hp.of_veq v) fun hp =>
    markMapRefUnknown_returns_of_size fuel n s hp.inv (by rw [hp.size]; exact hn) (by have := hp.un; rw [hp.size]; omega))

/-- on a node that does not exist both engines panic -/
theorem BP.becameNecessary_ge {F : Nat} (env : Env) (fuel n : Nat) {s : State} (hn : N ≤ n) :
    BP K (PK F N kd) g s (becameNecessary env fuel n) (becameNecessary (virtEnv env sp) fuel n) := by
  intro hp
  have hnone : s.nodes[n]? = none := Array.getElem?_eq_none (by rw [hp.size]; exact hn)
  refine BSimAt.mk' (Sim.becameNecessary env fuel n s) (fun _ _ r s' hr => ?_) (fun _ _ r t hr => ?_)
  · cases fuel with
    | zero => unfold becameNecessary at hr; cases hr
    | succ fuel =>
      unfold becameNecessary at hr
      obtain ⟨nd, hnd, -⟩ := bind_getNode_inv hr
      rw [hnone] at hnd; cases hnd
  · cases fuel with
    | zero => unfold becameNecessary at hr; cases hr
    | succ fuel =>
      unfold becameNecessary at hr
      obtain ⟨nd, hnd, -⟩ := bind_getNode_inv hr
      rw [virt_getElem?, hnone] at hnd; cases hnd

theorem BPs.link (env : Env) (fuel : Nat) :
    (∀ F n, F + 2 ≤ fuel → BPs K (PK F N kd) g (becameNecessary env fuel n) (becameNecessary (virtEnv env sp) fuel n)) ∧
    (∀ F c i p, F + 1 ≤ fuel → p < N → (∀ pr j, kd p = .mapRef pr j → j = c) →
      BPs K (PK F N kd) g (addParentWithoutAdjustingHeights env fuel c i p)
        (addParentWithoutAdjustingHeights (virtEnv env sp) fuel c i p)) := by
  induction fuel with
  | zero =>
    constructor
    · intro F n hf; omega
    · intro F c i p hf; omega
  | succ fuel ih =>
    constructor
    · intro F n hf s
      by_cases hn : n < N
      · unfold becameNecessary
        pbsim
        all_goals first
          | exact BPs.mmu hn (by omega) _
          | exact ih.2 F _ _ n (by omega) hn (hps.hedge (by assumption)) _
          | pbsim_kind
      · exact BP.becameNecessary_ge env _ n (by omega)
    · intro F c i p hf hp hedge s
      unfold addParentWithoutAdjustingHeights
      pbsim_step
      pbsim_step
      pbsim_step
      pbsim_step
      rename_i s1 _
      unfold Engine.addParent
      refine BP.seq (BP.of (BSimAt.modNode' c (by fcomm) (by fkind) fun h => h.addParent hp hedge)) fun _ s2 h2 => ?_
      rw [run_modNode] at h2; cases h2
      refine BP.getNode_seq fun nd hnd hne => ?_
      try fnorm
      have hc : c < N := by
        have := lt_of_some hnd
        rw [← hps.size]; simpa using this
      -- the rest, from a state with the nodes of `s2`
      have rest : ∀ s3 : State, s3.nodes = s1.nodes.modify c (fun x => { x with parents := x.parents ++ [(p, i)] }) →
          BP K (PK F N kd) g s3
            (if (!s1.isNecessary c) = true then do
                becameNecessary env fuel c
                let __do_lift ← getNode p
                match __do_lift.kind? with
                  | some (Kind.expert e) => runEdgeCallback env e i
                  | x => pure ()
              else do
                let cn ← getNode c
                match cn.kind? with
                  | some (Kind.mapRef p_1 input) =>
                    if cn.didChange = true then do
                      markMapRefUnknown fuel p
                      let __do_lift ← getNode p
                      match __do_lift.kind? with
                        | some (Kind.expert e) => runEdgeCallback env e i
                        | x => pure ()
                    else do
                      let __do_lift ← getNode p
                      match __do_lift.kind? with
                        | some (Kind.expert e) => runEdgeCallback env e i
                        | x => pure ()
                  | x => do
                    let __do_lift ← getNode p
                    match __do_lift.kind? with
                      | some (Kind.expert e) => runEdgeCallback env e i
                      | x => pure ())
            (if (!s1.isNecessary c) = true then do
                becameNecessary (virtEnv env sp) fuel c
                let __do_lift ← getNode p
                match __do_lift.kind? with
                  | some (Kind.expert e) => runEdgeCallback (virtEnv env sp) e i
                  | x => pure ()
              else do
                let cn ← getNode c
                match cn.kind? with
                  | some (Kind.mapRef p_1 input) =>
                    if cn.didChange = true then do
                      markMapRefUnknown fuel p
                      let __do_lift ← getNode p
                      match __do_lift.kind? with
                        | some (Kind.expert e) => runEdgeCallback (virtEnv env sp) e i
                        | x => pure ()
                    else do
                      let __do_lift ← getNode p
                      match __do_lift.kind? with
                        | some (Kind.expert e) => runEdgeCallback (virtEnv env sp) e i
                        | x => pure ()
                  | x => do
                    let __do_lift ← getNode p
                    match __do_lift.kind? with
                      | some (Kind.expert e) => runEdgeCallback (virtEnv env sp) e i
                      | x => pure ()) := by
        intro s3 e3
        refine BP.cond Iff.rfl (fun hw => ?_) (fun hw => ?_)
        · refine BP.intro fun hp3 => ?_
          obtain ⟨hF, hp3'⟩ := hps.addParent_lt hp3 e3 hc hw
          refine BP.seq (BP.change (ih.1 (F - 2) c (by omega) s3) (fun _ => hp3') (fun _ s' h' => h'.mono (by omega)))
            fun _ _ _ => ?_
          pbsim
          pbsim_kind
        · pbsim
          pbsim_kind
          all_goals first
            | pbsim_kind
            | (refine BP.ite_left (fun _ => BP.noop_seq (BPs.mmu_noop hp (by omega) _) fun _ _ => ?_) (fun _ => ?_)
               <;> pbsim <;> pbsim_kind)
      refine BP.cond Iff.rfl (fun hv => ?_) (fun hv => ?_)
      · refine BP.mod_seq ?_ ?_ (by rfl) ?_ <;> (first | exact rfl | skip)
        exact rest _ rfl
      · exact rest _ rfl

/-- **the linking cascade bisimulates** (carried invariant `PInv`; fuel `size + 2 * UN + 2`, where `UN` = number of unnecessary nodes) -/
theorem BSim.link (env : Env) (fuel : Nat) :
    (∀ n s, s.nodes.size + 2 * UN s + 2 ≤ fuel →
      BSimAt K PInv g s (becameNecessary env fuel n) (becameNecessary (virtEnv env sp) fuel n)) ∧
    (∀ c i p s, s.nodes.size + 2 * UN s + 1 ≤ fuel → p < s.nodes.size → (∀ pr j, (s.nodeD p).kind = .mapRef pr j → j = c) →
      BSimAt K PInv g s (addParentWithoutAdjustingHeights env fuel c i p)
        (addParentWithoutAdjustingHeights (virtEnv env sp) fuel c i p)) := by
  constructor
  · intro n s hf
    exact BP.close (Sim.becameNecessary env fuel n s)
      (BP.change ((BPs.link (N := s.nodes.size) (kd := fun m => (s.nodeD m).kind) env fuel).1 (s.nodes.size + 2 * UN s) n hf s)
        (fun hp => ⟨hp, rfl, fun _ => rfl, Nat.le_refl _⟩) (fun _ _ h => h.inv))
  · intro c i p s hf hp hedge
    exact BP.close (Sim.addParentWithoutAdjustingHeights env fuel c i p s)
      (BP.change ((BPs.link (N := s.nodes.size) (kd := fun m => (s.nodeD m).kind) env fuel).2 (s.nodes.size + 2 * UN s) c i p hf hp
          hedge s)
        (fun hp => ⟨hp, rfl, fun _ => rfl, Nat.le_refl _⟩) (fun _ _ h => h.inv))

end

/-- the contract of `became_necessary` -/
theorem bnC (K : Kind → Prop) (env : Env) (sp : Nat → Val → Val) : BnC K env sp := by
  intro g fuel n s hf
  exact (BSim.link env fuel).1 n s (by have := UN_le_size s; omega)

/-- the contract of `add_parent_without_adjusting_heights` -/
theorem apC (K : Kind → Prop) (env : Env) (sp : Nat → Val → Val) : ApC K env sp := by
  intro g fuel c i p s hf hp hedge
  exact (BSim.link env fuel).2 c i p s (by have := UN_le_size s; omega) hp hedge

end IncrVerif.Proofs.FullT
