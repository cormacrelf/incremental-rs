import IncrVerif.Proofs.TidyH63
/-!
# T1b, part 7: one `recomputeOne` on the current node of the drain invariant RETURNS
-/
namespace IncrVerif.Proofs.TidyH.RT
open IncrVerif.Engine IncrVerif.Driver IncrVerif.Proofs IncrVerif.Proofs.Step IncrVerif.Proofs.Sched IncrVerif.Proofs.Quiet
open IncrVerif.Proofs.MapRefH

section
variable {env : Env} {g : Nat → Option Val} {s : State}

/-- the carried invariant from the drain invariant -/
theorem dInvR_p2 {x : Option Nat} (D : DInvR env s g x) : P2 s.nodes.size (fun m => (s.nodeD m).kind) s := by
  refine P2.of_frag D.frag D.pinv fun c p i hm => ?_
  have := (D.inv.graph.parent c p i (by rw [virt_nodeD, virtNode_parents]; exact hm)).2
  have := List.mem_of_getElem? this
  rwa [virt_kids] at this

/-- bookkeeping at the start of a step keeps the carried invariant -/
theorem P2.of_same {N : Nat} {K : Nat → Kind} {s s' : State} (h : P2 N K s) (hsz : s'.nodes.size = s.nodes.size)
    (hpi : s'.propagateInvalidity = s.propagateInvalidity)
    (hnd : ∀ m, (s'.nodeD m).kind = (s.nodeD m).kind ∧ (s'.nodeD m).valid = (s.nodeD m).valid ∧
      (s'.nodeD m).cutoff = (s.nodeD m).cutoff ∧ (s'.nodeD m).parents = (s.nodeD m).parents) : P2 N K s' := by
  refine h.of_nodeD ⟨fun m e => ?_, fun m => ?_, hpi.trans h.fr.pinv, fun m p i hk => ?_⟩ hsz (fun m => (hnd m).1)
    (fun m x hx => by rw [(hnd m).2.2.2] at hx; exact hx)
  · rw [(hnd m).1]; exact h.fr.noExp m e
  · rw [(hnd m).2.1]; exact h.fr.valid m
  · rw [(hnd m).2.2.1]; rw [(hnd m).1] at hk; exact h.fr.cut m p i hk

theorem P2.started_logged {N : Nat} {K : Nat → Kind} (h : P2 N K s) (n : Nat) (es : List Event) :
    P2 N K (logged es (started n s)) := by
  refine h.of_same (by simp [logged, started]) rfl fun m => ?_
  have e : (logged es (started n s)).nodeD m = (started n s).nodeD m := rfl
  rw [e, started_nodeD]; split <;> exact ⟨rfl, rfl, rfl, rfl⟩

/-- **a node that is not a map_ref node**: its step returns (the virtual step cannot panic, and the two bisimulate) -/
theorem recomputeOneR_returns_static {fuel n : Nat} (D : DInvR env s g (some n)) (S : Safe (virt g s))
    (hk : ∀ p i, (s.nodeD n).kind ≠ .mapRef p i) (hf : s.nodes.size ≤ fuel + n + 1) (h0 : 0 < fuel) :
    ∃ r s', (recomputeOne env fuel n).run.run s = (.ok r, s') := by
  have F := D.frag
  have I := D.inv
  have gr := I.graph
  obtain ⟨hnv, -⟩ := I.cur n rfl
  obtain ⟨hlt, -, -, -, -⟩ := gr.nec n hnv
  rw [virt_size] at hlt
  have hkids := Inv.kids_settled F I
  have hvar : ∀ c, (s.nodeD n).kind = .var c → ∃ vc, s.vars[c]? = some vc := by
    intro c hc
    exact gr.var n c hnv (by rw [virt_nodeD, virtNode_kind, hc]; rfl)
  obtain ⟨v, es, ha, hv⟩ := recomputeOne_both (g := g) (fuel := fuel) F hlt hk hvar hkids
  have hp := dInvR_p2 D
  have B : BSimAt (P2 s.nodes.size fun m => (s.nodeD m).kind) g s (recomputeOne env fuel n)
      (recomputeOne (virtEnv env) fuel n) := by
    refine BSimAt.congr (BSimAt.maybeChangeValue (v := v) hlt hk hf) ha ?_ (fun h => h.started_logged n es)
    rw [hv, virt_logged, virt_started]
  -- the virtual step returns
  rcases hvr : (recomputeOne (virtEnv env) fuel n).run.run (virt g s) with ⟨e | r, t⟩
  · have := (recomputeOne_safe I S hvr).2; omega
  · obtain ⟨s', hs', -, -⟩ := B.rev hp hvr
    exact ⟨r, s', hs'⟩

/-- **a map_ref node**: its step returns -/
theorem recomputeOneR_returns_mapRef {fuel n p i : Nat} (D : DInvR env s g (some n)) (S : Safe (virt g s))
    (hk : (s.nodeD n).kind = .mapRef p i) :
    ∃ r s', (recomputeOne env fuel n).run.run s = (.ok r, s') := by
  have F := D.frag
  have I := D.inv
  have gr := I.graph
  have hi := I.heap
  obtain ⟨hnv, -⟩ := I.cur n rfl
  have hn : s.isNecessary n = true := by rw [← virt_isNecessary g s]; exact hnv
  have hlt := F.lt_of_mapRef hk
  have hnn := some_of_lt hlt
  obtain ⟨htv, hsome⟩ := Inv.kids_settled F I i (by rw [hk]; simp [kidsR])
  obtain ⟨vi, hvi⟩ := Option.isSome_iff_exists.1 hsome
  have St : MRSetup env g s n p i vi := ⟨F, I, hlt, hk, hn, hvi, by rw [htv]; exact hvi⟩
  rw [recomputeOne_mapRef_run hnn (F.valid n hlt) hk]
  cases hd : (s.nodeD n).didChange with
  | false => rw [run_mcvm_false]; exact ⟨_, _, rfl⟩
  | true =>
    generalize hg' : upd1 g n (some (env.proj p vi)) = g'
    have hUW := St.upd
    rw [hg'] at hUW
    -- the carried invariant of the state in which the notifications start
    have hX := fun m => cleared_started_nodeD n m s hlt
    have hpX : P2 s.nodes.size (fun m => (s.nodeD m).kind) (cleared n (started n s)) := by
      refine (dInvR_p2 D).of_same (by simp [cleared, started]) rfl fun m => ?_
      rw [hX]; split
      · rename_i e; rw [e]; exact ⟨rfl, rfl, rfl, rfl⟩
      · exact ⟨rfl, rfl, rfl, rfl⟩
    have B := BSim.mcvm_false (g := g') (N := s.nodes.size) (K := fun m => (s.nodeD m).kind) env fuel fuel n
      none none true (cleared n (started n s))
    generalize hW : virt g' (cleared n (started n s)) = W at hUW
    -- the virtual notification walk cannot panic
    have hltv : n < (virt g s).nodes.size := by rw [virt_size]; exact hlt
    have hltW : n < W.nodes.size := by rw [hUW.size]; exact hltv
    have hUT : Upd n (virt g s) (touched n W) := hUW.touched
    have eT : (touched n W).nodeD n = { W.nodeD n with changedAt := W.stabNum } := by
      rw [touched_nodeD, if_pos ⟨rfl, hltW⟩]
    have hparT : ((touched n W).nodeD n).parents = ((virt g s).nodeD n).parents := hUT.shape.parents
    have hfresh : ∀ q, q ∈ ((virt g s).nodeD n).parents.map (·.1) →
        ((virt g s).nodeD q).recomputedAt < (virt g s).stabNum :=
      fun q hq => I.fresh n (Or.inr rfl) q (gr.parent_facts hq).2.2.1
    rcases hvr : (maybeChangeValueManual (virtEnv env) (fuel + 1) n none true true).run.run W with ⟨e | r, t⟩
    · exfalso
      have := (mcvm_safe hltW (hUT.heap hi) ?_ hvr).2
      · omega
      intro q hq
      rw [hparT] at hq
      obtain ⟨hpn, hkid, -, -, hne⟩ := gr.parent_facts hq
      obtain ⟨h1, h2, h3, _, h5⟩ := gr.nec q hpn
      have ep : (touched n W).nodeD q = (virt g s).nodeD q := hUT.other q hne
      refine ⟨⟨by rw [hUT.size]; exact h1, by rw [ep]; exact h2, by rw [ep]; exact h3,
        by rw [hUT.nec]; exact hpn⟩, by rw [ep]; exact hkid, ?_, by rw [ep]; exact h5, ?_, ?_⟩
      · rw [ep, eT]
        show _ < W.stabNum
        rw [hUW.stabNum]; exact hfresh q hq
      · rw [ep, hUT.rch]; exact S.height q hpn
      · rw [ep]; exact S.scope q hpn
    · rw [← hW] at hvr
      obtain ⟨s', hs', -, -⟩ := B.rev hpX hvr
      exact ⟨r, s', hs'⟩

/-- **one step of the drain returns**: `recomputeOne` on the current node of the drain invariant, with a unit of
fuel for every node from the current one upwards -/
theorem recomputeOneR_returns {fuel n : Nat} (D : DInvR env s g (some n)) (S : Safe (virt g s))
    (hf : s.nodes.size ≤ fuel + n + 1) (h0 : 0 < fuel) :
    ∃ r s', (recomputeOne env fuel n).run.run s = (.ok r, s') := by
  by_cases hk : ∀ p i, (s.nodeD n).kind ≠ .mapRef p i
  · exact recomputeOneR_returns_static D S hk hf h0
  · have : ∃ p i, (s.nodeD n).kind = .mapRef p i := by
      cases hkd : (s.nodeD n).kind <;>
        first | exact ⟨_, _, rfl⟩ | (exfalso; apply hk; intro p i; rw [hkd]; intro h; cases h)
    obtain ⟨p, i, hk⟩ := this
    exact recomputeOneR_returns_mapRef D S hk

end
end IncrVerif.Proofs.TidyH.RT
