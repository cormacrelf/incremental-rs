import IncrVerif.Proofs.ExpertH47
/-!
# Expert nodes: `add_dependency` keeps the invariant between actions

`addDep_unnec` (the node is not necessary: only the record changes) and `addDep_struct` (the node is necessary: the child
is linked at once — `becameNecessary` cascade —, heights are adjusted, the node is queued), stated for the structural invariant at rest with
the frames of the call; `addDep_nec` adds the rest of the invariant between actions, which the frames keep.
Hypothesis of all: the new edge closes no cycle (`¬ Below s c n`).
-/
namespace IncrVerif.Proofs.ExpertH
open IncrVerif.Engine IncrVerif.Driver IncrVerif.Proofs IncrVerif.Proofs.Step IncrVerif.Proofs.Sched
open IncrVerif.Proofs.ExpertH.QR IncrVerif.Proofs.Xp

/-! ## frames of the rest of the invariant -/

theorem restKey_of_nodeKey {a b : Node} (h : nodeKey b = nodeKey a) : restKey b = restKey a := by
  simp only [nodeKey, Prod.mk.injEq] at h
  simp only [restKey, Prod.mk.injEq]
  exact ⟨h.1, h.2.2.2.1, h.2.2.2.2.2.1, h.2.2.2.2.2.2.1, h.2.2.2.2.2.2.2.1, h.2.2.2.2.2.2.2.2.2⟩

/-! ## the kind of the expert's virtual node -/

section
variable {env : Env} {s : State} {n e c : Nat} {nd : Node} {er : ExpertRec} {cb : Bool}

theorem virt_kids_expert (hk : (s.nodeD n).kind = .expert e) (hx : s.experts[e]? = some er) :
    kids ((virt s).nodeD n).kind = er.children.map (·.child) := by
  rw [virt_kids, hk]; simp only [kidsX, xRec_some hx]

theorem kids_addedKind (er : ExpertRec) (c : Nat) : kids (addedKind er c) = er.children.map (·.child) ++ [c] := rfl

theorem staleOf_added {S2 : State} (R : Rekind n (addedKind er c) (virt s) S2) : staleOf S2 n = true := by
  unfold staleOf
  rw [R.kind_self, R.rec_self]
  simp [addedKind]

theorem kidsX_added_other (F : XFrag env s) (hk : (s.nodeD n).kind = .expert e) {m : Nat} (hm : m ≠ n) :
    kidsX (addedState e er c cb s).experts ((addedState e er c cb s).nodeD m).kind =
      kidsX s.experts (s.nodeD m).kind := by
  rw [addedState_nodeD]
  cases hkm : (s.nodeD m).kind <;> try rfl
  rename_i e'
  have : e' ≠ e := by intro h; rw [h] at hkm; exact hm (F.xinj hkm hk)
  simp only [kidsX, addedState_xRec_ne this]

theorem kidsX_added_self (hk : (s.nodeD n).kind = .expert e) (hx : s.experts[e]? = some er) :
    kidsX (addedState e er c cb s).experts ((addedState e er c cb s).nodeD n).kind =
      kidsX s.experts (s.nodeD n).kind ++ [c] := by
  rw [addedState_nodeD, hk]
  simp only [kidsX, addedState_xRec hx, xRec_some hx, List.map_append, List.map_cons, List.map_nil, newEdge]

/-- the rank and the static facts of the virtual state after the edge was added -/
theorem allStatic_added {rk : Nat → Nat} (F : XFrag env s) (A : AllStatic (virtEnv env) rk (virt s))
    (hk : (s.nodeD n).kind = .expert e) (hx : s.experts[e]? = some er)
    (hc : c < s.nodes.size) (hacyc : ¬ Below s c n) :
    ∃ rk', AllStatic (virtEnv env) rk' (virt (addedState e er c cb s)) := by
  have hlt := F.lt_of_expert hk
  obtain ⟨rk', R2⟩ := (rankOK_of_allStatic A).addEdge (s' := addedState e er c cb s) hlt hc hacyc rfl
    (fun m hm => kidsX_added_other F hk hm) (kidsX_added_self hk hx)
  have P : PlainNodes s := plainNodes_of_allStatic A
  have P2 : PlainNodes (addedState e er c cb s) := P
  exact ⟨rk', allStatic_virt (F.added hx) R2 P2⟩

end

/-! ## the node is not necessary -/

theorem addDep_unnec {env : Env} {rk : Nat → Nat} {s s' : State} {fuel n c e dep : Nat} {cb : Bool} {nd : Node}
    {er : ExpertRec} (F : XFrag env s) (Q : QInv (virtEnv env) rk (virt s)) (hA : AhhEmpty s)
    (hx : IsExpert s n nd e er) (hnec : nd.isNecessary = false)
    (hc : c < s.nodes.size) (hacyc : ¬ Below s c n)
    (h : (expertAddDependency env fuel n c cb).run.run s = (.ok dep, s')) :
    ∃ rk', XFrag env s' ∧ QInv (virtEnv env) rk' (virt s') ∧ AhhEmpty s' ∧ s' = addedState e er c cb s := by
  have hD : s.nodeD n = nd := nodeD_of_some hx.node
  have hk : (s.nodeD n).kind = .expert e := by rw [hD]; exact hx.kind
  rw [expertAddDependency_unnecessary env fuel n c cb hx hnec] at h
  have e' : s' = addedState e er c cb s := by cases h; rfl
  subst e'
  obtain ⟨rk', A2⟩ := allStatic_added (cb := cb) F Q.struct.static hk hx.xrec hc hacyc
  have R := rekind_added (c := c) (cb := cb) F hk hx.xrec
  have hn : (virt s).isNecessary n = false := by
    rw [virt_isNecessary]; simp only [State.isNecessary, hD]; exact hnec
  have hko : ∀ c', ((virt s).nodeD n).kind ≠ .var c' := by
    intro c'; rw [virt_nodeD, virtNode_kind, hk]; simp [virtKind]
  refine ⟨rk', F.added hx.xrec, ?_, ahhEmpty_of_ahf hA (AhF.of_nodes rfl rfl), rfl⟩
  exact QInv.rekind_unnec Q R A2 hn (staleOf_added R) (fun c' => by simp [addedKind]) hko

/-! ## the node is necessary -/

/-- **`expert_add_dependency` on a NECESSARY expert node**, from the structural invariant at rest to the structural invariant at rest: the
bookkeeping opens the node (`.linking k`, `k` its old number of children); the child is linked at once (`becameNecessary` cascade), heights
are adjusted, the node is queued unless it is already; then it is closed again.  The tail of the call keeps the frames `NF` and `XF`. -/
theorem addDep_struct {env : Env} {rk : Nat → Nat} {s s' : State} {fuel n c e dep : Nat} {cb : Bool} {nd : Node}
    {er : ExpertRec} (F : XFrag env s) (Q : Struct (virtEnv env) rk (virt s)) (hA : AhhEmpty s)
    (hp : s.propagateInvalidity = []) (hnum : ∀ m, (s.nodeD m).numOnUpdateHandlers ≤ 0)
    (hx : IsExpert s n nd e er) (hnec : nd.isNecessary = true)
    (hc : c < s.nodes.size) (hacyc : ¬ Below s c n)
    (h : (expertAddDependency env fuel n c cb).run.run s = (.ok dep, s')) :
    ∃ rk', Struct (virtEnv env) rk' (virt s') ∧ Fr s' ∧ AhhEmpty s' ∧
      DriverH.NF (addedState e er c cb s) s' ∧ XF (addedState e er c cb s) s' ∧ dep = s.nextDep := by
  have hD : s.nodeD n = nd := nodeD_of_some hx.node
  have hk : (s.nodeD n).kind = .expert e := by rw [hD]; exact hx.kind
  have hlt := F.lt_of_expert hk
  rw [expertAddDependency_necessary_factor env fuel n c cb hx hnec] at h
  -- the bookkeeping step, in the virtual state
  obtain ⟨rk', A2⟩ := allStatic_added (cb := cb) F Q.static hk hx.xrec hc hacyc
  have R := rekind_added (c := c) (cb := cb) F hk hx.xrec
  have F2 : XFrag env (addedState e er c cb s) := F.added hx.xrec
  have hnn : (virt s).isNecessary n = true := by
    rw [virt_isNecessary]; simp only [State.isNecessary, hD]; exact hnec
  have hkids0 : kids ((virt s).nodeD n).kind = er.children.map (·.child) := virt_kids_expert hk hx.xrec
  have hst2 := staleOf_added R
  have I2 := GInv.open_extend Q R A2 hnn (c := c) (by rw [hkids0]; rfl) hst2
  have hklen : (kids ((virt s).nodeD n).kind).length = er.children.length := by rw [hkids0, List.length_map]
  rw [hklen] at I2
  have hp2 : (addedState e er c cb s).propagateInvalidity = [] := hp
  have hA2 : AhhEmpty (addedState e er c cb s) := ahhEmpty_of_ahf hA (AhF.of_nodes rfl rfl)
  have hnum2 : ∀ m, ((addedState e er c cb s).nodeD m).numOnUpdateHandlers ≤ 0 := hnum
  generalize addedState e er c cb s = s2 at h R F2 A2 I2 hst2 hp2 hA2 hnum2 ⊢
  have hkind2 : ((virt s2).nodeD n).kind = addedKind er c := R.kind_self
  have hkid2 : (kids ((virt s2).nodeD n).kind)[er.children.length]? = some c := by
    rw [hkind2, kids_addedKind]
    rw [List.getElem?_append_right (by rw [List.length_map]; exact Nat.le_refl _)]
    simp
  have hother2 : ∀ c' i, (n, i) ∈ ((virt s2).nodeD c').parents →
      ((virt s2).nodeD c').height < ((virt s2).nodeD n).height := by
    intro c' i hm
    rw [R.parents] at hm
    rw [R.height, R.height]; exact Q.hlt c' n i hm rfl
  have hg2 : ((virt s2).nodeD n).inRch = true → ((virt s2).nodeD n).heightInRch = ((virt s2).nodeD n).height := by
    intro hq
    rw [R.inRch] at hq
    rw [R.heightInRch, R.height]; exact Q.hgt n hq rfl
  have h02 : 0 ≤ ((virt s2).nodeD n).height := by rw [R.height]; exact Q.hpos n hnn rfl
  have fr2 : Fr s2 := F2.fr hp2
  -- peel the run
  obtain ⟨_, s5, hsap, h⟩ := bind_ok_inv h
  unfold stateAddParent at hsap
  rw [run_bind_get] at hsap
  replace hsap := bind_dassert_inv hsap
  obtain ⟨_, s3, hap, hsap⟩ := bind_ok_inv hsap
  -- the linking cascade
  obtain ⟨hv3, fr3⟩ := Sim.addParentWithoutAdjustingHeights env fuel c er.children.length n s2 fr2 _ s3 hap
  obtain ⟨I3, hn3, -, hp3, hedge3, hother3⟩ := link_phase I2 hkid2 hother2 hv3
  have hA3 : AhhEmpty s3 :=
    ahhEmpty_of_ahf hA2 ((PresAh.addParentWithoutAdjustingHeights env fuel c er.children.length n).h _ _ _ hap)
  have xf3 : XF s2 s3 := (PresX.addParentWithoutAdjustingHeights env fuel c er.children.length n).h _ _ _ hap
  have hf3 := (PresH.addParentWithoutAdjustingHeights env fuel c er.children.length n).h _ _ _ hap hnum2
  have cf3 : CFrame s2 s3 :=
    ((Footprint.Foot.addParentWithoutAdjustingHeights env fuel c er.children.length n).frame (CFrame.of_edit (by decide))).h _ _ _ hap
  have nf3 : DriverH.NF s2 s3 := DriverH.NF.of_cframe cf3 hp3 hf3.1 (fr3.pc.trans fr2.pc.symm) fun m hm => by
    rw [← virt_isNecessary] at hm ⊢; exact link_nec I2 hkid2 hv3 hm
  have hkind3 : ((virt s3).nodeD n).kind = addedKind er c := by rw [hn3]; exact hkind2
  have hop3 : upd allClosed n (.linking (er.children.length + 1)) n = .linking (er.children.length + 1) :=
    upd_self ..
  -- heights
  obtain ⟨cn, hcn, hsap⟩ := bind_getNode_inv hsap
  obtain ⟨pn, hpn, hsap⟩ := bind_getNode_inv hsap
  have hcD : (virt s3).nodeD c = virtNode s3.experts cn := by rw [virt_nodeD, nodeD_of_some hcn]
  have hpD : (virt s3).nodeD n = virtNode s3.experts pn := by rw [virt_nodeD, nodeD_of_some hpn]
  dsimp only at hsap
  -- after the height phase: a state `s4` with all edges into `n` going upwards
  have key : ∃ s4, Fr s4 ∧ AhhEmpty s4 ∧ XF s3 s4 ∧ DriverH.NF s3 s4 ∧
      GInv (virtEnv env) rk' (virt s4) (upd allClosed n (.linking (er.children.length + 1))) ∧
      (∀ c' i, (n, i) ∈ ((virt s4).nodeD c').parents →
        ((virt s4).nodeD c').height < ((virt s4).nodeD n).height) ∧
      (((virt s4).nodeD n).inRch = true → ((virt s4).nodeD n).heightInRch = ((virt s4).nodeD n).height) ∧
      0 ≤ ((virt s4).nodeD n).height ∧
      (∀ m, restKey ((virt s4).nodeD m) = restKey ((virt s3).nodeD m)) ∧
      (do propagateInvalidity fuel
          dassert ((← get).isNecessary n) "node:state_add_parent:parent-necessary"
          let p ← getNode n
          let c ← getNode c
          if !p.inRch && (p.recomputedAt == -1 || c.changedAt > p.recomputedAt) then
            rchInsert n : M Unit).run.run s4 = (.ok (), s5) := by
    have hg3 : ((virt s3).nodeD n).inRch = true →
        ((virt s3).nodeD n).heightInRch = ((virt s3).nodeD n).height := by rw [hn3]; exact hg2
    have h03 : 0 ≤ ((virt s3).nodeD n).height := by rw [hn3]; exact h02
    by_cases hge : cn.height ≥ pn.height
    · rw [if_pos hge] at hsap
      obtain ⟨_, s4, hadj, hsap⟩ := bind_ok_inv hsap
      obtain ⟨hv4, fr4⟩ := Sim.adjustHeights c n fuel s3 fr3 _ s4 hadj
      have hopen : upd allClosed n (.linking (er.children.length + 1)) n =
          .linking (kids ((virt s3).nodeD n).kind).length := by
        rw [hop3, hkind3, kids_addedKind]; simp
      obtain ⟨I4, hA4, hr, hh4, hg4⟩ := adjustHeights_specR hv4 I3 hopen
        (fun m hm => upd_other _ _ _ hm) ⟨_, hedge3⟩ hother3 hg3 h03 (ahhEmpty_virt.2 hA3)
      refine ⟨s4, fr4, ahhEmpty_virt.1 hA4, (PresX.adjustHeights c n fuel).h _ _ _ hadj,
        (DriverH.NF.adjustHeights c n fuel).h _ _ _ hadj, I4, hh4, hg4,
        Int.le_trans h03 (hr.height n), fun m => restKey_of_nodeKey (hr.node m), hsap⟩
    · rw [if_neg hge] at hsap
      refine ⟨s3, fr3, hA3, XF.refl _, DriverH.NF.refl _, I3, ?_, hg3, h03, fun _ => rfl, hsap⟩
      intro c' i hm
      by_cases hcc : c' = c
      · rw [hcc, hcD, hpD]
        show cn.height < pn.height
        omega
      · exact hother3 c' i hm hcc
  obtain ⟨s4, fr4, hA4, xf4, nf4, I4, hh4, hg4, h04, hrk4, hjp⟩ := key
  have hkind4 : ((virt s4).nodeD n).kind = addedKind er c := by
    have := hrk4 n; simp only [restKey, Prod.mk.injEq] at this; rw [this.1]; exact hkind3
  have hrec4 : ((virt s4).nodeD n).recomputedAt = -1 := by
    have := hrk4 n; simp only [restKey, Prod.mk.injEq] at this
    rw [this.2.2.1, hn3]; exact R.rec_self
  have hst4 : staleOf (virt s4) n = true := by
    unfold staleOf; rw [hkind4, hrec4]; simp [addedKind]
  have hlen4 : (kids ((virt s4).nodeD n).kind).length ≤ er.children.length + 1 := by
    rw [hkind4, kids_addedKind]; simp
  -- the end of the call
  obtain ⟨hdep, hcase⟩ := finish_phase hjp h fr4.pinv
  rcases hcase with ⟨hq, rfl⟩ | ⟨hnq, hins⟩
  · have S' := close_phase I4 hlen4 hh4 h04 hg4 hst4
      (Or.inl ⟨by rw [virt_nodeD]; exact hq, rfl⟩)
    exact ⟨rk', S', fr4, hA4, nf3.trans nf4, xf3.trans xf4, hdep⟩
  · obtain ⟨hv6, fr6⟩ := Sim.rchInsert n s4 fr4 _ s' hins
    have S' := close_phase I4 hlen4 hh4 h04 hg4 hst4
      (Or.inr ⟨by rw [virt_nodeD]; exact hnq, hv6⟩)
    exact ⟨rk', S', fr6, ahhEmpty_of_ahf hA4 ((PresAh.rchInsert n).h _ _ _ hins),
      (nf3.trans nf4).trans ((DriverH.NF.rchInsert n).h _ _ _ hins), (xf3.trans xf4).trans ((PresX.rchInsert n).h _ _ _ hins), hdep⟩


/-- the invariant between actions follows: its rest reads nothing the frames do not keep -/
theorem addDep_nec {env : Env} {rk : Nat → Nat} {s s' : State} {fuel n c e dep : Nat} {cb : Bool} {nd : Node}
    {er : ExpertRec} (F : XFrag env s) (Q : QInv (virtEnv env) rk (virt s)) (hA : AhhEmpty s)
    (hx : IsExpert s n nd e er) (hnec : nd.isNecessary = true)
    (hc : c < s.nodes.size) (hacyc : ¬ Below s c n)
    (h : (expertAddDependency env fuel n c cb).run.run s = (.ok dep, s')) :
    ∃ rk', XFrag env s' ∧ QInv (virtEnv env) rk' (virt s') ∧ AhhEmpty s' := by
  have hk : (s.nodeD n).kind = .expert e := by rw [nodeD_of_some hx.node]; exact hx.kind
  obtain ⟨rk', S', fr', hA', nf, xf, -⟩ := addDep_struct F Q.struct hA Q.pinv
    (fun m => by have := Q.handlers m; rwa [virt_nodeD] at this) hx hnec hc hacyc h
  have R := rekind_added (c := c) (cb := cb) F hk hx.xrec
  have Q2 : QRest (virtEnv env) (virt (addedState e er c cb s)) :=
    QRest.rekind (QInv.rest Q) R (staleOf_added R) (fun c' => by simp [addedKind])
      (fun c' => by rw [virt_nodeD, virtNode_kind, hk]; simp [virtKind])
  exact ⟨rk', (F.added hx.xrec).of_xf xf fr', (Q2.along nf xf).inv S', hA'⟩

end IncrVerif.Proofs.ExpertH
