import IncrVerif.Proofs.NestH36
/-!
# Nested binds (F2), the run of a change detector, part 2: the dying nodes; phases 1–3 through the three contracts

The counterpart of `BindH74` for nested binds.  The nodes that die are `Dying s dy` (the old generation and, recursively, the valid nodes of the scopes of its inner
binds); the rank is extended by the closure run.
-/
namespace IncrVerif.Proofs.NestH
open IncrVerif.Engine IncrVerif.Proofs IncrVerif.Proofs.Step IncrVerif.Proofs.Sched IncrVerif.Proofs.Quiet
open IncrVerif.Proofs.BindH
namespace NC

/-- the child list of a valid main node, from `All2` alone -/
theorem main_children_all {env : Env} {rk : Nat → Nat} {s : State} {dy : List Nat} (A : All2 env rk s dy) {b : Nat}
    {br : BindRec} (hb : s.binds[b]? = some br) (hv : (s.nodeD br.main).valid = true) :
    s.children br.main = br.lhsChange :: br.rhs.toList := by
  obtain ⟨-, h2, -, h4, -⟩ := A.recs b br hb
  unfold State.children Node.kind?
  rw [hv, h4]
  simp only [if_true, hb]
  cases br.rhs <;> rfl

/-- the child list of a valid change detector -/
theorem lc_children_all {env : Env} {rk : Nat → Nat} {s : State} {dy : List Nat} (A : All2 env rk s dy) {b : Nat}
    {br : BindRec} (hb : s.binds[b]? = some br) (hv : (s.nodeD br.lhsChange).valid = true) :
    s.children br.lhsChange = [br.lhs] := by
  obtain ⟨-, h2, h3, -, -⟩ := A.recs b br hb
  unfold State.children Node.kind?
  rw [hv, h3]
  simp only [if_true, hb]

/-! ## the dying nodes, in the state before the run -/

namespace Pre2
variable {env : Env} {rk : Nat → Nat} {n b : Nat} {br : BindRec} {s : State}

theorem ne (X : Pre2 env rk n b br s) : br.main ≠ n := by have := X.hmain; omega

theorem blt (X : Pre2 env rk n b br s) : b < s.binds.size := by
  have h := X.hb
  false_or_by_contra
  rename_i hge
  rw [Array.getElem?_eq_none (by omega)] at h
  cases h

/-- a node of the old generation is an old valid node of scope `b` -/
theorem dyOld (X : Pre2 env rk n b br s) (A : F2Inv env rk s) {m : Nat} (hm : m ∈ br.allNodesCreatedOnRhs) :
    m < s.nodes.size ∧ (s.nodeD m).valid = true ∧ (s.nodeD m).createdIn = .bind b :=
  (A.frag.gen b br X.hb m).1 (Or.inl hm)

/-- a valid node of scope `b` of the state before the run is of the old generation -/
theorem dy_of_scope (X : Pre2 env rk n b br s) (A : F2Inv env rk s) {m : Nat} (hv : (s.nodeD m).valid = true)
    (hsc : (s.nodeD m).createdIn = .bind b) : m ∈ br.allNodesCreatedOnRhs := by
  have hlt : m < s.nodes.size := by
    false_or_by_contra
    rename_i h
    rw [nodeD_default s m (by omega)] at hsc; cases hsc
  rcases (A.frag.gen b br X.hb m).2 ⟨hlt, hv, hsc⟩ with h | ⟨h, -⟩
  · exact h
  · cases h

/-- **the scope of a dying node**: a valid old node of the scope of a bind whose change detector is (weakly) above `n` through scope edges, and whose
two nodes lie (weakly) between `n` and the main node of `b` in the rank -/
theorem dying_scope (X : Pre2 env rk n b br s) (A : F2Inv env rk s) {m : Nat}
    (h : Dying s br.allNodesCreatedOnRhs m) :
    m < s.nodes.size ∧ (s.nodeD m).valid = true ∧ ∃ b' br', (s.nodeD m).createdIn = .bind b' ∧
      s.binds[b']? = some br' ∧ Below s br'.lhsChange n ∧ rk n ≤ rk br'.lhsChange ∧ rk br'.main ≤ rk br.main := by
  induction h with
  | base hm =>
    obtain ⟨h1, h2, h3⟩ := X.dyOld A hm
    refine ⟨h1, h2, b, br, h3, X.hb, ?_, ?_, Nat.le_refl _⟩
    · rw [X.hlc]; exact Below.refl n
    · rw [X.hlc]; exact Nat.le_refl _
  | inner hp hk hm hv hsc ih =>
    rename_i p m b2 lc2
    obtain ⟨hpl, hpv, b'', br'', hpsc, hb'', hbel, hr1, hr2⟩ := ih
    obtain ⟨br2, hb2, hm2, hl2⟩ := (A.frag.node p hpl).mainRec b2 lc2 hk
    obtain ⟨-, -, -, -, r5⟩ := A.frag.recs b2 br2 hb2
    have hvl : (s.nodeD br2.lhsChange).valid = true := by
      rw [← A.frag.recValid b2 br2 hb2, hm2]; exact hpv
    have hscl : (s.nodeD br2.lhsChange).createdIn = .bind b'' := by
      rw [← r5, hm2]; exact hpsc
    have k1 := (A.frag.scope_rk (A.frag.lc_lt hb2) hscl hb'').1
    have k2 := (A.frag.scope_rk hpl hpsc hb'').2
    refine ⟨hm, hv, b2, br2, hsc, hb2, Below.step (Edge.scope hvl hscl hb'') hbel, by omega, ?_⟩
    rw [hm2]; omega

/-- a dying node lies strictly between `n` and the main node of `b` in the rank -/
theorem dying_rk (X : Pre2 env rk n b br s) (A : F2Inv env rk s) {m : Nat}
    (h : Dying s br.allNodesCreatedOnRhs m) : rk n < rk m ∧ rk m < rk br.main := by
  obtain ⟨h1, -, b', br', h3, h4, -, h6, h7⟩ := X.dying_scope A h
  have := A.frag.scope_rk h1 h3 h4
  omega

theorem dying_ne_n (X : Pre2 env rk n b br s) (A : F2Inv env rk s) {m : Nat}
    (h : Dying s br.allNodesCreatedOnRhs m) : m ≠ n := by
  intro e; have := (X.dying_rk A h).1; rw [e] at this; omega

theorem n_notDying (X : Pre2 env rk n b br s) (A : F2Inv env rk s) : ¬ Dying s br.allNodesCreatedOnRhs n :=
  fun h => X.dying_ne_n A h rfl

theorem main_notDying (X : Pre2 env rk n b br s) (A : F2Inv env rk s) : ¬ Dying s br.allNodesCreatedOnRhs br.main :=
  fun h => by have := (X.dying_rk A h).2; omega

/-- **a dying node was valid and is strictly above `n` through scope edges** -/
theorem dying_below (X : Pre2 env rk n b br s) (A : F2Inv env rk s) {m : Nat}
    (h : Dying s br.allNodesCreatedOnRhs m) : (s.nodeD m).valid = true ∧ Below s m n := by
  obtain ⟨-, h2, b', br', h3, h4, h5, -⟩ := X.dying_scope A h
  exact ⟨h2, Below.step (Edge.scope h2 h3 h4) h5⟩

/-- a top-level node is not dying -/
theorem notDying_of_top (X : Pre2 env rk n b br s) (A : F2Inv env rk s) {m : Nat}
    (h : (s.nodeD m).createdIn = .top) : ¬ Dying s br.allNodesCreatedOnRhs m := by
  intro hd
  obtain ⟨-, -, b', br', h3, -⟩ := X.dying_scope A hd
  rw [h] at h3; cases h3

/-- a dying node of scope `b'`: of the old generation (`b' = b`), or the main node of `b'` is dying -/
theorem dying_cases (X : Pre2 env rk n b br s) (A : F2Inv env rk s) {m b' : Nat}
    (h : Dying s br.allNodesCreatedOnRhs m) (hsc : (s.nodeD m).createdIn = .bind b') :
    (b' = b ∧ m ∈ br.allNodesCreatedOnRhs) ∨
      ∃ br', s.binds[b']? = some br' ∧ Dying s br.allNodesCreatedOnRhs br'.main := by
  cases h with
  | base hm =>
    have := (X.dyOld A hm).2.2
    rw [hsc] at this
    injection this with this
    exact Or.inl ⟨this, hm⟩
  | inner hp hk hm hv hsc' =>
    rename_i p b2 lc2
    rw [hsc] at hsc'
    injection hsc' with e
    subst e
    obtain ⟨hpl, -⟩ := X.dying_scope A hp
    obtain ⟨br2, hb2, hm2, -⟩ := (A.frag.node p hpl).mainRec b' lc2 hk
    exact Or.inr ⟨br2, hb2, by rw [hm2]; exact hp⟩

/-- a valid node of the scope of a bind other than `b` whose main node is not dying is not dying -/
theorem notDying_of_main (X : Pre2 env rk n b br s) (A : F2Inv env rk s) {m b' : Nat} {br' : BindRec}
    (hsc : (s.nodeD m).createdIn = .bind b') (hb' : s.binds[b']? = some br') (hne : b' ≠ b)
    (hmain : ¬ Dying s br.allNodesCreatedOnRhs br'.main) : ¬ Dying s br.allNodesCreatedOnRhs m := by
  intro hd
  rcases X.dying_cases A hd hsc with ⟨e, -⟩ | ⟨br2, hb2, h2⟩
  · exact hne e
  · rw [hb'] at hb2; cases hb2; exact hmain h2

end Pre2

/-! ## phase 1: the closure run -/

/-- the state `s1` after the closure run; `rk'` is the extended rank -/
structure P1 (env : Env) (rk rk' : Nat → Nat) (n b rhs : Nat) (br : BindRec) (l : List Nat) (s s1 : State) :
    Prop where
  ext : RkExt rk rk' s.nodes.size
  g : GInv2 env rk' s1 allClosed (· = br.main) br.allNodesCreatedOnRhs
  ahh : AhhEmpty s1
  rel : CRel2 b br (started n s) s1
  bind : s1.binds[b]? = some { br with allNodesCreatedOnRhs := l }
  lmem : ∀ m, m ∈ l ↔ (s.nodes.size ≤ m ∧ m < s1.nodes.size)
  rlt : rhs < s1.nodes.size
  rhsK : ∀ b', (s1.nodeD rhs).kind ≠ .bindLhsChange b'
  rhs : ((s1.nodeD rhs).createdIn = .top ∧ rk' rhs < rk' n) ∨ s.nodes.size ≤ rhs
  lcCut : ∀ m b', (s1.nodeD m).kind = .bindLhsChange b' → (s1.nodeD m).cutoff = .never
  newRecs : ∀ b' br', s.binds.size ≤ b' → s1.binds[b']? = some br' →
    (∃ f, BodyOK2 env rk' s1 br'.lhsChange f br'.body) ∧ ∀ b'', (s1.nodeD br'.lhs).kind ≠ .bindLhsChange b''

namespace P1
variable {env : Env} {rk rk' : Nat → Nat} {n b rhs : Nat} {br : BindRec} {l : List Nat} {s s1 : State}

theorem grow (P : P1 env rk rk' n b rhs br l s s1) : s.nodes.size ≤ s1.nodes.size := by
  have := P.rel.grow; rw [CC.started_size] at this; exact this

theorem old_upto (P : P1 env rk rk' n b rhs br l s s1) {m : Nat} (hm : m < s.nodes.size) :
    ∃ y, s1.nodeD m = { s.nodeD m with recomputedAt := y } := by
  rw [P.rel.old m (by rw [CC.started_size]; exact hm)]
  exact CC.started_upto n s m

theorem old_other (P : P1 env rk rk' n b rhs br l s s1) {m : Nat} (hm : m < s.nodes.size) (e : m ≠ n) :
    s1.nodeD m = s.nodeD m := by
  rw [P.rel.old m (by rw [CC.started_size]; exact hm)]
  exact CC.started_other s e

theorem self (P : P1 env rk rk' n b rhs br l s s1) (hlt : n < s.nodes.size) :
    s1.nodeD n = { s.nodeD n with recomputedAt := s.stabNum } := by
  rw [P.rel.old n (by rw [CC.started_size]; exact hlt)]
  exact CC.started_self hlt

theorem new (P : P1 env rk rk' n b rhs br l s s1) {m : Nat} (h1 : s.nodes.size ≤ m) (h2 : m < s1.nodes.size) :
    (s1.nodeD m).createdIn = .bind b ∧ (s1.nodeD m).valid = true ∧ (s1.nodeD m).recomputedAt = -1 ∧
    (s1.nodeD m).changedAt = -1 ∧ (s1.nodeD m).value = none ∧ (s1.nodeD m).parents = [] ∧
    (s1.nodeD m).observers = [] ∧ (s1.nodeD m).forceNecessary = false ∧ (s1.nodeD m).heightInRch = -1 ∧
    (s1.nodeD m).heightInAhh = -1 ∧ (s1.nodeD m).numOnUpdateHandlers = 0 :=
  P.rel.new m (by rw [CC.started_size]; exact h1) h2

/-- the three kinds of indices -/
theorem cases (P : P1 env rk rk' n b rhs br l s s1) (m : Nat) :
    (m < s.nodes.size ∧ ∃ y, s1.nodeD m = { s.nodeD m with recomputedAt := y }) ∨
    (s.nodes.size ≤ m ∧ m < s1.nodes.size) ∨ (s1.nodes.size ≤ m ∧ s1.nodeD m = default) := by
  by_cases h1 : m < s.nodes.size
  · exact Or.inl ⟨h1, P.old_upto h1⟩
  · by_cases h2 : m < s1.nodes.size
    · exact Or.inr (Or.inl ⟨by omega, h2⟩)
    · exact Or.inr (Or.inr ⟨by omega, nodeD_default s1 m (by omega)⟩)

theorem stabNum (P : P1 env rk rk' n b rhs br l s s1) : s1.stabNum = s.stabNum := P.rel.stabNum

theorem noForce (P : P1 env rk rk' n b rhs br l s s1) (A : F2Inv env rk s) (m : Nat) :
    (s1.nodeD m).forceNecessary = false := by
  rcases P.cases m with ⟨-, y, e⟩ | ⟨h1, h2⟩ | ⟨-, e⟩
  · rw [e]; exact A.noForce m
  · exact (P.new h1 h2).2.2.2.2.2.2.2.1
  · rw [e]; rfl

theorem noHandlers (P : P1 env rk rk' n b rhs br l s s1) (A : F2Inv env rk s) (m : Nat) :
    (s1.nodeD m).numOnUpdateHandlers = 0 := by
  rcases P.cases m with ⟨-, y, e⟩ | ⟨h1, h2⟩ | ⟨-, e⟩
  · rw [e]; exact A.noHandlers m
  · exact (P.new h1 h2).2.2.2.2.2.2.2.2.2.2
  · rw [e]; rfl

/-- what the closure run keeps of EVERY old node (`n` included) -/
theorem sh (P : P1 env rk rk' n b rhs br l s s1) {m : Nat} (hm : m < s.nodes.size) :
    (s1.nodeD m).kind = (s.nodeD m).kind ∧ (s1.nodeD m).valid = (s.nodeD m).valid ∧
      (s1.nodeD m).createdIn = (s.nodeD m).createdIn ∧ (s1.nodeD m).cutoff = (s.nodeD m).cutoff := by
  obtain ⟨y, e⟩ := P.old_upto hm
  rw [e]; exact ⟨rfl, rfl, rfl, rfl⟩

/-- a top-level node of `s1` is old -/
theorem old_of_top (P : P1 env rk rk' n b rhs br l s s1) {m : Nat} (hm : m < s1.nodes.size)
    (h : (s1.nodeD m).createdIn = .top) : m < s.nodes.size := by
  false_or_by_contra
  rename_i hge
  rw [(P.new (by omega) hm).1] at h; cases h

/-- the new right-hand side is not of the old generation -/
theorem rhs_notDy (P : P1 env rk rk' n b rhs br l s s1) (X : Pre2 env rk n b br s) (A : F2Inv env rk s) :
    rhs ∉ br.allNodesCreatedOnRhs := by
  intro h
  obtain ⟨h1, -, h3⟩ := X.dyOld A h
  rcases P.rhs with ⟨h4, -⟩ | h4
  · rw [(P.sh h1).2.2.1, h3] at h4; cases h4
  · omega

theorem rhs_ne (P : P1 env rk rk' n b rhs br l s s1) (X : Pre2 env rk n b br s) : rhs ≠ n := by
  have := X.hlt
  rcases P.rhs with ⟨-, h⟩ | h
  · intro e; rw [e] at h; omega
  · omega

/-- the bind table after the closure run -/
theorem binds_old (P : P1 env rk rk' n b rhs br l s s1) {b' : Nat} (hne : b' ≠ b) (hlt : b' < s.binds.size) :
    s1.binds[b']? = s.binds[b']? := P.rel.bindsOther b' hne hlt

theorem binds_new (P : P1 env rk rk' n b rhs br l s s1) {b' : Nat} {br' : BindRec} (hge : s.binds.size ≤ b')
    (h : s1.binds[b']? = some br') :
    br'.rhs = none ∧ br'.allNodesCreatedOnRhs = [] ∧ s.nodes.size ≤ br'.lhsChange := by
  have := P.rel.bindsNew b' br' hge h
  rw [CC.started_size] at this
  exact this

end P1

theorem phase1 {env : Env} (CS : ClosureSpec2 env) {rk : Nat → Nat} {n b rhs : Nat} {br : BindRec} {s s1 : State}
    (X : Pre2 env rk n b br s) (A : F2Inv env rk s)
    (h1 : (Inval.lhsRunClosure env n b br).run.run (started n s) = (.ok rhs, s1)) :
    ∃ rk' l, P1 env rk rk' n b rhs br l s s1 := by
  obtain ⟨rk', ext, g, ahh, rel, rlt, hrk, hr, hcut, hnew⟩ :=
    CS n b rhs br rk (started n s) s1 (· = br.main) h1 X.g0 X.ahh0 X.hb X.hlc
    (by rw [CC.started_self X.hlt]; exact X.hvn)
    (by
      obtain ⟨f, hf⟩ := A.closures b br X.hb
      rw [X.hlc] at hf
      exact ⟨f, BodyOK2.mono (s := s) (s' := started n s) rfl (fun r h _ => h) f _ hf⟩)
    (fun k r hk => by
      obtain ⟨h1, h2, h3⟩ := A.topOK k r hk
      obtain ⟨y, e⟩ := CC.started_upto n s r
      refine ⟨by rw [CC.started_size]; exact h1, by rw [e]; exact h2, fun b' => by rw [e]; exact h3 b'⟩)
    (fun m b' hk => by
      obtain ⟨y, e⟩ := CC.started_upto n s m
      rw [e] at hk ⊢
      exact A.lcCut m b' hk)
  obtain ⟨l, hl, hmem⟩ := rel.bind
  rw [CC.started_size] at ext hr
  exact ⟨rk', l, ext, g, ahh, rel, hl, fun m => by rw [hmem m, CC.started_size], rlt, hrk, hr, hcut, hnew⟩

/-! ## phase 2: installing the new right-hand side -/

/-- the state `s2` after `lhsRelink` -/
structure P2 (env : Env) (rk' : Nat → Nat) (n b rhs : Nat) (br : BindRec) (l : List Nat) (s1 s2 : State) :
    Prop where
  g : GInv2 env rk' s2 allClosed (· = br.main) br.allNodesCreatedOnRhs
  ahh : AhhEmpty s2
  rel : RRelB b n rhs { br with allNodesCreatedOnRhs := l } s1 s2
  pinv : s2.propagateInvalidity = []
  noForce : ∀ m, (s2.nodeD m).forceNecessary = false
  necMain : s2.isNecessary br.main = true

theorem phase2 {env : Env} (RS : RelinkSpec2 env) {rk rk' : Nat → Nat} {fuel n b rhs : Nat} {br : BindRec}
    {l : List Nat} {s s1 s2 : State} (X : Pre2 env rk n b br s) (A : F2Inv env rk s)
    (P : P1 env rk rk' n b rhs br l s s1)
    (h2 : (Inval.lhsRelink env fuel n b br s.stabNum rhs).run.run s1 = (.ok (), s2)) :
    P2 env rk' n b rhs br l s1 s2 := by
  have est : s1.stabNum = s.stabNum := P.stabNum
  rw [← est] at h2
  have emain : s1.nodeD br.main = s.nodeD br.main := P.old_other X.hml X.ne
  obtain ⟨g, ahh, rel, pinv, nf, nec⟩ := RS fuel b n rhs rk' s1 s2 br { br with allNodesCreatedOnRhs := l }
    (· = br.main) br.allNodesCreatedOnRhs h2 P.g rfl P.ahh P.bind rfl rfl X.hlc
    (by rw [emain]; exact X.hvm)
    (by show (s1.nodeD br.main).isNecessary = true; rw [emain]; exact X.necMain)
    P.rlt (P.rhs_notDy X A) P.rhsK
    (by
      rcases P.rhs with h3 | h3
      · exact Or.inl h3
      · right
        obtain ⟨k1, k2, -⟩ := P.new h3 P.rlt
        exact ⟨k1, k2⟩)
    (fun o ho => by
      obtain ⟨k0, hk⟩ := A.rhsOK b br o X.hb ho X.hvm
      have hoc : o ∈ s.children br.main := by
        rw [main_children_all A.frag X.hb X.hvm, ho]
        exact List.mem_cons_of_mem _ (List.mem_cons_self ..)
      have hlt : o < s.nodes.size := (A.frag.node br.main X.hml).kidsIn o hoc
      obtain ⟨e1, -, e3, -⟩ := P.sh hlt
      refine ⟨fun b' => by rw [e1]; exact k0 b', ?_⟩
      rcases hk with ⟨k1, k2⟩ | ⟨k1, k2⟩
      · left
        rw [X.hlc] at k2
        exact ⟨by rw [e3]; exact k1, (P.ext o n hlt X.hlt).2 k2⟩
      · right
        exact ⟨by rw [e3]; exact k1, X.dy_of_scope A k2 k1⟩)
    (fun m hm => by
      obtain ⟨hlt, -, k⟩ := X.dyOld A hm
      rw [(P.sh hlt).2.2.1]; exact k)
    (P.noForce A) (P.rel.pinv.trans A.pinv)
    (by rw [emain, est]; exact X.hmr)
  exact ⟨g, ahh, rel, pinv, nf, nec⟩

namespace P2
variable {env : Env} {rk' : Nat → Nat} {n b rhs : Nat} {br : BindRec} {l : List Nat} {s1 s2 : State}

/-- the keys of the nodes other than `n` -/
theorem key (Q : P2 env rk' n b rhs br l s1 s2) {m : Nat} (e : m ≠ n) : CC.NKey (s1.nodeD m) (s2.nodeD m) :=
  CC.NKey.of_key (Q.rel.node m e)

/-- the key of `n` -/
theorem keyN (Q : P2 env rk' n b rhs br l s1 s2) :
    CC.NKey { s1.nodeD n with changedAt := s1.stabNum } (s2.nodeD n) := CC.NKey.of_key Q.rel.self

theorem kind (Q : P2 env rk' n b rhs br l s1 s2) (m : Nat) : (s2.nodeD m).kind = (s1.nodeD m).kind := by
  by_cases e : m = n
  · subst e; exact Q.keyN.kind
  · exact (Q.key e).kind

theorem valid (Q : P2 env rk' n b rhs br l s1 s2) (m : Nat) : (s2.nodeD m).valid = (s1.nodeD m).valid := by
  by_cases e : m = n
  · subst e; exact Q.keyN.valid
  · exact (Q.key e).valid

theorem createdIn (Q : P2 env rk' n b rhs br l s1 s2) (m : Nat) :
    (s2.nodeD m).createdIn = (s1.nodeD m).createdIn := by
  by_cases e : m = n
  · subst e; exact Q.keyN.createdIn
  · exact (Q.key e).createdIn

theorem cutoff (Q : P2 env rk' n b rhs br l s1 s2) (m : Nat) :
    (s2.nodeD m).cutoff = (s1.nodeD m).cutoff := by
  by_cases e : m = n
  · subst e; exact Q.keyN.cutoff
  · exact (Q.key e).cutoff

theorem num (Q : P2 env rk' n b rhs br l s1 s2) (m : Nat) :
    (s2.nodeD m).numOnUpdateHandlers = (s1.nodeD m).numOnUpdateHandlers := by
  by_cases e : m = n
  · subst e; exact Q.keyN.num
  · exact (Q.key e).num

end P2

/-! ## the bind table and the dying nodes after phase 2 -/

section two
variable {env : Env} {rk rk' : Nat → Nat} {n b rhs : Nat} {br : BindRec} {l : List Nat} {s s1 s2 : State}

/-- the bind table after phase 2 against the one before the run -/
theorem binds2_cases (X : Pre2 env rk n b br s) (P : P1 env rk rk' n b rhs br l s s1)
    (Q : P2 env rk' n b rhs br l s1 s2) (b' : Nat) :
    (b' = b ∧ s2.binds[b']? = some { { br with allNodesCreatedOnRhs := l } with rhs := some rhs }) ∨
    (b' ≠ b ∧ b' < s.binds.size ∧ s2.binds[b']? = s.binds[b']?) ∨
    (b' ≠ b ∧ s.binds.size ≤ b' ∧ s2.binds[b']? = s1.binds[b']?) := by
  by_cases e : b' = b
  · subst e; exact Or.inl ⟨rfl, Q.rel.bind⟩
  · by_cases hlt : b' < s.binds.size
    · exact Or.inr (Or.inl ⟨e, hlt, (Q.rel.bindsOther b' e).trans (P.binds_old e hlt)⟩)
    · exact Or.inr (Or.inr ⟨e, by omega, Q.rel.bindsOther b' e⟩)

/-- what phases 1 and 2 keep of EVERY old node (`n` included) -/
theorem sh2 (P : P1 env rk rk' n b rhs br l s s1) (Q : P2 env rk' n b rhs br l s1 s2) {m : Nat}
    (hm : m < s.nodes.size) :
    (s2.nodeD m).kind = (s.nodeD m).kind ∧ (s2.nodeD m).valid = (s.nodeD m).valid ∧
      (s2.nodeD m).createdIn = (s.nodeD m).createdIn ∧ (s2.nodeD m).cutoff = (s.nodeD m).cutoff := by
  obtain ⟨h1, h2, h3, h4⟩ := P.sh hm
  exact ⟨(Q.kind m).trans h1, (Q.valid m).trans h2, (Q.createdIn m).trans h3, (Q.cutoff m).trans h4⟩

/-- the dying nodes, read in the state after phase 2, are the dying nodes read in the state before the run -/
theorem dying_iff (X : Pre2 env rk n b br s) (A : F2Inv env rk s) (P : P1 env rk rk' n b rhs br l s s1)
    (Q : P2 env rk' n b rhs br l s1 s2) (m : Nat) :
    Dying s2 br.allNodesCreatedOnRhs m ↔ Dying s br.allNodesCreatedOnRhs m := by
  constructor
  · intro h
    induction h with
    | base hm => exact Dying.base hm
    | inner hp hk hm hv hsc ih =>
      rename_i p m b2 lc2
      obtain ⟨hpl, -⟩ := X.dying_scope A ih
      rw [(sh2 P Q hpl).1] at hk
      by_cases hml : m < s.nodes.size
      · obtain ⟨-, e2, e3, -⟩ := sh2 P Q hml
        rw [e2] at hv; rw [e3] at hsc
        exact Dying.inner ih hk hml hv hsc
      · exfalso
        rw [Q.rel.size] at hm
        rw [Q.createdIn, (P.new (by omega) hm).1] at hsc
        injection hsc with e
        subst e
        obtain ⟨br', hb', hm', -⟩ := (A.frag.node p hpl).mainRec b lc2 hk
        rw [X.hb] at hb'; cases hb'
        rw [← hm'] at ih
        exact X.main_notDying A ih
  · intro h
    induction h with
    | base hm => exact Dying.base hm
    | inner hp hk hm hv hsc ih =>
      rename_i p m b2 lc2
      obtain ⟨hpl, -⟩ := X.dying_scope A hp
      obtain ⟨-, e2, e3, -⟩ := sh2 P Q hm
      refine Dying.inner ih (by rw [(sh2 P Q hpl).1]; exact hk) ?_ (by rw [e2]; exact hv) (by rw [e3]; exact hsc)
      rw [Q.rel.size]; have := P.grow; omega

end two

/-! ## phase 3: invalidating the previous generation -/

/-- the state `s3` after `lhsInvalidateOld` -/
structure P3 (env : Env) (rk' : Nat → Nat) (br : BindRec) (s2 s3 : State) : Prop where
  g : GInv2 env rk' s3 allClosed (· = br.main) []
  rel : IRel2 br.allNodesCreatedOnRhs s2 s3

theorem phase3 {env : Env} (IS : InvalSpec2 env) {rk rk' : Nat → Nat} {fuel n b rhs : Nat} {br : BindRec}
    {l : List Nat} {s s1 s2 s3 : State} (X : Pre2 env rk n b br s) (A : F2Inv env rk s)
    (P : P1 env rk rk' n b rhs br l s s1) (Q : P2 env rk' n b rhs br l s1 s2)
    (h3 : (Inval.lhsInvalidateOld fuel br).run.run s2 = (.ok (), s3)) : P3 env rk' br s2 s3 := by
  have hnd := P.rhs_notDy X A
  -- the old generation in `s2`
  have hdy : ∀ m, m ∈ br.allNodesCreatedOnRhs →
      m < s2.nodes.size ∧ (s2.nodeD m).createdIn = .bind b ∧ (s2.nodeD m).valid = true := by
    intro m hm
    obtain ⟨hlt, k1, k2⟩ := X.dyOld A hm
    obtain ⟨-, e2, e3, -⟩ := sh2 P Q hlt
    refine ⟨?_, by rw [e3]; exact k2, by rw [e2]; exact k1⟩
    rw [Q.rel.size]; have := P.grow; omega
  have hpar : ∀ m, m ∈ br.allNodesCreatedOnRhs → (s2.nodeD m).parents = [] := by
    apply Q.g.scope_no_parents Q.rel.bind (· ∈ br.allNodesCreatedOnRhs)
    · intro m hm; exact ⟨(hdy m hm).1, (hdy m hm).2.1⟩
    · intro p m hp hmc hm
      have hpl := lt_size_of_mem_children hmc
      obtain ⟨-, br', hb', hlt', hkids⟩ := (Q.g.frag.node p hpl).inScope b hp
      rcases hkids m hmc with k1 | ⟨-, k3⟩ | ⟨b2, lc2, k4, k5⟩
      · rw [(hdy m hm).2.1] at k1; cases k1
      · exact k3.1 hm
      · exfalso
        rw [(hdy m hm).2.1] at k5
        injection k5 with e
        subst e
        obtain ⟨br2, hb2, hm2, -⟩ := (Q.g.frag.node p hpl).mainRec _ lc2 k4
        rw [hb'] at hb2; cases hb2
        omega
    · intro m hm hr _
      have : rhs = m := Option.some.inj hr
      rw [this] at hnd; exact hnd hm
    · intro m k h; cases h
    · intro m _; exact Q.noForce m
  obtain ⟨g, rel⟩ := IS fuel b br rk' s2 s3 (· = br.main) h3 Q.g (A.rhsNone b br X.hb)
    (fun m hm => ⟨(hdy m hm).2.1, hpar m hm, (hdy m hm).2.2⟩)
    (fun br1 r hb1 hr => by
      rw [Q.rel.bind] at hb1
      cases hb1
      have : rhs = r := Option.some.inj hr
      rw [← this]; exact hnd)
    Q.noForce (fun m => by rw [Q.num]; exact P.noHandlers A m) Q.pinv
    (fun b' br' hb' hr => by
      rcases binds2_cases X P Q b' with ⟨-, e⟩ | ⟨-, -, e⟩ | ⟨-, hge, e⟩
      · rw [e] at hb'; cases hb'; cases hr
      · rw [e] at hb'; exact A.rhsNone b' br' hb' hr
      · rw [e] at hb'; exact (P.binds_new hge hb').2.1)
  exact ⟨g, rel⟩

end NC
end IncrVerif.Proofs.NestH
