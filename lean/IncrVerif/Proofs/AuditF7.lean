import IncrVerif.Proofs.AuditF6
import IncrVerif.Proofs.AuditF2
/-!
# C11, the HEIGHT-LIMIT clause, part c: API actions and whole histories

Every API action of the combined fragment that RETURNS keeps `HL` (same syntactic ladder); the initial state satisfies it; hence in every state reached by a history
(that returns) EVERY node — needed or not — has `height ≤ maxHeightSeen ≤ maxAllowed` of both heaps.  No hypothesis on the program is used except the list of action
kinds (no `setMaxHeight`, whose effect on the limit is treated in `C19History`).
-/
open IncrVerif.Engine IncrVerif.Driver IncrVerif.Proofs IncrVerif.Proofs.Step
namespace IncrVerif.Proofs.AuditF.HLim

ok_leaf POk.stabilise

/-- the action kinds of the combined fragment (those of `FullH.ActionFull`, with no condition on the operands) -/
def PlainAction : Action → Prop
  | .create _ | .observe _ | .cloneObs _ | .dropObs _ | .disallow _ => True
  | .set _ _ | .modify _ _ | .update _ _ | .replace _ _ | .replaceWith _ _ | .get _ => True
  | .stabilise | .isStable | .stats => True
  | _ => False

theorem POk.stepAction {env : Env} {a : Action} (tokens : Array Nat) (ha : PlainAction a) : POk (stepAction env a tokens) := by
  cases a <;> try exact ha.elim
  all_goals (unfold Engine.stepAction; okpres)

theorem hl_init (N : Nat) (d : Bool) : HL (State.init N d) := by
  refine ⟨Int.le_refl _, fun n => ?_, ?_, rfl⟩
  · have : (State.init N d).nodeD n = default := by simp [State.nodeD, State.init]
    rw [this]; show (default : Node).height ≤ (0 : Int); decide
  · show (0 : Int) ≤ ((mkHeap N).queues.size : Int) - 1
    simp [mkHeap]

theorem runActions_hl {env : Env} (acts : List Action) {s s' : State} {tk tk' : Array Nat}
    (ha : ∀ a, a ∈ acts → PlainAction a) (H : HL s) (h : Quiet.runActions env acts s tk = .ok (s', tk')) : HL s' :=
  Hist.runActions_inv_all (fun _ s tk r s' H ha hx => (POk.stepAction tk ha).h s r s' hx H) H ha h

theorem plain_of_full {env : Env} {sp : Nat → Val → Val} {T : Nat} {a : Action} (h : FullH.ActionFull env sp T a) : PlainAction a := by
  cases a <;> first | trivial | exact h

theorem plain_of_hist {env : Env} {sp : Nat → Val → Val} : ∀ (acts : List Action) (T : Nat), FullH.HistFull env sp T acts →
    ∀ a, a ∈ acts → PlainAction a
  | [], _, _, a, ha => by cases ha
  | b :: bs, T, h, a, ha => by
    rcases List.mem_cons.1 ha with e | e
    · rw [e]; exact plain_of_full h.1
    · exact plain_of_hist bs _ h.2 a e

/-- **the height limit**: in every state reached by a history of the listed action kinds that returns, every node's height is within the limit of both heaps -/
theorem history_height_limit {env : Env} {N : Nat} {d : Bool} {acts : List Action} {s : State} {tk : Array Nat}
    (ha : ∀ a, a ∈ acts → PlainAction a) (h : Quiet.runActions env acts (State.init N d) #[] = .ok (s, tk)) :
    0 ≤ s.maxHeightSeen ∧ s.maxHeightSeen ≤ s.ahh.maxAllowed ∧ s.rch.maxAllowed = s.ahh.maxAllowed ∧
      ∀ n, (s.nodeD n).height ≤ s.maxHeightSeen ∧ (s.nodeD n).height ≤ s.rch.maxAllowed ∧ (s.nodeD n).height ≤ s.ahh.maxAllowed := by
  have H := runActions_hl acts ha (hl_init N d) h
  have e : s.rch.maxAllowed = s.ahh.maxAllowed := by simp only [Heap.maxAllowed, H.same]
  refine ⟨H.seen0, H.lim, e, fun n => ⟨H.node n, ?_, ?_⟩⟩
  · rw [e]; exact Int.le_trans (H.node n) H.lim
  · exact Int.le_trans (H.node n) H.lim

/-- **C11 for the combined fragment, with the height-limit clause** -/
theorem history_audit_limit {env : Env} {sp : Nat → Val → Val} (E : FullH.EnvS env sp) (hF : FullH.FirstFn env) {N : Nat} {d : Bool}
    {acts : List Action} {s : State} {tk : Array Nat}
    (hH : FullH.HistFull env sp 0 acts) (h : Quiet.runActions env acts (State.init N d) #[] = .ok (s, tk)) :
    Audit s ∧ ∀ n, s.isNecessary n = true →
      0 ≤ (s.nodeD n).height ∧ (s.nodeD n).height ≤ s.rch.maxAllowed ∧ (s.nodeD n).height ≤ s.ahh.maxAllowed := by
  have A := history_audit E hF hH h
  have L := history_height_limit (plain_of_hist acts 0 hH) h
  exact ⟨A, fun n hn => ⟨(A.nec n hn).2.2, (L.2.2.2 n).2.1, (L.2.2.2 n).2.2⟩⟩

end IncrVerif.Proofs.AuditF.HLim
