import IncrVerif.Proofs.TidyH31
import IncrVerif.Proofs.TidyH32
import IncrVerif.Proofs.TidyH33
/-!
# T4, part f (1): the two loops at the start of `stabilise` RETURN, for the rank-ordered static invariant
(as `Proofs/Quiet23.lean`, with `HBd` in place of `HBo` and the fuel of the inner cascades by depth)
-/
namespace IncrVerif.Proofs.TidyH.XT
open IncrVerif.Engine IncrVerif.Driver IncrVerif.Proofs IncrVerif.Proofs.Step IncrVerif.Proofs.Sched
open IncrVerif.Proofs.ExpertH IncrVerif.Proofs.ExpertH.QR
open IncrVerif.Proofs.ExpertH.QR.P12

namespace X4f

theorem tot_bind_getObs {β} {o : Nat} {ob : ObsRec} {f : ObsRec → M β} {s : State} {Q : β → State → Prop}
    (h : s.observers[o]? = some ob) (T : Tot (f ob) s Q) : Tot (getObs o >>= f) s Q :=
  Tot.bind_ok (by rw [run_getObs, h]) T

theorem tot_bind_modObs {β} {o : Nat} {g : ObsRec → ObsRec} {f : Unit → M β} {s : State} {Q : β → State → Prop}
    (T : Tot (f ()) { s with observers := s.observers.modify o g } Q) : Tot (modObs o g >>= f) s Q := by
  unfold modObs; exact Tot.bind_modify T

/-- `HBd` only reads the node array -/
theorem hbd_of_nodes {s s' : State} {op : Nat → Op} (hb : HBd s op) (h : s'.nodes = s.nodes) : HBd s' op := by
  have hnd : ∀ m, s'.nodeD m = s.nodeD m := fun m => by simp [State.nodeD, h]
  intro m hm ho
  have hd : dp s' m = dp s m := dp_congr (fun x => by rw [hnd]) (by rw [h]) m
  rw [hnd, hd]
  exact hb m (by rw [State.isNecessary, ← hnd]; exact hm) ho

/-- the height bound through a change of the observer list of `n` -/
theorem hbd_upd {n : Nat} {l : List Nat} {t t' : State} {op op' : Nat → Op} (hb : HBd t op)
    (U : NodeUpd n (fObservers l) t t')
    (hoth : ∀ m, m ≠ n → op' m = .closed → op m = .closed)
    (hself : t'.isNecessary n = true → op' n = .closed → t.isNecessary n = true ∧ op n = .closed) :
    HBd t' op' := by
  have hd : ∀ m, dp t' m = dp t m := by
    refine dp_congr (fun x => ?_) U.size
    by_cases e : x = n
    · rw [e, U.self.kind]; rfl
    · exact (U.other x e).kind
  intro m hm hc
  rw [hd]
  by_cases e : m = n
  · rw [e] at hm hc ⊢
    obtain ⟨h1, h2⟩ := hself hm hc
    rw [U.height_self]; exact hb n h1 h2
  · rw [U.nec_other e] at hm
    rw [U.height_other e]; exact hb m hm (hoth m e hc)

/-- the observer records after one `created` iteration of `add_new_observers` (companion of `P12.add_created`) -/
theorem add_created_obs {env : Env} {rk : Nat → Nat} {fuel o : Nat} {rest pd : List Nat} {t t4 t' : State}
    {ob : ObsRec} {was : Bool} {r : ForInStep PUnit}
    (I : SInv env rk t (o :: rest) pd) (hob : t.observers[o]? = some ob)
    (hwas : was = t.isNecessary ob.node)
    (h4 : (handleAfterStabilisation ob.node).run.run (obsAdded o ob.node ((0 : Nat) : Int) t) = (.ok (), t4))
    (h : (if (!was) = true then do
            becameNecessaryPropagate env fuel ob.node
            pure (ForInStep.yield PUnit.unit)
          else pure (ForInStep.yield PUnit.unit)).run.run t4 = (.ok r, t')) :
    ObsSet o .inUse t t' := by
  have hn : ob.node < t.nodes.size := (I.obs.inRange o ob hob).1
  have U3 : NodeUpd ob.node (fObservers ((t.nodeD ob.node).observers ++ [o])) t
      (obsAdded o ob.node ((0 : Nat) : Int) t) := obsAdded_upd hn
  have R : Irrel rk ob.node (obsAdded o ob.node ((0 : Nat) : Int) t) t4 := by
    rcases has_cases h4 with e | e
    · rw [e]; exact Irrel.refl _ _ _
    · rw [e]; exact Irrel.marked _ _ _
  have U4 := U3.then_same R.same
  have L := R.rel (fun _ => False)
  have hp4 : t4.propagateInvalidity = [] := (L.pinv.trans rfl).trans I.pinv
  have hl : (t.nodeD ob.node).observers ++ [o] ≠ [] := by simp
  obtain ⟨-, -, F, -, -⟩ := struct_add I.struct U4 hl hwas hp4 h
  have F3 : CFrame (obsAdded o ob.node ((0 : Nat) : Int) t) t' := L.fr.trans F
  exact (ObsSet.of_modify (t' := obsAdded o ob.node ((0 : Nat) : Int) t) rfl).then_eq (cf_obsArr F3)

/-- the observers still to be added keep their state through an iteration for another observer -/
theorem pending_step {x : ObsState} {o : Nat} {rest : List Nat} {t t' : State} (S : ObsSet o x t t')
    (hno : o ∉ rest)
    (hst : ∀ (o' : Nat) (ob : ObsRec), o' ∈ o :: rest → t.observers[o']? = some ob →
      ob.state = .created ∨ ob.state = .unlinked) :
    ∀ (o' : Nat) (ob : ObsRec), o' ∈ rest → t'.observers[o']? = some ob →
      ob.state = .created ∨ ob.state = .unlinked := by
  intro o' ob ho' hob
  have e : o' ≠ o := fun e => hno (e ▸ ho')
  rw [S.other o' e] at hob
  exact hst o' ob (List.mem_cons_of_mem _ ho') hob

/-- the end of a `created` iteration of `add_new_observers` returns: the assertion holds, the cascade returns -/
theorem add_tail_run {env : Env} {rk : Nat → Nat} {N fuel o : Nat} {rest pd : List Nat} {t t4 : State}
    {ob : ObsRec}
    (I : SInv env rk t (o :: rest) pd) (hob : t.observers[o]? = some ob) (hbt : HBd t allClosed) (Rt : Room N t)
    (hf : 2 * t.nodes.size + 2 ≤ fuel)
    (h4 : (handleAfterStabilisation ob.node).run.run (obsAdded o ob.node ((0 : Nat) : Int) t) = (.ok (), t4)) :
    t4.isNecessary ob.node = true ∧ ∃ (r : ForInStep PUnit) (t' : State),
      (if (!t.isNecessary ob.node) = true then do
            becameNecessaryPropagate env fuel ob.node
            pure (ForInStep.yield PUnit.unit)
          else pure (ForInStep.yield PUnit.unit)).run.run t4 = (.ok r, t') ∧ HBd t' allClosed := by
  have hn : ob.node < t.nodes.size := (I.obs.inRange o ob hob).1
  have U3 : NodeUpd ob.node (fObservers ((t.nodeD ob.node).observers ++ [o])) t
      (obsAdded o ob.node ((0 : Nat) : Int) t) := obsAdded_upd hn
  have R : Irrel rk ob.node (obsAdded o ob.node ((0 : Nat) : Int) t) t4 := by
    rcases has_cases h4 with e | e
    · rw [e]; exact Irrel.refl _ _ _
    · rw [e]; exact Irrel.marked _ _ _
  have U4 := U3.then_same R.same
  have L := R.rel (fun _ => False)
  have hp4 : t4.propagateInvalidity = [] := (L.pinv.trans rfl).trans I.pinv
  have hl : (t.nodeD ob.node).observers ++ [o] ≠ [] := by simp
  have P4 : PFrame t t4 := (obsAdded_frame o ob.node t).trans L.fr.toP
  refine ⟨(U4.nec_self_iff (keeps_fObservers _)).2 (Or.inr (Or.inl hl)), ?_⟩
  cases hw : t.isNecessary ob.node with
  | true =>
    simp only [Bool.not_true, Bool.false_eq_true, if_false]
    exact ⟨_, t4, run_pure _ _, hbd_upd hbt U4 (fun _ _ h => h) (fun _ _ => ⟨hw, rfl⟩)⟩
  | false =>
    simp only [Bool.not_false, if_true]
    obtain ⟨I1, hpar⟩ := GInv.addObs_open I.struct U4 hl hw rfl
    have hnq : (t4.nodeD ob.node).inRch = false := by
      rw [U4.inRch (keeps_fObservers _)]; exact GInv.not_queued_of_not_nec I.struct hw rfl
    have hlow : ∀ m, upd allClosed ob.node (.linking 0) m ≠ .closed → rk ob.node ≤ rk m := by
      intro m hm
      by_cases e : m = ob.node
      · rw [e]; exact Nat.le_refl _
      · rw [upd_other _ _ _ e] at hm; exact absurd rfl hm
    have hpar' : ∀ p i, (p, i) ∈ (t4.nodeD ob.node).parents →
        upd allClosed ob.node (.linking 0) p ≠ .closed := by
      intro p i hpi; rw [hpar] at hpi; cases hpi
    have hdp : dp t4 ob.node < t.nodes.size := by
      rw [dp_of_pframe P4]; exact dp_lt_size I.struct.static hn
    have T := becameNecessary_totalR (fuel := fuel) I1
      (hbd_upd hbt U4 (op' := upd allClosed ob.node (.linking 0)) (fun _ _ _ => rfl)
        (fun _ h => by rw [upd_self] at h; cases h))
      (Rt.of_pframe P4) (upd_self _ _ _) hnq hlow hpar' (by omega)
    rw [upd_upd, upd_eq_self allClosed _ .closed rfl] at T
    obtain ⟨u, t6, h6, hb6⟩ := T
    obtain ⟨-, -, hL⟩ := QR.becameNecessary_spec h6 I1 (upd_self _ _ _) hnq hlow hpar'
    have hp6 : t6.propagateInvalidity = [] := by rw [hL.pinv]; exact hp4
    have h5 : (becameNecessaryPropagate env fuel ob.node).run.run t4 = (.ok (), t6) := by
      unfold becameNecessaryPropagate
      rw [run_bind_ok h6]; exact propagateInvalidity_ok hp6 (by omega)
    exact ⟨_, t6, by rw [run_bind_ok h5, run_pure], hb6⟩

end X4f

/-- **`addNewObservers` returns**, and the height bound is kept -/
theorem addNewObservers_totalR {env : Env} {rk : Nat → Nat} {N fuel : Nat} {s : State}
    (I : SInv env rk s s.newObservers s.disallowedObservers) (hb : HBd s allClosed) (R : Room N s)
    (hnd : s.newObservers.Nodup)
    (hst : ∀ (o : Nat) (ob : ObsRec), o ∈ s.newObservers → s.observers[o]? = some ob →
      ob.state = .created ∨ ob.state = .unlinked)
    (hf : 2 * s.nodes.size + 2 ≤ fuel) :
    Tot (addNewObservers env fuel) s (fun _ s' => HBd s' allClosed) := by
  unfold addNewObservers
  refine Tot.bind_get ?_
  refine Tot.bind_modify ?_
  have I0 : SInv env rk { s with newObservers := [] } s.newObservers s.disallowedObservers :=
    sInv_congr I rfl rfl rfl rfl rfl rfl rfl
  have R0 : Room N { s with newObservers := [] } := ⟨R.ahh, R.rch, R.size⟩
  have hb0 : HBd { s with newObservers := [] } allClosed := X4f.hbd_of_nodes hb rfl
  refine Tot.bind (forIn_tot' _ _
    (fun j (_ : PUnit) t => SInv env rk t (s.newObservers.drop j) s.disallowedObservers ∧
      t.nodes.size = s.nodes.size ∧ HBd t allClosed ∧ Room N t ∧
      (∀ (o : Nat) (ob : ObsRec), o ∈ s.newObservers.drop j → t.observers[o]? = some ob →
        ob.state = .created ∨ ob.state = .unlinked)) ?_ _ _
    ⟨by rw [List.drop_zero]; exact I0, rfl, hb0, R0, by rw [List.drop_zero]; exact hst⟩) ?_
  · intro j o b t hj ⟨It, hsz, hbt, Rt, hpt⟩
    have hndj : (o :: s.newObservers.drop (j + 1)).Nodup := by
      rw [← drop_of_getElem? hj]; exact List.Nodup.sublist (List.drop_sublist _ _) hnd
    rw [drop_of_getElem? hj] at It hpt
    obtain ⟨ob, hob⟩ := It.obs.newIn o (List.mem_cons_self ..)
    have hh : ob.handlers = [] := (It.obs.inRange o ob hob).2
    have hn : ob.node < t.nodes.size := (It.obs.inRange o ob hob).1
    refine X4f.tot_bind_getObs hob ?_
    rcases hpt o ob (List.mem_cons_self ..) hob with hc | hu
    · rw [hc]
      dsimp only
      refine X4f.tot_bind_modObs ?_
      refine Tot.bind_get ?_
      refine Tot.bind_modify ?_
      refine Tot.bind_modNode ?_
      change Tot _ (obsAdded o ob.node ((ob.handlers.length : Nat) : Int) t) _
      rw [hh, List.length_nil]
      obtain ⟨t4, h4⟩ := has_ok (n := ob.node) (s := obsAdded o ob.node ((0 : Nat) : Int) t)
        (by rw [(obsAdded_upd (o := o) (k := ((0 : Nat) : Int)) hn).size]; exact hn)
      obtain ⟨hnec4, r, t', hrun, hb'⟩ := X4f.add_tail_run (env := env) (fuel := fuel) It hob hbt Rt
        (by rw [hsz]; exact hf) h4
      refine Tot.bind_ok h4 ?_
      refine Tot.bind_get ?_
      refine Tot.bind_dassert (fun _ => hnec4) ?_
      obtain ⟨hr, I', R', -⟩ := add_created (was := t.isNecessary ob.node) It hob hc rfl h4 hrun
      have S := X4f.add_created_obs (was := t.isNecessary ob.node) It hob rfl h4 hrun
      exact Tot.of_ok hrun ⟨_, hr, I', R'.frame.size.trans hsz, hb', Rt.of_pframe R'.frame,
        X4f.pending_step S (List.nodup_cons.1 hndj).1 hpt⟩
    · rw [hu]
      dsimp only
      exact Tot.pure ⟨_, rfl, ⟨It.struct, obsInv_skip_step It.obs hob (by rw [hu]; exact fun e => by cases e),
        It.pinv, It.handlers⟩, hsz, hbt, Rt, fun o' ob' ho' h' => hpt o' ob' (List.mem_cons_of_mem _ ho') h'⟩
  · intro _ s1 _ ⟨_, _, hb1, _⟩
    exact Tot.pure hb1

/-- **`unlinkDisallowedObservers` returns**, and the height bound is kept -/
theorem unlinkDisallowedObservers_totalR {env : Env} {rk : Nat → Nat} {fuel : Nat} {s : State}
    (I : SInv env rk s [] s.disallowedObservers) (_hn : s.newObservers = []) (hb : HBd s allClosed)
    (hf : 3 * s.nodes.size + 3 ≤ fuel) :
    Tot (unlinkDisallowedObservers fuel) s (fun _ s' => HBd s' allClosed) := by
  unfold unlinkDisallowedObservers
  refine Tot.bind_get ?_
  refine Tot.bind_modify ?_
  have I0 : SInv env rk { s with disallowedObservers := [] } [] s.disallowedObservers :=
    sInv_congr I rfl rfl rfl rfl rfl rfl rfl
  have hb0 : HBd { s with disallowedObservers := [] } allClosed := X4f.hbd_of_nodes hb rfl
  refine Tot.bind (forIn_tot' _ _
    (fun j (_ : PUnit) t => SInv env rk t [] (s.disallowedObservers.drop j) ∧ t.nodes.size = s.nodes.size ∧
      HBd t allClosed) ?_ _ _ ⟨by rw [List.drop_zero]; exact I0, rfl, hb0⟩) ?_
  · intro j o b t hj ⟨It, hsz, hbt⟩
    rw [drop_of_getElem? hj] at It
    obtain ⟨ob, hob⟩ := It.obs.disIn o (List.mem_cons_self ..)
    have hstd : ob.state = .disallowed := (It.obs.dis o ob hob).2 (List.mem_cons_self ..)
    have hh : ob.handlers = [] := (It.obs.inRange o ob hob).2
    have hn : ob.node < t.nodes.size := (It.obs.inRange o ob hob).1
    refine X4f.tot_bind_getObs hob ?_
    refine Tot.bind_dassert (fun _ => by rw [hstd]; rfl) ?_
    refine X4f.tot_bind_modObs ?_
    refine Tot.bind_modNode ?_
    refine Tot.bind_modify ?_
    change Tot _ (obsRemoved o ob.node ((ob.handlers.length : Nat) : Int) t) _
    rw [hh, List.length_nil]
    have hmem : o ∈ (t.nodeD ob.node).observers := (It.obs.mem ob.node o).2 ⟨ob, hob, rfl, Or.inr hstd⟩
    have hnec : t.isNecessary ob.node = true :=
      (isNecessary_iff t ob.node).2 (Or.inr (Or.inl (List.ne_nil_of_mem hmem)))
    have U3 : NodeUpd ob.node (fObservers ((t.nodeD ob.node).observers.filter (· != o))) t
        (obsRemoved o ob.node ((0 : Nat) : Int) t) := obsRemoved_upd hn
    obtain ⟨H1, H2⟩ := GInv.remObs It.struct U3 rfl hnec
    have hdp : dp (obsRemoved o ob.node ((0 : Nat) : Int) t) ob.node < t.nodes.size := by
      rw [dp_of_pframe (obsRemoved_frame o ob.node t)]; exact dp_lt_size It.struct.static hn
    have hfuel : 3 * dp (obsRemoved o ob.node ((0 : Nat) : Int) t) ob.node + 3 ≤ fuel := by omega
    have T : Tot (checkIfUnnecessary fuel ob.node) (obsRemoved o ob.node ((0 : Nat) : Int) t)
        (fun _ s' => HBd s' allClosed) := by
      cases hnc : (obsRemoved o ob.node ((0 : Nat) : Int) t).isNecessary ob.node with
      | true =>
        have T := checkIfUnnecessary_totalR (H1 hnc)
          (X4f.hbd_upd hbt U3 (fun _ _ h => h) (fun _ _ => ⟨hnec, rfl⟩)) (allClosed_low rk _)
          (Or.inl ⟨hnc, rfl⟩) hfuel
        rw [upd_eq_self allClosed _ .closed rfl] at T; exact T
      | false =>
        have T := checkIfUnnecessary_totalR (H2 hnc)
          (X4f.hbd_upd hbt U3 (fun _ _ _ => rfl) (fun h _ => by rw [hnc] at h; cases h))
          (by
            intro m hm
            by_cases e : m = ob.node
            · rw [e]; exact Nat.le_refl _
            · rw [upd_other _ _ _ e] at hm; exact absurd rfl hm)
          (Or.inr ⟨hnc, upd_self _ _ _⟩) hfuel
        rw [upd_upd, upd_eq_self allClosed _ .closed rfl] at T; exact T
    obtain ⟨u, t', hrun, hb'⟩ := T
    obtain ⟨I', R'⟩ := unlink_iter It hob hrun
    exact Tot.bind_ok hrun (Tot.pure ⟨_, rfl, I', by rw [R'.frame.size]; exact hsz, hb'⟩)
  · intro _ s1 _ ⟨_, _, hb1⟩
    exact Tot.pure hb1

end IncrVerif.Proofs.TidyH.XT
