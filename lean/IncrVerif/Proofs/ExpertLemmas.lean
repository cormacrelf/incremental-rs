import IncrVerif.Proofs.Step
import IncrVerif.Proofs.Footprint
/-!
# Helper lemmas for C14 (expert nodes with dynamic dependencies)

Run calculus (`Proofs/Heights.lean`, `Proofs/Step.lean`) applied to the expert API of
`Engine/Expert.lean`, the edge callbacks of `Engine/Core.lean` and the `.expert` branch of
`recomputeOne`.  Everything is a closed-form `(f ..).run.run s = …` equation or a consequence of one.
-/
namespace IncrVerif.Proofs.Xp
open IncrVerif.Engine IncrVerif.Proofs IncrVerif.Proofs.Step

/-! ## arrays: `modify` at a known index -/

theorem modify_eq_set {α} (a : Array α) (i : Nat) (f : α → α) (x : α) (h : a[i]? = some x) :
    a.modify i f = a.setIfInBounds i (f x) := by
  apply Array.ext_getElem?
  intro j
  rw [Array.getElem?_modify, Array.getElem?_setIfInBounds]
  by_cases hij : i = j
  · subst hij
    obtain ⟨hlt, hx⟩ := Array.getElem?_eq_some_iff.1 h
    simp [hlt, hx]
  · simp [hij]

theorem set_set {α} (a : Array α) (i : Nat) (x y : α) :
    (a.setIfInBounds i x).setIfInBounds i y = a.setIfInBounds i y := by
  apply Array.ext_getElem?
  intro j
  simp only [Array.getElem?_setIfInBounds, Array.size_setIfInBounds]
  by_cases hij : i = j <;> simp [hij]

theorem getElem?_set_self {α} (a : Array α) (i : Nat) (x y : α) (h : a[i]? = some x) :
    (a.setIfInBounds i y)[i]? = some y := by
  have hlt := (Array.getElem?_eq_some_iff.1 h).1
  simp [Array.getElem?_setIfInBounds, hlt]

/-! ## expert records in the state -/

/-- the state with expert record `e` replaced by `x` -/
def putExpert (e : Nat) (x : ExpertRec) (s : State) : State :=
  { s with experts := s.experts.setIfInBounds e x }

theorem run_getExpert (e : Nat) (s : State) :
    (getExpert e).run.run s = match s.experts[e]? with
      | some x => (.ok x, s)
      | none => (.error (.site "model:no-such-expert"), s) := by
  simp only [getExpert, run_bind, run_get]
  cases s.experts[e]? <;> rfl

theorem run_getExpert_some {e : Nat} {s : State} {er : ExpertRec} (h : s.experts[e]? = some er) :
    (getExpert e).run.run s = (.ok er, s) := by
  rw [run_getExpert, h]

theorem run_modExpert (e : Nat) (f : ExpertRec → ExpertRec) (s : State) :
    (modExpert e f).run.run s = (.ok (), { s with experts := s.experts.modify e f }) := rfl

theorem run_modExpert_some {e : Nat} {s : State} {er : ExpertRec} (f : ExpertRec → ExpertRec)
    (h : s.experts[e]? = some er) :
    (modExpert e f).run.run s = (.ok (), putExpert e (f er) s) := by
  rw [run_modExpert, modify_eq_set _ _ _ _ h]; rfl

/-- peeling rules whose side condition is stated for the *current* state (used with `rw`, the side
condition becomes a new goal) -/
theorem run_bind_getExpert {β} {e : Nat} {S : State} (er : ExpertRec) (f : ExpertRec → M β)
    (h : S.experts[e]? = some er) : (getExpert e >>= f).run.run S = (f er).run.run S :=
  run_bind_ok (run_getExpert_some h)

theorem run_bind_modExpert {β} {e : Nat} {S : State} (er : ExpertRec) (g : ExpertRec → ExpertRec)
    (f : Unit → M β) (h : S.experts[e]? = some er) :
    (modExpert e g >>= f).run.run S = (f ()).run.run (putExpert e (g er) S) :=
  run_bind_ok (run_modExpert_some g h)

/-- `rw [t]`, then close the side condition (stated for whatever the current state is) with `h` -/
macro "rwx " t:term " with " h:term : tactic => `(tactic| (rw [$t:term]; rotate_left; exact $h))

theorem putExpert_get {e : Nat} {s : State} {er : ExpertRec} (x : ExpertRec)
    (h : s.experts[e]? = some er) : (putExpert e x s).experts[e]? = some x :=
  getElem?_set_self _ _ _ _ h

theorem putExpert_get_ne {e e' : Nat} (s : State) (x : ExpertRec) (h : e ≠ e') :
    (putExpert e x s).experts[e']? = s.experts[e']? := by
  simp [putExpert, Array.getElem?_setIfInBounds, h]

theorem putExpert_put (e : Nat) (x y : ExpertRec) (s : State) :
    putExpert e y (putExpert e x s) = putExpert e y s := by
  simp only [putExpert, set_set]

theorem putExpert_self {e : Nat} {s : State} {er : ExpertRec} (h : s.experts[e]? = some er) :
    putExpert e er s = s := by
  have : s.experts.setIfInBounds e er = s.experts := by
    apply Array.ext_getElem?
    intro j
    rw [Array.getElem?_setIfInBounds]
    by_cases hij : e = j
    · subst hij
      obtain ⟨hlt, hx⟩ := Array.getElem?_eq_some_iff.1 h
      simp [hlt, hx]
    · simp [hij]
  simp only [putExpert, this]

@[simp] theorem putExpert_nodes (e x s) : (putExpert e x s).nodes = s.nodes := rfl
@[simp] theorem putExpert_nodeD (e x s n) : (putExpert e x s).nodeD n = s.nodeD n := rfl
@[simp] theorem putExpert_isNecessary (e x s n) : (putExpert e x s).isNecessary n = s.isNecessary n := rfl
@[simp] theorem putExpert_cfg (e x s) : (putExpert e x s).cfg = s.cfg := rfl
@[simp] theorem putExpert_rch (e x s) : (putExpert e x s).rch = s.rch := rfl
@[simp] theorem putExpert_pc (e x s) : (putExpert e x s).panicCountdown = s.panicCountdown := rfl
@[simp] theorem putExpert_value (env : Env) (e : Nat) (x : ExpertRec) (s : State) (n : Nat) :
    (putExpert e x s).value env n = s.value env n :=
  value_congr env s (putExpert e x s) rfl (fun _ => rfl) n

/-- "node `n` is a valid expert node whose record is `er`" -/
structure IsExpert (s : State) (n : Nat) (nd : Node) (e : Nat) (er : ExpertRec) : Prop where
  node : s.nodes[n]? = some nd
  valid : nd.valid = true
  kind : nd.kind = .expert e
  xrec : s.experts[e]? = some er

theorem IsExpert.kind? {s n nd e er} (h : IsExpert s n nd e er) : nd.kind? = some (.expert e) := by
  simp [Node.kind?, h.valid, h.kind]

theorem run_expertOf {n : Nat} {s : State} {nd : Node} (hn : s.nodes[n]? = some nd) :
    (expertOf n).run.run s =
      (.ok (match nd.kind? with | some (.expert e) => some e | _ => none), s) := by
  unfold expertOf
  rw [run_bind_ok (run_getNode_some hn)]
  split <;> simp_all <;> rfl

theorem expertOf_match_none {nd : Node} (hk : ∀ e, nd.kind ≠ .expert e) :
    (match nd.kind? with | some (.expert e) => some e | _ => none) = (none : Option Nat) := by
  split
  · rename_i e h
    unfold Node.kind? at h
    split at h
    · exact absurd (Option.some.inj h) (hk e)
    · cases h
  · rfl

theorem IsExpert.run_expertOf {s n nd e er} (h : IsExpert s n nd e er) :
    (expertOf n).run.run s = (.ok (some e), s) := by
  rw [Xp.run_expertOf h.node, h.kind?]

theorem IsExpert.children {s n nd e er} (h : IsExpert s n nd e er) :
    s.children n = er.children.map (·.child) := by
  simp [State.children, nodeD_of_some h.node, h.kind?, h.xrec]

/-- the expert is stale whenever its `forceStale` flag is set -/
theorem IsExpert.isStale_of_forceStale {s n nd e er} (h : IsExpert s n nd e er)
    (hf : er.forceStale = true) : s.isStale n = true := by
  simp [State.isStale, nodeD_of_some h.node, h.kind?, h.xrec, hf]

theorem IsExpert.isStale {s n nd e er} (h : IsExpert s n nd e er) :
    s.isStale n = (er.forceStale || nd.recomputedAt == -1 ||
      (er.children.map (·.child)).any fun c => (s.nodeD c).changedAt > nd.recomputedAt) := by
  simp [State.isStale, nodeD_of_some h.node, h.kind?, h.xrec, h.children]

theorem IsExpert.putExpert {s n nd e er} (h : IsExpert s n nd e er) (x : ExpertRec) :
    IsExpert (putExpert e x s) n nd e x :=
  ⟨h.node, h.valid, h.kind, putExpert_get x h.xrec⟩

/-! ## the debug-build assertion `assert_currently_running_node_is_child` -/

/-- the running-node assertion passes: release build, or a node is being recomputed and it is a child -/
def runningOk (s : State) (n : Nat) : Bool :=
  !s.cfg.debug || (match s.currentlyRunning with
    | none => false
    | some cur => (s.children n).contains cur)

theorem run_assertRunningIsChild (n : Nat) (name : String) (s : State) :
    (assertRunningIsChild n name).run.run s =
      if s.cfg.debug = true then
        match s.currentlyRunning with
        | none => (.error (.site s!"expert:{name}:only-during-stabilisation"), s)
        | some cur =>
          if (s.children n).contains cur then (.ok (), s)
          else (.error (.site s!"expert:{name}:running-node-not-a-child"), s)
      else (.ok (), s) := by
  unfold assertRunningIsChild
  rw [run_bind_get]
  cases hd : s.cfg.debug
  · rfl
  · simp only [if_true]
    cases hc : s.currentlyRunning with
    | none => rfl
    | some cur =>
      simp only
      cases hm : (s.children n).contains cur <;> rfl

theorem run_assertRunningIsChild_ok {n : Nat} {name : String} {s : State} (h : runningOk s n = true) :
    (assertRunningIsChild n name).run.run s = (.ok (), s) := by
  rw [run_assertRunningIsChild]
  unfold runningOk at h
  cases hd : s.cfg.debug
  · simp
  · simp only [if_true]
    rw [hd] at h
    cases hc : s.currentlyRunning with
    | none => rw [hc] at h; simp at h
    | some cur => rw [hc] at h; simp only [Bool.not_true, Bool.false_or] at h; simp only [h, if_true]

/-- the assertion fails exactly when `runningOk` is false -/
theorem run_assertRunningIsChild_fail {n : Nat} {name : String} {s : State} (h : runningOk s n = false) :
    ∃ p, (assertRunningIsChild n name).run.run s = (.error p, s) := by
  rw [run_assertRunningIsChild]
  unfold runningOk at h
  cases hd : s.cfg.debug
  · rw [hd] at h; simp at h
  · simp only [if_true]
    rw [hd] at h
    cases hc : s.currentlyRunning with
    | none => exact ⟨_, rfl⟩
    | some cur =>
      rw [hc] at h; simp only [Bool.not_true, Bool.false_or] at h
      simp only [h, Bool.false_eq_true, if_false]; exact ⟨_, rfl⟩

/-! ## (f) `observabilityChange` -/

/-- the note `observability_change` logs for a user-defined expert: node, new observability, and
whether the engine is stabilising (what the user's callback can see through `is_stabilising()`) -/
def obsNote (er : ExpertRec) (nowObservable : Bool) (s : State) : Event :=
  .note s!"obschange n{er.node} {nowObservable} stab={s.status != .notStabilising}"

theorem observabilityChange_true_run {e : Nat} {s : State} {er : ExpertRec}
    (he : s.experts[e]? = some er) (hpk : er.pk = none) :
    (observabilityChange e true).run.run s =
      (.ok (), { s with log := obsNote er true s :: s.log }) := by
  have h1 : er.pk.isNone = true := by rw [hpk]; rfl
  unfold observabilityChange
  rw [run_bind_ok (run_getExpert_some he)]
  simp only [h1, if_true, run_bind_get, run_bind_logEv]
  rfl

theorem observabilityChange_false_run {e : Nat} {s : State} {er : ExpertRec}
    (he : s.experts[e]? = some er) (hpk : er.pk = none) :
    (observabilityChange e false).run.run s =
      (.ok (), putExpert e { er with willFireAllCallbacks := true, numInvalidChildren := 0 }
        { s with log := obsNote er false s :: s.log }) := by
  have h1 : er.pk.isNone = true := by rw [hpk]; rfl
  unfold observabilityChange
  rw [run_bind_ok (run_getExpert_some he)]
  simp only [h1, if_true, run_bind_get, run_bind_logEv, Bool.not_false]
  rw [run_modExpert_some _ (by exact he)]
  rfl

/-- an internal per-key operator node (`pk ≠ none`): the same without the log line -/
theorem observabilityChange_false_run_pk {e : Nat} {s : State} {er : ExpertRec}
    (he : s.experts[e]? = some er) (hpk : er.pk.isNone = false) :
    (observabilityChange e false).run.run s =
      (.ok (), putExpert e { er with willFireAllCallbacks := true, numInvalidChildren := 0 } s) := by
  unfold observabilityChange
  rw [run_bind_ok (run_getExpert_some he)]
  simp only [hpk, Bool.false_eq_true, if_false, Bool.not_false, if_true, pure_bind]
  rw [run_modExpert_some _ he]

theorem observabilityChange_missing {e : Nat} {s : State} (b : Bool) (he : s.experts[e]? = none) :
    (observabilityChange e b).run.run s = (.error (.site "model:no-such-expert"), s) := by
  unfold observabilityChange
  rw [run_bind, run_getExpert, he]

/-! ## (e) edge callbacks -/

/-- the state after the change callback of dependency `dep` of expert `e` (node `node`) was invoked
with value `v`: one `inv "cb"` event, the slot of `dep` now holds `v` -/
def deliver (e node dep : Nat) (v : Val) (s : State) : State :=
  { s with log := .inv "cb" node [v] s!"d{dep}" :: s.log,
           experts := s.experts.modify e fun x =>
             { x with slots := (dep, v) :: x.slots.filter (·.1 != dep) } }

/-- `Edge::on_change` as a state transformer (no fault armed) -/
def fireEdge (env : Env) (e node : Nat) (edge : ExpertEdge) (s : State) : State :=
  match edge.cb, s.value env edge.child with
  | some _, some v => deliver e node edge.dep v s
  | _, _ => s

theorem edgeOnChange_run (env : Env) {e : Nat} (edge : ExpertEdge) {s : State} {er : ExpertRec}
    (he : s.experts[e]? = some er) (hpk : er.pk = none) (hp : s.panicCountdown = none) :
    (edgeOnChange env e edge).run.run s = (.ok (), fireEdge env e er.node edge s) := by
  unfold edgeOnChange fireEdge
  cases hcb : edge.cb with
  | none => rfl
  | some c =>
    simp only [run_bind_get]
    cases hv : s.value env edge.child with
    | none => rfl
    | some v =>
      have h1 : er.pk.isNone = true := by rw [hpk]; rfl
      rw [run_bind_ok (run_getExpert_some he)]
      simp only [h1, if_true, bind_assoc]
      rw [run_bind_ok (run_tick_none s hp), run_bind_logEv]
      rfl

/-- the edge has no callback: nothing happens (even when a fault is armed) -/
theorem edgeOnChange_no_cb (env : Env) (e : Nat) (edge : ExpertEdge) (s : State)
    (hcb : edge.cb = none) : (edgeOnChange env e edge).run.run s = (.ok (), s) := by
  unfold edgeOnChange; rw [hcb]; rfl

/-- the child has no value (repaired D7): nothing happens -/
theorem edgeOnChange_no_value (env : Env) (e : Nat) (edge : ExpertEdge) (s : State)
    (hv : s.value env edge.child = none) : (edgeOnChange env e edge).run.run s = (.ok (), s) := by
  unfold edgeOnChange
  cases edge.cb with
  | none => rfl
  | some c => simp only [run_bind_get, hv]; rfl

theorem runEdgeCallback_run (env : Env) {e : Nat} (i : Nat) {s : State} {er : ExpertRec}
    (he : s.experts[e]? = some er) :
    (runEdgeCallback env e i).run.run s =
      if er.willFireAllCallbacks = true then (.ok (), s)
      else match er.children[i]? with
        | none => (.ok (), s)
        | some edge => (edgeOnChange env e edge).run.run s := by
  unfold runEdgeCallback
  rw [run_bind_ok (run_getExpert_some he)]
  cases er.willFireAllCallbacks
  · simp only [Bool.not_false, if_true, Bool.false_eq_true, if_false]
    cases er.children[i]? <;> rfl
  · rfl

/-- `child_changed` on a valid expert parent is `run_edge_callback` -/
theorem childChanged_expert_run (env : Env) (fuel p c i : Nat) (old : Option Val) {s : State}
    {nd : Node} {e : Nat} (hn : s.nodes[p]? = some nd) (hv : nd.valid = true)
    (hk : nd.kind = .expert e) :
    (childChanged env (fuel + 1) p c i old).run.run s = (runEdgeCallback env e i).run.run s := by
  unfold childChanged
  rw [run_bind_ok (run_getNode_some hn)]
  have : nd.kind? = some (.expert e) := by simp [Node.kind?, hv, hk]
  rw [this]

/-! ## (b) `expertAddDependency` -/

/-- the edge `expert_add_dependency` creates in state `s` -/
def newEdge (s : State) (child : Nat) (cb : Bool) : ExpertEdge :=
  { dep := s.nextDep, child := child, cb := if cb then some s.nextDep else none }

/-- `nextDep` bumped -/
def bumpDep (s : State) : State := { s with nextDep := s.nextDep + 1 }

theorem expertAddDependency_unnecessary (env : Env) (fuel n child : Nat) (cb : Bool) {s : State}
    {nd : Node} {e : Nat} {er : ExpertRec} (hx : IsExpert s n nd e er)
    (hnec : nd.isNecessary = false) :
    (expertAddDependency env fuel n child cb).run.run s =
      (.ok s.nextDep,
        putExpert e { er with children := er.children ++ [newEdge s child cb], forceStale := true }
          (bumpDep s)) := by
  unfold expertAddDependency
  rw [run_bind_get, run_bind_modify]
  have hx' : IsExpert { s with nextDep := s.nextDep + 1 } n nd e er := ⟨hx.node, hx.valid, hx.kind, hx.xrec⟩
  rw [run_bind_ok hx'.run_expertOf]
  simp only
  rw [run_bind_ok (run_getExpert_some hx'.xrec), run_bind_ok (run_modExpert_some _ hx'.xrec), run_bind_get]
  have hn : (putExpert e { er with
      children := er.children ++ [{ dep := s.nextDep, child := child, cb := if cb = true then some s.nextDep else none }],
      forceStale := true } { s with nextDep := s.nextDep + 1 }).isNecessary n = false := by
    simp [State.isNecessary, State.nodeD, hx.node, hnec]
  rw [hn]
  rfl

theorem expertAddDependency_invalid (env : Env) (fuel n child : Nat) (cb : Bool) {s : State}
    {nd : Node} (hn : s.nodes[n]? = some nd) (hv : nd.valid = false) :
    (expertAddDependency env fuel n child cb).run.run s = (.ok s.nextDep, bumpDep s) := by
  unfold expertAddDependency
  rw [run_bind_get, run_bind_modify]
  have hn' : ({ s with nextDep := s.nextDep + 1 } : State).nodes[n]? = some nd := hn
  rw [run_bind_ok (Xp.run_expertOf hn')]
  simp only [Node.kind?, hv, Bool.false_eq_true, if_false]
  rfl

theorem expertAddDependency_not_expert (env : Env) (fuel n child : Nat) (cb : Bool) {s : State}
    {nd : Node} (hn : s.nodes[n]? = some nd) (hk : ∀ e, nd.kind ≠ .expert e) :
    (expertAddDependency env fuel n child cb).run.run s = (.ok s.nextDep, bumpDep s) := by
  unfold expertAddDependency
  rw [run_bind_get, run_bind_modify]
  have hn' : ({ s with nextDep := s.nextDep + 1 } : State).nodes[n]? = some nd := hn
  rw [run_bind_ok (Xp.run_expertOf hn')]
  rw [expertOf_match_none hk]
  rfl

/-! ## (c) `expertMakeStale` -/

theorem expertMakeStale_invalid {n : Nat} {s : State} {nd : Node} (hn : s.nodes[n]? = some nd)
    (hv : nd.valid = false) : (expertMakeStale n).run.run s = (.ok (), s) := by
  unfold expertMakeStale
  rw [run_bind_ok (run_getNode_some hn)]
  simp only [hv, Bool.not_false, if_true]
  rfl

theorem expertMakeStale_not_expert {n : Nat} {s : State} {nd : Node} (hn : s.nodes[n]? = some nd)
    (hk : ∀ e, nd.kind ≠ .expert e) : (expertMakeStale n).run.run s = (.ok (), s) := by
  unfold expertMakeStale
  rw [run_bind_ok (run_getNode_some hn)]
  cases hv : nd.valid
  · simp only [Bool.not_false, if_true]; rfl
  · simp only [Bool.not_true, Bool.false_eq_true, if_false]
    rw [run_bind_ok (Xp.run_expertOf hn)]
    rw [expertOf_match_none hk]
    rfl

/-- the state in which `forceStale` of expert `e` is set -/
def forced (e : Nat) (er : ExpertRec) (s : State) : State := putExpert e { er with forceStale := true } s

theorem expertMakeStale_run {s : State} {n : Nat} {nd : Node} {e : Nat} {er : ExpertRec}
    (hx : IsExpert s n nd e er) (hr : runningOk s n = true) :
    (expertMakeStale n).run.run s =
      if er.forceStale = true then (.ok (), s)
      else if (nd.isNecessary && !nd.inRch) = true then (rchInsert n).run.run (forced e er s)
      else (.ok (), forced e er s) := by
  unfold expertMakeStale
  rw [run_bind_ok (run_getNode_some hx.node)]
  simp only [hx.valid, Bool.not_true, Bool.false_eq_true, if_false]
  rw [run_bind_ok hx.run_expertOf]
  simp only
  rw [run_bind_ok (run_assertRunningIsChild_ok hr), run_bind_ok (run_getExpert_some hx.xrec)]
  cases hf : er.forceStale
  · simp only [Bool.false_eq_true, if_false]
    rw [run_bind_ok (run_modExpert_some _ hx.xrec), run_bind_get]
    have h1 : (putExpert e { er with forceStale := true } s).isNecessary n = nd.isNecessary := by
      simp [State.isNecessary, nodeD_of_some hx.node]
    have h2 : ((putExpert e { er with forceStale := true } s).nodeD n).inRch = nd.inRch := by
      simp [nodeD_of_some hx.node]
    rw [h1, h2]
    cases (nd.isNecessary && !nd.inRch) <;> rfl
  · rfl

/-- the running-node assertion fails (debug build, not called from a child's recompute): panic, nothing
changed -/
theorem expertMakeStale_assert_fails {s : State} {n : Nat} {nd : Node} {e : Nat} {er : ExpertRec}
    (hx : IsExpert s n nd e er) (hr : runningOk s n = false) :
    ∃ p, (expertMakeStale n).run.run s = (.error p, s) := by
  obtain ⟨p, hp⟩ := run_assertRunningIsChild_fail (name := "make_stale") hr
  refine ⟨p, ?_⟩
  unfold expertMakeStale
  rw [run_bind_ok (run_getNode_some hx.node)]
  simp only [hx.valid, Bool.not_true, Bool.false_eq_true, if_false]
  rw [run_bind_ok hx.run_expertOf]
  simp only
  rw [run_bind, hp]

theorem forced_isExpert {s : State} {n : Nat} {nd : Node} {e : Nat} {er : ExpertRec}
    (hx : IsExpert s n nd e er) : IsExpert (forced e er s) n nd e { er with forceStale := true } :=
  hx.putExpert _

theorem forced_isStale {s : State} {n : Nat} {nd : Node} {e : Nat} {er : ExpertRec}
    (hx : IsExpert s n nd e er) : (forced e er s).isStale n = true :=
  (forced_isExpert hx).isStale_of_forceStale rfl

/-- exact run equation of `expert_make_stale` on a valid expert node, the heap insertion spelled out -/
theorem expertMakeStale_run' {s : State} {n : Nat} {nd : Node} {e : Nat} {er : ExpertRec}
    (hx : IsExpert s n nd e er) (hr : runningOk s n = true) :
    (expertMakeStale n).run.run s =
      if er.forceStale = true then (.ok (), s)
      else if (nd.isNecessary && !nd.inRch) = true then
        if s.cfg.debug = true ∧ nd.height > s.rch.maxAllowed then
          (.error (.site "recompute_heap:insert:height<=max"), forced e er s)
        else if nd.height < 0 then
          (.error (.site "recompute_heap:link:height>=0"), lowered nd.height (forced e er s))
        else if nd.height > s.rch.maxAllowed then
          (.error (.site "recompute_heap:link:height<=max"), lowered nd.height (forced e er s))
        else (.ok (), inserted n nd.height (forced e er s))
      else (.ok (), forced e er s) := by
  rw [expertMakeStale_run hx hr]
  split
  · rfl
  · split
    · rename_i hc
      rw [rchInsert_run]
      have hn' : (forced e er s).nodes[n]? = some nd := hx.node
      rw [hn']
      simp only
      have hpre : ¬ ((forced e er s).cfg.debug = true ∧
          (!nd.inRch && (forced e er s).needsToBeComputed n) = false) := by
        intro ⟨_, h⟩
        have h1 : (forced e er s).isNecessary n = nd.isNecessary := by
          simp [forced, State.isNecessary, nodeD_of_some hx.node]
        simp only [State.needsToBeComputed, forced_isStale hx, h1] at h
        simp only [Bool.and_eq_true, Bool.not_eq_true'] at hc
        simp [hc.1, hc.2] at h
      rw [if_neg hpre]
      rfl
    · rfl

/-- `make_stale` leaves the node stale (whenever it returns) -/
theorem expertMakeStale_isStale {s s' : State} {n : Nat} {nd : Node} {e : Nat} {er : ExpertRec}
    (hx : IsExpert s n nd e er) (h : (expertMakeStale n).run.run s = (.ok (), s')) :
    s'.isStale n = true := by
  cases hr : runningOk s n
  · obtain ⟨p, hp⟩ := expertMakeStale_assert_fails hx hr
    rw [hp] at h; cases h
  rw [expertMakeStale_run' hx hr] at h
  split at h
  · rename_i hf; cases h; exact hx.isStale_of_forceStale hf
  · split at h
    · split at h
      · cases h
      · split at h
        · cases h
        · split at h
          · cases h
          · cases h
            have hx' : IsExpert (inserted n nd.height (forced e er s)) n
                { nd with heightInRch := nd.height } e { er with forceStale := true } := by
              refine ⟨?_, hx.valid, hx.kind, (forced_isExpert hx).xrec⟩
              have hn' : (forced e er s).nodes[n]? = some nd := hx.node
              simp [inserted, Array.getElem?_modify, hn']
            exact hx'.isStale_of_forceStale rfl
    · cases h; exact forced_isStale hx

/-! ## (d) firing all callbacks -/

/-- the callback of `edge` applied to an expert record; child values are read in state `s0` -/
def fireRec (env : Env) (s0 : State) (er : ExpertRec) (edge : ExpertEdge) : ExpertRec :=
  match edge.cb, s0.value env edge.child with
  | some _, some v => { er with slots := (edge.dep, v) :: er.slots.filter (·.1 != edge.dep) }
  | _, _ => er

/-- the event the callback of `edge` logs (none when there is no callback or no value) -/
def cbEvent (env : Env) (s0 : State) (node : Nat) (edge : ExpertEdge) : List Event :=
  match edge.cb, s0.value env edge.child with
  | some _, some v => [.inv "cb" node [v] s!"d{edge.dep}"]
  | _, _ => []

/-- all callbacks of `edges`, in order -/
def fireAll (env : Env) (e node : Nat) (edges : List ExpertEdge) (s : State) : State :=
  edges.foldl (fun s edge => fireEdge env e node edge s) s

/-- the events of firing `edges` in order, newest first, in front of `acc` -/
def cbEvents (env : Env) (s0 : State) (node : Nat) (edges : List ExpertEdge) (acc : List Event) :
    List Event :=
  edges.foldl (fun acc edge => cbEvent env s0 node edge ++ acc) acc

theorem logged_value (env : Env) (l : List Event) (s : State) (c : Nat) :
    (logged l s).value env c = s.value env c :=
  value_congr env s (logged l s) rfl (fun _ => rfl) c

theorem logged_logged (l1 l2 : List Event) (s : State) :
    logged l1 (logged l2 s) = logged (l1 ++ l2) s := by
  simp [logged, List.append_assoc]

theorem logged_putExpert (l : List Event) (e : Nat) (x : ExpertRec) (s : State) :
    logged l (putExpert e x s) = putExpert e x (logged l s) := rfl

theorem fireEdge_eq (env : Env) (e node : Nat) (edge : ExpertEdge) {s : State} {er : ExpertRec}
    (he : s.experts[e]? = some er) :
    fireEdge env e node edge s =
      putExpert e (fireRec env s er edge) (logged (cbEvent env s node edge) s) := by
  unfold fireEdge fireRec cbEvent
  cases edge.cb with
  | none => exact (putExpert_self he).symm
  | some c =>
    cases s.value env edge.child with
    | none => exact (putExpert_self he).symm
    | some v =>
      simp only [deliver, putExpert, logged]
      rw [modify_eq_set _ _ _ _ he]
      rfl

theorem fireAll_put (env : Env) (e node : Nat) (s : State) {er0 : ExpertRec}
    (he : s.experts[e]? = some er0) (edges : List ExpertEdge) :
    ∀ (r : ExpertRec) (l : List Event),
      fireAll env e node edges (putExpert e r (logged l s)) =
        putExpert e (edges.foldl (fireRec env s) r) (logged (cbEvents env s node edges l) s) := by
  induction edges with
  | nil => intro r l; rfl
  | cons a rest ih =>
    intro r l
    have he' : (putExpert e r (logged l s)).experts[e]? = some r := putExpert_get (s := logged l s) r he
    have hval : ∀ c, (putExpert e r (logged l s)).value env c = s.value env c := by
      intro c; rw [putExpert_value, logged_value]
    have h1 : fireRec env (putExpert e r (logged l s)) r a = fireRec env s r a := by
      unfold fireRec; rw [hval]
    have h2 : cbEvent env (putExpert e r (logged l s)) node a = cbEvent env s node a := by
      unfold cbEvent; rw [hval]
    show fireAll env e node rest (fireEdge env e node a (putExpert e r (logged l s))) = _
    rw [fireEdge_eq env e node a he', h1, h2]
    have h3 : logged (cbEvent env s node a) (putExpert e r (logged l s)) =
        putExpert e r (logged (cbEvent env s node a ++ l) s) := by
      rw [← logged_logged]; rfl
    rw [h3, putExpert_put, ih]
    rfl

theorem fireAll_eq (env : Env) (e node : Nat) (edges : List ExpertEdge) {s : State} {er : ExpertRec}
    (he : s.experts[e]? = some er) :
    fireAll env e node edges s =
      putExpert e (edges.foldl (fireRec env s) er) (logged (cbEvents env s node edges []) s) := by
  have h := fireAll_put env e node s he edges er []
  have h0 : putExpert e er (logged [] s) = s := by
    have : logged [] s = s := rfl
    rw [this, putExpert_self he]
  rw [h0] at h
  exact h

/-- the record after firing: only `slots` can differ -/
theorem foldl_fireRec_fields (env : Env) (s : State) (edges : List ExpertEdge) :
    ∀ r : ExpertRec, let r' := edges.foldl (fireRec env s) r
      r'.f = r.f ∧ r'.node = r.node ∧ r'.children = r.children ∧ r'.script = r.script ∧ r'.sel = r.sel ∧
      r'.pk = r.pk ∧ r'.forceStale = r.forceStale ∧ r'.numInvalidChildren = r.numInvalidChildren ∧
      r'.willFireAllCallbacks = r.willFireAllCallbacks := by
  induction edges with
  | nil => intro r; exact ⟨rfl, rfl, rfl, rfl, rfl, rfl, rfl, rfl, rfl⟩
  | cons a rest ih =>
    intro r
    have h := ih (fireRec env s r a)
    have h0 : (fireRec env s r a).f = r.f ∧ (fireRec env s r a).node = r.node ∧
        (fireRec env s r a).children = r.children ∧ (fireRec env s r a).script = r.script ∧
        (fireRec env s r a).sel = r.sel ∧ (fireRec env s r a).pk = r.pk ∧
        (fireRec env s r a).forceStale = r.forceStale ∧
        (fireRec env s r a).numInvalidChildren = r.numInvalidChildren ∧
        (fireRec env s r a).willFireAllCallbacks = r.willFireAllCallbacks := by
      unfold fireRec
      split <;> exact ⟨rfl, rfl, rfl, rfl, rfl, rfl, rfl, rfl, rfl⟩
    simp only [List.foldl_cons] at h ⊢
    obtain ⟨a1, a2, a3, a4, a5, a6, a7, a8, a9⟩ := h
    obtain ⟨b1, b2, b3, b4, b5, b6, b7, b8, b9⟩ := h0
    exact ⟨a1.trans b1, a2.trans b2, a3.trans b3, a4.trans b4, a5.trans b5, a6.trans b6,
      a7.trans b7, a8.trans b8, a9.trans b9⟩

theorem lookup_filter_ne (d d' : Nat) (l : List (Nat × Val)) (h : d ≠ d') :
    (l.filter (·.1 != d')).lookup d = l.lookup d := by
  induction l with
  | nil => rfl
  | cons a rest ih =>
    obtain ⟨k, v⟩ := a
    by_cases hk : k = d'
    · subst hk
      have : ((k, v) :: rest).filter (·.1 != k) = rest.filter (·.1 != k) := by simp
      rw [this, ih]
      have : (d == k) = false := by simpa using h
      simp [List.lookup, this]
    · have : ((k, v) :: rest).filter (·.1 != d') = (k, v) :: rest.filter (·.1 != d') := by simp [hk]
      rw [this]
      simp only [List.lookup]
      rw [ih]

/-- a callback for another dependency leaves the slot of `d` alone -/
theorem fireRec_lookup_other (env : Env) (s : State) (r : ExpertRec) (a : ExpertEdge) (d : Nat)
    (h : a.dep ≠ d) : (fireRec env s r a).slots.lookup d = r.slots.lookup d := by
  unfold fireRec
  split
  · have : (d == a.dep) = false := by simpa using (Ne.symm h)
    simp only [List.lookup, this]
    exact lookup_filter_ne d a.dep r.slots (Ne.symm h)
  · rfl

theorem foldl_fireRec_lookup_other (env : Env) (s : State) (edges : List ExpertEdge) (d : Nat)
    (h : ∀ x ∈ edges, x.dep ≠ d) :
    ∀ r : ExpertRec, (edges.foldl (fireRec env s) r).slots.lookup d = r.slots.lookup d := by
  induction edges with
  | nil => intro r; rfl
  | cons a rest ih =>
    intro r
    rw [List.foldl_cons, ih (fun x hx => h x (List.mem_cons_of_mem _ hx)),
      fireRec_lookup_other env s r a d (h a (List.mem_cons_self ..))]

/-- after firing all callbacks, the slot of every edge that has a callback and whose child has a value
holds that value (dependency names pairwise distinct) -/
theorem foldl_fireRec_lookup (env : Env) (s : State) (edges : List ExpertEdge)
    (hnd : (edges.map (·.dep)).Nodup) :
    ∀ (r : ExpertRec) (edge : ExpertEdge) (v : Val), edge ∈ edges → edge.cb.isSome = true →
      s.value env edge.child = some v →
      (edges.foldl (fireRec env s) r).slots.lookup edge.dep = some v := by
  induction edges with
  | nil => intro r edge v h; cases h
  | cons a rest ih =>
    intro r edge v hmem hcb hv
    rw [List.map_cons, List.nodup_cons] at hnd
    rw [List.foldl_cons]
    rcases List.mem_cons.1 hmem with rfl | hin
    · rw [foldl_fireRec_lookup_other env s rest edge.dep]
      · unfold fireRec
        obtain ⟨c, hc⟩ := Option.isSome_iff_exists.1 hcb
        rw [hc, hv]
        simp [List.lookup]
      · intro x hx hxe
        exact hnd.1 (List.mem_map.2 ⟨x, hx, hxe⟩)
    · exact ih hnd.2 _ edge v hin hcb hv

/-- an edge without callback, or whose child has no value, does not touch any slot; in particular
the slot of a dependency none of whose edges fires is unchanged -/
theorem fireRec_noop (env : Env) (s : State) (r : ExpertRec) (a : ExpertEdge)
    (h : a.cb = none ∨ s.value env a.child = none) : fireRec env s r a = r := by
  unfold fireRec
  rcases h with h | h
  · rw [h]
  · rw [h]; cases a.cb <;> rfl

/-- the `for edge in children do edge.on_change()` loop of `before_main_computation` -/
theorem fireLoop_run (env : Env) (e : Nat) (edges : List ExpertEdge) :
    ∀ (s : State) (er : ExpertRec), s.experts[e]? = some er → er.pk = none → s.panicCountdown = none →
      (forIn edges PUnit.unit (fun edge (_ : PUnit) => do
          edgeOnChange env e edge
          pure (ForInStep.yield PUnit.unit) : ExpertEdge → PUnit → M (ForInStep PUnit))).run.run s =
        (.ok PUnit.unit, fireAll env e er.node edges s) := by
  induction edges with
  | nil => intro s er _ _ _; rfl
  | cons a rest ih =>
    intro s er he hpk hp
    rw [List.forIn_cons, bind_assoc, run_bind_ok (edgeOnChange_run env a he hpk hp), pure_bind]
    have he' : (fireEdge env e er.node a s).experts[e]? = some (fireRec env s er a) := by
      rw [fireEdge_eq env e er.node a he]; exact putExpert_get (s := logged _ s) _ he
    have hnode : (fireRec env s er a).node = er.node := by
      unfold fireRec; split <;> rfl
    have hpk' : (fireRec env s er a).pk = none := by
      unfold fireRec; split <;> exact hpk
    have hp' : (fireEdge env e er.node a s).panicCountdown = none := by
      rw [fireEdge_eq env e er.node a he]; exact hp
    have := ih _ _ he' hpk' hp'
    rw [hnode] at this
    exact this

/-! ## (d) the `.expert` branch of `recomputeOne` -/

/-- what the recompute closure of a user-defined expert is applied to, in state `s` for record `er`:
the current values of the dependencies (in edge order) and, for edges with a callback, the slots -/
def depValsOf (env : Env) (s : State) (er : ExpertRec) : List (Option Val) :=
  er.children.map fun edge => s.value env edge.child

def slotValsOf (er : ExpertRec) : List (Option Val) :=
  er.children.map fun edge =>
    match edge.cb with
    | some _ => er.slots.lookup edge.dep
    | none => none

def expertResult (env : Env) (s : State) (er : ExpertRec) : Val :=
  env.expertFn er.f (depValsOf env s er) (slotValsOf er)

theorem expertValue_run (env : Env) {e : Nat} {s : State} {er : ExpertRec} (d sl : List (Option Val))
    (he : s.experts[e]? = some er) (hpk : er.pk = none) :
    (expertValue env e d sl).run.run s = (.ok (env.expertFn er.f d sl), s) := by
  unfold expertValue
  rw [run_bind_ok (run_getExpert_some he), run_bind_get, hpk]
  rfl

/-- `before_main_computation` done: flags reset -/
def resetRec (er : ExpertRec) : ExpertRec := { er with forceStale := false, willFireAllCallbacks := false }

/-- the expert record when the recompute closure runs -/
def readyRec (env : Env) (s : State) (er : ExpertRec) : ExpertRec :=
  if er.willFireAllCallbacks = true then er.children.foldl (fireRec env s) (resetRec er) else resetRec er

/-- the state in which the recompute closure runs -/
def readyState (env : Env) (n e : Nat) (s : State) (er : ExpertRec) : State :=
  putExpert e (readyRec env s er)
    (logged (if er.willFireAllCallbacks = true then cbEvents env s er.node er.children [] else [])
      (started n s))

theorem started_experts (n : Nat) (s : State) : (started n s).experts = s.experts := rfl
theorem started_pc (n : Nat) (s : State) : (started n s).panicCountdown = s.panicCountdown := rfl

theorem fireRec_congr (env : Env) (s s' : State) (h : ∀ c, s'.value env c = s.value env c) :
    fireRec env s' = fireRec env s := by
  funext r a; unfold fireRec; rw [h]

theorem cbEvents_congr (env : Env) (s s' : State) (h : ∀ c, s'.value env c = s.value env c)
    (node : Nat) (edges : List ExpertEdge) (acc : List Event) :
    cbEvents env s' node edges acc = cbEvents env s node edges acc := by
  unfold cbEvents
  have : (fun acc edge => cbEvent env s' node edge ++ acc) = (fun acc edge => cbEvent env s node edge ++ acc) := by
    funext acc a; unfold cbEvent; rw [h]
  rw [this]

/-- an expert with invalid children invalidates itself instead of recomputing -/
theorem recomputeOne_expert_invalid_run (env : Env) (fuel n : Nat) {s : State} {nd : Node} {e : Nat}
    {er : ExpertRec} (hx : IsExpert s n nd e er) (hinv : er.numInvalidChildren > 0) :
    (recomputeOne env fuel n).run.run s =
      (do invalidateNode fuel n; propagateInvalidity fuel; pure none : M (Option Nat)).run.run
        (started n s) := by
  have hk? : ({ nd with recomputedAt := s.stabNum } : Node).kind? = some (.expert e) := by
    simp [Node.kind?, hx.valid, hx.kind]
  have hn' := started_getElem? n s nd hx.node
  unfold recomputeOne
  simp only [run_bind_get]
  cases hd : s.cfg.debug
  all_goals
    simp only [started, hd, Bool.false_eq_true, if_false, if_true, run_bind_modify,
      run_bind_bumpCounter, run_bind_get, run_bind_modNode] at hn' ⊢
    rw [run_bind_ok (run_getNode_some hn'), hk?]
    dsimp only
    rwx run_bind_getExpert er with hx.xrec
    rw [if_pos hinv]

/-- master equation of the expert branch (user-defined expert, no invalid children, no fault armed) -/
theorem recomputeOne_expert_run (env : Env) (fuel n : Nat) {s : State} {nd : Node} {e : Nat}
    {er : ExpertRec} (hx : IsExpert s n nd e er) (hpk : er.pk = none)
    (hp : s.panicCountdown = none) (hinv : ¬ er.numInvalidChildren > 0) :
    (recomputeOne env fuel n).run.run s =
      (maybeChangeValue env fuel n (expertResult env s (readyRec env s er))).run.run
        (logged [.inv s!"x{er.f}" n [] (expertResult env s (readyRec env s er)).render]
          (readyState env n e s er)) := by
  have hk? : ({ nd with recomputedAt := s.stabNum } : Node).kind? = some (.expert e) := by
    simp [Node.kind?, hx.valid, hx.kind]
  have hn' := started_getElem? n s nd hx.node
  have he0 : (started n s).experts[e]? = some er := hx.xrec
  have hp0 : (started n s).panicCountdown = none := hp
  have he1 : (putExpert e (resetRec er) (started n s)).experts[e]? = some (resetRec er) :=
    putExpert_get _ he0
  have hval1 : ∀ c, (putExpert e (resetRec er) (started n s)).value env c = s.value env c := by
    intro c; rw [putExpert_value, started_value]
  have hvalS : ∀ (l : List Event) (x : ExpertRec) (c : Nat),
      (putExpert e x (logged l (started n s))).value env c = s.value env c := by
    intro l x c; rw [putExpert_value, logged_value, started_value]
  have hput : ∀ (l : List Event) (x : ExpertRec),
      (putExpert e x (logged l (started n s))).experts[e]? = some x := by
    intro l x; exact putExpert_get (s := logged l (started n s)) x hx.xrec
  -- the tail: reading the record, the closure, the log line
  have tail : ∀ (d : ExpertRec → State → List (Option Val)) (g : ExpertRec → List (Option Val))
      (S : State) (r : ExpertRec), S.experts[e]? = some r → r.pk = none →
      S.panicCountdown = none →
      (do
        let er ← getExpert e
        let s ← get
        if er.pk.isNone = true then do
            tick
            let v ← expertValue env e (d er s) (g er)
            if er.pk.isNone = true then do
                logEv (Event.inv (toString "x" ++ toString er.f) n [] v.render)
                maybeChangeValue env fuel n v
              else maybeChangeValue env fuel n v
          else do
            let v ← expertValue env e (d er s) (g er)
            if er.pk.isNone = true then do
                logEv (Event.inv (toString "x" ++ toString er.f) n [] v.render)
                maybeChangeValue env fuel n v
              else maybeChangeValue env fuel n v : M (Option Nat)).run.run S =
        (maybeChangeValue env fuel n (env.expertFn r.f (d r S) (g r))).run.run
          (logged [.inv s!"x{r.f}" n [] (env.expertFn r.f (d r S) (g r)).render] S) := by
    intro d g S r hr hrpk hS
    have h1 : r.pk.isNone = true := by rw [hrpk]; rfl
    rw [run_bind_ok (run_getExpert_some hr), run_bind_get]
    simp only [h1, if_true]
    rw [run_bind_ok (run_tick_none S hS), run_bind_ok (expertValue_run env _ _ hr hrpk), run_bind_logEv]
    rfl
  unfold recomputeOne
  simp only [run_bind_get]
  cases hd : s.cfg.debug
  all_goals
    simp only [started, hd, Bool.false_eq_true, if_false, if_true, run_bind_modify,
      run_bind_bumpCounter, run_bind_get, run_bind_modNode, resetRec] at hn' he0 he1 hp0 hval1 hvalS hput tail ⊢
    rw [run_bind_ok (run_getNode_some hn'), hk?]
    dsimp only
    rwx run_bind_getExpert er with hx.xrec
    rw [if_neg hinv]
    rwx run_bind_getExpert er with hx.xrec
    rwx run_bind_modExpert er with hx.xrec
    cases hw : er.willFireAllCallbacks
    · simp only [Bool.false_eq_true, if_false]
      rw [tail _ _ _ (resetRec er)]
      rotate_left
      · exact he1
      · exact hpk
      · exact hp
      simp only [hval1, readyRec, readyState, hw, Bool.false_eq_true, if_false, started, hd, resetRec,
        expertResult, depValsOf]
      rfl
    · simp only [if_true]
      rw [run_bind_ok (run_getExpert_some he1), run_bind_ok (fireLoop_run env e _ _ _ he1 hpk hp0)]
      have hfa := fireAll_eq env e er.node er.children he1
      rw [hfa, logged_putExpert, putExpert_put]
      rw [fireRec_congr env s _ hval1, cbEvents_congr env s _ hval1]
      have hf := foldl_fireRec_fields env s er.children (resetRec er)
      rw [tail _ _ _ (er.children.foldl (fireRec env s) (resetRec er))]
      rotate_left
      · exact hput _ _
      · exact hf.2.2.2.2.2.1.trans hpk
      · exact hp
      have hf1 := hf.1
      simp only [resetRec] at hf1
      simp only [hvalS, readyRec, readyState, hw, if_true, started, hd, resetRec,
        expertResult, depValsOf, hf1]
      rfl

/-! ## `swap_remove` on lists -/

/-- `Vec::swap_remove(i)` written with `set`/`dropLast`: move the last element into position `i`, pop -/
def swapPop {α} [Inhabited α] (l : List α) (i : Nat) : List α :=
  (l.set i (l[l.length - 1]?.getD default)).dropLast

theorem swapPop_length {α} [Inhabited α] (l : List α) (i : Nat) : (swapPop l i).length = l.length - 1 := by
  simp [swapPop]

theorem set_perm_cons_eraseIdx {α} (l : List α) (i : Nat) (y : α) (hi : i < l.length) :
    (l.set i y).Perm (y :: l.eraseIdx i) := by
  induction l generalizing i with
  | nil => cases hi
  | cons a rest ih =>
    cases i with
    | zero => simp
    | succ k =>
      simp only [List.set_cons_succ, List.eraseIdx_cons_succ]
      exact ((ih k (by simpa using hi)).cons a).trans (List.Perm.swap y a _)

/-- as a multiset, `swap_remove(i)` removes exactly the element at position `i` -/
theorem swapPop_perm {α} [Inhabited α] (l : List α) (i : Nat) (hi : i < l.length) :
    (swapPop l i).Perm (l.eraseIdx i) := by
  rcases List.eq_nil_or_concat l with rfl | ⟨front, lst, h⟩
  · cases hi
  rw [List.concat_eq_append] at h
  subst h
  · have hlen : (front ++ [lst]).length - 1 = front.length := by simp
    have hlast : (front ++ [lst])[(front ++ [lst]).length - 1]?.getD default = lst := by
      rw [hlen]; simp
    unfold swapPop
    rw [hlast]
    by_cases hif : i < front.length
    · rw [List.set_append_left _ _ hif, List.dropLast_concat, List.eraseIdx_append_of_lt_length hif]
      exact (set_perm_cons_eraseIdx front i lst hif).trans (List.perm_append_singleton lst _).symm
    · have : i = front.length := by simp at hi; omega
      subst this
      rw [List.set_append_right _ _ (Nat.le_refl _), List.eraseIdx_append_of_length_le (Nat.le_refl _)]
      simp

theorem swapPop_getElem? {α} [Inhabited α] (l : List α) (i j : Nat) :
    (swapPop l i)[j]? =
      if j + 1 < l.length then (if j = i then some (l[l.length - 1]?.getD default) else l[j]?) else none := by
  unfold swapPop
  rw [List.getElem?_dropLast]
  simp only [List.length_set, List.getElem?_set]
  by_cases h1 : j + 1 < l.length
  · have h2 : j < l.length - 1 := by omega
    simp only [h1, h2, if_true]
    by_cases h3 : i = j
    · subst h3; simp [show i < l.length by omega]
    · simp [h3, Ne.symm h3]
  · have h2 : ¬ j < l.length - 1 := by omega
    simp [h1, h2]

/-- the model's `swapRemove` (`Vec::swap_remove`) is `swapPop` -/
theorem swapRemove_eq_swapPop {α} [Inhabited α] (l : List α) (i : Nat) (hi : i < l.length) :
    swapRemove l i = swapPop l i := by
  rcases List.eq_nil_or_concat l with rfl | ⟨front, lst, h⟩
  · cases hi
  rw [List.concat_eq_append] at h
  subst h
  · have hlen : (front ++ [lst]).length - 1 = front.length := by simp
    have hlast : (front ++ [lst])[(front ++ [lst]).length - 1]?.getD default = lst := by
      rw [hlen]; simp
    unfold swapRemove swapPop
    rw [hlast]
    simp only [List.getLast?_append, List.getLast?_singleton, Option.some_or]
    by_cases h : i + 1 = (front ++ [lst]).length
    · have : i = front.length := by simp at h; omega
      subst this
      simp
    · have hne : i ≠ front.length := by simp at h; omega
      simp [h, hne]

/-! ## (a) `expertRemoveDependency` on a node that is not necessary -/

theorem dropLast_set_last {α} (l : List α) (x : α) : (l.set (l.length - 1) x).dropLast = l.dropLast := by
  rw [List.dropLast_eq_take, List.dropLast_eq_take, List.length_set, List.take_set_of_le (Nat.le_refl _)]

theorem dropLast_set_set {α} (l : List α) (i : Nat) (x y : α) :
    ((l.set i x).set (l.length - 1) y).dropLast = (l.set i x).dropLast := by
  have := dropLast_set_last (l.set i x) y
  rwa [List.length_set] at this

theorem run_dassert_true (site : String) (s : State) : (dassert true site).run.run s = (.ok (), s) := by
  rw [run_dassert]; simp

/-- the last edge of the list (the one `swap_remove` moves into the hole) -/
def lastEdge (er : ExpertRec) : ExpertEdge := er.children[er.children.length - 1]?.getD default

/-- the record after `remove_dependency` of the edge at position `i` (dependency `dep`) -/
def removedRec (er : ExpertRec) (i dep : Nat) : ExpertRec :=
  { er with children := swapPop er.children i, forceStale := true,
            slots := er.slots.filter (·.1 != dep) }

theorem expertRemoveDependency_unnecessary (fuel n dep : Nat) {s : State} {nd : Node} {e : Nat} {er : ExpertRec}
    (hx : IsExpert s n nd e er) (hr : runningOk s n = true) {i : Nat}
    (hi : er.children.findIdx? (·.dep == dep) = some i) (hnec : nd.isNecessary = false) :
    (expertRemoveDependency fuel n dep).run.run s = (.ok (), putExpert e (removedRec er i dep) s) := by
  have hnec' : ∀ x, (putExpert e x s).isNecessary n = false := by
    intro x; simp [State.isNecessary, nodeD_of_some hx.node, hnec]
  have hnec0 : s.isNecessary n = false := by
    simp [State.isNecessary, nodeD_of_some hx.node, hnec]
  unfold expertRemoveDependency
  rw [run_bind_ok hx.run_expertOf]
  simp only
  rw [run_bind_ok (run_assertRunningIsChild_ok hr), run_bind_ok (run_getExpert_some hx.xrec), hi]
  simp only
  by_cases hne : (i != er.children.length - 1) = true
  · rw [if_pos hne, run_bind_get, hnec0]
    simp only [Bool.false_eq_true, if_false]
    rw [run_bind_ok (run_modExpert_some _ hx.xrec),
      run_bind_ok (run_modExpert_some _ (putExpert_get _ hx.xrec)), putExpert_put, run_bind_get,
      (hx.putExpert _).isStale_of_forceStale rfl, run_bind_ok (run_dassert_true _ _), run_bind_get, hnec']
    simp only [Bool.false_eq_true, if_false]
    rw [run_modExpert_some _ (putExpert_get _ hx.xrec), putExpert_put]
    simp only [removedRec, swapPop]
    rw [dropLast_set_set]
  · rw [if_neg hne]
    rw [run_bind_ok (run_modExpert_some _ hx.xrec), run_bind_get,
      (hx.putExpert _).isStale_of_forceStale rfl, run_bind_ok (run_dassert_true _ _), run_bind_get, hnec']
    simp only [Bool.false_eq_true, if_false]
    rw [run_modExpert_some _ (putExpert_get _ hx.xrec), putExpert_put]
    have hil : i = er.children.length - 1 := by simpa using hne
    simp only [removedRec, swapPop]
    rw [hil, dropLast_set_last]

/-! ## a frame for the notification part of a step: expert records only change in their slots -/

/-- `s'` agrees with `s` on the projection `g` -/
def Keeps {β} (g : State → β) (s s' : State) : Prop := g s' = g s

instance {β} (g : State → β) : PreOrd (Keeps g) := ⟨fun _ => rfl, fun h1 h2 => h2.trans h1⟩

def stripSlots (x : ExpertRec) : ExpertRec := { x with slots := [] }

/-- all expert records, slots erased -/
def xcore (s : State) : Array ExpertRec := s.experts.map stripSlots

theorem map_modify_of_fix {α β} (a : Array α) (i : Nat) (f : α → α) (g : α → β)
    (h : ∀ x, g (f x) = g x) : (a.modify i f).map g = a.map g := by
  apply Array.ext_getElem?
  intro j
  simp only [Array.getElem?_map, Array.getElem?_modify]
  split
  · cases a[j]? <;> simp [h]
  · rfl

/-- `xcore` changes only when an expert record is written elsewhere than in its slots, or pushed -/
theorem xcore.of_edit {L w}
    (hL : ∀ t ∈ L, t ∉ [Footprint.Tag.xObservability, .xInvalidChildren, .xForceStale, .xAddChild, .xChildren, .xDropChild, .xNode,
      .xScript, .xSel, .xRan, .pushExpert])
    {s s' : State} (e : Footprint.Edit L w s s') : xcore s' = xcore s := by
  cases e
  case expert hf =>
    cases hf
    case slots g _ => exact map_modify_of_fix s.experts _ (fun x => { x with slots := g x }) stripSlots fun _ => rfl
    all_goals exact (hL _ ‹_› (by decide)).elim
  case pushExpert ht => exact (hL _ ht (by decide)).elim
  all_goals rfl

theorem K.shouldCutoff (env n o v) : Pres (Keeps xcore) (shouldCutoff env n o v) :=
  (Footprint.Foot.shouldCutoff env n o v).frame (xcore.of_edit (by decide))
theorem K.handleAfterStabilisation (n) : Pres (Keeps xcore) (handleAfterStabilisation n) :=
  (Footprint.Foot.handleAfterStabilisation n).frame (xcore.of_edit (by decide))
theorem K.parentIterCanRecomputeNow (p child) : Pres (Keeps xcore) (parentIterCanRecomputeNow p child) :=
  (Footprint.Foot.parentIterCanRecomputeNow p child).frame (xcore.of_edit (by decide))

theorem K.childChanged (env : Env) (fuel p child ci : Nat) (o : Option Val) :
    Pres (Keeps xcore) (childChanged env fuel p child ci o) :=
  (Footprint.Foot.childChanged env fuel p child ci o).frame (xcore.of_edit (by decide))

theorem K.maybeChangeValue (env fuel n v) : Pres (Keeps xcore) (maybeChangeValue env fuel n v) :=
  (Footprint.Foot.maybeChangeValue env fuel n v).lift (xcore.of_edit (by decide))

/-- reading a record through `xcore` -/
theorem xcore_get {s s' : State} (h : Keeps xcore s s') (e : Nat) :
    (s'.experts[e]?).map stripSlots = (s.experts[e]?).map stripSlots := by
  have := congrArg (fun a => a[e]?) h
  simpa [xcore, Array.getElem?_map] using this

/-- the dependency is not attached: hard panic, nothing changed -/
theorem expertRemoveDependency_not_attached (fuel n dep : Nat) {s : State} {nd : Node} {e : Nat}
    {er : ExpertRec} (hx : IsExpert s n nd e er) (hr : runningOk s n = true)
    (hi : er.children.findIdx? (·.dep == dep) = none) :
    (expertRemoveDependency fuel n dep).run.run s =
      (.error (.site "expert:remove_dependency:edge-not-attached"), s) := by
  unfold expertRemoveDependency
  rw [run_bind_ok hx.run_expertOf]
  simp only
  rw [run_bind_ok (run_assertRunningIsChild_ok hr), run_bind_ok (run_getExpert_some hx.xrec), hi]
  rfl

/-- debug build, not called from a child's recompute: panic, nothing changed -/
theorem expertRemoveDependency_assert_fails (fuel n dep : Nat) {s : State} {nd : Node} {e : Nat}
    {er : ExpertRec} (hx : IsExpert s n nd e er) (hr : runningOk s n = false) :
    ∃ p, (expertRemoveDependency fuel n dep).run.run s = (.error p, s) := by
  obtain ⟨p, hp⟩ := run_assertRunningIsChild_fail (name := "remove_dependency") hr
  refine ⟨p, ?_⟩
  unfold expertRemoveDependency
  rw [run_bind_ok hx.run_expertOf]
  simp only
  rw [run_bind, hp]

/-- on an invalid node or a non-expert `remove_dependency` does nothing -/
theorem expertRemoveDependency_invalid (fuel n dep : Nat) {s : State} {nd : Node}
    (hn : s.nodes[n]? = some nd) (hv : nd.valid = false) :
    (expertRemoveDependency fuel n dep).run.run s = (.ok (), s) := by
  unfold expertRemoveDependency
  rw [run_bind_ok (Xp.run_expertOf hn)]
  simp only [Node.kind?, hv, Bool.false_eq_true, if_false]
  rfl

/-! ## consequences for `removedRec` -/

/-- what `findIdx?` returns: the first edge named `dep` -/
theorem findIdx_facts (l : List ExpertEdge) (dep i : Nat)
    (h : l.findIdx? (·.dep == dep) = some i) :
    i < l.length ∧ (∃ edge, l[i]? = some edge ∧ edge.dep = dep) ∧
      ∀ j x, j < i → l[j]? = some x → x.dep ≠ dep := by
  rw [List.findIdx?_eq_some_iff_getElem] at h
  obtain ⟨hlt, hp, hbefore⟩ := h
  refine ⟨hlt, ⟨l[i], by simp [hlt], by simpa using hp⟩, ?_⟩
  intro j x hj hx
  have hjl : j < l.length := by omega
  have := hbefore j hj
  rw [List.getElem?_eq_getElem hjl] at hx
  cases hx
  simpa using this

/-- the dependency is attached iff `findIdx?` finds it -/
theorem findIdx_some_of_mem (l : List ExpertEdge) (dep : Nat) (h : ∃ x ∈ l, x.dep = dep) :
    ∃ i, l.findIdx? (·.dep == dep) = some i := by
  obtain ⟨x, hx, hd⟩ := h
  cases hf : l.findIdx? (·.dep == dep) with
  | some i => exact ⟨i, rfl⟩
  | none =>
    rw [List.findIdx?_eq_none_iff] at hf
    have := hf x hx
    simp [hd] at this

theorem removedRec_slots (er : ExpertRec) (i dep : Nat) :
    ∀ p ∈ (removedRec er i dep).slots, p.1 ≠ dep := by
  intro p hp
  simp only [removedRec, List.mem_filter] at hp
  simpa using hp.2

theorem removedRec_length (er : ExpertRec) (i dep : Nat) :
    (removedRec er i dep).children.length = er.children.length - 1 := swapPop_length _ _

theorem removedRec_perm (er : ExpertRec) (i dep : Nat) (hi : i < er.children.length) :
    (removedRec er i dep).children.Perm (er.children.eraseIdx i) := swapPop_perm _ _ hi

/-- with pairwise distinct dependency names, no remaining edge is named `dep` -/
theorem removedRec_no_dep (er : ExpertRec) (i dep : Nat)
    (hi : er.children.findIdx? (·.dep == dep) = some i)
    (hnd : (er.children.map (·.dep)).Nodup) :
    ∀ x ∈ (removedRec er i dep).children, x.dep ≠ dep := by
  obtain ⟨hlt, ⟨edge, hedge, hdep⟩, _⟩ := findIdx_facts _ _ _ hi
  intro x hx
  have hx' := (removedRec_perm er i dep hlt).mem_iff.1 hx
  rw [List.mem_eraseIdx_iff_getElem?] at hx'
  obtain ⟨j, hji, hj⟩ := hx'
  intro hxd
  have hjl : j < er.children.length := by
    rcases Nat.lt_or_ge j er.children.length with h | h
    · exact h
    · rw [List.getElem?_eq_none h] at hj; cases hj
  have h1 : (er.children.map (·.dep))[j]? = some dep := by simp [hj, hxd]
  have h2 : (er.children.map (·.dep))[i]? = some dep := by simp [hedge, hdep]
  have := (List.getElem?_inj (by simpa using hjl) hnd).1 (h1.trans h2.symm)
  exact hji this

/-! ## consequences of the master equation of the expert branch -/

theorem readyRec_fields (env : Env) (s : State) (er : ExpertRec) :
    let r := readyRec env s er
    r.f = er.f ∧ r.node = er.node ∧ r.children = er.children ∧ r.script = er.script ∧ r.sel = er.sel ∧
    r.pk = er.pk ∧ r.forceStale = false ∧ r.numInvalidChildren = er.numInvalidChildren ∧
    r.willFireAllCallbacks = false := by
  unfold readyRec
  split
  · exact foldl_fireRec_fields env s er.children (resetRec er)
  · exact ⟨rfl, rfl, rfl, rfl, rfl, rfl, rfl, rfl, rfl⟩

/-- "on the first recompute after the node became observed again, every dependency's callback has
been invoked with the child's current value" -/
theorem readyRec_slots (env : Env) (s : State) (er : ExpertRec) (hw : er.willFireAllCallbacks = true)
    (hnd : (er.children.map (·.dep)).Nodup) (edge : ExpertEdge) (v : Val)
    (hmem : edge ∈ er.children) (hcb : edge.cb.isSome = true) (hv : s.value env edge.child = some v) :
    (readyRec env s er).slots.lookup edge.dep = some v := by
  unfold readyRec
  rw [if_pos hw]
  exact foldl_fireRec_lookup env s er.children hnd _ edge v hmem hcb hv

/-- no "fire all" pending: the recompute closure sees the slots as they were -/
theorem readyRec_slots_unchanged (env : Env) (s : State) (er : ExpertRec)
    (hw : er.willFireAllCallbacks = false) : (readyRec env s er).slots = er.slots := by
  unfold readyRec
  simp [hw, resetRec]

/-- whatever `recompute_one` on a (user-defined, no invalid children) expert does afterwards, the
record of the expert ends up with `forceStale = false`, `willFireAllCallbacks = false`, the same edge
list and the same invalid-children count -/
theorem recomputeOne_expert_flags (env : Env) (fuel n : Nat) {s : State} {nd : Node} {e : Nat}
    {er : ExpertRec} (hx : IsExpert s n nd e er) (hpk : er.pk = none)
    (hp : s.panicCountdown = none) (hinv : ¬ er.numInvalidChildren > 0)
    (r : Except Panic (Option Nat)) (s' : State)
    (h : (recomputeOne env fuel n).run.run s = (r, s')) :
    ∃ er', s'.experts[e]? = some er' ∧ er'.forceStale = false ∧ er'.willFireAllCallbacks = false ∧
      er'.children = er.children ∧ er'.numInvalidChildren = er.numInvalidChildren ∧ er'.f = er.f := by
  rw [recomputeOne_expert_run env fuel n hx hpk hp hinv] at h
  have hk := (K.maybeChangeValue env fuel n _).h _ _ _ h
  have hg := xcore_get hk e
  have he : (logged [.inv s!"x{er.f}" n [] (expertResult env s (readyRec env s er)).render]
      (readyState env n e s er)).experts[e]? = some (readyRec env s er) := by
    exact putExpert_get (s := logged _ (started n s)) _ hx.xrec
  rw [he] at hg
  cases hs' : s'.experts[e]? with
  | none => rw [hs'] at hg; cases hg
  | some er' =>
    rw [hs'] at hg
    simp only [Option.map_some, Option.some.injEq] at hg
    obtain ⟨f1, _, f3, _, _, _, f7, f8, f9⟩ := readyRec_fields env s er
    have g : ∀ {α} (p : ExpertRec → α), (∀ x, p (stripSlots x) = p x) → p er' = p (readyRec env s er) := by
      intro α p hpx
      rw [← hpx er', hg, hpx]
    refine ⟨er', rfl, ?_, ?_, ?_, ?_, ?_⟩
    · rw [g (·.forceStale) (fun _ => rfl)]; exact f7
    · rw [g (·.willFireAllCallbacks) (fun _ => rfl)]; exact f9
    · rw [g (·.children) (fun _ => rfl)]; exact f3
    · rw [g (·.numInvalidChildren) (fun _ => rfl)]; exact f8
    · rw [g (·.f) (fun _ => rfl)]; exact f1

/-! ## (a) `expertRemoveDependency` on a necessary node -/

/-- the simultaneous renaming `(n,i) ↔ (n,j)` of parent-list entries -/
def renameIdx (n i j : Nat) (pc : Nat × Nat) : Nat × Nat :=
  if pc == (n, i) then (n, j) else if pc == (n, j) then (n, i) else pc

def renameNode (n i j : Nat) (x : Node) : Node := { x with parents := x.parents.map (renameIdx n i j) }

/-- the node array after `swapEdgeIndices n c1 i c2 j`: the renaming is applied to `c1`'s list and, if
it is a different node, to `c2`'s list — once each (repaired D8: also once when `c1 = c2`) -/
def renameAt (n i j c : Nat) (s : State) : State :=
  { s with nodes := s.nodes.modify c (renameNode n i j) }

def swappedIdx (n c1 i c2 j : Nat) (s : State) : State :=
  if c2 != c1 then renameAt n i j c2 (renameAt n i j c1 s) else renameAt n i j c1 s

theorem renameAt_nodeD (n i j c : Nat) (s : State) (m : Nat) :
    (renameAt n i j c s).nodeD m =
      if c = m ∧ m < s.nodes.size then renameNode n i j (s.nodeD m) else s.nodeD m :=
  nodeD_modify s c m _

theorem swapEdgeIndices_run (n c1 i c2 j : Nat) (s : State) :
    (swapEdgeIndices n c1 i c2 j).run.run s = (.ok (), swappedIdx n c1 i c2 j s) := by
  unfold swapEdgeIndices swappedIdx
  simp only [run_bind_modNode]
  cases h : (c2 != c1)
  · simp only [Bool.false_eq_true, if_false]; rfl
  · simp only [if_true]; rfl

theorem removeParent_run {child index parent : Nat} {s : State} {cnd : Node}
    (hn : s.nodes[child]? = some cnd) :
    (removeParent child index parent).run.run s =
      match cnd.parents.idxOf? (parent, index) with
      | none => (.error (.site "node:remove_parent:not-a-parent"), s)
      | some pi => (.ok (), { s with nodes := s.nodes.modify child fun x =>
          { x with parents := swapRemove x.parents pi } }) := by
  unfold removeParent
  rw [run_bind_ok (run_getNode_some hn)]
  cases cnd.parents.idxOf? (parent, index) <;> rfl

theorem checkIfUnnecessary_noop (fuel c : Nat) (s : State) (h : s.isNecessary c = true) :
    (checkIfUnnecessary (fuel + 1) c).run.run s = (.ok (), s) := by
  unfold checkIfUnnecessary
  rw [run_bind_get]
  simp only [h, Bool.not_true, Bool.false_eq_true, if_false]
  rfl

/-- the tail of `expert_remove_dependency` on a necessary node, after the `check_if_unnecessary` call -/
def rmFinish (n e child dep : Nat) : M Unit := do
  if !(← getNode n).inRch then rchInsert n
  if !(← getNode child).valid then
    modExpert e fun x => { x with numInvalidChildren := x.numInvalidChildren - 1 }
  modExpert e fun x => { x with children := x.children.dropLast, forceStale := true,
                                slots := x.slots.filter (·.1 != dep) }

/-- both swapped positions exchanged (the removed edge is now last) -/
def swapToEnd (l : List ExpertEdge) (i : Nat) : List ExpertEdge :=
  (l.set i (l[l.length - 1]?.getD default)).set (l.length - 1) (l[i]?.getD default)

theorem swapToEnd_last (l : List ExpertEdge) (i : Nat) (hi : i < l.length) (h : i = l.length - 1) :
    swapToEnd l i = l := by
  unfold swapToEnd
  subst h
  rw [List.set_set]
  apply List.ext_getElem?
  intro j
  rw [List.getElem?_set]
  split
  · rename_i hj; subst hj; simp [hi]
  · rfl

theorem swapToEnd_dropLast (l : List ExpertEdge) (i : Nat) : (swapToEnd l i).dropLast = swapPop l i :=
  dropLast_set_set l i _ _

/-- the state in which `remove_parent` runs: indices renamed (if the edge is not last), the removed
edge moved to the end of the list, `forceStale` set -/
def rmPrepared (n e : Nat) (er : ExpertRec) (i : Nat) (s : State) : State :=
  putExpert e { er with children := swapToEnd er.children i, forceStale := true }
    (if (i != er.children.length - 1) = true then
      swappedIdx n (er.children[i]?.getD default).child i
        (er.children[er.children.length - 1]?.getD default).child (er.children.length - 1) s
     else s)

theorem renameNode_isNecessary (n i j : Nat) (x : Node) : (renameNode n i j x).isNecessary = x.isNecessary := by
  simp [renameNode, Node.isNecessary]

theorem swappedIdx_nodeD (n c1 i c2 j : Nat) (s : State) (m : Nat) :
    (swappedIdx n c1 i c2 j s).nodeD m =
      if (m = c1 ∨ m = c2) ∧ m < s.nodes.size then renameNode n i j (s.nodeD m) else s.nodeD m := by
  unfold swappedIdx
  have hsz : (renameAt n i j c1 s).nodes.size = s.nodes.size := by simp [renameAt]
  by_cases h : (c2 != c1) = true
  · have hne : c2 ≠ c1 := by simpa using h
    simp only [h, if_true]
    rw [renameAt_nodeD, renameAt_nodeD, hsz]
    by_cases hm2 : c2 = m
    · subst hm2
      have : ¬ (c1 = c2) := fun h => hne h.symm
      simp [this]
    · by_cases hm1 : c1 = m
      · subst hm1; simp [hm2]
      · simp [hm1, hm2, Ne.symm hm1, Ne.symm hm2]
  · have he : c2 = c1 := by simpa using h
    have h' : (c2 != c1) = false := by simpa using h
    simp only [h', Bool.false_eq_true, if_false]
    rw [renameAt_nodeD]
    subst he
    by_cases hm : c2 = m
    · subst hm; simp
    · simp [hm, Ne.symm hm]

theorem swappedIdx_size (n c1 i c2 j : Nat) (s : State) :
    (swappedIdx n c1 i c2 j s).nodes.size = s.nodes.size := by
  unfold swappedIdx; split <;> simp [renameAt]

theorem swappedIdx_isNecessary (n c1 i c2 j : Nat) (s : State) (m : Nat) :
    (swappedIdx n c1 i c2 j s).isNecessary m = s.isNecessary m := by
  simp only [State.isNecessary, swappedIdx_nodeD]
  split
  · exact renameNode_isNecessary ..
  · rfl

theorem swappedIdx_experts (n c1 i c2 j : Nat) (s : State) :
    (swappedIdx n c1 i c2 j s).experts = s.experts := by
  unfold swappedIdx; split <;> rfl

theorem swappedIdx_cfg (n c1 i c2 j : Nat) (s : State) : (swappedIdx n c1 i c2 j s).cfg = s.cfg := by
  unfold swappedIdx; split <;> rfl

/-- node `n` is still the same valid expert after the renaming -/
theorem IsExpert.swappedIdx {s : State} {n : Nat} {nd : Node} {e : Nat} {er : ExpertRec}
    (hx : IsExpert s n nd e er) (n' c1 i c2 j : Nat) :
    ∃ nd', IsExpert (Xp.swappedIdx n' c1 i c2 j s) n nd' e er ∧ nd'.isNecessary = nd.isNecessary ∧
      nd'.inRch = nd.inRch ∧ nd'.height = nd.height := by
  have hlt := lt_of_some hx.node
  have hlt' : n < (Xp.swappedIdx n' c1 i c2 j s).nodes.size := by rw [swappedIdx_size]; exact hlt
  have hnd : (Xp.swappedIdx n' c1 i c2 j s).nodeD n =
      if (n = c1 ∨ n = c2) ∧ n < s.nodes.size then renameNode n' i j nd else nd := by
    rw [swappedIdx_nodeD, nodeD_of_some hx.node]
  refine ⟨(Xp.swappedIdx n' c1 i c2 j s).nodeD n, ⟨some_of_lt hlt', ?_, ?_, ?_⟩, ?_, ?_, ?_⟩
  · rw [hnd]; split <;> exact hx.valid
  · rw [hnd]; split <;> exact hx.kind
  · rw [swappedIdx_experts]; exact hx.xrec
  · rw [hnd]; split
    · exact renameNode_isNecessary ..
    · rfl
  · rw [hnd]; split <;> rfl
  · rw [hnd]; split <;> rfl

theorem expertRemoveDependency_necessary (fuel n dep : Nat) {s : State} {nd : Node} {e : Nat}
    {er : ExpertRec} (hx : IsExpert s n nd e er) (hr : runningOk s n = true) {i : Nat}
    (hi : er.children.findIdx? (·.dep == dep) = some i) (hnec : nd.isNecessary = true) :
    (expertRemoveDependency fuel n dep).run.run s =
      (do removeParent (er.children[i]?.getD default).child (er.children.length - 1) n
          checkIfUnnecessary fuel (er.children[i]?.getD default).child
          rmFinish n e (er.children[i]?.getD default).child dep : M Unit).run.run
        (rmPrepared n e er i s) := by
  have hnec0 : s.isNecessary n = true := by
    simp [State.isNecessary, nodeD_of_some hx.node, hnec]
  obtain ⟨hlt, _, _⟩ := findIdx_facts _ _ _ hi
  unfold expertRemoveDependency
  rw [run_bind_ok hx.run_expertOf]
  simp only
  rw [run_bind_ok (run_assertRunningIsChild_ok hr), run_bind_ok (run_getExpert_some hx.xrec), hi]
  simp only
  by_cases hne : (i != er.children.length - 1) = true
  · obtain ⟨nd', hx', hnec', _, _⟩ := hx.swappedIdx n (er.children[i]?.getD default).child i
      (er.children[er.children.length - 1]?.getD default).child (er.children.length - 1)
    rw [if_pos hne, run_bind_get, hnec0]
    simp only [if_true]
    rw [run_bind_ok (swapEdgeIndices_run ..), run_bind_ok (run_modExpert_some _ hx'.xrec),
      run_bind_ok (run_modExpert_some _ (putExpert_get _ hx'.xrec)), putExpert_put, run_bind_get,
      (hx'.putExpert _).isStale_of_forceStale rfl, run_bind_ok (run_dassert_true _ _), run_bind_get]
    have hn1 : ∀ x, (putExpert e x (swappedIdx n (er.children[i]?.getD default).child i
        (er.children[er.children.length - 1]?.getD default).child (er.children.length - 1) s)).isNecessary n
        = true := by
      intro x; rw [putExpert_isNecessary, swappedIdx_isNecessary]; exact hnec0
    rw [hn1]
    simp only [if_true]
    unfold rmPrepared rmFinish
    rw [if_pos hne]
    rfl
  · rw [if_neg hne]
    rw [run_bind_ok (run_modExpert_some _ hx.xrec), run_bind_get,
      (hx.putExpert _).isStale_of_forceStale rfl, run_bind_ok (run_dassert_true _ _), run_bind_get]
    have hn1 : ∀ x, (putExpert e x s).isNecessary n = true := by
      intro x; rw [putExpert_isNecessary]; exact hnec0
    rw [hn1]
    simp only [if_true]
    have hil : i = er.children.length - 1 := by simpa using hne
    unfold rmPrepared rmFinish
    rw [if_neg hne, swapToEnd_last _ _ hlt hil]

/-- the record `rmFinish` leaves: count of invalid children decremented iff the removed child is
invalid (repaired D6), last edge popped, `forceStale`, slots of `dep` dropped -/
def finishRec (r : ExpertRec) (childInvalid : Bool) (dep : Nat) : ExpertRec :=
  { r with numInvalidChildren := if childInvalid then r.numInvalidChildren - 1 else r.numInvalidChildren,
           children := r.children.dropLast, forceStale := true,
           slots := r.slots.filter (·.1 != dep) }

/-- the second half of `rmFinish` (after the heap insertion) -/
theorem rmFinish_tail_run {S : State} {e child dep : Nat} {r : ExpertRec} {cnd : Node}
    (hr : S.experts[e]? = some r) (hc : S.nodes[child]? = some cnd) :
    (do
      if !(← getNode child).valid then
        modExpert e fun x => { x with numInvalidChildren := x.numInvalidChildren - 1 }
      modExpert e fun x => { x with children := x.children.dropLast, forceStale := true,
                                    slots := x.slots.filter (·.1 != dep) } : M Unit).run.run S =
      (.ok (), putExpert e (finishRec r (!cnd.valid) dep) S) := by
  rw [run_bind_ok (run_getNode_some hc)]
  cases hv : cnd.valid
  · simp only [Bool.not_false, if_true]
    rw [run_bind_ok (run_modExpert_some _ hr), run_modExpert_some _ (putExpert_get _ hr), putExpert_put]
    rfl
  · simp only [Bool.not_true, Bool.false_eq_true, if_false, pure_bind]
    rw [run_modExpert_some _ hr]
    rfl

/-- `rmFinish` when `n` is already in the recompute heap -/
theorem rmFinish_run_queued {S : State} {n e child dep : Nat} {ndn : Node} {r : ExpertRec} {cnd : Node}
    (hn : S.nodes[n]? = some ndn) (hq : ndn.inRch = true)
    (hr : S.experts[e]? = some r) (hc : S.nodes[child]? = some cnd) :
    (rmFinish n e child dep).run.run S = (.ok (), putExpert e (finishRec r (!cnd.valid) dep) S) := by
  unfold rmFinish
  rw [run_bind_ok (run_getNode_some hn)]
  simp only [hq, Bool.not_true, Bool.false_eq_true, if_false, pure_bind]
  exact rmFinish_tail_run hr hc

/-- `rmFinish` when `n` has to be inserted -/
theorem rmFinish_run_insert {S : State} {n e child dep : Nat} {ndn : Node} {r : ExpertRec} {cnd : Node}
    (hn : S.nodes[n]? = some ndn) (hq : ndn.inRch = false)
    (hr : S.experts[e]? = some r) (hc : S.nodes[child]? = some cnd) :
    (rmFinish n e child dep).run.run S =
      match (rchInsert n).run.run S with
      | (.error p, S') => (.error p, S')
      | (.ok _, _) => (.ok (), putExpert e (finishRec r (!cnd.valid) dep) (inserted n ndn.height S)) := by
  unfold rmFinish
  rw [run_bind_ok (run_getNode_some hn)]
  simp only [hq, Bool.not_false, if_true]
  rw [run_bind]
  rcases hins : (rchInsert n).run.run S with ⟨_ | u, S'⟩
  · rfl
  · obtain ⟨nd1, hn1, _, _, rfl⟩ := rchInsert_ok_inv hins
    rw [hn] at hn1; cases hn1
    have hc' : (inserted n ndn.height S).nodes[child]? =
        some (if n = child then { cnd with heightInRch := ndn.height } else cnd) := by
      simp only [inserted, Array.getElem?_modify, hc]
      split <;> simp
    have hr' : (inserted n ndn.height S).experts[e]? = some r := hr
    have := rmFinish_tail_run (dep := dep) hr' hc'
    refine this.trans ?_
    split <;> rfl

/-- node `m` of the prepared state -/
def prepNode (n : Nat) (er : ExpertRec) (i m : Nat) (x : Node) : Node :=
  if (i != er.children.length - 1) = true ∧
      (m = (er.children[i]?.getD default).child ∨
        m = (er.children[er.children.length - 1]?.getD default).child) then
    renameNode n i (er.children.length - 1) x
  else x

theorem rmPrepared_nodeD (n e : Nat) (er : ExpertRec) (i : Nat) (s : State) (m : Nat) :
    (rmPrepared n e er i s).nodeD m = if m < s.nodes.size then prepNode n er i m (s.nodeD m) else s.nodeD m := by
  unfold rmPrepared prepNode
  rw [putExpert_nodeD]
  by_cases hne : (i != er.children.length - 1) = true
  · simp only [hne, if_true, true_and]
    rw [swappedIdx_nodeD]
    by_cases hlt : m < s.nodes.size
    · simp [hlt]
    · simp [hlt]
  · simp [hne]

theorem rmPrepared_size (n e : Nat) (er : ExpertRec) (i : Nat) (s : State) :
    (rmPrepared n e er i s).nodes.size = s.nodes.size := by
  unfold rmPrepared
  show (ite _ _ _ : State).nodes.size = _
  split
  · exact swappedIdx_size ..
  · rfl

theorem rmPrepared_node {n e : Nat} {er : ExpertRec} {i : Nat} {s : State} {m : Nat} {x : Node}
    (h : s.nodes[m]? = some x) : (rmPrepared n e er i s).nodes[m]? = some (prepNode n er i m x) := by
  have hlt := lt_of_some h
  have hlt' : m < (rmPrepared n e er i s).nodes.size := by rw [rmPrepared_size]; exact hlt
  rw [some_of_lt hlt', rmPrepared_nodeD, if_pos hlt, nodeD_of_some h]

theorem rmPrepared_expert {n e : Nat} {er : ExpertRec} {i : Nat} {s : State}
    (h : s.experts[e]? = some er) :
    (rmPrepared n e er i s).experts[e]? =
      some { er with children := swapToEnd er.children i, forceStale := true } := by
  unfold rmPrepared
  apply putExpert_get
  · show (ite _ _ _ : State).experts[e]? = some er
    split
    · rw [swappedIdx_experts]; exact h
    · exact h

/-- `remove_parent` of the (renamed) entry, as a state transformer -/
def parentRemoved (c pi : Nat) (S : State) : State :=
  { S with nodes := S.nodes.modify c fun x => { x with parents := swapRemove x.parents pi } }

theorem renameIdx_invol (n i j : Nat) (pc : Nat × Nat) : renameIdx n i j (renameIdx n i j pc) = pc := by
  unfold renameIdx
  by_cases h1 : pc = (n, i)
  · subst h1
    by_cases hij : i = j
    · subst hij; simp
    · have : ((n, j) == (n, i)) = false := by simp; omega
      simp [this]
  · by_cases h2 : pc = (n, j)
    · subst h2
      have : ((n, j) == (n, i)) = false := by simpa using h1
      simp [this]
    · have e1 : (pc == (n, i)) = false := by simpa using h1
      have e2 : (pc == (n, j)) = false := by simpa using h2
      simp [e1, e2]

theorem renameIdx_inj (n i j : Nat) {a b : Nat × Nat} (h : renameIdx n i j a = renameIdx n i j b) : a = b := by
  have := congrArg (renameIdx n i j) h
  rwa [renameIdx_invol, renameIdx_invol] at this

theorem renameIdx_left (n i j : Nat) : renameIdx n i j (n, i) = (n, j) := by simp [renameIdx]

theorem idxOf?_map_inj {α} [BEq α] [LawfulBEq α] (f : α → α) (hf : ∀ a b, f a = f b → a = b) (a : α) (l : List α) :
    (l.map f).idxOf? (f a) = l.idxOf? a := by
  induction l with
  | nil => rfl
  | cons x rest ih =>
    simp only [List.map_cons, List.idxOf?_cons]
    by_cases hx : x = a
    · subst hx; simp
    · have h1 : (x == a) = false := by simpa using hx
      have h2 : (f x == f a) = false := by
        simp only [beq_eq_false_iff_ne, ne_eq]
        intro h; exact hx (hf _ _ h)
      simp [h1, h2, ih]

/-- where `remove_parent` finds the entry: at the position of `(n, i)` in the child's original list -/
theorem prepNode_idxOf (n : Nat) (er : ExpertRec) (i : Nat) (cnd : Node) :
    (prepNode n er i (er.children[i]?.getD default).child cnd).parents.idxOf? (n, er.children.length - 1) =
      cnd.parents.idxOf? (n, i) := by
  unfold prepNode
  by_cases hne : (i != er.children.length - 1) = true
  · simp only [hne, true_or, and_self, if_true, renameNode]
    rw [← renameIdx_left n i (er.children.length - 1)]
    exact idxOf?_map_inj _ (fun a b => renameIdx_inj n i _) _ _
  · have : i = er.children.length - 1 := by simpa using hne
    rw [if_neg (fun h => hne h.1), ← this]

/-- `remove_parent` on the prepared state -/
theorem rmPrepared_removeParent {n e : Nat} {er : ExpertRec} {i : Nat} {s : State} {cnd : Node}
    (hc : s.nodes[(er.children[i]?.getD default).child]? = some cnd) :
    (removeParent (er.children[i]?.getD default).child (er.children.length - 1) n).run.run
        (rmPrepared n e er i s) =
      match cnd.parents.idxOf? (n, i) with
      | none => (.error (.site "node:remove_parent:not-a-parent"), rmPrepared n e er i s)
      | some pi => (.ok (), parentRemoved (er.children[i]?.getD default).child pi (rmPrepared n e er i s)) := by
  rw [removeParent_run (rmPrepared_node hc), prepNode_idxOf]
  rfl

/-- the child keeps another reason to be necessary: the whole call is the prepared state, the parent
entry removed, and the tail `rmFinish` (the `check_if_unnecessary` cascade does not start) -/
theorem expertRemoveDependency_necessary_stays (fuel n dep : Nat) {s : State} {nd : Node} {e : Nat}
    {er : ExpertRec} (hx : IsExpert s n nd e er) (hr : runningOk s n = true) {i : Nat}
    (hi : er.children.findIdx? (·.dep == dep) = some i) (hnec : nd.isNecessary = true)
    {cnd : Node} (hc : s.nodes[(er.children[i]?.getD default).child]? = some cnd) {pi : Nat}
    (hpi : cnd.parents.idxOf? (n, i) = some pi)
    (hstay : (parentRemoved (er.children[i]?.getD default).child pi (rmPrepared n e er i s)).isNecessary
      (er.children[i]?.getD default).child = true) :
    (expertRemoveDependency (fuel + 1) n dep).run.run s =
      (rmFinish n e (er.children[i]?.getD default).child dep).run.run
        (parentRemoved (er.children[i]?.getD default).child pi (rmPrepared n e er i s)) := by
  rw [expertRemoveDependency_necessary (fuel + 1) n dep hx hr hi hnec,
    run_bind_ok (by rw [rmPrepared_removeParent hc, hpi]),
    run_bind_ok (checkIfUnnecessary_noop fuel _ _ hstay)]

/-- not listed as a parent by the child (asymmetric edge): hard panic in `remove_parent` -/
theorem expertRemoveDependency_necessary_asym (fuel n dep : Nat) {s : State} {nd : Node} {e : Nat}
    {er : ExpertRec} (hx : IsExpert s n nd e er) (hr : runningOk s n = true) {i : Nat}
    (hi : er.children.findIdx? (·.dep == dep) = some i) (hnec : nd.isNecessary = true)
    {cnd : Node} (hc : s.nodes[(er.children[i]?.getD default).child]? = some cnd)
    (hpi : cnd.parents.idxOf? (n, i) = none) :
    (expertRemoveDependency fuel n dep).run.run s =
      (.error (.site "node:remove_parent:not-a-parent"), rmPrepared n e er i s) := by
  rw [expertRemoveDependency_necessary fuel n dep hx hr hi hnec, run_bind, rmPrepared_removeParent hc, hpi]

/-! ### after `rmFinish` the node is in the recompute heap -/

macro_rules
  | `(tactic| qleaf) =>
    `(tactic| ((with_reducible apply Pres.modify); intro _; exact (rfl : State.nodes _ = State.nodes _)))

theorem KN.modExpert (e f) : Pres (Keeps State.nodes) (modExpert e f) := by unfold Engine.modExpert; qpres
macro_rules | `(tactic| qleaf) => `(tactic| with_reducible apply KN.modExpert)

theorem rmFinish_inHeap {S S' : State} {n e child dep : Nat}
    (h : (rmFinish n e child dep).run.run S = (.ok (), S')) :
    n < S'.nodes.size ∧ (S'.nodeD n).inRch = true := by
  have hk : Pres (Keeps State.nodes) (do
      if !(← getNode child).valid then
        modExpert e fun x => { x with numInvalidChildren := x.numInvalidChildren - 1 }
      modExpert e fun x => { x with children := x.children.dropLast, forceStale := true,
                                    slots := x.slots.filter (·.1 != dep) } : M Unit) := by
    qpres
  unfold rmFinish at h
  dsimp only at h
  obtain ⟨ndn, S0, h0, h2⟩ := bind_ok_inv h
  obtain ⟨hS0, hn⟩ := getNode_ok_inv h0
  subst hS0
  by_cases hq : ndn.inRch = true
  · simp only [hq, Bool.not_true, Bool.false_eq_true, if_false] at h2
    have hnodes : S'.nodes = S0.nodes := hk.h _ _ _ h2
    have key : n < S0.nodes.size ∧ (S0.nodeD n).inRch = true :=
      ⟨lt_of_some hn, by rw [nodeD_of_some hn]; exact hq⟩
    simpa [State.nodeD, hnodes] using key
  · have hq' : ndn.inRch = false := by simpa using hq
    simp only [hq', Bool.not_false, if_true] at h2
    obtain ⟨u, S1, h1, h3⟩ := bind_ok_inv h2
    have hnodes : S'.nodes = S1.nodes := hk.h _ _ _ h3
    have key := rchInsert_ok_inRch h1
    simpa [State.nodeD, hnodes] using key

/-! ### edge symmetry is preserved (repaired D8, duplicates on one child included) -/

/-- edge symmetry of expert node `n` with edge list `L`: node `c` lists `(n, j)` exactly once if edge
`j` points at `c`, and not at all otherwise.  (As multisets: the `(n, ·)` entries across all nodes are
exactly `{(n, j) | j < L.length}`, entry `(n, j)` sitting in the list of `L[j].child`.) -/
def EdgeSym (s : State) (n : Nat) (L : List ExpertEdge) : Prop :=
  ∀ c j, (s.nodeD c).parents.count (n, j) = if (L[j]?.map (·.child)) = some c then 1 else 0

/-- the transposition `(i k)` on indices -/
def swapNat (i k j : Nat) : Nat := if j = i then k else if j = k then i else j

theorem renameIdx_same (n i k j : Nat) : renameIdx n i k (n, j) = (n, swapNat i k j) := by
  unfold renameIdx swapNat
  by_cases h1 : j = i
  · simp [h1]
  · by_cases h2 : j = k
    · subst h2
      have : ¬ i = j := fun h => h1 h.symm
      simp [h1, this]
    · simp [h1, h2]

theorem count_map_invol {α} [BEq α] [LawfulBEq α] (f : α → α) (hf : ∀ a, f (f a) = a) (a : α) (l : List α) :
    (l.map f).count a = l.count (f a) := by
  induction l with
  | nil => rfl
  | cons x rest ih =>
    simp only [List.map_cons, List.count_cons, ih]
    congr 1
    by_cases h : x = f a
    · subst h; simp [hf]
    · have h1 : (x == f a) = false := by simpa using h
      have h2 : (f x == a) = false := by
        simp only [beq_eq_false_iff_ne, ne_eq]
        intro h'; apply h; rw [← h', hf]
      simp [h1, h2]

theorem count_eraseIdx_getElem {α} [BEq α] [LawfulBEq α] (l : List α) (k : Nat) (hk : k < l.length) (a : α) :
    (l.eraseIdx k).count a + (if (l[k] == a) = true then 1 else 0) = l.count a := by
  induction l generalizing k with
  | nil => cases hk
  | cons x rest ih =>
    cases k with
    | zero =>
      simp only [List.eraseIdx_cons_zero, List.getElem_cons_zero, List.count_cons]
    | succ k =>
      simp only [List.eraseIdx_cons_succ, List.getElem_cons_succ, List.count_cons]
      have := ih k (by simpa using hk)
      omega

theorem idxOf?_some {α} [BEq α] [LawfulBEq α] (l : List α) (x : α) (k : Nat) (h : l.idxOf? x = some k) :
    ∃ hk : k < l.length, l[k] = x := by
  unfold List.idxOf? at h
  rw [List.findIdx?_eq_some_iff_getElem] at h
  obtain ⟨hk, hp, _⟩ := h
  exact ⟨hk, by simpa using hp⟩

theorem count_swapRemove {α} [BEq α] [LawfulBEq α] [Inhabited α] (l : List α) (x : α) (k : Nat)
    (h : l.idxOf? x = some k) (a : α) :
    (swapRemove l k).count a + (if (x == a) = true then 1 else 0) = l.count a := by
  obtain ⟨hk, hx⟩ := idxOf?_some l x k h
  rw [swapRemove_eq_swapPop l k hk, (swapPop_perm l k hk).count_eq, ← hx]
  exact count_eraseIdx_getElem l k hk a

theorem swapToEnd_getElem? (l : List ExpertEdge) (i : Nat) (hi : i < l.length) (j : Nat) :
    (swapToEnd l i)[j]? = l[swapNat i (l.length - 1) j]? := by
  unfold swapToEnd swapNat
  have hl : l.length - 1 < l.length := by omega
  simp only [List.getElem?_set, List.length_set]
  by_cases h2 : l.length - 1 = j
  · subst h2
    simp only [if_true, hl]
    by_cases h1 : l.length - 1 = i
    · simp [h1, hi]
    · have : ¬ i = l.length - 1 := fun h => h1 h.symm
      simp [h1, hi]
  · have h2' : ¬ j = l.length - 1 := fun h => h2 h.symm
    simp only [h2, if_false, h2']
    by_cases h1 : i = j
    · subst h1; simp [hi, hl]
    · have h1' : ¬ j = i := fun h => h1 h.symm
      simp [h1, h1']

theorem swapToEnd_length (l : List ExpertEdge) (i : Nat) : (swapToEnd l i).length = l.length := by
  simp [swapToEnd]

/-- step A: after the renaming, edge symmetry holds for the swapped edge list -/
theorem EdgeSym.prepared {s : State} {n e : Nat} {er : ExpertRec} {i : Nat}
    (h : EdgeSym s n er.children) (hi : i < er.children.length) :
    EdgeSym (rmPrepared n e er i s) n (swapToEnd er.children i) := by
  intro m j
  rw [rmPrepared_nodeD, swapToEnd_getElem? _ _ hi]
  have hdef : ∀ k, (s.nodeD m).parents.count (n, k) =
      if (er.children[k]?.map (·.child)) = some m then 1 else 0 := fun k => h m k
  have hl : er.children.length - 1 < er.children.length := by omega
  by_cases hne : (i != er.children.length - 1) = true
  · -- in every node, the count of `(n, j)` is now the old count of `(n, σ j)`
    have hni : ¬ i = er.children.length - 1 := by simpa using hne
    have key : (if m < s.nodes.size then prepNode n er i m (s.nodeD m) else s.nodeD m).parents.count (n, j) =
        (s.nodeD m).parents.count (n, swapNat i (er.children.length - 1) j) := by
      unfold prepNode
      by_cases hm : m < s.nodes.size ∧ (m = (er.children[i]?.getD default).child ∨
          m = (er.children[er.children.length - 1]?.getD default).child)
      · rw [if_pos hm.1, if_pos ⟨hne, hm.2⟩]
        simp only [renameNode]
        rw [count_map_invol _ (renameIdx_invol n i _), renameIdx_same]
      · have hP : (if m < s.nodes.size then
            (if (i != er.children.length - 1) = true ∧ (m = (er.children[i]?.getD default).child ∨
                m = (er.children[er.children.length - 1]?.getD default).child) then
              renameNode n i (er.children.length - 1) (s.nodeD m) else s.nodeD m)
            else s.nodeD m) = s.nodeD m := by
          split
          · rw [if_neg]; intro hh; exact hm ⟨by assumption, hh.2⟩
          · rfl
        rw [hP]
        -- `m` is not one of the two children, or does not exist: both counts agree
        by_cases hlt : m < s.nodes.size
        · have hm' : ¬ (m = (er.children[i]?.getD default).child ∨
              m = (er.children[er.children.length - 1]?.getD default).child) := fun hh => hm ⟨hlt, hh⟩
          have hc1 : ¬ (er.children[i]?.map (·.child)) = some m := by
            intro hh; apply hm'; left
            rw [List.getElem?_eq_getElem hi] at hh ⊢
            simpa using hh.symm
          have hc2 : ¬ (er.children[er.children.length - 1]?.map (·.child)) = some m := by
            intro hh; apply hm'; right
            rw [List.getElem?_eq_getElem hl] at hh ⊢
            simpa using hh.symm
          unfold swapNat
          by_cases hj1 : j = i
          · subst hj1; rw [if_pos rfl, hdef, hdef, if_neg hc1, if_neg hc2]
          · rw [if_neg hj1]
            by_cases hj2 : j = er.children.length - 1
            · subst hj2; rw [if_pos rfl, hdef, hdef, if_neg hc1, if_neg hc2]
            · rw [if_neg hj2]
        · have : s.nodeD m = default := by
            simp [State.nodeD, Array.getElem?_eq_none (Nat.le_of_not_lt hlt)]
          rw [this]; rfl
    rw [key, hdef]
  · have hil : i = er.children.length - 1 := by simpa using hne
    have hP : (if m < s.nodes.size then prepNode n er i m (s.nodeD m) else s.nodeD m) = s.nodeD m := by
      unfold prepNode
      split
      · rw [if_neg (fun hh => hne hh.1)]
      · rfl
    rw [hP, hdef]
    have : swapNat i (er.children.length - 1) j = j := by
      unfold swapNat; rw [← hil]; split
      · rename_i h1; exact h1.symm
      · rfl
    rw [this]

theorem parentRemoved_nodeD (c pi : Nat) (S : State) (m : Nat) :
    (parentRemoved c pi S).nodeD m =
      if c = m ∧ m < S.nodes.size then
        { S.nodeD m with parents := swapRemove (S.nodeD m).parents pi } else S.nodeD m :=
  nodeD_modify S c m _

/-- steps B and C: after `remove_parent` of the (renamed) entry, edge symmetry holds for the list with
the removed edge swapped to the end and popped.  This covers the repaired D8: when the removed edge and
the last edge point at the SAME child, that child's list is renamed once, and exactly one entry
disappears. -/
theorem EdgeSym.removed {s : State} {n e : Nat} {er : ExpertRec} {i : Nat}
    (h : EdgeSym s n er.children) (hi : i < er.children.length)
    {cnd : Node} (hc : s.nodes[(er.children[i]?.getD default).child]? = some cnd) {pi : Nat}
    (hpi : cnd.parents.idxOf? (n, i) = some pi) :
    EdgeSym (parentRemoved (er.children[i]?.getD default).child pi (rmPrepared n e er i s)) n
      (swapPop er.children i) := by
  have hA := h.prepared (e := e) hi
  have hl : er.children.length - 1 < er.children.length := by omega
  have hlt := lt_of_some hc
  have hnode := rmPrepared_node (n := n) (e := e) (er := er) (i := i) hc
  have hidx := prepNode_idxOf n er i cnd
  rw [hpi] at hidx
  -- the last edge of the swapped list is the removed one
  have hlastEdge : (swapToEnd er.children i)[er.children.length - 1]?.map (·.child) =
      some (er.children[i]?.getD default).child := by
    rw [swapToEnd_getElem? _ _ hi]
    have : swapNat i (er.children.length - 1) (er.children.length - 1) = i := by
      unfold swapNat; split
      · rename_i h1; exact h1
      · simp
    rw [this, List.getElem?_eq_getElem hi]; simp
  intro m j
  -- the popped list, position by position
  have hpop : (swapPop er.children i)[j]? =
      if j < er.children.length - 1 then (swapToEnd er.children i)[j]? else none := by
    rw [← swapToEnd_dropLast, List.getElem?_dropLast, swapToEnd_length]
  rw [parentRemoved_nodeD, rmPrepared_size]
  by_cases hm : (er.children[i]?.getD default).child = m ∧ m < s.nodes.size
  · obtain ⟨rfl, _⟩ := hm
    rw [if_pos ⟨rfl, hlt⟩]
    simp only
    rw [nodeD_of_some hnode]
    have hcount := count_swapRemove _ _ _ hidx (n, j)
    have hAj := hA (er.children[i]?.getD default).child j
    rw [nodeD_of_some hnode] at hAj
    rw [hpop]
    by_cases hj : j < er.children.length - 1
    · have : ¬ (((n, er.children.length - 1) == (n, j)) = true) := by simp; omega
      rw [if_neg this] at hcount
      rw [if_pos hj, ← hAj]; omega
    · rw [if_neg hj]
      simp only [Option.map_none, reduceCtorEq, if_false]
      by_cases hj2 : j = er.children.length - 1
      · subst hj2
        rw [if_pos (by simp)] at hcount
        rw [hlastEdge, if_pos rfl] at hAj
        omega
      · have hnone : (swapToEnd er.children i)[j]? = none := by
          apply List.getElem?_eq_none; rw [swapToEnd_length]; omega
        rw [hnone] at hAj
        simp only [Option.map_none, reduceCtorEq, if_false] at hAj
        have : ¬ (((n, er.children.length - 1) == (n, j)) = true) := by
          simp; exact fun h => hj2 h.symm
        rw [if_neg this] at hcount
        omega
  · rw [if_neg hm]
    have hAj := hA m j
    rw [hAj, hpop]
    by_cases hj : j < er.children.length - 1
    · rw [if_pos hj]
    · rw [if_neg hj]
      simp only [Option.map_none, reduceCtorEq, if_false]
      by_cases hj2 : j = er.children.length - 1
      · subst hj2
        rw [hlastEdge]
        have hne : ¬ (er.children[i]?.getD default).child = m := by
          intro hh; apply hm; exact ⟨hh, hh ▸ hlt⟩
        simp [hne]
      · have hnone : (swapToEnd er.children i)[j]? = none := by
          apply List.getElem?_eq_none; rw [swapToEnd_length]; omega
        rw [hnone]; simp

/-! ### the parents lists after `rmFinish`, and the complete post-condition -/

/-- every node's `parents` list -/
def parentsOf (s : State) : Nat → List (Nat × Nat) := fun c => (s.nodeD c).parents

theorem EdgeSym.congr {s s' : State} {n : Nat} {L : List ExpertEdge} (h : EdgeSym s n L)
    (hp : parentsOf s' = parentsOf s) : EdgeSym s' n L := by
  intro c j
  have := congrFun hp c
  simp only [parentsOf] at this
  rw [this]; exact h c j

macro_rules
  | `(tactic| qleaf) =>
    `(tactic| ((with_reducible apply Pres.modify); intro _; exact (rfl : parentsOf _ = parentsOf _)))

theorem KP.modNode (n : Nat) (f : Node → Node) (hf : ∀ x, (f x).parents = x.parents) :
    Pres (Keeps parentsOf) (modNode n f) := by
  unfold Engine.modNode
  apply Pres.modify
  intro s
  funext c
  simp only [parentsOf]
  rw [nodeD_modify]
  split
  · exact hf _
  · rfl
macro_rules
  | `(tactic| qleaf) => `(tactic| ((with_reducible apply KP.modNode); intro _; rfl))

theorem KP.modExpert (e f) : Pres (Keeps parentsOf) (modExpert e f) := by unfold Engine.modExpert; qpres
macro_rules | `(tactic| qleaf) => `(tactic| with_reducible apply KP.modExpert)
theorem KP.rchLink (n) : Pres (Keeps parentsOf) (rchLink n) := by unfold Engine.rchLink; qpres
macro_rules | `(tactic| qleaf) => `(tactic| with_reducible apply KP.rchLink)
theorem KP.rchInsert (n) : Pres (Keeps parentsOf) (rchInsert n) := by unfold Engine.rchInsert; qpres
macro_rules | `(tactic| qleaf) => `(tactic| with_reducible apply KP.rchInsert)
theorem KP.rmFinish (n e child dep) : Pres (Keeps parentsOf) (rmFinish n e child dep) := by
  unfold Xp.rmFinish; qpres

/-- the expert record after a successful `rmFinish` -/
theorem rmFinish_ok_expert {S S' : State} {n e child dep : Nat} {ndn : Node} {r : ExpertRec} {cnd : Node}
    (hn : S.nodes[n]? = some ndn) (hr : S.experts[e]? = some r) (hc : S.nodes[child]? = some cnd)
    (h : (rmFinish n e child dep).run.run S = (.ok (), S')) :
    S'.experts[e]? = some (finishRec r (!cnd.valid) dep) := by
  cases hq : ndn.inRch
  · rw [rmFinish_run_insert hn hq hr hc] at h
    rcases hins : (rchInsert n).run.run S with ⟨_ | u, S1⟩
    · rw [hins] at h; cases h
    · rw [hins] at h
      simp only at h
      cases h
      exact putExpert_get (s := inserted n ndn.height S) _ hr
  · rw [rmFinish_run_queued hn hq hr hc] at h
    cases h
    exact putExpert_get _ hr

theorem finishRec_fields (r : ExpertRec) (b : Bool) (dep : Nat) :
    (finishRec r b dep).children = r.children.dropLast ∧ (finishRec r b dep).forceStale = true ∧
    (finishRec r b dep).slots = r.slots.filter (·.1 != dep) ∧
    (finishRec r b dep).numInvalidChildren = (if b then r.numInvalidChildren - 1 else r.numInvalidChildren) ∧
    (finishRec r b dep).f = r.f ∧ (finishRec r b dep).willFireAllCallbacks = r.willFireAllCallbacks :=
  ⟨rfl, rfl, rfl, rfl, rfl, rfl⟩

/-- complete post-condition of a successful `expert_remove_dependency` on a necessary node whose removed
child stays necessary (no cascade) in an edge-symmetric state -/
theorem expertRemoveDependency_necessary_post (fuel n dep : Nat) {s s' : State} {nd : Node} {e : Nat}
    {er : ExpertRec} (hx : IsExpert s n nd e er) (hr : runningOk s n = true) {i : Nat}
    (hi : er.children.findIdx? (·.dep == dep) = some i) (hnec : nd.isNecessary = true)
    {cnd : Node} (hc : s.nodes[(er.children[i]?.getD default).child]? = some cnd) {pi : Nat}
    (hpi : cnd.parents.idxOf? (n, i) = some pi)
    (hstay : (parentRemoved (er.children[i]?.getD default).child pi (rmPrepared n e er i s)).isNecessary
      (er.children[i]?.getD default).child = true)
    (hsym : EdgeSym s n er.children)
    (h : (expertRemoveDependency (fuel + 1) n dep).run.run s = (.ok (), s')) :
    ∃ er', s'.experts[e]? = some er' ∧
      er'.children = swapPop er.children i ∧ er'.forceStale = true ∧
      er'.slots = er.slots.filter (·.1 != dep) ∧
      er'.numInvalidChildren = (if cnd.valid = true then er.numInvalidChildren else er.numInvalidChildren - 1) ∧
      er'.f = er.f ∧ er'.willFireAllCallbacks = er.willFireAllCallbacks ∧
      EdgeSym s' n er'.children ∧
      n < s'.nodes.size ∧ (s'.nodeD n).inRch = true := by
  obtain ⟨hlt, _, _⟩ := findIdx_facts _ _ _ hi
  rw [expertRemoveDependency_necessary_stays fuel n dep hx hr hi hnec hc hpi hstay] at h
  -- facts about the state `rmFinish` starts from
  have hnlt : n < (parentRemoved (er.children[i]?.getD default).child pi (rmPrepared n e er i s)).nodes.size := by
    simp only [parentRemoved, Array.size_modify, rmPrepared_size]; exact lt_of_some hx.node
  have hn2 := some_of_lt hnlt
  have hr2 : (parentRemoved (er.children[i]?.getD default).child pi (rmPrepared n e er i s)).experts[e]? =
      some { er with children := swapToEnd er.children i, forceStale := true } := rmPrepared_expert hx.xrec
  have hclt : (er.children[i]?.getD default).child <
      (parentRemoved (er.children[i]?.getD default).child pi (rmPrepared n e er i s)).nodes.size := by
    simp only [parentRemoved, Array.size_modify, rmPrepared_size]; exact lt_of_some hc
  have hc2 := some_of_lt hclt
  have hvalid : ((parentRemoved (er.children[i]?.getD default).child pi (rmPrepared n e er i s)).nodeD
      (er.children[i]?.getD default).child).valid = cnd.valid := by
    rw [parentRemoved_nodeD, rmPrepared_size, if_pos ⟨rfl, lt_of_some hc⟩]
    simp only
    rw [rmPrepared_nodeD, if_pos (lt_of_some hc), nodeD_of_some hc]
    unfold prepNode; split <;> rfl
  have hex := rmFinish_ok_expert hn2 hr2 hc2 h
  rw [hvalid] at hex
  have hpar := (KP.rmFinish n e _ dep).h _ _ _ h
  have hsym' := (hsym.removed (e := e) hlt hc hpi).congr hpar
  obtain ⟨hin1, hin2⟩ := rmFinish_inHeap h
  refine ⟨_, hex, ?_, rfl, rfl, ?_, rfl, rfl, ?_, hin1, hin2⟩
  · exact swapToEnd_dropLast _ _
  · cases cnd.valid <;> rfl
  · show EdgeSym s' n (swapToEnd er.children i).dropLast
    rw [swapToEnd_dropLast]; exact hsym'

/-! ## example environment and states (non-vacuity witnesses used by `Props/C14.lean`) -/

/-- `Step.exEnv` with an expert closure that shows its inputs: function id + sum of the dependency
values + 10 × sum of the slot values -/
def xEnv : Env :=
  { exEnv with
    expertFn := fun f deps slots =>
      Val.int ((f : Int) + deps.foldl (fun a v => a + (v.getD Val.unit).toInt) 0
        + 10 * slots.foldl (fun a v => a + (v.getD Val.unit).toInt) 0) }

/-- node 0: a var (value 5); node 1: constant 7; node 2: expert 0 (function 3) with edges
`d0 → node 0` (with callback, slot holds a stale 4) and `d1 → node 1` (no callback).  Nobody observes
node 2 (it is not necessary).  Debug build, node 0 is the node being recomputed. -/
def exU : State :=
  { State.init 8 with
    nodes := #[
      { kind := .var 0, createdIn := .top, value := some (.int 5), recomputedAt := 0, changedAt := 0,
        height := 0 },
      { kind := .const (.int 7), createdIn := .top, value := some (.int 7), recomputedAt := 0,
        changedAt := 0, height := 0 },
      { kind := .expert 0, createdIn := .top }],
    vars := #[{ value := .int 5, setAt := 0, node := 0 }],
    experts := #[{ f := 3, node := 2, children := [⟨0, 0, some 0⟩, ⟨1, 1, none⟩],
                   slots := [(0, .int 4)], willFireAllCallbacks := true }],
    nextDep := 2, stabNum := 1, status := .stabilising, currentlyRunning := some 0 }

/-- the same graph with node 2 observed (necessary, height 1, the children list it as a parent) and
never recomputed -/
def exN : State :=
  { exU with
    nodes := #[
      { kind := .var 0, createdIn := .top, value := some (.int 5), recomputedAt := 0, changedAt := 0,
        height := 0, parents := [(2, 0)] },
      { kind := .const (.int 7), createdIn := .top, value := some (.int 7), recomputedAt := 0,
        changedAt := 0, height := 0, parents := [(2, 1)] },
      { kind := .expert 0, createdIn := .top, height := 1, observers := [0] }] }

/-- `exN` after a first recompute: callbacks individually armed (`willFireAllCallbacks = false`) -/
def exN' : State :=
  { exN with experts := #[{ f := 3, node := 2, children := [⟨0, 0, some 0⟩, ⟨1, 1, none⟩],
                            slots := [(0, .int 4)], willFireAllCallbacks := false }] }

/-- `exU` with node 2 invalidated -/
def exI : State :=
  { exU with nodes := exU.nodes.modify 2 fun x => { x with valid := false } }

/-- `exN` with one invalid child counted -/
def exNbad : State :=
  { exN with experts := #[{ f := 3, node := 2, children := [⟨0, 0, some 0⟩, ⟨1, 1, none⟩],
                            numInvalidChildren := 1 }] }

/-- `exN` with node 0 also observed directly (it stays necessary when the expert drops it) -/
def exN2 : State :=
  { exN with
    nodes := #[
      { kind := .var 0, createdIn := .top, value := some (.int 5), recomputedAt := 0, changedAt := 0,
        height := 0, parents := [(2, 0)], observers := [1] },
      { kind := .const (.int 7), createdIn := .top, value := some (.int 7), recomputedAt := 0,
        changedAt := 0, height := 0, parents := [(2, 1)] },
      { kind := .expert 0, createdIn := .top, height := 1, observers := [0] }] }

/-- duplicates on one child (the D8 situation): edges `d0 → 0`, `d1 → 1`, `d2 → 0`; node 0 lists the
expert twice, with indices 0 and 2, and is observed itself -/
def exDup : State :=
  { exN with
    nodes := #[
      { kind := .var 0, createdIn := .top, value := some (.int 5), recomputedAt := 0, changedAt := 0,
        height := 0, parents := [(2, 0), (2, 2)], observers := [1] },
      { kind := .const (.int 7), createdIn := .top, value := some (.int 7), recomputedAt := 0,
        changedAt := 0, height := 0, parents := [(2, 1)] },
      { kind := .expert 0, createdIn := .top, height := 1, observers := [0] }],
    experts := #[{ f := 3, node := 2, children := [⟨0, 0, some 0⟩, ⟨1, 1, none⟩, ⟨2, 0, none⟩],
                   willFireAllCallbacks := false }],
    nextDep := 3 }

theorem exDup_edgeSym : EdgeSym exDup 2 [⟨0, 0, some 0⟩, ⟨1, 1, none⟩, ⟨2, 0, none⟩] := by
  intro c j
  match c, j with
  | 0, 0 => rfl
  | 0, 1 => rfl
  | 0, 2 => rfl
  | 1, 0 => rfl
  | 1, 1 => rfl
  | 1, 2 => rfl
  | 2, 0 => rfl
  | 2, 1 => rfl
  | 2, 2 => rfl
  | c + 3, 0 => simp [exDup, State.nodeD]; rfl
  | c + 3, 1 => simp [exDup, State.nodeD]; rfl
  | c + 3, 2 => simp [exDup, State.nodeD]; rfl
  | 0, j + 3 => simp [exDup, exN, State.nodeD]
  | 1, j + 3 => simp [exDup, exN, State.nodeD]
  | 2, j + 3 => simp [exDup, exN, State.nodeD]
  | c + 3, j + 3 => simp [exDup, State.nodeD]; rfl

end IncrVerif.Proofs.Xp
