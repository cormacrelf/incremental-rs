import IncrVerif.Proofs.Quiet28
import IncrVerif.Proofs.Life10
/-!
# Subscriptions in the static fragment, part 1: the invariants

`Quiet.QInv` (the invariant between API actions of `Props/C01History.lean`) demands that no observer has an
update handler.  Here it is split into
* `SubsH.QInv env s` — the same invariant WITHOUT the three clauses about update handlers
  (`ob.handlers = []`, `numOnUpdateHandlers ≤ 0`, `handleAfterStab = []`), and
* `SubsH.HInv s` — the bookkeeping of update handlers the model maintains.
`UInv env s := QInv env s ∧ HInv s`.
-/
namespace IncrVerif.Proofs.SubsH
open IncrVerif.Engine IncrVerif.Driver IncrVerif.Proofs IncrVerif.Proofs.Step IncrVerif.Proofs.Sched
open IncrVerif.Proofs.Quiet

/-! ## observers (as `Quiet.ObsInv`, handlers allowed) -/

/-- observer bookkeeping, relative to the observers still waiting to be added (`pn`) and to be unlinked (`pd`) -/
structure ObsInv (s : State) (pn pd : List Nat) : Prop where
  /-- observers watch existing nodes -/
  inRange : ∀ (o : Nat) (ob : ObsRec), s.observers[o]? = some ob → ob.node < s.nodes.size
  /-- the observer list of a node: exactly the linked (in use or disallowed) observers of that node -/
  mem : ∀ n o, o ∈ (s.nodeD n).observers ↔
    ∃ ob, s.observers[o]? = some ob ∧ ob.node = n ∧ (ob.state = .inUse ∨ ob.state = .disallowed)
  created : ∀ (o : Nat) (ob : ObsRec), s.observers[o]? = some ob → ob.state = .created → o ∈ pn
  newIn : ∀ o, o ∈ pn → ∃ ob, s.observers[o]? = some ob
  dis : ∀ (o : Nat) (ob : ObsRec), s.observers[o]? = some ob → (ob.state = .disallowed ↔ o ∈ pd)
  disIn : ∀ o, o ∈ pd → ∃ ob, s.observers[o]? = some ob
  disNodup : pd.Nodup

def ObsOK (s : State) : Prop := ObsInv s s.newObservers s.disallowedObservers

/-! ## the core invariant between API actions (`Quiet.QInv` minus the handler clauses) -/

structure QInv (env : Env) (s : State) : Prop where
  struct : Struct env s
  vars : VarsOK s
  obs : ObsOK s
  now : 0 ≤ s.stabNum
  /-- every stamp is from an earlier round -/
  stamps : ∀ m, (s.nodeD m).recomputedAt < s.stabNum ∧ (s.nodeD m).changedAt < s.stabNum
  varStamp : ∀ (c : Nat) (vc : VarCell), s.vars[c]? = some vc → vc.setAt ≤ s.stabNum
  /-- EVERY node that is not stale (necessary or not) is consistent with its children -/
  cons : ∀ m, m < s.nodes.size → staleOf s m = false → Consistent env s m
  status : s.status = .notStabilising
  alive : s.alive = true
  setDuringStab : s.setDuringStab = []
  deadVars : s.deadVars = []
  pinv : s.propagateInvalidity = []
  /-- the naming table of top-level nodes -/
  top : ∀ (k n : Nat), s.top[k]? = some n → n < s.nodes.size

theorem QInv.quiet {env : Env} {s : State} (Q : QInv env s) : QuietInv env s where
  graph := Q.struct.graph Q.vars
  heap := Q.struct.heapInv
  now := Q.now
  stamps := Q.stamps
  varStamp := Q.varStamp
  queued := Q.struct.queued_iff
  cons m hm hs := by
    have hlt := nec_lt_size hm
    rw [GInv.isStale Q.struct hlt] at hs
    exact Q.cons m hlt hs
  watch n c hn hk := Q.vars.node n c (nec_lt_size hn) hk
  cell c vc h _ := (Q.vars.cell c vc h).2
  status := Q.status

/-- the invariant of `Props/C01History.lean` is the special case without handlers -/
theorem QInv.of_quiet {env : Env} {s : State} (Q : Quiet.QInv env s) : QInv env s :=
  ⟨Q.struct, Q.vars,
    ⟨fun o ob h => (Q.obs.inRange o ob h).1, Q.obs.mem, Q.obs.created, Q.obs.newIn, Q.obs.dis, Q.obs.disIn,
      Q.obs.disNodup⟩,
    Q.now, Q.stamps, Q.varStamp, Q.cons, Q.status, Q.alive, Q.setDuringStab, Q.deadVars, Q.pinv, Q.top⟩

/-! ## the frame of the prefix of `stabilise` (as `Quiet.PFrame`, handler counts may change) -/

def nodeKeyP (nd : Node) :=
  (nd.kind, nd.createdIn, nd.cutoff, nd.value, nd.valid, nd.recomputedAt, nd.changedAt, nd.forceNecessary)

structure PFrame (s s' : State) : Prop where
  size : s'.nodes.size = s.nodes.size
  node : ∀ m, nodeKeyP (s'.nodeD m) = nodeKeyP (s.nodeD m)
  key : stateKeyP s' = stateKeyP s
  pc : s.panicCountdown = none → s'.panicCountdown = none

theorem PFrame.refl (s : State) : PFrame s s := ⟨rfl, fun _ => rfl, rfl, id⟩
theorem PFrame.trans {a b c : State} (h1 : PFrame a b) (h2 : PFrame b c) : PFrame a c :=
  ⟨h2.size.trans h1.size, fun m => (h2.node m).trans (h1.node m), h2.key.trans h1.key,
    fun h => h2.pc (h1.pc h)⟩

theorem PFrame.of_quiet {s s' : State} (h : Quiet.PFrame s s') : PFrame s s' := by
  refine ⟨h.size, fun m => ?_, h.key, h.pc⟩
  have := h.node m
  simp only [Quiet.nodeKeyP, Prod.mk.injEq] at this
  simp only [nodeKeyP, Prod.mk.injEq]
  exact ⟨this.1, this.2.1, this.2.2.1, this.2.2.2.1, this.2.2.2.2.1, this.2.2.2.2.2.1,
    this.2.2.2.2.2.2.1, this.2.2.2.2.2.2.2.1⟩

theorem CFrame.toP {s s' : State} (h : CFrame s s') : PFrame s s' := PFrame.of_quiet (Quiet.CFrame.toP h)

/-! ## the bookkeeping of update handlers -/

/-- the handlers registered on observer `o` -/
def hOf (s : State) (o : Nat) : List HandlerRec :=
  match s.observers[o]? with
  | some ob => ob.handlers
  | none => []

/-- the number of handlers registered on the observers in the observer list of node `n` -/
def numOf (s : State) (n : Nat) : Int :=
  ((s.nodeD n).observers.map fun o => ((hOf s o).length : Int)).sum

/-- the `previous_update_kind`s that occur in the static fragment -/
def PrevOK : Previously → Prop
  | .neverBeenUpdated | .necessary | .changed => True
  | _ => False

/-- the queue of nodes whose handlers run at the end of the stabilisation, and the per-node flag -/
structure HasOK (s : State) : Prop where
  nodup : s.handleAfterStab.Nodup
  flag : ∀ n, n ∈ s.handleAfterStab ↔ (s.nodeD n).inHandleAfterStab = true

/-- what the model maintains about update handlers -/
structure HInv (s : State) : Prop where
  /-- `num_on_update_handlers` of a node = the number of handlers registered on its linked (in use or
  disallowed, not yet unlinked) observers; handlers of `created` observers are counted when the observer is
  linked -/
  count : ∀ n, (s.nodeD n).numOnUpdateHandlers = numOf s n
  obsNodup : ∀ n, (s.nodeD n).observers.Nodup
  /-- registered tokens have been issued and belong to one observer -/
  tok : Life.TokWF s
  tokNodup : ∀ (o : Nat) (ob : ObsRec), s.observers[o]? = some ob → (ob.handlers.map (·.token)).Nodup
  has : HasOK s
  createdAt : ∀ (o : Nat) (ob : ObsRec) (h : HandlerRec), s.observers[o]? = some ob → h ∈ ob.handlers →
    h.createdAt ≤ s.stabNum
  prev : ∀ (o : Nat) (ob : ObsRec) (h : HandlerRec), s.observers[o]? = some ob → h ∈ ob.handlers →
    PrevOK h.prev
  /-- a handler that has not been called yet, on an observer that is (or will be) in use: its node is queued -/
  pending : ∀ (o : Nat) (ob : ObsRec) (h : HandlerRec), s.observers[o]? = some ob →
    (ob.state = .created ∨ ob.state = .inUse) → h ∈ ob.handlers → h.prev = .neverBeenUpdated →
    ob.node ∈ s.handleAfterStab

/-- **the invariant between API actions of the fragment with subscriptions** -/
structure UInv (env : Env) (s : State) : Prop where
  core : QInv env s
  hinv : HInv s

theorem hOf_of_some {s : State} {o : Nat} {ob : ObsRec} (h : s.observers[o]? = some ob) :
    hOf s o = ob.handlers := by simp [hOf, h]

theorem hOf_congr {s s' : State} (h : s'.observers = s.observers) (o : Nat) : hOf s' o = hOf s o := by
  simp [hOf, h]

theorem numOf_congr {s s' : State} (h : s'.observers = s.observers)
    (hn : ∀ n, (s'.nodeD n).observers = (s.nodeD n).observers) (n : Nat) : numOf s' n = numOf s n := by
  unfold numOf
  rw [hn]
  congr 1
  exact List.map_congr_left fun o _ => by rw [hOf_congr h]

/-- `HInv` reads: the observer records, `nextToken`, `stabNum`, `handleAfterStab`, and of every node its
observer list, handler count and queue flag -/
theorem HInv.congr {s s' : State} (H : HInv s) (h1 : s'.observers = s.observers)
    (h2 : s'.nextToken = s.nextToken) (h3 : s'.stabNum = s.stabNum)
    (h4 : s'.handleAfterStab = s.handleAfterStab)
    (h5 : ∀ n, (s'.nodeD n).observers = (s.nodeD n).observers)
    (h6 : ∀ n, (s'.nodeD n).numOnUpdateHandlers = (s.nodeD n).numOnUpdateHandlers)
    (h7 : ∀ n, (s'.nodeD n).inHandleAfterStab = (s.nodeD n).inHandleAfterStab) : HInv s' where
  count n := by rw [h6, numOf_congr h1 h5]; exact H.count n
  obsNodup n := by rw [h5]; exact H.obsNodup n
  tok := Life.TokStep.of_obs h1 h2 H.tok
  tokNodup o ob ho := by rw [h1] at ho; exact H.tokNodup o ob ho
  has := ⟨by rw [h4]; exact H.has.nodup, fun n => by rw [h4, h7]; exact H.has.flag n⟩
  createdAt o ob h ho hh := by rw [h1] at ho; rw [h3]; exact H.createdAt o ob h ho hh
  prev o ob h ho hh := by rw [h1] at ho; exact H.prev o ob h ho hh
  pending o ob h ho hs hh hp := by rw [h1] at ho; rw [h4]; exact H.pending o ob h ho hs hh hp

theorem HInv.of_nodes {s s' : State} (H : HInv s) (h1 : s'.observers = s.observers)
    (h2 : s'.nextToken = s.nextToken) (h3 : s'.stabNum = s.stabNum)
    (h4 : s'.handleAfterStab = s.handleAfterStab) (h5 : s'.nodes = s.nodes) : HInv s' := by
  have hnd : ∀ m, s'.nodeD m = s.nodeD m := fun m => by simp [State.nodeD, h5]
  exact H.congr h1 h2 h3 h4 (fun n => by rw [hnd]) (fun n => by rw [hnd]) (fun n => by rw [hnd])

theorem hinv_init (N : Nat) (d : Bool) : HInv (State.init N d) := by
  have hnd : ∀ m, (State.init N d).nodeD m = default := init_nodeD N d
  have hobs : ∀ (o : Nat) (ob : ObsRec), (State.init N d).observers[o]? = some ob → False := by
    intro o ob h; simp [State.init] at h
  refine ⟨fun n => ?_, fun n => ?_, Life.TokWF.init N d, fun o ob h => (hobs o ob h).elim,
    ⟨List.nodup_nil, fun n => ?_⟩, fun o ob _ h => (hobs o ob h).elim, fun o ob _ h => (hobs o ob h).elim,
    fun o ob _ h => (hobs o ob h).elim⟩
  · unfold numOf; rw [hnd]; rfl
  · rw [hnd]; exact List.nodup_nil
  · rw [hnd]; simp [State.init]
    rfl

/-! ## the frame of the actions that touch neither observers nor handlers (creation, writes, reads) -/

/-- what `HInv` and the subscription theorems read of a node -/
def hKey (nd : Node) := (nd.observers, nd.numOnUpdateHandlers, nd.inHandleAfterStab, nd.value)

structure KFrame (s s' : State) : Prop where
  observers : s'.observers = s.observers
  nextToken : s'.nextToken = s.nextToken
  stabNum : s'.stabNum = s.stabNum
  handleAfterStab : s'.handleAfterStab = s.handleAfterStab
  log : s'.log = s.log
  node : ∀ m, hKey (s'.nodeD m) = hKey (s.nodeD m)

theorem KFrame.refl (s : State) : KFrame s s := ⟨rfl, rfl, rfl, rfl, rfl, fun _ => rfl⟩

theorem KFrame.nk {s s' : State} (K : KFrame s s') (m : Nat) :
    (s'.nodeD m).observers = (s.nodeD m).observers ∧
    (s'.nodeD m).numOnUpdateHandlers = (s.nodeD m).numOnUpdateHandlers ∧
    (s'.nodeD m).inHandleAfterStab = (s.nodeD m).inHandleAfterStab ∧
    (s'.nodeD m).value = (s.nodeD m).value := by
  have := K.node m
  simpa only [hKey, Prod.mk.injEq] using this

theorem KFrame.hinv {s s' : State} (K : KFrame s s') (H : HInv s) : HInv s' :=
  H.congr K.observers K.nextToken K.stabNum K.handleAfterStab (fun n => (K.nk n).1) (fun n => (K.nk n).2.1)
    (fun n => (K.nk n).2.2.1)

end IncrVerif.Proofs.SubsH
