import IncrVerif.Proofs.Sched11
import IncrVerif.Proofs.Sched6
/-!
# Termination of the drain: with enough fuel `drainHeap` returns

`unrun s` counts the nodes not yet recomputed in the current round.  Every `recomputeOne` of the drain
lowers it by one, so `drainHeap env fuel` returns as soon as `fuel ≥ unrun s + 2` — in particular when
`fuel ≥ s.nodes.size + 2`.
-/
namespace IncrVerif.Proofs.Sched
open IncrVerif.Engine IncrVerif.Proofs IncrVerif.Proofs.Step

/-- number of nodes whose `recomputedAt` stamp is older than the current round -/
def unrun (s : State) : Nat :=
  (List.range s.nodes.size).countP fun m => decide ((s.nodeD m).recomputedAt < s.stabNum)

theorem countP_le_of_imp {α} (l : List α) (p q : α → Bool) (h : ∀ a, a ∈ l → p a = true → q a = true) :
    l.countP p ≤ l.countP q := by
  induction l with
  | nil => exact Nat.le_refl _
  | cons a l ih =>
    have ih' := ih (fun b hb => h b (List.mem_cons_of_mem _ hb))
    have ha := h a (List.mem_cons_self ..)
    simp only [List.countP_cons]
    cases hp : p a with
    | false => simp only [Bool.false_eq_true, if_false]; split <;> omega
    | true => rw [ha hp]; simp only [if_true]; omega

theorem countP_lt_of_imp {α} (l : List α) (p q : α → Bool) (h : ∀ a, a ∈ l → p a = true → q a = true)
    (x : α) (hx : x ∈ l) (hq : q x = true) (hp : p x = false) : l.countP p < l.countP q := by
  induction l with
  | nil => cases hx
  | cons a l ih =>
    have hle := countP_le_of_imp l p q (fun b hb => h b (List.mem_cons_of_mem _ hb))
    simp only [List.countP_cons]
    rcases List.mem_cons.1 hx with rfl | hx
    · rw [hq, hp]; simp only [if_true, Bool.false_eq_true, if_false]; omega
    · have ih' := ih (fun b hb => h b (List.mem_cons_of_mem _ hb)) hx
      have ha := h a (List.mem_cons_self ..)
      cases hpa : p a with
      | false => simp only [Bool.false_eq_true, if_false]; split <;> omega
      | true => rw [ha hpa]; simp only [if_true]; omega

theorem unrun_le_size (s : State) : unrun s ≤ s.nodes.size := by
  unfold unrun
  have := List.countP_le_length (p := fun m => decide ((s.nodeD m).recomputedAt < s.stabNum))
    (l := List.range s.nodes.size)
  simpa using this

/-- the count never goes up within a round -/
theorem Frame.unrun_le {s s' : State} (f : Frame s s') (st : Stamps s) : unrun s' ≤ unrun s := by
  unfold unrun
  rw [f.size, f.stabNum]
  apply countP_le_of_imp
  intro m _ hm
  have := f.not_yet st (m := m) (by simpa using hm)
  simpa using this

/-- … and goes down when a node gets its stamp -/
theorem Frame.unrun_lt {s s' : State} (f : Frame s s') (st : Stamps s) {n : Nat} (hn : n < s.nodes.size)
    (h0 : (s.nodeD n).recomputedAt < s.stabNum) (h1 : (s'.nodeD n).recomputedAt = s.stabNum) :
    unrun s' < unrun s := by
  unfold unrun
  rw [f.size, f.stabNum]
  refine countP_lt_of_imp _ _ _ ?_ n (List.mem_range.2 hn) (by simpa using h0) (by simp [h1])
  intro m _ hm
  have := f.not_yet st (m := m) (by simpa using hm)
  simpa using this

theorem unrun_pos {s : State} {n : Nat} (hn : n < s.nodes.size)
    (h0 : (s.nodeD n).recomputedAt < s.stabNum) : 0 < unrun s := by
  unfold unrun
  exact List.countP_pos_iff.2 ⟨n, List.mem_range.2 hn, by simpa using h0⟩

/-- **the drain terminates**: with `fuel ≥ unrun s + 2` a `drainHeap` from a state with the drain
invariant and `Safe` returns (`Drain.drainHeap_total`: every step stamps its node, so the measure `unrun` goes down) -/
theorem drainHeap_total {env : Env} : ∀ (fuel : Nat) (s : State), DrainInv env s → Safe s →
    unrun s + 2 ≤ fuel → ∃ s', (drainHeap env fuel).run.run s = (.ok (), s') := by
  intro fuel s I S hf
  refine Drain.drainHeap_total (st := id) (J := fun s cur => Inv env s cur ∧ Safe s) (μ := unrun) (need := fun _ => 0)
    (fun s n fuel I hf => ?_) (fun s I => ?_) fuel s ⟨I, S⟩ (by omega)
  · obtain ⟨I, S⟩ := I
    rcases h1 : (recomputeOne env fuel n).run.run s with ⟨pe | r, s1⟩
    · have := (recomputeOne_safe I S h1).2
      omega
    · obtain ⟨I1, f1, hn1⟩ := recomputeOne_inv I h1
      have hnlt := (I.graph.nec n (I.cur n rfl).1).1
      exact ⟨r, s1, h1, ⟨I1, recomputeOne_keeps_safe I S h1⟩, f1.unrun_lt I.stamps hnlt I.cur_not_yet hn1, Nat.le_refl _⟩
  · obtain ⟨I, S⟩ := I
    obtain ⟨r, s1, hpop, S1⟩ := rchRemoveMin_safe I S
    refine ⟨r, s1, hpop, fun n hr => ?_⟩
    subst hr
    obtain ⟨I1, f1⟩ := pop_inv I hpop
    exact ⟨s1, rfl, ⟨I1, S1⟩, f1.unrun_le I.stamps, Nat.le_refl _⟩

/-- **total correctness of the drain.** From the drain invariant and `Safe`, with
`fuel ≥ s.nodes.size + 2`, `drainHeap` returns; the final state satisfies the drain invariant, has an
empty heap, and every necessary node carries its from-scratch value. -/
theorem drainHeap_total_values {env : Env} {fuel : Nat} {s : State} (I : DrainInv env s) (S : Safe s)
    (hf : s.nodes.size + 2 ≤ fuel) :
    ∃ s', (drainHeap env fuel).run.run s = (.ok (), s') ∧ DrainInv env s' ∧ s'.rch.length = 0 ∧
      Frame s s' ∧ ∀ n, s.isNecessary n = true → ∀ k, (s.nodeD n).height.toNat < k →
        s'.isStale n = false ∧ s'.value env n = eval env s k n ∧ (eval env s k n).isSome = true := by
  have := unrun_le_size s
  obtain ⟨s', h⟩ := drainHeap_total fuel s I S (by omega)
  obtain ⟨I', he, f⟩ := drainHeap_inv fuel s s' I h
  refine ⟨s', h, I', he, f, ?_⟩
  intro n hn k hk
  obtain ⟨-, -, -, h4, -, h6, h7⟩ := drainHeap_values I h n hn k hk
  exact ⟨h4, h6, h7⟩

end IncrVerif.Proofs.Sched
