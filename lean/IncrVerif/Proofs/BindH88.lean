import IncrVerif.Proofs.BindH78
/-!
# Binds, part 4 (B4), writes: what a variable write outside `stabilise` keeps (`C2w.WRel1`)

A write outside `stabilise` changes one cell and possibly inserts the cell's watch node (a top-level `var` node, hence valid) into the recompute heap.
-/
namespace IncrVerif.Proofs.BindH
open IncrVerif.Engine IncrVerif.Driver IncrVerif.Proofs IncrVerif.Proofs.Step IncrVerif.Proofs.Sched IncrVerif.Proofs.Quiet

namespace C2w

/-- `Quiet.WRel` plus the tables that graphs with binds read -/
structure WRel1 (v : Nat) (vc : VarCell) (x : Val) (s s' : State) : Prop extends WRel v vc x s s' where
  binds : s'.binds = s.binds
  experts : s'.experts = s.experts
  ahh : s'.ahh = s.ahh

section rel
variable {env : Env} {s s' : State} {v : Nat} {vc : VarCell} {x : Val}

theorem WRel1.kind (R : WRel1 v vc x s s') (m : Nat) : (s'.nodeD m).kind = (s.nodeD m).kind := R.toWRel.kind m
theorem WRel1.parents (R : WRel1 v vc x s s') (m : Nat) : (s'.nodeD m).parents = (s.nodeD m).parents := R.toWRel.parents m
theorem WRel1.nodeObs (R : WRel1 v vc x s s') (m : Nat) : (s'.nodeD m).observers = (s.nodeD m).observers :=
  R.toWRel.nodeObs m
theorem WRel1.height (R : WRel1 v vc x s s') (m : Nat) : (s'.nodeD m).height = (s.nodeD m).height := R.toWRel.height m
theorem WRel1.recomputedAt (R : WRel1 v vc x s s') (m : Nat) :
    (s'.nodeD m).recomputedAt = (s.nodeD m).recomputedAt := R.toWRel.recomputedAt m
theorem WRel1.changedAt (R : WRel1 v vc x s s') (m : Nat) :
    (s'.nodeD m).changedAt = (s.nodeD m).changedAt := R.toWRel.changedAt m
theorem WRel1.value (R : WRel1 v vc x s s') (m : Nat) : (s'.nodeD m).value = (s.nodeD m).value := R.toWRel.value m
theorem WRel1.handlers (R : WRel1 v vc x s s') (m : Nat) :
    (s'.nodeD m).numOnUpdateHandlers = (s.nodeD m).numOnUpdateHandlers := R.toWRel.handlers m
theorem WRel1.nec (R : WRel1 v vc x s s') (m : Nat) : s'.isNecessary m = s.isNecessary m := R.toWRel.nec m
theorem WRel1.valid (R : WRel1 v vc x s s') (m : Nat) : (s'.nodeD m).valid = (s.nodeD m).valid := by
  obtain ⟨h, e⟩ := R.node m; rw [e]
theorem WRel1.createdIn (R : WRel1 v vc x s s') (m : Nat) : (s'.nodeD m).createdIn = (s.nodeD m).createdIn := by
  obtain ⟨h, e⟩ := R.node m; rw [e]
theorem WRel1.force (R : WRel1 v vc x s s') (m : Nat) :
    (s'.nodeD m).forceNecessary = (s.nodeD m).forceNecessary := by
  obtain ⟨h, e⟩ := R.node m; rw [e]
theorem WRel1.heightInAhh (R : WRel1 v vc x s s') (m : Nat) :
    (s'.nodeD m).heightInAhh = (s.nodeD m).heightInAhh := by
  obtain ⟨h, e⟩ := R.node m; rw [e]
theorem WRel1.shape (R : WRel1 v vc x s s') (m : Nat) : SameShape (s.nodeD m) (s'.nodeD m) := by
  obtain ⟨h, e⟩ := R.node m
  rw [e]; exact ⟨rfl, rfl, rfl, rfl, rfl, rfl, rfl, rfl⟩

theorem WRel1.children (R : WRel1 v vc x s s') (m : Nat) : s'.children m = s.children m := by
  unfold State.children Node.kind?
  rw [R.kind, R.valid, R.binds, R.experts]

/-- staleness of a node that is not a `var v` node does not change -/
theorem WRel1.isStale_eq (R : WRel1 v vc x s s') {m : Nat} (hm : (s.nodeD m).kind ≠ .var v) :
    s'.isStale m = s.isStale m := by
  unfold State.isStale
  simp only [R.children, Node.kind?, R.kind, R.valid, R.recomputedAt, R.changedAt, R.experts]
  cases hv : (s.nodeD m).valid
  · rfl
  · cases hk : (s.nodeD m).kind <;> try rfl
    rename_i c
    have hc : c ≠ v := by
      intro e; rw [e] at hk; exact hm hk
    simp only [if_true, R.other c hc]

/-- a valid `var v` node stamped in an earlier round is stale afterwards -/
theorem WRel1.isStale_watch (R : WRel1 v vc x s s') {m : Nat} (hk : (s.nodeD m).kind = .var v)
    (hval : (s.nodeD m).valid = true) (hr : (s.nodeD m).recomputedAt < s.stabNum) : s'.isStale m = true := by
  unfold State.isStale
  simp only [Node.kind?, R.kind, R.valid, R.recomputedAt, hk, hval, if_true, R.var]
  simpa using hr

/-- the target of a node that is not a `var v` node does not change -/
theorem WRel1.targetB (R : WRel1 v vc x s s') {m : Nat} {w : Val}
    (hm : (s.nodeD m).kind ≠ .var v) (h : TargetB env s m w) : TargetB env s' m w := by
  have hT : Target env s m w → Target env s' m w := R.toWRel.target hm
  unfold TargetB at h ⊢
  rw [R.kind]
  cases hk : (s.nodeD m).kind with
  | bindLhsChange b => rw [hk] at h; exact h
  | bindMain b lc =>
    rw [hk] at h
    obtain ⟨br, r, h1, h2, h3⟩ := h
    exact ⟨br, r, by rw [R.binds]; exact h1, h2, by rw [R.value]; exact h3⟩
  | const _ => rw [hk] at h; exact hT h
  | var _ => rw [hk] at h; exact hT h
  | map _ _ => rw [hk] at h; exact hT h
  | fold _ _ _ => rw [hk] at h; exact hT h
  | mapRef _ _ => rw [hk] at h; exact hT h
  | mapWithOld _ _ => rw [hk] at h; exact hT h
  | expert _ => rw [hk] at h; exact hT h

end rel

/-- the write actions and the read-only actions, for an invariant `P` that a successful `writeVar` keeps -/
theorem step_write_p {P : State → Prop}
    (hw : ∀ {s s' : State} {v : Nat} {f : Val → Val} {isSet : Bool} {r : Val}, P s →
      (writeVar v f isSet).run.run s = (.ok r, s') → P s')
    {env : Env} {s s' : State} {a : Action} {tokens : Array Nat} {r : String × Array Nat}
    (Q : P s) (ha : Quiet.WriteOrRead a) (h : (stepAction env a tokens).run.run s = (.ok r, s')) :
    P s' := by
  cases a <;> try exact ha.elim
  case set v x =>
    unfold stepAction at h
    dsimp only at h
    obtain ⟨_, s1, h1, h2⟩ := bind_ok_inv h
    obtain ⟨-, e2⟩ := pure_ok_inv h2
    obtain ⟨r1, h1⟩ := discard_ok_inv h1
    rw [e2]; exact hw Q h1
  case modify v d =>
    unfold stepAction at h
    dsimp only at h
    obtain ⟨_, s1, h1, h2⟩ := bind_ok_inv h
    obtain ⟨-, e2⟩ := pure_ok_inv h2
    obtain ⟨r1, h1⟩ := discard_ok_inv h1
    rw [e2]; exact hw Q h1
  case update v d =>
    unfold stepAction at h
    dsimp only at h
    obtain ⟨_, s1, h1, h2⟩ := bind_ok_inv h
    obtain ⟨-, e2⟩ := pure_ok_inv h2
    obtain ⟨r1, h1⟩ := discard_ok_inv h1
    rw [e2]; exact hw Q h1
  case replace v x =>
    unfold stepAction at h
    dsimp only at h
    obtain ⟨_, s1, h1, h2⟩ := bind_ok_inv h
    obtain ⟨-, e2⟩ := pure_ok_inv h2
    rw [e2]; exact hw Q h1
  case replaceWith v d =>
    unfold stepAction at h
    dsimp only at h
    obtain ⟨_, s1, h1, h2⟩ := bind_ok_inv h
    obtain ⟨-, e2⟩ := pure_ok_inv h2
    rw [e2]; exact hw Q h1
  case get v =>
    unfold stepAction at h
    dsimp only at h
    obtain ⟨_, s1, h1, h2⟩ := bind_ok_inv h
    obtain ⟨-, e2⟩ := pure_ok_inv h2
    rw [e2, getVar_ok_inv h1]; exact Q
  case isStable =>
    unfold stepAction at h
    dsimp only at h
    rw [run_bind_get] at h
    obtain ⟨-, e2⟩ := pure_ok_inv h
    rw [e2]; exact Q
  case stats =>
    unfold stepAction at h
    dsimp only at h
    obtain ⟨-, e2⟩ := pure_ok_inv h
    rw [e2]; exact Q

end C2w

end IncrVerif.Proofs.BindH
