import IncrVerif.Proofs.BindH1
/-!
# Binds, part 1b: Boolean checkers for `Sched.HeapInv` and `OrderInv`, with soundness proofs

They serve two purposes: non-vacuity examples on states REACHED by running concrete histories
(`decide +kernel`), and — run outside the kernel on generated histories — a search for reachable states that
violate a proposed invariant.
-/
namespace IncrVerif.Proofs.BindH
open IncrVerif.Engine IncrVerif.Proofs IncrVerif.Proofs.Step IncrVerif.Proofs.Sched

/-- a Boolean predicate holds for every node index of the state -/
def allN (s : State) (P : Nat → Bool) : Bool := (List.range s.nodes.size).all P

theorem allN_sound {s : State} {P : Nat → Bool} (h : allN s P = true) (n : Nat) (hn : n < s.nodes.size) :
    P n = true := by
  unfold allN at h
  rw [List.all_eq_true] at h
  exact h n (List.mem_range.2 hn)

theorem nodeD_default' (s : State) (n : Nat) (h : ¬ n < s.nodes.size) : s.nodeD n = default :=
  nodeD_default_of_ge s n (by omega)

theorem not_nec_of_ge {s : State} {n : Nat} (h : ¬ n < s.nodes.size) : s.isNecessary n = false := by
  rw [State.isNecessary, nodeD_default' s n h]; rfl

theorem not_inRch_of_ge {s : State} {n : Nat} (h : ¬ n < s.nodes.size) : (s.nodeD n).inRch = false := by
  rw [nodeD_default' s n h]; rfl

/-! ## the heap -/

/-- every bucket -/
def allB (s : State) (P : Nat → List Nat → Bool) : Bool :=
  (List.range s.rch.queues.size).all fun h => P h (s.rch.queues[h]?.getD [])

theorem allB_sound {s : State} {P : Nat → List Nat → Bool} (h : allB s P = true) (i : Nat)
    (hi : i < s.rch.queues.size) : P i s.rch.queues[i] = true := by
  unfold allB at h
  rw [List.all_eq_true] at h
  have := h i (List.mem_range.2 hi)
  rw [Array.getElem?_eq_getElem hi] at this
  exact this

def heapWFB (s : State) : Bool :=
  allB s (fun h q => q.all fun n => decide (n < s.nodes.size) && decide ((s.nodeD n).heightInRch = (h : Int)))
  && allN s (fun n => allB s fun h q => !decide ((s.nodeD n).heightInRch = (h : Int)) || q.contains n)
  && allB s (fun _ q => decide q.Nodup)
  && decide (s.rch.length = bucketSum s.rch.queues)
  && allN s (fun n => decide ((s.nodeD n).heightInRch = -1) ||
      (decide (0 ≤ (s.nodeD n).heightInRch) && decide ((s.nodeD n).heightInRch < (s.rch.queues.size : Int))))

theorem heapWFB_sound {s : State} (h : heapWFB s = true) : HeapWF s := by
  unfold heapWFB at h
  simp only [Bool.and_eq_true] at h
  obtain ⟨⟨⟨⟨h1, h2⟩, h3⟩, h4⟩, h5⟩ := h
  refine ⟨?_, ?_, of_decide_eq_true h4, ?_⟩
  · intro i hi n
    constructor
    · intro hm
      have := allB_sound h1 i hi
      rw [List.all_eq_true] at this
      have := this n hm
      simp only [Bool.and_eq_true, decide_eq_true_eq] at this
      exact this
    · rintro ⟨hn, hk⟩
      have := allB_sound (allN_sound h2 n hn) i hi
      simp only [Bool.or_eq_true, Bool.not_eq_true', decide_eq_false_iff_not] at this
      rcases this with h | h
      · exact absurd hk h
      · exact List.contains_iff_mem.1 h
  · intro i hi
    exact of_decide_eq_true (allB_sound h3 i hi)
  · intro n hn
    have := allN_sound h5 n hn
    simp only [Bool.or_eq_true, Bool.and_eq_true, decide_eq_true_eq] at this
    exact this

def heapInvB (s : State) : Bool :=
  heapWFB s
  && allN s (fun m => !(s.nodeD m).inRch ||
      (decide ((s.nodeD m).heightInRch = (s.nodeD m).height) && decide (s.rch.lowerBound ≤ (s.nodeD m).height)
        && s.isNecessary m))
  && decide (0 ≤ s.rch.lowerBound)

theorem heapInvB_sound {s : State} (h : heapInvB s = true) : HeapInv s := by
  unfold heapInvB at h
  simp only [Bool.and_eq_true] at h
  obtain ⟨⟨h1, h2⟩, h3⟩ := h
  have key : ∀ m, (s.nodeD m).inRch = true →
      (s.nodeD m).heightInRch = (s.nodeD m).height ∧ s.rch.lowerBound ≤ (s.nodeD m).height ∧
        s.isNecessary m = true := by
    intro m hm
    have := allN_sound h2 m (lt_size_of_inRch hm)
    simp only [hm, Bool.not_true, Bool.false_or, Bool.and_eq_true, decide_eq_true_eq] at this
    exact ⟨this.1.1, this.1.2, this.2⟩
  exact ⟨heapWFB_sound h1, fun m hm => (key m hm).1, fun m hm => (key m hm).2.1, of_decide_eq_true h3,
    fun m hm => (key m hm).2.2⟩

/-! ## the ordering invariants -/

/-- the bind a node was created in -/
def scopeBind (s : State) (n : Nat) : Option (Nat × BindRec) :=
  match (s.nodeD n).createdIn with
  | .top => none
  | .bind b => (s.binds[b]?).map fun br => (b, br)

theorem scopeBind_some {s : State} {n b : Nat} {br : BindRec} (hsc : (s.nodeD n).createdIn = .bind b)
    (hb : s.binds[b]? = some br) : scopeBind s n = some (b, br) := by
  simp only [scopeBind, hsc, hb, Option.map_some]

def scopeB (s : State) : Bool :=
  allN s fun n => !((s.nodeD n).valid && s.isNecessary n) ||
    match scopeBind s n with
    | none => true
    | some (_, br) => decide (br.lhsChange < s.nodes.size) &&
        decide ((s.nodeD br.lhsChange).height < (s.nodeD n).height) && s.isNecessary br.lhsChange

def pendingB (s : State) (x : Option Nat) : Bool :=
  allN s fun m => !(s.isNecessary m && s.isStale m) || (s.nodeD m).inRch || decide (x = some m)

def mainLcB (s : State) : Bool :=
  allN s fun p => !((s.nodeD p).valid && s.isNecessary p) ||
    match (s.nodeD p).kind with
    | .bindMain _ lc' => decide (lc' < s.nodes.size) && (s.nodeD lc').valid && s.isNecessary lc' &&
        decide ((s.nodeD lc').createdIn = (s.nodeD p).createdIn)
    | _ => true

def lcParB (s : State) : Bool :=
  (List.range s.binds.size).all fun b =>
    match s.binds[b]? with
    | none => true
    | some br => (s.nodeD br.lhsChange).parents.all fun pi => decide ((s.nodeD pi.1).createdIn ≠ .bind b)

def orderInvB (s : State) (x : Option Nat) : Bool :=
  heapInvB s && scopeB s && pendingB s x && mainLcB s && lcParB s

theorem orderInvB_sound {s : State} {x : Option Nat} (h : orderInvB s x = true) : OrderInv s x := by
  unfold orderInvB at h
  simp only [Bool.and_eq_true] at h
  obtain ⟨⟨⟨⟨h1, h2⟩, h3⟩, h4⟩, h5⟩ := h
  have sc : ∀ n b br, (s.nodeD n).valid = true → s.isNecessary n = true →
      (s.nodeD n).createdIn = .bind b → s.binds[b]? = some br →
      br.lhsChange < s.nodes.size ∧ (s.nodeD br.lhsChange).height < (s.nodeD n).height ∧
        s.isNecessary br.lhsChange = true := by
    intro n b br hv hn hsc hb
    have := allN_sound h2 n (nec_lt_size hn)
    simp only [hv, hn, Bool.and_self, Bool.not_true, Bool.false_or, scopeBind_some hsc hb,
      Bool.and_eq_true, decide_eq_true_eq] at this
    exact ⟨this.1.1, this.1.2, this.2⟩
  refine ⟨heapInvB_sound h1, fun n b br hv hn hsc hb => ⟨(sc n b br hv hn hsc hb).1, (sc n b br hv hn hsc hb).2.1⟩,
    fun n b br hv hn hsc hb => (sc n b br hv hn hsc hb).2.2, ?_, ?_, ?_⟩
  · intro m hn hst
    have := allN_sound h3 m (nec_lt_size hn)
    simp only [hn, hst, Bool.and_self, Bool.not_true, Bool.false_or, Bool.or_eq_true,
      decide_eq_true_eq] at this
    exact this
  · intro p b' lc' hv hn hk
    have := allN_sound h4 p (nec_lt_size hn)
    simp only [hv, hn, Bool.and_self, Bool.not_true, Bool.false_or, hk, Bool.and_eq_true,
      decide_eq_true_eq] at this
    exact ⟨this.1.1.1, this.1.1.2, this.1.2, this.2⟩
  · intro b br p i hb hp
    unfold lcParB at h5
    rw [List.all_eq_true] at h5
    have hlt : b < s.binds.size := (Array.getElem?_eq_some_iff.1 hb).1
    have := h5 b (List.mem_range.2 hlt)
    simp only [hb, List.all_eq_true, decide_eq_true_eq] at this
    exact this (p, i) hp

end IncrVerif.Proofs.BindH
