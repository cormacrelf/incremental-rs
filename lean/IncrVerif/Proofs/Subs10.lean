import IncrVerif.Proofs.Subs6
import IncrVerif.Proofs.Subs7
import IncrVerif.Proofs.Subs8
import IncrVerif.Proofs.Subs9
/-!
# Subscriptions, part 10: `stabilise` with pending observers and effect-free update handlers

`stabilise_u` (after `Quiet.stabilise_q` of `Proofs/Quiet16.lean`): from `UInv`, a `stabilise` that returns ends in
`UInv`; `MidState` describes the state between the drain and `stabilise_end`.
-/
namespace IncrVerif.Proofs.SubsH
open IncrVerif.Engine IncrVerif.Driver IncrVerif.Proofs IncrVerif.Proofs.Step IncrVerif.Proofs.Sched IncrVerif.Proofs.Quiet

/-! ## reading `PFrame` -/

namespace PFrame
variable {s s' : State}

theorem nk (h : PFrame s s') (m : Nat) :
    (s'.nodeD m).kind = (s.nodeD m).kind ∧ (s'.nodeD m).createdIn = (s.nodeD m).createdIn ∧
    (s'.nodeD m).cutoff = (s.nodeD m).cutoff ∧ (s'.nodeD m).value = (s.nodeD m).value ∧
    (s'.nodeD m).valid = (s.nodeD m).valid ∧ (s'.nodeD m).recomputedAt = (s.nodeD m).recomputedAt ∧
    (s'.nodeD m).changedAt = (s.nodeD m).changedAt ∧
    (s'.nodeD m).forceNecessary = (s.nodeD m).forceNecessary := by
  have := h.node m
  simpa only [nodeKeyP, Prod.mk.injEq] using this

theorem kind (h : PFrame s s') (m : Nat) : (s'.nodeD m).kind = (s.nodeD m).kind := (h.nk m).1
theorem value (h : PFrame s s') (m : Nat) : (s'.nodeD m).value = (s.nodeD m).value := (h.nk m).2.2.2.1
theorem recomputedAt (h : PFrame s s') (m : Nat) :
    (s'.nodeD m).recomputedAt = (s.nodeD m).recomputedAt := (h.nk m).2.2.2.2.2.1
theorem changedAt (h : PFrame s s') (m : Nat) :
    (s'.nodeD m).changedAt = (s.nodeD m).changedAt := (h.nk m).2.2.2.2.2.2.1
theorem sk (h : PFrame s s') :
    s'.vars = s.vars ∧ s'.stabNum = s.stabNum ∧ s'.status = s.status ∧ s'.cfg = s.cfg ∧
    s'.currentScope = s.currentScope ∧ s'.setDuringStab = s.setDuringStab ∧ s'.deadVars = s.deadVars ∧
    s'.top = s.top ∧ s'.handles = s.handles ∧ s'.alive = s.alive ∧
    s'.rch.queues.size = s.rch.queues.size ∧ s'.ahh = s.ahh ∧ s'.binds = s.binds ∧ s'.memos = s.memos ∧
    s'.slots = s.slots := by
  have := h.key
  simpa only [stateKeyP, Prod.mk.injEq] using this

theorem vars (h : PFrame s s') : s'.vars = s.vars := h.sk.1
theorem stabNum (h : PFrame s s') : s'.stabNum = s.stabNum := h.sk.2.1
theorem status (h : PFrame s s') : s'.status = s.status := h.sk.2.2.1
theorem setDuringStab (h : PFrame s s') : s'.setDuringStab = s.setDuringStab := h.sk.2.2.2.2.2.1
theorem deadVars (h : PFrame s s') : s'.deadVars = s.deadVars := h.sk.2.2.2.2.2.2.1
theorem top (h : PFrame s s') : s'.top = s.top := h.sk.2.2.2.2.2.2.2.1
theorem alive (h : PFrame s s') : s'.alive = s.alive := h.sk.2.2.2.2.2.2.2.2.2.1

theorem staleOf (h : PFrame s s') (m : Nat) : staleOf s' m = staleOf s m :=
  staleOf_congr (h.kind m) (h.recomputedAt m) h.vars (fun c _ => h.changedAt c)

theorem consistent {env : Env} (h : PFrame s s') {m : Nat} (hc : Consistent env s m) :
    Consistent env s' m := by
  obtain ⟨w, hw, hv⟩ := hc
  exact ⟨w, Target.congr (h.kind m) h.vars (fun c _ => h.value c) hw, by rw [h.value]; exact hv⟩

theorem varsOK (h : PFrame s s') (V : VarsOK s) : VarsOK s' where
  node n c hn hk := by
    rw [h.size] at hn
    rw [h.kind] at hk
    rw [h.vars]; exact V.node n c hn hk
  cell c vc hc := by
    rw [h.vars] at hc
    rw [h.size, h.kind]; exact V.cell c vc hc

end PFrame

/-! ## `stabilise` -/

/-- fields of the state that the observer bookkeeping does not read (observer lists instead of nodes) -/
theorem obsInv_congr' {s s' : State} {pn pd : List Nat} (O : ObsInv s pn pd)
    (h1 : s'.observers = s.observers) (h2 : s'.nodes.size = s.nodes.size)
    (h3 : ∀ m, (s'.nodeD m).observers = (s.nodeD m).observers) : ObsInv s' pn pd := by
  refine ⟨?_, ?_, ?_, ?_, ?_, ?_, O.disNodup⟩
  · intro o ob h; rw [h1] at h; rw [h2]; exact O.inRange o ob h
  · intro n o; rw [h3, h1]; exact O.mem n o
  · intro o ob h; rw [h1] at h; exact O.created o ob h
  · intro o h; rw [h1]; exact O.newIn o h
  · intro o ob h; rw [h1] at h; exact O.dis o ob h
  · intro o h; rw [h1]; exact O.disIn o h

/-- `t3` is the state between the drain and `stabiliseEnd` of a `stabilise` from `s` to `s'` -/
structure MidState (env : Env) (s t3 s' : State) : Prop where
  ended : Ended env t3 s'
  /-- nothing was delivered before the end of the drain -/
  log : ∃ pre, t3.log = pre ++ s.log ∧ ∀ e, e ∈ pre → NotNotif e
  handlers : ∀ o, hOf t3 o = hOf s o
  obs : ObsInv t3 [] []
  obsMap : ObsMap stabilisedState s t3
  hinv : HInv t3
  stabNum : t3.stabNum = s.stabNum
  nextToken : t3.nextToken = s.nextToken
  hval : ∀ n, t3.isNecessary n = true → (t3.nodeD n).valid = true ∧ (t3.value env n).isSome = true
  plain : ∀ n, t3.isNecessary n = true → t3.value env n = (t3.nodeD n).value
  /-- the cutoff is exact: stamped in this round iff the stored value changed -/
  valchg : ∀ m, ((t3.nodeD m).changedAt = s.stabNum ↔ (t3.nodeD m).value ≠ (s.nodeD m).value) ∧
    ((t3.nodeD m).changedAt ≠ s.stabNum → (t3.nodeD m).changedAt = (s.nodeD m).changedAt)
  /-- changed nodes with update handlers are queued -/
  queued : ∀ n, (t3.nodeD n).changedAt = s.stabNum → 0 < (t3.nodeD n).numOnUpdateHandlers →
    n ∈ t3.handleAfterStab

/-- `MidState` with `EndedH` for `Ended`: what the statements about notifications use of it -/
structure MidH (env : Env) (s t3 s' : State) : Prop where
  ended : EndedH env t3 s'
  log : ∃ pre, t3.log = pre ++ s.log ∧ ∀ e, e ∈ pre → NotNotif e
  handlers : ∀ o, hOf t3 o = hOf s o
  obs : ObsInv t3 [] []
  obsMap : ObsMap stabilisedState s t3
  hinv : HInv t3
  stabNum : t3.stabNum = s.stabNum
  nextToken : t3.nextToken = s.nextToken
  hval : ∀ n, t3.isNecessary n = true → (t3.nodeD n).valid = true ∧ (t3.value env n).isSome = true
  plain : ∀ n, t3.isNecessary n = true → t3.value env n = (t3.nodeD n).value
  valchg : ∀ m, ((t3.nodeD m).changedAt = s.stabNum ↔ (t3.nodeD m).value ≠ (s.nodeD m).value) ∧
    ((t3.nodeD m).changedAt ≠ s.stabNum → (t3.nodeD m).changedAt = (s.nodeD m).changedAt)
  queued : ∀ n, (t3.nodeD n).changedAt = s.stabNum → 0 < (t3.nodeD n).numOnUpdateHandlers →
    n ∈ t3.handleAfterStab

theorem MidState.toH {env : Env} {s t3 s' : State} (M : MidState env s t3 s') : MidH env s t3 s' :=
  ⟨M.ended.toH, M.log, M.handlers, M.obs, M.obsMap, M.hinv, M.stabNum, M.nextToken, M.hval, M.plain, M.valchg, M.queued⟩

/-- the conclusions of `stabilise_u` about the final state -/
structure Stabilised (env : Env) (fuel : Nat) (s s' : State) : Prop where
  inv : UInv env s'
  newObservers : s'.newObservers = []
  disallowedObservers : s'.disallowedObservers = []
  vars : s'.vars = s.vars
  stabNum : s'.stabNum = s.stabNum + 1
  size : s'.nodes.size = s.nodes.size
  kind : ∀ m, (s'.nodeD m).kind = (s.nodeD m).kind
  obs : ObsMap stabilisedState s s'
  /-- necessity only grew by `addNewObservers`… and this is what is necessary at the end -/
  values : ∀ n, s'.isNecessary n = true → ∀ k, (s'.nodeD n).height.toNat < k →
    (s'.nodeD n).valid = true ∧ s'.isStale n = false ∧ (s'.nodeD n).value = eval env s' k n ∧
      s'.value env n = eval env s' k n ∧ (eval env s' k n).isSome = true
  /-- the drain: it starts in a state `t` with the drain invariant and the final graph; no node runs
  twice, only necessary nodes run -/
  drain : ∃ t t3, DrainInv env t ∧ (drainHeap env fuel).run.run t = (.ok (), t3) ∧
    (∀ m, s'.isNecessary m = t.isNecessary m) ∧ t.vars = s.vars ∧ t.stabNum = s.stabNum ∧
    (∀ m, (t.nodeD m).kind = (s.nodeD m).kind) ∧
    (drainTrace env fuel t).Nodup ∧
    ∀ m, m ∈ drainTrace env fuel t → s'.isNecessary m = true ∧
      (t.nodeD m).recomputedAt < t.stabNum ∧ (s'.nodeD m).recomputedAt = s.stabNum
  /-- the update handlers -/
  mid : ∃ t3, MidState env s t3 s'
  /-- afterwards every handler of an observer in use has been called -/
  called : ∀ (o : Nat) (ob : ObsRec) (h : HandlerRec), s'.observers[o]? = some ob → ob.state = .inUse →
    h ∈ ob.handlers → h.prev ≠ .neverBeenUpdated

/-- **`stabilise` with pending observers and effect-free update handlers.** -/
theorem stabilise_u {env : Env} {fuel : Nat} {s s' : State} (U : UInv env s) (heff : PureHandlers env)
    (h : (stabilise env fuel).run.run s = (.ok (), s')) : Stabilised env fuel s s' := by
  have Q := U.core
  obtain ⟨t1, t2, t3, -, h1, h2, h3, h4⟩ := stabilise_phases.1 h
  obtain ⟨s0, hs0⟩ : ∃ s0 : State, s0 = { s with status := .stabilising } := ⟨_, rfl⟩
  rw [← hs0] at h1
  -- the state with the status set
  have hnd0 : ∀ m, s0.nodeD m = s.nodeD m := fun m => by rw [hs0]; rfl
  have S0 : SInv env s0 s0.newObservers s0.disallowedObservers := by
    rw [hs0]
    exact ⟨Q.struct.congr (SameG.of_nodes rfl rfl rfl rfl rfl),
      ⟨Q.obs.inRange, Q.obs.mem, Q.obs.created, Q.obs.newIn, Q.obs.dis, Q.obs.disIn, Q.obs.disNodup⟩,
      Q.pinv, U.hinv.of_nodes rfl rfl rfl rfl rfl⟩
  -- the prefix
  obtain ⟨S1, hn1, hd1, F1, O1, N1, K1, L1, T1⟩ := addNewObservers_s S0 h1
  obtain ⟨S2, hn2, hd2, F2, O2, K2, L2, T2⟩ := unlinkDisallowedObservers_s S1 hn1 h2
  have F : PFrame s0 t2 := F1.trans F2
  have hvars0 : s0.vars = s.vars := by rw [hs0]
  have hstab0 : s0.stabNum = s.stabNum := by rw [hs0]
  have hsz0 : s0.nodes.size = s.nodes.size := by rw [hs0]
  have hlog0 : s0.log = s.log := by rw [hs0]
  have hobs0 : s0.observers = s.observers := by rw [hs0]
  have V2 : VarsOK t2 := F.varsOK (by
    refine ⟨?_, ?_⟩
    · intro n c hn hk; rw [hnd0] at hk; rw [hvars0]; exact Q.vars.node n c (by rw [← hsz0]; exact hn) hk
    · intro c vc hc; rw [hvars0] at hc; rw [hsz0, hnd0]; exact Q.vars.cell c vc hc)
  have st2 : ∀ m, (t2.nodeD m).recomputedAt < t2.stabNum ∧ (t2.nodeD m).changedAt < t2.stabNum := by
    intro m
    rw [F.recomputedAt, F.changedAt, F.stabNum, hstab0, hnd0]; exact Q.stamps m
  have cons2 : ∀ m, m < t2.nodes.size → staleOf t2 m = false → Consistent env t2 m := by
    intro m hm hs
    rw [F.staleOf] at hs
    have hs' : staleOf s m = false := by
      rw [← hs]; exact (staleOf_congr (by rw [hnd0]) (by rw [hnd0]) hvars0 (fun c _ => by rw [hnd0])).symm
    have hc := Q.cons m (by rw [← hsz0, ← F.size]; exact hm) hs'
    have hc0 : Consistent env s0 m := by
      obtain ⟨w, hw, hv⟩ := hc
      exact ⟨w, Target.congr (by rw [hnd0]) hvars0 (fun c _ => by rw [hnd0]) hw, by rw [hnd0]; exact hv⟩
    exact F.consistent hc0
  have D2 : DrainInv env t2 :=
    drainInv_of S2.struct V2 (by rw [F.stabNum, hstab0]; exact Q.now) st2
      (fun c vc hc => by rw [F.vars, hvars0] at hc; rw [F.stabNum, hstab0]; exact Q.varStamp c vc hc) cons2
  have U2 : UnnecOK env t2 := fun m hm _ => ⟨(st2 m).1, cons2 m hm⟩
  -- the drain
  obtain ⟨D3, he3, f3⟩ := drainHeap_inv fuel t2 t3 D2 h3
  have c3 := drainHeap_calm fuel t2 t3 D2 h3
  have k3 := drainHeap_keyD D2 h3
  have U3 := drainHeap_unnec D2 U2 h3
  have hu3 := drainHeap_hush fuel t2 t3 D2 h3
  have vc3 := drainHeap_valchg D2 st2
    (fun m hm => (S2.struct.node (nec_lt_size hm)).cutoff) h3
  obtain ⟨hnodup, honce⟩ := drain_once fuel t2 t3 D2 h3
  simp only [stateKeyD, Prod.mk.injEq] at k3
  obtain ⟨k_obs, k_all, k_scope, k_top, k_handles, k_alive, k_pinv, -⟩ := k3
  have S3 : Struct env t3 := Struct.ofDrained S2.struct f3 D3 he3 k_scope
  have hstab2 : t2.stabNum = s.stabNum := by rw [F.stabNum, hstab0]
  have H3 : HInv t3 := P12u.hinv_hush S2.hinv hu3 k_obs (fun m => (f3.shape m).observers) f3.stabNum
  have O3 : ObsInv t3 [] [] := obsInv_congr' S2.obs k_obs f3.size (fun m => (f3.shape m).observers)
  have hval3 : ∀ n, t3.isNecessary n = true →
      (t3.nodeD n).valid = true ∧ (t3.value env n).isSome = true := by
    intro n hn
    obtain ⟨v1, -, v3, -, v5⟩ := drained_values D3 he3 n hn ((t3.nodeD n).height.toNat + 1) (Nat.lt_succ_self _)
    refine ⟨v1, ?_⟩
    rw [D3.graph.value_plain hn, v3]; exact v5
  -- the end
  have E := stabiliseEnd_spec (env := env) (fuel := fuel) (s := t3) (s' := s') heff D3.graph.pc
    (by rw [c3.setDuringStab, F.setDuringStab, hs0]; exact Q.setDuringStab)
    (by rw [c3.deadVars, F.deadVars, hs0]; exact Q.deadVars) O3 H3 hval3 h4
  obtain ⟨H', hcalled⟩ := E.toH.hinv O3 H3 hval3
  -- nodes of the final state
  have hE : ∀ m, NodeG (t3.nodeD m) (s'.nodeD m) ∧ (s'.nodeD m).value = (t3.nodeD m).value := by
    intro m
    rw [E.node m]
    exact ⟨⟨rfl, rfl, rfl, rfl, rfl, rfl, rfl, rfl, rfl, rfl, rfl⟩, rfl⟩
  have G3 : SameG t3 s' := ⟨E.pc, E.scope, E.size, E.rch, E.vars, fun m => (hE m).1⟩
  have S' : Struct env s' := S3.congr G3
  have hnec' : ∀ m, s'.isNecessary m = t2.isNecessary m := fun m => by rw [G3.nec, f3.nec]
  have hkind' : ∀ m, (s'.nodeD m).kind = (t2.nodeD m).kind := fun m => by
    rw [(hE m).1.kind, (f3.shape m).kind]
  have hvars' : s'.vars = t2.vars := by rw [E.vars, f3.vars]
  have hsize' : s'.nodes.size = t2.nodes.size := by rw [E.size, f3.size]
  have V' : VarsOK s' := by
    refine ⟨?_, ?_⟩
    · intro n c hn hk; rw [hkind'] at hk; rw [hvars']; exact V2.node n c (by rw [← hsize']; exact hn) hk
    · intro c vc hc; rw [hvars'] at hc; rw [hsize', hkind']; exact V2.cell c vc hc
  have hnobs' : ∀ m, (s'.nodeD m).observers = (t3.nodeD m).observers := fun m => (hE m).1.observers
  have hno' : s'.newObservers = [] := by rw [E.newObservers, c3.newObservers]; exact hn2
  have hdo' : s'.disallowedObservers = [] := by rw [E.disallowedObservers, c3.disallowedObservers]; exact hd2
  -- observer records of the final state: node and state as in `t3`
  have hrec : ∀ (o : Nat) (ob : ObsRec), t3.observers[o]? = some ob →
      ∃ ob', s'.observers[o]? = some ob' ∧ ob'.node = ob.node ∧ ob'.state = ob.state := by
    intro o ob ho
    refine ⟨_, E.obs o ob ho, ?_, ?_⟩ <;> split <;> rfl
  have hback : ∀ (o : Nat) (ob' : ObsRec), s'.observers[o]? = some ob' →
      ∃ ob, t3.observers[o]? = some ob ∧ ob'.node = ob.node ∧ ob'.state = ob.state := by
    intro o ob' ho'
    have hlt : o < t3.observers.size := by
      rw [← E.obsSize]; exact (Array.getElem?_eq_some_iff.1 ho').1
    obtain ⟨ob, ho⟩ : ∃ ob, t3.observers[o]? = some ob := ⟨_, Array.getElem?_eq_getElem hlt⟩
    obtain ⟨ob1, h1, h2, h3⟩ := hrec o ob ho
    rw [ho'] at h1; cases h1
    exact ⟨ob, ho, h2, h3⟩
  have O' : ObsOK s' := by
    unfold ObsOK
    rw [hno', hdo']
    refine ⟨?_, ?_, ?_, ?_, ?_, ?_, List.nodup_nil⟩
    · intro o ob ho
      obtain ⟨ob0, h0, hn, -⟩ := hback o ob ho
      rw [hn, E.size]; exact O3.inRange o ob0 h0
    · intro n o
      rw [hnobs', O3.mem]
      constructor
      · rintro ⟨ob, ho, hn, hs⟩
        obtain ⟨ob', h1, h2, h3⟩ := hrec o ob ho
        exact ⟨ob', h1, by rw [h2]; exact hn, by rw [h3]; exact hs⟩
      · rintro ⟨ob', ho', hn, hs⟩
        obtain ⟨ob, h1, h2, h3⟩ := hback o ob' ho'
        exact ⟨ob, h1, by rw [← h2]; exact hn, by rw [← h3]; exact hs⟩
    · intro o ob ho hc
      obtain ⟨ob0, h0, -, hs⟩ := hback o ob ho
      exact O3.created o ob0 h0 (by rw [← hs]; exact hc)
    · intro o ho; cases ho
    · intro o ob ho
      obtain ⟨ob0, h0, -, hs⟩ := hback o ob ho
      rw [hs]; exact O3.dis o ob0 h0
    · intro o ho; cases ho
  have hstale' : ∀ m, staleOf s' m = staleOf t3 m := G3.staleOf
  have hcons3 : ∀ m, m < t3.nodes.size → staleOf t3 m = false → Consistent env t3 m := by
    intro m hm hs
    cases hn : t3.isNecessary m with
    | true => exact (D3.all_consistent he3 m hn).2
    | false => exact (U3 m hm hn).2 hs
  have Q' : QInv env s' := by
    refine ⟨S', V', O', ?_, ?_, ?_, ?_, E.status, ?_, E.setDuringStab, E.deadVars, ?_, ?_⟩
    · rw [E.stabNum]; have := D3.stamps.now; omega
    · intro m
      rw [(hE m).1.recomputedAt, (hE m).1.changedAt, E.stabNum]
      have := D3.stamps.node m; omega
    · intro c vc hc
      rw [E.vars] at hc; rw [E.stabNum]; have := D3.stamps.var c vc hc; omega
    · intro m hm hs
      rw [hstale'] at hs
      obtain ⟨w, hw, hv⟩ := hcons3 m (by rw [← E.size]; exact hm) hs
      exact ⟨w, Target.congr (hE m).1.kind E.vars (fun c _ => (hE c).2) hw, by rw [(hE m).2]; exact hv⟩
    · rw [E.alive, k_alive, F.alive, hs0]; exact Q.alive
    · rw [E.pinv, k_pinv]; exact S2.pinv
    · intro k n hk
      rw [E.top, k_top, F.top, hs0] at hk
      rw [hsize', F.size, hsz0]; exact Q.top k n hk
  -- observers of `t3` in terms of `s`
  have hmap3 : ObsMap stabilisedState s t3 := by
    refine ⟨by rw [k_obs, O2.1, O1.1, hs0], fun o ob ho => ?_⟩
    have ho0 : s0.observers[o]? = some ob := by rw [hs0]; exact ho
    obtain ⟨ob1, h1o, h1n, h1s⟩ := O1.2 o ob ho0
    obtain ⟨ob2, h2o, h2n, h2s⟩ := O2.2 o ob1 h1o
    exact ⟨ob2, by rw [k_obs]; exact h2o, by rw [h2n, h1n], by rw [h2s, h1s, stabilisedState_eq]⟩
  refine ⟨⟨Q', H'⟩, hno', hdo', by rw [hvars', F.vars, hvars0], by rw [E.stabNum, f3.stabNum, F.stabNum, hstab0],
    by rw [hsize', F.size, hsz0], fun m => by rw [hkind', F.kind, hnd0], ?_, ?_, ?_, ?_, hcalled⟩
  · -- observers
    refine ⟨by rw [E.obsSize]; exact hmap3.1, fun o ob ho => ?_⟩
    obtain ⟨ob3, h3o, h3n, h3s⟩ := hmap3.2 o ob ho
    obtain ⟨ob', h1, h2, h3⟩ := hrec o ob3 h3o
    exact ⟨ob', h1, by rw [h2, h3n], by rw [h3, h3s]⟩
  · -- values
    intro n hn k hk
    have hn3 : t3.isNecessary n = true := by rw [← G3.nec]; exact hn
    have hk3 : (t3.nodeD n).height.toNat < k := by rw [← (hE n).1.height]; exact hk
    obtain ⟨v1, v2, v3, -, v5⟩ := drained_values D3 he3 n hn3 k hk3
    have hev : eval env s' k n = eval env t3 k n := eval_congr (fun m => (hE m).1.kind) E.vars k n
    have hv' : (s'.nodeD n).value = eval env s' k n := by rw [(hE n).2, hev]; exact v3
    refine ⟨by rw [(hE n).1.valid]; exact v1, ?_, hv', ?_, by rw [hev]; exact v5⟩
    · rw [GInv.isStale S' (nec_lt_size hn), hstale', ← D3.graph.isStale hn3]; exact v2
    · rw [(Q'.quiet.graph).value_plain hn]; exact hv'
  · -- the drain
    refine ⟨t2, t3, D2, h3, hnec', by rw [F.vars, hvars0], by rw [F.stabNum, hstab0],
      fun m => by rw [F.kind, hnd0], hnodup, fun m hm => ?_⟩
    obtain ⟨a1, a2, a3⟩ := honce m hm
    exact ⟨by rw [hnec']; exact a1, a2, by rw [(hE m).1.recomputedAt, a3, F.stabNum, hstab0]⟩
  · -- the update handlers
    refine ⟨t3, E, ?_, fun o => by rw [hOf_congr k_obs, K2, K1, hOf_congr hobs0], O3, hmap3, H3,
      by rw [f3.stabNum, hstab2], by rw [hu3.nextToken, T2, T1, hs0], hval3, fun n hn => D3.graph.value_plain hn, fun m => ?_, fun n hc hnum => ?_⟩
    · obtain ⟨p1, e1, q1⟩ := L1
      obtain ⟨p2, e2, q2⟩ := L2
      obtain ⟨p3, e3, q3⟩ := hu3.log
      refine ⟨p3 ++ (p2 ++ p1), by rw [e3, e2, e1, hlog0]; simp only [List.append_assoc], fun e he => ?_⟩
      rcases List.mem_append.1 he with h | h
      · exact q3 e h
      · rcases List.mem_append.1 h with h | h
        · exact q2 e h
        · exact q1 e h
    · have := vc3 m
      rw [hstab2, F.value, hnd0, F.changedAt, hnd0] at this
      exact this
    · refine hu3.changed S2.hinv.has n ?_ (by rw [← hu3.num]; exact hnum)
      have := (st2 n).2
      rw [hc]; omega

end IncrVerif.Proofs.SubsH
