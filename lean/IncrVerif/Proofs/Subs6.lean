import IncrVerif.Proofs.Subs5
/-!
# Subscriptions, part 6: the prefix of `stabilise` (`addNewObservers`, `unlinkDisallowedObservers`) with handlers

Copy of `Proofs/Quiet13.lean`, generalised: the observers may have handlers (`numOnUpdateHandlers` grows by the
number of handlers of a linked observer and shrinks when it is unlinked), and `SInv` carries the handler
bookkeeping `HInv` through the loops (`hinv_added`, `hinv_removed`, `hinv_hush`).  The unchanged lemmas of
`Quiet.P12` are reused.
-/
namespace IncrVerif.Proofs.SubsH
open IncrVerif.Engine IncrVerif.Driver IncrVerif.Proofs IncrVerif.Proofs.Step IncrVerif.Proofs.Sched IncrVerif.Proofs.Quiet

/-- the invariant during the prefix of `stabilise`: `pn` / `pd` are the observers still to be added / unlinked -/
structure SInv (env : Env) (s : State) (pn pd : List Nat) : Prop where
  struct : Struct env s
  obs : ObsInv s pn pd
  pinv : s.propagateInvalidity = []
  hinv : HInv s

namespace P12u
open Quiet.P12

/-! ## the observer bookkeeping through one iteration -/

/-- skipping an observer that is not `created` (it was dropped before it was ever linked) -/
theorem obsInv_skip_step {t : State} {o : Nat} {rest pd : List Nat} {ob : ObsRec}
    (O : ObsInv t (o :: rest) pd) (hob : t.observers[o]? = some ob) (hst : ob.state ≠ .created) :
    ObsInv t rest pd where
  inRange := O.inRange
  mem := O.mem
  created o' ob' h hc := by
    rcases List.mem_cons.1 (O.created o' ob' h hc) with e | e
    · rw [e, hob] at h; cases h; exact absurd hc hst
    · exact e
  newIn o' h := O.newIn o' (List.mem_cons_of_mem _ h)
  dis := O.dis
  disIn := O.disIn
  disNodup := O.disNodup

/-- linking a `created` observer -/
theorem obsInv_add_step {t t' : State} {o : Nat} {rest pd : List Nat} {ob : ObsRec}
    (O : ObsInv t (o :: rest) pd) (hob : t.observers[o]? = some ob) (hst : ob.state = .created)
    (S : ObsSet o .inUse t t') (hsz : t'.nodes.size = t.nodes.size)
    (hself : (t'.nodeD ob.node).observers = (t.nodeD ob.node).observers ++ [o])
    (hoth : ∀ m, m ≠ ob.node → (t'.nodeD m).observers = (t.nodeD m).observers) :
    ObsInv t' rest pd where
  inRange o' ob' h := by
    obtain ⟨ob0, h0, hn, hh, -⟩ := S.back o' ob' h
    rw [hn, hsz]; exact O.inRange o' ob0 h0
  mem n o' := by
    by_cases eo : o' = o
    · rw [eo]
      have hnew := S.self ob hob
      by_cases en : n = ob.node
      · rw [en, hself]
        exact ⟨fun _ => ⟨_, hnew, rfl, Or.inl rfl⟩, fun _ => List.mem_append_right _ (List.mem_singleton.2 rfl)⟩
      · rw [hoth n en, O.mem n o]
        constructor
        · rintro ⟨ob0, h0, h1, h2⟩
          rw [hob] at h0; cases h0
          rw [hst] at h2; rcases h2 with h2 | h2 <;> cases h2
        · rintro ⟨ob1, h0, h1, _⟩
          rw [hnew] at h0; cases h0
          exact absurd h1.symm en
    · have hrec : t'.observers[o']? = t.observers[o']? := S.other o' eo
      by_cases en : n = ob.node
      · rw [en, hself, List.mem_append, List.mem_singleton, hrec, O.mem]
        exact ⟨fun h => h.resolve_right eo, Or.inl⟩
      · rw [hoth n en, hrec, O.mem]
  created o' ob' h hc := by
    obtain ⟨ob0, h0, -, -, h4⟩ := S.back o' ob' h
    rcases h4 with ⟨e, hs⟩ | ⟨e, hs⟩
    · rcases List.mem_cons.1 (O.created o' ob0 h0 (by rw [← hs]; exact hc)) with h | h
      · exact absurd h e
      · exact h
    · rw [hs] at hc; cases hc
  newIn o' h := by
    obtain ⟨ob0, h0⟩ := O.newIn o' (List.mem_cons_of_mem _ h)
    obtain ⟨ob1, h1, _⟩ := S.recs o' ob0 h0
    exact ⟨ob1, h1⟩
  dis o' ob' h := by
    obtain ⟨ob0, h0, -, -, h4⟩ := S.back o' ob' h
    rcases h4 with ⟨e, hs⟩ | ⟨e, hs⟩
    · rw [hs]; exact O.dis o' ob0 h0
    · rw [hs, e]
      have := O.dis o ob hob
      rw [hst] at this
      constructor
      · intro h; cases h
      · intro h; exact absurd (this.2 h) (by intro h; cases h)
  disIn o' h := by
    obtain ⟨ob0, h0⟩ := O.disIn o' h
    obtain ⟨ob1, h1, _⟩ := S.recs o' ob0 h0
    exact ⟨ob1, h1⟩
  disNodup := O.disNodup

/-- unlinking a `disallowed` observer -/
theorem obsInv_unlink_step {t t' : State} {o : Nat} {rest : List Nat} {ob : ObsRec}
    (O : ObsInv t [] (o :: rest)) (hob : t.observers[o]? = some ob)
    (S : ObsSet o .unlinked t t') (hsz : t'.nodes.size = t.nodes.size)
    (hself : (t'.nodeD ob.node).observers = (t.nodeD ob.node).observers.filter (· != o))
    (hoth : ∀ m, m ≠ ob.node → (t'.nodeD m).observers = (t.nodeD m).observers) :
    ObsInv t' [] rest where
  inRange o' ob' h := by
    obtain ⟨ob0, h0, hn, hh, -⟩ := S.back o' ob' h
    rw [hn, hsz]; exact O.inRange o' ob0 h0
  mem n o' := by
    by_cases eo : o' = o
    · rw [eo]
      have hnew := S.self ob hob
      constructor
      · intro hm
        exfalso
        by_cases en : n = ob.node
        · rw [en, hself, List.mem_filter] at hm
          simp at hm
        · rw [hoth n en, O.mem n o] at hm
          obtain ⟨ob0, h0, h1, _⟩ := hm
          rw [hob] at h0; cases h0
          exact en h1.symm
      · rintro ⟨ob1, h0, _, h2⟩
        rw [hnew] at h0; cases h0
        rcases h2 with h2 | h2 <;> cases h2
    · have hrec : t'.observers[o']? = t.observers[o']? := S.other o' eo
      by_cases en : n = ob.node
      · rw [en, hself, List.mem_filter, hrec, ← O.mem]
        constructor
        · exact fun h => h.1
        · exact fun h => ⟨h, by simpa using eo⟩
      · rw [hoth n en, hrec, O.mem]
  created o' ob' h hc := by
    obtain ⟨ob0, h0, -, -, h4⟩ := S.back o' ob' h
    rcases h4 with ⟨e, hs⟩ | ⟨e, hs⟩
    · exact O.created o' ob0 h0 (by rw [← hs]; exact hc)
    · rw [hs] at hc; cases hc
  newIn o' h := by cases h
  dis o' ob' h := by
    obtain ⟨ob0, h0, -, -, h4⟩ := S.back o' ob' h
    rcases h4 with ⟨e, hs⟩ | ⟨e, hs⟩
    · rw [hs, O.dis o' ob0 h0, List.mem_cons]
      exact ⟨fun h => h.resolve_left e, Or.inr⟩
    · rw [hs, e]
      constructor
      · intro h; cases h
      · intro h; exact absurd h (List.nodup_cons.1 O.disNodup).1
  disIn o' h := by
    obtain ⟨ob0, h0⟩ := O.disIn o' (List.mem_cons_of_mem _ h)
    obtain ⟨ob1, h1, _⟩ := S.recs o' ob0 h0
    exact ⟨ob1, h1⟩
  disNodup := (List.nodup_cons.1 O.disNodup).2

/-! ## the explicit state updates of the two loop bodies (before the cascades) -/

theorem obsAdded_frame (o n : Nat) (k : Int) (t : State) : PFrame t (obsAdded o n k t) := by
  refine ⟨by simp [obsAdded], fun m => ?_, rfl, id⟩
  rw [obsAdded_nodeD]; split
  · simp [nodeKeyP]
  · rfl

theorem obsRemoved_frame (o n : Nat) (k : Int) (t : State) : PFrame t (obsRemoved o n k t) := by
  refine ⟨by simp [obsRemoved], fun m => ?_, rfl, id⟩
  rw [obsRemoved_nodeD]; split
  · simp [nodeKeyP]
  · rfl

/-! ## what one iteration (and hence the whole loop) does outside the invariant -/

structure IterRel (x y : ObsState) (t t' : State) : Prop where
  frame : PFrame t t'
  newObs : t'.newObservers = t.newObservers
  disObs : t'.disallowedObservers = t.disallowedObservers
  size : t'.observers.size = t.observers.size
  recs : ∀ (o : Nat) (ob : ObsRec), t.observers[o]? = some ob →
    ∃ ob', t'.observers[o]? = some ob' ∧ ob'.node = ob.node ∧ StChg x y ob.state ob'.state ∧
      ob'.handlers = ob.handlers
  log : ∃ new, t'.log = new ++ t.log ∧ ∀ e, e ∈ new → NotNotif e
  nextToken : t'.nextToken = t.nextToken

theorem IterRel.refl (x y : ObsState) (t : State) : IterRel x y t t :=
  ⟨PFrame.refl t, rfl, rfl, rfl, fun _ ob h => ⟨ob, h, rfl, Or.inl rfl, rfl⟩, ⟨[], rfl, fun _ h => by cases h⟩, rfl⟩

theorem IterRel.trans {x y : ObsState} {a b c : State} (h1 : IterRel x y a b) (h2 : IterRel x y b c) :
    IterRel x y a c := by
  refine ⟨h1.frame.trans h2.frame, h2.newObs.trans h1.newObs, h2.disObs.trans h1.disObs,
    h2.size.trans h1.size, fun o ob h => ?_, ?_, h2.nextToken.trans h1.nextToken⟩
  case refine_2 =>
    obtain ⟨n1, e1, q1⟩ := h1.log
    obtain ⟨n2, e2, q2⟩ := h2.log
    refine ⟨n2 ++ n1, by rw [e2, e1, List.append_assoc], fun e he => ?_⟩
    rcases List.mem_append.1 he with h | h
    · exact q2 e h
    · exact q1 e h
  obtain ⟨ob1, e1, n1, c1, k1⟩ := h1.recs o ob h
  obtain ⟨ob2, e2, n2, c2, k2⟩ := h2.recs o ob1 e1
  refine ⟨ob2, e2, n2.trans n1, ?_, k2.trans k1⟩
  rcases c1 with c1 | ⟨c1, c1'⟩
  · rw [c1] at c2; exact c2
  · rcases c2 with c2 | ⟨_, c2'⟩
    · exact Or.inr ⟨c1, c2.trans c1'⟩
    · exact Or.inr ⟨c1, c2'⟩


/-! ## the handler bookkeeping through one iteration -/

theorem filter_ne_of_not_mem {l : List Nat} {o : Nat} (h : o ∉ l) : l.filter (· != o) = l := by
  rw [List.filter_eq_self]
  intro a ha
  simp only [bne_iff_ne, ne_eq]
  intro e; rw [e] at ha; exact h ha

theorem sum_map_filter_ne {l : List Nat} {f : Nat → Int} {o : Nat} (hnd : l.Nodup) (hm : o ∈ l) :
    ((l.filter (· != o)).map f).sum = (l.map f).sum - f o := by
  induction l with
  | nil => cases hm
  | cons a l ih =>
    rw [List.nodup_cons] at hnd
    by_cases e : a = o
    · rw [e] at hnd ⊢
      rw [List.filter_cons]
      simp only [bne_self_eq_false, Bool.false_eq_true, if_false]
      rw [filter_ne_of_not_mem hnd.1, List.map_cons, List.sum_cons]
      omega
    · have hm' : o ∈ l := by
        rcases List.mem_cons.1 hm with h | h
        · exact absurd h.symm e
        · exact h
      rw [List.filter_cons]
      have : (a != o) = true := by simp [e]
      rw [this]
      simp only [if_true, List.map_cons, List.sum_cons]
      rw [ih hnd.2 hm']
      omega

theorem hOf_modify_state {t t' : State} {o : Nat} {x : ObsState}
    (h : t'.observers = t.observers.modify o fun y => { y with state := x }) (o' : Nat) :
    hOf t' o' = hOf t o' := by
  unfold hOf
  rw [h, Array.getElem?_modify]
  by_cases e : o = o'
  · rw [if_pos e]
    cases t.observers[o']? <;> rfl
  · rw [if_neg e]

theorem numOf_of {t t' : State} (hh : ∀ o', hOf t' o' = hOf t o') (n : Nat) :
    numOf t' n = ((t'.nodeD n).observers.map fun o => ((hOf t o).length : Int)).sum := by
  unfold numOf
  congr 1
  exact List.map_congr_left fun o _ => by rw [hh]

/-- a step that keeps the observer records, the observer lists and the round number, and is `Hush` -/
theorem hinv_hush {s s' : State} (H : HInv s) (h : Hush s s') (ho : s'.observers = s.observers)
    (hno : ∀ m, (s'.nodeD m).observers = (s.nodeD m).observers) (hs : s'.stabNum = s.stabNum) : HInv s' where
  count n := by rw [h.num, numOf_congr ho hno]; exact H.count n
  obsNodup n := by rw [hno]; exact H.obsNodup n
  tok := Life.TokStep.of_obs ho h.nextToken H.tok
  tokNodup o ob hob := by rw [ho] at hob; exact H.tokNodup o ob hob
  has := h.ok H.has
  createdAt o ob x hob hx := by rw [ho] at hob; rw [hs]; exact H.createdAt o ob x hob hx
  prev o ob x hob hx := by rw [ho] at hob; exact H.prev o ob x hob hx
  pending o ob x hob hst hx hp := by rw [ho] at hob; exact h.mono _ (H.pending o ob x hob hst hx hp)

/-- the state of observer `o` is set to `x`, the observer list and handler count of nodes change, nothing else that `HInv` reads does: what is
left to show is the count and the observer lists -/
theorem hinv_obsSet {t t' : State} {o : Nat} {x : ObsState} {ob : ObsRec} (H : HInv t) (hob : t.observers[o]? = some ob)
    (hobs : t'.observers = t.observers.modify o fun y => { y with state := x }) (hnt : t'.nextToken = t.nextToken)
    (hq : t'.handleAfterStab = t.handleAfterStab) (hs : t'.stabNum = t.stabNum)
    (hflag : ∀ n, (t'.nodeD n).inHandleAfterStab = (t.nodeD n).inHandleAfterStab)
    (hx : x = .created ∨ x = .inUse → ob.state = .created ∨ ob.state = .inUse)
    (count : ∀ n, (t'.nodeD n).numOnUpdateHandlers = numOf t' n) (obsNodup : ∀ n, (t'.nodeD n).observers.Nodup) : HInv t' := by
  have S : ObsSet o x t t' := ObsSet.of_modify hobs
  refine ⟨count, obsNodup, Life.TokStep.modify_at o _ hobs hnt (fun x t h => h) H.tok, ?_, ⟨by rw [hq]; exact H.has.nodup, fun n => ?_⟩,
    ?_, ?_, ?_⟩
  · intro o' ob' ho'
    obtain ⟨ob0, h0, -, hhd, -⟩ := S.back o' ob' ho'
    rw [hhd]; exact H.tokNodup o' ob0 h0
  · rw [hq, hflag]; exact H.has.flag n
  · intro o' ob' h ho' hh
    obtain ⟨ob0, h0, -, hhd, -⟩ := S.back o' ob' ho'
    rw [hhd] at hh; rw [hs]; exact H.createdAt o' ob0 h h0 hh
  · intro o' ob' h ho' hh
    obtain ⟨ob0, h0, -, hhd, -⟩ := S.back o' ob' ho'
    rw [hhd] at hh; exact H.prev o' ob0 h h0 hh
  · intro o' ob' h ho' hs' hh hp
    obtain ⟨ob0, h0, hnd, hhd, hcase⟩ := S.back o' ob' ho'
    rw [hhd] at hh
    rw [hnd, hq]
    rcases hcase with ⟨-, e⟩ | ⟨e, e'⟩
    · rw [e] at hs'; exact H.pending o' ob0 h h0 hs' hh hp
    · rw [e, hob] at h0; cases h0
      rw [e'] at hs'
      exact H.pending o ob h hob (hx hs') hh hp

/-- the bookkeeping of `add_new_observers` for a created observer keeps `HInv` -/
theorem hinv_added {t : State} {o : Nat} {rest pd : List Nat} {ob : ObsRec} (H : HInv t)
    (O : ObsInv t (o :: rest) pd) (hob : t.observers[o]? = some ob) (hst : ob.state = .created) :
    HInv (obsAdded o ob.node ((ob.handlers.length : Nat) : Int) t) := by
  have hobs : (obsAdded o ob.node ((ob.handlers.length : Nat) : Int) t).observers =
      t.observers.modify o fun y => { y with state := .inUse } := rfl
  have hh := fun o' => hOf_modify_state (t := t) hobs o'
  have hnot : ∀ m, o ∉ (t.nodeD m).observers := by
    intro m hm
    obtain ⟨ob', h1, -, h3⟩ := (O.mem m o).1 hm
    rw [hob] at h1; cases h1
    rw [hst] at h3; rcases h3 with h3 | h3 <;> cases h3
  refine hinv_obsSet H hob hobs rfl rfl rfl (fun n => ?_) (fun _ => Or.inl hst) (fun n => ?_) (fun n => ?_)
  · rw [obsAdded_nodeD]; split <;> rfl
  · rw [numOf_of hh, obsAdded_nodeD]
    split
    · rename_i e
      show (t.nodeD n).numOnUpdateHandlers + _ = _
      simp only [List.map_append, List.sum_append, List.map_cons, List.map_nil, List.sum_cons, List.sum_nil]
      rw [H.count n, hOf_of_some hob]
      unfold numOf
      omega
    · exact H.count n
  · rw [obsAdded_nodeD]
    split
    · show ((t.nodeD n).observers ++ [o]).Nodup
      rw [List.nodup_append]
      refine ⟨H.obsNodup n, List.nodup_cons.2 ⟨List.not_mem_nil, List.nodup_nil⟩, ?_⟩
      intro a ha b hb
      rw [List.mem_singleton] at hb
      rw [hb]; intro e; rw [e] at ha; exact hnot n ha
    · exact H.obsNodup n

/-- the bookkeeping of `unlink_disallowed_observers` for a disallowed observer keeps `HInv` -/
theorem hinv_removed {t : State} {o : Nat} {rest : List Nat} {ob : ObsRec} (H : HInv t)
    (O : ObsInv t [] (o :: rest)) (hob : t.observers[o]? = some ob) :
    HInv (obsRemoved o ob.node ((ob.handlers.length : Nat) : Int) t) := by
  have hst : ob.state = .disallowed := (O.dis o ob hob).2 (List.mem_cons_self ..)
  have hobs : (obsRemoved o ob.node ((ob.handlers.length : Nat) : Int) t).observers =
      t.observers.modify o fun y => { y with state := .unlinked } := rfl
  have hh := fun o' => hOf_modify_state (t := t) hobs o'
  have hmem : o ∈ (t.nodeD ob.node).observers := (O.mem ob.node o).2 ⟨ob, hob, rfl, Or.inr hst⟩
  refine hinv_obsSet H hob hobs rfl rfl rfl (fun n => ?_) (fun h => by rcases h with h | h <;> cases h) (fun n => ?_) (fun n => ?_)
  · rw [obsRemoved_nodeD]; split <;> rfl
  · rw [numOf_of hh, obsRemoved_nodeD]
    split
    · rename_i e
      show (t.nodeD n).numOnUpdateHandlers - _ = (((t.nodeD n).observers.filter (· != o)).map _).sum
      rw [e.1] at hmem
      rw [sum_map_filter_ne (H.obsNodup n) hmem, H.count n, hOf_of_some hob]
      rfl
    · exact H.count n
  · rw [obsRemoved_nodeD]
    split
    · exact (H.obsNodup n).filter _
    · exact H.obsNodup n

/-- the end of the body of `add_new_observers`: the link cascade if the node was not necessary
(`Quiet.P12.struct_add`, with the handler bookkeeping) -/
theorem struct_add_h {env : Env} {fuel n : Nat} {l : List Nat} {was : Bool} {t t4 t' : State}
    {r : ForInStep PUnit}
    (I : Struct env t) (U : NodeUpd n (fObservers l) t t4) (hl : l ≠ []) (hwas : was = t.isNecessary n)
    (hp : t4.propagateInvalidity = [])
    (h : (if (!was) = true then do
            becameNecessaryPropagate env fuel n
            pure (ForInStep.yield PUnit.unit)
          else pure (ForInStep.yield PUnit.unit)).run.run t4 = (.ok r, t')) :
    r = .yield PUnit.unit ∧ Struct env t' ∧ CFrame t4 t' ∧ t'.propagateInvalidity = [] ∧
      (∀ m, t4.isNecessary m = true → t'.isNecessary m = true) ∧ Hush t4 t' := by
  cases hw : was with
  | true =>
    rw [hw] at h hwas
    simp only [Bool.not_true, Bool.false_eq_true, if_false] at h
    obtain ⟨hr, e⟩ := pure_ok_inv h
    rw [e]
    exact ⟨hr, I.addObs_nec U hl hwas.symm rfl, CFrame.refl _, hp, fun _ h => h, Hush.refl _⟩
  | false =>
    rw [hw] at h hwas
    simp only [Bool.not_false, if_true] at h
    obtain ⟨_, t5, h5, h⟩ := bind_ok_inv h
    obtain ⟨hr, e⟩ := pure_ok_inv h
    rw [e]
    unfold becameNecessaryPropagate at h5
    obtain ⟨_, t6, h6, h5⟩ := bind_ok_inv h5
    obtain ⟨I1, hpar⟩ := GInv.addObs_open I U hl hwas.symm rfl
    obtain ⟨I2, -, hL⟩ := Quiet.becameNecessary_spec h6 I1 (upd_self _ _ _)
      (by
        intro m hm
        by_cases e : m = n
        · omega
        · rw [upd_other _ _ _ e] at hm; exact absurd rfl hm)
      (by intro p i hpi; rw [hpar] at hpi; cases hpi)
    rw [upd_upd, upd_eq_self allClosed n .closed rfl] at I2
    have hp6 : t6.propagateInvalidity = [] := by rw [hL.pinv]; exact hp
    have e5 := propagateInvalidity_nil hp6 h5
    rw [e5]
    exact ⟨hr, I2, hL.fr, hp6, fun m hm => hL.nec hm, (PresHu.becameNecessary env fuel n).h _ _ _ h6⟩

/-! ## one iteration of `add_new_observers` -/

theorem add_created {env : Env} {fuel o : Nat} {rest pd : List Nat} {t t4 t' : State} {ob : ObsRec}
    {was : Bool} {r : ForInStep PUnit}
    (I : SInv env t (o :: rest) pd) (hob : t.observers[o]? = some ob) (hst : ob.state = .created)
    (hwas : was = t.isNecessary ob.node)
    (h4 : (handleAfterStabilisation ob.node).run.run
      (obsAdded o ob.node ((ob.handlers.length : Nat) : Int) t) = (.ok (), t4))
    (h : (if (!was) = true then do
            becameNecessaryPropagate env fuel ob.node
            pure (ForInStep.yield PUnit.unit)
          else pure (ForInStep.yield PUnit.unit)).run.run t4 = (.ok r, t')) :
    r = .yield PUnit.unit ∧ SInv env t' rest pd ∧ IterRel .created .inUse t t' ∧
      (∀ m, t.isNecessary m = true → t'.isNecessary m = true) ∧ ob.node ∈ t'.handleAfterStab := by
  have hn : ob.node < t.nodes.size := I.obs.inRange o ob hob
  have U3 : NodeUpd ob.node (fObservers ((t.nodeD ob.node).observers ++ [o])) t
      (obsAdded o ob.node ((ob.handlers.length : Nat) : Int) t) := obsAdded_upd hn
  have R : Irrel ob.node (obsAdded o ob.node ((ob.handlers.length : Nat) : Int) t) t4 := by
    rcases has_cases h4 with e | e
    · rw [e]; exact Irrel.refl _ _
    · rw [e]; exact Irrel.marked _ _
  have U4 := U3.then_same R.same
  have L := R.rel (fun _ => False)
  have hp4 : t4.propagateInvalidity = [] := (L.pinv.trans rfl).trans I.pinv
  have hl : (t.nodeD ob.node).observers ++ [o] ≠ [] := by simp
  obtain ⟨hr, I', F, hp', hnec, hu⟩ := struct_add_h I.struct U4 hl hwas hp4 h
  have F3 : CFrame (obsAdded o ob.node ((ob.handlers.length : Nat) : Int) t) t' := L.fr.trans F
  have P : PFrame t t' := (obsAdded_frame o ob.node _ t).trans (CFrame.toP F3)
  have S : ObsSet o .inUse t t' :=
    (ObsSet.of_modify (t' := obsAdded o ob.node ((ob.handlers.length : Nat) : Int) t) rfl).then_eq (cf_obsArr F3)
  have O' : ObsInv t' rest pd := obsInv_add_step I.obs hob hst S (F3.size.trans U3.size)
    ((F3.observers ob.node).trans U3.self.observers)
    (fun m hm => (F3.observers m).trans (U3.other m hm).observers)
  -- the handler bookkeeping
  have H3 := hinv_added I.hinv I.obs hob hst
  have hu3 : Hush (obsAdded o ob.node ((ob.handlers.length : Nat) : Int) t) t' :=
    Hush.trans ((PresHu.handleAfterStabilisation ob.node).h _ _ _ h4) hu
  have hstab : t'.stabNum = (obsAdded o ob.node ((ob.handlers.length : Nat) : Int) t).stabNum := by
    have := F3.key; simp only [stateKey, Prod.mk.injEq] at this; exact this.2.2.1
  have H' : HInv t' := hinv_hush H3 hu3 (cf_obsArr F3) F3.observers hstab
  have hq : ob.node ∈ t'.handleAfterStab := hu.mono _ (handleAfterStabilisation_mem H3.has h4)
  refine ⟨hr, ⟨I', O', hp', H'⟩,
    ⟨P, (cf_newObs F3).trans rfl, (cf_disObs F3).trans rfl, S.size, fun o' ob' ho' => ?_, hu3.log, hu3.nextToken⟩,
    fun m hm => hnec m ?_, hq⟩
  · obtain ⟨ob1, h1, h2, hk, h3⟩ := S.recs o' ob' ho'
    refine ⟨ob1, h1, h2, ?_, hk⟩
    rcases h3 with ⟨_, h3⟩ | ⟨e, h3⟩
    · exact Or.inl h3
    · rw [e, hob] at ho'; cases ho'
      exact Or.inr ⟨hst, h3⟩
  · by_cases e : m = ob.node
    · rw [e]; exact (U4.nec_self_iff (keeps_fObservers _)).2 (Or.inr (Or.inl hl))
    · rw [U4.nec_other e]; exact hm

/-! ## one iteration of `unlink_disallowed_observers` -/

theorem unlink_iter {env : Env} {fuel o : Nat} {rest : List Nat} {t t' : State} {ob : ObsRec}
    (I : SInv env t [] (o :: rest)) (hob : t.observers[o]? = some ob)
    (h : (checkIfUnnecessary fuel ob.node).run.run
      (obsRemoved o ob.node ((ob.handlers.length : Nat) : Int) t) = (.ok (), t')) :
    SInv env t' [] rest ∧ IterRel .disallowed .unlinked t t' := by
  have hn : ob.node < t.nodes.size := I.obs.inRange o ob hob
  have hst : ob.state = .disallowed := (I.obs.dis o ob hob).2 (List.mem_cons_self ..)
  have hmem : o ∈ (t.nodeD ob.node).observers := (I.obs.mem ob.node o).2 ⟨ob, hob, rfl, Or.inr hst⟩
  have hnec : t.isNecessary ob.node = true :=
    (isNecessary_iff t ob.node).2 (Or.inr (Or.inl (List.ne_nil_of_mem hmem)))
  have U3 : NodeUpd ob.node (fObservers ((t.nodeD ob.node).observers.filter (· != o))) t
      (obsRemoved o ob.node ((ob.handlers.length : Nat) : Int) t) := obsRemoved_upd hn
  obtain ⟨I', hU⟩ := struct_unlink I.struct U3 hnec h
  have F3 := hU.fr
  have P : PFrame t t' := (obsRemoved_frame o ob.node _ t).trans (CFrame.toP F3)
  have S : ObsSet o .unlinked t t' :=
    (ObsSet.of_modify (t' := obsRemoved o ob.node ((ob.handlers.length : Nat) : Int) t) rfl).then_eq (cf_obsArr F3)
  have O' : ObsInv t' [] rest := obsInv_unlink_step I.obs hob S (F3.size.trans U3.size)
    ((F3.observers ob.node).trans U3.self.observers)
    (fun m hm => (F3.observers m).trans (U3.other m hm).observers)
  have H3 := hinv_removed I.hinv I.obs hob
  have hu3 : Hush (obsRemoved o ob.node ((ob.handlers.length : Nat) : Int) t) t' :=
    (PresHu.checkIfUnnecessary fuel ob.node).h _ _ _ h
  have hstab : t'.stabNum = (obsRemoved o ob.node ((ob.handlers.length : Nat) : Int) t).stabNum := by
    have := F3.key; simp only [stateKey, Prod.mk.injEq] at this; exact this.2.2.1
  have H' : HInv t' := hinv_hush H3 hu3 (cf_obsArr F3) F3.observers hstab
  refine ⟨⟨I', O', (hU.pinv.trans rfl).trans I.pinv, H'⟩,
    ⟨P, (cf_newObs F3).trans rfl, (cf_disObs F3).trans rfl, S.size, fun o' ob' ho' => ?_, hu3.log, hu3.nextToken⟩⟩
  obtain ⟨ob1, h1, h2, hk, h3⟩ := S.recs o' ob' ho'
  refine ⟨ob1, h1, h2, ?_, hk⟩
  rcases h3 with ⟨_, h3⟩ | ⟨e, h3⟩
  · exact Or.inl h3
  · rw [e, hob] at ho'; cases ho'
    exact Or.inr ⟨hst, h3⟩

/-- fields of the state that the observer bookkeeping does not read -/
theorem obsInv_congr {s s' : State} {pn pd : List Nat} (O : ObsInv s pn pd)
    (h1 : s'.observers = s.observers) (h2 : s'.nodes = s.nodes) : ObsInv s' pn pd := by
  have hnd : ∀ m, s'.nodeD m = s.nodeD m := fun m => by simp [State.nodeD, h2]
  refine ⟨?_, ?_, ?_, ?_, ?_, ?_, O.disNodup⟩
  · intro o ob h; rw [h1] at h; rw [h2]; exact O.inRange o ob h
  · intro n o; rw [hnd, h1]; exact O.mem n o
  · intro o ob h; rw [h1] at h; exact O.created o ob h
  · intro o h; rw [h1]; exact O.newIn o h
  · intro o ob h; rw [h1] at h; exact O.dis o ob h
  · intro o h; rw [h1]; exact O.disIn o h

theorem sInv_congr {env : Env} {s s' : State} {pn pd : List Nat} (I : SInv env s pn pd)
    (h1 : s'.observers = s.observers) (h2 : s'.nodes = s.nodes) (h3 : s'.panicCountdown = s.panicCountdown)
    (h4 : s'.currentScope = s.currentScope) (h5 : s'.rch = s.rch) (h6 : s'.vars = s.vars)
    (h7 : s'.propagateInvalidity = s.propagateInvalidity) (h8 : s'.nextToken = s.nextToken)
    (h9 : s'.stabNum = s.stabNum) (h10 : s'.handleAfterStab = s.handleAfterStab) : SInv env s' pn pd :=
  ⟨GInv.congr I.struct (SameG.of_nodes h2 h3 h4 h5 h6), obsInv_congr I.obs h1 h2, h7.trans I.pinv,
    I.hinv.of_nodes h1 h8 h9 h10 h2⟩

end P12u

open P12u
open IncrVerif.Proofs.Quiet.P12 hiding IterRel add_created unlink_iter obsInv_skip_step sInv_congr obsInv_congr IterRel.refl IterRel.trans obsAdded_frame obsRemoved_frame obsInv_add_step obsInv_unlink_step pf_num

theorem hOf_of_recs {s s' : State} (hsz : s'.observers.size = s.observers.size)
    (h : ∀ (o : Nat) (ob : ObsRec), s.observers[o]? = some ob →
      ∃ ob', s'.observers[o]? = some ob' ∧ ob'.handlers = ob.handlers) (o : Nat) : hOf s' o = hOf s o := by
  unfold hOf
  cases ho : s.observers[o]? with
  | some ob =>
    obtain ⟨ob', h1, h2⟩ := h o ob ho
    rw [h1]; exact h2
  | none =>
    have : s'.observers[o]? = none := by
      rw [Array.getElem?_eq_none_iff] at ho ⊢
      omega
    rw [this]

theorem addNewObservers_s {env : Env} {fuel : Nat} {s s' : State}
    (I : SInv env s s.newObservers s.disallowedObservers)
    (h : (addNewObservers env fuel).run.run s = (.ok (), s')) :
    SInv env s' [] s'.disallowedObservers ∧ s'.newObservers = [] ∧
      s'.disallowedObservers = s.disallowedObservers ∧ PFrame s s' ∧ ObsMap addedState s s' ∧
      (∀ m, s.isNecessary m = true → s'.isNecessary m = true) ∧ (∀ o, hOf s' o = hOf s o) ∧
      (∃ new, s'.log = new ++ s.log ∧ ∀ e, e ∈ new → NotNotif e) ∧ s'.nextToken = s.nextToken := by
  unfold addNewObservers at h
  rw [run_bind_get] at h
  obtain ⟨s0, hs0, h⟩ := bind_modify_inv h
  obtain ⟨u, s1, hloop, h⟩ := bind_ok_inv h
  obtain ⟨-, e⟩ := pure_ok_inv h
  rw [e]
  have I0 : SInv env s0 s.newObservers s.disallowedObservers := by
    rw [hs0]; exact sInv_congr I rfl rfl rfl rfl rfl rfl rfl rfl rfl rfl
  have P0 : PFrame s s0 := by rw [hs0]; exact ⟨rfl, fun _ => rfl, rfl, id⟩
  have hno0 : s0.newObservers = [] := by rw [hs0]
  have hdo0 : s0.disallowedObservers = s.disallowedObservers := by rw [hs0]
  have hob0 : s0.observers = s.observers := by rw [hs0]
  have hlog0 : s0.log = s.log := by rw [hs0]
  have hnec0 : ∀ m, s0.isNecessary m = s.isNecessary m := fun m => by rw [hs0]; rfl
  have hfin := forIn_ok_inv _ s.newObservers
    (fun j (_ : PUnit) t => SInv env t (s.newObservers.drop j) s.disallowedObservers ∧
      IterRel .created .inUse s0 t ∧ (∀ m, s0.isNecessary m = true → t.isNecessary m = true))
    (by
      intro j o b t r t' hj ⟨It, Rt, Nt⟩ hbody
      rw [drop_of_getElem? hj] at It
      obtain ⟨ob, hob, hbody⟩ := bind_getObs_inv hbody
      cases hst : ob.state <;> rw [hst] at hbody <;> try dsimp only at hbody
      case inUse =>
        obtain ⟨_, _, h1, _⟩ := bind_ok_inv hbody
        rw [run_panic] at h1; cases h1
      case disallowed =>
        obtain ⟨_, _, h1, _⟩ := bind_ok_inv hbody
        rw [run_panic] at h1; cases h1
      case unlinked =>
        obtain ⟨hr, e⟩ := pure_ok_inv hbody
        rw [e]
        exact ⟨_, hr, ⟨It.struct, obsInv_skip_step It.obs hob (by rw [hst]; exact fun e => by cases e), It.pinv,
          It.hinv⟩, Rt, Nt⟩
      case created =>
        obtain ⟨t1, ht1, hbody⟩ := bind_modObs_inv hbody
        rw [run_bind_get] at hbody
        try dsimp only at hbody
        obtain ⟨t2, ht2, hbody⟩ := bind_modify_inv hbody
        obtain ⟨t3, ht3, hbody⟩ := bind_modNode_inv hbody
        obtain ⟨_, t4, h4, hbody⟩ := bind_ok_inv hbody
        rw [run_bind_get] at hbody
        replace hbody := bind_dassert_inv hbody
        have e3 : t3 = obsAdded o ob.node ((ob.handlers.length : Nat) : Int) t := by rw [ht3, ht2, ht1]; rfl
        rw [e3] at h4
        obtain ⟨hr, I', R', N', -⟩ := add_created (was := t1.isNecessary ob.node) It hob hst
          (by rw [ht1]; rfl) h4 hbody
        exact ⟨_, hr, I', Rt.trans R', fun m hm => N' m (Nt m hm)⟩)
    s.newObservers 0 PUnit.unit s0 u s1 (by simp) (Nat.zero_le _)
    ⟨by rw [List.drop_zero]; exact I0, IterRel.refl _ _ _, fun _ h => h⟩ hloop
  obtain ⟨I1, R1, N1⟩ := hfin
  rw [List.drop_length] at I1
  have hdo1 : s1.disallowedObservers = s.disallowedObservers := R1.disObs.trans hdo0
  refine ⟨by rw [hdo1]; exact I1, R1.newObs.trans hno0, hdo1, P0.trans R1.frame,
    ⟨R1.size.trans (by rw [hob0]), fun o ob ho => ?_⟩, fun m hm => N1 m (by rw [hnec0]; exact hm),
    hOf_of_recs (R1.size.trans (by rw [hob0])) fun o ob ho => by
      obtain ⟨ob', h1, -, -, h4⟩ := R1.recs o ob (by rw [hob0]; exact ho)
      exact ⟨ob', h1, h4⟩, by rw [← hlog0]; exact R1.log, by rw [R1.nextToken, hs0]⟩
  obtain ⟨ob', h1, h2, h3, -⟩ := R1.recs o ob (by rw [hob0]; exact ho)
  refine ⟨ob', h1, h2, ?_⟩
  rcases h3 with h3 | ⟨h3, h4⟩
  · rw [h3]
    cases hst : ob.state
    case created =>
      have := I1.obs.created o ob' h1 (by rw [h3, hst])
      cases this
    all_goals rfl
  · rw [h3, h4]; rfl

theorem unlinkDisallowedObservers_s {env : Env} {fuel : Nat} {s s' : State}
    (I : SInv env s [] s.disallowedObservers) (hn : s.newObservers = [])
    (h : (unlinkDisallowedObservers fuel).run.run s = (.ok (), s')) :
    SInv env s' [] [] ∧ s'.newObservers = [] ∧ s'.disallowedObservers = [] ∧ PFrame s s' ∧
      ObsMap unlinkedState s s' ∧ (∀ o, hOf s' o = hOf s o) ∧
      (∃ new, s'.log = new ++ s.log ∧ ∀ e, e ∈ new → NotNotif e) ∧ s'.nextToken = s.nextToken := by
  unfold unlinkDisallowedObservers at h
  rw [run_bind_get] at h
  obtain ⟨s0, hs0, h⟩ := bind_modify_inv h
  obtain ⟨u, s1, hloop, h⟩ := bind_ok_inv h
  obtain ⟨-, e⟩ := pure_ok_inv h
  rw [e]
  have I0 : SInv env s0 [] s.disallowedObservers := by
    rw [hs0]; exact sInv_congr I rfl rfl rfl rfl rfl rfl rfl rfl rfl rfl
  have P0 : PFrame s s0 := by rw [hs0]; exact ⟨rfl, fun _ => rfl, rfl, id⟩
  have hno0 : s0.newObservers = [] := by rw [hs0]; exact hn
  have hdo0 : s0.disallowedObservers = [] := by rw [hs0]
  have hob0 : s0.observers = s.observers := by rw [hs0]
  have hlog0 : s0.log = s.log := by rw [hs0]
  have hfin := forIn_ok_inv _ s.disallowedObservers
    (fun j (_ : PUnit) t => SInv env t [] (s.disallowedObservers.drop j) ∧
      IterRel .disallowed .unlinked s0 t)
    (by
      intro j o b t r t' hj ⟨It, Rt⟩ hbody
      rw [drop_of_getElem? hj] at It
      obtain ⟨ob, hob, hbody⟩ := bind_getObs_inv hbody
      replace hbody := bind_dassert_inv hbody
      obtain ⟨t1, ht1, hbody⟩ := bind_modObs_inv hbody
      obtain ⟨t2, ht2, hbody⟩ := bind_modNode_inv hbody
      obtain ⟨t3, ht3, hbody⟩ := bind_modify_inv hbody
      obtain ⟨_, t4, h4, hbody⟩ := bind_ok_inv hbody
      obtain ⟨hr, e⟩ := pure_ok_inv hbody
      rw [e]
      have e3 : t3 = obsRemoved o ob.node ((ob.handlers.length : Nat) : Int) t := by rw [ht3, ht2, ht1]; rfl
      rw [e3] at h4
      obtain ⟨I', R'⟩ := unlink_iter It hob h4
      exact ⟨_, hr, I', Rt.trans R'⟩)
    s.disallowedObservers 0 PUnit.unit s0 u s1 (by simp) (Nat.zero_le _)
    ⟨by rw [List.drop_zero]; exact I0, IterRel.refl _ _ _⟩ hloop
  obtain ⟨I1, R1⟩ := hfin
  rw [List.drop_length] at I1
  refine ⟨I1, R1.newObs.trans hno0, R1.disObs.trans hdo0, P0.trans R1.frame,
    ⟨R1.size.trans (by rw [hob0]), fun o ob ho => ?_⟩,
    hOf_of_recs (R1.size.trans (by rw [hob0])) fun o ob ho => by
      obtain ⟨ob', h1, -, -, h4⟩ := R1.recs o ob (by rw [hob0]; exact ho)
      exact ⟨ob', h1, h4⟩, by rw [← hlog0]; exact R1.log, by rw [R1.nextToken, hs0]⟩
  obtain ⟨ob', h1, h2, h3, -⟩ := R1.recs o ob (by rw [hob0]; exact ho)
  refine ⟨ob', h1, h2, ?_⟩
  rcases h3 with h3 | ⟨h3, h4⟩
  · rw [h3]
    cases hst : ob.state
    case disallowed =>
      have := (I1.obs.dis o ob' h1).1 (by rw [h3, hst])
      cases this
    all_goals rfl
  · rw [h3, h4]; rfl

end IncrVerif.Proofs.SubsH
