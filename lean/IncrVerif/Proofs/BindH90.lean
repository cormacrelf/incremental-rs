import IncrVerif.Proofs.BindH57
import IncrVerif.Proofs.BindH89
import IncrVerif.Proofs.NestH52
/-!
# Binds, part 4 (B4), the prefix of `stabilise`: `addNewObservers`, `unlinkDisallowedObservers` keep `SInv1`

`SInv1` is `SInv2` at the rank `rkOf s` with the static facts `All1`; the two loops keep the keys of the nodes (`PFrame`).
-/
namespace IncrVerif.Proofs.BindH
open IncrVerif.Engine IncrVerif.Driver IncrVerif.Proofs IncrVerif.Proofs.Step IncrVerif.Proofs.Sched IncrVerif.Proofs.Quiet
open IncrVerif.Proofs.Quiet.P12 IncrVerif.Proofs.NestH

theorem SInv1.to2 {env : Env} {s : State} {pn pd : List Nat} (I : SInv1 env s pn pd) : SInv2 env (rkOf s) s pn pd :=
  { I with struct := I.struct.to2 }

theorem _root_.IncrVerif.Proofs.NestH.SInv2.to1 {env : Env} {rk : Nat → Nat} {s s' : State} {pn pd : List Nat}
    (I' : SInv2 env rk s' pn pd) (A : All1 env s []) (P : PFrame s s') : SInv1 env s' pn pd :=
  { I' with struct := I'.struct.to1_of_keyEq A (C2p.keyEq_of_pframe P) }

namespace C2p

/-- fields of the state that the invariant does not read -/
theorem sInv1_congr {env : Env} {s s' : State} {pn pd : List Nat} (I : SInv1 env s pn pd)
    (h1 : s'.observers = s.observers) (h2 : s'.nodes = s.nodes) (h3 : s'.panicCountdown = s.panicCountdown)
    (h4 : s'.currentScope = s.currentScope) (h5 : s'.rch = s.rch) (h6 : s'.vars = s.vars)
    (h7 : s'.propagateInvalidity = s.propagateInvalidity) (h8 : s'.binds = s.binds) : SInv1 env s' pn pd := by
  have hnd : ∀ m, s'.nodeD m = s.nodeD m := fun m => by simp [State.nodeD, h2]
  refine ⟨CU.congr I.struct ⟨SameG.of_nodes h2 h3 h4 h5 h6, h8⟩, obsInv_congr I.obs h1 h2, ?_, h7.trans I.pinv,
    fun m => ?_, fun m => ?_⟩
  · intro o ob h
    rw [h1] at h
    rw [hnd]; exact I.obsTop o ob h
  · rw [hnd]; exact I.handlers m
  · rw [hnd]; exact I.noForce m

end C2p

/-- **`addNewObservers` keeps the prefix invariant, graphs with binds (fragment F1).** -/
theorem addNewObservers_s1 {env : Env} {fuel : Nat} {s s' : State}
    (I : SInv1 env s s.newObservers s.disallowedObservers)
    (h : (addNewObservers env fuel).run.run s = (.ok (), s')) :
    SInv1 env s' [] s'.disallowedObservers ∧ s'.newObservers = [] ∧
      s'.disallowedObservers = s.disallowedObservers ∧ PFrame s s' ∧ ObsMap addedState s s' ∧
      (∀ m, s.isNecessary m = true → s'.isNecessary m = true) := by
  obtain ⟨I', h1, h2, P, h3⟩ := addNewObservers_s2 I.to2 h
  exact ⟨I'.to1 I.struct.frag P, h1, h2, P, h3⟩

/-- `addNewObservers` does not touch the marks of the adjust-heights heap -/
theorem addNewObservers_marks {env : Env} {fuel : Nat} {s s' : State}
    (I : SInv1 env s s.newObservers s.disallowedObservers)
    (h : (addNewObservers env fuel).run.run s = (.ok (), s')) :
    ∀ m, (s'.nodeD m).heightInAhh = (s.nodeD m).heightInAhh :=
  addNewObservers_marks2 I.to2 h

/-- **`unlinkDisallowedObservers` keeps the prefix invariant, graphs with binds (fragment F1).** -/
theorem unlinkDisallowedObservers_s1 {env : Env} {fuel : Nat} {s s' : State}
    (I : SInv1 env s [] s.disallowedObservers) (hn : s.newObservers = [])
    (h : (unlinkDisallowedObservers fuel).run.run s = (.ok (), s')) :
    SInv1 env s' [] [] ∧ s'.newObservers = [] ∧ s'.disallowedObservers = [] ∧ PFrame s s' ∧
      ObsMap unlinkedState s s' := by
  obtain ⟨I', h1, h2, P, h3⟩ := unlinkDisallowedObservers_s2 I.to2 hn h
  exact ⟨I'.to1 I.struct.frag P, h1, h2, P, h3⟩

/-- `unlinkDisallowedObservers` does not touch the marks of the adjust-heights heap -/
theorem unlinkDisallowedObservers_marks {env : Env} {fuel : Nat} {s s' : State}
    (I : SInv1 env s [] s.disallowedObservers) (hn : s.newObservers = [])
    (h : (unlinkDisallowedObservers fuel).run.run s = (.ok (), s')) :
    ∀ m, (s'.nodeD m).heightInAhh = (s.nodeD m).heightInAhh :=
  unlinkDisallowedObservers_marks2 I.to2 hn h

end IncrVerif.Proofs.BindH
