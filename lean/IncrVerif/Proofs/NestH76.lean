import IncrVerif.Proofs.NestH19
import IncrVerif.Proofs.NestRank
import IncrVerif.Proofs.Quiet28
import IncrVerif.Proofs.Sched13
/-!
# Total correctness for binds (F1 ⊂ F2), part a: definitions

* `TInv2 rk N s`: what the "no panic" argument needs besides the structural invariants.
* `Quiet.Tot x s Q` (the run returns, in a state satisfying `Q`) is reused for everything that creates no node; runs that create nodes (closure runs, the drain,
  `stabilise`, histories) are handled with `TotIf`: IF the state the run ends in (whatever the outcome) still has room, then the run returned.
-/
namespace IncrVerif.Proofs.NestH
open IncrVerif.Engine IncrVerif.Proofs IncrVerif.Proofs.Step IncrVerif.Proofs.Sched IncrVerif.Proofs.Quiet
open IncrVerif.Proofs.BindH

/-- re-ranking that keeps the order of the old nodes, and growth of the node table, only increase the position of an old node -/
theorem cnt_ext {rk rk' : Nat → Nat} {N N' n : Nat} (hx : RkExt rk rk' N) (hn : n < N) (hN : N ≤ N') :
    cnt rk N n ≤ cnt rk' N' n := by
  unfold cnt
  have h1 : (List.range N).countP (fun m => decide (rk m < rk n)) = (List.range N).countP (fun m => decide (rk' m < rk' n)) := by
    apply List.countP_congr
    intro m hm
    have hm' := List.mem_range.1 hm
    simp only [decide_eq_true_eq]
    exact (hx m n hm' hn).symm
  rw [h1]
  obtain ⟨k, rfl⟩ : ∃ k, N' = N + k := ⟨N' - N, by omega⟩
  rw [List.range_add, List.countP_append]
  omega

structure TInv2 (rk : Nat → Nat) (N : Nat) (s : State) : Prop where
  hb : HBo2 rk s allClosed
  room : Room N s
  linked : ∀ (c : Nat) (vc : VarCell), s.vars[c]? = some vc → vc.linked = true
  /-- the observers waiting to be added: no duplicates, each still `created` or already `unlinked` -/
  newNodup : s.newObservers.Nodup
  newState : ∀ (o : Nat) (ob : ObsRec), o ∈ s.newObservers → s.observers[o]? = some ob →
    ob.state = .created ∨ ob.state = .unlinked

/-! ## runs that create nodes -/

/-- the resources the final state must still respect: at most `N` nodes, and fuel `F` for `c * size + d` steps -/
def ResOK (N : Nat) (s : State) : Prop := s.nodes.size ≤ N

/-- IF the state the run ends in (whatever the outcome) satisfies `B`, THEN the run returned normally, in a state satisfying `Q` -/
def TotIf {α} (x : M α) (s : State) (B : State → Prop) (Q : α → State → Prop) : Prop :=
  ∀ r s', x.run.run s = (r, s') → B s' → ∃ a, r = .ok a ∧ Q a s'

theorem TotIf.of_tot {α} {x : M α} {s : State} {B : State → Prop} {Q : α → State → Prop} (T : Tot x s Q) :
    TotIf x s B Q := by
  obtain ⟨a, s1, h1, h2⟩ := T
  intro r s' h _
  rw [h1] at h
  cases h
  exact ⟨a, rfl, h2⟩

theorem TotIf.mono {α} {x : M α} {s : State} {B : State → Prop} {Q Q' : α → State → Prop} (T : TotIf x s B Q)
    (h : ∀ a t, Q a t → Q' a t) : TotIf x s B Q' := by
  intro r s' hr hB
  obtain ⟨a, e, hq⟩ := T r s' hr hB
  exact ⟨a, e, h a s' hq⟩

/-- sequencing: the bound `B` must be downward closed along the continuation (`hmono`: if the final state of `f a` from `s1` satisfies `B` then so does `s1`) -/
theorem TotIf.bind {α β} {x : M α} {f : α → M β} {s : State} {B : State → Prop} {Q : α → State → Prop} {Q' : β → State → Prop}
    (hx : TotIf x s B Q)
    (hmono : ∀ a s1 r s', x.run.run s = (.ok a, s1) → (f a).run.run s1 = (r, s') → B s' → B s1)
    (hf : ∀ a s1, x.run.run s = (.ok a, s1) → Q a s1 → TotIf (f a) s1 B Q') : TotIf (x >>= f) s B Q' := by
  intro r s' h hB
  rw [run_bind] at h
  rcases hx1 : x.run.run s with ⟨e | a, s1⟩
  · rw [hx1] at h
    cases h
    obtain ⟨a, e', -⟩ := hx _ _ hx1 hB
    cases e'
  · rw [hx1] at h
    have hB1 := hmono a s1 r s' hx1 h hB
    obtain ⟨a', e', hq⟩ := hx (.ok a) s1 hx1 hB1
    cases e'
    exact hf a s1 hx1 hq r s' h hB

end IncrVerif.Proofs.NestH
