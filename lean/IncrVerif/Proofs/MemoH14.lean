import IncrVerif.Proofs.MemoH9
/-!
# K3, recompute part (1): memoised calls, templates, and the "knowledge" layer `KB.PresK`

* `KB.memoCall`, `KB.elabInstrM`, `KB.elabTemplate`: `Pres TV` for every memoised call / instruction / template;
* `KB.PresK I x`: `x` is a `FR` step, and from a state satisfying the (future-monotone) knowledge `I` it is a
  `TV` step — under the premises `NoPK s'` (of the FINAL state) and `RegScoped s` (of the start state), which
  are exactly what `TV.valid` may assume.  `PresK TrueP x → Pres TV x`.
-/
namespace IncrVerif.Proofs.MemoH
open IncrVerif.Engine IncrVerif.Proofs.Obs IncrVerif.Proofs.Memo
open IncrVerif.Proofs.Step (run_bind_ok run_throw)

namespace KB

/-! ## small `TV` facts -/

/-- `FR` step + (`NoPK s' → RegScoped s → TV`) is a `TV` step -/
theorem TV.of_cond {s s' : State} (h : FR s s') (hc : NoPK s' → RegScoped s → TV s s') : TV s s' :=
  ⟨h.fut, h.reg, fun hn hr ht => (hc hn hr).valid hn hr ht⟩

/-- a new name in `top` (and a new handle) -/
theorem TV.of_push (s : State) (n : Nat) (hs : List Nat) :
    TV s { s with top := s.top.push n, handles := hs } := by
  have hf : Fut s { s with top := s.top.push n, handles := hs } :=
    ⟨Nat.le_refl _, fun _ _ => rfl, fun k x hk => by
      show (s.top.push n)[k]? = some x
      have hlt : k < s.top.size := by
        rcases Nat.lt_or_ge k s.top.size with h | h
        · exact h
        · rw [Array.getElem?_eq_none h] at hk; cases hk
      rw [Array.getElem?_push]
      rw [if_neg (Nat.ne_of_lt hlt)]; exact hk⟩
  exact ⟨hf, RegScoped.of_eq rfl rfl, fun _ _ ht x hx => ht x (hx.back hf hx.lt)⟩

/-! ## goal 1: memoised calls, instructions, templates -/

theorem memoCall (env : Env) (m : Nat) (key : Int) : Pres TV (Engine.memoCall env m key) := by
  constructor
  intro s r s' hrun
  rcases memoCall_cases env m key s s' r hrun with ⟨-, rfl⟩ | ⟨-, hf | ⟨s1, s2, n, -, -, hf2, rfl⟩⟩
  · exact TV.refl _
  · exact FLocal.of_frame _ _ hf
  · exact (FLocal.of_frame _ _ hf2 : TV s s2).trans (TV.of_eq rfl rfl rfl)

theorem elabInstrM (env : Env) (loc v) (i : Instr) : Pres TV (Engine.elabInstrM env loc v i) := by
  unfold Engine.elabInstrM
  split
  · exact Pres.map _ (memoCall env _ _)
  · exact PresF.elabInstr _ _ _

theorem elabTemplate (env : Env) (t : Template) (v) : Pres TV (Engine.elabTemplate env t v) := by
  unfold Engine.elabTemplate
  refine Pres.bind (Pres.forIn_mem fun i _ b => ?_) fun _ => Pres.resolveOpnd _ _
  refine Pres.bind (elabInstrM env _ _ i) fun r => ?_
  split <;> exact Pres.pure _

theorem memoCallFR (env : Env) (m : Nat) (key : Int) : Pres FR (Engine.memoCall env m key) :=
  (memoCall env m key).mono fun _ _ h => h.fr

theorem bodiesTrue (env : Env) : BodiesP (fun _ _ => True) env := fun _ _ _ _ _ _ _ => trivial

/-! ## knowledge -/

/-- predicates on states that are kept along futures -/
class FutMono (I : State → Prop) : Prop where
  mono : ∀ s s', Fut s s' → I s → I s'

def TrueP : State → Prop := fun _ => True
def AndP (I J : State → Prop) : State → Prop := fun s => I s ∧ J s
/-- node `n` exists and has kind `k` -/
def KindAt (n : Nat) (k : Kind) : State → Prop := fun s => n < s.nodes.size ∧ (s.nodeD n).kind = k
/-- the nodes of `L` exist and were created in scope `.bind b` -/
def Sc (L : List Nat) (b : Nat) : State → Prop :=
  fun s => ∀ r ∈ L, r < s.nodes.size ∧ (s.nodeD r).createdIn = .bind b

instance : FutMono TrueP := ⟨fun _ _ _ h => h⟩
instance (I J) [FutMono I] [FutMono J] : FutMono (AndP I J) :=
  ⟨fun s s' hf h => ⟨FutMono.mono s s' hf h.1, FutMono.mono s s' hf h.2⟩⟩
instance (n k) : FutMono (KindAt n k) :=
  ⟨fun s s' hf h => by
    have hc := hf.core n h.1
    simp only [nodeK, Prod.mk.injEq] at hc
    exact ⟨Nat.lt_of_lt_of_le h.1 hf.nodesLe, hc.1.trans h.2⟩⟩
instance (L b) : FutMono (Sc L b) :=
  ⟨fun s s' hf h r hr => by
    have hc := hf.core r (h r hr).1
    simp only [nodeK, Prod.mk.injEq] at hc
    exact ⟨Nat.lt_of_lt_of_le (h r hr).1 hf.nodesLe, hc.2.trans (h r hr).2⟩⟩

theorem KindAt.notSTop {n : Nat} {k : Kind} {s : State} (h : KindAt n k s) (hk : ¬ StaticK k) :
    ¬ STop s n := fun hs => hk (h.2 ▸ hs.static)

theorem Sc.notSTop {L : List Nat} {b : Nat} {s : State} (h : Sc L b s) {r : Nat} (hr : r ∈ L) :
    ¬ STop s r := fun hs => by
  have := hs.scope
  rw [(h r hr).2] at this
  cases this

/-- the knowledge-carrying judgement -/
structure PresK (I : State → Prop) {α} (x : M α) : Prop where
  fr : Pres FR x
  tv : ∀ s r s', x.run.run s = (r, s') → I s → NoPK s' → RegScoped s → TV s s'

theorem PresK.of_pres {I : State → Prop} {α} {x : M α} (h : Pres TV x) : PresK I x :=
  ⟨h.mono fun _ _ h => h.fr, fun s r s' hrun _ _ _ => h.h s r s' hrun⟩

theorem PresK.toPres {α} {x : M α} (h : PresK TrueP x) : Pres TV x :=
  ⟨fun s r s' hrun => TV.of_cond (h.fr.h s r s' hrun) fun hn hr => h.tv s r s' hrun trivial hn hr⟩

theorem PresK.weaken {I J : State → Prop} {α} {x : M α} (h : PresK J x) (hij : ∀ s, I s → J s) :
    PresK I x :=
  ⟨h.fr, fun s r s' hrun hi hn hr => h.tv s r s' hrun (hij s hi) hn hr⟩

theorem PresK.bind {I : State → Prop} [FutMono I] {α β} {x : M α} {f : α → M β}
    (hx : PresK I x) (hf : ∀ a, PresK I (f a)) : PresK I (x >>= f) := by
  refine ⟨Pres.bind hx.fr fun a => (hf a).fr, ?_⟩
  intro s r s' h hi hn hr
  rw [run_bind] at h
  rcases hx' : x.run.run s with ⟨r1, s1⟩
  rw [hx'] at h
  cases r1 with
  | error e => cases h; exact hx.tv s _ _ hx' hi hn hr
  | ok a =>
    dsimp only at h
    have hfr := (hf a).fr.h s1 r s' h
    have h1 := hx.tv s _ s1 hx' hi (hn.back hfr.fut) hr
    exact h1.trans ((hf a).tv s1 r s' h (FutMono.mono s s1 h1.fut hi) hn (h1.reg hr))

theorem PresK.forIn_mem {I : State → Prop} [FutMono I] {α β} {l : List α} {init : β}
    {f : α → β → M (ForInStep β)} (hf : ∀ a, a ∈ l → ∀ b, PresK I (f a b)) :
    PresK I (forIn l init f) := by
  induction l generalizing init with
  | nil => rw [List.forIn_nil]; exact PresK.of_pres (Pres.pure _)
  | cons a l ih =>
    rw [List.forIn_cons]
    refine PresK.bind (hf a List.mem_cons_self init) fun r => ?_
    cases r with
    | done b => exact PresK.of_pres (Pres.pure _)
    | yield b => exact ih fun a' ha' b => hf a' (List.mem_cons_of_mem _ ha') b

/-- reading a node teaches its kind -/
theorem PresK.getNode_bind {I : State → Prop} [FutMono I] {β} (n : Nat) {f : Node → M β}
    (hf : ∀ nd, PresK (AndP I (KindAt n nd.kind)) (f nd)) : PresK I (getNode n >>= f) := by
  refine ⟨Pres.bind (Pres.getNode _) fun a => (hf a).fr, ?_⟩
  intro s r s' h hi hn hr
  rw [run_bind] at h
  unfold Engine.getNode at h
  simp only [run_bind, run_get] at h
  cases hnd : s.nodes[n]? with
  | none =>
    rw [hnd] at h
    simp only [Engine.panic, run_throw] at h
    cases h; exact TV.refl _
  | some nd =>
    rw [hnd] at h
    simp only [run_pure] at h
    have hlt : n < s.nodes.size := by
      rcases Nat.lt_or_ge n s.nodes.size with h | h
      · exact h
      · rw [Array.getElem?_eq_none h] at hnd; cases hnd
    refine (hf nd).tv s r s' h ⟨hi, hlt, ?_⟩ hn hr
    simp only [State.nodeD, hnd, Option.getD_some]

/-- reading a bind record teaches (under `RegScoped`) where its registered nodes live -/
theorem PresK.getBind_bind {I : State → Prop} [FutMono I] {β} (b : Nat) {f : BindRec → M β}
    (hf : ∀ br, PresK (AndP I (Sc br.allNodesCreatedOnRhs b)) (f br)) : PresK I (getBind b >>= f) := by
  refine ⟨Pres.bind (Pres.getBind _) fun a => (hf a).fr, ?_⟩
  intro s r s' h hi hn hr
  rw [run_bind] at h
  unfold Engine.getBind at h
  simp only [run_bind, run_get] at h
  cases hbr : s.binds[b]? with
  | none =>
    rw [hbr] at h
    simp only [Engine.panic, run_throw] at h
    cases h; exact TV.refl _
  | some br =>
    rw [hbr] at h
    simp only [run_pure] at h
    exact (hf br).tv s r s' h ⟨hi, fun x hx => hr b br hbr x hx⟩ hn hr

/-- invalidating a node known not to be hereditarily static -/
theorem PresK.invalidate {env : Env} (hA : ASpec env) {I : State → Prop} (fuel n : Nat)
    (hI : ∀ s, I s → ¬ STop s n) : PresK I (invalidateNode fuel n) :=
  ⟨PresI.invalidateNode fuel n, fun s r s' hrun hi _ _ => hA.inval fuel n s r s' hrun (hI s hi)⟩

/-- a computation that cannot run to a `NoPK` state from a state satisfying `I` -/
theorem PresK.dead {I : State → Prop} {α} {x : M α} (hfr : Pres FR x) (hI : ∀ s, I s → ¬ NoPK s) :
    PresK I x :=
  ⟨hfr, fun s r s' hrun hi hn _ => absurd (hn.back (hfr.h s r s' hrun).fut) (hI s hi)⟩

theorem KindAt.notNoPK {n f : Nat} {args : List Nat} {s : State} (h : KindAt n (.map f args) s)
    (hf : f ≥ fnPerKey) : ¬ NoPK s := fun hn => absurd (hn n f args h.1 h.2) (Nat.not_lt.2 hf)

end KB

end IncrVerif.Proofs.MemoH
