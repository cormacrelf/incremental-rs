import IncrVerif.Proofs.StepInv
/-!
# Partial and total correctness of a run, by one walk

`Corr x s P Q`: if the run of `x` from `s` returns then `Q` holds of its result and final state, and under `P` it does return.
`P` stands for what only the "no panic" argument needs (room in the heaps, a height bound, enough fuel); what `Q` says under `P`
only is written `P → …` inside `Q`.  The run is walked forwards once: a step that cannot fail is passed by its run equation
(`Corr.bind_ok`), a step that can fail asks for `P` (`Corr.bind_ret`, `Corr.bind_dassert`, `Corr.throw`), a call asks for the
callee's `P` under the caller's and hands over the callee's `Q` (`Corr.bind`).
-/
namespace IncrVerif.Proofs.Step
open IncrVerif.Engine IncrVerif.Proofs

def Corr {α} (x : M α) (s : State) (P : Prop) (Q : α → State → Prop) : Prop :=
  (P → ∃ a s', x.run.run s = (.ok a, s')) ∧ ∀ a s', x.run.run s = (.ok a, s') → Q a s'

section
variable {α β : Type} {x : M α} {s : State} {P : Prop} {Q : α → State → Prop}

theorem Corr.ok (C : Corr x s P Q) {a : α} {s' : State} (h : x.run.run s = (.ok a, s')) : Q a s' := C.2 a s' h

/-- the conclusion is the body of `Quiet.Tot x s Q` (`Proofs/Quiet20.lean`) -/
theorem Corr.tot (C : Corr x s P Q) (hp : P) : ∃ a s', x.run.run s = (.ok a, s') ∧ Q a s' := by
  obtain ⟨a, s', h⟩ := C.1 hp
  exact ⟨a, s', h, C.2 a s' h⟩

theorem Corr.of_ok {a : α} {s1 : State} (h : x.run.run s = (.ok a, s1)) (hq : Q a s1) : Corr x s P Q := by
  refine ⟨fun _ => ⟨a, s1, h⟩, fun a' s' h' => ?_⟩
  rw [h] at h'
  cases h'
  exact hq

/-- a run equation (a closed form of the function, from another state) may stand for the run -/
theorem Corr.of_run_eq {y : M α} {s' : State} (h : x.run.run s = y.run.run s') (C : Corr y s' P Q) : Corr x s P Q := by
  unfold Corr
  rw [h]
  exact C

/-- the post-condition may speak of the run -/
theorem Corr.and_run (C : Corr x s P Q) : Corr x s P (fun a s' => x.run.run s = (.ok a, s') ∧ Q a s') :=
  ⟨C.1, fun a s' h => ⟨h, C.2 a s' h⟩⟩

theorem Corr.mono {P' : Prop} {Q' : α → State → Prop} (C : Corr x s P Q) (hp : P' → P) (hq : ∀ a t, Q a t → Q' a t) :
    Corr x s P' Q' :=
  ⟨fun h => C.1 (hp h), fun a s' h => hq a s' (C.2 a s' h)⟩

theorem Corr.pure {a : α} (h : Q a s) : Corr (pure a : M α) s P Q := Corr.of_ok (run_pure a s) h

theorem Corr.panic {site : String} (h : ¬ P) : Corr (Engine.panic site : M α) s P Q := by
  refine ⟨fun hp => absurd hp h, fun a s' h' => ?_⟩
  rw [run_panic] at h'
  cases h'

theorem Corr.throw {e : Panic} (h : ¬ P) : Corr (throw e : M α) s P Q := by
  refine ⟨fun hp => absurd hp h, fun a s' h' => ?_⟩
  rw [run_throw] at h'
  cases h'

theorem Corr.bind {f : α → M β} {P1 : Prop} {Q' : β → State → Prop} (hx : Corr x s P1 Q) (hp1 : P → P1)
    (hf : ∀ a s1, x.run.run s = (.ok a, s1) → Q a s1 → Corr (f a) s1 P Q') : Corr (x >>= f) s P Q' := by
  constructor
  · intro hp
    obtain ⟨a, s1, h1⟩ := hx.1 (hp1 hp)
    obtain ⟨b, s2, h2⟩ := (hf a s1 h1 (hx.2 a s1 h1)).1 hp
    exact ⟨b, s2, by rw [run_bind_ok h1]; exact h2⟩
  · intro b s' h
    obtain ⟨a, s1, h1, h2⟩ := bind_ok_inv h
    exact (hf a s1 h1 (hx.2 a s1 h1)).2 b s' h2

theorem Corr.bind_panic {site : String} {f : α → M β} {Q' : β → State → Prop} (h : ¬ P) :
    Corr (Engine.panic site >>= f) s P Q' :=
  Corr.bind (Q := fun _ _ => False) (Corr.panic h) id (fun _ _ _ e => e.elim)

/-- a step that returns under `P`; the rest of the run starts from whatever state it returns in -/
theorem Corr.bind_ret {f : α → M β} {Q' : β → State → Prop} (hr : P → ∃ a s1, x.run.run s = (.ok a, s1))
    (C : ∀ a s1, x.run.run s = (.ok a, s1) → Corr (f a) s1 P Q') : Corr (x >>= f) s P Q' :=
  Corr.bind (P1 := P) (Q := fun a s1 => x.run.run s = (.ok a, s1)) ⟨hr, fun _ _ h => h⟩ id (fun a s1 h _ => C a s1 h)

theorem Corr.bind_ok {f : α → M β} {Q' : β → State → Prop} {a : α} {s1 : State} (h : x.run.run s = (.ok a, s1))
    (C : Corr (f a) s1 P Q') : Corr (x >>= f) s P Q' :=
  Corr.bind (P1 := True) (Q := fun a' s' => a' = a ∧ s' = s1) (Corr.of_ok h ⟨rfl, rfl⟩) (fun _ => trivial)
    (fun _ _ _ e => by rw [e.1, e.2]; exact C)

theorem Corr.bind_get {f : State → M β} {Q' : β → State → Prop} (C : Corr (f s) s P Q') :
    Corr ((MonadState.get : M State) >>= f) s P Q' := Corr.bind_ok (run_get s) C

/-- the state after the write gets a name, so that the goal does not carry the record update -/
theorem Corr.bind_modify {g : State → State} {f : Unit → M β} {Q' : β → State → Prop}
    (C : ∀ s1, s1 = g s → Corr (f ()) s1 P Q') : Corr (modify g >>= f) s P Q' :=
  Corr.bind_ok (run_modify g s) (C _ rfl)

theorem Corr.bind_modNode {n : Nat} {g : Node → Node} {f : Unit → M β} {Q' : β → State → Prop}
    (C : ∀ s1, s1 = { s with nodes := s.nodes.modify n g } → Corr (f ()) s1 P Q') : Corr (modNode n g >>= f) s P Q' :=
  Corr.bind_ok (run_modNode n g s) (C _ rfl)

theorem Corr.bind_dassert {c : Bool} {site : String} {f : Unit → M β} {Q' : β → State → Prop}
    (hc : P → s.cfg.debug = true → c = true) (C : Corr (f ()) s P Q') : Corr (Engine.dassert c site >>= f) s P Q' := by
  constructor
  · intro hp
    obtain ⟨b, s2, h2⟩ := C.1 hp
    exact ⟨b, s2, by rw [run_bind_ok (run_dassert_true s (hc hp))]; exact h2⟩
  · intro b s' h
    exact C.2 b s' (bind_dassert_inv h)

theorem Corr.bind_getNode {n : Nat} {f : Node → M β} {Q' : β → State → Prop} (hn : n < s.nodes.size)
    (C : Corr (f (s.nodeD n)) s P Q') : Corr (Engine.getNode n >>= f) s P Q' :=
  Corr.bind_ok (run_getNode_some (some_of_lt hn)) C

/-- a `forIn` over a list whose body always yields: an invariant indexed by the number of iterations done -/
theorem Corr.forIn {γ} (f : γ → β → M (ForInStep β)) (l : List γ) (I : Nat → β → State → Prop)
    (hstep : ∀ j c b t, l[j]? = some c → I j b t →
      Corr (f c b) t P (fun r t' => ∃ b', r = .yield b' ∧ I (j + 1) b' t'))
    (rest : List γ) (j : Nat) (b : β) (hd : l.drop j = rest) (hle : j ≤ l.length) (hI : I j b s) :
    Corr (forIn rest b f) s P (fun b' s' => I l.length b' s') := by
  refine ⟨fun hp => ?_, fun b' s' h => ?_⟩
  · obtain ⟨b', s', h, -⟩ := forIn_tot f l I (fun j c b t hj hi => by
      obtain ⟨r, t', h, b', e, hi'⟩ := (hstep j c b t hj hi).tot hp
      exact ⟨b', t', by rw [h, e], hi'⟩) rest j b s hd hle hI
    exact ⟨b', s', h⟩
  · exact forIn_ok_inv f l I (fun j c b t r t' hj hi h => (hstep j c b t hj hi).ok h) rest j b s b' s' hd hle hI h

end

end IncrVerif.Proofs.Step
