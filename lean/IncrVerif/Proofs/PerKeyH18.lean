import IncrVerif.Proofs.PerKeyH17
/-!
# The twin simulation, part 2: the expert callbacks; the engine functions

An expert node is its own image in the twin and its work is done on both sides (`twExpWork`, from the callbacks below), with log entries of its
own on the twin.  `TSim` of an engine function is the forward half of its `NodeSim.CommX` over the family `twRel`.
-/
namespace IncrVerif.Proofs.PerKeyH
open IncrVerif.Engine IncrVerif.Driver IncrVerif.Proofs IncrVerif.Proofs.Step IncrVerif.Proofs.Sched
open IncrVerif.Proofs.ExpertH IncrVerif.Proofs.EffH

set_option hygiene false in
macro_rules | `(tactic| simx_leaf) => `(tactic| with_reducible exact (IncrVerif.Proofs.PerKeyH.TSim.logEv _ _).commX)
set_option hygiene false in
macro_rules | `(tactic| simx_leaf) => `(tactic|
  ((with_reducible refine (IncrVerif.Proofs.PerKeyH.TSim.modExpert _ ?_ ?_).commX) <;>
    first | (intro er; rfl) | (intro er h; first | exact h | rfl | (simp only [h]; rfl))))

set_option hygiene false in
macro_rules | `(tactic| simx_leaf) => `(tactic|
  ((with_reducible refine (IncrVerif.Proofs.PerKeyH.TSim.modNode _ ?_ ?_).commX) <;>
    first | (intro nd; rfl) | (intro nd; exact ⟨rfl, rfl⟩)))

/-! ## the expert callbacks: the twin (whose records have `pk = none`) always ticks and logs -/

theorem TSim.observabilityChange (e : Nat) (b : Bool) :
    TSim (Engine.observabilityChange e b) (Engine.observabilityChange e b) := by
  have H := @twBlind
  have hρ := twExperts
  refine .of_commX fun l s => ?_
  unfold Engine.observabilityChange
  sim
  by_cases hp : er.pk.isNone = true
  · simp only [hp, twRec_pk, Option.isNone_none, if_true]
    sim
  · simp only [hp, twRec_pk, Option.isNone_none, if_true, Bool.false_eq_true, if_false]
    refine tsimL_iff.1 (TSimL.getR_seq (TSimL.logR_seq (tsimL_iff.2 ?_)))
    sim
set_option hygiene false in
macro_rules | `(tactic| simx_leaf) => `(tactic| with_reducible exact (IncrVerif.Proofs.PerKeyH.TSim.observabilityChange _ _).commX)

theorem TSim.edgeOnChange (env : Env) (e : Nat) (edge : ExpertEdge) :
    TSim (Engine.edgeOnChange env e edge) (Engine.edgeOnChange (twEnv env) e edge) := by
  have H := @twBlind
  have hρ := twExperts
  refine .of_commX fun l s => ?_
  unfold Engine.edgeOnChange
  cases edge.cb with
  | none => exact NodeSim.CommXAt.ret _
  | some c =>
    dsimp only
    refine NodeSim.CommXAt.get_seq ?_
    rw [← twL_eq, twL_value]
    cases s.value env edge.child with
    | none => exact NodeSim.CommXAt.ret _
    | some v =>
      dsimp only
      sim
      by_cases hp : er.pk.isNone = true
      · simp only [hp, twRec_pk, Option.isNone_none, if_true]
        sim
      · simp only [hp, twRec_pk, Option.isNone_none, if_true, Bool.false_eq_true, if_false]
        refine tsimL_iff.1 (TSimL.tickR_seq (TSimL.logR_seq (tsimL_iff.2 ?_)))
        sim
set_option hygiene false in
macro_rules | `(tactic| simx_leaf) => `(tactic| with_reducible exact (IncrVerif.Proofs.PerKeyH.TSim.edgeOnChange _ _ _).commX)

theorem TSim.runEdgeCallback (env : Env) (e i : Nat) :
    TSim (Engine.runEdgeCallback env e i) (Engine.runEdgeCallback (twEnv env) e i) := by
  have H := @twBlind
  have hρ := twExperts
  refine .of_commX fun l s => ?_
  unfold Engine.runEdgeCallback; sim
  simp only [twRec_children]
  cases er.children[i]? <;> sim
set_option hygiene false in
macro_rules | `(tactic| simx_leaf) => `(tactic| with_reducible exact (IncrVerif.Proofs.PerKeyH.TSim.runEdgeCallback _ _ _).commX)

theorem twRefWork {E : Panic → Prop} {l : List Event} : NodeSim.RefWork E (twRel l) Fr := .of_noRef twBlind noRef

theorem twObsWork : NodeSim.ObsWork (fun _ => False) twRel fun _ => Fr :=
  .kept (fun _ _ _ => rfl) fun e b => (TSim.observabilityChange e b).commX

theorem twExpWork (env : Env) : NodeSim.ExpWork (fun _ => False) twRel (fun _ => Fr) env (twEnv env) :=
  .kept (fun _ _ _ => rfl) twObsWork fun e j => (TSim.runEdgeCallback env e j).commX

/-! ## the engine functions -/

theorem TSim.addParent (c i p : Nat) : TSim (Engine.addParent c i p) (Engine.addParent c i p) :=
  .of_comm fun _ => NodeSim.Comm.addParent twBlind addsParents c i p
set_option hygiene false in
macro_rules | `(tactic| simx_leaf) => `(tactic| with_reducible exact (IncrVerif.Proofs.PerKeyH.TSim.addParent _ _ _).commX)

theorem TSim.removeParent (c i p : Nat) : TSim (Engine.removeParent c i p) (Engine.removeParent c i p) :=
  .of_comm fun _ => NodeSim.Comm.removeParent twBlind c i p
set_option hygiene false in
macro_rules | `(tactic| simx_leaf) => `(tactic| with_reducible exact (IncrVerif.Proofs.PerKeyH.TSim.removeParent _ _ _).commX)

theorem TSim.setHeight (n : Nat) (h : Int) : TSim (Engine.setHeight n h) (Engine.setHeight n h) :=
  .of_comm fun _ => NodeSim.Comm.setHeight twBlind n h
set_option hygiene false in
macro_rules | `(tactic| simx_leaf) => `(tactic| with_reducible exact (IncrVerif.Proofs.PerKeyH.TSim.setHeight _ _).commX)

theorem TSim.rchInsert (n : Nat) : TSim (Engine.rchInsert n) (Engine.rchInsert n) :=
  .of_comm fun _ => NodeSim.Comm.rchInsert twBlind n
set_option hygiene false in
macro_rules | `(tactic| simx_leaf) => `(tactic| with_reducible exact (IncrVerif.Proofs.PerKeyH.TSim.rchInsert _).commX)

theorem TSim.rchRemoveMin : TSim Engine.rchRemoveMin Engine.rchRemoveMin :=
  .of_comm fun _ => NodeSim.Comm.rchRemoveMin twBlind
set_option hygiene false in
macro_rules | `(tactic| simx_leaf) => `(tactic| with_reducible exact (IncrVerif.Proofs.PerKeyH.TSim.rchRemoveMin).commX)

theorem TSim.ensureHeightRequirement (oc op c p : Nat) :
    TSim (Engine.ensureHeightRequirement oc op c p) (Engine.ensureHeightRequirement oc op c p) :=
  .of_comm fun _ => NodeSim.Comm.ensureHeightRequirement twBlind oc op c p
set_option hygiene false in
macro_rules | `(tactic| simx_leaf) => `(tactic| with_reducible exact (IncrVerif.Proofs.PerKeyH.TSim.ensureHeightRequirement _ _ _ _).commX)

theorem TSim.handleAfterStabilisation (n : Nat) :
    TSim (Engine.handleAfterStabilisation n) (Engine.handleAfterStabilisation n) :=
  .of_comm fun _ => NodeSim.Comm.handleAfterStabilisation twBlind n
set_option hygiene false in
macro_rules | `(tactic| simx_leaf) => `(tactic| with_reducible exact (IncrVerif.Proofs.PerKeyH.TSim.handleAfterStabilisation _).commX)

/-- no map_ref nodes: a no-op on both sides -/
theorem TSim.markMapRefUnknown (fuel n : Nat) :
    TSim (Engine.markMapRefUnknown fuel n) (Engine.markMapRefUnknown fuel n) :=
  .of_comm fun _ => NodeSim.Comm.markMapRefUnknown twBlind noRef fuel n
set_option hygiene false in
macro_rules | `(tactic| simx_leaf) => `(tactic| with_reducible exact (IncrVerif.Proofs.PerKeyH.TSim.markMapRefUnknown _ _).commX)

theorem TSim.adjustHeights (oc op fuel : Nat) :
    TSim (Engine.adjustHeights oc op fuel) (Engine.adjustHeights oc op fuel) :=
  .of_comm fun _ => NodeSim.Comm.adjustHeights twBlind oc op fuel
set_option hygiene false in
macro_rules | `(tactic| simx_leaf) => `(tactic| with_reducible exact (IncrVerif.Proofs.PerKeyH.TSim.adjustHeights _ _ _).commX)

theorem TSim.link (env : Env) (fuel : Nat) :
    (∀ n, TSim (becameNecessary env fuel n) (becameNecessary (twEnv env) fuel n)) ∧
    (∀ c i p, TSim (addParentWithoutAdjustingHeights env fuel c i p)
      (addParentWithoutAdjustingHeights (twEnv env) fuel c i p)) :=
  ⟨fun n => .of_commX (NodeSim.CommX.becameNecessary twBlind addsParents twRefWork (twExpWork env) fuel n),
    fun c i p => .of_commX
      (NodeSim.CommX.addParentWithoutAdjustingHeights twBlind addsParents twRefWork (twExpWork env) fuel c i p)⟩

theorem TSim.becameNecessary (env : Env) (fuel n : Nat) :
    TSim (Engine.becameNecessary env fuel n) (Engine.becameNecessary (twEnv env) fuel n) := (TSim.link env fuel).1 n
theorem TSim.addParentWithoutAdjustingHeights (env : Env) (fuel c i p : Nat) :
    TSim (Engine.addParentWithoutAdjustingHeights env fuel c i p)
      (Engine.addParentWithoutAdjustingHeights (twEnv env) fuel c i p) := (TSim.link env fuel).2 c i p
set_option hygiene false in
macro_rules | `(tactic| simx_leaf) => `(tactic| with_reducible exact (IncrVerif.Proofs.PerKeyH.TSim.becameNecessary _ _ _).commX)
set_option hygiene false in
macro_rules | `(tactic| simx_leaf) => `(tactic| with_reducible exact (IncrVerif.Proofs.PerKeyH.TSim.addParentWithoutAdjustingHeights _ _ _ _ _).commX)

theorem TSim.unlink (fuel : Nat) :
    (∀ n, TSim (becameUnnecessary fuel n) (becameUnnecessary fuel n)) ∧
    (∀ n, TSim (checkIfUnnecessary fuel n) (checkIfUnnecessary fuel n)) ∧
    (∀ n, TSim (removeChildren fuel n) (removeChildren fuel n)) :=
  ⟨fun n => .of_commX (NodeSim.CommX.becameUnnecessary twBlind twObsWork fuel n),
    fun n => .of_commX (NodeSim.CommX.checkIfUnnecessary twBlind twObsWork fuel n),
    fun n => .of_commX (NodeSim.CommX.removeChildren twBlind twObsWork fuel n)⟩

theorem TSim.becameUnnecessary (fuel n : Nat) :
    TSim (Engine.becameUnnecessary fuel n) (Engine.becameUnnecessary fuel n) := (TSim.unlink fuel).1 n
theorem TSim.checkIfUnnecessary (fuel n : Nat) :
    TSim (Engine.checkIfUnnecessary fuel n) (Engine.checkIfUnnecessary fuel n) := (TSim.unlink fuel).2.1 n
theorem TSim.removeChildren (fuel n : Nat) :
    TSim (Engine.removeChildren fuel n) (Engine.removeChildren fuel n) := (TSim.unlink fuel).2.2 n
set_option hygiene false in
macro_rules | `(tactic| simx_leaf) => `(tactic| with_reducible exact (IncrVerif.Proofs.PerKeyH.TSim.becameUnnecessary _ _).commX)
set_option hygiene false in
macro_rules | `(tactic| simx_leaf) => `(tactic| with_reducible exact (IncrVerif.Proofs.PerKeyH.TSim.checkIfUnnecessary _ _).commX)
set_option hygiene false in
macro_rules | `(tactic| simx_leaf) => `(tactic| with_reducible exact (IncrVerif.Proofs.PerKeyH.TSim.removeChildren _ _).commX)

/-- `Fr.pinv`: the stack is empty, a no-op on both sides -/
theorem TSim.propagateInvalidity (fuel : Nat) :
    TSim (Engine.propagateInvalidity fuel) (Engine.propagateInvalidity fuel) :=
  .of_comm fun _ => NodeSim.Comm.propagateInvalidity (fun _ h => h.pinv) fuel
set_option hygiene false in
macro_rules | `(tactic| simx_leaf) => `(tactic| with_reducible exact (IncrVerif.Proofs.PerKeyH.TSim.propagateInvalidity _).commX)

theorem TSim.shouldCutoff (env : Env) (n : Nat) (o v : Val) :
    TSim (Engine.shouldCutoff env n o v) (Engine.shouldCutoff (twEnv env) n o v) :=
  .of_commX (NodeSim.CommX.shouldCutoff twBlind (fun _ _ _ => rfl) (fun _ _ _ _ _ => (TSim.logEv _ _).commX)
    (twEnv_cutoff env) n o v)
set_option hygiene false in
macro_rules | `(tactic| simx_leaf) => `(tactic| with_reducible exact (IncrVerif.Proofs.PerKeyH.TSim.shouldCutoff _ _ _ _).commX)

theorem TSim.parentIterCanRecomputeNow (p child : Nat) :
    TSim (Engine.parentIterCanRecomputeNow p child) (Engine.parentIterCanRecomputeNow p child) :=
  .of_comm fun _ => NodeSim.Comm.parentIterCanRecomputeNow twBlind p child
set_option hygiene false in
macro_rules | `(tactic| simx_leaf) => `(tactic| with_reducible exact (IncrVerif.Proofs.PerKeyH.TSim.parentIterCanRecomputeNow _ _).commX)

theorem TSim.maybeChangeValue (env : Env) (fuel n : Nat) (v : Val) :
    TSim (Engine.maybeChangeValue env fuel n v) (Engine.maybeChangeValue (twEnv env) fuel n v) :=
  .of_commX (NodeSim.CommX.maybeChangeValue twBlind noRef (twExpWork env) (fun _ _ _ => rfl) setsValues (fun _ _ _ => rfl)
    (fun _ _ _ _ _ => (TSim.logEv _ _).commX) (twEnv_cutoff env) fuel n v)
set_option hygiene false in
macro_rules | `(tactic| simx_leaf) => `(tactic| with_reducible exact (IncrVerif.Proofs.PerKeyH.TSim.maybeChangeValue _ _ _ _).commX)

theorem TSim.stateAddParent (env : Env) (fuel c i p : Nat) :
    TSim (Engine.stateAddParent env fuel c i p) (Engine.stateAddParent (twEnv env) fuel c i p) := by
  have H := @twBlind
  refine .of_commX fun l s => ?_
  unfold Engine.stateAddParent; sim
set_option hygiene false in
macro_rules | `(tactic| simx_leaf) => `(tactic| with_reducible exact (IncrVerif.Proofs.PerKeyH.TSim.stateAddParent _ _ _ _ _).commX)

theorem TSim.disallowFutureUse (o : Nat) : TSim (Engine.disallowFutureUse o) (Engine.disallowFutureUse o) :=
  .of_comm fun _ => NodeSim.Comm.disallowFutureUse twBlind o
set_option hygiene false in
macro_rules | `(tactic| simx_leaf) => `(tactic| with_reducible exact (IncrVerif.Proofs.PerKeyH.TSim.disallowFutureUse _).commX)

theorem TSim.didSetVarWhileNotStabilising (v : Nat) :
    TSim (Engine.didSetVarWhileNotStabilising v) (Engine.didSetVarWhileNotStabilising v) :=
  .of_comm fun _ => NodeSim.Comm.didSetVarWhileNotStabilising twBlind v
set_option hygiene false in
macro_rules | `(tactic| simx_leaf) => `(tactic| with_reducible exact (IncrVerif.Proofs.PerKeyH.TSim.didSetVarWhileNotStabilising _).commX)

theorem TSim.writeVar (v : Nat) (f : Val → Val) (isSet : Bool) :
    TSim (Engine.writeVar v f isSet) (Engine.writeVar v f isSet) :=
  .of_comm fun _ => NodeSim.Comm.writeVar twBlind v f isSet
set_option hygiene false in
macro_rules | `(tactic| simx_leaf) => `(tactic| with_reducible exact (IncrVerif.Proofs.PerKeyH.TSim.writeVar _ _ _).commX)

end IncrVerif.Proofs.PerKeyH
