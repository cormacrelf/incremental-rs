import IncrVerif.Proofs.Step
/-!
# The induction over the drain

`drainHeap` pops a node and runs `recompute` on it, which runs `recomputeOne` on the node and then on the parent each run hands over.  A drain
invariant `J c cur` (`cur` = the node about to run, `none` between chains) therefore has to be shown for a pop and for one `recomputeOne` only.
`c` ranges over configurations with a state `st c`: the state itself, or the state with the ghost values of a virtual-state fragment.

What is said of the run as a whole is a relation `T l c c'` between the configurations at its ends and the list `l` of its steps
(`chainSteps`, `drainSteps`: the nodes that ran, each with the state it ran in); it has to be shown of one step and of a pop, and to compose
(`T l₁ a b → T l₂ b c → T (l₁ ++ l₂) a c`).  A frame relation is the case that ignores `l`; `Once` ("no node runs twice") is one that does not.

`recompute_steps` / `drainHeap_steps`: invariant and `T` when `recompute` / `drainHeap` return.  `recompute_total` / `drainHeap_total`: they
return, when a step returns with `need c + 1` units of fuel and lowers the measure `μ`, and a pop returns.
-/
namespace IncrVerif.Proofs.TidyH
open IncrVerif.Engine

/-- the nodes `recompute env fuel n` runs from `s`, each with the state it runs in -/
def chainSteps (env : Env) : Nat → Nat → State → List (Nat × State)
  | 0, _, _ => []
  | fuel+1, n, s =>
    (n, s) :: (match (recomputeOne env fuel n).run.run s with
      | (.ok (some p), s1) => chainSteps env fuel p s1
      | _ => [])

/-- the nodes `drainHeap env fuel` runs from `s`, each with the state it runs in -/
def drainSteps (env : Env) : Nat → State → List (Nat × State)
  | 0, _ => []
  | fuel+1, s =>
    match rchRemoveMin.run.run s with
    | (.ok (some n), s1) =>
      chainSteps env fuel n s1 ++
        (match (recompute env fuel n).run.run s1 with
         | (.ok _, s2) => drainSteps env fuel s2
         | _ => [])
    | _ => []

end IncrVerif.Proofs.TidyH

namespace IncrVerif.Proofs.Drain
open IncrVerif.Engine IncrVerif.Proofs IncrVerif.Proofs.Step IncrVerif.Proofs.TidyH

section
variable {env : Env} {σ : Type} {st : σ → State} {J : σ → Option Nat → Prop}

variable {T : List (Nat × State) → σ → σ → Prop}

theorem recompute_steps (trans : ∀ {l₁ l₂ a b c}, T l₁ a b → T l₂ b c → T (l₁ ++ l₂) a c)
    (step : ∀ c n fuel r s', J c (some n) → (recomputeOne env fuel n).run.run (st c) = (.ok r, s') →
      ∃ c', st c' = s' ∧ J c' r ∧ T [(n, st c)] c c') :
    ∀ (fuel n : Nat) (c : σ) (s' : State), J c (some n) → (recompute env fuel n).run.run (st c) = (.ok (), s') →
      ∃ c', st c' = s' ∧ J c' none ∧ T (chainSteps env fuel n (st c)) c c' := by
  intro fuel
  induction fuel with
  | zero => intro n c s' _ h; unfold recompute at h; cases h
  | succ fuel ih =>
    intro n c s' I h
    unfold recompute at h
    obtain ⟨r, s1, h1, h2⟩ := bind_ok_inv h
    obtain ⟨c1, rfl, I1, t1⟩ := step c n fuel r s1 I h1
    unfold chainSteps
    rw [h1]
    cases r with
    | none =>
      obtain ⟨-, rfl⟩ := pure_ok_inv h2
      exact ⟨c1, rfl, I1, t1⟩
    | some p =>
      obtain ⟨c2, e, I2, t2⟩ := ih p c1 s' I1 h2
      exact ⟨c2, e, I2, trans t1 t2⟩

/-- the drain ends with the pop that finds the heap empty -/
theorem drainHeap_steps (trans : ∀ {l₁ l₂ a b c}, T l₁ a b → T l₂ b c → T (l₁ ++ l₂) a c)
    (step : ∀ c n fuel r s', J c (some n) → (recomputeOne env fuel n).run.run (st c) = (.ok r, s') →
      ∃ c', st c' = s' ∧ J c' r ∧ T [(n, st c)] c c')
    (pop : ∀ c n s1, J c none → rchRemoveMin.run.run (st c) = (.ok (some n), s1) → ∃ c1, st c1 = s1 ∧ J c1 (some n) ∧ T [] c c1)
    (refl : ∀ c, J c none → T [] c c) :
    ∀ (fuel : Nat) (c : σ) (s' : State), J c none → (drainHeap env fuel).run.run (st c) = (.ok (), s') →
      ∃ c', J c' none ∧ T (drainSteps env fuel (st c)) c c' ∧ rchRemoveMin.run.run (st c') = (.ok none, s') := by
  intro fuel
  induction fuel with
  | zero => intro c s' _ h; unfold drainHeap at h; cases h
  | succ fuel ih =>
    intro c s' I h
    unfold drainHeap at h
    obtain ⟨r, s1, h1, h2⟩ := bind_ok_inv h
    unfold drainSteps
    rw [h1]
    cases r with
    | none =>
      obtain ⟨-, rfl⟩ := pure_ok_inv h2
      exact ⟨c, I, refl c I, h1⟩
    | some n =>
      obtain ⟨_, s2, h3, h4⟩ := bind_ok_inv h2
      obtain ⟨c1, rfl, I1, t1⟩ := pop c n s1 I h1
      obtain ⟨c2, rfl, I2, t2⟩ := recompute_steps trans step fuel n c1 s2 I1 h3
      obtain ⟨c3, I3, t3, hl⟩ := ih c2 s' I2 h4
      dsimp only
      rw [h3]
      exact ⟨c3, I3, trans (l₁ := []) t1 (trans t2 t3), hl⟩

/-- `T` of a run and of each of its suffixes, which starts in a configuration with the invariant for the node it runs -/
def Suff (st : σ → State) (J : σ → Option Nat → Prop) (T : List (Nat × State) → σ → σ → Prop) (l : List (Nat × State)) (c c' : σ) : Prop :=
  T l c c' ∧ ∀ l₁ p l₂, l = l₁ ++ p :: l₂ → ∃ cp, st cp = p.2 ∧ J cp (some p.1) ∧ T (p :: l₂) cp c'

theorem Suff.nil {c c' : σ} (h : T [] c c') : Suff st J T [] c c' :=
  ⟨h, fun l₁ p l₂ e => by cases l₁ <;> cases e⟩

theorem Suff.one {c c' : σ} {n : Nat} (j : J c (some n)) (h : T [(n, st c)] c c') : Suff st J T [(n, st c)] c c' := by
  refine ⟨h, fun l₁ p l₂ e => ?_⟩
  cases l₁ with
  | nil =>
    obtain ⟨rfl, rfl⟩ := List.cons.inj e
    exact ⟨c, rfl, j, h⟩
  | cons x l₁ => cases l₁ <;> cases e

theorem Suff.trans (trans : ∀ {l₁ l₂ a b c}, T l₁ a b → T l₂ b c → T (l₁ ++ l₂) a c) {l l' : List (Nat × State)} {a b c : σ}
    (h1 : Suff st J T l a b) (h2 : Suff st J T l' b c) : Suff st J T (l ++ l') a c := by
  refine ⟨trans h1.1 h2.1, fun l₁ p l₂ e => ?_⟩
  rcases List.append_eq_append_iff.1 e with ⟨m, -, e2⟩ | ⟨m, e1, e2⟩
  · exact h2.2 m p l₂ e2
  · cases m with
    | nil => exact h2.2 [] p l₂ e2.symm
    | cons q m =>
      obtain ⟨rfl, rfl⟩ := List.cons.inj e2
      obtain ⟨cp, ep, jp, tp⟩ := h1.2 l₁ p m e1
      exact ⟨cp, ep, jp, trans tp h2.1⟩

/-- `recompute_steps` with what `T` says of the suffixes of the run -/
theorem recompute_suffix (trans : ∀ {l₁ l₂ a b c}, T l₁ a b → T l₂ b c → T (l₁ ++ l₂) a c)
    (step : ∀ c n fuel r s', J c (some n) → (recomputeOne env fuel n).run.run (st c) = (.ok r, s') →
      ∃ c', st c' = s' ∧ J c' r ∧ T [(n, st c)] c c')
    (fuel n : Nat) (c : σ) (s' : State) (j : J c (some n)) (h : (recompute env fuel n).run.run (st c) = (.ok (), s')) :
    ∃ c', st c' = s' ∧ J c' none ∧ Suff st J T (chainSteps env fuel n (st c)) c c' :=
  recompute_steps (Suff.trans trans)
    (fun c n fuel r s' j h => have ⟨c', e, j', t⟩ := step c n fuel r s' j h; ⟨c', e, j', .one j t⟩) fuel n c s' j h

theorem drainHeap_suffix (trans : ∀ {l₁ l₂ a b c}, T l₁ a b → T l₂ b c → T (l₁ ++ l₂) a c)
    (step : ∀ c n fuel r s', J c (some n) → (recomputeOne env fuel n).run.run (st c) = (.ok r, s') →
      ∃ c', st c' = s' ∧ J c' r ∧ T [(n, st c)] c c')
    (pop : ∀ c n s1, J c none → rchRemoveMin.run.run (st c) = (.ok (some n), s1) → ∃ c1, st c1 = s1 ∧ J c1 (some n) ∧ T [] c c1)
    (refl : ∀ c, J c none → T [] c c)
    (fuel : Nat) (c : σ) (s' : State) (j : J c none) (h : (drainHeap env fuel).run.run (st c) = (.ok (), s')) :
    ∃ c', J c' none ∧ Suff st J T (drainSteps env fuel (st c)) c c' ∧ rchRemoveMin.run.run (st c') = (.ok none, s') :=
  drainHeap_steps (Suff.trans trans)
    (fun c n fuel r s' j h => have ⟨c', e, j', t⟩ := step c n fuel r s' j h; ⟨c', e, j', .one j t⟩)
    (fun c n s1 j h => have ⟨c1, e, j1, t⟩ := pop c n s1 j h; ⟨c1, e, j1, .nil t⟩) (fun c j => .nil (refl c j)) fuel c s' j h

theorem recompute_inv
    (step : ∀ c n fuel r s', J c (some n) → (recomputeOne env fuel n).run.run (st c) = (.ok r, s') → ∃ c', st c' = s' ∧ J c' r)
    (fuel n : Nat) (c : σ) (s' : State) (j : J c (some n)) (h : (recompute env fuel n).run.run (st c) = (.ok (), s')) :
    ∃ c', st c' = s' ∧ J c' none := by
  obtain ⟨c', e, j', -⟩ := recompute_steps (T := fun _ _ _ => True) (fun _ _ => trivial)
    (fun c n fuel r s' j h => have ⟨c', e, j'⟩ := step c n fuel r s' j h; ⟨c', e, j', trivial⟩) fuel n c s' j h
  exact ⟨c', e, j'⟩

theorem drainHeap_inv
    (step : ∀ c n fuel r s', J c (some n) → (recomputeOne env fuel n).run.run (st c) = (.ok r, s') → ∃ c', st c' = s' ∧ J c' r)
    (pop : ∀ c n s1, J c none → rchRemoveMin.run.run (st c) = (.ok (some n), s1) → ∃ c1, st c1 = s1 ∧ J c1 (some n))
    (fuel : Nat) (c : σ) (s' : State) (j : J c none) (h : (drainHeap env fuel).run.run (st c) = (.ok (), s')) :
    ∃ c', J c' none ∧ rchRemoveMin.run.run (st c') = (.ok none, s') := by
  obtain ⟨c', j', -, hl⟩ := drainHeap_steps (T := fun _ _ _ => True) (fun _ _ => trivial)
    (fun c n fuel r s' j h => have ⟨c', e, j'⟩ := step c n fuel r s' j h; ⟨c', e, j', trivial⟩)
    (fun c n s1 j h => have ⟨c1, e, j1⟩ := pop c n s1 j h; ⟨c1, e, j1, trivial⟩) (fun _ _ => trivial) fuel c s' j h
  exact ⟨c', j', hl⟩

variable {μ need : σ → Nat}

theorem recompute_total
    (step : ∀ c n fuel, J c (some n) → need c + 1 ≤ fuel →
      ∃ r c', (recomputeOne env fuel n).run.run (st c) = (.ok r, st c') ∧ J c' r ∧ μ c' < μ c ∧ need c' ≤ need c) :
    ∀ (fuel n : Nat) (c : σ), J c (some n) → μ c + need c + 1 ≤ fuel →
      ∃ c', (recompute env fuel n).run.run (st c) = (.ok (), st c') ∧ J c' none ∧ μ c' < μ c ∧ need c' ≤ need c := by
  intro fuel
  induction fuel with
  | zero => intro n c _ h; omega
  | succ fuel ih =>
    intro n c I hf
    -- a step lowers `μ`, so `μ c` is positive and one unit of fuel is left for the step
    have hpos : 0 < μ c := by
      obtain ⟨_, _, -, -, hlt, -⟩ := step c n (need c + 1) I (Nat.le_refl _)
      omega
    obtain ⟨r, c1, h1, I1, hlt, hle⟩ := step c n fuel I (by omega)
    unfold recompute
    rw [run_bind_ok h1]
    cases r with
    | none => exact ⟨c1, rfl, I1, hlt, hle⟩
    | some p =>
      obtain ⟨c2, h2, I2, hlt2, hle2⟩ := ih p c1 I1 (by omega)
      exact ⟨c2, h2, I2, by omega, by omega⟩

theorem drainHeap_total
    (step : ∀ c n fuel, J c (some n) → need c + 1 ≤ fuel →
      ∃ r c', (recomputeOne env fuel n).run.run (st c) = (.ok r, st c') ∧ J c' r ∧ μ c' < μ c ∧ need c' ≤ need c)
    (pop : ∀ c, J c none → ∃ r s1, rchRemoveMin.run.run (st c) = (.ok r, s1) ∧
      ∀ n, r = some n → ∃ c1, st c1 = s1 ∧ J c1 (some n) ∧ μ c1 ≤ μ c ∧ need c1 ≤ need c) :
    ∀ (fuel : Nat) (c : σ), J c none → μ c + need c + 2 ≤ fuel → ∃ s', (drainHeap env fuel).run.run (st c) = (.ok (), s') := by
  intro fuel
  induction fuel with
  | zero => intro c _ h; omega
  | succ fuel ih =>
    intro c I hf
    obtain ⟨r, s1, hpop, hr⟩ := pop c I
    unfold drainHeap
    rw [run_bind_ok hpop]
    cases r with
    | none => exact ⟨s1, rfl⟩
    | some n =>
      obtain ⟨c1, rfl, I1, hle1, hn1⟩ := hr n rfl
      obtain ⟨c2, h2, I2, hlt2, hn2⟩ := recompute_total step fuel n c1 I1 (by omega)
      obtain ⟨s', hd⟩ := ih c2 I2 (by omega)
      exact ⟨s', by rw [run_bind_ok h2]; exact hd⟩

end

/-! "No node runs twice": a step runs a node that is not marked and marks it, and marks stay. -/

section
variable {σ : Type} {ran : σ → Nat → Prop}

/-- the nodes of `l` are distinct, unmarked in `a` and marked in `b` -/
structure Once (ran : σ → Nat → Prop) (l : List (Nat × State)) (a b : σ) : Prop where
  mono : ∀ m, ran a m → ran b m
  nodup : (l.map (·.1)).Nodup
  mem : ∀ m, m ∈ l.map (·.1) → ¬ ran a m ∧ ran b m

theorem Once.nil {a b : σ} (h : ∀ m, ran a m → ran b m) : Once ran [] a b :=
  ⟨h, List.nodup_nil, fun _ hm => (by cases hm)⟩

theorem Once.one {a b : σ} {n : Nat} {s : State} (h : ∀ m, ran a m → ran b m) (h0 : ¬ ran a n) (h1 : ran b n) :
    Once ran [(n, s)] a b := by
  refine ⟨h, by simp, fun m hm => ?_⟩
  rw [List.map_singleton, List.mem_singleton] at hm
  subst hm
  exact ⟨h0, h1⟩

theorem Once.append {l₁ l₂ : List (Nat × State)} {a b c : σ} (h1 : Once ran l₁ a b) (h2 : Once ran l₂ b c) :
    Once ran (l₁ ++ l₂) a c := by
  refine ⟨fun m h => h2.mono m (h1.mono m h), ?_, ?_⟩
  · rw [List.map_append]
    refine List.nodup_append.2 ⟨h1.nodup, h2.nodup, ?_⟩
    intro x hx y hy e
    subst e
    exact (h2.mem x hy).1 (h1.mem x hx).2
  · intro m hm
    rw [List.map_append] at hm
    rcases List.mem_append.1 hm with hm | hm
    · exact ⟨(h1.mem m hm).1, h2.mono m (h1.mem m hm).2⟩
    · exact ⟨fun h => (h2.mem m hm).1 (h1.mono m h), (h2.mem m hm).2⟩

end

/-! The case of an invariant `I x s` of the state itself and the current node: the invariant and `T` at the end; every step `p` of the run
happens in a state with the invariant, and `T` holds from there to the end. -/

section
variable {env : Env} {I : Option Nat → State → Prop} {T : List (Nat × State) → State → State → Prop}

theorem recompute_run (trans : ∀ {l₁ l₂ a b c}, T l₁ a b → T l₂ b c → T (l₁ ++ l₂) a c)
    (one : ∀ fuel n s r s', I (some n) s → (recomputeOne env fuel n).run.run s = (.ok r, s') → I r s' ∧ T [(n, s)] s s')
    (fuel n : Nat) (s s' : State) (i : I (some n) s) (h : (recompute env fuel n).run.run s = (.ok (), s')) :
    I none s' ∧ T (chainSteps env fuel n s) s s' ∧
      ∀ l₁ p l₂, chainSteps env fuel n s = l₁ ++ p :: l₂ → I (some p.1) p.2 ∧ T (p :: l₂) p.2 s' := by
  obtain ⟨_, rfl, j, t, hs⟩ := recompute_suffix (st := id) (J := fun s x => I x s) trans
    (fun c n fuel r s' j h => ⟨s', rfl, one fuel n c r s' j h⟩) fuel n s s' i h
  refine ⟨j, t, fun l₁ p l₂ e => ?_⟩
  obtain ⟨cp, ep, jp, tp⟩ := hs l₁ p l₂ e
  cases ep
  exact ⟨jp, tp⟩

theorem drainHeap_run (trans : ∀ {l₁ l₂ a b c}, T l₁ a b → T l₂ b c → T (l₁ ++ l₂) a c)
    (one : ∀ fuel n s r s', I (some n) s → (recomputeOne env fuel n).run.run s = (.ok r, s') → I r s' ∧ T [(n, s)] s s')
    (pop : ∀ s n s', I none s → rchRemoveMin.run.run s = (.ok (some n), s') → I (some n) s' ∧ T [] s s')
    (refl : ∀ s, I none s → T [] s s)
    (fuel : Nat) (s s' : State) (i : I none s) (h : (drainHeap env fuel).run.run s = (.ok (), s')) :
    ∃ s1, I none s1 ∧ T (drainSteps env fuel s) s s1 ∧ rchRemoveMin.run.run s1 = (.ok none, s') ∧
      ∀ l₁ p l₂, drainSteps env fuel s = l₁ ++ p :: l₂ → I (some p.1) p.2 ∧ T (p :: l₂) p.2 s1 := by
  obtain ⟨s1, j, ⟨t, hs⟩, hl⟩ := drainHeap_suffix (st := id) (J := fun s x => I x s) trans
    (fun c n fuel r s' j h => ⟨s', rfl, one fuel n c r s' j h⟩) (fun c n s1 j h => ⟨s1, rfl, pop c n s1 j h⟩) refl fuel s s' i h
  refine ⟨s1, j, t, hl, fun l₁ p l₂ e => ?_⟩
  obtain ⟨cp, ep, jp, tp⟩ := hs l₁ p l₂ e
  cases ep
  exact ⟨jp, tp⟩

end

section
variable {env : Env} {I : Option Nat → State → Prop}

theorem recompute_ind
    (one : ∀ fuel n s r s', I (some n) s → (recomputeOne env fuel n).run.run s = (.ok r, s') → I r s')
    (fuel n : Nat) (s s' : State) (i : I (some n) s) (h : (recompute env fuel n).run.run s = (.ok (), s')) : I none s' := by
  obtain ⟨_, rfl, j⟩ := recompute_inv (st := id) (J := fun s x => I x s)
    (fun c n fuel r s' j h => ⟨s', rfl, one fuel n c r s' j h⟩) fuel n s s' i h
  exact j

theorem drainHeap_ind
    (one : ∀ fuel n s r s', I (some n) s → (recomputeOne env fuel n).run.run s = (.ok r, s') → I r s')
    (pop : ∀ s n s', I none s → rchRemoveMin.run.run s = (.ok (some n), s') → I (some n) s')
    (fuel : Nat) (s s' : State) (i : I none s) (h : (drainHeap env fuel).run.run s = (.ok (), s')) :
    ∃ s1, I none s1 ∧ rchRemoveMin.run.run s1 = (.ok none, s') :=
  drainHeap_inv (st := id) (J := fun s x => I x s) (fun c n fuel r s' j h => ⟨s', rfl, one fuel n c r s' j h⟩)
    (fun c n s1 j h => ⟨s1, rfl, pop c n s1 j h⟩) fuel s s' i h

end
end IncrVerif.Proofs.Drain
