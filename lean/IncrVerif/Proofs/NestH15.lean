import IncrVerif.Proofs.NestH14
import IncrVerif.Proofs.NestRank
import IncrVerif.Proofs.Quiet22
import IncrVerif.Proofs.Corr
/-!
# Nested binds (F2), unlinking side, part 3: the unlinking cascade keeps `GInv2`, and returns

`BUCorr`/`CUCorr`/`RCCorr` (each a `Step.Corr`: what a returning run establishes, and that the run returns when the fuel is linear in the
POSITION `cnt rk s.nodes.size n` of the node in the rank order — nothing else can go wrong: `getNode`, `removeParent`'s `"not-a-parent"`, the
`dassert` of `becameUnnecessary`, `rchRemove`/`rchUnlink` are excluded by `GInv2`), `cu_corr`, `rc_corr`, `bu_corr`, `unlink_corr`.  "Lowest open
node" is measured by the ghost rank `rk`; since a child always has a smaller rank than its parent (`N2.kidLt`) — also the right-hand
side (a node of scope `b2`) of the main node of an inner bind `b2`, and the inner change detector `lc2` — the cascade runs INTO inner
scopes without any new case: the recursion is on the fuel, the order argument only needs `kid_rk`.  The scope height rule survives
`setHeight n (-1)` on a change detector because the remaining closed necessary nodes have heights `≥ 0` (`hpos`).
-/
namespace IncrVerif.Proofs.NestH
open IncrVerif.Engine IncrVerif.Proofs IncrVerif.Proofs.Step IncrVerif.Proofs.Sched IncrVerif.Proofs.Quiet
open IncrVerif.Proofs.BindH
open IncrVerif.Proofs.Quiet.P22

namespace NU

theorem children_eq_of2 {env : Env} {rk : Nat → Nat} {s t : State} {dy : List Nat} {n : Nat} (A : All2 env rk s dy)
    (hnl : n < s.nodes.size) (hn : t.nodeD n = s.nodeD n) (hb : t.binds = s.binds) :
    t.children n = s.children n :=
  children_congr_B (by rw [hn]) (by rw [hn]) hb (A.node n hnl).kind

section
variable {env : Env} {rk : Nat → Nat} {s s' : State} {op : Nat → Op} {ex : Nat → Prop} {dy : List Nat}

/-- a negative height of an open node whose parents are all open is not constrained (negative: if the node is a
change detector, the closed necessary nodes of its scope stay above it) -/
theorem setHeight_open {n : Nat} {h : Int} (I : GInv2 env rk s op ex dy) (U : NodeUpd n (fHeight h) s s')
    (hb : s'.binds = s.binds) (hneg : h < 0)
    (hop : op n ≠ .closed) (hpar : ∀ p i, (p, i) ∈ (s.nodeD n).parents → op p ≠ .closed) :
    GInv2 env rk s' op ex dy := by
  have K := keeps_fHeight h
  have E := BL.KeyEq.of_upd U K hb
  have hpa : ∀ m, (s'.nodeD m).parents = (s.nodeD m).parents := fun m => by
    by_cases e : m = n
    · rw [e]; exact U.parents_self
    · exact U.parents_other e
  have hob : ∀ m, (s'.nodeD m).observers = (s.nodeD m).observers := fun m => by
    by_cases e : m = n
    · rw [e]; exact U.observers_self
    · exact U.observers_other e
  have hnec : ∀ m, s'.isNecessary m = s.isNecessary m := fun m => by
    by_cases e : m = n
    · rw [e]
      simp only [State.isNecessary, Node.isNecessary, U.self.parents, U.self.observers, U.self.forceNecessary]
      rfl
    · exact U.nec_other e
  have hw : ∀ q i, Wants s' op q i ↔ Wants s op q i := fun q i => by unfold Wants; rw [hnec]
  have hcn : ∀ m, op m = .closed → m ≠ n := fun m ho e => hop (e ▸ ho)
  have hch : ∀ m, s'.children m = s.children m := KeyEq2.children2 E I.frag
  have hst : ∀ m, s'.isStale m = s.isStale m := KeyEq2.isStale2 E I.frag
  refine { frag := KeyEq2.frag2 E I.frag (by rw [U.pc]; exact I.frag.pc) (by rw [U.scope]; exact I.frag.scope),
           par := ?_, conv := ?_, nodup := ?_, hlt := ?_, hpos := ?_,
           lnec := ?_, unec := ?_, heap := U.heap K I.heap, hgt := ?_, qnec := ?_, queued := ?_,
           qstale := ?_, opLt := ?_, scopeH := ?_, inv := ?_, scopeObs := ?_, lcObs := ?_ }
  · intro c q i hm
    rw [hpa] at hm
    rw [hch, hw]; exact I.par c q i hm
  · intro q i c hk hw'
    rw [hch] at hk
    rw [hw] at hw'
    rw [hpa]; exact I.conv q i c hk hw'
  · intro m; rw [hpa]; exact I.nodup m
  · intro c q i hm ho
    rw [hpa] at hm
    have h1 : c ≠ n := by intro e; rw [e] at hm; exact hpar q i hm ho
    rw [U.height_other h1, U.height_other (hcn q ho)]
    exact I.hlt c q i hm ho
  · intro m hn ho
    rw [hnec] at hn
    rw [U.height_other (hcn m ho)]; exact I.hpos m hn ho
  · intro q k ho
    rw [hnec]; exact I.lnec q k ho
  · intro q k ho
    rw [hnec]; exact I.unec q k ho
  · intro m hq ho
    rw [U.inRch K] at hq
    rw [U.heightInRch K, U.height_other (hcn m ho)]; exact I.hgt m hq ho
  · intro m hq
    rw [U.inRch K] at hq
    rw [hnec]; exact I.qnec m hq
  · intro m ho hn hs hex
    rw [hnec] at hn
    rw [hst] at hs
    rw [U.inRch K]; exact I.queued m ho hn hs hex
  · intro m hq
    rw [U.inRch K] at hq
    rw [hst]; exact I.qstale m hq
  · intro m ho
    rw [U.size]; exact I.opLt m ho
  · -- scopeH
    intro m b br hv hsc hbb hm ho
    rw [U.valid K] at hv
    rw [U.createdIn K] at hsc
    rw [hb] at hbb
    rw [hnec] at hm
    rw [U.height_other (hcn m ho)]
    by_cases e : br.lhsChange = n
    · rw [e, U.height_self]
      have := I.hpos m hm ho
      show h < _
      omega
    · rw [U.height_other e]
      exact I.scopeH m b br hv hsc hbb hm ho
  · intro m hv
    rw [U.valid K] at hv
    obtain ⟨h1, h2, h3, h4, h5⟩ := I.inv m hv
    exact ⟨by rw [hpa]; exact h1, by rw [hob]; exact h2, by rw [U.forceNecessary K]; exact h3,
      by rw [U.inRch K]; exact h4, h5⟩
  · intro m b hsc
    rw [U.createdIn K] at hsc
    rw [hob]; exact I.scopeObs m b hsc
  · intro m b hk
    rw [U.kind K] at hk
    rw [hob]; exact I.lcObs m b hk

end

/-- what a successful `removeParent c idx p` does, apart from the invariant -/
theorem removeParent_frame2 {env : Env} {rk : Nat → Nat} {c p idx : Nat} {s s' : State} {op : Nat → Op} {ex : Nat → Prop}
    {dy : List Nat} {u : Unit}
    (h : (removeParent c idx p).run.run s = (.ok u, s')) (I : GInv2 env rk s op ex dy) (hc : c < s.nodes.size) :
    ∃ pi, (s.nodeD c).parents.idxOf? (p, idx) = some pi ∧
      NodeUpd c (fParents (swapRemove (s.nodeD c).parents pi)) s s' ∧ s'.binds = s.binds ∧
      AboveR2 rk s c s' ∧ URel s s' ∧ (∀ m, m ≠ c → s'.nodeD m = s.nodeD m) := by
  obtain ⟨nd, pi, hnd, hidx, e1⟩ := removeParent_ok_inv h
  have hndD : s.nodeD c = nd := nodeD_of_some hnd
  rw [← hndD] at hidx
  have U : NodeUpd c (fParents (swapRemove (s.nodeD c).parents pi)) s s' := by
    rw [e1]; exact NodeUpd.modify' hc rfl
  have hoth : ∀ m, m ≠ c → s'.nodeD m = s.nodeD m := by
    intro m hm
    rw [e1, nodeD_modify, if_neg (fun e => hm e.1.symm)]
  refine ⟨pi, hidx, U, by rw [e1], aboveR2_of_other hoth, ⟨?_, ?_, ?_⟩, hoth⟩
  · rw [e1]; exact CFrame.modNode s c _ (fun _ => rfl)
  · rw [e1]
  · intro m x hx
    by_cases e : m = c
    · rw [e] at hx ⊢
      rw [U.self.parents] at hx
      exact ((swapRemove_spec _ _ _ (I.nodup c) hidx).1 x).1 hx |>.1
    · rw [(U.other m e).parents] at hx; exact hx

/-- the height bound follows necessity: necessity shrinks, necessary nodes keep their height, the node count is unchanged -/
theorem hbo2_of_necH {rk : Nat → Nat} {s s' : State} {op op' : Nat → Op} (hb : HBo2 rk s op) (h : NecH s s')
    (hsz : s'.nodes.size = s.nodes.size)
    (hop : ∀ m, op' m = .closed → s.isNecessary m = true → op m = .closed) : HBo2 rk s' op' := by
  intro m hm ho
  obtain ⟨hm0, hh⟩ := h m hm
  rw [hh, hsz]
  exact hb m hm0 (hop m ho hm0)

/-! ## the mutual induction -/

def BUCorr (fuel : Nat) : Prop :=
  ∀ env (rk : Nat → Nat) n s op ex dy, GInv2 env rk s op ex dy →
    op n = .unlinking 0 → (∀ m, op m ≠ .closed → rk n ≤ rk m) →
    Corr (becameUnnecessary fuel n) s (3 * cnt rk s.nodes.size n + 2 ≤ fuel)
      (fun _ s' => GInv2 env rk s' (upd op n .closed) ex dy ∧ AboveR2 rk s n s' ∧ URel s s' ∧ NecH s s')

def CUCorr (fuel : Nat) : Prop :=
  ∀ env (rk : Nat → Nat) c s op ex dy, GInv2 env rk s op ex dy →
    (∀ m, op m ≠ .closed → rk c ≤ rk m) →
    ((s.isNecessary c = true ∧ op c = .closed) ∨ (s.isNecessary c = false ∧ op c = .unlinking 0)) →
    Corr (checkIfUnnecessary fuel c) s (3 * cnt rk s.nodes.size c + 3 ≤ fuel)
      (fun _ s' => GInv2 env rk s' (upd op c .closed) ex dy ∧ AboveR2 rk s c s' ∧ URel s s' ∧ NecH s s')

def RCCorr (fuel : Nat) : Prop :=
  ∀ env (rk : Nat → Nat) n s op ex dy, GInv2 env rk s op ex dy →
    op n = .unlinking 0 → (∀ m, op m ≠ .closed → rk n ≤ rk m) →
    Corr (removeChildren fuel n) s (3 * cnt rk s.nodes.size n + 1 ≤ fuel)
      (fun _ s' => GInv2 env rk s' (upd op n (.unlinking (s.children n).length)) ex dy ∧
        (∀ m, rk n ≤ rk m → s'.nodeD m = s.nodeD m) ∧ URel s s' ∧ NecH s s')

theorem cu_corr (fuel : Nat) (ih : BUCorr fuel) : CUCorr (fuel + 1) := by
  intro env rk c s op ex dy I hlow hcase
  unfold checkIfUnnecessary
  refine Corr.bind_get ?_
  rcases hcase with ⟨hn, hcl⟩ | ⟨hn, hop⟩
  · rw [hn]
    simp only [Bool.not_true, Bool.false_eq_true, if_false]
    rw [upd_eq_self _ _ _ hcl]
    exact Corr.pure ⟨I, aboveR2_refl _ _ _, URel.refl _, NecH.refl s⟩
  · rw [hn]
    simp only [Bool.not_false, if_true]
    exact (ih env rk c s op ex dy I hop hlow).mono (fun h => by omega) (fun _ _ h => h)

theorem rc_corr (fuel : Nat) (ih : CUCorr fuel) : RCCorr (fuel + 1) := by
  intro env rk n s op ex dy I hop hlow
  have hn : n < s.nodes.size := I.opLt n (by rw [hop]; exact fun e => by cases e)
  unfold removeChildren
  refine Corr.bind_get ?_
  refine Corr.bind (Corr.forIn _ (s.children n)
      (fun j (b : Nat) t => b = j ∧ GInv2 env rk t (upd op n (.unlinking j)) ex dy ∧
        (∀ m, rk n ≤ rk m → t.nodeD m = s.nodeD m) ∧ URel s t ∧ NecH s t)
      ?hstep (s.children n) 0 0 (by simp) (Nat.zero_le _)
      ⟨rfl, by rw [upd_eq_self _ _ _ hop]; exact I, fun _ _ => rfl, URel.refl _, NecH.refl _⟩) id
    (fun b t _ hQ => Corr.pure hQ.2)
  intro j c b t hj ⟨hb, It, hsame, hrel, hN⟩
  subst hb
  have hkj : (t.children n)[b]? = some c := by
    rw [children_eq_of2 I.frag hn (hsame n (Nat.le_refl _)) (BU.cframe_binds hrel.fr)]; exact hj
  have hcn : rk c < rk n := It.kid_rk hkj
  have hne : c ≠ n := It.kid_ne hkj
  have hct : c < t.nodes.size := It.kid_in hkj
  have hcs : c < s.nodes.size := by rw [← hrel.fr.size]; exact hct
  have hopc : op c = .closed := by
    cases e : op c with
    | closed => rfl
    | linking k => have := hlow c (by rw [e]; exact fun e => by cases e); omega
    | unlinking k => have := hlow c (by rw [e]; exact fun e => by cases e); omega
  have hclc : upd op n (.unlinking b) c = .closed := by
    rw [upd_other _ _ _ hne]; exact hopc
  -- `removeParent` finds the edge
  obtain ⟨pi0, hidx0⟩ := idxOf?_of_mem (It.removeEdge_mem (upd_self _ _ _) hkj)
  have ha := removeParent_run (s := t) (c := c) (idx := b) (p := n) (some_of_lt hct) hidx0
  obtain ⟨t1, e1⟩ : ∃ t1, t1 = ({ t with nodes := t.nodes.modify c fun x =>
      { x with parents := swapRemove x.parents pi0 } } : State) := ⟨_, rfl⟩
  rw [← e1] at ha
  refine Corr.bind_ok ha ?_
  obtain ⟨pi, hidx, U, hb1, hab1, hu1, hoth1⟩ := removeParent_frame2 ha It hct
  obtain ⟨Hnec, Hun⟩ := It.removeEdge hidx U hb1 (upd_self _ _ _) hkj hclc
  have N1 : NecH t t1 := NecH.of_urel hu1 (fun m => by
    by_cases e : m = c
    · rw [e]; exact U.self.height
    · exact (U.other m e).height)
  have hlow' : ∀ (o : Nat → Op), (∀ m, m ≠ c → m ≠ n → o m = op m) →
      ∀ m, o m ≠ .closed → rk c ≤ rk m := by
    intro o ho m hm
    by_cases e1 : m = c
    · rw [e1]; exact Nat.le_refl _
    · by_cases e2 : m = n
      · rw [e2]; omega
      · rw [ho m e1 e2] at hm; have := hlow m hm; omega
  rw [upd_upd] at Hnec Hun
  have hfuel : 3 * cnt rk s.nodes.size n + 1 ≤ fuel + 1 → 3 * cnt rk t1.nodes.size c + 3 ≤ fuel := by
    rw [hu1.fr.size, hrel.fr.size]
    have := cnt_lt_cnt (rk := rk) (N := s.nodes.size) hcs hcn
    omega
  have fin : ∀ (o : Nat → Op), upd o c .closed = upd op n (.unlinking (b + 1)) → ∀ (u : Unit) (t2 : State),
      (checkIfUnnecessary fuel c).run.run t1 = (.ok u, t2) →
      GInv2 env rk t2 (upd o c .closed) ex dy ∧ AboveR2 rk t1 c t2 ∧ URel t1 t2 ∧ NecH t1 t2 →
      Corr (pure (ForInStep.yield (b + 1)) : M (ForInStep Nat)) t2 (3 * cnt rk s.nodes.size n + 1 ≤ fuel + 1)
        (fun r t' => ∃ b', r = .yield b' ∧ b' = b + 1 ∧ GInv2 env rk t' (upd op n (.unlinking (b + 1))) ex dy ∧
          (∀ m, rk n ≤ rk m → t'.nodeD m = s.nodeD m) ∧ URel s t' ∧ NecH s t') := by
    intro o eo _ t2 _ ⟨I2, hab2, hu2, N2⟩
    rw [eo] at I2
    refine Corr.pure ⟨_, rfl, rfl, I2, fun m hm => ?_, (hrel.trans hu1).trans hu2, (hN.trans N1).trans N2⟩
    have hcm : rk c < rk m := by omega
    have hmc : m ≠ c := fun e => by rw [e] at hcm; exact Nat.lt_irrefl _ hcm
    exact ((hab2 m hcm).trans (hoth1 m hmc)).trans (hsame m hm)
  cases hnc : t1.isNecessary c with
  | true =>
    exact Corr.bind (ih env rk c t1 _ ex dy (Hnec hnc)
        (hlow' _ (fun m _ e2 => upd_other _ _ _ e2))
        (Or.inl ⟨hnc, by rw [upd_other _ _ _ hne]; exact hopc⟩)) hfuel
      (fin _ (upd_eq_self _ c .closed (by rw [upd_other _ _ _ hne]; exact hopc)))
  | false =>
    exact Corr.bind (ih env rk c t1 _ ex dy (Hun hnc)
        (hlow' _ (fun m e1 e2 => by rw [upd_other _ _ _ e1, upd_other _ _ _ e2]))
        (Or.inr ⟨hnc, upd_self _ _ _⟩)) hfuel
      (fin _ (by rw [upd_upd, upd_eq_self _ c .closed (by rw [upd_other _ _ _ hne]; exact hopc)]))

theorem bu_corr (fuel : Nat) (ih : RCCorr fuel) : BUCorr (fuel + 1) := by
  intro env rk n s op ex dy I hop hlow
  have hn : n < s.nodes.size := I.opLt n (by rw [hop]; exact fun e => by cases e)
  unfold becameUnnecessary
  refine Corr.bind_modify (fun s0 hs0 => ?_)
  have R0 : Irrel n s s0 := by rw [hs0]; exact Irrel.of_nodes rfl rfl rfl rfl rfl
  have hn0 : n < s0.nodes.size := by rw [R0.same.size]; exact hn
  obtain ⟨s1, h1⟩ := mhas_ok hn0
  refine Corr.bind_ok h1 ?_
  have R1 : Irrel n s s1 := R0.trans (Irrel.mhas h1)
  have hoth1 : ∀ m, m ≠ n → s1.nodeD m = s.nodeD m := by
    intro m hm
    have e0 : s0.nodeD m = s.nodeD m := by rw [hs0]; rfl
    rw [CL.Only.mhas h1 m hm, e0]
  have I1 : GInv2 env rk s1 op ex dy := GInv2.congr I ⟨R1.same, BU.cframe_binds (R1.rel (fun _ => False)).fr⟩
  have hn1 : n < s1.nodes.size := by rw [R1.same.size]; exact hn
  have hnopar : (s1.nodeD n).parents = [] := parents_nil_of_not_nec (I1.unec n 0 hop)
  obtain ⟨s2, h2⟩ := setHeight_neg_ok n s1
  refine Corr.bind_ok h2 ?_
  obtain ⟨U2, -, hl2, hh2, hoth2⟩ := setHeight_ok_upd hn1 h2
  have hopn : op n ≠ .closed := by rw [hop]; exact fun e => by cases e
  have I2 : GInv2 env rk s2 op ex dy :=
    setHeight_open I1 U2 (BU.cframe_binds hl2.fr) (by decide) hopn
      (by intro p i hp; rw [hnopar] at hp; cases hp)
  have hu1 : URel s s1 := R1.urel
  have hu2 : URel s1 s2 := ⟨hl2.fr, hl2.pinv, fun m x hx => by
    by_cases e : m = n
    · rw [e, U2.self.parents] at hx; rw [e]; exact hx
    · rw [(U2.other m e).parents] at hx; exact hx⟩
  have hn2 : n < s2.nodes.size := by rw [U2.size]; exact hn1
  have hsz2 : s2.nodes.size = s.nodes.size := by rw [U2.size, R1.same.size]
  have N2 : NecH s1 s2 := by
    intro m hm
    by_cases e : m = n
    · rw [e] at hm
      rw [I2.unec n 0 hop] at hm; cases hm
    · refine ⟨?_, by rw [hoth2 m e]⟩
      simp only [State.isNecessary, hoth2 m e] at hm ⊢
      exact hm
  refine Corr.bind (ih env rk n s2 op ex dy I2 hop hlow) (fun hf => by rw [hsz2]; omega) ?_
  intro _ s3 _ ⟨I3, hsame3, hu3, N3⟩
  have hn3 : n < s3.nodes.size := by rw [hu3.fr.size]; exact hn2
  have hch3 : s3.children n = s2.children n :=
    children_eq_of2 I2.frag hn2 (hsame3 n (Nat.le_refl _)) (BU.cframe_binds hu3.fr)
  rw [← hch3] at I3
  have hU : URel s s3 := (hu1.trans hu2).trans hu3
  have N : NecH s s3 := ((NecH.of_same R1.same).trans N2).trans N3
  refine Corr.bind_getNode hn3 ?_
  -- the node is not an expert node
  have hvalid3 : (s3.nodeD n).valid = true :=
    I3.valid_of_open (by rw [upd_self]; exact Op.unlinking_ne_closed _)
  have hq : (s3.nodeD n).kind? = some (s3.nodeD n).kind := by
    rw [Node.kind?, hvalid3]; rfl
  have hA : AboveR2 rk s n s3 := by
    intro m hm
    have hmn : m ≠ n := fun e => by rw [e] at hm; exact Nat.lt_irrefl _ hm
    rw [hsame3 m (by omega), hoth2 m hmn, hoth1 m hmn]
  have hun3 : s3.isNecessary n = false := I3.unec n _ (upd_self _ _ _)
  have fin : Corr (do
        let s ← get
        dassert (!s.needsToBeComputed n) "node:became_unnecessary:not-needs-to-be-computed"
        if (s.nodeD n).inRch = true then rchRemove n else pure ()) s3 (3 * cnt rk s.nodes.size n + 2 ≤ fuel + 1)
      (fun _ s' => GInv2 env rk s' (upd op n .closed) ex dy ∧ AboveR2 rk s n s' ∧ URel s s' ∧ NecH s s') := by
    refine Corr.bind_get ?_
    have hnc : s3.needsToBeComputed n = false := by
      simp only [State.needsToBeComputed, hun3, Bool.false_and]
    refine Corr.bind_dassert (fun _ _ => by rw [hnc]; rfl) ?_
    cases hin : (s3.nodeD n).inRch with
    | false =>
      simp only [Bool.false_eq_true, if_false]
      have I4 := I3.close_unlink (upd_self _ _ _) (Nat.le_refl _) hin
      rw [upd_upd] at I4
      exact Corr.pure ⟨I4, hA, hU, N⟩
    | true =>
      simp only [if_true]
      obtain ⟨t', ht⟩ := rchRemove_tot I3.heap.wf hn3 hin (fun _ => hnc)
      obtain ⟨I4, hin4⟩ := I3.rchRemove_open (upd_self _ _ _) ht
      obtain ⟨nd, q, idx, hnd, -, -, -, e4⟩ := rchRemove_ok_inv ht
      have hnode4 : ∀ m, (t'.nodeD m).kind = (s3.nodeD m).kind ∧ (t'.nodeD m).valid = (s3.nodeD m).valid := by
        intro m; rw [e4, removedAt_nodeD]; split <;> exact ⟨rfl, rfl⟩
      have hch4 : t'.children n = s3.children n :=
        children_congr_B (hnode4 n).1 (hnode4 n).2 (by rw [e4]; rfl) (I3.node hn3).kind
      have I5 := I4.close_unlink (upd_self _ _ _) (by rw [hch4]; exact Nat.le_refl _) hin4
      rw [upd_upd] at I5
      refine Corr.of_ok ht ⟨I5, hA.trans (aboveR2_of_other ?_),
        hU.trans ⟨(PresF.rchRemove n).h _ _ _ ht, by rw [e4]; rfl, ?_⟩, N.trans (NecH.of_fields fun m => ?_)⟩
      · intro m hm; rw [e4, removedAt_nodeD, if_neg (fun e => hm e.1.symm)]
      · intro m x hx; rw [e4, removedAt_nodeD] at hx; split at hx
        · exact hx
        · exact hx
      · rw [e4, removedAt_nodeD]
        split
        · exact ⟨rfl, rfl, rfl, rfl⟩
        · exact ⟨rfl, rfl, rfl, rfl⟩
  rw [hq]
  have hsk := (I3.node hn3).kind
  cases hkd : (s3.nodeD n).kind <;> rw [hkd] at hsk <;>
    first | exact fin | exact False.elim hsk

theorem unlink_corr (fuel : Nat) : BUCorr fuel ∧ CUCorr fuel ∧ RCCorr fuel := by
  induction fuel with
  | zero =>
    refine ⟨?_, ?_, ?_⟩
    · intro env rk n s op ex dy _ _ _; unfold becameUnnecessary; exact Corr.throw (fun h => by omega)
    · intro env rk n s op ex dy _ _ _; unfold checkIfUnnecessary; exact Corr.throw (fun h => by omega)
    · intro env rk n s op ex dy _ _ _; unfold removeChildren; exact Corr.throw (fun h => by omega)
  | succ fuel ih => exact ⟨bu_corr fuel ih.2.2, cu_corr fuel ih.1, rc_corr fuel ih.2.1⟩

end NU

/-! ## headline statements -/

section
variable {env : Env} {rk : Nat → Nat} {fuel : Nat} {s s' : State} {op : Nat → Op} {ex : Nat → Prop} {dy : List Nat}

/-- **The unlinking cascade, fragment F2 (nested binds).** A successful `checkIfUnnecessary c` on a closed node that is still
necessary, or on a node that has just become unnecessary (labelled `.unlinking 0`: all its child edges are still
recorded), which is the open node of lowest RANK, closes `c`: the structural invariant holds with `c` closed, nodes of
higher rank than `c` are untouched, parent lists only shrank. -/
theorem checkIfUnnecessary_spec2 {c : Nat}
    (h : (checkIfUnnecessary fuel c).run.run s = (.ok (), s')) (I : GInv2 env rk s op ex dy)
    (hlow : ∀ m, op m ≠ .closed → rk c ≤ rk m)
    (hcase : (s.isNecessary c = true ∧ op c = .closed) ∨ (s.isNecessary c = false ∧ op c = .unlinking 0)) :
    GInv2 env rk s' (upd op c .closed) ex dy ∧ AboveR2 rk s c s' ∧ URel s s' :=
  have ⟨I', hA, hU, _⟩ := ((NU.unlink_corr fuel).2.1 env rk c s op ex dy I hlow hcase).ok h
  ⟨I', hA, hU⟩

/-- `becameUnnecessary n` on the open node of lowest rank, labelled `.unlinking 0`, closes it -/
theorem becameUnnecessary_spec2 {n : Nat}
    (h : (becameUnnecessary fuel n).run.run s = (.ok (), s')) (I : GInv2 env rk s op ex dy)
    (hop : op n = .unlinking 0) (hlow : ∀ m, op m ≠ .closed → rk n ≤ rk m) :
    GInv2 env rk s' (upd op n .closed) ex dy ∧ AboveR2 rk s n s' ∧ URel s s' :=
  have ⟨I', hA, hU, _⟩ := ((NU.unlink_corr fuel).1 env rk n s op ex dy I hop hlow).ok h
  ⟨I', hA, hU⟩

/-- `removeChildren n` on the open node of lowest rank, labelled `.unlinking 0`: afterwards none of its child edges is
recorded (`.unlinking (children n).length`); `n` itself and the nodes of higher rank are untouched -/
theorem removeChildren_spec2 {n : Nat}
    (h : (removeChildren fuel n).run.run s = (.ok (), s')) (I : GInv2 env rk s op ex dy)
    (hop : op n = .unlinking 0) (hlow : ∀ m, op m ≠ .closed → rk n ≤ rk m) :
    GInv2 env rk s' (upd op n (.unlinking (s.children n).length)) ex dy ∧
      (∀ m, rk n ≤ rk m → s'.nodeD m = s.nodeD m) ∧ URel s s' :=
  have ⟨I', hA, hU, _⟩ := ((NU.unlink_corr fuel).2.2 env rk n s op ex dy I hop hlow).ok h
  ⟨I', hA, hU⟩

/-- **the unlinking cascade returns** (fragment F2) when the fuel is linear in the position of `c` in the rank order, with everything known
about the final state: also `NecH` (necessity shrinks, necessary nodes keep their height), hence the height bound `HBo2` -/
theorem checkIfUnnecessary_full2 {c : Nat} (I : GInv2 env rk s op ex dy) (hb : HBo2 rk s op)
    (hlow : ∀ m, op m ≠ .closed → rk c ≤ rk m)
    (hcase : (s.isNecessary c = true ∧ op c = .closed) ∨ (s.isNecessary c = false ∧ op c = .unlinking 0))
    (hf : 3 * cnt rk s.nodes.size c + 3 ≤ fuel) :
    Tot (checkIfUnnecessary fuel c) s (fun _ s' =>
      GInv2 env rk s' (upd op c .closed) ex dy ∧ AboveR2 rk s c s' ∧ URel s s' ∧ NecH s s' ∧
        HBo2 rk s' (upd op c .closed)) := by
  obtain ⟨u, s', hrun, I', hab, hu, N⟩ := ((NU.unlink_corr fuel).2.1 env rk c s op ex dy I hlow hcase).tot hf
  refine ⟨u, s', hrun, I', hab, hu, N, NU.hbo2_of_necH hb N hu.fr.size (fun m ho hm => ?_)⟩
  by_cases e : m = c
  · rw [e] at hm ⊢
    rcases hcase with ⟨_, h⟩ | ⟨h, _⟩
    · exact h
    · rw [h] at hm; cases hm
  · rw [upd_other _ _ _ e] at ho; exact ho

/-- **the unlinking cascade returns**, and the height bound is kept -/
theorem checkIfUnnecessary_total2 {c : Nat} (I : GInv2 env rk s op ex dy) (hb : HBo2 rk s op)
    (hlow : ∀ m, op m ≠ .closed → rk c ≤ rk m)
    (hcase : (s.isNecessary c = true ∧ op c = .closed) ∨ (s.isNecessary c = false ∧ op c = .unlinking 0))
    (hf : 3 * cnt rk s.nodes.size c + 3 ≤ fuel) :
    Tot (checkIfUnnecessary fuel c) s (fun _ s' => HBo2 rk s' (upd op c .closed)) :=
  (checkIfUnnecessary_full2 I hb hlow hcase hf).mono (fun _ _ h => h.2.2.2.2)

/-- the position of a node of the state is below the node count: fuel `3 * size` is always enough -/
theorem checkIfUnnecessary_full2_size {c : Nat} (I : GInv2 env rk s op ex dy) (hb : HBo2 rk s op)
    (hlow : ∀ m, op m ≠ .closed → rk c ≤ rk m)
    (hcase : (s.isNecessary c = true ∧ op c = .closed) ∨ (s.isNecessary c = false ∧ op c = .unlinking 0))
    (hf : 3 * s.nodes.size ≤ fuel) :
    Tot (checkIfUnnecessary fuel c) s (fun _ s' =>
      GInv2 env rk s' (upd op c .closed) ex dy ∧ AboveR2 rk s c s' ∧ URel s s' ∧ NecH s s' ∧
        HBo2 rk s' (upd op c .closed)) := by
  have hc : c < s.nodes.size := by
    rcases hcase with ⟨h, _⟩ | ⟨_, h⟩
    · exact nec_lt_size h
    · exact I.opLt c (by rw [h]; exact Op.unlinking_ne_closed _)
  have := cnt_lt_size (rk := rk) hc
  exact checkIfUnnecessary_full2 I hb hlow hcase (by omega)

theorem becameUnnecessary_total2 {n : Nat} (I : GInv2 env rk s op ex dy) (hb : HBo2 rk s op)
    (hop : op n = .unlinking 0) (hlow : ∀ m, op m ≠ .closed → rk n ≤ rk m)
    (hf : 3 * cnt rk s.nodes.size n + 2 ≤ fuel) :
    Tot (becameUnnecessary fuel n) s (fun _ s' => HBo2 rk s' (upd op n .closed)) := by
  obtain ⟨u, s', hrun, -, -, hu, N⟩ := ((NU.unlink_corr fuel).1 env rk n s op ex dy I hop hlow).tot hf
  refine ⟨u, s', hrun, NU.hbo2_of_necH hb N hu.fr.size (fun m ho hm => ?_)⟩
  by_cases e : m = n
  · rw [e] at hm
    rw [I.unec n 0 hop] at hm; cases hm
  · rw [upd_other _ _ _ e] at ho; exact ho

theorem removeChildren_total2 {n : Nat} (I : GInv2 env rk s op ex dy) (hb : HBo2 rk s op)
    (hop : op n = .unlinking 0) (hlow : ∀ m, op m ≠ .closed → rk n ≤ rk m)
    (hf : 3 * cnt rk s.nodes.size n + 1 ≤ fuel) :
    Tot (removeChildren fuel n) s (fun _ s' => HBo2 rk s' (upd op n (.unlinking (s.children n).length))) := by
  obtain ⟨u, s', hrun, -, -, hu, N⟩ := ((NU.unlink_corr fuel).2.2 env rk n s op ex dy I hop hlow).tot hf
  refine ⟨u, s', hrun, NU.hbo2_of_necH hb N hu.fr.size (fun m ho hm => ?_)⟩
  by_cases e : m = n
  · rw [e, upd_self] at ho; cases ho
  · rw [upd_other _ _ _ e] at ho; exact ho

end

end IncrVerif.Proofs.NestH
