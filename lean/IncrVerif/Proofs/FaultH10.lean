import IncrVerif.Proofs.FaultH9
/-!
# Faults in whole histories, part 6: the invariant modulo a pending fault; histories up to the first panic
-/
namespace IncrVerif.Proofs.FaultH
open IncrVerif.Engine IncrVerif.Driver IncrVerif.Proofs IncrVerif.Proofs.Step
open IncrVerif.Proofs.SubsH (PureHandlers UInv SubAction)

variable {env : Env}

/-- the invariant between actions, whatever fault is armed: the state with the countdown erased satisfies `UInv` -/
def UInvA (env : Env) (s : State) : Prop := UInv env (setCd none s)

theorem UInvA.of_uinv {s : State} (U : UInv env s) : UInvA env s := by
  have : setCd none s = s := setCd_self U.core.struct.static.pc
  unfold UInvA; rw [this]; exact U

theorem UInvA.fr {s : State} (U : UInvA env s) : Fr env s :=
  (fr_of_qinv U.core).of_nodes rfl rfl

/-- the actions with faults before the first panic: the fragment with subscriptions and `arm` -/
def AAction (env : Env) : Action → Prop
  | .arm _ => True
  | a => SubAction env a

/-- **an action other than `stabilise` neither reads nor writes the countdown**: it runs exactly as in the state without
fault, keeps the invariant, logs nothing -/
theorem step_healthy {s s' : State} {a : Action} {tk : Array Nat} {r : String × Array Nat}
    (U : UInvA env s) (heff : PureHandlers env) (ha : SubAction env a) (hns : a ≠ .stabilise)
    (h : (stepAction env a tk).run.run s = (.ok r, s')) :
    UInvA env s' ∧ s'.panicCountdown = s.panicCountdown ∧ s'.log = s.log ∧
      (stepAction env a tk).run.run (setCd none s) = (.ok r, setCd none s') := by
  have C := Comm.stepAction ha hns tk
  obtain ⟨e0, -, l0⟩ := C none s U.fr _ _ h
  obtain ⟨e1, -, -⟩ := C s.panicCountdown s U.fr _ _ h
  rw [setCd_self rfl, h] at e1
  have hp : s'.panicCountdown = s.panicCountdown := by
    have := congrArg (fun p => p.2.panicCountdown) e1
    exact this
  exact ⟨(SubsH.step_u U heff ha e0).1, hp, l0, e0⟩

theorem step_arm {s : State} (U : UInvA env s) (k : Nat) (tk : Array Nat) :
    (stepAction env (.arm k) tk).run.run s = (.ok ("ok", tk), setCd (some k) s) ∧ UInvA env (setCd (some k) s) :=
  ⟨rfl, U⟩

/-! ## a `stabilise` that returns although a fault is armed: the fault was not reached -/

theorem Locked.ok_of_armed_ok {α} {P : Event → Prop} {s s' u : State} {x : M α} {r : Except Panic α} {evs : List Event}
    {k : Nat} {a : α} (L : Locked P s x r s' evs) (h : x.run.run (setCd (some k) s) = (.ok a, u)) :
    evs.length < eff k ∧ r = .ok a ∧ u = setCd (some (k - evs.length)) s' := by
  by_cases hk : evs.length < eff k
  · have := L.pass k hk
    rw [h] at this
    cases this
    exact ⟨hk, rfl, rfl⟩
  · obtain ⟨t, ht, -⟩ := L.fire k (by omega)
    rw [h] at ht; cases ht

/-- if `stabilise` returns from a healthy state with a fault armed, the fault-free `stabilise` returns too -/
theorem armed_ok_ff_ok {fuel : Nat} {s u : State} {k : Nat} (U : UInv env s) (heff : PureHandlers env)
    (h : (stabilise env fuel).run.run (setCd (some k) s) = (.ok (), u)) :
    ∃ s', (stabilise env fuel).run.run s = (.ok (), s') := by
  have Q := U.core
  have hst : s.status = .notStabilising := Q.status
  have hpc : s.panicCountdown = none := Q.struct.static.pc
  have hfr : Fr env s := fr_of_qinv Q
  have hsta : (setCd (some k) s).status = .notStabilising := hst
  rw [Poison.stabilise_run env fuel _ hsta] at h
  have e0 : ({ setCd (some k) s with status := .stabilising } : State)
      = setCd (some k) { s with status := .stabilising } := rfl
  rw [e0] at h
  have hfr0 : Fr env { s with status := .stabilising } := hfr.of_nodes rfl rfl
  rcases h1 : (Poison.propagate env fuel).run.run { s with status := .stabilising } with ⟨r1, s1⟩
  obtain ⟨fr1, pc1, pre, L1⟩ := Lock.propagate (env := env) fuel _ hfr0 hpc _ _ h1
  rcases a1 : (Poison.propagate env fuel).run.run (setCd (some k) { s with status := .stabilising }) with ⟨x1, u1⟩
  rw [a1] at h
  cases x1 with
  | error p => cases h
  | ok y1 =>
  dsimp only at h
  obtain ⟨hk1, er1, eu1⟩ := L1.ok_of_armed_ok a1
  subst er1
  rw [eu1] at h
  rcases h2 : (Poison.stabiliseEndPrepare env).run.run s1 with ⟨r2, s2⟩
  have C2 := fun c => Comm.stabiliseEndPrepare (env := env) c s1 fr1 _ _ h2
  rw [(C2 (some (k - pre.length))).1] at h
  cases r2 with
  | error p => cases h
  | ok q =>
  dsimp only at h
  have fr2 : Fr env s2 := (C2 none).2.1
  have pc2 : s2.panicCountdown = none := by
    have := (C2 none).1
    rw [setCd_self pc1, h2] at this
    exact congrArg (fun p => p.2.panicCountdown) this
  have hfr2 : Fr env { s2 with status := .runningOnUpdateHandlers } := fr2.of_nodes rfl rfl
  rcases h3 : (Poison.runHandlers env fuel q).run.run { s2 with status := .runningOnUpdateHandlers } with ⟨r3, s3⟩
  obtain ⟨fr3, pc3, del, L3⟩ := Lock.runHandlers (env := env) heff fuel q _ hfr2 pc2 _ _ h3
  have e2 : ({ setCd (some (k - pre.length)) s2 with status := .runningOnUpdateHandlers } : State)
      = setCd (some (k - pre.length)) { s2 with status := .runningOnUpdateHandlers } := rfl
  rw [e2] at h
  rcases a3 : (Poison.runHandlers env fuel q).run.run
      (setCd (some (k - pre.length)) { s2 with status := .runningOnUpdateHandlers }) with ⟨x3, u3⟩
  rw [a3] at h
  cases x3 with
  | error p => cases h
  | ok y3 =>
  obtain ⟨-, er3, -⟩ := L3.ok_of_armed_ok a3
  subst er3
  refine ⟨{ s3 with status := .notStabilising }, ?_⟩
  rw [Poison.stabilise_run env fuel s hst, h1]
  dsimp only
  rw [h2]
  dsimp only
  rw [h3]

/-- **`stabilise` in a healthy state that returns**: the invariant is kept; with a fault armed at `k` the fault-free
run returns as well, in the same state up to the countdown, which is decreased by the number of invocations -/
theorem stabilise_healthy {s s' : State} {tk : Array Nat} {r : String × Array Nat}
    (U : UInvA env s) (heff : PureHandlers env)
    (h : (stepAction env .stabilise tk).run.run s = (.ok r, s')) :
    UInvA env s' ∧ (stabilise env fuelDefault).run.run (setCd none s) = (.ok (), setCd none s') := by
  have hs := step_stabilise h
  cases hc : s.panicCountdown with
  | none =>
    have e : setCd none s = s := setCd_self hc
    have U' : UInv env s := by rw [← e]; exact U
    have R := SubsH.stabilise_u U' heff hs
    have e' : setCd none s' = s' := setCd_self R.inv.core.struct.static.pc
    rw [e, e']
    exact ⟨UInvA.of_uinv R.inv, hs⟩
  | some k =>
    have e : s = setCd (some k) (setCd none s) := by
      rw [setCd_setCd]; exact (setCd_self hc).symm
    rw [e] at hs
    obtain ⟨s0', hff⟩ := armed_ok_ff_ok U heff hs
    obtain ⟨pre, del, -, -, -, A⟩ := stabilise_armed U heff hff
    have R := SubsH.stabilise_u U heff hff
    have hp0 : s0'.panicCountdown = none := R.inv.core.struct.static.pc
    by_cases hk : pre.length + del.length < eff k
    · have := (A k).notReached hk
      rw [hs] at this
      have es' : s' = setCd (some (k - (pre.length + del.length))) s0' := by cases this; rfl
      have : setCd none s' = s0' := by rw [es', setCd_setCd]; exact setCd_self hp0
      rw [this]
      exact ⟨by unfold UInvA; rw [this]; exact R.inv, hff⟩
    · exfalso
      by_cases hk1 : eff k ≤ pre.length
      · obtain ⟨t, ht, -⟩ := (A k).inPropagation hk1
        rw [hs] at ht; cases ht
      · obtain ⟨t, ht, -⟩ := (A k).inHandlers (by omega) (by omega)
        rw [hs] at ht; cases ht

/-- every action of the fragment with `arm` that returns keeps the invariant (modulo the countdown) -/
theorem step_uA {s s' : State} {a : Action} {tk : Array Nat} {r : String × Array Nat}
    (U : UInvA env s) (heff : PureHandlers env) (ha : AAction env a)
    (h : (stepAction env a tk).run.run s = (.ok r, s')) : UInvA env s' := by
  by_cases hs : a = .stabilise
  · subst hs; exact (stabilise_healthy U heff h).1
  · cases a
    case arm k => cases h; exact U
    all_goals (refine (step_healthy U heff ?_ hs h).1; exact ha)

/-- **histories up to the first panic**: a history of the fragment with `arm` that has not panicked so far ends in a
healthy state -/
theorem runActions_uA {acts : List Action} {s s' : State} {tk tk' : Array Nat}
    (U : UInvA env s) (heff : PureHandlers env) (ha : ∀ a, a ∈ acts → AAction env a)
    (h : Quiet.runActions env acts s tk = .ok (s', tk')) : UInvA env s' :=
  Hist.runActions_inv_all (fun _ _ _ _ _ U ha hx => step_uA U heff ha hx) U ha h

theorem history_uA {N : Nat} {d : Bool} {acts : List Action} {s : State} {tk : Array Nat}
    (heff : PureHandlers env) (ha : ∀ a, a ∈ acts → AAction env a)
    (h : Quiet.runActions env acts (State.init N d) #[] = .ok (s, tk)) : UInvA env s :=
  runActions_uA (UInvA.of_uinv (SubsH.uinv_init env N d)) heff ha h

end IncrVerif.Proofs.FaultH
