import IncrVerif.Proofs.NestH32
import IncrVerif.Proofs.NestRank
import IncrVerif.Proofs.Corr
/-!
# Nested binds (F2), phase 3 (`lhsInvalidateOld`), part 3: the closed form of `invalidateNode` on a dying subtree (induction on the fuel), the loop, the phase

`inv_corr`: from a state `t` that is the reference state `s` with the (closed) set `D` dead, `invalidateNode fuel r` ends in `s` with `D` and the dying
subtree of `r` dead.  When `r` is the main node of an inner bind, the recursive calls are analysed with the reference state `opened r b2 s`.

It returns when the fuel exceeds the POSITION `cnt rk s.nodes.size r` of `r` in the rank order: on a dying subtree `invalidateNode` recurses through the main
nodes of the dying inner binds, main node `r` of bind `b2` → a registered node `r'` of `b2` (a node of scope `b2`, so `rk r' < rk r`: `Sub.below`) → …,
and invalidation creates no node.  As `cnt rk N r < N` for a node of the state, `s.nodes.size ≤ fuel` suffices for the loop of `lhsInvalidateOld`, and
`1 ≤ fuel` for `propagateInvalidity` on the empty stack.
-/
namespace IncrVerif.Proofs.NestH
open IncrVerif.Engine IncrVerif.Proofs IncrVerif.Proofs.Step IncrVerif.Proofs.Sched IncrVerif.Proofs.Quiet
open IncrVerif.Proofs.BindH

namespace NI

/-- the specification of `invalidateNode fuel` -/
def RunCorr (rk : Nat → Nat) (fuel : Nat) : Prop :=
  ∀ (s t : State) (D : Nat → Prop) (r : Nat),
    Mid2 s D t → Closed s D → RecsK s → Sub rk s r →
    Corr (invalidateNode fuel r) t (cnt rk s.nodes.size r + 1 ≤ fuel) (fun _ t' => Mid2 s (fun m => D m ∨ Dying s [r] m) t')

/-- the node is dead already: nothing happens -/
theorem run_dead_step {s t : State} {D : Nat → Prop} {fuel r : Nat} {P : Prop}
    (M : Mid2 s D t) (hC : Closed s D) (hlt : r < s.nodes.size) (hD : D r) :
    Corr (invalidateNode (fuel + 1) r) t P (fun _ t' => Mid2 s (fun m => D m ∨ Dying s [r] m) t') := by
  have hv : (t.nodeD r).valid = false := by rw [M.dead r hD]; rfl
  refine Corr.of_ok (Inval.invalidateNode_invalid fuel r t _ (some_of_lt (by rw [M.size]; exact hlt)) hv)
    (M.congr (fun m => ⟨fun hm => ?_, Or.inl⟩))
  rcases hm with hm | hm
  · exact hm
  · exact hC r m hD hm

/-- a node that is not a main node -/
theorem run_leaf_step {rk : Nat → Nat} {s t : State} {D : Nat → Prop} {fuel r : Nat} {P : Prop}
    (M : Mid2 s D t) (hR : RecsK s) (S : Sub rk s r) (hD : ¬ D r) (hk : ∀ b lc, (s.nodeD r).kind ≠ .bindMain b lc) :
    Corr (invalidateNode (fuel + 1) r) t P (fun _ t' => Mid2 s (fun m => D m ∨ Dying s [r] m) t') := by
  obtain ⟨hlt0, hv, hnec0, hq, hnoh⟩ := S.leaf r (dying_self s r)
  have hlt : r < t.nodes.size := by rw [M.size]; exact hlt0
  have ha : t.nodeD r = s.nodeD r := M.other r hD
  have hnec : t.isNecessary r = false := by
    unfold State.isNecessary at hnec0 ⊢
    rw [ha]; exact hnec0
  refine Corr.of_ok (CI.invalidateNode_dying_run fuel r t hlt (by rw [ha]; exact hv) hnec (by rw [ha]; exact hk)
    (by rw [ha]; exact hq)) ?_
  obtain ⟨-, f2, -, f4, f5, f6, f7⟩ := Inval.invalidated_fields r t
  obtain ⟨g1, g2, g3, g4, g5, g6, g7⟩ := CI.invalidated_rest r t
  have hiff : ∀ m, (D m ∨ Dying s [r] m) ↔ (D m ∨ m = r) := fun m =>
    ⟨fun h => h.elim Or.inl (fun h => Or.inr (dying_leaf hk h)), fun h => h.elim Or.inl (fun h => Or.inr (by rw [h]; exact dying_self s r))⟩
  refine Mid2.congr ?_ hiff
  refine ⟨by rw [f7, M.size], ?_, ?_, by rw [f5, M.bindsSize], ?_, by rw [g1, M.vars], by rw [f6, M.stabNum],
    by rw [g2, M.status], by rw [g3, M.cfg], by rw [g4, M.scope], by rw [g5, M.pc], by rw [f4, M.rch],
    by rw [g6, M.ahh], by rw [g7, M.top], by rw [f2, M.pinv]⟩
  · intro m hm
    have hma : m ≠ r := fun e => hm (Or.inr e)
    rw [Inval.invalidated_other r m t hma]
    exact M.other m (fun hd => hm (Or.inl hd))
  · intro m hm
    by_cases hma : m = r
    · subst hma
      rw [CI.invalidated_nodeD0 m t hlt (by rw [ha]; exact hnoh), ha, M.stabNum]
    · rw [Inval.invalidated_other r m t hma]
      rcases hm with hm | hm
      · exact M.dead m hm
      · exact absurd hm hma
  · intro b' br0 hb
    have hmr : br0.main ≠ r := by
      intro e
      obtain ⟨lc, hk0⟩ := hR b' br0 hb
      rw [e] at hk0
      exact hk _ _ hk0
    rw [f5]
    obtain ⟨h1, h2⟩ := M.binds b' br0 hb
    refine ⟨fun hd => h1 (hd.elim id (fun e => absurd e hmr)), fun hd => h2 (fun hd' => hd (Or.inl hd'))⟩

/-! ## the loop -/

theorem loop_corr {rk : Nat → Nat} {fuel : Nat} (ih : RunCorr rk fuel) (s : State) (l : List Nat) :
    ∀ (D : Nat → Prop) (t : State), (∀ a, a ∈ l → Sub rk s a) → Mid2 s D t → Closed s D → RecsK s →
      Corr (forIn l PUnit.unit fun (r : Nat) (_ : PUnit) => do
          invalidateNode fuel r
          pure (ForInStep.yield PUnit.unit) : M PUnit) t (∀ a, a ∈ l → cnt rk s.nodes.size a + 1 ≤ fuel)
        (fun _ t' => Mid2 s (fun m => D m ∨ Dying s l m) t') := by
  induction l with
  | nil =>
    intro D t _ M _ _
    rw [List.forIn_nil]
    exact Corr.pure (M.congr (fun m => ⟨fun hm => hm.elim id (fun h => (dying_nil h).elim), Or.inl⟩))
  | cons a l ihl =>
    intro D t hl M hC hR
    rw [List.forIn_cons]
    refine Corr.bind (Q := fun y t1 => y = .yield PUnit.unit ∧ Mid2 s (fun m => D m ∨ Dying s [a] m) t1)
      (Corr.bind (ih s t D a M hC hR (hl a (List.mem_cons_self ..))) (fun h => h a (List.mem_cons_self ..))
        (fun _ t1 _ M1 => Corr.pure ⟨rfl, M1⟩)) id ?_
    rintro _ t1 - ⟨rfl, M1⟩
    refine (ihl _ t1 (fun x hx => hl x (List.mem_cons_of_mem _ hx)) M1 (closed_or hC) hR).mono
      (fun h x hx => h x (List.mem_cons_of_mem _ hx)) (fun _ t' M2 => M2.congr (fun m => ?_))
    rw [dying_cons]
    constructor
    · rintro (h | h | h)
      · exact Or.inl (Or.inl h)
      · exact Or.inl (Or.inr h)
      · exact Or.inr h
    · rintro ((h | h) | h)
      · exact Or.inl h
      · exact Or.inr (Or.inl h)
      · exact Or.inr (Or.inr h)

/-! ## a main node -/

/-- opening the main node `r` of bind `b2` in both states -/
theorem mid2_opened {s t : State} {D : Nat → Prop} {r b2 : Nat} {br2 : BindRec} (M : Mid2 s D t) (hD : ¬ D r)
    (hb2 : s.binds[b2]? = some br2) (hmain : br2.main = r) : Mid2 (opened r b2 s) D (openedT r b2 t) := by
  have hbt : t.binds[b2]? = some br2 := (M.binds b2 br2 hb2).2 (by rw [hmain]; exact hD)
  have hnode : ∀ m, (openedT r b2 t).nodeD m = (opened r b2 t).nodeD m := fun _ => rfl
  refine ⟨?_, ?_, ?_, ?_, ?_, M.vars, M.stabNum, M.status, M.cfg, M.scope, M.pc, M.rch, M.ahh, M.top, M.pinv⟩
  · show (t.nodes.modify r _).size = (s.nodes.modify r _).size
    rw [Array.size_modify, Array.size_modify]; exact M.size
  · intro m hm
    rw [hnode, opened_nodeD, opened_nodeD, M.other m hm, M.size, M.stabNum]
  · intro m hm
    have hne : m ≠ r := fun e => hD (e ▸ hm)
    rw [hnode, opened_other t hne, opened_other s hne]
    exact M.dead m hm
  · show (t.binds.modify b2 _).size = (s.binds.modify b2 _).size
    rw [Array.size_modify, Array.size_modify]; exact M.bindsSize
  · intro b' br0 hb
    have hbt' : (openedT r b2 t).binds[b']? = (opened r b2 t).binds[b']? := rfl
    rw [opened_binds] at hb
    rw [hbt', opened_binds]
    by_cases e : b2 = b'
    · subst e
      rw [if_pos rfl, hb2] at hb
      simp only [Option.map_some, Option.some.injEq] at hb
      rw [if_pos rfl, hbt, ← hb]
      refine ⟨fun hd => absurd (hmain ▸ hd) hD, fun _ => rfl⟩
    · rw [if_neg e] at hb
      rw [if_neg e]
      exact M.binds b' br0 hb

theorem run_main_step {rk : Nat → Nat} {fuel : Nat} (ih : RunCorr rk fuel) {s t : State} {D : Nat → Prop}
    {r b2 lc2 : Nat} (M : Mid2 s D t) (hC : Closed s D) (hR : RecsK s) (S : Sub rk s r) (hD : ¬ D r)
    (hk : (s.nodeD r).kind = .bindMain b2 lc2) :
    Corr (invalidateNode (fuel + 1) r) t (cnt rk s.nodes.size r + 1 ≤ fuel + 1)
      (fun _ t' => Mid2 s (fun m => D m ∨ Dying s [r] m) t') := by
  obtain ⟨hlt, hv, hnec, hq, hnoh⟩ := S.leaf r (dying_self s r)
  obtain ⟨br2, hb2, hmain, hlist, hrk⟩ := S.main r b2 lc2 (dying_self s r) hk
  have ha : t.nodeD r = s.nodeD r := M.other r hD
  have hbt : t.binds[b2]? = some br2 := (M.binds b2 br2 hb2).2 (by rw [hmain]; exact hD)
  have hltt : r < t.nodes.size := by rw [M.size]; exact hlt
  have hnect : t.isNecessary r = false := by
    unfold State.isNecessary at hnec ⊢
    rw [ha]; exact hnec
  have hsk := opened_sameSk r b2 s
  -- the four parts: nothing to detach, the loop over the registered nodes of the inner bind, the last part
  refine Corr.of_run_eq (s' := Inval.invStamped r t)
    (y := do Inval.invDetach fuel r (t.nodeD r).createdIn; Inval.invCascade fuel (t.nodeD r).kind; Inval.invFinish r)
    (by
      rw [Inval.invalidateNode_run fuel r t (t.nodeD r) (some_of_lt hltt) (by rw [ha]; exact hv),
        handled_noh r t (by rw [ha]; exact hnoh)]) ?_
  have hD1 : (Inval.invStamped r t).nodeD r = stamp t.stabNum (t.nodeD r) := by
    rw [Inval.nodeD_of_modify (t := Inval.invStamped r t) (s := t) (n := r) (f := stamp t.stabNum) rfl,
      if_pos ⟨rfl, hltt⟩]
  have hnec1 : (Inval.invStamped r t).isNecessary r = false := by
    unfold State.isNecessary at hnect ⊢
    rw [hD1]
    exact hnect
  have hdet : (Inval.invDetach fuel r (t.nodeD r).createdIn).run.run (Inval.invStamped r t) =
      (.ok (), Inval.invStamped r t) := by
    unfold Inval.invDetach
    rw [run_bind_get]
    simp only [hnec1, Bool.false_eq_true, if_false]
    rfl
  refine Corr.bind_ok hdet ?_
  have hb' : (Inval.invStamped r t).binds[b2]? = some br2 := hbt
  refine Corr.bind (Corr.of_run_eq (y := forIn br2.allNodesCreatedOnRhs PUnit.unit fun (r' : Nat) (_ : PUnit) => do
        invalidateNode fuel r'
        pure (ForInStep.yield PUnit.unit)) (s' := openedT r b2 t)
      (by rw [ha, hk, invCascade_main_run fuel b2 lc2 (Inval.invStamped r t) br2 hb']; rfl)
      (loop_corr ih (opened r b2 s) br2.allNodesCreatedOnRhs D (openedT r b2 t)
        (fun x hx => sub_child S hk hb2 hx) (mid2_opened M hD hb2 hmain) (closed_congr hsk hC) (recsK_opened hR)))
    (fun hf a hx => by
      rw [hsk.size]
      have h1 := (hlist a).1 hx
      have h2 := (S.below hk hb2 hx (dying_self s a)).2
      have := cnt_lt_cnt (rk := rk) h1.1 h2
      omega) ?_
  intro _ t2 _ M2
  -- `r` itself is untouched by the loop
  have hnr : ¬ (D r ∨ Dying (opened r b2 s) br2.allNodesCreatedOnRhs r) := by
    rintro (h | h)
    · exact hD h
    · obtain ⟨r', hr', hd⟩ := dying_split ((dying_congr hsk _ r).1 h)
      exact Nat.lt_irrefl _ (S.below hk hb2 hr' hd).2
  have hr2 : t2.nodeD r = stamp s.stabNum (s.nodeD r) := by
    rw [M2.other r hnr, opened_nodeD, if_pos ⟨rfl, hlt⟩]
  have hlt2 : r < t2.nodes.size := by rw [M2.size, hsk.size]; exact hlt
  have hpar : (s.nodeD r).parents = [] := by
    simp only [State.isNecessary, Node.isNecessary, Bool.or_eq_false_iff, Bool.not_eq_false', List.isEmpty_iff] at hnec
    exact hnec.1.1
  have hq' : ¬ (s.nodeD r).heightInRch ≥ 0 := by simpa [Node.inRch] using hq
  have hfin : (Inval.invFinish r).run.run t2 = (.ok (), Inval.markedInvalid r t2) := by
    rw [Inval.invFinish_run r t2 _ (some_of_lt hlt2), hr2]
    have e1 : (stamp s.stabNum (s.nodeD r)).heightInRch = (s.nodeD r).heightInRch := rfl
    have e2 : (stamp s.stabNum (s.nodeD r)).parents = (s.nodeD r).parents := rfl
    rw [e1, e2, if_neg hq', hpar, Inval.pushParents_nil]
  refine Corr.of_ok hfin ?_
  -- the final state
  have hiff : ∀ m, (D m ∨ Dying s [r] m) ↔ ((D m ∨ Dying (opened r b2 s) br2.allNodesCreatedOnRhs m) ∨ m = r) := by
    intro m
    rw [dying_main_iff S hk hb2 m, dying_congr hsk]
    constructor
    · rintro (h | h | h)
      · exact Or.inl (Or.inl h)
      · exact Or.inr h
      · exact Or.inl (Or.inr h)
    · rintro ((h | h) | h)
      · exact Or.inl h
      · exact Or.inr (Or.inr h)
      · exact Or.inr (Or.inl h)
  refine Mid2.congr ?_ hiff
  refine ⟨?_, ?_, ?_, ?_, ?_, M2.vars, M2.stabNum, M2.status, M2.cfg, M2.scope, M2.pc, M2.rch, M2.ahh, M2.top, M2.pinv⟩
  · show (t2.nodes.modify r _).size = _
    rw [Array.size_modify, M2.size, hsk.size]
  · intro m hm
    have hne : m ≠ r := fun e => hm (Or.inr e)
    rw [Inval.markedInvalid_nodeD, if_neg (fun hc => hne hc.1.symm), M2.other m (fun hd => hm (Or.inl hd)),
      opened_other s hne]
  · intro m hm
    by_cases hne : m = r
    · subst hne
      rw [Inval.markedInvalid_nodeD, if_pos ⟨rfl, hlt2⟩, hr2]
      rfl
    · rw [Inval.markedInvalid_nodeD, if_neg (fun hc => hne hc.1.symm)]
      have hd : D m ∨ Dying (opened r b2 s) br2.allNodesCreatedOnRhs m := hm.elim id (fun e => absurd e hne)
      rw [M2.dead m hd, opened_other s hne]
      rfl
  · show t2.binds.size = _
    rw [M2.bindsSize]
    show (s.binds.modify b2 _).size = _
    rw [Array.size_modify]
  · intro b' br0 hb
    show (_ → t2.binds[b']? = _) ∧ (_ → t2.binds[b']? = _)
    by_cases e : b2 = b'
    · subst e
      rw [hb2] at hb; cases hb
      have hbo : (opened r b2 s).binds[b2]? = some { br2 with allNodesCreatedOnRhs := [] } := by
        rw [opened_binds, if_pos rfl, hb2]; rfl
      obtain ⟨h1, h2⟩ := M2.binds b2 _ hbo
      refine ⟨fun _ => ?_, fun hd => absurd (Or.inr hmain) hd⟩
      by_cases hd : D br2.main ∨ Dying (opened r b2 s) br2.allNodesCreatedOnRhs br2.main
      · exact h1 hd
      · exact h2 hd
    · have hbo : (opened r b2 s).binds[b']? = some br0 := by rw [opened_binds, if_neg e]; exact hb
      have hmr : br0.main ≠ r := by
        intro e'
        obtain ⟨lc, hk0⟩ := hR b' br0 hb
        rw [e', hk] at hk0
        injection hk0 with e1
        exact e e1
      obtain ⟨h1, h2⟩ := M2.binds b' br0 hbo
      exact ⟨fun hd => h1 (hd.elim id (fun e => absurd e hmr)), fun hd => h2 (fun hd' => hd (Or.inl hd'))⟩

/-! ## the closed form -/

theorem inv_corr (rk : Nat → Nat) : ∀ fuel, RunCorr rk fuel := by
  intro fuel
  induction fuel with
  | zero =>
    intro s t D r _ _ _ _
    unfold invalidateNode
    exact Corr.throw (fun h => by omega)
  | succ fuel ih =>
    intro s t D r M hC hR S
    by_cases hD : D r
    · exact run_dead_step M hC (S.leaf r (dying_self s r)).1 hD
    · by_cases hk : ∃ b lc, (s.nodeD r).kind = .bindMain b lc
      · obtain ⟨b2, lc2, hk⟩ := hk
        exact run_main_step ih M hC hR S hD hk
      · exact run_leaf_step M hR S hD (fun b lc hc => hk ⟨b, lc, hc⟩)

/-- the whole phase: exactly the dying nodes are invalidated; `s.nodes.size + 1 ≤ fuel` suffices for it to return -/
theorem lhsInvalidateOld_corr {rk : Nat → Nat} {fuel : Nat} {br : BindRec} {s : State}
    (hnone : br.rhs = none → br.allNodesCreatedOnRhs = [])
    (hl : ∀ a, a ∈ br.allNodesCreatedOnRhs → Sub rk s a) (hR : RecsK s) (hp : s.propagateInvalidity = []) :
    Corr (Inval.lhsInvalidateOld fuel br) s (s.nodes.size + 1 ≤ fuel)
      (fun _ s' => Mid2 s (Dying s br.allNodesCreatedOnRhs) s') := by
  unfold Inval.lhsInvalidateOld
  cases hr : br.rhs with
  | none =>
    simp only [Option.isSome_none, Bool.false_eq_true, if_false]
    rw [hnone hr]
    exact Corr.pure ((Mid2.refl s).congr (fun m => ⟨fun hm => dying_nil hm, fun hm => hm.elim⟩))
  | some o =>
    simp only [Option.isSome_some, if_true]
    refine Corr.bind (loop_corr (inv_corr rk fuel) s br.allNodesCreatedOnRhs _ s hl (Mid2.refl s) (closed_false s) hR)
      (fun hf a ha => by
        have := cnt_lt_size (rk := rk) ((hl a ha).leaf a (dying_self s a)).1
        omega) ?_
    intro _ t _ M
    have hpt : t.propagateInvalidity = [] := by rw [M.pinv]; exact hp
    refine ⟨fun hf => ?_, fun _ s' hprop => ?_⟩
    · obtain ⟨f, rfl⟩ : ∃ f, fuel = f + 1 := ⟨fuel - 1, by omega⟩
      exact ⟨(), t, propagateInvalidity_nil_run f hpt⟩
    · rw [propagateInvalidity_nil hpt hprop]
      exact M.congr (fun m => ⟨Or.inr, fun hm => hm.elim (fun h => h.elim) id⟩)

end NI

end IncrVerif.Proofs.NestH
