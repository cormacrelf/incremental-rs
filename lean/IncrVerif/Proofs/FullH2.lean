import IncrVerif.Proofs.FullH1
import IncrVerif.Proofs.NodeSim
/-!
# C01 full fragment, part 1: the simulation calculus

`Sim K g x x'`: every successful run of `x` from `s` is matched by a successful run of `x'` from `virt g s`, with the same
result, ending in `virt g` of the final state (SAME ghost).  `SimX g x x'`: the same, but the ghost may change — to `none` —
on nodes that are invalid in the final state (invalidation erases the ghost value of a `map_ref` node).
States may contain invalid nodes and pending invalidations (unlike `MapRefH.Fr`).
-/
namespace IncrVerif.Proofs.FullH
open IncrVerif.Engine IncrVerif.Proofs IncrVerif.Proofs.Step IncrVerif.Proofs.Sched IncrVerif.Proofs.Quiet

/-- the cutoffs of the fragment: `.eq` (default), `.never` (set by the `cutoff` action; change detectors), or `.dependOn a` on a `depend_on` node
`map fnFirst [a, b]` -/
def CutK (k : Kind) (c : CutoffK) : Prop := c = .eq ∨ c = .never ∨ ∃ a b, c = .dependOn a ∧ k = .map fnFirst [a, b]

/-- what the simulation needs to know of the actual state and the ghost all along: no expert nodes, cutoffs of the fragment (no cutoff closure runs), the ghost
is `none` beyond the nodes of the state; `K`: a predicate all kinds satisfy -/
structure Fr (K : Kind → Prop) (g : Nat → Option Val) (s : State) : Prop where
  /-- the kinds of the nodes satisfy `K` (kinds never change; `createNode k` needs `K k`) -/
  kinds : ∀ n, n < s.nodes.size → K (s.nodeD n).kind
  noExp : ∀ n e, (s.nodeD n).kind ≠ .expert e
  cut : ∀ n, CutK (s.nodeD n).kind (s.nodeD n).cutoff
  fresh : ∀ n, s.nodes.size ≤ n → g n = none

/-- what every simulated function keeps: the state grows, invalid nodes stay invalid, and the nodes that exist keep their kind, cutoff and machine
state; `didChange` flags are only RAISED (only the own recompute step of a `map_ref` / `map_with_old` node — which is not simulated — lowers a flag or
changes a machine state) -/
structure VM (s s' : State) : Prop where
  size : s.nodes.size ≤ s'.nodes.size
  valid : ∀ m, (s.nodeD m).valid = false → (s'.nodeD m).valid = false
  kind : ∀ m, m < s.nodes.size → (s'.nodeD m).kind = (s.nodeD m).kind ∧ (s'.nodeD m).cutoff = (s.nodeD m).cutoff ∧
    (s'.nodeD m).oldState = (s.nodeD m).oldState
  flag : ∀ m, m < s.nodes.size → (s'.nodeD m).didChange = false → (s.nodeD m).didChange = false
  /-- new nodes: flag up, machine state initial, the input of a new `map_ref` node is an earlier node -/
  newn : ∀ m, s.nodes.size ≤ m → m < s'.nodes.size → (s'.nodeD m).didChange = true ∧ (s'.nodeD m).oldState = .unit ∧
    ∀ p i, (s'.nodeD m).kind = .mapRef p i → i < m

theorem VM.refl (s : State) : VM s s :=
  ⟨Nat.le_refl _, fun _ h => h, fun _ _ => ⟨rfl, rfl, rfl⟩, fun _ _ h => h, fun m h1 h2 => absurd h2 (by omega)⟩
theorem VM.trans {a b c : State} (h1 : VM a b) (h2 : VM b c) : VM a c :=
  ⟨Nat.le_trans h1.size h2.size, fun m h => h2.valid m (h1.valid m h),
    fun m hm => by
      obtain ⟨x1, x2, x3⟩ := h1.kind m hm
      obtain ⟨y1, y2, y3⟩ := h2.kind m (Nat.lt_of_lt_of_le hm h1.size)
      exact ⟨y1.trans x1, y2.trans x2, y3.trans x3⟩,
    fun m hm h => h1.flag m hm (h2.flag m (Nat.lt_of_lt_of_le hm h1.size) h),
    fun m hm1 hm2 => by
      by_cases hb : m < b.nodes.size
      · obtain ⟨x1, x2, x3⟩ := h1.newn m hm1 hb
        obtain ⟨y1, -, y3⟩ := h2.kind m hb
        refine ⟨?_, y3.trans x2, fun p i hk => x3 p i (by rw [← y1]; exact hk)⟩
        cases hd : (c.nodeD m).didChange with
        | true => rfl
        | false => rw [h2.flag m hb hd] at x1; cases x1
      · exact h2.newn m (by omega) hm2⟩
theorem VM.of_nodes {s s' : State} (e : s'.nodes = s.nodes) : VM s s' := by
  have hn : ∀ n, s'.nodeD n = s.nodeD n := fun n => by simp [State.nodeD, e]
  exact ⟨by rw [e]; exact Nat.le_refl _, fun m h => by rw [hn]; exact h, fun m _ => by rw [hn]; exact ⟨rfl, rfl, rfl⟩,
    fun m _ h => by rw [hn] at h; exact h, fun m h1 h2 => by rw [e] at h2; omega⟩

/-- how the ghost may change: only to `none`, only on nodes that are invalid afterwards -/
structure GR (g g' : Nat → Option Val) (s s' : State) : Prop where
  vm : VM s s'
  gh : ∀ m, g' m = g m ∨ (g' m = none ∧ (s'.nodeD m).valid = false)

theorem GR.refl (g : Nat → Option Val) (s : State) : GR g g s s := ⟨VM.refl s, fun _ => Or.inl rfl⟩
theorem GR.of_vm {g : Nat → Option Val} {s s' : State} (h : VM s s') : GR g g s s' := ⟨h, fun _ => Or.inl rfl⟩
theorem GR.trans {g1 g2 g3 : Nat → Option Val} {a b c : State} (h1 : GR g1 g2 a b) (h2 : GR g2 g3 b c) :
    GR g1 g3 a c := by
  refine ⟨h1.vm.trans h2.vm, fun m => ?_⟩
  rcases h2.gh m with e | ⟨e, hv⟩
  · rcases h1.gh m with e1 | ⟨e1, hv1⟩
    · exact Or.inl (e.trans e1)
    · exact Or.inr ⟨e.trans e1, h2.vm.valid m hv1⟩
  · exact Or.inr ⟨e, hv⟩

/-- on nodes that are valid afterwards the ghost is unchanged -/
theorem GR.valid_eq {g g' : Nat → Option Val} {s s' : State} (h : GR g g' s s') {m : Nat}
    (hv : (s'.nodeD m).valid = true) : g' m = g m := by
  rcases h.gh m with e | ⟨-, e⟩
  · exact e
  · rw [hv] at e; cases e

theorem Fr.of_nodes {K : Kind → Prop} {g : Nat → Option Val} {s s' : State} (h : Fr K g s) (e : s'.nodes = s.nodes) : Fr K g s' := by
  have hn : ∀ n, s'.nodeD n = s.nodeD n := fun n => by simp [State.nodeD, e]
  exact ⟨fun n hn' => by rw [hn]; exact h.kinds n (by rw [← e]; exact hn'), fun n x => by rw [hn]; exact h.noExp n x, fun n => by rw [hn]; exact h.cut n,
    fun n hn' => h.fresh n (by rw [← e]; exact hn')⟩

theorem Fr.some {K : Kind → Prop} {g : Nat → Option Val} {s : State} (h : Fr K g s) {n : Nat} {nd : Node} (hn : s.nodes[n]? = some nd) :
    ∀ e, nd.kind ≠ .expert e := by
  have h1 := h.noExp n
  rw [nodeD_of_some hn] at h1; exact h1

def SimAt (K : Kind → Prop) (g : Nat → Option Val) (s : State) {α} (x x' : M α) : Prop :=
  Fr K g s → ∀ r s', x.run.run s = (.ok r, s') →
    x'.run.run (virt g s) = (.ok r, virt g s') ∧ Fr K g s' ∧ VM s s'

def Sim (K : Kind → Prop) (g : Nat → Option Val) {α} (x x' : M α) : Prop := ∀ s, SimAt K g s x x'

def SimXAt (K : Kind → Prop) (g : Nat → Option Val) (s : State) {α} (x x' : M α) : Prop :=
  Fr K g s → ∀ r s', x.run.run s = (.ok r, s') →
    ∃ g', x'.run.run (virt g s) = (.ok r, virt g' s') ∧ Fr K g' s' ∧ GR g g' s s'

/-- `SimX K x x'`: for EVERY ghost -/
def SimX (K : Kind → Prop) {α} (x x' : M α) : Prop := ∀ g s, SimXAt K g s x x'

section
variable {K : Kind → Prop} {g : Nat → Option Val} {s : State} {α β : Type}

theorem Sim.at {x x' : M α} (h : Sim K g x x') (s : State) : SimAt K g s x x' := h s

theorem SimAt.toX {x x' : M α} (h : SimAt K g s x x') : SimXAt K g s x x' := by
  intro hf r s' hr
  obtain ⟨h1, h2, h3⟩ := h hf r s' hr
  exact ⟨g, h1, h2, GR.of_vm h3⟩

theorem SimX.of_sim {x x' : M α} (h : ∀ g, Sim K g x x') : SimX K x x' := fun g s => (h g s).toX

theorem SimAt.ret (a : α) : SimAt K g s (pure a : M α) (pure a) := by
  intro hn r s' h; rw [run_pure] at h; cases h; exact ⟨rfl, hn, VM.refl _⟩

theorem SimAt.thr (e : Panic) (x' : M α) : SimAt K g s (throw e : M α) x' := by
  intro _ r s' h; rw [run_throw] at h; cases h

theorem SimAt.pan (e : String) (x' : M α) : SimAt K g s (Engine.panic e : M α) x' := SimAt.thr _ _

theorem SimAt.seq {x x' : M α} {f f' : α → M β} (hx : SimAt K g s x x')
    (hf : ∀ a s1, x.run.run s = (.ok a, s1) → SimAt K g s1 (f a) (f' a)) :
    SimAt K g s (x >>= f) (x' >>= f') := by
  intro hn r s' h
  obtain ⟨a, s1, h1, h2⟩ := bind_ok_inv h
  obtain ⟨e1, n1, v1⟩ := hx hn a s1 h1
  rw [run_bind_ok e1]
  obtain ⟨e2, n2, v2⟩ := hf a s1 h1 n1 r s' h2
  exact ⟨e2, n2, v1.trans v2⟩

theorem SimAt.get_seq {k k' : State → M β} (h : SimAt K g s (k s) (k' (virt g s))) :
    SimAt K g s (get >>= k) (get >>= k') := by
  intro hn r s' hr
  rw [run_bind_get] at hr ⊢
  exact h hn r s' hr

theorem SimAt.getNode_seq {n : Nat} {k k' : Node → M β}
    (h : ∀ nd, s.nodes[n]? = some nd → (∀ e, nd.kind ≠ .expert e) →
      SimAt K g s (k nd) (k' (virtNode (g n) nd))) :
    SimAt K g s (getNode n >>= k) (getNode n >>= k') := by
  intro hn r s' hr
  obtain ⟨nd, hnd, hr⟩ := bind_getNode_inv hr
  have hv : (virt g s).nodes[n]? = some (virtNode (g n) nd) := by rw [virt_getElem?, hnd]; rfl
  rw [run_bind_ok (run_getNode_some hv)]
  exact h nd hnd (hn.some hnd) hn r s' hr

theorem SimAt.mod {f f' : State → State} (h : virt g (f s) = f' (virt g s)) (hn : (f s).nodes = s.nodes) :
    SimAt K g s (modify f : M Unit) (modify f') := by
  intro hne r s' hr; rw [run_modify] at hr ⊢; cases hr; rw [h]
  exact ⟨rfl, hne.of_nodes hn, VM.of_nodes hn⟩

theorem SimAt.mod_seq {f f' : State → State} {k k' : Unit → M β} (h : virt g (f s) = f' (virt g s))
    (hn : (f s).nodes = s.nodes) (hk : SimAt K g (f s) (k ()) (k' ())) :
    SimAt K g s ((modify f : M Unit) >>= k) ((modify f' : M Unit) >>= k') := by
  intro hne r s' hr
  rw [run_bind_modify] at hr ⊢
  rw [← h]
  obtain ⟨e, n, v⟩ := hk (hne.of_nodes hn) r s' hr
  exact ⟨e, n, (VM.of_nodes hn).trans v⟩

theorem SimAt.cond {c c' : Prop} {_ : Decidable c} {_ : Decidable c'} {a b a' b' : M α} (hc : c ↔ c')
    (ha : c → SimAt K g s a a') (hb : ¬ c → SimAt K g s b b') :
    SimAt K g s (if c then a else b) (if c' then a' else b') := by
  by_cases h : c
  · rw [if_pos h, if_pos (hc.1 h)]; exact ha h
  · rw [if_neg h, if_neg (fun h' => h (hc.2 h'))]; exact hb h

theorem fr_modify (hn : Fr K g s) (n : Nat) (f : Node → Node)
    (hk : ∀ nd, (f nd).kind = nd.kind ∧ (f nd).cutoff = nd.cutoff) :
    Fr K g { s with nodes := s.nodes.modify n f } := by
  refine ⟨fun m hm => ?_, fun m e => ?_, fun m => ?_, fun m hm => hn.fresh m (by simpa using hm)⟩
  · have hm' : m < s.nodes.size := by simpa using hm
    rw [nodeD_modify]
    split
    · rw [(hk _).1]; exact hn.kinds m hm'
    · exact hn.kinds m hm'
  · rw [nodeD_modify]
    split
    · rw [(hk _).1]; exact hn.noExp m e
    · exact hn.noExp m e
  · rw [nodeD_modify]
    split
    · rw [(hk _).1, (hk _).2]; exact hn.cut m
    · exact hn.cut m

theorem vm_modify (s : State) (n : Nat) (f : Node → Node)
    (hv : ∀ nd, (f nd).kind = nd.kind ∧ (f nd).cutoff = nd.cutoff ∧ (f nd).oldState = nd.oldState ∧
      (nd.valid = false → (f nd).valid = false) ∧ ((f nd).didChange = false → nd.didChange = false)) :
    VM s { s with nodes := s.nodes.modify n f } := by
  refine ⟨by simp, fun m h => ?_, fun m _ => ?_, fun m _ h => ?_, fun m h1 h2 => absurd h2 (by simp; omega)⟩
  · rw [nodeD_modify]
    split
    · exact (hv _).2.2.2.1 h
    · exact h
  · rw [nodeD_modify]
    split
    · exact ⟨(hv _).1, (hv _).2.1, (hv _).2.2.1⟩
    · exact ⟨rfl, rfl, rfl⟩
  · rw [nodeD_modify] at h
    split at h
    · exact (hv _).2.2.2.2 h
    · exact h

theorem virt_nodes_modify (g : Nat → Option Val) (s : State) (n : Nat) (f f' : Node → Node)
    (hf : ∀ gv nd, virtNode gv (f nd) = f' (virtNode gv nd)) :
    virt g { s with nodes := s.nodes.modify n f } = { virt g s with nodes := (virt g s).nodes.modify n f' } := by
  simp only [virt]
  congr 1
  apply Array.ext
  · simp
  · intro i h1 h2
    simp only [Array.getElem_mapIdx, Array.getElem_modify]
    split
    · rename_i e; subst e; exact hf _ _
    · rfl

/-- a commuting node update -/
theorem Sim.modNode (n : Nat) {f f' : Node → Node} (hf : ∀ gv nd, virtNode gv (f nd) = f' (virtNode gv nd))
    (hk : ∀ nd, (f nd).kind = nd.kind ∧ (f nd).cutoff = nd.cutoff ∧ (f nd).oldState = nd.oldState ∧
      (nd.valid = false → (f nd).valid = false) ∧ ((f nd).didChange = false → nd.didChange = false)) :
    Sim K g (Engine.modNode n f) (Engine.modNode n f') := by
  intro s hne r s' hr
  rw [run_modNode] at hr ⊢
  cases hr
  refine ⟨?_, fr_modify hne n f (fun nd => ⟨(hk nd).1, (hk nd).2.1⟩), vm_modify s n f hk⟩
  rw [virt_nodes_modify g s n f f' hf]

theorem Sim.forIn {γ : Type} (l : List γ) {f f' : γ → β → M (ForInStep β)} (h : ∀ a b, Sim K g (f a b) (f' a b))
    (b : β) : Sim K g (ForIn.forIn l b f) (ForIn.forIn l b f') := by
  induction l generalizing b with
  | nil => intro s; rw [List.forIn_nil, List.forIn_nil]; exact SimAt.ret _
  | cons a l ih =>
    intro s
    rw [List.forIn_cons, List.forIn_cons]
    refine SimAt.seq (h a b s) fun r s1 _ => ?_
    cases r with
    | done b' => exact SimAt.ret _
    | yield b' => exact ih b' s1

/-! ## the forward half of the rules with a changing ghost (for `FullT.BSimXAt`) -/

theorem SimXAt.thr (e : Panic) (x' : M α) : SimXAt K g s (throw e : M α) x' := (SimAt.thr e x').toX

theorem SimXAt.seq {x x' : M α} {f f' : α → M β} (hx : SimXAt K g s x x')
    (hf : ∀ a s1 g1, x.run.run s = (.ok a, s1) → SimXAt K g1 s1 (f a) (f' a)) :
    SimXAt K g s (x >>= f) (x' >>= f') := by
  intro hn r s' h
  obtain ⟨a, s1, h1, h2⟩ := bind_ok_inv h
  obtain ⟨g1, e1, n1, v1⟩ := hx hn a s1 h1
  rw [run_bind_ok e1]
  obtain ⟨g2, e2, n2, v2⟩ := hf a s1 g1 h1 n1 r s' h2
  exact ⟨g2, e2, n2, v1.trans v2⟩

theorem SimXAt.get_seq {k k' : State → M β} (h : SimXAt K g s (k s) (k' (virt g s))) :
    SimXAt K g s (get >>= k) (get >>= k') := by
  intro hn r s' hr
  rw [run_bind_get] at hr ⊢
  exact h hn r s' hr

theorem SimXAt.getNode_seq {n : Nat} {k k' : Node → M β}
    (h : ∀ nd, s.nodes[n]? = some nd → (∀ e, nd.kind ≠ .expert e) →
      SimXAt K g s (k nd) (k' (virtNode (g n) nd))) :
    SimXAt K g s (getNode n >>= k) (getNode n >>= k') := by
  intro hn r s' hr
  obtain ⟨nd, hnd, hr⟩ := bind_getNode_inv hr
  have hv : (virt g s).nodes[n]? = some (virtNode (g n) nd) := by rw [virt_getElem?, hnd]; rfl
  rw [run_bind_ok (run_getNode_some hv)]
  exact h nd hnd (hn.some hnd) hn r s' hr

theorem SimXAt.mod_seq {f f' : State → State} {k k' : Unit → M β} (h : virt g (f s) = f' (virt g s))
    (hn : (f s).nodes = s.nodes) (hk : SimXAt K g (f s) (k ()) (k' ())) :
    SimXAt K g s ((modify f : M Unit) >>= k) ((modify f' : M Unit) >>= k') := by
  intro hne r s' hr
  rw [run_bind_modify] at hr ⊢
  rw [← h]
  obtain ⟨g', e, n, v⟩ := hk (hne.of_nodes hn) r s' hr
  exact ⟨g', e, n, (GR.of_vm (VM.of_nodes hn)).trans v⟩

/-- the one place where the ghost changes: a node update that erases the stored value (of a node that will be invalid) is
matched by erasing the ghost; the relation `GR` is re-established by the caller once the node is invalid -/
theorem virt_erase (g : Nat → Option Val) (s : State) (n : Nat) (f f' : Node → Node)
    (hf : ∀ gv nd, virtNode none (f nd) = f' (virtNode gv nd)) :
    virt (fun m => if m = n then none else g m) { s with nodes := s.nodes.modify n f } =
      { virt g s with nodes := (virt g s).nodes.modify n f' } := by
  simp only [virt]
  congr 1
  apply Array.ext
  · simp
  · intro i h1 h2
    simp only [Array.getElem_mapIdx, Array.getElem_modify]
    by_cases e : n = i
    · subst e; simp only [if_true]; exact hf _ _
    · simp only [if_neg e, if_neg (fun h : i = n => e h.symm)]

end

/-! ## tactics -/

/-- normalise everything a model function reads of `virt g s` / `virtNode gv nd` -/
macro "fnorm" : tactic => `(tactic| simp only [virt_cfg, virt_binds, virt_experts, virt_observers, virt_ahh,
  virt_maxHeightSeen, virt_status, virt_currentScope, virt_propagateInvalidity, virt_handleAfterStab,
  virt_newObservers, virt_disallowedObservers, virt_allObservers, virt_setDuringStab, virt_deadVars, virt_counters,
  virt_panicCountdown, virt_alive, virt_top, virt_handles, virt_slots, virt_log, virt_memos, virt_perkeys, virt_nextToken,
  virt_nextDep, virt_currentlyRunning, virt_vars, virt_rch, virt_stabNum,
  virt_isNecessary, virt_isStale, virt_needsToBeComputed, virt_shouldBeInvalidated, virt_children, virt_size, virt_nodeD,
  virtNode_valid, virtNode_cutoff, virtNode_createdIn, virtNode_parents, virtNode_observers,
  virtNode_forceNecessary, virtNode_height, virtNode_heightInRch, virtNode_heightInAhh, virtNode_recomputedAt,
  virtNode_changedAt, virtNode_num, virtNode_inHas, virtNode_oldState, virtNode_isNecessary, virtNode_inRch])

/-- closes `∀ gv nd, virtNode gv (f nd) = f (virtNode gv nd)` for an `f` that does not touch `kind`, `value`, `didChange` -/
macro "fcomm" : tactic => `(tactic| (intro gv nd; rcases nd with ⟨k⟩; cases k <;> rfl))
/-- closes the side goal of `Sim.modNode` / `vm_modify`: `f` keeps `kind`, `cutoff`, `oldState`, does not revalidate, does not lower `didChange` -/
macro "fkind" : tactic => `(tactic| (intro nd; exact ⟨rfl, rfl, rfl, fun h => (by first | exact h | rfl), fun h => (by first | exact h | cases h)⟩))

section
variable {K : Kind → Prop} {g : Nat → Option Val}

theorem Sim.dassert (c : Bool) (site : String) : Sim K g (Engine.dassert c site) (Engine.dassert c site) := by
  intro s hn r s' h
  rw [run_dassert] at h ⊢
  by_cases hc : s.cfg.debug = true ∧ c = false
  · rw [if_pos hc] at h; cases h
  · rw [if_neg hc] at h; cases h; exact ⟨if_neg hc, hn, VM.refl _⟩

theorem Sim.assertM (c : Bool) (site : String) : Sim K g (Engine.assertM c site) (Engine.assertM c site) := by
  intro s hn r s' h
  rw [run_assertM] at h ⊢
  split at h
  · rename_i hc; cases h; rw [if_pos hc]; exact ⟨rfl, hn, VM.refl _⟩
  · cases h

end

/-! ## the instance of `NodeSim`

The carried invariant of a walk started in `s0` is `Fr K g t ∧ VM s0 t`. -/
section
variable {K : Kind → Prop} {g : Nat → Option Val}

/-- `virtNode`: the kind, the ghost value on `map_ref` nodes, the flag raised, the virtual cutoff -/
def rel (g : Nat → Option Val) : NodeSim.Relabel where
  kind := fun _ => virtKind
  value := fun i k v => match k with
    | .mapRef _ _ => g i
    | _ => v
  didChange := fun _ _ => true
  cutoff := virtCut
  recomputedAt := fun _ _ r => r
  experts := fun xs => xs
  log := fun l => l

theorem virtNode_eq (g : Nat → Option Val) (xs : NodeSim.Ctx) (i : Nat) (nd : Node) :
    virtNode (g i) nd = (rel g).node xs i nd := by
  rcases nd with ⟨k⟩
  cases k <;> rfl

theorem virt_eq (g : Nat → Option Val) (s : State) : virt g s = (rel g).app s := by
  unfold virt
  simp only [virtNode_eq g (NodeSim.ctx s)]
  rfl

theorem blind (s0 : State) : NodeSim.Blind (rel g) (fun t => Fr K g t ∧ VM s0 t) where
  default _ _ := rfl
  kind _ k := by
    cases k
    case mapRef p i => exact Or.inr (Or.inl ⟨_, _, rfl, Or.inl ⟨_, rfl⟩⟩)
    case mapWithOld m i => exact Or.inr (Or.inl ⟨_, _, rfl, Or.inr ⟨_, rfl⟩⟩)
    all_goals exact Or.inl rfl
  children s m := by rw [← virt_eq]; exact virt_children g s m
  isStale s m := by rw [← virt_eq]; exact virt_isStale g s m
  tick _ := NodeSim.Comm.tick_of fun _ h => ⟨h.1.of_nodes rfl, h.2.trans (VM.of_nodes rfl)⟩
  of_nodes h e1 _ _ _ _ := ⟨h.1.of_nodes e1, h.2.trans (VM.of_nodes e1)⟩
  modify n f h hk := ⟨fr_modify h.1 n f fun nd => ⟨(hk nd).1, (hk nd).2.2.1⟩,
    h.2.trans (vm_modify _ n f fun nd => ⟨(hk nd).1, (hk nd).2.2.1, (hk nd).2.2.2.1, fun hv => by rw [(hk nd).2.1]; exact hv,
      fun hd => by rw [← (hk nd).2.2.2.2.1]; exact hd⟩)⟩
  rmParent c _ h := ⟨fr_modify h.1 c _ fun _ => ⟨rfl, rfl⟩,
    h.2.trans (vm_modify _ c _ fun _ => ⟨rfl, rfl, rfl, fun hv => hv, fun hd => hd⟩)⟩
  invalid h _ _ _ := ⟨h.1.of_nodes rfl, h.2.trans (VM.of_nodes rfl)⟩

theorem addsParents (s0 : State) : NodeSim.AddsParents (fun t => Fr K g t ∧ VM s0 t) := fun c _ h =>
  ⟨fr_modify h.1 c _ fun _ => ⟨rfl, rfl⟩, h.2.trans (vm_modify _ c _ fun _ => ⟨rfl, rfl, rfl, fun hv => hv, fun hd => hd⟩)⟩

theorem writesBinds (s0 : State) : NodeSim.WritesBinds (fun t => Fr K g t ∧ VM s0 t) := fun _ _ h =>
  ⟨h.1.of_nodes rfl, h.2.trans (VM.of_nodes rfl)⟩

theorem noExp (s0 : State) : NodeSim.NoExp (fun t => Fr K g t ∧ VM s0 t) := fun h hn => h.1.some hn

theorem obsWork {E : Panic → Prop} (s0 : State) : NodeSim.ObsWork E (fun _ : Unit => rel g) fun _ t => Fr K g t ∧ VM s0 t :=
  .of_noExp (noExp s0)

theorem expWork {E : Panic → Prop} {env env' : Env} (s0 : State) :
    NodeSim.ExpWork E (fun _ : Unit => rel g) (fun _ t => Fr K g t ∧ VM s0 t) env env' :=
  .of_noExp (noExp s0) env env'

theorem plain (g : Nat → Option Val) : NodeSim.Plain (rel g) := ⟨fun _ _ => rfl, fun _ => rfl, fun _ => rfl⟩

theorem writesExperts (s0 : State) : NodeSim.WritesExperts (fun t => Fr K g t ∧ VM s0 t) := fun _ _ h =>
  ⟨h.1.of_nodes rfl, h.2.trans (VM.of_nodes rfl)⟩

variable {s : State} {α : Type}

/-- `SimAt K g s` is the simulation from `s` that need not reproduce any panic -/
theorem SimAt.of_comm {x x' : M α} (h : NodeSim.CommAt (fun _ => False) (rel g).app (fun t => Fr K g t ∧ VM s t) s x x') :
    SimAt K g s x x' := by
  intro hn r s' hr
  rw [virt_eq, virt_eq]
  obtain ⟨e, h1, h2⟩ := h.fwd ⟨hn, VM.refl s⟩ hr
  exact ⟨e, h1, h2⟩

theorem Sim.of_comm {x x' : M α}
    (h : ∀ s0, NodeSim.Comm (fun _ => False) (rel g).app (fun t => Fr K g t ∧ VM s0 t) x x') : Sim K g x x' :=
  fun s => .of_comm (h s s)

theorem Sim.comm {x x' : M α} (h : Sim K g x x') (s0 : State) :
    NodeSim.Comm (fun _ => False) (rel g).app (fun t => Fr K g t ∧ VM s0 t) x x' := fun s =>
  NodeSim.CommAt.fwd_iff.2 fun hI a s' hr => by
    obtain ⟨e, h1, h2⟩ := h s hI.1 a s' hr
    rw [virt_eq, virt_eq] at e
    exact ⟨e, h1, hI.2.trans h2⟩

/-! ### a changing ghost: the family `rel g`

A walk that starts in `(g0, s0)` carries `Fr K g t ∧ GR g0 g s0 t`. -/

/-- the invariant carried from `(g0, s0)` when the ghost may change -/
def IX (K : Kind → Prop) (g0 : Nat → Option Val) (s0 : State) (g : Nat → Option Val) (t : State) : Prop :=
  Fr K g t ∧ GR g0 g s0 t

variable {g0 : Nat → Option Val} {s0 : State}

/-- what is kept from `t` on, with the ghost unchanged, is kept from `(g0, s0)` on -/
theorem IX.lift {t t' : State} (hI : IX K g0 s0 g t) (h : Fr K g t' ∧ VM t t') : IX K g0 s0 g t' :=
  ⟨h.1, hI.2.trans (GR.of_vm h.2)⟩

theorem IX.start (h : IX K g0 s0 g s) : Fr K g s ∧ VM s s := ⟨h.1, VM.refl s⟩

theorem blindX : NodeSim.Blind (rel g) (IX K g0 s0 g) where
  default := (blind (K := K) s0).default
  kind := (blind (K := K) s0).kind
  children := (blind (K := K) s0).children
  isStale := (blind (K := K) s0).isStale
  tick _ := NodeSim.Comm.tick_of fun _ h => h.lift ⟨h.1.of_nodes rfl, VM.of_nodes rfl⟩
  of_nodes h e1 e2 e3 e4 e5 := h.lift ((blind _).of_nodes h.start e1 e2 e3 e4 e5)
  modify n f h hk := h.lift ((blind _).modify n f h.start hk)
  rmParent c k h := h.lift ((blind _).rmParent c k h.start)
  invalid h hn hv l := h.lift ((blind _).invalid h.start hn hv l)

theorem addsParentsX : NodeSim.AddsParents (IX K g0 s0 g) := fun c e h => h.lift (addsParents _ c e h.start)

theorem writesBindsX : NodeSim.WritesBinds (IX K g0 s0 g) := fun b f h => h.lift (writesBinds _ b f h.start)

theorem changesNecessityX : NodeSim.ChangesNecessity (IX K g0 s0 g) := fun n f h hk =>
  h.lift ⟨fr_modify h.1 n f fun nd => ⟨(hk nd).1, (hk nd).2.2.1⟩,
    vm_modify _ n f fun nd => ⟨(hk nd).1, (hk nd).2.2.1, (hk nd).2.2.2.1, fun hv => by rw [(hk nd).2.1]; exact hv,
      fun hd => by rw [← (hk nd).2.2.2.2.1]; exact hd⟩⟩

theorem writesExpertsX : NodeSim.WritesExperts (IX K g0 s0 g) := fun e f h => h.lift (writesExperts _ e f h.start)

theorem noExpX : NodeSim.NoExp (IX K g0 s0 g) := fun h hn => h.1.some hn

theorem obsWorkX {E : Panic → Prop} : NodeSim.ObsWork E (fun g => rel g) (IX K g0 s0) := .of_noExp noExpX

theorem app_shouldBeInvalidated (g : Nat → Option Val) (s : State) (n : Nat) :
    ((rel g).app s).shouldBeInvalidated n = s.shouldBeInvalidated n := by
  rw [← virt_eq]; exact virt_shouldBeInvalidated g s n

theorem rel_kind (g : Nat → Option Val) (xs : NodeSim.Ctx) (k : Kind) : (rel g).kind xs k = virtKind k := rfl

theorem expWorkX {E : Panic → Prop} {env env' : Env} :
    NodeSim.ExpWork E (fun g => rel g) (IX K g0 s0) env env' := .of_noExp noExpX env env'

variable {s : State} {α : Type}

/-- `SimXAt` is the simulation over the family that need not reproduce any panic -/
theorem SimXAt.of_commX {x x' : M α}
    (h : NodeSim.CommXAt (fun _ => False) (fun g => (rel g).app) (IX K g s) g s x x') : SimXAt K g s x x' := by
  intro hn r s' hr
  obtain ⟨g', e, h1, h2⟩ := NodeSim.CommXAt.fwd_iff.1 h ⟨hn, GR.refl g s⟩ r s' hr
  exact ⟨g', by rw [virt_eq, virt_eq]; exact e, h1, h2⟩

theorem SimXAt.commX {x x' : M α} (h : SimXAt K g s x x') (g0 : Nat → Option Val) (s0 : State) :
    NodeSim.CommXAt (fun _ => False) (fun g => (rel g).app) (IX K g0 s0) g s x x' :=
  NodeSim.CommXAt.fwd_iff.2 fun hI a s' hr => by
    obtain ⟨g', e, h1, h2⟩ := h hI.1 a s' hr
    exact ⟨g', by rw [← virt_eq, ← virt_eq]; exact e, h1, hI.2.trans h2⟩

/-- a simulation from `s` with the ghost unchanged, in a walk from `(g0, s0)` -/
theorem commAt_IX {x x' : M α}
    (h : NodeSim.CommAt (fun _ => False) (rel g).app (fun t => Fr K g t ∧ VM s t) s x x') :
    NodeSim.CommAt (fun _ => False) (rel g).app (IX K g0 s0 g) s x x' :=
  NodeSim.CommAt.fwd_iff.2 fun hI _ _ hr => by
    obtain ⟨e, h1⟩ := h.fwd hI.start hr
    exact ⟨e, hI.lift h1⟩

theorem SimAt.commIX {x x' : M α} (h : SimAt K g s x x') :
    NodeSim.CommAt (fun _ => False) (rel g).app (IX K g0 s0 g) s x x' :=
  NodeSim.CommAt.fwd_iff.2 fun hI a s' hr => by
    obtain ⟨e, h1, h2⟩ := h hI.1 a s' hr
    rw [virt_eq, virt_eq] at e
    exact ⟨e, hI.lift ⟨h1, h2⟩⟩

theorem SimX.commX {x x' : M α} (h : SimX K x x') (g0 : Nat → Option Val) (s0 : State) :
    NodeSim.CommX (fun _ => False) (fun g => (rel g).app) (IX K g0 s0) x x' := fun g s => (h g s).commX g0 s0

theorem Sim.commX {x x' : M α} (h : ∀ g, Sim K g x x') (g0 : Nat → Option Val) (s0 : State) :
    NodeSim.CommX (fun _ => False) (fun g => (rel g).app) (IX K g0 s0) x x' := fun g s => ((h g s).toX).commX g0 s0

end
end IncrVerif.Proofs.FullH
