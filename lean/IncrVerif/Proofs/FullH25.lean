import IncrVerif.Proofs.FullH24
/-!
# Only the node that runs gets a new stored value: `recomputeOne`

`Step.Pres (NVn n) f` for the functions reachable from `recomputeOne env fuel n` — for EVERY kind of node
(also expert nodes, per-key drivers, memoised calls, arbitrary effect lists): none of them writes a stored
value other than `none`, except `maybeChangeValue env fuel n _` / the `map_with_old` branch, which write node `n`.
-/
namespace IncrVerif.Proofs.FullH
open IncrVerif.Engine IncrVerif.Proofs IncrVerif.Proofs.Step IncrVerif.Proofs.Footprint

namespace PresNV
variable {n : Nat}

theorem elabInstr (loc v i) : Pres (NVn n) (elabInstr loc v i) := NVn.of_foot (Foot.elabInstr loc v i)
theorem didSetVarWhileNotStabilising (v) : Pres (NVn n) (didSetVarWhileNotStabilising v) :=
  NVn.of_foot (Foot.didSetVarWhileNotStabilising v)
theorem writeVar (v f b) : Pres (NVn n) (writeVar v f b) := NVn.of_foot (Foot.writeVar v f b)
theorem parentIterCanRecomputeNow (p c) : Pres (NVn n) (parentIterCanRecomputeNow p c) :=
  NVn.of_foot (Foot.parentIterCanRecomputeNow p c)
/-- on the SAME node `n` as the index of the relation: it writes `n`'s stored value -/
theorem maybeChangeValue (env fuel v) : Pres (NVn n) (maybeChangeValue env fuel n v) :=
  NVn.of_foot (Foot.maybeChangeValue env fuel n v)
theorem recomputeOne (env fuel) : Pres (NVn n) (recomputeOne env fuel n) :=
  NVn.of_foot (Foot.recomputeOne env fuel n)

end PresNV

theorem recomputeOne_nv (env : Env) (fuel n : Nat) (s s' : State) (r : Option Nat)
    (h : (recomputeOne env fuel n).run.run s = (.ok r, s')) : NVn n s s' :=
  (PresNV.recomputeOne env fuel).h s (.ok r) s' h

end IncrVerif.Proofs.FullH
