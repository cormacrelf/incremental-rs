import IncrVerif.Proofs.ExpertH44
import IncrVerif.Proofs.ExpertLemmas
/-!
# Expert nodes, `add_dependency`: the bookkeeping step, read in the virtual state

* `addedState e er c cb s`: `s` after `nextDep` was bumped and the new edge appended to record `e` (with `forceStale`).
* `rekind_added`: in the virtual state this is a `Rekind` of the expert's node.
* `XFrag.added`, `allStatic_virt`, `rankOK_of_allStatic`.
* `expertAddDependency_necessary_factor`: on a necessary expert node the call continues, from `addedState`, with
  `stateAddParent`, the `needs-to-be-computed` assertion and the heap insertion.
-/
namespace IncrVerif.Proofs.ExpertH
open IncrVerif.Engine IncrVerif.Driver IncrVerif.Proofs IncrVerif.Proofs.Step IncrVerif.Proofs.Sched
open IncrVerif.Proofs.ExpertH.QR IncrVerif.Proofs.Xp

/-- `s` after the bookkeeping of `expert_add_dependency` on record `e` (which is `er`) -/
def addedState (e : Nat) (er : ExpertRec) (c : Nat) (cb : Bool) (s : State) : State :=
  putExpert e { er with children := er.children ++ [newEdge s c cb], forceStale := true } (bumpDep s)

/-- the virtual node only depends on the record its kind names -/
theorem virtNode_congrD {xs xs' : Array ExpertRec} {nd : Node}
    (h : ∀ e, nd.kind = .expert e → xRec xs' e = xRec xs e) : virtNode xs' nd = virtNode xs nd := by
  have h1 : virtKind xs' nd.kind = virtKind xs nd.kind := by
    cases hk : nd.kind <;> simp only [virtKind]
    rw [h _ hk]
  have h2 : forced xs' nd.kind = forced xs nd.kind := by
    cases hk : nd.kind <;> simp only [forced]
    rw [h _ hk]
  unfold virtNode
  rw [h1, h2]

section
variable {env : Env} {s : State} {n e c : Nat} {nd : Node} {er : ExpertRec} {cb : Bool}

theorem addedState_nodeD (m : Nat) : (addedState e er c cb s).nodeD m = s.nodeD m := rfl
theorem addedState_nodes : (addedState e er c cb s).nodes = s.nodes := rfl

theorem addedState_get (hx : s.experts[e]? = some er) :
    (addedState e er c cb s).experts[e]? =
      some { er with children := er.children ++ [newEdge s c cb], forceStale := true } :=
  putExpert_get (s := bumpDep s) _ hx

theorem addedState_get_ne {e' : Nat} (h : e' ≠ e) : (addedState e er c cb s).experts[e']? = s.experts[e']? :=
  putExpert_get_ne _ _ (Ne.symm h)

theorem addedState_xRec_ne {e' : Nat} (h : e' ≠ e) : xRec (addedState e er c cb s).experts e' = xRec s.experts e' := by
  unfold xRec; rw [addedState_get_ne h]

theorem addedState_xRec (hx : s.experts[e]? = some er) :
    xRec (addedState e er c cb s).experts e =
      { er with children := er.children ++ [newEdge s c cb], forceStale := true } :=
  xRec_some (addedState_get hx)

/-- the virtual kind of the expert node after the edge was added -/
def addedKind (er : ExpertRec) (c : Nat) : Kind :=
  .fold (xBase + er.f) (.int 0) (er.children.map (·.child) ++ [c])

theorem XFrag.lt_of_expert (_F : XFrag env s) (hk : (s.nodeD n).kind = .expert e) : n < s.nodes.size := by
  by_cases h : n < s.nodes.size
  · exact h
  · rw [nodeD_default_of_ge s n (by omega)] at hk; cases hk

/-- **the bookkeeping step is a kind change of the virtual node** -/
theorem rekind_added (F : XFrag env s) (hk : (s.nodeD n).kind = .expert e) (hx : s.experts[e]? = some er) :
    Rekind n (addedKind er c) (virt s) (virt (addedState e er c cb s)) := by
  have hlt := F.lt_of_expert hk
  refine ⟨by rw [virt_size]; exact hlt, by rw [virt_size, virt_size]; rfl, rfl, rfl, rfl, rfl, rfl, ?_, ?_⟩
  · intro m hm
    rw [virt_nodeD, virt_nodeD, addedState_nodeD]
    apply virtNode_congrD
    intro e' he'
    have : e' ≠ e := by
      intro h; rw [h] at he'; exact hm (F.xinj he' hk)
    exact addedState_xRec_ne this
  · rw [virt_nodeD, virt_nodeD, addedState_nodeD]
    unfold virtNode
    simp only [hk, virtKind, forced, addedState_xRec hx, addedKind, List.map_append, List.map_cons, List.map_nil,
      newEdge, if_true]

theorem XFrag.added (F : XFrag env s) (hx : s.experts[e]? = some er) : XFrag env (addedState e er c cb s) where
  pc := F.pc
  kind := F.kind
  valid := F.valid
  xrec m e' hm hk' := by
    obtain ⟨er', h1, h2⟩ := F.xrec m e' hm hk'
    by_cases h : e' = e
    · subst h
      rw [hx] at h1; cases h1
      exact ⟨_, addedState_get hx, h2⟩
    · exact ⟨er', by rw [addedState_get_ne h]; exact h1, h2⟩
  xok e' er' h' := by
    by_cases h : e' = e
    · subst h
      rw [addedState_get hx] at h'; cases h'
      exact F.xok e' er hx
    · rw [addedState_get_ne h] at h'; exact F.xok e' er' h'

end

/-! ## ranks and the virtual fragment -/

section
variable {env : Env} {rk : Nat → Nat} {s : State}

/-- the rank of the virtual state is a rank of the actual graph -/
theorem rankOK_of_allStatic (A : AllStatic (virtEnv env) rk (virt s)) : RankOK rk s where
  kidsLt m hm c hc := by
    have := (A.node m (by rw [virt_size]; exact hm)).kidsLt c (by rw [virt_kids]; exact hc)
    exact this
  kidsIn m hm c hc := by
    have := (A.node m (by rw [virt_size]; exact hm)).kidsIn c (by rw [virt_kids]; exact hc)
    rwa [virt_size] at this
  inj := A.inj
  top := by have := A.top; rwa [virt_size] at this

/-- the static facts of the nodes that do not depend on kinds and ranks -/
def PlainNodes (s : State) : Prop :=
  s.currentScope = .top ∧ ∀ m, m < s.nodes.size →
    (s.nodeD m).cutoff = .eq ∧ (s.nodeD m).createdIn = .top ∧ (s.nodeD m).forceNecessary = false

theorem plainNodes_of_allStatic (A : AllStatic (virtEnv env) rk (virt s)) : PlainNodes s := by
  refine ⟨A.scope, fun m hm => ?_⟩
  have sn := A.node m (by rw [virt_size]; exact hm)
  have h1 := sn.cutoff; have h2 := sn.top; have h3 := sn.force
  rw [virt_nodeD] at h1 h2 h3
  exact ⟨h1, h2, h3⟩

theorem allStatic_virt (F : XFrag env s) (R : RankOK rk s) (P : PlainNodes s) :
    AllStatic (virtEnv env) rk (virt s) where
  pc := F.pc
  scope := P.1
  node m hm := by
    rw [virt_size] at hm
    obtain ⟨h1, h2, h3⟩ := P.2 m hm
    refine ⟨by rw [virt_nodeD]; exact F.valid m hm, by rw [virt_nodeD]; exact staticKind_virt (F.kind m hm),
      by rw [virt_nodeD]; exact h1, by rw [virt_nodeD]; exact h2, by rw [virt_nodeD]; exact h3, ?_, ?_⟩
    · intro c hc; rw [virt_kids] at hc; exact R.kidsLt m hm c hc
    · intro c hc; rw [virt_kids] at hc; rw [virt_size]; exact R.kidsIn m hm c hc
  inj := R.inj
  top := by rw [virt_size]; exact R.top

end

/-! ## the call on a necessary node -/

/-- on a necessary expert node the call continues from `addedState` -/
theorem expertAddDependency_necessary_factor (env : Env) (fuel n child : Nat) (cb : Bool) {s : State}
    {nd : Node} {e : Nat} {er : ExpertRec} (hx : IsExpert s n nd e er) (hnec : nd.isNecessary = true) :
    (expertAddDependency env fuel n child cb).run.run s =
      (do stateAddParent env fuel child er.children.length n
          dassert ((← get).needsToBeComputed n) "node:expert_add_dependency:needs-to-be-computed"
          if !(← getNode n).inRch then rchInsert n
          pure s.nextDep : M Nat).run.run (addedState e er child cb s) := by
  unfold expertAddDependency
  rw [run_bind_get, run_bind_modify]
  have hx' : IsExpert { s with nextDep := s.nextDep + 1 } n nd e er := ⟨hx.node, hx.valid, hx.kind, hx.xrec⟩
  rw [run_bind_ok hx'.run_expertOf]
  simp only
  rw [run_bind_ok (run_getExpert_some hx'.xrec), run_bind_ok (run_modExpert_some _ hx'.xrec), run_bind_get]
  have hn : (putExpert e { er with
      children := er.children ++ [{ dep := s.nextDep, child := child, cb := if cb = true then some s.nextDep else none }],
      forceStale := true } { s with nextDep := s.nextDep + 1 }).isNecessary n = true := by
    simp [State.isNecessary, State.nodeD, hx.node, hnec]
  rw [hn]
  rfl

end IncrVerif.Proofs.ExpertH
