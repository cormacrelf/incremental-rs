import IncrVerif.Proofs.Subs16
import IncrVerif.Proofs.TidyH9
/-!
# Faults in whole histories, part 0: the armed fault commutes with everything but `tick`

`setCd c s` is `s` with the fault countdown set to `c`.  `Comm x`: WHATEVER the outcome of the run of `x` from a state
`s` of the fragment (`Fr s`: every node valid, neither expert nor map_ref, no closure cutoff, nothing to invalidate), the
run from `setCd c s` has the same outcome and ends in `setCd c` of the final state, and the run logs nothing.  The only
function of the model that reads or writes `panicCountdown` is `tick`; in the fragment the functions proved `Comm` here
never reach it.
-/
namespace IncrVerif.Proofs.FaultH
open IncrVerif.Engine IncrVerif.Proofs IncrVerif.Proofs.Step IncrVerif.Proofs.Sched

/-- set the fault countdown -/
@[reducible] def setCd (c : Option Nat) (s : State) : State := { s with panicCountdown := c }

theorem setCd_self {s : State} {c : Option Nat} (h : s.panicCountdown = c) : setCd c s = s := by
  cases s; simp only [setCd] at h ⊢; subst h; rfl

theorem setCd_setCd (c d : Option Nat) (s : State) : setCd c (setCd d s) = setCd c s := rfl

/-- what the commutation needs to know of the state all along -/
structure Fr (env : Env) (s : State) : Prop where
  kind : ∀ n, StaticKind env (s.nodeD n).kind
  noExp : ∀ n e, (s.nodeD n).kind ≠ .expert e
  valid : ∀ n, (s.nodeD n).valid = true
  pinv : s.propagateInvalidity = []
  noRef : ∀ n p i, (s.nodeD n).kind ≠ .mapRef p i
  cut : ∀ n c, (s.nodeD n).cutoff ≠ .fn c ∧ (s.nodeD n).cutoff ≠ .boxed c

variable {env : Env}

theorem Fr.of_nodes {s s' : State} (h : Fr env s) (e : s'.nodes = s.nodes)
    (e2 : s'.propagateInvalidity = s.propagateInvalidity) : Fr env s' := by
  have hn : ∀ n, s'.nodeD n = s.nodeD n := fun n => by simp [State.nodeD, e]
  exact ⟨fun n => by rw [hn]; exact h.kind n, fun n x => by rw [hn]; exact h.noExp n x, fun n => by rw [hn]; exact h.valid n, by rw [e2]; exact h.pinv,
    fun n p i => by rw [hn]; exact h.noRef n p i, fun n c => by rw [hn]; exact h.cut n c⟩

theorem Fr.setCd {s : State} (h : Fr env s) (c : Option Nat) : Fr env (setCd c s) := h.of_nodes rfl rfl

theorem Fr.some {s : State} (h : Fr env s) {n : Nat} {nd : Node} (hn : s.nodes[n]? = some nd) :
    (∀ e, nd.kind ≠ .expert e) ∧ (∀ p i, nd.kind ≠ .mapRef p i) ∧ nd.valid = true ∧
      (∀ c, nd.cutoff ≠ .fn c ∧ nd.cutoff ≠ .boxed c) := by
  have h1 := h.noExp n; have h2 := h.valid n; have h3 := h.noRef n; have h4 := h.cut n
  rw [nodeD_of_some hn] at h1 h2 h3 h4; exact ⟨h1, h3, h2, h4⟩

theorem fr_modify {s : State} (h : Fr env s) (n : Nat) (f : Node → Node)
    (hk : ∀ nd, (f nd).kind = nd.kind ∧ (f nd).valid = nd.valid ∧ (f nd).cutoff = nd.cutoff) :
    Fr env ({ s with nodes := s.nodes.modify n f } : State) := by
  have hn : ∀ m, (({ s with nodes := s.nodes.modify n f } : State).nodeD m).kind = (s.nodeD m).kind ∧
      (({ s with nodes := s.nodes.modify n f } : State).nodeD m).valid = (s.nodeD m).valid ∧
      (({ s with nodes := s.nodes.modify n f } : State).nodeD m).cutoff = (s.nodeD m).cutoff := by
    intro m
    rw [nodeD_modify]
    split
    · exact hk _
    · exact ⟨rfl, rfl, rfl⟩
  exact ⟨fun m => by rw [(hn m).1]; exact h.kind m, fun m e => by rw [(hn m).1]; exact h.noExp m e, fun m => by rw [(hn m).2.1]; exact h.valid m, h.pinv,
    fun m p i => by rw [(hn m).1]; exact h.noRef m p i, fun m c => by rw [(hn m).2.2]; exact h.cut m c⟩

/-- the run of `x` from `s` is matched, outcome and state, by the run with the countdown set to `c`; it logs nothing -/
def CommAt (env : Env) (c : Option Nat) (s : State) {α} (x : M α) : Prop :=
  Fr env s → ∀ (r : Except Panic α) s', x.run.run s = (r, s') →
    x.run.run (setCd c s) = (r, setCd c s') ∧ Fr env s' ∧ s'.log = s.log

def Comm (env : Env) {α} (x : M α) : Prop := ∀ c s, CommAt env c s x

section
variable {c : Option Nat} {s : State} {α β : Type}

theorem run_bind_err {x : M α} {f : α → M β} {e : Panic} {s1 : State} (h : x.run.run s = (.error e, s1)) :
    (x >>= f).run.run s = (.error e, s1) := NodeSim.run_bind_err h

theorem Comm.at {x : M α} (h : Comm env x) (c : Option Nat) (s : State) : CommAt env c s x := h c s

theorem CommAt.ret (a : α) : CommAt env c s (pure a : M α) := by
  intro hn r s' h; rw [run_pure] at h; cases h; exact ⟨rfl, hn, rfl⟩

theorem CommAt.thr (e : Panic) : CommAt env c s (throw e : M α) := by
  intro hn r s' h; rw [run_throw] at h; cases h; exact ⟨rfl, hn, rfl⟩

theorem CommAt.pan (e : String) : CommAt env c s (Engine.panic e : M α) := CommAt.thr _

theorem CommAt.seq {x : M α} {f : α → M β} (hx : CommAt env c s x)
    (hf : ∀ a s1, x.run.run s = (.ok a, s1) → CommAt env c s1 (f a)) :
    CommAt env c s (x >>= f) := by
  intro hn r s' h
  rcases h1 : x.run.run s with ⟨a | a, s1⟩
  · obtain ⟨e1, n1, l1⟩ := hx hn _ s1 h1
    rw [run_bind_err h1] at h; cases h
    exact ⟨run_bind_err e1, n1, l1⟩
  · obtain ⟨e1, n1, l1⟩ := hx hn _ s1 h1
    rw [run_bind_ok h1] at h; rw [run_bind_ok e1]
    obtain ⟨e2, n2, l2⟩ := hf a s1 h1 n1 r s' h
    exact ⟨e2, n2, l2.trans l1⟩

/-- `get`: the continuation must not look at the countdown -/
theorem CommAt.get_seq {k : State → M β} (hk : k (setCd c s) = k s) (h : CommAt env c s (k s)) :
    CommAt env c s (get >>= k) := by
  intro hn r s' hr
  rw [run_bind_get] at hr ⊢
  rw [hk]
  exact h hn r s' hr

theorem run_getNode_none {n : Nat} (h : s.nodes[n]? = none) :
    (getNode n).run.run s = (.error (.site "model:no-such-node"), s) := NodeSim.run_getNode_none h

theorem CommAt.getNode_seq {n : Nat} {k : Node → M β}
    (h : ∀ nd, s.nodes[n]? = some nd → (∀ e, nd.kind ≠ .expert e) → (∀ p i, nd.kind ≠ .mapRef p i) →
      nd.valid = true → (∀ c, nd.cutoff ≠ .fn c ∧ nd.cutoff ≠ .boxed c) → CommAt env c s (k nd)) :
    CommAt env c s (getNode n >>= k) := by
  intro hn r s' hr
  cases hnd : s.nodes[n]? with
  | none =>
    have hv : (setCd c s).nodes[n]? = none := hnd
    rw [run_bind_err (run_getNode_none hnd)] at hr
    cases hr
    exact ⟨run_bind_err (run_getNode_none hv), hn, rfl⟩
  | some nd =>
    have hv : (setCd c s).nodes[n]? = some nd := hnd
    rw [run_bind_ok (run_getNode_some hnd)] at hr
    rw [run_bind_ok (run_getNode_some hv)]
    exact h nd hnd (hn.some hnd).1 (hn.some hnd).2.1 (hn.some hnd).2.2.1 (hn.some hnd).2.2.2 hn r s' hr

theorem CommAt.mod {f : State → State} (h : setCd c (f s) = f (setCd c s)) (hn : (f s).nodes = s.nodes)
    (hp : (f s).propagateInvalidity = s.propagateInvalidity) (hl : (f s).log = s.log) :
    CommAt env c s (modify f : M Unit) := by
  intro hne r s' hr; rw [run_modify] at hr ⊢; cases hr; rw [h]; exact ⟨rfl, hne.of_nodes hn hp, hl⟩

theorem CommAt.mod_seq {f : State → State} {k : Unit → M β} (h : setCd c (f s) = f (setCd c s))
    (hn : (f s).nodes = s.nodes) (hp : (f s).propagateInvalidity = s.propagateInvalidity)
    (hl : (f s).log = s.log) (hk : CommAt env c (f s) (k ())) :
    CommAt env c s ((modify f : M Unit) >>= k) := by
  intro hne r s' hr
  rw [run_bind_modify] at hr ⊢
  rw [← h]
  obtain ⟨e2, n2, l2⟩ := hk (hne.of_nodes hn hp) r s' hr
  exact ⟨e2, n2, l2.trans hl⟩

theorem CommAt.cond {p : Prop} {_ : Decidable p} {a b : M α}
    (ha : p → CommAt env c s a) (hb : ¬ p → CommAt env c s b) :
    CommAt env c s (if p then a else b) := by
  by_cases h : p
  · rw [if_pos h]; exact ha h
  · rw [if_neg h]; exact hb h

/-- a node update that keeps kind, validity and cutoff -/
theorem Comm.modNode (n : Nat) {f : Node → Node}
    (hk : ∀ nd, (f nd).kind = nd.kind ∧ (f nd).valid = nd.valid ∧ (f nd).cutoff = nd.cutoff) :
    Comm env (Engine.modNode n f) := by
  intro c s hne r s' hr
  rw [run_modNode] at hr ⊢
  cases hr
  exact ⟨rfl, fr_modify hne n f hk, rfl⟩

theorem Comm.forIn {γ : Type} (l : List γ) {f : γ → β → M (ForInStep β)} (h : ∀ a b, Comm env (f a b))
    (b : β) : Comm env (ForIn.forIn l b f) := by
  induction l generalizing b with
  | nil => intro c s; rw [List.forIn_nil]; exact CommAt.ret _
  | cons a l ih =>
    intro c s
    rw [List.forIn_cons]
    refine CommAt.seq (h a b c s) fun r s1 _ => ?_
    cases r with
    | done b' => exact CommAt.ret _
    | yield b' => exact ih b' c s1

theorem Comm.mapM {γ : Type} {f : γ → M β} (h : ∀ a, Comm env (f a)) (l : List γ) : Comm env (l.mapM f) := by
  induction l with
  | nil => intro c s; rw [List.mapM_nil]; exact CommAt.ret _
  | cons a l ih =>
    intro c s
    rw [List.mapM_cons]
    exact CommAt.seq (h a c s) fun _ s1 _ => CommAt.seq (ih c s1) fun _ _ _ => CommAt.ret _

theorem Comm.dassert (b : Bool) (site : String) : Comm env (Engine.dassert b site) := by
  intro c s hn r s' h
  rw [run_dassert] at h ⊢
  by_cases hc : s.cfg.debug = true ∧ b = false
  · rw [if_pos hc] at h; cases h; exact ⟨if_pos hc, hn, rfl⟩
  · rw [if_neg hc] at h; cases h; exact ⟨if_neg hc, hn, rfl⟩

theorem Comm.assertM (b : Bool) (site : String) : Comm env (Engine.assertM b site) := by
  intro c s hn r s' h
  rw [run_assertM] at h ⊢
  split at h
  · rename_i hc; cases h; rw [if_pos hc]; exact ⟨rfl, hn, rfl⟩
  · rename_i hc; cases h; rw [if_neg hc]; exact ⟨rfl, hn, rfl⟩

theorem CommAt.map {x : M α} (f : α → β) (hx : CommAt env c s x) : CommAt env c s (f <$> x) := by
  rw [map_eq_pure_bind]
  exact CommAt.seq hx fun _ _ _ => CommAt.ret _

theorem CommAt.discard {x : M α} (hx : CommAt env c s x) : CommAt env c s (discard x) := by
  unfold Functor.discard
  exact CommAt.map (Function.const α PUnit.unit) hx

end

/-! ## the tactics -/

/-- how to show that the continuation of a `get` does not look at the countdown (extended by `macro_rules`) -/
syntax "csim_get" : tactic
macro_rules | `(tactic| csim_get) => `(tactic| first | with_reducible rfl | rfl)

/-- registered `Comm` lemmas -/
syntax "csim_leaf" : tactic
macro_rules | `(tactic| csim_leaf) => `(tactic| fail "no leaf")

set_option hygiene false in
macro "csim_step" : tactic => `(tactic| first
  | with_reducible exact CommAt.ret _
  | with_reducible exact CommAt.thr _
  | with_reducible exact CommAt.pan _
  | ((with_reducible refine CommAt.get_seq ?hk ?_); (case hk => csim_get); try dsimp only)
  | ((with_reducible refine CommAt.getNode_seq fun nd hnd hne hnr hval hcut => ?_); try dsimp only)
  | ((with_reducible refine CommAt.mod_seq ?_ ?_ ?_ ?_ ?_) <;> (first | exact rfl | skip))
  | ((with_reducible refine CommAt.mod ?_ ?_ ?_ ?_) <;> rfl)
  | (with_reducible refine CommAt.seq ?_ fun _ _ _ => ?_)
  | ((with_reducible refine Comm.at ?_ _ _); csim_leaf)
  | ((with_reducible refine Comm.at (Comm.forIn _ (fun _ _ => ?_) _) _ _); intro _ _)
  | (refine CommAt.cond (fun _ => ?_) (fun _ => ?_)))

macro "csim" : tactic => `(tactic| repeat' csim_step)

set_option hygiene false in
/-- a `match` on the kind of the node last read by `getNode` -/
macro "csim_kind" : tactic => `(tactic| (
  rcases hk : nd.kind? with _ | k
  all_goals try cases k
  all_goals try dsimp only
  all_goals try exact absurd (kind_of_kind? hk) (hne _)
  all_goals try exact absurd (kind_of_kind? hk) (hnr _ _)
  csim))

end IncrVerif.Proofs.FaultH
