import IncrVerif.Proofs.NecRel2
/-!
# `Sim` for the expert API, node creation, var writes, observers, effects of user code

`assertRunningIsChild` is the one debug-only check that is not a `dassert`: it reads the debug-only field
`currentlyRunning`; it never changes the state, so when it passes it is a no-op as well.
-/
namespace IncrVerif.Proofs.NecRel
open IncrVerif.Engine IncrVerif.Proofs

theorem sim_assertRunningIsChild (n : Nat) (name : String) : Sim (assertRunningIsChild n name) := by
  unfold assertRunningIsChild
  apply Sim.get_bind_pt
  intro s s' b h
  have hs : s' = s := by
    revert h
    try dsimp only
    repeat' split
    all_goals (intro h; first | (cases h; rfl) | cases h)
  subst hs
  rfl
macro_rules | `(tactic| sim_lemma) => `(tactic| exact sim_assertRunningIsChild _ _)

theorem sim_expertOf (n : Nat) : Sim (expertOf n) := by unfold expertOf; sim
macro_rules | `(tactic| sim_lemma) => `(tactic| exact sim_expertOf _)
theorem sim_expertMakeStale (n : Nat) : Sim (expertMakeStale n) := by unfold expertMakeStale; sim
macro_rules | `(tactic| sim_lemma) => `(tactic| exact sim_expertMakeStale _)
theorem sim_expertAddDependency (env : Env) (fuel n child : Nat) (cb : Bool) :
    Sim (expertAddDependency env fuel n child cb) := by unfold expertAddDependency; sim
macro_rules | `(tactic| sim_lemma) => `(tactic| exact sim_expertAddDependency _ _ _ _ _)
theorem sim_swapEdgeIndices (n c1 i1 c2 i2 : Nat) : Sim (swapEdgeIndices n c1 i1 c2 i2) := by
  unfold swapEdgeIndices; sim
macro_rules | `(tactic| sim_lemma) => `(tactic| exact sim_swapEdgeIndices _ _ _ _ _)
theorem sim_expertRemoveDependency (fuel n dep : Nat) : Sim (expertRemoveDependency fuel n dep) := by
  unfold expertRemoveDependency; sim
macro_rules | `(tactic| sim_lemma) => `(tactic| exact sim_expertRemoveDependency _ _ _)
theorem sim_expertInvalidate (fuel n : Nat) : Sim (expertInvalidate fuel n) := by unfold expertInvalidate; sim
macro_rules | `(tactic| sim_lemma) => `(tactic| exact sim_expertInvalidate _ _)

/-! node creation -/

theorem sim_bumpCounter (f : Counters → Counters) : Sim (bumpCounter f) := by unfold bumpCounter; sim
macro_rules | `(tactic| sim_lemma) => `(tactic| exact sim_bumpCounter _)
theorem sim_createNode (k : Kind) (sc : Scope) (c : CutoffK) : Sim (createNode k sc c) := by
  unfold createNode; sim
macro_rules | `(tactic| sim_lemma) => `(tactic| exact sim_createNode _ _ _)
theorem sim_createVar (v : Val) (sc : Scope) : Sim (createVar v sc) := by unfold createVar; sim
macro_rules | `(tactic| sim_lemma) => `(tactic| exact sim_createVar _ _)
theorem sim_createBind (body lhs : Nat) : Sim (createBind body lhs) := by unfold createBind; sim
macro_rules | `(tactic| sim_lemma) => `(tactic| exact sim_createBind _ _)
theorem sim_isConstant (n : Nat) : Sim (isConstant n) := by unfold isConstant; sim
macro_rules | `(tactic| sim_lemma) => `(tactic| exact sim_isConstant _)
theorem sim_resolveOpnd (loc : List Nat) (o : Opnd) : Sim (resolveOpnd loc o) := by unfold resolveOpnd; sim
macro_rules | `(tactic| sim_lemma) => `(tactic| exact sim_resolveOpnd _ _)
theorem sim_elabInstr (loc : List Nat) (v : Val) (i : Instr) : Sim (elabInstr loc v i) := by
  unfold elabInstr; sim
macro_rules | `(tactic| sim_lemma) => `(tactic| exact sim_elabInstr _ _ _)
theorem sim_elabTemplateBase (tp : Template) (v : Val) (init : List Nat) : Sim (elabTemplateBase tp v init) := by
  unfold elabTemplateBase; sim
macro_rules | `(tactic| sim_lemma) => `(tactic| exact sim_elabTemplateBase _ _ _)
theorem sim_memoCall (env : Env) (m : Nat) (key : Int) : Sim (memoCall env m key) := by unfold memoCall; sim
macro_rules | `(tactic| sim_lemma) => `(tactic| exact sim_memoCall _ _ _)
theorem sim_elabInstrM (env : Env) (loc : List Nat) (v : Val) (i : Instr) : Sim (elabInstrM env loc v i) := by
  unfold elabInstrM; sim
macro_rules | `(tactic| sim_lemma) => `(tactic| exact sim_elabInstrM _ _ _ _)
theorem sim_elabTemplate (env : Env) (tp : Template) (v : Val) : Sim (elabTemplate env tp v) := by
  unfold elabTemplate; sim
macro_rules | `(tactic| sim_lemma) => `(tactic| exact sim_elabTemplate _ _ _)

/-! var writes, observers -/

theorem sim_getVar (n : Nat) : Sim (getVar n) := by unfold getVar; sim
macro_rules | `(tactic| sim_lemma) => `(tactic| exact sim_getVar _)
theorem sim_modVar (n : Nat) (f : VarCell → VarCell) : Sim (modVar n f) := by unfold modVar; sim
macro_rules | `(tactic| sim_lemma) => `(tactic| exact sim_modVar _ _)
theorem sim_getObs (n : Nat) : Sim (getObs n) := by unfold getObs; sim
macro_rules | `(tactic| sim_lemma) => `(tactic| exact sim_getObs _)
theorem sim_modObs (n : Nat) (f : ObsRec → ObsRec) : Sim (modObs n f) := by unfold modObs; sim
macro_rules | `(tactic| sim_lemma) => `(tactic| exact sim_modObs _ _)
theorem sim_didSetVarWhileNotStabilising (v : Nat) : Sim (didSetVarWhileNotStabilising v) := by
  unfold didSetVarWhileNotStabilising; sim
macro_rules | `(tactic| sim_lemma) => `(tactic| exact sim_didSetVarWhileNotStabilising _)
theorem sim_writeVar (v : Nat) (f : Val → Val) (isSet : Bool) : Sim (writeVar v f isSet) := by
  unfold writeVar; sim
macro_rules | `(tactic| sim_lemma) => `(tactic| exact sim_writeVar _ _ _)
theorem sim_disallowFutureUse (o : Nat) : Sim (disallowFutureUse o) := by unfold disallowFutureUse; sim
macro_rules | `(tactic| sim_lemma) => `(tactic| exact sim_disallowFutureUse _)
theorem sim_subscribe (o hid : Nat) : Sim (subscribe o hid) := by unfold subscribe; sim
macro_rules | `(tactic| sim_lemma) => `(tactic| exact sim_subscribe _ _)
theorem sim_unsubscribe (o token owner : Nat) : Sim (unsubscribe o token owner) := by unfold unsubscribe; sim
macro_rules | `(tactic| sim_lemma) => `(tactic| exact sim_unsubscribe _ _ _)
theorem sim_dropVarHandle (v : Nat) : Sim (dropVarHandle v) := by unfold dropVarHandle; sim
macro_rules | `(tactic| sim_lemma) => `(tactic| exact sim_dropVarHandle _)
theorem sim_withVarHandle (v : Nat) (act : M Unit) (h : Sim act) : Sim (withVarHandle v act) := by
  unfold withVarHandle; sim
macro_rules | `(tactic| sim_lemma) => `(tactic| refine sim_withVarHandle _ _ ?_)
theorem sim_runEffectBasic (env : Env) (e : Effect) : Sim (runEffectBasic env e) := by
  unfold runEffectBasic; sim
macro_rules | `(tactic| sim_lemma) => `(tactic| exact sim_runEffectBasic _ _)

end IncrVerif.Proofs.NecRel
