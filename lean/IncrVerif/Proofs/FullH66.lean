import IncrVerif.Proofs.FullH63
/-!
# C01 full fragment: NON-VACUITY, part 5 — the observer is disallowed, the node is re-observed (kernel-checked)
-/
namespace IncrVerif.Proofs.FullH
open IncrVerif.Engine IncrVerif.Driver IncrVerif.Proofs IncrVerif.Proofs.Step IncrVerif.Proofs.Sched IncrVerif.Proofs.Quiet
open IncrVerif.Proofs.BindH

set_option maxRecDepth 100000 in
/-- the observer is disallowed: after the fifth `stabilise` it is unlinked, it cannot be read, the bind's main node 4 is unnecessary;
the re-observation (observer 1) reads, after the sixth `stabilise`, `(2+3)+3 = 8` (outer lhs `n1 = 2` even, inner lhs `n2 = 3` odd) and,
after the seventh (`n2 := 6`: the INNER lhs is even again), `(2+6)+70 = 78` -/
theorem exHistF_reobserve :
    C2h.readB fEnv (exHistF.take 14) 0 = none ∧
    EX.factF (exHistF.take 14) (fun s => (s.observers[0]?.map (·.state), s.isNecessary 4)) = some (some .unlinked, false) ∧
    C2h.readB fEnv (exHistF.take 19) 1 = some (.int 8) ∧
    C2h.readB fEnv exHistF 1 = some (.int 78) ∧
    C2h.readB fEnv exHistF 0 = none :=
  by decide +kernel

end IncrVerif.Proofs.FullH
