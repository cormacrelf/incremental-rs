import IncrVerif.Proofs.BindH37
/-!
# Binds, the run of a change detector in fragment F0, part 3: from the drain invariant to the state after `relink`

* `ginvB_restamp`: the structural invariant in the state `pre n br v s` in which `relink` starts (the running node
  has been stamped: it is not stale any more and needs no excuse; the bind's main node is excused instead);
* `MidRel`: the state after `relink` against the state before the run;
* `nec_above`: the bind's main node (and everything above it) is still necessary after `relink`.
-/
namespace IncrVerif.Proofs.BindH
open IncrVerif.Engine IncrVerif.Proofs IncrVerif.Proofs.Step IncrVerif.Proofs.Sched IncrVerif.Proofs.Quiet
namespace BC

theorem nodeKey_inv {a b : Node} (h : Quiet.nodeKey b = Quiet.nodeKey a) :
    b.kind = a.kind ∧ b.createdIn = a.createdIn ∧ b.cutoff = a.cutoff ∧ b.value = a.value ∧ b.valid = a.valid ∧
      b.recomputedAt = a.recomputedAt ∧ b.changedAt = a.changedAt ∧ b.observers = a.observers ∧
      b.forceNecessary = a.forceNecessary := by
  simp only [Quiet.nodeKey, Prod.mk.injEq] at h
  exact ⟨h.1, h.2.1, h.2.2.1, h.2.2.2.1, h.2.2.2.2.1, h.2.2.2.2.2.1, h.2.2.2.2.2.2.1, h.2.2.2.2.2.2.2.1,
    h.2.2.2.2.2.2.2.2.1⟩

/-! ## the state in which `relink` starts -/

theorem pre_nodeD (n : Nat) (br : BindRec) (v : Val) (s : State) (m : Nat) :
    (pre n br v s).nodeD m =
      if n = m ∧ m < s.nodes.size then { s.nodeD m with recomputedAt := s.stabNum } else s.nodeD m :=
  started_nodeD n m s

theorem pre_other {n : Nat} (br : BindRec) (v : Val) (s : State) {m : Nat} (h : m ≠ n) :
    (pre n br v s).nodeD m = s.nodeD m := by
  rw [pre_nodeD, if_neg (fun e => h e.1.symm)]

theorem pre_self {n : Nat} (br : BindRec) (v : Val) {s : State} (h : n < s.nodes.size) :
    (pre n br v s).nodeD n = { s.nodeD n with recomputedAt := s.stabNum } := by
  rw [pre_nodeD, if_pos ⟨rfl, h⟩]

theorem pre_size (n : Nat) (br : BindRec) (v : Val) (s : State) :
    (pre n br v s).nodes.size = s.nodes.size := by
  simp [pre, logged, started]

/-- the structural invariant when one node (not queued) is re-stamped: only `queued` and `qstale` have to be
re-established -/
theorem ginvB_restamp {env : Env} {s s1 : State} {n : Nat} {x : Int} {ex ex' : Nat → Prop}
    (G : GInvB env s allClosed ex)
    (hpc : s1.panicCountdown = s.panicCountdown) (hsc : s1.currentScope = s.currentScope)
    (hsz : s1.nodes.size = s.nodes.size) (hrch : s1.rch = s.rch) (hvars : s1.vars = s.vars)
    (hbinds : s1.binds = s.binds)
    (hother : ∀ m, m ≠ n → s1.nodeD m = s.nodeD m)
    (hself : s1.nodeD n = { s.nodeD n with recomputedAt := x })
    (hnq : (s.nodeD n).inRch = false) (hfresh : s1.isStale n = false)
    (hq : ∀ m, m ≠ n → s.isNecessary m = true → s.isStale m = true → ¬ ex' m → (s.nodeD m).inRch = true) :
    GInvB env s1 allClosed ex' := by
  -- per-node facts
  have hkind : ∀ m, (s1.nodeD m).kind = (s.nodeD m).kind := fun m => by
    by_cases e : m = n
    · subst e; rw [hself]
    · rw [hother m e]
  have hvalid : ∀ m, (s1.nodeD m).valid = (s.nodeD m).valid := fun m => by
    by_cases e : m = n
    · subst e; rw [hself]
    · rw [hother m e]
  have hcutoff : ∀ m, (s1.nodeD m).cutoff = (s.nodeD m).cutoff := fun m => by
    by_cases e : m = n
    · subst e; rw [hself]
    · rw [hother m e]
  have hcreated : ∀ m, (s1.nodeD m).createdIn = (s.nodeD m).createdIn := fun m => by
    by_cases e : m = n
    · subst e; rw [hself]
    · rw [hother m e]
  have hparents : ∀ m, (s1.nodeD m).parents = (s.nodeD m).parents := fun m => by
    by_cases e : m = n
    · subst e; rw [hself]
    · rw [hother m e]
  have hheight : ∀ m, (s1.nodeD m).height = (s.nodeD m).height := fun m => by
    by_cases e : m = n
    · subst e; rw [hself]
    · rw [hother m e]
  have hhrch : ∀ m, (s1.nodeD m).heightInRch = (s.nodeD m).heightInRch := fun m => by
    by_cases e : m = n
    · subst e; rw [hself]
    · rw [hother m e]
  have hchg : ∀ m, (s1.nodeD m).changedAt = (s.nodeD m).changedAt := fun m => by
    by_cases e : m = n
    · subst e; rw [hself]
    · rw [hother m e]
  have hinr : ∀ m, (s1.nodeD m).inRch = (s.nodeD m).inRch := fun m => by
    unfold Node.inRch; rw [hhrch m]
  have hnec : ∀ m, s1.isNecessary m = s.isNecessary m := fun m => by
    by_cases e : m = n
    · subst e; unfold State.isNecessary; rw [hself]; rfl
    · unfold State.isNecessary; rw [hother m e]
  have hch : ∀ m, s1.children m = s.children m := fun m => by
    by_cases hm : m < s.nodes.size
    · exact children_congr_B (hkind m) (hvalid m) hbinds (G.frag.node m hm).kind
    · rw [children_default s m (by omega), children_default s1 m (by rw [hsz]; omega)]
  have hst : ∀ m, m ≠ n → s1.isStale m = s.isStale m := fun m e => by
    by_cases hm : m < s.nodes.size
    · exact isStale_congr_B (G.frag.node m hm).kind (hkind m) (hvalid m) (by rw [hother m e]) hvars hbinds
        (fun c _ => hchg c)
    · rw [isStale_default s m (by omega), isStale_default s1 m (by rw [hsz]; omega)]
  have hw : ∀ p i, Wants s1 allClosed p i ↔ Wants s allClosed p i := fun p i => by
    rw [wants_closed rfl, wants_closed rfl, hnec]
  exact {
    frag := by
      refine ⟨by rw [hpc]; exact G.frag.pc, by rw [hsc]; exact G.frag.scope, fun m hm => ?_⟩
      have sn := G.frag.node m (by rw [← hsz]; exact hm)
      refine ⟨by rw [hvalid]; exact sn.valid, by rw [hkind]; exact sn.kind, by rw [hcutoff]; exact sn.cutoff,
        by rw [hcreated]; exact sn.top, ?_, ?_, ?_, ?_⟩
      · rw [hch]; exact sn.kidsLt
      · rw [hkind, hbinds]; exact sn.lcRec
      · rw [hkind, hbinds]; exact sn.mainRec
      · intro c b hc hk
        rw [hch] at hc
        rw [hkind] at hk ⊢
        exact sn.lcChild c b hc hk
    par := fun c p i hm => by
      rw [hparents] at hm
      rw [hch, hw]
      exact G.par c p i hm
    conv := fun p i c hk hwn => by
      rw [hch] at hk
      rw [hw] at hwn
      rw [hparents]
      exact G.conv p i c hk hwn
    nodup := fun c => by rw [hparents]; exact G.nodup c
    hlt := fun c p i hm ho => by
      rw [hparents] at hm
      rw [hheight, hheight]
      exact G.hlt c p i hm ho
    hpos := fun m hn ho => by
      rw [hnec] at hn
      rw [hheight]; exact G.hpos m hn ho
    lnec := fun p k ho => by cases ho
    unec := fun p k ho => by cases ho
    heap := G.heap.congr hrch hsz hhrch
    hgt := fun m hq' ho => by
      rw [hinr] at hq'
      rw [hhrch, hheight]; exact G.hgt m hq' ho
    qnec := fun m hq' => by
      rw [hinr] at hq'
      rw [hnec]; exact G.qnec m hq'
    queued := fun m _ hn hs hx => by
      have e : m ≠ n := by
        intro e; subst e; rw [hfresh] at hs; cases hs
      rw [hnec] at hn
      rw [hst m e] at hs
      rw [hinr]; exact hq m e hn hs hx
    qstale := fun m hq' => by
      rw [hinr] at hq'
      have e : m ≠ n := by
        intro e; subst e; rw [hnq] at hq'; cases hq'
      rw [hst m e]; exact G.qstale m hq'
    opLt := fun m ho => absurd rfl ho }

/-- the adjust-heights heap of the state in which `relink` starts -/
theorem ahhEmpty_pre {n : Nat} (br : BindRec) (v : Val) {s : State} (h : AhhEmpty s) :
    AhhEmpty (pre n br v s) := by
  refine ⟨h.length, h.buckets, fun m => ?_⟩
  rw [pre_nodeD]
  split
  · exact h.marks m
  · exact h.marks m

/-! ## facts about the bind of the running change detector -/

/-- the child list of a bind's main node -/
theorem children_main {s : State} {m b lc : Nat} {br : BindRec} (hv : (s.nodeD m).valid = true)
    (hk : (s.nodeD m).kind = .bindMain b lc) (hb : s.binds[b]? = some br) :
    s.children m = lc :: (match br.rhs with | some r => [r] | none => []) := by
  simp only [State.children, BS.kind?_of_valid hv, hk, hb]
  rfl

/-- what `DInv` and `F0Inv` say about the bind of the running change detector -/
theorem lc_facts {env : Env} {s : State} {n b : Nat} (I : DInv env s (some n)) (A : F0Inv env s)
    (hk : (s.nodeD n).kind = .bindLhsChange b) :
    ∃ br, s.binds[b]? = some br ∧ br.lhsChange = n ∧ n < br.main ∧ br.main < s.nodes.size ∧
      (s.nodeD br.main).kind = .bindMain b n ∧ n ∈ s.children br.main ∧ s.isNecessary br.main = true ∧
      (s.nodeD br.main).recomputedAt < s.stabNum := by
  obtain ⟨hn, hlt, hv, -, -⟩ := I.cur_facts
  obtain ⟨br, hb, hlc⟩ := (A.frag.node n hlt).lcRec b hk
  obtain ⟨h1, h2, -, h4⟩ := A.recs b br hb
  rw [hlc] at h1 h4
  have hvm := (A.frag.node br.main h2).valid
  have hmem : n ∈ s.children br.main := by rw [children_main hvm h4 hb]; simp
  refine ⟨br, hb, hlc, h1, h2, h4, hmem, ?_, I.fresh br.main n (Below.of_edge (Edge.child hmem)) (Or.inr rfl)⟩
  -- `n` is necessary, unobserved and not forced: it has a recorded parent, which is the main node
  rcases (isNecessary_iff s n).1 hn with hp | ho | hf
  · obtain ⟨⟨p, i⟩, hpi⟩ := List.exists_mem_of_ne_nil _ hp
    obtain ⟨hpn, hci⟩ := I.graph.parent n p i hpi
    have hpl := I.graph.nec_lt hpn
    have hkp := (A.frag.node p hpl).lcChild n b (List.mem_of_getElem? hci) hk
    obtain ⟨br', hb', hm', -⟩ := (A.frag.node p hpl).mainRec b n hkp
    rw [hb] at hb'; cases hb'
    rw [hm']; exact hpn
  · exact absurd (A.lcObs n b hk) ho
  · rw [A.noForce n] at hf; cases hf

/-! ## the state after `relink` against the state before the run -/

/-- fields that nothing in the run of a change detector (in F0) touches -/
structure NK (a b : Node) : Prop where
  kind : b.kind = a.kind
  valid : b.valid = a.valid
  cutoff : b.cutoff = a.cutoff
  createdIn : b.createdIn = a.createdIn
  observers : b.observers = a.observers
  forceNecessary : b.forceNecessary = a.forceNecessary

structure MidRel (n b rhs : Nat) (br : BindRec) (s t : State) : Prop where
  size : t.nodes.size = s.nodes.size
  nk : ∀ m, NK (s.nodeD m) (t.nodeD m)
  value : ∀ m, (t.nodeD m).value = (s.nodeD m).value
  recO : ∀ m, m ≠ n → (t.nodeD m).recomputedAt = (s.nodeD m).recomputedAt
  chgO : ∀ m, m ≠ n → (t.nodeD m).changedAt = (s.nodeD m).changedAt
  recN : (t.nodeD n).recomputedAt = s.stabNum
  chgN : (t.nodeD n).changedAt = s.stabNum
  bind : t.binds[b]? = some { br with rhs := some rhs }
  bindsSize : t.binds.size = s.binds.size
  bindsOther : ∀ b', b' ≠ b → t.binds[b']? = s.binds[b']?
  vars : t.vars = s.vars
  stabNum : t.stabNum = s.stabNum
  top : t.top = s.top

theorem midRel_of {n b rhs : Nat} {br : BindRec} {v : Val} {s t : State} (hlt : n < s.nodes.size)
    (R : RRelB b n rhs br (pre n br v s) t) : MidRel n b rhs br s t := by
  have hs : ∀ m, m ≠ n → _ := fun m e => nodeKey_inv (R.node m e)
  have hn := nodeKey_inv R.self
  rw [pre_self br v hlt] at hn
  refine ⟨R.size.trans (pre_size ..), fun m => ?_, fun m => ?_, fun m e => ?_, fun m e => ?_, hn.2.2.2.2.2.1,
    hn.2.2.2.2.2.2.1, R.bind, R.bindsSize, R.bindsOther, R.vars, R.stabNum, R.top⟩
  · by_cases e : m = n
    · subst e
      exact ⟨hn.1, hn.2.2.2.2.1, hn.2.2.1, hn.2.1, hn.2.2.2.2.2.2.2.1, hn.2.2.2.2.2.2.2.2⟩
    · have h := hs m e
      rw [pre_other br v s e] at h
      exact ⟨h.1, h.2.2.2.2.1, h.2.2.1, h.2.1, h.2.2.2.2.2.2.2.1, h.2.2.2.2.2.2.2.2⟩
  · by_cases e : m = n
    · subst e; exact hn.2.2.2.1
    · have h := hs m e
      rw [pre_other br v s e] at h
      exact h.2.2.2.1
  · have h := hs m e
    rw [pre_other br v s e] at h
    exact h.2.2.2.2.2.1
  · have h := hs m e
    rw [pre_other br v s e] at h
    exact h.2.2.2.2.2.2.1

namespace MidRel
variable {env : Env} {n b rhs : Nat} {br : BindRec} {s t : State}

/-- the record a bind index names after `relink`, against the one before -/
theorem bind_cases (M : MidRel n b rhs br s t) (hb : s.binds[b]? = some br) (b' : Nat) :
    (b' = b ∧ t.binds[b']? = some { br with rhs := some rhs } ∧ s.binds[b']? = some br) ∨
      (b' ≠ b ∧ t.binds[b']? = s.binds[b']?) := by
  by_cases e : b' = b
  · subst e; exact Or.inl ⟨rfl, M.bind, hb⟩
  · exact Or.inr ⟨e, M.bindsOther b' e⟩

/-- every child list but the main node's is unchanged -/
theorem children (M : MidRel n b rhs br s t) (A : AllB env s) (hb : s.binds[b]? = some br) {m : Nat}
    (hm : m ≠ br.main) : t.children m = s.children m := by
  by_cases hlt : m < s.nodes.size
  · have sn := A.node m hlt
    have hv := sn.valid
    have hv' : (t.nodeD m).valid = true := by rw [(M.nk m).valid]; exact hv
    have hk' := (M.nk m).kind
    unfold State.children
    rw [BS.kind?_of_valid hv, BS.kind?_of_valid hv', hk']
    cases hkd : (s.nodeD m).kind with
    | bindLhsChange b' =>
      dsimp only
      rcases M.bind_cases hb b' with ⟨-, h1, h2⟩ | ⟨-, h1⟩
      · rw [h1, h2]
      · rw [h1]
    | bindMain b' lc =>
      dsimp only
      rcases M.bind_cases hb b' with ⟨e, -, h2⟩ | ⟨-, h1⟩
      · exfalso
        obtain ⟨br', hb', hm', -⟩ := sn.mainRec b' lc hkd
        rw [h2] at hb'; cases hb'
        exact hm hm'.symm
      · rw [h1]
    | expert e => have := sn.kind; rw [hkd] at this; exact this.elim
    | _ => rfl
  · rw [children_default s m (by omega), children_default t m (by rw [M.size]; omega)]

/-- the child list of the main node after `relink` -/
theorem children_main' (M : MidRel n b rhs br s t) (A : AllB env s) (hlt : br.main < s.nodes.size)
    (hk : (s.nodeD br.main).kind = .bindMain b n) : t.children br.main = [n, rhs] := by
  have hv : (t.nodeD br.main).valid = true := by rw [(M.nk _).valid]; exact (A.node _ hlt).valid
  rw [children_main hv (by rw [(M.nk _).kind]; exact hk) M.bind]

theorem nec_of (M : MidRel n b rhs br s t) {m : Nat}
    (h : (s.nodeD m).observers ≠ [] ∨ (s.nodeD m).forceNecessary = true) : t.isNecessary m = true := by
  rw [isNecessary_iff]
  rcases h with h | h
  · exact Or.inr (Or.inl (by rw [(M.nk m).observers]; exact h))
  · exact Or.inr (Or.inr (by rw [(M.nk m).forceNecessary]; exact h))

/-- everything at or above the bind's main node that was necessary still is -/
theorem nec_above {ex ex' : Nat → Prop} (M : MidRel n b rhs br s t) (G : GInvB env s allClosed ex)
    (Gt : GInvB env t allClosed ex') (hb : s.binds[b]? = some br) :
    ∀ k m, s.nodes.size - m ≤ k → br.main ≤ m → s.isNecessary m = true → t.isNecessary m = true := by
  intro k
  induction k with
  | zero =>
    intro m hk _ hn
    have := nec_lt_size hn
    omega
  | succ k ih =>
    intro m hk hmm hn
    rcases (isNecessary_iff s m).1 hn with hp | ho | hf
    · obtain ⟨⟨q, i⟩, hqi⟩ := List.exists_mem_of_ne_nil _ hp
      obtain ⟨hci, hwq⟩ := G.par m q i hqi
      have hqn : s.isNecessary q = true := (wants_closed rfl).1 hwq
      have hmq : m < q := G.kid_lt hci
      have hql : q < s.nodes.size := G.kid_lt_size hci
      have hqt := ih q (by omega) (by omega) hqn
      have hci' : (t.children q)[i]? = some m := by
        rw [M.children G.frag hb (by omega)]; exact hci
      exact nec_of_mem_parents (Gt.conv q i m hci' ((wants_closed rfl).2 hqt))
    · exact M.nec_of (Or.inl ho)
    · exact M.nec_of (Or.inr hf)

end MidRel

end BC
end IncrVerif.Proofs.BindH
