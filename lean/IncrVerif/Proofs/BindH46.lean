import IncrVerif.Proofs.BindH45
/-!
# Binds, fragment F1, part b: the rank is injective and decreases along all edges
-/
namespace IncrVerif.Proofs.BindH
open IncrVerif.Engine IncrVerif.Proofs IncrVerif.Proofs.Step IncrVerif.Proofs.Sched IncrVerif.Proofs.Quiet

theorem children_lt_size {s : State} {p i c : Nat} (h : (s.children p)[i]? = some c) : p < s.nodes.size := by
  by_cases hp : p < s.nodes.size
  · exact hp
  · rw [children_default s p (by omega)] at h; simp at h

theorem lt_size_of_mem_children {s : State} {p c : Nat} (h : c ∈ s.children p) : p < s.nodes.size := by
  by_cases hp : p < s.nodes.size
  · exact hp
  · rw [children_default s p (by omega)] at h; cases h

namespace All1
variable {env : Env} {s : State} {dy : List Nat}

/-- a node of scope `b` lies strictly between the bind's change detector and its main node -/
theorem scope_rk (A : All1 env s dy) {n b : Nat} {br : BindRec} (hn : n < s.nodes.size)
    (hsc : (s.nodeD n).createdIn = .bind b) (hb : s.binds[b]? = some br) :
    rkOf s br.lhsChange < rkOf s n ∧ rkOf s n < rkOf s br.main := by
  obtain ⟨h1, h2, -, -, h5, h6⟩ := A.recs b br hb
  rw [rkOf_bind hsc hb, rkOf_top h5, rkOf_top h6, h1]
  refine ⟨by omega, ?_⟩
  have : br.lhsChange * (s.nodes.size + 1) + (n + 1) < (br.lhsChange + 1) * (s.nodes.size + 1) :=
    rk_mul_lt (Nat.lt_succ_self _) (by omega)
  omega

/-- the bind of a scope node -/
theorem scope_bind (A : All1 env s dy) {n b : Nat} (hn : n < s.nodes.size)
    (hsc : (s.nodeD n).createdIn = .bind b) : ∃ br, s.binds[b]? = some br ∧ br.main < n := by
  obtain ⟨-, -, br, hb, hm, -⟩ := (A.node n hn).inScope b hsc
  exact ⟨br, hb, hm⟩

/-- the rank is injective on the nodes of the state -/
theorem rk_inj (A : All1 env s dy) {n m : Nat} (hn : n < s.nodes.size) (hm : m < s.nodes.size)
    (h : rkOf s n = rkOf s m) : n = m := by
  have hK : 0 < s.nodes.size + 1 := by omega
  cases hn1 : (s.nodeD n).createdIn with
  | top =>
    cases hm1 : (s.nodeD m).createdIn with
    | top =>
      rw [rkOf_top hn1, rkOf_top hm1] at h
      exact Nat.eq_of_mul_eq_mul_right hK h
    | bind b =>
      exfalso
      obtain ⟨br, hb, -⟩ := A.scope_bind hm hm1
      rw [rkOf_top hn1, rkOf_bind hm1 hb] at h
      -- `n * K = lc * K + m + 1` with `0 < m + 1 < K`: impossible
      rcases Nat.lt_or_ge n (br.lhsChange + 1) with h1 | h1
      · have : n * (s.nodes.size + 1) ≤ br.lhsChange * (s.nodes.size + 1) :=
          Nat.mul_le_mul_right _ (by omega)
        omega
      · have : (br.lhsChange + 1) * (s.nodes.size + 1) ≤ n * (s.nodes.size + 1) :=
          Nat.mul_le_mul_right _ h1
        have h2 : (br.lhsChange + 1) * (s.nodes.size + 1) =
            br.lhsChange * (s.nodes.size + 1) + (s.nodes.size + 1) := by rw [Nat.add_mul, Nat.one_mul]
        omega
  | bind b =>
    obtain ⟨br, hb, -⟩ := A.scope_bind hn hn1
    cases hm1 : (s.nodeD m).createdIn with
    | top =>
      exfalso
      rw [rkOf_bind hn1 hb, rkOf_top hm1] at h
      rcases Nat.lt_or_ge m (br.lhsChange + 1) with h1 | h1
      · have : m * (s.nodes.size + 1) ≤ br.lhsChange * (s.nodes.size + 1) :=
          Nat.mul_le_mul_right _ (by omega)
        omega
      · have : (br.lhsChange + 1) * (s.nodes.size + 1) ≤ m * (s.nodes.size + 1) :=
          Nat.mul_le_mul_right _ h1
        have h2 : (br.lhsChange + 1) * (s.nodes.size + 1) =
            br.lhsChange * (s.nodes.size + 1) + (s.nodes.size + 1) := by rw [Nat.add_mul, Nat.one_mul]
        omega
    | bind b' =>
      obtain ⟨br', hb', -⟩ := A.scope_bind hm hm1
      rw [rkOf_bind hn1 hb, rkOf_bind hm1 hb'] at h
      -- same quotient by `K`
      rcases Nat.lt_trichotomy br.lhsChange br'.lhsChange with h1 | h1 | h1
      · exfalso
        have := rk_mul_lt (K := s.nodes.size + 1) (c := n + 1) h1 (by omega)
        omega
      · rw [h1] at h; omega
      · exfalso
        have := rk_mul_lt (K := s.nodes.size + 1) (c := m + 1) h1 (by omega)
        omega

end All1

end IncrVerif.Proofs.BindH
