import IncrVerif.Proofs.EffH1
import IncrVerif.Proofs.Footprint
/-!
# Effects, part 9: the API actions other than `stabilise` keep `CellsOK` (nothing pending, live handles)
-/
namespace IncrVerif.Proofs.EffH
open IncrVerif.Engine IncrVerif.Driver IncrVerif.Proofs IncrVerif.Proofs.Step IncrVerif.Proofs.Sched
open IncrVerif.Proofs.Quiet

namespace P9

/-- the frame relation: `CellsOK` is kept -/
def KeepC (s s' : State) : Prop := CellsOK s → CellsOK s'

instance : PreOrd KeepC := ⟨fun _ h => h, fun h1 h2 h => h2 (h1 h)⟩

/-- every write keeps `CellsOK` but that of a pending value and that of a handle count: a cell pushed by `create_var` has nothing pending and one handle -/
theorem KeepC.of_edit {L w} (hL : ∀ t ∈ L, t ∉ [Footprint.Tag.varPending, .varHandles]) {s s' : State} (e : Footprint.Edit L w s s') :
    KeepC s s' := by
  intro hc
  cases e
  case var v f hf =>
    intro u c hu
    dsimp only at hu
    rw [Array.getElem?_modify] at hu
    split at hu
    · cases hx : s.vars[u]? with
      | none => rw [hx] at hu; cases hu
      | some x =>
        rw [hx] at hu
        simp only [Option.map_some, Option.some.injEq] at hu
        subst hu
        have := hc u x hx
        cases hf <;> first | exact this | exact ⟨rfl, this.2⟩ | exact absurd (hL _ ‹_›) (by decide)
    · exact hc u c hu
  case pushVar v n _ =>
    intro u c hu
    dsimp only at hu
    rw [Array.getElem?_push] at hu
    split at hu
    · cases hu; exact ⟨rfl, Nat.one_ne_zero⟩
    · exact hc u c hu
  all_goals exact hc

/-- a write outside a stabilisation: the old value is returned, the cell gets the new value (and maybe a new stamp),
no other cell changes -/
theorem write_ok {s s' : State} {v : Nat} {f : Val → Val} {isSet : Bool} {r : Val}
    (hst : s.status ≠ .stabilising) (h : (writeVar v f isSet).run.run s = (.ok r, s')) :
    ∃ vc, s.vars[v]? = some vc ∧ r = vc.value ∧
      (∃ sa, s'.vars[v]? = some { vc with value := f vc.value, setAt := sa }) ∧
      ∀ w, w ≠ v → s'.vars[w]? = s.vars[w]? := by
  obtain ⟨vc, hv⟩ := writeVar_ok_cell h
  obtain ⟨hr, -, h1, h2, -⟩ := IncrVerif.Props.C08.write_outside_ok v f isSet s s' vc r hv hst h
  exact ⟨vc, hv, hr, ⟨_, h1⟩, h2⟩

theorem write_cells {s s' : State} {v : Nat} {f : Val → Val} {isSet : Bool} {r : Val}
    (hst : s.status ≠ .stabilising) (hc : CellsOK s)
    (h : (writeVar v f isSet).run.run s = (.ok r, s')) : CellsOK s' := by
  obtain ⟨vc, hv, -, ⟨sa, h1⟩, h2⟩ := write_ok hst h
  intro w c hw
  by_cases e : w = v
  · rw [e, h1] at hw; cases hw; exact hc v vc hv
  · rw [h2 w e] at hw; exact hc w c hw

end P9
open P9

/-- a static API action other than `stabilise`, run outside a stabilisation, keeps `CellsOK`: it leaves `vars` alone,
or pushes one fresh cell (`create var`), or changes `value`/`setAt` of one cell (the five writes) -/
theorem step_cells {env : Env} {s s' : State} {a : Action} {tk : Array Nat} {r : String × Array Nat}
    (ha : StaticAction env a) (hns : a ≠ .stabilise) (hst : s.status = .notStabilising) (hc : CellsOK s)
    (h : (stepAction env a tk).run.run s = (.ok r, s')) : CellsOK s' := by
  have hst' : s.status ≠ .stabilising := by rw [hst]; intro e; cases e
  cases a <;> try exact ha.elim
  case stabilise => exact absurd rfl hns
  case create i | observe n | cloneObs o | dropObs o | disallow o =>
    exact ((Footprint.Foot.stepAction env _ tk).lift (R := KeepC) fun e => by
      cases e with
      | engine e => exact KeepC.of_edit (by dsimp only [Footprint.W.stepAction]; decide) e
      | _ => exact fun h => h).h _ _ _ h hc
  case get v => rw [(Hist.stepAction_read_ok (.get v) h).1]; exact hc
  case isStable => rw [(Hist.stepAction_read_ok .isStable h).1]; exact hc
  case stats => rw [(Hist.stepAction_read_ok .stats h).1]; exact hc
  all_goals
    obtain ⟨old, h1, -⟩ := (Hist.stepAction_write_ok (by constructor)).1 h
    exact write_cells hst' hc h1

/-- `get` returns the logical value of the variable and changes nothing -/
theorem step_get {env : Env} {s s' : State} {v : Nat} {tk : Array Nat} {r : String × Array Nat}
    (h : (stepAction env (.get v) tk).run.run s = (.ok r, s')) :
    ∃ vc, s.vars[v]? = some vc ∧ r = ("ok " ++ vc.value.render, tk) ∧ s' = s := by
  unfold stepAction at h
  dsimp only at h
  obtain ⟨vc, s1, h1, h2⟩ := bind_ok_inv h
  obtain ⟨e1, e2⟩ := pure_ok_inv h2
  have hs := getVar_ok_inv h1
  refine ⟨vc, ?_, e1, by rw [e2, hs]⟩
  rw [run_getVar] at h1
  cases hv : s.vars[v]? with
  | none => rw [hv] at h1; cases h1
  | some x => rw [hv] at h1; cases h1; rfl

/-- `replace` returns the logical value the variable had and stores the new one -/
theorem step_replace {env : Env} {s s' : State} {v : Nat} {x : Val} {tk : Array Nat} {r : String × Array Nat}
    (hst : s.status ≠ .stabilising)
    (h : (stepAction env (.replace v x) tk).run.run s = (.ok r, s')) :
    ∃ vc, s.vars[v]? = some vc ∧ r = ("ok " ++ vc.value.render, tk) ∧
      ∃ vc', s'.vars[v]? = some vc' ∧ vc'.value = x := by
  unfold stepAction at h
  dsimp only at h
  obtain ⟨old, s1, h1, h2⟩ := bind_ok_inv h
  obtain ⟨e1, e2⟩ := pure_ok_inv h2
  obtain ⟨vc, hv, hr, ⟨sa, hn⟩, -⟩ := write_ok hst h1
  exact ⟨vc, hv, by rw [e1, hr], _, by rw [e2]; exact hn, rfl⟩

/-- `replace_with` returns the logical value the variable had and stores the updated one -/
theorem step_replaceWith {env : Env} {s s' : State} {v : Nat} {d : Int} {tk : Array Nat} {r : String × Array Nat}
    (hst : s.status ≠ .stabilising)
    (h : (stepAction env (.replaceWith v d) tk).run.run s = (.ok r, s')) :
    ∃ vc, s.vars[v]? = some vc ∧ r = ("ok " ++ vc.value.render, tk) ∧
      ∃ vc', s'.vars[v]? = some vc' ∧ vc'.value = vc.value.addInt d 7 := by
  unfold stepAction at h
  dsimp only at h
  obtain ⟨old, s1, h1, h2⟩ := bind_ok_inv h
  obtain ⟨e1, e2⟩ := pure_ok_inv h2
  obtain ⟨vc, hv, hr, ⟨sa, hn⟩, -⟩ := write_ok hst h1
  exact ⟨vc, hv, by rw [e1, hr], _, by rw [e2]; exact hn, rfl⟩

/-- `set`/`modify`/`update` store the new logical value -/
theorem step_set {env : Env} {s s' : State} {v : Nat} {x : Val} {tk : Array Nat} {r : String × Array Nat}
    (hst : s.status ≠ .stabilising)
    (h : (stepAction env (.set v x) tk).run.run s = (.ok r, s')) :
    ∃ vc', s'.vars[v]? = some vc' ∧ vc'.value = x := by
  unfold stepAction at h
  dsimp only at h
  obtain ⟨_, s1, h1, h2⟩ := bind_ok_inv h
  obtain ⟨-, e2⟩ := pure_ok_inv h2
  obtain ⟨r1, h1⟩ := discard_ok_inv h1
  obtain ⟨vc, hv, hr, ⟨sa, hn⟩, -⟩ := write_ok hst h1
  exact ⟨_, by rw [e2]; exact hn, rfl⟩

end IncrVerif.Proofs.EffH
