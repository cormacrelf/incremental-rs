import IncrVerif.Proofs.ExpertH32
/-!
# Expert nodes: the frame `XF` for the API actions
-/
namespace IncrVerif.Proofs.ExpertH
open IncrVerif.Engine IncrVerif.Proofs IncrVerif.Proofs.Step IncrVerif.Proofs.Footprint

/-- the API actions that keep `XF`: all but node creation (`create`), `addDep` and `stabilise` -/
def XAct : Action → Prop
  | .create _ => False
  | .addDep .. => False
  | .stabilise => False
  | _ => True

theorem PresX.stepAction (env : Env) (a : Action) (tk : Array Nat) (h : XAct a) :
    Step.Pres XF (Engine.stepAction env a tk) :=
  (Foot.stepAction env a tk).lift (XF.of_act (by cases a <;> first | exact False.elim h | (dsimp only [W.stepAction]; decide)))

end IncrVerif.Proofs.ExpertH
