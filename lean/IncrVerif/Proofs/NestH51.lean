import IncrVerif.Proofs.NestH12
import IncrVerif.Proofs.NestH11
import IncrVerif.Proofs.NestH15
import IncrVerif.Proofs.BindH89
import IncrVerif.Proofs.Quiet13
/-!
# Nested binds (F2), part 4p1: the prefix of `stabilise`, one iteration of `addNewObservers` / `unlinkDisallowedObservers`

`Quiet13` for `Struct2 env rk`/`GInv2 env rk`/`SInv2 env rk` (the SAME ghost rank before and
after: no node is created).  The observer bookkeeping (`ObsInv`, `ObsSet`, `ObsMap`, `IterRel`, `obsAdded`, `obsRemoved`, …) is generic
(`Quiet13`); the frame accessors `C2p.pf_createdIn`, `C2p.pf_force`, `C2p.obsAdded_marks`, `C2p.obsRemoved_marks`,
`C2p.MFr.trans`, `C2p.obsTop_step` of `BindH89` are generic too.

Observers watch top-level nodes only (`SInv2.obsTop`); making a top-level bind main node necessary / unnecessary cascades through inner
binds and chains of scopes: all of that is inside `becameNecessary_spec2` / `checkIfUnnecessary_spec2`.
-/
namespace IncrVerif.Proofs.NestH
open IncrVerif.Engine IncrVerif.Driver IncrVerif.Proofs IncrVerif.Proofs.Step IncrVerif.Proofs.Sched IncrVerif.Proofs.Quiet
open IncrVerif.Proofs.Quiet.P12
open IncrVerif.Proofs.BindH

/-- the invariant during the prefix of `stabilise`, graphs with nested binds (fragment F2, ghost rank `rk`): `pn` / `pd` are the observers
still to be added / unlinked -/
structure SInv2 (env : Env) (rk : Nat → Nat) (s : State) (pn pd : List Nat) : Prop where
  struct : Struct2 env rk s
  obs : ObsInv s pn pd
  obsTop : ∀ (o : Nat) (ob : ObsRec), s.observers[o]? = some ob →
    (s.nodeD ob.node).createdIn = .top ∧ ∀ b, (s.nodeD ob.node).kind ≠ .bindLhsChange b
  pinv : s.propagateInvalidity = []
  handlers : ∀ m, (s.nodeD m).numOnUpdateHandlers = 0
  noForce : ∀ m, (s.nodeD m).forceNecessary = false

namespace N4p

/-! ## the structural invariant through one iteration -/

/-- the end of the body of `add_new_observers`: the link cascade if the node was not necessary -/
theorem struct_add2 {env : Env} {rk : Nat → Nat} {fuel n : Nat} {l : List Nat} {was : Bool} {t t4 t' : State}
    {r : ForInStep PUnit}
    (I : Struct2 env rk t) (U : NodeUpd n (fObservers l) t t4) (hb : t4.binds = t.binds) (hl : l ≠ [])
    (hwas : was = t.isNecessary n)
    (htop : (t.nodeD n).createdIn = .top) (hnlc : ∀ b, (t.nodeD n).kind ≠ .bindLhsChange b)
    (hnf : ∀ m, (t.nodeD m).forceNecessary = false)
    (hp : t4.propagateInvalidity = [])
    (h : (if (!was) = true then do
            becameNecessaryPropagate env fuel n
            pure (ForInStep.yield PUnit.unit)
          else pure (ForInStep.yield PUnit.unit)).run.run t4 = (.ok r, t')) :
    r = .yield PUnit.unit ∧ Struct2 env rk t' ∧ CFrame t4 t' ∧ t'.propagateInvalidity = [] ∧
      (∀ m, t4.isNecessary m = true → t'.isNecessary m = true) ∧ BR.MFr t4 t' := by
  cases hw : was with
  | true =>
    rw [hw] at h hwas
    simp only [Bool.not_true, Bool.false_eq_true, if_false] at h
    obtain ⟨hr, e⟩ := pure_ok_inv h
    rw [e]
    exact ⟨hr, NL.GInv2.addObs_nec I U hb hl hwas.symm htop hnlc, CFrame.refl _, hp, fun _ h => h, fun _ => rfl⟩
  | false =>
    rw [hw] at h hwas
    simp only [Bool.not_false, if_true] at h
    obtain ⟨_, t5, h5, h⟩ := bind_ok_inv h
    obtain ⟨hr, e⟩ := pure_ok_inv h
    rw [e]
    unfold becameNecessaryPropagate at h5
    obtain ⟨_, t6, h6, h5⟩ := bind_ok_inv h5
    obtain ⟨I1, hpar, hnq⟩ := NL.GInv2.addObs_open I U hb hl hwas.symm rfl htop hnlc
    have K := keeps_fObservers l
    have hk4 : (t4.nodeD n).kind = (t.nodeD n).kind := U.kind K n
    obtain ⟨I2, -, hL⟩ := becameNecessary_spec2 h6 I1 (upd_self _ _ _) hnq
      (by
        intro m hm
        by_cases e : m = n
        · rw [e]; exact Nat.le_refl _
        · rw [upd_other _ _ _ e] at hm; exact absurd rfl hm)
      (by intro p i hpi; rw [hpar] at hpi; cases hpi)
      (by
        intro m k
        by_cases e : m = n
        · rw [e, upd_self]; exact fun e => by cases e
        · rw [upd_other _ _ _ e]; exact fun e => by cases e)
      (by
        intro m b br hf
        rw [U.forceNecessary K, hnf m] at hf; cases hf)
      (by
        intro b br hbr hlc
        exfalso
        have := (I1.frag.recs b br hbr).2.2.1
        rw [hlc, hk4] at this
        exact hnlc b this)
    rw [upd_upd, upd_eq_self allClosed n .closed rfl] at I2
    have hp6 : t6.propagateInvalidity = [] := by rw [hL.pinv]; exact hp
    have e5 := propagateInvalidity_nil hp6 h5
    rw [e5]
    exact ⟨hr, I2, hL.fr, hp6, fun m hm => hL.nec hm, ((BR.PresM.link env fuel).1 n).h _ _ _ h6⟩

/-- the end of the body of `unlink_disallowed_observers`: the unlink cascade if the node is no longer necessary -/
theorem struct_unlink2 {env : Env} {rk : Nat → Nat} {fuel n : Nat} {l : List Nat} {t t3 t' : State}
    (I : Struct2 env rk t) (U : NodeUpd n (fObservers l) t t3) (hb : t3.binds = t.binds)
    (hn : t.isNecessary n = true) (hl : (t.nodeD n).observers = [] → l = [])
    (h : (checkIfUnnecessary fuel n).run.run t3 = (.ok (), t')) :
    Struct2 env rk t' ∧ URel t3 t' ∧ BR.MFr t3 t' := by
  obtain ⟨H1, H2⟩ := GInv2.remObs I U hb rfl hn hl
  have hM : BR.MFr t3 t' := ((BR.PresM.unlink fuel).2.1 n).h _ _ _ h
  cases hnc : t3.isNecessary n with
  | true =>
    obtain ⟨I2, -, hU⟩ := checkIfUnnecessary_spec2 h (H1 hnc) (fun m hm => absurd rfl hm) (Or.inl ⟨hnc, rfl⟩)
    rw [upd_eq_self allClosed n .closed rfl] at I2
    exact ⟨I2, hU, hM⟩
  | false =>
    obtain ⟨I2, -, hU⟩ := checkIfUnnecessary_spec2 h (H2 hnc)
      (by
        intro m hm
        by_cases e : m = n
        · rw [e]; exact Nat.le_refl _
        · rw [upd_other _ _ _ e] at hm; exact absurd rfl hm)
      (Or.inr ⟨hnc, upd_self _ _ _⟩)
    rw [upd_upd, upd_eq_self allClosed n .closed rfl] at I2
    exact ⟨I2, hU, hM⟩

/-! ## one iteration of `add_new_observers` -/

theorem add_created2 {env : Env} {rk : Nat → Nat} {fuel o : Nat} {rest pd : List Nat} {t t4 t' : State} {ob : ObsRec}
    {was : Bool} {r : ForInStep PUnit}
    (I : SInv2 env rk t (o :: rest) pd) (hob : t.observers[o]? = some ob) (hst : ob.state = .created)
    (hwas : was = t.isNecessary ob.node)
    (h4 : (handleAfterStabilisation ob.node).run.run (obsAdded o ob.node ((0 : Nat) : Int) t) = (.ok (), t4))
    (h : (if (!was) = true then do
            becameNecessaryPropagate env fuel ob.node
            pure (ForInStep.yield PUnit.unit)
          else pure (ForInStep.yield PUnit.unit)).run.run t4 = (.ok r, t')) :
    r = .yield PUnit.unit ∧ SInv2 env rk t' rest pd ∧ IterRel .created .inUse t t' ∧
      (∀ m, t.isNecessary m = true → t'.isNecessary m = true) ∧ BR.MFr t t' := by
  have hn : ob.node < t.nodes.size := (I.obs.inRange o ob hob).1
  have U3 : NodeUpd ob.node (fObservers ((t.nodeD ob.node).observers ++ [o])) t
      (obsAdded o ob.node ((0 : Nat) : Int) t) := obsAdded_upd hn
  have R : Irrel ob.node (obsAdded o ob.node ((0 : Nat) : Int) t) t4 := by
    rcases has_cases h4 with e | e
    · rw [e]; exact Irrel.refl _ _
    · rw [e]; exact Irrel.marked _ _
  have U4 := U3.then_same R.same
  have L := R.rel (fun _ => False)
  have hp4 : t4.propagateInvalidity = [] := (L.pinv.trans rfl).trans I.pinv
  have hb4 : t4.binds = t.binds := (BL.CFrame.binds L.fr).trans rfl
  have hl : (t.nodeD ob.node).observers ++ [o] ≠ [] := by simp
  obtain ⟨htop, hnlc⟩ := I.obsTop o ob hob
  obtain ⟨hr, I', F, hp', hnec, hM⟩ := struct_add2 I.struct U4 hb4 hl hwas htop hnlc I.noForce hp4 h
  have F3 : CFrame (obsAdded o ob.node ((0 : Nat) : Int) t) t' := L.fr.trans F
  have P : PFrame t t' := (obsAdded_frame o ob.node t).trans F3.toP
  have S : ObsSet o .inUse t t' :=
    (ObsSet.of_modify (t' := obsAdded o ob.node ((0 : Nat) : Int) t) rfl).then_eq (cf_obsArr F3)
  have O' : ObsInv t' rest pd := obsInv_add_step I.obs hob hst S (F3.size.trans U3.size)
    ((F3.observers ob.node).trans U3.self.observers)
    (fun m hm => (F3.observers m).trans (U3.other m hm).observers)
  have M4 : BR.MFr (obsAdded o ob.node ((0 : Nat) : Int) t) t4 :=
    (BR.PresM.handleAfterStabilisation ob.node).h _ _ _ h4
  refine ⟨hr, ⟨I', O', C2p.obsTop_step S P I.obsTop, hp', fun m => by rw [pf_num P]; exact I.handlers m,
      fun m => by rw [C2p.pf_force P]; exact I.noForce m⟩,
    ⟨P, (cf_newObs F3).trans rfl, (cf_disObs F3).trans rfl, S.size, fun o' ob' ho' => ?_⟩, fun m hm => hnec m ?_,
    C2p.MFr.trans (C2p.MFr.trans (C2p.obsAdded_marks _ _ _ _) M4) hM⟩
  · obtain ⟨ob1, h1, h2, -, h3⟩ := S.recs o' ob' ho'
    refine ⟨ob1, h1, h2, ?_⟩
    rcases h3 with ⟨_, h3⟩ | ⟨e, h3⟩
    · exact Or.inl h3
    · rw [e, hob] at ho'; cases ho'
      exact Or.inr ⟨hst, h3⟩
  · by_cases e : m = ob.node
    · rw [e]; exact (U4.nec_self_iff (keeps_fObservers _)).2 (Or.inr (Or.inl hl))
    · rw [U4.nec_other e]; exact hm

/-! ## one iteration of `unlink_disallowed_observers` -/

theorem unlink_iter2 {env : Env} {rk : Nat → Nat} {fuel o : Nat} {rest : List Nat} {t t' : State} {ob : ObsRec}
    (I : SInv2 env rk t [] (o :: rest)) (hob : t.observers[o]? = some ob)
    (h : (checkIfUnnecessary fuel ob.node).run.run (obsRemoved o ob.node ((0 : Nat) : Int) t) = (.ok (), t')) :
    SInv2 env rk t' [] rest ∧ IterRel .disallowed .unlinked t t' ∧ BR.MFr t t' := by
  have hn : ob.node < t.nodes.size := (I.obs.inRange o ob hob).1
  have hst : ob.state = .disallowed := (I.obs.dis o ob hob).2 (List.mem_cons_self ..)
  have hmem : o ∈ (t.nodeD ob.node).observers := (I.obs.mem ob.node o).2 ⟨ob, hob, rfl, Or.inr hst⟩
  have hnec : t.isNecessary ob.node = true :=
    (isNecessary_iff t ob.node).2 (Or.inr (Or.inl (List.ne_nil_of_mem hmem)))
  have U3 : NodeUpd ob.node (fObservers ((t.nodeD ob.node).observers.filter (· != o))) t
      (obsRemoved o ob.node ((0 : Nat) : Int) t) := obsRemoved_upd hn
  obtain ⟨I', hU, hM⟩ := struct_unlink2 I.struct U3 rfl hnec (fun e => by rw [e]; rfl) h
  have F3 := hU.fr
  have P : PFrame t t' := (obsRemoved_frame o ob.node t).trans F3.toP
  have S : ObsSet o .unlinked t t' :=
    (ObsSet.of_modify (t' := obsRemoved o ob.node ((0 : Nat) : Int) t) rfl).then_eq (cf_obsArr F3)
  have O' : ObsInv t' [] rest := obsInv_unlink_step I.obs hob S (F3.size.trans U3.size)
    ((F3.observers ob.node).trans U3.self.observers)
    (fun m hm => (F3.observers m).trans (U3.other m hm).observers)
  refine ⟨⟨I', O', C2p.obsTop_step S P I.obsTop, (hU.pinv.trans rfl).trans I.pinv,
      fun m => by rw [pf_num P]; exact I.handlers m, fun m => by rw [C2p.pf_force P]; exact I.noForce m⟩,
    ⟨P, (cf_newObs F3).trans rfl, (cf_disObs F3).trans rfl, S.size, fun o' ob' ho' => ?_⟩,
    C2p.MFr.trans (C2p.obsRemoved_marks _ _ _ _) hM⟩
  obtain ⟨ob1, h1, h2, -, h3⟩ := S.recs o' ob' ho'
  refine ⟨ob1, h1, h2, ?_⟩
  rcases h3 with ⟨_, h3⟩ | ⟨e, h3⟩
  · exact Or.inl h3
  · rw [e, hob] at ho'; cases ho'
    exact Or.inr ⟨hst, h3⟩

/-- fields of the state that the invariant does not read -/
theorem sInv2_congr {env : Env} {rk : Nat → Nat} {s s' : State} {pn pd : List Nat} (I : SInv2 env rk s pn pd)
    (h1 : s'.observers = s.observers) (h2 : s'.nodes = s.nodes) (h3 : s'.panicCountdown = s.panicCountdown)
    (h4 : s'.currentScope = s.currentScope) (h5 : s'.rch = s.rch) (h6 : s'.vars = s.vars)
    (h7 : s'.propagateInvalidity = s.propagateInvalidity) (h8 : s'.binds = s.binds) : SInv2 env rk s' pn pd := by
  have hnd : ∀ m, s'.nodeD m = s.nodeD m := fun m => by simp [State.nodeD, h2]
  refine ⟨GInv2.congr I.struct ⟨SameG.of_nodes h2 h3 h4 h5 h6, h8⟩, obsInv_congr I.obs h1 h2, ?_, h7.trans I.pinv,
    fun m => ?_, fun m => ?_⟩
  · intro o ob h
    rw [h1] at h
    rw [hnd]; exact I.obsTop o ob h
  · rw [hnd]; exact I.handlers m
  · rw [hnd]; exact I.noForce m

end N4p

end IncrVerif.Proofs.NestH
