import IncrVerif.Proofs.BindH35
/-!
# Binds, `lhsRelink`: what the states `BR.stamped`, `BR.pre4` keep of a node
-/
namespace IncrVerif.Proofs.BindH
open IncrVerif.Engine IncrVerif.Proofs IncrVerif.Proofs.Step IncrVerif.Proofs.Sched IncrVerif.Proofs.Quiet

namespace CR

section
variable {s : State} {b n rhs : Nat}

theorem stamped_size (n : Nat) (v : Int) (s : State) : (BR.stamped n v s).nodes.size = s.nodes.size :=
  Array.size_modify

theorem stamped_createdIn (v : Int) (m : Nat) : ((BR.stamped n v s).nodeD m).createdIn = (s.nodeD m).createdIn := by
  rw [BR.stamped_nodeD]; split <;> rfl
theorem stamped_kind (v : Int) (m : Nat) : ((BR.stamped n v s).nodeD m).kind = (s.nodeD m).kind := by
  rw [BR.stamped_nodeD]; split <;> rfl
theorem stamped_valid (v : Int) (m : Nat) : ((BR.stamped n v s).nodeD m).valid = (s.nodeD m).valid := by
  rw [BR.stamped_nodeD]; split <;> rfl
theorem stamped_nec (v : Int) (m : Nat) : (BR.stamped n v s).isNecessary m = s.isNecessary m := by
  simp only [State.isNecessary]
  rw [BR.stamped_nodeD]; split <;> rfl

theorem pre4_createdIn (o pi : Nat) (v : Int) (m : Nat) :
    ((BR.pre4 b n rhs o pi v s).nodeD m).createdIn = (s.nodeD m).createdIn :=
  (BR.pre4_keeps (·.createdIn) o (fun _ => rfl) v m).trans (stamped_createdIn v m)
theorem pre4_valid (o pi : Nat) (v : Int) (m : Nat) :
    ((BR.pre4 b n rhs o pi v s).nodeD m).valid = (s.nodeD m).valid :=
  (BR.pre4_keeps (·.valid) o (fun _ => rfl) v m).trans (stamped_valid v m)

end

end CR

end IncrVerif.Proofs.BindH
