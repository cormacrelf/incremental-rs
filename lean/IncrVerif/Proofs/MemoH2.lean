import IncrVerif.Proofs.MemoH1
/-!
# C20 over whole histories, part 2: invalidation, effects, and the functions that call memoised functions

* `ILocal R`: everything up to `runEffects`, `perKeyDriver`, `addNewObservers`, `runAll` is `Pres R`.
* generic layer for the functions that contain a memoised call (`elabInstrM`, `elabTemplate`,
  `recomputeOne`, `recompute`, `drainHeap`), given `Pres R (memoCall env m key)` for the calls `P m key`
  that the bind closures make (`BodiesP P env`);
* `Split R x`: a run of `x` is an `R`-step, or an `R`-step followed by the sweep of the weak tables
  (`sweep`); `stabiliseEnd`, `stabilise` are `Split R`;
* the API actions that are plain `R`-steps (`PresI.stepAction_other`).
-/
namespace IncrVerif.Proofs.MemoH
open IncrVerif.Engine IncrVerif.Proofs.Obs IncrVerif.Proofs.Memo

section
variable {R : State → State → Prop} [ILocal R]

theorem PresI.modNode (n f) (hf : ∀ x, nodeK (f x) = nodeK x) : Pres R (modNode n f) := by
  unfold Engine.modNode; exact Pres.modify fun s => ILocal.of_frame0 _ _ (F0.modNode s n f hf)
macro_rules
  | `(tactic| mleaf) => `(tactic| ((with_reducible apply PresI.modNode); intro _; rfl))

/-- a function that makes no write in `F0.breaks` keeps every `ILocal` relation -/
theorem PresI.of_foot {L α} {m : M α} (hm : Footprint.Foot L (fun _ => True) m) (hL : ∀ t ∈ Footprint.partsB L, t ∉ F0.breaks) :
    Pres R m :=
  (hm.calls fun c => ILocal.of_frame0 _ _ (F0.of_call hL c)).toObs

theorem PresI.invalidateNode (fuel n) : Pres R (invalidateNode fuel n) := PresI.of_foot (Footprint.Foot.invalidateNode fuel n) (by decide)
memo_leaf PresI.invalidateNode
theorem PresI.propagateInvalidity (fuel) : Pres R (propagateInvalidity fuel) := PresI.of_foot (Footprint.Foot.propagateInvalidity fuel) (by decide)
memo_leaf PresI.propagateInvalidity
theorem PresI.changeChildBindRhs (env fuel m o nw i) :
    Pres R (changeChildBindRhs env fuel m o nw i) := PresI.of_foot (Footprint.Foot.changeChildBindRhs env fuel m o nw i) (by decide)
memo_leaf PresI.changeChildBindRhs
theorem PresI.expertAddDependency (env fuel n c cb) :
    Pres R (expertAddDependency env fuel n c cb) := PresI.of_foot (Footprint.Foot.expertAddDependency env fuel n c cb) (by decide)
memo_leaf PresI.expertAddDependency
theorem PresI.runEffects (env fuel effs arg) : Pres R (runEffects env fuel effs arg) :=
  PresI.of_foot (Footprint.Foot.runEffects env fuel effs arg) (by decide)
memo_leaf PresI.runEffects
theorem PresI.perKeyDriver (env fuel op m) : Pres R (perKeyDriver env fuel op m) := PresI.of_foot (Footprint.Foot.perKeyDriver env fuel op m) (by decide)
memo_leaf PresI.perKeyDriver
theorem PresI.addNewObservers (env fuel) : Pres R (addNewObservers env fuel) := PresI.of_foot (Footprint.Foot.addNewObservers env fuel) (by decide)
memo_leaf PresI.addNewObservers
theorem PresI.runAll (env fuel o n nu now) : Pres R (runAll env fuel o n nu now) := PresI.of_foot (Footprint.Foot.runAll env fuel o n nu now) (by decide)
memo_leaf PresI.runAll

/-! ## the functions that contain a memoised call -/

/-- every memoised call instruction `i` makes satisfies `P` -/
def InstrP (P : Nat → Int → Prop) (i : Instr) : Prop := ∀ m key, i = .memoCall m key → P m key

/-- every memoised call a bind closure can make satisfies `P` -/
def BodiesP (P : Nat → Int → Prop) (env : Env) : Prop :=
  ∀ body v, ∀ i ∈ (env.body body v).instrs, InstrP P i

variable {env : Env} {P : Nat → Int → Prop}

theorem PresB.elabInstrM (hm : ∀ m key, P m key → Pres R (memoCall env m key)) (loc v) {i : Instr}
    (hi : InstrP P i) : Pres R (elabInstrM env loc v i) := by
  unfold Engine.elabInstrM
  split
  · exact Pres.map _ (hm _ _ (hi _ _ rfl))
  · exact PresF.elabInstr _ _ _

theorem PresB.elabTemplate (hm : ∀ m key, P m key → Pres R (memoCall env m key)) (v) {t : Template}
    (ht : ∀ i ∈ t.instrs, InstrP P i) : Pres R (elabTemplate env t v) := by
  unfold Engine.elabTemplate
  refine Pres.bind (Pres.forIn_mem fun i hi b => ?_) fun _ => Pres.resolveOpnd _ _
  refine Pres.bind (PresB.elabInstrM hm _ _ (ht i hi)) fun r => ?_
  split <;> exact Pres.pure _

theorem PresB.recomputeOne (hm : ∀ m key, P m key → Pres R (memoCall env m key))
    (hb : BodiesP P env) (fuel n) : Pres R (recomputeOne env fuel n) := by
  unfold Engine.recomputeOne; mpres
  all_goals exact PresB.elabTemplate hm _ (hb _ _)

theorem PresB.recompute (hm : ∀ m key, P m key → Pres R (memoCall env m key))
    (hb : BodiesP P env) (fuel n) : Pres R (recompute env fuel n) := by
  induction fuel generalizing n with
  | zero => unfold Engine.recompute; mpres
  | succ fuel ih =>
    unfold Engine.recompute
    refine Pres.bind (PresB.recomputeOne hm hb _ _) fun r => ?_
    split
    · exact Pres.pure _
    · exact ih _

theorem PresB.drainHeap (hm : ∀ m key, P m key → Pres R (memoCall env m key))
    (hb : BodiesP P env) (fuel) : Pres R (drainHeap env fuel) := by
  induction fuel with
  | zero => unfold Engine.drainHeap; mpres
  | succ fuel ih =>
    unfold Engine.drainHeap
    refine Pres.bind PresF.rchRemoveMin fun r => ?_
    split
    · exact Pres.pure _
    · exact Pres.bind (PresB.recompute hm hb _ _) fun _ => ih

/-! ## the sweep at the end of `stabilise` -/

/-- the last two steps of `stabilise_end`: the weak tables are swept, the status is reset -/
def sweep (s : State) : State := { gcStep s with status := .notStabilising }

/-- every run of `x` is an `R`-step, possibly followed by the sweep -/
def Split (R : State → State → Prop) {α} (x : M α) : Prop :=
  ∀ s r s', x.run.run s = (r, s') → R s s' ∨ ∃ s1, R s s1 ∧ s' = sweep s1

omit [ILocal R] in
theorem Split.bind [PreOrd R] {α β} {x : M α} {f : α → M β} (hx : Pres R x) (hf : ∀ a, Split R (f a)) :
    Split R (x >>= f) := by
  intro s r s' h
  rw [run_bind] at h
  rcases hx' : x.run.run s with ⟨r1, s1⟩
  rw [hx'] at h
  have h1 := hx.h s r1 s1 hx'
  cases r1 with
  | error e => cases h; exact .inl h1
  | ok a =>
    rcases hf a s1 r s' h with h2 | ⟨s2, h2, h3⟩
    · exact .inl (PreOrd.trans h1 h2)
    · exact .inr ⟨s2, PreOrd.trans h1 h2, h3⟩

omit [ILocal R] in
theorem Split.tail [PreOrd R] :
    Split R ((modify gcStep : M Unit) >>= fun _ =>
      (modify fun s => { s with status := .notStabilising } : M Unit)) := by
  intro s r s' h
  rw [run_bind, run_modify] at h
  exact .inr ⟨s, PreOrd.refl s, by cases h; rfl⟩

theorem Split.stabiliseEnd (env fuel) : Split R (stabiliseEnd env fuel) := by
  unfold Engine.stabiliseEnd
  repeat (first
    | exact Split.tail
    | (refine Split.bind ?_ fun _ => ?_; rotate_left)
    | dsimp only)
  all_goals mpres

theorem Split.stabilise (hm : ∀ m key, P m key → Pres R (memoCall env m key))
    (hb : BodiesP P env) (fuel) : Split R (stabilise env fuel) := by
  unfold Engine.stabilise
  repeat (first
    | exact Split.stabiliseEnd _ _
    | (refine Split.bind ?_ fun _ => ?_; rotate_left)
    | dsimp only)
  all_goals (first | exact PresB.drainHeap hm hb _ | mpres)

/-! ## API actions that are plain steps -/

/-- the actions that touch neither `top`, `handles`, the observer handles, nor run `stabilise` -/
def Action.isPlain : Action → Bool
  | .stabilise | .create _ | .observe _ | .cloneObs _ | .dropObs _ | .dropHandle _ => false
  | _ => true

theorem PresI.stepAction_plain (env : Env) (a : Action) (tokens : Array Nat)
    (ha : Action.isPlain a = true) : Pres R (stepAction env a tokens) :=
  ((Footprint.Foot.stepAction_calls env a tokens).lift fun c => ILocal.of_frame0 _ _ (by
    cases c with
    | engine c => exact F0.of_call (by cases a <;> first | (dsimp only [Footprint.W.stepAction]; decide) | cases ha) c
    | own e => cases e <;> first | exact F0V.toF0 (F0V.of_eq rfl rfl rfl rfl rfl rfl rfl) | exact F0.of_edit (fun _ h => absurd h List.not_mem_nil) ‹_› | cases ha)).toObs

/-- `create i`: the instruction, then the new handle -/
theorem PresB.stepAction_create (hm : ∀ m key, P m key → Pres R (memoCall env m key))
    {i : Instr} (hi : InstrP P i) (tokens : Array Nat)
    (hpush : ∀ (s : State) (n : Nat), R s { s with top := s.top.push n, handles := n :: s.handles }) :
    Pres R (stepAction env (.create i) tokens) := by
  simp only [Engine.stepAction]
  refine Pres.bind (PresB.elabInstrM hm _ _ hi) fun r => ?_
  split
  · exact Pres.bind (Pres.modify fun s => hpush s _) fun _ => Pres.pure _
  · exact Pres.pure _

theorem PresI.stepAction_observe (env : Env) (o : Opnd) (tokens : Array Nat)
    (hpush : ∀ (s : State) (ob : ObsRec) (l : List Nat),
      R s { s with observers := s.observers.push ob, newObservers := l }) :
    Pres R (stepAction env (.observe o) tokens) := by
  simp only [Engine.stepAction]
  refine Pres.bind (Pres.resolveOpnd _ _) fun n => Pres.bind Pres.get fun s0 => ?_
  refine Pres.bind (Pres.modify fun s => hpush s _ _) fun _ => ?_
  mpres

theorem PresI.stepAction_cloneObs (env : Env) (o : Nat) (tokens : Array Nat)
    (hclone : ∀ (s : State) (f : ObsRec → ObsRec), (∀ x, (f x).node = x.node ∧ x.clones ≤ (f x).clones) →
      R s { s with observers := s.observers.modify o f }) :
    Pres R (stepAction env (.cloneObs o) tokens) := by
  simp only [Engine.stepAction]
  refine Pres.bind ?_ fun _ => Pres.pure _
  unfold Engine.modObs
  exact Pres.modify fun s => hclone s _ fun x => And.intro rfl (Nat.le_succ _)

theorem Split.stepAction_stabilise (hm : ∀ m key, P m key → Pres R (memoCall env m key))
    (hb : BodiesP P env) (tokens : Array Nat) : Split R (stepAction env .stabilise tokens) := by
  simp only [Engine.stepAction]
  intro s r s' h
  rw [run_bind] at h
  rcases hx : (Engine.stabilise env fuelDefault).run.run s with ⟨r1, s1⟩
  rw [hx] at h
  have := Split.stabilise (R := R) hm hb fuelDefault s r1 s1 hx
  cases r1 with
  | error e => cases h; exact this
  | ok a => cases h; exact this

end

/-- what `dropHandle` and `dropObs` leave alone: the node table, binds and memo tables -/
structure Quiet0 (s s' : State) : Prop where
  nodes : s'.nodes = s.nodes
  binds : s'.binds = s.binds
  memos : s'.memos = s.memos
  top : s'.top = s.top

instance : PreOrd Quiet0 :=
  ⟨fun _ => ⟨rfl, rfl, rfl, rfl⟩,
   fun h1 h2 => ⟨h2.1.trans h1.1, h2.2.trans h1.2, h2.3.trans h1.3, h2.4.trans h1.4⟩⟩

macro "qpres" : tactic => `(tactic| repeat (any_goals (first
  | with_reducible apply Pres.pure | with_reducible apply Pres.get
  | with_reducible apply Pres.bind | with_reducible apply Pres.getObs | with_reducible apply Pres.resolveOpnd
  | ((with_reducible apply Pres.modify); intro _; exact Quiet0.mk rfl rfl rfl rfl)
  | intro _ | split | dsimp only)))

theorem Quiet0.stepAction_dropHandle (env : Env) (o : Opnd) (tokens : Array Nat) :
    Pres Quiet0 (stepAction env (.dropHandle o) tokens) := by
  simp only [Engine.stepAction]; qpres

theorem Quiet0.disallowFutureUse (o : Nat) : Pres Quiet0 (disallowFutureUse o) := by
  unfold Engine.disallowFutureUse Engine.bumpCounter Engine.modObs; qpres

theorem Quiet0.stepAction_dropObs (env : Env) (o : Nat) (tokens : Array Nat) :
    Pres Quiet0 (stepAction env (.dropObs o) tokens) := by
  simp only [Engine.stepAction]
  unfold Engine.modObs
  repeat (any_goals (first
    | with_reducible apply Quiet0.disallowFutureUse
    | with_reducible apply Pres.pure | with_reducible apply Pres.get
    | with_reducible apply Pres.bind | with_reducible apply Pres.getObs
    | ((with_reducible apply Pres.modify); intro _; exact Quiet0.mk rfl rfl rfl rfl)
    | intro _ | split | dsimp only))

end IncrVerif.Proofs.MemoH
