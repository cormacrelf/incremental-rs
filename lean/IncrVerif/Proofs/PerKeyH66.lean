import IncrVerif.Proofs.PerKeyH65
/-!
# One `.right` iteration of the per-key loop, part g: **`iterRight`**
-/
namespace IncrVerif.Proofs.PerKeyH
open IncrVerif.Engine IncrVerif.Driver IncrVerif.Proofs IncrVerif.Proofs.Step IncrVerif.Proofs.Sched
open IncrVerif.Proofs.ExpertH IncrVerif.Proofs.EffH IncrVerif.Proofs.DriverH IncrVerif.Proofs.ExpertH.QR IncrVerif.Proofs.Xp

/-- the node the instance returns is a new node or a named node -/
theorem r_mapped {env : Env} {op : Nat} {key : Int} {lc : Nat} {tm : Template} {D : Nat → Prop} {σ τ : State}
    {mapped : Nat} (R : RSh env op key lc tm D σ τ mapped) (hT : TemplOK env tm) :
    σ.nodes.size ≤ mapped ∨ ∃ k : Nat, σ.top[k]? = some mapped := by
  have hret := R.ret
  have hO := hT.ret
  cases hr : tm.ret with
  | loc i =>
    rw [hr] at hret
    have hm : mapped ∈ σ.nodes.size :: List.range' (σ.nodes.size + 1) tm.instrs.length :=
      List.mem_of_getElem? (show (σ.nodes.size :: List.range' (σ.nodes.size + 1) tm.instrs.length)[i]? = some mapped from hret)
    rcases List.mem_cons.1 hm with h | h
    · exact Or.inl (by omega)
    · have := List.mem_range'_1.1 h; exact Or.inl (by omega)
  | outer k =>
    rw [hr] at hret
    exact Or.inr ⟨k, hret⟩
  | abs _ => rw [hr] at hO; exact hO.elim
  | slot _ => rw [hr] at hO; exact hO.elim

/-- **one `.right` iteration (a new key) keeps the loop invariant** -/
theorem iterRight (env : Env) : IterRight env := by
  intro s n op pr eres rk uk σ σ' fuel key v B I hnone hrk hrun
  obtain ⟨pn, hop⟩ := I.pop
  obtain ⟨er0, X⟩ := r_cx B I hop
  have S0 := r_s0 I.lf
  have hOK := B.pd.aux.pk.ops op pr B.hop
  have hrs : pr.result < s.nodes.size := by
    obtain ⟨xs, es, ers, hNs, -⟩ := hOK.nodes
    have := hNs.lt; omega
  obtain ⟨mapped, dep, σ5, hσ', R, E, R5, hpk5⟩ := r_chain I hop X hrun
  have hT : TemplOK env (env.perKey pr.fam) := X.core.templ
  have hlc : pr.lhsChange < σ.nodes.size := by have := X.lc; have := X.rlt; omega
  -- the key is new
  have hlk : pn.lookup key = none := by
    have := I.dom _ hop key
    rw [hnone] at this
    simp only [Option.isSome_none, Bool.false_or, decide_eq_false hrk] at this
    exact Option.not_isSome_iff_eq_none.1 (by rw [this]; simp)
  have hfresh : ∀ x, x ∈ pn → x.1 ≠ key := by
    intro x hx he
    have := List.lookup_eq_none_iff.1 hlk x hx
    simp [he] at this
  have hfilter : pn.filter (·.1 != key) = pn := by
    rw [List.filter_eq_self]
    intro a ha
    simpa using hfresh a ha
  have hop' : σ'.perkeys[op]? = some { pr with prevNodes := (key, (σ.nodes.size, dep)) :: pn } := by
    rw [E.perkeys, Array.getElem?_modify, if_pos rfl, hop]
    show some _ = some _
    simp only [hfilter]
  obtain ⟨er6, he6, hch6, hfs6⟩ := E.xres
  have hkres : (σ'.nodeD pr.result).kind = .expert eres := by
    rw [R.kind_old (by have := X.rlt; omega)]; exact X.hres
  obtain ⟨ψ, P⟩ := I.pot
  have hPop := P.op op _ hop
  have hout : ∀ k, k ∈ templOuter (env.perKey pr.fam) → ∀ o, σ.top[k]? = some o → o < pr.lhsChange := by
    intro k hk o ho
    obtain ⟨o', h1, h2⟩ := X.out k hk
    rw [ho] at h1; cases h1
    have := X.lc; omega
  refine
    { mid := R.mid, lf := I.lf.trans R.lfx.lf, frag := R.frag hT I.frag, slots := R.slots, obs := R.obs I.obs,
      psize := by rw [E.perkeys, Array.size_modify]; exact I.psize,
      pother := fun op' h => by rw [E.perkeys, Array.getElem?_modify, if_neg (Ne.symm h)]; exact I.pother op' h,
      pop := ⟨_, hop'⟩,
      core := fun pr' h => by
        rw [hop'] at h; cases h
        exact r_opcore R E I.mid I.frag I.slots X.core X.hres X.he hfresh X.named R.inst (Or.inr R.input_new),
      dom := ?_, pnOld := ?_, newrec := ?_, pot := ?_, newKids := ?_, resKids := ?_,
      resNec := R.lfx.lf.nec _ I.resNec,
      forcedU := ?_, resAlt := ?_, fsame := ?_ }
  · -- dom
    intro pr' h k
    rw [hop'] at h; cases h
    show (((key, (σ.nodes.size, dep)) :: pn).lookup k).isSome = _
    by_cases hk : k = key
    · subst hk
      simp
    · have h1 : (k == key) = false := by simpa using hk
      rw [List.lookup_cons, h1, I.dom _ hop k]
      simp [hk]
  · -- pnOld
    intro pr' h key' p d hm
    rw [hop'] at h; cases h
    exact List.mem_cons_of_mem _ (I.pnOld _ hop key' p d hm)
  · -- newrec
    intro e er hge he
    by_cases hlt : e < σ.experts.size
    · have h1 : σ.experts[e]? = some σ.experts[e] := Array.getElem?_eq_getElem hlt
      obtain ⟨er2, he2, -, k2, k3, -⟩ := R.lfx.lf.xrec e _ h1
      rw [he] at he2; cases he2
      obtain ⟨pr', key', d, hp, hpk, hmem⟩ := I.newrec e _ hge h1
      rw [hop] at hp; cases hp
      exact ⟨_, key', d, hop', k3.trans hpk, by rw [k2]; exact List.mem_cons_of_mem _ hmem⟩
    · obtain ⟨erX, hx, x1, x2, x3, x4, x5⟩ := R.xnew
      have hlt2 := (Array.getElem?_eq_some_iff.1 he).1
      rw [R.xsize] at hlt2
      have : e = σ.experts.size := by omega
      subst this
      rw [hx] at he; cases he
      exact ⟨_, key, dep, hop', x3, by rw [x2]; exact List.mem_cons_self ..⟩
  · -- pot
    have hlcψ : ψ pr.lhsChange = 2 * pr.lhsChange := hPop.2.1
    have hresψ : ψ pr.result = 2 * pr.lhsChange + 1 := hPop.1
    have he5 : σ5.experts[eres]? = some er6 := by rw [hσ'] at he6; exact he6
    have P5 : Pot σ5 (rPsi σ pr.lhsChange ψ) := by
      refine R5.pot hT I.mid P X.named hlc hlcψ hout hpk5 X.ops ?_
      intro n' e er er' ed hn hk hd he he' hed
      subst hd
      rw [X.he] at he; cases he
      rw [he5] at he'; cases he'
      rw [hch6] at hed
      rcases List.mem_append.1 hed with h | h
      · exact Or.inl h
      · right
        rw [List.mem_singleton.1 h]
        have h2 := R5.pot_mapped hT P hlc hout
        have : n' = pr.result := I.frag.xinj hk X.hres
        rw [this, hresψ]
        show rPsi σ pr.lhsChange ψ mapped ≤ _
        omega
    refine ⟨rPsi σ pr.lhsChange ψ, ?_⟩
    rw [hσ']
    exact pot_cons (pr5 := { pr with prevNodes := pn }) P5 (by rw [hpk5]; exact hop) (rPsi_ge (Nat.le_refl _))
  · -- newKids
    intro c x hc1 hc2 hx
    by_cases hlt : c < σ.nodes.size
    · rcases R.oldKids I.mid hlt hx with h | ⟨e, er, er', ed, hk, hd, -⟩
      · exact I.newKids c x hc1 hlt h
      · subst hd
        have : c = pr.result := I.frag.xinj hk X.hres
        omega
    · rcases R.newKids hT c x (Nat.not_lt.1 hlt) hc2 hx with h | ⟨h, -⟩ | ⟨k, -, h⟩
      · exact Or.inl h
      · exact Or.inr (Or.inl (Nat.le_trans S0.grow h))
      · exact Or.inr (Or.inr ⟨k, by rw [← S0.top]; exact h⟩)
  · -- resKids
    intro ers er' hs h ed hed
    rw [he6] at h; cases h
    rw [hch6] at hed
    rcases List.mem_append.1 hed with h | h
    · exact I.resKids ers er0 hs X.he ed h
    · rw [List.mem_singleton.1 h]
      rcases r_mapped R hT with h1 | ⟨k, h1⟩
      · exact Or.inr (Or.inl (Nat.le_trans S0.grow h1))
      · exact Or.inr (Or.inr ⟨k, by rw [← S0.top]; exact h1⟩)
  · -- forcedU
    intro key' p d hk hm
    have h0 := I.forcedU key' p d hk hm
    have hplt : p < σ.nodes.size := (X.ops op _ hop).2.2 key' p d (I.pnOld _ hop key' p d hm)
    exact R.lfx.lf.stamp hplt h0
  · -- resAlt
    right
    rw [hkres]
    simp only [ExpertH.forced, xRec_some he6]
    exact hfs6
  · -- fsame
    intro e ers er'' hne hs h
    obtain ⟨er1, h1, -⟩ := I.lf.xrec e ers hs
    have h2 := R.lfx.fs e er1 er'' hne h1 h
    rcases I.fsame e ers er1 hne hs h1 with h3 | h3
    · exact Or.inl (h2.trans h3)
    · exact Or.inr h3

end IncrVerif.Proofs.PerKeyH
