import IncrVerif.Proofs.NestH76
import IncrVerif.Proofs.NestH48
import IncrVerif.Proofs.NestH49
import IncrVerif.Proofs.NestH50
import IncrVerif.Proofs.Quiet27
/-!
# Total correctness for nested binds (F2), API actions other than `stabilise`, part 1: definitions, `TInv2` under extension, `create` returns

`elab_ret`, `create_total` of `CutH38` for `QInv2 env rk`/`TInv2 rk N`.
The state-generic lemmas `Quiet.resolveOpnd_run`, `Quiet.mapM_resolve_run`, `isConstant_run`, `map_run_ok` are reused unchanged.

* `InstrIn2 s i`: the operands of the creation instruction exist (`Quiet.InstrIn`, and for `bind body lhs`: `lhs` is an entry of the naming table).
* `ActionOK2 N s a`: the indices exist and there is room (`s.nodes.size + 2 ≤ N` before a `create`: a bind creates two nodes).
* `grow2`, `growTop`, `Grown2 a s s'`: the exact sizes after an action (nodes, var cells, observers, naming table).
* `T2k.tinv2_ext`: `TInv2` survives an extension of the state by pristine nodes (`C2c.Ext`) under an extended rank (`N4c.RkUp`): old nodes keep their rank,
  `cnt` only grows with the node table (`cnt_ext`), new nodes are unnecessary.
* `create_run2`: a `create` of fragment F2 whose operands exist returns (no room needed: node creation checks no limit); `QInv2` under the extended rank.
* `create_total2`: with room for the `(grow2 (.create i)).1 ∈ {1, 2}` new nodes, `TInv2` under the extended rank as well.
-/
namespace IncrVerif.Proofs.NestH
open IncrVerif.Engine IncrVerif.Driver IncrVerif.Proofs IncrVerif.Proofs.Step IncrVerif.Proofs.Sched IncrVerif.Proofs.Quiet
open IncrVerif.Proofs.BindH

/-- the operands of a top-level creation instruction exist -/
def InstrIn2 (s : State) : Instr → Prop
  | .bind _ lhs => OpndIn s lhs
  | i => InstrIn s i

/-- the action names existing things and there is room for two new nodes (`stabilise` is handled elsewhere) -/
def ActionOK2 (N : Nat) (s : State) : Action → Prop
  | .create i => InstrIn2 s i ∧ s.nodes.size + 2 ≤ N
  | .stabilise => True
  | a => ActionOK N s a

/-- how many nodes / var cells / observers an action other than `stabilise` adds -/
def grow2 : Action → Nat × Nat × Nat
  | .create (.bind _ _) => (2, 0, 0)
  | a => grow a

/-- how many entries the naming table gets -/
def growTop : Action → Nat
  | .create _ => 1
  | _ => 0

/-- the sizes after an action -/
def Grown2 (a : Action) (s s' : State) : Prop :=
  s'.nodes.size = s.nodes.size + (grow2 a).1 ∧ s'.vars.size = s.vars.size + (grow2 a).2.1 ∧
    s'.observers.size = s.observers.size + (grow2 a).2.2 ∧ s'.top.size = s.top.size + growTop a

theorem grow2_le (a : Action) : (grow2 a).1 ≤ 2 ∧ (grow2 a).2.1 ≤ 1 ∧ (grow2 a).2.2 ≤ 1 := by
  unfold grow2
  split
  · exact ⟨Nat.le_refl _, Nat.zero_le _, Nat.zero_le _⟩
  · unfold grow
    split <;> simp

namespace T2k

/-- `TInv2` survives an extension of the state by pristine nodes under an extended rank -/
theorem tinv2_ext {rk rk' : Nat → Nat} {N : Nat} {s s' : State} (T : TInv2 rk N s) (U : N4c.RkUp rk rk' s.nodes.size)
    (E : C2c.Ext s s') (hroom : s'.nodes.size ≤ N) : TInv2 rk' N s' where
  hb m hn ho := by
    have hm := E.lt_of_nec hn
    rw [E.nec_old hm] at hn
    rw [E.old m hm]
    have h1 := T.hb m hn ho
    have h2 := cnt_ext U.rkExt hm E.grow
    omega
  room := ⟨by rw [E.ahh]; exact T.room.ahh, by rw [E.rch]; exact T.room.rch, hroom⟩
  linked c vc h := by
    rcases E.vars with e | ⟨v, e⟩
    · rw [e] at h; exact T.linked c vc h
    · rw [e, Array.getElem?_push] at h
      split at h
      · injection h with h
        rw [← h]
      · exact T.linked c vc h
  newNodup := by rw [E.newObservers]; exact T.newNodup
  newState o ob h1 h2 := by
    rw [E.newObservers] at h1
    rw [E.observers] at h2
    exact T.newState o ob h1 h2

/-- the elaboration of a top-level instruction of the fragment whose operands exist returns -/
theorem elab_ret2 {env : Env} {rk : Nat → Nat} {s : State} {i : Instr} (Q : QInv2 env rk s) (hi : InstrTop2 env s.top.size i)
    (hin : InstrIn2 s i) :
    ∃ ro s1, (elabInstrM env [] .unit i).run.run s = (.ok ro, s1) ∧
      s1.nodes.size = s.nodes.size + (grow2 (.create i)).1 ∧ s1.vars.size = s.vars.size + (grow2 (.create i)).2.1 := by
  have hsc := Q.struct.frag.scope
  cases i with
  | const v =>
    unfold elabInstrM
    simp only
    unfold elabInstr
    rw [run_bind_get]
    simp only [hsc]
    exact ⟨_, _, map_run_ok (createNode_top_run _ s), by simp only [Array.size_push]; rfl, rfl⟩
  | var v =>
    unfold elabInstrM
    simp only
    unfold elabInstr
    rw [run_bind_get]
    simp only
    exact ⟨_, _, map_run_ok (createVar_top_run _ s), by simp only [Array.size_push]; rfl, by simp only [Array.size_push]; rfl⟩
  | map f args =>
    unfold elabInstrM
    simp only
    unfold elabInstr
    rw [run_bind_get]
    simp only [hsc]
    obtain ⟨r, hr⟩ := mapM_resolve_run args hin
    rw [run_bind_ok hr]
    exact ⟨_, _, map_run_ok (createNode_top_run _ s), by simp only [Array.size_push]; rfl, rfl⟩
  | fold f init cs =>
    unfold elabInstrM
    simp only
    unfold elabInstr
    rw [run_bind_get]
    simp only [hsc]
    obtain ⟨r, hr⟩ := mapM_resolve_run cs hin
    rw [run_bind_ok hr]
    split
    · exact ⟨_, _, map_run_ok (createNode_top_run _ s), by simp only [Array.size_push]; rfl, rfl⟩
    · exact ⟨_, _, map_run_ok (createNode_top_run _ s), by simp only [Array.size_push]; rfl, rfl⟩
  | zip a b =>
    have hi' : StaticInstr env (.zip a b) := hi
    have hin' : InstrIn s (.zip a b) := hin
    unfold elabInstrM
    simp only
    unfold elabInstr
    rw [run_bind_get]
    simp only [hsc]
    obtain ⟨na, hna⟩ := resolveOpnd_run hin'.1
    obtain ⟨nb, hnb⟩ := resolveOpnd_run hin'.2
    obtain ⟨-, ka, hka⟩ := resolveOpnd_outer_inv hi'.1 hna
    obtain ⟨-, kb, hkb⟩ := resolveOpnd_outer_inv hi'.2 hnb
    obtain ⟨ca, hca⟩ := isConstant_run (Q.f2.topOK ka na hka).1
    obtain ⟨cb, hcb⟩ := isConstant_run (Q.f2.topOK kb nb hkb).1
    rw [run_bind_ok hna, run_bind_ok hnb, run_bind_ok hca, run_bind_ok hcb]
    split
    · exact ⟨_, _, map_run_ok (createNode_top_run _ s), by simp only [Array.size_push]; rfl, rfl⟩
    · exact ⟨_, _, map_run_ok (createNode_top_run _ s), by simp only [Array.size_push]; rfl, rfl⟩
  | bind body lhs =>
    have hin' : OpndIn s lhs := hin
    unfold elabInstrM
    simp only
    unfold elabInstr
    rw [run_bind_get]
    simp only
    obtain ⟨n, hn⟩ := resolveOpnd_run hin'
    rw [run_bind_ok hn]
    exact ⟨_, _, map_run_ok (C2c.createBind_run body n s hsc), by simp only [Array.size_push]; rfl, rfl⟩
  | _ => exact hi.elim

end T2k

/-- **`create` never panics** (no room needed for that).  A `create` of fragment F2 (static instruction, or top-level `bind body (outer k)` with a closure
in F2) whose operands exist returns; `QInv2` holds under an EXTENDED rank (old ranks unchanged); the exact sizes. -/
theorem create_run2 {env : Env} {rk : Nat → Nat} {s : State} {i : Instr} {tk : Array Nat}
    (Q : QInv2 env rk s) (hi : InstrTop2 env s.top.size i) (hin : InstrIn2 s i) :
    ∃ r s' rk', (stepAction env (.create i) tk).run.run s = (.ok r, s') ∧ r.2 = tk ∧
      N4c.RkUp rk rk' s.nodes.size ∧ QInv2 env rk' s' ∧ Grown2 (.create i) s s' ∧ C2c.Ext s s' := by
  obtain ⟨ro, s1, hrun, hns, hvs⟩ := T2k.elab_ret2 Q hi hin
  have hstep : ∃ r s', (stepAction env (.create i) tk).run.run s = (.ok r, s') ∧ r.2 = tk ∧ s'.nodes = s1.nodes ∧
      s'.vars = s1.vars := by
    unfold stepAction
    simp only
    rw [run_bind_ok hrun]
    cases ro with
    | none => exact ⟨_, _, run_pure _ _, rfl, rfl, rfl⟩
    | some n =>
      simp only
      rw [run_bind_modify]
      exact ⟨_, _, run_pure _ _, rfl, rfl, rfl⟩
  obtain ⟨r, s', h, hr, en, ev⟩ := hstep
  obtain ⟨rk', U, Q', E, m, htop, -, -, -⟩ := step_create2_rk Q hi h
  refine ⟨r, s', rk', h, hr, U, Q', ⟨?_, ?_, ?_, ?_⟩, E⟩
  · rw [en]; exact hns
  · rw [ev]; exact hvs
  · rw [E.observers]
    have h0 : (grow2 (.create i)).2.2 = 0 := by
      unfold grow2
      split
      · rfl
      · unfold grow
        split <;> first | rfl | (rename_i h; cases h)
    rw [h0]; rfl
  · rw [htop, Array.size_push]; rfl

/-- **`create`, total.**  With room for the one or two new nodes, `TInv2` holds under the extended rank as well. -/
theorem create_total2 {env : Env} {rk : Nat → Nat} {N : Nat} {s : State} {i : Instr} {tk : Array Nat}
    (Q : QInv2 env rk s) (T : TInv2 rk N s) (hi : InstrTop2 env s.top.size i) (hin : InstrIn2 s i)
    (hroom : s.nodes.size + (grow2 (.create i)).1 ≤ N) :
    ∃ r s' rk', (stepAction env (.create i) tk).run.run s = (.ok r, s') ∧ r.2 = tk ∧
      N4c.RkUp rk rk' s.nodes.size ∧ QInv2 env rk' s' ∧ TInv2 rk' N s' ∧ Grown2 (.create i) s s' ∧ C2c.Ext s s' := by
  obtain ⟨r, s', rk', h, hr, U, Q', G, E⟩ := create_run2 (tk := tk) Q hi hin
  exact ⟨r, s', rk', h, hr, U, Q', T2k.tinv2_ext T U E (by rw [G.1]; exact hroom), G, E⟩

end IncrVerif.Proofs.NestH
