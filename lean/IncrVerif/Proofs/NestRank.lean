import IncrVerif.Proofs.Quiet20
import IncrVerif.Proofs.Sched12
/-!
# The position of a node in the rank order, and the height bound

* `cnt rk N n`: the number of nodes (among the first `N`) of smaller rank than `n` — the POSITION of `n` in the rank order.  It bounds the height of `n`
  (`HBo2`): heights strictly increase along child edges and from a change detector to the nodes of its scope, and both have increasing rank.  So the height limit
  is never hit while the number of nodes EVER CREATED stays `≤ N` (`Quiet.Room N s`).  (Heights of live nodes are NOT bounded by the live graph: a main node keeps
  the height a deep earlier generation gave it.)
-/
namespace IncrVerif.Proofs.NestH
open IncrVerif.Engine IncrVerif.Proofs IncrVerif.Proofs.Step IncrVerif.Proofs.Sched IncrVerif.Proofs.Quiet

/-- the position of `n` in the rank order of the first `N` nodes -/
def cnt (rk : Nat → Nat) (N n : Nat) : Nat := (List.range N).countP fun m => decide (rk m < rk n)

theorem cnt_lt_cnt {rk : Nat → Nat} {N a b : Nat} (ha : a < N) (h : rk a < rk b) : cnt rk N a < cnt rk N b := by
  unfold cnt
  apply countP_lt_of_imp _ _ _ _ a (List.mem_range.2 ha)
  · exact decide_eq_true h
  · exact decide_eq_false (Nat.lt_irrefl _)
  · intro m _ hm
    have := of_decide_eq_true hm
    exact decide_eq_true (by omega)

theorem cnt_le_cnt {rk : Nat → Nat} {N a b : Nat} (h : rk a ≤ rk b) : cnt rk N a ≤ cnt rk N b := by
  unfold cnt
  apply countP_le_of_imp
  intro m _ hm
  have := of_decide_eq_true hm
  exact decide_eq_true (by omega)

theorem cnt_lt_size {rk : Nat → Nat} {N n : Nat} (hn : n < N) : cnt rk N n < N := by
  have h1 : cnt rk N n < (List.range N).countP fun _ => true := by
    unfold cnt
    apply countP_lt_of_imp _ _ _ _ n (List.mem_range.2 hn) rfl
    · exact decide_eq_false (Nat.lt_irrefl _)
    · intro _ _ _; rfl
  have h2 : ((List.range N).countP fun _ => true) ≤ (List.range N).length := List.countP_le_length
  rw [List.length_range] at h2
  omega

theorem cnt_le_size (rk : Nat → Nat) (N n : Nat) : cnt rk N n ≤ N := by
  have h2 : cnt rk N n ≤ (List.range N).length := List.countP_le_length
  rw [List.length_range] at h2
  exact h2

/-- closed necessary nodes are not higher than their position in the rank order plus one (`becameNecessary` starts a top-level node at height 1) -/
def HBo2 (rk : Nat → Nat) (s : State) (op : Nat → Op) : Prop :=
  ∀ m, s.isNecessary m = true → op m = .closed → (s.nodeD m).height ≤ (cnt rk s.nodes.size m : Int) + 1

/-- a node of the state with a bounded position is below the height limit -/
theorem HBo2.le_max {rk : Nat → Nat} {N : Nat} {s : State} {op : Nat → Op} (hb : HBo2 rk s op) (R : Room N s) {m : Nat}
    (hm : m < s.nodes.size) (hn : s.isNecessary m = true) (ho : op m = .closed) : (s.nodeD m).height ≤ (N : Int) := by
  have h1 := hb m hn ho
  have h2 := cnt_lt_size (rk := rk) hm
  have h3 := R.size
  omega

end IncrVerif.Proofs.NestH
