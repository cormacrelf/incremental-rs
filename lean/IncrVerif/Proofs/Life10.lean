import IncrVerif.Proofs.Life9
/-!
# Observer lifecycle over whole histories, part 10: tokens are fresh and belong to one observer;
`disallow`, the last `drop` and `unsubscribe` kill the subscriptions concerned
-/
namespace IncrVerif.Proofs.Life
open IncrVerif.Engine IncrVerif.Proofs.Obs
open IncrVerif.Proofs.Step (run_bind_ok run_throw run_modObs)

/-- the tokens registered on a record, whatever its state -/
def tokensOf (x : ObsRec) : List Nat := x.handlers.map (·.token)

/-- every registered token has been issued (`< nextToken`) and is registered on one observer only -/
structure TokWF (s : State) : Prop where
  fresh : ∀ (o : Nat) (ob : ObsRec), s.observers[o]? = some ob → ∀ t, t ∈ tokensOf ob → t < s.nextToken
  unique : ∀ (o o' : Nat) (ob ob' : ObsRec), s.observers[o]? = some ob → s.observers[o']? = some ob' →
    ∀ t, t ∈ tokensOf ob → t ∈ tokensOf ob' → o = o'

theorem TokWF.init (maxHeight : Nat) (debug : Bool) : TokWF (State.init maxHeight debug) :=
  ⟨fun o ob h => by simp [State.init] at h, fun o o' ob ob' h => by simp [State.init] at h⟩

/-- registrations only shrink, index by index, and `nextToken` does not decrease -/
theorem TokWF.of_sub {s s' : State} (hn : s.nextToken ≤ s'.nextToken)
    (hs : ∀ (o : Nat) (ob' : ObsRec), s'.observers[o]? = some ob' →
      tokensOf ob' = [] ∨ ∃ ob : ObsRec, s.observers[o]? = some ob ∧ ∀ t, t ∈ tokensOf ob' → t ∈ tokensOf ob)
    (hw : TokWF s) : TokWF s' := by
  refine ⟨fun o ob' e' t ht => ?_, fun o o' ob ob' e e' t ht ht' => ?_⟩
  · rcases hs o ob' e' with h | ⟨ob, e, hsub⟩
    · rw [h] at ht; cases ht
    · exact Nat.lt_of_lt_of_le (hw.fresh o ob e t (hsub t ht)) hn
  · rcases hs o ob e with h | ⟨x, ex, hsub⟩
    · rw [h] at ht; cases ht
    · rcases hs o' ob' e' with h | ⟨x', ex', hsub'⟩
      · rw [h] at ht'; cases ht'
      · exact hw.unique o o' x x' ex ex' t (hsub t ht) (hsub' t ht')

def TokStep (s s' : State) : Prop := TokWF s → TokWF s'

theorem TokStep.of_obs {s s' : State} (h1 : s'.observers = s.observers)
    (h2 : s'.nextToken = s.nextToken) : TokStep s s' :=
  TokWF.of_sub (Nat.le_of_eq h2.symm) fun o ob' e' => .inr ⟨ob', by rw [← h1]; exact e', fun _ h => h⟩

instance : ObsLocal TokStep where
  refl _ := id
  trans h1 h2 := h2 ∘ h1
  of_eq s s' h1 _ _ h4 _ := TokWF.of_sub (Nat.le_of_eq h4.symm) fun o ob' e' =>
    .inr ⟨ob', by rw [← h1]; exact e', fun _ h => h⟩
  logEv _ _ _ := TokStep.of_obs rfl rfl

/-- `TokStep` looks at `observers` and `nextToken` only -/
macro_rules
  | `(tactic| lleaf) =>
    `(tactic| ((with_reducible apply Pres.modify); intro _; exact TokStep.of_obs rfl rfl))

theorem TokStep.modify_at {s s' : State} (o : Nat) (f : ObsRec → ObsRec)
    (ho : s'.observers = s.observers.modify o f) (hn : s'.nextToken = s.nextToken)
    (hf : ∀ x t, t ∈ tokensOf (f x) → t ∈ tokensOf x) : TokStep s s' := by
  refine TokWF.of_sub (Nat.le_of_eq hn.symm) fun m ob' e' => .inr ?_
  rw [ho, Array.getElem?_modify] at e'
  split at e'
  · cases hx : s.observers[m]? with
    | none => rw [hx] at e'; cases e'
    | some x =>
      rw [hx] at e'
      simp only [Option.map_some, Option.some.injEq] at e'
      subst e'
      exact ⟨x, rfl, hf x⟩
  · exact ⟨ob', e', fun _ h => h⟩

theorem PresT.modObs (o : Nat) (f : ObsRec → ObsRec)
    (hf : ∀ x t, t ∈ tokensOf (f x) → t ∈ tokensOf x) : Pres TokStep (modObs o f) := by
  unfold Engine.modObs
  exact Pres.modify fun s => TokStep.modify_at o f rfl rfl hf

theorem PresT.modObs_setPrev (o : Nat) (g : HandlerRec → HandlerRec)
    (hg : ∀ h, (g h).token = h.token) :
    Pres TokStep (Engine.modObs o fun x => { x with handlers := x.handlers.map g }) := by
  refine PresT.modObs o _ fun x t ht => ?_
  simp only [tokensOf, List.map_map, List.mem_map, Function.comp_def] at ht ⊢
  obtain ⟨a, ha, rfl⟩ := ht
  exact ⟨a, ha, (hg a).symm⟩

theorem PresT.modObs_filter (o : Nat) (p : HandlerRec → Bool) :
    Pres TokStep (Engine.modObs o fun x => { x with handlers := x.handlers.filter p }) := by
  refine PresT.modObs o _ fun x t ht => ?_
  simp only [tokensOf, List.mem_map, List.mem_filter] at ht ⊢
  obtain ⟨a, ⟨ha, _⟩, rfl⟩ := ht
  exact ⟨a, ha, rfl⟩

macro_rules
  | `(tactic| lleaf) =>
    `(tactic| ((with_reducible apply PresT.modObs); intro x t ht; (first | exact ht | exact absurd ht List.not_mem_nil)))
macro_rules
  | `(tactic| lleaf) =>
    `(tactic| ((with_reducible apply PresT.modObs_setPrev); intro h; (try dsimp only); split <;> rfl))
life_leaf PresT.modObs_filter

theorem PresT.logEv_any (e) : Pres TokStep (Engine.logEv e) := by
  unfold Engine.logEv; exact Pres.modify fun _ => TokStep.of_obs rfl rfl
life_leaf PresT.logEv_any

theorem PresT.disallowFutureUse (o : Nat) : Pres TokStep (disallowFutureUse o) := by
  unfold Engine.disallowFutureUse; lpres
instance : DisLocal TokStep := ⟨PresT.disallowFutureUse⟩

theorem PresT.runAll (env fuel o n nu now) : Pres TokStep (runAll env fuel o n nu now) := by
  unfold Engine.runAll; lpres
life_leaf PresT.runAll
theorem PresT.stabiliseEnd (env fuel) : Pres TokStep (stabiliseEnd env fuel) := by
  unfold Engine.stabiliseEnd; lpres
life_leaf PresT.stabiliseEnd
theorem PresT.addNewObservers (env fuel) : Pres TokStep (addNewObservers env fuel) := by
  unfold Engine.addNewObservers; lpres
life_leaf PresT.addNewObservers
theorem PresT.unlinkDisallowedObservers (fuel) : Pres TokStep (unlinkDisallowedObservers fuel) := by
  unfold Engine.unlinkDisallowedObservers; lpres
life_leaf PresT.unlinkDisallowedObservers
theorem PresT.stabilise (env fuel) : Pres TokStep (stabilise env fuel) := by
  unfold Engine.stabilise; lpres
life_leaf PresT.stabilise

theorem PresT.subscribe (o hid) : Pres TokStep (subscribe o hid) := by
  unfold Engine.subscribe
  apply Pres.get_bind_at
  intro s r s' hrun
  split at hrun
  · simp only [run_pure] at hrun; cases hrun; exact id
  cases hob : s.observers[o]? with
  | none => rw [run_bind_error (run_getObs_none hob)] at hrun; cases hrun; exact id
  | some ob =>
    rw [run_bind_ok (run_getObs_some hob)] at hrun
    have key : ∀ (rest : M (Except ObsError Nat)), Pres TokStep rest →
        ((modify fun s => { s with nextToken := s.nextToken + 1 }) >>= fun _ =>
          Engine.modObs o (fun x => { x with handlers := x.handlers ++
            [{ token := s.nextToken, hid := hid, createdAt := s.stabNum }] }) >>= fun _ => rest).run.run s
          = (r, s') → TokStep s s' := by
      intro rest hrest h
      simp only [run_bind, run_modify, run_modObs] at h
      have h2 := hrest.h _ _ _ h
      refine fun hw => h2 ?_
      -- the records of the intermediate state
      have hrec : ∀ (m : Nat) (x' : ObsRec),
          (s.observers.modify o fun x => { x with handlers := x.handlers ++
            [{ token := s.nextToken, hid := hid, createdAt := s.stabNum }] })[m]? = some x' →
          ∃ x : ObsRec, s.observers[m]? = some x ∧
            ∀ t, t ∈ tokensOf x' → t ∈ tokensOf x ∨ (m = o ∧ t = s.nextToken) := by
        intro m x' e'
        simp only [Array.getElem?_modify] at e'
        split at e'
        · rename_i hmo; subst hmo
          rw [hob] at e'
          simp only [Option.map_some, Option.some.injEq] at e'
          subst e'
          refine ⟨ob, hob, fun t ht => ?_⟩
          simp only [tokensOf, List.map_append, List.map_cons, List.map_nil, List.mem_append,
            List.mem_singleton] at ht
          rcases ht with h | h
          · exact .inl h
          · exact .inr ⟨rfl, h⟩
        · exact ⟨x', e', fun t ht => .inl ht⟩
      refine ⟨fun m x' e' t ht => ?_, fun m m' x' y' e' f' t ht ht' => ?_⟩
      · obtain ⟨x, ex, hx⟩ := hrec m x' e'
        rcases hx t ht with h | ⟨_, h⟩
        · exact Nat.lt_succ_of_lt (hw.fresh m x ex t h)
        · rw [h]; exact Nat.lt_succ_self _
      · obtain ⟨x, ex, hx⟩ := hrec m x' e'
        obtain ⟨y, ey, hy⟩ := hrec m' y' f'
        rcases hx t ht with h | ⟨hm, h⟩ <;> rcases hy t ht' with h' | ⟨hm', h'⟩
        · exact hw.unique m m' x y ex ey t h h'
        · have := hw.fresh m x ex t h
          rw [h'] at this; exact absurd this (Nat.lt_irrefl _)
        · have := hw.fresh m' y ey t h'
          rw [h] at this; exact absurd this (Nat.lt_irrefl _)
        · rw [hm, hm']
    cases hst : ob.state <;> simp only [hst] at hrun
    · exact key _ (by lpres) hrun
    · exact key _ (by lpres) hrun
    · simp only [run_pure] at hrun; cases hrun; exact id
    · simp only [run_pure] at hrun; cases hrun; exact id
life_leaf PresT.subscribe

theorem PresT.unsubscribe (o t w) : Pres TokStep (unsubscribe o t w) := by
  unfold Engine.unsubscribe; lpres
life_leaf PresT.unsubscribe

theorem TokStep.of_push {s s' : State} (n : Nat)
    (ho : s'.observers = s.observers.push { node := n }) (hn : s'.nextToken = s.nextToken) :
    TokStep s s' := by
  refine TokWF.of_sub (Nat.le_of_eq hn.symm) fun m ob' e' => ?_
  rw [ho, Array.getElem?_push] at e'
  split at e'
  · cases e'; exact .inl rfl
  · exact .inr ⟨ob', e', fun _ h => h⟩

macro_rules
  | `(tactic| lleaf) =>
    `(tactic| ((with_reducible apply Pres.modify); intro _; exact TokStep.of_push _ rfl rfl))

/-- every API action, every outcome, keeps `TokWF` -/
theorem PresT.stepAction (env : Env) (a : Action) (tokens : Array Nat) :
    Pres TokStep (stepAction env a tokens) := by
  cases a <;> (simp only [Engine.stepAction]; lpres)

theorem Run.tokWF {env : Env} {P : Action → Except Panic (String × Array Nat) → Prop} {s s' : State}
    (h : Run env P s s') (hw : TokWF s) : TokWF s' :=
  (Run.induct (R := TokStep) (fun a tokens _ => PresT.stepAction env a tokens)
    (fun _ => TokStep.of_obs rfl rfl) h) hw

/-! ## what kills a subscription -/

/-- after `disallow_future_use o` (also: after the last handle of `o` is dropped) every token registered
on `o` is dead -/
theorem dead_of_disallowState {s : State} (hw : TokWF s) (o : Nat) (ob : ObsRec)
    (e : s.observers[o]? = some ob) (tok : Nat) (ht : tok ∈ tokensOf ob) :
    Dead (disallowState s o) tok := by
  have hnt : (disallowState s o).nextToken = s.nextToken := by
    unfold disallowState; rw [e]
    obtain ⟨n, st, hs, c⟩ := ob
    cases st <;> rfl
  refine ⟨by rw [hnt]; exact hw.fresh o ob e tok ht, fun m x' e' hm => ?_⟩
  -- the records afterwards
  have hrec : (disallowState s o).observers[m]? =
      if o = m then (s.observers[m]?).map (fun x => (disallowState s o).observers[m]?.getD x)
      else s.observers[m]? := by
    split
    · rename_i hm'; subst hm'
      rw [e]; simp only [Option.map_some]
      cases h : (disallowState s o).observers[o]? with
      | none =>
        exfalso
        have hsz : (disallowState s o).observers.size = s.observers.size := by
          unfold disallowState; rw [e]
          obtain ⟨n, st, hs, c⟩ := ob
          cases st <;> simp [afterDisCreated, afterDisInUse]
        have := Array.getElem?_eq_none_iff.1 h
        have := (Array.getElem?_eq_some_iff.1 e).1
        omega
      | some y => rfl
    · rename_i hm'
      unfold disallowState; rw [e]
      obtain ⟨n, st, hs, c⟩ := ob
      cases st <;> simp [afterDisCreated, afterDisInUse, Array.getElem?_modify, hm']
  by_cases hmo : o = m
  · subst hmo
    -- the record of `o` is no longer live
    have hst : x'.state = .unlinked ∨ x'.state = .disallowed := by
      have ht := table_disallowState s o
      have hrow := congrArg (fun t : Array Row => (t[o]?).map (·.2.1)) ht
      simp only [table, Array.getElem?_map, Array.getElem?_modify, e', e, if_true, Option.map_some,
        core3, disallowRow, Option.some.injEq] at hrow
      rw [hrow]; cases ob.state <;> simp [afterDisallow]
    rcases hst with h | h <;> simp [liveTokens, h] at hm
  · rw [hrec, if_neg hmo] at e'
    have hsub : tok ∈ tokensOf x' := by
      revert hm; simp only [liveTokens, tokensOf]; cases x'.state <;> simp
    exact hmo (hw.unique o m ob x' e e' tok ht hsub)

/-- dropping the last handle of `o` kills every subscription of `o` -/
theorem dead_of_dropObsState {s : State} (hw : TokWF s) (o : Nat) (ob : ObsRec)
    (e : s.observers[o]? = some ob) (hc : ob.clones = 1) (tok : Nat) (ht : tok ∈ tokensOf ob) :
    Dead (dropObsState s o) tok := by
  unfold dropObsState
  rw [e]
  simp only [hc, Nat.one_ne_zero, if_false, if_true]
  have hw1 : TokWF { s with observers := s.observers.modify o fun x => { x with clones := x.clones - 1 } } :=
    TokStep.modify_at (s := s) o (fun x => { x with clones := x.clones - 1 }) rfl rfl (fun _ _ h => h) hw
  refine dead_of_disallowState hw1 o { ob with clones := ob.clones - 1 } ?_ tok ht
  simp [Array.getElem?_modify, e]

/-- `unsubscribe` (with the right owner) kills the subscription, whatever its outcome -/
theorem dead_of_unsubscribe {s s' : State} (hw : TokWF s) (o : Nat) (ob : ObsRec)
    (e : s.observers[o]? = some ob) (tok : Nat) (ht : tok ∈ tokensOf ob)
    (r : Except Panic (Except ObsError Unit))
    (hrun : (unsubscribe o tok o).run.run s = (r, s')) : Dead s' tok := by
  have hfresh := hw.fresh o ob e tok ht
  by_cases hst : ob.state = .created ∨ ob.state = .inUse
  · obtain ⟨s'', hr, ⟨ob', e', hs', _, hh'⟩, hoth, _, hnt, _⟩ := unsubscribe_ok s o tok ob e hst
    rw [hr] at hrun; cases hrun
    refine ⟨by rw [hnt]; exact hfresh, fun m x' ex' hm => ?_⟩
    by_cases hmo : m = o
    · subst hmo
      rw [e'] at ex'; cases ex'
      have : tok ∈ tokensOf ob' := by
        revert hm; simp only [liveTokens, tokensOf]; cases ob'.state <;> simp
      rw [tokensOf, hh'] at this
      simp only [List.mem_map, List.mem_filter, bne_iff_ne, ne_eq] at this
      obtain ⟨a, ⟨_, hne⟩, ha⟩ := this
      exact hne ha
    · rw [hoth m hmo] at ex'
      have hsub : tok ∈ tokensOf x' := by
        revert hm; simp only [liveTokens, tokensOf]; cases x'.state <;> simp
      exact hmo (hw.unique o m ob x' e ex' tok ht hsub).symm
  · have hst' : ob.state = .disallowed ∨ ob.state = .unlinked := by
      revert hst; cases ob.state <;> simp
    rw [unsubscribe_noop s o tok ob e hst'] at hrun; cases hrun
    refine ⟨hfresh, fun m x' ex' hm => ?_⟩
    by_cases hmo : m = o
    · subst hmo
      rw [e] at ex'; cases ex'
      rcases hst' with h | h <;> simp [liveTokens, h] at hm
    · have hsub : tok ∈ tokensOf x' := by
        revert hm; simp only [liveTokens, tokensOf]; cases x'.state <;> simp
      exact hmo (hw.unique o m ob x' e ex' tok ht hsub).symm

end IncrVerif.Proofs.Life
