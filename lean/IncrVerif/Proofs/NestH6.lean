import IncrVerif.Proofs.NestH5
/-!
# Nested binds (F2), part d: frames — what `All2`, child lists, staleness read (`All2.congr`, `BL.KeyEq`), `AboveR2`; basic facts about `GInv2`, its congruence, re-stamping one node
-/
namespace IncrVerif.Proofs.NestH
open IncrVerif.Engine IncrVerif.Proofs IncrVerif.Proofs.Step IncrVerif.Proofs.Sched IncrVerif.Proofs.Quiet
open IncrVerif.Proofs.BindH

/-- nodes of higher rank than `n` are untouched (the rank version of `Quiet.Above`) -/
def AboveR2 (rk : Nat → Nat) (s : State) (n : Nat) (s' : State) : Prop := ∀ m, rk n < rk m → s'.nodeD m = s.nodeD m

theorem AboveR2.trans {rk : Nat → Nat} {n : Nat} {a b c : State} (h1 : AboveR2 rk a n b) (h2 : AboveR2 rk b n c) :
    AboveR2 rk a n c := fun m hm => (h2 m hm).trans (h1 m hm)

theorem AboveR2.mono {rk : Nat → Nat} {n k : Nat} {a b : State} (h : AboveR2 rk a n b) (hk : rk n ≤ rk k) : AboveR2 rk a k b :=
  fun m hm => h m (by omega)

/-! ## `All2` is a property of the keys -/

/-- `All2` only reads kinds, validity, cutoffs, scopes, the bind table, the node count (and the ghost rank) -/
theorem All2.congr {env : Env} {rk : Nat → Nat} {s s' : State} {dy : List Nat} (A : All2 env rk s dy)
    (hsz : s'.nodes.size = s.nodes.size) (hb : s'.binds = s.binds)
    (eK : ∀ m, (s'.nodeD m).kind = (s.nodeD m).kind) (eV : ∀ m, (s'.nodeD m).valid = (s.nodeD m).valid)
    (eCut : ∀ m, (s'.nodeD m).cutoff = (s.nodeD m).cutoff)
    (eC : ∀ m, (s'.nodeD m).createdIn = (s.nodeD m).createdIn)
    (hpc : s'.panicCountdown = none) (hsc : s'.currentScope = .top) : All2 env rk s' dy := by
  have hch : ∀ m, s'.children m = s.children m := fun m => by
    by_cases hm : m < s.nodes.size
    · exact children_congr_B (eK m) (eV m) hb (A.node m hm).kind
    · rw [children_default s m (by omega), children_default s' m (by rw [hsz]; omega)]
  refine ⟨hpc, hsc, fun n hn => ?_, ?_, ?_, ?_, ?_, ?_, ?_, ?_, ?_⟩
  · have sn := A.node n (by rw [← hsz]; exact hn)
    refine ⟨by rw [eK]; exact sn.kind, by rw [eCut]; exact sn.cutoff, ?_, ?_, ?_, ?_, ?_, ?_, ?_, ?_⟩
    · rw [hch, hsz]; exact sn.kidsIn
    · intro c hc; rw [hch] at hc; rw [eV]; exact sn.kidsValid c hc
    · rw [hch]; exact sn.kidLt
    · rw [eK, hb]; exact sn.lcRec
    · rw [eK, hb]; exact sn.mainRec
    · intro c b hc hk
      rw [hch] at hc
      rw [eK] at hk ⊢
      exact sn.lcChild c b hc hk
    · intro h
      rw [eC] at h
      obtain ⟨h1, h2⟩ := sn.top h
      refine ⟨by rw [eV]; exact h1, ?_⟩
      intro c hc
      rw [hch] at hc
      rw [eC, eK]
      exact h2 c hc
    · intro b h
      rw [eC] at h
      obtain ⟨h2, br, h3, h4, h5⟩ := sn.inScope b h
      refine ⟨by rw [eK]; exact h2, br, by rw [hb]; exact h3, h4, ?_⟩
      intro c hc
      rw [hch] at hc
      rw [eC, eK]
      exact h5 c hc
  · intro b br hbr
    rw [hb] at hbr
    rw [hsz, eK, eK, eC, eC]
    exact A.recs b br hbr
  · intro b br hbr m
    rw [hb] at hbr
    rw [hsz, eV, eC]
    exact A.gen b br hbr m
  · intro b br hbr
    rw [hb] at hbr
    exact A.genDy b br hbr
  · intro m hm
    rw [hsz, eC]
    exact A.dyIn m hm
  · intro n b br hn hv hsc' hbr
    rw [hsz] at hn; rw [eV] at hv; rw [eC] at hsc'; rw [hb] at hbr
    rw [eV, eV]
    exact A.scopeValid n b br hn hv hsc' hbr
  · intro b br hbr
    rw [hb] at hbr
    rw [eV, eV]
    exact A.recValid b br hbr
  · intro n b br hn hsc' hbr
    rw [hsz] at hn; rw [eC] at hsc'; rw [hb] at hbr
    exact A.scopeRk n b br hn hsc' hbr
  · intro n m hn hm
    rw [hsz] at hn hm
    exact A.rkInj n m hn hm

namespace KeyEq2
variable {env : Env} {rk : Nat → Nat} {s s' : State} {dy : List Nat}

theorem children2 (E : BL.KeyEq s s') (A : All2 env rk s dy) (m : Nat) : s'.children m = s.children m := by
  by_cases hm : m < s.nodes.size
  · exact children_congr_B (E.kind m) (E.valid m) E.binds (A.node m hm).kind
  · rw [children_default s m (by omega), children_default s' m (by rw [E.size]; omega)]

theorem isStale2 (E : BL.KeyEq s s') (A : All2 env rk s dy) (m : Nat) : s'.isStale m = s.isStale m := by
  by_cases hm : m < s.nodes.size
  · exact isStale_congr_B (A.node m hm).kind (E.kind m) (E.valid m) (E.recomputedAt m) E.vars E.binds
      (fun c _ => E.changedAt c)
  · rw [isStale_default s m (by omega), isStale_default s' m (by rw [E.size]; omega)]

theorem frag2 (E : BL.KeyEq s s') (A : All2 env rk s dy) (hpc : s'.panicCountdown = none)
    (hsc : s'.currentScope = .top) : All2 env rk s' dy :=
  A.congr E.size E.binds E.kind E.valid E.cutoff E.createdIn hpc hsc

end KeyEq2

/-! ## basic facts about `GInv2`; congruence -/

section
variable {env : Env} {rk : Nat → Nat} {s s' : State} {op : Nat → Op} {ex : Nat → Prop} {dy : List Nat}

theorem GInv2.node (I : GInv2 env rk s op ex dy) {n : Nat} (h : n < s.nodes.size) : N2 env rk s dy n := I.frag.node n h

theorem GInv2.kid_ne (I : GInv2 env rk s op ex dy) {p i c : Nat} (h : (s.children p)[i]? = some c) : c ≠ p := by
  intro e; have := I.kid_rk h; rw [e] at this; exact Nat.lt_irrefl _ this

theorem GInv2.kid_in (I : GInv2 env rk s op ex dy) {p i c : Nat} (h : (s.children p)[i]? = some c) :
    c < s.nodes.size := (I.frag.node p (children_lt_size h)).kidsIn c (List.mem_of_getElem? h)

theorem GInv2.kid_valid (I : GInv2 env rk s op ex dy) {p i c : Nat} (h : (s.children p)[i]? = some c) :
    (s.nodeD c).valid = true := (I.frag.node p (children_lt_size h)).kidsValid c (List.mem_of_getElem? h)

theorem GInv2.par_rk (I : GInv2 env rk s op ex dy) {c p i : Nat} (h : (p, i) ∈ (s.nodeD c).parents) :
    rk c < rk p := I.kid_rk (I.par c p i h).1

/-- a necessary node is valid -/
theorem GInv2.valid_of_nec (I : GInv2 env rk s op ex dy) {m : Nat} (h : s.isNecessary m = true) :
    (s.nodeD m).valid = true := by
  cases hv : (s.nodeD m).valid with
  | true => rfl
  | false =>
    obtain ⟨h1, h2, h3, -, -⟩ := I.inv m hv
    simp only [State.isNecessary, Node.isNecessary, h1, h2, h3] at h
    cases h

/-- an open node is valid -/
theorem GInv2.valid_of_open (I : GInv2 env rk s op ex dy) {m : Nat} (h : op m ≠ .closed) :
    (s.nodeD m).valid = true := by
  cases hv : (s.nodeD m).valid with
  | true => rfl
  | false => exact absurd (I.inv m hv).2.2.2.2 h

/-- the fields `inv`, `scopeObs`, `lcObs` through a step that keeps validity, kinds, scopes, observers, forcing -/
theorem GInv2.extras {op' : Nat → Op} (I : GInv2 env rk s op ex dy) (E : BL.KeyEq s s')
    (hob : ∀ m, (s'.nodeD m).observers = (s.nodeD m).observers)
    (hfo : ∀ m, (s'.nodeD m).forceNecessary = (s.nodeD m).forceNecessary)
    (hpa : ∀ m, (s.nodeD m).valid = false → (s'.nodeD m).parents = (s.nodeD m).parents)
    (hq : ∀ m, (s.nodeD m).valid = false → (s'.nodeD m).inRch = (s.nodeD m).inRch)
    (hop : ∀ m, (s.nodeD m).valid = false → op m = .closed → op' m = .closed) :
    (∀ m, (s'.nodeD m).valid = false →
      (s'.nodeD m).parents = [] ∧ (s'.nodeD m).observers = [] ∧ (s'.nodeD m).forceNecessary = false ∧
        (s'.nodeD m).inRch = false ∧ op' m = .closed) ∧
    (∀ m b, (s'.nodeD m).createdIn = .bind b → (s'.nodeD m).observers = []) ∧
    (∀ m b, (s'.nodeD m).kind = .bindLhsChange b → (s'.nodeD m).observers = []) := by
  refine ⟨?_, ?_, ?_⟩
  · intro m hv
    rw [E.valid] at hv
    obtain ⟨h1, h2, h3, h4, h5⟩ := I.inv m hv
    exact ⟨by rw [hpa m hv]; exact h1, by rw [hob]; exact h2, by rw [hfo]; exact h3, by rw [hq m hv]; exact h4,
      hop m hv h5⟩
  · intro m b h
    rw [E.createdIn] at h
    rw [hob]; exact I.scopeObs m b h
  · intro m b h
    rw [E.kind] at h
    rw [hob]; exact I.lcObs m b h

end

/-- the invariant only reads the fields of `SameG`, and the bind table -/
theorem GInv2.congr {env : Env} {rk : Nat → Nat} {s s' : State} {op : Nat → Op} {ex : Nat → Prop} {dy : List Nat} (I : GInv2 env rk s op ex dy)
    (hB : SameB s s') : GInv2 env rk s' op ex dy := by
  have h := hB.g
  have E := BL.KeyEq.of_same hB
  obtain ⟨x1, x2, x3⟩ := GInv2.extras (op' := op) I E (fun m => (h.node m).observers)
    (fun m => (h.node m).forceNecessary) (fun m _ => (h.node m).parents) (fun m _ => h.inRch m)
    (fun m _ ho => ho)
  exact {
    inv := x1
    scopeObs := x2
    lcObs := x3
    scopeH := fun m b br hv hsc hb hn ho => by
      rw [E.valid] at hv; rw [E.createdIn] at hsc; rw [E.binds] at hb; rw [h.nec] at hn
      rw [(h.node _).height, (h.node _).height]
      exact I.scopeH m b br hv hsc hb hn ho
    frag := KeyEq2.frag2 E I.frag (by rw [h.pc]; exact I.frag.pc) (by rw [h.scope]; exact I.frag.scope)
    par := fun c p i hm => by
      rw [(h.node c).parents] at hm
      rw [KeyEq2.children2 E I.frag, h.wants]
      exact I.par c p i hm
    conv := fun p i c hk hw => by
      rw [KeyEq2.children2 E I.frag] at hk
      rw [h.wants] at hw
      rw [(h.node c).parents]
      exact I.conv p i c hk hw
    nodup := fun c => by rw [(h.node c).parents]; exact I.nodup c
    hlt := fun c p i hm ho => by
      rw [(h.node c).parents] at hm
      rw [(h.node c).height, (h.node p).height]
      exact I.hlt c p i hm ho
    hpos := fun n hn ho => by
      rw [h.nec] at hn
      rw [(h.node n).height]; exact I.hpos n hn ho
    lnec := fun p k ho => by rw [h.nec]; exact I.lnec p k ho
    unec := fun p k ho => by rw [h.nec]; exact I.unec p k ho
    heap := I.heap.congr h.rch h.size (fun m => (h.node m).heightInRch)
    hgt := fun m hq ho => by
      rw [h.inRch] at hq
      rw [(h.node m).heightInRch, (h.node m).height]; exact I.hgt m hq ho
    qnec := fun m hq => by
      rw [h.inRch] at hq
      rw [h.nec]; exact I.qnec m hq
    queued := fun m ho hn hs hx => by
      rw [h.nec] at hn
      rw [KeyEq2.isStale2 E I.frag] at hs
      rw [h.inRch]; exact I.queued m ho hn hs hx
    qstale := fun m hq => by
      rw [h.inRch] at hq
      rw [KeyEq2.isStale2 E I.frag]; exact I.qstale m hq
    opLt := fun m ho => by rw [h.size]; exact I.opLt m ho }

/-- the structural invariant when one node (not queued) is re-stamped: only `queued` and `qstale` have to be
re-established -/
theorem NC.ginv2_restamp {env : Env} {rk : Nat → Nat} {s s1 : State} {n : Nat} {ex ex' : Nat → Prop} {dy : List Nat}
    (G : GInv2 env rk s allClosed ex dy)
    (hpc : s1.panicCountdown = s.panicCountdown) (hsc : s1.currentScope = s.currentScope)
    (hsz : s1.nodes.size = s.nodes.size) (hrch : s1.rch = s.rch) (hvars : s1.vars = s.vars)
    (hbinds : s1.binds = s.binds)
    (hnd : ∀ m, ∃ y, s1.nodeD m = { s.nodeD m with recomputedAt := y })
    (hother : ∀ m, m ≠ n → s1.nodeD m = s.nodeD m)
    (hnq : (s.nodeD n).inRch = false) (hfresh : s1.isStale n = false)
    (hq : ∀ m, m ≠ n → s.isNecessary m = true → s.isStale m = true → ¬ ex' m → (s.nodeD m).inRch = true) :
    GInv2 env rk s1 allClosed ex' dy := by
  have hkind : ∀ m, (s1.nodeD m).kind = (s.nodeD m).kind := fun m => by
    obtain ⟨y, e⟩ := hnd m; rw [e]
  have hvalid : ∀ m, (s1.nodeD m).valid = (s.nodeD m).valid := fun m => by
    obtain ⟨y, e⟩ := hnd m; rw [e]
  have hcutoff : ∀ m, (s1.nodeD m).cutoff = (s.nodeD m).cutoff := fun m => by
    obtain ⟨y, e⟩ := hnd m; rw [e]
  have hcreated : ∀ m, (s1.nodeD m).createdIn = (s.nodeD m).createdIn := fun m => by
    obtain ⟨y, e⟩ := hnd m; rw [e]
  have hparents : ∀ m, (s1.nodeD m).parents = (s.nodeD m).parents := fun m => by
    obtain ⟨y, e⟩ := hnd m; rw [e]
  have hobs : ∀ m, (s1.nodeD m).observers = (s.nodeD m).observers := fun m => by
    obtain ⟨y, e⟩ := hnd m; rw [e]
  have hforce : ∀ m, (s1.nodeD m).forceNecessary = (s.nodeD m).forceNecessary := fun m => by
    obtain ⟨y, e⟩ := hnd m; rw [e]
  have hheight : ∀ m, (s1.nodeD m).height = (s.nodeD m).height := fun m => by
    obtain ⟨y, e⟩ := hnd m; rw [e]
  have hhrch : ∀ m, (s1.nodeD m).heightInRch = (s.nodeD m).heightInRch := fun m => by
    obtain ⟨y, e⟩ := hnd m; rw [e]
  have hchg : ∀ m, (s1.nodeD m).changedAt = (s.nodeD m).changedAt := fun m => by
    obtain ⟨y, e⟩ := hnd m; rw [e]
  have hinr : ∀ m, (s1.nodeD m).inRch = (s.nodeD m).inRch := fun m => by
    unfold Node.inRch; rw [hhrch m]
  have hnec : ∀ m, s1.isNecessary m = s.isNecessary m := fun m => by
    unfold State.isNecessary Node.isNecessary; rw [hparents, hobs, hforce]
  have hch : ∀ m, s1.children m = s.children m := fun m => by
    by_cases hm : m < s.nodes.size
    · exact children_congr_B (hkind m) (hvalid m) hbinds (G.frag.node m hm).kind
    · rw [children_default s m (by omega), children_default s1 m (by rw [hsz]; omega)]
  have hst : ∀ m, m ≠ n → s1.isStale m = s.isStale m := fun m e => by
    by_cases hm : m < s.nodes.size
    · exact isStale_congr_B (G.frag.node m hm).kind (hkind m) (hvalid m) (by rw [hother m e]) hvars hbinds
        (fun c _ => hchg c)
    · rw [isStale_default s m (by omega), isStale_default s1 m (by rw [hsz]; omega)]
  have hw : ∀ p i, Wants s1 allClosed p i ↔ Wants s allClosed p i := fun p i => by
    rw [wants_closed rfl, wants_closed rfl, hnec]
  exact {
    frag := All2.congr G.frag hsz hbinds hkind hvalid hcutoff hcreated (by rw [hpc]; exact G.frag.pc)
      (by rw [hsc]; exact G.frag.scope)
    par := fun c p i hm => by
      rw [hparents] at hm
      rw [hch, hw]
      exact G.par c p i hm
    conv := fun p i c hk hwn => by
      rw [hch] at hk
      rw [hw] at hwn
      rw [hparents]
      exact G.conv p i c hk hwn
    nodup := fun c => by rw [hparents]; exact G.nodup c
    hlt := fun c p i hm ho => by
      rw [hparents] at hm
      rw [hheight, hheight]
      exact G.hlt c p i hm ho
    hpos := fun m hn ho => by
      rw [hnec] at hn
      rw [hheight]; exact G.hpos m hn ho
    lnec := fun p k ho => by cases ho
    unec := fun p k ho => by cases ho
    heap := G.heap.congr hrch hsz hhrch
    hgt := fun m hq' ho => by
      rw [hinr] at hq'
      rw [hhrch, hheight]; exact G.hgt m hq' ho
    qnec := fun m hq' => by
      rw [hinr] at hq'
      rw [hnec]; exact G.qnec m hq'
    queued := fun m _ hn hs hx => by
      have e : m ≠ n := by
        intro e; subst e; rw [hfresh] at hs; cases hs
      rw [hnec] at hn
      rw [hst m e] at hs
      rw [hinr]; exact hq m e hn hs hx
    qstale := fun m hq' => by
      rw [hinr] at hq'
      have e : m ≠ n := by
        intro e; subst e; rw [hnq] at hq'; cases hq'
      rw [hst m e]; exact G.qstale m hq'
    opLt := fun m ho => absurd rfl ho
    scopeH := fun m b br hv hsc' hb hn ho => by
      rw [hvalid] at hv
      rw [hcreated] at hsc'
      rw [hbinds] at hb
      rw [hnec] at hn
      rw [hheight, hheight]
      exact G.scopeH m b br hv hsc' hb hn ho
    inv := fun m hv => by
      rw [hvalid] at hv
      rw [hparents, hobs, hforce, hinr]
      exact G.inv m hv
    scopeObs := fun m b h => by
      rw [hcreated] at h
      rw [hobs]; exact G.scopeObs m b h
    lcObs := fun m b h => by
      rw [hkind] at h
      rw [hobs]; exact G.lcObs m b h }

end IncrVerif.Proofs.NestH
