import IncrVerif.Proofs.MapRef20
/-!
# The `didChange` invariant of `map_ref` nodes through the linking cascade, for any order of the nodes and with invalid nodes

`KInv env g s`: a valid necessary `map_ref` node whose flag is down reads its ghost value.  The cascade may find a `map_ref` node
unclean when it links it; `markMapRefUnknown` then raises its flag and those of the `map_ref` nodes above it (`MkV`).
What the cascade needs of the state is `CK rk s`: no expert nodes, a rank `rk` that decreases along child edges, valid children.
`Proofs/MapRef21.lean` is the case `rk = id` with every node valid; `Proofs/FullH22.lean` takes `CK` from `CFrag`.
From `MapRefH`: `VFrame`, `PP`, `Lt`, `PresLt.*`, `markMapRefUnknown_lt`, `FM`.
-/
namespace IncrVerif.Proofs.FullH
open IncrVerif.Engine IncrVerif.Proofs IncrVerif.Proofs.Step IncrVerif.Proofs.Sched IncrVerif.Proofs.Quiet
open IncrVerif.Proofs.MapRefH

/-- the `didChange` invariant -/
def KInv (env : Env) (g : Nat → Option Val) (s : State) : Prop :=
  ∀ m p i, (s.nodeD m).valid = true → s.isNecessary m = true → (s.nodeD m).kind = .mapRef p i →
    (s.nodeD m).didChange = false → g m = s.value env m

/-- the ghost value is not what the node reads -/
def Unclean (env : Env) (g : Nat → Option Val) (s : State) (m : Nat) : Prop := g m ≠ s.value env m

/-- the `didChange` invariant at one node -/
def KN (env : Env) (g : Nat → Option Val) (s : State) (m : Nat) : Prop :=
  (s.nodeD m).valid = true → IsMapRef (s.nodeD m).kind → Unclean env g s m → (s.nodeD m).didChange = true

/-- a valid map_ref node that is not stale is unclean only because its input is an unclean valid map_ref node -/
def Inherit (env : Env) (g : Nat → Option Val) (s : State) : Prop :=
  ∀ m pr i, (s.nodeD m).valid = true → (s.nodeD m).kind = .mapRef pr i → s.isStale m = false → Unclean env g s m →
    IsMapRef (s.nodeD i).kind ∧ Unclean env g s i

theorem kInv_iff {env : Env} {g : Nat → Option Val} {s : State} :
    KInv env g s ↔ ∀ m, s.isNecessary m = true → KN env g s m := by
  constructor
  · intro K m hm hv hk hu
    obtain ⟨p, i, hk⟩ := isMapRef_iff.1 hk
    cases hd : (s.nodeD m).didChange with
    | true => rfl
    | false => exact absurd (K m p i hv hm hk hd) hu
  · intro H m p i hv hm hk hd
    by_cases hu : g m = s.value env m
    · exact hu
    · have := H m hm hv (by rw [hk]; trivial) hu
      rw [this] at hd; cases hd


/-- the nodes `markMapRefUnknown n` marks: `n` if it is a VALID map_ref node, and from a valid map_ref node on to its recorded
parents.  `MkV s a n`: `a` is marked by `markMapRefUnknown n` -/
inductive MkV (s : State) : Nat → Nat → Prop
  | self {n : Nat} : (s.nodeD n).valid = true → IsMapRef (s.nodeD n).kind → MkV s n n
  | up {n p ci a : Nat} : (s.nodeD n).valid = true → IsMapRef (s.nodeD n).kind → (p, ci) ∈ (s.nodeD n).parents →
      MkV s a p → MkV s a n

theorem MkV.isMapRef {s : State} {a n : Nat} (h : MkV s a n) : IsMapRef (s.nodeD n).kind := by
  cases h with
  | self _ h => exact h
  | up _ h _ _ => exact h

theorem MkV.valid {s : State} {a n : Nat} (h : MkV s a n) : (s.nodeD n).valid = true := by
  cases h with
  | self h _ => exact h
  | up h _ _ _ => exact h

/-- `MkV` only reads kinds, validity and parent lists, and is monotone in the parent lists -/
theorem MkV.mono {s s' : State} (hk : ∀ m, (s'.nodeD m).kind = (s.nodeD m).kind)
    (hv : ∀ m, (s'.nodeD m).valid = (s.nodeD m).valid)
    (hp : ∀ m x, x ∈ (s.nodeD m).parents → x ∈ (s'.nodeD m).parents) {a n : Nat} (h : MkV s a n) : MkV s' a n := by
  induction h with
  | self h0 h => exact MkV.self (by rw [hv]; exact h0) (by rw [hk]; exact h)
  | up h0 h1 h2 _ ih => exact MkV.up (by rw [hv]; exact h0) (by rw [hk]; exact h1) (hp _ _ h2) ih

/-! ## the frames: `Unclean`, `KN`, `Inherit` -/

theorem unclean_vframe {env : Env} {g : Nat → Option Val} {s s' : State} (h : VFrame s s') (m : Nat) :
    Unclean env g s' m ↔ Unclean env g s m := by
  unfold Unclean; rw [h.value_eq]

theorem Inherit.of_vframe {env : Env} {g : Nat → Option Val} {s s' : State} (h : VFrame s s')
    (T : Inherit env g s) : Inherit env g s' := by
  intro m pr i hv hk hst hu
  rw [h.kind] at hk
  rw [h.valid] at hv
  rw [h.isStale_mapRef hk] at hst
  rw [unclean_vframe h] at hu
  obtain ⟨h1, h2⟩ := T m pr i hv hk hst hu
  exact ⟨by rw [h.kind]; exact h1, (unclean_vframe h i).2 h2⟩

theorem Inherit.of_cframe {env : Env} {g : Nat → Option Val} {s s' : State} (h : CFrame s s')
    (T : Inherit env g s) : Inherit env g s' := T.of_vframe h.toV

/-- `KN` is monotone: kinds, validity and read values constant, flags only go up -/
theorem KN.mono {env : Env} {g : Nat → Option Val} {s s' : State} (h : VFrame s s') (fm : FM s s') {m : Nat}
    (K : KN env g s m) : KN env g s' m := by
  intro hv hk hu
  rw [h.kind] at hk
  rw [h.valid] at hv
  exact fm m (K hv hk ((unclean_vframe h m).1 hu))

/-! ## `CK`: what the cascade reads of the state -/

/-- what the linking cascade reads of the fragment: no expert nodes, the rank decreases along child edges, children are valid -/
structure CK (rk : Nat → Nat) (s : State) : Prop where
  noExp : ∀ n e, (s.nodeD n).kind ≠ .expert e
  kidLt : ∀ n c, c ∈ s.children n → rk c < rk n
  kidsValid : ∀ n c, c ∈ s.children n → (s.nodeD c).valid = true

namespace KC

theorem cframe_binds {s s' : State} (h : CFrame s s') : s'.binds = s.binds := by
  have := h.key; simp only [stateKey, Prod.mk.injEq] at this; exact this.2.2.2.2.2.2.2.2.2.2.2.2.2.2.2.2.1

theorem children_congr {s s' : State} {n : Nat} (hq : (s'.nodeD n).kind? = (s.nodeD n).kind?)
    (hb : s'.binds = s.binds) (hx : ∀ e, (s.nodeD n).kind ≠ .expert e) : s'.children n = s.children n := by
  unfold State.children
  rw [hq, hb]
  cases hk : (s.nodeD n).kind? with
  | none => rfl
  | some k =>
    cases k <;> try rfl
    rename_i e
    exfalso
    simp only [Node.kind?] at hk
    split at hk
    · exact hx e (Option.some.inj hk)
    · cases hk

theorem cframe_children {s s' : State} (h : CFrame s s') (hx : ∀ n e, (s.nodeD n).kind ≠ .expert e) (n : Nat) :
    s'.children n = s.children n :=
  children_congr (h.toV.kind? n) (cframe_binds h) (hx n)

/-- the children of a valid map_ref node -/
theorem children_mapRef {s : State} {n pr i : Nat} (hv : (s.nodeD n).valid = true)
    (hk : (s.nodeD n).kind = .mapRef pr i) : s.children n = [i] := by
  unfold State.children
  simp [Node.kind?, hv, hk]

end KC

theorem CK.of_cframe {rk : Nat → Nat} {s s' : State} (h : CFrame s s') (F : CK rk s) : CK rk s' := by
  have hc := KC.cframe_children h F.noExp
  refine ⟨fun n e => by rw [h.kind]; exact F.noExp n e, fun n c hm => ?_, fun n c hm => ?_⟩
  · rw [hc] at hm; exact F.kidLt n c hm
  · rw [hc] at hm; rw [h.toV.valid]; exact F.kidsValid n c hm

/-! ## `GRk`: the relation between the states of a linking cascade -/

/-- the relation between the states of a linking cascade: the frame, flags only go up, the pending invalidations
are untouched, parent lists only grow -/
structure GRk (s s' : State) : Prop where
  fr : CFrame s s'
  fm : FM s s'
  pinv : s'.propagateInvalidity = s.propagateInvalidity
  par : ∀ m x, x ∈ (s.nodeD m).parents → x ∈ (s'.nodeD m).parents

theorem GRk.refl (s : State) : GRk s s := ⟨CFrame.refl s, PreOrd.refl s, rfl, fun _ _ h => h⟩
theorem GRk.trans {a b c : State} (h1 : GRk a b) (h2 : GRk b c) : GRk a c :=
  ⟨h1.fr.trans h2.fr, PreOrd.trans h1.fm h2.fm, h2.pinv.trans h1.pinv, fun m x h => h2.par m x (h1.par m x h)⟩

theorem GRk.of_lt {s s' : State} (h : Lt s s') : GRk s s' :=
  ⟨h.fr, h.fm, h.pp.2, fun m x hx => by rw [h.pp.1]; exact hx⟩

theorem GRk.vframe {s s' : State} (h : GRk s s') : VFrame s s' := h.fr.toV

theorem GRk.mk_mono {s s' : State} (h : GRk s s') {a n : Nat} (hm : MkV s a n) : MkV s' a n :=
  hm.mono h.fr.kind h.fr.toV.valid h.par

theorem GRk.kn {env : Env} {g : Nat → Option Val} {s s' : State} (h : GRk s s') {m : Nat} (K : KN env g s m) :
    KN env g s' m := K.mono h.fr.toV h.fm

theorem GRk.ck {rk : Nat → Nat} {s s' : State} (h : GRk s s') (F : CK rk s) : CK rk s' := F.of_cframe h.fr

namespace KC

theorem lt_kn {env : Env} {g : Nat → Option Val} {s s' : State} (h : Lt s s') {m : Nat} (K : KN env g s m) :
    KN env g s' m := K.mono h.fr.toV h.fm

theorem lt_mk {s s' : State} (h : Lt s s') {a n : Nat} (hm : MkV s a n) : MkV s' a n :=
  hm.mono h.fr.kind h.fr.toV.valid (fun m x hx => by rw [h.pp.1]; exact hx)

end KC

/-! ## `markMapRefUnknown` marks -/

/-- a successful `markMapRefUnknown n` raises the flag of every node of `MkV s · n` -/
theorem markMapRefUnknown_marksV {fuel n : Nat} {s s' : State} {u : Unit}
    (h : (Engine.markMapRefUnknown fuel n).run.run s = (.ok u, s')) :
    ∀ a, MkV s a n → (s'.nodeD a).didChange = true := by
  induction fuel generalizing n s s' u with
  | zero => unfold Engine.markMapRefUnknown at h; cases h
  | succ fuel ih =>
    intro a hm
    have hmr := hm.isMapRef
    obtain ⟨pr, i, hk⟩ := isMapRef_iff.1 hmr
    unfold Engine.markMapRefUnknown at h
    obtain ⟨nd, hnd, h⟩ := bind_getNode_inv h
    have hndD : s.nodeD n = nd := nodeD_of_some hnd
    have hn : n < s.nodes.size := lt_of_some hnd
    have hq : nd.kind? = some (.mapRef pr i) := by rw [← hndD, Node.kind?, hm.valid, hk]; rfl
    rw [hq] at h
    dsimp only at h
    obtain ⟨s1, hs1, h⟩ := bind_modNode_inv h
    obtain ⟨nd1, hnd1, h⟩ := bind_getNode_inv h
    have L1 : Lt s s1 := by
      rw [hs1]
      exact ⟨CFrame.modNode s n _ (fun _ => rfl), FM.modNode s n _ (fun _ _ => rfl), PP.modNode s n _ (fun _ => rfl)⟩
    have hflag1 : (s1.nodeD n).didChange = true := by
      rw [hs1, nodeD_modify, if_pos ⟨rfl, hn⟩]
    have hpar1 : nd1.parents = (s.nodeD n).parents := by
      rw [← nodeD_of_some hnd1]; exact L1.pp.1 n
    rw [hpar1] at h
    obtain ⟨_, s2, hloop, h⟩ := bind_ok_inv h
    obtain ⟨-, e⟩ := pure_ok_inv h
    rw [e]
    have L := forIn_inv_post (fun t => Lt s t)
      (fun (x : Nat × Nat) t => ∀ a, MkV s a x.1 → (t.nodeD a).didChange = true) _ (s.nodeD n).parents
      (by
        intro x hx t r t' Lt' hb
        obtain ⟨p, ci⟩ := x
        obtain ⟨_, t1, hcall, hb⟩ := bind_ok_inv hb
        obtain ⟨hr, e⟩ := pure_ok_inv hb
        rw [← e] at hcall
        refine ⟨Lt'.trans (markMapRefUnknown_lt hcall), hr, fun a ha => ?_⟩
        exact ih hcall a (KC.lt_mk Lt' ha))
      (by
        intro x y hy t r t' Lt' hp hb a ha
        obtain ⟨p, ci⟩ := y
        obtain ⟨_, t1, hcall, hb⟩ := bind_ok_inv hb
        obtain ⟨hr, e⟩ := pure_ok_inv hb
        rw [← e] at hcall
        exact (markMapRefUnknown_lt hcall).fm a (hp a ha))
      s1 _ s2 L1 hloop
    obtain ⟨L2, hall⟩ := L
    cases hm with
    | self _ _ =>
      have : FM s1 s2 :=
        (Step.Pres.forIn _ _ _ fun (p, ci) _ => Step.Pres.bind (PresFM.markMapRefUnknown fuel p) fun _ => Step.Pres.pure _).h _ _ _ hloop
      exact this n hflag1
    | up _ _ hmem hup => exact hall _ hmem a hup


/-! ## `add_parent_without_adjusting_heights` -/

/-- the statement for `became_necessary` -/
def BNK (env : Env) (g : Nat → Option Val) (rk : Nat → Nat) (fuel : Nat) : Prop :=
  ∀ n s s', CK rk s → Inherit env g s → (becameNecessary env fuel n).run.run s = (.ok (), s') →
    (∀ m, rk m < rk n → s.isNecessary m = true → KN env g s m) →
    (∀ m, (rk m < rk n ∨ m = n) → s'.isNecessary m = true → KN env g s' m) ∧
    (IsMapRef (s.nodeD n).kind → Unclean env g s n → ∀ a, MkV s a n → (s'.nodeD a).didChange = true) ∧
    (∀ m, ¬ rk m < rk n → (s'.nodeD m).parents = (s.nodeD m).parents) ∧ GRk s s'

/-- the statement for `add_parent_without_adjusting_heights` (the child, which exists when the call returns, is valid) -/
def APK (env : Env) (g : Nat → Option Val) (rk : Nat → Nat) (fuel : Nat) : Prop :=
  ∀ c idx p s s', CK rk s → Inherit env g s →
    (addParentWithoutAdjustingHeights env fuel c idx p).run.run s = (.ok (), s') → rk c < rk p →
    (c < s.nodes.size → (s.nodeD c).valid = true) →
    (∀ m, rk m < rk p → s.isNecessary m = true → KN env g s m) →
    (∀ m, rk m < rk p → s'.isNecessary m = true → KN env g s' m) ∧
    (∀ pr, (s.nodeD p).kind = .mapRef pr c → IsMapRef (s.nodeD c).kind → Unclean env g s c →
      ∀ a, MkV s a p → (s'.nodeD a).didChange = true) ∧
    (∀ m, ¬ rk m < rk c → m ≠ c → (s'.nodeD m).parents = (s.nodeD m).parents) ∧ GRk s s'

theorem ap_stepK (env : Env) (g : Nat → Option Val) (rk : Nat → Nat) (fuel : Nat) (ih : BNK env g rk fuel) :
    APK env g rk (fuel + 1) := by
  intro c idx p s s' F T h hcp hcv' hpre
  unfold addParentWithoutAdjustingHeights at h
  rw [run_bind_get] at h
  replace h := bind_dassert_inv h
  rw [run_bind_get] at h
  dsimp only at h
  unfold addParent at h
  obtain ⟨s1, hs1, h⟩ := bind_modNode_inv h
  obtain ⟨nd, hnd, h⟩ := bind_getNode_inv h
  have hc1 : c < s1.nodes.size := lt_of_some hnd
  have hc : c < s.nodes.size := by rw [hs1] at hc1; simpa using hc1
  have hcv := hcv' hc
  have fr1 : CFrame s s1 := by rw [hs1]; exact CFrame.modNode s c _ (fun _ => rfl)
  have fm1 : FM s s1 := by rw [hs1]; exact FM.modNode s c _ (fun _ h => h)
  have hpar1c : (s1.nodeD c).parents = (s.nodeD c).parents ++ [(p, idx)] := by
    rw [hs1, nodeD_modify, if_pos ⟨rfl, hc⟩]
  have hpar1o : ∀ m, m ≠ c → (s1.nodeD m).parents = (s.nodeD m).parents := by
    intro m hm; rw [hs1, nodeD_modify, if_neg (fun e => hm e.1.symm)]
  have G1 : GRk s s1 := by
    refine ⟨fr1, fm1, by rw [hs1], fun m x hx => ?_⟩
    by_cases e : m = c
    · rw [e, hpar1c]; rw [e] at hx; exact List.mem_append_left _ hx
    · rw [hpar1o m e]; exact hx
  have F1 : CK rk s1 := F.of_cframe fr1
  have T1 : Inherit env g s1 := T.of_cframe fr1
  have hcv1 : (s1.nodeD c).valid = true := by rw [fr1.toV.valid]; exact hcv
  have hvalid : nd.valid = true := by rw [← nodeD_of_some hnd]; exact hcv1
  simp only [hvalid, Bool.not_true, Bool.false_eq_true, if_false] at h
  have hnec1o : ∀ m, m ≠ c → s1.isNecessary m = s.isNecessary m := fun m hm =>
    nec_congr (hpar1o m hm) (fr1.observers m) (fr1.forceNecessary m)
  have hpre1 : ∀ m, rk m < rk p → m ≠ c → s1.isNecessary m = true → KN env g s1 m := fun m hm hmc hn =>
    G1.kn (hpre m hm (by rw [← hnec1o m hmc]; exact hn))
  have tail : ∀ t t', (do
        let x ← getNode p
        match x.kind? with
          | some (.expert e) => runEdgeCallback env e idx
          | _ => pure ()).run.run t = (.ok (), t') → Lt t t' := fun t t' ht =>
    (Step.Pres.onExpert p fun e => PresLt.runEdgeCallback env e idx).h _ _ _ ht
  cases hwas : s.isNecessary c with
  | true =>
    rw [hwas] at h
    simp only [Bool.not_true, Bool.false_eq_true, if_false] at h
    obtain ⟨cn, hcn, h⟩ := bind_getNode_inv h
    have hcnD : s1.nodeD c = cn := nodeD_of_some hcn
    have hcq : cn.kind? = some (s.nodeD c).kind := by
      rw [← hcnD, Node.kind?, hcv1, fr1.kind]; rfl
    have hcd' : (s.nodeD c).didChange = true → cn.didChange = true := by rw [← hcnD]; exact fm1 c
    rw [hcq] at h
    have key : ∃ s2, Lt s1 s2 ∧
        (IsMapRef (s.nodeD c).kind → (s.nodeD c).didChange = true →
          ∀ a, MkV s1 a p → (s2.nodeD a).didChange = true) ∧
        (do
          let x ← getNode p
          match x.kind? with
            | some (.expert e) => runEdgeCallback env e idx
            | _ => pure ()).run.run s2 = (.ok (), s') := by
      cases hkd : (s.nodeD c).kind <;> rw [hkd] at h <;> dsimp only at h
      case mapRef pr' i' =>
        cases hd : cn.didChange with
        | false =>
          rw [hd] at h
          simp only [Bool.false_eq_true, if_false] at h
          refine ⟨s1, Lt.refl _, fun _ hf => ?_, h⟩
          rw [hcd' hf] at hd; cases hd
        | true =>
          rw [hd] at h
          simp only [if_true] at h
          obtain ⟨_, s2, h2, h⟩ := bind_ok_inv h
          exact ⟨s2, markMapRefUnknown_lt h2, fun _ _ => markMapRefUnknown_marksV h2, h⟩
      all_goals exact ⟨s1, Lt.refl _, fun hm => False.elim hm, h⟩
    obtain ⟨s2, L2, hmark, h⟩ := key
    have L3 := tail s2 s' h
    have L13 : Lt s1 s' := L2.trans L3
    have hKc : KN env g s c := hpre c hcp hwas
    refine ⟨fun m hm hn => ?_, fun pr hkp hmc hu a ha => ?_, fun m _ hm => ?_, G1.trans (GRk.of_lt L13)⟩
    · rw [L13.nec] at hn
      by_cases e : m = c
      · rw [e]; exact KC.lt_kn L13 (G1.kn hKc)
      · exact KC.lt_kn L13 (hpre1 m hm e hn)
    · exact L3.fm a (hmark hmc (hKc hcv hmc hu) a (G1.mk_mono ha))
    · rw [L13.pp.1, hpar1o m hm]
  | false =>
    rw [hwas] at h
    simp only [Bool.not_false, if_true] at h
    obtain ⟨_, s2, h2, h⟩ := bind_ok_inv h
    obtain ⟨A, B, C, G2⟩ := ih c s1 s2 F1 T1 h2
      (fun m hm hn => hpre1 m (by omega) (fun e => by rw [e] at hm; omega) hn)
    have L3 := tail s2 s' h
    refine ⟨fun m hm hn => ?_, fun pr hkp hmc hu a ha => ?_, fun m hm1 hm2 => ?_,
      (G1.trans G2).trans (GRk.of_lt L3)⟩
    · rw [L3.nec] at hn
      by_cases e : rk m < rk c ∨ m = c
      · exact KC.lt_kn L3 (A m e hn)
      · have e1 : ¬ rk m < rk c := fun x => e (Or.inl x)
        have e2 : m ≠ c := fun x => e (Or.inr x)
        have hn1 : s1.isNecessary m = true := by
          rw [← nec_congr (C m e1) (G2.fr.observers m) (G2.fr.forceNecessary m)]; exact hn
        exact KC.lt_kn L3 (G2.kn (hpre1 m hm e2 hn1))
    · have hmc1 : IsMapRef (s1.nodeD c).kind := by rw [fr1.kind]; exact hmc
      have hu1 : Unclean env g s1 c := (unclean_vframe fr1.toV c).2 hu
      have hup : MkV s1 a c := MkV.up (ci := idx) hcv1 hmc1 (by rw [hpar1c]; simp) (G1.mk_mono ha)
      exact L3.fm a (B hmc1 hu1 a hup)
    · rw [L3.pp.1, C m hm1, hpar1o m hm2]


/-! ## `became_necessary` -/

theorem bn_stepK (env : Env) (g : Nat → Option Val) (rk : Nat → Nat) (fuel : Nat) (ih : APK env g rk fuel) :
    BNK env g rk (fuel + 1) := by
  intro n s s' F T h hpre
  unfold becameNecessary at h
  obtain ⟨nd, hnd, h⟩ := bind_getNode_inv h
  have hn : n < s.nodes.size := lt_of_some hnd
  obtain ⟨x, s00, hx, h⟩ := bind_ok_inv h
  have e00 : s00 = s := (PresS.scopeIsNecessary _).h _ _ _ hx
  rw [e00] at h
  dsimp only at h
  cases hc : (nd.valid && !x) with
  | true =>
    rw [hc] at h; simp only [if_true] at h
    obtain ⟨_, _, h1, _⟩ := bind_ok_inv h
    rw [run_panic] at h1; cases h1
  | false =>
    rw [hc] at h
    simp only [Bool.false_eq_true, if_false] at h
    obtain ⟨s0, hs0, h⟩ := bind_modify_inv h
    obtain ⟨_, s1, h1, h⟩ := bind_ok_inv h
    obtain ⟨ht, s1', hsh, h⟩ := bind_ok_inv h
    have e1' : s1' = s1 := (Step.Pres.scopeHeight (R := SameC) _).h _ _ _ hsh
    rw [e1'] at h
    obtain ⟨_, s2, h2, h⟩ := bind_ok_inv h
    obtain ⟨nd2, hnd2, h⟩ := bind_getNode_inv h
    rw [run_bind_get] at h
    obtain ⟨b, s3, h3, h⟩ := bind_ok_inv h
    -- the prefix
    have L0 : Lt s s0 := by rw [hs0]; exact Lt.of_nodes rfl rfl rfl rfl
    have L1 : Lt s0 s1 := (PresLt.maybeHandleAfterStabilisation n).h _ _ _ h1
    have L2 : Lt s1 s2 := (PresLt.setHeight n _).h _ _ _ h2
    have L02 : Lt s s2 := (L0.trans L1).trans L2
    have F2 : CK rk s2 := F.of_cframe L02.fr
    have T2 : Inherit env g s2 := T.of_cframe L02.fr
    have hpre2 : ∀ m, rk m < rk n → s2.isNecessary m = true → KN env g s2 m := fun m hm hnm =>
      KC.lt_kn L02 (hpre m hm (by rw [← L02.nec]; exact hnm))
    -- the loop
    have hloop := forIn_ok_inv _ (s2.children n)
      (fun j (b : Int × Nat) t => b.2 = j ∧ GRk s2 t ∧
        (∀ m, ¬ rk m < rk n → (t.nodeD m).parents = (s2.nodeD m).parents) ∧
        (∀ m, rk m < rk n → t.isNecessary m = true → KN env g t m) ∧
        (∀ pr i, (s2.nodeD n).kind = .mapRef pr i → IsMapRef (s2.nodeD i).kind → Unclean env g s2 i → 0 < j →
          ∀ a, MkV s2 a n → (t.nodeD a).didChange = true))
      (by
        intro j c b t r t' hj ⟨hb2, Gt, hsame, hK, hP⟩ hbody
        obtain ⟨_, t1, ha, hbody⟩ := bind_ok_inv hbody
        obtain ⟨xc, hxc, hbody⟩ := bind_getNode_inv hbody
        have hcmem : c ∈ s2.children n := List.mem_of_getElem? hj
        have hcn : rk c < rk n := F2.kidLt n c hcmem
        have hcv : (t.nodeD c).valid = true := by rw [Gt.fr.toV.valid]; exact F2.kidsValid n c hcmem
        have Ft : CK rk t := Gt.ck F2
        have Tt : Inherit env g t := T2.of_cframe Gt.fr
        obtain ⟨A', B', C', G'⟩ := ih c b.2 n t t1 Ft Tt ha hcn (fun _ => hcv) hK
        have hnew : (b.2 + 1 = j + 1) ∧ GRk s2 t1 ∧
            (∀ m, ¬ rk m < rk n → (t1.nodeD m).parents = (s2.nodeD m).parents) ∧
            (∀ m, rk m < rk n → t1.isNecessary m = true → KN env g t1 m) ∧
            (∀ pr i, (s2.nodeD n).kind = .mapRef pr i → IsMapRef (s2.nodeD i).kind → Unclean env g s2 i →
              0 < j + 1 → ∀ a, MkV s2 a n → (t1.nodeD a).didChange = true) := by
          refine ⟨by rw [hb2], Gt.trans G',
            fun m hm => (C' m (by omega) (fun e => by rw [e] at hm; exact hm hcn)).trans (hsame m hm), A', ?_⟩
          intro pr i hk hmi hu _ a ha'
          by_cases hj0 : 0 < j
          · exact G'.fm a (hP pr i hk hmi hu hj0 a ha')
          · have hj0' : j = 0 := by omega
            have hci : c = i := by
              rw [KC.children_mapRef ha'.valid hk, hj0'] at hj
              simpa using hj.symm
            rw [hci] at B'
            exact B' pr (by rw [Gt.fr.kind]; exact hk) (by rw [Gt.fr.kind]; exact hmi)
              ((unclean_vframe Gt.fr.toV i).2 hu) a (Gt.mk_mono ha')
        split at hbody
        · obtain ⟨hr, ht'⟩ := pure_ok_inv hbody
          rw [ht']; exact ⟨_, hr, hnew⟩
        · obtain ⟨hr, ht'⟩ := pure_ok_inv hbody
          rw [ht']; exact ⟨_, hr, hnew⟩)
      (s2.children n) 0 (nd2.height, 0) s2 b s3 (by simp) (Nat.zero_le _)
      ⟨rfl, GRk.refl _, fun _ _ => rfl, hpre2, fun _ _ _ _ _ h0 => absurd h0 (by omega)⟩ h3
    obtain ⟨-, G3, hsame3, hK3, hP3⟩ := hloop
    -- the final height
    obtain ⟨_, s4, h4, h⟩ := bind_ok_inv h
    have L4 : Lt s3 s4 := (PresLt.setHeight n _).h _ _ _ h4
    rw [run_bind_get] at h
    replace h := bind_dassert_inv h
    replace h := bind_dassert_inv h
    have G4 : GRk s s4 := ((GRk.of_lt L02).trans G3).trans (GRk.of_lt L4)
    have T4 : Inherit env g s4 := T.of_cframe G4.fr
    have key : Lt s4 s' ∧ (s4.isStale n = true → ∀ a, MkV s4 a n → (s'.nodeD a).didChange = true) := by
      cases hst : s4.isStale n with
      | false =>
        rw [hst] at h
        simp only [Bool.false_eq_true, if_false] at h
        exact ⟨(Step.Pres.onExpert n fun e => PresLt.observabilityChange e true).h _ _ _ h, fun e => by cases e⟩
      | true =>
        rw [hst] at h
        simp only [if_true] at h
        obtain ⟨_, s5, h5, h⟩ := bind_ok_inv h
        obtain ⟨_, s6, h6, h⟩ := bind_ok_inv h
        have L5 : Lt s4 s5 := markMapRefUnknown_lt h5
        have L6 : Lt s5 s6 := (PresLt.rchInsert n).h _ _ _ h6
        have L7 : Lt s6 s' := (Step.Pres.onExpert n fun e => PresLt.observabilityChange e true).h _ _ _ h
        refine ⟨(L5.trans L6).trans L7, fun _ a ha => ?_⟩
        exact (L6.trans L7).fm a (markMapRefUnknown_marksV h5 a ha)
    obtain ⟨L5, hmark⟩ := key
    have L35 : Lt s3 s' := L4.trans L5
    have B : IsMapRef (s.nodeD n).kind → Unclean env g s n → ∀ a, MkV s a n → (s'.nodeD a).didChange = true := by
      intro hmr hu a ha
      cases hst : s4.isStale n with
      | true => exact hmark hst a (G4.mk_mono ha)
      | false =>
        obtain ⟨pr, i, hk⟩ := isMapRef_iff.1 hmr
        have hv4 : (s4.nodeD n).valid = true := by rw [G4.fr.toV.valid]; exact ha.valid
        have hk4 : (s4.nodeD n).kind = .mapRef pr i := by rw [G4.fr.kind]; exact hk
        obtain ⟨hmi4, hui4⟩ := T4 n pr i hv4 hk4 hst ((unclean_vframe G4.fr.toV n).2 hu)
        have G24 : GRk s2 s4 := G3.trans (GRk.of_lt L4)
        have hk2 : (s2.nodeD n).kind = .mapRef pr i := by rw [L02.fr.kind]; exact hk
        have hv2 : (s2.nodeD n).valid = true := by rw [L02.fr.toV.valid]; exact ha.valid
        have hlen : 0 < (s2.children n).length := by rw [KC.children_mapRef hv2 hk2]; simp
        have := hP3 pr i hk2 (by rw [← G24.fr.kind]; exact hmi4) ((unclean_vframe G24.fr.toV i).1 hui4) hlen a
          ((GRk.of_lt L02).mk_mono ha)
        exact L35.fm a this
    refine ⟨fun m hm hnm => ?_, B, fun m hm => ?_, G4.trans (GRk.of_lt L5)⟩
    · by_cases e : m = n
      · rw [e]
        intro hv' hmr' hu'
        have G := G4.trans (GRk.of_lt L5)
        exact B (by rw [← G.fr.kind]; exact hmr') ((unclean_vframe G.fr.toV n).1 hu') n
          (MkV.self (by rw [← G.fr.toV.valid]; exact hv') (by rw [← G.fr.kind]; exact hmr'))
      · rw [L35.nec] at hnm
        exact KC.lt_kn L35 (hK3 m (by rcases hm with hm | hm; exact hm; exact absurd hm e) hnm)
    · rw [L35.pp.1, hsame3 m hm, L02.pp.1]

theorem linkK' (env : Env) (g : Nat → Option Val) (rk : Nat → Nat) (fuel : Nat) :
    BNK env g rk fuel ∧ APK env g rk fuel := by
  induction fuel with
  | zero =>
    constructor
    · intro n s s' _ _ h; unfold becameNecessary at h; cases h
    · intro c idx p s s' _ _ h; unfold addParentWithoutAdjustingHeights at h; cases h
  | succ fuel ih => exact ⟨bn_stepK env g rk fuel ih.2, ap_stepK env g rk fuel ih.1⟩


/-! ## whole-state corollaries -/

section
variable {env : Env} {g : Nat → Option Val} {rk : Nat → Nat} {fuel : Nat} {s s' : State}

/-- `became_necessary` on a node `n`, when the invariant holds at every other necessary node (with the relation `GRk`, and from `CK`) -/
theorem becameNecessary_keepsK_all' {n : Nat} (F : CK rk s) (T : Inherit env g s)
    (hK : ∀ m, m ≠ n → s.isNecessary m = true → KN env g s m)
    (h : (becameNecessary env fuel n).run.run s = (.ok (), s')) :
    KInv env g s' ∧ GRk s s' ∧ (∀ m, ¬ rk m < rk n → (s'.nodeD m).parents = (s.nodeD m).parents) := by
  obtain ⟨A, -, C, G⟩ := (linkK' env g rk fuel).1 n s s' F T h
    (fun m hm => hK m (fun e => by rw [e] at hm; omega))
  refine ⟨kInv_iff.2 fun m hm => ?_, G, C⟩
  by_cases hmn : rk m < rk n ∨ m = n
  · exact A m hmn hm
  · have e1 : ¬ rk m < rk n := fun x => hmn (Or.inl x)
    have e2 : m ≠ n := fun x => hmn (Or.inr x)
    have hm0 : s.isNecessary m = true := by
      rw [← nec_congr (C m e1) (G.fr.observers m) (G.fr.forceNecessary m)]; exact hm
    exact G.kn (hK m e2 hm0)

/-- `add_parent_without_adjusting_heights c idx p`, `c` valid, below `p` in the rank order, from a state in which the invariant holds
everywhere (with the relation `GRk`, and from `CK`) -/
theorem addParent_keepsK_all' {c idx p : Nat} (F : CK rk s) (T : Inherit env g s) (K : KInv env g s)
    (h : (addParentWithoutAdjustingHeights env fuel c idx p).run.run s = (.ok (), s')) (hcp : rk c < rk p)
    (hcv : (s.nodeD c).valid = true) :
    KInv env g s' ∧ GRk s s' ∧ (∀ m, ¬ rk m < rk c → m ≠ c → (s'.nodeD m).parents = (s.nodeD m).parents) := by
  have K' := kInv_iff.1 K
  obtain ⟨A, -, C, G⟩ := (linkK' env g rk fuel).2 c idx p s s' F T h hcp (fun _ => hcv) (fun m _ hm => K' m hm)
  refine ⟨kInv_iff.2 fun m hm => ?_, G, C⟩
  by_cases hmp : rk m < rk p
  · exact A m hmp hm
  · have hm0 : s.isNecessary m = true := by
      rw [← nec_congr (C m (by omega) (fun e => by rw [e] at hmp; exact hmp hcp)) (G.fr.observers m)
        (G.fr.forceNecessary m)]
      exact hm
    exact G.kn (K' m hm0)

end

/-! ## `became_necessary_propagate` and `add_new_observers` -/

/-- `CK` only reads kinds, validity and `binds` -/
theorem CK.of_vframe {rk : Nat → Nat} {s s' : State} (h : VFrame s s') (hb : s'.binds = s.binds) (F : CK rk s) :
    CK rk s' := by
  have hc : ∀ n, s'.children n = s.children n := fun n => KC.children_congr (h.kind? n) hb (F.noExp n)
  refine ⟨fun n e => by rw [h.kind]; exact F.noExp n e, fun n c hm => ?_, fun n c hm => ?_⟩
  · rw [hc] at hm; exact F.kidLt n c hm
  · rw [hc] at hm; rw [h.valid]; exact F.kidsValid n c hm

namespace PR

theorem cframe_binds {s s' : State} (h : CFrame s s') : s'.binds = s.binds := KC.cframe_binds h

/-- `became_necessary_propagate` on a node that has just become necessary, in a state without pending invalidations: the
second phase does nothing -/
theorem becameNecessaryPropagate_keepsK' {env : Env} {g : Nat → Option Val} {rk : Nat → Nat} {fuel n : Nat} {s s' : State}
    (F : CK rk s) (T : Inherit env g s) (hp : s.propagateInvalidity = [])
    (hK : ∀ m, m ≠ n → s.isNecessary m = true → KN env g s m)
    (h : (becameNecessaryPropagate env fuel n).run.run s = (.ok (), s')) :
    KInv env g s' ∧ GRk s s' ∧ (becameNecessary env fuel n).run.run s = (.ok (), s') := by
  unfold becameNecessaryPropagate at h
  obtain ⟨_, s1, h1, h2⟩ := bind_ok_inv h
  obtain ⟨A, G, -⟩ := becameNecessary_keepsK_all' F T hK h1
  have hp1 : s1.propagateInvalidity = [] := G.pinv.trans hp
  have e : s' = s1 := by
    cases fuel with
    | zero => unfold Engine.propagateInvalidity at h2; cases h2
    | succ fuel =>
      unfold Engine.propagateInvalidity at h2
      rw [run_bind_get, hp1] at h2
      exact (pure_ok_inv h2).2
  rw [e]
  exact ⟨A, G, h1⟩

end PR

/-- what `add_new_observers` keeps: `VFrame`, no `didChange` flag is lowered (`FM`), `binds` -/
structure AF (s s' : State) : Prop where
  vf : VFrame s s'
  fm : FM s s'
  binds : s'.binds = s.binds

theorem AF.refl (s : State) : AF s s := ⟨VFrame.refl s, PreOrd.refl s, rfl⟩
theorem AF.trans {a b c : State} (h1 : AF a b) (h2 : AF b c) : AF a c :=
  ⟨h1.vf.trans h2.vf, PreOrd.trans h1.fm h2.fm, h2.binds.trans h1.binds⟩
theorem AF.of_nodes {s s' : State} (h1 : s'.nodes = s.nodes) (h2 : s'.panicCountdown = s.panicCountdown)
    (h3 : s'.binds = s.binds) : AF s s' := ⟨VFrame.of_nodes h1 h2, FM.of_nodes h1, h3⟩
theorem AF.of_cframe {s s' : State} (h : CFrame s s') (fm : FM s s') : AF s s' := ⟨h.toV, fm, KC.cframe_binds h⟩
theorem AF.of_grk {s s' : State} (h : GRk s s') : AF s s' := AF.of_cframe h.fr h.fm
theorem AF.ck {rk : Nat → Nat} {s s' : State} (h : AF s s') (F : CK rk s) : CK rk s' := F.of_vframe h.vf h.binds

/-- the body of the loop of `add_new_observers` -/
def PR.addBody (env : Env) (fuel : Nat) (o : Nat) : M (ForInStep PUnit) := do
  let ob ← getObs o
  match ob.state with
  | .inUse => do
    Engine.panic "state:add_new_observers:state"
    pure (ForInStep.yield PUnit.unit)
  | .disallowed => do
    Engine.panic "state:add_new_observers:state"
    pure (ForInStep.yield PUnit.unit)
  | .unlinked => pure (ForInStep.yield PUnit.unit)
  | .created => do
    modObs o fun x => { x with state := .inUse }
    let was := (← get).isNecessary ob.node
    modify fun s => { s with allObservers := s.allObservers ++ [o] }
    modNode ob.node fun x => { x with
      observers := x.observers ++ [o],
      numOnUpdateHandlers := x.numOnUpdateHandlers + ob.handlers.length }
    handleAfterStabilisation ob.node
    dassert ((← get).isNecessary ob.node) "state:add_new_observers:necessary"
    if !was then do
      becameNecessaryPropagate env fuel ob.node
      pure (ForInStep.yield PUnit.unit)
    else pure (ForInStep.yield PUnit.unit)

theorem addNewObservers_eq (env : Env) (fuel : Nat) : Engine.addNewObservers env fuel = (do
    let no := (← get).newObservers
    modify fun s => { s with newObservers := [] }
    forIn no PUnit.unit fun o _ => PR.addBody env fuel o
    pure ()) := rfl

/-- what one iteration needs and keeps -/
structure PR.AI (env : Env) (g : Nat → Option Val) (rk : Nat → Nat) (t : State) : Prop where
  ck : CK rk t
  inh : Inherit env g t
  pinv : t.propagateInvalidity = []
  k : KInv env g t

/-- the state in which one iteration calls `became_necessary_propagate` -/
structure PR.Mid (env : Env) (g : Nat → Option Val) (rk : Nat → Nat) (n : Nat) (t t4 : State) : Prop where
  af : AF t t4
  pinv : t4.propagateInvalidity = []
  ck : CK rk t4
  inh : Inherit env g t4
  nec : ∀ m, m ≠ n → t4.isNecessary m = t.isNecessary m
  kn : ∀ m, t.isNecessary m = true → KN env g t4 m

/-- the prefix of one iteration -/
theorem PR.addBody_mid {env : Env} {g : Nat → Option Val} {rk : Nat → Nat} {o : Nat} {ob : ObsRec} {t t2 t3 t4 : State}
    (I : PR.AI env g rk t)
    (hnodes2 : t2.nodes = t.nodes) (hpc2 : t2.panicCountdown = t.panicCountdown)
    (hpi2 : t2.propagateInvalidity = t.propagateInvalidity) (hb2 : t2.binds = t.binds)
    (ht3 : t3 = { t2 with nodes := t2.nodes.modify ob.node fun x => { x with
        observers := x.observers ++ [o],
        numOnUpdateHandlers := x.numOnUpdateHandlers + ob.handlers.length } })
    (h4 : (handleAfterStabilisation ob.node).run.run t3 = (.ok (), t4)) : PR.Mid env g rk ob.node t t4 := by
  have a3 : AF t t3 := by
    refine (AF.of_nodes hnodes2 hpc2 hb2).trans ?_
    rw [ht3]
    exact ⟨VFrame.modNode _ _ _ (fun _ => ⟨rfl, rfl, rfl, rfl, rfl, rfl⟩), FM.modNode _ _ _ (fun _ h => h), rfl⟩
  have p3 : PP t t3 := by
    refine PreOrd.trans (PP.of_nodes hnodes2 hpi2) ?_
    rw [ht3]; exact PP.modNode _ _ _ (fun _ => rfl)
  have hoth3 : ∀ m, m ≠ ob.node → t3.nodeD m = t.nodeD m := by
    intro m hm
    rw [ht3, nodeD_modify, if_neg (fun e => hm e.1.symm)]
    simp [State.nodeD, hnodes2]
  have L4 : Lt t3 t4 := (PresLt.handleAfterStabilisation ob.node).h _ _ _ h4
  have a4 : AF t t4 := a3.trans (AF.of_cframe L4.fr L4.fm)
  refine ⟨a4, (L4.pp.2.trans p3.2).trans I.pinv, a4.ck I.ck, I.inh.of_vframe a4.vf, fun m hm => ?_, fun m hm =>
    (kInv_iff.1 I.k m hm).mono a4.vf a4.fm⟩
  rw [L4.nec, State.isNecessary, hoth3 m hm]; rfl

/-- one iteration of the loop of `add_new_observers` -/
theorem PR.addBody_keeps {env : Env} {g : Nat → Option Val} {rk : Nat → Nat} {fuel o : Nat} {t t' : State}
    {r : ForInStep PUnit} (I : PR.AI env g rk t) (hbody : (PR.addBody env fuel o).run.run t = (.ok r, t')) :
    r = .yield PUnit.unit ∧ KInv env g t' ∧ t'.propagateInvalidity = [] ∧ AF t t' := by
  unfold PR.addBody at hbody
  obtain ⟨ob, hob, hbody⟩ := bind_getObs_inv hbody
  cases hst : ob.state <;> rw [hst] at hbody <;> try dsimp only at hbody
  case inUse =>
    obtain ⟨_, _, h1, _⟩ := bind_ok_inv hbody
    rw [run_panic] at h1; cases h1
  case disallowed =>
    obtain ⟨_, _, h1, _⟩ := bind_ok_inv hbody
    rw [run_panic] at h1; cases h1
  case unlinked =>
    obtain ⟨hr, e⟩ := pure_ok_inv hbody
    rw [e]
    exact ⟨hr, I.k, I.pinv, AF.refl _⟩
  case created =>
    obtain ⟨t1, ht1, hbody⟩ := bind_modObs_inv hbody
    rw [run_bind_get] at hbody
    try dsimp only at hbody
    obtain ⟨t2, ht2, hbody⟩ := bind_modify_inv hbody
    obtain ⟨t3, ht3, hbody⟩ := bind_modNode_inv hbody
    obtain ⟨_, t4, h4, hbody⟩ := bind_ok_inv hbody
    rw [run_bind_get] at hbody
    replace hbody := bind_dassert_inv hbody
    have hwas : t1.isNecessary ob.node = t.isNecessary ob.node := by rw [ht1]; rfl
    rw [hwas] at hbody
    have M := PR.addBody_mid (o := o) (ob := ob) (t2 := t2) (t3 := t3) I (by rw [ht2, ht1]) (by rw [ht2, ht1]) (by rw [ht2, ht1])
      (by rw [ht2, ht1]) ht3 h4
    cases hw : t.isNecessary ob.node with
    | true =>
      rw [hw] at hbody
      simp only [Bool.not_true, Bool.false_eq_true, if_false] at hbody
      obtain ⟨hr, e⟩ := pure_ok_inv hbody
      rw [e]
      refine ⟨hr, kInv_iff.2 fun m hm => ?_, M.pinv, M.af⟩
      by_cases em : m = ob.node
      · rw [em]; exact M.kn _ hw
      · exact M.kn m (by rw [← M.nec m em]; exact hm)
    | false =>
      rw [hw] at hbody
      simp only [Bool.not_false, if_true] at hbody
      obtain ⟨_, t5, h5, hbody⟩ := bind_ok_inv hbody
      obtain ⟨hr, e⟩ := pure_ok_inv hbody
      rw [e]
      obtain ⟨K5, G5, -⟩ := PR.becameNecessaryPropagate_keepsK' M.ck M.inh M.pinv
        (fun m hm hn => M.kn m (by rw [← M.nec m hm]; exact hn)) h5
      exact ⟨hr, K5, G5.pinv.trans M.pinv, M.af.trans (AF.of_grk G5)⟩

theorem PR.AI.step {env : Env} {g : Nat → Option Val} {rk : Nat → Nat} {fuel o : Nat} {t t' : State}
    {r : ForInStep PUnit} (I : PR.AI env g rk t) (hbody : (PR.addBody env fuel o).run.run t = (.ok r, t')) :
    PR.AI env g rk t' := by
  obtain ⟨-, k, p, a⟩ := PR.addBody_keeps I hbody
  exact ⟨a.ck I.ck, I.inh.of_vframe a.vf, p, k⟩

/-- `add_new_observers` keeps `KInv`, an empty `propagateInvalidity` and `AF`, from `CK` -/
theorem addNewObservers_keepsK' {env : Env} {g : Nat → Option Val} {rk : Nat → Nat} {fuel : Nat} {s s' : State}
    (F : CK rk s) (T : Inherit env g s) (hp : s.propagateInvalidity = []) (K : KInv env g s)
    (h : (addNewObservers env fuel).run.run s = (.ok (), s')) :
    KInv env g s' ∧ s'.propagateInvalidity = [] ∧ AF s s' := by
  rw [addNewObservers_eq] at h
  rw [run_bind_get] at h
  obtain ⟨s0, hs0, h⟩ := bind_modify_inv h
  obtain ⟨u, s1, hloop, h⟩ := bind_ok_inv h
  obtain ⟨-, e⟩ := pure_ok_inv h
  rw [e]
  have hn0 : s0.nodes = s.nodes := by rw [hs0]
  have hp0 : s0.propagateInvalidity = [] := by rw [hs0]; exact hp
  have a0 : AF s s0 := AF.of_nodes hn0 (by rw [hs0]) (by rw [hs0])
  have hnd0 : ∀ m, s0.nodeD m = s.nodeD m := fun m => by simp [State.nodeD, hn0]
  have K0 : KInv env g s0 := kInv_iff.2 fun m hm =>
    (kInv_iff.1 K m (by rw [State.isNecessary, ← hnd0]; exact hm)).mono a0.vf a0.fm
  exact forIn_ok_inv _ s.newObservers
    (fun (_ : Nat) (_ : PUnit) t => KInv env g t ∧ t.propagateInvalidity = [] ∧ AF s t)
    (by
      intro j o b t r t' hj ⟨Kt, hpt, at_⟩ hbody
      obtain ⟨hr, k, p, a⟩ := PR.addBody_keeps ⟨at_.ck F, T.of_vframe at_.vf, hpt, Kt⟩ hbody
      exact ⟨_, hr, k, p, at_.trans a⟩)
    s.newObservers 0 PUnit.unit s0 u s1 (by simp) (Nat.zero_le _)
    ⟨K0, hp0, a0⟩ hloop

end IncrVerif.Proofs.FullH
