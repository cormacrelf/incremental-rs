import IncrVerif.Proofs.FullH52
import IncrVerif.Proofs.FullH44
import IncrVerif.Proofs.FullH35
import IncrVerif.Proofs.FullH36
/-!
# C01 full fragment: the kit of special steps (`Kit`, `FullH46`) from the step theorems of its four fields
-/
namespace IncrVerif.Proofs.FullH
open IncrVerif.Engine IncrVerif.Driver IncrVerif.Proofs IncrVerif.Proofs.Step IncrVerif.Proofs.Sched IncrVerif.Proofs.Quiet

section
variable {env : Env} {sp : Nat → Val → Val}

theorem topLt_of_dinvF {t s : State} {g : Nat → Option Val} {x : Option Nat} (D : DInvF env sp t s g x) : TopLt s := by
  obtain ⟨⟨rk, A⟩, -, -⟩ := D.aux
  intro k r h
  have := (A.topOK k r h).1
  rw [virt_size] at this
  exact this

/-- the simulation of a run of a change detector, from the global template hypothesis -/
theorem lcSim_of (E : EnvS env sp) : LcSimSpec env sp := by
  intro t s g fuel n b r s' D hk h
  obtain ⟨-, hnlt, hnv, -, -⟩ := D.inv.cur_facts
  rw [virt_size] at hnlt
  rw [virt_nodeD, virtNode_valid] at hnv
  exact recomputeOne_simX_lhs D.frag hnlt hnv hk (fun a ha => (kids_settled D a ha).1) (topLt_of_dinvF D)
    (fun br _ v => ST.templS_of_envS E br.body v) h

theorem mwo_of (env : Env) (sp : Nat → Val → Val) : MwoStepSpec env sp := by
  intro t s g fuel n m i r s' D hk h
  obtain ⟨c1, c2, c3, c4, -⟩ := step_mwo D hk h
  exact ⟨c1, c2, c3, c4⟩

theorem vd_of (hF : FirstFn env) : VdStepSpec env sp := by
  intro t s g fuel n r s' D hk1 hk2 hk3 _ h
  obtain ⟨v, ch, D', V⟩ := step_verdict hF D hk1 hk2 hk3 h
  exact ⟨D', V.facts D.inv.cur_facts.2.2.1⟩

theorem kit_of (E : EnvS env sp) (hF : FirstFn env) (LK : LcKSpec env sp) : Kit env sp := ⟨lcSim_of E, LK, mwo_of env sp, vd_of hF⟩

end
end IncrVerif.Proofs.FullH
