import IncrVerif.Proofs.Life8
/-!
# Observer lifecycle over whole histories, part 9: a dead subscription is never notified again
(the observer side of C09, for whole histories)

* `liveTokens x`: the tokens registered on an observer record that is created or in use.
* `Dead s tok`: the token has been issued (`tok < nextToken`) and is not registered on any observer
  that is created or in use.
* `Mute tok s s'`: if `tok` is dead in `s` it is dead in `s'`, and every event in the log of `s'` that is
  not already in the log of `s` is not a notification for `tok`.
* `Pres (Mute tok) m` for every function of the model reachable from `stepAction`.
-/
namespace IncrVerif.Proofs.Life
open IncrVerif.Engine IncrVerif.Proofs.Obs
open IncrVerif.Proofs.Step (run_bind_ok run_throw run_modObs)

def liveTokens (x : ObsRec) : List Nat :=
  match x.state with
  | .created | .inUse => x.handlers.map (·.token)
  | _ => []

def Dead (s : State) (tok : Nat) : Prop :=
  tok < s.nextToken ∧ ∀ (o : Nat) (ob : ObsRec), s.observers[o]? = some ob → tok ∉ liveTokens ob

def Mute (tok : Nat) (s s' : State) : Prop :=
  Dead s tok → Dead s' tok ∧ ∀ e, e ∈ s'.log → e ∈ s.log ∨ ∀ u, e ≠ .notif tok u

theorem Mute.refl (tok : Nat) (s : State) : Mute tok s s := fun hd => ⟨hd, fun _ he => .inl he⟩

theorem Mute.trans {tok : Nat} {a b c : State} (h1 : Mute tok a b) (h2 : Mute tok b c) :
    Mute tok a c := fun hd => by
  obtain ⟨hd1, l1⟩ := h1 hd
  obtain ⟨hd2, l2⟩ := h2 hd1
  refine ⟨hd2, fun e he => ?_⟩
  rcases l2 e he with h | h
  · exact l1 e h
  · exact .inr h

/-- the dead tokens stay dead when `nextToken` does not decrease and live registrations only shrink -/
theorem Dead.of_shrink {s s' : State} {tok : Nat} (hn : s.nextToken ≤ s'.nextToken)
    (hs : ∀ (o : Nat) (ob' : ObsRec), s'.observers[o]? = some ob' → tok ∈ liveTokens ob' →
      ∃ (o0 : Nat) (ob : ObsRec), s.observers[o0]? = some ob ∧ tok ∈ liveTokens ob)
    (hd : Dead s tok) : Dead s' tok :=
  ⟨Nat.lt_of_lt_of_le hd.1 hn, fun o ob' e' hm => by
    obtain ⟨o0, ob, e, hm0⟩ := hs o ob' e' hm
    exact hd.2 o0 ob e hm0⟩

theorem Mute.of_dead {tok : Nat} {s s' : State} (hD : Dead s tok → Dead s' tok)
    (hl : s'.log = s.log) : Mute tok s s' :=
  fun hd => ⟨hD hd, fun e he => .inl (by rw [← hl]; exact he)⟩

instance (tok : Nat) : ObsLocal (Mute tok) where
  refl := Mute.refl tok
  trans := Mute.trans
  of_eq s s' h1 _ _ h4 h5 := Mute.of_dead (fun hd => ⟨by rw [h4]; exact hd.1, by rw [h1]; exact hd.2⟩) h5
  logEv e s he := fun hd => ⟨hd, fun e' he' => by
    rcases List.mem_cons.1 he' with rfl | h
    · exact .inr (he tok)
    · exact .inl h⟩

/-- a `modObs` under which the live registrations of the record at `o` only shrink -/
theorem Mute.modify_at {tok : Nat} {s s' : State} (o : Nat) (f : ObsRec → ObsRec)
    (ho : s'.observers = s.observers.modify o f) (hn : s'.nextToken = s.nextToken)
    (hl : s'.log = s.log)
    (hf : ∀ x, s.observers[o]? = some x → ∀ t, t ∈ liveTokens (f x) → t ∈ liveTokens x) :
    Mute tok s s' := by
  refine Mute.of_dead (Dead.of_shrink (Nat.le_of_eq hn.symm) fun m ob' e' hm => ?_) hl
  rw [ho, Array.getElem?_modify] at e'
  split at e'
  · rename_i hm'; subst hm'
    cases hx : s.observers[o]? with
    | none => rw [hx] at e'; cases e'
    | some x =>
      rw [hx] at e'
      simp only [Option.map_some, Option.some.injEq] at e'
      subst e'
      exact ⟨o, x, hx, hf x hx _ hm⟩
  · exact ⟨m, ob', e', hm⟩

theorem PresMu.modObs (tok o : Nat) (f : ObsRec → ObsRec)
    (hf : ∀ x t, t ∈ liveTokens (f x) → t ∈ liveTokens x) : Pres (Mute tok) (modObs o f) := by
  unfold Engine.modObs
  exact Pres.modify fun s => Mute.modify_at o f rfl rfl rfl fun x _ => hf x

theorem liveTokens_state_eq {x y : ObsRec} (hs : y.state = x.state) (hh : y.handlers = x.handlers) :
    liveTokens y = liveTokens x := by
  simp only [liveTokens, hs, hh]

theorem liveTokens_sub {x y : ObsRec} (hs : y.state = x.state)
    (hh : ∀ t, t ∈ y.handlers.map (·.token) → t ∈ x.handlers.map (·.token)) :
    ∀ t, t ∈ liveTokens y → t ∈ liveTokens x := by
  intro t
  simp only [liveTokens, hs]
  cases x.state <;> simp only [] <;> first | exact hh t | exact id

theorem PresMu.modObs_setPrev (tok o : Nat) (g : HandlerRec → HandlerRec)
    (hg : ∀ h, (g h).token = h.token) :
    Pres (Mute tok) (Engine.modObs o fun x => { x with handlers := x.handlers.map g }) := by
  refine PresMu.modObs tok o _ fun x => liveTokens_sub rfl fun t ht => ?_
  simp only [List.map_map, List.mem_map, Function.comp_def] at ht ⊢
  obtain ⟨a, ha, rfl⟩ := ht
  exact ⟨a, ha, (hg a).symm⟩

theorem PresMu.modObs_filter (tok o : Nat) (p : HandlerRec → Bool) :
    Pres (Mute tok) (Engine.modObs o fun x => { x with handlers := x.handlers.filter p }) := by
  refine PresMu.modObs tok o _ fun x => liveTokens_sub rfl fun t ht => ?_
  simp only [List.mem_map, List.mem_filter] at ht ⊢
  obtain ⟨a, ⟨ha, _⟩, rfl⟩ := ht
  exact ⟨a, ha, rfl⟩

/-- leaves: the `modObs` calls of the model other than created ↦ in use and `subscribe` -/
macro_rules
  | `(tactic| lleaf) =>
    `(tactic| ((with_reducible apply PresMu.modObs); intro x t ht; (first | exact ht | exact absurd ht List.not_mem_nil)))
macro_rules
  | `(tactic| lleaf) =>
    `(tactic| ((with_reducible apply PresMu.modObs_setPrev); intro h; (try dsimp only); split <;> rfl))
life_leaf PresMu.modObs_filter

theorem Mute.afterDis {tok : Nat} (s : State) (o : Nat) :
    Mute tok s (afterDisCreated s o) ∧ Mute tok s (afterDisInUse s o) :=
  ⟨Mute.modify_at o (fun x => { x with state := .unlinked, handlers := [] }) rfl rfl rfl
      fun _ _ _ ht => absurd ht List.not_mem_nil,
   Mute.modify_at o (fun x => { x with state := .disallowed }) rfl rfl rfl
      fun _ _ _ ht => absurd ht List.not_mem_nil⟩

theorem PresMu.disallowFutureUse (tok o : Nat) : Pres (Mute tok) (disallowFutureUse o) := by
  constructor
  intro s r s' h
  rw [disallowFutureUse_run] at h
  split at h
  · cases h; exact Mute.refl _ _
  · split at h <;> cases h
    · exact (Mute.afterDis s o).1
    · exact (Mute.afterDis s o).2
    · exact Mute.refl _ _
    · exact Mute.refl _ _

instance (tok : Nat) : DisLocal (Mute tok) := ⟨PresMu.disallowFutureUse tok⟩

/-! ## handlers -/

theorem deliveryCheck_inv {o t : Nat} {s s1 : State} {r : Except Panic Unit}
    (h : (deliveryCheck o t).run.run s = (r, s1)) : s1 = s ∧ (r = .ok () → Deliverable s o t) := by
  unfold deliveryCheck at h
  cases e : s.observers[o]? with
  | none => rw [run_bind_error (run_getObs_none e)] at h; cases h; exact ⟨rfl, fun h => by cases h⟩
  | some ob =>
    rw [run_bind_ok (run_getObs_some e), run_assertM] at h
    split at h <;> cases h
    · rename_i hc
      refine ⟨rfl, fun _ => ⟨ob, e, ?_, ?_⟩⟩
      · simp only [Bool.and_eq_true, beq_iff_eq] at hc; exact hc.1
      · simp only [Bool.and_eq_true, List.any_eq_true, beq_iff_eq] at hc
        obtain ⟨x, hx, hxt⟩ := hc.2
        exact List.mem_map.2 ⟨x, hx, hxt⟩
    · exact ⟨rfl, fun h => by cases h⟩

/-- the one notification site, behind its ghost check -/
theorem PresMu.check_notif {β} (tok o t : Nat) (upd : Update) (k : Unit → M β)
    (hk : ∀ u, Pres (Mute tok) (k u)) :
    Pres (Mute tok) (deliveryCheck o t >>= fun _ => logEv (.notif t upd) >>= k) := by
  constructor
  intro s r s' hrun
  rw [run_bind] at hrun
  rcases hc : (deliveryCheck o t).run.run s with ⟨rc, sc⟩
  obtain ⟨rfl, hdel⟩ := deliveryCheck_inv hc
  rw [hc] at hrun
  cases rc with
  | error e => cases hrun; exact Mute.refl _ _
  | ok u =>
    simp only [] at hrun
    obtain ⟨ob, e, hst, htok⟩ := hdel rfl
    by_cases htt : t = tok
    · -- a live token is not dead
      intro hd
      exfalso
      refine hd.2 o ob e ?_
      rw [← htt]
      simp only [liveTokens, hst]
      exact htok
    · rw [run_bind] at hrun
      have h1 : Mute tok sc { sc with log := .notif t upd :: sc.log } := fun hd =>
        ⟨hd, fun e' he' => by
          rcases List.mem_cons.1 he' with rfl | h
          · exact .inr fun u hu => by cases hu; exact htt rfl
          · exact .inl h⟩
      exact Mute.trans h1 ((hk ()).h _ _ _ hrun)

macro_rules
  | `(tactic| lspecial) => `(tactic| with_reducible apply PresMu.check_notif)

theorem PresMu.runAllBodyChecked (tok env fuel o n nu now h) :
    Pres (Mute tok) (runAllBodyChecked env fuel o n nu now h) := by
  unfold Life.runAllBodyChecked; lpres

theorem PresMu.runAll (tok env fuel o n nu now) : Pres (Mute tok) (runAll env fuel o n nu now) := by
  rw [← runAllChecked_eq]
  unfold runAllChecked
  have := PresMu.runAllBodyChecked tok env fuel o n nu now
  lpres
  all_goals exact this _
life_leaf PresMu.runAll

theorem PresMu.stabiliseEnd (tok env fuel) : Pres (Mute tok) (stabiliseEnd env fuel) := by
  unfold Engine.stabiliseEnd; lpres
life_leaf PresMu.stabiliseEnd

/-! ## the observer phases, `stabilise` -/

/-- `Mute` does not look at the two observer queues -/
macro_rules
  | `(tactic| lleaf) =>
    `(tactic| ((with_reducible apply Pres.modify); intro _; exact Mute.of_dead (fun hd => hd) rfl))

/-- the loop body shape of `add_new_observers`, for any relation -/
theorem Pres.getObs_match {R : State → State → Prop} [PreOrd R] {β} (o : Nat) (k1 k2 k3 : M β)
    (f : ObsRec → ObsRec) (k4 : ObsRec → M β)
    (hf : ∀ (s : State) (x : ObsRec), s.observers[o]? = some x → x.state = .created →
      R s { s with observers := s.observers.modify o f })
    (h1 : Pres R k1) (h2 : Pres R k2) (h3 : Pres R k3) (h4 : ∀ ob, Pres R (k4 ob)) :
    Pres R (getObs o >>= fun ob => match ob.state with
      | .inUse => k1 | .disallowed => k2 | .unlinked => k3
      | .created => Engine.modObs o f >>= fun _ => k4 ob) := by
  constructor
  intro s r s' h
  cases hob : s.observers[o]? with
  | none => rw [run_bind_error (run_getObs_none hob)] at h; cases h; exact PreOrd.refl _
  | some ob =>
    rw [run_bind_ok (run_getObs_some hob)] at h
    cases hst : ob.state <;> simp only [hst] at h
    · rw [run_bind, run_modObs] at h
      exact PreOrd.trans (hf s ob hob hst) ((h4 ob).h _ _ _ h)
    · exact h1.h _ _ _ h
    · exact h2.h _ _ _ h
    · exact h3.h _ _ _ h

theorem PresMu.addNewObservers (tok env fuel) : Pres (Mute tok) (addNewObservers env fuel) := by
  unfold Engine.addNewObservers
  apply Pres.bind Pres.get; intro _
  apply Pres.bind
  · lpres
  intro _
  apply Pres.bind _ (fun _ => Pres.pure _)
  apply Pres.forIn; intro o _
  refine Pres.getObs_match o _ _ _ _ _ (fun s x hx hst => ?_) ?_ ?_ ?_ fun ob => ?_
  · exact Mute.modify_at o (fun x => { x with state := .inUse }) rfl rfl rfl fun y hy t ht => by
      rw [hx] at hy; cases hy
      simpa [liveTokens, hst] using ht
  all_goals lpres
life_leaf PresMu.addNewObservers

theorem PresMu.unlinkDisallowedObservers (tok fuel) :
    Pres (Mute tok) (unlinkDisallowedObservers fuel) := by
  unfold Engine.unlinkDisallowedObservers; lpres
life_leaf PresMu.unlinkDisallowedObservers

theorem PresMu.stabilise (tok env fuel) : Pres (Mute tok) (stabilise env fuel) := by
  unfold Engine.stabilise; lpres
life_leaf PresMu.stabilise

/-! ## `subscribe` issues a fresh token -/

theorem Pres.get_bind_at {R : State → State → Prop} {β} (k : State → M β)
    (h : ∀ s0 r s', (k s0).run.run s0 = (r, s') → R s0 s') : Pres R (get >>= k) := by
  constructor
  intro s r s' hrun
  rw [run_bind, run_get] at hrun
  exact h s r s' hrun

theorem PresMu.subscribe (tok o hid) : Pres (Mute tok) (subscribe o hid) := by
  unfold Engine.subscribe
  apply Pres.get_bind_at
  intro s r s' hrun
  split at hrun
  · simp only [run_pure] at hrun; cases hrun; exact Mute.refl _ _
  cases hob : s.observers[o]? with
  | none => rw [run_bind_error (run_getObs_none hob)] at hrun; cases hrun; exact Mute.refl _ _
  | some ob =>
    rw [run_bind_ok (run_getObs_some hob)] at hrun
    have key : ∀ (rest : M (Except ObsError Nat)), Pres (Mute tok) rest →
        ((modify fun s => { s with nextToken := s.nextToken + 1 }) >>= fun _ =>
          Engine.modObs o (fun x => { x with handlers := x.handlers ++
            [{ token := s.nextToken, hid := hid, createdAt := s.stabNum }] }) >>= fun _ => rest).run.run s
          = (r, s') → Mute tok s s' := by
      intro rest hrest h
      simp only [run_bind, run_modify, run_modObs] at h
      have h2 := hrest.h _ _ _ h
      refine Mute.trans ?_ h2
      intro hd
      refine ⟨⟨Nat.lt_succ_of_lt hd.1, fun m x' e' hm => ?_⟩, fun e he => .inl he⟩
      simp only [Array.getElem?_modify] at e'
      split at e'
      · rename_i hmo; subst hmo
        rw [hob] at e'
        simp only [Option.map_some, Option.some.injEq] at e'
        subst e'
        have : tok ∈ liveTokens ob ∨ tok = s.nextToken := by
          revert hm
          simp only [liveTokens]
          cases ob.state <;> simp
        rcases this with h1 | h1
        · exact hd.2 o ob hob h1
        · exact absurd hd.1 (by rw [h1]; exact Nat.lt_irrefl _)
      · exact hd.2 m x' e' hm
    cases hst : ob.state <;> simp only [hst] at hrun
    · exact key _ (by lpres) hrun
    · exact key _ (by lpres) hrun
    · simp only [run_pure] at hrun; cases hrun; exact Mute.refl _ _
    · simp only [run_pure] at hrun; cases hrun; exact Mute.refl _ _
life_leaf PresMu.subscribe

theorem PresMu.unsubscribe (tok o t w) : Pres (Mute tok) (unsubscribe o t w) := by
  unfold Engine.unsubscribe; lpres
life_leaf PresMu.unsubscribe

theorem Mute.of_push {tok : Nat} {s s' : State} (n : Nat)
    (ho : s'.observers = s.observers.push { node := n }) (hn : s'.nextToken = s.nextToken)
    (hl : s'.log = s.log) : Mute tok s s' := by
  refine Mute.of_dead (Dead.of_shrink (Nat.le_of_eq hn.symm) fun m ob' e' hm => ?_) hl
  rw [ho, Array.getElem?_push] at e'
  split at e'
  · cases e'; exact absurd hm List.not_mem_nil
  · exact ⟨m, ob', e', hm⟩

macro_rules
  | `(tactic| lleaf) =>
    `(tactic| ((with_reducible apply Pres.modify); intro _; exact Mute.of_push _ rfl rfl rfl))

/-- every API action, every outcome: a dead token stays dead and is not notified -/
theorem PresMu.stepAction (tok : Nat) (env : Env) (a : Action) (tokens : Array Nat) :
    Pres (Mute tok) (stepAction env a tokens) := by
  cases a <;> (simp only [Engine.stepAction]; lpres)

theorem Run.mute {env : Env} {P : Action → Except Panic (String × Array Nat) → Prop} {s s' : State}
    (tok : Nat) (h : Run env P s s') : Mute tok s s' :=
  Run.induct (fun a tokens _ => PresMu.stepAction tok env a tokens)
    (fun _ hd => ⟨hd, fun _ he => absurd he List.not_mem_nil⟩) h

end IncrVerif.Proofs.Life
