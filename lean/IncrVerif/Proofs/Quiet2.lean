import IncrVerif.Proofs.Quiet1
import IncrVerif.Proofs.CutH8
/-!
# Part 2: single updates of one node, and what they do to `GInv` (pure step lemmas)
-/
namespace IncrVerif.Proofs.Quiet
open IncrVerif.Engine IncrVerif.Proofs IncrVerif.Proofs.Step IncrVerif.Proofs.Sched

/-- `s'` is `s` with node `n` replaced by `f` of it, as far as the invariant can see -/
structure NodeUpd (n : Nat) (f : Node → Node) (s s' : State) : Prop where
  lt : n < s.nodes.size
  pc : s'.panicCountdown = s.panicCountdown
  scope : s'.currentScope = s.currentScope
  size : s'.nodes.size = s.nodes.size
  rch : s'.rch = s.rch
  vars : s'.vars = s.vars
  other : ∀ m, m ≠ n → NodeG (s.nodeD m) (s'.nodeD m)
  self : NodeG (f (s.nodeD n)) (s'.nodeD n)

theorem NodeUpd.toC {n : Nat} {f : Node → Node} {s s' : State} (U : NodeUpd n f s s') : CutH.NodeUpd n f s s' :=
  ⟨U.lt, U.pc, U.scope, U.size, U.rch, U.vars, fun m hm => (U.other m hm).toC, U.self.toC⟩
theorem NodeUpd.ofC {n : Nat} {f : Node → Node} {s s' : State} (U : CutH.NodeUpd n f s s') : NodeUpd n f s s' :=
  ⟨U.lt, U.pc, U.scope, U.size, U.rch, U.vars, fun m hm => .ofC (U.other m hm), .ofC U.self⟩

theorem NodeUpd.modify {n : Nat} (f : Node → Node) {s : State} (h : n < s.nodes.size) :
    NodeUpd n f s { s with nodes := s.nodes.modify n f } := by
  refine ⟨h, rfl, rfl, by simp, rfl, rfl, fun m hm => ?_, ?_⟩
  · rw [nodeD_modify, if_neg (fun e => hm e.1.symm)]; exact NodeG.refl _
  · rw [nodeD_modify, if_pos ⟨rfl, h⟩]; exact NodeG.refl _

theorem NodeG.trans {a b c : Node} (h1 : NodeG a b) (h2 : NodeG b c) : NodeG a c :=
  ⟨h2.valid.trans h1.valid, h2.kind.trans h1.kind, h2.cutoff.trans h1.cutoff, h2.createdIn.trans h1.createdIn,
   h2.forceNecessary.trans h1.forceNecessary, h2.parents.trans h1.parents, h2.observers.trans h1.observers,
   h2.height.trans h1.height, h2.heightInRch.trans h1.heightInRch, h2.recomputedAt.trans h1.recomputedAt,
   h2.changedAt.trans h1.changedAt⟩

theorem SameG.trans {a b c : State} (h1 : SameG a b) (h2 : SameG b c) : SameG a c :=
  ⟨h2.pc.trans h1.pc, h2.scope.trans h1.scope, h2.size.trans h1.size, h2.rch.trans h1.rch,
   h2.vars.trans h1.vars, fun m => (h1.node m).trans (h2.node m)⟩

theorem NodeUpd.then_same {n : Nat} {f : Node → Node} {s s1 s2 : State} (h1 : NodeUpd n f s s1)
    (h2 : SameG s1 s2) : NodeUpd n f s s2 :=
  ⟨h1.lt, h2.pc.trans h1.pc, h2.scope.trans h1.scope, h2.size.trans h1.size, h2.rch.trans h1.rch,
   h2.vars.trans h1.vars, fun m hm => (h1.other m hm).trans (h2.node m), h1.self.trans (h2.node n)⟩

/-- the fields of `f x` the invariant reads only depend on those of `x` -/
def RespG (f : Node → Node) : Prop := ∀ a b, NodeG a b → NodeG (f a) (f b)

theorem NodeUpd.after_same {n : Nat} {f : Node → Node} {s s1 s2 : State} (hf : RespG f) (h1 : SameG s s1)
    (h2 : NodeUpd n f s1 s2) : NodeUpd n f s s2 :=
  ⟨by rw [← h1.size]; exact h2.lt, h2.pc.trans h1.pc, h2.scope.trans h1.scope, h2.size.trans h1.size,
   h2.rch.trans h1.rch, h2.vars.trans h1.vars, fun m hm => (h1.node m).trans (h2.other m hm),
   (hf _ _ (h1.node n)).trans h2.self⟩

/-! ## the update functions -/

def fParents (l : List (Nat × Nat)) : Node → Node := fun x => { x with parents := l }
def fHeight (h : Int) : Node → Node := fun x => { x with height := h }
def fObservers (l : List Nat) : Node → Node := fun x => { x with observers := l }

/-! ## heap lemmas -/

/-- inserting a node that is not queued keeps `HeapG` -/
theorem HeapG.inserted {s : State} (h : HeapG s) {p : Nat} {x : Int} (hp : p < s.nodes.size)
    (hnot : (s.nodeD p).inRch = false) (h0 : 0 ≤ x) (hmax : x ≤ s.rch.maxAllowed) :
    HeapG (inserted p x s) :=
  .ofC (h.toC.inserted hp hnot h0 hmax)

/-- the state after a successful `rchRemove n` of a node in bucket `h`, at position `idx` of the bucket `q` -/
def removedAt (n h : Nat) (q : List Nat) (idx : Nat) (s : State) : State :=
  { s with nodes := s.nodes.modify n fun x => { x with heightInRch := -1 },
           rch := { s.rch with queues := s.rch.queues.set! h (swapRemoveBack q idx),
                               length := s.rch.length - 1 } }

theorem removedAt_nodeD (n h : Nat) (q : List Nat) (idx : Nat) (s : State) (m : Nat) :
    (removedAt n h q idx s).nodeD m =
      if n = m ∧ m < s.nodes.size then { s.nodeD m with heightInRch := -1 } else s.nodeD m :=
  nodeD_modify s n m _

theorem rchRemove_ok_inv {n : Nat} {s s' : State} {u : Unit}
    (hr : (rchRemove n).run.run s = (.ok u, s')) :
    ∃ nd q idx, s.nodes[n]? = some nd ∧ 0 ≤ nd.heightInRch ∧
      s.rch.queues[nd.heightInRch.toNat]? = some q ∧ q.idxOf? n = some idx ∧
      s' = removedAt n nd.heightInRch.toNat q idx s :=
  CutH.rchRemove_ok_inv hr

/-- a successful `rchRemove` keeps `HeapG`; only the marker of `n` changes -/
theorem HeapG.removed {s s' : State} {n : Nat} {u : Unit} (h : HeapG s)
    (hr : (rchRemove n).run.run s = (.ok u, s')) :
    HeapG s' ∧ (s'.nodeD n).inRch = false ∧
      (∀ m, m ≠ n → (s'.nodeD m).heightInRch = (s.nodeD m).heightInRch) ∧
      s'.rch.lowerBound = s.rch.lowerBound ∧ s'.rch.queues.size = s.rch.queues.size :=
  have J := h.toC.removed hr
  ⟨.ofC J.1, J.2⟩

end IncrVerif.Proofs.Quiet
