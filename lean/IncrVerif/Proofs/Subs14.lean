import IncrVerif.Proofs.Subs10
import IncrVerif.Proofs.Subs13
/-!
# Subscriptions, part 12b: every action of the fragment keeps the invariant (S1); whole histories
-/
namespace IncrVerif.Proofs.SubsH
open IncrVerif.Engine IncrVerif.Driver IncrVerif.Proofs IncrVerif.Proofs.Step IncrVerif.Proofs.Sched
open IncrVerif.Proofs.Quiet

/-- the API actions of the static fragment with subscriptions: the static actions (`Quiet.StaticAction`) and
`subscribe`, `unsubscribe`, `stateUnsub` -/
def SubAction (env : Env) : Action → Prop
  | .subscribe _ _ | .unsubscribe _ _ | .stateUnsub _ => True
  | a => StaticAction env a

theorem SubAction.of_static {env : Env} {a : Action} (h : StaticAction env a) : SubAction env a := by
  cases a <;> first | exact h | trivial

/-- **S1: every action of the fragment that returns keeps the invariant**; every action other than
`stabilise` is an `NStep` -/
theorem step_u {env : Env} {s s' : State} {a : Action} {tokens : Array Nat} {r : String × Array Nat}
    (U : UInv env s) (heff : PureHandlers env) (ha : SubAction env a)
    (h : (stepAction env a tokens).run.run s = (.ok r, s')) :
    UInv env s' ∧ (a ≠ .stabilise → NStep s s') := by
  cases a <;> try exact ha.elim
  case create i =>
    obtain ⟨Q', -, K⟩ := step_create U.core ha h
    exact ⟨⟨Q', K.hinv U.hinv⟩, fun _ => NStep.of_kframe K⟩
  case observe n =>
    have := step_obsAction (a := .observe n) U ha h
    exact ⟨this.1, fun _ => this.2.2⟩
  case cloneObs o =>
    have := step_obsAction (a := .cloneObs o) U trivial h
    exact ⟨this.1, fun _ => this.2.2⟩
  case dropObs o =>
    have := step_obsAction (a := .dropObs o) U trivial h
    exact ⟨this.1, fun _ => this.2.2⟩
  case disallow o =>
    have := step_obsAction (a := .disallow o) U trivial h
    exact ⟨this.1, fun _ => this.2.2⟩
  case subscribe o hid => exact ⟨(step_subscribe U h).1, fun _ => step_subscribe_n U h⟩
  case unsubscribe o t => exact ⟨(step_unsubscribe U h).1, fun _ => step_unsubscribe_n U h⟩
  case stateUnsub t => exact ⟨(step_stateUnsub U h).1, fun _ => step_stateUnsub_n U h⟩
  case stabilise => exact ⟨(stabilise_u U heff (step_stabilise h)).inv, fun hne => absurd rfl hne⟩
  all_goals
    (obtain ⟨Q', -, K⟩ := step_write U.core (by trivial) h
     exact ⟨⟨Q', K.hinv U.hinv⟩, fun _ => NStep.of_kframe K⟩)

/-- the initial state satisfies the invariant -/
theorem uinv_init (env : Env) (N : Nat) (d : Bool) : UInv env (State.init N d) :=
  ⟨QInv.of_quiet (qinv_init env N d), hinv_init N d⟩

/-- a list of actions of the fragment that runs without panic from a state satisfying the invariant ends in a
state satisfying it -/
theorem runActions_u {env : Env} {acts : List Action} {s s' : State} {tk tk' : Array Nat}
    (U : UInv env s) (heff : PureHandlers env) (ha : ∀ a, a ∈ acts → SubAction env a)
    (h : runActions env acts s tk = .ok (s', tk')) : UInv env s' :=
  Hist.runActions_inv_all (fun _ _ _ _ _ U ha hx => (step_u U heff ha hx).1) U ha h

/-- the initial state followed by a list of actions of the fragment -/
theorem history_u {env : Env} {N : Nat} {d : Bool} {acts : List Action} {s : State} {tk : Array Nat}
    (heff : PureHandlers env) (ha : ∀ a, a ∈ acts → SubAction env a)
    (h : runActions env acts (State.init N d) #[] = .ok (s, tk)) : UInv env s :=
  runActions_u (uinv_init env N d) heff ha h

/-- at every `stabilise` of a history: the invariant before, all conclusions of `stabilise_u` -/
theorem history_stabilise_u {env : Env} {N : Nat} {d : Bool} {as bs : List Action} {s : State}
    {tk : Array Nat} (heff : PureHandlers env)
    (ha : ∀ a, a ∈ as ++ Action.stabilise :: bs → SubAction env a)
    (h : runActions env (as ++ Action.stabilise :: bs) (State.init N d) #[] = .ok (s, tk)) :
    ∃ s1 tk1 s2, runActions env as (State.init N d) #[] = .ok (s1, tk1) ∧ UInv env s1 ∧
      (stabilise env fuelDefault).run.run s1 = (.ok (), s2) ∧ Stabilised env fuelDefault s1 s2 ∧
      runActions env bs s2 tk1 = .ok (s, tk) := by
  obtain ⟨s1, tk1, s2, h1, U1, hst, -, h2⟩ :=
    Hist.runActions_stabilise_all (fun _ _ _ _ _ U ha hx => (step_u U heff ha hx).1) (uinv_init env N d) ha h
  exact ⟨s1, tk1, s2, h1, U1, hst, stabilise_u U1 heff hst, h2⟩

end IncrVerif.Proofs.SubsH
