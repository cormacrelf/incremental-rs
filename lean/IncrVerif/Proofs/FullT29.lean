import IncrVerif.Proofs.FullT28
import IncrVerif.Proofs.FullT21
/-!
# C04 combined fragment: a SIMULATED step of the drain returns

`recomputeOne env fuel n` on a node that is neither a map_ref nor a map_with_old node and is EXACT (cutoff `.eq`, or a change detector): whatever its outcome, if the
state it ends in has room then it returned, and `PInv` holds again.
* static kinds / `bindMain`: the VIRTUAL run returns (`NestH.recomputeOne_static_total2'`), hence the actual one (`recomputeOne_sim_rev`).
* a change detector: `NestH.lcStep_totalG` is mirrored phase by phase — each phase of the VIRTUAL run returns (`T2f.phase1_tot … phase4_tot`), the converse half of the
  bisimulation of that phase gives the actual phase; `MRPV` of the state after phase 3 from `T2f.mid3_of … .graph`.
-/
namespace IncrVerif.Proofs.FullT
set_option linter.unusedSectionVars false
open IncrVerif.Engine IncrVerif.Driver IncrVerif.Proofs IncrVerif.Proofs.Step IncrVerif.Proofs.Sched IncrVerif.Proofs.Quiet IncrVerif.Proofs.FullH
open IncrVerif.Proofs.BindH (DInv BGraph)
open IncrVerif.Proofs.NestH (DT)

section
variable {env : Env} {sp : Nat → Val → Val} {N : Nat}

/-- static kinds and `bindMain` -/
theorem simTot_static {t s : State} {g : Nat → Option Val} {fuel n : Nat}
    (D : DInvF env sp t s g (some n)) (hP : PInv s) (T : DT (VE env sp) N (virt g s))
    (hk1 : ∀ p i, (s.nodeD n).kind ≠ .mapRef p i) (hk2 : ∀ m i, (s.nodeD n).kind ≠ .mapWithOld m i)
    (hk3 : ∀ b, (s.nodeD n).kind ≠ .bindLhsChange b) (hcn : (s.nodeD n).cutoff = .eq)
    {r1 : Except Panic (Option Nat)} {s1 : State} (h : (recomputeOne env fuel n).run.run s = (r1, s1))
    (hN : s1.nodes.size ≤ N) (hfs : s1.nodes.size ≤ fuel) (hf1 : 1 ≤ fuel) :
    ∃ r, r1 = .ok r ∧ PInv s1 := by
  have I := D.inv
  have gr := I.graph
  obtain ⟨hnec, hnlt, hnv, -, -⟩ := I.cur_facts
  rw [virt_size] at hnlt
  rw [virt_nodeD, virtNode_valid] at hnv
  have hkids := kids_settled D
  have hBk := (gr.node n (by rw [virt_size]; exact hnlt) (by rw [virt_nodeD, virtNode_valid]; exact hnv)).1
  rw [virt_nodeD, virtNode_kind] at hBk
  have hrhs : ∀ b lc br r0, (s.nodeD n).kind = .bindMain b lc → s.binds[b]? = some br → br.rhs = some r0 →
      (s.nodeD r0).valid = true := by
    intro b lc br r0 hkd hb hr
    have hc : r0 ∈ (virt g s).children n := by
      rw [virt_children]
      unfold State.children Node.kind?
      rw [hnv, hkd]
      simp only [if_true, hb, hr]
      simp
    have := ((gr.node n (by rw [virt_size]; exact hnlt) (by rw [virt_nodeD, virtNode_valid]; exact hnv)).2.2 r0 hc).2
    rw [virt_nodeD, virtNode_valid] at this
    exact this
  have hkS : Sched.StaticKind (VE env sp) ((virt g s).nodeD n).kind ∨ ∃ b lc, ((virt g s).nodeD n).kind = .bindMain b lc := by
    rw [virt_nodeD, virtNode_kind]
    cases hkd : (s.nodeD n).kind <;> rw [hkd] at hBk <;> simp only [virtKind] at hBk ⊢ <;>
      first
      | exact Or.inl hBk
      | exact Or.inr ⟨_, _, rfl⟩
      | exact absurd hkd (hk3 _)
  obtain ⟨rk, A, hb, H, Lm⟩ := T
  have hgrow := NestH.T2g.recomputeOne_size h
  have R : Quiet.Room N (virt g s) := Lm.room (by rw [virt_size]; omega)
  obtain ⟨r, tv', hrunv, -⟩ := NestH.recomputeOne_static_total2' I A H hb R hkS hf1
  obtain ⟨s', hs', -, -, -, p'⟩ := recomputeOne_sim_rev D.frag hP (mrpv_of_bgraph gr) (by omega) hnlt hnv hk1 hk2 hk3 hcn hrhs
    (fun a ha => (hkids a ha).1) hrunv
  rw [hs'] at h; cases h
  exact ⟨r, rfl, p'⟩

/-- a change detector: `NestH.lcStep_totalG`, phase by phase -/
theorem simTot_lc (E : EnvS env sp) {t s : State} {g : Nat → Option Val} {fuel n b : Nat}
    (D : DInvF env sp t s g (some n)) (hP : PInv s) (T : DT (VE env sp) N (virt g s))
    (hkb : (s.nodeD n).kind = .bindLhsChange b)
    {r1 : Except Panic (Option Nat)} {s1 : State} (h : (recomputeOne env fuel n).run.run s = (r1, s1))
    (hN : s1.nodes.size ≤ N) (hf : 3 * s1.nodes.size + 3 ≤ fuel) :
    ∃ r, r1 = .ok r ∧ PInv s1 := by
  have I := D.inv
  obtain ⟨rk, A, hB, H, L⟩ := T
  have hk : ((virt g s).nodeD n).kind = .bindLhsChange b := by rw [virt_nodeD, virtNode_kind, hkb]; rfl
  obtain ⟨br, X⟩ := NestH.NC.lc_pre2 I A hk
  have hnlt : n < s.nodes.size := by have := X.hlt; rwa [virt_size] at this
  have hnv : (s.nodeD n).valid = true := by have := X.hvn; rwa [virt_nodeD, virtNode_valid] at this
  have hb : s.binds[b]? = some br := X.hb
  rw [Inval.recomputeOne_bindLhsChange_run env fuel n s _ b br (some_of_lt hnlt) hnv hkb hb] at h
  -- the facts of the actual state
  have hk? : (s.nodeD n).kind? = some (.bindLhsChange b) := by simp [Node.kind?, hnv, hkb]
  have hrd : tv g (started n s) br.lhs = (started n s).value env br.lhs := by
    rw [ST.tv_started, started_value]
    apply fun a ha => (kids_settled D a ha).1
    unfold State.children
    rw [hk?]
    simp only [hb]
    simp
  have hk0 : ST.NK n (started n s) :=
    ⟨by simp [started]; exact hnlt, (fun p i => by rw [ST.started_kind, hkb]; exact fun e => by cases e),
      ST.exact_started (ST.exact_of_lc hkb) []⟩
  have fr0 : Fr (FK env sp) g (started n s) := ST.fr_started D.frag.fr n
  have p0 : PInv (started n s) := pinv_started hP n []
  -- phase 1
  obtain ⟨rhs, S1, h1v, -⟩ := NestH.T2f.phase1_tot I A X
  have h1v' : (Inval.lhsRunClosure (VE env sp) n b br).run.run (virt g (started n s)) = (.ok rhs, S1) := by
    rw [ST.virt_started]; exact h1v
  obtain ⟨t1, h1, e1, fr1, vm1, p1⟩ := (BSimAt.lhsRunClosure hrd (ST.topLt_started n (topLt_of_dinvF D))
    (fun v => ST.templS_of_envS E br.body v)).rev fr0 p0 h1v'
  subst e1
  have hrest : (NestH.T2f.rest env fuel n b br s.stabNum rhs).run.run t1 = (r1, s1) := by
    rw [run_bind_ok h1] at h; exact h
  have hsz1 := NestH.T2f.rest_size hrest
  obtain ⟨rk', l, P⟩ := NestH.NC.phase1 (NestH.closure_spec2 (VE env sp)) X A h1v
  have hB1 := NestH.T2f.hbo2_phase1 P hB
  have L1 : NestH.Lim N (virt g t1) := NestH.T2f.lim_eq (NestH.T2f.lim_started L) P.rel.ahh P.rel.rch
  have R1 : Quiet.Room N (virt g t1) := L1.room (by rw [virt_size]; omega)
  -- phase 2
  obtain ⟨u2, S2, h2v, hB2, R2⟩ := NestH.T2f.phase2_tot (fuel := fuel) X A P hB1 R1 (by rw [virt_size]; omega)
  have Q := NestH.NC.phase2 (NestH.relink_spec2 (VE env sp)) X A P h2v
  obtain ⟨t2, g2, h2, e2, fr2, gr2, p2⟩ := (BSimXAt.lhsRelink (apC (FK env sp) env sp) fuel n b br s.stabNum rhs
    (by omega)).rev fr1 p1 h2v
  subst e2
  -- phase 3
  obtain ⟨u3, S3, h3v, -⟩ := NestH.T2f.phase3_tot (fuel := fuel) X A P Q (by rw [Q.rel.size, virt_size]; omega)
  have R3 := NestH.NC.phase3 (NestH.inval_spec2 (VE env sp)) X A P Q h3v
  obtain ⟨t3, g3, h3, e3, fr3, gr3, p3⟩ := (BSimX.lhsInvalidateOld (K := FK env sp) (P := PInv) fuel br g2 t2).rev fr2 p2 h3v
  subst e3
  have hB3 := NestH.T2f.hbo2_phase3 R3.rel hB2
  have Rm3 : Quiet.Room N (virt g3 t3) := NestH.T2d.room_nodes R2 R3.rel.ahh R3.rel.rch R3.rel.size
  have Y := NestH.T2f.mid3_of I A X P Q R3
  have hsz3 : t3.nodes.size = t1.nodes.size := by
    have := R3.rel.size.trans Q.rel.size
    rwa [virt_size, virt_size] at this
  -- phase 4
  obtain ⟨r4, S4, h4v, -⟩ := NestH.T2f.phase4_tot (fuel := fuel) Y A hk hB3 Rm3 (by omega)
  have hk3 := ((hk0.vm vm1).vm gr2.vm).vm gr3.vm
  have hkb3 : (t3.nodeD n).kind = .bindLhsChange b := by
    have v := (vm1.trans gr2.vm).trans gr3.vm
    rw [(v.kind n hk0.1).1, ST.started_kind]; exact hkb
  obtain ⟨s4, h4, -, -, -, p4⟩ := (BSimAt.lhsFinish_lc (K := FK env sp) (g := g3) (env := env) (sp := sp) (fuel := fuel) ⟨b, hkb3⟩
    (mrpv_of_bgraph Y.graph) (by omega)).rev fr3 p3 h4v
  have hall : (NestH.T2f.rest env fuel n b br s.stabNum rhs).run.run t1 = (.ok r4, s4) := by
    unfold NestH.T2f.rest
    rw [run_bind_ok h2, run_bind_ok h3]; exact h4
  rw [hall] at hrest
  cases hrest
  exact ⟨r4, rfl, p4⟩

/-- **a simulated step of the drain returns** if the state it ends in has room, for any fuel bound `need` with `3 * sz + 3 ≤ need sz` -/
theorem recomputeOne_simulated_totIf {need : Nat → Nat} (hneed : ∀ sz, 3 * sz + 3 ≤ need sz) (E : EnvS env sp)
    {t s : State} {g : Nat → Option Val} {fuel n : Nat} (D : DInvF env sp t s g (some n)) (hP : PInv s) (T : DT (VE env sp) N (virt g s))
    (hk1 : ∀ p i, (s.nodeD n).kind ≠ .mapRef p i) (hk2 : ∀ m i, (s.nodeD n).kind ≠ .mapWithOld m i)
    (hex : (s.nodeD n).cutoff = .eq ∨ ∃ b, (s.nodeD n).kind = .bindLhsChange b) :
    NestH.TotIf (recomputeOne env fuel n) s (NestH.HasRoomG need N fuel) (fun _ s' => PInv s') := by
  intro r1 s1 h hroom
  obtain ⟨hN, hf⟩ := hroom
  have hfu := hneed s1.nodes.size
  by_cases hk3 : ∀ b, (s.nodeD n).kind ≠ .bindLhsChange b
  · have hcn : (s.nodeD n).cutoff = .eq := by
      rcases hex with e | ⟨b, e⟩
      · exact e
      · exact absurd e (hk3 b)
    exact simTot_static D hP T hk1 hk2 hk3 hcn h hN (by omega) (by omega)
  · have : ∃ b, (s.nodeD n).kind = .bindLhsChange b := by
      cases hkd : (s.nodeD n).kind <;>
        first | exact ⟨_, rfl⟩ | (exfalso; apply hk3; intro b; rw [hkd]; intro h; cases h)
    obtain ⟨b, hkb⟩ := this
    exact simTot_lc E D hP T hkb h hN (by omega)

end
end IncrVerif.Proofs.FullT
