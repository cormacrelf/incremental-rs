import IncrVerif.Proofs.PerKeyH46
import IncrVerif.Proofs.PerKeyFrame
/-!
# Per-key operators, API actions part 2: the kind frame `KF` and the transfer of the bookkeeping invariant

`KF s s'`: nodes are only appended, old nodes keep their kind, old expert records keep `xCore`
(`f`, `node`, `children`, `pk`, `forceStale`), old names keep their node, old nodes keep their children.
* `KF.gf`, **`OpOK.of_frame`** (the `input` clause of the new state is a hypothesis).
* `isStale_map_congr`: staleness of a `map` node reads its own validity/stamp and the change stamps of its children.
-/
namespace IncrVerif.Proofs.PerKeyH
open IncrVerif.Engine IncrVerif.Driver IncrVerif.Proofs IncrVerif.Proofs.Step IncrVerif.Proofs.Sched
open IncrVerif.Proofs.ExpertH IncrVerif.Proofs.EffH IncrVerif.Proofs.DriverH

structure KF (s s' : State) : Prop where
  grow : s.nodes.size ≤ s'.nodes.size
  kind : ∀ m, m < s.nodes.size → (s'.nodeD m).kind = (s.nodeD m).kind
  xrec : ∀ (e : Nat) (er : ExpertRec), s.experts[e]? = some er →
    ∃ er', s'.experts[e]? = some er' ∧ xCore er' = xCore er
  top : ∀ (k n : Nat), s.top[k]? = some n → s'.top[k]? = some n
  /-- old nodes keep their children (an old expert node has a record) -/
  kids : ∀ m, m < s.nodes.size → kidsX s'.experts (s'.nodeD m).kind = kidsX s.experts (s.nodeD m).kind
  /-- old expert nodes whose virtual stamp is `-1` keep it (no expert node runs) -/
  stamp : ∀ m e, m < s.nodes.size → (s.nodeD m).kind = .expert e → ((V s).nodeD m).recomputedAt = -1 →
    ((V s').nodeD m).recomputedAt = -1

theorem KF.refl (s : State) : KF s s :=
  ⟨Nat.le_refl _, fun _ _ => rfl, fun _ er h => ⟨er, h, rfl⟩, fun _ _ h => h, fun _ _ => rfl, fun _ _ _ _ h => h⟩

theorem KF.trans {a b c : State} (h1 : KF a b) (h2 : KF b c) : KF a c := by
  refine ⟨Nat.le_trans h1.grow h2.grow, fun m hm => ?_, fun e er he => ?_, fun k n h => h2.top k n (h1.top k n h),
    fun m hm => by rw [h2.kids m (Nat.lt_of_lt_of_le hm h1.grow), h1.kids m hm],
    fun m e hm hk hs => h2.stamp m e (Nat.lt_of_lt_of_le hm h1.grow) ((h1.kind m hm).trans hk) (h1.stamp m e hm hk hs)⟩
  · rw [h2.kind m (Nat.lt_of_lt_of_le hm h1.grow), h1.kind m hm]
  · obtain ⟨er1, he1, c1⟩ := h1.xrec e er he
    obtain ⟨er2, he2, c2⟩ := h2.xrec e er1 he1
    exact ⟨er2, he2, c2.trans c1⟩

theorem kidsX_default (xs : Array ExpertRec) : kidsX xs (default : Node).kind = [] := rfl

theorem KF.gf {s s' : State} (F : KF s s') : GF (fun _ => False) s s' := by
  refine ⟨F.grow, F.kind, F.top, fun e er he => ?_⟩
  obtain ⟨er', he', hcore⟩ := F.xrec e er he
  have hc := xCore_inj hcore
  exact ⟨er', he', hc.2.1, hc.2.2.2.1, fun _ => hc.2.2.1, [], by rw [hc.2.2.1, List.append_nil]⟩

/-- **the bookkeeping of an operator along a kind frame**; the semantic link of the new state is a hypothesis -/
theorem OpOK.of_frame {env : Env} {s s' : State} (F : KF s s') {op : Nat} {pr : PerKeyRec} (h : OpOK env s op pr)
    (hnew : ∀ c x, s.nodes.size ≤ c → c < s'.nodes.size → x ∈ kidsX s'.experts (s'.nodeD c).kind → ¬ Priv env pr x)
    (hobs : ∀ x, x < s.nodes.size → (s.nodeD x).observers = [] → (s'.nodeD x).observers = [])
    (htop : ∀ (k x : Nat), s'.top[k]? = some x → s.top[k]? = some x ∨ ¬ Priv env pr x)
    (input : s'.isStale pr.lhsChange = false → (s'.nodeD (pr.result - 1)).value = some (.map pr.prevMap)) :
    OpOK env s' op pr :=
  (h.core.gf F.gf (fun _ _ _ hd => hd.elim) (fun c hc _ => F.kids c hc) (fun x hp => hobs x (h.core.priv_lt hp)) htop
    (fun c x hc hcase hx => hcase.elim (fun hge => Or.inl (hnew c x hge hc hx)) fun ⟨_, hd, _⟩ => hd.elim)
    fun _ _ _ p _ ep _ _ _ hlt hk h0 => Or.inl (F.stamp p ep hlt hk h0)).toOK h.dom input

/-! ## staleness of a `map` node -/

theorem any_congr_mem {l : List Nat} {p q : Nat → Bool} (h : ∀ c, c ∈ l → p c = q c) : l.any p = l.any q := by
  induction l with
  | nil => rfl
  | cons a l ih =>
    simp only [List.any_cons]
    rw [h a (List.mem_cons_self ..), ih fun c hc => h c (List.mem_cons_of_mem _ hc)]

theorem isStale_map_congr {s s' : State} {n f : Nat} {args : List Nat} (hk : (s.nodeD n).kind = .map f args)
    (hk' : (s'.nodeD n).kind = .map f args) (hv : (s'.nodeD n).valid = (s.nodeD n).valid)
    (hr : (s'.nodeD n).recomputedAt = (s.nodeD n).recomputedAt)
    (hc : ∀ c, c ∈ args → (s'.nodeD c).changedAt = (s.nodeD c).changedAt) : s'.isStale n = s.isStale n := by
  unfold State.isStale State.children Node.kind?
  simp only [hk, hk', hv, hr]
  cases (s.nodeD n).valid with
  | false => rfl
  | true =>
    simp only [if_true]
    congr 1
    exact any_congr_mem fun c hc' => by rw [hc c hc']

end IncrVerif.Proofs.PerKeyH
