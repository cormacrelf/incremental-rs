import IncrVerif.Proofs.MemoH15
/-!
# K3, recompute part (3): `recompute`, `drainHeap`, `stabilise`, every API action, whole histories
-/
namespace IncrVerif.Proofs.MemoH
open IncrVerif.Engine IncrVerif.Proofs.Obs IncrVerif.Proofs.Memo

namespace KB

variable {env : Env}

theorem recompute (hA : ASpec env) (henv : EnvK3 env) (fuel n : Nat) :
    Pres TV (Engine.recompute env fuel n) := by
  induction fuel generalizing n with
  | zero => unfold Engine.recompute; mpres
  | succ fuel ih =>
    unfold Engine.recompute
    refine Pres.bind (recomputeOne hA henv _ _) fun r => ?_
    split
    · exact Pres.pure _
    · exact ih _

theorem drainHeap (hA : ASpec env) (henv : EnvK3 env) (fuel : Nat) :
    Pres TV (Engine.drainHeap env fuel) := by
  induction fuel with
  | zero => unfold Engine.drainHeap; mpres
  | succ fuel ih =>
    unfold Engine.drainHeap
    refine Pres.bind PresF.rchRemoveMin fun r => ?_
    split
    · exact Pres.pure _
    · exact Pres.bind (recompute hA henv _ _) fun _ => ih

theorem stabilise (hA : ASpec env) (henv : EnvK3 env) (fuel : Nat) :
    Pres TV (Engine.stabilise env fuel) := by
  unfold Engine.stabilise
  mpres
  exact drainHeap hA henv _

/-- a `modify` that leaves nodes, binds and `top` alone -/
macro_rules
  | `(tactic| mleaf) =>
    `(tactic| ((with_reducible apply Pres.modify); intro _; exact TV.of_eq rfl rfl rfl))
macro_rules
  | `(tactic| mleaf) =>
    `(tactic| (unfold Engine.modObs; (with_reducible apply Pres.modify); intro _; exact TV.of_eq rfl rfl rfl))
macro_rules
  | `(tactic| mleaf) =>
    `(tactic| ((with_reducible apply Pres.modify); intro _; exact TV.of_push _ _ _))

/-- goal 3: every API action -/
theorem stepAction (hA : ASpec env) (henv : EnvK3 env) (a : Action) (tokens : Array Nat) :
    Pres TV (Engine.stepAction env a tokens) := by
  cases a
  all_goals simp only [Engine.stepAction]
  all_goals mpres
  all_goals exact stabilise hA henv _

end KB

/-- goal 4: along every history -/
theorem topValid_run {env : Env} {P : Action → Except Panic (String × Array Nat) → Prop}
    (hA : ASpec env) (henv : EnvK3 env) {s s' : State} (h : Life.Run env P s s') : TV s s' :=
  Life.Run.induct (fun a tokens _ => KB.stepAction hA henv a tokens) (fun _ => TV.of_eq rfl rfl rfl) h

theorem topValid_run_cor {env : Env} {P : Action → Except Panic (String × Array Nat) → Prop}
    (hA : ASpec env) (henv : EnvK3 env) {s s' : State} (h : Life.Run env P s s')
    (hn : NoPK s') (hr : RegScoped s) (ht : TopValid s) : TopValid s' ∧ RegScoped s' :=
  have h := topValid_run hA henv h
  ⟨h.valid hn hr ht, h.reg hr⟩

end IncrVerif.Proofs.MemoH
