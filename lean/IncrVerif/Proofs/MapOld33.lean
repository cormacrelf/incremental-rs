import IncrVerif.Proofs.MapOld32
/-!
# C17 for `opCalls`, continued: fold, merge, partition, the first run, examples

`x0` is the input the closure last ran on (closure state), `x` the current input, both `Canon`; the stored previous
output is `some (opSpec d g x0)` (`opReach`).  No hypothesis on the shape of `x0` / `x` is needed: the closures read a
value of the wrong shape as an empty map (`asMap`, `mergeIn`), and so do the statements.
-/
namespace IncrVerif.Proofs.MapOldH
open IncrVerif IncrVerif.Engine IncrVerif.MapOps IncrVerif.Proofs IncrVerif.Proofs.Ops

theorem C17name_add (m : Nat) : C17name m "add" = s!"M{m}.add" := by
  have e : toString "." ++ toString "add" = toString ".add" := by decide
  simp only [C17name]
  rw [String.append_assoc, e]

theorem C17name_remove (m : Nat) : C17name m "remove" = s!"M{m}.remove" := by
  have e : toString "." ++ toString "remove" = toString ".remove" := by decide
  simp only [C17name]
  rw [String.append_assoc, e]

theorem C17name_update (m : Nat) : C17name m "update" = s!"M{m}.update" := by
  have e : toString "." ++ toString "update" = toString ".update" := by decide
  simp only [C17name]
  rw [String.append_assoc, e]

theorem C17name_merge (m : Nat) : C17name m "merge" = s!"M{m}.merge" := by
  have e : toString "." ++ toString "merge" = toString ".merge" := by decide
  simp only [C17name]
  rw [String.append_assoc, e]

/-! ## (3) fold -/

/-- what is logged for a call of the fold: `M{m}.add` / `M{m}.remove` / `M{m}.update`, first argument a key with `P` -/
def C17FoldEv (m : Nat) (P : Int → Prop) (e : String × List Val × String) : Prop :=
  ∃ k rest, e.2.1 = .int k :: rest ∧ P k ∧
    (e.1 = s!"M{m}.add" ∨ e.1 = s!"M{m}.remove" ∨ e.1 = s!"M{m}.update")

/-- the log of the fold closure only mentions keys of the calls of `ufoldStep` -/
theorem C17foldStep_log (p : OpParams) (m : Nat) (upd : Bool) (input oldIn : AMap Int) (P : Int → Prop)
    (calls : List Call) (hc : ∀ c, c ∈ calls → P c.2) :
    ∀ acc : Int × List (String × List Val × String), (∀ e, e ∈ acc.2 → C17FoldEv m P e) →
      ∀ e, e ∈ (calls.foldl (C17foldStep p m upd input oldIn) acc).2 → C17FoldEv m P e := by
  induction calls with
  | nil => intro acc h; exact h
  | cons c cs ih =>
    intro acc h
    rw [List.foldl_cons]
    apply ih (fun c' hc' => hc c' (List.mem_cons_of_mem _ hc'))
    have hk := hc c (List.mem_cons_self ..)
    rcases acc with ⟨a, evs⟩
    rcases c with ⟨role, k⟩
    cases role with
    | fn => exact h
    | merge => exact h
    | add =>
      intro e he
      rcases List.mem_append.1 he with h' | h'
      · exact h e h'
      · rw [List.mem_singleton.1 h']
        exact ⟨k, _, rfl, hk, .inl (C17name_add m)⟩
    | remove =>
      intro e he
      rcases List.mem_append.1 he with h' | h'
      · exact h e h'
      · rw [List.mem_singleton.1 h']
        exact ⟨k, _, rfl, hk, .inr (.inl (C17name_remove m))⟩
    | update =>
      cases upd with
      | true =>
        intro e he
        rcases List.mem_append.1 he with h' | h'
        · exact h e h'
        · rw [List.mem_singleton.1 h']
          exact ⟨k, _, rfl, hk, .inr (.inr (C17name_update m))⟩
      | false =>
        intro e he
        rcases List.mem_append.1 he with h' | h'
        · exact h e h'
        · rcases List.mem_cons.1 h' with h'' | h''
          · rw [h'']
            exact ⟨k, _, rfl, hk, .inr (.inl (C17name_remove m))⟩
          · rw [List.mem_singleton.1 h'']
            exact ⟨k, _, rfl, hk, .inl (C17name_add m)⟩

theorem C17opUFold_rev (p : OpParams) (upd rev : Bool) : (opUFold p upd rev).revertToInitWhenEmpty = rev := by
  cases upd <;> rfl

/-- **C17, fold.**  Every call logged in the step from `(x0, some (opSpec d g x0))` on `x` is an `add`, `remove` or
`update` whose first argument is a key `k` whose binding in `x` differs from its binding in `x0` (a key of the
symmetric diff).  With `upd = false` an `update` diff entry is logged as a `remove` and an `add`, both for that key.
(In the revert-to-init branch — `rev = true`, `x` empty — there is no call at all: `C17_fold_revert`.) -/
theorem C17_fold_calls (d : Defs) (g m : Nat) (rev upd : Bool) (hd : decodeOp g = (.fold rev upd, m)) (x0 x : Val)
    (h0 : Canon x0) (hx : Canon x) :
    ∀ c, c ∈ opCalls d g x0 (some (opSpec d g x0)) x →
      ∃ k rest, c.2.1 = .int k :: rest ∧ AMap.lookup (asMap x) k ≠ AMap.lookup (asMap x0) k ∧
        (c.1 = s!"M{m}.add" ∨ c.1 = s!"M{m}.remove" ∨ c.1 = s!"M{m}.update") := by
  rw [opCalls_fold d g m rev upd hd, opSpec_fold d g m rev upd hd]
  have hold : (foldOld x0 (some (.int (ufoldSpecSum (opG (d.opParams m)) (d.opParams m).c (asMap x0)))) = none ∧
        asMap x0 = []) ∨
      ∃ o, foldOld x0 (some (.int (ufoldSpecSum (opG (d.opParams m)) (d.opParams m).c (asMap x0)))) =
        some (asMap x0, o) := by
    rcases C17foldOld_cases x0 (ufoldSpecSum (opG (d.opParams m)) (d.opParams m).c (asMap x0)) with h | h
    · exact .inl h
    · exact .inr ⟨_, h⟩
  exact C17foldStep_log (d.opParams m) m upd (asMap x) _
    (fun k => AMap.lookup (asMap x) k ≠ AMap.lookup (asMap x0) k) _
    (fun c hc => (C17ufold_keys _ _ _ (asMap x0) (asMap x) (canon_asMap h0) (canon_asMap hx) hold c hc).1)
    _ (fun e he => absurd he List.not_mem_nil)

/-- the revert-to-init branch of the fold: no call -/
theorem C17_fold_revert (d : Defs) (g m : Nat) (upd : Bool) (hd : decodeOp g = (.fold true upd, m)) (oi : AMap Int)
    (x : Val) (hx : asMap x = []) : opCalls d g (.map oi) (some (opSpec d g (.map oi))) x = [] := by
  rw [opCalls_fold d g m true upd hd, opSpec_fold d g m true upd hd, hx]
  have e : foldOld (.map oi) (some (.int (ufoldSpecSum (opG (d.opParams m)) (d.opParams m).c (asMap (.map oi))))) =
      some (oi, ufoldSpecSum (opG (d.opParams m)) (d.opParams m).c (asMap (.map oi))) := rfl
  rw [e, Props.C17.ufold_revert_no_calls _ _ _ _ (C17opUFold_rev _ _ _)]
  rfl

/-! ## (4) merge -/

/-- **C17, merge.**  Every call logged in the step from `(x0, some (opSpec d g x0))` on `x` is a call of the merge
function for a key `k` whose binding differs between the old and the new left input or between the old and the new
right input; the arguments are `k` and what the new left / right input hold for `k`. -/
theorem C17_merge_calls_gen (d : Defs) (g m : Nat) (hd : decodeOp g = (.merge, m)) (x0 x : Val)
    (h0 : Canon x0) (hx : Canon x) :
    ∀ c, c ∈ opCalls d g x0 (some (opSpec d g x0)) x →
      ∃ k, c = (s!"M{m}.merge",
            [.int k, optVal (AMap.lookup (mergeIn x).1 k), optVal (AMap.lookup (mergeIn x).2 k)],
            optStr (opMergeFn (d.opParams m) k
              (C17mergeArg (AMap.lookup (mergeIn x).1 k) (AMap.lookup (mergeIn x).2 k)))) ∧
        (AMap.lookup (mergeIn x).1 k ≠ AMap.lookup (mergeIn x0).1 k ∨
          AMap.lookup (mergeIn x).2 k ≠ AMap.lookup (mergeIn x0).2 k) := by
  rw [opCalls_merge d g m hd, opSpec_merge d g m hd]
  obtain ⟨o', e⟩ := C17mergeOldT_step (opMergeFn (d.opParams m)) x0
    (mergeSpec' (opMergeFn (d.opParams m)) (mergeIn x0).1 (mergeIn x0).2) (mergeIn x).1 (mergeIn x).2
  rw [e]
  intro c hc
  obtain ⟨call, hcall, rfl⟩ := List.mem_map.1 hc
  obtain ⟨-, h2⟩ := Props.C17.merge_calls_only_changed _ _ _ _ _ _ (canon_mergeIn h0).1 (canon_mergeIn h0).2
    (canon_mergeIn hx).1 (canon_mergeIn hx).2 call hcall
  refine ⟨call.2, ?_, ?_⟩
  · simp only [C17mergeEv, C17name_merge]
  · rcases h2 with h | h
    · exact .inl fun hh => h hh.symm
    · exact .inr fun hh => h hh.symm

/-- the merge case at `x0 = .pair a0 b0`, `x = .pair a b` -/
theorem C17_merge_calls (d : Defs) (g m : Nat) (hd : decodeOp g = (.merge, m)) (a0 b0 a b : Val)
    (h0 : Canon (.pair a0 b0)) (hx : Canon (.pair a b)) :
    ∀ c, c ∈ opCalls d g (.pair a0 b0) (some (opSpec d g (.pair a0 b0))) (.pair a b) →
      ∃ k l r, c.2.1 = [.int k, l, r] ∧
        (AMap.lookup (asMap a) k ≠ AMap.lookup (asMap a0) k ∨ AMap.lookup (asMap b) k ≠ AMap.lookup (asMap b0) k) := by
  intro c hc
  obtain ⟨k, rfl, h⟩ := C17_merge_calls_gen d g m hd _ _ h0 hx c hc
  exact ⟨k, _, _, rfl, h⟩

/-! ## (5) partition -/

/-- **C17, partition.**  Every call logged in the step from `(x0, some (opSpec d g x0))` on `x` is a call of the
partition function for a binding `k ↦ v` of `x` that `x0` did not hold (removed keys: no call). -/
theorem C17_part_calls (d : Defs) (g m : Nat) (hd : decodeOp g = (.part, m)) (x0 x : Val)
    (h0 : Canon x0) (hx : Canon x) :
    ∀ c, c ∈ opCalls d g x0 (some (opSpec d g x0)) x →
      ∃ k v, c = (s!"M{m}.fn", [.int k, .int v], C17eitherStr (opPartFn (d.opParams m) k v)) ∧
        AMap.lookup (asMap x) k = some v ∧ AMap.lookup (asMap x0) k ≠ some v := by
  rw [opCalls_part d g m hd, opSpec_part d g m hd]
  have hold : (partOld x0 (some (.pair (.map (partitionSpec (opPartFn (d.opParams m)) (asMap x0)).1)
          (.map (partitionSpec (opPartFn (d.opParams m)) (asMap x0)).2))) = none ∧ asMap x0 = []) ∨
      ∃ o, partOld x0 (some (.pair (.map (partitionSpec (opPartFn (d.opParams m)) (asMap x0)).1)
          (.map (partitionSpec (opPartFn (d.opParams m)) (asMap x0)).2))) = some (asMap x0, o) := by
    rcases C17partOld_cases x0 (partitionSpec (opPartFn (d.opParams m)) (asMap x0)).1
      (partitionSpec (opPartFn (d.opParams m)) (asMap x0)).2 with h | h
    · exact .inl h
    · exact .inr ⟨_, h⟩
  intro c hc
  obtain ⟨call, hcall, hev⟩ := List.mem_filterMap.1 hc
  obtain ⟨h1, h2⟩ := C17ufold_keys _ _ _ (asMap x0) (asMap x) (canon_asMap h0) (canon_asMap hx) hold call hcall
  by_cases hr : call.1 = Role.remove
  · simp [C17partEv, hr] at hev
  · obtain ⟨v, hv⟩ := h2 hr
    simp only [C17partEv, beq_iff_eq, hr, if_false, Option.some.injEq, hv, Option.getD_some, C17name_fn] at hev
    refine ⟨call.2, v, hev.symm, hv, ?_⟩
    intro hh
    exact h1 (by rw [hv, hh])

/-! ## (6) the first run / a restart (`old = none`) -/

theorem C17fmOld_none (σ : Val) : fmOld σ none = none := by cases σ <;> rfl
theorem C17partOld_none (σ : Val) : partOld σ none = none := by cases σ <;> rfl

/-- filter-map without a stored previous output (fresh node, or the node was invalidated): one call per binding of the
input, in key order -/
theorem C17_fm_first (d : Defs) (g m : Nat) (hd : decodeOp g = (.fm, m)) (σ x : Val) (hx : Canon x) :
    opCalls d g σ none x =
      (asMap x).map fun kv => (s!"M{m}.fn", [.int kv.1, .int kv.2], optStr (opFmFn (d.opParams m) kv.1 kv.2)) := by
  rw [opCalls_fm d g m hd, C17fmOld_none, filterMapiStep_none]
  show List.map _ (List.map _ _) = _
  rw [List.map_map]
  apply List.map_congr_left
  intro kv hkv
  simp only [Function.comp, C17fmEv, AMap.lookup_of_mem (asMap x) (canon_asMap hx) kv hkv, Option.getD_some,
    C17name_fn]

theorem C17filterMap_eq_map {α β : Type} (f : α → Option β) (g : α → β) (l : List α)
    (h : ∀ a, a ∈ l → f a = some (g a)) : l.filterMap f = l.map g := by
  induction l with
  | nil => rfl
  | cons a l ih =>
    rw [List.filterMap_cons, h a (List.mem_cons_self ..), List.map_cons,
      ih (fun b hb => h b (List.mem_cons_of_mem _ hb))]

/-- partition without a stored previous output: one call per binding of the input, in key order -/
theorem C17_part_first (d : Defs) (g m : Nat) (hd : decodeOp g = (.part, m)) (σ x : Val) (hx : Canon x) :
    opCalls d g σ none x =
      (asMap x).map fun kv => (s!"M{m}.fn", [.int kv.1, .int kv.2],
        C17eitherStr (opPartFn (d.opParams m) kv.1 kv.2)) := by
  rw [opCalls_part d g m hd, C17partOld_none, ufoldStep_none]
  show List.filterMap _ (List.map _ _) = _
  rw [List.filterMap_map]
  apply C17filterMap_eq_map
  intro kv hkv
  simp [Function.comp, C17partEv, AMap.lookup_of_mem (asMap x) (canon_asMap hx) kv hkv, C17name_fn]

/-! ## the link to `Defs.toEnv` and to the operator ids of W30 -/

/-- what the harness logs for machine `g ≥ opBase` is `opCalls` -/
theorem C17toEnv_calls (d : Defs) (g : Nat) (hg : opBase ≤ g) (σ : Val) (old : Option Val) (x : Val) :
    d.toEnv.withOldCalls g σ old x = opCalls d g σ old x := by
  simp only [Defs.toEnv, ge_iff_le, hg, if_true]

-- the statements apply to the ids decoded in W30
example (d : Defs) (m : Nat) (hm : m < 100000) (x0 x : Val) (h0 : Canon x0) (hx : Canon x)
    (c : String × List Val × String) :
    c ∈ d.toEnv.withOldCalls (opBase + m) x0 (some (opSpec d (opBase + m) x0)) x ↔
      ∃ k v, c = (s!"M{m}.fn", [.int k, .int v], optStr (opFmFn (d.opParams m) k v)) ∧
        AMap.lookup (asMap x) k = some v ∧ AMap.lookup (asMap x0) k ≠ some v := by
  rw [C17toEnv_calls d _ (Nat.le_add_right ..)]
  exact C17_fm_calls_iff d (opBase + m) m (decodeOp_fm hm) x0 x h0 hx c

example (d : Defs) (m : Nat) (rev upd : Bool) (hm : m < 10000) (x0 x : Val) (h0 : Canon x0) (hx : Canon x) :=
  C17_fold_calls d _ m rev upd (decodeOp_fold rev upd hm) x0 x h0 hx

example (d : Defs) (m : Nat) (hm : m < 100000) (x0 x : Val) (h0 : Canon x0) (hx : Canon x) :=
  C17_merge_calls_gen d _ m (decodeOp_merge hm) x0 x h0 hx

example (d : Defs) (m : Nat) (hm : m < 100000) (x0 x : Val) (h0 : Canon x0) (hx : Canon x) :=
  C17_part_calls d _ m (decodeOp_part hm) x0 x h0 hx

/-! ## non-vacuity: concrete steps (family `M0`: `a = 2, b = 1, m = 3, r = 0, c = 5`) -/

-- filter-map: key 2 changed, keys 1 and 4 untouched: one call, for key 2
example : opSpec exDefs opBase (.map [(1, 1), (2, 1), (4, 4)]) = .map [(1, 3), (4, 5)] ∧
    opCalls exDefs opBase (.map [(1, 1), (2, 1), (4, 4)]) (some (.map [(1, 3), (4, 5)]))
      (.map [(1, 1), (2, 2), (4, 4)]) = [("M0.fn", [.int 2, .int 2], "6")] := by decide

-- fold with the default `update` (`upd = false`): key 2 changed (a `remove` and an `add`), key 4 removed, key 5 added;
-- nothing for the untouched key 1
example : opSpec exDefs (opBase + 100000) (.map [(1, 1), (2, 1), (4, 4)]) = .int 24 ∧
    opCalls exDefs (opBase + 100000) (.map [(1, 1), (2, 1), (4, 4)]) (some (.int 24))
      (.map [(1, 1), (2, 2), (5, 0)]) =
      [("M0.remove", [.int 2, .int 1], "20"), ("M0.add", [.int 2, .int 2], "26"),
       ("M0.remove", [.int 4, .int 4], "14"), ("M0.add", [.int 5, .int 0], "19")] := by decide

-- fold with a custom `update` (`upd = true`): one `update` call for key 2
example : opCalls exDefs (opBase + 110000) (.map [(1, 1), (2, 1), (4, 4)]) (some (.int 24))
      (.map [(1, 1), (2, 2), (5, 0)]) =
      [("M0.update", [.int 2, .int 1, .int 2], "26"), ("M0.remove", [.int 4, .int 4], "14"),
       ("M0.add", [.int 5, .int 0], "19")] := by decide

-- merge: only key 3 of the left input changed: one call
example : opSpec exDefs (opBase + 200000) (.pair (.map [(1, 2), (3, 3)]) (.map [(1, 3), (2, 5)])) =
      .map [(1, 5), (2, 3), (3, 3)] ∧
    opCalls exDefs (opBase + 200000) (.pair (.map [(1, 2), (3, 3)]) (.map [(1, 3), (2, 5)]))
      (some (.map [(1, 5), (2, 3), (3, 3)])) (.pair (.map [(1, 2), (3, 4)]) (.map [(1, 3), (2, 5)])) =
      [("M0.merge", [.int 3, .int 4, .unit], "4")] := by decide

-- partition: key 2 changed, key 4 removed (no call), key 5 added
example : opCalls exDefs (opBase + 300000) (.map [(1, 1), (2, 1), (4, 4)])
      (some (.pair (.map [(2, 1)]) (.map [(1, 2), (4, 5)]))) (.map [(1, 1), (2, 2), (5, 0)]) =
      [("M0.fn", [.int 2, .int 2], "R3"), ("M0.fn", [.int 5, .int 0], "R1")] := by decide

-- the same input again: no call
example : opCalls exDefs opBase (.map [(1, 1), (2, 1), (4, 4)]) (some (.map [(1, 3), (4, 5)]))
    (.map [(1, 1), (2, 1), (4, 4)]) = [] := by decide

end IncrVerif.Proofs.MapOldH
