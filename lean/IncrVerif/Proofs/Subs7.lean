import IncrVerif.Proofs.Subs5
import IncrVerif.Proofs.Drain
/-!
# Subscriptions, part 6b: the handler bookkeeping through the drain (`Hush`)
-/
namespace IncrVerif.Proofs.SubsH
open IncrVerif.Engine IncrVerif.Driver IncrVerif.Proofs IncrVerif.Proofs.Step IncrVerif.Proofs.Sched
open IncrVerif.Proofs.Quiet

/-! ## `Hush` through the drain -/

theorem Hush.started (n : Nat) (s : State) : Hush s (Step.started n s) := by
  refine Hush.of_nodeD rfl rfl rfl fun m => ?_
  rw [started_nodeD]; split <;> exact ⟨rfl, rfl, rfl⟩

/-- a `recomputeOne` of the static fragment keeps the handler bookkeeping -/
theorem recomputeOne_hush {env : Env} {fuel n : Nat} {s s' : State} {r : Option Nat}
    (g : Graph env s) (hn : s.isNecessary n = true)
    (hvals : ∃ vals, plainVals s (kids (s.nodeD n).kind) = some vals)
    (h : (recomputeOne env fuel n).run.run s = (.ok r, s')) : Hush s s' := by
  obtain ⟨hlt, hv, hk, _, _⟩ := g.nec n hn
  obtain ⟨vals, hvals⟩ := hvals
  have hvo := g.valuesOf hn
  rw [hvals] at hvo
  obtain ⟨v, evs, hc⟩ := computes_static n hk (fun c hkd => g.var n c hn hkd) hvo
  rw [recomputeOne_run_of_computes (some_of_lt hlt) hv g.pc hc hk] at h
  refine ((Hush.started n s).trans (Hush.logged evs _ fun e he => ?_)).trans ((PresHu.maybeChangeValue env fuel n v).h _ _ s' h)
  obtain ⟨w, a, r, rfl⟩ := hc.inv_events e he
  trivial

theorem pop_hush {s s1 : State} {n : Nat} (hi : HeapInv s)
    (hr : rchRemoveMin.run.run s = (.ok (some n), s1)) : Hush s s1 := by
  obtain ⟨-, -, -, hs1, -⟩ := rchRemoveMin_inv hi hr
  rw [hs1]
  exact (Hush.modNode s n (fun x => { x with heightInRch := -1 }) (fun _ => ⟨rfl, rfl, rfl⟩)).trans
    (Hush.of_same rfl rfl rfl rfl)

/-- the drain keeps the handler bookkeeping -/
theorem drainHeap_hush {env : Env} (fuel : Nat) (s s' : State) (I : DrainInv env s)
    (h : (drainHeap env fuel).run.run s = (.ok (), s')) : Hush s s' := by
  obtain ⟨s1, i, h1⟩ := Drain.drainHeap_ind (I := fun x t => Inv env t x ∧ Hush s t)
    (fun _ n _ _ _ i h1 =>
      ⟨(recomputeOne_inv i.1 h1).1, i.2.trans (recomputeOne_hush i.1.graph (i.1.cur n rfl).1 i.1.kids_values h1)⟩)
    (fun _ _ _ i h1 => ⟨(pop_inv i.1 h1).1, i.2.trans (pop_hush i.1.heap h1)⟩) fuel s s' ⟨I, Hush.refl s⟩ h
  obtain ⟨rfl, -⟩ := rchRemoveMin_inv i.1.heap h1
  exact i.2

end IncrVerif.Proofs.SubsH
