import IncrVerif.Proofs.NestH109
import IncrVerif.Proofs.NestH68
import IncrVerif.Proofs.StepStamp
import IncrVerif.Proofs.Sched13
/-!
# Total correctness of the drain when the graph GROWS during the drain, part 1: potential, node-count monotonicity, one step

* `HasRoomG need N fuel s'`, `LcStepTotG need`, `DrainTotG need`: the contracts of `NestH109` with the fuel bound `need : Nat → Nat` as a parameter
  (`HasRoom = HasRoomG needFuel` etc. by `rfl`).  The drain calls the steps with LESS fuel than it has itself, so the bound of the drain must be larger
  than the bound of the steps (`need1 sz + sz + 1 ≤ need2 sz`): with one and the same `needFuel` for both contracts `LcStepTot → DrainTot` is not provable.
* `T2g.unrun_le`, `T2g.unrun_lt`: the potential `unrun s + (M - s.nodes.size)` never goes up along a `FrameB` step and goes down when a node gets its stamp
  (stated without subtraction: `unrun s' + s.nodes.size (+ 1) ≤ unrun s + s'.nodes.size`).
* `T2g.recomputeOne_size`, `T2g.recompute_size`, `T2g.drainHeap_size`: the node count only grows, for ANY outcome (`Inval.PresMono`).
* `T2g.pop_DT`, `T2g.step_tot`: `remove_min` keeps `DT`; one `recomputeOne` on the current node returns and keeps `DT` if the state it ends in has room.
-/
namespace IncrVerif.Proofs.NestH
open IncrVerif.Engine IncrVerif.Driver IncrVerif.Proofs IncrVerif.Proofs.Step IncrVerif.Proofs.Sched IncrVerif.Proofs.Quiet
open IncrVerif.Proofs.BindH

/-! ## the contracts, with the fuel bound as a parameter -/

/-- the room proviso on the final state, for the fuel bound `need` -/
def HasRoomG (need : Nat → Nat) (N fuel : Nat) (s' : State) : Prop := s'.nodes.size ≤ N ∧ need s'.nodes.size ≤ fuel

/-- CONTRACT (parametrised): a run of a change detector returns if the state it ends in has room for `need` -/
def LcStepTotG (need : Nat → Nat) (env : Env) (N : Nat) : Prop :=
  ∀ (fuel n b : Nat) (s : State), DInv env s (some n) → DT env N s → (s.nodeD n).kind = .bindLhsChange b →
    TotIf (recomputeOne env fuel n) s (HasRoomG need N fuel) (fun _ s' => DT env N s')

/-- CONTRACT (parametrised): the drain returns if the state it ends in has room for `need` -/
def DrainTotG (need : Nat → Nat) (env : Env) (N : Nat) : Prop :=
  ∀ (fuel : Nat) (s : State), DInv env s none → DT env N s →
    TotIf (drainHeap env fuel) s (HasRoomG need N fuel) (fun _ s' => DT env N s')

theorem hasRoomG_needFuel (N fuel : Nat) (s' : State) : HasRoomG needFuel N fuel s' = HasRoom N fuel s' := rfl
theorem lcStepTotG_needFuel (env : Env) (N : Nat) : LcStepTotG needFuel env N = LcStepTot env N := rfl
theorem drainTotG_needFuel (env : Env) (N : Nat) : DrainTotG needFuel env N = DrainTot env N := rfl

namespace T2g

/-! ## the potential -/

/-- the potential `unrun s + (M - s.nodes.size)` does not go up: a new node adds at most one to `unrun` -/
theorem unrun_le {s s' : State} (f : FrameB s s') (st : Stamps s) :
    unrun s' + s.nodes.size ≤ unrun s + s'.nodes.size := by
  obtain ⟨k, hk⟩ : ∃ k, s'.nodes.size = s.nodes.size + k := ⟨s'.nodes.size - s.nodes.size, by have := f.grow; omega⟩
  unfold unrun
  rw [hk, List.range_add, List.countP_append, f.stabNum]
  have h1 : (List.range s.nodes.size).countP (fun m => decide ((s'.nodeD m).recomputedAt < s.stabNum)) ≤
      (List.range s.nodes.size).countP (fun m => decide ((s.nodeD m).recomputedAt < s.stabNum)) := by
    apply countP_le_of_imp
    intro m _ hm
    have hm' := of_decide_eq_true hm
    apply decide_eq_true
    have h2 := (st.node m).1
    by_cases e : (s.nodeD m).recomputedAt = s.stabNum
    · have := (f.ran m e).1; omega
    · omega
  have h2 := List.countP_le_length (p := fun m => decide ((s'.nodeD m).recomputedAt < s.stabNum))
    (l := List.map (fun x => s.nodes.size + x) (List.range k))
  rw [List.length_map, List.length_range] at h2
  omega

/-- … and goes down when an old node gets its stamp -/
theorem unrun_lt {s s' : State} (f : FrameB s s') (st : Stamps s) {n : Nat} (hn : n < s.nodes.size)
    (h0 : (s.nodeD n).recomputedAt < s.stabNum) (h1 : (s'.nodeD n).recomputedAt = s.stabNum) :
    unrun s' + s.nodes.size + 1 ≤ unrun s + s'.nodes.size := by
  obtain ⟨k, hk⟩ : ∃ k, s'.nodes.size = s.nodes.size + k := ⟨s'.nodes.size - s.nodes.size, by have := f.grow; omega⟩
  unfold unrun
  rw [hk, List.range_add, List.countP_append, f.stabNum]
  have h1 : (List.range s.nodes.size).countP (fun m => decide ((s'.nodeD m).recomputedAt < s.stabNum)) <
      (List.range s.nodes.size).countP (fun m => decide ((s.nodeD m).recomputedAt < s.stabNum)) := by
    refine countP_lt_of_imp _ _ _ ?_ n (List.mem_range.2 hn) (decide_eq_true h0) (decide_eq_false (by omega))
    intro m _ hm
    have hm' := of_decide_eq_true hm
    apply decide_eq_true
    have h2 := (st.node m).1
    by_cases e : (s.nodeD m).recomputedAt = s.stabNum
    · have := (f.ran m e).1; omega
    · omega
  have h2 := List.countP_le_length (p := fun m => decide ((s'.nodeD m).recomputedAt < s.stabNum))
    (l := List.map (fun x => s.nodes.size + x) (List.range k))
  rw [List.length_map, List.length_range] at h2
  omega

/-! ## the node count only grows, for any outcome -/

theorem recomputeOne_size {env : Env} {fuel n : Nat} {s s' : State} {r : Except Panic (Option Nat)}
    (h : (recomputeOne env fuel n).run.run s = (r, s')) : s.nodes.size ≤ s'.nodes.size :=
  ((Inval.PresMono.recomputeOne env fuel n).h s r s' h).size

theorem recompute_size {env : Env} (fuel n : Nat) (s : State) (r : Except Panic Unit) (s' : State)
    (h : (recompute env fuel n).run.run s = (r, s')) : s.nodes.size ≤ s'.nodes.size :=
  ((Inval.PresMono.recompute env fuel n).h s r s' h).size

theorem drainHeap_size {env : Env} (fuel : Nat) (s : State) (r : Except Panic Unit) (s' : State)
    (h : (drainHeap env fuel).run.run s = (r, s')) : s.nodes.size ≤ s'.nodes.size :=
  ((Inval.PresMono.drainHeap env fuel).h s r s' h).size

theorem DT.aux {env : Env} {N : Nat} {s : State} (D : DT env N s) : Aux2 env s := by
  obtain ⟨rk, A, -⟩ := D
  exact ⟨rk, A⟩

/-! ## `remove_min` keeps `DT` -/

theorem pop_DT {env : Env} {N : Nat} {s s1 : State} {n : Nat} (hi : HeapInv s)
    (hr : rchRemoveMin.run.run s = (.ok (some n), s1)) (D : DT env N s) : DT env N s1 := by
  obtain ⟨rk, A, hb, H, L⟩ := D
  have hpop := rchRemoveMin_inv hi hr
  simp only at hpop
  obtain ⟨-, -, -, hs1, hq⟩ := hpop
  have hnode : ∀ m, s1.nodeD m =
      if n = m ∧ m < s.nodes.size then { s.nodeD m with heightInRch := -1 } else s.nodeD m := by
    intro m
    rw [hs1]
    exact nodeD_modify { s with rch := s1.rch } n m (fun x => { x with heightInRch := -1 })
  have hshape : ∀ m, SameShape (s.nodeD m) (s1.nodeD m) := by
    intro m; rw [hnode]; split <;> exact ⟨rfl, rfl, rfl, rfl, rfl, rfl, rfl, rfl⟩
  have hsz : s1.nodes.size = s.nodes.size := by rw [hs1]; simp
  have hahh : s1.ahh = s.ahh := by rw [hs1]
  refine ⟨rk, pop_F2 hi hr A, ?_, pop_rhsRan hi hr H, ?_⟩
  · intro m hm ho
    rw [isNecessary_of_shape hshape] at hm
    rw [(hshape m).height, hsz]
    exact hb m hm ho
  · exact ⟨by rw [hahh]; exact L.ahh, by rw [maxAllowed_congr hq]; exact L.rch⟩

/-! ## one step -/

/-- the kind of the current node of the drain invariant -/
theorem cur_kind {env : Env} {s : State} {n : Nat} (I : DInv env s (some n)) :
    (StaticKind env (s.nodeD n).kind ∨ ∃ b lc, (s.nodeD n).kind = .bindMain b lc) ∨
      ∃ b, (s.nodeD n).kind = .bindLhsChange b := by
  obtain ⟨-, hnlt, hnv, -, -⟩ := I.cur_facts
  have hB := (I.graph.node n hnlt hnv).1
  cases hk : (s.nodeD n).kind <;> rw [hk] at hB <;>
    first
    | exact Or.inl (Or.inl hB)
    | exact Or.inl (Or.inr ⟨_, _, rfl⟩)
    | exact Or.inr ⟨_, rfl⟩

/-- **one `recomputeOne` of the drain**: whatever its outcome, if the state it ends in has room (for the bound `need` of the runs of change detectors,
and at least one unit of fuel) then it returned, and `DT` holds again -/
theorem step_tot {need : Nat → Nat} {env : Env} {N : Nat} (L : LcStepTotG need env N) {fuel n : Nat} {s s1 : State}
    {r1 : Except Panic (Option Nat)} (I : DInv env s (some n)) (D : DT env N s)
    (h : (recomputeOne env fuel n).run.run s = (r1, s1)) (hN : s1.nodes.size ≤ N) (hf : need s1.nodes.size ≤ fuel) (hf1 : 1 ≤ fuel) :
    ∃ r, r1 = .ok r ∧ DT env N s1 := by
  rcases cur_kind I with hk | ⟨b, hk⟩
  · obtain ⟨rk, A, hb, H, Lm⟩ := D
    have hsz := recomputeOne_size h
    have R : Room N s := Lm.room (by omega)
    obtain ⟨r, s1', hrun, hb1, R1⟩ := recomputeOne_static_total2' I A H hb R hk hf1
    rw [hrun] at h
    cases h
    obtain ⟨hn, -, -, -, -⟩ := I.cur_facts
    exact ⟨r, rfl, rk, recomputeOne_stepB_F2 I.graph I.heap hn hk I.kids_values hrun A, hb1,
      recomputeOne_static_rhsRan I A hk hrun H, Room.lim R1⟩
  · exact L fuel n b s I D hk r1 s1 h ⟨hN, hf⟩

end T2g
end IncrVerif.Proofs.NestH
