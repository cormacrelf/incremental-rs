import IncrVerif.Proofs.Sched13
-- the scheduling invariant for ARBITRARY cutoffs; overview in Props/C06History.lean
/-!
# C06 for whole histories, part 1: the scheduling invariant for ARBITRARY cutoffs — definitions

The leaf definitions of the static fragment (`Sched.StaticKind`, `Sched.kids`, `Sched.eval`, `Sched.Target`,
`Sched.Consistent`, `Sched.HeapInv`, `Sched.Stamps`, `Sched.SameShape`) are used as they are.  `Graph env s`
(`Sched.Graph` WITHOUT a clause on the cutoff of a necessary node), `ExactCut c` (`c` is `.eq` or `.never`: a cutoff that
suppresses only equal values) and `StepRel` stand in `Proofs/Sched1.lean`, next to the definitions they generalise and
before the lemmas of the static fragment that follow from theirs: what takes no scheduling invariant as a hypothesis
(`Sched.Graph.value_plain`, `kids_nec`, `valuesOf`, `eval_of_consistent`, `Graph.transfer`, `mcvm_heap`, `recomputeOne_static`,
`recomputeOne_calm`) is read off the statement for arbitrary cutoffs through `Sched.Graph.toC` and `Sched.StepRel.ofC`.
The invariant itself is not comparable: `Inv env true s x` implies `Sched.Inv env s x` but not conversely (`exact` speaks of every
node, `qstale` is no clause of `Sched.Inv`), so the preservation theorems of parts 2, 4, 5 stand beside those of
`Proofs/Sched3.lean`, `Sched5.lean`, `Sched6.lean`.  Here:

* `ConsE env e s m`: node `m` has a value, and — if the flag `e` ("every cutoff that was ever in force was
  exact") is up — that value is its defining expression applied to the CURRENT values of its children.
* `Inv env e s x`: the scheduling invariant.  New with respect to `Sched.Inv`: `cons` is `ConsE`; `exact`
  (flag up ⟹ every cutoff is exact); `qstale` (a queued node and the current node are stale).
-/
namespace IncrVerif.Proofs.CutH
open IncrVerif.Engine IncrVerif.Proofs IncrVerif.Proofs.Step IncrVerif.Proofs.Sched

/-! ## structure -/

/-- `a` is a reflexive-transitive parent of `d` (through necessary nodes) -/
inductive Anc (s : State) : Nat → Nat → Prop
  | refl (a : Nat) : Anc s a a
  | step {a c d : Nat} : s.isNecessary a = true → c ∈ kids (s.nodeD a).kind → Anc s c d → Anc s a d

/-- node `m` has a value; if every cutoff ever in force was exact (`e`), the value is the node's defining
expression on the CURRENT values of its children -/
def ConsE (env : Env) (e : Bool) (s : State) (m : Nat) : Prop :=
  ∃ v, (s.nodeD m).value = some v ∧ (e = true → Target env s m v)

theorem ConsE.consistent {env : Env} {s : State} {m : Nat} (h : ConsE env true s m) : Consistent env s m := by
  obtain ⟨v, hv, ht⟩ := h
  exact ⟨v, ht rfl, hv⟩

theorem ConsE.of_consistent {env : Env} {e : Bool} {s : State} {m : Nat} (h : Consistent env s m) :
    ConsE env e s m := by
  obtain ⟨v, ht, hv⟩ := h
  exact ⟨v, hv, fun _ => ht⟩

theorem ConsE.weaken {env : Env} {e : Bool} {s : State} {m : Nat} (h : ConsE env e s m) : ConsE env false s m := by
  obtain ⟨v, hv, _⟩ := h
  exact ⟨v, hv, fun h => by cases h⟩

/-- the scheduling invariant.  `x`: the node that has been taken out of the heap (or handed over by
the direct-recompute chain) and is about to be recomputed.  `e`: every cutoff ever in force was exact. -/
structure Inv (env : Env) (e : Bool) (s : State) (x : Option Nat) : Prop where
  graph : Graph env s
  heap : HeapInv s
  stamps : Stamps s
  /-- (b) stale necessary nodes are pending -/
  pending : ∀ m, s.isNecessary m = true → s.isStale m = true → (s.nodeD m).inRch = true ∨ x = some m
  /-- (c) necessary nodes that are not stale have a value (consistent with their children if `e`) -/
  cons : ∀ m, s.isNecessary m = true → s.isStale m = false → ConsE env e s m
  /-- flag up: every cutoff is exact -/
  exact : e = true → ∀ m, ExactCut (s.nodeD m).cutoff
  /-- (d) above a pending node (and the node itself) nothing has been recomputed in this round -/
  fresh : ∀ d, ((s.nodeD d).inRch = true ∨ x = some d) → ∀ a, Anc s a d →
    (s.nodeD a).recomputedAt < s.stabNum
  /-- the current node is necessary, not queued, and nothing below it is queued -/
  cur : ∀ n, x = some n → s.isNecessary n = true ∧ ∀ d, Anc s n d → (s.nodeD d).inRch = false
  /-- only stale nodes are pending -/
  qstale : ∀ m, ((s.nodeD m).inRch = true ∨ x = some m) → s.isStale m = true

/-- the drain invariant: the state between two pops of `drainHeap` -/
def DrainInv (env : Env) (e : Bool) (s : State) : Prop := Inv env e s none

theorem Inv.weaken {env : Env} {e : Bool} {s : State} {x : Option Nat} (I : Inv env e s x) : Inv env false s x :=
  { I with cons := fun m hm hs => (I.cons m hm hs).weaken, exact := fun h => by cases h }

/-! ## basic consequences -/

/-- heights do not increase downwards -/
theorem Anc.height_le {env : Env} {s : State} (g : Graph env s) {a d : Nat} (h : Anc s a d) :
    (s.nodeD d).height ≤ (s.nodeD a).height := by
  induction h with
  | refl a => exact Int.le_refl _
  | step hn hc _ ih => have := (g.kids_nec hn hc).2; omega

theorem Anc.height_lt {env : Env} {s : State} (g : Graph env s) {a d : Nat} (h : Anc s a d)
    (hne : a ≠ d) : (s.nodeD d).height < (s.nodeD a).height := by
  cases h with
  | refl => exact absurd rfl hne
  | step hn hc h2 => have := (g.kids_nec hn hc).2; have := h2.height_le g; omega

theorem Anc.trans {s : State} {a b c : Nat} (h1 : Anc s a b) (h2 : Anc s b c) : Anc s a c := by
  induction h1 with
  | refl => exact h2
  | step hn hc _ ih => exact Anc.step hn hc (ih h2)

theorem Anc.nec {env : Env} {s : State} (g : Graph env s) {a d : Nat} (h : Anc s a d)
    (ha : s.isNecessary a = true) : s.isNecessary d = true := by
  induction h with
  | refl => exact ha
  | step hn hc _ ih => exact ih (g.kids_nec hn hc).1

/-- a parent entry gives an `Anc` step -/
theorem Graph.parent_anc {env : Env} {s : State} (g : Graph env s) {c p i : Nat}
    (h : (p, i) ∈ (s.nodeD c).parents) : Anc s p c := by
  obtain ⟨hp, hk⟩ := g.parent c p i h
  exact Anc.step hp (List.mem_of_getElem? hk) (Anc.refl c)

/-! ## L1: with exact cutoffs, after the drain every necessary node carries its from-scratch value -/

/-- with an empty heap every necessary node is up to date and has a value -/
theorem DrainInv.all_consistent {env : Env} {e : Bool} {s : State} (h : DrainInv env e s) (he : s.rch.length = 0)
    (m : Nat) (hm : s.isNecessary m = true) : s.isStale m = false ∧ ConsE env e s m := by
  have hns : s.isStale m = false := by
    cases hst : s.isStale m with
    | false => rfl
    | true =>
      rcases h.pending m hm hst with h1 | h1
      · rw [h.heap.empty he m] at h1; cases h1
      · cases h1
  exact ⟨hns, h.cons m hm hns⟩

/-- **L1 (any cutoffs).** `DrainInv`, empty heap: every necessary node is valid, not stale, and has a value,
which is what an observer reads. -/
theorem drained_settled {env : Env} {e : Bool} {s : State} (h : DrainInv env e s) (he : s.rch.length = 0)
    (n : Nat) (hn : s.isNecessary n = true) :
    (s.nodeD n).valid = true ∧ s.isStale n = false ∧ ∃ v, (s.nodeD n).value = some v ∧ s.value env n = some v := by
  obtain ⟨hs, v, hv, -⟩ := h.all_consistent he n hn
  exact ⟨(h.graph.nec n hn).2.1, hs, v, hv, by rw [h.graph.value_plain hn]; exact hv⟩

/-- **L1 (exact cutoffs).** `DrainInv` with the flag up, empty heap: every necessary node is valid, not stale,
and its stored value — which is also what an observer reads (`State.value`) — is the from-scratch evaluation
of its defining expression on the current variable values (any fuel above the node's height). -/
theorem drained_values {env : Env} {s : State} (h : DrainInv env true s) (he : s.rch.length = 0)
    (n : Nat) (hn : s.isNecessary n = true) (k : Nat) (hk : (s.nodeD n).height.toNat < k) :
    (s.nodeD n).valid = true ∧ s.isStale n = false ∧
      (s.nodeD n).value = eval env s k n ∧ s.value env n = eval env s k n ∧
      (eval env s k n).isSome = true := by
  have hv := eval_of_consistent env s h.graph (fun m hm => (h.all_consistent he m hm).2.consistent) k n hn hk
  obtain ⟨v, _, hval⟩ := (h.all_consistent he n hn).2.consistent
  refine ⟨(h.graph.nec n hn).2.1, (h.all_consistent he n hn).1, hv, ?_, ?_⟩
  · rw [h.graph.value_plain hn]; exact hv
  · rw [← hv, hval]; rfl

end IncrVerif.Proofs.CutH
