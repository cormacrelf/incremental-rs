import IncrVerif.Proofs.CutH15
import IncrVerif.Engine.Run
-- static programs with ARBITRARY cutoffs; `Proofs/Quiet15.lean` (default cutoffs) takes its lemmas from this file; overview in Props/C06History.lean
/-!
# Part 14: `stabiliseEnd` when no observer has update handlers
-/
namespace IncrVerif.Proofs.CutH
open IncrVerif.Engine IncrVerif.Driver IncrVerif.Proofs IncrVerif.Proofs.Step IncrVerif.Proofs.Sched
variable {e : Bool}

/-- `s'` is `s` after a `stabiliseEnd` with no deferred writes, no dead vars and no update handlers -/
structure Finished' (s s' : State) : Prop where
  size : s'.nodes.size = s.nodes.size
  node : ∀ m, ∃ b, s'.nodeD m = { s.nodeD m with inHandleAfterStab := b }
  vars : s'.vars = s.vars
  rch : s'.rch = s.rch
  ahh : s'.ahh = s.ahh
  observers : s'.observers = s.observers
  newObservers : s'.newObservers = s.newObservers
  disallowedObservers : s'.disallowedObservers = s.disallowedObservers
  allObservers : s'.allObservers = s.allObservers
  scope : s'.currentScope = s.currentScope
  pc : s'.panicCountdown = s.panicCountdown
  top : s'.top = s.top
  handles : s'.handles = s.handles
  alive : s'.alive = s.alive
  pinv : s'.propagateInvalidity = s.propagateInvalidity
  cfg : s'.cfg = s.cfg
  stabNum : s'.stabNum = s.stabNum + 1
  status : s'.status = .notStabilising
  setDuringStab : s'.setDuringStab = []
  deadVars : s'.deadVars = []
  handleAfterStab : s'.handleAfterStab = []



/-- the part of `Finished'` that holds from the third loop of `stabiliseEnd` on (everything but `status`) -/
structure Mid (s t : State) : Prop where
  size : t.nodes.size = s.nodes.size
  node : ∀ m, ∃ b, t.nodeD m = { s.nodeD m with inHandleAfterStab := b }
  vars : t.vars = s.vars
  rch : t.rch = s.rch
  ahh : t.ahh = s.ahh
  observers : t.observers = s.observers
  newObservers : t.newObservers = s.newObservers
  disallowedObservers : t.disallowedObservers = s.disallowedObservers
  allObservers : t.allObservers = s.allObservers
  scope : t.currentScope = s.currentScope
  pc : t.panicCountdown = s.panicCountdown
  top : t.top = s.top
  handles : t.handles = s.handles
  alive : t.alive = s.alive
  pinv : t.propagateInvalidity = s.propagateInvalidity
  cfg : t.cfg = s.cfg
  stabNum : t.stabNum = s.stabNum + 1
  setDuringStab : t.setDuringStab = []
  deadVars : t.deadVars = []
  handleAfterStab : t.handleAfterStab = []

theorem Mid.modNode {s t : State} (M : Mid s t) (n : Nat) (b : Bool) :
    Mid s { t with nodes := t.nodes.modify n fun x => { x with inHandleAfterStab := b } } := by
  refine ⟨?_, ?_, M.vars, M.rch, M.ahh, M.observers, M.newObservers, M.disallowedObservers, M.allObservers,
    M.scope, M.pc, M.top, M.handles, M.alive, M.pinv, M.cfg, M.stabNum, M.setDuringStab, M.deadVars,
    M.handleAfterStab⟩
  · rw [← M.size]; exact Array.size_modify ..
  · intro m
    obtain ⟨b0, hb0⟩ := M.node m
    rw [nodeD_modify]
    split
    · exact ⟨b, by rw [hb0]⟩
    · exact ⟨b0, hb0⟩

/-- a loop whose body is a state update returns, in the fold of the updates -/
theorem forIn_fold_tot {β} (g : Nat → State → State) (f : Nat → β → M (ForInStep β))
    (hf : ∀ v b s, ∃ b', (f v b).run.run s = (.ok (.yield b'), g v s)) :
    ∀ (l : List Nat) (b : β) (s : State), ∃ r, (forIn l b f).run.run s = (.ok r, l.foldl (fun t v => g v t) s) := by
  intro l
  induction l with
  | nil => intro b s; exact ⟨b, by rw [List.forIn_nil, run_pure]; rfl⟩
  | cons a l ih =>
    intro b s
    obtain ⟨b', hb'⟩ := hf a b s
    obtain ⟨r, hr⟩ := ih b' (g a s)
    exact ⟨r, by rw [List.forIn_cons, run_bind_ok hb']; exact hr⟩

theorem forIn_fold {β} (g : Nat → State → State) (f : Nat → β → M (ForInStep β))
    (hf : ∀ v b s, ∃ b', (f v b).run.run s = (.ok (.yield b'), g v s))
    (l : List Nat) (b : β) (s : State) (r : β) (s' : State)
    (h : (forIn l b f).run.run s = (.ok r, s')) : s' = l.foldl (fun t v => g v t) s := by
  obtain ⟨r', e⟩ := forIn_fold_tot g f hf l b s
  rw [e] at h
  exact (Prod.mk.inj h).2.symm

/-- `break_rc_cycle` on the listed cells -/
def unlinked (dead : List Nat) (vars : Array VarCell) : Array VarCell :=
  dead.foldl (fun a v => a.modify v fun c => { c with linked := false }) vars

theorem foldl_vars (dead : List Nat) (s : State) :
    (dead.foldl (fun t v => { t with vars := t.vars.modify v fun c => { c with linked := false } }) s)
      = { s with vars := unlinked dead s.vars } := by
  induction dead generalizing s with
  | nil => rfl
  | cons a l ih => rw [List.foldl_cons, ih]; rfl

/-- `stabiliseEnd` with no deferred writes and no update handlers: the dead variables are unlinked, and nothing else happens to the fields `Finished'` names -/
theorem stabiliseEnd_fin_dead {env : Env} {fuel : Nat} {s s' : State} (h1 : s.setDuringStab = [])
    (hobs : ∀ (o : Nat) (ob : ObsRec), s.observers[o]? = some ob → ob.handlers = [])
    (h : (stabiliseEnd env fuel).run.run s = (.ok (), s')) : Finished' { s with vars := unlinked s.deadVars s.vars } s' := by
  unfold stabiliseEnd at h
  obtain ⟨s1, e1, h⟩ := bind_modify_inv h
  rw [run_bind_get] at h
  try dsimp only at h
  obtain ⟨s2, e2, h⟩ := bind_modify_inv h
  have h1' : s1.setDuringStab = [] := by rw [e1]; exact h1
  rw [h1', List.forIn_nil] at h
  obtain ⟨_, s3, hp, h⟩ := bind_ok_inv h
  obtain ⟨_, e3⟩ := pure_ok_inv hp
  rw [e3] at h
  rw [run_bind_get] at h
  try dsimp only at h
  obtain ⟨s4, e4, h⟩ := bind_modify_inv h
  -- loop 2: the dead variables
  obtain ⟨_, s5, hl2, h⟩ := bind_ok_inv h
  have e5 := forIn_fold
    (fun v t => { t with vars := t.vars.modify v fun c => { c with linked := false } }) _
    (fun v b t => ⟨PUnit.unit, rfl⟩) _ _ _ _ _ hl2
  rw [foldl_vars] at e5
  rw [run_bind_get] at h
  try dsimp only at h
  obtain ⟨s6, e6, h⟩ := bind_modify_inv h
  have M6 : Mid { s with vars := unlinked s.deadVars s.vars } s6 := by
    rw [e6, e5, e4, e2, e1]
    exact ⟨rfl, fun m => ⟨_, rfl⟩, rfl, rfl, rfl, rfl, rfl, rfl, rfl, rfl, rfl, rfl, rfl, rfl, rfl, rfl, rfl,
      rfl, rfl, rfl⟩
  -- loop 3: only `inHandleAfterStab` flags change
  obtain ⟨q, s7, hl3, h⟩ := bind_ok_inv h
  have M7 : Mid { s with vars := unlinked s.deadVars s.vars } s7 := by
    refine forIn_ok_keepB (Mid _) _ _ ?_ _ _ _ _ M6 hl3
    intro n _ b t r t' Mt hb
    obtain ⟨t1, et1, hb⟩ := bind_modNode_inv hb
    rw [run_bind_get] at hb
    obtain ⟨_, et'⟩ := pure_ok_inv hb
    rw [et', et1]
    exact Mt.modNode n false
  obtain ⟨s8, e8, h⟩ := bind_modify_inv h
  rw [run_bind_get] at h
  -- loop 4: no handler runs
  obtain ⟨_, s9, hl4, h⟩ := bind_ok_inv h
  have e9 : s9 = s8 := by
    refine forIn_ok_keepB (fun t => t = s8) _ _ ?_ _ _ _ _ rfl hl4
    intro x _ b t r t' et hb
    obtain ⟨nd, _, hb⟩ := bind_getNode_inv hb
    obtain ⟨_, t1, hb1, hb⟩ := bind_ok_inv hb
    obtain ⟨_, et'⟩ := pure_ok_inv hb
    rw [et']
    refine forIn_ok_keepB (fun t => t = s8) _ _ ?_ _ _ _ _ et hb1
    intro o _ b2 u r2 u' eu hr
    obtain ⟨_, u1, hr1, hr⟩ := bind_ok_inv hr
    obtain ⟨_, eu'⟩ := pure_ok_inv hr
    rw [eu']
    have hobs' : ∀ (o : Nat) (ob : ObsRec), u.observers[o]? = some ob → ob.handlers = [] := by
      intro o ob ho
      rw [eu, e8] at ho
      exact hobs o ob (M7.observers ▸ ho)
    rw [runAll_nohandlers hobs' hr1]; exact eu
  obtain ⟨s10, e10, h⟩ := bind_modify_inv h
  rw [run_modify] at h
  obtain ⟨_, e11⟩ := Prod.mk.inj h
  rw [← e11, e10, e9, e8]
  exact ⟨M7.size, M7.node, M7.vars, M7.rch, M7.ahh, M7.observers, M7.newObservers, M7.disallowedObservers,
    M7.allObservers, M7.scope, M7.pc, M7.top, M7.handles, M7.alive, M7.pinv, M7.cfg, M7.stabNum, rfl,
    M7.setDuringStab, M7.deadVars, M7.handleAfterStab⟩

theorem stabiliseEnd_fin {env : Env} {fuel : Nat} {s s' : State} (h1 : s.setDuringStab = [])
    (h2 : s.deadVars = []) (hobs : ∀ (o : Nat) (ob : ObsRec), s.observers[o]? = some ob → ob.handlers = [])
    (h : (stabiliseEnd env fuel).run.run s = (.ok (), s')) : Finished' s s' := by
  have F := stabiliseEnd_fin_dead h1 hobs h
  rw [show unlinked s.deadVars s.vars = s.vars by rw [h2]; rfl] at F
  exact F

end IncrVerif.Proofs.CutH
