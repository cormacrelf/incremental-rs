import IncrVerif.Proofs.FullT16
import IncrVerif.Proofs.FullT7
import IncrVerif.Proofs.FullH61
import IncrVerif.Proofs.DrainGrow
/-!
# C04 combined fragment: THE DRAIN RETURNS — from the contract `StepTotF` ("one `recomputeOne` on the current node returns if the state it ends in has room")

`Drain.recompute_totIf` / `drainHeap_totIf` on pairs of a ghost and a state, as `NestH.T2g.recompute_totG` / `drainHeap_totG` (Proofs/NestH101) on states: the potential
is `unrun (virt g s) + (M - size)`, `M` = the node count of the final state; the invariants are the drain invariant `DInvF` of the combined fragment, the carried invariant `PInv` of the bisimulation, and the totality invariant `NestH.DT` of the VIRTUAL state.
-/
namespace IncrVerif.Proofs.FullT
open IncrVerif.Engine IncrVerif.Driver IncrVerif.Proofs IncrVerif.Proofs.Step IncrVerif.Proofs.Sched IncrVerif.Proofs.Quiet IncrVerif.Proofs.FullH
open IncrVerif.Proofs.BindH (DInv BGraph StepRelB TargetB FrameB)
open IncrVerif.Proofs.NestH (AuxS2 Aux2 GenOK2 F2Inv DT HBo2 RhsRan Lim cnt TotIf HasRoomG)

/-- the invariants carried through the actual drain -/
structure DF (env : Env) (sp : Nat → Val → Val) (N : Nat) (t s : State) (g : Nat → Option Val) (x : Option Nat) : Prop where
  d : DInvF env sp t s g x
  p : PInv s
  t : DT (VE env sp) N (virt g s)

/-- CONTRACT: one `recomputeOne` of the actual drain, whatever its outcome, returned if the state it ends in has room (at most `N` nodes, `need size ≤ fuel`);
the invariants hold again (for new ghost values) -/
def StepTotF (need : Nat → Nat) (env : Env) (sp : Nat → Val → Val) (N : Nat) : Prop :=
  ∀ (fuel n : Nat) (t s : State) (g : Nat → Option Val), DF env sp N t s g (some n) →
    ∀ (r1 : Except Panic (Option Nat)) (s1 : State), (recomputeOne env fuel n).run.run s = (r1, s1) → s1.nodes.size ≤ N → need s1.nodes.size ≤ fuel →
      ∃ r, r1 = .ok r ∧ ∃ g', DF env sp N t s1 g' r ∧ FrameB (virt g s) (virt g' s1) ∧ ((virt g' s1).nodeD n).recomputedAt = s.stabNum

section
variable {env : Env} {sp : Nat → Val → Val} {N : Nat}

section
variable {need : Nat → Nat} (L : StepTotF need env sp N)
include L

/-- a step of the drain, for `Drain.recompute_totIf`, on pairs of a ghost and a state -/
theorem totIf_stepF (t : State) (c : (Nat → Option Val) × State) (n fuel : Nat) (r1 : Except Panic (Option Nat)) (s1 : State)
    (X : DF env sp N t c.2 c.1 (some n)) (h1 : (recomputeOne env fuel n).run.run c.2 = (r1, s1)) (hN : s1.nodes.size ≤ N)
    (hf : need s1.nodes.size ≤ fuel) :
    ∃ r, ∃ c' : (Nat → Option Val) × State, r1 = .ok r ∧ c'.2 = s1 ∧ DF env sp N t c'.2 c'.1 r ∧
      unrun (virt c'.1 c'.2) + c.2.nodes.size + 1 ≤ unrun (virt c.1 c.2) + s1.nodes.size := by
  obtain ⟨-, hnlt, -, -, hfr⟩ := X.d.inv.cur_facts
  obtain ⟨r, e, g', X1, f1, hn1⟩ := L fuel n t c.2 c.1 X _ _ h1 hN hf
  have hlt := NestH.T2g.unrun_lt f1 X.d.inv.stamps hnlt hfr hn1
  rw [virt_size, virt_size] at hlt
  exact ⟨r, (g', s1), e, rfl, X1, hlt⟩

/-- **the drain** -/
theorem drainHeap_totF (hmono : ∀ a b, a ≤ b → need a ≤ need b) (hpos : ∀ sz, 1 ≤ need sz)
    (fuel : Nat) (t s s' : State) (g : Nat → Option Val) (r : Except Panic Unit) (X : DF env sp N t s g none)
    (h : (drainHeap env fuel).run.run s = (r, s')) (hN : s'.nodes.size ≤ N)
    (hf : need s'.nodes.size + unrun (virt g s) + s'.nodes.size + 1 ≤ fuel + s.nodes.size) :
    r = .ok () ∧ ∃ g', DF env sp N t s' g' none := by
  obtain ⟨e, ⟨g', _⟩, rfl, X'⟩ := Drain.drainHeap_totIf (st := Prod.snd) (J := fun c x => DF env sp N t c.2 c.1 x)
    (μ := fun c => unrun (virt c.1 c.2)) hmono hpos NestH.T2g.recompute_size NestH.T2g.drainHeap_size
    (fun c n X => unrun_pos X.d.inv.cur_facts.2.1 X.d.inv.cur_facts.2.2.2.2) (totIf_stepF L t)
    (fun c X => by
      obtain ⟨r1, s1, h1⟩ := rchRemoveMin_ok (heapInv_of_virt X.d.inv.heap)
      refine ⟨r1, s1, h1, ?_⟩
      cases r1 with
      | none => exact (rchRemoveMin_inv (heapInv_of_virt X.d.inv.heap) h1).1
      | some n =>
        obtain ⟨D1, f1⟩ := pop_full X.d h1
        obtain ⟨hv, -, -⟩ := Sim.rchRemoveMin (K := FK env sp) (g := c.1) c.2 X.d.frag.fr (some n) s1 h1
        have T1 : DT (VE env sp) N (virt c.1 s1) := NestH.T2g.pop_DT X.d.inv.heap hv X.t
        have P1 : PInv s1 := ((BSim.rchRemoveMin (K := FK env sp) (P := PInv) (g := c.1) c.2).fwd X.d.frag.fr X.p h1).2.2.2
        have hle := NestH.T2g.unrun_le f1 X.d.inv.stamps
        rw [virt_size, virt_size] at hle
        exact ⟨(c.1, s1), rfl, ⟨D1, P1, T1⟩, hle⟩)
    fuel (g, s) r s' X h hN hf
  exact ⟨e, g', X'⟩

end

end

/-- the fuel `stabilise` needs when the state it ends in has `sz` nodes -/
def needFuelF (sz : Nat) : Nat := 5 * sz + 8

theorem needFuelF_facts : (∀ sz, NestH.stepFuel sz + 2 * sz + 1 ≤ needFuelF sz) ∧ (∀ sz, 4 * sz + 8 ≤ needFuelF sz) ∧
    (∀ a b, a ≤ b → needFuelF a ≤ needFuelF b) := by
  unfold NestH.stepFuel needFuelF
  refine ⟨?_, ?_, ?_⟩ <;> intros <;> omega

end IncrVerif.Proofs.FullT
