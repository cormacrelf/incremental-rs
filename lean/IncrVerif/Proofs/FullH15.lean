import IncrVerif.Proofs.FullH4
import IncrVerif.Proofs.BindH5
/-!
# C01 full fragment: what is below the current node of the drain invariant is settled
(`MapRefH.settled` / `Inv.kids_settled` for `BindH.DInv` of the virtual state in place of `Sched.Inv`)
-/
namespace IncrVerif.Proofs.FullH
open IncrVerif.Engine IncrVerif.Proofs IncrVerif.Proofs.Step IncrVerif.Proofs.Sched IncrVerif.Proofs.Quiet
open IncrVerif.Proofs.BindH (DInv BGraph Below Edge ConsistentB TargetB)

section
variable {env : Env} {sp : Nat → Val → Val} {g : Nat → Option Val} {s : State}

theorem children_mwo {n m i : Nat} (hv : (s.nodeD n).valid = true) (hk : (s.nodeD n).kind = .mapWithOld m i) :
    s.children n = [i] := by
  have : (s.nodeD n).kind? = some (.mapWithOld m i) := by simp [Node.kind?, hv, hk]
  unfold State.children; rw [this]

/-- a virtual child edge -/
theorem vedge_of_child {n c : Nat} (h : c ∈ s.children n) : Edge (virt g s) n c :=
  Edge.child (by rw [virt_children]; exact h)

/-- below a necessary node all of whose descendants are not stale, the ghost values are the values read
(`hcons`: `DInv.cons` of the virtual state) -/
theorem settled (F : FFrag env sp g s) (gr : BGraph (VE env sp) (virt g s))
    (hcons : ∀ m, m < (virt g s).nodes.size → ((virt g s).nodeD m).valid = true → (virt g s).isStale m = false →
      ConsistentB (VE env sp) (virt g s) m) :
    ∀ d, s.isNecessary d = true → (∀ e, Below (virt g s) d e → s.isStale e = false) → tv g s d = s.value env d := by
  intro d
  induction d using Nat.strongRecOn with
  | _ d ih =>
    intro hd hfresh
    by_cases hmr : ∀ p i, (s.nodeD d).kind ≠ .mapRef p i
    · exact tv_eq_value_of_not_mapRef hmr
    · have : ∃ p i, (s.nodeD d).kind = .mapRef p i := by
        cases hk : (s.nodeD d).kind <;> first | exact ⟨_, _, rfl⟩ | (exfalso; apply hmr; intro p i; rw [hk]; intro h; cases h)
      obtain ⟨p, i, hk⟩ := this
      have hlt := F.lt_of_mapRef hk
      have hi : i < d := F.input_lt hk
      have hdv : (virt g s).isNecessary d = true := by rw [virt_isNecessary]; exact hd
      have hvv : ((virt g s).nodeD d).valid = true := (gr.nec d hdv).1
      have hv : (s.nodeD d).valid = true := by rw [virt_nodeD, virtNode_valid] at hvv; exact hvv
      have hns : (virt g s).isStale d = false := by rw [virt_isStale]; exact hfresh d (Below.refl d)
      obtain ⟨w, hw, hvw⟩ := hcons d (by rw [virt_size]; exact hlt) hvv hns
      have hkv : ((virt g s).nodeD d).kind = .map (pBase + p) [i] := by
        rw [virt_nodeD, virtNode_kind, hk]; rfl
      unfold TargetB Target at hw
      rw [hkv] at hw
      obtain ⟨vals, hvals, hwv⟩ := hw
      -- the child
      have hci : i ∈ s.children d := by rw [KC.children_mapRef hv hk]; exact List.mem_singleton.2 rfl
      have he : Edge (virt g s) d i := vedge_of_child hci
      have hin : s.isNecessary i = true := by rw [← virt_isNecessary g s]; exact (gr.edge_nec hdv he).1
      have hti : tv g s i = s.value env i := ih i hi hin (fun e hb => hfresh e (Below.step he hb))
      rw [virt_plainVals] at hvals
      simp only [evalArgs] at hvals
      rw [value_mapRef F hv hk, ← hti]
      show ((virt g s).nodeD d).value = _
      rw [hvw, hwv, virtEnv_fn_proj _ _ (F.pid hk)]
      cases hx : tv g s i with
      | none => rw [hx] at hvals; simp at hvals
      | some x => rw [hx] at hvals; simp at hvals; subst hvals; rfl

/-- nothing strictly below the current node is stale -/
theorem DInv.below_fresh {n : Nat} (I : DInv (VE env sp) (virt g s) (some n)) {a : Nat}
    (ha : Edge (virt g s) n a) : ∀ e, Below (virt g s) a e → s.isStale e = false := by
  intro e he
  have gr := I.graph
  obtain ⟨hn, hbelow⟩ := I.cur n rfl
  obtain ⟨han, hlt⟩ := gr.edge_nec hn ha
  obtain ⟨hen, hle⟩ := gr.below_nec he han
  cases hst : s.isStale e with
  | false => rfl
  | true =>
    rcases I.pending e hen (by rw [virt_isStale]; exact hst) with h | h
    · rw [hbelow e (Below.step ha he)] at h; cases h
    · cases h; omega

/-- **the children of the current node are settled**: the ghost values are the values read, and they exist -/
theorem kids_settled {t : State} {n : Nat} (D : DInvF env sp t s g (some n)) :
    ∀ a, a ∈ s.children n → tv g s a = s.value env a ∧ (s.value env a).isSome = true := by
  intro a ha
  have I := D.inv
  have gr := I.graph
  obtain ⟨hn, -⟩ := I.cur n rfl
  have he : Edge (virt g s) n a := vedge_of_child ha
  obtain ⟨han, -⟩ := gr.edge_nec hn he
  have hfresh := DInv.below_fresh I he
  have hset := settled D.frag gr I.cons a (by rw [← virt_isNecessary g s]; exact han) hfresh
  refine ⟨hset, ?_⟩
  obtain ⟨halt, hav⟩ := gr.edge_target he
  obtain ⟨w, -, hw⟩ := I.cons a halt hav (by rw [virt_isStale]; exact hfresh a (Below.refl a))
  rw [← hset]
  show ((virt g s).nodeD a).value.isSome = true
  rw [hw]; rfl

end
end IncrVerif.Proofs.FullH
