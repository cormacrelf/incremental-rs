import IncrVerif.Proofs.BindH25
/-!
# Binds, unlinking side, part 4: run forms of the single-edge removal lemmas

`removeParent c idx p` as a run, for the two situations: `p` is being unlinked (`GInvB.removeEdge`, used inside
`removeChildren`), and `p` is a closed necessary node that loses its LAST child edge and is opened as `.linking idx`
(`GInvB.dropLastEdge`, the situation of `changeChildBindRhs`).
-/
namespace IncrVerif.Proofs.BindH
open IncrVerif.Engine IncrVerif.Proofs IncrVerif.Proofs.Step IncrVerif.Proofs.Sched IncrVerif.Proofs.Quiet

namespace BU

/-- what a successful `removeParent c idx p` does, apart from the invariant -/
theorem removeParent_frame {env : Env} {c p idx : Nat} {s s' : State} {op : Nat → Op} {ex : Nat → Prop} {u : Unit}
    (h : (removeParent c idx p).run.run s = (.ok u, s')) (I : GInvB env s op ex) (hc : c < s.nodes.size) :
    ∃ pi, (s.nodeD c).parents.idxOf? (p, idx) = some pi ∧
      NodeUpd c (fParents (swapRemove (s.nodeD c).parents pi)) s s' ∧ s'.binds = s.binds ∧
      Above c s s' ∧ URel s s' ∧ (∀ m, m ≠ c → s'.nodeD m = s.nodeD m) := by
  obtain ⟨nd, pi, hnd, hidx, e1⟩ := removeParent_ok_inv h
  have hndD : s.nodeD c = nd := nodeD_of_some hnd
  rw [← hndD] at hidx
  have U : NodeUpd c (fParents (swapRemove (s.nodeD c).parents pi)) s s' := by
    rw [e1]; exact NodeUpd.modify' hc rfl
  refine ⟨pi, hidx, U, by rw [e1], ?_, ⟨?_, ?_, ?_⟩, ?_⟩
  · rw [e1]; exact Above.modify c _ s c (Nat.le_refl _)
  · rw [e1]; exact CFrame.modNode s c _ (fun _ => rfl)
  · rw [e1]
  · intro m x hx
    by_cases e : m = c
    · rw [e] at hx ⊢
      rw [U.self.parents] at hx
      exact ((swapRemove_spec _ _ _ (I.nodup c) hidx).1 x).1 hx |>.1
    · rw [(U.other m e).parents] at hx; exact hx
  · intro m hm
    rw [e1, nodeD_modify, if_neg (fun e => hm e.1.symm)]

end BU

section
variable {env : Env} {s s' : State} {op : Nat → Op} {ex : Nat → Prop}

/-- run form of `GInvB.removeEdge` -/
theorem removeParent_unlinking {c p idx : Nat} {u : Unit}
    (h : (removeParent c idx p).run.run s = (.ok u, s')) (I : GInvB env s op ex)
    (hop : op p = .unlinking idx) (hk : (s.children p)[idx]? = some c) (hcl : op c = .closed) :
    (s'.isNecessary c = true → GInvB env s' (upd op p (.unlinking (idx + 1))) ex) ∧
    (s'.isNecessary c = false →
      GInvB env s' (upd (upd op p (.unlinking (idx + 1))) c (.unlinking 0)) ex) ∧
    Above c s s' ∧ URel s s' ∧ (∀ m, m ≠ c → s'.nodeD m = s.nodeD m) := by
  have hc : c < s.nodes.size := by have := I.kid_lt hk; have := I.kid_lt_size hk; omega
  obtain ⟨pi, hidx, U, hb, hab, hu, hoth⟩ := BU.removeParent_frame h I hc
  obtain ⟨h1, h2⟩ := I.removeEdge hidx U hb hop hk hcl
  exact ⟨h1, h2, hab, hu, hoth⟩

/-- run form of `GInvB.dropLastEdge`: `removeParent c idx p` where `p` is closed and necessary, `c` is its child number
`idx`, the last one.  Afterwards `p` (still necessary) is labelled `.linking idx`; `c` stays closed if it is still
necessary, and is relabelled `.unlinking 0` otherwise. -/
theorem removeParent_dropLast {c p idx : Nat} {u : Unit}
    (h : (removeParent c idx p).run.run s = (.ok u, s')) (I : GInvB env s op ex)
    (hop : op p = .closed) (hnp : s.isNecessary p = true)
    (hk : (s.children p)[idx]? = some c) (hlen : (s.children p).length = idx + 1) (hcl : op c = .closed) :
    (s'.isNecessary c = true → GInvB env s' (upd op p (.linking idx)) ex) ∧
    (s'.isNecessary c = false →
      GInvB env s' (upd (upd op p (.linking idx)) c (.unlinking 0)) ex) ∧
    Above c s s' ∧ URel s s' ∧ (∀ m, m ≠ c → s'.nodeD m = s.nodeD m) := by
  have hc : c < s.nodes.size := by have := I.kid_lt hk; have := I.kid_lt_size hk; omega
  obtain ⟨pi, hidx, U, hb, hab, hu, hoth⟩ := BU.removeParent_frame h I hc
  obtain ⟨h1, h2⟩ := I.dropLastEdge hidx U hb hop hnp hk hlen hcl
  exact ⟨h1, h2, hab, hu, hoth⟩

/-- the case of `changeChildBindRhs`: the child has been forced necessary before its edge is removed, so it stays
necessary and closed -/
theorem removeParent_dropLast_forced {c p idx : Nat} {u : Unit}
    (h : (removeParent c idx p).run.run s = (.ok u, s')) (I : GInvB env s op ex)
    (hop : op p = .closed) (hnp : s.isNecessary p = true)
    (hk : (s.children p)[idx]? = some c) (hlen : (s.children p).length = idx + 1) (hcl : op c = .closed)
    (hf : (s.nodeD c).forceNecessary = true) :
    GInvB env s' (upd op p (.linking idx)) ex ∧ s'.isNecessary c = true ∧
    Above c s s' ∧ URel s s' ∧ (∀ m, m ≠ c → s'.nodeD m = s.nodeD m) := by
  obtain ⟨h1, -, hab, hu, hoth⟩ := removeParent_dropLast h I hop hnp hk hlen hcl
  have hnc : s'.isNecessary c = true := by
    rw [isNecessary_iff, hu.fr.forceNecessary]
    exact Or.inr (Or.inr hf)
  exact ⟨h1 hnc, hnc, hab, hu, hoth⟩

end

end IncrVerif.Proofs.BindH
