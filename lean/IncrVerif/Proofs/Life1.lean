import IncrVerif.Proofs.Observers
import IncrVerif.Proofs.Footprint
/-!
# Observer lifecycle over whole histories, part 1: the relations `Life` and `Dis`, and `Pres R m`
— for every relation `R` that only looks at the observer fields (`ObsLocal R`) — for every function of
the model that does not itself touch an observer record

* `lifeLe a b`: the lifecycle order `created < inUse < disallowed < unlinked` (= reflexive-transitive
  closure of the four lifecycle edges, `lifeLe_iff_path`).
* `Life s s'`: no observer record is removed, every record keeps its `node`, its state only moves
  forward in the lifecycle order.
* `Dis s s'` ("nothing but `disallow_future_use` happened to the observers"): same number of
  observers; each record keeps `node` and `clones`; its state is unchanged or moved by `afterDisallow`
  (created ↦ unlinked, in use ↦ disallowed); its handlers keep their (token, hid, createdAt) — or were
  cleared by created ↦ unlinked; `newObservers` unchanged; `disallowedObservers` grew by exactly the
  observers that went in use ↦ disallowed, each queued once.
* `ObsLocal R`: `R` is a preorder that relates `s` to `s'` whenever `observers`, `newObservers`,
  `disallowedObservers`, `nextToken` and `log` are unchanged, and across the logging of any event that
  is not a handler notification.  Every function of the model that makes none of the writes `obsWrites` keeps
  every such `R` (`PresD.of_foot`, from `Proofs/Footprint.lean`); stated as `Pres R m` (calculus of
  `Proofs/Observers.lean`) for the functions that the later parts call.  Instances:
  `Dis` here, `Same` (part 3), `MoveIn`, `SameH` (part 4), `SameK` (part 7), `Mute tok` (part 9),
  `TokStep` (part 10).
-/
namespace IncrVerif.Proofs.Life
open IncrVerif.Engine IncrVerif.Proofs.Obs

/-! ## the lifecycle order -/

def rank : ObsState → Nat
  | .created => 0 | .inUse => 1 | .disallowed => 2 | .unlinked => 3

/-- `b` is `a` or later in the lifecycle -/
def lifeLe (a b : ObsState) : Prop := rank a ≤ rank b

instance (a b : ObsState) : Decidable (lifeLe a b) := Nat.decLe _ _

theorem lifeLe_refl (a : ObsState) : lifeLe a a := Nat.le_refl _
theorem lifeLe_trans {a b c : ObsState} (h1 : lifeLe a b) (h2 : lifeLe b c) : lifeLe a c :=
  Nat.le_trans h1 h2
theorem lifeLe_antisymm {a b : ObsState} (h1 : lifeLe a b) (h2 : lifeLe b a) : a = b := by
  cases a <;> cases b <;> first | rfl | (exact absurd h1 (by decide)) | (exact absurd h2 (by decide))

/-- the four transitions of the lifecycle -/
inductive LifeEdge : ObsState → ObsState → Prop
  | use : LifeEdge .created .inUse
  | disallow : LifeEdge .inUse .disallowed
  | unlink : LifeEdge .disallowed .unlinked
  | dropNew : LifeEdge .created .unlinked

/-- reflexive-transitive closure of `LifeEdge` -/
inductive LifePath : ObsState → ObsState → Prop
  | refl (a) : LifePath a a
  | step {a b c} : LifeEdge a b → LifePath b c → LifePath a c

theorem LifeEdge.lt {a b : ObsState} (h : LifeEdge a b) : rank a < rank b := by
  cases h <;> decide

theorem lifeLe_iff_path (a b : ObsState) : lifeLe a b ↔ LifePath a b := by
  constructor
  · intro h
    have e1 := LifePath.step .unlink (.refl _)
    have e2 := LifePath.step .disallow e1
    cases a <;> cases b <;> first
      | exact .refl _
      | exact absurd h (by decide)
      | exact e1
      | exact e2
      | exact .step .use e2
      | exact .step .disallow (.refl _)
      | exact .step .use (.refl _)
      | exact .step .use (.step .disallow (.refl _))
  · intro h
    induction h with
    | refl a => exact lifeLe_refl a
    | step e _ ih => exact lifeLe_trans (Nat.le_of_lt e.lt) ih

theorem lifeLe_afterDisallow (a : ObsState) : lifeLe a (afterDisallow a) := by
  cases a <;> decide

theorem afterDisallow_idem (a : ObsState) : afterDisallow (afterDisallow a) = afterDisallow a := by
  cases a <;> rfl

/-! ## `Life` -/

structure Life (s s' : State) : Prop where
  size : s.observers.size ≤ s'.observers.size
  obs : ∀ (o : Nat) (ob : ObsRec), s.observers[o]? = some ob →
    ∃ ob' : ObsRec, s'.observers[o]? = some ob' ∧ ob'.node = ob.node ∧ lifeLe ob.state ob'.state

theorem Life.refl (s : State) : Life s s :=
  ⟨Nat.le_refl _, fun _ ob h => ⟨ob, h, rfl, lifeLe_refl _⟩⟩

theorem Life.trans {a b c : State} (h1 : Life a b) (h2 : Life b c) : Life a c where
  size := Nat.le_trans h1.size h2.size
  obs o ob h := by
    obtain ⟨ob1, e1, n1, l1⟩ := h1.obs o ob h
    obtain ⟨ob2, e2, n2, l2⟩ := h2.obs o ob1 e1
    exact ⟨ob2, e2, n2.trans n1, lifeLe_trans l1 l2⟩

instance : PreOrd Life := ⟨Life.refl, Life.trans⟩

theorem Life.of_eq {s s' : State} (h : s'.observers = s.observers) : Life s s' := by
  refine ⟨by rw [h]; exact Nat.le_refl _, fun o ob e => ⟨ob, by rw [h]; exact e, rfl, lifeLe_refl _⟩⟩

/-- a `modObs` that keeps `node` and moves `state` forward -/
theorem Life.modObs (s : State) (o : Nat) (f : ObsRec → ObsRec)
    (hf : ∀ x, (f x).node = x.node ∧ lifeLe x.state (f x).state) :
    Life s { s with observers := s.observers.modify o f } := by
  refine ⟨by simp, fun m ob e => ?_⟩
  simp only [Array.getElem?_modify, e]
  split
  · exact ⟨f ob, rfl, (hf ob).1, (hf ob).2⟩
  · exact ⟨ob, rfl, rfl, lifeLe_refl _⟩

theorem Life.pushObs (s : State) (ob : ObsRec) :
    Life s { s with observers := s.observers.push ob } := by
  refine ⟨by simp, fun m x e => ?_⟩
  have hlt : m < s.observers.size := (Array.getElem?_eq_some_iff.1 e).1
  refine ⟨x, ?_, rfl, lifeLe_refl _⟩
  simp [Array.getElem?_push, Nat.ne_of_lt hlt, e]

/-- `FrameS`/`Frame` steps are `Life` steps -/
theorem Life.of_frame {s s' : State} (h : Frame s s') : Life s s' := by
  refine ⟨h.obsLe, fun o ob e => ?_⟩
  have hlt : o < s.observers.size := (Array.getElem?_eq_some_iff.1 e).1
  have := h.obs o hlt
  rw [e] at this
  cases e' : s'.observers[o]? with
  | none => rw [e'] at this; cases this
  | some ob' =>
    rw [e'] at this
    simp only [Option.map_some, Option.some.injEq, obsCore, Prod.mk.injEq] at this
    exact ⟨ob', rfl, this.1, by rw [this.2]; exact lifeLe_refl _⟩

/-! ## `Dis` -/

/-- what identifies a handler registration (everything but the automaton state `prev`) -/
def hkey (h : HandlerRec) : Nat × Nat × Int := (h.token, h.hid, h.createdAt)

/-- what may happen to one observer record while the only lifecycle call is `disallow_future_use` -/
structure RecDis (a b : ObsRec) : Prop where
  node : b.node = a.node
  clones : b.clones = a.clones
  state : b.state = a.state ∨ b.state = afterDisallow a.state
  handlers : b.handlers.map hkey = a.handlers.map hkey ∨
    (a.state = .created ∧ b.state = .unlinked ∧ b.handlers = [])

theorem RecDis.refl (a : ObsRec) : RecDis a a := ⟨rfl, rfl, .inl rfl, .inl rfl⟩

theorem RecDis.trans {a b c : ObsRec} (h1 : RecDis a b) (h2 : RecDis b c) : RecDis a c where
  node := h2.node.trans h1.node
  clones := h2.clones.trans h1.clones
  state := by
    rcases h1.state with e1 | e1 <;> rcases h2.state with e2 | e2
    · exact .inl (e2.trans e1)
    · exact .inr (by rw [e2, e1])
    · exact .inr (e2.trans e1)
    · exact .inr (by rw [e2, e1, afterDisallow_idem])
  handlers := by
    rcases h1.handlers with e1 | ⟨ea, eb, ehb⟩ <;> rcases h2.handlers with e2 | ⟨fb, fc, ehc⟩
    · exact .inl (e2.trans e1)
    · refine .inr ⟨?_, fc, ehc⟩
      rcases h1.state with e | e
      · rw [← e]; exact fb
      · rw [fb] at e; revert e; cases a.state <;> simp [afterDisallow]
    · refine .inr ⟨ea, ?_, ?_⟩
      · rcases h2.state with e | e
        · rw [e]; exact eb
        · rw [e, eb]; rfl
      · rw [ehb] at e2; simpa using e2
    · rw [eb] at fb; cases fb

theorem RecDis.lifeLe {a b : ObsRec} (h : RecDis a b) : lifeLe a.state b.state := by
  rcases h.state with e | e <;> rw [e]
  · exact lifeLe_refl _
  · exact lifeLe_afterDisallow _

/-- `x` went in use ↦ disallowed -/
def Went (s s' : State) (o : Nat) : Prop :=
  ∃ ob ob' : ObsRec, s.observers[o]? = some ob ∧ s'.observers[o]? = some ob' ∧
    ob.state = .inUse ∧ ob'.state = .disallowed

structure Dis (s s' : State) : Prop where
  size : s'.observers.size = s.observers.size
  obs : ∀ (o : Nat) (ob : ObsRec), s.observers[o]? = some ob → ∃ ob' : ObsRec, s'.observers[o]? = some ob' ∧ RecDis ob ob'
  newObs : s'.newObservers = s.newObservers
  dis : ∃ extra, s'.disallowedObservers = s.disallowedObservers ++ extra ∧ extra.Nodup ∧
    ∀ o, o ∈ extra ↔ Went s s' o

theorem Dis.of_eq {s s' : State} (h1 : s'.observers = s.observers)
    (h2 : s'.newObservers = s.newObservers)
    (h3 : s'.disallowedObservers = s.disallowedObservers) : Dis s s' := by
  refine ⟨by rw [h1], fun o ob e => ⟨ob, by rw [h1]; exact e, RecDis.refl _⟩, h2,
    [], by simp [h3], List.nodup_nil, fun o => ⟨fun h => absurd h List.not_mem_nil, ?_⟩⟩
  rintro ⟨ob, ob', e, e', u, d⟩
  rw [h1, e] at e'
  cases e'
  rw [u] at d; cases d

theorem Dis.refl (s : State) : Dis s s := Dis.of_eq rfl rfl rfl

theorem Dis.obs_back {s s' : State} (h : Dis s s') {o : Nat} {ob' : ObsRec}
    (e' : s'.observers[o]? = some ob') : ∃ ob, s.observers[o]? = some ob ∧ RecDis ob ob' := by
  have hlt : o < s.observers.size := by
    rw [← h.size]; exact (Array.getElem?_eq_some_iff.1 e').1
  have e : s.observers[o]? = some s.observers[o] := Array.getElem?_eq_getElem hlt
  obtain ⟨ob2, e2, r⟩ := h.obs o _ e
  rw [e'] at e2; cases e2
  exact ⟨_, e, r⟩

theorem Dis.trans {a b c : State} (h1 : Dis a b) (h2 : Dis b c) : Dis a c where
  size := h2.size.trans h1.size
  newObs := h2.newObs.trans h1.newObs
  obs o ob h := by
    obtain ⟨ob1, e1, r1⟩ := h1.obs o ob h
    obtain ⟨ob2, e2, r2⟩ := h2.obs o ob1 e1
    exact ⟨ob2, e2, r1.trans r2⟩
  dis := by
    obtain ⟨x1, e1, n1, m1⟩ := h1.dis
    obtain ⟨x2, e2, n2, m2⟩ := h2.dis
    refine ⟨x1 ++ x2, by rw [e2, e1, List.append_assoc], ?_, ?_⟩
    · rw [List.nodup_append]
      refine ⟨n1, n2, fun p hp q hq hpq => ?_⟩
      subst hpq
      obtain ⟨_, ob1, _, eb, _, d⟩ := (m1 p).1 hp
      obtain ⟨ob2, _, eb2, _, u, _⟩ := (m2 p).1 hq
      rw [eb] at eb2; cases eb2
      rw [d] at u; cases u
    · intro o
      rw [List.mem_append, m1, m2]
      constructor
      · rintro (⟨oa, ob, ea, eb, u, d⟩ | ⟨ob, oc, eb, ec, u, d⟩)
        · obtain ⟨oc, ec, r⟩ := h2.obs o ob eb
          refine ⟨oa, oc, ea, ec, u, ?_⟩
          rcases r.state with e | e <;> rw [e, d] <;> rfl
        · obtain ⟨oa, ea, r⟩ := h1.obs_back eb
          refine ⟨oa, oc, ea, ec, ?_, d⟩
          rcases r.state with e | e
          · rw [← e]; exact u
          · rw [u] at e; revert e; cases oa.state <;> simp [afterDisallow]
      · rintro ⟨oa, oc, ea, ec, u, d⟩
        obtain ⟨ob, eb, r1⟩ := h1.obs o oa ea
        obtain ⟨oc', ec', r2⟩ := h2.obs o ob eb
        rw [ec] at ec'; cases ec'
        rcases r1.state with e | e
        · exact .inr ⟨ob, oc, eb, ec, by rw [e]; exact u, d⟩
        · exact .inl ⟨oa, ob, ea, eb, u, by rw [e, u]; rfl⟩

instance : PreOrd Dis := ⟨Dis.refl, Dis.trans⟩

theorem Dis.life {s s' : State} (h : Dis s s') : Life s s' :=
  ⟨Nat.le_of_eq h.size.symm, fun o ob e => by
    obtain ⟨ob', e', r⟩ := h.obs o ob e
    exact ⟨ob', e', r.node, r.lifeLe⟩⟩

/-- a `modObs` that is a `RecDis` step and not an in use ↦ disallowed step -/
theorem Dis.modObs (s : State) (o : Nat) (f : ObsRec → ObsRec)
    (hf : ∀ x, RecDis x (f x) ∧ ¬ (x.state = .inUse ∧ (f x).state = .disallowed)) :
    Dis s { s with observers := s.observers.modify o f } := by
  refine ⟨by simp, fun m ob e => ?_, rfl, [], by simp, List.nodup_nil,
    fun m => ⟨fun h => absurd h List.not_mem_nil, ?_⟩⟩
  · simp only [Array.getElem?_modify, e]
    split
    · exact ⟨f ob, rfl, (hf ob).1⟩
    · exact ⟨ob, rfl, RecDis.refl _⟩
  · rintro ⟨ob, ob', e, e', u, d⟩
    simp only [Array.getElem?_modify, e] at e'
    split at e'
    · simp only [Option.map_some, Option.some.injEq] at e'
      subst e'
      exact ((hf ob).2 ⟨u, d⟩).elim
    · cases e'
      rw [u] at d; cases d

/-- relations that only look at the three observer fields: a step that leaves `observers`,
`newObservers` and `disallowedObservers` alone is related.  The decomposition below is carried out once
for all such relations (`Dis`, `Same` of part 3, `MoveIn` of part 4, `Mute` of part 9; the last one also
looks at `nextToken` and at the handler notifications in `log`). -/
class ObsLocal (R : State → State → Prop) : Prop extends PreOrd R where
  of_eq : ∀ s s' : State, s'.observers = s.observers → s'.newObservers = s.newObservers →
    s'.disallowedObservers = s.disallowedObservers → s'.nextToken = s.nextToken → s'.log = s.log →
    R s s'
  /-- logging anything but a handler notification -/
  logEv : ∀ (e : Event) (s : State), (∀ t u, e ≠ .notif t u) → R s { s with log := e :: s.log }

instance : ObsLocal Dis where
  of_eq _ _ h1 h2 h3 _ _ := Dis.of_eq h1 h2 h3
  logEv _ _ _ := Dis.of_eq rfl rfl rfl

/-! ## the decomposition tactic -/

syntax "lleaf" : tactic
macro_rules | `(tactic| lleaf) => `(tactic| fail "no leaf")

/-- leaves that must be tried before a bind is taken apart -/
syntax "lspecial" : tactic
macro_rules | `(tactic| lspecial) => `(tactic| fail "no special leaf")

macro "lstep" : tactic => `(tactic| first
  | with_reducible apply Pres.pure | with_reducible apply Pres.get | with_reducible apply Pres.panic
  | with_reducible apply Pres.throw
  | lspecial
  | with_reducible apply Pres.bind | with_reducible apply Pres.map | with_reducible apply Pres.mapM
  | with_reducible apply Pres.forIn
  | with_reducible apply Pres.getNode | with_reducible apply Pres.dassert
  | with_reducible apply Pres.getBind | with_reducible apply Pres.getExpert
  | with_reducible apply Pres.getVar | with_reducible apply Pres.assertM
  | with_reducible apply Pres.getObs | with_reducible apply Pres.isConstant
  | with_reducible apply Pres.resolveOpnd | with_reducible apply Pres.discard
  | intro _ | split
  | lleaf
  | dsimp only)

macro "lpres" : tactic => `(tactic| repeat (any_goals lstep))

/-- register a lemma as a leaf -/
macro "life_leaf " n:ident : command =>
  `(macro_rules | `(tactic| lleaf) => `(tactic| with_reducible apply $n))

/-! ### primitive leaves -/

section
variable {R : State → State → Prop} [ObsLocal R]


macro_rules
  | `(tactic| lleaf) =>
    `(tactic| ((with_reducible apply Pres.modify); intro _; exact ObsLocal.of_eq _ _ rfl rfl rfl rfl rfl))

theorem PresD.modNode (n f) : Pres R (modNode n f) := by unfold Engine.modNode; lpres
life_leaf PresD.modNode
theorem PresD.modVar (n f) : Pres R (modVar n f) := by unfold Engine.modVar; lpres
life_leaf PresD.modVar
theorem PresD.bumpCounter (f) : Pres R (bumpCounter f) := by unfold Engine.bumpCounter; lpres
life_leaf PresD.bumpCounter
theorem PresD.tick : Pres R tick := by unfold Engine.tick; lpres
life_leaf PresD.tick

section
omit [ObsLocal R]
variable [PreOrd R]
theorem PresR.scopeIsValid (sc) : Pres R (scopeIsValid sc) := by unfold Engine.scopeIsValid; lpres
theorem PresR.valueUnwrap (env n site) : Pres R (valueUnwrap env n site) := by
  unfold Engine.valueUnwrap; lpres
end
life_leaf PresR.scopeIsValid
life_leaf PresR.valueUnwrap

/-! ### the footprint -/

/-- the writes an `ObsLocal` relation sees: those of the observer records, of the two observer queues and of `nextToken`, and a logged notification -/
def obsWrites : List Footprint.Tag := [.oState, .oDropped, .oHandlers, .newObservers, .disallowedObservers, .nextToken, .logNotif]

theorem ObsLocal.of_edit {L w} (hL : ∀ t ∈ L, t ∉ obsWrites) {s s' : State} (e : Footprint.Edit L w s s') : R s s' := by
  cases e
  case log ev he =>
    refine ObsLocal.logEv ev s ?_
    cases he <;> first | (intro _ _ h; cases h; done) | exact absurd (hL _ ‹_›) (by decide)
  case obs hf => cases hf <;> exact absurd (hL _ ‹_›) (by decide)
  all_goals first | exact ObsLocal.of_eq _ _ rfl rfl rfl rfl rfl | exact absurd (hL _ ‹_›) (by decide)

/-- a function that makes none of the writes in `obsWrites` keeps every `ObsLocal` relation -/
theorem PresD.of_foot {L α} {m : M α} (hm : Footprint.Foot L (fun _ => True) m) (hL : ∀ t ∈ Footprint.parts L, t ∉ obsWrites) : Pres R m :=
  have : Step.PreOrd R := ⟨PreOrd.refl, PreOrd.trans⟩
  ⟨(hm.lift fun e => ObsLocal.of_edit hL e).h⟩

/-! ### heaps, heights -/
theorem PresD.setHeight (n h) : Pres R (setHeight n h) := PresD.of_foot (Footprint.Foot.setHeight n h) (by decide)
life_leaf PresD.setHeight
theorem PresD.ensureHeightRequirement (a b c d) : Pres R (ensureHeightRequirement a b c d) :=
  PresD.of_foot (Footprint.Foot.ensureHeightRequirement a b c d) (by decide)
life_leaf PresD.ensureHeightRequirement
theorem PresD.adjustHeights (oc op fuel) : Pres R (adjustHeights oc op fuel) := PresD.of_foot (Footprint.Foot.adjustHeights oc op fuel) (by decide)
life_leaf PresD.adjustHeights

/-! ### parents, handlers bookkeeping, cutoffs -/
theorem PresD.addParent (a b c) : Pres R (addParent a b c) := PresD.of_foot (Footprint.Foot.addParent a b c) (by decide)
life_leaf PresD.addParent
theorem PresD.removeParent (a b c) : Pres R (removeParent a b c) := PresD.of_foot (Footprint.Foot.removeParent a b c) (by decide)
life_leaf PresD.removeParent
theorem PresD.handleAfterStabilisation (n) : Pres R (handleAfterStabilisation n) :=
  PresD.of_foot (Footprint.Foot.handleAfterStabilisation n) (by decide)
life_leaf PresD.handleAfterStabilisation
theorem PresD.shouldCutoff (env n o v) : Pres R (shouldCutoff env n o v) := PresD.of_foot (Footprint.Foot.shouldCutoff env n o v) (by decide)
life_leaf PresD.shouldCutoff
theorem PresD.markMapRefUnknown (fuel n) : Pres R (markMapRefUnknown fuel n) := PresD.of_foot (Footprint.Foot.markMapRefUnknown fuel n) (by decide)
life_leaf PresD.markMapRefUnknown

/-! ### necessity cascades, invalidation -/
theorem PresD.necessary (env : Env) (fuel : Nat) :
    (∀ n, Pres R (becameNecessary env fuel n)) ∧
    (∀ c i p, Pres R (addParentWithoutAdjustingHeights env fuel c i p)) :=
  ⟨fun n => PresD.of_foot (Footprint.Foot.becameNecessary env fuel n) (by decide),
   fun c i p => PresD.of_foot (Footprint.Foot.addParentWithoutAdjustingHeights env fuel c i p) (by decide)⟩
theorem PresD.becameNecessary (env fuel n) : Pres R (becameNecessary env fuel n) :=
  (PresD.necessary env fuel).1 n
life_leaf PresD.becameNecessary
theorem PresD.addParentWithoutAdjustingHeights (env fuel c i p) :
    Pres R (addParentWithoutAdjustingHeights env fuel c i p) := (PresD.necessary env fuel).2 c i p
life_leaf PresD.addParentWithoutAdjustingHeights

theorem PresD.unnecessary (fuel : Nat) :
    (∀ n, Pres R (becameUnnecessary fuel n)) ∧ (∀ n, Pres R (checkIfUnnecessary fuel n)) ∧
    (∀ n, Pres R (removeChildren fuel n)) :=
  ⟨fun n => PresD.of_foot (Footprint.Foot.becameUnnecessary fuel n) (by decide),
   fun n => PresD.of_foot (Footprint.Foot.checkIfUnnecessary fuel n) (by decide),
   fun n => PresD.of_foot (Footprint.Foot.removeChildren fuel n) (by decide)⟩
theorem PresD.becameUnnecessary (fuel n) : Pres R (becameUnnecessary fuel n) :=
  (PresD.unnecessary fuel).1 n
life_leaf PresD.becameUnnecessary
theorem PresD.checkIfUnnecessary (fuel n) : Pres R (checkIfUnnecessary fuel n) :=
  (PresD.unnecessary fuel).2.1 n
life_leaf PresD.checkIfUnnecessary
theorem PresD.removeChildren (fuel n) : Pres R (removeChildren fuel n) :=
  (PresD.unnecessary fuel).2.2 n
life_leaf PresD.removeChildren

theorem PresD.invalidateNode (fuel n) : Pres R (invalidateNode fuel n) := PresD.of_foot (Footprint.Foot.invalidateNode fuel n) (by decide)
life_leaf PresD.invalidateNode
theorem PresD.propagateInvalidity (fuel) : Pres R (propagateInvalidity fuel) := PresD.of_foot (Footprint.Foot.propagateInvalidity fuel) (by decide)
life_leaf PresD.propagateInvalidity
theorem PresD.becameNecessaryPropagate (env fuel n) :
    Pres R (becameNecessaryPropagate env fuel n) := PresD.of_foot (Footprint.Foot.becameNecessaryPropagate env fuel n) (by decide)
life_leaf PresD.becameNecessaryPropagate
theorem PresD.changeChildBindRhs (env fuel m o nw i) :
    Pres R (changeChildBindRhs env fuel m o nw i) := PresD.of_foot (Footprint.Foot.changeChildBindRhs env fuel m o nw i) (by decide)
life_leaf PresD.changeChildBindRhs

/-! ### expert API -/
theorem PresD.assertRunningIsChild (n name) : Pres R (assertRunningIsChild n name) :=
  PresD.of_foot (Footprint.Foot.assertRunningIsChild n name) (by decide)
life_leaf PresD.assertRunningIsChild
theorem PresD.expertAddDependency (env fuel n c cb) :
    Pres R (expertAddDependency env fuel n c cb) := PresD.of_foot (Footprint.Foot.expertAddDependency env fuel n c cb) (by decide)
life_leaf PresD.expertAddDependency

/-! ### node creation, var writes -/
theorem PresD.elabInstr (loc v i) : Pres R (elabInstr loc v i) := PresD.of_foot (Footprint.Foot.elabInstr loc v i) (by decide)
life_leaf PresD.elabInstr
theorem PresD.elabInstrM (env loc v i) : Pres R (elabInstrM env loc v i) := PresD.of_foot (Footprint.Foot.elabInstrM env loc v i) (by decide)
life_leaf PresD.elabInstrM
theorem PresD.didSetVarWhileNotStabilising (v) : Pres R (didSetVarWhileNotStabilising v) :=
  PresD.of_foot (Footprint.Foot.didSetVarWhileNotStabilising v) (by decide)
life_leaf PresD.didSetVarWhileNotStabilising
theorem PresD.writeVar (v f b) : Pres R (writeVar v f b) := PresD.of_foot (Footprint.Foot.writeVar v f b) (by decide)
life_leaf PresD.writeVar
theorem PresD.dropVarHandle (v) : Pres R (dropVarHandle v) := PresD.of_foot (Footprint.Foot.dropVarHandle v) (by decide)
life_leaf PresD.dropVarHandle
theorem PresD.setMaxHeightAllowed (k) : Pres R (setMaxHeightAllowed k) := PresD.of_foot (Footprint.Foot.setMaxHeightAllowed k) (by decide)
life_leaf PresD.setMaxHeightAllowed

end

end IncrVerif.Proofs.Life
