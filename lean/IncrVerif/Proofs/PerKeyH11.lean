import IncrVerif.Proofs.PerKeyH10
import IncrVerif.Proofs.PerKeyH3
import IncrVerif.Proofs.PerKeyFrame
/-!
# Node creation between two effects keeps `DriverH.Mid`, part 3: template elaboration (MC4)

`elabTemplateBase tm lhsVal [p]` for a template of the fragment (`TemplOK` of `PerKeyH3`), from a state `t` with `Mid E t`:
exactly one static top-level node per instruction is appended, the `j`-th one has the kind
`instrKind t.top (p :: List.range' t.nodes.size j) lhsVal i`, everything else is untouched, `Mid` is kept.
-/
namespace IncrVerif.Proofs.PerKeyH
open IncrVerif.Engine IncrVerif.Driver IncrVerif.Proofs IncrVerif.Proofs.Step IncrVerif.Proofs.Sched
open IncrVerif.Proofs.ExpertH IncrVerif.Proofs.EffH IncrVerif.Proofs.DriverH

/-! ## operands -/

/-- operands of the fragment: locals and outer names -/
def OpndP : Opnd → Prop
  | .outer _ => True
  | .loc _ => True
  | _ => False

theorem OpndOK.p {j : Nat} {o : Opnd} (h : OpndOK j o) : OpndP o := by
  cases o <;> first | trivial | exact h.elim

theorem resolve_inv {loc : List Nat} {o : Opnd} {t t' : State} {c : Nat} (ho : OpndP o)
    (h : (resolveOpnd loc o).run.run t = (.ok c, t')) : t' = t ∧ resP t.top loc o = some c := by
  cases o with
  | outer k =>
    unfold resolveOpnd at h
    simp only at h
    rw [run_bind_get] at h
    cases hm : t.top[k]? with
    | some m =>
      rw [hm] at h
      obtain ⟨e1, e2⟩ := pure_ok_inv h
      rw [e1]; exact ⟨e2, hm⟩
    | none => rw [hm] at h; cases h
  | loc i =>
    unfold resolveOpnd at h
    simp only at h
    cases hm : loc[i]? with
    | some m =>
      rw [hm] at h
      obtain ⟨e1, e2⟩ := pure_ok_inv h
      rw [e1]; exact ⟨e2, hm⟩
    | none => rw [hm] at h; cases h
  | abs _ => exact ho.elim
  | slot _ => exact ho.elim

theorem mapM_resolve_inv {loc : List Nat} {t : State} :
    ∀ (l : List Opnd) (r : List Nat) (t' : State), (∀ a, a ∈ l → OpndP a) →
      (l.mapM (fun o => resolveOpnd loc o)).run.run t = (.ok r, t') →
      t' = t ∧ l.mapM (resP t.top loc) = some r ∧ r.length = l.length ∧
        ∀ c, c ∈ r → ∃ a, a ∈ l ∧ resP t.top loc a = some c := by
  intro l
  induction l with
  | nil =>
    intro r t' _ h
    rw [List.mapM_nil] at h
    obtain ⟨e1, e2⟩ := pure_ok_inv h
    rw [e1]; exact ⟨e2, rfl, rfl, fun c hc => by cases hc⟩
  | cons a l ih =>
    intro r t' hl h
    rw [List.mapM_cons] at h
    obtain ⟨x, t1, h1, h2⟩ := bind_ok_inv h
    obtain ⟨et, hk⟩ := resolve_inv (hl a (List.mem_cons_self ..)) h1
    rw [et] at h2
    obtain ⟨xs, t2, h3, h4⟩ := bind_ok_inv h2
    obtain ⟨et2, hxs, hlen, hmem⟩ := ih xs t2 (fun y hy => hl y (List.mem_cons_of_mem _ hy)) h3
    obtain ⟨e1, e2⟩ := pure_ok_inv h4
    rw [e1, e2]
    refine ⟨et2, ?_, by simp [hlen], fun c hc => ?_⟩
    · rw [List.mapM_cons, hk, hxs]; rfl
    · rcases List.mem_cons.1 hc with e | hc
      · rw [e]; exact ⟨a, List.mem_cons_self .., hk⟩
      · obtain ⟨b, hb, hb2⟩ := hmem c hc
        exact ⟨b, List.mem_cons_of_mem _ hb, hb2⟩

theorem mem_templOuter {tm : Template} {k : Nat}
    (h : Opnd.outer k ∈ tm.ret :: tm.instrs.flatMap instrOpnds) : k ∈ templOuter tm := by
  unfold templOuter
  exact List.mem_filterMap.2 ⟨.outer k, h, rfl⟩

theorem mem_templOuter_instr {tm : Template} {k : Nat} {i : Instr} (hi : i ∈ tm.instrs)
    (h : Opnd.outer k ∈ instrOpnds i) : k ∈ templOuter tm :=
  mem_templOuter (List.mem_cons_of_mem _ (List.mem_flatMap.2 ⟨i, hi, h⟩))

/-! ## one instruction -/

theorem run_some_createNode_top (k : Kind) (t : State) :
    (some <$> createNode k .top).run.run t = (.ok (some t.nodes.size), mkNode k t) := by
  rw [map_eq_pure_bind, run_bind_ok (run_createNode_top k t)]; rfl

/-- one instruction of a template of the fragment, inverted: the run creates one top-level node of kind `instrKind …` -/
theorem elabInstr_shape {E' : Env} {t1 t2 : State} {loc : List Nat} {lhsVal : Val} {i : Instr} {ro : Option Nat}
    (hsc : t1.currentScope = .top) (hi : TInstrOK E' i) (hop : ∀ o, o ∈ instrOpnds i → OpndP o)
    (h : (elabInstr loc lhsVal i).run.run t1 = (.ok ro, t2)) :
    ∃ k, instrKind t1.top loc lhsVal i = some k ∧ ro = some t1.nodes.size ∧ t2 = mkNode k t1 := by
  cases i with
  | const w =>
    unfold elabInstr at h
    rw [run_bind_get] at h
    simp only [hsc] at h
    rw [run_some_createNode_top] at h
    cases h
    exact ⟨.const w, rfl, rfl, rfl⟩
  | lhsConst =>
    unfold elabInstr at h
    rw [run_bind_get] at h
    simp only [hsc] at h
    rw [run_some_createNode_top] at h
    cases h
    exact ⟨.const lhsVal, rfl, rfl, rfl⟩
  | map f args =>
    unfold elabInstr at h
    rw [run_bind_get] at h
    simp only [hsc] at h
    obtain ⟨as, t3, h1, h2⟩ := bind_ok_inv h
    obtain ⟨et, has, -, -⟩ := mapM_resolve_inv args as t3 hop h1
    rw [et, run_some_createNode_top] at h2
    cases h2
    refine ⟨.map f as, ?_, rfl, rfl⟩
    simp only [instrKind, has, Option.map_some]
  | fold f init cs =>
    unfold elabInstr at h
    rw [run_bind_get] at h
    simp only [hsc] at h
    obtain ⟨as, t3, h1, h2⟩ := bind_ok_inv h
    obtain ⟨et, has, hlen, -⟩ := mapM_resolve_inv cs as t3 hop h1
    rw [et] at h2
    have hcs : cs ≠ [] := hi.2
    have hne : as.isEmpty = false := by
      cases as with
      | nil => cases cs with
        | nil => exact absurd rfl hcs
        | cons _ _ => simp at hlen
      | cons _ _ => rfl
    have hne' : cs.isEmpty = false := by
      cases cs with
      | nil => exact absurd rfl hcs
      | cons _ _ => rfl
    rw [hne] at h2
    simp only [Bool.false_eq_true, if_false] at h2
    rw [run_some_createNode_top] at h2
    cases h2
    refine ⟨.fold f init as, ?_, rfl, rfl⟩
    simp only [instrKind, hne', Bool.false_eq_true, if_false, has, Option.map_some]
  | _ => exact hi.elim

/-- **one instruction of a template of the fragment**: one static top-level node, of kind `instrKind …` -/
theorem elabInstr_inv {E E' : Env} {t1 t2 : State} {loc : List Nat} {lhsVal : Val} {i : Instr} {ro : Option Nat}
    (Md : Mid E t1) (hi : TInstrOK E' i)
    (hpure : ∀ f, (∀ vals, E'.fnEff f vals = []) → ∀ vals, E.fnEff f vals = [])
    (hop : ∀ o, o ∈ instrOpnds i → OpndP o)
    (hlt : ∀ o, o ∈ instrOpnds i → ∀ c, resP t1.top loc o = some c → c < t1.nodes.size)
    (h : (elabInstr loc lhsVal i).run.run t1 = (.ok ro, t2)) :
    ∃ k, instrKind t1.top loc lhsVal i = some k ∧ ro = some t1.nodes.size ∧ t2 = mkNode k t1 ∧ Mid E t2 := by
  obtain ⟨k, hk, e1, e2⟩ := elabInstr_shape Md.scope hi hop h
  obtain ⟨-, hnv, hne, -, -⟩ := instrKind_facts hi hk
  refine ⟨k, hk, e1, e2, e2 ▸ mid_mkNode Md ?_ hne hnv fun c hc => ?_⟩
  · rcases instrKind_cases hk with ⟨w, -, rfl⟩ | ⟨-, rfl⟩ | ⟨f, args, as, rfl, -, rfl⟩ | ⟨f, init, cs, as, rfl, -, -, rfl⟩
    · trivial
    · trivial
    · exact ⟨Nat.lt_trans hi.1 (by decide), fun _ => hpure f hi.2⟩
    · exact hi.1
  · obtain ⟨o, ho, hr⟩ := instrKind_kids (xs := #[]) hk (show c ∈ kidsX #[] k by
      cases k <;> first | exact hc | exact absurd rfl (hne _))
    exact hlt o ho c hr

/-! ## the loop -/

/-- the shape of the state after `j` instructions of a template (any state in scope `top`: also the ACTUAL state of a
per-key operator, where `Mid` holds of the twin only) -/
structure TJ (t : State) (p : Nat) (lhsVal : Val) (tm : Template) (j : Nat) (loc : List Nat) (t1 : State) : Prop where
  size : t1.nodes.size = t.nodes.size + j
  loc : loc = p :: List.range' t.nodes.size j
  /-- only `nodes` and `counters` change -/
  rest : ({ t1 with nodes := t.nodes, counters := t.counters } : State) = t
  old : ∀ m, m < t.nodes.size → t1.nodeD m = t.nodeD m
  new : ∀ j' i, j' < j → tm.instrs[j']? = some i →
    ∃ k, instrKind t.top (p :: List.range' t.nodes.size j') lhsVal i = some k ∧
      t1.nodeD (t.nodes.size + j') = { kind := k, createdIn := .top }

namespace TJ
variable {t t1 : State} {p : Nat} {lhsVal : Val} {tm : Template} {j : Nat} {loc : List Nat}

theorem top (L : TJ t p lhsVal tm j loc t1) : t1.top = t.top := by
  have h := congrArg State.top L.rest; exact h
theorem scope (L : TJ t p lhsVal tm j loc t1) : t1.currentScope = t.currentScope := by
  have h := congrArg State.currentScope L.rest; exact h

theorem refl : TJ t p lhsVal tm 0 [p] t :=
  ⟨rfl, rfl, rfl, fun _ _ => rfl, fun _ _ h => absurd h (Nat.not_lt_zero _)⟩

theorem step (L : TJ t p lhsVal tm j loc t1) {E' : Env} (hT : TemplOK E' tm) (hsc : t.currentScope = .top)
    {i : Instr} (hj : tm.instrs[j]? = some i) {ro : Option Nat} {t2 : State}
    (h : (elabInstr loc lhsVal i).run.run t1 = (.ok ro, t2)) :
    ro = some t1.nodes.size ∧ TJ t p lhsVal tm (j + 1) (loc ++ [t1.nodes.size]) t2 := by
  have him : i ∈ tm.instrs := List.mem_of_getElem? hj
  obtain ⟨k, hk, e, et⟩ := elabInstr_shape (L.scope.trans hsc) (hT.instr i him)
    (fun o ho => (hT.opnd j i hj o ho).p) h
  refine ⟨e, ?_⟩
  subst et
  refine ⟨by rw [mkNode_size, L.size]; omega, ?_, L.rest, fun m hm => ?_, fun j' i' hj' hi' => ?_⟩
  · rw [L.loc, L.size, List.range'_1_concat]; rfl
  · rw [mkNode_nodeD_lt k t1 (by rw [L.size]; omega)]; exact L.old m hm
  · by_cases hjj : j' < j
    · obtain ⟨k', h1, h2⟩ := L.new j' i' hjj hi'
      refine ⟨k', h1, ?_⟩
      rw [mkNode_nodeD_lt k t1 (by rw [L.size]; omega)]; exact h2
    · have ej : j' = j := by omega
      subst ej
      rw [hj] at hi'
      cases hi'
      refine ⟨k, ?_, ?_⟩
      · rw [← L.top, ← L.loc]; exact hk
      · rw [← L.size]; exact mkNode_nodeD_new k t1

end TJ

/-- the state `t1` after `j` instructions of the template `tm`, elaborated from `t` with first local `p`
(`loc`: the locals so far) -/
structure TI (E : Env) (t : State) (p : Nat) (lhsVal : Val) (tm : Template) (j : Nat) (loc : List Nat)
    (t1 : State) : Prop where
  mid : Mid E t1
  size : t1.nodes.size = t.nodes.size + j
  loc : loc = p :: List.range' t.nodes.size j
  /-- only `nodes` and `counters` change -/
  rest : ({ t1 with nodes := t.nodes, counters := t.counters } : State) = t
  old : ∀ m, m < t.nodes.size → t1.nodeD m = t.nodeD m
  new : ∀ j' i, j' < j → tm.instrs[j']? = some i →
    ∃ k, instrKind t.top (p :: List.range' t.nodes.size j') lhsVal i = some k ∧
      t1.nodeD (t.nodes.size + j') = { kind := k, createdIn := .top }

namespace TI
variable {E : Env} {t t1 : State} {p : Nat} {lhsVal : Val} {tm : Template} {j : Nat} {loc : List Nat}

theorem experts (L : TI E t p lhsVal tm j loc t1) : t1.experts = t.experts := by
  have h := congrArg State.experts L.rest; exact h
theorem nextDep (L : TI E t p lhsVal tm j loc t1) : t1.nextDep = t.nextDep := by
  have h := congrArg State.nextDep L.rest; exact h
theorem top (L : TI E t p lhsVal tm j loc t1) : t1.top = t.top := by
  have h := congrArg State.top L.rest; exact h
theorem perkeys (L : TI E t p lhsVal tm j loc t1) : t1.perkeys = t.perkeys := by
  have h := congrArg State.perkeys L.rest; exact h
theorem rch (L : TI E t p lhsVal tm j loc t1) : t1.rch = t.rch := by
  have h := congrArg State.rch L.rest; exact h
theorem ahh (L : TI E t p lhsVal tm j loc t1) : t1.ahh = t.ahh := by
  have h := congrArg State.ahh L.rest; exact h
theorem log (L : TI E t p lhsVal tm j loc t1) : t1.log = t.log := by
  have h := congrArg State.log L.rest; exact h
theorem slots (L : TI E t p lhsVal tm j loc t1) : t1.slots = t.slots := by
  have h := congrArg State.slots L.rest; exact h
theorem vars (L : TI E t p lhsVal tm j loc t1) : t1.vars = t.vars := by
  have h := congrArg State.vars L.rest; exact h
theorem eKey (L : TI E t p lhsVal tm j loc t1) : eKey t1 = eKey t := by
  have h := congrArg DriverH.eKey L.rest; exact h

theorem refl (Md : Mid E t) : TI E t p lhsVal tm 0 [p] t :=
  ⟨Md, rfl, rfl, rfl, fun _ _ => rfl, fun _ _ h => absurd h (Nat.not_lt_zero _)⟩

/-- a local is an existing node -/
theorem loc_lt (L : TI E t p lhsVal tm j loc t1) (hp : p < t.nodes.size) {c : Nat} (hc : c ∈ loc) :
    c < t1.nodes.size := by
  rw [L.loc] at hc
  rw [L.size]
  rcases List.mem_cons.1 hc with e | hc
  · omega
  · have := List.mem_range'_1.1 hc; omega

/-- one iteration -/
theorem step (L : TI E t p lhsVal tm j loc t1) {E' : Env} (hT : TemplOK E' tm)
    (hpure : ∀ f, (∀ vals, E'.fnEff f vals = []) → ∀ vals, E.fnEff f vals = [])
    (hout : ∀ k, k ∈ templOuter tm → ∀ o, t.top[k]? = some o → o < t.nodes.size)
    (hp : p < t.nodes.size) {i : Instr} (hj : tm.instrs[j]? = some i) {ro : Option Nat} {t2 : State}
    (h : (elabInstr loc lhsVal i).run.run t1 = (.ok ro, t2)) :
    ro = some t1.nodes.size ∧ TI E t p lhsVal tm (j + 1) (loc ++ [t1.nodes.size]) t2 := by
  have him : i ∈ tm.instrs := List.mem_of_getElem? hj
  have hlt : ∀ o, o ∈ instrOpnds i → ∀ c, resP t1.top loc o = some c → c < t1.nodes.size := by
    intro o ho c hr
    cases o with
    | outer k =>
      have : t1.top[k]? = some c := hr
      rw [L.top] at this
      have := hout k (mem_templOuter_instr him ho) c this
      rw [L.size]; omega
    | loc i' =>
      have : loc[i']? = some c := hr
      exact L.loc_lt hp (List.mem_of_getElem? this)
    | abs _ => cases hr
    | slot _ => cases hr
  obtain ⟨k, -, -, -, M2⟩ := elabInstr_inv L.mid (hT.instr i him) hpure
    (fun o ho => (hT.opnd j i hj o ho).p) hlt h
  have J : TJ t p lhsVal tm j loc t1 := ⟨L.size, L.loc, L.rest, L.old, L.new⟩
  obtain ⟨e, J'⟩ := J.step hT (J.scope.symm.trans L.mid.scope) hj h
  exact ⟨e, M2, J'.size, J'.loc, J'.rest, J'.old, J'.new⟩

end TI

/-- **MC4**: `elabTemplateBase` of a template of the fragment between two effects -/
theorem elabTemplateBase_ti {E E' : Env} {t t' : State} {tm : Template} {lhsVal : Val} {p m : Nat}
    (Md : Mid E t) (hT : TemplOK E' tm)
    (hpure : ∀ f, (∀ vals, E'.fnEff f vals = []) → ∀ vals, E.fnEff f vals = [])
    (hout : ∀ k, k ∈ templOuter tm → ∀ o, t.top[k]? = some o → o < t.nodes.size)
    (hp : p < t.nodes.size)
    (h : (elabTemplateBase tm lhsVal [p]).run.run t = (.ok m, t')) :
    TI E t p lhsVal tm tm.instrs.length (p :: List.range' t.nodes.size tm.instrs.length) t' ∧
      resP t.top (p :: List.range' t.nodes.size tm.instrs.length) tm.ret = some m := by
  unfold elabTemplateBase at h
  obtain ⟨loc, t1, h1, h2⟩ := bind_ok_inv h
  have hloop := forIn_ok_inv _ tm.instrs (fun j loc t1 => TI E t p lhsVal tm j loc t1) ?_ tm.instrs 0 [p] t
    loc t1 rfl (Nat.zero_le _) (TI.refl Md) h1
  · have hloop : TI E t p lhsVal tm tm.instrs.length loc t1 := hloop
    obtain ⟨et, hk⟩ := resolve_inv hT.ret.p h2
    subst et
    rw [hloop.top, hloop.loc] at hk
    rw [← hloop.loc]
    exact ⟨hloop, by rw [hloop.loc]; exact hk⟩
  · intro j a loc0 t0 r t0' hj hL hrun
    have hL : TI E t p lhsVal tm j loc0 t0 := hL
    obtain ⟨ro, t2, h3, h4⟩ := bind_ok_inv hrun
    obtain ⟨e, hL'⟩ := hL.step hT hpure hout hp hj h3
    subst e
    simp only at h4
    obtain ⟨e1, e2⟩ := pure_ok_inv h4
    subst e2
    exact ⟨_, e1, hL'⟩

/-! ## the statement unpacked -/

/-- the fields of a freshly created top-level node -/
theorem fresh_fields {nd : Node} {k : Kind} (h : nd = { kind := k, createdIn := .top }) :
    nd.kind = k ∧ nd.createdIn = .top ∧ nd.cutoff = .eq ∧ nd.valid = true ∧ nd.parents = [] ∧ nd.observers = [] ∧
      nd.forceNecessary = false ∧ nd.height = -1 ∧ nd.heightInRch = -1 ∧ nd.heightInAhh = -1 ∧
      nd.recomputedAt = -1 ∧ nd.changedAt = -1 ∧ nd.value = none ∧ nd.numOnUpdateHandlers = 0 := by
  subst h
  exact ⟨rfl, rfl, rfl, rfl, rfl, rfl, rfl, rfl, rfl, rfl, rfl, rfl, rfl, rfl⟩

/-- **MC4, unpacked** (`locs`: the new nodes, in order) -/
theorem elabTemplateBase_mid {E E' : Env} {t t' : State} {tm : Template} {lhsVal : Val} {p m : Nat}
    (Md : Mid E t) (hT : TemplOK E' tm)
    (hpure : ∀ f, (∀ vals, E'.fnEff f vals = []) → ∀ vals, E.fnEff f vals = [])
    (hout : ∀ k, k ∈ templOuter tm → ∀ o, t.top[k]? = some o → o < t.nodes.size)
    (hp : p < t.nodes.size)
    (h : (elabTemplateBase tm lhsVal [p]).run.run t = (.ok m, t')) :
    let locs := List.range' t.nodes.size tm.instrs.length
    Mid E t' ∧ t'.nodes.size = t.nodes.size + tm.instrs.length ∧
      (∀ j i, tm.instrs[j]? = some i →
        instrKind t.top (p :: locs.take j) lhsVal i = some (t'.nodeD (t.nodes.size + j)).kind ∧
        t'.nodeD (t.nodes.size + j) = { kind := (t'.nodeD (t.nodes.size + j)).kind, createdIn := .top }) ∧
      resP t.top (p :: locs) tm.ret = some m ∧ m < t'.nodes.size ∧
      (∀ n, n < t.nodes.size → t'.nodeD n = t.nodeD n) ∧
      ({ t' with nodes := t.nodes, counters := t.counters } : State) = t ∧
      t'.experts = t.experts ∧ t'.nextDep = t.nextDep ∧ t'.top = t.top ∧ t'.perkeys = t.perkeys ∧
      t'.rch = t.rch ∧ t'.ahh = t.ahh ∧ t'.log = t.log ∧ t'.vars = t.vars ∧ eKey t' = eKey t := by
  intro locs
  obtain ⟨L, hret⟩ := elabTemplateBase_ti Md hT hpure hout hp h
  refine ⟨L.mid, L.size, fun j i hj => ?_, hret, ?_, L.old, L.rest, L.experts, L.nextDep, L.top, L.perkeys,
    L.rch, L.ahh, L.log, L.vars, L.eKey⟩
  · have hlt : j < tm.instrs.length := by
      rcases Nat.lt_or_ge j tm.instrs.length with h | h
      · exact h
      · rw [List.getElem?_eq_none h] at hj; cases hj
    obtain ⟨k, h1, h2⟩ := L.new j i hlt hj
    have ht : locs.take j = List.range' t.nodes.size j := List.take_range'_of_length_ge (Nat.le_of_lt hlt)
    rw [ht, h2]
    exact ⟨h1, rfl⟩
  · have hO := hT.ret
    cases hr : tm.ret with
    | loc i =>
      rw [hr] at hret
      exact L.loc_lt hp (List.mem_of_getElem?
        (show (p :: List.range' t.nodes.size tm.instrs.length)[i]? = some m from hret))
    | outer k =>
      rw [hr] at hret
      have h1 : t.top[k]? = some m := hret
      have := hout k (mem_templOuter (by rw [hr]; exact List.mem_cons_self ..)) m h1
      rw [L.size]; omega
    | abs _ => rw [hr] at hO; exact hO.elim
    | slot _ => rw [hr] at hO; exact hO.elim

/-- **MC4 as an instance**: the new nodes are an instance of the template (`Inst` of `PerKeyH3`) in the new state -/
theorem elabTemplateBase_inst {E E' : Env} {t t' : State} {tm : Template} {key : Int} {p m : Nat}
    (Md : Mid E t) (hT : TemplOK E' tm)
    (hpure : ∀ f, (∀ vals, E'.fnEff f vals = []) → ∀ vals, E.fnEff f vals = [])
    (hout : ∀ k, k ∈ templOuter tm → ∀ o, t.top[k]? = some o → o < t.nodes.size)
    (hp : p < t.nodes.size)
    (h : (elabTemplateBase tm (.int key) [p]).run.run t = (.ok m, t')) :
    Inst t' tm key p (List.range' t.nodes.size tm.instrs.length) m := by
  obtain ⟨-, hsz, hk, hret, -, -, -, -, -, htop, -⟩ := elabTemplateBase_mid Md hT hpure hout hp h
  refine ⟨List.length_range', fun c hc => ?_, fun j i c hj hc => ?_, by rw [htop]; exact hret⟩
  · have := List.mem_range'_1.1 hc; omega
  · have hlt : j < tm.instrs.length := by
      rcases Nat.lt_or_ge j tm.instrs.length with h | h
      · exact h
      · rw [List.getElem?_eq_none h] at hj; cases hj
    rw [List.getElem?_range' hlt] at hc
    cases hc
    rw [htop, Nat.one_mul]
    exact (hk j i hj).1

end IncrVerif.Proofs.PerKeyH
