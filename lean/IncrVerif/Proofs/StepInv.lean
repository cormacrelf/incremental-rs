import IncrVerif.Proofs.History
import IncrVerif.Proofs.VarWrites
import IncrVerif.Engine.Run
/-!
# Runs of the primitives, read backwards and forwards

What a returning run of a primitive (`getObs`, `modObs`, `getVar`, `modNode`, `modify`, `removeParent`, `discard`, `<$>`, a `forIn` loop, …)
says about the state it started in, the runs that return under a simple precondition, and a few facts about `isNecessary`
and lists, the adjust-heights heap and the bucket arrays, the phases of a returning `stabilise` (`stabilise_phases`).  The whole-history proofs of every fragment (`Quiet`, `CutH`, `ExpertH`, `Subs`, `TidyH`, …) take the engine's functions apart
with these.
-/
namespace IncrVerif.Proofs.Step
open IncrVerif.Engine IncrVerif.Proofs

/-! ## lists -/

theorem drop_of_getElem? {α} {l : List α} {j : Nat} {a : α} (h : l[j]? = some a) :
    l.drop j = a :: l.drop (j + 1) := by
  obtain ⟨hlt, e⟩ := List.getElem?_eq_some_iff.1 h
  rw [← e]; exact List.drop_eq_getElem_cons hlt

theorem idxOf?_of_mem {α} [BEq α] [LawfulBEq α] {l : List α} {x : α} (h : x ∈ l) : ∃ k, l.idxOf? x = some k := by
  cases e : l.idxOf? x with
  | some k => exact ⟨k, rfl⟩
  | none => rw [List.idxOf?_eq_none_iff] at e; exact absurd h e

/-! ## arrays -/

theorem lt_of_getElem? {α} {a : Array α} {i : Nat} {x : α} (h : a[i]? = some x) : i < a.size := by
  rcases Nat.lt_or_ge i a.size with h1 | h1
  · exact h1
  · rw [Array.getElem?_eq_none h1] at h; cases h

theorem push_modify_last {α} (xs : Array α) (r : α) (g : α → α) :
    (xs.push r).modify xs.size g = xs.push (g r) := by
  apply Array.ext_getElem?
  intro i
  rw [Array.getElem?_modify, Array.getElem?_push, Array.getElem?_push]
  by_cases h : i = xs.size
  · subst h; simp
  · simp [h, Ne.symm h]

theorem modify_eq_self {α} (b : Array α) (o : Nat) (row : α → α)
    (h : ∀ x, b[o]? = some x → row x = x) : b.modify o row = b := by
  apply Array.ext_getElem?
  intro i
  simp only [Array.getElem?_modify]
  split
  · rename_i hi; subst hi
    cases hx : b[o]? with
    | none => rfl
    | some x => simp [h x hx]
  · rfl

/-! ## necessity and the node array -/

theorem nodeD_default (s : State) (n : Nat) (h : s.nodes.size ≤ n) : s.nodeD n = default := by
  simp [State.nodeD, Array.getElem?_eq_none h]

theorem children_default (s : State) (n : Nat) (h : s.nodes.size ≤ n) : s.children n = [] := by
  unfold State.children
  rw [nodeD_default s n h]
  rfl

theorem nec_lt_size {s : State} {n : Nat} (h : s.isNecessary n = true) : n < s.nodes.size := by
  by_cases hn : n < s.nodes.size
  · exact hn
  · rw [State.isNecessary, nodeD_default s n (by omega)] at h; cases h

theorem mem_parents_lt_size {s : State} {c : Nat} {x : Nat × Nat} (h : x ∈ (s.nodeD c).parents) :
    c < s.nodes.size := by
  by_cases hn : c < s.nodes.size
  · exact hn
  · rw [nodeD_default s c (by omega)] at h; cases h

theorem nec_of_mem_parents {s : State} {c : Nat} {x : Nat × Nat} (h : x ∈ (s.nodeD c).parents) :
    s.isNecessary c = true := by
  simp only [State.isNecessary, Node.isNecessary, Bool.or_eq_true, Bool.not_eq_true',
    List.isEmpty_eq_false_iff]
  exact Or.inl (Or.inl (List.ne_nil_of_mem h))

theorem isNecessary_iff (s : State) (n : Nat) :
    s.isNecessary n = true ↔
      ((s.nodeD n).parents ≠ [] ∨ (s.nodeD n).observers ≠ [] ∨ (s.nodeD n).forceNecessary = true) := by
  simp only [State.isNecessary, Node.isNecessary, Bool.or_eq_true, Bool.not_eq_true',
    List.isEmpty_eq_false_iff, or_assoc]

theorem nec_congr {s s' : State} {m : Nat} (h1 : (s'.nodeD m).parents = (s.nodeD m).parents)
    (h2 : (s'.nodeD m).observers = (s.nodeD m).observers)
    (h3 : (s'.nodeD m).forceNecessary = (s.nodeD m).forceNecessary) :
    s'.isNecessary m = s.isNecessary m := by
  simp only [State.isNecessary, Node.isNecessary, h1, h2, h3]

theorem inRch_of_hir {s s' : State} {m : Nat} (h : (s'.nodeD m).heightInRch = (s.nodeD m).heightInRch) :
    (s'.nodeD m).inRch = (s.nodeD m).inRch := by
  simp only [Node.inRch, h]

theorem parents_nil_of_not_nec {s : State} {c : Nat} (hc : s.isNecessary c = false) :
    (s.nodeD c).parents = [] := by
  cases h : (s.nodeD c).parents with
  | nil => rfl
  | cons a l =>
    have : s.isNecessary c = true := nec_of_mem_parents (x := a) (by rw [h]; exact List.mem_cons_self ..)
    rw [hc] at this; cases this

theorem observers_nil_of_not_nec {s : State} {c : Nat} (hc : s.isNecessary c = false) :
    (s.nodeD c).observers = [] := by
  cases h : (s.nodeD c).observers with
  | nil => rfl
  | cons a l =>
    have : s.isNecessary c = true := (isNecessary_iff s c).2 (Or.inr (Or.inl (by rw [h]; simp)))
    rw [hc] at this; cases this

theorem init_nodeD (N : Nat) (d : Bool) (m : Nat) : (State.init N d).nodeD m = default := by
  simp [State.nodeD, State.init]

theorem nec_of_mem_observers {s : State} {n o : Nat} (h : o ∈ (s.nodeD n).observers) : s.isNecessary n = true :=
  (isNecessary_iff s n).2 (.inr (.inl (List.ne_nil_of_mem h)))

/-- outside `stabilise` an observer in use reads the value of its node -/
theorem tryGetValue_inUse {env : Env} {s : State} {o : Nat} {ob : ObsRec} {v : Val} (ha : s.alive = true)
    (hs : s.status = .notStabilising) (ho : s.observers[o]? = some ob) (hst : ob.state = .inUse)
    (hv : s.value env ob.node = some v) : s.tryGetValue env o = .ok v := by
  unfold State.tryGetValue
  rw [ha, hs, ho]
  simp only [Bool.not_true, Bool.false_eq_true, if_false, hst]
  rw [hv]
  rfl

theorem kind_of_kind? {nd : Node} {k : Kind} (h : nd.kind? = some k) : nd.kind = k := by
  unfold Node.kind? at h; split at h
  · cases h; rfl
  · cases h

/-! ## returning runs, read backwards -/

theorem bind_modNode_inv {β} {n : Nat} {g : Node → Node} {f : Unit → M β} {s s' : State} {r : β}
    (h : (modNode n g >>= f).run.run s = (.ok r, s')) :
    ∃ s1, s1 = { s with nodes := s.nodes.modify n g } ∧ (f ()).run.run s1 = (.ok r, s') := by
  rw [run_bind_modNode] at h; exact ⟨_, rfl, h⟩

theorem bind_modify_inv {β} {g : State → State} {f : Unit → M β} {s s' : State} {r : β}
    (h : (modify g >>= f).run.run s = (.ok r, s')) :
    ∃ s1, s1 = g s ∧ (f ()).run.run s1 = (.ok r, s') := by
  rw [run_bind_modify] at h; exact ⟨_, rfl, h⟩

theorem bind_bumpCounter_inv {β} {g : Counters → Counters} {f : Unit → M β} {s s' : State} {r : β}
    (h : (bumpCounter g >>= f).run.run s = (.ok r, s')) :
    ∃ s1, s1 = { s with counters := g s.counters } ∧ (f ()).run.run s1 = (.ok r, s') := by
  rw [run_bind_bumpCounter] at h; exact ⟨_, rfl, h⟩

theorem run_getObs (o : Nat) (s : State) :
    (getObs o).run.run s = match s.observers[o]? with
      | some x => (.ok x, s)
      | none => (.error (.site "model:no-such-observer"), s) := by
  simp only [getObs, run_bind, run_get]
  cases s.observers[o]? <;> rfl

theorem getObs_ok_inv {o : Nat} {s s' : State} {ob : ObsRec}
    (h : (getObs o).run.run s = (.ok ob, s')) : s' = s ∧ s.observers[o]? = some ob := by
  rw [run_getObs] at h
  cases hn : s.observers[o]? with
  | none => rw [hn] at h; cases h
  | some x => rw [hn] at h; cases h; exact ⟨rfl, rfl⟩

theorem bind_getObs_inv {β} {o : Nat} {f : ObsRec → M β} {s s' : State} {r : β}
    (h : (getObs o >>= f).run.run s = (.ok r, s')) :
    ∃ ob, s.observers[o]? = some ob ∧ (f ob).run.run s = (.ok r, s') := by
  obtain ⟨ob, s1, h1, h2⟩ := bind_ok_inv h
  obtain ⟨e, hob⟩ := getObs_ok_inv h1
  rw [e] at h2
  exact ⟨ob, hob, h2⟩

theorem run_modObs (o : Nat) (f : ObsRec → ObsRec) (s : State) :
    (modObs o f).run.run s = (.ok (), { s with observers := s.observers.modify o f }) := rfl

theorem modObs_ok_inv {o : Nat} {f : ObsRec → ObsRec} {s s' : State} {u : Unit}
    (h : (modObs o f).run.run s = (.ok u, s')) : s' = { s with observers := s.observers.modify o f } := by
  rw [run_modObs] at h; cases h; rfl

theorem bind_modObs_inv {β} {o : Nat} {g : ObsRec → ObsRec} {f : Unit → M β} {s s' : State} {r : β}
    (h : (modObs o g >>= f).run.run s = (.ok r, s')) :
    ∃ s1, s1 = { s with observers := s.observers.modify o g } ∧ (f ()).run.run s1 = (.ok r, s') := by
  obtain ⟨u, s1, h1, h2⟩ := bind_ok_inv h
  exact ⟨s1, modObs_ok_inv h1, h2⟩

theorem getVar_ok_inv {v : Nat} {s s' : State} {vc : VarCell}
    (h : (getVar v).run.run s = (.ok vc, s')) : s' = s :=
  (Hist.getVar_ok h).1

theorem discard_ok_inv {α} {x : M α} {s s' : State} {u : Unit}
    (h : (discard x).run.run s = (.ok u, s')) : ∃ r, x.run.run s = (.ok r, s') :=
  Hist.discard_ok.1 h

theorem map_ok_inv {α β} {f : α → β} {x : M α} {s s' : State} {r : β}
    (h : (f <$> x).run.run s = (.ok r, s')) : ∃ a, x.run.run s = (.ok a, s') ∧ r = f a := by
  rw [map_eq_pure_bind] at h
  obtain ⟨a, s1, h1, h2⟩ := bind_ok_inv h
  obtain ⟨e1, e2⟩ := pure_ok_inv h2
  rw [e2]
  exact ⟨a, h1, e1⟩

theorem isConstant_ok_inv {a : Nat} {s s1 : State} {r : Option Val}
    (h : (isConstant a).run.run s = (.ok r, s1)) : s1 = s := by
  unfold isConstant at h
  obtain ⟨nd, -, h⟩ := bind_getNode_inv h
  split at h <;> exact (pure_ok_inv h).2

theorem removeParent_ok_inv {c idx p : Nat} {s s' : State} {u : Unit}
    (h : (removeParent c idx p).run.run s = (.ok u, s')) :
    ∃ nd pi, s.nodes[c]? = some nd ∧ nd.parents.idxOf? (p, idx) = some pi ∧
      s' = { s with nodes := s.nodes.modify c fun x => { x with parents := swapRemove x.parents pi } } := by
  unfold removeParent at h
  obtain ⟨nd, hnd, h⟩ := bind_getNode_inv h
  cases hi : nd.parents.idxOf? (p, idx) with
  | none => rw [hi] at h; cases h
  | some pi =>
    rw [hi] at h
    simp only [run_modNode] at h
    cases h
    exact ⟨nd, pi, hnd, hi, rfl⟩

/-- nothing to propagate: `propagate_invalidity` returns at once -/
theorem propagateInvalidity_nil_run {s : State} (fuel : Nat) (hp : s.propagateInvalidity = []) :
    (propagateInvalidity (fuel + 1)).run.run s = (.ok (), s) := by
  unfold propagateInvalidity
  rw [run_bind_get, hp]
  rfl

theorem propagateInvalidity_nil {fuel : Nat} {s s' : State} {u : Unit} (hp : s.propagateInvalidity = [])
    (h : (propagateInvalidity fuel).run.run s = (.ok u, s')) : s' = s := by
  cases fuel with
  | zero => unfold propagateInvalidity at h; cases h
  | succ fuel =>
    rw [propagateInvalidity_nil_run fuel hp] at h
    cases h; rfl

theorem runAll_nohandlers {env : Env} {fuel o n : Nat} {nu : NodeUpdate} {now : Int} {s s' : State} {u : Unit}
    (hobs : ∀ (o : Nat) (ob : ObsRec), s.observers[o]? = some ob → ob.handlers = [])
    (h : (runAll env fuel o n nu now).run.run s = (.ok u, s')) : s' = s := by
  unfold runAll at h
  obtain ⟨ob, s1, h1, h⟩ := bind_ok_inv h
  obtain ⟨e1, hob⟩ := getObs_ok_inv h1
  rw [e1] at h
  rw [hobs o ob hob] at h
  try dsimp only at h
  rw [List.forIn_nil] at h
  obtain ⟨_, s2, h2, h⟩ := bind_ok_inv h
  obtain ⟨_, e2⟩ := pure_ok_inv h2
  obtain ⟨_, e3⟩ := pure_ok_inv h
  rw [e3, e2]

theorem step_stabilise {env : Env} {s s' : State} {tokens : Array Nat} {r : String × Array Nat}
    (h : (stepAction env .stabilise tokens).run.run s = (.ok r, s')) :
    (stabilise env fuelDefault).run.run s = (.ok (), s') :=
  (Hist.stepAction_stabilise_ok.1 h).1

/-! ## runs that return -/

theorem map_run_ok {α β} {f : α → β} {x : M α} {s s1 : State} {a : α}
    (h : x.run.run s = (.ok a, s1)) : (f <$> x).run.run s = (.ok (f a), s1) := by
  rw [map_eq_pure_bind, run_bind_ok h, run_pure]

theorem isConstant_run {s : State} {a : Nat} (ha : a < s.nodes.size) :
    ∃ r, (isConstant a).run.run s = (.ok r, s) := by
  unfold isConstant
  rw [run_bind_ok (run_getNode_some (some_of_lt ha))]
  split
  · exact ⟨_, run_pure _ _⟩
  · exact ⟨_, run_pure _ _⟩

theorem run_dassert_true {c : Bool} {site : String} (s : State) (hc : s.cfg.debug = true → c = true) :
    (dassert c site).run.run s = (.ok (), s) := by
  rw [run_dassert, if_neg]
  rintro ⟨hd, h⟩; rw [hc hd] at h; cases h

theorem scopeIsNecessary_top_run (s : State) : (scopeIsNecessary .top).run.run s = (.ok true, s) := rfl

theorem scopeHeight_top_run (s : State) : (scopeHeight .top).run.run s = (.ok 0, s) := rfl

theorem setHeight_ok {n : Nat} {h : Int} {s : State} (hh : h ≤ s.ahh.maxAllowed) :
    ∃ s', (setHeight n h).run.run s = (.ok (), s') := by
  rw [setHeight_run, if_neg (by omega)]
  exact ⟨_, rfl⟩

/-- `setHeight n (-1)` returns -/
theorem setHeight_neg_ok (n : Nat) (s : State) : ∃ s', (setHeight n (-1)).run.run s = (.ok (), s') := by
  rw [setHeight_run, if_neg]
  · exact ⟨_, rfl⟩
  · rintro ⟨-, h⟩
    simp only [Heap.maxAllowed] at h
    omega

theorem removeParent_run {c idx p pi : Nat} {s : State} {nd : Node} (hnd : s.nodes[c]? = some nd)
    (hi : nd.parents.idxOf? (p, idx) = some pi) :
    (removeParent c idx p).run.run s =
      (.ok (), { s with nodes := s.nodes.modify c fun x => { x with parents := swapRemove x.parents pi } }) := by
  unfold removeParent
  rw [run_bind_ok (run_getNode_some hnd), hi]
  rfl

theorem getVar_total {s : State} {v : Nat} (hv : v < s.vars.size) :
    (getVar v).run.run s = (.ok s.vars[v], s) := by
  rw [run_getVar, Array.getElem?_eq_getElem hv]

/-- `handleAfterStabilisation` of an existing node returns -/
theorem has_ok {n : Nat} {s : State} (hn : n < s.nodes.size) :
    ∃ s', (handleAfterStabilisation n).run.run s = (.ok (), s') := by
  unfold handleAfterStabilisation
  simp only [run_bind, run_getNode, some_of_lt hn]
  simp only [run_ite, run_pure, run_bind, run_modNode, run_modify]
  split
  · exact ⟨_, rfl⟩
  · exact ⟨_, rfl⟩

theorem propagateInvalidity_ok {fuel : Nat} {s : State} (hp : s.propagateInvalidity = []) (hf : 1 ≤ fuel) :
    (propagateInvalidity fuel).run.run s = (.ok (), s) := by
  cases fuel with
  | zero => omega
  | succ fuel =>
    unfold propagateInvalidity
    rw [run_bind_get, hp]; rfl

theorem runAll_ret {env : Env} {fuel o n : Nat} {nu : NodeUpdate} {now : Int} {s : State} {ob : ObsRec}
    (ho : s.observers[o]? = some ob) (hh : ob.handlers = []) :
    (runAll env fuel o n nu now).run.run s = (.ok (), s) := by
  have hg : (getObs o).run.run s = (.ok ob, s) := by rw [run_getObs, ho]
  unfold runAll
  rw [run_bind_ok hg, hh]
  dsimp only
  rw [List.forIn_nil]
  rfl

/-- `rchInsert` returns when its preconditions hold -/
theorem rchInsert_run_ok {n : Nat} {s : State} (hn : n < s.nodes.size)
    (hpre : (!(s.nodeD n).inRch && s.needsToBeComputed n) = true)
    (h0 : 0 ≤ (s.nodeD n).height) (hmax : (s.nodeD n).height ≤ s.rch.maxAllowed) :
    (rchInsert n).run.run s = (.ok (), inserted n (s.nodeD n).height s) := by
  rw [rchInsert_run, some_of_lt hn]
  simp only
  rw [if_neg (by rw [hpre]; simp), if_neg (by omega), if_neg (by omega), if_neg (by omega)]

theorem step_stabilise_run {env : Env} {s s' : State} {tk : Array Nat}
    (h : (stabilise env fuelDefault).run.run s = (.ok (), s')) :
    (stepAction env .stabilise tk).run.run s = (.ok ("ok", tk), s') :=
  Hist.stepAction_stabilise_ok.2 ⟨h, rfl⟩

/-! ## loops -/

/-- a `forIn` over a list whose body always yields: an invariant indexed by the number of iterations done -/
theorem forIn_ok_inv {α β} (f : α → β → M (ForInStep β)) (l : List α) (I : Nat → β → State → Prop)
    (hstep : ∀ j a b t r t', l[j]? = some a → I j b t → (f a b).run.run t = (.ok r, t') →
      ∃ b', r = .yield b' ∧ I (j + 1) b' t') :
    ∀ (rest : List α) (j : Nat) (b : β) (s : State) (b' : β) (s' : State), l.drop j = rest →
      j ≤ l.length → I j b s → (forIn rest b f).run.run s = (.ok b', s') → I l.length b' s' := by
  intro rest
  induction rest with
  | nil =>
    intro j b s b' s' hd hle hI h
    rw [List.forIn_nil, run_pure] at h
    cases h
    have : l.length ≤ j := List.drop_eq_nil_iff.1 hd
    have hj : j = l.length := by omega
    subst hj
    exact hI
  | cons a rest ih =>
    intro j b s b' s' hd hle hI h
    rw [List.forIn_cons] at h
    obtain ⟨r, t, h1, h2⟩ := bind_ok_inv h
    have hj : l[j]? = some a := by
      have := congrArg List.head? hd
      simpa [List.head?_drop] using this
    have hlt : j < l.length := by
      rcases Nat.lt_or_ge j l.length with hlt | hge
      · exact hlt
      · rw [List.getElem?_eq_none hge] at hj; cases hj
    obtain ⟨b1, rfl, hI1⟩ := hstep j a b s r t hj hI h1
    have hd' : l.drop (j + 1) = rest := by
      have := congrArg List.tail hd
      simpa [List.tail_drop] using this
    exact ih (j + 1) b1 t b' s' hd' hlt hI1 h2

/-- a loop (with any loop state) keeps a state predicate kept by every successful iteration -/
theorem forIn_ok_keepB {α β} (K : State → Prop) (f : α → β → M (ForInStep β)) (l : List α)
    (hkeep : ∀ a, a ∈ l → ∀ b s r s', K s → (f a b).run.run s = (.ok r, s') → K s') :
    ∀ b s r s', K s → (forIn l b f).run.run s = (.ok r, s') → K s' := by
  induction l with
  | nil => intro b s r s' hk h; rw [List.forIn_nil, run_pure] at h; cases h; exact hk
  | cons a l ih =>
    intro b s r s' hk h
    rw [List.forIn_cons] at h
    obtain ⟨x, s1, hx, hrest⟩ := bind_ok_inv h
    have hk1 := hkeep a (List.mem_cons_self ..) b s x s1 hk hx
    cases x with
    | done b1 => dsimp only at hrest; rw [run_pure] at hrest; cases hrest; exact hk1
    | yield b1 =>
      exact ih (fun a' ha' => hkeep a' (List.mem_cons_of_mem _ ha')) b1 s1 r s' hk1 hrest

/-- forward loop rule: an invariant indexed by the number of iterations done; every iteration returns and yields -/
theorem forIn_tot {α β} (f : α → β → M (ForInStep β)) (l : List α) (I : Nat → β → State → Prop)
    (hstep : ∀ j a b t, l[j]? = some a → I j b t →
      ∃ b' t', (f a b).run.run t = (.ok (.yield b'), t') ∧ I (j + 1) b' t') :
    ∀ (rest : List α) (j : Nat) (b : β) (s : State), l.drop j = rest → j ≤ l.length → I j b s →
      ∃ b' s', (forIn rest b f).run.run s = (.ok b', s') ∧ I l.length b' s' := by
  intro rest
  induction rest with
  | nil =>
    intro j b s hd hle hI
    have : l.length ≤ j := List.drop_eq_nil_iff.1 hd
    have hj : j = l.length := by omega
    rw [hj] at hI
    exact ⟨b, s, by rw [List.forIn_nil, run_pure], hI⟩
  | cons a rest ih =>
    intro j b s hd hle hI
    have hj : l[j]? = some a := by
      have := congrArg List.head? hd
      simpa [List.head?_drop] using this
    have hlt : j < l.length := by
      rcases Nat.lt_or_ge j l.length with hlt | hge
      · exact hlt
      · rw [List.getElem?_eq_none hge] at hj; cases hj
    obtain ⟨b1, t1, h1, hI1⟩ := hstep j a b s hj hI
    have hd' : l.drop (j + 1) = rest := by
      have := congrArg List.tail hd
      simpa [List.tail_drop] using this
    obtain ⟨b2, s2, h2, hI2⟩ := ih (j + 1) b1 t1 hd' hlt hI1
    exact ⟨b2, s2, by rw [List.forIn_cons, run_bind_ok h1]; exact h2, hI2⟩

/-! ## the adjust-heights heap and the bucket arrays -/

theorem nodeD_of_modify {s s' : State} {n : Nat} {f : Node → Node} (hn : s'.nodes = s.nodes.modify n f)
    (m : Nat) : s'.nodeD m = if n = m ∧ m < s.nodes.size then f (s.nodeD m) else s.nodeD m := by
  have := nodeD_modify s n m f
  simp only [State.nodeD] at this ⊢
  rw [hn]; exact this

theorem nodeD_upd {s s' : State} {n : Nat} {f : Node → Node} (hn : s'.nodes = s.nodes.modify n f)
    (hlt : n < s.nodes.size) (m : Nat) : s'.nodeD m = if m = n then f (s.nodeD n) else s.nodeD m := by
  rw [nodeD_of_modify hn]
  by_cases e : m = n
  · subst e; rw [if_pos ⟨rfl, hlt⟩, if_pos rfl]
  · rw [if_neg (fun h => e h.1.symm), if_neg e]

theorem ahhAdded_nodeD {p : Nat} {x : Int} {s : State} (hp : p < s.nodes.size) (m : Nat) :
    (ahhAdded p x s).nodeD m = if m = p then { s.nodeD p with heightInAhh := x } else s.nodeD m :=
  nodeD_upd (s := s) (f := fun y => { y with heightInAhh := x }) rfl hp m

theorem rchUnlink_ok_inv {n : Nat} {s s' : State} {u : Unit} (h : (rchUnlink n).run.run s = (.ok u, s')) :
    ∃ Q, Q.size = s.rch.queues.size ∧ s' = { s with rch := { s.rch with queues := Q } } := by
  unfold rchUnlink at h
  obtain ⟨nd, hnd, h⟩ := bind_getNode_inv h
  rw [run_bind_get] at h
  dsimp only at h
  cases hq : s.rch.queues[nd.heightInRch.toNat]? with
  | none => rw [hq] at h; dsimp only at h; rw [run_panic] at h; cases h
  | some q =>
    rw [hq] at h; dsimp only at h
    by_cases hneg : nd.heightInRch < 0
    · rw [if_pos hneg, run_bind, run_panic] at h; cases h
    · rw [if_neg hneg] at h
      cases hi : q.idxOf? n with
      | none => rw [hi] at h; dsimp only at h; rw [run_panic] at h; cases h
      | some idx =>
        rw [hi] at h; dsimp only at h; rw [run_modify] at h
        cases h
        exact ⟨_, by simp, rfl⟩

/-- `ensureHeightRequirement c p` returns: both nodes necessary, `p` is not the original child, `p` can join the adjust-heights heap, `c.height + 1` is within the limit -/
theorem ehr_tot {oc op c p : Nat} {s : State} (hc : c < s.nodes.size) (hp : p < s.nodes.size)
    (hnc : s.isNecessary c = true) (hnp : s.isNecessary p = true) (hpo : p ≠ oc)
    (hlb : s.ahh.lowerBound ≤ (s.nodeD p).height) (h0 : 0 ≤ (s.nodeD p).height)
    (hmax : (s.nodeD c).height + 1 ≤ s.ahh.maxAllowed) :
    ∃ s', (ensureHeightRequirement oc op c p).run.run s = (.ok (), s') := by
  rw [ensureHeightRequirement_run oc op c p s _ _ (some_of_lt hc) (some_of_lt hp)]
  rw [if_neg (by rintro ⟨-, h⟩; rw [hnc] at h; cases h), if_neg (by rintro ⟨-, h⟩; rw [hnp] at h; cases h),
    if_neg (by simpa using hpo)]
  by_cases hge : (s.nodeD c).height ≥ (s.nodeD p).height
  · rw [if_pos hge, ahhAddUnlessMem_run p s _ (some_of_lt hp)]
    by_cases hm : ((s.nodeD p).heightInAhh == -1) = false
    · rw [if_pos hm]
      dsimp only
      rw [setHeight_run, if_neg (by rintro ⟨-, h⟩; omega)]
      exact ⟨_, rfl⟩
    · have hsz : (s.nodeD p).height.toNat < s.ahh.queues.size := by
        simp only [Heap.maxAllowed] at hmax
        omega
      rw [if_neg hm, if_neg (by rintro ⟨-, h⟩; simp at h; omega),
        if_neg (by rintro ⟨-, h⟩; simp at h; omega),
        if_neg (by simp; omega)]
      dsimp only
      have e : (ahhAdded p (s.nodeD p).height s).ahh.maxAllowed = s.ahh.maxAllowed := by
        simp [ahhAdded, Heap.maxAllowed]
      rw [setHeight_run, if_neg (by rintro ⟨-, h⟩; rw [e] at h; omega)]
      exact ⟨_, rfl⟩
  · rw [if_neg hge]
    exact ⟨_, rfl⟩

theorem getBind_ok_inv {b : Nat} {s s' : State} {br : BindRec}
    (h : (getBind b).run.run s = (.ok br, s')) : s' = s ∧ s.binds[b]? = some br := by
  unfold getBind at h
  rw [run_bind_get] at h
  cases hb : s.binds[b]? with
  | none => rw [hb] at h; dsimp only at h; rw [run_panic] at h; cases h
  | some x =>
    rw [hb] at h; dsimp only at h
    obtain ⟨e1, e2⟩ := pure_ok_inv h
    exact ⟨e2, by rw [e1]⟩

/-- the tail of one iteration of `adjustHeightsLoop`, after the popped node has been re-bucketed -/
def loopTail (oc op c fuel : Nat) : M Unit := do
  for (p, _) in (← getNode c).parents do
    ensureHeightRequirement oc op c p
  match (← getNode c).kind? with
  | some (.bindLhsChange b) =>
    for r in (← getBind b).allNodesCreatedOnRhs do
      if (← get).isNecessary r then ensureHeightRequirement oc op c r
  | _ => pure ()
  adjustHeightsLoop oc op fuel

/-- the state after a successful `rchIncreaseHeight n` (new height `x`, new bucket vector `Q`) -/
def rebucketed (n : Nat) (x : Int) (Q : Array (List Nat)) (s : State) : State :=
  { s with nodes := s.nodes.modify n fun y => { y with heightInRch := x },
           rch := { s.rch with queues := Q } }

theorem rchIncreaseHeight_ok_inv {n : Nat} {s s' : State} {u : Unit}
    (h : (rchIncreaseHeight n).run.run s = (.ok u, s')) :
    ∃ Q, n < s.nodes.size ∧ 0 ≤ (s.nodeD n).height ∧ (s.nodeD n).height ≤ s.rch.maxAllowed ∧
      Q.size = s.rch.queues.size ∧ s' = rebucketed n (s.nodeD n).height Q s := by
  unfold rchIncreaseHeight at h
  obtain ⟨nd, hnd, h⟩ := bind_getNode_inv h
  rw [run_bind_get] at h
  replace h := bind_dassert_inv h
  replace h := bind_dassert_inv h
  replace h := bind_dassert_inv h
  obtain ⟨_, s1, h1, h2⟩ := bind_ok_inv h
  obtain ⟨Q, hQ, e1⟩ := rchUnlink_ok_inv h1
  have hnd1 : s1.nodes[n]? = some nd := by rw [e1]; exact hnd
  rw [rchLink_run, hnd1] at h2
  dsimp only at h2
  have e : s.nodeD n = nd := nodeD_of_some hnd
  split at h2
  · cases h2
  · split at h2
    · cases h2
    · rename_i h0 hmax
      cases h2
      refine ⟨s1.rch.queues.modify nd.height.toNat (· ++ [n]), lt_of_some hnd, by rw [e]; omega, ?_, ?_, ?_⟩
      · rw [e]
        have : s1.rch.maxAllowed = s.rch.maxAllowed := by rw [e1]; simp only [Heap.maxAllowed, hQ]
        omega
      · rw [Array.size_modify, e1]; exact hQ
      · rw [e, e1]; rfl

/-! ## staleness -/

/-- a node that does not exist reads as stale -/
theorem isStale_default (s : State) (n : Nat) (h : s.nodes.size ≤ n) : s.isStale n = true := by
  unfold State.isStale
  rw [nodeD_default s n h]
  rfl

/-- a valid node one of whose children changed after the node last ran is stale -/
theorem isStale_of_child {s : State} {m c : Nat} (hv : (s.nodeD m).valid = true) (hc : c ∈ s.children m)
    (h : (s.nodeD c).changedAt > (s.nodeD m).recomputedAt) : s.isStale m = true := by
  have hany : ((s.children m).any fun c => decide ((s.nodeD c).changedAt > (s.nodeD m).recomputedAt)) = true := by
    rw [List.any_eq_true]
    exact ⟨c, hc, by simpa using h⟩
  have hch : s.children m ≠ [] := List.ne_nil_of_mem hc
  unfold State.isStale
  simp only [hany, Node.kind?, hv, if_true, Bool.or_true]
  cases hkd : (s.nodeD m).kind <;> try rfl
  all_goals (exfalso; apply hch; unfold State.children Node.kind?; rw [hv, hkd]; rfl)

/-- `isStale` reads kinds, validity, the two stamps, the variables, the children and the expert records -/
theorem isStale_congr_fields {s s' : State}
    (hn : ∀ m, (s'.nodeD m).kind = (s.nodeD m).kind ∧ (s'.nodeD m).valid = (s.nodeD m).valid ∧
      (s'.nodeD m).recomputedAt = (s.nodeD m).recomputedAt ∧ (s'.nodeD m).changedAt = (s.nodeD m).changedAt)
    (hx : s'.experts = s.experts) (hv : s'.vars = s.vars) (m : Nat) (hch : s'.children m = s.children m) :
    s'.isStale m = s.isStale m := by
  have hfun : (fun c => decide ((s'.nodeD c).changedAt > (s.nodeD m).recomputedAt)) =
      fun c => decide ((s.nodeD c).changedAt > (s.nodeD m).recomputedAt) :=
    funext fun c => by rw [(hn c).2.2.2]
  unfold State.isStale Node.kind?
  simp only [hch, (hn m).1, (hn m).2.1, (hn m).2.2.1, hx, hv, hfun]

/-! ## `stabilise` -/

/-- a returning `stabilise` is its five phases -/
theorem stabilise_phases {env : Env} {fuel : Nat} {s s' : State} :
    (stabilise env fuel).run.run s = (.ok (), s') ↔
    ∃ t1 t2 t3, s.status = .notStabilising ∧
      (addNewObservers env fuel).run.run { s with status := .stabilising } = (.ok (), t1) ∧
      (unlinkDisallowedObservers fuel).run.run t1 = (.ok (), t2) ∧
      (drainHeap env fuel).run.run t2 = (.ok (), t3) ∧
      (stabiliseEnd env fuel).run.run t3 = (.ok (), s') := by
  unfold stabilise
  rw [run_bind_get]
  constructor
  · intro h
    obtain ⟨_, sa, ha, h⟩ := bind_ok_inv h
    rw [run_assertM] at ha
    split at ha
    · rename_i hst
      cases ha
      rw [run_bind_modify] at h
      obtain ⟨_, t1, h1, h⟩ := bind_ok_inv h
      obtain ⟨_, t2, h2, h⟩ := bind_ok_inv h
      obtain ⟨_, t3, h3, h4⟩ := bind_ok_inv h
      exact ⟨t1, t2, t3, by simpa using hst, h1, h2, h3, h4⟩
    · cases ha
  · rintro ⟨t1, t2, t3, hst, h1, h2, h3, h4⟩
    have ha : (assertM (s.status == Status.notStabilising) "state:stabilise:status").run.run s = (.ok (), s) := by
      rw [run_assertM, hst]; rfl
    rw [run_bind_ok ha, run_bind_modify, run_bind_ok h1, run_bind_ok h2, run_bind_ok h3]
    exact h4

end IncrVerif.Proofs.Step
