import IncrVerif.Proofs.LeakH12
/-!
# C12 over histories, part 13: the final `stabilise` returns

`stabilise_total_q` (`Proofs/Quiet24.lean`) for a state whose STRIPPED form satisfies `QInv` and `TInv`
(dead variables, dropped handles allowed).
-/
namespace IncrVerif.Proofs.LeakH
open IncrVerif.Engine IncrVerif.Driver IncrVerif.Proofs IncrVerif.Proofs.Step IncrVerif.Proofs.Sched
open IncrVerif.Proofs.Quiet

theorem stabilise_total_strip {env : Env} {N fuel : Nat} {s : State} (Q : QInv env (strip s))
    (T : TInv N (strip s)) (hf : 3 * s.nodes.size + 4 ≤ fuel) :
    ∃ s', (stabilise env fuel).run.run s = (.ok (), s') := by
  obtain ⟨s0, hs0⟩ : ∃ s0 : State, s0 = { s with status := .stabilising } := ⟨_, rfl⟩
  have hv : VEq (strip s).vars s.vars := veq_strip s.vars
  have hnd0 : ∀ m, s0.nodeD m = (strip s).nodeD m := fun m => by rw [hs0]; rfl
  have hsz0 : s0.nodes.size = (strip s).nodes.size := by rw [hs0]; rfl
  have hsz0' : s0.nodes.size = s.nodes.size := by rw [hs0]
  have hvars0 : s0.vars = s.vars := by rw [hs0]
  have hv0 : VEq (strip s).vars s0.vars := by rw [hvars0]; exact hv
  have hstab0 : s0.stabNum = (strip s).stabNum := by rw [hs0]; rfl
  have S0s : Struct env s0 := by
    rw [hs0]
    exact (ginv_vars Q.struct hv).congr (SameG.of_nodes rfl rfl rfl rfl rfl)
  have S0 : SInv env s0 s0.newObservers s0.disallowedObservers := by
    refine ⟨S0s, ?_, ?_, ?_⟩
    · rw [hs0]
      exact ⟨Q.obs.inRange, Q.obs.mem, Q.obs.created, Q.obs.newIn, Q.obs.dis, Q.obs.disIn, Q.obs.disNodup⟩
    · rw [hs0]; exact Q.pinv
    · intro m; rw [hnd0]; exact Q.handlers m
  have hb0 : HBo s0 allClosed := by
    intro m hm ho
    rw [hnd0]; exact T.hb m (by rw [State.isNecessary, ← hnd0]; exact hm) ho
  have R0 : Room N s0 := by rw [hs0]; exact ⟨T.room.ahh, T.room.rch, T.room.size⟩
  -- the two loops
  have hf1 : 2 * s0.nodes.size + 2 ≤ fuel := by rw [hsz0']; omega
  obtain ⟨_, t1, h1, hb1⟩ := addNewObservers_total (fuel := fuel) (env := env) S0 hb0 R0
    (by rw [hs0]; exact T.newNodup) (by rw [hs0]; exact T.newState) hf1
  obtain ⟨S1, hn1, hd1, F1, O1, N1⟩ := addNewObservers_s S0 h1
  have hf2 : 3 * t1.nodes.size + 3 ≤ fuel := by rw [F1.size, hsz0']; omega
  obtain ⟨_, t2, h2, hb2⟩ := unlinkDisallowedObservers_total (fuel := fuel) S1 hn1 hb1 hf2
  obtain ⟨S2, hn2, hd2, F2, O2⟩ := unlinkDisallowedObservers_s S1 hn1 h2
  have F : PFrame s0 t2 := F1.trans F2
  have R2 : Room N t2 := R0.of_pframe F
  have V0 : VarsOK s0 := varsOK_veq hsz0 hnd0 hv0 Q.vars
  have V2 : VarsOK t2 := F.varsOK V0
  have st2 : ∀ m, (t2.nodeD m).recomputedAt < t2.stabNum ∧ (t2.nodeD m).changedAt < t2.stabNum := by
    intro m
    rw [F.recomputedAt, F.changedAt, F.stabNum, hstab0, hnd0]; exact Q.stamps m
  have cons2 : ∀ m, m < t2.nodes.size → staleOf t2 m = false → Consistent env t2 m := by
    intro m hm hs
    rw [F.staleOf, staleOf_veq hnd0 hv0] at hs
    have hc := Q.cons m (by rw [← hsz0, ← F.size]; exact hm) hs
    exact F.consistent (consistent_veq hnd0 hv0 hc)
  have D2 : DrainInv env t2 :=
    drainInv_of S2.struct V2 (by rw [F.stabNum, hstab0]; exact Q.now) st2
      (fun c vc hc => by
        rw [F.vars] at hc
        obtain ⟨vc0, h0, -, -, e⟩ := hv0.get_some hc
        rw [F.stabNum, hstab0, ← e]; exact Q.varStamp c vc0 h0) cons2
  -- the drain
  have Sf : Safe t2 := by
    refine ⟨fun n hn => ?_, fun n hn => (GInv.node S2.struct (nec_lt_size hn)).top⟩
    have h1 := hb2 n hn rfl
    have h2 := nec_lt_size hn
    have h3 := R2.size
    rw [R2.rch]; omega
  have hf3 : t2.nodes.size + 2 ≤ fuel := by rw [F.size, hsz0']; omega
  obtain ⟨t3, h3, D3, he3, f3, -⟩ := drainHeap_total_values D2 Sf hf3
  have c3 := drainHeap_calm fuel t2 t3 D2 h3
  have k3 := drainHeap_keyD D2 h3
  simp only [stateKeyD, Prod.mk.injEq] at k3
  obtain ⟨k_obs, -, -, k_top, -, -, -, -, -, -, k_ahh⟩ := k3
  -- the end
  have hnum2 : ∀ m, (t2.nodeD m).numOnUpdateHandlers ≤ 0 := S2.handlers
  have hhas0 : HasRange s0 := by
    intro n hn; rw [hs0] at hn
    have : s.handleAfterStab = [] := Q.handleAfterStab
    rw [show ({ s with status := Status.stabilising } : State).handleAfterStab = s.handleAfterStab from rfl,
      this] at hn
    cases hn
  have hhas2 : HasRange t2 :=
    unlinkDisallowedObservers_hasRange h2 (addNewObservers_hasRange h1 hhas0)
  have hhas3 : HasRange t3 := by
    intro n hn
    rw [c3.has hnum2] at hn
    rw [f3.size]; exact hhas2 n hn
  obtain ⟨_, s', h4, -⟩ := CutH.stabiliseEnd_total_dead (env := env) (fuel := fuel) (s := t3)
    (by rw [c3.setDuringStab, F.setDuringStab, hs0]; exact Q.setDuringStab)
    (by intro o ob ho; rw [k_obs] at ho; exact (S2.obs.inRange o ob ho).2)
    hhas3
    (by
      intro n o ho
      rw [(f3.shape n).observers] at ho
      obtain ⟨ob, hob, -⟩ := (S2.obs.mem n o).1 ho
      rw [k_obs]
      exact (Array.getElem?_eq_some_iff.1 hob).1)
  -- the run
  exact ⟨s', stabilise_phases.2 ⟨t1, t2, t3, Q.status, by rw [← hs0]; exact h1, h2, h3, h4⟩⟩

end IncrVerif.Proofs.LeakH
