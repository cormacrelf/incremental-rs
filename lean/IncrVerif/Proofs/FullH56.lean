import IncrVerif.Proofs.FullH55
import IncrVerif.Proofs.Footprint
/-!
# C01 full fragment: the `didChange` invariant through a run of a change detector, part 3
(frames for the light steps of `lhsRelink`: `HF` — only heights and heap marks change, as under every primitive write that creates no node and
writes no `hfKey` field (`HF.of_edit`) —, `SHk` — what the invariant reads is constant, except that necessity shrinks and flags go up)
-/
namespace IncrVerif.Proofs.FullH
open IncrVerif.Engine IncrVerif.Proofs IncrVerif.Proofs.Step IncrVerif.Proofs.Sched IncrVerif.Proofs.Quiet
open IncrVerif.Proofs.MapRefH (IsMapRef isMapRef_iff not_isMapRef_iff FM)
open IncrVerif.Proofs.Footprint

namespace KL

/-! ## `SHk` -/

/-- what the `didChange` invariant reads is constant, except that necessity shrinks and flags go up -/
structure SHk (s s' : State) : Prop where
  size : s'.nodes.size = s.nodes.size
  kind : ∀ m, (s'.nodeD m).kind = (s.nodeD m).kind
  valid : ∀ m, (s'.nodeD m).valid = (s.nodeD m).valid
  value : ∀ m, (s'.nodeD m).value = (s.nodeD m).value
  flag : ∀ m, (s'.nodeD m).didChange = false → (s.nodeD m).didChange = false
  nec : ∀ m, s'.isNecessary m = true → s.isNecessary m = true

theorem SHk.refl (s : State) : SHk s s := ⟨rfl, fun _ => rfl, fun _ => rfl, fun _ => rfl, fun _ h => h, fun _ h => h⟩
theorem SHk.trans {a b c : State} (h1 : SHk a b) (h2 : SHk b c) : SHk a c :=
  ⟨h2.size.trans h1.size, fun m => (h2.kind m).trans (h1.kind m), fun m => (h2.valid m).trans (h1.valid m),
    fun m => (h2.value m).trans (h1.value m), fun m h => h1.flag m (h2.flag m h), fun m h => h1.nec m (h2.nec m h)⟩

theorem SHk.value_eq {s s' : State} (h : SHk s s') (env : Env) (m : Nat) : s'.value env m = s.value env m :=
  value_congr env s s' h.size (fun k => by simp only [valueCore, h.kind, h.valid, h.value]) m

theorem KInv.of_shk {env : Env} {g : Nat → Option Val} {s s' : State} (K : KInv env g s) (h : SHk s s') :
    KInv env g s' := by
  intro m p i hv hn hk hd
  rw [h.valid] at hv; rw [h.kind] at hk; rw [h.value_eq]
  exact K m p i hv (h.nec m hn) hk (h.flag m hd)

theorem SHk.of_sh {s s' : State} (h : MapRefH.SH s s') : SHk s s' :=
  ⟨h.vf.size, h.vf.kind, h.vf.valid, h.vf.value, fun m hd => by rw [← h.flag]; exact hd, fun _ hm => h.nec hm⟩

/-! ## `HF`: only heights and heap marks change -/

def hfKey (nd : Node) := (nd.kind, nd.valid, nd.value, nd.didChange, nd.parents, nd.observers, nd.forceNecessary)

structure HF (s s' : State) : Prop where
  size : s'.nodes.size = s.nodes.size
  node : ∀ m, hfKey (s'.nodeD m) = hfKey (s.nodeD m)
  pinv : s'.propagateInvalidity = s.propagateInvalidity

instance : Step.PreOrd HF :=
  ⟨fun _ => ⟨rfl, fun _ => rfl, rfl⟩,
   fun h1 h2 => ⟨h2.size.trans h1.size, fun m => (h2.node m).trans (h1.node m), h2.pinv.trans h1.pinv⟩⟩

theorem HF.of_nodes {s s' : State} (h1 : s'.nodes = s.nodes) (h2 : s'.propagateInvalidity = s.propagateInvalidity) :
    HF s s' := by
  have : ∀ m, s'.nodeD m = s.nodeD m := fun m => by simp [State.nodeD, h1]
  exact ⟨by rw [h1], fun m => by rw [this], h2⟩

theorem HF.modNode (s : State) (n : Nat) (f : Node → Node) (hf : ∀ x, hfKey (f x) = hfKey x) :
    HF s { s with nodes := s.nodes.modify n f } := by
  refine ⟨by simp, fun m => ?_, rfl⟩
  rw [nodeD_modify]; split
  · exact hf _
  · rfl

/-- the writes that keep `HF` are all but those of an `hfKey` field and of `propagateInvalidity`, and node creation -/
theorem HF.of_edit {L w}
    (hL : ∀ t ∈ L, t ∉ [Tag.nParents, .nForceNecessary, .nDidChange, .nObservers, .nInvalid, .vClear, .vClearRef, .vStore, .vStoreOld,
      .erase, .pushNode, .propagateInvalidity]) {s s' : State} (e : Edit L w s s') : HF s s' := by
  cases e
  case node n f hf => exact HF.modNode s n f fun x => by cases hf <;> first | rfl | exact absurd (hL _ ‹_›) (by decide)
  case value n hn f hf => cases hf <;> exact absurd (hL _ ‹_›) (by decide)
  case stamp n _ => exact HF.modNode s n _ fun _ => rfl
  case erase | pushNode | propagateInvalidity => exact absurd (hL _ ‹_›) (by decide)
  all_goals exact HF.of_nodes rfl rfl

theorem PresHF.setHeight (n h) : Step.Pres HF (Engine.setHeight n h) := (Foot.setHeight n h).frame (HF.of_edit (by decide))
theorem PresHF.ensureHeightRequirement (a b c d) : Step.Pres HF (Engine.ensureHeightRequirement a b c d) :=
  (Foot.ensureHeightRequirement a b c d).frame (HF.of_edit (by decide))
theorem PresHF.adjustHeights (oc op fuel) : Step.Pres HF (Engine.adjustHeights oc op fuel) :=
  (Foot.adjustHeights oc op fuel).frame (HF.of_edit (by decide))

theorem HF.nec {s s' : State} (h : HF s s') (m : Nat) : s'.isNecessary m = s.isNecessary m := by
  have e := h.node m
  simp only [hfKey, Prod.mk.injEq] at e
  exact nec_congr e.2.2.2.2.1 e.2.2.2.2.2.1 e.2.2.2.2.2.2

theorem SHk.of_hf {s s' : State} (h : HF s s') : SHk s s' := by
  have e := fun m => h.node m
  simp only [hfKey, Prod.mk.injEq] at e
  exact ⟨h.size, fun m => (e m).1, fun m => (e m).2.1, fun m => (e m).2.2.1,
    fun m hd => by rw [← (e m).2.2.2.1]; exact hd, fun m hm => by rw [← h.nec m]; exact hm⟩

end KL
end IncrVerif.Proofs.FullH
