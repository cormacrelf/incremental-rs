import IncrVerif.Proofs.LeakH2
import IncrVerif.Proofs.Life5
/-!
# C12 over histories, part 3: what one `stabilise` leaves of the ownership roots

`stabilise_q` (`Proofs/Quiet16.lean`) with dead variables allowed: from the quiescent invariant of `strip s`,
a `stabilise` that returns keeps the program's handles and the shared cells, applies `break_rc_cycle` to the
dead variables, empties the recompute heap, keeps every observer's clone count and moves its lifecycle state by
`stabilisedState`.
-/
namespace IncrVerif.Proofs.LeakH
open IncrVerif.Engine IncrVerif.Driver IncrVerif.Proofs IncrVerif.Proofs.Step IncrVerif.Proofs.Sched
open IncrVerif.Proofs.Quiet

theorem flatten_of_bucketSum_zero (q : Array (List Nat)) (h : bucketSum q = 0) : q.toList.flatten = [] := by
  rw [List.flatten_eq_nil_iff]
  intro x hx
  obtain ⟨i, hi, e⟩ := List.getElem_of_mem hx
  have hi' : i < q.size := by simpa using hi
  have := bucketSum_zero_mem q h i hi'
  rw [← e]
  simpa using this

/-- what a `stabilise` leaves of the fields read by `State.roots` -/
structure Freed (s s' : State) : Prop where
  handles : s'.handles = s.handles
  slots : s'.slots = s.slots
  vars : s'.vars = killVars s.deadVars s.vars
  heap : s'.rch.queues.toList.flatten = []
  obsSize : s'.observers.size = s.observers.size
  obs : ∀ (o : Nat) (ob : ObsRec), s.observers[o]? = some ob →
    ∃ ob', s'.observers[o]? = some ob' ∧ ob'.node = ob.node ∧ ob'.clones = ob.clones ∧
      ob'.state = stabilisedState ob.state

theorem stabilise_freed {env : Env} {fuel : Nat} {s s' : State} (Q : QInv env (strip s))
    (h : (stabilise env fuel).run.run s = (.ok (), s')) : Freed s s' := by
  have hspec := IncrVerif.Proofs.Life.stabilise_spec env fuel s s' h
  obtain ⟨t1, t2, t3, -, h1, h2, h3, h4⟩ := stabilise_phases.1 h
  obtain ⟨s0, hs0⟩ : ∃ s0 : State, s0 = { s with status := .stabilising } := ⟨_, rfl⟩
  rw [← hs0] at h1
  have hv : VEq (strip s).vars s.vars := veq_strip s.vars
  have hnd0 : ∀ m, s0.nodeD m = (strip s).nodeD m := fun m => by rw [hs0]; rfl
  have hsz0 : s0.nodes.size = (strip s).nodes.size := by rw [hs0]; rfl
  have hvars0 : s0.vars = s.vars := by rw [hs0]
  have hv0 : VEq (strip s).vars s0.vars := by rw [hvars0]; exact hv
  have hstab0 : s0.stabNum = (strip s).stabNum := by rw [hs0]; rfl
  have S0s : Struct env s0 := by
    rw [hs0]
    exact (ginv_vars Q.struct hv).congr (SameG.of_nodes rfl rfl rfl rfl rfl)
  have S0 : SInv env s0 s0.newObservers s0.disallowedObservers := by
    refine ⟨S0s, ?_, ?_, ?_⟩
    · rw [hs0]
      exact ⟨Q.obs.inRange, Q.obs.mem, Q.obs.created, Q.obs.newIn, Q.obs.dis, Q.obs.disIn, Q.obs.disNodup⟩
    · rw [hs0]; exact Q.pinv
    · intro m; rw [hnd0]; exact Q.handlers m
  -- the prefix
  obtain ⟨S1, hn1, hd1, F1, O1, N1⟩ := addNewObservers_s S0 h1
  obtain ⟨S2, hn2, hd2, F2, O2⟩ := unlinkDisallowedObservers_s S1 hn1 h2
  have F : PFrame s0 t2 := F1.trans F2
  have V0 : VarsOK s0 := varsOK_veq hsz0 hnd0 hv0 Q.vars
  have V2 : VarsOK t2 := F.varsOK V0
  have st2 : ∀ m, (t2.nodeD m).recomputedAt < t2.stabNum ∧ (t2.nodeD m).changedAt < t2.stabNum := by
    intro m
    rw [F.recomputedAt, F.changedAt, F.stabNum, hstab0, hnd0]; exact Q.stamps m
  have cons2 : ∀ m, m < t2.nodes.size → staleOf t2 m = false → Consistent env t2 m := by
    intro m hm hs
    rw [F.staleOf, staleOf_veq hnd0 hv0] at hs
    have hc := Q.cons m (by rw [← hsz0, ← F.size]; exact hm) hs
    exact F.consistent (consistent_veq hnd0 hv0 hc)
  have D2 : DrainInv env t2 :=
    drainInv_of S2.struct V2 (by rw [F.stabNum, hstab0]; exact Q.now) st2
      (fun c vc hc => by
        rw [F.vars] at hc
        obtain ⟨vc0, h0, -, -, e⟩ := hv0.get_some hc
        rw [F.stabNum, hstab0, ← e]; exact Q.varStamp c vc0 h0) cons2
  -- the drain
  obtain ⟨D3, he3, f3⟩ := drainHeap_inv fuel t2 t3 D2 h3
  have c3 := drainHeap_calm fuel t2 t3 D2 h3
  have k3 := drainHeap_keyD D2 h3
  simp only [stateKeyD, Prod.mk.injEq] at k3
  obtain ⟨k_obs, k_all, k_scope, k_top, k_handles, k_alive, k_pinv, k_binds, k_memos, k_slots, k_ahh⟩ := k3
  obtain ⟨f_vars, -, -, -, -, f_sds, f_dead, -, f_handles, -, -, -, -, -, f_slots⟩ := F.sk
  -- the end
  have E := stabiliseEnd_dead (env := env) (fuel := fuel) (s := t3) (s' := s')
    (by rw [c3.setDuringStab, f_sds, hs0]; exact Q.setDuringStab)
    (by intro o ob ho; rw [k_obs] at ho; exact (S2.obs.inRange o ob ho).2) h4
  have hobs' : s'.observers = t2.observers := by rw [E.observers, k_obs]
  refine ⟨?_, ?_, ?_, ?_, ?_, ?_⟩
  · rw [E.handles, k_handles, f_handles, hs0]
  · rw [E.slots, k_slots, f_slots, hs0]
  · rw [E.vars, c3.deadVars, f_dead, f3.vars, f_vars, hs0]
  · rw [E.rch]
    exact flatten_of_bucketSum_zero _ (by rw [← D3.heap.wf.length]; exact he3)
  · rw [hobs', O2.1, O1.1, hs0]
  · intro o ob ho
    have ho0 : s0.observers[o]? = some ob := by rw [hs0]; exact ho
    obtain ⟨ob1, h1o, h1n, h1s⟩ := O1.2 o ob ho0
    obtain ⟨ob2, h2o, h2n, h2s⟩ := O2.2 o ob1 h1o
    obtain ⟨ob', ho', -, hcl, -⟩ := hspec.2.2.2.2.1 o ob ho
    have e : ob' = ob2 := by
      rw [hobs', h2o] at ho'
      exact (Option.some.inj ho').symm
    exact ⟨ob2, by rw [hobs']; exact h2o, by rw [h2n, h1n], by rw [← e]; exact hcl,
      by rw [h2s, h1s, stabilisedState_eq]⟩

end IncrVerif.Proofs.LeakH
