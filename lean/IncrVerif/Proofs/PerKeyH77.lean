import IncrVerif.Proofs.Footprint
/-!
# Per-key operators, `stabilise`, part 1: the prefix of `stabilise` keeps `State.perkeys`

`KPk s s' := s'.perkeys = s.perkeys`.  The only writes of `perkeys` are the two updates of a per-key record and the push of a fresh one
(`Edit.perkeys`), so every function that makes none of them keeps it: the cascades, `addNewObservers`, `unlinkDisallowedObservers`, `stabiliseEnd`.
-/
namespace IncrVerif.Proofs.PerKeyH
open IncrVerif.Engine IncrVerif.Proofs IncrVerif.Proofs.Step IncrVerif.Proofs.Footprint

/-- `perkeys` is unchanged -/
def KPk (s s' : State) : Prop := s'.perkeys = s.perkeys

instance : Step.PreOrd KPk := ⟨fun _ => rfl, fun h1 h2 => Eq.trans h2 h1⟩

theorem KP.discard {α} {x : M α} (h : Step.Pres KPk x) : Step.Pres KPk (discard x) := by
  unfold Functor.discard; exact Step.Pres.map _ h

theorem KP.modVar (v f) : Step.Pres KPk (Engine.modVar v f) := by
  unfold Engine.modVar; exact Step.Pres.modify fun _ => rfl
theorem KP.getVar (v) : Step.Pres KPk (Engine.getVar v) := Step.Pres.getVar v
theorem KP.addParent (c i p) : Step.Pres KPk (Engine.addParent c i p) := (Foot.addParent c i p).frame (Edit.perkeys (by decide))
theorem KP.removeParent (c i p) : Step.Pres KPk (Engine.removeParent c i p) :=
  (Foot.removeParent c i p).frame (Edit.perkeys (by decide))
theorem KP.setHeight (n h) : Step.Pres KPk (Engine.setHeight n h) := (Foot.setHeight n h).frame (Edit.perkeys (by decide))
theorem KP.rchRemoveMin : Step.Pres KPk Engine.rchRemoveMin := Foot.rchRemoveMin.frame (Edit.perkeys (by decide))
theorem KP.ensureHeightRequirement (oc op c p) : Step.Pres KPk (Engine.ensureHeightRequirement oc op c p) :=
  (Foot.ensureHeightRequirement oc op c p).frame (Edit.perkeys (by decide))

theorem KP.adjustHeights (oc op fuel) : Step.Pres KPk (Engine.adjustHeights oc op fuel) :=
  (Foot.adjustHeights oc op fuel).frame (Edit.perkeys (by decide))

theorem KP.scopeHeight (sc) : Step.Pres KPk (Engine.scopeHeight sc) := Step.Pres.scopeHeight sc
theorem KP.handleAfterStabilisation (n) : Step.Pres KPk (Engine.handleAfterStabilisation n) :=
  (Foot.handleAfterStabilisation n).frame (Edit.perkeys (by decide))

theorem KP.markMapRefUnknown (fuel n) : Step.Pres KPk (Engine.markMapRefUnknown fuel n) :=
  (Foot.markMapRefUnknown fuel n).frame (Edit.perkeys (by decide))

theorem KP.becameNecessary (env fuel n) : Step.Pres KPk (Engine.becameNecessary env fuel n) :=
  (Foot.becameNecessary env fuel n).frame (Edit.perkeys (by decide))
theorem KP.addParentWithoutAdjustingHeights (env fuel c i p) :
    Step.Pres KPk (Engine.addParentWithoutAdjustingHeights env fuel c i p) :=
  (Foot.addParentWithoutAdjustingHeights env fuel c i p).frame (Edit.perkeys (by decide))

theorem KP.unlink (fuel : Nat) :
    (∀ n, Step.Pres KPk (Engine.becameUnnecessary fuel n)) ∧
    (∀ n, Step.Pres KPk (Engine.checkIfUnnecessary fuel n)) ∧
    (∀ n, Step.Pres KPk (Engine.removeChildren fuel n)) :=
  ⟨fun n => (Foot.becameUnnecessary fuel n).frame (Edit.perkeys (by decide)),
   fun n => (Foot.checkIfUnnecessary fuel n).frame (Edit.perkeys (by decide)),
   fun n => (Foot.removeChildren fuel n).frame (Edit.perkeys (by decide))⟩

theorem KP.becameUnnecessary (fuel n) : Step.Pres KPk (Engine.becameUnnecessary fuel n) :=
  (KP.unlink fuel).1 n
theorem KP.checkIfUnnecessary (fuel n) : Step.Pres KPk (Engine.checkIfUnnecessary fuel n) :=
  (KP.unlink fuel).2.1 n
theorem KP.removeChildren (fuel n) : Step.Pres KPk (Engine.removeChildren fuel n) :=
  (KP.unlink fuel).2.2 n

theorem KP.invalidateNode (fuel n) : Step.Pres KPk (Engine.invalidateNode fuel n) :=
  (Foot.invalidateNode fuel n).frame (Edit.perkeys (by decide))

theorem KP.propagateInvalidity (fuel) : Step.Pres KPk (Engine.propagateInvalidity fuel) :=
  (Foot.propagateInvalidity fuel).frame (Edit.perkeys (by decide))

theorem KP.stateAddParent (env fuel c i p) : Step.Pres KPk (Engine.stateAddParent env fuel c i p) :=
  (Foot.stateAddParent env fuel c i p).frame (Edit.perkeys (by decide))
theorem KP.shouldCutoff (env n o v) : Step.Pres KPk (Engine.shouldCutoff env n o v) :=
  (Foot.shouldCutoff env n o v).frame (Edit.perkeys (by decide))

theorem KP.parentIterCanRecomputeNow (p c : Nat) : Step.Pres KPk (Engine.parentIterCanRecomputeNow p c) :=
  (Foot.parentIterCanRecomputeNow p c).frame (Edit.perkeys (by decide))

theorem KP.maybeChangeValue (env fuel n v) : Step.Pres KPk (Engine.maybeChangeValue env fuel n v) :=
  (Foot.maybeChangeValue env fuel n v).lift (Edit.perkeys (by decide))

theorem KP.addNewObservers (env fuel) : Step.Pres KPk (Engine.addNewObservers env fuel) :=
  (Foot.addNewObservers env fuel).frame (Edit.perkeys (by decide))

theorem KP.unlinkDisallowedObservers (fuel) : Step.Pres KPk (Engine.unlinkDisallowedObservers fuel) :=
  (Foot.unlinkDisallowedObservers fuel).frame (Edit.perkeys (by decide))

theorem KP.stabiliseEnd (env fuel) : Step.Pres KPk (Engine.stabiliseEnd env fuel) :=
  (Foot.stabiliseEnd env fuel).frame (Edit.perkeys (by decide))

end IncrVerif.Proofs.PerKeyH
