import IncrVerif.Proofs.FullH42
/-!
# C01 full fragment: one `recomputeOne` of a node that is neither a map_ref nor a map_with_old node, part 3: the headline
-/
namespace IncrVerif.Proofs.FullH
open IncrVerif.Engine IncrVerif.Proofs IncrVerif.Proofs.Step IncrVerif.Proofs.Sched IncrVerif.Proofs.Quiet

namespace ST
section
variable {env : Env}

/-- a successful step of a change detector has read its bind record -/
theorem recomputeOne_ok_bind {fuel n : Nat} {s s' : State} {nd : Node} {r : Option Nat} {b : Nat}
    (hn : s.nodes[n]? = some nd) (hv : nd.valid = true) (hk : nd.kind = .bindLhsChange b)
    (h : (recomputeOne env fuel n).run.run s = (.ok r, s')) : ∃ br, s.binds[b]? = some br := by
  cases hb : s.binds[b]? with
  | some br => exact ⟨br, rfl⟩
  | none =>
    exfalso
    have hk? : ({ nd with recomputedAt := s.stabNum } : Node).kind? = some (.bindLhsChange b) := by
      simp [Node.kind?, hv, hk]
    have hn' := started_getElem? n s nd hn
    unfold recomputeOne at h
    simp only [run_bind_get] at h
    cases hd : s.cfg.debug
    all_goals
      simp only [started, hd, Bool.false_eq_true, if_false, if_true, run_bind_modify,
        run_bind_bumpCounter, run_bind_get, run_bind_modNode] at hn' h
      rw [run_bind_ok (run_getNode_some hn'), hk?] at h
      dsimp only at h
      simp only [getBind, bind_assoc, run_bind_get, hb] at h
      cases h

theorem topLt_started {s : State} (n : Nat) (h : TopLt s) : TopLt (started n s) := by
  intro k r hk
  have : (started n s).nodes.size = s.nodes.size := by simp [started]
  rw [this]; exact h k r hk

end
end ST

section
variable {env : Env} {sp : Nat → Val → Val} {g : Nat → Option Val}

/-- **one `recomputeOne` of a change detector** (`bindLhsChange`): the ghost may be erased on the nodes that are invalidated -/
theorem recomputeOne_simX_lhs {s s' : State} {fuel n b : Nat} {r : Option Nat}
    (F : FFrag env sp g s) (hn : n < s.nodes.size) (hv : (s.nodeD n).valid = true)
    (hkd : (s.nodeD n).kind = .bindLhsChange b)
    (hkids : ∀ a, a ∈ s.children n → tv g s a = s.value env a)
    (htop : TopLt s)
    (htempl : ∀ br, s.binds[b]? = some br → ∀ v, ST.TemplS env sp (env.body br.body v))
    (h : (recomputeOne env fuel n).run.run s = (.ok r, s')) :
    ∃ g', (recomputeOne (VE env sp) fuel n).run.run (virt g s) = (.ok r, virt g' s') ∧ Fr (FK env sp) g' s' ∧
      GR g g' s s' := by
  have hnd := some_of_lt hn
  have hvn : (virt g s).nodes[n]? = some (virtNode (g n) (s.nodeD n)) := by rw [virt_getElem?, hnd]; rfl
  have hvval : (virtNode (g n) (s.nodeD n)).valid = true := by rw [virtNode_valid]; exact hv
  have hvk := virtNode_kind (g n) (s.nodeD n)
  rw [hkd] at hvk
  obtain ⟨br, hb⟩ := ST.recomputeOne_ok_bind hnd hv hkd h
  have hb' : (virt g s).binds[b]? = some br := hb
  have hk? : (s.nodeD n).kind? = some (.bindLhsChange b) := by simp [Node.kind?, hv, hkd]
  have hrd : tv g (started n s) br.lhs = (started n s).value env br.lhs := by
    rw [ST.tv_started, started_value]
    apply hkids
    unfold State.children
    rw [hk?]
    simp only [hb]
    simp
  have hk0 : ST.NK n (started n s) :=
    ⟨by simp [started]; exact hn, (fun p i => by rw [ST.started_kind, hkd]; exact fun e => by cases e),
      ST.exact_started (ST.exact_of_lc hkd) []⟩
  refine ST.simXAt_of_started (es := []) (Inval.recomputeOne_bindLhsChange_run env fuel n s _ b br hnd hv hkd hb)
    (Inval.recomputeOne_bindLhsChange_run (VE env sp) fuel n (virt g s) _ b br hvn hvval hvk hb') ?_ F.fr r s' h
  refine .of_commX ?_
  refine NodeSim.CommXAt.seq_at (ST.SimAt.lhsRunClosure hrd (ST.topLt_started n htop) (htempl br hb)).commIX fun rhs t1 _ => ?_
  refine NodeSim.CommXAt.seq ((ST.SimX.lhsRelink fuel n b br s.stabNum rhs).commX _ _ g t1) fun _ t2 g2 _ => ?_
  refine NodeSim.CommXAt.seq ((ST.SimX.lhsInvalidateOld fuel br).commX _ _ g2 t2) fun _ t3 g3 _ => ?_
  -- the frame since the start: the node is still there, no `map_ref` node, exact
  refine NodeSim.CommXAt.intro fun hI => ?_
  exact (ST.SimAt.lhsFinish (hk0.vm hI.2.vm).2.1 (hk0.vm hI.2.vm).2.2).commIX.toX

/-- **one `recomputeOne` of a node that is neither a map_ref nor a map_with_old node**: the actual step is simulated by the virtual step; the
ghost may be erased on nodes that end up invalid -/
theorem recomputeOne_simX {s s' : State} {fuel n : Nat} {r : Option Nat}
    (F : FFrag env sp g s) (hn : n < s.nodes.size) (hv : (s.nodeD n).valid = true)
    (hk1 : ∀ p i, (s.nodeD n).kind ≠ .mapRef p i) (hk2 : ∀ m i, (s.nodeD n).kind ≠ .mapWithOld m i)
    (hcn : (∀ b, (s.nodeD n).kind ≠ .bindLhsChange b) → (s.nodeD n).cutoff = .eq)
    (hkids : ∀ a, a ∈ s.children n → tv g s a = s.value env a)
    (htop : TopLt s)
    (htempl : ∀ b br, (s.nodeD n).kind = .bindLhsChange b → s.binds[b]? = some br →
      ∀ v, ST.TemplS env sp (env.body br.body v))
    (h : (recomputeOne env fuel n).run.run s = (.ok r, s')) :
    ∃ g', (recomputeOne (VE env sp) fuel n).run.run (virt g s) = (.ok r, virt g' s') ∧ Fr (FK env sp) g' s' ∧
      GR g g' s s' := by
  by_cases hlc : ∃ b, (s.nodeD n).kind = .bindLhsChange b
  · obtain ⟨b, hkd⟩ := hlc
    exact recomputeOne_simX_lhs F hn hv hkd hkids htop (fun br hb => htempl b br hkd hb) h
  by_cases hbm : ∃ b lc, (s.nodeD n).kind = .bindMain b lc
  · obtain ⟨b, lc, hkd⟩ := hbm
    have hnd := some_of_lt hn
    have hvn : (virt g s).nodes[n]? = some (virtNode (g n) (s.nodeD n)) := by rw [virt_getElem?, hnd]; rfl
    have hvval : (virtNode (g n) (s.nodeD n)).valid = true := by rw [virtNode_valid]; exact hv
    have hvk := virtNode_kind (g n) (s.nodeD n)
    rw [hkd] at hvk
    have hk? : (s.nodeD n).kind? = some (.bindMain b lc) := by simp [Node.kind?, hv, hkd]
    refine ST.simXAt_of_started (es := []) (ST.recomputeOne_bindMain_tail env fuel n s _ b lc hnd hv hkd)
      (ST.recomputeOne_bindMain_tail (VE env sp) fuel n (virt g s) _ b lc hvn hvval hvk)
      (ST.SimXAt.bindMainTail ?_ (ST.exact_started (ST.exact_of_eq (hcn fun b e => hlc ⟨b, e⟩)) []) ?_) F.fr r s' h
    · intro p i
      show ((started n s).nodeD n).kind ≠ _
      rw [ST.started_kind]; exact hk1 p i
    · intro br r0 hb hr
      have hb' : s.binds[b]? = some br := hb
      show tv g (started n s) r0 = (started n s).value env r0
      rw [ST.tv_started, started_value]
      apply hkids
      unfold State.children
      rw [hk?]
      simp only [hb', hr]
      simp
  · obtain ⟨h1, h2, h3⟩ := recomputeOne_sim F hn hv hk1 hk2 (fun b e => hlc ⟨b, e⟩) (hcn fun b e => hlc ⟨b, e⟩)
      (fun b lc _ _ e _ _ => absurd ⟨b, lc, e⟩ hbm) hkids h
    exact ⟨g, h1, h2, GR.of_vm h3⟩

end
end IncrVerif.Proofs.FullH
