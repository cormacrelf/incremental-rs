import IncrVerif.Proofs.MapOld27
import IncrVerif.Props.C17
/-!
# C17 for `opCalls`: the user function is called only for keys that differ between the input the operator closure
last ran on and the current input

`opCalls d g σ old x` is the list of user-function calls (name, arguments, rendered result) the operator closure `g`
makes in the step from closure state `σ` (the input it last ran on), stored previous output `old`, on the input `x`.
By `opReach` (Ops1) the reachable states are `(.unit, none)` (fresh) and `(x0, some (opSpec d g x0))` with `Canon x0`.

* `opC`, `opCalls_eq`, `opC_fm` … : `opCalls` as a function of `decodeOp g` (same workaround as `opW` in Ops1).
* `C17_fm_calls_iff`  (1) filter-map: a call is made exactly for the bindings of `x` that `x0` did not hold.
* `C17_same`          (2) equal input: no call, for every kind and every canonical `x0`.
* `C17_fold_calls`    (3, `MapOld33`) fold: every call is about a key whose binding differs.
* `C17_merge_calls`   (4, `MapOld33`) merge: every call is about a key whose binding differs on the left or on the right.
* `C17_part_calls`    (5, `MapOld33`) partition: every call is for a binding of `x` that `x0` did not hold.
* `C17_fm_first` (`MapOld33`) (6) fresh closure: one call per binding of the input.
-/
namespace IncrVerif.Proofs.MapOldH
open IncrVerif IncrVerif.Engine IncrVerif.MapOps IncrVerif.Proofs IncrVerif.Proofs.Ops

/-! ## `opCalls` as a function of `decodeOp g` -/

theorem C17opCalls_body : @opCalls = body_of% opCalls := rfl

/-- `opCalls` with the decoded machine id as an argument (a copy of the source of `opCalls`) -/
def opC (dec : OpKind × Nat) (d : Defs) (σ : Val) (old : Option Val) (x : Val) : List (String × List Val × String) :=
  let (kind, m) := dec
  let p := d.opParams m
  let name (role : String) := s!"M{m}.{role}"
  match kind with
  | .fm =>
    let oldPair := match σ, old with
      | .map oi, some (.map oo) => some (oi, oo)
      | _, _ => none
    let r := IncrVerif.MapOps.filterMapiStep (opFmFn p) oldPair (asMap x)
    r.2.2.map fun (_, k) =>
      let v := ((IncrVerif.AMap.lookup (asMap x) k).getD 0)
      (name "fn", [.int k, .int v], optStr (opFmFn p k v))
  | .fold rev upd =>
    let oldPair := match σ, old with
      | .map oi, some (.int oo) => some (oi, oo)
      | _, _ => none
    let input := asMap x
    let r := IncrVerif.MapOps.ufoldStep (opUFold p upd rev) p.c oldPair input
    let oldIn := (oldPair.map (·.1)).getD []
    let start : Int := match oldPair with | some (_, oo) => oo | none => p.c
    let step (acc : Int × List (String × List Val × String)) (c : IncrVerif.MapOps.Call) :=
      let (a, evs) := acc
      let k := c.2
      let nv := (IncrVerif.AMap.lookup input k).getD 0
      let ov := (IncrVerif.AMap.lookup oldIn k).getD 0
      match c.1 with
      | .add => let a' := a + opG p k nv; (a', evs ++ [(name "add", [.int k, .int nv], toString a')])
      | .remove => let a' := a - opG p k ov; (a', evs ++ [(name "remove", [.int k, .int ov], toString a')])
      | .update =>
        if upd then
          let a' := a - opG p k ov + opG p k nv
          (a', evs ++ [(name "update", [.int k, .int ov, .int nv], toString a')])
        else
          let a1 := a - opG p k ov
          let a2 := a1 + opG p k nv
          (a2, evs ++ [(name "remove", [.int k, .int ov], toString a1), (name "add", [.int k, .int nv], toString a2)])
      | _ => (a, evs)
    (r.2.2.foldl step (start, [])).2
  | .merge =>
    let (nl, nr) := match x with | .pair a b => (asMap a, asMap b) | _ => ([], [])
    let oldT := match σ, old with
      | .pair ol orr, some (.map oo) => some (asMap ol, asMap orr, oo)
      | _, _ => none
    let r := IncrVerif.MapOps.mergeStep (opMergeFn p) oldT nl nr
    r.2.2.map fun (_, k) =>
      let l := IncrVerif.AMap.lookup nl k
      let rr := IncrVerif.AMap.lookup nr k
      let e : IncrVerif.MapOps.MergeArg := match l, rr with
        | some a, some b => .both a b
        | some a, none => .left a
        | none, some b => .right b
        | none, none => .left 0
      (name "merge", [.int k, optVal l, optVal rr], optStr (opMergeFn p k e))
  | .part =>
    let oldPair := match σ, old with
      | .map oi, some (.pair (.map l) (.map rr)) => some (oi, (l, rr))
      | _, _ => none
    let input := asMap x
    let r := IncrVerif.MapOps.ufoldStep (IncrVerif.MapOps.partitionUFold (opPartFn p)) ([], []) oldPair input
    r.2.2.filterMap fun (role, k) =>
      if role == .remove then none
      else
        let v := (IncrVerif.AMap.lookup input k).getD 0
        some (name "fn", [.int k, .int v], match opPartFn p k v with | .left a => s!"L{a}" | .right b => s!"R{b}")

theorem opCalls_eq (d : Defs) (g : Nat) (σ : Val) (old : Option Val) (x : Val) :
    opCalls d g σ old x = opC (decodeOp g) d σ old x := by
  have := congrFun (congrFun (congrFun (congrFun (congrFun C17opCalls_body d) g) σ) old) x
  rw [this]
  clear this
  generalize decodeOp g = dec
  rcases dec with ⟨kind, m⟩
  cases kind <;> rfl

/-! ## the event renderings -/

/-- the name under which the harness logs a call of role `role` of operator family `m` -/
def C17name (m : Nat) (role : String) : String := s!"M{m}.{role}"

/-- how a call of the filter-map closure is logged -/
def C17fmEv (p : OpParams) (m : Nat) (input : AMap Int) (c : Call) : String × List Val × String :=
  (C17name m "fn", [.int c.2, .int ((AMap.lookup input c.2).getD 0)],
    optStr (opFmFn p c.2 ((AMap.lookup input c.2).getD 0)))

/-- how the calls of the fold closure are logged (running accumulator, log) -/
def C17foldStep (p : OpParams) (m : Nat) (upd : Bool) (input oldIn : AMap Int)
    (acc : Int × List (String × List Val × String)) (c : Call) : Int × List (String × List Val × String) :=
  let (a, evs) := acc
  let k := c.2
  let nv := (AMap.lookup input k).getD 0
  let ov := (AMap.lookup oldIn k).getD 0
  match c.1 with
  | .add => let a' := a + opG p k nv; (a', evs ++ [(C17name m "add", [.int k, .int nv], toString a')])
  | .remove => let a' := a - opG p k ov; (a', evs ++ [(C17name m "remove", [.int k, .int ov], toString a')])
  | .update =>
    if upd then
      let a' := a - opG p k ov + opG p k nv
      (a', evs ++ [(C17name m "update", [.int k, .int ov, .int nv], toString a')])
    else
      let a1 := a - opG p k ov
      let a2 := a1 + opG p k nv
      (a2, evs ++ [(C17name m "remove", [.int k, .int ov], toString a1), (C17name m "add", [.int k, .int nv], toString a2)])
  | _ => (a, evs)

/-- the argument the merge function is called with for key `k` -/
def C17mergeArg (l rr : Option Int) : MergeArg :=
  match l, rr with
  | some a, some b => .both a b
  | some a, none => .left a
  | none, some b => .right b
  | none, none => .left 0

/-- how a call of the merge closure is logged -/
def C17mergeEv (p : OpParams) (m : Nat) (nl nr : AMap Int) (c : Call) : String × List Val × String :=
  (C17name m "merge", [.int c.2, optVal (AMap.lookup nl c.2), optVal (AMap.lookup nr c.2)],
    optStr (opMergeFn p c.2 (C17mergeArg (AMap.lookup nl c.2) (AMap.lookup nr c.2))))

/-- how the result of the partition function is rendered -/
def C17eitherStr (e : Either) : String := match e with | .left a => s!"L{a}" | .right b => s!"R{b}"

/-- how a call of the partition closure is logged (`remove` calls the user function not at all) -/
def C17partEv (p : OpParams) (m : Nat) (input : AMap Int) (c : Call) : Option (String × List Val × String) :=
  if c.1 == .remove then none
  else some (C17name m "fn", [.int c.2, .int ((AMap.lookup input c.2).getD 0)],
    C17eitherStr (opPartFn p c.2 ((AMap.lookup input c.2).getD 0)))

/-! ## `opC`, by kind -/

theorem opC_fm (m : Nat) (d : Defs) (σ : Val) (old : Option Val) (x : Val) :
    opC (.fm, m) d σ old x =
      (filterMapiStep (opFmFn (d.opParams m)) (fmOld σ old) (asMap x)).2.2.map
        (C17fmEv (d.opParams m) m (asMap x)) := rfl

theorem opC_fold (rev upd : Bool) (m : Nat) (d : Defs) (σ : Val) (old : Option Val) (x : Val) :
    opC (.fold rev upd, m) d σ old x =
      ((ufoldStep (opUFold (d.opParams m) upd rev) (d.opParams m).c (foldOld σ old) (asMap x)).2.2.foldl
        (C17foldStep (d.opParams m) m upd (asMap x) (((foldOld σ old).map (·.1)).getD []))
        (match foldOld σ old with | some (_, oo) => oo | none => (d.opParams m).c, [])).2 := rfl

theorem opC_merge (m : Nat) (d : Defs) (σ : Val) (old : Option Val) (x : Val) :
    opC (.merge, m) d σ old x =
      (mergeStep (opMergeFn (d.opParams m)) (mergeOldT σ old) (mergeIn x).1 (mergeIn x).2).2.2.map
        (C17mergeEv (d.opParams m) m (mergeIn x).1 (mergeIn x).2) := by
  cases x <;> rfl

theorem opC_part (m : Nat) (d : Defs) (σ : Val) (old : Option Val) (x : Val) :
    opC (.part, m) d σ old x =
      (ufoldStep (partitionUFold (opPartFn (d.opParams m))) ([], []) (partOld σ old) (asMap x)).2.2.filterMap
        (C17partEv (d.opParams m) m (asMap x)) := rfl

/-- `opCalls`, by kind -/
theorem opCalls_fm (d : Defs) (g m : Nat) (hd : decodeOp g = (.fm, m)) (σ : Val) (old : Option Val) (x : Val) :
    opCalls d g σ old x =
      (filterMapiStep (opFmFn (d.opParams m)) (fmOld σ old) (asMap x)).2.2.map
        (C17fmEv (d.opParams m) m (asMap x)) := by
  rw [opCalls_eq, hd, opC_fm]

theorem opCalls_fold (d : Defs) (g m : Nat) (rev upd : Bool) (hd : decodeOp g = (.fold rev upd, m))
    (σ : Val) (old : Option Val) (x : Val) :
    opCalls d g σ old x =
      ((ufoldStep (opUFold (d.opParams m) upd rev) (d.opParams m).c (foldOld σ old) (asMap x)).2.2.foldl
        (C17foldStep (d.opParams m) m upd (asMap x) (((foldOld σ old).map (·.1)).getD []))
        (match foldOld σ old with | some (_, oo) => oo | none => (d.opParams m).c, [])).2 := by
  rw [opCalls_eq, hd, opC_fold]

theorem opCalls_merge (d : Defs) (g m : Nat) (hd : decodeOp g = (.merge, m)) (σ : Val) (old : Option Val) (x : Val) :
    opCalls d g σ old x =
      (mergeStep (opMergeFn (d.opParams m)) (mergeOldT σ old) (mergeIn x).1 (mergeIn x).2).2.2.map
        (C17mergeEv (d.opParams m) m (mergeIn x).1 (mergeIn x).2) := by
  rw [opCalls_eq, hd, opC_merge]

theorem opCalls_part (d : Defs) (g m : Nat) (hd : decodeOp g = (.part, m)) (σ : Val) (old : Option Val) (x : Val) :
    opCalls d g σ old x =
      (ufoldStep (partitionUFold (opPartFn (d.opParams m))) ([], []) (partOld σ old) (asMap x)).2.2.filterMap
        (C17partEv (d.opParams m) m (asMap x)) := by
  rw [opCalls_eq, hd, opC_part]

/-- the name, written the way the harness prints it -/
theorem C17name_eq (m : Nat) (role : String) : C17name m role = s!"M{m}." ++ role := rfl

theorem C17name_fn (m : Nat) : C17name m "fn" = s!"M{m}.fn" := by
  have e : toString "." ++ toString "fn" = toString ".fn" := by decide
  simp only [C17name]
  rw [String.append_assoc, e]

/-! ## how the closures read a reachable state `(x0, some (opSpec d g x0))` -/

theorem C17fmOld_cases (x0 : Val) (o : AMap Int) :
    (fmOld x0 (some (.map o)) = none ∧ asMap x0 = []) ∨ fmOld x0 (some (.map o)) = some (asMap x0, o) := by
  cases x0 <;> first | exact .inl ⟨rfl, rfl⟩ | exact .inr rfl

theorem C17foldOld_cases (x0 : Val) (o : Int) :
    (foldOld x0 (some (.int o)) = none ∧ asMap x0 = []) ∨ foldOld x0 (some (.int o)) = some (asMap x0, o) := by
  cases x0 <;> first | exact .inl ⟨rfl, rfl⟩ | exact .inr rfl

theorem C17partOld_cases (x0 : Val) (l r : AMap Int) :
    (partOld x0 (some (.pair (.map l) (.map r))) = none ∧ asMap x0 = []) ∨
      partOld x0 (some (.pair (.map l) (.map r))) = some (asMap x0, (l, r)) := by
  cases x0 <;> first | exact .inl ⟨rfl, rfl⟩ | exact .inr rfl

/-- a merge closure whose state is not a pair behaves as on two empty previous inputs -/
theorem C17mergeOldT_step (f : Int → MergeArg → Option Int) (x0 : Val) (o nl nr : AMap Int) :
    ∃ o', mergeStep f (mergeOldT x0 (some (.map o))) nl nr =
      mergeStep f (some ((mergeIn x0).1, (mergeIn x0).2, o')) nl nr := by
  cases x0 <;> first | exact ⟨[], rfl⟩ | exact ⟨o, rfl⟩

/-! ## the keys of the calls, at the level of the step functions, for both shapes of the closure state -/

/-- `incr_filter_mapi`: the calls are exactly the bindings of the input the previous input `a` did not hold
(`a = []` for a closure that has not run) -/
theorem C17fm_keys (f : Int → Int → Option Int) (old : Option (AMap Int × AMap Int)) (a input : AMap Int)
    (ha : a.Sorted) (hi : input.Sorted) (hold : (old = none ∧ a = []) ∨ ∃ o, old = some (a, o)) (c : Call) :
    c ∈ (filterMapiStep f old input).2.2 ↔
      c.1 = Role.fn ∧ ∃ v, AMap.lookup input c.2 = some v ∧ AMap.lookup a c.2 ≠ some v := by
  by_cases hne : input = []
  · subst hne
    rw [filterMapiStep_nil]
    constructor
    · intro h; cases h
    · rintro ⟨-, v, h, -⟩; cases h
  · rcases hold with ⟨rfl, rfl⟩ | ⟨o, rfl⟩
    · rw [filterMapiStep_none]
      show c ∈ input.map _ ↔ _
      rw [List.mem_map]
      constructor
      · rintro ⟨kv, hkv, rfl⟩
        exact ⟨rfl, kv.2, AMap.lookup_of_mem input hi kv hkv, by simp⟩
      · rintro ⟨h1, v, h2, -⟩
        refine ⟨(c.2, v), (AMap.lookup_eq_some_iff_mem input hi c.2 v).1 h2, ?_⟩
        rcases c with ⟨r, k⟩
        cases h1; rfl
    · exact Props.C17.filterMapi_calls_mem f a o input ha hi hne c

/-- `incr_unordered_fold_with` (any fold): every call is about a key whose binding differs from the previous input `a`
(`a = []` for a closure that has not run); a call that is not a `remove` is about a key bound in the input -/
theorem C17ufold_keys {ρ : Type} (u : UFold ρ) (init : ρ) (old : Option (AMap Int × ρ)) (a input : AMap Int)
    (ha : a.Sorted) (hi : input.Sorted) (hold : (old = none ∧ a = []) ∨ ∃ o, old = some (a, o)) (c : Call)
    (hc : c ∈ (ufoldStep u init old input).2.2) :
    AMap.lookup input c.2 ≠ AMap.lookup a c.2 ∧ (c.1 ≠ Role.remove → ∃ v, AMap.lookup input c.2 = some v) := by
  rcases hold with ⟨rfl, rfl⟩ | ⟨o, rfl⟩
  · rw [ufoldStep_none] at hc
    obtain ⟨kv, hkv, rfl⟩ := List.mem_map.1 hc
    have := AMap.lookup_of_mem input hi kv hkv
    exact ⟨by simp [this], fun _ => ⟨kv.2, this⟩⟩
  · by_cases h : u.revertToInitWhenEmpty = false ∨ input ≠ []
    · rw [Props.C17.ufold_calls u init a o input h] at hc
      obtain ⟨⟨k, e⟩, he, rfl⟩ := List.mem_map.1 hc
      obtain ⟨h1, h2, h3⟩ := diff_entry a input ha hi k e he
      rw [diffCall_snd]
      refine ⟨fun hh => h3 hh.symm, ?_⟩
      cases e with
      | left x => intro hh; exact absurd rfl hh
      | right y => intro _; exact ⟨y, h2⟩
      | unequal x y => intro _; exact ⟨y, h2⟩
    · have h1 : u.revertToInitWhenEmpty = true := by
        cases hr : u.revertToInitWhenEmpty
        · exact absurd (.inl hr) h
        · rfl
      have h2 : input = [] := by
        by_cases hm' : input = []
        · exact hm'
        · exact absurd (.inr hm') h
      subst h2
      rw [Props.C17.ufold_revert_no_calls u init a o h1] at hc
      cases hc

/-! ## (1) filter-map -/

/-- **C17, filter-map.**  In the step from a reachable state `(x0, some (opSpec d g x0))` on the input `x`, the user
function is called exactly for the bindings `k ↦ v` of `x` that `x0` did not hold (never for a removed or an untouched
key), with arguments `k`, `v`, and logged with its result. -/
theorem C17_fm_calls_iff (d : Defs) (g m : Nat) (hd : decodeOp g = (.fm, m)) (x0 x : Val)
    (h0 : Canon x0) (hx : Canon x) (c : String × List Val × String) :
    c ∈ opCalls d g x0 (some (opSpec d g x0)) x ↔
      ∃ k v, c = (s!"M{m}.fn", [.int k, .int v], optStr (opFmFn (d.opParams m) k v)) ∧
        AMap.lookup (asMap x) k = some v ∧ AMap.lookup (asMap x0) k ≠ some v := by
  rw [opCalls_fm d g m hd, opSpec_fm d g m hd, List.mem_map]
  have hold : (fmOld x0 (some (.map (filterMapSpec (opFmFn (d.opParams m)) (asMap x0)))) = none ∧ asMap x0 = []) ∨
      ∃ o, fmOld x0 (some (.map (filterMapSpec (opFmFn (d.opParams m)) (asMap x0)))) = some (asMap x0, o) := by
    rcases C17fmOld_cases x0 (filterMapSpec (opFmFn (d.opParams m)) (asMap x0)) with h | h
    · exact .inl h
    · exact .inr ⟨_, h⟩
  have key := C17fm_keys (opFmFn (d.opParams m)) _ (asMap x0) (asMap x) (canon_asMap h0) (canon_asMap hx) hold
  constructor
  · rintro ⟨call, hc, rfl⟩
    obtain ⟨-, v, h2, h3⟩ := (key call).1 hc
    refine ⟨call.2, v, ?_, h2, h3⟩
    simp only [C17fmEv, h2, Option.getD_some, C17name_fn]
  · rintro ⟨k, v, rfl, h2, h3⟩
    refine ⟨(Role.fn, k), (key (Role.fn, k)).2 ⟨rfl, v, h2, h3⟩, ?_⟩
    simp only [C17fmEv, h2, Option.getD_some, C17name_fn]

/-- previous input a map, current input non-empty (neither is needed) -/
theorem C17_fm_calls (d : Defs) (g m : Nat) (hd : decodeOp g = (.fm, m)) (oi : AMap Int) (x : Val)
    (h0 : Canon (.map oi)) (hx : Canon x) (_hne : asMap x ≠ []) :
    ∀ c, c ∈ opCalls d g (.map oi) (some (opSpec d g (.map oi))) x →
      ∃ k v, c = (s!"M{m}.fn", [.int k, .int v], optStr (opFmFn (d.opParams m) k v)) ∧
        AMap.lookup (asMap x) k = some v ∧ AMap.lookup (asMap (.map oi)) k ≠ some v :=
  fun c hc => (C17_fm_calls_iff d g m hd (.map oi) x h0 hx c).1 hc

/-! ## (2) equal input: no call -/

/-- **C17, equal input.**  An operator closure (of any kind) that runs again on the input it last ran on calls no
user function.  (`x0` arbitrary canonical: for filter-map also the empty map — the "emptied" branch has no key to call
for —, and values of the wrong shape, which the closures read as empty maps.) -/
theorem C17_same (d : Defs) (g : Nat) (x0 : Val) (h0 : Canon x0) :
    opCalls d g x0 (some (opSpec d g x0)) x0 = [] := by
  rcases hd : decodeOp g with ⟨kind, m⟩
  cases kind with
  | fm =>
    rw [opCalls_fm d g m hd, opSpec_fm d g m hd]
    have : (filterMapiStep (opFmFn (d.opParams m))
        (fmOld x0 (some (.map (filterMapSpec (opFmFn (d.opParams m)) (asMap x0))))) (asMap x0)).2.2 = [] := by
      by_cases hne : asMap x0 = []
      · rw [hne, filterMapiStep_nil]
      · rcases C17fmOld_cases x0 (filterMapSpec (opFmFn (d.opParams m)) (asMap x0)) with ⟨-, e⟩ | h
        · exact absurd e hne
        · rw [h, Props.C17.filterMapi_same _ _ _ (canon_asMap h0) hne]
    rw [this]; rfl
  | fold rev upd =>
    rw [opCalls_fold d g m rev upd hd, opSpec_fold d g m rev upd hd]
    have : (ufoldStep (opUFold (d.opParams m) upd rev) (d.opParams m).c
        (foldOld x0 (some (.int (ufoldSpecSum (opG (d.opParams m)) (d.opParams m).c (asMap x0))))) (asMap x0)).2.2 = [] := by
      rcases C17foldOld_cases x0 (ufoldSpecSum (opG (d.opParams m)) (d.opParams m).c (asMap x0)) with ⟨h, e⟩ | h
      · rw [h, e]; rfl
      · rw [h, Props.C17.ufold_same _ _ _ (canon_asMap h0)]
    rw [this]; rfl
  | merge =>
    rw [opCalls_merge d g m hd, opSpec_merge d g m hd]
    obtain ⟨o', e⟩ := C17mergeOldT_step (opMergeFn (d.opParams m)) x0
      (mergeSpec' (opMergeFn (d.opParams m)) (mergeIn x0).1 (mergeIn x0).2) (mergeIn x0).1 (mergeIn x0).2
    rw [e, Props.C17.merge_same _ _ _ _ (canon_mergeIn h0).1 (canon_mergeIn h0).2]; rfl
  | part =>
    rw [opCalls_part d g m hd, opSpec_part d g m hd]
    have : (ufoldStep (partitionUFold (opPartFn (d.opParams m))) ([], [])
        (partOld x0 (some (.pair (.map (partitionSpec (opPartFn (d.opParams m)) (asMap x0)).1)
          (.map (partitionSpec (opPartFn (d.opParams m)) (asMap x0)).2)))) (asMap x0)).2.2 = [] := by
      rcases C17partOld_cases x0 (partitionSpec (opPartFn (d.opParams m)) (asMap x0)).1
        (partitionSpec (opPartFn (d.opParams m)) (asMap x0)).2 with ⟨h, e⟩ | h
      · rw [h, e]; rfl
      · rw [h, Props.C17.ufold_same _ _ _ (canon_asMap h0)]
    rw [this]; rfl

/-- `C17_same` per operator (the shape hypotheses on `x0` are not needed) -/
theorem C17_fm_same (d : Defs) (g m : Nat) (_hd : decodeOp g = (.fm, m)) (oi : AMap Int) (h0 : Canon (.map oi))
    (_hne : oi ≠ []) : opCalls d g (.map oi) (some (opSpec d g (.map oi))) (.map oi) = [] :=
  C17_same d g _ h0

theorem C17_fold_same (d : Defs) (g m : Nat) (rev upd : Bool) (_hd : decodeOp g = (.fold rev upd, m)) (oi : AMap Int)
    (h0 : Canon (.map oi)) : opCalls d g (.map oi) (some (opSpec d g (.map oi))) (.map oi) = [] :=
  C17_same d g _ h0

theorem C17_merge_same (d : Defs) (g m : Nat) (_hd : decodeOp g = (.merge, m)) (a0 b0 : Val)
    (h0 : Canon (.pair a0 b0)) : opCalls d g (.pair a0 b0) (some (opSpec d g (.pair a0 b0))) (.pair a0 b0) = [] :=
  C17_same d g _ h0

theorem C17_part_same (d : Defs) (g m : Nat) (_hd : decodeOp g = (.part, m)) (oi : AMap Int)
    (h0 : Canon (.map oi)) : opCalls d g (.map oi) (some (opSpec d g (.map oi))) (.map oi) = [] :=
  C17_same d g _ h0

end IncrVerif.Proofs.MapOldH
