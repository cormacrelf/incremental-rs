import IncrVerif.Proofs.MemoH9
/-!
# K3, invalidation part (1): the guarded relation `GJ P`, `invalidateNode`

`GJ P s s'`: if `s` satisfies `J` (`RegScoped ∧ TopValid`) and the structural side condition `P`, then `s'` is a
future of `s` that satisfies `J`.  `P` is a predicate that futures keep (`FutStable`), so `GJ P` is a preorder;
`J` is kept by every frame step, so `GJ P` is `FLocal` and the whole `PresF` ladder applies.
-/
namespace IncrVerif.Proofs.MemoH
open IncrVerif.Engine IncrVerif.Proofs.Obs IncrVerif.Proofs.Memo
open IncrVerif.Proofs.Step (run_bind_ok run_throw)

namespace KA

/-- registrations scoped, static top-level nodes valid -/
structure J (s : State) : Prop where
  reg : RegScoped s
  tv : TopValid s

class FutStable (P : State → Prop) : Prop where
  keep : ∀ s s', Fut s s' → P s → P s'

def GJ (P : State → Prop) (s s' : State) : Prop := J s → P s → Fut s s' ∧ J s'

instance (P : State → Prop) [FutStable P] : PreOrd (GJ P) where
  refl s := fun hj _ => ⟨Fut.refl s, hj⟩
  trans {a b _} h1 h2 := fun hj hp =>
    have q1 := h1 hj hp
    have q2 := h2 q1.2 (FutStable.keep a b q1.1 hp)
    ⟨q1.1.trans q2.1, q2.2⟩

theorem J.of_frame {s s' : State} (h : F0V s s') (hj : J s) : J s' where
  reg := h.reg hj.reg
  tv n hn := by
    by_cases hlt : n < s.nodes.size
    · rw [h.valid n hlt]; exact hj.tv n (hn.back h.toF0.fut hlt)
    · exact h.newValid n (Nat.le_of_not_lt hlt) hn.lt

instance (P : State → Prop) [FutStable P] : FLocal (GJ P) where
  of_frame _ _ h := fun hj _ => ⟨h.toF0.fut, hj.of_frame h⟩

theorem GJ.weaken {P P' : State → Prop} {s s' : State} (h : GJ P' s s') (hp : P s → P' s) : GJ P s s' :=
  fun hj hq => h hj (hp hq)

theorem Pres.weaken {P P' : State → Prop} {α} {m : M α} (h : Pres (GJ P') m) (hp : ∀ s, J s → P s → P' s) :
    Pres (GJ P) m :=
  ⟨fun s r s' e => fun hj hq => h.h s r s' e hj (hp s hj hq)⟩

/-- no side condition -/
def PT : State → Prop := fun _ => True
instance : FutStable PT := ⟨fun _ _ _ _ => trivial⟩

/-- `n` exists and is not a hereditarily static top-level node -/
def PN (n : Nat) (s : State) : Prop := n < s.nodes.size ∧ ¬ STop s n
instance (n : Nat) : FutStable (PN n) :=
  ⟨fun _ _ hf h => ⟨Nat.lt_of_lt_of_le h.1 hf.nodesLe, fun hs => h.2 (hs.back hf h.1)⟩⟩

/-- … and the nodes of `all` exist and were created in the scope of bind `b` -/
def PL (n b : Nat) (all : List Nat) (s : State) : Prop :=
  PN n s ∧ ∀ r ∈ all, r < s.nodes.size ∧ (s.nodeD r).createdIn = .bind b
instance (n b : Nat) (all : List Nat) : FutStable (PL n b all) :=
  ⟨fun s s' hf h => ⟨FutStable.keep s s' hf h.1, fun r hr => by
    have := h.2 r hr
    have hc := hf.core r this.1
    simp only [nodeK, Prod.mk.injEq] at hc
    exact ⟨Nat.lt_of_lt_of_le this.1 hf.nodesLe, hc.2.trans this.2⟩⟩⟩

theorem PL.pn {n b : Nat} {all : List Nat} {s : State} (h : PL n b all s) {r : Nat} (hr : r ∈ all) :
    PN r s := by
  have := h.2 r hr
  refine ⟨this.1, fun hs => ?_⟩
  have := hs.scope.symm.trans this.2
  cases this

/-- reading a bind record: the continuation runs in a state where the record is the bind's -/
theorem GJ.bind_getBind {β} (n b : Nat) (f : BindRec → M β)
    (hf : ∀ br, Pres (GJ (PL n b br.allNodesCreatedOnRhs)) (f br)) : Pres (GJ (PN n)) (getBind b >>= f) := by
  constructor
  intro s r s' h
  unfold Engine.getBind at h
  rw [bind_assoc, run_bind, run_get] at h
  dsimp only at h
  cases hb : s.binds[b]? with
  | none =>
    rw [hb] at h
    dsimp only at h
    change (throw _ >>= f).run.run s = _ at h
    rw [run_bind, run_throw] at h
    cases h; exact PreOrd.refl s
  | some br =>
    rw [hb] at h
    dsimp only at h
    rw [pure_bind] at h
    intro hj hp
    exact (hf br).h s r s' h hj ⟨hp, hj.reg b br hb⟩

/-- the one write of `valid := false`, on a node that is not hereditarily static -/
theorem markInvalid (n : Nat) : Pres (GJ (PN n)) (modNode n fun x => { x with valid := false }) := by
  unfold Engine.modNode
  refine Pres.modify fun s => ?_
  intro hj hp
  have hf0 : F0 s { s with nodes := s.nodes.modify n fun x => { x with valid := false } } :=
    F0.modNode s n _ fun _ => rfl
  refine ⟨hf0.fut, hf0.reg hj.reg, ?_⟩
  intro m hm
  have hlt : m < s.nodes.size := by
    have := hm.lt
    simpa using this
  have hm0 : STop s m := hm.back hf0.fut hlt
  have hne : n ≠ m := fun e => hp.2 (e ▸ hm0)
  rw [nodeD_modify, if_neg hne]
  exact hj.tv m hm0

syntax "kleaf" : tactic
macro_rules | `(tactic| kleaf) => `(tactic| with_reducible apply GJ.bind_getBind)
macro_rules | `(tactic| kleaf) => `(tactic| with_reducible apply Pres.forIn_mem)
macro_rules | `(tactic| kleaf) => `(tactic| with_reducible apply markInvalid)

macro "kpres" : tactic => `(tactic| repeat (any_goals (first | kleaf | mstep)))

/-- `invalidate_node` on a node that is not hereditarily static keeps `J` -/
theorem inval_pres (fuel n : Nat) : Pres (GJ (PN n)) (invalidateNode fuel n) := by
  induction fuel generalizing n with
  | zero => unfold Engine.invalidateNode; mpres
  | succ fuel ih =>
    unfold Engine.invalidateNode
    kpres
    all_goals first
      | exact ih _
      | exact Pres.weaken (markInvalid _) fun _ _ hp => hp.1
      | (refine Pres.weaken (ih _) ?_; intro _ _ hp; exact PL.pn hp (by assumption))

end KA

end IncrVerif.Proofs.MemoH
