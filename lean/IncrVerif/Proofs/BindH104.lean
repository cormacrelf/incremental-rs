import IncrVerif.Proofs.BindH103
/-!
# Binds, part 5g2: "generations are current" (`GenOK`) through a drain, part 2 — a run of a change detector; the drain

A run of the change detector `n` of bind `b`: the closure run (phase 1) registers the image of the template for the CURRENT lhs value (`closure_elab`); phases 2–4
keep the naming table, the kinds of all nodes and the lhs value, and install the right-hand side.  For the other binds: record, kinds of registered nodes, lhs value and
the staleness of the change detector are unchanged (`StepL`).
-/
namespace IncrVerif.Proofs.BindH
open IncrVerif.Engine IncrVerif.Proofs IncrVerif.Proofs.Step IncrVerif.Proofs.Sched IncrVerif.Proofs.Quiet

namespace C3g

theorem lc_gen {env : Env} {fuel n b : Nat} {s s' : State} {r : Option Nat} (I : DInv env s (some n))
    (A : F1Inv env s) (G : GenOK env s) (hk : (s.nodeD n).kind = .bindLhsChange b)
    (h : (recomputeOne env fuel n).run.run s = (.ok r, s')) : GenOK env s' := by
  have g := I.graph
  obtain ⟨⟨br0, br0', L⟩, A'⟩ :=
    recomputeOne_lcF1 (closure_spec1 env) (relink_spec1 env) (inval_spec1 env) I A hk h
  obtain ⟨br, X⟩ := CC.lc_pre I A hk
  have ebr : br0 = br := by
    have := L.bind
    rw [X.hb] at this
    exact (Option.some.inj this).symm
  rw [ebr] at L
  obtain ⟨rhs, s1, s2, s3, h1, h2, h3, h4⟩ := CC.lc_run_inv X.hlt X.hvn hk X.hb h
  obtain ⟨l, P⟩ := CC.phase1 (closure_spec1 env) X A h1
  have Q := CC.phase2 (relink_spec1 env) X A P h2
  have R := CC.phase3 (inval_spec1 env) X A P Q h3
  have M := CC.midRel_of X A P Q R
  -- the image of the template after phase 1
  obtain ⟨v, l', hv, hbl, E⟩ := closure_elab h1 X.g0 X.ahh0 X.hb X.hlc
    (fun v => by
      have := A.closures b br v X.hb
      rw [X.hlc] at this
      exact (templOK_congr (s := s) (s' := started n s) rfl n _).2 this)
    (fun k r hk => by
      obtain ⟨h1, h2, h3⟩ := A.topOK k r hk
      obtain ⟨y, e⟩ := CC.started_upto n s r
      refine ⟨by rw [CC.started_size]; exact h1, by rw [e]; exact h2, fun b' => by rw [e]; exact h3 b'⟩)
  have el : l' = l := by
    rw [P.bind] at hbl
    exact (congrArg BindRec.allNodesCreatedOnRhs (Option.some.inj hbl)).symm
  rw [el] at E
  -- the last step: naming table, bind table, kinds
  have K4 : KeyD s3 s' := (PresK.maybeChangeValue env fuel n .unit).h s3 _ s' h4
  simp only [KeyD, stateKeyD, Prod.mk.injEq] at K4
  obtain ⟨-, -, -, htop4, -, -, -, hb4, -⟩ := K4
  have D4 := ((C2k.PresD.maybeChangeValue (b := b) env fuel n .unit).h s3 _ s' h4).1
  have htop1 : s1.top = s.top := P.rel.top
  have htop : s'.top = s.top := by rw [htop4, M.top]
  have hsz3 : s3.nodes.size = s1.nodes.size := R.rel.size.trans Q.rel.size
  -- the lhs of `b`
  obtain ⟨f1, f2, f3, f4, f5, f6, f7, f8, -⟩ := rec_facts A.frag X.hb
  rw [X.hlc] at f6
  have hlhslt : br.lhs < s.nodes.size := by have := X.hlt; omega
  have hlhsne : br.lhs ≠ n := by omega
  have old_top : ∀ m, m < s.nodes.size → m ≠ n → (s.nodeD m).createdIn = .top →
      (s'.nodeD m).value = (s.nodeD m).value ∧ (s'.nodeD m).kind = (s.nodeD m).kind ∧
      (s'.nodeD m).valid = (s.nodeD m).valid := by
    intro m hm hne hc
    rcases L.old m hm hne with ⟨-, -, k3⟩ | ⟨k1, k2, -, k4, -⟩
    · rw [hc] at k3; cases k3
    · exact ⟨k4, k2, k1⟩
  intro b' br' hb' hst'
  by_cases eb : b' = b
  · -- the bind whose change detector ran
    subst eb
    rw [hb4, M.bind] at hb'
    have ebr' := (Option.some.inj hb').symm
    subst ebr'
    refine ⟨v, rhs, ?_, rfl, ?_⟩
    · show (s'.nodeD br.lhs).value = some v
      rw [(old_top _ hlhslt hlhsne f7).1, ← CC.started_other s hlhsne]
      exact hv
    · show ElabOf s' (env.body br.body v) v l rhs
      refine elabOf_mono (top_mono_of_eq (by rw [htop, htop1])) ?_ E
      intro m hm
      obtain ⟨m1, m2⟩ := (P.lmem m).1 hm
      have hnd : m ∉ br.allNodesCreatedOnRhs := fun hd => by
        have := (X.dyOld A hd).1; omega
      rw [(D4.old m (by rw [hsz3]; exact m2)).1, R.rel.other m hnd, Q.kind m]
  · -- another bind
    have hb0 : s.binds[b']? = some br' := by rw [← L.bindsOther.2 b' eb]; exact hb'
    obtain ⟨c1, c2, c3, c4, c5, c6, c7, c8, c9⟩ := rec_facts A.frag hb0
    have hlcne : br'.lhsChange ≠ n := by
      intro e
      rw [e, hk] at c3
      injection c3 with c3
      exact eb c3.symm
    have hlcmain : br'.lhsChange ≠ br.main := by
      intro e
      rw [e, X.hkm] at c3; cases c3
    have hlcv' : (s'.nodeD br'.lhsChange).valid = true := by
      rw [(old_top _ c1 hlcne c4).2.2]; exact c2
    have hst0 : s.isStale br'.lhsChange = false := by
      rw [← L.stale_kept g hk c1 hlcne hlcmain hlcv']; exact hst'
    have hl1 : br'.lhs < s.nodes.size := by omega
    have hl2 : br'.lhs ≠ n := by
      intro e
      exact c8 b (by rw [e]; exact hk)
    refine gen_rec G hb0 hst0 (top_mono_of_eq htop) (old_top _ hl1 hl2 c7).1 ?_
    intro m hm
    obtain ⟨d1, d2, d3⟩ := (A.frag.gen b' br' hb0 m).1 (Or.inl hm)
    have hmn : m ≠ n := by
      intro e
      rw [e, X.topN] at d3; cases d3
    rcases L.old m d1 hmn with ⟨-, -, k3⟩ | ⟨-, k2, -⟩
    · rw [d3] at k3
      injection k3 with k3
      exact absurd k3 eb
    · exact k2

end C3g

/-- **every step of a drain keeps `GenOK`** (together with the auxiliary invariant `AuxS` of a drain inside `stabilise`) -/
theorem lcStepsOK_gen (env : Env) (t : State) : LcStepsOK env (fun s => AuxS env t s ∧ GenOK env s) where
  lc fuel n b s s' r I A hk h := by
    obtain ⟨h1, h2⟩ := (lcStepsOK_auxS_F1 env t).lc fuel n b s s' r I A.1 hk h
    exact ⟨h1, h2, C3g.lc_gen I A.1.1 A.2 hk h⟩
  other fuel n s s' r I A hk h :=
    ⟨(lcStepsOK_auxS_F1 env t).other fuel n s s' r I A.1 hk h, C3g.static_gen I A.1.1 A.2 hk h⟩
  pop s s1 n I A h := ⟨(lcStepsOK_auxS_F1 env t).pop s s1 n I A.1 h, C3g.pop_gen I A.1.1 A.2 h⟩

/-- the same with `F1Inv` alone as the auxiliary invariant -/
theorem lcStepsOK_gen' (env : Env) : LcStepsOK env (fun s => F1Inv env s ∧ GenOK env s) where
  lc fuel n b s s' r I A hk h := by
    obtain ⟨h1, h2⟩ := (lcStepsOK_F1 env).lc fuel n b s s' r I A.1 hk h
    exact ⟨h1, h2, C3g.lc_gen I A.1 A.2 hk h⟩
  other fuel n s s' r I A hk h :=
    ⟨(lcStepsOK_F1 env).other fuel n s s' r I A.1 hk h, C3g.static_gen I A.1 A.2 hk h⟩
  pop s s1 n I A h := ⟨(lcStepsOK_F1 env).pop s s1 n I A.1 h, C3g.pop_gen I A.1 A.2 h⟩

/-- **a successful drain keeps `GenOK`**: from the drain invariant, the auxiliary invariant and current generations, `drainHeap` ends with all three (and an empty heap) -/
theorem drainHeap_gen {env : Env} {fuel : Nat} {t s s' : State} (I : DInv env s none) (X : AuxS env t s)
    (G : GenOK env s) (h : (drainHeap env fuel).run.run s = (.ok (), s')) :
    DInv env s' none ∧ AuxS env t s' ∧ GenOK env s' ∧ s'.rch.length = 0 ∧ FrameB s s' := by
  obtain ⟨I', ⟨X', G'⟩, he, f⟩ := drainHeap_invB (lcStepsOK_gen env t) fuel s s' I ⟨X, G⟩ h
  exact ⟨I', X', G', he, f⟩

/-- the drain in fragment F1 keeps `GenOK` -/
theorem drainHeap_gen_F1 {env : Env} {fuel : Nat} {s s' : State} (I : DInv env s none) (A : F1Inv env s)
    (G : GenOK env s) (h : (drainHeap env fuel).run.run s = (.ok (), s')) :
    DInv env s' none ∧ F1Inv env s' ∧ GenOK env s' := by
  obtain ⟨I', ⟨A', G'⟩, -, -⟩ := drainHeap_invB (lcStepsOK_gen' env) fuel s s' I ⟨A, G⟩ h
  exact ⟨I', A', G'⟩

end IncrVerif.Proofs.BindH
