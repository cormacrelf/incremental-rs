import IncrVerif.Proofs.MapRef25
import IncrVerif.Proofs.MapRef27
/-!
# map_ref fragment, part 12: every API action keeps the invariant (M2), whole histories (M3)
-/
namespace IncrVerif.Proofs.MapRefH
open IncrVerif.Engine IncrVerif.Driver IncrVerif.Proofs IncrVerif.Proofs.Step IncrVerif.Proofs.Sched IncrVerif.Proofs.Quiet

/-- **the API actions of the fragment static + map_ref.**  Node creation: `const`, `var`, `map f args` (`f < projBase`;
a user function `f < fnZip` without side effects), `fold`, `zip`, `mapRef p input` (`projBase + p < fnPerKey`), operands
naming top-level nodes; `observe` of a top-level node, `cloneObs`, `dropObs`, `disallow`; the five writes, `get`;
`stabilise`, `isStable`, `stats`. -/
def MapRefAction (env : Env) : Action → Prop
  | .create (.const _) => True
  | .create (.var _) => True
  | .create (.map f args) => f < projBase ∧ (f < fnZip → ∀ vals, env.fnEff f vals = []) ∧ ∀ a, a ∈ args → OpndOK a
  | .create (.fold _ _ cs) => ∀ a, a ∈ cs → OpndOK a
  | .create (.zip a b) => OpndOK a ∧ OpndOK b
  | .create (.mapRef p i) => projBase + p < fnPerKey ∧ OpndOK i
  | .observe n => OpndOK n
  | .cloneObs _ | .dropObs _ | .disallow _ => True
  | .set _ _ | .modify _ _ | .update _ _ | .replace _ _ | .replaceWith _ _ | .get _ => True
  | .stabilise | .isStable | .stats => True
  | _ => False

theorem MapRefAction.split {env : Env} {a : Action} (h : MapRefAction env a) (hs : a ≠ .stabilise) :
    RAction a ∧ RActionOK env a ∧ StaticAction (virtEnv env) (virtAction a) := by
  cases a <;> simp only [MapRefAction] at h <;> try exact h.elim
  case create i =>
    cases i <;> simp only [MapRefAction] at h <;> try exact h.elim
    case const v => exact ⟨trivial, trivial, trivial⟩
    case var v => exact ⟨trivial, trivial, trivial⟩
    case map f args =>
      refine ⟨trivial, ⟨h.1, h.2.1⟩, ?_, h.2.1, h.2.2⟩
      have := h.1; unfold projBase at this; unfold fnPerKey; omega
    case fold f init cs => exact ⟨trivial, trivial, h⟩
    case zip a b => exact ⟨trivial, trivial, h⟩
    case mapRef p i =>
      refine ⟨trivial, h.1, h.1, fun hf => ?_, fun a ha => ?_⟩
      · have := projBase_ge_zip; omega
      · simp only [List.mem_cons, List.mem_nil_iff, or_false] at ha; rw [ha]; exact h.2
  case observe n => exact ⟨trivial, trivial, h⟩
  case stabilise => exact absurd rfl hs
  all_goals exact ⟨trivial, trivial, trivial⟩

section
variable {env : Env} {g : Nat → Option Val} {s : State}

/-- the ghost values outside the node table are irrelevant -/
theorem virt_congr {g g' : Nat → Option Val} (h : ∀ m, m < s.nodes.size → g' m = g m) : virt g' s = virt g s := by
  unfold virt
  congr 1
  apply Array.ext
  · simp
  · intro i h1 h2
    simp only [Array.getElem_mapIdx]
    rw [h i (by simpa using h1)]

/-- the ghost values cut off at the node table -/
def cutG (g : Nat → Option Val) (s : State) : Nat → Option Val := fun m => if m < s.nodes.size then g m else none

theorem QInvR.cut (Q : QInvR env s g) : QInvR env s (cutG g s) ∧ cutG g s s.nodes.size = none := by
  have hv : virt (cutG g s) s = virt g s := virt_congr (fun m hm => by simp [cutG, hm])
  refine ⟨⟨Q.frag, by rw [hv]; exact Q.q, ?_⟩, by simp [cutG]⟩
  intro m p i hm hk hd
  have hlt := Q.frag.lt_of_mapRef hk
  simp only [cutG, hlt, if_true]
  exact Q.k m p i hm hk hd

/-- **M2: every API action of the fragment other than `stabilise` keeps the invariant.** -/
theorem actionR {a : Action} {tk : Array Nat} {r : String × Array Nat} {s' : State} (Q : QInvR env s g)
    (ha : MapRefAction env a) (hs : a ≠ .stabilise)
    (h : (stepAction env a tk).run.run s = (.ok r, s')) : ∃ g', QInvR env s' g' := by
  obtain ⟨hR, hok, hst⟩ := ha.split hs
  obtain ⟨Q0, hg0⟩ := Q.cut
  refine ⟨cutG g s, ?_⟩
  -- the virtual engine does the same
  obtain ⟨hv, -⟩ := SimAt.stepAction (g := cutG g s) env tk hg0 hR (Q0.frag.fr Q0.pinv) r s' h
  have Qv' : QInv (virtEnv env) (virt (cutG g s) s') := step_q Q0.q hst hv
  -- the actual frame
  have A : AFrame s s' := (PresA.stepAction env a tk hR).h _ _ _ h
  have RK : RKAll env s' := (PresRK.stepAction env a tk hR hok).h _ _ _ h Q0.frag.kind
  have K' : KInv env (cutG g s) s' := A.kInv Q0.frag Q0.k
  have hst' := Qv'.struct.static
  have F' : RFrag env s' := by
    refine ⟨hst'.pc, RK, fun m hm => ?_, fun m hm c hc => ?_, fun m p i hk => ?_⟩
    · have := (hst'.node m (by rw [virt_size]; exact hm)).valid
      rwa [virt_nodeD, virtNode_valid] at this
    · have := (hst'.node m (by rw [virt_size]; exact hm)).kidsLt c (by rw [virt_kids]; exact hc)
      exact this
    · have hm : m < s'.nodes.size := by
        by_cases h : m < s'.nodes.size
        · exact h
        · rw [nodeD_default_of_ge s' m (by omega)] at hk; cases hk
      have := (hst'.node m (by rw [virt_size]; exact hm)).cutoff
      rwa [virt_nodeD, virtNode_cutoff] at this
  exact ⟨F', Qv', K'⟩

/-- the invariant, with the ghost values hidden -/
def QInvRE (env : Env) (s : State) : Prop := ∃ g, QInvR env s g

/-- **M2.** Every API action of the fragment that returns keeps the invariant. -/
theorem stepR {a : Action} {tk : Array Nat} {r : String × Array Nat} {s' : State} (Q : QInvRE env s)
    (ha : MapRefAction env a) (h : (stepAction env a tk).run.run s = (.ok r, s')) : QInvRE env s' := by
  obtain ⟨g, Q⟩ := Q
  by_cases hs : a = .stabilise
  · subst hs
    obtain ⟨g', R⟩ := stabiliseR Q (step_stabilise h)
    exact ⟨g', R.inv⟩
  · exact actionR Q ha hs h

end

/-! ## the initial state, histories -/

theorem virt_init (g : Nat → Option Val) (N : Nat) (d : Bool) : virt g (State.init N d) = State.init N d := by
  unfold virt; congr 1

theorem init_invR (env : Env) (N : Nat) (d : Bool) : QInvRE env (State.init N d) := by
  refine ⟨fun _ => none, ⟨rfl, fun n hn => ?_, fun n hn => ?_, fun n hn => ?_, fun n p i hk => ?_⟩, ?_, ?_⟩
  · simp [State.init] at hn
  · simp [State.init] at hn
  · simp [State.init] at hn
  · rw [init_nodeD] at hk; cases hk
  · rw [virt_init]; exact qinv_init _ N d
  · intro m p i hm
    rw [State.isNecessary, init_nodeD] at hm; cases hm

/-- **M3 (a).** A history of actions of the fragment that runs without panic from a state satisfying the invariant
ends in a state satisfying it. -/
theorem runActionsR {env : Env} {acts : List Action} {s s' : State} {tk tk' : Array Nat}
    (Q : QInvRE env s) (ha : ∀ a, a ∈ acts → MapRefAction env a)
    (h : runActions env acts s tk = .ok (s', tk')) : QInvRE env s' :=
  Hist.runActions_inv_all (fun _ _ _ _ _ Q ha hx => stepR Q ha hx) Q ha h

end IncrVerif.Proofs.MapRefH
