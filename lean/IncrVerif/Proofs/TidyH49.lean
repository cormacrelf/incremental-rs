import IncrVerif.Proofs.TidyH48
import IncrVerif.Proofs.TidyH36
import IncrVerif.Proofs.TidyH43
/-!
# T4, `addDep` returns (part 2): `stateAddParent` on the opened expert node returns; the headline `addDep_totalX`
-/
namespace IncrVerif.Proofs.TidyH.XT
open IncrVerif.Engine IncrVerif.Driver IncrVerif.Proofs IncrVerif.Proofs.Step IncrVerif.Proofs.Sched
open IncrVerif.Proofs.ExpertH IncrVerif.Proofs.ExpertH.QR

namespace X4i

/-- `stateAddParent c k n` on the opened node `n` (its `k`-th child edge is the new one) RETURNS: the linking cascade,
`adjustHeights`, the (empty) invalidity propagation and the heap insertion.  `s4` is the state before the insertion. -/
theorem sap_totX {env : Env} {rk' : Nat → Nat} {N fuel n c k : Nat} {s2 : State}
    (frr2 : XR.FrR s2) (hA2 : AhhEmpty s2)
    (I2 : GInv (virtEnv env) rk' (virt s2) (upd allClosed n (.linking k)))
    (hb2 : HBd (virt s2) (upd allClosed n (.linking k))) (room2 : Room N (virt s2))
    (hkid2 : (kids ((virt s2).nodeD n).kind)[k]? = some c)
    (hother2 : ∀ c' i, (n, i) ∈ ((virt s2).nodeD c').parents →
      ((virt s2).nodeD c').height < ((virt s2).nodeD n).height)
    (hg2 : ((virt s2).nodeD n).inRch = true → ((virt s2).nodeD n).heightInRch = ((virt s2).nodeD n).height)
    (h02 : 0 ≤ ((virt s2).nodeD n).height)
    (hbn2 : ((virt s2).nodeD n).height ≤ (dp (virt s2) n : Int) + 1)
    (hst2 : staleOf (virt s2) n = true)
    (hf : 3 * s2.nodes.size + 4 ≤ fuel) :
    Tot (stateAddParent env fuel c k n) s2 (fun _ s5 => ∃ s4,
      HBd (virt s4) allClosed ∧ Room N (virt s4) ∧ TK (virt s2) (virt s4) ∧
      n < s4.nodes.size ∧ s4.needsToBeComputed n = true ∧ 0 ≤ (s4.nodeD n).height ∧
      (s4.nodeD n).height ≤ s4.rch.maxAllowed ∧
      (s5 = s4 ∨ ((s4.nodeD n).inRch = false ∧ s5 = inserted n (s4.nodeD n).height s4))) := by
  have hop2 : upd allClosed n (.linking k) n = .linking k := upd_self ..
  have hcn : rk' c < rk' n := I2.kid_lt hkid2
  have hlow : ∀ m, upd allClosed n (.linking k) m ≠ .closed → rk' c < rk' m := by
    intro m hm
    by_cases e : m = n
    · rw [e]; exact hcn
    · rw [upd_other _ _ _ e] at hm; exact absurd rfl hm
  have hnn2 : (virt s2).isNecessary n = true := I2.lnec n k hop2
  have hn2v : n < (virt s2).nodes.size := nec_lt_size hnn2
  have hc2v : c < (virt s2).nodes.size := (I2.static.node n hn2v).kidsIn c (getElem?_mem_kids hkid2)
  have hfuel1 : 2 * dp (virt s2) c + 3 ≤ fuel := by
    have h1 := dp_lt_size I2.static hc2v
    rw [virt_size] at h1
    omega
  unfold stateAddParent
  refine Tot.bind_get ?_
  refine Tot.bind_dassert (fun _ => by rw [← virt_isNecessary]; exact hnn2) ?_
  -- the linking cascade
  obtain ⟨u, t3, hv3, hb3⟩ := addParent_totalR I2 hb2 room2 hop2 hkid2 hlow hfuel1
  obtain ⟨s3, hap, e3, frr3⟩ := XR.SimR.addParentWithoutAdjustingHeights env fuel c k n s2 frr2 u t3 hv3
  rw [e3] at hv3 hb3
  clear e3 t3
  refine Tot.bind_ok hap ?_
  rw [upd_upd] at hb3
  obtain ⟨I3, hn3, cf3, hp3, hedge3, hother3⟩ := link_phase I2 hkid2 hother2 hv3
  have hA3 : AhhEmpty s3 :=
    ahhEmpty_of_ahf hA2 ((PresAh.addParentWithoutAdjustingHeights env fuel c k n).h _ _ _ hap)
  have room3 : Room N (virt s3) := room2.of_cframe cf3
  have K3 : TK (virt s2) (virt s3) := TK.of_cframe cf3
  have hop3 : upd allClosed n (.linking (k + 1)) n = .linking (k + 1) := upd_self ..
  have hg3 : ((virt s3).nodeD n).inRch = true →
      ((virt s3).nodeD n).heightInRch = ((virt s3).nodeD n).height := by rw [hn3]; exact hg2
  have h03 : 0 ≤ ((virt s3).nodeD n).height := by rw [hn3]; exact h02
  have hsz3 : s3.nodes.size = s2.nodes.size := by have := cf3.size; rwa [virt_size, virt_size] at this
  have hn3' : n < s3.nodes.size := by rw [hsz3]; rwa [virt_size] at hn2v
  have hc3' : c < s3.nodes.size := by rw [hsz3]; rwa [virt_size] at hc2v
  have hst3 : staleOf (virt s3) n = true := by
    rw [staleOf_restKey (fun m => restKey_of_nodeKey (cf3.node m)) K3.vars]; exact hst2
  refine Tot.bind_getNode hc3' ?_
  refine Tot.bind_getNode hn3' ?_
  dsimp only
  -- the end of the call, from the state `s4` after the height phase
  have fin : ∀ s4, XR.FrR s4 → GInv (virtEnv env) rk' (virt s4) (upd allClosed n (.linking (k + 1))) →
      (∀ m, (virt s4).isNecessary m = true → ((virt s4).nodeD m).height ≤ (dp (virt s4) m : Int) + 1) →
      Room N (virt s4) → TK (virt s3) (virt s4) →
      (∀ m, restKey ((virt s4).nodeD m) = restKey ((virt s3).nodeD m)) →
      0 ≤ ((virt s4).nodeD n).height →
      Tot (do propagateInvalidity fuel
              dassert ((← get).isNecessary n) "node:state_add_parent:parent-necessary"
              let p ← getNode n
              let c ← getNode c
              if !p.inRch && (p.recomputedAt == -1 || c.changedAt > p.recomputedAt) then
                rchInsert n : M Unit) s4 (fun _ s5 => ∃ s4,
        HBd (virt s4) allClosed ∧ Room N (virt s4) ∧ TK (virt s2) (virt s4) ∧
        n < s4.nodes.size ∧ s4.needsToBeComputed n = true ∧ 0 ≤ (s4.nodeD n).height ∧
        (s4.nodeD n).height ≤ s4.rch.maxAllowed ∧
        (s5 = s4 ∨ ((s4.nodeD n).inRch = false ∧ s5 = inserted n (s4.nodeD n).height s4))) := by
    intro s4 frr4 I4 hbd4 room4 K4 hrk4 h04
    have hnn4 : (virt s4).isNecessary n = true := I4.lnec n _ hop3
    have hn4v : n < (virt s4).nodes.size := nec_lt_size hnn4
    have hn4 : n < s4.nodes.size := by rwa [virt_size] at hn4v
    have hc4 : c < s4.nodes.size := by
      have := K4.size; rw [virt_size, virt_size] at this; rw [this]; exact hc3'
    have hst4 : staleOf (virt s4) n = true := by rw [staleOf_restKey hrk4 K4.vars]; exact hst3
    have hnec4 : s4.isNecessary n = true := by rw [← virt_isNecessary]; exact hnn4
    have hstale : s4.isStale n = true := by rw [← virt_isStale, GInv.isStale I4 hn4v]; exact hst4
    have hntc : s4.needsToBeComputed n = true := by
      unfold State.needsToBeComputed; rw [hstale, hnec4]; rfl
    have h04' : 0 ≤ (s4.nodeD n).height := by rw [virt_nodeD] at h04; exact h04
    have hmax : (s4.nodeD n).height ≤ s4.rch.maxAllowed := by
      have h1 := hbd4 n hnn4
      rw [virt_nodeD] at h1
      have h1' : (s4.nodeD n).height ≤ (dp (virt s4) n : Int) + 1 := h1
      have h2 := dp_room I4.static room4 hn4v
      have h3 : s4.rch.maxAllowed = (N : Int) := room4.rch
      omega
    refine (sap_tail_tot frr4.fr.pinv (by omega) hn4 hc4 hnec4 hntc h04' hmax).mono ?_
    intro _ s5 h5
    exact ⟨s4, fun m hm _ => hbd4 m hm, room4, K3.trans K4, hn4, hntc, h04', hmax, h5⟩
  by_cases hge : (s3.nodeD c).height ≥ (s3.nodeD n).height
  · rw [if_pos hge]
    have hge' : ((virt s3).nodeD n).height ≤ ((virt s3).nodeD c).height := by
      rw [virt_nodeD, virt_nodeD]; exact hge
    obtain ⟨u4, t4, hv4, I4, -, hr, -, -, -, hbd4, room4⟩ := adjustHeights_totalR I3 hb3 room3 ⟨_, hop3⟩
      (fun m hm => upd_other _ _ _ hm) ⟨_, hedge3⟩ hother3 hg3 (ahhEmpty_virt.2 hA3) hge' h03
      (fuel := fuel) (by rw [virt_size]; omega)
    obtain ⟨s4, hadj, e4, frr4⟩ := XR.SimR.adjustHeights c n fuel s3 frr3 u4 t4 hv4
    rw [e4] at I4 hr hbd4 room4
    refine Tot.bind_ok hadj (fin s4 frr4 I4 hbd4 room4 (TK.of_hrel hr) (fun m => restKey_of_nodeKey (hr.node m))
      (Int.le_trans h03 (hr.height n)))
  · rw [if_neg hge]
    refine fin s3 frr3 I3 ?_ room3 (TK.refl _) (fun _ => rfl) h03
    intro m hm
    by_cases e : m = n
    · rw [e, hn3, dp_of_cframe cf3]; exact hbn2
    · exact hb3 m hm (upd_other _ _ _ e)

/-! ## the node is necessary -/

theorem addDep_totalX_nec {env : Env} {rk : Nat → Nat} {N fuel n c e : Nat} {cb : Bool} {s : State} {nd : Node}
    {er : ExpertRec} (Q : QInvX env rk s) (T : TInvX N s) (hx : Xp.IsExpert s n nd e er)
    (hnec : nd.isNecessary = true) (hc : c < s.nodes.size) (hacyc : ¬ Below s c n)
    (hf : 3 * s.nodes.size + 4 ≤ fuel) :
    ∃ dep s', (expertAddDependency env fuel n c cb).run.run s = (.ok dep, s') ∧ (∃ rk', QInvX env rk' s') ∧
      TInvX N s' ∧ s'.nodes.size = s.nodes.size ∧ s'.vars.size = s.vars.size ∧
      s'.observers.size = s.observers.size ∧ s'.top = s.top := by
  have F := Q.frag
  have Qv := Q.q
  have hD : s.nodeD n = nd := nodeD_of_some hx.node
  have hk : (s.nodeD n).kind = .expert e := by rw [hD]; exact hx.kind
  have hfac := expertAddDependency_necessary_factor env fuel n c cb hx hnec
  obtain ⟨rk', A2⟩ := allStatic_added (cb := cb) F Qv.struct.static hk hx.xrec hc hacyc
  have R := rekind_added (c := c) (cb := cb) F hk hx.xrec
  have F2 : XFrag env (addedState e er c cb s) := F.added hx.xrec
  have hnn : (virt s).isNecessary n = true := by
    rw [virt_isNecessary]; simp only [State.isNecessary, hD]; exact hnec
  have hkids0 : kids ((virt s).nodeD n).kind = er.children.map (·.child) := virt_kids_expert hk hx.xrec
  have hst2 := staleOf_added R
  have I2 := GInv.open_extend Qv.struct R A2 hnn (c := c) (by rw [hkids0]; rfl) hst2
  have hklen : (kids ((virt s).nodeD n).kind).length = er.children.length := by rw [hkids0, List.length_map]
  rw [hklen] at I2
  have hmem : ∀ x, x ∈ kids ((virt s).nodeD n).kind → x ∈ kids (addedKind er c) := by
    intro x hx'
    rw [hkids0] at hx'
    rw [kids_addedKind]
    exact List.mem_append_left _ hx'
  have hb2 : HBd (virt (addedState e er c cb s)) (upd allClosed n (.linking er.children.length)) :=
    HBd_rekind T.hb R hmem (fun _ _ => rfl)
  have room2 : Room N (virt (addedState e er c cb s)) := Room.of_rekind T.room R rfl
  have K2 : TK (virt s) (virt (addedState e er c cb s)) := TK.of_rekind R
  have hbn2 : ((virt (addedState e er c cb s)).nodeD n).height ≤
      (dp (virt (addedState e er c cb s)) n : Int) + 1 := by
    rw [R.height]
    have h1 := T.hb n hnn rfl
    have h2 := dp_le_rekind R hmem n
    omega
  have hA2 : AhhEmpty (addedState e er c cb s) := ahhEmpty_of_ahf Q.ahh (AhF.of_nodes rfl rfl)
  generalize hs2 : addedState e er c cb s = s2 at hfac R F2 A2 I2 hst2 hb2 room2 K2 hbn2 hA2
  have hkind2 : ((virt s2).nodeD n).kind = addedKind er c := R.kind_self
  have hkid2 : (kids ((virt s2).nodeD n).kind)[er.children.length]? = some c := by
    rw [hkind2, kids_addedKind]
    rw [List.getElem?_append_right (by rw [List.length_map]; exact Nat.le_refl _)]
    simp
  have hother2 : ∀ c' i, (n, i) ∈ ((virt s2).nodeD c').parents →
      ((virt s2).nodeD c').height < ((virt s2).nodeD n).height := by
    intro c' i hm
    rw [R.parents] at hm
    rw [R.height, R.height]; exact Qv.struct.hlt c' n i hm rfl
  have hg2 : ((virt s2).nodeD n).inRch = true → ((virt s2).nodeD n).heightInRch = ((virt s2).nodeD n).height := by
    intro hq
    rw [R.inRch] at hq
    rw [R.heightInRch, R.height]; exact Qv.struct.hgt n hq rfl
  have h02 : 0 ≤ ((virt s2).nodeD n).height := by rw [R.height]; exact Qv.struct.hpos n hnn rfl
  have QR2 : QRest (virtEnv env) (virt s2) :=
    QRest.rekind (QInv.rest Qv) R hst2 (fun c' => by simp [addedKind])
      (fun c' => by rw [virt_nodeD, virtNode_kind, hk]; simp [virtKind])
  have hp2 : s2.propagateInvalidity = [] := QR2.pinv
  have frr2 : XR.FrR s2 := XR.FrR.of_frag F2 hp2
  have hsz2 : s2.nodes.size = s.nodes.size := by have := R.size; rwa [virt_size, virt_size] at this
  -- the run
  have T5 : Tot (do stateAddParent env fuel c er.children.length n
                    dassert ((← get).needsToBeComputed n) "node:expert_add_dependency:needs-to-be-computed"
                    if !(← getNode n).inRch then rchInsert n
                    pure s.nextDep : M Nat) s2 (fun _ s' => TInvX N s' ∧ Same s s') := by
    refine Tot.bind (sap_totX frr2 hA2 I2 hb2 room2 hkid2 hother2 hg2 h02 hbn2 hst2 (by rw [hsz2]; exact hf)) ?_
    rintro _ s5 - ⟨s4, hb4, room4, K4, hn4, hntc4, h04, hmax4, h5⟩
    have T4 : TInvX N s4 := TInvR.of_tk T (K2.trans K4) hb4 room4
    have S4 : Same s s4 := same_of_tk (K2.trans K4)
    rcases h5 with rfl | ⟨hq, rfl⟩
    · refine (expert_tail_tot hn4 hntc4 (fun _ => ⟨h04, hmax4⟩)).mono ?_
      rintro _ s' (⟨-, rfl⟩ | ⟨-, rfl⟩)
      · exact ⟨T4, S4⟩
      · exact ⟨tinvX_inserted T4, S4.inserted _ _⟩
    · have hq5 : ((inserted n (s4.nodeD n).height s4).nodeD n).inRch = true :=
        IncrVerif.Proofs.ExpertH.inserted_inRch hn4 h04
      refine (expert_tail_tot (s5 := inserted n (s4.nodeD n).height s4) (by rw [inserted_size]; exact hn4)
        (by rw [inserted_needsToBeComputed]; exact hntc4) (fun h => by rw [hq5] at h; cases h)).mono ?_
      rintro _ s' (⟨-, rfl⟩ | ⟨hq', -⟩)
      · exact ⟨tinvX_inserted T4, S4.inserted _ _⟩
      · rw [hq5] at hq'; cases hq'
  obtain ⟨dep, s', hrun, hT, hS⟩ := T5
  have hrun0 : (expertAddDependency env fuel n c cb).run.run s = (.ok dep, s') := by rw [hfac]; exact hrun
  obtain ⟨rk'', F', Q', A'⟩ := addDep_nec F Qv Q.ahh hx hnec hc hacyc hrun0
  exact ⟨dep, s', hrun0, ⟨rk'', ⟨F', Q', A'⟩⟩, hT, hS⟩

end X4i

/-- **`addDep` returns** on the states of the expert fragment X1 (the new edge closes no cycle, `3 * #nodes + 4` fuel),
and keeps the invariant between actions and the extra invariant `TInvX` -/
theorem addDep_totalX {env : Env} {rk : Nat → Nat} {N fuel n c e : Nat} {cb : Bool} {s : State} {nd : Node}
    {er : ExpertRec} (Q : QInvX env rk s) (T : TInvX N s) (hx : Xp.IsExpert s n nd e er)
    (hc : c < s.nodes.size) (hacyc : ¬ Below s c n) (hf : 3 * s.nodes.size + 4 ≤ fuel) :
    ∃ dep s', (expertAddDependency env fuel n c cb).run.run s = (.ok dep, s') ∧ (∃ rk', QInvX env rk' s') ∧
      TInvX N s' ∧ s'.nodes.size = s.nodes.size ∧ s'.vars.size = s.vars.size ∧
      s'.observers.size = s.observers.size ∧ s'.top = s.top := by
  cases hnec : nd.isNecessary
  · exact X4i.addDep_totalX_unnec Q T hx hnec hc hacyc
  · exact X4i.addDep_totalX_nec Q T hx hnec hc hacyc hf

end IncrVerif.Proofs.TidyH.XT
