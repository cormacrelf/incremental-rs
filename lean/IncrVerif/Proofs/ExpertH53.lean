import IncrVerif.Proofs.ExpertH52
/-!
# Expert nodes (fragment X1): the value of an expert node after `stabilise`, in plain terms
-/
namespace IncrVerif.Proofs.ExpertH
open IncrVerif.Engine IncrVerif.Driver IncrVerif.Proofs IncrVerif.Proofs.Step IncrVerif.Proofs.Sched
open IncrVerif.Proofs.ExpertH.QR IncrVerif.Proofs.Xp

/-- from-scratch evaluation of an expert node: the closure folded over the evaluations of its current dependencies -/
theorem evalX_expert (env : Env) (s : State) (k n e : Nat) (hk : (s.nodeD n).kind = .expert e) :
    evalX env s (k + 1) n =
      (evalArgs (fun a => evalX env s k a) ((xRec s.experts e).children.map (·.child))).map
        (List.foldl (xStep (xRec s.experts e).f) (.int 0)) := by
  rw [evalX, hk]

/-- a necessary expert node with a "sum" closure whose dependencies read their from-scratch values carries their sum -/
theorem expert_value_of {env E : Env} {rk : Nat → Nat} {s' : State} (I : Struct E rk (virt s'))
    (values : ∀ n, s'.isNecessary n = true → ∀ k, (s'.nodeD n).height.toNat < k →
      s'.isStale n = false ∧ s'.value env n = evalX env s' k n ∧ (evalX env s' k n).isSome = true)
    {n e : Nat} {er : ExpertRec} (hn : s'.isNecessary n = true) (hk : (s'.nodeD n).kind = .expert e)
    (hx : s'.experts[e]? = some er) :
    ∃ vals : List Val, er.children.map (fun ed => s'.value env ed.child) = vals.map some ∧
      s'.value env n = some (.int (emod ((vals.map Val.toInt).foldl (· + ·) 0) ((er.f / 10 : Nat) : Int))) := by
  have hnv : (virt s').isNecessary n = true := by rw [virt_isNecessary]; exact hn
  have h0 : 0 ≤ (s'.nodeD n).height := by
    have := I.hpos n hnv rfl; rwa [virt_nodeD] at this
  obtain ⟨-, hv, hs⟩ := values n hn ((s'.nodeD n).height.toNat + 1) (Nat.lt_succ_self _)
  rw [evalX_expert env s' _ n e hk, xRec_some hx] at hv hs
  -- the children read their own from-scratch values
  have hkids : kids ((virt s').nodeD n).kind = er.children.map (·.child) := virt_kids_expert hk hx
  have hchild : ∀ c, c ∈ er.children.map (·.child) →
      evalX env s' (s'.nodeD n).height.toNat c = s'.value env c := by
    intro c hc
    obtain ⟨i, hi⟩ := List.getElem?_of_mem hc
    rw [← hkids] at hi
    have hm := I.conv n i c hi ((wants_closed rfl).2 hnv)
    have hcn : (virt s').isNecessary c = true := nec_of_mem_parents hm
    have hlt := I.hlt c n i hm rfl
    rw [virt_nodeD, virt_nodeD, virtNode_height, virtNode_height] at hlt
    have hc0 : 0 ≤ (s'.nodeD c).height := by
      have := I.hpos c hcn rfl; rwa [virt_nodeD] at this
    have hcn' : s'.isNecessary c = true := by rw [← virt_isNecessary]; exact hcn
    exact ((values c hcn' _ (by omega)).2.1).symm
  have hcg := evalArgs_congr (s'.value env) (fun a => evalX env s' (s'.nodeD n).height.toNat a) _
    (fun a ha => hchild a ha)
  rw [hcg] at hv hs
  cases hev : evalArgs (s'.value env) (er.children.map (·.child)) with
  | none => rw [hev] at hs; cases hs
  | some vals =>
    rw [hev] at hv
    refine ⟨vals, ?_, ?_⟩
    · have := evalArgs_map hev
      rw [List.map_map] at this
      exact this
    · rw [hv]; simp only [Option.map_some]; rw [foldl_xStep]

/-- **C14, value clause.** In a state `s'` reached by a `stabilise` of the fragment: a NECESSARY expert node `n`
with record `er` (closure "sum mod m", `m = er.f / 10`) carries the sum, modulo `m`, of the CURRENT values of its
CURRENT dependencies `er.children` (in edge order, duplicates counted), all of which have a value. -/
theorem expert_value_sum {env : Env} {rk : Nat → Nat} {fuel : Nat} {s s' : State} (R : StabilisedX env rk fuel s s')
    {n e : Nat} {er : ExpertRec} (hn : s'.isNecessary n = true) (hk : (s'.nodeD n).kind = .expert e)
    (hx : s'.experts[e]? = some er) :
    ∃ vals : List Val, er.children.map (fun ed => s'.value env ed.child) = vals.map some ∧
      s'.value env n = some (.int (emod ((vals.map Val.toInt).foldl (· + ·) 0) ((er.f / 10 : Nat) : Int))) :=
  expert_value_of R.inv.q.struct R.values hn hk hx

end IncrVerif.Proofs.ExpertH
