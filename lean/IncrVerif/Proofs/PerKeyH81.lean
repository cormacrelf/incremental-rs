import IncrVerif.Proofs.PerKeyH80
/-!
# Per-key operators, `stabilise`, part 5: `stabSpecP`

The four phases of `stabilise env fuel`: the prefix (`stab_startP`), the drain (the contract `DrainSpecP env`), the end
(`stabiliseEnd_fin`, `KP.stabiliseEnd`, `stab_endP`); the output by the semantic theorem (hypothesis `hOut`).
-/
namespace IncrVerif.Proofs.PerKeyH
open IncrVerif.Engine IncrVerif.Driver IncrVerif.Proofs IncrVerif.Proofs.Step IncrVerif.Proofs.Sched
open IncrVerif.Proofs.ExpertH IncrVerif.Proofs.EffH IncrVerif.Proofs.DriverH IncrVerif.Proofs.ExpertH.QR

/-- with the invariant between API actions and an empty recompute heap every necessary node is not stale -/
theorem pq_settled {env : Env} {rk : Nat → Nat} {s : State} (Q : PQ env rk s) (he : s.rch.length = 0)
    (n : Nat) (hn : s.isNecessary n = true) : s.isStale n = false := by
  cases hst : s.isStale n with
  | false => rfl
  | true =>
    have S := Q.q.struct
    have := (S.queued_iff n).2 ⟨by rw [V_isNecessary]; exact hn, by rw [V_isStale]; exact hst⟩
    have he' : (V s).rch.length = 0 := he
    rw [S.heapInv.empty he' n] at this; cases this

/-- no observer is waiting to be added or unlinked -/
theorem pq_obsSettled {env : Env} {rk : Nat → Nat} {s : State} (Q : PQ env rk s)
    (hno : s.newObservers = []) (hdo : s.disallowedObservers = []) : ObsSettled s := by
  have O' : ObsInv (V s) [] [] := by
    have := Q.q.obs
    unfold ObsOK at this
    have e1 : (V s).newObservers = [] := hno
    have e2 : (V s).disallowedObservers = [] := hdo
    rw [e1, e2] at this
    exact this
  intro o ob ho
  have ho' : (V s).observers[o]? = some ob := ho
  cases hst : ob.state with
  | inUse => exact Or.inl rfl
  | unlinked => exact Or.inr rfl
  | created => have := O'.created o ob ho' hst; cases this
  | disallowed => have := (O'.dis o ob ho').1 hst; cases this

/-- **`stabilise` with per-key operators**, from the drain contract and the semantic theorem. -/
theorem stabSpecP (env : Env) (hDrain : DrainSpecP env)
    (hOut : ∀ (s : State) (rk : Nat → Nat), PQ env rk s → (∀ n, s.isNecessary n = true → s.isStale n = false) →
      OutputOK env s) :
    StabSpecP env := by
  intro rk fuel s s' Q h
  obtain ⟨t1, t2, t3, -, h1, h2, h3, h4⟩ := stabilise_phases.1 h
  obtain ⟨s0, hs0⟩ : ∃ s0 : State, s0 = { s with status := .stabilising } := ⟨_, rfl⟩
  rw [← hs0] at h1
  have Qv := Q.q
  have hs0V : V s0 = { V s with status := .stabilising } := by rw [hs0]; rfl
  -- the prefix
  obtain ⟨D2, N2, O2, hn2, hd2, P⟩ := stab_startP Q hs0 h1 h2
  -- the drain
  obtain ⟨D3, N3, he3, f3, hnd⟩ := hDrain fuel t2 t3 D2 N2 h3
  obtain ⟨k_vars, k_stab, k_obs, -, -, k_sds, k_dead, -, -, -⟩ := eKey_inv f3.key
  -- the end
  have hvars2 : t2.vars = s.vars := by
    have := P.vars; rw [hs0V] at this; exact this
  have hstab2 : t2.stabNum = s.stabNum := by
    have := P.stabNum; rw [hs0V] at this; exact this
  have hsize2 : t2.nodes.size = s.nodes.size := by
    have := P.size; rw [V_size, V_size, hs0] at this; exact this
  have hsds : t3.setDuringStab = [] := by
    rw [k_sds]
    have := P.setDuringStab; rw [hs0V] at this
    exact this.trans Qv.setDuringStab
  have hdead : t3.deadVars = [] := by
    rw [k_dead]
    have := P.deadVars; rw [hs0V] at this
    exact this.trans Qv.deadVars
  have hobs3 : ∀ (o : Nat) (ob : ObsRec), t3.observers[o]? = some ob → ob.handlers = [] := by
    intro o ob ho
    rw [k_obs] at ho
    exact (O2.inRange o ob ho).2
  have E := stabiliseEnd_fin (env := env) (fuel := fuel) (s := t3) (s' := s') hsds hdead hobs3 h4
  have hpk : s'.perkeys = t3.perkeys := (KP.stabiliseEnd env fuel).h _ _ _ h4
  have hal : t2.alive = true := by
    have := P.alive; rw [hs0V] at this
    exact this.trans Qv.alive
  obtain ⟨⟨rk', Q'⟩, hno', hdo'⟩ := stab_endP D3 N3 f3 O2 hn2 hd2 hal E hpk
  have he' : s'.rch.length = 0 := by rw [E.rch]; exact he3
  have hset := pq_settled Q' he'
  exact ⟨⟨rk', Q'⟩, hset, hOut s' rk' Q' hset, pq_obsSettled Q' hno' hdo', by rw [E.vars, k_vars, hvars2],
    by rw [E.stabNum, k_stab, hstab2], by rw [E.size, ← hsize2]; exact f3.grow,
    ⟨t1, t2, t3, by rw [← hs0]; exact h1, h2, D2, h3, D3, he3, hnd, h4⟩⟩

end IncrVerif.Proofs.PerKeyH
