import IncrVerif.Proofs.CutH7
-- static programs with ARBITRARY cutoffs; `Proofs/Quiet2.lean` (default cutoffs) takes its lemmas from this file; overview in Props/C06History.lean
/-!
# Part 2: single updates of one node, and what they do to `GInv` (pure step lemmas)
-/
namespace IncrVerif.Proofs.CutH
open IncrVerif.Engine IncrVerif.Proofs IncrVerif.Proofs.Step IncrVerif.Proofs.Sched

/-- `s'` is `s` with node `n` replaced by `f` of it, as far as the invariant can see -/
structure NodeUpd (n : Nat) (f : Node → Node) (s s' : State) : Prop where
  lt : n < s.nodes.size
  pc : s'.panicCountdown = s.panicCountdown
  scope : s'.currentScope = s.currentScope
  size : s'.nodes.size = s.nodes.size
  rch : s'.rch = s.rch
  vars : s'.vars = s.vars
  other : ∀ m, m ≠ n → NodeG (s.nodeD m) (s'.nodeD m)
  self : NodeG (f (s.nodeD n)) (s'.nodeD n)

theorem NodeUpd.modify {n : Nat} (f : Node → Node) {s : State} (h : n < s.nodes.size) :
    NodeUpd n f s { s with nodes := s.nodes.modify n f } := by
  refine ⟨h, rfl, rfl, by simp, rfl, rfl, fun m hm => ?_, ?_⟩
  · rw [nodeD_modify, if_neg (fun e => hm e.1.symm)]; exact NodeG.refl _
  · rw [nodeD_modify, if_pos ⟨rfl, h⟩]; exact NodeG.refl _

theorem NodeG.trans {a b c : Node} (h1 : NodeG a b) (h2 : NodeG b c) : NodeG a c :=
  ⟨h2.valid.trans h1.valid, h2.kind.trans h1.kind, h2.cutoff.trans h1.cutoff, h2.createdIn.trans h1.createdIn,
   h2.forceNecessary.trans h1.forceNecessary, h2.parents.trans h1.parents, h2.observers.trans h1.observers,
   h2.height.trans h1.height, h2.heightInRch.trans h1.heightInRch, h2.recomputedAt.trans h1.recomputedAt,
   h2.changedAt.trans h1.changedAt⟩

theorem SameG.trans {a b c : State} (h1 : SameG a b) (h2 : SameG b c) : SameG a c :=
  ⟨h2.pc.trans h1.pc, h2.scope.trans h1.scope, h2.size.trans h1.size, h2.rch.trans h1.rch,
   h2.vars.trans h1.vars, fun m => (h1.node m).trans (h2.node m)⟩

theorem NodeUpd.then_same {n : Nat} {f : Node → Node} {s s1 s2 : State} (h1 : NodeUpd n f s s1)
    (h2 : SameG s1 s2) : NodeUpd n f s s2 :=
  ⟨h1.lt, h2.pc.trans h1.pc, h2.scope.trans h1.scope, h2.size.trans h1.size, h2.rch.trans h1.rch,
   h2.vars.trans h1.vars, fun m hm => (h1.other m hm).trans (h2.node m), h1.self.trans (h2.node n)⟩

/-- the fields of `f x` the invariant reads only depend on those of `x` -/
def RespG (f : Node → Node) : Prop := ∀ a b, NodeG a b → NodeG (f a) (f b)

theorem NodeUpd.after_same {n : Nat} {f : Node → Node} {s s1 s2 : State} (hf : RespG f) (h1 : SameG s s1)
    (h2 : NodeUpd n f s1 s2) : NodeUpd n f s s2 :=
  ⟨by rw [← h1.size]; exact h2.lt, h2.pc.trans h1.pc, h2.scope.trans h1.scope, h2.size.trans h1.size,
   h2.rch.trans h1.rch, h2.vars.trans h1.vars, fun m hm => (h1.node m).trans (h2.other m hm),
   (hf _ _ (h1.node n)).trans h2.self⟩

/-! ## the update functions -/

def fParents (l : List (Nat × Nat)) : Node → Node := fun x => { x with parents := l }
def fHeight (h : Int) : Node → Node := fun x => { x with height := h }
def fObservers (l : List Nat) : Node → Node := fun x => { x with observers := l }

/-! ## heap lemmas -/

/-- inserting a node that is not queued keeps `HeapG` -/
theorem HeapG.inserted {s : State} (h : HeapG s) {p : Nat} {x : Int} (hp : p < s.nodes.size)
    (hnot : (s.nodeD p).inRch = false) (h0 : 0 ≤ x) (hmax : x ≤ s.rch.maxAllowed) :
    HeapG (inserted p x s) := by
  have hnd := some_of_lt hp
  have hw := (HWF_release_iff s).2 h.wf
  have hmk : markerOf s.nodes p = -1 := hw.marker_neg hnd hnot
  obtain ⟨⟨hb, hl⟩, -⟩ := hw
  have hb0 : BucketsOK s.rch.queues (setMk p (-1) (markerOf s.nodes)) := by
    rw [setMk_self p _ _ hmk]; exact hb
  have hh : x.toNat < s.rch.queues.size := by
    simp only [Heap.maxAllowed] at hmax; omega
  obtain ⟨hb', hs'⟩ := BucketsOK.link hb0 x.toNat hh
  have e : ((x.toNat : Nat) : Int) = x := by omega
  rw [e] at hb'
  have key : ∀ m, (IncrVerif.Proofs.inserted p x s).nodeD m =
      if m = p then { s.nodeD m with heightInRch := x } else s.nodeD m := by
    intro m
    rw [inserted_nodeD]
    by_cases e : m = p
    · subst e; rw [if_pos ⟨rfl, hp⟩, if_pos rfl]
    · have : ¬ (p = m ∧ m < s.nodes.size) := fun h => e h.1.symm
      rw [if_neg this, if_neg e]
  refine ⟨?_, ?_, ?_⟩
  · rw [← HWF_release_iff]
    refine ⟨⟨?_, ?_⟩, by simp⟩
    · show BucketsOK (s.rch.queues.modify x.toNat (· ++ [p]))
        (markerOf (s.nodes.modify p fun y => { y with heightInRch := x }))
      rw [markerOf_modify_set _ _ _ hp]; exact hb'
    · show s.rch.length + 1 = bucketSum (s.rch.queues.modify x.toNat (· ++ [p]))
      rw [hs', hl]
  · intro m hq
    rw [key] at hq ⊢
    show (if x < s.rch.lowerBound then x else s.rch.lowerBound) ≤ _
    by_cases e : m = p
    · rw [if_pos e]
      show _ ≤ x
      split <;> omega
    · rw [if_neg e] at hq ⊢
      have := h.lb m hq
      split <;> omega
  · show 0 ≤ (if x < s.rch.lowerBound then x else s.rch.lowerBound)
    have := h.lb0
    split <;> omega

/-- the state after a successful `rchRemove n` of a node in bucket `h`, at position `idx` of the bucket `q` -/
def removedAt (n h : Nat) (q : List Nat) (idx : Nat) (s : State) : State :=
  { s with nodes := s.nodes.modify n fun x => { x with heightInRch := -1 },
           rch := { s.rch with queues := s.rch.queues.set! h (swapRemoveBack q idx),
                               length := s.rch.length - 1 } }

theorem removedAt_nodeD (n h : Nat) (q : List Nat) (idx : Nat) (s : State) (m : Nat) :
    (removedAt n h q idx s).nodeD m =
      if n = m ∧ m < s.nodes.size then { s.nodeD m with heightInRch := -1 } else s.nodeD m :=
  nodeD_modify s n m _

theorem rchRemove_ok_inv {n : Nat} {s s' : State} {u : Unit}
    (hr : (rchRemove n).run.run s = (.ok u, s')) :
    ∃ nd q idx, s.nodes[n]? = some nd ∧ 0 ≤ nd.heightInRch ∧
      s.rch.queues[nd.heightInRch.toNat]? = some q ∧ q.idxOf? n = some idx ∧
      s' = removedAt n nd.heightInRch.toNat q idx s := by
  unfold rchRemove at hr
  rw [run_bind_get] at hr
  obtain ⟨nd, s1, h1, hr⟩ := bind_ok_inv hr
  obtain ⟨e1, hnd⟩ := getNode_ok_inv h1
  rw [e1] at hr
  obtain ⟨_, s2, h2, hr⟩ := bind_ok_inv hr
  have e2 := dassert_ok_inv h2
  rw [e2] at hr
  obtain ⟨_, s3, h3, hr⟩ := bind_ok_inv hr
  rw [run_bind_modNode, run_modify] at hr
  unfold rchUnlink at h3
  rw [run_bind_ok (run_getNode_some hnd), run_bind_get] at h3
  dsimp only at h3
  cases hq : s.rch.queues[nd.heightInRch.toNat]? with
  | none => rw [hq] at h3; dsimp only at h3; rw [run_panic] at h3; cases h3
  | some q =>
    rw [hq] at h3; dsimp only at h3
    by_cases hneg : nd.heightInRch < 0
    · rw [if_pos hneg, run_bind, run_panic] at h3; cases h3
    · rw [if_neg hneg] at h3
      cases hi : q.idxOf? n with
      | none => rw [hi] at h3; dsimp only at h3; rw [run_panic] at h3; cases h3
      | some idx =>
        rw [hi] at h3; dsimp only at h3; rw [run_modify] at h3
        refine ⟨nd, q, idx, hnd, by omega, hq, hi, ?_⟩
        cases h3
        cases hr
        rfl

/-- a successful `rchRemove` keeps `HeapG`; only the marker of `n` changes -/
theorem HeapG.removed {s s' : State} {n : Nat} {u : Unit} (h : HeapG s)
    (hr : (rchRemove n).run.run s = (.ok u, s')) :
    HeapG s' ∧ (s'.nodeD n).inRch = false ∧
      (∀ m, m ≠ n → (s'.nodeD m).heightInRch = (s.nodeD m).heightInRch) ∧
      s'.rch.lowerBound = s.rch.lowerBound ∧ s'.rch.queues.size = s.rch.queues.size := by
  have hwf : HeapWF s' := by
    have := (triple_iff _ _ _ _).1 (rchRemove_spec .release n) s ((HWF_release_iff s).2 h.wf)
    rw [hr] at this
    exact (HWF_release_iff s').1 this
  obtain ⟨nd, q, idx, hnd, h0, hq, hi, e⟩ := rchRemove_ok_inv hr
  have hlt : n < s.nodes.size := lt_of_some hnd
  have key : ∀ m, s'.nodeD m =
      if m = n then { s.nodeD m with heightInRch := -1 } else s.nodeD m := by
    intro m
    rw [e, removedAt_nodeD]
    by_cases e : m = n
    · subst e; rw [if_pos ⟨rfl, hlt⟩, if_pos rfl]
    · have : ¬ (n = m ∧ m < s.nodes.size) := fun h => e h.1.symm
      rw [if_neg this, if_neg e]
  have hlb : s'.rch.lowerBound = s.rch.lowerBound := by rw [e]; rfl
  have hoth : ∀ m, m ≠ n → (s'.nodeD m).heightInRch = (s.nodeD m).heightInRch := by
    intro m hm; rw [key, if_neg hm]
  have hself : (s'.nodeD n).inRch = false := by
    rw [key, if_pos rfl]; simp [Node.inRch]
  refine ⟨⟨hwf, ?_, by rw [hlb]; exact h.lb0⟩, hself, hoth, hlb, ?_⟩
  · intro m hm
    by_cases em : m = n
    · rw [em, hself] at hm; cases hm
    · have hm' : (s.nodeD m).inRch = true := by
        simpa only [Node.inRch, hoth m em] using hm
      rw [hlb, hoth m em]; exact h.lb m hm'
  · rw [e]
    show (s.rch.queues.set! nd.heightInRch.toNat (swapRemoveBack q idx)).size = _
    simp

end IncrVerif.Proofs.CutH
