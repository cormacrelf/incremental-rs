import IncrVerif.Proofs.NestH97
import IncrVerif.Proofs.NestH101
/-!
# Total correctness for nested binds (F2), the run of a change detector, part 2: the assembly — `lcStep_total2`

A run of a change detector (`recomputeOne` on a `bindLhsChange` node) from the drain invariant `DInv` and `DT` returns, and re-establishes `DT`, provided
the state it ENDS in (whatever the outcome) has at most `N` nodes and `3 * size + 3 ≤ fuel` (`lcStep_totalG`; `lcStep_total2` for `stepFuel`).

Phase 1 (the closure run) returns unconditionally.  The node count does not change in phases 2–4 whatever their outcome (`T2f.rest_size`), so the proviso
gives room and fuel in the state after phase 1; then phases 2, 3, 4 return (`T2f.phase2_tot`, `T2f.phase3_tot`, `T2f.phase4_tot`), the invariant of each
intermediate state being supplied by the partial-correctness lemmas `NC.phase1/2/3`, `T2f.mid3_of` (= the part of `NC.lc_mid2` before the last step).
Finally `DT` of the final state: `F2Inv` by `NC.f2Inv_of_mid`, `HBo2` by `T2f.hbo2_phase1/3/4` and `lhsRelink_total2`, `RhsRan` by `T2f.rhsRan_of_mid`,
`Lim` by `T2f.lim_*`.
-/
namespace IncrVerif.Proofs.NestH
open IncrVerif.Engine IncrVerif.Proofs IncrVerif.Proofs.Step IncrVerif.Proofs.Sched IncrVerif.Proofs.Quiet
open IncrVerif.Proofs.BindH

namespace T2f
open NC

/-- everything known about the state `t` after phase 3: the part of `NC.Mid2` that does not depend on the last step -/
structure Mid3 (env : Env) (rk rk' : Nat → Nat) (n b rhs : Nat) (br : BindRec) (l : List Nat) (s t : State) : Prop where
  pre : Pre2 env rk n b br s
  ext : RkExt rk rk' s.nodes.size
  rel : MidRel2 env rk' n b rhs br l s t
  rhsK : ∀ b', (t.nodeD rhs).kind ≠ .bindLhsChange b'
  rhsOK : ((t.nodeD rhs).createdIn = .top ∧ rk' rhs < rk' n ∧ rhs < s.nodes.size) ∨
    (s.nodes.size ≤ rhs ∧ rhs < t.nodes.size)
  ginv : GInv2 env rk' t allClosed (· = br.main) []
  ahh : AhhEmpty t
  pinv : t.propagateInvalidity = []
  noForce : ∀ m, (t.nodeD m).forceNecessary = false
  noHandlers : ∀ m, (t.nodeD m).numOnUpdateHandlers = 0
  validMain : (t.nodeD br.main).valid = true
  necMain : t.isNecessary br.main = true
  necN : t.isNecessary n = true
  kidsMain : t.children br.main = [n, rhs]
  graph : BGraph env t

section
variable {env : Env} {rk rk' : Nat → Nat} {N fuel n b rhs : Nat} {br : BindRec} {l : List Nat} {s s1 s2 s3 t s' : State}

/-- the state after phase 3 (as the first part of `NC.lc_mid2`, with the phases given) -/
theorem mid3_of (I : DInv env s (some n)) (A : F2Inv env rk s)
    (X : Pre2 env rk n b br s) (P : P1 env rk rk' n b rhs br l s s1) (Q : P2 env rk' n b rhs br l s1 s2)
    (R : P3 env rk' br s2 s3) : Mid3 env rk rk' n b rhs br l s s3 := by
  have M := midRel2_of X A P Q R
  have hD := dying_iff X A P Q
  have hnd := X.n_notDying A
  have hmd := X.main_notDying A
  have hsz3 : s3.nodes.size = s1.nodes.size := R.rel.size.trans Q.rel.size
  have ahh3 : AhhEmpty s3 := by
    refine ⟨by rw [R.rel.ahh]; exact Q.ahh.length, ?_, fun m => ?_⟩
    · intro i hi
      have hi' : i < s2.ahh.queues.size := by rw [← R.rel.ahh]; exact hi
      have := Q.ahh.buckets i hi'
      simp only [R.rel.ahh]; exact this
    · by_cases hd : Dying s2 br.allNodesCreatedOnRhs m
      · rw [(R.rel.dead m hd).2.2.2.2.2.2.2.2.1]; exact Q.ahh.marks m
      · rw [R.rel.other m hd]; exact Q.ahh.marks m
  have nf3 : ∀ m, (s3.nodeD m).forceNecessary = false := by
    intro m
    by_cases hd : Dying s2 br.allNodesCreatedOnRhs m
    · exact (R.rel.dead m hd).2.2.2.2.2.2.1
    · rw [R.rel.other m hd]; exact Q.noForce m
  have nh3 : ∀ m, (s3.nodeD m).numOnUpdateHandlers = 0 := by
    intro m
    by_cases hd : Dying s2 br.allNodesCreatedOnRhs m
    · exact (M.dead m ((hD m).1 hd)).2.2.2.2.2.2.2.2
    · rw [R.rel.other m hd, Q.num]; exact P.noHandlers A m
  have hmd2 : ¬ Dying s2 br.allNodesCreatedOnRhs br.main := fun h => hmd ((hD _).1 h)
  have necMain : s3.isNecessary br.main = true := by
    show (s3.nodeD br.main).isNecessary = true
    rw [R.rel.other _ hmd2]; exact Q.necMain
  have hvm3 : (s3.nodeD br.main).valid = true := by
    rw [(M.nk br.main X.hml hmd).valid]; exact X.hvm
  have hcm : s3.children br.main = [n, rhs] := by
    have := R.g.main_children M.bind hvm3
    rw [← X.hlc]; exact this
  have necN : s3.isNecessary n = true := by
    have h0 : (s3.children br.main)[0]? = some n := by rw [hcm]; rfl
    exact nec_of_mem_parents (R.g.conv br.main 0 n h0 ((wants_closed rfl).2 necMain))
  have g : BGraph env s3 := by
    apply bgraph_of_ginv2 R.g nf3
    intro m c hm hkc
    cases hsc : (s3.nodeD m).createdIn with
    | bind b' => exact absurd hkc (((R.g.frag.node m hm).inScope b' hsc).1 c)
    | top =>
      by_cases hd : Dying s br.allNodesCreatedOnRhs m
      · exfalso
        rw [(M.dead m hd).2.2.1] at hsc
        exact X.notDying_of_top A hsc hd
      · by_cases hlt : m < s.nodes.size
        · have k := M.nk m hlt hd
          rw [k.kind] at hkc
          rw [k.createdIn] at hsc
          rw [M.vars]
          exact I.graph.var m c hlt ((A.frag.node m hlt).top hsc).1 hkc
        · exfalso
          rw [(M.new m (by omega) hm).1] at hsc; cases hsc
  have kind13 : ∀ m, (s3.nodeD m).kind = (s1.nodeD m).kind := by
    intro m
    rw [← Q.kind m]
    by_cases hd : Dying s2 br.allNodesCreatedOnRhs m
    · exact (R.rel.dead m hd).2.1
    · rw [R.rel.other m hd]
  refine ⟨X, P.ext, M, fun b' => by rw [kind13]; exact P.rhsK b', ?_, R.g, ahh3,
    R.rel.pinv.trans Q.pinv, nf3, nh3, hvm3, necMain, necN, hcm, g⟩
  rcases P.rhs with ⟨h5, h6⟩ | h5
  · left
    have hlt := P.old_of_top P.rlt h5
    have hnd' : ¬ Dying s br.allNodesCreatedOnRhs rhs :=
      X.notDying_of_top A (by rw [← (P.sh hlt).2.2.1]; exact h5)
    refine ⟨?_, h6, hlt⟩
    rw [(M.nk rhs hlt hnd').createdIn, ← (P.sh hlt).2.2.1]; exact h5
  · exact Or.inr ⟨h5, by rw [hsz3]; exact P.rlt⟩

/-- with the last step: `NC.Mid2` -/
theorem Mid3.toMid2 (Y : Mid3 env rk rk' n b rhs br l s t) (A : F2Inv env rk s)
    (hk : (s.nodeD n).kind = .bindLhsChange b) {r : Option Nat}
    (h4 : (maybeChangeValue env fuel n .unit).run.run t = (.ok r, s')) :
    Mid2 env rk rk' n b rhs br l r s t s' := by
  have M := Y.rel
  have X := Y.pre
  have hnd := X.n_notDying A
  obtain ⟨S, L⟩ := BC.mcv_last Y.graph (heapInv_of_ginv2 Y.ginv) Y.necN (by rw [M.recN, M.stabNum])
    (by rw [(M.nk n X.hlt hnd).cutoff]; exact A.lcCut n b hk) h4
  exact ⟨Y.pre, Y.ext, Y.rel, Y.rhsK, Y.rhsOK, Y.ginv, Y.ahh, Y.pinv, Y.noForce, Y.noHandlers, Y.validMain,
    Y.necMain, Y.necN, Y.kidsMain, Y.graph, S, L,
    fun m => ((PresC.maybeChangeValue env fuel n .unit).h _ _ _ h4).num m⟩

/-- the only recorded parent of `n` after phase 3 is the main node -/
theorem Mid3.par_n (Y : Mid3 env rk rk' n b rhs br l s t) (A : F2Inv env rk s)
    (hk : (s.nodeD n).kind = .bindLhsChange b)
    {p : Nat} (hp : p ∈ (t.nodeD n).parents.map (·.1)) : p = br.main := by
  obtain ⟨⟨p', i⟩, hmem, rfl⟩ := List.mem_map.1 hp
  obtain ⟨hci, -⟩ := Y.ginv.par n p' i hmem
  have hpl := children_lt_size hci
  have Nd := Y.ginv.frag.node p' hpl
  have hkp := Nd.lcChild n b (List.mem_of_getElem? hci)
    (by rw [(Y.rel.nk n Y.pre.hlt (Y.pre.n_notDying A)).kind]; exact hk)
  obtain ⟨br', hb', hm', -⟩ := Nd.mainRec b n hkp
  rw [Y.rel.bind] at hb'
  cases hb'
  exact hm'.symm

/-- phase 4: `lhsFinish` returns -/
theorem phase4_tot (Y : Mid3 env rk rk' n b rhs br l s t) (A : F2Inv env rk s)
    (hk : (s.nodeD n).kind = .bindLhsChange b) (hB : HBo2 rk' t allClosed) (Rm : Room N t) (hf : 1 ≤ fuel) :
    Tot (Inval.lhsFinish env fuel n) t (fun _ _ => True) := by
  have M := Y.rel
  have X := Y.pre
  have hnd := X.n_notDying A
  have hlt : n < t.nodes.size := nec_lt_size Y.necN
  unfold Inval.lhsFinish
  refine Tot.bind_getNode hlt ?_
  refine Tot.bind_dassert (fun _ => by rw [(M.nk n X.hlt hnd).valid]; exact X.hvn) ?_
  refine maybeChangeValue_total2 Y.graph (heapInv_of_ginv2 Y.ginv) Y.necN ?_ hB Rm
    (BC.Upd.refl' n t Y.ginv.frag.pc) rfl hf
  intro p hp
  rw [Y.par_n A hk hp, M.recO br.main X.hml (X.main_notDying A) X.ne, M.stabNum]
  exact X.hmr

/-- **`RhsRan` is kept by a run of a change detector**: record `b` has a right-hand side; the records of the inner binds created by the run have a pristine
change detector; a record whose change detector is still valid is unchanged, and so is the stamp of its change detector -/
theorem rhsRan_of_mid {r : Option Nat} (A : F2Inv env rk s) (hk : (s.nodeD n).kind = .bindLhsChange b) (H : RhsRan s)
    (Z : Mid2 env rk rk' n b rhs br l r s t s') (A' : F2Inv env rk' s') : RhsRan s' := by
  intro b' br' hbr hv hrec
  rcases Z.bind_back hbr with ⟨-, e2⟩ | ⟨e, br0, h0, hc⟩ | ⟨hge, ht⟩
  · rw [e2]; exact fun h => by cases h
  · have hsame : br'.rhs = br0.rhs ∧ br'.lhsChange = br0.lhsChange := by
      rcases hc with ⟨-, e2⟩ | ⟨-, e2⟩ <;> rw [e2] <;> exact ⟨rfl, rfl⟩
    rw [hsame.1]
    rw [hsame.2] at hv hrec
    have hlc := A.frag.lc_lt h0
    have hd : ¬ Dying s br.allNodesCreatedOnRhs br0.lhsChange := fun hd => by
      rw [Z.deadS hd] at hv; cases hv
    have hvs : (s.nodeD br0.lhsChange).valid = true := by rw [← (Z.surv hlc hd).2.1]; exact hv
    have hne : br0.lhsChange ≠ n := by
      intro e'
      have h3 := (A.frag.recs b' br0 h0).2.2.1
      rw [e', hk] at h3
      injection h3 with h3
      exact e h3.symm
    apply H b' br0 h0 hvs
    rw [← Z.rel.recO _ hlc hd hne, ← Z.recT]; exact hrec
  · exfalso
    obtain ⟨-, -, k3, -⟩ := Z.rel.bindsNew b' br' hge ht
    have hlt' : br'.lhsChange < s'.nodes.size := A'.frag.lc_lt hbr
    rw [Z.step.size] at hlt'
    obtain ⟨-, -, c3, -⟩ := Z.rel.new _ k3 hlt'
    apply hrec
    rw [Z.recT, c3]

end

end T2f

open T2f in
/-- **A run of a change detector never panics** (fragment F2, nested binds), for any fuel bound `need` with `3 * sz + 3 ≤ need sz`: from the drain
invariant and `DT`, IF the state the run ends in (whatever the outcome) has at most `N` nodes and `need` of its node count `≤ fuel`, THEN the run returned
and `DT` holds again (for an extended ghost rank). -/
theorem lcStep_totalG (env : Env) (N : Nat) (need : Nat → Nat) (hneed : ∀ sz, 3 * sz + 3 ≤ need sz) :
    LcStepTotG need env N := by
  intro fuel n b s I D hk r s' hrun hroom
  obtain ⟨rk, A, hB, H, L⟩ := D
  obtain ⟨hN, hfu⟩ := hroom
  have hfu' := hneed s'.nodes.size
  obtain ⟨br, X⟩ := NC.lc_pre2 I A hk
  rw [Inval.recomputeOne_bindLhsChange_run env fuel n s _ b br (some_of_lt X.hlt) X.hvn hk X.hb] at hrun
  -- phase 1
  obtain ⟨rhs, s1, h1, -⟩ := phase1_tot I A X
  have hrest : (rest env fuel n b br s.stabNum rhs).run.run s1 = (r, s') := by
    rw [run_bind_ok h1] at hrun; exact hrun
  have hsz1 := rest_size hrest
  obtain ⟨rk', l, P⟩ := NC.phase1 (closure_spec2 env) X A h1
  have hB1 := hbo2_phase1 P hB
  have L1 : Lim N s1 := lim_eq (lim_started L) P.rel.ahh P.rel.rch
  have R1 : Room N s1 := L1.room (by omega)
  -- phase 2
  obtain ⟨u2, s2, h2, hB2, R2⟩ := phase2_tot (fuel := fuel) X A P hB1 R1 (by omega)
  have Q := NC.phase2 (relink_spec2 env) X A P h2
  -- phase 3
  obtain ⟨u3, s3, h3, -⟩ := phase3_tot (fuel := fuel) X A P Q (by rw [Q.rel.size]; omega)
  have R3 := NC.phase3 (inval_spec2 env) X A P Q h3
  have hB3 := hbo2_phase3 R3.rel hB2
  have Rm3 : Room N s3 := T2d.room_nodes R2 R3.rel.ahh R3.rel.rch R3.rel.size
  have Y := mid3_of I A X P Q R3
  -- phase 4
  obtain ⟨r4, s4, h4, -⟩ := phase4_tot (fuel := fuel) Y A hk hB3 Rm3 (by omega)
  have hall : (rest env fuel n b br s.stabNum rhs).run.run s1 = (.ok r4, s4) := by
    unfold rest
    rw [run_bind_ok h2, run_bind_ok h3]; exact h4
  rw [hall] at hrest
  cases hrest
  refine ⟨r4, rfl, ?_⟩
  have Z := Y.toMid2 A hk (BC.lhsFinish_inv h4)
  have A' := NC.f2Inv_of_mid A hk Z
  exact ⟨rk', A', hbo2_phase4 Z.step hB3, rhsRan_of_mid A hk H Z A', lim_last (Room.lim Rm3) Z.step Z.last⟩

/-- **A run of a change detector never panics**: the contract `LcStepTotG stepFuel` (`stepFuel sz = 3 * sz + 7`) of the drain (`drain_total2`) -/
theorem lcStep_total2 (env : Env) (N : Nat) : LcStepTotG stepFuel env N :=
  lcStep_totalG env N stepFuel (fun sz => by unfold stepFuel; omega)

/-- the original contract `LcStepTot` (`needFuel sz = 4 * sz + 8`) holds as well -/
theorem lcStep_total2' (env : Env) (N : Nat) : LcStepTot env N :=
  lcStep_totalG env N needFuel (fun sz => by unfold needFuel; omega)

end IncrVerif.Proofs.NestH
