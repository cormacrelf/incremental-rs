import IncrVerif.Proofs.TidyH31
/-!
# T4: the unlinking cascade returns (`QR.unlink_corr`) and keeps the height bound `HBd`, for the rank-ordered static invariant `QR.GInv`
-/
namespace IncrVerif.Proofs.TidyH.XT
open IncrVerif.Engine IncrVerif.Driver IncrVerif.Proofs IncrVerif.Proofs.Step IncrVerif.Proofs.Sched
open IncrVerif.Proofs.ExpertH IncrVerif.Proofs.ExpertH.QR

/-- `HBd` transfers along `NecH` when the depth is unchanged -/
theorem hbd_of_necH {s s' : State} {op op' : Nat → Op} (hb : HBd s op) (h : NecH s s')
    (hdp : ∀ m, dp s' m = dp s m)
    (hop : ∀ m, op' m = .closed → s.isNecessary m = true → op m = .closed) : HBd s' op' := by
  intro m hm ho
  obtain ⟨hm0, hh⟩ := h m hm
  rw [hh, hdp m]
  exact hb m hm0 (hop m ho hm0)

/-- `hbd_of_necH` with the frame of the cascade -/
theorem hbd_of_necH' {s s' : State} {op op' : Nat → Op} (hb : HBd s op) (h : NecH s s') (hf : CFrame s s')
    (hop : ∀ m, op' m = .closed → s.isNecessary m = true → op m = .closed) : HBd s' op' :=
  hbd_of_necH hb h (dp_of_cframe hf) hop

/-- the cascade returns, with the partial-correctness facts of `QR.checkIfUnnecessary_spec` and `NecH` -/
theorem checkIfUnnecessary_totalR' {env : Env} {rk : Nat → Nat} {fuel c : Nat} {s : State} {op : Nat → Op}
    (I : GInv env rk s op) (hlow : ∀ m, op m ≠ .closed → rk c ≤ rk m)
    (hcase : (s.isNecessary c = true ∧ op c = .closed) ∨ (s.isNecessary c = false ∧ op c = .unlinking 0))
    (hf : 3 * dp s c + 3 ≤ fuel) :
    Tot (checkIfUnnecessary fuel c) s (fun _ s' =>
      NecH s s' ∧ GInv env rk s' (upd op c .closed) ∧ Above rk c s s' ∧ URel s s') :=
  have ⟨u, s', h, I', A, U, N⟩ := ((QR.unlink_corr fuel).2.1 env rk c s op I hlow hcase).tot hf
  ⟨u, s', h, N, I', A, U⟩

/-- **the unlinking cascade returns**, and the height bound is kept -/
theorem checkIfUnnecessary_totalR {env : Env} {rk : Nat → Nat} {fuel c : Nat} {s : State} {op : Nat → Op}
    (I : GInv env rk s op) (hb : HBd s op) (hlow : ∀ m, op m ≠ .closed → rk c ≤ rk m)
    (hcase : (s.isNecessary c = true ∧ op c = .closed) ∨ (s.isNecessary c = false ∧ op c = .unlinking 0))
    (hf : 3 * dp s c + 3 ≤ fuel) :
    Tot (checkIfUnnecessary fuel c) s (fun _ s' => HBd s' (upd op c .closed)) := by
  refine (checkIfUnnecessary_totalR' I hlow hcase hf).mono (fun _ s' ⟨N, _, _, hu⟩ => ?_)
  refine hbd_of_necH' hb N hu.fr (fun m ho hm => ?_)
  by_cases e : m = c
  · rw [e] at hm ⊢
    rcases hcase with ⟨_, h⟩ | ⟨h, _⟩
    · exact h
    · rw [h] at hm; cases hm
  · rw [upd_other _ _ _ e] at ho; exact ho

end IncrVerif.Proofs.TidyH.XT
