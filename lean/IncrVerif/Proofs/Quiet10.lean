import IncrVerif.Proofs.Quiet9
import IncrVerif.Proofs.CutH16
/-!
# Part 9: node creation through the API keeps `QInv`

The instructions of `StaticInstr` are those of `CutH.StaticInstr` that install no cutoff: `ExactInstr`s whose node gets the cutoff `.eq`, so
`Created k s s1 tp` is `CutH.Created k .eq s s1 tp`.
-/
namespace IncrVerif.Proofs.Quiet
open IncrVerif.Engine IncrVerif.Driver IncrVerif.Proofs IncrVerif.Proofs.Step IncrVerif.Proofs.Sched

/-- operands of the fragment: handles on top-level nodes -/
def OpndOK : Opnd → Prop
  | .outer _ => True
  | _ => False

/-- the node-creating instructions of the static fragment -/
def StaticInstr (env : Env) : Instr → Prop
  | .const _ => True
  | .var _ => True
  | .map f args => f < fnPerKey ∧ (f < fnZip → ∀ vals, env.fnEff f vals = []) ∧ ∀ a, a ∈ args → OpndOK a
  | .fold _ _ cs => ∀ a, a ∈ cs → OpndOK a
  | .zip a b => OpndOK a ∧ OpndOK b
  | _ => False

/-- a freshly created top-level node -/
def newNode (k : Kind) : Node := { kind := k, createdIn := .top, cutoff := .eq }

/-- `s1` is `s` plus one fresh top-level node of kind `k` (and, for a `var`, its cell); `tp`: the naming table after -/
structure Created (k : Kind) (s s1 : State) (tp : Array Nat) : Prop where
  nodes : s1.nodes = s.nodes.push (newNode k)
  vars : ((∀ c, k ≠ .var c) ∧ s1.vars = s.vars) ∨
    ∃ v, k = .var s.vars.size ∧
      s1.vars = s.vars.push { value := v, setAt := s.stabNum, node := s.nodes.size }
  rch : s1.rch = s.rch
  pc : s1.panicCountdown = s.panicCountdown
  scope : s1.currentScope = s.currentScope
  stabNum : s1.stabNum = s.stabNum
  status : s1.status = s.status
  alive : s1.alive = s.alive
  setDuringStab : s1.setDuringStab = s.setDuringStab
  deadVars : s1.deadVars = s.deadVars
  handleAfterStab : s1.handleAfterStab = s.handleAfterStab
  pinv : s1.propagateInvalidity = s.propagateInvalidity
  observers : s1.observers = s.observers
  newObservers : s1.newObservers = s.newObservers
  disallowedObservers : s1.disallowedObservers = s.disallowedObservers
  top : s1.top = tp

theorem OpndOK.toC {o : Opnd} (h : OpndOK o) : CutH.OpndOK o := h

theorem StaticInstr.toC {env : Env} {i : Instr} (h : StaticInstr env i) : CutH.StaticInstr env i := by
  cases i <;> first | exact h | exact h.elim

theorem StaticInstr.exact {env : Env} {i : Instr} (h : StaticInstr env i) : CutH.ExactInstr i = true := by
  cases i <;> first | rfl | exact h.elim

namespace Created
variable {env : Env} {k : Kind} {s s1 : State} {tp : Array Nat}

theorem toC (C : Created k s s1 tp) : CutH.Created k .eq s s1 tp :=
  ⟨C.nodes, C.vars, C.rch, C.pc, C.scope, C.stabNum, C.status, C.alive, C.setDuringStab, C.deadVars, C.handleAfterStab, C.pinv, C.observers,
    C.newObservers, C.disallowedObservers, C.top⟩
theorem ofC (C : CutH.Created k .eq s s1 tp) : Created k s s1 tp :=
  ⟨C.nodes, C.vars, C.rch, C.pc, C.scope, C.stabNum, C.status, C.alive, C.setDuringStab, C.deadVars, C.handleAfterStab, C.pinv, C.observers,
    C.newObservers, C.disallowedObservers, C.top⟩

theorem size (C : Created k s s1 tp) : s1.nodes.size = s.nodes.size + 1 := C.toC.size

theorem nodeD_new (C : Created k s s1 tp) : s1.nodeD s.nodes.size = newNode k := C.toC.nodeD_new

theorem nodeD_old (C : Created k s s1 tp) {m : Nat} (h : m ≠ s.nodes.size) : s1.nodeD m = s.nodeD m := C.toC.nodeD_old h

theorem nodeD_lt (C : Created k s s1 tp) {m : Nat} (h : m < s.nodes.size) : s1.nodeD m = s.nodeD m := C.toC.nodeD_lt h

theorem nec_old (C : Created k s s1 tp) {m : Nat} (h : m ≠ s.nodes.size) : s1.isNecessary m = s.isNecessary m := C.toC.nec_old h

theorem ne_of_nec (C : Created k s s1 tp) {m : Nat} (h : s1.isNecessary m = true) : m ≠ s.nodes.size := C.toC.ne_of_nec h

theorem staleOf_old (C : Created k s s1 tp) (S : Struct env s) (V : VarsOK s) {m : Nat} (hm : m < s.nodes.size) :
    staleOf s1 m = staleOf s m := C.toC.staleOf_old S.toC V.toC hm

theorem consistent_old (C : Created k s s1 tp) (S : Struct env s) {m : Nat} (hm : m < s.nodes.size)
    (h : Consistent env s m) : Consistent env s1 m := C.toC.consistent_old S.toC hm h

theorem stale_new (C : Created k s s1 tp) (h0 : 0 ≤ s.stabNum) (hk : StaticKind env k) :
    staleOf s1 s.nodes.size = true := C.toC.stale_new h0 hk

theorem eqCut (C : Created k s s1 tp) (E : EqCut s) : EqCut s1 := by
  intro n hn
  rw [C.size] at hn
  by_cases e : n = s.nodes.size
  · rw [e, C.nodeD_new]; rfl
  · rw [C.nodeD_old e]; exact E n (by omega)

theorem struct (C : Created k s s1 tp) (S : Struct env s) (V : VarsOK s) (hk : StaticKind env k)
    (hkids : ∀ c, c ∈ kids k → c < s.nodes.size) : Struct env s1 :=
  .ofC (C.toC.struct S.toC V.toC hk hkids) (C.eqCut S.eqCut)

theorem varsOK (C : Created k s s1 tp) (V : VarsOK s) : VarsOK s1 := .ofC (C.toC.varsOK V.toC)

/-- **creation, pure part.** -/
theorem qinv (C : Created k s s1 (s.top.push s.nodes.size)) (Q : QInv env s) (hk : StaticKind env k)
    (hkids : ∀ c, c ∈ kids k → c < s.nodes.size) : QInv env s1 :=
  .ofC (C.toC.qinv Q.toC hk hkids fun _ => trivial) (C.eqCut Q.eqCut)

end Created
/-! ## the monadic part -/

theorem createNode_top_run (k : Kind) (s : State) :
    (createNode k .top).run.run s = (.ok s.nodes.size,
      { s with counters := { s.counters with created := s.counters.created + 1 },
               nodes := s.nodes.push (newNode k) }) := rfl

theorem createVar_top_run (v : Val) (s : State) :
    (createVar v .top).run.run s = (.ok s.nodes.size,
      { s with counters := { s.counters with created := s.counters.created + 1 },
               nodes := s.nodes.push (newNode (.var s.vars.size)),
               vars := s.vars.push { value := v, setAt := s.stabNum, node := s.nodes.size } }) := rfl

theorem createNode_created {k : Kind} {s s1 : State} {n : Nat} (hk : ∀ c, k ≠ .var c)
    (h : (createNode k .top).run.run s = (.ok n, s1)) : n = s.nodes.size ∧ Created k s s1 s.top :=
  (CutH.createNode_created hk h).imp_right fun C => .ofC C.1

theorem createVar_created {v : Val} {s s1 : State} {n : Nat}
    (h : (createVar v .top).run.run s = (.ok n, s1)) :
    n = s.nodes.size ∧ Created (.var s.vars.size) s s1 s.top :=
  (CutH.createVar_created h).imp_right fun C => .ofC C.1

theorem resolveOpnd_outer_inv {o : Opnd} {s s1 : State} {n : Nat} (ho : OpndOK o)
    (h : (resolveOpnd [] o).run.run s = (.ok n, s1)) : s1 = s ∧ ∃ k : Nat, s.top[k]? = some n :=
  CutH.resolveOpnd_outer_inv ho.toC h

theorem mapM_resolve_inv {s : State} (htop : ∀ (k n : Nat), s.top[k]? = some n → n < s.nodes.size) :
    ∀ (l : List Opnd) (r : List Nat) (s1 : State), (∀ a, a ∈ l → OpndOK a) →
      (l.mapM (fun o => resolveOpnd [] o)).run.run s = (.ok r, s1) →
      s1 = s ∧ ∀ c, c ∈ r → c < s.nodes.size :=
  fun l r s1 hl h => CutH.mapM_resolve_inv htop l r s1 (fun a ha => (hl a ha).toC) h

theorem mapM_resolve_inv1 {s : State} :
    ∀ (l : List Opnd) (r : List Nat) (s1 : State), (∀ a, a ∈ l → OpndOK a) →
      (l.mapM (fun o => resolveOpnd [] o)).run.run s = (.ok r, s1) →
      s1 = s ∧ ∀ c, c ∈ r → ∃ k : Nat, s.top[k]? = some c := by
  intro l
  induction l with
  | nil =>
    intro r s1 _ h
    rw [List.mapM_nil] at h
    obtain ⟨e1, e2⟩ := pure_ok_inv h
    rw [e1]; exact ⟨e2, fun c hc => by cases hc⟩
  | cons a l ih =>
    intro r s1 hl h
    rw [List.mapM_cons] at h
    obtain ⟨b, t, h1, h2⟩ := bind_ok_inv h
    obtain ⟨et, k, hk⟩ := resolveOpnd_outer_inv (hl a (List.mem_cons_self ..)) h1
    rw [et] at h2
    obtain ⟨bs, t2, h3, h4⟩ := bind_ok_inv h2
    obtain ⟨et2, hbs⟩ := ih bs t2 (fun x hx => hl x (List.mem_cons_of_mem _ hx)) h3
    obtain ⟨e1, e2⟩ := pure_ok_inv h4
    rw [e1, e2]
    refine ⟨et2, fun c hc => ?_⟩
    rcases List.mem_cons.1 hc with e | hc
    · rw [e]; exact ⟨k, hk⟩
    · exact hbs c hc

theorem elab_static {env : Env} {s s1 : State} {i : Instr} {ro : Option Nat} (hsc : s.currentScope = .top)
    (htop : ∀ (k n : Nat), s.top[k]? = some n → n < s.nodes.size)
    (hi : StaticInstr env i) (h : (elabInstrM env [] .unit i).run.run s = (.ok ro, s1)) :
    ∃ k, ro = some s.nodes.size ∧ StaticKind env k ∧ (∀ c, c ∈ kids k → c < s.nodes.size) ∧
      Created k s s1 s.top := by
  rcases CutH.elab_static hsc htop hi.toC h with ⟨k, cut, ero, hk, hkids, hcut, C, -⟩ | ⟨n, c, ei, -⟩
  · cases hcut hi.exact
    exact ⟨k, ero, hk, hkids, .ofC C⟩
  · rw [ei] at hi; exact hi.elim

/-- **creation.** A successful `create` action with a static instruction keeps the invariant. -/
theorem step_create {env : Env} {s s' : State} {i : Instr} {tokens : Array Nat} {r : String × Array Nat}
    (Q : QInv env s) (hi : StaticInstr env i)
    (h : (stepAction env (.create i) tokens).run.run s = (.ok r, s')) : QInv env s' := by
  rcases (CutH.create_static Q.struct.static.scope Q.top hi.toC h).2 with ⟨k, cut, hk, hkids, hcut, C, -⟩ | ⟨n, c, m, ei, -⟩
  · cases hcut hi.exact
    exact (Created.ofC C).qinv Q hk hkids
  · rw [ei] at hi; exact hi.elim

end IncrVerif.Proofs.Quiet
