import IncrVerif.Proofs.DriverH5
import IncrVerif.Proofs.DriverH3
import IncrVerif.Proofs.EffH4
import IncrVerif.Proofs.Poison
/-!
# Drivers: the real run of a driver, part 1 — congruence and frame lemmas

* `Drives` between states with the same kinds, records, `nextDep`, sizes; `started`;
* the children of a valid expert node;
* `eKey` along a run of `maybeChangeValue`.
-/
namespace IncrVerif.Proofs.DriverH
open IncrVerif.Engine IncrVerif.Driver IncrVerif.Proofs IncrVerif.Proofs.Step IncrVerif.Proofs.Sched
open IncrVerif.Proofs.ExpertH IncrVerif.Proofs.ExpertH.QR IncrVerif.Proofs.EffH

/-! ## `Below`, `Drives` between states with the same kinds and records -/

theorem below_congr {s s' : State} (hk : ∀ m, (s'.nodeD m).kind = (s.nodeD m).kind) (hx : s'.experts = s.experts)
    {a d : Nat} (h : ExpertH.Below s a d) : ExpertH.Below s' a d := by
  induction h with
  | refl a => exact .refl a
  | step h1 _ ih => exact .step (by rw [hk, hx]; exact h1) ih

theorem Drives.congr {s s' : State} (hsz : s'.nodes.size = s.nodes.size)
    (hk : ∀ m, (s'.nodeD m).kind = (s.nodeD m).kind) (hx : s'.experts = s.experts)
    (hnd : s'.nextDep = s.nextDep) {n x : Nat} (h : Drives s n x) : Drives s' n x := by
  obtain ⟨h1, e, er, h2, h3, h4⟩ := h
  exact ⟨by rw [hsz]; exact h1, e, er, by rw [hk]; exact h2, by rw [hx]; exact h3, by rw [hnd]; exact h4⟩

/-! ## `started` -/

theorem started_size (n : Nat) (s : State) : (started n s).nodes.size = s.nodes.size := by simp [started]

theorem started_kind (n : Nat) (s : State) (m : Nat) : ((started n s).nodeD m).kind = (s.nodeD m).kind := by
  rw [started_nodeD]; split <;> rfl

theorem started_dnKey (n : Nat) (s : State) (m : Nat) : dnKey ((started n s).nodeD m) = dnKey (s.nodeD m) := by
  rw [started_nodeD]; split <;> rfl

theorem started_value_field (n : Nat) (s : State) (m : Nat) :
    ((started n s).nodeD m).value = (s.nodeD m).value ∧ ((started n s).nodeD m).changedAt = (s.nodeD m).changedAt := by
  rw [started_nodeD]; split <;> exact ⟨rfl, rfl⟩

theorem started_isNecessary (n : Nat) (s : State) (m : Nat) : (started n s).isNecessary m = s.isNecessary m := by
  unfold State.isNecessary
  rw [started_nodeD]; split <;> rfl

theorem Drives.to_started {s : State} {n m x : Nat} (h : Drives s m x) : Drives (started n s) m x :=
  h.congr (started_size n s) (started_kind n s) rfl rfl

theorem Drives.of_started {s : State} {n m x : Nat} (h : Drives (started n s) m x) : Drives s m x :=
  h.congr (started_size n s).symm (fun m => (started_kind n s m).symm) rfl rfl

theorem EffOK.to_started {s : State} {n m : Nat} {eff : Effect} (h : EffOK s m eff) : EffOK (started n s) m eff :=
  h.frame (started_size n s) (started_kind n s) rfl (fun _ _ => Drives.to_started)

/-! ## the children of a valid expert node -/

theorem children_expert {s : State} {x e : Nat} {er : ExpertRec} (hv : (s.nodeD x).valid = true)
    (hk : (s.nodeD x).kind = .expert e) (he : s.experts[e]? = some er) :
    s.children x = er.children.map (·.child) := by
  unfold State.children Node.kind?
  rw [if_pos hv, hk]
  simp only [he]

/-- the driver `n` is a child of every expert node whose record it may edit -/
theorem driver_child {E : Env} {s : State} (F : XFrag E s) {n e x : Nat}
    (hD : DOf (started n s) n e) (hk : (s.nodeD x).kind = .expert e) : n ∈ s.children x := by
  obtain ⟨x', hd, hk'⟩ := hD
  rw [started_kind] at hk'
  have hxx : x' = x := F.xinj hk' hk
  subst hxx
  obtain ⟨hlt, e1, er, h2, h3, ed, h4, h5, -⟩ := hd.of_started
  rw [hk] at h2
  cases h2
  rw [children_expert (F.valid x' hlt) hk h3]
  exact List.mem_map.2 ⟨ed, h4, h5⟩

/-! ## `unstamp` node-wise -/

theorem unstamp_shape (n : Nat) (r : Int) (S : State) (m : Nat) :
    SameShape ((unstamp n r S).nodeD m) (S.nodeD m) := by
  rw [unstamp_nodeD]; split
  · exact ⟨rfl, rfl, rfl, rfl, rfl, rfl, rfl, rfl⟩
  · exact SameShape.refl _

theorem unstamp_fields (n : Nat) (r : Int) (S : State) (m : Nat) :
    ((unstamp n r S).nodeD m).value = (S.nodeD m).value ∧
    ((unstamp n r S).nodeD m).changedAt = (S.nodeD m).changedAt ∧
    ((unstamp n r S).nodeD m).heightInRch = (S.nodeD m).heightInRch ∧
    ((unstamp n r S).nodeD m).numOnUpdateHandlers = (S.nodeD m).numOnUpdateHandlers := by
  rw [unstamp_nodeD]; split <;> exact ⟨rfl, rfl, rfl, rfl⟩

/-- the state in which `maybeChangeValue` starts is the unstamped state up to the stamp of `n` and the log -/
theorem upd_unstamp (n : Nat) (r : Int) (S : State) (es : List Event) (hpc : S.panicCountdown = none) :
    Upd n (unstamp n r S) (logged es S) where
  size := (unstamp_size n r S).symm
  vars := rfl
  stabNum := rfl
  pc := hpc
  rch := rfl
  other _ hm := (unstamp_other n r S hm).symm
  shape := unstamp_shape n r S n
  hrch := (unstamp_fields n r S n).2.2.1.symm

/-! ## the state fields along a run of `maybeChangeValue` -/

theorem cfg_mcv {env : Env} {fuel n : Nat} {v : Val} {s s' : State} {r : Option Nat}
    (h : (maybeChangeValue env fuel n v).run.run s = (.ok r, s')) : s'.cfg = s.cfg := by
  have := Poison.FPres.run (fun t => Poison.maybeChangeValue_fr (t := t) env fuel n v) s
  rw [h] at this
  exact this.2.1

/-- `eKey` along a successful `maybeChangeValue` from a state where no node has update handlers (the fields `vars`,
`stabNum`, the number of buckets and the countdown are supplied by the caller: they come from `StepRelB`) -/
theorem eKey_mcv {env : Env} {fuel n : Nat} {v : Val} {s s' : State} {r : Option Nat}
    (hh : ∀ m, (s.nodeD m).numOnUpdateHandlers ≤ 0)
    (hvars : s'.vars = s.vars) (hstab : s'.stabNum = s.stabNum)
    (hq : s'.rch.queues.size = s.rch.queues.size) (hpc : s'.panicCountdown = s.panicCountdown)
    (h : (maybeChangeValue env fuel n v).run.run s = (.ok r, s')) : eKey s' = eKey s := by
  have C : Calm s s' := (PresC.maybeChangeValue env fuel n v).h _ _ _ h
  have K : KeyD s s' := (PresK.maybeChangeValue env fuel n v).h _ _ _ h
  have hcfg := cfg_mcv h
  have hK : stateKeyD s' = stateKeyD s := K
  simp only [stateKeyD, Prod.mk.injEq] at hK
  obtain ⟨k1, k2, k3, k4, -, k6, k7, k8, -, -, -⟩ := hK
  simp only [eKey, hvars, k8, hstab, C.status, hcfg, k3, k1, C.newObservers, C.disallowedObservers, k2,
    C.setDuringStab, C.deadVars, C.has hh, k7, k4, k6, hq, hpc]

end IncrVerif.Proofs.DriverH
