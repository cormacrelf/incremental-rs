import IncrVerif.Proofs.LeakH5
import IncrVerif.Proofs.Ownership
/-!
# C12 over histories, part 6: the drop phase

The four actions by which a program gives up what it holds — `dropVar`, `dropHandle`, `dropObs`, `disallow` —
in any order, any number of times, keep `DInv`: the quiescent invariant of the stripped state, `ObsDead`,
`VarDead`.  `dropVar`/`dropHandle` do not change the stripped state; `dropObs`/`disallow` commute with `strip`.
-/
namespace IncrVerif.Proofs.LeakH
open IncrVerif.Engine IncrVerif.Driver IncrVerif.Proofs IncrVerif.Proofs.Obs IncrVerif.Proofs.Life
open IncrVerif.Proofs.Own

/-- the actions that give up a handle -/
def DropAction : Action → Prop
  | .dropVar _ | .dropHandle _ | .dropObs _ | .disallow _ => True
  | _ => False

structure DInv (env : Env) (s : State) : Prop where
  q : Quiet.QInv env (strip s)
  od : ObsDead s
  vd : VarDead s

theorem disallowState_strip (s : State) (o : Nat) : disallowState (strip s) o = strip (disallowState s o) := by
  have e : (strip s).observers[o]? = s.observers[o]? := rfl
  unfold disallowState
  rw [e]
  cases s.observers[o]? with
  | none => rfl
  | some ob =>
    obtain ⟨n, st, hs, c⟩ := ob
    cases st <;> rfl

theorem disallowState_vars (s : State) (o : Nat) :
    (disallowState s o).vars = s.vars ∧ (disallowState s o).deadVars = s.deadVars := by
  unfold disallowState
  cases s.observers[o]? with
  | none => exact ⟨rfl, rfl⟩
  | some ob =>
    obtain ⟨n, st, hs, c⟩ := ob
    cases st <;> exact ⟨rfl, rfl⟩

theorem dropObsState_strip (s : State) (o : Nat) : dropObsState (strip s) o = strip (dropObsState s o) := by
  have e : (strip s).observers[o]? = s.observers[o]? := rfl
  unfold dropObsState
  rw [e]
  cases s.observers[o]? with
  | none => rfl
  | some ob =>
    dsimp only
    split
    · rfl
    · split
      · exact (disallowState_strip
          { s with observers := s.observers.modify o fun x => { x with clones := x.clones - 1 } } o)
      · rfl

theorem dropObsState_vars (s : State) (o : Nat) :
    (dropObsState s o).vars = s.vars ∧ (dropObsState s o).deadVars = s.deadVars := by
  unfold dropObsState
  cases s.observers[o]? with
  | none => exact ⟨rfl, rfl⟩
  | some ob =>
    dsimp only
    split
    · exact ⟨rfl, rfl⟩
    · split
      · exact disallowState_vars _ o
      · exact ⟨rfl, rfl⟩

theorem map_modify_handles (vs : Array VarCell) (v : Nat) :
    (vs.modify v fun x => { x with handles := x.handles - 1 }).map (fun vc => { vc with handles := 1 })
      = vs.map fun vc => { vc with handles := 1 } := by
  apply Array.ext_getElem?
  intro i
  rw [Array.getElem?_map, Array.getElem?_map, Array.getElem?_modify]
  split
  · cases vs[i]? <;> rfl
  · rfl

theorem strip_varDropped (s : State) (v : Nat) (vc : VarCell) : strip (varDropped s v vc) = strip s := by
  have e : strip (varDropped s v vc) = { strip s with
      vars := (s.vars.modify v fun x => { x with handles := x.handles - 1 }).map
        (fun vc => { vc with handles := 1 }) } := rfl
  rw [e, map_modify_handles]
  rfl

theorem varDead_varDropped {s : State} {v : Nat} {vc : VarCell} (VD : VarDead s) (hv : s.vars[v]? = some vc)
    (h0 : vc.handles ≠ 0) : VarDead (varDropped s v vc) := by
  intro c vc' hc hz hl
  have hvars : (varDropped s v vc).vars = s.vars.modify v fun x => { x with handles := x.handles - 1 } := rfl
  have hdead : (varDropped s v vc).deadVars = if vc.handles = 1 then s.deadVars ++ [v] else s.deadVars := rfl
  rw [hvars, Array.getElem?_modify] at hc
  rw [hdead]
  by_cases hvc : v = c
  · subst hvc
    rw [if_pos rfl, hv] at hc
    simp only [Option.map_some, Option.some.injEq] at hc
    have h1 : vc.handles = 1 := by
      rw [← hc] at hz
      simp only at hz
      omega
    rw [if_pos h1]
    exact List.mem_append_right _ (List.mem_singleton.2 rfl)
  · rw [if_neg hvc] at hc
    have := VD c vc' hc hz hl
    split
    · exact List.mem_append_left _ this
    · exact this

/-- the drop names something that exists -/
def OkCond (s0 : State) : Action → Prop
  | .dropVar v => v < s0.vars.size
  | .dropHandle o => ∃ n, resolve s0 [] o = .ok n
  | .dropObs o => o < s0.observers.size
  | .disallow o => o < s0.observers.size
  | _ => False

/-- the state after the drop `a` -/
def afterDrop (s : State) : Action → State
  | .dropVar v => match s.vars[v]? with
    | some vc => if vc.handles = 0 then s else varDropped s v vc
    | none => s
  | .dropHandle o => match resolve s [] o with
    | .ok n => dropped s n
    | .error _ => s
  | .dropObs o => dropObsState s o
  | .disallow o => disallowState s o
  | _ => s

theorem dropped_of_not_mem {s : State} {n : Nat} (h : ¬ s.handles.contains n = true) : dropped s n = s := by
  show { s with handles := s.handles.erase n } = s
  rw [List.erase_of_not_mem fun hm => h (List.contains_iff_mem.2 hm)]

/-- **a drop that returns** names something that exists, takes the state to `afterDrop` and keeps the token table -/
theorem drop_inv {env : Env} {s s' : State} {a : Action} {tk : Array Nat} {r : String × Array Nat}
    (ha : DropAction a) (h : (stepAction env a tk).run.run s = (.ok r, s')) :
    OkCond s a ∧ s' = afterDrop s a ∧ r.2 = tk := by
  cases a <;> try exact ha.elim
  case dropVar v =>
    cases hv : s.vars[v]? with
    | none =>
      simp only [stepAction, run_bind, dropVarHandle_run_none s v hv] at h
      cases h
    | some vc =>
      rw [dropVar_action_run env tk s v vc hv] at h
      obtain ⟨e1, e⟩ := Prod.mk.inj h
      refine ⟨(Array.getElem?_eq_some_iff.1 hv).1, ?_, by cases e1; rfl⟩
      simp only [afterDrop, hv]
      exact e.symm
  case dropHandle o =>
    rw [dropHandle_run] at h
    cases hr : resolve s [] o with
    | error p => rw [hr] at h; cases h
    | ok n =>
      rw [hr] at h
      dsimp only at h
      simp only [afterDrop, hr]
      split at h
      · obtain ⟨e1, e⟩ := Prod.mk.inj h
        exact ⟨⟨n, hr⟩, e.symm, by cases e1; rfl⟩
      · rename_i hc
        obtain ⟨e1, e⟩ := Prod.mk.inj h
        exact ⟨⟨n, hr⟩, by rw [dropped_of_not_mem hc]; exact e.symm, by cases e1; rfl⟩
  case dropObs o =>
    rw [stepAction_dropObs_run] at h
    obtain ⟨h1, h2⟩ := Prod.mk.inj h
    cases ho : s.observers[o]? with
    | none => rw [ho] at h1; cases h1
    | some ob =>
      rw [ho] at h1
      dsimp only at h1
      refine ⟨(Array.getElem?_eq_some_iff.1 ho).1, h2.symm, ?_⟩
      split at h1 <;> cases h1 <;> rfl
  case disallow o =>
    rw [stepAction_disallow_run] at h
    obtain ⟨h1, h2⟩ := Prod.mk.inj h
    cases ho : s.observers[o]? with
    | none => rw [ho] at h1; cases h1
    | some ob =>
      rw [ho] at h1
      cases h1
      exact ⟨(Array.getElem?_eq_some_iff.1 ho).1, h2.symm, rfl⟩

/-- **a drop that names something that exists returns** -/
theorem drop_runs {env : Env} {s : State} {a : Action} {tk : Array Nat} (hc : OkCond s a) :
    ∃ r, (stepAction env a tk).run.run s = (.ok r, afterDrop s a) := by
  cases a <;> try exact hc.elim
  case dropVar v =>
    have hv := Array.getElem?_eq_getElem (show v < s.vars.size from hc)
    rw [dropVar_action_run env tk s v _ hv]
    simp only [afterDrop, hv]
    exact ⟨_, rfl⟩
  case dropHandle o =>
    obtain ⟨n, hn⟩ := hc
    rw [dropHandle_run]
    simp only [afterDrop, hn]
    split
    · exact ⟨_, rfl⟩
    · rename_i hc
      rw [dropped_of_not_mem hc]
      exact ⟨_, rfl⟩
  case dropObs o =>
    rw [stepAction_dropObs_run, Array.getElem?_eq_getElem (show o < s.observers.size from hc)]
    dsimp only
    split <;> exact ⟨_, rfl⟩
  case disallow o =>
    rw [stepAction_disallow_run, Array.getElem?_eq_getElem (show o < s.observers.size from hc)]
    exact ⟨_, rfl⟩

/-- a drop leaves the stripped state alone or is an observer action that commutes with `strip` -/
theorem strip_afterDrop (env : Env) (s : State) {a : Action} (ha : DropAction a) :
    strip (afterDrop s a) = strip s ∨
      (Quiet.StaticAction env a ∧ (∃ o, a = .dropObs o ∨ a = .disallow o) ∧ strip (afterDrop s a) = afterDrop (strip s) a) := by
  cases a <;> try exact ha.elim
  case dropVar v =>
    left
    simp only [afterDrop]
    split
    · split
      · rfl
      · exact strip_varDropped s v _
    · rfl
  case dropHandle o =>
    left
    simp only [afterDrop]
    split <;> rfl
  case dropObs o => exact Or.inr ⟨trivial, ⟨o, Or.inl rfl⟩, (dropObsState_strip s o).symm⟩
  case disallow o => exact Or.inr ⟨trivial, ⟨o, Or.inr rfl⟩, (disallowState_strip s o).symm⟩

theorem varDead_afterDrop {s : State} (VD : VarDead s) (a : Action) : VarDead (afterDrop s a) := by
  cases a <;> try exact VD
  case dropVar v =>
    simp only [afterDrop]
    split
    · rename_i vc hv
      split
      · exact VD
      · rename_i h0
        exact varDead_varDropped VD hv h0
    · exact VD
  case dropHandle o =>
    simp only [afterDrop]
    split <;> exact VD
  case dropObs o =>
    obtain ⟨e1, e2⟩ := dropObsState_vars s o
    intro c vc hc
    rw [show (afterDrop s (.dropObs o)).vars = s.vars from e1] at hc
    rw [show (afterDrop s (.dropObs o)).deadVars = s.deadVars from e2]
    exact VD c vc hc
  case disallow o =>
    obtain ⟨e1, e2⟩ := disallowState_vars s o
    intro c vc hc
    rw [show (afterDrop s (.disallow o)).vars = s.vars from e1] at hc
    rw [show (afterDrop s (.disallow o)).deadVars = s.deadVars from e2]
    exact VD c vc hc

theorem okCond_strip {s : State} {a : Action} (ho : ∃ o, a = .dropObs o ∨ a = .disallow o) (hc : OkCond s a) : OkCond (strip s) a := by
  obtain ⟨o, rfl | rfl⟩ := ho <;> exact hc

theorem drop_step {env : Env} {s s' : State} {a : Action} {tk : Array Nat} {r : String × Array Nat}
    (I : DInv env s) (ha : DropAction a) (h : (stepAction env a tk).run.run s = (.ok r, s')) :
    DInv env s' := by
  refine ⟨?_, obsDead_action I.od h, ?_⟩
  · obtain ⟨hc, rfl, -⟩ := drop_inv ha h
    rcases strip_afterDrop env s ha with e | ⟨hs, ho, e⟩
    · rw [e]; exact I.q
    · obtain ⟨r', hr⟩ := drop_runs (env := env) (tk := tk) (okCond_strip ho hc)
      rw [e]
      exact Quiet.step_q I.q hs hr
  · obtain ⟨-, rfl, -⟩ := drop_inv ha h
    exact varDead_afterDrop I.vd a

theorem drop_run {env : Env} {acts : List Action} {s s' : State} {tk tk' : Array Nat} (I : DInv env s)
    (ha : ∀ a, a ∈ acts → DropAction a) (h : Quiet.runActions env acts s tk = .ok (s', tk')) :
    DInv env s' :=
  Hist.runActions_inv_all (fun _ _ _ _ _ I ha hx => drop_step I ha hx) I ha h

end IncrVerif.Proofs.LeakH
