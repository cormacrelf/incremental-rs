import IncrVerif.Proofs.NestH6
import IncrVerif.Proofs.BindH49
/-!
# Nested binds (F2), linking cascade, part 1: helpers; the pure step lemmas `addEdge_*`, `setHeight_open` for `GInv2`

The step lemmas of fragment F0 (`BindH20`, `GInvB`) for `GInv2 env rk`: index order is replaced by the order of the ghost rank `rk`.
`CL.Only`, `CL.HF`, `CL.ScopeQuiet` and their lemmas come from `BindH49`.  Fragment F1 (`GInv1`) is the case `rk = rkOf s` (`BindF1F2`).
-/
namespace IncrVerif.Proofs.NestH
open IncrVerif.Engine IncrVerif.Proofs IncrVerif.Proofs.Step IncrVerif.Proofs.Sched IncrVerif.Proofs.Quiet
open IncrVerif.Proofs.BindH

namespace NL
open BL CL

/-! ## frames: `Only`, `AboveR2` -/

theorem only_aboveR2 {rk : Nat → Nat} {n : Nat} {s s' : State} (h : Only n s s') : AboveR2 rk s n s' :=
  fun m hm => h m (fun e => by rw [e] at hm; exact Nat.lt_irrefl _ hm)

theorem aboveR2_refl (rk : Nat → Nat) (s : State) (n : Nat) : AboveR2 rk s n s := fun _ _ => rfl

/-- an unnecessary closed node is not queued -/
theorem GInv2.not_queued_of_not_nec {env : Env} {rk : Nat → Nat} {s : State} {op : Nat → Op} {ex : Nat → Prop} {dy : List Nat}
    (I : GInv2 env rk s op ex dy) {c : Nat}
    (hc : s.isNecessary c = false) (hcl : op c = .closed) : (s.nodeD c).inRch = false := by
  cases h : (s.nodeD c).inRch
  · rfl
  · rcases I.qnec c h with h1 | ⟨k, h1⟩
    · rw [hc] at h1; cases h1
    · rw [hcl] at h1; cases h1

section
variable {env : Env} {rk : Nat → Nat} {s s' : State} {op : Nat → Op} {ex : Nat → Prop} {dy : List Nat}

/-! ## linking -/

/-- `addParent c idx p` where `c` is already necessary (and closed) -/
theorem GInv2.addEdge_nec {c p idx : Nat} (I : GInv2 env rk s op ex dy)
    (U : NodeUpd c (fParents ((s.nodeD c).parents ++ [(p, idx)])) s s') (hb : s'.binds = s.binds)
    (hop : op p = .linking idx) (hk : (s.children p)[idx]? = some c)
    (hc : s.isNecessary c = true) (_hcl : op c = .closed) :
    GInv2 env rk s' (upd op p (.linking (idx + 1))) ex dy := by
  have K := keeps_fParents ((s.nodeD c).parents ++ [(p, idx)])
  have E := KeyEq.of_upd U K hb
  have hne : c ≠ p := GInv2.kid_ne I hk
  have hcv : (s.nodeD c).valid = true := GInv2.kid_valid I hk
  have hpc : (s'.nodeD c).parents = (s.nodeD c).parents ++ [(p, idx)] := U.parents_self
  have hht : ∀ m, (s'.nodeD m).height = (s.nodeD m).height := fun m => by
    by_cases h : m = c
    · rw [h]; exact U.height_self
    · exact U.height_other h
  have hmem : ∀ m x, x ∈ (s'.nodeD m).parents ↔ (x ∈ (s.nodeD m).parents ∨ (m = c ∧ x = (p, idx))) := by
    intro m x
    by_cases h : m = c
    · rw [h, hpc, List.mem_append, List.mem_singleton]; simp
    · rw [U.parents_other h]; simp [h]
  have hnec : ∀ m, s'.isNecessary m = s.isNecessary m := fun m => by
    by_cases h : m = c
    · rw [h, hc]; exact nec_of_mem_parents (x := (p, idx)) ((hmem c _).2 (Or.inr ⟨rfl, rfl⟩))
    · exact U.nec_other h
  have hcl' : ∀ m, upd op p (.linking (idx + 1)) m = .closed → m ≠ p ∧ op m = .closed :=
    fun m h => upd_closed_inv (Op.linking_ne_closed _) h
  have hw : ∀ q i, Wants s' (upd op p (.linking (idx + 1))) q i ↔ (Wants s op q i ∨ (q = p ∧ i = idx)) := by
    intro q i
    by_cases h : q = p
    · rw [h, wants_linking (upd_self ..), wants_linking hop]
      constructor
      · intro h1
        by_cases h2 : i = idx
        · exact Or.inr ⟨rfl, h2⟩
        · exact Or.inl (by omega)
      · rintro (h1 | ⟨-, h1⟩) <;> omega
    · unfold Wants
      rw [upd_other _ _ _ h, hnec]
      simp [h]
  have hob : ∀ m, (s'.nodeD m).observers = (s.nodeD m).observers := fun m => by
    by_cases h : m = c
    · rw [h]; exact U.observers_self
    · exact U.observers_other h
  obtain ⟨x1, x2, x3⟩ := GInv2.extras (op' := upd op p (.linking (idx + 1))) I E hob (U.forceNecessary K)
    (fun m hv => U.parents_other (fun e => by rw [e, hcv] at hv; cases hv)) (fun m _ => U.inRch K m)
    (fun m hv ho => by
      have hpv : (s.nodeD p).valid = true := GInv2.valid_of_open I (by rw [hop]; exact Op.linking_ne_closed _)
      have h1 : m ≠ p := fun e => by rw [e, hpv] at hv; cases hv
      rw [upd_other _ _ _ h1]; exact ho)
  refine { frag := KeyEq2.frag2 E I.frag (by rw [U.pc]; exact I.frag.pc) (by rw [U.scope]; exact I.frag.scope),
           inv := x1, scopeObs := x2, lcObs := x3,
           par := ?_, conv := ?_, nodup := ?_, hlt := ?_, hpos := ?_,
           lnec := ?_, unec := ?_, heap := U.heap K I.heap, hgt := ?_, qnec := ?_, queued := ?_,
           qstale := ?_, opLt := ?_, scopeH := ?_ }
  · intro c' q i hm
    rw [KeyEq2.children2 E I.frag, hw]
    rcases (hmem _ _).1 hm with h | ⟨h1, h2⟩
    · exact ⟨(I.par c' q i h).1, Or.inl (I.par c' q i h).2⟩
    · cases h2; rw [h1]; exact ⟨hk, Or.inr ⟨rfl, rfl⟩⟩
  · intro q i c' hk' hw'
    rw [KeyEq2.children2 E I.frag] at hk'
    rw [hmem]
    rcases (hw q i).1 hw' with h | ⟨h1, h2⟩
    · exact Or.inl (I.conv q i c' hk' h)
    · rw [h1, h2, hk] at hk'; cases hk'; exact Or.inr ⟨rfl, by rw [h1, h2]⟩
  · intro m
    by_cases h : m = c
    · rw [h, hpc, List.nodup_append]
      refine ⟨I.nodup c, by simp, ?_⟩
      intro a ha b hb
      rw [List.mem_singleton] at hb
      rw [hb]; intro e; rw [e] at ha
      have := (wants_linking hop).1 (I.par c p idx ha).2
      omega
    · rw [U.parents_other h]; exact I.nodup m
  · intro c' q i hm ho
    obtain ⟨h1, h2⟩ := hcl' q ho
    rw [hht, hht]
    rcases (hmem _ _).1 hm with h | ⟨-, h3⟩
    · exact I.hlt c' q i h h2
    · cases h3; exact absurd rfl h1
  · intro m hn ho
    rw [hnec] at hn
    rw [hht]; exact I.hpos m hn (hcl' m ho).2
  · intro q k ho
    rw [hnec]
    by_cases h : q = p
    · rw [h]; exact I.lnec p idx hop
    · rw [upd_other _ _ _ h] at ho; exact I.lnec q k ho
  · intro q k ho
    rw [hnec]
    by_cases h : q = p
    · rw [h, upd_self] at ho; cases ho
    · rw [upd_other _ _ _ h] at ho; exact I.unec q k ho
  · intro m hq ho
    rw [U.inRch K] at hq
    rw [U.heightInRch K, hht]; exact I.hgt m hq (hcl' m ho).2
  · intro m hq
    rw [U.inRch K] at hq
    rw [hnec]
    rcases I.qnec m hq with h | ⟨k, h⟩
    · exact Or.inl h
    · refine Or.inr ⟨k, ?_⟩
      have : m ≠ p := by intro e; rw [e, hop] at h; cases h
      rw [upd_other _ _ _ this]; exact h
  · intro m ho hn hs hx
    rw [hnec] at hn
    rw [KeyEq2.isStale2 E I.frag] at hs
    rw [U.inRch K]; exact I.queued m (hcl' m ho).2 hn hs hx
  · intro m hq
    rw [U.inRch K] at hq
    rw [KeyEq2.isStale2 E I.frag]; exact I.qstale m hq
  · intro m ho
    rw [U.size]
    by_cases h : m = p
    · rw [h]; exact I.opLt p (by rw [hop]; exact Op.linking_ne_closed _)
    · rw [upd_other _ _ _ h] at ho; exact I.opLt m ho
  · intro m b br hv hsc hb' hn' ho
    rw [E.valid] at hv; rw [E.createdIn] at hsc; rw [E.binds] at hb'; rw [hnec] at hn'
    rw [hht, hht]
    exact I.scopeH m b br hv hsc hb' hn' (hcl' m ho).2

/-- `addParent c idx p` where `c` was unnecessary (and closed): `c` is now open with no edge recorded, and it is
not queued -/
theorem GInv2.addEdge_open {c p idx : Nat} (I : GInv2 env rk s op ex dy)
    (U : NodeUpd c (fParents ((s.nodeD c).parents ++ [(p, idx)])) s s') (hb : s'.binds = s.binds)
    (hop : op p = .linking idx) (hk : (s.children p)[idx]? = some c)
    (hc : s.isNecessary c = false) (hcl : op c = .closed) :
    GInv2 env rk s' (upd (upd op p (.linking (idx + 1))) c (.linking 0)) ex dy ∧
      (s'.nodeD c).parents = [(p, idx)] ∧ (s'.nodeD c).inRch = false := by
  have K := keeps_fParents ((s.nodeD c).parents ++ [(p, idx)])
  have E := KeyEq.of_upd U K hb
  have hne : c ≠ p := GInv2.kid_ne I hk
  have hcv : (s.nodeD c).valid = true := GInv2.kid_valid I hk
  have hpar0 : (s.nodeD c).parents = [] := parents_nil_of_not_nec hc
  have hpc : (s'.nodeD c).parents = [(p, idx)] := by rw [U.parents_self]; simp [fParents, hpar0]
  have hcq : (s.nodeD c).inRch = false := GInv2.not_queued_of_not_nec I hc hcl
  refine ⟨?_, hpc, by rw [U.inRch K]; exact hcq⟩
  have hht : ∀ m, (s'.nodeD m).height = (s.nodeD m).height := fun m => by
    by_cases h : m = c
    · rw [h]; exact U.height_self
    · exact U.height_other h
  have hmem : ∀ m x, x ∈ (s'.nodeD m).parents ↔ (x ∈ (s.nodeD m).parents ∨ (m = c ∧ x = (p, idx))) := by
    intro m x
    by_cases h : m = c
    · rw [h, hpc, hpar0, List.mem_singleton]; simp
    · rw [U.parents_other h]; simp [h]
  have hnec : ∀ m, m ≠ c → s'.isNecessary m = s.isNecessary m := fun m h => U.nec_other h
  have hnecc : s'.isNecessary c = true :=
    nec_of_mem_parents (x := (p, idx)) ((hmem c _).2 (Or.inr ⟨rfl, rfl⟩))
  have hopc : upd (upd op p (.linking (idx + 1))) c (.linking 0) c = .linking 0 := upd_self ..
  have hopp : upd (upd op p (.linking (idx + 1))) c (.linking 0) p = .linking (idx + 1) := by
    rw [upd_other _ _ _ (Ne.symm hne), upd_self]
  have hopo : ∀ m, m ≠ c → m ≠ p → upd (upd op p (.linking (idx + 1))) c (.linking 0) m = op m := by
    intro m h1 h2; rw [upd_other _ _ _ h1, upd_other _ _ _ h2]
  have hcl' : ∀ m, upd (upd op p (.linking (idx + 1))) c (.linking 0) m = .closed →
      m ≠ c ∧ m ≠ p ∧ op m = .closed := by
    intro m h
    obtain ⟨h1, h2⟩ := upd_closed_inv (Op.linking_ne_closed _) h
    obtain ⟨h3, h4⟩ := upd_closed_inv (Op.linking_ne_closed _) h2
    exact ⟨h1, h3, h4⟩
  have hw : ∀ q i, Wants s' (upd (upd op p (.linking (idx + 1))) c (.linking 0)) q i ↔
      (Wants s op q i ∨ (q = p ∧ i = idx)) := by
    intro q i
    by_cases h : q = p
    · rw [h, wants_linking hopp, wants_linking hop]
      constructor
      · intro h1
        by_cases h2 : i = idx
        · exact Or.inr ⟨rfl, h2⟩
        · exact Or.inl (by omega)
      · rintro (h1 | ⟨-, h1⟩) <;> omega
    · by_cases h' : q = c
      · rw [h', wants_linking hopc, wants_closed hcl, hc]; simp [hne]
      · unfold Wants
        rw [hopo q h' h, hnec q h']
        simp [h]
  have hob : ∀ m, (s'.nodeD m).observers = (s.nodeD m).observers := fun m => by
    by_cases h : m = c
    · rw [h]; exact U.observers_self
    · exact U.observers_other h
  obtain ⟨x1, x2, x3⟩ := GInv2.extras (op' := upd (upd op p (.linking (idx + 1))) c (.linking 0)) I E hob (U.forceNecessary K)
    (fun m hv => U.parents_other (fun e => by rw [e, hcv] at hv; cases hv)) (fun m _ => U.inRch K m)
    (fun m hv ho => by
      have hpv : (s.nodeD p).valid = true := GInv2.valid_of_open I (by rw [hop]; exact Op.linking_ne_closed _)
      have h1 : m ≠ p := fun e => by rw [e, hpv] at hv; cases hv
      have h2 : m ≠ c := fun e => by rw [e, hcv] at hv; cases hv
      rw [hopo m h2 h1]; exact ho)
  refine { frag := KeyEq2.frag2 E I.frag (by rw [U.pc]; exact I.frag.pc) (by rw [U.scope]; exact I.frag.scope),
           inv := x1, scopeObs := x2, lcObs := x3,
           par := ?_, conv := ?_, nodup := ?_, hlt := ?_, hpos := ?_,
           lnec := ?_, unec := ?_, heap := U.heap K I.heap, hgt := ?_, qnec := ?_, queued := ?_,
           qstale := ?_, opLt := ?_, scopeH := ?_ }
  · intro c' q i hm
    rw [KeyEq2.children2 E I.frag, hw]
    rcases (hmem _ _).1 hm with h | ⟨h1, h2⟩
    · exact ⟨(I.par c' q i h).1, Or.inl (I.par c' q i h).2⟩
    · cases h2; rw [h1]; exact ⟨hk, Or.inr ⟨rfl, rfl⟩⟩
  · intro q i c' hk' hw'
    rw [KeyEq2.children2 E I.frag] at hk'
    rw [hmem]
    rcases (hw q i).1 hw' with h | ⟨h1, h2⟩
    · exact Or.inl (I.conv q i c' hk' h)
    · rw [h1, h2, hk] at hk'; cases hk'; exact Or.inr ⟨rfl, by rw [h1, h2]⟩
  · intro m
    by_cases h : m = c
    · rw [h, hpc]; simp
    · rw [U.parents_other h]; exact I.nodup m
  · intro c' q i hm ho
    obtain ⟨-, h1, h2⟩ := hcl' q ho
    rw [hht, hht]
    rcases (hmem _ _).1 hm with h | ⟨-, h3⟩
    · exact I.hlt c' q i h h2
    · cases h3; exact absurd rfl h1
  · intro m hn ho
    obtain ⟨h1, -, h2⟩ := hcl' m ho
    rw [hnec m h1] at hn
    rw [hht]; exact I.hpos m hn h2
  · intro q k ho
    by_cases h' : q = c
    · rw [h']; exact hnecc
    · rw [hnec q h']
      by_cases h : q = p
      · rw [h]; exact I.lnec p idx hop
      · rw [hopo q h' h] at ho; exact I.lnec q k ho
  · intro q k ho
    by_cases h' : q = c
    · rw [h', hopc] at ho; cases ho
    · rw [hnec q h']
      by_cases h : q = p
      · rw [h, hopp] at ho; cases ho
      · rw [hopo q h' h] at ho; exact I.unec q k ho
  · intro m hq ho
    rw [U.inRch K] at hq
    rw [U.heightInRch K, hht]; exact I.hgt m hq (hcl' m ho).2.2
  · intro m hq
    rw [U.inRch K] at hq
    have h' : m ≠ c := by intro e; rw [e, hcq] at hq; cases hq
    rw [hnec m h']
    rcases I.qnec m hq with h | ⟨k, h⟩
    · exact Or.inl h
    · refine Or.inr ⟨k, ?_⟩
      have : m ≠ p := by intro e; rw [e, hop] at h; cases h
      rw [hopo m h' this]; exact h
  · intro m ho hn hs hx
    obtain ⟨h1, -, h2⟩ := hcl' m ho
    rw [hnec m h1] at hn
    rw [KeyEq2.isStale2 E I.frag] at hs
    rw [U.inRch K]; exact I.queued m h2 hn hs hx
  · intro m hq
    rw [U.inRch K] at hq
    rw [KeyEq2.isStale2 E I.frag]; exact I.qstale m hq
  · intro m ho
    rw [U.size]
    by_cases h' : m = c
    · rw [h']; exact U.lt
    · by_cases h : m = p
      · rw [h]; exact I.opLt p (by rw [hop]; exact Op.linking_ne_closed _)
      · rw [hopo m h' h] at ho; exact I.opLt m ho
  · intro m b br hv hsc hb' hn' ho
    obtain ⟨h1, -, h2⟩ := hcl' m ho
    rw [E.valid] at hv; rw [E.createdIn] at hsc; rw [E.binds] at hb'; rw [hnec m h1] at hn'
    rw [hht, hht]
    exact I.scopeH m b br hv hsc hb' hn' h2

/-- the height of an open node whose parents are all open is not constrained -/
theorem GInv2.setHeight_open {n : Nat} {h : Int} (I : GInv2 env rk s op ex dy) (U : NodeUpd n (fHeight h) s s')
    (hb : s'.binds = s.binds)
    (hop : op n ≠ .closed) (hpar : ∀ p i, (p, i) ∈ (s.nodeD n).parents → op p ≠ .closed)
    (hsq : ScopeQuiet s n) :
    GInv2 env rk s' op ex dy := by
  have K := keeps_fHeight h
  have E := KeyEq.of_upd U K hb
  have hpa : ∀ m, (s'.nodeD m).parents = (s.nodeD m).parents := fun m => by
    by_cases e : m = n
    · rw [e]; exact U.parents_self
    · exact U.parents_other e
  have hnec : ∀ m, s'.isNecessary m = s.isNecessary m := fun m => by
    by_cases e : m = n
    · rw [e]
      simp only [State.isNecessary, Node.isNecessary, U.self.parents, U.self.observers, U.self.forceNecessary]
      rfl
    · exact U.nec_other e
  have hw : ∀ q i, Wants s' op q i ↔ Wants s op q i := fun q i => by unfold Wants; rw [hnec]
  have hcn : ∀ m, op m = .closed → m ≠ n := fun m ho e => hop (e ▸ ho)
  have hob : ∀ m, (s'.nodeD m).observers = (s.nodeD m).observers := fun m => by
    by_cases h : m = n
    · rw [h]; exact U.observers_self
    · exact U.observers_other h
  obtain ⟨x1, x2, x3⟩ := GInv2.extras (op' := op) I E hob (U.forceNecessary K)
    (fun m _ => hpa m) (fun m _ => U.inRch K m) (fun m _ ho => ho)
  refine { frag := KeyEq2.frag2 E I.frag (by rw [U.pc]; exact I.frag.pc) (by rw [U.scope]; exact I.frag.scope),
           inv := x1, scopeObs := x2, lcObs := x3,
           par := ?_, conv := ?_, nodup := ?_, hlt := ?_, hpos := ?_,
           lnec := ?_, unec := ?_, heap := U.heap K I.heap, hgt := ?_, qnec := ?_, queued := ?_,
           qstale := ?_, opLt := ?_, scopeH := ?_ }
  · intro c q i hm
    rw [hpa] at hm
    rw [KeyEq2.children2 E I.frag, hw]; exact I.par c q i hm
  · intro q i c hk hw'
    rw [KeyEq2.children2 E I.frag] at hk
    rw [hw] at hw'
    rw [hpa]; exact I.conv q i c hk hw'
  · intro m; rw [hpa]; exact I.nodup m
  · intro c q i hm ho
    rw [hpa] at hm
    have h1 : c ≠ n := by intro e; rw [e] at hm; exact hpar q i hm ho
    rw [U.height_other h1, U.height_other (hcn q ho)]
    exact I.hlt c q i hm ho
  · intro m hn ho
    rw [hnec] at hn
    rw [U.height_other (hcn m ho)]; exact I.hpos m hn ho
  · intro q k ho
    rw [hnec]; exact I.lnec q k ho
  · intro q k ho
    rw [hnec]; exact I.unec q k ho
  · intro m hq ho
    rw [U.inRch K] at hq
    rw [U.heightInRch K, U.height_other (hcn m ho)]; exact I.hgt m hq ho
  · intro m hq
    rw [U.inRch K] at hq
    rw [hnec]; exact I.qnec m hq
  · intro m ho hn hs hx
    rw [hnec] at hn
    rw [KeyEq2.isStale2 E I.frag] at hs
    rw [U.inRch K]; exact I.queued m ho hn hs hx
  · intro m hq
    rw [U.inRch K] at hq
    rw [KeyEq2.isStale2 E I.frag]; exact I.qstale m hq
  · intro m ho
    rw [U.size]; exact I.opLt m ho
  · intro m b br hv hsc hb' hn' ho
    rw [E.valid] at hv; rw [E.createdIn] at hsc; rw [E.binds] at hb'; rw [hnec] at hn'
    have h1 : m ≠ n := hcn m ho
    have h2 : br.lhsChange ≠ n := by
      intro e
      rw [hsq m b br hsc hb' e] at hn'; cases hn'
    rw [U.height_other h1, U.height_other h2]
    exact I.scopeH m b br hv hsc hb' hn' ho

end


end NL

end IncrVerif.Proofs.NestH
