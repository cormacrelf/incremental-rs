import IncrVerif.Proofs.PerKeyH89
/-!
# `VSim`: the API actions (all but `stabilise`, `addDep`, creation of expert / per-key nodes)

The action is the same on both sides: a newly created node is not an expert node, and a created `map f args` has
`f < fnPerKey` (`VInstr`), so it is its own virtual node.  (`VSimAt.createNodeK` is the general form: the virtual
side creates `vKind s k`.)
-/
namespace IncrVerif.Proofs.PerKeyH
open IncrVerif.Engine IncrVerif.Driver IncrVerif.Proofs IncrVerif.Proofs.Step IncrVerif.Proofs.Sched
open IncrVerif.Proofs.ExpertH IncrVerif.Proofs.EffH
open IncrVerif.Proofs.NodeSim (CommAt Comm CommXAt)

/-- creation instructions of the static fragment whose `map` closure ids are below the per-key range (so a created
node is its own virtual node) -/
def VInstr : Instr → Prop
  | .const _ => True
  | .var _ => True
  | .map f _ => f < fnPerKey
  | .fold _ _ _ => True
  | .zip _ _ => True
  | _ => False

theorem VInstr.x {i : Instr} (h : VInstr i) : XInstr i := by
  cases i <;> first | trivial | exact h

/-- API actions simulated here: `ExpertH.XAction` with `VInstr` creation instructions -/
def VAction : Action → Prop
  | .create i => VInstr i
  | .observe _ => True
  | .cloneObs _ => True
  | .dropObs _ => True
  | .disallow _ => True
  | .set _ _ => True
  | .modify _ _ => True
  | .update _ _ => True
  | .replace _ _ => True
  | .replaceWith _ _ => True
  | .get _ => True
  | .isStable => True
  | .stats => True
  | _ => False

theorem VAction.x {a : Action} (h : VAction a) : XAction a := by
  cases a <;> first | trivial | exact h | exact VInstr.x h

/-! ## node creation -/

theorem crState_perkeys (k : Kind) (sc : Scope) (c : CutoffK) (s : State) :
    (crState k sc c s).perkeys = s.perkeys := by
  unfold crState; cases sc <;> rfl

theorem crState_log (k : Kind) (sc : Scope) (c : CutoffK) (s : State) :
    (crState k sc c s).log = s.log := by
  unfold crState; cases sc <;> rfl

/-- the virtual node of a fresh node that is not an expert node -/
theorem vNode_fresh (s : State) (k : Kind) (sc : Scope) (c : CutoffK) (hne : ∀ e, k ≠ .expert e) :
    vNode s { kind := k, createdIn := sc, cutoff := c } = { kind := vKind s k, createdIn := sc, cutoff := c } := by
  cases k <;> first | rfl | exact absurd rfl (hne _)

/-- creation of a node that is not an expert node: the virtual state creates the virtual kind -/
theorem V_crState (k : Kind) (sc : Scope) (c : CutoffK) (s : State) (hne : ∀ e, k ≠ .expert e) :
    V (crState k sc c s) = crState (vKind s k) sc c (V s) := by
  have e : vNode (crState k sc c s) = vNode s := vNode_congr (crState_experts k sc c s) (crState_perkeys k sc c s)
  have h : (s.nodes.push { kind := k, createdIn := sc, cutoff := c }).map (vNode s)
      = (V s).nodes.push { kind := vKind s k, createdIn := sc, cutoff := c } := by
    rw [Array.map_push, vNode_fresh s k sc c hne]; rfl
  unfold V
  rw [e, crState_nodes, crState_log, h]
  unfold crState V
  cases sc <;> simp

/-- node creation, general form: the virtual side creates the virtual kind -/
theorem VSimAt.createNodeK {s : State} {k : Kind} (sc : Scope) (c : CutoffK) (hne : ∀ e, k ≠ .expert e) (hk : XK k) :
    VSimAt s (Engine.createNode k sc c) (Engine.createNode (vKind s k) sc c) := by
  intro hn r s' hr
  rw [run_createNode] at hr ⊢
  cases hr
  rw [V_size, V_crState k sc c s hne]
  exact ⟨rfl, fr_crState sc hn hk⟩

/-- node creation of a kind that is its own virtual kind (not an expert node, `map` id below the per-key range) -/
theorem VSimAt.createNode {s : State} {k : Kind} (sc : Scope) (c : CutoffK) (hne : ∀ e, k ≠ .expert e) (hk : XK k)
    (hm : ∀ f args, k = .map f args → f < fnPerKey) :
    VSimAt s (Engine.createNode k sc c) (Engine.createNode k sc c) := by
  have e : vKind s k = k := by
    cases k <;> first | rfl | exact vKind_map_lt s _ (hm _ _ rfl) | exact absurd rfl (hne _)
  have := VSimAt.createNodeK (s := s) sc c hne hk
  rwa [e] at this

theorem VSimAt.createVar {s : State} (v : Val) (sc : Scope) :
    VSimAt s (Engine.createVar v sc) (Engine.createVar v sc) := by
  have H := blind
  unfold Engine.createVar
  refine vsimAt_iff.2 (CommXAt.get_seq ?_)
  vnorm
  refine CommXAt.seq (vsimAt_iff.1 (VSimAt.createNode sc .eq (fun e h => by cases h) trivial (fun _ _ h => by cases h)))
    fun _ _ _ _ => ?_
  sim

/-! ## `elabInstr`, `stepAction` -/

/-- `some <$> createNode k sc` for a static kind -/
macro "vcr_node" : tactic => `(tactic|
  exact IncrVerif.Proofs.NodeSim.CommXAt.map _ (IncrVerif.Proofs.PerKeyH.vsimAt_iff.1
    (IncrVerif.Proofs.PerKeyH.VSimAt.createNode _ _ (fun e h => by cases h) trivial
      (fun _ _ h => by first | (cases h; done) | (cases h; first | assumption | decide)))))

theorem VSimAt.elabInstr {s : State} {i : Instr} (hR : VInstr i) :
    VSimAt s (Engine.elabInstr [] .unit i) (Engine.elabInstr [] .unit i) := by
  have H := blind
  unfold Engine.elabInstr
  refine vsimAt_iff.2 ?_
  cases i <;> simp only [VInstr] at hR <;> refine CommXAt.get_seq ?_ <;> try vnorm
  case const v => vcr_node
  case var v => exact CommXAt.map _ (vsimAt_iff.1 (VSimAt.createVar v .top))
  case map f args =>
    refine commAt_ro_seq (Step.Pres.mapM (fun a => RO.resolveOpnd [] a) args)
      (NodeSim.Comm.mapM (fun a => NodeSim.Comm.resolveOpnd H [] a) args s) fun as => ?_
    vcr_node
  case fold f init cs =>
    refine commAt_ro_seq (Step.Pres.mapM (fun a => RO.resolveOpnd [] a) cs)
      (NodeSim.Comm.mapM (fun a => NodeSim.Comm.resolveOpnd H [] a) cs s) fun as => ?_
    refine CommXAt.cond Iff.rfl (fun _ => ?_) (fun _ => ?_) <;> vcr_node
  case zip a b =>
    refine commAt_ro_seq (RO.resolveOpnd [] a) (NodeSim.Comm.resolveOpnd H [] a s) fun x => ?_
    refine commAt_ro_seq (RO.resolveOpnd [] b) (NodeSim.Comm.resolveOpnd H [] b s) fun y => ?_
    refine commAt_ro_seq (RO.isConstant x) (NodeSim.Comm.isConstant H x s) fun cx => ?_
    refine commAt_ro_seq (RO.isConstant y) (NodeSim.Comm.isConstant H y s) fun cy => ?_
    split <;> vcr_node

theorem VSimAt.elabInstrM {s : State} {i : Instr} (env : Env) (hR : VInstr i) :
    VSimAt s (Engine.elabInstrM env [] .unit i) (Engine.elabInstrM (penv env) [] .unit i) := by
  rw [elabInstrM_eq _ _ _ hR.x, elabInstrM_eq _ _ _ hR.x]
  exact VSimAt.elabInstr hR

theorem actCalc : Hist.ActCalc V (fun s => VSimAt s) :=
  (NodeSim.actCalc blind).congr V_eq fun _ _ _ _ => vsimAt_iff

theorem VAction.cases {a : Action} (h : VAction a) : (∃ i, a = .create i ∧ VInstr i) ∨ Hist.Plain a := by
  cases a <;> first | exact Or.inl ⟨_, rfl, h⟩ | exact Or.inr trivial | exact h.elim

/-- every API action of the fragment (identical on both sides) -/
theorem VSimAt.stepAction {s : State} {a : Action} (env : Env) (tk : Array Nat) (hR : VAction a) :
    VSimAt s (Engine.stepAction env a tk) (Engine.stepAction (penv env) a tk) := by
  rcases hR.cases with ⟨i, rfl, hi⟩ | hp
  · exact actCalc.create tk (VSimAt.elabInstrM env hi)
  · exact actCalc.plain hp _ _ tk s

theorem VInstr.of_x {i : Instr} (h : XInstr i) (hf : ∀ f args, i = .map f args → f < fnPerKey) : VInstr i := by
  cases i <;> first | exact hf _ _ rfl | exact h

theorem VAction.of_x {a : Action} (h : XAction a) (hf : ∀ f args, a = .create (.map f args) → f < fnPerKey) :
    VAction a := by
  cases a <;> first | exact VInstr.of_x h (fun f args e => hf f args (by rw [e])) | exact h

/-- `VSimAt.stepAction` for an `ExpertH.XAction` whose created `map` has a closure id below the per-key range -/
theorem VSimAt.stepAction' {s : State} {a : Action} (env : Env) (tk : Array Nat) (hR : ExpertH.XAction a)
    (hf : ∀ f args, a = .create (.map f args) → f < fnPerKey) :
    VSimAt s (Engine.stepAction env a tk) (Engine.stepAction (penv env) a tk) :=
  VSimAt.stepAction env tk (VAction.of_x hR hf)

end IncrVerif.Proofs.PerKeyH
