import IncrVerif.Proofs.ExpertH42
import IncrVerif.Proofs.ExpertH21
/-!
# Expert fragment: what the observers read after a `stabilise` (the counterpart of MapRef29 `stabilisedR_reads`)
-/
namespace IncrVerif.Proofs.ExpertH
open IncrVerif.Engine IncrVerif.Driver IncrVerif.Proofs IncrVerif.Proofs.Step IncrVerif.Proofs.Sched
open IncrVerif.Proofs.ExpertH.QR

/-- every observer in use reads the from-scratch evaluation (`evalX`: through expert nodes) of its node on the
current variable values -/
def ReadsOKX (env : Env) (s : State) : Prop :=
  ∀ (o : Nat) (ob : ObsRec), s.observers[o]? = some ob → ob.state = .inUse →
    ∀ k, (s.nodeD ob.node).height.toNat < k →
      ∃ v, s.tryGetValue env o = .ok v ∧ evalX env s k ob.node = some v

/-- what the observers read in a state between actions in which nothing is pending and every necessary node reads its from-scratch value -/
theorem reads_of_values {env : Env} {rk : Nat → Nat} {s : State} (Q : QInvX env rk s)
    (hno : s.newObservers = []) (hdo : s.disallowedObservers = [])
    (hvals : ∀ n, s.isNecessary n = true → ∀ k, (s.nodeD n).height.toNat < k →
      s.isStale n = false ∧ s.value env n = evalX env s k n ∧ (evalX env s k n).isSome = true) :
    ReadsOKX env s ∧ ObsSettled s := by
  have Q' := Q.q
  have O' : ObsInv (virt s) [] [] := by
    have := Q'.obs
    unfold ObsOK at this
    have e1 : (virt s).newObservers = [] := hno
    have e2 : (virt s).disallowedObservers = [] := hdo
    rw [e1, e2] at this
    exact this
  refine ⟨?_, ?_⟩
  · intro o ob ho hst k hk
    have hmem : o ∈ ((virt s).nodeD ob.node).observers := (O'.mem ob.node o).2 ⟨ob, ho, rfl, Or.inl hst⟩
    rw [virt_nodeD, virtNode_observers] at hmem
    have hn : s.isNecessary ob.node = true := nec_of_mem_observers hmem
    obtain ⟨-, hv, hs⟩ := hvals ob.node hn k hk
    obtain ⟨v, hev⟩ := Option.isSome_iff_exists.1 hs
    refine ⟨v, ?_, hev⟩
    exact tryGetValue_inUse Q'.alive Q'.status ho hst (hv.trans hev)
  · intro o ob ho
    have ho' : (virt s).observers[o]? = some ob := ho
    cases hst : ob.state with
    | inUse => exact Or.inl rfl
    | unlinked => exact Or.inr rfl
    | created => have := O'.created o ob ho' hst; cases this
    | disallowed => have := (O'.dis o ob ho').1 hst; cases this

theorem stabilisedX_reads {env : Env} {rk : Nat → Nat} {fuel : Nat} {s s' : State}
    (R : StabilisedX env rk fuel s s') : ReadsOKX env s' ∧ ObsSettled s' ∧
      (∀ n, s'.isNecessary n = true → s'.isStale n = false) :=
  have ⟨h1, h2⟩ := reads_of_values R.inv R.virt.newObservers R.virt.disallowedObservers R.values
  ⟨h1, h2, fun n hn => (R.values n hn _ (Nat.lt_succ_self _)).1⟩

end IncrVerif.Proofs.ExpertH
