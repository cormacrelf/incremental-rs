import IncrVerif.Proofs.OnceF9
import IncrVerif.Proofs.OnceF11
/-!
# C02, combined fragment, part 12: FINAL INPUTS, value form — the stored values of the (stable) children of a node at the moment it runs are their stored values at the end of the drain

`VK m s s'`: node `m` (if it exists in `s`) stores in `s'` what it stored in `s`, or nothing.  `PathF.vk`: a path of the drain none of whose steps is on `m`.
`PathF.inputs`: for every step `p` of a drain of the combined fragment and every stable child `c` (`SKid`) of its node in the state `p.2` in which it runs, `VK c p.2 s'`
— `c` is not the node of `p` (the graph is acyclic) nor of a later step (`PathF.order`), and the value frame `VR` of `OnceF11`.
-/
namespace IncrVerif.Proofs.OnceF
open IncrVerif.Engine IncrVerif.Driver IncrVerif.Proofs IncrVerif.Proofs.Step IncrVerif.Proofs.Sched IncrVerif.Proofs.Quiet
open IncrVerif.Proofs.FullH IncrVerif.Proofs.TidyH
open IncrVerif.Proofs.BindH (DInv FrameB RanOnceB Edge Below)

/-- node `m` keeps its stored value or loses it -/
def VK (m : Nat) (s s' : State) : Prop :=
  s.nodes.size ≤ s'.nodes.size ∧ (m < s.nodes.size → (s'.nodeD m).value = (s.nodeD m).value ∨ (s'.nodeD m).value = none)

theorem VK.refl (m : Nat) (s : State) : VK m s s := ⟨Nat.le_refl _, fun _ => Or.inl rfl⟩

theorem VK.trans {m : Nat} {a b c : State} (h1 : VK m a b) (h2 : VK m b c) : VK m a c := by
  refine ⟨Nat.le_trans h1.1 h2.1, fun hm => ?_⟩
  rcases h2.2 (Nat.lt_of_lt_of_le hm h1.1) with e | e
  · rw [e]; exact h1.2 hm
  · exact Or.inr e

theorem VK.of_vr {m k : Nat} {s s' : State} (h : VR k s s') (hm : m ≠ k) : VK m s s' :=
  ⟨h.size, fun hlt => h.value m hm hlt⟩

section
variable {env : Env} {sp : Nat → Val → Val} {t : State} {l : List (Nat × State)} {a c : (Nat → Option Val) × State} {x z : Option Nat}

/-- a path of the drain none of whose steps is on `m` -/
theorem PathF.vk (h : PathF env sp t l a x c z) (m : Nat) (hq : ∀ q, q ∈ l → q.1 ≠ m) : VK m a.2 c.2 :=
  h.rel (R := fun a c => VK m a.2 c.2) (fun _ => VK.refl m _) VK.trans
    (fun _ _ _ p => VK.of_vr ((PresV.rchRemoveMin (m+1)).h _ _ _ p.run) (by omega))
    fun n _ _ _ hm s => by
      obtain ⟨fuel, hr⟩ := s.run
      exact VK.of_vr ((PresV.recomputeOne env fuel n).h _ _ _ hr) fun e => hq _ hm e.symm

/-- **FINAL INPUTS, value form, the drain of the combined fragment** -/
theorem PathF.inputs (h : PathF env sp t l a x c z) {p : Nat × State} (hp : p ∈ l) :
    ∀ k, SKid p.2 p.1 k → k < p.2.nodes.size ∧
      ((c.2.nodeD k).value = (p.2.nodeD k).value ∨ (c.2.nodeD k).value = none) := by
  intro k hk
  have hord := PathF.order h
  obtain ⟨l₁, l₂, u, v, r, e, -, eu, s, k2⟩ := h.of_mem hp
  rw [e] at hord
  have hq : ∀ q, q ∈ l₂ → q.1 ≠ k := fun q hq => (List.pairwise_cons.1 (List.pairwise_append.1 hord).2.1).1 q hq k hk
  rw [← show u.2 = p.2 from eu] at hk ⊢
  obtain ⟨-, hlt, hv, -, -⟩ := s.inv.inv.cur_facts
  have hcv : k ∈ (virt u.1 u.2).children p.1 := by rw [virt_children]; exact hk.1
  have hne : p.1 ≠ k := s.inv.inv.graph.edge_ne (Edge.child hcv)
  have hklt : k < u.2.nodes.size := by
    have := ((s.inv.inv.graph.node p.1 hlt hv).2.2 k hcv).1
    rw [virt_size] at this; exact this
  obtain ⟨fuel, hr⟩ := s.run
  have k1 : VK k u.2 v.2 := VK.of_vr ((PresV.recomputeOne env fuel p.1).h _ _ _ hr) hne.symm
  have k3 := k1.trans (PathF.vk k2 k hq)
  exact ⟨hklt, k3.2 hklt⟩

end
end IncrVerif.Proofs.OnceF
