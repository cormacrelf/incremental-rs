import IncrVerif.Proofs.FullH17
import IncrVerif.Proofs.BindH11
import IncrVerif.Proofs.MapRef9
/-!
# C01 full fragment: the `didChange` invariant through the recompute step of a node that is neither a map_ref, nor a map_with_old,
nor a change-detector node (`const`, `var`, `map`, `fold`, `bindMain`): SAME ghost
-/
namespace IncrVerif.Proofs.FullH
open IncrVerif.Engine IncrVerif.Proofs IncrVerif.Proofs.Step IncrVerif.Proofs.Sched IncrVerif.Proofs.Quiet
open IncrVerif.Proofs.MapRefH (ValFrame)
open IncrVerif.Proofs.BindH (DInv BGraph Below Edge)

section
variable {env : Env} {sp : Nat → Val → Val} {g : Nat → Option Val} {s : State}

theorem kind?_of_valid {n : Nat} (hv : (s.nodeD n).valid = true) : (s.nodeD n).kind? = some (s.nodeD n).kind := by
  simp [Node.kind?, hv]

/-- the virtual stored values of the arguments are the values read -/
theorem plainVals_virt_of_settled (l : List Nat) (h : ∀ a, a ∈ l → tv g s a = s.value env a) :
    plainVals (virt g s) l = valuesOf env s l := by
  rw [virt_plainVals, valuesOf_eq_evalArgs]
  exact evalArgs_congr _ _ _ h

/-- **the run equation of the step** (arbitrary outcomes): a valid node of the fragment that is neither a map_ref, nor a map_with_old, nor a change-detector node, whose
children are settled and have values (and whose right-hand side is installed, for `bindMain`): its step is a `maybe_change_value` of the value of its defining
expression in the virtual state -/
theorem recomputeOne_eq_mcv {fuel n : Nat} (F : FFrag env sp g s)
    (gr : BGraph (VE env sp) (virt g s)) (hn : n < s.nodes.size) (hv : (s.nodeD n).valid = true)
    (hk1 : ∀ p i, (s.nodeD n).kind ≠ .mapRef p i) (hk2 : ∀ m i, (s.nodeD n).kind ≠ .mapWithOld m i)
    (hk3 : ∀ b, (s.nodeD n).kind ≠ .bindLhsChange b)
    (hkids : ∀ a, a ∈ s.children n → tv g s a = s.value env a ∧ (s.value env a).isSome = true)
    (hrhs : ∀ b lc br, (s.nodeD n).kind = .bindMain b lc → s.binds[b]? = some br → br.rhs ≠ none) :
    ∃ v es, BindH.TargetB (VE env sp) (virt g s) n v ∧ (recomputeOne env fuel n).run.run s =
      (maybeChangeValue env fuel n v).run.run (logged es (started n s)) := by
  have hnn := some_of_lt hn
  have hR := F.fr.kinds n hn
  have hnv : n < (virt g s).nodes.size := by rw [virt_size]; exact hn
  have hvv : ((virt g s).nodeD n).valid = true := by rw [virt_nodeD, virtNode_valid]; exact hv
  have hk? := kind?_of_valid hv
  have hkv : ((virt g s).nodeD n).kind = virtKind (s.nodeD n).kind := by rw [virt_nodeD, virtNode_kind]
  cases hkd : (s.nodeD n).kind with
  | const w =>
    rw [hkd] at hkv
    exact ⟨w, [], by simp only [BindH.TargetB, Target, hkv, virtKind], recomputeOne_const_run env fuel n s _ w hnn hv hkd⟩
  | var c =>
    rw [hkd] at hkv
    obtain ⟨vc, hvc⟩ := gr.var n c hnv hvv hkv
    refine ⟨vc.value, [], ?_, recomputeOne_var_run env fuel n s _ c vc hnn hv hkd hvc⟩
    simp only [BindH.TargetB, Target, hkv, virtKind]; exact ⟨vc, hvc, rfl⟩
  | map f args =>
    rw [hkd] at hR hkv
    have hch : s.children n = args := by unfold State.children; rw [hk?, hkd]
    rw [hch] at hkids
    obtain ⟨vals, hvals⟩ := MapRefH.valuesOf_of_isSome env s args (fun a ha => (hkids a ha).2)
    have hpv : plainVals (virt g s) args = some vals := by
      rw [plainVals_virt_of_settled args (fun a ha => (hkids a ha).1)]; exact hvals
    have ht : BindH.TargetB (VE env sp) (virt g s) n (env.fn f vals) := by
      simp only [BindH.TargetB, Target, hkv, virtKind]
      exact ⟨vals, hpv, (virtEnv_fn_real env sp hR.1 vals).symm⟩
    by_cases hf : f < fnZip
    · exact ⟨_, _, ht, recomputeOne_map_run env fuel n s _ f args vals hnn hv hkd hf hvals (hR.2 hf vals) F.pc⟩
    · refine ⟨_, [], ht, recomputeOne_mapBuiltin_run env fuel n s _ f args vals hnn hv hkd hf ?_ hvals⟩
      have := hR.1; unfold pBase at this; unfold fnPerKey; omega
  | fold f init cs =>
    rw [hkd] at hkv
    have hch : s.children n = cs := by unfold State.children; rw [hk?, hkd]
    rw [hch] at hkids
    obtain ⟨vals, hvals⟩ := MapRefH.valuesOf_of_isSome env s cs (fun a ha => (hkids a ha).2)
    have hpv : plainVals (virt g s) cs = some vals := by
      rw [plainVals_virt_of_settled cs (fun a ha => (hkids a ha).1)]; exact hvals
    refine ⟨_, _, ?_, recomputeOne_fold_run env fuel n s _ f init cs vals hnn hv hkd hvals F.pc⟩
    simp only [BindH.TargetB, Target, hkv, virtKind]
    exact ⟨vals, hpv, rfl⟩
  | mapRef p i => exact absurd hkd (hk1 p i)
  | mapWithOld m i => exact absurd hkd (hk2 m i)
  | bindLhsChange b => exact absurd hkd (hk3 b)
  | bindMain b lc =>
    rw [hkd] at hkv
    obtain ⟨br, hbr, -, -, -⟩ := gr.mainRec n b lc hnv hvv hkv
    have hbr' : s.binds[b]? = some br := hbr
    cases hr : br.rhs with
    | none => exact absurd hr (hrhs b lc br hkd hbr')
    | some r0 =>
      have hch : s.children n = [lc, r0] := by
        simp only [State.children, hk?, hkd, hbr', hr]
      have hmem : r0 ∈ s.children n := by rw [hch]; simp
      obtain ⟨hrlt, hrv⟩ := (gr.node n hnv hvv).2.2 r0 (by rw [virt_children]; exact hmem)
      rw [virt_size] at hrlt
      rw [virt_nodeD, virtNode_valid] at hrv
      obtain ⟨hset, hsome⟩ := hkids r0 hmem
      cases hval : s.value env r0 with
      | none => rw [hval] at hsome; cases hsome
      | some v =>
        refine ⟨v, [], ?_, recomputeOne_bindMain_run env fuel n s _ b lc r0 br _ v hnn hv hkd hbr' hr (some_of_lt hrlt) hrv hval⟩
        simp only [BindH.TargetB, hkv, virtKind]
        exact ⟨br, r0, hbr, hr, by rw [← hval, ← hset]; rfl⟩
  | expert e => exact absurd hkd (F.fr.noExp n e)

/-- a returning step has its right-hand side installed -/
theorem recomputeOne_as_mcv {fuel n : Nat} {r : Option Nat} {s' : State} (F : FFrag env sp g s)
    (gr : BGraph (VE env sp) (virt g s)) (hn : n < s.nodes.size) (hv : (s.nodeD n).valid = true)
    (hk1 : ∀ p i, (s.nodeD n).kind ≠ .mapRef p i) (hk2 : ∀ m i, (s.nodeD n).kind ≠ .mapWithOld m i)
    (hk3 : ∀ b, (s.nodeD n).kind ≠ .bindLhsChange b)
    (hkids : ∀ a, a ∈ s.children n → tv g s a = s.value env a ∧ (s.value env a).isSome = true)
    (h : (recomputeOne env fuel n).run.run s = (.ok r, s')) :
    ∃ v es, BindH.TargetB (VE env sp) (virt g s) n v ∧ (recomputeOne env fuel n).run.run s =
      (maybeChangeValue env fuel n v).run.run (logged es (started n s)) :=
  recomputeOne_eq_mcv F gr hn hv hk1 hk2 hk3 hkids fun b lc br hkd hbr hr => by
    obtain ⟨e, t, he⟩ := BindH.BS.recomputeOne_bindMain_norhs env fuel n s _ b lc br (some_of_lt hn) hv hkd hbr hr
    rw [he] at h; cases h

/-- **the `didChange` invariant through the step of a node that is neither a map_ref, nor a map_with_old, nor a change-detector node**
(`const`, `var`, `map`, `fold`, `bindMain`) whose ACTUAL cutoff is `.eq` or `.never`: the same ghost; the fragment is kept as well -/
theorem static_keepsK' {t : State} {n fuel : Nat} {r : Option Nat} {s' : State}
    (D : DInvF env sp t s g (some n))
    (hk1 : ∀ p i, (s.nodeD n).kind ≠ .mapRef p i) (hk2 : ∀ m i, (s.nodeD n).kind ≠ .mapWithOld m i)
    (hk3 : ∀ b, (s.nodeD n).kind ≠ .bindLhsChange b)
    (hcut : (s.nodeD n).cutoff = .eq ∨ (s.nodeD n).cutoff = .never)
    (h : (recomputeOne env fuel n).run.run s = (.ok r, s')) : KInv env g s' ∧ FFrag env sp g s' := by
  have gr := D.inv.graph
  obtain ⟨hnv, -⟩ := D.inv.cur n rfl
  have hlt : n < s.nodes.size := by have := gr.nec_lt hnv; rw [virt_size] at this; exact this
  have hvv := (gr.nec n hnv).1
  have hv : (s.nodeD n).valid = true := by rw [virt_nodeD, virtNode_valid] at hvv; exact hvv
  obtain ⟨v, es, -, hrun⟩ := recomputeOne_as_mcv (fuel := fuel) D.frag gr hlt hv hk1 hk2 hk3 (kids_settled D) h
  rw [hrun] at h
  have hv0 : ((logged es (started n s)).nodeD n).value = (s.nodeD n).value := by
    show ((started n s).nodeD n).value = _
    rw [started_nodeD]; split <;> rfl
  exact mcv_keepsK D.frag gr D.k hlt hk1 hcut ((ValFrame.started n s).logged es) hv0 h

theorem static_keepsK {env : Env} {sp : Nat → Val → Val} {t s : State} {g : Nat → Option Val} {n fuel : Nat} {r : Option Nat}
    {s' : State} (D : DInvF env sp t s g (some n))
    (hk1 : ∀ p i, (s.nodeD n).kind ≠ .mapRef p i) (hk2 : ∀ m i, (s.nodeD n).kind ≠ .mapWithOld m i)
    (hk3 : ∀ b, (s.nodeD n).kind ≠ .bindLhsChange b)
    (hcut : (s.nodeD n).cutoff = .eq ∨ (s.nodeD n).cutoff = .never)
    (h : (recomputeOne env fuel n).run.run s = (.ok r, s')) : KInv env g s' :=
  (static_keepsK' D hk1 hk2 hk3 hcut h).1

end
end IncrVerif.Proofs.FullH
