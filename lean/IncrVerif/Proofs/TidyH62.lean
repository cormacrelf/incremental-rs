import IncrVerif.Proofs.TidyH61
/-!
# T1b, part 5: `childChanged` through map_ref parents — invisible in the virtual state, and it RETURNS

`childChanged env fuel p child ci old` on a map_ref parent `p` reads the value of `child` (which must exist), updates the
flag of `p` and recurses through the recorded parents of `p`.  With `P2 N K` those are younger than `p` and exist, so
`N ≤ fuel + p` is enough fuel.
-/
namespace IncrVerif.Proofs.TidyH.RT
open IncrVerif.Engine IncrVerif.Driver IncrVerif.Proofs IncrVerif.Proofs.Step IncrVerif.Proofs.Sched IncrVerif.Proofs.Quiet
open IncrVerif.Proofs.MapRefH

section
variable {g : Nat → Option Val} {N : Nat} {K : Nat → Kind}

/-- flag-only work does not change what the nodes read -/
theorem veq_value {s s' : State} (v : VEq g s s') (hfr : Fr s) (env : Env) (m : Nat) :
    s'.value env m = s.value env m := by
  have hnd : ∀ k, (virt g s').nodeD k = (virt g s).nodeD k := fun k => by rw [v.veq]
  have hsz : s'.nodes.size = s.nodes.size := by
    have := congrArg (fun t : State => t.nodes.size) v.veq
    simpa [virt_size] using this
  refine value_congr_mr env s s' hsz (fun k => ⟨v.kind k, ?_, ?_⟩) m
  · have := congrArg Node.valid (hnd k)
    rwa [virt_nodeD, virt_nodeD, virtNode_valid, virtNode_valid] at this
  · by_cases hk : ∀ p i, (s.nodeD k).kind ≠ .mapRef p i
    · left
      have := congrArg Node.value (hnd k)
      rwa [virt_nodeD, virt_nodeD, virtNode_value_of_not_mapRef _ _ hk,
        virtNode_value_of_not_mapRef _ _ (by rw [v.kind]; exact hk)] at this
    · right
      refine ⟨isMapRef_iff.2 ?_, hfr.valid k⟩
      cases hkd : (s.nodeD k).kind <;> first | exact ⟨_, _, rfl⟩ | (exfalso; apply hk; intro p i; rw [hkd]; intro h; cases h)

/-- the carried invariant of a notification walk from node `n`: `P2`, and `n` has a value -/
structure P3 (N : Nat) (K : Nat → Kind) (env : Env) (n : Nat) (s : State) : Prop where
  p2 : P2 N K s
  val : (s.value env n).isSome = true

instance (env : Env) (n : Nat) : Keeps (P3 N K env n) where
  fr h := h.p2.fr
  of_nodes {s s'} h e1 e2 := by
    refine ⟨Keeps.of_nodes h.p2 e1 e2, ?_⟩
    have hn : ∀ k, s'.nodeD k = s.nodeD k := fun k => by simp [State.nodeD, e1]
    rw [value_congr env s s' (by rw [e1]) (fun k => by rw [hn])]; exact h.val
  modify {s} m f h hk := by
    refine ⟨Keeps.modify m f h.p2 hk, ?_⟩
    rw [value_congr env s _ (by simp) (fun k => ?_)]
    · exact h.val
    · rw [nodeD_modify]; split
      · simp only [valueCore, (hk _).1, (hk _).2.1, (hk _).2.2.2.2]
      · rfl
  rmParent {s} c k h := by
    refine ⟨Keeps.rmParent c k h.p2, ?_⟩
    rw [value_congr env s _ (by simp) (fun k => ?_)]
    · exact h.val
    · rw [nodeD_modify]; split <;> rfl

theorem P3.of_veq {env : Env} {n : Nat} {s s' : State} (h : P3 N K env n s) (v : VEq g s s') : P3 N K env n s' :=
  ⟨h.p2.of_veq v, by rw [veq_value v h.p2.fr]; exact h.val⟩

/-- **`childChanged` returns.** -/
theorem childChanged_returns (env : Env) : ∀ (fuel p c ci : Nat) (o : Option Val) (s : State), P2 N K s →
    c ∈ kidsR (K p) → N ≤ fuel + p → (s.value env c).isSome = true →
    ∃ s', (childChanged env fuel p c ci o).run.run s = (.ok (), s') := by
  intro fuel
  induction fuel with
  | zero =>
    intro p c ci o s hp hc hf _
    have := hp.lt_of_kid hc; omega
  | succ fuel ih =>
    intro p c ci o s hp hc hf hval
    have hpN := hp.lt_of_kid hc
    have hlt : p < s.nodes.size := by rw [hp.size]; exact hpN
    suffices T : Tot (childChanged env (fuel + 1) p c ci o) s (fun _ _ => True) by
      obtain ⟨_, s', h, -⟩ := T; exact ⟨s', h⟩
    unfold childChanged
    refine Tot.bind_getNode hlt ?_
    have hk? : (s.nodeD p).kind? = some (K p) := by simp [Node.kind?, hp.fr.valid p, hp.kind p]
    rw [hk?]
    have hfk := hp.fragK p
    cases hkp : K p <;> rw [hkp] at hfk hc <;> try exact hfk.elim
    case mapRef pr i =>
      dsimp only
      have hci : c = i := by simpa [kidsR] using hc
      obtain ⟨cv, hcv⟩ := Option.isSome_iff_exists.1 hval
      refine Tot.bind_ok (a := cv) (s1 := s) (by rw [run_valueUnwrap, hcv]) ?_
      -- the cutoff of a map_ref node is `.eq`
      have hcut : (s.nodeD p).cutoff = .eq := hp.fr.cut p pr i (by rw [hp.kind, hkp])
      have hsc : ∀ (a b : Val), (shouldCutoff env p a b).run.run s = (.ok (a == b), s) := by
        intro a b
        unfold shouldCutoff
        rw [run_bind_ok (run_getNode_some (some_of_lt hlt)), hcut]; rfl
      suffices tail : ∀ (oo : Option Val) (did : Bool), Tot (do
          modNode p fun x => { x with didChange := x.didChange || did }
          let nd ← getNode p
          forIn nd.parents PUnit.unit fun x _ => do
            childChanged env fuel x.fst p x.snd oo
            pure (ForInStep.yield PUnit.unit)
          pure ()) s (fun _ _ => True) by
        cases o with
        | none =>
          simp only [Option.map_none, pure_bind]
          exact tail _ true
        | some ov =>
          simp only [Option.map_some]
          refine Tot.bind_ok (hsc _ _) ?_
          simp only [pure_bind]
          exact tail _ _
      intro oo did
      refine Tot.bind_modNode ?_
      have v1 : VEq (fun _ => none) s { s with nodes := s.nodes.modify p fun x => { x with didChange := x.didChange || did } } :=
        VEq.modNode s p _ (by vflag)
      have hp1 := hp.of_veq v1
      have hval1 : ∀ m, ({ s with nodes := s.nodes.modify p fun x => { x with didChange := x.didChange || did } } :
          State).value env m = s.value env m := veq_value v1 hp.fr env
      generalize ({ s with nodes := s.nodes.modify p fun x => { x with didChange := x.didChange || did } } : State)
        = s1 at hp1 hval1
      have hlt1 : p < s1.nodes.size := by rw [hp1.size]; exact hpN
      refine Tot.bind_getNode hlt1 ?_
      -- `p` has a value, through the whole walk
      have hvp : (s1.value env p).isSome = true := by
        rw [hval1]
        have F : MapRefsBack s := by
          intro n nd q j hn hk
          have e := nodeD_of_some hn
          have : j ∈ kidsR (K n) := by rw [← hp.kind n, e, hk]; simp [kidsR]
          exact hp.back n j this
        unfold State.value
        rw [valueWith_succ']
        have hcore : valueCore (s.nodeD p) = (.mapRef pr i, true, (s.nodeD p).value) := by
          simp [valueCore, hp.kind p, hkp, hp.fr.valid p]
        rw [hcore]
        simp only [valueStep']
        have hi : i < p := hp.back p i (by rw [hkp]; simp [kidsR])
        have := valueWith_congr_below env.proj s s F i (fun _ _ => rfl) (s.nodes.size) (s.nodes.size + 1)
          (by omega) (by omega)
        rw [← this]
        rw [hci] at hval
        unfold State.value at hval
        cases hx : State.valueWith env.proj s (s.nodes.size + 1) i with
        | none => rw [hx] at hval; cases hval
        | some x => rfl
      refine Tot.bind (Q := fun _ _ => True) ?_ (fun _ _ _ _ => Tot.pure trivial)
      have key := forIn_tot (fun (x : Nat × Nat) (r : PUnit) => do
          let _ ← childChanged env fuel x.1 p x.2 oo
          pure (ForInStep.yield PUnit.unit)) (s1.nodeD p).parents
        (fun _ _ t => P2 N K t ∧ (t.value env p).isSome = true) ?_
        (s1.nodeD p).parents 0 PUnit.unit s1 (by simp) (Nat.zero_le _) ⟨hp1, hvp⟩
      · obtain ⟨b', s', h, -⟩ := key
        exact ⟨b', s', h, trivial⟩
      · intro j a b t hj ⟨hpt, hvt⟩
        have hmem : a ∈ (s1.nodeD p).parents := List.mem_of_getElem? hj
        obtain ⟨pp, ci'⟩ := a
        obtain ⟨h1, h2, h3⟩ := hp1.parent_facts hmem
        obtain ⟨t', ht'⟩ := ih pp p ci' _ t hpt h3 (by omega) hvt
        have v := childChanged_veq (g := fun _ => none) hpt.fr ht'
        exact ⟨PUnit.unit, t', by rw [run_bind_ok ht', run_pure], hpt.of_veq v, by rw [veq_value v hpt.fr]; exact hvt⟩
    all_goals exact Tot.pure trivial

/-- the leaf: `childChanged` from the changed node `n` to a recorded parent `p` -/
theorem BSimAt.childChanged {env : Env} {fuel p n ci : Nat} {o o' : Option Val} {s : State}
    (hk : n ∈ kidsR (K p)) (hf : N ≤ fuel + p) :
    BSimAt (P3 N K env n) g s (Engine.childChanged env fuel p n ci o)
      (Engine.childChanged (virtEnv env) fuel p n ci o') := by
  intro hp
  refine ⟨fun r s' hr => ?_, fun r t hr => ?_⟩
  · exact ⟨(St.childChanged' (g := g) env fuel fuel p n ci o o' (Nat.eq_zero_or_pos fuel).symm s hp.p2.fr r s' hr).1,
      hp.of_veq (childChanged_veq (g := g) hp.p2.fr hr)⟩
  · obtain ⟨s', hs'⟩ := childChanged_returns env fuel p n ci o s hp.p2 hk hf hp.val
    exact ⟨s', hs'⟩

end
end IncrVerif.Proofs.TidyH.RT
