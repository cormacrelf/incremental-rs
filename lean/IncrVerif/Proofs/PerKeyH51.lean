import IncrVerif.Proofs.PerKeyH35
/-!
# A run of a per-key change detector, part 2b: the frame `LKF` (operator records, kinds, record cores, naming table)
of the engine calls of the loop — `expertAddDependency`, `expertMakeStale`, `maybeChangeValue`

`LKF` is kept by every primitive write but a dozen (`LKF.of_edit`), none of which these calls make.
-/
namespace IncrVerif.Proofs.PerKeyH
open IncrVerif.Engine IncrVerif.Driver IncrVerif.Proofs IncrVerif.Proofs.Step IncrVerif.Proofs.Sched
open IncrVerif.Proofs.ExpertH IncrVerif.Proofs.EffH IncrVerif.Proofs.DriverH IncrVerif.Proofs.ExpertH.QR IncrVerif.Proofs.Footprint

/-- what the engine calls of the loop never change: the operator records, the number and kinds of the nodes, the
number of records and their `f`, `node`, `pk`, `script`, `sel` (NOT `numInvalidChildren`: `observabilityChange` and
`propagateInvalidity` write it), the naming table
(+ `handles`, `slots`, `memos`, `cfg`, `currentlyRunning`) -/
structure LKF (a b : State) : Prop where
  perkeys : b.perkeys = a.perkeys
  size : b.nodes.size = a.nodes.size
  kind : ∀ m, (b.nodeD m).kind = (a.nodeD m).kind
  xsize : b.experts.size = a.experts.size
  xcore : ∀ e : Nat,
    (b.experts[e]?).map (fun er => (er.f, er.node, er.pk, er.script, er.sel)) =
    (a.experts[e]?).map (fun er => (er.f, er.node, er.pk, er.script, er.sel))
  top : b.top = a.top
  handles : b.handles = a.handles
  slots : b.slots = a.slots
  memos : b.memos = a.memos
  cfg : b.cfg = a.cfg
  currentlyRunning : b.currentlyRunning = a.currentlyRunning

theorem LKF.refl (s : State) : LKF s s := ⟨rfl, rfl, fun _ => rfl, rfl, fun _ => rfl, rfl, rfl, rfl, rfl, rfl, rfl⟩
theorem LKF.trans {a b c : State} (h1 : LKF a b) (h2 : LKF b c) : LKF a c :=
  ⟨h2.perkeys.trans h1.perkeys, h2.size.trans h1.size, fun m => (h2.kind m).trans (h1.kind m),
    h2.xsize.trans h1.xsize, fun e => (h2.xcore e).trans (h1.xcore e), h2.top.trans h1.top,
    h2.handles.trans h1.handles, h2.slots.trans h1.slots, h2.memos.trans h1.memos, h2.cfg.trans h1.cfg,
    h2.currentlyRunning.trans h1.currentlyRunning⟩
instance : Step.PreOrd LKF := ⟨LKF.refl, LKF.trans⟩

theorem LKF.of_nodes {s s' : State} (h1 : s'.nodes = s.nodes) (h2 : s'.experts = s.experts)
    (h3 : s'.perkeys = s.perkeys) (h4 : s'.top = s.top) (h5 : s'.handles = s.handles) (h6 : s'.slots = s.slots)
    (h7 : s'.memos = s.memos) (h8 : s'.cfg = s.cfg) (h9 : s'.currentlyRunning = s.currentlyRunning) :
    LKF s s' := by
  refine ⟨h3, by rw [h1], fun m => ?_, by rw [h2], fun e => by rw [h2], h4, h5, h6, h7, h8, h9⟩
  have : s'.nodeD m = s.nodeD m := by simp [State.nodeD, h1]
  rw [this]

theorem LKF.modNode (s : State) (n : Nat) (f : Node → Node) (hf : ∀ x, (f x).kind = x.kind) :
    LKF s { s with nodes := s.nodes.modify n f } := by
  refine ⟨rfl, by simp, fun m => ?_, rfl, fun _ => rfl, rfl, rfl, rfl, rfl, rfl, rfl⟩
  rw [nodeD_modify]; split
  · exact hf _
  · rfl

theorem LKF.modExpert (s : State) (e : Nat) (f : ExpertRec → ExpertRec)
    (hf : ∀ x : ExpertRec, ((f x).f, (f x).node, (f x).pk, (f x).script, (f x).sel) =
      (x.f, x.node, x.pk, x.script, x.sel)) :
    LKF s { s with experts := s.experts.modify e f } := by
  refine ⟨rfl, rfl, fun _ => rfl, by simp, fun j => ?_, rfl, rfl, rfl, rfl, rfl, rfl⟩
  simp only [Array.getElem?_modify]
  split
  · cases s.experts[j]? <;> simp [hf]
  · rfl

/-- the writes that `LKF` does not survive: three fields of an expert record, the per-key records, the push of a node, an expert record or a per-key record, the running node (`.nextRound` clears it), slots and memos -/
theorem LKF.of_edit {L w}
    (hL : ∀ t ∈ L, t ∉ [Tag.xNode, .xScript, .xSel, .pkPrevNodes, .pkPrevMap, .pushNode, .pushExpert, .pushPerKey, .nextRound,
      .currentlyRunning, .slots, .memos])
    {s s' : State} (e : Edit L w s s') : LKF s s' := by
  cases e
  case stamp | erase => exact LKF.modNode s _ _ fun _ => rfl
  case node hf | value hf => exact LKF.modNode s _ _ fun _ => by cases hf <;> rfl
  case expert hf =>
    cases hf
    case node ht | script ht | sel ht => exact (hL _ ht (by decide)).elim
    all_goals exact LKF.modExpert s _ _ fun _ => rfl
  case perKey hf => cases hf <;> exact (hL _ ‹_› (by decide)).elim
  case pushNode ht | pushExpert ht | pushPerKey ht | nextRound ht | currentlyRunning ht | slots ht | memos ht =>
    exact (hL _ ht (by decide)).elim
  all_goals exact LKF.of_nodes rfl rfl rfl rfl rfl rfl rfl rfl rfl

theorem PresLK.discard {α} {x : M α} (h : Step.Pres LKF x) : Step.Pres LKF (discard x) := by
  unfold Functor.discard; exact Step.Pres.map _ h

theorem PresLK.addParent (c i p) : Step.Pres LKF (Engine.addParent c i p) := (Foot.addParent c i p).frame (LKF.of_edit (by decide))
theorem PresLK.removeParent (c i p) : Step.Pres LKF (Engine.removeParent c i p) :=
  (Foot.removeParent c i p).frame (LKF.of_edit (by decide))
theorem PresLK.setHeight (n h) : Step.Pres LKF (Engine.setHeight n h) := (Foot.setHeight n h).frame (LKF.of_edit (by decide))
theorem PresLK.rchRemoveMin : Step.Pres LKF Engine.rchRemoveMin := Foot.rchRemoveMin.frame (LKF.of_edit (by decide))
theorem PresLK.ensureHeightRequirement (oc op c p) : Step.Pres LKF (Engine.ensureHeightRequirement oc op c p) :=
  (Foot.ensureHeightRequirement oc op c p).frame (LKF.of_edit (by decide))

theorem PresLK.adjustHeights (oc op fuel) : Step.Pres LKF (Engine.adjustHeights oc op fuel) :=
  (Foot.adjustHeights oc op fuel).frame (LKF.of_edit (by decide))

theorem PresLK.handleAfterStabilisation (n) : Step.Pres LKF (Engine.handleAfterStabilisation n) :=
  (Foot.handleAfterStabilisation n).frame (LKF.of_edit (by decide))

theorem PresLK.markMapRefUnknown (fuel n) : Step.Pres LKF (Engine.markMapRefUnknown fuel n) :=
  (Foot.markMapRefUnknown fuel n).frame (LKF.of_edit (by decide))

theorem PresLK.becameNecessary (env fuel n) : Step.Pres LKF (Engine.becameNecessary env fuel n) :=
  (Foot.becameNecessary env fuel n).frame (LKF.of_edit (by decide))
theorem PresLK.addParentWithoutAdjustingHeights (env fuel c i p) :
    Step.Pres LKF (Engine.addParentWithoutAdjustingHeights env fuel c i p) :=
  (Foot.addParentWithoutAdjustingHeights env fuel c i p).frame (LKF.of_edit (by decide))

theorem PresLK.unlink (fuel : Nat) :
    (∀ n, Step.Pres LKF (Engine.becameUnnecessary fuel n)) ∧
    (∀ n, Step.Pres LKF (Engine.checkIfUnnecessary fuel n)) ∧
    (∀ n, Step.Pres LKF (Engine.removeChildren fuel n)) :=
  ⟨fun n => (Foot.becameUnnecessary fuel n).frame (LKF.of_edit (by decide)),
   fun n => (Foot.checkIfUnnecessary fuel n).frame (LKF.of_edit (by decide)),
   fun n => (Foot.removeChildren fuel n).frame (LKF.of_edit (by decide))⟩

theorem PresLK.becameUnnecessary (fuel n) : Step.Pres LKF (Engine.becameUnnecessary fuel n) :=
  (PresLK.unlink fuel).1 n
theorem PresLK.checkIfUnnecessary (fuel n) : Step.Pres LKF (Engine.checkIfUnnecessary fuel n) :=
  (PresLK.unlink fuel).2.1 n
theorem PresLK.removeChildren (fuel n) : Step.Pres LKF (Engine.removeChildren fuel n) :=
  (PresLK.unlink fuel).2.2 n

theorem PresLK.invalidateNode (fuel n) : Step.Pres LKF (Engine.invalidateNode fuel n) :=
  (Foot.invalidateNode fuel n).frame (LKF.of_edit (by decide))

theorem PresLK.propagateInvalidity (fuel) : Step.Pres LKF (Engine.propagateInvalidity fuel) :=
  (Foot.propagateInvalidity fuel).frame (LKF.of_edit (by decide))

theorem PresLK.becameNecessaryPropagate (env fuel n) :
    Step.Pres LKF (Engine.becameNecessaryPropagate env fuel n) :=
  (Foot.becameNecessaryPropagate env fuel n).frame (LKF.of_edit (by decide))
theorem PresLK.shouldCutoff (env n o v) : Step.Pres LKF (Engine.shouldCutoff env n o v) :=
  (Foot.shouldCutoff env n o v).frame (LKF.of_edit (by decide))

theorem PresLK.parentIterCanRecomputeNow (p c : Nat) : Step.Pres LKF (Engine.parentIterCanRecomputeNow p c) :=
  (Foot.parentIterCanRecomputeNow p c).frame (LKF.of_edit (by decide))

theorem PresLK.maybeChangeValue (env fuel n v) : Step.Pres LKF (Engine.maybeChangeValue env fuel n v) :=
  (Foot.maybeChangeValue env fuel n v).lift (LKF.of_edit (by decide))

theorem PresLK.assertRunningIsChild (n name) : Step.Pres LKF (Engine.assertRunningIsChild n name) :=
  (Foot.assertRunningIsChild n name).frame (LKF.of_edit (by decide))

theorem PresLK.expertMakeStale (n) : Step.Pres LKF (Engine.expertMakeStale n) :=
  (Foot.expertMakeStale n).frame (LKF.of_edit (by decide))

theorem PresLK.expertAddDependency (env fuel n c cb) : Step.Pres LKF (Engine.expertAddDependency env fuel n c cb) :=
  (Foot.expertAddDependency env fuel n c cb).frame (LKF.of_edit (by decide))

/-! ## reading the frame -/

theorem LKF.xrec {s s' : State} (h : LKF s s') {e : Nat} {er : ExpertRec} (he : s.experts[e]? = some er) :
    ∃ er', s'.experts[e]? = some er' ∧ er'.f = er.f ∧ er'.node = er.node ∧ er'.pk = er.pk ∧
      er'.script = er.script ∧ er'.sel = er.sel := by
  have := h.xcore e
  rw [he] at this
  cases h' : s'.experts[e]? with
  | none => rw [h'] at this; cases this
  | some er' =>
    rw [h'] at this
    simp only [Option.map_some, Option.some.injEq, Prod.mk.injEq] at this
    exact ⟨er', rfl, this⟩

theorem LKF.xrec_back {s s' : State} (h : LKF s s') {e : Nat} {er' : ExpertRec} (he : s'.experts[e]? = some er') :
    ∃ er, s.experts[e]? = some er ∧ er'.f = er.f ∧ er'.node = er.node ∧ er'.pk = er.pk ∧
      er'.script = er.script ∧ er'.sel = er.sel := by
  have := h.xcore e
  rw [he] at this
  cases h' : s.experts[e]? with
  | none => rw [h'] at this; cases this
  | some er =>
    rw [h'] at this
    simp only [Option.map_some, Option.some.injEq, Prod.mk.injEq] at this
    exact ⟨er, rfl, this⟩

theorem LKF.xnone {s s' : State} (h : LKF s s') {e : Nat} (he : s.experts[e]? = none) : s'.experts[e]? = none := by
  have := h.xcore e
  rw [he] at this
  cases h' : s'.experts[e]? with
  | none => rfl
  | some er' => rw [h'] at this; cases this

/-- run forms -/
theorem expertAddDependency_lkf {env : Env} {fuel n c : Nat} {cb : Bool} {s s' : State} {r : Except Panic Nat}
    (h : (Engine.expertAddDependency env fuel n c cb).run.run s = (r, s')) : LKF s s' :=
  (PresLK.expertAddDependency env fuel n c cb).h s r s' h

theorem expertMakeStale_lkf {n : Nat} {s s' : State} {r : Except Panic Unit}
    (h : (Engine.expertMakeStale n).run.run s = (r, s')) : LKF s s' :=
  (PresLK.expertMakeStale n).h s r s' h

theorem maybeChangeValue_lkf {env : Env} {fuel n : Nat} {v : Val} {s s' : State} {r : Except Panic (Option Nat)}
    (h : (Engine.maybeChangeValue env fuel n v).run.run s = (r, s')) : LKF s s' :=
  (PresLK.maybeChangeValue env fuel n v).h s r s' h

end IncrVerif.Proofs.PerKeyH
