import IncrVerif.Proofs.NestH53
import IncrVerif.Proofs.BindH96
/-!
# Nested binds (F2), part 4k: every step of a drain keeps the frames `DKey` and `NKey`

The counterpart of `BindH96` for nested binds.  The `PresD`/`DKS b` ladder of `BindH95`, `C2k.bind_rel`, `C2k.forIn_rel`, `C2k.other_dk`, `C2k.dkey_of_dk`, `pop_dkey` are
generic and reused.  Added: the instruction `.bind body' o` inside a closure = `createBind` in scope `.bind b`: it pushes a bind record and creates two nodes
in scope `.bind b` without handlers (`N4k.createBind_dk`).
-/
namespace IncrVerif.Proofs.NestH
open IncrVerif.Engine IncrVerif.Proofs IncrVerif.Proofs.Step IncrVerif.Proofs.Sched IncrVerif.Proofs.Quiet
open IncrVerif.Proofs.BindH
open IncrVerif.Proofs.BindH.C2k
namespace N4k

/-- `createBind` in scope `.bind b`: a new bind record, two new nodes of scope `.bind b` without handlers -/
theorem createBind_dk {b body lhs : Nat} {s s' : State} {r : Except Panic Nat} (hsc : s.currentScope = .bind b)
    (h : (createBind body lhs).run.run s = (r, s')) : DKS b s s' := by
  unfold Engine.createBind at h
  rw [run_bind_get] at h
  simp only [hsc] at h
  refine Step.Pres.h ?_ _ _ _ h
  c2kpres

/-- the creation instructions of F2 closures -/
def F2I : Instr → Prop
  | .const _ => True
  | .lhsConst => True
  | .map _ _ => True
  | .fold _ _ _ => True
  | .bind _ _ => True
  | _ => False

theorem f2i_of_instrOK2 {env : Env} {rk : Nat → Nat} {s : State} {P : Nat → Prop} {lc nloc : Nat} {i : Instr}
    (h : InstrOK2 env rk s P lc nloc i) : F2I i := by
  cases i <;> first | trivial | exact h.elim

theorem elabInstrM_dk2 {b : Nat} {env : Env} {loc : List Nat} {v : Val} {i : Instr} (hi : F2I i) {s s' : State}
    {r : Except Panic (Option Nat)} (hsc : s.currentScope = .bind b)
    (h : (elabInstrM env loc v i).run.run s = (r, s')) : DKS b s s' := by
  cases i with
  | bind body' o =>
    simp only [Engine.elabInstrM, Engine.elabInstr, run_bind_get] at h
    rw [run_bind] at h
    rcases hx : (resolveOpnd loc o).run.run s with ⟨r1, s1⟩
    rw [hx] at h
    have d1 : DKS b s s1 := (Step.PresS.resolveOpnd loc o).h _ _ _ hx
    cases r1 with
    | error e => cases h; exact d1
    | ok a =>
      simp only at h
      rw [map_eq_pure_bind] at h
      have hsc1 : s1.currentScope = .bind b := d1.2.trans hsc
      exact PreOrd.trans d1
        (bind_rel (R := DKS b) h (fun r2 s2 hx2 => createBind_dk hsc1 hx2) (fun a => Step.Pres.pure _))
  | const _ => exact C2k.elabInstrM_dk (i := .const _) trivial hsc h
  | lhsConst => exact C2k.elabInstrM_dk (i := .lhsConst) trivial hsc h
  | map _ _ => exact C2k.elabInstrM_dk (i := .map _ _) trivial hsc h
  | fold _ _ _ => exact C2k.elabInstrM_dk (i := .fold _ _ _) trivial hsc h
  | _ => exact hi.elim

theorem elabTemplate_dk2 {b : Nat} {env : Env} {t : Template} {v : Val}
    (ht : ∀ (j : Nat) (i : Instr), t.instrs[j]? = some i → F2I i)
    {s s' : State} {r : Except Panic Nat} (hsc : s.currentScope = .bind b)
    (h : (elabTemplate env t v).run.run s = (r, s')) : DKS b s s' := by
  unfold Engine.elabTemplate at h
  refine bind_rel h (fun r1 s1 hx => ?_) (fun a => by c2kpres)
  refine forIn_rel (R := DKS b) (fun s => s.currentScope = .bind b) (fun s s' hk hr => hr.2.trans hk) _ _ ?_ _ s r1 s1 hsc hx
  intro i hi c t0 r0 t1 hk hb
  obtain ⟨j, hj⟩ := List.getElem?_of_mem hi
  exact bind_rel hb (fun r2 s2 hx2 => elabInstrM_dk2 (ht j i hj) hk hx2) (fun a => by c2kpres)

theorem lhsRunClosure_dk2 {env : Env} {n b : Nat} {br : BindRec} {s s' : State} {rhs : Nat}
    (hc : ∀ (v : Val) (j : Nat) (i : Instr), (env.body br.body v).instrs[j]? = some i → F2I i)
    (h : (Inval.lhsRunClosure env n b br).run.run s = (.ok rhs, s')) : DK b s s' := by
  unfold Inval.lhsRunClosure at h
  obtain ⟨_, s1, h1, h⟩ := bind_ok_inv h
  have d1 := (PresD.modBind (b := b) _ _).h _ _ _ h1
  obtain ⟨lv, s2, h2, h⟩ := bind_ok_inv h
  have d2 := (Step.Pres.valueUnwrap (R := DKS b) _ _ _).h _ _ _ h2
  rw [run_bind_get] at h
  dsimp only at h
  rw [run_bind_modify] at h
  obtain ⟨_, s4, h4, h⟩ := bind_ok_inv h
  have d4 := (PresD.tick (b := b)).h _ _ _ h4
  obtain ⟨_, s5, h5, h⟩ := bind_ok_inv h
  have d5 := (PresD.logEv (b := b) _).h _ _ _ h5
  obtain ⟨rhs', s6, h6, h⟩ := bind_ok_inv h
  have hsc5 : s5.currentScope = .bind b := d5.2.trans d4.2
  have d6 := elabTemplate_dk2 (hc lv) hsc5 h6
  rw [run_bind_modify, run_pure] at h
  cases h
  have d3 : DK b s2 { s2 with currentScope := .bind b } := DK.of_nodes rfl rfl rfl rfl rfl rfl rfl rfl rfl rfl
  have d7 : DK b s6 { s6 with currentScope := s2.currentScope } := DK.of_nodes rfl rfl rfl rfl rfl rfl rfl rfl rfl rfl
  exact (((((d1.1.trans d2.1).trans d3).trans d4.1).trans d5.1).trans d6.1).trans d7

/-- a run of the change detector of bind `b` -/
theorem lc_dk2 {env : Env} {rk : Nat → Nat} {fuel n b : Nat} {s s' : State} {r : Option Nat}
    (I : DInv env s (some n)) (A : F2Inv env rk s) (hk : (s.nodeD n).kind = .bindLhsChange b)
    (h : (recomputeOne env fuel n).run.run s = (.ok r, s')) : DK b s s' := by
  obtain ⟨-, hnlt, hnv, -, -⟩ := I.cur_facts
  obtain ⟨br, hb, -⟩ := I.graph.lcRec n b hnlt hnv hk
  rw [Inval.recomputeOne_bindLhsChange_run env fuel n s (s.nodeD n) b br (some_of_lt hnlt) hnv hk hb] at h
  obtain ⟨rhs, t1, h1, h⟩ := bind_ok_inv h
  obtain ⟨_, t2, h2, h⟩ := bind_ok_inv h
  obtain ⟨_, t3, h3, h⟩ := bind_ok_inv h
  have d0 := DKS.started b n s
  have hc : ∀ (v : Val) (j : Nat) (i : Instr), (env.body br.body v).instrs[j]? = some i → F2I i := by
    obtain ⟨f, hf⟩ := A.closures b br hb
    cases f with
    | zero => exact hf.elim
    | succ f => exact fun v j i hj => f2i_of_instrOK2 ((hf v).1 j i hj)
  have d1 := lhsRunClosure_dk2 hc h1
  have d2 := (PresD.lhsRelink (b := b) env fuel n b br s.stabNum rhs).h _ _ _ h2
  have d3 := (PresD.lhsInvalidateOld (b := b) fuel br).h _ _ _ h3
  have d4 := (PresD.lhsFinish (b := b) env fuel n).h _ _ _ h
  exact (((d0.1.trans d1).trans d2.1).trans d3.1).trans d4.1

end N4k

/-- **One `recomputeOne` of a drain keeps the frames** (fragment F2). -/
theorem recomputeOne_dkey2 {env : Env} {fuel n : Nat} {s s' : State} {r : Option Nat}
    (I : DInv env s (some n)) (A : Aux2 env s)
    (h : (recomputeOne env fuel n).run.run s = (.ok r, s')) : DKey s s' ∧ NKey s s' := by
  obtain ⟨rk, A⟩ := A
  have g := I.graph
  obtain ⟨-, hnlt, hnv, -, -⟩ := I.cur_facts
  have hB := (g.node n hnlt hnv).1
  have hstatic : (StaticKind env (s.nodeD n).kind ∨ ∃ b lc, (s.nodeD n).kind = .bindMain b lc) ∨
      ∃ b, (s.nodeD n).kind = .bindLhsChange b := by
    cases hk : (s.nodeD n).kind <;> rw [hk] at hB <;>
      first
      | exact Or.inl (Or.inl hB)
      | exact Or.inl (Or.inr ⟨_, _, rfl⟩)
      | exact Or.inr ⟨_, rfl⟩
  rcases hstatic with hk | ⟨b, hk⟩
  · exact C2k.dkey_of_dk (C2k.other_dk 0 I hk h) A.noHandlers
  · exact C2k.dkey_of_dk (N4k.lc_dk2 I A hk h) A.noHandlers

/-- the scheduling hypothesis for the auxiliary invariant of a drain inside `stabilise` (given the lc-step theorem) -/
theorem lcStepsOK_auxS_F2 {env : Env} (H : LcStepF2 env) (t : State) : LcStepsOK2 env (AuxS2 env t) :=
  lcStepsOK_auxS2 (lcStepsOK_F2 H) (fun _ _ _ _ _ I A h => recomputeOne_dkey2 I A h) (fun _ _ _ h => pop_dkey h) t

end IncrVerif.Proofs.NestH
