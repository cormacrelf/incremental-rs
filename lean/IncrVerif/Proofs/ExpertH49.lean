import IncrVerif.Proofs.ExpertH42
import IncrVerif.Proofs.ExpertH31
import IncrVerif.Proofs.ExpertH33
import IncrVerif.Proofs.ExpertH21
/-!
# Expert fragment: the API actions of the static part keep the invariant `QInvX`
-/
namespace IncrVerif.Proofs.ExpertH
open IncrVerif.Engine IncrVerif.Driver IncrVerif.Proofs IncrVerif.Proofs.Step IncrVerif.Proofs.Sched
open IncrVerif.Proofs.ExpertH.QR

/-- creation instructions of the static part of the fragment (the fold id must stay below `xBase`) -/
def XStaticInstr (env : Env) : Instr → Prop
  | .fold f init cs => f < xBase ∧ QR.StaticInstr env (.fold f init cs)
  | i => QR.StaticInstr env i

/-- the API actions of the static part of the fragment, all but `stabilise` -/
def XStaticAction (env : Env) : Action → Prop
  | .create i => XStaticInstr env i
  | .stabilise => False
  | a => QR.StaticAction env a

theorem XStaticInstr.static {env : Env} {i : Instr} (h : XStaticInstr env i) : QR.StaticInstr env i := by
  cases i <;> first | exact h.2 | exact h

theorem staticInstr_virt {env : Env} {i : Instr} (h : QR.StaticInstr env i) : QR.StaticInstr (virtEnv env) i := by
  cases i <;> exact h

theorem XStaticInstr.xinstr {env : Env} {i : Instr} (h : XStaticInstr env i) : XInstr i := by
  have h := h.static
  cases i <;> first | trivial | exact h.elim

theorem XStaticAction.static {env : Env} {a : Action} (h : XStaticAction env a) : QR.StaticAction env a := by
  cases a <;> first | exact XStaticInstr.static h | exact h | exact h.elim

theorem XStaticAction.virt {env : Env} {a : Action} (h : XStaticAction env a) :
    QR.StaticAction (virtEnv env) a := by
  have h' := h.static
  cases a <;> first | exact staticInstr_virt h' | exact h'

theorem XStaticAction.xaction {env : Env} {a : Action} (h : XStaticAction env a) : XAction a := by
  have h' := h.static
  cases a <;> first | exact XStaticInstr.xinstr h | trivial | exact h'.elim | exact h.elim

/-! ## node creation: what the actual run does -/

/-- `s1` is `s` plus one fresh non-expert node of the fragment; the expert records and the adjust-heights heap are
unchanged -/
structure Pushed (env : Env) (s s1 : State) : Prop where
  nodes : ∃ nd : Node, s1.nodes = s.nodes.push nd ∧ XKind env nd.kind ∧ (∀ e, nd.kind ≠ .expert e) ∧
    nd.valid = true ∧ nd.heightInAhh = -1
  experts : s1.experts = s.experts
  ahh : s1.ahh = s.ahh

theorem crState_ahh (k : Kind) (sc : Scope) (c : CutoffK) (s : State) :
    (crState k sc c s).ahh = s.ahh := by
  unfold crState; cases sc <;> rfl

theorem pushed_crState {env : Env} {k : Kind} (sc : Scope) (c : CutoffK) (s : State) (hk : XKind env k)
    (hne : ∀ e, k ≠ .expert e) : Pushed env s (crState k sc c s) :=
  ⟨⟨_, crState_nodes k sc c s, hk, hne, rfl, rfl⟩, crState_experts k sc c s, crState_ahh k sc c s⟩

theorem pushed_createNode {env : Env} {k : Kind} {sc : Scope} {c : CutoffK} {s s1 : State} {n : Nat}
    (hk : XKind env k) (hne : ∀ e, k ≠ .expert e)
    (h : (createNode k sc c).run.run s = (.ok n, s1)) : Pushed env s s1 := by
  rw [run_createNode] at h
  cases h
  exact pushed_crState sc c s hk hne

theorem pushed_some_createNode {env : Env} {k : Kind} {sc : Scope} {c : CutoffK} {s s1 : State} {ro : Option Nat}
    (hk : XKind env k) (hne : ∀ e, k ≠ .expert e)
    (h : (some <$> createNode k sc c).run.run s = (.ok ro, s1)) : Pushed env s s1 := by
  obtain ⟨n, h1, -⟩ := map_ok_inv h
  exact pushed_createNode hk hne h1

theorem pushed_createVar {env : Env} {v : Val} {sc : Scope} {s s1 : State} {n : Nat}
    (h : (createVar v sc).run.run s = (.ok n, s1)) : Pushed env s s1 := by
  unfold createVar at h
  rw [run_bind_get] at h
  obtain ⟨m, t, h1, h2⟩ := bind_ok_inv h
  have P := pushed_createNode (env := env) (k := .var s.vars.size) trivial (fun e h => by cases h) h1
  obtain ⟨t2, e2, h3⟩ := bind_modify_inv h2
  obtain ⟨-, e3⟩ := pure_ok_inv h3
  rw [e3, e2]
  exact ⟨P.nodes, P.experts, P.ahh⟩

theorem elab_pushed {env : Env} {s s1 : State} {i : Instr} {ro : Option Nat} (hi : XStaticInstr env i)
    (h : (elabInstrM env [] .unit i).run.run s = (.ok ro, s1)) : Pushed env s s1 := by
  rw [elabInstrM_eq _ _ _ hi.xinstr] at h
  unfold elabInstr at h
  rw [run_bind_get] at h
  cases i with
  | const v =>
    simp only at h
    refine pushed_some_createNode ?_ ?_ h <;> first | trivial | (intro e h; cases h)
  | var v =>
    simp only at h
    obtain ⟨n, h1, -⟩ := map_ok_inv h
    exact pushed_createVar h1
  | map f args =>
    simp only at h
    obtain ⟨as, t, h1, h2⟩ := bind_ok_inv h
    have et : t = s := (Step.Pres.mapM (fun a => RO.resolveOpnd [] a) args).h s _ t h1
    rw [et] at h2
    exact pushed_some_createNode (k := .map f as) ⟨hi.1, hi.2.1⟩ (fun e h => by cases h) h2
  | fold f init cs =>
    simp only at h
    obtain ⟨as, t, h1, h2⟩ := bind_ok_inv h
    have et : t = s := (Step.Pres.mapM (fun a => RO.resolveOpnd [] a) cs).h s _ t h1
    rw [et] at h2
    split at h2
    · refine pushed_some_createNode ?_ ?_ h2 <;> first | trivial | (intro e h; cases h)
    · exact pushed_some_createNode (k := .fold f init as) hi.1 (fun e h => by cases h) h2
  | zip a b =>
    simp only at h
    obtain ⟨na, t, h1, h2⟩ := bind_ok_inv h
    have et : t = s := (RO.resolveOpnd [] a).h s _ t h1
    rw [et] at h2
    obtain ⟨nb, t, h1, h2⟩ := bind_ok_inv h2
    have et : t = s := (RO.resolveOpnd [] b).h s _ t h1
    rw [et] at h2
    obtain ⟨ca, t, h1, h2⟩ := bind_ok_inv h2
    have et : t = s := (RO.isConstant na).h s _ t h1
    rw [et] at h2
    obtain ⟨cb, t, h1, h2⟩ := bind_ok_inv h2
    have et : t = s := (RO.isConstant nb).h s _ t h1
    rw [et] at h2
    split at h2
    · refine pushed_some_createNode ?_ ?_ h2 <;> first | trivial | (intro e h; cases h)
    · exact pushed_some_createNode (k := .map fnZip [na, nb])
        ⟨by decide, fun hlt => absurd hlt (by decide)⟩ (fun e h => by cases h) h2
  | _ => exact hi.static.elim

theorem create_pushed {env : Env} {s s' : State} {i : Instr} {tk : Array Nat} {r : String × Array Nat}
    (hi : XStaticInstr env i) (h : (stepAction env (.create i) tk).run.run s = (.ok r, s')) : Pushed env s s' := by
  unfold stepAction at h
  simp only at h
  obtain ⟨ro, s1, h1, h2⟩ := bind_ok_inv h
  have P := elab_pushed hi h1
  cases ro with
  | none =>
    simp only at h2
    obtain ⟨-, e⟩ := pure_ok_inv h2
    rw [e]; exact P
  | some n =>
    simp only at h2
    obtain ⟨s2, e2, h3⟩ := bind_modify_inv h2
    obtain ⟨-, e3⟩ := pure_ok_inv h3
    rw [e3, e2]
    exact ⟨P.nodes, P.experts, P.ahh⟩

theorem Pushed.frag {env : Env} {s s' : State} (P : Pushed env s s') (F : XFrag env s) (fr : Fr s') :
    XFrag env s' := by
  obtain ⟨nd, hn, hk, hne, -, -⟩ := P.nodes
  have hold : ∀ m, m ≠ s.nodes.size → s'.nodeD m = s.nodeD m := fun m h => by
    simp only [State.nodeD, hn, Array.getElem?_push, if_neg h]
  have hnew : s'.nodeD s.nodes.size = nd := by
    simp only [State.nodeD, hn, Array.getElem?_push, if_true, Option.getD_some]
  have hsz : s'.nodes.size = s.nodes.size + 1 := by rw [hn, Array.size_push]
  refine ⟨fr.pc, fun m hm => ?_, fun m _ => fr.valid m, fun m e hm hke => ?_, fun e er he => ?_⟩
  · by_cases e : m = s.nodes.size
    · rw [e, hnew]; exact hk
    · rw [hold m e]; exact F.kindD m
  · by_cases e' : m = s.nodes.size
    · rw [e', hnew] at hke; exact absurd hke (hne e)
    · rw [hold m e'] at hke
      rw [P.experts]
      exact F.xrec m e (by omega) hke
  · rw [P.experts] at he; exact F.xok e er he

theorem Pushed.ahhEmpty {env : Env} {s s' : State} (P : Pushed env s s') (A : QR.AhhEmpty s) : QR.AhhEmpty s' := by
  obtain ⟨nd, hn, -, -, -, hh⟩ := P.nodes
  refine ⟨by rw [P.ahh]; exact A.length, by rw [P.ahh]; exact A.buckets, fun m => ?_⟩
  by_cases e : m = s.nodes.size
  · have hnew : s'.nodeD s.nodes.size = nd := by
      simp only [State.nodeD, hn, Array.getElem?_push, if_true, Option.getD_some]
    rw [e, hnew]; exact hh
  · have : s'.nodeD m = s.nodeD m := by
      simp only [State.nodeD, hn, Array.getElem?_push, if_neg e]
    rw [this]; exact A.marks m

/-! ## the actions -/

theorem XStaticAction.xact {env : Env} {a : Action} (h : XStaticAction env a) (hc : ∀ i, a ≠ .create i) : XAct a := by
  have h' := h.static
  cases a <;> first | trivial | exact h'.elim | exact h.elim | exact absurd rfl (hc _)

theorem XStaticAction.ahAct {env : Env} {a : Action} (h : XStaticAction env a) (hc : ∀ i, a ≠ .create i) :
    AhAct a := by
  have h' := h.static
  cases a <;> first | trivial | exact h'.elim | exact h.elim | exact absurd rfl (hc _)

/-- **every API action of the static part of the fragment (all but `stabilise`) keeps `QInvX`** -/
theorem action_static {env : Env} {rk : Nat → Nat} {s s' : State} {a : Action} {tk : Array Nat}
    {r : String × Array Nat} (Q : QInvX env rk s) (ha : XStaticAction env a)
    (h : (stepAction env a tk).run.run s = (.ok r, s')) : QInvX env rk s' := by
  obtain ⟨hv, fr'⟩ := SimAt.stepAction env tk ha.xaction (Q.frag.fr Q.pinv) r s' h
  have Qv := QR.step_q Q.q ha.virt hv
  by_cases hc : ∃ i, a = .create i
  · obtain ⟨i, rfl⟩ := hc
    have P := create_pushed ha h
    exact ⟨P.frag Q.frag fr', Qv, P.ahhEmpty Q.ahh⟩
  · have hc' : ∀ i, a ≠ .create i := fun i e => hc ⟨i, e⟩
    exact ⟨Q.frag.of_xf ((PresX.stepAction env a tk (ha.xact hc')).h _ _ _ h) fr', Qv,
      ahhEmpty_of_ahf Q.ahh ((PresAh.stepAction env a tk (ha.ahAct hc')).h _ _ _ h)⟩

/-! ## the initial state -/

theorem virt_init (N : Nat) (d : Bool) : virt (State.init N d) = State.init N d := by
  simp [virt, State.init]

theorem qinvX_init (env : Env) (N : Nat) (d : Bool) : QInvX env (fun m => m) (State.init N d) := by
  have hsz : (State.init N d).nodes.size = 0 := rfl
  refine ⟨⟨rfl, fun n hn => by rw [hsz] at hn; omega, fun n hn => by rw [hsz] at hn; omega,
    fun n e hn => by rw [hsz] at hn; omega, fun e er he => ?_⟩, ?_, ⟨rfl, fun i hi => ?_, fun m => ?_⟩⟩
  · simp [State.init] at he
  · rw [virt_init]; exact QR.qinv_init (virtEnv env) N d
  · simp [State.init, mkHeap]
  · rw [init_nodeD]; rfl

end IncrVerif.Proofs.ExpertH
