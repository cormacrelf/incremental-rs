import IncrVerif.Engine.Run
import IncrVerif.Proofs.Footprint
/-!
# Expert nodes: the frame `XF` (what the engine never changes of an expert record outside the expert API and the
record's own recompute)

Every primitive write keeps `XF` except the few of `XF.breaks` (`XF.of_edit`), so `XF` is kept by every function of the engine that makes none of
those: all but node creation, the expert API, and what runs effects or recomputes a node (`runEffects`, `recomputeOne`, `runAll`, hence `stabilise`).
-/

namespace IncrVerif.Proofs.ExpertH
open IncrVerif.Engine IncrVerif.Proofs IncrVerif.Proofs.Step IncrVerif.Proofs.Footprint

/-- what the engine never changes of an expert record outside the expert API and the record's own recompute -/
def xCore (er : ExpertRec) := (er.f, er.node, er.children, er.pk, er.forceStale)

structure XF (s s' : State) : Prop where
  size : s'.nodes.size = s.nodes.size
  kind : ∀ m, (s'.nodeD m).kind = (s.nodeD m).kind
  xsize : s'.experts.size = s.experts.size
  xcore : ∀ e : Nat, (s'.experts[e]?).map xCore = (s.experts[e]?).map xCore
  nextDep : s'.nextDep = s.nextDep

theorem XF.refl (s : State) : XF s s := ⟨rfl, fun _ => rfl, rfl, fun _ => rfl, rfl⟩
theorem XF.trans {a b c : State} (h1 : XF a b) (h2 : XF b c) : XF a c :=
  ⟨h2.size.trans h1.size, fun m => (h2.kind m).trans (h1.kind m), h2.xsize.trans h1.xsize,
    fun e => (h2.xcore e).trans (h1.xcore e), h2.nextDep.trans h1.nextDep⟩
instance : Step.PreOrd XF := ⟨XF.refl, XF.trans⟩

theorem XF.of_nodes {s s' : State} (h1 : s'.nodes = s.nodes) (h2 : s'.experts = s.experts)
    (h3 : s'.nextDep = s.nextDep) : XF s s' := by
  refine ⟨by rw [h1], fun m => ?_, by rw [h2], fun e => by rw [h2], h3⟩
  have : s'.nodeD m = s.nodeD m := by simp [State.nodeD, h1]
  rw [this]

/-- the writes that do not keep `XF`: a fresh node or record, the updates of a record's `children`, `forceStale` and `node`, and `nextDep` -/
def XF.breaks : List Tag := [.pushNode, .pushExpert, .xForceStale, .xAddChild, .xChildren, .xDropChild, .xNode, .xRan, .nextDep]

theorem XF.of_edit {L w} (hL : ∀ t ∈ L, t ∉ XF.breaks) {s s' : State} (e : Edit L w s s') : XF s s' := by
  have hn : Tag.pushNode ∉ L := fun h => hL _ h (by decide)
  have hx := e.expert_keeps xCore (fun h => hL _ h (by decide)) fun f hf x => by
    cases hf <;> first | rfl | exact absurd (hL _ ‹_›) (by decide)
  exact ⟨e.size_eq hn, e.kind_all hn, hx.1, hx.2, e.nextDep_eq fun h => hL _ h (by decide)⟩

/-- the bookkeeping writes of an API action touch neither nodes nor expert records -/
theorem XF.of_act {L a} (hL : ∀ t ∈ L, t ∉ XF.breaks) {s s' : State} (e : ActEdit L a s s') : XF s s' := by
  cases e with
  | engine e => exact XF.of_edit hL e
  | _ => exact XF.of_nodes rfl rfl rfl

theorem PresX.getVar (v) : Step.Pres XF (Engine.getVar v) := Step.Pres.getVar v
theorem PresX.addParent (c i p) : Step.Pres XF (Engine.addParent c i p) := (Foot.addParent c i p).frame (XF.of_edit (by decide))
theorem PresX.removeParent (c i p) : Step.Pres XF (Engine.removeParent c i p) :=
  (Foot.removeParent c i p).frame (XF.of_edit (by decide))
theorem PresX.setHeight (n h) : Step.Pres XF (Engine.setHeight n h) := (Foot.setHeight n h).frame (XF.of_edit (by decide))
theorem PresX.rchInsert (n) : Step.Pres XF (Engine.rchInsert n) := (Foot.rchInsert n).frame (XF.of_edit (by decide))
theorem PresX.rchRemoveMin : Step.Pres XF Engine.rchRemoveMin := Foot.rchRemoveMin.frame (XF.of_edit (by decide))
theorem PresX.ensureHeightRequirement (oc op c p) : Step.Pres XF (Engine.ensureHeightRequirement oc op c p) :=
  (Foot.ensureHeightRequirement oc op c p).frame (XF.of_edit (by decide))
theorem PresX.adjustHeights (oc op fuel) : Step.Pres XF (Engine.adjustHeights oc op fuel) :=
  (Foot.adjustHeights oc op fuel).frame (XF.of_edit (by decide))
theorem PresX.scopeHeight (sc) : Step.Pres XF (Engine.scopeHeight sc) := Step.Pres.scopeHeight sc
theorem PresX.handleAfterStabilisation (n) : Step.Pres XF (Engine.handleAfterStabilisation n) :=
  (Foot.handleAfterStabilisation n).frame (XF.of_edit (by decide))
theorem PresX.markMapRefUnknown (fuel n) : Step.Pres XF (Engine.markMapRefUnknown fuel n) :=
  (Foot.markMapRefUnknown fuel n).frame (XF.of_edit (by decide))
theorem PresX.becameNecessary (env fuel n) : Step.Pres XF (Engine.becameNecessary env fuel n) :=
  (Foot.becameNecessary env fuel n).frame (XF.of_edit (by decide))
theorem PresX.addParentWithoutAdjustingHeights (env fuel c i p) :
    Step.Pres XF (Engine.addParentWithoutAdjustingHeights env fuel c i p) :=
  (Foot.addParentWithoutAdjustingHeights env fuel c i p).frame (XF.of_edit (by decide))

theorem PresX.unlink (fuel : Nat) :
    (∀ n, Step.Pres XF (Engine.becameUnnecessary fuel n)) ∧
    (∀ n, Step.Pres XF (Engine.checkIfUnnecessary fuel n)) ∧
    (∀ n, Step.Pres XF (Engine.removeChildren fuel n)) :=
  ⟨fun n => (Foot.becameUnnecessary fuel n).frame (XF.of_edit (by decide)),
   fun n => (Foot.checkIfUnnecessary fuel n).frame (XF.of_edit (by decide)),
   fun n => (Foot.removeChildren fuel n).frame (XF.of_edit (by decide))⟩

theorem PresX.becameUnnecessary (fuel n) : Step.Pres XF (Engine.becameUnnecessary fuel n) :=
  (PresX.unlink fuel).1 n
theorem PresX.checkIfUnnecessary (fuel n) : Step.Pres XF (Engine.checkIfUnnecessary fuel n) :=
  (PresX.unlink fuel).2.1 n
theorem PresX.removeChildren (fuel n) : Step.Pres XF (Engine.removeChildren fuel n) :=
  (PresX.unlink fuel).2.2 n

theorem PresX.invalidateNode (fuel n) : Step.Pres XF (Engine.invalidateNode fuel n) :=
  (Foot.invalidateNode fuel n).frame (XF.of_edit (by decide))
theorem PresX.propagateInvalidity (fuel) : Step.Pres XF (Engine.propagateInvalidity fuel) :=
  (Foot.propagateInvalidity fuel).frame (XF.of_edit (by decide))
theorem PresX.shouldCutoff (env n o v) : Step.Pres XF (Engine.shouldCutoff env n o v) :=
  (Foot.shouldCutoff env n o v).frame (XF.of_edit (by decide))
theorem PresX.parentIterCanRecomputeNow (p c : Nat) : Step.Pres XF (Engine.parentIterCanRecomputeNow p c) :=
  (Foot.parentIterCanRecomputeNow p c).frame (XF.of_edit (by decide))
theorem PresX.maybeChangeValue (env fuel n v) : Step.Pres XF (Engine.maybeChangeValue env fuel n v) :=
  (Foot.maybeChangeValue env fuel n v).lift (XF.of_edit (by decide))
theorem PresX.addNewObservers (env fuel) : Step.Pres XF (Engine.addNewObservers env fuel) :=
  (Foot.addNewObservers env fuel).frame (XF.of_edit (by decide))
theorem PresX.unlinkDisallowedObservers (fuel) : Step.Pres XF (Engine.unlinkDisallowedObservers fuel) :=
  (Foot.unlinkDisallowedObservers fuel).frame (XF.of_edit (by decide))
theorem PresX.didSetVarWhileNotStabilising (v) : Step.Pres XF (Engine.didSetVarWhileNotStabilising v) :=
  (Foot.didSetVarWhileNotStabilising v).frame (XF.of_edit (by decide))
theorem PresX.writeVar (v f b) : Step.Pres XF (Engine.writeVar v f b) := (Foot.writeVar v f b).frame (XF.of_edit (by decide))
theorem PresX.subscribe (o h) : Step.Pres XF (Engine.subscribe o h) := (Foot.subscribe o h).frame (XF.of_edit (by decide))
theorem PresX.unsubscribe (o t w) : Step.Pres XF (Engine.unsubscribe o t w) :=
  (Foot.unsubscribe o t w).frame (XF.of_edit (by decide))
theorem PresX.isConstant (n) : Step.Pres XF (Engine.isConstant n) := (Foot.isConstant n).frame (XF.of_edit (by decide))
theorem PresX.setMaxHeightAllowed (k) : Step.Pres XF (Engine.setMaxHeightAllowed k) :=
  (Foot.setMaxHeightAllowed k).frame (XF.of_edit (by decide))

/-! ## reading the frame -/

theorem XF.xrec {s s' : State} (h : XF s s') {e : Nat} {er : ExpertRec} (he : s.experts[e]? = some er) :
    ∃ er', s'.experts[e]? = some er' ∧ er'.f = er.f ∧ er'.node = er.node ∧ er'.children = er.children ∧
      er'.pk = er.pk ∧ er'.forceStale = er.forceStale := by
  have := h.xcore e
  rw [he] at this
  cases h' : s'.experts[e]? with
  | none => rw [h'] at this; cases this
  | some er' =>
    rw [h'] at this
    simp only [Option.map_some, Option.some.injEq, xCore, Prod.mk.injEq] at this
    exact ⟨er', rfl, this⟩

theorem XF.xrec_back {s s' : State} (h : XF s s') {e : Nat} {er' : ExpertRec} (he : s'.experts[e]? = some er') :
    ∃ er, s.experts[e]? = some er ∧ er'.f = er.f ∧ er'.node = er.node ∧ er'.children = er.children ∧
      er'.pk = er.pk ∧ er'.forceStale = er.forceStale := by
  have := h.xcore e
  rw [he] at this
  cases h' : s.experts[e]? with
  | none => rw [h'] at this; cases this
  | some er =>
    rw [h'] at this
    simp only [Option.map_some, Option.some.injEq, xCore, Prod.mk.injEq] at this
    exact ⟨er, rfl, this⟩

theorem XF.xnone {s s' : State} (h : XF s s') {e : Nat} (he : s.experts[e]? = none) : s'.experts[e]? = none := by
  have := h.xcore e
  rw [he] at this
  cases h' : s'.experts[e]? with
  | none => rfl
  | some er' => rw [h'] at this; cases this

theorem XF.children {s s' : State} (h : XF s s') (hv : ∀ m, (s'.nodeD m).valid = (s.nodeD m).valid)
    (hb : s'.binds = s.binds) : ∀ m, s'.children m = s.children m := by
  intro m
  have hk : (s'.nodeD m).kind? = (s.nodeD m).kind? := by simp only [Node.kind?, h.kind, hv]
  unfold State.children
  rw [hk, hb]
  cases hq : (s.nodeD m).kind? with
  | none => rfl
  | some k =>
    cases k with
    | expert e =>
      dsimp only
      cases he : s.experts[e]? with
      | none => rw [h.xnone he]
      | some er =>
        obtain ⟨er', he', -, -, hc, -⟩ := h.xrec he
        rw [he']; dsimp only; rw [hc]
    | _ => rfl

end IncrVerif.Proofs.ExpertH
