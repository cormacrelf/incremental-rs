import IncrVerif.Proofs.TidyH52
/-!
# T4, part 6: the headline theorems — total correctness for the expert fragment X1

A VALID history of actions of fragment X1 (`ValidRun`: every action is an action of X1 — static actions,
`create (expert f)` with a "sum" closure, `addDep e c cb` whose new edge closes no cycle, `stabilise` — names existing
things, a creation leaves `nodes.size + 1 ≤ N`, `stabilise`/`addDep` have `3 * nodes.size + 4 ≤ fuelDefault`), run from
`State.init N d`, NEVER PANICS, whatever `cfg.debug` is: no "cyclic" panic, no "height-limit", no assertion, no
`model:` error, the fuel suffices.
-/
namespace IncrVerif.Proofs.TidyH.XT
open IncrVerif.Engine IncrVerif.Driver IncrVerif.Proofs IncrVerif.Proofs.Step IncrVerif.Proofs.Sched
open IncrVerif.Proofs.ExpertH IncrVerif.Proofs.ExpertH.QR IncrVerif.Proofs.TidyH.XT.XR

/-- **T4: a valid history of fragment X1 never panics.** -/
theorem history_never_panicsX {env : Env} {N : Nat} {d : Bool} {acts : List Action}
    (hv : ValidRun env N acts (State.init N d) #[]) :
    ∃ s' tk', runActions env acts (State.init N d) #[] = .ok (s', tk') ∧ (∃ rk, QInvX env rk s') ∧ TInvX N s' :=
  run_totalX (qinvX_init env N d) (tinvX_init N d) hv

/-- hence, unconditionally: at every `stabilise` of a valid history of fragment X1 all conclusions of
`C14History.history_every_stabilise` hold -/
theorem valid_history_stabiliseX {env : Env} {N : Nat} {d : Bool} {as bs : List Action}
    (hv : ValidRun env N (as ++ Action.stabilise :: bs) (State.init N d) #[]) :
    ∃ s1 tk1 s2 rk1 s tk, runActions env as (State.init N d) #[] = .ok (s1, tk1) ∧ QInvX env rk1 s1 ∧
      (stabilise env fuelDefault).run.run s1 = (.ok (), s2) ∧ StabilisedX env rk1 fuelDefault s1 s2 ∧
      ReadsOKX env s2 ∧ ObsSettled s2 ∧ (∀ n, s2.isNecessary n = true → s2.isStale n = false) ∧
      runActions env bs s2 tk1 = .ok (s, tk) ∧ (∃ rk, QInvX env rk s) ∧ TInvX N s := by
  obtain ⟨s, tk, h, Q, T⟩ := history_never_panicsX hv
  obtain ⟨s1, tk1, s2, rk1, h1, Q1, h2, R, h3, h4, h5, h6⟩ := history_stabilise_x hv.runOK h
  exact ⟨s1, tk1, s2, rk1, s, tk, h1, Q1, h2, R, h3, h4, h5, h6, Q, T⟩

end IncrVerif.Proofs.TidyH.XT
