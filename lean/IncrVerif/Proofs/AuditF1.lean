import IncrVerif.Proofs.FullH1
/-!
# C11 (bookkeeping self-consistent at every quiescent point), part 1: the audit predicate `Audit s` on ACTUAL states

* `Audit s`: the clauses of property C11 about the model state `s` itself, phrased with the engine's own readers (`State.isNecessary`, `State.children`,
  `State.isStale`, `Node.inRch`, the fields of `State`/`Node`/`Heap`) — no ghost, no virtual state, no environment.
* `audit_of_qinv2`: the invariant between API actions of fragment F2 (static core + nested binds, `NestH.QInv2`) implies `Audit`.
* `Audit.of_virt`: `Audit (virt g s) → Audit s` — the virtual state of the combined fragment has the same parents, observers, heights, heap markers, validity,
  scopes, children, staleness as the actual state; only kinds / stored values / cutoffs / `didChange` flags differ, and `Audit` reads none of these
  (`children` and `isStale` are transferred by `virt_children`, `virt_isStale`).
-/
namespace IncrVerif.Proofs.AuditF
open IncrVerif.Engine IncrVerif.Proofs IncrVerif.Proofs.Step IncrVerif.Proofs.Sched IncrVerif.Proofs.Quiet
open IncrVerif.Proofs.BindH (BGraph AhhEmpty)
open IncrVerif.Proofs.NestH (QG2 QI2 QInv2 GenOK2 F2Inv Struct2)
open IncrVerif.Proofs.FullH

/-- **The audit of C11**, on the actual engine state. -/
structure Audit (s : State) : Prop where
  -- control is outside `stabilise`: nothing is pending inside the engine
  status : s.status = .notStabilising
  currentScope : s.currentScope = .top
  handleAfterStab : s.handleAfterStab = []
  propagateInvalidity : s.propagateInvalidity = []
  setDuringStab : s.setDuringStab = []
  deadVars : s.deadVars = []
  -- needed (necessary) nodes
  /-- a needed node exists, is valid and has a height -/
  nec : ∀ n, s.isNecessary n = true → n < s.nodes.size ∧ (s.nodeD n).valid = true ∧ 0 ≤ (s.nodeD n).height
  /-- EDGE SYMMETRY, child side: the `i`-th input `c` of a needed node `n` exists, is needed, records the entry `(n, i)` among its parents, and is strictly lower -/
  childRec : ∀ n, s.isNecessary n = true → ∀ i c, (s.children n)[i]? = some c →
    c < s.nodes.size ∧ s.isNecessary c = true ∧ (n, i) ∈ (s.nodeD c).parents ∧ (s.nodeD c).height < (s.nodeD n).height
  /-- EDGE SYMMETRY, parent side: a recorded parent entry `(p, i)` of `c` is the `i`-th input edge of the needed node `p` -/
  parentRec : ∀ c p i, (p, i) ∈ (s.nodeD c).parents → s.isNecessary p = true ∧ (s.children p)[i]? = some c
  /-- every edge is recorded once -/
  parentsNodup : ∀ c, (s.nodeD c).parents.Nodup
  /-- THE SCOPE HEIGHT RULE: a needed node created by the closure of bind `b` is strictly higher than the bind's change detector, which is a valid needed node -/
  scopeHeight : ∀ n b, s.isNecessary n = true → (s.nodeD n).createdIn = .bind b →
    ∃ br, s.binds[b]? = some br ∧ br.lhsChange < s.nodes.size ∧ (s.nodeD br.lhsChange).valid = true ∧
      s.isNecessary br.lhsChange = true ∧ (s.nodeD br.lhsChange).height < (s.nodeD n).height
  -- unneeded / invalid nodes
  /-- an unneeded node has no dependants, no observers, and is not scheduled -/
  unnec : ∀ n, s.isNecessary n = false →
    (s.nodeD n).parents = [] ∧ (s.nodeD n).observers = [] ∧ (s.nodeD n).inRch = false
  /-- an invalid node is isolated (hence unneeded) and not scheduled -/
  invalid : ∀ n, (s.nodeD n).valid = false → (s.nodeD n).parents = [] ∧ (s.nodeD n).observers = [] ∧
    (s.nodeD n).inRch = false ∧ s.isNecessary n = false
  noForce : ∀ n, (s.nodeD n).forceNecessary = false
  noHandlers : ∀ n, (s.nodeD n).numOnUpdateHandlers = 0
  -- the recompute heap
  /-- bucket membership = the markers `heightInRch`, no duplicates, `length` = number of entries, markers in range (`Props/C11Heap`) -/
  heapWF : HeapWF s
  /-- the heap holds EXACTLY the needed stale nodes -/
  queued : ∀ m, (s.nodeD m).inRch = true ↔ (s.isNecessary m = true ∧ s.isStale m = true)
  /-- … each at its height -/
  queuedAt : ∀ m, (s.nodeD m).inRch = true → (s.nodeD m).heightInRch = (s.nodeD m).height
  lowerBound : 0 ≤ s.rch.lowerBound ∧ ∀ m, (s.nodeD m).inRch = true → s.rch.lowerBound ≤ (s.nodeD m).height
  -- the adjust-heights heap is empty and no node is marked
  ahhLength : s.ahh.length = 0
  ahhBuckets : ∀ i (hi : i < s.ahh.queues.size), s.ahh.queues[i] = []
  ahhMarks : ∀ m, (s.nodeD m).heightInAhh = -1
  -- observers and variables
  /-- observer bookkeeping: the observer list of a node = the linked (in use / disallowed) observers watching it; created ones wait in `newObservers`,
  disallowed ones in `disallowedObservers` (once each) -/
  obs : ObsInv s s.newObservers s.disallowedObservers
  /-- variable cells and `var` nodes name each other -/
  vars : VarsOK s

/-! ## consequences: the heap content, bucket by bucket -/

/-- **the recompute heap holds exactly the needed stale (valid) nodes, each once, in the bucket of its height** -/
theorem Audit.bucket {s : State} (A : Audit s) (h : Nat) (hh : h < s.rch.queues.size) :
    (s.rch.queues[h]).Nodup ∧ ∀ n, n ∈ s.rch.queues[h] ↔
      (s.isNecessary n = true ∧ s.isStale n = true ∧ (s.nodeD n).valid = true ∧ (s.nodeD n).height = (h : Int)) := by
  refine ⟨A.heapWF.nodup h hh, fun n => ?_⟩
  rw [A.heapWF.mem h hh n]
  constructor
  · rintro ⟨_, hm⟩
    have hin : (s.nodeD n).inRch = true := by rw [inRch_iff, hm]; omega
    obtain ⟨h1, h2⟩ := (A.queued n).1 hin
    exact ⟨h1, h2, (A.nec n h1).2.1, by rw [← A.queuedAt n hin]; exact hm⟩
  · rintro ⟨h1, h2, _, h4⟩
    have hin := (A.queued n).2 ⟨h1, h2⟩
    exact ⟨(A.nec n h1).1, by rw [A.queuedAt n hin]; exact h4⟩

/-- a needed stale node lies within the height limit of the heap -/
theorem Audit.stale_height_le {s : State} (A : Audit s) {n : Nat} (h1 : s.isNecessary n = true) (h2 : s.isStale n = true) :
    (s.nodeD n).height ≤ s.rch.maxAllowed := by
  have hin := (A.queued n).2 ⟨h1, h2⟩
  have := A.heapWF.range n (A.nec n h1).1
  rw [inRch_iff] at hin
  rw [← A.queuedAt n ((inRch_iff _).2 hin)]
  unfold Heap.maxAllowed
  omega

/-- when no needed node is stale (after a `stabilise`) every bucket is empty -/
theorem Audit.buckets_empty {s : State} (A : Audit s) (hf : ∀ n, s.isNecessary n = true → s.isStale n = false)
    (h : Nat) (hh : h < s.rch.queues.size) : s.rch.queues[h] = [] := by
  cases e : s.rch.queues[h] with
  | nil => rfl
  | cons a l =>
    have := ((A.bucket h hh).2 a).1 (by rw [e]; exact List.mem_cons_self)
    rw [hf a this.1] at this
    exact absurd this.2.1 (by simp)

/-! ## fragment F2 (static core + nested binds): the invariant between API actions implies the audit -/

theorem audit_of_qinv2 {env : Env} {rk : Nat → Nat} {s : State} (Q : QInv2 env rk s) : Audit s := by
  have G := Q.bgraph
  have I := Q.struct
  have F := Q.f2
  have necLt : ∀ n, s.isNecessary n = true → n < s.nodes.size := fun n hn => by
    by_cases hlt : n < s.nodes.size
    · exact hlt
    · rw [State.isNecessary, nodeD_default_of_ge s n (by omega)] at hn; cases hn
  have qn : ∀ m, (s.nodeD m).inRch = true → s.isNecessary m = true := fun m hm => by
    rcases I.qnec m hm with h | ⟨k, h⟩
    · exact h
    · cases h
  exact
    { status := Q.status
      currentScope := I.frag.scope
      handleAfterStab := Q.handleAfterStab
      propagateInvalidity := F.pinv
      setDuringStab := Q.setDuringStab
      deadVars := Q.deadVars
      nec := fun n hn => ⟨necLt n hn, (G.nec n hn).1, (G.nec n hn).2⟩
      childRec := fun n hn i c hc => by
        obtain ⟨h1, h2, h3⟩ := G.child n hn i c hc
        exact ⟨necLt c h1, h1, h2, h3⟩
      parentRec := G.parent
      parentsNodup := F.nodup
      scopeHeight := fun n b hn hsc => by
        obtain ⟨br, hb, h1, h2, h3⟩ := G.scope n b (necLt n hn) (G.nec n hn).1 hsc
        exact ⟨br, hb, h1, h2, (h3 hn).1, (h3 hn).2⟩
      unnec := fun n hn => by
        have hp : (s.nodeD n).parents = [] ∧ (s.nodeD n).observers = [] := by
          simp only [State.isNecessary, Node.isNecessary, Bool.or_eq_false_iff, Bool.not_eq_false', List.isEmpty_iff] at hn
          exact ⟨hn.1.1, hn.1.2⟩
        refine ⟨hp.1, hp.2, ?_⟩
        cases hq : (s.nodeD n).inRch with
        | false => rfl
        | true => rw [qn n hq] at hn; cases hn
      invalid := fun n hv => by
        obtain ⟨h1, h2, h3⟩ := F.inv n hv
        refine ⟨h1, h2, h3, ?_⟩
        simp [State.isNecessary, Node.isNecessary, h1, h2, F.noForce n]
      noForce := F.noForce
      noHandlers := F.noHandlers
      heapWF := I.heap.wf
      queued := fun m => ⟨fun hm => ⟨qn m hm, I.qstale m hm⟩, fun hm => I.queued m rfl hm.1 hm.2 (fun h => h)⟩
      queuedAt := fun m hm => I.hgt m hm rfl
      lowerBound := ⟨I.heap.lb0, fun m hm => by rw [← I.hgt m hm rfl]; exact I.heap.lb m hm⟩
      ahhLength := F.ahh.length
      ahhBuckets := F.ahh.buckets
      ahhMarks := F.ahh.marks
      obs := Q.obs
      vars := Q.vars }

theorem audit_of_qi2 {env : Env} {s : State} (Q : QI2 env s) : Audit s := by
  obtain ⟨rk, Q⟩ := Q
  exact audit_of_qinv2 Q

theorem audit_of_qg2 {env : Env} {s : State} (Q : QG2 env s) : Audit s := audit_of_qi2 Q.1

/-! ## from the virtual state to the actual state -/

theorem virt_inRch (g : Nat → Option Val) (s : State) (m : Nat) : ((virt g s).nodeD m).inRch = (s.nodeD m).inRch := by
  rw [virt_nodeD, virtNode_inRch]

theorem heapWF_of_virt {g : Nat → Option Val} {s : State} (W : HeapWF (virt g s)) : HeapWF s where
  mem h hh n := by
    have := W.mem h hh n
    simp only [virt_rch, virt_size, virt_nodeD, virtNode_heightInRch] at this
    exact this
  nodup h hh := W.nodup h hh
  length := W.length
  range n hn := by
    have := W.range n (by rw [virt_size]; exact hn)
    simp only [virt_rch, virt_nodeD, virtNode_heightInRch] at this
    exact this

theorem obsInv_of_virt {g : Nat → Option Val} {s : State} {pn pd : List Nat} (O : ObsInv (virt g s) pn pd) : ObsInv s pn pd where
  inRange o ob ho := by
    have := O.inRange o ob ho
    rw [virt_size] at this
    exact this
  mem n o := by
    have := O.mem n o
    simp only [virt_nodeD, virtNode_observers, virt_observers] at this
    exact this
  created := O.created
  newIn := O.newIn
  dis := O.dis
  disIn := O.disIn
  disNodup := O.disNodup

theorem varsOK_of_virt {g : Nat → Option Val} {s : State} (V : VarsOK (virt g s)) : VarsOK s where
  node n c hn hk := by
    have := V.node n c (by rw [virt_size]; exact hn) (by rw [virt_nodeD, virtNode_kind, virtKind_var_iff]; exact hk)
    exact this
  cell c vc hc := by
    have := V.cell c vc hc
    rw [virt_size, virt_nodeD, virtNode_kind, virtKind_var_iff] at this
    exact this

/-- **`Audit` reads only what virtualisation keeps.** -/
theorem Audit.of_virt {g : Nat → Option Val} {s : State} (A : Audit (virt g s)) : Audit s where
  status := A.status
  currentScope := A.currentScope
  handleAfterStab := A.handleAfterStab
  propagateInvalidity := A.propagateInvalidity
  setDuringStab := A.setDuringStab
  deadVars := A.deadVars
  nec n hn := by
    have := A.nec n (by rw [virt_isNecessary]; exact hn)
    simp only [virt_size, virt_nodeD, virtNode_valid, virtNode_height] at this
    exact this
  childRec n hn i c hc := by
    have := A.childRec n (by rw [virt_isNecessary]; exact hn) i c (by rw [virt_children]; exact hc)
    simp only [virt_size, virt_isNecessary, virt_nodeD, virtNode_parents, virtNode_height] at this
    exact this
  parentRec c p i hp := by
    have := A.parentRec c p i (by rw [virt_nodeD, virtNode_parents]; exact hp)
    simp only [virt_isNecessary, virt_children] at this
    exact this
  parentsNodup c := by
    have := A.parentsNodup c
    rw [virt_nodeD, virtNode_parents] at this
    exact this
  scopeHeight n b hn hsc := by
    have := A.scopeHeight n b (by rw [virt_isNecessary]; exact hn) (by rw [virt_nodeD, virtNode_createdIn]; exact hsc)
    simp only [virt_size, virt_isNecessary, virt_binds, virt_nodeD, virtNode_valid, virtNode_height] at this
    exact this
  unnec n hn := by
    have := A.unnec n (by rw [virt_isNecessary]; exact hn)
    simp only [virt_nodeD, virtNode_parents, virtNode_observers, virtNode_inRch] at this
    exact this
  invalid n hv := by
    have := A.invalid n (by rw [virt_nodeD, virtNode_valid]; exact hv)
    simp only [virt_isNecessary, virt_nodeD, virtNode_parents, virtNode_observers, virtNode_inRch] at this
    exact this
  noForce n := by
    have := A.noForce n
    rw [virt_nodeD, virtNode_forceNecessary] at this
    exact this
  noHandlers n := by
    have := A.noHandlers n
    rw [virt_nodeD, virtNode_num] at this
    exact this
  heapWF := heapWF_of_virt A.heapWF
  queued m := by
    have := A.queued m
    simp only [virt_inRch, virt_isNecessary, virt_isStale] at this
    exact this
  queuedAt m hm := by
    have := A.queuedAt m (by rw [virt_inRch]; exact hm)
    simp only [virt_nodeD, virtNode_heightInRch, virtNode_height] at this
    exact this
  lowerBound := by
    have := A.lowerBound
    simp only [virt_rch, virt_nodeD, virtNode_inRch, virtNode_height] at this
    exact this
  ahhLength := A.ahhLength
  ahhBuckets := A.ahhBuckets
  ahhMarks m := by
    have := A.ahhMarks m
    rw [virt_nodeD, virtNode_heightInAhh] at this
    exact this
  obs := obsInv_of_virt A.obs
  vars := varsOK_of_virt A.vars

/-- the invariant of fragment F2 on the VIRTUAL state gives the audit of the ACTUAL state -/
theorem audit_of_virt_qg2 {env' : Env} {g : Nat → Option Val} {s : State} (Q : QG2 env' (virt g s)) : Audit s :=
  (audit_of_qg2 Q).of_virt

end IncrVerif.Proofs.AuditF
