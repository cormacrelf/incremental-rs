import IncrVerif.Proofs.FullH59
import IncrVerif.Proofs.FullH45
/-!
# C01 full fragment: the two hypotheses `LcKSpec`, `LcSimSpec` (`FullH45`) about change detectors, discharged
-/
namespace IncrVerif.Proofs.FullH
open IncrVerif.Engine IncrVerif.Proofs

/-- the `didChange` invariant through a run of a change detector -/
theorem lcKSpec_of_envS {env : Env} {sp : Nat → Val → Val} (E : EnvS env sp) : LcKSpec env sp :=
  fun _ _ _ _ _ _ _ _ _ D hk h hv _ _ => KL.lc_keepsK E D hk h hv

/-- the simulation of a run of a change detector -/
theorem lcSimSpec_of_envS {env : Env} {sp : Nat → Val → Val} (E : EnvS env sp) : LcSimSpec env sp :=
  fun _ _ _ _ _ _ _ _ D hk h => by
    obtain ⟨g', h1, h2, h3, -, -⟩ := KL.lc_keepsK_ex E D hk h
    exact ⟨g', h1, h2, h3⟩



end IncrVerif.Proofs.FullH
