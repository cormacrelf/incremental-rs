import IncrVerif.Proofs.MapOld2
import IncrVerif.Proofs.NodeSim
/-!
# map_with_old fragment: the simulation of the engine functions

`Sim x x'`: every successful run of `x` from `s` is matched by a successful run of `x'` from `virt s`, with the
same result and ending in `virt` of the final state.  `virt` is `NodeSim.Relabel.app` of the relabelling `rel`, and `(rel, Fr)`
is `NodeSim.Blind`, so `Sim` of an engine function is the forward half of its `NodeSim.Comm`.
-/
namespace IncrVerif.Proofs.MapOldH
open IncrVerif.Engine IncrVerif.Proofs IncrVerif.Proofs.Step IncrVerif.Proofs.Sched IncrVerif.Proofs.Quiet

/-- what the simulation needs to know of the actual state all along: no expert nodes, no map_ref nodes, no invalid
nodes, no pending invalidation -/
structure Fr (s : State) : Prop where
  noExp : ∀ n e, (s.nodeD n).kind ≠ .expert e
  valid : ∀ n, (s.nodeD n).valid = true
  pinv : s.propagateInvalidity = []
  noRef : ∀ n p i, (s.nodeD n).kind ≠ .mapRef p i

theorem Fr.of_nodes {s s' : State} (h : Fr s) (e : s'.nodes = s.nodes)
    (e2 : s'.propagateInvalidity = s.propagateInvalidity) : Fr s' := by
  have hn : ∀ n, s'.nodeD n = s.nodeD n := fun n => by simp [State.nodeD, e]
  exact ⟨fun n x => by rw [hn]; exact h.noExp n x, fun n => by rw [hn]; exact h.valid n, by rw [e2]; exact h.pinv,
    fun n p i => by rw [hn]; exact h.noRef n p i⟩

theorem Fr.some {s : State} (h : Fr s) {n : Nat} {nd : Node} (hn : s.nodes[n]? = some nd) :
    (∀ e, nd.kind ≠ .expert e) ∧ (∀ p i, nd.kind ≠ .mapRef p i) ∧ nd.valid = true := by
  have h1 := h.noExp n; have h2 := h.valid n; have h3 := h.noRef n
  rw [nodeD_of_some hn] at h1 h2 h3; exact ⟨h1, h3, h2⟩

def SimAt (s : State) {α} (x x' : M α) : Prop :=
  Fr s → ∀ r s', x.run.run s = (.ok r, s') → x'.run.run (virt s) = (.ok r, virt s') ∧ Fr s'

def Sim {α} (x x' : M α) : Prop := ∀ s, SimAt s x x'

theorem fr_modify {s : State} (hn : Fr s) (n : Nat) (f : Node → Node)
    (hk : ∀ nd, (f nd).kind = nd.kind ∧ (f nd).valid = nd.valid ∧ (f nd).cutoff = nd.cutoff) :
    Fr { s with nodes := s.nodes.modify n f } := by
  refine ⟨fun m e => ?_, fun m => ?_, hn.pinv, fun m p i => ?_⟩
  rotate_left 2
  · rw [nodeD_modify]
    split
    · rw [(hk _).1]; exact hn.noRef m p i
    · exact hn.noRef m p i
  · rw [nodeD_modify]
    split
    · rw [(hk _).1]; exact hn.noExp m e
    · exact hn.noExp m e
  · rw [nodeD_modify]
    split
    · rw [(hk _).2.1]; exact hn.valid m
    · exact hn.valid m

/-- `virtNode` relabels the kind only -/
def rel : NodeSim.Relabel where
  kind := fun _ => virtKind
  value := fun _ _ v => v
  didChange := fun _ b => b
  cutoff := fun _ c => c
  recomputedAt := fun _ _ r => r
  experts := fun xs => xs
  log := fun l => l

theorem virt_eq (s : State) : virt s = rel.app s := by
  unfold virt NodeSim.Relabel.app
  congr 1
  apply Array.ext
  · simp
  · intro i h1 h2
    simp only [Array.getElem_map, Array.getElem_mapIdx]
    rfl

theorem blind : NodeSim.Blind rel Fr where
  default _ _ := rfl
  kind _ k := by
    cases k
    case mapWithOld g i => exact Or.inr (Or.inl ⟨_, _, rfl, Or.inr ⟨_, rfl⟩⟩)
    all_goals exact Or.inl rfl
  children s m := by rw [← virt_eq]; exact virt_children s m
  isStale s m := by rw [← virt_eq]; exact virt_isStale s m
  tick _ := NodeSim.Comm.tick_of fun _ h => h.of_nodes rfl rfl
  of_nodes h e1 e2 _ _ _ := h.of_nodes e1 e2
  modify n f h hk := fr_modify h n f fun nd => ⟨(hk nd).1, (hk nd).2.1, (hk nd).2.2.1⟩
  rmParent c _ h := fr_modify h c _ fun _ => ⟨rfl, rfl, rfl⟩
  invalid h hn hv := absurd (h.some hn).2.2 (by rw [hv]; decide)

theorem noRef : NodeSim.NoRef Fr := fun h hn => (h.some hn).2.1

theorem noExp : NodeSim.NoExp Fr := fun h hn => (h.some hn).1

theorem refWork {E : Panic → Prop} : NodeSim.RefWork E rel Fr := .of_noRef blind noRef

theorem obsWork {E : Panic → Prop} : NodeSim.ObsWork E (fun _ : Unit => rel) fun _ => Fr := .of_noExp noExp

theorem expWork {E : Panic → Prop} {env env' : Env} : NodeSim.ExpWork E (fun _ : Unit => rel) (fun _ => Fr) env env' :=
  .of_noExp noExp env env'

theorem plain : NodeSim.Plain rel := ⟨fun _ _ => rfl, fun _ => rfl, fun _ => rfl⟩

theorem writesExperts : NodeSim.WritesExperts Fr := fun _ _ h => h.of_nodes rfl rfl

theorem addsParents : NodeSim.AddsParents Fr := fun c _ h => fr_modify h c _ fun _ => ⟨rfl, rfl, rfl⟩

theorem changesNecessity : NodeSim.ChangesNecessity Fr := fun n f h hk =>
  fr_modify h n f fun nd => ⟨(hk nd).1, (hk nd).2.1, (hk nd).2.2.1⟩

theorem setsValues : NodeSim.SetsValues Fr := fun n _ h => fr_modify h n _ fun _ => ⟨rfl, rfl, rfl⟩

/-- `SimAt` is the simulation that need not reproduce any panic -/
theorem simAt_iff {s : State} {α : Type} {x x' : M α} :
    SimAt s x x' ↔ NodeSim.CommAt (fun _ => False) rel.app Fr s x x' := by
  rw [NodeSim.CommAt.fwd_iff]
  unfold SimAt
  simp only [virt_eq]

theorem Sim.of_comm {α : Type} {x x' : M α} (h : NodeSim.Comm (fun _ => False) rel.app Fr x x') : Sim x x' :=
  fun s => simAt_iff.2 (h s)

/-! ## field projections of `virt` -/
section
variable (s : State)
theorem virt_cfg : (virt s).cfg = s.cfg := rfl
theorem virt_binds : (virt s).binds = s.binds := rfl
theorem virt_experts : (virt s).experts = s.experts := rfl
theorem virt_observers : (virt s).observers = s.observers := rfl
theorem virt_ahh : (virt s).ahh = s.ahh := rfl
theorem virt_maxHeightSeen : (virt s).maxHeightSeen = s.maxHeightSeen := rfl
theorem virt_status : (virt s).status = s.status := rfl
theorem virt_currentScope : (virt s).currentScope = s.currentScope := rfl
theorem virt_handleAfterStab : (virt s).handleAfterStab = s.handleAfterStab := rfl
theorem virt_newObservers : (virt s).newObservers = s.newObservers := rfl
theorem virt_disallowedObservers : (virt s).disallowedObservers = s.disallowedObservers := rfl
theorem virt_allObservers : (virt s).allObservers = s.allObservers := rfl
theorem virt_setDuringStab : (virt s).setDuringStab = s.setDuringStab := rfl
theorem virt_deadVars : (virt s).deadVars = s.deadVars := rfl
theorem virt_counters : (virt s).counters = s.counters := rfl
theorem virt_panicCountdown : (virt s).panicCountdown = s.panicCountdown := rfl
theorem virt_alive : (virt s).alive = s.alive := rfl
theorem virt_top : (virt s).top = s.top := rfl
theorem virt_handles : (virt s).handles = s.handles := rfl
theorem virt_slots : (virt s).slots = s.slots := rfl
theorem virt_log : (virt s).log = s.log := rfl
end


variable {sp : Nat → Val → Val}

theorem Sim.dassert (c : Bool) (site : String) : Sim (Engine.dassert c site) (Engine.dassert c site) :=
  .of_comm (NodeSim.Comm.dassert c site)

theorem Sim.assertM (c : Bool) (site : String) : Sim (Engine.assertM c site) (Engine.assertM c site) :=
  .of_comm (NodeSim.Comm.assertM c site)

theorem Sim.addParent (c i p : Nat) : Sim (Engine.addParent c i p) (Engine.addParent c i p) :=
  .of_comm (NodeSim.Comm.addParent blind addsParents c i p)

theorem Sim.setHeight (n : Nat) (h : Int) : Sim (Engine.setHeight n h) (Engine.setHeight n h) :=
  .of_comm (NodeSim.Comm.setHeight blind n h)

/-- in the fragment there is no map_ref node: `markMapRefUnknown` does nothing, in both states -/
theorem Sim.markMapRefUnknown (fuel n : Nat) :
    Sim (Engine.markMapRefUnknown fuel n) (Engine.markMapRefUnknown fuel n) :=
  .of_comm (NodeSim.Comm.markMapRefUnknown blind noRef fuel n)

theorem Sim.observabilityChange (e : Nat) (b : Bool) :
    Sim (Engine.observabilityChange e b) (Engine.observabilityChange e b) :=
  .of_comm (NodeSim.Comm.observabilityChange blind plain writesExperts e b)

theorem Sim.handleAfterStabilisation (n : Nat) :
    Sim (Engine.handleAfterStabilisation n) (Engine.handleAfterStabilisation n) :=
  .of_comm (NodeSim.Comm.handleAfterStabilisation blind n)

theorem Sim.removeParent (c i p : Nat) : Sim (Engine.removeParent c i p) (Engine.removeParent c i p) :=
  .of_comm (NodeSim.Comm.removeParent blind c i p)

theorem Sim.rchRemoveMin : Sim Engine.rchRemoveMin Engine.rchRemoveMin :=
  .of_comm (NodeSim.Comm.rchRemoveMin blind)

theorem Sim.rchMinHeight : Sim Engine.rchMinHeight Engine.rchMinHeight :=
  .of_comm (NodeSim.Comm.rchMinHeight blind)

theorem Sim.unlink (fuel : Nat) :
    (∀ n, Sim (becameUnnecessary fuel n) (becameUnnecessary fuel n)) ∧
    (∀ n, Sim (checkIfUnnecessary fuel n) (checkIfUnnecessary fuel n)) ∧
    (∀ n, Sim (removeChildren fuel n) (removeChildren fuel n)) :=
  ⟨fun n => .of_comm (NodeSim.Comm.becameUnnecessary blind obsWork fuel n),
    fun n => .of_comm (NodeSim.Comm.checkIfUnnecessary blind obsWork fuel n),
    fun n => .of_comm (NodeSim.Comm.removeChildren blind obsWork fuel n)⟩

theorem Sim.becameUnnecessary (fuel n : Nat) :
    Sim (Engine.becameUnnecessary fuel n) (Engine.becameUnnecessary fuel n) :=
  (Sim.unlink fuel).1 n

theorem Sim.checkIfUnnecessary (fuel n : Nat) :
    Sim (Engine.checkIfUnnecessary fuel n) (Engine.checkIfUnnecessary fuel n) :=
  (Sim.unlink fuel).2.1 n

theorem Sim.removeChildren (fuel n : Nat) :
    Sim (Engine.removeChildren fuel n) (Engine.removeChildren fuel n) :=
  (Sim.unlink fuel).2.2 n

theorem Sim.propagateInvalidity (fuel : Nat) :
    Sim (Engine.propagateInvalidity fuel) (Engine.propagateInvalidity fuel) :=
  .of_comm (NodeSim.Comm.propagateInvalidity (fun _ h => h.pinv) fuel)

theorem Sim.becameNecessary (env : Env) (fuel n : Nat) :
    Sim (Engine.becameNecessary env fuel n) (Engine.becameNecessary (virtEnv env sp) fuel n) :=
  .of_comm (NodeSim.Comm.becameNecessary blind addsParents refWork expWork fuel n)

theorem Sim.addParentWithoutAdjustingHeights (env : Env) (fuel c i p : Nat) :
    Sim (Engine.addParentWithoutAdjustingHeights env fuel c i p)
      (Engine.addParentWithoutAdjustingHeights (virtEnv env sp) fuel c i p) :=
  .of_comm (NodeSim.Comm.addParentWithoutAdjustingHeights blind addsParents refWork expWork fuel c i p)

theorem Sim.shouldCutoff (env : Env) (n : Nat) (o v : Val) :
    Sim (Engine.shouldCutoff env n o v) (Engine.shouldCutoff (virtEnv env sp) n o v) :=
  .of_comm (NodeSim.Comm.shouldCutoff blind (fun _ _ => rfl) (fun _ _ _ _ _ _ => rfl) (virtEnv_cutoff env sp) n o v)

theorem Sim.parentIterCanRecomputeNow (p child : Nat) :
    Sim (Engine.parentIterCanRecomputeNow p child) (Engine.parentIterCanRecomputeNow p child) :=
  .of_comm (NodeSim.Comm.parentIterCanRecomputeNow blind p child)

theorem Sim.maybeChangeValueManual (env : Env) (fuel n : Nat) (o : Option Val) (did b : Bool) :
    Sim (Engine.maybeChangeValueManual env fuel n o did b)
      (Engine.maybeChangeValueManual (virtEnv env sp) fuel n o did b) :=
  .of_comm (NodeSim.Comm.maybeChangeValueManual blind noRef expWork fuel n o did b)

theorem Sim.maybeChangeValue (env : Env) (fuel n : Nat) (v : Val) :
    Sim (Engine.maybeChangeValue env fuel n v) (Engine.maybeChangeValue (virtEnv env sp) fuel n v) :=
  .of_comm (NodeSim.Comm.maybeChangeValue blind noRef expWork (fun _ _ _ => rfl) setsValues (fun _ _ => rfl) (fun _ _ _ _ _ _ => rfl) (virtEnv_cutoff env sp) fuel n v)

theorem Sim.addNewObservers (env : Env) (fuel : Nat) :
    Sim (Engine.addNewObservers env fuel) (Engine.addNewObservers (virtEnv env sp) fuel) :=
  .of_comm (NodeSim.Comm.addNewObservers blind changesNecessity addsParents refWork expWork (fun _ h => h.pinv) fuel)

theorem Sim.unlinkDisallowedObservers (fuel : Nat) :
    Sim (Engine.unlinkDisallowedObservers fuel) (Engine.unlinkDisallowedObservers fuel) :=
  .of_comm (NodeSim.Comm.unlinkDisallowedObservers blind changesNecessity obsWork fuel)

theorem Sim.didSetVarWhileNotStabilising (v : Nat) :
    Sim (Engine.didSetVarWhileNotStabilising v) (Engine.didSetVarWhileNotStabilising v) :=
  .of_comm (NodeSim.Comm.didSetVarWhileNotStabilising blind v)

theorem Sim.writeVar (v : Nat) (f : Val → Val) (isSet : Bool) :
    Sim (Engine.writeVar v f isSet) (Engine.writeVar v f isSet) :=
  .of_comm (NodeSim.Comm.writeVar blind v f isSet)

end IncrVerif.Proofs.MapOldH
