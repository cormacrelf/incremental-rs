import IncrVerif.Proofs.TidyH24
import IncrVerif.Proofs.EffH18
import IncrVerif.Proofs.Drain
/-!
# T3b part 1: the drain with write effects in node functions returns

Forward versions of `EffH.runEffects_writes` / `EffH.recomputeOne_eff_eq` (unconditional run equations, given that
the written variables exist), then the termination of the drain through the master equation.
-/
namespace IncrVerif.Proofs.TidyH.EffT
open IncrVerif.Engine IncrVerif.Driver IncrVerif.Proofs IncrVerif.Proofs.Step IncrVerif.Proofs.Sched
open IncrVerif.Proofs.Quiet IncrVerif.Proofs.EffH

/-- every variable written by a node function has an index below `B` -/
def FnBound (env : Env) (B : Nat) : Prop :=
  ∀ f vals e v g, e ∈ env.fnEff f vals → effWrite e = some (v, g) → v < B

/-- every variable written by an update handler has an index below `B` -/
def HBound (env : Env) (B : Nat) : Prop :=
  ∀ hid u e v g, e ∈ env.handler hid u → effWrite e = some (v, g) → v < B

theorem write_core_run (v : Nat) (f : Val → Val) (isSet : Bool) (k : Val → M Unit) (note : Val → List Event)
    (hk : ∀ x s, (k x).run.run s = (.ok (), logged (note x) s)) {s : State} {vc : VarCell}
    (hst : s.status = .stabilising) (hh : HandlesOK s) (hv : s.vars[v]? = some vc) :
    (withVarHandle v (writeVar v f isSet >>= k)).run.run s =
      (.ok (), logged (note (vc.pending.getD vc.value)) (deferred v vc f s)) := by
  rw [e2_run_withVarHandle _ _ _ hh, run_bind, writeVar_inside_run v f isSet s vc hv hst]
  simp only [hk]

/-- one write effect while `status = stabilising`, on an existing variable: the run IS `effStep` -/
theorem runEffectBasic_write_run {env : Env} {e : Effect} {s : State}
    (hst : s.status = .stabilising) (hw : (effWrite e).isSome = true) (hh : HandlesOK s)
    (hex : ∀ v f, effWrite e = some (v, f) → v < s.vars.size) :
    (runEffectBasic env e).run.run s = (.ok (), effStep e s) := by
  cases e <;> first | (exact Bool.noConfusion hw) | skip
  case setVar v x =>
    obtain ⟨vc, hv⟩ := e2_some_of_lt (hex v _ rfl)
    unfold runEffectBasic
    simp only [e2_discard_eq]
    refine (write_core_run v _ _ (fun _ => (pure () : M Unit)) (fun _ => []) (fun _ _ => rfl) hst hh hv).trans ?_
    unfold effStep; simp only [effWrite, hv]; rfl
  case modifyVar v d =>
    obtain ⟨vc, hv⟩ := e2_some_of_lt (hex v _ rfl)
    unfold runEffectBasic
    simp only [e2_discard_eq]
    refine (write_core_run v _ _ (fun _ => (pure () : M Unit)) (fun _ => []) (fun _ _ => rfl) hst hh hv).trans ?_
    unfold effStep; simp only [effWrite, hv]; rfl
  case updateVar v d =>
    obtain ⟨vc, hv⟩ := e2_some_of_lt (hex v _ rfl)
    unfold runEffectBasic
    simp only [e2_discard_eq]
    refine (write_core_run v _ _ (fun _ => (pure () : M Unit)) (fun _ => []) (fun _ _ => rfl) hst hh hv).trans ?_
    unfold effStep; simp only [effWrite, hv]; rfl
  case replaceVar v x =>
    obtain ⟨vc, hv⟩ := e2_some_of_lt (hex v _ rfl)
    unfold runEffectBasic
    refine (write_core_run v _ _ (fun old => logEv (.note s!"replace v{v} -> {old.render}"))
      (fun old => [.note s!"replace v{v} -> {old.render}"]) (fun _ _ => rfl) hst hh hv).trans ?_
    unfold effStep; simp only [effWrite, hv]; rfl
  case replaceWithVar v d =>
    obtain ⟨vc, hv⟩ := e2_some_of_lt (hex v _ rfl)
    unfold runEffectBasic
    refine (write_core_run v _ _ (fun old => logEv (.note s!"replacewith v{v} -> {old.render}"))
      (fun old => [.note s!"replacewith v{v} -> {old.render}"]) (fun _ _ => rfl) hst hh hv).trans ?_
    unfold effStep; simp only [effWrite, hv]; rfl

/-- **closed form, forward.** While `status = stabilising`, write effects on existing variables return `effSteps` -/
theorem runEffects_writes_run {env : Env} {fuel : Nat} {es : List Effect} {arg : Int} {s : State}
    (hst : s.status = .stabilising) (hw : ∀ e, e ∈ es → (effWrite e).isSome = true) (hh : HandlesOK s)
    (hex : ∀ e, e ∈ es → ∀ v f, effWrite e = some (v, f) → v < s.vars.size) :
    (runEffects env fuel es arg).run.run s = (.ok (), effSteps es s) := by
  induction es generalizing s with
  | nil => rw [runEffects_nil]; rfl
  | cons e es ih =>
    have he := hw e (List.mem_cons_self ..)
    rw [e2_runEffects_cons env fuel e es arg he,
      run_bind_ok (runEffectBasic_write_run hst he hh (hex e (List.mem_cons_self ..)))]
    have sp : SameP s (effStep e s) := effStep_sameP e s
    rw [ih (s := effStep e s) (sp.e2_status.trans hst) (fun e' he' => hw e' (List.mem_cons_of_mem _ he'))
      (sp.handlesOK hh) (fun e' he' v f hv => by rw [sp.size]; exact hex e' (List.mem_cons_of_mem _ he') v f hv),
      effSteps_cons]

theorem nodeEffs_bound {env : Env} {B : Nat} (hb : FnBound env B) (s : State) (n : Nat) :
    ∀ e, e ∈ nodeEffs env s n → ∀ v g, effWrite e = some (v, g) → v < B := by
  intro e he
  unfold nodeEffs at he
  split at he
  · split at he
    · split at he
      · exact fun v g hv => hb _ _ e v g he hv
      · cases he
    · cases he
  · cases he

/-- **master equation, forward**: on the current node of the scheduling invariant, while `status = stabilising`,
`recomputeOne` with write effects on existing variables IS the effect-free `recomputeOne` after the deferred writes
(same result — value or panic — and same final state) -/
theorem recomputeOne_eff_run {env : Env} {fuel n B : Nat} {s : State}
    (I : Inv (noEff env) s (some n)) (hst : s.status = .stabilising) (hw : WOnly env) (hh : HandlesOK s)
    (hb : FnBound env B) (hB : B ≤ s.vars.size) :
    (recomputeOne env fuel n).run.run s =
      (recomputeOne (noEff env) fuel n).run.run (effSteps (nodeEffs env s n) s) := by
  have g := I.graph
  have hn := (I.cur n rfl).1
  obtain ⟨hlt, hv, hk, _, _⟩ := g.nec n hn
  have hnn := some_of_lt hlt
  obtain ⟨vals, hvals⟩ := I.kids_values
  have hvo := g.valuesOf hn
  rw [hvals, valuesOf_noEff] at hvo
  cases hkd : (s.nodeD n).kind with
  | const w =>
    have e : nodeEffs env s n = [] := by simp only [nodeEffs, hkd]
    rw [e, effSteps_nil, recomputeOne_const_run env fuel n s _ w hnn hv hkd,
      recomputeOne_const_run (noEff env) fuel n s _ w hnn hv hkd, mcv_noEff]
  | var c =>
    obtain ⟨vc, hvc⟩ := g.var n c hn hkd
    have e : nodeEffs env s n = [] := by simp only [nodeEffs, hkd]
    rw [e, effSteps_nil, recomputeOne_var_run env fuel n s _ c vc hnn hv hkd hvc,
      recomputeOne_var_run (noEff env) fuel n s _ c vc hnn hv hkd hvc, mcv_noEff]
  | map f args =>
    rw [hkd] at hk hvo
    by_cases hf : f < fnZip
    · have hne := nodeEffs_of_kind hkd hf hvo
      have hbd := nodeEffs_bound hb s n
      rw [hne] at hbd ⊢
      rw [recomputeOne_mapEff_run env fuel n s _ f args vals hnn hv hkd hf hvo g.pc]
      have hwo : ∀ e, e ∈ env.fnEff f vals → (effWrite e).isSome = true := fun e he => hw f vals e he
      have hh' : HandlesOK (started n s) := hh
      have hX := runEffects_writes_run (env := env) (fuel := fuel) (arg := (vals.headD .unit).toInt)
        (s := started n s) hst hwo hh'
        (fun e he v g' hv' => Nat.lt_of_lt_of_le (hbd e he v g' hv') hB)
      rw [run_bind_ok hX, effSteps_started, run_bind_logEv]
      have P := effSteps_sameP (env.fnEff f vals) s
      have hnn' : (effSteps (env.fnEff f vals) s).nodes[n]? = some (s.nodeD n) := by
        rw [P.nodes]; exact hnn
      have hvo' : valuesOf (noEff env) (effSteps (env.fnEff f vals) s) args = some vals := by
        rw [valuesOf_noEff, P.valuesOf]; exact hvo
      rw [recomputeOne_map_run (noEff env) fuel n _ _ f args vals hnn' hv hkd hf hvo' rfl
        (by rw [P.pc]; exact g.pc), mcv_noEff]
      rfl
    · have e : nodeEffs env s n = [] := by simp only [nodeEffs, hkd, if_neg hf]
      rw [e, effSteps_nil, recomputeOne_mapBuiltin_run env fuel n s _ f args vals hnn hv hkd hf hk.1 hvo,
        recomputeOne_mapBuiltin_run (noEff env) fuel n s _ f args vals hnn hv hkd hf hk.1
          (by rw [valuesOf_noEff]; exact hvo), mcv_noEff]
      rfl
  | fold f init cs =>
    rw [hkd] at hvo
    have e : nodeEffs env s n = [] := by simp only [nodeEffs, hkd]
    rw [e, effSteps_nil, recomputeOne_fold_run env fuel n s _ f init cs vals hnn hv hkd hvo g.pc,
      recomputeOne_fold_run (noEff env) fuel n s _ f init cs vals hnn hv hkd
        (by rw [valuesOf_noEff]; exact hvo) g.pc, mcv_noEff]
    rfl
  | mapRef _ _ => rw [hkd] at hk; exact hk.elim
  | mapWithOld _ _ => rw [hkd] at hk; exact hk.elim
  | bindLhsChange _ => rw [hkd] at hk; exact hk.elim
  | bindMain _ _ => rw [hkd] at hk; exact hk.elim
  | expert _ => rw [hkd] at hk; exact hk.elim

theorem unrun_sameP {s s' : State} (P : SameP s s') : unrun s' = unrun s := by
  unfold unrun
  rw [P.nodes, P.stabNum]
  congr 1
  funext m
  rw [P.nodeD]

theorem safe_sameP {s s' : State} (P : SameP s s') (S : Safe s) : Safe s' :=
  S.transfer P.shape (by rw [P.rch])

theorem FrameP.unrun_le {s s' : State} (f : FrameP s s') (st : Stamps s) : unrun s' ≤ unrun s := by
  unfold unrun
  rw [f.size, f.stabNum]
  apply countP_le_of_imp
  intro m _ hm
  have := f.not_yet st (m := m) (by simpa using hm)
  simpa using this

theorem FrameP.unrun_lt {s s' : State} (f : FrameP s s') (st : Stamps s) {n : Nat} (hn : n < s.nodes.size)
    (h0 : (s.nodeD n).recomputedAt < s.stabNum) (h1 : (s'.nodeD n).recomputedAt = s.stabNum) :
    unrun s' < unrun s := by
  unfold unrun
  rw [f.size, f.stabNum]
  refine countP_lt_of_imp _ _ _ ?_ n (List.mem_range.2 hn) (by simpa using h0) (by simp [h1])
  intro m _ hm
  have := f.not_yet st (m := m) (by simpa using hm)
  simpa using this

/-- **the drain with write effects terminates**: no assertion fails, fuel `unrun s + 2` suffices (`Drain.drainHeap_total`: by the master
equation a step fails only where the effect-free step does, i.e. with no fuel) -/
theorem drainHeap_total_eff {env : Env} {B : Nat} (hw : WOnly env) (hb : FnBound env B) (fuel : Nat) (s : State)
    (D : DI env s none) (S : Safe s) (hB : B ≤ s.vars.size) (hf : unrun s + 2 ≤ fuel) :
    ∃ s', (drainHeap env fuel).run.run s = (.ok (), s') := by
  refine Drain.drainHeap_total (st := id) (J := fun s cur => DI env s cur ∧ Safe s ∧ B ≤ s.vars.size) (μ := unrun)
    (need := fun _ => 0) (fun s n fuel I hf => ?_) (fun s I => ?_) fuel s ⟨D, S, hB⟩ (by omega)
  · obtain ⟨D, S, hB⟩ := I
    have I := D.inv
    have P := effSteps_sameP (nodeEffs env s n) s
    rcases h1 : (recomputeOne env fuel n).run.run s with ⟨e | r, s1⟩
    · rw [recomputeOne_eff_run (fuel := fuel) I D.status hw D.handles hb hB] at h1
      have := (recomputeOne_safe (P.inv I) (safe_sameP P S) h1).2
      omega
    · obtain ⟨D1, r1, hn1, -⟩ := recomputeOne_effstep hw D h1
      have hnlt := (I.graph.nec n (I.cur n rfl).1).1
      exact ⟨r, s1, h1, ⟨D1, S.transfer r1.frame.shape r1.frame.qsize, by rw [r1.frame.vsize]; exact hB⟩,
        FrameP.unrun_lt r1.frame I.stamps hnlt I.cur_not_yet hn1, Nat.le_refl _⟩
  · obtain ⟨D, S, hB⟩ := I
    obtain ⟨r, s1, hpop, S1⟩ := rchRemoveMin_safe D.inv S
    refine ⟨r, s1, hpop, fun n e => ?_⟩
    subst e
    obtain ⟨D1, r1, f1, -⟩ := pop_eff D hpop
    exact ⟨s1, rfl, ⟨D1, S1, by rw [f1.vars]; exact hB⟩, f1.unrun_le D.inv.stamps, Nat.le_refl _⟩

end IncrVerif.Proofs.TidyH.EffT
