import IncrVerif.Proofs.DriverH1
import IncrVerif.Proofs.ExpertH48
/-!
# Drivers: the contract of `expert_make_stale` between two effects (`StaleSpec`)

`expertMakeStale x` on an expert node `x` (record `e`/`er`): nothing happens when `er.forceStale` is already up;
otherwise the record gets `forceStale := true` (`Xp.forced`) — in the virtual state a `Rekind` of `x` with the SAME
kind (`recomputedAt := -1`) — and `x` is inserted into the recompute heap when it is necessary and not queued.
* `rekind_forced`, `XFrag.forced`, `EF.forced`, `EF.inserted`: the bookkeeping.
* `allStatic_rekind_same`, `GInv.open_same`, `GInv.restale_nec`: the structural part for a necessary node (the node is
  opened `.linking (K + 1)`, `K` the number of its children, and closed again by `close_phase`).
* `staleSpec`.
-/
namespace IncrVerif.Proofs.DriverH
open IncrVerif.Engine IncrVerif.Driver IncrVerif.Proofs IncrVerif.Proofs.Step IncrVerif.Proofs.Sched
open IncrVerif.Proofs.ExpertH IncrVerif.Proofs.ExpertH.QR IncrVerif.Proofs.Xp

/-! ## the record update -/

section
variable {E : Env} {s : State} {x e : Nat} {er : ExpertRec}

theorem forced_get (hx : s.experts[e]? = some er) :
    (Xp.forced e er s).experts[e]? = some { er with forceStale := true } :=
  putExpert_get _ hx

theorem forced_get_ne {e' : Nat} (h : e' ≠ e) : (Xp.forced e er s).experts[e']? = s.experts[e']? :=
  putExpert_get_ne _ _ (Ne.symm h)

theorem forced_xRec_ne {e' : Nat} (h : e' ≠ e) : xRec (Xp.forced e er s).experts e' = xRec s.experts e' := by
  unfold xRec; rw [forced_get_ne h]

theorem forced_xRec (hx : s.experts[e]? = some er) :
    xRec (Xp.forced e er s).experts e = { er with forceStale := true } :=
  xRec_some (forced_get hx)

/-- **setting `forceStale` is a `Rekind` of the virtual node with the same kind** -/
theorem rekind_forced (F : XFrag E s) (hk : (s.nodeD x).kind = .expert e) (hx : s.experts[e]? = some er) :
    Rekind x ((virt s).nodeD x).kind (virt s) (virt (Xp.forced e er s)) := by
  have hlt := F.lt_of_expert hk
  refine ⟨by rw [virt_size]; exact hlt, by rw [virt_size, virt_size]; rfl, rfl, rfl, rfl, rfl, rfl, ?_, ?_⟩
  · intro m hm
    rw [virt_nodeD, virt_nodeD]
    show virtNode _ (s.nodeD m) = _
    apply virtNode_congrD
    intro e' he'
    have : e' ≠ e := by
      intro h; rw [h] at he'; exact hm (F.xinj he' hk)
    exact forced_xRec_ne this
  · rw [virt_nodeD, virt_nodeD]
    show virtNode _ (s.nodeD x) = _
    unfold virtNode
    simp only [hk, virtKind, ExpertH.forced, forced_xRec hx, xRec_some hx, if_true]

theorem XFrag.forced (F : XFrag E s) (hx : s.experts[e]? = some er) : XFrag E (Xp.forced e er s) where
  pc := F.pc
  kind := F.kind
  valid := F.valid
  xrec m e' hm hk' := by
    obtain ⟨er', h1, h2⟩ := F.xrec m e' hm hk'
    by_cases h : e' = e
    · subst h
      rw [hx] at h1; cases h1
      exact ⟨_, forced_get hx, h2⟩
    · exact ⟨er', by rw [forced_get_ne h]; exact h1, h2⟩
  xok e' er' h' := by
    by_cases h : e' = e
    · subst h
      rw [forced_get hx] at h'; cases h'
      exact F.xok e' er hx
    · rw [forced_get_ne h] at h'; exact F.xok e' er' h'

theorem EF.forced (D : Nat → Prop) (hD : D e) (hx : s.experts[e]? = some er) : EF D s (Xp.forced e er s) := by
  refine ⟨rfl, fun _ => rfl, rfl, by simp [Xp.forced, putExpert], ?_, ?_, ?_, Nat.le_refl _⟩
  · intro e' er' h'
    by_cases h : e' = e
    · subst h; rw [hx] at h'; cases h'
      exact ⟨_, forced_get hx, rfl, rfl, rfl⟩
    · exact ⟨er', by rw [forced_get_ne h]; exact h', rfl, rfl, rfl⟩
  · intro e' er1 er2 hnD h1 h2
    have h : e' ≠ e := fun h => hnD (h ▸ hD)
    rw [forced_get_ne h, h1] at h2; cases h2; rfl
  · intro e' er1 er2 h1 h2
    by_cases h : e' = e
    · subst h; rw [forced_get hx] at h2; cases h2; exact Or.inr rfl
    · rw [forced_get_ne h, h1] at h2; cases h2; exact Or.inl ⟨rfl, rfl⟩

theorem EF.inserted (D : Nat → Prop) (n : Nat) (h : Int) (s : State) : EF D s (inserted n h s) := by
  refine ⟨Array.size_modify .., fun m => ?_, ?_, rfl, fun _ er h => ⟨er, h, rfl, rfl, rfl⟩,
    fun e er er' _ h h' => ?_, fun e er er' h h' => ?_, Nat.le_refl _⟩
  · rw [inserted_nodeD]; split <;> rfl
  · simp [eKey, IncrVerif.Proofs.inserted]
  · have h'' : s.experts[e]? = some er' := h'
    rw [h] at h''; cases h''; rfl
  · have h'' : s.experts[e]? = some er' := h'
    rw [h] at h''; cases h''; exact Or.inl ⟨rfl, rfl⟩

end

/-! ## the structural part -/

section
variable {env : Env} {rk : Nat → Nat} {n : Nat} {S S2 S' : State}

/-- a `Rekind` with the same kind keeps the static facts, with the same rank -/
theorem allStatic_rekind_same (A : AllStatic env rk S) (R : Rekind n (S.nodeD n).kind S S2) :
    AllStatic env rk S2 := by
  have hkind : ∀ m, (S2.nodeD m).kind = (S.nodeD m).kind := by
    intro m
    by_cases h : m = n
    · rw [h]; exact R.kind_self
    · exact R.kind_other h
  have hrest : ∀ m, (S2.nodeD m).valid = (S.nodeD m).valid ∧ (S2.nodeD m).cutoff = (S.nodeD m).cutoff ∧
      (S2.nodeD m).createdIn = (S.nodeD m).createdIn ∧
      (S2.nodeD m).forceNecessary = (S.nodeD m).forceNecessary := by
    intro m
    by_cases h : m = n
    · rw [h, R.self]; exact ⟨rfl, rfl, rfl, rfl⟩
    · rw [R.other m h]; exact ⟨rfl, rfl, rfl, rfl⟩
  refine ⟨by rw [R.pc]; exact A.pc, by rw [R.scope]; exact A.scope, fun m hm => ?_, A.inj,
    by rw [R.size]; exact A.top⟩
  have sn := A.node m (by rw [← R.size]; exact hm)
  obtain ⟨h1, h2, h3, h4⟩ := hrest m
  exact ⟨by rw [h1]; exact sn.valid, by rw [hkind]; exact sn.kind, by rw [h2]; exact sn.cutoff,
    by rw [h3]; exact sn.top, by rw [h4]; exact sn.force, by rw [hkind]; exact sn.kidsLt,
    by rw [hkind, R.size]; exact sn.kidsIn⟩

/-- **a necessary closed node whose `recomputedAt` is reset is opened**: `.linking (K + 1)`, `K` the number of its
children (all its child edges are recorded) -/
theorem GInv.open_same (I : GInv env rk S allClosed) (R : Rekind n (S.nodeD n).kind S S2)
    (hn : S.isNecessary n = true) (hst : staleOf S2 n = true) :
    GInv env rk S2 (upd allClosed n (.linking ((kids (S.nodeD n).kind).length + 1))) := by
  have hopn : upd allClosed n (.linking ((kids (S.nodeD n).kind).length + 1)) n =
      .linking ((kids (S.nodeD n).kind).length + 1) := upd_self ..
  refine GInv.rekind I R (allStatic_rekind_same I.static R) (fun m h => upd_other _ _ _ h) (fun i c => ?_)
    (fun h => by rw [hopn] at h; cases h) (fun _ _ => hn) (fun k h => by rw [hopn] at h; cases h)
    (fun _ => ⟨hst, Or.inl hn⟩)
  -- recorded are all child edges, the node being necessary
  rw [wants_linking hopn, wants_closed rfl, hn]
  constructor
  · rintro ⟨h1, -⟩; exact ⟨h1, rfl⟩
  · rintro ⟨h1, -⟩
    refine ⟨h1, ?_⟩
    rcases Nat.lt_or_ge i (kids (S.nodeD n).kind).length with h | h
    · omega
    · rw [List.getElem?_eq_none h] at h1; cases h1

/-- **a necessary node is made stale**: once it is queued (it was already, or `rchInsert` has just run) the
structure holds again, with the same rank -/
theorem GInv.restale_nec (I : GInv env rk S allClosed) (R : Rekind n (S.nodeD n).kind S S2)
    (hn : S.isNecessary n = true) (hst : staleOf S2 n = true)
    (hcase : ((S2.nodeD n).inRch = true ∧ S' = S2) ∨
      ((S2.nodeD n).inRch = false ∧ (rchInsert n).run.run S2 = (.ok (), S'))) :
    Struct env rk S' := by
  have I2 := GInv.open_same I R hn hst
  refine close_phase I2 ?_ ?_ ?_ ?_ hst hcase
  · rw [R.kind_self]; exact Nat.le_succ _
  · intro c' i hm
    rw [R.parents] at hm
    rw [R.height, R.height]; exact I.hlt c' n i hm rfl
  · rw [R.height]; exact I.hpos n hn rfl
  · intro hq
    rw [R.inRch] at hq
    rw [R.heightInRch, R.height]; exact I.hgt n hq rfl

end

/-! ## the contract -/

theorem staleSpec (E : Env) : StaleSpec E := by
  intro x e s s' er M hlt hk hx h
  have F := M.frag
  obtain ⟨rk, I⟩ := M.st
  have hxI : IsExpert s x (s.nodeD x) e er := ⟨some_of_lt hlt, F.valid x hlt, hk, hx⟩
  cases hr : runningOk s x
  · obtain ⟨p, hp⟩ := expertMakeStale_assert_fails hxI hr
    rw [hp] at h; cases h
  rw [expertMakeStale_run hxI hr] at h
  by_cases hf : er.forceStale = true
  · rw [if_pos hf] at h
    have e' : s' = s := by cases h; rfl
    subst e'
    exact ⟨M, EF.refl _ _, rfl, ⟨er, hx, rfl, rfl, rfl, hf⟩, fun _ => rfl⟩
  rw [if_neg hf] at h
  -- the record update
  have F1 : XFrag E (Xp.forced e er s) := XFrag.forced F hx
  have A1 : AhhEmpty (Xp.forced e er s) := ahhEmpty_of_ahf M.ahh (AhF.of_nodes rfl rfl)
  have R := rekind_forced F hk hx
  have E1 : EF (fun e' => e' = e) s (Xp.forced e er s) := EF.forced _ rfl hx
  have hkv : ((virt s).nodeD x).kind = .fold (xBase + er.f) (.int 0) (er.children.map (·.child)) := by
    rw [virt_nodeD, virtNode_kind, hk]; simp only [virtKind, xRec_some hx]
  have hst : staleOf (virt (Xp.forced e er s)) x = true := by
    unfold staleOf; rw [R.kind_self, R.rec_self, hkv]; simp
  have hp1 : (Xp.forced e er s).propagateInvalidity = [] := M.pinv
  by_cases hc : ((s.nodeD x).isNecessary && !(s.nodeD x).inRch) = true
  · -- necessary, not queued: inserted
    rw [if_pos hc] at h
    simp only [Bool.and_eq_true, Bool.not_eq_true'] at hc
    obtain ⟨hv, fr'⟩ := Sim.rchInsert x _ (F1.fr hp1) _ s' h
    have S' : Struct (virtEnv E) rk (virt s') :=
      GInv.restale_nec I R (by rw [virt_isNecessary]; exact hc.1) hst
        (Or.inr ⟨by rw [virt_nodeD]; exact hc.2, hv⟩)
    obtain ⟨nd', -, -, -, e'⟩ := rchInsert_ok_inv h
    have E2 : EF (fun e' => e' = e) (Xp.forced e er s) s' := by rw [e']; exact EF.inserted ..
    refine ⟨⟨F1.of_xf ((PresX.rchInsert x).h _ _ _ h) fr', ahhEmpty_of_ahf A1 ((PresAh.rchInsert x).h _ _ _ h),
      ⟨rk, S'⟩, fr'.pinv, ?_⟩, E1.trans E2, by rw [e']; rfl, ⟨{ er with forceStale := true }, ?_, rfl, rfl, rfl, rfl⟩, ?_⟩
    · intro m
      rw [e', inserted_nodeD]
      split
      · exact M.handlers m
      · exact M.handlers m
    · rw [e']; exact forced_get hx
    · intro m; rw [e']; exact inserted_isNecessary ..
  · rw [if_neg hc] at h
    have e' : s' = Xp.forced e er s := by cases h; rfl
    subst e'
    have S' : Struct (virtEnv E) rk (virt (Xp.forced e er s)) := by
      cases hnec : (s.nodeD x).isNecessary
      · exact GInv.rekind_unnec I R (allStatic_rekind_same I.static R) (by rw [virt_isNecessary]; exact hnec)
      · have hq : (s.nodeD x).inRch = true := by
          cases hq : (s.nodeD x).inRch
          · exact absurd (by rw [hnec, hq]; rfl) hc
          · rfl
        exact GInv.restale_nec I R (by rw [virt_isNecessary]; exact hnec) hst
          (Or.inl ⟨by rw [virt_nodeD]; exact hq, rfl⟩)
    exact ⟨⟨F1, A1, ⟨rk, S'⟩, hp1, M.handlers⟩, E1, rfl, ⟨{ er with forceStale := true }, forced_get hx,
      rfl, rfl, rfl, rfl⟩, fun _ => rfl⟩

end IncrVerif.Proofs.DriverH
