import IncrVerif.Proofs.NestH64
import IncrVerif.Proofs.NestH48
import IncrVerif.Proofs.NestH49
import IncrVerif.Proofs.NestH50
import IncrVerif.Proofs.BindH107
import IncrVerif.Proofs.BindH109
import IncrVerif.Proofs.NestH65
/-!
# Nested binds (F2), part 4h-2: whole histories of the fragment

* `N4h.top_step2`: a successful action of the fragment changes the number of naming-table entries exactly as `HistF2` counts them: a `create` pushes one
  entry (`step_create2`), every other action leaves the table alone (`BindH.C2h.PresTop.stepAction`: nothing but `create` writes `top`);
* `runActions_q2`, `runActions_split2`, `history_q2`, `history_prefix2`, `history_stabilise2` (the counterparts of `BindH.runActions_q1`, … of `Proofs/BindH109.lean`).
-/
namespace IncrVerif.Proofs.NestH
open IncrVerif.Engine IncrVerif.Driver IncrVerif.Proofs IncrVerif.Proofs.Step IncrVerif.Proofs.Sched IncrVerif.Proofs.Quiet
open IncrVerif.Proofs.BindH

namespace N4h

/-- the number of naming-table entries after an action of the fragment -/
theorem top_step2 {env : Env} {s s' : State} {a : Action} {tokens : Array Nat} {r : String × Array Nat}
    (Q : QI2 env s) :
    ActionF2 env s.top.size a → (stepAction env a tokens).run.run s = (.ok r, s') →
    s'.top.size = (match a with | .create _ => s.top.size + 1 | _ => s.top.size) := by
  intro ha h
  by_cases hc : ∃ i, a = .create i
  · obtain ⟨i, e⟩ := hc
    rw [e] at h ha ⊢
    obtain ⟨-, -, m, hm, -⟩ := step_create2 Q ha h
    show s'.top.size = s.top.size + 1
    rw [hm, Array.size_push]
  · have hc' : ∀ i, a ≠ .create i := fun i e => hc ⟨i, e⟩
    have ht := ((C2h.PresTop.stepAction tokens hc').h _ _ _ h).top
    rw [ht]
    cases a <;> first | rfl | exact (hc' _ rfl).elim

end N4h

section
variable {env : Env}
  (STAB : ∀ {fuel : Nat} {s s' : State}, QI2 env s → (stabilise env fuel).run.run s = (.ok (), s') → QI2 env s')
include STAB

/-- one action of a history of the fragment: the invariant is kept, and the rest is a history for the new naming table -/
theorem histF2_step {a : Action} {rest : List Action} {s s' : State} {tk : Array Nat} {r : String × Array Nat}
    (i : QI2 env s ∧ HistF2 env s.top.size (a :: rest)) (hx : (stepAction env a tk).run.run s = (.ok r, s')) :
    QI2 env s' ∧ HistF2 env s'.top.size rest :=
  ⟨step_q2 STAB i.1 i.2.1 hx, by rw [N4h.top_step2 i.1 i.2.1 hx]; exact i.2.2⟩

/-- a run of `as ++ bs` from a state satisfying the invariant: the prefix runs, reaches a state satisfying the invariant, and the rest is a history of
the fragment for the naming table of that state -/
theorem runActions_split2 {as bs : List Action} {s s' : State} {tk tk' : Array Nat}
    (Q : QI2 env s) (hH : HistF2 env s.top.size (as ++ bs))
    (h : Quiet.runActions env (as ++ bs) s tk = .ok (s', tk')) :
    ∃ s1 tk1, Quiet.runActions env as s tk = .ok (s1, tk1) ∧ QI2 env s1 ∧ HistF2 env s1.top.size bs ∧
      Quiet.runActions env bs s1 tk1 = .ok (s', tk') := by
  obtain ⟨s1, tk1, h1, ⟨Q1, H1⟩, h2⟩ :=
    Hist.runActions_split (I := fun s _ rest => QI2 env s ∧ HistF2 env s.top.size rest) (fun _ _ _ _ _ _ => histF2_step STAB) ⟨Q, hH⟩ h
  exact ⟨s1, tk1, h1, Q1, H1, h2⟩

/-- **a list of actions.** A history of the fragment that runs without panic from a state satisfying the invariant ends in a state satisfying it. -/
theorem runActions_q2 {acts : List Action} {s s' : State} {tk tk' : Array Nat}
    (Q : QI2 env s) (hH : HistF2 env s.top.size acts)
    (h : Quiet.runActions env acts s tk = .ok (s', tk')) : QI2 env s' :=
  (Hist.runActions_inv (I := fun s _ rest => QI2 env s ∧ HistF2 env s.top.size rest) (fun _ _ _ _ _ _ => histF2_step STAB) ⟨Q, hH⟩ h).1

/-- **whole histories.** The initial state followed by a history of the fragment. -/
theorem history_q2 {N : Nat} {d : Bool} {acts : List Action} {s : State} {tk : Array Nat}
    (hH : HistF2 env 0 acts) (h : Quiet.runActions env acts (State.init N d) #[] = .ok (s, tk)) : QI2 env s :=
  runActions_q2 STAB (qi2_init env N d) hH h

/-- **every state reached.** If a history of the fragment runs (without panic) from the initial state, then every prefix runs, and the state it reaches
satisfies the invariant (and the rest of the history is a history of the fragment for its naming table). -/
theorem history_prefix2 {N : Nat} {d : Bool} {as bs : List Action} {s : State} {tk : Array Nat}
    (hH : HistF2 env 0 (as ++ bs)) (h : Quiet.runActions env (as ++ bs) (State.init N d) #[] = .ok (s, tk)) :
    ∃ s1 tk1, Quiet.runActions env as (State.init N d) #[] = .ok (s1, tk1) ∧ QI2 env s1 ∧
      HistF2 env s1.top.size bs ∧ Quiet.runActions env bs s1 tk1 = .ok (s, tk) :=
  runActions_split2 STAB (qi2_init env N d) hH h

/-- **every `stabilise` of a history.** At each `stabilise` action of a history of the fragment that runs from the initial state: the state `s1` before it
satisfies the invariant, the `stabilise` returns a state `s2`, which satisfies the invariant, and the rest of the history runs from `s2`. -/
theorem history_stabilise2 {N : Nat} {d : Bool} {as bs : List Action} {s : State} {tk : Array Nat}
    (hH : HistF2 env 0 (as ++ Action.stabilise :: bs))
    (h : Quiet.runActions env (as ++ Action.stabilise :: bs) (State.init N d) #[] = .ok (s, tk)) :
    ∃ s1 tk1 s2, Quiet.runActions env as (State.init N d) #[] = .ok (s1, tk1) ∧ QI2 env s1 ∧
      (stabilise env fuelDefault).run.run s1 = (.ok (), s2) ∧ QI2 env s2 ∧ HistF2 env s2.top.size bs ∧
      Quiet.runActions env bs s2 tk1 = .ok (s, tk) := by
  obtain ⟨s1, tk1, s2, h1, ⟨Q1, -⟩, hst, ⟨Q2, H2⟩, h2⟩ :=
    Hist.runActions_stabilise (I := fun s _ rest => QI2 env s ∧ HistF2 env s.top.size rest) (fun _ _ _ _ _ _ => histF2_step STAB)
      ⟨qi2_init env N d, hH⟩ h
  exact ⟨s1, tk1, s2, h1, Q1, hst, Q2, H2, h2⟩

end

end IncrVerif.Proofs.NestH
