import IncrVerif.Proofs.FullH4
import IncrVerif.Proofs.FullH24
/-!
# C01 full fragment: the `depend_on` invariant `DepInv` and `CRl` through the steps of a drain, from the step relations of the VIRTUAL states
-/
namespace IncrVerif.Proofs.FullH
open IncrVerif.Engine IncrVerif.Driver IncrVerif.Proofs IncrVerif.Proofs.Step IncrVerif.Proofs.Sched IncrVerif.Proofs.Quiet
open IncrVerif.Proofs.BindH (DInv BGraph StepRelB Below Edge)
open IncrVerif.Proofs.NestH (StepL2)

section
variable {env : Env} {sp : Nat → Val → Val}

theorem stored_eq_tv {g : Nat → Option Val} {s : State} {x : Nat} (h : ∀ p i, (s.nodeD x).kind ≠ .mapRef p i) :
    (s.nodeD x).value = tv g s x := (tv_not_mapRef h).symm

theorem not_mapRef_of_map {k : Kind} {f : Nat} {args : List Nat} (h : k = .map f args) : ∀ p i, k ≠ .mapRef p i := by
  intro p i e; rw [h] at e; cases e

theorem children_depend {s : State} {x a b : Nat} (hv : (s.nodeD x).valid = true) (hk : (s.nodeD x).kind = .map fnFirst [a, b]) :
    s.children x = [a, b] := by
  unfold State.children Node.kind?; rw [hv, hk]; rfl

/-- **a step described by `StepRelB`** (static, `bindMain`, map_ref, map_with_old, verdict steps) keeps `DepInv` and `CRl`.  `hself`: if the node that ran is itself a
`depend_on` node over `a` (cutoff `.dependOn a`), its new value is what `a` stores (from `TargetB` and `FirstFn`). -/
theorem dep_stepB {g g' : Nat → Option Val} {s s' : State} {n : Nat} {v : Val} {ch : Bool} {r : Option Nat}
    (Dp : DepInv g s) (C : CRl s) (I : DInv (VE env sp) (virt g s) (some n))
    (R : StepRelB n v ch r (virt g s) (virt g' s'))
    (hk : ∀ m, (s'.nodeD m).kind = (s.nodeD m).kind) (hc : ∀ m, (s'.nodeD m).cutoff = (s.nodeD m).cutoff)
    (hself : ∀ a b, (s.nodeD n).kind = .map fnFirst [a, b] → (s.nodeD n).cutoff = .dependOn a → tv g s a = some v) :
    DepInv g' s' ∧ CRl s' := by
  have hst : s'.stabNum = s.stabNum := R.stabNum
  -- fields of the other nodes
  have oth : ∀ m, m ≠ n → (s'.nodeD m).valid = (s.nodeD m).valid ∧ (s'.nodeD m).changedAt = (s.nodeD m).changedAt ∧
      (s'.nodeD m).recomputedAt = (s.nodeD m).recomputedAt ∧ tv g' s' m = tv g s m := by
    intro m hm
    have N := R.other m hm
    have h1 := N.valid; have h2 := N.changedAt; have h3 := N.recomputedAt; have h4 := N.value
    rw [virt_nodeD, virt_nodeD, virtNode_valid, virtNode_valid] at h1
    rw [virt_nodeD, virt_nodeD, virtNode_changedAt, virtNode_changedAt] at h2
    rw [virt_nodeD, virt_nodeD, virtNode_recomputedAt, virtNode_recomputedAt] at h3
    exact ⟨h1, h2, h3, h4⟩
  have hnv' : ((virt g' s').nodeD n).value = some v := R.value
  have hnr' : (s'.nodeD n).recomputedAt = s.stabNum := by
    have := R.recomputedAt; rw [virt_nodeD, virtNode_recomputedAt] at this; exact this
  have hnc' : (s'.nodeD n).changedAt = if ch = true then s.stabNum else (s.nodeD n).changedAt := by
    have := R.changedAt; rw [virt_nodeD, virt_nodeD, virtNode_changedAt, virtNode_changedAt] at this; exact this
  have hnval' : (s'.nodeD n).valid = (s.nodeD n).valid := by
    have := R.shape.valid; rw [virt_nodeD, virt_nodeD, virtNode_valid, virtNode_valid] at this; exact this
  obtain ⟨rk, hrk⟩ := I.graph.acyc
  constructor
  · intro x a b w hv hkx hcx hca hw
    have hkx0 : (s.nodeD x).kind = .map fnFirst [a, b] := by rw [← hk]; exact hkx
    have hcx0 : (s.nodeD x).cutoff = .dependOn a := by rw [← hc]; exact hcx
    have hnm : ∀ p i, (s'.nodeD x).kind ≠ .mapRef p i := not_mapRef_of_map hkx
    have hnm0 : ∀ p i, (s.nodeD x).kind ≠ .mapRef p i := not_mapRef_of_map hkx0
    by_cases hxn : x = n
    · -- the node that ran is the depend_on node
      subst hxn
      have hv0 : (s.nodeD x).valid = true := by rw [← hnval']; exact hv
      have hax : a ≠ x := by
        intro e
        have hch : a ∈ (virt g s).children x := by rw [virt_children, children_depend hv0 hkx0]; simp
        have := hrk x a (Edge.child hch)
        rw [e] at this; omega
      have : (s'.nodeD x).value = some v := by rw [stored_eq_tv (g := g') hnm]; exact hnv'
      rw [this] at hw; cases hw
      rw [(oth a hax).2.2.2]; exact hself a b hkx0 hcx0
    · obtain ⟨xv, xc, -, xt⟩ := oth x hxn
      have hv0 : (s.nodeD x).valid = true := by rw [← xv]; exact hv
      have hw0 : (s.nodeD x).value = some w := by
        rw [stored_eq_tv (g := g) hnm0, ← xt, ← stored_eq_tv (g := g') hnm]; exact hw
      by_cases han : a = n
      · subst han
        cases hch : ch with
        | true =>
          exfalso
          rw [hnc', hch, if_pos rfl, xc] at hca
          have hr := C x hv0 hnm0 (by rw [hw0]; rfl) hca
          have hedge : Below (virt g s) x a := by
            refine Below.step (Edge.child ?_) (Below.refl a)
            rw [virt_children, children_depend hv0 hkx0]; simp
          have := I.fresh x a hedge (Or.inr rfl)
          rw [virt_nodeD, virtNode_recomputedAt] at this
          have e2 : (virt g s).stabNum = s.stabNum := rfl
          rw [e2] at this; omega
        | false =>
          rw [hnc', hch] at hca
          simp only [Bool.false_eq_true, if_false] at hca
          rw [xc] at hca
          have h1 := Dp x a b w hv0 hkx0 hcx0 hca hw0
          obtain ⟨h2, -⟩ := R.unch hch
          have h2' : tv g s a = some v := h2
          rw [h1] at h2'
          cases h2'
          exact hnv'
      · obtain ⟨-, ac, -, at'⟩ := oth a han
        rw [at']
        exact Dp x a b w hv0 hkx0 hcx0 (by rw [← xc, ← ac]; exact hca) hw0
  · intro m hv hnm hval hcm
    rw [hst] at hcm ⊢
    by_cases hmn : m = n
    · subst hmn; exact hnr'
    · obtain ⟨mv, mc, mr, mt⟩ := oth m hmn
      have hnm0 : ∀ p i, (s.nodeD m).kind ≠ .mapRef p i := by intro p i; rw [← hk]; exact hnm p i
      rw [mr]
      refine C m (by rw [← mv]; exact hv) hnm0 ?_ (by rw [← mc]; exact hcm)
      rw [stored_eq_tv (g := g) hnm0, ← mt, ← stored_eq_tv (g := g') hnm]; exact hval

/-- **a run of a change detector** (described by `StepL2` of the virtual states) keeps `DepInv` and `CRl`: surviving old nodes keep what the invariants read, the change
detector is not a `map` node, new nodes have no stored value -/
theorem dep_stepL2 {g g' : Nat → Option Val} {s s' : State} {n b : Nat} {br br' : BindRec} {r : Option Nat}
    (Dp : DepInv g s) (C : CRl s) (I : DInv (VE env sp) (virt g s) (some n))
    (hkn : (s.nodeD n).kind = .bindLhsChange b)
    (R : StepL2 (VE env sp) n b br br' r (virt g s) (virt g' s'))
    (V : VM s s') (nv : NVn n s s') (hn : n < s.nodes.size)
    (hkids : ∀ x c, (s'.nodeD x).valid = true → c ∈ s'.children x → (s'.nodeD c).valid = true ∧ c < s'.nodes.size) :
    DepInv g' s' ∧ CRl s' := by
  have hst : s'.stabNum = s.stabNum := R.stabNum
  -- a valid old node other than `n` kept what the invariants read
  have old : ∀ m, m < s.nodes.size → m ≠ n → (s'.nodeD m).valid = true →
      (s.nodeD m).valid = true ∧ (s'.nodeD m).changedAt = (s.nodeD m).changedAt ∧
        (s'.nodeD m).recomputedAt = (s.nodeD m).recomputedAt ∧ tv g' s' m = tv g s m := by
    intro m hm hmn hv
    rcases R.old m (by rw [virt_size]; exact hm) hmn with ⟨-, hd, -⟩ | ⟨h1, -, -, h4, h5, h6, -⟩
    · rw [virt_nodeD, virtNode_valid, hv] at hd; cases hd
    · rw [virt_nodeD, virt_nodeD, virtNode_valid, virtNode_valid] at h1
      rw [virt_nodeD, virt_nodeD, virtNode_recomputedAt, virtNode_recomputedAt] at h5
      rw [virt_nodeD, virt_nodeD, virtNode_changedAt, virtNode_changedAt] at h6
      exact ⟨by rw [← h1]; exact hv, h6, h5, h4⟩
  have newv : ∀ m, s.nodes.size ≤ m → m < s'.nodes.size → (s'.nodeD m).value = none := fun m h1 h2 => nv.new m (by omega) h1 h2
  have lt_of_kind : ∀ m f args, (s'.nodeD m).kind = .map f args → m < s'.nodes.size := by
    intro m f args h
    by_cases hm : m < s'.nodes.size
    · exact hm
    · rw [nodeD_default_of_ge s' m (by omega)] at h; cases h
  constructor
  · intro x a b0 w hv hkx hcx hca hw
    have hx' := lt_of_kind x _ _ hkx
    have hnm : ∀ p i, (s'.nodeD x).kind ≠ .mapRef p i := not_mapRef_of_map hkx
    by_cases hx : x < s.nodes.size
    · have hxn : x ≠ n := by
        intro e; subst e
        rw [(V.kind x hx).1, hkn] at hkx; cases hkx
      obtain ⟨xv, xc, -, xt⟩ := old x hx hxn hv
      obtain ⟨k1, k2, -⟩ := V.kind x hx
      have hkx0 : (s.nodeD x).kind = .map fnFirst [a, b0] := by rw [← k1]; exact hkx
      have hnm0 : ∀ p i, (s.nodeD x).kind ≠ .mapRef p i := not_mapRef_of_map hkx0
      have hw0 : (s.nodeD x).value = some w := by
        rw [stored_eq_tv (g := g) hnm0, ← xt, ← stored_eq_tv (g := g') hnm]; exact hw
      -- the input is an old valid node too
      have hca' : a ∈ s'.children x := by rw [children_depend hv hkx]; simp
      obtain ⟨av, alt'⟩ := hkids x a hv hca'
      have ha0 : a ∈ (virt g s).children x := by rw [virt_children, children_depend xv hkx0]; simp
      have halt : a < s.nodes.size := by
        have := (I.graph.node x (by rw [virt_size]; exact hx) (by rw [virt_nodeD, virtNode_valid]; exact xv)).2.2 a ha0
        rw [virt_size] at this; exact this.1
      have han : a ≠ n := by
        intro e; subst e
        -- a depend_on node over a change detector: excluded by `lcChild` (only the main node has the change detector as a child)
        have := I.graph.lcChild x a b (by rw [virt_size]; exact hx) (by rw [virt_nodeD, virtNode_valid]; exact xv) ha0
          (by rw [virt_nodeD, virtNode_kind, hkn]; rfl)
        rw [virt_nodeD, virtNode_kind, hkx0] at this
        simp [virtKind] at this
      obtain ⟨-, ac, -, at'⟩ := old a halt han av
      rw [at']
      exact Dp x a b0 w xv hkx0 (by rw [← k2]; exact hcx) (by rw [← xc, ← ac]; exact hca) hw0
    · rw [newv x (by omega) hx'] at hw; cases hw
  · intro m hv hnm hval hcm
    rw [hst] at hcm ⊢
    by_cases hmn : m = n
    · subst hmn
      have := R.self.1
      rw [virt_nodeD, virtNode_recomputedAt] at this
      exact this
    · by_cases hm : m < s.nodes.size
      · obtain ⟨mv, mc, mr, mt⟩ := old m hm hmn hv
        have hnm0 : ∀ p i, (s.nodeD m).kind ≠ .mapRef p i := by intro p i; rw [← (V.kind m hm).1]; exact hnm p i
        rw [mr]
        refine C m mv hnm0 ?_ (by rw [← mc]; exact hcm)
        rw [stored_eq_tv (g := g) hnm0, ← mt, ← stored_eq_tv (g := g') hnm]; exact hval
      · by_cases hm' : m < s'.nodes.size
        · rw [newv m (by omega) hm'] at hval; cases hval
        · rw [nodeD_default_of_ge s' m (by omega)] at hval; cases hval

end
end IncrVerif.Proofs.FullH
