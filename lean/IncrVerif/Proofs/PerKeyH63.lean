import IncrVerif.Proofs.PerKeyH60
import IncrVerif.Proofs.PerKeyH36
/-!
# One `.right` iteration of the per-key loop, part f: the fragment along the shape `RSh`
(`RSh.inst`, `RSh.below_input`, `RSh.newNode`, `RSh.obs`, `RSh.frag`)
-/
namespace IncrVerif.Proofs.PerKeyH
open IncrVerif.Engine IncrVerif.Driver IncrVerif.Proofs IncrVerif.Proofs.Step IncrVerif.Proofs.Sched
open IncrVerif.Proofs.ExpertH IncrVerif.Proofs.EffH IncrVerif.Proofs.DriverH IncrVerif.Proofs.ExpertH.QR IncrVerif.Proofs.Xp

namespace RSh
variable {env : Env} {op : Nat} {key : Int} {lc : Nat} {tm : Template} {D : Nat → Prop} {σ τ : State} {mapped : Nat}

/-! ## (2c) the instance -/

theorem inst (R : RSh env op key lc tm D σ τ mapped) :
    Inst τ tm key σ.nodes.size (List.range' (σ.nodes.size + 1) tm.instrs.length) mapped := by
  refine ⟨List.length_range', fun c hc => ?_, fun j i c hj hc => ?_, by rw [R.top]; exact R.ret⟩
  · have h1 := List.mem_range'_1.1 hc
    have h2 := R.size
    omega
  · have hlt : j < tm.instrs.length := by
      rcases Nat.lt_or_ge j tm.instrs.length with h | h
      · exact h
      · rw [List.getElem?_eq_none h] at hj; cases hj
    rw [List.getElem?_range' hlt] at hc
    cases hc
    rw [R.top, Nat.one_mul, List.take_range'_of_length_ge (Nat.le_of_lt hlt)]
    exact R.kind_i hj

/-! ## (2e) the returned node reaches the per-key input node (when the template uses it); the input node is new -/

theorem below_input (R : RSh env op key lc tm D σ τ mapped) (hT : UsesInput tm) :
    ExpertH.Below τ mapped σ.nodes.size := inst_below hT R.inst

/-- the new per-key input node has never been computed (whether or not the template uses its input) -/
theorem input_new (R : RSh env op key lc tm D σ τ mapped) : ((V τ).nodeD σ.nodes.size).recomputedAt = -1 := by
  refine (V_stamp_iff τ _).2 (Or.inr ?_)
  have := R.pnode
  simp only [nodeKey, Prod.mk.injEq] at this
  exact this.2.2.2.2.2.1

/-! ## the new nodes, classified -/

/-- a new node is the per-key input node or a node of the instance -/
theorem new_cases (R : RSh env op key lc tm D σ τ mapped) {m : Nat} (h1 : σ.nodes.size ≤ m) (h2 : m < τ.nodes.size) :
    ∃ k, nodeKey (τ.nodeD m) = nodeKey ({ kind := k, createdIn := .top } : Node) ∧
      ((m = σ.nodes.size ∧ k = .expert σ.experts.size) ∨
        ∃ j i, m = σ.nodes.size + 1 + j ∧ tm.instrs[j]? = some i ∧
          instrKind σ.top (σ.nodes.size :: List.range' (σ.nodes.size + 1) j) (.int key) i = some k) := by
  by_cases hm : m = σ.nodes.size
  · subst hm
    exact ⟨_, R.pnode, Or.inl ⟨rfl, rfl⟩⟩
  · have hsz := R.size
    have hj : m - (σ.nodes.size + 1) < tm.instrs.length := by omega
    obtain ⟨k, hk1, hk2⟩ := R.inode _ _ (List.getElem?_eq_getElem hj)
    have e : σ.nodes.size + 1 + (m - (σ.nodes.size + 1)) = m := by omega
    rw [e] at hk2
    exact ⟨k, hk2, Or.inr ⟨_, _, e.symm, List.getElem?_eq_getElem hj, hk1⟩⟩

/-- the kind of a new node -/
theorem new_kind (R : RSh env op key lc tm D σ τ mapped) (hT : TemplOK env tm) {m : Nat} (h1 : σ.nodes.size ≤ m)
    (h2 : m < τ.nodes.size) :
    (m = σ.nodes.size ∧ (τ.nodeD m).kind = .expert σ.experts.size) ∨
      (σ.nodes.size < m ∧ PKind env (τ.nodeD m).kind ∧ (∀ c, (τ.nodeD m).kind ≠ .var c) ∧
        (∀ e, (τ.nodeD m).kind ≠ .expert e) ∧ (∀ p j, (τ.nodeD m).kind ≠ .mapRef p j) ∧
        (∀ f args, (τ.nodeD m).kind = .map f args → f < fnZip)) := by
  obtain ⟨k, hk, h | ⟨j, i, hm, hi, hik⟩⟩ := R.new_cases h1 h2
  · simp only [nodeKey, Prod.mk.injEq] at hk
    exact Or.inl ⟨h.1, by rw [hk.1, h.2]⟩
  · simp only [nodeKey, Prod.mk.injEq] at hk
    rw [hk.1]
    exact Or.inr ⟨by omega, instrKind_facts (hT.instr i (List.mem_of_getElem? hi)) hik⟩

/-- the static attributes of a new node -/
theorem new_attr (R : RSh env op key lc tm D σ τ mapped) {m : Nat} (h1 : σ.nodes.size ≤ m) (h2 : m < τ.nodes.size) :
    (τ.nodeD m).valid = true ∧ (τ.nodeD m).cutoff = .eq ∧ (τ.nodeD m).createdIn = .top ∧
      (τ.nodeD m).forceNecessary = false ∧ (τ.nodeD m).observers = [] := by
  obtain ⟨k, hk, -⟩ := R.new_cases h1 h2
  simp only [nodeKey, Prod.mk.injEq] at hk
  obtain ⟨-, k2, k3, -, k5, -, -, k8, k9, -⟩ := hk
  exact ⟨k5, k3, k2, k9, k8⟩

/-- the static attributes of an old node -/
theorem old_attr (R : RSh env op key lc tm D σ τ mapped) {m : Nat} (h : m < σ.nodes.size) :
    (τ.nodeD m).kind = (σ.nodeD m).kind ∧ (τ.nodeD m).valid = (σ.nodeD m).valid ∧
      (τ.nodeD m).cutoff = (σ.nodeD m).cutoff ∧ (τ.nodeD m).createdIn = (σ.nodeD m).createdIn ∧
      (τ.nodeD m).forceNecessary = (σ.nodeD m).forceNecessary ∧ (τ.nodeD m).observers = (σ.nodeD m).observers := by
  have hk := R.lfx.lf.node m h
  simp only [nodeKey, Prod.mk.injEq] at hk
  obtain ⟨k1, k2, k3, -, k5, -, -, k8, k9, -⟩ := hk
  exact ⟨k1, k5, k3, k2, k9, k8⟩

/-! ## (2d) the new nodes -/

theorem newNode (R : RSh env op key lc tm D σ τ mapped) (hT : TemplOK env tm) :
    ∀ m, σ.nodes.size ≤ m → m < τ.nodes.size →
      (τ.nodeD m).observers = [] ∧ (∀ f args, (τ.nodeD m).kind = .map f args → f < fnZip) ∧
      (∀ e, (τ.nodeD m).kind = .expert e → m = σ.nodes.size ∧ e = σ.experts.size) := by
  intro m h1 h2
  refine ⟨(R.new_attr h1 h2).2.2.2.2, ?_, ?_⟩
  · rcases R.new_kind hT h1 h2 with ⟨-, hk⟩ | ⟨-, -, -, -, -, hf⟩
    · intro f args h; rw [hk] at h; cases h
    · exact hf
  · rcases R.new_kind hT h1 h2 with ⟨hm, hk⟩ | ⟨-, -, -, hx, -⟩
    · intro e h; rw [hk] at h; cases h; exact ⟨hm, rfl⟩
    · intro e h; exact absurd h (hx e)

/-! ## (2b) the observers -/

theorem eKey_facts (R : RSh env op key lc tm D σ τ mapped) :
    τ.observers = σ.observers ∧ τ.panicCountdown = σ.panicCountdown ∧ τ.currentScope = σ.currentScope := by
  have := R.lfx.lf.key
  simp only [eKey, Prod.mk.injEq] at this
  exact ⟨this.2.2.2.2.2.2.1, this.2.2.2.2.2.2.2.2.2.2.2.2.2.2.2.2.2, this.2.2.2.2.2.1⟩

theorem obs (R : RSh env op key lc tm D σ τ mapped) (O : ObsListed σ) : ObsListed τ := by
  intro m o ho
  by_cases h1 : m < σ.nodes.size
  · rw [(R.old_attr h1).2.2.2.2.2] at ho
    rw [R.eKey_facts.1]
    exact O m o ho
  · by_cases h2 : m < τ.nodes.size
    · rw [(R.new_attr (by omega) h2).2.2.2.2] at ho; cases ho
    · rw [nodeD_default_of_ge τ m (by omega)] at ho; cases ho

/-! ## (2a) the fragment -/

/-- the records of `τ` -/
theorem rec_cases (R : RSh env op key lc tm D σ τ mapped) {e : Nat} {er' : ExpertRec} (h : τ.experts[e]? = some er') :
    (∃ er, σ.experts[e]? = some er ∧ er'.f = er.f ∧ er'.node = er.node ∧ er'.pk = er.pk ∧
        er'.numInvalidChildren = er.numInvalidChildren) ∨
      (e = σ.experts.size ∧ er'.f = 0 ∧ er'.node = σ.nodes.size ∧ er'.pk = some (op, some key)) := by
  by_cases he : e < σ.experts.size
  · obtain ⟨er2, h2, a1, a2, a3, -, -, a6, -⟩ := R.lfx.lf.xrec e _ (Array.getElem?_eq_getElem he)
    rw [h] at h2; cases h2
    exact Or.inl ⟨_, Array.getElem?_eq_getElem he, a1, a2, a3, a6⟩
  · have hlt := (Array.getElem?_eq_some_iff.1 h).1
    have hx := R.xsize
    have : e = σ.experts.size := by omega
    subst this
    obtain ⟨erX, h2, b1, b2, b3, -⟩ := R.xnew
    rw [h] at h2; cases h2
    exact Or.inr ⟨rfl, b1, b2, b3⟩

theorem frag (R : RSh env op key lc tm D σ τ mapped) (hT : TemplOK env tm) (F : PFrag env σ) : PFrag env τ where
  pc := by rw [R.eKey_facts.2.1]; exact F.pc
  kind n hn := by
    by_cases h1 : n < σ.nodes.size
    · rw [(R.old_attr h1).1]; exact F.kind n h1
    · rcases R.new_kind hT (Nat.le_of_not_lt h1) hn with ⟨-, hk⟩ | ⟨-, hk, -⟩
      · rw [hk]; trivial
      · exact hk
  valid n hn := by
    by_cases h1 : n < σ.nodes.size
    · rw [(R.old_attr h1).2.1]; exact F.valid n h1
    · exact (R.new_attr (Nat.le_of_not_lt h1) hn).1
  cutoff n hn := by
    by_cases h1 : n < σ.nodes.size
    · rw [(R.old_attr h1).2.2.1]; exact F.cutoff n h1
    · exact (R.new_attr (Nat.le_of_not_lt h1) hn).2.1
  top n hn := by
    by_cases h1 : n < σ.nodes.size
    · rw [(R.old_attr h1).2.2.2.1]; exact F.top n h1
    · exact (R.new_attr (Nat.le_of_not_lt h1) hn).2.2.1
  force n hn := by
    by_cases h1 : n < σ.nodes.size
    · rw [(R.old_attr h1).2.2.2.2.1]; exact F.force n h1
    · exact (R.new_attr (Nat.le_of_not_lt h1) hn).2.2.2.1
  xrec n e hn hk := by
    by_cases h1 : n < σ.nodes.size
    · rw [(R.old_attr h1).1] at hk
      obtain ⟨er, k1, k2⟩ := F.xrec n e h1 hk
      obtain ⟨er', k3, -, k4, -⟩ := R.lfx.lf.xrec e er k1
      exact ⟨er', k3, k4.trans k2⟩
    · rcases R.new_kind hT (Nat.le_of_not_lt h1) hn with ⟨hm, hk'⟩ | ⟨-, -, -, hx, -⟩
      · rw [hk'] at hk; cases hk
        obtain ⟨erX, k1, -, k2, -⟩ := R.xnew
        exact ⟨erX, k1, k2.trans hm.symm⟩
      · exact absurd hk (hx e)
  xnode e er' he := by
    have hsz := R.size
    rcases R.rec_cases he with ⟨er, k1, -, k2, -⟩ | ⟨k1, -, k2, -⟩
    · obtain ⟨k3, k4⟩ := F.xnode e er k1
      rw [k2, (R.old_attr k3).1]
      exact ⟨by omega, k4⟩
    · rw [k2, k1]
      exact ⟨by omega, R.kind_p⟩
  xok e er' he := by
    rcases R.rec_cases he with ⟨er, k1, k2, -, k3, k4⟩ | ⟨-, k2, -, k3⟩
    · rw [k2, k3, k4]; exact F.xok e er k1
    · rw [k2, k3]
      exact ⟨rfl, (R.mid.frag.xok e (twRec er') (tw_rec_get he)).2.1, rfl⟩
  scope := by rw [R.eKey_facts.2.2]; exact F.scope

end RSh

end IncrVerif.Proofs.PerKeyH
