import IncrVerif.Proofs.FaultH16
import IncrVerif.Proofs.Drain
/-!
# Faults in whole histories, part 9: `T` is the number of `map` nodes with a user function and of `fold` nodes the fault-free
drain runs

`invokes k`: does the recomputation of a node of kind `k` invoke a user closure (`tick`)?  In the static fragment: a `map`
with a user function (`f < fnZip`) and every `fold`; not `var`, `const`, the built-in `zip`.  The fault-free drain logs
exactly one entry per invoking node it runs (`ticksOf`, counted along `TidyH.drainSteps`: the nodes of `Sched.drainTrace`
with the state each runs in).
-/
namespace IncrVerif.Proofs.FaultH
open IncrVerif.Engine IncrVerif.Proofs IncrVerif.Proofs.Step IncrVerif.Proofs.Sched

variable {env : Env}

/-- does recomputing a node of this kind invoke a user closure? -/
def invokes : Kind → Bool
  | .map f _ => decide (f < fnZip)
  | .fold _ _ _ => true
  | _ => false

/-- the number of invocations of one recomputation of node `n` in `s` -/
def tk (s : State) (n : Nat) : Nat := if invokes (s.nodeD n).kind then 1 else 0

namespace P9

theorem fr_started {s : State} (h : Fr env s) (n : Nat) : Fr env (started n s) := by
  have h1 : Fr env ({ s with nodes := s.nodes.modify n fun x => { x with recomputedAt := s.stabNum } } : State) :=
    fr_modify h n _ (fun _ => ⟨rfl, rfl, rfl⟩)
  exact h1.of_nodes rfl rfl

theorem fr_logged {s : State} (h : Fr env s) (es : List Event) : Fr env (logged es s) := h.of_nodes rfl rfl

/-- `maybe_change_value` logs nothing in the fragment -/
theorem mcv_log {fuel n : Nat} {v : Val} {s s' : State} {r : Except Panic (Option Nat)} (h : Fr env s)
    (hr : (maybeChangeValue env fuel n v).run.run s = (r, s')) : s'.log = s.log :=
  (Comm.maybeChangeValue env fuel n v none s h r s' hr).2.2

theorem kids_none_map (fuel n : Nat) (s : State) (nd : Node) (f : Nat) (args : List Nat)
    (hn : s.nodes[n]? = some nd) (hv : nd.valid = true) (hk : nd.kind = .map f args)
    (hvals : valuesOf env s args = none) :
    ((recomputeOne env fuel n).run.run s).1 = .error (.site "node:recompute_one:child-value") := by
  have hk? : ({ nd with recomputedAt := s.stabNum } : Node).kind? = some (.map f args) := by
    simp [Node.kind?, hv, hk]
  have hvals' : valuesOf env (started n s) args = none := by
    rw [valuesOf_congr env s (started n s) args (fun a _ => started_value env n s a)]; exact hvals
  have hn' := started_getElem? n s nd hn
  unfold recomputeOne
  simp only [run_bind_get]
  cases hd : s.cfg.debug
  all_goals
    simp only [started, hd, Bool.false_eq_true, if_false, if_true, run_bind_modify,
      run_bind_bumpCounter, run_bind_get, run_bind_modNode] at hn' hvals' ⊢
    rw [run_bind_ok (run_getNode_some hn'), hk?]
    dsimp only
    rw [run_bind_of (run_mapM_valueUnwrap env _ _ args), hvals']

theorem kids_none_fold (fuel n : Nat) (s : State) (nd : Node) (f : Nat) (init : Val) (cs : List Nat)
    (hn : s.nodes[n]? = some nd) (hv : nd.valid = true) (hk : nd.kind = .fold f init cs)
    (hvals : valuesOf env s cs = none) :
    ((recomputeOne env fuel n).run.run s).1 = .error (.site "node:recompute_one:child-value") := by
  have hk? : ({ nd with recomputedAt := s.stabNum } : Node).kind? = some (.fold f init cs) := by
    simp [Node.kind?, hv, hk]
  have hvals' : valuesOf env (started n s) cs = none := by
    rw [valuesOf_congr env s (started n s) cs (fun a _ => started_value env n s a)]; exact hvals
  have hn' := started_getElem? n s nd hn
  unfold recomputeOne
  simp only [run_bind_get]
  cases hd : s.cfg.debug
  all_goals
    simp only [started, hd, Bool.false_eq_true, if_false, if_true, run_bind_modify,
      run_bind_bumpCounter, run_bind_get, run_bind_modNode] at hn' hvals' ⊢
    rw [run_bind_ok (run_getNode_some hn'), hk?]
    dsimp only
    rw [run_bind_of (run_mapM_valueUnwrap env _ _ cs), hvals']

theorem var_none (fuel n : Nat) (s : State) (nd : Node) (c : Nat)
    (hn : s.nodes[n]? = some nd) (hv : nd.valid = true) (hk : nd.kind = .var c) (hc : s.vars[c]? = none) :
    ((recomputeOne env fuel n).run.run s).1 = .error (.site "model:no-such-var") := by
  have hk? : ({ nd with recomputedAt := s.stabNum } : Node).kind? = some (.var c) := by
    simp [Node.kind?, hv, hk]
  have hn' := started_getElem? n s nd hn
  unfold recomputeOne
  simp only [run_bind_get]
  cases hd : s.cfg.debug
  all_goals
    simp only [started, hd, Bool.false_eq_true, if_false, if_true, run_bind_modify,
      run_bind_bumpCounter, run_bind_get, run_bind_modNode] at hn' ⊢
    rw [run_bind_ok (run_getNode_some hn'), hk?]
    dsimp only
    simp only [getVar, bind_assoc, run_bind_get, hc]
    rfl

end P9

/-- **one recomputation that returns logs exactly one entry if it invokes a closure, none otherwise** -/
theorem recomputeOne_log_len {fuel n : Nat} {s s' : State} {r : Option Nat} (hfr : Fr env s)
    (hp : s.panicCountdown = none) (h : (recomputeOne env fuel n).run.run s = (.ok r, s')) :
    s'.log.length = s.log.length + tk s n := by
  cases hnd : s.nodes[n]? with
  | none => rw [recomputeOne_missing_run env fuel n s hnd] at h; cases h
  | some nd =>
    have hD : s.nodeD n = nd := nodeD_of_some hnd
    have hv : nd.valid = true := (hfr.some hnd).2.2.1
    have hk : StaticKind env nd.kind := hfr.someK hnd
    have hfs := P9.fr_started hfr n
    unfold tk
    rw [hD]
    cases hkd : nd.kind with
    | const w =>
      rw [recomputeOne_const_run env fuel n s nd w hnd hv hkd] at h
      rw [P9.mcv_log hfs h]; rfl
    | var c =>
      cases hc : s.vars[c]? with
      | none =>
        have := P9.var_none (env := env) fuel n s nd c hnd hv hkd hc
        rw [h] at this; cases this
      | some vc =>
        rw [recomputeOne_var_run env fuel n s nd c vc hnd hv hkd hc] at h
        rw [P9.mcv_log hfs h]; rfl
    | map f args =>
      rw [hkd] at hk
      cases hvals : valuesOf env s args with
      | none =>
        have := P9.kids_none_map (env := env) fuel n s nd f args hnd hv hkd hvals
        rw [h] at this; cases this
      | some vals =>
        by_cases hf : f < fnZip
        · rw [recomputeOne_map_run env fuel n s nd f args vals hnd hv hkd hf hvals (hk.2 hf vals) hp] at h
          rw [P9.mcv_log (P9.fr_logged hfs _) h]
          simp [invokes, hf, logged, started]
        · rw [recomputeOne_mapBuiltin_run env fuel n s nd f args vals hnd hv hkd hf hk.1 hvals] at h
          rw [P9.mcv_log hfs h]
          simp [invokes, hf, started]
    | fold f init cs =>
      cases hvals : valuesOf env s cs with
      | none =>
        have := P9.kids_none_fold (env := env) fuel n s nd f init cs hnd hv hkd hvals
        rw [h] at this; cases this
      | some vals =>
        rw [recomputeOne_fold_run env fuel n s nd f init cs vals hnd hv hkd hvals hp] at h
        rw [P9.mcv_log (P9.fr_logged hfs _) h]
        simp [invokes, logged, started]
    | mapRef _ _ => rw [hkd] at hk; exact hk.elim
    | mapWithOld _ _ => rw [hkd] at hk; exact hk.elim
    | bindLhsChange _ => rw [hkd] at hk; exact hk.elim
    | bindMain _ _ => rw [hkd] at hk; exact hk.elim
    | expert _ => rw [hkd] at hk; exact hk.elim

/-- the invocations of the nodes a drain runs, each counted in the state it runs in -/
def ticksOf (l : List (Nat × State)) : Nat := (l.map fun p => tk p.2 p.1).sum

theorem ticksOf_append (a b : List (Nat × State)) : ticksOf (a ++ b) = ticksOf a + ticksOf b := by
  simp [ticksOf, List.map_append, List.sum_append]

/-- one step of the drain keeps the frame and the unarmed countdown and logs what `tk` counts -/
theorem log_len_one (fuel n : Nat) (s : State) (r : Option Nat) (s' : State) (i : Fr env s ∧ s.panicCountdown = none)
    (h : (recomputeOne env fuel n).run.run s = (.ok r, s')) :
    (Fr env s' ∧ s'.panicCountdown = none) ∧ s'.log.length = s.log.length + ticksOf [(n, s)] := by
  obtain ⟨fr1, pc1, -⟩ := Lock.recomputeOne (env := env) fuel n s i.1 i.2 _ _ h
  exact ⟨⟨fr1, pc1⟩, by rw [recomputeOne_log_len i.1 i.2 h]; simp [ticksOf]⟩

theorem log_len_trans {l₁ l₂ : List (Nat × State)} {a b c : State} (h1 : b.log.length = a.log.length + ticksOf l₁)
    (h2 : c.log.length = b.log.length + ticksOf l₂) : c.log.length = a.log.length + ticksOf (l₁ ++ l₂) := by
  rw [ticksOf_append, h2, h1]; omega

theorem drainHeap_log_len (fuel : Nat) (s s' : State) (hfr : Fr env s) (hp : s.panicCountdown = none)
    (h : (drainHeap env fuel).run.run s = (.ok (), s')) :
    s'.log.length = s.log.length + ticksOf (TidyH.drainSteps env fuel s) := by
  have pop : ∀ (t : State) (r : Option Nat) (t1 : State), Fr env t ∧ t.panicCountdown = none →
      rchRemoveMin.run.run t = (.ok r, t1) → (Fr env t1 ∧ t1.panicCountdown = none) ∧ t1.log.length = t.log.length := by
    intro t r t1 i h1
    obtain ⟨e1, fr1, l1⟩ := Comm.rchRemoveMin (env := env) none t i.1 _ _ h1
    rw [setCd_self i.2, h1] at e1
    exact ⟨⟨fr1, congrArg (fun p => p.2.panicCountdown) e1⟩, by rw [l1]⟩
  obtain ⟨s1, i, l, h1, -⟩ := Drain.drainHeap_run (I := fun _ t => Fr env t ∧ t.panicCountdown = none)
    (T := fun l a b => b.log.length = a.log.length + ticksOf l) log_len_trans log_len_one
    (fun t n t1 i h1 => ⟨(pop t _ t1 i h1).1, by rw [(pop t _ t1 i h1).2]; simp [ticksOf]⟩)
    (fun t _ => by simp [ticksOf]) fuel s s' ⟨hfr, hp⟩ h
  rw [(pop s1 _ s' i h1).2, l]

end IncrVerif.Proofs.FaultH
