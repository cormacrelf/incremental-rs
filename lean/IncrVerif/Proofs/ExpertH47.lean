import IncrVerif.Proofs.ExpertH46
import IncrVerif.Proofs.ExpertH35
/-!
# Expert nodes, `add_dependency` on a NECESSARY node: the run, phase by phase
-/
namespace IncrVerif.Proofs.ExpertH
open IncrVerif.Engine IncrVerif.Driver IncrVerif.Proofs IncrVerif.Proofs.Step IncrVerif.Proofs.Sched
open IncrVerif.Proofs.ExpertH.QR IncrVerif.Proofs.Xp

theorem inserted_inRch {n : Nat} {h : Int} {s : State} (hn : n < s.nodes.size) (h0 : 0 ≤ h) :
    ((inserted n h s).nodeD n).inRch = true := by
  rw [inserted_nodeD, if_pos ⟨rfl, hn⟩]
  simp only [Node.inRch]
  exact decide_eq_true h0

/-- the end of the call: after `propagate_invalidity` (nothing to do) the node is inserted into the recompute heap
exactly once, unless it is there already -/
theorem finish_phase {fuel n c dep0 dep : Nat} {s4 s5 s' : State}
    (hjp : (do propagateInvalidity fuel
               dassert ((← get).isNecessary n) "node:state_add_parent:parent-necessary"
               let p ← getNode n
               let c ← getNode c
               if !p.inRch && (p.recomputedAt == -1 || c.changedAt > p.recomputedAt) then
                 rchInsert n : M Unit).run.run s4 = (.ok (), s5))
    (htail : (do dassert ((← get).needsToBeComputed n) "node:expert_add_dependency:needs-to-be-computed"
                 if !(← getNode n).inRch then rchInsert n
                 pure dep0 : M Nat).run.run s5 = (.ok dep, s'))
    (hp : s4.propagateInvalidity = []) :
    dep = dep0 ∧ (((s4.nodeD n).inRch = true ∧ s' = s4) ∨
      ((s4.nodeD n).inRch = false ∧ (rchInsert n).run.run s4 = (.ok (), s'))) := by
  obtain ⟨_, s4', hpi, hjp⟩ := bind_ok_inv hjp
  have e4 : s4' = s4 := propagateInvalidity_nil hp hpi
  rw [e4] at hjp
  clear hpi e4 s4'
  rw [run_bind_get] at hjp
  replace hjp := bind_dassert_inv hjp
  obtain ⟨p, hpn, hjp⟩ := bind_getNode_inv hjp
  obtain ⟨cn, hcn, hjp⟩ := bind_getNode_inv hjp
  have hD : s4.nodeD n = p := nodeD_of_some hpn
  rw [run_bind_get] at htail
  replace htail := bind_dassert_inv htail
  obtain ⟨p2, hp2, htail⟩ := bind_getNode_inv htail
  have hD2 : s5.nodeD n = p2 := nodeD_of_some hp2
  dsimp only at htail
  by_cases hq : p.inRch = true
  · -- already queued: both tests fail
    have e5 : s5 = s4 := by
      simp only [hq, Bool.not_true, Bool.false_and, Bool.false_eq_true, if_false] at hjp
      exact ((pure_ok_inv hjp).2)
    subst e5
    rw [hpn] at hp2; cases hp2
    simp only [hq, Bool.not_true, Bool.false_eq_true, if_false] at htail
    obtain ⟨rfl, rfl⟩ := pure_ok_inv htail
    exact ⟨rfl, Or.inl ⟨by rw [hD]; exact hq, rfl⟩⟩
  · have hq' : p.inRch = false := by cases h : p.inRch <;> simp_all
    refine ⟨?_, Or.inr ⟨by rw [hD]; exact hq', ?_⟩⟩
    · split at htail
      · obtain ⟨_, s6, _, htail⟩ := bind_ok_inv htail
        exact (pure_ok_inv htail).1
      · exact (pure_ok_inv htail).1
    · split at hjp
      · -- inserted by `state_add_parent`
        obtain ⟨nd, hnd, h0, -, e⟩ := rchInsert_ok_inv hjp
        have hlt : n < s4.nodes.size := lt_of_some hnd
        have : p2.inRch = true := by rw [← hD2, e]; exact inserted_inRch hlt h0
        simp only [this, Bool.not_true, Bool.false_eq_true, if_false] at htail
        obtain ⟨-, rfl⟩ := pure_ok_inv htail
        exact hjp
      · -- inserted by `expert_add_dependency`
        obtain ⟨-, rfl⟩ := pure_ok_inv hjp
        rw [hpn] at hp2; cases hp2
        simp only [hq', Bool.not_false, if_true] at htail
        obtain ⟨_, s6, h6, htail⟩ := bind_ok_inv htail
        obtain ⟨-, rfl⟩ := pure_ok_inv htail
        exact h6

end IncrVerif.Proofs.ExpertH
