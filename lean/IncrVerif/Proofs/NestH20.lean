import IncrVerif.Proofs.NestH19
import IncrVerif.Proofs.BindH65
/-!
# Nested binds (F2), the closure run, part 1: rank extension, bind tables that grow, `GInv2` through growth

* `NN.rkNew rk main m`: the rank after creating node `m` in the scope of the bind whose main node is `main` (old nodes doubled, the new node just below `main`).
* `NN.BFwd s s'`: every record of `s` is a record of `s'` up to the list of registered nodes (records may be appended).
* `NN.Grow2 s s'`: `s'` has the nodes of `s` plus pristine ones.  `Grow2.ginv2`: the dynamic part of `GInv2` (all nodes closed) through growth, given the
  static part `All2` of the new state (as `CN.Grow1.ginv1`, BindH62, for fragment F1).
-/
namespace IncrVerif.Proofs.NestH
open IncrVerif.Engine IncrVerif.Proofs IncrVerif.Proofs.Step IncrVerif.Proofs.Sched IncrVerif.Proofs.Quiet
open IncrVerif.Proofs.BindH

theorem RkExt.refl (rk : Nat → Nat) (N : Nat) : RkExt rk rk N := fun _ _ _ _ => Iff.rfl

/-- rank extensions compose -/
theorem RkExt.trans {rk rk' rk'' : Nat → Nat} {N N' : Nat} (h1 : RkExt rk rk' N) (h2 : RkExt rk' rk'' N')
    (hN : N ≤ N') : RkExt rk rk'' N :=
  fun a c ha hc => (h2 a c (by omega) (by omega)).trans (h1 a c ha hc)

theorem RkExt.mono {rk rk' : Nat → Nat} {N N' : Nat} (h : RkExt rk rk' N') (hN : N ≤ N') : RkExt rk rk' N :=
  fun a c ha hc => h a c (by omega) (by omega)

namespace NN

/-- the rank after the creation of node `m` in the scope of the bind with main node `main` -/
def rkNew (rk : Nat → Nat) (main m : Nat) : Nat → Nat := fun x => if x = m then 2 * rk main - 1 else 2 * rk x

theorem rkNew_new (rk : Nat → Nat) (main m : Nat) : rkNew rk main m m = 2 * rk main - 1 := by
  simp only [rkNew, if_true]

theorem rkNew_old (rk : Nat → Nat) (main m : Nat) {x : Nat} (h : x ≠ m) : rkNew rk main m x = 2 * rk x := by
  simp only [rkNew, if_neg h]

theorem rkNew_ext (rk : Nat → Nat) (main : Nat) {m N : Nat} (h : N ≤ m) : RkExt rk (rkNew rk main m) N := by
  intro a c ha hc
  rw [rkNew_old rk main m (by omega), rkNew_old rk main m (by omega)]
  omega

/-- the bind tables: every record of `s` is in `s'`, up to its list of registered nodes -/
def BFwd (s s' : State) : Prop :=
  ∀ (b : Nat) (br : BindRec), s.binds[b]? = some br → ∃ l, s'.binds[b]? = some { br with allNodesCreatedOnRhs := l }

theorem BFwd.of_bsame {s s' : State} (h : CN.BSame s s') : BFwd s s' := fun _ _ hb => h.fwd hb

/-- the record in the new table of an old index: all fields but the list are those of the old record -/
theorem BFwd.bwd {s s' : State} (h : BFwd s s') {b : Nat} {br br' : BindRec} (hb : s.binds[b]? = some br)
    (hb' : s'.binds[b]? = some br') :
    br'.lhs = br.lhs ∧ br'.body = br.body ∧ br'.lhsChange = br.lhsChange ∧ br'.main = br.main ∧ br'.rhs = br.rhs := by
  obtain ⟨l, h1⟩ := h b br hb
  rw [hb'] at h1
  cases h1
  exact ⟨rfl, rfl, rfl, rfl, rfl⟩

/-- the child list of a node of the bind fragment does not read the lists of registered nodes -/
theorem children_congr_F {env : Env} {s s' : State} {n : Nat} (hn : s'.nodeD n = s.nodeD n) (hb : BFwd s s')
    (hB : BKind env (s.nodeD n).kind)
    (hlc : ∀ b, (s.nodeD n).kind = .bindLhsChange b → ∃ br, s.binds[b]? = some br)
    (hmain : ∀ b lc, (s.nodeD n).kind = .bindMain b lc → ∃ br, s.binds[b]? = some br) :
    s'.children n = s.children n := by
  unfold State.children Node.kind?
  rw [hn]
  cases hvv : (s.nodeD n).valid
  · rfl
  · cases h : (s.nodeD n).kind with
    | bindLhsChange b =>
      simp only [if_true]
      obtain ⟨br, h1⟩ := hlc b h
      obtain ⟨l, h2⟩ := hb b br h1
      simp only [h1, h2]
    | bindMain b lc =>
      simp only [if_true]
      obtain ⟨br, h1⟩ := hmain b lc h
      obtain ⟨l, h2⟩ := hb b br h1
      simp only [h1, h2]
    | _ => rw [h] at hB; first | rfl | exact False.elim hB

/-- `s'` has the nodes of `s` plus pristine ones; the records of `s` are kept up to the lists of registered nodes -/
structure Grow2 (s s' : State) : Prop where
  size : s.nodes.size ≤ s'.nodes.size
  old : ∀ m, m < s.nodes.size → s'.nodeD m = s.nodeD m
  new : ∀ m, s.nodes.size ≤ m → m < s'.nodes.size →
    (s'.nodeD m).valid = true ∧ (s'.nodeD m).parents = [] ∧ (s'.nodeD m).observers = [] ∧
      (s'.nodeD m).forceNecessary = false ∧ (s'.nodeD m).heightInRch = -1 ∧ (s'.nodeD m).heightInAhh = -1
  binds : BFwd s s'
  vars : s'.vars = s.vars
  rch : s'.rch = s.rch
  ahh : s'.ahh = s.ahh

namespace Grow2
variable {env : Env} {rk rk' : Nat → Nat} {s s' : State} {ex : Nat → Prop} {dy dy' : List Nat}

/-- a node outside `s`: pristine in `s'` -/
theorem fresh (G : Grow2 s s') {m : Nat} (hm : s.nodes.size ≤ m) :
    (s'.nodeD m).valid = true ∧ (s'.nodeD m).parents = [] ∧ (s'.nodeD m).observers = [] ∧
      (s'.nodeD m).forceNecessary = false ∧ (s'.nodeD m).heightInRch = -1 ∧ (s'.nodeD m).heightInAhh = -1 := by
  by_cases h : m < s'.nodes.size
  · exact G.new m hm h
  · rw [nodeD_default s' m (by omega)]
    exact ⟨rfl, rfl, rfl, rfl, rfl, rfl⟩

theorem nec_new (G : Grow2 s s') {m : Nat} (hm : s.nodes.size ≤ m) : s'.isNecessary m = false := by
  obtain ⟨-, h1, h2, h3, -⟩ := G.fresh hm
  simp only [State.isNecessary, Node.isNecessary, h1, h2, h3]
  rfl

theorem nec_old (G : Grow2 s s') {m : Nat} (hm : m < s.nodes.size) : s'.isNecessary m = s.isNecessary m := by
  rw [State.isNecessary, State.isNecessary, G.old m hm]

theorem lt_of_nec (G : Grow2 s s') {m : Nat} (h : s'.isNecessary m = true) : m < s.nodes.size := by
  rcases Nat.lt_or_ge m s.nodes.size with h1 | h1
  · exact h1
  · rw [G.nec_new h1] at h; cases h

theorem lt_of_par (G : Grow2 s s') {m : Nat} {x : Nat × Nat} (h : x ∈ (s'.nodeD m).parents) : m < s.nodes.size := by
  rcases Nat.lt_or_ge m s.nodes.size with h1 | h1
  · exact h1
  · rw [(G.fresh h1).2.1] at h; cases h

theorem lt_of_inRch (G : Grow2 s s') {m : Nat} (h : (s'.nodeD m).inRch = true) : m < s.nodes.size := by
  rcases Nat.lt_or_ge m s.nodes.size with h1 | h1
  · exact h1
  · unfold Node.inRch at h
    rw [(G.fresh h1).2.2.2.2.1] at h
    simp at h

theorem children_old (G : Grow2 s s') (A : All2 env rk s dy) {m : Nat} (hm : m < s.nodes.size) :
    s'.children m = s.children m :=
  children_congr_F (G.old m hm) G.binds (A.node m hm).kind
    (fun b h => by obtain ⟨br, h1, -⟩ := (A.node m hm).lcRec b h; exact ⟨br, h1⟩)
    (fun b lc h => by obtain ⟨br, h1, -⟩ := (A.node m hm).mainRec b lc h; exact ⟨br, h1⟩)

theorem isStale_old (G : Grow2 s s') (A : All2 env rk s dy) {m : Nat} (hm : m < s.nodes.size) :
    s'.isStale m = s.isStale m :=
  CN.isStale_congr_C (A.node m hm).kind (G.old m hm) (G.children_old A hm) G.vars
    (fun c hc => by rw [G.old c ((A.node m hm).kidsIn c hc)])

theorem heapWF (G : Grow2 s s') (h : HeapWF s) : HeapWF s' := by
  rw [← HWF_release_iff] at h ⊢
  unfold HWF at *
  have e : markerOf s'.nodes = markerOf s.nodes := by
    funext m
    show (s'.nodeD m).heightInRch = (s.nodeD m).heightInRch
    rcases Nat.lt_or_ge m s.nodes.size with h1 | h1
    · rw [G.old m h1]
    · rw [(G.fresh h1).2.2.2.2.1, nodeD_default s m h1]; rfl
  rw [G.rch, e]; exact ⟨h.1, by simp⟩

theorem ahhEmpty (G : Grow2 s s') (h : AhhEmpty s) : AhhEmpty s' := by
  refine ⟨by rw [G.ahh]; exact h.length, ?_, ?_⟩
  · rw [G.ahh]; exact h.buckets
  · intro m
    rcases Nat.lt_or_ge m s.nodes.size with h1 | h1
    · rw [G.old m h1]; exact h.marks m
    · exact (G.fresh h1).2.2.2.2.2

/-- **`GInv2` through growth**: the dynamic part, given the static part of the new state (with its rank) -/
theorem ginv2 (G : Grow2 s s') (I : GInv2 env rk s allClosed ex dy) (A' : All2 env rk' s' dy') :
    GInv2 env rk' s' allClosed ex dy' := by
  have A := I.frag
  have wants_old : ∀ {p i}, p < s.nodes.size → (Wants s' allClosed p i ↔ Wants s allClosed p i) := by
    intro p i hp
    rw [wants_closed rfl, wants_closed rfl, G.nec_old hp]
  refine
    { frag := A'
      par := ?_, conv := ?_, nodup := ?_, hlt := ?_, hpos := ?_
      lnec := fun p k ho => by cases ho
      unec := fun p k ho => by cases ho
      heap := ⟨G.heapWF I.heap.wf, ?_, by rw [G.rch]; exact I.heap.lb0⟩
      hgt := ?_, qnec := ?_, queued := ?_, qstale := ?_
      opLt := fun m ho => absurd rfl ho
      scopeH := ?_, inv := ?_, scopeObs := ?_, lcObs := ?_ }
  · intro c p i h
    have hc := G.lt_of_par h
    rw [G.old c hc] at h
    obtain ⟨h1, h2⟩ := I.par c p i h
    have hp := children_lt_size h1
    rw [G.children_old A hp, wants_old hp]
    exact ⟨h1, h2⟩
  · intro p i c hk hw
    have hp : p < s.nodes.size := G.lt_of_nec ((wants_closed rfl).1 hw)
    rw [G.children_old A hp] at hk
    rw [wants_old hp] at hw
    have hm := I.conv p i c hk hw
    rw [G.old c (mem_parents_lt_size hm)]; exact hm
  · intro c
    rcases Nat.lt_or_ge c s.nodes.size with h1 | h1
    · rw [G.old c h1]; exact I.nodup c
    · rw [(G.fresh h1).2.1]; exact List.nodup_nil
  · intro c p i h ho
    have hc := G.lt_of_par h
    rw [G.old c hc] at h
    have hp := children_lt_size (I.par c p i h).1
    rw [G.old c hc, G.old p hp]
    exact I.hlt c p i h ho
  · intro n hn ho
    have e := G.lt_of_nec hn
    rw [G.nec_old e] at hn
    rw [G.old n e]; exact I.hpos n hn ho
  · intro m hq
    have hlt := G.lt_of_inRch hq
    rw [G.old m hlt] at hq
    rw [G.rch, G.old m hlt]; exact I.heap.lb m hq
  · intro m hq ho
    have hlt := G.lt_of_inRch hq
    rw [G.old m hlt] at hq ⊢
    exact I.hgt m hq ho
  · intro m hq
    have hlt := G.lt_of_inRch hq
    rw [G.old m hlt] at hq
    rw [G.nec_old hlt]; exact I.qnec m hq
  · intro m ho hn hs hx
    have hlt := G.lt_of_nec hn
    rw [G.nec_old hlt] at hn
    rw [G.isStale_old A hlt] at hs
    rw [G.old m hlt]; exact I.queued m ho hn hs hx
  · intro m hq
    have hlt := G.lt_of_inRch hq
    rw [G.old m hlt] at hq
    rw [G.isStale_old A hlt]; exact I.qstale m hq
  · intro n b br' hv hsc hb hn ho
    have hlt := G.lt_of_nec hn
    rw [G.nec_old hlt] at hn
    rw [G.old n hlt] at hv hsc ⊢
    obtain ⟨br, hb0, -⟩ := A.scope_bind hlt hsc
    obtain ⟨-, -, hl, -, -⟩ := G.binds.bwd hb0 hb
    rw [hl, G.old br.lhsChange (A.lc_lt hb0)]
    exact I.scopeH n b br hv hsc hb0 hn ho
  · intro m hv
    rcases Nat.lt_or_ge m s.nodes.size with h1 | h1
    · rw [G.old m h1] at hv ⊢
      exact I.inv m hv
    · rw [(G.fresh h1).1] at hv; cases hv
  · intro m b h
    rcases Nat.lt_or_ge m s.nodes.size with h1 | h1
    · rw [G.old m h1] at h ⊢
      exact I.scopeObs m b h
    · exact (G.fresh h1).2.2.1
  · intro m b h
    rcases Nat.lt_or_ge m s.nodes.size with h1 | h1
    · rw [G.old m h1] at h ⊢
      exact I.lcObs m b h
    · exact (G.fresh h1).2.2.1

end Grow2

end NN

end IncrVerif.Proofs.NestH
