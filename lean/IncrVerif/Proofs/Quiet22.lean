import IncrVerif.Proofs.Quiet20
/-!
# Part 22: the unlinking cascade returns
-/
namespace IncrVerif.Proofs.Quiet
open IncrVerif.Engine IncrVerif.Driver IncrVerif.Proofs IncrVerif.Proofs.Step IncrVerif.Proofs.Sched

namespace P22

/-! ## necessity shrinks, necessary nodes keep their height -/

def NecH (s s' : State) : Prop :=
  ∀ m, s'.isNecessary m = true → s.isNecessary m = true ∧ (s'.nodeD m).height = (s.nodeD m).height

theorem NecH.refl (s : State) : NecH s s := fun _ h => ⟨h, rfl⟩
theorem NecH.trans {a b c : State} (h1 : NecH a b) (h2 : NecH b c) : NecH a c := fun m hm =>
  ⟨(h1 m (h2 m hm).1).1, (h2 m hm).2.trans (h1 m (h2 m hm).1).2⟩

theorem urel_nec {s s' : State} (h : URel s s') {m : Nat} (hm : s'.isNecessary m = true) :
    s.isNecessary m = true := by
  rw [isNecessary_iff] at hm ⊢
  rw [h.fr.observers, h.fr.forceNecessary] at hm
  rcases hm with hm | hm
  · left
    obtain ⟨x, hx⟩ := List.exists_mem_of_ne_nil _ hm
    exact List.ne_nil_of_mem (h.par m x hx)
  · exact Or.inr hm

theorem NecH.of_urel {s s' : State} (h : URel s s')
    (hh : ∀ m, (s'.nodeD m).height = (s.nodeD m).height) : NecH s s' :=
  fun m hm => ⟨urel_nec h hm, hh m⟩

theorem NecH.of_same {s s' : State} (h : SameG s s') : NecH s s' :=
  fun m hm => ⟨by rw [← h.nec]; exact hm, (h.node m).height⟩

theorem NecH.of_fields {s s' : State}
    (h : ∀ m, (s'.nodeD m).parents = (s.nodeD m).parents ∧ (s'.nodeD m).observers = (s.nodeD m).observers ∧
      (s'.nodeD m).forceNecessary = (s.nodeD m).forceNecessary ∧ (s'.nodeD m).height = (s.nodeD m).height) :
    NecH s s' := by
  intro m hm
  obtain ⟨h1, h2, h3, h4⟩ := h m
  refine ⟨?_, h4⟩
  simp only [State.isNecessary, Node.isNecessary] at hm ⊢
  rw [h1, h2, h3] at hm
  exact hm

theorem hbo_of_necH {s s' : State} {op op' : Nat → Op} (hb : HBo s op) (h : NecH s s')
    (hop : ∀ m, op' m = .closed → s.isNecessary m = true → op m = .closed) : HBo s' op' := by
  intro m hm ho
  obtain ⟨hm0, hh⟩ := h m hm
  rw [hh]
  exact hb m hm0 (hop m ho hm0)

/-! ## the three functions return -/

def BUTot (fuel : Nat) : Prop :=
  ∀ env n s op, GInv env s op → op n = .unlinking 0 → (∀ m, op m ≠ .closed → n ≤ m) → 3 * n + 2 ≤ fuel →
    Tot (becameUnnecessary fuel n) s (fun _ s' => NecH s s')

def CUTot (fuel : Nat) : Prop :=
  ∀ env c s op, GInv env s op → (∀ m, op m ≠ .closed → c ≤ m) →
    ((s.isNecessary c = true ∧ op c = .closed) ∨ (s.isNecessary c = false ∧ op c = .unlinking 0)) →
    3 * c + 3 ≤ fuel → Tot (checkIfUnnecessary fuel c) s (fun _ s' => NecH s s')

def RCTot (fuel : Nat) : Prop :=
  ∀ env n s op, GInv env s op → op n = .unlinking 0 → (∀ m, op m ≠ .closed → n ≤ m) → 3 * n + 1 ≤ fuel →
    Tot (removeChildren fuel n) s (fun _ s' => NecH s s')

theorem unlink_tot (fuel : Nat) : BUTot fuel ∧ CUTot fuel ∧ RCTot fuel :=
  have L := CutH.unlink_corr fuel
  ⟨fun env n s op I hop hlow hf =>
      have ⟨u, s', h, J⟩ := (L.1 env n s (cop op) I.toC (cop_unlinking.2 hop) (fun m hm => hlow m (cop_ne_closed.1 hm))).tot hf
      ⟨u, s', h, J.2.2.2⟩,
    fun env c s op I hlow hcase hf =>
      have ⟨u, s', h, J⟩ := (L.2.1 env c s (cop op) I.toC (fun m hm => hlow m (cop_ne_closed.1 hm))
        (hcase.imp (fun h => ⟨h.1, cop_closed.2 h.2⟩) fun h => ⟨h.1, cop_unlinking.2 h.2⟩)).tot hf
      ⟨u, s', h, J.2.2.2⟩,
    fun env n s op I hop hlow hf =>
      have ⟨u, s', h, J⟩ := (L.2.2 env n s (cop op) I.toC (cop_unlinking.2 hop) (fun m hm => hlow m (cop_ne_closed.1 hm))).tot hf
      ⟨u, s', h, J.2.2.2⟩⟩

end P22
open P22

/-- **the unlinking cascade returns**, and the height bound is kept -/
theorem checkIfUnnecessary_total {env : Env} {fuel c : Nat} {s : State} {op : Nat → Op}
    (I : GInv env s op) (hb : HBo s op) (hlow : ∀ m, op m ≠ .closed → c ≤ m)
    (hcase : (s.isNecessary c = true ∧ op c = .closed) ∨ (s.isNecessary c = false ∧ op c = .unlinking 0))
    (hf : 3 * c + 3 ≤ fuel) :
    Tot (checkIfUnnecessary fuel c) s (fun _ s' => HBo s' (upd op c .closed)) := by
  refine ((unlink_tot fuel).2.1 env c s op I hlow hcase hf).mono (fun _ s' N => ?_)
  refine hbo_of_necH hb N (fun m ho hm => ?_)
  by_cases e : m = c
  · rw [e] at hm ⊢
    rcases hcase with ⟨_, h⟩ | ⟨h, _⟩
    · exact h
    · rw [h] at hm; cases hm
  · rw [upd_other _ _ _ e] at ho; exact ho

end IncrVerif.Proofs.Quiet
