import IncrVerif.Proofs.LeakH13
/-!
# C12 over histories, part 14: total correctness

A VALID history of static actions (`Quiet.ValidHist`), then drops that name existing things and after which the
program holds nothing, then `stabilise`: the whole history runs without panic and ends with no root.
-/
namespace IncrVerif.Proofs.LeakH
open IncrVerif.Engine IncrVerif.Driver IncrVerif.Proofs IncrVerif.Proofs.Step IncrVerif.Proofs.Sched
open IncrVerif.Proofs.Quiet IncrVerif.Proofs.Life IncrVerif.Proofs.Own

theorem tinv_strip {N : Nat} {s : State} (T : TInv N s) : TInv N (strip s) := by
  refine ⟨T.hb, ⟨T.room.ahh, T.room.rch, T.room.size⟩, ?_, T.topSize, T.newNodup, T.newState⟩
  intro c vc hc
  have hc' : (s.vars.map fun vc => { vc with handles := 1 })[c]? = some vc := hc
  rw [Array.getElem?_map] at hc'
  cases h0 : s.vars[c]? with
  | none => rw [h0] at hc'; cases hc'
  | some vc0 =>
    rw [h0] at hc'
    simp only [Option.map_some, Option.some.injEq] at hc'
    rw [← hc']
    exact T.linked c vc0 h0

theorem drop_step_tinv {env : Env} {N : Nat} {s s' : State} {a : Action} {tk : Array Nat}
    {r : String × Array Nat} (I : DInv env s) (T : TInv N (strip s)) (ha : DropAction a)
    (h : (stepAction env a tk).run.run s = (.ok r, s')) : TInv N (strip s') := by
  obtain ⟨hc, rfl, -⟩ := drop_inv ha h
  rcases strip_afterDrop env s ha with e | ⟨hs, ho, e⟩
  · rw [e]; exact T
  · have hok : ActionOK N (strip s) a := by
      obtain ⟨o, rfl | rfl⟩ := ho <;> exact hc
    obtain ⟨r', s'', h', -, -, T', -⟩ := step_total (env := env) (tk := tk) I.q T hs hok
    rw [e, ← (drop_inv ha h').2.1]
    exact T'

theorem drop_run_tinv {env : Env} {N : Nat} {acts : List Action} {s s' : State} {tk tk' : Array Nat}
    (I : DInv env s) (T : TInv N (strip s)) (ha : ∀ a, a ∈ acts → DropAction a)
    (h : runActions env acts s tk = .ok (s', tk')) : DInv env s' ∧ TInv N (strip s') :=
  Hist.runActions_inv_all (I := fun s => DInv env s ∧ TInv N (strip s))
    (fun _ _ _ _ _ i ha hx => ⟨drop_step i.1 ha hx, drop_step_tinv i.1 i.2 ha hx⟩) ⟨I, T⟩ ha h

/-- **C12, total.** -/
theorem valid_history_freed {env : Env} {N : Nat} {d : Bool} {acts drops : List Action}
    (ha : ∀ a, a ∈ acts → StaticAction env a) (hv : ValidHist N 0 0 0 acts)
    (hd : ∀ a, a ∈ drops → DropAction a) (hfuel : 3 * N + 4 ≤ fuelDefault)
    (hnamed : ∀ s0 tk0, runActions env acts (State.init N d) #[] = .ok (s0, tk0) →
      ∀ a, a ∈ drops → OkCond s0 a)
    (H : ∀ s tk, runActions env (acts ++ drops) (State.init N d) #[] = .ok (s, tk) → HoldsNothing s) :
    ∃ s' tk', runActions env ((acts ++ drops) ++ [Action.stabilise]) (State.init N d) #[] = .ok (s', tk') ∧
      s'.roots = [] := by
  obtain ⟨s0, h0, Q0, T0⟩ := history_total (env := env) (d := d) ha hv
  obtain ⟨s1, tk1, h1⟩ := drops_run_of_conds (env := env) (tk := #[]) (Frame4.refl s0) hd (hnamed s0 #[] h0)
  have hrun : runActions env (acts ++ drops) (State.init N d) #[] = .ok (s1, tk1) := by
    rw [runActions_append, h0]; exact h1
  have I0 : DInv env s0 :=
    history_dinv (drops := []) ha (fun _ hm => nomatch hm) (by rw [List.append_nil]; exact h0)
  obtain ⟨I1, T1⟩ := drop_run_tinv I0 (tinv_strip T0) hd h1
  have hsz : s1.nodes.size ≤ N := T1.room.size
  obtain ⟨s', hs⟩ := stabilise_total_strip (fuel := fuelDefault) I1.q T1 (by omega)
  have hx : (stepAction env .stabilise tk1).run.run s1 = (.ok ("ok", tk1), s') := by
    unfold stepAction
    dsimp only
    rw [run_bind_ok hs]
    rfl
  refine ⟨s', tk1, ?_, freed_roots I1 (H s1 tk1 hrun) hs⟩
  rw [runActions_append, hrun]
  simp only [runActions, hx]

end IncrVerif.Proofs.LeakH
