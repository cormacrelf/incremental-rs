import IncrVerif.MapOps.Operators
import IncrVerif.Proofs.AssocMapLemmas
/-!
# Helper lemmas for C15 / C17: the diff-based operators of `MapOps/Operators.lean`

* `mealyRun`: the run of a step function over a list of inputs, with the state threaded as the Rust
  wrapper `with_old_input_output` does; `filterMapiRun`, `ufoldRun`, `mergeRun` are instances.
* what a symmetric diff says about one key (`diff_entry`, `diff_no_entry`);
* the fold functions of the operators are point updates (`AMap.alter`) of the old output, so folding
  them over a diff of `a` and `b` turns `spec a` into `spec b` (`alterFold_diff_eq`);
* the unordered fold for any add/remove/update satisfying `UFoldLaws`.
-/
namespace IncrVerif.Proofs.Ops
open IncrVerif IncrVerif.MapOps IncrVerif.AMap IncrVerif.Proofs

/-! ## Runs of a Mealy machine -/

/-- Run `step` over the inputs; after a step with input `i` and result `o` the next state is
`next i o`. -/
def mealyRun {σ ι ο : Type} (step : σ → ι → ο) (next : ι → ο → σ) : σ → List ι → List ο
  | _, [] => []
  | s, i :: is => step s i :: mealyRun step next (next i (step s i)) is

section mealy
variable {σ ι ο : Type} (step : σ → ι → ο) (next : ι → ο → σ)

@[simp] theorem mealyRun_length (s : σ) (is : List ι) : (mealyRun step next s is).length = is.length := by
  induction is generalizing s with
  | nil => rfl
  | cons i is ih => simp [mealyRun, ih]

/-- the first result is the step from the initial state -/
theorem mealyRun_head (s : σ) (i : ι) (is : List ι) :
    (mealyRun step next s (i :: is)) = step s i :: mealyRun step next (next i (step s i)) is := rfl

/-- every later result is the step from the state built from the previous input and result -/
theorem mealyRun_getElem_succ (s : σ) (is : List ι) (n : Nat) (h : n + 1 < is.length) :
    (mealyRun step next s is)[n + 1]'(by simpa using h) =
      step (next (is[n]'(by omega)) ((mealyRun step next s is)[n]'(by simp; omega))) (is[n + 1]'h) := by
  induction is generalizing s n with
  | nil => simp at h
  | cons i is ih =>
    cases n with
    | zero =>
      cases is with
      | nil => simp at h
      | cons i' is' => simp [mealyRun]
    | succ n =>
      simp only [mealyRun, List.getElem_cons_succ]
      exact ih _ n (by simpa using h)

/-- invariant reasoning: if every step from a state satisfying `Inv` on an input satisfying `P`
produces what `spec` says and re-establishes `Inv`, the projected results are `spec` of the inputs -/
theorem mealyRun_map {τ : Type} (out : ο → τ) (spec : ι → τ) (Inv : σ → Prop) (P : ι → Prop)
    (hstep : ∀ s i, Inv s → P i → out (step s i) = spec i ∧ Inv (next i (step s i)))
    (s : σ) (hs : Inv s) (is : List ι) (his : ∀ i ∈ is, P i) :
    (mealyRun step next s is).map out = is.map spec := by
  induction is generalizing s with
  | nil => rfl
  | cons i is ih =>
    obtain ⟨h1, h2⟩ := hstep s i hs (his i (by simp))
    simp only [mealyRun, List.map_cons, h1]
    rw [ih _ h2 (fun j hj => his j (by simp [hj]))]

/-- every result of a run satisfies `Q` if every step from an `Inv` state does -/
theorem mealyRun_forall (Q : ι → ο → Prop) (Inv : σ → Prop) (P : ι → Prop)
    (hstep : ∀ s i, Inv s → P i → Q i (step s i) ∧ Inv (next i (step s i)))
    (s : σ) (hs : Inv s) (is : List ι) (his : ∀ i ∈ is, P i) (n : Nat) (h : n < is.length) :
    Q (is[n]) ((mealyRun step next s is)[n]'(by simpa using h)) := by
  induction is generalizing s n with
  | nil => simp at h
  | cons i is ih =>
    obtain ⟨h1, h2⟩ := hstep s i hs (his i (by simp))
    cases n with
    | zero => exact h1
    | succ n =>
      simp only [mealyRun, List.getElem_cons_succ]
      exact ih _ h2 (fun j hj => his j (by simp [hj])) n (by simpa using h)

end mealy

/-! ## small list facts -/

/-- a fold that threads a call log next to the real accumulator splits into the two folds -/
theorem foldl_pair {σ δ κ : Type} (step : σ × List κ → δ → σ × List κ) (F : σ → δ → σ)
    (G : δ → List κ) (h : ∀ acc e, step acc e = (F acc.1 e, acc.2 ++ G e))
    (o : σ) (c : List κ) (d : List δ) :
    d.foldl step (o, c) = (d.foldl F o, c ++ d.flatMap G) := by
  induction d generalizing o c with
  | nil => simp
  | cons e d ih => simp [List.foldl_cons, h, ih, List.append_assoc]

theorem foldl_congr_mem {σ δ : Type} (F G : σ → δ → σ) (d : List δ)
    (h : ∀ acc, ∀ e ∈ d, F acc e = G acc e) (o : σ) : d.foldl F o = d.foldl G o := by
  induction d generalizing o with
  | nil => rfl
  | cons e d ih =>
    simp only [List.foldl_cons]
    rw [h o e (by simp), ih (fun acc e' he' => h acc e' (by simp [he']))]

theorem flatMap_ite_singleton {δ κ : Type} (p : δ → Bool) (g : δ → κ) (d : List δ) :
    d.flatMap (fun e => if p e then [g e] else []) = (d.filter p).map g := by
  induction d with
  | nil => rfl
  | cons e d ih =>
    simp only [List.flatMap_cons, ih, List.filter_cons]
    cases p e <;> simp

theorem pairwise_ne_of_lt {δ : Type} (key : δ → Int) (d : List δ)
    (h : List.Pairwise (· < ·) (d.map key)) : List.Pairwise (fun x y => key x ≠ key y) d := by
  rw [List.pairwise_map] at h
  exact h.imp (fun hxy => by omega)

/-! ## what a symmetric diff says about one key -/

/-- the value the old map held, `None` for an added key -/
def oldData {α : Type} : DiffElement α → Option α
  | .left l => some l
  | .right _ => none
  | .unequal l _ => some l

section diff
variable {α : Type} [DecidableEq α]

/-- an entry for `k` records the old and the new binding of `k`, and they differ -/
theorem diff_entry (a b : AMap α) (ha : a.Sorted) (hb : b.Sorted) (k : Int) (e : DiffElement α)
    (h : (k, e) ∈ symmetricDiff a b) :
    a.lookup k = oldData e ∧ b.lookup k = e.newData ∧ a.lookup k ≠ b.lookup k := by
  rcases (symmetricDiff_mem a b ha hb k e).mp h with ⟨x, h1, h2, rfl⟩ | ⟨y, h1, h2, rfl⟩ |
      ⟨x, y, h1, h2, h3, rfl⟩
  · simp [h1, h2, oldData, DiffElement.newData]
  · simp [h1, h2, oldData, DiffElement.newData]
  · simp [h1, h2, oldData, DiffElement.newData, h3]

/-- a key without an entry has the same binding in both maps -/
theorem diff_no_entry (a b : AMap α) (ha : a.Sorted) (hb : b.Sorted) (k : Int)
    (h : ∀ x ∈ symmetricDiff a b, x.1 ≠ k) : a.lookup k = b.lookup k := by
  rcases hA : a.lookup k with _ | x <;> rcases hB : b.lookup k with _ | y
  · rfl
  · exact absurd rfl (h (k, .right y) ((symmetricDiff_mem a b ha hb k _).mpr (.inr (.inl ⟨y, hA, hB, rfl⟩))))
  · exact absurd rfl (h (k, .left x) ((symmetricDiff_mem a b ha hb k _).mpr (.inl ⟨x, hA, hB, rfl⟩)))
  · by_cases hxy : x = y
    · rw [hxy]
    · exact absurd rfl (h (k, .unequal x y)
        ((symmetricDiff_mem a b ha hb k _).mpr (.inr (.inr ⟨x, y, hA, hB, hxy, rfl⟩))))

theorem diff_keys_ne (a b : AMap α) (ha : a.Sorted) (hb : b.Sorted) :
    List.Pairwise (fun x y => x.1 ≠ y.1) (symmetricDiff a b) :=
  pairwise_ne_of_lt (fun x : Int × DiffElement α => x.1) _ (symmetricDiff_ascending a b ha hb)

theorem symmetricDiff_self (a : AMap α) (ha : a.Sorted) : symmetricDiff a a = [] :=
  (symmetricDiff_nil_iff a a ha ha).mpr rfl

theorem symmetricDiff_nil_left (b : AMap α) (hb : b.Sorted) :
    symmetricDiff [] b = b.map fun kv => (kv.1, .right kv.2) := by
  rw [symmetricDiff_eq_ref [] b sorted_nil hb, refDiff_nil_left]

theorem symmetricDiff_length_le (a b : AMap α) (ha : a.Sorted) (hb : b.Sorted) :
    (symmetricDiff a b).length ≤ a.length + b.length := by
  rw [symmetricDiff_eq_ref a b ha hb]
  fun_induction refDiff a b with
  | case1 b => simp
  | case2 a h => simp
  | case3 ka va ra kb vb rb h ih =>
    have := ih ha.tail hb; simp at this ⊢; omega
  | case4 ka va ra kb vb rb h1 h2 ih =>
    have := ih ha hb.tail; simp at this ⊢; omega
  | case5 ka va ra kb vb rb h1 h2 h3 ih =>
    have := ih ha.tail hb.tail; simp at this ⊢; omega
  | case6 ka va ra kb vb rb h1 h2 h3 ih =>
    have := ih ha.tail hb.tail; simp at this ⊢; omega

end diff

/-! ## the core lemma: folding point updates over a diff turns `spec a` into `spec b`

The specification map is key-wise: its binding for `k` is `φ k (binding of k in the input)`.  Every diff
entry either sets its key to the new value of `φ`, or leaves it alone when `φ` did not change. -/

section core
variable {α : Type}

theorem lookup_alterFold_diff (φ : Int → Option Int → Option α) (a b : AMap Int)
    (ha : a.Sorted) (hb : b.Sorted) (op : Int × DiffElement Int → Option (Option α))
    (hop : ∀ x ∈ symmetricDiff a b, op x = some (φ x.1 (b.lookup x.1)) ∨
      (op x = none ∧ φ x.1 (a.lookup x.1) = φ x.1 (b.lookup x.1)))
    (acc : AMap α) (hs : acc.Sorted) (hacc : ∀ k, acc.lookup k = φ k (a.lookup k)) (k : Int) :
    (alterFold (·.1) op acc (symmetricDiff a b)).lookup k = φ k (b.lookup k) := by
  by_cases hk : ∃ x ∈ symmetricDiff a b, x.1 = k
  · obtain ⟨x, hx, rfl⟩ := hk
    rw [lookup_alterFold_of_mem (·.1) op acc hs _ (diff_keys_ne a b ha hb) x hx]
    rcases hop x hx with h | ⟨h1, h2⟩
    · rw [h]; rfl
    · rw [h1, hacc, h2]; rfl
  · rw [lookup_alterFold_of_not_mem (·.1) op acc _ k (fun x hx hxk => hk ⟨x, hx, hxk⟩), hacc,
      diff_no_entry a b ha hb k (fun x hx hxk => hk ⟨x, hx, hxk⟩)]

theorem alterFold_diff_eq (φ : Int → Option Int → Option α) (a b : AMap Int)
    (ha : a.Sorted) (hb : b.Sorted) (op : Int × DiffElement Int → Option (Option α))
    (hop : ∀ x ∈ symmetricDiff a b, op x = some (φ x.1 (b.lookup x.1)) ∨
      (op x = none ∧ φ x.1 (a.lookup x.1) = φ x.1 (b.lookup x.1)))
    (specA specB : AMap α) (hsA : specA.Sorted) (hsB : specB.Sorted)
    (hA : ∀ k, specA.lookup k = φ k (a.lookup k)) (hB : ∀ k, specB.lookup k = φ k (b.lookup k)) :
    alterFold (·.1) op specA (symmetricDiff a b) = specB := by
  apply ext_lookup _ _ (sorted_alterFold _ _ _ hsA _) hsB
  intro k
  rw [lookup_alterFold_diff φ a b ha hb op hop specA hsA hA k, hB]

end core

/-! ## `incr_filter_mapi` -/

/-- the point update a diff entry causes in the output of `incr_filter_mapi` -/
def fmOp (f : Int → Int → Option Int) : Int × DiffElement Int → Option (Option Int)
  | (_, .left _) => some none
  | (k, .right v) => some (f k v)
  | (k, .unequal _ v) => some (f k v)

/-- an entry for a key that is still (or newly) present, i.e. not a removal -/
def isNew : Int × DiffElement Int → Bool
  | (_, .left _) => false
  | (_, .right _) => true
  | (_, .unequal _ _) => true

theorem filterMapiFold_eq (f : Int → Int → Option Int) (acc : AMap Int × List Call)
    (e : Int × DiffElement Int) :
    filterMapiFold f acc e =
      (alter acc.1 e.1 (fmOp f e), acc.2 ++ (if isNew e then [(Role.fn, e.1)] else [])) := by
  rcases e with ⟨k, _ | _ | _⟩ <;> simp only [filterMapiFold, fmOp, isNew]
  · split <;> simp_all [alter]
  · simp [alter]
  · split <;> simp_all [alter]

theorem foldl_filterMapiFold (f : Int → Int → Option Int) (o : AMap Int) (c : List Call)
    (d : List (Int × DiffElement Int)) :
    d.foldl (filterMapiFold f) (o, c) =
      (alterFold (·.1) (fmOp f) o d, c ++ (d.filter isNew).map fun e => (Role.fn, e.1)) := by
  rw [foldl_pair _ (fun m e => alter m e.1 (fmOp f e)) (fun e => if isNew e then [(Role.fn, e.1)] else [])
    (filterMapiFold_eq f), flatMap_ite_singleton]
  rfl

theorem filterMapSpec_sorted (f : Int → Int → Option Int) (m : AMap Int) (hs : m.Sorted) :
    (filterMapSpec f m).Sorted := sorted_filterMap_val f m hs

theorem lookup_filterMapSpec (f : Int → Int → Option Int) (m : AMap Int) (hs : m.Sorted) (k : Int) :
    (filterMapSpec f m).lookup k = (m.lookup k).bind (f k) := lookup_filterMap_val f m hs k

/-- core lemma for `incr_filter_mapi` -/
theorem filterMapi_diff (f : Int → Int → Option Int) (a b : AMap Int) (ha : a.Sorted) (hb : b.Sorted) :
    alterFold (·.1) (fmOp f) (filterMapSpec f a) (symmetricDiff a b) = filterMapSpec f b := by
  apply alterFold_diff_eq (fun k o => o.bind (f k)) a b ha hb (fmOp f) _ _ _
    (filterMapSpec_sorted f a ha) (filterMapSpec_sorted f b hb)
    (lookup_filterMapSpec f a ha) (lookup_filterMapSpec f b hb)
  rintro ⟨k, e⟩ hx
  left
  obtain ⟨-, h2, -⟩ := diff_entry a b ha hb k e hx
  simp only [h2]
  cases e <;> rfl

/-- equations of the closure -/
theorem filterMapiStep_nil (f : Int → Int → Option Int) (old : Option (AMap Int × AMap Int)) :
    filterMapiStep f old [] = ([], true, []) := by cases old <;> rfl

theorem filterMapiStep_none (f : Int → Int → Option Int) (m : AMap Int) :
    filterMapiStep f none m = (filterMapCollect f m, true, m.map fun kv => (Role.fn, kv.1)) := by
  cases m <;> rfl

theorem filterMapiStep_some (f : Int → Int → Option Int) (a o m : AMap Int) (hm : m ≠ []) :
    filterMapiStep f (some (a, o)) m =
      (alterFold (·.1) (fmOp f) o (symmetricDiff a m), !(symmetricDiff a m).isEmpty,
       ((symmetricDiff a m).filter isNew).map fun e => (Role.fn, e.1)) := by
  cases m with
  | nil => exact absurd rfl hm
  | cons x m =>
    show ((List.foldl (filterMapiFold f) (o, []) (symmetricDiff a (x :: m))).1, _,
      (List.foldl (filterMapiFold f) (o, []) (symmetricDiff a (x :: m))).2) = _
    rw [foldl_filterMapiFold]; simp

/-- the state the wrapper holds is either "never ran" or a sorted input with its specified output -/
def FMInv (f : Int → Int → Option Int) : Option (AMap Int × AMap Int) → Prop
  | none => True
  | some (a, o) => a.Sorted ∧ o = filterMapSpec f a

theorem filterMapiStep_out (f : Int → Int → Option Int) (old : Option (AMap Int × AMap Int))
    (hold : FMInv f old) (m : AMap Int) (hm : m.Sorted) :
    (filterMapiStep f old m).1 = filterMapSpec f m := by
  by_cases hnil : m = []
  · subst hnil; rw [filterMapiStep_nil]; rfl
  · rcases old with _ | ⟨a, o⟩
    · rw [filterMapiStep_none]; rfl
    · obtain ⟨ha, rfl⟩ := hold
      rw [filterMapiStep_some f a _ m hnil]
      exact filterMapi_diff f a m ha hm

/-- the run of `incr_filter_mapi` over a sequence of inputs, from a fresh node -/
def filterMapiRun (f : Int → Int → Option Int) (inputs : List (AMap Int)) :
    List (AMap Int × Bool × List Call) :=
  mealyRun (filterMapiStep f) (fun m r => some (m, r.1)) none inputs

theorem filterMapiRun_out (f : Int → Int → Option Int) (inputs : List (AMap Int))
    (hs : ∀ m ∈ inputs, m.Sorted) :
    (filterMapiRun f inputs).map (·.1) = inputs.map (filterMapSpec f) := by
  apply mealyRun_map (filterMapiStep f) (fun m r => some (m, r.1)) (fun r => r.1) (filterMapSpec f)
    (FMInv f) AMap.Sorted _ none trivial inputs hs
  intro s m hs hm
  have := filterMapiStep_out f s hs m hm
  exact ⟨this, hm, this⟩

/-! ### `did_change` and the call list of `incr_filter_mapi` -/

/-- `did_change = false` happens only for a non-empty input equal to the previous one, and then the
output is the previous output -/
theorem filterMapiStep_flag_false (f : Int → Int → Option Int) (a o m : AMap Int)
    (ha : a.Sorted) (hm : m.Sorted) (h : (filterMapiStep f (some (a, o)) m).2.1 = false) :
    m ≠ [] ∧ a = m ∧ (filterMapiStep f (some (a, o)) m).1 = o := by
  by_cases hnil : m = []
  · subst hnil; rw [filterMapiStep_nil] at h; simp at h
  · rw [filterMapiStep_some f a o m hnil] at h ⊢
    simp only [Bool.not_eq_false', List.isEmpty_iff] at h
    refine ⟨hnil, (symmetricDiff_nil_iff a m ha hm).mp h, ?_⟩
    simp only [h]; rfl

/-- equal non-empty inputs: nothing is called, nothing changes -/
theorem filterMapiStep_same (f : Int → Int → Option Int) (a o : AMap Int) (ha : a.Sorted)
    (hne : a ≠ []) : filterMapiStep f (some (a, o)) a = (o, false, []) := by
  rw [filterMapiStep_some f a o a hne, symmetricDiff_self a ha]; rfl

theorem filterMapiRun_succ (f : Int → Int → Option Int) (inputs : List (AMap Int)) (n : Nat)
    (h : n + 1 < inputs.length) :
    (filterMapiRun f inputs)[n + 1]'(by simpa [filterMapiRun] using h) =
      filterMapiStep f (some (inputs[n], ((filterMapiRun f inputs)[n]'(by
        simp [filterMapiRun]; omega)).1)) inputs[n + 1] :=
  mealyRun_getElem_succ (filterMapiStep f) (fun m r => some (m, r.1)) none inputs n h

/-! ## `incr_unordered_fold_with` -/

section ufold
variable {ρ : Type}

/-- what the fold does to the accumulator for one diff entry -/
def ufOp (u : UFold ρ) (r : ρ) : Int × DiffElement Int → ρ
  | (k, .left v) => u.remove r k v
  | (k, .right v) => u.add r k v
  | (k, .unequal o n) => u.update r k o n

/-- the user-function call a diff entry causes in `incr_unordered_fold_with` -/
def diffCall : Int × DiffElement Int → Call
  | (k, .left _) => (.remove, k)
  | (k, .right _) => (.add, k)
  | (k, .unequal _ _) => (.update, k)

theorem ufoldFold_eq (u : UFold ρ) (acc : ρ × List Call) (e : Int × DiffElement Int) :
    ufoldFold u acc e = (ufOp u acc.1 e, acc.2 ++ [diffCall e]) := by
  rcases e with ⟨k, _ | _ | _⟩ <;> rfl

theorem foldl_ufoldFold (u : UFold ρ) (o : ρ) (c : List Call) (d : List (Int × DiffElement Int)) :
    d.foldl (ufoldFold u) (o, c) = (d.foldl (ufOp u) o, c ++ d.map diffCall) := by
  rw [foldl_pair _ (ufOp u) (fun e => [diffCall e]) (ufoldFold_eq u)]
  congr 2
  induction d with
  | nil => rfl
  | cons e d ih => simp [ih]

/-- the non-incremental fold: `add` every binding, in key order, starting from `init` -/
def ufoldSpec (u : UFold ρ) (init : ρ) (m : AMap Int) : ρ :=
  m.foldl (fun acc kv => u.add acc kv.1 kv.2) init

/-- The algebraic laws under which the incremental fold is right: `add`s of different keys commute,
`remove` undoes an `add` of the same binding, `update` replaces an added binding. -/
structure UFoldLaws (u : UFold ρ) : Prop where
  add_comm : ∀ acc k v k' v', k ≠ k' → u.add (u.add acc k v) k' v' = u.add (u.add acc k' v') k v
  remove_add : ∀ acc k v, u.remove (u.add acc k v) k v = acc
  update_add : ∀ acc k o n, u.update (u.add acc k o) k o n = u.add acc k n

theorem ufoldSpec_cons (u : UFold ρ) (init : ρ) (k v : Int) (m : AMap Int) :
    ufoldSpec u init ((k, v) :: m) = ufoldSpec u (u.add init k v) m := rfl

theorem ufoldSpec_add_comm (u : UFold ρ) (hl : UFoldLaws u) (init : ρ) (k v : Int) (m : AMap Int)
    (hk : k ∉ m.keys) : ufoldSpec u (u.add init k v) m = u.add (ufoldSpec u init m) k v := by
  induction m generalizing init with
  | nil => rfl
  | cons kv m ih =>
    rcases kv with ⟨k', v'⟩
    simp only [keys_cons', List.mem_cons, not_or] at hk
    rw [ufoldSpec_cons, ufoldSpec_cons, hl.add_comm _ _ _ _ _ hk.1, ih _ hk.2]

theorem not_mem_keys_of_sorted_cons {α : Type} (k : Int) (v : α) (m : AMap α)
    (h : Sorted ((k, v) :: m)) : k ∉ m.keys := by
  intro hk
  have := ((sorted_cons k v m).mp h).1 k hk
  omega

theorem ufold_remove_all (u : UFold ρ) (hl : UFoldLaws u) (a : AMap Int) (ha : a.Sorted) (init : ρ) :
    (a.map fun kv => (kv.1, DiffElement.left kv.2)).foldl (ufOp u) (ufoldSpec u init a) = init := by
  induction a with
  | nil => rfl
  | cons kv a ih =>
    rcases kv with ⟨k, v⟩
    rw [ufoldSpec_cons, ufoldSpec_add_comm u hl init k v a (not_mem_keys_of_sorted_cons k v a ha)]
    simp only [List.map_cons, List.foldl_cons, ufOp, hl.remove_add]
    exact ih ha.tail

/-- core lemma for the unordered fold, on the textbook diff -/
theorem ufold_refDiff (u : UFold ρ) (hl : UFoldLaws u) (a b : AMap Int) (ha : a.Sorted)
    (hb : b.Sorted) : ∀ init : ρ,
    (refDiff a b).foldl (ufOp u) (ufoldSpec u init a) = ufoldSpec u init b := by
  fun_induction refDiff a b with
  | case1 b =>
    intro init
    rw [List.foldl_map]; rfl
  | case2 a h =>
    intro init
    exact ufold_remove_all u hl a ha init
  | case3 ka va ra kb vb rb h ih =>
    intro init
    rw [ufoldSpec_cons, ufoldSpec_add_comm u hl init ka va ra (not_mem_keys_of_sorted_cons ka va ra ha)]
    simp only [List.foldl_cons, ufOp, hl.remove_add]
    exact ih ha.tail hb init
  | case4 ka va ra kb vb rb h1 h2 ih =>
    intro init
    have hnot : kb ∉ AMap.keys ((ka, va) :: ra) := by
      intro hk
      rcases List.mem_cons.mp hk with rfl | hk'
      · omega
      · have := ((sorted_cons ka va ra).mp ha).1 kb hk'; omega
    simp only [List.foldl_cons, ufOp]
    rw [← ufoldSpec_add_comm u hl init kb vb _ hnot]
    exact ih ha hb.tail (u.add init kb vb)
  | case5 ka va ra kb vb rb h1 h2 h3 ih =>
    intro init
    have hk : ka = kb := by omega
    subst hk
    rw [ufoldSpec_cons, ufoldSpec_add_comm u hl init ka va ra (not_mem_keys_of_sorted_cons ka va ra ha)]
    simp only [List.foldl_cons, ufOp, hl.update_add]
    rw [← ufoldSpec_add_comm u hl init ka vb ra (not_mem_keys_of_sorted_cons ka va ra ha)]
    exact ih ha.tail hb.tail (u.add init ka vb)
  | case6 ka va ra kb vb rb h1 h2 h3 ih =>
    intro init
    have hk : ka = kb := by omega
    have hv : va = vb := by simpa using h3
    subst hk hv
    exact ih ha.tail hb.tail (u.add init ka va)

/-- core lemma for the unordered fold -/
theorem ufold_diff (u : UFold ρ) (hl : UFoldLaws u) (a b : AMap Int) (ha : a.Sorted)
    (hb : b.Sorted) (init : ρ) :
    (symmetricDiff a b).foldl (ufOp u) (ufoldSpec u init a) = ufoldSpec u init b := by
  rw [symmetricDiff_eq_ref a b ha hb]; exact ufold_refDiff u hl a b ha hb init

/-- equations of the closure -/
theorem ufoldStep_none (u : UFold ρ) (init : ρ) (m : AMap Int) :
    ufoldStep u init none m = (ufoldSpec u init m, true, m.map fun kv => (Role.add, kv.1)) := rfl

theorem ufoldStep_revert (u : UFold ρ) (init : ρ) (a : AMap Int) (o : ρ)
    (hr : u.revertToInitWhenEmpty = true) :
    ufoldStep u init (some (a, o)) [] = (init, !a.isEmpty, []) := by
  simp [ufoldStep, hr]

theorem ufoldStep_diff (u : UFold ρ) (init : ρ) (a : AMap Int) (o : ρ) (m : AMap Int)
    (h : u.revertToInitWhenEmpty = false ∨ m ≠ []) :
    ufoldStep u init (some (a, o)) m =
      ((symmetricDiff a m).foldl (ufOp u) o, !(symmetricDiff a m).isEmpty,
       (symmetricDiff a m).map diffCall) := by
  have hc : (u.revertToInitWhenEmpty && m.isEmpty) = false := by
    rcases h with h | h
    · simp [h]
    · cases m with
      | nil => exact absurd rfl h
      | cons x m => simp
  simp only [ufoldStep, hc, foldl_ufoldFold]
  simp

/-- the state the wrapper holds: "never ran", or a sorted input with its specified output -/
def UFInv (u : UFold ρ) (init : ρ) : Option (AMap Int × ρ) → Prop
  | none => True
  | some (a, o) => a.Sorted ∧ o = ufoldSpec u init a

theorem ufoldStep_out (u : UFold ρ) (hl : UFoldLaws u) (init : ρ) (old : Option (AMap Int × ρ))
    (hold : UFInv u init old) (m : AMap Int) (hm : m.Sorted) :
    (ufoldStep u init old m).1 = ufoldSpec u init m := by
  rcases old with _ | ⟨a, o⟩
  · rfl
  · obtain ⟨ha, rfl⟩ := hold
    by_cases h : u.revertToInitWhenEmpty = false ∨ m ≠ []
    · rw [ufoldStep_diff u init a _ m h]
      exact ufold_diff u hl a m ha hm init
    · have h1 : u.revertToInitWhenEmpty = true := by
        cases hr : u.revertToInitWhenEmpty
        · exact absurd (.inl hr) h
        · rfl
      have h2 : m = [] := by
        by_cases hm' : m = []
        · exact hm'
        · exact absurd (.inr hm') h
      subst h2
      rw [ufoldStep_revert u init a _ h1]; rfl

/-- equal inputs: nothing is called, `did_change = false` -/
theorem ufoldStep_same (u : UFold ρ) (init : ρ) (a : AMap Int) (ha : a.Sorted) (o : ρ) :
    (ufoldStep u init (some (a, o)) a).2 = (false, []) := by
  by_cases h : u.revertToInitWhenEmpty = false ∨ a ≠ []
  · rw [ufoldStep_diff u init a o a h, symmetricDiff_self a ha]; rfl
  · have h1 : u.revertToInitWhenEmpty = true := by
      cases hr : u.revertToInitWhenEmpty
      · exact absurd (.inl hr) h
      · rfl
    have h2 : a = [] := by
      by_cases hm' : a = []
      · exact hm'
      · exact absurd (.inr hm') h
    subst h2
    rw [ufoldStep_revert u init [] o h1]; rfl

/-- the run of `incr_unordered_fold_with` over a sequence of inputs, from a fresh node -/
def ufoldRun (u : UFold ρ) (init : ρ) (inputs : List (AMap Int)) : List (ρ × Bool × List Call) :=
  mealyRun (ufoldStep u init) (fun m r => some (m, r.1)) none inputs

theorem ufoldRun_out (u : UFold ρ) (hl : UFoldLaws u) (init : ρ) (inputs : List (AMap Int))
    (hs : ∀ m ∈ inputs, m.Sorted) :
    (ufoldRun u init inputs).map (·.1) = inputs.map (ufoldSpec u init) := by
  apply mealyRun_map (ufoldStep u init) (fun m r => some (m, r.1)) (fun r => r.1) (ufoldSpec u init)
    (UFInv u init) AMap.Sorted _ none trivial inputs hs
  intro s m hs hm
  have := ufoldStep_out u hl init s hs m hm
  exact ⟨this, hm, this⟩

theorem ufoldRun_succ (u : UFold ρ) (init : ρ) (inputs : List (AMap Int)) (n : Nat)
    (h : n + 1 < inputs.length) :
    (ufoldRun u init inputs)[n + 1]'(by simpa [ufoldRun] using h) =
      ufoldStep u init (some (inputs[n], ((ufoldRun u init inputs)[n]'(by
        simp [ufoldRun]; omega)).1)) inputs[n + 1] :=
  mealyRun_getElem_succ (ufoldStep u init) (fun m r => some (m, r.1)) none inputs n h

end ufold

/-! ### the sum instances (`ρ = Int`) -/

theorem sumLaws (g : Int → Int → Int) (u : UFold Int)
    (hadd : ∀ acc k v, u.add acc k v = acc + g k v)
    (hrem : ∀ acc k v, u.remove acc k v = acc - g k v)
    (hupd : ∀ acc k o n, u.update acc k o n = acc - g k o + g k n) : UFoldLaws u where
  add_comm := by intro acc k v k' v' _; simp only [hadd]; omega
  remove_add := by intro acc k v; simp only [hadd, hrem]; omega
  update_add := by intro acc k o n; simp only [hadd, hupd]; omega

theorem sumLaws_plain (g : Int → Int → Int) (revert : Bool) :
    UFoldLaws (UFold.plain (fun acc k v => acc + g k v) (fun acc k v => acc - g k v) revert) :=
  sumLaws g _ (fun _ _ _ => rfl) (fun _ _ _ => rfl) (fun _ _ _ _ => rfl)

theorem ufoldSpec_sum (g : Int → Int → Int) (u : UFold Int)
    (hadd : ∀ acc k v, u.add acc k v = acc + g k v) (init : Int) (m : AMap Int) :
    ufoldSpec u init m = ufoldSpecSum g init m := by
  simp only [ufoldSpec, ufoldSpecSum, hadd]

/-! ## `incr_partition_mapi` -/

/-- the left / right projection of the classifying function -/
def pL (f : Int → Int → Either) (k v : Int) : Option Int :=
  match f k v with | .left a => some a | .right _ => none

def pR (f : Int → Int → Either) (k v : Int) : Option Int :=
  match f k v with | .left _ => none | .right b => some b

/-- the two halves of a partition are two `filter_mapi`s -/
theorem partitionSpec_eq (f : Int → Int → Either) (m : AMap Int) :
    partitionSpec f m = (filterMapSpec (pL f) m, filterMapSpec (pR f) m) := by
  unfold partitionSpec filterMapSpec filterMapCollect
  congr 2 <;> funext kv <;> simp only [pL, pR] <;> cases f kv.1 kv.2 <;> rfl

/-- point update of the left half caused by a diff entry -/
def pOp1 (f : Int → Int → Either) : Int × DiffElement Int → Option (Option Int)
  | (_, .left _) => some none
  | (k, .right v) => match f k v with | .left a => some (some a) | .right _ => none
  | (k, .unequal _ v) => match f k v with | .left a => some (some a) | .right _ => some none

/-- point update of the right half caused by a diff entry -/
def pOp2 (f : Int → Int → Either) : Int × DiffElement Int → Option (Option Int)
  | (_, .left _) => some none
  | (k, .right v) => match f k v with | .left _ => none | .right b => some (some b)
  | (k, .unequal _ v) => match f k v with | .left _ => some none | .right b => some (some b)

theorem partition_ufOp (f : Int → Int → Either) (lr : AMap Int × AMap Int)
    (e : Int × DiffElement Int) :
    ufOp (partitionUFold f) lr e = (alter lr.1 e.1 (pOp1 f e), alter lr.2 e.1 (pOp2 f e)) := by
  rcases e with ⟨k, ⟨o, v⟩ | v | v⟩ <;> simp only [ufOp, partitionUFold, pOp1, pOp2]
  · rcases hf : f k v with a | b <;> simp [alter]
  · rfl
  · rcases hf : f k v with a | b <;> simp [alter]

theorem foldl_prod {σ τ δ : Type} (F : σ × τ → δ → σ × τ) (F1 : σ → δ → σ) (F2 : τ → δ → τ)
    (h : ∀ acc e, F acc e = (F1 acc.1 e, F2 acc.2 e)) (l : σ) (r : τ) (d : List δ) :
    d.foldl F (l, r) = (d.foldl F1 l, d.foldl F2 r) := by
  induction d generalizing l r with
  | nil => rfl
  | cons e d ih => simp [List.foldl_cons, h, ih]

theorem foldl_partition (f : Int → Int → Either) (l r : AMap Int) (d : List (Int × DiffElement Int)) :
    d.foldl (ufOp (partitionUFold f)) (l, r) =
      (alterFold (·.1) (pOp1 f) l d, alterFold (·.1) (pOp2 f) r d) :=
  foldl_prod _ (fun m e => alter m e.1 (pOp1 f e)) (fun m e => alter m e.1 (pOp2 f e))
    (partition_ufOp f) l r d

/-- core lemma for `incr_partition_mapi` -/
theorem partition_diff (f : Int → Int → Either) (a b : AMap Int) (ha : a.Sorted) (hb : b.Sorted) :
    (symmetricDiff a b).foldl (ufOp (partitionUFold f)) (partitionSpec f a) = partitionSpec f b := by
  rw [partitionSpec_eq, partitionSpec_eq, foldl_partition]
  congr 1
  · apply alterFold_diff_eq (fun k o => o.bind (pL f k)) a b ha hb (pOp1 f) _ _ _
      (filterMapSpec_sorted _ a ha) (filterMapSpec_sorted _ b hb)
      (lookup_filterMapSpec _ a ha) (lookup_filterMapSpec _ b hb)
    rintro ⟨k, e⟩ hx
    obtain ⟨h1, h2, -⟩ := diff_entry a b ha hb k e hx
    simp only [h1, h2]
    rcases e with ⟨o, v⟩ | v | v <;> simp only [pOp1, oldData, DiffElement.newData, Option.bind, pL]
    · rcases hf : f k v with a | b <;> simp
    · simp
    · rcases hf : f k v with a | b <;> simp
  · apply alterFold_diff_eq (fun k o => o.bind (pR f k)) a b ha hb (pOp2 f) _ _ _
      (filterMapSpec_sorted _ a ha) (filterMapSpec_sorted _ b hb)
      (lookup_filterMapSpec _ a ha) (lookup_filterMapSpec _ b hb)
    rintro ⟨k, e⟩ hx
    obtain ⟨h1, h2, -⟩ := diff_entry a b ha hb k e hx
    simp only [h1, h2]
    rcases e with ⟨o, v⟩ | v | v <;> simp only [pOp2, oldData, DiffElement.newData, Option.bind, pR]
    · rcases hf : f k v with a | b <;> simp
    · simp
    · rcases hf : f k v with a | b <;> simp

/-- the initial fold (all `add`s into the empty pair) is the fold over the diff from the empty map -/
theorem ufoldSpec_eq_diff_nil {ρ : Type} (u : UFold ρ) (init : ρ) (m : AMap Int) (hm : m.Sorted) :
    ufoldSpec u init m = (symmetricDiff [] m).foldl (ufOp u) init := by
  rw [symmetricDiff_nil_left m hm, List.foldl_map]; rfl

theorem partition_initial (f : Int → Int → Either) (m : AMap Int) (hm : m.Sorted) :
    ufoldSpec (partitionUFold f) ([], []) m = partitionSpec f m := by
  rw [ufoldSpec_eq_diff_nil _ _ m hm]
  exact partition_diff f [] m sorted_nil hm

def PInv (f : Int → Int → Either) : Option (AMap Int × (AMap Int × AMap Int)) → Prop
  | none => True
  | some (a, o) => a.Sorted ∧ o = partitionSpec f a

theorem partitionStep_out (f : Int → Int → Either) (old : Option (AMap Int × (AMap Int × AMap Int)))
    (hold : PInv f old) (m : AMap Int) (hm : m.Sorted) :
    (ufoldStep (partitionUFold f) ([], []) old m).1 = partitionSpec f m := by
  rcases old with _ | ⟨a, o⟩
  · exact partition_initial f m hm
  · obtain ⟨ha, rfl⟩ := hold
    by_cases hnil : m = []
    · subst hnil; rw [ufoldStep_revert _ _ a _ rfl]; rfl
    · rw [ufoldStep_diff _ _ a _ m (.inr hnil)]
      exact partition_diff f a m ha hm

theorem partitionRun_out (f : Int → Int → Either) (inputs : List (AMap Int))
    (hs : ∀ m ∈ inputs, m.Sorted) :
    (ufoldRun (partitionUFold f) ([], []) inputs).map (·.1) = inputs.map (partitionSpec f) := by
  apply mealyRun_map (ufoldStep (partitionUFold f) ([], [])) (fun m r => some (m, r.1))
    (fun r => r.1) (partitionSpec f) (PInv f) AMap.Sorted _ none trivial inputs hs
  intro s m hs hm
  have := partitionStep_out f s hs m hm
  exact ⟨this, hm, this⟩

/-! ## `incr_merge` -/

/-- the value of the merged map at one key, from what the two inputs hold there -/
def mergeVal (f : Int → MergeArg → Option Int) (k : Int) : Option Int → Option Int → Option Int
  | none, none => none
  | some x, none => f k (.left x)
  | none, some y => f k (.right y)
  | some x, some y => f k (.both x y)

/-- the elements of the stream `merge_shared_impl` folds over -/
abbrev MStream := MergeElement (Int × DiffElement Int) (Int × DiffElement Int)

/-- the pair (new left value, new right value) the closure computes for a stream element -/
def mData (newL newR : AMap Int) : MStream → Option Int × Option Int
  | .both (_, ld) (_, rd) => (ld.newData, rd.newData)
  | .left (k, ld) => (ld.newData, newR.lookup k)
  | .right (k, rd) => (newL.lookup k, rd.newData)

/-- the body of `mergeFold` once the key and the data pair are known -/
def mergeFoldCore (f : Int → MergeArg → Option Int) (acc : AMap Int × List Call) (key : Int)
    (data : Option Int × Option Int) : AMap Int × List Call :=
  let outOpt : Option Int × List Call := match data with
    | (none, none) => (none, [])
    | (some x, none) => (f key (.left x), [(.merge, key)])
    | (none, some y) => (f key (.right y), [(.merge, key)])
    | (some a, some b) => (f key (.both a b), [(.merge, key)])
  match outOpt.1 with
  | none => (acc.1.erase key, acc.2 ++ outOpt.2)
  | some r => (acc.1.insert key r, acc.2 ++ outOpt.2)

theorem mergeFold_core (f : Int → MergeArg → Option Int) (newL newR : AMap Int)
    (acc : AMap Int × List Call) (e : MStream) :
    mergeFold f newL newR acc e = mergeFoldCore f acc e.key (mData newL newR e) := by
  rcases e with ⟨k, ld⟩ | ⟨k, rd⟩ | ⟨⟨k, ld⟩, ⟨k', rd⟩⟩ <;> rfl

theorem mergeFoldCore_eq (f : Int → MergeArg → Option Int) (acc : AMap Int × List Call) (k : Int)
    (a b : Option Int) :
    mergeFoldCore f acc k (a, b) =
      (alter acc.1 k (some (mergeVal f k a b)),
       acc.2 ++ (if a.isSome || b.isSome then [(Role.merge, k)] else [])) := by
  rcases a with _ | x <;> rcases b with _ | y <;> simp only [mergeFoldCore, mergeVal, alter]
  · simp
  · rcases f k (.right y) with _ | r <;> simp
  · rcases f k (.left x) with _ | r <;> simp
  · rcases f k (.both x y) with _ | r <;> simp

theorem mergeFold_eq (f : Int → MergeArg → Option Int) (newL newR : AMap Int)
    (acc : AMap Int × List Call) (e : MStream) :
    mergeFold f newL newR acc e =
      (alter acc.1 e.key (some (mergeVal f e.key (mData newL newR e).1 (mData newL newR e).2)),
       acc.2 ++ (if (mData newL newR e).1.isSome || (mData newL newR e).2.isSome
          then [(Role.merge, e.key)] else [])) := by
  rw [mergeFold_core, ← mergeFoldCore_eq]

/-- in the stream built from the two diffs, the data pair is what the new inputs hold for the key -/
theorem mData_of_mem (oldL oldR newL newR : AMap Int) (hoL : oldL.Sorted) (hoR : oldR.Sorted)
    (hnL : newL.Sorted) (hnR : newR.Sorted) (e : MStream)
    (he : e ∈ mergeDiffs (symmetricDiff oldL newL) (symmetricDiff oldR newR)) :
    mData newL newR e = (newL.lookup e.key, newR.lookup e.key) := by
  rcases (mergeDiffs_mem _ _ (symmetricDiff_ascending oldL newL hoL hnL)
      (symmetricDiff_ascending oldR newR hoR hnR) e).mp he with
    ⟨⟨k, ld⟩, rfl, hx, -⟩ | ⟨⟨k, rd⟩, rfl, hy, -⟩ | ⟨⟨k, ld⟩, ⟨k', rd⟩, rfl, hx, hy, hk⟩
  · obtain ⟨-, h, -⟩ := diff_entry oldL newL hoL hnL k ld hx
    simp [mData, MergeElement.key, h]
  · obtain ⟨-, h, -⟩ := diff_entry oldR newR hoR hnR k rd hy
    simp [mData, MergeElement.key, h]
  · obtain ⟨-, h1, -⟩ := diff_entry oldL newL hoL hnL k ld hx
    obtain ⟨-, h2, -⟩ := diff_entry oldR newR hoR hnR k' rd hy
    simp only at hk
    subst hk
    simp [mData, MergeElement.key, h1, h2]

/-- the point update a stream element causes in the output of `incr_merge` -/
def mergeOp (f : Int → MergeArg → Option Int) (newL newR : AMap Int) (e : MStream) :
    Option (Option Int) :=
  some (mergeVal f e.key (newL.lookup e.key) (newR.lookup e.key))

/-- the key of a stream element is bound in at least one of the new inputs -/
def hasData (newL newR : AMap Int) (e : MStream) : Bool :=
  (newL.lookup e.key).isSome || (newR.lookup e.key).isSome

theorem foldl_mergeFold (f : Int → MergeArg → Option Int) (oldL oldR newL newR : AMap Int)
    (hoL : oldL.Sorted) (hoR : oldR.Sorted) (hnL : newL.Sorted) (hnR : newR.Sorted)
    (o : AMap Int) (c : List Call) :
    (mergeDiffs (symmetricDiff oldL newL) (symmetricDiff oldR newR)).foldl (mergeFold f newL newR) (o, c) =
      (alterFold MergeElement.key (mergeOp f newL newR) o
          (mergeDiffs (symmetricDiff oldL newL) (symmetricDiff oldR newR)),
       c ++ ((mergeDiffs (symmetricDiff oldL newL) (symmetricDiff oldR newR)).filter
          (hasData newL newR)).map fun e => (Role.merge, e.key)) := by
  rw [foldl_congr_mem (mergeFold f newL newR)
    (fun acc e => (alter acc.1 e.key (mergeOp f newL newR e),
      acc.2 ++ (if hasData newL newR e then [(Role.merge, e.key)] else [])))]
  · rw [foldl_pair _ (fun m e => alter m e.key (mergeOp f newL newR e))
      (fun e => if hasData newL newR e then [(Role.merge, e.key)] else []) (fun _ _ => rfl),
      flatMap_ite_singleton]
    rfl
  · intro acc e he
    rw [mergeFold_eq, mData_of_mem oldL oldR newL newR hoL hoR hnL hnR e he]
    rfl

/-! ### the reference merge, key by key -/

/-- the function `mergeSpec'` filter-maps the merged stream with -/
def mergeSpecFn (f : Int → MergeArg → Option Int) :
    MergeElement (Int × Int) (Int × Int) → Option (Int × Int)
  | .left (k, x) => (f k (.left x)).map fun v => (k, v)
  | .right (k, y) => (f k (.right y)).map fun v => (k, v)
  | .both (k, x) (_, y) => (f k (.both x y)).map fun v => (k, v)

theorem mergeSpec'_eq (f : Int → MergeArg → Option Int) (l r : AMap Int) :
    mergeSpec' f l r = (mergeDiffs l r).filterMap (mergeSpecFn f) := by
  unfold mergeSpec'
  have h : ∀ m : AMap Int, (m.map fun kv => (kv.1, kv.2)) = m := fun m => by simp
  rw [h l, h r]
  congr 1

theorem mergeSpecFn_key (f : Int → MergeArg → Option Int) (e : MergeElement (Int × Int) (Int × Int))
    (kv : Int × Int) (h : mergeSpecFn f e = some kv) : kv.1 = e.key := by
  rcases e with ⟨k, x⟩ | ⟨k, y⟩ | ⟨⟨k, x⟩, ⟨k', y⟩⟩ <;> simp only [mergeSpecFn, MergeElement.key] at h ⊢
  · rcases hf : f k (.left x) with _ | v
    · simp [hf] at h
    · simp [hf] at h; rw [← h]
  · rcases hf : f k (.right y) with _ | v
    · simp [hf] at h
    · simp [hf] at h; rw [← h]
  · rcases hf : f k (.both x y) with _ | v
    · simp [hf] at h
    · simp [hf] at h; rw [← h]

theorem mergeSpec'_sorted (f : Int → MergeArg → Option Int) (l r : AMap Int) (hl : l.Sorted)
    (hr : r.Sorted) : (mergeSpec' f l r).Sorted := by
  rw [mergeSpec'_eq]
  exact sorted_filterMap_keyed MergeElement.key _ (mergeSpecFn_key f) _ (mergeDiffs_ascending l r hl hr)

theorem lookup_mergeSpec' (f : Int → MergeArg → Option Int) (l r : AMap Int) (hl : l.Sorted)
    (hr : r.Sorted) (k : Int) :
    (mergeSpec' f l r).lookup k = mergeVal f k (l.lookup k) (r.lookup k) := by
  rw [mergeSpec'_eq]
  have hasc := mergeDiffs_ascending l r hl hr
  have hmem := mergeDiffs_mem l r hl hr
  have hkeyL : ∀ y ∈ l, y.1 = k → l.lookup k = some y.2 := fun y hy hk => by
    rw [← hk]; exact lookup_of_mem l hl y hy
  have hkeyR : ∀ y ∈ r, y.1 = k → r.lookup k = some y.2 := fun y hy hk => by
    rw [← hk]; exact lookup_of_mem r hr y hy
  rcases hL : l.lookup k with _ | x <;> rcases hR : r.lookup k with _ | y
  · rw [lookup_filterMap_keyed_of_not_mem MergeElement.key _ (mergeSpecFn_key f)]
    · rfl
    · intro e he hk
      rcases (hmem e).mp he with ⟨x, rfl, hx, -⟩ | ⟨y, rfl, hy, -⟩ | ⟨x, y, rfl, hx, -, -⟩
      · have := hkeyL x hx hk; rw [hL] at this; simp at this
      · have := hkeyR y hy hk; rw [hR] at this; simp at this
      · have := hkeyL x hx hk; rw [hL] at this; simp at this
  · have hy := (lookup_eq_some_iff_mem r hr k y).mp hR
    have he : MergeElement.right (k, y) ∈ mergeDiffs l r := by
      refine (hmem _).mpr (.inr (.inl ⟨(k, y), rfl, hy, ?_⟩))
      intro x hx hk
      have := hkeyL x hx hk; rw [hL] at this; simp at this
    have := lookup_filterMap_keyed_of_mem MergeElement.key _ (mergeSpecFn_key f) _ hasc _ he
    simp only [MergeElement.key] at this
    rw [this]
    simp only [mergeSpecFn, mergeVal]
    rcases f k (.right y) with _ | v <;> rfl
  · have hx := (lookup_eq_some_iff_mem l hl k x).mp hL
    have he : MergeElement.left (k, x) ∈ mergeDiffs l r := by
      refine (hmem _).mpr (.inl ⟨(k, x), rfl, hx, ?_⟩)
      intro y hy hk
      have := hkeyR y hy hk; rw [hR] at this; simp at this
    have := lookup_filterMap_keyed_of_mem MergeElement.key _ (mergeSpecFn_key f) _ hasc _ he
    simp only [MergeElement.key] at this
    rw [this]
    simp only [mergeSpecFn, mergeVal]
    rcases f k (.left x) with _ | v <;> rfl
  · have hx := (lookup_eq_some_iff_mem l hl k x).mp hL
    have hy := (lookup_eq_some_iff_mem r hr k y).mp hR
    have he : MergeElement.both (k, x) (k, y) ∈ mergeDiffs l r :=
      (hmem _).mpr (.inr (.inr ⟨(k, x), (k, y), rfl, hx, hy, rfl⟩))
    have := lookup_filterMap_keyed_of_mem MergeElement.key _ (mergeSpecFn_key f) _ hasc _ he
    simp only [MergeElement.key] at this
    rw [this]
    simp only [mergeSpecFn, mergeVal]
    rcases f k (.both x y) with _ | v <;> rfl

/-- every entry of either diff shows up in the merged stream under its key -/
theorem stream_covers_left {β γ : Type} (ld : List (Int × β)) (rd : List (Int × γ))
    (hl : List.Pairwise (· < ·) (ld.map (·.1))) (hr : List.Pairwise (· < ·) (rd.map (·.1)))
    (x : Int × β) (hx : x ∈ ld) : ∃ e ∈ mergeDiffs ld rd, e.key = x.1 := by
  by_cases h : ∃ y ∈ rd, y.1 = x.1
  · obtain ⟨y, hy, hk⟩ := h
    exact ⟨.both x y, (mergeDiffs_mem ld rd hl hr _).mpr (.inr (.inr ⟨x, y, rfl, hx, hy, hk.symm⟩)), rfl⟩
  · exact ⟨.left x, (mergeDiffs_mem ld rd hl hr _).mpr
      (.inl ⟨x, rfl, hx, fun y hy hk => h ⟨y, hy, hk⟩⟩), rfl⟩

theorem stream_covers_right {β γ : Type} (ld : List (Int × β)) (rd : List (Int × γ))
    (hl : List.Pairwise (· < ·) (ld.map (·.1))) (hr : List.Pairwise (· < ·) (rd.map (·.1)))
    (y : Int × γ) (hy : y ∈ rd) : ∃ e ∈ mergeDiffs ld rd, e.key = y.1 := by
  by_cases h : ∃ x ∈ ld, x.1 = y.1
  · obtain ⟨x, hx, hk⟩ := h
    exact ⟨.both x y, (mergeDiffs_mem ld rd hl hr _).mpr (.inr (.inr ⟨x, y, rfl, hx, hy, hk⟩)), hk⟩
  · exact ⟨.right y, (mergeDiffs_mem ld rd hl hr _).mpr
      (.inr (.inl ⟨y, rfl, hy, fun x hx hk => h ⟨x, hx, hk⟩⟩)), rfl⟩

/-- a key in the merged stream is a key of one of the two diffs -/
theorem stream_key_mem {β γ : Type} (ld : List (Int × β)) (rd : List (Int × γ))
    (hl : List.Pairwise (· < ·) (ld.map (·.1))) (hr : List.Pairwise (· < ·) (rd.map (·.1)))
    (e : MergeElement (Int × β) (Int × γ)) (he : e ∈ mergeDiffs ld rd) :
    (∃ x ∈ ld, x.1 = e.key) ∨ (∃ y ∈ rd, y.1 = e.key) := by
  rcases (mergeDiffs_mem ld rd hl hr e).mp he with ⟨x, rfl, hx, -⟩ | ⟨y, rfl, hy, -⟩ |
      ⟨x, y, rfl, hx, -, -⟩
  · exact .inl ⟨x, hx, rfl⟩
  · exact .inr ⟨y, hy, rfl⟩
  · exact .inl ⟨x, hx, rfl⟩

/-- core lemma for `incr_merge` -/
theorem merge_diff (f : Int → MergeArg → Option Int) (oldL oldR newL newR : AMap Int)
    (hoL : oldL.Sorted) (hoR : oldR.Sorted) (hnL : newL.Sorted) (hnR : newR.Sorted) :
    alterFold MergeElement.key (mergeOp f newL newR) (mergeSpec' f oldL oldR)
      (mergeDiffs (symmetricDiff oldL newL) (symmetricDiff oldR newR)) = mergeSpec' f newL newR := by
  have hla := symmetricDiff_ascending oldL newL hoL hnL
  have hra := symmetricDiff_ascending oldR newR hoR hnR
  have hso := mergeSpec'_sorted f oldL oldR hoL hoR
  apply ext_lookup _ _ (sorted_alterFold _ _ _ hso _) (mergeSpec'_sorted f newL newR hnL hnR)
  intro k
  rw [lookup_mergeSpec' f newL newR hnL hnR]
  by_cases hk : ∃ e ∈ mergeDiffs (symmetricDiff oldL newL) (symmetricDiff oldR newR), e.key = k
  · obtain ⟨e, he, rfl⟩ := hk
    rw [lookup_alterFold_of_mem MergeElement.key _ _ hso _
      (pairwise_ne_of_lt MergeElement.key _ (mergeDiffs_ascending _ _ hla hra)) e he]
    rfl
  · rw [lookup_alterFold_of_not_mem MergeElement.key _ _ _ k (fun e he hek => hk ⟨e, he, hek⟩),
      lookup_mergeSpec' f oldL oldR hoL hoR]
    have h1 : oldL.lookup k = newL.lookup k := by
      apply diff_no_entry oldL newL hoL hnL k
      intro x hx hxk
      obtain ⟨e, he, hek⟩ := stream_covers_left _ _ hla hra x hx
      exact hk ⟨e, he, hek.trans hxk⟩
    have h2 : oldR.lookup k = newR.lookup k := by
      apply diff_no_entry oldR newR hoR hnR k
      intro y hy hyk
      obtain ⟨e, he, hek⟩ := stream_covers_right _ _ hla hra y hy
      exact hk ⟨e, he, hek.trans hyk⟩
    rw [h1, h2]

/-- the previous inputs and output the closure works from (`unwrap_or_default` on a fresh node) -/
def mergeOld (old : Option (AMap Int × AMap Int × AMap Int)) : AMap Int × AMap Int × AMap Int :=
  old.getD ([], [], [])

/-- equation of the closure -/
theorem mergeStep_eq (f : Int → MergeArg → Option Int) (old : Option (AMap Int × AMap Int × AMap Int))
    (newL newR : AMap Int) :
    mergeStep f old newL newR =
      (((mergeDiffs (symmetricDiff (mergeOld old).1 newL) (symmetricDiff (mergeOld old).2.1 newR)).foldl
          (mergeFold f newL newR) ((mergeOld old).2.2, [])).1,
       !(mergeDiffs (symmetricDiff (mergeOld old).1 newL) (symmetricDiff (mergeOld old).2.1 newR)).isEmpty,
       ((mergeDiffs (symmetricDiff (mergeOld old).1 newL) (symmetricDiff (mergeOld old).2.1 newR)).foldl
          (mergeFold f newL newR) ((mergeOld old).2.2, [])).2) := rfl

/-- the state the wrapper holds: sorted previous inputs with their specified output (a fresh node
counts as two empty inputs and an empty output) -/
def MInv (f : Int → MergeArg → Option Int) (old : Option (AMap Int × AMap Int × AMap Int)) : Prop :=
  (mergeOld old).1.Sorted ∧ (mergeOld old).2.1.Sorted ∧
    (mergeOld old).2.2 = mergeSpec' f (mergeOld old).1 (mergeOld old).2.1

theorem MInv_none (f : Int → MergeArg → Option Int) : MInv f none :=
  ⟨sorted_nil, sorted_nil, rfl⟩

theorem mergeStep_full (f : Int → MergeArg → Option Int) (old : Option (AMap Int × AMap Int × AMap Int))
    (hold : MInv f old) (newL newR : AMap Int) (hnL : newL.Sorted) (hnR : newR.Sorted) :
    mergeStep f old newL newR =
      (mergeSpec' f newL newR,
       !(mergeDiffs (symmetricDiff (mergeOld old).1 newL) (symmetricDiff (mergeOld old).2.1 newR)).isEmpty,
       ((mergeDiffs (symmetricDiff (mergeOld old).1 newL) (symmetricDiff (mergeOld old).2.1 newR)).filter
          (hasData newL newR)).map fun e => (Role.merge, e.key)) := by
  obtain ⟨hoL, hoR, hout⟩ := hold
  rw [mergeStep_eq, foldl_mergeFold f _ _ newL newR hoL hoR hnL hnR, hout,
    merge_diff f _ _ newL newR hoL hoR hnL hnR]
  simp

theorem mergeStep_out (f : Int → MergeArg → Option Int) (old : Option (AMap Int × AMap Int × AMap Int))
    (hold : MInv f old) (newL newR : AMap Int) (hnL : newL.Sorted) (hnR : newR.Sorted) :
    (mergeStep f old newL newR).1 = mergeSpec' f newL newR := by
  rw [mergeStep_full f old hold newL newR hnL hnR]

/-- the run of `incr_merge` over a sequence of pairs of inputs, from a fresh node -/
def mergeRun (f : Int → MergeArg → Option Int) (inputs : List (AMap Int × AMap Int)) :
    List (AMap Int × Bool × List Call) :=
  mealyRun (fun old (lr : AMap Int × AMap Int) => mergeStep f old lr.1 lr.2)
    (fun lr res => some (lr.1, lr.2, res.1)) none inputs

theorem mergeRun_out (f : Int → MergeArg → Option Int) (inputs : List (AMap Int × AMap Int))
    (hs : ∀ lr ∈ inputs, lr.1.Sorted ∧ lr.2.Sorted) :
    (mergeRun f inputs).map (·.1) = inputs.map fun lr => mergeSpec' f lr.1 lr.2 := by
  apply mealyRun_map (fun old (lr : AMap Int × AMap Int) => mergeStep f old lr.1 lr.2)
    (fun lr res => some (lr.1, lr.2, res.1)) (fun r => r.1) (fun lr => mergeSpec' f lr.1 lr.2)
    (MInv f) (fun lr => lr.1.Sorted ∧ lr.2.Sorted) _ none (MInv_none f) inputs hs
  intro s lr hs hlr
  have := mergeStep_out f s hs lr.1 lr.2 hlr.1 hlr.2
  exact ⟨this, hlr.1, hlr.2, this⟩

theorem mergeRun_succ (f : Int → MergeArg → Option Int) (inputs : List (AMap Int × AMap Int)) (n : Nat)
    (h : n + 1 < inputs.length) :
    (mergeRun f inputs)[n + 1]'(by simpa [mergeRun] using h) =
      mergeStep f (some (inputs[n].1, inputs[n].2, ((mergeRun f inputs)[n]'(by
        simp [mergeRun]; omega)).1)) inputs[n + 1].1 inputs[n + 1].2 :=
  mealyRun_getElem_succ (fun old (lr : AMap Int × AMap Int) => mergeStep f old lr.1 lr.2)
    (fun lr res => some (lr.1, lr.2, res.1)) none inputs n h

/-! ## work proportional to the change (C17) -/

/-- the keys `incr_filter_mapi` calls the user function for: exactly the keys bound in the new input
whose binding is not the one the old input had -/
theorem fmCalls_mem (a m : AMap Int) (ha : a.Sorted) (hm : m.Sorted) (c : Call) :
    c ∈ ((symmetricDiff a m).filter isNew).map (fun e => (Role.fn, e.1)) ↔
      c.1 = Role.fn ∧ ∃ v, m.lookup c.2 = some v ∧ a.lookup c.2 ≠ some v := by
  rcases c with ⟨role, k⟩
  simp only [List.mem_map, List.mem_filter, Prod.mk.injEq]
  constructor
  · rintro ⟨⟨k', e⟩, ⟨he, hnew⟩, rfl, rfl⟩
    refine ⟨rfl, ?_⟩
    rcases (symmetricDiff_mem a m ha hm k' e).mp he with ⟨x, h1, h2, rfl⟩ | ⟨y, h1, h2, rfl⟩ |
        ⟨x, y, h1, h2, h3, rfl⟩
    · simp [isNew] at hnew
    · exact ⟨y, h2, by simp [h1]⟩
    · exact ⟨y, h2, by simp [h1, h3]⟩
  · rintro ⟨rfl, v, h1, h2⟩
    rcases hA : a.lookup k with _ | x
    · exact ⟨(k, .right v), ⟨(symmetricDiff_mem a m ha hm k _).mpr (.inr (.inl ⟨v, hA, h1, rfl⟩)), rfl⟩,
        rfl, rfl⟩
    · have hxv : x ≠ v := fun h => h2 (by rw [hA, h])
      exact ⟨(k, .unequal x v),
        ⟨(symmetricDiff_mem a m ha hm k _).mpr (.inr (.inr ⟨x, v, hA, h1, hxv, rfl⟩)), rfl⟩, rfl, rfl⟩

/-- the keys of the calls are strictly ascending: at most one call per key -/
theorem fmCalls_ascending (a m : AMap Int) (ha : a.Sorted) (hm : m.Sorted) :
    List.Pairwise (· < ·)
      ((((symmetricDiff a m).filter isNew).map (fun e => (Role.fn, e.1))).map (·.2)) := by
  rw [List.map_map]
  exact List.Pairwise.sublist (List.filter_sublist.map _) (symmetricDiff_ascending a m ha hm)

theorem fmCalls_length_le (a m : AMap Int) :
    (((symmetricDiff a m).filter isNew).map (fun e => (Role.fn, e.1))).length ≤
      (symmetricDiff a m).length := by
  rw [List.length_map]; exact List.length_filter_le _ _

/-- the keys of the calls of the unordered fold are strictly ascending -/
theorem diffCall_snd (e : Int × DiffElement Int) : (diffCall e).2 = e.1 := by
  rcases e with ⟨k, _ | _ | _⟩ <;> rfl

theorem ufCalls_ascending (a m : AMap Int) (ha : a.Sorted) (hm : m.Sorted) :
    List.Pairwise (· < ·) (((symmetricDiff a m).map diffCall).map (·.2)) := by
  rw [List.map_map]
  have : ((fun x : Call => x.2) ∘ diffCall) = fun e => e.1 := funext diffCall_snd
  rw [this]
  exact symmetricDiff_ascending a m ha hm

/-! ### `incr_merge` -/

theorem mergeDiffs_length_le {β γ : Type} (l : List (Int × β)) (r : List (Int × γ)) :
    (mergeDiffs l r).length ≤ l.length + r.length := by
  rw [mergeDiffs_eq_ref]
  fun_induction refMerge l r with
  | case1 r => simp
  | case2 l h => simp
  | case3 x l y r h ih => simp at ih ⊢; omega
  | case4 x l y r h1 h2 ih => simp at ih ⊢; omega
  | case5 x l y r h1 h2 ih => simp at ih ⊢; omega

/-- the closure of `incr_merge` in terms of point updates; needs only sorted inputs -/
theorem mergeStep_alter (f : Int → MergeArg → Option Int)
    (old : Option (AMap Int × AMap Int × AMap Int))
    (hoL : (mergeOld old).1.Sorted) (hoR : (mergeOld old).2.1.Sorted)
    (newL newR : AMap Int) (hnL : newL.Sorted) (hnR : newR.Sorted) :
    mergeStep f old newL newR =
      (alterFold MergeElement.key (mergeOp f newL newR) (mergeOld old).2.2
        (mergeDiffs (symmetricDiff (mergeOld old).1 newL) (symmetricDiff (mergeOld old).2.1 newR)),
       !(mergeDiffs (symmetricDiff (mergeOld old).1 newL) (symmetricDiff (mergeOld old).2.1 newR)).isEmpty,
       ((mergeDiffs (symmetricDiff (mergeOld old).1 newL) (symmetricDiff (mergeOld old).2.1 newR)).filter
          (hasData newL newR)).map fun e => (Role.merge, e.key)) := by
  rw [mergeStep_eq, foldl_mergeFold f _ _ newL newR hoL hoR hnL hnR]
  simp

/-- every key in the merged stream differs between the old and new left input, or between the old
and new right input -/
theorem stream_key_differs (oldL oldR newL newR : AMap Int) (hoL : oldL.Sorted) (hoR : oldR.Sorted)
    (hnL : newL.Sorted) (hnR : newR.Sorted) (e : MStream)
    (he : e ∈ mergeDiffs (symmetricDiff oldL newL) (symmetricDiff oldR newR)) :
    oldL.lookup e.key ≠ newL.lookup e.key ∨ oldR.lookup e.key ≠ newR.lookup e.key := by
  rcases stream_key_mem _ _ (symmetricDiff_ascending oldL newL hoL hnL)
      (symmetricDiff_ascending oldR newR hoR hnR) e he with ⟨⟨k, d⟩, hx, hk⟩ | ⟨⟨k, d⟩, hy, hk⟩
  · simp only at hk; subst hk
    exact .inl (diff_entry oldL newL hoL hnL _ d hx).2.2
  · simp only at hk; subst hk
    exact .inr (diff_entry oldR newR hoR hnR _ d hy).2.2

theorem mergeCalls_ascending {β γ : Type} (ld : List (Int × β)) (rd : List (Int × γ))
    (hl : List.Pairwise (· < ·) (ld.map (·.1))) (hr : List.Pairwise (· < ·) (rd.map (·.1)))
    (p : MergeElement (Int × β) (Int × γ) → Bool) :
    List.Pairwise (· < ·)
      ((((mergeDiffs ld rd).filter p).map fun e => (Role.merge, e.key)).map (·.2)) := by
  rw [List.map_map]
  exact List.Pairwise.sublist (List.filter_sublist.map _) (mergeDiffs_ascending ld rd hl hr)

/-- equal inputs: the stream is empty, nothing is called, output and flag say "unchanged" -/
theorem mergeStep_same (f : Int → MergeArg → Option Int) (l r o : AMap Int) (hl : l.Sorted)
    (hr : r.Sorted) : mergeStep f (some (l, r, o)) l r = (o, false, []) := by
  rw [mergeStep_eq]
  simp only [mergeOld, Option.getD_some, symmetricDiff_self l hl, symmetricDiff_self r hr]
  rfl

/-- on a fresh node every key of either input is in the stream, once, and has data -/
theorem mergeInitial_stream_key (l r : AMap Int) (hl : l.Sorted) (hr : r.Sorted) (k : Int) :
    k ∈ (mergeDiffs (symmetricDiff [] l) (symmetricDiff [] r)).map MergeElement.key ↔
      k ∈ l.keys ∨ k ∈ r.keys := by
  have hla := symmetricDiff_ascending [] l sorted_nil hl
  have hra := symmetricDiff_ascending [] r sorted_nil hr
  constructor
  · intro hk
    obtain ⟨e, he, rfl⟩ := List.mem_map.mp hk
    rcases stream_key_mem _ _ hla hra e he with ⟨⟨k, d⟩, hx, hk⟩ | ⟨⟨k, d⟩, hy, hk⟩
    · simp only at hk; subst hk
      obtain ⟨h1, h2, h3⟩ := diff_entry [] l sorted_nil hl _ d hx
      left
      apply (lookup_isSome_iff_mem_keys l _).mp
      rcases h : l.lookup e.key with _ | v
      · rw [h] at h3; simp at h3
      · rfl
    · simp only at hk; subst hk
      obtain ⟨h1, h2, h3⟩ := diff_entry [] r sorted_nil hr _ d hy
      right
      apply (lookup_isSome_iff_mem_keys r _).mp
      rcases h : r.lookup e.key with _ | v
      · rw [h] at h3; simp at h3
      · rfl
  · rintro (hk | hk)
    · have h := (lookup_isSome_iff_mem_keys l k).mpr hk
      rcases hv : l.lookup k with _ | v
      · rw [hv] at h; simp at h
      · have hx : (k, DiffElement.right v) ∈ symmetricDiff [] l :=
          (symmetricDiff_mem [] l sorted_nil hl k _).mpr (.inr (.inl ⟨v, rfl, hv, rfl⟩))
        obtain ⟨e, he, hek⟩ := stream_covers_left _ _ hla hra _ hx
        exact List.mem_map.mpr ⟨e, he, hek⟩
    · have h := (lookup_isSome_iff_mem_keys r k).mpr hk
      rcases hv : r.lookup k with _ | v
      · rw [hv] at h; simp at h
      · have hy : (k, DiffElement.right v) ∈ symmetricDiff [] r :=
          (symmetricDiff_mem [] r sorted_nil hr k _).mpr (.inr (.inl ⟨v, rfl, hv, rfl⟩))
        obtain ⟨e, he, hek⟩ := stream_covers_right _ _ hla hra _ hy
        exact List.mem_map.mpr ⟨e, he, hek⟩

/-- on a fresh node the user function is called for every element of the stream -/
theorem mergeStep_initial_calls (f : Int → MergeArg → Option Int) (l r : AMap Int) (hl : l.Sorted)
    (hr : r.Sorted) :
    (mergeStep f none l r).2.2 =
      (mergeDiffs (symmetricDiff [] l) (symmetricDiff [] r)).map fun e => (Role.merge, e.key) := by
  rw [mergeStep_alter f none sorted_nil sorted_nil l r hl hr]
  show List.map _ (List.filter (hasData l r)
    (mergeDiffs (symmetricDiff [] l) (symmetricDiff [] r))) = _
  congr 1
  rw [List.filter_eq_self]
  intro e he
  have hk : e.key ∈ l.keys ∨ e.key ∈ r.keys :=
    (mergeInitial_stream_key l r hl hr e.key).mp (List.mem_map.mpr ⟨e, he, rfl⟩)
  simp only [hasData, Bool.or_eq_true]
  rcases hk with hk | hk
  · exact .inl ((lookup_isSome_iff_mem_keys l _).mpr hk)
  · exact .inr ((lookup_isSome_iff_mem_keys r _).mpr hk)

/-! ## `did_change = false` only for equal inputs -/

theorem getElem_of_map_eq {α β γ : Type} (f : α → γ) (g : β → γ) (l : List α) (l' : List β)
    (h : l.map f = l'.map g) (n : Nat) (h1 : n < l.length) (h2 : n < l'.length) :
    f l[n] = g l'[n] := by
  have := congrArg (fun x => x[n]?) h
  simpa [h1, h2] using this

theorem ufoldStep_flag_false {ρ : Type} (u : UFold ρ) (init : ρ) (a m : AMap Int) (o : ρ)
    (ha : a.Sorted) (hm : m.Sorted) (h : (ufoldStep u init (some (a, o)) m).2.1 = false) : a = m := by
  by_cases hc : u.revertToInitWhenEmpty = false ∨ m ≠ []
  · rw [ufoldStep_diff u init a o m hc] at h
    simp only [Bool.not_eq_false', List.isEmpty_iff] at h
    exact (symmetricDiff_nil_iff a m ha hm).mp h
  · have h1 : u.revertToInitWhenEmpty = true := by
      cases hr : u.revertToInitWhenEmpty
      · exact absurd (.inl hr) hc
      · rfl
    have h2 : m = [] := by
      by_cases hm' : m = []
      · exact hm'
      · exact absurd (.inr hm') hc
    subst h2
    rw [ufoldStep_revert u init a o h1] at h
    simpa using h

theorem mergeStep_flag_false (f : Int → MergeArg → Option Int) (oldL oldR o newL newR : AMap Int)
    (hoL : oldL.Sorted) (hoR : oldR.Sorted) (hnL : newL.Sorted) (hnR : newR.Sorted)
    (h : (mergeStep f (some (oldL, oldR, o)) newL newR).2.1 = false) : oldL = newL ∧ oldR = newR := by
  rw [mergeStep_eq] at h
  simp only [mergeOld, Option.getD_some, Bool.not_eq_false', List.isEmpty_iff] at h
  have hla := symmetricDiff_ascending oldL newL hoL hnL
  have hra := symmetricDiff_ascending oldR newR hoR hnR
  constructor
  · apply (symmetricDiff_nil_iff oldL newL hoL hnL).mp
    apply List.eq_nil_iff_forall_not_mem.mpr
    intro x hx
    obtain ⟨e, he, -⟩ := stream_covers_left _ _ hla hra x hx
    rw [h] at he; simp at he
  · apply (symmetricDiff_nil_iff oldR newR hoR hnR).mp
    apply List.eq_nil_iff_forall_not_mem.mpr
    intro y hy
    obtain ⟨e, he, -⟩ := stream_covers_right _ _ hla hra y hy
    rw [h] at he; simp at he

/-! ## the instances `incr_map`, `incr_mapi` -/

theorem filterMapSpec_mapi (g : Int → Int → Int) (m : AMap Int) :
    filterMapSpec (fun k v => some (g k v)) m = m.map fun kv => (kv.1, g kv.1 kv.2) := by
  unfold filterMapSpec filterMapCollect
  simp

end IncrVerif.Proofs.Ops
