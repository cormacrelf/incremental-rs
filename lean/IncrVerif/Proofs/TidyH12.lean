import IncrVerif.Proofs.TidyH9
/-!
# T2b, part 3: exact simulation of one `recomputeOne` of a node that is not a map_with_old node, and of the API actions
other than `create` and `stabilise`
-/
namespace IncrVerif.Proofs.TidyH.WT
open IncrVerif.Engine IncrVerif.Proofs IncrVerif.Proofs.Step IncrVerif.Proofs.Sched IncrVerif.Proofs.Quiet
open IncrVerif.Proofs.MapOldH

variable {sp : Nat → Val → Val}

/-- the exact simulation of one `recomputeOne` of a node that is not a map_with_old node: `MapOldH.recomputeOne_sim` for any outcome -/
theorem recomputeOne_sim {env : Env} {G : Nat → Prop} {s s' : State} {fuel n : Nat} {r : Except Panic (Option Nat)}
    (F : WFrag env G s) (hfr : Fr s) (hn : n < s.nodes.size)
    (hk : ∀ g i, (s.nodeD n).kind ≠ .mapWithOld g i)
    (hvar : ∀ c, (s.nodeD n).kind = .var c → ∃ vc, s.vars[c]? = some vc)
    (hkids : ∀ a, a ∈ kidsW (s.nodeD n).kind → (s.value env a).isSome = true)
    (h : (recomputeOne env fuel n).run.run s = (r, s')) :
    (recomputeOne (virtEnv env sp) fuel n).run.run (virt s) = (r, virt s') ∧ Fr s' := by
  obtain ⟨v, evs, ha, hv⟩ := recomputeOne_both (sp := sp) (fuel := fuel) F hn hk hvar hkids
  rw [ha] at h
  rw [hv, ← virt_started, ← virt_logged]
  exact Sim.maybeChangeValue env fuel n v _ ((hfr.started n).logged evs) r s' h

theorem actCalc : Hist.ActCalc virt (fun s => SimAt s) :=
  (NodeSim.actCalc blind).congr virt_eq fun _ _ _ _ => simAt_iff

/-- the virtual engine runs the same action, with the same outcome -/
theorem Act.simAt_stepAction {s : State} {a : Action} {C : Val → Prop} (env : Env) (sp : Nat → Val → Val)
    (tk : Array Nat) (hR : WPlain C a) :
    SimAt s (Engine.stepAction env a tk) (Engine.stepAction (virtEnv env sp) a tk) :=
  actCalc.plain hR.plain _ _ tk s

end IncrVerif.Proofs.TidyH.WT
