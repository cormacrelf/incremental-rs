import IncrVerif.Proofs.CutH4
-- `Safe` and the primitives of the notification walk for ARBITRARY cutoffs; overview in Props/C06History.lean
/-!
# Safety of the drain for ARBITRARY cutoffs: `Safe`, and the primitives of the notification walk

The total-correctness calculus `Runs`, `bind_err_inv`, `childChanged_runs`, `rchInsert_safe_run`, `ParentSafe` of
`Proofs/Sched10.lean` are used as they are (they mention no definition that differs here).  `Safe` has one clause more than
`Sched.Safe`: `dep` (the input of a `dependOn` cutoff exists), without which `should_cutoff` panics at a `model:` site; the
lemmas about `KInv` are stated for `CutH.KInv`, which also says that the walk logs nothing.
-/
namespace IncrVerif.Proofs.CutH
open IncrVerif.Engine IncrVerif.Proofs IncrVerif.Proofs.Step IncrVerif.Proofs.Sched

structure Safe (s : State) : Prop where
  height : ∀ n, s.isNecessary n = true → (s.nodeD n).height ≤ s.rch.maxAllowed
  scope : ∀ n, s.isNecessary n = true → (s.nodeD n).createdIn = .top
  /-- the input of a `dependOn` cutoff exists -/
  dep : ∀ m i, (s.nodeD m).cutoff = .dependOn i → i < s.nodes.size

/-- `Safe` only depends on the graph, the number of nodes and the number of buckets -/
theorem Safe.transfer {s s' : State} (S : Safe s) (hsh : ∀ m, SameShape (s.nodeD m) (s'.nodeD m))
    (hq : s'.rch.queues.size = s.rch.queues.size) (hsz : s'.nodes.size = s.nodes.size) : Safe s' := by
  refine ⟨fun n hn => ?_, fun n hn => ?_, fun m i h => ?_⟩
  · rw [isNecessary_of_shape hsh] at hn
    rw [(hsh n).height, maxAllowed_congr hq]; exact S.height n hn
  · rw [isNecessary_of_shape hsh] at hn
    rw [(hsh n).createdIn]; exact S.scope n hn
  · rw [(hsh m).cutoff] at h
    rw [hsz]; exact S.dep m i h

theorem Safe.frame {s s' : State} (S : Safe s) (f : Frame s s') : Safe s' :=
  S.transfer f.shape f.qsize f.size

theorem KInv.maxAllowed {T t : State} {P : List Nat} (k : KInv T P t) :
    t.rch.maxAllowed = T.rch.maxAllowed := maxAllowed_congr k.qsize

/-- `insert p` for a not yet queued parent `p`, during the walk -/
theorem KInv.insert_run {env : Env} {T t : State} {P : List Nat} {n p : Nat} {nd : Node}
    (k : KInv T P t) (hp : ParentSafe env T n p) (hmem : p ∈ P) (hnd : t.nodes[p]? = some nd)
    (hnot : nd.inRch = false) :
    (rchInsert p).run.run t = (.ok (), IncrVerif.Proofs.inserted p nd.height t) ∧
      KInv T P (IncrVerif.Proofs.inserted p nd.height t) := by
  have e : t.nodeD p = nd := nodeD_of_some hnd
  have hh : nd.height = (T.nodeD p).height := by rw [← e]; exact (k.q.node p).height
  have h0 : 0 ≤ nd.height := by rw [hh]; exact hp.h0
  have hmax : nd.height ≤ t.rch.maxAllowed := by rw [hh, k.maxAllowed]; exact hp.hmax
  exact ⟨rchInsert_safe_run hnd hnot (hp.needs k.q) h0 hmax, k.inserted hp.ok hmem hnd hnot h0 hmax⟩

/-- `parent_iter_can_recompute_now p0 n` for a not queued parent `p0` of `n`, during the walk: no
assertion fails, no lookup fails -/
theorem KInv.picrn_run {env : Env} {T t : State} {P : List Nat} {n p0 : Nat} {pn : Node}
    (k : KInv T P t) (hp : ParentSafe env T n p0) (hmem : p0 ∈ P) (hn : n < T.nodes.size)
    (hpn : t.nodes[p0]? = some pn) (hnot : pn.inRch = false) :
    ∃ b t', (parentIterCanRecomputeNow p0 n).run.run t = (.ok b, t') ∧ KInv T P t' := by
  have e : t.nodeD p0 = pn := nodeD_of_some hpn
  have ok := hp.ok.quiet k.q
  have hv : pn.valid = true := by rw [← e]; exact ok.valid
  have hk? : pn.kind? = some pn.kind := by simp [Node.kind?, hv]
  have hkind : pn.kind = (T.nodeD p0).kind := by rw [← e]; exact (k.q.node p0).kind
  have hscope : pn.createdIn = .top := by rw [← e, (k.q.node p0).createdIn]; exact hp.scope
  have hnt : n < t.nodes.size := by rw [k.q.size]; exact hn
  have hchild : n ∈ kids pn.kind := by rw [hkind]; exact hp.child
  have hcan : ∃ can, canRecomputeNow t pn pn.kind (t.nodeD n).height (minHeightOf t) = .ok can := by
    have hst : StaticKind env pn.kind := by rw [hkind]; exact hp.ok.kind
    cases hkd : pn.kind <;> rw [hkd] at hchild hst
    case const => cases hchild
    case var => cases hchild
    case fold => exact ⟨_, rfl⟩
    case map f args =>
      simp only [canRecomputeNow]
      split
      · exact ⟨_, rfl⟩
      · rw [hscope]; exact ⟨_, rfl⟩
    all_goals exact hst.elim
  obtain ⟨can, hcan⟩ := hcan
  rw [Step.picrn_run, hpn]
  simp only [hk?, some_of_lt hnt, hcan]
  by_cases h1 : (can || decide (pn.height ≤ minHeightOf t)) = true
  · rw [if_pos h1]; exact ⟨_, _, rfl, k.withMinHeight⟩
  rw [if_neg h1]
  have k' := k.withMinHeight
  have hneeds : t.needsToBeComputed p0 = true := hp.needs k.q
  rw [if_neg (by rintro ⟨-, h⟩; rw [hneeds] at h; cases h),
    if_neg (by rintro ⟨-, h⟩; rw [hnot] at h; cases h)]
  obtain ⟨hrun, k''⟩ := k'.insert_run hp hmem (show (Step.withMinHeight t).nodes[p0]? = some pn from hpn) hnot
  rw [hrun]
  exact ⟨_, _, rfl, k''⟩

end IncrVerif.Proofs.CutH
