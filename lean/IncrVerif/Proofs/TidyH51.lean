import IncrVerif.Proofs.TidyH50
import IncrVerif.Proofs.TidyH44
import IncrVerif.Proofs.TidyH45
import IncrVerif.Proofs.Quiet25
import IncrVerif.Proofs.TidyH47
/-!
# T4, part 4: `stabilise` RETURNS on states of fragment X1 (pending observers allowed) and keeps the extra invariant
-/
namespace IncrVerif.Proofs.TidyH.XT
open IncrVerif.Engine IncrVerif.Driver IncrVerif.Proofs IncrVerif.Proofs.Step IncrVerif.Proofs.Sched
open IncrVerif.Proofs.ExpertH IncrVerif.Proofs.ExpertH.QR IncrVerif.Proofs.TidyH.XT.XR

/-- **`stabilise` returns** (fragment X1, enough fuel), and the extra invariant is kept. -/
theorem stabilise_totalX {env : Env} {rk : Nat → Nat} {N fuel : Nat} {s : State} (Q : QInvX env rk s)
    (T : TInvX N s) (hf : 3 * s.nodes.size + 4 ≤ fuel) :
    ∃ s', (stabilise env fuel).run.run s = (.ok (), s') ∧ TInvX N s' ∧ s'.nodes.size = s.nodes.size ∧
      s'.vars.size = s.vars.size ∧ s'.observers.size = s.observers.size := by
  have Qv := Q.q
  -- the state with the status set
  obtain ⟨s0, hs0⟩ : ∃ s0 : State, s0 = { s with status := .stabilising } := ⟨_, rfl⟩
  have hs0v : virt s0 = { virt s with status := .stabilising } := by rw [hs0]; rfl
  have hsz0 : s0.nodes.size = s.nodes.size := by rw [hs0]
  have F0 : XFrag env s0 := by
    rw [hs0]; exact ⟨Q.frag.pc, Q.frag.kind, Q.frag.valid, Q.frag.xrec, Q.frag.xok⟩
  have A0 : QR.AhhEmpty s0 := by
    rw [hs0]; exact ⟨Q.ahh.length, Q.ahh.buckets, Q.ahh.marks⟩
  have hp0 : s0.propagateInvalidity = [] := by rw [hs0]; exact Q.pinv
  have S0 : SInv (virtEnv env) rk (virt s0) (virt s0).newObservers (virt s0).disallowedObservers := by
    rw [hs0v]
    exact ⟨Qv.struct.congr (SameG.of_nodes rfl rfl rfl rfl rfl),
      ⟨Qv.obs.inRange, Qv.obs.mem, Qv.obs.created, Qv.obs.newIn, Qv.obs.dis, Qv.obs.disIn, Qv.obs.disNodup⟩,
      Qv.pinv, Qv.handlers⟩
  have hb0 : HBd (virt s0) allClosed := X4f.hbd_of_nodes T.hb (by rw [hs0v])
  have R0 : Room N (virt s0) := by rw [hs0v]; exact ⟨T.room.ahh, T.room.rch, T.room.size⟩
  have fr0 : FrR s0 := FrR.of_frag F0 hp0
  -- the two loops
  have hf1 : 2 * (virt s0).nodes.size + 2 ≤ fuel := by rw [virt_size, hsz0]; omega
  obtain ⟨_, v1, hv1, hb1⟩ := addNewObservers_totalR (fuel := fuel) S0 hb0 R0
    (by rw [hs0v]; exact T.newNodup) (by rw [hs0v]; exact T.newState) hf1
  obtain ⟨t1, h1, e1, frr1⟩ := SimR.addNewObservers env fuel s0 fr0 _ v1 hv1
  rw [e1] at hv1 hb1
  have fr1 : Fr t1 := frr1.fr
  obtain ⟨S1, hn1, hd1, P1, O1, -⟩ := addNewObservers_s S0 hv1
  have F1 : XFrag env t1 := F0.of_xf ((PresX.addNewObservers env fuel).h _ _ _ h1) fr1
  have A1 : QR.AhhEmpty t1 := ahhEmpty_of_ahf A0 ((PresAh.addNewObservers env fuel).h _ _ _ h1)
  have hf2 : 3 * (virt t1).nodes.size + 3 ≤ fuel := by rw [P1.size, virt_size, hsz0]; omega
  obtain ⟨_, v2, hv2, hb2⟩ := unlinkDisallowedObservers_totalR (fuel := fuel) S1 hn1 hb1 hf2
  obtain ⟨t2, h2, e2, frr2⟩ := SimR.unlinkDisallowedObservers fuel t1 frr1 _ v2 hv2
  rw [e2] at hv2 hb2
  have fr2 : Fr t2 := frr2.fr
  obtain ⟨S2, hn2, hd2, P2, O2⟩ := unlinkDisallowedObservers_s S1 hn1 hv2
  have F2 : XFrag env t2 := F1.of_xf ((PresX.unlinkDisallowedObservers fuel).h _ _ _ h2) fr2
  have A2 : QR.AhhEmpty t2 := ahhEmpty_of_ahf A1 ((PresAh.unlinkDisallowedObservers fuel).h _ _ _ h2)
  have P := P1.trans P2
  have R2 : Room N (virt t2) := R0.of_pframe P
  -- the drain
  obtain ⟨D2, U2⟩ := drain_start Qv hs0v S2 P
  have DR2 : DInvX env t2 none := ⟨F2, D2, fr2.pinv, A2⟩
  have hsz2 : t2.nodes.size = s.nodes.size := by
    have := P.size; rw [virt_size, virt_size, hsz0] at this; exact this
  have Sf : Safe (virt t2) := by
    refine ⟨fun n hn => ?_, fun n hn => (GInv.node S2.struct (nec_lt_size hn)).top⟩
    have h1 := hb2 n hn rfl
    have h2 := dp_room S2.struct.static R2 (nec_lt_size hn)
    rw [R2.rch]; omega
  obtain ⟨t3, h3, DR3, he3, f3, -⟩ := drainHeapX_total_inv (fuel := fuel) DR2 Sf (by rw [hsz2]; omega)
  have c3 := f3.calm
  have hk := f3.keyD
  simp only [KeyD, stateKeyD, Prod.mk.injEq] at hk
  obtain ⟨k_obs, -, -, k_top, -, -, -, -, -, -, k_ahh⟩ := hk
  -- the end
  have hset3 : t3.setDuringStab = [] := by
    have := c3.setDuringStab
    have e1 : (virt t3).setDuringStab = t3.setDuringStab := rfl
    rw [← e1, this, P.setDuringStab, hs0v]; exact Qv.setDuringStab
  have hdead3 : t3.deadVars = [] := by
    have := c3.deadVars
    have e1 : (virt t3).deadVars = t3.deadVars := rfl
    rw [← e1, this, P.deadVars, hs0v]; exact Qv.deadVars
  have hobs3 : ∀ (o : Nat) (ob : ObsRec), t3.observers[o]? = some ob → ob.handlers = [] := by
    intro o ob ho
    have e1 : (virt t3).observers = t3.observers := rfl
    rw [← e1, k_obs] at ho
    exact (S2.obs.inRange o ob ho).2
  have hhas0 : HasRange s0 := by
    intro n hn
    have : s0.handleAfterStab = [] := by rw [hs0]; exact Qv.handleAfterStab
    rw [this] at hn; cases hn
  have hhas2 : HasRange t2 := unlinkDisallowedObservers_hasRange h2 (addNewObservers_hasRange h1 hhas0)
  have hnum2 : ∀ m, ((virt t2).nodeD m).numOnUpdateHandlers ≤ 0 := S2.handlers
  have hhas3 : ∀ n, n ∈ t3.handleAfterStab → n < t3.nodes.size := by
    intro n hn
    have e1 : (virt t3).handleAfterStab = t3.handleAfterStab := rfl
    have e2' : (virt t2).handleAfterStab = t2.handleAfterStab := rfl
    rw [← e1, c3.has hnum2, e2'] at hn
    have := f3.frame.size
    rw [virt_size, virt_size] at this
    rw [this]; exact hhas2 n hn
  have hno3 : ∀ n o, o ∈ (t3.nodeD n).observers → o < t3.observers.size := by
    intro n o ho
    have e1 : ((virt t3).nodeD n).observers = (t3.nodeD n).observers := by rw [virt_nodeD]; rfl
    rw [← e1, (f3.frame.shape n).observers] at ho
    obtain ⟨ob, hob, -⟩ := (S2.obs.mem n o).1 ho
    have e3 : (virt t3).observers = t3.observers := rfl
    rw [← e3, k_obs]
    exact (Array.getElem?_eq_some_iff.1 hob).1
  obtain ⟨_, s', h4, -⟩ := Quiet.stabiliseEnd_total (env := env) (fuel := fuel) (s := t3) hset3 hdead3 hobs3 hhas3 hno3
  have E := stabiliseEnd_fin (env := env) (fuel := fuel) (s := t3) (s' := s') hset3 hdead3 hobs3 h4
  have Ev := finished_virt E
  -- the run
  have hrun : (stabilise env fuel).run.run s = (.ok (), s') :=
    stabilise_phases.2 ⟨t1, t2, t3, Qv.status, by rw [← hs0]; exact h1, h2, h3, h4⟩
  have hsize' : s'.nodes.size = s.nodes.size := by
    have := f3.frame.size
    rw [virt_size, virt_size] at this
    rw [E.size, this, hsz2]
  refine ⟨s', hrun, ?_, hsize', ?_, ?_⟩
  -- the extra invariant at the end, read in the virtual states
  · have hEn : ∀ m, ∃ b, (virt s').nodeD m = { (virt t3).nodeD m with inHandleAfterStab := b } := Ev.node
    have hnec' : ∀ m, (virt s').isNecessary m = (virt t2).isNecessary m := fun m => by
      obtain ⟨b, hb⟩ := hEn m
      have e1 : (virt s').isNecessary m = (virt t3).isNecessary m := by
        simp only [State.isNecessary, hb]; rfl
      rw [e1, f3.frame.nec]
    have hh' : ∀ m, ((virt s').nodeD m).height = ((virt t2).nodeD m).height := fun m => by
      obtain ⟨b, hb⟩ := hEn m
      rw [hb]; exact (f3.frame.shape m).height
    have hk' : ∀ m, ((virt s').nodeD m).kind = ((virt t2).nodeD m).kind := fun m => by
      obtain ⟨b, hb⟩ := hEn m
      rw [hb]; exact (f3.frame.shape m).kind
    have hsz' : (virt s').nodes.size = (virt t2).nodes.size := by rw [Ev.size, f3.frame.size]
    refine ⟨X4g.HBd_of_eq hb2 hnec' hh' hk' hsz', ⟨?_, ?_, ?_⟩, ?_, ?_, ?_, ?_⟩
    · rw [Ev.ahh, k_ahh]; exact R2.ahh
    · rw [Ev.rch, ← R2.rch]; exact maxAllowed_congr f3.frame.qsize
    · rw [hsz']; exact R2.size
    · intro c vc hc
      rw [Ev.vars, f3.frame.vars, P.vars, hs0v] at hc
      exact T.linked c vc hc
    · rw [Ev.top, k_top, P.top, hs0v, hsz', P.size, hs0v]; exact T.topSize
    · rw [Ev.newObservers, c3.newObservers, hn2]; exact List.nodup_nil
    · intro o ob ho
      rw [Ev.newObservers, c3.newObservers, hn2] at ho; cases ho
  · have e1 : (virt s').vars = s'.vars := rfl
    have e2' : (virt s).vars = s.vars := rfl
    rw [← e1, Ev.vars, f3.frame.vars, P.vars, hs0v]
    rfl
  · have e1 : (virt s').observers = s'.observers := rfl
    rw [← e1, Ev.observers, k_obs, O2.1, O1.1, hs0v]
    rfl

end IncrVerif.Proofs.TidyH.XT
