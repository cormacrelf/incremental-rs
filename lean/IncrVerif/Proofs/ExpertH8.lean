import IncrVerif.Proofs.ExpertH6
import IncrVerif.Proofs.Footprint
/-!
# Part 5: the frame of the cascades, and the linking cascade
-/
namespace IncrVerif.Proofs.ExpertH.QR
open IncrVerif.Engine IncrVerif.Proofs IncrVerif.Proofs.Step IncrVerif.Proofs.Sched

/-! ## the frame of the cascades -/

/-- what the cascades never change of a node -/
def nodeKey (nd : Node) :=
  (nd.kind, nd.createdIn, nd.cutoff, nd.value, nd.valid, nd.recomputedAt, nd.changedAt, nd.observers,
    nd.forceNecessary, nd.numOnUpdateHandlers)

/-- what the cascades never change of a state -/
def stateKey (s : State) :=
  (s.vars, s.observers, s.stabNum, s.status, s.cfg, s.currentScope, s.setDuringStab,
    s.deadVars, s.newObservers, s.disallowedObservers, s.allObservers, s.top, s.handles, s.alive,
    s.rch.queues.size, s.ahh, s.binds, s.memos, s.slots)

structure CFrame (s s' : State) : Prop where
  size : s'.nodes.size = s.nodes.size
  node : ∀ m, nodeKey (s'.nodeD m) = nodeKey (s.nodeD m)
  key : stateKey s' = stateKey s
  pc : s.panicCountdown = none → s'.panicCountdown = none

theorem CFrame.refl (s : State) : CFrame s s := ⟨rfl, fun _ => rfl, rfl, id⟩
theorem CFrame.trans {a b c : State} (h1 : CFrame a b) (h2 : CFrame b c) : CFrame a c :=
  ⟨h2.size.trans h1.size, fun m => (h2.node m).trans (h1.node m), h2.key.trans h1.key,
    fun h => h2.pc (h1.pc h)⟩
instance : PreOrd CFrame := ⟨CFrame.refl, CFrame.trans⟩

theorem CFrame.of_nodes {s s' : State} (h1 : s'.nodes = s.nodes) (h2 : stateKey s' = stateKey s)
    (h3 : s'.panicCountdown = s.panicCountdown) : CFrame s s' := by
  refine ⟨by rw [h1], fun m => ?_, h2, fun h => by rw [h3]; exact h⟩
  have : s'.nodeD m = s.nodeD m := by simp [State.nodeD, h1]
  rw [this]

theorem CFrame.modNode (s : State) (n : Nat) (f : Node → Node) (hf : ∀ x, nodeKey (f x) = nodeKey x) :
    CFrame s { s with nodes := s.nodes.modify n f } := by
  refine ⟨by simp, fun m => ?_, rfl, id⟩
  rw [nodeD_modify]; split
  · exact hf _
  · rfl

theorem CFrame.of_edit {L w} (hL : ∀ t ∈ L, t ∉ Footprint.cascadeBreaks) {s s' : State} (e : Footprint.Edit L w s s') :
    CFrame s s' :=
  have h := e.cascadeFrame hL
  ⟨h.1, h.2.1, h.2.2.1, h.2.2.2⟩

theorem PresF.bumpCounter (f) : Step.Pres CFrame (bumpCounter f) := Step.Pres.modify fun _ => CFrame.of_nodes rfl rfl rfl
theorem PresF.setHeight (n h) : Step.Pres CFrame (setHeight n h) := (Footprint.Foot.setHeight n h).frame (CFrame.of_edit (by decide))
theorem PresF.rchInsert (n) : Step.Pres CFrame (rchInsert n) := (Footprint.Foot.rchInsert n).frame (CFrame.of_edit (by decide))
theorem PresF.rchRemove (n) : Step.Pres CFrame (rchRemove n) := (Footprint.Foot.rchRemove n).frame (CFrame.of_edit (by decide))
theorem PresF.addParent (c i p) : Step.Pres CFrame (addParent c i p) := (Footprint.Foot.addParent c i p).frame (CFrame.of_edit (by decide))
theorem PresF.removeParent (c i p) : Step.Pres CFrame (removeParent c i p) :=
  (Footprint.Foot.removeParent c i p).frame (CFrame.of_edit (by decide))
theorem PresF.handleAfterStabilisation (n) : Step.Pres CFrame (handleAfterStabilisation n) :=
  (Footprint.Foot.handleAfterStabilisation n).frame (CFrame.of_edit (by decide))
theorem PresF.markMapRefUnknown (fuel n) : Step.Pres CFrame (markMapRefUnknown fuel n) :=
  (Footprint.Foot.markMapRefUnknown fuel n).frame (CFrame.of_edit (by decide))
theorem PresF.scopeHeight (sc) : Step.Pres CFrame (scopeHeight sc) := Step.Pres.scopeHeight sc
theorem PresF.becameNecessary (env fuel n) : Step.Pres CFrame (becameNecessary env fuel n) :=
  (Footprint.Foot.becameNecessary env fuel n).frame (CFrame.of_edit (by decide))

/-! ## inversion helpers -/

theorem NodeUpd.modify' {n : Nat} {f g : Node → Node} {s : State} (h : n < s.nodes.size)
    (hfg : g (s.nodeD n) = f (s.nodeD n)) : NodeUpd n f s { s with nodes := s.nodes.modify n g } := by
  refine ⟨h, rfl, rfl, by simp, rfl, rfl, fun m hm => ?_, ?_⟩
  · rw [nodeD_modify, if_neg (fun e => hm e.1.symm)]; exact NodeG.refl _
  · rw [nodeD_modify, if_pos ⟨rfl, h⟩, hfg]; exact NodeG.refl _

/-! ## relations between the states of a linking cascade -/

/-- nodes ranked above `n` are untouched -/
def Above (rk : Nat → Nat) (n : Nat) (s s' : State) : Prop := ∀ m, rk n < rk m → s'.nodeD m = s.nodeD m

theorem Above.refl (rk : Nat → Nat) (n : Nat) (s : State) : Above rk n s s := fun _ _ => rfl
theorem Above.trans {rk : Nat → Nat} {n : Nat} {a b c : State} (h1 : Above rk n a b) (h2 : Above rk n b c) :
    Above rk n a c :=
  fun m hm => (h2 m hm).trans (h1 m hm)
theorem Above.mono {rk : Nat → Nat} {n k : Nat} {a b : State} (h : Above rk n a b) (hk : rk n ≤ rk k) :
    Above rk k a b :=
  fun m hm => h m (by omega)

theorem Above.modify (rk : Nat → Nat) (n : Nat) (f : Node → Node) (s : State) (k : Nat) (hk : rk n ≤ rk k) :
    Above rk k s { s with nodes := s.nodes.modify n f } := by
  intro m hm
  rw [nodeD_modify, if_neg (fun e => by rw [e.1] at hk; omega)]

theorem Above.of_nodes {s s' : State} (rk : Nat → Nat) (k : Nat) (h : s'.nodes = s.nodes) : Above rk k s s' := by
  intro m _; simp [State.nodeD, h]

/-- parent lists grow, necessary nodes outside `X` keep their height -/
structure LRel (X : Nat → Prop) (s s' : State) : Prop where
  fr : CFrame s s'
  pinv : s'.propagateInvalidity = s.propagateInvalidity
  par : ∀ m x, x ∈ (s.nodeD m).parents → x ∈ (s'.nodeD m).parents
  hgt : ∀ m, ¬ X m → s.isNecessary m = true → (s'.nodeD m).height = (s.nodeD m).height

theorem CFrame.observers {s s' : State} (h : CFrame s s') (m : Nat) :
    (s'.nodeD m).observers = (s.nodeD m).observers := by
  have := h.node m; simp only [nodeKey, Prod.mk.injEq] at this; exact this.2.2.2.2.2.2.2.1
theorem CFrame.forceNecessary {s s' : State} (h : CFrame s s') (m : Nat) :
    (s'.nodeD m).forceNecessary = (s.nodeD m).forceNecessary := by
  have := h.node m; simp only [nodeKey, Prod.mk.injEq] at this; exact this.2.2.2.2.2.2.2.2.1
theorem CFrame.kind {s s' : State} (h : CFrame s s') (m : Nat) :
    (s'.nodeD m).kind = (s.nodeD m).kind := by
  have := h.node m; simp only [nodeKey, Prod.mk.injEq] at this; exact this.1

theorem LRel.nec {X : Nat → Prop} {s s' : State} (h : LRel X s s') {m : Nat}
    (hm : s.isNecessary m = true) : s'.isNecessary m = true := by
  rw [isNecessary_iff] at hm ⊢
  rw [h.fr.observers, h.fr.forceNecessary]
  rcases hm with hm | hm
  · left
    obtain ⟨x, hx⟩ := List.exists_mem_of_ne_nil _ hm
    exact List.ne_nil_of_mem (h.par m x hx)
  · exact Or.inr hm

theorem LRel.refl (X : Nat → Prop) (s : State) : LRel X s s :=
  ⟨CFrame.refl s, rfl, fun _ _ h => h, fun _ _ _ => rfl⟩

theorem LRel.trans {X : Nat → Prop} {a b c : State} (h1 : LRel X a b) (h2 : LRel X b c) : LRel X a c :=
  ⟨h1.fr.trans h2.fr, h2.pinv.trans h1.pinv, fun m x h => h2.par m x (h1.par m x h),
   fun m hx hm => (h2.hgt m hx (h1.nec hm)).trans (h1.hgt m hx hm)⟩

theorem LRel.mono {X Y : Nat → Prop} {a b : State} (h : LRel X a b) (hxy : ∀ m, X m → Y m) : LRel Y a b :=
  ⟨h.fr, h.pinv, h.par, fun m hy hm => h.hgt m (fun hx => hy (hxy m hx)) hm⟩

/-- a step that only changes fields the relation does not read -/
theorem LRel.of_nodes {X : Nat → Prop} {s s' : State} (h1 : s'.nodes = s.nodes)
    (h2 : stateKey s' = stateKey s) (h3 : s'.panicCountdown = s.panicCountdown)
    (h4 : s'.propagateInvalidity = s.propagateInvalidity) : LRel X s s' := by
  have hnd : ∀ m, s'.nodeD m = s.nodeD m := fun m => by simp [State.nodeD, h1]
  exact ⟨CFrame.of_nodes h1 h2 h3, h4, fun m x h => by rw [hnd]; exact h, fun m _ _ => by rw [hnd]⟩
