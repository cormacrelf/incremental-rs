import IncrVerif.Proofs.BindH8
import IncrVerif.Proofs.BindH11
import IncrVerif.Proofs.Drain
/-!
# Binds, part 3f: `pop`, the direct-recompute chain, `drainHeap` keep the drain invariant; the values at the end
-/
namespace IncrVerif.Proofs.BindH
open IncrVerif.Engine IncrVerif.Proofs IncrVerif.Proofs.Step IncrVerif.Proofs.Sched

/-! ## the hypothesis about change detectors -/

/-- the hypothesis of the scheduling theorem: `Aux` is an auxiliary invariant (of the fragment at hand) such that,
from a state with the drain invariant and `Aux`, every successful run of a change detector is described by `StepL`
and keeps `Aux`, and so do the runs of the other nodes and `remove_min` -/
structure LcStepsOK (env : Env) (Aux : State → Prop) : Prop where
  lc : ∀ (fuel n b : Nat) (s s' : State) (r : Option Nat), DInv env s (some n) → Aux s →
    (s.nodeD n).kind = .bindLhsChange b → (recomputeOne env fuel n).run.run s = (.ok r, s') →
    (∃ br br', StepL env n b br br' r s s') ∧ Aux s'
  other : ∀ (fuel n : Nat) (s s' : State) (r : Option Nat), DInv env s (some n) → Aux s →
    (StaticKind env (s.nodeD n).kind ∨ ∃ b lc, (s.nodeD n).kind = .bindMain b lc) →
    (recomputeOne env fuel n).run.run s = (.ok r, s') → Aux s'
  pop : ∀ (s s1 : State) (n : Nat), DInv env s none → Aux s →
    rchRemoveMin.run.run s = (.ok (some n), s1) → Aux s1

/-! ## progress frame -/

/-- what every step keeps: the round number, the cells; a node stamped in this round keeps the stamp and its validity -/
structure FrameB (s s' : State) : Prop where
  stabNum : s'.stabNum = s.stabNum
  vars : s'.vars = s.vars
  grow : s.nodes.size ≤ s'.nodes.size
  ran : ∀ m, (s.nodeD m).recomputedAt = s.stabNum →
    (s'.nodeD m).recomputedAt = s.stabNum ∧ (s'.nodeD m).valid = (s.nodeD m).valid

theorem FrameB.refl (s : State) : FrameB s s := ⟨rfl, rfl, Nat.le_refl _, fun _ h => ⟨h, rfl⟩⟩

theorem FrameB.trans {a b c : State} (h1 : FrameB a b) (h2 : FrameB b c) : FrameB a c where
  stabNum := h2.stabNum.trans h1.stabNum
  vars := h2.vars.trans h1.vars
  grow := Nat.le_trans h1.grow h2.grow
  ran m hm := by
    obtain ⟨k1, k2⟩ := h1.ran m hm
    obtain ⟨k3, k4⟩ := h2.ran m (by rw [h1.stabNum]; exact k1)
    exact ⟨by rw [h1.stabNum] at k3; exact k3, k4.trans k2⟩

/-! ## `remove_min` -/

theorem pop_invB {env : Env} {s s1 : State} {n : Nat} (I : DInv env s none)
    (hr : rchRemoveMin.run.run s = (.ok (some n), s1)) : DInv env s1 (some n) ∧ FrameB s s1 := by
  have hpop := rchRemoveMin_inv I.heap hr
  simp only at hpop
  obtain ⟨hq, hmin, hheap1, hs1, -⟩ := hpop
  have hnlt : n < s.nodes.size := lt_size_of_inRch hq
  -- the nodes: only `n`'s marker changed
  have hnode : ∀ m, s1.nodeD m = if m = n then { s.nodeD m with heightInRch := -1 } else s.nodeD m := by
    intro m
    rw [hs1]
    have := nodeD_modify { s with rch := s1.rch } n m (fun x => { x with heightInRch := -1 })
    refine this.trans ?_
    by_cases e : m = n
    · subst e; rw [if_pos ⟨rfl, hnlt⟩, if_pos rfl]; rfl
    · rw [if_neg (fun h => e h.1.symm), if_neg e]; rfl
  have hshape : ∀ m, SameShape (s.nodeD m) (s1.nodeD m) := by
    intro m; rw [hnode]; split <;> exact ⟨rfl, rfl, rfl, rfl, rfl, rfl, rfl, rfl⟩
  have hval : ∀ m, (s1.nodeD m).value = (s.nodeD m).value ∧ (s1.nodeD m).recomputedAt = (s.nodeD m).recomputedAt ∧
      (s1.nodeD m).changedAt = (s.nodeD m).changedAt := by
    intro m; rw [hnode]; split <;> exact ⟨rfl, rfl, rfl⟩
  have hsize : s1.nodes.size = s.nodes.size := by rw [hs1]; simp
  have hvars : s1.vars = s.vars := by rw [hs1]
  have hbinds : s1.binds = s.binds := by rw [hs1]
  have hstab : s1.stabNum = s.stabNum := by rw [hs1]
  have hpc : s1.panicCountdown = s.panicCountdown := by rw [hs1]
  have hnec : ∀ m, s1.isNecessary m = s.isNecessary m := fun m => (hshape m).isNecessary
  have hq1 : ∀ m, (s1.nodeD m).inRch = true → m ≠ n ∧ (s.nodeD m).inRch = true := by
    intro m h
    rw [hnode] at h
    by_cases e : m = n
    · rw [if_pos e] at h; simp [Node.inRch] at h
    · rw [if_neg e] at h; exact ⟨e, h⟩
  -- package as a step relation with no change at all, to reuse the transfer lemmas
  have g := I.graph
  have hch : ∀ m, s1.children m = s.children m := by
    intro m
    by_cases hm : m < s.nodes.size
    · cases hv : (s.nodeD m).valid with
      | true =>
        exact children_congr_kind (hshape m).kind (hshape m).valid hbinds
          (fun e => (g.node m hm hv).1.not_expert e)
      | false =>
        unfold State.children Node.kind?
        rw [(hshape m).valid, hv]; rfl
    · unfold State.children
      rw [nodeD_default_of_ge s m (by omega), nodeD_default_of_ge s1 m (by rw [hsize]; omega)]; rfl
  have hedge : ∀ a c, Edge s1 a c ↔ Edge s a c := by
    intro a c
    constructor
    · intro h
      cases h with
      | child hc => rw [hch] at hc; exact Edge.child hc
      | scope hv hsc hb =>
        rw [(hshape a).valid] at hv; rw [(hshape a).createdIn] at hsc; rw [hbinds] at hb
        exact Edge.scope hv hsc hb
    · intro h
      cases h with
      | child hc => rw [← hch] at hc; exact Edge.child hc
      | scope hv hsc hb =>
        rw [← (hshape a).valid] at hv; rw [← (hshape a).createdIn] at hsc; rw [← hbinds] at hb
        exact Edge.scope hv hsc hb
  have hbelow : ∀ a d, Below s1 a d ↔ Below s a d := by
    intro a d
    constructor
    · intro h
      induction h with
      | refl => exact Below.refl _
      | step he _ ih => exact Below.step ((hedge _ _).1 he) ih
    · intro h
      induction h with
      | refl => exact Below.refl _
      | step he _ ih => exact Below.step ((hedge _ _).2 he) ih
  have hstale : ∀ m, s1.isStale m = s.isStale m := by
    intro m
    by_cases hm : m < s.nodes.size
    · cases hv : (s.nodeD m).valid with
      | true =>
        exact isStale_congr (g.node m hm hv).1 (hshape m).kind (hshape m).valid (hval m).2.1
          (fun c => by rw [hvars]) (hch m) (fun c _ => (hval c).2.2)
      | false =>
        rw [isStale_invalid hv, isStale_invalid (by rw [(hshape m).valid]; exact hv)]
    · unfold State.isStale State.children
      rw [nodeD_default_of_ge s m (by omega), nodeD_default_of_ge s1 m (by rw [hsize]; omega)]; rfl
  have g1 : BGraph env s1 := by
    refine ⟨by rw [hpc]; exact g.pc, ?_, ?_, ?_, ?_, ?_, ?_, ?_, ?_, ?_, ?_⟩
    · intro m hm hv
      rw [hsize] at hm; rw [(hshape m).valid] at hv
      obtain ⟨k1, k2, k3⟩ := g.node m hm hv
      refine ⟨by rw [(hshape m).kind]; exact k1, by rw [(hshape m).cutoff]; exact k2, ?_⟩
      intro c hc; rw [hch] at hc; rw [hsize, (hshape c).valid]; exact k3 c hc
    · intro m hm; rw [hnec] at hm; rw [(hshape m).valid, (hshape m).height]; exact g.nec m hm
    · intro m c hm hv hk
      rw [hsize] at hm; rw [(hshape m).valid] at hv; rw [(hshape m).kind] at hk; rw [hvars]
      exact g.var m c hm hv hk
    · intro m hm i c hc
      rw [hnec] at hm; rw [hch] at hc
      rw [hnec, (hshape c).parents, (hshape c).height, (hshape m).height]
      exact g.child m hm i c hc
    · intro c p i h
      rw [(hshape c).parents] at h; rw [hnec, hch]; exact g.parent c p i h
    · intro m b hm hv hsc
      rw [hsize] at hm; rw [(hshape m).valid] at hv; rw [(hshape m).createdIn] at hsc
      obtain ⟨br, k1, k2, k3, k4⟩ := g.scope m b hm hv hsc
      refine ⟨br, by rw [hbinds]; exact k1, by rw [hsize]; exact k2, by rw [(hshape _).valid]; exact k3, ?_⟩
      rw [hnec, hnec, (hshape _).height, (hshape m).height]; exact k4
    · intro m b hm hv hk
      rw [hsize] at hm; rw [(hshape m).valid] at hv; rw [(hshape m).kind] at hk; rw [hbinds]
      exact g.lcRec m b hm hv hk
    · intro m b lc hm hv hk
      rw [hsize] at hm; rw [(hshape m).valid] at hv; rw [(hshape m).kind] at hk
      rw [hbinds, (hshape lc).createdIn, (hshape m).createdIn]
      exact g.mainRec m b lc hm hv hk
    · intro m c b hm hv hc hk
      rw [hsize] at hm; rw [(hshape m).valid] at hv; rw [hch] at hc; rw [(hshape c).kind] at hk
      rw [(hshape m).kind]; exact g.lcChild m c b hm hv hc hk
    · obtain ⟨rk, h⟩ := g.acyc
      exact ⟨rk, fun a c he => h a c ((hedge a c).1 he)⟩
  have hnnec := I.heap.nec n hq
  refine ⟨⟨g1, hheap1, ?_, ?_, ?_, ?_, ?_, ?_⟩, ⟨hstab, hvars, by omega, fun m hm => ⟨?_, (hshape m).valid⟩⟩⟩
  · refine ⟨by rw [hstab]; exact I.stamps.now, fun m => ?_, fun c vc h => ?_⟩
    · rw [hstab, (hval m).2.1, (hval m).2.2]; exact I.stamps.node m
    · rw [hvars] at h; rw [hstab]; exact I.stamps.var c vc h
  · intro m h; rw [hstale]; exact I.qstale m (hq1 m h).2
  · intro m hm hst
    rw [hnec] at hm; rw [hstale] at hst
    by_cases e : m = n
    · exact Or.inr (by rw [e])
    · rcases I.pending m hm hst with h | h
      · left; rw [hnode, if_neg e]; exact h
      · cases h
  · intro m hm hv hst
    rw [hsize] at hm; rw [(hshape m).valid] at hv; rw [hstale] at hst
    obtain ⟨w, hw, hwv⟩ := I.cons m hm hv hst
    refine ⟨w, ?_, by rw [(hval m).1]; exact hwv⟩
    exact TargetB.congr hv (g.node m hm hv).1 (hshape m).kind hvars hbinds (fun c _ => (hval c).1) hw
  · intro a d hb hd
    rw [hbelow] at hb
    rw [hstab, (hval a).2.1]
    rcases hd with hd | hd
    · rw [hstale] at hd; exact I.fresh a d hb (Or.inl hd)
    · injection hd with hd
      subst hd
      exact I.fresh a n hb (Or.inl (I.qstale n hq))
  · intro m hm
    injection hm with hm
    subst hm
    refine ⟨by rw [hnec]; exact hnnec, ?_⟩
    intro d hd
    rw [hbelow] at hd
    cases hqd : (s1.nodeD d).inRch with
    | false => rfl
    | true =>
      exfalso
      obtain ⟨hne, hqd0⟩ := hq1 d hqd
      have := hmin d hqd0
      have := g.below_lt hd hnnec (Ne.symm hne)
      omega
  · rw [(hval m).2.1]; exact hm

/-! ## one `recomputeOne` -/

/-- the children of the current node carry values -/
theorem DInv.kids_values {env : Env} {s : State} {n : Nat} (I : DInv env s (some n)) :
    ∀ c, c ∈ s.children n → ∃ v, (s.nodeD c).value = some v := by
  intro c hc
  have g := I.graph
  obtain ⟨hn, -, -, -, -⟩ := I.cur_facts
  have he : Edge s n c := Edge.child hc
  obtain ⟨hcn, -⟩ := g.edge_nec hn he
  have hclt := g.nec_lt hcn
  have hcv := (g.nec c hcn).1
  have hst : s.isStale c = false := by
    cases h : s.isStale c with
    | false => rfl
    | true =>
      rcases I.pending c hcn h with h1 | h1
      · rw [(I.cur n rfl).2 c (Below.of_edge he)] at h1; cases h1
      · injection h1 with h1
        exact absurd h1 (g.edge_ne he)
  obtain ⟨w, -, hw⟩ := I.cons c hclt hcv hst
  exact ⟨w, hw⟩

theorem StepRelB.frame {n : Nat} {v : Val} {ch : Bool} {r : Option Nat} {s s' : State}
    (R : StepRelB n v ch r s s') : FrameB s s' where
  stabNum := R.stabNum
  vars := R.vars
  grow := by rw [R.size]; exact Nat.le_refl _
  ran m hm := by
    by_cases e : m = n
    · subst e; exact ⟨R.recomputedAt, R.shape.valid⟩
    · exact ⟨by rw [(R.other m e).recomputedAt]; exact hm, (R.other m e).valid⟩

theorem StepL.frame {env : Env} {n b : Nat} {br br' : BindRec} {r : Option Nat} {s s' : State}
    (R : StepL env n b br br' r s s') (I : DInv env s (some n)) : FrameB s s' where
  stabNum := R.stabNum
  vars := R.vars
  grow := R.grow
  ran m hm := by
    obtain ⟨-, hnlt, hnv, -, hnr⟩ := I.cur_facts
    by_cases e : m = n
    · subst e; omega
    by_cases hlt : m < s.nodes.size
    · rcases R.old m hlt e with ⟨h1, -, h3⟩ | ⟨h1, -, -, -, h5, -, -⟩
      · -- a node that dies has not run in this round
        exfalso
        have he : Edge s m n := by
          have := Edge.scope h1 h3 R.bind
          rw [R.lc.1] at this; exact this
        have := I.fresh m n (Below.of_edge he) (Or.inr rfl)
        omega
      · exact ⟨by rw [h5]; exact hm, h1⟩
    · rw [nodeD_default_of_ge s m (by omega)] at hm
      have h0 := I.stamps.now
      have : (-1 : Int) = s.stabNum := hm
      omega

/-- **One `recomputeOne` keeps the drain invariant** (given the description of the runs of change detectors). -/
theorem recomputeOne_invB {env : Env} {Aux : State → Prop} (H : LcStepsOK env Aux) {fuel n : Nat} {s s' : State}
    {r : Option Nat} (I : DInv env s (some n)) (hA : Aux s)
    (h : (recomputeOne env fuel n).run.run s = (.ok r, s')) :
    DInv env s' r ∧ Aux s' ∧ FrameB s s' ∧ (s'.nodeD n).recomputedAt = s.stabNum ∧
      (s'.nodeD n).valid = true := by
  have g := I.graph
  obtain ⟨hn, hnlt, hnv, -, -⟩ := I.cur_facts
  have hB := (g.node n hnlt hnv).1
  have hstatic : (StaticKind env (s.nodeD n).kind ∨ ∃ b lc, (s.nodeD n).kind = .bindMain b lc) ∨
      ∃ b, (s.nodeD n).kind = .bindLhsChange b := by
    cases hk : (s.nodeD n).kind <;> rw [hk] at hB <;>
      first
      | exact Or.inl (Or.inl hB)
      | exact Or.inl (Or.inr ⟨_, _, rfl⟩)
      | exact Or.inr ⟨_, rfl⟩
  rcases hstatic with hk | ⟨b, hk⟩
  · obtain ⟨v, ch, ht, R⟩ := recomputeOne_stepB g I.heap hn hk I.kids_values h
    exact ⟨stepB_inv I ht R, H.other fuel n s s' r I hA hk h, R.frame, R.recomputedAt,
      by rw [R.shape.valid]; exact hnv⟩
  · obtain ⟨⟨br, br', R⟩, hA'⟩ := H.lc fuel n b s s' r I hA hk h
    exact ⟨stepL_inv I hk R, hA', R.frame I, R.self.1, R.self.2.2.2.1⟩

/-! ## "no node runs twice", with the validity of the nodes that ran -/

/-- `Drain.Once` on the stamps of the round `N` read in the states `v c`, with the frame; the nodes that ran are valid at the end -/
structure OnceB {σ : Type} (v : σ → State) (N : Int) (l : List (Nat × State)) (a b : σ) : Prop where
  round : (v a).stabNum = N
  fr : FrameB (v a) (v b)
  once : Drain.Once (fun c m => ((v c).nodeD m).recomputedAt = N) l a b
  valid : ∀ m, m ∈ l.map (·.1) → ((v b).nodeD m).valid = true

namespace OnceB
variable {σ : Type} {v : σ → State} {N : Int}

theorem mono {a b : σ} (hN : (v a).stabNum = N) (f : FrameB (v a) (v b)) (m : Nat)
    (h : ((v a).nodeD m).recomputedAt = N) : ((v b).nodeD m).recomputedAt = N := by
  rw [← hN] at h ⊢
  exact (f.ran m h).1

theorem nil {a b : σ} (hN : (v a).stabNum = N) (f : FrameB (v a) (v b)) : OnceB v N [] a b :=
  ⟨hN, f, .nil (mono hN f), fun _ hm => (by cases hm)⟩

theorem one {a b : σ} {n : Nat} {s : State} (hN : (v a).stabNum = N) (f : FrameB (v a) (v b))
    (h0 : ((v a).nodeD n).recomputedAt < N) (h1 : ((v b).nodeD n).recomputedAt = N) (hv : ((v b).nodeD n).valid = true) :
    OnceB v N [(n, s)] a b := by
  refine ⟨hN, f, .one (mono hN f) (by omega) h1, fun m hm => ?_⟩
  rw [List.map_singleton, List.mem_singleton] at hm
  subst hm
  exact hv

theorem append {l₁ l₂ : List (Nat × State)} {a b c : σ} (h1 : OnceB v N l₁ a b) (h2 : OnceB v N l₂ b c) :
    OnceB v N (l₁ ++ l₂) a c := by
  refine ⟨h1.round, h1.fr.trans h2.fr, h1.once.append h2.once, fun m hm => ?_⟩
  rw [List.map_append] at hm
  rcases List.mem_append.1 hm with hm | hm
  · rw [(h2.fr.ran m (by rw [h2.round]; exact (h1.once.mem m hm).2)).2]
    exact h1.valid m hm
  · exact h2.valid m hm

end OnceB

/-! ## the chain and the drain -/

section
variable {env : Env} {Aux : State → Prop}
  (step : ∀ {fuel n : Nat} {s s' : State} {r : Option Nat}, DInv env s (some n) → Aux s →
    (recomputeOne env fuel n).run.run s = (.ok r, s') →
    DInv env s' r ∧ Aux s' ∧ FrameB s s' ∧ (s'.nodeD n).recomputedAt = s.stabNum ∧ (s'.nodeD n).valid = true)
include step

theorem runB_one (N : Int) (fuel n : Nat) (s : State) (r : Option Nat) (s' : State)
    (i : (DInv env s (some n) ∧ Aux s) ∧ s.stabNum = N) (h : (recomputeOne env fuel n).run.run s = (.ok r, s')) :
    ((DInv env s' r ∧ Aux s') ∧ s'.stabNum = N) ∧ OnceB id N [(n, s)] s s' := by
  obtain ⟨I1, A1, f1, hn1, hv1⟩ := step i.1.1 i.1.2 h
  refine ⟨⟨⟨I1, A1⟩, f1.stabNum.trans i.2⟩, .one i.2 f1 ?_ (hn1.trans i.2) hv1⟩
  have := i.1.1.fresh n n (Below.refl n) (Or.inr rfl)
  rw [i.2] at this
  exact this

/-- `drainHeap` from the drain invariant: the invariant, `Aux`, an empty heap; no node runs twice -/
theorem drainHeap_runB (pop : ∀ (s s1 : State) (n : Nat), DInv env s none → Aux s → rchRemoveMin.run.run s = (.ok (some n), s1) → Aux s1)
    (fuel : Nat) (s s' : State) (I : DInv env s none) (hA : Aux s) (h : (drainHeap env fuel).run.run s = (.ok (), s')) :
    DInv env s' none ∧ Aux s' ∧ s'.rch.length = 0 ∧ OnceB id s.stabNum (TidyH.drainSteps env fuel s) s s' := by
  obtain ⟨s1, ⟨⟨I1, A1⟩, -⟩, O, h1, -⟩ := Drain.drainHeap_run (I := fun x t => (DInv env t x ∧ Aux t) ∧ t.stabNum = s.stabNum) OnceB.append
    (runB_one step s.stabNum)
    (fun t n t' i h => have ⟨I1, f1⟩ := pop_invB i.1.1 h; ⟨⟨⟨I1, pop t t' n i.1.1 i.1.2 h⟩, f1.stabNum.trans i.2⟩, .nil i.2 f1⟩)
    (fun t i => .nil i.2 (FrameB.refl t)) fuel s s' ⟨⟨I, hA⟩, rfl⟩ h
  obtain ⟨rfl, he⟩ := rchRemoveMin_inv I1.heap h1
  exact ⟨I1, A1, he, O⟩

end

theorem drainHeap_invB {env : Env} {Aux : State → Prop} (H : LcStepsOK env Aux) (fuel : Nat) (s s' : State)
    (I : DInv env s none) (hA : Aux s) (h : (drainHeap env fuel).run.run s = (.ok (), s')) :
    DInv env s' none ∧ Aux s' ∧ s'.rch.length = 0 ∧ FrameB s s' :=
  have ⟨I', A', he, O⟩ := drainHeap_runB (recomputeOne_invB H) H.pop fuel s s' I hA h
  ⟨I', A', he, O.fr⟩

end IncrVerif.Proofs.BindH
