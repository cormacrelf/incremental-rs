import IncrVerif.Proofs.Quiet2
import IncrVerif.Proofs.CutH9
/-!
# General helpers about `NodeUpd`
-/
namespace IncrVerif.Proofs.Quiet
open IncrVerif.Engine IncrVerif.Proofs IncrVerif.Proofs.Step IncrVerif.Proofs.Sched

/-- `f` changes at most `parents`, `observers`, `height` (among the fields the invariant reads) -/
structure KeepsG (f : Node → Node) : Prop where
  valid : ∀ x, (f x).valid = x.valid
  kind : ∀ x, (f x).kind = x.kind
  cutoff : ∀ x, (f x).cutoff = x.cutoff
  createdIn : ∀ x, (f x).createdIn = x.createdIn
  forceNecessary : ∀ x, (f x).forceNecessary = x.forceNecessary
  heightInRch : ∀ x, (f x).heightInRch = x.heightInRch
  recomputedAt : ∀ x, (f x).recomputedAt = x.recomputedAt
  changedAt : ∀ x, (f x).changedAt = x.changedAt

theorem KeepsG.toC {f : Node → Node} (K : KeepsG f) : CutH.KeepsG f :=
  ⟨K.valid, K.kind, K.cutoff, K.createdIn, K.forceNecessary, K.heightInRch, K.recomputedAt, K.changedAt⟩

theorem keeps_fParents (l : List (Nat × Nat)) : KeepsG (fParents l) :=
  ⟨fun _ => rfl, fun _ => rfl, fun _ => rfl, fun _ => rfl, fun _ => rfl, fun _ => rfl, fun _ => rfl, fun _ => rfl⟩
theorem keeps_fHeight (h : Int) : KeepsG (fHeight h) :=
  ⟨fun _ => rfl, fun _ => rfl, fun _ => rfl, fun _ => rfl, fun _ => rfl, fun _ => rfl, fun _ => rfl, fun _ => rfl⟩
theorem keeps_fObservers (l : List Nat) : KeepsG (fObservers l) :=
  ⟨fun _ => rfl, fun _ => rfl, fun _ => rfl, fun _ => rfl, fun _ => rfl, fun _ => rfl, fun _ => rfl, fun _ => rfl⟩

namespace NodeUpd
variable {env : Env} {s s' : State} {n : Nat} {f : Node → Node}

/-! ### nodes other than `n` -/

theorem parents_other (U : NodeUpd n f s s') {m : Nat} (h : m ≠ n) :
    (s'.nodeD m).parents = (s.nodeD m).parents := (U.other m h).parents
theorem observers_other (U : NodeUpd n f s s') {m : Nat} (h : m ≠ n) :
    (s'.nodeD m).observers = (s.nodeD m).observers := (U.other m h).observers
theorem height_other (U : NodeUpd n f s s') {m : Nat} (h : m ≠ n) :
    (s'.nodeD m).height = (s.nodeD m).height := (U.other m h).height
theorem nec_other (U : NodeUpd n f s s') {m : Nat} (h : m ≠ n) :
    s'.isNecessary m = s.isNecessary m := by
  simp only [State.isNecessary, Node.isNecessary, (U.other m h).parents, (U.other m h).observers,
    (U.other m h).forceNecessary]

/-! ### node `n` -/

theorem parents_self (U : NodeUpd n f s s') : (s'.nodeD n).parents = (f (s.nodeD n)).parents := U.self.parents
theorem observers_self (U : NodeUpd n f s s') : (s'.nodeD n).observers = (f (s.nodeD n)).observers :=
  U.self.observers
theorem height_self (U : NodeUpd n f s s') : (s'.nodeD n).height = (f (s.nodeD n)).height := U.self.height

/-! ### all nodes, when `f` keeps the field -/

theorem valid (U : NodeUpd n f s s') (K : KeepsG f) (m : Nat) : (s'.nodeD m).valid = (s.nodeD m).valid :=
  U.toC.valid K.toC m
theorem kind (U : NodeUpd n f s s') (K : KeepsG f) (m : Nat) : (s'.nodeD m).kind = (s.nodeD m).kind :=
  U.toC.kind K.toC m
theorem cutoff (U : NodeUpd n f s s') (K : KeepsG f) (m : Nat) : (s'.nodeD m).cutoff = (s.nodeD m).cutoff :=
  U.toC.cutoff K.toC m
theorem createdIn (U : NodeUpd n f s s') (K : KeepsG f) (m : Nat) :
    (s'.nodeD m).createdIn = (s.nodeD m).createdIn :=
  U.toC.createdIn K.toC m
theorem forceNecessary (U : NodeUpd n f s s') (K : KeepsG f) (m : Nat) :
    (s'.nodeD m).forceNecessary = (s.nodeD m).forceNecessary :=
  U.toC.forceNecessary K.toC m
theorem heightInRch (U : NodeUpd n f s s') (K : KeepsG f) (m : Nat) :
    (s'.nodeD m).heightInRch = (s.nodeD m).heightInRch :=
  U.toC.heightInRch K.toC m
theorem recomputedAt (U : NodeUpd n f s s') (K : KeepsG f) (m : Nat) :
    (s'.nodeD m).recomputedAt = (s.nodeD m).recomputedAt :=
  U.toC.recomputedAt K.toC m
theorem changedAt (U : NodeUpd n f s s') (K : KeepsG f) (m : Nat) :
    (s'.nodeD m).changedAt = (s.nodeD m).changedAt :=
  U.toC.changedAt K.toC m

theorem inRch (U : NodeUpd n f s s') (K : KeepsG f) (m : Nat) : (s'.nodeD m).inRch = (s.nodeD m).inRch := by
  simp only [Node.inRch, U.heightInRch K m]

theorem static (U : NodeUpd n f s s') (K : KeepsG f) (h : AllStatic env s) : AllStatic env s' :=
  .ofC (U.toC.static K.toC h.toC) (h.eqCut.of_eq U.size (U.cutoff K))

theorem _root_.IncrVerif.Proofs.Quiet.EqCut.upd (E : EqCut s) (U : NodeUpd n f s s') (K : KeepsG f) : EqCut s' :=
  E.of_eq U.size (U.cutoff K)

theorem heap (U : NodeUpd n f s s') (K : KeepsG f) (h : HeapG s) : HeapG s' :=
  h.congr U.rch U.size (U.heightInRch K)

/-- necessity of `n` itself, when only `parents`/`observers` matter -/
theorem nec_self_iff (U : NodeUpd n f s s') (K : KeepsG f) :
    s'.isNecessary n = true ↔
      ((f (s.nodeD n)).parents ≠ [] ∨ (f (s.nodeD n)).observers ≠ [] ∨ (s.nodeD n).forceNecessary = true) := by
  rw [isNecessary_iff, U.parents_self, U.observers_self, U.forceNecessary K]

end NodeUpd

/-! ## unnecessary nodes -/

theorem observers_nil_of_not_nec {s : State} {c : Nat} (hc : s.isNecessary c = false) :
    (s.nodeD c).observers = [] :=
  Step.observers_nil_of_not_nec hc

/-! ## labelling helpers -/

theorem upd_closed_inv {op : Nat → Op} {p m : Nat} {x : Op} (hx : x ≠ .closed)
    (h : upd op p x m = .closed) : m ≠ p ∧ op m = .closed := by
  by_cases e : m = p
  · rw [e, upd_self] at h; exact absurd h hx
  · rw [upd_other _ _ _ e] at h; exact ⟨e, h⟩

theorem Op.linking_ne_closed (k : Nat) : Op.linking k ≠ .closed := by intro h; cases h
theorem Op.unlinking_ne_closed (k : Nat) : Op.unlinking k ≠ .closed := by intro h; cases h

end IncrVerif.Proofs.Quiet
