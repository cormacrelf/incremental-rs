import IncrVerif.Proofs.CutH32
-- static programs with ARBITRARY cutoffs; `Proofs/Quiet21.lean` (default cutoffs) takes its lemmas from this file; overview in Props/C06History.lean
/-!
# Part 21: the linking cascade returns
-/
namespace IncrVerif.Proofs.CutH
open IncrVerif.Engine IncrVerif.Driver IncrVerif.Proofs IncrVerif.Proofs.Step IncrVerif.Proofs.Sched

/-- **the linking cascade returns** (no assertion fails, the height limit is not hit, the fuel suffices), and the
height bound is kept -/
theorem becameNecessary_total {env : Env} {N fuel n : Nat} {s : State} {op : Nat → Op}
    (I : GInv env s op) (hb : HBo s op) (R : Room N s)
    (hop : op n = .linking 0) (hlow : ∀ m, op m ≠ .closed → n ≤ m)
    (hpar : ∀ p i, (p, i) ∈ (s.nodeD n).parents → op p ≠ .closed) (hf : 2 * n + 2 ≤ fuel) :
    Tot (becameNecessary env fuel n) s (fun _ s' => HBo s' (upd op n .closed)) :=
  have ⟨u, s', h, J⟩ := ((link_corr env N fuel).1 n s op I hop hlow hpar).tot ⟨hb, R, hf⟩
  ⟨u, s', h, J.2.2.2 hb⟩

end IncrVerif.Proofs.CutH
