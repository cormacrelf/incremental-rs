import IncrVerif.Proofs.PerKeyH68
import IncrVerif.Proofs.PerKeyH8
import IncrVerif.Proofs.PerKeyH89
import IncrVerif.Proofs.PerKeyFrame
/-!
# Per-key operators, a run of an expert node, part 2: from the run to `StepRelB` on the value-faithful virtual states

* `readyP`: field lemmas, `Fr`.
* `upd_readyP`: `V (readyP …)` is an `Upd` of `V s` (the analogue of `ExpertH.ranState_upd`).
* `xstep_rel`: one `recomputeOne` of an expert node of a per-key operator is the closure (`expertValue`, state unchanged)
  followed by `maybeChangeValue` from `readyP`, and is a `BindH.StepRelB` from `V s` to `V s'`.
-/
namespace IncrVerif.Proofs.PerKeyH
open IncrVerif.Engine IncrVerif.Driver IncrVerif.Proofs IncrVerif.Proofs.Step IncrVerif.Proofs.Sched
open IncrVerif.Proofs.ExpertH IncrVerif.Proofs.EffH IncrVerif.Proofs.DriverH IncrVerif.Proofs.Xp

/-! ## A. `readyP` -/

section
variable (env : Env) (n e : Nat) (s : State) (er : ExpertRec)

theorem readyP_nodes : (readyP env n e s er).nodes = (started n s).nodes := rfl
theorem readyP_nodeD (m : Nat) : (readyP env n e s er).nodeD m = (started n s).nodeD m := rfl
theorem readyP_experts : (readyP env n e s er).experts = s.experts.setIfInBounds e (readyRec env s er) := rfl
theorem readyP_perkeys : (readyP env n e s er).perkeys = s.perkeys := rfl
theorem readyP_size : (readyP env n e s er).nodes.size = s.nodes.size := by
  rw [readyP_nodes]; simp [started]
theorem readyP_kind (m : Nat) : ((readyP env n e s er).nodeD m).kind = (s.nodeD m).kind := by
  rw [readyP_nodeD, started_nodeD]; split <;> rfl
theorem readyP_value (m : Nat) : ((readyP env n e s er).nodeD m).value = (s.nodeD m).value := by
  rw [readyP_nodeD, started_nodeD]; split <;> rfl
theorem readyP_valid (m : Nat) : ((readyP env n e s er).nodeD m).valid = (s.nodeD m).valid := by
  rw [readyP_nodeD, started_nodeD]; split <;> rfl

theorem readyP_get_ne {e' : Nat} (h : e' ≠ e) : (readyP env n e s er).experts[e']? = s.experts[e']? := by
  rw [readyP_experts]; simp [Ne.symm h]

end

theorem readyP_get (env : Env) (n : Nat) {e : Nat} {s : State} {er : ExpertRec} (h : s.experts[e]? = some er) :
    (readyP env n e s er).experts[e]? = some (readyRec env s er) := by
  rw [readyP_experts]; exact Xp.getElem?_set_self _ _ _ _ h

theorem readyP_fr {env : Env} {n e : Nat} {s : State} {er : ExpertRec} (hF : Fr s)
    (he : s.experts[e]? = some er) : Fr (readyP env n e s er) := by
  obtain ⟨_, _, _, _, _, _, _, f8, _⟩ := Xp.readyRec_fields env s er
  refine ⟨hF.pc, fun m => ?_, hF.pinv, fun m => ?_, fun e' er' h' => ?_⟩
  · rw [readyP_valid]; exact hF.valid m
  · rw [readyP_kind]; exact hF.kind m
  · by_cases h : e' = e
    · subst h
      rw [readyP_get env n he] at h'; cases h'
      rw [f8]; exact hF.ni _ _ he
    · rw [readyP_get_ne env n e s er h] at h'; exact hF.ni _ _ h'

theorem readyP_xg (env : Env) (n : Nat) {e : Nat} {s : State} {er : ExpertRec} (he : s.experts[e]? = some er) :
    XG s (readyP env n e s er) := by
  obtain ⟨f1, f2, f3, _, _, f6, _, _, _⟩ := Xp.readyRec_fields env s er
  refine ⟨readyP_size env n e s er, readyP_kind env n e s er, fun e' er0 h => ?_, fun e' er' h' => ?_⟩
  · by_cases hee : e' = e
    · subst hee
      rw [he] at h; cases h
      exact ⟨_, readyP_get env n he, f1, f2, f3, f6⟩
    · exact ⟨er0, by rw [readyP_get_ne env n e s er hee]; exact h, rfl, rfl, rfl, rfl⟩
  · by_cases hee : e' = e
    · subst hee
      rw [readyP_get env n he] at h'; cases h'
      exact ⟨er, he, f1, f2, f3, f6⟩
    · rw [readyP_get_ne env n e s er hee] at h'
      exact ⟨er', h', rfl, rfl, rfl, rfl⟩


/-- the fragment in the state in which the closure runs -/
theorem PFrag.readyP {env : Env} {n e : Nat} {s : State} {er : ExpertRec} (F : PFrag env s)
    (hp : s.propagateInvalidity = []) (he : s.experts[e]? = some er) : PFrag env (readyP env n e s er) :=
  have fr : Fr (PerKeyH.readyP env n e s er) := readyP_fr (fr_of_pfrag F hp) he
  F.of_xg (readyP_xg env n he) fr.pc fr.valid fr.ni
    (fun m => by rw [readyP_nodeD, started_nodeD]; split <;> exact ⟨rfl, rfl, rfl⟩) rfl

/-! ## B. the kinds of `V` -/

/-- the records of `readyP` keep what the kinds of `V` read -/
theorem xRec_readyP (env : Env) (n : Nat) {e : Nat} {s : State} {er : ExpertRec} (he : s.experts[e]? = some er)
    (e' : Nat) :
    (xRec (readyP env n e s er).experts e').pk = (xRec s.experts e').pk ∧
      (xRec (readyP env n e s er).experts e').children = (xRec s.experts e').children ∧
      (xRec (readyP env n e s er).experts e').f = (xRec s.experts e').f ∧
      (xRec (readyP env n e s er).experts e').node = (xRec s.experts e').node := by
  by_cases h : e' = e
  · subst h
    obtain ⟨f1, f2, f3, _, _, f6, _, _, _⟩ := Xp.readyRec_fields env s er
    rw [xRec_some (readyP_get env n he), xRec_some he]
    exact ⟨f6, f3, f1, f2⟩
  · unfold xRec
    rw [readyP_get_ne env n e s er h]
    exact ⟨rfl, rfl, rfl, rfl⟩

/-! ## C. `Upd` of the virtual states -/

/-- the value-faithful virtual state of `readyP`: the current expert node is stamped (its record's `forceStale` is down), nothing else
changes -/
theorem upd_readyP {env : Env} {n e : Nat} {s : State} {er : ExpertRec} (F : PFrag env s) (hlt : n < s.nodes.size)
    (hk : (s.nodeD n).kind = .expert e) (he : s.experts[e]? = some er) :
    Upd n (V s) (V (readyP env n e s er)) ∧
      (V (readyP env n e s er)).nodeD n = { vNode s (s.nodeD n) with recomputedAt := s.stabNum } := by
  have hkind : ∀ k, vKind (readyP env n e s er) k = vKind s k :=
    vKind_congr (readyP_perkeys env n e s er) fun e' =>
      have ⟨b1, b2, b3, _⟩ := xRec_readyP env n he e'; ⟨b1, b2, b3⟩
  obtain ⟨_, _, _, _, _, _, f7, _, _⟩ := Xp.readyRec_fields env s er
  have hselfN : (V (readyP env n e s er)).nodeD n = { vNode s (s.nodeD n) with recomputedAt := s.stabNum } := by
    rw [V_nodeD, readyP_nodeD, started_nodeD, if_pos ⟨rfl, hlt⟩]
    simp only [vNode, hkind, hk, ExpertH.forced, xRec_some (readyP_get env n he), f7]
    rfl
  have hotherN : ∀ m, m ≠ n → (V (readyP env n e s er)).nodeD m = (V s).nodeD m := by
    intro m hm
    rw [V_nodeD, V_nodeD, readyP_nodeD, started_nodeD, if_neg (fun h => hm h.1.symm)]
    simp only [vNode, hkind]
    congr 1
    cases hkm : (s.nodeD m).kind <;> try rfl
    rename_i e'
    have hne : e' ≠ e := fun h => hm (F.xinj hkm (h ▸ hk))
    simp only [ExpertH.forced, xRec, readyP_get_ne env n e s er hne]
    rfl
  refine ⟨⟨?_, rfl, rfl, F.pc, rfl, hotherN, ?_, ?_⟩, hselfN⟩
  · rw [V_size, V_size, readyP_size]
  · rw [hselfN, V_nodeD]; exact ⟨rfl, rfl, rfl, rfl, rfl, rfl, rfl, rfl⟩
  · rw [hselfN, V_nodeD]

/-! ## D. the step -/

/-- **one `recomputeOne` of an expert node of a per-key operator**: the closure runs in `readyP` (state unchanged),
then `maybeChangeValue`, which the static engine runs on the value-faithful virtual states (`VSim`): a `StepRelB` there -/
theorem xstep_rel {env : Env} {fuel n e : Nat} {s s' : State} {r : Option Nat} (D : PD env s (some n))
    (hk : (s.nodeD n).kind = .expert e)
    (h : (recomputeOne env fuel n).run.run s = (.ok r, s')) :
    ∃ (er : ExpertRec) (v : Val) (ch : Bool),
      s.experts[e]? = some er ∧ er.node = n ∧
      (expertValue env e (depValsOf env s (readyRec env s er)) (slotValsOf (readyRec env s er))).run.run
        (readyP env n e s er) = (.ok v, readyP env n e s er) ∧
      (maybeChangeValue env fuel n v).run.run (readyP env n e s er) = (.ok r, s') ∧ Fr s' ∧
      BindH.StepRelB n v ch r (V s) (V s') := by
  have I := D.inv
  have F := D.aux.frag
  obtain ⟨hnecV, hltV, -, -, -⟩ := I.cur_facts
  have hlt : n < s.nodes.size := by rw [← V_size]; exact hltV
  obtain ⟨er, he, hnode⟩ := F.xrec n e hlt hk
  obtain ⟨hpk, hni, -⟩ := F.xok e er he
  have hx : Xp.IsExpert s n (s.nodeD n) e er := ⟨some_of_lt hlt, F.valid n hlt, hk, he⟩
  have hpk' : er.pk.isNone = false := by
    cases hp : er.pk with
    | none => rw [hp] at hpk; cases hpk
    | some _ => rfl
  obtain ⟨v, hv, hrun⟩ := recomputeOne_pk_run env fuel n hx hpk' (by omega) h
  obtain ⟨hvirt, fr'⟩ := VSim.maybeChangeValue env fuel n v (readyP env n e s er)
    (readyP_fr (fr_of_pfrag F D.aux.pinv) he) r s' hrun
  obtain ⟨hU, hself⟩ := upd_readyP (env := env) F hlt hk he
  obtain ⟨ch, R⟩ := BindH.BS.mcv_stepB I.graph I.heap hnecV hU rfl (by rw [hself, V_nodeD])
    (by rw [hself]; rfl) (by rw [hself, V_nodeD]) hvirt
  exact ⟨er, v, ch, he, hnode, hv, hrun, fr', R⟩

end IncrVerif.Proofs.PerKeyH
