import IncrVerif.Proofs.NestH63
import IncrVerif.Proofs.NestH25
import IncrVerif.Proofs.BindH102
/-!
# Nested binds (F2), part 5e1: the closure run registers exactly the IMAGE of the closure's template — operands, instructions, one iteration

The counterpart of BindH101 (`C3e`) for closures that may contain `bind body' o` instructions.
`N5e.resolve_eq2`, `N5e.mapM_resolve_eq2`: in the fragment `resolveOpnd` computes `resolveP`/`resolveAll`.
`N5e.elab_kind2`: an instruction of an F2 closure pushes a node of kind `kindOfInstr …`, or is `createBind` on the resolved operand.
`N5e.LK2`: the second loop invariant of `elabTemplate` (self-contained: it carries the current scope, so `NN.LI2` is not needed): the list registered
so far is `regOf t loc`, the locals are the images (`InstrImg`) of the instructions; `LK2.step_push` (static node), `LK2.step_bind` (inner bind).
-/
namespace IncrVerif.Proofs.NestH
open IncrVerif.Engine IncrVerif.Proofs IncrVerif.Proofs.Step IncrVerif.Proofs.Sched IncrVerif.Proofs.Quiet
open IncrVerif.Proofs.BindH

namespace N5e

/-! ## operands -/

theorem resolve_eq2 {rk0 : Nat → Nat} {s0 t t' : State} {lc j : Nat} {loc : List Nat} {o : Opnd} {c : Nat}
    (htop : t.top = s0.top) (hlen : loc.length = j) (ho : OpndOK2 rk0 s0 lc j o)
    (h : (resolveOpnd loc o).run.run t = (.ok c, t')) : t' = t ∧ resolveP t loc o = some c := by
  cases o with
  | outer k =>
    obtain ⟨r, hr, -⟩ := ho
    unfold resolveOpnd at h
    simp only at h
    rw [run_bind_get, htop, hr] at h
    obtain ⟨e1, e2⟩ := pure_ok_inv h
    refine ⟨e2, ?_⟩
    show t.top[k]? = some c
    rw [htop, hr, e1]
  | loc i =>
    have hi : i < loc.length := by rw [hlen]; exact ho
    have hc : loc[i]? = some loc[i] := List.getElem?_eq_getElem hi
    unfold resolveOpnd at h
    simp only [hc] at h
    obtain ⟨e1, e2⟩ := pure_ok_inv h
    refine ⟨e2, ?_⟩
    show loc[i]? = some c
    rw [hc, e1]
  | abs _ => exact ho.elim
  | slot _ => exact ho.elim

theorem mapM_resolve_eq2 {rk0 : Nat → Nat} {s0 t : State} {lc j : Nat} {loc : List Nat}
    (htop : t.top = s0.top) (hlen : loc.length = j) :
    ∀ (l : List Opnd) (r : List Nat) (t' : State), (∀ a, a ∈ l → OpndOK2 rk0 s0 lc j a) →
      (l.mapM (fun o => resolveOpnd loc o)).run.run t = (.ok r, t') →
      t' = t ∧ resolveAll t loc l = some r := by
  intro l
  induction l with
  | nil =>
    intro r t' _ h
    rw [List.mapM_nil] at h
    obtain ⟨e1, e2⟩ := pure_ok_inv h
    rw [e1]; exact ⟨e2, rfl⟩
  | cons a l ih =>
    intro r t' hl h
    rw [List.mapM_cons] at h
    obtain ⟨x, t1, h1, h2⟩ := bind_ok_inv h
    obtain ⟨et, hx⟩ := resolve_eq2 htop hlen (hl a (List.mem_cons_self ..)) h1
    rw [et] at h2
    obtain ⟨xs, t2, h3, h4⟩ := bind_ok_inv h2
    obtain ⟨et2, hxs⟩ := ih xs t2 (fun y hy => hl y (List.mem_cons_of_mem _ hy)) h3
    obtain ⟨e1, e2⟩ := pure_ok_inv h4
    rw [e1, e2]
    refine ⟨et2, ?_⟩
    simp only [resolveAll, hx, hxs]

/-! ## `InstrImg`, `regOf` -/

/-- for an instruction that creates a static node the image is given by `kindOfInstr` -/
theorem instrImg_of_kind {s : State} {locs : List Nat} {v : Val} {i : Instr} {m : Nat}
    (h : kindOfInstr s locs v i = some (s.nodeD m).kind) : InstrImg s locs v i m := by
  cases i <;> first | exact h | cases h

/-- `kindOfInstr` never yields the main node of a bind -/
theorem kindOfInstr_ne_main {s : State} {locs : List Nat} {v : Val} {i : Instr} {k : Kind}
    (h : kindOfInstr s locs v i = some k) : ∀ b2 lc2, k ≠ .bindMain b2 lc2 := by
  intro b2 lc2 e
  subst e
  cases i with
  | const w => cases h
  | lhsConst => cases h
  | map f args =>
    simp only [kindOfInstr] at h
    cases hr : resolveAll s locs args with
    | none => rw [hr] at h; cases h
    | some l => rw [hr] at h; cases h
  | fold f init cs =>
    simp only [kindOfInstr] at h
    cases hr : resolveAll s locs cs with
    | none => rw [hr] at h; cases h
    | some l =>
      rw [hr] at h
      simp only [Option.map_some] at h
      split at h <;> cases h
  | _ => cases h

/-- the image of an instruction only reads the naming table, the node itself and the record of the bind whose main node it is -/
theorem instrImg_frame {s s' : State} {locs : List Nat} {v : Val} {i : Instr} {m : Nat} (htop : s'.top = s.top)
    (hm : s'.nodeD m = s.nodeD m)
    (hb : ∀ (b2 : Nat) (br2 : BindRec), s.binds[b2]? = some br2 → br2.main = m → s'.binds[b2]? = some br2)
    (h : InstrImg s locs v i m) : InstrImg s' locs v i m := by
  cases i with
  | bind body' o =>
    obtain ⟨b2, br2, lc2, h1, h2, h3, h4, h5, h6⟩ := h
    exact ⟨b2, br2, lc2, by rw [hm]; exact h1, hb b2 br2 h2 h4, h3, h4, h5, by rw [C3e.resolveP_congr htop]; exact h6⟩
  | _ =>
    show kindOfInstr s' locs v _ = some (s'.nodeD m).kind
    rw [C3e.kindOfInstr_congr htop, hm]
    exact h

theorem regOf_nil (s : State) : regOf s [] = [] := rfl

theorem regOf_append (s : State) (l1 l2 : List Nat) : regOf s (l1 ++ l2) = regOf s l1 ++ regOf s l2 := by
  unfold regOf
  exact List.flatMap_append

theorem regOf_congr {s s' : State} : ∀ {locs : List Nat}, (∀ m, m ∈ locs → s'.nodeD m = s.nodeD m) →
    regOf s' locs = regOf s locs
  | [], _ => rfl
  | m :: l, h => by
    have ih := regOf_congr (s := s) (s' := s') (locs := l) (fun x hx => h x (List.mem_cons_of_mem _ hx))
    unfold regOf at ih ⊢
    rw [List.flatMap_cons, List.flatMap_cons, ih, h m (List.mem_cons_self ..)]

theorem regOf_single_main {s : State} {m b2 lc2 : Nat} (h : (s.nodeD m).kind = .bindMain b2 lc2) :
    regOf s [m] = [lc2, m] := by
  unfold regOf
  simp only [List.flatMap_cons, List.flatMap_nil, List.append_nil, h]

theorem regOf_single_other {s : State} {m : Nat} (h : ∀ b2 lc2, (s.nodeD m).kind ≠ .bindMain b2 lc2) :
    regOf s [m] = [m] := by
  unfold regOf
  simp only [List.flatMap_cons, List.flatMap_nil, List.append_nil]

/-! ## one instruction -/

/-- an instruction of an F2 closure pushes exactly one node, of the kind `kindOfInstr` prescribes, or is `createBind` on the resolved operand -/
theorem elab_kind2 {env : Env} {rk0 : Nat → Nat} {s0 t t1 : State} {P : Nat → Prop} {b lc j : Nat} {loc : List Nat}
    {i : Instr} {v : Val} {ro : Option Nat} (htop : t.top = s0.top) (hlen : loc.length = j)
    (hsc : t.currentScope = .bind b)
    (hi : InstrOK2 env rk0 s0 P lc j i) (h : (elabInstrM env loc v i).run.run t = (.ok ro, t1)) :
    (∃ k, ro = some t.nodes.size ∧ kindOfInstr t loc v i = some k ∧ CN.Push k b t t1) ∨
    (∃ body' o lhs, i = .bind body' o ∧ ro = some (t.nodes.size + 1) ∧ resolveP t loc o = some lhs ∧
      NN.PushBind body' lhs b t t1) := by
  cases i with
  | const w =>
    left
    unfold elabInstrM at h
    simp only at h
    unfold elabInstr at h
    rw [run_bind_get] at h
    simp only [hsc] at h
    obtain ⟨n, h1, e⟩ := map_ok_inv h
    obtain ⟨en, C⟩ := CN.createNode_push h1
    exact ⟨.const w, by rw [e, en], rfl, C⟩
  | lhsConst =>
    left
    unfold elabInstrM at h
    simp only at h
    unfold elabInstr at h
    rw [run_bind_get] at h
    simp only [hsc] at h
    obtain ⟨n, h1, e⟩ := map_ok_inv h
    obtain ⟨en, C⟩ := CN.createNode_push h1
    exact ⟨.const v, by rw [e, en], rfl, C⟩
  | map f args =>
    left
    unfold elabInstrM at h
    simp only at h
    unfold elabInstr at h
    rw [run_bind_get] at h
    simp only [hsc] at h
    obtain ⟨as, t2, h1, h2⟩ := bind_ok_inv h
    obtain ⟨et, has⟩ := mapM_resolve_eq2 htop hlen args as t2 hi.2.2 h1
    rw [et] at h2
    obtain ⟨n, h3, e⟩ := map_ok_inv h2
    obtain ⟨en, C⟩ := CN.createNode_push h3
    refine ⟨.map f as, by rw [e, en], ?_, C⟩
    simp only [kindOfInstr, has, Option.map_some]
  | fold f init cs =>
    left
    unfold elabInstrM at h
    simp only at h
    unfold elabInstr at h
    rw [run_bind_get] at h
    simp only [hsc] at h
    obtain ⟨as, t2, h1, h2⟩ := bind_ok_inv h
    obtain ⟨et, has⟩ := mapM_resolve_eq2 htop hlen cs as t2 hi h1
    rw [et] at h2
    split at h2
    · rename_i hemp
      obtain ⟨n, h3, e⟩ := map_ok_inv h2
      obtain ⟨en, C⟩ := CN.createNode_push h3
      refine ⟨.const init, by rw [e, en], ?_, C⟩
      simp only [kindOfInstr, has, Option.map_some, hemp, if_true]
    · rename_i hemp
      obtain ⟨n, h3, e⟩ := map_ok_inv h2
      obtain ⟨en, C⟩ := CN.createNode_push h3
      refine ⟨.fold f init as, by rw [e, en], ?_, C⟩
      simp only [kindOfInstr, has, Option.map_some, hemp]
      rfl
  | bind body' o =>
    right
    unfold elabInstrM at h
    simp only at h
    unfold elabInstr at h
    rw [run_bind_get] at h
    simp only at h
    obtain ⟨x, t2, h1, h2⟩ := bind_ok_inv h
    obtain ⟨et, hx⟩ := resolve_eq2 htop hlen hi.2 h1
    rw [et] at h2
    obtain ⟨n, h3, e⟩ := map_ok_inv h2
    obtain ⟨en, C⟩ := NN.createBind_pushBind hsc h3
    exact ⟨body', o, x, rfl, by rw [e, en], hx, C⟩
  | _ => exact hi.elim

/-! ## the second loop invariant -/

/-- the list registered so far is `regOf t loc` for the local list `loc` of `elabTemplate`, and the locals are the images of the instructions of template
`tm` for lhs value `v`; the locals are younger than the bind's main node; the current scope is `.bind b` -/
structure LK2 (b : Nat) (br : BindRec) (s0 : State) (tm : Template) (v : Val) (j : Nat) (loc : List Nat)
    (t : State) : Prop where
  bind : t.binds[b]? = some { br with allNodesCreatedOnRhs := regOf t loc }
  top : t.top = s0.top
  len : loc.length = j
  scope : t.currentScope = .bind b
  mainLt : br.main < t.nodes.size
  lt : ∀ m, m ∈ loc → br.main < m ∧ m < t.nodes.size
  img : ∀ j' i m, tm.instrs[j']? = some i → loc[j']? = some m → InstrImg t (loc.take j') v i m

/-- one iteration, from the frame facts of the step that created the local `n` (registered nodes `r`) -/
theorem LK2.step_gen {b : Nat} {br : BindRec} {s0 t t1 : State} {tm : Template} {v : Val} {j : Nat} {loc : List Nat}
    {i : Instr} {n : Nat} {r : List Nat} (L : LK2 b br s0 tm v j loc t) (hj : tm.instrs[j]? = some i)
    (htop : t1.top = t.top) (hsc : t1.currentScope = t.currentScope)
    (hold : ∀ m, m < t.nodes.size → t1.nodeD m = t.nodeD m)
    (hbo : ∀ b', b' ≠ b → b' < t.binds.size → t1.binds[b']? = t.binds[b']?)
    (hsz : t.nodes.size ≤ t1.nodes.size) (hn : t.nodes.size ≤ n) (hn1 : n < t1.nodes.size)
    (hbb : t1.binds[b]? = some { br with allNodesCreatedOnRhs := regOf t loc ++ r })
    (hr : regOf t1 [n] = r) (himg : InstrImg t1 loc v i n) :
    LK2 b br s0 tm v (j + 1) (loc ++ [n]) t1 := by
  have hreg : regOf t1 (loc ++ [n]) = regOf t loc ++ r := by
    rw [regOf_append, hr, regOf_congr (s := t) (s' := t1) (fun m hm => hold m (L.lt m hm).2)]
  refine ⟨by rw [hreg]; exact hbb, htop.trans L.top, by rw [List.length_append, L.len]; rfl,
    hsc.trans L.scope, Nat.lt_of_lt_of_le L.mainLt hsz, ?_, ?_⟩
  · intro m hm
    rcases List.mem_append.1 hm with hm | hm
    · have := L.lt m hm
      exact ⟨this.1, by omega⟩
    · rw [List.mem_singleton.1 hm]
      have := L.mainLt
      exact ⟨by omega, hn1⟩
  · intro j' i' m hi' hm
    rcases Nat.lt_or_ge j' loc.length with hlt | hge
    · rw [List.getElem?_append_left hlt] at hm
      have hml : m ∈ loc := List.mem_of_getElem? hm
      rw [List.take_append_of_le_length (Nat.le_of_lt hlt)]
      refine instrImg_frame htop (hold m (L.lt m hml).2) ?_ (L.img j' i' m hi' hm)
      intro b2 br2 hb2 hmain
      have hne : b2 ≠ b := by
        intro e
        rw [e, L.bind] at hb2
        cases hb2
        have := (L.lt m hml).1
        have hmain' : br.main = m := hmain
        omega
      rw [hbo b2 hne (lt_of_getElem? hb2)]
      exact hb2
    · have hj' : j' = loc.length := by
        rcases Nat.lt_or_ge loc.length j' with h | h
        · rw [List.getElem?_eq_none (by rw [List.length_append, List.length_singleton]; omega)] at hm
          cases hm
        · omega
      subst hj'
      rw [List.getElem?_append_right (Nat.le_refl _), Nat.sub_self] at hm
      have hm' : n = m := by simpa using hm
      subst hm'
      rw [L.len, hj] at hi'
      cases hi'
      rw [List.take_left']
      · exact himg
      · rfl

/-- one iteration: a static node -/
theorem LK2.step_push {b : Nat} {br : BindRec} {s0 t t1 : State} {tm : Template} {v : Val} {j : Nat} {loc : List Nat}
    {i : Instr} {k : Kind} (L : LK2 b br s0 tm v j loc t) (hj : tm.instrs[j]? = some i)
    (hk : kindOfInstr t loc v i = some k) (C : CN.Push k b t t1) :
    LK2 b br s0 tm v (j + 1) (loc ++ [t.nodes.size]) t1 := by
  have hkd : (t1.nodeD t.nodes.size).kind = k := by rw [C.nodeD_new]
  refine L.step_gen (r := [t.nodes.size]) hj C.top C.scope (fun m hm => C.nodeD_lt hm) ?_ (by rw [C.size]; omega)
    (Nat.le_refl _) (by rw [C.size]; omega) ?_ ?_ ?_
  · intro b' hne _
    rw [C.binds, Array.getElem?_modify, if_neg (fun e => hne e.symm)]
  · rw [C.binds, Array.getElem?_modify, if_pos rfl, L.bind]; rfl
  · apply regOf_single_other
    intro b2 lc2
    rw [hkd]
    exact kindOfInstr_ne_main hk b2 lc2
  · apply instrImg_of_kind
    rw [C3e.kindOfInstr_congr C.top, hkd]
    exact hk

/-- one iteration: an inner bind — the local is the main node, the change detector is registered before it -/
theorem LK2.step_bind {b : Nat} {br : BindRec} {s0 t t1 : State} {tm : Template} {v : Val} {j : Nat} {loc : List Nat}
    {body' lhs : Nat} {o : Opnd} (L : LK2 b br s0 tm v j loc t) (hj : tm.instrs[j]? = some (.bind body' o))
    (hr : resolveP t loc o = some lhs) (C : NN.PushBind body' lhs b t t1) :
    LK2 b br s0 tm v (j + 1) (loc ++ [t.nodes.size + 1]) t1 := by
  have hkd : (t1.nodeD (t.nodes.size + 1)).kind = .bindMain t.binds.size t.nodes.size := by rw [C.nodeD_main]
  refine L.step_gen (r := [t.nodes.size, t.nodes.size + 1]) hj C.top C.scope (fun m hm => C.nodeD_lt hm)
    (fun b' hne hlt => C.binds_other hne hlt) (by rw [C.size]; omega)
    (by omega) (by rw [C.size]; omega) ?_ (regOf_single_main hkd) ?_
  · rw [C.binds_b L.bind]
    show some { br with allNodesCreatedOnRhs := regOf t loc ++ [t.nodes.size] ++ [t.nodes.size + 1] } = _
    rw [List.append_assoc]
    rfl
  · exact ⟨t.binds.size, _, t.nodes.size, hkd, C.binds_new L.bind, rfl, rfl, rfl,
      by rw [C3e.resolveP_congr C.top]; exact hr⟩

end N5e

end IncrVerif.Proofs.NestH
