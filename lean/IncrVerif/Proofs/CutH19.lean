import IncrVerif.Proofs.CutH15
import IncrVerif.Engine.Run
-- static programs with ARBITRARY cutoffs; `Proofs/Quiet13.lean` (default cutoffs) takes its lemmas from this file; overview in Props/C06History.lean
/-!
# Part 12: the prefix of `stabilise`: `addNewObservers`, `unlinkDisallowedObservers`
-/
namespace IncrVerif.Proofs.CutH
open IncrVerif.Engine IncrVerif.Driver IncrVerif.Proofs IncrVerif.Proofs.Step IncrVerif.Proofs.Sched
variable {e : Bool}

/-- the invariant during the prefix of `stabilise`: `pn` / `pd` are the observers still to be added / unlinked -/
structure SInv (env : Env) (s : State) (pn pd : List Nat) : Prop where
  struct : Struct env s
  obs : ObsInv s pn pd
  pinv : s.propagateInvalidity = []
  handlers : ∀ m, (s.nodeD m).numOnUpdateHandlers ≤ 0

/-- how `addNewObservers` changes the state of an observer -/
def addedState : ObsState → ObsState
  | .created => .inUse
  | x => x

/-- how `unlinkDisallowedObservers` changes the state of an observer -/
def unlinkedState : ObsState → ObsState
  | .disallowed => .unlinked
  | x => x

/-- observer records: same number, same nodes, states mapped by `f` -/
def ObsMap (f : ObsState → ObsState) (s s' : State) : Prop :=
  s'.observers.size = s.observers.size ∧
  ∀ (o : Nat) (ob : ObsRec), s.observers[o]? = some ob →
    ∃ ob', s'.observers[o]? = some ob' ∧ ob'.node = ob.node ∧ ob'.state = f ob.state

namespace P12

/-! ## the observer records after the state of one observer was set -/

/-- `t'` has the observer records of `t`, except that the state of `o` is now `x` -/
structure ObsSet (o : Nat) (x : ObsState) (t t' : State) : Prop where
  self : ∀ ob, t.observers[o]? = some ob → t'.observers[o]? = some { ob with state := x }
  other : ∀ o', o' ≠ o → t'.observers[o']? = t.observers[o']?
  size : t'.observers.size = t.observers.size

theorem ObsSet.of_modify {o : Nat} {x : ObsState} {t t' : State}
    (h : t'.observers = t.observers.modify o fun y => { y with state := x }) : ObsSet o x t t' := by
  refine ⟨fun ob hob => ?_, fun o' ho' => ?_, by rw [h]; simp⟩
  · rw [h, Array.getElem?_modify, if_pos rfl, hob]; rfl
  · rw [h, Array.getElem?_modify, if_neg (fun e => ho' e.symm)]

theorem ObsSet.then_eq {o : Nat} {x : ObsState} {t t' t'' : State} (h : ObsSet o x t t')
    (e : t''.observers = t'.observers) : ObsSet o x t t'' :=
  ⟨fun ob hob => by rw [e]; exact h.self ob hob, fun o' ho' => by rw [e]; exact h.other o' ho', by rw [e]; exact h.size⟩

/-- the general shape of the observer records in terms of the old ones -/
theorem ObsSet.recs {o : Nat} {x : ObsState} {t t' : State} (h : ObsSet o x t t') (o' : Nat) (ob : ObsRec)
    (hob : t.observers[o']? = some ob) :
    ∃ ob', t'.observers[o']? = some ob' ∧ ob'.node = ob.node ∧ ob'.handlers = ob.handlers ∧
      ((o' ≠ o ∧ ob'.state = ob.state) ∨ (o' = o ∧ ob'.state = x)) := by
  by_cases e : o' = o
  · rw [e] at hob ⊢
    exact ⟨_, h.self ob hob, rfl, rfl, Or.inr ⟨rfl, rfl⟩⟩
  · exact ⟨ob, by rw [h.other o' e]; exact hob, rfl, rfl, Or.inl ⟨e, rfl⟩⟩

/-- the converse: every new record comes from an old one -/
theorem ObsSet.back {o : Nat} {x : ObsState} {t t' : State} (h : ObsSet o x t t') (o' : Nat) (ob' : ObsRec)
    (hob : t'.observers[o']? = some ob') :
    ∃ ob, t.observers[o']? = some ob ∧ ob'.node = ob.node ∧ ob'.handlers = ob.handlers ∧
      ((o' ≠ o ∧ ob'.state = ob.state) ∨ (o' = o ∧ ob'.state = x)) := by
  have hlt : o' < t.observers.size := by
    rw [← h.size]; exact (Array.getElem?_eq_some_iff.1 hob).1
  obtain ⟨ob, hob0⟩ : ∃ ob, t.observers[o']? = some ob := ⟨_, Array.getElem?_eq_getElem hlt⟩
  obtain ⟨ob1, h1, h2, h3, h4⟩ := h.recs o' ob hob0
  rw [hob] at h1; cases h1
  exact ⟨ob, hob0, h2, h3, h4⟩

/-! ## the observer bookkeeping through one iteration -/

/-- skipping an observer that is not `created` (it was dropped before it was ever linked) -/
theorem obsInv_skip_step {t : State} {o : Nat} {rest pd : List Nat} {ob : ObsRec}
    (O : ObsInv t (o :: rest) pd) (hob : t.observers[o]? = some ob) (hst : ob.state ≠ .created) :
    ObsInv t rest pd where
  inRange := O.inRange
  mem := O.mem
  created o' ob' h hc := by
    rcases List.mem_cons.1 (O.created o' ob' h hc) with e | e
    · rw [e, hob] at h; cases h; exact absurd hc hst
    · exact e
  newIn o' h := O.newIn o' (List.mem_cons_of_mem _ h)
  dis := O.dis
  disIn := O.disIn
  disNodup := O.disNodup

/-- linking a `created` observer -/
theorem obsInv_add_step {t t' : State} {o : Nat} {rest pd : List Nat} {ob : ObsRec}
    (O : ObsInv t (o :: rest) pd) (hob : t.observers[o]? = some ob) (hst : ob.state = .created)
    (S : ObsSet o .inUse t t') (hsz : t'.nodes.size = t.nodes.size)
    (hself : (t'.nodeD ob.node).observers = (t.nodeD ob.node).observers ++ [o])
    (hoth : ∀ m, m ≠ ob.node → (t'.nodeD m).observers = (t.nodeD m).observers) :
    ObsInv t' rest pd where
  inRange o' ob' h := by
    obtain ⟨ob0, h0, hn, hh, -⟩ := S.back o' ob' h
    rw [hn, hh, hsz]; exact O.inRange o' ob0 h0
  mem n o' := by
    by_cases eo : o' = o
    · rw [eo]
      have hnew := S.self ob hob
      by_cases en : n = ob.node
      · rw [en, hself]
        exact ⟨fun _ => ⟨_, hnew, rfl, Or.inl rfl⟩, fun _ => List.mem_append_right _ (List.mem_singleton.2 rfl)⟩
      · rw [hoth n en, O.mem n o]
        constructor
        · rintro ⟨ob0, h0, h1, h2⟩
          rw [hob] at h0; cases h0
          rw [hst] at h2; rcases h2 with h2 | h2 <;> cases h2
        · rintro ⟨ob1, h0, h1, _⟩
          rw [hnew] at h0; cases h0
          exact absurd h1.symm en
    · have hrec : t'.observers[o']? = t.observers[o']? := S.other o' eo
      by_cases en : n = ob.node
      · rw [en, hself, List.mem_append, List.mem_singleton, hrec, O.mem]
        exact ⟨fun h => h.resolve_right eo, Or.inl⟩
      · rw [hoth n en, hrec, O.mem]
  created o' ob' h hc := by
    obtain ⟨ob0, h0, -, -, h4⟩ := S.back o' ob' h
    rcases h4 with ⟨e, hs⟩ | ⟨e, hs⟩
    · rcases List.mem_cons.1 (O.created o' ob0 h0 (by rw [← hs]; exact hc)) with h | h
      · exact absurd h e
      · exact h
    · rw [hs] at hc; cases hc
  newIn o' h := by
    obtain ⟨ob0, h0⟩ := O.newIn o' (List.mem_cons_of_mem _ h)
    obtain ⟨ob1, h1, _⟩ := S.recs o' ob0 h0
    exact ⟨ob1, h1⟩
  dis o' ob' h := by
    obtain ⟨ob0, h0, -, -, h4⟩ := S.back o' ob' h
    rcases h4 with ⟨e, hs⟩ | ⟨e, hs⟩
    · rw [hs]; exact O.dis o' ob0 h0
    · rw [hs, e]
      have := O.dis o ob hob
      rw [hst] at this
      constructor
      · intro h; cases h
      · intro h; exact absurd (this.2 h) (by intro h; cases h)
  disIn o' h := by
    obtain ⟨ob0, h0⟩ := O.disIn o' h
    obtain ⟨ob1, h1, _⟩ := S.recs o' ob0 h0
    exact ⟨ob1, h1⟩
  disNodup := O.disNodup

/-- unlinking a `disallowed` observer -/
theorem obsInv_unlink_step {t t' : State} {o : Nat} {rest : List Nat} {ob : ObsRec}
    (O : ObsInv t [] (o :: rest)) (hob : t.observers[o]? = some ob)
    (S : ObsSet o .unlinked t t') (hsz : t'.nodes.size = t.nodes.size)
    (hself : (t'.nodeD ob.node).observers = (t.nodeD ob.node).observers.filter (· != o))
    (hoth : ∀ m, m ≠ ob.node → (t'.nodeD m).observers = (t.nodeD m).observers) :
    ObsInv t' [] rest where
  inRange o' ob' h := by
    obtain ⟨ob0, h0, hn, hh, -⟩ := S.back o' ob' h
    rw [hn, hh, hsz]; exact O.inRange o' ob0 h0
  mem n o' := by
    by_cases eo : o' = o
    · rw [eo]
      have hnew := S.self ob hob
      constructor
      · intro hm
        exfalso
        by_cases en : n = ob.node
        · rw [en, hself, List.mem_filter] at hm
          simp at hm
        · rw [hoth n en, O.mem n o] at hm
          obtain ⟨ob0, h0, h1, _⟩ := hm
          rw [hob] at h0; cases h0
          exact en h1.symm
      · rintro ⟨ob1, h0, _, h2⟩
        rw [hnew] at h0; cases h0
        rcases h2 with h2 | h2 <;> cases h2
    · have hrec : t'.observers[o']? = t.observers[o']? := S.other o' eo
      by_cases en : n = ob.node
      · rw [en, hself, List.mem_filter, hrec, ← O.mem]
        constructor
        · exact fun h => h.1
        · exact fun h => ⟨h, by simpa using eo⟩
      · rw [hoth n en, hrec, O.mem]
  created o' ob' h hc := by
    obtain ⟨ob0, h0, -, -, h4⟩ := S.back o' ob' h
    rcases h4 with ⟨e, hs⟩ | ⟨e, hs⟩
    · exact O.created o' ob0 h0 (by rw [← hs]; exact hc)
    · rw [hs] at hc; cases hc
  newIn o' h := by cases h
  dis o' ob' h := by
    obtain ⟨ob0, h0, -, -, h4⟩ := S.back o' ob' h
    rcases h4 with ⟨e, hs⟩ | ⟨e, hs⟩
    · rw [hs, O.dis o' ob0 h0, List.mem_cons]
      exact ⟨fun h => h.resolve_left e, Or.inr⟩
    · rw [hs, e]
      constructor
      · intro h; cases h
      · intro h; exact absurd h (List.nodup_cons.1 O.disNodup).1
  disIn o' h := by
    obtain ⟨ob0, h0⟩ := O.disIn o' (List.mem_cons_of_mem _ h)
    obtain ⟨ob1, h1, _⟩ := S.recs o' ob0 h0
    exact ⟨ob1, h1⟩
  disNodup := (List.nodup_cons.1 O.disNodup).2

/-! ## the explicit state updates of the two loop bodies (before the cascades) -/

/-- the state after the bookkeeping of `add_new_observers` for observer `o` of node `n` with `k` handlers -/
def obsAdded (o n : Nat) (k : Int) (t : State) : State :=
  { t with observers := t.observers.modify o (fun x => { x with state := .inUse }),
           allObservers := t.allObservers ++ [o],
           nodes := t.nodes.modify n fun x =>
             { x with observers := x.observers ++ [o], numOnUpdateHandlers := x.numOnUpdateHandlers + k } }

/-- the state after the bookkeeping of `unlink_disallowed_observers` for observer `o` of node `n` -/
def obsRemoved (o n : Nat) (k : Int) (t : State) : State :=
  { t with observers := t.observers.modify o (fun x => { x with state := .unlinked }),
           allObservers := t.allObservers.filter (· != o),
           nodes := t.nodes.modify n fun x =>
             { x with observers := x.observers.filter (· != o),
                      numOnUpdateHandlers := x.numOnUpdateHandlers - k } }

theorem obsAdded_nodeD (o n : Nat) (k : Int) (t : State) (m : Nat) :
    (obsAdded o n k t).nodeD m = if n = m ∧ m < t.nodes.size then
      { t.nodeD m with observers := (t.nodeD m).observers ++ [o],
                       numOnUpdateHandlers := (t.nodeD m).numOnUpdateHandlers + k } else t.nodeD m := by
  show ({ t with nodes := t.nodes.modify n _ } : State).nodeD m = _
  rw [nodeD_modify]

theorem obsRemoved_nodeD (o n : Nat) (k : Int) (t : State) (m : Nat) :
    (obsRemoved o n k t).nodeD m = if n = m ∧ m < t.nodes.size then
      { t.nodeD m with observers := (t.nodeD m).observers.filter (· != o),
                       numOnUpdateHandlers := (t.nodeD m).numOnUpdateHandlers - k } else t.nodeD m := by
  show ({ t with nodes := t.nodes.modify n _ } : State).nodeD m = _
  rw [nodeD_modify]

theorem obsAdded_upd {o n : Nat} {k : Int} {t : State} (hn : n < t.nodes.size) :
    NodeUpd n (fObservers ((t.nodeD n).observers ++ [o])) t (obsAdded o n k t) := by
  refine ⟨hn, rfl, rfl, by simp [obsAdded], rfl, rfl, fun m hm => ?_, ?_⟩
  · rw [obsAdded_nodeD, if_neg (fun e => hm e.1.symm)]; exact NodeG.refl _
  · rw [obsAdded_nodeD, if_pos ⟨rfl, hn⟩]; exact ⟨rfl, rfl, rfl, rfl, rfl, rfl, rfl, rfl, rfl, rfl, rfl⟩

theorem obsRemoved_upd {o n : Nat} {k : Int} {t : State} (hn : n < t.nodes.size) :
    NodeUpd n (fObservers ((t.nodeD n).observers.filter (· != o))) t (obsRemoved o n k t) := by
  refine ⟨hn, rfl, rfl, by simp [obsRemoved], rfl, rfl, fun m hm => ?_, ?_⟩
  · rw [obsRemoved_nodeD, if_neg (fun e => hm e.1.symm)]; exact NodeG.refl _
  · rw [obsRemoved_nodeD, if_pos ⟨rfl, hn⟩]; exact ⟨rfl, rfl, rfl, rfl, rfl, rfl, rfl, rfl, rfl, rfl, rfl⟩

theorem obsAdded_frame (o n : Nat) (t : State) : PFrame t (obsAdded o n ((0 : Nat) : Int) t) := by
  refine ⟨by simp [obsAdded], fun m => ?_, rfl, id⟩
  rw [obsAdded_nodeD]; split
  · simp [nodeKeyP]
  · rfl

theorem obsRemoved_frame (o n : Nat) (t : State) : PFrame t (obsRemoved o n ((0 : Nat) : Int) t) := by
  refine ⟨by simp [obsRemoved], fun m => ?_, rfl, id⟩
  rw [obsRemoved_nodeD]; split
  · simp [nodeKeyP]
  · rfl

/-! ## the structural invariant through one iteration -/

theorem allClosed_low (n : Nat) : ∀ m, allClosed m ≠ .closed → n ≤ m := fun _ h => absurd rfl h

/-- the end of the body of `add_new_observers`: the link cascade if the node was not necessary -/
theorem struct_add {env : Env} {fuel n : Nat} {l : List Nat} {was : Bool} {t t4 t' : State}
    {r : ForInStep PUnit}
    (I : Struct env t) (U : NodeUpd n (fObservers l) t t4) (hl : l ≠ []) (hwas : was = t.isNecessary n)
    (hp : t4.propagateInvalidity = [])
    (h : (if (!was) = true then do
            becameNecessaryPropagate env fuel n
            pure (ForInStep.yield PUnit.unit)
          else pure (ForInStep.yield PUnit.unit)).run.run t4 = (.ok r, t')) :
    r = .yield PUnit.unit ∧ Struct env t' ∧ CFrame t4 t' ∧ t'.propagateInvalidity = [] ∧
      (∀ m, t4.isNecessary m = true → t'.isNecessary m = true) := by
  cases hw : was with
  | true =>
    rw [hw] at h hwas
    simp only [Bool.not_true, Bool.false_eq_true, if_false] at h
    obtain ⟨hr, e⟩ := pure_ok_inv h
    rw [e]
    exact ⟨hr, I.addObs_nec U hl hwas.symm rfl, CFrame.refl _, hp, fun _ h => h⟩
  | false =>
    rw [hw] at h hwas
    simp only [Bool.not_false, if_true] at h
    obtain ⟨_, t5, h5, h⟩ := bind_ok_inv h
    obtain ⟨hr, e⟩ := pure_ok_inv h
    rw [e]
    unfold becameNecessaryPropagate at h5
    obtain ⟨_, t6, h6, h5⟩ := bind_ok_inv h5
    obtain ⟨I1, hpar⟩ := GInv.addObs_open I U hl hwas.symm rfl
    obtain ⟨I2, -, hL⟩ := becameNecessary_spec h6 I1 (upd_self _ _ _)
      (by
        intro m hm
        by_cases e : m = n
        · omega
        · rw [upd_other _ _ _ e] at hm; exact absurd rfl hm)
      (by intro p i hpi; rw [hpar] at hpi; cases hpi)
    rw [upd_upd, upd_eq_self allClosed n .closed rfl] at I2
    have hp6 : t6.propagateInvalidity = [] := by rw [hL.pinv]; exact hp
    have e5 := propagateInvalidity_nil hp6 h5
    rw [e5]
    exact ⟨hr, I2, hL.fr, hp6, fun m hm => hL.nec hm⟩

/-- the end of the body of `unlink_disallowed_observers`: the unlink cascade if the node is no longer necessary -/
theorem struct_unlink {env : Env} {fuel n : Nat} {l : List Nat} {t t3 t' : State}
    (I : Struct env t) (U : NodeUpd n (fObservers l) t t3) (hn : t.isNecessary n = true)
    (h : (checkIfUnnecessary fuel n).run.run t3 = (.ok (), t')) :
    Struct env t' ∧ URel t3 t' := by
  obtain ⟨H1, H2⟩ := GInv.remObs I U rfl hn
  cases hnc : t3.isNecessary n with
  | true =>
    obtain ⟨I2, -, hU⟩ := checkIfUnnecessary_spec h (H1 hnc) (allClosed_low n) (Or.inl ⟨hnc, rfl⟩)
    rw [upd_eq_self allClosed n .closed rfl] at I2
    exact ⟨I2, hU⟩
  | false =>
    obtain ⟨I2, -, hU⟩ := checkIfUnnecessary_spec h (H2 hnc)
      (by
        intro m hm
        by_cases e : m = n
        · omega
        · rw [upd_other _ _ _ e] at hm; exact absurd rfl hm)
      (Or.inr ⟨hnc, upd_self _ _ _⟩)
    rw [upd_upd, upd_eq_self allClosed n .closed rfl] at I2
    exact ⟨I2, hU⟩

/-! ## frame accessors -/

theorem cf_obsArr {s s' : State} (h : CFrame s s') : s'.observers = s.observers := by
  have := h.key; simp only [stateKey, Prod.mk.injEq] at this; exact this.2.1
theorem cf_newObs {s s' : State} (h : CFrame s s') : s'.newObservers = s.newObservers := by
  have := h.key; simp only [stateKey, Prod.mk.injEq] at this; exact this.2.2.2.2.2.2.2.2.1
theorem cf_disObs {s s' : State} (h : CFrame s s') : s'.disallowedObservers = s.disallowedObservers := by
  have := h.key; simp only [stateKey, Prod.mk.injEq] at this; exact this.2.2.2.2.2.2.2.2.2.1
theorem pf_num {s s' : State} (h : PFrame s s') (m : Nat) :
    (s'.nodeD m).numOnUpdateHandlers = (s.nodeD m).numOnUpdateHandlers := by
  have := h.node m; simp only [nodeKeyP, Prod.mk.injEq] at this; exact this.2.2.2.2.2.2.2.2

/-! ## what one iteration (and hence the whole loop) does outside the invariant -/

/-- the state `b` of an observer is the state `a`, or `a = x` was turned into `y` -/
def StChg (x y a b : ObsState) : Prop := b = a ∨ (a = x ∧ b = y)

structure IterRel (x y : ObsState) (t t' : State) : Prop where
  frame : PFrame t t'
  newObs : t'.newObservers = t.newObservers
  disObs : t'.disallowedObservers = t.disallowedObservers
  size : t'.observers.size = t.observers.size
  recs : ∀ (o : Nat) (ob : ObsRec), t.observers[o]? = some ob →
    ∃ ob', t'.observers[o]? = some ob' ∧ ob'.node = ob.node ∧ StChg x y ob.state ob'.state

theorem IterRel.refl (x y : ObsState) (t : State) : IterRel x y t t :=
  ⟨PFrame.refl t, rfl, rfl, rfl, fun _ ob h => ⟨ob, h, rfl, Or.inl rfl⟩⟩

theorem IterRel.trans {x y : ObsState} {a b c : State} (h1 : IterRel x y a b) (h2 : IterRel x y b c) :
    IterRel x y a c := by
  refine ⟨h1.frame.trans h2.frame, h2.newObs.trans h1.newObs, h2.disObs.trans h1.disObs,
    h2.size.trans h1.size, fun o ob h => ?_⟩
  obtain ⟨ob1, e1, n1, c1⟩ := h1.recs o ob h
  obtain ⟨ob2, e2, n2, c2⟩ := h2.recs o ob1 e1
  refine ⟨ob2, e2, n2.trans n1, ?_⟩
  rcases c1 with c1 | ⟨c1, c1'⟩
  · rw [c1] at c2; exact c2
  · rcases c2 with c2 | ⟨_, c2'⟩
    · exact Or.inr ⟨c1, c2.trans c1'⟩
    · exact Or.inr ⟨c1, c2'⟩

/-! ## one iteration of `add_new_observers` -/

theorem add_created {env : Env} {fuel o : Nat} {rest pd : List Nat} {t t4 t' : State} {ob : ObsRec}
    {was : Bool} {r : ForInStep PUnit}
    (I : SInv env t (o :: rest) pd) (hob : t.observers[o]? = some ob) (hst : ob.state = .created)
    (hwas : was = t.isNecessary ob.node)
    (h4 : (handleAfterStabilisation ob.node).run.run (obsAdded o ob.node ((0 : Nat) : Int) t) = (.ok (), t4))
    (h : (if (!was) = true then do
            becameNecessaryPropagate env fuel ob.node
            pure (ForInStep.yield PUnit.unit)
          else pure (ForInStep.yield PUnit.unit)).run.run t4 = (.ok r, t')) :
    r = .yield PUnit.unit ∧ SInv env t' rest pd ∧ IterRel .created .inUse t t' ∧
      (∀ m, t.isNecessary m = true → t'.isNecessary m = true) := by
  have hn : ob.node < t.nodes.size := (I.obs.inRange o ob hob).1
  have U3 : NodeUpd ob.node (fObservers ((t.nodeD ob.node).observers ++ [o])) t
      (obsAdded o ob.node ((0 : Nat) : Int) t) := obsAdded_upd hn
  have R : Irrel ob.node (obsAdded o ob.node ((0 : Nat) : Int) t) t4 := by
    rcases has_cases h4 with e | e
    · rw [e]; exact Irrel.refl _ _
    · rw [e]; exact Irrel.marked _ _
  have U4 := U3.then_same R.same
  have L := R.rel (fun _ => False)
  have hp4 : t4.propagateInvalidity = [] := (L.pinv.trans rfl).trans I.pinv
  have hl : (t.nodeD ob.node).observers ++ [o] ≠ [] := by simp
  obtain ⟨hr, I', F, hp', hnec⟩ := struct_add I.struct U4 hl hwas hp4 h
  have F3 : CFrame (obsAdded o ob.node ((0 : Nat) : Int) t) t' := L.fr.trans F
  have P : PFrame t t' := (obsAdded_frame o ob.node t).trans F3.toP
  have S : ObsSet o .inUse t t' :=
    (ObsSet.of_modify (t' := obsAdded o ob.node ((0 : Nat) : Int) t) rfl).then_eq (cf_obsArr F3)
  have O' : ObsInv t' rest pd := obsInv_add_step I.obs hob hst S (F3.size.trans U3.size)
    ((F3.observers ob.node).trans U3.self.observers)
    (fun m hm => (F3.observers m).trans (U3.other m hm).observers)
  refine ⟨hr, ⟨I', O', hp', fun m => by rw [pf_num P]; exact I.handlers m⟩,
    ⟨P, (cf_newObs F3).trans rfl, (cf_disObs F3).trans rfl, S.size, fun o' ob' ho' => ?_⟩, fun m hm => hnec m ?_⟩
  · obtain ⟨ob1, h1, h2, -, h3⟩ := S.recs o' ob' ho'
    refine ⟨ob1, h1, h2, ?_⟩
    rcases h3 with ⟨_, h3⟩ | ⟨e, h3⟩
    · exact Or.inl h3
    · rw [e, hob] at ho'; cases ho'
      exact Or.inr ⟨hst, h3⟩
  · by_cases e : m = ob.node
    · rw [e]; exact (U4.nec_self_iff (keeps_fObservers _)).2 (Or.inr (Or.inl hl))
    · rw [U4.nec_other e]; exact hm

/-! ## one iteration of `unlink_disallowed_observers` -/

theorem unlink_iter {env : Env} {fuel o : Nat} {rest : List Nat} {t t' : State} {ob : ObsRec}
    (I : SInv env t [] (o :: rest)) (hob : t.observers[o]? = some ob)
    (h : (checkIfUnnecessary fuel ob.node).run.run (obsRemoved o ob.node ((0 : Nat) : Int) t) = (.ok (), t')) :
    SInv env t' [] rest ∧ IterRel .disallowed .unlinked t t' := by
  have hn : ob.node < t.nodes.size := (I.obs.inRange o ob hob).1
  have hst : ob.state = .disallowed := (I.obs.dis o ob hob).2 (List.mem_cons_self ..)
  have hmem : o ∈ (t.nodeD ob.node).observers := (I.obs.mem ob.node o).2 ⟨ob, hob, rfl, Or.inr hst⟩
  have hnec : t.isNecessary ob.node = true :=
    (isNecessary_iff t ob.node).2 (Or.inr (Or.inl (List.ne_nil_of_mem hmem)))
  have U3 : NodeUpd ob.node (fObservers ((t.nodeD ob.node).observers.filter (· != o))) t
      (obsRemoved o ob.node ((0 : Nat) : Int) t) := obsRemoved_upd hn
  obtain ⟨I', hU⟩ := struct_unlink I.struct U3 hnec h
  have F3 := hU.fr
  have P : PFrame t t' := (obsRemoved_frame o ob.node t).trans F3.toP
  have S : ObsSet o .unlinked t t' :=
    (ObsSet.of_modify (t' := obsRemoved o ob.node ((0 : Nat) : Int) t) rfl).then_eq (cf_obsArr F3)
  have O' : ObsInv t' [] rest := obsInv_unlink_step I.obs hob S (F3.size.trans U3.size)
    ((F3.observers ob.node).trans U3.self.observers)
    (fun m hm => (F3.observers m).trans (U3.other m hm).observers)
  refine ⟨⟨I', O', (hU.pinv.trans rfl).trans I.pinv, fun m => by rw [pf_num P]; exact I.handlers m⟩,
    ⟨P, (cf_newObs F3).trans rfl, (cf_disObs F3).trans rfl, S.size, fun o' ob' ho' => ?_⟩⟩
  obtain ⟨ob1, h1, h2, -, h3⟩ := S.recs o' ob' ho'
  refine ⟨ob1, h1, h2, ?_⟩
  rcases h3 with ⟨_, h3⟩ | ⟨e, h3⟩
  · exact Or.inl h3
  · rw [e, hob] at ho'; cases ho'
    exact Or.inr ⟨hst, h3⟩

/-- fields of the state that the observer bookkeeping does not read -/
theorem obsInv_congr {s s' : State} {pn pd : List Nat} (O : ObsInv s pn pd)
    (h1 : s'.observers = s.observers) (h2 : s'.nodes = s.nodes) : ObsInv s' pn pd := by
  have hnd : ∀ m, s'.nodeD m = s.nodeD m := fun m => by simp [State.nodeD, h2]
  refine ⟨?_, ?_, ?_, ?_, ?_, ?_, O.disNodup⟩
  · intro o ob h; rw [h1] at h; rw [h2]; exact O.inRange o ob h
  · intro n o; rw [hnd, h1]; exact O.mem n o
  · intro o ob h; rw [h1] at h; exact O.created o ob h
  · intro o h; rw [h1]; exact O.newIn o h
  · intro o ob h; rw [h1] at h; exact O.dis o ob h
  · intro o h; rw [h1]; exact O.disIn o h

theorem sInv_congr {env : Env} {s s' : State} {pn pd : List Nat} (I : SInv env s pn pd)
    (h1 : s'.observers = s.observers) (h2 : s'.nodes = s.nodes) (h3 : s'.panicCountdown = s.panicCountdown)
    (h4 : s'.currentScope = s.currentScope) (h5 : s'.rch = s.rch) (h6 : s'.vars = s.vars)
    (h7 : s'.propagateInvalidity = s.propagateInvalidity) : SInv env s' pn pd := by
  refine ⟨GInv.congr I.struct (SameG.of_nodes h2 h3 h4 h5 h6), obsInv_congr I.obs h1 h2, h7.trans I.pinv, fun m => ?_⟩
  have : s'.nodeD m = s.nodeD m := by simp [State.nodeD, h2]
  rw [this]; exact I.handlers m

end P12

open P12

theorem addNewObservers_s {env : Env} {fuel : Nat} {s s' : State}
    (I : SInv env s s.newObservers s.disallowedObservers)
    (h : (addNewObservers env fuel).run.run s = (.ok (), s')) :
    SInv env s' [] s'.disallowedObservers ∧ s'.newObservers = [] ∧
      s'.disallowedObservers = s.disallowedObservers ∧ PFrame s s' ∧ ObsMap addedState s s' ∧
      (∀ m, s.isNecessary m = true → s'.isNecessary m = true) := by
  unfold addNewObservers at h
  rw [run_bind_get] at h
  obtain ⟨s0, hs0, h⟩ := bind_modify_inv h
  obtain ⟨u, s1, hloop, h⟩ := bind_ok_inv h
  obtain ⟨-, e⟩ := pure_ok_inv h
  rw [e]
  have I0 : SInv env s0 s.newObservers s.disallowedObservers := by
    rw [hs0]; exact sInv_congr I rfl rfl rfl rfl rfl rfl rfl
  have P0 : PFrame s s0 := by rw [hs0]; exact ⟨rfl, fun _ => rfl, rfl, id⟩
  have hno0 : s0.newObservers = [] := by rw [hs0]
  have hdo0 : s0.disallowedObservers = s.disallowedObservers := by rw [hs0]
  have hob0 : s0.observers = s.observers := by rw [hs0]
  have hnec0 : ∀ m, s0.isNecessary m = s.isNecessary m := fun m => by rw [hs0]; rfl
  have hfin := forIn_ok_inv _ s.newObservers
    (fun j (_ : PUnit) t => SInv env t (s.newObservers.drop j) s.disallowedObservers ∧
      IterRel .created .inUse s0 t ∧ (∀ m, s0.isNecessary m = true → t.isNecessary m = true))
    (by
      intro j o b t r t' hj ⟨It, Rt, Nt⟩ hbody
      rw [drop_of_getElem? hj] at It
      obtain ⟨ob, hob, hbody⟩ := bind_getObs_inv hbody
      cases hst : ob.state <;> rw [hst] at hbody <;> try dsimp only at hbody
      case inUse =>
        obtain ⟨_, _, h1, _⟩ := bind_ok_inv hbody
        rw [run_panic] at h1; cases h1
      case disallowed =>
        obtain ⟨_, _, h1, _⟩ := bind_ok_inv hbody
        rw [run_panic] at h1; cases h1
      case unlinked =>
        obtain ⟨hr, e⟩ := pure_ok_inv hbody
        rw [e]
        exact ⟨_, hr, ⟨It.struct, obsInv_skip_step It.obs hob (by rw [hst]; exact fun e => by cases e), It.pinv,
          It.handlers⟩, Rt, Nt⟩
      case created =>
        obtain ⟨t1, ht1, hbody⟩ := bind_modObs_inv hbody
        rw [run_bind_get] at hbody
        try dsimp only at hbody
        obtain ⟨t2, ht2, hbody⟩ := bind_modify_inv hbody
        obtain ⟨t3, ht3, hbody⟩ := bind_modNode_inv hbody
        obtain ⟨_, t4, h4, hbody⟩ := bind_ok_inv hbody
        rw [run_bind_get] at hbody
        replace hbody := bind_dassert_inv hbody
        have hh : ob.handlers = [] := (It.obs.inRange o ob hob).2
        have e3 : t3 = obsAdded o ob.node ((0 : Nat) : Int) t := by rw [ht3, ht2, ht1, hh]; rfl
        rw [e3] at h4
        obtain ⟨hr, I', R', N'⟩ := add_created (was := t1.isNecessary ob.node) It hob hst
          (by rw [ht1]; rfl) h4 hbody
        exact ⟨_, hr, I', Rt.trans R', fun m hm => N' m (Nt m hm)⟩)
    s.newObservers 0 PUnit.unit s0 u s1 (by simp) (Nat.zero_le _)
    ⟨by rw [List.drop_zero]; exact I0, IterRel.refl _ _ _, fun _ h => h⟩ hloop
  obtain ⟨I1, R1, N1⟩ := hfin
  rw [List.drop_length] at I1
  have hdo1 : s1.disallowedObservers = s.disallowedObservers := R1.disObs.trans hdo0
  refine ⟨by rw [hdo1]; exact I1, R1.newObs.trans hno0, hdo1, P0.trans R1.frame,
    ⟨R1.size.trans (by rw [hob0]), fun o ob ho => ?_⟩, fun m hm => N1 m (by rw [hnec0]; exact hm)⟩
  obtain ⟨ob', h1, h2, h3⟩ := R1.recs o ob (by rw [hob0]; exact ho)
  refine ⟨ob', h1, h2, ?_⟩
  rcases h3 with h3 | ⟨h3, h4⟩
  · rw [h3]
    cases hst : ob.state
    case created =>
      have := I1.obs.created o ob' h1 (by rw [h3, hst])
      cases this
    all_goals rfl
  · rw [h3, h4]; rfl

theorem unlinkDisallowedObservers_s {env : Env} {fuel : Nat} {s s' : State}
    (I : SInv env s [] s.disallowedObservers) (hn : s.newObservers = [])
    (h : (unlinkDisallowedObservers fuel).run.run s = (.ok (), s')) :
    SInv env s' [] [] ∧ s'.newObservers = [] ∧ s'.disallowedObservers = [] ∧ PFrame s s' ∧
      ObsMap unlinkedState s s' := by
  unfold unlinkDisallowedObservers at h
  rw [run_bind_get] at h
  obtain ⟨s0, hs0, h⟩ := bind_modify_inv h
  obtain ⟨u, s1, hloop, h⟩ := bind_ok_inv h
  obtain ⟨-, e⟩ := pure_ok_inv h
  rw [e]
  have I0 : SInv env s0 [] s.disallowedObservers := by
    rw [hs0]; exact sInv_congr I rfl rfl rfl rfl rfl rfl rfl
  have P0 : PFrame s s0 := by rw [hs0]; exact ⟨rfl, fun _ => rfl, rfl, id⟩
  have hno0 : s0.newObservers = [] := by rw [hs0]; exact hn
  have hdo0 : s0.disallowedObservers = [] := by rw [hs0]
  have hob0 : s0.observers = s.observers := by rw [hs0]
  have hfin := forIn_ok_inv _ s.disallowedObservers
    (fun j (_ : PUnit) t => SInv env t [] (s.disallowedObservers.drop j) ∧
      IterRel .disallowed .unlinked s0 t)
    (by
      intro j o b t r t' hj ⟨It, Rt⟩ hbody
      rw [drop_of_getElem? hj] at It
      obtain ⟨ob, hob, hbody⟩ := bind_getObs_inv hbody
      replace hbody := bind_dassert_inv hbody
      obtain ⟨t1, ht1, hbody⟩ := bind_modObs_inv hbody
      obtain ⟨t2, ht2, hbody⟩ := bind_modNode_inv hbody
      obtain ⟨t3, ht3, hbody⟩ := bind_modify_inv hbody
      obtain ⟨_, t4, h4, hbody⟩ := bind_ok_inv hbody
      obtain ⟨hr, e⟩ := pure_ok_inv hbody
      rw [e]
      have hh : ob.handlers = [] := (It.obs.inRange o ob hob).2
      have e3 : t3 = obsRemoved o ob.node ((0 : Nat) : Int) t := by rw [ht3, ht2, ht1, hh]; rfl
      rw [e3] at h4
      obtain ⟨I', R'⟩ := unlink_iter It hob h4
      exact ⟨_, hr, I', Rt.trans R'⟩)
    s.disallowedObservers 0 PUnit.unit s0 u s1 (by simp) (Nat.zero_le _)
    ⟨by rw [List.drop_zero]; exact I0, IterRel.refl _ _ _⟩ hloop
  obtain ⟨I1, R1⟩ := hfin
  rw [List.drop_length] at I1
  refine ⟨I1, R1.newObs.trans hno0, R1.disObs.trans hdo0, P0.trans R1.frame,
    R1.size.trans (by rw [hob0]), fun o ob ho => ?_⟩
  obtain ⟨ob', h1, h2, h3⟩ := R1.recs o ob (by rw [hob0]; exact ho)
  refine ⟨ob', h1, h2, ?_⟩
  rcases h3 with h3 | ⟨h3, h4⟩
  · rw [h3]
    cases hst : ob.state
    case disallowed =>
      have := (I1.obs.dis o ob' h1).1 (by rw [h3, hst])
      cases this
    all_goals rfl
  · rw [h3, h4]; rfl

end IncrVerif.Proofs.CutH
