import IncrVerif.Proofs.Sched8
import IncrVerif.Proofs.Computes
/-!
# L4: `stabilise` on an idle quiescent state (continued)

`stabilise_quiet`: from `QuietInv` and `Idle`, a successful `stabilise` is: set the status, run `drainHeap`
from a state satisfying `DrainInv`, bump the round number.  Afterwards `QuietInv` and `Idle` hold again, no
necessary node is stale, and every necessary node carries its from-scratch value.
-/
namespace IncrVerif.Proofs.Sched
open IncrVerif.Engine IncrVerif.Proofs IncrVerif.Proofs.Step

/-! ## the pieces of `stabilise` when nothing is deferred -/

theorem eta_newObservers (s : State) (h : s.newObservers = []) :
    ({ s with newObservers := [] } : State) = s := by
  cases s; simp only at h; subst h; rfl

theorem eta_disallowedObservers (s : State) (h : s.disallowedObservers = []) :
    ({ s with disallowedObservers := [] } : State) = s := by
  cases s; simp only at h; subst h; rfl

theorem addNewObservers_nil (env : Env) (fuel : Nat) (s : State) (h : s.newObservers = []) :
    (addNewObservers env fuel).run.run s = (.ok (), s) := by
  unfold addNewObservers
  simp only [run_bind, run_get, run_modify, h, List.forIn_nil, run_pure]
  rw [eta_newObservers s h]

theorem unlinkDisallowedObservers_nil (fuel : Nat) (s : State) (h : s.disallowedObservers = []) :
    (unlinkDisallowedObservers fuel).run.run s = (.ok (), s) := by
  unfold unlinkDisallowedObservers
  simp only [run_bind, run_get, run_modify, h, List.forIn_nil, run_pure]
  rw [eta_disallowedObservers s h]

/-- `s'` is `s` after a `stabiliseEnd` with nothing deferred: round number bumped, status reset -/
structure Finished (s s' : State) : Prop where
  nodes : s'.nodes = s.nodes
  vars : s'.vars = s.vars
  rch : s'.rch = s.rch
  stabNum : s'.stabNum = s.stabNum + 1
  status : s'.status = .notStabilising
  pc : s'.panicCountdown = s.panicCountdown
  newObservers : s'.newObservers = s.newObservers
  disallowedObservers : s'.disallowedObservers = s.disallowedObservers
  setDuringStab : s'.setDuringStab = []
  deadVars : s'.deadVars = []
  handleAfterStab : s'.handleAfterStab = []

theorem stabiliseEnd_idle (env : Env) (fuel : Nat) (s : State) (h1 : s.setDuringStab = [])
    (h2 : s.deadVars = []) (h3 : s.handleAfterStab = []) :
    ∃ s', (stabiliseEnd env fuel).run.run s = (.ok (), s') ∧ Finished s s' := by
  unfold stabiliseEnd
  simp only [run_bind, run_get, run_modify, h1, h2, h3, List.forIn_nil, run_pure]
  exact ⟨_, rfl, ⟨rfl, rfl, rfl, rfl, rfl, rfl, rfl, rfl, rfl, rfl, rfl⟩⟩


/-! ## `stabilise` = status, drain, end -/

theorem stabilise_split {env : Env} {fuel : Nat} {s s' : State} (_hst : s.status = .notStabilising)
    (I : Idle s) (h : (stabilise env fuel).run.run s = (.ok (), s')) :
    ∃ s2, (drainHeap env fuel).run.run { s with status := .stabilising } = (.ok (), s2) ∧
      (stabiliseEnd env fuel).run.run s2 = (.ok (), s') := by
  have e1 := addNewObservers_nil env fuel { s with status := .stabilising } I.newObservers
  have e2 := unlinkDisallowedObservers_nil fuel { s with status := .stabilising } I.disallowedObservers
  unfold stabilise at h
  obtain ⟨a, t0, h0, h⟩ := bind_ok_inv h
  obtain ⟨ha, ht0⟩ := get_ok_inv h0
  rw [ha, ht0] at h
  clear h0 ha ht0 a t0
  obtain ⟨_, t1, h1, h⟩ := bind_ok_inv h
  have ht1 : t1 = s := by
    rw [run_assertM] at h1
    split at h1 <;> cases h1
    rfl
  rw [ht1] at h
  obtain ⟨_, t2, h2, h⟩ := bind_ok_inv h
  rw [run_modify] at h2; cases h2
  obtain ⟨_, t3, h3, h⟩ := bind_ok_inv h
  cases h3.symm.trans e1
  obtain ⟨_, t4, h4, h⟩ := bind_ok_inv h
  cases h4.symm.trans e2
  obtain ⟨_, t5, h5, h⟩ := bind_ok_inv h
  exact ⟨t5, h5, h⟩


/-! ## `Calm` through the drain -/

theorem Calm.started (n : Nat) (s : State) : Calm s (Step.started n s) := by
  refine ⟨rfl, rfl, rfl, rfl, rfl, fun m => ?_, fun _ => rfl⟩
  rw [started_nodeD]; split <;> rfl

theorem Calm.logged (es : List Event) (s : State) : Calm s (Step.logged es s) :=
  Calm.of_eq rfl rfl rfl rfl rfl rfl rfl

end IncrVerif.Proofs.Sched

namespace IncrVerif.Proofs.CutH
open IncrVerif.Engine IncrVerif.Proofs IncrVerif.Proofs.Step IncrVerif.Proofs.Sched

/-- a `recomputeOne` of the static fragment does not touch the bookkeeping of `stabiliseEnd` -/
theorem recomputeOne_calm {env : Env} {fuel n : Nat} {s s' : State} {r : Option Nat}
    (g : Graph env s) (hn : s.isNecessary n = true)
    (h : (recomputeOne env fuel n).run.run s = (.ok r, s')) : Calm s s' := by
  obtain ⟨hlt, hv, hk, _⟩ := g.nec n hn
  exact recomputeOne_pres_of_static (some_of_lt hlt) hv g.pc hk
    (fun es => (Calm.started n s).trans (Calm.logged es _)) (PresC.maybeChangeValue env fuel n) h

end IncrVerif.Proofs.CutH

namespace IncrVerif.Proofs.Sched
open IncrVerif.Engine IncrVerif.Proofs IncrVerif.Proofs.Step

/-- a `recomputeOne` of the static fragment does not touch the bookkeeping of `stabiliseEnd` -/
theorem recomputeOne_calm {env : Env} {fuel n : Nat} {s s' : State} {r : Option Nat}
    (g : Graph env s) (hn : s.isNecessary n = true)
    (h : (recomputeOne env fuel n).run.run s = (.ok r, s')) : Calm s s' :=
  CutH.recomputeOne_calm g.toC hn h

theorem pop_calm {s s1 : State} {n : Nat} (hi : HeapInv s)
    (hr : rchRemoveMin.run.run s = (.ok (some n), s1)) : Calm s s1 := by
  obtain ⟨-, -, -, hs1, -⟩ := rchRemoveMin_inv hi hr
  rw [hs1]
  refine ⟨rfl, rfl, rfl, rfl, rfl, fun m => ?_, fun _ => rfl⟩
  show (State.nodeD { s with nodes := _ } m).numOnUpdateHandlers = _
  rw [nodeD_modify]; split <;> rfl

theorem drainHeap_calm {env : Env} : ∀ (fuel : Nat) (s s' : State), DrainInv env s →
    (drainHeap env fuel).run.run s = (.ok (), s') → Calm s s' :=
  fun fuel s s' I h =>
    (drainHeap_rel Calm Calm.refl Calm.trans (fun I h => recomputeOne_calm I.graph (I.cur _ rfl).1 h)
      (fun I h => pop_calm I.heap h) fuel s s' I h).2.2

/-! ## `QuietInv` at the two ends of a `stabilise` -/

/-- entering `stabilise`: the quiescent invariant is the drain invariant -/
theorem QuietInv.toDrain {env : Env} {s : State} (Q : QuietInv env s) :
    DrainInv env { s with status := .stabilising } where
  graph := ⟨Q.graph.pc, Q.graph.nec, Q.graph.var, Q.graph.child, Q.graph.parent⟩
  heap := ⟨⟨Q.heap.wf.mem, Q.heap.wf.nodup, Q.heap.wf.length, Q.heap.wf.range⟩, Q.heap.hgt, Q.heap.lb,
    Q.heap.lb0, Q.heap.nec⟩
  stamps := ⟨Q.now, fun m => ⟨Int.le_of_lt (Q.stamps m).1, Int.le_of_lt (Q.stamps m).2⟩, Q.varStamp⟩
  pending m hm hst := Or.inl ((Q.queued m).2 ⟨hm, hst⟩)
  cons := Q.cons
  fresh _ _ a _ := (Q.stamps a).1
  cur _ h := by cases h

/-- leaving `stabilise`: drain invariant + empty heap + round number bumped = quiescent invariant -/
theorem QuietInv.ofDrained {env : Env} {s0 s2 s' : State} (Q : QuietInv env s0) (f : Frame s0 s2)
    (D : DrainInv env s2) (he : s2.rch.length = 0) (F : Finished s2 s') : QuietInv env s' := by
  have hnd : ∀ m, s'.nodeD m = s2.nodeD m := fun m => by simp [State.nodeD, F.nodes]
  have hsh : ∀ m, SameShape (s2.nodeD m) (s'.nodeD m) := fun m => by rw [hnd]; exact SameShape.refl _
  have hnec : ∀ m, s'.isNecessary m = s2.isNecessary m := isNecessary_of_shape hsh
  have hsz : s'.nodes.size = s2.nodes.size := by rw [F.nodes]
  have g' : Graph env s' := D.graph.transfer hsz hsh F.vars (by rw [F.pc]; exact D.graph.pc)
  have hstale : ∀ m, s'.isNecessary m = true → s'.isStale m = false := by
    intro m hm
    have hm2 := hm; rw [hnec] at hm2
    rw [g'.isStale hm, staleOf_congr (hsh m).kind (by rw [hnd]) F.vars (fun c _ => by rw [hnd]),
      ← D.graph.isStale hm2]
    exact (D.all_consistent he m hm2).1
  refine ⟨g', ?_, ?_, ?_, ?_, ?_, ?_, ?_, ?_, F.status⟩
  · exact D.heap.congr F.rch hsz (fun m => by rw [hnd]; exact ⟨rfl, rfl, hnec m⟩)
  · rw [F.stabNum]; have := D.stamps.now; omega
  · intro m; rw [hnd, F.stabNum]; have := D.stamps.node m; omega
  · intro c vc h; rw [F.vars] at h; rw [F.stabNum]; have := D.stamps.var c vc h; omega
  · intro m
    constructor
    · intro h; rw [hnd, D.heap.empty he m] at h; cases h
    · intro ⟨hm, hst⟩; rw [hstale m hm] at hst; cases hst
  · intro m hm _
    have hm2 := hm; rw [hnec] at hm2
    obtain ⟨w, hw, hv⟩ := (D.all_consistent he m hm2).2
    exact ⟨w, Target.congr (hsh m).kind F.vars (fun c _ => by rw [hnd]) hw, by rw [hnd]; exact hv⟩
  · intro n c hn hk
    rw [hnec, f.nec] at hn
    rw [hnd, (f.shape n).kind] at hk
    rw [F.vars, f.vars]
    exact Q.watch n c hn hk
  · intro c vc h hn
    rw [F.vars, f.vars] at h
    rw [hnec, f.nec] at hn
    rw [hnd, (f.shape vc.node).kind]
    exact Q.cell c vc h hn

/-- **L4, `stabilise`.** From the quiescent invariant with nothing deferred, a successful `stabilise`
consists of a `drainHeap` started in a state satisfying the drain invariant, followed by the bump of the
round number.  Afterwards the quiescent invariant holds again (and still nothing is deferred), the
variables and the graph are unchanged, no necessary node is stale, and every necessary node carries the
from-scratch value of its defining expression. -/
theorem stabilise_quiet {env : Env} {fuel : Nat} {s s' : State} (Q : QuietInv env s) (I : Idle s)
    (h : (stabilise env fuel).run.run s = (.ok (), s')) :
    (∃ s2, DrainInv env { s with status := .stabilising } ∧
      (drainHeap env fuel).run.run { s with status := .stabilising } = (.ok (), s2) ∧
      DrainInv env s2 ∧ s2.rch.length = 0 ∧ Finished s2 s') ∧
    QuietInv env s' ∧ Idle s' ∧ s'.stabNum = s.stabNum + 1 ∧ s'.vars = s.vars ∧
    s'.nodes.size = s.nodes.size ∧ (∀ m, SameShape (s.nodeD m) (s'.nodeD m)) ∧
    ∀ n, s.isNecessary n = true → ∀ k, (s.nodeD n).height.toNat < k →
      s'.isNecessary n = true ∧ (s'.nodeD n).valid = true ∧ s'.isStale n = false ∧
      (s'.nodeD n).value = eval env s k n ∧ s'.value env n = eval env s k n ∧
      (eval env s k n).isSome = true := by
  obtain ⟨s2, hd, hend⟩ := stabilise_split Q.status I h
  have D1 := Q.toDrain
  obtain ⟨D2, he, f⟩ := drainHeap_inv fuel _ s2 D1 hd
  have c := drainHeap_calm fuel _ s2 D1 hd
  have hnum : ∀ m, (s2.nodeD m).numOnUpdateHandlers ≤ 0 := fun m => by rw [c.num]; exact I.handlers m
  obtain ⟨s'', hrun, F⟩ := stabiliseEnd_idle env fuel s2 (by rw [c.setDuringStab]; exact I.setDuringStab)
    (by rw [c.deadVars]; exact I.deadVars) (by rw [c.has I.handlers]; exact I.handleAfterStab)
  cases hend.symm.trans hrun
  have f0 : Frame s s2 := ⟨f.size, f.vars, f.stabNum, f.shape, f.ran, f.qsize⟩
  have Q' := QuietInv.ofDrained Q f0 D2 he F
  have hnd : ∀ m, s'.nodeD m = s2.nodeD m := fun m => by simp [State.nodeD, F.nodes]
  have hsh : ∀ m, SameShape (s.nodeD m) (s'.nodeD m) := fun m => by rw [hnd]; exact f0.shape m
  refine ⟨⟨s2, D1, hd, D2, he, F⟩, Q', ?_, ?_, ?_, ?_, hsh, ?_⟩
  · exact ⟨by rw [F.newObservers, c.newObservers]; exact I.newObservers,
      by rw [F.disallowedObservers, c.disallowedObservers]; exact I.disallowedObservers,
      F.setDuringStab, F.deadVars, F.handleAfterStab, fun m => by rw [hnd]; exact hnum m⟩
  · rw [F.stabNum, f0.stabNum]
  · rw [F.vars, f0.vars]
  · rw [F.nodes]; exact f0.size
  · intro n hn k hk
    have hn' : s'.isNecessary n = true := by rw [isNecessary_of_shape hsh]; exact hn
    have hst : s'.isStale n = false := by
      cases hs : s'.isStale n with
      | false => rfl
      | true =>
        have := (Q'.queued n).2 ⟨hn', hs⟩
        rw [hnd, D2.heap.empty he n] at this; cases this
    obtain ⟨-, -, hv, -, hval, hval', hsome⟩ := drainHeap_values D1 hd n hn k hk
    have fr : Frame s { s with status := .stabilising } :=
      ⟨rfl, rfl, rfl, fun _ => SameShape.refl _, fun _ h => h, rfl⟩
    rw [fr.eval env k n] at hval hsome
    refine ⟨hn', (Q'.graph.nec n hn').2.1, hst, by rw [hnd]; exact hval, ?_, hsome⟩
    rw [Q'.graph.value_plain hn', hnd]; exact hval

end IncrVerif.Proofs.Sched
