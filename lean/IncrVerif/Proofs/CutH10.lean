import IncrVerif.Proofs.CutH9
-- static programs with ARBITRARY cutoffs; `Proofs/Quiet4.lean` (default cutoffs) takes its lemmas from this file; overview in Props/C06History.lean
/-!
# Part 3: pure step lemmas for `GInv` (linking)
-/
namespace IncrVerif.Proofs.CutH
open IncrVerif.Engine IncrVerif.Proofs IncrVerif.Proofs.Step IncrVerif.Proofs.Sched

section
variable {env : Env} {s s' : State} {op : Nat → Op}

/-! ## linking -/

/-- `addParent c idx p` where `c` is already necessary (and closed) -/
theorem GInv.addEdge_nec {c p idx : Nat} (I : GInv env s op)
    (U : NodeUpd c (fParents ((s.nodeD c).parents ++ [(p, idx)])) s s')
    (hop : op p = .linking idx) (hk : (kids (s.nodeD p).kind)[idx]? = some c)
    (hc : s.isNecessary c = true) (hcl : op c = .closed) :
    GInv env s' (upd op p (.linking (idx + 1))) := by
  have K := keeps_fParents ((s.nodeD c).parents ++ [(p, idx)])
  have hcp : c < p := I.kid_lt hk
  have hne : c ≠ p := by omega
  have hpc : (s'.nodeD c).parents = (s.nodeD c).parents ++ [(p, idx)] := U.parents_self
  have hht : ∀ m, (s'.nodeD m).height = (s.nodeD m).height := fun m => by
    by_cases h : m = c
    · rw [h]; exact U.height_self
    · exact U.height_other h
  have hmem : ∀ m x, x ∈ (s'.nodeD m).parents ↔ (x ∈ (s.nodeD m).parents ∨ (m = c ∧ x = (p, idx))) := by
    intro m x
    by_cases h : m = c
    · rw [h, hpc, List.mem_append, List.mem_singleton]; simp
    · rw [U.parents_other h]; simp [h]
  have hnec : ∀ m, s'.isNecessary m = s.isNecessary m := fun m => by
    by_cases h : m = c
    · rw [h, hc]; exact nec_of_mem_parents (x := (p, idx)) ((hmem c _).2 (Or.inr ⟨rfl, rfl⟩))
    · exact U.nec_other h
  have hcl' : ∀ m, upd op p (.linking (idx + 1)) m = .closed → m ≠ p ∧ op m = .closed :=
    fun m h => upd_closed_inv (Op.linking_ne_closed _) h
  have hw : ∀ q i, Wants s' (upd op p (.linking (idx + 1))) q i ↔ (Wants s op q i ∨ (q = p ∧ i = idx)) := by
    intro q i
    by_cases h : q = p
    · rw [h, wants_linking (upd_self ..), wants_linking hop]
      constructor
      · intro h1
        by_cases h2 : i = idx
        · exact Or.inr ⟨rfl, h2⟩
        · exact Or.inl (by omega)
      · rintro (h1 | ⟨-, h1⟩) <;> omega
    · unfold Wants
      rw [upd_other _ _ _ h, hnec]
      simp [h]
  refine { static := U.static K I.static, par := ?_, conv := ?_, nodup := ?_, hlt := ?_, hpos := ?_,
           lnec := ?_, unec := ?_, heap := U.heap K I.heap, hgt := ?_, qnec := ?_, queued := ?_,
           qstale := ?_, opLt := ?_ }
  · intro c' q i hm
    rw [U.kind K, hw]
    rcases (hmem _ _).1 hm with h | ⟨h1, h2⟩
    · exact ⟨(I.par c' q i h).1, Or.inl (I.par c' q i h).2⟩
    · cases h2; rw [h1]; exact ⟨hk, Or.inr ⟨rfl, rfl⟩⟩
  · intro q i c' hk' hw'
    rw [U.kind K] at hk'
    rw [hmem]
    rcases (hw q i).1 hw' with h | ⟨h1, h2⟩
    · exact Or.inl (I.conv q i c' hk' h)
    · rw [h1, h2, hk] at hk'; cases hk'; exact Or.inr ⟨rfl, by rw [h1, h2]⟩
  · intro m
    by_cases h : m = c
    · rw [h, hpc, List.nodup_append]
      refine ⟨I.nodup c, by simp, ?_⟩
      intro a ha b hb
      rw [List.mem_singleton] at hb
      rw [hb]; intro e; rw [e] at ha
      have := (wants_linking hop).1 (I.par c p idx ha).2
      omega
    · rw [U.parents_other h]; exact I.nodup m
  · intro c' q i hm ho
    obtain ⟨h1, h2⟩ := hcl' q ho
    rw [hht, hht]
    rcases (hmem _ _).1 hm with h | ⟨-, h3⟩
    · exact I.hlt c' q i h h2
    · cases h3; exact absurd rfl h1
  · intro m hn ho
    rw [hnec] at hn
    rw [hht]; exact I.hpos m hn (hcl' m ho).2
  · intro q k ho
    rw [hnec, U.inRch K]
    by_cases h : q = p
    · rw [h]; exact I.lnec p idx hop
    · rw [upd_other _ _ _ h] at ho; exact I.lnec q k ho
  · intro q k ho
    rw [hnec]
    by_cases h : q = p
    · rw [h, upd_self] at ho; cases ho
    · rw [upd_other _ _ _ h] at ho; exact I.unec q k ho
  · intro m hq ho
    rw [U.inRch K] at hq
    rw [U.heightInRch K, hht]; exact I.hgt m hq (hcl' m ho).2
  · intro m hq
    rw [U.inRch K] at hq
    rw [hnec]
    rcases I.qnec m hq with h | ⟨k, h⟩
    · exact Or.inl h
    · refine Or.inr ⟨k, ?_⟩
      have : m ≠ p := by intro e; rw [e, hop] at h; cases h
      rw [upd_other _ _ _ this]; exact h
  · intro m ho hn hs
    rw [hnec] at hn
    rw [U.staleOf K] at hs
    rw [U.inRch K]; exact I.queued m (hcl' m ho).2 hn hs
  · intro m hq
    rw [U.inRch K] at hq
    rw [U.staleOf K]; exact I.qstale m hq
  · intro m ho
    rw [U.size]
    by_cases h : m = p
    · rw [h]; exact I.opLt p (by rw [hop]; exact Op.linking_ne_closed _)
    · rw [upd_other _ _ _ h] at ho; exact I.opLt m ho

/-- `addParent c idx p` where `c` was unnecessary (and closed): `c` is now open with no edge recorded -/
theorem GInv.addEdge_open {c p idx : Nat} (I : GInv env s op)
    (U : NodeUpd c (fParents ((s.nodeD c).parents ++ [(p, idx)])) s s')
    (hop : op p = .linking idx) (hk : (kids (s.nodeD p).kind)[idx]? = some c)
    (hc : s.isNecessary c = false) (hcl : op c = .closed) :
    GInv env s' (upd (upd op p (.linking (idx + 1))) c (.linking 0)) ∧
      (s'.nodeD c).parents = [(p, idx)] := by
  have K := keeps_fParents ((s.nodeD c).parents ++ [(p, idx)])
  have hcp : c < p := I.kid_lt hk
  have hne : c ≠ p := by omega
  have hpar0 : (s.nodeD c).parents = [] := parents_nil_of_not_nec hc
  have hpc : (s'.nodeD c).parents = [(p, idx)] := by rw [U.parents_self]; simp [fParents, hpar0]
  refine ⟨?_, hpc⟩
  have hht : ∀ m, (s'.nodeD m).height = (s.nodeD m).height := fun m => by
    by_cases h : m = c
    · rw [h]; exact U.height_self
    · exact U.height_other h
  have hmem : ∀ m x, x ∈ (s'.nodeD m).parents ↔ (x ∈ (s.nodeD m).parents ∨ (m = c ∧ x = (p, idx))) := by
    intro m x
    by_cases h : m = c
    · rw [h, hpc, hpar0, List.mem_singleton]; simp
    · rw [U.parents_other h]; simp [h]
  have hnec : ∀ m, m ≠ c → s'.isNecessary m = s.isNecessary m := fun m h => U.nec_other h
  have hnecc : s'.isNecessary c = true :=
    nec_of_mem_parents (x := (p, idx)) ((hmem c _).2 (Or.inr ⟨rfl, rfl⟩))
  have hcq : (s.nodeD c).inRch = false := I.not_queued_of_not_nec hc hcl
  have hopc : upd (upd op p (.linking (idx + 1))) c (.linking 0) c = .linking 0 := upd_self ..
  have hopp : upd (upd op p (.linking (idx + 1))) c (.linking 0) p = .linking (idx + 1) := by
    rw [upd_other _ _ _ (Ne.symm hne), upd_self]
  have hopo : ∀ m, m ≠ c → m ≠ p → upd (upd op p (.linking (idx + 1))) c (.linking 0) m = op m := by
    intro m h1 h2; rw [upd_other _ _ _ h1, upd_other _ _ _ h2]
  have hcl' : ∀ m, upd (upd op p (.linking (idx + 1))) c (.linking 0) m = .closed →
      m ≠ c ∧ m ≠ p ∧ op m = .closed := by
    intro m h
    obtain ⟨h1, h2⟩ := upd_closed_inv (Op.linking_ne_closed _) h
    obtain ⟨h3, h4⟩ := upd_closed_inv (Op.linking_ne_closed _) h2
    exact ⟨h1, h3, h4⟩
  have hw : ∀ q i, Wants s' (upd (upd op p (.linking (idx + 1))) c (.linking 0)) q i ↔
      (Wants s op q i ∨ (q = p ∧ i = idx)) := by
    intro q i
    by_cases h : q = p
    · rw [h, wants_linking hopp, wants_linking hop]
      constructor
      · intro h1
        by_cases h2 : i = idx
        · exact Or.inr ⟨rfl, h2⟩
        · exact Or.inl (by omega)
      · rintro (h1 | ⟨-, h1⟩) <;> omega
    · by_cases h' : q = c
      · rw [h', wants_linking hopc, wants_closed hcl, hc]; simp [hne]
      · unfold Wants
        rw [hopo q h' h, hnec q h']
        simp [h]
  refine { static := U.static K I.static, par := ?_, conv := ?_, nodup := ?_, hlt := ?_, hpos := ?_,
           lnec := ?_, unec := ?_, heap := U.heap K I.heap, hgt := ?_, qnec := ?_, queued := ?_,
           qstale := ?_, opLt := ?_ }
  · intro c' q i hm
    rw [U.kind K, hw]
    rcases (hmem _ _).1 hm with h | ⟨h1, h2⟩
    · exact ⟨(I.par c' q i h).1, Or.inl (I.par c' q i h).2⟩
    · cases h2; rw [h1]; exact ⟨hk, Or.inr ⟨rfl, rfl⟩⟩
  · intro q i c' hk' hw'
    rw [U.kind K] at hk'
    rw [hmem]
    rcases (hw q i).1 hw' with h | ⟨h1, h2⟩
    · exact Or.inl (I.conv q i c' hk' h)
    · rw [h1, h2, hk] at hk'; cases hk'; exact Or.inr ⟨rfl, by rw [h1, h2]⟩
  · intro m
    by_cases h : m = c
    · rw [h, hpc]; simp
    · rw [U.parents_other h]; exact I.nodup m
  · intro c' q i hm ho
    obtain ⟨-, h1, h2⟩ := hcl' q ho
    rw [hht, hht]
    rcases (hmem _ _).1 hm with h | ⟨-, h3⟩
    · exact I.hlt c' q i h h2
    · cases h3; exact absurd rfl h1
  · intro m hn ho
    obtain ⟨h1, -, h2⟩ := hcl' m ho
    rw [hnec m h1] at hn
    rw [hht]; exact I.hpos m hn h2
  · intro q k ho
    rw [U.inRch K]
    by_cases h' : q = c
    · rw [h']; exact ⟨hnecc, hcq⟩
    · rw [hnec q h']
      by_cases h : q = p
      · rw [h]; exact I.lnec p idx hop
      · rw [hopo q h' h] at ho; exact I.lnec q k ho
  · intro q k ho
    by_cases h' : q = c
    · rw [h', hopc] at ho; cases ho
    · rw [hnec q h']
      by_cases h : q = p
      · rw [h, hopp] at ho; cases ho
      · rw [hopo q h' h] at ho; exact I.unec q k ho
  · intro m hq ho
    rw [U.inRch K] at hq
    rw [U.heightInRch K, hht]; exact I.hgt m hq (hcl' m ho).2.2
  · intro m hq
    rw [U.inRch K] at hq
    have h' : m ≠ c := by intro e; rw [e, hcq] at hq; cases hq
    rw [hnec m h']
    rcases I.qnec m hq with h | ⟨k, h⟩
    · exact Or.inl h
    · refine Or.inr ⟨k, ?_⟩
      have : m ≠ p := by intro e; rw [e, hop] at h; cases h
      rw [hopo m h' this]; exact h
  · intro m ho hn hs
    obtain ⟨h1, -, h2⟩ := hcl' m ho
    rw [hnec m h1] at hn
    rw [U.staleOf K] at hs
    rw [U.inRch K]; exact I.queued m h2 hn hs
  · intro m hq
    rw [U.inRch K] at hq
    rw [U.staleOf K]; exact I.qstale m hq
  · intro m ho
    rw [U.size]
    by_cases h' : m = c
    · rw [h']; exact U.lt
    · by_cases h : m = p
      · rw [h]; exact I.opLt p (by rw [hop]; exact Op.linking_ne_closed _)
      · rw [hopo m h' h] at ho; exact I.opLt m ho

/-- the height of an open node whose parents are all open is not constrained -/
theorem GInv.setHeight_open {n : Nat} {h : Int} (I : GInv env s op) (U : NodeUpd n (fHeight h) s s')
    (hop : op n ≠ .closed) (hpar : ∀ p i, (p, i) ∈ (s.nodeD n).parents → op p ≠ .closed) :
    GInv env s' op := by
  have K := keeps_fHeight h
  have hpa : ∀ m, (s'.nodeD m).parents = (s.nodeD m).parents := fun m => by
    by_cases e : m = n
    · rw [e]; exact U.parents_self
    · exact U.parents_other e
  have hnec : ∀ m, s'.isNecessary m = s.isNecessary m := fun m => by
    by_cases e : m = n
    · rw [e]
      simp only [State.isNecessary, Node.isNecessary, U.self.parents, U.self.observers, U.self.forceNecessary]
      rfl
    · exact U.nec_other e
  have hw : ∀ q i, Wants s' op q i ↔ Wants s op q i := fun q i => by unfold Wants; rw [hnec]
  have hcn : ∀ m, op m = .closed → m ≠ n := fun m ho e => hop (e ▸ ho)
  refine { static := U.static K I.static, par := ?_, conv := ?_, nodup := ?_, hlt := ?_, hpos := ?_,
           lnec := ?_, unec := ?_, heap := U.heap K I.heap, hgt := ?_, qnec := ?_, queued := ?_,
           qstale := ?_, opLt := ?_ }
  · intro c q i hm
    rw [hpa] at hm
    rw [U.kind K, hw]; exact I.par c q i hm
  · intro q i c hk hw'
    rw [U.kind K] at hk
    rw [hw] at hw'
    rw [hpa]; exact I.conv q i c hk hw'
  · intro m; rw [hpa]; exact I.nodup m
  · intro c q i hm ho
    rw [hpa] at hm
    have h1 : c ≠ n := by intro e; rw [e] at hm; exact hpar q i hm ho
    rw [U.height_other h1, U.height_other (hcn q ho)]
    exact I.hlt c q i hm ho
  · intro m hn ho
    rw [hnec] at hn
    rw [U.height_other (hcn m ho)]; exact I.hpos m hn ho
  · intro q k ho
    rw [hnec, U.inRch K]; exact I.lnec q k ho
  · intro q k ho
    rw [hnec]; exact I.unec q k ho
  · intro m hq ho
    rw [U.inRch K] at hq
    rw [U.heightInRch K, U.height_other (hcn m ho)]; exact I.hgt m hq ho
  · intro m hq
    rw [U.inRch K] at hq
    rw [hnec]; exact I.qnec m hq
  · intro m ho hn hs
    rw [hnec] at hn
    rw [U.staleOf K] at hs
    rw [U.inRch K]; exact I.queued m ho hn hs
  · intro m hq
    rw [U.inRch K] at hq
    rw [U.staleOf K]; exact I.qstale m hq
  · intro m ho
    rw [U.size]; exact I.opLt m ho

/-- closing a linking node, general form: `s'` is `s` up to the heap and the heap marker of `n`; if `n` is
stale it has been queued (marker = height), otherwise nothing changed for it -/
theorem GInv.close_link_gen {n k : Nat} (I : GInv env s op) (hop : op n = .linking k)
    (hk : (kids (s.nodeD n).kind).length ≤ k)
    (hh : ∀ (i c : Nat), (kids (s.nodeD n).kind)[i]? = some c → (s.nodeD c).height < (s.nodeD n).height)
    (h0 : 0 ≤ (s.nodeD n).height)
    (hpc : s'.panicCountdown = s.panicCountdown) (hsc : s'.currentScope = s.currentScope)
    (hsz : s'.nodes.size = s.nodes.size) (hv : s'.vars = s.vars)
    (hnode : ∀ m, ∃ x, s'.nodeD m = { s.nodeD m with heightInRch := x })
    (hmark : ∀ m, m ≠ n → (s'.nodeD m).heightInRch = (s.nodeD m).heightInRch)
    (hheap : HeapG s')
    (hq : (staleOf s n = false ∧ (s'.nodeD n).heightInRch = (s.nodeD n).heightInRch) ∨
          (staleOf s n = true ∧ (s'.nodeD n).heightInRch = (s.nodeD n).height)) :
    GInv env s' (upd op n .closed) := by
  have hkind : ∀ m, (s'.nodeD m).kind = (s.nodeD m).kind := fun m => by
    obtain ⟨x, e⟩ := hnode m; rw [e]
  have hpa : ∀ m, (s'.nodeD m).parents = (s.nodeD m).parents := fun m => by
    obtain ⟨x, e⟩ := hnode m; rw [e]
  have hht : ∀ m, (s'.nodeD m).height = (s.nodeD m).height := fun m => by
    obtain ⟨x, e⟩ := hnode m; rw [e]
  have hnec : ∀ m, s'.isNecessary m = s.isNecessary m := fun m => by
    obtain ⟨x, e⟩ := hnode m
    simp only [State.isNecessary, Node.isNecessary, e]
  have hstale : ∀ m, staleOf s' m = staleOf s m := fun m =>
    staleOf_congr (hkind m) (by obtain ⟨x, e⟩ := hnode m; rw [e]) hv
      (fun c _ => by obtain ⟨x, e⟩ := hnode c; rw [e])
  have hinr : ∀ m, m ≠ n → (s'.nodeD m).inRch = (s.nodeD m).inRch := fun m h => by
    simp only [Node.inRch, hmark m h]
  obtain ⟨hnn, hnq⟩ := I.lnec n k hop
  have hnq' : ¬ (0 ≤ (s.nodeD n).heightInRch) := by
    intro h; simp only [Node.inRch] at hnq; simp [h] at hnq
  have hopn : upd op n .closed n = .closed := upd_self ..
  have hopo : ∀ m, m ≠ n → upd op n .closed m = op m := fun m h => upd_other _ _ _ h
  have hw : ∀ q i c, (kids (s.nodeD q).kind)[i]? = some c →
      (Wants s' (upd op n .closed) q i ↔ Wants s op q i) := by
    intro q i c hkq
    by_cases e : q = n
    · rw [e] at hkq ⊢
      rw [wants_closed hopn, wants_linking hop, hnec, hnn]
      have : i < (kids (s.nodeD n).kind).length := by
        rcases Nat.lt_or_ge i (kids (s.nodeD n).kind).length with h | h
        · exact h
        · rw [List.getElem?_eq_none h] at hkq; cases hkq
      simp; omega
    · unfold Wants; rw [hopo q e, hnec]
  have static : AllStatic env s' := by
    refine ⟨by rw [hpc]; exact I.static.pc, by rw [hsc]; exact I.static.scope, fun m hm => ?_⟩
    have sn := I.static.node m (by rw [← hsz]; exact hm)
    obtain ⟨x, e⟩ := hnode m
    exact ⟨by rw [e]; exact sn.valid, by rw [e]; exact sn.kind,
      by rw [e]; exact sn.top, by rw [e]; exact sn.force, by rw [e]; exact sn.kidsLt⟩
  refine { static := static, par := ?_, conv := ?_, nodup := ?_, hlt := ?_, hpos := ?_,
           lnec := ?_, unec := ?_, heap := hheap, hgt := ?_, qnec := ?_, queued := ?_,
           qstale := ?_, opLt := ?_ }
  · intro c q i hm
    rw [hpa] at hm
    obtain ⟨h1, h2⟩ := I.par c q i hm
    rw [hkind]; exact ⟨h1, (hw q i c h1).2 h2⟩
  · intro q i c hkq hw'
    rw [hkind] at hkq
    rw [hpa]; exact I.conv q i c hkq ((hw q i c hkq).1 hw')
  · intro m; rw [hpa]; exact I.nodup m
  · intro c q i hm ho
    rw [hpa] at hm
    rw [hht, hht]
    by_cases e : q = n
    · rw [e] at hm ⊢; exact hh i c (I.par c n i hm).1
    · rw [hopo q e] at ho; exact I.hlt c q i hm ho
  · intro m hn ho
    rw [hnec] at hn
    rw [hht]
    by_cases e : m = n
    · rw [e]; exact h0
    · rw [hopo m e] at ho; exact I.hpos m hn ho
  · intro q k' ho
    have e : q ≠ n := by intro e; rw [e, hopn] at ho; cases ho
    rw [hopo q e] at ho
    rw [hnec, hinr q e]; exact I.lnec q k' ho
  · intro q k' ho
    have e : q ≠ n := by intro e; rw [e, hopn] at ho; cases ho
    rw [hopo q e] at ho
    rw [hnec]; exact I.unec q k' ho
  · intro m hq' ho
    by_cases e : m = n
    · rw [e] at hq' ⊢
      rcases hq with ⟨-, h2⟩ | ⟨-, h2⟩
      · simp only [Node.inRch, h2] at hq'; exact absurd (by simpa using hq') hnq'
      · rw [h2, hht]
    · rw [hinr m e] at hq'
      rw [hopo m e] at ho
      rw [hmark m e, hht]; exact I.hgt m hq' ho
  · intro m hq'
    rw [hnec]
    by_cases e : m = n
    · rw [e]; exact Or.inl hnn
    · rw [hinr m e] at hq'
      rcases I.qnec m hq' with h | ⟨k', h⟩
      · exact Or.inl h
      · exact Or.inr ⟨k', by rw [hopo m e]; exact h⟩
  · intro m ho hn hs
    rw [hnec] at hn
    rw [hstale] at hs
    by_cases e : m = n
    · rw [e] at hs ⊢
      rcases hq with ⟨h1, -⟩ | ⟨-, h2⟩
      · rw [h1] at hs; cases hs
      · simp only [Node.inRch, h2]; simpa using h0
    · rw [hopo m e] at ho
      rw [hinr m e]; exact I.queued m ho hn hs
  · intro m hq'
    rw [hstale]
    by_cases e : m = n
    · rw [e] at hq' ⊢
      rcases hq with ⟨-, h2⟩ | ⟨h1, -⟩
      · simp only [Node.inRch, h2] at hq'; exact absurd (by simpa using hq') hnq'
      · exact h1
    · rw [hinr m e] at hq'; exact I.qstale m hq'
  · intro m ho
    have e : m ≠ n := by intro e; rw [e, hopn] at ho; exact ho rfl
    rw [hopo m e] at ho
    rw [hsz]; exact I.opLt m ho

/-- closing a linking node that is not stale -/
theorem GInv.close_link_fresh {n k : Nat} (I : GInv env s op) (hop : op n = .linking k)
    (hk : (kids (s.nodeD n).kind).length ≤ k)
    (hpar : ∀ p i, (p, i) ∈ (s.nodeD n).parents → op p ≠ .closed)
    (hh : ∀ (i c : Nat), (kids (s.nodeD n).kind)[i]? = some c → (s.nodeD c).height < (s.nodeD n).height)
    (h0 : 0 ≤ (s.nodeD n).height) (hst : staleOf s n = false) :
    GInv env s (upd op n .closed) :=
  I.close_link_gen hop hk hh h0 rfl rfl rfl rfl (fun _ => ⟨_, rfl⟩) (fun _ _ => rfl) I.heap
    (Or.inl ⟨hst, rfl⟩)

/-- closing a linking node that is stale: it is inserted into the recompute heap -/
theorem GInv.close_link_stale {n k : Nat} (I : GInv env s op) (hop : op n = .linking k)
    (hk : (kids (s.nodeD n).kind).length ≤ k)
    (hpar : ∀ p i, (p, i) ∈ (s.nodeD n).parents → op p ≠ .closed)
    (hh : ∀ (i c : Nat), (kids (s.nodeD n).kind)[i]? = some c → (s.nodeD c).height < (s.nodeD n).height)
    (h0 : 0 ≤ (s.nodeD n).height) (hmax : (s.nodeD n).height ≤ s.rch.maxAllowed)
    (hst : staleOf s n = true) :
    GInv env (inserted n (s.nodeD n).height s) (upd op n .closed) := by
  have hlt : n < s.nodes.size := I.opLt n (by rw [hop]; exact Op.linking_ne_closed _)
  refine I.close_link_gen hop hk hh h0 rfl rfl (Array.size_modify ..) rfl ?_ ?_
    (I.heap.inserted hlt (I.lnec n k hop).2 h0 hmax) (Or.inr ⟨hst, ?_⟩)
  · intro m
    rw [inserted_nodeD]
    split
    · exact ⟨_, rfl⟩
    · exact ⟨_, rfl⟩
  · intro m hm
    rw [inserted_nodeD, if_neg (fun e => hm e.1.symm)]
  · rw [inserted_nodeD, if_pos ⟨rfl, hlt⟩]

/-- a new observer on a node that is already necessary -/
theorem GInv.addObs_nec {n : Nat} {l : List Nat} (I : GInv env s op) (U : NodeUpd n (fObservers l) s s')
    (hl : l ≠ []) (hn : s.isNecessary n = true) (hcl : op n = .closed) : GInv env s' op := by
  have K := keeps_fObservers l
  have hpa : ∀ m, (s'.nodeD m).parents = (s.nodeD m).parents := fun m => by
    by_cases e : m = n
    · rw [e]; exact U.parents_self
    · exact U.parents_other e
  have hht : ∀ m, (s'.nodeD m).height = (s.nodeD m).height := fun m => by
    by_cases e : m = n
    · rw [e]; exact U.height_self
    · exact U.height_other e
  have hnec : ∀ m, s'.isNecessary m = s.isNecessary m := fun m => by
    by_cases e : m = n
    · rw [e, hn]; exact (U.nec_self_iff K).2 (Or.inr (Or.inl hl))
    · exact U.nec_other e
  have hw : ∀ q i, Wants s' op q i ↔ Wants s op q i := fun q i => by unfold Wants; rw [hnec]
  refine { static := U.static K I.static, par := ?_, conv := ?_, nodup := ?_, hlt := ?_, hpos := ?_,
           lnec := ?_, unec := ?_, heap := U.heap K I.heap, hgt := ?_, qnec := ?_, queued := ?_,
           qstale := ?_, opLt := ?_ }
  · intro c q i hm
    rw [hpa] at hm
    rw [U.kind K, hw]; exact I.par c q i hm
  · intro q i c hk hw'
    rw [U.kind K] at hk
    rw [hw] at hw'
    rw [hpa]; exact I.conv q i c hk hw'
  · intro m; rw [hpa]; exact I.nodup m
  · intro c q i hm ho
    rw [hpa] at hm
    rw [hht, hht]
    exact I.hlt c q i hm ho
  · intro m hn ho
    rw [hnec] at hn
    rw [hht]; exact I.hpos m hn ho
  · intro q k ho
    rw [hnec, U.inRch K]; exact I.lnec q k ho
  · intro q k ho
    rw [hnec]; exact I.unec q k ho
  · intro m hq ho
    rw [U.inRch K] at hq
    rw [U.heightInRch K, hht]; exact I.hgt m hq ho
  · intro m hq
    rw [U.inRch K] at hq
    rw [hnec]; exact I.qnec m hq
  · intro m ho hn hs
    rw [hnec] at hn
    rw [U.staleOf K] at hs
    rw [U.inRch K]; exact I.queued m ho hn hs
  · intro m hq
    rw [U.inRch K] at hq
    rw [U.staleOf K]; exact I.qstale m hq
  · intro m ho
    rw [U.size]; exact I.opLt m ho

/-- a new observer on an unnecessary node: it is now open with no edge recorded -/
theorem GInv.addObs_open {n : Nat} {l : List Nat} (I : GInv env s op) (U : NodeUpd n (fObservers l) s s')
    (hl : l ≠ []) (hn : s.isNecessary n = false) (hcl : op n = .closed) :
    GInv env s' (upd op n (.linking 0)) ∧ (s'.nodeD n).parents = [] := by
  have K := keeps_fObservers l
  have hpa : ∀ m, (s'.nodeD m).parents = (s.nodeD m).parents := fun m => by
    by_cases e : m = n
    · rw [e]; exact U.parents_self
    · exact U.parents_other e
  refine ⟨?_, by rw [hpa]; exact parents_nil_of_not_nec hn⟩
  have hht : ∀ m, (s'.nodeD m).height = (s.nodeD m).height := fun m => by
    by_cases e : m = n
    · rw [e]; exact U.height_self
    · exact U.height_other e
  have hnec : ∀ m, m ≠ n → s'.isNecessary m = s.isNecessary m := fun m e => U.nec_other e
  have hnecn : s'.isNecessary n = true := (U.nec_self_iff K).2 (Or.inr (Or.inl hl))
  have hnq : (s.nodeD n).inRch = false := I.not_queued_of_not_nec hn hcl
  have hopn : upd op n (.linking 0) n = .linking 0 := upd_self ..
  have hopo : ∀ m, m ≠ n → upd op n (.linking 0) m = op m := fun m h => upd_other _ _ _ h
  have hcl' : ∀ m, upd op n (.linking 0) m = .closed → m ≠ n ∧ op m = .closed :=
    fun m h => upd_closed_inv (Op.linking_ne_closed _) h
  have hw : ∀ q i, Wants s' (upd op n (.linking 0)) q i ↔ Wants s op q i := fun q i => by
    by_cases e : q = n
    · rw [e, wants_linking hopn, wants_closed hcl, hn]; simp
    · unfold Wants; rw [hopo q e, hnec q e]
  refine { static := U.static K I.static, par := ?_, conv := ?_, nodup := ?_, hlt := ?_, hpos := ?_,
           lnec := ?_, unec := ?_, heap := U.heap K I.heap, hgt := ?_, qnec := ?_, queued := ?_,
           qstale := ?_, opLt := ?_ }
  · intro c q i hm
    rw [hpa] at hm
    rw [U.kind K, hw]; exact I.par c q i hm
  · intro q i c hk hw'
    rw [U.kind K] at hk
    rw [hw] at hw'
    rw [hpa]; exact I.conv q i c hk hw'
  · intro m; rw [hpa]; exact I.nodup m
  · intro c q i hm ho
    rw [hpa] at hm
    rw [hht, hht]
    exact I.hlt c q i hm (hcl' q ho).2
  · intro m hn' ho
    obtain ⟨h1, h2⟩ := hcl' m ho
    rw [hnec m h1] at hn'
    rw [hht]; exact I.hpos m hn' h2
  · intro q k ho
    rw [U.inRch K]
    by_cases e : q = n
    · rw [e]; exact ⟨hnecn, hnq⟩
    · rw [hopo q e] at ho
      rw [hnec q e]; exact I.lnec q k ho
  · intro q k ho
    have e : q ≠ n := by intro e; rw [e, hopn] at ho; cases ho
    rw [hopo q e] at ho
    rw [hnec q e]; exact I.unec q k ho
  · intro m hq ho
    rw [U.inRch K] at hq
    rw [U.heightInRch K, hht]; exact I.hgt m hq (hcl' m ho).2
  · intro m hq
    rw [U.inRch K] at hq
    have e : m ≠ n := by intro e; rw [e, hnq] at hq; cases hq
    rw [hnec m e]
    rcases I.qnec m hq with h | ⟨k, h⟩
    · exact Or.inl h
    · exact Or.inr ⟨k, by rw [hopo m e]; exact h⟩
  · intro m ho hn' hs
    obtain ⟨h1, h2⟩ := hcl' m ho
    rw [hnec m h1] at hn'
    rw [U.staleOf K] at hs
    rw [U.inRch K]; exact I.queued m h2 hn' hs
  · intro m hq
    rw [U.inRch K] at hq
    rw [U.staleOf K]; exact I.qstale m hq
  · intro m ho
    rw [U.size]
    by_cases e : m = n
    · rw [e]; exact U.lt
    · rw [hopo m e] at ho; exact I.opLt m ho


end

end IncrVerif.Proofs.CutH
