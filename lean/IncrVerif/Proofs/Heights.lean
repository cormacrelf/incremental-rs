import IncrVerif.Engine.Recompute
/-!
# Helper lemmas for C19 (the height limit is exact), and the small "run" calculus for `M`

`(m).run.run s : Except Panic α × State` is computed by the `run_*` rewrite rules below; every engine
function treated here gets a *master equation* `f_run : (f args).run.run s = <closed form>` from which
the property theorems of `Props/C19.lean` are read off.
-/
namespace IncrVerif.Proofs
open IncrVerif.Engine

/-! ## running `M` -/

theorem run_pure {α} (a : α) (s : State) : (pure a : M α).run.run s = (.ok a, s) := rfl

theorem run_bind {α β} (x : M α) (f : α → M β) (s : State) :
    (x >>= f).run.run s = match x.run.run s with
      | (.ok a, s') => (f a).run.run s'
      | (.error e, s') => (.error e, s') := by
  simp only [ExceptT.run_bind, StateT.run_bind]
  rcases h : x.run.run s with ⟨r, s'⟩
  cases r <;> simp_all <;> rfl

theorem run_get (s : State) : (get : M State).run.run s = (.ok s, s) := rfl

theorem run_modify (f : State → State) (s : State) :
    (modify f : M Unit).run.run s = (.ok (), f s) := rfl

theorem run_panic {α} (site : String) (s : State) :
    (Engine.panic site : M α).run.run s = (.error (.site site), s) := rfl

theorem run_ite {α} (c : Prop) [Decidable c] (a b : M α) (s : State) :
    (if c then a else b).run.run s = if c then a.run.run s else b.run.run s := by
  split <;> rfl

theorem run_assertM (c : Bool) (site : String) (s : State) :
    (assertM c site).run.run s = if c then (.ok (), s) else (.error (.site site), s) := by
  cases c <;> rfl

theorem run_dassert (c : Bool) (site : String) (s : State) :
    (dassert c site).run.run s =
      if s.cfg.debug = true ∧ c = false then (.error (.site site), s) else (.ok (), s) := by
  simp only [dassert, run_bind, run_get]
  cases s.cfg.debug <;> cases c <;> rfl

theorem run_getNode (n : Nat) (s : State) :
    (getNode n).run.run s = match s.nodes[n]? with
      | some x => (.ok x, s)
      | none => (.error (.site "model:no-such-node"), s) := by
  simp only [getNode, run_bind, run_get]
  cases s.nodes[n]? <;> rfl

theorem run_modNode (n : Nat) (f : Node → Node) (s : State) :
    (modNode n f).run.run s = (.ok (), { s with nodes := s.nodes.modify n f }) := rfl

/-! ## pure facts -/

theorem mkHeap_size (N : Nat) : (mkHeap N).queues.size = N + 1 := by simp [mkHeap]

theorem mkHeap_maxAllowed (N : Nat) : (mkHeap N).maxAllowed = N := by
  simp [mkHeap, Heap.maxAllowed]

theorem mkHeap_bucket (N i : Nat) (h : i ≤ N) : (mkHeap N).queues[i]? = some [] := by
  simp [mkHeap, Array.getElem?_replicate]; omega

theorem init_limits (N : Nat) (d : Bool) :
    (State.init N d).rch.maxAllowed = N ∧ (State.init N d).ahh.maxAllowed = N ∧
      (State.init N d).maxHeightSeen = 0 ∧ (State.init N d).rch.length = 0 ∧
      (State.init N d).ahh.length = 0 :=
  ⟨mkHeap_maxAllowed N, mkHeap_maxAllowed N, rfl, rfl, rfl⟩

/-- the bucket-vector resize of `set_max_height_allowed` (both heaps use the same one) -/
def resizeQ (N : Nat) (q : Array (List Nat)) : Array (List Nat) :=
  if q.size ≥ N + 1 then q.extract 0 (N + 1) else q ++ Array.replicate (N + 1 - q.size) []

theorem resizeQ_size (N : Nat) (q : Array (List Nat)) : (resizeQ N q).size = N + 1 := by
  unfold resizeQ; split <;> simp <;> omega

/-- every bucket that exists before and after keeps its contents; the others are empty -/
theorem resizeQ_getElem? (N : Nat) (q : Array (List Nat)) (i : Nat) :
    (resizeQ N q)[i]? = if i ≤ N then (if i < q.size then q[i]? else some []) else none := by
  unfold resizeQ
  split
  · rw [Array.getElem?_extract]
    by_cases h1 : i ≤ N
    · have h2 : i < q.size := by omega
      have h3 : i < min (N + 1) q.size := by omega
      simp [h1, h2, h3]
    · have h3 : ¬ i < min (N + 1) q.size := by omega
      simp [h1, h3]
  · by_cases h1 : i ≤ N
    · by_cases h2 : i < q.size
      · simp [h1, h2, Array.getElem?_append_left]
      · rw [Array.getElem?_append_right (by omega), Array.getElem?_replicate]
        have h3 : i - q.size < N + 1 - q.size := by omega
        simp [h1, h2, h3]
    · rw [Array.getElem?_append_right (by omega), Array.getElem?_replicate]
      have h3 : ¬ i - q.size < N + 1 - q.size := by omega
      simp [h1, h3]

/-! ## `setHeight` -/

theorem setHeight_run (n : Nat) (h : Int) (s : State) :
    (setHeight n h).run.run s =
      if h > s.maxHeightSeen ∧ h > s.ahh.maxAllowed then
        (.error (.site "height-limit"), { s with maxHeightSeen := h })
      else
        (.ok (), { s with maxHeightSeen := max s.maxHeightSeen h,
                          nodes := s.nodes.modify n fun x => { x with height := h } }) := by
  simp only [setHeight, modNode, run_bind, run_get, run_ite, run_modify, run_panic]
  by_cases h1 : h > s.maxHeightSeen
  · have hm : max s.maxHeightSeen h = h := by omega
    by_cases h2 : h > s.ahh.maxAllowed <;> simp [h1, h2, hm]
  · have hm : max s.maxHeightSeen h = s.maxHeightSeen := by omega
    simp [h1, hm]

/-! ## `setMaxHeightAllowed` -/

theorem setMaxHeightAllowed_run (N : Nat) (s : State) :
    (setMaxHeightAllowed N).run.run s =
      if s.status = .stabilising then
        (.error (.site "state:set_max_height_allowed:during-stabilisation"), s)
      else if (N : Int) < s.maxHeightSeen then
        (.error (.site "adjust_heights_heap:set_max_height_allowed:below-max-seen"), s)
      else if s.cfg.debug = true ∧ s.ahh.length ≠ 0 then
        (.error (.site "adjust_heights_heap:set_max_height_allowed:empty"), s)
      else if s.cfg.debug = true ∧ ((s.rch.queues.toList.drop (N + 1)).all (·.isEmpty)) = false then
        (.error (.site "recompute_heap:set_max_height_allowed:dropped-buckets-empty"),
          { s with ahh := { s.ahh with queues := resizeQ N s.ahh.queues, lowerBound := (N : Int) + 1 } })
      else
        (.ok (), { s with
          ahh := { s.ahh with queues := resizeQ N s.ahh.queues, lowerBound := (N : Int) + 1 },
          rch := { s.rch with queues := resizeQ N s.rch.queues,
                              lowerBound := min s.rch.lowerBound (((resizeQ N s.rch.queues).size : Int) + 1) } }) := by
  simp only [setMaxHeightAllowed, run_bind, run_get, run_ite, run_modify, run_panic,
    run_dassert, resizeQ]
  by_cases h1 : s.status = .stabilising
  · simp [h1]
  · have h1' : (s.status == Status.stabilising) = false := by simpa using h1
    simp only [h1, h1', if_false, Bool.false_eq_true]
    by_cases h2 : (N : Int) < s.maxHeightSeen
    · simp only [h2, if_true]
    · simp only [h2, if_false]
      by_cases h3 : s.cfg.debug = true ∧ (s.ahh.length == 0) = false
      · have h3' : s.cfg.debug = true ∧ s.ahh.length ≠ 0 := by simpa using h3
        simp only [if_pos h3, if_pos h3']
      · have h3' : ¬ (s.cfg.debug = true ∧ s.ahh.length ≠ 0) := by simpa using h3
        simp only [if_neg h3, if_neg h3']
        by_cases h4 : s.cfg.debug = true ∧
            ((s.rch.queues.toList.drop (N + 1)).all (·.isEmpty)) = false
        · simp only [if_pos h4]
        · simp only [if_neg h4]

/-! ## `rchLink`, `rchInsert` -/

/-- the state after a successful `link` of node `n` (whose height is `h`) -/
def linked (n : Nat) (h : Int) (s : State) : State :=
  { s with nodes := s.nodes.modify n fun x => { x with heightInRch := h },
           rch := { s.rch with queues := s.rch.queues.modify h.toNat (· ++ [n]) } }

theorem rchLink_run (n : Nat) (s : State) :
    (rchLink n).run.run s = match s.nodes[n]? with
      | none => (.error (.site "model:no-such-node"), s)
      | some nd =>
        if nd.height < 0 then (.error (.site "recompute_heap:link:height>=0"), s)
        else if nd.height > s.rch.maxAllowed then (.error (.site "recompute_heap:link:height<=max"), s)
        else (.ok (), linked n nd.height s) := by
  simp only [rchLink, run_bind, run_getNode]
  cases hn : s.nodes[n]? with
  | none => rfl
  | some nd =>
    simp only [run_get, run_assertM, run_modNode, run_modify, linked]
    by_cases h1 : nd.height < 0
    · have : decide (nd.height ≥ 0) = false := by simpa using h1
      simp only [this, if_pos h1, Bool.false_eq_true, if_false]
    · have : decide (nd.height ≥ 0) = true := by simpa using h1
      simp only [this, if_neg h1, if_true]
      by_cases h2 : nd.height > s.rch.maxAllowed
      · have : decide (nd.height ≤ s.rch.maxAllowed) = false := by simpa using h2
        simp only [this, if_pos h2, Bool.false_eq_true, if_false]
      · have : decide (nd.height ≤ s.rch.maxAllowed) = true := by simpa using h2
        simp only [this, if_neg h2, if_true]

/-- the state after a successful `insert` of node `n` (whose height is `h`) -/
def inserted (n : Nat) (h : Int) (s : State) : State :=
  { s with nodes := s.nodes.modify n fun x => { x with heightInRch := h },
           rch := { queues := s.rch.queues.modify h.toNat (· ++ [n]),
                    lowerBound := if h < s.rch.lowerBound then h else s.rch.lowerBound,
                    length := s.rch.length + 1 } }

/-- `insert` just before `link` is called: only the lower bound may have moved -/
def lowered (h : Int) (s : State) : State :=
  { s with rch := { s.rch with lowerBound := if h < s.rch.lowerBound then h else s.rch.lowerBound } }

theorem rchInsert_run (n : Nat) (s : State) :
    (rchInsert n).run.run s = match s.nodes[n]? with
      | none => (.error (.site "model:no-such-node"), s)
      | some nd =>
        if s.cfg.debug = true ∧ (!nd.inRch && s.needsToBeComputed n) = false then
          (.error (.site "recompute_heap:insert:precondition"), s)
        else if s.cfg.debug = true ∧ nd.height > s.rch.maxAllowed then
          (.error (.site "recompute_heap:insert:height<=max"), s)
        else if nd.height < 0 then
          (.error (.site "recompute_heap:link:height>=0"), lowered nd.height s)
        else if nd.height > s.rch.maxAllowed then
          (.error (.site "recompute_heap:link:height<=max"), lowered nd.height s)
        else (.ok (), inserted n nd.height s) := by
  simp only [rchInsert, run_bind, run_get, run_getNode]
  cases hn : s.nodes[n]? with
  | none => rfl
  | some nd =>
    simp only [run_dassert]
    by_cases h1 : s.cfg.debug = true ∧ (!nd.inRch && s.needsToBeComputed n) = false
    · simp only [if_pos h1]
    · simp only [if_neg h1]
      by_cases h2 : s.cfg.debug = true ∧ nd.height > s.rch.maxAllowed
      · have h2' : s.cfg.debug = true ∧ decide (nd.height ≤ s.rch.maxAllowed) = false := by
          simpa using h2
        simp only [if_pos h2, if_pos h2']
      · have h2' : ¬ (s.cfg.debug = true ∧ decide (nd.height ≤ s.rch.maxAllowed) = false) := by
          simpa using h2
        simp only [if_neg h2, if_neg h2']
        simp only [run_ite, run_bind, run_modify, rchLink_run, hn, lowered, inserted, linked,
          Heap.maxAllowed]
        by_cases hlb : nd.height < s.rch.lowerBound <;> by_cases h3 : nd.height < 0 <;>
          by_cases h4 : nd.height > (s.rch.queues.size : Int) - 1 <;> simp [hlb, h3, h4]

/-- a successful `insert`: the node exists, its height is within the heap, and it is now marked -/
theorem Step.rchInsert_ok_inv {n : Nat} {s s' : State} {u : Unit}
    (hr : (rchInsert n).run.run s = (.ok u, s')) :
    ∃ nd, s.nodes[n]? = some nd ∧ 0 ≤ nd.height ∧ nd.height ≤ s.rch.maxAllowed ∧
      s' = inserted n nd.height s := by
  rw [rchInsert_run] at hr
  cases hn : s.nodes[n]? with
  | none => rw [hn] at hr; cases hr
  | some nd =>
    rw [hn] at hr
    simp only at hr
    by_cases h1 : s.cfg.debug = true ∧ (!nd.inRch && s.needsToBeComputed n) = false
    · rw [if_pos h1] at hr; cases hr
    rw [if_neg h1] at hr
    by_cases h2 : s.cfg.debug = true ∧ nd.height > s.rch.maxAllowed
    · rw [if_pos h2] at hr; cases hr
    rw [if_neg h2] at hr
    by_cases h3 : nd.height < 0
    · rw [if_pos h3] at hr; cases hr
    rw [if_neg h3] at hr
    by_cases h4 : nd.height > s.rch.maxAllowed
    · rw [if_pos h4] at hr; cases hr
    rw [if_neg h4] at hr
    cases hr
    exact ⟨nd, rfl, by omega, by omega, rfl⟩

/-! ## consequences: `setHeight` -/

theorem setHeight_err_iff (n : Nat) (h : Int) (s : State) :
    ((setHeight n h).run.run s).1 = .error (.site "height-limit") ↔
      (h > s.maxHeightSeen ∧ h > s.ahh.maxAllowed) := by
  rw [setHeight_run]; split <;> simp_all

theorem setHeight_ok_iff (n : Nat) (h : Int) (s : State) :
    ((setHeight n h).run.run s).1 = .ok () ↔ ¬ (h > s.maxHeightSeen ∧ h > s.ahh.maxAllowed) := by
  rw [setHeight_run]; split <;> simp_all

theorem setHeight_exact (n : Nat) (h : Int) (s : State) (inv : s.maxHeightSeen ≤ s.ahh.maxAllowed) :
    (((setHeight n h).run.run s).1 = .error (.site "height-limit") ↔ h > s.ahh.maxAllowed) ∧
    (((setHeight n h).run.run s).1 = .ok () ↔ h ≤ s.ahh.maxAllowed) := by
  rw [setHeight_err_iff, setHeight_ok_iff]
  constructor <;> constructor <;> intro <;> omega

theorem setHeight_ok_state (n : Nat) (h : Int) (s s' : State)
    (hr : (setHeight n h).run.run s = (.ok (), s')) :
    (n < s.nodes.size → (s'.nodeD n).height = h) ∧
    s'.maxHeightSeen = max s.maxHeightSeen h ∧
    s'.rch = s.rch ∧ s'.ahh = s.ahh ∧ s'.vars = s.vars ∧
    s'.nodes.size = s.nodes.size ∧
    (∀ m, m ≠ n → s'.nodes[m]? = s.nodes[m]?) ∧
    (s.maxHeightSeen ≤ s.ahh.maxAllowed → s'.maxHeightSeen ≤ s'.ahh.maxAllowed) := by
  rw [setHeight_run] at hr
  by_cases hc : h > s.maxHeightSeen ∧ h > s.ahh.maxAllowed
  · rw [if_pos hc] at hr; cases hr
  · rw [if_neg hc] at hr
    cases hr
    refine ⟨?_, rfl, rfl, rfl, rfl, by simp, ?_, ?_⟩
    · intro hn
      simp [State.nodeD, Array.getElem_modify, hn]
    · intro m hm
      simp [Array.getElem?_modify, Ne.symm hm]
    · intro inv
      show max s.maxHeightSeen h ≤ s.ahh.maxAllowed
      omega

/-! ## consequences: `setMaxHeightAllowed` -/

theorem all_drop_iff (l : List (List Nat)) (k : Nat) :
    (l.drop k).all (·.isEmpty) = true ↔ ∀ i, k ≤ i → ∀ x, l[i]? = some x → x = [] := by
  simp only [List.all_eq_true, List.isEmpty_iff]
  constructor
  · intro hall i hi x hx
    apply hall
    rw [List.mem_iff_getElem?]
    exact ⟨i - k, by rw [List.getElem?_drop]; rw [← hx]; congr 1; omega⟩
  · intro hall x hx
    rw [List.mem_iff_getElem?] at hx
    obtain ⟨i, hi⟩ := hx
    rw [List.getElem?_drop] at hi
    exact hall (k + i) (by omega) x hi

/-- "every bucket above `N` is empty" -/
def DroppedEmpty (N : Nat) (q : Array (List Nat)) : Prop :=
  ∀ i, N < i → ∀ x, q[i]? = some x → x = []

theorem dropped_all_iff (N : Nat) (q : Array (List Nat)) :
    (q.toList.drop (N + 1)).all (·.isEmpty) = true ↔ DroppedEmpty N q := by
  rw [all_drop_iff]
  simp only [DroppedEmpty, Array.getElem?_toList]
  constructor
  · intro h i hi; exact h i hi
  · intro h i hi; exact h i hi

theorem smha_stabilising (N : Nat) (s : State) (h : s.status = .stabilising) :
    (setMaxHeightAllowed N).run.run s =
      (.error (.site "state:set_max_height_allowed:during-stabilisation"), s) := by
  rw [setMaxHeightAllowed_run, if_pos h]

/-- the state after a successful `set_max_height_allowed N` -/
def resized (N : Nat) (s : State) : State :=
  { s with
    ahh := { s.ahh with queues := resizeQ N s.ahh.queues, lowerBound := (N : Int) + 1 },
    rch := { s.rch with queues := resizeQ N s.rch.queues,
                        lowerBound := min s.rch.lowerBound (((resizeQ N s.rch.queues).size : Int) + 1) } }

theorem smha_ok_iff (N : Nat) (s s' : State) :
    (setMaxHeightAllowed N).run.run s = (.ok (), s') ↔
      (s.status ≠ .stabilising ∧ s.maxHeightSeen ≤ (N : Int) ∧
        (s.cfg.debug = false ∨ (s.ahh.length = 0 ∧ DroppedEmpty N s.rch.queues)) ∧
        s' = resized N s) := by
  rw [setMaxHeightAllowed_run, ← dropped_all_iff]
  have hres : ∀ x : State, ((Except.ok () : Except Panic Unit), x) = (.ok (), s') ↔ s' = x := by
    intro x; simp [eq_comm]
  have herr : ∀ (p : Panic) (x : State), ((Except.error p : Except Panic Unit), x) = (.ok (), s') ↔ False := by
    intro p x; constructor
    · intro h; cases h
    · exact False.elim
  by_cases h1 : s.status = .stabilising
  · rw [if_pos h1, herr]
    exact ⟨False.elim, fun h => h.1 h1⟩
  rw [if_neg h1]
  by_cases h2 : (N : Int) < s.maxHeightSeen
  · rw [if_pos h2, herr]
    exact ⟨False.elim, fun h => by omega⟩
  rw [if_neg h2]
  by_cases h3 : s.cfg.debug = true ∧ s.ahh.length ≠ 0
  · rw [if_pos h3, herr]
    refine ⟨False.elim, fun h => ?_⟩
    rcases h.2.2.1 with hd | ⟨hl, _⟩
    · rw [h3.1] at hd; cases hd
    · exact h3.2 hl
  rw [if_neg h3]
  by_cases h4 : s.cfg.debug = true ∧ ((s.rch.queues.toList.drop (N + 1)).all (·.isEmpty)) = false
  · rw [if_pos h4, herr]
    refine ⟨False.elim, fun h => ?_⟩
    rcases h.2.2.1 with hd | ⟨_, ha⟩
    · rw [h4.1] at hd; cases hd
    · rw [h4.2] at ha; cases ha
  rw [if_neg h4, hres]
  refine ⟨fun h => ⟨h1, by omega, ?_, h⟩, fun h => h.2.2.2⟩
  cases hd : s.cfg.debug
  · exact Or.inl rfl
  · refine Or.inr ⟨Decidable.byContradiction fun hne => h3 ⟨hd, hne⟩, ?_⟩
    cases ha : (s.rch.queues.toList.drop (N + 1)).all (·.isEmpty)
    · exact absurd ⟨hd, ha⟩ h4
    · rfl

theorem resized_facts (N : Nat) (s : State) :
    (resized N s).rch.queues.size = N + 1 ∧ (resized N s).ahh.queues.size = N + 1 ∧
    (resized N s).rch.maxAllowed = N ∧ (resized N s).ahh.maxAllowed = N ∧
    (∀ i, (resized N s).rch.queues[i]? =
      if i ≤ N then (if i < s.rch.queues.size then s.rch.queues[i]? else some []) else none) ∧
    (∀ i, (resized N s).ahh.queues[i]? =
      if i ≤ N then (if i < s.ahh.queues.size then s.ahh.queues[i]? else some []) else none) ∧
    (resized N s).nodes = s.nodes ∧ (resized N s).vars = s.vars ∧
    (resized N s).maxHeightSeen = s.maxHeightSeen ∧
    (resized N s).rch.length = s.rch.length ∧ (resized N s).ahh.length = s.ahh.length ∧
    (resized N s).status = s.status := by
  refine ⟨resizeQ_size _ _, resizeQ_size _ _, ?_, ?_, resizeQ_getElem? _ _, resizeQ_getElem? _ _,
    rfl, rfl, rfl, rfl, rfl, rfl⟩
  · simp [Heap.maxAllowed, resized, resizeQ_size]
  · simp [Heap.maxAllowed, resized, resizeQ_size]

/-! ## consequences: `rchLink` -/

theorem rchLink_no_node (n : Nat) (s : State) (hn : s.nodes[n]? = none) :
    (rchLink n).run.run s = (.error (.site "model:no-such-node"), s) := by
  rw [rchLink_run, hn]

/-! ## `ahhAddUnlessMem`, `ensureHeightRequirement` -/

/-- node `n` marked as a member of the adjust-heights heap at height `h` -/
def ahhMarked (n : Nat) (h : Int) (s : State) : State :=
  { s with nodes := s.nodes.modify n fun x => { x with heightInAhh := h } }

/-- ... and appended to bucket `h` -/
def ahhAdded (n : Nat) (h : Int) (s : State) : State :=
  { s with
    nodes := s.nodes.modify n fun x => { x with heightInAhh := h }
    ahh := { queues := s.ahh.queues.modify h.toNat (· ++ [n])
             length := s.ahh.length + 1
             lowerBound := s.ahh.lowerBound } }

theorem ahhAddUnlessMem_run (n : Nat) (s : State) (nd : Node) (hn : s.nodes[n]? = some nd) :
    (ahhAddUnlessMem n).run.run s =
      if (nd.heightInAhh == -1) = false then (.ok (), s)
      else if s.cfg.debug = true ∧ decide (nd.height ≥ s.ahh.lowerBound) = false then
        (.error (.site "adjust_heights_heap:add:height>=lower_bound"), s)
      else if s.cfg.debug = true ∧ decide (nd.height ≤ s.ahh.maxAllowed) = false then
        (.error (.site "adjust_heights_heap:add:height<=max"), s)
      else if (decide (nd.height < 0) || decide (nd.height.toNat ≥ s.ahh.queues.size)) = true then
        (.error (.site "adjust_heights_heap:add:no-queue"), ahhMarked n nd.height s)
      else (.ok (), ahhAdded n nd.height s) := by
  simp only [ahhAddUnlessMem, run_bind, run_getNode, hn]
  cases h0 : (nd.heightInAhh == -1)
  · simp only [Bool.false_eq_true, if_false, if_true]; rfl
  · simp only [if_true, Bool.true_eq_false, if_false, run_bind, run_get, run_dassert]
    by_cases h1 : s.cfg.debug = true ∧ decide (nd.height ≥ s.ahh.lowerBound) = false
    · simp only [if_pos h1]
    · simp only [if_neg h1]
      by_cases h2 : s.cfg.debug = true ∧ decide (nd.height ≤ s.ahh.maxAllowed) = false
      · simp only [if_pos h2]
      · simp only [if_neg h2, run_modNode, run_ite, run_modify]
        by_cases h3 : (decide (nd.height < 0) || decide (nd.height.toNat ≥ s.ahh.queues.size)) = true
        · simp only [if_pos h3]; rfl
        · simp only [if_neg h3]; rfl

/-- whatever `ahhAddUnlessMem` does, it leaves heights, the limit and the largest height seen alone -/
theorem ahhAddUnlessMem_frame (n : Nat) (s : State) (nd : Node) (hn : s.nodes[n]? = some nd) :
    let s1 := ((ahhAddUnlessMem n).run.run s).2
    s1.maxHeightSeen = s.maxHeightSeen ∧ s1.ahh.maxAllowed = s.ahh.maxAllowed ∧
      s1.nodes.size = s.nodes.size ∧ (∀ m, (s1.nodeD m).height = (s.nodeD m).height) ∧
      s1.rch = s.rch := by
  have hnodes : ∀ (h : Int) (m : Nat),
      ((ahhMarked n h s).nodeD m).height = (s.nodeD m).height := by
    intro h m
    simp only [ahhMarked, State.nodeD, Array.getElem?_modify]
    split
    · cases s.nodes[m]? <;> rfl
    · rfl
  rw [ahhAddUnlessMem_run n s nd hn]
  split
  · exact ⟨rfl, rfl, rfl, fun _ => rfl, rfl⟩
  · split
    · exact ⟨rfl, rfl, rfl, fun _ => rfl, rfl⟩
    · split
      · exact ⟨rfl, rfl, rfl, fun _ => rfl, rfl⟩
      · split
        · exact ⟨rfl, rfl, by simp [ahhMarked], hnodes _, rfl⟩
        · refine ⟨rfl, ?_, by simp [ahhAdded], hnodes _, rfl⟩
          simp [ahhAdded, Heap.maxAllowed]

theorem ensureHeightRequirement_run (oc op child parent : Nat) (s : State) (c p : Node)
    (hc : s.nodes[child]? = some c) (hp : s.nodes[parent]? = some p) :
    (ensureHeightRequirement oc op child parent).run.run s =
      if s.cfg.debug = true ∧ s.isNecessary child = false then
        (.error (.site "adjust_heights_heap:ensure:child-necessary"), s)
      else if s.cfg.debug = true ∧ s.isNecessary parent = false then
        (.error (.site "adjust_heights_heap:ensure:parent-necessary"), s)
      else if (parent == oc) = true then (.error (.site "cyclic"), s)
      else if c.height ≥ p.height then
        match (ahhAddUnlessMem parent).run.run s with
        | (.ok _, s1) => (setHeight parent (c.height + 1)).run.run s1
        | (.error e, s1) => (.error e, s1)
      else (.ok (), s) := by
  simp only [ensureHeightRequirement, run_bind, run_get, run_dassert]
  by_cases h1 : s.cfg.debug = true ∧ s.isNecessary child = false
  · simp only [if_pos h1]
  · simp only [if_neg h1]
    by_cases h2 : s.cfg.debug = true ∧ s.isNecessary parent = false
    · simp only [if_pos h2]
    · simp only [if_neg h2, run_ite, run_panic, run_bind, run_getNode, hc, hp, run_pure]
      by_cases h3 : (parent == oc) = true
      · simp only [if_pos h3]
      · simp only [if_neg h3]
        by_cases h4 : c.height ≥ p.height
        · simp only [if_pos h4]
          rcases (ahhAddUnlessMem parent).run.run s with ⟨_ | _, _⟩ <;> rfl
        · simp only [if_neg h4]

/-- `ensure_height_requirement` can never lift a parent above the limit: if it returns, either
nothing had to be done, or the parent now has height `child + 1` and that is within what
`set_height` accepts. -/
theorem ensureHeightRequirement_ok (oc op child parent : Nat) (s s' : State) (c p : Node)
    (hc : s.nodes[child]? = some c) (hp : s.nodes[parent]? = some p)
    (hr : (ensureHeightRequirement oc op child parent).run.run s = (.ok (), s')) :
    (c.height < p.height → s' = s) ∧
    (p.height ≤ c.height →
      (s'.nodeD parent).height = c.height + 1 ∧
      (c.height + 1 ≤ s.maxHeightSeen ∨ c.height + 1 ≤ s.ahh.maxAllowed) ∧
      s'.maxHeightSeen = max s.maxHeightSeen (c.height + 1) ∧
      s'.ahh.maxAllowed = s.ahh.maxAllowed) := by
  rw [ensureHeightRequirement_run oc op child parent s c p hc hp] at hr
  by_cases h1 : s.cfg.debug = true ∧ s.isNecessary child = false
  · rw [if_pos h1] at hr; cases hr
  rw [if_neg h1] at hr
  by_cases h2 : s.cfg.debug = true ∧ s.isNecessary parent = false
  · rw [if_pos h2] at hr; cases hr
  rw [if_neg h2] at hr
  by_cases h3 : (parent == oc) = true
  · rw [if_pos h3] at hr; cases hr
  rw [if_neg h3] at hr
  by_cases h4 : c.height ≥ p.height
  · rw [if_pos h4] at hr
    refine ⟨fun h => by omega, fun _ => ?_⟩
    have hf := ahhAddUnlessMem_frame parent s p hp
    rcases hadd : (ahhAddUnlessMem parent).run.run s with ⟨e | u, s1⟩
    · rw [hadd] at hr; cases hr
    · rw [hadd] at hr hf
      simp only at hr hf
      obtain ⟨f1, f2, f3, _, _⟩ := hf
      have hlt : parent < s1.nodes.size := by
        rw [f3]; exact (Array.getElem?_eq_some_iff.1 hp).1
      have hok := (setHeight_ok_iff parent (c.height + 1) s1).1 (by rw [hr])
      obtain ⟨g1, g2, _, g4, _⟩ := setHeight_ok_state parent (c.height + 1) s1 s' hr
      refine ⟨g1 hlt, ?_, by rw [g2, f1], by rw [g4, f2]⟩
      rw [f1, f2] at hok
      omega
  · rw [if_neg h4] at hr
    cases hr
    exact ⟨fun _ => rfl, fun h => by omega⟩

/-! ## example states (non-vacuity witnesses used by `Props/C19.lean`) -/

/-- limit 4, one node, no debug assertions -/
def exH : State :=
  { State.init 4 false with nodes := #[{ kind := .const .unit, createdIn := .top, height := 2 }] }

/-- the same with debug assertions on -/
def exHd : State :=
  { State.init 4 true with nodes := #[{ kind := .const .unit, createdIn := .top, height := 2 }] }

/-- two necessary nodes, both at the limit 4: node 1 cannot become a parent of node 0 -/
def exHfull : State :=
  { State.init 4 false with
    maxHeightSeen := 4
    nodes := #[{ kind := .const .unit, createdIn := .top, height := 4, forceNecessary := true },
               { kind := .map 0 [0], createdIn := .top, height := 4, forceNecessary := true }] }

/-- `exH` during a stabilisation -/
def exHs : State := { exH with status := .stabilising }

end IncrVerif.Proofs
