import IncrVerif.Proofs.MapOld11
import IncrVerif.Proofs.MapOld10
import IncrVerif.Proofs.Virtual
/-!
# map_with_old fragment: one `recomputeOne` on the current node of the drain invariant

* a node that is not a map_with_old node: the actual step is simulated by the step of the virtual static engine
  (`step_static_node`);
* a map_with_old node (`step_mwo_node`): no simulation (the actual node fires iff the machine says so); the step relation
  `Sched.StepRel` of the virtual states is assembled from the actual run and the machine contract.  When the machine
  reports "no change" on its very first run (the node has no value yet) the virtual pre-state is patched
  (`Inv.patch`: pretend the node already stored the value — all its parents are stale anyway).
-/
namespace IncrVerif.Proofs.MapOldH
open IncrVerif.Engine IncrVerif.Proofs IncrVerif.Proofs.Step IncrVerif.Proofs.Sched IncrVerif.Proofs.Quiet

variable {env : Env} {C : Val → Prop} {sp : Nat → Val → Val} {s : State}

/-- the runtime facts of the simulation follow from the fragment -/
theorem WFrag.fr {G : Nat → Prop} (F : WFrag env G s) (hp : s.propagateInvalidity = []) : Fr s :=
  ⟨F.not_expert, F.valid', hp, F.not_mapRef⟩

/-- the children of the current node have values -/
theorem Inv.kids_some {n : Nat} (I : Inv (virtEnv env sp) (virt s) (some n)) :
    ∀ a, a ∈ kidsW (s.nodeD n).kind → ∃ v, (s.nodeD a).value = some v := by
  intro a ha
  obtain ⟨vals, hvals⟩ := I.kids_values
  rw [virt_kids, virt_plainVals] at hvals
  exact evalArgs_some_mem _ _ _ hvals a ha

/-- the value of the defining expression of a virtual node satisfies `C` -/
theorem target_C (V : ValOK env C sp) (F : WFrag env (Good env C sp) s) (M : MInv env C s) {m : Nat} {w : Val}
    (hm : m < s.nodes.size) (h : Target (virtEnv env sp) (virt s) m w) : C w := by
  have hK := F.kind m hm
  have hL := M.lits m hm
  unfold Target at h
  rw [virt_nodeD, virtNode_kind] at h
  cases hk : (s.nodeD m).kind <;> rw [hk] at h hK hL <;> simp only [virtKind] at h
  case const v => rw [h]; exact hL
  case var c =>
    obtain ⟨vc, hvc, rfl⟩ := h
    exact M.vars c vc hvc
  case map f args =>
    obtain ⟨vals, hvals, rfl⟩ := h
    rw [virt_plainVals] at hvals
    rw [virtEnv_fn_real env sp hK.1]
    exact V.fn f vals (plainVals_C M.vals args vals hvals)
  case fold f init cs =>
    obtain ⟨vals, hvals, rfl⟩ := h
    rw [virt_plainVals] at hvals
    rw [virtEnv_foldStep]
    exact foldl_C V f vals init hL (plainVals_C M.vals cs vals hvals)
  case mapWithOld g i =>
    obtain ⟨vals, hvals, rfl⟩ := h
    rw [virt_plainVals] at hvals
    rw [virtEnv_fn_mach env sp hK.1]
    apply V.spec
    have hc := plainVals_C M.vals [i] vals hvals
    simp only [plainVals, evalArgs] at hvals
    cases hx : (s.nodeD i).value with
    | none => rw [hx] at hvals; simp at hvals
    | some x =>
      rw [hx] at hvals
      simp at hvals
      subst hvals
      exact hc x (List.mem_cons_self ..)
  all_goals exact hK.elim

/-- a node of the fragment that is not a map_with_old node computes what `Step.Computes` says -/
theorem computes_of_frag {G : Nat → Prop} {n : Nat} (F : WFrag env G s) (hn : n < s.nodes.size)
    (hk : ∀ g i, (s.nodeD n).kind ≠ .mapWithOld g i)
    (hvar : ∀ c, (s.nodeD n).kind = .var c → ∃ vc, s.vars[c]? = some vc)
    (hkids : ∀ a, a ∈ kidsW (s.nodeD n).kind → (s.value env a).isSome = true) :
    ∃ v evs, Computes env s n (s.nodeD n) v (s.nodeD n).oldState evs := by
  obtain ⟨hSK, -, hkk⟩ := (F.kind n hn).static hk
  rw [hkk] at hkids
  obtain ⟨vals, hvals⟩ := MapRefH.valuesOf_of_isSome env s _ hkids
  exact computes_static n hSK hvar hvals

/-- what a step of node `n` leaves of the fragment and the value-level invariant: everything, given what `n` stores
afterwards -/
theorem frag_minv_after {n : Nat} {s' : State} {v : Val} (F : WFrag env (Good env C sp) s) (M : MInv env C s)
    (hsz : s'.nodes.size = s.nodes.size) (hkind : ∀ m, (s'.nodeD m).kind = (s.nodeD m).kind)
    (hvalid : ∀ m, (s'.nodeD m).valid = (s.nodeD m).valid)
    (hval : ∀ m, m ≠ n → (s'.nodeD m).value = (s.nodeD m).value)
    (hold : ∀ m, m ≠ n → (s'.nodeD m).oldState = (s.nodeD m).oldState)
    (hvars : s'.vars = s.vars) (hpc : s'.panicCountdown = none)
    (hvn : (s'.nodeD n).value = some v) (hC : C v)
    (hmach : ∀ g i, (s.nodeD n).kind = .mapWithOld g i → MReach env C g (s'.nodeD n).oldState (some v)) :
    WFrag env (Good env C sp) s' ∧ MInv env C s' := by
  refine ⟨⟨hpc, fun m hm => by rw [hkind]; exact F.kind m (by rw [← hsz]; exact hm),
    fun m hm => by rw [hvalid]; exact F.valid m (by rw [← hsz]; exact hm),
    fun m hm => by rw [hkind]; exact F.back m (by rw [← hsz]; exact hm)⟩, ?_, ?_, ?_, ?_⟩
  · intro m w hw
    by_cases hmn : m = n
    · subst hmn; rw [hvn] at hw; cases hw; exact hC
    · rw [hval m hmn] at hw; exact M.vals m w hw
  · intro m hm; rw [hkind]; exact M.lits m (by rw [← hsz]; exact hm)
  · rw [hvars]; exact M.vars
  · intro m g i hk
    rw [hkind] at hk
    by_cases hmn : m = n
    · subst hmn; rw [hvn]; exact hmach g i hk
    · rw [hval m hmn, hold m hmn]; exact M.mach m g i hk

/-- **one step, not a map_with_old node.** -/
theorem step_static_node {fuel n : Nat} {s' : State} {r : Option Nat} (V : ValOK env C sp)
    (D : DInvW env C sp s (some n)) (hk : ∀ g i, (s.nodeD n).kind ≠ .mapWithOld g i)
    (h : (recomputeOne env fuel n).run.run s = (.ok r, s')) :
    (recomputeOne (virtEnv env sp) fuel n).run.run (virt s) = (.ok r, virt s') ∧
      WFrag env (Good env C sp) s' ∧ MInv env C s' ∧ s'.propagateInvalidity = [] := by
  have F := D.frag
  have I := D.inv
  have gr := I.graph
  obtain ⟨hnv, -⟩ := I.cur n rfl
  obtain ⟨hlt, -, -, -, -⟩ := gr.nec n hnv
  rw [virt_size] at hlt
  have hkids : ∀ a, a ∈ kidsW (s.nodeD n).kind → (s.value env a).isSome = true := by
    intro a ha
    obtain ⟨w, hw⟩ := Inv.kids_some I a ha
    rw [F.value a, hw]; rfl
  have hvar : ∀ c, (s.nodeD n).kind = .var c → ∃ vc, s.vars[c]? = some vc := by
    intro c hc
    exact gr.var n c hnv (by rw [virt_nodeD, virtNode_kind, hc]; rfl)
  obtain ⟨hsim, hfr'⟩ := recomputeOne_sim (sp := sp) F (F.fr D.pinv) hlt hk hvar hkids h
  refine ⟨hsim, ?_⟩
  obtain ⟨v, ch, ht, R⟩ := recomputeOne_static gr I.heap hnv I.kids_values hsim
  obtain ⟨v0, evs, hc⟩ := computes_of_frag F hlt hk hvar hkids
  have P := recomputeOne_post env fuel n s s' _ v0 _ evs r (some_of_lt hlt) (F.valid n hlt) F.pc hc h
  have hvn : (s'.nodeD n).value = some v := by
    have := R.value; rwa [virt_nodeD, virtNode_value] at this
  obtain ⟨F', M'⟩ := frag_minv_after (v := v) F D.m P.frame.size P.frame.kind P.frame.valid P.frame.value
    P.frame.oldState P.frame.vars P.pc hvn (target_C V F D.m hlt ht)
    (fun g i hg => absurd hg (hk g i))
  exact ⟨F', M', hfr'.pinv⟩

/-! ## a map_with_old node -/

/-- the state in which the notifications of a map_with_old step start -/
def mwoX (n : Nat) (new σ' : Val) (es : List Event) (s : State) : State :=
  setWithOld n new σ' (logged es (started n s))

theorem mwoX_nodeD (n m : Nat) (new σ' : Val) (es : List Event) (s : State) (hn : n < s.nodes.size) :
    (mwoX n new σ' es s).nodeD m =
      if m = n then { s.nodeD n with recomputedAt := s.stabNum, value := some new, oldState := σ' }
      else s.nodeD m := by
  unfold mwoX setWithOld
  rw [nodeD_modify]
  have e : ∀ k, (logged es (started n s)).nodeD k = (started n s).nodeD k := fun _ => rfl
  have hsz : (logged es (started n s)).nodes.size = s.nodes.size := by simp [logged, started]
  by_cases hm : m = n
  · subst hm
    rw [if_pos ⟨rfl, by rw [hsz]; exact hn⟩, if_pos rfl, e, started_nodeD, if_pos ⟨rfl, hn⟩]
  · rw [if_neg (fun h => hm h.1.symm), if_neg hm, e, started_nodeD, if_neg (fun h => hm h.1.symm)]

theorem mwoX_size (n : Nat) (new σ' : Val) (es : List Event) (s : State) :
    (mwoX n new σ' es s).nodes.size = s.nodes.size := by
  simp [mwoX, setWithOld, logged, started]

/-- the virtual image of that state differs from a virtual pre-state `P` (the virtual state itself, or patched at `n`)
only in the value and stamps of node `n` -/
theorem mwoX_upd {n : Nat} {new σ' : Val} {es : List Event} (P : State) (hn : n < s.nodes.size)
    (hpc : s.panicCountdown = none) (hP : ∀ m, ∃ w, P.nodeD m = { (virt s).nodeD m with value := w })
    (hPo : ∀ m, m ≠ n → P.nodeD m = (virt s).nodeD m)
    (hsz : P.nodes.size = s.nodes.size) (hvars : P.vars = s.vars) (hst : P.stabNum = s.stabNum) (hr : P.rch = s.rch) :
    Upd n P (virt (mwoX n new σ' es s)) := by
  have hX := fun m => mwoX_nodeD n m new σ' es s hn
  refine ⟨by rw [virt_size, mwoX_size, hsz], hvars.symm, hst.symm, hpc, hr.symm, fun m hm => ?_, ?_, ?_⟩
  · rw [virt_nodeD, hX, if_neg hm, hPo m hm, virt_nodeD]
  · obtain ⟨w, hw⟩ := hP n
    rw [virt_nodeD, hX, if_pos rfl, hw, virt_nodeD]
    exact ⟨rfl, rfl, rfl, rfl, rfl, rfl, rfl, rfl⟩
  · obtain ⟨w, hw⟩ := hP n
    rw [virt_nodeD, hX, if_pos rfl, hw, virt_nodeD]
    rfl

theorem calm_virt {s s' : State} (c : Calm s s') : Calm (virt s) (virt s') where
  status := c.status
  setDuringStab := c.setDuringStab
  deadVars := c.deadVars
  newObservers := c.newObservers
  disallowedObservers := c.disallowedObservers
  num m := by rw [virt_nodeD, virt_nodeD, virtNode_num, virtNode_num]; exact c.num m
  has h := c.has (fun m => by have := h m; rwa [virt_nodeD, virtNode_num] at this)

theorem stateKeyD_virt (s : State) : stateKeyD (virt s) = stateKeyD s := rfl

theorem keyD_virt {s s' : State} (c : KeyD s s') : KeyD (virt s) (virt s') := by
  unfold KeyD at *; rw [stateKeyD_virt, stateKeyD_virt]; exact c

/-- what one step on the current node establishes (the conclusions the drain needs) -/
structure StepOut (env : Env) (C : Val → Prop) (sp : Nat → Val → Val) (n : Nat) (r : Option Nat) (s s' : State) :
    Prop where
  inv : Inv (virtEnv env sp) (virt s') r
  frame : Frame (virt s) (virt s')
  unnec : UnnecOK (virtEnv env sp) (virt s) → UnnecOK (virtEnv env sp) (virt s')
  ran : ((virt s').nodeD n).recomputedAt = s.stabNum
  frag : WFrag env (Good env C sp) s'
  m : MInv env C s'
  pinv : s'.propagateInvalidity = []
  calm : Calm (virt s) (virt s')
  keyD : KeyD (virt s) (virt s')

/-- **one step, a map_with_old node.** -/
theorem step_mwo_node {fuel n g i : Nat} {s' : State} {r : Option Nat} (V : ValOK env C sp)
    (D : DInvW env C sp s (some n)) (hk : (s.nodeD n).kind = .mapWithOld g i)
    (h : (recomputeOne env fuel n).run.run s = (.ok r, s')) : StepOut env C sp n r s s' := by
  have F := D.frag
  have I := D.inv
  have M := D.m
  have gr := I.graph
  have hi := I.heap
  obtain ⟨hnv, -⟩ := I.cur n rfl
  have hlt := F.lt_of_mwo hk
  have hnn := some_of_lt hlt
  have hK := F.kind n hlt
  rw [hk] at hK
  obtain ⟨hW, hG⟩ := hK
  -- the input
  obtain ⟨x, hx⟩ := Inv.kids_some I i (by rw [hk]; simp [kidsW])
  have hxv : s.value env i = some x := by rw [F.value i]; exact hx
  have hCx : C x := M.vals i x hx
  have hreach := M.mach n g i hk
  -- the machine
  generalize hw : env.withOld g (s.nodeD n).oldState (s.nodeD n).value x = w at *
  have hout : w.2.1 = sp g x := by rw [← hw]; exact hG.out _ _ hreach x hCx
  have hflag : w.2.2 = false → (s.nodeD n).value = none ∨ (s.nodeD n).value = some (sp g x) := by
    rw [← hw]; exact hG.flag _ _ hreach x hCx
  have hreach' : MReach env C g w.1 (some w.2.1) := by rw [← hw]; exact MReach.step hreach hCx
  obtain ⟨es, hrun⟩ := recomputeOne_mwo_run env fuel n s (s.nodeD n) g i x hnn (F.valid n hlt) hk hxv F.pc
  rw [hw] at hrun
  rw [hrun] at h
  -- the state in which the notifications start
  have hXe : setWithOld n w.2.1 w.1 (logged es (started n s)) = mwoX n w.2.1 w.1 es s := rfl
  rw [hXe] at h
  have hX := fun m => mwoX_nodeD n m w.2.1 w.1 es s hlt
  have hXsz := mwoX_size n w.2.1 w.1 es s
  have hXk : ∀ m, ((mwoX n w.2.1 w.1 es s).nodeD m).kind = (s.nodeD m).kind := by
    intro m; rw [hX]; split
    · rename_i e; rw [e]
    · rfl
  have hXv : ∀ m, ((mwoX n w.2.1 w.1 es s).nodeD m).valid = (s.nodeD m).valid := by
    intro m; rw [hX]; split
    · rename_i e; rw [e]
    · rfl
  have hXval : ∀ m, m ≠ n → ((mwoX n w.2.1 w.1 es s).nodeD m).value = (s.nodeD m).value := by
    intro m hm; rw [hX, if_neg hm]
  have hXold : ∀ m, m ≠ n → ((mwoX n w.2.1 w.1 es s).nodeD m).oldState = (s.nodeD m).oldState := by
    intro m hm; rw [hX, if_neg hm]
  have hXn : (mwoX n w.2.1 w.1 es s).nodeD n =
      { s.nodeD n with recomputedAt := s.stabNum, value := some w.2.1, oldState := w.1 } := by
    rw [hX, if_pos rfl]
  have hCv : C (sp g x) := V.spec g x hCx
  -- the target of the virtual node
  have htarget : Target (virtEnv env sp) (virt s) n (sp g x) := by
    unfold Target
    have hkv : ((virt s).nodeD n).kind = .map (woBase + enc g) [i] := by
      rw [virt_nodeD, virtNode_kind, hk]; rfl
    rw [hkv]
    refine ⟨[x], ?_, by rw [virtEnv_fn_mach env sp hW]; rfl⟩
    rw [virt_plainVals]
    simp only [plainVals, evalArgs, hx]
  -- the actual frame of the first half
  have c0 : Calm s (mwoX n w.2.1 w.1 es s) :=
    ((Calm.started n s).trans (Calm.logged es _)).trans (Calm.modNode _ n _ (fun _ => rfl))
  have k0 : KeyD s (mwoX n w.2.1 w.1 es s) := rfl
  have hXpinv : (mwoX n w.2.1 w.1 es s).propagateInvalidity = [] := D.pinv
  have hXvars : (mwoX n w.2.1 w.1 es s).vars = s.vars := rfl
  have hXpc : (mwoX n w.2.1 w.1 es s).panicCountdown = none := F.pc
  obtain ⟨FX, MX⟩ := frag_minv_after (n := n) (v := sp g x) F M hXsz hXk hXv hXval hXold hXvars hXpc
    (by rw [hXn]; show some w.2.1 = _; rw [hout]) hCv
    (fun g' i' hk' => by
      rw [hk] at hk'; cases hk'
      rw [hXn]; show MReach env C g w.1 (some (sp g x)); rw [← hout]; exact hreach')
  have hUself : Upd n (virt s) (virt (mwoX n w.2.1 w.1 es s)) :=
    mwoX_upd (virt s) hlt F.pc (fun m => ⟨_, rfl⟩) (fun _ _ => rfl) (virt_size s) rfl rfl rfl
  have hXnv : ((virt (mwoX n w.2.1 w.1 es s)).nodeD n).value = some (sp g x) := by
    rw [virt_nodeD, virtNode_value, hXn]; show some w.2.1 = _; rw [hout]
  have hXnr : ((virt (mwoX n w.2.1 w.1 es s)).nodeD n).recomputedAt = (virt s).stabNum := by
    rw [virt_nodeD, virtNode_recomputedAt, hXn]; rfl
  have hXnc : ((virt (mwoX n w.2.1 w.1 es s)).nodeD n).changedAt = ((virt s).nodeD n).changedAt := by
    rw [virt_nodeD, virtNode_changedAt, hXn, virt_nodeD, virtNode_changedAt]
  cases hdid : w.2.2 with
  | false =>
    rw [hdid, run_mcvm_false] at h
    cases h
    rcases hflag hdid with hnone | hsome
    · -- first run, "no change": patch the virtual pre-state
      have hvn : ((virt s).nodeD n).value = none := by rw [virt_nodeD, virtNode_value]; exact hnone
      have IP : Inv (virtEnv env sp) (setValue n (some (sp g x)) (virt s)) (some n) := Inv.patch I hvn
      have hUP : Upd n (setValue n (some (sp g x)) (virt s)) (virt (mwoX n w.2.1 w.1 es s)) := by
        refine mwoX_upd _ hlt F.pc (fun m => ?_) (fun m hm => ?_) ?_ rfl rfl rfl
        · exact setValue_nodeD_with n _ (virt s) m
        · rw [setValue_nodeD, if_neg (fun e => hm e.1.symm)]
        · rw [setValue_size, virt_size]
      have hPn : ((setValue n (some (sp g x)) (virt s)).nodeD n).value = some (sp g x) := by
        rw [setValue_nodeD, if_pos ⟨rfl, by rw [virt_size]; exact hlt⟩]
      have R : StepRel n (sp g x) false none (setValue n (some (sp g x)) (virt s))
          (virt (mwoX n w.2.1 w.1 es s)) :=
        Virtual.stepRel_still hUP IP.heap hXnv (by rw [hXnr]; rfl) (by rw [hXnc, setValue_changedAt]) hPn
      have ht' := Target.patch_self (v := sp g x) gr hnv htarget
      have fr0 : Frame (virt s) (setValue n (some (sp g x)) (virt s)) :=
        ⟨setValue_size _ _ _, rfl, rfl, fun m => setValue_shape n _ (virt s) m,
          fun m hm => by rw [setValue_recomputedAt]; exact hm, rfl⟩
      exact ⟨step_inv IP ht' R, fr0.trans (Virtual.frame_of_stepRel R),
        fun hU => step_unnec (by rw [setValue_isNecessary]; exact hnv) R (UnnecOK.patch hU hnv hvn),
        R.recomputedAt, FX, MX, hXpinv, calm_virt c0, keyD_virt k0⟩
    · have R : StepRel n (sp g x) false none (virt s) (virt (mwoX n w.2.1 w.1 es s)) :=
        Virtual.stepRel_still hUself hi hXnv hXnr hXnc (by rw [virt_nodeD, virtNode_value]; exact hsome)
      exact ⟨step_inv I htarget R, Virtual.frame_of_stepRel R, fun hU => step_unnec hnv R hU, R.recomputedAt, FX, MX,
        hXpinv, calm_virt c0, keyD_virt k0⟩
  | true =>
    rw [hdid] at h
    -- the notification part is simulated by the virtual engine
    obtain ⟨hsim, hfr'⟩ := Sim.maybeChangeValueManual (sp := sp) env fuel n none true true _ (FX.fr hXpinv) r s' h
    have R : StepRel n (sp g x) true r (virt s) (virt s') := Virtual.stepRel_fire gr hi hnv hUself hXnv hXnr hsim
    -- the actual frame of the second half
    have qa : Step.Quiet (touched n (mwoX n w.2.1 w.1 es s)) s' := mcvm_true_quiet _ _ _ _ _ _ _ _ h
    have hT := fun m => touched_nodeD n m (mwoX n w.2.1 w.1 es s)
    have hsz' : s'.nodes.size = (mwoX n w.2.1 w.1 es s).nodes.size := by
      rw [qa.size]; simp [touched]
    obtain ⟨F', M'⟩ := frag_minv_after (n := n) (v := sp g x) FX MX hsz'
      (fun m => by rw [(qa.node m).kind, hT]; split <;> rfl)
      (fun m => by rw [(qa.node m).valid, hT]; split <;> rfl)
      (fun m hm => by rw [(qa.node m).value, hT, if_neg (fun e => hm e.1.symm)])
      (fun m hm => by rw [(qa.node m).oldState, hT, if_neg (fun e => hm e.1.symm)])
      (by rw [qa.vars]; rfl) (qa.pc hXpc)
      (by rw [(qa.node n).value, hT]; split <;> (rw [hXn]; show some w.2.1 = _; rw [hout]))
      hCv
      (fun g' i' hk' => by
        rw [hXk, hk] at hk'; cases hk'
        rw [(qa.node n).oldState, hT]
        split <;> (rw [hXn]; show MReach env C g w.1 (some (sp g x)); rw [← hout]; exact hreach'))
    exact ⟨step_inv I htarget R, Virtual.frame_of_stepRel R, fun hU => step_unnec hnv R hU, R.recomputedAt, F', M',
      hfr'.pinv, calm_virt (c0.trans ((PresC.maybeChangeValueManual ..).h _ _ _ h)),
      keyD_virt (KeyD.trans k0 ((PresK.maybeChangeValueManual ..).h _ _ _ h))⟩

end IncrVerif.Proofs.MapOldH
