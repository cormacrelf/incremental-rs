import IncrVerif.Proofs.FullH69
import IncrVerif.Proofs.FullH64
/-!
# C01 full fragment: NON-VACUITY, part 9 — `exHistG`: the cutoffs at work (kernel-checked `recomputedAt` / `changedAt` stamps)

Nodes: 4 = the bind's main node (`n3`), 5 = `map fnFirst [4, 2]` with cutoff `.dependOn 4` (`n4`), 6 = `map f1 [1, 2]` (`n5`), 7 = `map f0 [6, 6]` (`n6`).
`stamps s n = (recomputedAt, changedAt)` of node `n`.  The `k`-th `stabilise` runs at stamp `k - 1`.
-/
namespace IncrVerif.Proofs.FullH
open IncrVerif.Engine IncrVerif.Driver IncrVerif.Proofs IncrVerif.Proofs.Step IncrVerif.Proofs.Sched IncrVerif.Proofs.Quiet
open IncrVerif.Proofs.BindH

def EX.stamps (s : State) (n : Nat) : Int × Int := ((s.nodeD n).recomputedAt, (s.nodeD n).changedAt)

set_option maxRecDepth 100000 in
set_option synthInstance.maxSize 4000 in
/-- after the first `stabilise`: the kinds and cutoffs of the four top-level nodes; the naming table (the `cutoff` action will not extend it) -/
theorem exHistG_first :
    EX.factF (exHistG.take 11) (fun s => (s.nodes.size, s.top)) = some (17, #[0, 1, 2, 4, 5, 6, 7]) ∧
    EX.factF (exHistG.take 11) (fun s => ((s.nodeD 5).kind, (s.nodeD 5).cutoff)) = some (.map fnFirst [4, 2], .dependOn 4) ∧
    EX.factF (exHistG.take 11) (fun s => ((s.nodeD 6).kind, (s.nodeD 6).cutoff)) = some (.map 1 [1, 2], .eq) ∧
    EX.factF (exHistG.take 11) (fun s => ((s.nodeD 7).kind, (s.nodeD 7).cutoff)) = some (.map 0 [6, 6], .eq) ∧
    EX.factF (exHistG.take 11) (fun s => ((s.nodeD 8).kind, (s.nodeD 9).kind, (s.nodeD 10).kind)) =
      some (.mapRef 1 0, .mapRef 1 8, .mapWithOld 7 9) := by
  have aux : EX.factF (exHistG.take 11) (fun s => ((s.nodes.size, s.top), ((s.nodeD 5).kind, (s.nodeD 5).cutoff),
      ((s.nodeD 6).kind, (s.nodeD 6).cutoff), ((s.nodeD 7).kind, (s.nodeD 7).cutoff), ((s.nodeD 8).kind, (s.nodeD 9).kind, (s.nodeD 10).kind))) =
      some ((17, #[0, 1, 2, 4, 5, 6, 7]), (.map fnFirst [4, 2], .dependOn 4), (.map 1 [1, 2], .eq), (.map 0 [6, 6], .eq),
        (.mapRef 1 0, .mapRef 1 8, .mapWithOld 7 9)) := by decide +kernel
  obtain ⟨h1, aux⟩ := EX.fact_split aux
  obtain ⟨h2, aux⟩ := EX.fact_split aux
  obtain ⟨h3, aux⟩ := EX.fact_split aux
  obtain ⟨h4, aux⟩ := EX.fact_split aux
  exact ⟨h1, h2, h3, h4, aux⟩

set_option maxRecDepth 100000 in
set_option synthInstance.maxSize 4000 in
/-- the second `stabilise` (`n2 := 6`, stamp 1): (b) the bind `n3` changed, the depend_on node FIRES (`changedAt = 1`); `n5` (cutoff `.eq`) was recomputed with an
equal value: NO change (`changedAt = 0`), its parent `n6` was NOT recomputed -/
theorem exHistG_fires :
    EX.factF (exHistG.take 13) (fun s => (EX.stamps s 4, EX.stamps s 5, (s.nodeD 5).value)) = some ((1, 1), (1, 1), some (.int 18)) ∧
    EX.factF (exHistG.take 13) (fun s => (EX.stamps s 6, EX.stamps s 7, (s.nodeD 6).cutoff)) = some ((1, 0), (0, 0), .eq) := by
  have aux : EX.factF (exHistG.take 13) (fun s => ((EX.stamps s 4, EX.stamps s 5, (s.nodeD 5).value), (EX.stamps s 6, EX.stamps s 7, (s.nodeD 6).cutoff))) =
      some (((1, 1), (1, 1), some (.int 18)), ((1, 0), (0, 0), .eq)) := by decide +kernel
  exact EX.fact_split aux

set_option maxRecDepth 100000 in
set_option synthInstance.maxSize 4000 in
/-- the third `stabilise` (after `cutoff n5 never`; `n2 := 8`, stamp 2): (c) `n5` now has cutoff `.never`; it was recomputed with an EQUAL value (`0`) and STAMPS
`changedAt = 2` (spurious change); its parent `n6` WAS recomputed (stamp 2; its own cutoff `.eq` stops the spurious change: `changedAt = 0`);
the naming table is unchanged -/
theorem exHistG_never :
    EX.factF (exHistG.take 16) (fun s => ((s.nodeD 6).cutoff, EX.stamps s 6, (s.nodeD 6).value)) = some (.never, (2, 2), some (.int 0)) ∧
    EX.factF (exHistG.take 16) (fun s => (EX.stamps s 7, (s.nodeD 7).value, s.top)) = some ((2, 0), some (.int 0), #[0, 1, 2, 4, 5, 6, 7]) ∧
    EX.factF (exHistG.take 16) (fun s => (EX.stamps s 4, EX.stamps s 5)) = some ((2, 2), (2, 2)) := by
  have aux : EX.factF (exHistG.take 16) (fun s => (((s.nodeD 6).cutoff, EX.stamps s 6, (s.nodeD 6).value), (EX.stamps s 7, (s.nodeD 7).value, s.top),
      (EX.stamps s 4, EX.stamps s 5))) =
      some ((.never, (2, 2), some (.int 0)), ((2, 0), some (.int 0), #[0, 1, 2, 4, 5, 6, 7]), ((2, 2), (2, 2))) := by decide +kernel
  obtain ⟨h1, aux⟩ := EX.fact_split aux
  exact ⟨h1, EX.fact_split aux⟩

set_option maxRecDepth 100000 in
set_option synthInstance.maxSize 4000 in
/-- the fifth `stabilise` (`n2 := 9` while `n1 = 1` is odd, stamp 4): (a) ONLY the second operand of the depend_on node changed: the bind `n3` was not even
recomputed (stamps 3, 3), the depend_on node WAS recomputed (stamp 4), its cutoff `.dependOn 4` SUPPRESSES: `changedAt` stays 3, value `1`;
`n5` (`.never`) again stamps a spurious change, `n6` is recomputed and does not change -/
theorem exHistG_suppressed :
    EX.factF exHistG (fun s => (EX.stamps s 4, EX.stamps s 5, (s.nodeD 5).value, (s.nodeD 5).cutoff)) =
      some ((3, 3), (4, 3), some (.int 1), .dependOn 4) ∧
    EX.factF exHistG (fun s => (EX.stamps s 6, EX.stamps s 7, (s.nodeD 6).value)) = some ((4, 4), (4, 3), some (.int 1)) ∧
    EX.factF (exHistG.take 18) (fun s => (EX.stamps s 4, EX.stamps s 5, EX.stamps s 6, EX.stamps s 7)) = some ((3, 3), (3, 3), (3, 3), (3, 3)) := by
  have aux : EX.factF exHistG (fun s => ((EX.stamps s 4, EX.stamps s 5, (s.nodeD 5).value, (s.nodeD 5).cutoff), (EX.stamps s 6, EX.stamps s 7, (s.nodeD 6).value))) =
      some (((3, 3), (4, 3), some (.int 1), .dependOn 4), ((4, 4), (4, 3), some (.int 1))) := by decide +kernel
  exact ⟨(EX.fact_split aux).1, (EX.fact_split aux).2, by decide +kernel⟩

end IncrVerif.Proofs.FullH
