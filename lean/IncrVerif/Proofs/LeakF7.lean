import IncrVerif.Proofs.LeakF6
/-!
# LeakF7 — after the drops and one `stabilise`, only the variables' watch nodes are alive

From `engine_roots` (`roots = shared cells ++ variable nodes`), `VarsOK` of the state after the `stabilise`
(a variable's node has kind `var`, hence no strong reference) and the closure principle of reachability.
-/
namespace IncrVerif.Proofs.LeakF
open IncrVerif.Engine IncrVerif.Driver IncrVerif.Proofs IncrVerif.Proofs.FullH IncrVerif.Proofs.LeakH
open IncrVerif.Proofs.Own

variable {env : Env} {sp : Nat → Val → Val}

theorem only_vars_alive (E : EnvS env sp) (hF : FirstFn env) {fuel : Nat} {s s' : State} (Q : QInvFE env sp s)
    (OD : ObsDead s) (hh : s.handles = [])
    (hc : ∀ (o : Nat) (ob : ObsRec), s.observers[o]? = some ob → ob.clones = 0)
    (h : (stabilise env fuel).run.run s = (.ok (), s')) (hs : s'.slots = []) :
    ∀ n, n ∈ s'.aliveSet → ∃ c vc, s'.vars[c]? = some vc ∧ vc.node = n ∧ (s'.nodeD n).kind = .var c := by
  obtain ⟨-, hv, -, -, hr⟩ := engine_roots E hF Q OD hh hc h
  obtain ⟨g, Q⟩ := Q
  obtain ⟨g', R⟩ := stabilise_full (kit E hF) Q h
  have V := (AuditF.audit_of_qinvF R.inv).vars
  intro n hn
  have hreach := (mem_aliveSet_iff s' n).1 hn
  refine ReachG.closed (P := fun n => ∃ c vc, s'.vars[c]? = some vc ∧ vc.node = n ∧ (s'.nodeD n).kind = .var c)
    ?_ ?_ hreach
  · intro m hm
    rw [hr, hs] at hm
    simp only [List.map_nil, List.nil_append, varRoots, List.mem_filterMap] at hm
    obtain ⟨vc, hmem, hif⟩ := hm
    obtain ⟨c, hc'⟩ := mem_toList_getElem? hmem
    rw [← hv] at hc'
    have hnode : vc.node = m := by
      split at hif
      · exact Option.some.inj hif
      · cases hif
    exact ⟨c, vc, hc', hnode, by rw [← hnode]; exact (V.cell c vc hc').2⟩
  · intro m k ⟨c, vc, _, _, hk⟩ hmem
    unfold State.refsOf at hmem
    rw [hk] at hmem
    simp at hmem

end IncrVerif.Proofs.LeakF
