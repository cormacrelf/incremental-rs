import IncrVerif.Proofs.StepStamp
import IncrVerif.Proofs.PerKey
/-!
# Helper lemmas for C16.4: which keys the per-key driver touches

* `perKeyStep`: the body of the driver's loop (a copy of the code), `perKeyDriver_eq_forIn`: the driver
  is `for kd in symmetricDiff prevMap newMap do perKeyStep … kd` followed by `prevMap := newMap`.
* `Sz`: no node and no expert record is created, no operator record changes — preserved by everything
  the `Unequal` and `Left` branches call (`expert_make_stale`, `expert_remove_dependency`,
  `expert invalidate` with their cascades): none of their writes (`Proofs/Footprint.lean`) is in `szBreaks`.
-/
open IncrVerif.Engine IncrVerif.Proofs IncrVerif.Proofs.Step
namespace IncrVerif.Proofs.PKL

/-! ## the loop -/

/-- one iteration of the `for` loop of `perKeyDriver` (copied from the code) -/
def perKeyStep (env : Env) (fuel op : Nat) (sc : Scope) (kd : Int × IncrVerif.MapOps.DiffElement Int) :
    M Unit := do
  let (key, diff) := kd
  let pr := (← get).perkeys[op]?.getD default
  match diff with
  | .unequal _ _ =>
    match pr.prevNodes.lookup key with
    | none => Engine.panic "incremental-map:per-key:nodes-get-unwrap"
    | some (node, _) => if (← get).isAlive node then expertMakeStale node
  | .left _ =>
    match pr.prevNodes.lookup key with
    | none => Engine.panic "incremental-map:per-key:nodes-remove-unwrap"
    | some (node, dep) =>
      modify fun s => { s with perkeys := s.perkeys.modify op fun p =>
        { p with prevNodes := p.prevNodes.filter (·.1 != key) } }
      let wasAlive := (← get).isAlive node
      expertRemoveDependency fuel pr.result dep
      if wasAlive then expertInvalidate fuel node
  | .right _ =>
    let e := (← get).experts.size
    modify fun s => { s with experts := s.experts.push { f := 0, pk := some (op, some key) } }
    let node ← createNode (.expert e) sc
    modExpert e fun r => { r with node := node }
    match pr.cut with
    | some c => modNode node fun x => { x with cutoff := c }
    | none => pure ()
    discard <| expertAddDependency env fuel node pr.lhsChange false
    tick
    logEv (.note s!"pk P{pr.fam} key {key} node n{node}")
    let mapped ← elabTemplateBase (env.perKey pr.fam) (.int key) [node]
    let dep ← expertAddDependency env fuel pr.result mapped true
    modify fun s => { s with perkeys := s.perkeys.modify op fun p =>
      { p with prevNodes := (key, (node, dep)) :: p.prevNodes.filter (·.1 != key) } }

/-- the driver, with its loop made explicit -/
def perKeyDriver' (env : Env) (fuel op : Nat) (newMap : List (Int × Int)) : M Unit := do
  let pr := (← get).perkeys[op]?.getD default
  let sc := (← get).currentScope
  for kd in IncrVerif.MapOps.symmetricDiff pr.prevMap newMap do
    perKeyStep env fuel op sc kd
  modify fun s => { s with perkeys := s.perkeys.modify op fun p => { p with prevMap := newMap } }

theorem perKeyDriver_eq_forIn (env : Env) (fuel op : Nat) (newMap : List (Int × Int)) :
    perKeyDriver env fuel op newMap = perKeyDriver' env fuel op newMap := by
  unfold perKeyDriver perKeyDriver'
  refine bind_congr fun s0 => ?_
  refine bind_congr fun s1 => ?_
  dsimp only
  congr 1
  congr 1
  funext kd u
  obtain ⟨key, diff⟩ := kd
  simp only [perKeyStep, bind_assoc]
  refine bind_congr fun s2 => ?_
  cases diff with
  | unequal a b =>
    dsimp only
    cases hl : List.lookup key (s2.perkeys[op]?.getD default).prevNodes with
    | none => simp
    | some p =>
      obtain ⟨node, d⟩ := p
      dsimp only
      simp only [bind_assoc]
      refine bind_congr fun s3 => ?_
      split <;> simp
  | left a =>
    dsimp only
    cases hl : List.lookup key (s2.perkeys[op]?.getD default).prevNodes with
    | none => simp
    | some p =>
      obtain ⟨node, d⟩ := p
      dsimp only
      simp only [bind_assoc]
      refine bind_congr fun _ => bind_congr fun s3 => bind_congr fun _ => ?_
      split <;> simp
  | right a =>
    dsimp only
    simp only [bind_assoc]
    refine bind_congr fun s3 => bind_congr fun _ => bind_congr fun node => bind_congr fun _ => ?_
    cases hc : (s2.perkeys[op]?.getD default).cut <;> simp [Functor.discard]

/-! ## `Sz`: nothing is created, no operator record changes -/

/-- same number of nodes, same number of expert records, same operator records -/
structure Sz (s s' : State) : Prop where
  nodes : s'.nodes.size = s.nodes.size
  experts : s'.experts.size = s.experts.size
  perkeys : s'.perkeys = s.perkeys

instance : PreOrd Sz :=
  ⟨fun _ => ⟨rfl, rfl, rfl⟩,
   fun h1 h2 => ⟨h2.nodes.trans h1.nodes, h2.experts.trans h1.experts, h2.perkeys.trans h1.perkeys⟩⟩

/-- the writes that create a node or an expert record or change an operator record -/
def szBreaks : List Footprint.Tag := [.pushNode, .pushExpert, .pkPrevNodes, .pkPrevMap, .pushPerKey]

theorem Sz.of_edit {L w s s'} (hL : ∀ t ∈ L, t ∉ szBreaks) (e : Footprint.Edit L w s s') : Sz s s' := by
  cases e <;> first
    | exact ⟨rfl, rfl, rfl⟩
    | exact ⟨Array.size_modify .., rfl, rfl⟩
    | exact ⟨rfl, Array.size_modify .., rfl⟩
    | exact absurd (hL _ ‹_›) (by decide)
    | (rename_i hf; cases hf <;> exact absurd (hL _ ‹_›) (by decide))

local macro_rules | `(tactic| qleaf) => `(tactic| apply Pres.forIn)

theorem sz_becameUnnecessary (fuel n) : Pres Sz (becameUnnecessary fuel n) :=
  (Footprint.Foot.becameUnnecessary fuel n).frame (Sz.of_edit (by decide))
/-- `expert_make_stale` creates nothing -/
theorem sz_expertMakeStale (n) : Pres Sz (expertMakeStale n) :=
  (Footprint.Foot.expertMakeStale n).frame (Sz.of_edit (by decide))
/-- `expert_remove_dependency` (with the unlinking cascade it may start) creates nothing -/
theorem sz_expertRemoveDependency (fuel n dep) : Pres Sz (expertRemoveDependency fuel n dep) :=
  (Footprint.Foot.expertRemoveDependency fuel n dep).frame (Sz.of_edit (by decide))
/-- `expert invalidate` (with the invalidation cascade) creates nothing -/
theorem sz_expertInvalidate (fuel n) : Pres Sz (expertInvalidate fuel n) :=
  (Footprint.Foot.expertInvalidate fuel n).frame (Sz.of_edit (by decide))

/-! ## what one iteration does, by tag -/

/-- an `Unequal` key: at most `expert_make_stale` on the key's node — nothing is created, no operator
record changes -/
theorem step_unequal (env : Env) (fuel op : Nat) (sc : Scope) (key a b : Int) :
    Pres Sz (perKeyStep env fuel op sc (key, .unequal a b)) := by
  unfold perKeyStep; dsimp only; qpres; all_goals exact sz_expertMakeStale _

/-- the operator record `op` without its entry for `key` -/
def forget (op : Nat) (key : Int) (s : State) : State :=
  { s with perkeys := s.perkeys.modify op fun p =>
      { p with prevNodes := p.prevNodes.filter (·.1 != key) } }

/-- a `Left` key: the entry is dropped from `prevNodes`, the dependency removed, the node
invalidated — nothing is created -/
theorem step_left (env : Env) (fuel op : Nat) (sc : Scope) (key a : Int) (s s' : State) (r)
    (hrun : (perKeyStep env fuel op sc (key, .left a)).run.run s = (r, s')) :
    s'.nodes.size = s.nodes.size ∧ s'.experts.size = s.experts.size ∧
      (s'.perkeys = s.perkeys ∨ s'.perkeys = (forget op key s).perkeys) := by
  unfold perKeyStep at hrun
  rw [run_bind_get] at hrun
  dsimp only at hrun
  cases hl : List.lookup key (s.perkeys[op]?.getD default).prevNodes with
  | none =>
    rw [hl] at hrun
    cases hrun
    exact ⟨rfl, rfl, .inl rfl⟩
  | some p =>
    obtain ⟨node, dep⟩ := p
    rw [hl] at hrun
    dsimp only at hrun
    rw [run_bind_modify] at hrun
    have h : Sz (forget op key s) s' := by
      refine Pres.h (R := Sz) ?_ _ r s' hrun
      qpres
      · exact sz_expertRemoveDependency _ _ _
      · exact sz_expertInvalidate _ _
    exact ⟨h.nodes, h.experts, .inr h.perkeys⟩

/-- the state after the first three actions of a `Right` key: the per-key input node exists -/
def withInputNode (op : Nat) (key : Int) (sc : Scope) (s : State) : State :=
  let s1 : State := PerKey.created (.expert s.experts.size) sc .eq
    { s with experts := s.experts.push { f := 0, pk := some (op, some key) } }
  { s1 with experts := s1.experts.modify s.experts.size fun r => { r with node := s.nodes.size } }

theorem withInputNode_nodes (op : Nat) (key : Int) (sc : Scope) (s : State) :
    (withInputNode op key sc s).nodes
      = s.nodes.push { kind := .expert s.experts.size, createdIn := sc } := by
  simp [withInputNode]

theorem withInputNode_experts (op : Nat) (key : Int) (sc : Scope) (s : State) :
    (withInputNode op key sc s).experts
      = s.experts.push { f := 0, pk := some (op, some key), node := s.nodes.size } := by
  simp [withInputNode, Step.push_modify_last]

/-- a `Right` key: first the per-key input node is created (an expert node whose record says
`pk = some (op, some key)`); whatever happens afterwards (it may panic), no node is removed -/
theorem step_right (env : Env) (fuel op : Nat) (sc : Scope) (key a : Int) (s s' : State) (r)
    (hrun : (perKeyStep env fuel op sc (key, .right a)).run.run s = (r, s')) :
    (withInputNode op key sc s).nodes.size ≤ s'.nodes.size := by
  unfold perKeyStep at hrun
  rw [run_bind_get] at hrun
  dsimp only at hrun
  rw [run_bind_get, run_bind_modify, Proofs.run_bind, PerKey.createNode_run'] at hrun
  dsimp only at hrun
  rw [Proofs.run_bind] at hrun
  have hm : ∀ (S : State) (e : Nat) (f : ExpertRec → ExpertRec),
      (modExpert e f).run.run S = (.ok (), { S with experts := S.experts.modify e f }) := fun _ _ _ => rfl
  rw [hm] at hrun
  dsimp only at hrun
  have h : Stamp (withInputNode op key sc s) s' := by
    refine Pres.h (R := Stamp) ?_ _ r s' hrun
    qpres
  exact h.size

/-! ## the whole loop when no key is new -/

/-- no node and no expert record created -/
def Sz2 (s s' : State) : Prop := s'.nodes.size = s.nodes.size ∧ s'.experts.size = s.experts.size

instance : PreOrd Sz2 := ⟨fun _ => ⟨rfl, rfl⟩, fun h1 h2 => ⟨h2.1.trans h1.1, h2.2.trans h1.2⟩⟩

theorem step_not_right (env : Env) (fuel op : Nat) (sc : Scope)
    (kd : Int × IncrVerif.MapOps.DiffElement Int) (h : ∀ v, kd.2 ≠ .right v) :
    Pres Sz2 (perKeyStep env fuel op sc kd) := by
  obtain ⟨key, diff⟩ := kd
  cases diff with
  | unequal a b => exact (step_unequal env fuel op sc key a b).mono fun _ _ h => ⟨h.nodes, h.experts⟩
  | left a =>
    exact ⟨fun s r s' hrun =>
      have := step_left env fuel op sc key a s s' r hrun
      ⟨this.1, this.2.1⟩⟩
  | right a => exact absurd rfl (h a)

/-- if every key of the new map was already a key of the previous map, the driver creates no node and
no expert record (whether it returns or panics) -/
theorem driver_no_new_keys (env : Env) (fuel op : Nat) (newMap : List (Int × Int)) (s s' : State) (r)
    (hs : IncrVerif.AMap.Sorted (s.perkeys[op]?.getD default).prevMap)
    (hn : IncrVerif.AMap.Sorted newMap)
    (hkeys : ∀ k, IncrVerif.AMap.lookup (s.perkeys[op]?.getD default).prevMap k = none →
      IncrVerif.AMap.lookup newMap k = none)
    (hrun : (perKeyDriver env fuel op newMap).run.run s = (r, s')) :
    s'.nodes.size = s.nodes.size ∧ s'.experts.size = s.experts.size := by
  rw [perKeyDriver_eq_forIn] at hrun
  unfold perKeyDriver' at hrun
  rw [run_bind_get] at hrun
  dsimp only at hrun
  rw [run_bind_get] at hrun
  refine Pres.h (R := Sz2) ?_ s r s' hrun
  refine Pres.bind (Pres.forIn_mem fun kd hkd _ => ?_) fun _ => Pres.modify fun _ => ⟨rfl, rfl⟩
  refine Pres.bind (step_not_right env fuel op _ kd fun v hv => ?_) fun _ => Pres.pure _
  obtain ⟨key, diff⟩ := kd
  rcases (IncrVerif.Proofs.symmetricDiff_mem _ _ hs hn key diff).1 hkd with
    ⟨x, _, _, he⟩ | ⟨y, h1, h2, _⟩ | ⟨x, y, _, _, _, he⟩
  · rw [he] at hv; cases hv
  · rw [hkeys key h1] at h2; cases h2
  · rw [he] at hv; cases hv

end IncrVerif.Proofs.PKL
