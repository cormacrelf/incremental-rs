import IncrVerif.Proofs.BindH62
/-!
# Binds, fragment F1, the closure run, part 2: the static part `All1` through the two kinds of steps of a closure run

* `all1_reset`: forgetting the list of registered nodes of bind `b` — the registered nodes become the dying generation;
* `Push.all1`: `createNode k (.bind b)` for a static kind `k` whose children are older top-level nodes or valid nodes of scope `b` that are not dying.
-/
namespace IncrVerif.Proofs.BindH
open IncrVerif.Engine IncrVerif.Proofs IncrVerif.Proofs.Step IncrVerif.Proofs.Sched IncrVerif.Proofs.Quiet

namespace CN

theorem bkind_of_static {env : Env} {k : Kind} (h : StaticKind env k) : BKind env k := by
  cases k <;> first | exact h | exact h.elim

section old
variable {env : Env} {s s' : State} {dy dy' : List Nat}

/-- the static facts of an old node, through growth -/
theorem n1_old (G : Grow1 s s') (A : All1 env s dy) {n : Nat} (hn : n < s.nodes.size)
    (hdy : ∀ b c, (s.nodeD n).createdIn = .bind b → c ∈ s.children n → (s.nodeD c).createdIn = .bind b →
      (c ∈ dy ↔ n ∈ dy) → (c ∈ dy' ↔ n ∈ dy')) : N1 env s' dy' n := by
  have sn := A.node n hn
  have hch := G.children_old A hn
  have hkid : ∀ c, c ∈ s.children n → s'.nodeD c = s.nodeD c := fun c hc => G.old c (sn.kidsIn c hc)
  refine ⟨by rw [G.old n hn]; exact sn.kind, by rw [G.old n hn]; exact sn.cutoff, ?_, ?_, ?_, ?_, ?_, ?_, ?_⟩
  · intro c hc
    rw [hch] at hc
    have := sn.kidsIn c hc
    have := G.size
    omega
  · intro c hc
    rw [hch] at hc
    rw [hkid c hc]; exact sn.kidsValid c hc
  · intro b hk
    rw [G.old n hn] at hk
    obtain ⟨br, hb, e⟩ := sn.lcRec b hk
    obtain ⟨l, hb'⟩ := G.binds.fwd hb
    exact ⟨_, hb', e⟩
  · intro b lc hk
    rw [G.old n hn] at hk
    obtain ⟨br, hb, e1, e2⟩ := sn.mainRec b lc hk
    obtain ⟨l, hb'⟩ := G.binds.fwd hb
    exact ⟨_, hb', e1, e2⟩
  · intro c b hc hk
    rw [hch] at hc
    rw [hkid c hc] at hk
    rw [G.old n hn]
    exact sn.lcChild c b hc hk
  · intro h
    rw [G.old n hn] at h ⊢
    obtain ⟨h1, h2⟩ := sn.top h
    refine ⟨h1, ?_⟩
    intro c hc
    rw [hch] at hc
    rw [hkid c hc]
    exact h2 c hc
  · intro b h
    rw [G.old n hn] at h ⊢
    obtain ⟨h1, h2, br, h3, h4, h5⟩ := sn.inScope b h
    obtain ⟨l, hb'⟩ := G.binds.fwd h3
    refine ⟨h1, h2, _, hb', h4, ?_⟩
    intro c hc
    rw [hch] at hc
    rw [hkid c hc]
    rcases h5 c hc with h6 | ⟨h6, h7, h8⟩
    · exact Or.inl h6
    · exact Or.inr ⟨h6, h7, hdy b c h hc h6 h8⟩

/-- the two nodes of the bind records, through growth -/
theorem recs_old (G : Grow1 s s') (A : All1 env s dy) (b : Nat) (br' : BindRec) (hb : s'.binds[b]? = some br') :
    br'.main = br'.lhsChange + 1 ∧ br'.main < s'.nodes.size ∧ (s'.nodeD br'.lhsChange).kind = .bindLhsChange b ∧
      (s'.nodeD br'.main).kind = .bindMain b br'.lhsChange ∧ (s'.nodeD br'.lhsChange).createdIn = .top ∧
      (s'.nodeD br'.main).createdIn = .top := by
  obtain ⟨br, hb0, -, -, e1, e2, -⟩ := G.binds.bwd' hb
  obtain ⟨h1, h2, h3, h4, h5, h6⟩ := A.recs b br hb0
  rw [e1, e2, G.old br.main h2, G.old br.lhsChange (by omega)]
  have := G.size
  exact ⟨h1, by omega, h3, h4, h5, h6⟩

end old

/-! ## forgetting the list of registered nodes -/

section reset
variable {env : Env} {s s' : State}

/-- **the reset**: the registered nodes of bind `b` become the dying generation -/
theorem all1_reset (A : All1 env s []) {b : Nat} {br : BindRec} (hb : s.binds[b]? = some br)
    (G : Grow1 s s') (hsz : s'.nodes.size = s.nodes.size)
    (hbs : s'.binds = s.binds.modify b fun x => { x with allNodesCreatedOnRhs := [] })
    (hpc : s'.panicCountdown = none) (hsc : s'.currentScope = .top) :
    All1 env s' br.allNodesCreatedOnRhs := by
  have hD : ∀ m, s'.nodeD m = s.nodeD m := by
    intro m
    rcases Nat.lt_or_ge m s.nodes.size with h | h
    · exact G.old m h
    · rw [nodeD_default s m h, nodeD_default s' m (by omega)]
  -- membership in the list of bind `b`
  have hmem : ∀ m, m ∈ br.allNodesCreatedOnRhs ↔
      (m < s.nodes.size ∧ (s.nodeD m).valid = true ∧ (s.nodeD m).createdIn = .bind b) := by
    intro m
    rw [← A.gen b br hb m]
    constructor
    · exact Or.inl
    · rintro (h | ⟨h, -⟩)
      · exact h
      · cases h
  have hbb : s'.binds[b]? = some { br with allNodesCreatedOnRhs := [] } := by
    rw [hbs, Array.getElem?_modify, if_pos rfl, hb]; rfl
  have hbo : ∀ b', b' ≠ b → s'.binds[b']? = s.binds[b']? := by
    intro b' hne
    rw [hbs, Array.getElem?_modify, if_neg (fun e => hne e.symm)]
  refine ⟨hpc, hsc, ?_, recs_old G A, ?_, ?_, ?_⟩
  · intro n hn
    rw [hsz] at hn
    apply n1_old G A hn
    intro b' c hnb hc hcb _
    have sn := A.node n hn
    have hnv : (s.nodeD n).valid = true := by
      cases hv : (s.nodeD n).valid with
      | true => rfl
      | false => rw [Inval.children_invalid s n hv] at hc; cases hc
    rw [hmem, hmem]
    constructor
    · rintro ⟨-, -, h⟩
      rw [hcb] at h
      exact ⟨hn, hnv, by rw [hnb]; exact h⟩
    · rintro ⟨-, -, h⟩
      rw [hnb] at h
      exact ⟨sn.kidsIn c hc, sn.kidsValid c hc, by rw [hcb]; exact h⟩
  · intro b' br' hb' m
    rw [hD m, hsz]
    by_cases e : b' = b
    · subst e
      rw [hbb] at hb'
      cases hb'
      constructor
      · rintro (h | ⟨h, -⟩)
        · cases h
        · exact (hmem m).1 h
      · intro h
        exact Or.inr ⟨(hmem m).2 h, h.2.2⟩
    · rw [hbo b' e] at hb'
      rw [← A.gen b' br' hb' m]
      constructor
      · rintro (h | ⟨h1, h2⟩)
        · exact Or.inl h
        · have := ((hmem m).1 h1).2.2
          rw [this] at h2
          injection h2 with h2
          exact absurd h2.symm e
      · rintro (h | ⟨h, -⟩)
        · exact Or.inl h
        · cases h
  · intro b' br' hb' m hm hmd
    by_cases e : b' = b
    · subst e
      rw [hbb] at hb'
      cases hb'
      cases hm
    · rw [hbo b' e] at hb'
      have h1 := ((A.gen b' br' hb' m).1 (Or.inl hm)).2.2
      have h2 := ((hmem m).1 hmd).2.2
      rw [h1] at h2
      injection h2 with h2
      exact e h2
  · intro m hm
    rw [hD m, hsz]
    obtain ⟨h1, -, h2⟩ := (hmem m).1 hm
    exact ⟨h1, b, h2⟩

end reset

/-! ## creating a node in scope `.bind b` -/

/-- `s'` is `s` plus one pristine node of kind `k` created in scope `.bind b` and registered there -/
structure Push (k : Kind) (b : Nat) (s s' : State) : Prop where
  nodes : s'.nodes = s.nodes.push { kind := k, createdIn := .bind b, cutoff := .eq }
  binds : s'.binds = s.binds.modify b fun x =>
    { x with allNodesCreatedOnRhs := x.allNodesCreatedOnRhs ++ [s.nodes.size] }
  vars : s'.vars = s.vars
  rch : s'.rch = s.rch
  ahh : s'.ahh = s.ahh
  pc : s'.panicCountdown = s.panicCountdown
  scope : s'.currentScope = s.currentScope
  stabNum : s'.stabNum = s.stabNum
  status : s'.status = s.status
  cfg : s'.cfg = s.cfg
  top : s'.top = s.top
  pinv : s'.propagateInvalidity = s.propagateInvalidity

namespace Push
variable {env : Env} {k : Kind} {b : Nat} {s s' : State} {dy : List Nat}

theorem size (C : Push k b s s') : s'.nodes.size = s.nodes.size + 1 := by
  rw [C.nodes, Array.size_push]

theorem nodeD_new (C : Push k b s s') :
    s'.nodeD s.nodes.size = { kind := k, createdIn := .bind b, cutoff := .eq } := by
  simp only [State.nodeD, C.nodes, Array.getElem?_push, if_true, Option.getD_some]

theorem nodeD_lt (C : Push k b s s') {m : Nat} (h : m < s.nodes.size) : s'.nodeD m = s.nodeD m := by
  have : m ≠ s.nodes.size := by omega
  simp only [State.nodeD, C.nodes, Array.getElem?_push, if_neg this]

theorem grow1 (C : Push k b s s') : Grow1 s s' where
  size := by rw [C.size]; omega
  old m hm := C.nodeD_lt hm
  new m h1 h2 := by
    rw [C.size] at h2
    have : m = s.nodes.size := by omega
    subst this
    rw [C.nodeD_new]
    exact ⟨rfl, rfl, rfl, rfl, rfl, rfl⟩
  binds := BSame.of_modify b _ C.binds
  vars := C.vars
  rch := C.rch
  ahh := C.ahh

/-- **node creation** in scope `.bind b` keeps the static part of the invariant -/
theorem all1 (C : Push k b s s') (A : All1 env s dy) {br1 : BindRec} (hb : s.binds[b]? = some br1)
    (hk : StaticKind env k) (hnv : ∀ c, k ≠ .var c)
    (hkids : ∀ c, c ∈ kids k → c < s.nodes.size ∧ (s.nodeD c).valid = true ∧
      (∀ b', (s.nodeD c).kind ≠ .bindLhsChange b') ∧
      (((s.nodeD c).createdIn = .top ∧ c < br1.lhsChange) ∨ ((s.nodeD c).createdIn = .bind b ∧ c ∉ dy))) :
    All1 env s' dy := by
  have G := C.grow1
  have hbb : s'.binds[b]? = some { br1 with allNodesCreatedOnRhs := br1.allNodesCreatedOnRhs ++ [s.nodes.size] } := by
    rw [C.binds, Array.getElem?_modify, if_pos rfl, hb]; rfl
  have hbo : ∀ b', b' ≠ b → s'.binds[b']? = s.binds[b']? := by
    intro b' hne
    rw [C.binds, Array.getElem?_modify, if_neg (fun e => hne e.symm)]
  have hmdy : s.nodes.size ∉ dy := fun h => by
    have := (A.dyIn _ h).1
    omega
  have hch : s'.children s.nodes.size = kids k := by
    rw [children_eq_kids (env := env) s' s.nodes.size (by rw [C.nodeD_new]) (by rw [C.nodeD_new]; exact hk),
      C.nodeD_new]
  refine ⟨by rw [C.pc]; exact A.pc, by rw [C.scope]; exact A.scope, ?_, recs_old G A, ?_, ?_, ?_⟩
  · intro n hn
    rw [C.size] at hn
    rcases Nat.lt_or_ge n s.nodes.size with h | h
    · exact n1_old G A h (fun _ _ _ _ _ h => h)
    · have hns : n = s.nodes.size := by omega
      subst hns
      refine ⟨by rw [C.nodeD_new]; exact bkind_of_static hk, by rw [C.nodeD_new]; exact Or.inl rfl,
        ?_, ?_, ?_, ?_, ?_, ?_, ?_⟩
      · intro c hc
        rw [hch] at hc
        have := (hkids c hc).1
        rw [C.size]; omega
      · intro c hc
        rw [hch] at hc
        rw [C.nodeD_lt (hkids c hc).1]; exact (hkids c hc).2.1
      · intro b' hk'
        rw [C.nodeD_new] at hk'
        simp only at hk'
        rw [hk'] at hk; exact hk.elim
      · intro b' lc hk'
        rw [C.nodeD_new] at hk'
        simp only at hk'
        rw [hk'] at hk; exact hk.elim
      · intro c b' hc hk'
        rw [hch] at hc
        rw [C.nodeD_lt (hkids c hc).1] at hk'
        exact absurd hk' ((hkids c hc).2.2.1 b')
      · intro h
        rw [C.nodeD_new] at h
        cases h
      · intro b' h
        rw [C.nodeD_new] at h ⊢
        simp only at h ⊢
        injection h with h
        subst h
        obtain ⟨-, h2, -⟩ := A.recs b br1 hb
        refine ⟨hk, hnv, _, hbb, h2, ?_⟩
        intro c hc
        rw [hch] at hc
        obtain ⟨h3, -, -, h4⟩ := hkids c hc
        rw [C.nodeD_lt h3]
        rcases h4 with h4 | ⟨h4, h5⟩
        · exact Or.inl h4
        · exact Or.inr ⟨h4, h3, ⟨fun h => absurd h h5, fun h => absurd h hmdy⟩⟩
  · intro b' br' hb' m
    rw [C.size]
    by_cases e : b' = b
    · subst e
      rw [hbb] at hb'
      cases hb'
      simp only [List.mem_append, List.mem_singleton]
      rcases Nat.lt_or_ge m s.nodes.size with h | h
      · have e1 : ∀ P : Prop, (m < s.nodes.size + 1 ∧ P) ↔ (m < s.nodes.size ∧ P) :=
          fun P => ⟨fun x => ⟨h, x.2⟩, fun x => ⟨by omega, x.2⟩⟩
        rw [C.nodeD_lt h, e1, ← A.gen b' br1 hb m]
        have : m ≠ s.nodes.size := by omega
        constructor
        · rintro ((h1 | h1) | h1)
          · exact Or.inl h1
          · exact absurd h1 this
          · exact Or.inr h1
        · rintro (h1 | h1)
          · exact Or.inl (Or.inl h1)
          · exact Or.inr h1
      · constructor
        · rintro ((h1 | h1) | ⟨h1, -⟩)
          · have := ((A.gen b' br1 hb m).1 (Or.inl h1)).1
            omega
          · subst h1
            rw [C.nodeD_new]
            exact ⟨by omega, rfl, rfl⟩
          · have := (A.dyIn m h1).1
            omega
        · rintro ⟨h1, -, -⟩
          exact Or.inl (Or.inr (by omega))
    · rw [hbo b' e] at hb'
      rcases Nat.lt_or_ge m s.nodes.size with h | h
      · have e1 : ∀ P : Prop, (m < s.nodes.size + 1 ∧ P) ↔ (m < s.nodes.size ∧ P) :=
          fun P => ⟨fun x => ⟨h, x.2⟩, fun x => ⟨by omega, x.2⟩⟩
        rw [C.nodeD_lt h, e1, ← A.gen b' br' hb' m]
      · constructor
        · rintro (h1 | ⟨h1, -⟩)
          · have := ((A.gen b' br' hb' m).1 (Or.inl h1)).1
            omega
          · have := (A.dyIn m h1).1
            omega
        · rintro ⟨h1, -, h3⟩
          have : m = s.nodes.size := by omega
          subst this
          rw [C.nodeD_new] at h3
          simp only at h3
          injection h3 with h3
          exact absurd h3.symm e
  · intro b' br' hb' m hm
    by_cases e : b' = b
    · subst e
      rw [hbb] at hb'
      cases hb'
      simp only [List.mem_append, List.mem_singleton] at hm
      rcases hm with hm | hm
      · exact A.genDy b' br1 hb m hm
      · rw [hm]; exact hmdy
    · rw [hbo b' e] at hb'
      exact A.genDy b' br' hb' m hm
  · intro m hm
    obtain ⟨h1, h2⟩ := A.dyIn m hm
    rw [C.size, C.nodeD_lt h1]
    exact ⟨by omega, h2⟩

/-- **node creation** in scope `.bind b` keeps the structural invariant -/
theorem ginv1 {ex : Nat → Prop} (C : Push k b s s') (I : GInv1 env s allClosed ex dy) {br1 : BindRec}
    (hb : s.binds[b]? = some br1) (hk : StaticKind env k) (hnv : ∀ c, k ≠ .var c)
    (hkids : ∀ c, c ∈ kids k → c < s.nodes.size ∧ (s.nodeD c).valid = true ∧
      (∀ b', (s.nodeD c).kind ≠ .bindLhsChange b') ∧
      (((s.nodeD c).createdIn = .top ∧ c < br1.lhsChange) ∨ ((s.nodeD c).createdIn = .bind b ∧ c ∉ dy))) :
    GInv1 env s' allClosed ex dy :=
  C.grow1.ginv1 I (C.all1 I.frag hb hk hnv hkids)

end Push

end CN

end IncrVerif.Proofs.BindH
