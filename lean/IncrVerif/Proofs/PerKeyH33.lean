import IncrVerif.Proofs.PerKeyH32
/-!
# twin simulation, part 11: `elabInstr`, `elabTemplateBase` for instructions that create nodes of twin-invariant kinds
-/
namespace IncrVerif.Proofs.PerKeyH
open IncrVerif.Engine IncrVerif.Driver IncrVerif.Proofs IncrVerif.Proofs.Step IncrVerif.Proofs.Sched
open IncrVerif.Proofs.ExpertH IncrVerif.Proofs.EffH

/-- creation instructions whose nodes have the same kind in the twin (`twKind k = k`) -/
def TwInstr : Instr → Prop
  | .const _ => True
  | .lhsConst => True
  | .var _ => True
  | .map f _ => f < fnPerKey
  | .fold _ _ _ => True
  | .zip _ _ => True
  | .dependOn _ _ => True
  | _ => False

theorem TSimL.createNode_same {s : State} {l : List Event} {k : Kind} (sc : Scope) (c : CutoffK) (hk : XK k)
    (htw : twKind k = k) : TSimL s l (Engine.createNode k sc c) (Engine.createNode k sc c) := by
  have := TSimL.createNode (s := s) (l := l) sc c hk
  rwa [htw] at this

theorem TSim.forIn_mem {β γ : Type} (xs : List γ) {f f' : γ → β → M (ForInStep β)}
    (h : ∀ a, a ∈ xs → ∀ b, TSim (f a b) (f' a b)) (b : β) : TSim (ForIn.forIn xs b f) (ForIn.forIn xs b f') := by
  refine .of_commX ?_
  induction xs generalizing b with
  | nil => intro l s; rw [List.forIn_nil, List.forIn_nil]; exact NodeSim.CommXAt.ret _
  | cons a xs ih =>
    intro l s
    rw [List.forIn_cons, List.forIn_cons]
    refine NodeSim.CommXAt.seq ((h a (List.mem_cons_self ..) b).commX l s) fun r s1 l1 _ => ?_
    cases r with
    | done b' => exact NodeSim.CommXAt.ret _
    | yield b' => exact ih (fun a' ha' => h a' (List.mem_cons_of_mem _ ha')) b' l1 s1

/-- `some <$> createNode k sc c` for a twin-invariant kind -/
macro "tcr_node" : tactic => `(tactic|
  exact IncrVerif.Proofs.NodeSim.CommXAt.map _ (IncrVerif.Proofs.PerKeyH.tsimL_iff.1
    (IncrVerif.Proofs.PerKeyH.TSimL.createNode_same _ _ trivial (by first | rfl | exact twKind_small ‹_›))))

theorem fnZip_lt_fnPerKey : fnZip < fnPerKey := by decide
theorem fnFirst_lt_fnPerKey : fnFirst < fnPerKey := by decide

theorem TSim.elabInstr (loc : List Nat) (lhsVal : Val) {i : Instr} (hR : TwInstr i) :
    TSim (Engine.elabInstr loc lhsVal i) (Engine.elabInstr loc lhsVal i) := by
  have H := @twBlind
  refine .of_commX fun l s => ?_
  unfold Engine.elabInstr
  cases i <;> simp only [TwInstr] at hR <;> refine NodeSim.CommXAt.get_seq ?_ <;> try vnorm
  case const v => tcr_node
  case lhsConst => tcr_node
  case var v => exact NodeSim.CommXAt.map _ ((TSim.createVar v .top).commX l s)
  case map f args =>
    refine NodeSim.CommXAt.seq ((NodeSim.CommX.mapM (fun a => (TSim.resolveOpnd loc a).commX) args) l s) fun as s1 l1 _ => ?_
    tcr_node
  case fold f init cs =>
    refine NodeSim.CommXAt.seq ((NodeSim.CommX.mapM (fun a => (TSim.resolveOpnd loc a).commX) cs) l s) fun as s1 l1 _ => ?_
    refine NodeSim.CommXAt.cond Iff.rfl (fun _ => ?_) (fun _ => ?_) <;> tcr_node
  case zip a b =>
    refine NodeSim.CommXAt.seq ((TSim.resolveOpnd loc a).commX l s) fun x s1 l1 _ => ?_
    refine NodeSim.CommXAt.seq ((TSim.resolveOpnd loc b).commX l1 s1) fun y s2 l2 _ => ?_
    refine NodeSim.CommXAt.seq ((TSim.isConstant x).commX l2 s2) fun cx s3 l3 _ => ?_
    refine NodeSim.CommXAt.seq ((TSim.isConstant y).commX l3 s3) fun cy s4 l4 _ => ?_
    have hz := fnZip_lt_fnPerKey
    split <;> tcr_node
  case dependOn a b =>
    refine NodeSim.CommXAt.seq ((TSim.resolveOpnd loc a).commX l s) fun x s1 l1 _ => ?_
    refine NodeSim.CommXAt.seq ((TSim.resolveOpnd loc b).commX l1 s1) fun y s2 l2 _ => ?_
    have hz := fnFirst_lt_fnPerKey
    tcr_node

theorem TSim.elabTemplateBase (t : Template) (lhsVal : Val) (init : List Nat)
    (ht : ∀ i, i ∈ t.instrs → TwInstr i) :
    TSim (Engine.elabTemplateBase t lhsVal init) (Engine.elabTemplateBase t lhsVal init) := by
  refine .of_commX fun l s => ?_
  unfold Engine.elabTemplateBase
  refine NodeSim.CommXAt.seq ((TSim.forIn_mem t.instrs (fun i hi loc => ?_) init).commX l s) fun loc s1 l1 _ => ?_
  · refine .of_commX fun l s => ?_
    refine NodeSim.CommXAt.seq ((TSim.elabInstr loc lhsVal (ht i hi)).commX l s) fun r s1 l1 _ => ?_
    cases r <;> exact NodeSim.CommXAt.ret _
  · exact (TSim.resolveOpnd loc t.ret).commX l1 s1

end IncrVerif.Proofs.PerKeyH
