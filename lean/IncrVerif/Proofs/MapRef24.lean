import IncrVerif.Proofs.MapRef21
import IncrVerif.Proofs.Footprint
/-!
# map_ref fragment: the `didChange` invariant through the unlinking cascade and `unlink_disallowed_observers`

`UF`: no `didChange` flag and no entry of `propagateInvalidity` changes, parent lists only shrink.  Every primitive write other than those of these
three fields and the push of a node keeps it (`UF.of_edit`); the unlinking cascade also removes entries of parent lists (`removeParent`).
-/
namespace IncrVerif.Proofs.MapRefH
open IncrVerif.Engine IncrVerif.Proofs IncrVerif.Proofs.Step IncrVerif.Proofs.Sched IncrVerif.Proofs.Quiet IncrVerif.Proofs.Footprint

theorem mem_of_mem_swapRemove {α} {l : List α} {i : Nat} {x : α} (h : x ∈ swapRemove l i) : x ∈ l := by
  unfold swapRemove at h
  cases hl : l.getLast? with
  | none => rw [hl] at h; exact h
  | some last =>
    rw [hl] at h
    dsimp only at h
    split at h
    · exact List.dropLast_subset _ h
    · have := List.dropLast_subset _ h
      rcases List.mem_or_eq_of_mem_set this with h1 | h1
      · exact h1
      · rw [h1]; exact List.mem_of_getLast? hl

/-! ## `UF`: flags unchanged, parent lists shrink, `propagateInvalidity` unchanged -/

def UF (s s' : State) : Prop :=
  (∀ m, (s'.nodeD m).didChange = (s.nodeD m).didChange ∧
    ∀ x, x ∈ (s'.nodeD m).parents → x ∈ (s.nodeD m).parents) ∧
  s'.propagateInvalidity = s.propagateInvalidity

instance : Step.PreOrd UF :=
  ⟨fun _ => ⟨fun _ => ⟨rfl, fun _ h => h⟩, rfl⟩,
   fun h1 h2 => ⟨fun m => ⟨((h2.1 m).1).trans (h1.1 m).1, fun x hx => (h1.1 m).2 x ((h2.1 m).2 x hx)⟩,
     h2.2.trans h1.2⟩⟩

theorem UF.of_nodes {s s' : State} (h1 : s'.nodes = s.nodes) (h2 : s'.propagateInvalidity = s.propagateInvalidity) :
    UF s s' := by
  refine ⟨fun m => ?_, h2⟩
  have : s'.nodeD m = s.nodeD m := by simp [State.nodeD, h1]
  rw [this]; exact ⟨rfl, fun _ h => h⟩

theorem UF.modNode (s : State) (n : Nat) (f : Node → Node)
    (hf : ∀ x, (f x).didChange = x.didChange ∧ ∀ y, y ∈ (f x).parents → y ∈ x.parents) :
    UF s { s with nodes := s.nodes.modify n f } := by
  refine ⟨fun m => ?_, rfl⟩
  rw [nodeD_modify]; split
  · exact hf _
  · exact ⟨rfl, fun _ h => h⟩

/-- the writes that keep `UF`, whatever they store: all but those of a `didChange` flag, a parent list or `propagateInvalidity` and the push of a node -/
theorem UF.of_edit {L w} (hL : ∀ t ∈ L, t ∉ [Tag.nParents, .nDidChange, .vClearRef, .pushNode, .propagateInvalidity]) {s s' : State}
    (e : Edit L w s s') : UF s s' := by
  cases e
  case node n f hf =>
    exact UF.modNode s n f fun x => by cases hf <;> first | exact ⟨rfl, fun _ h => h⟩ | exact absurd (hL _ ‹_›) (by decide)
  case value n hn f hf =>
    exact UF.modNode s n f fun x => by cases hf <;> first | exact ⟨rfl, fun _ h => h⟩ | exact absurd (hL _ ‹_›) (by decide)
  case stamp n _ | erase n _ => exact UF.modNode s n _ fun _ => ⟨rfl, fun _ h => h⟩
  case pushNode | propagateInvalidity => exact absurd (hL _ ‹_›) (by decide)
  all_goals exact UF.of_nodes rfl rfl

theorem PresUF.observabilityChange (e b) : Step.Pres UF (Engine.observabilityChange e b) :=
  (Foot.observabilityChange e b).frame (UF.of_edit (by decide))
theorem PresUF.setHeight (n h) : Step.Pres UF (Engine.setHeight n h) := (Foot.setHeight n h).frame (UF.of_edit (by decide))
theorem PresUF.rchRemove (n) : Step.Pres UF (Engine.rchRemove n) := (Foot.rchRemove n).frame (UF.of_edit (by decide))
theorem PresUF.handleAfterStabilisation (n) : Step.Pres UF (Engine.handleAfterStabilisation n) :=
  (Foot.handleAfterStabilisation n).frame (UF.of_edit (by decide))
theorem PresUF.maybeHandleAfterStabilisation (n) : Step.Pres UF (Engine.maybeHandleAfterStabilisation n) :=
  (Foot.maybeHandleAfterStabilisation n).frame (UF.of_edit (by decide))

/-- the one write of a parent list in the unlinking cascade: an entry is removed -/
theorem PresUF.removeParent (c i p) : Step.Pres UF (Engine.removeParent c i p) := by
  unfold Engine.removeParent
  refine Step.Pres.bind (Step.Pres.getNode _) fun nd => ?_
  split
  · exact Step.Pres.panic _
  · exact Step.Pres.modify fun s => UF.modNode s _ _ fun x => ⟨rfl, fun y hy => mem_of_mem_swapRemove hy⟩

local macro_rules
  | `(tactic| qleaf) =>
    `(tactic| first
      | (with_reducible first
          | apply PresUF.removeParent | apply PresUF.setHeight | apply PresUF.maybeHandleAfterStabilisation
          | apply PresUF.observabilityChange | apply PresUF.rchRemove | apply Step.Pres.forIn)
      | ((with_reducible apply Step.Pres.modify); intro _; exact UF.of_nodes rfl rfl))

/-- `removeParent` shrinks a parent list, which no tag says: the cascade is walked, with `removeParent` as a leaf -/
theorem PresUF.unlink (fuel : Nat) :
    (∀ n, Step.Pres UF (becameUnnecessary fuel n)) ∧
    (∀ n, Step.Pres UF (checkIfUnnecessary fuel n)) ∧
    (∀ n, Step.Pres UF (removeChildren fuel n)) := by
  induction fuel with
  | zero =>
    refine ⟨?_, ?_, ?_⟩
    · intro n; unfold becameUnnecessary; qpres
    · intro n; unfold checkIfUnnecessary; qpres
    · intro n; unfold removeChildren; qpres
  | succ fuel ih =>
    refine ⟨?_, ?_, ?_⟩
    · intro n
      unfold becameUnnecessary
      qpres
      all_goals exact ih.2.2 _
    · intro n
      unfold checkIfUnnecessary
      qpres
      all_goals exact ih.1 _
    · intro n
      unfold removeChildren
      qpres
      all_goals exact ih.2.1 _

theorem PresUF.checkIfUnnecessary (fuel n) : Step.Pres UF (Engine.checkIfUnnecessary fuel n) :=
  (PresUF.unlink fuel).2.1 n
theorem PresUF.becameUnnecessary (fuel n) : Step.Pres UF (Engine.becameUnnecessary fuel n) :=
  (PresUF.unlink fuel).1 n
theorem PresUF.removeChildren (fuel n) : Step.Pres UF (Engine.removeChildren fuel n) :=
  (PresUF.unlink fuel).2.2 n

/-! ## `SH`: what the invariant reads is constant, except that necessity shrinks -/

structure SH (s s' : State) : Prop where
  vf : VFrame s s'
  flag : ∀ m, (s'.nodeD m).didChange = (s.nodeD m).didChange
  par : ∀ m x, x ∈ (s'.nodeD m).parents → x ∈ (s.nodeD m).parents
  obs : ∀ m x, x ∈ (s'.nodeD m).observers → x ∈ (s.nodeD m).observers
  force : ∀ m, (s'.nodeD m).forceNecessary = (s.nodeD m).forceNecessary
  pinv : s'.propagateInvalidity = s.propagateInvalidity

theorem SH.refl (s : State) : SH s s := ⟨VFrame.refl s, fun _ => rfl, fun _ _ h => h, fun _ _ h => h, fun _ => rfl, rfl⟩
theorem SH.trans {a b c : State} (h1 : SH a b) (h2 : SH b c) : SH a c :=
  ⟨h1.vf.trans h2.vf, fun m => (h2.flag m).trans (h1.flag m), fun m x h => h1.par m x (h2.par m x h),
    fun m x h => h1.obs m x (h2.obs m x h), fun m => (h2.force m).trans (h1.force m), h2.pinv.trans h1.pinv⟩
instance : Step.PreOrd SH := ⟨SH.refl, SH.trans⟩

theorem SH.of_nodes {s s' : State} (h1 : s'.nodes = s.nodes) (h2 : s'.panicCountdown = s.panicCountdown)
    (h3 : s'.propagateInvalidity = s.propagateInvalidity) : SH s s' := by
  have hnd : ∀ m, s'.nodeD m = s.nodeD m := fun m => by simp [State.nodeD, h1]
  exact ⟨.of_nodes h1 h2, fun m => by rw [hnd], fun m x hx => by rw [hnd] at hx; exact hx,
    fun m x hx => by rw [hnd] at hx; exact hx, fun m => by rw [hnd], h3⟩

theorem SH.modNode (s : State) (n : Nat) (f : Node → Node)
    (hf : ∀ x, NodeV x (f x) ∧ (f x).didChange = x.didChange ∧ (∀ y, y ∈ (f x).parents → y ∈ x.parents) ∧
      (∀ y, y ∈ (f x).observers → y ∈ x.observers) ∧ (f x).forceNecessary = x.forceNecessary) :
    SH s { s with nodes := s.nodes.modify n f } := by
  refine ⟨.modNode _ _ _ fun x => (hf x).1, fun m => ?_, fun m y hy => ?_, fun m y hy => ?_, fun m => ?_, rfl⟩
  · rw [nodeD_modify]; split
    · exact (hf _).2.1
    · rfl
  · rw [nodeD_modify] at hy; split at hy
    · exact (hf _).2.2.1 y hy
    · exact hy
  · rw [nodeD_modify] at hy; split at hy
    · exact (hf _).2.2.2.1 y hy
    · exact hy
  · rw [nodeD_modify]; split
    · exact (hf _).2.2.2.2
    · rfl

theorem SH.nec {s s' : State} (h : SH s s') {m : Nat} (hm : s'.isNecessary m = true) : s.isNecessary m = true := by
  rw [isNecessary_iff] at hm ⊢
  rcases hm with hm | hm | hm
  · left
    obtain ⟨x, hx⟩ := List.exists_mem_of_ne_nil _ hm
    exact List.ne_nil_of_mem (h.par m x hx)
  · right; left
    obtain ⟨x, hx⟩ := List.exists_mem_of_ne_nil _ hm
    exact List.ne_nil_of_mem (h.obs m x hx)
  · right; right; rw [← h.force]; exact hm

theorem SH.fm {s s' : State} (h : SH s s') : FM s s' := fun m hm => by rw [h.flag]; exact hm

/-- necessity shrinks, everything else the invariant reads is constant: the invariant is inherited -/
theorem KInv.of_sh {env : Env} {g : Nat → Option Val} {s s' : State} (K : KInv env g s) (h : SH s s') :
    KInv env g s' := by
  intro m p i hm hk hd
  rw [h.vf.kind] at hk; rw [h.flag] at hd; rw [h.vf.value_eq]
  exact K m p i (h.nec hm) hk hd

theorem SH.of_cframe_uf {s s' : State} (fr : CFrame s s') (u : UF s s') : SH s s' :=
  ⟨fr.toV, fun m => (u.1 m).1, fun m => (u.1 m).2, fun m x hx => by rw [fr.observers] at hx; exact hx,
    fr.forceNecessary, u.2⟩

/-- every run of `check_if_unnecessary` -/
theorem checkIfUnnecessary_sh {fuel n : Nat} {s s' : State} {r : Except Panic Unit}
    (h : (Engine.checkIfUnnecessary fuel n).run.run s = (r, s')) : SH s s' :=
  SH.of_cframe_uf ((PresF.checkIfUnnecessary fuel n).h _ _ _ h) ((PresUF.checkIfUnnecessary fuel n).h _ _ _ h)

/-- **(5a)** the unlinking cascade (every run, also a panicking one) -/
theorem checkIfUnnecessary_keepsK {env : Env} {g : Nat → Option Val} {fuel n : Nat} {s s' : State}
    {r : Except Panic Unit} (K : KInv env g s) (h : (Engine.checkIfUnnecessary fuel n).run.run s = (r, s')) :
    KInv env g s' ∧ s'.propagateInvalidity = s.propagateInvalidity ∧
      (∀ m, (s'.nodeD m).didChange = (s.nodeD m).didChange) ∧ CFrame s s' := by
  have S := checkIfUnnecessary_sh h
  exact ⟨K.of_sh S, S.pinv, S.flag, (PresF.checkIfUnnecessary fuel n).h _ _ _ h⟩

/-- (5b), with the relation between the states -/
theorem unlinkDisallowedObservers_sh {fuel : Nat} {s s' : State}
    (h : (unlinkDisallowedObservers fuel).run.run s = (.ok (), s')) : SH s s' := by
  unfold unlinkDisallowedObservers at h
  rw [run_bind_get] at h
  obtain ⟨s0, hs0, h⟩ := bind_modify_inv h
  obtain ⟨u, s1, hloop, h⟩ := bind_ok_inv h
  obtain ⟨-, e⟩ := pure_ok_inv h
  rw [e]
  have S0 : SH s s0 := .of_nodes (by rw [hs0]) (by rw [hs0]) (by rw [hs0])
  exact forIn_ok_inv _ s.disallowedObservers
    (fun (_ : Nat) (_ : PUnit) t => SH s t)
    (by
      intro j o b t r t' hj St hbody
      obtain ⟨ob, hob, hbody⟩ := bind_getObs_inv hbody
      replace hbody := bind_dassert_inv hbody
      obtain ⟨t1, ht1, hbody⟩ := bind_modObs_inv hbody
      obtain ⟨t2, ht2, hbody⟩ := bind_modNode_inv hbody
      obtain ⟨t3, ht3, hbody⟩ := bind_modify_inv hbody
      obtain ⟨_, t4, h4, hbody⟩ := bind_ok_inv hbody
      obtain ⟨hr, e⟩ := pure_ok_inv hbody
      rw [e]
      refine ⟨_, hr, ?_⟩
      have S1 : SH t t1 := .of_nodes (by rw [ht1]) (by rw [ht1]) (by rw [ht1])
      have S2 : SH t1 t2 := by
        rw [ht2]
        exact .modNode _ _ _ fun _ => ⟨⟨rfl, rfl, rfl, rfl, rfl, rfl⟩, rfl, fun _ hx => hx,
          fun _ hx => (List.mem_filter.1 hx).1, rfl⟩
      have S3 : SH t2 t3 := .of_nodes (by rw [ht3]) (by rw [ht3]) (by rw [ht3])
      exact (((St.trans S1).trans S2).trans S3).trans (checkIfUnnecessary_sh h4))
    s.disallowedObservers 0 PUnit.unit s0 u s1 (by simp) (Nat.zero_le _) S0 hloop

/-- **(5b)** `unlink_disallowed_observers` -/
theorem unlinkDisallowedObservers_keepsK {env : Env} {g : Nat → Option Val} {fuel : Nat} {s s' : State}
    (K : KInv env g s) (h : (unlinkDisallowedObservers fuel).run.run s = (.ok (), s')) :
    KInv env g s' ∧ s'.propagateInvalidity = s.propagateInvalidity ∧
      (∀ m, (s'.nodeD m).didChange = (s.nodeD m).didChange) := by
  have S := unlinkDisallowedObservers_sh h
  exact ⟨K.of_sh S, S.pinv, S.flag⟩

end IncrVerif.Proofs.MapRefH
