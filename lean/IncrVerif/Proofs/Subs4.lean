import IncrVerif.Proofs.Subs1
/-!
# Subscriptions, part 4: variable writes outside `stabilise` (and the read-only actions) keep `SubsH.QInv`

`WRel` is `Quiet.WRel` with the log and the token counter kept, and takes its lemmas from there; `writeVar_q`/`step_write` also export the
frame `KFrame`.
-/
namespace IncrVerif.Proofs.SubsH
open IncrVerif.Engine IncrVerif.Driver IncrVerif.Proofs IncrVerif.Proofs.Step IncrVerif.Proofs.Sched IncrVerif.Proofs.Quiet

/-! ## the abstract description of an immediate write -/

/-- `s'` is `s` after cell `v` (old contents `vc`) received value `x` and the stamp of the current round;
nodes change at most in their heap marker; everything else the invariant reads (except the heap) is kept -/
structure WRel (v : Nat) (vc : VarCell) (x : Val) (s s' : State) : Prop where
  size : s'.nodes.size = s.nodes.size
  node : ∀ m, ∃ h, s'.nodeD m = { s.nodeD m with heightInRch := h }
  var : s'.vars[v]? = some { vc with value := x, setAt := s.stabNum }
  other : ∀ w, w ≠ v → s'.vars[w]? = s.vars[w]?
  stabNum : s'.stabNum = s.stabNum
  status : s'.status = s.status
  pc : s'.panicCountdown = s.panicCountdown
  scope : s'.currentScope = s.currentScope
  observers : s'.observers = s.observers
  newObservers : s'.newObservers = s.newObservers
  disallowedObservers : s'.disallowedObservers = s.disallowedObservers
  alive : s'.alive = s.alive
  setDuringStab : s'.setDuringStab = s.setDuringStab
  deadVars : s'.deadVars = s.deadVars
  handleAfterStab : s'.handleAfterStab = s.handleAfterStab
  pinv : s'.propagateInvalidity = s.propagateInvalidity
  top : s'.top = s.top
  log : s'.log = s.log
  nextToken : s'.nextToken = s.nextToken

section rel
variable {env : Env} {s s' : State} {v : Nat} {vc : VarCell} {x : Val}

theorem WRel.toQ (R : WRel v vc x s s') : Quiet.WRel v vc x s s' :=
  ⟨R.size, R.node, R.var, R.other, R.stabNum, R.status, R.pc, R.scope, R.observers, R.newObservers, R.disallowedObservers, R.alive,
    R.setDuringStab, R.deadVars, R.handleAfterStab, R.pinv, R.top⟩

theorem WRel.kind (R : WRel v vc x s s') (m : Nat) : (s'.nodeD m).kind = (s.nodeD m).kind := R.toQ.kind m
theorem WRel.parents (R : WRel v vc x s s') (m : Nat) : (s'.nodeD m).parents = (s.nodeD m).parents := R.toQ.parents m
theorem WRel.nodeObs (R : WRel v vc x s s') (m : Nat) : (s'.nodeD m).observers = (s.nodeD m).observers := R.toQ.nodeObs m
theorem WRel.height (R : WRel v vc x s s') (m : Nat) : (s'.nodeD m).height = (s.nodeD m).height := R.toQ.height m
theorem WRel.recomputedAt (R : WRel v vc x s s') (m : Nat) :
    (s'.nodeD m).recomputedAt = (s.nodeD m).recomputedAt := R.toQ.recomputedAt m
theorem WRel.changedAt (R : WRel v vc x s s') (m : Nat) :
    (s'.nodeD m).changedAt = (s.nodeD m).changedAt := R.toQ.changedAt m
theorem WRel.value (R : WRel v vc x s s') (m : Nat) : (s'.nodeD m).value = (s.nodeD m).value := R.toQ.value m
theorem WRel.handlers (R : WRel v vc x s s') (m : Nat) :
    (s'.nodeD m).numOnUpdateHandlers = (s.nodeD m).numOnUpdateHandlers := R.toQ.handlers m
theorem WRel.nec (R : WRel v vc x s s') (m : Nat) : s'.isNecessary m = s.isNecessary m := R.toQ.nec m

/-- the target of a node that is not a `var v` node does not change -/
theorem WRel.target (R : WRel v vc x s s') {m : Nat} {w : Val}
    (hm : (s.nodeD m).kind ≠ .var v) (h : Target env s m w) : Target env s' m w :=
  R.toQ.target hm h

/-- the invariant between API actions after a write -/
theorem WRel.qinv (Q : QInv env s) (hv : s.vars[v]? = some vc) (R : WRel v vc x s s')
    (S : Struct env s') : QInv env s' := by
  refine { struct := S, vars := ?_, obs := ?_, now := by rw [R.stabNum]; exact Q.now, stamps := ?_,
           varStamp := ?_, cons := ?_, status := R.status.trans Q.status, alive := R.alive.trans Q.alive,
           setDuringStab := R.setDuringStab.trans Q.setDuringStab, deadVars := R.deadVars.trans Q.deadVars,
           pinv := R.pinv.trans Q.pinv, top := ?_ }
  · constructor
    · intro n c hn hk
      rw [R.size] at hn
      rw [R.kind] at hk
      obtain ⟨vc0, h0, h1⟩ := Q.vars.node n c hn hk
      by_cases hc : c = v
      · rw [hc] at h0 ⊢
        rw [hv] at h0; cases h0
        exact ⟨_, R.var, h1⟩
      · exact ⟨vc0, by rw [R.other c hc]; exact h0, h1⟩
    · intro c vc0 h0
      rw [R.size, R.kind]
      by_cases hc : c = v
      · rw [hc] at h0 ⊢
        rw [R.var] at h0; cases h0
        exact Q.vars.cell v vc hv
      · rw [R.other c hc] at h0; exact Q.vars.cell c vc0 h0
  · have O := Q.obs
    unfold ObsOK at O ⊢
    rw [R.newObservers, R.disallowedObservers]
    refine ⟨?_, ?_, ?_, ?_, ?_, ?_, O.disNodup⟩
    · intro o ob h; rw [R.observers] at h; rw [R.size]; exact O.inRange o ob h
    · intro n o; rw [R.nodeObs, R.observers]; exact O.mem n o
    · intro o ob h; rw [R.observers] at h; exact O.created o ob h
    · intro o h; rw [R.observers]; exact O.newIn o h
    · intro o ob h; rw [R.observers] at h; exact O.dis o ob h
    · intro o h; rw [R.observers]; exact O.disIn o h
  · intro m
    rw [R.recomputedAt, R.changedAt, R.stabNum]; exact Q.stamps m
  · intro c vc0 h0
    rw [R.stabNum]
    by_cases hc : c = v
    · rw [hc] at h0; rw [R.var] at h0; cases h0; exact Int.le_refl _
    · rw [R.other c hc] at h0; exact Q.varStamp c vc0 h0
  · intro m hm hst
    rw [R.size] at hm
    by_cases hk : (s.nodeD m).kind = .var v
    · rw [R.toQ.staleOf_watch hk (Q.stamps m).1] at hst; cases hst
    · rw [R.toQ.staleOf_eq hk] at hst
      obtain ⟨w, hw, hval⟩ := Q.cons m hm hst
      exact ⟨w, R.target hk hw, by rw [R.value]; exact hval⟩
  · intro k n h; rw [R.top] at h; rw [R.size]; exact Q.top k n h

end rel

/-! ## the concrete write -/

theorem wroteOutside_log (v : Nat) (vc : VarCell) (x : Val) (s : State) :
    (wroteOutside v vc x s).log = s.log ∧ (wroteOutside v vc x s).nextToken = s.nextToken := by
  unfold wroteOutside
  split
  · exact ⟨rfl, rfl⟩
  · split <;> exact ⟨rfl, rfl⟩

/-- the final state of a successful write outside `stabilise` keeps the invariant -/
theorem wroteOutside_q {env : Env} {s : State} {v : Nat} {vc : VarCell} (x : Val)
    (Q : QInv env s) (hv : s.vars[v]? = some vc)
    (hh : vc.setAt < s.stabNum →
      ((s.nodeD vc.node).valid && s.isNecessary vc.node && !(s.nodeD vc.node).inRch) = true →
      0 ≤ (s.nodeD vc.node).height ∧ (s.nodeD vc.node).height ≤ s.rch.maxAllowed) :
    WRel v vc x s (wroteOutside v vc x s) ∧ QInv env (wroteOutside v vc x s) :=
  have ⟨R, S⟩ := wroteOutside_rel x Q.struct Q.vars (fun m => (Q.stamps m).1) (Q.varStamp v vc hv) hv hh
  have R : WRel v vc x s (wroteOutside v vc x s) :=
    ⟨R.size, R.node, R.var, R.other, R.stabNum, R.status, R.pc, R.scope, R.observers, R.newObservers, R.disallowedObservers, R.alive,
      R.setDuringStab, R.deadVars, R.handleAfterStab, R.pinv, R.top, (wroteOutside_log v vc x s).1, (wroteOutside_log v vc x s).2⟩
  ⟨R, R.qinv Q hv S⟩

/-- **write.** A successful write outside `stabilise` keeps the invariant; the cell gets the new value. -/
theorem writeVar_q {env : Env} {s s' : State} {v : Nat} {f : Val → Val} {isSet : Bool} {r : Val}
    (Q : QInv env s) (h : (writeVar v f isSet).run.run s = (.ok r, s')) :
    QInv env s' ∧ KFrame s s' ∧ ∃ vc, s.vars[v]? = some vc ∧ r = vc.value ∧
      s'.vars[v]? = some { vc with value := f vc.value, setAt := s.stabNum } ∧
      (∀ w, w ≠ v → s'.vars[w]? = s.vars[w]?) := by
  obtain ⟨vc, hv⟩ := writeVar_ok_cell h
  have hst : s.status ≠ .stabilising := by rw [Q.status]; intro e; cases e
  obtain ⟨hr, hs', -, -, hh⟩ := writeVar_outside_ok v f isSet s s' vc r hv hst h
  obtain ⟨R, Q'⟩ := wroteOutside_q (f vc.value) Q hv hh
  rw [← hs'] at R Q'
  refine ⟨Q', ⟨R.observers, R.nextToken, R.stabNum, R.handleAfterStab, R.log, fun m => ?_⟩, vc, hv, hr, R.var,
    R.other⟩
  obtain ⟨h', e'⟩ := R.node m
  rw [e']; rfl

/-- the write actions and the read-only actions of the API -/
def WriteOrRead : Action → Prop
  | .set _ _ | .modify _ _ | .update _ _ | .replace _ _ | .replaceWith _ _ => True
  | .get _ | .isStable | .stats => True
  | _ => False

theorem step_write {env : Env} {s s' : State} {a : Action} {tokens : Array Nat} {r : String × Array Nat}
    (Q : QInv env s) (ha : WriteOrRead a) (h : (stepAction env a tokens).run.run s = (.ok r, s')) :
    QInv env s' ∧ r.2 = tokens ∧ KFrame s s' := by
  cases a <;> try exact ha.elim
  case get v => obtain ⟨rfl, e⟩ := Hist.stepAction_read_ok (.get v) h; exact ⟨Q, e, KFrame.refl _⟩
  case isStable => obtain ⟨rfl, e⟩ := Hist.stepAction_read_ok .isStable h; exact ⟨Q, e, KFrame.refl _⟩
  case stats => obtain ⟨rfl, e⟩ := Hist.stepAction_read_ok .stats h; exact ⟨Q, e, KFrame.refl _⟩
  all_goals
    obtain ⟨old, h1, rfl⟩ := (Hist.stepAction_write_ok (by constructor)).1 h
    exact ⟨(writeVar_q Q h1).1, rfl, (writeVar_q Q h1).2.1⟩

end IncrVerif.Proofs.SubsH
