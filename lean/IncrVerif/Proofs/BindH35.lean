import IncrVerif.Proofs.BindH34
/-!
# Binds, `relink`, part 5: `relink` keeps the structural invariant (fragment F0) — `relink_specB : RelinkSpec env`
-/
namespace IncrVerif.Proofs.BindH
open IncrVerif.Engine IncrVerif.Proofs IncrVerif.Proofs.Step IncrVerif.Proofs.Sched IncrVerif.Proofs.Quiet

namespace BR

/-- replace the force component of a node key -/
def setF {A B C D E F G H J : Type} (f : Bool) (k : A × B × C × D × E × F × G × H × Bool × J) :
    A × B × C × D × E × F × G × H × Bool × J :=
  (k.1, k.2.1, k.2.2.1, k.2.2.2.1, k.2.2.2.2.1, k.2.2.2.2.2.1, k.2.2.2.2.2.2.1, k.2.2.2.2.2.2.2.1, f,
    k.2.2.2.2.2.2.2.2.2)

theorem nodeKey_force (x : Node) (f : Bool) : nodeKey { x with forceNecessary := f } = setF f (nodeKey x) := rfl

theorem nodeKey_force_congr {x y : Node} (h : nodeKey x = nodeKey y) (f : Bool) :
    nodeKey { x with forceNecessary := f } = nodeKey { y with forceNecessary := f } :=
  (nodeKey_force x f).trans ((congrArg (setF f) h).trans (nodeKey_force y f).symm)

theorem krel_compose {b n rhs o pi : Nat} {v : Int} {s s7 s' : State}
    (K47 : KRel (pre4 b n rhs o pi v s) s7) (K8 : KRel (forced o false s7) s')
    (hf : ((pre b n rhs v s).nodeD o).forceNecessary = false) : KRel (pre b n rhs v s) s' := by
  have hsz4 : (pre4 b n rhs o pi v s).nodes.size = (pre b n rhs v s).nodes.size := by
    show (((pre b n rhs v s).nodes.modify o _).modify o _).size = _
    rw [Array.size_modify, Array.size_modify]
  have hsz8 : (forced o false s7).nodes.size = s7.nodes.size := Array.size_modify
  refine ⟨K8.size.trans (hsz8.trans (K47.size.trans hsz4)), fun m => ?_, ?_⟩
  · have h4 : (pre4 b n rhs o pi v s).nodeD m =
        if o = m ∧ m < (pre b n rhs v s).nodes.size then fForce true (fDrop pi ((pre b n rhs v s).nodeD m))
        else (pre b n rhs v s).nodeD m :=
      nodeD_modify2 (pre b n rhs v s) o m (fDrop pi) (fForce true)
    rw [K8.node m, forced_nodeD]
    split
    · rename_i e
      have hlt : m < (pre b n rhs v s).nodes.size := by rw [← hsz4, ← K47.size]; exact e.2
      rw [if_pos ⟨e.1, hlt⟩] at h4
      -- for a VARIABLE node: on `nodeD m` the unifier unfolds `Array.modify` before the updates
      have hx : ∀ x : Node, x.forceNecessary = false →
          nodeKey { fForce true (fDrop pi x) with forceNecessary := false } = nodeKey x := by
        intro x h
        simp only [nodeKey, fForce, fDrop, h]
      rw [nodeKey_force_congr (K47.node m) false, h4, ← e.1]
      exact hx _ hf
    · rename_i e
      have e' : ¬ (o = m ∧ m < (pre b n rhs v s).nodes.size) := by
        intro h; apply e; refine ⟨h.1, ?_⟩; rw [K47.size, hsz4]; exact h.2
      rw [if_neg e'] at h4
      rw [K47.node m, h4]
  · have k1 : rKey (forced o false s7) = rKey s7 := rfl
    have k2 : rKey (pre4 b n rhs o pi v s) = rKey (pre b n rhs v s) := rfl
    exact K8.key.trans (k1.trans (K47.key.trans k2))

theorem rrel_of_krel {b n rhs : Nat} {br : BindRec} {s s' : State} (hb : s.binds[b]? = some br)
    (hn : n < s.nodes.size) (K : KRel (pre b n rhs s.stabNum s) s')
    (hpc : s'.panicCountdown = s.panicCountdown) : RRelB b n rhs br s s' where
  size := K.size.trans Array.size_modify
  node m hm := by
    rw [K.node m]
    show nodeKey ((stamped n s.stabNum s).nodeD m) = _
    rw [stamped_other hm]
  self := by
    rw [K.node n]
    show nodeKey ((stamped n s.stabNum s).nodeD n) = _
    rw [stamped_self hn]
  bind := by rw [K.binds]; exact pre_binds_self hb
  bindsSize := by rw [K.binds]; exact Array.size_modify
  bindsOther b' hb' := by rw [K.binds]; exact pre_binds_other hb'
  vars := K.vars
  stabNum := K.stabNum
  status := K.status
  cfg := K.cfg
  scope := K.scope
  pc := hpc
  qsize := K.qsize
  top := K.top

end BR

open BR in
/-- **`relink` keeps the structural invariant** (fragment F0): the record of the bind gets the new right-hand side,
the change detector gets the stamp of the round, the old right-hand side is unlinked from the bind's main node and the
new one linked (with heights adjusted), and everything is closed again -/
theorem relink_specB (env : Env) : RelinkSpec env := by
  intro fuel b n main rhs oldRhs s s' br ex h I hex hah hb hrhs0 hm _ hkn hkm hnm hms hnecm hrn hrk hold hnorhs hnf
    hpi hrm _ _
  have hn : n < s.nodes.size := by omega
  have hvm := (I.node hms).valid
  have hfP : ∀ m, ((pre b n rhs s.stabNum s).nodeD m).forceNecessary = false := by
    intro m
    show ((stamped n s.stabNum s).nodeD m).forceNecessary = false
    rw [stamped_nodeD]; split
    · exact hnf m
    · exact hnf m
  have hmP : ∀ m, ((pre b n rhs s.stabNum s).nodeD m).heightInAhh = (s.nodeD m).heightInAhh := by
    intro m
    show ((stamped n s.stabNum s).nodeD m).heightInAhh = _
    rw [stamped_nodeD]; split <;> rfl
  have EP : AhhEmpty (pre b n rhs s.stabNum s) := ahhEmpty_frame hah rfl hmP
  -- the common end
  have finish : GInvB env s' allClosed ex → AhhEmpty s' → KRel (pre b n rhs s.stabNum s) s' →
      GInvB env s' allClosed ex ∧ AhhEmpty s' ∧ RRelB b n rhs br s s' ∧ s'.propagateInvalidity = [] ∧
        (∀ m, (s'.nodeD m).forceNecessary = false) := by
    intro I' E' K
    refine ⟨I', E', rrel_of_krel hb hn K (by rw [I'.frag.pc, I.frag.pc]), ?_, ?_⟩
    · rw [K.pinv]; exact hpi
    · intro m; rw [K.force m]; exact hfP m
  unfold relink at h
  unfold modBind at h
  obtain ⟨s1, hs1, h⟩ := bind_modify_inv h
  obtain ⟨s2, hs2, h⟩ := bind_modNode_inv h
  have e2 : s2 = pre b n rhs s.stabNum s := by rw [hs2, hs1]; rfl
  rw [e2] at h
  unfold changeChildBindRhs at h
  obtain ⟨mn, hmn, h⟩ := bind_getNode_inv h
  have hmP' : (pre b n rhs s.stabNum s).nodeD main = s.nodeD main := stamped_main hnm _
  have hnP' : (pre b n rhs s.stabNum s).nodeD n = { s.nodeD n with changedAt := s.stabNum } := stamped_self hn _
  have hkq : mn.kind? = some (.bindMain b n) := by
    have e : (pre b n rhs s.stabNum s).nodeD main = mn := nodeD_of_some hmn
    rw [← e, hmP']
    unfold Node.kind?
    rw [hvm, hkm]; rfl
  rw [hkq] at h
  dsimp only at h
  cases oldRhs with
  | none =>
    dsimp only at h
    have It := pre_inv_none I hex hb hrhs0 hm hkn hkm hnm hms hnecm hrn hrk hrm
    obtain ⟨I', E', K⟩ := link_part h I It hex EP hb hkm hnm hms hnecm hrn hnorhs hpi hrm hmP' hnP' rfl
    exact finish I' E' K
  | some o =>
    dsimp only at h
    obtain ⟨hon, -⟩ := hold o rfl
    have ho : o < s.nodes.size := by omega
    by_cases hor : o = rhs
    · simp only [hor, beq_self_eq_true, if_true] at h
      obtain ⟨-, e⟩ := pure_ok_inv h
      exact finish (by rw [e]; exact pre_inv_same I hex hb (by rw [hrhs0, hor]) hm hkn hkm hnm hms hrm)
        (by rw [e]; exact EP) (by rw [e]; exact KRel.refl _)
    · have hbeq : (o == rhs) = false := by simpa using hor
      simp only [hbeq, Bool.false_eq_true, if_false] at h
      obtain ⟨_, s3, hrp, h⟩ := bind_ok_inv h
      obtain ⟨s4, hs4, h⟩ := bind_modNode_inv h
      obtain ⟨_, s7, hsap, h⟩ := bind_ok_inv h
      obtain ⟨s8, hs8, h⟩ := bind_modNode_inv h
      obtain ⟨nd, pi, hnd, hidx, e3⟩ := removeParent_ok_inv hrp
      have e4 : s4 = pre4 b n rhs o pi s.stabNum s := by rw [hs4, e3]; rfl
      have e8 : s8 = forced o false s7 := hs8
      rw [e4] at hsap
      rw [e8] at h
      have hoP : (pre b n rhs s.stabNum s).nodeD o = s.nodeD o := stamped_other (by omega) _
      have hndD : s.nodeD o = nd := by rw [← nodeD_of_some hnd]; exact hoP.symm
      rw [← hndD] at hidx
      have It := pre_inv_some I hex hb hrhs0 hm hkn hkm hnm hms hnecm hrn hrk hon hrm hidx
      have E4 : AhhEmpty (pre4 b n rhs o pi s.stabNum s) := by
        refine ahhEmpty_frame hah rfl fun m => ?_
        rw [pre4_keeps (·.heightInAhh) o (fun _ => rfl)]
        exact hmP m
      have htm : (pre4 b n rhs o pi s.stabNum s).nodeD main = s.nodeD main := by
        rw [pre4_nodeD, if_neg (fun e => by omega)]; exact hmP'
      have htn : (pre4 b n rhs o pi s.stabNum s).nodeD n = { s.nodeD n with changedAt := s.stabNum } := by
        rw [pre4_nodeD, if_neg (fun e => by omega)]; exact hnP'
      obtain ⟨I7, E7, K47⟩ := link_part hsap I It hex E4 hb hkm hnm hms hnecm hrn hnorhs hpi hrm htm htn rfl
      have hnec7 : s7.isNecessary o = true := by
        rw [isNecessary_iff, K47.force o, pre4_nodeD, if_pos ⟨rfl, ho⟩]
        exact Or.inr (Or.inr rfl)
      obtain ⟨I', E', K8⟩ := unforce_part h I7 hnec7 E7
      exact finish I' E' (krel_compose K47 K8 (hfP o))

end IncrVerif.Proofs.BindH
