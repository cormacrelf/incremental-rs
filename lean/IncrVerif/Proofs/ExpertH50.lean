import IncrVerif.Proofs.ExpertH48
import IncrVerif.Proofs.ExpertH42
import IncrVerif.Proofs.ExpertH21
/-!
# Expert nodes: the two expert-specific API actions (`create (expert f)`, `addDep`) keep the invariant
-/
namespace IncrVerif.Proofs.ExpertH
open IncrVerif.Engine IncrVerif.Driver IncrVerif.Proofs IncrVerif.Proofs.Step IncrVerif.Proofs.Sched
open IncrVerif.Proofs.ExpertH.QR IncrVerif.Proofs.Xp

/-- the state after `create (expert f)` at top level -/
def xCreated (f : Nat) (s : State) : State :=
  { s with
    experts := s.experts.push { f := f, node := s.nodes.size },
    nodes := s.nodes.push { kind := .expert s.experts.size, createdIn := .top, cutoff := .eq },
    counters := { s.counters with created := s.counters.created + 1 },
    top := s.top.push s.nodes.size,
    handles := s.nodes.size :: s.handles }

/-- the state after elaborating `expert f` at top level -/
def xElab (f : Nat) (s : State) : State :=
  { s with
    experts := s.experts.push { f := f, node := s.nodes.size },
    nodes := s.nodes.push { kind := .expert s.experts.size, createdIn := .top, cutoff := .eq },
    counters := { s.counters with created := s.counters.created + 1 } }

theorem run_elab_expert (env : Env) (f : Nat) (s : State) (hsc : s.currentScope = .top) :
    (elabInstrM env [] .unit (.expert f)).run.run s = (.ok (some s.nodes.size), xElab f s) := by
  simp only [elabInstrM, elabInstr, createNode, bumpCounter, modExpert, xElab, bind_assoc, run_bind_get,
    run_bind_modify, hsc, pure_bind, run_pure]
  rw [push_modify_last]

theorem step_create_expert_inv {env : Env} {f : Nat} {tk : Array Nat} {s s' : State} {r : String × Array Nat}
    (hsc : s.currentScope = .top)
    (h : (stepAction env (.create (.expert f)) tk).run.run s = (.ok r, s')) : s' = xCreated f s := by
  unfold stepAction at h
  dsimp only at h
  rw [run_bind_ok (run_elab_expert env f s hsc)] at h
  dsimp only at h
  rw [run_bind_modify] at h
  obtain ⟨-, rfl⟩ := pure_ok_inv h
  rfl

/-! ## the elaborated state -/

theorem xElab_nodes (f : Nat) (t : State) :
    (xElab f t).nodes = t.nodes.push { kind := .expert t.experts.size, createdIn := .top } := rfl
theorem xElab_experts (f : Nat) (t : State) :
    (xElab f t).experts = t.experts.push { f := f, node := t.nodes.size } := rfl
theorem xElab_size (f : Nat) (t : State) : (xElab f t).nodes.size = t.nodes.size + 1 := by
  rw [xElab_nodes, Array.size_push]
theorem xElab_xsize (f : Nat) (t : State) : (xElab f t).experts.size = t.experts.size + 1 := by
  rw [xElab_experts, Array.size_push]

theorem xElab_nodeD_new (f : Nat) (t : State) :
    (xElab f t).nodeD t.nodes.size = { kind := .expert t.experts.size, createdIn := .top } := by
  simp only [State.nodeD, xElab_nodes, Array.getElem?_push, if_true, Option.getD_some]

theorem xElab_nodeD_ne (f : Nat) (t : State) {m : Nat} (h : m ≠ t.nodes.size) :
    (xElab f t).nodeD m = t.nodeD m := by
  simp only [State.nodeD, xElab_nodes, Array.getElem?_push, if_neg h]

theorem xElab_nodeD_lt (f : Nat) (t : State) {m : Nat} (h : m < t.nodes.size) :
    (xElab f t).nodeD m = t.nodeD m := xElab_nodeD_ne f t (by omega)

theorem xElab_experts_new (f : Nat) (t : State) :
    (xElab f t).experts[t.experts.size]? = some { f := f, node := t.nodes.size } := by
  rw [xElab_experts]; simp

theorem xElab_experts_lt (f : Nat) (t : State) {e : Nat} (h : e < t.experts.size) :
    (xElab f t).experts[e]? = t.experts[e]? := by
  rw [xElab_experts, Array.getElem?_push_lt h, Array.getElem?_eq_getElem h]

theorem xElab_experts_old (f : Nat) (t : State) {e : Nat} {er : ExpertRec} (h : t.experts[e]? = some er) :
    (xElab f t).experts[e]? = some er := by
  rw [xElab_experts_lt f t (Array.getElem?_eq_some_iff.1 h).1]; exact h

/-! ## `create (expert f)` keeps the invariant -/

theorem xRec_push_lt {xs : Array ExpertRec} {r : ExpertRec} {e : Nat} (h : e < xs.size) :
    xRec (xs.push r) e = xRec xs e := by
  unfold xRec; rw [Array.getElem?_push_lt h]; simp [h]

theorem xRec_push_size (xs : Array ExpertRec) (r : ExpertRec) : xRec (xs.push r) xs.size = r := by
  unfold xRec; simp

theorem XFrag.xlt {env : Env} {s : State} (F : XFrag env s) {m e : Nat} (hk : (s.nodeD m).kind = .expert e) :
    e < s.experts.size := by
  obtain ⟨er, h1, -⟩ := F.xrec m e (F.lt_of_expert hk) hk
  exact (Array.getElem?_eq_some_iff.1 h1).1

theorem virt_xElab_nodes {env : Env} (f : Nat) {s : State} (F : XFrag env s) :
    (virt (xElab f s)).nodes = (virt s).nodes.push (newNode (.fold (xBase + f) (.int 0) [])) := by
  simp only [virt, xElab, Array.map_push]
  congr 1
  · apply Array.map_congr_left
    intro nd hnd
    apply virtNode_congrD
    intro e' hk'
    obtain ⟨i, hi, rfl⟩ := Array.mem_iff_getElem.1 hnd
    have hD : s.nodeD i = s.nodes[i] := by simp [State.nodeD, hi]
    exact xRec_push_lt (F.xlt (m := i) (by rw [hD]; exact hk'))
  · simp only [virtNode, virtKind, forced, xRec_push_size, newNode, List.map_nil]
    rfl

theorem created_virt_xElab {env : Env} (f : Nat) {s : State} (F : XFrag env s) :
    Created (.fold (xBase + f) (.int 0) []) (virt s) (virt (xElab f s)) (virt s).top where
  nodes := virt_xElab_nodes f F
  vars := Or.inl ⟨fun _ h => Kind.noConfusion h, rfl⟩
  rch := rfl
  pc := rfl
  scope := rfl
  stabNum := rfl
  status := rfl
  alive := rfl
  setDuringStab := rfl
  deadVars := rfl
  handleAfterStab := rfl
  pinv := rfl
  observers := rfl
  newObservers := rfl
  disallowedObservers := rfl
  top := rfl

theorem xfrag_xElab {env : Env} {f : Nat} {s : State} (F : XFrag env s) (hf : XEnvOK env f) (hfb : f < xBase) :
    XFrag env (xElab f s) where
  pc := F.pc
  kind m hm := by
    rw [xElab_size] at hm
    by_cases h : m < s.nodes.size
    · rw [xElab_nodeD_lt f s h]; exact F.kind m h
    · have : m = s.nodes.size := by omega
      rw [this, xElab_nodeD_new]; trivial
  valid m hm := by
    rw [xElab_size] at hm
    by_cases h : m < s.nodes.size
    · rw [xElab_nodeD_lt f s h]; exact F.valid m h
    · have : m = s.nodes.size := by omega
      rw [this, xElab_nodeD_new]
  xrec m e hm hk := by
    rw [xElab_size] at hm
    by_cases h : m < s.nodes.size
    · rw [xElab_nodeD_lt f s h] at hk
      obtain ⟨er, h1, h2⟩ := F.xrec m e h hk
      exact ⟨er, xElab_experts_old f s h1, h2⟩
    · have hms : m = s.nodes.size := by omega
      rw [hms, xElab_nodeD_new] at hk
      cases hk
      exact ⟨{ f := f, node := s.nodes.size }, xElab_experts_new f s, hms.symm⟩
  xok e er he := by
    by_cases h : e < s.experts.size
    · rw [xElab_experts_lt f s h] at he
      exact F.xok e er he
    · by_cases h2 : e = s.experts.size
      · subst h2
        rw [xElab_experts_new] at he
        cases he
        exact ⟨rfl, rfl, hf, hfb⟩
      · rw [Array.getElem?_eq_none (by rw [xElab_xsize]; omega)] at he; cases he

theorem ahhEmpty_xElab {f : Nat} {s : State} (A : AhhEmpty s) : AhhEmpty (xElab f s) := by
  refine ⟨A.length, A.buckets, fun m => ?_⟩
  by_cases h2 : m = s.nodes.size
  · rw [h2, xElab_nodeD_new]
  · rw [xElab_nodeD_ne f s h2]; exact A.marks m

/-! the state after `create (expert f)` has the nodes and records of `xElab f s`; the fragment, the virtual nodes and `AhhEmpty` read nothing
else of it -/

theorem created_virt {env : Env} (f : Nat) {s : State} (F : XFrag env s) :
    Created (.fold (xBase + f) (.int 0) []) (virt s) (virt (xCreated f s)) ((virt s).top.push (virt s).nodes.size) :=
  { created_virt_xElab f F with nodes := virt_xElab_nodes f F, top := by simp [virt, xCreated] }

theorem XFrag.created {env : Env} {f : Nat} {s : State} (F : XFrag env s) (hf : XEnvOK env f) (hfb : f < xBase) :
    XFrag env (xCreated f s) :=
  have F' := xfrag_xElab F hf hfb
  ⟨F'.pc, F'.kind, F'.valid, F'.xrec, F'.xok⟩

theorem ahhEmpty_created {f : Nat} {s : State} (A : AhhEmpty s) : AhhEmpty (xCreated f s) :=
  have A' := ahhEmpty_xElab (f := f) A
  ⟨A'.length, A'.buckets, A'.marks⟩

/-- **creating an expert node keeps the invariant** -/
theorem step_create_expert {env : Env} {rk : Nat → Nat} {f : Nat} {tk : Array Nat} {s s' : State}
    {r : String × Array Nat} (Q : QInvX env rk s) (hf : XEnvOK env f) (hfb : f < xBase)
    (h : (stepAction env (.create (.expert f)) tk).run.run s = (.ok r, s')) : QInvX env rk s' := by
  have hsc : s.currentScope = .top := Q.q.struct.static.scope
  rw [step_create_expert_inv hsc h]
  exact ⟨Q.frag.created hf hfb,
    Created.qinv (created_virt f Q.frag) Q.q trivial (fun c hc => by cases hc), ahhEmpty_created Q.ahh⟩

end IncrVerif.Proofs.ExpertH
