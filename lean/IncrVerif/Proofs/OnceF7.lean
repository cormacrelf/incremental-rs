import IncrVerif.Proofs.OnceF5
/-!
# C02, combined fragment, part 7: NON-VACUITY — the drain traces of the five `stabilise`s of `exHistG` (kernel-checked)
-/
namespace IncrVerif.Proofs.OnceF
open IncrVerif.Engine IncrVerif.Driver IncrVerif.Proofs IncrVerif.Proofs.Step IncrVerif.Proofs.Sched IncrVerif.Proofs.Quiet
open IncrVerif.Proofs.FullH IncrVerif.Proofs.TidyH IncrVerif.Proofs.BindH

set_option maxRecDepth 100000 in
/-- the drain traces of the five `stabilise`s of `exHistG` (kernel-checked) -/
theorem exHistG_traces :
    EX.traceAfter (exHistG.take 10) = some [1, 2, 3, 0, 6, 12, 7, 8, 15, 9, 10, 16, 11, 13, 14, 4, 5] ∧
    EX.traceAfter (exHistG.take 12) = some [2, 6, 12, 17, 18, 11, 13, 14, 4, 5] ∧
    EX.traceAfter (exHistG.take 15) = some [2, 6, 12, 7, 19, 20, 11, 13, 14, 4, 5] ∧
    EX.traceAfter (exHistG.take 17) = some [1, 3, 6, 21, 7, 4, 5] ∧
    EX.traceAfter (exHistG.take 19) = some [2, 6, 7, 5] := by
  simp only [EX.traceAfter_eq]
  have h := (EX.along_spec fEnv EX.traceOf exHistG [10, 12, 15, 17, 19] 0 (by decide)).symm.trans
    (show EX.along fEnv EX.traceOf [10, 12, 15, 17, 19] 0 exHistG (EX.runTo fEnv exHistG 0) =
      [some [1, 2, 3, 0, 6, 12, 7, 8, 15, 9, 10, 16, 11, 13, 14, 4, 5], some [2, 6, 12, 17, 18, 11, 13, 14, 4, 5],
        some [2, 6, 12, 7, 19, 20, 11, 13, 14, 4, 5], some [1, 3, 6, 21, 7, 4, 5], some [2, 6, 7, 5]] by decide +kernel)
  simpa only [List.map_cons, List.map_nil, List.cons.injEq, and_true] using h

end IncrVerif.Proofs.OnceF
