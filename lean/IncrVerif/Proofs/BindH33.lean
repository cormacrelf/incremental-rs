import IncrVerif.Proofs.BindH32
/-!
# Binds, `relink`, part 3: `stateAddParent rhs 1 main` from `.linking 1` closes the bind's main node
-/
namespace IncrVerif.Proofs.BindH
open IncrVerif.Engine IncrVerif.Proofs IncrVerif.Proofs.Step IncrVerif.Proofs.Sched IncrVerif.Proofs.Quiet

namespace BR

section proj
variable {s s' : State} (h : KRel s s') (m : Nat)
include h
theorem KRel.kind : (s'.nodeD m).kind = (s.nodeD m).kind := by
  have := h.node m; simp only [nodeKey, Prod.mk.injEq] at this; exact this.1
theorem KRel.valid : (s'.nodeD m).valid = (s.nodeD m).valid := by
  have := h.node m; simp only [nodeKey, Prod.mk.injEq] at this; exact this.2.2.2.2.1
theorem KRel.recomputedAt : (s'.nodeD m).recomputedAt = (s.nodeD m).recomputedAt := by
  have := h.node m; simp only [nodeKey, Prod.mk.injEq] at this; exact this.2.2.2.2.2.1
theorem KRel.changedAt : (s'.nodeD m).changedAt = (s.nodeD m).changedAt := by
  have := h.node m; simp only [nodeKey, Prod.mk.injEq] at this; exact this.2.2.2.2.2.2.1
end proj

theorem KRel.isStale {env : Env} {s s' : State} (h : KRel s s') (A : AllB env s) {m : Nat}
    (hm : m < s.nodes.size) : s'.isStale m = s.isStale m :=
  isStale_congr_B (A.node m hm).kind (h.kind m) (h.valid m) (h.recomputedAt m) h.vars h.binds
    (fun c _ => h.changedAt c)

theorem upd_allClosed_closed (p : Nat) : upd allClosed p .closed = allClosed := upd_eq_self _ _ _ rfl

/-- `state_add_parent rhs 1 main` where `main` (excused, possibly queued) is `.linking 1` with children `[n, rhs]`:
afterwards everything is closed -/
theorem stateAddParent_specB {env : Env} {fuel b n main rhs : Nat} {t t' : State} {ex : Nat → Prop} {br : BindRec}
    (h : (stateAddParent env fuel rhs 1 main).run.run t = (.ok (), t'))
    (I : GInvB env t (upd allClosed main (.linking 1)) ex) (hex : ex main) (hah : AhhEmpty t)
    (hb : t.binds[b]? = some br) (hkm : (t.nodeD main).kind = .bindMain b n)
    (hch : t.children main = [n, rhs]) (hrn : rhs < n) (hnm : n < main)
    (hhn : (t.nodeD n).height < (t.nodeD main).height) (h0 : 0 ≤ (t.nodeD main).height)
    (hgq : (t.nodeD main).inRch = true → (t.nodeD main).heightInRch = (t.nodeD main).height)
    (hpi : t.propagateInvalidity = [])
    (hrhs : ∀ (b' : Nat) (br' : BindRec), t.binds[b']? = some br' → br'.allNodesCreatedOnRhs = [])
    (hst : (t.nodeD main).recomputedAt < (t.nodeD n).changedAt) :
    GInvB env t' allClosed ex ∧ AhhEmpty t' ∧ KRel t t' := by
  have hms : main < t.nodes.size := I.opLt main (by rw [upd_self]; exact Op.linking_ne_closed _)
  have hstale : t.isStale main = true := isStale_main (I.node hms).valid hkm hb hst
  unfold stateAddParent at h
  rw [run_bind_get] at h
  replace h := bind_dassert_inv h
  obtain ⟨_, t1, hap, h⟩ := bind_ok_inv h
  obtain ⟨I1, hab1, hl1, -⟩ := addParentWithoutAdjustingHeights_specB hap I (upd_self _ _ _)
    (by rw [hch]; rfl)
    (by
      intro m hm
      by_cases e : m = main
      · omega
      · rw [upd_other _ _ _ e] at hm; exact absurd rfl hm)
  rw [upd_upd] at I1
  have K1 : KRel t t1 := KRel.of_cframe hl1.fr hl1.pinv
  have E1 : AhhEmpty t1 := ahhEmpty_frame hah (CFrame.ahh hl1.fr) (((PresM.link env fuel).2 _ _ _).h _ _ _ hap)
  have hch1 : t1.children main = [n, rhs] := by
    rw [(BL.KeyEq.of_cframe hl1.fr).children I.frag]; exact hch
  have hm1 : t1.nodeD main = t.nodeD main := hab1 main (by omega)
  have hn1 : t1.nodeD n = t.nodeD n := hab1 n hrn
  have hnec1 : t1.isNecessary main = true := I1.lnec main 2 (upd_self _ _ _)
  obtain ⟨cn, hcn, h⟩ := bind_getNode_inv h
  obtain ⟨pn, hpn, h⟩ := bind_getNode_inv h
  dsimp only at h
  have hcnD : t1.nodeD rhs = cn := nodeD_of_some hcn
  have hpnD : t1.nodeD main = pn := nodeD_of_some hpn
  -- the tail of the function, from a state in which everything is closed
  have tail : ∀ t2, GInvB env t2 allClosed ex → AhhEmpty t2 → KRel t1 t2 → t2.isNecessary main = true →
      (do propagateInvalidity fuel
          let s ← get
          dassert (s.isNecessary main) "node:state_add_parent:parent-necessary"
          let p ← getNode main
          let c ← getNode rhs
          if !p.inRch && (p.recomputedAt == -1 || c.changedAt > p.recomputedAt) then
            rchInsert main).run.run t2 = (.ok (), t') →
      GInvB env t' allClosed ex ∧ AhhEmpty t' ∧ KRel t t' := by
    intro t2 I2 E2 K2 hnec2 h
    have K12 : KRel t t2 := K1.trans K2
    obtain ⟨_, t3, hpi3, h⟩ := bind_ok_inv h
    have e3 : t3 = t2 := propagateInvalidity_nil (by rw [K12.pinv]; exact hpi) hpi3
    rw [e3] at h
    rw [run_bind_get] at h
    replace h := bind_dassert_inv h
    obtain ⟨p, hp, h⟩ := bind_getNode_inv h
    obtain ⟨c, hc, h⟩ := bind_getNode_inv h
    have hpD : t2.nodeD main = p := nodeD_of_some hp
    split at h
    · rename_i hcond
      have hnq : (t2.nodeD main).inRch = false := by
        rw [hpD]
        simp only [Bool.and_eq_true, Bool.not_eq_true'] at hcond
        exact hcond.1
      obtain ⟨nd, hnd, -, hmax, e, -, hl⟩ := rchInsert_rel h
      have hndD : t2.nodeD main = nd := nodeD_of_some hnd
      have hms2 : main < t2.nodes.size := by rw [K12.size]; exact hms
      have hst2 : t2.isStale main = true := by rw [K12.isStale I.frag hms]; exact hstale
      have I3 := open_full I2 rfl hnec2
      have I4 := BL.GInvB.close_link_stale I3 (upd_self _ _ _) hnq (Nat.le_refl _)
        (by
          intro i c' hk
          have hm := I2.conv main i c' hk ((wants_closed rfl).2 hnec2)
          exact I2.hlt c' main i hm rfl)
        (I2.hpos main hnec2 rfl) (by rw [hndD]; exact hmax) hst2
      rw [upd_upd, upd_allClosed_closed, hndD, ← e] at I4
      exact ⟨I4, ahhEmpty_frame E2 (CFrame.ahh (hl (fun _ => False)).fr) ((PresM.rchInsert main).h _ _ _ h),
        K12.trans (KRel.of_cframe (hl (fun _ => False)).fr (hl (fun _ => False)).pinv)⟩
    · obtain ⟨-, e⟩ := pure_ok_inv h
      rw [e]
      exact ⟨I2, E2, K12⟩
  by_cases hge : cn.height ≥ pn.height
  · rw [if_pos hge] at h
    obtain ⟨_, t2, hadj, h⟩ := bind_ok_inv h
    have hedge : (main, 1) ∈ (t1.nodeD rhs).parents :=
      I1.conv main 1 rhs (by rw [hch1]; rfl) ((wants_linking (upd_self _ _ _)).2 (by omega))
    obtain ⟨I2, E2, R2, -⟩ := adjustHeights_specB_full hadj I1 (by rw [upd_self, hch1]; rfl)
      (fun m e => by rw [upd_other _ _ _ e]; rfl) ⟨1, hedge⟩
      (by
        intro c i hm hc
        have hk := (I1.par c main i hm).1
        rw [hch1] at hk
        rcases i with _ | _ | i
        · simp only [List.getElem?_cons_zero, Option.some.injEq] at hk
          rw [← hk, hm1, hn1]; exact hhn
        · simp only [List.getElem?_cons_succ, List.getElem?_cons_zero, Option.some.injEq] at hk
          exact absurd hk.symm hc
        · simp at hk)
      (by rw [hm1]; exact hgq) (fun _ => Or.inl hex) E1
      (by rw [K1.binds]; exact hrhs)
    rw [upd_upd, upd_allClosed_closed] at I2
    exact tail t2 I2 E2 (KRel.of_hrel R2) (by rw [R2.nec]; exact hnec1) h
  · rw [if_neg hge] at h
    have I2 := close_full I1 (upd_self _ _ _) (by rw [hch1]; exact Nat.le_refl 2)
      (by
        intro i c hk
        rw [hch1] at hk
        rcases i with _ | _ | i
        · simp only [List.getElem?_cons_zero, Option.some.injEq] at hk
          rw [← hk, hm1, hn1]; exact hhn
        · simp only [List.getElem?_cons_succ, List.getElem?_cons_zero, Option.some.injEq] at hk
          rw [← hk, hcnD, hpnD]; omega
        · simp at hk)
      (by rw [hm1]; exact h0) (by rw [hm1]; exact hgq) (fun _ => Or.inl hex)
    rw [upd_upd, upd_allClosed_closed] at I2
    exact tail t1 I2 E1 (KRel.refl _) hnec1 h

end BR

end IncrVerif.Proofs.BindH
