import IncrVerif.Proofs.ExpertH20
import IncrVerif.Proofs.ExpertH19
/-!
# Part 18: whole histories of static programs (G4)
-/
namespace IncrVerif.Proofs.ExpertH.QR
open IncrVerif.Engine IncrVerif.Driver IncrVerif.Proofs IncrVerif.Proofs.Step IncrVerif.Proofs.Sched

/-- every observer in use reads the from-scratch evaluation of its node on the current variable values -/
def ReadsOK (env : Env) (s : State) : Prop :=
  ∀ (o : Nat) (ob : ObsRec), s.observers[o]? = some ob → ob.state = .inUse →
    ∀ k, (s.nodeD ob.node).height.toNat < k →
      ∃ v, s.tryGetValue env o = .ok v ∧ eval env s k ob.node = some v

/-- no observer is waiting to be added or unlinked -/
def ObsSettled (s : State) : Prop :=
  ∀ (o : Nat) (ob : ObsRec), s.observers[o]? = some ob → ob.state = .inUse ∨ ob.state = .unlinked

theorem stabilised_reads {env : Env} {rk : Nat → Nat} {fuel : Nat} {s s' : State} (R : Stabilised env rk fuel s s') :
    ReadsOK env s' ∧ ObsSettled s' := by
  have Q' := R.inv
  have O' : ObsInv s' [] [] := by
    have := Q'.obs
    unfold ObsOK at this
    rw [R.newObservers, R.disallowedObservers] at this
    exact this
  constructor
  · intro o ob ho hst k hk
    have hmem : o ∈ (s'.nodeD ob.node).observers := (O'.mem ob.node o).2 ⟨ob, ho, rfl, Or.inl hst⟩
    have hn : s'.isNecessary ob.node = true := nec_of_mem_observers hmem
    obtain ⟨-, -, -, hv, hs⟩ := R.values ob.node hn k hk
    obtain ⟨v, hev⟩ := Option.isSome_iff_exists.1 hs
    refine ⟨v, ?_, hev⟩
    exact tryGetValue_inUse Q'.alive Q'.status ho hst (hv.trans hev)
  · intro o ob ho
    cases hst : ob.state with
    | inUse => exact Or.inl rfl
    | unlinked => exact Or.inr rfl
    | created => have := O'.created o ob ho hst; cases this
    | disallowed => have := (O'.dis o ob ho).1 hst; cases this

/-- **C05 cone.** In a state satisfying the invariant a node is necessary iff it is in the cone of a linked observer. -/
theorem QInv.nec_iff_cone {env : Env} {rk : Nat → Nat} {s : State} (Q : QInv env rk s) (n : Nat) :
    s.isNecessary n = true ↔ InCone s n :=
  QR.nec_iff_cone Q.struct Q.obs n

/-- **G4 from any state: every state reached.** -/
theorem prefix_q {env : Env} {rk : Nat → Nat} {as bs : List Action} {s0 s : State} {tk0 tk : Array Nat}
    (Q0 : QInv env rk s0) (ha : ∀ a, a ∈ as ++ bs → StaticAction env a)
    (h : runActions env (as ++ bs) s0 tk0 = .ok (s, tk)) :
    ∃ s1 tk1, runActions env as s0 tk0 = .ok (s1, tk1) ∧ QInv env rk s1 ∧
      runActions env bs s1 tk1 = .ok (s, tk) := by
  simp only [runActions_eq] at h ⊢
  exact Hist.runActions_split_all (fun _ _ _ _ _ Q ha hx => step_q Q ha hx) Q0 ha h

/-- **G4 from any state: every `stabilise` of a run** that starts in a state satisfying the invariant. -/
theorem stabilise_in_run {env : Env} {rk : Nat → Nat} {as bs : List Action} {s0 s : State}
    {tk0 tk : Array Nat} (Q0 : QInv env rk s0) (ha : ∀ a, a ∈ as ++ Action.stabilise :: bs → StaticAction env a)
    (h : runActions env (as ++ Action.stabilise :: bs) s0 tk0 = .ok (s, tk)) :
    ∃ s1 tk1 s2, runActions env as s0 tk0 = .ok (s1, tk1) ∧ QInv env rk s1 ∧
      (stabilise env fuelDefault).run.run s1 = (.ok (), s2) ∧ Stabilised env rk fuelDefault s1 s2 ∧
      ReadsOK env s2 ∧ ObsSettled s2 ∧ (∀ n, s2.isNecessary n = true ↔ InCone s2 n) ∧
      runActions env bs s2 tk1 = .ok (s, tk) := by
  simp only [runActions_eq] at h ⊢
  obtain ⟨s1, tk1, s2, h1, Q1, hst, -, h2⟩ := Hist.runActions_stabilise_all (fun _ _ _ _ _ Q ha hx => step_q Q ha hx) Q0 ha h
  have R := stabilise_q Q1 hst
  obtain ⟨hr, hos⟩ := stabilised_reads R
  exact ⟨s1, tk1, s2, h1, Q1, hst, R, hr, hos, R.inv.nec_iff_cone, h2⟩

/-- the initial state followed by a list of static actions (rank = index) -/
theorem history_q {env : Env} {N : Nat} {d : Bool} {acts : List Action} {s : State} {tk : Array Nat}
    (ha : ∀ a, a ∈ acts → StaticAction env a)
    (h : runActions env acts (State.init N d) #[] = .ok (s, tk)) : QInv env (fun m => m) s :=
  runActions_q (qinv_init env N d) ha h

/-- **G4: every state reached.** If a history of static actions runs (without panic) from the initial state,
then every prefix runs, and the state it reaches satisfies the invariant. -/
theorem history_prefix {env : Env} {N : Nat} {d : Bool} {as bs : List Action} {s : State} {tk : Array Nat}
    (ha : ∀ a, a ∈ as ++ bs → StaticAction env a)
    (h : runActions env (as ++ bs) (State.init N d) #[] = .ok (s, tk)) :
    ∃ s1 tk1, runActions env as (State.init N d) #[] = .ok (s1, tk1) ∧ QInv env (fun m => m) s1 ∧
      runActions env bs s1 tk1 = .ok (s, tk) :=
  prefix_q (qinv_init env N d) ha h

/-- **G4: every `stabilise` of a history.** At each `stabilise` action of a history of static actions that runs
from the initial state: the state `s1` before it satisfies the invariant; the `stabilise` returns a state `s2`
with all the conclusions of `stabilise_q` (invariant, nothing pending, variables unchanged, every necessary node
non-stale and equal to its from-scratch evaluation, the drain ran no node twice and only necessary nodes);
every observer in use reads the from-scratch evaluation of its node on the current variable values; every
observer is in use or unlinked; and a node is necessary iff it is in the cone of an observer in use. -/
theorem history_stabilise {env : Env} {N : Nat} {d : Bool} {as bs : List Action} {s : State}
    {tk : Array Nat} (ha : ∀ a, a ∈ as ++ Action.stabilise :: bs → StaticAction env a)
    (h : runActions env (as ++ Action.stabilise :: bs) (State.init N d) #[] = .ok (s, tk)) :
    ∃ s1 tk1 s2, runActions env as (State.init N d) #[] = .ok (s1, tk1) ∧ QInv env (fun m => m) s1 ∧
      (stabilise env fuelDefault).run.run s1 = (.ok (), s2) ∧ Stabilised env (fun m => m) fuelDefault s1 s2 ∧
      ReadsOK env s2 ∧ ObsSettled s2 ∧ (∀ n, s2.isNecessary n = true ↔ InCone s2 n) ∧
      runActions env bs s2 tk1 = .ok (s, tk) :=
  stabilise_in_run (qinv_init env N d) ha h

end IncrVerif.Proofs.ExpertH.QR
