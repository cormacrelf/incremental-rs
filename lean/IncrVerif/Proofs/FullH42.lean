import IncrVerif.Proofs.FullH41
import IncrVerif.Proofs.FullH13
import IncrVerif.Proofs.FullH11
/-!
# C01 full fragment: one `recomputeOne` of a node that is neither a map_ref nor a map_with_old node, part 2
(the change detector `bindLhsChange`, `bindMain` with an invalid right-hand side: the ghost may be erased)
-/
namespace IncrVerif.Proofs.FullH
open IncrVerif.Engine IncrVerif.Proofs IncrVerif.Proofs.Step IncrVerif.Proofs.Sched IncrVerif.Proofs.Quiet

namespace ST

section
variable {K : Kind → Prop} {g : Nat → Option Val} {env : Env} {sp : Nat → Val → Val}

/-! ## sequencing that remembers the frame of the first program -/

theorem SimXAt.seqA {α β : Type} {s : State} {x x' : M α} {f f' : α → M β} (hx : SimAt K g s x x')
    (hf : ∀ a s1, x.run.run s = (.ok a, s1) → VM s s1 → SimXAt K g s1 (f a) (f' a)) :
    SimXAt K g s (x >>= f) (x' >>= f') :=
  .of_commX (NodeSim.CommXAt.seq_at hx.commIX fun a s1 h1 => NodeSim.CommXAt.intro fun hI => (hf a s1 h1 hI.2.vm).commX g s)

theorem SimAt.seqA {α β : Type} {s : State} {x x' : M α} {f f' : α → M β} (hx : SimAt K g s x x')
    (hf : ∀ a s1, x.run.run s = (.ok a, s1) → VM s s1 → SimAt K g s1 (f a) (f' a)) :
    SimAt K g s (x >>= f) (x' >>= f') := by
  intro hn r s' h
  obtain ⟨a, s1, h1, h2⟩ := bind_ok_inv h
  obtain ⟨e1, n1, v1⟩ := hx hn a s1 h1
  rw [run_bind_ok e1]
  obtain ⟨e2, n2, v2⟩ := hf a s1 h1 v1 n1 r s' h2
  exact ⟨e2, n2, v1.trans v2⟩

/-- node `n` exists, is not a map_ref node and is exact (kept by everything that is simulated) -/
def NK (n : Nat) (t : State) : Prop := n < t.nodes.size ∧ (∀ p i, (t.nodeD n).kind ≠ .mapRef p i) ∧ Exact t n

theorem NK.vm {n : Nat} {t t' : State} (h : NK n t) (v : VM t t') : NK n t' :=
  ⟨Nat.lt_of_lt_of_le h.1 v.size, fun p i => by rw [(v.kind n h.1).1]; exact h.2.1 p i,
    by unfold Exact; rw [(v.kind n h.1).1, (v.kind n h.1).2.1]; exact h.2.2⟩

/-! ## the `bindMain` branch, the right-hand side may be invalid -/

theorem SimXAt.bindMainTail {fuel n b : Nat} {t : State} (hk : ∀ p i, (t.nodeD n).kind ≠ .mapRef p i)
    (hc : Exact t n)
    (hread : ∀ br r, t.binds[b]? = some br → br.rhs = some r → tv g t r = t.value env r) :
    SimXAt K g t (bindMainTail env fuel n b) (bindMainTail (VE env sp) fuel n b) := by
  unfold ST.bindMainTail
  refine .of_commX ?_
  refine NodeSim.CommXAt.seq_at (Sim.getBind b t).commIX fun br t1 h1 => ?_
  obtain ⟨rfl, hb⟩ := getBind_inv h1
  cases hr : br.rhs with
  | none => exact NodeSim.CommXAt.thr_any nofun _
  | some r =>
    have hrd := hread br r hb hr
    dsimp only
    refine NodeSim.CommXAt.getNode_seq fun nd xs _ hnd _ => ?_
    rw [NodeSim.Relabel.node_valid]
    refine NodeSim.CommXAt.cond Iff.rfl (fun _ => ?_) (fun _ => ?_)
    · refine NodeSim.CommXAt.get_seq ?_
      rw [← virt_eq, virt_value, hrd]
      cases t1.value env r with
      | none => exact NodeSim.CommXAt.ret _
      | some v => exact (SimAt.maybeChangeValue hk hc).commIX.toX
    · refine NodeSim.CommXAt.seq ((SimX.invalidateNode fuel n).commX _ _ g t1) fun _ t2 g2 _ => ?_
      refine NodeSim.CommXAt.seq ((SimX.propagateInvalidity fuel).commX _ _ g2 t2) fun _ t3 g3 _ => ?_
      exact NodeSim.CommXAt.ret _

/-! ## the change detector, phase by phase (`Inval.recomputeOne_bindLhsChange_run`) -/

/-- the template is elaborated alike by the actual and the virtual engine (what `SimAt.elabTemplate` needs) -/
def TemplS (env : Env) (sp : Nat → Val → Val) (t : Template) : Prop :=
  (∀ i ∈ t.instrs, InstrS env sp i ∧ ∀ o ∈ InstrOpnds i, OpndS o) ∧ OpndS t.ret

theorem tick_inv {s s' : State} {u : Unit} (h : tick.run.run s = (.ok u, s')) :
    s'.top = s.top ∧ s'.nodes = s.nodes := by
  unfold tick at h
  rw [run_bind_get] at h
  cases hp : s.panicCountdown with
  | none => rw [hp] at h; obtain ⟨-, rfl⟩ := pure_ok_inv h; exact ⟨rfl, rfl⟩
  | some k =>
    rw [hp] at h
    dsimp only at h
    split at h
    · rw [run_bind_modify] at h; cases h
    · rw [run_modify] at h; cases h; exact ⟨rfl, rfl⟩

theorem logEv_inv {e : Event} {s s' : State} {u : Unit} (h : (logEv e).run.run s = (.ok u, s')) :
    s'.top = s.top ∧ s'.nodes = s.nodes := by
  rw [run_logEv] at h; cases h; exact ⟨rfl, rfl⟩

theorem TopLt.of_eq {s s' : State} (h : TopLt s) (e : s'.top = s.top ∧ s'.nodes = s.nodes) : TopLt s' := by
  intro k r hk; rw [e.1] at hk; rw [e.2]; exact h k r hk

/-- phase 1 after the reset of the list of the nodes created on the right-hand side -/
theorem SimAt.lhsRunRest {n b lhs body : Nat} {t : State}
    (hrd : tv g t lhs = t.value env lhs) (htop : TopLt t) (htempl : ∀ v, TemplS env sp (env.body body v)) :
    SimAt (FK env sp) g t
      (do let lhsVal ← valueUnwrap env lhs "node:recompute_one:child-value"
          let oldScope := (← get).currentScope
          modify fun s => { s with currentScope := .bind b }
          tick
          let t := env.body body lhsVal
          logEv (.inv s!"b{body}" n [lhsVal] "")
          let rhs ← elabTemplate env t lhsVal
          modify fun s => { s with currentScope := oldScope }
          pure rhs)
      (do let lhsVal ← valueUnwrap (VE env sp) lhs "node:recompute_one:child-value"
          let oldScope := (← get).currentScope
          modify fun s => { s with currentScope := .bind b }
          tick
          let t := (VE env sp).body body lhsVal
          logEv (.inv s!"b{body}" n [lhsVal] "")
          let rhs ← elabTemplate (VE env sp) t lhsVal
          modify fun s => { s with currentScope := oldScope }
          pure rhs) := by
  unfold Engine.valueUnwrap
  simp only [bind_assoc]
  refine SimAt.get_seq ?_
  rw [virt_value, hrd]
  cases t.value env lhs with
  | none => exact SimAt.pan _ _
  | some v =>
    simp only [pure_bind]
    refine SimAt.get_seq ?_
    rw [virt_currentScope]
    refine SimAt.mod_seq rfl rfl ?_
    refine SimAt.seq (Sim.tick _) fun _ t2 h2 => ?_
    refine SimAt.seq (Sim.logEv _ _) fun _ t3 h3 => ?_
    have e2 := tick_inv h2
    have ht3 : TopLt t3 := TopLt.of_eq (TopLt.of_eq htop e2) (logEv_inv h3)
    refine SimAt.seq (SimAt.elabTemplate _ v (htempl v).1 (htempl v).2 ht3) fun rhs t4 _ => ?_
    exact SimAt.mod_seq rfl rfl (SimAt.ret _)

/-- phase 1: the closure runs -/
theorem SimAt.lhsRunClosure {n b : Nat} {br : BindRec} {s : State}
    (hrd : tv g s br.lhs = s.value env br.lhs) (htop : TopLt s) (htempl : ∀ v, TemplS env sp (env.body br.body v)) :
    SimAt (FK env sp) g s (Inval.lhsRunClosure env n b br) (Inval.lhsRunClosure (VE env sp) n b br) := by
  unfold Inval.lhsRunClosure Engine.modBind
  refine SimAt.mod_seq rfl rfl (SimAt.lhsRunRest ?_ (TopLt.of_eq htop ⟨rfl, rfl⟩) htempl)
  generalize hs' : ({ s with binds := s.binds.modify b fun x => { x with allNodesCreatedOnRhs := [] } } : State) = s'
  have e1 : tv g s' br.lhs = tv g s br.lhs := by subst hs'; rfl
  have e2 : s'.value env br.lhs = s.value env br.lhs :=
    value_congr env s s' (by subst hs'; rfl) (fun m => by subst hs'; rfl) br.lhs
  rw [e1, e2]; exact hrd

/-- phase 2: the right-hand side of the bind main is swapped -/
theorem SimX.lhsRelink (fuel n b : Nat) (br : BindRec) (now : Int) (rhs : Nat) :
    SimX K (Inval.lhsRelink env fuel n b br now rhs) (Inval.lhsRelink (VE env sp) fuel n b br now rhs) := by
  intro g s
  refine .of_commX ?_
  simx_hyps g s
  unfold Inval.lhsRelink; sim

/-- phase 3: the nodes of the previous run are invalidated -/
theorem SimX.lhsInvalidateOld (fuel : Nat) (br : BindRec) :
    SimX K (Inval.lhsInvalidateOld fuel br) (Inval.lhsInvalidateOld fuel br) := by
  intro g s
  refine .of_commX ?_
  simx_hyps g s
  unfold Inval.lhsInvalidateOld; sim

/-- phase 4: the change detector "changes" -/
theorem SimAt.lhsFinish {fuel n : Nat} {t : State} (hk : ∀ p i, (t.nodeD n).kind ≠ .mapRef p i) (hc : Exact t n) :
    SimAt K g t (Inval.lhsFinish env fuel n) (Inval.lhsFinish (VE env sp) fuel n) := by
  unfold Inval.lhsFinish
  refine SimAt.getNode_seq fun nd hnd _ => ?_
  rw [virtNode_valid]
  refine SimAt.seq (Sim.dassert _ _ t) fun _ t1 h1 => ?_
  have e : t1 = t := by
    rw [run_dassert] at h1; split at h1 <;> cases h1; rfl
  subst e
  exact SimAt.maybeChangeValue hk hc

/-- phase 4 for a change detector: no condition on the cutoff -/
theorem SimAt.lhsFinish_lc {fuel n : Nat} {t : State} (hk : ∃ b, (t.nodeD n).kind = .bindLhsChange b) :
    SimAt K g t (Inval.lhsFinish env fuel n) (Inval.lhsFinish (VE env sp) fuel n) := by
  obtain ⟨b, hb⟩ := hk
  exact SimAt.lhsFinish (fun p i => by rw [hb]; exact fun e => by cases e) (exact_of_lc hb)

end
end ST
end IncrVerif.Proofs.FullH
