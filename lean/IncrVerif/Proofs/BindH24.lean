import IncrVerif.Proofs.BindH23
/-!
# Binds, unlinking side, part 2: pure step lemmas for `GInvB` (unlinking)

The lemmas of `Proofs/Quiet5.lean` (`GInv.removeEdge`, `close_unlink`, `rchRemove_open`, `remObs`) for `GInvB`, plus
`GInvB.dropLastEdge` (removing the last recorded child edge of a CLOSED necessary parent, which opens it as
`.linking idx`).
-/
namespace IncrVerif.Proofs.BindH
open IncrVerif.Engine IncrVerif.Proofs IncrVerif.Proofs.Step IncrVerif.Proofs.Sched IncrVerif.Proofs.Quiet

namespace BU

theorem upd_unl_closed {op : Nat → Op} {p a b : Nat} (hop : op p = .unlinking a) {m : Nat}
    (h : upd op p (.unlinking b) m = .closed) : op m = .closed := (U4.g1_upd hop m).1 h

theorem op_ne_closed_of_linking {op : Nat → Op} {m k : Nat} (h : op m = .linking k) : op m ≠ .closed := by
  rw [h]; exact Op.linking_ne_closed k

theorem op_ne_closed_of_unlinking {op : Nat → Op} {m k : Nat} (h : op m = .unlinking k) : op m ≠ .closed := by
  rw [h]; exact Op.unlinking_ne_closed k

end BU

section
variable {env : Env} {s s' : State} {op : Nat → Op} {ex : Nat → Prop}

/-! ## unlinking -/

/-- `removeParent c idx p` where `p` is being unlinked (`.unlinking idx`) and `c` is its child `idx`: afterwards `p` is
`.unlinking (idx + 1)`; `c` stays closed if it is still necessary and is relabelled `.unlinking 0` otherwise (the
caller runs `checkIfUnnecessary c` next) -/
theorem GInvB.removeEdge {c p idx pi : Nat} (I : GInvB env s op ex)
    (hidx : (s.nodeD c).parents.idxOf? (p, idx) = some pi)
    (U : NodeUpd c (fParents (swapRemove (s.nodeD c).parents pi)) s s') (hb : s'.binds = s.binds)
    (hop : op p = .unlinking idx) (hk : (s.children p)[idx]? = some c) (hcl : op c = .closed) :
    (s'.isNecessary c = true → GInvB env s' (upd op p (.unlinking (idx + 1))) ex) ∧
    (s'.isNecessary c = false →
      GInvB env s' (upd (upd op p (.unlinking (idx + 1))) c (.unlinking 0)) ex) := by
  have F := BU.Fr.of_upd U (U4.keepB_fParents _) hb
  have hhr := U4.hir_of_upd U (U4.keepB_fParents _)
  have hpc : (s'.nodeD c).parents = swapRemove (s.nodeD c).parents pi := U.self.parents
  obtain ⟨hmem, hnd'⟩ := swapRemove_spec _ _ _ (I.nodup c) hidx
  rw [← hpc] at hmem hnd'
  have hoth : ∀ m, m ≠ c → (s'.nodeD m).parents = (s.nodeD m).parents ∧
      (s'.nodeD m).observers = (s.nodeD m).observers :=
    fun m h => ⟨(U.other m h).parents, (U.other m h).observers⟩
  have hin : (p, idx) ∈ (s.nodeD c).parents := I.conv p idx c hk ((wants_unlinking hop).2 (Nat.le_refl _))
  have hn : s.isNecessary c = true := nec_of_mem_parents hin
  have hpc' : p ≠ c := Nat.ne_of_gt (I.kid_lt hk)
  have mem0 : ∀ c' x, x ∈ (s'.nodeD c').parents → x ∈ (s.nodeD c').parents := by
    intro c' x h
    by_cases e : c' = c
    · rw [e] at h ⊢; exact ((hmem x).1 h).1
    · rw [← (hoth c' e).1]; exact h
  have common : ∀ op' : Nat → Op,
      ((s'.isNecessary c = true ∧ op' c = .closed) ∨ (s'.isNecessary c = false ∧ op' c = .unlinking 0)) →
      (∀ m, m ≠ c → op' m = upd op p (.unlinking (idx + 1)) m) → GInvB env s' op' ex := by
    intro op' hd ho
    have clo : ∀ m, m ≠ c → (op' m = .closed ↔ op m = .closed) :=
      fun m e => by rw [ho m e]; exact U4.g1_upd hop m
    refine BU.core I F U.rch hhr hoth (fun x h => ((hmem x).1 h).1) hnd' ?_ hn hcl hd ?_ ?_ ?_ ?_ ?_ ?_ ?_
    · -- hkeep
      intro q i h hq
      refine (hmem (q, i)).2 ⟨h, fun e => ?_⟩
      have e1 : q = p := congrArg Prod.fst e
      have := (clo q (by rw [e1]; exact hpc')).1 hq
      rw [e1, hop] at this; cases this
    · -- cl
      intro m h
      by_cases e : m = c
      · rw [e]; exact hcl
      · exact (clo m e).1 h
    · -- hln
      intro m k e h
      rw [ho m e] at h
      exact I.lnec m k ((U4.g2_upd hop m k).1 h)
    · -- hun
      intro m k e h
      rw [ho m e] at h
      obtain ⟨k', h'⟩ := (U4.g3_upd hop m).1 ⟨k, h⟩
      exact I.unec m k' h'
    · -- hqn
      intro m e h
      rw [ho m e]; exact (U4.g3_upd hop m).2 h
    · -- hlt
      intro m e h
      exact I.opLt m (fun h' => h ((clo m e).2 h'))
    · -- hpar
      intro c' q i hm e hq'
      have hq : op q ≠ .closed := fun h' => hq' ((clo q e).2 h')
      have hm0 := mem0 c' _ hm
      by_cases ep : q = p
      · rw [ep] at hm hm0 ⊢
        have h1 := I.par c' p i hm0
        have h2 : idx ≤ i := (wants_unlinking hop).1 h1.2
        have hop' : op' p = .unlinking (idx + 1) := by rw [ho p hpc', upd_self]
        rw [wants_unlinking hop']
        by_cases ei : i = idx
        · rw [ei] at h1 hm
          have : c' = c := by
            have := h1.1; rw [hk] at this; exact (Option.some.inj this).symm
          rw [this] at hm
          exact absurd rfl ((hmem _).1 hm).2
        · omega
      · have hop' : op' q = op q := by rw [ho q e, upd_other _ _ _ ep]
        exact (U4.wants_open hop' hq).2 (I.par c' q i hm0).2
    · -- hconv
      intro q i c' hk' e hq' hw
      have hq : op q ≠ .closed := fun h' => hq' ((clo q e).2 h')
      by_cases ep : q = p
      · rw [ep] at hk' hw ⊢
        have hop' : op' p = .unlinking (idx + 1) := by rw [ho p hpc', upd_self]
        rw [wants_unlinking hop'] at hw
        have hm0 := I.conv p i c' hk' ((wants_unlinking hop).2 (by omega))
        by_cases ec : c' = c
        · rw [ec] at hm0 ⊢
          refine (hmem _).2 ⟨hm0, fun h => ?_⟩
          have : i = idx := congrArg Prod.snd h
          omega
        · rw [(hoth c' ec).1]; exact hm0
      · have hop' : op' q = op q := by rw [ho q e, upd_other _ _ _ ep]
        have hm0 := I.conv q i c' hk' ((U4.wants_open hop' hq).1 hw)
        by_cases ec : c' = c
        · rw [ec] at hm0 ⊢
          exact (hmem _).2 ⟨hm0, fun h => ep (congrArg Prod.fst h)⟩
        · rw [(hoth c' ec).1]; exact hm0
  constructor
  · intro h
    refine common _ (Or.inl ⟨h, ?_⟩) (fun _ _ => rfl)
    rw [upd_other _ _ _ (Ne.symm hpc')]; exact hcl
  · intro h
    exact common _ (Or.inr ⟨h, upd_self _ _ _⟩) (fun m e => upd_other _ _ _ e)

/-- the entry that `removeParent c idx p` looks for exists -/
theorem GInvB.removeEdge_mem {c p idx : Nat} (I : GInvB env s op ex)
    (hop : op p = .unlinking idx) (hk : (s.children p)[idx]? = some c) :
    (p, idx) ∈ (s.nodeD c).parents :=
  I.conv p idx c hk ((wants_unlinking hop).2 (Nat.le_refl _))

/-- `removeParent c idx p` where `p` is closed and necessary (it stays necessary: `p ≠ c`), `(children p)[idx]? = some c`,
and `idx` is the LAST child index of `p` (`(s.children p).length = idx + 1`): afterwards the invariant holds with `p`
labelled `.linking idx` (exactly the first `idx` child edges recorded).  `c` keeps whatever necessity it has left: if
it is still necessary (other parents, observers, `forceNecessary`) it stays closed; if it became unnecessary it is
relabelled `.unlinking 0` (it still has its own child edges recorded) and the caller runs `checkIfUnnecessary c`
next — same convention as in `GInvB.removeEdge`. -/
theorem GInvB.dropLastEdge {c p idx pi : Nat} (I : GInvB env s op ex)
    (hidx : (s.nodeD c).parents.idxOf? (p, idx) = some pi)
    (U : NodeUpd c (fParents (swapRemove (s.nodeD c).parents pi)) s s') (hb : s'.binds = s.binds)
    (hop : op p = .closed) (hnp : s.isNecessary p = true)
    (hk : (s.children p)[idx]? = some c) (hlen : (s.children p).length = idx + 1) (hcl : op c = .closed) :
    (s'.isNecessary c = true → GInvB env s' (upd op p (.linking idx)) ex) ∧
    (s'.isNecessary c = false →
      GInvB env s' (upd (upd op p (.linking idx)) c (.unlinking 0)) ex) := by
  have F := BU.Fr.of_upd U (U4.keepB_fParents _) hb
  have hhr := U4.hir_of_upd U (U4.keepB_fParents _)
  have hpc : (s'.nodeD c).parents = swapRemove (s.nodeD c).parents pi := U.self.parents
  obtain ⟨hmem, hnd'⟩ := swapRemove_spec _ _ _ (I.nodup c) hidx
  rw [← hpc] at hmem hnd'
  have hoth : ∀ m, m ≠ c → (s'.nodeD m).parents = (s.nodeD m).parents ∧
      (s'.nodeD m).observers = (s.nodeD m).observers :=
    fun m h => ⟨(U.other m h).parents, (U.other m h).observers⟩
  have hin : (p, idx) ∈ (s.nodeD c).parents := I.conv p idx c hk ((wants_closed hop).2 hnp)
  have hn : s.isNecessary c = true := nec_of_mem_parents hin
  have hpc' : p ≠ c := Nat.ne_of_gt (I.kid_lt hk)
  have mem0 : ∀ c' x, x ∈ (s'.nodeD c').parents → x ∈ (s.nodeD c').parents := by
    intro c' x h
    by_cases e : c' = c
    · rw [e] at h ⊢; exact ((hmem x).1 h).1
    · rw [← (hoth c' e).1]; exact h
  have common : ∀ op' : Nat → Op,
      ((s'.isNecessary c = true ∧ op' c = .closed) ∨ (s'.isNecessary c = false ∧ op' c = .unlinking 0)) →
      (∀ m, m ≠ c → op' m = upd op p (.linking idx) m) → GInvB env s' op' ex := by
    intro op' hd ho
    have hop' : op' p = .linking idx := by rw [ho p hpc', upd_self]
    have oo : ∀ m, m ≠ c → m ≠ p → op' m = op m := fun m e1 e2 => by rw [ho m e1, upd_other _ _ _ e2]
    refine BU.core I F U.rch hhr hoth (fun x h => ((hmem x).1 h).1) hnd' ?_ hn hcl hd ?_ ?_ ?_ ?_ ?_ ?_ ?_
    · -- hkeep
      intro q i h hq
      refine (hmem (q, i)).2 ⟨h, fun e => ?_⟩
      have e1 : q = p := congrArg Prod.fst e
      rw [e1, hop'] at hq; cases hq
    · -- cl
      intro m h
      by_cases e : m = c
      · rw [e]; exact hcl
      · by_cases e2 : m = p
        · rw [e2]; exact hop
        · rw [← oo m e e2]; exact h
    · -- hln
      intro m k e h
      by_cases e2 : m = p
      · rw [e2]; exact hnp
      · rw [oo m e e2] at h; exact I.lnec m k h
    · -- hun
      intro m k e h
      by_cases e2 : m = p
      · rw [e2, hop'] at h; cases h
      · rw [oo m e e2] at h; exact I.unec m k h
    · -- hqn
      intro m e h
      by_cases e2 : m = p
      · obtain ⟨k, h⟩ := h
        rw [e2, hop] at h; cases h
      · rw [oo m e e2]; exact h
    · -- hlt
      intro m e h
      by_cases e2 : m = p
      · rw [e2]; exact nec_lt_size hnp
      · rw [oo m e e2] at h; exact I.opLt m h
    · -- hpar
      intro c' q i hm e hq'
      have hm0 := mem0 c' _ hm
      by_cases ep : q = p
      · rw [ep] at hm hm0 ⊢
        have h1 := I.par c' p i hm0
        have h3 : i < (s.children p).length := (List.getElem?_eq_some_iff.1 h1.1).1
        rw [wants_linking hop']
        by_cases ei : i = idx
        · rw [ei] at h1 hm
          have : c' = c := by
            have := h1.1; rw [hk] at this; exact (Option.some.inj this).symm
          rw [this] at hm
          exact absurd rfl ((hmem _).1 hm).2
        · omega
      · have hoq : op' q = op q := oo q e ep
        have hq : op q ≠ .closed := by rw [← hoq]; exact hq'
        exact (U4.wants_open hoq hq).2 (I.par c' q i hm0).2
    · -- hconv
      intro q i c' hk' e hq' hw
      by_cases ep : q = p
      · rw [ep] at hk' hw ⊢
        rw [wants_linking hop'] at hw
        have hm0 := I.conv p i c' hk' ((wants_closed hop).2 hnp)
        by_cases ec : c' = c
        · rw [ec] at hm0 ⊢
          refine (hmem _).2 ⟨hm0, fun h => ?_⟩
          have : i = idx := congrArg Prod.snd h
          omega
        · rw [(hoth c' ec).1]; exact hm0
      · have hoq : op' q = op q := oo q e ep
        have hq : op q ≠ .closed := by rw [← hoq]; exact hq'
        have hm0 := I.conv q i c' hk' ((U4.wants_open hoq hq).1 hw)
        by_cases ec : c' = c
        · rw [ec] at hm0 ⊢
          exact (hmem _).2 ⟨hm0, fun h => ep (congrArg Prod.fst h)⟩
        · rw [(hoth c' ec).1]; exact hm0
  constructor
  · intro h
    refine common _ (Or.inl ⟨h, ?_⟩) (fun _ _ => rfl)
    rw [upd_other _ _ _ (Ne.symm hpc')]; exact hcl
  · intro h
    exact common _ (Or.inr ⟨h, upd_self _ _ _⟩) (fun m e => upd_other _ _ _ e)

/-- closing an unlinking node that is not queued -/
theorem GInvB.close_unlink {n k : Nat} (I : GInvB env s op ex) (hop : op n = .unlinking k)
    (hk : (s.children n).length ≤ k) (hq : (s.nodeD n).inRch = false) :
    GInvB env s (upd op n .closed) ex := by
  have hun := I.unec n k hop
  have noent : ∀ c i, (n, i) ∉ (s.nodeD c).parents := by
    intro c i h
    have h1 := I.par c n i h
    have h2 : k ≤ i := (wants_unlinking hop).1 h1.2
    have h3 : i < (s.children n).length := (List.getElem?_eq_some_iff.1 h1.1).1
    omega
  have oo : ∀ m, m ≠ n → upd op n .closed m = op m := fun m e => upd_other _ _ _ e
  have on : upd op n .closed n = .closed := upd_self _ _ _
  refine { frag := I.frag, par := ?_, conv := ?_, nodup := I.nodup, hlt := ?_, hpos := ?_, lnec := ?_,
           unec := ?_, heap := I.heap, hgt := ?_, qnec := ?_, queued := ?_, qstale := I.qstale, opLt := ?_ }
  · intro c q i hm
    have e : q ≠ n := fun e => noent c i (e ▸ hm)
    exact ⟨(I.par c q i hm).1, (U4.wants_same (oo q e)).2 (I.par c q i hm).2⟩
  · intro q i c hk' hw
    by_cases e : q = n
    · rw [e] at hw
      rw [wants_closed on, hun] at hw; cases hw
    · exact I.conv q i c hk' ((U4.wants_same (oo q e)).1 hw)
  · intro c q i hm ho
    have e : q ≠ n := fun e => noent c i (e ▸ hm)
    exact I.hlt c q i hm (by rw [← oo q e]; exact ho)
  · intro m hm ho
    have e : m ≠ n := fun e => by rw [e, hun] at hm; cases hm
    exact I.hpos m hm (by rw [← oo m e]; exact ho)
  · intro q kk ho
    have e : q ≠ n := fun e => by rw [e, on] at ho; cases ho
    rw [oo q e] at ho; exact I.lnec q kk ho
  · intro q kk ho
    have e : q ≠ n := fun e => by rw [e, on] at ho; cases ho
    rw [oo q e] at ho; exact I.unec q kk ho
  · intro m hq' ho
    have e : m ≠ n := fun e => by rw [e, hq] at hq'; cases hq'
    exact I.hgt m hq' (by rw [← oo m e]; exact ho)
  · intro m hq'
    have e : m ≠ n := fun e => by rw [e, hq] at hq'; cases hq'
    rcases I.qnec m hq' with h | ⟨k', h⟩
    · exact Or.inl h
    · exact Or.inr ⟨k', by rw [oo m e]; exact h⟩
  · intro m ho hm hs hex
    have e : m ≠ n := fun e => by rw [e, hun] at hm; cases hm
    exact I.queued m (by rw [← oo m e]; exact ho) hm hs hex
  · intro m ho
    by_cases e : m = n
    · rw [e]; exact I.opLt n (by rw [hop]; intro h; cases h)
    · exact I.opLt m (by rw [← oo m e]; exact ho)

/-- a successful `rchRemove` of an unlinking node -/
theorem GInvB.rchRemove_open {n k : Nat} {u : Unit} (I : GInvB env s op ex) (hop : op n = .unlinking k)
    (hr : (rchRemove n).run.run s = (.ok u, s')) :
    GInvB env s' op ex ∧ (s'.nodeD n).inRch = false := by
  obtain ⟨nd, q, idx, hnd, h0, hq, hi, hs'⟩ := rchRemove_ok_inv hr
  obtain ⟨hH, hnq, hoth, -, -⟩ := I.heap.removed hr
  refine ⟨?_, hnq⟩
  have hsz : s'.nodes.size = s.nodes.size := by rw [hs']; simp [removedAt]
  have B : U4.SameB s s' := by
    refine ⟨by rw [hs']; rfl, by rw [hs']; rfl, hsz, by rw [hs']; rfl, ?_, ?_, ?_, ?_, ?_, ?_, ?_, ?_⟩ <;>
      intro m <;> rw [hs', removedAt_nodeD] <;> split <;> rfl
  have F : BU.Fr s s' := ⟨B, by rw [hs']; rfl⟩
  have hch : ∀ m, s'.children m = s.children m := F.children I.frag
  have hst : ∀ m, s'.isStale m = s.isStale m := F.isStale I.frag
  have hP : ∀ m, (s'.nodeD m).parents = (s.nodeD m).parents := by
    intro m; rw [hs', removedAt_nodeD]; split <;> rfl
  have hO : ∀ m, (s'.nodeD m).observers = (s.nodeD m).observers := by
    intro m; rw [hs', removedAt_nodeD]; split <;> rfl
  have nec : ∀ m, s'.isNecessary m = s.isNecessary m := fun m => nec_congr (hP m) (hO m) (B.forceNecessary m)
  have wants : ∀ q i, Wants s' op q i ↔ Wants s op q i := by
    intro q i; unfold Wants; rw [nec]
  have inR : ∀ m, m ≠ n → (s'.nodeD m).inRch = (s.nodeD m).inRch := fun m e => inRch_of_hir (hoth m e)
  have nq : ∀ m, (s'.nodeD m).inRch = true → m ≠ n := fun m h e => by rw [e, hnq] at h; cases h
  refine { frag := F.allB I.frag, par := ?_, conv := ?_, nodup := ?_, hlt := ?_, hpos := ?_, lnec := ?_,
           unec := ?_, heap := hH, hgt := ?_, qnec := ?_, queued := ?_, qstale := ?_, opLt := ?_ }
  · intro c p i hm
    rw [hP] at hm
    rw [hch, wants]; exact I.par c p i hm
  · intro p i c hk hw
    rw [hch] at hk
    rw [wants] at hw
    rw [hP]; exact I.conv p i c hk hw
  · intro c; rw [hP]; exact I.nodup c
  · intro c p i hm ho
    rw [hP] at hm
    rw [B.height, B.height]; exact I.hlt c p i hm ho
  · intro m hm ho
    rw [nec] at hm
    rw [B.height]; exact I.hpos m hm ho
  · intro p kk ho
    rw [nec]; exact I.lnec p kk ho
  · intro p kk ho
    rw [nec]; exact I.unec p kk ho
  · intro m hq' ho
    have e := nq m hq'
    rw [inR m e] at hq'
    rw [hoth m e, B.height]; exact I.hgt m hq' ho
  · intro m hq'
    have e := nq m hq'
    rw [inR m e] at hq'
    rw [nec]; exact I.qnec m hq'
  · intro m ho hm hs hex
    have e : m ≠ n := fun e => by rw [e, hop] at ho; cases ho
    rw [nec] at hm
    rw [hst] at hs
    rw [inR m e]; exact I.queued m ho hm hs hex
  · intro m hq'
    have e := nq m hq'
    rw [inR m e] at hq'
    rw [hst]; exact I.qstale m hq'
  · intro m ho
    rw [hsz]; exact I.opLt m ho

/-- removing an observer from a closed node -/
theorem GInvB.remObs {n : Nat} {l : List Nat} (I : GInvB env s op ex) (U : NodeUpd n (fObservers l) s s')
    (hb : s'.binds = s.binds) (hcl : op n = .closed) (hn : s.isNecessary n = true) :
    (s'.isNecessary n = true → GInvB env s' op ex) ∧
    (s'.isNecessary n = false → GInvB env s' (upd op n (.unlinking 0)) ex) := by
  have F := BU.Fr.of_upd U (U4.keepB_fObservers l) hb
  have hhr := U4.hir_of_upd U (U4.keepB_fObservers l)
  have hpn : (s'.nodeD n).parents = (s.nodeD n).parents := U.self.parents
  have hoth : ∀ m, m ≠ n → (s'.nodeD m).parents = (s.nodeD m).parents ∧
      (s'.nodeD m).observers = (s.nodeD m).observers :=
    fun m h => ⟨(U.other m h).parents, (U.other m h).observers⟩
  have hpall : ∀ m, (s'.nodeD m).parents = (s.nodeD m).parents := by
    intro m
    by_cases e : m = n
    · rw [e]; exact hpn
    · exact (hoth m e).1
  have common : ∀ op' : Nat → Op,
      ((s'.isNecessary n = true ∧ op' n = .closed) ∨ (s'.isNecessary n = false ∧ op' n = .unlinking 0)) →
      (∀ m, m ≠ n → op' m = op m) → GInvB env s' op' ex := by
    intro op' hd ho
    refine BU.core I F U.rch hhr hoth (fun x h => by rw [← hpn]; exact h) (by rw [hpn]; exact I.nodup n)
      (fun q i h _ => by rw [hpn]; exact h) hn hcl hd ?_
      (fun m k e h => by rw [ho m e] at h; exact I.lnec m k h)
      (fun m k e h => by rw [ho m e] at h; exact I.unec m k h)
      (fun m e h => by rw [ho m e]; exact h)
      (fun m e h => by rw [ho m e] at h; exact I.opLt m h) ?_ ?_
    · intro m h
      by_cases e : m = n
      · rw [e]; exact hcl
      · rw [← ho m e]; exact h
    · intro c q i hm e hq'
      have hq : op q ≠ .closed := by rw [← ho q e]; exact hq'
      rw [hpall] at hm
      exact (U4.wants_open (ho q e) hq).2 (I.par c q i hm).2
    · intro q i c hk e hq' hw
      have hq : op q ≠ .closed := by rw [← ho q e]; exact hq'
      rw [hpall]
      exact I.conv q i c hk ((U4.wants_open (ho q e) hq).1 hw)
  constructor
  · intro h; exact common op (Or.inl ⟨h, hcl⟩) (fun _ _ => rfl)
  · intro h; exact common _ (Or.inr ⟨h, upd_self _ _ _⟩) (fun m e => upd_other _ _ _ e)

end

end IncrVerif.Proofs.BindH
