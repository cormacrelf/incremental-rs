import IncrVerif.Proofs.FullT23
import IncrVerif.Proofs.FullH61
/-!
# C04 combined fragment: WHOLE HISTORIES never panic
(mirror of `NestH.runS_total2` / `history_total2`, Proofs/NestH108)
-/
namespace IncrVerif.Proofs.FullT
open IncrVerif.Engine IncrVerif.Driver IncrVerif.Proofs IncrVerif.Proofs.Step IncrVerif.Proofs.Sched IncrVerif.Proofs.Quiet IncrVerif.Proofs.FullH
open IncrVerif.Proofs.NestH (TotIf HasRoomG ResOK runS growTop grow2)

section
variable {env : Env} {sp : Nat → Val → Val} {N : Nat}

theorem hasRoomG_of_le {needS : Nat → Nat} {fuel : Nat} {s s' : State} (hmono : ∀ a b, a ≤ b → needS a ≤ needS b) (h : s.nodes.size ≤ s'.nodes.size)
    (R : HasRoomG needS N fuel s') : HasRoomG needS N fuel s :=
  ⟨Nat.le_trans h R.1, Nat.le_trans (hmono _ _ h) R.2⟩

/-- **one action of a history** -/
theorem step_totIfF (E : EnvS env sp) (hF : FirstFn env)
    {s : State} {g : Nat → Option Val} {a : Action} {tk : Array Nat}
    (Q : QF env sp N s g) (ha : ActionFull env sp s.top.size a) (hidx : ActionIdxF s.top.size s.vars.size s.observers.size a) :
    TotIf (stepAction env a tk) s (HasRoomG needFuelF N fuelDefault) (fun r s1 => r.2 = tk ∧ (∃ g1, QF env sp N s1 g1) ∧
      s1.top.size = s.top.size + growTop (virtA a) ∧ s1.vars.size = s.vars.size + (grow2 (virtA a)).2.1 ∧
      s1.observers.size = s.observers.size + (grow2 (virtA a)).2.2) := by
  intro r s1 hx hroom1
  by_cases hns : a = .stabilise
  · subst hns
    obtain ⟨r0, hst, hok⟩ := NestH.T2i.step_stabilise_cases hx
    obtain ⟨u, e, g1, Q1, R⟩ := stabilise_totalF E hF Q r0 s1 hst hroom1
    have er := hok u e
    exact ⟨_, er, rfl, ⟨g1, Q1⟩, by rw [R.top]; rfl, by rw [R.vars]; rfl, R.obs.1⟩
  · obtain ⟨r0, e, htk, q, p, t, h1, h2, h3⟩ := step_totalF (tk := tk) Q.q Q.p Q.t ha hidx.1 hidx.2 hns r s1 hx hroom1.1
    exact ⟨r0, e, htk, ⟨g, q, p, t⟩, h1, h2, h3⟩

theorem nextT_eq (a : Action) (T : Nat) : nextT a T = T + growTop (virtA a) := by
  cases a <;> try rfl
  rename_i i
  cases i <;> rfl

/-- **Whole histories, from any state satisfying the invariants.** -/
theorem runS_totalF (E : EnvS env sp) (hF : FirstFn env) (acts : List Action) :
    ∀ (s : State) (tk : Array Nat) (g : Nat → Option Val), QF env sp N s g → HistFull env sp s.top.size acts →
      ValidIdxF s.top.size s.vars.size s.observers.size acts → HasRoomG needFuelF N fuelDefault (runS env acts s tk).2 →
      ∃ s' tk' g', Quiet.runActions env acts s tk = .ok (s', tk') ∧ QF env sp N s' g' := by
  induction acts with
  | nil => intro s tk g Q _ _ _; exact ⟨s, tk, g, rfl, Q⟩
  | cons a as ih =>
    intro s tk g Q hH hV hroom
    obtain ⟨haF, hH'⟩ := hH
    obtain ⟨hidx, hV'⟩ := hV
    have key := step_totIfF (tk := tk) E hF Q haF hidx
    rcases hx : (stepAction env a tk).run.run s with ⟨e | r, s1⟩
    · simp only [runS, hx] at hroom
      obtain ⟨_, e', -⟩ := key _ _ hx hroom
      cases e'
    · simp only [runS, hx] at hroom
      have hroom1 : HasRoomG needFuelF N fuelDefault s1 := hasRoomG_of_le needFuelF_facts.2.2 (NestH.runS_size env as s1 r.2) hroom
      obtain ⟨r0, e', -, ⟨g1, Q1⟩, h1, h2, h3⟩ := key _ _ hx hroom1
      have hH1 : HistFull env sp s1.top.size as := by
        rw [h1, ← nextT_eq]; exact hH'
      have hV1 : ValidIdxF s1.top.size s1.vars.size s1.observers.size as := by rw [h1, h2, h3]; exact hV'
      obtain ⟨s', tk', g', hr, Q'⟩ := ih s1 r.2 g1 Q1 hH1 hV1 hroom
      refine ⟨s', tk', g', ?_, Q'⟩
      simp only [Quiet.runActions, hx]
      exact hr

/-- the initial state -/
theorem pinv_init (N : Nat) (d : Bool) : PInv (State.init N d) := by
  refine ⟨fun n pr i h => ?_, fun c p i h => ?_⟩
  · rw [init_nodeD] at h; cases h
  · rw [init_nodeD] at h; cases h

theorem qf_init (env : Env) (sp : Nat → Val → Val) (N : Nat) (d : Bool) : ∃ g, QF env sp N (State.init N d) g := by
  obtain ⟨g, Q⟩ := qinvF_init env sp N d
  refine ⟨g, Q, pinv_init N d, ?_⟩
  rw [virt_init]
  exact NestH.qt_init _ N d

/-- **C04 for the combined fragment**: a valid history never panics -/
theorem history_never_panicsF (E : EnvS env sp) (hF : FirstFn env) {d : Bool} {acts : List Action} (hH : HistFull env sp 0 acts)
    (hV : ValidIdxF 0 0 0 acts) (hroom : HasRoomG needFuelF N fuelDefault (runS env acts (State.init N d) #[]).2) :
    ∃ s tk g, Quiet.runActions env acts (State.init N d) #[] = .ok (s, tk) ∧ QF env sp N s g := by
  obtain ⟨g0, Q0⟩ := qf_init env sp N d
  exact runS_totalF E hF acts (State.init N d) #[] g0 Q0 hH hV hroom

/-- the same from any state satisfying the invariants -/
theorem runActions_never_panicsF (E : EnvS env sp) (hF : FirstFn env) (acts : List Action) (s : State) (tk : Array Nat) (g : Nat → Option Val)
    (Q : QF env sp N s g) (hH : HistFull env sp s.top.size acts) (hV : ValidIdxF s.top.size s.vars.size s.observers.size acts)
    (hroom : HasRoomG needFuelF N fuelDefault (runS env acts s tk).2) :
    ∃ s' tk' g', Quiet.runActions env acts s tk = .ok (s', tk') ∧ QF env sp N s' g' :=
  runS_totalF E hF acts s tk g Q hH hV hroom

end
end IncrVerif.Proofs.FullT
