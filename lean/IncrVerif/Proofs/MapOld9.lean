import IncrVerif.Proofs.MapOld3
import IncrVerif.Proofs.Virtual
/-!
# map_with_old fragment: one `recomputeOne` of a node that is not a map_with_old node
The actual step is simulated by the virtual step (`recomputeOne_sim`).
-/
namespace IncrVerif.Proofs.MapOldH
open IncrVerif.Engine IncrVerif.Proofs IncrVerif.Proofs.Step IncrVerif.Proofs.Sched IncrVerif.Proofs.Quiet

variable {sp : Nat → Val → Val}

section

/-! ## `virt` commutes with the bookkeeping at the start of a step -/

theorem virt_nodes_modify (s : State) (n : Nat) (f : Node → Node)
    (hf : ∀ nd, virtNode (f nd) = f (virtNode nd)) :
    (s.nodes.modify n f).map virtNode = (s.nodes.map virtNode).modify n f := by
  apply Array.ext
  · simp
  · intro i h1 h2
    simp only [Array.getElem_map, Array.getElem_modify]
    split
    · rename_i e; subst e; exact hf _
    · rfl

theorem virt_started (n : Nat) (s : State) : virt (started n s) = started n (virt s) := by
  simp only [virt, started]
  rw [virt_nodes_modify s n _ (by intro nd; rfl)]
  rfl

theorem virt_logged (es : List Event) (s : State) : virt (logged es s) = logged es (virt s) := rfl

theorem Fr.started {s : State} (h : Fr s) (n : Nat) : Fr (started n s) :=
  Fr.of_nodes (fr_modify h n (fun x => { x with recomputedAt := s.stabNum }) fun _ => ⟨rfl, rfl, rfl⟩) rfl rfl

theorem Fr.logged {s : State} (h : Fr s) (es : List Event) : Fr (logged es s) := Fr.of_nodes h rfl rfl

/-! ## the arguments -/

theorem valuesOf_virt (env env' : Env) (s : State) (hr : ∀ n p i, (s.nodeD n).kind ≠ .mapRef p i) (args : List Nat) :
    valuesOf env' (virt s) args = valuesOf env s args := by
  induction args with
  | nil => rfl
  | cons a as ih =>
    simp only [valuesOf]
    rw [virt_value s env env' a (hr a), ih]

/-- off the map_with_old nodes the kinds of the fragment are static and are kept by `virtKind` -/
theorem WKind.static {env : Env} {G : Nat → Prop} {k : Kind} (h : WKind env G k) (hk : ∀ g i, k ≠ .mapWithOld g i) :
    StaticKind env k ∧ virtKind k = k ∧ kidsW k = kids k := by
  cases k <;> simp only [WKind] at h <;> simp only [StaticKind, virtKind, kidsW, kids]
  case map f args =>
    refine ⟨⟨?_, h.2⟩, trivial, trivial⟩
    have := h.1; unfold woBase at this; unfold fnPerKey; omega
  case mapWithOld g i => exact absurd rfl (hk g i)
  all_goals first | exact ⟨trivial, trivial, trivial⟩ | exact h.elim

/-- the actual and the virtual step of a node that is not a map_with_old node are `maybe_change_value` of the same value, with the same
log entries -/
theorem recomputeOne_both {env : Env} {G : Nat → Prop} {s : State} {fuel n : Nat} (F : WFrag env G s) (hn : n < s.nodes.size)
    (hk : ∀ g i, (s.nodeD n).kind ≠ .mapWithOld g i)
    (hvar : ∀ c, (s.nodeD n).kind = .var c → ∃ vc, s.vars[c]? = some vc)
    (hkids : ∀ a, a ∈ kidsW (s.nodeD n).kind → (s.value env a).isSome = true) :
    ∃ v es, (recomputeOne env fuel n).run.run s
        = (maybeChangeValue env fuel n v).run.run (logged es (started n s)) ∧
      (recomputeOne (virtEnv env sp) fuel n).run.run (virt s)
        = (maybeChangeValue (virtEnv env sp) fuel n v).run.run (logged es (started n (virt s))) := by
  have hnd := some_of_lt hn
  obtain ⟨hSK, hvk, hkk⟩ := (F.kind n hn).static hk
  rw [hkk] at hkids
  obtain ⟨vals, hvals⟩ := MapRefH.valuesOf_of_isSome env s _ hkids
  obtain ⟨v, evs, hc⟩ := computes_static n hSK hvar hvals
  have hvk' : (virtNode (s.nodeD n)).kind = (s.nodeD n).kind := hvk
  have hc' : Computes (virtEnv env sp) (virt s) n (virtNode (s.nodeD n)) v _ evs :=
    hc.transfer hSK hvk' rfl (valuesOf_virt env (virtEnv env sp) s F.not_mapRef _)
      (fun f args hf => ⟨funext (virtEnv_fn_real env sp (by have := F.kind n hn; rw [hf] at this; exact this.1)), rfl⟩) fun _ _ _ _ => rfl
  exact ⟨v, evs, recomputeOne_run_of_computes hnd (F.valid n hn) F.pc hc hSK,
    recomputeOne_run_of_computes (s := virt s) (nd := virtNode (s.nodeD n)) (by rw [virt_getElem?, hnd]; rfl) (F.valid n hn) F.pc hc'
      (by rw [hvk']; exact hSK)⟩

theorem recomputeOne_sim {env : Env} {G : Nat → Prop} {s s' : State} {fuel n : Nat} {r : Option Nat}
    (F : WFrag env G s) (hfr : Fr s) (hn : n < s.nodes.size)
    (hk : ∀ g i, (s.nodeD n).kind ≠ .mapWithOld g i)
    (hvar : ∀ c, (s.nodeD n).kind = .var c → ∃ vc, s.vars[c]? = some vc)
    (hkids : ∀ a, a ∈ kidsW (s.nodeD n).kind → (s.value env a).isSome = true)
    (h : (recomputeOne env fuel n).run.run s = (.ok r, s')) :
    (recomputeOne (virtEnv env sp) fuel n).run.run (virt s) = (.ok r, virt s') ∧ Fr s' := by
  obtain ⟨v, evs, ha, hv⟩ := recomputeOne_both (sp := sp) (fuel := fuel) F hn hk hvar hkids
  rw [ha] at h
  rw [hv, ← virt_started, ← virt_logged]
  exact Sim.maybeChangeValue env fuel n v _ ((hfr.started n).logged evs) r s' h

end
end IncrVerif.Proofs.MapOldH
