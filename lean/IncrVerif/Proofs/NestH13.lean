import IncrVerif.Proofs.NestH6
import IncrVerif.Proofs.BindH54
/-!
# Nested binds (F2), unlinking side, part 1: rank order, basic facts about `GInv2`, and the core pure step lemma

`NU.core` is `BU.core` (`BindH23`, fragment F0) for `GInv2`: the order is that of the ghost rank `rk`, the same before and after
every step; scope nodes may be bind nodes.
-/
namespace IncrVerif.Proofs.NestH
open IncrVerif.Engine IncrVerif.Proofs IncrVerif.Proofs.Step IncrVerif.Proofs.Sched IncrVerif.Proofs.Quiet
open IncrVerif.Proofs.BindH

namespace NU

/-! ## `AboveR2` -/

theorem aboveR2_refl (rk : Nat → Nat) (s : State) (n : Nat) : AboveR2 rk s n s := fun _ _ => rfl

/-- a step that only touches node `n` -/
theorem aboveR2_of_other {rk : Nat → Nat} {a b : State} {n : Nat} (h : ∀ m, m ≠ n → b.nodeD m = a.nodeD m) :
    AboveR2 rk a n b :=
  fun m hm => h m (fun e => by rw [e] at hm; exact Nat.lt_irrefl _ hm)

end NU

namespace NU

/-- the parents / observers of a closed necessary node `n` shrink; `n` stays closed if it is still necessary and
becomes `unlinking 0` otherwise; closed nodes may open and the labels of open nodes may move (the caller shows the
edge conditions for the nodes that are open afterwards; nodes that are open afterwards are valid) -/
theorem core {env : Env} {rk : Nat → Nat} {s s' : State} {op op' : Nat → Op} {ex : Nat → Prop} {dy : List Nat} {n : Nat}
    (I : GInv2 env rk s op ex dy) (F : BU.Fr s s')
    (hrch : s'.rch = s.rch) (hhr : ∀ m, (s'.nodeD m).heightInRch = (s.nodeD m).heightInRch)
    (hoth : ∀ m, m ≠ n → (s'.nodeD m).parents = (s.nodeD m).parents ∧
      (s'.nodeD m).observers = (s.nodeD m).observers)
    (hsub : ∀ x, x ∈ (s'.nodeD n).parents → x ∈ (s.nodeD n).parents)
    (hnd : (s'.nodeD n).parents.Nodup)
    (hobs : (s.nodeD n).observers = [] → (s'.nodeD n).observers = [])
    (hkeep : ∀ q i, (q, i) ∈ (s.nodeD n).parents → op' q = .closed → (q, i) ∈ (s'.nodeD n).parents)
    (hn : s.isNecessary n = true) (hcl : op n = .closed)
    (hd : (s'.isNecessary n = true ∧ op' n = .closed) ∨ (s'.isNecessary n = false ∧ op' n = .unlinking 0))
    (cl : ∀ m, op' m = .closed → op m = .closed)
    (hln : ∀ m k, m ≠ n → op' m = .linking k → s.isNecessary m = true)
    (hun : ∀ m k, m ≠ n → op' m = .unlinking k → s.isNecessary m = false)
    (hqn : ∀ m, m ≠ n → (∃ k, op m = .unlinking k) → ∃ k, op' m = .unlinking k)
    (hlt : ∀ m, m ≠ n → op' m ≠ .closed → m < s.nodes.size)
    (hval : ∀ m, m ≠ n → op' m ≠ .closed → (s.nodeD m).valid = true)
    (hpar : ∀ c q i, (q, i) ∈ (s'.nodeD c).parents → q ≠ n → op' q ≠ .closed → Wants s' op' q i)
    (hconv : ∀ q i c, (s.children q)[i]? = some c → q ≠ n → op' q ≠ .closed → Wants s' op' q i →
      (q, i) ∈ (s'.nodeD c).parents) :
    GInv2 env rk s' op' ex dy := by
  have B := F.b
  have E := CU.keyEq_of_fr F
  have necO : ∀ m, m ≠ n → s'.isNecessary m = s.isNecessary m := fun m h =>
    nec_congr (hoth m h).1 (hoth m h).2 (B.forceNecessary m)
  have necI : ∀ m, s'.isNecessary m = true → s.isNecessary m = true := by
    intro m h
    by_cases e : m = n
    · rw [e]; exact hn
    · rw [← necO m e]; exact h
  have mem0 : ∀ c x, x ∈ (s'.nodeD c).parents → x ∈ (s.nodeD c).parents := by
    intro c x h
    by_cases e : c = n
    · rw [e] at h ⊢; exact hsub x h
    · rw [← (hoth c e).1]; exact h
  have Wn : ∀ i, Wants s' op' n i := by
    intro i
    rcases hd with ⟨h1, h2⟩ | ⟨h1, h2⟩
    · exact (wants_closed h2).2 h1
    · exact (wants_unlinking h2).2 (Nat.zero_le _)
  have inR : ∀ m, (s'.nodeD m).inRch = (s.nodeD m).inRch := fun m => inRch_of_hir (hhr m)
  have nopen : ∀ k, op' n ≠ .linking k := by
    intro k h
    rcases hd with ⟨_, h2⟩ | ⟨_, h2⟩ <;> rw [h2] at h <;> cases h
  have hch : ∀ m, s'.children m = s.children m := KeyEq2.children2 E I.frag
  have hst : ∀ m, s'.isStale m = s.isStale m := KeyEq2.isStale2 E I.frag
  have hobsAll : ∀ m, (s.nodeD m).observers = [] → (s'.nodeD m).observers = [] := by
    intro m h
    by_cases e : m = n
    · rw [e] at h ⊢; exact hobs h
    · rw [(hoth m e).2]; exact h
  refine { frag := KeyEq2.frag2 E I.frag (by rw [B.pc]; exact I.frag.pc) (by rw [B.scope]; exact I.frag.scope),
           par := ?_, conv := ?_, nodup := ?_, hlt := ?_, hpos := ?_, lnec := ?_,
           unec := ?_, heap := I.heap.congr hrch B.size hhr, hgt := ?_, qnec := ?_, queued := ?_, qstale := ?_,
           opLt := ?_, scopeH := ?_, inv := ?_, scopeObs := ?_, lcObs := ?_ }
  · -- par
    intro c q i hm
    have hm0 := mem0 c _ hm
    refine ⟨by rw [hch]; exact (I.par c q i hm0).1, ?_⟩
    by_cases e : q = n
    · rw [e]; exact Wn i
    · by_cases hq : op' q = .closed
      · rw [wants_closed hq, necO q e]
        exact (wants_closed (cl q hq)).1 (I.par c q i hm0).2
      · exact hpar c q i hm e hq
  · -- conv
    intro q i c hk hw
    rw [hch] at hk
    by_cases e : q = n
    · rw [e] at hk ⊢
      have hm0 := I.conv n i c hk ((wants_closed hcl).2 hn)
      have hc : c ≠ n := I.kid_ne hk
      rw [(hoth c hc).1]; exact hm0
    · by_cases hq : op' q = .closed
      · rw [wants_closed hq] at hw
        have hm0 := I.conv q i c hk ((wants_closed (cl q hq)).2 (necI q hw))
        by_cases hc : c = n
        · rw [hc] at hm0 ⊢; exact hkeep q i hm0 hq
        · rw [(hoth c hc).1]; exact hm0
      · exact hconv q i c hk e hq hw
  · -- nodup
    intro c
    by_cases hc : c = n
    · rw [hc]; exact hnd
    · rw [(hoth c hc).1]; exact I.nodup c
  · -- hlt
    intro c q i hm ho
    rw [B.height, B.height]
    exact I.hlt c q i (mem0 c _ hm) (cl q ho)
  · -- hpos
    intro m hm ho
    rw [B.height]; exact I.hpos m (necI m hm) (cl m ho)
  · -- lnec
    intro q k ho
    have e : q ≠ n := fun e => nopen k (e ▸ ho)
    rw [necO q e]
    exact hln q k e ho
  · -- unec
    intro q k ho
    by_cases e : q = n
    · rw [e] at ho ⊢
      rcases hd with ⟨_, h2⟩ | ⟨h1, _⟩
      · rw [h2] at ho; cases ho
      · exact h1
    · rw [necO q e]; exact hun q k e ho
  · -- hgt
    intro m hq ho
    rw [inR] at hq
    rw [hhr, B.height]; exact I.hgt m hq (cl m ho)
  · -- qnec
    intro m hq
    rw [inR] at hq
    by_cases e : m = n
    · rw [e]
      rcases hd with ⟨h1, _⟩ | ⟨_, h2⟩
      · exact Or.inl h1
      · exact Or.inr ⟨0, h2⟩
    · rcases I.qnec m hq with h | h
      · exact Or.inl (by rw [necO m e]; exact h)
      · exact Or.inr (hqn m e h)
  · -- queued
    intro m ho hm hs hex
    rw [hst] at hs
    rw [inR]; exact I.queued m (cl m ho) (necI m hm) hs hex
  · -- qstale
    intro m hq
    rw [inR] at hq
    rw [hst]; exact I.qstale m hq
  · -- opLt
    intro m ho
    rw [B.size]
    by_cases e : m = n
    · rw [e]; exact nec_lt_size hn
    · exact hlt m e ho
  · -- scopeH
    intro m b br hv hsc hb hnec ho
    rw [B.valid] at hv
    rw [B.createdIn] at hsc
    rw [F.binds] at hb
    rw [B.height, B.height]
    exact I.scopeH m b br hv hsc hb (necI m hnec) (cl m ho)
  · -- inv
    intro m hv
    rw [B.valid] at hv
    obtain ⟨h1, h2, h3, h4, h5⟩ := I.inv m hv
    have e : m ≠ n := by
      intro e
      rw [e] at hv
      rw [I.valid_of_nec hn] at hv; cases hv
    refine ⟨by rw [(hoth m e).1]; exact h1, by rw [(hoth m e).2]; exact h2, by rw [B.forceNecessary]; exact h3,
      by rw [inR]; exact h4, ?_⟩
    cases ho : op' m with
    | closed => rfl
    | linking k =>
      have := hval m e (by rw [ho]; exact Op.linking_ne_closed k)
      rw [hv] at this; cases this
    | unlinking k =>
      have := hval m e (by rw [ho]; exact Op.unlinking_ne_closed k)
      rw [hv] at this; cases this
  · -- scopeObs
    intro m b hsc
    rw [B.createdIn] at hsc
    exact hobsAll m (I.scopeObs m b hsc)
  · -- lcObs
    intro m b hk
    rw [B.kind] at hk
    exact hobsAll m (I.lcObs m b hk)

end NU

end IncrVerif.Proofs.NestH
