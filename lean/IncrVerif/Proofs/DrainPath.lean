import IncrVerif.Proofs.Drain
/-!
# The drain as a path

A returning run of `drainHeap` is a sequence of pops and of calls of `recomputeOne`.  `Path P S l a x c z` is such a sequence from the
configuration `a` with current node `x` (`none` between chains) to `c` with `z`: `P n a b` says what a pop that hands out `n` does, `S n r a b`
what the call on `n` that returns `r` does, and `l` lists the calls, each with the state it starts in (`TidyH.drainSteps`).
`drainHeap_path` produces the path from a drain invariant (by `Drain.drainHeap_steps`).

What is said of a whole drain is read off its path: `split` (the call `p` of the trace, the path before it and the path after it), `rel`
(a preorder kept by pops and calls, or by the calls of this path), `cur_end` (what every pop and every handover establishes of the current
node), `pairwise` (a call and a later one).
-/
namespace IncrVerif.Proofs.Drain
open IncrVerif.Engine IncrVerif.Proofs IncrVerif.Proofs.Step IncrVerif.Proofs.TidyH

section
variable {σ : Type} {st : σ → State} {P : Nat → σ → σ → Prop} {S : Nat → Option Nat → σ → σ → Prop}

inductive Path (st : σ → State) (P : Nat → σ → σ → Prop) (S : Nat → Option Nat → σ → σ → Prop) :
    List (Nat × State) → σ → Option Nat → σ → Option Nat → Prop
  | nil (a : σ) (x : Option Nat) : Path st P S [] a x a x
  | pop {n : Nat} {a b c : σ} {z : Option Nat} {l : List (Nat × State)} :
    P n a b → Path st P S l b (some n) c z → Path st P S l a none c z
  | step {n : Nat} {r : Option Nat} {a b c : σ} {z : Option Nat} {l : List (Nat × State)} :
    S n r a b → Path st P S l b r c z → Path st P S ((n, st a) :: l) a (some n) c z

namespace Path
variable {l l₁ l₂ : List (Nat × State)} {a b c : σ} {x y z : Option Nat}

theorem append (h1 : Path st P S l₁ a x b y) (h2 : Path st P S l₂ b y c z) : Path st P S (l₁ ++ l₂) a x c z := by
  induction h1 with
  | nil => exact h2
  | pop p _ ih => exact .pop p (ih h2)
  | step s _ ih => exact .step s (ih h2)

/-- the call `p` of the trace: the path up to the configuration `u` it starts in, the call, and the path after it -/
theorem split {p : Nat × State} (h : Path st P S (l₁ ++ p :: l₂) a x c z) :
    ∃ u v r, Path st P S l₁ a x u (some p.1) ∧ st u = p.2 ∧ S p.1 r u v ∧ Path st P S l₂ v r c z := by
  generalize e : l₁ ++ p :: l₂ = l at h
  induction h generalizing l₁ with
  | nil => cases l₁ <;> cases e
  | pop q _ ih =>
    obtain ⟨u, v, r, h1, h2⟩ := ih e
    exact ⟨u, v, r, .pop q h1, h2⟩
  | @step n r a b c z l s t ih =>
    cases l₁ with
    | nil =>
      obtain ⟨rfl, rfl⟩ := List.cons.inj e
      exact ⟨a, b, r, .nil a _, rfl, s, t⟩
    | cons q l₁ =>
      obtain ⟨rfl, e'⟩ := List.cons.inj e
      obtain ⟨u, v, r', h1, h2⟩ := ih e'
      exact ⟨u, v, r', .step s h1, h2⟩

theorem of_mem {p : Nat × State} (h : Path st P S l a x c z) (hp : p ∈ l) :
    ∃ l₁ l₂ u v r, l = l₁ ++ p :: l₂ ∧ Path st P S l₁ a x u (some p.1) ∧ st u = p.2 ∧ S p.1 r u v ∧ Path st P S l₂ v r c z := by
  obtain ⟨l₁, l₂, e⟩ := List.append_of_mem hp
  rw [e] at h
  obtain ⟨u, v, r, k⟩ := h.split
  exact ⟨l₁, l₂, u, v, r, e, k⟩

/-- a preorder kept by every pop and by every call of this path -/
theorem rel {R : σ → σ → Prop} (refl : ∀ a, R a a) (trans : ∀ {a b c}, R a b → R b c → R a c)
    (hP : ∀ n a b, P n a b → R a b) (h : Path st P S l a x c z)
    (hS : ∀ n r a b, (n, st a) ∈ l → S n r a b → R a b) : R a c := by
  induction h with
  | nil => exact refl _
  | pop p _ ih => exact trans (hP _ _ _ p) (ih hS)
  | step s _ ih =>
    exact trans (hS _ _ _ _ List.mem_cons_self s) (ih fun n r a b hm => hS n r a b (List.mem_cons_of_mem _ hm))

/-- what every pop establishes of the node it hands out, and every call of the node it hands over, holds of the current node at the end -/
theorem cur_end {Q : Nat → σ → Prop} (hP : ∀ n a b, P n a b → Q n b) (hS : ∀ n p a b, S n (some p) a b → Q p b)
    (h : Path st P S l a x c z) (h0 : ∀ n, x = some n → Q n a) : ∀ n, z = some n → Q n c := by
  induction h with
  | nil => exact h0
  | pop p _ ih => exact ih fun n e => by cases e; exact hP _ _ _ p
  | step s _ ih => exact ih fun n e => by cases e; exact hS _ _ _ _ s

/-- a call and every later one -/
theorem pairwise {R : Nat × State → Nat × State → Prop}
    (hR : ∀ n r a b l c z, S n r a b → Path st P S l b r c z → ∀ q, q ∈ l → R (n, st a) q)
    (h : Path st P S l a x c z) : l.Pairwise R := by
  induction h with
  | nil => exact .nil
  | pop _ _ ih => exact ih
  | step s t ih => exact List.pairwise_cons.2 ⟨hR _ _ _ _ _ _ _ s t, ih⟩

end Path
end

/-! The path of a run from a drain invariant `J`. -/

section
variable {env : Env} {σ : Type} {st : σ → State} {J : σ → Option Nat → Prop}
  {P : Nat → σ → σ → Prop} {S : Nat → Option Nat → σ → σ → Prop}

/-- `J` on configurations that carry their current node, so that `Drain.drainHeap_steps` can speak of paths -/
private def JP (J : σ → Option Nat → Prop) (c : σ × Option Nat) (cur : Option Nat) : Prop := c.2 = cur ∧ J c.1 cur

private theorem JP.step
    (step : ∀ c n fuel r s', J c (some n) → (recomputeOne env fuel n).run.run (st c) = (.ok r, s') →
      ∃ c', st c' = s' ∧ J c' r ∧ S n r c c')
    (c : σ × Option Nat) (n fuel : Nat) (r : Option Nat) (s' : State) (j : JP J c (some n))
    (h : (recomputeOne env fuel n).run.run (st c.1) = (.ok r, s')) :
    ∃ c' : σ × Option Nat, st c'.1 = s' ∧ JP J c' r ∧
      (fun l (a b : σ × Option Nat) => Path st P S l a.1 a.2 b.1 b.2) [(n, st c.1)] c c' := by
  obtain ⟨c, x⟩ := c
  obtain ⟨rfl, j⟩ := j
  obtain ⟨c', e, j', s⟩ := step c n fuel r s' j h
  exact ⟨(c', r), e, ⟨rfl, j'⟩, .step s (.nil c' r)⟩

/-- the path of a returning `drainHeap`; it ends with the pop that finds the heap empty -/
theorem drainHeap_path
    (step : ∀ c n fuel r s', J c (some n) → (recomputeOne env fuel n).run.run (st c) = (.ok r, s') →
      ∃ c', st c' = s' ∧ J c' r ∧ S n r c c')
    (pop : ∀ c n s1, J c none → rchRemoveMin.run.run (st c) = (.ok (some n), s1) → ∃ c1, st c1 = s1 ∧ J c1 (some n) ∧ P n c c1)
    (fuel : Nat) (c : σ) (s' : State) (j : J c none) (h : (drainHeap env fuel).run.run (st c) = (.ok (), s')) :
    ∃ c', J c' none ∧ Path st P S (drainSteps env fuel (st c)) c none c' none ∧ rchRemoveMin.run.run (st c') = (.ok none, s') := by
  obtain ⟨⟨c', _⟩, ⟨rfl, j'⟩, p, hl⟩ := drainHeap_steps (st := fun c : σ × Option Nat => st c.1) (J := JP J)
    (T := fun l a b => Path st P S l a.1 a.2 b.1 b.2) Path.append (JP.step step)
    (fun c n s1 j h => by
      obtain ⟨c, x⟩ := c
      obtain ⟨rfl, j⟩ := j
      obtain ⟨c1, e, j1, p⟩ := pop c n s1 j h
      exact ⟨(c1, some n), e, ⟨rfl, j1⟩, .pop p (.nil c1 _)⟩)
    (fun c j => by
      obtain ⟨c, x⟩ := c
      exact .nil c x) fuel (c, none) s' ⟨rfl, j⟩ h
  exact ⟨c', j', p, hl⟩

end
end IncrVerif.Proofs.Drain
