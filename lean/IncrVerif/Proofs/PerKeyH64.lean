import IncrVerif.Proofs.PerKeyH60
/-!
# One `.right` iteration of the per-key loop, package "potential": what the new nodes reference (`RSh.newKids`),
the potential after the creation steps (`rPsi`, `RSh.pot`, `RSh.pot_mapped`), and after the new entry (`pot_cons`)
-/
namespace IncrVerif.Proofs.PerKeyH
open IncrVerif.Engine IncrVerif.Driver IncrVerif.Proofs IncrVerif.Proofs.Step IncrVerif.Proofs.Sched
open IncrVerif.Proofs.ExpertH IncrVerif.Proofs.EffH IncrVerif.Proofs.DriverH IncrVerif.Proofs.ExpertH.QR IncrVerif.Proofs.Xp

/-! ## operands of an instruction kind -/

/-- a local operand of the `j`-th instruction (or of the return, `j = L`) of the instance at `N + 1 ..` -/
theorem r_loc_res {N j i x : Nat} (hi : i ≤ j) (h : (N :: List.range' (N + 1) j)[i]? = some x) :
    N ≤ x ∧ x < N + 1 + j := by
  cases i with
  | zero =>
    simp only [List.getElem?_cons_zero, Option.some.injEq] at h
    omega
  | succ i =>
    rw [List.getElem?_cons_succ, List.getElem?_range' (by omega)] at h
    simp only [Option.some.injEq] at h; omega

namespace RSh
variable {env : Env} {op : Nat} {key : Int} {lc : Nat} {tm : Template} {D : Nat → Prop} {σ τ : State} {mapped : Nat}

/-- **what the new nodes reference**: the change detector, earlier new nodes, outer nodes of the template -/
theorem newKids (R : RSh env op key lc tm D σ τ mapped) (hT : TemplOK env tm) :
    ∀ c x, σ.nodes.size ≤ c → c < τ.nodes.size → x ∈ kidsX τ.experts (τ.nodeD c).kind →
      x = lc ∨ (σ.nodes.size ≤ x ∧ x < c) ∨ ∃ k, k ∈ templOuter tm ∧ σ.top[k]? = some x := by
  intro c x hc1 hc2 hx
  rw [R.size] at hc2
  by_cases hc : c = σ.nodes.size
  · subst hc
    obtain ⟨erX, he, -, -, -, hch, -⟩ := R.xnew
    rw [R.kind_p] at hx
    simp only [kidsX, xRec_some he, hch, List.map_cons, List.map_nil, List.mem_singleton] at hx
    exact Or.inl hx
  · have hj : c - (σ.nodes.size + 1) < tm.instrs.length := by omega
    have hi := List.getElem?_eq_getElem hj
    have hk := R.kind_i hi
    have hce : σ.nodes.size + 1 + (c - (σ.nodes.size + 1)) = c := by omega
    rw [hce] at hk
    obtain ⟨o, ho, hr⟩ := instrKind_kids hk hx
    have hok := hT.opnd _ _ hi o ho
    cases o with
    | outer k =>
      exact Or.inr (Or.inr ⟨k, mem_templOuter_instr (List.mem_of_getElem? hi) ho, hr⟩)
    | loc i' =>
      have := r_loc_res (N := σ.nodes.size) hok hr
      exact Or.inr (Or.inl ⟨this.1, by omega⟩)
    | abs _ => exact hok.elim
    | slot _ => exact hok.elim

end RSh

/-! ## the potential after the creation steps -/

/-- the potential of `τ`: the new nodes sit at the level of the change detector -/
def rPsi (σ : State) (lc : Nat) (ψ : Nat → Nat) : Nat → Nat := fun m => if m < σ.nodes.size then ψ m else 2 * lc

theorem rPsi_lt {σ : State} {lc : Nat} {ψ : Nat → Nat} {m : Nat} (h : m < σ.nodes.size) : rPsi σ lc ψ m = ψ m := by
  simp only [rPsi, if_pos h]

theorem rPsi_ge {σ : State} {lc : Nat} {ψ : Nat → Nat} {m : Nat} (h : σ.nodes.size ≤ m) :
    rPsi σ lc ψ m = 2 * lc := by
  simp only [rPsi, if_neg (Nat.not_lt.2 h)]

namespace RSh
variable {env : Env} {op : Nat} {key : Int} {lc : Nat} {tm : Template} {D : Nat → Prop} {σ τ : State} {mapped : Nat}

/-- the children of an OLD node of `τ`: old children, or (records in `D` only) edges the caller accounts for -/
theorem oldKids (R : RSh env op key lc tm D σ τ mapped) (M : Mid (twEnv env) (twL [] σ)) {n c : Nat}
    (hn : n < σ.nodes.size) (hc : c ∈ kidsX τ.experts (τ.nodeD n).kind) :
    c ∈ kidsX σ.experts (σ.nodeD n).kind ∨
      ∃ e er er' ed, (σ.nodeD n).kind = .expert e ∧ D e ∧ σ.experts[e]? = some er ∧ τ.experts[e]? = some er' ∧
        ed ∈ er'.children ∧ ed.child = c := by
  rw [R.kind_old hn] at hc
  cases hk : (σ.nodeD n).kind with
  | expert e =>
    rw [hk] at hc
    have hk' : ((twL [] σ).nodeD n).kind = .expert e := by rw [KtwL_kind, hk]; rfl
    obtain ⟨er0, h1, -⟩ := M.frag.xrec n e (by rw [twL_size]; exact hn) hk'
    obtain ⟨er, he, -⟩ := tw_rec_inv h1
    obtain ⟨er', he', -, -, -, -, -, -, -, hsame, -, -⟩ := R.lfx.lf.xrec e er he
    simp only [kidsX, xRec_some he'] at hc
    by_cases hd : D e
    · obtain ⟨ed, hed, hce⟩ := List.mem_map.1 hc
      exact Or.inr ⟨e, er, er', ed, rfl, hd, he, he', hed, hce⟩
    · left
      simp only [kidsX, xRec_some he]
      rw [← hsame hd]; exact hc
  | _ => rw [hk] at hc; exact Or.inl hc

/-- **the potential after the creation steps** -/
theorem pot (R : RSh env op key lc tm D σ τ mapped) (hT : TemplOK env tm) (M : Mid (twEnv env) (twL [] σ))
    {ψ : Nat → Nat} (P : Pot σ ψ) (hnamed : ∀ (k x : Nat), σ.top[k]? = some x → x < σ.nodes.size)
    (hlc : lc < σ.nodes.size) (hlcψ : ψ lc = 2 * lc)
    (hout : ∀ k, k ∈ templOuter tm → ∀ o, σ.top[k]? = some o → o < lc)
    (hpk : τ.perkeys = σ.perkeys)
    (hops : ∀ (op' : Nat) (pr' : PerKeyRec), σ.perkeys[op']? = some pr' →
      pr'.result < σ.nodes.size ∧ pr'.lhsChange < σ.nodes.size ∧
        ∀ key p d, (key, (p, d)) ∈ pr'.prevNodes → p < σ.nodes.size)
    (hD : ∀ (n e : Nat) (er er' : ExpertRec) (ed : ExpertEdge), n < σ.nodes.size → (σ.nodeD n).kind = .expert e →
      D e → σ.experts[e]? = some er → τ.experts[e]? = some er' → ed ∈ er'.children →
      ed ∈ er.children ∨ rPsi σ lc ψ ed.child ≤ ψ n) : Pot τ (rPsi σ lc ψ) := by
  refine ⟨fun n c hn hc => ?_, fun k n h => ?_, fun op' pr' h => ?_, fun n hn => ?_⟩
  · by_cases hlt : n < σ.nodes.size
    · rw [rPsi_lt hlt]
      have hold : c ∈ kidsX σ.experts (σ.nodeD n).kind → rPsi σ lc ψ c ≤ ψ n := fun h => by
        rw [rPsi_lt (r_kids_lt M h)]; exact P.mono n c hlt h
      rcases R.oldKids M hlt hc with h | ⟨e, er, er', ed, hk, hd, he, he', hed, hce⟩
      · exact hold h
      · rcases hD n e er er' ed hlt hk hd he he' hed with h | h
        · refine hold ?_
          rw [hk]
          simp only [kidsX, xRec_some he]
          exact List.mem_map.2 ⟨ed, h, hce⟩
        · rw [← hce]; exact h
    · rw [rPsi_ge (Nat.not_lt.1 hlt)]
      rcases R.newKids hT n c (Nat.not_lt.1 hlt) hn hc with h | ⟨h, -⟩ | ⟨k, hk, h⟩
      · rw [h, rPsi_lt hlc, hlcψ]; exact Nat.le_refl _
      · rw [rPsi_ge h]; exact Nat.le_refl _
      · have h1 := hout k hk c h
        rw [rPsi_lt (hnamed k c h), P.top k c h]
        omega
  · rw [R.top] at h
    rw [rPsi_lt (hnamed k n h)]; exact P.top k n h
  · rw [hpk] at h
    obtain ⟨h1, h2, h3⟩ := hops op' pr' h
    obtain ⟨p1, p2, p3, p4⟩ := P.op op' pr' h
    refine ⟨by rw [rPsi_lt h1]; exact p1, by rw [rPsi_lt h2]; exact p2, by rw [rPsi_lt (by omega)]; exact p3,
      fun key p d hm => by rw [rPsi_lt (h3 key p d hm)]; exact p4 key p d hm⟩
  · by_cases hlt : n < σ.nodes.size
    · rw [rPsi_lt hlt]; exact P.le n hlt
    · rw [rPsi_ge (Nat.not_lt.1 hlt)]; omega

/-- the returned node is at most at the level of the change detector -/
theorem pot_mapped (R : RSh env op key lc tm D σ τ mapped) (hT : TemplOK env tm) {ψ : Nat → Nat} (P : Pot σ ψ)
    (hlc : lc < σ.nodes.size) (hout : ∀ k, k ∈ templOuter tm → ∀ o, σ.top[k]? = some o → o < lc) :
    rPsi σ lc ψ mapped ≤ 2 * lc := by
  have hr := R.ret
  have hok := hT.ret
  cases ho : tm.ret with
  | outer k =>
    rw [ho] at hr
    have hr : σ.top[k]? = some mapped := hr
    have hk : k ∈ templOuter tm := mem_templOuter (by rw [← ho]; exact List.mem_cons_self)
    have h1 := hout k hk mapped hr
    rw [rPsi_lt (by omega), P.top k mapped hr]
    omega
  | loc i =>
    rw [ho] at hr hok
    have := r_loc_res (N := σ.nodes.size) hok hr
    rw [rPsi_ge this.1]; exact Nat.le_refl _
  | abs _ => rw [ho] at hok; exact hok.elim
  | slot _ => rw [ho] at hok; exact hok.elim

end RSh

/-! ## the new entry of `prevNodes` -/

theorem pot_cons {σ5 : State} {ψ : Nat → Nat} {op : Nat} {key : Int} {p d : Nat} {pr5 : PerKeyRec} (P : Pot σ5 ψ)
    (h5 : σ5.perkeys[op]? = some pr5) (hψ : ψ p = 2 * pr5.lhsChange) : Pot (rS6 op key p d σ5) ψ := by
  refine P.modify h5 _ rfl rfl fun key' p' d' hm => ?_
  rcases List.mem_cons.1 hm with e | hm
  · cases e; exact hψ
  · exact (P.op op pr5 h5).2.2.2 key' p' d' (List.mem_filter.1 hm).1

end IncrVerif.Proofs.PerKeyH
