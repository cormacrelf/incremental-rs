import IncrVerif.Proofs.CutH36
import IncrVerif.Proofs.CutH38
import IncrVerif.Proofs.CutH39
-- static programs with ARBITRARY cutoffs; `Proofs/Quiet28.lean` (default cutoffs) takes its lemmas from this file; overview in Props/C06History.lean
/-!
# Part 28: valid histories of static actions never panic (C04 for the fragment)
-/
namespace IncrVerif.Proofs.CutH
open IncrVerif.Engine IncrVerif.Driver IncrVerif.Proofs IncrVerif.Proofs.Step IncrVerif.Proofs.Sched
variable {e : Bool}

/-- **G3, total.** Every static API action whose indices exist returns; the invariants are kept. -/
theorem step_total {env : Env} {N : Nat} {s : State} {a : Action} {tk : Array Nat}
    (Q : QInv env e s) (T : TInv N s) (ha : StaticAction env a) (hok : ActionOK N s a) :
    Tot (stepAction env a tk) s (fun r s' => r.2 = tk ∧ QInv env (e && ExactAction a) s' ∧ TInv N s' ∧ Grown a s s') := by
  have simple : SimpleAction a → Tot (stepAction env a tk) s
      (fun r s' => r.2 = tk ∧ QInv env (e && ExactAction a) s' ∧ TInv N s' ∧ Grown a s s') := by
    intro hs
    obtain ⟨r, s', h, h1, h2, h3⟩ := simple_total (env := env) (tk := tk) Q T hs hok
    exact ⟨r, s', h, h1, step_qx Q ha h, h2, h3⟩
  cases a <;> try exact ha.elim
  case create i =>
    obtain ⟨r, s', h, h1, h2, h3⟩ := create_total (tk := tk) Q.struct.static.scope Q.top T ha hok
    exact ⟨r, s', h, h1, step_qx Q ha h, h2, h3⟩
  case observe n => exact simple ha
  case cloneObs o => exact simple trivial
  case dropObs o => exact simple trivial
  case disallow o => exact simple trivial
  case set v x => exact simple trivial
  case modify v d => exact simple trivial
  case update v d => exact simple trivial
  case replace v x => exact simple trivial
  case replaceWith v d => exact simple trivial
  case get v => exact simple trivial
  case isStable => exact simple trivial
  case stats => exact simple trivial
  case stabilise =>
    obtain ⟨_, s', h, T'⟩ := stabilise_total_q (env := env) Q T hok
    have R := stabilise_q Q h
    refine ⟨_, s', step_stabilise_run h, rfl, ?_, T', ?_⟩
    · show QInv env (e && true) s'
      rw [Bool.and_true]; exact R.inv
    exact ⟨R.size, by rw [R.vars]; rfl, R.obs.1⟩

/-! ## valid histories -/

/-- `ActionOK` in terms of the numbers of nodes, var cells and observers -/
def ActionOKc (N nn nv no : Nat) : Action → Prop
  | .create (.cutoff n c) => (∃ k, n = Opnd.outer k ∧ k < nn) ∧ PlainCut c
  | .create i =>
    (match i with
      | .map _ args => ∀ a, a ∈ args → ∃ k, a = Opnd.outer k ∧ k < nn
      | .fold _ _ cs => ∀ a, a ∈ cs → ∃ k, a = Opnd.outer k ∧ k < nn
      | .zip a b => (∃ k, a = Opnd.outer k ∧ k < nn) ∧ (∃ k, b = Opnd.outer k ∧ k < nn)
      | .dependOn a b => (∃ k, a = Opnd.outer k ∧ k < nn) ∧ (∃ k, b = Opnd.outer k ∧ k < nn)
      | _ => True) ∧ nn + 1 ≤ N
  | .observe n => ∃ k, n = Opnd.outer k ∧ k < nn
  | .dropObs o | .disallow o => o < no
  | .set v _ | .modify v _ | .update v _ | .replace v _ | .replaceWith v _ | .get v => v < nv
  | .stabilise => 3 * nn + 4 ≤ fuelDefault
  | _ => True

theorem opndIn_of {s : State} {a : Opnd} {nn : Nat} (ht : s.top.size = nn)
    (h : ∃ k, a = Opnd.outer k ∧ k < nn) : OpndIn s a := by
  obtain ⟨k, rfl, hk⟩ := h
  show k < s.top.size
  omega

theorem actionOK_of {N : Nat} {s : State} {a : Action} (ht : s.top.size = s.nodes.size)
    (h : ActionOKc N s.nodes.size s.vars.size s.observers.size a) : ActionOK N s a := by
  cases a <;> try exact h
  case create i =>
    cases i
    case map f args => exact ⟨fun a ha => opndIn_of ht (h.1 a ha), h.2⟩
    case fold f init cs => exact ⟨fun a ha => opndIn_of ht (h.1 a ha), h.2⟩
    case zip a b => exact ⟨⟨opndIn_of ht h.1.1, opndIn_of ht h.1.2⟩, h.2⟩
    case dependOn a b => exact ⟨⟨opndIn_of ht h.1.1, opndIn_of ht h.1.2⟩, h.2⟩
    case cutoff n c => exact ⟨opndIn_of ht h.1, h.2⟩
    all_goals exact ⟨trivial, h.2⟩
  case observe n => exact opndIn_of ht h

/-- a history whose actions name existing things, never exceeds `N` nodes, and whose `stabilise`s have fuel;
`nn`, `nv`, `no` = numbers of nodes, var cells, observers before the history -/
def ValidHist (N : Nat) : Nat → Nat → Nat → List Action → Prop
  | _, _, _, [] => True
  | nn, nv, no, a :: as =>
    ActionOKc N nn nv no a ∧ ValidHist N (nn + (grow a).1) (nv + (grow a).2.1) (no + (grow a).2.2) as

theorem tinv_init (N : Nat) (d : Bool) : TInv N (State.init N d) := by
  have hnec : ∀ m, (State.init N d).isNecessary m = false := fun m => by
    rw [State.isNecessary, init_nodeD]; rfl
  refine ⟨?_, ⟨(init_limits N d).2.1, (init_limits N d).1, Nat.zero_le _⟩, ?_, rfl, List.nodup_nil, ?_, ?_⟩
  rotate_right
  · intro m i h; rw [init_nodeD] at h; cases h
  · intro m hm; rw [hnec] at hm; cases hm
  · intro c vc hc; simp [State.init] at hc
  · intro o ob ho; cases ho

/-- **C04 for the fragment.** A valid history of static actions runs without panic from any state
satisfying the invariants; the final state satisfies them. -/
theorem runActions_total {env : Env} {N : Nat} {acts : List Action} {s : State} {tk : Array Nat}
    (Q : QInv env e s) (T : TInv N s) (ha : ∀ a, a ∈ acts → StaticAction env a)
    (hv : ValidHist N s.nodes.size s.vars.size s.observers.size acts) :
    ∃ s', runActions env acts s tk = .ok (s', tk) ∧ QInv env (e && acts.all ExactAction) s' ∧ TInv N s' := by
  induction acts generalizing e s with
  | nil => exact ⟨s, rfl, by simpa using Q, T⟩
  | cons a as ih =>
    obtain ⟨hok, hrest⟩ := hv
    obtain ⟨r, s1, h1, htk, Q1, T1, hg⟩ :=
      step_total (tk := tk) Q T (ha a (List.mem_cons_self ..)) (actionOK_of T.topSize hok)
    obtain ⟨g1, g2, g3⟩ := hg
    rw [← g1, ← g2, ← g3] at hrest
    obtain ⟨s', h2, Q', T'⟩ := ih Q1 T1 (fun b hb => ha b (List.mem_cons_of_mem _ hb)) hrest
    refine ⟨s', ?_, by simpa only [List.all_cons, Bool.and_assoc] using Q', T'⟩
    simp only [runActions]
    rw [h1]
    simp only [htk]
    exact h2

/-- from the initial state -/
theorem history_total {env : Env} {N : Nat} {d : Bool} {acts : List Action}
    (ha : ∀ a, a ∈ acts → StaticAction env a) (hv : ValidHist N 0 0 0 acts) :
    ∃ s', runActions env acts (State.init N d) #[] = .ok (s', #[]) ∧ QInv env (acts.all ExactAction) s' ∧ TInv N s' := by
  have := runActions_total (tk := #[]) (qinv_init env N d) (tinv_init N d) ha hv
  simpa using this

end IncrVerif.Proofs.CutH
