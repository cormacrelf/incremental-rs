import IncrVerif.Proofs.ExpertH11
import IncrVerif.Proofs.CutH16
/-!
# Part 9: node creation through the API keeps `QInv`

`StaticInstr` and `Created` are those of `Proofs/Quiet10.lean`: `Created k s s1 tp` is `CutH.Created k .eq s s1 tp`, and what does not read the
structural invariant comes from `Proofs/CutH16.lean`.
-/
namespace IncrVerif.Proofs.ExpertH.QR
open IncrVerif.Engine IncrVerif.Driver IncrVerif.Proofs IncrVerif.Proofs.Step IncrVerif.Proofs.Sched

/-- operands of the fragment: handles on top-level nodes -/
def OpndOK : Opnd → Prop
  | .outer _ => True
  | _ => False

/-- the node-creating instructions of the static fragment -/
def StaticInstr (env : Env) : Instr → Prop
  | .const _ => True
  | .var _ => True
  | .map f args => f < fnPerKey ∧ (f < fnZip → ∀ vals, env.fnEff f vals = []) ∧ ∀ a, a ∈ args → OpndOK a
  | .fold _ _ cs => ∀ a, a ∈ cs → OpndOK a
  | .zip a b => OpndOK a ∧ OpndOK b
  | _ => False

/-- a freshly created top-level node -/
def newNode (k : Kind) : Node := { kind := k, createdIn := .top, cutoff := .eq }

/-- `s1` is `s` plus one fresh top-level node of kind `k` (and, for a `var`, its cell); `tp`: the naming table after -/
structure Created (k : Kind) (s s1 : State) (tp : Array Nat) : Prop where
  nodes : s1.nodes = s.nodes.push (newNode k)
  vars : ((∀ c, k ≠ .var c) ∧ s1.vars = s.vars) ∨
    ∃ v, k = .var s.vars.size ∧
      s1.vars = s.vars.push { value := v, setAt := s.stabNum, node := s.nodes.size }
  rch : s1.rch = s.rch
  pc : s1.panicCountdown = s.panicCountdown
  scope : s1.currentScope = s.currentScope
  stabNum : s1.stabNum = s.stabNum
  status : s1.status = s.status
  alive : s1.alive = s.alive
  setDuringStab : s1.setDuringStab = s.setDuringStab
  deadVars : s1.deadVars = s.deadVars
  handleAfterStab : s1.handleAfterStab = s.handleAfterStab
  pinv : s1.propagateInvalidity = s.propagateInvalidity
  observers : s1.observers = s.observers
  newObservers : s1.newObservers = s.newObservers
  disallowedObservers : s1.disallowedObservers = s.disallowedObservers
  top : s1.top = tp

theorem OpndOK.toC {o : Opnd} (h : OpndOK o) : CutH.OpndOK o := h

theorem StaticInstr.toC {env : Env} {i : Instr} (h : StaticInstr env i) : CutH.StaticInstr env i := by
  cases i <;> first | exact h | exact h.elim

theorem StaticInstr.exact {env : Env} {i : Instr} (h : StaticInstr env i) : CutH.ExactInstr i = true := by
  cases i <;> first | rfl | exact h.elim

namespace Created
variable {env : Env} {rk : Nat → Nat} {k : Kind} {s s1 : State} {tp : Array Nat}

theorem toC (C : Created k s s1 tp) : CutH.Created k .eq s s1 tp :=
  ⟨C.nodes, C.vars, C.rch, C.pc, C.scope, C.stabNum, C.status, C.alive, C.setDuringStab, C.deadVars, C.handleAfterStab, C.pinv, C.observers,
    C.newObservers, C.disallowedObservers, C.top⟩
theorem ofC (C : CutH.Created k .eq s s1 tp) : Created k s s1 tp :=
  ⟨C.nodes, C.vars, C.rch, C.pc, C.scope, C.stabNum, C.status, C.alive, C.setDuringStab, C.deadVars, C.handleAfterStab, C.pinv, C.observers,
    C.newObservers, C.disallowedObservers, C.top⟩

theorem size (C : Created k s s1 tp) : s1.nodes.size = s.nodes.size + 1 := C.toC.size

theorem nodeD_new (C : Created k s s1 tp) : s1.nodeD s.nodes.size = newNode k := C.toC.nodeD_new

theorem nodeD_old (C : Created k s s1 tp) {m : Nat} (h : m ≠ s.nodes.size) : s1.nodeD m = s.nodeD m := C.toC.nodeD_old h

theorem nodeD_lt (C : Created k s s1 tp) {m : Nat} (h : m < s.nodes.size) : s1.nodeD m = s.nodeD m := C.toC.nodeD_lt h

theorem nec_old (C : Created k s s1 tp) {m : Nat} (h : m ≠ s.nodes.size) : s1.isNecessary m = s.isNecessary m := C.toC.nec_old h

theorem ne_of_nec (C : Created k s s1 tp) {m : Nat} (h : s1.isNecessary m = true) : m ≠ s.nodes.size := C.toC.ne_of_nec h

theorem ne_of_par (C : Created k s s1 tp) {m : Nat} {x : Nat × Nat} (h : x ∈ (s1.nodeD m).parents) :
    m ≠ s.nodes.size := C.toC.ne_of_par h

theorem ne_of_inRch (C : Created k s s1 tp) {m : Nat} (h : (s1.nodeD m).inRch = true) :
    m ≠ s.nodes.size := C.toC.ne_of_inRch h

theorem vars_old (C : Created k s s1 tp) {c : Nat} {vc : VarCell} (h : s.vars[c]? = some vc) :
    s1.vars[c]? = some vc := C.toC.vars_old h

theorem staleOf_old (C : Created k s s1 tp) (Q : QInv env rk s) {m : Nat} (hm : m < s.nodes.size) :
    staleOf s1 m = staleOf s m := by
  have sn := Q.struct.node hm
  have hkids : ∀ c, c ∈ kids (s.nodeD m).kind → (s1.nodeD c).changedAt = (s.nodeD c).changedAt := by
    intro c hc
    rw [C.nodeD_lt (sn.kidsIn c hc)]
  unfold staleOf
  rw [C.nodeD_lt hm]
  cases hk : (s.nodeD m).kind with
  | var c =>
    obtain ⟨vc, hvc, -⟩ := Q.vars.node m c hm hk
    simp only [hvc, C.vars_old hvc]
  | const v => rfl
  | map f args =>
    rw [hk] at hkids
    simp only
    congr 1
    exact any_congr' _ _ _ (fun a ha => by rw [hkids a ha])
  | fold f init cs =>
    rw [hk] at hkids
    simp only
    congr 1
    exact any_congr' _ _ _ (fun a ha => by rw [hkids a ha])
  | _ => have := sn.kind; rw [hk] at this; exact this.elim

theorem plainVals_old (C : Created k s s1 tp) (l : List Nat) (h : ∀ c, c ∈ l → c < s.nodes.size) :
    plainVals s1 l = plainVals s l := C.toC.plainVals_old l h

theorem consistent_old (C : Created k s s1 tp) (Q : QInv env rk s) {m : Nat} (hm : m < s.nodes.size)
    (h : Consistent env s m) : Consistent env s1 m := by
  have sn := Q.struct.node hm
  have hkids : ∀ c, c ∈ kids (s.nodeD m).kind → c < s.nodes.size := by
    intro c hc
    exact sn.kidsIn c hc
  obtain ⟨v, ht, hv⟩ := h
  refine ⟨v, ?_, by rw [C.nodeD_lt hm]; exact hv⟩
  unfold Target at ht ⊢
  rw [C.nodeD_lt hm]
  cases hk : (s.nodeD m).kind with
  | var c =>
    rw [hk] at ht
    obtain ⟨vc, hvc, e⟩ := ht
    exact ⟨vc, C.vars_old hvc, e⟩
  | const w => rw [hk] at ht; exact ht
  | map f args =>
    rw [hk] at ht hkids
    simp only at ht ⊢
    rw [C.plainVals_old args hkids]; exact ht
  | fold f init cs =>
    rw [hk] at ht hkids
    simp only at ht ⊢
    rw [C.plainVals_old cs hkids]; exact ht
  | _ => rw [hk] at ht; exact ht.elim

theorem stale_new (C : Created k s s1 tp) (h0 : 0 ≤ s.stabNum) (hk : StaticKind env k) :
    staleOf s1 s.nodes.size = true := C.toC.stale_new h0 hk

theorem heapWF (C : Created k s s1 tp) (h : HeapWF s) : HeapWF s1 := C.toC.heapWF h

/-- of the state before, creation reads the structural invariant and that the old nodes stay as stale as they were -/
theorem struct_of (C : Created k s s1 tp) (I : Struct env rk s)
    (hst : ∀ {m}, m < s.nodes.size → staleOf s1 m = staleOf s m) (hk : StaticKind env k)
    (hkids : ∀ c, c ∈ kids k → c < s.nodes.size) : Struct env rk s1 := by
  have wants_old : ∀ {p i}, p ≠ s.nodes.size → (Wants s1 allClosed p i ↔ Wants s allClosed p i) := by
    intro p i hp
    rw [wants_closed rfl, wants_closed rfl, C.nec_old hp]
  have inRch_lt : ∀ {m}, (s1.nodeD m).inRch = true → m < s.nodes.size ∧ (s.nodeD m).inRch = true := by
    intro m hq
    have hne := C.ne_of_inRch hq
    rw [C.nodeD_old hne] at hq
    exact ⟨lt_size_of_inRch hq, hq⟩
  obtain ⟨K, hK1, hK2⟩ := I.static.top
  have htop1 : ∃ K, (∀ m, s1.nodes.size ≤ m → rk m = K + m) ∧ (∀ k, k < s1.nodes.size → rk k < K + s1.nodes.size) := by
    refine ⟨K, fun m hm => hK1 m (by rw [C.size] at hm; omega), fun j hj => ?_⟩
    rw [C.size] at hj ⊢
    by_cases e : j = s.nodes.size
    · rw [e, hK1 _ (Nat.le_refl _)]; omega
    · have := hK2 j (by omega); omega
  refine
    { static := ⟨by rw [C.pc]; exact I.static.pc, by rw [C.scope]; exact I.static.scope, ?_, I.static.inj, htop1⟩
      par := ?_, conv := ?_, nodup := ?_, hlt := ?_, hpos := ?_
      lnec := fun p k ho => by cases ho
      unec := fun p k ho => by cases ho
      heap := ⟨C.heapWF I.heap.wf, ?_, by rw [C.rch]; exact I.heap.lb0⟩
      hgt := ?_, qnec := ?_, queued := ?_, qstale := ?_
      opLt := fun m ho => absurd rfl ho }
  · intro n hn
    rw [C.size] at hn
    by_cases e : n = s.nodes.size
    · refine ⟨?_, ?_, ?_, ?_, ?_, ?_, ?_⟩ <;> rw [e, C.nodeD_new]
      · rfl
      · exact hk
      · rfl
      · rfl
      · rfl
      · intro c hc
        rw [hK1 _ (Nat.le_refl _)]; exact hK2 c (hkids c hc)
      · intro c hc
        rw [C.size]; exact Nat.lt_succ_of_lt (hkids c hc)
    · have sn := I.node (show n < s.nodes.size by omega)
      refine ⟨?_, ?_, ?_, ?_, ?_, ?_, ?_⟩ <;> rw [C.nodeD_old e]
      · exact sn.valid
      · exact sn.kind
      · exact sn.cutoff
      · exact sn.top
      · exact sn.force
      · exact sn.kidsLt
      · intro c hc
        rw [C.size]; exact Nat.lt_succ_of_lt (sn.kidsIn c hc)
  · intro c p i h
    have hc := C.ne_of_par h
    rw [C.nodeD_old hc] at h
    have hp : p ≠ s.nodes.size := by have := I.par_lt_size h; omega
    rw [C.nodeD_old hp, wants_old hp]
    exact I.par c p i h
  · intro p i c hkd hw
    have hp : p ≠ s.nodes.size := C.ne_of_nec ((wants_closed rfl).1 hw)
    rw [C.nodeD_old hp] at hkd
    rw [wants_old hp] at hw
    have hm := I.conv p i c hkd hw
    have hc : c ≠ s.nodes.size := by have := mem_parents_lt_size hm; omega
    rw [C.nodeD_old hc]; exact hm
  · intro c
    by_cases e : c = s.nodes.size
    · rw [e, C.nodeD_new]; exact List.nodup_nil
    · rw [C.nodeD_old e]; exact I.nodup c
  · intro c p i h ho
    have hc := C.ne_of_par h
    rw [C.nodeD_old hc] at h
    have hp : p ≠ s.nodes.size := by have := I.par_lt_size h; omega
    rw [C.nodeD_old hc, C.nodeD_old hp]
    exact I.hlt c p i h ho
  · intro n hn ho
    have e := C.ne_of_nec hn
    rw [C.nec_old e] at hn
    rw [C.nodeD_old e]; exact I.hpos n hn ho
  · intro m hq
    obtain ⟨hlt, hq'⟩ := inRch_lt hq
    rw [C.rch, C.nodeD_lt hlt]; exact I.heap.lb m hq'
  · intro m hq ho
    obtain ⟨hlt, hq'⟩ := inRch_lt hq
    rw [C.nodeD_lt hlt]; exact I.hgt m hq' ho
  · intro m hq
    obtain ⟨hlt, hq'⟩ := inRch_lt hq
    rw [C.nec_old (by omega)]; exact I.qnec m hq'
  · intro m ho hn hs
    have e := C.ne_of_nec hn
    rw [C.nec_old e] at hn
    have hlt := nec_lt_size hn
    rw [hst hlt] at hs
    rw [C.nodeD_old e]; exact I.queued m ho hn hs
  · intro m hq
    obtain ⟨hlt, hq'⟩ := inRch_lt hq
    rw [hst hlt]; exact I.qstale m hq'

theorem struct (C : Created k s s1 tp) (Q : QInv env rk s) (hk : StaticKind env k)
    (hkids : ∀ c, c ∈ kids k → c < s.nodes.size) : Struct env rk s1 :=
  C.struct_of Q.struct (C.staleOf_old Q) hk hkids

theorem varsOK (C : Created k s s1 tp) (V : VarsOK s) : VarsOK s1 := .ofC (C.toC.varsOK V.toC)

theorem obsOK (C : Created k s s1 tp) (O : ObsOK s) : ObsOK s1 := ObsInv.ofC (C.toC.obsOK (ObsInv.toC O))

/-- **creation, pure part.** -/
theorem qinv (C : Created k s s1 (s.top.push s.nodes.size)) (Q : QInv env rk s) (hk : StaticKind env k)
    (hkids : ∀ c, c ∈ kids k → c < s.nodes.size) : QInv env rk s1 where
  struct := C.struct Q hk hkids
  vars := C.varsOK Q.vars
  obs := C.obsOK Q.obs
  now := by rw [C.stabNum]; exact Q.now
  stamps m := by
    rw [C.stabNum]
    by_cases e : m = s.nodes.size
    · rw [e, C.nodeD_new]
      have := Q.now
      exact ⟨show (-1 : Int) < _ by omega, show (-1 : Int) < _ by omega⟩
    · rw [C.nodeD_old e]; exact Q.stamps m
  varStamp c vc h := by
    rw [C.stabNum]
    rcases C.vars with ⟨-, e⟩ | ⟨v, -, ev⟩
    · rw [e] at h; exact Q.varStamp c vc h
    · rw [ev, Array.getElem?_push] at h
      split at h
      · injection h with h
        rw [← h]; exact Int.le_refl _
      · exact Q.varStamp c vc h
  cons m hm hs := by
    rw [C.size] at hm
    by_cases e : m = s.nodes.size
    · rw [e, C.stale_new Q.now hk] at hs; cases hs
    · have hlt : m < s.nodes.size := by omega
      rw [C.staleOf_old Q hlt] at hs
      exact C.consistent_old Q hlt (Q.cons m hlt hs)
  status := by rw [C.status]; exact Q.status
  alive := by rw [C.alive]; exact Q.alive
  setDuringStab := by rw [C.setDuringStab]; exact Q.setDuringStab
  deadVars := by rw [C.deadVars]; exact Q.deadVars
  handleAfterStab := by rw [C.handleAfterStab]; exact Q.handleAfterStab
  handlers m := by
    by_cases e : m = s.nodes.size
    · rw [e, C.nodeD_new]; exact Int.le_refl _
    · rw [C.nodeD_old e]; exact Q.handlers m
  pinv := by rw [C.pinv]; exact Q.pinv
  top kk n h := by
    rw [C.top, Array.getElem?_push] at h
    rw [C.size]
    split at h
    · injection h with h; omega
    · have := Q.top kk n h; omega

end Created
/-! ## the monadic part -/

theorem createNode_top_run (k : Kind) (s : State) :
    (createNode k .top).run.run s = (.ok s.nodes.size,
      { s with counters := { s.counters with created := s.counters.created + 1 },
               nodes := s.nodes.push (newNode k) }) := rfl

theorem createVar_top_run (v : Val) (s : State) :
    (createVar v .top).run.run s = (.ok s.nodes.size,
      { s with counters := { s.counters with created := s.counters.created + 1 },
               nodes := s.nodes.push (newNode (.var s.vars.size)),
               vars := s.vars.push { value := v, setAt := s.stabNum, node := s.nodes.size } }) := rfl

theorem resolveOpnd_outer_inv {o : Opnd} {s s1 : State} {n : Nat} (ho : OpndOK o)
    (h : (resolveOpnd [] o).run.run s = (.ok n, s1)) : s1 = s ∧ ∃ k : Nat, s.top[k]? = some n :=
  CutH.resolveOpnd_outer_inv ho.toC h

theorem elab_static {env : Env} {rk : Nat → Nat} {s s1 : State} {i : Instr} {ro : Option Nat} (Q : QInv env rk s)
    (hi : StaticInstr env i) (h : (elabInstrM env [] .unit i).run.run s = (.ok ro, s1)) :
    ∃ k, ro = some s.nodes.size ∧ StaticKind env k ∧ (∀ c, c ∈ kids k → c < s.nodes.size) ∧
      Created k s s1 s.top := by
  rcases CutH.elab_static Q.struct.static.scope Q.top hi.toC h with ⟨k, cut, ero, hk, hkids, hcut, C, -⟩ | ⟨n, c, ei, -⟩
  · cases hcut hi.exact
    exact ⟨k, ero, hk, hkids, .ofC C⟩
  · rw [ei] at hi; exact hi.elim

/-- **creation.** A successful `create` action with a static instruction keeps the invariant. -/
theorem step_create {env : Env} {rk : Nat → Nat} {s s' : State} {i : Instr} {tokens : Array Nat} {r : String × Array Nat}
    (Q : QInv env rk s) (hi : StaticInstr env i)
    (h : (stepAction env (.create i) tokens).run.run s = (.ok r, s')) : QInv env rk s' := by
  rcases (CutH.create_static Q.struct.static.scope Q.top hi.toC h).2 with ⟨k, cut, hk, hkids, hcut, C, -⟩ | ⟨n, c, m, ei, -⟩
  · cases hcut hi.exact
    exact (Created.ofC C).qinv Q hk hkids
  · rw [ei] at hi; exact hi.elim

end IncrVerif.Proofs.ExpertH.QR
