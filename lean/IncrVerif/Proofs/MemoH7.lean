import IncrVerif.Proofs.MemoH6
/-!
# C20 over whole histories, part 6: the entry of one key through API actions and histories (K2)

* `Same m key` (ILocal): the entry is untouched; memoised calls with another `(m', key')` are `Same` steps;
* `SplitOk`: a `stabilise` that RETURNS is an `R`-step followed by the sweep; one that panics is an `R`-step;
* `entry_step`: what an API action does to the entry of `(m, key)` when bind closures do not call `(m, key)`;
* `CallRet`: the API action `create (memoCall m key)` returned node `n`; hits and misses of that action;
* histories `RunI env I A` (every action satisfies `A`, every state reached satisfies `I`) and the K2 theorems.
-/
namespace IncrVerif.Proofs.MemoH
open IncrVerif.Engine IncrVerif.Proofs.Obs IncrVerif.Proofs.Memo IncrVerif.Proofs.Own

/-! ## `Same` -/

/-- the entry of `key` in table `m` is untouched -/
def Same (m : Nat) (key : Int) (s s' : State) : Prop := stored s' m key = stored s m key

instance (m : Nat) (key : Int) : PreOrd (Same m key) :=
  ⟨fun _ => rfl, fun h1 h2 => Eq.trans h2 h1⟩
instance (m : Nat) (key : Int) : ILocal (Same m key) :=
  ⟨fun s s' hf => by simp only [Same, stored, hf.memos]⟩

/-- a call with another memo function or another key -/
def NotThis (m : Nat) (key : Int) : Nat → Int → Prop := fun m' key' => ¬ (m' = m ∧ key' = key)

theorem same_memoCall (env : Env) (m : Nat) (key : Int) (m' : Nat) (key' : Int)
    (hne : NotThis m key m' key') : Pres (Same m key) (memoCall env m' key') := by
  refine ⟨fun s r s' hrun => ?_⟩
  rcases memoCall_cases env m' key' s s' r hrun with ⟨-, rfl⟩ | ⟨-, hf | ⟨s1, s2, x, -, -, hf2, rfl⟩⟩
  · exact PreOrd.refl _
  · exact ILocal.of_frame0 _ _ hf.toF0
  · show stored (memoFinish _ _ _ _ s2) m key = stored s m key
    rw [stored_memoFinish_ne _ _ _ _ _ _ _ hne]
    simp only [stored, hf2.memos]

/-! ## products of relations -/

/-- both relations -/
def Both (R1 R2 : State → State → Prop) (s s' : State) : Prop := R1 s s' ∧ R2 s s'

instance (R1 R2 : State → State → Prop) [PreOrd R1] [PreOrd R2] : PreOrd (Both R1 R2) :=
  ⟨fun s => ⟨PreOrd.refl s, PreOrd.refl s⟩,
   fun h1 h2 => ⟨PreOrd.trans h1.1 h2.1, PreOrd.trans h1.2 h2.2⟩⟩
instance (R1 R2 : State → State → Prop) [ILocal R1] [ILocal R2] : ILocal (Both R1 R2) :=
  ⟨fun s s' h => ⟨ILocal.of_frame0 s s' h, ILocal.of_frame0 s s' h⟩⟩

theorem Pres.both {R1 R2 : State → State → Prop} {α} {x : M α} (h1 : Pres R1 x) (h2 : Pres R2 x) :
    Pres (Both R1 R2) x := ⟨fun s r s' h => ⟨h1.h s r s' h, h2.h s r s' h⟩⟩

/-! ## `stabilise`, by outcome -/

/-- a run that panics is an `R`-step; a run that returns is an `R`-step followed by the sweep -/
def SplitOk (R : State → State → Prop) {α} (x : M α) : Prop :=
  (∀ s e s', x.run.run s = (.error e, s') → R s s') ∧
  (∀ s a s', x.run.run s = (.ok a, s') → ∃ s1, R s s1 ∧ s' = sweep s1)

section
variable {R : State → State → Prop}

theorem SplitOk.bind [PreOrd R] {α β} {x : M α} {f : α → M β} (hx : Pres R x)
    (hf : ∀ a, SplitOk R (f a)) : SplitOk R (x >>= f) := by
  constructor
  · intro s e s' h
    rw [run_bind] at h
    rcases hx' : x.run.run s with ⟨r1, s1⟩
    rw [hx'] at h
    have h1 := hx.h s r1 s1 hx'
    cases r1 with
    | error e' => cases h; exact h1
    | ok a => exact PreOrd.trans h1 ((hf a).1 s1 e s' h)
  · intro s b s' h
    rw [run_bind] at h
    rcases hx' : x.run.run s with ⟨r1, s1⟩
    rw [hx'] at h
    have h1 := hx.h s r1 s1 hx'
    cases r1 with
    | error e' => cases h
    | ok a =>
      obtain ⟨s2, h2, h3⟩ := (hf a).2 s1 b s' h
      exact ⟨s2, PreOrd.trans h1 h2, h3⟩

theorem SplitOk.tail [PreOrd R] :
    SplitOk R ((modify gcStep : M Unit) >>= fun _ =>
      (modify fun s => { s with status := .notStabilising } : M Unit)) := by
  constructor
  · intro s e s' h; rw [run_bind, run_modify] at h; cases h
  · intro s a s' h
    rw [run_bind, run_modify] at h
    exact ⟨s, PreOrd.refl s, by cases h; rfl⟩

variable [ILocal R] {env : Env} {P : Nat → Int → Prop}

theorem SplitOk.stabiliseEnd (env fuel) : SplitOk R (stabiliseEnd env fuel) := by
  unfold Engine.stabiliseEnd
  repeat (first
    | exact SplitOk.tail
    | (refine SplitOk.bind ?_ fun _ => ?_; rotate_left)
    | dsimp only)
  all_goals mpres

theorem SplitOk.stabilise (hm : ∀ m key, P m key → Pres R (memoCall env m key))
    (hb : BodiesP P env) (fuel) : SplitOk R (Engine.stabilise env fuel) := by
  unfold Engine.stabilise
  repeat (first
    | exact SplitOk.stabiliseEnd _ _
    | (refine SplitOk.bind ?_ fun _ => ?_; rotate_left)
    | dsimp only)
  all_goals (first | exact PresB.drainHeap hm hb _ | mpres)

theorem SplitOk.stepAction_stabilise (hm : ∀ m key, P m key → Pres R (memoCall env m key))
    (hb : BodiesP P env) (tokens : Array Nat) : SplitOk R (stepAction env .stabilise tokens) := by
  simp only [Engine.stepAction]
  have h0 := SplitOk.stabilise (R := R) hm hb fuelDefault
  constructor
  · intro s e s' h
    rw [run_bind] at h
    rcases hx : (Engine.stabilise env fuelDefault).run.run s with ⟨r1, s1⟩
    rw [hx] at h
    cases r1 with
    | error e' => cases h; exact h0.1 _ _ _ hx
    | ok a => cases h
  · intro s b s' h
    rw [run_bind] at h
    rcases hx : (Engine.stabilise env fuelDefault).run.run s with ⟨r1, s1⟩
    rw [hx] at h
    cases r1 with
    | error e' => cases h
    | ok a => cases h; exact h0.2 _ _ _ hx
end

/-! ## what one API action does to the entry of `(m, key)` -/

/-- the step relation used below: table invariant and the entry of `(m, key)` -/
abbrev MSS (env : Env) (m : Nat) (key : Int) := Both (MS env) (Same m key)

theorem mss_memoCall {env : Env} (hok : MemoBodyOK env) (m : Nat) (key : Int) (m' : Nat) (key' : Int)
    (hne : NotThis m key m' key') : Pres (MSS env m key) (memoCall env m' key') :=
  Pres.both (ms_memoCall hok m' key') (same_memoCall env m key m' key' hne)

theorem MSS.of_quiet {env : Env} {m : Nat} {key : Int} {s s' : State} (h : Quiet0 s s') :
    MSS env m key s s' := ⟨MS.of_quiet h, by simp only [Same, stored, h.memos]⟩

/-- an API action other than `stabilise` and other than the call `create (memoCall m key)` itself leaves the
entry of `(m, key)` alone (and keeps the table invariant) -/
theorem mss_stepAction {env : Env} (hok : MemoBodyOK env) (m : Nat) (key : Int) (a : Action)
    (tokens : Array Nat) (hs : a ≠ .stabilise) (hc : a ≠ .create (.memoCall m key)) :
    Pres (MSS env m key) (stepAction env a tokens) := by
  have hm : ∀ m' key', NotThis m key m' key' → Pres (MSS env m key) (memoCall env m' key') :=
    fun m' key' h => mss_memoCall hok m key m' key' h
  by_cases hp : Action.isPlain a = true
  · exact PresI.stepAction_plain env a tokens hp
  · cases a <;> simp only [Action.isPlain, not_true_eq_false] at hp
    case create i =>
      refine PresB.stepAction_create hm ?_ tokens fun s x => ⟨MS.push s x, rfl⟩
      intro m' key' hi ⟨h1, h2⟩
      exact hc (by rw [hi, h1, h2])
    case observe o =>
      exact PresI.stepAction_observe env o tokens fun s ob l => MSS.of_quiet ⟨rfl, rfl, rfl, rfl⟩
    case cloneObs o =>
      exact PresI.stepAction_cloneObs env o tokens fun s f _ => MSS.of_quiet ⟨rfl, rfl, rfl, rfl⟩
    case dropObs o =>
      exact (Quiet0.stepAction_dropObs env o tokens).mono fun _ _ h => MSS.of_quiet h
    case dropHandle o =>
      exact (Quiet0.stepAction_dropHandle env o tokens).mono fun _ _ h => MSS.of_quiet h
    case stabilise => exact absurd rfl hs

/-- `stabilise`, bind closures not calling `(m, key)`: a run that returns leaves exactly the entries whose node
is still allocated; a run that panics leaves the entry alone -/
theorem stabilise_entry {env : Env} (hok : MemoBodyOK env) (m : Nat) (key : Int)
    (hb : BodiesP (NotThis m key) env) (tokens : Array Nat) (s s' : State) (r)
    (h : (stepAction env .stabilise tokens).run.run s = (r, s')) (ht : TInv env s) :
    TInv env s' ∧
    (match r with
     | .ok _ => stored s' m key = (stored s m key).filter fun n => s'.aliveSet.contains n
     | .error _ => stored s' m key = stored s m key) := by
  have hm : ∀ m' key', NotThis m key m' key' → Pres (MSS env m key) (memoCall env m' key') :=
    fun m' key' h => mss_memoCall hok m key m' key' h
  have h0 := SplitOk.stepAction_stabilise hm hb tokens
  cases r with
  | error e =>
    have := h0.1 s e s' h
    exact ⟨this.1.tinv ht, this.2⟩
  | ok a =>
    obtain ⟨s1, h1, rfl⟩ := h0.2 s a s' h
    have ht1 := h1.1.tinv ht
    refine ⟨(MS.sweep (env := env) s1).tinv ht1, ?_⟩
    show stored (sweep s1) m key = _
    rw [stored_sweep_eq s1 ht1, aliveSet_sweep, h1.2]

/-- K2, one action: when bind closures do not call `(m, key)`, an API action other than the call itself either
leaves the entry alone or (a `stabilise` that returns) drops it iff its node is no longer allocated -/
theorem entry_step {env : Env} (hok : MemoBodyOK env) (m : Nat) (key : Int)
    (hb : BodiesP (NotThis m key) env) (a : Action) (tokens : Array Nat)
    (hc : a ≠ .create (.memoCall m key)) (s s' : State) (r)
    (h : (stepAction env a tokens).run.run s = (r, s')) (ht : TInv env s) :
    TInv env s' ∧ (stored s' m key = stored s m key ∨
      stored s' m key = (stored s m key).filter fun n => s'.aliveSet.contains n) := by
  by_cases hs : a = .stabilise
  · subst hs
    have := stabilise_entry hok m key hb tokens s s' r h ht
    refine ⟨this.1, ?_⟩
    cases r with
    | ok _ => exact .inr this.2
    | error _ => exact .inl this.2
  · have := (mss_stepAction hok m key a tokens hs hc).h s r s' h
    exact ⟨this.1.tinv ht, .inl this.2⟩

/-! ## the call itself -/

/-- the API action `create (memoCall m key)` run in `s` returned node `n` and left state `s'` -/
def CallRet (env : Env) (m : Nat) (key : Int) (s : State) (n : Nat) (s' : State) : Prop :=
  ∃ s1, (memoCall env m key).run.run s = (.ok n, s1) ∧
    s' = { s1 with top := s1.top.push n, handles := n :: s1.handles }

theorem stepAction_memo_run (env : Env) (m : Nat) (key : Int) (tokens : Array Nat) (s : State) :
    (stepAction env (.create (.memoCall m key)) tokens).run.run s =
      match (memoCall env m key).run.run s with
      | (.ok n, s1) => (.ok (s!"ok #{n}", tokens), { s1 with top := s1.top.push n, handles := n :: s1.handles })
      | (.error e, s1) => (.error e, s1) := by
  simp only [Engine.stepAction, Engine.elabInstrM]
  rw [run_bind, map_eq_pure_bind, run_bind]
  rcases (memoCall env m key).run.run s with ⟨_ | n, s1⟩
  · rfl
  · rfl

/-- the action returns normally iff the memoised call does; the `api` text names the node -/
theorem stepAction_memo_ok (env : Env) (m : Nat) (key : Int) (tokens : Array Nat) (s s' : State) (r) :
    (stepAction env (.create (.memoCall m key)) tokens).run.run s = (.ok r, s') ↔
      ∃ n, CallRet env m key s n s' ∧ r = (s!"ok #{n}", tokens) := by
  rw [stepAction_memo_run]
  constructor
  · intro h
    rcases hm : (memoCall env m key).run.run s with ⟨_ | n, s1⟩
    · rw [hm] at h; cases h
    · rw [hm] at h; cases h; exact ⟨n, ⟨s1, hm, rfl⟩, rfl⟩
  · rintro ⟨n, ⟨s1, h1, rfl⟩, rfl⟩
    rw [h1]

theorem memoHit_some {s : State} {m : Nat} {key : Int} {n : Nat} (h : memoHit s m key = some n) :
    stored s m key = some n ∧ s.isAlive n = true := by
  unfold memoHit at h
  cases hs : stored s m key with
  | none => rw [hs] at h; cases h
  | some x =>
    rw [hs] at h
    dsimp only at h
    by_cases ha : s.isAlive x = true
    · rw [if_pos ha] at h; cases h; exact ⟨rfl, ha⟩
    · rw [if_neg ha] at h; cases h

/-- after the call returned `n`: `n` is in the table under `key`, and the program holds a handle on it -/
theorem CallRet.facts {env : Env} {m : Nat} {key : Int} {s s' : State} {n : Nat}
    (h : CallRet env m key s n s') : stored s' m key = some n ∧ n ∈ s'.handles ∧ Anchored s' n := by
  obtain ⟨s1, h1, rfl⟩ := h
  have hs : stored s1 m key = some n := by
    rcases memoCall_ok_cases env m key s s1 n h1 with ⟨hh, rfl⟩ | ⟨_, t1, t2, u, _, _, rfl⟩
    · exact (memoHit_some hh).1
    · exact stored_memoFinish _ _ _ _ _
  exact ⟨hs, List.mem_cons_self, n, .inl List.mem_cons_self, .refl n⟩

/-- A HIT at the API level: the entry's node is still allocated ⟹ the action returns that node (`ok #n`),
creates no node, logs nothing, and only records the new handle -/
theorem call_hit (env : Env) (m : Nat) (key : Int) (tokens : Array Nat) (s : State) (n : Nat)
    (hs : stored s m key = some n) (ha : n ∈ s.aliveSet) :
    (stepAction env (.create (.memoCall m key)) tokens).run.run s =
      (.ok (s!"ok #{n}", tokens), { s with top := s.top.push n, handles := n :: s.handles }) := by
  have hal : s.isAlive n = true := by unfold State.isAlive; simpa using ha
  have hh : memoHit s m key = some n := by simp only [memoHit, hs, hal, if_true]
  rw [stepAction_memo_run, memoCall_run, hh]

/-- A MISS at the API level (no entry, or the entry's node has been freed): if the action returns, the node
`n'` it returns was created by this call (`s.nodes.size ≤ n'`), the underlying function was invoked (its `note`
event is logged, the body ran from `memoStart`), and `n'` is the new entry -/
theorem call_miss {env : Env} (hok : MemoBodyOK env) (m : Nat) (key : Int) (s s' : State) (n' : Nat)
    (hmiss : memoHit s m key = none) (h : CallRet env m key s n' s') :
    s.nodes.size ≤ n' ∧ n' < s'.nodes.size ∧ s'.log = memoNote m key :: s.log ∧
      stored s' m key = some n' ∧ Produced env s' m key n' := by
  obtain ⟨s1, h1, rfl⟩ := h
  rcases memoCall_ok_cases env m key s s1 n' h1 with ⟨hh, _⟩ | ⟨_, t1, t2, u, ht, he, rfl⟩
  · rw [hmiss] at hh; cases hh
  · have hf1 : F0V s t1 := (PresF.tick (R := F0V)).h _ _ _ ht
    have hfresh := elabTemplateBase_fresh (hok m).1 (hok m).2 _ _ _ _ he
    have hk := (keep_elabTemplateBase _ _ _).h _ _ _ he
    have hlog : t1.log = s.log := by
      rw [tick_run] at ht
      split at ht
      · cases ht; rfl
      · split at ht <;> cases ht; rfl
    refine ⟨Nat.le_trans hf1.nodesLe hfresh.1, hfresh.2, ?_, ?_, ?_⟩
    · show t2.log = _
      rw [hk.1]; show memoNote m key :: t1.log = _; rw [hlog]
    · exact stored_memoFinish t1.currentScope m key n' t2
    · have hf : Fut t2 (memoFinish t1.currentScope m key n' t2) := Fut.of_eq rfl rfl
      exact ⟨memoStart m key t1, t2, rfl, he, hfresh.1, hfresh.2,
        hf.trans (MS.push (env := env) _ n').fut⟩

end IncrVerif.Proofs.MemoH
