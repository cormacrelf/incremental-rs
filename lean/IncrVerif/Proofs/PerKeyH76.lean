import IncrVerif.Proofs.PerKeyH5
import IncrVerif.Proofs.PerKeyH6
/-!
# Per-key operators: the drain (`DrainSpecP` from `StepSpecP` and `PopSpecP`); no node runs twice

Assembly by `Drain.drainHeap_run`, as in `Proofs/DriverH31.lean`; the stamps are read in the virtual states `V s`.  Nodes may be
created during the drain (`PStep.grow`, `FrameB.grow`).
-/
namespace IncrVerif.Proofs.PerKeyH
open IncrVerif.Engine IncrVerif.Driver IncrVerif.Proofs IncrVerif.Proofs.Step IncrVerif.Proofs.Sched
open IncrVerif.Proofs.ExpertH IncrVerif.Proofs.EffH IncrVerif.Proofs.DriverH

/-! ## the frame -/

theorem PStep.refl (s : State) : PStep s s :=
  ⟨BindH.FrameB.refl _, Nat.le_refl _, rfl, fun _ _ => rfl,
    fun m hm => by rw [nodeD_default_of_ge s m hm]; rfl⟩

theorem dnKey_observers {a b : Node} (h : dnKey a = dnKey b) : a.observers = b.observers := by
  simp only [dnKey, Prod.mk.injEq] at h
  exact h.2.2.2.2.1

theorem PStep.trans {a b c : State} (h1 : PStep a b) (h2 : PStep b c) : PStep a c :=
  ⟨h1.frameB.trans h2.frameB, Nat.le_trans h1.grow h2.grow, h2.key.trans h1.key,
    fun m hm => (h2.node m (Nat.lt_of_lt_of_le hm h1.grow)).trans (h1.node m hm),
    fun m hm => by
      by_cases hb : m < b.nodes.size
      · rw [dnKey_observers (h2.node m hb)]; exact h1.newObs m hm
      · exact h2.newObs m (by omega)⟩

theorem PStep.stabNum {s s' : State} (f : PStep s s') : s'.stabNum = s.stabNum := f.frameB.stabNum

theorem PStep.vars {s s' : State} (f : PStep s s') : s'.vars = s.vars := f.frameB.vars

/-! ## one step: the case split on the kind -/

/-- **one `recomputeOne` of the drain**, from the three step contracts -/
theorem stepSpecP_of {env : Env} (h1 : LcStepSpec env) (h2 : XStepSpec env) (h3 : StaticStepSpec env) :
    StepSpecP env := by
  intro fuel n s s' r D N h
  have hk := D.aux.frag.kindD n
  cases hkind : (s.nodeD n).kind with
  | expert e => exact h2 fuel n e s s' r D N hkind h
  | map f args =>
    by_cases hf : fnPerKey ≤ f
    · have e : f = fnPerKey + (f - fnPerKey) := by omega
      rw [e] at hkind
      exact h1 fuel n (f - fnPerKey) args s s' r D N hkind h
    · refine h3 fuel n s s' r D N (fun e he => ?_) (fun f' args' he => ?_) h
      · rw [hkind] at he; cases he
      · rw [hkind] at he; injection he with e1 _; subst e1; omega
  | _ =>
    refine h3 fuel n s s' r D N (fun e he => ?_) (fun f' args' he => ?_) h
    all_goals (rw [hkind] at he; cases he)

/-! ## stamps in the virtual states -/

/-- the stamp of the round of `s0`, in the virtual state: the mark of `Drain.Once` -/
def ranP (s0 t : State) (m : Nat) : Prop := ((V t).nodeD m).recomputedAt = s0.stabNum

/-- a node stamped in this round keeps the stamp -/
theorem PStep.ranP {s0 s s' : State} (f : PStep s s') (f0 : PStep s0 s) (m : Nat) (h : ranP s0 s m) : ranP s0 s' m := by
  unfold PerKeyH.ranP at h ⊢
  rw [← f0.stabNum] at h ⊢
  exact (f.frameB.ran m h).1

/-- before the current node runs it is not stamped (in the virtual state) -/
theorem PD.cur_not_yet {env : Env} {s : State} {n : Nat} (D : PD env s (some n)) :
    ((V s).nodeD n).recomputedAt < s.stabNum :=
  D.inv.fresh n n (BindH.Below.refl n) (Or.inr rfl)

/-! ## the chain and the drain -/

theorem StepSpecP.one {env : Env} (hStep : StepSpecP env) (s0 : State) (fuel n : Nat) (t : State) (r : Option Nat) (t' : State)
    (i : (PD env t (some n) ∧ NoRem t) ∧ PStep s0 t) (h : (recomputeOne env fuel n).run.run t = (.ok r, t')) :
    ((PD env t' r ∧ NoRem t') ∧ PStep s0 t') ∧ Drain.Once (ranP s0) [(n, t)] t t' := by
  obtain ⟨D1, N1, f1, hn1⟩ := hStep fuel n t t' r i.1.1 i.1.2 h
  refine ⟨⟨⟨D1, N1⟩, i.2.trans f1⟩, .one (f1.ranP i.2) ?_ ?_⟩
  · have := i.1.1.cur_not_yet
    unfold ranP
    rw [← i.2.stabNum]
    omega
  · unfold ranP
    rw [← i.2.stabNum]
    exact hn1

theorem PopSpecP.one {env : Env} (hPop : PopSpecP env) (s0 t : State) (n : Nat) (t' : State)
    (i : (PD env t none ∧ NoRem t) ∧ PStep s0 t) (h : rchRemoveMin.run.run t = (.ok (some n), t')) :
    ((PD env t' (some n) ∧ NoRem t') ∧ PStep s0 t') ∧ Drain.Once (ranP s0) [] t t' :=
  have ⟨D1, N1, f1⟩ := hPop t t' n i.1.1 i.1.2 h
  ⟨⟨⟨D1, N1⟩, i.2.trans f1⟩, .nil (f1.ranP i.2)⟩

/-- the drain invariant, the frame and "no node runs twice" (stamps of the virtual states), by one `Drain.drainHeap_run` -/
theorem drainHeap_P {env : Env} (hStep : StepSpecP env) (hPop : PopSpecP env) (fuel : Nat) (s s' : State)
    (D : PD env s none) (N : NoRem s) (h : (drainHeap env fuel).run.run s = (.ok (), s')) :
    PD env s' none ∧ NoRem s' ∧ s'.rch.length = 0 ∧ PStep s s' ∧
      Drain.Once (ranP s) (TidyH.drainSteps env fuel s) s s' := by
  obtain ⟨s1, ⟨⟨D1, N1⟩, f1⟩, O, h1, -⟩ := Drain.drainHeap_run (I := fun x t => (PD env t x ∧ NoRem t) ∧ PStep s t) Drain.Once.append
    (hStep.one s) (hPop.one s) (fun _ _ => .nil fun _ hm => hm) fuel s s' ⟨⟨D, N⟩, PStep.refl s⟩ h
  obtain ⟨rfl, he⟩ := rchRemoveMin_inv (heapInv_of_V D1.inv.heap) h1
  exact ⟨D1, N1, he, f1, O⟩

/-- every node of the trace of the drain had not run in this round before the drain and is stamped after it
(stamps of the virtual states `V s`, `V s'`) -/
theorem drain_once_P (env : Env) (hStep : StepSpecP env) (hPop : PopSpecP env) :
    ∀ (fuel : Nat) (s s' : State), PD env s none → NoRem s → (drainHeap env fuel).run.run s = (.ok (), s') →
    ∀ m, m ∈ drainTrace env fuel s →
      ((V s).nodeD m).recomputedAt < s.stabNum ∧ ((V s').nodeD m).recomputedAt = s.stabNum := by
  intro fuel s s' D N h m hm
  have O := (drainHeap_P hStep hPop fuel s s' D N h).2.2.2.2
  rw [← TidyH.drainSteps_fst] at hm
  obtain ⟨h0, h1⟩ := O.mem m hm
  have : _ ≤ s.stabNum := (D.inv.stamps.node m).1
  exact ⟨by unfold ranP at h0; omega, h1⟩

/-- **the drain** -/
theorem drainSpecP_of {env : Env} (hS : StepSpecP env) (hP : PopSpecP env) : DrainSpecP env := by
  intro fuel s s' D N h
  obtain ⟨D', N', he, f, O⟩ := drainHeap_P hS hP fuel s s' D N h
  rw [← TidyH.drainSteps_fst]
  exact ⟨D', N', he, f, O.nodup⟩

end IncrVerif.Proofs.PerKeyH
