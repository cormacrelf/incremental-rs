import IncrVerif.Proofs.NestH28
/-!
# Nested binds (F2), `lhsRelink`, part 4: the state after the first two updates; the pure prefix of `changeChildBindRhs` (through virtual
intermediate states); the linking part; the unforcing tail

The states `BR.pre`, `BR.pre4` and the lemmas `CR.stamped_*`, `CR.pre4_*` (`BindH69`) about them are reused.
The validity of the bind's main node is a hypothesis (or follows from its necessity); `link_part` derives the scope height rule
for the main node itself (the hypothesis `hsh` of `NR.sap_corr`) from the invariant before the run.
-/
namespace IncrVerif.Proofs.NestH
open IncrVerif.Engine IncrVerif.Proofs IncrVerif.Proofs.Step IncrVerif.Proofs.Sched IncrVerif.Proofs.Quiet
open IncrVerif.Proofs.BindH

namespace NR

section
variable {env : Env} {rk : Nat → Nat} {s : State} {ex : Nat → Prop} {dy : List Nat} {b n rhs : Nat} {br : BindRec}

/-- the basic facts about the two nodes of the bind -/
theorem bind_facts (I : GInv2 env rk s allClosed ex dy) (hb : s.binds[b]? = some br) (hl : br.lhsChange = n)
    (hvm : (s.nodeD br.main).valid = true) :
    n < br.main ∧ br.main < s.nodes.size ∧ (s.nodeD n).kind = .bindLhsChange b ∧
      (s.nodeD br.main).kind = .bindMain b n ∧ (s.nodeD n).valid = true ∧
      rk n < rk br.main ∧ (s.nodeD br.main).createdIn = (s.nodeD n).createdIn := by
  obtain ⟨r1, r2, r3, r4, r5⟩ := I.frag.recs b br hb
  have r6 := I.frag.recValid b br hb
  have r7 := I.frag.lc_rk_main hb hvm
  rw [hl] at r1 r3 r4 r5 r6 r7
  exact ⟨by omega, r2, r3, r4, by rw [← r6]; exact hvm, r7, r5⟩

/-- case `oldRhs = none` -/
theorem pre_inv_none (I : GInv2 env rk s allClosed ex dy) (hex : ex br.main)
    (hb : s.binds[b]? = some br) (hr : br.rhs = none) (hl : br.lhsChange = n)
    (hnecm : s.isNecessary br.main = true) (hrs : rhs < s.nodes.size) (hrhs : RhsOK2 rk s b n rhs)
    (hrm : (s.nodeD br.main).recomputedAt < s.stabNum) :
    GInv2 env rk (BR.pre b n rhs s.stabNum s) (upd allClosed br.main (.linking 1)) ex dy := by
  have hvm := I.valid_of_nec hnecm
  obtain ⟨hnm, hms, hkn, hkm, -, -, -⟩ := bind_facts I hb hl hvm
  have hn : n < s.nodes.size := by omega
  have IA := stamp I hkn hb rfl hkm hvm hn hex hrm
  have hmA := BR.stamped_main (s := s) hnm s.stabNum
  have hvA : ((BR.stamped n s.stabNum s).nodeD br.main).valid = true := by rw [hmA]; exact hvm
  have hkA : ((BR.stamped n s.stabNum s).nodeD br.main).kind = .bindMain b n := by rw [hmA]; exact hkm
  have hchA : (BR.stamped n s.stabNum s).children br.main = [n] := by
    rw [BR.children_main (br := br) hvA hkA hb, hr]; rfl
  have hnA : (BR.stamped n s.stabNum s).isNecessary br.main = true := by rw [CR.stamped_nec]; exact hnecm
  have IB := open_full IA rfl hnA
  rw [hchA] at IB
  refine setRhs (s := BR.stamped n s.stabNum s) (s' := BR.pre b n rhs s.stabNum s) (b := b) (n := n) (rhs := rhs)
    (br := br) IB hb hl (upd_self _ _ _) (by rw [CR.stamped_size]; exact hrs)
    (hrhs.congr (CR.stamped_createdIn _ _) (CR.stamped_kind _ _) (CR.stamped_valid _ _))
    (fun _ => rfl) rfl rfl rfl rfl rfl rfl (BR.pre_binds_self hb) (fun b' e => BR.pre_binds_other e) ?_
  rw [hmA, BR.stamped_self hn]; exact hrm

/-- case `oldRhs = some rhs`: the record does not change -/
theorem pre_inv_same (I : GInv2 env rk s allClosed ex dy) (hex : ex br.main)
    (hb : s.binds[b]? = some br) (hr : br.rhs = some rhs) (hl : br.lhsChange = n)
    (hvm : (s.nodeD br.main).valid = true)
    (hrm : (s.nodeD br.main).recomputedAt < s.stabNum) :
    GInv2 env rk (BR.pre b n rhs s.stabNum s) allClosed ex dy := by
  obtain ⟨hnm, hms, hkn, hkm, -, -, -⟩ := bind_facts I hb hl hvm
  have hn : n < s.nodes.size := by omega
  have IA := stamp I hkn hb rfl hkm hvm hn hex hrm
  exact IA.congr ⟨SameG.of_nodes rfl rfl rfl rfl rfl, BR.pre_binds_same hb hr⟩

/-- case `oldRhs = some o`, `o ≠ rhs` -/
theorem pre_inv_some {o pi : Nat} (I : GInv2 env rk s allClosed ex dy) (hex : ex br.main)
    (hb : s.binds[b]? = some br) (hr : br.rhs = some o) (hl : br.lhsChange = n)
    (hnecm : s.isNecessary br.main = true) (hrs : rhs < s.nodes.size) (hrhs : RhsOK2 rk s b n rhs) (hon : o ≠ n)
    (hrm : (s.nodeD br.main).recomputedAt < s.stabNum)
    (hidx : (s.nodeD o).parents.idxOf? (br.main, 1) = some pi) :
    GInv2 env rk (BR.pre4 b n rhs o pi s.stabNum s) (upd allClosed br.main (.linking 1)) ex dy := by
  have hvm := I.valid_of_nec hnecm
  obtain ⟨hnm, hms, hkn, hkm, -, -, -⟩ := bind_facts I hb hl hvm
  have hn : n < s.nodes.size := by omega
  have hch0 : s.children br.main = [n, o] := by
    rw [BR.children_main (br := br) hvm hkm hb, hr]; rfl
  have hk1 : (s.children br.main)[1]? = some o := by rw [hch0]; rfl
  have ho : o < s.nodes.size := I.kid_in hk1
  have hom : o ≠ br.main := I.kid_ne hk1
  have hvo : (s.nodeD o).valid = true := (I.frag.node br.main hms).kidsValid o (List.mem_of_getElem? hk1)
  have IA := stamp I hkn hb rfl hkm hvm hn hex hrm
  -- the virtual states: stamped, then forced, then the edge dropped
  have hszA : (BR.stamped n s.stabNum s).nodes.size = s.nodes.size := Array.size_modify
  have hoA : (BR.stamped n s.stabNum s).nodeD o = s.nodeD o := BR.stamped_other hon _
  have hmA := BR.stamped_main (s := s) hnm s.stabNum
  have hvA : ((BR.stamped n s.stabNum s).nodeD br.main).valid = true := by rw [hmA]; exact hvm
  have hkA : ((BR.stamped n s.stabNum s).nodeD br.main).kind = .bindMain b n := by rw [hmA]; exact hkm
  have hchA : (BR.stamped n s.stabNum s).children br.main = [n, o] := by
    rw [BR.children_main (br := br) hvA hkA hb, hr]; rfl
  have hnA : (BR.stamped n s.stabNum s).isNecessary br.main = true := by rw [CR.stamped_nec]; exact hnecm
  have memA : (br.main, 1) ∈ ((BR.stamped n s.stabNum s).nodeD o).parents :=
    IA.conv br.main 1 o (by rw [hchA]; rfl) ((wants_closed rfl).2 hnA)
  have hoB : (BR.forced o true (BR.stamped n s.stabNum s)).nodeD o =
      { (BR.stamped n s.stabNum s).nodeD o with forceNecessary := true } := by
    rw [BR.forced_nodeD, if_pos ⟨rfl, by rw [hszA]; exact ho⟩]
  have hmB : (BR.forced o true (BR.stamped n s.stabNum s)).nodeD br.main =
      (BR.stamped n s.stabNum s).nodeD br.main := by
    rw [BR.forced_nodeD, if_neg (fun e => hom e.1)]
  have hnBo : (BR.forced o true (BR.stamped n s.stabNum s)).isNecessary o = true := by
    rw [isNecessary_iff, hoB]; exact Or.inr (Or.inr rfl)
  have IB := (setForce (o := o) (f := true) IA (by rw [hoA]; exact hvo)).1
    (hnBo.trans (nec_of_mem_parents memA).symm)
  have hszB : (BR.forced o true (BR.stamped n s.stabNum s)).nodes.size = s.nodes.size := by
    rw [← hszA]; exact Array.size_modify
  have U : NodeUpd o (fParents (swapRemove ((BR.forced o true (BR.stamped n s.stabNum s)).nodeD o).parents pi))
      (BR.forced o true (BR.stamped n s.stabNum s))
      { BR.forced o true (BR.stamped n s.stabNum s) with
        nodes := (BR.forced o true (BR.stamped n s.stabNum s)).nodes.modify o (BR.fDrop pi) } :=
    NodeUpd.modify' (by rw [hszB]; exact ho) rfl
  have hidxB : ((BR.forced o true (BR.stamped n s.stabNum s)).nodeD o).parents.idxOf? (br.main, 1) = some pi := by
    rw [hoB]; show ((BR.stamped n s.stabNum s).nodeD o).parents.idxOf? (br.main, 1) = some pi
    rw [hoA]; exact hidx
  have hvB : ((BR.forced o true (BR.stamped n s.stabNum s)).nodeD br.main).valid = true := by rw [hmB]; exact hvA
  have hkB : ((BR.forced o true (BR.stamped n s.stabNum s)).nodeD br.main).kind = .bindMain b n := by
    rw [hmB]; exact hkA
  have hchB : (BR.forced o true (BR.stamped n s.stabNum s)).children br.main = [n, o] := by
    rw [BR.children_main (br := br) hvB hkB hb, hr]; rfl
  have hnB : (BR.forced o true (BR.stamped n s.stabNum s)).isNecessary br.main = true := by
    simp only [State.isNecessary, hmB]; exact hnA
  -- the nodes of the last virtual state and of the real one
  have hC : ∀ m, ({ BR.forced o true (BR.stamped n s.stabNum s) with
        nodes := (BR.forced o true (BR.stamped n s.stabNum s)).nodes.modify o (BR.fDrop pi) } : State).nodeD m =
      if o = m ∧ m < s.nodes.size then BR.fDrop pi (BR.fForce true ((BR.stamped n s.stabNum s).nodeD m))
      else (BR.stamped n s.stabNum s).nodeD m := by
    intro m
    have := BR.nodeD_modify2 (BR.stamped n s.stabNum s) o m (BR.fForce true) (BR.fDrop pi)
    rw [hszA] at this
    exact this
  have hnCo : ({ BR.forced o true (BR.stamped n s.stabNum s) with
        nodes := (BR.forced o true (BR.stamped n s.stabNum s)).nodes.modify o (BR.fDrop pi) } : State).isNecessary o =
      true := by
    rw [isNecessary_iff, hC, if_pos ⟨rfl, ho⟩]; exact Or.inr (Or.inr rfl)
  have IC := (IB.dropLastEdge hidxB U rfl rfl hnB (by rw [hchB]; rfl) (by rw [hchB]; rfl) rfl).1 hnCo
  have hmC : ({ BR.forced o true (BR.stamped n s.stabNum s) with
        nodes := (BR.forced o true (BR.stamped n s.stabNum s)).nodes.modify o (BR.fDrop pi) } : State).nodeD br.main =
      s.nodeD br.main := by
    rw [hC, if_neg (fun e => hom e.1)]; exact hmA
  have hCkey : ∀ m, (({ BR.forced o true (BR.stamped n s.stabNum s) with
        nodes := (BR.forced o true (BR.stamped n s.stabNum s)).nodes.modify o (BR.fDrop pi) } : State).nodeD m).createdIn
        = (s.nodeD m).createdIn ∧
      (({ BR.forced o true (BR.stamped n s.stabNum s) with
        nodes := (BR.forced o true (BR.stamped n s.stabNum s)).nodes.modify o (BR.fDrop pi) } : State).nodeD m).kind
        = (s.nodeD m).kind ∧
      (({ BR.forced o true (BR.stamped n s.stabNum s) with
        nodes := (BR.forced o true (BR.stamped n s.stabNum s)).nodes.modify o (BR.fDrop pi) } : State).nodeD m).valid
        = (s.nodeD m).valid := by
    intro m
    -- the two updates are taken off a VARIABLE node first: on the stamped node the unifier unfolds `Array.modify` before `fDrop`/`fForce`
    have hx : ∀ x : Node, (BR.fDrop pi (BR.fForce true x)).createdIn = x.createdIn ∧
        (BR.fDrop pi (BR.fForce true x)).kind = x.kind ∧ (BR.fDrop pi (BR.fForce true x)).valid = x.valid :=
      fun _ => ⟨rfl, rfl, rfl⟩
    rw [hC]; split
    · obtain ⟨h1, h2, h3⟩ := hx ((BR.stamped n s.stabNum s).nodeD m)
      rw [h1, h2, h3]
      exact ⟨CR.stamped_createdIn _ m, CR.stamped_kind _ m, CR.stamped_valid _ m⟩
    · exact ⟨CR.stamped_createdIn _ m, CR.stamped_kind _ m, CR.stamped_valid _ m⟩
  have hszC : ({ BR.forced o true (BR.stamped n s.stabNum s) with
        nodes := (BR.forced o true (BR.stamped n s.stabNum s)).nodes.modify o (BR.fDrop pi) } : State).nodes.size =
      s.nodes.size := by
    rw [← hszB]; exact Array.size_modify
  refine setRhs (s' := BR.pre4 b n rhs o pi s.stabNum s) (b := b) (n := n) (rhs := rhs) (br := br) IC hb hl
    (upd_self _ _ _) (by rw [hszC]; exact hrs)
    (hrhs.congr (hCkey rhs).1 (hCkey rhs).2.1 (hCkey rhs).2.2) ?_ ?_ rfl rfl rfl rfl rfl
    (BR.pre_binds_self (n := n) (v := s.stabNum) hb)
    (fun b' e => BR.pre_binds_other (n := n) (v := s.stabNum) e) ?_
  · intro m
    rw [BR.pre4_nodeD, hC]
    split <;> rfl
  · show ((((BR.pre b n rhs s.stabNum s).nodes.modify o (BR.fDrop pi)).modify o (BR.fForce true)).size) =
      ((BR.forced o true (BR.stamped n s.stabNum s)).nodes.modify o (BR.fDrop pi)).size
    rw [Array.size_modify, Array.size_modify, Array.size_modify, hszB]
    exact Array.size_modify
  · rw [hmC, hC, if_neg (fun e => hon e.1), BR.stamped_self hn]; exact hrm

/-! ## the linking part, from either prefix -/

theorem link_corr {N fuel : Nat} {t : State}
    (I : GInv2 env rk s allClosed ex dy) (It : GInv2 env rk t (upd allClosed br.main (.linking 1)) ex dy)
    (hex : ex br.main) (hat : AhhEmpty t) (hb : s.binds[b]? = some br) (hl : br.lhsChange = n)
    (hnecm : s.isNecessary br.main = true)
    (hpi : t.propagateInvalidity = []) (hrm : (s.nodeD br.main).recomputedAt < s.stabNum)
    (htm : t.nodeD br.main = s.nodeD br.main) (htn : t.nodeD n = { s.nodeD n with changedAt := s.stabNum })
    (htb : t.binds = (BR.pre b n rhs s.stabNum s).binds)
    (hF : ∀ m b' br', (t.nodeD m).forceNecessary = true → (t.nodeD m).createdIn = .bind b' →
      t.binds[b']? = some br' →
      t.isNecessary br'.lhsChange = true ∧ upd allClosed br.main (.linking 1) br'.lhsChange = .closed)
    (hdy : ∀ m, m ∈ dy → (t.nodeD m).createdIn = .bind b)
    (hnf : ∀ m, (s.nodeD m).forceNecessary = false)
    (hth : ∀ m, (t.nodeD m).height = (s.nodeD m).height)
    (htnec : ∀ m, s.isNecessary m = true → t.isNecessary m = true)
    (hsz : t.nodes.size = s.nodes.size) (hnect : ∀ m, t.isNecessary m = true → s.isNecessary m = true) :
    Corr (stateAddParent env fuel rhs 1 br.main) t (HBo2 rk s allClosed ∧ Room N t ∧ 3 * t.nodes.size + 3 ≤ fuel)
      (fun _ t' => GInv2 env rk t' allClosed ex dy ∧ AhhEmpty t' ∧ BR.KRel t t' ∧ t'.isNecessary br.main = true ∧
        (HBo2 rk s allClosed ∧ Room N t ∧ 3 * t.nodes.size + 3 ≤ fuel → HBo2 rk t' allClosed ∧ Room N t')) := by
  have hvm := I.valid_of_nec hnecm
  obtain ⟨hnm, hms, hkn, hkm, -, -, -⟩ := bind_facts I hb hl hvm
  have hbt : t.binds[b]? = some { br with rhs := some rhs } := by rw [htb]; exact BR.pre_binds_self hb
  have hk0 : (s.children br.main)[0]? = some n := by rw [BR.children_main hvm hkm hb]; rfl
  have hmem := I.conv br.main 0 n hk0 ((wants_closed rfl).2 hnecm)
  have hbb : ∀ b', (s.nodeD br.main).createdIn = .bind b' → b' ≠ b := by
    intro b' hc' e
    rw [e] at hc'
    have := (I.frag.scope_rk hms hc' hb).2
    exact Nat.lt_irrefl _ this
  have hP : HBo2 rk s allClosed ∧ Room N t ∧ 3 * t.nodes.size + 3 ≤ fuel → SapP rk N fuel br.main t := by
    intro ⟨hB, R, hf⟩
    refine ⟨NL.HBo2_transport hB hsz (fun m hm _ => ⟨hnect m hm, rfl, hth m⟩), R,
      by rw [htm, hsz]; exact hB br.main hnecm rfl, ?_, hf⟩
    intro b' br' hc' hb'
    rw [htm] at hc'
    rw [htb, BR.pre_binds_other (hbb b' hc')] at hb'
    exact htnec _ (NL.scope_main_nec I (fun m k e => by cases e)
      (fun m b0 br0 hf => by rw [hnf m] at hf; cases hf) hc' hb' (hnf _) hnecm)
  refine (sap_corr (N := N) (b := b) (n := n) (br := { br with rhs := some rhs }) It hex hat hbt rfl hl rfl
    ?_ ?_ ?_ hpi hF hdy ?_ ?_).mono hP (fun _ t' ⟨k1, k2, k3, k4, hT⟩ => ⟨k1, k2, k3, k4, fun h => hT (hP h)⟩)
  · rw [htn, htm]; exact I.hlt n br.main 0 hmem rfl
  · rw [htm]; exact I.hpos br.main hnecm rfl
  · rw [htm]; exact fun hq => I.hgt br.main hq rfl
  · rw [htm, htn]; exact hrm
  · -- the scope height rule for the main node itself (it may be the main node of an INNER bind)
    intro b' br' hc' hb'
    rw [htm] at hc'
    rw [htb, BR.pre_binds_other (hbb b' hc')] at hb'
    have hh := I.scopeH br.main b' br' hvm hc' hb' hnecm rfl
    have hn' : s.isNecessary br'.lhsChange = true :=
      NL.GInv2.scope_lc_nec I (fun m k e => by cases e)
        (fun m b0 br0 hf => by rw [hnf m] at hf; cases hf) hc' hb' hnecm
    exact ⟨by rw [hth, hth]; exact hh, htnec _ hn'⟩

/-! ## the unforcing tail -/

theorem unforce_corr {N fuel o : Nat} {t : State}
    (I : GInv2 env rk t allClosed ex dy) (hnec : t.isNecessary o = true) (E : AhhEmpty t) :
    Corr (checkIfUnnecessary fuel o) (BR.forced o false t) (3 * t.nodes.size ≤ fuel) (fun _ t' =>
      GInv2 env rk t' allClosed ex dy ∧ AhhEmpty t' ∧ BR.KRel (BR.forced o false t) t' ∧
        AboveR2 rk (BR.forced o false t) o t' ∧
        (HBo2 rk t allClosed → Room N t → HBo2 rk t' allClosed ∧ Room N t')) := by
  have hvo := I.valid_of_nec hnec
  have E8 : AhhEmpty (BR.forced o false t) := by
    refine BR.ahhEmpty_frame E rfl fun m => ?_
    rw [BR.forced_nodeD]; split <;> rfl
  have hsz : (BR.forced o false t).nodes.size = t.nodes.size := by simp [BR.forced]
  have hht : ∀ m, ((BR.forced o false t).nodeD m).height = (t.nodeD m).height := by
    intro m; rw [BR.forced_nodeD]; split <;> rfl
  have hnecO : ∀ m, m ≠ o → (BR.forced o false t).isNecessary m = t.isNecessary m := fun m e => by
    have : (BR.forced o false t).nodeD m = t.nodeD m := by rw [BR.forced_nodeD, if_neg (fun h => e h.1.symm)]
    simp only [State.isNecessary, this]
  have fin : ∀ op, GInv2 env rk (BR.forced o false t) op ex dy → upd op o .closed = allClosed →
      (∀ m, op m ≠ .closed → m = o) →
      (((BR.forced o false t).isNecessary o = true ∧ op o = .closed) ∨
        ((BR.forced o false t).isNecessary o = false ∧ op o = .unlinking 0)) →
      Corr (checkIfUnnecessary fuel o) (BR.forced o false t) (3 * t.nodes.size ≤ fuel) (fun _ t' =>
        GInv2 env rk t' allClosed ex dy ∧ AhhEmpty t' ∧ BR.KRel (BR.forced o false t) t' ∧
          AboveR2 rk (BR.forced o false t) o t' ∧
          (HBo2 rk t allClosed → Room N t → HBo2 rk t' allClosed ∧ Room N t')) := by
    intro op I8 hop hlow hcase
    have ho8 : o < (BR.forced o false t).nodes.size := by rw [hsz]; exact nec_lt_size hnec
    refine ((NU.unlink_corr fuel).2.1 env rk o (BR.forced o false t) op ex dy I8
      (fun m hm => by rw [hlow m hm]; exact Nat.le_refl _) hcase).and_run.mono
      (fun hf => by have := cnt_lt_size (rk := rk) ho8; rw [hsz] at this ⊢; omega) ?_
    rintro _ t' ⟨h, I9, hab, hu, hN⟩
    rw [hop] at I9
    refine ⟨I9, BR.ahhEmpty_frame E8 (BR.CFrame.ahh hu.fr) (((BR.PresM.unlink fuel).2.1 o).h _ _ _ h),
      BR.KRel.of_cframe hu.fr hu.pinv, hab, fun hB R => ⟨?_, ?_⟩⟩
    · have hB8 : HBo2 rk (BR.forced o false t) op := by
        refine NL.HBo2_transport hB hsz (fun m hm _ => ⟨?_, rfl, hht m⟩)
        by_cases e : m = o
        · rw [e]; exact hnec
        · rw [← hnecO m e]; exact hm
      have := NU.hbo2_of_necH (op' := upd op o .closed) hB8 hN hu.fr.size (fun m ho hm => by
        by_cases e : m = o
        · rw [e] at hm ⊢
          rcases hcase with ⟨_, h⟩ | ⟨h, _⟩
          · exact h
          · rw [h] at hm; cases hm
        · rw [upd_other _ _ _ e] at ho; exact ho)
      rw [hop] at this
      exact this
    · exact Room.of_cframe ⟨by rw [← R.ahh]; rfl, by rw [← R.rch]; rfl, by rw [hsz]; exact R.size⟩ hu.fr
  cases hno : (BR.forced o false t).isNecessary o with
  | true =>
    exact fin allClosed ((setForce (o := o) (f := false) I hvo).1 (by rw [hno, hnec])) (BR.upd_allClosed_closed o)
      (fun m hm => absurd rfl hm) (Or.inl ⟨hno, rfl⟩)
  | false =>
    refine fin _ ((setForce (o := o) (f := false) I hvo).2 hnec rfl hno) ?_ ?_ (Or.inr ⟨hno, upd_self _ _ _⟩)
    · rw [upd_upd]; exact BR.upd_allClosed_closed o
    · intro m hm
      by_cases e : m = o
      · exact e
      · rw [upd_other _ _ _ e] at hm; exact absurd rfl hm

end

end NR

end IncrVerif.Proofs.NestH
