import IncrVerif.Proofs.MemoH8
/-!
# C20 over whole histories, part 8: the nodes of memo tables are hereditarily static top-level nodes (K3)

If the operands of the memo bodies are earlier locals or handles naming hereditarily static top-level nodes
(`MemoOuterOK env s`, monotone along futures), every node a memoised function stores is `STop` (`EntriesSTop`),
through every API action.  Together with `TopValid` (kept by every action, `KA*/KB*`) memo nodes stay valid.
-/
namespace IncrVerif.Proofs.MemoH
open IncrVerif.Engine IncrVerif.Proofs.Obs IncrVerif.Proofs.Memo IncrVerif.Proofs.Own
open IncrVerif.Proofs.Step (bind_ok_inv)

/-- the operands of an instruction of a memo body -/
def instrOpnds : Instr → List Opnd
  | .map _ args => args
  | .fold _ _ cs => cs
  | _ => []

/-- an earlier local, or a handle that names a hereditarily static top-level node -/
def OpndS (s : State) : Opnd → Prop
  | .loc _ => True
  | .outer k => ∃ n, s.top[k]? = some n ∧ STop s n
  | _ => False

theorem OpndS.mono {s s' : State} (hf : Fut s s') {o : Opnd} (h : OpndS s o) : OpndS s' o := by
  cases o <;> simp only [OpndS] at h ⊢
  obtain ⟨n, h1, h2⟩ := h
  exact ⟨n, hf.top _ _ h1, h2.mono hf⟩

/-- the outer nodes the memo bodies refer to exist and are hereditarily static top-level nodes -/
def MemoOuterOK (env : Env) (s : State) : Prop :=
  ∀ m, ∀ i ∈ (env.memo m).instrs, ∀ o ∈ instrOpnds i, OpndS s o

theorem MemoOuterOK.mono {env : Env} {s s' : State} (hf : Fut s s') (h : MemoOuterOK env s) :
    MemoOuterOK env s' := fun m i hi o ho => (h m i hi o ho).mono hf

/-- every node stored in a memo table is a hereditarily static top-level node -/
def EntriesSTop (s : State) : Prop :=
  ∀ m tbl, (m, tbl) ∈ s.memos → ∀ key n, (key, n) ∈ tbl → STop s n

/-! ## one static instruction at top level creates one `STop` node -/

theorem createNode_top_run (k : Kind) (c : CutoffK) (s : State) :
    (createNode k .top c).run.run s = (.ok s.nodes.size,
      { s with counters := { s.counters with created := s.counters.created + 1 },
               nodes := s.nodes.push { kind := k, createdIn := .top, cutoff := c } }) := by
  simp only [Engine.createNode, Engine.bumpCounter, run_bind, run_get, run_modify, run_pure]

theorem mapM_resolve (loc : List Nat) (args : List Opnd) (s : State) (l : List Nat) (s' : State)
    (h : (args.mapM (resolveOpnd loc)).run.run s = (.ok l, s')) :
    s' = s ∧ ∀ x ∈ l, ∃ o ∈ args, resolve s loc o = .ok x := by
  induction args generalizing l s' with
  | nil => simp only [List.mapM_nil, run_pure] at h; cases h; exact ⟨rfl, fun _ hx => nomatch hx⟩
  | cons a rest ih =>
    simp only [List.mapM_cons] at h
    obtain ⟨x, s1, h1, h2⟩ := bind_ok_inv h
    rw [resolveOpnd_run] at h1
    injection h1 with hra hs1
    rw [← hs1] at h2
    obtain ⟨xs, s2, h3, h4⟩ := bind_ok_inv h2
    obtain ⟨hs2, hxs⟩ := ih xs s2 h3
    rw [run_pure] at h4
    injection h4 with hl hs'
    injection hl with hl
    refine ⟨hs'.symm.trans hs2, fun y hy => ?_⟩
    rw [← hl] at hy
    rcases List.mem_cons.1 hy with hy | hy
    · exact ⟨a, List.mem_cons_self, hy ▸ hra⟩
    · obtain ⟨o, ho, hr⟩ := hxs y hy
      exact ⟨o, List.mem_cons_of_mem _ ho, hr⟩

/-- a resolved operand of a memo body is an `STop` node -/
theorem resolve_stop {s : State} {loc : List Nat} (hloc : ∀ x ∈ loc, STop s x) {o : Opnd} (ho : OpndS s o)
    {x : Nat} (h : resolve s loc o = .ok x) : STop s x := by
  cases o <;> simp only [OpndS] at ho
  case loc j =>
    simp only [resolve] at h
    cases hl : loc[j]? with
    | none => rw [hl] at h; cases h
    | some y => rw [hl] at h; cases h; exact hloc _ (List.mem_of_getElem? hl)
  case outer k =>
    obtain ⟨n, h1, h2⟩ := ho
    simp only [resolve, h1] at h
    cases h; exact h2

/-- the state after `createNode k .top c` -/
def pushed (s : State) (k : Kind) (c : CutoffK) : State :=
  { s with counters := { s.counters with created := s.counters.created + 1 },
           nodes := s.nodes.push { kind := k, createdIn := .top, cutoff := c } }

theorem createNode_top_run' (k : Kind) (c : CutoffK) (s : State) :
    (createNode k .top c).run.run s = (.ok s.nodes.size, pushed s k c) := createNode_top_run k c s

/-- pushing a static top-level node over `STop` inputs -/
theorem STop.push {s : State} (k : Kind) (c : CutoffK) (hk : StaticK k)
    (hkids : ∀ x ∈ kindRefs k, STop s x) :
    Fut s (pushed s k c) ∧ STop (pushed s k c) s.nodes.size := by
  have hf : Fut s (pushed s k c) :=
    ⟨by show s.nodes.size ≤ (s.nodes.push _).size; simp, fun i hi => by
      show nodeK (({ s with nodes := s.nodes.push _ } : State).nodeD i) = _
      rw [nodeD_push]; simp [Nat.ne_of_lt hi], fun _ _ h => h⟩
  have hnd : (pushed s k c).nodeD s.nodes.size = { kind := k, createdIn := .top, cutoff := c } := by
    show ({ s with nodes := s.nodes.push _ } : State).nodeD s.nodes.size = _
    rw [nodeD_push]; simp
  refine ⟨hf, .mk _ (by show s.nodes.size < (s.nodes.push _).size; simp) (by rw [hnd]) (by rw [hnd]; exact hk)
    (by rw [hnd]; exact fun x hx => (hkids x hx).lt) (by rw [hnd]; exact fun x hx => (hkids x hx).mono hf)⟩

/-- the result of one static instruction run at top level -/
theorem elabInstr_stop (loc : List Nat) (v : Val) {i : Instr} (hi : StaticI i) (s : State)
    (hsc : s.currentScope = .top) (hloc : ∀ x ∈ loc, STop s x) (hop : ∀ o ∈ instrOpnds i, OpndS s o)
    (r : Option Nat) (s' : State) (h : (elabInstr loc v i).run.run s = (.ok r, s')) :
    Fut s s' ∧ s'.currentScope = .top ∧ ∃ n, r = some n ∧ STop s' n := by
  unfold Engine.elabInstr at h
  rw [run_bind, run_get] at h
  dsimp only at h
  rw [hsc] at h
  cases i <;> simp only [StaticI] at hi
  case const c =>
    dsimp only at h
    rw [map_eq_pure_bind, run_bind, createNode_top_run'] at h
    cases h
    have := STop.push (s := s) (.const c) .eq trivial (fun _ hx => nomatch hx)
    exact ⟨this.1, hsc, _, rfl, this.2⟩
  case lhsConst =>
    dsimp only at h
    rw [map_eq_pure_bind, run_bind, createNode_top_run'] at h
    cases h
    have := STop.push (s := s) (.const v) .eq trivial (fun _ hx => nomatch hx)
    exact ⟨this.1, hsc, _, rfl, this.2⟩
  case var c =>
    dsimp only at h
    simp only [map_eq_pure_bind, Engine.createVar, run_bind, run_get, createNode_top_run', run_modify,
      run_pure] at h
    cases h
    have := STop.push (s := s) (.var s.vars.size) .eq trivial (fun _ hx => nomatch hx)
    refine ⟨⟨this.1.nodesLe, this.1.core, fun _ _ h => h⟩, hsc, _, rfl, ?_⟩
    refine STop.mono (s := pushed s (.var s.vars.size) .eq) (Fut.of_eq ?_ ?_) this.2 <;> rfl
  case map f args =>
    dsimp only at h
    obtain ⟨l, s1, h1, h2⟩ := bind_ok_inv h
    obtain ⟨hs1, hl⟩ := mapM_resolve loc args s l s1 h1
    rw [hs1, map_eq_pure_bind, run_bind, createNode_top_run'] at h2
    cases h2
    have := STop.push (s := s) (.map f l) .eq trivial (fun x hx => by
      obtain ⟨o, ho, hr⟩ := hl x hx
      exact resolve_stop hloc (hop o ho) hr)
    exact ⟨this.1, hsc, _, rfl, this.2⟩
  case fold f init cs =>
    dsimp only at h
    obtain ⟨l, s1, h1, h2⟩ := bind_ok_inv h
    obtain ⟨hs1, hl⟩ := mapM_resolve loc cs s l s1 h1
    rw [hs1] at h2
    split at h2
    · rw [map_eq_pure_bind, run_bind, createNode_top_run'] at h2
      cases h2
      have := STop.push (s := s) (.const init) .eq trivial (fun _ hx => nomatch hx)
      exact ⟨this.1, hsc, _, rfl, this.2⟩
    · rw [map_eq_pure_bind, run_bind, createNode_top_run'] at h2
      cases h2
      have := STop.push (s := s) (.fold f init l) .eq trivial (fun x hx => by
        obtain ⟨o, ho, hr⟩ := hl x hx
        exact resolve_stop hloc (hop o ho) hr)
      exact ⟨this.1, hsc, _, rfl, this.2⟩

theorem elabLoop_stop (v : Val) (instrs : List Instr) (hi : ∀ i ∈ instrs, StaticI i) :
    ∀ (loc : List Nat) (s : State) r s', s.currentScope = .top → (∀ x ∈ loc, STop s x) →
      (∀ i ∈ instrs, ∀ o ∈ instrOpnds i, OpndS s o) →
      (forIn instrs loc fun i r => do
        let a ← elabInstr r v i
        match a with
        | some n => pure (ForInStep.yield (r ++ [n]))
        | none => pure (ForInStep.yield r) : M (List Nat)).run.run s = (.ok r, s') →
      Fut s s' ∧ ∀ x ∈ r, STop s' x := by
  induction instrs with
  | nil =>
    intro loc s r s' _ hloc _ h
    rw [List.forIn_nil, run_pure] at h
    cases h; exact ⟨Fut.refl _, hloc⟩
  | cons i rest ih =>
    intro loc s r s' hsc hloc hop h
    rw [List.forIn_cons] at h
    obtain ⟨st, s1, h1, h2⟩ := bind_ok_inv h
    obtain ⟨a, s0, h3, h4⟩ := bind_ok_inv h1
    obtain ⟨hf, hsc0, n, rfl, hn⟩ := elabInstr_stop loc v (hi i List.mem_cons_self) s hsc hloc
      (hop i List.mem_cons_self) a s0 h3
    dsimp only at h4
    rw [run_pure] at h4
    injection h4 with hst hs01
    injection hst with hst
    rw [← hst, ← hs01] at h2
    dsimp only at h2
    have := ih (fun j hj => hi j (List.mem_cons_of_mem _ hj)) (loc ++ [n]) s0 r s' hsc0
      (by
        intro x hx
        rcases List.mem_append.1 hx with hx | hx
        · exact (hloc x hx).mono hf
        · simp only [List.mem_singleton] at hx; subst hx; exact hn)
      (fun j hj o ho => (hop j (List.mem_cons_of_mem _ hj) o ho).mono hf) h2
    exact ⟨hf.trans this.1, this.2⟩

/-- the node a memo body returns is a hereditarily static top-level node -/
theorem elabTemplateBase_stop {t : Template} (hi : ∀ i ∈ t.instrs, StaticI i) (hret : ∃ j, t.ret = .loc j)
    (v : Val) (s : State) (hsc : s.currentScope = .top)
    (hop : ∀ i ∈ t.instrs, ∀ o ∈ instrOpnds i, OpndS s o) (n : Nat) (s' : State)
    (h : (elabTemplateBase t v []).run.run s = (.ok n, s')) : STop s' n := by
  unfold Engine.elabTemplateBase at h
  dsimp only at h
  obtain ⟨loc, s1, hx, h⟩ := bind_ok_inv h
  have := elabLoop_stop v t.instrs hi [] s loc s1 hsc (fun _ h => nomatch h) hop hx
  obtain ⟨j, hj⟩ := hret
  rw [hj] at h
  simp only [Engine.resolveOpnd] at h
  cases hl : loc[j]? with
  | none => rw [hl] at h; cases h
  | some x =>
    rw [hl] at h
    cases h
    exact this.2 n (List.mem_of_getElem? hl)

/-! ## the step relation -/

structure ES (env : Env) (s s' : State) : Prop where
  fut : Fut s s'
  stop : MemoOuterOK env s → EntriesSTop s → EntriesSTop s'

instance (env : Env) : PreOrd (ES env) :=
  ⟨fun s => ⟨Fut.refl s, fun _ h => h⟩,
   fun h1 h2 => ⟨h1.fut.trans h2.fut, fun ho h => h2.stop (ho.mono h1.fut) (h1.stop ho h)⟩⟩

theorem EntriesSTop.mono {s s' : State} (hf : Fut s s') (hm : s'.memos = s.memos) (h : EntriesSTop s) :
    EntriesSTop s' := fun m tbl hmem key n hk => (h m tbl (hm ▸ hmem) key n hk).mono hf

instance (env : Env) : ILocal (ES env) :=
  ⟨fun _ _ h => ⟨h.fut, fun _ he => he.mono h.fut h.memos⟩⟩

theorem ES.of_quiet {env : Env} {s s' : State} (h : Quiet0 s s') : ES env s s' :=
  ⟨Fut.of_eq h.nodes h.top, fun _ he => he.mono (Fut.of_eq h.nodes h.top) h.memos⟩

theorem es_memoCall {env : Env} (hok : MemoBodyOK env) (m : Nat) (key : Int) :
    Pres (ES env) (memoCall env m key) := by
  refine ⟨fun s r s' hrun => ?_⟩
  rcases memoCall_cases env m key s s' r hrun with ⟨-, rfl⟩ | ⟨-, hf | ⟨s1, s2, n, hf1, he, hf2, rfl⟩⟩
  · exact PreOrd.refl _
  · exact ILocal.of_frame0 _ _ hf.toF0
  · have hfin : Fut s2 (memoFinish s1.currentScope m key n s2) := Fut.of_eq rfl rfl
    refine ⟨hf2.toF0.fut.trans hfin, fun ho he0 => ?_⟩
    have hn : STop s2 n := elabTemplateBase_stop (hok m).1 (hok m).2 _ _ rfl
      (fun i hi o hoo => (ho m i hi o hoo).mono hf1.toF0.fut) n s2 he
    have he2 : EntriesSTop s2 := he0.mono hf2.toF0.fut hf2.memos
    intro m' tbl hm key' n' hk
    rw [memoFinish_memos] at hm
    rcases List.mem_cons.1 hm with hm | hm
    · cases hm
      rcases List.mem_cons.1 hk with hk | hk
      · cases hk; exact hn.mono hfin
      · obtain ⟨t0, q1, q2⟩ := table_mem (List.mem_filter.1 hk).1
        exact (he2 m t0 q1 key' n' q2).mono hfin
    · exact (he2 m' tbl (List.mem_filter.1 hm).1 key' n' hk).mono hfin

theorem ES.sweep {env : Env} (s : State) : ES env s (sweep s) := by
  refine ⟨Fut.of_eq rfl rfl, fun _ he m tbl hm key n hk => ?_⟩
  have hm' : (m, tbl) ∈ gcMemos s.aliveSet s.memos := hm
  obtain ⟨e, hmem, heq⟩ := List.mem_map.1 hm'
  obtain ⟨m0, t0⟩ := e
  cases heq
  refine STop.mono (s' := MemoH.sweep s) (Fut.of_eq ?_ ?_) (he m t0 hmem key n (List.mem_filter.1 hk).1) <;> rfl

theorem ES.push {env : Env} (s : State) (n : Nat) :
    ES env s { s with top := s.top.push n, handles := n :: s.handles } :=
  ⟨(MS.push (env := env) s n).fut, fun _ he => he.mono (MS.push (env := env) s n).fut rfl⟩

/-- EVERY API action, whatever its outcome, is an `ES` step -/
theorem es_stepAction {env : Env} (hok : MemoBodyOK env) (a : Action) (tokens : Array Nat) :
    Pres (ES env) (stepAction env a tokens) := by
  have hm : ∀ m key, (fun _ _ => True : Nat → Int → Prop) m key → Pres (ES env) (memoCall env m key) :=
    fun m key _ => es_memoCall hok m key
  by_cases hp : Action.isPlain a = true
  · exact PresI.stepAction_plain env a tokens hp
  · cases a <;> simp only [Action.isPlain, not_true_eq_false] at hp
    case create i =>
      exact PresB.stepAction_create hm (fun _ _ _ => trivial) tokens ES.push
    case observe o =>
      exact PresI.stepAction_observe env o tokens fun s ob l => ES.of_quiet ⟨rfl, rfl, rfl, rfl⟩
    case cloneObs o =>
      exact PresI.stepAction_cloneObs env o tokens fun s f _ => ES.of_quiet ⟨rfl, rfl, rfl, rfl⟩
    case dropObs o =>
      exact (Quiet0.stepAction_dropObs env o tokens).mono fun _ _ h => ES.of_quiet h
    case dropHandle o =>
      exact (Quiet0.stepAction_dropHandle env o tokens).mono fun _ _ h => ES.of_quiet h
    case stabilise =>
      refine ⟨fun s r s' hrun => ?_⟩
      rcases Split.stepAction_stabilise hm (bodiesP_true env) tokens s r s' hrun with h | ⟨s1, h1, rfl⟩
      · exact h
      · exact PreOrd.trans h1 (ES.sweep s1)

theorem es_run {env : Env} (hok : MemoBodyOK env) {P} {s s' : State} (h : Life.Run env P s s') :
    ES env s s' :=
  Life.Run.induct (fun a tokens _ => es_stepAction hok a tokens)
    (fun _ => ES.of_quiet ⟨rfl, rfl, rfl, rfl⟩) h

end IncrVerif.Proofs.MemoH
