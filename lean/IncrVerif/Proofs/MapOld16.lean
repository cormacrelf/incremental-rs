import IncrVerif.Proofs.MapOld3
import IncrVerif.Proofs.MapOld2
/-!
# map_with_old fragment: the API actions other than `create` and `stabilise` keep `QInvW`

* simulation: the virtual engine runs the SAME action (`Act.simAt_stepAction`);
* `Quiet.step_q` on the virtual run gives the new `QInv`;
* frame `Act.AFr C`: node count, `kind`, `valid`, `value`, `oldState` of every node unchanged, `panicCountdown = none`
  kept, "all variable values satisfy `C`" kept (`PresAW.*` ladder).
-/
namespace IncrVerif.Proofs.MapOldH
open IncrVerif.Engine IncrVerif.Proofs IncrVerif.Proofs.Step IncrVerif.Proofs.Sched IncrVerif.Proofs.Quiet

/-- API actions of the fragment other than `create` and `stabilise`; written values must satisfy `C` -/
def WPlain (C : Val → Prop) : Action → Prop
  | .observe n => OpndOK n
  | .cloneObs _ | .dropObs _ | .disallow _ => True
  | .set _ x => C x
  | .replace _ x => C x
  | .modify _ _ | .update _ _ | .replaceWith _ _ | .get _ => True
  | .isStable | .stats => True
  | _ => False

theorem WPlain.static {env : Env} {C : Val → Prop} {a : Action} (h : WPlain C a) : StaticAction env a := by
  cases a <;> simp only [WPlain] at h <;> first | exact h | trivial | exact h.elim

/-- what `WFrag` and `MInv` read of a node -/
def wKey (nd : Node) := (nd.kind, nd.valid, nd.value, nd.oldState)

theorem wKey_kind {a b : Node} (h : wKey a = wKey b) : a.kind = b.kind := by
  simp only [wKey, Prod.mk.injEq] at h; exact h.1
theorem wKey_valid {a b : Node} (h : wKey a = wKey b) : a.valid = b.valid := by
  simp only [wKey, Prod.mk.injEq] at h; exact h.2.1
theorem wKey_value {a b : Node} (h : wKey a = wKey b) : a.value = b.value := by
  simp only [wKey, Prod.mk.injEq] at h; exact h.2.2.1
theorem wKey_oldState {a b : Node} (h : wKey a = wKey b) : a.oldState = b.oldState := by
  simp only [wKey, Prod.mk.injEq] at h; exact h.2.2.2

/-! ## simulation -/

theorem actCalc : Hist.ActCalc virt (fun s => SimAt s) :=
  (NodeSim.actCalc blind).congr virt_eq fun _ _ _ _ => simAt_iff

theorem WPlain.plain {C : Val → Prop} {a : Action} (h : WPlain C a) : Hist.Plain a := by
  cases a <;> first | trivial | exact h.elim

/-- the virtual engine runs the same action -/
theorem Act.simAt_stepAction {s : State} {a : Action} {C : Val → Prop} (env : Env) (sp : Nat → Val → Val)
    (tk : Array Nat) (hR : WPlain C a) :
    SimAt s (Engine.stepAction env a tk) (Engine.stepAction (virtEnv env sp) a tk) :=
  actCalc.plain hR.plain _ _ tk s

/-! ## the frame -/

structure Act.AFr (C : Val → Prop) (s s' : State) : Prop where
  size : s'.nodes.size = s.nodes.size
  node : ∀ m, wKey (s'.nodeD m) = wKey (s.nodeD m)
  pc : s.panicCountdown = none → s'.panicCountdown = none
  vars : (∀ (c : Nat) (vc : VarCell), s.vars[c]? = some vc → C vc.value) →
    ∀ (c : Nat) (vc : VarCell), s'.vars[c]? = some vc → C vc.value

theorem Act.AFr.refl {C : Val → Prop} (s : State) : Act.AFr C s s := ⟨rfl, fun _ => rfl, id, id⟩
theorem Act.AFr.trans {C : Val → Prop} {a b c : State} (h1 : Act.AFr C a b) (h2 : Act.AFr C b c) :
    Act.AFr C a c :=
  ⟨h2.size.trans h1.size, fun m => (h2.node m).trans (h1.node m), fun h => h2.pc (h1.pc h),
    fun h => h2.vars (h1.vars h)⟩
instance {C : Val → Prop} : Step.PreOrd (Act.AFr C) := ⟨Act.AFr.refl, Act.AFr.trans⟩

theorem Act.AFr.of_same {C : Val → Prop} {s s' : State} (h1 : s'.nodes = s.nodes) (h2 : s'.vars = s.vars)
    (h3 : s'.panicCountdown = s.panicCountdown) : Act.AFr C s s' := by
  refine ⟨by rw [h1], fun m => ?_, fun h => by rw [h3]; exact h, fun h => by rw [h2]; exact h⟩
  have : s'.nodeD m = s.nodeD m := by simp [State.nodeD, h1]
  rw [this]

theorem Act.AFr.modNode {C : Val → Prop} (s : State) (n : Nat) (f : Node → Node) (hf : ∀ x, wKey (f x) = wKey x) :
    Act.AFr C s { s with nodes := s.nodes.modify n f } := by
  refine ⟨by simp, fun m => ?_, id, id⟩
  rw [nodeD_modify]; split
  · exact hf _
  · rfl

theorem PresAW.modNode {C : Val → Prop} (n : Nat) (f : Node → Node) (hf : ∀ x, wKey (f x) = wKey x) :
    Step.Pres (Act.AFr C) (Engine.modNode n f) := by
  unfold Engine.modNode; exact Step.Pres.modify fun s => Act.AFr.modNode s n f hf

theorem PresAW.modVar {C : Val → Prop} (v : Nat) (g : VarCell → VarCell) (hg : ∀ x, C x.value → C (g x).value) :
    Step.Pres (Act.AFr C) (Engine.modVar v g) := by
  unfold Engine.modVar
  refine Step.Pres.modify fun s => ⟨rfl, fun _ => rfl, id, fun h c vc hc => ?_⟩
  simp only [Array.getElem?_modify] at hc
  split at hc
  · cases hx : s.vars[c]? with
    | none => rw [hx] at hc; cases hc
    | some x =>
      rw [hx] at hc
      simp only [Option.map_some, Option.some.injEq] at hc
      rw [← hc]; exact hg x (h c x hx)
  · exact h c vc hc

macro_rules
  | `(tactic| qleaf) =>
    `(tactic| ((with_reducible apply Step.Pres.modify); intro _; exact Act.AFr.of_same rfl rfl rfl))
macro_rules
  | `(tactic| qleaf) => `(tactic| ((with_reducible apply PresAW.modNode); intro _; rfl))
macro_rules
  | `(tactic| qleaf) => `(tactic| ((with_reducible apply PresAW.modVar); intro _ h; exact h))

macro "aw_leaf " n:ident : command =>
  `(macro_rules | `(tactic| qleaf) => `(tactic| with_reducible apply $n))

section
variable {C : Val → Prop}

theorem PresAW.bumpCounter (f) : Step.Pres (Act.AFr C) (Engine.bumpCounter f) := by
  unfold Engine.bumpCounter; qpres
aw_leaf PresAW.bumpCounter
theorem PresAW.resolveOpnd (loc o) : Step.Pres (Act.AFr C) (Engine.resolveOpnd loc o) := by
  unfold Engine.resolveOpnd; qpres
aw_leaf PresAW.resolveOpnd
theorem PresAW.getObs (o) : Step.Pres (Act.AFr C) (Engine.getObs o) := by unfold Engine.getObs; qpres
aw_leaf PresAW.getObs
theorem PresAW.modObs (o f) : Step.Pres (Act.AFr C) (Engine.modObs o f) := by unfold Engine.modObs; qpres
aw_leaf PresAW.modObs
theorem PresAW.disallowFutureUse (o) : Step.Pres (Act.AFr C) (Engine.disallowFutureUse o) := by
  unfold Engine.disallowFutureUse; qpres
aw_leaf PresAW.disallowFutureUse
theorem PresAW.rchLink (n) : Step.Pres (Act.AFr C) (Engine.rchLink n) := by unfold Engine.rchLink; qpres
aw_leaf PresAW.rchLink
theorem PresAW.rchInsert (n) : Step.Pres (Act.AFr C) (Engine.rchInsert n) := by unfold Engine.rchInsert; qpres
aw_leaf PresAW.rchInsert
theorem PresAW.didSetVarWhileNotStabilising (v) :
    Step.Pres (Act.AFr C) (Engine.didSetVarWhileNotStabilising v) := by
  unfold Engine.didSetVarWhileNotStabilising; qpres
aw_leaf PresAW.didSetVarWhileNotStabilising

theorem PresAW.writeVar (v : Nat) (f : Val → Val) (b : Bool) (hf : ∀ y, C (f y)) :
    Step.Pres (Act.AFr C) (Engine.writeVar v f b) := by
  unfold Engine.writeVar; qpres
  all_goals (apply PresAW.modVar; intro x hx; first | exact hx | exact hf _)

theorem PresAW.discard {α} {x : M α} (h : Step.Pres (Act.AFr C) x) : Step.Pres (Act.AFr C) (discard x) := by
  unfold Functor.discard; exact Step.Pres.map _ h

theorem PresAW.stepAction {env : Env} {sp : Nat → Val → Val} (V : ValOK env C sp) (a : Action) (tk : Array Nat)
    (h : WPlain C a) : Step.Pres (Act.AFr C) (Engine.stepAction env a tk) := by
  have hadd : ∀ (d m : Int) (y : Val), C (y.addInt d m) := fun d m y => V.int _
  unfold Engine.stepAction
  cases a <;> simp only [WPlain] at h
  all_goals first
    | exact h.elim
    | (qpres; done)
    | (refine Step.Pres.bind (PresAW.discard (PresAW.writeVar _ _ _ (fun _ => h))) fun _ => ?_; qpres; done)
    | (refine Step.Pres.bind (PresAW.discard (PresAW.writeVar _ _ _ (hadd _ _))) fun _ => ?_; qpres; done)
    | (refine Step.Pres.bind (PresAW.writeVar _ _ _ (fun _ => h)) fun _ => ?_; qpres; done)
    | (refine Step.Pres.bind (PresAW.writeVar _ _ _ (hadd _ _)) fun _ => ?_; qpres; done)

end

/-! ## corollaries of the frame -/

theorem Act.AFr.frag {env : Env} {G : Nat → Prop} {C : Val → Prop} {s s' : State} (h : Act.AFr C s s')
    (F : WFrag env G s) : WFrag env G s' := by
  refine ⟨h.pc F.pc, fun n hn => ?_, fun n hn => ?_, fun n hn c hc => ?_⟩
  · rw [wKey_kind (h.node n)]; exact F.kind n (by rw [← h.size]; exact hn)
  · rw [wKey_valid (h.node n)]; exact F.valid n (by rw [← h.size]; exact hn)
  · rw [wKey_kind (h.node n)] at hc; exact F.back n (by rw [← h.size]; exact hn) c hc

theorem Act.AFr.minv {env : Env} {C : Val → Prop} {s s' : State} (h : Act.AFr C s s') (M : MInv env C s) :
    MInv env C s' := by
  refine ⟨fun n v hv => ?_, fun n hn => ?_, h.vars M.vars, fun n g i hk => ?_⟩
  · rw [wKey_value (h.node n)] at hv; exact M.vals n v hv
  · rw [wKey_kind (h.node n)]; exact M.lits n (by rw [← h.size]; exact hn)
  · rw [wKey_kind (h.node n)] at hk
    rw [wKey_oldState (h.node n), wKey_value (h.node n)]; exact M.mach n g i hk

theorem QInvW.fr {env : Env} {C : Val → Prop} {sp : Nat → Val → Val} {s : State} (Q : QInvW env C sp s) : Fr s :=
  ⟨Q.frag.not_expert, Q.frag.valid', Q.q.pinv, Q.frag.not_mapRef⟩

/-- **the API actions other than `create` and `stabilise` keep the invariant** -/
theorem plain_keepsW {env : Env} {C : Val → Prop} {sp : Nat → Val → Val} {s s' : State} {a : Action}
    {tk : Array Nat} {r : String × Array Nat} (V : ValOK env C sp) (Q : QInvW env C sp s) (ha : WPlain C a)
    (h : (stepAction env a tk).run.run s = (.ok r, s')) : QInvW env C sp s' := by
  obtain ⟨hv, -⟩ := Act.simAt_stepAction env sp tk ha Q.fr r s' h
  have Qv' : QInv (virtEnv env sp) (virt s') := step_q Q.q ha.static hv
  have A : Act.AFr C s s' := (PresAW.stepAction V a tk ha).h _ _ _ h
  exact ⟨A.frag Q.frag, Qv', A.minv Q.m⟩

end IncrVerif.Proofs.MapOldH
