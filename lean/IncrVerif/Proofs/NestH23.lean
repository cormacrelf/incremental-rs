import IncrVerif.Proofs.NestH22
import IncrVerif.Proofs.Quiet10
/-!
# Nested binds (F2), the closure run, part 4: `createBind` keeps `GInv2`; operands; one instruction

* `NN.pushBind_ginv2`: `createBind body' lhs` in scope `.bind b` (ONE step: fresh record, its change detector and main node) keeps `GInv2`, with the rank
  `rkBind rk br1.main s.nodes.size`.
* `NN.RC2`, `NN.resolve_inv2`, `NN.mapM_resolve_inv2`: operand resolution (as `CN.resolve_inv` for fragment F1).
* `NN.elab_inv2`: an instruction of an F2 closure is either the creation of one static node with legal children, or `createBind` on a legal lhs.
-/
namespace IncrVerif.Proofs.NestH
open IncrVerif.Engine IncrVerif.Proofs IncrVerif.Proofs.Step IncrVerif.Proofs.Sched IncrVerif.Proofs.Quiet
open IncrVerif.Proofs.BindH

namespace NN

section pushBind
variable {env : Env} {rk : Nat → Nat} {body lhs b : Nat} {s s' : State} {dy : List Nat} {ex : Nat → Prop}

/-- **`createBind`** in scope `.bind b` keeps the structural invariant, with the rank extended twice -/
theorem pushBind_ginv2 (C : PushBind body lhs b s s') (I : GInv2 env rk s allClosed ex dy) {br1 : BindRec}
    (hb : s.binds[b]? = some br1) (hv : (s.nodeD br1.lhsChange).valid = true)
    (hlhs : KidOK2 rk s b br1.lhsChange dy lhs) :
    GInv2 env (rkBind rk br1.main s.nodes.size) s' allClosed ex dy := by
  have A := I.frag
  obtain ⟨r1, r2, -⟩ := A.recs b br1 hb
  have hvm : (s.nodeD br1.main).valid = true := by rw [A.recValid b br1 hb]; exact hv
  have hlm := A.lc_rk_main hb hvm
  have hmne : br1.main ≠ s.nodes.size := by omega
  have hmne' : br1.main ≠ s.nodes.size + 1 := by omega
  have hlne : br1.lhsChange ≠ s.nodes.size := by omega
  have hlne' : br1.lhsChange ≠ s.nodes.size + 1 := by omega
  have hsz := C.size
  have hmdy : s.nodes.size ∉ dy := fun h => by
    have := (A.dyIn _ h).1
    omega
  have hmdy' : s.nodes.size + 1 ∉ dy := fun h => by
    have := (A.dyIn _ h).1
    omega
  have hnew := C.binds_new hb
  have hbb := C.binds_b hb
  have hchl : s'.children s.nodes.size = [lhs] := by
    unfold State.children Node.kind?
    rw [C.nodeD_lc]
    simp only [if_true, hnew]
  have hchm : s'.children (s.nodes.size + 1) = [s.nodes.size] := by
    unfold State.children Node.kind?
    rw [C.nodeD_main]
    simp only [if_true, hnew]
  have hrl := hlhs.rk_lt A hb hlm
  obtain ⟨k1, k2, k3, k4⟩ := hlhs
  apply (C.ext hb).ginv2 I hb (rkBind_ext rk _ (Nat.le_refl _)) hv
  · intro n h1 h2
    rw [hsz] at h2
    have : n = s.nodes.size ∨ n = s.nodes.size + 1 := by omega
    rcases this with e | e
    · -- the change detector of the new bind
      subst e
      refine ⟨by rw [C.nodeD_lc]; exact trivial, by rw [C.nodeD_lc]; exact Or.inr rfl, ?_, ?_, ?_, ?_, ?_, ?_, ?_, ?_⟩
      · intro c hc
        rw [hchl, List.mem_singleton] at hc
        omega
      · intro c hc
        rw [hchl, List.mem_singleton] at hc
        rw [hc, C.nodeD_lt k1]; exact k2
      · intro c hc
        rw [hchl, List.mem_singleton] at hc
        rw [hc, rkBind_lc, rkBind_old _ _ _ (by omega) (by omega)]
        omega
      · intro b' hk
        rw [C.nodeD_lc] at hk
        simp only at hk
        injection hk with hk
        subst hk
        exact ⟨_, hnew, rfl⟩
      · intro b' lc hk
        rw [C.nodeD_lc] at hk
        cases hk
      · intro c b' hc hk
        rw [hchl, List.mem_singleton] at hc
        rw [hc, C.nodeD_lt k1] at hk
        exact absurd hk (k3 b')
      · intro h
        rw [C.nodeD_lc] at h
        cases h
      · intro b' h
        rw [C.nodeD_lc] at h ⊢
        simp only at h ⊢
        injection h with h
        subst h
        refine ⟨(fun c e => by cases e), _, hbb, r2, ?_⟩
        intro c hc
        rw [hchl, List.mem_singleton] at hc
        rw [hc, C.nodeD_lt k1]
        rcases k4 with ⟨h4, -⟩ | ⟨h4, h5⟩
        · exact Or.inl h4
        · exact Or.inr (Or.inl ⟨h4, ⟨fun h => absurd h h5, fun h => absurd h hmdy⟩⟩)
    · -- the main node of the new bind
      subst e
      refine ⟨by rw [C.nodeD_main]; exact trivial, by rw [C.nodeD_main]; exact Or.inl rfl, ?_, ?_, ?_, ?_, ?_, ?_, ?_, ?_⟩
      · intro c hc
        rw [hchm, List.mem_singleton] at hc
        omega
      · intro c hc
        rw [hchm, List.mem_singleton] at hc
        rw [hc, C.nodeD_lc]
      · intro c hc
        rw [hchm, List.mem_singleton] at hc
        rw [hc, rkBind_main rk hmne, rkBind_lc]
        omega
      · intro b' hk
        rw [C.nodeD_main] at hk
        cases hk
      · intro b' lc hk
        rw [C.nodeD_main] at hk
        simp only at hk
        injection hk with e1 e2
        subst e1
        subst e2
        exact ⟨_, hnew, rfl, rfl⟩
      · intro c b' hc hk
        rw [hchm, List.mem_singleton] at hc
        rw [hc, C.nodeD_lc] at hk
        simp only at hk
        injection hk with hk
        subst hk
        rw [C.nodeD_main, hc]
      · intro h
        rw [C.nodeD_main] at h
        cases h
      · intro b' h
        rw [C.nodeD_main] at h ⊢
        simp only at h ⊢
        injection h with h
        subst h
        have r3 : br1.main < s.nodes.size + 1 := by omega
        refine ⟨(fun c e => by cases e), _, hbb, r3, ?_⟩
        intro c hc
        rw [hchm, List.mem_singleton] at hc
        rw [hc, C.nodeD_lc]
        exact Or.inr (Or.inl ⟨rfl, ⟨fun h => absurd h hmdy, fun h => absurd h hmdy'⟩⟩)
  · intro m h1 h2
    rw [hsz] at h2
    have : m = s.nodes.size ∨ m = s.nodes.size + 1 := by omega
    rcases this with e | e
    · subst e
      rw [rkBind_lc, rkBind_old _ _ _ hlne hlne', rkBind_old _ _ _ hmne hmne']
      omega
    · subst e
      rw [rkBind_main rk hmne, rkBind_old _ _ _ hlne hlne', rkBind_old _ _ _ hmne hmne']
      omega
  · intro n m hn hm
    rw [hsz] at hn hm
    exact rkBind_inj A.rkInj (by omega) hmne n m hn hm

end pushBind

/-! ## operands -/

/-- what operand resolution reads (`rk0`, `s0`: the rank and the state when the closure run started; `rk`, `t`: now) -/
structure RC2 (rk0 rk : Nat → Nat) (s0 t : State) (b lc : Nat) (dy : List Nat) (j : Nat) (loc : List Nat) : Prop where
  top : t.top = s0.top
  outer : ∀ (k r : Nat), s0.top[k]? = some r → rk0 r < rk0 lc →
    KidOK2 rk t b lc dy r ∧ (t.nodeD r).createdIn = .top ∧ rk r < rk lc
  locs : ∀ i, i < j → ∃ c, loc[i]? = some c ∧ KidOK2 rk t b lc dy c ∧ s0.nodes.size ≤ c

section resolve
variable {rk0 rk : Nat → Nat} {s0 t t' : State} {b lc j : Nat} {dy : List Nat} {loc : List Nat}

theorem resolve_inv2 (R : RC2 rk0 rk s0 t b lc dy j loc) {o : Opnd} {c : Nat} (ho : OpndOK2 rk0 s0 lc j o)
    (h : (resolveOpnd loc o).run.run t = (.ok c, t')) :
    t' = t ∧ KidOK2 rk t b lc dy c ∧ (((t.nodeD c).createdIn = .top ∧ rk c < rk lc) ∨ s0.nodes.size ≤ c) := by
  cases o with
  | outer k =>
    obtain ⟨r, hr, hlt⟩ := ho
    unfold resolveOpnd at h
    simp only at h
    rw [run_bind_get, R.top, hr] at h
    obtain ⟨e1, e2⟩ := pure_ok_inv h
    rw [e1]
    obtain ⟨h1, h2, h3⟩ := R.outer k r hr hlt
    exact ⟨e2, h1, Or.inl ⟨h2, h3⟩⟩
  | loc i =>
    obtain ⟨c', hc, h1, h2⟩ := R.locs i ho
    unfold resolveOpnd at h
    simp only [hc] at h
    obtain ⟨e1, e2⟩ := pure_ok_inv h
    rw [e1]
    exact ⟨e2, h1, Or.inr h2⟩
  | abs _ => exact ho.elim
  | slot _ => exact ho.elim

theorem mapM_resolve_inv2 (R : RC2 rk0 rk s0 t b lc dy j loc) :
    ∀ (l : List Opnd) (r : List Nat) (t' : State), (∀ a, a ∈ l → OpndOK2 rk0 s0 lc j a) →
      (l.mapM (fun o => resolveOpnd loc o)).run.run t = (.ok r, t') →
      t' = t ∧ ∀ c, c ∈ r → KidOK2 rk t b lc dy c := by
  intro l
  induction l with
  | nil =>
    intro r t' _ h
    rw [List.mapM_nil] at h
    obtain ⟨e1, e2⟩ := pure_ok_inv h
    rw [e1]; exact ⟨e2, fun c hc => by cases hc⟩
  | cons a l ih =>
    intro r t' hl h
    rw [List.mapM_cons] at h
    obtain ⟨x, t1, h1, h2⟩ := bind_ok_inv h
    obtain ⟨et, hk, -⟩ := resolve_inv2 R (hl a (List.mem_cons_self ..)) h1
    rw [et] at h2
    obtain ⟨xs, t2, h3, h4⟩ := bind_ok_inv h2
    obtain ⟨et2, hxs⟩ := ih xs t2 (fun y hy => hl y (List.mem_cons_of_mem _ hy)) h3
    obtain ⟨e1, e2⟩ := pure_ok_inv h4
    rw [e1, e2]
    refine ⟨et2, fun c hc => ?_⟩
    rcases List.mem_cons.1 hc with e | hc
    · rw [e]; exact hk
    · exact hxs c hc

end resolve

/-! ## one instruction -/

/-- an instruction of an F2 closure: one static node with legal children, or `createBind` on a legal lhs (the LOCAL is the main node of the new bind) -/
theorem elab_inv2 {env : Env} {rk0 rk : Nat → Nat} {s0 t t1 : State} {P : Nat → Prop} {b lc j : Nat} {dy : List Nat}
    {loc : List Nat} {i : Instr} {v : Val} {ro : Option Nat} (R : RC2 rk0 rk s0 t b lc dy j loc)
    (hsc : t.currentScope = .bind b)
    (hi : InstrOK2 env rk0 s0 P lc j i) (h : (elabInstrM env loc v i).run.run t = (.ok ro, t1)) :
    (∃ k, ro = some t.nodes.size ∧ StaticKind env k ∧ (∀ c, k ≠ .var c) ∧
      (∀ c, c ∈ kids k → KidOK2 rk t b lc dy c) ∧ CN.Push k b t t1) ∨
    (∃ body' o lhs, i = .bind body' o ∧ P body' ∧ (resolveOpnd loc o).run.run t = (.ok lhs, t) ∧
      ro = some (t.nodes.size + 1) ∧ KidOK2 rk t b lc dy lhs ∧ PushBind body' lhs b t t1) := by
  cases i with
  | const w =>
    left
    unfold elabInstrM at h
    simp only at h
    unfold elabInstr at h
    rw [run_bind_get] at h
    simp only [hsc] at h
    obtain ⟨n, h1, e⟩ := map_ok_inv h
    obtain ⟨en, C⟩ := CN.createNode_push h1
    exact ⟨.const w, by rw [e, en], trivial, (fun c e => by cases e), (fun c hc => by cases hc), C⟩
  | lhsConst =>
    left
    unfold elabInstrM at h
    simp only at h
    unfold elabInstr at h
    rw [run_bind_get] at h
    simp only [hsc] at h
    obtain ⟨n, h1, e⟩ := map_ok_inv h
    obtain ⟨en, C⟩ := CN.createNode_push h1
    exact ⟨.const v, by rw [e, en], trivial, (fun c e => by cases e), (fun c hc => by cases hc), C⟩
  | map f args =>
    left
    unfold elabInstrM at h
    simp only at h
    unfold elabInstr at h
    rw [run_bind_get] at h
    simp only [hsc] at h
    obtain ⟨as, t2, h1, h2⟩ := bind_ok_inv h
    obtain ⟨et, has⟩ := mapM_resolve_inv2 R args as t2 hi.2.2 h1
    rw [et] at h2
    obtain ⟨n, h3, e⟩ := map_ok_inv h2
    obtain ⟨en, C⟩ := CN.createNode_push h3
    exact ⟨.map f as, by rw [e, en], ⟨hi.1, hi.2.1⟩, (fun c e => by cases e), has, C⟩
  | fold f init cs =>
    left
    unfold elabInstrM at h
    simp only at h
    unfold elabInstr at h
    rw [run_bind_get] at h
    simp only [hsc] at h
    obtain ⟨as, t2, h1, h2⟩ := bind_ok_inv h
    obtain ⟨et, has⟩ := mapM_resolve_inv2 R cs as t2 hi h1
    rw [et] at h2
    split at h2
    · obtain ⟨n, h3, e⟩ := map_ok_inv h2
      obtain ⟨en, C⟩ := CN.createNode_push h3
      exact ⟨.const init, by rw [e, en], trivial, (fun c e => by cases e), (fun c hc => by cases hc), C⟩
    · obtain ⟨n, h3, e⟩ := map_ok_inv h2
      obtain ⟨en, C⟩ := CN.createNode_push h3
      exact ⟨.fold f init as, by rw [e, en], trivial, (fun c e => by cases e), has, C⟩
  | bind body' o =>
    right
    unfold elabInstrM at h
    simp only at h
    unfold elabInstr at h
    rw [run_bind_get] at h
    simp only at h
    obtain ⟨x, t2, h1, h2⟩ := bind_ok_inv h
    obtain ⟨et, hk, -⟩ := resolve_inv2 R hi.2 h1
    rw [et] at h2 h1
    obtain ⟨n, h3, e⟩ := map_ok_inv h2
    obtain ⟨en, C⟩ := createBind_pushBind hsc h3
    exact ⟨body', o, x, rfl, hi.1, h1, by rw [e, en], hk, C⟩
  | _ => exact hi.elim

end NN

end IncrVerif.Proofs.NestH
