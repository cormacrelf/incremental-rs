import IncrVerif.Proofs.Sched5
/-!
# No node runs twice in one round

`drainTrace env fuel s` is the list of nodes on which `drainHeap env fuel` (started in `s`) invokes
`recomputeOne`, in order (pops and direct-recompute chains).  Under the drain invariant this list has no
duplicates; each of its nodes is necessary, had not been recomputed in this round before the drain, and
is stamped `recomputedAt = stabNum` after it.

This is proved (`TidyH.chain_onceG`, `drain_onceG`, by `Drain.Once`) for an ABSTRACT drain invariant `J s x` (`x` = the current node) that is
kept by a successful `recomputeOne` on the current node and by a pop, with a frame `FrA` that is read in the ACTUAL state (round number,
necessity, "stamped in this round" are kept): `TidyH.OnceKit`.  Instances: `Sched.Inv` here, `CutH.Inv`, and the drain invariants of the
fragments static + `map_ref` (`MapRefH.DInvR`) and static + `map_with_old` (`MapOldH.DInvW`), whose scheduling invariant lives on a virtual
state.  `TidyH.drainSteps` is the trace TOGETHER WITH the state each node ran in; every such state satisfies the invariant with that node as
current node.
-/
namespace IncrVerif.Proofs.Sched
open IncrVerif.Engine IncrVerif.Proofs IncrVerif.Proofs.Step

/-- the nodes `recompute env fuel n` runs from `s`, in order -/
def chainTrace (env : Env) : Nat → Nat → State → List Nat
  | 0, _, _ => []
  | fuel+1, n, s =>
    match (recomputeOne env fuel n).run.run s with
    | (.ok (some p), s1) => n :: chainTrace env fuel p s1
    | _ => [n]

/-- the nodes `drainHeap env fuel` runs from `s`, in order -/
def drainTrace (env : Env) : Nat → State → List Nat
  | 0, _ => []
  | fuel+1, s =>
    match rchRemoveMin.run.run s with
    | (.ok (some n), s1) =>
      chainTrace env fuel n s1 ++
        (match (recompute env fuel n).run.run s1 with
         | (.ok _, s2) => drainTrace env fuel s2
         | _ => [])
    | _ => []

/-- a node not yet stamped after some steps was not stamped before them -/
theorem Frame.not_yet {s s' : State} (f : Frame s s') (st : Stamps s) {m : Nat}
    (h : (s'.nodeD m).recomputedAt < s.stabNum) : (s.nodeD m).recomputedAt < s.stabNum := by
  have h1 := (st.node m).1
  by_cases e : (s.nodeD m).recomputedAt = s.stabNum
  · have := f.ran m e; omega
  · omega

/-- what is said about each node of a trace from `s` to `s'` -/
def RanOnce (s s' : State) (m : Nat) : Prop :=
  s.isNecessary m = true ∧ (s.nodeD m).recomputedAt < s.stabNum ∧
    (s'.nodeD m).recomputedAt = s.stabNum

end IncrVerif.Proofs.Sched

namespace IncrVerif.Proofs.TidyH
open IncrVerif.Engine IncrVerif.Proofs IncrVerif.Proofs.Step IncrVerif.Proofs.Sched

/-- what a drain keeps of the ACTUAL state, as far as "at most once" is concerned -/
structure FrA (s s' : State) : Prop where
  stabNum : s'.stabNum = s.stabNum
  nec : ∀ m, s'.isNecessary m = s.isNecessary m
  ran : ∀ m, (s.nodeD m).recomputedAt = s.stabNum → (s'.nodeD m).recomputedAt = s.stabNum

theorem FrA.refl (s : State) : FrA s s := ⟨rfl, fun _ => rfl, fun _ h => h⟩

theorem FrA.trans {a b c : State} (h1 : FrA a b) (h2 : FrA b c) : FrA a c where
  stabNum := h2.stabNum.trans h1.stabNum
  nec m := (h2.nec m).trans (h1.nec m)
  ran m h := by
    have := h2.ran m (by rw [h1.stabNum]; exact h1.ran m h)
    rw [h1.stabNum] at this; exact this

theorem FrA.of_frame {s s' : State} (f : Frame s s') : FrA s s' := ⟨f.stabNum, f.nec, f.ran⟩

/-- an abstract drain invariant with what "at most once" needs of it -/
structure OnceKit (env : Env) (J : State → Option Nat → Prop) : Prop where
  /-- stamps are not from the future -/
  stamps : ∀ s x m, J s x → (s.nodeD m).recomputedAt ≤ s.stabNum
  /-- the current node is necessary and has not run in this round -/
  cur : ∀ s n, J s (some n) → s.isNecessary n = true ∧ (s.nodeD n).recomputedAt < s.stabNum
  step : ∀ s n fuel r s', J s (some n) → (recomputeOne env fuel n).run.run s = (.ok r, s') →
    J s' r ∧ FrA s s' ∧ (s'.nodeD n).recomputedAt = s.stabNum
  pop : ∀ s n s1, J s none → rchRemoveMin.run.run s = (.ok (some n), s1) → J s1 (some n) ∧ FrA s s1
  popNone : ∀ s s1, J s none → rchRemoveMin.run.run s = (.ok none, s1) → s1 = s

/-! ## the steps of a drain, with their states -/

theorem chainSteps_fst (env : Env) : ∀ (fuel n : Nat) (s : State),
    (chainSteps env fuel n s).map (·.1) = chainTrace env fuel n s := by
  intro fuel
  induction fuel with
  | zero => intro n s; rfl
  | succ fuel ih =>
    intro n s
    unfold chainSteps chainTrace
    rcases hx : (recomputeOne env fuel n).run.run s with ⟨_ | _ | p, s1⟩
    · simp
    · simp
    · simp [ih]

theorem drainSteps_fst (env : Env) : ∀ (fuel : Nat) (s : State),
    (drainSteps env fuel s).map (·.1) = drainTrace env fuel s := by
  intro fuel
  induction fuel with
  | zero => intro s; rfl
  | succ fuel ih =>
    intro s
    unfold drainSteps drainTrace
    rcases hx : rchRemoveMin.run.run s with ⟨_ | _ | n, s1⟩
    · simp
    · simp
    · simp only [List.map_append, chainSteps_fst]
      rcases hy : (recompute env fuel n).run.run s1 with ⟨_ | _, s2⟩
      · simp
      · simp [ih]

section
variable {env : Env} {J : State → Option Nat → Prop}

/-- the conclusions about a run `s → s'` of the drain (or of a direct-recompute chain) with steps `l` -/
structure RunOnce (J : State → Option Nat → Prop) (l : List (Nat × State)) (s s' : State) : Prop where
  inv : J s' none
  fr : FrA s s'
  nodup : (l.map (·.1)).Nodup
  once : ∀ m, m ∈ l.map (·.1) → RanOnce s s' m
  /-- every step happens in a state with the invariant, reached from `s` -/
  steps : ∀ p, p ∈ l → J p.2 (some p.1) ∧ FrA s p.2

/-- the step and the pop of an `OnceKit`, for the drain that started in `s0`: stamps of the round `s0.stabNum` are the marks of `Drain.Once` -/
theorem OnceKit.one (K : OnceKit env J) (s0 : State) (fuel n : Nat) (t : State) (r : Option Nat) (t' : State)
    (i : J t (some n) ∧ FrA s0 t) (h : (recomputeOne env fuel n).run.run t = (.ok r, t')) :
    (J t' r ∧ FrA s0 t') ∧ Drain.Once (fun u m => (u.nodeD m).recomputedAt = s0.stabNum) [(n, t)] t t' := by
  obtain ⟨I1, f1, hn1⟩ := K.step t n fuel r t' i.1 h
  refine ⟨⟨I1, i.2.trans f1⟩, .one (fun m hm => ?_) ?_ ?_⟩
  · rw [← i.2.stabNum] at hm ⊢
    exact f1.ran m hm
  · have := (K.cur t n i.1).2
    rw [i.2.stabNum] at this
    omega
  · rw [← i.2.stabNum]
    exact hn1

theorem OnceKit.pop1 (K : OnceKit env J) (s0 : State) (t : State) (n : Nat) (t' : State)
    (i : J t none ∧ FrA s0 t) (h : rchRemoveMin.run.run t = (.ok (some n), t')) :
    (J t' (some n) ∧ FrA s0 t') ∧ Drain.Once (fun u m => (u.nodeD m).recomputedAt = s0.stabNum) [] t t' := by
  obtain ⟨I1, f1⟩ := K.pop t n t' i.1 h
  refine ⟨⟨I1, i.2.trans f1⟩, .nil fun m hm => ?_⟩
  rw [← i.2.stabNum] at hm ⊢
  exact f1.ran m hm

theorem RunOnce.of_once (K : OnceKit env J) {l : List (Nat × State)} {s s' : State} {x : Option Nat} (I : J s x)
    (i' : J s' none ∧ FrA s s') (O : Drain.Once (fun u m => (u.nodeD m).recomputedAt = s.stabNum) l s s')
    (hs : ∀ l₁ p l₂, l = l₁ ++ p :: l₂ → (J p.2 (some p.1) ∧ FrA s p.2) ∧ Drain.Once (fun u m => (u.nodeD m).recomputedAt = s.stabNum) (p :: l₂) p.2 s') :
    RunOnce J l s s' := by
  have steps : ∀ p, p ∈ l → J p.2 (some p.1) ∧ FrA s p.2 := fun p hp =>
    have ⟨l₁, l₂, e⟩ := List.append_of_mem hp
    (hs l₁ p l₂ e).1
  refine ⟨i'.1, i'.2, O.nodup, fun m hm => ?_, steps⟩
  obtain ⟨h0, h1⟩ := O.mem m hm
  obtain ⟨p, hp, rfl⟩ := List.mem_map.1 hm
  obtain ⟨Jt, ft⟩ := steps p hp
  have := K.stamps s x p.1 I
  exact ⟨by rw [← ft.nec]; exact (K.cur p.2 p.1 Jt).1, by omega, h1⟩

theorem chain_onceG (K : OnceKit env J) (fuel n : Nat) (s s' : State) (I : J s (some n))
    (h : (recompute env fuel n).run.run s = (.ok (), s')) : RunOnce J (chainSteps env fuel n s) s s' := by
  obtain ⟨i', O, hs⟩ := Drain.recompute_run (I := fun x t => J t x ∧ FrA s t) Drain.Once.append (K.one s) fuel n s s' ⟨I, FrA.refl s⟩ h
  exact .of_once K I i' O hs

/-- **at most once, generically.** -/
theorem drain_onceG (K : OnceKit env J) (fuel : Nat) (s s' : State) (I : J s none)
    (h : (drainHeap env fuel).run.run s = (.ok (), s')) : RunOnce J (drainSteps env fuel s) s s' := by
  obtain ⟨s1, i', O, hl, hs⟩ := Drain.drainHeap_run (I := fun x t => J t x ∧ FrA s t) Drain.Once.append (K.one s) (K.pop1 s)
    (fun t _ => .nil fun _ hm => hm) fuel s s' ⟨I, FrA.refl s⟩ h
  obtain rfl := K.popNone s1 s' i'.1 hl
  exact .of_once K I i' O hs

/-- in the vocabulary of `Sched.chain_once` -/
theorem chain_once_trace (K : OnceKit env J) {fuel n : Nat} {s s' : State} (I : J s (some n))
    (h : (recompute env fuel n).run.run s = (.ok (), s')) :
    (chainTrace env fuel n s).Nodup ∧ ∀ m, m ∈ chainTrace env fuel n s → RanOnce s s' m := by
  have R := chain_onceG K fuel n s s' I h
  rw [← chainSteps_fst]
  exact ⟨R.nodup, R.once⟩

/-- in the vocabulary of `Sched.drain_once` -/
theorem drain_once_trace (K : OnceKit env J) {fuel : Nat} {s s' : State} (I : J s none)
    (h : (drainHeap env fuel).run.run s = (.ok (), s')) :
    (drainTrace env fuel s).Nodup ∧ ∀ m, m ∈ drainTrace env fuel s → RanOnce s s' m := by
  have R := drain_onceG K fuel s s' I h
  rw [← drainSteps_fst]
  exact ⟨R.nodup, R.once⟩

end

end IncrVerif.Proofs.TidyH

namespace IncrVerif.Proofs.Sched
open IncrVerif.Engine IncrVerif.Proofs IncrVerif.Proofs.Step

theorem onceKit (env : Env) : TidyH.OnceKit env (fun s x => Inv env s x) where
  stamps _ _ m I := (I.stamps.node m).1
  cur _ n I := ⟨(I.cur n rfl).1, I.cur_not_yet⟩
  step _ _ _ _ _ I h := have ⟨I1, f1, hn1⟩ := recomputeOne_inv I h; ⟨I1, .of_frame f1, hn1⟩
  pop _ _ _ I h := have ⟨I1, f1⟩ := pop_inv I h; ⟨I1, .of_frame f1⟩
  popNone _ _ I h := (rchRemoveMin_inv I.heap h).1

/-- **at most once.** The nodes run by a successful `drainHeap` from a state satisfying the drain
invariant are pairwise distinct; each is necessary, had `recomputedAt < stabNum` before the drain and
has `recomputedAt = stabNum` after it. -/
theorem drain_once {env : Env} : ∀ (fuel : Nat) (s s' : State), DrainInv env s →
    (drainHeap env fuel).run.run s = (.ok (), s') →
    (drainTrace env fuel s).Nodup ∧ ∀ m, m ∈ drainTrace env fuel s → RanOnce s s' m :=
  fun _ _ _ I h => TidyH.drain_once_trace (onceKit env) I h

end IncrVerif.Proofs.Sched
