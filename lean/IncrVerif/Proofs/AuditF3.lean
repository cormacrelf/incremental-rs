import IncrVerif.Proofs.AuditF2
import IncrVerif.Proofs.FullH63
import IncrVerif.Proofs.FullH69
/-!
# C11, part 3: NON-VACUITY — the audit theorem applied to the concrete example histories `exHistF` / `exHistG` of `C01Full`, at every prefix

`exHistF` (21 actions): a bind whose closure builds a map_ref chain, a map_with_old machine, a map and a NESTED bind; writes, an lhs change (a generation dies: invalid
nodes), disallow, writes while unobserved, re-observation, an inner lhs change.  Kernel-checked facts about two of its states show that the audited states are not
trivial: the final state has 25 nodes, 14 of them needed, with recorded edges, scopes and invalid nodes; the state before the last `stabilise` has a NON-EMPTY recompute
heap (the written variable, needed and stale, in the bucket of its height).
-/
namespace IncrVerif.Proofs.AuditF
open IncrVerif.Engine IncrVerif.Driver IncrVerif.Proofs IncrVerif.Proofs.Step IncrVerif.Proofs.Sched IncrVerif.Proofs.Quiet
open IncrVerif.Proofs.FullH

/-- every state the example history `exHistF` passes through (after `k` actions, any `k`) passes the audit -/
theorem exHistF_audit_every (k : Nat) :
    ∃ s tk, Quiet.runActions fEnv (exHistF.take k) (State.init 128 true) #[] = .ok (s, tk) ∧ Audit s := by
  obtain ⟨s, tk, h⟩ := exHistF_runs
  have e : exHistF = exHistF.take k ++ exHistF.drop k := (List.take_append_drop k exHistF).symm
  have hH := exHistF_frag
  rw [e] at h hH
  obtain ⟨s1, tk1, h1, A, -⟩ := history_audit_every fEnv_envS fEnv_first hH h
  exact ⟨s1, tk1, h1, A⟩

/-- the same for `exHistG` (`depend_on`, the `cutoff` action) -/
theorem exHistG_audit_every (k : Nat) :
    ∃ s tk, Quiet.runActions fEnv (exHistG.take k) (State.init 128 true) #[] = .ok (s, tk) ∧ Audit s := by
  obtain ⟨s, tk, h⟩ := exHistG_runs
  have e : exHistG = exHistG.take k ++ exHistG.drop k := (List.take_append_drop k exHistG).symm
  have hH := exHistG_frag
  rw [e] at h hH
  obtain ⟨s1, tk1, h1, A, -⟩ := history_audit_every fEnv_envS fEnv_first hH h
  exact ⟨s1, tk1, h1, A⟩

/-- in terms of the evaluator `BindH.C2h.stateB` the concrete facts below are stated with -/
theorem exHistF_audit_state (k : Nat) : ∃ s, BindH.C2h.stateB fEnv (exHistF.take k) = some s ∧ Audit s := by
  obtain ⟨s, tk, h, A⟩ := exHistF_audit_every k
  refine ⟨s, ?_, A⟩
  unfold BindH.C2h.stateB
  rw [h]

/-- three facts of the state after a history, from one run of the history -/
theorem EX.factF_triple {α β γ} [DecidableEq α] [DecidableEq β] [DecidableEq γ] {acts : List Action} {f : State → α} {g : State → β}
    {k : State → γ} {a : α} {b : β} {c : γ}
    (h : EX.factF acts (fun s => decide (f s = a) && decide (g s = b) && decide (k s = c)) = some true) :
    EX.factF acts f = some a ∧ EX.factF acts g = some b ∧ EX.factF acts k = some c := by
  unfold EX.factF at *
  cases hs : BindH.C2h.stateB fEnv acts with
  | none => rw [hs] at h; cases h
  | some s =>
    rw [hs] at h
    have h' := Option.some.inj h
    simp only [Bool.and_eq_true, decide_eq_true_eq] at h'
    obtain ⟨⟨h1, h2⟩, h3⟩ := h'
    exact ⟨congrArg some h1, congrArg some h2, congrArg some h3⟩

set_option maxRecDepth 100000 in
/-- THE FINAL STATE of `exHistF` is not trivial: 25 nodes; the bind's main node 4 is needed, at height 8, with the inputs `[3, 21]` (its change detector and the current right-hand side);
node 21 records the entry `(4, 1)` and is lower (7); node 18 (a `map` built by the closure over the machine 17 and the outer variable 2) has the inputs `[17, 2]` and the variable 2
records `(18, 1)`; node 22 (of the generation the last inner lhs change killed) is invalid; the heap is empty -/
theorem exHistF_final_facts :
    EX.factF exHistF (fun s => (s.nodes.size, s.isNecessary 4, s.children 4, (s.nodeD 21).parents)) =
      some (25, true, [3, 21], [(4, 1)]) ∧
    EX.factF exHistF (fun s => ((s.nodeD 4).height, (s.nodeD 21).height, (s.nodeD 3).height)) = some (8, 7, 2) ∧
    EX.factF exHistF (fun s => (s.children 18, (s.nodeD 2).parents, (s.nodeD 22).valid, s.isNecessary 22, s.rch.length)) =
      some ([17, 2], [(18, 1), (19, 0)], false, false, 0) :=
  EX.factF_triple (by decide +kernel)

set_option maxRecDepth 100000 in
/-- THE STATE BEFORE THE LAST `stabilise` (after `set n2 6`): the recompute heap is NOT empty — it holds exactly the written variable's node 2, needed and stale, in the bucket of its
height 1; the pending-observer lists matter too: after the `observe` (18 actions) the new observer waits in `newObservers` -/
theorem exHistF_pending_facts :
    EX.factF (exHistF.take 20) (fun s => (s.rch.length, s.rch.queues[1]?, s.isNecessary 2, s.isStale 2, (s.nodeD 2).height, (s.nodeD 2).heightInRch)) =
      some (1, some [2], true, true, 1, 1) ∧
    EX.factF (exHistF.take 18) (fun s => (s.newObservers, s.disallowedObservers)) = some ([1], []) :=
  by decide +kernel

end IncrVerif.Proofs.AuditF
