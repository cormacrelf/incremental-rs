import IncrVerif.Proofs.AuditF5
/-!
# C11, the HEIGHT-LIMIT clause, part b: the ladder — every function reachable from `stabilise` (and from the other API actions), when it RETURNS, keeps `HL`

Each function's run that returns is a sequence of writes that touch neither `nodes[·].height`, `maxHeightSeen` nor the bucket counts, and of calls of `setHeight` that
returned (`POk.of_foot`, from `Proofs/Footprint.lean`).  The first lemmas are the leaves that the walk of the API actions (part c) needs beside them.
-/
open IncrVerif.Engine IncrVerif.Proofs IncrVerif.Proofs.Step
namespace IncrVerif.Proofs.AuditF.HLim

theorem POk.getObs (n) : POk (getObs n) := by unfold Engine.getObs; okpres
ok_leaf POk.getObs
theorem POk.resolveOpnd (l o) : POk (resolveOpnd l o) := by unfold Engine.resolveOpnd; okpres
ok_leaf POk.resolveOpnd
theorem POk.discard {α} {x : M α} (hx : POk x) : POk (discard x) := by
  unfold Functor.discard
  rw [LawfulFunctor.map_const]
  exact POk.map _ hx
macro_rules | `(tactic| okleaf) => `(tactic| with_reducible apply POk.discard)

theorem POk.modObs (b f) : POk (modObs b f) := by unfold Engine.modObs; okpres
ok_leaf POk.modObs
theorem POk.ensureHeightRequirement (a b c d) : POk (ensureHeightRequirement a b c d) :=
  POk.of_foot (Footprint.Foot.ensureHeightRequirement (w := fun _ => True) a b c d) (by decide)

theorem POk.adjustHeights (oc op fuel) : POk (adjustHeights oc op fuel) :=
  POk.of_foot (Footprint.Foot.adjustHeights (w := fun _ => True) oc op fuel) (by decide)
theorem POk.addParent (a b c) : POk (addParent a b c) := POk.of_foot (Footprint.Foot.addParent (w := fun _ => True) a b c) (by decide)
theorem POk.removeParent (a b c) : POk (removeParent a b c) := POk.of_foot (Footprint.Foot.removeParent (w := fun _ => True) a b c) (by decide)
theorem POk.handleAfterStabilisation (n) : POk (handleAfterStabilisation n) :=
  POk.of_foot (Footprint.Foot.handleAfterStabilisation (w := fun _ => True) n) (by decide)
theorem POk.shouldCutoff (env n o v) : POk (shouldCutoff env n o v) :=
  POk.of_foot (Footprint.Foot.shouldCutoff (w := fun _ => True) env n o v) (by decide)
theorem POk.markMapRefUnknown (fuel n) : POk (markMapRefUnknown fuel n) :=
  POk.of_foot (Footprint.Foot.markMapRefUnknown (w := fun _ => True) fuel n) (by decide)

theorem POk.necessary (env : Env) (fuel : Nat) :
    (∀ n, POk (becameNecessary env fuel n)) ∧
    (∀ c i p, POk (addParentWithoutAdjustingHeights env fuel c i p)) :=
  ⟨fun n => POk.of_foot (Footprint.Foot.becameNecessary (w := fun _ => True) env fuel n) (by decide),
   fun c i p => POk.of_foot (Footprint.Foot.addParentWithoutAdjustingHeights (w := fun _ => True) env fuel c i p) (by decide)⟩
theorem POk.becameNecessary (env fuel n) : POk (becameNecessary env fuel n) :=
  (POk.necessary env fuel).1 n
theorem POk.addParentWithoutAdjustingHeights (env fuel c i p) :
    POk (addParentWithoutAdjustingHeights env fuel c i p) := (POk.necessary env fuel).2 c i p

theorem POk.unnecessary (fuel : Nat) :
    (∀ n, POk (becameUnnecessary fuel n)) ∧ (∀ n, POk (checkIfUnnecessary fuel n)) ∧
    (∀ n, POk (removeChildren fuel n)) :=
  ⟨fun n => POk.of_foot (Footprint.Foot.becameUnnecessary (w := fun _ => True) fuel n) (by decide),
   fun n => POk.of_foot (Footprint.Foot.checkIfUnnecessary (w := fun _ => True) fuel n) (by decide),
   fun n => POk.of_foot (Footprint.Foot.removeChildren (w := fun _ => True) fuel n) (by decide)⟩
theorem POk.becameUnnecessary (fuel n) : POk (becameUnnecessary fuel n) :=
  (POk.unnecessary fuel).1 n
theorem POk.checkIfUnnecessary (fuel n) : POk (checkIfUnnecessary fuel n) :=
  (POk.unnecessary fuel).2.1 n
theorem POk.removeChildren (fuel n) : POk (removeChildren fuel n) :=
  (POk.unnecessary fuel).2.2 n

theorem POk.invalidateNode (fuel n) : POk (invalidateNode fuel n) :=
  POk.of_foot (Footprint.Foot.invalidateNode (w := fun _ => True) fuel n) (by decide)

theorem POk.propagateInvalidity (fuel) : POk (propagateInvalidity fuel) :=
  POk.of_foot (Footprint.Foot.propagateInvalidity (w := fun _ => True) fuel) (by decide)
theorem POk.changeChildBindRhs (env fuel m o nw i) :
    POk (changeChildBindRhs env fuel m o nw i) := POk.of_foot (Footprint.Foot.changeChildBindRhs (w := fun _ => True) env fuel m o nw i) (by decide)

/-! ### expert API -/
theorem POk.assertRunningIsChild (n name) : POk (assertRunningIsChild n name) :=
  POk.of_foot (Footprint.Foot.assertRunningIsChild (w := fun _ => True) n name) (by decide)
theorem POk.expertAddDependency (env fuel n c cb) :
    POk (expertAddDependency env fuel n c cb) := POk.of_foot (Footprint.Foot.expertAddDependency (w := fun _ => True) env fuel n c cb) (by decide)

/-! ### node creation, var writes, effects -/
theorem POk.bumpCounter (f : Counters → Counters) : POk (bumpCounter f) := by
  unfold Engine.bumpCounter; okpres
ok_leaf POk.bumpCounter
theorem POk.elabInstr (loc v i) : POk (elabInstr loc v i) := POk.of_foot (Footprint.Foot.elabInstr (w := fun _ => True) loc v i) (by decide)
theorem POk.elabInstrM (env loc v i) : POk (elabInstrM env loc v i) :=
  POk.of_foot (Footprint.Foot.elabInstrM (w := fun _ => True) env loc v i) (by decide)
ok_leaf POk.elabInstrM
theorem POk.didSetVarWhileNotStabilising (v) : POk (didSetVarWhileNotStabilising v) :=
  POk.of_foot (Footprint.Foot.didSetVarWhileNotStabilising (w := fun _ => True) v) (by decide)
theorem POk.writeVar (v f b) : POk (writeVar v f b) := POk.of_foot (Footprint.Foot.writeVar (w := fun _ => True) v f b) (by decide)
ok_leaf POk.writeVar
theorem POk.disallowFutureUse (o) : POk (disallowFutureUse o) := POk.of_foot (Footprint.Foot.disallowFutureUse (w := fun _ => True) o) (by decide)
ok_leaf POk.disallowFutureUse

/-! ### notifications, `maybeChangeValue`, `recomputeOne` -/
theorem POk.parentIterCanRecomputeNow (p c) : POk (parentIterCanRecomputeNow p c) :=
  POk.of_foot (Footprint.Foot.parentIterCanRecomputeNow (w := fun _ => True) p c) (by decide)
theorem POk.maybeChangeValue (env fuel n v) : POk (maybeChangeValue env fuel n v) :=
  POk.of_foot (Footprint.Foot.maybeChangeValue env fuel n v) (by decide)

theorem POk.recomputeOne (env fuel n) : POk (recomputeOne env fuel n) := POk.of_foot (Footprint.Foot.recomputeOne env fuel n) (by decide)

theorem POk.recompute (env fuel n) : POk (recompute env fuel n) := POk.of_foot (Footprint.Foot.recompute env fuel n) (by decide)

theorem POk.drainHeap (env fuel) : POk (drainHeap env fuel) := POk.of_foot (Footprint.Foot.drainHeap env fuel) (by decide)

theorem POk.runAll (env fuel o n nu now) : POk (runAll env fuel o n nu now) :=
  POk.of_foot (Footprint.Foot.runAll (w := fun _ => True) env fuel o n nu now) (by decide)
theorem POk.stabiliseEnd (env fuel) : POk (stabiliseEnd env fuel) :=
  POk.of_foot (Footprint.Foot.stabiliseEnd (w := fun _ => True) env fuel) (by decide)

/-- **a `stabilise` that returns keeps the height-limit invariant** -/
theorem POk.stabilise (env fuel) : POk (stabilise env fuel) := POk.of_foot (Footprint.Foot.stabilise env fuel) (by decide)

end IncrVerif.Proofs.AuditF.HLim
