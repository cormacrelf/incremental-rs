import IncrVerif.Proofs.StepInv
import IncrVerif.Proofs.HeapWF
/-!
# Scheduling invariant of `drainHeap` on a static graph — definitions and the pure-logic layer (L1)

Static fragment: every necessary node is valid and of kind `const`, `var`, `map f args` (with `f` below
`fnPerKey` and, for user functions `f < fnZip`, without side effects) or `fold`; cutoff `.eq` or `.never`;
no fault armed.

* `eval env s k n`: from-scratch evaluation of node `n` (fuel `k`) on the current variable values.
* `Graph env s`: structural well-formedness (static kinds, edge symmetry, heights).
* `HeapInv s`: `HeapWF` plus: a queued node sits in the bucket of its height, the lower bound is below
  every queued node, queued nodes are necessary.
* `Inv env s x`: the scheduling invariant with an optional "current" node `x` (popped from the heap or
  handed over by the direct-recompute chain, about to run).  `DrainInv env s = Inv env s none`.
* L1 `drained_values`: `DrainInv`, empty heap ⟹ every necessary node carries its `eval` value.
* `CutH.Graph` (no clause on the cutoffs), `CutH.ExactCut`, `CutH.StepRel` (one `recomputeOne` with the cutoff's verdict and the log): the
  definitions for ARBITRARY cutoffs, with `Graph.toC` and `StepRel.ofC` between the two.
-/
namespace IncrVerif.Proofs.Sched
open IncrVerif.Engine IncrVerif.Proofs IncrVerif.Proofs.Step

/-! ## the fragment -/

/-- kinds of the static fragment -/
def StaticKind (env : Env) : Kind → Prop
  | .const _ => True
  | .var _ => True
  | .map f _ => f < fnPerKey ∧ (f < fnZip → ∀ vals, env.fnEff f vals = [])
  | .fold _ _ _ => True
  | _ => False

/-- the children of a static kind -/
def kids : Kind → List Nat
  | .map _ args => args
  | .fold _ _ cs => cs
  | _ => []

theorem StaticKind.not_mapRef {env : Env} {k : Kind} (h : StaticKind env k) (p i : Nat) :
    k ≠ .mapRef p i := by
  intro e; subst e; exact h

theorem children_eq_kids {env : Env} (s : State) (n : Nat) (hv : (s.nodeD n).valid = true)
    (hk : StaticKind env (s.nodeD n).kind) : s.children n = kids (s.nodeD n).kind := by
  unfold State.children Node.kind?
  rw [hv]
  simp only [if_true]
  cases h : (s.nodeD n).kind <;> rw [h] at hk <;> first | rfl | exact hk.elim

/-! ## evaluation from scratch -/

/-- all of a list of optional values -/
def evalArgs (ev : Nat → Option Val) : List Nat → Option (List Val)
  | [] => some []
  | a :: as =>
    match ev a, evalArgs ev as with
    | some v, some vs => some (v :: vs)
    | _, _ => none

theorem evalArgs_congr (ev ev' : Nat → Option Val) (args : List Nat)
    (h : ∀ a, a ∈ args → ev' a = ev a) : evalArgs ev' args = evalArgs ev args := by
  induction args with
  | nil => rfl
  | cons a as ih =>
    simp only [evalArgs]
    rw [h a (List.mem_cons_self ..), ih (fun b hb => h b (List.mem_cons_of_mem _ hb))]

theorem valuesOf_eq_evalArgs (env : Env) (s : State) (args : List Nat) :
    valuesOf env s args = evalArgs (s.value env) args := by
  induction args with
  | nil => rfl
  | cons a as ih =>
    simp only [valuesOf, evalArgs, ih]
    cases s.value env a <;> cases evalArgs (s.value env) as <;> rfl

theorem evalArgs_isSome (ev : Nat → Option Val) (args : List Nat)
    (h : ∀ a, a ∈ args → ∃ v, ev a = some v) : ∃ vs, evalArgs ev args = some vs := by
  induction args with
  | nil => exact ⟨[], rfl⟩
  | cons a as ih =>
    obtain ⟨v, hv⟩ := h a (List.mem_cons_self ..)
    obtain ⟨vs, hvs⟩ := ih (fun b hb => h b (List.mem_cons_of_mem _ hb))
    exact ⟨v :: vs, by simp only [evalArgs, hv, hvs]⟩

theorem evalArgs_some_mem (ev : Nat → Option Val) (args : List Nat) (vals : List Val)
    (h : evalArgs ev args = some vals) : ∀ a, a ∈ args → ∃ v, ev a = some v := by
  induction args generalizing vals with
  | nil => intro a ha; cases ha
  | cons b bs ih =>
    intro a ha
    simp only [evalArgs] at h
    cases hb : ev b with
    | none => rw [hb] at h; cases h
    | some vb =>
      cases hbs : evalArgs ev bs with
      | none => rw [hb, hbs] at h; cases h
      | some vs =>
        rcases List.mem_cons.1 ha with rfl | ha
        · exact ⟨vb, hb⟩
        · exact ih vs hbs a ha

/-- the stored values of a list of nodes -/
def plainVals (s : State) (args : List Nat) : Option (List Val) :=
  evalArgs (fun a => (s.nodeD a).value) args

/-- from-scratch evaluation of node `n` along `kind`, on the current values of the variables -/
def eval (env : Env) (s : State) : Nat → Nat → Option Val
  | 0, _ => none
  | k+1, n =>
    match (s.nodeD n).kind with
    | .const v => some v
    | .var c => (s.vars[c]?).map (·.value)
    | .map f args => (evalArgs (fun a => eval env s k a) args).map (env.fn f)
    | .fold f init cs => (evalArgs (fun a => eval env s k a) cs).map (List.foldl (env.foldStep f) init)
    | _ => none

/-! ## structure -/

/-- structural well-formedness of the necessary part of the graph (static fragment) -/
structure Graph (env : Env) (s : State) : Prop where
  pc : s.panicCountdown = none
  nec : ∀ n, s.isNecessary n = true →
    n < s.nodes.size ∧ (s.nodeD n).valid = true ∧ StaticKind env (s.nodeD n).kind ∧
      ((s.nodeD n).cutoff = .eq ∨ (s.nodeD n).cutoff = .never) ∧ 0 ≤ (s.nodeD n).height
  var : ∀ n c, s.isNecessary n = true → (s.nodeD n).kind = .var c → ∃ vc, s.vars[c]? = some vc
  /-- child edges are mirrored in `parents`, children are necessary and strictly lower -/
  child : ∀ n, s.isNecessary n = true → ∀ i c, (kids (s.nodeD n).kind)[i]? = some c →
    s.isNecessary c = true ∧ (n, i) ∈ (s.nodeD c).parents ∧ (s.nodeD c).height < (s.nodeD n).height
  /-- parent entries are mirrored by child edges -/
  parent : ∀ c p i, (p, i) ∈ (s.nodeD c).parents →
    s.isNecessary p = true ∧ (kids (s.nodeD p).kind)[i]? = some c

/-- `a` is a reflexive-transitive parent of `d` (through necessary nodes) -/
inductive Anc (s : State) : Nat → Nat → Prop
  | refl (a : Nat) : Anc s a a
  | step {a c d : Nat} : s.isNecessary a = true → c ∈ kids (s.nodeD a).kind → Anc s c d → Anc s a d

/-- the recompute heap: well-formed buckets, bucket = height, lower bound, only necessary nodes -/
structure HeapInv (s : State) : Prop where
  wf : HeapWF s
  hgt : ∀ m, (s.nodeD m).inRch = true → (s.nodeD m).heightInRch = (s.nodeD m).height
  lb : ∀ m, (s.nodeD m).inRch = true → s.rch.lowerBound ≤ (s.nodeD m).height
  lb0 : 0 ≤ s.rch.lowerBound
  nec : ∀ m, (s.nodeD m).inRch = true → s.isNecessary m = true

/-- no stamp is in the future -/
structure Stamps (s : State) : Prop where
  now : 0 ≤ s.stabNum
  node : ∀ m, (s.nodeD m).recomputedAt ≤ s.stabNum ∧ (s.nodeD m).changedAt ≤ s.stabNum
  var : ∀ (c : Nat) (vc : VarCell), s.vars[c]? = some vc → vc.setAt ≤ s.stabNum

/-- `v` is what node `n`'s defining expression yields on the current values of its children -/
def Target (env : Env) (s : State) (n : Nat) (v : Val) : Prop :=
  match (s.nodeD n).kind with
  | .const w => v = w
  | .var c => ∃ vc, s.vars[c]? = some vc ∧ v = vc.value
  | .map f args => ∃ vals, plainVals s args = some vals ∧ v = env.fn f vals
  | .fold f init cs => ∃ vals, plainVals s cs = some vals ∧ v = vals.foldl (env.foldStep f) init
  | _ => False

/-- node `n` carries the value of its defining expression on the current values of its children -/
def Consistent (env : Env) (s : State) (n : Nat) : Prop :=
  ∃ v, Target env s n v ∧ (s.nodeD n).value = some v

/-- the scheduling invariant.  `x`: the node that has been taken out of the heap (or handed over by
the direct-recompute chain) and is about to be recomputed. -/
structure Inv (env : Env) (s : State) (x : Option Nat) : Prop where
  graph : Graph env s
  heap : HeapInv s
  stamps : Stamps s
  /-- (b) stale necessary nodes are pending -/
  pending : ∀ m, s.isNecessary m = true → s.isStale m = true → (s.nodeD m).inRch = true ∨ x = some m
  /-- (c) necessary nodes that are not stale are consistent with their children -/
  cons : ∀ m, s.isNecessary m = true → s.isStale m = false → Consistent env s m
  /-- (d) above a pending node (and the node itself) nothing has been recomputed in this round -/
  fresh : ∀ d, ((s.nodeD d).inRch = true ∨ x = some d) → ∀ a, Anc s a d →
    (s.nodeD a).recomputedAt < s.stabNum
  /-- the current node is necessary, not queued, and nothing below it is queued -/
  cur : ∀ n, x = some n → s.isNecessary n = true ∧ ∀ d, Anc s n d → (s.nodeD d).inRch = false

/-- the drain invariant: the state between two pops of `drainHeap` -/
def DrainInv (env : Env) (s : State) : Prop := Inv env s none

end IncrVerif.Proofs.Sched

/-! ## the graph with ANY cutoffs

`CutH.Graph` is `Graph` without the clause on the cutoffs of the necessary nodes.  What follows from the structure of the graph alone is proved for
it; `Graph.toC` hands it down. -/
namespace IncrVerif.Proofs.CutH
open IncrVerif.Engine IncrVerif.Proofs IncrVerif.Proofs.Step IncrVerif.Proofs.Sched

/-- a cutoff that suppresses equal values only: the default `.eq`, and `.never` -/
def ExactCut : CutoffK → Prop
  | .eq => True
  | .never => True
  | _ => False

instance : DecidablePred ExactCut := fun c => by
  cases c <;> simp only [ExactCut] <;> infer_instance

theorem exactCut_iff (c : CutoffK) : ExactCut c ↔ (c = .eq ∨ c = .never) := by
  cases c <;> simp [ExactCut]

/-- structural well-formedness of the necessary part of the graph (static kinds, ANY cutoff) -/
structure Graph (env : Env) (s : State) : Prop where
  pc : s.panicCountdown = none
  nec : ∀ n, s.isNecessary n = true →
    n < s.nodes.size ∧ (s.nodeD n).valid = true ∧ StaticKind env (s.nodeD n).kind ∧ 0 ≤ (s.nodeD n).height
  var : ∀ n c, s.isNecessary n = true → (s.nodeD n).kind = .var c → ∃ vc, s.vars[c]? = some vc
  /-- child edges are mirrored in `parents`, children are necessary and strictly lower -/
  child : ∀ n, s.isNecessary n = true → ∀ i c, (kids (s.nodeD n).kind)[i]? = some c →
    s.isNecessary c = true ∧ (n, i) ∈ (s.nodeD c).parents ∧ (s.nodeD c).height < (s.nodeD n).height
  /-- parent entries are mirrored by child edges -/
  parent : ∀ c p i, (p, i) ∈ (s.nodeD c).parents →
    s.isNecessary p = true ∧ (kids (s.nodeD p).kind)[i]? = some c


theorem Graph.value_plain {env : Env} {s : State} (g : Graph env s) {n : Nat}
    (hn : s.isNecessary n = true) : s.value env n = (s.nodeD n).value :=
  Step.value_plain env s n (fun p i => (g.nec n hn).2.2.1.not_mapRef p i)

theorem Graph.kids_nec {env : Env} {s : State} (g : Graph env s) {n c : Nat}
    (hn : s.isNecessary n = true) (hc : c ∈ kids (s.nodeD n).kind) :
    s.isNecessary c = true ∧ (s.nodeD c).height < (s.nodeD n).height := by
  obtain ⟨i, hi, e⟩ := List.mem_iff_getElem.1 hc
  have h := g.child n hn i c (by rw [List.getElem?_eq_getElem hi, e])
  exact ⟨h.1, h.2.2⟩

theorem Graph.valuesOf {env : Env} {s : State} (g : Graph env s) {n : Nat}
    (hn : s.isNecessary n = true) :
    valuesOf env s (kids (s.nodeD n).kind) = plainVals s (kids (s.nodeD n).kind) := by
  rw [valuesOf_eq_evalArgs]
  exact evalArgs_congr _ _ _ fun a ha => (g.value_plain (g.kids_nec hn ha).1)

theorem eval_of_consistent (env : Env) (s : State) (g : Graph env s)
    (hc : ∀ m, s.isNecessary m = true → Consistent env s m) :
    ∀ k n, s.isNecessary n = true → (s.nodeD n).height.toNat < k →
      (s.nodeD n).value = eval env s k n := by
  intro k
  induction k with
  | zero => intro n _ h; omega
  | succ k ih =>
    intro n hn hk
    obtain ⟨v, ht, hv⟩ := hc n hn
    have hkids : ∀ a, a ∈ kids (s.nodeD n).kind → (s.nodeD a).value = eval env s k a := by
      intro a ha
      obtain ⟨h1, h2⟩ := g.kids_nec hn ha
      have h0 := (g.nec a h1).2.2.2
      exact ih a h1 (by omega)
    rw [hv]
    unfold Target at ht
    unfold eval
    cases hkd : (s.nodeD n).kind with
    | const w => rw [hkd] at ht; simp only [ht]
    | var c =>
      rw [hkd] at ht
      obtain ⟨vc, h1, h2⟩ := ht
      simp only [h1, h2, Option.map_some]
    | map f args =>
      rw [hkd] at ht hkids
      obtain ⟨vals, h1, h2⟩ := ht
      simp only
      rw [← evalArgs_congr _ _ args (fun a ha => hkids a ha)]
      unfold plainVals at h1
      rw [h1, h2]; rfl
    | fold f init cs =>
      rw [hkd] at ht hkids
      obtain ⟨vals, h1, h2⟩ := ht
      simp only
      rw [← evalArgs_congr _ _ cs (fun a ha => hkids a ha)]
      unfold plainVals at h1
      rw [h1, h2]; rfl
    | mapRef _ _ => rw [hkd] at ht; exact ht.elim
    | mapWithOld _ _ => rw [hkd] at ht; exact ht.elim
    | bindLhsChange _ => rw [hkd] at ht; exact ht.elim
    | bindMain _ _ => rw [hkd] at ht; exact ht.elim
    | expert _ => rw [hkd] at ht; exact ht.elim

end IncrVerif.Proofs.CutH

namespace IncrVerif.Proofs.Sched
open IncrVerif.Engine IncrVerif.Proofs IncrVerif.Proofs.Step

/-! ## basic consequences -/

theorem nodeD_default_of_ge (s : State) (n : Nat) (h : s.nodes.size ≤ n) : s.nodeD n = default :=
  nodeD_default s n h

/-- forgetting the cutoffs -/
theorem Graph.toC {env : Env} {s : State} (g : Graph env s) : CutH.Graph env s :=
  ⟨g.pc, fun n hn => ⟨(g.nec n hn).1, (g.nec n hn).2.1, (g.nec n hn).2.2.1, (g.nec n hn).2.2.2.2⟩, g.var, g.child, g.parent⟩

theorem Graph.value_plain {env : Env} {s : State} (g : Graph env s) {n : Nat}
    (hn : s.isNecessary n = true) : s.value env n = (s.nodeD n).value := g.toC.value_plain hn

theorem Graph.kids_nec {env : Env} {s : State} (g : Graph env s) {n c : Nat}
    (hn : s.isNecessary n = true) (hc : c ∈ kids (s.nodeD n).kind) :
    s.isNecessary c = true ∧ (s.nodeD c).height < (s.nodeD n).height := g.toC.kids_nec hn hc

theorem Graph.valuesOf {env : Env} {s : State} (g : Graph env s) {n : Nat}
    (hn : s.isNecessary n = true) :
    valuesOf env s (kids (s.nodeD n).kind) = plainVals s (kids (s.nodeD n).kind) := g.toC.valuesOf hn

/-- heights do not increase downwards -/
theorem Anc.height_le {env : Env} {s : State} (g : Graph env s) {a d : Nat} (h : Anc s a d) :
    (s.nodeD d).height ≤ (s.nodeD a).height := by
  induction h with
  | refl a => exact Int.le_refl _
  | step hn hc _ ih => have := (g.kids_nec hn hc).2; omega

theorem Anc.height_lt {env : Env} {s : State} (g : Graph env s) {a d : Nat} (h : Anc s a d)
    (hne : a ≠ d) : (s.nodeD d).height < (s.nodeD a).height := by
  cases h with
  | refl => exact absurd rfl hne
  | step hn hc h2 => have := (g.kids_nec hn hc).2; have := h2.height_le g; omega

theorem Anc.trans {s : State} {a b c : Nat} (h1 : Anc s a b) (h2 : Anc s b c) : Anc s a c := by
  induction h1 with
  | refl => exact h2
  | step hn hc _ ih => exact Anc.step hn hc (ih h2)

theorem Anc.nec {env : Env} {s : State} (g : Graph env s) {a d : Nat} (h : Anc s a d)
    (ha : s.isNecessary a = true) : s.isNecessary d = true := by
  induction h with
  | refl => exact ha
  | step hn hc _ ih => exact ih (g.kids_nec hn hc).1

/-- a parent entry gives an `Anc` step -/
theorem Graph.parent_anc {env : Env} {s : State} (g : Graph env s) {c p i : Nat}
    (h : (p, i) ∈ (s.nodeD c).parents) : Anc s p c := by
  obtain ⟨hp, hk⟩ := g.parent c p i h
  exact Anc.step hp (List.mem_of_getElem? hk) (Anc.refl c)

/-! ## the empty heap -/

theorem bucketSum_zero_mem (q : Array (List Nat)) (h : bucketSum q = 0) (i : Nat) (hi : i < q.size) :
    q[i] = [] := by
  unfold bucketSum at h
  have : ∀ l : List (List Nat), (l.map List.length).sum = 0 → ∀ x ∈ l, x = [] := by
    intro l
    induction l with
    | nil => intro _ x hx; cases hx
    | cons a l ih =>
      intro hs x hx
      simp only [List.map_cons, List.sum_cons] at hs
      rcases List.mem_cons.1 hx with rfl | hx
      · exact List.eq_nil_of_length_eq_zero (by omega)
      · exact ih (by omega) x hx
  exact this q.toList h q[i] (by simp)

/-- with an empty heap no node is marked as queued -/
theorem HeapInv.empty {s : State} (h : HeapInv s) (he : s.rch.length = 0) (m : Nat) :
    (s.nodeD m).inRch = false := by
  by_cases hm : m < s.nodes.size
  · rcases h.wf.range m hm with h1 | ⟨h1, h2⟩
    · simp [Node.inRch, h1]
    · exfalso
      have hlt : (s.nodeD m).heightInRch.toNat < s.rch.queues.size := by omega
      have hmem := (h.wf.mem _ hlt m).2 ⟨hm, by omega⟩
      have hz := bucketSum_zero_mem s.rch.queues (by rw [← h.wf.length]; exact he) _ hlt
      rw [hz] at hmem
      cases hmem
  · rw [nodeD_default_of_ge s m (by omega)]; rfl

/-! ## L1: after the drain every necessary node carries its from-scratch value -/

theorem eval_of_consistent (env : Env) (s : State) (g : Graph env s)
    (hc : ∀ m, s.isNecessary m = true → Consistent env s m) :
    ∀ k n, s.isNecessary n = true → (s.nodeD n).height.toNat < k →
      (s.nodeD n).value = eval env s k n :=
  CutH.eval_of_consistent env s g.toC hc

/-- with an empty heap every necessary node is up to date and consistent -/
theorem DrainInv.all_consistent {env : Env} {s : State} (h : DrainInv env s) (he : s.rch.length = 0)
    (m : Nat) (hm : s.isNecessary m = true) : s.isStale m = false ∧ Consistent env s m := by
  have hns : s.isStale m = false := by
    cases hst : s.isStale m with
    | false => rfl
    | true =>
      rcases h.pending m hm hst with h1 | h1
      · rw [h.heap.empty he m] at h1; cases h1
      · cases h1
  exact ⟨hns, h.cons m hm hns⟩

/-- **L1.** `DrainInv`, empty heap: every necessary node is valid, not stale, and its stored value —
which is also what an observer reads (`State.value`) — is the from-scratch evaluation of its defining
expression on the current variable values (any fuel above the node's height). -/
theorem drained_values {env : Env} {s : State} (h : DrainInv env s) (he : s.rch.length = 0)
    (n : Nat) (hn : s.isNecessary n = true) (k : Nat) (hk : (s.nodeD n).height.toNat < k) :
    (s.nodeD n).valid = true ∧ s.isStale n = false ∧
      (s.nodeD n).value = eval env s k n ∧ s.value env n = eval env s k n ∧
      (eval env s k n).isSome = true := by
  have hv := eval_of_consistent env s h.graph (fun m hm => (h.all_consistent he m hm).2) k n hn hk
  obtain ⟨v, _, hval⟩ := (h.all_consistent he n hn).2
  refine ⟨(h.graph.nec n hn).2.1, (h.all_consistent he n hn).1, hv, ?_, ?_⟩
  · rw [h.graph.value_plain hn]; exact hv
  · rw [← hv, hval]; rfl

/-! ## interface: what one successful `recomputeOne` does in the static fragment -/

/-- the fields of a node that make up the graph: unchanged during a drain -/
structure SameShape (a b : Node) : Prop where
  kind : b.kind = a.kind
  createdIn : b.createdIn = a.createdIn
  valid : b.valid = a.valid
  cutoff : b.cutoff = a.cutoff
  height : b.height = a.height
  parents : b.parents = a.parents
  observers : b.observers = a.observers
  forceNecessary : b.forceNecessary = a.forceNecessary

theorem SameShape.refl (a : Node) : SameShape a a := ⟨rfl, rfl, rfl, rfl, rfl, rfl, rfl, rfl⟩

theorem SameShape.trans {a b c : Node} (h1 : SameShape a b) (h2 : SameShape b c) : SameShape a c :=
  ⟨h2.kind.trans h1.kind, h2.createdIn.trans h1.createdIn, h2.valid.trans h1.valid, h2.cutoff.trans h1.cutoff,
   h2.height.trans h1.height, h2.parents.trans h1.parents, h2.observers.trans h1.observers,
   h2.forceNecessary.trans h1.forceNecessary⟩

theorem SameShape.of_nodeSame {a b : Node} (h : NodeSame a b) : SameShape a b :=
  ⟨h.kind, h.createdIn, h.valid, h.cutoff, h.height, h.parents, h.observers, h.forceNecessary⟩

theorem SameShape.isNecessary {a b : Node} (h : SameShape a b) : b.isNecessary = a.isNecessary := by
  simp [Node.isNecessary, h.parents, h.observers, h.forceNecessary]

/-- `s'` is `s` after a successful `recomputeOne env fuel n` that computed `v`, stamped `changedAt`
iff `ch`, and returned `r` (the parent handed over for direct recomputation) -/
structure StepRel (n : Nat) (v : Val) (ch : Bool) (r : Option Nat) (s s' : State) : Prop where
  size : s'.nodes.size = s.nodes.size
  vars : s'.vars = s.vars
  stabNum : s'.stabNum = s.stabNum
  pc : s'.panicCountdown = none
  /-- the number of buckets of the recompute heap never changes -/
  qsize : s'.rch.queues.size = s.rch.queues.size
  /-- other nodes: same up to heap membership (only inserted, never removed) -/
  other : ∀ m, m ≠ n → NodeSame (s.nodeD m) (s'.nodeD m)
  shape : SameShape (s.nodeD n) (s'.nodeD n)
  value : (s'.nodeD n).value = some v
  recomputedAt : (s'.nodeD n).recomputedAt = s.stabNum
  changedAt : (s'.nodeD n).changedAt = if ch = true then s.stabNum else (s.nodeD n).changedAt
  /-- no stamp: the value did not change, nobody was notified -/
  unch : ch = false → (s.nodeD n).value = some v ∧ r = none
  heap : HeapInv s'
  /-- only parents of `n` are inserted, and only when `n` changed -/
  newIn : ∀ m, (s'.nodeD m).inRch = true →
    (s.nodeD m).inRch = true ∨ (ch = true ∧ m ∈ (s.nodeD n).parents.map (·.1))
  /-- changes are never lost -/
  parentsIn : ch = true → ∀ p, p ∈ (s.nodeD n).parents.map (·.1) →
    (s'.nodeD p).inRch = true ∨ r = some p
  /-- the handed-over parent: not queued; a one-argument `map` or not above the heap's minimum -/
  ret : ∀ p, r = some p → ch = true ∧ p ∈ (s.nodeD n).parents.map (·.1) ∧
    (s'.nodeD p).inRch = false ∧
    ((∃ f args, (s.nodeD p).kind = .map f args ∧ args.length ≤ 1) ∨
      ∀ m, (s'.nodeD m).inRch = true → (s.nodeD p).height ≤ (s.nodeD m).height)

end IncrVerif.Proofs.Sched

namespace IncrVerif.Proofs.CutH
open IncrVerif.Engine IncrVerif.Proofs IncrVerif.Proofs.Step IncrVerif.Proofs.Sched

/-- an event logged by the function of node `n` -/
def IsInvOf (n : Nat) : Event → Prop
  | .inv _ m _ _ => m = n
  | _ => False

/-- `s'` is `s` after a successful `recomputeOne env fuel n` that computed `v`, stamped `changedAt`
iff `ch`, and returned `r` (the parent handed over for direct recomputation) -/
structure StepRel (env : Env) (n : Nat) (v : Val) (ch : Bool) (r : Option Nat) (s s' : State) : Prop where
  size : s'.nodes.size = s.nodes.size
  vars : s'.vars = s.vars
  stabNum : s'.stabNum = s.stabNum
  pc : s'.panicCountdown = none
  /-- the number of buckets of the recompute heap never changes -/
  qsize : s'.rch.queues.size = s.rch.queues.size
  /-- other nodes: same up to heap membership (only inserted, never removed) -/
  other : ∀ m, m ≠ n → NodeSame (s.nodeD m) (s'.nodeD m)
  shape : SameShape (s.nodeD n) (s'.nodeD n)
  value : (s'.nodeD n).value = some v
  recomputedAt : (s'.nodeD n).recomputedAt = s.stabNum
  changedAt : (s'.nodeD n).changedAt = if ch = true then s.stabNum else (s.nodeD n).changedAt
  /-- **the gate**: `ch` is `true` for a first result, otherwise the negation of the cutoff's verdict on
  `(old, new)`, evaluated in the pre-state -/
  verdict : mcvChanges env s n v = some ch
  /-- no stamp: there was an old value, it was suppressed (for an exact cutoff: it was equal), nobody was notified -/
  unch : ch = false → (∃ old, (s.nodeD n).value = some old ∧ (ExactCut (s.nodeD n).cutoff → old = v)) ∧ r = none
  /-- the log: the function's events, then the `cut` event of a user cutoff function (if consulted), nothing else -/
  log : ∃ evs, s'.log = mcvLog env s n v ++ (evs ++ s.log) ∧ ∀ e, e ∈ evs → IsInvOf n e
  heap : HeapInv s'
  /-- only parents of `n` are inserted, and only when `n` changed -/
  newIn : ∀ m, (s'.nodeD m).inRch = true →
    (s.nodeD m).inRch = true ∨ (ch = true ∧ m ∈ (s.nodeD n).parents.map (·.1))
  /-- changes are never lost -/
  parentsIn : ch = true → ∀ p, p ∈ (s.nodeD n).parents.map (·.1) →
    (s'.nodeD p).inRch = true ∨ r = some p
  /-- the handed-over parent: not queued; a one-argument `map` or not above the heap's minimum -/
  ret : ∀ p, r = some p → ch = true ∧ p ∈ (s.nodeD n).parents.map (·.1) ∧
    (s'.nodeD p).inRch = false ∧
    ((∃ f args, (s.nodeD p).kind = .map f args ∧ args.length ≤ 1) ∨
      ∀ m, (s'.nodeD m).inRch = true → (s.nodeD p).height ≤ (s.nodeD m).height)

end IncrVerif.Proofs.CutH

namespace IncrVerif.Proofs.Sched
open IncrVerif.Engine IncrVerif.Proofs IncrVerif.Proofs.Step

/-- for an exact cutoff a suppressed value is the old one -/
theorem StepRel.ofC {env : Env} {n : Nat} {v : Val} {ch : Bool} {r : Option Nat} {s s' : State}
    (R : CutH.StepRel env n v ch r s s') (hx : CutH.ExactCut (s.nodeD n).cutoff) : StepRel n v ch r s s' where
  size := R.size
  vars := R.vars
  stabNum := R.stabNum
  pc := R.pc
  qsize := R.qsize
  other := R.other
  shape := R.shape
  value := R.value
  recomputedAt := R.recomputedAt
  changedAt := R.changedAt
  unch hch := by
    obtain ⟨⟨old, h1, h2⟩, h3⟩ := R.unch hch
    exact ⟨by rw [h1, h2 hx], h3⟩
  heap := R.heap
  newIn := R.newIn
  parentsIn := R.parentsIn
  ret := R.ret

theorem getElem?_mem_kids {k : Kind} {i c : Nat} (h : (kids k)[i]? = some c) : c ∈ kids k :=
  List.mem_of_getElem? h

theorem eval_congr {env : Env} {s s' : State} (hk : ∀ m, (s'.nodeD m).kind = (s.nodeD m).kind)
    (hv : s'.vars = s.vars) (k n : Nat) : eval env s' k n = eval env s k n := by
  induction k generalizing n with
  | zero => rfl
  | succ k ih =>
    unfold eval
    rw [hk n, hv]
    have : (fun a => eval env s' k a) = (fun a => eval env s k a) := funext ih
    rw [this]

end IncrVerif.Proofs.Sched
