import IncrVerif.Proofs.DriverH1
import IncrVerif.Proofs.DriverH2
import IncrVerif.Proofs.DriverH3
/-!
# Drivers, part 2: the auxiliary drain invariant, the drain frame, and the contracts between the assembly files

At the end, what the later parts share: `unstamp` node by node; the engine calls of `addDep` and `evalX` do not read the effect table; `DF`, what the
well-formedness of drivers reads of a state (`DrvOK` along it: `drvOK_frame`), and `Drives` along `XF` + `XS`.
-/
namespace IncrVerif.Proofs.DriverH
open IncrVerif.Engine IncrVerif.Driver IncrVerif.Proofs IncrVerif.Proofs.Step IncrVerif.Proofs.Sched
open IncrVerif.Proofs.ExpertH IncrVerif.Proofs.ExpertH.QR IncrVerif.Proofs.EffH

/-! ## the invariant of the drain -/

/-- the auxiliary invariant of the drain (it accompanies `BindH.DInv (virtEnv E) (virt s) x`) -/
structure AuxD (E : Env) (s : State) : Prop where
  frag : XFrag E s
  ahh : QR.AhhEmpty s
  pinv : s.propagateInvalidity = []
  handlers : ∀ m, (s.nodeD m).numOnUpdateHandlers ≤ 0
  rank : ∃ rk, QR.AllStatic (virtEnv E) rk (virt s)
  nodup : ∀ c, (s.nodeD c).parents.Nodup
  vars : QR.VarsOK (virt s)

/-- **the drain invariant with drivers**: `E = noEff env`; the virtual static state satisfies the drain invariant with a
changing graph of `Props/C03Order.lean`; the auxiliary invariant; the drivers are well-formed -/
structure DD (env : Env) (s : State) (x : Option Nat) : Prop where
  inv : BindH.DInv (virtEnv (noEff env)) (virt s) x
  aux : AuxD (noEff env) s
  drv : DrvOK env s

/-- node fields no step of the drain changes -/
def dnKey (nd : Node) :=
  (nd.kind, nd.createdIn, nd.cutoff, nd.valid, nd.observers, nd.forceNecessary, nd.numOnUpdateHandlers)

/-- what every step of the drain keeps (`eKey`: the state fields; `frameB`: round number, cells, stamps of this round,
read in the virtual states) -/
structure DStep (s s' : State) : Prop where
  frameB : BindH.FrameB (virt s) (virt s')
  size : s'.nodes.size = s.nodes.size
  key : eKey s' = eKey s
  node : ∀ m, dnKey (s'.nodeD m) = dnKey (s.nodeD m)

theorem DStep.refl (s : State) : DStep s s := ⟨BindH.FrameB.refl _, rfl, rfl, fun _ => rfl⟩
theorem DStep.trans {a b c : State} (h1 : DStep a b) (h2 : DStep b c) : DStep a c :=
  ⟨h1.frameB.trans h2.frameB, h2.size.trans h1.size, h2.key.trans h1.key, fun m => (h2.node m).trans (h1.node m)⟩

/-! ## contracts -/

/-- the expert records the driver `n` may edit: those of the nodes it drives -/
def DOf (s : State) (n : Nat) : Nat → Prop := fun e => ∃ x, Drives s n x ∧ (s.nodeD x).kind = .expert e

/-- **the effect list of a driver**, from `Mid` to `Mid` -/
def EffectsSpec (env : Env) : Prop :=
  ∀ (fuel n : Nat) (effs : List Effect) (arg : Int) (s s' : State),
    Mid (noEff env) s → (∀ eff, eff ∈ effs → EffOK s n eff) →
    (runEffects env fuel effs arg).run.run s = (.ok (), s') →
    Mid (noEff env) s' ∧ EF (DOf s n) s s' ∧ (∀ m x, Drives s m x → Drives s' m x) ∧
      (s.isNecessary n = true → s'.isNecessary n = true)

/-- the virtual state in which the static step of the driver starts: `S` with the stamp of `n` put back to `r` -/
def unstamp (n : Nat) (r : Int) (S : State) : State :=
  { S with nodes := S.nodes.modify n fun x => { x with recomputedAt := r } }

/-- the nodes rewired between `s` and `s2`: expert nodes whose record changed in `children` or `forceStale` -/
def Rewired (s s2 : State) (x : Nat) : Prop :=
  ∃ e er er', (s.nodeD x).kind = .expert e ∧ s.experts[e]? = some er ∧ s2.experts[e]? = some er' ∧
    ¬ (er'.children = er.children ∧ er'.forceStale = er.forceStale)

/-- **bridge 1**: when a non-expert node `n` is about to run, the state in which it is stamped satisfies `Mid` -/
def MidOfDInv (E : Env) : Prop :=
  ∀ (n : Nat) (s : State), BindH.DInv (virtEnv E) (virt s) (some n) → AuxD E s →
    (∀ e, (s.nodeD n).kind ≠ .expert e) → Mid E (started n s)

/-- **bridge 2**: from `Mid` after the effects (state `s2`, reached from `started n s` by the frame `EF D`, where every
record in `D` belongs to a node that has `n` as a child) to the rewiring step `StepW` of the virtual states, and the
auxiliary invariant of `s2` -/
def StepWOfMid (E : Env) : Prop :=
  ∀ (n : Nat) (D : Nat → Prop) (s s2 : State), BindH.DInv (virtEnv E) (virt s) (some n) → AuxD E s →
    (∀ e, (s.nodeD n).kind ≠ .expert e) → Mid E s2 → EF D (started n s) s2 →
    (∀ e x, D e → (s.nodeD x).kind = .expert e → n ∈ s.children x) → s2.isNecessary n = true →
    StepW (virtEnv E) (Rewired s s2) n (virt s) (unstamp n (s.nodeD n).recomputedAt (virt s2)) ∧ AuxD E s2

/-- **one `recomputeOne` of the drain** (any node of the fragment) -/
def StepSpec (env : Env) : Prop :=
  ∀ (fuel n : Nat) (s s' : State) (r : Option Nat), DD env s (some n) →
    (recomputeOne env fuel n).run.run s = (.ok r, s') →
    DD env s' r ∧ DStep s s' ∧ ((virt s').nodeD n).recomputedAt = s.stabNum

/-- **one pop** -/
def PopSpec (env : Env) : Prop :=
  ∀ (s s1 : State) (n : Nat), DD env s none → rchRemoveMin.run.run s = (.ok (some n), s1) →
    DD env s1 (some n) ∧ DStep s s1

/-- **the drain** -/
def DrainSpec (env : Env) : Prop :=
  ∀ (fuel : Nat) (s s' : State), DD env s none → (drainHeap env fuel).run.run s = (.ok (), s') →
    DD env s' none ∧ s'.rch.length = 0 ∧ DStep s s' ∧ (drainTrace env fuel s).Nodup

/-! ## `unstamp`, node by node -/

theorem unstamp_nodeD (n : Nat) (r : Int) (S : State) (m : Nat) :
    (unstamp n r S).nodeD m = if n = m ∧ m < S.nodes.size then { S.nodeD m with recomputedAt := r } else S.nodeD m :=
  nodeD_modify S n m _

theorem unstamp_other (n : Nat) (r : Int) (S : State) {m : Nat} (h : m ≠ n) : (unstamp n r S).nodeD m = S.nodeD m := by
  rw [unstamp_nodeD, if_neg (fun hh => h hh.1.symm)]

theorem unstamp_size (n : Nat) (r : Int) (S : State) : (unstamp n r S).nodes.size = S.nodes.size := by
  simp [unstamp]

/-! ## the engine calls of `addDep` do not read the effect table -/

theorem stateAddParent_noEff (env : Env) (fuel c i p : Nat) :
    stateAddParent (noEff env) fuel c i p = stateAddParent env fuel c i p := by
  unfold stateAddParent
  simp only [(bn_ap_noEff env fuel).2]

theorem expertAddDependency_noEff (env : Env) (fuel n c : Nat) (cb : Bool) :
    expertAddDependency (noEff env) fuel n c cb = expertAddDependency env fuel n c cb := by
  unfold expertAddDependency
  simp only [stateAddParent_noEff]

/-! ## static facts between states whose nodes have the same shape -/

theorem allStatic_of_shapes {env : Env} {rk : Nat → Nat} {S S' : State} (A : AllStatic env rk S)
    (hsz : S'.nodes.size = S.nodes.size) (hsh : ∀ m, SameShape (S.nodeD m) (S'.nodeD m))
    (hpc : S'.panicCountdown = none) (hscope : S'.currentScope = S.currentScope) : AllStatic env rk S' := by
  refine ⟨hpc, by rw [hscope]; exact A.scope, fun n hn => ?_, A.inj, by rw [hsz]; exact A.top⟩
  rw [hsz] at hn
  have N := A.node n hn
  have h := hsh n
  exact ⟨by rw [h.valid]; exact N.valid, by rw [h.kind]; exact N.kind, by rw [h.cutoff]; exact N.cutoff,
    by rw [h.createdIn]; exact N.top, by rw [h.forceNecessary]; exact N.force,
    by rw [h.kind]; exact N.kidsLt, by rw [h.kind, hsz]; exact N.kidsIn⟩

theorem varsOK_of_shapes {S S' : State} (V : VarsOK S) (hsz : S'.nodes.size = S.nodes.size)
    (hsh : ∀ m, SameShape (S.nodeD m) (S'.nodeD m)) (hvars : S'.vars = S.vars) : VarsOK S' := by
  refine ⟨fun n c hn hk => ?_, fun c vc hc => ?_⟩
  · rw [hsz] at hn; rw [(hsh n).kind] at hk; rw [hvars]; exact V.node n c hn hk
  · rw [hvars] at hc
    obtain ⟨h1, h2⟩ := V.cell c vc hc
    exact ⟨by rw [hsz]; exact h1, by rw [(hsh _).kind]; exact h2⟩

theorem evalX_noEff (env : Env) (s : State) (k n : Nat) : evalX (noEff env) s k n = evalX env s k n := by
  induction k generalizing n with
  | zero => rfl
  | succ k ih =>
    unfold evalX
    have : (fun a => evalX (noEff env) s k a) = (fun a => evalX env s k a) := funext ih
    rw [this]
    rfl

/-! ## frames of `DrvOK` -/

/-- the protected edges along the frames `XF` (children, `nextDep`, kinds) and `XS` (`script`, `sel`) -/
theorem Drives.of_xf_xs {s s' : State} (hx : XF s s') (hs : XS s s') {m x : Nat} (h : Drives s m x) :
    Drives s' m x := by
  obtain ⟨h1, e, er, h2, h3, ed, h4, h5, h6, h7, h8⟩ := h
  obtain ⟨er', he', hf, -, hc, -, -⟩ := hx.xrec h3
  obtain ⟨er2, he2, hsc, hsel⟩ := hs.get h3
  rw [he'] at he2; cases he2
  refine ⟨by rw [hx.size]; exact h1, e, er', by rw [hx.kind]; exact h2, he', ed, by rw [hc]; exact h4, h5,
    by rw [hx.nextDep]; exact h6, by rw [hsc]; exact h7, ?_⟩
  intro d c hd
  rw [hsel] at hd
  exact h8 d c hd

/-- what `DrvOK` reads of a state -/
structure DF (s s' : State) : Prop where
  size : s'.nodes.size = s.nodes.size
  kind : ∀ m, (s'.nodeD m).kind = (s.nodeD m).kind
  top : s'.top = s.top
  xrec : ∀ (e : Nat) (er : ExpertRec), s.experts[e]? = some er →
    ∃ er', s'.experts[e]? = some er' ∧ er'.children = er.children ∧ er'.script = er.script ∧ er'.sel = er.sel
  nextDep : s.nextDep ≤ s'.nextDep

theorem DF.refl (s : State) : DF s s := ⟨rfl, fun _ => rfl, rfl, fun _ er h => ⟨er, h, rfl, rfl, rfl⟩, Nat.le_refl _⟩

theorem DF.trans {a b c : State} (h1 : DF a b) (h2 : DF b c) : DF a c := by
  refine ⟨h2.size.trans h1.size, fun m => (h2.kind m).trans (h1.kind m), h2.top.trans h1.top, ?_,
    Nat.le_trans h1.nextDep h2.nextDep⟩
  intro e er he
  obtain ⟨er1, he1, c1, s1, l1⟩ := h1.xrec e er he
  obtain ⟨er2, he2, c2, s2, l2⟩ := h2.xrec e er1 he1
  exact ⟨er2, he2, c2.trans c1, s2.trans s1, l2.trans l1⟩

theorem DF.of_xf_xs {s s' : State} (h1 : XF s s') (h2 : XS s s') (ht : s'.top = s.top) : DF s s' := by
  refine ⟨h1.size, h1.kind, ht, ?_, Nat.le_of_eq h1.nextDep.symm⟩
  intro e er he
  obtain ⟨er', he', -, -, hc, -⟩ := h1.xrec he
  obtain ⟨er'', he'', hs, hl⟩ := h2.get he
  rw [he'] at he''; cases he''
  exact ⟨er', he', hc, hs, hl⟩

theorem DF.drives {s s' : State} (h : DF s s') {n x : Nat} (d : Drives s n x) : Drives s' n x := by
  obtain ⟨hx, e, er, hk, hr, ed, hm, hc, hd, hs, hl⟩ := d
  obtain ⟨er', hr', c1, s1, l1⟩ := h.xrec e er hr
  refine ⟨by rw [h.size]; exact hx, e, er', by rw [h.kind]; exact hk, hr', ed, by rw [c1]; exact hm, hc,
    Nat.lt_of_lt_of_le hd h.nextDep, by rw [s1]; exact hs, fun d c hsel => hl d c (by rw [← l1]; exact hsel)⟩

/-- **`DrvOK` along a frame**: sizes, kinds, `top` equal; the records keep `children`, `script`, `sel`; `nextDep` does
not decrease -/
theorem drvOK_frame {env : Env} {s s' : State} (h : DF s s') (d : DrvOK env s) : DrvOK env s' :=
  drvOK_frameX h.size h.kind h.top (fun _ _ => h.drives) d

end IncrVerif.Proofs.DriverH
