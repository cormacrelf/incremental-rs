import IncrVerif.Proofs.PerKeyH54
/-!
# A run of a per-key change detector, part 7e: `NoRem`, `PStep`, and the assembly `lc_final`
-/
namespace IncrVerif.Proofs.PerKeyH
open IncrVerif.Engine IncrVerif.Driver IncrVerif.Proofs IncrVerif.Proofs.Step IncrVerif.Proofs.Sched
open IncrVerif.Proofs.ExpertH IncrVerif.Proofs.EffH IncrVerif.Proofs.DriverH IncrVerif.Proofs.ExpertH.QR
open IncrVerif.Proofs.Xp

section
variable {env : Env} {s s2 s' : State} {n op eres fuel : Nat} {pr : PerKeyRec} {m : List (Int × Int)} {r : Option Nat}

/-- **part D, `NoRem`** -/
theorem lc_norem (B : LcBase env s n op pr eres) (E : LE env s n op pr eres m s2) {ch : Bool} {r0 : Int}
    (R : BindH.StepRelB n .unit ch r (unstamp n r0 (V s2)) (V s')) (sf : SF s2 s') : NoRem s' := by
  have A := B.pd.aux
  obtain ⟨pn, hpn⟩ := E.pop
  obtain ⟨x0, er0, hN, -, -, -, -, -, -, hnlt, hnk⟩ := B.facts
  have hvars : s'.vars = s.vars := (show s'.vars = s2.vars from R.vars).trans (lf_key E.lf).1
  have hkind : ∀ x, x < s.nodes.size → (s'.nodeD x).kind = (s.nodeD x).kind := fun x hx => (lc_old_final E R sf hx).1
  have hval : ∀ x, x < s.nodes.size → x ≠ n → (s'.nodeD x).value = (s.nodeD x).value :=
    fun x hx hxn => ((lc_old_final E R sf hx).2.2.2 hxn).1
  intro op' pr' h
  rw [sf.perkeys] at h
  by_cases hop : op' = op
  · subst hop
    rw [hpn] at h; cases h
    obtain ⟨c1, c2, c3, c4⟩ := B.conv_ne hN
    obtain ⟨x, c, vc, mv, h1, h2, h3, h4, h5, h6, h7, h8⟩ := (B.norem op' pr B.hop).input
    have hx : x = x0 := by
      have := hN.conv
      rw [h1] at this
      injection this with e1 e2
      injection e2 with e2
    subst hx
    obtain ⟨m1, e1, g1, g2, g3, g4⟩ := h8 _ E.conv
    injection e1 with e1
    subst e1
    refine ⟨x, c, vc, mv, by rw [hkind _ c2]; exact h1, by rw [hkind _ c4]; exact h2, by rw [hvars]; exact h3, h4, h5,
      g2, fun w hw => ?_, fun w hw => ?_⟩
    · rw [hval x c4 c3] at hw
      obtain ⟨m2, rfl, k1, k2, -⟩ := h7 w hw
      exact ⟨m2, rfl, k1, k2, g4 m2 hw⟩
    · have hw' : (s'.nodeD (pr.result - 1)).value = some w := hw
      rw [hval _ c2 c1, E.conv] at hw'
      cases hw'
      refine ⟨m, rfl, g1, g2, keysSub_refl m, fun m2 hm2 => ?_⟩
      rw [hval x c4 c3] at hm2
      exact g4 m2 hm2
  · rw [E.pother op' hop] at h
    obtain ⟨x, e, er, hN', -⟩ := (A.pk.ops op' pr' h).nodes
    exact (B.norem op' pr' h).bf_run hN' rfl rfl hvars hkind ⟨_, _, hnk, Nat.le_add_right _ _⟩ hval

/-- **part D, `PStep`** -/
theorem lc_pstep (B : LcBase env s n op pr eres) (E : LE env s n op pr eres m s2) {ch : Bool}
    (R : BindH.StepRelB n .unit ch r (unstamp n (s.nodeD n).recomputedAt (V s2)) (V s')) (fr' : Fr s')
    (sf : SF s2 s') : PStep s s' := by
  have shv := lc_shv R
  refine ⟨(frameB_of_stepP B.pd.inv (lc_stepP B E).1).trans R.frame, ?_, ?_, fun x hx => ?_, fun x hx => ?_⟩
  · rw [sf.size]; exact lf_grow E.lf
  · exact (eKey_of_dfx sf.df R.vars R.stabNum R.qsize (fr'.pc.trans E.frag.pc.symm) E.handlers).trans
      (E.lf.key.trans (eKey_started n s))
  · rw [dnKey_of_dfx sf.df shv x]
    obtain ⟨k1, k2, k3, -, k5, -, k7, k8, k9, -⟩ := lf_old E.lf hx
    simp only [dnKey, k1, k2, k3, k5, k7, k8, k9]
  · rw [(shape_actualV shv x).2.2.2.2.2.1]
    by_cases hx2 : x < s2.nodes.size
    · exact (lf_new E.lf hx hx2).observers
    · rw [nodeD_default_of_ge s2 x (Nat.le_of_not_lt hx2)]; rfl

/-- **the final statement**: the run of `maybeChangeValue` that ends a run of a per-key change detector -/
theorem lc_final (B : LcBase env s n op pr eres) (E : LE env s n op pr eres m s2)
    (h : (maybeChangeValue env fuel n .unit).run.run s2 = (.ok r, s')) :
    PD env s' r ∧ NoRem s' ∧ PStep s s' ∧ ((V s').nodeD n).recomputedAt = s.stabNum := by
  obtain ⟨ch, R, ht, fr', sf, l', htw⟩ := lc_static B E h
  have I'' := BindH.stepB_inv (lc_inv' B E) ht R
  have A' := lc_aux B E R fr' sf (lc_slots B E htw) (lc_pkok B E R sf)
  exact ⟨⟨I'', A'⟩, lc_norem B E R sf, lc_pstep B E R fr' sf, R.recomputedAt.trans (lf_key E.lf).2.2.1⟩

end

end IncrVerif.Proofs.PerKeyH
