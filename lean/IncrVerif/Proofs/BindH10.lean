import IncrVerif.Proofs.BindH9
/-!
# Binds, BS2: `maybe_change_value` on a necessary node of a graph with binds (`mcv_stepB`, the counterpart of
`Sched.mcv_static`), producing `StepRelB`
-/
namespace IncrVerif.Proofs.BindH
open IncrVerif.Engine IncrVerif.Proofs IncrVerif.Proofs.Step IncrVerif.Proofs.Sched
namespace BS

/-- assembling `StepRelB` from a state `X` of the `Upd` family and notification work after it -/
theorem stepRelB_of_quiet {env : Env} {n : Nat} {v : Val} {ch : Bool} {r : Option Nat} {s X s' : State}
    (g : BGraph env s) (hU : Upd n s X) (hb : X.binds = s.binds) (q : Quiet X s')
    (hv : (X.nodeD n).value = some v) (hr : (X.nodeD n).recomputedAt = s.stabNum)
    (hc : (X.nodeD n).changedAt = if ch = true then s.stabNum else (s.nodeD n).changedAt)
    (unch : ch = false → (s.nodeD n).value = some v ∧ r = none)
    (heap : HeapInv s') (hqs : s'.rch.queues.size = X.rch.queues.size)
    (newIn : ∀ m, (s'.nodeD m).inRch = true →
      (X.nodeD m).inRch = true ∨ (ch = true ∧ m ∈ (s.nodeD n).parents.map (·.1)))
    (parentsIn : ch = true → ∀ p, p ∈ (s.nodeD n).parents.map (·.1) →
      (s'.nodeD p).inRch = true ∨ r = some p)
    (ret : ∀ p, r = some p → ch = true ∧ p ∈ (s.nodeD n).parents.map (·.1) ∧
      (s'.nodeD p).inRch = false ∧
      ∃ minH, CanOK X n p minH ∧ ∀ m, (s'.nodeD m).inRch = true → minH ≤ (X.nodeD m).height) :
    StepRelB n v ch r s s' where
  size := q.size.trans hU.size
  vars := q.vars.trans hU.vars
  binds := q.binds.trans hb
  stabNum := q.stabNum.trans hU.stabNum
  pc := q.pc hU.pc
  qsize := by rw [hqs, hU.rch]
  other m hm := by have := q.node m; rw [hU.other m hm] at this; exact this
  shape := hU.shape.trans (SameShape.of_nodeSame (q.node n))
  value := (q.node n).value.trans hv
  recomputedAt := (q.node n).recomputedAt.trans hr
  changedAt := (q.node n).changedAt.trans hc
  unch := unch
  heap := heap
  newIn m hm := by
    rcases newIn m hm with h | h
    · left; rw [← hU.inRch m]; exact h
    · exact Or.inr h
  parentsIn := parentsIn
  ret p hp := by
    obtain ⟨h1, h2, h3, minH, hcan, hle⟩ := ret p hp
    refine ⟨h1, h2, h3, ?_⟩
    have hcan' : CanOK s n p minH :=
      CanOK.congr (fun m => ((hU.shapeAll m).kind).symm) (fun m => ((hU.shapeAll m).createdIn).symm)
        (fun m => ((hU.shapeAll m).height).symm) hb.symm hcan
    refine handOK_of_can g h2 hcan' fun m hm => ?_
    have := hle m hm
    rw [(hU.shapeAll m).height] at this
    exact this

/-- the common part: `maybe_change_value n v` run in a state `S0` that is `s` with `n`'s `recomputedAt` stamped
(and log/counters moved) -/
theorem mcv_stepB {env : Env} {fuel n : Nat} {v : Val} {s S0 s' : State} {r : Option Nat}
    (g : BGraph env s) (hi : HeapInv s) (hn : s.isNecessary n = true)
    (hU : Upd n s S0) (hb : S0.binds = s.binds) (hval : (S0.nodeD n).value = (s.nodeD n).value)
    (hrec : (S0.nodeD n).recomputedAt = s.stabNum)
    (hch : (S0.nodeD n).changedAt = (s.nodeD n).changedAt)
    (h : (maybeChangeValue env fuel n v).run.run S0 = (.ok r, s')) :
    ∃ ch, StepRelB n v ch r s s' := by
  have hlt := nec_lt_size hn
  obtain ⟨_, hcut, _⟩ := g.node n hlt (g.nec n hn).1
  have hlt0 : n < S0.nodes.size := by rw [hU.size]; exact hlt
  have hn0 := some_of_lt hlt0
  have hcut0 : (S0.nodeD n).cutoff = .eq ∨ (S0.nodeD n).cutoff = .never := by
    rw [hU.shape.cutoff]; exact hcut
  -- the state with the new value stored
  generalize hW : setValue n (some v) (logged (mcvLog env S0 n v) S0) = W
  have hUW : Upd n s W := by rw [← hW]; exact (hU.logged _).setValue _
  have hbW : W.binds = s.binds := by rw [← hW]; exact hb
  have eW : W.nodeD n = { S0.nodeD n with value := some v } := by
    rw [← hW, setValue_nodeD, if_pos ⟨rfl, hlt0⟩]; rfl
  rcases mcvChanges_static env S0 n v hcut0 with hd | ⟨hd, hold⟩
  · -- propagate
    rw [mcv_run' env fuel n v S0 _ hn0 hU.pc, hd] at h
    dsimp only at h
    rw [hW] at h
    have hltW : n < W.nodes.size := by rw [hUW.size]; exact hlt
    have q : Quiet (touched n W) s' := mcvm_true_quiet _ _ _ _ _ _ _ _ h
    have hUT : Upd n s (touched n W) := hUW.touched
    have hbT : (touched n W).binds = s.binds := hbW
    have eT : (touched n W).nodeD n = { W.nodeD n with changedAt := W.stabNum } := by
      rw [touched_nodeD, if_pos ⟨rfl, hltW⟩]
    have hparT : ((touched n W).nodeD n).parents = (s.nodeD n).parents := hUT.shape.parents
    have hpar : ∀ p, p ∈ ((touched n W).nodeD n).parents.map (·.1) →
        ParentOK env (touched n W) p := by
      intro p hp
      rw [hparT] at hp
      obtain ⟨⟨p', ci⟩, hmem, rfl⟩ := List.mem_map.1 hp
      have hpn := (g.parent n p' ci hmem).1
      have h1 := nec_lt_size hpn
      have h2 := (g.nec p' hpn).1
      have h3 := (g.node p' h1 h2).1
      have sh := hUT.shapeAll p'
      exact ⟨by rw [hUT.size]; exact h1, by rw [sh.valid]; exact h2, by rw [sh.kind]; exact h3,
        by rw [hUT.nec]; exact hpn⟩
    obtain ⟨k, hret⟩ := mcvm_heapB (hUT.heap hi) hpar h
    have hpin := mcvm_parents env fuel n _ W s' r _ (some_of_lt hltW) h
    have hparW : (W.nodeD n).parents = (s.nodeD n).parents := hUW.shape.parents
    refine ⟨true, stepRelB_of_quiet g hUT hbT q ?_ ?_ ?_ (fun hc => by cases hc) k.heap k.qsize ?_ ?_ ?_⟩
    · rw [eT, eW]
    · rw [eT, eW]; exact hrec
    · rw [eT, if_pos rfl]; exact hUW.stabNum
    · intro m hm
      rcases k.only m hm with h1 | h1
      · exact Or.inl h1
      · rw [hparT] at h1; exact Or.inr ⟨rfl, h1⟩
    · intro _ p hp
      rw [← hparW] at hp
      rcases hpin p hp with h1 | h1
      · exact Or.inl h1.2
      · exact Or.inr h1.2.1
    · intro p hp
      obtain ⟨h1, h2, h3⟩ := hret p hp
      rw [hparT] at h1
      exact ⟨rfl, h1, h2, h3⟩
  · -- suppress
    rw [mcv_suppress env fuel n v S0 _ hn0 hU.pc hd, hW] at h
    cases h
    refine ⟨false, stepRelB_of_quiet g hUW hbW (Quiet.refl _) ?_ ?_ ?_ (fun _ => ⟨?_, rfl⟩)
      (hUW.heap hi) rfl (fun m hm => Or.inl hm) (fun hc => by cases hc) (fun p hp => by cases hp)⟩
    · rw [eW]
    · rw [eW]; exact hrec
    · rw [eW, if_neg (by simp)]; exact hch
    · rw [← hval]; exact hold

end BS
end IncrVerif.Proofs.BindH
