import IncrVerif.Proofs.BindH92
/-!
# Binds, part 4 (B4), `stabilise`, part 2: the two ends of the drain

* `drain_start`: after the prefix of `stabilise` (status set, `addNewObservers`, `unlinkDisallowedObservers`) the drain invariant `DInv env t none` and
  the auxiliary invariant `F1Inv env t` hold (as `Quiet.drainInv_of` for the static fragment);
* `after_drain`: cells, observer bookkeeping and `obsTop` at the end of the drain, from `DKey`/`NKey`;
* `qinv1_end`: `stabiliseEnd` re-establishes the invariant between actions.
-/
namespace IncrVerif.Proofs.BindH
open IncrVerif.Engine IncrVerif.Driver IncrVerif.Proofs IncrVerif.Proofs.Step IncrVerif.Proofs.Sched IncrVerif.Proofs.Quiet

namespace C2s

/-- what the prefix of `stabilise` keeps of the state `s` it was called in -/
structure PreF (s t : State) : Prop where
  size : t.nodes.size = s.nodes.size
  kind : ∀ m, (t.nodeD m).kind = (s.nodeD m).kind
  createdIn : ∀ m, (t.nodeD m).createdIn = (s.nodeD m).createdIn
  cutoff : ∀ m, (t.nodeD m).cutoff = (s.nodeD m).cutoff
  value : ∀ m, (t.nodeD m).value = (s.nodeD m).value
  valid : ∀ m, (t.nodeD m).valid = (s.nodeD m).valid
  recomputedAt : ∀ m, (t.nodeD m).recomputedAt = (s.nodeD m).recomputedAt
  changedAt : ∀ m, (t.nodeD m).changedAt = (s.nodeD m).changedAt
  marks : ∀ m, (t.nodeD m).heightInAhh = (s.nodeD m).heightInAhh
  vars : t.vars = s.vars
  stabNum : t.stabNum = s.stabNum
  top : t.top = s.top
  ahh : t.ahh = s.ahh
  binds : t.binds = s.binds
  setDuringStab : t.setDuringStab = s.setDuringStab
  deadVars : t.deadVars = s.deadVars
  alive : t.alive = s.alive

theorem PreF.of {s s0 t : State} (e : s0 = { s with status := .stabilising }) (P : PFrame s0 t)
    (hM : ∀ m, (t.nodeD m).heightInAhh = (s0.nodeD m).heightInAhh) : PreF s t := by
  have hnd : ∀ m, s0.nodeD m = s.nodeD m := fun m => by rw [e]; rfl
  have nk := P.nk
  have sk := P.sk
  refine ⟨by rw [P.size, e], fun m => ?_, fun m => ?_, fun m => ?_, fun m => ?_, fun m => ?_, fun m => ?_, fun m => ?_,
    fun m => ?_, by rw [sk.1, e], by rw [sk.2.1, e], by rw [P.top, e], by rw [sk.2.2.2.2.2.2.2.2.2.2.2.1, e],
    by rw [sk.2.2.2.2.2.2.2.2.2.2.2.2.1, e], by rw [P.setDuringStab, e], by rw [P.deadVars, e], by rw [P.alive, e]⟩
  · rw [(nk m).1, hnd]
  · rw [(nk m).2.1, hnd]
  · rw [(nk m).2.2.1, hnd]
  · rw [(nk m).2.2.2.1, hnd]
  · rw [(nk m).2.2.2.2.1, hnd]
  · rw [(nk m).2.2.2.2.2.1, hnd]
  · rw [(nk m).2.2.2.2.2.2.1, hnd]
  · rw [hM, hnd]

theorem PreF.keyEq {s t : State} (F : PreF s t) : BL.KeyEq s t :=
  ⟨F.size, F.binds, F.vars, F.valid, F.kind, F.cutoff, F.createdIn, F.recomputedAt, F.changedAt⟩

/-- cells after the prefix -/
theorem PreF.varsOK {s t : State} (F : PreF s t) (V : VarsOK s) : VarsOK t where
  node n c hn hk := by
    rw [F.size] at hn
    rw [F.kind] at hk
    rw [F.vars]; exact V.node n c hn hk
  cell c vc hc := by
    rw [F.vars] at hc
    rw [F.size, F.kind]; exact V.cell c vc hc

/-- **The state in which `drainHeap` starts** satisfies the drain invariant and the auxiliary invariant. -/
theorem drain_start {env : Env} {s t : State} (Q : QInv1 env s) (F : PreF s t) (S : SInv1 env t [] []) :
    DInv env t none ∧ F1Inv env t := by
  have I : GInv1 env t allClosed noEx [] := S.struct
  have E := F.keyEq
  have A0 := Q.struct.frag
  have V := F.varsOK Q.vars
  have hst : ∀ m, (t.nodeD m).recomputedAt < t.stabNum ∧ (t.nodeD m).changedAt < t.stabNum := by
    intro m
    rw [F.recomputedAt, F.changedAt, F.stabNum]; exact Q.stamps m
  constructor
  · refine
      { graph := bgraph_of_ginv1 I S.noForce (fun n c hn hk => ?_)
        heap := heapInv_of_ginv1 I
        stamps := ⟨by rw [F.stabNum]; exact Q.now, fun m => ⟨Int.le_of_lt (hst m).1, Int.le_of_lt (hst m).2⟩,
          fun c vc hc => by rw [F.vars] at hc; rw [F.stabNum]; exact Q.varStamp c vc hc⟩
        qstale := I.qstale
        pending := fun m hn hs => Or.inl (I.queued m rfl hn hs (fun h => h))
        cons := fun m hm hv hs => ?_
        fresh := fun a _ _ _ => (hst a).1
        cur := fun _ h => by cases h }
    · obtain ⟨vc, h, -⟩ := V.node n c hn hk
      exact ⟨vc, h⟩
    · rw [F.size] at hm
      rw [F.valid] at hv
      rw [E.isStale1 A0] at hs
      obtain ⟨v, hT, hval⟩ := Q.cons m hm hv hs
      exact ⟨v, TargetB.congr hv (A0.node m hm).kind (F.kind m) F.vars F.binds (fun c _ => F.value c) hT,
        by rw [F.value]; exact hval⟩
  · have A := Q.f1
    refine
      { frag := I.frag
        nodup := I.nodup
        ahh := ⟨by rw [F.ahh]; exact A.ahh.length, ?_, fun m => (F.marks m).trans (A.ahh.marks m)⟩
        pinv := S.pinv
        noForce := S.noForce
        noHandlers := S.handlers
        inv := fun m hv => by
          obtain ⟨h1, h2, -, h4, -⟩ := I.inv m hv
          exact ⟨h1, h2, h4⟩
        scopeObs := I.scopeObs
        lcObs := I.lcObs
        lcCut := fun m b h => by rw [F.cutoff]; exact A.lcCut m b (by rw [← F.kind]; exact h)
        topOK := fun k r h => ?_
        closures := fun b br v h => (templOK_congr F.top _ _).2 (A.closures b br v (by rw [← F.binds]; exact h))
        rhsNone := fun b br h => A.rhsNone b br (by rw [← F.binds]; exact h)
        rhsOK := fun b br o h ho => ?_ }
    · intro i hi
      have hi' : i < s.ahh.queues.size := by rw [← F.ahh]; exact hi
      have := A.ahh.buckets i hi'
      simp only [F.ahh]; exact this
    · obtain ⟨h1, h2, h3⟩ := A.topOK k r (by rw [← F.top]; exact h)
      exact ⟨by rw [F.size]; exact h1, by rw [F.createdIn]; exact h2, fun b' => by rw [F.kind]; exact h3 b'⟩
    · rw [F.createdIn, F.kind, F.valid]
      exact A.rhsOK b br o (by rw [← F.binds]; exact h) ho

/-! ## the end of the drain -/

/-- cells, observer bookkeeping and the nodes watched, at the end of the drain -/
theorem after_drain {env : Env} {t t3 : State} (A3 : F1Inv env t3) (K : DKey t t3) (N : NKey t t3)
    (hvars : t3.vars = t.vars) (V : VarsOK t) (O : ObsInv t [] [])
    (hT : ∀ (o : Nat) (ob : ObsRec), t.observers[o]? = some ob →
      (t.nodeD ob.node).createdIn = .top ∧ ∀ b, (t.nodeD ob.node).kind ≠ .bindLhsChange b) :
    VarsOK t3 ∧ ObsInv t3 [] [] ∧
    ∀ (o : Nat) (ob : ObsRec), t3.observers[o]? = some ob →
      (t3.nodeD ob.node).createdIn = .top ∧ ∀ b, (t3.nodeD ob.node).kind ≠ .bindLhsChange b := by
  refine ⟨⟨?_, ?_⟩, ⟨?_, ?_, ?_, ?_, ?_, ?_, List.nodup_nil⟩, ?_⟩
  · intro n c hn hk
    rw [hvars]
    by_cases hlt : n < t.nodes.size
    · rw [(N.old n hlt).1] at hk
      exact V.node n c hlt hk
    · obtain ⟨b, hb⟩ := N.new n (by omega) hn
      exact absurd hk (((A3.frag.node n hn).inScope b hb).2.1 c)
  · intro c vc hc
    rw [hvars] at hc
    obtain ⟨h1, h2⟩ := V.cell c vc hc
    exact ⟨Nat.lt_of_lt_of_le h1 N.grow, by rw [(N.old _ h1).1]; exact h2⟩
  · intro o ob ho
    rw [K.observers] at ho
    obtain ⟨h1, h2⟩ := O.inRange o ob ho
    exact ⟨Nat.lt_of_lt_of_le h1 N.grow, h2⟩
  · intro n o
    rw [K.observers]
    by_cases hlt : n < t.nodes.size
    · rw [(N.old n hlt).2.2]; exact O.mem n o
    · have hr : ¬ ∃ ob, t.observers[o]? = some ob ∧ ob.node = n ∧ (ob.state = .inUse ∨ ob.state = .disallowed) := by
        rintro ⟨ob, h1, h2, -⟩
        have := (O.inRange o ob h1).1
        omega
      have hl : (t3.nodeD n).observers = [] := by
        by_cases hn : n < t3.nodes.size
        · obtain ⟨b, hb⟩ := N.new n (by omega) hn
          exact A3.scopeObs n b hb
        · rw [nodeD_default t3 n (by omega)]; rfl
      rw [hl]
      exact ⟨fun h => (by cases h), fun h => absurd h hr⟩
  · intro o ob ho hc; rw [K.observers] at ho; exact O.created o ob ho hc
  · intro o ho; cases ho
  · intro o ob ho; rw [K.observers] at ho; exact O.dis o ob ho
  · intro o ho; cases ho
  · intro o ob ho
    rw [K.observers] at ho
    have hlt := (O.inRange o ob ho).1
    rw [(N.old _ hlt).1, (N.old _ hlt).2.1]
    exact hT o ob ho

/-- **`stabiliseEnd` re-establishes the invariant between actions.** -/
theorem qinv1_end {env : Env} {t3 s' : State} (I3 : DInv env t3 none) (A3 : F1Inv env t3) (E : Finished' t3 s')
    (hb : s'.binds = t3.binds) (V : VarsOK t3) (O : ObsInv t3 [] []) (hno : t3.newObservers = [])
    (hdo : t3.disallowedObservers = [])
    (hT : ∀ (o : Nat) (ob : ObsRec), t3.observers[o]? = some ob →
      (t3.nodeD ob.node).createdIn = .top ∧ ∀ b, (t3.nodeD ob.node).kind ≠ .bindLhsChange b)
    (halive : t3.alive = true) :
    QInv1 env s' ∧ SameB t3 s' ∧ ∀ m, (s'.nodeD m).value = (t3.nodeD m).value := by
  have hE : ∀ m, NodeG (t3.nodeD m) (s'.nodeD m) ∧ (s'.nodeD m).value = (t3.nodeD m).value ∧
      (s'.nodeD m).numOnUpdateHandlers = (t3.nodeD m).numOnUpdateHandlers ∧
      (s'.nodeD m).heightInAhh = (t3.nodeD m).heightInAhh := by
    intro m
    obtain ⟨b, hb⟩ := E.node m
    rw [hb]
    exact ⟨⟨rfl, rfl, rfl, rfl, rfl, rfl, rfl, rfl, rfl, rfl, rfl⟩, rfl, rfl, rfl⟩
  have G : SameB t3 s' := ⟨⟨E.pc, E.scope, E.size, E.rch, E.vars, fun m => (hE m).1⟩, hb⟩
  have K := BL.KeyEq.of_same G
  have S3 : Struct1 env t3 := struct1_of_dinv I3 A3
  have S' : GInv1 env s' allClosed noEx [] := CU.congr S3 G
  have hsh : ∀ m, SameShape (t3.nodeD m) (s'.nodeD m) := fun m =>
    ⟨(hE m).1.kind, (hE m).1.createdIn, (hE m).1.valid, (hE m).1.cutoff, (hE m).1.height, (hE m).1.parents,
      (hE m).1.observers, (hE m).1.forceNecessary⟩
  have A' : F1Inv env s' := CF.F1Inv.transfer A3 E.size hsh (fun m => (hE m).2.2.1)
    (fun m h => Or.inl (by rw [← G.g.inRch m]; exact h)) (fun m => (hE m).2.2.2) hb E.top E.ahh E.pinv E.scope
    (by rw [E.pc]; exact A3.frag.pc)
  have hno' : s'.newObservers = [] := by rw [E.newObservers]; exact hno
  have hdo' : s'.disallowedObservers = [] := by rw [E.disallowedObservers]; exact hdo
  have O' : ObsOK s' := by
    unfold ObsOK
    rw [hno', hdo']
    refine ⟨?_, ?_, ?_, ?_, ?_, ?_, List.nodup_nil⟩
    · intro o ob ho; rw [E.observers] at ho; rw [E.size]; exact O.inRange o ob ho
    · intro n o; rw [(hE n).1.observers, E.observers]; exact O.mem n o
    · intro o ob ho hc; rw [E.observers] at ho; exact O.created o ob ho hc
    · intro o ho; cases ho
    · intro o ob ho; rw [E.observers] at ho; exact O.dis o ob ho
    · intro o ho; cases ho
  refine ⟨?_, G, fun m => (hE m).2.1⟩
  refine
    { struct := S'
      f1 := A'
      vars := ?_
      obs := O'
      obsTop := fun o ob ho => by
        rw [E.observers] at ho
        rw [(hE _).1.createdIn, (hE _).1.kind]; exact hT o ob ho
      now := by rw [E.stabNum]; have := I3.stamps.now; omega
      stamps := fun m => by
        rw [(hE m).1.recomputedAt, (hE m).1.changedAt, E.stabNum]
        have := I3.stamps.node m; omega
      varStamp := fun c vc hc => by
        rw [E.vars] at hc; rw [E.stabNum]; have := I3.stamps.var c vc hc; omega
      cons := fun m hm hv hs => ?_
      status := E.status
      alive := by rw [E.alive]; exact halive
      setDuringStab := E.setDuringStab
      deadVars := E.deadVars
      handleAfterStab := E.handleAfterStab }
  · refine ⟨fun n c hn hk => ?_, fun c vc hc => ?_⟩
    · rw [E.size] at hn; rw [(hE n).1.kind] at hk; rw [E.vars]; exact V.node n c hn hk
    · rw [E.vars] at hc; rw [E.size, (hE _).1.kind]; exact V.cell c vc hc
  · rw [E.size] at hm
    rw [(hE m).1.valid] at hv
    rw [K.isStale1 A3.frag] at hs
    obtain ⟨v, hT', hval⟩ := I3.cons m hm hv hs
    exact ⟨v, TargetB.congr hv (A3.frag.node m hm).kind (hE m).1.kind E.vars hb (fun c _ => (hE c).2.1) hT',
      by rw [(hE m).2.1]; exact hval⟩

end C2s

end IncrVerif.Proofs.BindH
