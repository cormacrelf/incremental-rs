import IncrVerif.Proofs.Quiet7
import IncrVerif.Proofs.Quiet5
import IncrVerif.Proofs.CutH14
/-!
# Part 7: the unlinking cascade keeps the structural invariant
-/
namespace IncrVerif.Proofs.Quiet
open IncrVerif.Engine IncrVerif.Proofs IncrVerif.Proofs.Step IncrVerif.Proofs.Sched

theorem PresF.unlink (fuel : Nat) :
    (∀ n, Step.Pres CFrame (becameUnnecessary fuel n)) ∧
    (∀ n, Step.Pres CFrame (checkIfUnnecessary fuel n)) ∧
    (∀ n, Step.Pres CFrame (removeChildren fuel n)) :=
  ⟨fun n => (Footprint.Foot.becameUnnecessary fuel n).frame (CFrame.of_edit (by decide)),
   fun n => (Footprint.Foot.checkIfUnnecessary fuel n).frame (CFrame.of_edit (by decide)),
   fun n => (Footprint.Foot.removeChildren fuel n).frame (CFrame.of_edit (by decide))⟩

theorem PresF.checkIfUnnecessary (fuel n) : Step.Pres CFrame (checkIfUnnecessary fuel n) :=
  (PresF.unlink fuel).2.1 n

/-- parent lists shrink -/
structure URel (s s' : State) : Prop where
  fr : CFrame s s'
  pinv : s'.propagateInvalidity = s.propagateInvalidity
  par : ∀ m x, x ∈ (s'.nodeD m).parents → x ∈ (s.nodeD m).parents

theorem URel.ofC {s s' : State} (h : CutH.URel s s') : URel s s' := ⟨.ofC h.fr, h.pinv, h.par⟩

theorem URel.refl (s : State) : URel s s := ⟨CFrame.refl s, rfl, fun _ _ h => h⟩
theorem URel.trans {a b c : State} (h1 : URel a b) (h2 : URel b c) : URel a c :=
  ⟨h1.fr.trans h2.fr, h2.pinv.trans h1.pinv, fun m x h => h1.par m x (h2.par m x h)⟩

theorem URel.of_lrel {s s' : State} (h : ∀ X, LRel X s s')
    (hp : ∀ m, (s'.nodeD m).parents = (s.nodeD m).parents) : URel s s' :=
  ⟨(h (fun _ => False)).fr, (h (fun _ => False)).pinv, fun m x hx => by rw [hp] at hx; exact hx⟩

theorem Irrel.urel {n : Nat} {s s' : State} (h : Irrel n s s') : URel s s' :=
  URel.of_lrel h.rel (fun m => (h.same.node m).parents)

def BUSpec (fuel : Nat) : Prop :=
  ∀ env n s s' op, (becameUnnecessary fuel n).run.run s = (.ok (), s') → GInv env s op →
    op n = .unlinking 0 → (∀ m, op m ≠ .closed → n ≤ m) →
    GInv env s' (upd op n .closed) ∧ Above n s s' ∧ URel s s'

def CUSpec (fuel : Nat) : Prop :=
  ∀ env c s s' op, (checkIfUnnecessary fuel c).run.run s = (.ok (), s') → GInv env s op →
    (∀ m, op m ≠ .closed → c ≤ m) →
    ((s.isNecessary c = true ∧ op c = .closed) ∨ (s.isNecessary c = false ∧ op c = .unlinking 0)) →
    GInv env s' (upd op c .closed) ∧ Above c s s' ∧ URel s s'

def RCSpec (fuel : Nat) : Prop :=
  ∀ env n s s' op, (removeChildren fuel n).run.run s = (.ok (), s') → GInv env s op →
    op n = .unlinking 0 → (∀ m, op m ≠ .closed → n ≤ m) →
    GInv env s' (upd op n (.unlinking (kids (s.nodeD n).kind).length)) ∧
      (∀ m, n ≤ m → s'.nodeD m = s.nodeD m) ∧ URel s s'

theorem unlink_spec (fuel : Nat) : BUSpec fuel ∧ CUSpec fuel ∧ RCSpec fuel :=
  have L := CutH.unlink_corr fuel
  ⟨fun env n s s' op h I hop hlow =>
      have J := (L.1 env n s (cop op) I.toC (cop_unlinking.2 hop) fun m hm => hlow m (cop_ne_closed.1 hm)).ok h
      have R : URel s s' := .ofC J.2.2.1
      ⟨.ofC' J.1 (I.eqCut.frame R.fr), J.2.1, R⟩,
    fun env c s s' op h I hlow hcase =>
      have J := (L.2.1 env c s (cop op) I.toC (fun m hm => hlow m (cop_ne_closed.1 hm))
        (hcase.imp (fun h => ⟨h.1, cop_closed.2 h.2⟩) fun h => ⟨h.1, cop_unlinking.2 h.2⟩)).ok h
      have R : URel s s' := .ofC J.2.2.1
      ⟨.ofC' J.1 (I.eqCut.frame R.fr), J.2.1, R⟩,
    fun env n s s' op h I hop hlow =>
      have J := (L.2.2 env n s (cop op) I.toC (cop_unlinking.2 hop) fun m hm => hlow m (cop_ne_closed.1 hm)).ok h
      have R : URel s s' := .ofC J.2.2.1
      ⟨.ofC' J.1 (I.eqCut.frame R.fr), J.2.1, R⟩⟩

/-- **The unlinking cascade.** A successful `checkIfUnnecessary c` on a closed node that is still necessary,
or on a node that has just become unnecessary (labelled `.unlinking 0`: all its child edges are still
recorded), which is the lowest open node, closes `c`: the structural invariant holds with `c` closed, nodes
above `c` are untouched, parent lists only shrank. -/
theorem checkIfUnnecessary_spec {env : Env} {fuel c : Nat} {s s' : State} {op : Nat → Op}
    (h : (checkIfUnnecessary fuel c).run.run s = (.ok (), s')) (I : GInv env s op)
    (hlow : ∀ m, op m ≠ .closed → c ≤ m)
    (hcase : (s.isNecessary c = true ∧ op c = .closed) ∨ (s.isNecessary c = false ∧ op c = .unlinking 0)) :
    GInv env s' (upd op c .closed) ∧ Above c s s' ∧ URel s s' :=
  (unlink_spec fuel).2.1 env c s s' op h I hlow hcase

end IncrVerif.Proofs.Quiet
