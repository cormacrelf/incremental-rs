import IncrVerif.Proofs.GateF1
import IncrVerif.Proofs.OnceF2
/-!
# C06, combined fragment, part 2: ONLY STALE NODES RUN — the drain

`PathF.stale`: every node a drain of the combined fragment (`FullH.PathF`) hands to `recomputeOne` is STALE (the model's `State.isStale`, in the ACTUAL state) at
that moment: what every pop and every handover establishes of the current node (`Drain.Path.cur_end`).
* a node popped from the recompute heap was queued, hence stale (`BindH.DInv.qstale` of the virtual state, `virt_isStale`), and the pop changes `heightInRch` only;
* a node handed over for direct recomputation by the run of `n` is a recorded parent of `n`, and `n` has just been stamped `changedAt = stabNum`
  (`GateF.recomputeOne_handover`, syntactic); recorded parents are child edges (`BGraph.parent`), the handed-over node has not run in this round
  (`DInv.cur_facts`), so one of its children changed after it last ran.
-/
namespace IncrVerif.Proofs.GateF
open IncrVerif.Engine IncrVerif.Driver IncrVerif.Proofs IncrVerif.Proofs.Step IncrVerif.Proofs.Sched IncrVerif.Proofs.Quiet
open IncrVerif.Proofs.FullH IncrVerif.Proofs.TidyH
open IncrVerif.Proofs.BindH (DInv FrameB)

/-- `isStale` reads kinds, validity, the two stamps, the variables, the bind and the expert records -/
theorem isStale_congr' {s s' : State}
    (hn : ∀ m, (s'.nodeD m).kind = (s.nodeD m).kind ∧ (s'.nodeD m).valid = (s.nodeD m).valid ∧
      (s'.nodeD m).recomputedAt = (s.nodeD m).recomputedAt ∧ (s'.nodeD m).changedAt = (s.nodeD m).changedAt)
    (hx : s'.experts = s.experts) (hv : s'.vars = s.vars) (hb : s'.binds = s.binds) (m : Nat) :
    s'.isStale m = s.isStale m :=
  isStale_congr_fields hn hx hv m (by unfold State.children Node.kind?; rw [(hn m).1, (hn m).2.1, hx, hb])

section
variable {env : Env} {sp : Nat → Val → Val}

/-- a node taken out of the recompute heap is stale -/
theorem pop_stale {t s s1 : State} {g : Nat → Option Val} {n : Nat} (D : DInvF env sp t s g none)
    (h : rchRemoveMin.run.run s = (.ok (some n), s1)) : s1.isStale n = true := by
  have hi := heapInv_of_virt D.inv.heap
  have hinv := rchRemoveMin_inv hi h
  simp only at hinv
  obtain ⟨hq, -, -, hs1, -⟩ := hinv
  have hst : s.isStale n = true := by
    rw [← virt_isStale (g := g)]
    apply D.inv.qstale
    rw [virt_nodeD, virtNode_inRch]
    exact hq
  have hnd : ∀ m, s1.nodeD m =
      if n = m ∧ m < s.nodes.size then { s.nodeD m with heightInRch := -1 } else s.nodeD m := by
    intro m; rw [hs1]; exact nodeD_modify _ n m _
  rw [← hst]
  refine isStale_congr' (fun m => ?_) (by rw [hs1]) (by rw [hs1]) (by rw [hs1]) n
  rw [hnd]
  split <;> exact ⟨rfl, rfl, rfl, rfl⟩

/-- the node handed over for direct recomputation is stale: its child `n` has just changed, and it has not run in this round -/
theorem handover_stale {t s1 : State} {g1 : Nat → Option Val} {n p : Nat} (D1 : DInvF env sp t s1 g1 (some p))
    (hc : (s1.nodeD n).changedAt = s1.stabNum) (hp : p ∈ (s1.nodeD n).parents.map (·.1)) : s1.isStale p = true := by
  obtain ⟨⟨p', i⟩, hmem, rfl⟩ := List.mem_map.1 hp
  have hpar : (p', i) ∈ ((virt g1 s1).nodeD n).parents := by
    rw [virt_nodeD, virtNode_parents]; exact hmem
  obtain ⟨-, hch⟩ := D1.inv.graph.parent n p' i hpar
  rw [virt_children] at hch
  have hcm : n ∈ s1.children p' := List.mem_of_getElem? hch
  obtain ⟨-, -, c3, -, c5⟩ := D1.inv.cur_facts
  rw [virt_nodeD, virtNode_valid] at c3
  rw [virt_nodeD, virtNode_recomputedAt] at c5
  have e3 : (virt g1 s1).stabNum = s1.stabNum := rfl
  rw [e3] at c5
  exact isStale_of_child c3 hcm (by rw [hc]; exact c5)

/-- **ONLY STALE NODES RUN, the drain of the combined fragment**: every node handed to `recomputeOne` is stale in the state in which it is handed over -/
theorem PathF.stale {t : State} {l : List (Nat × State)} {a c : (Nat → Option Val) × State} {z : Option Nat}
    (h : PathF env sp t l a none c z) {p : Nat × State} (hp : p ∈ l) : p.2.isStale p.1 = true := by
  obtain ⟨_, _, u, _, _, -, k1, eu, -, -⟩ := h.of_mem hp
  rw [← show u.2 = p.2 from eu]
  refine k1.cur_end (Q := fun n u => u.2.isStale n = true) (fun n a b q => pop_stale q.inv q.run) (fun n q a b s => ?_)
    (fun n e => nomatch e) p.1 rfl
  obtain ⟨fuel, hr⟩ := s.run
  obtain ⟨hc, hq⟩ := recomputeOne_handover env fuel n _ q _ hr
  exact handover_stale s.inv' hc hq

end
end IncrVerif.Proofs.GateF
