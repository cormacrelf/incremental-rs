import IncrVerif.Proofs.Sched10
import IncrVerif.Proofs.Computes
/-!
# Safety of the drain: the walk through `maybe_change_value_manual`, and the theorems
-/
namespace IncrVerif.Proofs.Sched
open IncrVerif.Engine IncrVerif.Proofs IncrVerif.Proofs.Step

/-- `maybe_handle_after_stabilisation n` on an existing node cannot fail -/
theorem mhas_ok {n : Nat} {s : State} (hn : n < s.nodes.size) :
    ∃ s', (maybeHandleAfterStabilisation n).run.run s = (.ok (), s') := by
  have hnn := some_of_lt hn
  unfold maybeHandleAfterStabilisation handleAfterStabilisation
  simp only [run_bind, run_getNode, hnn, run_ite, run_pure, run_modNode, run_modify]
  split
  · split
    · exact ⟨_, rfl⟩
    · exact ⟨_, rfl⟩
  · exact ⟨_, rfl⟩

/-- the notification part of a propagating `maybe_change_value_manual`: the only panic is running out
of fuel in `child_changed`, with `fuel = 0` -/
theorem mcvm_safe {env : Env} {fuel n : Nat} {o : Option Val} {T0 s' : State} {e : Panic}
    (hn : n < T0.nodes.size)
    (hi : HeapInv (touched n T0))
    (hpar : ∀ p, p ∈ ((touched n T0).nodeD n).parents.map (·.1) → ParentSafe env (touched n T0) n p)
    (h : (maybeChangeValueManual env fuel n o true true).run.run T0 = (.error e, s')) :
    e = .outOfFuel ∧ fuel = 0 := by
  have hnT : n < (touched n T0).nodes.size := by simpa [touched] using hn
  generalize hT : touched n T0 = T at hi hpar hnT
  generalize hP : (T.nodeD n).parents.map (·.1) = P at hpar
  unfold maybeChangeValueManual at h
  simp only [Bool.not_true, Bool.false_eq_true, if_false, if_true, run_bind_get, run_bind_modNode,
    run_bind_bumpCounter] at h
  change StateT.run (ExceptT.run _) (touched n T0) = _ at h
  rw [hT] at h
  refine Runs.err (P := fun e => e = .outOfFuel ∧ fuel = 0) (Q := fun _ _ => True) ?_ h
  -- handler bookkeeping
  obtain ⟨s1, h1⟩ := mhas_ok hnT
  have k1 : KInv T P s1 := (KInv.refl P hi).mhas h1
  refine Runs.bind (Runs.of_ok (Q := fun _ t => KInv T P t) h1 k1) ?_
  clear h1 k1 s1
  intro _ s0 k1
  have hn1 : n < s0.nodes.size := by rw [k1.q.size]; exact hnT
  refine Runs.bind (Runs.getNode (Q := fun nd t => t = s0 ∧ nd = s0.nodeD n) (some_of_lt hn1) ⟨rfl, rfl⟩) ?_
  rintro nd1 s1 ⟨rfl, rfl⟩
  rw [(k1.q.node n).parents]
  rcases hps : (T.nodeD n).parents with _ | ⟨⟨p0, ci0⟩, rest⟩
  · exact Runs.pure trivial
  rw [hps] at hP
  dsimp only
  have hmem0 : p0 ∈ P := by rw [← hP]; simp
  have hmemr : ∀ a, a ∈ rest → a.1 ∈ P := by
    intro a ha; rw [← hP]; exact List.mem_cons_of_mem _ (List.mem_map_of_mem ha)
  -- the loop over the other parents
  refine Runs.bind (Runs.forIn (KInv T P) _ rest ?_ s1 k1) ?_
  · intro a ha t k
    obtain ⟨p, ci⟩ := a
    have hpS := hpar p (hmemr _ ha)
    have hpt := hpS.ok.quiet k.q
    have hpn := some_of_lt hpt.lt
    refine Runs.bind (childChanged_runs hpn hpt.valid hpt.kind) ?_
    rintro _ t' rfl
    refine Runs.bind_get (Runs.bind_dassert (hpS.needs k.q) (Runs.bind_getNode hpn ?_))
    split
    · rename_i hin
      obtain ⟨hrun, k'⟩ := k.insert_run hpS (hmemr _ ha) hpn (by simpa using hin)
      exact Runs.bind_ok hrun (Runs.pure k')
    · exact Runs.pure k
  -- the first parent
  intro _ s2 k2
  have hp0S := hpar p0 hmem0
  have hp0 := hp0S.ok.quiet k2.q
  have hpn0 := some_of_lt hp0.lt
  refine Runs.bind (childChanged_runs hpn0 hp0.valid hp0.kind) ?_
  rintro _ t' rfl
  refine Runs.bind_get (Runs.bind_dassert (hp0S.needs k2.q) (Runs.bind_getNode hpn0 ?_))
  split
  · rename_i hin
    obtain ⟨b, t2, hrun, -⟩ := k2.picrn_run hp0S hmem0 hnT hpn0 (by simpa using hin)
    refine Runs.bind_ok hrun ?_
    split <;> exact Runs.pure trivial
  · exact Runs.pure trivial

/-! ## `maybe_change_value` and `recompute_one` -/

/-- `maybe_change_value n v` run in a state `S0` of the `Upd` family of `s` -/
theorem mcv_safe {env : Env} {fuel n : Nat} {v : Val} {s S0 s' : State} {e : Panic}
    (g : Graph env s) (hi : HeapInv s) (S : Safe s) (hn : s.isNecessary n = true)
    (hfresh : ∀ p, p ∈ (s.nodeD n).parents.map (·.1) → (s.nodeD p).recomputedAt < s.stabNum)
    (hU : Upd n s S0)
    (h : (maybeChangeValue env fuel n v).run.run S0 = (.error e, s')) :
    e = .outOfFuel ∧ fuel = 0 := by
  obtain ⟨hlt, _, _, hcut, _⟩ := g.nec n hn
  have hlt0 : n < S0.nodes.size := by rw [hU.size]; exact hlt
  have hn0 := some_of_lt hlt0
  have hcut0 : (S0.nodeD n).cutoff = .eq ∨ (S0.nodeD n).cutoff = .never := by
    rw [hU.shape.cutoff]; exact hcut
  generalize hW : setValue n (some v) (logged (mcvLog env S0 n v) S0) = W
  have hUW : Upd n s W := by rw [← hW]; exact (hU.logged _).setValue _
  rcases mcvChanges_static env S0 n v hcut0 with hd | ⟨hd, -⟩
  · rw [mcv_run' env fuel n v S0 _ hn0 hU.pc, hd] at h
    dsimp only at h
    rw [hW] at h
    have hltW : n < W.nodes.size := by rw [hUW.size]; exact hlt
    have hUT : Upd n s (touched n W) := hUW.touched
    have eT : (touched n W).nodeD n = { W.nodeD n with changedAt := W.stabNum } := by
      rw [touched_nodeD, if_pos ⟨rfl, hltW⟩]
    have hparT : ((touched n W).nodeD n).parents = (s.nodeD n).parents := hUT.shape.parents
    refine mcvm_safe hltW (hUT.heap hi) ?_ h
    intro p hp
    rw [hparT] at hp
    obtain ⟨hpn, hkid, -, -, hne⟩ := g.parent_facts hp
    obtain ⟨h1, h2, h3, _, h5⟩ := g.nec p hpn
    have ep : (touched n W).nodeD p = s.nodeD p := hUT.other p hne
    refine ⟨⟨by rw [hUT.size]; exact h1, by rw [ep]; exact h2, by rw [ep]; exact h3,
      by rw [hUT.nec]; exact hpn⟩, by rw [ep]; exact hkid, ?_, by rw [ep]; exact h5, ?_, ?_⟩
    · rw [ep, eT]
      show _ < W.stabNum
      rw [hUW.stabNum]; exact hfresh p hp
    · rw [ep, hUT.rch]; exact S.height p hpn
    · rw [ep]; exact S.scope p hpn
  · rw [mcv_suppress env fuel n v S0 _ hn0 hU.pc hd] at h
    cases h

/-- a `recomputeOne` on a necessary node of a static graph whose children all have values and whose
parents have not been recomputed in this round cannot fail an assertion -/
theorem recomputeOne_safe_static {env : Env} {fuel n : Nat} {s s' : State} {e : Panic}
    (g : Graph env s) (hi : HeapInv s) (S : Safe s) (hn : s.isNecessary n = true)
    (hfresh : ∀ p, p ∈ (s.nodeD n).parents.map (·.1) → (s.nodeD p).recomputedAt < s.stabNum)
    (hvals : ∃ vals, plainVals s (kids (s.nodeD n).kind) = some vals)
    (h : (recomputeOne env fuel n).run.run s = (.error e, s')) : e = .outOfFuel ∧ fuel = 0 := by
  obtain ⟨hlt, hv, hk, _, _⟩ := g.nec n hn
  obtain ⟨vals, hvals⟩ := hvals
  have hvo := g.valuesOf hn
  rw [hvals] at hvo
  obtain ⟨v, evs, hc⟩ := computes_static n hk (fun c hkd => g.var n c hn hkd) hvo
  rw [recomputeOne_run_of_computes (some_of_lt hlt) hv g.pc hc hk] at h
  exact mcv_safe g hi S hn hfresh ((Upd.started n s g.pc).logged evs) h

/-- a `recomputeOne` on the current node of the invariant cannot fail an assertion; it can only run
out of fuel, and only with `fuel = 0` -/
theorem recomputeOne_safe {env : Env} {fuel n : Nat} {s s' : State} {e : Panic}
    (I : Inv env s (some n)) (S : Safe s)
    (h : (recomputeOne env fuel n).run.run s = (.error e, s')) : e = .outOfFuel ∧ fuel = 0 := by
  refine recomputeOne_safe_static I.graph I.heap S (I.cur n rfl).1 ?_ I.kids_values h
  intro p hp
  exact I.fresh n (Or.inr rfl) p (I.graph.parent_facts hp).2.2.1

/-- a successful `recomputeOne` keeps `Safe` -/
theorem recomputeOne_keeps_safe {env : Env} {fuel n : Nat} {s s' : State} {r : Option Nat}
    (I : Inv env s (some n)) (S : Safe s)
    (h : (recomputeOne env fuel n).run.run s = (.ok r, s')) : Safe s' :=
  S.frame (recomputeOne_inv I h).2.1

/-! ## `remove_min` -/

/-- `remove_min` under the heap invariant returns -/
theorem rchRemoveMin_ok {s : State} (h : HeapInv s) :
    ∃ r s1, rchRemoveMin.run.run s = (.ok r, s1) := by
  simp only [rchRemoveMin, run_bind, run_get, run_ite, run_pure, run_dassert]
  by_cases he : s.rch.length = 0
  · rw [if_pos (by simpa using he)]
    exact ⟨_, _, rfl⟩
  rw [if_neg (by simpa using he)]
  have hlb := h.lb0
  rw [if_neg (by rintro ⟨-, h⟩; simp at h; omega)]
  dsimp only
  obtain ⟨m0, hm0⟩ := h.exists_queued he
  obtain ⟨-, x, xs, hq⟩ := h.firstNonEmpty_le hm0
  rw [hq]
  simp only [run_bind, run_modify, run_modNode, run_pure]
  exact ⟨_, _, rfl⟩

/-- `remove_min` under the heap invariant cannot fail, and keeps `Safe` -/
theorem rchRemoveMin_safe {env : Env} {s : State} (I : DrainInv env s) (S : Safe s) :
    ∃ r s1, rchRemoveMin.run.run s = (.ok r, s1) ∧ Safe s1 := by
  obtain ⟨r, s1, hr⟩ := rchRemoveMin_ok I.heap
  refine ⟨r, s1, hr, ?_⟩
  cases r with
  | none => obtain ⟨rfl, -⟩ := rchRemoveMin_inv I.heap hr; exact S
  | some n => exact S.frame (pop_inv I hr).2

/-! ## the chain and the loop -/

theorem recompute_safe {env : Env} : ∀ (fuel n : Nat) (s s' : State) (e : Panic), Inv env s (some n) →
    Safe s → (recompute env fuel n).run.run s = (.error e, s') → e = .outOfFuel := by
  intro fuel
  induction fuel with
  | zero => intro n s s' e _ _ h; unfold recompute at h; cases h; rfl
  | succ fuel ih =>
    intro n s s' e I S h
    unfold recompute at h
    rcases bind_err_inv h with h1 | ⟨r, s1, h1, h2⟩
    · exact (recomputeOne_safe I S h1).1
    · have I1 := (recomputeOne_inv I h1).1
      have S1 := recomputeOne_keeps_safe I S h1
      cases r with
      | none => rw [run_pure] at h2; cases h2
      | some p => exact ih p s1 s' e I1 S1 h2

/-- **no assertion fails during a drain**: a `drainHeap` from a state with the drain invariant and
`Safe` either returns or runs out of fuel -/
theorem drainHeap_safe {env : Env} : ∀ (fuel : Nat) (s s' : State) (e : Panic), DrainInv env s →
    Safe s → (drainHeap env fuel).run.run s = (.error e, s') → e = .outOfFuel := by
  intro fuel
  induction fuel with
  | zero => intro s s' e _ _ h; unfold drainHeap at h; cases h; rfl
  | succ fuel ih =>
    intro s s' e I S h
    unfold drainHeap at h
    obtain ⟨r0, t0, hr0, S0⟩ := rchRemoveMin_safe I S
    rcases bind_err_inv h with h1 | ⟨r, s1, h1, h2⟩
    · rw [hr0] at h1; cases h1
    cases r with
    | none => rw [run_pure] at h2; cases h2
    | some n =>
      obtain ⟨I1, f1⟩ := pop_inv I h1
      have S1 := S.frame f1
      rcases bind_err_inv h2 with h3 | ⟨u, s2, h3, h4⟩
      · exact recompute_safe fuel n s1 s' e I1 S1 h3
      · obtain ⟨I2, f2⟩ := recompute_inv fuel n s1 s2 I1 h3
        exact ih s2 s' e I2 (S1.frame f2) h4

end IncrVerif.Proofs.Sched
