import IncrVerif.Proofs.DriverH1
import IncrVerif.Proofs.DriverH3
/-!
# `RmSpec`, part 4: frames and bookkeeping helpers

* `XG`: the frame "node kinds, the number of records, `f`/`node`/`pk` of every record, `nextDep`"; `XFrag.of_xg`.
* whole-run frames of `expertRemoveDependency`: `CFrame`, `AhF`, `HasF`, `XG`.
* `EF.of_frames`.
* `rekind_putExpert` (`DriverH14`): replacing the record of one expert node is a `Rekind` of the virtual state.
-/
namespace IncrVerif.Proofs.DriverH
open IncrVerif.Engine IncrVerif.Driver IncrVerif.Proofs IncrVerif.Proofs.Step IncrVerif.Proofs.Sched
open IncrVerif.Proofs.ExpertH IncrVerif.Proofs.ExpertH.QR IncrVerif.Proofs.Xp IncrVerif.Proofs.Footprint

/-! ## the frame `XG` -/

def xG (er : ExpertRec) := (er.f, er.node, er.pk)

structure XG (s s' : State) : Prop where
  size : s'.nodes.size = s.nodes.size
  kind : ∀ m, (s'.nodeD m).kind = (s.nodeD m).kind
  xsize : s'.experts.size = s.experts.size
  xg : ∀ e : Nat, (s'.experts[e]?).map xG = (s.experts[e]?).map xG
  nextDep : s'.nextDep = s.nextDep

theorem XG.refl (s : State) : XG s s := ⟨rfl, fun _ => rfl, rfl, fun _ => rfl, rfl⟩
theorem XG.trans {a b c : State} (h1 : XG a b) (h2 : XG b c) : XG a c :=
  ⟨h2.size.trans h1.size, fun m => (h2.kind m).trans (h1.kind m), h2.xsize.trans h1.xsize,
    fun e => (h2.xg e).trans (h1.xg e), h2.nextDep.trans h1.nextDep⟩
instance : Step.PreOrd XG := ⟨XG.refl, XG.trans⟩

/-- the writes that do not keep `XG` -/
def XG.breaks : List Tag := [.pushNode, .pushExpert, .xNode, .nextDep]

theorem XG.of_edit {L w} (hL : ∀ t ∈ L, t ∉ XG.breaks) {s s' : State} (e : Edit L w s s') : XG s s' := by
  have hn : Tag.pushNode ∉ L := fun h => hL _ h (by decide)
  have hx := e.expert_keeps xG (fun h => hL _ h (by decide)) fun f hf x => by
    cases hf <;> first | rfl | exact absurd (hL _ ‹_›) (by decide)
  exact ⟨e.size_eq hn, e.kind_all hn, hx.1, hx.2, e.nextDep_eq fun h => hL _ h (by decide)⟩

theorem XG.xrec {s s' : State} (h : XG s s') {e : Nat} {er : ExpertRec} (he : s.experts[e]? = some er) :
    ∃ er', s'.experts[e]? = some er' ∧ er'.f = er.f ∧ er'.node = er.node ∧ er'.pk = er.pk := by
  have := h.xg e
  rw [he] at this
  cases h' : s'.experts[e]? with
  | none => rw [h'] at this; cases this
  | some er' =>
    rw [h'] at this
    simp only [Option.map_some, Option.some.injEq, xG, Prod.mk.injEq] at this
    exact ⟨er', rfl, this⟩

theorem XG.xrec_back {s s' : State} (h : XG s s') {e : Nat} {er' : ExpertRec} (he : s'.experts[e]? = some er') :
    ∃ er, s.experts[e]? = some er ∧ er'.f = er.f ∧ er'.node = er.node ∧ er'.pk = er.pk := by
  have := h.xg e
  rw [he] at this
  cases h' : s.experts[e]? with
  | none => rw [h'] at this; cases this
  | some er =>
    rw [h'] at this
    simp only [Option.map_some, Option.some.injEq, xG, Prod.mk.injEq] at this
    exact ⟨er, rfl, this⟩

/-- the fragment along the frame `XG` -/
theorem XFrag.of_xg {env : Env} {s s' : State} (F : XFrag env s) (h : XG s s') (fr : Fr s') : XFrag env s' := by
  refine ⟨fr.pc, fun m _ => ?_, fun m _ => fr.valid m, fun m e hm hk => ?_, fun e er' he' => ?_⟩
  · rw [h.kind]; exact F.kindD m
  · rw [h.kind] at hk; rw [h.size] at hm
    obtain ⟨er, he, hnode⟩ := F.xrec m e hm hk
    obtain ⟨er', he', -, hn', -⟩ := h.xrec he
    exact ⟨er', he', by rw [hn', hnode]⟩
  · obtain ⟨er, he, hf, -, hpk⟩ := h.xrec_back he'
    obtain ⟨h1, -, h3, h4⟩ := F.xok e er he
    exact ⟨by rw [hpk, h1], fr.ni e er' he', by rw [hf]; exact h3, by rw [hf]; exact h4⟩

/-! ## whole-run frames of `expertRemoveDependency` -/

theorem PresF.assertRunningIsChild (n name) : Step.Pres CFrame (Engine.assertRunningIsChild n name) :=
  (Foot.assertRunningIsChild n name).frame (CFrame.of_edit (by decide))
theorem PresF.expertRemoveDependency (fuel n dep) : Step.Pres CFrame (Engine.expertRemoveDependency fuel n dep) :=
  (Foot.expertRemoveDependency fuel n dep).frame (CFrame.of_edit (by decide))

/-! ### `AhF` -/
theorem PresAh.assertRunningIsChild (n name) : Step.Pres AhF (Engine.assertRunningIsChild n name) :=
  (Foot.assertRunningIsChild n name).frame (AhF.of_edit (by decide))
theorem PresAh.expertRemoveDependency (fuel n dep) : Step.Pres AhF (Engine.expertRemoveDependency fuel n dep) :=
  (Foot.expertRemoveDependency fuel n dep).frame (AhF.of_edit (by decide))

/-! ### `HasF` -/
theorem PresH.assertRunningIsChild (n name) : Step.Pres HasF (Engine.assertRunningIsChild n name) :=
  (Foot.assertRunningIsChild n name).frame (HasF.of_edit (by decide))
theorem PresH.expertRemoveDependency (fuel n dep) : Step.Pres HasF (Engine.expertRemoveDependency fuel n dep) :=
  (Foot.expertRemoveDependency fuel n dep).frame (HasF.of_edit (by decide))

/-! ### `XF`, `XG` -/
theorem PresX.assertRunningIsChild (n name) : Step.Pres XF (Engine.assertRunningIsChild n name) :=
  (Foot.assertRunningIsChild n name).frame (XF.of_edit (by decide))

theorem PresG.expertRemoveDependency (fuel n dep) : Step.Pres XG (Engine.expertRemoveDependency fuel n dep) :=
  (Foot.expertRemoveDependency fuel n dep).frame (XG.of_edit (by decide))

end IncrVerif.Proofs.DriverH
