import IncrVerif.Proofs.DriverH4
import IncrVerif.Proofs.Drain
import IncrVerif.Proofs.BindH13
import IncrVerif.Proofs.ExpertH40
/-!
# Drivers: the drain (`DrainSpec` from `StepSpec` and `PopSpec`); no node runs twice

The two inductions on fuel follow `BindH12` (`recompute_invB`, `drainHeap_invB`); "no node runs twice" follows
`BindH13` (`drain_onceB`), with the stamps read in the VIRTUAL states.
-/
namespace IncrVerif.Proofs.DriverH
open IncrVerif.Engine IncrVerif.Driver IncrVerif.Proofs IncrVerif.Proofs.Step IncrVerif.Proofs.Sched
open IncrVerif.Proofs.ExpertH IncrVerif.Proofs.ExpertH.QR IncrVerif.Proofs.EffH

/-! ## stamps in the virtual states -/

/-- what is said about each node of a trace from `s` to `s'`, on the stamps of the virtual states: it had not run in
this round before, and it is stamped afterwards -/
def RanV (s s' : State) (m : Nat) : Prop :=
  ((virt s).nodeD m).recomputedAt < s.stabNum ∧ ((virt s').nodeD m).recomputedAt = s.stabNum

theorem DStep.stabNum {s s' : State} (f : DStep s s') : s'.stabNum = s.stabNum := f.frameB.stabNum

/-- the stamp of the round of `s0`, in the virtual state: the mark of `Drain.Once` -/
def ranV (s0 t : State) (m : Nat) : Prop := ((virt t).nodeD m).recomputedAt = s0.stabNum

/-- a node stamped in this round keeps the stamp -/
theorem DStep.ranV {s0 s s' : State} (f : DStep s s') (f0 : DStep s0 s) (m : Nat) (h : ranV s0 s m) : ranV s0 s' m := by
  unfold DriverH.ranV at h ⊢
  rw [← f0.stabNum] at h ⊢
  exact (f.frameB.ran m h).1

/-- before the current node runs it is not stamped (in the virtual state) -/
theorem DD.cur_not_yet {env : Env} {s : State} {n : Nat} (D : DD env s (some n)) :
    ((virt s).nodeD n).recomputedAt < s.stabNum :=
  D.inv.fresh n n (BindH.Below.refl n) (Or.inr rfl)

theorem RanV.of_once {l : List (Nat × State)} {s s' : State} (st : Stamps (virt s))
    (O : Drain.Once (ranV s) l s s') : (l.map (·.1)).Nodup ∧ ∀ m, m ∈ l.map (·.1) → RanV s s' m := by
  refine ⟨O.nodup, fun m hm => ?_⟩
  obtain ⟨h0, h1⟩ := O.mem m hm
  have : _ ≤ s.stabNum := (st.node m).1
  exact ⟨by unfold DriverH.ranV at h0; omega, h1⟩

/-! ## the chain and the drain -/

section
variable {env : Env} (hStep : StepSpec env) (s0 : State)
include hStep

theorem StepSpec.one (fuel n : Nat) (t : State) (r : Option Nat) (t' : State) (i : DD env t (some n) ∧ DStep s0 t)
    (h : (recomputeOne env fuel n).run.run t = (.ok r, t')) :
    (DD env t' r ∧ DStep s0 t') ∧ Drain.Once (ranV s0) [(n, t)] t t' := by
  obtain ⟨D1, f1, hn1⟩ := hStep fuel n t t' r i.1 h
  refine ⟨⟨D1, i.2.trans f1⟩, .one (f1.ranV i.2) ?_ ?_⟩
  · have := i.1.cur_not_yet
    unfold ranV
    rw [← i.2.stabNum]
    omega
  · unfold ranV
    rw [← i.2.stabNum]
    exact hn1

end

theorem PopSpec.one {env : Env} (hPop : PopSpec env) (s0 t : State) (n : Nat) (t' : State) (i : DD env t none ∧ DStep s0 t)
    (h : rchRemoveMin.run.run t = (.ok (some n), t')) :
    (DD env t' (some n) ∧ DStep s0 t') ∧ Drain.Once (ranV s0) [] t t' :=
  have ⟨D1, f1⟩ := hPop t t' n i.1 h
  ⟨⟨D1, i.2.trans f1⟩, .nil (f1.ranV i.2)⟩

theorem drainHeap_runD {env : Env} (hStep : StepSpec env) (hPop : PopSpec env) (fuel : Nat) (s s' : State)
    (D : DD env s none) (h : (drainHeap env fuel).run.run s = (.ok (), s')) :
    DD env s' none ∧ s'.rch.length = 0 ∧ DStep s s' ∧ Drain.Once (ranV s) (TidyH.drainSteps env fuel s) s s' := by
  obtain ⟨s1, ⟨D1, f1⟩, O, h1, -⟩ := Drain.drainHeap_run (I := fun x t => DD env t x ∧ DStep s t) Drain.Once.append (hStep.one s)
    (hPop.one s) (fun _ _ => .nil fun _ hm => hm) fuel s s' ⟨D, DStep.refl s⟩ h
  obtain ⟨rfl, he⟩ := rchRemoveMin_inv (heapInv_of_virt D1.inv.heap) h1
  exact ⟨D1, he, f1, O⟩

/-- **At most once.** The nodes run by a successful `drainHeap` from a state with the drain invariant with drivers
are pairwise distinct; each had (virtual) `recomputedAt < stabNum` before the drain and has `recomputedAt = stabNum`
after it. -/
theorem drain_onceD {env : Env} (hStep : StepSpec env) (hPop : PopSpec env) (fuel : Nat) (s s' : State) (D : DD env s none)
    (h : (drainHeap env fuel).run.run s = (.ok (), s')) :
    (drainTrace env fuel s).Nodup ∧ ∀ m, m ∈ drainTrace env fuel s → RanV s s' m := by
  rw [← TidyH.drainSteps_fst]
  exact RanV.of_once D.inv.stamps (drainHeap_runD hStep hPop fuel s s' D h).2.2.2

/-- every node of the trace of the drain had not run in this round before the drain and is stamped after it
(stamps of the virtual states) -/
theorem drain_once (env : Env) (hStep : StepSpec env) (hPop : PopSpec env) :
    ∀ (fuel : Nat) (s s' : State), DD env s none → (drainHeap env fuel).run.run s = (.ok (), s') →
    ∀ m, m ∈ drainTrace env fuel s → RanV s s' m :=
  fun fuel s s' D h => (drain_onceD hStep hPop fuel s s' D h).2

/-- **the drain** -/
theorem drainSpec (env : Env) (hStep : StepSpec env) (hPop : PopSpec env) : DrainSpec env := by
  intro fuel s s' D h
  obtain ⟨D', he, f, -⟩ := drainHeap_runD hStep hPop fuel s s' D h
  exact ⟨D', he, f, (drain_onceD hStep hPop fuel s s' D h).1⟩

end IncrVerif.Proofs.DriverH
