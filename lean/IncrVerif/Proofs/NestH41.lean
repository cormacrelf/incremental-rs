import IncrVerif.Proofs.NestH19
import IncrVerif.Proofs.BindH78
/-!
# Nested binds (F2), NF1: the auxiliary invariant `F2Inv env rk` is kept (with the SAME rank) by a run of a static-kind / `bindMain` node and by `remove_min`

The counterpart of `BindH78` for `F2Inv` in place of `F1Inv`.  Here a `bindMain` node may be a node of a scope, but the right-hand side of a LIVE bind is valid
(`BGraph.node`, from `N2.kidsValid`), so the run is still described by `recomputeOne_stepB` (the `invalidateNode` branch is unreachable); the state after
the run has the same shapes, `binds` and `top`, which is all that `F2Inv` reads.  `CF.recomputeOne_num`, `BF.recomputeOne_keyD_B`, `BF.recomputeOne_hah`
are reused as they are.
-/
namespace IncrVerif.Proofs.NestH
open IncrVerif.Engine IncrVerif.Proofs IncrVerif.Proofs.Step IncrVerif.Proofs.Sched IncrVerif.Proofs.Quiet
open IncrVerif.Proofs.BindH
namespace NF

/-- `All2` only reads the shape of the nodes, the node count, `binds`, `currentScope`, `panicCountdown` (and the ghost rank) -/
theorem all2_transfer {env : Env} {rk : Nat → Nat} {s s' : State} {dy : List Nat} (A : All2 env rk s dy)
    (hsz : s'.nodes.size = s.nodes.size)
    (hsh : ∀ m, SameShape (s.nodeD m) (s'.nodeD m))
    (hb : s'.binds = s.binds) (hsc : s'.currentScope = .top) (hpc : s'.panicCountdown = none) :
    All2 env rk s' dy :=
  A.congr hsz hb (fun m => (hsh m).kind) (fun m => (hsh m).valid) (fun m => (hsh m).cutoff) (fun m => (hsh m).createdIn) hpc hsc

/-- `BodyOK2` only reads `top` (and the rank) -/
theorem bodyOK2_congr {env : Env} {rk : Nat → Nat} {s s' : State} (htop : s'.top = s.top) {lc f body : Nat}
    (h : BodyOK2 env rk s lc f body) : BodyOK2 env rk s' lc f body :=
  BodyOK2.mono htop (fun _ hr _ => hr) f body h

/-- `F2Inv` only reads: the shape of the nodes, the `heightInAhh` and `numOnUpdateHandlers` markers, `inRch` of INVALID nodes,
the number of nodes, `binds`, `top`, `ahh`, `propagateInvalidity`, `currentScope`, `panicCountdown` -/
theorem F2Inv.transfer {env : Env} {rk : Nat → Nat} {s s' : State} (A : F2Inv env rk s)
    (hsz : s'.nodes.size = s.nodes.size)
    (hsh : ∀ m, SameShape (s.nodeD m) (s'.nodeD m))
    (hnum : ∀ m, (s'.nodeD m).numOnUpdateHandlers = (s.nodeD m).numOnUpdateHandlers)
    (hin : ∀ m, (s'.nodeD m).inRch = true → (s.nodeD m).inRch = true ∨ (s.nodeD m).valid = true)
    (hah : BF.HAh s s')
    (hb : s'.binds = s.binds) (htop : s'.top = s.top) (hahh : s'.ahh = s.ahh)
    (hpinv : s'.propagateInvalidity = s.propagateInvalidity) (hsc : s'.currentScope = s.currentScope)
    (hpc : s'.panicCountdown = none) : F2Inv env rk s' := by
  refine
    { frag := all2_transfer A.frag hsz hsh hb (hsc.trans A.frag.scope) hpc
      nodup := fun c => by rw [(hsh c).parents]; exact A.nodup c
      ahh := ⟨by rw [hahh]; exact A.ahh.length, ?_, fun m => (hah m).trans (A.ahh.marks m)⟩
      pinv := hpinv.trans A.pinv
      noForce := fun m => by rw [(hsh m).forceNecessary]; exact A.noForce m
      noHandlers := fun m => by rw [hnum]; exact A.noHandlers m
      inv := fun m hv => ?_
      scopeObs := fun m b h => by
        rw [(hsh m).observers]; exact A.scopeObs m b (by rw [← (hsh m).createdIn]; exact h)
      lcObs := fun m b h => by rw [(hsh m).observers]; exact A.lcObs m b (by rw [← (hsh m).kind]; exact h)
      lcCut := fun m b h => by rw [(hsh m).cutoff]; exact A.lcCut m b (by rw [← (hsh m).kind]; exact h)
      topOK := fun k r h => ?_
      closures := fun b br h => by
        obtain ⟨f, hf⟩ := A.closures b br (by rw [← hb]; exact h)
        exact ⟨f, bodyOK2_congr htop hf⟩
      lhsOK := fun b br h hv b' => by
        rw [(hsh br.lhs).kind]
        exact A.lhsOK b br (by rw [← hb]; exact h) (by rw [← (hsh br.lhsChange).valid]; exact hv) b'
      rhsNone := fun b br h => A.rhsNone b br (by rw [← hb]; exact h)
      deadNone := fun b br h hv =>
        A.deadNone b br (by rw [← hb]; exact h) (by rw [← (hsh br.main).valid]; exact hv)
      rhsOK := fun b br o h ho hv => ?_ }
  · -- the buckets of the adjust-heights heap
    intro i hi
    have hi' : i < s.ahh.queues.size := by rw [← hahh]; exact hi
    have := A.ahh.buckets i hi'
    simp only [hahh]; exact this
  · -- invalid nodes
    have hv0 : (s.nodeD m).valid = false := by rw [← (hsh m).valid]; exact hv
    obtain ⟨h1, h2, h3⟩ := A.inv m hv0
    refine ⟨by rw [(hsh m).parents]; exact h1, by rw [(hsh m).observers]; exact h2, ?_⟩
    cases hq : (s'.nodeD m).inRch with
    | false => rfl
    | true =>
      rcases hin m hq with h | h
      · rw [h3] at h; cases h
      · rw [hv0] at h; cases h
  · obtain ⟨h1, h2, h3⟩ := A.topOK k r (by rw [← htop]; exact h)
    exact ⟨by rw [hsz]; exact h1, by rw [(hsh r).createdIn]; exact h2, fun b' => by rw [(hsh r).kind]; exact h3 b'⟩
  · rw [(hsh o).createdIn, (hsh o).kind, (hsh o).valid]
    exact A.rhsOK b br o (by rw [← hb]; exact h) ho (by rw [← (hsh br.main).valid]; exact hv)

end NF

/-- `F2Inv` (same rank) is kept by a successful `recomputeOne` on a necessary node of a static kind or of kind `bindMain` -/
theorem recomputeOne_stepB_F2 {env : Env} {rk : Nat → Nat} {fuel n : Nat} {s s' : State} {r : Option Nat}
    (g : BGraph env s) (hi : HeapInv s) (hn : s.isNecessary n = true)
    (hk : StaticKind env (s.nodeD n).kind ∨ ∃ b lc, (s.nodeD n).kind = .bindMain b lc)
    (hvals : ∀ c, c ∈ s.children n → ∃ v, (s.nodeD c).value = some v)
    (h : (recomputeOne env fuel n).run.run s = (.ok r, s')) (A : F2Inv env rk s) : F2Inv env rk s' := by
  obtain ⟨v, ch, -, R⟩ := recomputeOne_stepB g hi hn hk hvals h
  have K := BF.recomputeOne_keyD_B g hn hk hvals h
  have H := BF.recomputeOne_hah g hn hk hvals h
  simp only [KeyD, stateKeyD, Prod.mk.injEq] at K
  obtain ⟨-, -, hsc, htop, -, -, hpinv, -, -, -, hahh⟩ := K
  refine NF.F2Inv.transfer A R.size (fun m => ?_) (CF.recomputeOne_num g hn hk hvals h) (fun m hq => ?_) H R.binds
    htop hahh hpinv hsc R.pc
  · by_cases e : m = n
    · rw [e]; exact R.shape
    · exact SameShape.of_nodeSame (R.other m e)
  · rcases R.newIn m hq with h1 | ⟨-, h2⟩
    · exact Or.inl h1
    · obtain ⟨⟨p, i⟩, hpi, rfl⟩ := List.mem_map.1 h2
      exact Or.inr (g.nec p (g.parent n p i hpi).1).1

/-- `F2Inv` (same rank) is kept by `remove_min` -/
theorem pop_F2 {env : Env} {rk : Nat → Nat} {s s1 : State} {n : Nat} (hi : HeapInv s)
    (hr : rchRemoveMin.run.run s = (.ok (some n), s1)) (A : F2Inv env rk s) : F2Inv env rk s1 := by
  have hpop := rchRemoveMin_inv hi hr
  simp only at hpop
  obtain ⟨-, -, -, hs1, -⟩ := hpop
  have hnode : ∀ m, s1.nodeD m =
      if n = m ∧ m < s.nodes.size then { s.nodeD m with heightInRch := -1 } else s.nodeD m := by
    intro m
    rw [hs1]
    exact nodeD_modify { s with rch := s1.rch } n m (fun x => { x with heightInRch := -1 })
  refine NF.F2Inv.transfer A (by rw [hs1]; simp) (fun m => ?_) (fun m => ?_) (fun m hq => Or.inl ?_) (fun m => ?_)
    (by rw [hs1]) (by rw [hs1]) (by rw [hs1]) (by rw [hs1]) (by rw [hs1]) (by rw [hs1]; exact A.frag.pc)
  · rw [hnode]; split <;> exact ⟨rfl, rfl, rfl, rfl, rfl, rfl, rfl, rfl⟩
  · rw [hnode]; split <;> rfl
  · rw [hnode] at hq
    split at hq
    · simp [Node.inRch] at hq
    · exact hq
  · rw [hnode]; split <;> rfl

end IncrVerif.Proofs.NestH
