import IncrVerif.Proofs.NestH60
import IncrVerif.Proofs.BindH100
/-!
# Nested binds (F2), part 5d2: one template — the values `denInstrs2` computes are the stored values of the necessary locals

The counterpart of BindH100 (`opnds_agree`, `step_instr`, `agree_instrs`), with two differences:
* the side condition on the top-level nodes an instruction reads is an arbitrary predicate `Pc` (F1: "older than the change detector"; F2: "rank below `R`");
* an instruction `bind body' o`: the local is the main node of an inner bind; what is known about it is a hypothesis (`hrec`) that the caller discharges with
  `GenOK2` for the inner bind and the induction hypothesis of the nesting induction (`NestH62`).
Reused from `BindH.C3d`: `Agree`, `Agree.nil`, `Agree.snoc`, `resolveAll_mem`, `allSome_resolve`.
-/
namespace IncrVerif.Proofs.NestH
open IncrVerif.Engine IncrVerif.Proofs IncrVerif.Proofs.Step IncrVerif.Proofs.Sched
open IncrVerif.Proofs.BindH

namespace N5d
open IncrVerif.Proofs.BindH.C3d

/-- one operand -/
theorem opnd_agree2 {s : State} (ev : Nat → Option Val) (Pc : Nat → Prop)
    (hev : ∀ c, s.isNecessary c = true → (s.nodeD c).createdIn = .top → Pc c → ev c = (s.nodeD c).value)
    (htop : ∀ (k r : Nat), s.top[k]? = some r → (s.nodeD r).createdIn = .top)
    {L : List Nat} {V : List (Option Val)} (hA : Agree s L V) (o : Opnd) (c : Nat)
    (hc : resolveP s L o = some c) (hn : s.isNecessary c = true) (hP : (s.nodeD c).createdIn = .top → Pc c) :
    denOpnd ev s.top V o = (s.nodeD c).value := by
  cases o with
  | outer k =>
    simp only [resolveP] at hc
    simp only [denOpnd, hc]
    exact hev c hn (htop k c hc) (hP (htop k c hc))
  | loc j =>
    simp only [resolveP] at hc
    simp only [denOpnd]
    exact hA.2 j c hc hn
  | abs _ => simp only [resolveP] at hc; cases hc
  | slot _ => simp only [resolveP] at hc; cases hc

/-- the operands of one instruction -/
theorem opnds_agree2 {s : State} (ev : Nat → Option Val) (Pc : Nat → Prop)
    (hev : ∀ c, s.isNecessary c = true → (s.nodeD c).createdIn = .top → Pc c → ev c = (s.nodeD c).value)
    (htop : ∀ (k r : Nat), s.top[k]? = some r → (s.nodeD r).createdIn = .top)
    {L : List Nat} {V : List (Option Val)} (hA : Agree s L V) (args : List Opnd) (cs : List Nat)
    (hr : resolveAll s L args = some cs)
    (hcs : ∀ c, c ∈ cs → s.isNecessary c = true ∧ ((s.nodeD c).createdIn = .top → Pc c)) :
    allSome (args.map (denOpnd ev s.top V)) = plainVals s cs := by
  apply allSome_resolve s L _ args cs hr
  intro o ho c hc
  obtain ⟨hn, hlt⟩ := hcs c (resolveAll_mem s L args cs hr o ho c hc)
  exact opnd_agree2 ev Pc hev htop hA o c hc hn hlt

/-- one instruction that is not a `bind` (as `BindH.C3d.step_instr`) -/
theorem step_static2 {env : Env} {s : State} (g : BGraph env s) (ev : Nat → Option Val) (v : Val) (Pc : Nat → Prop)
    (hall : ∀ m, s.isNecessary m = true → ConsistentB env s m)
    (hev : ∀ c, s.isNecessary c = true → (s.nodeD c).createdIn = .top → Pc c → ev c = (s.nodeD c).value)
    (htop : ∀ (k r : Nat), s.top[k]? = some r → (s.nodeD r).createdIn = .top)
    {L : List Nat} {V : List (Option Val)} (hA : Agree s L V) {i : Instr} {m : Nat}
    (hk : kindOfInstr s L v i = some (s.nodeD m).kind)
    (hm : s.isNecessary m = true)
    (hkids : ∀ c, c ∈ s.children m → (s.nodeD c).createdIn = .top → Pc c) :
    denInstr env ev s.top v V i = (s.nodeD m).value := by
  obtain ⟨w, ht, hv⟩ := hall m hm
  have hmv := (g.nec m hm).1
  have hnec : ∀ c, c ∈ s.children m → s.isNecessary c = true := by
    intro c hc
    exact (g.edge_nec hm (Edge.child hc)).1
  unfold TargetB at ht
  rw [hv]
  cases i <;> simp only [kindOfInstr] at hk <;> try (cases hk; done)
  · -- const
    rename_i w'
    injection hk with hk
    rw [← hk] at ht
    simp only [Target, ← hk] at ht
    simp only [denInstr, ht]
  · -- lhsConst
    injection hk with hk
    rw [← hk] at ht
    simp only [Target, ← hk] at ht
    simp only [denInstr, ht]
  · -- map
    rename_i f args
    cases hr : resolveAll s L args with
    | none => rw [hr] at hk; cases hk
    | some cs =>
      rw [hr] at hk
      simp only [Option.map_some] at hk
      injection hk with hk
      have hch : s.children m = cs := by unfold State.children Node.kind?; rw [hmv, ← hk]; rfl
      rw [← hk] at ht
      simp only [Target, ← hk] at ht
      obtain ⟨vals, h1, h2⟩ := ht
      simp only [denInstr]
      rw [opnds_agree2 ev Pc hev htop hA args cs hr
        (fun c hc => ⟨hnec c (by rw [hch]; exact hc), hkids c (by rw [hch]; exact hc)⟩), h1, h2]
      rfl
  · -- fold
    rename_i f init args
    cases hr : resolveAll s L args with
    | none => rw [hr] at hk; cases hk
    | some cs =>
      rw [hr] at hk
      simp only [Option.map_some] at hk
      injection hk with hk
      simp only [denInstr]
      cases cs with
      | nil =>
        simp only [List.isEmpty_nil, if_true] at hk
        rw [← hk] at ht
        simp only [Target, ← hk] at ht
        rw [opnds_agree2 ev Pc hev htop hA args [] hr (fun c hc => by cases hc), ht]
        rfl
      | cons c0 cs =>
        simp only [List.isEmpty_cons, Bool.false_eq_true, if_false] at hk
        have hch : s.children m = c0 :: cs := by unfold State.children Node.kind?; rw [hmv, ← hk]; rfl
        rw [← hk] at ht
        simp only [Target, ← hk] at ht
        obtain ⟨vals, h1, h2⟩ := ht
        rw [opnds_agree2 ev Pc hev htop hA args (c0 :: cs) hr
          (fun c hc => ⟨hnec c (by rw [hch]; exact hc), hkids c (by rw [hch]; exact hc)⟩), h1, h2]
        rfl

/-- the image of an instruction that is not a `bind` is given by its kind, as in F1 -/
theorem instrImg_not_bind {s : State} {L : List Nat} {v : Val} {i : Instr} {m : Nat} (h : ∀ b o, i ≠ .bind b o)
    (hk : InstrImg s L v i m) : kindOfInstr s L v i = some (s.nodeD m).kind := by
  cases i <;> first | exact hk | exact absurd rfl (h _ _)

/-- what the caller must know about the main node `m` of an inner bind that is a NECESSARY local: the inner lhs is necessary (and satisfies the side condition
if it is top-level), and `rec`, run on the current value of the inner lhs, yields the stored value of `m` -/
def InnerOK (s : State) (Pc : Nat → Prop) (rec : Nat → Val → Option Val) (m : Nat) : Prop :=
  ∀ (b2 : Nat) (br2 : BindRec), s.binds[b2]? = some br2 → br2.main = m →
    s.isNecessary br2.lhs = true ∧ ((s.nodeD br2.lhs).createdIn = .top → Pc br2.lhs) ∧
    ∃ v', (s.nodeD br2.lhs).value = some v' ∧ rec br2.body v' = (s.nodeD m).value

/-- one instruction: the value `denInstr2` computes is the stored value of the local the instruction created, if that local is necessary -/
theorem step_instr2 {env : Env} {s : State} (g : BGraph env s) (ev : Nat → Option Val) (rec : Nat → Val → Option Val)
    (v : Val) (Pc : Nat → Prop)
    (hall : ∀ m, s.isNecessary m = true → ConsistentB env s m)
    (hev : ∀ c, s.isNecessary c = true → (s.nodeD c).createdIn = .top → Pc c → ev c = (s.nodeD c).value)
    (htop : ∀ (k r : Nat), s.top[k]? = some r → (s.nodeD r).createdIn = .top)
    {L : List Nat} {V : List (Option Val)} (hA : Agree s L V) {i : Instr} {m : Nat}
    (hk : InstrImg s L v i m)
    (hm : s.isNecessary m = true)
    (hkids : ∀ c, c ∈ s.children m → (s.nodeD c).createdIn = .top → Pc c)
    (hrec : InnerOK s Pc rec m) :
    denInstr2 env ev s.top rec v V i = (s.nodeD m).value := by
  by_cases hb : ∃ b o, i = .bind b o
  · obtain ⟨body', o, rfl⟩ := hb
    obtain ⟨b2, br2, lc2, -, hb2, hbody, hmain, -, hres⟩ := hk
    obtain ⟨hln, hlP, v', hlv, hr⟩ := hrec b2 br2 hb2 hmain
    rw [denInstr2_bind, opnd_agree2 ev Pc hev htop hA o br2.lhs hres hln hlP, hlv, ← hr, hbody]
    rfl
  · have hb' : ∀ b o, i ≠ .bind b o := fun b o e => hb ⟨b, o, e⟩
    rw [denInstr2_not_bind _ _ _ _ _ _ _ hb']
    exact step_static2 g ev v Pc hall hev htop hA (instrImg_not_bind hb' hk) hm hkids

/-- all instructions of a template -/
theorem agree_instrs2 {env : Env} {s : State} (g : BGraph env s) (ev : Nat → Option Val) (rec : Nat → Val → Option Val)
    (v : Val) (Pc : Nat → Prop)
    (hall : ∀ m, s.isNecessary m = true → ConsistentB env s m)
    (hev : ∀ c, s.isNecessary c = true → (s.nodeD c).createdIn = .top → Pc c → ev c = (s.nodeD c).value)
    (htop : ∀ (k r : Nat), s.top[k]? = some r → (s.nodeD r).createdIn = .top) :
    ∀ (is : List Instr) (ms L : List Nat) (V : List (Option Val)), Agree s L V → is.length = ms.length →
      (∀ j i m, is[j]? = some i → ms[j]? = some m → InstrImg s (L ++ ms.take j) v i m) →
      (∀ m, m ∈ ms → s.isNecessary m = true →
        (∀ c, c ∈ s.children m → (s.nodeD c).createdIn = .top → Pc c) ∧ InnerOK s Pc rec m) →
      Agree s (L ++ ms) (denInstrs2 env ev s.top rec v is V) := by
  intro is
  induction is with
  | nil =>
    intro ms L V hA hl _ _
    cases ms with
    | nil => simpa only [List.append_nil, denInstrs2] using hA
    | cons _ _ => cases hl
  | cons i is ih =>
    intro ms L V hA hl hk hm
    cases ms with
    | nil => cases hl
    | cons m ms =>
      simp only [denInstrs2]
      have h0 := hk 0 i m rfl rfl
      simp only [List.take_zero, List.append_nil] at h0
      have hA1 : Agree s (L ++ [m]) (V ++ [denInstr2 env ev s.top rec v V i]) :=
        hA.snoc (fun hn => step_instr2 g ev rec v Pc hall hev htop hA h0 hn
          (hm m (List.mem_cons_self ..) hn).1 (hm m (List.mem_cons_self ..) hn).2)
      have := ih ms (L ++ [m]) _ hA1 (by simpa using hl)
        (fun j i' m' h1 h2 => by
          have := hk (j+1) i' m' (by simpa using h1) (by simpa using h2)
          simpa only [List.take_succ_cons, List.append_assoc, List.singleton_append] using this)
        (fun m' hm' => hm m' (List.mem_cons_of_mem _ hm'))
      simpa only [List.append_assoc, List.singleton_append] using this

/-- a local is a registered node -/
theorem mem_regOf {s : State} {locs : List Nat} {m : Nat} (h : m ∈ locs) : m ∈ regOf s locs := by
  unfold regOf
  refine List.mem_flatMap.2 ⟨m, h, ?_⟩
  split <;> simp

end N5d

end IncrVerif.Proofs.NestH
