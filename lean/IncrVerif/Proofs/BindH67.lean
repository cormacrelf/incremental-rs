import IncrVerif.Proofs.BindH61
import IncrVerif.Proofs.BindH35
/-!
# Binds, fragment F1, `lhsRelink`: the static facts `All1` after the record got its new right-hand side; what `BR.KRel` keeps
-/
namespace IncrVerif.Proofs.BindH
open IncrVerif.Engine IncrVerif.Proofs IncrVerif.Proofs.Step IncrVerif.Proofs.Sched IncrVerif.Proofs.Quiet

namespace CR

/-- what may be the new right-hand side of bind `b` with change detector `n`: an older top-level node that is not a change
detector, or a valid node of scope `b` -/
def RhsOK (s : State) (b n rhs : Nat) : Prop :=
  ((s.nodeD rhs).createdIn = .top ∧ rhs < n ∧ ∀ b', (s.nodeD rhs).kind ≠ .bindLhsChange b') ∨
    ((s.nodeD rhs).createdIn = .bind b ∧ (s.nodeD rhs).valid = true)

section
variable {env : Env} {s : State} {dy : List Nat}

/-- the facts about the new right-hand side -/
theorem RhsOK.facts (A : All1 env s dy) {b n rhs : Nat} {br : BindRec} (h : RhsOK s b n rhs)
    (hb : s.binds[b]? = some br) (hl : br.lhsChange = n) (hrs : rhs < s.nodes.size) :
    (s.nodeD rhs).valid = true ∧ (∀ b', (s.nodeD rhs).kind ≠ .bindLhsChange b') ∧ rhs ≠ n ∧ rhs ≠ br.main ∧
      rkOf s rhs < rkOf s br.main ∧
      (((s.nodeD rhs).createdIn = .top ∧ rhs < br.main) ∨ (s.nodeD rhs).createdIn = .bind b) := by
  obtain ⟨r1, r2, r3, r4, r5, r6⟩ := A.recs b br hb
  have hK : 0 < s.nodes.size + 1 := by omega
  rcases h with ⟨h1, h2, h3⟩ | ⟨h1, h2⟩
  · refine ⟨((A.node rhs hrs).top h1).1, h3, by omega, by omega, ?_, Or.inl ⟨h1, by omega⟩⟩
    rw [rkOf_top h1, rkOf_top r6]
    exact Nat.mul_lt_mul_of_pos_right (by omega) hK
  · obtain ⟨k1, -, -⟩ := (A.node rhs hrs).inScope b h1
    have hrk := A.scope_rk hrs h1 hb
    refine ⟨h2, ?_, ?_, ?_, hrk.2, Or.inr h1⟩
    · intro b' e; rw [e] at k1; exact k1
    · intro e; rw [e, ← hl, r5] at h1; cases h1
    · intro e; rw [e, r6] at h1; cases h1

end

theorem RRelB.static {b n rhs : Nat} {br : BindRec} {s s' : State} (R : RRelB b n rhs br s s') (m : Nat) :
    (s'.nodeD m).kind = (s.nodeD m).kind ∧ (s'.nodeD m).createdIn = (s.nodeD m).createdIn ∧
      (s'.nodeD m).cutoff = (s.nodeD m).cutoff ∧ (s'.nodeD m).valid = (s.nodeD m).valid := by
  have h : nodeKey (s'.nodeD m) = nodeKey (s.nodeD m) ∨
      nodeKey (s'.nodeD m) = nodeKey { s.nodeD m with changedAt := s.stabNum } := by
    by_cases e : m = n
    · rw [e]; exact Or.inr R.self
    · exact Or.inl (R.node m e)
  rcases h with h | h
  · simp only [nodeKey, Prod.mk.injEq] at h
    exact ⟨h.1, h.2.1, h.2.2.1, h.2.2.2.2.1⟩
  · simp only [nodeKey, Prod.mk.injEq] at h
    exact ⟨h.1, h.2.1, h.2.2.1, h.2.2.2.2.1⟩

/-- the static facts after the record of bind `b` got the right-hand side `rhs` -/
theorem all1_setRhs {env : Env} {s s' : State} {dy : List Nat} {b n rhs : Nat} {br : BindRec}
    (A : All1 env s dy) (hb : s.binds[b]? = some br) (hl : br.lhsChange = n)
    (hrs : rhs < s.nodes.size) (hrhs : RhsOK s b n rhs) (R : RRelB b n rhs br s s') : All1 env s' dy := by
  have hsz := R.size
  have hkind : ∀ m, (s'.nodeD m).kind = (s.nodeD m).kind := fun m => (RRelB.static R m).1
  have hcr : ∀ m, (s'.nodeD m).createdIn = (s.nodeD m).createdIn := fun m => (RRelB.static R m).2.1
  have hcut : ∀ m, (s'.nodeD m).cutoff = (s.nodeD m).cutoff := fun m => (RRelB.static R m).2.2.1
  have hvalid : ∀ m, (s'.nodeD m).valid = (s.nodeD m).valid := fun m => (RRelB.static R m).2.2.2
  have hb' := R.bind
  have hbo := R.bindsOther
  obtain ⟨r1, hms, r3, hkm, r5, r6⟩ := A.recs b br hb
  rw [hl] at r1 r3 hkm r5
  have sm := A.node br.main hms
  have hvm : (s.nodeD br.main).valid = true := (sm.top r6).1
  have hnm : n < br.main := by omega
  have hns : n < s.nodes.size := by omega
  have hvn : (s.nodeD n).valid = true := ((A.node n hns).top r5).1
  obtain ⟨hvr, hrk, hrn, hrm, -, hrc⟩ := hrhs.facts A hb hl hrs
  have hch0 : s.children br.main = n :: br.rhs.toList := BR.children_main hvm hkm hb
  have hch1 : s'.children br.main = [n, rhs] :=
    BR.children_main (br := { br with rhs := some rhs }) (by rw [hvalid]; exact hvm) (by rw [hkind]; exact hkm) hb'
  have hch : ∀ m, m ≠ br.main → s'.children m = s.children m := by
    intro m e
    by_cases hlt : m < s.nodes.size
    · have hB := (A.node m hlt).kind
      unfold State.children Node.kind?
      rw [hkind, hvalid]
      cases hv : (s.nodeD m).valid with
      | false => rfl
      | true =>
        cases hkd : (s.nodeD m).kind with
        | bindLhsChange b' =>
          by_cases eb : b' = b
          · simp only [eb, hb', hb, if_true]
          · simp only [hbo b' eb, if_true]
        | bindMain b' lc =>
          have eb : b' ≠ b := by
            intro eb
            obtain ⟨br', h1, h2, -⟩ := (A.node m hlt).mainRec b' lc hkd
            rw [eb, hb] at h1
            cases h1
            exact e h2.symm
          simp only [hbo b' eb, if_true]
        | const _ => rfl
        | var _ => rfl
        | map _ _ => rfl
        | fold _ _ _ => rfl
        | _ => rw [hkd] at hB; exact False.elim hB
    · rw [children_default s m (by omega), children_default s' m (by rw [hsz]; omega)]
  have hbs : ∀ (b0 : Nat) (br0 : BindRec), s'.binds[b0]? = some br0 →
      ∃ br1 : BindRec, s.binds[b0]? = some br1 ∧ br1.main = br0.main ∧ br1.lhsChange = br0.lhsChange ∧
        br1.allNodesCreatedOnRhs = br0.allNodesCreatedOnRhs := by
    intro b0 br0 h
    by_cases eb : b0 = b
    · rw [eb, hb'] at h
      cases h
      exact ⟨br, by rw [eb]; exact hb, rfl, rfl, rfl⟩
    · rw [hbo b0 eb] at h
      exact ⟨br0, h, rfl, rfl, rfl⟩
  have hbs' : ∀ (b0 : Nat) (br1 : BindRec), s.binds[b0]? = some br1 →
      ∃ br0 : BindRec, s'.binds[b0]? = some br0 ∧ br1.main = br0.main ∧ br1.lhsChange = br0.lhsChange ∧
        br1.allNodesCreatedOnRhs = br0.allNodesCreatedOnRhs := by
    intro b0 br1 h
    by_cases eb : b0 = b
    · rw [eb, hb] at h
      cases h
      exact ⟨{ br with rhs := some rhs }, by rw [eb]; exact hb', rfl, rfl, rfl⟩
    · exact ⟨br1, by rw [hbo b0 eb]; exact h, rfl, rfl, rfl⟩
  refine ⟨by rw [R.pc]; exact A.pc, by rw [R.scope]; exact A.scope, fun m hmlt => ?_, ?_, ?_, ?_, ?_⟩
  · have sn := A.node m (by rw [← hsz]; exact hmlt)
    by_cases e : m = br.main
    · rw [e]
      refine ⟨by rw [hkind]; exact sm.kind, by rw [hcut]; exact sm.cutoff, ?_, ?_, ?_, ?_, ?_, ?_, ?_⟩
      · rw [hch1, hsz]
        intro c hc
        simp only [List.mem_cons, List.not_mem_nil, or_false] at hc
        rcases hc with hc | hc
        · rw [hc]; exact hns
        · rw [hc]; exact hrs
      · rw [hch1]
        intro c hc
        simp only [List.mem_cons, List.not_mem_nil, or_false] at hc
        rcases hc with hc | hc
        · rw [hc, hvalid]; exact hvn
        · rw [hc, hvalid]; exact hvr
      · intro b' hk
        rw [hkind, hkm] at hk; cases hk
      · intro b' lc hk
        rw [hkind, hkm] at hk
        cases hk
        exact ⟨_, hb', rfl, hl⟩
      · intro c b' hc hk
        rw [hkind] at hk ⊢
        rw [hch1] at hc
        simp only [List.mem_cons, List.not_mem_nil, or_false] at hc
        rcases hc with hc | hc
        · rw [hc] at hk ⊢
          exact sm.lcChild n b' (by rw [hch0]; exact List.mem_cons_self ..) hk
        · rw [hc] at hk; exact absurd hk (hrk b')
      · intro _
        refine ⟨by rw [hvalid]; exact hvm, ?_⟩
        rw [hch1]
        intro c hc
        simp only [List.mem_cons, List.not_mem_nil, or_false] at hc
        rcases hc with hc | hc
        · rw [hc, hcr]; exact Or.inl ⟨r5, hnm⟩
        · rw [hc, hcr, hkind]
          rcases hrc with h | h
          · exact Or.inl h
          · exact Or.inr ⟨b, n, hkm, h⟩
      · intro b' h
        rw [hcr, r6] at h; cases h
    · refine ⟨by rw [hkind]; exact sn.kind, by rw [hcut]; exact sn.cutoff, ?_, ?_, ?_, ?_, ?_, ?_, ?_⟩
      · rw [hch m e, hsz]; exact sn.kidsIn
      · rw [hch m e]; intro c hc; rw [hvalid]; exact sn.kidsValid c hc
      · intro b' hk
        rw [hkind] at hk
        obtain ⟨br1, h1, h2⟩ := sn.lcRec b' hk
        obtain ⟨br0, k1, -, k3, -⟩ := hbs' b' br1 h1
        exact ⟨br0, k1, by rw [← k3]; exact h2⟩
      · intro b' lc hk
        rw [hkind] at hk
        obtain ⟨br1, h1, h2, h3⟩ := sn.mainRec b' lc hk
        obtain ⟨br0, k1, k2, k3, -⟩ := hbs' b' br1 h1
        exact ⟨br0, k1, by rw [← k2]; exact h2, by rw [← k3]; exact h3⟩
      · intro c b' hc hk
        rw [hkind] at hk ⊢
        rw [hch m e] at hc; exact sn.lcChild c b' hc hk
      · intro h
        rw [hcr] at h
        obtain ⟨h1, h2⟩ := sn.top h
        refine ⟨by rw [hvalid]; exact h1, ?_⟩
        rw [hch m e]
        intro c hc
        rw [hcr, hkind]
        exact h2 c hc
      · intro b' h
        rw [hcr] at h
        obtain ⟨h1, h2, br1, h3, h4, h5⟩ := sn.inScope b' h
        obtain ⟨br0, k1, k2, k3, -⟩ := hbs' b' br1 h3
        refine ⟨by rw [hkind]; exact h1, by rw [hkind]; exact h2, br0, k1, by rw [← k2]; exact h4, ?_⟩
        rw [hch m e]
        intro c hc
        rw [hcr, ← k3]
        exact h5 c hc
  · intro b0 br0 h
    obtain ⟨br1, k0, k1, k2, -⟩ := hbs b0 br0 h
    rw [hsz, hkind, hkind, hcr, hcr, ← k1, ← k2]
    exact A.recs b0 br1 k0
  · intro b0 br0 h m
    obtain ⟨br1, k0, -, -, k3⟩ := hbs b0 br0 h
    rw [hsz, hvalid, hcr, ← k3]
    exact A.gen b0 br1 k0 m
  · intro b0 br0 h
    obtain ⟨br1, k0, -, -, k3⟩ := hbs b0 br0 h
    rw [← k3]
    exact A.genDy b0 br1 k0
  · intro m hm
    rw [hsz, hcr]
    exact A.dyIn m hm

/-! ## what `BR.KRel` keeps, in fragment F1 -/

theorem KRel.createdIn {s s' : State} (h : BR.KRel s s') (m : Nat) :
    (s'.nodeD m).createdIn = (s.nodeD m).createdIn := by
  have := h.node m; simp only [nodeKey, Prod.mk.injEq] at this; exact this.2.1

theorem KRel.cutoff {s s' : State} (h : BR.KRel s s') (m : Nat) :
    (s'.nodeD m).cutoff = (s.nodeD m).cutoff := by
  have := h.node m; simp only [nodeKey, Prod.mk.injEq] at this; exact this.2.2.1

theorem KRel.keyEq {s s' : State} (h : BR.KRel s s') : BL.KeyEq s s' :=
  ⟨h.size, h.binds, h.vars, h.valid, h.kind, KRel.cutoff h, KRel.createdIn h, h.recomputedAt, h.changedAt⟩

theorem KRel.rk {s s' : State} (h : BR.KRel s s') (m : Nat) : rkOf s' m = rkOf s m := (KRel.keyEq h).rk m

end CR

end IncrVerif.Proofs.BindH
