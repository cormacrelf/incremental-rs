import IncrVerif.Proofs.ExpertH11
import IncrVerif.Proofs.CutH18
/-!
# Part 11: variable writes outside `stabilise` (and the read-only actions) keep `QInv`
-/
namespace IncrVerif.Proofs.ExpertH.QR
open IncrVerif.Engine IncrVerif.Driver IncrVerif.Proofs IncrVerif.Proofs.Step IncrVerif.Proofs.Sched

/-! ## the abstract description of an immediate write -/

/-- `s'` is `s` after cell `v` (old contents `vc`) received value `x` and the stamp of the current round;
nodes change at most in their heap marker; everything else the invariant reads (except the heap) is kept -/
structure WRel (v : Nat) (vc : VarCell) (x : Val) (s s' : State) : Prop where
  size : s'.nodes.size = s.nodes.size
  node : ∀ m, ∃ h, s'.nodeD m = { s.nodeD m with heightInRch := h }
  var : s'.vars[v]? = some { vc with value := x, setAt := s.stabNum }
  other : ∀ w, w ≠ v → s'.vars[w]? = s.vars[w]?
  stabNum : s'.stabNum = s.stabNum
  status : s'.status = s.status
  pc : s'.panicCountdown = s.panicCountdown
  scope : s'.currentScope = s.currentScope
  observers : s'.observers = s.observers
  newObservers : s'.newObservers = s.newObservers
  disallowedObservers : s'.disallowedObservers = s.disallowedObservers
  alive : s'.alive = s.alive
  setDuringStab : s'.setDuringStab = s.setDuringStab
  deadVars : s'.deadVars = s.deadVars
  handleAfterStab : s'.handleAfterStab = s.handleAfterStab
  pinv : s'.propagateInvalidity = s.propagateInvalidity
  top : s'.top = s.top

section rel
variable {env : Env} {rk : Nat → Nat} {s s' : State} {v : Nat} {vc : VarCell} {x : Val}

theorem WRel.toC (R : WRel v vc x s s') : CutH.WRel v vc x s s' :=
  ⟨R.size, R.node, R.var, R.other, R.stabNum, R.status, R.pc, R.scope, R.observers, R.newObservers, R.disallowedObservers, R.alive,
    R.setDuringStab, R.deadVars, R.handleAfterStab, R.pinv, R.top⟩

theorem WRel.kind (R : WRel v vc x s s') (m : Nat) : (s'.nodeD m).kind = (s.nodeD m).kind := R.toC.kind m
theorem WRel.parents (R : WRel v vc x s s') (m : Nat) : (s'.nodeD m).parents = (s.nodeD m).parents := R.toC.parents m
theorem WRel.nodeObs (R : WRel v vc x s s') (m : Nat) : (s'.nodeD m).observers = (s.nodeD m).observers := R.toC.nodeObs m
theorem WRel.height (R : WRel v vc x s s') (m : Nat) : (s'.nodeD m).height = (s.nodeD m).height := R.toC.height m
theorem WRel.recomputedAt (R : WRel v vc x s s') (m : Nat) :
    (s'.nodeD m).recomputedAt = (s.nodeD m).recomputedAt := R.toC.recomputedAt m
theorem WRel.changedAt (R : WRel v vc x s s') (m : Nat) :
    (s'.nodeD m).changedAt = (s.nodeD m).changedAt := R.toC.changedAt m
theorem WRel.value (R : WRel v vc x s s') (m : Nat) : (s'.nodeD m).value = (s.nodeD m).value := R.toC.value m
theorem WRel.handlers (R : WRel v vc x s s') (m : Nat) :
    (s'.nodeD m).numOnUpdateHandlers = (s.nodeD m).numOnUpdateHandlers := R.toC.handlers m
theorem WRel.nec (R : WRel v vc x s s') (m : Nat) : s'.isNecessary m = s.isNecessary m := R.toC.nec m

/-- staleness of a node that is not a `var v` node does not change -/
theorem WRel.staleOf_eq (R : WRel v vc x s s') {m : Nat} (hm : (s.nodeD m).kind ≠ .var v) :
    staleOf s' m = staleOf s m := R.toC.staleOf_eq hm

/-- the target of a node that is not a `var v` node does not change -/
theorem WRel.target (R : WRel v vc x s s') {m : Nat} {w : Val}
    (hm : (s.nodeD m).kind ≠ .var v) (h : Target env s m w) : Target env s' m w := R.toC.target hm h

/-- a `var v` node stamped in an earlier round is stale afterwards -/
theorem WRel.staleOf_watch (R : WRel v vc x s s') {m : Nat} (hk : (s.nodeD m).kind = .var v)
    (hr : (s.nodeD m).recomputedAt < s.stabNum) : staleOf s' m = true := R.toC.staleOf_watch hk hr

/-- the structural invariant after a write: the heap is well formed, only the marker of the watch node may
have changed, and either nothing changed (and the watch node was queued if necessary) or the watch node
(necessary, not queued) has been queued at its height -/
theorem WRel.struct (Q : QInv env rk s) (hv : s.vars[v]? = some vc) (R : WRel v vc x s s')
    (hheap : HeapG s')
    (hmark : ∀ m, m ≠ vc.node → (s'.nodeD m).heightInRch = (s.nodeD m).heightInRch)
    (hq : ((s'.nodeD vc.node).heightInRch = (s.nodeD vc.node).heightInRch ∧
            (s.isNecessary vc.node = true → (s.nodeD vc.node).inRch = true)) ∨
          (s.isNecessary vc.node = true ∧ (s.nodeD vc.node).inRch = false ∧
            (s'.nodeD vc.node).heightInRch = (s.nodeD vc.node).height)) :
    Struct env rk s' := by
  have I : GInv env rk s allClosed := Q.struct
  have hkn : (s.nodeD vc.node).kind = .var v := (Q.vars.cell v vc hv).2
  have hinr : ∀ m, m ≠ vc.node → (s'.nodeD m).inRch = (s.nodeD m).inRch := fun m h => by
    simp only [Node.inRch, hmark m h]
  have hw : ∀ q i, Wants s' allClosed q i ↔ Wants s allClosed q i := by
    intro q i; unfold Wants; rw [R.nec]
  have hmono : ∀ m, staleOf s m = true → staleOf s' m = true := by
    intro m hs
    by_cases hk : (s.nodeD m).kind = .var v
    · exact R.staleOf_watch hk (Q.stamps m).1
    · rw [R.staleOf_eq hk]; exact hs
  have hother : ∀ m, m < s.nodes.size → m ≠ vc.node → (s.nodeD m).kind ≠ .var v := by
    intro m hm hne hk
    obtain ⟨vc0, h0, h1⟩ := Q.vars.node m v hm hk
    rw [hv] at h0; cases h0; exact hne h1.symm
  have static : AllStatic env rk s' := by
    refine ⟨by rw [R.pc]; exact I.static.pc, by rw [R.scope]; exact I.static.scope, fun m hm => ?_,
      I.static.inj, by rw [R.size]; exact I.static.top⟩
    have sn := I.static.node m (by rw [← R.size]; exact hm)
    obtain ⟨y, e⟩ := R.node m
    exact ⟨by rw [e]; exact sn.valid, by rw [e]; exact sn.kind, by rw [e]; exact sn.cutoff,
      by rw [e]; exact sn.top, by rw [e]; exact sn.force, by rw [e]; exact sn.kidsLt,
      by rw [e, R.size]; exact sn.kidsIn⟩
  refine { static := static, par := ?_, conv := ?_, nodup := ?_, hlt := ?_, hpos := ?_,
           lnec := ?_, unec := ?_, heap := hheap, hgt := ?_, qnec := ?_, queued := ?_,
           qstale := ?_, opLt := ?_ }
  · intro c q i hm
    rw [R.parents] at hm
    rw [R.kind, hw]; exact I.par c q i hm
  · intro q i c hkq hw'
    rw [R.kind] at hkq
    rw [hw] at hw'
    rw [R.parents]; exact I.conv q i c hkq hw'
  · intro m; rw [R.parents]; exact I.nodup m
  · intro c q i hm ho
    rw [R.parents] at hm
    rw [R.height, R.height]; exact I.hlt c q i hm ho
  · intro m hn ho
    rw [R.nec] at hn
    rw [R.height]; exact I.hpos m hn ho
  · intro q k ho; cases ho
  · intro q k ho; cases ho
  · intro m hq' _
    by_cases e : m = vc.node
    · rw [e] at hq' ⊢
      rcases hq with ⟨h1, -⟩ | ⟨-, -, h2⟩
      · have hq0 : (s.nodeD vc.node).inRch = true := by simpa only [Node.inRch, h1] using hq'
        rw [h1, R.height]; exact I.hgt _ hq0 rfl
      · rw [h2, R.height]
    · rw [hinr m e] at hq'
      rw [hmark m e, R.height]; exact I.hgt m hq' rfl
  · intro m hq'
    rw [R.nec]
    by_cases e : m = vc.node
    · rw [e] at hq' ⊢
      rcases hq with ⟨h1, -⟩ | ⟨h2, -, -⟩
      · have hq0 : (s.nodeD vc.node).inRch = true := by simpa only [Node.inRch, h1] using hq'
        exact I.qnec _ hq0
      · exact Or.inl h2
    · rw [hinr m e] at hq'; exact I.qnec m hq'
  · intro m _ hn hs
    rw [R.nec] at hn
    by_cases e : m = vc.node
    · rw [e] at hn ⊢
      rcases hq with ⟨h1, h2⟩ | ⟨-, -, h2⟩
      · have := h2 hn
        simpa only [Node.inRch, h1] using this
      · have h0 := I.hpos _ hn rfl
        simp only [Node.inRch, h2]; simpa using h0
    · rw [R.staleOf_eq (hother m (nec_lt_size hn) e)] at hs
      rw [hinr m e]; exact I.queued m rfl hn hs
  · intro m hq'
    by_cases e : m = vc.node
    · rw [e]; exact R.staleOf_watch hkn (Q.stamps _).1
    · rw [hinr m e] at hq'; exact hmono m (I.qstale m hq')
  · intro m ho; exact absurd rfl ho

/-- the invariant between API actions after a write -/
theorem WRel.qinv (Q : QInv env rk s) (hv : s.vars[v]? = some vc) (R : WRel v vc x s s')
    (S : Struct env rk s') : QInv env rk s' := by
  refine { struct := S, vars := ?_, obs := ?_, now := by rw [R.stabNum]; exact Q.now, stamps := ?_,
           varStamp := ?_, cons := ?_, status := R.status.trans Q.status, alive := R.alive.trans Q.alive,
           setDuringStab := R.setDuringStab.trans Q.setDuringStab, deadVars := R.deadVars.trans Q.deadVars,
           handleAfterStab := R.handleAfterStab.trans Q.handleAfterStab, handlers := ?_,
           pinv := R.pinv.trans Q.pinv, top := ?_ }
  · constructor
    · intro n c hn hk
      rw [R.size] at hn
      rw [R.kind] at hk
      obtain ⟨vc0, h0, h1⟩ := Q.vars.node n c hn hk
      by_cases hc : c = v
      · rw [hc] at h0 ⊢
        rw [hv] at h0; cases h0
        exact ⟨_, R.var, h1⟩
      · exact ⟨vc0, by rw [R.other c hc]; exact h0, h1⟩
    · intro c vc0 h0
      rw [R.size, R.kind]
      by_cases hc : c = v
      · rw [hc] at h0 ⊢
        rw [R.var] at h0; cases h0
        exact Q.vars.cell v vc hv
      · rw [R.other c hc] at h0; exact Q.vars.cell c vc0 h0
  · have O := Q.obs
    unfold ObsOK at O ⊢
    rw [R.newObservers, R.disallowedObservers]
    refine ⟨?_, ?_, ?_, ?_, ?_, ?_, O.disNodup⟩
    · intro o ob h; rw [R.observers] at h; rw [R.size]; exact O.inRange o ob h
    · intro n o; rw [R.nodeObs, R.observers]; exact O.mem n o
    · intro o ob h; rw [R.observers] at h; exact O.created o ob h
    · intro o h; rw [R.observers]; exact O.newIn o h
    · intro o ob h; rw [R.observers] at h; exact O.dis o ob h
    · intro o h; rw [R.observers]; exact O.disIn o h
  · intro m
    rw [R.recomputedAt, R.changedAt, R.stabNum]; exact Q.stamps m
  · intro c vc0 h0
    rw [R.stabNum]
    by_cases hc : c = v
    · rw [hc] at h0; rw [R.var] at h0; cases h0; exact Int.le_refl _
    · rw [R.other c hc] at h0; exact Q.varStamp c vc0 h0
  · intro m hm hst
    rw [R.size] at hm
    by_cases hk : (s.nodeD m).kind = .var v
    · rw [R.staleOf_watch hk (Q.stamps m).1] at hst; cases hst
    · rw [R.staleOf_eq hk] at hst
      obtain ⟨w, hw, hval⟩ := Q.cons m hm hst
      exact ⟨w, R.target hk hw, by rw [R.value]; exact hval⟩
  · intro m; rw [R.handlers]; exact Q.handlers m
  · intro k n h; rw [R.top] at h; rw [R.size]; exact Q.top k n h

end rel

/-! ## the concrete write -/

/-- the final state of a successful write outside `stabilise` keeps the invariant -/
theorem wroteOutside_q {env : Env} {rk : Nat → Nat} {s : State} {v : Nat} {vc : VarCell} (x : Val)
    (Q : QInv env rk s) (hv : s.vars[v]? = some vc)
    (hh : vc.setAt < s.stabNum →
      ((s.nodeD vc.node).valid && s.isNecessary vc.node && !(s.nodeD vc.node).inRch) = true →
      0 ≤ (s.nodeD vc.node).height ∧ (s.nodeD vc.node).height ≤ s.rch.maxAllowed) :
    WRel v vc x s (wroteOutside v vc x s) ∧ QInv env rk (wroteOutside v vc x s) := by
  have I : GInv env rk s allClosed := Q.struct
  have hle := Q.varStamp v vc hv
  have hvars := wroteOutside_vars v vc x s hv
  have hset : (if vc.setAt < s.stabNum then s.stabNum else vc.setAt) = s.stabNum := by
    split <;> omega
  rw [hset] at hvars
  have hsz : vc.node < s.nodes.size := (Q.vars.cell v vc hv).1
  have hkn : (s.nodeD vc.node).kind = .var v := (Q.vars.cell v vc hv).2
  -- the cases in which the nodes and the heap are untouched
  have same : ∀ s' : State, s'.nodes = s.nodes → s'.rch = s.rch →
      s'.vars[v]? = some { vc with value := x, setAt := s.stabNum } →
      (∀ w, w ≠ v → s'.vars[w]? = s.vars[w]?) →
      s'.stabNum = s.stabNum → s'.status = s.status → s'.panicCountdown = s.panicCountdown →
      s'.currentScope = s.currentScope → s'.observers = s.observers →
      s'.newObservers = s.newObservers → s'.disallowedObservers = s.disallowedObservers →
      s'.alive = s.alive →
      s'.setDuringStab = s.setDuringStab → s'.deadVars = s.deadVars →
      s'.handleAfterStab = s.handleAfterStab → s'.propagateInvalidity = s.propagateInvalidity →
      s'.top = s.top →
      (s.isNecessary vc.node = true → (s.nodeD vc.node).inRch = true) →
      WRel v vc x s s' ∧ QInv env rk s' := by
    intro s' hn hr h1 h2 h3 h4 h5 h6 h7 h8 h9 h10 h11 h12 h13 h14 h15 hq
    have hD : ∀ m, s'.nodeD m = s.nodeD m := fun m => by simp only [State.nodeD, hn]
    have R : WRel v vc x s s' :=
      ⟨by rw [hn], fun m => ⟨(s.nodeD m).heightInRch, hD m⟩, h1, h2, h3, h4, h5, h6, h7, h8, h9, h10,
        h11, h12, h13, h14, h15⟩
    refine ⟨R, R.qinv Q hv (R.struct Q hv ?_ (fun m _ => by rw [hD]) (Or.inl ⟨by rw [hD], hq⟩))⟩
    exact I.heap.congr hr (by rw [hn]) (fun m => by rw [hD])
  by_cases h2 : s.stabNum ≤ vc.setAt
  · have e := wroteOutside_same_round v vc x s h2
    rw [e] at hvars ⊢
    refine same _ rfl rfl hvars.1 hvars.2 rfl rfl rfl rfl rfl rfl rfl rfl rfl rfl rfl rfl rfl ?_
    intro hn
    apply I.queued _ rfl hn
    unfold staleOf
    simp only [hkn, hv]
    have := (Q.stamps vc.node).1
    simp only [gt_iff_lt, decide_eq_true_eq]; omega
  · have hlt : vc.setAt < s.stabNum := by omega
    by_cases h4 : ((s.nodeD vc.node).valid && s.isNecessary vc.node && !(s.nodeD vc.node).inRch) = true
    · have e : wroteOutside v vc x s =
          inserted vc.node (s.nodeD vc.node).height (stampedWrite v vc x s) := by
        unfold wroteOutside; rw [if_neg h2, if_pos h4]
      rw [e] at hvars ⊢
      obtain ⟨h0, hmax⟩ := hh hlt h4
      rw [Bool.and_eq_true, Bool.and_eq_true] at h4
      obtain ⟨⟨hval, hnec⟩, hnq⟩ := h4
      have hnq' : (s.nodeD vc.node).inRch = false := by simpa using hnq
      have hW : HeapG (stampedWrite v vc x s) := I.heap.congr rfl rfl (fun m => rfl)
      have hI : HeapG (inserted vc.node (s.nodeD vc.node).height (stampedWrite v vc x s)) :=
        HeapG.inserted hW (p := vc.node) hsz hnq' h0 hmax
      have hD : ∀ m, (inserted vc.node (s.nodeD vc.node).height (stampedWrite v vc x s)).nodeD m =
          if vc.node = m ∧ m < s.nodes.size then
            { s.nodeD m with heightInRch := (s.nodeD vc.node).height } else s.nodeD m :=
        fun m => inserted_nodeD _ _ _ m
      have R : WRel v vc x s (inserted vc.node (s.nodeD vc.node).height (stampedWrite v vc x s)) := by
        refine ⟨by simp [inserted, stampedWrite, bumped, withCell], ?_, hvars.1, hvars.2, rfl, rfl, rfl,
          rfl, rfl, rfl, rfl, rfl, rfl, rfl, rfl, rfl, rfl⟩
        intro m
        rw [hD]
        split
        · exact ⟨_, rfl⟩
        · exact ⟨(s.nodeD m).heightInRch, rfl⟩
      refine ⟨R, R.qinv Q hv (R.struct Q hv hI ?_ (Or.inr ⟨hnec, hnq', ?_⟩))⟩
      · intro m hm
        rw [hD, if_neg (fun e => hm e.1.symm)]
      · rw [hD, if_pos ⟨rfl, hsz⟩]
    · have e : wroteOutside v vc x s = stampedWrite v vc x s := by
        unfold wroteOutside; rw [if_neg h2, if_neg h4]
      rw [e] at hvars ⊢
      refine same _ rfl rfl hvars.1 hvars.2 rfl rfl rfl rfl rfl rfl rfl rfl rfl rfl rfl rfl rfl ?_
      intro hn
      cases hq : (s.nodeD vc.node).inRch with
      | true => rfl
      | false =>
        exfalso; apply h4
        rw [(I.node hsz).valid, hn, hq]; rfl

/-- **write.** A successful write outside `stabilise` keeps the invariant; the cell gets the new value. -/
theorem writeVar_q {env : Env} {rk : Nat → Nat} {s s' : State} {v : Nat} {f : Val → Val} {isSet : Bool} {r : Val}
    (Q : QInv env rk s) (h : (writeVar v f isSet).run.run s = (.ok r, s')) :
    QInv env rk s' ∧ ∃ vc, s.vars[v]? = some vc ∧ r = vc.value ∧
      s'.vars[v]? = some { vc with value := f vc.value, setAt := s.stabNum } ∧
      (∀ w, w ≠ v → s'.vars[w]? = s.vars[w]?) := by
  obtain ⟨vc, hv⟩ := writeVar_ok_cell h
  have hst : s.status ≠ .stabilising := by rw [Q.status]; intro e; cases e
  obtain ⟨hr, hs', -, -, hh⟩ := writeVar_outside_ok v f isSet s s' vc r hv hst h
  obtain ⟨R, Q'⟩ := wroteOutside_q (f vc.value) Q hv hh
  rw [← hs'] at R Q'
  exact ⟨Q', vc, hv, hr, R.var, R.other⟩

/-- the write actions and the read-only actions of the API -/
def WriteOrRead : Action → Prop
  | .set _ _ | .modify _ _ | .update _ _ | .replace _ _ | .replaceWith _ _ => True
  | .get _ | .isStable | .stats => True
  | _ => False

theorem step_write {env : Env} {rk : Nat → Nat} {s s' : State} {a : Action} {tokens : Array Nat} {r : String × Array Nat}
    (Q : QInv env rk s) (ha : WriteOrRead a) (h : (stepAction env a tokens).run.run s = (.ok r, s')) :
    QInv env rk s' := by
  cases a <;> try exact ha.elim
  case get v => rw [(Hist.stepAction_read_ok (.get v) h).1]; exact Q
  case isStable => rw [(Hist.stepAction_read_ok .isStable h).1]; exact Q
  case stats => rw [(Hist.stepAction_read_ok .stats h).1]; exact Q
  all_goals
    obtain ⟨old, h1, -⟩ := (Hist.stepAction_write_ok (by constructor)).1 h
    exact (writeVar_q Q h1).1

end IncrVerif.Proofs.ExpertH.QR
