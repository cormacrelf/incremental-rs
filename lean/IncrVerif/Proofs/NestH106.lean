import IncrVerif.Proofs.NestH109
import IncrVerif.Proofs.NestH103
import IncrVerif.Proofs.NestH112
import IncrVerif.Proofs.NestH75
import IncrVerif.Proofs.Invalidation
/-!
# Total correctness for nested binds (F2), part i1: `stabilise` returns if the state it ends in has room

`stabilise_total2 : DrainTot env N → StabTot env N`.  From `QT env N s` (`QInv2`, `TInv2`, `RhsRan` for some ghost rank): IF the state `stabilise env fuel` ends in
(whatever the outcome) has at most `N` nodes and `needFuel` of that count is `≤ fuel`, THEN it returned, and `QT env N` holds again.

* the node count only grows, for every outcome (`Inval.PresMono.stabilise`), so the start state has room too;
* the status assertion holds (`QInv2.status`); the two observer loops return (`addNewObservers_total2`, `unlinkDisallowedObservers_total2`: no node is created);
* the drain starts in a state with `DInv`, `F2Inv` (`N4s.drain_start2`), `HBo2` (prefix totals), `RhsRan` (the prefix keeps `binds`, `valid`, `recomputedAt`: `C2s.PreF`),
  `Lim`; if it panicked, the final state would be the drain's final state, which has room: contradiction with `D : DrainTot env N`;
* so the drain returned; the PARTIAL facts (`drainHeap_invB2` with `lcStepF2`) give `DInv`, the `DKey`/`NKey` frame; `stabiliseEnd` returns (`Quiet.stabiliseEnd_total`) and keeps the
  node count, so the state after the drain has room, and `D` gives `DT env N` for it (`F2Inv`, `HBo2`, `RhsRan`, `Lim` for a NEW rank);
* `N4s.qinv2_end` (that rank), `TInv2` and `RhsRan` through `stabiliseEnd` (`Finished'`).
-/
namespace IncrVerif.Proofs.NestH
open IncrVerif.Engine IncrVerif.Driver IncrVerif.Proofs IncrVerif.Proofs.Step IncrVerif.Proofs.Sched IncrVerif.Proofs.Quiet
open IncrVerif.Proofs.BindH

namespace T2i

/-- `RhsRan` reads the bind table and, of the nodes, validity and the `recomputedAt` stamp -/
theorem rhsRan_congr {s s' : State} (H : RhsRan s) (hb : s'.binds = s.binds)
    (hv : ∀ m, (s'.nodeD m).valid = (s.nodeD m).valid)
    (hr : ∀ m, (s'.nodeD m).recomputedAt = (s.nodeD m).recomputedAt) : RhsRan s' := by
  intro b br hbr h1 h2
  rw [hb] at hbr
  rw [hv] at h1
  rw [hr] at h2
  exact H b br hbr h1 h2

/-- the node count only grows in `stabilise`, whatever the outcome -/
theorem stabilise_size {env : Env} {fuel : Nat} {s s' : State} {r : Except Panic Unit}
    (h : (stabilise env fuel).run.run s = (r, s')) : s.nodes.size ≤ s'.nodes.size :=
  ((Inval.PresMono.stabilise env fuel).h s r s' h).size

/-- the node count only grows in the drain, whatever the outcome -/
theorem drainHeap_size {env : Env} {fuel : Nat} {s s' : State} {r : Except Panic Unit}
    (h : (drainHeap env fuel).run.run s = (r, s')) : s.nodes.size ≤ s'.nodes.size :=
  ((Inval.PresMono.drainHeap env fuel).h s r s' h).size

/-- `TInv2` and `RhsRan` through `stabiliseEnd` -/
theorem tinv2_end {rk : Nat → Nat} {N : Nat} {s t3 s' : State} (E : Finished' t3 s') (hb3 : HBo2 rk t3 allClosed) (L3 : Lim N t3)
    (hN : s'.nodes.size ≤ N) (hvars : t3.vars = s.vars) (T : TInv2 rk0 N0 s) (hno : t3.newObservers = []) : TInv2 rk N s' := by
  have hE : ∀ m, NodeG (t3.nodeD m) (s'.nodeD m) := by
    intro m
    obtain ⟨b, hb⟩ := E.node m
    rw [hb]
    exact ⟨rfl, rfl, rfl, rfl, rfl, rfl, rfl, rfl, rfl, rfl, rfl⟩
  have G3 : SameG t3 s' := ⟨E.pc, E.scope, E.size, E.rch, E.vars, hE⟩
  refine ⟨?_, ⟨?_, ?_, hN⟩, ?_, ?_, ?_⟩
  · intro m hm ho
    rw [(hE m).height, E.size]
    exact hb3 m (by rw [← G3.nec]; exact hm) ho
  · rw [E.ahh]; exact L3.ahh
  · rw [E.rch]; exact L3.rch
  · intro c vc hc
    rw [E.vars, hvars] at hc
    exact T.linked c vc hc
  · rw [E.newObservers, hno]; exact List.nodup_nil
  · intro o ob ho
    rw [E.newObservers, hno] at ho; cases ho

end T2i

/-- **`stabilise` on a program with nested binds returns** if the state it ends in — whatever the outcome — has room (`HasRoom N fuel`: at most `N` nodes, and
`needFuel` of the node count within `fuel`), given the same for the drain; the invariant between API actions for the "no panic" argument is kept. -/
theorem stabilise_total2 {env : Env} {N : Nat} (D : DrainTot env N) : StabTot env N := by
  intro fuel s ⟨rk, Q, T, H⟩ r s' hrun hroom
  obtain ⟨hN, hF⟩ := hroom
  have hsz : s.nodes.size ≤ s'.nodes.size := T2i.stabilise_size hrun
  have hF0 : 4 * s.nodes.size + 8 ≤ fuel := by unfold needFuel at hF; omega
  -- the state with the status set
  obtain ⟨s0, hs0⟩ : ∃ s0 : State, s0 = { s with status := .stabilising } := ⟨_, rfl⟩
  have hnd0 : ∀ m, s0.nodeD m = s.nodeD m := fun m => by rw [hs0]; rfl
  have hsz0 : s0.nodes.size = s.nodes.size := by rw [hs0]
  have S0 : SInv2 env rk s0 s0.newObservers s0.disallowedObservers := by
    have I0 : SInv2 env rk s s.newObservers s.disallowedObservers := SInv2.of_qinv2 Q
    rw [hs0]
    exact N4p.sInv2_congr I0 rfl rfl rfl rfl rfl rfl rfl rfl
  have hb0 : HBo2 rk s0 allClosed := by
    intro m hm ho
    rw [hnd0, hsz0]; exact T.hb m (by rw [State.isNecessary, ← hnd0]; exact hm) ho
  have R0 : Room N s0 := by rw [hs0]; exact ⟨T.room.ahh, T.room.rch, T.room.size⟩
  -- the two loops (no node is created)
  obtain ⟨_, t1, h1, hb1, R1, S1, hn1, hd1, F1, O1, -, M1⟩ := addNewObservers_total2 (fuel := fuel) S0 hb0 R0
    (by rw [hs0]; exact T.newNodup) (by rw [hs0]; exact T.newState) (by rw [hsz0]; omega)
  obtain ⟨_, t2, h2, hb2, R2, S2, hn2, hd2, F2, O2, M2⟩ := unlinkDisallowedObservers_total2 (fuel := fuel) S1 hn1 hb1 R1
    (by rw [F1.size, hsz0]; omega)
  have F : C2s.PreF s t2 := C2s.PreF.of hs0 (F1.trans F2) (fun m => (M2 m).trans (M1 m))
  obtain ⟨D2, A2⟩ := N4s.drain_start2 Q F S2
  have H2 : RhsRan t2 := T2i.rhsRan_congr H F.binds F.valid F.recomputedAt
  have DT2 : DT env N t2 := ⟨rk, A2, hb2, H2, ⟨R2.ahh, R2.rch⟩⟩
  -- the run up to the drain
  have hrun2 : (drainHeap env fuel >>= fun _ => stabiliseEnd env fuel).run.run t2 = (r, s') := by
    unfold stabilise at hrun
    have hst : (s.status == Status.notStabilising) = true := by rw [Q.status]; rfl
    rw [run_bind_get, run_bind_ok (show (assertM (s.status == Status.notStabilising)
      "state:stabilise:status").run.run s = (.ok (), s) by rw [run_assertM, hst]; rfl),
      run_bind_modify] at hrun
    rw [← hs0, run_bind_ok h1, run_bind_ok h2] at hrun
    exact hrun
  rw [run_bind] at hrun2
  rcases h3 : (drainHeap env fuel).run.run t2 with ⟨e3 | u3, t3⟩
  · -- a panic in the drain: its final state is the final state, which has room
    rw [h3] at hrun2
    have e1 : s' = t3 := (Prod.mk.inj hrun2).2.symm
    obtain ⟨a, ea, -⟩ := D fuel t2 D2 DT2 _ _ h3 (by rw [← e1]; exact ⟨hN, hF⟩)
    cases ea
  · cases u3
    rw [h3] at hrun2
    replace hrun2 : (stabiliseEnd env fuel).run.run t3 = (r, s') := hrun2
    -- the partial facts about the drain
    have X2 : AuxS2 env t2 t2 := ⟨⟨rk, A2⟩, DKey.refl _, NKey.refl _⟩
    obtain ⟨D3, ⟨⟨rk3', A3'⟩, K3, N3⟩, he3, f3⟩ :=
      drainHeap_invB2 (lcStepsOK_auxS_F2 (lcStepF2 env) t2) fuel t2 t3 D2 X2 h3
    obtain ⟨V3, O3, T3⟩ := N4s.after_drain2 A3' K3 N3 f3.vars (F.varsOK Q.vars) S2.obs S2.obsTop
    have hsd : t3.setDuringStab = [] := by rw [K3.setDuringStab, F.setDuringStab]; exact Q.setDuringStab
    have hdv : t3.deadVars = [] := by rw [K3.deadVars, F.deadVars]; exact Q.deadVars
    have hoh : ∀ (o : Nat) (ob : ObsRec), t3.observers[o]? = some ob → ob.handlers = [] :=
      fun o ob ho => (O3.inRange o ob ho).2
    -- `stabiliseEnd` returns
    have hhas0 : HasRange s0 := by
      intro n hn; rw [hs0] at hn
      have : s.handleAfterStab = [] := Q.handleAfterStab
      rw [show ({ s with status := Status.stabilising } : State).handleAfterStab = s.handleAfterStab from rfl,
        this] at hn
      cases hn
    have hhas2 : HasRange t2 :=
      unlinkDisallowedObservers_hasRange h2 (addNewObservers_hasRange h1 hhas0)
    have hhas3 : HasRange t3 := by
      intro n hn
      rw [K3.handleAfterStab] at hn
      exact Nat.lt_of_lt_of_le (hhas2 n hn) N3.grow
    obtain ⟨_, s4, h4, -⟩ := stabiliseEnd_total (env := env) (fuel := fuel) (s := t3) hsd hdv hoh hhas3
      (by
        intro n o ho
        obtain ⟨ob, hob, -⟩ := (O3.mem n o).1 ho
        exact (Array.getElem?_eq_some_iff.1 hob).1)
    rw [h4] at hrun2
    have e1 : s' = s4 := (Prod.mk.inj hrun2).2.symm
    have e2 : r = .ok () := (Prod.mk.inj hrun2).1.symm
    rw [← e1] at h4
    have E := stabiliseEnd_fin (env := env) (fuel := fuel) hsd hdv hoh h4
    have hb := C2s.stabiliseEnd_binds hsd hdv hoh h4
    -- the state after the drain has room: the total contract of the drain applies
    have hroom3 : HasRoom N fuel t3 := by
      unfold HasRoom; rw [← E.size]; exact ⟨hN, hF⟩
    obtain ⟨_, -, rk3, A3, hb3, H3, L3⟩ := D fuel t2 D2 DT2 _ _ h3 hroom3
    have hno3 : t3.newObservers = [] := by rw [K3.newObservers]; exact hn2
    have hdo3 : t3.disallowedObservers = [] := by rw [K3.disallowedObservers]; exact hd2
    obtain ⟨Q', G, -⟩ := N4s.qinv2_end D3 A3 E hb V3 O3 hno3 hdo3 T3
      (by rw [K3.alive, F.alive]; exact Q.alive)
    refine ⟨(), e2, rk3, Q', ?_, ?_⟩
    · exact T2i.tinv2_end E hb3 L3 hN (by rw [f3.vars, F.vars]) T hno3
    · exact T2i.rhsRan_congr H3 hb (fun m => (G.g.node m).valid) (fun m => (G.g.node m).recomputedAt)

end IncrVerif.Proofs.NestH
