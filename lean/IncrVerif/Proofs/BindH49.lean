import IncrVerif.Proofs.BindH48
/-!
# Binds, linking cascade: the frames `Only`, `AboveR`, and the extra hypotheses of the cascade

`HF` (a forced node of a scope: the scope's change detector is necessary and closed), `ScopeQuiet s n` (if `n` is the change
detector of a bind, no node of the bind's scope is necessary), `Only`/`AboveR`.  Fragments F1 and F2 share them.
-/
namespace IncrVerif.Proofs.BindH
open IncrVerif.Engine IncrVerif.Proofs IncrVerif.Proofs.Step IncrVerif.Proofs.Sched IncrVerif.Proofs.Quiet

namespace CL
open BL

/-! ## frames: `Only`, `AboveR` -/

/-- only node `n` changed -/
def Only (n : Nat) (s s' : State) : Prop := ∀ m, m ≠ n → s'.nodeD m = s.nodeD m

theorem Only.refl (n : Nat) (s : State) : Only n s s := fun _ _ => rfl
theorem Only.trans {n : Nat} {a b c : State} (h1 : Only n a b) (h2 : Only n b c) : Only n a c :=
  fun m hm => (h2 m hm).trans (h1 m hm)

theorem Only.of_nodes {s s' : State} (n : Nat) (h : s'.nodes = s.nodes) : Only n s s' := by
  intro m _; simp [State.nodeD, h]

theorem Only.modify (n : Nat) (f : Node → Node) (s : State) :
    Only n s { s with nodes := s.nodes.modify n f } := by
  intro m hm
  rw [nodeD_modify, if_neg (fun e => hm e.1.symm)]

theorem Only.mhas {n : Nat} {s s' : State} {r : Except Panic Unit}
    (h : (maybeHandleAfterStabilisation n).run.run s = (r, s')) : Only n s s' := by
  rcases mhas_cases h with e | e
  · rw [e]; exact Only.refl n s
  · rw [e]
    intro m hm
    show ({ s with nodes := s.nodes.modify n _ } : State).nodeD m = _
    rw [nodeD_modify, if_neg (fun e => hm e.1.symm)]

theorem AboveR.refl (s : State) (n : Nat) : AboveR s n s := fun _ _ => rfl

theorem AboveR.mono {n k : Nat} {a b : State} (h : AboveR a n b) (hk : rkOf a n ≤ rkOf a k) : AboveR a k b :=
  fun m hm => h m (Nat.lt_of_le_of_lt hk hm)

/-! ## the extra hypotheses of the cascade -/

/-- a forced node of a scope: the scope's change detector is necessary and closed -/
def HF (s : State) (op : Nat → Op) : Prop :=
  ∀ m b br, (s.nodeD m).forceNecessary = true → (s.nodeD m).createdIn = .bind b → s.binds[b]? = some br →
    s.isNecessary br.lhsChange = true ∧ op br.lhsChange = .closed

theorem HF.step {s s' : State} {op op' : Nat → Op} (h : HF s op)
    (hfo : ∀ m, (s'.nodeD m).forceNecessary = (s.nodeD m).forceNecessary)
    (hcr : ∀ m, (s'.nodeD m).createdIn = (s.nodeD m).createdIn) (hb : s'.binds = s.binds)
    (hnec : ∀ m, s.isNecessary m = true → s'.isNecessary m = true)
    (hop : ∀ m, op m = .closed → s.isNecessary m = true → op' m = .closed) : HF s' op' := by
  intro m b br h1 h2 h3
  rw [hfo] at h1; rw [hcr] at h2; rw [hb] at h3
  obtain ⟨h4, h5⟩ := h m b br h1 h2 h3
  exact ⟨hnec _ h4, hop _ h5 h4⟩

theorem HF.lrel {X : Nat → Prop} {s s' : State} {op op' : Nat → Op} (h : HF s op) (hl : LRel X s s')
    (hop : ∀ m, op m = .closed → s.isNecessary m = true → op' m = .closed) : HF s' op' :=
  h.step (CFrame.forceNecessary hl.fr) (KeyEq.of_cframe hl.fr).createdIn (CFrame.binds hl.fr)
    (fun _ hm => hl.nec hm) hop

/-- if `n` is the change detector of a bind, no node of the bind's scope is necessary -/
def ScopeQuiet (s : State) (n : Nat) : Prop :=
  ∀ m b br, (s.nodeD m).createdIn = .bind b → s.binds[b]? = some br → br.lhsChange = n → s.isNecessary m = false

theorem wants_zero_of_one {s : State} {op : Nat → Op} (hnu : ∀ m k, op m ≠ .unlinking k) {p : Nat}
    (h : Wants s op p 1) : Wants s op p 0 := by
  unfold Wants at h ⊢
  cases hop : op p with
  | closed => rw [hop] at h; exact h
  | linking k => rw [hop] at h; simp only at h ⊢; omega
  | unlinking k => exact absurd hop (hnu p k)

section
variable {env : Env} {s s' : State} {op : Nat → Op} {ex : Nat → Prop} {dy : List Nat}

/-- a necessary node is valid -/
theorem GInv1.valid_of_nec (I : GInv1 env s op ex dy) {m : Nat} (h : s.isNecessary m = true) :
    (s.nodeD m).valid = true := by
  cases hv : (s.nodeD m).valid with
  | true => rfl
  | false =>
    obtain ⟨h1, h2, h3, -, -⟩ := I.inv m hv
    simp only [State.isNecessary, Node.isNecessary, h1, h2, h3] at h
    cases h

end

end CL

end IncrVerif.Proofs.BindH
