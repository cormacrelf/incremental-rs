import IncrVerif.Proofs.Subs11
import IncrVerif.Proofs.Subs14
/-!
# Subscriptions, part 13: whole histories (S3)

For a subscription token `t`: the updates logged for `t` over a whole history are computed by `specT`:
`Initialised v` at the first `stabilise` at whose start `t` is registered on an observer that is created or in
use, then `Changed v` at exactly those later `stabilise`s (while still registered on a live observer) after which
the observer reads a value different from the one delivered last; nothing else.
-/
namespace IncrVerif.Proofs.SubsH
open IncrVerif.Engine IncrVerif.Driver IncrVerif.Proofs IncrVerif.Proofs.Step IncrVerif.Proofs.Sched
open IncrVerif.Proofs.Quiet

/-- the update of a notification for token `t` -/
def pickTok (t : Nat) : Event → Option Update
  | .notif t' u => if t' = t then some u else none
  | _ => none

/-- the updates delivered to token `t`, in chronological order (`State.log` is stored newest first) -/
def tokLog (t : Nat) (log : List Event) : List Update := log.reverse.filterMap (pickTok t)

/-- is token `t` registered on observer record `ob`, and is `ob` created or in use? -/
def liveOn (t : Nat) (ob : ObsRec) : Bool :=
  (ob.state == .created || ob.state == .inUse) && ob.handlers.any (·.token == t)

/-- the observer on which token `t` is registered and which is created or in use (if any) -/
def liveObs (s : State) (t : Nat) : Option Nat :=
  (List.range s.observers.size).find? fun o =>
    match s.observers[o]? with
    | some ob => liveOn t ob
    | none => false

/-- the value carried by an update -/
def valOf : Update → Option Val
  | .initialised v => some v
  | .changed v => some v
  | .invalidated => none

/-- what a subscription on observer `o` is told at the end of a `stabilise` that ended in `s'`, given the updates
`acc` it has received so far: `Initialised` the first time, afterwards `Changed` iff the value read differs
from the one delivered last -/
def nextUpdates (env : Env) (s' : State) (o : Nat) (acc : List Update) : List Update :=
  match s'.tryGetValue env o with
  | .ok v =>
    match acc.getLast? with
    | none => [.initialised v]
    | some u => if valOf u = some v then [] else [.changed v]
  | .error _ => []

/-- **the specification of the notifications of token `t`** along a history: only `stabilise` delivers, and
only while the token is registered on a created or in-use observer at the start of that `stabilise` -/
def specT (env : Env) (t : Nat) : List Action → State → Array Nat → List Update → List Update
  | [], _, _, acc => acc
  | a :: as, s, tk, acc =>
    match (stepAction env a tk).run.run s with
    | (.ok r, s') =>
      let acc' := match a with
        | .stabilise =>
          (match liveObs s t with
           | some o => acc ++ nextUpdates env s' o acc
           | none => acc)
        | _ => acc
      specT env t as s' r.2 acc'
    | (.error _, _) => acc

/-! ## `tokLog` -/

theorem tokLog_append (t : Nat) (a b : List Event) : tokLog t (a ++ b) = tokLog t b ++ tokLog t a := by
  unfold tokLog; rw [List.reverse_append, List.filterMap_append]

theorem tokLog_notNotif (t : Nat) (l : List Event) (h : ∀ e, e ∈ l → NotNotif e) : tokLog t l = [] := by
  unfold tokLog
  rw [List.filterMap_eq_nil_iff]
  intro e he
  have := h e (List.mem_reverse.1 he)
  cases e <;> first | rfl | exact this.elim

theorem tokLog_reverse (t : Nat) (l : List Event) : tokLog t l.reverse = l.filterMap (pickTok t) := by
  unfold tokLog; rw [List.reverse_reverse]

/-- a list of notifications with pairwise different tokens contains at most one for `t` -/
theorem filterMap_pick_of_nodup (t : Nat) (l : List Event) (hn : (l.filterMap notifTok).Nodup) :
    (∀ u, Event.notif t u ∈ l → l.filterMap (pickTok t) = [u]) ∧
    ((∀ u, Event.notif t u ∉ l) → l.filterMap (pickTok t) = []) := by
  induction l with
  | nil => exact ⟨fun u h => (List.not_mem_nil h).elim, fun _ => rfl⟩
  | cons e l ih =>
    cases e with
    | notif t' u' =>
      have hn' : t' ∉ l.filterMap notifTok ∧ (l.filterMap notifTok).Nodup := by
        simpa [List.filterMap_cons, notifTok] using hn
      obtain ⟨ih1, ih2⟩ := ih hn'.2
      by_cases e : t' = t
      · subst e
        have hnone : ∀ u, Event.notif t' u ∉ l := by
          intro u hu
          apply hn'.1
          rw [List.mem_filterMap]
          exact ⟨_, hu, rfl⟩
        constructor
        · intro u hu
          rcases List.mem_cons.1 hu with h | h
          · cases h
            simp only [List.filterMap_cons, pickTok, if_true]
            rw [ih2 hnone]
          · exact absurd h (hnone u)
        · intro h; exact absurd (List.mem_cons_self ..) (h u')
      · constructor
        · intro u hu
          rcases List.mem_cons.1 hu with h | h
          · cases h; exact absurd rfl e
          · simp only [List.filterMap_cons, pickTok, if_neg e]
            exact ih1 u h
        · intro h
          simp only [List.filterMap_cons, pickTok, if_neg e]
          exact ih2 fun u hu => h u (List.mem_cons_of_mem _ hu)
    | inv a b c d =>
      have hn' : (l.filterMap notifTok).Nodup := by simpa [List.filterMap_cons, notifTok] using hn
      obtain ⟨ih1, ih2⟩ := ih hn'
      constructor
      · intro u hu
        rcases List.mem_cons.1 hu with h | h
        · cases h
        · simp only [List.filterMap_cons, pickTok]; exact ih1 u h
      · intro h
        simp only [List.filterMap_cons, pickTok]
        exact ih2 fun u hu => h u (List.mem_cons_of_mem _ hu)
    | cut a b c d e' =>
      have hn' : (l.filterMap notifTok).Nodup := by simpa [List.filterMap_cons, notifTok] using hn
      obtain ⟨ih1, ih2⟩ := ih hn'
      constructor
      · intro u hu
        rcases List.mem_cons.1 hu with h | h
        · cases h
        · simp only [List.filterMap_cons, pickTok]; exact ih1 u h
      · intro h
        simp only [List.filterMap_cons, pickTok]
        exact ih2 fun u hu => h u (List.mem_cons_of_mem _ hu)
    | note a =>
      have hn' : (l.filterMap notifTok).Nodup := by simpa [List.filterMap_cons, notifTok] using hn
      obtain ⟨ih1, ih2⟩ := ih hn'
      constructor
      · intro u hu
        rcases List.mem_cons.1 hu with h | h
        · cases h
        · simp only [List.filterMap_cons, pickTok]; exact ih1 u h
      · intro h
        simp only [List.filterMap_cons, pickTok]
        exact ih2 fun u hu => h u (List.mem_cons_of_mem _ hu)

/-! ## live registrations -/

/-- token `t` is registered with record `h` on observer `o`, which is created or in use -/
def Live (s : State) (t o : Nat) (h : HandlerRec) : Prop :=
  ∃ ob, s.observers[o]? = some ob ∧ (ob.state = .created ∨ ob.state = .inUse) ∧ h ∈ ob.handlers ∧ h.token = t

theorem liveOn_iff (t : Nat) (ob : ObsRec) :
    liveOn t ob = true ↔ (ob.state = .created ∨ ob.state = .inUse) ∧ ∃ h, h ∈ ob.handlers ∧ h.token = t := by
  unfold liveOn
  simp only [Bool.and_eq_true, Bool.or_eq_true, beq_iff_eq, List.any_eq_true]

theorem liveObs_some {s : State} {t o : Nat} (h : liveObs s t = some o) : ∃ x, Live s t o x := by
  unfold liveObs at h
  have hp := List.find?_some h
  cases ho : s.observers[o]? with
  | none => rw [ho] at hp; cases hp
  | some ob =>
    rw [ho] at hp
    obtain ⟨hs, x, hx, ht⟩ := (liveOn_iff t ob).1 hp
    exact ⟨x, ob, ho, hs, hx, ht⟩

theorem liveObs_none {s : State} {t : Nat} (h : liveObs s t = none) (o : Nat) (x : HandlerRec) :
    ¬ Live s t o x := by
  rintro ⟨ob, ho, hs, hx, ht⟩
  unfold liveObs at h
  rw [List.find?_eq_none] at h
  have hlt : o < s.observers.size := (Array.getElem?_eq_some_iff.1 ho).1
  have := h o (List.mem_range.2 hlt)
  rw [ho] at this
  exact this ((liveOn_iff t ob).2 ⟨hs, x, hx, ht⟩)

theorem liveObs_of_live {s : State} {t o : Nat} {x : HandlerRec} (H : HInv s) (h : Live s t o x) :
    liveObs s t = some o := by
  cases hl : liveObs s t with
  | none => exact absurd h (liveObs_none hl o x)
  | some o' =>
    obtain ⟨x', ob', ho', -, hx', ht'⟩ := liveObs_some hl
    obtain ⟨ob, ho, -, hx, ht⟩ := h
    have : o' = o := H.tok.unique o' o ob' ob ho' ho t
      (List.mem_map.2 ⟨x', hx', ht'⟩) (List.mem_map.2 ⟨x, hx, ht⟩)
    rw [this]

theorem handler_unique {l : List HandlerRec} (hn : (l.map (·.token)).Nodup) {a b : HandlerRec}
    (ha : a ∈ l) (hb : b ∈ l) (e : a.token = b.token) : a = b := by
  induction l with
  | nil => cases ha
  | cons c l ih =>
    rw [List.map_cons, List.nodup_cons] at hn
    rcases List.mem_cons.1 ha with ha | ha <;> rcases List.mem_cons.1 hb with hb | hb
    · rw [ha, hb]
    · exfalso; apply hn.1; rw [← ha, e]; exact List.mem_map.2 ⟨b, hb, rfl⟩
    · exfalso; apply hn.1; rw [← hb, ← e]; exact List.mem_map.2 ⟨a, ha, rfl⟩
    · exact ih hn.2 ha hb

/-- two registrations of the same token are the same registration -/
theorem reg_unique {s : State} (H : HInv s) {t o1 o2 : Nat} {ob1 ob2 : ObsRec} {h1 h2 : HandlerRec}
    (e1 : s.observers[o1]? = some ob1) (m1 : h1 ∈ ob1.handlers) (t1 : h1.token = t)
    (e2 : s.observers[o2]? = some ob2) (m2 : h2 ∈ ob2.handlers) (t2 : h2.token = t) :
    o1 = o2 ∧ ob1 = ob2 ∧ h1 = h2 := by
  have : o1 = o2 := H.tok.unique o1 o2 ob1 ob2 e1 e2 t
    (List.mem_map.2 ⟨h1, m1, t1⟩) (List.mem_map.2 ⟨h2, m2, t2⟩)
  subst this
  rw [e1] at e2; cases e2
  exact ⟨rfl, rfl, handler_unique (H.tokNodup o1 ob1 e1) m1 m2 (t1.trans t2.symm)⟩

/-! ## the invariant linking the log of token `t` to the state -/

structure TInv (s : State) (t : Nat) (acc : List Update) : Prop where
  log : tokLog t s.log = acc
  unborn : s.nextToken ≤ t → acc = []
  live : ∀ o h, Live s t o h → (h.prev = .neverBeenUpdated ↔ acc = []) ∧
    (acc ≠ [] → ∃ ob u v, s.observers[o]? = some ob ∧ ob.state = .inUse ∧ acc.getLast? = some u ∧
      valOf u = some v ∧ (s.nodeD ob.node).value = some v)

theorem lifeLe_inUse {b : ObsState} (h : Life.lifeLe .inUse b) (hb : b = .created ∨ b = .inUse) :
    b = .inUse := by
  rcases hb with rfl | rfl
  · exact absurd h (by decide)
  · rfl

/-- every action other than `stabilise` keeps it -/
theorem TInv.nstep {s s' : State} {t : Nat} {acc : List Update} (T : TInv s t acc) (N : NStep s s') :
    TInv s' t acc := by
  refine ⟨by rw [N.log]; exact T.log, fun h => T.unborn (Nat.le_trans N.nextToken h), ?_⟩
  rintro o h ⟨ob', ho', hs', hh, ht⟩
  rcases N.recs o ob' h ho' hh with ⟨ob, ho, hm, hnode, hle⟩ | ⟨hfresh, hprev⟩
  · have hs : ob.state = .created ∨ ob.state = .inUse := P12a.lifeLe_back hle hs'
    obtain ⟨T1, T2⟩ := T.live o h ⟨ob, ho, hs, hm, ht⟩
    refine ⟨T1, fun hne => ?_⟩
    obtain ⟨ob0, u, v, ho0, hst0, hl, hv, hval⟩ := T2 hne
    rw [ho] at ho0; cases ho0
    rw [hst0] at hle
    exact ⟨ob', u, v, ho', lifeLe_inUse hle hs', hl, hv, by rw [hnode, N.value]; exact hval⟩
  · rw [ht] at hfresh
    have := T.unborn hfresh
    exact ⟨⟨fun _ => this, fun _ => hprev⟩, fun hne => absurd this hne⟩

theorem tinv_init (N : Nat) (d : Bool) (t : Nat) : TInv (State.init N d) t [] := by
  refine ⟨rfl, fun _ => rfl, ?_⟩
  rintro o h ⟨ob, ho, -⟩
  simp [State.init] at ho

/-! ## one `stabilise` -/

theorem obsInv_final {env : Env} {fuel : Nat} {s s' : State} (R : Stabilised env fuel s s') :
    ObsInv s' [] [] := by
  have := R.inv.core.obs
  unfold ObsOK at this
  rw [R.newObservers, R.disallowedObservers] at this
  exact this

/-- what the statements about the notifications of one token use of a `stabilise` from `s` to `s'` with the intermediate state `t3`
(`Stabilised.toH`); a `stabilise` whose functions and handlers write variables gives the same (`EffH.WStab.toH`) -/
structure StabH (env : Env) (s t3 s' : State) : Prop where
  mid : MidH env s t3 s'
  obs : ObsMap stabilisedState s s'
  obsInv : ObsInv s' [] []
  alive : s'.alive = true
  status : s'.status = .notStabilising
  /-- a necessary node stores the value that is read -/
  reads : ∀ n, s'.isNecessary n = true → ∃ v, (s'.nodeD n).value = some v ∧ s'.value env n = some v
  called : ∀ (o : Nat) (ob : ObsRec) (h : HandlerRec), s'.observers[o]? = some ob → ob.state = .inUse →
    h ∈ ob.handlers → h.prev ≠ .neverBeenUpdated
  /-- of the log of a token only the notifications of `stabiliseEnd` are new -/
  tokLog : ∀ t, tokLog t s'.log = tokLog t s.log ++ (endNotifs env t3).filterMap (pickTok t)

theorem Stabilised.toH {env : Env} {fuel : Nat} {s t3 s' : State} (R : Stabilised env fuel s s')
    (M : MidState env s t3 s') : StabH env s t3 s' where
  mid := M.toH
  obs := R.obs
  obsInv := obsInv_final R
  alive := R.inv.core.alive
  status := R.inv.core.status
  reads n hn := by
    obtain ⟨-, -, hval, hv, hsome⟩ := R.values n hn _ (Nat.lt_succ_self _)
    obtain ⟨v, hev⟩ := Option.isSome_iff_exists.1 hsome
    exact ⟨v, by rw [hval]; exact hev, by rw [hv]; exact hev⟩
  called := R.called
  tokLog t := by
    obtain ⟨pre, hpre, hnn⟩ := M.log
    rw [M.ended.log, hpre, tokLog_append, tokLog_append, tokLog_reverse, tokLog_notNotif t pre hnn, List.append_nil]

/-- a registration of `s` on a created or in-use observer, through a `stabilise`: the observer is in use
afterwards and reads `v`, and the handler is told `Initialised v` if it was never called, `Changed v` if the
stored value of the node changed, nothing otherwise -/
theorem StabH.live {env : Env} {s t3 s' : State} (X : StabH env s t3 s') {o : Nat} {ob : ObsRec} (h : HandlerRec)
    (ho : s.observers[o]? = some ob) (hs : ob.state = .created ∨ ob.state = .inUse) :
    ∃ ob' v, s'.observers[o]? = some ob' ∧ ob'.node = ob.node ∧ ob'.state = .inUse ∧
      (s'.nodeD ob.node).value = some v ∧ s'.tryGetValue env o = .ok v ∧
      expected s s' o h = (if h.prev = .neverBeenUpdated then some (.initialised v)
        else if (s.nodeD ob.node).value = some v then none else some (.changed v)) := by
  have M := X.mid
  obtain ⟨ob', ho', hn', hst'⟩ := X.obs.2 o ob ho
  have hst : ob'.state = .inUse := by
    rw [hst']; rcases hs with e | e <;> rw [e] <;> rfl
  have hmem : o ∈ (s'.nodeD ob'.node).observers := (X.obsInv.mem ob'.node o).2 ⟨ob', ho', rfl, Or.inl hst⟩
  obtain ⟨v, hvalue, hv⟩ := X.reads ob'.node (nec_of_mem_observers hmem)
  have hread : s'.tryGetValue env o = .ok v := tryGetValue_inUse X.alive X.status ho' hst hv
  refine ⟨ob', v, ho', hn', hst, by rw [← hn']; exact hvalue, hread, ?_⟩
  have hch : (s'.nodeD ob'.node).changedAt = (t3.nodeD ob'.node).changedAt := M.ended.changedAt _
  have hvl : (s'.nodeD ob'.node).value = (t3.nodeD ob'.node).value := M.ended.value _
  have hvc := (M.valchg ob'.node).1
  rw [← hch, ← hvl, hvalue] at hvc
  unfold expected
  rw [ho']
  simp only [hst, if_true, hvalue]
  by_cases hp : h.prev = .neverBeenUpdated
  · rw [if_pos hp, if_pos hp]
  · rw [if_neg hp, if_neg hp, ← hn']
    by_cases hc : (s'.nodeD ob'.node).changedAt = s.stabNum
    · rw [if_pos hc, if_neg (fun e => (hvc.1 hc) e.symm)]
    · rw [if_neg hc]
      have : (s.nodeD ob'.node).value = some v := by
        apply Classical.byContradiction
        intro hne
        exact hc (hvc.2 (fun e => hne e.symm))
      rw [if_pos this]

theorem stab_live {env : Env} {fuel : Nat} {s t3 s' : State} (R : Stabilised env fuel s s')
    (M : MidState env s t3 s') {o : Nat} {ob : ObsRec} (h : HandlerRec)
    (ho : s.observers[o]? = some ob) (hs : ob.state = .created ∨ ob.state = .inUse) :
    ∃ ob' v, s'.observers[o]? = some ob' ∧ ob'.node = ob.node ∧ ob'.state = .inUse ∧
      (s'.nodeD ob.node).value = some v ∧ s'.tryGetValue env o = .ok v ∧
      expected s s' o h = (if h.prev = .neverBeenUpdated then some (.initialised v)
        else if (s.nodeD ob.node).value = some v then none else some (.changed v)) :=
  (R.toH M).live h ho hs

/-- a registration of `s` on an observer that is neither created nor in use is told nothing -/
theorem expected_dead {s s' : State} (hobs : ObsMap stabilisedState s s')
    {o : Nat} {ob : ObsRec} (h : HandlerRec) (ho : s.observers[o]? = some ob)
    (hs : ¬ (ob.state = .created ∨ ob.state = .inUse)) : expected s s' o h = none := by
  obtain ⟨ob', ho', -, hst'⟩ := hobs.2 o ob ho
  have hst : ob'.state ≠ .inUse := by
    rw [hst']
    cases e : ob.state
    · exact absurd (Or.inl e) hs
    · exact absurd (Or.inr e) hs
    · intro x; cases x
    · intro x; cases x
  unfold expected
  rw [ho']
  simp only [hst, if_false]

theorem stab_dead {env : Env} {fuel : Nat} {s s' : State} (R : Stabilised env fuel s s')
    {o : Nat} {ob : ObsRec} (h : HandlerRec) (ho : s.observers[o]? = some ob)
    (hs : ¬ (ob.state = .created ∨ ob.state = .inUse)) : expected s s' o h = none :=
  expected_dead R.obs h ho hs

/-- every handler record after a `stabilise` comes from a record of the same observer with the same token -/
theorem stab_back {env : Env} {s t3 s' : State} (M : MidH env s t3 s') {o : Nat} {ob' : ObsRec}
    {h' : HandlerRec} (ho' : s'.observers[o]? = some ob') (hm : h' ∈ ob'.handlers) :
    ∃ ob h, s.observers[o]? = some ob ∧ h ∈ ob.handlers ∧ h.token = h'.token := by
  have hlt : o < t3.observers.size := by
    rw [← M.ended.obsSize]; exact (Array.getElem?_eq_some_iff.1 ho').1
  obtain ⟨ob3, ho3⟩ : ∃ ob3, t3.observers[o]? = some ob3 := ⟨_, Array.getElem?_eq_getElem hlt⟩
  have hlt0 : o < s.observers.size := by rw [← M.obsMap.1]; exact hlt
  obtain ⟨ob, ho⟩ : ∃ ob, s.observers[o]? = some ob := ⟨_, Array.getElem?_eq_getElem hlt0⟩
  have hh : ob3.handlers = ob.handlers := by
    have := M.handlers o
    rw [hOf_of_some ho3, hOf_of_some ho] at this
    exact this
  have hE := M.ended.obs o ob3 ho3
  rw [ho'] at hE
  injection hE with hE
  rw [hE] at hm
  split at hm
  · simp only [List.mem_map] at hm
    obtain ⟨h3, hm3, e3⟩ := hm
    refine ⟨ob, h3, ho, by rw [← hh]; exact hm3, ?_⟩
    rw [← e3]
    unfold stepPrev
    split <;> rfl
  · exact ⟨ob, h', ho, by rw [← hh]; exact hm, rfl⟩

/-- what `specT` appends at a `stabilise` -/
def accAfter (env : Env) (s s' : State) (t : Nat) (acc : List Update) : List Update :=
  match liveObs s t with
  | some o => acc ++ nextUpdates env s' o acc
  | none => acc

theorem getLast?_append_singleton {α} (l : List α) (a : α) : (l ++ [a]).getLast? = some a := by
  simp

/-- **a `stabilise` keeps the link between the log of `t` and the state**, extending the log of `t` by exactly
what `specT` says -/
theorem TInv.stabilise_of {env : Env} {s t3 s' : State} {t : Nat} {acc : List Update} (H : HInv s) (X : StabH env s t3 s')
    (T : TInv s t acc) : TInv s' t (accAfter env s s' t acc) := by
  have M := X.mid
  obtain ⟨-, hspec, hnodup⟩ := endNotifs_spec M
  obtain ⟨P1, P2⟩ := filterMap_pick_of_nodup t (endNotifs env t3) hnodup
  have hlog : tokLog t s'.log = acc ++ (endNotifs env t3).filterMap (pickTok t) := by rw [X.tokLog, T.log]
  have hnt : s'.nextToken = s.nextToken := by rw [M.ended.nextToken, M.nextToken]
  -- the case of a live registration
  have key : ∀ o ob h, s.observers[o]? = some ob → (ob.state = .created ∨ ob.state = .inUse) →
      h ∈ ob.handlers → h.token = t →
      ∃ ob' v, s'.observers[o]? = some ob' ∧ ob'.node = ob.node ∧ ob'.state = .inUse ∧
        (s'.nodeD ob.node).value = some v ∧ accAfter env s s' t acc = acc ++ nextUpdates env s' o acc ∧
        (endNotifs env t3).filterMap (pickTok t) = nextUpdates env s' o acc ∧
        ∃ u, (acc ++ nextUpdates env s' o acc).getLast? = some u ∧ valOf u = some v := by
    intro o ob h ho hs hm ht
    obtain ⟨ob', v, ho', hn', hst', hval', hread, hexp⟩ := X.live h ho hs
    have hlive : liveObs s t = some o := liveObs_of_live H ⟨ob, ho, hs, hm, ht⟩
    have hacc : accAfter env s s' t acc = acc ++ nextUpdates env s' o acc := by
      unfold accAfter; rw [hlive]
    -- membership in the delivered notifications is decided by this registration alone
    have hmem : ∀ u, Event.notif t u ∈ endNotifs env t3 ↔ expected s s' o h = some u := by
      intro u
      rw [hspec]
      constructor
      · rintro ⟨o2, ob2, h2, ho2, hm2, ht2, he2⟩
        obtain ⟨e1, e2, e3⟩ := reg_unique H ho2 hm2 ht2 ho hm ht
        subst e1; subst e3; exact he2
      · intro he; exact ⟨o, ob, h, ho, hm, ht, he⟩
    obtain ⟨T1, T2⟩ := T.live o h ⟨ob, ho, hs, hm, ht⟩
    refine ⟨ob', v, ho', hn', hst', hval', hacc, ?_⟩
    unfold nextUpdates
    rw [hread]
    by_cases hp : h.prev = .neverBeenUpdated
    · have hacc0 : acc = [] := T1.1 hp
      rw [if_pos hp] at hexp
      rw [hacc0]
      simp only [List.getLast?_nil, List.nil_append]
      exact ⟨P1 _ ((hmem _).2 hexp), _, rfl, rfl⟩
    · have hne : acc ≠ [] := fun e => hp (T1.2 e)
      obtain ⟨ob0, u, w, ho0, -, hl, hw, hvalw⟩ := T2 hne
      rw [ho] at ho0; cases ho0
      rw [if_neg hp, hvalw] at hexp
      rw [hl]
      simp only [hw]
      by_cases e : w = v
      · rw [if_pos (by rw [e])] at hexp ⊢
        refine ⟨P2 fun u' hu' => ?_, u, by rw [List.append_nil]; exact hl, by rw [hw, e]⟩
        rw [hmem, hexp] at hu'; cases hu'
      · have : ¬ (some w = some v) := fun x => e (Option.some.inj x)
        rw [if_neg this] at hexp ⊢
        exact ⟨P1 _ ((hmem _).2 hexp), _, getLast?_append_singleton _ _, rfl⟩
  -- no live registration: nothing is delivered
  have dead : liveObs s t = none → (endNotifs env t3).filterMap (pickTok t) = [] := by
    intro hl
    apply P2
    intro u hu
    rw [hspec] at hu
    obtain ⟨o2, ob2, h2, ho2, hm2, ht2, he2⟩ := hu
    have hs2 : ¬ (ob2.state = .created ∨ ob2.state = .inUse) :=
      fun hs => liveObs_none hl o2 h2 ⟨ob2, ho2, hs, hm2, ht2⟩
    rw [expected_dead X.obs h2 ho2 hs2] at he2; cases he2
  refine ⟨?_, ?_, ?_⟩
  · -- the log
    rw [hlog]
    cases hl : liveObs s t with
    | none => unfold accAfter; rw [hl, dead hl, List.append_nil]
    | some o =>
      obtain ⟨h, ob, ho, hs, hm, ht⟩ := liveObs_some hl
      obtain ⟨-, -, -, -, -, -, hacc, hdel, -⟩ := key o ob h ho hs hm ht
      rw [hacc, hdel]
  · -- unborn tokens
    intro hle
    rw [hnt] at hle
    have hacc0 := T.unborn hle
    cases hl : liveObs s t with
    | none => unfold accAfter; rw [hl]; exact hacc0
    | some o =>
      obtain ⟨h, ob, ho, hs, hm, ht⟩ := liveObs_some hl
      have := H.tok.fresh o ob ho t (List.mem_map.2 ⟨h, hm, ht⟩)
      omega
  · -- live registrations afterwards
    rintro o h' ⟨ob', ho', hs', hm', ht'⟩
    obtain ⟨ob, h, ho, hm, hth⟩ := stab_back M ho' hm'
    have ht : h.token = t := hth.trans ht'
    -- the observer was created or in use before
    obtain ⟨ob1, ho1, -, hst1⟩ := X.obs.2 o ob ho
    rw [ho'] at ho1; cases ho1
    have hs : ob.state = .created ∨ ob.state = .inUse := by
      cases e : ob.state
      · exact Or.inl rfl
      · exact Or.inr rfl
      · rw [e] at hst1
        rcases hs' with x | x <;> rw [x] at hst1 <;> cases hst1
      · rw [e] at hst1
        rcases hs' with x | x <;> rw [x] at hst1 <;> cases hst1
    obtain ⟨ob2, v, ho2, hn2, hst2, hval2, hacc, -, u, hlast, hvu⟩ := key o ob h ho hs hm ht
    rw [ho'] at ho2; cases ho2
    have hne : accAfter env s s' t acc ≠ [] := by
      rw [hacc]; intro e; rw [e] at hlast; cases hlast
    have hcalled := X.called o ob' h' ho' hst2 hm'
    refine ⟨⟨fun e => absurd e hcalled, fun e => absurd e hne⟩, fun _ => ?_⟩
    exact ⟨ob', u, v, ho', hst2, by rw [hacc]; exact hlast, hvu, by rw [hn2]; exact hval2⟩

theorem TInv.stabilise {env : Env} {fuel : Nat} {s s' : State} {t : Nat} {acc : List Update}
    (U : UInv env s) (heff : PureHandlers env) (hrun : (stabilise env fuel).run.run s = (.ok (), s'))
    (T : TInv s t acc) : TInv s' t (accAfter env s s' t acc) := by
  have R := stabilise_u U heff hrun
  obtain ⟨t3, M⟩ := R.mid
  exact TInv.stabilise_of U.hinv (R.toH M) T

/-! ## whole histories -/

/-- what one action appends to the updates of token `t` -/
def stepAcc (env : Env) (t : Nat) (a : Action) (s s' : State) (acc : List Update) : List Update :=
  match a with
  | .stabilise => accAfter env s s' t acc
  | _ => acc

theorem stepAcc_other (env : Env) (t : Nat) {a : Action} (s s' : State) (acc : List Update)
    (h : a ≠ .stabilise) : stepAcc env t a s s' acc = acc := by
  cases a <;> first | rfl | exact absurd rfl h

/-- one step of `specT` -/
theorem specT_cons_ok (env : Env) (t : Nat) (a : Action) (as : List Action) (s s' : State) (tk : Array Nat)
    (acc : List Update) (r : String × Array Nat) (hx : (stepAction env a tk).run.run s = (.ok r, s')) :
    specT env t (a :: as) s tk acc = specT env t as s' r.2 (stepAcc env t a s s' acc) := by
  rw [specT, hx]
  cases a <;> rfl

theorem specT_run {env : Env} (heff : PureHandlers env) {t : Nat} {acts : List Action} {s s' : State}
    {tk tk' : Array Nat} {acc : List Update} (U : UInv env s) (T : TInv s t acc)
    (ha : ∀ a, a ∈ acts → SubAction env a) (h : runActions env acts s tk = .ok (s', tk')) :
    TInv s' t (specT env t acts s tk acc) := by
  induction acts generalizing s tk acc with
  | nil => simp only [runActions] at h; cases h; exact T
  | cons a as ih =>
    simp only [runActions] at h
    rcases hx : (stepAction env a tk).run.run s with ⟨_ | r, s1⟩
    · rw [hx] at h; cases h
    · rw [hx] at h
      have hstep := step_u U heff (ha a (List.mem_cons_self ..)) hx
      rw [specT_cons_ok env t a as s s1 tk acc r hx]
      refine ih hstep.1 ?_ (fun b hb => ha b (List.mem_cons_of_mem _ hb)) h
      by_cases e : a = .stabilise
      · subst e
        exact T.stabilise U heff (step_stabilise hx)
      · rw [stepAcc_other env t s s1 acc e]
        exact T.nstep (hstep.2 e)

/-- **S3.** Along every history of the fragment from the initial state, the updates logged for token `t` are
exactly `specT`. -/
theorem history_notifications {env : Env} (heff : PureHandlers env) {N : Nat} {d : Bool}
    {acts : List Action} {s : State} {tk : Array Nat} (ha : ∀ a, a ∈ acts → SubAction env a)
    (h : runActions env acts (State.init N d) #[] = .ok (s, tk)) (t : Nat) :
    tokLog t s.log = specT env t acts (State.init N d) #[] [] :=
  (specT_run heff (uinv_init env N d) (tinv_init N d t) ha h).log

/-! ## consequences -/

/-- the shape of the updates of one subscription: `Initialised` first, then only `Changed` -/
def Shape : List Update → Prop
  | [] => True
  | u :: rest => (∃ v, u = .initialised v) ∧ ∀ x, x ∈ rest → ∃ w, x = .changed w

theorem shape_append {l : List Update} (h : Shape l) (hne : l ≠ []) (w : Val) : Shape (l ++ [.changed w]) := by
  cases l with
  | nil => exact absurd rfl hne
  | cons u rest =>
    refine ⟨h.1, fun x hx => ?_⟩
    rcases List.mem_append.1 hx with hx | hx
    · exact h.2 x hx
    · rw [List.mem_singleton] at hx; exact ⟨w, hx⟩

theorem shape_next (env : Env) (s' : State) (o : Nat) {acc : List Update} (h : Shape acc) :
    Shape (acc ++ nextUpdates env s' o acc) := by
  unfold nextUpdates
  cases s'.tryGetValue env o with
  | error e => simpa using h
  | ok v =>
    cases hl : acc.getLast? with
    | none =>
      rw [List.getLast?_eq_none_iff] at hl
      rw [hl]
      exact ⟨⟨v, rfl⟩, fun x hx => by cases hx⟩
    | some u =>
      dsimp only
      split
      · simpa using h
      · exact shape_append h (by intro e; rw [e] at hl; cases hl) v

/-- `specT` only produces `Initialised` once, first, and then `Changed` (never `Invalidated`) -/
theorem specT_shape (env : Env) (t : Nat) (acts : List Action) (s : State) (tk : Array Nat)
    {acc : List Update} (h : Shape acc) : Shape (specT env t acts s tk acc) := by
  induction acts generalizing s tk acc with
  | nil => exact h
  | cons a as ih =>
    rcases hx : (stepAction env a tk).run.run s with ⟨_ | r, s1⟩
    · rw [specT, hx]; exact h
    · rw [specT_cons_ok env t a as s s1 tk acc r hx]
      apply ih
      by_cases e : a = .stabilise
      · subst e
        show Shape (accAfter env s s1 t acc)
        unfold accAfter
        cases liveObs s t with
        | none => exact h
        | some o => exact shape_next env s1 o h
      · rw [stepAcc_other env t s s1 acc e]; exact h

/-- a dead token (`Life.Dead`: issued, and registered on no created or in-use observer) has no live registration -/
theorem liveObs_none_of_dead {s : State} {t : Nat} (h : Life.Dead s t) : liveObs s t = none := by
  cases hl : liveObs s t with
  | none => rfl
  | some o =>
    obtain ⟨x, ob, ho, hs, hx, ht⟩ := liveObs_some hl
    exfalso
    apply h.2 o ob ho
    unfold Life.liveTokens
    rcases hs with e | e <;> rw [e] <;> exact List.mem_map.2 ⟨x, hx, ht⟩

/-- an unissued token has no live registration -/
theorem liveObs_none_of_fresh {s : State} {t : Nat} (H : HInv s) (h : s.nextToken ≤ t) : liveObs s t = none := by
  cases hl : liveObs s t with
  | none => rfl
  | some o =>
    obtain ⟨x, ob, ho, hs, hx, ht⟩ := liveObs_some hl
    have := H.tok.fresh o ob ho t (List.mem_map.2 ⟨x, hx, ht⟩)
    omega

end IncrVerif.Proofs.SubsH
