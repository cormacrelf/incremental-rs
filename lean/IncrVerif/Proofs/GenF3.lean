import IncrVerif.Proofs.GenF2
/-!
# C03, combined fragment, part 3: the scope-field frame `CKey` for every API action and along histories
-/
open IncrVerif.Engine IncrVerif.Driver IncrVerif.Proofs IncrVerif.Proofs.Step IncrVerif.Proofs.Footprint
namespace IncrVerif.Proofs.GenF.CK

theorem PresCK.subscribe (o h) : Step.Pres CKey (subscribe o h) := (Foot.subscribe o h).frame CKey.of_edit
theorem PresCK.unsubscribe (o t ow) : Step.Pres CKey (unsubscribe o t ow) := (Foot.unsubscribe o t ow).frame CKey.of_edit
theorem PresCK.setMaxHeightAllowed (k) : Step.Pres CKey (setMaxHeightAllowed k) := (Foot.setMaxHeightAllowed k).frame CKey.of_edit

/-- every API action, every outcome: existing nodes keep their scope field, existing bind records stay -/
theorem PresCK.stepAction (env : Env) (a : Action) (tokens : Array Nat) : Step.Pres CKey (stepAction env a tokens) :=
  (Foot.stepAction env a tokens).lift fun e => by
    cases e with
    | engine e => exact CKey.of_edit e
    | _ => exact CKey.of_eq rfl rfl

theorem ckey_runActions (env : Env) : ∀ (acts : List Action) (s s' : State) (tk tk' : Array Nat),
    Quiet.runActions env acts s tk = .ok (s', tk') → CKey s s' := fun _ s _ _ _ h =>
  Hist.runActions_inv (I := fun t _ _ => CKey s t)
    (fun a _ t tk _ t' K hx => PreOrd.trans K ((PresCK.stepAction env a tk).h t _ t' hx)) (PreOrd.refl s) h

end IncrVerif.Proofs.GenF.CK
