import IncrVerif.Proofs.FullH3
import IncrVerif.Proofs.FullH7
/-!
# C01 full fragment: virtualisation commutes with node creation, part 1
(`createNode`, `createVar`, `createBind`, `resolveOpnd`, `isConstant`; as MapRef19, with scopes, binds, `VM`)
-/
namespace IncrVerif.Proofs.FullH
open IncrVerif.Engine IncrVerif.Proofs IncrVerif.Proofs.Step IncrVerif.Proofs.Sched IncrVerif.Proofs.Quiet
open IncrVerif.Proofs.MapOldH (enc dec WId dec_enc MReach GoodMachine)

/-- instructions whose elaboration is simulated (virtual counterpart: `virtI`) -/
def InstrS (env : Env) (sp : Nat → Val → Val) : Instr → Prop
  | .const _ => True | .lhsConst => True | .var _ => True
  | .map f _ => f < pBase ∧ (f < fnZip → ∀ vals, env.fnEff f vals = [])
  | .fold _ _ _ => True
  | .mapRef p _ => PId p
  | .mapWithOld m _ => WId m ∧ Good env sp m
  | .bind _ _ => True | .zip _ _ => True | .dependOn _ _ => True
  | _ => False
/-- operands that name existing nodes: `.outer k` (resolved through `top`) and `.loc j` -/
def OpndS : Opnd → Prop | .outer _ => True | .loc _ => True | _ => False
/-- the naming table and the locals name nodes of the state -/
def TopLt (s : State) : Prop := ∀ (k r : Nat), s.top[k]? = some r → r < s.nodes.size

/-- the operands of a (simulated) instruction -/
def InstrOpnds : Instr → List Opnd
  | .map _ args => args
  | .fold _ _ cs => cs
  | .mapRef _ o => [o]
  | .mapWithOld _ o => [o]
  | .bind _ o => [o]
  | .zip a b => [a, b]
  | .dependOn a b => [a, b]
  | _ => []

namespace SC

/-! ## generic calculus additions -/

/-- `s' = s` -/
def SameS (s s' : State) : Prop := s' = s
instance : Step.PreOrd SameS := ⟨fun _ => rfl, fun h1 h2 => Eq.trans h2 h1⟩

theorem RO.resolveOpnd (loc : List Nat) (o : Opnd) : Step.Pres SameS (Engine.resolveOpnd loc o) := by
  unfold Engine.resolveOpnd; qpres

theorem RO.isConstant (n : Nat) : Step.Pres SameS (Engine.isConstant n) := by
  unfold Engine.isConstant; qpres

section
variable {K : Kind → Prop} {g : Nat → Option Val} {s : State} {α β : Type}

/-- a read-only program followed by a continuation: the continuation starts in the same state -/
theorem ro_seq {x x' : M α} {f f' : α → M β} (hro : Step.Pres SameS x) (hx : SimAt K g s x x')
    (hf : ∀ a, x.run.run s = (.ok a, s) → SimAt K g s (f a) (f' a)) : SimAt K g s (x >>= f) (x' >>= f') := by
  refine SimAt.seq hx fun a s1 h1 => ?_
  have e : s1 = s := hro.h s _ s1 h1
  subst e; exact hf a h1

theorem simAt_map {x x' : M α} (f : α → β) (hx : SimAt K g s x x') : SimAt K g s (f <$> x) (f <$> x') := by
  rw [map_eq_pure_bind, map_eq_pure_bind]
  exact SimAt.seq hx fun _ _ _ => SimAt.ret _

theorem sim_mapM {γ : Type} {f f' : γ → M β} (h : ∀ a, Sim K g (f a) (f' a)) (l : List γ) :
    Sim K g (l.mapM f) (l.mapM f') := by
  induction l with
  | nil => intro s; simp only [List.mapM_nil]; exact SimAt.ret _
  | cons a l ih =>
    intro s
    simp only [List.mapM_cons]
    exact SimAt.seq (h a s) fun _ s1 _ => SimAt.seq (ih s1) fun _ _ _ => SimAt.ret _

end

/-! ## the state after `createNode` -/

/-- the state after `createNode k sc c` -/
def crState (k : Kind) (sc : Scope) (c : CutoffK) (s : State) : State :=
  let s1 : State := { s with
    counters := { s.counters with created := s.counters.created + 1 }
    nodes := s.nodes.push { kind := k, createdIn := sc, cutoff := c } }
  match sc with
  | .top => s1
  | .bind b => { s1 with binds := s1.binds.modify b fun x =>
      { x with allNodesCreatedOnRhs := x.allNodesCreatedOnRhs ++ [s.nodes.size] } }

theorem run_createNode (k : Kind) (sc : Scope) (c : CutoffK) (s : State) :
    (Engine.createNode k sc c).run.run s = (.ok s.nodes.size, crState k sc c s) := by
  unfold Engine.createNode crState
  cases sc <;> rfl

theorem crState_nodes (k : Kind) (sc : Scope) (c : CutoffK) (s : State) :
    (crState k sc c s).nodes = s.nodes.push { kind := k, createdIn := sc, cutoff := c } := by
  unfold crState; cases sc <;> rfl

theorem crState_top (k : Kind) (sc : Scope) (c : CutoffK) (s : State) : (crState k sc c s).top = s.top := by
  unfold crState; cases sc <;> rfl

theorem crState_size (k : Kind) (sc : Scope) (c : CutoffK) (s : State) :
    (crState k sc c s).nodes.size = s.nodes.size + 1 := by
  rw [crState_nodes, Array.size_push]

theorem crState_nodeD (k : Kind) (sc : Scope) (c : CutoffK) (s : State) (m : Nat) :
    (crState k sc c s).nodeD m =
      if m = s.nodes.size then { kind := k, createdIn := sc, cutoff := c } else s.nodeD m := by
  simp only [State.nodeD, crState_nodes, Array.getElem?_push]
  split <;> rfl

theorem virtNode_new (k : Kind) (sc : Scope) (c : CutoffK) :
    virtNode none { kind := k, createdIn := sc, cutoff := c } =
      { kind := virtKind k, createdIn := sc, cutoff := virtCut k c } := by
  cases k <;> rfl

variable {K : Kind → Prop} {g : Nat → Option Val}

theorem virt_push (s : State) (nd : Node) :
    (s.nodes.push nd).mapIdx (fun i x => virtNode (g i) x) =
      ((virt g s).nodes).push (virtNode (g s.nodes.size) nd) := by
  simp [virt, Array.mapIdx_push]

theorem virt_crState (k : Kind) (sc : Scope) (c : CutoffK) (s : State) (hg : g s.nodes.size = none) :
    virt g (crState k sc c s) = crState (virtKind k) sc (virtCut k c) (virt g s) := by
  have h := virt_push (g := g) s { kind := k, createdIn := sc, cutoff := c }
  rw [hg, virtNode_new] at h
  unfold crState virt at *
  cases sc <;> simp only [] <;> rw [h] <;> simp

theorem fr_crState {k : Kind} (sc : Scope) {c : CutoffK} {s : State} (hn : Fr K g s) (hk : K k)
    (hne : ∀ e, k ≠ .expert e) (hc : CutK k c) : Fr K g (crState k sc c s) := by
  refine ⟨fun m hm => ?_, fun m e => ?_, fun m => ?_, fun m hm => ?_⟩
  · rw [crState_nodeD]; rw [crState_size] at hm
    split
    · exact hk
    · exact hn.kinds m (by omega)
  · rw [crState_nodeD]
    split
    · exact hne e
    · exact hn.noExp m e
  · rw [crState_nodeD]
    split
    · exact hc
    · exact hn.cut m
  · rw [crState_size] at hm; exact hn.fresh m (by omega)

theorem vm_crState (k : Kind) (sc : Scope) (c : CutoffK) (s : State)
    (hb : ∀ p i, k = .mapRef p i → i < s.nodes.size) : VM s (crState k sc c s) := by
  refine ⟨by rw [crState_size]; omega, fun m h => ?_, fun m hm => ?_, fun m hm h => ?_, fun m h1 h2 => ?_⟩
  · rw [crState_nodeD]
    split
    · rename_i e; subst e
      rw [nodeD_default_of_ge s _ (Nat.le_refl _)] at h; cases h
    · exact h
  · rw [crState_nodeD, if_neg (by omega)]; exact ⟨rfl, rfl, rfl⟩
  · rw [crState_nodeD, if_neg (by omega)] at h; exact h
  · rw [crState_size] at h2
    have e : m = s.nodes.size := by omega
    subst e
    rw [crState_nodeD, if_pos rfl]
    exact ⟨rfl, rfl, fun p i hk => hb p i hk⟩

/-- `createNode` for an arbitrary kind predicate -/
theorem simAt_createNode {s : State} {k : Kind} (sc : Scope) (c : CutoffK) (hk : K k) (hne : ∀ e, k ≠ .expert e)
    (hb : ∀ p i, k = .mapRef p i → i < s.nodes.size) (hc : CutK k c) :
    SimAt K g s (Engine.createNode k sc c) (Engine.createNode (virtKind k) sc (virtCut k c)) := by
  intro hn r s' hr
  rw [run_createNode] at hr ⊢
  cases hr
  rw [virt_size, virt_crState k sc c s (hn.fresh _ (Nat.le_refl _))]
  exact ⟨rfl, fr_crState sc hn hk hne hc, vm_crState k sc c s hb⟩

/-- what a successful `createNode` does to the naming data -/
theorem createNode_inv {k : Kind} {sc : Scope} {c : CutoffK} {s s' : State} {n : Nat}
    (h : (Engine.createNode k sc c).run.run s = (.ok n, s')) :
    n = s.nodes.size ∧ s'.top = s.top ∧ s'.nodes.size = s.nodes.size + 1 := by
  rw [run_createNode] at h; cases h
  exact ⟨rfl, crState_top _ _ _ _, crState_size _ _ _ _⟩

end SC

/-! ## the headline statements -/

section
variable {env : Env} {sp : Nat → Val → Val} {g : Nat → Option Val}

theorem FK.noExp {k : Kind} (hk : FK env sp k) (e : Nat) : k ≠ .expert e := by
  intro h; subst h; exact hk

/-- **virtualisation commutes with `createNode`** -/
theorem SimAt.createNode {s : State} (k : Kind) (sc : Scope) (c : CutoffK) (hk : FK env sp k)
    (hb : ∀ p i, k = .mapRef p i → i < s.nodes.size) (hc : CutK k c) :
    SimAt (FK env sp) g s (Engine.createNode k sc c) (Engine.createNode (virtKind k) sc (virtCut k c)) :=
  SC.simAt_createNode sc c hk (FK.noExp hk) hb hc

theorem Sim.createVar (v : Val) (sc : Scope) :
    Sim (FK env sp) g (Engine.createVar v sc) (Engine.createVar v sc) := by
  intro s
  unfold Engine.createVar
  refine SimAt.get_seq ?_
  fnorm
  refine SimAt.seq (SimAt.createNode (.var s.vars.size) sc .eq trivial (fun p i h => by cases h)
    (Or.inl rfl)) fun _ _ _ => ?_
  fsim

theorem SimAt.createBind {s : State} (body lhs : Nat) :
    SimAt (FK env sp) g s (Engine.createBind body lhs) (Engine.createBind body lhs) := by
  unfold Engine.createBind
  refine SimAt.get_seq ?_
  fnorm
  refine SimAt.mod_seq rfl rfl ?_
  refine SimAt.seq (SimAt.createNode (.bindLhsChange s.binds.size) s.currentScope .never trivial
    (fun p i h => by cases h) (Or.inr (Or.inl rfl))) fun lc _ _ => ?_
  refine SimAt.seq (SimAt.createNode (.bindMain s.binds.size lc) s.currentScope .eq trivial
    (fun p i h => by cases h) (Or.inl rfl)) fun mn _ _ => ?_
  fsim

theorem Sim.resolveOpnd {K : Kind → Prop} (loc : List Nat) (o : Opnd) :
    Sim K g (Engine.resolveOpnd loc o) (Engine.resolveOpnd loc o) :=
  .of_comm fun s0 => NodeSim.Comm.resolveOpnd (blind s0) loc o
macro_rules | `(tactic| fsim_leaf) => `(tactic| with_reducible exact Sim.resolveOpnd _ _)

theorem Sim.isConstant {K : Kind → Prop} (n : Nat) : Sim K g (Engine.isConstant n) (Engine.isConstant n) :=
  .of_comm fun s0 => NodeSim.Comm.isConstant (blind s0) n
macro_rules | `(tactic| fsim_leaf) => `(tactic| with_reducible exact Sim.isConstant _)

end
end IncrVerif.Proofs.FullH
