import IncrVerif.Proofs.FullH14
import IncrVerif.Proofs.FullH18
import IncrVerif.Proofs.FullH30
import IncrVerif.Proofs.FullH25
import IncrVerif.Proofs.FullH41
import IncrVerif.Proofs.FullH26
/-!
# C01 full fragment: THE DRAIN — every step of the actual drain keeps the drain invariant `DInvF`

A step of a static / `bindMain` node is simulated (same ghost), a run of a change detector is simulated (the ghost is erased on the dying generation):
the theorems of fragment F2 apply to the virtual run.  The steps of `map_ref` / `map_with_old` nodes are described directly (`step_mapRef`, `step_mwo`).
The two facts about a run of a change detector are taken as the hypotheses `LcSimSpec` (simulation) and `LcKSpec` (`didChange` invariant).
-/
namespace IncrVerif.Proofs.FullH
open IncrVerif.Engine IncrVerif.Driver IncrVerif.Proofs IncrVerif.Proofs.Step IncrVerif.Proofs.Sched IncrVerif.Proofs.Quiet
open IncrVerif.Proofs.MapOldH (MReach)
open IncrVerif.Proofs.BindH (DInv BGraph StepRelB FrameB TargetB)
open IncrVerif.Proofs.NestH (AuxS2 Aux2 GenOK2 F2Inv StepL2 LcStepsOK2)

/-- the simulation of a run of a change detector -/
def LcSimSpec (env : Env) (sp : Nat → Val → Val) : Prop :=
  ∀ (t s : State) (g : Nat → Option Val) (fuel n b : Nat) (r : Option Nat) (s' : State),
    DInvF env sp t s g (some n) → (s.nodeD n).kind = .bindLhsChange b →
    (recomputeOne env fuel n).run.run s = (.ok r, s') →
    ∃ g', (recomputeOne (VE env sp) fuel n).run.run (virt g s) = (.ok r, virt g' s') ∧ Fr (FK env sp) g' s' ∧ GR g g' s s'

/-- the `didChange` invariant through a run of a change detector -/
def LcKSpec (env : Env) (sp : Nat → Val → Val) : Prop :=
  ∀ (t s : State) (g g' : Nat → Option Val) (fuel n b : Nat) (r : Option Nat) (s' : State),
    DInvF env sp t s g (some n) → (s.nodeD n).kind = .bindLhsChange b →
    (recomputeOne env fuel n).run.run s = (.ok r, s') →
    (recomputeOne (VE env sp) fuel n).run.run (virt g s) = (.ok r, virt g' s') → Fr (FK env sp) g' s' → GR g g' s s' →
    KInv env g' s'

/-- the step of a `map_with_old` node -/
def MwoStepSpec (env : Env) (sp : Nat → Val → Val) : Prop :=
  ∀ (t s : State) (g : Nat → Option Val) (fuel n m i : Nat) (r : Option Nat) (s' : State),
    DInvF env sp t s g (some n) → (s.nodeD n).kind = .mapWithOld m i →
    (recomputeOne env fuel n).run.run s = (.ok r, s') →
    DInvF env sp t s' g r ∧ FrameB (virt g s) (virt g s') ∧
      ((virt g s').nodeD n).recomputedAt = s.stabNum ∧ ((virt g s').nodeD n).valid = true

/-- the verdict step: a static / `bindMain` node whose actual cutoff is `.never` or `.dependOn a` -/
def VdStepSpec (env : Env) (sp : Nat → Val → Val) : Prop :=
  ∀ (t s : State) (g : Nat → Option Val) (fuel n : Nat) (r : Option Nat) (s' : State),
    DInvF env sp t s g (some n) → (∀ p i, (s.nodeD n).kind ≠ .mapRef p i) → (∀ m i, (s.nodeD n).kind ≠ .mapWithOld m i) →
    (∀ b, (s.nodeD n).kind ≠ .bindLhsChange b) → (s.nodeD n).cutoff ≠ .eq →
    (recomputeOne env fuel n).run.run s = (.ok r, s') →
    DInvF env sp t s' g r ∧ FrameB (virt g s) (virt g s') ∧
      ((virt g s').nodeD n).recomputedAt = s.stabNum ∧ ((virt g s').nodeD n).valid = true

section
variable {env : Env} {sp : Nat → Val → Val}

theorem kc_of_vm {s s' : State} (v : VM s s') (hsz : s'.nodes.size = s.nodes.size) (m : Nat) :
    (s'.nodeD m).kind = (s.nodeD m).kind ∧ (s'.nodeD m).cutoff = (s.nodeD m).cutoff := by
  by_cases hm : m < s.nodes.size
  · exact ⟨(v.kind m hm).1, (v.kind m hm).2.1⟩
  · rw [nodeD_default_of_ge s m (by omega), nodeD_default_of_ge s' m (by omega)]; exact ⟨rfl, rfl⟩

/-- the scheduling hypothesis of fragment F2 for the virtual environment, with `GenOK2` -/
theorem hVirt (env : Env) (sp : Nat → Val → Val) (t : State) :
    LcStepsOK2 (VE env sp) (fun s => AuxS2 (VE env sp) t s ∧ GenOK2 (VE env sp) s) :=
  NestH.lcStepsOK_gen2 (NestH.closure_spec2 _) (NestH.relink_spec2 _) (NestH.inval_spec2 _) (NestH.closure_elab2' _) t

theorem mapRefsBack_of_vm {s s' : State} (hb : MapRefsBack s) (v : VM s s') : MapRefsBack s' := by
  intro n nd p i hn hk
  have hlt := lt_of_some hn
  have hk' : (s'.nodeD n).kind = .mapRef p i := by rw [nodeD_of_some hn]; exact hk
  by_cases h : n < s.nodes.size
  · rw [(v.kind n h).1] at hk'
    exact hb n (s.nodeD n) p i (some_of_lt h) hk'
  · exact (v.newn n (by omega) hlt).2.2 p i hk'

theorem KInv.of_ghost {g g' : Nat → Option Val} {s : State} (K : KInv env g s)
    (h : ∀ m, (s.nodeD m).valid = true → g' m = g m) : KInv env g' s := by
  intro m p i hv hn hk hd
  rw [h m hv]; exact K m p i hv hn hk hd

theorem valid_of_vm {s s' : State} (v : VM s s') {m : Nat} (h : (s'.nodeD m).valid = true) : (s.nodeD m).valid = true := by
  cases hv : (s.nodeD m).valid with
  | true => rfl
  | false => rw [v.valid m hv] at h; cases h

/-- the machine invariant after a simulated step: old `map_with_old` nodes that are valid afterwards kept their stored value (`hval`, from the virtual
step relation), new ones are pristine -/
theorem minv_after {s s' : State} {n : Nat} (M : MInv env s) (v : VM s s') (nv : NVn n s s') (hn : n < s.nodes.size)
    (hnk : ∀ m i, (s'.nodeD n).kind ≠ .mapWithOld m i)
    (hval : ∀ x m i, x < s.nodes.size → x ≠ n → (s'.nodeD x).valid = true → (s.nodeD x).kind = .mapWithOld m i →
      (s'.nodeD x).value = (s.nodeD x).value) :
    MInv env s' := by
  intro x m i hv hk
  by_cases hx : x < s.nodes.size
  · have hxn : x ≠ n := by
      intro e; subst e; exact hnk m i hk
    obtain ⟨k1, -, k3⟩ := v.kind x hx
    have hk0 : (s.nodeD x).kind = .mapWithOld m i := by rw [← k1]; exact hk
    rw [hval x m i hx hxn hv hk0, k3]
    exact M x m i (valid_of_vm v hv) hk0
  · have hx' : x < s'.nodes.size := by
      by_cases h : x < s'.nodes.size
      · exact h
      · rw [nodeD_default_of_ge s' x (by omega)] at hk; cases hk
    have hxn : x ≠ n := by omega
    rw [nv.new x hxn (by omega) hx', (v.newn x (by omega) hx').2.1]
    exact MReach.init

theorem virt_value_field (g : Nat → Option Val) (s : State) {x : Nat} (h : ∀ p i, (s.nodeD x).kind ≠ .mapRef p i) :
    ((virt g s).nodeD x).value = (s.nodeD x).value := by
  rw [virt_nodeD, virtNode_value_of_not_mapRef _ _ h]

/-- **one step of the drain, a node that is simulated** (static kinds, `bindMain`, change detectors): the drain invariant again, and the run of the virtual engine -/
theorem step_simulated (LS : LcSimSpec env sp) (LK : LcKSpec env sp) {t s : State} {g : Nat → Option Val} {fuel n : Nat}
    {r : Option Nat} {s' : State} (D : DInvF env sp t s g (some n))
    (hk1 : ∀ p i, (s.nodeD n).kind ≠ .mapRef p i) (hk2 : ∀ m i, (s.nodeD n).kind ≠ .mapWithOld m i)
    (hex : (s.nodeD n).cutoff = .eq ∨ ∃ b, (s.nodeD n).kind = .bindLhsChange b)
    (h : (recomputeOne env fuel n).run.run s = (.ok r, s')) :
    ∃ g', DInvF env sp t s' g' r ∧ FrameB (virt g s) (virt g' s') ∧
      ((virt g' s').nodeD n).recomputedAt = s.stabNum ∧ ((virt g' s').nodeD n).valid = true ∧
      (recomputeOne (VE env sp) fuel n).run.run (virt g s) = (.ok r, virt g' s') := by
  have I := D.inv
  have gr := I.graph
  obtain ⟨hnec, hnlt, hnv, -, -⟩ := I.cur_facts
  rw [virt_size] at hnlt
  rw [virt_nodeD, virtNode_valid] at hnv
  have hkids := kids_settled D
  have nv := recomputeOne_nv env fuel n s s' r h
  have hBk := (gr.node n (by rw [virt_size]; exact hnlt) (by rw [virt_nodeD, virtNode_valid]; exact hnv)).1
  rw [virt_nodeD, virtNode_kind] at hBk
  by_cases hk3 : ∀ b, (s.nodeD n).kind ≠ .bindLhsChange b
  · -- static kind or `bindMain`: same ghost
    have hrhs : ∀ b lc br r0, (s.nodeD n).kind = .bindMain b lc → s.binds[b]? = some br → br.rhs = some r0 →
        (s.nodeD r0).valid = true := by
      intro b lc br r0 hkd hb hr
      have hc : r0 ∈ (virt g s).children n := by
        rw [virt_children]
        unfold State.children Node.kind?
        rw [hnv, hkd]
        simp only [if_true, hb, hr]
        simp
      have := ((gr.node n (by rw [virt_size]; exact hnlt) (by rw [virt_nodeD, virtNode_valid]; exact hnv)).2.2 r0 hc).2
      rw [virt_nodeD, virtNode_valid] at this
      exact this
    have hcn : (s.nodeD n).cutoff = .eq := by
      rcases hex with e | ⟨b, e⟩
      · exact e
      · exact absurd e (hk3 b)
    obtain ⟨hv, hfr, vm⟩ := recomputeOne_sim D.frag hnlt hnv hk1 hk2 hk3 hcn hrhs (fun a ha => (hkids a ha).1) h
    have hkS : StaticKind (VE env sp) ((virt g s).nodeD n).kind ∨ ∃ b lc, ((virt g s).nodeD n).kind = .bindMain b lc := by
      rw [virt_nodeD, virtNode_kind]
      cases hkd : (s.nodeD n).kind <;> rw [hkd] at hBk <;> simp only [virtKind] at hBk ⊢ <;>
        first
        | exact Or.inl hBk
        | exact Or.inr ⟨_, _, rfl⟩
        | exact absurd hkd (hk3 _)
    obtain ⟨v, ch, ht, R⟩ := BindH.recomputeOne_stepB gr I.heap hnec hkS I.kids_values hv
    have I' := BindH.stepB_inv I ht R
    have A' := (hVirt env sp t).other fuel n _ _ r I ⟨D.aux, D.gen⟩ hkS hv
    obtain ⟨K', F'⟩ := static_keepsK' D hk1 hk2 hk3 (Or.inl hcn) h
    have hsz' : s'.nodes.size = s.nodes.size := by have := R.size; rw [virt_size, virt_size] at this; exact this
    obtain ⟨Dp', C'⟩ := dep_stepB D.dep D.cr I R (fun m => (kc_of_vm vm hsz' m).1) (fun m => (kc_of_vm vm hsz' m).2)
      (fun a b _ hc => by rw [hcn] at hc; cases hc)
    refine ⟨g, ⟨F', I', A'.1, A'.2, K', ?_, D.gs.of_gr (GR.of_vm vm), Dp', C'⟩, R.frame, R.recomputedAt, by rw [R.shape.valid]; rw [virt_nodeD, virtNode_valid]; exact hnv, hv⟩
    refine minv_after D.m vm nv hnlt (fun m i hk => hk2 m i (by rw [← (vm.kind n hnlt).1]; exact hk)) ?_
    intro x m i hx hxn hxv hkx
    have hmr : ∀ p i, (s.nodeD x).kind ≠ .mapRef p i := by intro p i; rw [hkx]; intro h; cases h
    have h1 := (R.other x hxn).value
    rw [virt_value_field g s hmr, virt_value_field g s' (by rw [(vm.kind x hx).1]; exact hmr)] at h1
    exact h1
  · -- a change detector: the ghost may be erased on the dying generation
    have : ∃ b, (s.nodeD n).kind = .bindLhsChange b := by
      cases hkd : (s.nodeD n).kind <;>
        first | exact ⟨_, rfl⟩ | (exfalso; apply hk3; intro b; rw [hkd]; intro h; cases h)
    obtain ⟨b, hkb⟩ := this
    obtain ⟨g', hv, hfr, R0⟩ := LS t s g fuel n b r s' D hkb h
    have hkv : ((virt g s).nodeD n).kind = .bindLhsChange b := by rw [virt_nodeD, virtNode_kind, hkb]; rfl
    obtain ⟨⟨br, br', R⟩, A'⟩ := (hVirt env sp t).lc fuel n b _ _ r I ⟨D.aux, D.gen⟩ hkv hv
    have I' := NestH.stepL2_inv I hkv R
    have K' := LK t s g g' fuel n b r s' D hkb h hv hfr R0
    have hback := mapRefsBack_of_vm D.frag.back R0.vm
    have hpc : s'.panicCountdown = none := I'.graph.pc
    have hkids' : ∀ x c, (s'.nodeD x).valid = true → c ∈ s'.children x → (s'.nodeD c).valid = true ∧ c < s'.nodes.size := by
      intro x c hxv hc
      have hx : x < s'.nodes.size := by
        by_cases hx : x < s'.nodes.size
        · exact hx
        · rw [Step.children_default s' x (by omega)] at hc; cases hc
      have := (I'.graph.node x (by rw [virt_size]; exact hx) (by rw [virt_nodeD, virtNode_valid]; exact hxv)).2.2 c
        (by rw [virt_children]; exact hc)
      rw [virt_size, virt_nodeD, virtNode_valid] at this
      exact ⟨this.2, this.1⟩
    obtain ⟨Dp', C'⟩ := dep_stepL2 D.dep D.cr I hkb R R0.vm nv hnlt hkids'
    refine ⟨g', ⟨⟨hfr, hback, hpc⟩, I', A'.1, A'.2, K', ?_, D.gs.of_gr R0, Dp', C'⟩, R.frame I, R.self.1, R.self.2.2.2.1, hv⟩
    refine minv_after D.m R0.vm nv hnlt (fun m i hk => ?_) ?_
    · rw [(R0.vm.kind n hnlt).1, hkb] at hk; cases hk
    · intro x m i hx hxn hxv hkx
      have hmr : ∀ p i, (s.nodeD x).kind ≠ .mapRef p i := by intro p i; rw [hkx]; intro h; cases h
      rcases R.old x (by rw [virt_size]; exact hx) hxn with ⟨-, hd, -⟩ | ⟨-, -, -, h4, -⟩
      · rw [virt_nodeD, virtNode_valid, hxv] at hd; cases hd
      · rw [virt_value_field g s hmr, virt_value_field g' s' (by rw [(R0.vm.kind x hx).1]; exact hmr)] at h4
        exact h4

end
end IncrVerif.Proofs.FullH
