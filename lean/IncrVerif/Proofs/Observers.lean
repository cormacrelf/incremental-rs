import IncrVerif.Proofs.Footprint
import IncrVerif.Proofs.StepInv
/-!
# Helper lemmas for C10 (observer lifecycle) and C07 (frame part: reads move only at stabilise)

* `Frame s s'`: `s'` agrees with `s` on everything `State.tryGetValue` of an *old* observer can see
  (`alive`, `status`, the `node`/`state` of old observer records, the `kind`/`valid`/`value` of old
  nodes); nodes and observers may have been appended.  `FrameS` adds "no node was appended".
* `Pres R m`: every run of `m`, returning or panicking, relates the initial and final state by `R`
  (the same notion as `Step.Pres`: `Pres.toStep`, `Step.Pres.toObs`).
* congruence lemmas: `State.value` / `State.tryGetValue` only depend on the framed fields.
-/
namespace IncrVerif.Proofs.Obs
open IncrVerif.Engine
open IncrVerif.Proofs.Step (run_throw run_bind_ok)

/-- naming the two components of a run (used to instantiate `run = (r, s')` hypotheses) -/
theorem run_eta {α} (m : M α) (s : State) :
    m.run.run s = ((m.run.run s).1, (m.run.run s).2) := rfl

theorem run_bind_error {α β} {x : M α} {f : α → M β} {s s1 : State} {e : Panic}
    (h : x.run.run s = (.error e, s1)) : (x >>= f).run.run s = (.error e, s1) := by
  rw [run_bind, h]

/-! ## the frame relation -/

/-- the fields of a node that `State.value` can see -/
def nodeCore (nd : Node) : Kind × Bool × Option Val := (nd.kind, nd.valid, nd.value)
/-- the fields of an observer record that `State.tryGetValue` can see -/
def obsCore (ob : ObsRec) : Nat × ObsState := (ob.node, ob.state)

/-- `s'` extends `s` without touching anything a read of an observer of `s` depends on -/
structure Frame (s s' : State) : Prop where
  alive : s'.alive = s.alive
  status : s'.status = s.status
  obsLe : s.observers.size ≤ s'.observers.size
  obs : ∀ o, o < s.observers.size →
    (s'.observers[o]?).map obsCore = (s.observers[o]?).map obsCore
  nodesLe : s.nodes.size ≤ s'.nodes.size
  nodes : ∀ n, n < s.nodes.size → (s'.nodes[n]?).map nodeCore = (s.nodes[n]?).map nodeCore

/-- `Frame`, and no node and no observer was appended -/
structure FrameS (s s' : State) : Prop extends Frame s s' where
  nodesEq : s'.nodes.size = s.nodes.size
  obsEq : s'.observers.size = s.observers.size

theorem Frame.refl (s : State) : Frame s s :=
  ⟨rfl, rfl, Nat.le_refl _, fun _ _ => rfl, Nat.le_refl _, fun _ _ => rfl⟩

theorem Frame.trans {a b c : State} (h1 : Frame a b) (h2 : Frame b c) : Frame a c where
  alive := h2.alive.trans h1.alive
  status := h2.status.trans h1.status
  obsLe := Nat.le_trans h1.obsLe h2.obsLe
  obs o ho := (h2.obs o (Nat.lt_of_lt_of_le ho h1.obsLe)).trans (h1.obs o ho)
  nodesLe := Nat.le_trans h1.nodesLe h2.nodesLe
  nodes n hn := (h2.nodes n (Nat.lt_of_lt_of_le hn h1.nodesLe)).trans (h1.nodes n hn)

theorem FrameS.refl (s : State) : FrameS s s := ⟨Frame.refl s, rfl, rfl⟩
theorem FrameS.trans {a b c : State} (h1 : FrameS a b) (h2 : FrameS b c) : FrameS a c :=
  ⟨h1.toFrame.trans h2.toFrame, h2.nodesEq.trans h1.nodesEq, h2.obsEq.trans h1.obsEq⟩

/-- a step that leaves `alive`, `status`, `observers` and `nodes` alone -/
theorem FrameS.of_eq {s s' : State} (h1 : s'.alive = s.alive) (h2 : s'.status = s.status)
    (h3 : s'.observers = s.observers) (h4 : s'.nodes = s.nodes) : FrameS s s' := by
  refine ⟨⟨h1, h2, ?_, ?_, ?_, ?_⟩, ?_, ?_⟩ <;> simp [h3, h4]

theorem FrameS.modNode (s : State) (n : Nat) (f : Node → Node)
    (hf : ∀ x, nodeCore (f x) = nodeCore x) :
    FrameS s { s with nodes := s.nodes.modify n f } := by
  refine ⟨⟨rfl, rfl, Nat.le_refl _, fun _ _ => rfl, by simp, ?_⟩, by simp, rfl⟩
  intro m hm
  simp only [Array.getElem?_modify]
  split
  · cases h : s.nodes[m]? <;> simp [hf]
  · rfl

theorem FrameS.modObs (s : State) (o : Nat) (f : ObsRec → ObsRec)
    (hf : ∀ x, obsCore (f x) = obsCore x) :
    FrameS s { s with observers := s.observers.modify o f } := by
  refine ⟨⟨rfl, rfl, by simp, ?_, Nat.le_refl _, fun _ _ => rfl⟩, rfl, by simp⟩
  intro m hm
  simp only [Array.getElem?_modify]
  split
  · cases h : s.observers[m]? <;> simp [hf]
  · rfl

theorem Frame.pushNode (s : State) (nd : Node) : Frame s { s with nodes := s.nodes.push nd } := by
  refine ⟨rfl, rfl, Nat.le_refl _, fun _ _ => rfl, by simp, ?_⟩
  intro m hm
  simp [Array.getElem?_push, Nat.ne_of_lt hm]

/-! ## what `State.value` depends on -/

theorem nodeD_core_of_map_eq {s s' : State} {n : Nat}
    (h : (s'.nodes[n]?).map nodeCore = (s.nodes[n]?).map nodeCore) :
    nodeCore (s'.nodeD n) = nodeCore (s.nodeD n) := by
  simp only [State.nodeD]
  cases h1 : s.nodes[n]? <;> cases h2 : s'.nodes[n]? <;> simp_all

theorem Frame.nodeD_core {s s' : State} (h : Frame s s') {n : Nat} (hn : n < s.nodes.size) :
    nodeCore (s'.nodeD n) = nodeCore (s.nodeD n) :=
  nodeD_core_of_map_eq (h.nodes n hn)

theorem FrameS.nodeD_core {s s' : State} (h : FrameS s s') (n : Nat) :
    nodeCore (s'.nodeD n) = nodeCore (s.nodeD n) := by
  by_cases hn : n < s.nodes.size
  · exact h.toFrame.nodeD_core hn
  · have h1 : s.nodes[n]? = none := Array.getElem?_eq_none (by omega)
    have h2 : s'.nodes[n]? = none := Array.getElem?_eq_none (by rw [h.nodesEq]; omega)
    simp [State.nodeD, h1, h2]

/-- well-formedness needed when nodes are appended: MapRef inputs are earlier nodes (true of every
state built through the API with operands naming existing nodes; `kind` never changes).  It makes
the value of an existing node independent of nodes appended later and of the `valueWith` fuel. -/
def MapRefsBackward (s : State) : Prop :=
  ∀ (n : Nat) (nd : Node) (p i : Nat), s.nodes[n]? = some nd → nd.kind = Kind.mapRef p i → i < n

/-- observers watch existing nodes -/
def ObsNodesInRange (s : State) : Prop :=
  ∀ (o : Nat) (ob : ObsRec), s.observers[o]? = some ob → ob.node < s.nodes.size

theorem FrameS.value_eq (env : Env) {s s' : State} (h : FrameS s s') (n : Nat) :
    s'.value env n = s.value env n :=
  Step.value_congr env s s' h.nodesEq h.nodeD_core n

theorem Frame.value_eq (env : Env) {s s' : State} (h : Frame s s') (hwf : MapRefsBackward s)
    {n : Nat} (hn : n < s.nodes.size) : s'.value env n = s.value env n := by
  simp only [State.value]
  have := h.nodesLe
  exact Step.valueWith_congr_below env.proj s s' hwf n (fun m hm => h.nodeD_core (by omega)) _ _
    (by omega) (by omega)

/-- in a `FrameS` pair every observer index has the same `node`/`state` -/
theorem FrameS.obs_all {s s' : State} (h : FrameS s s') (o : Nat) :
    (s'.observers[o]?).map obsCore = (s.observers[o]?).map obsCore := by
  by_cases ho : o < s.observers.size
  · exact h.obs o ho
  · have := h.obsEq
    rw [Array.getElem?_eq_none (by omega), Array.getElem?_eq_none (by omega)]

/-! ## what `State.tryGetValue` depends on -/

/-- the read table, as a function of exactly what the read looks at -/
def readTable (alive : Bool) (status : Status) (ob : Option (Nat × ObsState))
    (value : Nat → Option Val) : Except ObsError Val :=
  if !alive then .error .observingInvalid
  else if status == .stabilising then .error .currentlyStabilising
  else match ob with
    | none => .error .observingInvalid
    | some (_, .created) => .error .neverStabilised
    | some (n, .inUse) => match value n with
      | some v => .ok v
      | none => .error .observingInvalid
    | some (_, _) => .error .disallowed

/-- key lemma: `tryGetValue` depends only on `alive`, `status`, the observer's `node`/`state`, and
node values -/
theorem tryGetValue_eq_readTable (env : Env) (s : State) (o : Nat) :
    s.tryGetValue env o
      = readTable s.alive s.status ((s.observers[o]?).map obsCore) (s.value env) := by
  simp only [State.tryGetValue, readTable]
  split
  · rfl
  split
  · rfl
  cases h : s.observers[o]? with
  | none => rfl
  | some ob =>
    simp only [Option.map_some, obsCore]
    cases h2 : ob.state <;> rfl

theorem readTable_congr_value (alive : Bool) (status : Status) (ob : Option (Nat × ObsState))
    (v v' : Nat → Option Val) (h : ∀ n st, ob = some (n, st) → v' n = v n) :
    readTable alive status ob v' = readTable alive status ob v := by
  unfold readTable
  cases ob with
  | none => rfl
  | some p =>
    obtain ⟨n, st⟩ := p
    cases st <;> simp [h n _ rfl]

theorem FrameS.read_eq (env : Env) {s s' : State} (h : FrameS s s') (o : Nat) :
    s'.tryGetValue env o = s.tryGetValue env o := by
  rw [tryGetValue_eq_readTable, tryGetValue_eq_readTable, h.alive, h.status, h.obs_all o]
  exact readTable_congr_value _ _ _ _ _ (fun n _ _ => h.value_eq env n)

theorem Frame.read_eq (env : Env) {s s' : State} (h : Frame s s') (hwf : MapRefsBackward s)
    (hobs : ObsNodesInRange s) {o : Nat} (ho : o < s.observers.size) :
    s'.tryGetValue env o = s.tryGetValue env o := by
  rw [tryGetValue_eq_readTable, tryGetValue_eq_readTable, h.alive, h.status, h.obs o ho]
  apply readTable_congr_value
  intro n st hn
  have hob : s.observers[o]? = some s.observers[o] := Array.getElem?_eq_getElem ho
  rw [hob] at hn
  simp only [Option.map_some, obsCore, Option.some.injEq, Prod.mk.injEq] at hn
  have := hobs o _ hob
  rw [hn.1] at this
  exact h.value_eq env hwf this

/-! ## `Pres R m`: every run of `m` (returning or panicking) relates initial and final state by `R` -/

class PreOrd (R : State → State → Prop) : Prop where
  refl : ∀ s, R s s
  trans : ∀ {a b c}, R a b → R b c → R a c

instance : PreOrd Frame := ⟨Frame.refl, Frame.trans⟩
instance : PreOrd FrameS := ⟨FrameS.refl, FrameS.trans⟩

structure Pres (R : State → State → Prop) {α} (m : M α) : Prop where
  h : ∀ s r s', m.run.run s = (r, s') → R s s'

theorem Pres.mono {R R' : State → State → Prop} {α} {m : M α} (hm : Pres R m)
    (h : ∀ s s', R s s' → R' s s') : Pres R' m :=
  ⟨fun s r s' e => h _ _ (hm.h s r s' e)⟩

theorem Pres.toStep {R : State → State → Prop} {α} {m : M α} (hm : Pres R m) : Step.Pres R m := ⟨hm.h⟩
theorem _root_.IncrVerif.Proofs.Step.Pres.toObs {R : State → State → Prop} {α} {m : M α} (hm : Step.Pres R m) : Pres R m := ⟨hm.h⟩
instance {R : State → State → Prop} [PreOrd R] : Step.PreOrd R := ⟨PreOrd.refl, PreOrd.trans⟩

section
variable {R : State → State → Prop} [PreOrd R]

theorem Pres.pure {α} (a : α) : Pres R (pure a : M α) := (Step.Pres.pure a).toObs
theorem Pres.get : Pres R (get : M State) := Step.Pres.get.toObs
theorem Pres.throw {α} (e : Panic) : Pres R (throw e : M α) := (Step.Pres.throw e).toObs
theorem Pres.panic {α} (e : String) : Pres R (IncrVerif.Engine.panic e : M α) := Pres.throw _
omit [PreOrd R] in
theorem Pres.modify {f : State → State} (hf : ∀ s, R s (f s)) : Pres R (modify f : M Unit) := (Step.Pres.modify hf).toObs
theorem Pres.bind {α β} {x : M α} {f : α → M β} (hx : Pres R x) (hf : ∀ a, Pres R (f a)) :
    Pres R (x >>= f) := (Step.Pres.bind hx.toStep fun a => (hf a).toStep).toObs
theorem Pres.map {α β} {x : M α} (f : α → β) (hx : Pres R x) : Pres R (f <$> x) := (Step.Pres.map f hx.toStep).toObs
theorem Pres.mapM {α β} {f : α → M β} (hf : ∀ a, Pres R (f a)) (l : List α) :
    Pres R (l.mapM f) := (Step.Pres.mapM (fun a => (hf a).toStep) l).toObs
end

/-- a loop keeps what its body keeps at the elements of the list -/
theorem _root_.IncrVerif.Proofs.Step.Pres.forIn_mem {R : State → State → Prop} [Step.PreOrd R] {α β} {l : List α} {init : β} {f : α → β → M (ForInStep β)}
    (hf : ∀ a, a ∈ l → ∀ b, Step.Pres R (f a b)) : Step.Pres R (forIn l init f) := by
  induction l generalizing init with
  | nil => rw [List.forIn_nil]; exact Step.Pres.pure _
  | cons a l ih =>
    rw [List.forIn_cons]
    refine Step.Pres.bind (hf a List.mem_cons_self init) fun r => ?_
    cases r with
    | done b => exact Step.Pres.pure _
    | yield b => exact ih fun a' ha' b => hf a' (List.mem_cons_of_mem _ ha') b

section
variable {R : State → State → Prop} [PreOrd R]
theorem Pres.forIn_mem {α β} {l : List α} {init : β} {f : α → β → M (ForInStep β)}
    (hf : ∀ a, a ∈ l → ∀ b, Pres R (f a b)) : Pres R (forIn l init f) :=
  (Step.Pres.forIn_mem fun a ha b => (hf a ha b).toStep).toObs
theorem Pres.forIn {α β} {l : List α} {init : β}
    {f : α → β → M (ForInStep β)} (hf : ∀ a b, Pres R (f a b)) : Pres R (forIn l init f) :=
  Pres.forIn_mem fun a _ b => hf a b
theorem Pres.discard {α} {x : M α} (hx : Pres R x) : Pres R (discard x) := (Step.Pres.discard hx.toStep).toObs
theorem Pres.getNode (n) : Pres R (getNode n) := (Step.Pres.getNode n).toObs
theorem Pres.getVar (n) : Pres R (getVar n) := (Step.Pres.getVar n).toObs
theorem Pres.getObs (n) : Pres R (getObs n) := (Step.Pres.getObs n).toObs
theorem Pres.getBind (n) : Pres R (getBind n) := (Step.Pres.getBind n).toObs
theorem Pres.getExpert (n) : Pres R (getExpert n) := (Step.Pres.getExpert n).toObs
theorem Pres.dassert (c s) : Pres R (dassert c s) := (Step.Pres.dassert c s).toObs
theorem Pres.assertM (c s) : Pres R (assertM c s) := (Step.Pres.assertM c s).toObs
/-- a function that writes nothing keeps every preorder -/
theorem Pres.of_reads {α} {m : M α} (hm : Footprint.Foot [] (fun _ => True) m) : Pres R m :=
  (hm.lift fun e => by
    cases e <;> first
      | exact absurd ‹_ ∈ Footprint.parts []› List.not_mem_nil
      | (rename_i hf; cases hf <;> exact absurd ‹_ ∈ Footprint.parts []› List.not_mem_nil)).toObs
theorem Pres.isConstant (n) : Pres R (isConstant n) := Pres.of_reads (Footprint.Foot.isConstant n)
theorem Pres.resolveOpnd (l o) : Pres R (resolveOpnd l o) := Pres.of_reads (Footprint.Foot.resolveOpnd l o)
end

/-! ### the two frames from the footprint -/

/-- the writes that a read of an existing observer can see -/
def frameBreaks : List Footprint.Tag := [.nInvalid, .vClear, .vClearRef, .vStore, .vStoreOld, .oState, .oDropped, .erase, .status]

/-- a write outside `frameBreaks` keeps `Frame`, and `FrameS` unless it appends a node -/
theorem Frame.of_edit' {L w s s'} (hL : ∀ t ∈ L, t ∉ frameBreaks) (e : Footprint.Edit L w s s') :
    Frame s s' ∧ (Footprint.Tag.pushNode ∉ L → FrameS s s') := by
  have key : ∀ {t : State}, FrameS s t → Frame s t ∧ (Footprint.Tag.pushNode ∉ L → FrameS s t) := fun F => ⟨F.toFrame, fun _ => F⟩
  cases e
  case pushNode k sc c ht => exact ⟨Frame.pushNode s _, fun h => absurd ht h⟩
  case node n f hf =>
    exact key (FrameS.modNode s n f fun x => by cases hf <;> first | rfl | exact absurd (hL _ ‹_›) (by decide))
  case value n hn f hf => cases hf <;> exact absurd (hL _ ‹_›) (by decide)
  case stamp n ht => exact key (FrameS.modNode s n _ fun _ => rfl)
  case erase n ht => exact absurd (hL _ ht) (by decide)
  case obs o f hf =>
    exact key (FrameS.modObs s o f fun x => by cases hf <;> first | rfl | exact absurd (hL _ ‹_›) (by decide))
  case status st ht => exact absurd (hL _ ht) (by decide)
  all_goals exact key (FrameS.of_eq rfl rfl rfl rfl)

/-- a function none of whose writes is in `frameBreaks` keeps `Frame` -/
theorem Pres.frame {L α} {m : M α} (hm : Footprint.Foot L (fun _ => True) m) (hL : ∀ t ∈ Footprint.parts L, t ∉ frameBreaks) :
    Pres Frame m :=
  (hm.frame fun e => (Frame.of_edit' hL e).1).toObs
/-- and `FrameS` if it appends no node -/
theorem Pres.frameS {L α} {m : M α} (hm : Footprint.Foot L (fun _ => True) m)
    (hL : ∀ t ∈ Footprint.parts L, t ∉ .pushNode :: frameBreaks) :
    Pres FrameS m :=
  (hm.frame fun e => (Frame.of_edit' (fun t ht h => hL t ht (List.mem_cons_of_mem _ h)) e).2
    fun h => hL _ h List.mem_cons_self).toObs

theorem Pres.didSetVarWhileNotStabilising (v) : Pres FrameS (didSetVarWhileNotStabilising v) :=
  Pres.frameS (Footprint.Foot.didSetVarWhileNotStabilising v) (by decide)
theorem Pres.writeVar (v f isSet) : Pres FrameS (writeVar v f isSet) := Pres.frameS (Footprint.Foot.writeVar v f isSet) (by decide)
theorem Pres.handleAfterStabilisation (n) : Pres FrameS (handleAfterStabilisation n) :=
  Pres.frameS (Footprint.Foot.handleAfterStabilisation n) (by decide)
theorem Pres.createNode (k sc c) : Pres Frame (createNode k sc c) := Pres.frame (Footprint.Foot.createNode k sc c) (by decide)
theorem Pres.createVar (v sc) : Pres Frame (createVar v sc) := Pres.frame (Footprint.Foot.createVar v sc) (by decide)
theorem Pres.elabInstr (loc lhsVal i) : Pres Frame (elabInstr loc lhsVal i) :=
  Pres.frame (Footprint.Foot.elabInstr loc lhsVal i) (by decide)

/-- the `set_cutoff` instruction appends nothing -/
theorem Pres.elabCutoff (loc lhsVal n c) : Pres FrameS (Engine.elabInstr loc lhsVal (.cutoff n c)) := by
  simp only [Engine.elabInstr]
  refine Pres.bind Pres.get fun _ => Pres.bind (Pres.resolveOpnd _ _) fun _ => Pres.bind ?_ fun _ => Pres.pure _
  exact Pres.modify fun s => FrameS.modNode s _ _ fun _ => rfl

/-! ### the two well-formedness predicates are invariants of these steps -/

theorem FrameS.mapRefsBackward {s s' : State} (h : FrameS s s') (hwf : MapRefsBackward s) :
    MapRefsBackward s' := by
  intro n nd p i hn hk
  have hlt : n < s.nodes.size := by
    rw [← h.nodesEq]; exact (Array.getElem?_eq_some_iff.1 hn).1
  have hm := h.nodes n hlt
  rw [hn, Array.getElem?_eq_getElem hlt] at hm
  simp only [Option.map_some, Option.some.injEq, nodeCore, Prod.mk.injEq] at hm
  exact hwf n _ p i (Array.getElem?_eq_getElem hlt) (hm.1.symm.trans hk)

theorem FrameS.obsNodesInRange {s s' : State} (h : FrameS s s') (hwf : ObsNodesInRange s) :
    ObsNodesInRange s' := by
  intro o ob ho
  have hlt : o < s.observers.size := by
    rw [← h.obsEq]; exact (Array.getElem?_eq_some_iff.1 ho).1
  have hm := h.obs o hlt
  rw [ho, Array.getElem?_eq_getElem hlt] at hm
  simp only [Option.map_some, Option.some.injEq, obsCore, Prod.mk.injEq] at hm
  rw [h.nodesEq, hm.1]
  exact hwf o _ (Array.getElem?_eq_getElem hlt)

/-- `createNode` always returns (it cannot panic) the index of the node it appended -/
theorem createNode_run (k : Kind) (sc : Scope) (c : CutoffK) (s : State) :
    ∃ s', (createNode k sc c).run.run s = (.ok s.nodes.size, s') ∧
      s'.nodes = s.nodes.push { kind := k, createdIn := sc, cutoff := c } ∧
      s'.observers = s.observers := by
  unfold createNode
  cases sc <;>
    simp only [bumpCounter, modBind, run_bind, run_get, run_modify, run_pure] <;>
    exact ⟨_, rfl, rfl, rfl⟩

theorem createNode_mapRefsBackward (k : Kind) (sc : Scope) (c : CutoffK) (s s' : State)
    (r : Except Panic Nat) (hrun : (createNode k sc c).run.run s = (r, s'))
    (hk : ∀ p i, k = .mapRef p i → i < s.nodes.size) (hwf : MapRefsBackward s) :
    MapRefsBackward s' := by
  obtain ⟨s'', hr, hn, _⟩ := createNode_run k sc c s
  rw [hr] at hrun
  cases hrun
  intro n nd p i hnd hkind
  rw [hn, Array.getElem?_push] at hnd
  split at hnd
  · rename_i heq
    cases hnd
    rw [heq]; exact hk p i hkind
  · exact hwf n nd p i hnd hkind

theorem createNode_obsNodesInRange (k : Kind) (sc : Scope) (c : CutoffK) (s s' : State)
    (r : Except Panic Nat) (hrun : (createNode k sc c).run.run s = (r, s'))
    (hwf : ObsNodesInRange s) : ObsNodesInRange s' := by
  obtain ⟨s'', hr, hn, ho⟩ := createNode_run k sc c s
  rw [hr] at hrun
  cases hrun
  intro o ob hob
  rw [ho] at hob
  have := hwf o ob hob
  rw [hn, Array.size_push]; omega

/-! ## C10: exact runs of the three lifecycle calls -/

/-- the lifecycle transition made by `disallow_future_use` -/
def afterDisallow : ObsState → ObsState
  | .created => .unlinked
  | .inUse => .disallowed
  | .disallowed => .disallowed
  | .unlinked => .unlinked

theorem run_getObs_some {s : State} {o : Nat} {ob : ObsRec} (h : s.observers[o]? = some ob) :
    (getObs o).run.run s = (.ok ob, s) := by
  rw [Step.run_getObs, h]

theorem run_getNode_some {s : State} {n : Nat} {nd : Node} (h : s.nodes[n]? = some nd) :
    (getNode n).run.run s = (.ok nd, s) :=
  Step.run_getNode_some h

theorem disallow_run (s : State) (o : Nat) (ob : ObsRec) (h : s.observers[o]? = some ob) :
    ∃ s', (disallowFutureUse o).run.run s = (.ok (), s') ∧
      (∃ ob', s'.observers[o]? = some ob' ∧ ob'.state = afterDisallow ob.state ∧
        ob'.node = ob.node) ∧
      (∀ o', o' ≠ o → s'.observers[o']? = s.observers[o']?) ∧
      s'.observers.size = s.observers.size ∧
      s'.nodes = s.nodes ∧ s'.vars = s.vars ∧ s'.status = s.status ∧ s'.alive = s.alive ∧
      s'.stabNum = s.stabNum := by
  unfold disallowFutureUse
  rw [run_bind_ok (run_getObs_some h)]
  cases hst : ob.state
  all_goals simp only [bumpCounter, modObs, run_bind, run_modify, run_pure]
  all_goals refine ⟨_, rfl, ?_, ?_, ?_⟩
  all_goals simp [Array.getElem?_modify, h, afterDisallow, hst]
  all_goals intro o' ho' h2; exact absurd h2.symm ho'

theorem disallow_noop (s : State) (o : Nat) (ob : ObsRec) (h : s.observers[o]? = some ob)
    (hst : ob.state = .disallowed ∨ ob.state = .unlinked) :
    (disallowFutureUse o).run.run s = (.ok (), s) := by
  unfold disallowFutureUse
  rw [run_bind_ok (run_getObs_some h)]
  rcases hst with hst | hst <;> simp only [hst, run_pure]

theorem subscribe_dead (s : State) (o hid : Nat) (h : s.alive = false) :
    (subscribe o hid).run.run s = (.ok (.error .observingInvalid), s) := by
  unfold subscribe
  simp only [run_bind, run_get, h, Bool.not_false, if_true, run_pure]

theorem subscribe_disallowed (s : State) (o hid : Nat) (ob : ObsRec) (ha : s.alive = true)
    (h : s.observers[o]? = some ob) (hst : ob.state = .disallowed ∨ ob.state = .unlinked) :
    (subscribe o hid).run.run s = (.ok (.error .disallowed), s) := by
  unfold subscribe
  simp only [run_bind, run_get, ha, Bool.not_true, Bool.false_eq_true, if_false,
    run_getObs_some h]
  rcases hst with hst | hst <;> simp only [hst, run_pure]

theorem subscribe_ok (s : State) (o hid : Nat) (ob : ObsRec) (ha : s.alive = true)
    (h : s.observers[o]? = some ob) (hst : ob.state = .created ∨ ob.state = .inUse)
    (hn : ob.node < s.nodes.size) :
    ∃ s', (subscribe o hid).run.run s = (.ok (.ok s.nextToken), s') ∧
      (∃ ob', s'.observers[o]? = some ob' ∧ ob'.state = ob.state ∧ ob'.node = ob.node ∧
        ob'.handlers = ob.handlers ++ [{ token := s.nextToken, hid := hid, createdAt := s.stabNum }]) ∧
      (∀ o', o' ≠ o → s'.observers[o']? = s.observers[o']?) ∧
      s'.observers.size = s.observers.size ∧ s'.nextToken = s.nextToken + 1 ∧
      s'.vars = s.vars ∧ s'.stabNum = s.stabNum ∧ s'.rch = s.rch ∧
      (∀ n, n ≠ ob.node → s'.nodes[n]? = s.nodes[n]?) := by
  unfold subscribe
  simp only [run_bind, run_get, ha, Bool.not_true, Bool.false_eq_true, if_false,
    run_getObs_some h]
  have hnd : s.nodes[ob.node]? = some s.nodes[ob.node] := Array.getElem?_eq_getElem hn
  rcases hst with hst | hst
  all_goals simp only [hst, run_modify, modObs, modNode, handleAfterStabilisation, run_bind]
  all_goals simp only [getNode, run_bind, run_get, run_pure, run_modify, Array.getElem?_modify, hnd,
    if_true, Option.map_some, reduceCtorEq, beq_self_eq_true, beq_iff_eq, if_false]
  all_goals cases hb : s.nodes[ob.node].inHandleAfterStab
  all_goals simp only [Bool.not_false, Bool.not_true, if_true, Bool.false_eq_true, if_false,
    run_bind, run_modify, run_pure]
  all_goals refine ⟨_, rfl, ?_, ?_, ?_, rfl, rfl, rfl, rfl, ?_⟩
  all_goals simp [Array.getElem?_modify, h, hst]
  all_goals intro o' ho'
  all_goals first
    | (intro h2; exact absurd h2.symm ho')
    | (have hne : ¬ ob.node = o' := fun e => ho' e.symm
       simp [hne])

theorem unsubscribe_mismatch (s : State) (o token owner : Nat) (h : owner ≠ o) :
    (unsubscribe o token owner).run.run s = (.ok (.error .mismatch), s) := by
  unfold unsubscribe
  simp only [bne_iff_ne, ne_eq, h, not_false_eq_true, if_true, run_pure]

theorem unsubscribe_noop (s : State) (o token : Nat) (ob : ObsRec)
    (h : s.observers[o]? = some ob) (hst : ob.state = .disallowed ∨ ob.state = .unlinked) :
    (unsubscribe o token o).run.run s = (.ok (.ok ()), s) := by
  unfold unsubscribe
  simp only [bne_self_eq_false, Bool.false_eq_true, if_false, run_bind, run_getObs_some h]
  rcases hst with hst | hst <;> simp only [hst, run_pure]

theorem unsubscribe_ok (s : State) (o token : Nat) (ob : ObsRec)
    (h : s.observers[o]? = some ob) (hst : ob.state = .created ∨ ob.state = .inUse) :
    ∃ s', (unsubscribe o token o).run.run s = (.ok (.ok ()), s') ∧
      (∃ ob', s'.observers[o]? = some ob' ∧ ob'.state = ob.state ∧ ob'.node = ob.node ∧
        ob'.handlers = ob.handlers.filter (·.token != token)) ∧
      (∀ o', o' ≠ o → s'.observers[o']? = s.observers[o']?) ∧
      s'.observers.size = s.observers.size ∧ s'.nextToken = s.nextToken ∧
      s'.vars = s.vars ∧ s'.stabNum = s.stabNum ∧ s'.rch = s.rch ∧
      (∀ n, n ≠ ob.node → s'.nodes[n]? = s.nodes[n]?) := by
  unfold unsubscribe
  simp only [bne_self_eq_false, Bool.false_eq_true, if_false, run_bind, run_getObs_some h]
  rcases hst with hst | hst
  all_goals simp only [hst, modObs, modNode, run_bind, run_modify, run_pure, reduceCtorEq,
    beq_self_eq_true, beq_iff_eq, Bool.and_eq_true, false_and, true_and, if_false]
  all_goals cases hb : ob.handlers.any (fun x => x.token == token)
  all_goals try simp only [Bool.false_eq_true, if_false, if_true, run_bind, run_modify, run_pure]
  all_goals refine ⟨_, rfl, ?_, ?_, ?_, rfl, rfl, rfl, rfl, ?_⟩
  all_goals simp [Array.getElem?_modify, h, hst]
  all_goals intro o' ho'
  all_goals first
    | (intro h2; exact absurd h2.symm ho')
    | (have hne : ¬ ob.node = o' := fun e => ho' e.symm
       simp [hne])

theorem Pres.subscribe (o hid) : Pres FrameS (subscribe o hid) := Pres.frameS (Footprint.Foot.subscribe o hid) (by decide)

theorem Pres.unsubscribe (o t w) : Pres FrameS (unsubscribe o t w) := Pres.frameS (Footprint.Foot.unsubscribe o t w) (by decide)

/-! ## API level: `stepAction` -/

theorem Pres.setMaxHeightAllowed (k) : Pres FrameS (setMaxHeightAllowed k) :=
  Pres.frameS (Footprint.Foot.setMaxHeightAllowed k) (by decide)

/-- the API actions that neither stabilise, nor construct nodes, nor create or end an observer,
nor add an expert edge: var writes and reads, `clone` of an observer handle, `drop` of a var
handle, `drop` of a node handle (`.dropHandle`: touches `handles` only), (un)subscribe, fault arming,
`set_max_height_allowed`, `is_stable`, stats.  `.dropAll` is not quiet: it clears `alive`. -/
def Action.isQuiet : Action → Bool
  | .stabilise | .create _ | .observe _ | .disallow _ | .dropObs _ | .addDep .. | .dropAll => false
  | _ => true

/-- the bookkeeping of a quiet action itself: a clone count, the handles -/
theorem FrameS.of_actEdit {L a s s'} (ha : Action.isQuiet a = true) (hL : ∀ t ∈ L, t ∉ .pushNode :: frameBreaks)
    (e : Footprint.ActEdit L a s s') : FrameS s s' := by
  cases e
  case engine e =>
    exact (Frame.of_edit' (fun t ht h => hL t ht (List.mem_cons_of_mem _ h)) e).2 fun h => hL _ h List.mem_cons_self
  case cloned o => exact FrameS.modObs s o _ fun _ => rfl
  case dropHandle x l => exact FrameS.of_eq rfl rfl rfl rfl
  all_goals cases ha

theorem Pres.stepAction_quiet (env : Env) (a : Action) (tokens : Array Nat)
    (ha : Action.isQuiet a = true) : Pres FrameS (stepAction env a tokens) :=
  ((Footprint.Foot.stepAction env a tokens).lift fun e =>
    FrameS.of_actEdit ha (by cases a <;> first | (dsimp only [Footprint.W.stepAction]; decide) | cases ha) e).toObs

theorem Pres.stepAction_create (env : Env) (i : Instr) (tokens : Array Nat) :
    Pres Frame (stepAction env (.create i) tokens) :=
  ((Footprint.Foot.stepAction env (.create i) tokens).lift fun e => by
    cases e
    case engine e => exact (Frame.of_edit' (by dsimp only [Footprint.W.stepAction]; decide) e).1
    case created n => exact FrameS.toFrame (FrameS.of_eq rfl rfl rfl rfl)).toObs

/-! ## glue used by the property files -/

theorem run_getObs_none {s : State} {o : Nat} (h : s.observers[o]? = none) :
    (getObs o).run.run s = (.error (.site "model:no-such-observer"), s) := by
  rw [Step.run_getObs, h]

theorem disallow_out_of_range (s : State) (o : Nat) (h : s.observers[o]? = none) :
    (disallowFutureUse o).run.run s = (.error (.site "model:no-such-observer"), s) := by
  unfold disallowFutureUse
  rw [run_bind_error (run_getObs_none h)]

theorem value_congr_nodes (env : Env) {s s' : State} (h : s'.nodes = s.nodes) (n : Nat) :
    s'.value env n = s.value env n :=
  Step.value_congr env s s' (by rw [h]) (fun m => by simp only [State.nodeD, h]) n

/-- a read only looks at `alive`, `status`, its own record and the nodes -/
theorem read_congr (env : Env) {s s' : State} {o : Nat} (h1 : s'.alive = s.alive)
    (h2 : s'.status = s.status) (h3 : s'.observers[o]? = s.observers[o]?)
    (h4 : s'.nodes = s.nodes) : s'.tryGetValue env o = s.tryGetValue env o := by
  rw [tryGetValue_eq_readTable, tryGetValue_eq_readTable, h1, h2, h3]
  exact readTable_congr_value _ _ _ _ _ (fun n _ _ => value_congr_nodes env h4 n)

/-- what `stepAction (.observe n)` does to the state, once the operand is resolved to node `n` -/
def pushObserver (s : State) (n : Nat) : State :=
  { s with
    observers := s.observers.push { node := n },
    newObservers := s.newObservers ++ [s.observers.size],
    counters := { s.counters with activeObservers := s.counters.activeObservers + 1 } }

theorem pushObserver_read_old (env : Env) (s : State) (n : Nat) {o : Nat}
    (ho : o < s.observers.size) :
    (pushObserver s n).tryGetValue env o = s.tryGetValue env o := by
  refine read_congr env rfl rfl ?_ rfl
  simp [pushObserver, Array.getElem?_push, Nat.ne_of_lt ho]

theorem pushObserver_obsNodesInRange (s : State) (n : Nat) (hn : n < s.nodes.size)
    (hwf : ObsNodesInRange s) : ObsNodesInRange (pushObserver s n) := by
  intro o ob hob
  simp only [pushObserver, Array.getElem?_push] at hob
  split at hob
  · cases hob; exact hn
  · exact hwf o ob hob

/-! ## concrete states for the non-vacuity examples -/

/-- an environment whose projections are the identity -/
def exEnv : Env where
  fn _ _ := .unit
  fnEff _ _ := []
  foldStep _ a _ := a
  proj _ v := v
  withOld _ σ _ v := (σ, v, true)
  cutoff _ _ _ := false
  body _ _ := { instrs := [], ret := .abs 0 }
  handler _ _ := []
  expertFn _ _ _ := .unit
  withOldCalls _ _ _ _ := []
  memo _ := { instrs := [], ret := .abs 0 }
  perKey _ := { instrs := [], ret := .abs 0 }

/-- a state as left by one stabilisation: var 0 is node 0 (value 5), node 1 is a MapRef over node 0,
node 2 a constant that was invalidated; observer 0 is in use on node 1, observer 1 freshly created
on node 0, observer 2 disallowed, observer 3 unlinked, observer 4 in use on the invalid node 2. -/
def exState : State :=
  { State.init 4 with
    nodes := #[
      { kind := .var 0, createdIn := .top, value := some (.int 5), recomputedAt := 0, changedAt := 0,
        height := 0, parents := [(1, 0)], observers := [2] },
      { kind := .mapRef 0 0, createdIn := .top, recomputedAt := 0, changedAt := 0, height := 1,
        observers := [0], didChange := false },
      { kind := .const .unit, createdIn := .top, valid := false, recomputedAt := 0, changedAt := 0,
        observers := [4] }],
    vars := #[{ value := .int 5, setAt := 0, node := 0 }],
    observers := #[
      { node := 1, state := .inUse }, { node := 0 }, { node := 0, state := .disallowed },
      { node := 0, state := .unlinked }, { node := 2, state := .inUse }],
    stabNum := 1, newObservers := [1], disallowedObservers := [2], allObservers := [0, 2, 4],
    top := #[0, 1, 2] }

theorem exState_mapRefsBackward : MapRefsBackward exState := by
  intro n nd p i hn hk
  have hlt : n < 3 := (Array.getElem?_eq_some_iff.1 hn).1
  have h3 : n = 0 ∨ n = 1 ∨ n = 2 := by omega
  rcases h3 with rfl | rfl | rfl <;> (cases hn; cases hk) <;> decide

theorem exState_obsNodesInRange : ObsNodesInRange exState := by
  intro o ob ho
  have hlt : o < 5 := (Array.getElem?_eq_some_iff.1 ho).1
  have h5 : o = 0 ∨ o = 1 ∨ o = 2 ∨ o = 3 ∨ o = 4 := by omega
  rcases h5 with rfl | rfl | rfl | rfl | rfl <;> (cases ho; decide)

/-- `exState` with observer 4 re-pointed at node 3, which does not exist: violates
`ObsNodesInRange` -/
def exDanglingObs : State :=
  { exState with observers := exState.observers.modify 4 fun x => { x with node := 3 } }

/-- `exState` with node 1 re-pointed at input 3, which does not exist: violates
`MapRefsBackward` -/
def exForwardRef : State :=
  { exState with nodes := exState.nodes.modify 1 fun x => { x with kind := .mapRef 0 3 } }

end IncrVerif.Proofs.Obs
