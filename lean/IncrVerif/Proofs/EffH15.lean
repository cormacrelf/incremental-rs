import IncrVerif.Proofs.EffH12
/-!
# Effects, part 15 (V3): `stabiliseEnd` when update handlers have write effects (closed form `EndedW`)
-/
namespace IncrVerif.Proofs.EffH
open IncrVerif.Engine IncrVerif.Driver IncrVerif.Proofs IncrVerif.Proofs.Step IncrVerif.Proofs.Sched
open IncrVerif.Proofs.Quiet

namespace P15

/-- everything the handler loop (bookkeeping + immediate writes) leaves alone -/
def coreW (s : State) : State :=
  { s with vars := #[], nodes := #[], rch := mkHeap 0, counters := ({} : Counters), observers := #[], log := [] }

/-- `t'` is `t` after some handler deliveries: notifications `lg` (delivery order) were logged, the effects `effs`
(write effects, delivery order) were executed as immediate writes; observer records are NOT described here -/
structure StepW (t t' : State) (lg : List Event) (effs : List Effect) : Prop where
  core : coreW t' = coreW t
  size : t'.nodes.size = t.nodes.size
  node : ∀ m, ∃ h, t'.nodeD m = { t.nodeD m with heightInRch := h }
  vsize : t'.vars.size = t.vars.size
  logN : notifs t'.log = lg.reverse ++ notifs t.log
  logExt : ∃ new, t'.log = new ++ t.log ∧ ∀ e, e ∈ new → isNotif e = true ∨ ∃ str, e = .note str
  cells : ∀ (v : Nat) (c : VarCell), t.vars[v]? = some c →
    t'.vars[v]? = some (cellAfter t.stabNum (writesTo v (writesOf effs)) c)

theorem StepW.refl (t : State) : StepW t t [] [] :=
  ⟨rfl, rfl, fun _ => ⟨_, rfl⟩, rfl, rfl, ⟨[], rfl, fun _ h => by cases h⟩, fun _ _ h => h⟩

theorem writesTo_writesOf_append (v : Nat) (es fs : List Effect) :
    writesTo v (writesOf (es ++ fs)) = writesTo v (writesOf es) ++ writesTo v (writesOf fs) := by
  unfold writesOf
  rw [List.filterMap_append, e2_writesTo_append]

theorem StepW.stabNum {t t' : State} {lg : List Event} {effs : List Effect} (h : StepW t t' lg effs) :
    t'.stabNum = t.stabNum := (congrArg State.stabNum h.core :)

theorem StepW.status {t t' : State} {lg : List Event} {effs : List Effect} (h : StepW t t' lg effs) :
    t'.status = t.status := (congrArg State.status h.core :)

theorem StepW.pc {t t' : State} {lg : List Event} {effs : List Effect} (h : StepW t t' lg effs) :
    t'.panicCountdown = t.panicCountdown := (congrArg State.panicCountdown h.core :)

theorem StepW.value {t t' : State} {lg : List Event} {effs : List Effect} (h : StepW t t' lg effs) (env : Env)
    (n : Nat) : t'.value env n = t.value env n := by
  refine Step.value_congr env t t' h.size (fun m => ?_) n
  obtain ⟨x, hx⟩ := h.node m
  rw [hx]; rfl

theorem StepW.trans {a b c : State} {l1 l2 : List Event} {e1 e2 : List Effect} (h1 : StepW a b l1 e1)
    (h2 : StepW b c l2 e2) : StepW a c (l1 ++ l2) (e1 ++ e2) where
  core := h2.core.trans h1.core
  size := h2.size.trans h1.size
  node m := by
    obtain ⟨x, hx⟩ := h1.node m
    obtain ⟨y, hy⟩ := h2.node m
    exact ⟨y, by rw [hy, hx]⟩
  vsize := h2.vsize.trans h1.vsize
  logN := by rw [h2.logN, h1.logN, List.reverse_append, List.append_assoc]
  logExt := by
    obtain ⟨n1, g1, k1⟩ := h1.logExt
    obtain ⟨n2, g2, k2⟩ := h2.logExt
    refine ⟨n2 ++ n1, by rw [g2, g1, List.append_assoc], fun e he => ?_⟩
    rcases List.mem_append.1 he with he | he
    · exact k2 e he
    · exact k1 e he
  cells v c hc := by
    rw [h2.cells v _ (h1.cells v c hc), h1.stabNum, cellAfter_cellAfter, writesTo_writesOf_append]

theorem notifs_notes {new : List Event} (h : ∀ e, e ∈ new → ∃ str, e = .note str) (l : List Event) :
    notifs (new ++ l) = notifs l := by
  unfold notifs
  rw [List.filter_append]
  have : new.filter isNotif = [] := by
    rw [List.filter_eq_nil_iff]
    intro e he
    obtain ⟨str, rfl⟩ := h e he
    simp [isNotif]
  rw [this, List.nil_append]

theorem StepW.of_appliedL {t t' : State} {effs : List Effect} (A : AppliedL t t')
    (hc : ∀ (v : Nat) (c : VarCell), t.vars[v]? = some c →
      t'.vars[v]? = some (cellAfter t.stabNum (writesTo v (writesOf effs)) c)) : StepW t t' [] effs where
  core := by rw [A.eq]; rfl
  size := A.size
  node := A.node
  vsize := A.vsize
  logN := by
    obtain ⟨new, g, k⟩ := A.log
    rw [g, notifs_notes k]; rfl
  logExt := by
    obtain ⟨new, g, k⟩ := A.log
    exact ⟨new, g, fun e he => Or.inr (k e he)⟩
  cells := hc

/-- the bookkeeping of one delivery: the observer records change, one notification is logged -/
theorem StepW.of_notif (t : State) (X : Array ObsRec) (tok : Nat) (upd : Update) :
    StepW t { t with observers := X, log := .notif tok upd :: t.log } [.notif tok upd] [] where
  core := rfl
  size := rfl
  node _ := ⟨_, rfl⟩
  vsize := rfl
  logN := by
    show notifs (Event.notif tok upd :: t.log) = _
    unfold notifs
    rw [List.filter_cons_of_pos (by rfl)]; rfl
  logExt := ⟨[.notif tok upd], rfl, fun e he => Or.inl (by
    rw [List.mem_singleton] at he; subst he; rfl)⟩
  cells v c hc := by simpa [writesOf, writesTo, cellAfter] using hc

/-- **one delivery**: after the record update and the notification, the handler's write effects run as immediate
writes -/
theorem handler_step {env : Env} {fuel : Nat} {tj t3 : State} {X : Array ObsRec} {tok hid : Nat} {upd : Update}
    {u : Unit} {arg : Int} (hH : WHandlers env) (hst : tj.status ≠ .stabilising) (hh : HandlesOK tj)
    (Q : SubsH.QInv (noEff env) (quiet tj)) (hX : X.size = tj.observers.size)
    (hXo : ∀ (o : Nat) (ob : ObsRec), tj.observers[o]? = some ob →
      ∃ ob', X[o]? = some ob' ∧ ob'.node = ob.node ∧ ob'.state = ob.state)
    (h : (runEffects env fuel (env.handler hid upd) arg).run.run
      { tj with observers := X, log := .notif tok upd :: tj.log } = (.ok u, t3)) :
    StepW tj t3 [.notif tok upd] (env.handler hid upd) ∧ t3.observers = X ∧
      SubsH.QInv (noEff env) (quiet t3) ∧ HandlesOK t3 := by
  have Q2 : SubsH.QInv (noEff env) (quiet { tj with observers := X, log := .notif tok upd :: tj.log }) :=
    qinvU_congr Q rfl rfl (fun m => ⟨_, rfl⟩) hX hXo
  obtain ⟨-, Q3, A, hh3, hc⟩ := runEffects_imm (env0 := noEff env) (s := { tj with observers := X, log := .notif tok upd :: tj.log })
    hst (fun e he => hH hid upd e he) hh Q2 h
  refine ⟨?_, by rw [A.eq], Q3, hh3⟩
  have := (StepW.of_notif tj X tok upd).trans (StepW.of_appliedL A hc)
  simpa using this

theorem modify_handlers_facts {A : Array ObsRec} {o : Nat} (g : List HandlerRec → List HandlerRec) :
    (A.modify o (fun x => { x with handlers := g x.handlers })).size = A.size ∧
    ∀ (o' : Nat) (ob : ObsRec), A[o']? = some ob →
      ∃ ob', (A.modify o (fun x => { x with handlers := g x.handlers }))[o']? = some ob' ∧
        ob'.node = ob.node ∧ ob'.state = ob.state := by
  refine ⟨Array.size_modify .., fun o' ob hob => ?_⟩
  rw [Array.getElem?_modify]
  by_cases e : o = o'
  · rw [if_pos e, hob]; exact ⟨_, rfl, rfl, rfl⟩
  · rw [if_neg e, hob]; exact ⟨_, rfl, rfl, rfl⟩

def setPrev (tok : Nat) (p : Previously) (h' : HandlerRec) : HandlerRec :=
  if h'.token == tok then { h' with prev := p } else h'

/-- the tail of one iteration of `runAll` that delivers `upd` to handler `a` -/
theorem deliver_tail {env : Env} {fuel o : Nat} {nu : NodeUpdate} {t tj t3 : State} {ob : ObsRec} {a : HandlerRec}
    {j : Nat} {upd : Update} {d : NodeUpdate} {u : Unit} {arg : Int} {lg : List Event} {effs : List Effect}
    (hH : WHandlers env) (hob : t.observers[o]? = some ob)
    (hnd : (ob.handlers.map (·.token)).Nodup) (hj : ob.handlers[j]? = some a)
    (hd : SubsH.stepPrev nu a = { a with prev := d.toPrev })
    (S : StepW t tj lg effs) (hstt : t.status ≠ .stabilising)
    (hobs : tj.observers = t.observers.modify o (fun x =>
      { x with handlers := (ob.handlers.take j).map (SubsH.stepPrev nu) ++ ob.handlers.drop j }))
    (Q : SubsH.QInv (noEff env) (quiet tj)) (hh : HandlesOK tj)
    (h : (runEffects env fuel (env.handler a.hid upd) arg).run.run
      { tj with
          observers := tj.observers.modify o (fun x => { x with handlers := x.handlers.map (setPrev a.token d.toPrev) }),
          log := .notif a.token upd :: tj.log } = (.ok u, t3)) :
    StepW t t3 (lg ++ [.notif a.token upd]) (effs ++ env.handler a.hid upd) ∧
    t3.observers = t.observers.modify o (fun x =>
      { x with handlers := (ob.handlers.take (j + 1)).map (SubsH.stepPrev nu) ++ ob.handlers.drop (j + 1) }) ∧
    SubsH.QInv (noEff env) (quiet t3) ∧ HandlesOK t3 := by
  obtain ⟨hsz, hXo⟩ := modify_handlers_facts (A := tj.observers) (o := o) (fun L => L.map fun h' =>
            if h'.token == a.token then { h' with prev := d.toPrev } else h')
  obtain ⟨S3, ho3, Q3, hh3⟩ := handler_step hH (by rw [S.status]; exact hstt) hh Q hsz hXo h
  refine ⟨S.trans S3, ?_, Q3, hh3⟩
  obtain ⟨htk, hdr⟩ := SubsH.P8.take_succ hj
  obtain ⟨hn1, hn2⟩ := SubsH.P8.nodup_split nu hj hnd
  rw [ho3, hobs, array_modify_modify]
  refine SubsH.P8.modify_congr hob ?_
  show ({ ob with handlers := _ } : ObsRec) = { ob with handlers := _ }
  congr 1
  show List.map _ (_ ++ _) = _
  rw [hdr, SubsH.P8.map_upd _ _ _ _ hn1 hn2, htk, List.map_append, List.map_cons, List.map_nil, hd,
    List.append_assoc]
  rfl

/-- **`run_all` with write effects in the handlers**, on an observer in use whose node reports `changed` or
`necessary` and has a value: the bookkeeping is that of `SubsH.runAll_spec`; the handlers' effects are executed as
immediate writes, in handler order -/
theorem runAll_specW {env : Env} {fuel o n : Nat} {nu : NodeUpdate} {now : Int} {t t' : State} {ob : ObsRec}
    {v : Val} (hH : WHandlers env) (hpc : t.panicCountdown = none) (hstt : t.status ≠ .stabilising)
    (hob : t.observers[o]? = some ob) (hst : ob.state = .inUse)
    (hnu : nu = .changed ∨ nu = .necessary) (hv : t.value env n = some v)
    (hnd : (ob.handlers.map (·.token)).Nodup) (hca : ∀ h, h ∈ ob.handlers → h.createdAt < now)
    (Q : SubsH.QInv (noEff env) (quiet t)) (hh : HandlesOK t)
    (h : (runAll env fuel o n nu now).run.run t = (.ok (), t')) :
    StepW t t' (ob.handlers.filterMap (SubsH.notifOf nu v)) (ob.handlers.flatMap (effsOf env nu v)) ∧
    t'.observers = t.observers.modify o (fun x => { x with handlers := x.handlers.map (SubsH.stepPrev nu) }) ∧
    SubsH.QInv (noEff env) (quiet t') ∧ HandlesOK t' := by
  unfold runAll at h
  obtain ⟨ob1, s1, h1, h⟩ := bind_ok_inv h
  obtain ⟨e1, hob1⟩ := getObs_ok_inv h1
  rw [e1] at h
  rw [hob] at hob1; cases hob1
  obtain ⟨_, s2, hl, h⟩ := bind_ok_inv h
  obtain ⟨_, e3⟩ := pure_ok_inv h
  rw [e3]
  have hI := forIn_ok_inv _ ob.handlers
    (fun j _ tj => StepW t tj ((ob.handlers.take j).filterMap (SubsH.notifOf nu v))
        ((ob.handlers.take j).flatMap (effsOf env nu v)) ∧
      tj.observers = t.observers.modify o (fun x =>
        { x with handlers := (ob.handlers.take j).map (SubsH.stepPrev nu) ++ ob.handlers.drop j }) ∧
      SubsH.QInv (noEff env) (quiet tj) ∧ HandlesOK tj) ?step ob.handlers 0 _ t _ s2 rfl (Nat.zero_le _)
      ?init hl
  case init =>
    refine ⟨by simpa using StepW.refl t, ?_, Q, hh⟩
    simp only [List.take_zero, List.drop_zero, List.map_nil, List.nil_append]
    rw [SubsH.P8.modify_id hob rfl]
  case step =>
    intro j a b tj r tj' hj ⟨S, hobs, Qj, hhj⟩ hb
    obtain ⟨obt, hobt, hb⟩ := bind_getObs_inv hb
    obtain ⟨htk, hdr⟩ := SubsH.P8.take_succ hj
    have ha : a ∈ ob.handlers := List.mem_of_getElem? hj
    have hobt' : obt = { ob with handlers := (ob.handlers.take j).map (SubsH.stepPrev nu) ++ ob.handlers.drop j } := by
      rw [hobs, Array.getElem?_modify, if_pos rfl, hob] at hobt
      cases hobt; rfl
    subst hobt'
    simp only [hst] at hb
    rw [if_pos (hca a ha)] at hb
    rcases SubsH.P8.handlerStep_cases (p := a.prev) hnu with hd | hd | hd
    · simp only [hd] at hb
      obtain ⟨rfl, rfl⟩ := pure_ok_inv hb
      refine ⟨_, rfl, ?_⟩
      have h1 : SubsH.stepPrev nu a = a := by simp only [SubsH.stepPrev, hd]
      have h2 : SubsH.notifOf nu v a = none := by simp only [SubsH.notifOf, hd]
      have h3 : effsOf env nu v a = [] := by simp only [effsOf, hd]
      refine ⟨?_, ?_, Qj, hhj⟩
      · rw [htk, List.filterMap_append, List.flatMap_append]
        simpa [h2, h3] using S
      · rw [hobs, htk, hdr, List.map_append, List.map_cons, List.map_nil, h1, List.append_assoc]
        rfl
    · simp only [hd] at hb
      obtain ⟨t1, et1, hb⟩ := bind_modObs_inv hb
      have hv1 : t1.value env n = some v := by
        exact (Obs.value_congr_nodes env (s := tj) (s' := t1) (by rw [et1]) n).trans
          ((S.value env n).trans hv)
      have hpc1 : t1.panicCountdown = none := by rw [et1]; exact S.pc.trans hpc
      rw [run_bind_ok (SubsH.P8.run_valueUnwrap hv1)] at hb
      simp only [pure_bind] at hb
      rw [run_bind_ok (run_tick_none _ hpc1), run_bind_logEv] at hb
      obtain ⟨u, t3, hr, hb⟩ := bind_ok_inv hb
      obtain ⟨rfl, rfl⟩ := pure_ok_inv hb
      refine ⟨_, rfl, ?_⟩
      subst et1
      have h1 : SubsH.stepPrev nu a = { a with prev := NodeUpdate.changed.toPrev } := by
        simp only [SubsH.stepPrev, hd]
      have h2 : SubsH.notifOf nu v a = some (.notif a.token (.changed v)) := by simp only [SubsH.notifOf, hd]
      have h3 : effsOf env nu v a = env.handler a.hid (.changed v) := by simp only [effsOf, hd]
      obtain ⟨S3, ho3, Q3, hh3⟩ := deliver_tail hH hob hnd hj h1 S hstt hobs Qj hhj hr
      refine ⟨?_, ho3, Q3, hh3⟩
      rw [htk, List.filterMap_append, List.flatMap_append]
      simpa [h2, h3] using S3
    · simp only [hd] at hb
      obtain ⟨t1, et1, hb⟩ := bind_modObs_inv hb
      have hv1 : t1.value env n = some v := by
        exact (Obs.value_congr_nodes env (s := tj) (s' := t1) (by rw [et1]) n).trans
          ((S.value env n).trans hv)
      have hpc1 : t1.panicCountdown = none := by rw [et1]; exact S.pc.trans hpc
      rw [run_bind_ok (SubsH.P8.run_valueUnwrap hv1)] at hb
      simp only [pure_bind] at hb
      rw [run_bind_ok (run_tick_none _ hpc1), run_bind_logEv] at hb
      obtain ⟨u, t3, hr, hb⟩ := bind_ok_inv hb
      obtain ⟨rfl, rfl⟩ := pure_ok_inv hb
      refine ⟨_, rfl, ?_⟩
      subst et1
      have h1 : SubsH.stepPrev nu a = { a with prev := NodeUpdate.necessary.toPrev } := by
        simp only [SubsH.stepPrev, hd]
      have h2 : SubsH.notifOf nu v a = some (.notif a.token (.initialised v)) := by
        simp only [SubsH.notifOf, hd]
      have h3 : effsOf env nu v a = env.handler a.hid (.initialised v) := by simp only [effsOf, hd]
      obtain ⟨S3, ho3, Q3, hh3⟩ := deliver_tail hH hob hnd hj h1 S hstt hobs Qj hhj hr
      refine ⟨?_, ho3, Q3, hh3⟩
      rw [htk, List.filterMap_append, List.flatMap_append]
      simpa [h2, h3] using S3
  simp only [List.take_length, List.drop_length, List.append_nil] at hI
  obtain ⟨S, hobs, Q', hh'⟩ := hI
  refine ⟨S, ?_, Q', hh'⟩
  rw [hobs]
  exact SubsH.P8.modify_congr hob rfl

/-- the state during the handler loop of `stabiliseEnd`: the observers in `po` have been processed, the
notifications `lg` logged and the effects `effs` executed (cf. `SubsH.P8.Run4`) -/
structure RunW (env : Env) (s s8 t : State) (po : List Nat) (lg : List Event) (effs : List Effect) : Prop where
  step : StepW s8 t lg effs
  obsSize : t.observers.size = s.observers.size
  obs : ∀ (o : Nat) (ob : ObsRec), s.observers[o]? = some ob →
    t.observers[o]? = some (if o ∈ po then SubsH.P8.stepOb env s ob else ob)
  q : SubsH.QInv (noEff env) (quiet t)
  hh : HandlesOK t

/-- one `runAll` of the handler loop of `stabiliseEnd` -/
theorem run4_stepW {env : Env} {fuel : Nat} {s s8 t t' : State} {po : List Nat} {lg : List Event}
    {effs : List Effect} {n o : Nat}
    (hH : WHandlers env) (O : SubsH.ObsInv s [] []) (H : SubsH.HInv s)
    (hval : ∀ n, s.isNecessary n = true → (s.nodeD n).valid = true ∧ (s.value env n).isSome = true)
    (hpc : s8.panicCountdown = none) (hst8 : s8.status ≠ .stabilising)
    (hv8 : ∀ n, s8.value env n = s.value env n)
    (R : RunW env s s8 t po lg effs) (ho : o ∈ (s.nodeD n).observers) (hnp : o ∉ po)
    (hr : (runAll env fuel o n (SubsH.nuAt env s n) (s.stabNum + 1)).run.run t = (.ok (), t')) :
    RunW env s s8 t' (po ++ [o]) (lg ++ SubsH.obsNotifs env s n o) (effs ++ obsEffs env s n o) := by
  obtain ⟨ob, hob, hon, hst⟩ := (O.mem n o).1 ho
  have hst : ob.state = .inUse := by
    rcases hst with h | h
    · exact h
    · exact absurd ((O.dis o ob hob).1 h) (by simp)
  have hnec : s.isNecessary n = true := (isNecessary_iff s n).2 (Or.inr (Or.inl (List.ne_nil_of_mem ho)))
  obtain ⟨hvalid, hsome⟩ := hval n hnec
  obtain ⟨v, hv⟩ := Option.isSome_iff_exists.1 hsome
  have hobt : t.observers[o]? = some ob := by rw [R.obs o ob hob, if_neg hnp]
  have hpct : t.panicCountdown = none := R.step.pc.trans hpc
  have hstt : t.status ≠ .stabilising := by rw [R.step.status]; exact hst8
  have hvt : t.value env n = some v := by rw [R.step.value, hv8, hv]
  obtain ⟨S, hobs, Q', hh'⟩ := runAll_specW hH hpct hstt hobt hst (SubsH.P8.nuAt_cases hvalid hnec) hvt
    (H.tokNodup o ob hob) (fun h hh => Int.lt_add_one_iff.2 (H.createdAt o ob h hob hh)) R.q R.hh hr
  have e1 : SubsH.obsNotifs env s n o = ob.handlers.filterMap (SubsH.notifOf (SubsH.nuAt env s n) v) := by
    simp only [SubsH.obsNotifs, hob, hv]
  have e2 : obsEffs env s n o = ob.handlers.flatMap (effsOf env (SubsH.nuAt env s n) v) := by
    simp only [obsEffs, hob, hv]
  refine ⟨?_, ?_, ?_, Q', hh'⟩
  · rw [e1, e2]; exact R.step.trans S
  · rw [hobs, ← R.obsSize]; exact Array.size_modify ..
  · intro o' ob' hob'
    rw [hobs, Array.getElem?_modify]
    by_cases e : o = o'
    · subst e
      rw [hob] at hob'; cases hob'
      rw [if_pos rfl, hobt, if_pos (List.mem_append_right _ (List.mem_singleton_self _))]
      simp only [Option.map_some, SubsH.P8.stepOb, hon]
    · rw [if_neg e, R.obs o' ob' hob']
      have : o' ∈ po ++ [o] ↔ o' ∈ po := by
        simp only [List.mem_append, List.mem_singleton]
        exact ⟨fun h => h.resolve_right (fun h => e h.symm), Or.inl⟩
      simp only [this]

/-- the `runAll`s for the observers of one queued node -/
theorem run4_innerW {env : Env} {fuel : Nat} {s s8 t t' : State} {po : List Nat} {lg : List Event}
    {effs : List Effect} {n : Nat}
    {f : Nat → PUnit → M (ForInStep PUnit)} {u u' : PUnit}
    (hf : ∀ o b, f o b = (runAll env fuel o n (SubsH.nuAt env s n) (s.stabNum + 1) >>= fun _ =>
      pure (ForInStep.yield PUnit.unit)))
    (hH : WHandlers env) (O : SubsH.ObsInv s [] []) (H : SubsH.HInv s)
    (hval : ∀ n, s.isNecessary n = true → (s.nodeD n).valid = true ∧ (s.value env n).isSome = true)
    (hpc : s8.panicCountdown = none) (hst8 : s8.status ≠ .stabilising)
    (hv8 : ∀ n, s8.value env n = s.value env n)
    (R : RunW env s s8 t po lg effs) (hdis : ∀ o, o ∈ (s.nodeD n).observers → o ∉ po)
    (hl : (forIn (s.nodeD n).observers u f).run.run t = (.ok u', t')) :
    RunW env s s8 t' (po ++ (s.nodeD n).observers)
      (lg ++ (s.nodeD n).observers.flatMap (SubsH.obsNotifs env s n))
      (effs ++ (s.nodeD n).observers.flatMap (obsEffs env s n)) := by
  have hI := forIn_ok_inv f (s.nodeD n).observers
    (fun k _ t => RunW env s s8 t (po ++ (s.nodeD n).observers.take k)
      (lg ++ ((s.nodeD n).observers.take k).flatMap (SubsH.obsNotifs env s n))
      (effs ++ ((s.nodeD n).observers.take k).flatMap (obsEffs env s n)))
      ?step (s.nodeD n).observers 0 u t u' t' rfl (Nat.zero_le _) ?init hl
  case init =>
    simpa using R
  case step =>
    intro k o b t1 r t2 hk R1 hb
    rw [hf] at hb
    obtain ⟨x, t3, hr, hb⟩ := bind_ok_inv hb
    obtain ⟨rfl, rfl⟩ := pure_ok_inv hb
    refine ⟨_, rfl, ?_⟩
    have hmem : o ∈ (s.nodeD n).observers := List.mem_of_getElem? hk
    have hnp : o ∉ po ++ (s.nodeD n).observers.take k := by
      rw [List.mem_append, not_or]
      exact ⟨hdis o hmem, SubsH.P8.not_mem_take hk (H.obsNodup n)⟩
    have := run4_stepW hH O H hval hpc hst8 hv8 R1 hmem hnp hr
    rw [SubsH.P8.flatMap_take_succ _ hk, SubsH.P8.flatMap_take_succ _ hk, (SubsH.P8.take_succ hk).1,
      ← List.append_assoc, ← List.append_assoc, ← List.append_assoc]
    exact this
  simpa using hI

/-- the handler loop of `stabiliseEnd` -/
theorem loop4W {env : Env} {fuel : Nat} {s s8 t' : State}
    {f : Nat × NodeUpdate → PUnit → M (ForInStep PUnit)} {u u' : PUnit}
    (hf : ∀ x b, f x b = (getNode x.1 >>= fun nd =>
      forIn nd.observers PUnit.unit (fun o _ => runAll env fuel o x.1 x.2 (s.stabNum + 1) >>= fun _ =>
        pure (ForInStep.yield PUnit.unit)) >>= fun _ => pure (ForInStep.yield PUnit.unit)))
    (hH : WHandlers env) (O : SubsH.ObsInv s [] []) (H : SubsH.HInv s)
    (hval : ∀ n, s.isNecessary n = true → (s.nodeD n).valid = true ∧ (s.value env n).isSome = true)
    (hpc : s8.panicCountdown = none) (hst8 : s8.status ≠ .stabilising)
    (hv8 : ∀ n, s8.value env n = s.value env n)
    (hn8 : ∀ m, (s8.nodeD m).observers = (s.nodeD m).observers)
    (R0 : RunW env s s8 s8 [] [] [])
    (hl : (forIn (s.handleAfterStab.map fun n => (n, SubsH.nuAt env s n)) u f).run.run s8 = (.ok u', t')) :
    RunW env s s8 t' (s.handleAfterStab.flatMap fun n => (s.nodeD n).observers) (SubsH.endNotifs env s)
      (endEffs env s) := by
  have hI := forIn_ok_inv f (s.handleAfterStab.map fun n => (n, SubsH.nuAt env s n))
    (fun j _ t => RunW env s s8 t ((s.handleAfterStab.take j).flatMap fun n => (s.nodeD n).observers)
      ((s.handleAfterStab.take j).flatMap fun n => (s.nodeD n).observers.flatMap (SubsH.obsNotifs env s n))
      ((s.handleAfterStab.take j).flatMap fun n => (s.nodeD n).observers.flatMap (obsEffs env s n)))
    ?step _ 0 u s8 u' t' rfl (Nat.zero_le _) ?init hl
  case init =>
    simpa using R0
  case step =>
    intro j x b t r t2 hj R hb
    rw [List.getElem?_map] at hj
    cases hn : s.handleAfterStab[j]? with
    | none => rw [hn] at hj; cases hj
    | some n =>
      rw [hn] at hj
      simp only [Option.map_some, Option.some.injEq] at hj
      subst hj
      rw [hf] at hb
      obtain ⟨nd, hnd, hb⟩ := bind_getNode_inv hb
      have hndo : nd.observers = (s.nodeD n).observers := by
        rw [← nodeD_of_some hnd, ← hn8]
        obtain ⟨x, hx⟩ := R.step.node n
        rw [hx]
      dsimp only at hb
      rw [hndo] at hb
      obtain ⟨x, t3, hin, hb⟩ := bind_ok_inv hb
      obtain ⟨rfl, rfl⟩ := pure_ok_inv hb
      refine ⟨_, rfl, ?_⟩
      have hdis : ∀ o, o ∈ (s.nodeD n).observers →
          o ∉ (s.handleAfterStab.take j).flatMap fun n => (s.nodeD n).observers := by
        intro o ho hm
        obtain ⟨n', hn', ho'⟩ := List.mem_flatMap.1 hm
        obtain ⟨ob, hob, hon, _⟩ := (O.mem n o).1 ho
        obtain ⟨ob', hob', hon', _⟩ := (O.mem n' o).1 ho'
        rw [hob] at hob'; cases hob'
        rw [hon] at hon'; subst hon'
        exact SubsH.P8.not_mem_take hn H.has.nodup hn'
      have := run4_innerW (f := fun o _ => runAll env fuel o n (SubsH.nuAt env s n) (s.stabNum + 1) >>= fun _ =>
        pure (ForInStep.yield PUnit.unit)) (fun _ _ => rfl) hH O H hval hpc hst8 hv8 R hdis hin
      rw [SubsH.P8.flatMap_take_succ _ hn, SubsH.P8.flatMap_take_succ _ hn, SubsH.P8.flatMap_take_succ _ hn]
      exact this
  simpa [SubsH.endNotifs, endEffs] using hI

theorem nodeUpdate_congrW {env : Env} {s t : State} (hsz : t.nodes.size = s.nodes.size)
    (hnode : ∀ m, ∃ b h, t.nodeD m = { s.nodeD m with inHandleAfterStab := b, heightInRch := h })
    (hstab : t.stabNum = s.stabNum + 1) (n : Nat) : t.nodeUpdate env n = SubsH.nuAt env s n := by
  have hv : t.value env n = s.value env n := by
    refine Step.value_congr env s t hsz (fun m => ?_) n
    obtain ⟨b, x, hb⟩ := hnode m
    rw [hb]; rfl
  have hv' : State.value env { s with stabNum := s.stabNum + 1 } n = s.value env n :=
    Obs.value_congr_nodes env (s := s) (s' := { s with stabNum := s.stabNum + 1 }) rfl n
  obtain ⟨b, x, hb⟩ := hnode n
  unfold SubsH.nuAt State.nodeUpdate
  simp only [hv, hv', hb, hstab]
  rfl

/-- the loop of `stabiliseEnd` that empties the queue of nodes with handlers, started after the var phase
(cf. `SubsH.P8.loop3`) -/
theorem loop3W {env : Env} {s c6 t : State}
    {f : Nat → List (Nat × NodeUpdate) → M (ForInStep (List (Nat × NodeUpdate)))}
    {q : List (Nat × NodeUpdate)}
    (hf : ∀ n q, f n q = (modNode n (fun x => { x with inHandleAfterStab := false }) >>= fun _ =>
      get >>= fun st => pure (ForInStep.yield (q ++ [(n, st.nodeUpdate env n)]))))
    (hsz6 : c6.nodes.size = s.nodes.size)
    (hnode6 : ∀ m, ∃ h, c6.nodeD m = { s.nodeD m with heightInRch := h })
    (hstab6 : c6.stabNum = s.stabNum + 1)
    (hl : (forIn s.handleAfterStab [] f).run.run c6 = (.ok q, t)) :
    SubsH.P8.restN t = SubsH.P8.restN c6 ∧ t.nodes.size = s.nodes.size ∧
    (∀ m, t.nodeD m = { c6.nodeD m with inHandleAfterStab :=
      if m ∈ s.handleAfterStab then false else (c6.nodeD m).inHandleAfterStab }) ∧
    q = s.handleAfterStab.map fun n => (n, SubsH.nuAt env s n) := by
  have hI := forIn_ok_inv f s.handleAfterStab
    (fun j q t => SubsH.P8.restN t = SubsH.P8.restN c6 ∧ t.nodes.size = s.nodes.size ∧
      (∀ m, t.nodeD m = { c6.nodeD m with inHandleAfterStab :=
        if m ∈ (s.handleAfterStab.take j) then false else (c6.nodeD m).inHandleAfterStab }) ∧
      q = (s.handleAfterStab.take j).map fun n => (n, SubsH.nuAt env s n))
    ?step _ 0 [] c6 q t rfl (Nat.zero_le _) ?init hl
  case init =>
    refine ⟨rfl, hsz6, fun m => ?_, by simp⟩
    simp only [List.take_zero, List.not_mem_nil, if_false]
  case step =>
    intro j n b t1 r t2 hj ⟨hrest, hsz, hnode, hq⟩ hb
    rw [hf] at hb
    obtain ⟨t3, et3, hb⟩ := bind_modNode_inv hb
    rw [run_bind_get] at hb
    obtain ⟨rfl, e2⟩ := pure_ok_inv hb
    refine ⟨_, rfl, ?_⟩
    rw [e2]
    have hsz3 : t3.nodes.size = s.nodes.size := by rw [et3, ← hsz]; exact Array.size_modify ..
    have hnode3 : ∀ m, t3.nodeD m = { c6.nodeD m with inHandleAfterStab :=
        if m ∈ (s.handleAfterStab.take (j + 1)) then false else (c6.nodeD m).inHandleAfterStab } := by
      intro m
      rw [et3, nodeD_modify, hnode m, (SubsH.P8.take_succ hj).1]
      by_cases e : n = m
      · subst e
        have hin : n ∈ List.take j s.handleAfterStab ++ [n] :=
          List.mem_append_right _ (List.mem_singleton_self _)
        rw [if_pos hin]
        by_cases hlt : n < t1.nodes.size
        · rw [if_pos ⟨rfl, hlt⟩]
        · rw [if_neg (fun h => hlt h.2)]
          have hd : c6.nodeD n = default := nodeD_default c6 n (by omega)
          rw [hd, SubsH.P8.default_flag]
          simp
      · rw [if_neg (fun h => e h.1)]
        have : m ∈ List.take j s.handleAfterStab ++ [n] ↔ m ∈ List.take j s.handleAfterStab := by
          simp only [List.mem_append, List.mem_singleton]
          exact ⟨fun h => h.resolve_right (fun h => e h.symm), Or.inl⟩
        simp only [this]
    refine ⟨?_, hsz3, hnode3, ?_⟩
    · rw [et3]; exact hrest
    · have hstab : t3.stabNum = s.stabNum + 1 := by
        rw [et3]; exact (show t1.stabNum = c6.stabNum from (congrArg State.stabNum hrest :)).trans hstab6
      have hn3 : ∀ m, ∃ b h, t3.nodeD m = { s.nodeD m with inHandleAfterStab := b, heightInRch := h } := by
        intro m
        obtain ⟨x, hx⟩ := hnode6 m
        exact ⟨_, x, by rw [hnode3 m, hx]⟩
      rw [nodeUpdate_congrW hsz3 hn3 hstab n, hq, (SubsH.P8.take_succ hj).1, List.map_append]
      rfl
  simpa using hI

/-- everything but vars, nodes, heap, counters, observers, log, memos, status -/
def coreF (s : State) : State := { coreW s with memos := [], status := .notStabilising }

theorem applyCell_handles (now : Int) (c : VarCell) : (applyCell now c).handles = c.handles := by
  unfold applyCell; split <;> rfl

end P15

/-- **`stabilise_end` with deferred function writes and handlers with write effects.**  `s` is the state after the drain
(status `stabilising`; `s.setDuringStab` = the written cells, whose `pending` holds the deferred value): no observer
waiting to be added or unlinked, the handler bookkeeping `HInv s`, every necessary node valid and with a value, no var
died, every handle alive, and the state after the bump of the round number — read with the status reset — satisfies the
subscription invariant.  Then the run is described by `EndedW` (see `Proofs/EffH11.lean`). -/
theorem stabiliseEnd_specW {env : Env} {fuel : Nat} {s s' : State} (hH : WHandlers env)
    (hpc : s.panicCountdown = none) (hst : s.status = .stabilising) (h2 : s.deadVars = [])
    (O : SubsH.ObsInv s [] []) (H : SubsH.HInv s)
    (hval : ∀ n, s.isNecessary n = true → (s.nodeD n).valid = true ∧ (s.value env n).isSome = true)
    (hh : HandlesOK s) (Q : SubsH.QInv (noEff env) (quiet (bump s)))
    (h : (stabiliseEnd env fuel).run.run s = (.ok (), s')) : EndedW env s s' := by
  have _ := hst  -- implied facts: not needed by the proof
  have _ := h2   -- (`Q` already says `s.deadVars = []`)
  rw [stabiliseEnd_eq] at h
  obtain ⟨u, c, h1, h⟩ := bind_ok_inv h
  rw [stabiliseEndVars_run] at h1
  have h1' : (applyAll s.setDuringStab).run.run (bump s) = (.ok u, c) := h1
  obtain ⟨Qc, A⟩ := applyAll_qU s.setDuringStab (bump s) c u Q h1'
  have hcv := (applyAll_ok _ _ _ _ h1').2.2.2
  have hcd : c.deadVars = [] := Qc.deadVars
  have hchas : c.handleAfterStab = s.handleAfterStab := by rw [A.eq]; rfl
  -- the cells after the var phase
  have hcell : ∀ (v : Nat) (c0 : VarCell), s.vars[v]? = some c0 →
      c.vars[v]? = some (if v ∈ s.setDuringStab then applyCell (s.stabNum + 1) c0 else c0) := by
    intro v c0 h0
    have h0' : (bump s).vars[v]? = some c0 := h0
    rw [hcv v, h0']
    by_cases hm : v ∈ s.setDuringStab
    · rw [if_pos hm, if_pos hm]; rfl
    · rw [if_neg hm, if_neg hm]
  have hhc : HandlesOK c := by
    intro v cv hcv'
    have hlt : v < s.vars.size := by
      have := lt_of_getElem? hcv'
      rw [A.vsize] at this; exact this
    obtain ⟨c0, h0⟩ := e2_some_of_lt hlt
    have := hcell v c0 h0
    rw [hcv'] at this
    cases this
    split
    · rw [P15.applyCell_handles]; exact hh v c0 h0
    · exact hh v c0 h0
  unfold stabiliseEndRest at h
  rw [run_bind_get] at h
  try dsimp only at h
  obtain ⟨s4, e4, h⟩ := bind_modify_inv h
  rw [hcd, List.forIn_nil] at h
  obtain ⟨_, s5, hp5, h⟩ := bind_ok_inv h
  obtain ⟨_, e5⟩ := pure_ok_inv hp5
  rw [e5] at h
  rw [run_bind_get] at h
  try dsimp only at h
  obtain ⟨s6, e6, h⟩ := bind_modify_inv h
  have hhs : s4.handleAfterStab = s.handleAfterStab := by rw [e4]; exact hchas
  rw [hhs] at h
  clear hp5 e5
  have hs6c : s6 = { c with handleAfterStab := [] } := by rw [e6, e4, e6_dead c hcd]
  have hsz6 : s6.nodes.size = s.nodes.size := by rw [hs6c]; exact A.size
  have hnode6 : ∀ m, ∃ x, s6.nodeD m = { s.nodeD m with heightInRch := x } := by
    intro m
    obtain ⟨x, hx⟩ := A.node m
    exact ⟨x, by rw [hs6c]; exact hx⟩
  have hstab6 : s6.stabNum = s.stabNum + 1 := by rw [hs6c, A.eq]; rfl
  -- loop 3
  obtain ⟨q, s7, hl3, h⟩ := bind_ok_inv h
  obtain ⟨hrest, hsz7, hnode7, hq⟩ := P15.loop3W (env := env) (fun _ _ => rfl) hsz6 hnode6 hstab6 hl3
  clear hl3
  have hnode7' : ∀ m, ∃ x, s7.nodeD m = { s.nodeD m with inHandleAfterStab := false, heightInRch := x } := by
    intro m
    obtain ⟨x, hx⟩ := hnode6 m
    refine ⟨x, ?_⟩
    rw [hnode7 m, hx]
    by_cases hm : m ∈ s.handleAfterStab
    · rw [if_pos hm]
    · rw [if_neg hm]
      have : (s.nodeD m).inHandleAfterStab = false := by
        cases hf : (s.nodeD m).inHandleAfterStab
        · rfl
        · exact absurd ((H.has.flag m).2 hf) hm
      simp only [this]
  obtain ⟨s8, e8, h⟩ := bind_modify_inv h
  rw [run_bind_get] at h
  have hstab8 : s8.stabNum = s.stabNum + 1 := by
    rw [e8]; exact (show s7.stabNum = s6.stabNum from (congrArg State.stabNum hrest :)).trans hstab6
  have hobs8 : s8.observers = s.observers := by
    rw [e8]
    exact (show s7.observers = s6.observers from (congrArg State.observers hrest :)).trans (by rw [hs6c, A.eq]; rfl)
  have hlog8 : s8.log = s.log := by
    rw [e8]
    exact (show s7.log = s6.log from (congrArg State.log hrest :)).trans (by rw [hs6c, A.eq]; rfl)
  have hvars8 : s8.vars = c.vars := by
    rw [e8]
    exact (show s7.vars = s6.vars from (congrArg State.vars hrest :)).trans (by rw [hs6c])
  have hpc8 : s8.panicCountdown = none := by
    rw [e8]
    exact (show s7.panicCountdown = s6.panicCountdown from (congrArg State.panicCountdown hrest :)).trans
      ((show s6.panicCountdown = s.panicCountdown by rw [hs6c, A.eq]; rfl).trans hpc)
  have hst8 : s8.status ≠ .stabilising := by rw [e8]; simp
  have hnodes8 : s8.nodes = s7.nodes := by rw [e8]
  have hnd8 : ∀ m, s8.nodeD m = s7.nodeD m := fun m => by simp only [State.nodeD, hnodes8]
  have hv8 : ∀ n, s8.value env n = s.value env n := by
    intro n
    refine Step.value_congr env s s8 (by rw [hnodes8, hsz7]) (fun m => ?_) n
    obtain ⟨x, hx⟩ := hnode7' m
    rw [hnd8, hx]; rfl
  have hn8 : ∀ m, (s8.nodeD m).observers = (s.nodeD m).observers := fun m => by
    obtain ⟨x, hx⟩ := hnode7' m
    rw [hnd8, hx]
  have Q8 : SubsH.QInv (noEff env) (quiet s8) := by
    refine qinvU_congr Qc ?_ ?_ (fun m => ?_) ?_ ?_
    · have a1 : coreQ (quiet s8) = coreQ (quiet s7) := by rw [e8]; rfl
      have a2 : coreQ (quiet s7) = coreQ (quiet s6) := (congrArg (fun x => coreQ (quiet x)) hrest :)
      have a3 : coreQ (quiet s6) = coreQ (quiet c) := by rw [hs6c]; rfl
      rw [a1, a2, a3]
    · show s8.nodes.size = c.nodes.size
      rw [hnodes8, hsz7, A.size]; rfl
    · show ∃ b, s8.nodeD m = { c.nodeD m with inHandleAfterStab := b }
      refine ⟨if m ∈ s.handleAfterStab then false else (c.nodeD m).inHandleAfterStab, ?_⟩
      rw [hnd8, hnode7 m, hs6c]; rfl
    · show s8.observers.size = c.observers.size
      rw [hobs8, A.eq]; rfl
    · intro o ob hob
      have : s8.observers = c.observers := by rw [hobs8, A.eq]; rfl
      exact ⟨ob, by rw [← hob]; exact congrArg (·[o]?) this, rfl, rfl⟩
  have hh8 : HandlesOK s8 := by
    intro v cv hv; rw [hvars8] at hv; exact hhc v cv hv
  have R0 : P15.RunW env s s8 s8 [] [] [] :=
    ⟨P15.StepW.refl s8, by rw [hobs8], fun o ob hob => by rw [hobs8, hob]; simp, Q8, hh8⟩
  -- loop 4
  rw [hq, hstab8] at h
  obtain ⟨_, s9, hl4, h⟩ := bind_ok_inv h
  have R9 := P15.loop4W (fuel := fuel) (fun _ _ => rfl) hH O H hval hpc8 hst8 hv8 hn8 R0 hl4
  clear hl4
  obtain ⟨s10, e10, h⟩ := bind_modify_inv h
  rw [run_modify] at h
  obtain ⟨_, e11⟩ := Prod.mk.inj h
  clear h
  have hcore : P15.coreF s' = P15.coreF (SubsH.P8.s6 s) := by
    have a1 : P15.coreF s' = P15.coreF s9 := by rw [← e11, e10]; rfl
    have a2 : P15.coreF s9 = P15.coreF s8 :=
      congrArg (fun y : State => { y with memos := [], status := .notStabilising }) R9.step.core
    have a3 : P15.coreF s8 = P15.coreF s7 := by rw [e8]; rfl
    have a4 : P15.coreF s7 = P15.coreF s6 := (congrArg P15.coreF hrest :)
    have a5 : P15.coreF s6 = P15.coreF (SubsH.P8.s6 s) := by rw [e6, e4, A.eq]; rfl
    rw [a1, a2, a3, a4, a5]
  have hnodes : s'.nodes = s9.nodes := by rw [← e11, e10]
  have hobs : s'.observers = s9.observers := by rw [← e11, e10]
  have hlog : s'.log = s9.log := by rw [← e11, e10]
  have hvars : s'.vars = s9.vars := by rw [← e11, e10]
  have hstatus : s'.status = .notStabilising := by rw [← e11]
  have hnd' : ∀ m, s'.nodeD m = s9.nodeD m := fun m => by simp only [State.nodeD, hnodes]
  have Q' : SubsH.QInv (noEff env) s' := by
    refine qinvU_congr R9.q ?_ ?_ (fun m => ⟨(s9.nodeD m).inHandleAfterStab, ?_⟩) ?_ ?_
    · rw [← e11, e10]; rfl
    · show s'.nodes.size = s9.nodes.size; rw [hnodes]
    · show s'.nodeD m = { s9.nodeD m with inHandleAfterStab := (s9.nodeD m).inHandleAfterStab }
      rw [hnd']
    · show s'.observers.size = s9.observers.size; rw [hobs]
    · intro o ob hob
      exact ⟨ob, by rw [← hob]; exact congrArg (·[o]?) hobs, rfl, rfl⟩
  refine ⟨by rw [hnodes, R9.step.size, hnodes8, hsz7], fun m => ?_, (congrArg State.ahh hcore :),
    (congrArg State.newObservers hcore :), (congrArg State.disallowedObservers hcore :),
    (congrArg State.allObservers hcore :), (congrArg State.currentScope hcore :), (congrArg State.panicCountdown hcore :),
    (congrArg State.top hcore :), (congrArg State.handles hcore :), (congrArg State.alive hcore :),
    (congrArg State.propagateInvalidity hcore :), (congrArg State.cfg hcore :), (congrArg State.nextToken hcore :),
    (congrArg State.stabNum hcore :), hstatus, (congrArg State.setDuringStab hcore :), (congrArg State.deadVars hcore :),
    (congrArg State.handleAfterStab hcore :), by rw [hobs, R9.obsSize], fun o ob hob => ?_, ?_, ?_, Q', ?_, ?_⟩
  · obtain ⟨x, hx⟩ := R9.step.node m
    obtain ⟨y, hy⟩ := hnode7' m
    exact ⟨x, by rw [hnd', hx, hnd8, hy]⟩
  · rw [hobs, R9.obs o ob hob]
    by_cases hc : ob.state = .inUse ∧ ob.node ∈ s.handleAfterStab
    · rw [if_pos hc, if_pos ((SubsH.P8.mem_work O hob).2 hc)]; rfl
    · rw [if_neg hc, if_neg (fun hm => hc ((SubsH.P8.mem_work O hob).1 hm))]
  · rw [hlog, R9.step.logN, hlog8]
  · obtain ⟨new, g, k⟩ := R9.step.logExt
    exact ⟨new, by rw [hlog, g, hlog8], k⟩
  · rw [hvars, R9.step.vsize, hvars8, A.vsize]; rfl
  · intro v c0 h0
    rw [hvars, R9.step.cells v _ (by rw [hvars8]; exact hcell v c0 h0), hstab8]

end IncrVerif.Proofs.EffH
