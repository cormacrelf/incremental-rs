import IncrVerif.Proofs.ExpertH17
import IncrVerif.Proofs.Footprint
/-!
# T4, part f (2): `HasRange` is kept by the two loops at the start of `stabilise` (statements about plain states, no invariant,
no order: they hold for every state of every fragment), as by every function of the engine, because every primitive write keeps it
-/
namespace IncrVerif.Proofs.TidyH.XT
open IncrVerif.Engine IncrVerif.Driver IncrVerif.Proofs IncrVerif.Proofs.Step IncrVerif.Proofs.Sched
open IncrVerif.Proofs.ExpertH IncrVerif.Proofs.ExpertH.QR

/-- the nodes queued for the update handlers exist (kept by every engine function: `handleAfterStabilisation n`
pushes `n` only after a successful `getNode n`, and nodes are never removed) -/
def HasRange (s : State) : Prop := ∀ n, n ∈ s.handleAfterStab → n < s.nodes.size

namespace X4f

/-- the node array does not shrink and `HasRange` is kept -/
def HasR (s s' : State) : Prop := s.nodes.size ≤ s'.nodes.size ∧ (HasRange s → HasRange s')

instance : PreOrd HasR :=
  ⟨fun _ => ⟨Nat.le_refl _, id⟩, fun h1 h2 => ⟨Nat.le_trans h1.1 h2.1, fun h => h2.2 (h1.2 h)⟩⟩

theorem HasR.of_edit {L w} {s s' : State} (e : Footprint.Edit L w s s') : HasR s s' := e.handlerRange

theorem PresH.handleAfterStabilisation (n) : Step.Pres HasR (handleAfterStabilisation n) :=
  (Footprint.Foot.handleAfterStabilisation n).frame HasR.of_edit
theorem PresH.bumpCounter (f) : Step.Pres HasR (bumpCounter f) := Step.Pres.modify fun _ => ⟨Nat.le_refl _, id⟩
theorem PresH.setHeight (n h) : Step.Pres HasR (setHeight n h) := (Footprint.Foot.setHeight n h).frame HasR.of_edit
theorem PresH.addParent (c i p) : Step.Pres HasR (addParent c i p) := (Footprint.Foot.addParent c i p).frame HasR.of_edit
theorem PresH.removeParent (c i p) : Step.Pres HasR (removeParent c i p) :=
  (Footprint.Foot.removeParent c i p).frame HasR.of_edit
theorem PresH.markMapRefUnknown (fuel n) : Step.Pres HasR (markMapRefUnknown fuel n) :=
  (Footprint.Foot.markMapRefUnknown fuel n).frame HasR.of_edit
theorem PresH.becameNecessary (env fuel n) : Step.Pres HasR (becameNecessary env fuel n) :=
  (Footprint.Foot.becameNecessary env fuel n).frame HasR.of_edit
theorem PresH.unlink (fuel : Nat) :
    (∀ n, Step.Pres HasR (becameUnnecessary fuel n)) ∧
    (∀ n, Step.Pres HasR (checkIfUnnecessary fuel n)) ∧
    (∀ n, Step.Pres HasR (removeChildren fuel n)) :=
  ⟨fun n => (Footprint.Foot.becameUnnecessary fuel n).frame HasR.of_edit,
   fun n => (Footprint.Foot.checkIfUnnecessary fuel n).frame HasR.of_edit,
   fun n => (Footprint.Foot.removeChildren fuel n).frame HasR.of_edit⟩
theorem PresH.checkIfUnnecessary (fuel n) : Step.Pres HasR (checkIfUnnecessary fuel n) :=
  (PresH.unlink fuel).2.1 n
theorem PresH.removeChildren (fuel n) : Step.Pres HasR (removeChildren fuel n) :=
  (PresH.unlink fuel).2.2 n
theorem PresH.invalidateNode (fuel n) : Step.Pres HasR (invalidateNode fuel n) :=
  (Footprint.Foot.invalidateNode fuel n).frame HasR.of_edit
theorem PresH.propagateInvalidity (fuel) : Step.Pres HasR (propagateInvalidity fuel) :=
  (Footprint.Foot.propagateInvalidity fuel).frame HasR.of_edit
theorem PresH.addNewObservers (env fuel) : Step.Pres HasR (addNewObservers env fuel) :=
  (Footprint.Foot.addNewObservers env fuel).frame HasR.of_edit
theorem PresH.unlinkDisallowedObservers (fuel) : Step.Pres HasR (unlinkDisallowedObservers fuel) :=
  (Footprint.Foot.unlinkDisallowedObservers fuel).frame HasR.of_edit


end X4f



theorem addNewObservers_hasRange {env : Env} {fuel : Nat} {s s' : State} {r : Except Panic Unit}
    (h : (addNewObservers env fuel).run.run s = (r, s')) (hs : HasRange s) : HasRange s' :=
  ((X4f.PresH.addNewObservers env fuel).h _ _ _ h).2 hs

theorem unlinkDisallowedObservers_hasRange {fuel : Nat} {s s' : State} {r : Except Panic Unit}
    (h : (unlinkDisallowedObservers fuel).run.run s = (r, s')) (hs : HasRange s) : HasRange s' :=
  ((X4f.PresH.unlinkDisallowedObservers fuel).h _ _ _ h).2 hs

end IncrVerif.Proofs.TidyH.XT
