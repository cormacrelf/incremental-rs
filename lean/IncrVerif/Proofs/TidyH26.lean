import IncrVerif.Proofs.TidyH25
/-!
# T3b part 2: one immediate write returns; the var phase of `stabilise_end` and the handlers' writes return

`didSet_returns`: `did_set_var_while_not_stabilising` cannot fail on a linked cell whose watch node is valid, has an
old stamp and a height within the heap.  `EP`: what the end phase of `stabilise` keeps (the subscription invariant
read with the status reset, the height bound, the room, linked cells with live handles, the bound on written
variables).
-/
namespace IncrVerif.Proofs.TidyH.EffT
open IncrVerif.Engine IncrVerif.Driver IncrVerif.Proofs IncrVerif.Proofs.Step IncrVerif.Proofs.Sched
open IncrVerif.Proofs.Quiet IncrVerif.Proofs.EffH

/-- **`did_set_var_while_not_stabilising` returns** -/
theorem didSet_returns {s : State} {v : Nat} {vc : VarCell} (hv : s.vars[v]? = some vc)
    (hl : vc.linked = true) (hlt : vc.node < s.nodes.size) (hkind : (s.nodeD vc.node).kind = .var v)
    (hvalid : (s.nodeD vc.node).valid = true) (hrec : (s.nodeD vc.node).recomputedAt < s.stabNum)
    (hh : s.isNecessary vc.node = true →
      0 ≤ (s.nodeD vc.node).height ∧ (s.nodeD vc.node).height ≤ s.rch.maxAllowed) :
    ∃ s', (didSetVarWhileNotStabilising v).run.run s = (.ok (), s') := by
  rw [didSet_run v s vc hv, if_neg (by rw [hl]; intro e; cases e)]
  by_cases h2 : s.stabNum ≤ vc.setAt
  · rw [if_pos h2]; exact ⟨_, rfl⟩
  rw [if_neg h2]
  dsimp only
  have hn : (bumped (withCell v { vc with setAt := s.stabNum } s)).nodes[vc.node]? = some (s.nodeD vc.node) := by
    show s.nodes[vc.node]? = _
    rw [State.nodeD, Array.getElem?_eq_getElem hlt]; rfl
  have hstale : (bumped (withCell v { vc with setAt := s.stabNum } s)).isStale vc.node = true := by
    have hc : (bumped (withCell v { vc with setAt := s.stabNum } s)).vars[v]? =
        some { vc with setAt := s.stabNum } := withCell_get v _ vc s hv
    rw [isStale_var _ _ v _ _ hn hkind hc, hvalid]
    simpa using hrec
  rw [if_neg (by rw [hvalid, hstale]; rintro ⟨-, h⟩; cases h)]
  by_cases h4 : ((s.nodeD vc.node).valid && s.isNecessary vc.node && !(s.nodeD vc.node).inRch) = true
  · rw [if_pos h4]
    have h4' : (s.nodeD vc.node).valid = true ∧ s.isNecessary vc.node = true ∧
        (s.nodeD vc.node).inRch = false := by
      simp only [Bool.and_eq_true, Bool.not_eq_true'] at h4
      exact ⟨h4.1.1, h4.1.2, h4.2⟩
    obtain ⟨h0, hle⟩ := hh h4'.2.1
    rw [rchInsert_run, hn]
    dsimp only
    have hpre : ¬ ((bumped (withCell v { vc with setAt := s.stabNum } s)).cfg.debug = true ∧
        (!(s.nodeD vc.node).inRch &&
          (bumped (withCell v { vc with setAt := s.stabNum } s)).needsToBeComputed vc.node) = false) := by
      rintro ⟨-, hp⟩
      have hnec : (bumped (withCell v { vc with setAt := s.stabNum } s)).isNecessary vc.node = true := h4'.2.1
      simp [State.needsToBeComputed, hstale, hnec, h4'.2.2] at hp
    have e2 : (bumped (withCell v { vc with setAt := s.stabNum } s)).rch = s.rch := rfl
    rw [if_neg hpre, e2, if_neg (by rintro ⟨-, h⟩; omega), if_neg (by omega), if_neg (by omega)]
    exact ⟨_, rfl⟩
  · rw [if_neg h4]; exact ⟨_, rfl⟩

/-- what the end phase of `stabilise` (var phase, update handlers with immediate writes) keeps -/
structure EP (env0 : Env) (N B : Nat) (t : State) : Prop where
  q : SubsH.QInv env0 (quiet t)
  hb : HBo t allClosed
  room : Room N t
  linked : ∀ (c : Nat) (vc : VarCell), t.vars[c]? = some vc → vc.linked = true
  handles : HandlesOK t
  bound : B ≤ t.vars.size

/-- `did_set` after the cell `v` was overwritten by a cell watching the same node -/
theorem EP.didSet_returns {env0 : Env} {N B : Nat} {t : State} (E : EP env0 N B t) {v : Nat} {vc0 vc1 : VarCell}
    (hv : t.vars[v]? = some vc0) (hnode : vc1.node = vc0.node) (hl : vc1.linked = vc0.linked) :
    ∃ s', (didSetVarWhileNotStabilising v).run.run (withCell v vc1 t) = (.ok (), s') := by
  have Q := E.q
  have I : GInv env0 (quiet t) allClosed := Q.struct
  have hcell := Q.vars.cell v vc0 hv
  have hsz : vc0.node < t.nodes.size := hcell.1
  have hkn : (t.nodeD vc0.node).kind = .var v := hcell.2
  have hval : (t.nodeD vc0.node).valid = true := (I.node hcell.1).valid
  have hst : (t.nodeD vc0.node).recomputedAt < t.stabNum := (Q.stamps vc0.node).1
  refine EffT.didSet_returns (s := withCell v vc1 t) (vc := vc1) (withCell_get v vc1 vc0 t hv)
    (by rw [hl]; exact E.linked v vc0 hv) (by rw [hnode]; exact hsz) (by rw [hnode]; exact hkn)
    (by rw [hnode]; exact hval) (by rw [hnode]; exact hst) ?_
  rw [hnode]
  intro hnec
  have hnec' : t.isNecessary vc0.node = true := hnec
  have h0 : 0 ≤ (t.nodeD vc0.node).height := I.hpos _ hnec' rfl
  have hle := E.hb _ hnec' rfl
  have hmax : t.rch.maxAllowed = (N : Int) := E.room.rch
  have hN := E.room.size
  refine ⟨h0, ?_⟩
  show (t.nodeD vc0.node).height ≤ t.rch.maxAllowed
  omega

/-- the frame of one immediate write, as far as `EP` reads it -/
structure Wr (t t' : State) : Prop where
  size : t'.nodes.size = t.nodes.size
  node : ∀ m, ∃ h b, t'.nodeD m = { t.nodeD m with heightInRch := h, inHandleAfterStab := b }
  ahh : t'.ahh = t.ahh
  qsize : t'.rch.queues.size = t.rch.queues.size
  vsize : t'.vars.size = t.vars.size
  cell : ∀ (w : Nat) (c : VarCell), t.vars[w]? = some c →
    ∃ c', t'.vars[w]? = some c' ∧ c'.linked = c.linked ∧ c'.handles = c.handles

theorem Wr.refl (t : State) : Wr t t := ⟨rfl, fun _ => ⟨_, _, rfl⟩, rfl, rfl, rfl, fun _ c h => ⟨c, h, rfl, rfl⟩⟩

theorem Wr.trans {a b c : State} (h1 : Wr a b) (h2 : Wr b c) : Wr a c := by
  refine ⟨h2.size.trans h1.size, fun m => ?_, h2.ahh.trans h1.ahh, h2.qsize.trans h1.qsize,
    h2.vsize.trans h1.vsize, fun w x hx => ?_⟩
  · obtain ⟨x, bx, hx⟩ := h1.node m
    obtain ⟨y, b2, hy⟩ := h2.node m
    exact ⟨y, b2, by rw [hy, hx]⟩
  · obtain ⟨y, hy, l1, k1⟩ := h1.cell w x hx
    obtain ⟨z, hz, l2, k2⟩ := h2.cell w y hy
    exact ⟨z, hz, l2.trans l1, k2.trans k1⟩

theorem Wr.back {t t' : State} (W : Wr t t') {w : Nat} {c' : VarCell} (h : t'.vars[w]? = some c') :
    ∃ c, t.vars[w]? = some c ∧ c'.linked = c.linked ∧ c'.handles = c.handles := by
  have hlt : w < t.vars.size := W.vsize ▸ lt_of_getElem? h
  obtain ⟨c, hc⟩ := e2_some_of_lt hlt
  obtain ⟨c2, h2, h3, h4⟩ := W.cell w c hc
  rw [h] at h2; cases h2
  exact ⟨c, hc, h3, h4⟩

theorem EP.step {env0 : Env} {N B : Nat} {t t' : State} (E : EP env0 N B t) (W : Wr t t')
    (Q' : SubsH.QInv env0 (quiet t')) : EP env0 N B t' := by
  have hnec : ∀ m, t'.isNecessary m = t.isNecessary m := by
    intro m
    obtain ⟨h, b, e⟩ := W.node m
    rw [State.isNecessary, State.isNecessary, e]; rfl
  have hh : ∀ m, (t'.nodeD m).height = (t.nodeD m).height := by
    intro m
    obtain ⟨h, b, e⟩ := W.node m
    rw [e]
  refine ⟨Q', fun m hm ho => ?_, ⟨by rw [W.ahh]; exact E.room.ahh, ?_, by rw [W.size]; exact E.room.size⟩,
    fun w c' h => ?_, fun w c' h => ?_, by rw [W.vsize]; exact E.bound⟩
  · rw [hnec] at hm; rw [hh]; exact E.hb m hm ho
  · rw [← E.room.rch]; exact maxAllowed_congr W.qsize
  · obtain ⟨c, hc, hl, -⟩ := W.back h
    rw [hl]; exact E.linked w c hc
  · obtain ⟨c, hc, -, hk⟩ := W.back h
    rw [hk]; exact E.handles w c hc

theorem didSetFinal_qsize (v : Nat) (vc : VarCell) (s : State) :
    (didSetFinal v vc s).rch.queues.size = s.rch.queues.size := by
  unfold didSetFinal
  split
  · rfl
  · split
    · simp [inserted, bumped, withCell]
    · rfl

theorem didSetFinal_ahh (v : Nat) (vc : VarCell) (s : State) : (didSetFinal v vc s).ahh = s.ahh := by
  unfold didSetFinal
  split
  · rfl
  · split <;> rfl

theorem applyCell_linked (now : Int) (c : VarCell) : (applyCell now c).linked = c.linked := by
  unfold applyCell; split <;> rfl

/-! ## the var phase -/

/-- one deferred write of the var phase returns -/
theorem applyPending_total {env0 : Env} {N B : Nat} {t : State} {v : Nat} (E : EP env0 N B t)
    (hv : v < t.vars.size) :
    ∃ c, (applyPending v).run.run t = (.ok (), c) ∧ EP env0 N B c ∧ Wr t c ∧ c.status = t.status := by
  obtain ⟨vc, hvc⟩ := e2_some_of_lt hv
  have hrun := applyPending_run v t
  rw [hvc] at hrun
  dsimp only at hrun
  cases hp : vc.pending with
  | none =>
    rw [hp] at hrun
    exact ⟨t, hrun, E, Wr.refl t, rfl⟩
  | some x =>
    rw [hp] at hrun
    dsimp only at hrun
    obtain ⟨c, hc⟩ := E.didSet_returns (vc1 := { vc with pending := none, value := x }) hvc rfl rfl
    rw [hc] at hrun
    obtain ⟨Q', A⟩ := applyPending_qU E.q hrun
    obtain ⟨vc', hv', hvc', hoth, -, hst, -, -⟩ := applyPending_ok v t c () hrun
    rw [hvc] at hv'; cases hv'
    have hfin := (e6_didSet_ok v _ _ _ _ (withCell_get v { vc with pending := none, value := x } vc t hvc) hc).1
    have W : Wr t c := by
      refine ⟨A.size, fun m => (A.node m).elim fun h e => ⟨h, _, e⟩, ?_, ?_, A.vsize, fun w cw hw => ?_⟩
      · rw [hfin, didSetFinal_ahh]; rfl
      · rw [hfin, didSetFinal_qsize]; rfl
      · by_cases e : w = v
        · rw [e] at hw ⊢
          rw [hvc] at hw; cases hw
          exact ⟨_, hvc', applyCell_linked _ _, P15.applyCell_handles _ _⟩
        · exact ⟨cw, by rw [hoth w e]; exact hw, rfl, rfl⟩
    exact ⟨c, hrun, E.step W Q', W, hst⟩

/-- **the var phase returns** when every variable on the stack exists -/
theorem applyAll_total {env0 : Env} {N B : Nat} : ∀ (stack : List Nat) (t : State), EP env0 N B t →
    (∀ v, v ∈ stack → v < t.vars.size) →
    ∃ c, (applyAll stack).run.run t = (.ok (), c) ∧ EP env0 N B c ∧ Wr t c ∧ c.status = t.status := by
  intro stack
  induction stack with
  | nil => intro t E _; exact ⟨t, rfl, E, Wr.refl t, rfl⟩
  | cons v vs ih =>
    intro t E hs
    obtain ⟨c1, h1, E1, W1, s1⟩ := applyPending_total E (hs v (List.mem_cons_self ..))
    obtain ⟨c2, h2, E2, W2, s2⟩ := ih c1 E1 (fun w hw => by
      rw [W1.vsize]; exact hs w (List.mem_cons_of_mem _ hw))
    refine ⟨c2, ?_, E2, W1.trans W2, s2.trans s1⟩
    simp only [applyAll]
    rw [run_bind_ok h1]; exact h2

/-! ## immediate writes of update handlers -/

theorem write_imm_run (v : Nat) (f : Val → Val) (isSet : Bool) (k : Val → M Unit) (note : Val → List Event)
    (hk : ∀ x s, (k x).run.run s = (.ok (), logged (note x) s)) {env0 : Env} {N B : Nat} {s : State}
    (E : EP env0 N B s) (hst : s.status ≠ .stabilising) (hv : v < s.vars.size) :
    ∃ s1, (withVarHandle v (writeVar v f isSet >>= k)).run.run s = (.ok (), s1) := by
  obtain ⟨vc, hvc⟩ := e2_some_of_lt hv
  obtain ⟨s2, h2⟩ := E.didSet_returns (vc1 := { vc with value := f vc.value }) hvc rfl rfl
  rw [e2_run_withVarHandle _ _ _ E.handles, run_bind, writeVar_outside_run v f isSet s vc hvc hst, h2]
  simp only [mapOk, hk]
  exact ⟨_, rfl⟩

/-- one write effect of a handler returns -/
theorem runEffectBasic_imm_run {env env0 : Env} {N B : Nat} {e : Effect} {s : State} (E : EP env0 N B s)
    (hst : s.status ≠ .stabilising) (hw : (effWrite e).isSome = true)
    (hex : ∀ v f, effWrite e = some (v, f) → v < s.vars.size) :
    ∃ s1, (runEffectBasic env e).run.run s = (.ok (), s1) := by
  cases e <;> first | (exact Bool.noConfusion hw) | skip
  case setVar v x =>
    unfold runEffectBasic
    simp only [e2_discard_eq]
    exact write_imm_run v _ _ (fun _ => (pure () : M Unit)) (fun _ => []) (fun _ _ => rfl) E hst (hex v _ rfl)
  case modifyVar v d =>
    unfold runEffectBasic
    simp only [e2_discard_eq]
    exact write_imm_run v _ _ (fun _ => (pure () : M Unit)) (fun _ => []) (fun _ _ => rfl) E hst (hex v _ rfl)
  case updateVar v d =>
    unfold runEffectBasic
    simp only [e2_discard_eq]
    exact write_imm_run v _ _ (fun _ => (pure () : M Unit)) (fun _ => []) (fun _ _ => rfl) E hst (hex v _ rfl)
  case replaceVar v x =>
    unfold runEffectBasic
    exact write_imm_run v _ _ (fun old => logEv (.note s!"replace v{v} -> {old.render}"))
      (fun old => [.note s!"replace v{v} -> {old.render}"]) (fun _ _ => rfl) E hst (hex v _ rfl)
  case replaceWithVar v d =>
    unfold runEffectBasic
    exact write_imm_run v _ _ (fun old => logEv (.note s!"replacewith v{v} -> {old.render}"))
      (fun old => [.note s!"replacewith v{v} -> {old.render}"]) (fun _ _ => rfl) E hst (hex v _ rfl)

theorem cellAfter_linked (now : Int) (fs : List (Val → Val)) (c : VarCell) :
    (cellAfter now fs c).linked = c.linked ∧ (cellAfter now fs c).handles = c.handles := by
  unfold cellAfter; split <;> exact ⟨rfl, rfl⟩

/-- the frame of one immediate write followed by a log entry -/
theorem wr_wrote {env0 : Env} {s : State} {v : Nat} {vc : VarCell} (f : Val → Val) (es : List Event)
    (hes : ∀ e, e ∈ es → ∃ str, e = .note str) (hh : HandlesOK s) (Q : SubsH.QInv env0 (quiet s))
    (hv : s.vars[v]? = some vc)
    (hht : vc.setAt < s.stabNum →
      ((s.nodeD vc.node).valid && s.isNecessary vc.node && !(s.nodeD vc.node).inRch) = true →
      0 ≤ (s.nodeD vc.node).height ∧ (s.nodeD vc.node).height ≤ s.rch.maxAllowed) :
    Wr s (logged es (wroteOutside v vc (f vc.value) s)) := by
  obtain ⟨-, -, -, A, -, hc⟩ := e12_wrote f es hes hh Q hv hht
  have hS := wroteOutside_sizes v vc (f vc.value) s
  have hF := wroteOutside_frame v vc (f vc.value) s
  refine ⟨A.size, fun m => (A.node m).elim fun h e => ⟨h, _, e⟩, hF.2.2.2.2.1, hS.2, A.vsize, fun w c hw => ?_⟩
  exact ⟨_, hc w c hw, (cellAfter_linked _ _ _).1, (cellAfter_linked _ _ _).2⟩

/-- **the write effects of a handler return** (immediate writes on existing variables), `EP` is kept -/
theorem runEffects_imm_total {env env0 : Env} {N B : Nat} {fuel : Nat} {es : List Effect} {arg : Int} {s : State}
    (E : EP env0 N B s) (hst : s.status ≠ .stabilising) (hw : ∀ e, e ∈ es → (effWrite e).isSome = true)
    (hex : ∀ e, e ∈ es → ∀ v f, effWrite e = some (v, f) → v < B) :
    ∃ s', (runEffects env fuel es arg).run.run s = (.ok (), s') ∧ EP env0 N B s' ∧ Wr s s' ∧ AppliedL s s' := by
  induction es generalizing s with
  | nil =>
    rw [runEffects_nil]
    exact ⟨s, rfl, E, Wr.refl s, AppliedL.refl s⟩
  | cons e es ih =>
    have he := hw e (List.mem_cons_self ..)
    obtain ⟨s1, h1⟩ := runEffectBasic_imm_run (env := env) E hst he
      (fun v f hv => Nat.lt_of_lt_of_le (hex e (List.mem_cons_self ..) v f hv) E.bound)
    obtain ⟨v, f, vc, hwe, hv, e1, hht⟩ := e12_runEffectBasic_imm hst he E.handles h1
    obtain ⟨hst1, -, Q1, A1, -, -⟩ :=
      e12_wrote f (effNote e vc.value) (e12_effNote_notes e vc.value) E.handles E.q hv hht
    have W1 := wr_wrote f (effNote e vc.value) (e12_effNote_notes e vc.value) E.handles E.q hv hht
    rw [← e1] at hst1 Q1 A1 W1
    have E1 := E.step W1 Q1
    obtain ⟨s', h2, E2, W2, A2⟩ := ih (s := s1) E1 (by rw [hst1]; exact hst)
      (fun e' he' => hw e' (List.mem_cons_of_mem _ he')) (fun e' he' => hex e' (List.mem_cons_of_mem _ he'))
    refine ⟨s', ?_, E2, W1.trans W2, A1.trans A2⟩
    rw [e2_runEffects_cons env fuel e es arg he, run_bind_ok h1]
    exact h2

end IncrVerif.Proofs.TidyH.EffT
