import IncrVerif.Proofs.NestH57
import IncrVerif.Proofs.NestH54
/-!
# Nested binds (F2), part 4e: `stabilise` on programs with nested binds (fragment F2), given the lc-step theorem `LcStepF2 env`

The counterpart of `BindH97` for nested binds.  The only hypothesis is `H : LcStepF2 env` (the description of a run of a change detector, `NestH42`).
-/
namespace IncrVerif.Proofs.NestH
open IncrVerif.Engine IncrVerif.Proofs IncrVerif.Proofs.Step IncrVerif.Proofs.Sched IncrVerif.Proofs.Quiet
open IncrVerif.Proofs.BindH

/-- **`stabilise` on a program with nested binds** (given the lc-step theorem).  From the invariant between API actions `QI2`, a successful `stabilise` (with
arbitrary pending new/disallowed observers) ends in the invariant again (`Stabilised2.inv : QI2 env s'`); variables unchanged, round number + 1; every
necessary node is valid, non-stale and reads (stored value and observer read) its from-scratch value `evalB` in the final graph; the drain started from a
state with the drain invariant, ran no node twice and no node of a generation (of a bind or of an inner bind) that died in it. -/
theorem stabilise_F2 {env : Env} (H : LcStepF2 env) {fuel : Nat} {s s' : State} (Q : QI2 env s)
    (h : (stabilise env fuel).run.run s = (.ok (), s')) : Stabilised2 env fuel s s' :=
  stabilise_q2 (lcStepsOK_auxS_F2 H) Q h

/-- after a `stabilise` every in-use observer reads the from-scratch value of its node, and every observer is in use or unlinked -/
theorem stabilise_reads_F2 {env : Env} (H : LcStepF2 env) {fuel : Nat} {s s' : State} (Q : QI2 env s)
    (h : (stabilise env fuel).run.run s = (.ok (), s')) : ReadsOK1 env s' ∧ ObsSettled s' :=
  stabilised_reads2 (stabilise_F2 H Q h)

end IncrVerif.Proofs.NestH
