import IncrVerif.Proofs.NestH9
import IncrVerif.Proofs.NestRank
import IncrVerif.Proofs.Corr
/-!
# Nested binds (F2), linking cascade, part 3: specs, scope lemmas, `addParentWithoutAdjustingHeights` step

Each of the two functions has ONE statement (`BNCorr2`, `APCorr2`, a `Step.Corr`): what a returning run establishes, and that the run returns
under `HBo2` (closed necessary nodes have height `≤ position in the rank order + 1`; a top-level node starts at height `0 + 1`), room for `N`
nodes, `MainNec` and fuel linear in the position of the node.  `"node:became_necessary:bind-not-necessary"`: `becameNecessary n` of a node
created in scope `.bind b` reads `binds[b].main` and panics when it is unnecessary, hence `MainNec s n` (of the PARENT `p` for
`addParentWithoutAdjustingHeights`).  It propagates down the cascade: a child `c` of scope `b` of the necessary open node `p` — `p` is a node
of scope `b`, or `p` IS the main node of `b` (`GInv2.parent_of_scope`).  `NL.scope_main_nec` derives it from `GInv2`.

Hypotheses of the specs: `hnu` (no node is unlinking), `HF` (a forced node of a
scope: the scope's change detector is necessary and closed) and, for `becameNecessary n` only, `hlc` (if `n` is the change
detector of a bind, the edge from the bind's main node to its right-hand side is not wanted).
The main node of a bind need not be valid (dead inner binds) — `GInv2.main_children` gets its validity from
`All2.scopeValid` (a necessary node of the scope is valid) or from the open parent.
-/
namespace IncrVerif.Proofs.NestH
open IncrVerif.Engine IncrVerif.Proofs IncrVerif.Proofs.Step IncrVerif.Proofs.Sched IncrVerif.Proofs.Quiet
open IncrVerif.Proofs.BindH

namespace NL
open BL CL

/-- the main node of the scope of `n` is necessary -/
def MainNec (s : State) (n : Nat) : Prop :=
  ∀ (b : Nat) (br : BindRec), (s.nodeD n).createdIn = .bind b → s.binds[b]? = some br → s.isNecessary br.main = true

def BNCorr2 (env : Env) (N fuel : Nat) : Prop :=
  ∀ (rk : Nat → Nat) n s op (ex : Nat → Prop) (dy : List Nat),
    GInv2 env rk s op ex dy →
    op n = .linking 0 → (s.nodeD n).inRch = false → (∀ m, op m ≠ .closed → rk n ≤ rk m) →
    (∀ p i, (p, i) ∈ (s.nodeD n).parents → op p ≠ .closed) →
    (∀ m k, op m ≠ .unlinking k) → HF s op →
    (∀ (b : Nat) (br : BindRec), s.binds[b]? = some br → br.lhsChange = n → ¬ Wants s op br.main 1) →
    Corr (becameNecessary env fuel n) s
      (HBo2 rk s op ∧ Room N s ∧ MainNec s n ∧ 2 * cnt rk s.nodes.size n + 2 ≤ fuel)
      (fun _ s' => GInv2 env rk s' (upd op n .closed) ex dy ∧ AboveR2 rk s n s' ∧ LRel (· = n) s s' ∧
        (HBo2 rk s op → HBo2 rk s' (upd op n .closed)))

def APCorr2 (env : Env) (N fuel : Nat) : Prop :=
  ∀ (rk : Nat → Nat) c idx p s op (ex : Nat → Prop) (dy : List Nat),
    GInv2 env rk s op ex dy → op p = .linking idx → (s.children p)[idx]? = some c →
    (∀ m, op m ≠ .closed → rk c < rk m) →
    (∀ m k, op m ≠ .unlinking k) → HF s op →
    Corr (addParentWithoutAdjustingHeights env fuel c idx p) s
      (HBo2 rk s op ∧ Room N s ∧ MainNec s p ∧ 2 * cnt rk s.nodes.size c + 3 ≤ fuel)
      (fun _ s' => GInv2 env rk s' (upd op p (.linking (idx + 1))) ex dy ∧ AboveR2 rk s c s' ∧
        LRel (fun _ => False) s s' ∧ s'.isNecessary c = true ∧
        (HBo2 rk s op → HBo2 rk s' (upd op p (.linking (idx + 1)))))

/-! ## scope lemmas -/

section
variable {env : Env} {rk : Nat → Nat} {s s' : State} {op : Nat → Op} {ex : Nat → Prop} {dy : List Nat}

/-- the whole scope of bind `b` -/
theorem scope_all_no_parents2 (I : GInv2 env rk s op ex dy) (hnu : ∀ m k, op m ≠ .unlinking k) {b : Nat}
    {br : BindRec} (hb : s.binds[b]? = some br) (hw : ¬ Wants s op br.main 1)
    (hnf : ∀ m, (s.nodeD m).createdIn = .bind b → (s.nodeD m).forceNecessary = false) :
    ∀ m, (s.nodeD m).createdIn = .bind b → s.isNecessary m = false := by
  intro m hsc
  cases hnec : s.isNecessary m with
  | false => rfl
  | true =>
    exfalso
    have hm := nec_lt_size hnec
    have hp := I.scope_no_parents hb (fun m => m < s.nodes.size ∧ (s.nodeD m).createdIn = .bind b)
      (fun m h => h) (fun p m hp hm _ => ⟨lt_size_of_mem_children hm, hp⟩) (fun _ _ _ => hw) hnu
      (fun m h => hnf m h.2) m ⟨hm, hsc⟩
    simp only [State.isNecessary, Node.isNecessary, hp, I.scopeObs m b hsc, hnf m hsc] at hnec
    cases hnec

/-- a necessary node of a scope: the scope's change detector is necessary -/
theorem GInv2.scope_lc_nec (I : GInv2 env rk s op ex dy) (hnu : ∀ m k, op m ≠ .unlinking k) (hF : HF s op)
    {n b : Nat} {br : BindRec} (hsc : (s.nodeD n).createdIn = .bind b) (hb : s.binds[b]? = some br)
    (hnec : s.isNecessary n = true) : s.isNecessary br.lhsChange = true := by
  by_cases hfo : ∃ m, (s.nodeD m).createdIn = .bind b ∧ (s.nodeD m).forceNecessary = true
  · obtain ⟨m, h1, h2⟩ := hfo
    exact (hF m b br h2 h1 hb).1
  · by_cases hw : Wants s op br.main 1
    · have h0 := wants_zero_of_one hnu hw
      have hvm : (s.nodeD br.main).valid = true :=
        (I.frag.scopeValid n b br (nec_lt_size hnec) (GInv2.valid_of_nec I hnec) hsc hb).2
      have hk : (s.children br.main)[0]? = some br.lhsChange := by rw [I.main_children hb hvm]; rfl
      exact nec_of_mem_parents (I.conv br.main 0 br.lhsChange hk h0)
    · exfalso
      have := scope_all_no_parents2 I hnu hb hw (fun m h => by
        cases hf : (s.nodeD m).forceNecessary with
        | false => rfl
        | true => exact absurd ⟨m, h, hf⟩ hfo) n hsc
      rw [this] at hnec; cases hnec

/-- an open change detector whose main node does not want its right-hand side: no node of its scope is necessary -/
theorem GInv2.scopeQuiet_of (I : GInv2 env rk s op ex dy) (hnu : ∀ m k, op m ≠ .unlinking k) (hF : HF s op)
    {n : Nat} (hopn : op n ≠ .closed)
    (hlc : ∀ (b : Nat) (br : BindRec), s.binds[b]? = some br → br.lhsChange = n → ¬ Wants s op br.main 1) : ScopeQuiet s n := by
  intro m b br hsc hb e
  refine scope_all_no_parents2 I hnu hb (hlc b br hb e) (fun m' h => ?_) m hsc
  cases hf : (s.nodeD m').forceNecessary with
  | false => rfl
  | true =>
    have := (hF m' b br hf h hb).2
    rw [e] at this
    exact absurd this hopn

theorem scopeQuiet_transport2 (A : All2 env rk s dy) {n : Nat} (hsq : ScopeQuiet s n) (E : KeyEq s s')
    (hab : AboveR2 rk s n s') : ScopeQuiet s' n := by
  intro m b br hsc hb e
  rw [E.createdIn] at hsc; rw [E.binds] at hb
  by_cases hm : m < s.nodes.size
  · have h1 := (A.scope_rk hm hsc hb).1
    rw [e] at h1
    simp only [State.isNecessary, hab m h1]
    exact hsq m b br hsc hb e
  · cases h : s'.isNecessary m with
    | false => rfl
    | true =>
      have := nec_lt_size h
      rw [E.size] at this
      exact absurd this hm

end
/-! ## forward helpers -/

/-- transport: every closed necessary node of the new state was closed, necessary, and had the same height -/
theorem HBo2_transport {rk : Nat → Nat} {s s' : State} {op op' : Nat → Op} (hb : HBo2 rk s op)
    (hsz : s'.nodes.size = s.nodes.size)
    (h : ∀ m, s'.isNecessary m = true → op' m = .closed →
      s.isNecessary m = true ∧ op m = .closed ∧ (s'.nodeD m).height = (s.nodeD m).height) : HBo2 rk s' op' := by
  intro m hm ho
  obtain ⟨h1, h2, h3⟩ := h m hm ho
  rw [h3, hsz]
  exact hb m h1 h2

/-- the tail `match kind? with | some (.expert e) => … | _ => pure ()` of both cascade functions does nothing
for a node of the bind fragment -/
theorem tail_corr2 {env : Env} {p : Nat} {t : State} {P : Prop} {Q : Unit → State → Prop} (g : Nat → M Unit)
    (hp : p < t.nodes.size) (hv : (t.nodeD p).valid = true) (hk : BKind env (t.nodeD p).kind)
    (hq : Q () t) :
    Corr (do let x ← getNode p
             match x.kind? with
             | some (.expert e) => g e
             | _ => pure ()) t P Q := by
  refine Corr.bind_getNode hp ?_
  have hq' : (t.nodeD p).kind? = some (t.nodeD p).kind := by rw [Node.kind?, hv]; rfl
  rw [hq']
  cases hkd : (t.nodeD p).kind <;> rw [hkd] at hk <;> first | exact Corr.pure hq | exact False.elim hk

/-- `markMapRefUnknown` does nothing on a node of the bind fragment (forward form) -/
theorem markMapRefUnknown_B_run {env : Env} {fuel n : Nat} {s : State} (hf : 0 < fuel)
    (hn : n < s.nodes.size) (hv : (s.nodeD n).valid = true) (hk : BKind env (s.nodeD n).kind) :
    (markMapRefUnknown fuel n).run.run s = (.ok (), s) := by
  cases fuel with
  | zero => omega
  | succ fuel =>
    unfold markMapRefUnknown
    rw [run_bind_ok (run_getNode_some (some_of_lt hn))]
    have hq : (s.nodeD n).kind? = some (s.nodeD n).kind := by rw [Node.kind?, hv]; rfl
    rw [hq]
    cases hkd : (s.nodeD n).kind <;> rw [hkd] at hk <;> first | rfl | exact False.elim hk

/-- `scopeIsNecessary (.bind b)` reads the necessity of the bind's main node -/
theorem scopeIsNecessary_bind_run {s : State} {b : Nat} {br : BindRec} (hb : s.binds[b]? = some br)
    (hm : br.main < s.nodes.size) :
    (scopeIsNecessary (.bind b)).run.run s = (.ok (s.isNecessary br.main), s) := by
  simp only [scopeIsNecessary, getBind, run_bind, run_get, hb, run_pure, run_getNode, some_of_lt hm]
  rfl

/-- `scopeHeight (.bind b)` reads the height of the bind's change detector -/
theorem scopeHeight_bind_run {s : State} {b : Nat} {br : BindRec} (hb : s.binds[b]? = some br)
    (hl : br.lhsChange < s.nodes.size) :
    (scopeHeight (.bind b)).run.run s = (.ok (s.nodeD br.lhsChange).height, s) := by
  rw [scopeHeight_run]
  simp only [scopeHeightOf, hb, some_of_lt hl]

section
variable {env : Env} {rk : Nat → Nat} {s : State} {op : Nat → Op} {ex : Nat → Prop} {dy : List Nat}

/-- a wanted edge: the parent is necessary (when no node is unlinking) -/
theorem nec_of_wants (I : GInv2 env rk s op ex dy) (hnu : ∀ m k, op m ≠ .unlinking k) {p i : Nat}
    (hw : Wants s op p i) : s.isNecessary p = true := by
  unfold Wants at hw
  cases hop : op p with
  | closed => rw [hop] at hw; exact hw
  | linking k => exact I.lnec p k hop
  | unlinking k => exact absurd hop (hnu p k)

/-- **a necessary node of a scope: the scope's main node is necessary**, provided the scope's change detector is not forced
(only old right-hand sides are ever forced).  This is the hypothesis `MainNec` of the cascade. -/
theorem scope_main_nec (I : GInv2 env rk s op ex dy) (hnu : ∀ m k, op m ≠ .unlinking k) (hF : HF s op)
    {n b : Nat} {br : BindRec} (hsc : (s.nodeD n).createdIn = .bind b) (hb : s.binds[b]? = some br)
    (hlcf : (s.nodeD br.lhsChange).forceNecessary = false)
    (hnec : s.isNecessary n = true) : s.isNecessary br.main = true := by
  by_cases hw : Wants s op br.main 1
  · exact nec_of_wants I hnu hw
  · -- the change detector is necessary, and only the main node can be its parent
    have hlc : s.isNecessary br.lhsChange = true := GInv2.scope_lc_nec I hnu hF hsc hb hnec
    obtain ⟨-, -, h3, -, -⟩ := I.frag.recs b br hb
    rw [isNecessary_iff] at hlc
    rcases hlc with h | h | h
    · obtain ⟨⟨p, i⟩, hx⟩ := List.exists_mem_of_ne_nil _ h
      obtain ⟨hk, hwp⟩ := I.par _ p i hx
      have hpl := children_lt_size hk
      have hkp := (I.frag.node p hpl).lcChild _ b (List.mem_of_getElem? hk) h3
      obtain ⟨br', hb', hm', -⟩ := (I.frag.node p hpl).mainRec b _ hkp
      rw [hb] at hb'; cases hb'
      rw [hm']
      exact nec_of_wants I hnu hwp
    · exact absurd (I.lcObs _ b h3) h
    · rw [hlcf] at h; cases h

/-- the main node of the scope of a child of a necessary open node is necessary -/
theorem child_main_nec (I : GInv2 env rk s op ex dy) {p c idx : Nat} (hk : (s.children p)[idx]? = some c)
    (hpn : s.isNecessary p = true) (hmainP : MainNec s p) : MainNec s c := by
  intro b br hsc hb
  have hpl := children_lt_size hk
  rcases I.parent_of_scope (List.mem_of_getElem? hk) hsc with ⟨hpsc, -⟩ | ⟨lc, hkp⟩
  · exact hmainP b br hpsc hb
  · obtain ⟨br', hb', hm', -⟩ := (I.frag.node p hpl).mainRec b lc hkp
    rw [hb] at hb'; cases hb'
    rw [hm']; exact hpn

end

/-! ## `addParentWithoutAdjustingHeights` -/

theorem ap_corr2 (env : Env) (N fuel : Nat) (ih : BNCorr2 env N fuel) : APCorr2 env N (fuel + 1) := by
  intro rk c idx p s op ex dy I hop hk hlow hnu hF
  have hopp : op p ≠ .closed := by rw [hop]; exact Op.linking_ne_closed _
  have hp : p < s.nodes.size := I.opLt p hopp
  have hc : c < s.nodes.size := GInv2.kid_in I hk
  have hne : c ≠ p := GInv2.kid_ne I hk
  have hcv : (s.nodeD c).valid = true := GInv2.kid_valid I hk
  have hpv : (s.nodeD p).valid = true := GInv2.valid_of_open I hopp
  have hpn : s.isNecessary p = true := I.lnec p idx hop
  have hcl : op c = .closed := by
    cases e : op c with
    | closed => rfl
    | linking k => have := hlow c (by rw [e]; exact fun e => by cases e); omega
    | unlinking k => have := hlow c (by rw [e]; exact fun e => by cases e); omega
  unfold addParentWithoutAdjustingHeights
  refine Corr.bind_get (Corr.bind_dassert (fun _ _ => hpn) ?_)
  refine Corr.bind_get ?_
  dsimp only
  unfold addParent
  refine Corr.bind_modNode (fun s1 hs1 => ?_)
  have U : NodeUpd c (fParents ((s.nodeD c).parents ++ [(p, idx)])) s s1 := by
    rw [hs1]; exact NodeUpd.modify' hc rfl
  have hb1 : s1.binds = s.binds := by rw [hs1]
  have hon1 : Only c s s1 := by rw [hs1]; exact Only.modify c _ s
  have hl1 : LRel (fun _ => False) s s1 := by
    rw [hs1]
    refine ⟨CFrame.modNode s c _ (fun _ => rfl), rfl, fun m x hx => ?_, fun m _ _ => ?_⟩
    · rw [nodeD_modify]; split
      · rename_i e; rw [← e.1] at hx ⊢; exact List.mem_append_left _ hx
      · exact hx
    · rw [nodeD_modify]; split <;> rfl
  have hnec1 : s1.isNecessary c = true := by
    rw [isNecessary_iff]; left
    rw [U.self.parents]; simp [fParents]
  have E1 : KeyEq s s1 := KeyEq.of_cframe hl1.fr
  have hoth1 : ∀ m, m ≠ c → s1.nodeD m = s.nodeD m := by
    intro m hm; rw [hs1, nodeD_modify, if_neg (fun e => hm e.1.symm)]
  have hhgt1 : ∀ m, (s1.nodeD m).height = (s.nodeD m).height := by
    intro m; rw [hs1, nodeD_modify]; split <;> rfl
  have hc1 : c < s1.nodes.size := by rw [U.size]; exact hc
  have hp1 : p < s1.nodes.size := by rw [U.size]; exact hp
  have hvalid : (s1.nodeD c).valid = true := by rw [U.self.valid]; exact hcv
  refine Corr.bind_getNode hc1 ?_
  simp only [hvalid, Bool.not_true, Bool.false_eq_true, if_false]
  have hpv1 : (s1.nodeD p).valid = true := by rw [hoth1 p (Ne.symm hne)]; exact hpv
  have hpk1 : BKind env (s1.nodeD p).kind := by rw [hoth1 p (Ne.symm hne)]; exact (GInv2.node I hp).kind
  cases hwas : s.isNecessary c with
  | true =>
    simp only [Bool.not_true, Bool.false_eq_true, if_false]
    -- (D15) the child is not a `map_ref` node
    refine Corr.bind_getNode hc1 ?_
    have hcq : (s1.nodeD c).kind? = some (s.nodeD c).kind := by
      rw [Node.kind?, U.self.valid, U.self.kind]
      show (if (s.nodeD c).valid = true then some (s.nodeD c).kind else none) = _
      rw [hcv]; rfl
    rw [hcq]
    have hsk := (GInv2.node I hc).kind
    have hfin : HBo2 rk s op → HBo2 rk s1 (upd op p (.linking (idx + 1))) := by
      intro hb
      refine HBo2_transport hb U.size (fun m hm ho => ?_)
      obtain ⟨hmp, ho'⟩ := upd_closed_inv (Op.linking_ne_closed _) ho
      refine ⟨?_, ho', hhgt1 m⟩
      by_cases e : m = c
      · rw [e]; exact hwas
      · rw [State.isNecessary, hoth1 m e] at hm; exact hm
    have hq := And.intro (GInv2.addEdge_nec I U hb1 hop hk hwas hcl) (And.intro (only_aboveR2 (rk := rk) hon1) (And.intro hl1 (And.intro hnec1 hfin)))
    cases hkd : (s.nodeD c).kind <;> rw [hkd] at hsk <;>
      first | exact tail_corr2 _ hp1 hpv1 hpk1 hq | exact False.elim hsk
  | false =>
    simp only [Bool.not_false, if_true]
    obtain ⟨I1, hpar1, hnq1⟩ := GInv2.addEdge_open I U hb1 hop hk hwas hcl
    refine Corr.bind (ih rk c s1 _ ex dy I1 (upd_self _ _ _) hnq1 ?a1 ?a2 ?a3 ?a4 ?a5) ?hP ?rest
    case a1 =>
      intro m hm
      by_cases e : m = c
      · rw [e]; exact Nat.le_refl _
      · rw [upd_other _ _ _ e] at hm
        by_cases e2 : m = p
        · rw [e2]; exact Nat.le_of_lt (I.kid_rk hk)
        · rw [upd_other _ _ _ e2] at hm
          exact Nat.le_of_lt (hlow m hm)
    case a2 =>
      intro q i hq
      rw [hpar1] at hq
      simp only [List.mem_singleton, Prod.mk.injEq] at hq
      rw [hq.1, upd_other _ _ _ (Ne.symm hne), upd_self]
      exact fun e => by cases e
    case a3 =>
      intro m k
      by_cases e : m = c
      · rw [e, upd_self]; exact fun e => by cases e
      · rw [upd_other _ _ _ e]
        by_cases e2 : m = p
        · rw [e2, upd_self]; exact fun e => by cases e
        · rw [upd_other _ _ _ e2]; exact hnu m k
    case a4 =>
      exact hF.lrel hl1 (by
        intro m ho hn
        have e : m ≠ c := fun e => by rw [e, hwas] at hn; cases hn
        have e2 : m ≠ p := fun e => by rw [e] at ho; exact hopp ho
        rw [upd_other _ _ _ e, upd_other _ _ _ e2]; exact ho)
    case a5 =>
      -- if `c` is a change detector then `p` is its main node and `idx = 0`
      intro b br hb hl
      rw [hb1] at hb
      obtain ⟨-, -, h3, -, -⟩ := I.frag.recs b br hb
      rw [hl] at h3
      have hkp := (GInv2.node I hp).lcChild c b (List.mem_of_getElem? hk) h3
      obtain ⟨br', hb', hm', -⟩ := (GInv2.node I hp).mainRec b c hkp
      rw [hb] at hb'; cases hb'
      rw [hm', wants_linking (by rw [upd_other _ _ _ (Ne.symm hne), upd_self])]
      intro hi
      have h0 : Wants s op p 0 := (wants_linking hop).2 (by omega)
      have hk0 : (s.children p)[0]? = some c := by
        rw [← hm', I.main_children hb (by rw [hm']; exact hpv), hl]; rfl
      have := nec_of_mem_parents (I.conv p 0 c hk0 h0)
      rw [hwas] at this; cases this
    case hP =>
      intro ⟨hb, R, hmainP, hf⟩
      refine ⟨?_, R.of_cframe hl1.fr, ?_, by rw [U.size]; omega⟩
      · refine HBo2_transport hb U.size (fun m hm ho => ?_)
        obtain ⟨hmc, ho1⟩ := upd_closed_inv (Op.linking_ne_closed _) ho
        obtain ⟨hmp, ho2⟩ := upd_closed_inv (Op.linking_ne_closed _) ho1
        refine ⟨?_, ho2, hhgt1 m⟩
        rw [State.isNecessary, hoth1 m hmc] at hm; exact hm
      · intro b br hsc hb'
        rw [E1.createdIn] at hsc; rw [hb1] at hb'
        exact hl1.nec (child_main_nec I hk hpn hmainP b br hsc hb')
    case rest =>
      intro _ s2 _ ⟨I2, hab2, hl2, hHB2⟩
      rw [upd_upd, upd_eq_self _ c .closed (by rw [upd_other _ _ _ hne]; exact hcl)] at I2 hHB2
      have hp2 : p < s2.nodes.size := by rw [hl2.fr.size]; exact hp1
      have hpe : s2.nodeD p = s.nodeD p := by
        rw [hab2 p (I.kid_rk hk)]; exact hoth1 p (Ne.symm hne)
      refine tail_corr2 _ hp2 (by rw [hpe]; exact hpv) (by rw [hpe]; exact (GInv2.node I hp).kind)
        ⟨I2, AboveR2.trans (only_aboveR2 hon1) hab2, ?_, hl2.nec hnec1, fun hb => hHB2 ?_⟩
      · -- `c` was not necessary in `s`, so its height is not constrained by the relation from `s`
        refine ⟨hl1.fr.trans hl2.fr, hl2.pinv.trans hl1.pinv, fun m x hx => hl2.par m x (hl1.par m x hx),
          fun m _ hm => ?_⟩
        have e : m ≠ c := fun e => by rw [e, hwas] at hm; cases hm
        exact (hl2.hgt m e (hl1.nec hm)).trans (hl1.hgt m (fun h => h) hm)
      · refine HBo2_transport hb U.size (fun m hm ho => ?_)
        obtain ⟨hmc, ho1⟩ := upd_closed_inv (Op.linking_ne_closed _) ho
        obtain ⟨hmp, ho2⟩ := upd_closed_inv (Op.linking_ne_closed _) ho1
        refine ⟨?_, ho2, hhgt1 m⟩
        rw [State.isNecessary, hoth1 m hmc] at hm; exact hm

end NL

end IncrVerif.Proofs.NestH
