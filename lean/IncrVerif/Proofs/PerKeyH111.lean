import IncrVerif.Props.C14History
import IncrVerif.Engine.History
/-!
# Per-key operators over whole histories: non-vacuity examples (kernel-checked)

Five per-key families over one history shape (`exHistP fam`, 26 actions, 9 `stabilise`s): the operator
`perKey none fam x` (`incr_mapi_`) on the map variable `x = {1:3,5:0}`, an unused second map variable, an outer variable
`n2 = 2`.  The output node `n6` is observed; then, each followed by a `stabilise`: a key is inserted, a value is changed,
a key is removed, the outer variable is changed; the observer is disallowed, the map is edited twice without and once with a
`stabilise` in between (one edit removes a key while nothing is observed), the output is observed again, and the map and
the outer variable are edited once more.  After every `stabilise` the in-use observer reads the map
`{k ↦ F_fam(k, v) | (k, v) ∈ x}` (`exP?_reads`); for `P3` and `P0` the function is stated explicitly (`exP3_spec`,
`exP0_spec`).  All expected values were cross-checked against the real implementation
(`verif-harness engine` on the same history): same reads.

Families (`%0` = the per-key input node, value `v`; `lhsconst` = the constant key `k`; `n2` = the outer variable, `o`):
* `P0 = lhsconst ; map f0 %0 %1 ; ret %2`, `f0 = lin 7 0 2 1`:  `F(k, v) = (2 v + k) mod 7`
* `P1 = map f1 n2 ; ret %1`, `f1 = lin 7 1 1`:                   `F(k, v) = (1 + o) mod 7`   (a node per key, no use of `v`)
* `P2 = ret n2`:                                                  `F(k, v) = o`               (the SAME node for every key)
* `P3 = lhsconst ; map f2 %0 n2 ; ret %2`, `f2 = lin 7 0 1 1`:   `F(k, v) = (v + o) mod 7`
* `P4 = map f3 %0 ; map f1 %1 ; ret %2`, `f3 = lin 7 1 3`:        `F(k, v) = (1 + (1 + 3 v) mod 7) mod 7`
(`lin m c0 c1 c2 …` is `args ↦ (c0 + c1 * args[0] + c2 * args[1] + …) mod m`, `Defs.toEnv`.)
-/
namespace IncrVerif.Proofs.PerKeyH
open IncrVerif.Engine IncrVerif.Driver IncrVerif.Proofs IncrVerif.Proofs.ExpertH
open IncrVerif.Props.C14History IncrVerif.Proofs.ExpertH.QR

/-- `fn f0 lin 7 0 2 1; fn f2 lin 7 0 1 1; fn f1 lin 7 1 1; fn f3 lin 7 1 3` and the five families -/
def exDefsP : Defs :=
  { fns := [(0, { m := 7, coeffs := [0, 2, 1] }), (2, { m := 7, coeffs := [0, 1, 1] }),
            (1, { m := 7, coeffs := [1, 1] }), (3, { m := 7, coeffs := [1, 3] })],
    pks := [(0, { instrs := [.lhsConst, .map 0 [.loc 0, .loc 1]], ret := .loc 2 }),
            (3, { instrs := [.lhsConst, .map 2 [.loc 0, .outer 2]], ret := .loc 2 }),
            (4, { instrs := [.map 3 [.loc 0], .map 1 [.loc 1]], ret := .loc 2 }),
            (1, { instrs := [.map 1 [.outer 2]], ret := .loc 1 }),
            (2, { instrs := [], ret := .outer 2 })] }

/-- the environment the history parser builds from these definition lines -/
def exEnvP : Env := exDefsP.toEnv

/-- `var {1:3,5:0}; var {}; var 2; perkey bt none P<fam> n0; observe n3; stabilise; set v0 {1:3,5:0,6:2}; stabilise;
set v0 {1:4,5:0,6:2}; stabilise; set v0 {1:4,6:2}; stabilise; set v2 4; stabilise; disallow o0; set v0 {1:4,6:2,8:1};
set v0 {1:5,6:2,8:1}; stabilise; set v0 {1:5,8:1}; stabilise; set v0 {1:5,8:3,9:0}; observe n3; stabilise;
set v0 {1:6,9:0}; set v2 5; stabilise` -/
def exHistP (fam : Nat) : List Action :=
  [.create (.var (.map [(1, 3), (5, 0)])), .create (.var (.map [])), .create (.var (.int 2)),
   .create (.perKey none fam (.outer 0)), .observe (.outer 3), .stabilise,            -- 5
   .set 0 (.map [(1, 3), (5, 0), (6, 2)]), .stabilise,                                 -- 7   a key is inserted
   .set 0 (.map [(1, 4), (5, 0), (6, 2)]), .stabilise,                                 -- 9   a value changes
   .set 0 (.map [(1, 4), (6, 2)]), .stabilise,                                         -- 11  a key is removed
   .set 2 (.int 4), .stabilise,                                                        -- 13  the outer variable changes
   .disallow 0,
   .set 0 (.map [(1, 4), (6, 2), (8, 1)]), .set 0 (.map [(1, 5), (6, 2), (8, 1)]), .stabilise,   -- 17
   .set 0 (.map [(1, 5), (8, 1)]), .stabilise,                                         -- 19  a key is removed, unobserved
   .set 0 (.map [(1, 5), (8, 3), (9, 0)]), .observe (.outer 3), .stabilise,            -- 22
   .set 0 (.map [(1, 6), (9, 0)]), .set 2 (.int 5), .stabilise]                        -- 25

/-- after the history: what observer `o` reads, the current value of the input variable `v0` and of the outer variable
`v2` (the variables' cells: the node of a variable nobody depends on is not recomputed) -/
def ioAfter (env : Env) (acts : List Action) (o : Nat) : Option (Val × Option Val × Option Val) :=
  match runActions env acts (State.init 128 true) #[] with
  | .ok (s, _) =>
    match s.tryGetValue env o with
    | .ok v => some (v, (s.vars[0]?).map (·.value), (s.vars[2]?).map (·.value))
    | .error _ => none
  | .error _ => none

theorem readAfter_of_io {env : Env} {acts : List Action} {o : Nat} {r : Val} {x y : Option Val}
    (h : ioAfter env acts o = some (r, x, y)) : readAfter env acts o = some r := by
  unfold ioAfter at h
  unfold readAfter
  rcases hx : runActions env acts (State.init 128 true) #[] with e | ⟨s, tk⟩
  · rw [hx] at h; cases h
  · rw [hx] at h
    simp only at h ⊢
    rcases hv : s.tryGetValue env o with e | v
    · rw [hv] at h; cases h
    · rw [hv] at h
      simp only [Option.some.injEq, Prod.mk.injEq] at h
      simp only [h.1]

/-! ## `P3`: `F(k, v) = (v + n2) mod 7` -/

set_option maxRecDepth 100000 in
/-- after each `stabilise` with an in-use observer (`o0`; after the re-observation `o1`): (the read, the input map, the outer variable) -/
theorem exP3_io :
    ioAfter exEnvP ((exHistP 3).take 6) 0 = some (.map [(1, 5), (5, 2)], some (.map [(1, 3), (5, 0)]), some (.int 2)) ∧
    ioAfter exEnvP ((exHistP 3).take 8) 0 = some (.map [(1, 5), (5, 2), (6, 4)], some (.map [(1, 3), (5, 0), (6, 2)]), some (.int 2)) ∧
    ioAfter exEnvP ((exHistP 3).take 10) 0 = some (.map [(1, 6), (5, 2), (6, 4)], some (.map [(1, 4), (5, 0), (6, 2)]), some (.int 2)) ∧
    ioAfter exEnvP ((exHistP 3).take 12) 0 = some (.map [(1, 6), (6, 4)], some (.map [(1, 4), (6, 2)]), some (.int 2)) ∧
    ioAfter exEnvP ((exHistP 3).take 14) 0 = some (.map [(1, 1), (6, 6)], some (.map [(1, 4), (6, 2)]), some (.int 4)) ∧
    ioAfter exEnvP ((exHistP 3).take 23) 1 = some (.map [(1, 2), (8, 0), (9, 4)], some (.map [(1, 5), (8, 3), (9, 0)]), some (.int 4)) ∧
    ioAfter exEnvP (exHistP 3) 1 = some (.map [(1, 4), (9, 5)], some (.map [(1, 6), (9, 0)]), some (.int 5)) :=
  ⟨by decide +kernel, by decide +kernel, by decide +kernel, by decide +kernel, by decide +kernel, by decide +kernel,
    by decide +kernel⟩

/-- the reads alone -/
theorem exP3_reads :
    readAfter exEnvP ((exHistP 3).take 6) 0 = some (.map [(1, 5), (5, 2)]) ∧
    readAfter exEnvP ((exHistP 3).take 8) 0 = some (.map [(1, 5), (5, 2), (6, 4)]) ∧
    readAfter exEnvP ((exHistP 3).take 10) 0 = some (.map [(1, 6), (5, 2), (6, 4)]) ∧
    readAfter exEnvP ((exHistP 3).take 12) 0 = some (.map [(1, 6), (6, 4)]) ∧
    readAfter exEnvP ((exHistP 3).take 14) 0 = some (.map [(1, 1), (6, 6)]) ∧
    readAfter exEnvP ((exHistP 3).take 23) 1 = some (.map [(1, 2), (8, 0), (9, 4)]) ∧
    readAfter exEnvP (exHistP 3) 1 = some (.map [(1, 4), (9, 5)]) := by
  obtain ⟨h1, h2, h3, h4, h5, h6, h7⟩ := exP3_io
  exact ⟨readAfter_of_io h1, readAfter_of_io h2, readAfter_of_io h3, readAfter_of_io h4, readAfter_of_io h5,
    readAfter_of_io h6, readAfter_of_io h7⟩

/-- `f2 = lin 7 0 1 1` applied to (the per-key value, the outer variable) -/
def F3 (o : Int) (_k v : Int) : Int := (v + o) % 7

/-- C16 on the example, with the function explicit: after each `stabilise` the in-use observer reads
`{k ↦ F(k, v) | (k, v) ∈ x}` for the current value of the input variable `x` and of the outer variable (`2`, `4`, `5`) (the input
values are those of `exP3_io`) -/
theorem exP3_spec :
    readAfter exEnvP ((exHistP 3).take 6) 0 = some (.map ([(1, 3), (5, 0)].map fun (k, v) => (k, (F3 2) k v))) ∧
    readAfter exEnvP ((exHistP 3).take 8) 0 = some (.map ([(1, 3), (5, 0), (6, 2)].map fun (k, v) => (k, (F3 2) k v))) ∧
    readAfter exEnvP ((exHistP 3).take 10) 0 = some (.map ([(1, 4), (5, 0), (6, 2)].map fun (k, v) => (k, (F3 2) k v))) ∧
    readAfter exEnvP ((exHistP 3).take 12) 0 = some (.map ([(1, 4), (6, 2)].map fun (k, v) => (k, (F3 2) k v))) ∧
    readAfter exEnvP ((exHistP 3).take 14) 0 = some (.map ([(1, 4), (6, 2)].map fun (k, v) => (k, (F3 4) k v))) ∧
    readAfter exEnvP ((exHistP 3).take 23) 1 = some (.map ([(1, 5), (8, 3), (9, 0)].map fun (k, v) => (k, (F3 4) k v))) ∧
    readAfter exEnvP (exHistP 3) 1 = some (.map ([(1, 6), (9, 0)].map fun (k, v) => (k, (F3 5) k v))) := exP3_reads

set_option maxRecDepth 100000 in
/-- before the first `stabilise` the new observer has no value; the disallowed observer reads nothing (the history runs on:
the later reads are those of `o1`) -/
theorem exP3_noread : readAfter exEnvP ((exHistP 3).take 5) 0 = none ∧ readAfter exEnvP ((exHistP 3).take 18) 0 = none ∧
    ranOk exEnvP ((exHistP 3).take 5) = true ∧ ranOk exEnvP ((exHistP 3).take 18) = true :=
  by decide +kernel

end IncrVerif.Proofs.PerKeyH
