import IncrVerif.Proofs.PerKeyH13
import IncrVerif.Proofs.PerKeyH34
import IncrVerif.Proofs.PerKeyH23
/-!
# A run of a per-key change detector, part 2: shared infrastructure (twin/actual transport, `Pot.below`)
-/
namespace IncrVerif.Proofs.PerKeyH
open IncrVerif.Engine IncrVerif.Driver IncrVerif.Proofs IncrVerif.Proofs.Step IncrVerif.Proofs.Sched
open IncrVerif.Proofs.ExpertH IncrVerif.Proofs.EffH IncrVerif.Proofs.DriverH IncrVerif.Proofs.ExpertH.QR

/-! ## 1. twin/actual transport -/

theorem below_tw (l : List Event) (σ : State) (a b : Nat) :
    ExpertH.Below (twL l σ) a b ↔ ExpertH.Below σ a b := by
  constructor
  · intro h
    induction h with
    | refl a => exact .refl a
    | @step a b c h1 _ ih => exact .step (by rw [kidsX_twL] at h1; exact h1) ih
  · intro h
    induction h with
    | refl a => exact .refl a
    | @step a b c h1 _ ih => exact .step (by rw [kidsX_twL]; exact h1) ih

theorem Pot.below {σ : State} {ψ : Nat → Nat} {a b : Nat} (P : Pot σ ψ) (h : ExpertH.Below σ a b) : ψ b ≤ ψ a := by
  induction h with
  | refl a => exact Nat.le_refl _
  | @step a b c h1 _ ih =>
    by_cases ha : a < σ.nodes.size
    · exact Nat.le_trans ih (P.mono a b ha h1)
    · rw [nodeD_default_of_ge σ a (by omega)] at h1
      cases h1

end IncrVerif.Proofs.PerKeyH
