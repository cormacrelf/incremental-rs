import IncrVerif.Proofs.ExpertH63
/-!
# Expert nodes, E2: `add_dependency` keeps `SlotInv`

After the bookkeeping (`addedState`: new edge, fresh dependency name, `forceStale`) `SlotInv` holds but for the `Good`
obligation of the new edge, which matters only when the record's flag is down (then the node is necessary), the edge has
a callback and the child has a value `v`: in that case the TAIL of the top-level
`add_parent_without_adjusting_heights c k n` runs the callback of edge `k`, which stores `v`.
-/
namespace IncrVerif.Proofs.ExpertH
open IncrVerif.Engine IncrVerif.Driver IncrVerif.Proofs IncrVerif.Proofs.Step IncrVerif.Proofs.Sched
open IncrVerif.Proofs.ExpertH.QR IncrVerif.Proofs.Xp

theorem isStale_of_forceStale {s : State} {n e : Nat} {er : ExpertRec} (hk : (s.nodeD n).kind = .expert e)
    (hv : (s.nodeD n).valid = true) (he : s.experts[e]? = some er) (hf : er.forceStale = true) :
    s.isStale n = true := by
  unfold State.isStale
  have : (s.nodeD n).kind? = some (.expert e) := by simp [Node.kind?, hv, hk]
  simp only [this, he, hf, Bool.true_or]

/-- the exempted obligations are either never required or hold -/
theorem SlotInvEx.close {env : Env} {t : State} {X : Nat → Nat → Prop} (L : SlotInvEx env t X)
    (h : ∀ (n e : Nat) (er : ExpertRec), (t.nodeD n).kind = .expert e → t.experts[e]? = some er →
      (er.willFireAllCallbacks = false ∨ t.isStale n = false) → ∀ ed, ed ∈ er.children → ed.cb.isSome = true →
      X e ed.dep → List.lookup ed.dep er.slots = t.value env ed.child) : SlotInv env t := by
  refine ⟨L.deps, L.flag, fun n e er hk he hpre ed hed hcb => ?_⟩
  by_cases hX : X e ed.dep
  · exact h n e er hk he hpre ed hed hcb hX
  · exact L.good n e er hk he hpre ed hed hcb hX

section added
variable {env : Env} {s : State} {n e c : Nat} {er : ExpertRec} {cb : Bool}

theorem addedState_value (m : Nat) : (addedState e er c cb s).value env m = s.value env m :=
  value_congr env s (addedState e er c cb s) rfl (fun _ => rfl) m

/-- **after the bookkeeping of `add_dependency`**: `SlotInv` but for the new edge -/
theorem slotInvEx_added (L : SlotInv env s) (hv : ∀ m, (s.nodeD m).valid = true) (hx : s.experts[e]? = some er) :
    SlotInvEx env (addedState e er c cb s) (fun e' d => e' = e ∧ d = s.nextDep) := by
  have hnd : (addedState e er c cb s).nextDep = s.nextDep + 1 := rfl
  obtain ⟨d1, d2, d3⟩ := L.deps e er hx
  refine ⟨fun e' er' he' => ?_, fun n' e' er' hk he' hw => ?_, fun n' e' er' hk he' hpre => ?_⟩
  · rw [hnd]
    by_cases h : e' = e
    · subst h
      rw [addedState_get hx] at he'; cases he'
      refine ⟨?_, fun ed hed => ?_, fun p hp => Nat.lt_succ_of_lt (d3 p hp)⟩
      · simp only [List.map_append, List.map_cons, List.map_nil]
        rw [List.nodup_append]
        refine ⟨d1, List.nodup_cons.2 ⟨by simp, List.nodup_nil⟩, fun a ha b hb => ?_⟩
        obtain ⟨ed, hed, rfl⟩ := List.mem_map.1 ha
        rw [List.mem_singleton] at hb
        have := d2 ed hed
        rw [hb]; simp only [newEdge]; omega
      · rcases List.mem_append.1 hed with h | h
        · exact Nat.lt_succ_of_lt (d2 ed h)
        · rw [List.mem_singleton] at h; rw [h]; simp [newEdge]
    · rw [addedState_get_ne h] at he'
      obtain ⟨e1, e2, e3⟩ := L.deps e' er' he'
      exact ⟨e1, fun ed hed => Nat.lt_succ_of_lt (e2 ed hed), fun p hp => Nat.lt_succ_of_lt (e3 p hp)⟩
  · by_cases h : e' = e
    · subst h
      rw [addedState_get hx] at he'; cases he'
      exact L.flag n' e' er hk hx hw
    · rw [addedState_get_ne h] at he'
      exact L.flag n' e' er' hk he' hw
  · by_cases h : e' = e
    · subst h
      rw [addedState_get hx] at he'; cases he'
      have hst : (addedState e' er c cb s).isStale n' = true :=
        isStale_of_forceStale (s := addedState e' er c cb s) hk (hv n') (addedState_get hx) rfl
      have hw : er.willFireAllCallbacks = false := by
        rcases hpre with h | h
        · exact h
        · rw [hst] at h; cases h
      have G := L.good n' e' er hk hx (Or.inl hw)
      intro ed hed hcb hX
      rcases List.mem_append.1 hed with h | h
      · rw [addedState_value]; exact G ed h hcb
      · rw [List.mem_singleton] at h
        exact absurd ⟨rfl, by rw [h]; rfl⟩ hX
    · rw [addedState_get_ne h] at he'
      have hst : (addedState e er c cb s).isStale n' = s.isStale n' :=
        isStale_expert_congr (s := s) (s' := addedState e er c cb s) (fun _ => rfl) hk he'
          (by rw [addedState_get_ne h]; exact he') rfl rfl
      rw [hst] at hpre
      intro ed hed hcb _
      rw [addedState_value]; exact L.good n' e' er' hk he' hpre ed hed hcb

/-- the new edge needs no callback run: `SlotInv` holds right after the bookkeeping -/
theorem slotInv_added (L : SlotInv env s) (hv : ∀ m, (s.nodeD m).valid = true) (hx : s.experts[e]? = some er)
    (hcond : er.willFireAllCallbacks = false → cb = true → s.value env c = none) :
    SlotInv env (addedState e er c cb s) := by
  refine (slotInvEx_added (c := c) (cb := cb) L hv hx).close ?_
  intro n' e' er' hk he' hpre ed hed hcb hX
  obtain ⟨rfl, hd⟩ := hX
  rw [addedState_get hx] at he'; cases he'
  have hst : (addedState e' er c cb s).isStale n' = true :=
    isStale_of_forceStale (s := addedState e' er c cb s) hk (hv n') (addedState_get hx) rfl
  have hw : er.willFireAllCallbacks = false := by
    rcases hpre with h | h
    · exact h
    · rw [hst] at h; cases h
  obtain ⟨-, d2, d3⟩ := L.deps e' er hx
  have hed' : ed = newEdge s c cb := by
    rcases List.mem_append.1 hed with h | h
    · have := d2 ed h; omega
    · exact List.mem_singleton.1 h
  have hcb' : cb = true := by
    rw [hed'] at hcb; cases cb
    · simp [newEdge] at hcb
    · rfl
  rw [addedState_value, hed']
  show List.lookup s.nextDep er.slots = s.value env c
  rw [hcond hw hcb']
  exact lookup_none_of_keys _ _ fun p hp => Nat.ne_of_lt (d3 p hp)

end added

/-! ## the top-level link of the new edge -/

/-- the prefix of `add_parent_without_adjusting_heights` (all but the edge callback of the parent) keeps both frames -/
theorem addParentWAH_peel {env : Env} {fuel c i p : Nat} {s s' : State}
    (hv : ∀ m, (s.nodeD m).valid = true) (hmr : ∀ m q j, (s.nodeD m).kind ≠ .mapRef q j)
    (h : (addParentWithoutAdjustingHeights env (fuel+1) c i p).run.run s = (.ok (), s')) :
    ∃ t pn, SR env s t ∧ FM s t ∧ t.nodes[p]? = some pn ∧
      ∀ e, pn.kind? = some (.expert e) → (runEdgeCallback env e i).run.run t = (.ok (), s') := by
  unfold addParentWithoutAdjustingHeights at h
  rw [run_bind_get] at h
  replace h := bind_dassert_inv h
  rw [run_bind_get] at h
  dsimp only at h
  obtain ⟨_, t1, hap, h⟩ := bind_ok_inv h
  have R1 : SR env s t1 := (PresR.addParent c i p).h _ _ _ hap
  have M1 : FM s t1 := (PresM.addParent c i p).h _ _ _ hap
  obtain ⟨cn, hcn, h⟩ := bind_getNode_inv h
  have hcv : cn.valid = true := by rw [← nodeD_of_some hcn, R1.valid]; exact hv c
  simp only [hcv, Bool.not_true, Bool.false_eq_true, if_false] at h
  have fin : ∀ t, SR env s t → FM s t → (do
      let pn ← getNode p
      match pn.kind? with
        | some (Kind.expert e) => runEdgeCallback env e i
        | _ => pure () : M Unit).run.run t = (.ok (), s') →
      ∃ t pn, SR env s t ∧ FM s t ∧ t.nodes[p]? = some pn ∧
        ∀ e, pn.kind? = some (.expert e) → (runEdgeCallback env e i).run.run t = (.ok (), s') := by
    intro t R M ht
    obtain ⟨pn, hpn, ht⟩ := bind_getNode_inv ht
    refine ⟨t, pn, R, M, hpn, fun e hk => ?_⟩
    rw [hk] at ht; exact ht
  cases hwas : s.isNecessary c with
  | false =>
    simp only [hwas, Bool.not_false, if_true] at h
    obtain ⟨_, t2, hbn, h⟩ := bind_ok_inv h
    exact fin t2 (R1.trans ((PresR.becameNecessary env fuel c).h _ _ _ hbn))
      (M1.trans ((PresM.becameNecessary env fuel c).h _ _ _ hbn)) h
  | true =>
    simp only [hwas, Bool.not_true, Bool.false_eq_true, if_false] at h
    obtain ⟨cn2, hcn2, h⟩ := bind_getNode_inv h
    have hk2 : ∀ q j, cn2.kind? ≠ some (.mapRef q j) := by
      intro q j hq
      have : cn2.kind = .mapRef q j := by
        unfold Node.kind? at hq; split at hq
        · exact Option.some.inj hq
        · cases hq
      rw [← nodeD_of_some hcn2, R1.kind] at this
      exact hmr c q j this
    split at h
    · rename_i heq; exact absurd heq (hk2 _ _)
    · exact fin t1 R1 M1 h

/-- a callback that does run: the final state -/
theorem runEdgeCallback_ok_inv {env : Env} {e i : Nat} {t t' : State} {er : ExpertRec} {edge : ExpertEdge} {v : Val}
    (he : t.experts[e]? = some er) (hw : er.willFireAllCallbacks = false) (hi : er.children[i]? = some edge)
    (hcb : edge.cb.isSome = true) (hv : t.value env edge.child = some v)
    (h : (runEdgeCallback env e i).run.run t = (.ok (), t')) :
    ∃ t1, SameX t t1 ∧ t'.nodes = t1.nodes ∧
      t'.experts = (t1.experts.modify e fun x =>
        { x with slots := (edge.dep, v) :: x.slots.filter (·.1 != edge.dep) }) ∧
      t'.nextDep = t1.nextDep ∧ t'.propagateInvalidity = t1.propagateInvalidity := by
  rw [runEdgeCallback_run env i he, hw] at h
  simp only [Bool.false_eq_true, if_false, hi] at h
  unfold Engine.edgeOnChange at h
  cases hc : edge.cb with
  | none => rw [hc] at hcb; cases hcb
  | some c0 =>
    rw [hc] at h
    simp only [run_bind_get, hv] at h
    rw [run_bind_ok (run_getExpert_some he)] at h
    cases hpk : er.pk.isNone with
    | false =>
      rw [hpk] at h
      simp only [Bool.false_eq_true, if_false, run_modExpert] at h
      cases h
      exact ⟨t, ⟨rfl, rfl, rfl, rfl⟩, rfl, rfl, rfl, rfl⟩
    | true =>
      rw [hpk] at h
      simp only [if_true] at h
      obtain ⟨_, t1, htick, h⟩ := bind_ok_inv h
      have E := PresSame.tick.h _ _ _ htick
      simp only [run_bind, run_logEv, run_modExpert] at h
      cases h
      exact ⟨{ t1 with log := _ }, E, rfl, rfl, rfl, rfl⟩

/-- **the callback of the new edge re-establishes `Good`** -/
theorem deliver_closes {env : Env} {t t1 t' : State} {e dnew : Nat} {er : ExpertRec} {edge : ExpertEdge} {v : Val}
    (L : SlotInvEx env t (fun e' d => e' = e ∧ d = dnew))
    (he : t.experts[e]? = some er) (hw : er.willFireAllCallbacks = false) (hed : edge ∈ er.children)
    (hd : edge.dep = dnew) (hv : t.value env edge.child = some v) (E : SameX t t1) (g1 : t'.nodes = t1.nodes)
    (g2 : t'.experts = t1.experts.modify e fun x =>
      { x with slots := (edge.dep, v) :: x.slots.filter (·.1 != edge.dep) })
    (g3 : t'.nextDep = t1.nextDep) (g4 : t'.propagateInvalidity = t1.propagateInvalidity) : SlotInv env t' := by
  have R : SR env t t' := SR.deliver he hw hed hv E g1 g2 g3
  have hn : ∀ m, t'.nodeD m = t.nodeD m := fun m => by simp [State.nodeD, g1, E.1]
  have M : FM t t' := by
    refine ⟨fun m => by rw [hn], fun m => by rw [hn], fun j => ?_,
      fun m h => by simp only [State.isNecessary, hn]; exact h, fun _ => by rw [g4, E.2.2.2]⟩
    rw [g2, E.2.1, Array.getElem?_modify]
    split
    · cases t.experts[j]? <;> rfl
    · rfl
  have L' := slotInvEx_of_sr_fm L R M
  refine L'.close ?_
  intro n' e' er' hk he' hpre ed hed' hcb hX
  obtain ⟨rfl, hdd⟩ := hX
  have her' : er' = { er with slots := (edge.dep, v) :: er.slots.filter (·.1 != edge.dep) } := by
    rw [g2, E.2.1, Array.getElem?_modify, if_pos rfl, he] at he'
    simp only [Option.map_some, Option.some.injEq] at he'
    exact he'.symm
  have hch : er'.children = er.children := by rw [her']
  have : ed = edge := by
    refine eq_of_nodup_map (·.dep) (L'.deps e' er' he').1 hed' (by rw [hch]; exact hed) ?_
    show ed.dep = edge.dep
    rw [hdd, hd]
  rw [this, R.value, hv, her']
  simp

/-! ## `add_dependency` -/

macro_rules | `(tactic| qleaf) => `(tactic| with_reducible apply PresC.stateAddParent)

/-- with fuel `0`, `expertAddDependency` on a necessary expert node fails -/
theorem addDep_fuel0_nec {env : Env} {n c : Nat} {cb : Bool} {s s' : State} {dep : Nat} {nd : Node} {e : Nat}
    {er : ExpertRec} (hx : IsExpert s n nd e er) (hnec : nd.isNecessary = true)
    (h : (expertAddDependency env 0 n c cb).run.run s = (.ok dep, s')) : False := by
  rw [expertAddDependency_necessary_factor env 0 n c cb hx hnec] at h
  obtain ⟨_, s5, hsap, -⟩ := bind_ok_inv h
  unfold stateAddParent at hsap
  rw [run_bind_get] at hsap
  replace hsap := bind_dassert_inv hsap
  obtain ⟨_, s3, hap, -⟩ := bind_ok_inv hsap
  unfold addParentWithoutAdjustingHeights at hap
  cases hap

theorem expertAddDependency_slots {env : Env} {s s' : State} {fuel n c e dep : Nat} {cb : Bool} {er : ExpertRec}
    (F : XFrag env s) (hp : s.propagateInvalidity = []) (L : SlotInv env s)
    (hk : (s.nodeD n).kind = .expert e) (hx : s.experts[e]? = some er)
    (h : (expertAddDependency env fuel n c cb).run.run s = (.ok dep, s')) : SlotInv env s' := by
  have hlt := F.lt_of_expert hk
  have hX : IsExpert s n (s.nodeD n) e er := ⟨some_of_lt hlt, F.valid n hlt, hk, hx⟩
  have hv : ∀ m, (s.nodeD m).valid = true := F.validD
  cases hnec : (s.nodeD n).isNecessary with
  | false =>
    rw [expertAddDependency_unnecessary env fuel n c cb hX hnec] at h
    cases h
    refine slotInv_added L hv hx fun hw _ => ?_
    have := L.flag n e er hk hx hw
    simp only [State.isNecessary, hnec] at this
    cases this
  | true =>
    obtain _ | fuel := fuel
    · exact (addDep_fuel0_nec hX hnec h).elim
    rw [expertAddDependency_necessary_factor env (fuel+1) n c cb hX hnec] at h
    have hv2 : ∀ m, ((addedState e er c cb s).nodeD m).valid = true := hv
    have hp2 : (addedState e er c cb s).propagateInvalidity = [] := hp
    by_cases hcond : er.willFireAllCallbacks = false → cb = true → s.value env c = none
    · -- no callback needed
      have L2 := slotInv_added (c := c) (cb := cb) L hv hx hcond
      have key : CR env (addedState e er c cb s) s' := by
        refine Step.Pres.h (m := _) ?_ _ _ _ h
        qpres
      exact slotInv_of_cr L2 hv2 hp2 key
    · -- the callback of the new edge stores the child's value
      have hw : er.willFireAllCallbacks = false := by
        cases hh : er.willFireAllCallbacks with
        | false => rfl
        | true => exact absurd (fun h' => by rw [hh] at h'; cases h') hcond
      have hcb : cb = true := by
        cases cb with
        | true => rfl
        | false => exact absurd (fun _ h' => by cases h') hcond
      obtain ⟨v, hval⟩ : ∃ v, s.value env c = some v := by
        cases hh : s.value env c with
        | some v => exact ⟨v, rfl⟩
        | none => exact absurd (fun _ _ => rfl) (by rw [hh] at hcond; exact hcond)
      subst hcb
      have L2 := slotInvEx_added (c := c) (cb := true) L hv hx
      generalize hs2 : addedState e er c true s = s2 at h L2 hv2 hp2
      have hx2 : s2.experts[e]? = some { er with children := er.children ++ [newEdge s c true], forceStale := true } := by
        rw [← hs2]; exact addedState_get hx
      have hmr2 : ∀ m q j, (s2.nodeD m).kind ≠ .mapRef q j := by
        intro m q j; rw [← hs2]; exact F.noMapRef m q j
      obtain ⟨_, s5, hsap, h⟩ := bind_ok_inv h
      unfold stateAddParent at hsap
      rw [run_bind_get] at hsap
      replace hsap := bind_dassert_inv hsap
      obtain ⟨_, s3, hap, hsap⟩ := bind_ok_inv hsap
      -- the link, up to the callback
      obtain ⟨t, pn, R, M, hpn, htail⟩ := addParentWAH_peel hv2 hmr2 hap
      have hpk : pn.kind? = some (.expert e) := by
        have h1 : pn.kind = .expert e := by
          rw [← nodeD_of_some hpn, R.kind, ← hs2]; exact hk
        have h2 : pn.valid = true := by rw [← nodeD_of_some hpn, R.valid]; exact hv2 n
        simp [Node.kind?, h1, h2]
      have htail := htail e hpk
      obtain ⟨ert, het, hc, -, -, -, -⟩ := R.fwd hx2
      have hwt : ert.willFireAllCallbacks = false := by
        obtain ⟨er0, he0, hww⟩ := M.flag_back het
        rw [hx2] at he0; cases he0
        rw [← hww]; exact hw
      have hit : ert.children[er.children.length]? = some (newEdge s c true) := by
        rw [hc]; simp
      have hvt : t.value env c = some v := by
        rw [R.value, ← hs2, addedState_value]; exact hval
      obtain ⟨t1, E, g1, g2, g3, g4⟩ := runEdgeCallback_ok_inv het hwt hit rfl hvt htail
      have Lt := slotInvEx_of_sr_fm L2 R M
      have L3 : SlotInv env s3 :=
        deliver_closes Lt het hwt (List.mem_of_getElem? hit) rfl hvt E g1 g2 g3 g4
      -- the rest of the call
      have hv3 : ∀ m, (s3.nodeD m).valid = true := by
        intro m
        have : s3.nodeD m = t.nodeD m := by simp [State.nodeD, g1, E.1]
        rw [this, R.valid]; exact hv2 m
      have hp3 : s3.propagateInvalidity = [] := by rw [g4, E.2.2.2, M.pinv hv2]; exact hp2
      have key1 : CR env s3 s5 := by
        refine Step.Pres.h (m := _) ?_ _ _ _ hsap
        qpres
      have L5 := slotInv_of_cr L3 hv3 hp3 key1
      obtain ⟨r5, m5⟩ := key1 hv3 hp3
      have key2 : CR env s5 s' := by
        refine Step.Pres.h (m := _) ?_ _ _ _ h
        qpres
      exact slotInv_of_cr L5 (r5.allValid hv3) (by rw [m5.pinv hv3]; exact hp3) key2

/-- **`addDep` keeps `SlotInv`** -/
theorem addDep_slots {env : Env} {rk : Nat → Nat} {s s' : State} {eo co : Opnd} {cb : Bool} {tk : Array Nat}
    {r : String × Array Nat} (Q : QInvX env rk s) (L : SlotInv env s) (hok : AddDepOK s eo co)
    (h : (stepAction env (.addDep eo co cb) tk).run.run s = (.ok r, s')) : SlotInv env s' := by
  obtain ⟨kn, kc, n, c, e, dep, -, hn, hcc, hk, -, h3⟩ := addDep_ok_inv hok h
  obtain ⟨er, hx, -⟩ := Q.frag.xrec n e (Q.frag.lt_of_expert hk) hk
  exact expertAddDependency_slots Q.frag Q.pinv L hk hx h3

end IncrVerif.Proofs.ExpertH
