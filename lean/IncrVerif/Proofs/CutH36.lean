import IncrVerif.Proofs.CutH35
import IncrVerif.Proofs.CutH37
import IncrVerif.Proofs.CutH31
-- static programs with ARBITRARY cutoffs; `Proofs/Quiet24.lean` (default cutoffs) takes its lemmas from this file; overview in Props/C06History.lean
/-!
# Part 24: `stabilise` returns
-/
namespace IncrVerif.Proofs.CutH
open IncrVerif.Engine IncrVerif.Driver IncrVerif.Proofs IncrVerif.Proofs.Step IncrVerif.Proofs.Sched
variable {e : Bool}

/-- the state in which `drainHeap` starts (after the two observer loops) satisfies the drain invariant -/
theorem prefix_drainInv {env : Env} {s s0 t2 : State} (Q : QInv env e s)
    (hs0 : s0 = { s with status := .stabilising }) (S2 : SInv env t2 [] []) (F : PFrame s0 t2) :
    DrainInv env e t2 ∧ VarsOK t2 := by
  have hnd0 : ∀ m, s0.nodeD m = s.nodeD m := fun m => by rw [hs0]; rfl
  have hvars0 : s0.vars = s.vars := by rw [hs0]
  have hstab0 : s0.stabNum = s.stabNum := by rw [hs0]
  have hsz0 : s0.nodes.size = s.nodes.size := by rw [hs0]
  have V2 : VarsOK t2 := F.varsOK (by
    refine ⟨?_, ?_⟩
    · intro n c hn hk; rw [hnd0] at hk; rw [hvars0]; exact Q.vars.node n c (by rw [← hsz0]; exact hn) hk
    · intro c vc hc; rw [hvars0] at hc; rw [hsz0, hnd0]; exact Q.vars.cell c vc hc)
  have st2 : ∀ m, (t2.nodeD m).recomputedAt < t2.stabNum ∧ (t2.nodeD m).changedAt < t2.stabNum := by
    intro m
    rw [F.recomputedAt, F.changedAt, F.stabNum, hstab0, hnd0]; exact Q.stamps m
  have cons2 : ∀ m, m < t2.nodes.size → staleOf t2 m = false → ConsE env e t2 m := by
    intro m hm hs
    rw [F.staleOf] at hs
    have hs' : staleOf s m = false := by
      rw [← hs]; exact (staleOf_congr (by rw [hnd0]) (by rw [hnd0]) hvars0 (fun c _ => by rw [hnd0])).symm
    have hc := Q.cons m (by rw [← hsz0, ← F.size]; exact hm) hs'
    have hc0 : ConsE env e s0 m := by
      obtain ⟨w, hv, hw⟩ := hc
      exact ⟨w, by rw [hnd0]; exact hv, fun he => Target.congr (by rw [hnd0]) hvars0 (fun c _ => by rw [hnd0]) (hw he)⟩
    exact F.consE hc0
  have ex2 : e = true → ∀ m, ExactCut (t2.nodeD m).cutoff := by
    intro he m
    rw [F.cutoff, hnd0]; exact Q.exact he m
  exact ⟨drainInv_of S2.struct V2 (by rw [F.stabNum, hstab0]; exact Q.now) st2
    (fun c vc hc => by rw [F.vars, hvars0] at hc; rw [F.stabNum, hstab0]; exact Q.varStamp c vc hc) cons2 ex2, V2⟩

/-- **`stabilise` returns** (static fragment, enough fuel), and the extra invariant is kept. -/
theorem stabilise_total_q {env : Env} {N fuel : Nat} {s : State} (Q : QInv env e s) (T : TInv N s)
    (hf : 3 * s.nodes.size + 4 ≤ fuel) :
    Tot (stabilise env fuel) s (fun _ s' => TInv N s') := by
  -- the state with the status set
  obtain ⟨s0, hs0⟩ : ∃ s0 : State, s0 = { s with status := .stabilising } := ⟨_, rfl⟩
  have hnd0 : ∀ m, s0.nodeD m = s.nodeD m := fun m => by rw [hs0]; rfl
  have hsz0 : s0.nodes.size = s.nodes.size := by rw [hs0]
  have S0 : SInv env s0 s0.newObservers s0.disallowedObservers := by
    rw [hs0]
    exact ⟨Q.struct.congr (SameG.of_nodes rfl rfl rfl rfl rfl),
      ⟨Q.obs.inRange, Q.obs.mem, Q.obs.created, Q.obs.newIn, Q.obs.dis, Q.obs.disIn, Q.obs.disNodup⟩,
      Q.pinv, Q.handlers⟩
  have hb0 : HBo s0 allClosed := by
    intro m hm ho
    rw [hnd0]; exact T.hb m (by rw [State.isNecessary, ← hnd0]; exact hm) ho
  have R0 : Room N s0 := by rw [hs0]; exact ⟨T.room.ahh, T.room.rch, T.room.size⟩
  -- the two loops
  have hf1 : 2 * s0.nodes.size + 2 ≤ fuel := by rw [hsz0]; omega
  obtain ⟨_, t1, h1, hb1⟩ := addNewObservers_total (fuel := fuel) (env := env) S0 hb0 R0
    (by rw [hs0]; exact T.newNodup) (by rw [hs0]; exact T.newState) hf1
  obtain ⟨S1, hn1, hd1, F1, O1, N1⟩ := addNewObservers_s S0 h1
  have hf2 : 3 * t1.nodes.size + 3 ≤ fuel := by rw [F1.size, hsz0]; omega
  obtain ⟨_, t2, h2, hb2⟩ := unlinkDisallowedObservers_total (fuel := fuel) S1 hn1 hb1 hf2
  obtain ⟨S2, hn2, hd2, F2, O2⟩ := unlinkDisallowedObservers_s S1 hn1 h2
  have F : PFrame s0 t2 := F1.trans F2
  have R2 : Room N t2 := R0.of_pframe F
  obtain ⟨D2, V2⟩ := prefix_drainInv Q hs0 S2 F
  -- the drain
  have Sf : Safe t2 := by
    refine ⟨fun n hn => ?_, fun n hn => (GInv.node S2.struct (nec_lt_size hn)).top, fun m i h => ?_⟩
    rotate_left
    · rw [F.cutoff, hnd0] at h; rw [F.size, hsz0]; exact T.dep m i h
    have h1 := hb2 n hn rfl
    have h2 := nec_lt_size hn
    have h3 := R2.size
    rw [R2.rch]; omega
  have hf3 : t2.nodes.size + 2 ≤ fuel := by rw [F.size, hsz0]; omega
  obtain ⟨t3, h3, D3, he3, f3, -⟩ := drainHeap_total_inv D2 Sf hf3
  have c3 := drainHeap_calm fuel t2 t3 D2 h3
  have k3 := drainHeap_keyD D2 h3
  simp only [stateKeyD, Prod.mk.injEq] at k3
  obtain ⟨k_obs, -, -, k_top, -, -, -, -, -, -, k_ahh⟩ := k3
  -- the end
  have hnum2 : ∀ m, (t2.nodeD m).numOnUpdateHandlers ≤ 0 := S2.handlers
  have hhas0 : HasRange s0 := by
    intro n hn; rw [hs0] at hn
    have : s.handleAfterStab = [] := Q.handleAfterStab
    rw [show ({ s with status := Status.stabilising } : State).handleAfterStab = s.handleAfterStab from rfl,
      this] at hn
    cases hn
  have hhas2 : HasRange t2 :=
    unlinkDisallowedObservers_hasRange h2 (addNewObservers_hasRange h1 hhas0)
  have hhas3 : HasRange t3 := by
    intro n hn
    rw [c3.has hnum2] at hn
    rw [f3.size]; exact hhas2 n hn
  obtain ⟨_, s', h4, -⟩ := stabiliseEnd_total (env := env) (fuel := fuel) (s := t3)
    (by rw [c3.setDuringStab, F.setDuringStab, hs0]; exact Q.setDuringStab)
    (by rw [c3.deadVars, F.deadVars, hs0]; exact Q.deadVars)
    (by intro o ob ho; rw [k_obs] at ho; exact (S2.obs.inRange o ob ho).2)
    hhas3
    (by
      intro n o ho
      rw [(f3.shape n).observers] at ho
      obtain ⟨ob, hob, -⟩ := (S2.obs.mem n o).1 ho
      rw [k_obs]
      exact (Array.getElem?_eq_some_iff.1 hob).1)
  have E := stabiliseEnd_fin (env := env) (fuel := fuel) (s := t3) (s' := s')
    (by rw [c3.setDuringStab, F.setDuringStab, hs0]; exact Q.setDuringStab)
    (by rw [c3.deadVars, F.deadVars, hs0]; exact Q.deadVars)
    (by intro o ob ho; rw [k_obs] at ho; exact (S2.obs.inRange o ob ho).2) h4
  -- the run
  have hrun : (stabilise env fuel).run.run s = (.ok (), s') :=
    stabilise_phases.2 ⟨t1, t2, t3, Q.status, by rw [← hs0]; exact h1, h2, h3, h4⟩
  refine Tot.of_ok hrun ?_
  -- the extra invariant at the end
  have hE : ∀ m, NodeG (t3.nodeD m) (s'.nodeD m) := by
    intro m
    obtain ⟨b, hb⟩ := E.node m
    rw [hb]
    exact ⟨rfl, rfl, rfl, rfl, rfl, rfl, rfl, rfl, rfl, rfl, rfl⟩
  have hnec' : ∀ m, s'.isNecessary m = t2.isNecessary m := fun m => by
    have G3 : SameG t3 s' := ⟨E.pc, E.scope, E.size, E.rch, E.vars, hE⟩
    rw [G3.nec, f3.nec]
  have hsize' : s'.nodes.size = s.nodes.size := by rw [E.size, f3.size, F.size, hsz0]
  refine ⟨?_, ⟨?_, ?_, by rw [hsize']; exact T.room.size⟩, ?_, ?_, ?_, ?_, ?_⟩
  rotate_right
  · intro m i h
    rw [(hE m).cutoff, (f3.shape m).cutoff, F.cutoff, hnd0] at h
    rw [hsize']; exact T.dep m i h
  · intro m hm ho
    rw [(hE m).height, (f3.shape m).height]
    exact hb2 m (by rw [← hnec']; exact hm) ho
  · rw [E.ahh, k_ahh]; exact R2.ahh
  · rw [E.rch, ← R2.rch]; exact maxAllowed_congr f3.qsize
  · intro c vc hc
    rw [E.vars, f3.vars, F.vars, hs0] at hc
    exact T.linked c vc hc
  · rw [E.top, k_top, F.top, hs0, hsize']; exact T.topSize
  · rw [E.newObservers, c3.newObservers, hn2]; exact List.nodup_nil
  · intro o ob ho
    rw [E.newObservers, c3.newObservers, hn2] at ho; cases ho

end IncrVerif.Proofs.CutH
