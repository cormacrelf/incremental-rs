import IncrVerif.Proofs.ExpertH41
import IncrVerif.Proofs.ExpertH22
/-!
# Expert fragment: the invariant between API actions, and `stabilise` with pending observers (the counterpart of MapRef25)
-/
namespace IncrVerif.Proofs.ExpertH
open IncrVerif.Engine IncrVerif.Driver IncrVerif.Proofs IncrVerif.Proofs.Step IncrVerif.Proofs.Sched
open IncrVerif.Proofs.ExpertH.QR

/-- **the invariant between API actions** of the fragment static + expert, for the rank `rk`: the state is in the
fragment, the virtual static state satisfies the invariant `QR.QInv` of the static fragment (with rank `rk`), and
the adjust-heights heap is empty -/
structure QInvX (env : Env) (rk : Nat → Nat) (s : State) : Prop where
  frag : XFrag env s
  q : QR.QInv (virtEnv env) rk (virt s)
  ahh : QR.AhhEmpty s

theorem QInvX.pinv {env : Env} {rk : Nat → Nat} {s : State} (Q : QInvX env rk s) : s.propagateInvalidity = [] :=
  Q.q.pinv

/-- `Finished'` (the description of `stabiliseEnd`) of the actual states gives it for the virtual states -/
theorem finished_virt {t s' : State} (E : Finished' t s') : Finished' (virt t) (virt s') where
  size := by rw [virt_size, virt_size]; exact E.size
  node m := by
    obtain ⟨b, hb⟩ := E.node m
    refine ⟨b, ?_⟩
    rw [virt_nodeD, virt_nodeD, hb, E.experts]
    rfl
  vars := E.vars
  rch := E.rch
  ahh := E.ahh
  observers := E.observers
  newObservers := E.newObservers
  disallowedObservers := E.disallowedObservers
  allObservers := E.allObservers
  scope := E.scope
  pc := E.pc
  top := E.top
  handles := E.handles
  alive := E.alive
  pinv := E.pinv
  cfg := E.cfg
  stabNum := E.stabNum
  status := E.status
  setDuringStab := E.setDuringStab
  deadVars := E.deadVars
  handleAfterStab := E.handleAfterStab
  experts := rfl
  nextDep := E.nextDep

/-- what `stabilise` establishes, in terms of the actual state -/
structure StabilisedX (env : Env) (rk : Nat → Nat) (fuel : Nat) (s s' : State) : Prop where
  inv : QInvX env rk s'
  virt : QR.StabilisedC (virtEnv env) rk (virt s) (virt s')
  /-- every necessary node is not stale and READS its from-scratch value -/
  values : ∀ n, s'.isNecessary n = true → ∀ k, (s'.nodeD n).height.toNat < k →
    s'.isStale n = false ∧ s'.value env n = evalX env s' k n ∧ (evalX env s' k n).isSome = true
  /-- the drain starts in a state with the drain invariant and ends in one, with an empty heap -/
  drain : ∃ t2 t3, DInvX env t2 none ∧ (drainHeap env fuel).run.run t2 = (.ok (), t3) ∧ DInvX env t3 none ∧
    t3.rch.length = 0 ∧ t2.vars = s.vars ∧ ∀ m, s'.isNecessary m = t2.isNecessary m
  /-- the four phases of the run -/
  runs : ∃ t1 t2 t3, (addNewObservers env fuel).run.run { s with status := .stabilising } = (.ok (), t1) ∧
    (unlinkDisallowedObservers fuel).run.run t1 = (.ok (), t2) ∧ DInvX env t2 none ∧
    UnnecOK (virtEnv env) (ExpertH.virt t2) ∧ (drainHeap env fuel).run.run t2 = (.ok (), t3) ∧ (stabiliseEnd env fuel).run.run t3 = (.ok (), s') ∧
    Finished' t3 s'

theorem virt_status_set (s : State) (x : Status) :
    virt { s with status := x } = { virt s with status := x } := rfl

/-- **`stabilise` with pending observers**, fragment static + expert. -/
theorem stabiliseX {env : Env} {rk : Nat → Nat} {fuel : Nat} {s s' : State} (Q : QInvX env rk s)
    (h : (stabilise env fuel).run.run s = (.ok (), s')) : StabilisedX env rk fuel s s' := by
  obtain ⟨t1, t2, t3, -, h1, h2, h3, h4⟩ := stabilise_phases.1 h
  obtain ⟨s0, hs0⟩ : ∃ s0 : State, s0 = { s with status := .stabilising } := ⟨_, rfl⟩
  rw [← hs0] at h1
  have Qv := Q.q
  -- the state with the status set
  have hs0v : virt s0 = { virt s with status := .stabilising } := by rw [hs0]; rfl
  have F0 : XFrag env s0 := by
    rw [hs0]; exact ⟨Q.frag.pc, Q.frag.kind, Q.frag.valid, Q.frag.xrec, Q.frag.xok⟩
  have A0 : QR.AhhEmpty s0 := by
    rw [hs0]; exact ⟨Q.ahh.length, Q.ahh.buckets, Q.ahh.marks⟩
  have hp0 : s0.propagateInvalidity = [] := by rw [hs0]; exact Q.pinv
  have S0 : SInv (virtEnv env) rk (virt s0) (virt s0).newObservers (virt s0).disallowedObservers := by
    rw [hs0v]
    exact ⟨Qv.struct.congr (SameG.of_nodes rfl rfl rfl rfl rfl),
      ⟨Qv.obs.inRange, Qv.obs.mem, Qv.obs.created, Qv.obs.newIn, Qv.obs.dis, Qv.obs.disIn, Qv.obs.disNodup⟩,
      Qv.pinv, Qv.handlers⟩
  -- the prefix: simulated by the virtual engine
  obtain ⟨hv1, fr1⟩ := Sim.addNewObservers env fuel s0 (F0.fr hp0) _ t1 h1
  obtain ⟨S1, hn1, hd1, P1, O1, -⟩ := addNewObservers_s S0 hv1
  have F1 : XFrag env t1 := F0.of_xf ((PresX.addNewObservers env fuel).h _ _ _ h1) fr1
  have A1 : QR.AhhEmpty t1 := ahhEmpty_of_ahf A0 ((PresAh.addNewObservers env fuel).h _ _ _ h1)
  obtain ⟨hv2, fr2⟩ := Sim.unlinkDisallowedObservers fuel t1 fr1 _ t2 h2
  obtain ⟨S2, hn2, hd2, P2, O2⟩ := unlinkDisallowedObservers_s S1 hn1 hv2
  have F2 : XFrag env t2 := F1.of_xf ((PresX.unlinkDisallowedObservers fuel).h _ _ _ h2) fr2
  have A2 : QR.AhhEmpty t2 := ahhEmpty_of_ahf A1 ((PresAh.unlinkDisallowedObservers fuel).h _ _ _ h2)
  have P := P1.trans P2
  -- the drain
  obtain ⟨D2, U2⟩ := drain_start Qv hs0v S2 P
  have DR2 : DInvX env t2 none := ⟨F2, D2, fr2.pinv, A2⟩
  obtain ⟨DR3, he3, f3⟩ := drainHeapX_inv fuel t2 t3 DR2 h3
  have U3 := f3.unnec U2
  -- the end
  have c3 := f3.calm
  have E := stabiliseEnd_fin (env := env) (fuel := fuel) (s := t3) (s' := s')
    (by
      have := c3.setDuringStab
      show t3.setDuringStab = []
      have e1 : (virt t3).setDuringStab = t3.setDuringStab := rfl
      rw [← e1, this, P.setDuringStab, hs0v]; exact Qv.setDuringStab)
    (by
      have := c3.deadVars
      have e1 : (virt t3).deadVars = t3.deadVars := rfl
      rw [← e1, this, P.deadVars, hs0v]; exact Qv.deadVars)
    (by
      intro o ob ho
      have hk := f3.keyD
      simp only [KeyD, stateKeyD, Prod.mk.injEq] at hk
      have e1 : (virt t3).observers = t3.observers := rfl
      rw [← e1, hk.1] at ho
      exact (S2.obs.inRange o ob ho).2) h4
  have Ev := finished_virt E
  have SC := stab_core Qv hs0v S2 hn2 hd2 P O1 O2 DR3.inv he3 f3.frame c3 f3.keyD U3 Ev
  -- the actual final state
  have hEn : ∀ m, ∃ b, s'.nodeD m = { t3.nodeD m with inHandleAfterStab := b } := E.node
  have hkind : ∀ m, (s'.nodeD m).kind = (t3.nodeD m).kind := fun m => by obtain ⟨b, hb⟩ := hEn m; rw [hb]
  have hvalid : ∀ m, (s'.nodeD m).valid = (t3.nodeD m).valid := fun m => by obtain ⟨b, hb⟩ := hEn m; rw [hb]
  have hvalue : ∀ m, (s'.nodeD m).value = (t3.nodeD m).value := fun m => by obtain ⟨b, hb⟩ := hEn m; rw [hb]
  have hmark : ∀ m, (s'.nodeD m).heightInAhh = (t3.nodeD m).heightInAhh := fun m => by
    obtain ⟨b, hb⟩ := hEn m; rw [hb]
  have hnec : ∀ m, s'.isNecessary m = t3.isNecessary m := fun m => by
    obtain ⟨b, hb⟩ := hEn m; simp only [State.isNecessary, hb]; rfl
  have hheight : ∀ m, (s'.nodeD m).height = (t3.nodeD m).height := fun m => by obtain ⟨b, hb⟩ := hEn m; rw [hb]
  have F' : XFrag env s' :=
    ⟨by rw [E.pc]; exact DR3.frag.pc, fun m hm => by rw [hkind]; exact DR3.frag.kind m (by rw [← E.size]; exact hm),
      fun m hm => by rw [hvalid]; exact DR3.frag.valid m (by rw [← E.size]; exact hm),
      fun m e hm hk => by
        rw [hkind] at hk; rw [E.experts]; exact DR3.frag.xrec m e (by rw [← E.size]; exact hm) hk,
      fun e er he => by rw [E.experts] at he; exact DR3.frag.xok e er he⟩
  have A' : QR.AhhEmpty s' :=
    ⟨by rw [E.ahh]; exact DR3.ahh.length, by rw [E.ahh]; exact DR3.ahh.buckets,
      fun m => by rw [hmark]; exact DR3.ahh.marks m⟩
  have hval : ∀ m, s'.value env m = t3.value env m := fun m => by
    rw [value_plain env s' m (F'.noMapRef m), value_plain env t3 m (DR3.frag.noMapRef m), hvalue]
  refine ⟨⟨F', SC.inv, A'⟩, SC, ?_, ?_, ⟨t1, t2, t3, by rw [← hs0]; exact h1, h2, DR2, U2, h3, h4, E⟩⟩
  · intro n hn k hk
    have hn3 : t3.isNecessary n = true := by rw [← hnec]; exact hn
    obtain ⟨-, v2, v3, v4⟩ := drainedX_values DR3 he3 n hn3 k (by rw [← hheight]; exact hk)
    have hev : evalX env s' k n = evalX env t3 k n :=
      evalX_congr hkind E.vars (fun _ e _ => by rw [E.experts]; exact ⟨rfl, rfl⟩) k n
    refine ⟨?_, by rw [hval, hev]; exact v3, by rw [hev]; exact v4⟩
    have := (SC.values n (by rw [virt_isNecessary]; exact hn) k
      (by rw [virt_nodeD, virtNode_height]; exact hk)).2.1
    rwa [virt_isStale] at this
  · refine ⟨t2, t3, DR2, h3, DR3, he3, ?_, fun m => ?_⟩
    · have := P.vars; rw [hs0v] at this; exact this
    · rw [hnec]
      have := f3.frame.nec m
      rwa [virt_isNecessary, virt_isNecessary] at this

end IncrVerif.Proofs.ExpertH
