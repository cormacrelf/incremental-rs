import IncrVerif.Proofs.PerKeyH14
/-!
# A run of a per-key change detector, part 3b: FRAME LEMMAS for whole operators

* `priv_kind`: the only change detector among the private nodes of `op` is its own
* `OpCore.bf_gen`: `OpCore.gf` along `BF D a b`
* `OpOK.bf_other` (another operator during a run), `OpCore.bf_same` (no record's children change)
* `NoRemOp.bf_run`, `recsOK_bf`
* `bf_priv_cons`, `own_extend`: ownership of the running operator after one new entry
-/
namespace IncrVerif.Proofs.PerKeyH
open IncrVerif.Engine IncrVerif.Driver IncrVerif.Proofs IncrVerif.Proofs.Step IncrVerif.Proofs.Sched
open IncrVerif.Proofs.ExpertH IncrVerif.Proofs.EffH IncrVerif.Proofs.DriverH IncrVerif.Proofs.ExpertH.QR

/-! ## 3. another operator -/

/-- the only change-detector node among the private nodes of `op` is the change detector of `op` -/
theorem priv_kind {env : Env} {s : State} {op : Nat} {pr : PerKeyRec} (h : OpCore env s op pr) {x f : Nat}
    {args : List Nat} (hx : Priv env pr x) (hk : (s.nodeD x).kind = .map f args) (hf : fnPerKey ≤ f) :
    f = fnPerKey + op := by
  obtain ⟨x0, e, er, hN, he, hpk, hch, hent, hout⟩ := h.nodes
  rcases hx with rfl | ⟨key, p, d, hm, h1, h2⟩
  · have := hN.lcKind
    rw [← hN.lc, hk] at this
    injection this
  · have E := hent key p d hm
    by_cases hxp : x = p
    · subst hxp
      obtain ⟨ep, erp, d0, hkp, -⟩ := E.pnode
      rw [hk] at hkp; cases hkp
    · obtain ⟨ed, -, -, hI, hlt⟩ := E.consec
      have hj : x - (p + 1) < (env.perKey pr.fam).instrs.length := by omega
      obtain ⟨i, hi⟩ : ∃ i, (env.perKey pr.fam).instrs[x - (p + 1)]? = some i :=
        ⟨_, List.getElem?_eq_getElem hj⟩
      have hr : (List.range' (p + 1) (env.perKey pr.fam).instrs.length)[x - (p + 1)]? = some x := by
        rw [List.getElem?_range' hj]
        congr 1; omega
      have hkind := hI.kind _ i x hi hr
      have := (instrKind_facts (h.templ.instr i (List.mem_of_getElem? hi)) hkind).2.2.2.2 f args hk
      simp only [fnZip, fnPerKey] at this hf
      omega

/-- `OpCore.gf` along `BF`, with `PFrag` for "an old expert node has a record" -/
theorem OpCore.bf_gen {env : Env} {D : Nat → Prop} {a b : State} {op : Nat} {pr : PerKeyRec} (B : BF D a b)
    (F : PFrag env a) (h : OpCore env a op pr)
    (hD : ∀ (e : Nat) (er : ExpertRec) (k : Option Int), D e → a.experts[e]? = some er → er.pk ≠ some (op, k))
    (hobs : ∀ x, x < a.nodes.size → (a.nodeD x).observers = [] → (b.nodeD x).observers = [])
    (hown : ∀ c x, c < b.nodes.size → (a.nodes.size ≤ c ∨ ∃ e, D e ∧ (a.nodeD c).kind = .expert e) →
      x ∈ kidsX b.experts (b.nodeD c).kind → ¬ Priv env pr x ∨ x ∈ kidsX a.experts (a.nodeD c).kind) :
    OpCore env b op pr :=
  h.gf B.gf hD
    (fun c hc hd => B.gf.kidsX_same hc fun e hk => ⟨hd e hk, (F.xrec c e hc hk).imp fun _ hx => hx.1⟩)
    (fun x hp => hobs x (h.priv_lt hp)) (fun k x hk => Or.inl (by rw [← B.top]; exact hk)) hown
    fun _ _ _ p _ ep _ _ _ hlt hk h0 => Or.inl (B.stamp p ep hlt hk h0)

/-- **another operator `op' ≠ op` during a run of the change detector of `op`** -/
theorem OpOK.bf_other {env : Env} {a b : State} {eres op op' : Nat} {pr pr' : PerKeyRec}
    (B : BF (fun e => e = eres) a b) (F : PFrag env a) (hop : a.perkeys[op]? = some pr)
    (hop' : a.perkeys[op']? = some pr') (hne : op' ≠ op) (Hop : OpOK env a op pr)
    (hres : (a.nodeD pr.result).kind = .expert eres) (H : OpOK env a op' pr')
    (hobs : ∀ m, m < a.nodes.size → (b.nodeD m).observers = (a.nodeD m).observers)
    (newKids : ∀ c x : Nat, a.nodes.size ≤ c → c < b.nodes.size → x ∈ kidsX b.experts (b.nodeD c).kind →
      x = pr.lhsChange ∨ a.nodes.size ≤ x ∨ ∃ k : Nat, a.top[k]? = some x)
    (resKids : ∀ er er', a.experts[eres]? = some er → b.experts[eres]? = some er' → ∀ ed : ExpertEdge,
      ed ∈ er'.children → ed ∈ er.children ∨ a.nodes.size ≤ ed.child ∨ ∃ k : Nat, a.top[k]? = some ed.child)
    (hstale : b.isStale pr'.lhsChange = a.isStale pr'.lhsChange)
    (hval : (b.nodeD (pr'.result - 1)).value = (a.nodeD (pr'.result - 1)).value) : OpOK env b op' pr' := by
  obtain ⟨x0, e0, er0, hN0, he0, hpk0, -⟩ := Hop.nodes
  have hee : e0 = eres := by
    have := hN0.result
    rw [hres] at this
    injection this with this
    exact this.symm
  subst hee
  /- the kinds of `pr.lhsChange`: not private of `op'` -/
  have hlc : ¬ Priv env pr' pr.lhsChange := by
    intro hp
    have hk := hN0.lcKind
    rw [← hN0.lc] at hk
    have := priv_kind H.core hp hk (Nat.le_add_right _ _)
    omega
  have hnotpriv : ∀ x, (x = pr.lhsChange ∨ a.nodes.size ≤ x ∨ ∃ k : Nat, a.top[k]? = some x) → ¬ Priv env pr' x := by
    intro x hx hp
    rcases hx with rfl | hx | ⟨k, hk⟩
    · exact hlc hp
    · have := H.core.priv_lt hp; omega
    · exact H.privTop k x hk hp
  have C : OpCore env b op' pr' := by
    refine H.core.bf_gen B F ?_ (fun x hx h0 => by rw [hobs x hx]; exact h0) ?_
    · intro e er k hd he hpk
      subst hd
      rw [he0] at he
      cases he
      rw [hpk0] at hpk
      injection hpk with hpk
      injection hpk with h1 h2
      exact hne h1.symm
    · intro c x hc hcase hx
      rcases hcase with hge | ⟨e, hd, hk⟩
      · exact Or.inl (hnotpriv x (newKids c x hge hc hx))
      · subst hd
        have hlt : c < a.nodes.size := by
          refine Nat.lt_of_not_le fun hge => ?_
          rw [nodeD_default_of_ge a c hge] at hk
          cases hk
        obtain ⟨er1, he1, -, -, -, -⟩ := B.xrec e er0 he0
        rw [B.kind c hlt, hk] at hx
        simp only [kidsX, xRec_some he1, List.mem_map] at hx
        obtain ⟨ed, hed, rfl⟩ := hx
        rcases resKids er0 er1 he0 he1 ed hed with h1 | h1
        · refine Or.inr ?_
          rw [hk]
          simp only [kidsX, xRec_some he0, List.mem_map]
          exact ⟨ed, h1, rfl⟩
        · exact Or.inl (hnotpriv _ (Or.inr h1))
  exact C.toOK H.dom fun hs => by rw [hval]; exact H.input (by rw [← hstale]; exact hs)

/-- **no old record's children change** (e.g. an `.unequal` iteration); new nodes, if any, reference no private node -/
theorem OpCore.bf_same {env : Env} {D : Nat → Prop} {a b : State} {op : Nat} {pr : PerKeyRec} (B : BF D a b)
    (F : PFrag env a) (h : OpCore env a op pr)
    (hch : ∀ (e : Nat) (er er' : ExpertRec), a.experts[e]? = some er → b.experts[e]? = some er' →
      er'.children = er.children)
    (hobs : ∀ m, m < a.nodes.size → (b.nodeD m).observers = (a.nodeD m).observers)
    (hnew : ∀ c x, a.nodes.size ≤ c → c < b.nodes.size → x ∈ kidsX b.experts (b.nodeD c).kind → ¬ Priv env pr x) :
    OpCore env b op pr := by
  have B' : BF (fun _ => False) a b := by
    refine ⟨B.grow, B.kind, B.top, fun e er he => ?_, B.stamp⟩
    obtain ⟨er', he', k2, k3, -, k5⟩ := B.xrec e er he
    exact ⟨er', he', k2, k3, fun _ => hch e er er' he he', k5⟩
  refine h.bf_gen B' F (fun _ _ _ hd => hd.elim) (fun x hx h0 => by rw [hobs x hx]; exact h0) ?_
  intro c x hc hcase hx
  rcases hcase with hge | ⟨e, hd, -⟩
  · exact Or.inl (hnew c x hge hc hx)
  · exact hd.elim

/-- the same-size case of `OpCore.bf_same` -/
theorem OpCore.bf_same_size {env : Env} {D : Nat → Prop} {a b : State} {op : Nat} {pr : PerKeyRec} (B : BF D a b)
    (F : PFrag env a) (h : OpCore env a op pr) (hsz : b.nodes.size = a.nodes.size)
    (hch : ∀ (e : Nat) (er er' : ExpertRec), a.experts[e]? = some er → b.experts[e]? = some er' →
      er'.children = er.children)
    (hobs : ∀ m, m < a.nodes.size → (b.nodeD m).observers = (a.nodeD m).observers) : OpCore env b op pr :=
  h.bf_same B F hch hobs fun c x h1 h2 _ => by omega

/-! ## 4. `NoRemOp` -/

/-- the form the run of a change detector `n` uses: the values of all old nodes but `n` are kept -/
theorem NoRemOp.bf_run {a b : State} {op : Nat} {pr pr' : PerKeyRec} {x e n : Nat} (h : NoRemOp a pr)
    (N : OpNodes a op pr x e) (hr : pr'.result = pr.result) (hm : pr'.prevMap = pr.prevMap) (hv : b.vars = a.vars)
    (hk : ∀ m, m < a.nodes.size → (b.nodeD m).kind = (a.nodeD m).kind)
    (hn : ∃ f args, (a.nodeD n).kind = .map f args ∧ fnPerKey ≤ f)
    (hval : ∀ m, m < a.nodes.size → m ≠ n → (b.nodeD m).value = (a.nodeD m).value) : NoRemOp b pr' := by
  have h0 := N.lt
  have h1 := N.xlt
  obtain ⟨f, args, hnk, hf⟩ := hn
  have hne1 : pr.result - 1 ≠ n := by
    rintro rfl
    rw [N.conv] at hnk
    injection hnk with e1 e2
    subst e1
    simp only [fnIdent, fnPerKey] at hf
    omega
  have hne2 : x ≠ n := by
    rintro rfl
    obtain ⟨c, hc⟩ := N.xvar
    rw [hc] at hnk
    cases hnk
  exact h.of_nodes N hr hm (fun c vc hc => by rw [hv]; exact hc) ⟨hk _ (by omega), hval _ (by omega) hne1⟩
    ⟨hk _ (by omega), hval x (by omega) hne2⟩

/-! ## 5. `RecsOK` -/

theorem recsOK_bf {a b : State} {op : Nat} (h : RecsOK a)
    (hold : ∀ (e : Nat) (er : ExpertRec), a.experts[e]? = some er → ∃ er', b.experts[e]? = some er' ∧ er'.pk = er.pk ∧ er'.node = er.node)
    (hx : ∀ (e : Nat) (er' : ExpertRec), b.experts[e]? = some er' → (∃ er, a.experts[e]? = some er) ∨ a.experts.size ≤ e)
    (hpk : ∀ (op' : Nat) (pr' : PerKeyRec), a.perkeys[op']? = some pr' → ∃ pr2, b.perkeys[op']? = some pr2 ∧ pr2.result = pr'.result ∧
      ∀ x, x ∈ pr'.prevNodes → x ∈ pr2.prevNodes)
    (hnew : ∀ (e : Nat) (er' : ExpertRec), a.experts.size ≤ e → b.experts[e]? = some er' → ∃ pr2 key d, b.perkeys[op]? = some pr2 ∧
      er'.pk = some (op, some key) ∧ (key, (er'.node, d)) ∈ pr2.prevNodes) : RecsOK b := by
  intro e er' he'
  rcases hx e er' he' with ⟨er, he⟩ | hge
  · obtain ⟨er1, he1, k1, k2⟩ := hold e er he
    rw [he'] at he1
    cases he1
    obtain ⟨op', pr', hp, hcase⟩ := h e er he
    obtain ⟨pr2, hp2, hr2, hn2⟩ := hpk op' pr' hp
    refine ⟨op', pr2, hp2, ?_⟩
    rw [k1, k2, hr2]
    rcases hcase with h1 | ⟨key, d, h1, h2⟩
    · exact Or.inl h1
    · exact Or.inr ⟨key, d, h1, hn2 _ h2⟩
  · obtain ⟨pr2, key, d, hp2, h1, h2⟩ := hnew e er' hge he'
    exact ⟨op, pr2, hp2, Or.inr ⟨key, d, h1, h2⟩⟩

/-! ## 6. ownership of the running operator after one new entry -/

/-- the private nodes after one more entry -/
theorem bf_priv_cons {env : Env} {pr1 pr2 : PerKeyRec} {key : Int} {p d : Nat}
    (hl : pr2.lhsChange = pr1.lhsChange) (hf : pr2.fam = pr1.fam)
    (hpn : pr2.prevNodes = (key, (p, d)) :: pr1.prevNodes) (x : Nat) :
    Priv env pr2 x ↔ (Priv env pr1 x ∨ (p ≤ x ∧ x ≤ p + (env.perKey pr1.fam).instrs.length)) := by
  unfold Priv
  rw [hl, hf, hpn]
  constructor
  · rintro (h | ⟨k, p', d', hm, h1, h2⟩)
    · exact Or.inl (Or.inl h)
    · rcases List.mem_cons.1 hm with heq | hm
      · injection heq with e1 e2
        injection e2 with e2 e3
        subst e2
        exact Or.inr ⟨h1, h2⟩
      · exact Or.inl (Or.inr ⟨k, p', d', hm, h1, h2⟩)
  · rintro ((h | ⟨k, p', d', hm, h1, h2⟩) | ⟨h1, h2⟩)
    · exact Or.inl h
    · exact Or.inr ⟨k, p', d', List.mem_cons_of_mem _ hm, h1, h2⟩
    · exact Or.inr ⟨key, p, d, List.mem_cons_self .., h1, h2⟩

/-- **ownership after a `.right` iteration**: the new entry `(key, (p, d))`, `p = a.nodes.size`, owns all new nodes -/
theorem own_extend {env : Env} {D : Nat → Prop} {a b : State} {eres : Nat} {pr1 pr2 : PerKeyRec} {key : Int}
    {d : Nat} (B : BF D a b) (hD : ∀ e, e < a.experts.size → D e → e = eres) (F : PFrag env a)
    (hres : (a.nodeD pr1.result).kind = .expert eres) (hrlt : pr1.result < a.nodes.size)
    (hr : pr2.result = pr1.result) (hl : pr2.lhsChange = pr1.lhsChange) (hf : pr2.fam = pr1.fam)
    (hpn : pr2.prevNodes = (key, (a.nodes.size, d)) :: pr1.prevNodes)
    (hsz : b.nodes.size ≤ a.nodes.size + 1 + (env.perKey pr1.fam).instrs.length)
    (hkids : ∀ c x, c < a.nodes.size → x ∈ kidsX a.experts (a.nodeD c).kind → x < a.nodes.size)
    (own : ∀ c x, c < a.nodes.size → x ∈ kidsX a.experts (a.nodeD c).kind → Priv env pr1 x →
      c = pr1.result ∨ Priv env pr1 c) :
    ∀ c x, c < b.nodes.size → x ∈ kidsX b.experts (b.nodeD c).kind → Priv env pr2 x →
      c = pr2.result ∨ Priv env pr2 c := by
  intro c x hc hx hp
  rw [bf_priv_cons hl hf hpn, hr]
  by_cases hlt : c < a.nodes.size
  · by_cases hk : (a.nodeD c).kind = .expert eres
    · left
      obtain ⟨er, he, hn⟩ := F.xrec c eres hlt hk
      obtain ⟨er2, he2, hn2⟩ := F.xrec pr1.result eres hrlt hres
      rw [he] at he2
      cases he2
      exact hn.symm.trans hn2
    · rw [B.gf.kidsX_same hlt fun e hke => ?_] at hx
      · have hxlt := hkids c x hlt hx
        rw [bf_priv_cons hl hf hpn] at hp
        rcases hp with hp | ⟨h1, -⟩
        · rcases own c x hlt hx hp with h1 | h1
          · exact Or.inl h1
          · exact Or.inr (Or.inl h1)
        · omega
      · obtain ⟨er, he, -⟩ := F.xrec c e hlt hke
        refine ⟨fun hd => hk ?_, er, he⟩
        rw [hke, hD e (Array.getElem?_eq_some_iff.1 he).1 hd]
  · exact Or.inr (Or.inr ⟨by omega, by omega⟩)

end IncrVerif.Proofs.PerKeyH
