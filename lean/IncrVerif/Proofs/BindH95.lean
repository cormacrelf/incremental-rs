import IncrVerif.Proofs.BindH91
import IncrVerif.Proofs.BindH78
import IncrVerif.Proofs.Footprint
/-!
# Binds, part 4k-1: the frame `DK` of one drain step (state fields of `DKey`, node fields of `NKey`) as a `Step.Pres` relation

`C2k.DK b s s'`: the eight state fields of `DKey` other than `handleAfterStab` are unchanged; if no node of `s` has update handlers then no node
of `s'` has and `handleAfterStab` is unchanged; no node is removed, old nodes keep `kind`, `createdIn`, `observers`; new nodes are created in
scope `.bind b`.  `C2k.DKS b` adds `currentScope` unchanged and is the preorder used with `Step.Pres`; own leaf table (`c2kleaf`, `c2kpres`).
-/
namespace IncrVerif.Proofs.BindH
open IncrVerif.Engine IncrVerif.Proofs IncrVerif.Proofs.Step IncrVerif.Proofs.Sched IncrVerif.Proofs.Quiet
namespace C2k

structure DK (b : Nat) (s s' : State) : Prop where
  observers : s'.observers = s.observers
  allObservers : s'.allObservers = s.allObservers
  newObservers : s'.newObservers = s.newObservers
  disallowedObservers : s'.disallowedObservers = s.disallowedObservers
  setDuringStab : s'.setDuringStab = s.setDuringStab
  deadVars : s'.deadVars = s.deadVars
  alive : s'.alive = s.alive
  status : s'.status = s.status
  has : (∀ m, (s.nodeD m).numOnUpdateHandlers = 0) →
    (∀ m, (s'.nodeD m).numOnUpdateHandlers = 0) ∧ s'.handleAfterStab = s.handleAfterStab
  grow : s.nodes.size ≤ s'.nodes.size
  old : ∀ m, m < s.nodes.size → (s'.nodeD m).kind = (s.nodeD m).kind ∧
    (s'.nodeD m).createdIn = (s.nodeD m).createdIn ∧ (s'.nodeD m).observers = (s.nodeD m).observers
  new : ∀ m, s.nodes.size ≤ m → m < s'.nodes.size → (s'.nodeD m).createdIn = .bind b

theorem DK.refl (b : Nat) (s : State) : DK b s s :=
  ⟨rfl, rfl, rfl, rfl, rfl, rfl, rfl, rfl, fun h => ⟨h, rfl⟩, Nat.le_refl _, fun _ _ => ⟨rfl, rfl, rfl⟩,
    fun m h1 h2 => absurd h2 (by omega)⟩

theorem DK.trans {b : Nat} {x y z : State} (h1 : DK b x y) (h2 : DK b y z) : DK b x z where
  observers := h2.observers.trans h1.observers
  allObservers := h2.allObservers.trans h1.allObservers
  newObservers := h2.newObservers.trans h1.newObservers
  disallowedObservers := h2.disallowedObservers.trans h1.disallowedObservers
  setDuringStab := h2.setDuringStab.trans h1.setDuringStab
  deadVars := h2.deadVars.trans h1.deadVars
  alive := h2.alive.trans h1.alive
  status := h2.status.trans h1.status
  has h := by
    obtain ⟨k1, k2⟩ := h1.has h
    obtain ⟨k3, k4⟩ := h2.has k1
    exact ⟨k3, k4.trans k2⟩
  grow := Nat.le_trans h1.grow h2.grow
  old m hm := by
    obtain ⟨k1, k2, k3⟩ := h1.old m hm
    obtain ⟨k4, k5, k6⟩ := h2.old m (Nat.lt_of_lt_of_le hm h1.grow)
    exact ⟨k4.trans k1, k5.trans k2, k6.trans k3⟩
  new m hm hm' := by
    by_cases hy : m < y.nodes.size
    · rw [(h2.old m hy).2.1]; exact h1.new m hm hy
    · exact h2.new m (by omega) hm'

/-- the preorder used with `Step.Pres`: `DK` and the current scope is unchanged -/
def DKS (b : Nat) (s s' : State) : Prop := DK b s s' ∧ s'.currentScope = s.currentScope

instance (b : Nat) : PreOrd (DKS b) :=
  ⟨fun s => ⟨DK.refl b s, rfl⟩, fun h1 h2 => ⟨h1.1.trans h2.1, h2.2.trans h1.2⟩⟩

/-- a step that touches neither the nodes nor the fields of the frame -/
theorem DK.of_nodes {b : Nat} {s s' : State} (h : s'.nodes = s.nodes) (h1 : s'.observers = s.observers)
    (h2 : s'.allObservers = s.allObservers) (h3 : s'.newObservers = s.newObservers)
    (h4 : s'.disallowedObservers = s.disallowedObservers) (h5 : s'.setDuringStab = s.setDuringStab)
    (h6 : s'.deadVars = s.deadVars) (h7 : s'.alive = s.alive) (h8 : s'.status = s.status)
    (h9 : s'.handleAfterStab = s.handleAfterStab) : DK b s s' := by
  have hnd : ∀ m, s'.nodeD m = s.nodeD m := fun m => by simp [State.nodeD, h]
  refine ⟨h1, h2, h3, h4, h5, h6, h7, h8, fun hh => ⟨fun m => by rw [hnd]; exact hh m, h9⟩, by rw [h]; exact Nat.le_refl _,
    fun m _ => by rw [hnd]; exact ⟨rfl, rfl, rfl⟩, fun m k1 k2 => absurd k2 (by rw [h]; omega)⟩

theorem DKS.of_nodes {b : Nat} {s s' : State} (h : s'.nodes = s.nodes) (h1 : s'.observers = s.observers)
    (h2 : s'.allObservers = s.allObservers) (h3 : s'.newObservers = s.newObservers)
    (h4 : s'.disallowedObservers = s.disallowedObservers) (h5 : s'.setDuringStab = s.setDuringStab)
    (h6 : s'.deadVars = s.deadVars) (h7 : s'.alive = s.alive) (h8 : s'.status = s.status)
    (h9 : s'.handleAfterStab = s.handleAfterStab) (h10 : s'.currentScope = s.currentScope) : DKS b s s' :=
  ⟨DK.of_nodes h h1 h2 h3 h4 h5 h6 h7 h8 h9, h10⟩

/-- the four node fields of the frame -/
def nkey (x : Node) := (x.kind, x.createdIn, x.observers, x.numOnUpdateHandlers)

/-- rewriting one node, keeping the four node fields (other state fields of the frame are equal; `handleAfterStab` may change when some node
has handlers) -/
theorem DK.of_modify {b : Nat} {s s' : State} {n : Nat} {f : Node → Node} (h : s'.nodes = s.nodes.modify n f)
    (hf : ∀ x, nkey (f x) = nkey x) (h1 : s'.observers = s.observers)
    (h2 : s'.allObservers = s.allObservers) (h3 : s'.newObservers = s.newObservers)
    (h4 : s'.disallowedObservers = s.disallowedObservers) (h5 : s'.setDuringStab = s.setDuringStab)
    (h6 : s'.deadVars = s.deadVars) (h7 : s'.alive = s.alive) (h8 : s'.status = s.status)
    (h9 : (∀ m, (s.nodeD m).numOnUpdateHandlers = 0) → s'.handleAfterStab = s.handleAfterStab) : DK b s s' := by
  have hnd : ∀ m, nkey (s'.nodeD m) = nkey (s.nodeD m) := fun m => by
    rw [Inval.nodeD_of_modify h]; split
    · exact hf _
    · rfl
  have hsz : s'.nodes.size = s.nodes.size := by rw [h]; simp
  refine ⟨h1, h2, h3, h4, h5, h6, h7, h8, fun hh => ⟨fun m => ?_, h9 hh⟩, by rw [hsz]; exact Nat.le_refl _,
    fun m _ => ?_, fun m k1 k2 => absurd k2 (by rw [hsz]; omega)⟩
  · have := hnd m; simp only [nkey, Prod.mk.injEq] at this; rw [this.2.2.2]; exact hh m
  · have := hnd m; simp only [nkey, Prod.mk.injEq] at this; exact ⟨this.1, this.2.1, this.2.2.1⟩

theorem DKS.modNode {b : Nat} (s : State) (n : Nat) (f : Node → Node) (hf : ∀ x, nkey (f x) = nkey x) :
    DKS b s { s with nodes := s.nodes.modify n f } :=
  ⟨DK.of_modify (n := n) (f := f) rfl hf rfl rfl rfl rfl rfl rfl rfl rfl (fun _ => rfl), rfl⟩

/-- a new node, created in scope `.bind b` without handlers -/
theorem DKS.push {b : Nat} (s : State) (nd : Node) (h1 : nd.createdIn = .bind b) (h2 : nd.numOnUpdateHandlers = 0) :
    DKS b s { s with nodes := s.nodes.push nd } := by
  have hold : ∀ m, m < s.nodes.size → ({ s with nodes := s.nodes.push nd } : State).nodeD m = s.nodeD m := by
    intro m hm
    simp [State.nodeD, Array.getElem?_push, Nat.ne_of_lt hm]
  have hnew : ({ s with nodes := s.nodes.push nd } : State).nodeD s.nodes.size = nd := by
    simp [State.nodeD]
  refine ⟨⟨rfl, rfl, rfl, rfl, rfl, rfl, rfl, rfl, fun hh => ⟨fun m => ?_, rfl⟩, by simp, fun m hm => ?_, fun m k1 k2 => ?_⟩, rfl⟩
  · by_cases hm : m < s.nodes.size
    · rw [hold m hm]; exact hh m
    · by_cases e : m = s.nodes.size
      · rw [e, hnew]; exact h2
      · have : ({ s with nodes := s.nodes.push nd } : State).nodeD m = default := by
          have hge : (s.nodes.push nd).size ≤ m := by simp; omega
          show (s.nodes.push nd)[m]?.getD default = default
          rw [Array.getElem?_eq_none hge]; rfl
        rw [this]; rfl
  · rw [hold m hm]; exact ⟨rfl, rfl, rfl⟩
  · have : m = s.nodes.size := by simp at k2; omega
    rw [this, hnew]; exact h1

theorem PresD.modNode {b : Nat} (n : Nat) (f : Node → Node) (hf : ∀ x, nkey (f x) = nkey x) :
    Step.Pres (DKS b) (modNode n f) := by
  unfold Engine.modNode; exact Step.Pres.modify fun s => DKS.modNode s n f hf

/-! ## the decomposition tactic (own leaf table) -/

syntax "c2kleaf" : tactic
macro_rules | `(tactic| c2kleaf) => `(tactic| fail "no leaf")

macro "c2kstep" : tactic => `(tactic| first
  | with_reducible apply Step.Pres.pure | with_reducible apply Step.Pres.get | with_reducible apply Step.Pres.panic
  | with_reducible apply Step.Pres.throw
  | with_reducible apply Step.Pres.bind | with_reducible apply Step.Pres.map | with_reducible apply Step.Pres.mapM
  | with_reducible apply Step.Pres.getNode | with_reducible apply Step.Pres.dassert
  | with_reducible apply Step.Pres.getBind | with_reducible apply Step.Pres.getExpert
  | with_reducible apply Step.Pres.getVar | with_reducible apply Step.Pres.assertM
  | intro _ | split
  | c2kleaf
  | dsimp only)

macro "c2kpres" : tactic => `(tactic| repeat (any_goals c2kstep))

macro "c2k_leaf " n:ident : command =>
  `(macro_rules | `(tactic| c2kleaf) => `(tactic| with_reducible apply $n))

macro_rules | `(tactic| c2kleaf) => `(tactic| apply Step.Pres.forIn)
macro_rules
  | `(tactic| c2kleaf) =>
    `(tactic| ((with_reducible apply Step.Pres.modify); intro _; exact DKS.push _ _ rfl rfl))
macro_rules
  | `(tactic| c2kleaf) => `(tactic| ((with_reducible apply PresD.modNode); intro _; rfl))
macro_rules
  | `(tactic| c2kleaf) =>
    `(tactic| ((with_reducible apply Step.Pres.modify); intro _;
               exact DKS.of_nodes rfl rfl rfl rfl rfl rfl rfl rfl rfl rfl rfl))

c2k_leaf Step.PresS.resolveOpnd
c2k_leaf Step.Pres.valueUnwrap
c2k_leaf Step.Pres.scopeHeight

/-- every write keeps `DKS b` but those of the eight state fields and of `currentScope`, of the observer lists and handler counts of a node, the
creation of a node and the unconditional writes of the handler queue: a node that `maybe_handle_after_stabilisation` queues has update handlers -/
theorem DKS.of_edit {b : Nat} {L w}
    (hL : ∀ t ∈ L, t ∉ [Footprint.Tag.oState, .oDropped, .oHandlers, .allObservers, .newObservers, .disallowedObservers, .setDuringStab, .deadVars,
      .status, .currentScope, .nHandlers, .nObservers, .handleAfterStab, .pushNode])
    {s s' : State} (e : Footprint.Edit L w s s') : DKS b s s' := by
  have hsz := e.size_eq fun ht => hL _ ht (by decide)
  have hnum := e.numOnUpdateHandlers (fun ht => hL _ ht (by decide)) (fun ht => hL _ ht (by decide))
  have hq := e.idleQueue fun ht => hL _ ht (by decide)
  have has : (∀ m, (s.nodeD m).numOnUpdateHandlers = 0) →
      (∀ m, (s'.nodeD m).numOnUpdateHandlers = 0) ∧ s'.handleAfterStab = s.handleAfterStab :=
    fun h0 => ⟨fun m => by rw [hnum m]; exact h0 m, hq fun m => Int.le_of_eq (h0 m)⟩
  have old : ∀ m, m < s.nodes.size → (s'.nodeD m).kind = (s.nodeD m).kind ∧
      (s'.nodeD m).createdIn = (s.nodeD m).createdIn ∧ (s'.nodeD m).observers = (s.nodeD m).observers :=
    fun m hm => ⟨e.kind hm, e.createdIn hm, e.node_keeps (·.observers)
      (fun _ hf _ => by cases hf <;> first | rfl | exact absurd (hL _ ‹_›) (by decide)) (fun _ hf _ => by cases hf <;> rfl)
      (fun _ _ => rfl) (fun _ _ => rfl) hm⟩
  have new : ∀ m, s.nodes.size ≤ m → m < s'.nodes.size → (s'.nodeD m).createdIn = .bind b :=
    fun m h1 h2 => absurd h2 (by omega)
  cases e <;> first
    | exact ⟨⟨rfl, rfl, rfl, rfl, rfl, rfl, rfl, rfl, has, Nat.le_of_eq hsz.symm, old, new⟩, rfl⟩
    | exact absurd (hL _ ‹_›) (by decide)
    | (rename_i hf; cases hf <;> exact absurd (hL _ ‹_›) (by decide))

section ladder
variable {b : Nat}

theorem PresD.tick : Step.Pres (DKS b) tick := by unfold Engine.tick; c2kpres
c2k_leaf PresD.tick
theorem PresD.logEv (e) : Step.Pres (DKS b) (logEv e) := by unfold Engine.logEv; c2kpres
c2k_leaf PresD.logEv
theorem PresD.bumpCounter (f) : Step.Pres (DKS b) (bumpCounter f) := by unfold Engine.bumpCounter; c2kpres
c2k_leaf PresD.bumpCounter
theorem PresD.modBind (c f) : Step.Pres (DKS b) (modBind c f) := by unfold Engine.modBind; c2kpres
c2k_leaf PresD.modBind
theorem PresD.rchRemoveMin : Step.Pres (DKS b) rchRemoveMin := Footprint.Foot.rchRemoveMin.frame (DKS.of_edit (by decide))
c2k_leaf PresD.rchRemoveMin
theorem PresD.setHeight (n h) : Step.Pres (DKS b) (setHeight n h) := (Footprint.Foot.setHeight n h).frame (DKS.of_edit (by decide))
c2k_leaf PresD.setHeight
theorem PresD.ensureHeightRequirement (a c d e) : Step.Pres (DKS b) (ensureHeightRequirement a c d e) :=
  (Footprint.Foot.ensureHeightRequirement a c d e).frame (DKS.of_edit (by decide))
c2k_leaf PresD.ensureHeightRequirement
theorem PresD.adjustHeights (oc op fuel) : Step.Pres (DKS b) (adjustHeights oc op fuel) :=
  (Footprint.Foot.adjustHeights oc op fuel).frame (DKS.of_edit (by decide))
c2k_leaf PresD.adjustHeights
theorem PresD.addParent (a c d) : Step.Pres (DKS b) (addParent a c d) := (Footprint.Foot.addParent a c d).frame (DKS.of_edit (by decide))
c2k_leaf PresD.addParent
theorem PresD.removeParent (a c d) : Step.Pres (DKS b) (removeParent a c d) := (Footprint.Foot.removeParent a c d).frame (DKS.of_edit (by decide))
c2k_leaf PresD.removeParent
theorem PresD.shouldCutoff (env n o v) : Step.Pres (DKS b) (shouldCutoff env n o v) :=
  (Footprint.Foot.shouldCutoff env n o v).frame (DKS.of_edit (by decide))
c2k_leaf PresD.shouldCutoff
theorem PresD.markMapRefUnknown (fuel n) : Step.Pres (DKS b) (markMapRefUnknown fuel n) :=
  (Footprint.Foot.markMapRefUnknown fuel n).frame (DKS.of_edit (by decide))
c2k_leaf PresD.markMapRefUnknown

theorem PresD.necessary (env : Env) (fuel : Nat) :
    (∀ n, Step.Pres (DKS b) (becameNecessary env fuel n)) ∧
    (∀ c i p, Step.Pres (DKS b) (addParentWithoutAdjustingHeights env fuel c i p)) :=
  ⟨fun n => (Footprint.Foot.becameNecessary env fuel n).frame (DKS.of_edit (by decide)),
   fun c i p => (Footprint.Foot.addParentWithoutAdjustingHeights env fuel c i p).frame (DKS.of_edit (by decide))⟩
theorem PresD.becameNecessary (env fuel n) : Step.Pres (DKS b) (becameNecessary env fuel n) :=
  (PresD.necessary env fuel).1 n
c2k_leaf PresD.becameNecessary
theorem PresD.addParentWithoutAdjustingHeights (env fuel c i p) :
    Step.Pres (DKS b) (addParentWithoutAdjustingHeights env fuel c i p) := (PresD.necessary env fuel).2 c i p
c2k_leaf PresD.addParentWithoutAdjustingHeights

theorem PresD.unnecessary (fuel : Nat) :
    (∀ n, Step.Pres (DKS b) (becameUnnecessary fuel n)) ∧ (∀ n, Step.Pres (DKS b) (checkIfUnnecessary fuel n)) ∧
    (∀ n, Step.Pres (DKS b) (removeChildren fuel n)) :=
  ⟨fun n => (Footprint.Foot.becameUnnecessary fuel n).frame (DKS.of_edit (by decide)),
   fun n => (Footprint.Foot.checkIfUnnecessary fuel n).frame (DKS.of_edit (by decide)),
   fun n => (Footprint.Foot.removeChildren fuel n).frame (DKS.of_edit (by decide))⟩
theorem PresD.becameUnnecessary (fuel n) : Step.Pres (DKS b) (becameUnnecessary fuel n) :=
  (PresD.unnecessary fuel).1 n
c2k_leaf PresD.becameUnnecessary
theorem PresD.checkIfUnnecessary (fuel n) : Step.Pres (DKS b) (checkIfUnnecessary fuel n) :=
  (PresD.unnecessary fuel).2.1 n
c2k_leaf PresD.checkIfUnnecessary
theorem PresD.removeChildren (fuel n) : Step.Pres (DKS b) (removeChildren fuel n) :=
  (PresD.unnecessary fuel).2.2 n
c2k_leaf PresD.removeChildren

theorem PresD.invalidateNode (fuel n) : Step.Pres (DKS b) (invalidateNode fuel n) :=
  (Footprint.Foot.invalidateNode fuel n).frame (DKS.of_edit (by decide))
c2k_leaf PresD.invalidateNode

theorem PresD.propagateInvalidity (fuel) : Step.Pres (DKS b) (propagateInvalidity fuel) :=
  (Footprint.Foot.propagateInvalidity fuel).frame (DKS.of_edit (by decide))
c2k_leaf PresD.propagateInvalidity
theorem PresD.changeChildBindRhs (env fuel m o nw i) :
    Step.Pres (DKS b) (changeChildBindRhs env fuel m o nw i) :=
  (Footprint.Foot.changeChildBindRhs env fuel m o nw i).frame (DKS.of_edit (by decide))
c2k_leaf PresD.changeChildBindRhs

theorem PresD.parentIterCanRecomputeNow (p c : Nat) :
    Step.Pres (DKS b) (parentIterCanRecomputeNow p c) :=
  (Footprint.Foot.parentIterCanRecomputeNow p c).frame (DKS.of_edit (by decide))
c2k_leaf PresD.parentIterCanRecomputeNow
theorem PresD.maybeChangeValueManual (env fuel n o d c) :
    Step.Pres (DKS b) (maybeChangeValueManual env fuel n o d c) :=
  (Footprint.Foot.maybeChangeValueManual env fuel n o d c).frame (DKS.of_edit (by decide))
c2k_leaf PresD.maybeChangeValueManual
theorem PresD.maybeChangeValue (env fuel n v) : Step.Pres (DKS b) (maybeChangeValue env fuel n v) :=
  (Footprint.Foot.maybeChangeValue env fuel n v).lift (DKS.of_edit (by decide))
c2k_leaf PresD.maybeChangeValue

/-- a node created in scope `.bind b` -/
theorem PresD.createNode (k c) : Step.Pres (DKS b) (createNode k (.bind b) c) := by
  unfold Engine.createNode; c2kpres
c2k_leaf PresD.createNode

theorem PresD.lhsRelink (env fuel n c br now rhs) : Step.Pres (DKS b) (Inval.lhsRelink env fuel n c br now rhs) := by
  unfold Inval.lhsRelink; c2kpres
theorem PresD.lhsInvalidateOld (fuel br) : Step.Pres (DKS b) (Inval.lhsInvalidateOld fuel br) := by
  unfold Inval.lhsInvalidateOld; c2kpres
theorem PresD.lhsFinish (env fuel n) : Step.Pres (DKS b) (Inval.lhsFinish env fuel n) := by
  unfold Inval.lhsFinish; c2kpres

end ladder

theorem DKS.started (b n : Nat) (s : State) : DKS b s (Step.started n s) :=
  ⟨DK.of_modify (n := n) (f := fun x => { x with recomputedAt := s.stabNum }) rfl (fun _ => rfl)
    rfl rfl rfl rfl rfl rfl rfl rfl (fun _ => rfl), rfl⟩

theorem DKS.logged (b : Nat) (es : List Event) (s : State) : DKS b s (Step.logged es s) :=
  DKS.of_nodes rfl rfl rfl rfl rfl rfl rfl rfl rfl rfl rfl

end C2k
end IncrVerif.Proofs.BindH
