import IncrVerif.Proofs.Memo
import IncrVerif.Proofs.SymDiff
/-!
# Helper lemmas for C16 (per-key operators `incr_mapi_`, `incr_mapi_cutoff`): local facts

* `createNode_run'`: the closed form of `createNode`.
* `perKey_run`: what `elabInstr … (.perKey cut fam x)` builds.
* `expertValue` for the operator's result node and for a per-key input node.
* `perKeyDriver` when the input map did not change.
-/
namespace IncrVerif.Proofs.PerKey
open IncrVerif.Engine IncrVerif.Proofs.Obs
open IncrVerif.Proofs.Step (run_bind_ok run_throw)

/-- the state after `createNode k sc c` -/
def created (k : Kind) (sc : Scope) (c : CutoffK) (s : State) : State :=
  let s1 : State := { s with counters := { s.counters with created := s.counters.created + 1 },
                             nodes := s.nodes.push { kind := k, createdIn := sc, cutoff := c } }
  match sc with
  | .top => s1
  | .bind b => { s1 with binds := s1.binds.modify b fun x =>
      { x with allNodesCreatedOnRhs := x.allNodesCreatedOnRhs ++ [s.nodes.size] } }

theorem createNode_run' (k : Kind) (sc : Scope) (c : CutoffK) (s : State) :
    (createNode k sc c).run.run s = (.ok s.nodes.size, created k sc c s) := by
  unfold createNode created
  cases sc <;> simp only [bumpCounter, modBind, run_bind, run_get, run_modify, run_pure]

@[simp] theorem created_nodes (k sc c s) :
    (created k sc c s).nodes = s.nodes.push { kind := k, createdIn := sc, cutoff := c } := by
  unfold created; cases sc <;> rfl
@[simp] theorem created_experts (k sc c s) : (created k sc c s).experts = s.experts := by
  unfold created; cases sc <;> rfl
@[simp] theorem created_perkeys (k sc c s) : (created k sc c s).perkeys = s.perkeys := by
  unfold created; cases sc <;> rfl
@[simp] theorem created_nextDep (k sc c s) : (created k sc c s).nextDep = s.nextDep := by
  unfold created; cases sc <;> rfl
@[simp] theorem created_currentScope (k sc c s) : (created k sc c s).currentScope = s.currentScope := by
  unfold created; cases sc <;> rfl

/-- the four nodes, the expert record and the operator record a per-key operator starts with -/
theorem perKey_run (loc : List Nat) (lhsVal : Val) (cut : Option CutoffK) (fam : Nat) (x : Opnd)
    (s : State) (a0 : Nat) (hres : Own.resolve s loc x = .ok a0) :
    ∃ s', (elabInstr loc lhsVal (.perKey cut fam x)).run.run s = (.ok (some (s.nodes.size + 3)), s') ∧
      s'.nodes = (((s.nodes.push { kind := .map fnIdent [a0], createdIn := s.currentScope }).push
          { kind := .expert s.experts.size, createdIn := s.currentScope }).push
          { kind := .map (fnPerKey + s.perkeys.size) [s.nodes.size], createdIn := s.currentScope }).push
          { kind := .map fnIdent [s.nodes.size + 1], createdIn := s.currentScope } ∧
      s'.experts = s.experts.push
        { f := 0, pk := some (s.perkeys.size, none), node := s.nodes.size + 1,
          children := [{ dep := s.nextDep, child := s.nodes.size + 2, cb := none }], forceStale := true } ∧
      s'.perkeys = s.perkeys.push
        { fam := fam, cut := cut, result := s.nodes.size + 1, lhsChange := s.nodes.size + 2 } ∧
      s'.nextDep = s.nextDep + 1 ∧ s'.currentScope = s.currentScope := by
  unfold elabInstr
  simp only [run_bind, run_get, Own.resolveOpnd_run, hres, createNode_run', run_modify, modExpert,
    map_eq_pure_bind, run_pure, created_nodes, created_experts, created_perkeys, created_nextDep,
    created_currentScope, Array.size_push]
  refine ⟨_, rfl, ?_, ?_, ?_, ?_, ?_⟩
  · simp
  · simp [Step.push_modify_last]
  · simp
  · simp
  · simp

/-! ## the values of the operator's own expert nodes -/

theorem run_getExpert_some {s : State} {e : Nat} {er : ExpertRec} (h : s.experts[e]? = some er) :
    (getExpert e).run.run s = (.ok er, s) := by
  simp only [getExpert, run_bind, run_get, h, run_pure]

/-- what the edge callbacks of the result node have stored so far, by key (the operator's `acc`) -/
def accOf (s : State) (er : ExpertRec) (op : Nat) : List (Int × Int) :=
  (s.perkeys[op]?.getD default).prevNodes.filterMap fun (k, (_, dep)) =>
    match er.slots.lookup dep with
    | some v => some (k, v.toInt)
    | none => none

theorem expertValue_result (env : Env) (e : Nat) (depVals slotVals : List (Option Val)) (s : State)
    (er : ExpertRec) (op : Nat) (he : s.experts[e]? = some er) (hpk : er.pk = some (op, none)) :
    (expertValue env e depVals slotVals).run.run s
      = (.ok (.map (IncrVerif.AMap.ofList (accOf s er op))), s) := by
  unfold expertValue
  rw [run_bind_ok (run_getExpert_some he), run_bind, run_get]
  simp only [hpk]
  rfl

theorem expertValue_input (env : Env) (e : Nat) (depVals slotVals : List (Option Val)) (s : State)
    (er : ExpertRec) (op : Nat) (key : Int) (he : s.experts[e]? = some er)
    (hpk : er.pk = some (op, some key)) :
    (expertValue env e depVals slotVals).run.run s =
      match ((s.perkeys[op]?.map (·.prevMap)).getD []).lookup key with
      | some v => (.ok (.int v), s)
      | none => (.error (.site "incremental-map:per-key:prev_map-unwrap"), s) := by
  unfold expertValue
  rw [run_bind_ok (run_getExpert_some he), run_bind, run_get]
  simp only [hpk]
  cases ((s.perkeys[op]?.map (·.prevMap)).getD []).lookup key <;> rfl

/-! ## the driver when the input map did not change -/

theorem perKeyDriver_nil (env : Env) (fuel op : Nat) (newMap : List (Int × Int)) (s : State)
    (hd : IncrVerif.MapOps.symmetricDiff (s.perkeys[op]?.getD default).prevMap newMap = []) :
    (perKeyDriver env fuel op newMap).run.run s =
      (.ok (), { s with perkeys := s.perkeys.modify op fun p => { p with prevMap := newMap } }) := by
  unfold perKeyDriver
  simp only [run_bind, run_get, hd, List.forIn_nil, run_pure, run_modify]

theorem perKeyDriver_same (env : Env) (fuel op : Nat) (s : State)
    (hs : IncrVerif.AMap.Sorted (s.perkeys[op]?.getD default).prevMap) :
    (perKeyDriver env fuel op (s.perkeys[op]?.getD default).prevMap).run.run s = (.ok (), s) := by
  rw [perKeyDriver_nil env fuel op _ s ((IncrVerif.Proofs.symmetricDiff_nil_iff _ _ hs hs).2 rfl)]
  congr 1
  have : s.perkeys.modify op (fun p => { p with prevMap := (s.perkeys[op]?.getD default).prevMap })
      = s.perkeys := by
    apply Step.modify_eq_self
    intro x hx
    simp [hx]
  rw [this]

/-! ## concrete states for the non-vacuity examples of `Props/C16.lean` -/

/-- one node (a constant holding a map), named `n0` -/
def exPkStart : State :=
  { State.init 4 with
    nodes := #[{ kind := .const (.map [(5, 1)]), createdIn := .top }], top := #[0], handles := [0] }

/-- an operator instance 0 in mid-life: result record 0 (its callbacks stored 42 for dependency 7),
per-key input record 1 for key 5, per-key input record 2 for key 6 (not in the map);
`prevMap = {5 ↦ 1}`, `prevNodes = {5 ↦ (node 9, dependency 7)}` -/
def exPkLive : State :=
  { State.init 4 with
    experts := #[{ f := 0, pk := some (0, none), slots := [(7, .int 42)] },
                 { f := 0, pk := some (0, some 5) }, { f := 0, pk := some (0, some 6) }],
    perkeys := #[{ fam := 0, prevMap := [(5, 1)], prevNodes := [(5, (9, 7))] }] }

end IncrVerif.Proofs.PerKey
