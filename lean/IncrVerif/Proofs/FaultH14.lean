import IncrVerif.Proofs.FaultH13
/-!
# Faults in whole histories, part H1: the shadow ladder — every action other than `stabilise` has the same outcome in the
state poisoned by a handler panic as in the fault-free final state
-/
namespace IncrVerif.Proofs.FaultH
open IncrVerif.Engine IncrVerif.Driver IncrVerif.Proofs IncrVerif.Proofs.Step

syntax "ssim_leaf" : tactic
macro_rules | `(tactic| ssim_leaf) => `(tactic| fail "no leaf")

set_option hygiene false in
macro "ssim_step" : tactic => `(tactic| first
  | with_reducible exact SimAt.ret _
  | with_reducible exact SimAt.thr _
  | with_reducible exact SimAt.pan _
  | ((with_reducible refine SimAt.get_seq ?_); try dsimp only)
  | ((with_reducible refine SimAt.getNode_seq fun nd hnd => ?_); try dsimp only)
  | ((with_reducible refine SimAt.getObs_seq fun ob hob => ?_); try dsimp only)
  | ((with_reducible refine SimAt.mod_seq ?_ ?_ ?_) <;> (first | exact rfl | skip))
  | ((with_reducible refine SimAt.mod ?_ ?_) <;> rfl)
  | (with_reducible refine SimAt.seq ?_ fun _ _ _ => ?_)
  | ((with_reducible refine Sim.at ?_ _); ssim_leaf)
  | (with_reducible refine SimAt.map _ ?_)
  | (with_reducible refine SimAt.discard ?_)
  | (refine SimAt.cond Iff.rfl (fun _ => ?_) (fun _ => ?_)))

macro "ssim" : tactic => `(tactic| repeat' ssim_step)

theorem Sim.forIn {β γ : Type} (l : List γ) {f f' : γ → β → M (ForInStep β)} (h : ∀ a b, Sim (f a b) (f' a b))
    (b : β) : Sim (ForIn.forIn l b f) (ForIn.forIn l b f') := by
  induction l generalizing b with
  | nil => intro s; rw [List.forIn_nil, List.forIn_nil]; exact SimAt.ret _
  | cons a l ih =>
    intro s
    rw [List.forIn_cons, List.forIn_cons]
    refine SimAt.seq (h a b s) fun r s1 _ => ?_
    cases r with
    | done b' => exact SimAt.ret _
    | yield b' => exact ih b' s1

theorem Sim.mapM {β γ : Type} {f f' : γ → M β} (h : ∀ a, Sim (f a) (f' a)) (l : List γ) :
    Sim (l.mapM f) (l.mapM f') := by
  induction l with
  | nil => intro s; rw [List.mapM_nil, List.mapM_nil]; exact SimAt.ret _
  | cons a l ih =>
    intro s
    rw [List.mapM_cons, List.mapM_cons]
    exact SimAt.seq (h a s) fun _ s1 _ => SimAt.seq (ih s1) fun _ _ _ => SimAt.ret _

theorem Sim.dassert (c : Bool) (site : String) : Sim (Engine.dassert c site) (Engine.dassert c site) := by
  intro s hn r s' h
  rw [run_dassert] at h ⊢
  by_cases hc : s.cfg.debug = true ∧ c = false
  · rw [if_pos hc] at h; cases h; exact ⟨if_pos hc, hn⟩
  · rw [if_neg hc] at h; cases h; exact ⟨if_neg hc, hn⟩

theorem Sim.assertM (c : Bool) (site : String) : Sim (Engine.assertM c site) (Engine.assertM c site) := by
  intro s hn r s' h
  rw [run_assertM] at h ⊢
  split at h
  · rename_i hc; cases h; rw [if_pos hc]; exact ⟨rfl, hn⟩
  · rename_i hc; cases h; rw [if_neg hc]; exact ⟨rfl, hn⟩

macro_rules | `(tactic| ssim_leaf) => `(tactic| with_reducible exact Sim.dassert _ _)
macro_rules | `(tactic| ssim_leaf) => `(tactic| with_reducible exact Sim.assertM _ _)
macro_rules | `(tactic| ssim_leaf) => `(tactic| with_reducible exact Sim.modNode _ _)
macro_rules | `(tactic| ssim_leaf) => `(tactic|
  ((with_reducible refine Sim.modObs _ ?_); intro x; first | rfl | (simp only [erOb, erH, List.map_append, List.map_cons, List.map_nil, List.map_map, List.filter_map, Function.comp]; done)))

theorem Sim.bumpCounter (f : Counters → Counters) : Sim (Engine.bumpCounter f) (Engine.bumpCounter f) := by
  intro s; unfold Engine.bumpCounter; ssim
macro_rules | `(tactic| ssim_leaf) => `(tactic| with_reducible exact Sim.bumpCounter _)

theorem Sim.modBind (b : Nat) (f : BindRec → BindRec) : Sim (Engine.modBind b f) (Engine.modBind b f) := by
  intro s; unfold Engine.modBind; ssim
macro_rules | `(tactic| ssim_leaf) => `(tactic| with_reducible exact Sim.modBind _ _)

theorem Sim.modVar (v : Nat) (f : VarCell → VarCell) : Sim (Engine.modVar v f) (Engine.modVar v f) := by
  intro s; unfold Engine.modVar; ssim
macro_rules | `(tactic| ssim_leaf) => `(tactic| with_reducible exact Sim.modVar _ _)

theorem Sim.getVar (v : Nat) : Sim (Engine.getVar v) (Engine.getVar v) := by
  intro s; unfold Engine.getVar; ssim
  split <;> ssim
macro_rules | `(tactic| ssim_leaf) => `(tactic| with_reducible exact Sim.getVar _)

theorem Sim.createNode (k : Kind) (sc : Scope) (c : CutoffK) :
    Sim (Engine.createNode k sc c) (Engine.createNode k sc c) := by
  intro s; unfold Engine.createNode; ssim
  cases sc <;> ssim
macro_rules | `(tactic| ssim_leaf) => `(tactic| with_reducible exact Sim.createNode _ _ _)

theorem Sim.createVar (v : Val) (sc : Scope) : Sim (Engine.createVar v sc) (Engine.createVar v sc) := by
  intro s; unfold Engine.createVar; ssim
macro_rules | `(tactic| ssim_leaf) => `(tactic| with_reducible exact Sim.createVar _ _)

theorem Sim.resolveOpnd (loc : List Nat) (o : Opnd) : Sim (Engine.resolveOpnd loc o) (Engine.resolveOpnd loc o) := by
  intro s; unfold Engine.resolveOpnd
  cases o <;> dsimp only
  case outer k => ssim; split <;> ssim
  case abs n => ssim
  case loc j => split <;> ssim
  case slot k => ssim; split <;> ssim
macro_rules | `(tactic| ssim_leaf) => `(tactic| with_reducible exact Sim.resolveOpnd _ _)
macro_rules | `(tactic| ssim_leaf) => `(tactic| with_reducible exact Sim.mapM (fun a => Sim.resolveOpnd _ a) _)

theorem Sim.isConstant (n : Nat) : Sim (Engine.isConstant n) (Engine.isConstant n) := by
  intro s; unfold Engine.isConstant; ssim
  split <;> ssim
macro_rules | `(tactic| ssim_leaf) => `(tactic| with_reducible exact Sim.isConstant _)

theorem Sim.handleAfterStabilisation (n : Nat) :
    Sim (Engine.handleAfterStabilisation n) (Engine.handleAfterStabilisation n) := by
  intro s; unfold Engine.handleAfterStabilisation; ssim
macro_rules | `(tactic| ssim_leaf) => `(tactic| with_reducible exact Sim.handleAfterStabilisation _)

theorem Sim.rchLink (n : Nat) : Sim (Engine.rchLink n) (Engine.rchLink n) := by
  intro s; unfold Engine.rchLink; ssim
macro_rules | `(tactic| ssim_leaf) => `(tactic| with_reducible exact Sim.rchLink _)

theorem Sim.rchInsert (n : Nat) : Sim (Engine.rchInsert n) (Engine.rchInsert n) := by
  intro s; unfold Engine.rchInsert; ssim
macro_rules | `(tactic| ssim_leaf) => `(tactic| with_reducible exact Sim.rchInsert _)

theorem Sim.disallowFutureUse (o : Nat) : Sim (Engine.disallowFutureUse o) (Engine.disallowFutureUse o) := by
  intro s; unfold Engine.disallowFutureUse; ssim
  split <;> ssim
macro_rules | `(tactic| ssim_leaf) => `(tactic| with_reducible exact Sim.disallowFutureUse _)

theorem Sim.didSetVarWhileNotStabilising (v : Nat) :
    Sim (Engine.didSetVarWhileNotStabilising v) (Engine.didSetVarWhileNotStabilising v) := by
  intro s; unfold Engine.didSetVarWhileNotStabilising; ssim
macro_rules | `(tactic| ssim_leaf) => `(tactic| with_reducible exact Sim.didSetVarWhileNotStabilising _)

theorem Sim.subscribe (o hid : Nat) : Sim (Engine.subscribe o hid) (Engine.subscribe o hid) := by
  intro s; unfold Engine.subscribe; ssim
  split <;> ssim
macro_rules | `(tactic| ssim_leaf) => `(tactic| with_reducible exact Sim.subscribe _ _)


theorem erH_token (h : HandlerRec) : (erH h).token = h.token := rfl

theorem any_token_er (l : List HandlerRec) (t : Nat) :
    (l.map erH).any (·.token == t) = l.any (·.token == t) := by
  induction l with
  | nil => rfl
  | cons a l ih => simp only [List.map_cons, List.any_cons, ih]

theorem filter_token_er (l : List HandlerRec) (t : Nat) :
    (l.map erH).filter (·.token != t) = (l.filter (·.token != t)).map erH := by
  induction l with
  | nil => rfl
  | cons a l ih =>
    simp only [List.map_cons, List.filter_cons, ih]
    split <;> rfl

theorem Sim.unsubscribe (o t owner : Nat) : Sim (Engine.unsubscribe o t owner) (Engine.unsubscribe o t owner) := by
  intro s; unfold Engine.unsubscribe
  refine SimAt.cond Iff.rfl (fun _ => SimAt.ret _) (fun _ => ?_)
  refine SimAt.getObs_seq fun ob hob => ?_
  dsimp only [erOb]
  rw [any_token_er]
  cases hst : ob.state <;> dsimp only
  all_goals first
    | exact SimAt.ret _
    | (refine SimAt.seq (Sim.at (Sim.modObs o fun x => ?_) s) fun _ s1 _ => ?_
       · simp only [erOb, filter_token_er]
       · ssim)
macro_rules | `(tactic| ssim_leaf) => `(tactic| with_reducible exact Sim.unsubscribe _ _ _)

theorem Sim.writeVar (v : Nat) (f : Val → Val) (isSet : Bool) :
    Sim (Engine.writeVar v f isSet) (Engine.writeVar v f isSet) := by
  intro s hn
  unfold Engine.writeVar
  refine SimAt.seq (Sim.getVar v s) (fun vc s1 h1 => ?_) hn
  intro hn1
  refine SimAt.get_seq ?_ hn1
  dsimp only
  have hs1 : s1.status ≠ .stabilising := hn1
  cases hst : s1.status
  · dsimp only; ssim
  · exact absurd hst hs1
  · dsimp only; ssim
macro_rules | `(tactic| ssim_leaf) => `(tactic| with_reducible exact Sim.writeVar _ _ _)

end IncrVerif.Proofs.FaultH
