import IncrVerif.Proofs.MapRef16
import IncrVerif.Proofs.MapRef24
import IncrVerif.Proofs.MapRef7
/-!
# map_ref fragment, part 11: the invariant between API actions, and `stabilise` with pending observers (M2)
-/
namespace IncrVerif.Proofs.MapRefH
open IncrVerif.Engine IncrVerif.Driver IncrVerif.Proofs IncrVerif.Proofs.Step IncrVerif.Proofs.Sched IncrVerif.Proofs.Quiet

/-- **the invariant between API actions** of the fragment static + map_ref, for ghost values `g`: the state is in
the fragment, the virtual static state satisfies the invariant `Quiet.QInv` of the static fragment, and the `didChange`
invariant holds. -/
structure QInvR (env : Env) (s : State) (g : Nat → Option Val) : Prop where
  frag : RFrag env s
  q : QInv (virtEnv env) (virt g s)
  k : KInv env g s

section
variable {env : Env} {g : Nat → Option Val} {s : State}

/-- a map_ref node that is not stale is unclean only through its input: from the consistency of the virtual state -/
theorem inherit_of_cons (F : RFrag env s)
    (hcons : ∀ m, m < s.nodes.size → staleOf (virt g s) m = false → Consistent (virtEnv env) (virt g s) m) :
    Inherit env g s := by
  intro m pr i hk hst hu
  have hlt := F.lt_of_mapRef hk
  have hs : staleOf (virt g s) m = false := by rw [virt_staleOf g s m (F.valid m hlt) (F.kind m hlt)]; exact hst
  obtain ⟨w, hw, hv⟩ := hcons m hlt hs
  have hkv : ((virt g s).nodeD m).kind = .map (projBase + pr) [i] := by
    rw [virt_nodeD, virtNode_kind, hk]; rfl
  unfold Target at hw
  rw [hkv] at hw
  obtain ⟨vals, hvals, hwv⟩ := hw
  rw [virt_plainVals] at hvals
  simp only [evalArgs] at hvals
  have hgm : g m = tv g s m := (tv_mapRef hk).symm
  have hread : s.value env m = (s.value env i).map (env.proj pr) := value_mapRef F hk
  cases hx : tv g s i with
  | none => rw [hx] at hvals; simp at hvals
  | some x =>
    rw [hx] at hvals
    simp at hvals
    subst hvals
    have hgm' : g m = some (env.proj pr x) := by
      rw [hgm]; show ((virt g s).nodeD m).value = _; rw [hv, hwv, virtEnv_fn_proj]; rfl
    -- if the input read `x`, `m` would be clean
    have hne : s.value env i ≠ some x := by
      intro h; apply hu; unfold Unclean at *; rw [hgm', hread, h]; rfl
    by_cases hmi : ∀ p j, (s.nodeD i).kind ≠ .mapRef p j
    · exact absurd ((tv_not_mapRef hmi).symm.trans hx) hne
    · have hmr : IsMapRef (s.nodeD i).kind := Classical.byContradiction fun h => hmi (not_isMapRef_iff.1 h)
      refine ⟨hmr, ?_⟩
      obtain ⟨p, j, hki⟩ := isMapRef_iff.1 hmr
      unfold Unclean
      have : g i = some x := by rw [← tv_mapRef (g := g) hki]; exact hx
      rw [this]
      exact fun h => hne h.symm

theorem QInvR.inherit (Q : QInvR env s g) : Inherit env g s :=
  inherit_of_cons Q.frag (fun m hm hs => Q.q.cons m (by rw [virt_size]; exact hm) hs)

theorem QInvR.pinv (Q : QInvR env s g) : s.propagateInvalidity = [] := Q.q.pinv

/-- `Finished'` (the description of `stabiliseEnd`) of the actual states gives it for the virtual states -/
theorem finished_virt {t s' : State} (g : Nat → Option Val) (E : Finished' t s') : Finished' (virt g t) (virt g s') where
  size := by rw [virt_size, virt_size]; exact E.size
  node m := by
    obtain ⟨b, hb⟩ := E.node m
    refine ⟨b, ?_⟩
    rw [virt_nodeD, virt_nodeD, hb]
    unfold virtNode
    cases (t.nodeD m).kind <;> rfl
  vars := E.vars
  rch := E.rch
  ahh := E.ahh
  observers := E.observers
  newObservers := E.newObservers
  disallowedObservers := E.disallowedObservers
  allObservers := E.allObservers
  scope := E.scope
  pc := E.pc
  top := E.top
  handles := E.handles
  alive := E.alive
  pinv := E.pinv
  cfg := E.cfg
  stabNum := E.stabNum
  status := E.status
  setDuringStab := E.setDuringStab
  deadVars := E.deadVars
  handleAfterStab := E.handleAfterStab

/-- what `stabilise` establishes, in terms of the actual state -/
structure StabilisedR (env : Env) (fuel : Nat) (s s' : State) (g g' : Nat → Option Val) : Prop where
  inv : QInvR env s' g'
  virt : StabilisedC (virtEnv env) (virt g s) (virt g' s')
  /-- every necessary node is not stale and READS its from-scratch value -/
  values : ∀ n, s'.isNecessary n = true → ∀ k, (s'.nodeD n).height.toNat < k →
    s'.isStale n = false ∧ s'.value env n = evalR env s' k n ∧ (evalR env s' k n).isSome = true
  /-- the drain starts in a state with the drain invariant of M1 and ends in one, with an empty heap -/
  drain : ∃ t2 t3, DrainInvR env t2 ∧ (drainHeap env fuel).run.run t2 = (.ok (), t3) ∧ DrainInvR env t3 ∧
    t3.rch.length = 0 ∧ t2.vars = s.vars ∧ ∀ m, s'.isNecessary m = t2.isNecessary m


theorem virt_status_set (g : Nat → Option Val) (s : State) (x : Status) :
    virt g { s with status := x } = { virt g s with status := x } := rfl

theorem QInvR.side (Q : QInvR env s g) : Side env g s := ⟨Q.frag, Q.k, Q.pinv⟩

/-- `stabiliseEnd` writes `inHandleAfterStab` only -/
theorem sh_of_finished {t s' : State} (E : Finished' t s') : SH t s' := by
  refine ⟨⟨E.size, ?_, ?_, ?_, ?_, ?_, ?_, fun hp => by rw [E.pc]; exact hp⟩, ?_, ?_, ?_, ?_, E.pinv⟩
  all_goals intro m
  all_goals obtain ⟨b, hb⟩ := E.node m
  all_goals rw [hb]
  all_goals first | rfl | exact fun _ hx => hx

/-- the fragment static + map_ref: what `Virtual.Fragment` asks for.  The prefix of `stabilise` is simulated by the virtual engine;
the `didChange` invariant goes through the linking cascade by `addNewObservers_keepsK'`. -/
theorem fragment (env : Env) : Virtual.Fragment env (virtEnv env) virt (Side env) where
  toDrain := drain env
  vars _ _ := rfl
  rch _ _ := rfl
  observers _ _ := rfl
  setDuringStab _ _ := rfl
  deadVars _ _ := rfl
  nec := virt_isNecessary
  link {g s t fuel} P Q h := by
    have Q' : QInvR env s g := ⟨P.1, Q, P.2.1⟩
    have P0 := P.of_sh (s' := { s with status := .stabilising }) (.of_nodes rfl rfl rfl)
    have T0 : Inherit env g { s with status := .stabilising } :=
      Inherit.of_vframe (s := s) (.of_nodes rfl rfl) Q'.inherit
    obtain ⟨hv, -⟩ := Sim.addNewObservers (g := g) env fuel _ (P0.1.fr P0.2.2) _ t h
    obtain ⟨K1, hp1, -, V1⟩ := addNewObservers_keepsK' P0.1 T0 P0.2.2 P0.2.1 h
    exact ⟨hv, P0.1.of_vframe V1, K1, hp1⟩
  unlink {g s t fuel} P h :=
    ⟨(Sim.unlinkDisallowedObservers (g := g) fuel s (P.1.fr P.2.2) _ t h).1, P.of_sh (unlinkDisallowedObservers_sh h)⟩
  fin {g t s'} P E := ⟨finished_virt g E, P.of_sh (sh_of_finished E)⟩

/-- **M2: `stabilise` with pending observers**, fragment static + map_ref. -/
theorem stabiliseR {fuel : Nat} {s' : State} (Q : QInvR env s g)
    (h : (stabilise env fuel).run.run s = (.ok (), s')) : ∃ g', StabilisedR env fuel s s' g g' := by
  obtain ⟨g3, t2, t3, P', SC, P2, D2, h3, P3, D3, he3, E, hvars, hnec2⟩ := (fragment env).stabilise Q.side Q.q h
  have DR3 : DInvR env t3 g3 none := P3.dinv D3
  refine ⟨g3, ⟨P'.1, SC.inv, P'.2.1⟩, SC, fun n hn k hk => ?_, t2, t3, ⟨g, P2.dinv D2⟩, h3, ⟨g3, DR3⟩, he3, hvars, hnec2⟩
  -- the values are those at the end of the drain
  have S := (sh_of_finished E).vf
  obtain ⟨b, hb⟩ := E.node n
  have hnec : s'.isNecessary n = t3.isNecessary n := by simp only [State.isNecessary, hb]; rfl
  have hheight : (s'.nodeD n).height = (t3.nodeD n).height := by rw [hb]
  obtain ⟨-, v2, v3, v4⟩ := drainedR_values DR3 he3 n (by rw [← hnec]; exact hn) k (by rw [← hheight]; exact hk)
  have hev : evalR env s' k n = evalR env t3 k n := evalR_congr S.kind E.vars k n
  refine ⟨?_, by rw [S.value_eq, hev]; exact v3, by rw [hev]; exact v4⟩
  have := (SC.values n (by rw [virt_isNecessary]; exact hn) k
    (by rw [virt_nodeD, virtNode_height]; exact hk)).2.1
  rwa [virt_isStale] at this

end
end IncrVerif.Proofs.MapRefH
