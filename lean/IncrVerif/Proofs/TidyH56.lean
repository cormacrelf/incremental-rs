import IncrVerif.Proofs.TidyH55
/-!
# T1b, part 2: the bisimulation of the engine functions that do not look at `map_ref` nodes, from `NodeSim`
-/
namespace IncrVerif.Proofs.TidyH.RT
open IncrVerif.Engine IncrVerif.Driver IncrVerif.Proofs IncrVerif.Proofs.Step IncrVerif.Proofs.Sched IncrVerif.Proofs.Quiet
open IncrVerif.Proofs.MapRefH

section
variable {P : State → Prop} [Keeps P] {g : Nat → Option Val}

/-- loops: same list, bodies simulate each other (the body gets the membership of the element) -/
macro "bsim_loop" : tactic =>
  `(tactic| ((with_reducible refine BSim.at (BSim.forIn _ (fun _ _ _ => ?_) _) _); intro _))

theorem BSim.setHeight (n : Nat) (h : Int) : BSim P g (Engine.setHeight n h) (Engine.setHeight n h) :=
  .of_comm (NodeSim.Comm.setHeight (blindP g) n h)
macro_rules | `(tactic| bsim_leaf) => `(tactic| with_reducible exact BSim.setHeight _ _)

theorem BSim.rchInsert (n : Nat) : BSim P g (Engine.rchInsert n) (Engine.rchInsert n) :=
  .of_comm (NodeSim.Comm.rchInsert (blindP g) n)
macro_rules | `(tactic| bsim_leaf) => `(tactic| with_reducible exact BSim.rchInsert _)

theorem BSim.observabilityChange (e : Nat) (b : Bool) :
    BSim P g (Engine.observabilityChange e b) (Engine.observabilityChange e b) :=
  .of_comm (NodeSim.Comm.observabilityChange (blindP g) (plain g) writesExpertsP e b)
macro_rules | `(tactic| bsim_leaf) => `(tactic| with_reducible exact BSim.observabilityChange _ _)

theorem BSim.scopeHeight (sc : Scope) : BSim P g (Engine.scopeHeight sc) (Engine.scopeHeight sc) :=
  .of_comm (NodeSim.Comm.scopeHeight (blindP g) sc)
macro_rules | `(tactic| bsim_leaf) => `(tactic| with_reducible exact BSim.scopeHeight _)

theorem BSim.scopeIsNecessary (sc : Scope) : BSim P g (Engine.scopeIsNecessary sc) (Engine.scopeIsNecessary sc) :=
  .of_comm (NodeSim.Comm.scopeIsNecessary (blindP g) sc)
macro_rules | `(tactic| bsim_leaf) => `(tactic| with_reducible exact BSim.scopeIsNecessary _)

theorem BSim.handleAfterStabilisation (n : Nat) :
    BSim P g (Engine.handleAfterStabilisation n) (Engine.handleAfterStabilisation n) :=
  .of_comm (NodeSim.Comm.handleAfterStabilisation (blindP g) n)
macro_rules | `(tactic| bsim_leaf) => `(tactic| with_reducible exact BSim.handleAfterStabilisation _)

theorem BSim.maybeHandleAfterStabilisation (n : Nat) :
    BSim P g (Engine.maybeHandleAfterStabilisation n) (Engine.maybeHandleAfterStabilisation n) :=
  .of_comm (NodeSim.Comm.maybeHandleAfterStabilisation (blindP g) n)
macro_rules | `(tactic| bsim_leaf) => `(tactic| with_reducible exact BSim.maybeHandleAfterStabilisation _)

theorem BSim.bumpCounter (f : Counters → Counters) : BSim P g (Engine.bumpCounter f) (Engine.bumpCounter f) :=
  .of_comm (NodeSim.Comm.bumpCounter (blindP g) f)
macro_rules | `(tactic| bsim_leaf) => `(tactic| with_reducible exact BSim.bumpCounter _)

theorem BSim.shouldCutoff (env : Env) (n : Nat) (o v : Val) :
    BSim P g (Engine.shouldCutoff env n o v) (Engine.shouldCutoff (virtEnv env) n o v) :=
  .of_comm (NodeSim.Comm.shouldCutoff (blindP g) (fun _ _ => rfl) (fun _ _ _ _ _ _ => rfl) (virtEnv_cutoff env) n o v)
macro_rules | `(tactic| bsim_leaf) => `(tactic| with_reducible exact BSim.shouldCutoff _ _ _ _)

theorem BSim.parentIterCanRecomputeNow (p child : Nat) :
    BSim P g (Engine.parentIterCanRecomputeNow p child) (Engine.parentIterCanRecomputeNow p child) :=
  .of_comm (NodeSim.Comm.parentIterCanRecomputeNow (blindP g) p child)
macro_rules | `(tactic| bsim_leaf) => `(tactic| with_reducible exact BSim.parentIterCanRecomputeNow _ _)

/-- not a benign update (`parents` changes): `Keeps.rmParent` -/
theorem BSim.removeParent (c i p : Nat) : BSim P g (Engine.removeParent c i p) (Engine.removeParent c i p) :=
  .of_comm (NodeSim.Comm.removeParent (blindP g) c i p)
macro_rules | `(tactic| bsim_leaf) => `(tactic| with_reducible exact BSim.removeParent _ _ _)

theorem BSim.rchRemoveMin : BSim P g Engine.rchRemoveMin Engine.rchRemoveMin :=
  .of_comm (NodeSim.Comm.rchRemoveMin (blindP g))
macro_rules | `(tactic| bsim_leaf) => `(tactic| with_reducible exact BSim.rchRemoveMin)

theorem BSim.unlink (fuel : Nat) :
    (∀ n, BSim P g (becameUnnecessary fuel n) (becameUnnecessary fuel n)) ∧
    (∀ n, BSim P g (checkIfUnnecessary fuel n) (checkIfUnnecessary fuel n)) ∧
    (∀ n, BSim P g (removeChildren fuel n) (removeChildren fuel n)) :=
  ⟨fun n => .of_comm (NodeSim.Comm.becameUnnecessary (blindP g) (obsWorkP g) fuel n),
    fun n => .of_comm (NodeSim.Comm.checkIfUnnecessary (blindP g) (obsWorkP g) fuel n),
    fun n => .of_comm (NodeSim.Comm.removeChildren (blindP g) (obsWorkP g) fuel n)⟩

theorem BSim.becameUnnecessary (fuel n : Nat) :
    BSim P g (Engine.becameUnnecessary fuel n) (Engine.becameUnnecessary fuel n) :=
  (BSim.unlink fuel).1 n
macro_rules | `(tactic| bsim_leaf) => `(tactic| with_reducible exact BSim.becameUnnecessary _ _)

theorem BSim.checkIfUnnecessary (fuel n : Nat) :
    BSim P g (Engine.checkIfUnnecessary fuel n) (Engine.checkIfUnnecessary fuel n) :=
  (BSim.unlink fuel).2.1 n
macro_rules | `(tactic| bsim_leaf) => `(tactic| with_reducible exact BSim.checkIfUnnecessary _ _)

theorem BSim.removeChildren (fuel n : Nat) :
    BSim P g (Engine.removeChildren fuel n) (Engine.removeChildren fuel n) :=
  (BSim.unlink fuel).2.2 n
macro_rules | `(tactic| bsim_leaf) => `(tactic| with_reducible exact BSim.removeChildren _ _)

/-- by hand: `Fr` says that nothing is pending, so both runs are `pure ()` (or both are out of fuel) -/
theorem BSim.propagateInvalidity (fuel : Nat) :
    BSim P g (Engine.propagateInvalidity fuel) (Engine.propagateInvalidity fuel) :=
  .of_comm (NodeSim.Comm.propagateInvalidity (fun _ h => (Keeps.fr h).pinv) fuel)
macro_rules | `(tactic| bsim_leaf) => `(tactic| with_reducible exact BSim.propagateInvalidity _)

theorem BSim.getObs (o : Nat) : BSim P g (Engine.getObs o) (Engine.getObs o) :=
  .of_comm (NodeSim.Comm.getObs (blindP g) o)
macro_rules | `(tactic| bsim_leaf) => `(tactic| with_reducible exact BSim.getObs _)

theorem BSim.modObs (o : Nat) (f : ObsRec → ObsRec) : BSim P g (Engine.modObs o f) (Engine.modObs o f) :=
  .of_comm (NodeSim.Comm.modObs (blindP g) o f)
macro_rules | `(tactic| bsim_leaf) => `(tactic| with_reducible exact BSim.modObs _ _)

theorem BSim.getVar (v : Nat) : BSim P g (Engine.getVar v) (Engine.getVar v) :=
  .of_comm (NodeSim.Comm.getVar (blindP g) v)
macro_rules | `(tactic| bsim_leaf) => `(tactic| with_reducible exact BSim.getVar _)

theorem BSim.unlinkDisallowedObservers (fuel : Nat) :
    BSim P g (Engine.unlinkDisallowedObservers fuel) (Engine.unlinkDisallowedObservers fuel) :=
  .of_comm (NodeSim.Comm.unlinkDisallowedObservers (blindP g) changesNecessityP (obsWorkP g) fuel)
macro_rules | `(tactic| bsim_leaf) => `(tactic| with_reducible exact BSim.unlinkDisallowedObservers _)

theorem BSim.disallowFutureUse (o : Nat) : BSim P g (Engine.disallowFutureUse o) (Engine.disallowFutureUse o) :=
  .of_comm (NodeSim.Comm.disallowFutureUse (blindP g) o)
macro_rules | `(tactic| bsim_leaf) => `(tactic| with_reducible exact BSim.disallowFutureUse _)

theorem BSim.didSetVarWhileNotStabilising (v : Nat) :
    BSim P g (Engine.didSetVarWhileNotStabilising v) (Engine.didSetVarWhileNotStabilising v) :=
  .of_comm (NodeSim.Comm.didSetVarWhileNotStabilising (blindP g) v)
macro_rules | `(tactic| bsim_leaf) => `(tactic| with_reducible exact BSim.didSetVarWhileNotStabilising _)

theorem BSim.writeVar (v : Nat) (f : Val → Val) (isSet : Bool) :
    BSim P g (Engine.writeVar v f isSet) (Engine.writeVar v f isSet) :=
  .of_comm (NodeSim.Comm.writeVar (blindP g) v f isSet)
macro_rules | `(tactic| bsim_leaf) => `(tactic| with_reducible exact BSim.writeVar _ _ _)

theorem BSim.resolveOpnd (loc : List Nat) (o : Opnd) :
    BSim P g (Engine.resolveOpnd loc o) (Engine.resolveOpnd loc o) :=
  .of_comm (NodeSim.Comm.resolveOpnd (blindP g) loc o)
macro_rules | `(tactic| bsim_leaf) => `(tactic| with_reducible exact BSim.resolveOpnd _ _)

theorem BSim.isConstant (n : Nat) : BSim P g (Engine.isConstant n) (Engine.isConstant n) :=
  .of_comm (NodeSim.Comm.isConstant (blindP g) n)
macro_rules | `(tactic| bsim_leaf) => `(tactic| with_reducible exact BSim.isConstant _)

theorem BSim.dropVarHandle (v : Nat) : BSim P g (Engine.dropVarHandle v) (Engine.dropVarHandle v) :=
  .of_comm (NodeSim.Comm.dropVarHandle (blindP g) v)
macro_rules | `(tactic| bsim_leaf) => `(tactic| with_reducible exact BSim.dropVarHandle _)

end
end IncrVerif.Proofs.TidyH.RT
