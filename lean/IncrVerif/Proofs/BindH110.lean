import IncrVerif.Proofs.BindH109
import IncrVerif.Proofs.BindH3
/-!
# Binds, part 4h-x (B4): non-vacuity — a history of the fragment with a bind whose closure CREATES nodes, and switches variant

With `bEnv` (`BindH3`: `f0` = sum of the integer views; closure 0 creates `map f0 [n1, n1]` on an even left-hand side value and `map f0 [n1]` on an odd one):
`v0 := 0; v1 := 1; b := bind v0 closure0; observe b; stabilise; v0 := 1; stabilise; v1 := 5; stabilise`.

* `exHistB_frag`: it is a history of the fragment (`HistF1 bEnv 0 exHistB`);
* `exHistB_runs`: it runs without panic (computed by the kernel);
* `exHistB_inv`: so (given `stabilise_q1` for `bEnv`, hypothesis `STAB`) the state it reaches satisfies `QInv1`, and so does every state on the way
  (`history_prefix1`, `history_stabilise1`);
* `exHistB_reads`: the observer reads `f0 [1, 1] = 2`, `f0 [1] = 1`, `f0 [5] = 5` after the three `stabilise`s;
* `exHistB_switch`: the second `stabilise` switches the variant of the closure: node 4 (`map f0 [1, 1]`, created by the first run in scope `.bind 0`) is
  invalidated, node 5 (`map f0 [1]`) is created and becomes the right-hand side.
-/
namespace IncrVerif.Proofs.BindH
open IncrVerif.Engine IncrVerif.Driver IncrVerif.Proofs IncrVerif.Proofs.Step IncrVerif.Proofs.Sched IncrVerif.Proofs.Quiet

/-- the example history -/
def exHistB : List Action :=
  [.create (.var (.int 0)), .create (.var (.int 1)), .create (.bind 0 (.outer 0)), .observe (.outer 2), .stabilise,
    .set 0 (.int 1), .stabilise, .set 1 (.int 5), .stabilise]

namespace C2h

theorem body0_even {v : Val} (h : v.toInt % 2 = 0) :
    bEnv.body 0 v = { instrs := [.map 0 [.outer 1, .outer 1]], ret := .loc 0 } := by
  simp [bEnv, h]

theorem body0_odd {v : Val} (h : ¬ v.toInt % 2 = 0) :
    bEnv.body 0 v = { instrs := [.map 0 [.outer 1]], ret := .loc 0 } := by
  simp [bEnv, h]

/-- closure 0 of `bEnv` is in the fragment for a naming table with (at least) two entries -/
theorem bEnv_body0 : BodyF1 bEnv 2 0 := by
  intro v
  have hf : (0 : Nat) < fnPerKey ∧ ((0 : Nat) < fnZip → ∀ vals, bEnv.fnEff 0 vals = []) :=
    ⟨by decide, fun _ _ => rfl⟩
  by_cases h : v.toInt % 2 = 0
  · rw [body0_even h]
    refine ⟨?_, show (0 : Nat) < 1 by decide⟩
    intro j i hj
    cases j with
    | zero =>
      cases hj
      refine ⟨hf.1, hf.2, ?_⟩
      intro a ha
      simp only [List.mem_cons, List.mem_nil_iff, or_false, or_self] at ha
      rw [ha]; exact (show (1 : Nat) < 2 by decide)
    | succ j => cases hj
  · rw [body0_odd h]
    refine ⟨?_, show (0 : Nat) < 1 by decide⟩
    intro j i hj
    cases j with
    | zero =>
      cases hj
      refine ⟨hf.1, hf.2, ?_⟩
      intro a ha
      simp only [List.mem_cons, List.mem_nil_iff, or_false] at ha
      rw [ha]; exact (show (1 : Nat) < 2 by decide)
    | succ j => cases hj

/-- did the history run? -/
def ranB (env : Env) (acts : List Action) : Bool :=
  match Quiet.runActions env acts (State.init 128 true) #[] with
  | .ok _ => true
  | .error _ => false

/-- the state after the history -/
def stateB (env : Env) (acts : List Action) : Option State :=
  match Quiet.runActions env acts (State.init 128 true) #[] with
  | .ok (s, _) => some s
  | .error _ => none

/-- what observer `o` reads after the history -/
def readB (env : Env) (acts : List Action) (o : Nat) : Option Val :=
  match stateB env acts with
  | some s => match s.tryGetValue env o with | .ok v => some v | .error _ => none
  | none => none

/-- a fact about the state the history of `bEnv` ends in -/
def factB {α} (acts : List Action) (f : State → α) : Option α := (stateB bEnv acts).map f

theorem ranB_iff {env : Env} {acts : List Action} (h : ranB env acts = true) :
    ∃ s tk, Quiet.runActions env acts (State.init 128 true) #[] = .ok (s, tk) := by
  unfold ranB at h
  rcases hx : Quiet.runActions env acts (State.init 128 true) #[] with e | ⟨s, tk⟩
  · rw [hx] at h; cases h
  · exact ⟨s, tk, rfl⟩

end C2h

/-- the example is a history of the fragment -/
theorem exHistB_frag : HistF1 bEnv 0 exHistB := by
  simp only [exHistB, HistF1, ActionF1, InstrTop, StaticInstr, Quiet.OpndOK, and_true, true_and]
  exact ⟨⟨0, rfl⟩, C2h.bEnv_body0⟩

set_option maxRecDepth 100000 in
/-- the example history runs without panic -/
theorem exHistB_runs : ∃ s tk, Quiet.runActions bEnv exHistB (State.init 128 true) #[] = .ok (s, tk) :=
  C2h.ranB_iff (by decide +kernel)

/-- … so the state it reaches satisfies the invariant between actions (and `history_prefix1`, `history_stabilise1` apply to every state on the way) -/
theorem exHistB_inv
    (STAB : ∀ {fuel : Nat} {s s' : State}, QInv1 bEnv s → (stabilise bEnv fuel).run.run s = (.ok (), s') → QInv1 bEnv s') :
    ∃ s tk, Quiet.runActions bEnv exHistB (State.init 128 true) #[] = .ok (s, tk) ∧ QInv1 bEnv s := by
  obtain ⟨s, tk, h⟩ := exHistB_runs
  exact ⟨s, tk, h, history_q1 STAB exHistB_frag h⟩

set_option maxRecDepth 100000 in
/-- the reads of the observer after the first, second and third `stabilise`: `f0 [1, 1] = 2`, `f0 [1] = 1`, `f0 [5] = 5` -/
theorem exHistB_reads : C2h.readB bEnv (exHistB.take 5) 0 = some (.int 2) ∧
    C2h.readB bEnv (exHistB.take 7) 0 = some (.int 1) ∧
    C2h.readB bEnv exHistB 0 = some (.int 5) :=
  by decide +kernel

set_option maxRecDepth 100000 in
/-- the second `stabilise` switches the variant of the closure: before it (after `v0 := 1`) node 4 = `map f0 [1, 1]` (created by the first run of the
closure, in scope `.bind 0`) is valid and is the right-hand side of the bind; after it node 4 is invalid, node 5 = `map f0 [1]` has been created in scope
`.bind 0` and is the right-hand side, and the bind has registered exactly node 5 -/
theorem exHistB_switch :
    (C2h.factB (exHistB.take 6) (fun s => s.nodes.size) = some 5 ∧
      C2h.factB (exHistB.take 6) (fun s => (s.nodeD 4).valid) = some true ∧
      C2h.factB (exHistB.take 6) (fun s => (s.nodeD 4).kind) = some (.map 0 [1, 1]) ∧
      C2h.factB (exHistB.take 6) (fun s => (s.nodeD 4).createdIn) = some (.bind 0) ∧
      C2h.factB (exHistB.take 6) (fun s => s.binds[0]?.map (·.rhs)) = some (some (some 4)) ∧
      C2h.factB (exHistB.take 6) (fun s => s.binds[0]?.map (·.allNodesCreatedOnRhs)) = some (some [4])) ∧
    (C2h.factB (exHistB.take 7) (fun s => s.nodes.size) = some 6 ∧
      C2h.factB (exHistB.take 7) (fun s => (s.nodeD 4).valid) = some false ∧
      C2h.factB (exHistB.take 7) (fun s => (s.nodeD 5).valid) = some true ∧
      C2h.factB (exHistB.take 7) (fun s => (s.nodeD 5).kind) = some (.map 0 [1]) ∧
      C2h.factB (exHistB.take 7) (fun s => (s.nodeD 5).createdIn) = some (.bind 0) ∧
      C2h.factB (exHistB.take 7) (fun s => s.binds[0]?.map (·.rhs)) = some (some (some 5)) ∧
      C2h.factB (exHistB.take 7) (fun s => s.binds[0]?.map (·.allNodesCreatedOnRhs)) = some (some [5])) :=
  ⟨by decide +kernel,
    by decide +kernel, by decide +kernel, by decide +kernel, by decide +kernel, by decide +kernel, by decide +kernel,
    by decide +kernel⟩

end IncrVerif.Proofs.BindH
