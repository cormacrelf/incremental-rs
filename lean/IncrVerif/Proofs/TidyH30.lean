import IncrVerif.Proofs.TidyH29
import IncrVerif.Props.C08History
/-!
# T3b part 6: valid histories of the write-effects fragment never panic

Fragment: `EffH.WAction env` (= the fragment of `Props/C09History.lean`), node functions with write effects
(`WOnly env`), update handlers with write effects (`WHandlers env`).  Validity `ValidHistW N B …` = `ValidHistS`
(existing indices, room `nodes ≤ N`, fuel at every `stabilise`, `subscribe` on an existing observer) plus: at every
`stabilise` all the variables the functions and handlers may write exist (`B ≤ #vars`, where `FnBound env B` and
`HBound env B` bound the written indices).  Only the single actions are shown to return: the `is_stable` loop is not
bounded (a function that writes a variable it depends on never stabilises).
-/
namespace IncrVerif.Proofs.TidyH.EffT
open IncrVerif.Engine IncrVerif.Driver IncrVerif.Proofs IncrVerif.Proofs.Step IncrVerif.Proofs.Sched
open IncrVerif.Proofs.Quiet IncrVerif.Proofs.EffH
open IncrVerif.Proofs.TidyH.SubsT (TokIn SubsOK SubsOKc subsOK_of grown_tokIn tokIn_empty validHistB
  validHistB_sound ValidHistS)

/-- what a `stabilise` needs besides fuel: every variable that a function or a handler may write exists -/
def StabOK (B : Nat) (s : State) : Action → Prop
  | .stabilise => B ≤ s.vars.size
  | _ => True

/-- **every action of the fragment whose indices exist returns**; `UInvE`, `TInv`, `TokIn` are kept -/
theorem step_total_w {env : Env} {N B : Nat} {s : State} {a : Action} {tk : Array Nat}
    (hw : WOnly env) (hH : WHandlers env) (hFb : FnBound env B) (hHb : HBound env B)
    (UE : UInvE env s) (T : TInv N s) (K : TokIn tk s) (ha : WAction env a) (hok : ActionOK N s a)
    (hsub : SubsOK s a) (hstab : StabOK B s a) :
    Tot (stepAction env a tk) s (fun r s' => UInvE env s' ∧ TInv N s' ∧ TokIn r.2 s' ∧ Grown a s s') := by
  by_cases hs : a = .stabilise
  · subst hs
    obtain ⟨_, s', h, T'⟩ := stabilise_total_w (env := env) hw hH hFb hHb UE T hstab hok
    obtain ⟨t2, t3, X⟩ := stabilise_w hw hH UE h
    have G : Grown .stabilise s s' := ⟨X.size, by rw [X.vsize]; rfl, X.obs.1⟩
    exact ⟨_, s', step_stabilise_run h, X.inv, T', grown_tokIn K G, G⟩
  · have hnd : ∀ e c cb, a ≠ .addDep e c cb := by
      intro e c cb heq; rw [heq] at ha; exact ha.elim
    obtain ⟨r, s', h, -, T', K', G⟩ := SubsT.step_total (env := noEff env) (tk := tk) UE.u T K
      (pureHandlers_noEff env) ha hok hsub
    rw [stepAction_noEff env a tk hs hnd] at h
    exact ⟨r, s', h, step_w hw hH UE ha h, T', K', G⟩

/-! ## valid histories -/

def StabOKc (B nv : Nat) : Action → Prop
  | .stabilise => B ≤ nv
  | _ => True

theorem stabOK_of {B : Nat} {s : State} {a : Action} (h : StabOKc B s.vars.size a) : StabOK B s a := by
  cases a <;> first | exact h | trivial

/-- a valid history of the fragment: `ValidHistS` and, at every `stabilise`, the variables `< B` exist -/
def ValidHistW (N B : Nat) : Nat → Nat → Nat → List Action → Prop
  | _, _, _, [] => True
  | nn, nv, no, a :: as =>
    ActionOKc N nn nv no a ∧ SubsOKc no a ∧ StabOKc B nv a ∧
      ValidHistW N B (nn + (grow a).1) (nv + (grow a).2.1) (no + (grow a).2.2) as

theorem ValidHistW.toS {N B : Nat} : ∀ {acts : List Action} {nn nv no : Nat},
    ValidHistW N B nn nv no acts → ValidHistS N nn nv no acts := by
  intro acts
  induction acts with
  | nil => intro _ _ _ _; trivial
  | cons a as ih => intro nn nv no h; exact ⟨h.1, h.2.1, ih h.2.2.2⟩

/-- with `B = 0` (no function and no handler writes anything) validity is `ValidHistS` -/
theorem validHistW_zero {N : Nat} : ∀ {acts : List Action} {nn nv no : Nat},
    ValidHistS N nn nv no acts → ValidHistW N 0 nn nv no acts := by
  intro acts
  induction acts with
  | nil => intro _ _ _ _; trivial
  | cons a as ih =>
    intro nn nv no h
    refine ⟨h.1, h.2.1, ?_, ih h.2.2⟩
    cases a <;> first | trivial | exact Nat.zero_le _

/-- **Total correctness for the write-effects fragment.** A valid history runs without panic from any state
satisfying the invariants; the final state satisfies them. -/
theorem runActions_total_w {env : Env} {N B : Nat} {acts : List Action} {s : State} {tk : Array Nat}
    (hw : WOnly env) (hH : WHandlers env) (hFb : FnBound env B) (hHb : HBound env B)
    (UE : UInvE env s) (T : TInv N s) (K : TokIn tk s) (ha : ∀ a, a ∈ acts → WAction env a)
    (hv : ValidHistW N B s.nodes.size s.vars.size s.observers.size acts) :
    ∃ s' tk', runActions env acts s tk = .ok (s', tk') ∧ UInvE env s' ∧ TInv N s' ∧ TokIn tk' s' := by
  induction acts generalizing s tk with
  | nil => exact ⟨s, tk, rfl, UE, T, K⟩
  | cons a as ih =>
    obtain ⟨hok, hsub, hstab, hrest⟩ := hv
    obtain ⟨r, s1, h1, U1, T1, K1, hg⟩ :=
      step_total_w (tk := tk) hw hH hFb hHb UE T K (ha a (List.mem_cons_self ..))
        (actionOK_of T.topSize hok) (subsOK_of hsub) (stabOK_of hstab)
    obtain ⟨g1, g2, g3⟩ := hg
    rw [← g1, ← g2, ← g3] at hrest
    obtain ⟨s', tk', h2, U', T', K'⟩ := ih U1 T1 K1 (fun b hb => ha b (List.mem_cons_of_mem _ hb)) hrest
    refine ⟨s', tk', ?_, U', T', K'⟩
    simp only [runActions]
    rw [h1]
    exact h2

/-- **from the initial state**: a valid history of the write-effects fragment never panics -/
theorem history_total_w {env : Env} {N B : Nat} {d : Bool} {acts : List Action}
    (hw : WOnly env) (hH : WHandlers env) (hFb : FnBound env B) (hHb : HBound env B)
    (ha : ∀ a, a ∈ acts → WAction env a) (hv : ValidHistW N B 0 0 0 acts) :
    ∃ s' tk', runActions env acts (State.init N d) #[] = .ok (s', tk') ∧ UInvE env s' ∧ TInv N s' ∧
      TokIn tk' s' :=
  runActions_total_w hw hH hFb hHb (uinve_init env N d) (tinv_init N d) (tokIn_empty _) ha hv

/-- **hence, unconditionally**: at every `stabilise` of a valid history the invariant holds before it, the
`stabilise` returns and V3 of `Props/C08History.lean` (`EffH.WStab`) holds -/
theorem valid_history_stabilise_w {env : Env} {N B : Nat} {d : Bool} {as bs : List Action}
    (hw : WOnly env) (hH : WHandlers env) (hFb : FnBound env B) (hHb : HBound env B)
    (ha : ∀ a, a ∈ as ++ Action.stabilise :: bs → WAction env a)
    (hv : ValidHistW N B 0 0 0 (as ++ Action.stabilise :: bs)) :
    ∃ s1 tk1 s2 t2 t3 s tk, runActions env as (State.init N d) #[] = .ok (s1, tk1) ∧ UInvE env s1 ∧
      (stabilise env fuelDefault).run.run s1 = (.ok (), s2) ∧ WStab env fuelDefault s1 t2 t3 s2 ∧
      runActions env bs s2 tk1 = .ok (s, tk) ∧ UInvE env s := by
  obtain ⟨s, tk, h, U, -, -⟩ := history_total_w (d := d) hw hH hFb hHb ha hv
  obtain ⟨s1, tk1, s2, t2, t3, h1, U1, h2, X, h3⟩ := history_stabilise_w hw hH ha h
  exact ⟨s1, tk1, s2, t2, t3, s, tk, h1, U1, h2, X, h3, U⟩

/-- **hence, unconditionally** (C09 with effects): for every token of a valid history the logged updates are the
specified ones -/
theorem valid_history_notifications_w {env : Env} {N B : Nat} {d : Bool} {acts : List Action}
    (hw : WOnly env) (hH : WHandlers env) (hFb : FnBound env B) (hHb : HBound env B)
    (ha : ∀ a, a ∈ acts → WAction env a) (hv : ValidHistW N B 0 0 0 acts) :
    ∃ s' tk', runActions env acts (State.init N d) #[] = .ok (s', tk') ∧ UInvE env s' ∧ TInv N s' ∧
      ∀ t, SubsH.tokLog t s'.log = SubsH.specT env t acts (State.init N d) #[] [] := by
  obtain ⟨s', tk', h, U', T', -⟩ := history_total_w (d := d) hw hH hFb hHb ha hv
  exact ⟨s', tk', h, U', T', fun t => history_notifications_w hw hH ha h t⟩

/-- the first stage of `Props/C08History.lean` (no subscriptions, fragment `EffH.EAction`, invariant `EffH.EInv`):
a valid history never panics and ends in a state satisfying `EInv` -/
theorem history_total_e {env : Env} {N B : Nat} {d : Bool} {acts : List Action}
    (hw : WOnly env) (hH : WHandlers env) (hFb : FnBound env B) (hHb : HBound env B)
    (ha : ∀ a, a ∈ acts → EAction env a) (hv : ValidHistW N B 0 0 0 acts) :
    ∃ s' tk', runActions env acts (State.init N d) #[] = .ok (s', tk') ∧ EInv env s' ∧ TInv N s' := by
  obtain ⟨s', tk', h, -, T', -⟩ := history_total_w (d := d) hw hH hFb hHb
    (fun a hm => SubsH.SubAction.of_static (ha a hm)) hv
  exact ⟨s', tk', h, history_e hw ha h, T'⟩

/-! ## a Boolean checker and non-vacuity -/

def stabOKb (B nv : Nat) : Action → Bool
  | .stabilise => decide (B ≤ nv)
  | _ => true

def validHistWB (N B : Nat) : Nat → Nat → Nat → List Action → Bool
  | _, _, _, [] => true
  | nn, nv, no, a :: as =>
    SubsT.actionOKb N nn nv no a && stabOKb B nv a &&
      validHistWB N B (nn + (grow a).1) (nv + (grow a).2.1) (no + (grow a).2.2) as

theorem validHistWB_sound {N B : Nat} : ∀ {acts : List Action} {nn nv no : Nat},
    validHistWB N B nn nv no acts = true → ValidHistW N B nn nv no acts := by
  intro acts
  induction acts with
  | nil => intro _ _ _ _; trivial
  | cons a as ih =>
    intro nn nv no h
    simp only [validHistWB, Bool.and_eq_true] at h
    obtain ⟨h1, h2⟩ := SubsT.actionOKb_sound h.1.1
    refine ⟨h1, h2, ?_, ih h.2⟩
    have h3 := h.1.2
    cases a <;> first | trivial | exact (of_decide_eq_true h3 : B ≤ nv)

open IncrVerif.Props.C08History

theorem exEnvH_fnBound : FnBound exEnvH 2 := by
  intro f vals e v g he hv
  simp only [exEnvH] at he
  split at he
  · simp only [List.mem_singleton] at he; subst he; cases hv; decide
  · cases he

theorem exEnvH_hBound : HBound exEnvH 2 := by
  intro hid u e v g he hv
  simp only [exEnvH, List.mem_cons, List.mem_nil_iff, or_false] at he
  rcases he with rfl | rfl <;> (cases hv; decide)

/-- the example of `Props/C08History.lean` (a function writes `v1 := 4`; the handler then does `v1 += 1` and
`replace(v1, 2)`) is a valid history -/
theorem exHistH_valid : ValidHistW 128 2 0 0 0 exHistH := validHistWB_sound (by decide +kernel)

/-- hence it never panics BY THE THEOREM (not by running it), and the invariants hold at the end -/
example : ∃ s' tk', runActions exEnvH exHistH (State.init 128 true) #[] = .ok (s', tk') ∧ UInvE exEnvH s' ∧
    TInv 128 s' ∧ ∀ t, SubsH.tokLog t s'.log = SubsH.specT exEnvH t exHistH (State.init 128 true) #[] [] :=
  valid_history_notifications_w exEnvH_wonly exEnvH_whandlers exEnvH_fnBound exEnvH_hBound exHistH_actions
    exHistH_valid

/-- validity is needed: a function that writes a variable that does not exist (yet) makes `stabilise` panic in the
model; the checker rejects the history (the `stabilise` comes before `v1` exists) -/
def exBad : List Action :=
  [.create (.var (.int 1)), .create (.map 1 [.outer 0]), .observe (.outer 1), .stabilise]

example : ranOk exEnvH exBad = false ∧ validHistWB 128 2 0 0 0 exBad = false ∧
    validHistB 128 0 0 0 exBad = true :=
  by decide +kernel

end IncrVerif.Proofs.TidyH.EffT
