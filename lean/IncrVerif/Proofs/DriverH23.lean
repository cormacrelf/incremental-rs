import IncrVerif.Proofs.DriverH4
/-!
# Drivers, bridges part 1: general lemmas

* `SameR s s'`: the two states differ only in the stamps `recomputedAt` of their nodes (and in state fields no
  structural invariant reads); `BGraph`, `HeapInv`, `AllStatic`, `VarsOK` are congruent for it
  (`sameR_started`, `sameR_unstamp`: the two instances).
* `bgraph_of_struct`: the structural invariant at rest of the rank port gives the bind-fragment graph invariant.
* `struct_of_bgraph`: the converse, given the fragment, `Nodup` parent lists and the two heap/staleness clauses.
-/
namespace IncrVerif.Proofs.DriverH
open IncrVerif.Engine IncrVerif.Driver IncrVerif.Proofs IncrVerif.Proofs.Step IncrVerif.Proofs.Sched
open IncrVerif.Proofs.ExpertH IncrVerif.Proofs.ExpertH.QR

/-! ## states that differ only in stamps -/

/-- a node with its own stamp erased -/
def noStamp (nd : Node) : Node := { nd with recomputedAt := 0 }

structure SameR (s s' : State) : Prop where
  pc : s'.panicCountdown = s.panicCountdown
  scope : s'.currentScope = s.currentScope
  size : s'.nodes.size = s.nodes.size
  rch : s'.rch = s.rch
  vars : s'.vars = s.vars
  binds : s'.binds = s.binds
  experts : s'.experts = s.experts
  stabNum : s'.stabNum = s.stabNum
  node : ∀ m, noStamp (s'.nodeD m) = noStamp (s.nodeD m)

section
variable {s s' : State}

theorem SameR.valid (h : SameR s s') (m : Nat) : (s'.nodeD m).valid = (s.nodeD m).valid := by
  have := congrArg Node.valid (h.node m); exact this
theorem SameR.kind (h : SameR s s') (m : Nat) : (s'.nodeD m).kind = (s.nodeD m).kind := by
  have := congrArg Node.kind (h.node m); exact this
theorem SameR.cutoff (h : SameR s s') (m : Nat) : (s'.nodeD m).cutoff = (s.nodeD m).cutoff := by
  have := congrArg Node.cutoff (h.node m); exact this
theorem SameR.createdIn (h : SameR s s') (m : Nat) : (s'.nodeD m).createdIn = (s.nodeD m).createdIn := by
  have := congrArg Node.createdIn (h.node m); exact this
theorem SameR.value (h : SameR s s') (m : Nat) : (s'.nodeD m).value = (s.nodeD m).value := by
  have := congrArg Node.value (h.node m); exact this
theorem SameR.changedAt (h : SameR s s') (m : Nat) : (s'.nodeD m).changedAt = (s.nodeD m).changedAt := by
  have := congrArg Node.changedAt (h.node m); exact this
theorem SameR.height (h : SameR s s') (m : Nat) : (s'.nodeD m).height = (s.nodeD m).height := by
  have := congrArg Node.height (h.node m); exact this
theorem SameR.heightInRch (h : SameR s s') (m : Nat) : (s'.nodeD m).heightInRch = (s.nodeD m).heightInRch := by
  have := congrArg Node.heightInRch (h.node m); exact this
theorem SameR.parents (h : SameR s s') (m : Nat) : (s'.nodeD m).parents = (s.nodeD m).parents := by
  have := congrArg Node.parents (h.node m); exact this
theorem SameR.observers (h : SameR s s') (m : Nat) : (s'.nodeD m).observers = (s.nodeD m).observers := by
  have := congrArg Node.observers (h.node m); exact this
theorem SameR.forceNecessary (h : SameR s s') (m : Nat) :
    (s'.nodeD m).forceNecessary = (s.nodeD m).forceNecessary := by
  have := congrArg Node.forceNecessary (h.node m); exact this

theorem SameR.inRch (h : SameR s s') (m : Nat) : (s'.nodeD m).inRch = (s.nodeD m).inRch := by
  simp only [Node.inRch, h.heightInRch]

theorem SameR.nec (h : SameR s s') (m : Nat) : s'.isNecessary m = s.isNecessary m := by
  simp only [State.isNecessary, Node.isNecessary, h.parents, h.observers, h.forceNecessary]

theorem SameR.children (h : SameR s s') (m : Nat) : s'.children m = s.children m := by
  unfold State.children Node.kind?
  rw [h.kind, h.valid, h.binds, h.experts]

theorem SameR.symm (h : SameR s s') : SameR s' s :=
  ⟨h.pc.symm, h.scope.symm, h.size.symm, h.rch.symm, h.vars.symm, h.binds.symm, h.experts.symm, h.stabNum.symm,
    fun m => (h.node m).symm⟩

/-- staleness of a node whose own stamp is the same -/
theorem SameR.isStale (h : SameR s s') {m : Nat} (hr : (s'.nodeD m).recomputedAt = (s.nodeD m).recomputedAt) :
    s'.isStale m = s.isStale m := by
  unfold State.isStale
  simp only [h.children, Node.kind?, h.kind, h.valid, hr, h.changedAt, h.vars, h.experts]

theorem SameR.staleOf (h : SameR s s') {m : Nat} (hr : (s'.nodeD m).recomputedAt = (s.nodeD m).recomputedAt) :
    staleOf s' m = staleOf s m :=
  staleOf_congr (h.kind m) hr h.vars (fun c _ => h.changedAt c)

theorem SameR.edge (h : SameR s s') {a c : Nat} (he : BindH.Edge s' a c) : BindH.Edge s a c := by
  cases he with
  | child hc => rw [h.children] at hc; exact BindH.Edge.child hc
  | scope hv hsc hb =>
    rw [h.valid] at hv; rw [h.createdIn] at hsc; rw [h.binds] at hb
    exact BindH.Edge.scope hv hsc hb

end

/-- restamping one node -/
theorem sameR_modify (s : State) (n : Nat) (r : Int) :
    SameR s { s with nodes := s.nodes.modify n fun x => { x with recomputedAt := r } } := by
  refine ⟨rfl, rfl, by simp, rfl, rfl, rfl, rfl, rfl, fun m => ?_⟩
  rw [nodeD_modify]
  split <;> rfl

theorem sameR_started (n : Nat) (s : State) : SameR s (started n s) := by
  refine ⟨rfl, rfl, by simp [started], rfl, rfl, rfl, rfl, rfl, fun m => ?_⟩
  rw [started_nodeD]
  split <;> rfl

theorem sameR_unstamp (n : Nat) (r : Int) (S : State) : SameR S (unstamp n r S) := sameR_modify S n r

theorem unstamp_self (n : Nat) (r : Int) (S : State) (h : n < S.nodes.size) :
    ((unstamp n r S).nodeD n).recomputedAt = r := by
  rw [unstamp_nodeD, if_pos ⟨rfl, h⟩]

theorem started_other' (n : Nat) (s : State) {m : Nat} (h : m ≠ n) : (started n s).nodeD m = s.nodeD m := by
  rw [started_nodeD, if_neg (fun hh => h hh.1.symm)]

theorem started_self' (n : Nat) (s : State) (h : n < s.nodes.size) :
    ((started n s).nodeD n).recomputedAt = s.stabNum := by
  rw [started_nodeD, if_pos ⟨rfl, h⟩]

/-! ## congruences -/

section
variable {env : Env} {s s' : State}

theorem bgraph_congrR (g : BindH.BGraph env s) (h : SameR s s') : BindH.BGraph env s' where
  pc := by rw [h.pc]; exact g.pc
  node n hn hv := by
    rw [h.size] at hn; rw [h.valid] at hv
    obtain ⟨h1, h2, h3⟩ := g.node n hn hv
    rw [h.kind, h.cutoff, h.children]
    refine ⟨h1, h2, fun c hc => ?_⟩
    rw [h.size, h.valid]; exact h3 c hc
  nec n hn := by
    rw [h.nec] at hn; rw [h.valid, h.height]; exact g.nec n hn
  var n c hn hv hk := by
    rw [h.size] at hn; rw [h.valid] at hv; rw [h.kind] at hk
    rw [h.vars]; exact g.var n c hn hv hk
  child n hn i c hc := by
    rw [h.nec] at hn; rw [h.children] at hc
    rw [h.nec, h.parents, h.height, h.height]; exact g.child n hn i c hc
  parent c p i hm := by
    rw [h.parents] at hm
    rw [h.nec, h.children]; exact g.parent c p i hm
  scope n b hn hv hsc := by
    rw [h.size] at hn; rw [h.valid] at hv; rw [h.createdIn] at hsc
    obtain ⟨br, h1, h2, h3, h4⟩ := g.scope n b hn hv hsc
    refine ⟨br, by rw [h.binds]; exact h1, by rw [h.size]; exact h2, by rw [h.valid]; exact h3, ?_⟩
    rw [h.nec, h.nec, h.height, h.height]; exact h4
  lcRec n b hn hv hk := by
    rw [h.size] at hn; rw [h.valid] at hv; rw [h.kind] at hk
    rw [h.binds]; exact g.lcRec n b hn hv hk
  mainRec n b lc hn hv hk := by
    rw [h.size] at hn; rw [h.valid] at hv; rw [h.kind] at hk
    rw [h.binds, h.createdIn, h.createdIn]; exact g.mainRec n b lc hn hv hk
  lcChild m c b hm hv hc hk := by
    rw [h.size] at hm; rw [h.valid] at hv; rw [h.children] at hc; rw [h.kind] at hk
    rw [h.kind]; exact g.lcChild m c b hm hv hc hk
  acyc := by
    obtain ⟨rk, hrk⟩ := g.acyc
    exact ⟨rk, fun a c he => hrk a c (h.edge he)⟩

theorem heapInv_congrR (H : HeapInv s) (h : SameR s s') : HeapInv s' :=
  H.congr h.rch h.size (fun m => ⟨h.heightInRch m, h.height m, h.nec m⟩)

theorem allStatic_congrR {rk : Nat → Nat} (A : AllStatic env rk s) (h : SameR s s') : AllStatic env rk s' := by
  refine ⟨by rw [h.pc]; exact A.pc, by rw [h.scope]; exact A.scope, fun n hn => ?_, A.inj,
    by rw [h.size]; exact A.top⟩
  have sn := A.node n (by rw [← h.size]; exact hn)
  exact ⟨by rw [h.valid]; exact sn.valid, by rw [h.kind]; exact sn.kind, by rw [h.cutoff]; exact sn.cutoff,
    by rw [h.createdIn]; exact sn.top, by rw [h.forceNecessary]; exact sn.force,
    by rw [h.kind]; exact sn.kidsLt, by rw [h.kind, h.size]; exact sn.kidsIn⟩

end

/-! ## `Struct` and `BGraph` -/

theorem bkind_of_static {env : Env} {k : Kind} (h : StaticKind env k) : BindH.BKind env k := by
  cases k <;> first | exact h | exact h.elim

/-- the structural invariant at rest of the rank port gives the graph invariant of the bind fragment -/
theorem bgraph_of_struct {env : Env} {rk : Nat → Nat} {S : State} (I : Struct env rk S) (V : VarsOK S) :
    BindH.BGraph env S where
  pc := I.static.pc
  node n hn hv := by
    have sn := I.node hn
    refine ⟨bkind_of_static sn.kind, Or.inl sn.cutoff, fun c hc => ?_⟩
    rw [GInv.children I hn] at hc
    have hc' := sn.kidsIn c hc
    exact ⟨hc', (I.node hc').valid⟩
  nec n hn := ⟨(I.node (nec_lt_size hn)).valid, I.hpos n hn rfl⟩
  var n c hn _ hk := by
    obtain ⟨vc, h, -⟩ := V.node n c hn hk
    exact ⟨vc, h⟩
  child n hn i c hk := by
    rw [GInv.children I (nec_lt_size hn)] at hk
    have hm := I.conv n i c hk ((wants_closed rfl).2 hn)
    exact ⟨nec_of_mem_parents hm, hm, I.hlt c n i hm rfl⟩
  parent c p i h := by
    obtain ⟨h1, h2⟩ := I.par c p i h
    have hp := (wants_closed rfl).1 h2
    rw [GInv.children I (nec_lt_size hp)]
    exact ⟨hp, h1⟩
  scope n b hn _ hsc := by
    rw [(I.node hn).top] at hsc; cases hsc
  lcRec n b hn _ hk := by
    have := (I.node hn).kind; rw [hk] at this; exact this.elim
  mainRec n b lc hn _ hk := by
    have := (I.node hn).kind; rw [hk] at this; exact this.elim
  lcChild m c b hm _ hc hk := by
    rw [GInv.children I hm] at hc
    have hc' := (I.node hm).kidsIn c hc
    have := (I.node hc').kind; rw [hk] at this; exact this.elim
  acyc := by
    refine ⟨rk, fun a c he => ?_⟩
    have ha := he.lt_size
    cases he with
    | child hc =>
      rw [GInv.children I ha] at hc
      exact (I.node ha).kidsLt c hc
    | scope _ hsc _ => rw [(I.node ha).top] at hsc; cases hsc

/-- the converse: from the graph invariant of the bind fragment, in the static fragment -/
theorem struct_of_bgraph {env : Env} {rk : Nat → Nat} {S : State} (A : AllStatic env rk S)
    (g : BindH.BGraph env S) (H : HeapInv S) (nd : ∀ c, (S.nodeD c).parents.Nodup)
    (q : ∀ m, S.isNecessary m = true → staleOf S m = true → (S.nodeD m).inRch = true)
    (qs : ∀ m, (S.nodeD m).inRch = true → staleOf S m = true) : Struct env rk S := by
  have hch : ∀ p, S.isNecessary p = true → S.children p = kids (S.nodeD p).kind := fun p hp =>
    children_eq_kids S p (A.node p (nec_lt_size hp)).valid (A.node p (nec_lt_size hp)).kind
  exact {
    static := A
    par := fun c p i hm => by
      obtain ⟨h1, h2⟩ := g.parent c p i hm
      rw [hch p h1] at h2
      exact ⟨h2, (wants_closed rfl).2 h1⟩
    conv := fun p i c hk hw => by
      have hn := (wants_closed rfl).1 hw
      rw [← hch p hn] at hk
      exact (g.child p hn i c hk).2.1
    nodup := nd
    hlt := fun c p i hm _ => by
      obtain ⟨h1, h2⟩ := g.parent c p i hm
      exact (g.child p h1 i c h2).2.2
    hpos := fun n hn _ => (g.nec n hn).2
    lnec := fun p k ho => by simp [allClosed] at ho
    unec := fun p k ho => by simp [allClosed] at ho
    heap := ⟨H.wf, fun m hm => by rw [H.hgt m hm]; exact H.lb m hm, H.lb0⟩
    hgt := fun m hm _ => H.hgt m hm
    qnec := fun m hm => Or.inl (H.nec m hm)
    queued := fun m _ hn hs => q m hn hs
    qstale := qs
    opLt := fun m ho => absurd rfl ho }

end IncrVerif.Proofs.DriverH
