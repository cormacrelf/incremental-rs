import IncrVerif.Proofs.FullH10
/-!
# C01 full fragment: the functions that may INVALIDATE, in the `SimX` calculus (the ghost may be erased)
(`invalidateNode`, `propagateInvalidity`, `becameNecessaryPropagate`, `stateAddParent`, `changeChildBindRhs`)
-/
namespace IncrVerif.Proofs.FullH
open IncrVerif.Engine IncrVerif.Proofs IncrVerif.Proofs.Step IncrVerif.Proofs.Sched IncrVerif.Proofs.Quiet

section
variable {K : Kind → Prop} {g : Nat → Option Val} {sp : Nat → Val → Val}

/-- the ghost with the entry of `n` erased -/
@[reducible] def eraseG (g : Nat → Option Val) (n : Nat) : Nat → Option Val := fun m => if m = n then none else g m

theorem Fr.eraseG {s : State} (h : Fr K g s) (n : Nat) : Fr K (eraseG g n) s :=
  ⟨h.kinds, h.noExp, h.cut, fun m hm => by unfold FullH.eraseG; split; rfl; exact h.fresh m hm⟩

/-- `GR` after an erasure at `n` (before which only `VM` work happened), once `n` is invalid -/
theorem GR.of_erase {g2 : Nat → Option Val} {s sB s' : State} {n : Nat} (h1 : VM s sB)
    (h2 : GR (eraseG g n) g2 sB s') (hinv : (s'.nodeD n).valid = false) : GR g g2 s s' := by
  refine ⟨h1.trans h2.vm, fun m => ?_⟩
  rcases h2.gh m with e | ⟨e, hv⟩
  · by_cases hm : m = n
    · subst hm
      refine Or.inr ⟨?_, hinv⟩
      rw [e]; simp [eraseG]
    · left; rw [e]; simp [eraseG, hm]
  · exact Or.inr ⟨e, hv⟩

/-- the last part of `invalidate_node` -/
def invTail (n : Nat) : M Unit := do
  modNode n fun x => { x with valid := false }
  for (p, _) in (← getNode n).parents do
    modify fun s => { s with propagateInvalidity := p :: s.propagateInvalidity }
  let s ← get
  dassert (!s.needsToBeComputed n) "node:invalidate_node:not-needs-to-be-computed"
  if (s.nodeD n).inRch then rchRemove n

/-- `invalidate_nodes_created_on_rhs`, then the last part -/
def invCT (fuel : Nat) (k : Kind) (n : Nat) : M Unit :=
  match k with
  | .bindMain b _ => do
    let all := (← getBind b).allNodesCreatedOnRhs
    modBind b fun x => { x with allNodesCreatedOnRhs := [] }
    for r in all do invalidateNode fuel r
    invTail n
  | _ => invTail n

theorem invalidateNode_succ (fuel n : Nat) : Engine.invalidateNode (fuel + 1) n = (do
    let nd ← getNode n
    if !nd.valid then return
    maybeHandleAfterStabilisation n
    let now := (← get).stabNum
    modNode n fun x => { x with value := none, changedAt := now, recomputedAt := now }
    modify fun s => { s with counters := { s.counters with invalidated := s.counters.invalidated + 1 } }
    if (← get).isNecessary n then
      removeChildren fuel n
      setHeight n ((← scopeHeight nd.createdIn) + 1)
      invCT fuel nd.kind n
    else invCT fuel nd.kind n) := by
  rw [Engine.invalidateNode]
  rfl

theorem Sim.invTail (n : Nat) : Sim K g (invTail n) (invTail n) := by
  intro s; unfold FullH.invTail; fsim

set_option hygiene false in
/-- what the leaves of a walk with a changing ghost, started in `(g0, s0)`, refer to -/
macro "simx_hyps" g0:term:max s0:term:max : tactic => `(tactic| (
  have H : ∀ {g' : Nat → Option Val}, NodeSim.Blind (rel g') (IX K $g0 $s0 g') := blindX
  have hA : ∀ {g' : Nat → Option Val}, NodeSim.AddsParents (IX K $g0 $s0 g') := addsParentsX
  have hB : ∀ {g' : Nat → Option Val}, NodeSim.WritesBinds (IX K $g0 $s0 g') := writesBindsX
  have hO : ∀ {g' : Nat → Option Val}, NodeSim.ChangesNecessity (IX K $g0 $s0 g') := changesNecessityX
  have hW : ∀ {g' : Nat → Option Val}, NodeSim.RefWork (fun _ => False) (rel g') (IX K $g0 $s0 g') := refWorkX
  have hP : ∀ {g' : Nat → Option Val}, NodeSim.Plain (rel g') := plain _
  have hXw : ∀ {g' : Nat → Option Val}, NodeSim.WritesExperts (IX K $g0 $s0 g') := writesExpertsX
  have hXo : NodeSim.ObsWork (fun _ => False) (fun g => rel g) (IX K $g0 $s0) := obsWorkX
  have hX : ∀ {env env' : Env}, NodeSim.ExpWork (fun _ => False) (fun g => rel g) (IX K $g0 $s0) env env' := expWorkX))

theorem SimX.invCT (fuel : Nat) (ih : ∀ n, SimX K (Engine.invalidateNode fuel n) (Engine.invalidateNode fuel n))
    (k : Kind) (n : Nat) : SimX K (invCT fuel k n) (invCT fuel (virtKind k) n) := by
  intro g s
  refine .of_commX ?_
  simx_hyps g s
  cases k <;> simp only [virtKind, FullH.invCT]
  case bindMain b lc =>
    sim
    · exact (ih _).commX _ _ _ _
    · exact Sim.commX (fun _ => Sim.invTail n) _ _ _ _
  all_goals exact Sim.commX (fun _ => Sim.invTail n) _ _ _ _

theorem SimX.invalidateNode (fuel n : Nat) : SimX K (Engine.invalidateNode fuel n) (Engine.invalidateNode fuel n) := by
  induction fuel generalizing n with
  | zero => intro g s; unfold Engine.invalidateNode; exact SimXAt.thr _ _
  | succ fuel ih =>
    intro g s hfr r s' hr
    have hinv := (Inval.invalidateNode_ok hr).2.1
    rw [invalidateNode_succ] at hr ⊢
    obtain ⟨nd, hnd, hr⟩ := bind_getNode_inv hr
    have hne := hfr.some hnd
    have hv : (virt g s).nodes[n]? = some (virtNode (g n) nd) := by rw [virt_getElem?, hnd]; rfl
    rw [run_bind_ok (run_getNode_some hv)]
    simp only [virtNode_valid, virtNode_createdIn, virtNode_kind]
    by_cases hval : (!nd.valid) = true
    · rw [if_pos hval] at hr ⊢
      rw [run_pure] at hr; cases hr
      exact ⟨g, rfl, hfr, GR.refl _ _⟩
    rw [if_neg hval] at hr ⊢
    obtain ⟨_, sA, hA, hr⟩ := bind_ok_inv hr
    obtain ⟨eA, frA, vmA⟩ := Sim.maybeHandleAfterStabilisation n s hfr _ sA hA
    rw [run_bind_ok eA]
    rw [run_bind_get] at hr ⊢
    rw [virt_stabNum]
    rw [run_bind_modNode] at hr ⊢
    have hE := virt_erase g sA n
      (fun x => { x with value := none, changedAt := sA.stabNum, recomputedAt := sA.stabNum })
      (fun x => { x with value := none, changedAt := sA.stabNum, recomputedAt := sA.stabNum }) (by fcomm)
    rw [← hE]
    have frB : Fr K (eraseG g n) { sA with nodes := sA.nodes.modify n fun x =>
        { x with value := none, changedAt := sA.stabNum, recomputedAt := sA.stabNum } } :=
      fr_modify (frA.eraseG n) n _ (fun _ => ⟨rfl, rfl⟩)
    have vmB : VM sA { sA with nodes := sA.nodes.modify n fun x =>
        { x with value := none, changedAt := sA.stabNum, recomputedAt := sA.stabNum } } :=
      vm_modify sA n _ (by fkind)
    generalize ({ sA with nodes := sA.nodes.modify n fun x =>
        { x with value := none, changedAt := sA.stabNum, recomputedAt := sA.stabNum } } : State) = sB at hr frB vmB ⊢
    suffices hrest : SimXAt K (eraseG g n) sB _ _ by
      obtain ⟨g2, e2, fr2, gr2⟩ := hrest frB r s' hr
      exact ⟨g2, e2, fr2, GR.of_erase (vmA.trans vmB) gr2 hinv⟩
    refine .of_commX ?_
    simx_hyps (eraseG g n) sB
    sim
    all_goals exact (SimX.invCT fuel ih _ _).commX _ _ _ _
set_option hygiene false in
macro_rules | `(tactic| simx_leaf) => `(tactic| with_reducible exact (IncrVerif.Proofs.FullH.SimX.invalidateNode _ _).commX _ _)

theorem SimX.propagateInvalidity (fuel : Nat) :
    SimX K (Engine.propagateInvalidity fuel) (Engine.propagateInvalidity fuel) := by
  induction fuel with
  | zero => intro g s; unfold Engine.propagateInvalidity; exact SimXAt.thr _ _
  | succ fuel ih =>
    intro g s
    refine .of_commX ?_
    simx_hyps g s
    unfold Engine.propagateInvalidity
    refine NodeSim.CommXAt.get_seq ?_
    vnorm
    split
    · exact NodeSim.CommXAt.ret _
    · rename_i n rest hpi
      -- the carried invariant does not speak of the pending invalidations
      refine NodeSim.CommXAt.seq (SimXAt.commX (SimAt.toX (SimAt.mod ?_ ?_)) g s) fun _ _ _ _ => ?_
      · rfl
      · rfl
      sim
      all_goals try simp only [app_shouldBeInvalidated]
      sim
      all_goals first
        | exact (ih).commX _ _ _ _
        | (simp only [NodeSim.Relabel.node_kind?]
           generalize (State.nodeD _ n).kind? = ok
           rcases ok with _ | k
           all_goals try cases k
           all_goals simp only [Option.map_none, Option.map_some, rel_kind, virtKind]
           all_goals sim
           all_goals exact (ih).commX _ _ _ _)
set_option hygiene false in
macro_rules | `(tactic| simx_leaf) => `(tactic| with_reducible exact (IncrVerif.Proofs.FullH.SimX.propagateInvalidity _).commX _ _)

theorem SimX.becameNecessaryPropagate (env : Env) (fuel n : Nat) :
    SimX K (Engine.becameNecessaryPropagate env fuel n) (Engine.becameNecessaryPropagate (virtEnv env sp) fuel n) := by
  intro g s
  refine .of_commX ?_
  simx_hyps g s
  unfold Engine.becameNecessaryPropagate; sim
set_option hygiene false in
macro_rules | `(tactic| simx_leaf) => `(tactic| with_reducible exact (IncrVerif.Proofs.FullH.SimX.becameNecessaryPropagate _ _ _).commX _ _)

theorem SimX.stateAddParent (env : Env) (fuel child index parent : Nat) :
    SimX K (Engine.stateAddParent env fuel child index parent)
      (Engine.stateAddParent (virtEnv env sp) fuel child index parent) := by
  intro g s
  refine .of_commX ?_
  simx_hyps g s
  unfold Engine.stateAddParent; sim
set_option hygiene false in
macro_rules | `(tactic| simx_leaf) => `(tactic| with_reducible exact (IncrVerif.Proofs.FullH.SimX.stateAddParent _ _ _ _ _).commX _ _)

theorem SimX.changeChildBindRhs (env : Env) (fuel main : Nat) (old : Option Nat) (new index : Nat) :
    SimX K (Engine.changeChildBindRhs env fuel main old new index)
      (Engine.changeChildBindRhs (virtEnv env sp) fuel main old new index) := by
  intro g s
  refine .of_commX ?_
  simx_hyps g s
  unfold Engine.changeChildBindRhs
  sim
  sim_kind_at (H (g' := g))
  all_goals (cases old <;> sim)
set_option hygiene false in
macro_rules | `(tactic| simx_leaf) => `(tactic| with_reducible exact (IncrVerif.Proofs.FullH.SimX.changeChildBindRhs _ _ _ _ _ _).commX _ _)

end
end IncrVerif.Proofs.FullH
