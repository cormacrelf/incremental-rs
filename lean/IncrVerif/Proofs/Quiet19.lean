import IncrVerif.Proofs.Quiet18
import IncrVerif.Proofs.Quiet17
import IncrVerif.Proofs.CutH25
/-!
# Part 18: whole histories of static programs (G4)
-/
namespace IncrVerif.Proofs.Quiet
open IncrVerif.Engine IncrVerif.Driver IncrVerif.Proofs IncrVerif.Proofs.Step IncrVerif.Proofs.Sched

/-- every observer in use reads the from-scratch evaluation of its node on the current variable values -/
def ReadsOK (env : Env) (s : State) : Prop :=
  ∀ (o : Nat) (ob : ObsRec), s.observers[o]? = some ob → ob.state = .inUse →
    ∀ k, (s.nodeD ob.node).height.toNat < k →
      ∃ v, s.tryGetValue env o = .ok v ∧ eval env s k ob.node = some v

/-- no observer is waiting to be added or unlinked -/
def ObsSettled (s : State) : Prop :=
  ∀ (o : Nat) (ob : ObsRec), s.observers[o]? = some ob → ob.state = .inUse ∨ ob.state = .unlinked

theorem stabilised_reads {env : Env} {fuel : Nat} {s s' : State} (R : Stabilised env fuel s s') :
    ReadsOK env s' ∧ ObsSettled s' := by
  have O' : CutH.ObsInv s' [] [] := by
    have := ObsInv.toC R.inv.obs
    rw [R.newObservers, R.disallowedObservers] at this
    exact this
  refine ⟨fun o ob ho hst k hk => ?_, O'.settled⟩
  obtain ⟨-, -, -, hv, hs⟩ := R.values ob.node (O'.nec_inUse ho hst) k hk
  obtain ⟨v, hev⟩ := Option.isSome_iff_exists.1 hs
  exact ⟨v, tryGetValue_inUse R.inv.alive R.inv.status ho hst (hv.trans hev), hev⟩

/-- **C05 cone.** In a state satisfying the invariant a node is necessary iff it is in the cone of a linked observer. -/
theorem QInv.nec_iff_cone {env : Env} {s : State} (Q : QInv env s) (n : Nat) :
    s.isNecessary n = true ↔ InCone s n :=
  Quiet.nec_iff_cone Q.struct Q.obs n

/-- the initial state followed by a list of static actions -/
theorem history_q {env : Env} {N : Nat} {d : Bool} {acts : List Action} {s : State} {tk : Array Nat}
    (ha : ∀ a, a ∈ acts → StaticAction env a)
    (h : runActions env acts (State.init N d) #[] = .ok (s, tk)) : QInv env s :=
  runActions_q (qinv_init env N d) ha h

/-- **G4: every state reached.** If a history of static actions runs (without panic) from the initial state,
then every prefix runs, and the state it reaches satisfies the invariant. -/
theorem history_prefix {env : Env} {N : Nat} {d : Bool} {as bs : List Action} {s : State} {tk : Array Nat}
    (ha : ∀ a, a ∈ as ++ bs → StaticAction env a)
    (h : runActions env (as ++ bs) (State.init N d) #[] = .ok (s, tk)) :
    ∃ s1 tk1, runActions env as (State.init N d) #[] = .ok (s1, tk1) ∧ QInv env s1 ∧
      runActions env bs s1 tk1 = .ok (s, tk) := by
  obtain ⟨s1, tk1, h1, h2⟩ := runActions_prefix h
  exact ⟨s1, tk1, h1, history_q (fun a hm => ha a (List.mem_append_left _ hm)) h1, h2⟩

/-- **G4: every `stabilise` of a history.** At each `stabilise` action of a history of static actions that runs
from the initial state: the state `s1` before it satisfies the invariant; the `stabilise` returns a state `s2`
with all the conclusions of `stabilise_q` (invariant, nothing pending, variables unchanged, every necessary node
non-stale and equal to its from-scratch evaluation, the drain ran no node twice and only necessary nodes);
every observer in use reads the from-scratch evaluation of its node on the current variable values; every
observer is in use or unlinked; and a node is necessary iff it is in the cone of an observer in use. -/
theorem history_stabilise {env : Env} {N : Nat} {d : Bool} {as bs : List Action} {s : State}
    {tk : Array Nat} (ha : ∀ a, a ∈ as ++ Action.stabilise :: bs → StaticAction env a)
    (h : runActions env (as ++ Action.stabilise :: bs) (State.init N d) #[] = .ok (s, tk)) :
    ∃ s1 tk1 s2, runActions env as (State.init N d) #[] = .ok (s1, tk1) ∧ QInv env s1 ∧
      (stabilise env fuelDefault).run.run s1 = (.ok (), s2) ∧ Stabilised env fuelDefault s1 s2 ∧
      ReadsOK env s2 ∧ ObsSettled s2 ∧ (∀ n, s2.isNecessary n = true ↔ InCone s2 n) ∧
      runActions env bs s2 tk1 = .ok (s, tk) := by
  obtain ⟨s1, tk1, s2, h1, Q1, hst, -, h2⟩ :=
    Hist.runActions_stabilise_all (fun _ _ _ _ _ Q ha hx => step_q Q ha hx) (qinv_init env N d) ha h
  have R := stabilise_q Q1 hst
  obtain ⟨hr, hos⟩ := stabilised_reads R
  exact ⟨s1, tk1, s2, h1, Q1, hst, R, hr, hos, R.inv.nec_iff_cone, h2⟩

end IncrVerif.Proofs.Quiet
