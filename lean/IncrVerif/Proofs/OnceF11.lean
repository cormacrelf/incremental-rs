import IncrVerif.Proofs.Footprint
/-!
# C02, combined fragment, part 11: THE VALUE FRAME — one `recomputeOne env fuel n` changes the stored value of no other existing node, except to erase it

`VR n s s'`: no node disappears, and every existing node `m ≠ n` stores in `s'` what it stored in `s`, or nothing (`invalidateNode` erases the value of a dying node).
`VR n` is kept by every function reachable from `recomputeOne env fuel n` — ALL kinds of nodes, whatever the outcome of the call — and `VR k` (any `k`) by every function that
stores no value, because every primitive write of the engine keeps it (`VR.of_edit`): the only writes of a `value` field are `maybe_change_value` and the map_ref / map_with_old
branches of `recompute_one` (on the node itself: `Foot (· = n)`), `invalidate_node` (`value := none`), and node creation (new nodes).
-/
open IncrVerif.Engine IncrVerif.Proofs IncrVerif.Proofs.Step IncrVerif.Proofs.Footprint
namespace IncrVerif.Proofs.OnceF

/-- every existing node other than `n` keeps its stored value or loses it -/
structure VR (n : Nat) (s s' : State) : Prop where
  size : s.nodes.size ≤ s'.nodes.size
  value : ∀ m, m ≠ n → m < s.nodes.size → (s'.nodeD m).value = (s.nodeD m).value ∨ (s'.nodeD m).value = none

instance (n : Nat) : PreOrd (VR n) where
  refl _ := ⟨Nat.le_refl _, fun _ _ _ => Or.inl rfl⟩
  trans h1 h2 := by
    refine ⟨Nat.le_trans h1.size h2.size, fun m hm hlt => ?_⟩
    rcases h2.value m hm (Nat.lt_of_lt_of_le hlt h1.size) with e | e
    · rw [e]; exact h1.value m hm hlt
    · exact Or.inr e

theorem VR.of_edit {n : Nat} {L} {w : Nat → Prop} (hw : ∀ m, w m → m = n) {s s' : State} (e : Edit L w s s') : VR n s s' :=
  ⟨e.size_le, fun m hm hlt => e.value_or_none (fun h => hm (hw m h)) hlt⟩

theorem VR.of_foot {n : Nat} {L} {α} {m : M α} (hm : Foot L (· = n) m) : Step.Pres (VR n) m :=
  hm.lift (VR.of_edit fun _ h => h)

theorem PresV.setHeight (n0 : Nat) (n h) : Step.Pres (VR n0) (setHeight n h) :=
  VR.of_foot (Foot.setHeight n h)
theorem PresV.ensureHeightRequirement (n0 : Nat) (a b c d) : Step.Pres (VR n0) (ensureHeightRequirement a b c d) :=
  VR.of_foot (Foot.ensureHeightRequirement a b c d)
theorem PresV.adjustHeights (n0 : Nat) (oc op fuel) : Step.Pres (VR n0) (adjustHeights oc op fuel) :=
  VR.of_foot (Foot.adjustHeights oc op fuel)
theorem PresV.addParent (n0 : Nat) (a b c) : Step.Pres (VR n0) (addParent a b c) :=
  VR.of_foot (Foot.addParent a b c)
theorem PresV.removeParent (n0 : Nat) (a b c) : Step.Pres (VR n0) (removeParent a b c) :=
  VR.of_foot (Foot.removeParent a b c)
theorem PresV.handleAfterStabilisation (n0 : Nat) (n) : Step.Pres (VR n0) (handleAfterStabilisation n) :=
  VR.of_foot (Foot.handleAfterStabilisation n)
theorem PresV.shouldCutoff (n0 : Nat) (env n o v) : Step.Pres (VR n0) (shouldCutoff env n o v) :=
  VR.of_foot (Foot.shouldCutoff env n o v)
theorem PresV.markMapRefUnknown (n0 : Nat) (fuel n) : Step.Pres (VR n0) (markMapRefUnknown fuel n) :=
  VR.of_foot (Foot.markMapRefUnknown fuel n)

theorem PresV.necessary (n0 : Nat) (env : Env) (fuel : Nat) :
    (∀ n, Step.Pres (VR n0) (becameNecessary env fuel n)) ∧
    (∀ c i p, Step.Pres (VR n0) (addParentWithoutAdjustingHeights env fuel c i p)) :=
  ⟨fun n => VR.of_foot (Foot.becameNecessary env fuel n),
   fun c i p => VR.of_foot (Foot.addParentWithoutAdjustingHeights env fuel c i p)⟩
theorem PresV.becameNecessary (n0 : Nat) (env fuel n) : Step.Pres (VR n0) (becameNecessary env fuel n) :=
  (PresV.necessary n0 env fuel).1 n
theorem PresV.addParentWithoutAdjustingHeights (n0 : Nat) (env fuel c i p) :
    Step.Pres (VR n0) (addParentWithoutAdjustingHeights env fuel c i p) := (PresV.necessary n0 env fuel).2 c i p
theorem PresV.unnecessary (n0 : Nat) (fuel : Nat) :
    (∀ n, Step.Pres (VR n0) (becameUnnecessary fuel n)) ∧ (∀ n, Step.Pres (VR n0) (checkIfUnnecessary fuel n)) ∧
    (∀ n, Step.Pres (VR n0) (removeChildren fuel n)) :=
  ⟨fun n => VR.of_foot (Foot.becameUnnecessary fuel n), fun n => VR.of_foot (Foot.checkIfUnnecessary fuel n),
   fun n => VR.of_foot (Foot.removeChildren fuel n)⟩
theorem PresV.becameUnnecessary (n0 : Nat) (fuel n) : Step.Pres (VR n0) (becameUnnecessary fuel n) :=
  (PresV.unnecessary n0 fuel).1 n
theorem PresV.checkIfUnnecessary (n0 : Nat) (fuel n) : Step.Pres (VR n0) (checkIfUnnecessary fuel n) :=
  (PresV.unnecessary n0 fuel).2.1 n
theorem PresV.removeChildren (n0 : Nat) (fuel n) : Step.Pres (VR n0) (removeChildren fuel n) :=
  (PresV.unnecessary n0 fuel).2.2 n
theorem PresV.invalidateNode (n0 : Nat) (fuel n) : Step.Pres (VR n0) (invalidateNode fuel n) :=
  VR.of_foot (Foot.invalidateNode fuel n)
theorem PresV.propagateInvalidity (n0 : Nat) (fuel) : Step.Pres (VR n0) (propagateInvalidity fuel) :=
  VR.of_foot (Foot.propagateInvalidity fuel)
theorem PresV.changeChildBindRhs (n0 : Nat) (env fuel m o nw i) :
    Step.Pres (VR n0) (changeChildBindRhs env fuel m o nw i) :=
  VR.of_foot (Foot.changeChildBindRhs env fuel m o nw i)
theorem PresV.assertRunningIsChild (n0 : Nat) (n name) : Step.Pres (VR n0) (assertRunningIsChild n name) :=
  VR.of_foot (Foot.assertRunningIsChild n name)
theorem PresV.expertAddDependency (n0 : Nat) (env fuel n c cb) :
    Step.Pres (VR n0) (expertAddDependency env fuel n c cb) :=
  VR.of_foot (Foot.expertAddDependency env fuel n c cb)

theorem PresV.elabInstr (n0 : Nat) (loc v i) : Step.Pres (VR n0) (elabInstr loc v i) :=
  VR.of_foot (Foot.elabInstr loc v i)
theorem PresV.didSetVarWhileNotStabilising (n0 : Nat) (v) : Step.Pres (VR n0) (didSetVarWhileNotStabilising v) :=
  VR.of_foot (Foot.didSetVarWhileNotStabilising v)
theorem PresV.writeVar (n0 : Nat) (v f b) : Step.Pres (VR n0) (writeVar v f b) :=
  VR.of_foot (Foot.writeVar v f b)

theorem PresV.parentIterCanRecomputeNow (n0 : Nat) (p c) : Step.Pres (VR n0) (parentIterCanRecomputeNow p c) :=
  VR.of_foot (Foot.parentIterCanRecomputeNow p c)
theorem PresV.maybeChangeValue (env fuel n v) : Step.Pres (VR n) (maybeChangeValue env fuel n v) :=
  VR.of_foot (Foot.maybeChangeValue env fuel n v)
theorem PresV.recomputeOne (env fuel n) : Step.Pres (VR n) (recomputeOne env fuel n) :=
  VR.of_foot (Foot.recomputeOne env fuel n)
theorem PresV.rchRemoveMin (n0 : Nat) : Step.Pres (VR n0) rchRemoveMin :=
  VR.of_foot Foot.rchRemoveMin

end IncrVerif.Proofs.OnceF
