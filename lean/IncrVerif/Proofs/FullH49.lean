import IncrVerif.Proofs.FullH14
import IncrVerif.Proofs.FullH13
import IncrVerif.Proofs.FullH37
import IncrVerif.Proofs.Footprint
/-!
# C01 full fragment, API actions, part 1: what the API actions other than `stabilise` do to the nodes of the ACTUAL state (`AFrame`)

No `aCore` field of an existing node changes (stamps included), the new nodes are isolated and store no value, cutoffs are only ever reset to
`.eq` / `.never` (the `cutoff` action), `panicCountdown` is the same.  Every primitive write of the engine other than those of these fields keeps
`AFrame` (`AFrame.of_edit`); the cutoff write keeps it when the new cutoff is `.eq` or `.never`, which is a fact about the instruction (`PresA.elabCutoff`).
-/
namespace IncrVerif.Proofs.FullH
open IncrVerif.Engine IncrVerif.Driver IncrVerif.Proofs IncrVerif.Proofs.Step IncrVerif.Proofs.Sched IncrVerif.Proofs.Quiet
open IncrVerif.Proofs.MapOldH (enc dec WId dec_enc MReach GoodMachine)
open IncrVerif.Proofs.Footprint

namespace AP

/-- the fields of an existing node no API action other than `stabilise` changes -/
def aCore (nd : Node) :=
  (nd.kind, nd.valid, nd.value, nd.didChange, nd.parents, nd.observers, nd.forceNecessary, nd.oldState, nd.changedAt,
    nd.recomputedAt)

/-- how the cutoff of an existing node may change: it is kept, or reset to `.eq` / `.never` (never set to `.dependOn _`) -/
def CutStep (c c' : CutoffK) : Prop := c' = c ∨ c' = .eq ∨ c' = .never

theorem CutStep.refl (c : CutoffK) : CutStep c c := Or.inl rfl
theorem CutStep.trans {a b c : CutoffK} (h1 : CutStep a b) (h2 : CutStep b c) : CutStep a c := by
  rcases h2 with e | e
  · rw [e]; exact h1
  · exact Or.inr e

structure AFrame (s s' : State) : Prop where
  sizeLe : s.nodes.size ≤ s'.nodes.size
  node : ∀ n, n < s.nodes.size → aCore (s'.nodeD n) = aCore (s.nodeD n)
  cut : ∀ n, n < s.nodes.size → CutStep (s.nodeD n).cutoff (s'.nodeD n).cutoff
  /-- new nodes are isolated and store nothing -/
  fresh : ∀ n, s.nodes.size ≤ n → s'.isNecessary n = false ∧ (s'.nodeD n).value = none ∧ (s'.nodeD n).oldState = .unit ∧
    (s'.nodeD n).changedAt = -1
  pc : s'.panicCountdown = s.panicCountdown

theorem value_default_of_ge (s : State) (n : Nat) (h : s.nodes.size ≤ n) :
    (s.nodeD n).value = none ∧ (s.nodeD n).oldState = .unit ∧ (s.nodeD n).changedAt = -1 := by
  rw [nodeD_default_of_ge s n h]; exact ⟨rfl, rfl, rfl⟩

theorem isNecessary_of_aCore {a b : Node} (h : aCore a = aCore b) : a.isNecessary = b.isNecessary := by
  simp only [aCore, Prod.mk.injEq] at h
  simp [Node.isNecessary, h.2.2.2.2.1, h.2.2.2.2.2.1, h.2.2.2.2.2.2.1]

theorem value_of_aCore {a b : Node} (h : aCore a = aCore b) :
    a.value = b.value ∧ a.oldState = b.oldState ∧ a.changedAt = b.changedAt := by
  simp only [aCore, Prod.mk.injEq] at h
  exact ⟨h.2.2.1, h.2.2.2.2.2.2.2.1, h.2.2.2.2.2.2.2.2.1⟩

theorem AFrame.refl (s : State) : AFrame s s :=
  ⟨Nat.le_refl _, fun _ _ => rfl, fun _ _ => CutStep.refl _, fun n h => ⟨MapRefH.isNecessary_default_of_ge s n h, value_default_of_ge s n h⟩, rfl⟩

theorem AFrame.trans {a b c : State} (h1 : AFrame a b) (h2 : AFrame b c) : AFrame a c := by
  refine ⟨Nat.le_trans h1.sizeLe h2.sizeLe, fun n hn => ?_, fun n hn => ?_, fun n hn => ?_, h2.pc.trans h1.pc⟩
  · exact (h2.node n (Nat.lt_of_lt_of_le hn h1.sizeLe)).trans (h1.node n hn)
  · exact (h1.cut n hn).trans (h2.cut n (Nat.lt_of_lt_of_le hn h1.sizeLe))
  · by_cases hb : n < b.nodes.size
    · have := h1.fresh n hn
      unfold State.isNecessary at this ⊢
      rw [isNecessary_of_aCore (h2.node n hb), (value_of_aCore (h2.node n hb)).1, (value_of_aCore (h2.node n hb)).2.1,
        (value_of_aCore (h2.node n hb)).2.2]; exact this
    · exact h2.fresh n (by omega)

instance : Step.PreOrd AFrame := ⟨AFrame.refl, AFrame.trans⟩

theorem AFrame.of_nodes {s s' : State} (h1 : s'.nodes = s.nodes)
    (h2 : s'.panicCountdown = s.panicCountdown) : AFrame s s' := by
  have hnd : ∀ m, s'.nodeD m = s.nodeD m := fun m => by simp [State.nodeD, h1]
  refine ⟨by rw [h1]; exact Nat.le_refl _, fun n _ => by rw [hnd], fun n _ => by rw [hnd]; exact CutStep.refl _, fun n hn => ?_, h2⟩
  unfold State.isNecessary; rw [hnd]; exact ⟨MapRefH.isNecessary_default_of_ge s n hn, value_default_of_ge s n hn⟩

theorem AFrame.modNode (s : State) (n : Nat) (f : Node → Node)
    (hf : ∀ x, aCore (f x) = aCore x ∧ CutStep x.cutoff (f x).cutoff) :
    AFrame s { s with nodes := s.nodes.modify n f } := by
  refine ⟨by simp, fun m _ => ?_, fun m _ => ?_, fun m hm => ?_, rfl⟩
  · rw [nodeD_modify]; split
    · exact (hf _).1
    · rfl
  · rw [nodeD_modify]; split
    · exact (hf _).2
    · exact CutStep.refl _
  · unfold State.isNecessary
    rw [nodeD_modify, if_neg (fun e => by omega)]
    exact ⟨MapRefH.isNecessary_default_of_ge s m hm, value_default_of_ge s m hm⟩

theorem AFrame.push (s : State) (nd : Node) (hp : nd.parents = []) (ho : nd.observers = [])
    (hf : nd.forceNecessary = false) (hv : nd.value = none) (hs : nd.oldState = .unit) (hc : nd.changedAt = -1) :
    AFrame s { s with nodes := s.nodes.push nd } := by
  have hold : ∀ m, m < s.nodes.size → ({ s with nodes := s.nodes.push nd } : State).nodeD m = s.nodeD m := by
    intro m hm
    simp only [State.nodeD, Array.getElem?_push]
    rw [if_neg (by omega)]
  refine ⟨by simp, fun m hm => ?_, fun m hm => ?_, fun m hm => ?_, rfl⟩
  · rw [hold m hm]
  · rw [hold m hm]; exact CutStep.refl _
  · unfold State.isNecessary State.nodeD
    simp only [Array.getElem?_push]
    split
    · simp [Node.isNecessary, hp, ho, hf, hv, hs, hc]
    · have : s.nodes[m]? = none := Array.getElem?_eq_none (by omega)
      rw [this]; exact ⟨rfl, rfl, rfl, rfl⟩

/-- the writes that keep `AFrame` are all but those of an `aCore` field or the cutoff of an existing node and of `panicCountdown`; a pushed
node is isolated and stores nothing -/
theorem AFrame.of_edit {L w}
    (hL : ∀ t ∈ L, t ∉ [Tag.nCutoff, .nChangedAt, .nParents, .nForceNecessary, .nDidChange, .nObservers, .nInvalid, .vClear, .vClearRef,
      .vStore, .vStoreOld, .stamp, .erase, .panicCountdown, .arm]) {s s' : State} (e : Edit L w s s') : AFrame s s' := by
  cases e
  case node n f hf =>
    exact AFrame.modNode s n f fun x => by cases hf <;> first | exact ⟨rfl, Or.inl rfl⟩ | exact absurd (hL _ ‹_›) (by decide)
  case value n hn f hf => cases hf <;> exact absurd (hL _ ‹_›) (by decide)
  case pushNode k sc c _ => exact AFrame.push s _ rfl rfl rfl rfl rfl rfl
  case stamp | erase | panicCountdown | arm => exact absurd (hL _ ‹_›) (by decide)
  all_goals exact AFrame.of_nodes rfl rfl

theorem PresA.createNode (k sc c) : Step.Pres AFrame (Engine.createNode k sc c) :=
  (Foot.createNode k sc c).frame (AFrame.of_edit (by decide))
theorem PresA.createVar (v sc) : Step.Pres AFrame (Engine.createVar v sc) :=
  (Foot.createVar v sc).frame (AFrame.of_edit (by decide))
theorem PresA.createBind (b l) : Step.Pres AFrame (Engine.createBind b l) :=
  (Foot.createBind b l).frame (AFrame.of_edit (by decide))
theorem PresA.resolveOpnd (loc o) : Step.Pres AFrame (Engine.resolveOpnd loc o) :=
  (Foot.resolveOpnd loc o).frame (AFrame.of_edit (by decide))
theorem PresA.isConstant (n) : Step.Pres AFrame (Engine.isConstant n) :=
  (Foot.isConstant n).frame (AFrame.of_edit (by decide))

local macro_rules
  | `(tactic| qleaf) =>
    `(tactic| with_reducible first
      | apply PresA.createNode | apply PresA.createVar | apply PresA.createBind | apply PresA.resolveOpnd | apply PresA.isConstant)

theorem PresA.elabInstr {env : Env} {sp : Nat → Val → Val} (loc : List Nat) (v : Val) {i : Instr}
    (h : InstrS env sp i) : Step.Pres AFrame (Engine.elabInstr loc v i) := by
  unfold Engine.elabInstr
  cases i <;> simp only [InstrS] at h <;> qpres

/-- the `cutoff` instruction: the cutoff of the target is reset to `.eq` / `.never` -/
theorem PresA.elabCutoff (loc : List Nat) (v : Val) (n : Opnd) {c : CutoffK} (hc : c = .eq ∨ c = .never) :
    Step.Pres AFrame (Engine.elabInstr loc v (.cutoff n c)) := by
  unfold Engine.elabInstr
  simp only []
  exact Step.Pres.bind Step.Pres.get fun _ => Step.Pres.bind (PresA.resolveOpnd _ _) fun m =>
    Step.Pres.bind (Step.Pres.modify fun s => AFrame.modNode s m _ fun x => ⟨rfl, Or.inr hc⟩) fun _ => Step.Pres.pure _

theorem PresA.elabInstrM {env : Env} {sp : Nat → Val → Val} (env' : Env) (loc : List Nat) (v : Val) {i : Instr}
    (h : InstrS env sp i) : Step.Pres AFrame (Engine.elabInstrM env' loc v i) := by
  rw [elabInstrM_eq _ _ _ h]; exact PresA.elabInstr loc v h

theorem PresA.getVar (v) : Step.Pres AFrame (Engine.getVar v) := Step.Pres.getVar v
theorem PresA.didSetVarWhileNotStabilising (v) : Step.Pres AFrame (Engine.didSetVarWhileNotStabilising v) :=
  (Foot.didSetVarWhileNotStabilising v).frame (AFrame.of_edit (by decide))
theorem PresA.writeVar (v f b) : Step.Pres AFrame (Engine.writeVar v f b) :=
  (Foot.writeVar v f b).frame (AFrame.of_edit (by decide))

theorem PresA.discard {α} {x : M α} (h : Step.Pres AFrame x) : Step.Pres AFrame (discard x) := by
  unfold Functor.discard; exact Step.Pres.map _ h

/-- the API actions whose frame is `AFrame`: all of the full fragment but `stabilise` (creation: the simulated instructions, and the `cutoff` action) -/
def AAction (env : Env) (sp : Nat → Val → Val) : Action → Prop
  | .create i => InstrS env sp i ∨ ∃ n c, i = .cutoff n c ∧ (c = .eq ∨ c = .never)
  | .observe _ => True
  | .cloneObs _ | .dropObs _ | .disallow _ => True
  | .set _ _ | .modify _ _ | .update _ _ | .replace _ _ | .replaceWith _ _ | .get _ => True
  | .isStable | .stats => True
  | _ => False

theorem PresA.stepAction {env : Env} {sp : Nat → Val → Val} (a : Action) (tk : Array Nat) (h : AAction env sp a) :
    Step.Pres AFrame (Engine.stepAction env a tk) := by
  cases a <;> simp only [AAction] at h
  case create i =>
    have hi : Step.Pres AFrame (Engine.elabInstrM env [] .unit i) := by
      rcases h with h | ⟨n, c, rfl, hc⟩
      · exact PresA.elabInstrM env [] .unit h
      · exact PresA.elabCutoff [] .unit n hc
    unfold Engine.stepAction
    refine Step.Pres.bind hi fun r => ?_
    cases r
    · exact Step.Pres.pure _
    · exact Step.Pres.bind (Step.Pres.modify fun _ => AFrame.of_nodes rfl rfl) fun _ => Step.Pres.pure _
  all_goals
    exact (Foot.stepAction env _ tk).lift fun e => by
      cases e with
      | engine e => exact AFrame.of_edit (by simp only [W.stepAction]; decide) e
      | _ => exact AFrame.of_nodes rfl rfl

end AP
end IncrVerif.Proofs.FullH
