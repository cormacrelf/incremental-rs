import IncrVerif.Proofs.TidyH51
import IncrVerif.Proofs.TidyH49
/-!
# T4, part 5: every valid action of fragment X1 RETURNS; valid runs never panic
-/
namespace IncrVerif.Proofs.TidyH.XT
open IncrVerif.Engine IncrVerif.Driver IncrVerif.Proofs IncrVerif.Proofs.Step IncrVerif.Proofs.Sched
open IncrVerif.Proofs.ExpertH IncrVerif.Proofs.ExpertH.QR IncrVerif.Proofs.TidyH.XT.XR

theorem resolve_outer_run {s : State} {k : Nat} (hk : k < s.top.size) :
    (resolveOpnd [] (.outer k)).run.run s = (.ok s.top[k], s) := by
  unfold resolveOpnd
  simp only
  rw [run_bind_get, Array.getElem?_eq_getElem hk]
  rfl

/-- the sizes after an action of X1 (`addDep`, `stabilise`: unchanged) -/
def GrownX (a : Action) (s s' : State) : Prop :=
  s'.nodes.size = s.nodes.size + (grow a).1 ∧ s'.vars.size = s.vars.size + (grow a).2.1 ∧
    s'.observers.size = s.observers.size + (grow a).2.2

/-- **`addDep` returns** (action level) -/
theorem addDep_action_totalX {env : Env} {rk : Nat → Nat} {N : Nat} {s : State} {eo co : Opnd}
    {cb : Bool} {tk : Array Nat} (Q : QInvX env rk s) (T : TInvX N s) (ha : AddDepOK s eo co)
    (hok : ActionOKx N s (.addDep eo co cb)) :
    ∃ r s', (stepAction env (.addDep eo co cb) tk).run.run s = (.ok r, s') ∧ r.2 = tk ∧
      (∃ rk', QInvX env rk' s') ∧ TInvX N s' ∧ GrownX (.addDep eo co cb) s s' := by
  obtain ⟨h1, h2, hfuel⟩ := hok
  cases eo <;> try exact ha.elim
  rename_i kn
  cases co <;> try exact ha.elim
  rename_i kc
  have hkn : kn < s.top.size := h1
  have hkc : kc < s.top.size := h2
  have hn : s.top[kn]? = some s.top[kn] := Array.getElem?_eq_getElem hkn
  have hc : s.top[kc]? = some s.top[kc] := Array.getElem?_eq_getElem hkc
  obtain ⟨⟨e, hk⟩, hacyc⟩ := ha _ _ hn hc
  have hnlt : s.top[kn] < s.nodes.size := Q.frag.lt_of_expert hk
  have hclt : s.top[kc] < s.nodes.size := by
    have := Q.q.top kc _ hc; rwa [virt_size] at this
  obtain ⟨er, hx, -⟩ := Q.frag.xrec _ e hnlt hk
  have hX : Xp.IsExpert s s.top[kn] (s.nodeD s.top[kn]) e er :=
    ⟨some_of_lt hnlt, Q.frag.valid _ hnlt, hk, hx⟩
  obtain ⟨dep, s', hrun, Q', T', z1, z2, z3, -⟩ := addDep_totalX (cb := cb) Q T hX hclt hacyc hfuel
  refine ⟨(s!"ok d{dep}", tk), s', ?_, rfl, Q', T', ?_⟩
  · unfold stepAction
    dsimp only
    rw [run_bind_ok (resolve_outer_run hkn), run_bind_ok (resolve_outer_run hkc), run_bind_ok hrun, run_pure]
  · exact ⟨by rw [z1]; rfl, by rw [z2]; rfl, by rw [z3]; rfl⟩

theorem step_stabilise_total {env : Env} {rk : Nat → Nat} {N : Nat} {s : State} {tk : Array Nat}
    (Q : QInvX env rk s) (T : TInvX N s) (hok : ActionOKx N s .stabilise) :
    ∃ r s', (stepAction env .stabilise tk).run.run s = (.ok r, s') ∧ r.2 = tk ∧
      (∃ rk', QInvX env rk' s') ∧ TInvX N s' ∧ GrownX .stabilise s s' := by
  obtain ⟨s', hrun, T', z1, z2, z3⟩ := stabilise_totalX Q T (fuel := fuelDefault) hok
  refine ⟨("ok", tk), s', ?_, rfl, ⟨rk, (stabiliseX Q hrun).inv⟩, T', ?_⟩
  · unfold stepAction
    dsimp only
    rw [run_bind_ok hrun, run_pure]
  · exact ⟨by rw [z1]; rfl, by rw [z2]; rfl, by rw [z3]; rfl⟩

/-- **every valid action of fragment X1 returns and keeps both invariants** (`addDep` may change the rank) -/
theorem step_totalX {env : Env} {rk : Nat → Nat} {N : Nat} {s : State} {a : Action}
    {tk : Array Nat} (Q : QInvX env rk s) (T : TInvX N s) (ha : XActionOK env s a) (hok : ActionOKx N s a) :
    ∃ r s', (stepAction env a tk).run.run s = (.ok r, s') ∧ r.2 = tk ∧ (∃ rk', QInvX env rk' s') ∧ TInvX N s' ∧
      GrownX a s s' := by
  have stat : ∀ (a : Action), XStaticAction env a → ActionOKs N s a →
      ∃ r s', (stepAction env a tk).run.run s = (.ok r, s') ∧ r.2 = tk ∧ (∃ rk', QInvX env rk' s') ∧ TInvX N s' ∧
        GrownX a s s' := by
    intro a ha hok
    obtain ⟨r, s', h, hr, Q', T', g⟩ := static_step_totalX (tk := tk) Q T ha hok
    exact ⟨r, s', h, hr, ⟨rk, Q'⟩, T', g⟩
  cases a
  case create i =>
    cases i
    case expert f =>
      obtain ⟨r, s', h, hr, Q', T', g⟩ := create_expert_totalX (tk := tk) Q T ha.1 ha.2 hok.2
      exact ⟨r, s', h, hr, ⟨rk, Q'⟩, T', g⟩
    all_goals exact stat _ ha hok
  case addDep eo co cb => exact addDep_action_totalX Q T ha hok
  case stabilise => exact step_stabilise_total Q T hok
  all_goals exact stat _ ha (by first | exact hok | trivial)

/-- **valid runs never panic**: from a state satisfying the invariants, a valid run of fragment X1 returns -/
theorem run_totalX {env : Env} {N : Nat} : ∀ {acts : List Action} {rk : Nat → Nat} {s : State}
    {tk : Array Nat}, QInvX env rk s → TInvX N s → ValidRun env N acts s tk →
    ∃ s' tk', runActions env acts s tk = .ok (s', tk') ∧ (∃ rk', QInvX env rk' s') ∧ TInvX N s'
  | [], rk, s, tk, Q, T, _ => ⟨s, tk, rfl, ⟨rk, Q⟩, T⟩
  | a :: as, rk, s, tk, Q, T, hv => by
    obtain ⟨r, s1, h, -, ⟨rk1, Q1⟩, T1, -⟩ := step_totalX (tk := tk) Q T hv.1 hv.2.1
    obtain ⟨s', tk', h', Q', T'⟩ := run_totalX Q1 T1 (hv.2.2 r s1 h)
    refine ⟨s', tk', ?_, Q', T'⟩
    simp only [runActions, h]
    exact h'

theorem tinvX_init (N : Nat) (d : Bool) : TInvX N (State.init N d) := by
  unfold TInvX
  rw [virt_init]
  refine ⟨fun m hm _ => ?_, ⟨?_, ?_, Nat.zero_le _⟩, fun c vc hc => ?_, rfl, List.nodup_nil,
    fun o ob ho => by cases ho⟩
  · have := nec_lt_size hm
    exact absurd this (Nat.not_lt_zero _)
  · simp [State.init, mkHeap, Heap.maxAllowed]
  · simp [State.init, mkHeap, Heap.maxAllowed]
  · simp [State.init] at hc

end IncrVerif.Proofs.TidyH.XT
