import IncrVerif.Proofs.NestH106
/-!
# Total correctness for nested binds (F2), part i2: the ingredients of the history theorem

* `T2i.stepAction_size`: the node count only grows in an API action (every action, every outcome);
* `T2i.RFrame`: what `RhsRan` reads (bind table, validity and `recomputedAt` of the nodes); kept by the simple actions (`T2i.PresR.stepAction`: observer actions,
  writes, read-only actions — every outcome);
* `step_rhsRan2`: `RhsRan` is kept by every action of F2 other than `stabilise` (`create`: the new nodes are pristine — `recomputedAt = -1` —, a new bind record
  has a new change detector; old records and old nodes are untouched: `C2c.Ext`);
* `runS`: `Quiet.runActions` that also returns the state reached when an action panics; `runS_none_iff`, `runS_some_iff`, `runS_size`;
* `ActionIdx`, `ValidIdx`: the indices named by the actions of a history exist, in terms of the statically known numbers of naming-table entries, var cells,
  observers (no room condition; the node count is not tracked).
-/
namespace IncrVerif.Proofs.NestH
open IncrVerif.Engine IncrVerif.Driver IncrVerif.Proofs IncrVerif.Proofs.Step IncrVerif.Proofs.Sched IncrVerif.Proofs.Quiet
open IncrVerif.Proofs.BindH

namespace T2i

/-! ## the node count only grows -/

/-- every API action, every outcome: no node is removed -/
theorem PresMono.stepAction (env : Env) (a : Action) (tokens : Array Nat) : Step.Pres Inval.Mono (stepAction env a tokens) := by
  cases a <;> (simp only [Engine.stepAction]; mpres)

theorem stepAction_size {env : Env} {a : Action} {tk : Array Nat} {s s' : State} {r : Except Panic (String × Array Nat)}
    (h : (stepAction env a tk).run.run s = (r, s')) : s.nodes.size ≤ s'.nodes.size :=
  ((PresMono.stepAction env a tk).h s r s' h).size

/-! ## what `RhsRan` reads -/

structure RFrame (s s' : State) : Prop where
  binds : s'.binds = s.binds
  valid : ∀ m, (s'.nodeD m).valid = (s.nodeD m).valid
  recomputedAt : ∀ m, (s'.nodeD m).recomputedAt = (s.nodeD m).recomputedAt

theorem RFrame.refl (s : State) : RFrame s s := ⟨rfl, fun _ => rfl, fun _ => rfl⟩

theorem RFrame.trans {a b c : State} (h1 : RFrame a b) (h2 : RFrame b c) : RFrame a c :=
  ⟨h2.binds.trans h1.binds, fun m => (h2.valid m).trans (h1.valid m), fun m => (h2.recomputedAt m).trans (h1.recomputedAt m)⟩

instance : PreOrd RFrame := ⟨RFrame.refl, RFrame.trans⟩

theorem RFrame.of_nodes {s s' : State} (h1 : s'.nodes = s.nodes) (h2 : s'.binds = s.binds) : RFrame s s' := by
  have hD : ∀ m, s'.nodeD m = s.nodeD m := fun m => by simp only [State.nodeD, h1]
  exact ⟨h2, fun m => by rw [hD], fun m => by rw [hD]⟩

theorem RFrame.modNode (s : State) (n : Nat) (f : Node → Node) (hf : ∀ x, (f x).valid = x.valid ∧ (f x).recomputedAt = x.recomputedAt) :
    RFrame s { s with nodes := s.nodes.modify n f } := by
  refine ⟨rfl, fun m => ?_, fun m => ?_⟩
  · rw [nodeD_modify]; split
    · exact (hf _).1
    · rfl
  · rw [nodeD_modify]; split
    · exact (hf _).2
    · rfl

theorem RFrame.rhsRan {s s' : State} (F : RFrame s s') (H : RhsRan s) : RhsRan s' :=
  rhsRan_congr H F.binds F.valid F.recomputedAt

theorem PresR.modNode (n : Nat) (f : Node → Node) (hf : ∀ x, (f x).valid = x.valid ∧ (f x).recomputedAt = x.recomputedAt) :
    Step.Pres RFrame (modNode n f) := by
  unfold Engine.modNode; exact Step.Pres.modify fun s => RFrame.modNode s n f hf

macro_rules
  | `(tactic| qleaf) =>
    `(tactic| ((with_reducible apply Step.Pres.modify); intro _; exact RFrame.of_nodes rfl rfl))
macro_rules
  | `(tactic| qleaf) => `(tactic| ((with_reducible apply PresR.modNode); intro _; exact ⟨rfl, rfl⟩))

/-- register a `Pres RFrame` lemma as a leaf -/
macro "rf_leaf " n:ident : command =>
  `(macro_rules | `(tactic| qleaf) => `(tactic| with_reducible apply $n))

theorem PresR.bumpCounter (f) : Step.Pres RFrame (bumpCounter f) := by unfold Engine.bumpCounter; qpres
rf_leaf PresR.bumpCounter
theorem PresR.modVar (b f) : Step.Pres RFrame (modVar b f) := by unfold Engine.modVar; qpres
rf_leaf PresR.modVar
theorem PresR.modObs (b f) : Step.Pres RFrame (modObs b f) := by unfold Engine.modObs; qpres
rf_leaf PresR.modObs
theorem PresR.rchLink (n) : Step.Pres RFrame (rchLink n) := by unfold Engine.rchLink; qpres
rf_leaf PresR.rchLink
theorem PresR.rchInsert (n) : Step.Pres RFrame (rchInsert n) := by unfold Engine.rchInsert; qpres
rf_leaf PresR.rchInsert
theorem PresR.didSetVarWhileNotStabilising (v) : Step.Pres RFrame (didSetVarWhileNotStabilising v) := by
  unfold Engine.didSetVarWhileNotStabilising; qpres
rf_leaf PresR.didSetVarWhileNotStabilising
theorem PresR.writeVar (v f b) : Step.Pres RFrame (writeVar v f b) := by unfold Engine.writeVar; qpres
rf_leaf PresR.writeVar
theorem PresR.disallowFutureUse (o) : Step.Pres RFrame (disallowFutureUse o) := by
  unfold Engine.disallowFutureUse; qpres
rf_leaf PresR.disallowFutureUse

/-- the observer actions, the writes and the read-only actions keep what `RhsRan` reads, whatever their outcome -/
theorem PresR.stepAction (env : Env) {a : Action} (tokens : Array Nat) (ha : SimpleAction a) : Step.Pres RFrame (stepAction env a tokens) := by
  cases a <;> try exact ha.elim
  all_goals (unfold Engine.stepAction; qpres)

end T2i

/-- **`RhsRan` ("a valid change detector that has run has installed a right-hand side") is kept by every API action of F2 other than `stabilise`.** -/
theorem step_rhsRan2 {env : Env} {rk : Nat → Nat} {s s' : State} {a : Action} {tk : Array Nat} {r : String × Array Nat}
    (Q : QInv2 env rk s) (H : RhsRan s) (ha : ActionF2 env s.top.size a) (hns : a ≠ .stabilise)
    (h : (stepAction env a tk).run.run s = (.ok r, s')) : RhsRan s' := by
  by_cases hc : ∃ i, a = .create i
  · obtain ⟨i, rfl⟩ := hc
    obtain ⟨rk', U, Q', E, -⟩ := step_create2_rk Q ha h
    intro b br hbr hv hrec
    by_cases hlt : br.lhsChange < s.nodes.size
    · -- an old change detector: the record is old
      have hk' := (Q'.struct.frag.recs b br hbr).2.2.1
      rw [E.old _ hlt] at hk' hv hrec
      obtain ⟨br0, hbr0, -⟩ := (Q.struct.frag.node _ hlt).lcRec b hk'
      have hb : b < s.binds.size := (Array.getElem?_eq_some_iff.1 hbr0).1
      rw [E.bold b hb, hbr0] at hbr
      cases hbr
      exact H b _ hbr0 hv hrec
    · -- a new change detector has not run
      exact absurd (E.new _ (by omega)).recomputedAt hrec
  · have hc' : ∀ i, a ≠ .create i := fun i e => hc ⟨i, e⟩
    exact ((T2i.PresR.stepAction env tk (T2k.simple_of_F2 ha hc' hns)).h _ _ _ h).rhsRan H

/-! ## the state-keeping runner -/

/-- run a history; returns the panic (if any) and the state reached — `M` keeps the state when a panic is raised -/
def runS (env : Env) : List Action → State → Array Nat → Option Panic × State
  | [], s, _ => (none, s)
  | a :: as, s, tk =>
    match (stepAction env a tk).run.run s with
    | (.ok r, s') => runS env as s' r.2
    | (.error e, s') => (some e, s')

theorem runS_none_iff (env : Env) (acts : List Action) (s s' : State) (tk : Array Nat) :
    (runS env acts s tk = (none, s')) ↔ ∃ tk', Quiet.runActions env acts s tk = .ok (s', tk') := by
  induction acts generalizing s tk with
  | nil =>
    simp only [runS, Quiet.runActions]
    constructor
    · intro h; cases h; exact ⟨tk, rfl⟩
    · rintro ⟨tk', h⟩; cases h; rfl
  | cons a as ih =>
    simp only [runS, Quiet.runActions]
    rcases (stepAction env a tk).run.run s with ⟨e | r, s1⟩
    · simp
    · exact ih s1 r.2

theorem runS_some_iff (env : Env) (acts : List Action) (s : State) (tk : Array Nat) (e : Panic) :
    (∃ s', runS env acts s tk = (some e, s')) ↔ Quiet.runActions env acts s tk = .error e := by
  induction acts generalizing s tk with
  | nil => simp [runS, Quiet.runActions]
  | cons a as ih =>
    simp only [runS, Quiet.runActions]
    rcases (stepAction env a tk).run.run s with ⟨e' | r, s1⟩
    · simp only [Prod.mk.injEq, Option.some.injEq, Except.error.injEq]
      constructor
      · rintro ⟨_, h, -⟩; exact h
      · intro h; exact ⟨s1, h, rfl⟩
    · exact ih s1 r.2

/-- the node count only grows along a history, whatever the outcome -/
theorem runS_size (env : Env) (acts : List Action) (s : State) (tk : Array Nat) :
    s.nodes.size ≤ (runS env acts s tk).2.nodes.size := by
  induction acts generalizing s tk with
  | nil => exact Nat.le_refl _
  | cons a as ih =>
    simp only [runS]
    rcases hx : (stepAction env a tk).run.run s with ⟨e | r, s1⟩
    · exact T2i.stepAction_size hx
    · exact Nat.le_trans (T2i.stepAction_size hx) (ih s1 r.2)

/-! ## index validity, statically -/

/-- `ActionIn2` in terms of the numbers of naming-table entries, var cells and observers -/
def ActionIdx (nt nv no : Nat) : Action → Prop
  | .create i =>
    (match i with
      | .map _ args => ∀ a, a ∈ args → ∃ k, a = Opnd.outer k ∧ k < nt
      | .fold _ _ cs => ∀ a, a ∈ cs → ∃ k, a = Opnd.outer k ∧ k < nt
      | .zip a b => (∃ k, a = Opnd.outer k ∧ k < nt) ∧ (∃ k, b = Opnd.outer k ∧ k < nt)
      | .bind _ lhs => ∃ k, lhs = Opnd.outer k ∧ k < nt
      | _ => True)
  | .observe n => ∃ k, n = Opnd.outer k ∧ k < nt
  | .dropObs o | .disallow o => o < no
  | .set v _ | .modify v _ | .update v _ | .replace v _ | .replaceWith v _ | .get v => v < nv
  | _ => True

theorem actionIn2_of {s : State} {a : Action} (h : ActionIdx s.top.size s.vars.size s.observers.size a) : ActionIn2 s a := by
  cases a <;> try exact h
  case create i =>
    cases i <;> try trivial
    case map f args => exact fun a ha => Quiet.opndIn_of rfl (h a ha)
    case fold f init cs => exact fun a ha => Quiet.opndIn_of rfl (h a ha)
    case zip a b => exact ⟨Quiet.opndIn_of rfl h.1, Quiet.opndIn_of rfl h.2⟩
    case bind body lhs => exact Quiet.opndIn_of rfl h
  case observe n => exact Quiet.opndIn_of rfl h

/-- the indices named by the actions of a history exist; `nt`, `nv`, `no` = numbers of naming-table entries, var cells, observers before the history
(a `create` adds a naming-table entry, a `create (var _)` a var cell, an `observe` an observer; a `stabilise` changes none of them) -/
def ValidIdx : Nat → Nat → Nat → List Action → Prop
  | _, _, _, [] => True
  | nt, nv, no, a :: as =>
    ActionIdx nt nv no a ∧ ValidIdx (nt + growTop a) (nv + (grow2 a).2.1) (no + (grow2 a).2.2) as

end IncrVerif.Proofs.NestH
