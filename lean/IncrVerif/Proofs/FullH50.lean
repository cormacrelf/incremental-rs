import IncrVerif.Proofs.FullH49
/-!
# C01 full fragment, API actions, part 2: every API action other than `stabilise` keeps the invariant `QInvFE`
(the counterparts of MapRef19 `SimAt.stepAction`, MapRef26 `AFrame.kInv`, MapRef28 `actionR`, `init_invR`; with `depend_on` nodes, the `cutoff` action, `DepInv`)
-/
namespace IncrVerif.Proofs.FullH
open IncrVerif.Engine IncrVerif.Driver IncrVerif.Proofs IncrVerif.Proofs.Step IncrVerif.Proofs.Sched IncrVerif.Proofs.Quiet
open IncrVerif.Proofs.MapOldH (enc dec WId dec_enc MReach GoodMachine)
open IncrVerif.Proofs.NestH (QG2 QI2 QInv2 GenOK2)

namespace AP

/-! ## corollaries of the frame -/

theorem AFrame.valueCore {s s' : State} (A : AFrame s s') {n : Nat} (hn : n < s.nodes.size) :
    Step.valueCore (s'.nodeD n) = Step.valueCore (s.nodeD n) := by
  have := A.node n hn
  simp only [aCore, Prod.mk.injEq] at this
  simp only [Step.valueCore, this.1, this.2.1, this.2.2.1]

theorem AFrame.value {env : Env} {s s' : State} (A : AFrame s s') (hb : MapRefsBack s) :
    ∀ n, n < s.nodes.size → s'.value env n = s.value env n := by
  intro n hn
  unfold State.value
  exact Step.valueWith_congr_below env.proj s s' hb n
    (fun m hm => A.valueCore (by omega)) _ _ (by omega) (by have := A.sizeLe; omega)

theorem AFrame.isNecessary {s s' : State} (A : AFrame s s') :
    ∀ n, n < s.nodes.size → s'.isNecessary n = s.isNecessary n := by
  intro n hn
  unfold State.isNecessary
  exact isNecessary_of_aCore (A.node n hn)

theorem AFrame.fields {s s' : State} (A : AFrame s s') {n : Nat} (hn : n < s.nodes.size) :
    (s'.nodeD n).kind = (s.nodeD n).kind ∧ (s'.nodeD n).valid = (s.nodeD n).valid ∧
    (s'.nodeD n).value = (s.nodeD n).value ∧ (s'.nodeD n).didChange = (s.nodeD n).didChange ∧
    (s'.nodeD n).oldState = (s.nodeD n).oldState ∧ (s'.nodeD n).changedAt = (s.nodeD n).changedAt := by
  have := A.node n hn; simp only [aCore, Prod.mk.injEq] at this
  exact ⟨this.1, this.2.1, this.2.2.1, this.2.2.2.1, this.2.2.2.2.2.2.2.1, this.2.2.2.2.2.2.2.2.1⟩

/-- no API action other than `stabilise` changes a `changedAt` stamp (a new node has the stamp of a missing node) -/
theorem AFrame.changedAt {s s' : State} (A : AFrame s s') (n : Nat) : (s'.nodeD n).changedAt = (s.nodeD n).changedAt := by
  by_cases hn : n < s.nodes.size
  · exact (A.fields hn).2.2.2.2.2
  · rw [(A.fresh n (by omega)).2.2.2, (value_default_of_ge s n (by omega)).2.2]

/-- **the `didChange` invariant is kept** -/
theorem AFrame.kInv {env : Env} {g : Nat → Option Val} {s s' : State} (A : AFrame s s') (hb : MapRefsBack s)
    (K : KInv env g s) : KInv env g s' := by
  intro m p i hv hnec hk hd
  by_cases hm : m < s.nodes.size
  · obtain ⟨f1, f2, -, f4, -⟩ := A.fields hm
    rw [A.isNecessary m hm] at hnec
    rw [f1] at hk
    rw [f2] at hv
    rw [f4] at hd
    rw [A.value hb m hm]
    exact K m p i hv hnec hk hd
  · rw [(A.fresh m (by omega)).1] at hnec; cases hnec

/-- **the machine invariant is kept**: a new `map_with_old` node is in the initial machine state -/
theorem AFrame.mInv {env : Env} {s s' : State} (A : AFrame s s') (M : MInv env s) : MInv env s' := by
  intro n m i hv hk
  by_cases hn : n < s.nodes.size
  · obtain ⟨f1, f2, f3, -, f5, -⟩ := A.fields hn
    rw [f3, f5]
    exact M n m i (by rw [← f2]; exact hv) (by rw [← f1]; exact hk)
  · obtain ⟨-, h2, h3, -⟩ := A.fresh n (by omega)
    rw [h2, h3]; exact MReach.init

theorem virtNode_value_none {nd : Node} (h : nd.value = none) : (virtNode none nd).value = none := by
  by_cases hk : ∃ p i, nd.kind = .mapRef p i
  · obtain ⟨p, i, hk⟩ := hk
    exact virtNode_value_mapRef _ _ hk
  · rw [virtNode_value_of_not_mapRef _ _ (fun p i e => hk ⟨p, i, e⟩)]; exact h

/-- every node virtually stores the same value (same ghost; the ghost is `none` beyond the nodes of `s`) -/
theorem AFrame.tv {g : Nat → Option Val} {s s' : State} (A : AFrame s s') (hg : ∀ n, s.nodes.size ≤ n → g n = none)
    (a : Nat) : tv g s' a = tv g s a := by
  by_cases ha : a < s.nodes.size
  · obtain ⟨f1, -, f3, -⟩ := A.fields ha
    by_cases h : ∃ p i, (s.nodeD a).kind = .mapRef p i
    · obtain ⟨p, i, hk⟩ := h
      rw [tv_mapRef hk, tv_mapRef (s := s') (by rw [f1]; exact hk)]
    · have h1 : ∀ p i, (s.nodeD a).kind ≠ .mapRef p i := fun p i hk => h ⟨p, i, hk⟩
      rw [tv_not_mapRef h1, tv_not_mapRef (s := s') (fun p i => by rw [f1]; exact h1 p i), f3]
  · have h1 : ((virt g s').nodeD a).value = none := by
      rw [virt_nodeD, hg a (by omega)]
      exact virtNode_value_none (A.fresh a (by omega)).2.1
    have h2 : ((virt g s).nodeD a).value = none := by
      rw [virt_nodeD, hg a (by omega)]
      exact virtNode_value_none (value_default_of_ge s a (by omega)).1
    exact h1.trans h2.symm

/-- **the `depend_on` invariant is kept**: stamps, kinds, validity and stored values do not change, a cutoff is never SET to `.dependOn _`, a new node
stores nothing -/
theorem AFrame.depInv {g : Nat → Option Val} {s s' : State} (A : AFrame s s') (hg : ∀ n, s.nodes.size ≤ n → g n = none)
    (D : DepInv g s) : DepInv g s' := by
  intro n a b v hv hk hc hch hval
  by_cases hn : n < s.nodes.size
  · obtain ⟨f1, f2, f3, -⟩ := A.fields hn
    rw [A.tv hg]
    rw [A.changedAt, A.changedAt] at hch
    refine D n a b v (by rw [← f2]; exact hv) (by rw [← f1]; exact hk) ?_ hch (by rw [← f3]; exact hval)
    rcases A.cut n hn with e | e | e
    · rw [← e]; exact hc
    · rw [e] at hc; cases hc
    · rw [e] at hc; cases hc
  · rw [(A.fresh n (by omega)).2.1] at hval; cases hval

end AP

/-! ## the relation `VM` without the cutoffs (the `cutoff` action changes one) -/

/-- `VM` without "cutoffs are kept" -/
structure VMc (s s' : State) : Prop where
  size : s.nodes.size ≤ s'.nodes.size
  valid : ∀ m, (s.nodeD m).valid = false → (s'.nodeD m).valid = false
  kind : ∀ m, m < s.nodes.size → (s'.nodeD m).kind = (s.nodeD m).kind ∧ (s'.nodeD m).oldState = (s.nodeD m).oldState
  flag : ∀ m, m < s.nodes.size → (s'.nodeD m).didChange = false → (s.nodeD m).didChange = false
  newn : ∀ m, s.nodes.size ≤ m → m < s'.nodes.size → (s'.nodeD m).didChange = true ∧ (s'.nodeD m).oldState = .unit ∧
    ∀ p i, (s'.nodeD m).kind = .mapRef p i → i < m

theorem VM.toC {s s' : State} (v : VM s s') : VMc s s' :=
  ⟨v.size, v.valid, fun m hm => ⟨(v.kind m hm).1, (v.kind m hm).2.2⟩, v.flag, v.newn⟩

/-- a frame that creates no node -/
theorem VMc.of_frame {s s' : State} (A : AP.AFrame s s') (hsz : s'.nodes.size = s.nodes.size) : VMc s s' := by
  refine ⟨A.sizeLe, fun m hv => ?_, fun m hm => ⟨(A.fields hm).1, (A.fields hm).2.2.2.2.1⟩,
    fun m hm hd => by rw [← (A.fields hm).2.2.2.1]; exact hd, fun m h1 h2 => absurd h2 (by omega)⟩
  by_cases hm : m < s.nodes.size
  · rw [(A.fields hm).2.1]; exact hv
  · rw [nodeD_default_of_ge s m (by omega)] at hv
    rw [nodeD_default_of_ge s' m (by omega)]; exact hv

theorem GSome.of_vmc {g : Nat → Option Val} {s s' : State} (G : GSome g s) (R : VMc s s') : GSome g s' := by
  intro m p i hv hk hd
  by_cases hm : m < s.nodes.size
  · obtain ⟨k1, -⟩ := R.kind m hm
    have hv0 : (s.nodeD m).valid = true := by
      cases h : (s.nodeD m).valid with
      | true => rfl
      | false => rw [R.valid m h] at hv; cases hv
    exact G m p i hv0 (by rw [← k1]; exact hk) (R.flag m hm hd)
  · by_cases hm' : m < s'.nodes.size
    · rw [(R.newn m (by omega) hm').1] at hd; cases hd
    · rw [nodeD_default_of_ge s' m (by omega)] at hk; cases hk

theorem mapRefsBack_of_vmc {s s' : State} (hb : MapRefsBack s) (v : VMc s s') : MapRefsBack s' := by
  intro n nd p i hn hk
  have hlt := lt_of_some hn
  have hk' : (s'.nodeD n).kind = .mapRef p i := by rw [nodeD_of_some hn]; exact hk
  by_cases h : n < s.nodes.size
  · rw [(v.kind n h).1] at hk'
    exact hb n (s.nodeD n) p i (some_of_lt h) hk'
  · exact (v.newn n (by omega) hlt).2.2 p i hk'

/-! ## the simulation -/

theorem opndS_of_ok {o : Opnd} (h : Quiet.OpndOK o) : OpndS o := by
  cases o <;> first | trivial | exact h.elim

/-- the top-level creation instructions of the fragment (other than the `cutoff` action) are simulated instructions over `.outer` operands -/
theorem instrS_of_top {env : Env} {sp : Nat → Val → Val} {T : Nat} {i : Instr} (h : InstrTopF env sp T i)
    (hnc : ∀ n c, i ≠ .cutoff n c) : InstrS env sp i ∧ ∀ o ∈ InstrOpnds i, OpndS o := by
  cases i <;> simp only [InstrTopF] at h <;> simp only [InstrS, InstrOpnds] <;> try exact h.elim
  case const v => exact ⟨trivial, fun o ho => by cases ho⟩
  case var v => exact ⟨trivial, fun o ho => by cases ho⟩
  case map f args => exact ⟨⟨h.1, h.2.1⟩, fun o ho => opndS_of_ok (h.2.2 o ho)⟩
  case fold f init cs => exact ⟨trivial, fun o ho => opndS_of_ok (h o ho)⟩
  case zip a b =>
    refine ⟨trivial, fun o ho => ?_⟩
    simp only [List.mem_cons, List.mem_nil_iff, or_false] at ho
    rcases ho with rfl | rfl
    · exact opndS_of_ok h.1
    · exact opndS_of_ok h.2
  case dependOn a b =>
    refine ⟨trivial, fun o ho => ?_⟩
    simp only [List.mem_cons, List.mem_nil_iff, or_false] at ho
    rcases ho with rfl | rfl
    · exact opndS_of_ok h.1
    · exact opndS_of_ok h.2
  case mapRef p o =>
    refine ⟨h.1, fun o' ho => ?_⟩
    simp only [List.mem_cons, List.mem_nil_iff, or_false] at ho
    subst ho; exact opndS_of_ok h.2
  case mapWithOld m o =>
    refine ⟨⟨h.1, h.2.1⟩, fun o' ho => ?_⟩
    simp only [List.mem_cons, List.mem_nil_iff, or_false] at ho
    subst ho; exact opndS_of_ok h.2.2
  case bind body lhs =>
    refine ⟨trivial, fun o' ho => ?_⟩
    simp only [List.mem_cons, List.mem_nil_iff, or_false] at ho
    obtain ⟨k, rfl⟩ := h.1
    subst ho; trivial
  case cutoff n c => exact absurd rfl (hnc n c)

theorem aaction_of_full {env : Env} {sp : Nat → Val → Val} {T : Nat} {a : Action} (hA : ActionFull env sp T a)
    (hs : a ≠ .stabilise) : AP.AAction env sp a := by
  cases a <;> simp only [ActionFull] at hA <;> simp only [AP.AAction] <;> try exact hA.elim
  case create i =>
    by_cases hc : ∃ n c, i = .cutoff n c
    · obtain ⟨n, c, rfl⟩ := hc
      exact Or.inr ⟨n, c, rfl, hA.2⟩
    · exact Or.inl (instrS_of_top hA (fun n c e => hc ⟨n, c, e⟩)).1
  case stabilise => exact absurd rfl hs

theorem virtA_create {i : Instr} (h : ∀ n c, i ≠ .cutoff n c) : virtA (.create i) = .create (virtI i) := by
  cases i <;> first | rfl | exact absurd rfl (h _ _)

theorem virtA_other {a : Action} (h : ∀ i, a ≠ .create i) : virtA a = a := by
  cases a <;> first | rfl | exact absurd rfl (h _)

section
variable {env : Env} {sp : Nat → Val → Val} {g : Nat → Option Val}

theorem virt_isStable (s : State) : (virt g s).isStable = s.isStable := rfl

theorem actCalc {K : Kind → Prop} : Hist.ActCalc (virt g) (fun s => SimAt K g s) where
  ret _ a := SimAt.ret a
  seq := SimAt.seq
  get := SimAt.get_seq
  created _ _ := SimAt.mod rfl rfl
  observed _ _ _ := SimAt.mod rfl rfl
  observers _ := rfl
  isStable := virt_isStable
  resolveOpnd s loc o := Sim.resolveOpnd loc o s
  bumpCounter s f := Sim.bumpCounter f s
  getObs s o := Sim.getObs o s
  modObs s o f := Sim.modObs o f s
  disallowFutureUse s o := Sim.disallowFutureUse o s
  writeVar s v f b := Sim.writeVar v f b s
  getVar s v := Sim.getVar v s

theorem ActionFull.cases {T : Nat} {a : Action} (hA : ActionFull env sp T a) :
    (∃ i, a = .create i) ∨ a = .stabilise ∨ Hist.Plain a := by
  cases a <;> first | exact Or.inl ⟨_, rfl⟩ | exact Or.inr (Or.inl rfl) | exact Or.inr (Or.inr trivial) | exact hA.elim

/-- every API action but `stabilise` and the `cutoff` action is simulated with `VM` -/
theorem SimAt.stepAction {s : State} {T : Nat} {a : Action} (tk : Array Nat) (hA : ActionFull env sp T a)
    (hs : a ≠ .stabilise) (hnc : ∀ n c, a ≠ .create (.cutoff n c)) (ht : TopLt s) :
    SimAt (FK env sp) g s (Engine.stepAction env a tk) (Engine.stepAction (VE env sp) (virtA a) tk) := by
  rcases hA.cases with ⟨i, rfl⟩ | rfl | hp
  · have hnc' : ∀ n c, i ≠ .cutoff n c := fun n c e => hnc n c (by rw [e])
    rw [virtA_create hnc']
    obtain ⟨hi, ho⟩ := instrS_of_top hA hnc'
    exact actCalc.create tk (SimAt.elabInstrM [] .unit i hi ho ht (fun m hm => by cases hm))
  · exact absurd rfl hs
  · rw [virtA_other (fun i h => by rw [h] at hp; exact hp)]
    exact actCalc.plain hp _ _ tk s

/-! ## the `cutoff` action -/

/-- the naming table names nodes that are not change detectors -/
def TopNoLc (s : State) : Prop := ∀ (k r : Nat), s.top[k]? = some r → ∀ b, (s.nodeD r).kind ≠ .bindLhsChange b

/-- what a successful `cutoff` action does -/
theorem cutoff_run {s s' : State} {n : Opnd} {c : CutoffK} {tk : Array Nat} {r : String × Array Nat} (hn : Quiet.OpndOK n)
    (h : (stepAction env (.create (.cutoff n c)) tk).run.run s = (.ok r, s')) :
    r = ("ok", tk) ∧ ∃ k m : Nat, s.top[k]? = some m ∧ s' = { s with nodes := s.nodes.modify m fun x => { x with cutoff := c } } := by
  unfold Engine.stepAction at h
  simp only [] at h
  obtain ⟨ro, s1, h1, h2⟩ := bind_ok_inv h
  have h1' : (Engine.elabInstr [] .unit (.cutoff n c)).run.run s = (.ok ro, s1) := h1
  unfold Engine.elabInstr at h1'
  simp only [] at h1'
  rw [run_bind_get] at h1'
  obtain ⟨m, s2, h3, h4⟩ := bind_ok_inv h1'
  obtain ⟨e2, hm⟩ := SC.resolveOpnd_inv (opndS_of_ok hn) h3
  subst e2
  rw [run_bind_modNode] at h4
  obtain ⟨e3, e4⟩ := pure_ok_inv h4
  subst e3 e4
  obtain ⟨e5, e6⟩ := pure_ok_inv h2
  subst e5 e6
  rcases hm with ⟨k, hk⟩ | hm
  · exact ⟨rfl, k, m, hk, rfl⟩
  · cases hm

theorem virtNode_cut (gv : Option Val) (nd : Node) (c : CutoffK) (h : ∀ b, nd.kind ≠ .bindLhsChange b) :
    virtNode gv { nd with cutoff := c } = virtNode gv nd := by
  rcases nd with ⟨k⟩
  cases k <;> first | rfl | exact absurd rfl (h _)

/-- resetting the cutoff of a node that is not a change detector is invisible in the virtual state -/
theorem virt_cut (g : Nat → Option Val) (s : State) (m : Nat) (c : CutoffK) (h : ∀ b, (s.nodeD m).kind ≠ .bindLhsChange b) :
    virt g { s with nodes := s.nodes.modify m fun x => { x with cutoff := c } } = virt g s := by
  simp only [virt]
  congr 1
  apply Array.ext
  · simp
  · intro i h1 h2
    simp only [Array.getElem_mapIdx, Array.getElem_modify]
    split
    · rename_i e; subst e
      refine virtNode_cut _ _ c ?_
      have hlt : m < s.nodes.size := by simpa using h1
      have e : s.nodeD m = s.nodes[m]'hlt := by simp [State.nodeD, Array.getElem?_eq_getElem hlt]
      intro b hb
      exact h b (by rw [e]; exact hb)
    · rfl

theorem fr_cut {K : Kind → Prop} {s : State} (F : Fr K g s) (m : Nat) {c : CutoffK} (hc : c = .eq ∨ c = .never) :
    Fr K g { s with nodes := s.nodes.modify m fun x => { x with cutoff := c } } := by
  refine ⟨fun n hn => ?_, fun n e => ?_, fun n => ?_, fun n hn => F.fresh n (by simpa using hn)⟩
  · have hn' : n < s.nodes.size := by simpa using hn
    rw [nodeD_modify]
    split
    · exact F.kinds n hn'
    · exact F.kinds n hn'
  · rw [nodeD_modify]
    split
    · exact F.noExp n e
    · exact F.noExp n e
  · rw [nodeD_modify]
    split
    · rcases hc with rfl | rfl
      · exact Or.inl rfl
      · exact Or.inr (Or.inl rfl)
    · exact F.cut n

/-- the frame of the actual run -/
theorem stepAction_frame {s : State} {T : Nat} {a : Action} {tk : Array Nat} {r : Except Panic (String × Array Nat)}
    {s' : State} (hA : ActionFull env sp T a) (hs : a ≠ .stabilise)
    (h : (stepAction env a tk).run.run s = (r, s')) : AP.AFrame s s' :=
  (AP.PresA.stepAction a tk (aaction_of_full hA hs)).h _ _ _ h

/-- **1. the virtual engine does the same API action** (same ghost: no API action of the fragment invalidates; the `cutoff` action is invisible in the
virtual state; `VMc`: `VM` without the cutoffs) -/
theorem stepAction_sim {s : State} {T : Nat} {a : Action} {tk : Array Nat} {r : String × Array Nat} {s' : State}
    (hA : ActionFull env sp T a) (hs : a ≠ .stabilise) (F : FFrag env sp g s) (ht : TopLt s) (hlc : TopNoLc s)
    (h : (stepAction env a tk).run.run s = (.ok r, s')) :
    (stepAction (VE env sp) (virtA a) tk).run.run (virt g s) = (.ok r, virt g s') ∧ Fr (FK env sp) g s' ∧ VMc s s' := by
  by_cases hc : ∃ n c, a = .create (.cutoff n c)
  · obtain ⟨n, c, rfl⟩ := hc
    have A := stepAction_frame hA hs h
    simp only [ActionFull, InstrTopF] at hA
    obtain ⟨rfl, k, m, hk, rfl⟩ := cutoff_run hA.1 h
    refine ⟨?_, fr_cut F.fr m hA.2, VMc.of_frame A (by simp)⟩
    rw [virt_cut g s m c (hlc k m hk)]
    rfl
  · obtain ⟨h1, h2, h3⟩ := SimAt.stepAction tk hA hs (fun n c e => hc ⟨n, c, e⟩) ht F.fr r s' h
    exact ⟨h1, h2, h3.toC⟩

/-! ## 2. the ghost invariants, from the frame of the actual run -/

theorem stepAction_kinv {s : State} {T : Nat} {a : Action} {tk : Array Nat} {r : String × Array Nat} {s' : State}
    (hA : ActionFull env sp T a) (hs : a ≠ .stabilise) (hb : MapRefsBack s)
    (h : (stepAction env a tk).run.run s = (.ok r, s')) (K : KInv env g s) : KInv env g s' :=
  (stepAction_frame hA hs h).kInv hb K

theorem stepAction_minv {s : State} {T : Nat} {a : Action} {tk : Array Nat} {r : String × Array Nat} {s' : State}
    (hA : ActionFull env sp T a) (hs : a ≠ .stabilise)
    (h : (stepAction env a tk).run.run s = (.ok r, s')) (M : MInv env s) : MInv env s' :=
  (stepAction_frame hA hs h).mInv M

theorem stepAction_depInv {s : State} {T : Nat} {a : Action} {tk : Array Nat} {r : String × Array Nat} {s' : State}
    (hA : ActionFull env sp T a) (hs : a ≠ .stabilise) (hg : ∀ n, s.nodes.size ≤ n → g n = none)
    (h : (stepAction env a tk).run.run s = (.ok r, s')) (D : DepInv g s) : DepInv g s' :=
  (stepAction_frame hA hs h).depInv hg D

theorem stepAction_pc {s : State} {T : Nat} {a : Action} {tk : Array Nat} {r : String × Array Nat} {s' : State}
    (hA : ActionFull env sp T a) (hs : a ≠ .stabilise)
    (h : (stepAction env a tk).run.run s = (.ok r, s')) (hpc : s.panicCountdown = none) : s'.panicCountdown = none :=
  (stepAction_frame hA hs h).pc.trans hpc

theorem stepAction_gsome {s : State} {T : Nat} {a : Action} {tk : Array Nat} {r : String × Array Nat} {s' : State}
    (hA : ActionFull env sp T a) (hs : a ≠ .stabilise) (F : FFrag env sp g s) (ht : TopLt s) (hlc : TopNoLc s)
    (h : (stepAction env a tk).run.run s = (.ok r, s')) (G : GSome g s) : GSome g s' :=
  G.of_vmc (stepAction_sim hA hs F ht hlc h).2.2

theorem stepAction_back {s : State} {T : Nat} {a : Action} {tk : Array Nat} {r : String × Array Nat} {s' : State}
    (hA : ActionFull env sp T a) (hs : a ≠ .stabilise) (F : FFrag env sp g s) (ht : TopLt s) (hlc : TopNoLc s)
    (h : (stepAction env a tk).run.run s = (.ok r, s')) : MapRefsBack s' :=
  mapRefsBack_of_vmc F.back (stepAction_sim hA hs F ht hlc h).2.2

/-! ## 3. the headline -/

/-- the naming table names nodes of the state that are not change detectors -/
theorem topLt_of_qg2 {s : State} (Q : QG2 (VE env sp) (virt g s)) : TopLt s ∧ TopNoLc s := by
  obtain ⟨⟨rk, Q2⟩, -⟩ := Q
  refine ⟨fun k r hk => ?_, fun k r hk b hb => ?_⟩
  · have := (Q2.f2.topOK k r hk).1
    rwa [virt_size] at this
  · refine (Q2.f2.topOK k r hk).2.2 b ?_
    rw [virt_nodeD, virtNode_kind, hb]; rfl

/-- every API action of the full fragment other than `stabilise` keeps the invariant, with the SAME ghost -/
theorem step_fullG {s s' : State} {a : Action} {tk : Array Nat} {r : String × Array Nat}
    (Q : QInvF env sp s g) (hA : ActionFull env sp s.top.size a) (hs : a ≠ .stabilise)
    (h : (stepAction env a tk).run.run s = (.ok r, s')) : QInvF env sp s' g := by
  obtain ⟨ht, hlc⟩ := topLt_of_qg2 Q.q
  obtain ⟨hv, hfr, vm⟩ := stepAction_sim hA hs Q.frag ht hlc h
  have A := stepAction_frame hA hs h
  have Qv' : QG2 (VE env sp) (virt g s') := NestH.step_F2 Q.q (actionF2_virt hA) hv
  exact ⟨⟨hfr, mapRefsBack_of_vmc Q.frag.back vm, A.pc.trans Q.frag.pc⟩, Qv', A.kInv Q.frag.back Q.k, A.mInv Q.m,
    Q.gs.of_vmc vm, A.depInv Q.frag.fr.fresh Q.dep⟩

/-- **HEADLINE: every API action of the full fragment other than `stabilise` keeps the invariant `QInvFE`.** -/
theorem step_full {s s' : State} {a : Action} {tk : Array Nat} {r : String × Array Nat}
    (Q : QInvFE env sp s) (hA : ActionFull env sp s.top.size a) (hs : a ≠ .stabilise)
    (h : (stepAction env a tk).run.run s = (.ok r, s')) : QInvFE env sp s' := by
  obtain ⟨g, Q⟩ := Q
  exact ⟨g, step_fullG Q hA hs h⟩

end

/-! ## 4. the initial state -/

theorem virt_init (g : Nat → Option Val) (N : Nat) (d : Bool) : virt g (State.init N d) = State.init N d := by
  unfold virt; congr 1

theorem qinvF_init (env : Env) (sp : Nat → Val → Val) (N : Nat) (d : Bool) : QInvFE env sp (State.init N d) := by
  refine ⟨fun _ => none, ⟨⟨fun n hn => ?_, fun n e hk => ?_, fun n => ?_, fun _ _ => rfl⟩, ?_, rfl⟩, ?_, ?_, ?_, ?_, ?_⟩
  · simp [State.init] at hn
  · rw [init_nodeD] at hk; cases hk
  · rw [init_nodeD]; exact Or.inl rfl
  · intro n nd p i hn
    simp [State.init] at hn
  · rw [virt_init]; exact NestH.qg2_init _ N d
  · intro m p i _ _ hk
    rw [init_nodeD] at hk; cases hk
  · intro n m i _ hk
    rw [init_nodeD] at hk; cases hk
  · intro m p i _ hk
    rw [init_nodeD] at hk; cases hk
  · intro n a b v _ hk
    rw [init_nodeD] at hk; cases hk

end IncrVerif.Proofs.FullH
