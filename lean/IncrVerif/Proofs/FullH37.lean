import IncrVerif.Proofs.FullH11
/-!
# C01 full fragment: simulation of the observer and variable operations and of the two phases of `stabilise` before the drain
-/
namespace IncrVerif.Proofs.FullH
open IncrVerif.Engine IncrVerif.Proofs IncrVerif.Proofs.Step IncrVerif.Proofs.Sched IncrVerif.Proofs.Quiet

section
variable {K : Kind → Prop} {g : Nat → Option Val} {sp : Nat → Val → Val}

theorem Sim.getObs (o : Nat) : Sim K g (Engine.getObs o) (Engine.getObs o) :=
  .of_comm fun s0 => NodeSim.Comm.getObs (blind s0) o
macro_rules | `(tactic| fsim_leaf) => `(tactic| with_reducible exact Sim.getObs _)

theorem Sim.modObs (o : Nat) (f : ObsRec → ObsRec) : Sim K g (Engine.modObs o f) (Engine.modObs o f) :=
  .of_comm fun s0 => NodeSim.Comm.modObs (blind s0) o f
macro_rules | `(tactic| fsim_leaf) => `(tactic| with_reducible exact Sim.modObs _ _)

theorem Sim.getVar (v : Nat) : Sim K g (Engine.getVar v) (Engine.getVar v) :=
  .of_comm fun s0 => NodeSim.Comm.getVar (blind s0) v
macro_rules | `(tactic| fsim_leaf) => `(tactic| with_reducible exact Sim.getVar _)

theorem Sim.modVar (v : Nat) (f : VarCell → VarCell) : Sim K g (Engine.modVar v f) (Engine.modVar v f) :=
  .of_comm fun s0 => NodeSim.Comm.modVar (blind s0) v f
macro_rules | `(tactic| fsim_leaf) => `(tactic| with_reducible exact Sim.modVar _ _)

theorem Sim.unlinkDisallowedObservers (fuel : Nat) :
    Sim K g (Engine.unlinkDisallowedObservers fuel) (Engine.unlinkDisallowedObservers fuel) := by
  intro s; unfold Engine.unlinkDisallowedObservers; fsim
macro_rules | `(tactic| fsim_leaf) => `(tactic| with_reducible exact Sim.unlinkDisallowedObservers _)

theorem Sim.disallowFutureUse (o : Nat) : Sim K g (Engine.disallowFutureUse o) (Engine.disallowFutureUse o) :=
  .of_comm fun s0 => NodeSim.Comm.disallowFutureUse (blind s0) o
macro_rules | `(tactic| fsim_leaf) => `(tactic| with_reducible exact Sim.disallowFutureUse _)

theorem Sim.didSetVarWhileNotStabilising (v : Nat) :
    Sim K g (Engine.didSetVarWhileNotStabilising v) (Engine.didSetVarWhileNotStabilising v) :=
  .of_comm fun s0 => NodeSim.Comm.didSetVarWhileNotStabilising (blind s0) v
macro_rules | `(tactic| fsim_leaf) => `(tactic| with_reducible exact Sim.didSetVarWhileNotStabilising _)

theorem Sim.writeVar (v : Nat) (f : Val → Val) (isSet : Bool) :
    Sim K g (Engine.writeVar v f isSet) (Engine.writeVar v f isSet) :=
  .of_comm fun s0 => NodeSim.Comm.writeVar (blind s0) v f isSet
macro_rules | `(tactic| fsim_leaf) => `(tactic| with_reducible exact Sim.writeVar _ _ _)

theorem SimX.addNewObservers (env : Env) (fuel : Nat) :
    SimX K (Engine.addNewObservers env fuel) (Engine.addNewObservers (virtEnv env sp) fuel) := by
  intro g s
  refine .of_commX ?_
  simx_hyps g s
  unfold Engine.addNewObservers; sim
  split <;> sim

end
end IncrVerif.Proofs.FullH
