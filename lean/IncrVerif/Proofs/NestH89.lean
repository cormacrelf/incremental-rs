import IncrVerif.Proofs.NestH25
/-!
# Total correctness for nested binds (F2), phase 1 of the run of a change detector: the closure run never panics

What can panic in `Inval.lhsRunClosure`: `valueUnwrap` (the lhs has a value: hypothesis), `tick` (`panicCountdown = none`: `All2.pc`), `resolveOpnd`
(`"model:bad-outer"`: `OpndOK2` gives `top[k]? = some r`; `"model:bad-local"`: `j < nloc` and the loop keeps `loc.length` = the number of instructions done —
`NN.RC2.locs`; `.abs`/`.slot`: excluded by `OpndOK2`), `memoCall` and the other instructions outside the fragment (`InstrOK2` is `False`).  `createNode`,
`createBind`, `modBind` never panic (`Inval.createNode_run`, `NN.createBind_run`): no fuel, no height limit.

The loop invariant is the one of the partial-correctness proof (`NN.LI2`, `NN.LI2.step`): every iteration RETURNS (`T2c.elab_tot2`), hence — by `LI2.step` —
re-establishes the invariant.  Nothing of NN1–NN6 is re-proved.
-/
namespace IncrVerif.Proofs.NestH
open IncrVerif.Engine IncrVerif.Proofs IncrVerif.Proofs.Step IncrVerif.Proofs.Sched IncrVerif.Proofs.Quiet
open IncrVerif.Proofs.BindH

namespace T2c

/-! ## operands -/

section resolve
variable {rk0 rk : Nat → Nat} {s0 t : State} {b lc j : Nat} {dy : List Nat} {loc : List Nat}

/-- a legal operand resolves -/
theorem resolve_tot2 (R : NN.RC2 rk0 rk s0 t b lc dy j loc) {o : Opnd} (ho : OpndOK2 rk0 s0 lc j o) :
    ∃ c, (resolveOpnd loc o).run.run t = (.ok c, t) := by
  cases o with
  | outer k =>
    obtain ⟨r, hr, -⟩ := ho
    refine ⟨r, ?_⟩
    unfold resolveOpnd
    simp only
    rw [run_bind_get, R.top, hr]
    exact run_pure r t
  | loc i =>
    obtain ⟨c', hc, -⟩ := R.locs i ho
    refine ⟨c', ?_⟩
    unfold resolveOpnd
    simp only [hc]
    exact run_pure c' t
  | abs _ => exact ho.elim
  | slot _ => exact ho.elim

theorem mapM_resolve_tot2 (R : NN.RC2 rk0 rk s0 t b lc dy j loc) :
    ∀ (l : List Opnd), (∀ a, a ∈ l → OpndOK2 rk0 s0 lc j a) →
      ∃ r, (l.mapM (fun o => resolveOpnd loc o)).run.run t = (.ok r, t) := by
  intro l
  induction l with
  | nil =>
    intro _
    exact ⟨[], by rw [List.mapM_nil, run_pure]⟩
  | cons a l ih =>
    intro hl
    obtain ⟨c, h1⟩ := resolve_tot2 R (hl a (List.mem_cons_self ..))
    obtain ⟨cs, h2⟩ := ih (fun y hy => hl y (List.mem_cons_of_mem _ hy))
    exact ⟨c :: cs, by rw [List.mapM_cons, run_bind_ok h1, run_bind_ok h2, run_pure]⟩

end resolve

/-! ## one instruction -/

/-- an instruction of an F2 closure returns -/
theorem elab_tot2 {env : Env} {rk0 rk : Nat → Nat} {s0 t : State} {P : Nat → Prop} {b lc j : Nat} {dy : List Nat}
    {loc : List Nat} {i : Instr} {v : Val} (R : NN.RC2 rk0 rk s0 t b lc dy j loc)
    (hsc : t.currentScope = .bind b) (hi : InstrOK2 env rk0 s0 P lc j i) :
    ∃ ro t1, (elabInstrM env loc v i).run.run t = (.ok ro, t1) := by
  cases i with
  | const w =>
    unfold elabInstrM
    simp only
    unfold elabInstr
    rw [run_bind_get]
    simp only [hsc]
    exact ⟨_, _, map_run_ok (Inval.createNode_run _ _ _ _)⟩
  | lhsConst =>
    unfold elabInstrM
    simp only
    unfold elabInstr
    rw [run_bind_get]
    simp only [hsc]
    exact ⟨_, _, map_run_ok (Inval.createNode_run _ _ _ _)⟩
  | map f args =>
    unfold elabInstrM
    simp only
    unfold elabInstr
    rw [run_bind_get]
    simp only [hsc]
    obtain ⟨as, h1⟩ := mapM_resolve_tot2 R args hi.2.2
    rw [run_bind_ok h1]
    exact ⟨_, _, map_run_ok (Inval.createNode_run _ _ _ _)⟩
  | fold f init cs =>
    unfold elabInstrM
    simp only
    unfold elabInstr
    rw [run_bind_get]
    simp only [hsc]
    obtain ⟨as, h1⟩ := mapM_resolve_tot2 R cs hi
    rw [run_bind_ok h1]
    split
    · exact ⟨_, _, map_run_ok (Inval.createNode_run _ _ _ _)⟩
    · exact ⟨_, _, map_run_ok (Inval.createNode_run _ _ _ _)⟩
  | bind body' o =>
    unfold elabInstrM
    simp only
    unfold elabInstr
    rw [run_bind_get]
    simp only
    obtain ⟨c, h1⟩ := resolve_tot2 R hi.2
    rw [run_bind_ok h1]
    exact ⟨_, _, map_run_ok (NN.createBind_run _ _ _)⟩
  | _ => exact hi.elim

/-! ## the loop of `elabTemplate` -/

section loop
variable {env : Env} {b : Nat} {br : BindRec} {s0 : State} {rk0 : Nat → Nat} {ex : Nat → Prop}

/-- **the template**: `elabTemplate` inside the closure run returns -/
theorem elabTemplate_tot2 {tm : Template} {v : Val} {t : State} {f : Nat}
    (L : NN.LI2 env b br s0 rk0 ex 0 [] rk0 t) (A0 : All2 env rk0 s0 []) (hb : s0.binds[b]? = some br)
    (hvlc : (s0.nodeD br.lhsChange).valid = true)
    (hdy : ∀ m, m ∈ br.allNodesCreatedOnRhs → m < s0.nodes.size)
    (htop : ∀ (k r : Nat), s0.top[k]? = some r →
      r < s0.nodes.size ∧ (s0.nodeD r).createdIn = .top ∧ ∀ b', (s0.nodeD r).kind ≠ .bindLhsChange b')
    (hT : TemplOK2 env rk0 s0 (fun b' => BodyOK2 env rk0 s0 br.lhsChange f b') br.lhsChange tm) :
    Tot (elabTemplate env tm v) t (fun _ _ => True) := by
  unfold elabTemplate
  refine Tot.bind (Q := fun loc t1 => ∃ rk, NN.LI2 env b br s0 rk0 ex tm.instrs.length loc rk t1) ?_ ?_
  · refine forIn_tot _ tm.instrs (fun j loc t => ∃ rk, NN.LI2 env b br s0 rk0 ex j loc rk t) ?_ tm.instrs 0 [] t rfl
      (Nat.zero_le _) ⟨rk0, L⟩
    intro j a loc0 t0 hj hL
    obtain ⟨rk, hL⟩ := hL
    obtain ⟨ro, t2, h3⟩ := elab_tot2 (v := v) (hL.rc A0 hb hdy htop) hL.scope (hT.1 j a hj)
    obtain ⟨n, rk', e, hL'⟩ := hL.step A0 hb hvlc hdy htop (hT.1 j a hj) h3
    subst e
    refine ⟨loc0 ++ [n], t2, ?_, rk', hL'⟩
    dsimp only
    rw [run_bind_ok h3]
    rfl
  · intro loc t1 _ hQ
    obtain ⟨rk, hloop⟩ := hQ
    obtain ⟨c, hc⟩ := resolve_tot2 (hloop.rc A0 hb hdy htop) hT.2
    exact Tot.of_ok hc trivial

end loop

end T2c

/-- **Phase 1 of the run of a change detector never panics** (fragment F2): the closure run returns.  Hypotheses = those of `ClosureSpec2` (including
`hcut`, which the loop invariant `NN.LI2` of the partial-correctness proof carries along) + the lhs has a value.  No fuel, no height limit, no room: node
creation never fails. -/
theorem lhsRunClosure_total2 {env : Env} {rk : Nat → Nat} {n b : Nat} {br : BindRec} {s : State} {ex : Nat → Prop}
    (I : GInv2 env rk s allClosed ex []) (hah : AhhEmpty s) (hb : s.binds[b]? = some br) (hl : br.lhsChange = n)
    (hv : (s.nodeD n).valid = true) (hB : ∃ f, BodyOK2 env rk s n f br.body)
    (htop : ∀ (k r : Nat), s.top[k]? = some r →
      r < s.nodes.size ∧ (s.nodeD r).createdIn = .top ∧ ∀ b', (s.nodeD r).kind ≠ .bindLhsChange b')
    (hcut : ∀ m b', (s.nodeD m).kind = .bindLhsChange b' → (s.nodeD m).cutoff = .never)
    (hval : ∃ v, s.value env br.lhs = some v) :
    Tot (Inval.lhsRunClosure env n b br) s (fun _ _ => True) := by
  have A0 := I.frag
  obtain ⟨f, hbody⟩ := hB
  obtain ⟨v, hval⟩ := hval
  cases f with
  | zero => exact hbody.elim
  | succ f =>
    have hdy : ∀ m, m ∈ br.allNodesCreatedOnRhs → m < s.nodes.size :=
      fun m hm => ((A0.gen b br hb m).1 (Or.inl hm)).1
    have hT : TemplOK2 env rk s (fun b' => BodyOK2 env rk s br.lhsChange f b') br.lhsChange (env.body br.body v) := by
      rw [hl]; exact hbody v
    have hvlc : (s.nodeD br.lhsChange).valid = true := by rw [hl]; exact hv
    have hrun := T2c.elabTemplate_tot2 (v := v) (NN.entered_li2 (.inv s!"b{br.body}" n [v] "") I hah hb hcut) A0 hb hvlc
      hdy htop hT
    have hvu : ∀ site, (valueUnwrap env br.lhs site).run.run (CN.reset b s) = (.ok v, CN.reset b s) := by
      intro site
      have e : (CN.reset b s).value env br.lhs = some v := by
        rw [value_congr env s (CN.reset b s) rfl (fun m => rfl)]; exact hval
      rw [run_valueUnwrap, e]
    unfold Inval.lhsRunClosure
    simp only [modBind]
    refine Tot.bind_modify ?_
    refine Tot.bind_ok (hvu _) ?_
    refine Tot.bind_get ?_
    refine Tot.bind_modify ?_
    refine Tot.bind_ok (run_tick_none _ A0.pc) ?_
    refine Tot.bind_ok (run_logEv _ _) ?_
    refine Tot.bind hrun ?_
    intro rhs t1 _ _
    exact Tot.bind_modify (Tot.pure trivial)

end IncrVerif.Proofs.NestH
