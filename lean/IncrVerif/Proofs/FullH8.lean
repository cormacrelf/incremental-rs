import IncrVerif.Proofs.FullH7
/-!
# C01 full fragment: simulation of the unlinking cascade, the rest of the recompute heap, and `adjust_heights`
-/
namespace IncrVerif.Proofs.FullH
open IncrVerif.Engine IncrVerif.Proofs IncrVerif.Proofs.Step IncrVerif.Proofs.Sched IncrVerif.Proofs.Quiet

section
variable {K : Kind → Prop} {g : Nat → Option Val} {sp : Nat → Val → Val}

theorem Sim.removeParent (c i p : Nat) : Sim K g (Engine.removeParent c i p) (Engine.removeParent c i p) :=
  .of_comm fun s0 => NodeSim.Comm.removeParent (blind s0) c i p
macro_rules | `(tactic| fsim_leaf) => `(tactic| with_reducible exact Sim.removeParent _ _ _)

theorem Sim.rchUnlink (n : Nat) : Sim K g (Engine.rchUnlink n) (Engine.rchUnlink n) :=
  .of_comm fun s0 => NodeSim.Comm.rchUnlink (blind s0) n
macro_rules | `(tactic| fsim_leaf) => `(tactic| with_reducible exact Sim.rchUnlink _)

theorem Sim.rchRemove (n : Nat) : Sim K g (Engine.rchRemove n) (Engine.rchRemove n) :=
  .of_comm fun s0 => NodeSim.Comm.rchRemove (blind s0) n
macro_rules | `(tactic| fsim_leaf) => `(tactic| with_reducible exact Sim.rchRemove _)

theorem Sim.rchRemoveMin : Sim K g Engine.rchRemoveMin Engine.rchRemoveMin :=
  .of_comm fun s0 => NodeSim.Comm.rchRemoveMin (blind s0)
macro_rules | `(tactic| fsim_leaf) => `(tactic| with_reducible exact Sim.rchRemoveMin)

theorem Sim.rchMinHeight : Sim K g Engine.rchMinHeight Engine.rchMinHeight :=
  .of_comm fun s0 => NodeSim.Comm.rchMinHeight (blind s0)
macro_rules | `(tactic| fsim_leaf) => `(tactic| with_reducible exact Sim.rchMinHeight)

theorem Sim.rchIncreaseHeight (n : Nat) : Sim K g (Engine.rchIncreaseHeight n) (Engine.rchIncreaseHeight n) :=
  .of_comm fun s0 => NodeSim.Comm.rchIncreaseHeight (blind s0) n
macro_rules | `(tactic| fsim_leaf) => `(tactic| with_reducible exact Sim.rchIncreaseHeight _)

theorem Sim.unlink (fuel : Nat) :
    (∀ n, Sim K g (becameUnnecessary fuel n) (becameUnnecessary fuel n)) ∧
    (∀ n, Sim K g (checkIfUnnecessary fuel n) (checkIfUnnecessary fuel n)) ∧
    (∀ n, Sim K g (removeChildren fuel n) (removeChildren fuel n)) :=
  ⟨fun n => .of_comm fun s0 => NodeSim.Comm.becameUnnecessary (blind s0) (obsWork s0) fuel n,
    fun n => .of_comm fun s0 => NodeSim.Comm.checkIfUnnecessary (blind s0) (obsWork s0) fuel n,
    fun n => .of_comm fun s0 => NodeSim.Comm.removeChildren (blind s0) (obsWork s0) fuel n⟩

theorem Sim.becameUnnecessary (fuel n : Nat) :
    Sim K g (Engine.becameUnnecessary fuel n) (Engine.becameUnnecessary fuel n) := (Sim.unlink fuel).1 n
theorem Sim.checkIfUnnecessary (fuel n : Nat) :
    Sim K g (Engine.checkIfUnnecessary fuel n) (Engine.checkIfUnnecessary fuel n) := (Sim.unlink fuel).2.1 n
theorem Sim.removeChildren (fuel n : Nat) :
    Sim K g (Engine.removeChildren fuel n) (Engine.removeChildren fuel n) := (Sim.unlink fuel).2.2 n
macro_rules | `(tactic| fsim_leaf) => `(tactic| with_reducible exact Sim.becameUnnecessary _ _)
macro_rules | `(tactic| fsim_leaf) => `(tactic| with_reducible exact Sim.checkIfUnnecessary _ _)
macro_rules | `(tactic| fsim_leaf) => `(tactic| with_reducible exact Sim.removeChildren _ _)

/-! ## the adjust-heights heap -/

theorem Sim.ahhAddUnlessMem (n : Nat) : Sim K g (Engine.ahhAddUnlessMem n) (Engine.ahhAddUnlessMem n) :=
  .of_comm fun s0 => NodeSim.Comm.ahhAddUnlessMem (blind s0) n
macro_rules | `(tactic| fsim_leaf) => `(tactic| with_reducible exact Sim.ahhAddUnlessMem _)

theorem Sim.ahhRemoveMin : Sim K g Engine.ahhRemoveMin Engine.ahhRemoveMin :=
  .of_comm fun s0 => NodeSim.Comm.ahhRemoveMin (blind s0)
macro_rules | `(tactic| fsim_leaf) => `(tactic| with_reducible exact Sim.ahhRemoveMin)

theorem Sim.ensureHeightRequirement (oc op child parent : Nat) :
    Sim K g (Engine.ensureHeightRequirement oc op child parent) (Engine.ensureHeightRequirement oc op child parent) :=
  .of_comm fun s0 => NodeSim.Comm.ensureHeightRequirement (blind s0) oc op child parent
macro_rules | `(tactic| fsim_leaf) => `(tactic| with_reducible exact Sim.ensureHeightRequirement _ _ _ _)

theorem Sim.adjustHeightsLoop (oc op fuel : Nat) :
    Sim K g (Engine.adjustHeightsLoop oc op fuel) (Engine.adjustHeightsLoop oc op fuel) :=
  .of_comm fun s0 => NodeSim.Comm.adjustHeightsLoop (blind s0) oc op fuel
macro_rules | `(tactic| fsim_leaf) => `(tactic| with_reducible exact Sim.adjustHeightsLoop _ _ _)

theorem Sim.adjustHeights (oc op fuel : Nat) :
    Sim K g (Engine.adjustHeights oc op fuel) (Engine.adjustHeights oc op fuel) :=
  .of_comm fun s0 => NodeSim.Comm.adjustHeights (blind s0) oc op fuel
macro_rules | `(tactic| fsim_leaf) => `(tactic| with_reducible exact Sim.adjustHeights _ _ _)

end
end IncrVerif.Proofs.FullH
