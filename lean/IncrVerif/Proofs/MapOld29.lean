import IncrVerif.Proofs.MapOld28
/-!
# C15 for whole histories of programs built with the `mapOp` instruction (definitions tables of the history language)

A history is decomposed as: a prefix `pre`; the creation of the operator over top-level operand(s) that are variables;
arbitrary further actions `mid`; a `stabilise`.  After that `stabilise` every in-use observer of the operator's output
node reads the operator's non-incremental definition applied to the CURRENT value(s) of the variable(s).
-/
namespace IncrVerif.Proofs.MapOldH
open IncrVerif IncrVerif.Engine IncrVerif.Driver IncrVerif.MapOps IncrVerif.Proofs IncrVerif.Proofs.Step IncrVerif.Proofs.Sched IncrVerif.Proofs.Quiet

variable {d : Defs}

/-- the actions of the fragment for a definitions table -/
def DAction (d : Defs) (a : Action) : Prop := WAction d.toEnv Canon (machSpec d) a

/-- the invariant for a definitions table -/
def DInv (d : Defs) (s : State) : Prop := QInvW d.toEnv Canon (machSpec d) s

theorem kind_lt {s : State} {n : Nat} {k : Kind} (h : (s.nodeD n).kind = k) (hk : ∀ v, k ≠ .const v) :
    n < s.nodes.size := by
  by_cases hn : n < s.nodes.size
  · exact hn
  · rw [nodeD_default_of_ge s n (by omega)] at h
    exact absurd h.symm (hk _)

/-- the common part: from the state `s1` in which the operator exists to a later state `s2` after a `stabilise` -/
theorem unary_reads_later {s1 s2 : State} {out g x c o : Nat} {ob : ObsRec} {vc : VarCell}
    (Q1 : DInv d s1) (U : UnaryOp s1 out g x) (hx : (s1.nodeD x).kind = .var c)
    (K : KindsKept s1 s2) (R : ReadsOKW d.toEnv (machSpec d) s2)
    (ho : s2.observers[o]? = some ob) (hu : ob.state = .inUse) (hon : ob.node = out)
    (hc : s2.vars[c]? = some vc) : s2.tryGetValue d.toEnv o = .ok (machSpec d g vc.value) := by
  have hout : out < s1.nodes.size := by
    obtain ⟨o', ho', -⟩ := U.conv2
    exact kind_lt ho' (fun v h => by cases h)
  have hxl : x < s1.nodes.size := kind_lt hx (fun v h => by cases h)
  have U2 : UnaryOp s2 ob.node g x := by rw [hon]; exact U.kept K hout Q1.frag.back
  exact reads_unary_var R ho hu U2 (by rw [K.kind x hxl]; exact hx) hc

theorem merge_reads_later {s1 s2 : State} {out g x y cx cy o : Nat} {ob : ObsRec} {vx vy : VarCell}
    (Q1 : DInv d s1) (U : MergeOp s1 out g x y) (hx : (s1.nodeD x).kind = .var cx) (hy : (s1.nodeD y).kind = .var cy)
    (K : KindsKept s1 s2) (R : ReadsOKW d.toEnv (machSpec d) s2)
    (ho : s2.observers[o]? = some ob) (hu : ob.state = .inUse) (hon : ob.node = out)
    (hcx : s2.vars[cx]? = some vx) (hcy : s2.vars[cy]? = some vy) :
    s2.tryGetValue d.toEnv o = .ok (machSpec d g (.pair vx.value vy.value)) := by
  have hout : out < s1.nodes.size := by
    obtain ⟨o', ho', -⟩ := U.pat
    exact kind_lt ho' (fun v h => by cases h)
  have hxl : x < s1.nodes.size := kind_lt hx (fun v h => by cases h)
  have hyl : y < s1.nodes.size := kind_lt hy (fun v h => by cases h)
  have U2 : MergeOp s2 ob.node g x y := by rw [hon]; exact U.kept K hout Q1.frag.back
  exact reads_merge_var R ho hu U2 (by rw [K.kind x hxl]; exact hx) (by rw [K.kind y hyl]; exact hy) hcx hcy

/-- what a history `pre`, creation `cr`, `mid`, `stabilise` gives: the invariant after the creation, kinds kept from
there to the state after the `stabilise`, and the reads there -/
theorem history_split {N : Nat} {dbg : Bool} {pre mid : List Action} {cr : Action} {s0 s1 sm s2 : State}
    {tk0 tkm : Array Nat} {r1 : String × Array Nat}
    (hpre : ∀ a, a ∈ pre → DAction d a) (hcr : DAction d cr) (hmid : ∀ a, a ∈ mid → DAction d a)
    (h0 : runActions d.toEnv pre (State.init N dbg) #[] = .ok (s0, tk0))
    (h1 : (stepAction d.toEnv cr tk0).run.run s0 = (.ok r1, s1))
    (h2 : runActions d.toEnv mid s1 r1.2 = .ok (sm, tkm))
    (h3 : (stabilise d.toEnv fuelDefault).run.run sm = (.ok (), s2)) :
    DInv d s0 ∧ DInv d s1 ∧ KindsKept s0 s1 ∧ KindsKept s1 s2 ∧ ReadsOKW d.toEnv (machSpec d) s2 ∧ DInv d s2 := by
  have V := valOK_toEnv d
  have Q0 : DInv d s0 := historyW V hpre h0
  have Q1 : DInv d s1 := stepW V Q0 hcr h1
  have Qm : DInv d sm := runActionsW V Q1 hmid h2
  have R := stabiliseW V Qm h3
  have Km := runActions_kinds h2
  have K3 : KindsKept sm s2 := step_kinds (a := .stabilise) (tk := tkm) (step_stabilise_run h3)
  exact ⟨Q0, Q1, step_kinds h1, Km.trans K3, (stabilisedW_reads R).1, R.inv⟩

theorem machSpec_op (d : Defs) {g : Nat} (hg : opBase ≤ g) : machSpec d g = opSpec d g := by
  unfold machSpec; rw [if_pos hg]

section unary
variable {N : Nat} {dbg : Bool} {pre mid : List Action} {s0 s1 sm s2 : State} {tk0 tkm : Array Nat}
  {r1 : String × Array Nat} {m k x c o : Nat} {ob : ObsRec} {vc : VarCell}

/-- **C15, `incr_filter_mapi`, whole histories.** -/
theorem fm_history_reads (hm : m < 100000)
    (hpre : ∀ a, a ∈ pre → DAction d a) (hmid : ∀ a, a ∈ mid → DAction d a)
    (h0 : runActions d.toEnv pre (State.init N dbg) #[] = .ok (s0, tk0))
    (hk : s0.top[k]? = some x) (hx : (s0.nodeD x).kind = .var c)
    (h1 : (stepAction d.toEnv (.create (.mapOp (.fm m (.outer k)))) tk0).run.run s0 = (.ok r1, s1))
    (h2 : runActions d.toEnv mid s1 r1.2 = .ok (sm, tkm))
    (h3 : (stabilise d.toEnv fuelDefault).run.run sm = (.ok (), s2))
    (ho : s2.observers[o]? = some ob) (hu : ob.state = .inUse) (hon : ob.node = s0.nodes.size + 2)
    (hc : s2.vars[c]? = some vc) :
    s2.tryGetValue d.toEnv o = .ok (.map (filterMapSpec (opFmFn (d.opParams m)) (asMap vc.value))) := by
  have hcr : DAction d (.create (.mapOp (.fm m (.outer k)))) :=
    ⟨Or.inr ⟨Nat.le_add_right .., by show opBase + m < _; omega⟩, machGood d _ (Or.inl (Nat.le_add_right ..)),
      fun a ha => by simp only [opOpnds, List.mem_cons, List.mem_nil_iff, or_false] at ha; rw [ha]; trivial⟩
  obtain ⟨Q0, Q1, K01, K12, R, -⟩ := history_split hpre hcr hmid h0 h1 h2 h3
  obtain ⟨-, n1, n2, n3, -⟩ := create_mapOp_fm_nodes (QInvW.scope Q0) h1 hk
  have U : UnaryOp s1 (s0.nodes.size + 2) (opBase + m) x := ⟨_, n3, _, n2, n1⟩
  have hx1 : (s1.nodeD x).kind = .var c := by
    rw [K01.kind x (kind_lt hx (fun v h => by cases h))]; exact hx
  rw [unary_reads_later Q1 U hx1 K12 R ho hu hon hc, machSpec_op d (Nat.le_add_right ..),
    opSpec_fm d _ m (decodeOp_fm hm)]

/-- **C15, `incr_unordered_fold` (sum fold; with/without `update`, with/without revert-to-init), whole histories.** -/
theorem fold_history_reads {rev upd : Bool} (hm : m < 10000)
    (hpre : ∀ a, a ∈ pre → DAction d a) (hmid : ∀ a, a ∈ mid → DAction d a)
    (h0 : runActions d.toEnv pre (State.init N dbg) #[] = .ok (s0, tk0))
    (hk : s0.top[k]? = some x) (hx : (s0.nodeD x).kind = .var c)
    (h1 : (stepAction d.toEnv (.create (.mapOp (.fold m rev upd (.outer k)))) tk0).run.run s0 = (.ok r1, s1))
    (h2 : runActions d.toEnv mid s1 r1.2 = .ok (sm, tkm))
    (h3 : (stabilise d.toEnv fuelDefault).run.run sm = (.ok (), s2))
    (ho : s2.observers[o]? = some ob) (hu : ob.state = .inUse) (hon : ob.node = s0.nodes.size + 2)
    (hc : s2.vars[c]? = some vc) :
    s2.tryGetValue d.toEnv o =
      .ok (.int (ufoldSpecSum (opG (d.opParams m)) (d.opParams m).c (asMap vc.value))) := by
  have hle : opBase ≤ opBase + 100000 + (if rev then 20000 else 0) + (if upd then 10000 else 0) + m :=
    opBase_le_opId (.fold m rev upd (.outer k))
  have hlt : opBase + 100000 + (if rev then 20000 else 0) + (if upd then 10000 else 0) + m < opBase + 400000 := by
    cases rev <;> cases upd <;> simp <;> omega
  have hcr : DAction d (.create (.mapOp (.fold m rev upd (.outer k)))) :=
    ⟨Or.inr ⟨hle, hlt⟩, machGood d _ (Or.inl hle),
      fun a ha => by simp only [opOpnds, List.mem_cons, List.mem_nil_iff, or_false] at ha; rw [ha]; trivial⟩
  obtain ⟨Q0, Q1, K01, K12, R, -⟩ := history_split hpre hcr hmid h0 h1 h2 h3
  obtain ⟨-, n1, n2, n3, -⟩ := create_mapOp_fold_nodes (QInvW.scope Q0) h1 hk
  have U : UnaryOp s1 (s0.nodes.size + 2) _ x := ⟨_, n3, _, n2, n1⟩
  have hx1 : (s1.nodeD x).kind = .var c := by
    rw [K01.kind x (kind_lt hx (fun v h => by cases h))]; exact hx
  rw [unary_reads_later Q1 U hx1 K12 R ho hu hon hc, machSpec_op d hle,
    opSpec_fold d _ m rev upd (decodeOp_fold rev upd hm)]

/-- **C15, `incr_partition_mapi`, whole histories.** -/
theorem part_history_reads (hm : m < 100000)
    (hpre : ∀ a, a ∈ pre → DAction d a) (hmid : ∀ a, a ∈ mid → DAction d a)
    (h0 : runActions d.toEnv pre (State.init N dbg) #[] = .ok (s0, tk0))
    (hk : s0.top[k]? = some x) (hx : (s0.nodeD x).kind = .var c)
    (h1 : (stepAction d.toEnv (.create (.mapOp (.part m (.outer k)))) tk0).run.run s0 = (.ok r1, s1))
    (h2 : runActions d.toEnv mid s1 r1.2 = .ok (sm, tkm))
    (h3 : (stabilise d.toEnv fuelDefault).run.run sm = (.ok (), s2))
    (ho : s2.observers[o]? = some ob) (hu : ob.state = .inUse) (hon : ob.node = s0.nodes.size + 2)
    (hc : s2.vars[c]? = some vc) :
    s2.tryGetValue d.toEnv o =
      .ok (.pair (.map (partitionSpec (opPartFn (d.opParams m)) (asMap vc.value)).1)
        (.map (partitionSpec (opPartFn (d.opParams m)) (asMap vc.value)).2)) := by
  have hle : opBase ≤ opBase + 300000 + m := by omega
  have hcr : DAction d (.create (.mapOp (.part m (.outer k)))) :=
    ⟨Or.inr ⟨hle, by show opBase + 300000 + m < _; omega⟩, machGood d _ (Or.inl hle),
      fun a ha => by simp only [opOpnds, List.mem_cons, List.mem_nil_iff, or_false] at ha; rw [ha]; trivial⟩
  obtain ⟨Q0, Q1, K01, K12, R, -⟩ := history_split hpre hcr hmid h0 h1 h2 h3
  obtain ⟨-, n1, n2, n3, -⟩ := create_mapOp_part_nodes (QInvW.scope Q0) h1 hk
  have U : UnaryOp s1 (s0.nodes.size + 2) (opBase + 300000 + m) x := ⟨_, n3, _, n2, n1⟩
  have hx1 : (s1.nodeD x).kind = .var c := by
    rw [K01.kind x (kind_lt hx (fun v h => by cases h))]; exact hx
  rw [unary_reads_later Q1 U hx1 K12 R ho hu hon hc, machSpec_op d hle, opSpec_part d _ m (decodeOp_part hm)]

end unary

/-- **C15, `incr_merge`, whole histories.** -/
theorem merge_history_reads {N : Nat} {dbg : Bool} {pre mid : List Action} {s0 s1 sm s2 : State}
    {tk0 tkm : Array Nat} {r1 : String × Array Nat} {m kx ky x y cx cy o : Nat} {ob : ObsRec} {vx vy : VarCell}
    (hm : m < 100000)
    (hpre : ∀ a, a ∈ pre → DAction d a) (hmid : ∀ a, a ∈ mid → DAction d a)
    (h0 : runActions d.toEnv pre (State.init N dbg) #[] = .ok (s0, tk0))
    (hkx : s0.top[kx]? = some x) (hky : s0.top[ky]? = some y)
    (hx : (s0.nodeD x).kind = .var cx) (hy : (s0.nodeD y).kind = .var cy)
    (h1 : (stepAction d.toEnv (.create (.mapOp (.merge m (.outer kx) (.outer ky)))) tk0).run.run s0 = (.ok r1, s1))
    (h2 : runActions d.toEnv mid s1 r1.2 = .ok (sm, tkm))
    (h3 : (stabilise d.toEnv fuelDefault).run.run sm = (.ok (), s2))
    (ho : s2.observers[o]? = some ob) (hu : ob.state = .inUse) (hon : ob.node = s0.nodes.size + 4)
    (hcx : s2.vars[cx]? = some vx) (hcy : s2.vars[cy]? = some vy) :
    s2.tryGetValue d.toEnv o =
      .ok (.map (mergeSpec' (opMergeFn (d.opParams m)) (asMap vx.value) (asMap vy.value))) := by
  have hle : opBase ≤ opBase + 200000 + m := by omega
  have hcr : DAction d (.create (.mapOp (.merge m (.outer kx) (.outer ky)))) :=
    ⟨Or.inr ⟨hle, by show opBase + 200000 + m < _; omega⟩, machGood d _ (Or.inl hle),
      fun a ha => by
        simp only [opOpnds, List.mem_cons, List.mem_nil_iff, or_false] at ha
        rcases ha with rfl | rfl <;> trivial⟩
  obtain ⟨Q0, Q1, K01, K12, R, -⟩ := history_split hpre hcr hmid h0 h1 h2 h3
  obtain ⟨-, n1, n2, n3, n4, n5, -⟩ := create_mapOp_merge_nodes (QInvW.scope Q0) h1 hkx hky
  have U : MergeOp s1 (s0.nodes.size + 4) (opBase + 200000 + m) x y := ⟨_, n5, _, n4, _, _, n3, n1, n2⟩
  have hx1 : (s1.nodeD x).kind = .var cx := by
    rw [K01.kind x (kind_lt hx (fun v h => by cases h))]; exact hx
  have hy1 : (s1.nodeD y).kind = .var cy := by
    rw [K01.kind y (kind_lt hy (fun v h => by cases h))]; exact hy
  rw [merge_reads_later Q1 U hx1 hy1 K12 R ho hu hon hcx hcy, machSpec_op d hle,
    opSpec_merge d _ m (decodeOp_merge hm)]
  rfl

end IncrVerif.Proofs.MapOldH
