import IncrVerif.Proofs.Quiet23
import IncrVerif.Proofs.CutH36
import IncrVerif.Proofs.Quiet25
/-!
# Part 24: `stabilise` returns
-/
namespace IncrVerif.Proofs.Quiet
open IncrVerif.Engine IncrVerif.Driver IncrVerif.Proofs IncrVerif.Proofs.Step IncrVerif.Proofs.Sched

/-- the state in which `drainHeap` starts (after the two observer loops) satisfies the drain invariant -/
theorem prefix_drainInv {env : Env} {s s0 t2 : State} (Q : QInv env s)
    (hs0 : s0 = { s with status := .stabilising }) (S2 : SInv env t2 [] []) (F : PFrame s0 t2) :
    DrainInv env t2 ∧ VarsOK t2 :=
  have J := CutH.prefix_drainInv Q.toC hs0 S2.toC F.toC
  ⟨inv_ofC J.1, .ofC J.2⟩

/-- **`stabilise` returns** (static fragment, enough fuel), and the extra invariant is kept. -/
theorem stabilise_total_q {env : Env} {N fuel : Nat} {s : State} (Q : QInv env s) (T : TInv N s)
    (hf : 3 * s.nodes.size + 4 ≤ fuel) :
    Tot (stabilise env fuel) s (fun _ s' => TInv N s') :=
  (CutH.stabilise_total_q Q.toC (T.toC Q.eqCut) hf).mono fun _ _ T' => TInv.ofC T'

end IncrVerif.Proofs.Quiet
