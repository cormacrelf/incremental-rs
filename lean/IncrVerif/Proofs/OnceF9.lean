import IncrVerif.Proofs.OnceF4
import IncrVerif.Proofs.OnceF8
/-!
# C02, combined fragment, part 9: INPUTS BEFORE OUTPUTS at every `stabilise`

`OrderStab env fuel s s'`: in the drain of the run `s → s'` of `stabilise` (`t2` tied to the run by the phase equations, as in `OnceStab`), whenever a step `p` comes before a
step `q` in `drainSteps env fuel t2`, the node of `q` is no stable child (`SKid`, taken in the state in which `p` ran) of the node of `p`.
-/
namespace IncrVerif.Proofs.OnceF
open IncrVerif.Engine IncrVerif.Driver IncrVerif.Proofs IncrVerif.Proofs.Step IncrVerif.Proofs.Sched IncrVerif.Proofs.Quiet
open IncrVerif.Proofs.FullH IncrVerif.Proofs.TidyH

/-- INPUTS BEFORE OUTPUTS for the run `s → s'` of `stabilise env fuel` -/
def OrderStab (env : Env) (fuel : Nat) (s s' : State) : Prop :=
  ∃ t1 t2 t3,
    (addNewObservers env fuel).run.run { s with status := .stabilising } = (.ok (), t1) ∧
    (unlinkDisallowedObservers fuel).run.run t1 = (.ok (), t2) ∧
    (drainHeap env fuel).run.run t2 = (.ok (), t3) ∧ (stabiliseEnd env fuel).run.run t3 = (.ok (), s') ∧
    (drainSteps env fuel t2).Pairwise fun p q => ∀ c, SKid p.2 p.1 c → q.1 ≠ c

section
variable {env : Env} {sp : Nat → Val → Val}

theorem stabilise_orderF (E : EnvS env sp) (hF : FirstFn env) {fuel : Nat} {s s' : State} (Q : QInvFE env sp s)
    (h : (stabilise env fuel).run.run s = (.ok (), s')) : OrderStab env fuel s s' := by
  obtain ⟨g, Q⟩ := Q
  obtain ⟨t1, t2, t3, g2, g3, h1, h2, h3, h4, -, -, P, -, -⟩ := stabilise_pathF (kit E hF) Q h
  exact ⟨t1, t2, t3, h1, h2, h3, h4, PathF.order P⟩

/-- at every `stabilise` of a history of the combined fragment -/
theorem history_orderF (E : EnvS env sp) (hF : FirstFn env) {N : Nat} {d : Bool} {as bs : List Action}
    {s : State} {tk : Array Nat} (hH : HistFull env sp 0 (as ++ Action.stabilise :: bs))
    (h : Quiet.runActions env (as ++ Action.stabilise :: bs) (State.init N d) #[] = .ok (s, tk)) :
    ∃ s1 tk1 s2, Quiet.runActions env as (State.init N d) #[] = .ok (s1, tk1) ∧
      (stabilise env fuelDefault).run.run s1 = (.ok (), s2) ∧ OrderStab env fuelDefault s1 s2 ∧
      Quiet.runActions env bs s2 tk1 = .ok (s, tk) := by
  obtain ⟨s1, tk1, s2, k1, k2, k3, -, -, -, k7⟩ := history_c02 E hF hH h
  exact ⟨s1, tk1, s2, k1, k3, stabilise_orderF E hF k2 k3, k7⟩

end
end IncrVerif.Proofs.OnceF
