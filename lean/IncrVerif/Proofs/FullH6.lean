import IncrVerif.Proofs.FullH2
/-!
# C01 full fragment: simulation of the heap, height and necessity functions
-/
namespace IncrVerif.Proofs.FullH
open IncrVerif.Engine IncrVerif.Proofs IncrVerif.Proofs.Step IncrVerif.Proofs.Sched IncrVerif.Proofs.Quiet

/-- registered `Sim` lemmas -/
syntax "fsim_leaf" : tactic
macro_rules | `(tactic| fsim_leaf) => `(tactic| fail "no leaf")

-- After `mod_seq`: `exact rfl`, not `rfl`.  On the simulation goal that stays open the `rfl` tactic would compare the two continuations,
-- unfolding both programs, before it gives up.
set_option hygiene false in
macro "fsim_step" : tactic => `(tactic| first
  | with_reducible exact SimAt.ret _
  | with_reducible exact SimAt.thr _ _
  | with_reducible exact SimAt.pan _ _
  | ((with_reducible refine SimAt.get_seq ?_); try fnorm)
  | ((with_reducible refine SimAt.getNode_seq fun nd hnd hne => ?_); try fnorm)
  | ((with_reducible refine SimAt.mod_seq ?_ ?_ ?_) <;> (first | exact rfl | skip))
  | ((with_reducible refine SimAt.mod ?_ ?_) <;> rfl)
  | (with_reducible refine SimAt.seq ?_ fun _ _ _ => ?_)
  | ((with_reducible refine Sim.at ?_ _); fsim_leaf)
  | ((with_reducible refine Sim.at (Sim.forIn _ (fun _ _ => ?_) _) _); intro _)
  | (refine SimAt.cond Iff.rfl (fun _ => ?_) (fun _ => ?_)))

macro "fsim" : tactic => `(tactic| repeat' fsim_step)

set_option hygiene false in
/-- a `match` on the kind of the node last read by `getNode` -/
macro "fsim_kind" : tactic => `(tactic| (
  simp only [virtNode_kind?]
  rcases hk : nd.kind? with _ | k
  all_goals try cases k
  all_goals simp only [Option.map_none, Option.map_some, virtKind]
  all_goals try exact absurd (kind_of_kind? hk) (hne _)
  fsim))

section
variable {K : Kind → Prop} {g : Nat → Option Val}

macro_rules | `(tactic| fsim_leaf) => `(tactic| with_reducible exact Sim.dassert _ _)
macro_rules | `(tactic| fsim_leaf) => `(tactic| with_reducible exact Sim.assertM _ _)
macro_rules | `(tactic| fsim_leaf) => `(tactic| ((with_reducible refine Sim.modNode _ ?_ ?_) <;> first | fcomm | fkind))

theorem Sim.addParent (c i p : Nat) : Sim K g (Engine.addParent c i p) (Engine.addParent c i p) :=
  .of_comm fun s0 => NodeSim.Comm.addParent (blind s0) (addsParents s0) c i p
macro_rules | `(tactic| fsim_leaf) => `(tactic| with_reducible exact Sim.addParent _ _ _)

theorem Sim.setHeight (n : Nat) (h : Int) : Sim K g (Engine.setHeight n h) (Engine.setHeight n h) :=
  .of_comm fun s0 => NodeSim.Comm.setHeight (blind s0) n h
macro_rules | `(tactic| fsim_leaf) => `(tactic| with_reducible exact Sim.setHeight _ _)

theorem Sim.rchLink (n : Nat) : Sim K g (Engine.rchLink n) (Engine.rchLink n) :=
  .of_comm fun s0 => NodeSim.Comm.rchLink (blind s0) n
macro_rules | `(tactic| fsim_leaf) => `(tactic| with_reducible exact Sim.rchLink _)

theorem Sim.rchInsert (n : Nat) : Sim K g (Engine.rchInsert n) (Engine.rchInsert n) :=
  .of_comm fun s0 => NodeSim.Comm.rchInsert (blind s0) n
macro_rules | `(tactic| fsim_leaf) => `(tactic| with_reducible exact Sim.rchInsert _)

/-! ## flag-only work is invisible in the virtual state -/

/-- `s'` has the same virtual state as `s` (and the same kinds) -/
structure VEq (g : Nat → Option Val) (s s' : State) : Prop where
  veq : virt g s' = virt g s
  kind : ∀ m, (s'.nodeD m).kind = (s.nodeD m).kind
  flag : ∀ m, (s'.nodeD m).didChange = false → (s.nodeD m).didChange = false
  cutoff : ∀ m, (s'.nodeD m).cutoff = (s.nodeD m).cutoff

instance : Step.PreOrd (VEq g) :=
  ⟨fun _ => ⟨rfl, fun _ => rfl, fun _ h => h, fun _ => rfl⟩, fun h1 h2 => ⟨h2.veq.trans h1.veq, fun m => (h2.kind m).trans (h1.kind m),
    fun m h => h1.flag m (h2.flag m h), fun m => (h2.cutoff m).trans (h1.cutoff m)⟩⟩

theorem VEq.modNode (s : State) (n : Nat) (f : Node → Node)
    (hf : ∀ gv x, virtNode gv (f x) = virtNode gv x ∧ (f x).kind = x.kind ∧
      ((f x).didChange = false → x.didChange = false) ∧ (f x).cutoff = x.cutoff) :
    VEq g s { s with nodes := s.nodes.modify n f } := by
  refine ⟨?_, fun m => ?_, fun m h => ?_, fun m => ?_⟩
  · unfold virt
    congr 1
    apply Array.ext
    · simp
    · intro i h1 h2
      simp only [Array.getElem_mapIdx, Array.getElem_modify]
      split
      · exact (hf _ _).1
      · rfl
  · rw [nodeD_modify]; split
    · exact (hf none _).2.1
    · rfl
  · rw [nodeD_modify] at h; split at h
    · exact (hf none _).2.2.1 h
    · exact h
  · rw [nodeD_modify]; split
    · exact (hf none _).2.2.2
    · rfl

theorem PresV.modNode (n : Nat) (f : Node → Node)
    (hf : ∀ gv x, virtNode gv (f x) = virtNode gv x ∧ (f x).kind = x.kind ∧
      ((f x).didChange = false → x.didChange = false) ∧ (f x).cutoff = x.cutoff) :
    Step.Pres (VEq g) (Engine.modNode n f) := by
  unfold Engine.modNode; exact Step.Pres.modify fun s => VEq.modNode s n f hf

/-- closes `∀ gv x, virtNode gv (f x) = virtNode gv x ∧ (f x).kind = x.kind ∧ ((f x).didChange = false → x.didChange = false) ∧ (f x).cutoff = x.cutoff`
for an `f` that only RAISES `didChange` (`true` or `x.didChange || b`) -/
macro "fflag" : tactic => `(tactic| (intro gv nd
                                     refine ⟨?_, rfl, fun h => (by first | cases h | exact (Bool.or_eq_false_iff.1 h).1), rfl⟩
                                     rcases nd with ⟨k⟩; cases k <;> rfl))

macro_rules | `(tactic| qleaf) => `(tactic| ((with_reducible apply PresV.modNode); fflag))

theorem PresV.markMapRefUnknown (fuel n : Nat) : Step.Pres (VEq g) (Engine.markMapRefUnknown fuel n) := by
  induction fuel generalizing n with
  | zero => unfold Engine.markMapRefUnknown; qpres
  | succ fuel ih =>
    unfold Engine.markMapRefUnknown
    qpres
    all_goals first
      | exact ih _
      | (apply Step.Pres.forIn; intro a b; qpres; exact ih _)

theorem VEq.valid {s s' : State} (h : VEq g s s') (n : Nat) : (s'.nodeD n).valid = (s.nodeD n).valid := by
  have h1 : ((virt g s').nodeD n).valid = ((virt g s).nodeD n).valid := by rw [h.veq]
  rwa [virt_nodeD, virt_nodeD, virtNode_valid, virtNode_valid] at h1

theorem VEq.size {s s' : State} (h : VEq g s s') : s'.nodes.size = s.nodes.size := by
  have h1 : (virt g s').nodes.size = (virt g s).nodes.size := by rw [h.veq]
  rwa [virt_size, virt_size] at h1

theorem VEq.fr {s s' : State} (h : VEq g s s') (hn : Fr K g s) : Fr K g s' := by
  refine ⟨fun n hs => ?_, fun n e => ?_, fun n => ?_, fun n hs => hn.fresh n (by rw [← h.size]; exact hs)⟩
  · rw [h.kind]; exact hn.kinds n (by rw [← h.size]; exact hs)
  · rw [h.kind]; exact hn.noExp n e
  · rw [h.kind, h.cutoff]; exact hn.cut n

theorem VEq.vm {s s' : State} (h : VEq g s s') : VM s s' := by
  refine ⟨Nat.le_of_eq h.size.symm, fun m hv => by rw [h.valid]; exact hv, fun m _ => ⟨h.kind m, ?_, ?_⟩, fun m _ => h.flag m,
    fun m h1 h2 => absurd h2 (by have := h.size; omega)⟩
  · exact h.cutoff m
  · have h2 : ((virt g s').nodeD m).oldState = ((virt g s).nodeD m).oldState := by rw [h.veq]
    rwa [virt_nodeD, virt_nodeD, virtNode_oldState, virtNode_oldState] at h2

/-- a program that only does flag work is simulated by doing nothing -/
theorem SimAt.of_veq {s : State} {x : M Unit} (h : Step.Pres (VEq g) x) : SimAt K g s x (pure ()) := by
  intro hn r s' hr
  have hv := h.h s _ s' hr
  rw [run_pure, hv.veq]; exact ⟨rfl, hv.fr hn, hv.vm⟩

theorem virt_markMapRefUnknown_run (fuel n : Nat) (s : State) (nd : Node) (h : s.nodes[n]? = some nd) :
    (Engine.markMapRefUnknown (fuel + 1) n).run.run (virt g s) = (.ok (), virt g s) := by
  unfold Engine.markMapRefUnknown
  have hv : (virt g s).nodes[n]? = some (virtNode (g n) nd) := by rw [virt_getElem?, h]; rfl
  rw [run_bind_ok (run_getNode_some hv), virtNode_kind?]
  cases hk : nd.kind? with
  | none => rfl
  | some k => cases k <;> rfl

theorem Sim.markMapRefUnknown (fuel n : Nat) :
    Sim K g (Engine.markMapRefUnknown fuel n) (Engine.markMapRefUnknown fuel n) := by
  intro s hn r s' hr
  cases fuel with
  | zero => unfold Engine.markMapRefUnknown at hr; cases hr
  | succ fuel =>
    have hv := (PresV.markMapRefUnknown (g := g) (fuel + 1) n).h s _ s' hr
    unfold Engine.markMapRefUnknown at hr
    obtain ⟨nd, hnd, -⟩ := bind_getNode_inv hr
    rw [virt_markMapRefUnknown_run fuel n s nd hnd, hv.veq]; exact ⟨rfl, hv.fr hn, hv.vm⟩
macro_rules | `(tactic| fsim_leaf) => `(tactic| with_reducible exact Sim.markMapRefUnknown _ _)
macro_rules | `(tactic| qleaf) => `(tactic| with_reducible apply PresV.markMapRefUnknown)

theorem refWork (s0 : State) : NodeSim.RefWork (fun _ => False) (rel g) (fun t => Fr K g t ∧ VM s0 t) where
  ref {_ _ nd} _ _ p j h := virtNode_not_mapRef none nd p j ((virtNode_kind none nd).trans h)
  mark fuel n := (Sim.markMapRefUnknown fuel n).comm s0
  late fuel n _ _ _ _ _ _ _ := .of_unseen fun hI r s1 hr hE => by
    cases r with
    | error p => exact (hE p rfl).elim
    | ok u =>
      have hv := (PresV.markMapRefUnknown (g := g) fuel n).h _ _ s1 hr
      exact ⟨rfl, by rw [← virt_eq, ← virt_eq]; exact hv.veq, hv.fr hI.1, hI.2.trans hv.vm⟩

theorem refWorkX {g0 : Nat → Option Val} {s0 : State} : NodeSim.RefWork (fun _ => False) (rel g) (IX K g0 s0 g) where
  ref {_ _ nd} _ _ p j h := virtNode_not_mapRef none nd p j ((virtNode_kind none nd).trans h)
  mark fuel n s := commAt_IX ((refWork s).mark fuel n s)
  late fuel n _ _ _ _ _ hnd hk := commAt_IX ((refWork _).late fuel n hnd hk)

end
end IncrVerif.Proofs.FullH
