import IncrVerif.Proofs.MapOld1
/-!
# "patch" lemmas: giving the current node a value it does not have yet

If the current node `n` of the scheduling invariant has no stored value, pretending that it stores `some v` keeps the
invariant: nothing but `Inv.cons` reads stored values, and neither `n` nor a parent of `n` can be non-stale.
-/
namespace IncrVerif.Proofs.MapOldH
open IncrVerif.Engine IncrVerif.Proofs IncrVerif.Proofs.Step IncrVerif.Proofs.Sched IncrVerif.Proofs.Quiet

/-- `setValue` only touches the `value` field -/
theorem setValue_nodeD_with (n : Nat) (v : Option Val) (S : State) (m : Nat) :
    ∃ w, (setValue n v S).nodeD m = { S.nodeD m with value := w } := by
  rw [setValue_nodeD]
  split
  · exact ⟨v, rfl⟩
  · exact ⟨(S.nodeD m).value, rfl⟩

theorem setValue_kind (n : Nat) (v : Option Val) (S : State) (m : Nat) :
    ((setValue n v S).nodeD m).kind = (S.nodeD m).kind := by
  obtain ⟨w, e⟩ := setValue_nodeD_with n v S m; rw [e]

theorem setValue_kind? (n : Nat) (v : Option Val) (S : State) (m : Nat) :
    ((setValue n v S).nodeD m).kind? = (S.nodeD m).kind? := by
  obtain ⟨w, e⟩ := setValue_nodeD_with n v S m; rw [e]; rfl

theorem setValue_recomputedAt (n : Nat) (v : Option Val) (S : State) (m : Nat) :
    ((setValue n v S).nodeD m).recomputedAt = (S.nodeD m).recomputedAt := by
  obtain ⟨w, e⟩ := setValue_nodeD_with n v S m; rw [e]

theorem setValue_changedAt (n : Nat) (v : Option Val) (S : State) (m : Nat) :
    ((setValue n v S).nodeD m).changedAt = (S.nodeD m).changedAt := by
  obtain ⟨w, e⟩ := setValue_nodeD_with n v S m; rw [e]

theorem setValue_heightInRch (n : Nat) (v : Option Val) (S : State) (m : Nat) :
    ((setValue n v S).nodeD m).heightInRch = (S.nodeD m).heightInRch := by
  obtain ⟨w, e⟩ := setValue_nodeD_with n v S m; rw [e]

theorem setValue_inRch (n : Nat) (v : Option Val) (S : State) (m : Nat) :
    ((setValue n v S).nodeD m).inRch = (S.nodeD m).inRch := by
  obtain ⟨w, e⟩ := setValue_nodeD_with n v S m; rw [e]; rfl

theorem setValue_shape (n : Nat) (v : Option Val) (S : State) (m : Nat) :
    SameShape (S.nodeD m) ((setValue n v S).nodeD m) := by
  obtain ⟨w, e⟩ := setValue_nodeD_with n v S m; rw [e]
  exact ⟨rfl, rfl, rfl, rfl, rfl, rfl, rfl, rfl⟩

theorem setValue_value_ne {n m : Nat} (v : Option Val) (S : State) (h : m ≠ n) :
    ((setValue n v S).nodeD m).value = (S.nodeD m).value := by
  rw [setValue_nodeD, if_neg (fun e => h e.1.symm)]

theorem setValue_size (n : Nat) (v : Option Val) (S : State) :
    (setValue n v S).nodes.size = S.nodes.size := by
  simp [setValue]

theorem setValue_children (n : Nat) (v : Option Val) (S : State) (m : Nat) :
    (setValue n v S).children m = S.children m := by
  unfold State.children
  rw [setValue_kind?]
  rfl

/-- staleness, necessity, children, shapes do not read stored values -/
theorem setValue_isStale (n : Nat) (v : Option Val) (S : State) (m : Nat) :
    (setValue n v S).isStale m = S.isStale m := by
  unfold State.isStale
  simp only [setValue_children, setValue_kind?, setValue_recomputedAt, setValue_changedAt]
  rfl

theorem setValue_isNecessary (n : Nat) (v : Option Val) (S : State) (m : Nat) :
    (setValue n v S).isNecessary m = S.isNecessary m :=
  isNecessary_of_shape (setValue_shape n v S) m

theorem setValue_staleOf (n : Nat) (v : Option Val) (S : State) (m : Nat) :
    staleOf (setValue n v S) m = staleOf S m :=
  staleOf_congr (setValue_kind n v S m) (setValue_recomputedAt n v S m) rfl
    (fun c _ => setValue_changedAt n v S c)

/-- the defining expression of a node that does not have `n` among its children is unaffected -/
theorem Target.setValue_iff {env : Env} {S : State} {n m : Nat} {v : Option Val} {w : Val}
    (h : n ∉ kids (S.nodeD m).kind) : Target env (setValue n v S) m w ↔ Target env S m w := by
  have hc : ∀ c, c ∈ kids (S.nodeD m).kind → ((setValue n v S).nodeD c).value = (S.nodeD c).value := by
    intro c hc
    exact setValue_value_ne v S (fun e => h (e ▸ hc))
  constructor
  · intro ht
    refine Target.congr (s := setValue n v S) (s' := S) (setValue_kind n v S m).symm rfl ?_ ht
    intro c hcm
    rw [setValue_kind] at hcm
    exact (hc c hcm).symm
  · intro ht
    exact Target.congr (s := S) (s' := setValue n v S) (setValue_kind n v S m) rfl hc ht

/-- every child of a node that has a target carries a value -/
theorem Target.kids_valued {env : Env} {S : State} {m : Nat} {w : Val} (h : Target env S m w) :
    ∀ c, c ∈ kids (S.nodeD m).kind → ∃ v, (S.nodeD c).value = some v := by
  unfold Target at h
  cases hk : (S.nodeD m).kind <;> rw [hk] at h <;> intro c hc <;> simp only [kids] at hc <;>
    first
    | (cases hc; done)
    | (obtain ⟨vals, h1, -⟩ := h; exact evalArgs_some_mem _ _ vals h1 c hc)

/-- a consistent node other than the valueless `n` stays consistent -/
theorem Consistent.patch {env : Env} {S : State} {n m : Nat} {v : Option Val}
    (hv : (S.nodeD n).value = none) (hc : Consistent env S m) : Consistent env (setValue n v S) m := by
  obtain ⟨w, ht, hw⟩ := hc
  have hne : m ≠ n := by intro e; rw [e, hv] at hw; cases hw
  have hk : n ∉ kids (S.nodeD m).kind := by
    intro hk
    obtain ⟨u, hu⟩ := Target.kids_valued ht n hk
    rw [hv] at hu; cases hu
  exact ⟨w, (Target.setValue_iff hk).2 ht, by rw [setValue_value_ne v S hne]; exact hw⟩

theorem Inv.patch {env : Env} {S : State} {n : Nat} {v : Val} (I : Inv env S (some n))
    (hv : (S.nodeD n).value = none) : Inv env (setValue n (some v) S) (some n) := by
  have hsh := setValue_shape n (some v) S
  refine ⟨I.graph.transfer (setValue_size _ _ _) hsh rfl I.graph.pc, ?_, ?_, ?_, ?_, ?_, ?_⟩
  · exact I.heap.congr rfl (setValue_size _ _ _)
      (fun m => ⟨setValue_heightInRch _ _ _ m, (hsh m).height, setValue_isNecessary _ _ _ m⟩)
  · refine ⟨I.stamps.now, ?_, I.stamps.var⟩
    intro m
    rw [setValue_recomputedAt, setValue_changedAt]
    exact I.stamps.node m
  · intro m hm hst
    rw [setValue_isNecessary] at hm
    rw [setValue_isStale] at hst
    rw [setValue_inRch]
    exact I.pending m hm hst
  · intro m hm hst
    rw [setValue_isNecessary] at hm
    rw [setValue_isStale] at hst
    exact Consistent.patch hv (I.cons m hm hst)
  · intro d hd a ha
    rw [setValue_inRch] at hd
    rw [Anc.transfer_iff hsh] at ha
    rw [setValue_recomputedAt]
    exact I.fresh d hd a ha
  · intro k hk
    obtain ⟨h1, h2⟩ := I.cur k hk
    refine ⟨by rw [setValue_isNecessary]; exact h1, ?_⟩
    intro d hd
    rw [Anc.transfer_iff hsh] at hd
    rw [setValue_inRch]
    exact h2 d hd

set_option linter.unusedVariables false in
theorem UnnecOK.patch {env : Env} {S : State} {n : Nat} {v : Val} (hU : UnnecOK env S)
    (hn : S.isNecessary n = true) (hv : (S.nodeD n).value = none) :
    UnnecOK env (setValue n (some v) S) := by
  intro m hm hnm
  rw [setValue_size] at hm
  rw [setValue_isNecessary] at hnm
  obtain ⟨h1, h2⟩ := hU m hm hnm
  refine ⟨by rw [setValue_recomputedAt]; exact h1, fun hs => ?_⟩
  rw [setValue_staleOf] at hs
  exact Consistent.patch hv (h2 hs)

/-- the target of `n` itself is unaffected (a necessary node is not its own child: children are strictly lower) -/
theorem Target.patch_self {env : Env} {S : State} {n : Nat} {v : Val} {w : Val} (g : Graph env S)
    (hn : S.isNecessary n = true) (h : Target env S n w) : Target env (setValue n (some v) S) n w := by
  refine (Target.setValue_iff ?_).2 h
  intro hk
  have := (g.kids_nec hn hk).2
  omega

end IncrVerif.Proofs.MapOldH
