import IncrVerif.Proofs.NestH19
import IncrVerif.Proofs.BindH62
import IncrVerif.Proofs.BindH71
/-!
# Nested binds (F2), phase 3 (`lhsInvalidateOld`), part 1: the dying set, the exact description `Mid2` of the final state, reference states

* `Dying s dy` (N2f): basic facts (monotone, transitive, split into the subtrees of the roots, congruence).
* `Mid2 s D t`: `t` is `s` with exactly the nodes of `D` invalidated (`CI.deadNode`) and the lists of the binds whose main node is in `D` emptied.
* `opened r b2 s`: the reference state while the main node `r` of the inner bind `b2` is being invalidated (stamped, its list emptied).
* `Sub rk s r` (`NestH32`): what the run needs to know about the dying subtree of `r` (in the reference state `s`).
-/
namespace IncrVerif.Proofs.NestH
open IncrVerif.Engine IncrVerif.Proofs IncrVerif.Proofs.Step IncrVerif.Proofs.Sched IncrVerif.Proofs.Quiet
open IncrVerif.Proofs.BindH

namespace NI

/-! ## the dying set -/

theorem dying_mono {s : State} {dy dy' : List Nat} (h : ∀ m, m ∈ dy → m ∈ dy') {m : Nat} (hm : Dying s dy m) :
    Dying s dy' m := by
  induction hm with
  | base h1 => exact .base (h _ h1)
  | inner _ hk hl hv hsc ih => exact .inner ih hk hl hv hsc

theorem dying_trans {s : State} {dy : List Nat} {p m : Nat} (hp : Dying s dy p) (hm : Dying s [p] m) :
    Dying s dy m := by
  induction hm with
  | base h1 =>
    rw [List.mem_singleton] at h1
    rw [h1]; exact hp
  | inner _ hk hl hv hsc ih => exact .inner ih hk hl hv hsc

theorem dying_of_mem {s : State} {dy : List Nat} {r m : Nat} (hr : r ∈ dy) (hm : Dying s [r] m) : Dying s dy m :=
  dying_trans (.base hr) hm

theorem dying_split {s : State} {dy : List Nat} {m : Nat} (hm : Dying s dy m) : ∃ r, r ∈ dy ∧ Dying s [r] m := by
  induction hm with
  | base h1 => exact ⟨_, h1, .base (List.mem_singleton.2 rfl)⟩
  | inner _ hk hl hv hsc ih =>
    obtain ⟨r, hr, hd⟩ := ih
    exact ⟨r, hr, .inner hd hk hl hv hsc⟩

theorem dying_self (s : State) (r : Nat) : Dying s [r] r := .base (List.mem_singleton.2 rfl)

theorem dying_nil {s : State} {m : Nat} (hm : Dying s [] m) : False := by
  induction hm with
  | base h1 => cases h1
  | inner _ _ _ _ _ ih => exact ih

theorem dying_cons {s : State} {a : Nat} {l : List Nat} {m : Nat} :
    Dying s (a :: l) m ↔ (Dying s [a] m ∨ Dying s l m) := by
  constructor
  · intro h
    obtain ⟨r, hr, hd⟩ := dying_split h
    rcases List.mem_cons.1 hr with e | e
    · subst e; exact Or.inl hd
    · exact Or.inr (dying_of_mem e hd)
  · rintro (h | h)
    · exact dying_mono (fun x hx => by rw [List.mem_singleton.1 hx]; exact List.mem_cons_self ..) h
    · exact dying_mono (fun x hx => List.mem_cons_of_mem _ hx) h

/-- the two states have the same skeleton: node count, kinds, validity, scopes -/
structure SameSk (s t : State) : Prop where
  size : t.nodes.size = s.nodes.size
  kind : ∀ m, (t.nodeD m).kind = (s.nodeD m).kind
  valid : ∀ m, (t.nodeD m).valid = (s.nodeD m).valid
  createdIn : ∀ m, (t.nodeD m).createdIn = (s.nodeD m).createdIn

theorem SameSk.symm {s t : State} (h : SameSk s t) : SameSk t s :=
  ⟨h.size.symm, fun m => (h.kind m).symm, fun m => (h.valid m).symm, fun m => (h.createdIn m).symm⟩

theorem dying_congr1 {s t : State} (h : SameSk s t) {dy : List Nat} {m : Nat} (hm : Dying s dy m) : Dying t dy m := by
  induction hm with
  | base h1 => exact .base h1
  | inner _ hk hl hv hsc ih =>
    exact .inner ih (by rw [h.kind]; exact hk) (by rw [h.size]; exact hl) (by rw [h.valid]; exact hv)
      (by rw [h.createdIn]; exact hsc)

theorem dying_congr {s t : State} (h : SameSk s t) (dy : List Nat) (m : Nat) : Dying t dy m ↔ Dying s dy m :=
  ⟨dying_congr1 h.symm, dying_congr1 h⟩

/-- a node that is not the main node of a bind dies alone -/
theorem dying_leaf {s : State} {r m : Nat} (hk : ∀ b lc, (s.nodeD r).kind ≠ .bindMain b lc) (hm : Dying s [r] m) :
    m = r := by
  induction hm with
  | base h1 => exact List.mem_singleton.1 h1
  | inner _ hk' _ _ _ ih =>
    rw [ih] at hk'
    exact absurd hk' (hk _ _)

/-- `D` contains, with a node, its dying subtree -/
def Closed (s : State) (D : Nat → Prop) : Prop := ∀ p m, D p → Dying s [p] m → D m

theorem closed_or {s : State} {D : Nat → Prop} {l : List Nat} (h : Closed s D) :
    Closed s (fun m => D m ∨ Dying s l m) := by
  intro p m hp hm
  rcases hp with hp | hp
  · exact Or.inl (h p m hp hm)
  · exact Or.inr (dying_trans hp hm)

theorem closed_false (s : State) : Closed s (fun _ => False) := fun _ _ h _ => h

/-! ## the exact description of the state after the nodes of `D` have died -/

/-- the state `t` is `s` with exactly the nodes of `D` invalidated and the lists of the binds whose main node is in `D` emptied -/
structure Mid2 (s : State) (D : Nat → Prop) (t : State) : Prop where
  size : t.nodes.size = s.nodes.size
  other : ∀ m, ¬ D m → t.nodeD m = s.nodeD m
  dead : ∀ m, D m → t.nodeD m = CI.deadNode (s.nodeD m) s.stabNum
  bindsSize : t.binds.size = s.binds.size
  binds : ∀ (b' : Nat) (br0 : BindRec), s.binds[b']? = some br0 →
    (D br0.main → t.binds[b']? = some { br0 with allNodesCreatedOnRhs := [] }) ∧
    (¬ D br0.main → t.binds[b']? = some br0)
  vars : t.vars = s.vars
  stabNum : t.stabNum = s.stabNum
  status : t.status = s.status
  cfg : t.cfg = s.cfg
  scope : t.currentScope = s.currentScope
  pc : t.panicCountdown = s.panicCountdown
  rch : t.rch = s.rch
  ahh : t.ahh = s.ahh
  top : t.top = s.top
  pinv : t.propagateInvalidity = s.propagateInvalidity

theorem Mid2.refl (s : State) : Mid2 s (fun _ => False) s :=
  ⟨rfl, fun _ _ => rfl, fun _ h => h.elim, rfl, fun _ _ h => ⟨fun h' => h'.elim, fun _ => h⟩,
    rfl, rfl, rfl, rfl, rfl, rfl, rfl, rfl, rfl, rfl⟩

theorem Mid2.congr {s t : State} {D D' : Nat → Prop} (M : Mid2 s D t) (h : ∀ m, D' m ↔ D m) : Mid2 s D' t :=
  ⟨M.size, fun m hm => M.other m (fun hd => hm ((h m).2 hd)), fun m hm => M.dead m ((h m).1 hm), M.bindsSize,
    fun b' br0 hb => ⟨fun hd => (M.binds b' br0 hb).1 ((h _).1 hd), fun hd => (M.binds b' br0 hb).2 (fun hd' => hd ((h _).2 hd'))⟩,
    M.vars, M.stabNum, M.status, M.cfg, M.scope, M.pc, M.rch, M.ahh, M.top, M.pinv⟩

/-- kinds, scopes of `t` are those of `s`; validity outside `D` too -/
theorem Mid2.kindEq {s t : State} {D : Nat → Prop} (M : Mid2 s D t) (m : Nat) : (t.nodeD m).kind = (s.nodeD m).kind := by
  by_cases h : D m
  · rw [M.dead m h]; rfl
  · rw [M.other m h]

theorem Mid2.createdEq {s t : State} {D : Nat → Prop} (M : Mid2 s D t) (m : Nat) :
    (t.nodeD m).createdIn = (s.nodeD m).createdIn := by
  by_cases h : D m
  · rw [M.dead m h]; rfl
  · rw [M.other m h]

/-! ## the reference state while a main node is being invalidated -/

/-- the bookkeeping at the start of `invalidate_node` -/
def stamp (now : Int) (x : Node) : Node := { x with value := none, changedAt := now, recomputedAt := now }

/-- `s` with node `r` stamped and the list of bind `b2` emptied -/
def opened (r b2 : Nat) (s : State) : State :=
  { s with nodes := s.nodes.modify r (stamp s.stabNum),
           binds := s.binds.modify b2 fun x => { x with allNodesCreatedOnRhs := [] } }

theorem opened_nodeD (r b2 m : Nat) (s : State) :
    (opened r b2 s).nodeD m = if r = m ∧ m < s.nodes.size then stamp s.stabNum (s.nodeD m) else s.nodeD m :=
  Inval.nodeD_of_modify (t := opened r b2 s) (s := s) (n := r) (f := stamp s.stabNum) rfl m

theorem opened_other {r b2 m : Nat} (s : State) (h : m ≠ r) : (opened r b2 s).nodeD m = s.nodeD m := by
  rw [opened_nodeD, if_neg (fun hc => h hc.1.symm)]

theorem opened_binds (r b2 b' : Nat) (s : State) :
    (opened r b2 s).binds[b']? =
      if b2 = b' then (s.binds[b']?).map (fun x => { x with allNodesCreatedOnRhs := [] }) else s.binds[b']? := by
  unfold opened
  simp only [Array.getElem?_modify]

theorem opened_sameSk (r b2 : Nat) (s : State) : SameSk s (opened r b2 s) := by
  refine ⟨by simp [opened], fun m => ?_, fun m => ?_, fun m => ?_⟩ <;>
  · rw [opened_nodeD]
    split <;> rfl

end NI

end IncrVerif.Proofs.NestH
