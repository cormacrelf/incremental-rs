import IncrVerif.Proofs.BindH61
/-!
# Binds, fragment F1, phase 3 (`lhsInvalidateOld`), part 1: the run

* `invalidateNode_dying_run`: `invalidateNode` on a valid, unnecessary, unqueued node that is not a bind's main node and has no update handlers is a pure
  update of that node (`Inval.invalidated`).
* `Mid s D t`: the EXACT description of the state `t` reached from `s` after the nodes of the set `D` have been invalidated: the nodes of `D` are
  `deadNode (s.nodeD m) s.stabNum`, all other nodes and all the fields the invariants read are as in `s`.
* `loop_mid`: the loop `for r in l do invalidateNode fuel r` establishes `Mid s (· ∈ l) t'`.
* `lhsInvalidateOld_mid`: the whole phase.
-/
namespace IncrVerif.Proofs.BindH
open IncrVerif.Engine IncrVerif.Proofs IncrVerif.Proofs.Step IncrVerif.Proofs.Sched IncrVerif.Proofs.Quiet

namespace CI

/-- node `nd` after `invalidate_node` at round `now` -/
def deadNode (nd : Node) (now : Int) : Node :=
  { nd with valid := false, value := none, changedAt := now, recomputedAt := now }

/-- the state `t` is `s` with exactly the nodes of `D` invalidated -/
structure Mid (s : State) (D : Nat → Prop) (t : State) : Prop where
  size : t.nodes.size = s.nodes.size
  other : ∀ m, ¬ D m → t.nodeD m = s.nodeD m
  dead : ∀ m, D m → t.nodeD m = deadNode (s.nodeD m) s.stabNum
  binds : t.binds = s.binds
  vars : t.vars = s.vars
  stabNum : t.stabNum = s.stabNum
  status : t.status = s.status
  cfg : t.cfg = s.cfg
  scope : t.currentScope = s.currentScope
  pc : t.panicCountdown = s.panicCountdown
  rch : t.rch = s.rch
  ahh : t.ahh = s.ahh
  top : t.top = s.top
  pinv : t.propagateInvalidity = s.propagateInvalidity

theorem Mid.refl (s : State) : Mid s (fun _ => False) s :=
  ⟨rfl, fun _ _ => rfl, fun _ h => h.elim, rfl, rfl, rfl, rfl, rfl, rfl, rfl, rfl, rfl, rfl, rfl⟩

theorem Mid.congr {s t : State} {D D' : Nat → Prop} (M : Mid s D t) (h : ∀ m, D' m ↔ D m) : Mid s D' t :=
  ⟨M.size, fun m hm => M.other m (fun hd => hm ((h m).2 hd)), fun m hm => M.dead m ((h m).1 hm), M.binds, M.vars,
    M.stabNum, M.status, M.cfg, M.scope, M.pc, M.rch, M.ahh, M.top, M.pinv⟩

/-! ## one `invalidateNode` -/

/-- what makes a node of `s` a "dying leaf" -/
structure Leaf (s : State) (a : Nat) : Prop where
  lt : a < s.nodes.size
  valid : (s.nodeD a).valid = true
  nec : s.isNecessary a = false
  kind : ∀ b lc, (s.nodeD a).kind ≠ .bindMain b lc
  unq : (s.nodeD a).inRch = false
  noh : (s.nodeD a).numOnUpdateHandlers = 0

/-- THE CLOSED FORM: a valid, unnecessary, unqueued node that is not a bind's main node -/
theorem invalidateNode_dying_run (fuel r : Nat) (t : State) (hlt : r < t.nodes.size)
    (hv : (t.nodeD r).valid = true) (hnec : t.isNecessary r = false)
    (hk : ∀ b lc, (t.nodeD r).kind ≠ .bindMain b lc) (hq : (t.nodeD r).inRch = false) :
    (invalidateNode (fuel + 1) r).run.run t = (.ok (), Inval.invalidated r t) := by
  rw [Inval.invalidateNode_leaf_run fuel r t (t.nodeD r) (some_of_lt hlt) hv hnec hk, if_neg]
  simpa [Node.inRch] using hq

theorem invalidated_nodeD0 (r : Nat) (t : State) (hlt : r < t.nodes.size)
    (h0 : (t.nodeD r).numOnUpdateHandlers = 0) :
    (Inval.invalidated r t).nodeD r = deadNode (t.nodeD r) t.stabNum := by
  rw [Inval.invalidated_nodeD r t _ (some_of_lt hlt)]
  have : decide ((t.nodeD r).numOnUpdateHandlers > 0) = false := by rw [h0]; rfl
  rw [this, Bool.or_false]
  rfl

theorem invalidated_rest (r : Nat) (t : State) :
    (Inval.invalidated r t).vars = t.vars ∧ (Inval.invalidated r t).status = t.status ∧
    (Inval.invalidated r t).cfg = t.cfg ∧ (Inval.invalidated r t).currentScope = t.currentScope ∧
    (Inval.invalidated r t).panicCountdown = t.panicCountdown ∧ (Inval.invalidated r t).ahh = t.ahh ∧
    (Inval.invalidated r t).top = t.top := by
  unfold Inval.invalidated Inval.markedInvalid Inval.invStamped Inval.handled
  split <;> simp

/-- one step of the loop -/
theorem step_mid {s t t' : State} {D : Nat → Prop} {fuel a : Nat} {u : Unit} (M : Mid s D t) (G : Leaf s a)
    (h : (invalidateNode fuel a).run.run t = (.ok u, t')) : Mid s (fun m => D m ∨ m = a) t' := by
  cases fuel with
  | zero => rw [Inval.invalidateNode_zero] at h; cases h
  | succ fuel =>
    have hlt : a < t.nodes.size := by rw [M.size]; exact G.lt
    by_cases hD : D a
    · -- a second occurrence: the node is invalid already
      have hv : (t.nodeD a).valid = false := by rw [M.dead a hD]; rfl
      rw [Inval.invalidateNode_invalid fuel a t _ (some_of_lt hlt) hv] at h
      cases h
      refine M.congr (fun m => ⟨fun hm => ?_, Or.inl⟩)
      rcases hm with hm | rfl
      · exact hm
      · exact hD
    · have ha : t.nodeD a = s.nodeD a := M.other a hD
      have hnec : t.isNecessary a = false := by
        have := G.nec
        unfold State.isNecessary at this ⊢
        rw [ha]; exact this
      rw [invalidateNode_dying_run fuel a t hlt (by rw [ha]; exact G.valid) hnec (by rw [ha]; exact G.kind)
        (by rw [ha]; exact G.unq)] at h
      cases h
      obtain ⟨-, f2, -, f4, f5, f6, f7⟩ := Inval.invalidated_fields a t
      obtain ⟨g1, g2, g3, g4, g5, g6, g7⟩ := invalidated_rest a t
      refine ⟨by rw [f7, M.size], ?_, ?_, by rw [f5, M.binds], by rw [g1, M.vars], by rw [f6, M.stabNum],
        by rw [g2, M.status], by rw [g3, M.cfg], by rw [g4, M.scope], by rw [g5, M.pc], by rw [f4, M.rch],
        by rw [g6, M.ahh], by rw [g7, M.top], by rw [f2, M.pinv]⟩
      · intro m hm
        have hma : m ≠ a := fun e => hm (Or.inr e)
        rw [Inval.invalidated_other a m t hma]
        exact M.other m (fun hd => hm (Or.inl hd))
      · intro m hm
        by_cases hma : m = a
        · subst hma
          rw [invalidated_nodeD0 m t hlt (by rw [ha]; exact G.noh), ha, M.stabNum]
        · rw [Inval.invalidated_other a m t hma]
          rcases hm with hm | hm
          · exact M.dead m hm
          · exact absurd hm hma

/-! ## the loop -/

theorem loop_mid {s : State} {fuel : Nat} (l : List Nat) :
    ∀ (D : Nat → Prop) (t t' : State) (u : PUnit), (∀ a, a ∈ l → Leaf s a) → Mid s D t →
      (forIn l PUnit.unit fun (r : Nat) (_ : PUnit) => do
          invalidateNode fuel r
          pure (ForInStep.yield PUnit.unit) : M PUnit).run.run t = (.ok u, t') →
      Mid s (fun m => D m ∨ m ∈ l) t' := by
  induction l with
  | nil =>
    intro D t t' u _ M h
    rw [List.forIn_nil, run_pure] at h
    cases h
    exact M.congr (fun m => ⟨fun hm => hm.elim id (fun h => by cases h), Or.inl⟩)
  | cons a l ih =>
    intro D t t' u hl M h
    rw [List.forIn_cons] at h
    obtain ⟨y, t1, hy, hrest⟩ := bind_ok_inv h
    obtain ⟨_, t2, h1, h2⟩ := bind_ok_inv hy
    obtain ⟨rfl, rfl⟩ := pure_ok_inv h2
    have M1 := step_mid M (hl a (List.mem_cons_self ..)) h1
    simp only at hrest
    have M2 := ih _ t1 t' u (fun x hx => hl x (List.mem_cons_of_mem _ hx)) M1 hrest
    refine M2.congr (fun m => ?_)
    rw [List.mem_cons]
    constructor
    · rintro (h | h | h)
      · exact Or.inl (Or.inl h)
      · exact Or.inl (Or.inr h)
      · exact Or.inr h
    · rintro ((h | h) | h)
      · exact Or.inl h
      · exact Or.inr (Or.inl h)
      · exact Or.inr (Or.inr h)

/-- the whole phase: exactly the dying nodes are invalidated -/
theorem lhsInvalidateOld_mid {fuel : Nat} {br : BindRec} {s s' : State} {u : Unit}
    (h : (Inval.lhsInvalidateOld fuel br).run.run s = (.ok u, s'))
    (hnone : br.rhs = none → br.allNodesCreatedOnRhs = [])
    (hl : ∀ a, a ∈ br.allNodesCreatedOnRhs → Leaf s a) (hp : s.propagateInvalidity = []) :
    Mid s (fun m => m ∈ br.allNodesCreatedOnRhs) s' := by
  unfold Inval.lhsInvalidateOld at h
  cases hr : br.rhs with
  | none =>
    rw [hr] at h
    simp only [Option.isSome_none, Bool.false_eq_true, if_false] at h
    obtain ⟨-, e⟩ := pure_ok_inv h
    rw [e, hnone hr]
    exact (Mid.refl s).congr (fun m => ⟨fun hm => (by cases hm), fun hm => hm.elim⟩)
  | some o =>
    rw [hr] at h
    simp only [Option.isSome_some, if_true] at h
    obtain ⟨_, t, hloop, hprop⟩ := bind_ok_inv h
    have M := loop_mid br.allNodesCreatedOnRhs _ s t _ hl (Mid.refl s) hloop
    have e := propagateInvalidity_nil (by rw [M.pinv]; exact hp) hprop
    rw [e]
    exact M.congr (fun m => ⟨Or.inr, fun hm => hm.elim (fun h => h.elim) id⟩)

end CI

end IncrVerif.Proofs.BindH
