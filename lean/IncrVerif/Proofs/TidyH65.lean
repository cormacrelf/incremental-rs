import IncrVerif.Proofs.TidyH64
import IncrVerif.Proofs.Drain
/-!
# T1b, part 8: the drain of the fragment static + `map_ref` RETURNS

The invariants live on the virtual state; every step of a direct-recompute chain lowers `unrun (virt g s)` and uses one unit of
fuel, and a step needs `s.nodes.size` further units for its `child_changed` recursion.
-/
namespace IncrVerif.Proofs.TidyH.RT
open IncrVerif.Engine IncrVerif.Driver IncrVerif.Proofs IncrVerif.Proofs.Step IncrVerif.Proofs.Sched IncrVerif.Proofs.Quiet
open IncrVerif.Proofs.MapRefH

section
variable {env : Env}

theorem dstep_size {s s' : State} {g g' : Nat → Option Val} (f : DStep env s s' g g') :
    s'.nodes.size = s.nodes.size := by
  have := f.frame.size; rwa [virt_size, virt_size] at this

/-- **the drain returns** (`Drain.drainHeap_total`: the measure is `unrun (virt g s)`, a step needs `s.nodes.size` units of fuel) -/
theorem drainHeapR_total (fuel : Nat) (s : State) (g : Nat → Option Val) (D : DInvR env s g none)
    (S : Safe (virt g s)) (hf : unrun (virt g s) + s.nodes.size + 2 ≤ fuel) :
    ∃ s', (drainHeap env fuel).run.run s = (.ok (), s') := by
  refine Drain.drainHeap_total (σ := (Nat → Option Val) × State) (st := Prod.snd)
    (J := fun c cur => DInvR env c.2 c.1 cur ∧ Safe (virt c.1 c.2)) (μ := fun c => unrun (virt c.1 c.2))
    (need := fun c => c.2.nodes.size) (fun c n fuel I hf => ?_) (fun c I => ?_) fuel (g, s) ⟨D, S⟩ hf
  · obtain ⟨D, S⟩ := I
    obtain ⟨r, s1, h1⟩ := recomputeOneR_returns (fuel := fuel) D S (by omega) (by omega)
    obtain ⟨g1, D1, f1, hn1⟩ := recomputeOneR_inv D h1
    have hnlt := (D.inv.graph.nec n (D.inv.cur n rfl).1).1
    exact ⟨r, (g1, s1), h1, ⟨D1, S.frame f1.frame⟩, f1.frame.unrun_lt D.inv.stamps hnlt D.inv.cur_not_yet hn1,
      Nat.le_of_eq (dstep_size f1)⟩
  · obtain ⟨D, S⟩ := I
    obtain ⟨r, s1, hpop⟩ := rchRemoveMin_ok (heapInv_of_virt D.inv.heap)
    refine ⟨r, s1, hpop, fun n e => ?_⟩
    subst e
    obtain ⟨hv, F1, K1, hp1⟩ := popR D hpop
    obtain ⟨I1, f1⟩ := pop_inv D.inv hv
    have hsz1 : s1.nodes.size = c.2.nodes.size := by have := f1.size; rwa [virt_size, virt_size] at this
    exact ⟨(c.1, s1), rfl, ⟨⟨F1, I1, K1, hp1⟩, S.frame f1⟩, f1.unrun_le D.inv.stamps, Nat.le_of_eq hsz1⟩

end
end IncrVerif.Proofs.TidyH.RT
