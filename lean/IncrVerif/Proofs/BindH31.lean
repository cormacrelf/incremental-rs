import IncrVerif.Proofs.BindH30
/-!
# Binds, `relink`, part 1: a transfer lemma for `GInvB`, and the pure steps of `changeChildBindRhs`

`BR.transfer`: the invariant moves from `(s, op)` to `(s', op')` when parents, heights, heap and heap markers agree,
wanted child edges correspond, and staleness of the nodes that matter is kept.  Instances:
`stamp` (the change detector gets a new `changedAt`), `setForce` (the force flag of a node is set / cleared),
`setRhs` (the record of a bind whose main node is `.linking 1` gets a new right-hand side), `open_full` (a closed
necessary node is relabelled `.linking (children).length`), `close_full` (a fully linked node is closed, queued or not).
-/
namespace IncrVerif.Proofs.BindH
open IncrVerif.Engine IncrVerif.Proofs IncrVerif.Proofs.Step IncrVerif.Proofs.Sched IncrVerif.Proofs.Quiet

namespace BR

theorem transfer {env : Env} {s s' : State} {op op' : Nat → Op} {ex : Nat → Prop}
    (I : GInvB env s op ex) (hA : AllB env s')
    (hsz : s'.nodes.size = s.nodes.size) (hrch : s'.rch = s.rch)
    (hpa : ∀ m, (s'.nodeD m).parents = (s.nodeD m).parents)
    (hht : ∀ m, (s'.nodeD m).height = (s.nodeD m).height)
    (hhr : ∀ m, (s'.nodeD m).heightInRch = (s.nodeD m).heightInRch)
    (hpar : ∀ p i c, (s.children p)[i]? = some c → Wants s op p i →
      (s'.children p)[i]? = some c ∧ Wants s' op' p i)
    (hconv : ∀ p i c, (s'.children p)[i]? = some c → Wants s' op' p i →
      (s.children p)[i]? = some c ∧ Wants s op p i)
    (hnecI : ∀ m, op' m = .closed → op m = .closed → s'.isNecessary m = true → s.isNecessary m = true)
    (hln : ∀ p k, op' p = .linking k → s'.isNecessary p = true)
    (hun : ∀ p k, op' p = .unlinking k → s'.isNecessary p = false)
    (hqn : ∀ m, (s.nodeD m).inRch = true → s'.isNecessary m = true ∨ ∃ k, op' m = .unlinking k)
    (hst1 : ∀ m, op' m = .closed → op m = .closed → ¬ ex m → s'.isStale m = true → s.isStale m = true)
    (hst2 : ∀ m, (s.nodeD m).inRch = true → s'.isStale m = true)
    (hop : ∀ m, op' m ≠ .closed → m < s.nodes.size)
    (hltN : ∀ c p i, (p, i) ∈ (s.nodeD c).parents → op' p = .closed → op p ≠ .closed →
      (s.nodeD c).height < (s.nodeD p).height)
    (hposN : ∀ n, op' n = .closed → op n ≠ .closed → 0 ≤ (s.nodeD n).height)
    (hgtN : ∀ m, (s.nodeD m).inRch = true → op' m = .closed → op m ≠ .closed →
      (s.nodeD m).heightInRch = (s.nodeD m).height)
    (hquN : ∀ m, op' m = .closed → op m ≠ .closed → s'.isNecessary m = true → s'.isStale m = true → ¬ ex m →
      (s.nodeD m).inRch = true) :
    GInvB env s' op' ex := by
  have inR : ∀ m, (s'.nodeD m).inRch = (s.nodeD m).inRch := fun m => inRch_of_hir (hhr m)
  refine { frag := hA, par := ?_, conv := ?_, nodup := ?_, hlt := ?_, hpos := ?_, lnec := hln, unec := hun,
           heap := I.heap.congr hrch hsz hhr, hgt := ?_, qnec := ?_, queued := ?_, qstale := ?_, opLt := ?_ }
  · intro c p i hm
    rw [hpa] at hm
    obtain ⟨h1, h2⟩ := I.par c p i hm
    exact hpar p i c h1 h2
  · intro p i c hk hw
    rw [hpa]
    obtain ⟨h1, h2⟩ := hconv p i c hk hw
    exact I.conv p i c h1 h2
  · intro c; rw [hpa]; exact I.nodup c
  · intro c p i hm ho
    rw [hpa] at hm
    rw [hht, hht]
    by_cases e : op p = .closed
    · exact I.hlt c p i hm e
    · exact hltN c p i hm ho e
  · intro n hn ho
    rw [hht]
    by_cases e : op n = .closed
    · exact I.hpos n (hnecI n ho e hn) e
    · exact hposN n ho e
  · intro m hq ho
    rw [inR] at hq
    rw [hhr, hht]
    by_cases e : op m = .closed
    · exact I.hgt m hq e
    · exact hgtN m hq ho e
  · intro m hq
    rw [inR] at hq
    exact hqn m hq
  · intro m ho hn hs hx
    rw [inR]
    by_cases e : op m = .closed
    · exact I.queued m e (hnecI m ho e hn) (hst1 m ho e hx hs) hx
    · exact hquN m ho e hn hs hx
  · intro m hq
    rw [inR] at hq
    exact hst2 m hq
  · intro m ho
    rw [hsz]; exact hop m ho

theorem wants_congr {s s' : State} {op : Nat → Op} (hnec : ∀ m, s'.isNecessary m = s.isNecessary m) (p i : Nat) :
    Wants s' op p i ↔ Wants s op p i := by
  unfold Wants; rw [hnec]

/-- the simple case of `transfer`: same labels, same necessity, same child lists -/
theorem transfer_same {env : Env} {s s' : State} {op : Nat → Op} {ex : Nat → Prop}
    (I : GInvB env s op ex) (hA : AllB env s')
    (hsz : s'.nodes.size = s.nodes.size) (hrch : s'.rch = s.rch)
    (hpa : ∀ m, (s'.nodeD m).parents = (s.nodeD m).parents)
    (hht : ∀ m, (s'.nodeD m).height = (s.nodeD m).height)
    (hhr : ∀ m, (s'.nodeD m).heightInRch = (s.nodeD m).heightInRch)
    (hnec : ∀ m, s'.isNecessary m = s.isNecessary m)
    (hch : ∀ m, s'.children m = s.children m)
    (hst1 : ∀ m, op m = .closed → ¬ ex m → s'.isStale m = true → s.isStale m = true)
    (hst2 : ∀ m, (s.nodeD m).inRch = true → s'.isStale m = true) :
    GInvB env s' op ex := by
  refine transfer I hA hsz hrch hpa hht hhr ?_ ?_ ?_ ?_ ?_ ?_ (fun m _ => hst1 m) hst2 I.opLt
    (fun _ _ _ _ h1 h2 => absurd h1 h2) (fun _ h1 h2 => absurd h1 h2) (fun _ _ h1 h2 => absurd h1 h2)
    (fun _ h1 h2 => absurd h1 h2)
  · intro p i c hk hw
    exact ⟨by rw [hch]; exact hk, (wants_congr hnec p i).2 hw⟩
  · intro p i c hk hw
    exact ⟨by rw [← hch]; exact hk, (wants_congr hnec p i).1 hw⟩
  · intro m _ _ h; rw [← hnec]; exact h
  · intro p k ho; rw [hnec]; exact I.lnec p k ho
  · intro p k ho; rw [hnec]; exact I.unec p k ho
  · intro m hq; rw [hnec]; exact I.qnec m hq

/-! ## concrete pure updates -/

/-- node `n` gets the stamp `v` -/
def stamped (n : Nat) (v : Int) (s : State) : State :=
  { s with nodes := s.nodes.modify n fun x => { x with changedAt := v } }

/-- the force flag of node `o` is set to `f` -/
def forced (o : Nat) (f : Bool) (s : State) : State :=
  { s with nodes := s.nodes.modify o fun x => { x with forceNecessary := f } }

theorem stamped_nodeD (n : Nat) (v : Int) (s : State) (m : Nat) :
    (stamped n v s).nodeD m = if n = m ∧ m < s.nodes.size then { s.nodeD m with changedAt := v } else s.nodeD m :=
  nodeD_modify s n m _

theorem forced_nodeD (o : Nat) (f : Bool) (s : State) (m : Nat) :
    (forced o f s).nodeD m =
      if o = m ∧ m < s.nodes.size then { s.nodeD m with forceNecessary := f } else s.nodeD m :=
  nodeD_modify s o m _

/-- the children of a bind's main node: the change detector first -/
theorem children_main {s : State} {main b lc : Nat} {br : BindRec} (hv : (s.nodeD main).valid = true)
    (hk : (s.nodeD main).kind = .bindMain b lc) (hb : s.binds[b]? = some br) :
    s.children main = lc :: br.rhs.toList := by
  unfold State.children Node.kind?
  rw [hv, hk]
  simp only [if_true, hb]
  cases br.rhs <;> rfl

/-- a bind's main node is stale when its change detector changed after it was last recomputed -/
theorem isStale_main {s : State} {main b lc : Nat} {br : BindRec} (hv : (s.nodeD main).valid = true)
    (hk : (s.nodeD main).kind = .bindMain b lc) (hb : s.binds[b]? = some br)
    (hc : (s.nodeD main).recomputedAt < (s.nodeD lc).changedAt) : s.isStale main = true := by
  unfold State.isStale
  rw [children_main hv hk hb]
  simp only [Node.kind?, hv, hk, if_true, List.any_cons, Bool.or_eq_true, decide_eq_true_eq]
  exact Or.inr (Or.inl hc)

/-- only a bind's main node has the bind's change detector as a child -/
theorem parent_of_lc {env : Env} {s : State} (A : AllB env s) {n b main m : Nat} {br : BindRec}
    (hk : (s.nodeD n).kind = .bindLhsChange b) (hb : s.binds[b]? = some br) (hm : br.main = main)
    (hmem : n ∈ s.children m) : m = main := by
  have hlt : m < s.nodes.size := by
    by_cases h : m < s.nodes.size
    · exact h
    · rw [children_default s m (by omega)] at hmem; cases hmem
  have h1 := (A.node m hlt).lcChild n b hmem hk
  obtain ⟨br', h2, h3, -⟩ := (A.node m hlt).mainRec b n h1
  rw [hb] at h2
  cases h2
  rw [← hm, h3]

/-- **stamp**: the change detector `n` of bind `b` gets a later `changedAt`; the bind's main node is excused -/
theorem stamp {env : Env} {s : State} {op : Nat → Op} {ex : Nat → Prop} {n b main : Nat} {br : BindRec} {v : Int}
    (I : GInvB env s op ex) (hk : (s.nodeD n).kind = .bindLhsChange b) (hb : s.binds[b]? = some br)
    (hm : br.main = main) (hkm : (s.nodeD main).kind = .bindMain b n)
    (hms : main < s.nodes.size)
    (hn : n < s.nodes.size) (hex : ex main) (hv : (s.nodeD main).recomputedAt < v) :
    GInvB env (stamped n v s) op ex := by
  have hnd := stamped_nodeD n v s
  have hK : ∀ m, (stamped n v s).nodeD m = s.nodeD m ∨
      (stamped n v s).nodeD m = { s.nodeD m with changedAt := v } := by
    intro m; rw [hnd]; split
    · exact Or.inr rfl
    · exact Or.inl rfl
  have hsz : (stamped n v s).nodes.size = s.nodes.size := by simp [stamped]
  have hkind : ∀ m, ((stamped n v s).nodeD m).kind = (s.nodeD m).kind := fun m => by
    rcases hK m with e | e <;> rw [e]
  have hvalid : ∀ m, ((stamped n v s).nodeD m).valid = (s.nodeD m).valid := fun m => by
    rcases hK m with e | e <;> rw [e]
  have hrec : ∀ m, ((stamped n v s).nodeD m).recomputedAt = (s.nodeD m).recomputedAt := fun m => by
    rcases hK m with e | e <;> rw [e]
  have hch : ∀ m, (stamped n v s).children m = s.children m :=
    BU.children_of I.frag hsz hkind hvalid rfl
  have hchg : ∀ m, m ≠ n → ((stamped n v s).nodeD m).changedAt = (s.nodeD m).changedAt := fun m e => by
    rw [hnd, if_neg (fun h => e h.1.symm)]
  have hvm : (s.nodeD main).valid = true := (I.node hms).valid
  have hstm : (stamped n v s).isStale main = true := by
    refine isStale_main (b := b) (lc := n) (br := br) (by rw [hvalid]; exact hvm) (by rw [hkind]; exact hkm) hb ?_
    rw [hrec, hnd, if_pos ⟨rfl, hn⟩]
    exact hv
  have hst : ∀ m, m ≠ main → (stamped n v s).isStale m = s.isStale m := by
    intro m e
    by_cases hlt : m < s.nodes.size
    · refine isStale_congr_B (I.node hlt).kind (hkind m) (hvalid m) (hrec m) rfl rfl ?_
      intro c hc
      refine hchg c ?_
      intro ec
      rw [ec] at hc
      exact e (parent_of_lc I.frag hk hb hm hc)
    · rw [isStale_default s m (by omega), isStale_default _ m (by rw [hsz]; omega)]
  refine transfer_same I ?_ hsz rfl ?_ ?_ ?_ ?_ hch ?_ ?_
  · refine BU.allB_of I.frag rfl rfl hsz hkind hvalid ?_ ?_ rfl
    · intro m; rcases hK m with e | e <;> rw [e]
    · intro m; rcases hK m with e | e <;> rw [e]
  · intro m; rcases hK m with e | e <;> rw [e]
  · intro m; rcases hK m with e | e <;> rw [e]
  · intro m; rcases hK m with e | e <;> rw [e]
  · intro m
    apply nec_congr <;> rcases hK m with e | e <;> rw [e]
  · intro m _ hx hs
    have e : m ≠ main := fun e => hx (e ▸ hex)
    rw [← hst m e]; exact hs
  · intro m hq
    by_cases e : m = main
    · rw [e]; exact hstm
    · rw [hst m e]; exact I.qstale m hq

/-- **force flag**: the flag of `o` is set to `f`.  If the necessity of `o` does not change nothing happens; if `o`
(closed) was necessary only because of the flag it is now unnecessary with all its child edges recorded -/
theorem setForce {env : Env} {s : State} {op : Nat → Op} {ex : Nat → Prop} {o : Nat} {f : Bool}
    (I : GInvB env s op ex) :
    ((forced o f s).isNecessary o = s.isNecessary o → GInvB env (forced o f s) op ex) ∧
    (s.isNecessary o = true → op o = .closed → (forced o f s).isNecessary o = false →
      GInvB env (forced o f s) (upd op o (.unlinking 0)) ex) := by
  have hnd := forced_nodeD o f s
  have hK : ∀ m, (forced o f s).nodeD m = s.nodeD m ∨
      (forced o f s).nodeD m = { s.nodeD m with forceNecessary := f } := by
    intro m; rw [hnd]; split
    · exact Or.inr rfl
    · exact Or.inl rfl
  have hsz : (forced o f s).nodes.size = s.nodes.size := by simp [forced]
  have hkind : ∀ m, ((forced o f s).nodeD m).kind = (s.nodeD m).kind := fun m => by
    rcases hK m with e | e <;> rw [e]
  have hvalid : ∀ m, ((forced o f s).nodeD m).valid = (s.nodeD m).valid := fun m => by
    rcases hK m with e | e <;> rw [e]
  have hrec : ∀ m, ((forced o f s).nodeD m).recomputedAt = (s.nodeD m).recomputedAt := fun m => by
    rcases hK m with e | e <;> rw [e]
  have hchg : ∀ m, ((forced o f s).nodeD m).changedAt = (s.nodeD m).changedAt := fun m => by
    rcases hK m with e | e <;> rw [e]
  have hch : ∀ m, (forced o f s).children m = s.children m :=
    BU.children_of I.frag hsz hkind hvalid rfl
  have hst : ∀ m, (forced o f s).isStale m = s.isStale m :=
    BU.isStale_of I.frag hsz hkind hvalid hrec hchg rfl rfl
  have hA : AllB env (forced o f s) := by
    refine BU.allB_of I.frag rfl rfl hsz hkind hvalid ?_ ?_ rfl
    · intro m; rcases hK m with e | e <;> rw [e]
    · intro m; rcases hK m with e | e <;> rw [e]
  have hpa : ∀ m, ((forced o f s).nodeD m).parents = (s.nodeD m).parents := fun m => by
    rcases hK m with e | e <;> rw [e]
  have hht : ∀ m, ((forced o f s).nodeD m).height = (s.nodeD m).height := fun m => by
    rcases hK m with e | e <;> rw [e]
  have hhr : ∀ m, ((forced o f s).nodeD m).heightInRch = (s.nodeD m).heightInRch := fun m => by
    rcases hK m with e | e <;> rw [e]
  have hnecO : ∀ m, m ≠ o → (forced o f s).isNecessary m = s.isNecessary m := fun m e => by
    have : (forced o f s).nodeD m = s.nodeD m := by rw [hnd, if_neg (fun h => e h.1.symm)]
    simp only [State.isNecessary, this]
  constructor
  · intro hno
    have hnec : ∀ m, (forced o f s).isNecessary m = s.isNecessary m := fun m => by
      by_cases e : m = o
      · rw [e]; exact hno
      · exact hnecO m e
    exact transfer_same I hA hsz rfl hpa hht hhr hnec hch (fun m _ _ h => by rw [← hst]; exact h)
      (fun m hq => by rw [hst]; exact I.qstale m hq)
  · intro hn hcl hno
    have hopo : ∀ m, m ≠ o → upd op o (.unlinking 0) m = op m := fun m e => upd_other _ _ _ e
    have hopc : ∀ m, upd op o (.unlinking 0) m = .closed → m ≠ o ∧ op m = .closed :=
      fun m h => upd_closed_inv (Op.unlinking_ne_closed _) h
    refine transfer I hA hsz rfl hpa hht hhr ?_ ?_ ?_ ?_ ?_ ?_ (fun m _ _ _ h => by rw [← hst]; exact h)
      (fun m hq => by rw [hst]; exact I.qstale m hq) ?_ ?_ ?_ ?_ ?_
    · intro p i c hk hw
      refine ⟨by rw [hch]; exact hk, ?_⟩
      by_cases e : p = o
      · rw [e]; exact (wants_unlinking (upd_self _ _ _)).2 (Nat.zero_le _)
      · unfold Wants at hw ⊢
        rw [hopo p e, hnecO p e]; exact hw
    · intro p i c hk hw
      refine ⟨by rw [← hch]; exact hk, ?_⟩
      by_cases e : p = o
      · rw [e]; exact (wants_closed hcl).2 hn
      · unfold Wants at hw ⊢
        rw [hopo p e, hnecO p e] at hw; exact hw
    · intro m h1 _ h
      rw [← hnecO m (hopc m h1).1]; exact h
    · intro p k ho
      have e : p ≠ o := fun e => by rw [e, upd_self] at ho; cases ho
      rw [hopo p e] at ho
      rw [hnecO p e]; exact I.lnec p k ho
    · intro p k ho
      by_cases e : p = o
      · rw [e]; exact hno
      · rw [hopo p e] at ho
        rw [hnecO p e]; exact I.unec p k ho
    · intro m hq
      by_cases e : m = o
      · exact Or.inr ⟨0, by rw [e, upd_self]⟩
      · rw [hnecO m e, hopo m e]; exact I.qnec m hq
    · intro m ho
      by_cases e : m = o
      · rw [e]; exact nec_lt_size hn
      · rw [hopo m e] at ho; exact I.opLt m ho
    · intro c p i _ h1 h2; exact absurd (hopc p h1).2 h2
    · intro m h1 h2; exact absurd (hopc m h1).2 h2
    · intro m _ h1 h2; exact absurd (hopc m h1).2 h2
    · intro m h1 h2; exact absurd (hopc m h1).2 h2

/-- a closed necessary node can be seen as fully linked -/
theorem open_full {env : Env} {s : State} {op : Nat → Op} {ex : Nat → Prop} {p : Nat}
    (I : GInvB env s op ex) (hcl : op p = .closed) (hn : s.isNecessary p = true) :
    GInvB env s (upd op p (.linking (s.children p).length)) ex := by
  have hopo : ∀ m, m ≠ p → upd op p (.linking (s.children p).length) m = op m := fun m e => upd_other _ _ _ e
  have hopc : ∀ m, upd op p (.linking (s.children p).length) m = .closed → m ≠ p ∧ op m = .closed :=
    fun m h => upd_closed_inv (Op.linking_ne_closed _) h
  refine transfer I I.frag rfl rfl (fun _ => rfl) (fun _ => rfl) (fun _ => rfl) ?_ ?_ (fun _ _ _ h => h) ?_ ?_ ?_
    (fun _ _ _ _ h => h) I.qstale ?_ ?_ ?_ ?_ ?_
  · intro q i c hk hw
    refine ⟨hk, ?_⟩
    by_cases e : q = p
    · rw [e] at hk ⊢
      exact (wants_linking (upd_self _ _ _)).2 (List.getElem?_eq_some_iff.1 hk).1
    · exact (U4.wants_same (hopo q e)).2 hw
  · intro q i c hk hw
    refine ⟨hk, ?_⟩
    by_cases e : q = p
    · rw [e]; exact (wants_closed hcl).2 hn
    · exact (U4.wants_same (hopo q e)).1 hw
  · intro q k ho
    by_cases e : q = p
    · rw [e]; exact hn
    · rw [hopo q e] at ho; exact I.lnec q k ho
  · intro q k ho
    have e : q ≠ p := fun e => by rw [e, upd_self] at ho; cases ho
    rw [hopo q e] at ho; exact I.unec q k ho
  · intro m hq
    rcases I.qnec m hq with h | ⟨k, h⟩
    · exact Or.inl h
    · have e : m ≠ p := fun e => by rw [e, hcl] at h; cases h
      exact Or.inr ⟨k, by rw [hopo m e]; exact h⟩
  · intro m ho
    by_cases e : m = p
    · rw [e]; exact nec_lt_size hn
    · rw [hopo m e] at ho; exact I.opLt m ho
  · intro c q i _ h1 h2; exact absurd (hopc q h1).2 h2
  · intro m h1 h2; exact absurd (hopc m h1).2 h2
  · intro m _ h1 h2; exact absurd (hopc m h1).2 h2
  · intro m h1 h2; exact absurd (hopc m h1).2 h2

/-- a fully linked node whose children are all lower is closed; it may be queued (then its heap position is its
height) and, if stale and not queued, it must be excused -/
theorem close_full {env : Env} {s : State} {op : Nat → Op} {ex : Nat → Prop} {p k : Nat}
    (I : GInvB env s op ex) (hop : op p = .linking k) (hk : (s.children p).length ≤ k)
    (hh : ∀ (i c : Nat), (s.children p)[i]? = some c → (s.nodeD c).height < (s.nodeD p).height)
    (h0 : 0 ≤ (s.nodeD p).height)
    (hgq : (s.nodeD p).inRch = true → (s.nodeD p).heightInRch = (s.nodeD p).height)
    (hex : s.isStale p = true → ex p ∨ (s.nodeD p).inRch = true) :
    GInvB env s (upd op p .closed) ex := by
  have hopo : ∀ m, m ≠ p → upd op p .closed m = op m := fun m e => upd_other _ _ _ e
  have hnew : ∀ m, upd op p .closed m = .closed → op m ≠ .closed → m = p := by
    intro m h1 h2
    apply Decidable.byContradiction
    intro e
    rw [hopo m e] at h1; exact h2 h1
  have hnp := I.lnec p k hop
  refine transfer I I.frag rfl rfl (fun _ => rfl) (fun _ => rfl) (fun _ => rfl) ?_ ?_ (fun _ _ _ h => h) ?_ ?_ ?_
    (fun _ _ _ _ h => h) I.qstale ?_ ?_ ?_ ?_ ?_
  · intro q i c hkq hw
    refine ⟨hkq, ?_⟩
    by_cases e : q = p
    · rw [e]; exact (wants_closed (upd_self _ _ _)).2 hnp
    · exact (U4.wants_same (hopo q e)).2 hw
  · intro q i c hkq hw
    refine ⟨hkq, ?_⟩
    by_cases e : q = p
    · rw [e] at hkq ⊢
      have := (List.getElem?_eq_some_iff.1 hkq).1
      exact (wants_linking hop).2 (by omega)
    · exact (U4.wants_same (hopo q e)).1 hw
  · intro q k' ho
    have e : q ≠ p := fun e => by rw [e, upd_self] at ho; cases ho
    rw [hopo q e] at ho; exact I.lnec q k' ho
  · intro q k' ho
    have e : q ≠ p := fun e => by rw [e, upd_self] at ho; cases ho
    rw [hopo q e] at ho; exact I.unec q k' ho
  · intro m hq
    rcases I.qnec m hq with h | ⟨k', h⟩
    · exact Or.inl h
    · have e : m ≠ p := fun e => by rw [e, hop] at h; cases h
      exact Or.inr ⟨k', by rw [hopo m e]; exact h⟩
  · intro m ho
    have e : m ≠ p := fun e => by rw [e, upd_self] at ho; exact ho rfl
    rw [hopo m e] at ho; exact I.opLt m ho
  · intro c q i hm h1 h2
    have e := hnew q h1 h2
    rw [e] at hm ⊢
    exact hh i c (I.par c p i hm).1
  · intro m h1 h2; rw [hnew m h1 h2]; exact h0
  · intro m hq h1 h2
    have e := hnew m h1 h2
    rw [e] at hq ⊢; exact hgq hq
  · intro m h1 h2 _ hs hx
    have e := hnew m h1 h2
    rw [e] at hs hx ⊢
    rcases hex hs with h | h
    · exact absurd h hx
    · exact h

end BR

end IncrVerif.Proofs.BindH
