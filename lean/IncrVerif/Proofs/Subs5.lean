import IncrVerif.Proofs.Subs1
import IncrVerif.Proofs.Footprint
/-!
# Subscriptions, part 6a: the handler bookkeeping through the cascades (`Hush`)
-/
namespace IncrVerif.Proofs.SubsH
open IncrVerif.Engine IncrVerif.Driver IncrVerif.Proofs IncrVerif.Proofs.Step IncrVerif.Proofs.Sched
open IncrVerif.Proofs.Quiet

/-- an event that is not a notification of a subscriber -/
def NotNotif : Event → Prop
  | .notif _ _ => False
  | _ => True

/-- what the cascades and the drain do to the bookkeeping of update handlers: handler counts and `nextToken`
are kept, the queue `handleAfterStab` only grows and stays consistent with the flags, every node whose
`changedAt` stamp changed and that has update handlers is queued, no notification is logged -/
structure Hush (s s' : State) : Prop where
  nextToken : s'.nextToken = s.nextToken
  num : ∀ m, (s'.nodeD m).numOnUpdateHandlers = (s.nodeD m).numOnUpdateHandlers
  ok : HasOK s → HasOK s'
  mono : ∀ n, n ∈ s.handleAfterStab → n ∈ s'.handleAfterStab
  changed : HasOK s → ∀ n, (s'.nodeD n).changedAt ≠ (s.nodeD n).changedAt →
    0 < (s.nodeD n).numOnUpdateHandlers → n ∈ s'.handleAfterStab
  log : ∃ new, s'.log = new ++ s.log ∧ ∀ e, e ∈ new → NotNotif e

theorem Hush.refl (s : State) : Hush s s :=
  ⟨rfl, fun _ => rfl, id, fun _ h => h, fun _ _ h => absurd rfl h, [], rfl, fun _ h => by cases h⟩

theorem Hush.trans {a b c : State} (h1 : Hush a b) (h2 : Hush b c) : Hush a c where
  nextToken := h2.nextToken.trans h1.nextToken
  num m := (h2.num m).trans (h1.num m)
  ok h := h2.ok (h1.ok h)
  mono n h := h2.mono n (h1.mono n h)
  changed H n hne hpos := by
    by_cases hb : (b.nodeD n).changedAt = (a.nodeD n).changedAt
    · exact h2.changed (h1.ok H) n (by rw [hb]; exact hne) (by rw [h1.num]; exact hpos)
    · exact h2.mono n (h1.changed H n hb hpos)
  log := by
    obtain ⟨n1, e1, l1⟩ := h1.log
    obtain ⟨n2, e2, l2⟩ := h2.log
    refine ⟨n2 ++ n1, by rw [e2, e1, List.append_assoc], fun e he => ?_⟩
    rcases List.mem_append.1 he with he | he
    · exact l2 e he
    · exact l1 e he

instance : PreOrd Hush := ⟨Hush.refl, Hush.trans⟩

/-! ## leaves -/

/-- the per-node data `Hush` reads is unchanged, the queue, `nextToken` and the log are unchanged -/
theorem Hush.of_nodeD {s s' : State} (h1 : s'.nextToken = s.nextToken)
    (h2 : s'.handleAfterStab = s.handleAfterStab) (h3 : s'.log = s.log)
    (h4 : ∀ m, (s'.nodeD m).numOnUpdateHandlers = (s.nodeD m).numOnUpdateHandlers ∧
      (s'.nodeD m).inHandleAfterStab = (s.nodeD m).inHandleAfterStab ∧
      (s'.nodeD m).changedAt = (s.nodeD m).changedAt) : Hush s s' where
  nextToken := h1
  num m := (h4 m).1
  ok H := ⟨by rw [h2]; exact H.nodup, fun n => by rw [h2, (h4 n).2.1]; exact H.flag n⟩
  mono n h := by rw [h2]; exact h
  changed _ n hne _ := absurd (h4 n).2.2 hne
  log := ⟨[], by rw [h3]; rfl, fun _ h => by cases h⟩

theorem Hush.of_same {s s' : State} (h0 : s'.nodes = s.nodes) (h1 : s'.nextToken = s.nextToken)
    (h2 : s'.handleAfterStab = s.handleAfterStab) (h3 : s'.log = s.log) : Hush s s' := by
  refine Hush.of_nodeD h1 h2 h3 fun m => ?_
  have : s'.nodeD m = s.nodeD m := by simp [State.nodeD, h0]
  rw [this]; exact ⟨rfl, rfl, rfl⟩

theorem Hush.modNode (s : State) (n : Nat) (f : Node → Node)
    (hf : ∀ x, (f x).numOnUpdateHandlers = x.numOnUpdateHandlers ∧
      (f x).inHandleAfterStab = x.inHandleAfterStab ∧ (f x).changedAt = x.changedAt) :
    Hush s { s with nodes := s.nodes.modify n f } := by
  refine Hush.of_nodeD rfl rfl rfl fun m => ?_
  rw [nodeD_modify]
  split
  · exact hf _
  · exact ⟨rfl, rfl, rfl⟩

theorem Hush.logged (es : List Event) (s : State) (h : ∀ e, e ∈ es → NotNotif e) :
    Hush s (Step.logged es s) where
  nextToken := rfl
  num _ := rfl
  ok H := ⟨H.nodup, H.flag⟩
  mono _ h := h
  changed _ _ hne _ := absurd rfl hne
  log := ⟨es, rfl, h⟩

/-! ## `handle_after_stabilisation` -/

/-- the two outcomes of `handle_after_stabilisation` -/
theorem PresHu.has_cases {n : Nat} {s s' : State} {r : Except Panic Unit}
    (h : (handleAfterStabilisation n).run.run s = (r, s')) :
    (s' = s ∧ (r = .ok () → n < s.nodes.size ∧ (s.nodeD n).inHandleAfterStab = true)) ∨
    (s' = hasMarked n s ∧ n < s.nodes.size ∧ (s.nodeD n).inHandleAfterStab = false) := by
  unfold Engine.handleAfterStabilisation at h
  rw [run_bind, run_getNode] at h
  cases hn : s.nodes[n]? with
  | none =>
    rw [hn] at h; cases h
    exact Or.inl ⟨rfl, fun h => by cases h⟩
  | some nd =>
    rw [hn] at h
    simp only at h
    split at h
    · rename_i hf
      rw [run_bind_modNode, run_modify] at h
      cases h
      refine Or.inr ⟨rfl, lt_of_some hn, ?_⟩
      rw [nodeD_of_some hn]
      simpa using hf
    · rename_i hf
      rw [run_pure] at h; cases h
      refine Or.inl ⟨rfl, fun _ => ⟨lt_of_some hn, ?_⟩⟩
      rw [nodeD_of_some hn]
      simpa using hf

theorem PresHu.hasMarked_nodeD (n m : Nat) (s : State) :
    (hasMarked n s).nodeD m =
      if n = m ∧ m < s.nodes.size then { s.nodeD m with inHandleAfterStab := true } else s.nodeD m :=
  nodeD_modify s n m _

/-- queueing a node whose flag is not set -/
theorem Hush.hasMarked {n : Nat} {s : State} (hlt : n < s.nodes.size)
    (hf : (s.nodeD n).inHandleAfterStab = false) : Hush s (hasMarked n s) where
  nextToken := rfl
  num m := by rw [PresHu.hasMarked_nodeD]; split <;> rfl
  ok H := by
    have hnot : n ∉ s.handleAfterStab := fun hm => by
      have := (H.flag n).1 hm
      rw [hf] at this; cases this
    refine ⟨?_, fun m => ?_⟩
    · show (s.handleAfterStab ++ [n]).Nodup
      rw [List.nodup_append]
      refine ⟨H.nodup, List.nodup_cons.2 ⟨List.not_mem_nil, List.nodup_nil⟩, fun a ha b hb hab => ?_⟩
      rw [List.mem_singleton] at hb
      subst hab; subst hb
      exact hnot ha
    · show m ∈ s.handleAfterStab ++ [n] ↔ _
      rw [PresHu.hasMarked_nodeD, List.mem_append, List.mem_singleton]
      by_cases hm : n = m ∧ m < s.nodes.size
      · rw [if_pos hm]
        exact ⟨fun _ => rfl, fun _ => Or.inr hm.1.symm⟩
      · rw [if_neg hm, ← H.flag m]
        refine ⟨fun h => ?_, Or.inl⟩
        rcases h with h | h
        · exact h
        · exact absurd ⟨h.symm, by rw [h]; exact hlt⟩ hm
  mono m h := List.mem_append_left _ h
  changed _ m hne _ := by
    refine absurd ?_ hne
    rw [PresHu.hasMarked_nodeD]; split <;> rfl
  log := ⟨[], rfl, fun _ h => by cases h⟩

/-- after `handleAfterStabilisation n` that returned, `n` is queued -/
theorem handleAfterStabilisation_mem {n : Nat} {s s' : State} (H : HasOK s)
    (h : (handleAfterStabilisation n).run.run s = (.ok (), s')) : n ∈ s'.handleAfterStab := by
  rcases PresHu.has_cases h with ⟨rfl, hh⟩ | ⟨rfl, -, -⟩
  · exact (H.flag n).2 (hh rfl).2
  · exact List.mem_append_right _ (List.mem_singleton.2 rfl)

/-- the outcomes of `maybe_handle_after_stabilisation` -/
theorem PresHu.mhas_cases {n : Nat} {s s' : State} {r : Except Panic Unit}
    (h : (Engine.maybeHandleAfterStabilisation n).run.run s = (r, s')) :
    (s' = s ∧ (s.nodes.size ≤ n ∨ (s.nodeD n).numOnUpdateHandlers ≤ 0 ∨
      (s.nodeD n).inHandleAfterStab = true)) ∨
    (s' = hasMarked n s ∧ n < s.nodes.size ∧ (s.nodeD n).inHandleAfterStab = false) := by
  unfold Engine.maybeHandleAfterStabilisation at h
  rw [run_bind, run_getNode] at h
  cases hn : s.nodes[n]? with
  | none =>
    rw [hn] at h; cases h
    refine Or.inl ⟨rfl, Or.inl ?_⟩
    exact Nat.le_of_not_lt fun hlt => by rw [some_of_lt hlt] at hn; cases hn
  | some nd =>
    rw [hn] at h
    simp only at h
    split at h
    · rcases PresHu.has_cases h with ⟨rfl, hh⟩ | ⟨rfl, hlt, hf⟩
      · cases r with
        | ok u => exact Or.inl ⟨rfl, Or.inr (Or.inr (hh rfl).2)⟩
        | error e =>
          -- `handleAfterStabilisation` on an existing node never panics
          exfalso
          unfold Engine.handleAfterStabilisation at h
          rw [run_bind_ok (run_getNode_some hn)] at h
          split at h
          · rw [run_bind_modNode, run_modify] at h; cases h
          · rw [run_pure] at h; cases h
      · exact Or.inr ⟨rfl, hlt, hf⟩
    · rename_i hpos
      rw [run_pure] at h; cases h
      refine Or.inl ⟨rfl, Or.inr (Or.inl ?_)⟩
      rw [nodeD_of_some hn]
      exact Int.not_lt.1 hpos

/-- stamping `changedAt` and then `maybe_handle_after_stabilisation`, as one step -/
theorem Hush.touched_mhas {n : Nat} {s s1 : State} {r : Except Panic Unit}
    (h : (Engine.maybeHandleAfterStabilisation n).run.run (Step.touched n s) = (r, s1)) : Hush s s1 := by
  have hsz : (Step.touched n s).nodes.size = s.nodes.size := by simp [Step.touched]
  have hT : ∀ m, ((Step.touched n s).nodeD m).numOnUpdateHandlers = (s.nodeD m).numOnUpdateHandlers ∧
      ((Step.touched n s).nodeD m).inHandleAfterStab = (s.nodeD m).inHandleAfterStab := by
    intro m; rw [touched_nodeD]; split <;> exact ⟨rfl, rfl⟩
  have hC : ∀ m, ((Step.touched n s).nodeD m).changedAt ≠ (s.nodeD m).changedAt → n = m ∧ m < s.nodes.size := by
    intro m hne
    rw [touched_nodeD] at hne
    by_cases hm : n = m ∧ m < s.nodes.size
    · exact hm
    · rw [if_neg hm] at hne; exact absurd rfl hne
  have okT : HasOK s → HasOK (Step.touched n s) := fun H =>
    ⟨H.nodup, fun m => by rw [(hT m).2]; exact H.flag m⟩
  rcases PresHu.mhas_cases h with ⟨rfl, hc⟩ | ⟨rfl, hlt, hf⟩
  · refine ⟨rfl, fun m => (hT m).1, okT, fun _ h => h, fun H m hne hpos => ?_,
      [], rfl, fun _ h => by cases h⟩
    obtain ⟨rfl, hm⟩ := hC m hne
    rw [hsz, (hT n).1, (hT n).2] at hc
    rcases hc with hc | hc | hc
    · omega
    · omega
    · exact (H.flag n).2 hc
  · have hh := Hush.hasMarked hlt hf
    refine ⟨rfl, fun m => (hh.num m).trans (hT m).1, fun H => hh.ok (okT H),
      fun m hm => hh.mono m hm, fun H m hne hpos => ?_, [], rfl, fun _ h => by cases h⟩
    have hne' : ((Step.touched n s).nodeD m).changedAt ≠ (s.nodeD m).changedAt := by
      intro e
      apply hne
      rw [← e, PresHu.hasMarked_nodeD]; split <;> rfl
    obtain ⟨rfl, -⟩ := hC m hne'
    exact List.mem_append_right _ (List.mem_singleton.2 rfl)

/-! ## the footprint -/

/-- the writes that do not keep `Hush` on their own: of `changedAt`, of the flag, of the handler counts, of the handler queue and of `nextToken`, a pushed
node, a logged notification -/
def Hush.breaks : List Footprint.Tag :=
  [.nChangedAt, .nInHandleAfterStab, .nHandlers, .nObservers, .erase, .pushNode, .logNotif, .handleAfterStab, .queueNotified, .nextToken]

theorem Hush.of_edit {L w} (hL : ∀ t ∈ L, t ∉ Hush.breaks) {s s' : State} (e : Footprint.Edit L w s s') : Hush s s' := by
  cases e
  case node n f hf => exact Hush.modNode s n f fun x => by cases hf <;> first | exact ⟨rfl, rfl, rfl⟩ | exact absurd (hL _ ‹_›) (by decide)
  case value n _ f hf => exact Hush.modNode s n f fun x => by cases hf <;> exact ⟨rfl, rfl, rfl⟩
  case stamp n _ => exact Hush.modNode s n _ fun _ => ⟨rfl, rfl, rfl⟩
  case log ev he =>
    refine Hush.logged [ev] s fun e' he' => ?_
    rw [List.mem_singleton.1 he']
    cases he <;> first | trivial | exact absurd (hL _ ‹_›) (by decide)
  all_goals first | exact Hush.of_same rfl rfl rfl rfl | exact absurd (hL _ ‹_›) (by decide)

/-- the flag with the queue, and the stamp with the queueing that follows it, keep `Hush` as one step each -/
theorem Hush.of_call {L w} (hL : ∀ t ∈ L, t ∉ Footprint.Tag.createNode :: Hush.breaks) {s s' : State} (c : Footprint.Call L w s s') :
    Hush s s' := by
  cases c with
  | edit e => exact Hush.of_edit (fun t ht h => hL t ht (List.mem_cons_of_mem _ h)) e
  | call ht c =>
    have hs := c.steps (w := fun _ => True)
    cases c with
    | createNode => exact absurd (hL _ ht) (by decide)
    | mark s n hn hf => exact Hush.hasMarked hn hf
    | markNotified s n hn hf hh => exact Hush.hasMarked hn hf
    | touch s n h => exact Hush.touched_mhas h
    | disallow | setHeight => exact hs.lift (Hush.of_edit (by decide))

theorem PresHu.of_foot {L w α} {m : M α} (hm : Footprint.Foot L w m)
    (hL : ∀ t ∈ Footprint.partsB L, t ∉ Footprint.Tag.createNode :: Hush.breaks) :
    Step.Pres Hush m :=
  hm.calls (Hush.of_call hL)

theorem PresHu.handleAfterStabilisation (n : Nat) : Step.Pres Hush (handleAfterStabilisation n) :=
  PresHu.of_foot (Footprint.Foot.handleAfterStabilisation (w := fun _ => True) n) (by decide)

theorem PresHu.bumpCounter (f) : Step.Pres Hush (bumpCounter f) := by
  unfold Engine.bumpCounter; exact Step.Pres.modify fun _ => Hush.of_same rfl rfl rfl rfl
theorem PresHu.shouldCutoff (env n o v) : Step.Pres Hush (shouldCutoff env n o v) :=
  PresHu.of_foot (Footprint.Foot.shouldCutoff (w := fun _ => True) env n o v) (by decide)
theorem PresHu.setHeight (n h) : Step.Pres Hush (setHeight n h) := PresHu.of_foot (Footprint.Foot.setHeight (w := fun _ => True) n h) (by decide)
theorem PresHu.addParent (c i p) : Step.Pres Hush (addParent c i p) := PresHu.of_foot (Footprint.Foot.addParent (w := fun _ => True) c i p) (by decide)
theorem PresHu.removeParent (c i p) : Step.Pres Hush (removeParent c i p) :=
  PresHu.of_foot (Footprint.Foot.removeParent (w := fun _ => True) c i p) (by decide)
theorem PresHu.markMapRefUnknown (fuel n) : Step.Pres Hush (markMapRefUnknown fuel n) :=
  PresHu.of_foot (Footprint.Foot.markMapRefUnknown (w := fun _ => True) fuel n) (by decide)

/-! ## the two cascades -/

/-- the linking cascade -/
theorem PresHu.becameNecessary (env : Env) (fuel n : Nat) : Step.Pres Hush (becameNecessary env fuel n) :=
  PresHu.of_foot (Footprint.Foot.becameNecessary (w := fun _ => True) env fuel n) (by decide)

theorem PresHu.unlink (fuel : Nat) :
    (∀ n, Step.Pres Hush (becameUnnecessary fuel n)) ∧
    (∀ n, Step.Pres Hush (checkIfUnnecessary fuel n)) ∧
    (∀ n, Step.Pres Hush (removeChildren fuel n)) :=
  ⟨fun n => PresHu.of_foot (Footprint.Foot.becameUnnecessary (w := fun _ => True) fuel n) (by decide),
   fun n => PresHu.of_foot (Footprint.Foot.checkIfUnnecessary (w := fun _ => True) fuel n) (by decide),
   fun n => PresHu.of_foot (Footprint.Foot.removeChildren (w := fun _ => True) fuel n) (by decide)⟩

/-- the unlinking cascade -/
theorem PresHu.checkIfUnnecessary (fuel n : Nat) : Step.Pres Hush (checkIfUnnecessary fuel n) :=
  (PresHu.unlink fuel).2.1 n

/-! ## `maybe_change_value` -/

theorem PresHu.parentIterCanRecomputeNow (p c : Nat) :
    Step.Pres Hush (parentIterCanRecomputeNow p c) :=
  PresHu.of_foot (Footprint.Foot.parentIterCanRecomputeNow (w := fun _ => True) p c) (by decide)

theorem PresHu.maybeChangeValue (env fuel n v) : Step.Pres Hush (maybeChangeValue env fuel n v) :=
  PresHu.of_foot (Footprint.Foot.maybeChangeValue env fuel n v) (by decide)

end IncrVerif.Proofs.SubsH
