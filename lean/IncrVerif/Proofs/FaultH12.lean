import IncrVerif.Proofs.FaultH11
/-!
# Faults in whole histories, part 8: in the state poisoned by a propagation panic an action other than `stabilise` can only
fail on an index that does not exist (`model:` sites), never with an engine panic
-/
namespace IncrVerif.Proofs.FaultH
open IncrVerif.Engine IncrVerif.Driver IncrVerif.Proofs IncrVerif.Proofs.Step

/-- a panic of the harness-level model: an index of the history does not exist -/
def modelSites : List String :=
  ["model:bad-outer", "model:bad-local", "model:empty-slot", "model:no-such-node", "model:no-such-observer",
   "model:no-such-var"]

def ModelSite (p : Panic) : Prop := ∃ site, p = .site site ∧ site ∈ modelSites

/-- every panic of `x` from `s` is a `model:` panic -/
def OMAt (s : State) {α} (x : M α) : Prop := ∀ p s', x.run.run s = (.error p, s') → ModelSite p

@[reducible] def OM {α} (x : M α) : Prop := ∀ s, OMAt s x

namespace P8
variable {s : State} {α β : Type}

theorem ret (a : α) : OMAt s (pure a : M α) := by
  intro p s' h; rw [run_pure] at h; cases h

theorem pan_model (site : String) (h : site ∈ modelSites) : OMAt s (Engine.panic site : M α) := by
  intro p s' hr
  have : (Engine.panic site : M α).run.run s = (.error (.site site), s) := rfl
  rw [this] at hr; cases hr
  exact ⟨site, rfl, h⟩

theorem seq {x : M α} {f : α → M β} (hx : OMAt s x) (hf : ∀ a s1, x.run.run s = (.ok a, s1) → OMAt s1 (f a)) :
    OMAt s (x >>= f) := by
  intro p s' h
  rcases h1 : x.run.run s with ⟨r, s1⟩
  cases r with
  | error e => rw [run_bind_err h1] at h; cases h; exact hx p _ h1
  | ok a => rw [run_bind_ok h1] at h; exact hf a s1 h1 p s' h

theorem get_seq {k : State → M β} (h : OMAt s (k s)) : OMAt s (get >>= k) := by
  intro p s' hr; rw [run_bind_get] at hr; exact h p s' hr

theorem modify_om (f : State → State) : OMAt s (modify f : M Unit) := by
  intro p s' h; rw [run_modify] at h; cases h

theorem cond {c : Prop} {_ : Decidable c} {a b : M α} (ha : c → OMAt s a) (hb : ¬ c → OMAt s b) :
    OMAt s (if c then a else b) := by
  by_cases h : c
  · rw [if_pos h]; exact ha h
  · rw [if_neg h]; exact hb h

theorem map {x : M α} (f : α → β) (hx : OMAt s x) : OMAt s (f <$> x) := by
  rw [map_eq_pure_bind]; exact seq hx fun _ _ _ => ret _

theorem discard {x : M α} (hx : OMAt s x) : OMAt s (discard x) := by
  unfold Functor.discard; exact map _ hx

theorem mapM_om {γ : Type} {f : γ → M β} (h : ∀ a, OM (f a)) (l : List γ) : OM (l.mapM f) := by
  induction l with
  | nil => intro s; rw [List.mapM_nil]; exact ret _
  | cons a l ih =>
    intro s; rw [List.mapM_cons]
    exact seq (h a s) fun _ s1 _ => seq (ih s1) fun _ _ _ => ret _

end P8

syntax "om_leaf" : tactic
macro_rules | `(tactic| om_leaf) => `(tactic| fail "no leaf")

macro "om_step" : tactic => `(tactic| first
  | with_reducible exact P8.ret _
  | ((with_reducible refine P8.pan_model _ ?_); (unfold modelSites; repeat (first | exact List.mem_cons_self | apply List.mem_cons_of_mem)))
  | with_reducible exact P8.modify_om _
  | ((with_reducible refine P8.get_seq ?_); try dsimp only)
  | (with_reducible refine P8.seq ?_ fun _ _ _ => ?_)
  | (with_reducible refine P8.map _ ?_)
  | (with_reducible refine P8.discard ?_)
  | om_leaf
  | (refine P8.cond (fun _ => ?_) (fun _ => ?_)))

macro "om" : tactic => `(tactic| repeat' om_step)

namespace P8

theorem getNode_om (n : Nat) : OM (getNode n) := by
  intro s; unfold getNode; om; split <;> om
theorem getObs_om (o : Nat) : OM (getObs o) := by
  intro s; unfold getObs; om; split <;> om
theorem getVar_om (v : Nat) : OM (getVar v) := by
  intro s; unfold getVar; om; split <;> om
theorem modNode_om (n : Nat) (f : Node → Node) : OM (modNode n f) := by
  intro s; unfold modNode; om
theorem modObs_om (o : Nat) (f : ObsRec → ObsRec) : OM (modObs o f) := by
  intro s; unfold modObs; om
theorem modVar_om (v : Nat) (f : VarCell → VarCell) : OM (modVar v f) := by
  intro s; unfold modVar; om
theorem modBind_om (b : Nat) (f : BindRec → BindRec) : OM (modBind b f) := by
  intro s; unfold modBind; om
theorem bumpCounter_om (f : Counters → Counters) : OM (bumpCounter f) := by
  intro s; unfold bumpCounter; om

end P8

macro_rules | `(tactic| om_leaf) => `(tactic| with_reducible exact P8.getNode_om _ _)
macro_rules | `(tactic| om_leaf) => `(tactic| with_reducible exact P8.getObs_om _ _)
macro_rules | `(tactic| om_leaf) => `(tactic| with_reducible exact P8.getVar_om _ _)
macro_rules | `(tactic| om_leaf) => `(tactic| with_reducible exact P8.modNode_om _ _ _)
macro_rules | `(tactic| om_leaf) => `(tactic| with_reducible exact P8.modObs_om _ _ _)
macro_rules | `(tactic| om_leaf) => `(tactic| with_reducible exact P8.modVar_om _ _ _)
macro_rules | `(tactic| om_leaf) => `(tactic| with_reducible exact P8.modBind_om _ _ _)
macro_rules | `(tactic| om_leaf) => `(tactic| with_reducible exact P8.bumpCounter_om _ _)

namespace P8

theorem resolveOpnd_om (loc : List Nat) (o : Opnd) : OM (resolveOpnd loc o) := by
  intro s; unfold resolveOpnd
  cases o <;> dsimp only
  case outer k => om; split <;> om
  case abs n => om
  case loc j => split <;> om
  case slot k => om; split <;> om

theorem isConstant_om (n : Nat) : OM (isConstant n) := by
  intro s; unfold isConstant; om; split <;> om

theorem createNode_om (k : Kind) (sc : Scope) (c : CutoffK) : OM (createNode k sc c) := by
  intro s; unfold createNode; om
  cases sc <;> om

theorem createVar_om (v : Val) (sc : Scope) : OM (createVar v sc) := by
  intro s; unfold createVar; om
  exact createNode_om _ _ _ _

theorem handleAfterStabilisation_om (n : Nat) : OM (handleAfterStabilisation n) := by
  intro s; unfold handleAfterStabilisation; om

theorem disallowFutureUse_om (o : Nat) : OM (disallowFutureUse o) := by
  intro s; unfold disallowFutureUse; om
  split <;> om

theorem subscribe_om (o hid : Nat) : OM (Engine.subscribe o hid) := by
  intro s; unfold Engine.subscribe; om
  split <;> om
  all_goals exact handleAfterStabilisation_om _ _

theorem unsubscribe_om (o t owner : Nat) : OM (Engine.unsubscribe o t owner) := by
  intro s; unfold Engine.unsubscribe; om
  split <;> om

/-- a write in status `stabilising` returns, or the variable does not exist -/
theorem writeVar_om (v : Nat) (f : Val → Val) (isSet : Bool) {s : State} (hst : s.status = .stabilising) :
    OMAt s (writeVar v f isSet) := by
  intro p s' h
  cases hv : s.vars[v]? with
  | none =>
    unfold writeVar at h
    rw [Proofs.run_bind, G1.run_getVar_none hv] at h
    cases h
    exact ⟨_, rfl, by unfold modelSites; repeat (first | exact List.mem_cons_self | apply List.mem_cons_of_mem)⟩
  | some vc =>
    rw [Proofs.writeVar_inside_run v f isSet s vc hv hst] at h
    cases h

end P8

macro_rules | `(tactic| om_leaf) => `(tactic| with_reducible exact P8.resolveOpnd_om _ _ _)
macro_rules | `(tactic| om_leaf) => `(tactic| with_reducible exact P8.isConstant_om _ _)
macro_rules | `(tactic| om_leaf) => `(tactic| with_reducible exact P8.createNode_om _ _ _ _)
macro_rules | `(tactic| om_leaf) => `(tactic| with_reducible exact P8.createVar_om _ _ _)
macro_rules | `(tactic| om_leaf) => `(tactic| with_reducible exact P8.disallowFutureUse_om _ _)
macro_rules | `(tactic| om_leaf) => `(tactic| with_reducible exact P8.subscribe_om _ _ _)
macro_rules | `(tactic| om_leaf) => `(tactic| with_reducible exact P8.unsubscribe_om _ _ _ _)
macro_rules | `(tactic| om_leaf) => `(tactic| ((with_reducible refine P8.writeVar_om _ _ _ ?_); assumption))
macro_rules | `(tactic| om_leaf) => `(tactic| with_reducible exact P8.mapM_om (fun a => P8.resolveOpnd_om _ a) _ _)

/-- **an action other than `stabilise` and other than a write never raises an engine panic, in ANY state; a write does not
in the state poisoned by a propagation panic**: if it panics at all, an index named by the history does not exist
(`modelSites`: `model:bad-outer`, `model:no-such-node`, `model:no-such-observer`, `model:no-such-var`, …) -/
theorem only_model_panics {env : Env} {a : Action} (ha : FAction env a) (hns : a ≠ .stabilise) {s s' : State}
    {tk : Array Nat} {p : Panic} (hst : writeFn a = none ∨ s.status = .stabilising)
    (h : (stepAction env a tk).run.run s = (.error p, s')) : ModelSite p := by
  refine (?_ : OMAt s (stepAction env a tk)) p s' h
  cases a <;> try exact ha.elim
  case stabilise => exact absurd rfl hns
  case create i =>
    unfold stepAction; dsimp only
    cases i <;> try exact ha.elim
    all_goals
      unfold elabInstrM; dsimp only; unfold elabInstr; dsimp only
      om
    all_goals (repeat (any_goals (first | (split <;> om))))
  case set v x =>
    have hst' : s.status = .stabilising := hst.resolve_left (by simp [writeFn])
    unfold stepAction; dsimp only; om
  case modify v d =>
    have hst' : s.status = .stabilising := hst.resolve_left (by simp [writeFn])
    unfold stepAction; dsimp only; om
  case update v d =>
    have hst' : s.status = .stabilising := hst.resolve_left (by simp [writeFn])
    unfold stepAction; dsimp only; om
  case replace v x =>
    have hst' : s.status = .stabilising := hst.resolve_left (by simp [writeFn])
    unfold stepAction; dsimp only; om
  case replaceWith v d =>
    have hst' : s.status = .stabilising := hst.resolve_left (by simp [writeFn])
    unfold stepAction; dsimp only; om
  all_goals
    unfold stepAction; dsimp only
    om
  all_goals (repeat (any_goals (first | (split <;> om))))

end IncrVerif.Proofs.FaultH
