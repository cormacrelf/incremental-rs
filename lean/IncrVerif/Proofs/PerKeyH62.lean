import IncrVerif.Proofs.PerKeyH61
import IncrVerif.Proofs.PerKeyH15
/-!
# One `.right` iteration of the per-key loop, part d: the bookkeeping `OpCore` of the operator after the iteration
-/
namespace IncrVerif.Proofs.PerKeyH
open IncrVerif.Engine IncrVerif.Driver IncrVerif.Proofs IncrVerif.Proofs.Step IncrVerif.Proofs.Sched
open IncrVerif.Proofs.ExpertH IncrVerif.Proofs.EffH IncrVerif.Proofs.DriverH IncrVerif.Proofs.ExpertH.QR IncrVerif.Proofs.Xp

/-- every dependency name in `prevNodes` is the name of an edge of the result record, hence below `nextDep` -/
theorem r_dep_lt {env : Env} {σ : State} {op eres : Nat} {pr1 : PerKeyRec} {er0 : ExpertRec}
    (S : SlotInv env σ) (C : OpCore env σ op pr1) (hres : (σ.nodeD pr1.result).kind = .expert eres)
    (he : σ.experts[eres]? = some er0) {key : Int} {p d : Nat} (hm : (key, (p, d)) ∈ pr1.prevNodes) :
    d < σ.nextDep := by
  obtain ⟨x, e, er, hN, hee, -, -, hent, -⟩ := C.nodes
  have : e = eres := by have := hN.result; rw [hres] at this; cases this; rfl
  subst this
  rw [he] at hee; cases hee
  obtain ⟨ed, locs, h1, h2, -⟩ := (hent key p d hm).edge
  rw [← h2]
  exact (S.deps e er0 he).2.1 ed h1

theorem r_opcore {env : Env} {op eres : Nat} {key : Int} {pr : PerKeyRec} {pn : List (Int × (Nat × Nat))}
    {er0 : ExpertRec} {σ σ' : State} {mapped dep : Nat}
    (R : RSh env op key pr.lhsChange (env.perKey pr.fam) (fun e => e = eres) σ σ' mapped)
    (E : REF op key eres er0 σ σ' mapped dep)
    (M : Mid (twEnv env) (twL [] σ)) (F : PFrag env σ) (S : SlotInv env σ)
    (C : OpCore env σ op { pr with prevNodes := pn })
    (hres : (σ.nodeD pr.result).kind = .expert eres) (he : σ.experts[eres]? = some er0)
    (hfresh : ∀ x, x ∈ pn → x.1 ≠ key)
    (hnamed : ∀ (k x : Nat), σ.top[k]? = some x → x < σ.nodes.size)
    (hinst : Inst σ' (env.perKey pr.fam) key σ.nodes.size
      (List.range' (σ.nodes.size + 1) (env.perKey pr.fam).instrs.length) mapped)
    (hbelow : ExpertH.Below σ' mapped σ.nodes.size ∨ ((V σ').nodeD σ.nodes.size).recomputedAt = -1) :
    OpCore env σ' op { pr with prevNodes := (key, (σ.nodes.size, dep)) :: pn } := by
  have B : BF (fun e => e = eres) σ σ' := LF.bf R.lfx.lf
  obtain ⟨x, e, er, hN, hee, hpk, ⟨d0, rest, hch, hrest, hd0⟩, hent, hout⟩ := C.nodes
  have hee' : e = eres := by have := hN.result; rw [show ({ pr with prevNodes := pn } : PerKeyRec).result = pr.result from rfl, hres] at this; cases this; rfl
  subst hee'
  rw [he] at hee; cases hee
  obtain ⟨er', he', hch', hfs'⟩ := E.xres
  obtain ⟨er1, he1, -, -, hpk1, -⟩ := R.lfx.lf.xrec e er0 he
  rw [he'] at he1; cases he1
  have hrlt : pr.result + 2 < σ.nodes.size := hN.lt
  have hlc : pr.lhsChange = pr.result + 1 := hN.lc
  have hdep := E.hdep
  have hd0lt : d0 < σ.nextDep :=
    (S.deps e er0 he).2.1 _ (by rw [hch]; exact List.mem_cons_self ..)
  have hold_lt : ∀ key' p d, (key', (p, d)) ∈ pn → d < σ.nextDep := fun key' p d hm =>
    r_dep_lt S C hres he hm
  have hP : ∀ y, Priv env { pr with prevNodes := (key, (σ.nodes.size, dep)) :: pn } y ↔
      (Priv env { pr with prevNodes := pn } y ∨
        (σ.nodes.size ≤ y ∧ y ≤ σ.nodes.size + (env.perKey pr.fam).instrs.length)) := fun y =>
    bf_priv_cons (pr1 := { pr with prevNodes := pn })
      (pr2 := { pr with prevNodes := (key, (σ.nodes.size, dep)) :: pn }) rfl rfl rfl y
  refine ⟨C.cut, ?_, ?_, ?_, C.templ, ?_, ?_, ?_, C.sorted⟩
  · -- own
    exact own_extend (pr1 := { pr with prevNodes := pn })
      (pr2 := { pr with prevNodes := (key, (σ.nodes.size, dep)) :: pn }) B (fun e _ h => h) F hres
      (show pr.result < σ.nodes.size by omega) rfl rfl rfl rfl
      (by rw [R.size]; exact Nat.le_refl _) (fun c x _ hx => r_kids_lt M hx) C.own
  · -- noObs
    intro y hy
    rw [hP] at hy
    rcases hy with hy | ⟨h1, h2⟩
    · have hlt := C.priv_lt hy
      have := R.lfx.lf.node y hlt
      simp only [nodeKey, Prod.mk.injEq] at this
      rw [this.2.2.2.2.2.2.2.1]
      exact C.noObs y hy
    · exact (R.lfx.lf.new y h1 (by rw [R.size]; omega)).observers
  · -- privTop
    intro k y hk hy
    rw [R.top] at hk
    rw [hP] at hy
    rcases hy with hy | ⟨h1, -⟩
    · exact C.privTop k y hk hy
    · have := hnamed k y hk; omega
  · -- nodes
    refine ⟨x, e, er', OpNodes.gf (pr := { pr with prevNodes := pn })
      (pr' := { pr with prevNodes := (key, (σ.nodes.size, dep)) :: pn }) B.gf rfl rfl hN, he', hpk1.trans hpk,
      ⟨d0, rest ++ [{ dep := σ.nextDep + 1, child := mapped, cb := some (σ.nextDep + 1) }], ?_, ?_, ?_⟩, ?_, ?_⟩
    · rw [hch', hch]; rfl
    · intro ed hed
      rcases List.mem_append.1 hed with h | h
      · obtain ⟨key', p, hm⟩ := hrest ed h
        exact ⟨key', p, List.mem_cons_of_mem _ hm⟩
      · rw [List.mem_singleton.1 h]
        exact ⟨key, σ.nodes.size, by rw [hdep]; exact List.mem_cons_self ..⟩
    · intro key' p d hm
      rcases List.mem_cons.1 hm with heq | hm
      · injection heq with _ e2
        injection e2 with _ e3
        rw [e3, hdep]; omega
      · exact hd0 key' p d hm
    · intro key' p d hm
      rcases List.mem_cons.1 hm with heq | hm
      · injection heq with e1 e2
        injection e2 with e2 e3
        rw [e1, e2, e3]
        have hmem : ({ dep := σ.nextDep + 1, child := mapped, cb := some (σ.nextDep + 1) } : ExpertEdge) ∈ er'.children := by
          rw [hch']; exact List.mem_append_right _ (List.mem_singleton.2 rfl)
        obtain ⟨erX, hx, x1, x2, x3, x4, x5⟩ := R.xnew
        refine ⟨by rw [R.size]; omega, ⟨_, erX, _, R.kind_p, hx, x3, x4⟩,
          ⟨_, _, hmem, hdep.symm, by rw [hdep], hinst, fun c hc => ?_, hrlt⟩,
          hbelow.imp (fun hb => ⟨_, hmem, hdep.symm, hb⟩) id, ⟨_, hmem, hdep.symm, hinst, ?_⟩⟩
        · have := List.mem_range'_1.1 hc
          show pr.result + 2 < c
          omega
        · show σ.nodes.size + (env.perKey pr.fam).instrs.length < σ'.nodes.size
          rw [R.size]; omega
      · exact EntryOK.bf (pr := { pr with prevNodes := pn })
          (pr' := { pr with prevNodes := (key, (σ.nodes.size, dep)) :: pn }) B (fun e h => h) he he' hpk rfl rfl rfl (hent key' p d hm)
    · intro k hk
      rw [R.top]; exact hout k hk
  · -- keys
    show ((key, (σ.nodes.size, dep)) :: pn |>.map (·.1)).Nodup
    rw [List.map_cons, List.nodup_cons]
    refine ⟨fun hmem => ?_, C.keys⟩
    obtain ⟨y, hy, hy2⟩ := List.mem_map.1 hmem
    exact hfresh y hy hy2
  · -- deps
    show ((key, (σ.nodes.size, dep)) :: pn |>.map (·.2.2)).Nodup
    rw [List.map_cons, List.nodup_cons]
    refine ⟨fun hmem => ?_, C.deps⟩
    obtain ⟨⟨k', p', d'⟩, hy, hy2⟩ := List.mem_map.1 hmem
    have := hold_lt k' p' d' hy
    simp only at hy2
    omega

end IncrVerif.Proofs.PerKeyH
