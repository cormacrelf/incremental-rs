import IncrVerif.Proofs.Subs1
import IncrVerif.Proofs.History
/-!
# Subscriptions, part 3: the observer actions of the API keep the core invariant `SubsH.QInv`

`SubsH.ObsInv` is `CutH.ObsCore`, and takes its lemmas from `Proofs/CutH17.lean`; `QInv.of_obs` assembles the invariant.
-/
namespace IncrVerif.Proofs.SubsH
open IncrVerif.Engine IncrVerif.Driver IncrVerif.Proofs IncrVerif.Proofs.Step IncrVerif.Proofs.Sched IncrVerif.Proofs.Quiet

/-! ## everything `QInv` reads, except the observer bookkeeping -/

structure OFrame (s s' : State) : Prop where
  nodes : s'.nodes = s.nodes
  vars : s'.vars = s.vars
  rch : s'.rch = s.rch
  stabNum : s'.stabNum = s.stabNum
  status : s'.status = s.status
  alive : s'.alive = s.alive
  setDuringStab : s'.setDuringStab = s.setDuringStab
  deadVars : s'.deadVars = s.deadVars
  handleAfterStab : s'.handleAfterStab = s.handleAfterStab
  pinv : s'.propagateInvalidity = s.propagateInvalidity
  top : s'.top = s.top
  pc : s'.panicCountdown = s.panicCountdown
  scope : s'.currentScope = s.currentScope

theorem OFrame.refl (s : State) : OFrame s s := ⟨rfl, rfl, rfl, rfl, rfl, rfl, rfl, rfl, rfl, rfl, rfl, rfl, rfl⟩

theorem OFrame.trans {a b c : State} (h1 : OFrame a b) (h2 : OFrame b c) : OFrame a c :=
  ⟨h2.nodes.trans h1.nodes, h2.vars.trans h1.vars, h2.rch.trans h1.rch, h2.stabNum.trans h1.stabNum,
    h2.status.trans h1.status, h2.alive.trans h1.alive, h2.setDuringStab.trans h1.setDuringStab,
    h2.deadVars.trans h1.deadVars, h2.handleAfterStab.trans h1.handleAfterStab, h2.pinv.trans h1.pinv,
    h2.top.trans h1.top, h2.pc.trans h1.pc, h2.scope.trans h1.scope⟩

theorem OFrame.nodeD {s s' : State} (F : OFrame s s') (m : Nat) : s'.nodeD m = s.nodeD m := by
  simp [State.nodeD, F.nodes]

/-- an action that only touches the observer bookkeeping (and counters) keeps `QInv` as soon as it keeps `ObsOK` -/
theorem QInv.of_obs {env : Env} {s s' : State} (Q : QInv env s) (F : OFrame s s') (O : ObsOK s') :
    QInv env s' where
  struct := GInv.congr Q.struct (SameG.of_nodes F.nodes F.pc F.scope F.rch F.vars)
  vars := by
    refine ⟨fun n c hn hk => ?_, fun c vc h => ?_⟩
    · rw [F.nodes] at hn; rw [F.nodeD] at hk; rw [F.vars]; exact Q.vars.node n c hn hk
    · rw [F.vars] at h; rw [F.nodes, F.nodeD]; exact Q.vars.cell c vc h
  obs := O
  now := by rw [F.stabNum]; exact Q.now
  stamps m := by rw [F.nodeD, F.stabNum]; exact Q.stamps m
  varStamp c vc h := by rw [F.vars] at h; rw [F.stabNum]; exact Q.varStamp c vc h
  cons m hm hs := by
    have S := SameG.of_nodes F.nodes F.pc F.scope F.rch F.vars
    rw [F.nodes] at hm
    rw [S.staleOf] at hs
    obtain ⟨v, hT, hv⟩ := Q.cons m hm hs
    refine ⟨v, Target.congr (by rw [F.nodeD]) F.vars (fun c _ => by rw [F.nodeD]) hT, ?_⟩
    rw [F.nodeD]; exact hv
  status := by rw [F.status]; exact Q.status
  alive := by rw [F.alive]; exact Q.alive
  setDuringStab := by rw [F.setDuringStab]; exact Q.setDuringStab
  deadVars := by rw [F.deadVars]; exact Q.deadVars
  pinv := by rw [F.pinv]; exact Q.pinv
  top k n h := by rw [F.top] at h; rw [F.nodes]; exact Q.top k n h

/-! ## the observer bookkeeping under a push / a modify -/

theorem ObsInv.toC {s : State} {pn pd : List Nat} (I : ObsInv s pn pd) : CutH.ObsCore s pn pd :=
  ⟨I.inRange, I.mem, I.created, I.newIn, I.dis, I.disIn, I.disNodup⟩
theorem ObsInv.ofC {s : State} {pn pd : List Nat} (I : CutH.ObsCore s pn pd) : ObsInv s pn pd :=
  ⟨I.inRange, I.mem, I.created, I.newIn, I.dis, I.disIn, I.disNodup⟩

theorem ObsInv.push {s s' : State} {pn pd : List Nat} {n : Nat} (I : ObsInv s pn pd)
    (hn : s'.nodes = s.nodes) (hlt : n < s.nodes.size)
    (ho : s'.observers = s.observers.push { node := n }) :
    ObsInv s' (pn ++ [s.observers.size]) pd :=
  .ofC (I.toC.push hn hlt ho)

/-- modifying one observer record -/
theorem ObsInv.modify {s s' : State} {pn pd pd' : List Nat} {o : Nat} {f : ObsRec → ObsRec}
    (I : ObsInv s pn pd) (hn : s'.nodes = s.nodes) (ho : s'.observers = s.observers.modify o f)
    (h1 : ∀ ob, s.observers[o]? = some ob → (f ob).node = ob.node)
    (h3 : ∀ ob, s.observers[o]? = some ob →
      (((f ob).state = .inUse ∨ (f ob).state = .disallowed) ↔ (ob.state = .inUse ∨ ob.state = .disallowed)))
    (h4 : ∀ ob, s.observers[o]? = some ob → (f ob).state = .created → ob.state = .created)
    (h5 : ∀ ob, s.observers[o]? = some ob → ((f ob).state = .disallowed ↔ o ∈ pd'))
    (h6 : ∀ o', (s.observers[o]? = none ∨ o' ≠ o) → (o' ∈ pd' ↔ o' ∈ pd))
    (h7 : pd'.Nodup) : ObsInv s' pn pd' :=
  .ofC (I.toC.modify hn ho h1 h3 h4 h5 h6 h7)

/-- a modification that keeps node and state of the record -/
theorem ObsInv.modify_same {s s' : State} {pn pd : List Nat} {o : Nat} {f : ObsRec → ObsRec}
    (I : ObsInv s pn pd) (hn : s'.nodes = s.nodes) (ho : s'.observers = s.observers.modify o f)
    (hf : ∀ ob, (f ob).node = ob.node ∧ (f ob).state = ob.state) :
    ObsInv s' pn pd :=
  .ofC (I.toC.modify_same hn ho hf)

/-! ## the actions -/

theorem modObs_same_q {env : Env} {s : State} {o : Nat} {f : ObsRec → ObsRec} (Q : QInv env s)
    (hf : ∀ ob, (f ob).node = ob.node ∧ (f ob).state = ob.state) :
    QInv env { s with observers := s.observers.modify o f } :=
  Q.of_obs ⟨rfl, rfl, rfl, rfl, rfl, rfl, rfl, rfl, rfl, rfl, rfl, rfl, rfl⟩
    (ObsInv.modify_same (s' := { s with observers := s.observers.modify o f }) Q.obs rfl rfl hf)

theorem step_observe {env : Env} {s s' : State} {k : Nat} {tokens : Array Nat} {r : String × Array Nat}
    (Q : QInv env s) (h : (stepAction env (.observe (.outer k)) tokens).run.run s = (.ok r, s')) :
    QInv env s' := by
  obtain ⟨n, h0, rfl, -⟩ := Hist.stepAction_observe_ok.1 h
  have hlt : n < s.nodes.size := Q.top k n (Hist.resolveOuter_ok.1 h0).1
  refine Q.of_obs ⟨rfl, rfl, rfl, rfl, rfl, rfl, rfl, rfl, rfl, rfl, rfl, rfl, rfl⟩ ?_
  exact ObsInv.push Q.obs rfl hlt rfl

theorem step_cloneObs {env : Env} {s s' : State} {o : Nat} {tokens : Array Nat} {r : String × Array Nat}
    (Q : QInv env s) (h : (stepAction env (.cloneObs o) tokens).run.run s = (.ok r, s')) :
    QInv env s' := by
  rw [Hist.stepAction_cloneObs_run] at h
  cases h
  exact modObs_same_q Q (fun ob => ⟨rfl, rfl⟩)

theorem disallowFutureUse_q {env : Env} {s s' : State} {o : Nat} {u : Unit}
    (Q : QInv env s) (h : (disallowFutureUse o).run.run s = (.ok u, s')) : QInv env s' :=
  have ⟨F, O, _⟩ := CutH.disallowFutureUse_obs (ObsInv.toC Q.obs) h
  Q.of_obs ⟨F.nodes, F.vars, F.rch, F.stabNum, F.status, F.alive, F.setDuringStab, F.deadVars, F.handleAfterStab, F.pinv, F.top, F.pc,
    F.scope⟩ (ObsInv.ofC O)

theorem step_dropObs {env : Env} {s s' : State} {o : Nat} {tokens : Array Nat} {r : String × Array Nat}
    (Q : QInv env s) (h : (stepAction env (.dropObs o) tokens).run.run s = (.ok r, s')) :
    QInv env s' := by
  obtain ⟨ob, -, h⟩ := Hist.stepAction_dropObs_ok.1 h
  split at h
  · rw [h.1]; exact Q
  · have Q1 := modObs_same_q (o := o) (f := fun x => { x with clones := x.clones - 1 }) Q (fun ob => ⟨rfl, rfl⟩)
    replace h := h.2
    split at h
    · exact disallowFutureUse_q Q1 h
    · rw [(pure_ok_inv h).2]; exact Q1

theorem step_disallow {env : Env} {s s' : State} {o : Nat} {tokens : Array Nat} {r : String × Array Nat}
    (Q : QInv env s) (h : (stepAction env (.disallow o) tokens).run.run s = (.ok r, s')) :
    QInv env s' :=
  disallowFutureUse_q Q (Hist.stepAction_disallow_ok.1 h).1

end IncrVerif.Proofs.SubsH
