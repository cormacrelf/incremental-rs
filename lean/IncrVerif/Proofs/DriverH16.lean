import IncrVerif.Proofs.DriverH14
import IncrVerif.Proofs.DriverH15
/-!
# `RmSpec`, part 7: the call on a NECESSARY expert node, threaded through the virtual states
-/
namespace IncrVerif.Proofs.DriverH
open IncrVerif.Engine IncrVerif.Driver IncrVerif.Proofs IncrVerif.Proofs.Step IncrVerif.Proofs.Sched
open IncrVerif.Proofs.ExpertH IncrVerif.Proofs.ExpertH.QR IncrVerif.Proofs.Xp

theorem swapNat_last (i k : Nat) : swapNat i k k = i := by
  unfold swapNat
  split
  · rename_i h; exact h
  · simp

theorem staleOf_fold_fresh {S : State} {m f : Nat} {v : Val} {cs : List Nat}
    (hk : (S.nodeD m).kind = .fold f v cs) (hr : (S.nodeD m).recomputedAt = -1) : staleOf S m = true := by
  unfold staleOf
  rw [hk, hr]
  simp

theorem rmPrepared_expert_ne {x e e' i : Nat} {er : ExpertRec} {s : State} (h : e' ≠ e) :
    (rmPrepared x e er i s).experts[e']? = s.experts[e']? := by
  obtain ⟨N, hN⟩ := rmPrepared_eq x e er i s
  rw [hN]
  show (s.experts.setIfInBounds e _)[e']? = _
  rw [Array.getElem?_setIfInBounds]
  simp [Ne.symm h]

theorem rmPrepared_kind (x e : Nat) (er : ExpertRec) (i : Nat) (s : State) (m : Nat) :
    ((rmPrepared x e er i s).nodeD m).kind = (s.nodeD m).kind := by
  rw [rmPrepared_setParents]

section
variable {E : Env} {rk : Nat → Nat} {s : State} {x e i : Nat} {er : ExpertRec}

/-- the prepared state still satisfies what the simulation needs -/
theorem fr_rmPrepared (fr : Fr s) (hx : s.experts[e]? = some er) : Fr (rmPrepared x e er i s) := by
  obtain ⟨N, hN⟩ := rmPrepared_eq x e er i s
  refine ⟨by rw [hN]; exact fr.pc, fun n => ?_, by rw [hN]; exact fr.pinv, fun n => ?_, fun e' r h => ?_⟩
  · rw [rmPrepared_setParents]; exact fr.valid n
  · rw [rmPrepared_kind]; exact fr.kind n
  · by_cases he : e' = e
    · subst he
      rw [rmPrepared_expert hx] at h
      cases h
      exact fr.ni e' er hx
    · rw [rmPrepared_expert_ne he] at h; exact fr.ni e' r h

/-- **the prepared state, read in the virtual state, is a `Prep` step** -/
theorem prep_virt (F : XFrag E s) (I : Struct (virtEnv E) rk (virt s)) (hlt : x < s.nodes.size)
    (hk : (s.nodeD x).kind = .expert e) (hx : s.experts[e]? = some er) (hi : i < er.children.length) :
    Prep x i (er.children.length - 1)
      (.fold (xBase + er.f) (.int 0) ((swapToEnd er.children i).map (·.child)))
      (virt s) (virt (rmPrepared x e er i s)) := by
  obtain ⟨N, hN⟩ := rmPrepared_eq x e er i s
  have hsym : ∀ m j, (x, j) ∈ (s.nodeD m).parents → (er.children[j]?).map (·.child) = some m := by
    intro m j hm
    have := (I.par m x j (by rw [virt_nodeD]; exact hm)).1
    rw [virt_kids_expert hk hx, List.getElem?_map] at this
    exact this
  have hx1 := rmPrepared_expert (n := x) (i := i) hx
  refine ⟨by rw [virt_size]; exact hlt, by rw [virt_size, virt_size, rmPrepared_size],
    by rw [hN]; rfl, by rw [hN]; rfl, by rw [hN]; rfl, by rw [hN]; rfl, fun m => ?_, fun m hm => ?_, ?_, fun j => ?_⟩
  · rw [virt_nodeD, virt_nodeD]
    exact rmPrepared_parents hi hsym m
  · have h1 := rmPrepared_setParents x e er i s m
    generalize ((rmPrepared x e er i s).nodeD m).parents = Pm at h1
    have h2 : virtNode (rmPrepared x e er i s).experts (s.nodeD m) = virtNode s.experts (s.nodeD m) := by
      apply virtNode_congrD
      intro e' he'
      have : e' ≠ e := by intro h; rw [h] at he'; exact hm (F.xinj he' hk)
      unfold xRec; rw [rmPrepared_expert_ne this]
    have key : (virt (rmPrepared x e er i s)).nodeD m = { (virt s).nodeD m with parents := Pm } := by
      rw [virt_nodeD, virt_nodeD, h1, ← h2]; rfl
    rw [key]
  · have h1 := rmPrepared_setParents x e er i s x
    generalize ((rmPrepared x e er i s).nodeD x).parents = Px at h1
    have key : (virt (rmPrepared x e er i s)).nodeD x =
        { (virt s).nodeD x with
          kind := .fold (xBase + er.f) (.int 0) ((swapToEnd er.children i).map (·.child)),
          recomputedAt := -1, parents := Px } := by
      rw [virt_nodeD, virt_nodeD, h1]
      unfold virtNode
      simp only [hk, virtKind, ExpertH.forced, xRec_some hx1, if_true]
    rw [key]
  · show ((swapToEnd er.children i).map (·.child))[j]? = _
    rw [virt_kids_expert hk hx, List.getElem?_map, List.getElem?_map, swapToEnd_getElem? _ _ hi]

end

/-- what the necessary case delivers -/
structure RmOut (E : Env) (e x i : Nat) (er : ExpertRec) (s s' : State) : Prop where
  st : ∃ rk, Struct (virtEnv E) rk (virt s')
  fr : Fr s'
  self : ∃ er', s'.experts[e]? = some er' ∧ er'.children = swapPop er.children i ∧ er'.forceStale = true
  other : ∀ e' er0 er0', e' ≠ e → s.experts[e']? = some er0 → s'.experts[e']? = some er0' →
    er0'.children = er0.children ∧ er0'.forceStale = er0.forceStale
  nec : s'.isNecessary x = s.isNecessary x
  necAll : s.isNecessary x = false → ∀ m, s'.isNecessary m = s.isNecessary m

theorem rm_nec {E : Env} {s s' : State} {fuel x dep e i : Nat} {er : ExpertRec}
    (M : Mid E s) (hlt : x < s.nodes.size) (hk : (s.nodeD x).kind = .expert e) (hx : s.experts[e]? = some er)
    (hi : er.children.findIdx? (·.dep == dep) = some i) (hnec : s.isNecessary x = true)
    (h : (expertRemoveDependency fuel x dep).run.run s = (.ok (), s')) : RmOut E e x i er s s' := by
  have F := M.frag
  obtain ⟨rk, I⟩ := M.st
  have fr := M.fr
  have hxE : IsExpert s x (s.nodeD x) e er := ⟨some_of_lt hlt, F.valid x hlt, hk, hx⟩
  have hrun : runningOk s x = true := by
    cases hr : runningOk s x with
    | true => rfl
    | false =>
      obtain ⟨p, hp⟩ := expertRemoveDependency_assert_fails fuel x dep hxE hr
      rw [hp] at h; cases h
  have hnecN : (s.nodeD x).isNecessary = true := hnec
  rw [expertRemoveDependency_necessary fuel x dep hxE hrun hi hnecN] at h
  obtain ⟨hil, -, -⟩ := findIdx_facts _ _ _ hi
  -- the prepared state
  have P := prep_virt (i := i) F I hlt hk hx hil
  have fr1 := fr_rmPrepared (x := x) (i := i) fr hx
  have hx1 := rmPrepared_expert (n := x) (i := i) hx
  have hkind1 := rmPrepared_kind x e er i s
  have hsz1 := rmPrepared_size x e er i s
  have hne1 : ∀ e', e' ≠ e → (rmPrepared x e er i s).experts[e']? = s.experts[e']? :=
    fun e' h => rmPrepared_expert_ne h
  have hnecv : (virt s).isNecessary x = true := by rw [virt_isNecessary]; exact hnec
  have hkids0 : kids ((virt s).nodeD x).kind = er.children.map (·.child) := virt_kids_expert hk hx
  have hK : (kids ((virt s).nodeD x).kind).length = (er.children.length - 1) + 1 := by
    rw [hkids0, List.length_map]; omega
  have hst1 : staleOf (virt (rmPrepared x e er i s)) x = true :=
    staleOf_fold_fresh P.kind_self (by rw [P.self])
  obtain ⟨I1, hh1, h01, hg1⟩ := GInv.prep I P hnecv (by rw [hK]; omega) (by rw [hK]; omega) trivial hst1
  rw [hK] at I1
  have hkid1 : (kids ((virt (rmPrepared x e er i s)).nodeD x).kind)[er.children.length - 1]? =
      some (er.children[i]?.getD default).child := by
    rw [P.kind_self]
    show ((swapToEnd er.children i).map (·.child))[er.children.length - 1]? = _
    rw [List.getElem?_map, swapToEnd_getElem? _ _ hil, swapNat_last, List.getElem?_eq_getElem hil]
    rfl
  have hkind1x : ((virt (rmPrepared x e er i s)).nodeD x).kind =
      .fold (xBase + er.f) (.int 0) ((swapToEnd er.children i).map (·.child)) := P.kind_self
  have hnec1 : (rmPrepared x e er i s).isNecessary x = true := by
    rw [← virt_isNecessary, P.nec]; exact hnecv
  generalize rmPrepared x e er i s = s1 at h P fr1 hx1 hkind1 hsz1 hne1 hst1 I1 hh1 h01 hg1 hkid1 hkind1x hnec1
  generalize hc : (er.children[i]?.getD default).child = c at h hkid1
  -- the unlinking phase
  obtain ⟨_, s2, h2, h⟩ := bind_ok_inv h
  obtain ⟨_, s3, h3, h4⟩ := bind_ok_inv h
  obtain ⟨hv2, fr2⟩ := Sim.removeParent c (er.children.length - 1) x s1 fr1 _ s2 h2
  obtain ⟨hv3, fr3⟩ := Sim.checkIfUnnecessary fuel c s2 fr2 _ s3 h3
  obtain ⟨I3, hx31, hh3, -⟩ := rm_unlink I1 hkid1 hh1 hv2 hv3
  have xf13 : XF s1 s3 := ((PresX.removeParent c _ x).h _ _ _ h2).trans ((PresX.checkIfUnnecessary fuel c).h _ _ _ h3)
  obtain ⟨r, hr3, hf3, -, hch3, -, hfs3⟩ := xf13.xrec hx1
  have hsz3 : s3.nodes.size = s.nodes.size := xf13.size.trans hsz1
  have hlt3 : x < s3.nodes.size := by rw [hsz3]; exact hlt
  have hkind3 : ∀ m, (s3.nodeD m).kind = (s.nodeD m).kind := fun m => (xf13.kind m).trans (hkind1 m)
  have hclt : c < s3.nodes.size := by
    have := I1.kid_in hkid1
    rw [virt_size] at this
    rw [xf13.size]; exact this
  have hn3 := some_of_lt hlt3
  have hc3 := some_of_lt hclt
  have hcv : (s3.nodeD c).valid = true := fr3.valid c
  have hnec3 : s3.isNecessary x = true := by
    have := I3.lnec x _ (upd_self ..)
    rwa [virt_isNecessary] at this
  -- the record after `rmFinish`
  have hfin : finishRec r (!(s3.nodeD c).valid) dep =
      { r with children := r.children.dropLast, forceStale := true, slots := r.slots.filter (·.1 != dep) } := by
    rw [hcv]; rfl
  generalize hr' : finishRec r (!(s3.nodeD c).valid) dep = r' at hfin
  have hr'f : r'.f = er.f := by rw [hfin]; exact hf3
  have hch3' : r.children = swapToEnd er.children i := hch3
  have hr'c : r'.children = (swapToEnd er.children i).dropLast := by rw [hfin, ← hch3']
  have hr'fs : r'.forceStale = true := by rw [hfin]
  have hr'ni : r'.numInvalidChildren = 0 := by rw [hfin]; exact fr3.ni e r hr3
  -- the virtual state after the record update
  have hinj3 : ∀ m, (s3.nodeD m).kind = .expert e → m = x := by
    intro m hm; rw [hkind3] at hm; exact F.xinj hm hk
  have R := rekind_putExpert (r' := r') hlt3 ((hkind3 x).trans hk) hr3 hinj3 hr'fs
  have hkind3x : ((virt s3).nodeD x).kind =
      .fold (xBase + er.f) (.int 0) ((swapToEnd er.children i).map (·.child)) := by rw [hx31]; exact hkind1x
  have hkk : kids (Kind.fold (xBase + r'.f) (.int 0) (r'.children.map (·.child))) =
      (kids ((virt s3).nodeD x).kind).take (er.children.length - 1) := by
    rw [hkind3x]
    show r'.children.map (·.child) = ((swapToEnd er.children i).map (·.child)).take _
    rw [hr'c, List.dropLast_eq_take, List.map_take, swapToEnd_length]
  have hst4 : staleOf (virt (putExpert e r' s3)) x = true := staleOf_fold_fresh R.kind_self R.rec_self
  have h03 : 0 ≤ ((virt s3).nodeD x).height := by rw [hx31]; exact h01
  have hg3 : ((virt s3).nodeD x).inRch = true → ((virt s3).nodeD x).heightInRch = ((virt s3).nodeD x).height := by
    rw [hx31]; exact hg1
  have frput : ∀ t, Fr t → t.experts = s3.experts → Fr (putExpert e r' t) := by
    intro t ft ht
    refine ⟨ft.pc, ft.valid, ft.pinv, ft.kind, fun e' r0 h0 => ?_⟩
    by_cases he : e' = e
    · subst he
      rw [putExpert_get (s := t) r' (by rw [ht]; exact hr3)] at h0
      cases h0; exact hr'ni
    · rw [putExpert_get_ne _ _ (Ne.symm he)] at h0; exact ft.ni e' r0 h0
  -- the final state
  have fin : ∀ t, (t = s3 ∨ t = inserted x (s3.nodeD x).height s3) → s' = putExpert e r' t → Fr t →
      Struct (virtEnv E) rk (virt s') → RmOut E e x i er s s' := by
    intro t ht hs' ft S'
    have hte : t.experts = s3.experts := by rcases ht with rfl | rfl <;> rfl
    have htn : ∀ m, t.isNecessary m = s3.isNecessary m := by
      intro m
      rcases ht with rfl | rfl
      · rfl
      · simp only [State.isNecessary, inserted_nodeD]; split <;> rfl
    refine ⟨⟨rk, S'⟩, by rw [hs']; exact frput t ft hte, ⟨r', ?_, ?_, hr'fs⟩, ?_, ?_, ?_⟩
    · rw [hs']; exact putExpert_get (s := t) r' (by rw [hte]; exact hr3)
    · rw [hr'c, swapToEnd_dropLast]
    · intro e' er0 er0' he h0 h0'
      rw [hs', putExpert_get_ne _ _ (Ne.symm he), hte] at h0'
      rw [← hne1 e' he] at h0
      obtain ⟨er1, h1, -, -, hc1, -, hf1⟩ := xf13.xrec h0
      rw [h1] at h0'; cases h0'
      exact ⟨hc1, hf1⟩
    · rw [hs', putExpert_isNecessary, htn, hnec3, hnec]
    · intro hf; rw [hnec] at hf; cases hf
  obtain ⟨ndn, hndn, h4⟩ : ∃ ndn, s3.nodes[x]? = some ndn ∧ (rmFinish x e c dep).run.run s3 = (.ok (), s') :=
    ⟨_, hn3, h4⟩
  have hndD : s3.nodeD x = ndn := nodeD_of_some hndn
  cases hq : ndn.inRch with
  | true =>
    rw [rmFinish_run_queued hndn hq hr3 hc3, hr'] at h4
    have hs' : s' = putExpert e r' s3 := by cases h4; rfl
    refine fin s3 (Or.inl rfl) hs' fr3 ?_
    rw [hs']
    exact rm_close I3 R hkk trivial hst4 hh3 h03 hg3
      (Or.inl ⟨by rw [virt_nodeD, hndD]; exact hq, rfl⟩)
  | false =>
    rw [rmFinish_run_insert hndn hq hr3 hc3, hr'] at h4
    rcases hins : (rchInsert x).run.run s3 with ⟨_ | u, S1⟩
    · rw [hins] at h4; cases h4
    · rw [hins] at h4
      have hs' : s' = putExpert e r' (inserted x ndn.height s3) := by cases h4; rfl
      obtain ⟨-, fr6⟩ := Sim.rchInsert x s3 fr3 _ S1 hins
      obtain ⟨nd1, hn1, h0, hmax, e1⟩ := rchInsert_ok_inv hins
      rw [hndn] at hn1; cases hn1
      rw [e1] at fr6
      refine fin _ (Or.inr (by rw [hndD])) hs' fr6 ?_
      have hnqv : ((virt s3).nodeD x).inRch = false := by rw [virt_nodeD, hndD]; exact hq
      have hlt3v : x < (virt s3).nodes.size := by rw [virt_size]; exact hlt3
      have hheap := I3.heap.inserted (x := ndn.height) hlt3v hnqv h0 hmax
      rw [hs']
      refine rm_close I3 R hkk trivial hst4 hh3 h03 hg3 (Or.inr ⟨hnqv, ?_⟩)
      refine ⟨rfl, rfl, ?_, rfl, fun m => ?_, fun m hm => ?_, ?_, ?_⟩
      · rw [virt_size, virt_size]; exact Array.size_modify ..
      · rw [virt_nodeD, virt_nodeD, putExpert_nodeD, putExpert_nodeD, inserted_nodeD]
        split
        · exact ⟨_, rfl⟩
        · exact ⟨(s3.nodeD m).heightInRch, rfl⟩
      · rw [virt_nodeD, virt_nodeD, putExpert_nodeD, putExpert_nodeD, inserted_nodeD,
          if_neg (fun h => hm h.1.symm)]
        rfl
      · refine hheap.congr rfl ?_ (fun m => ?_)
        · rw [virt_size]; show (inserted x ndn.height s3).nodes.size = (inserted x ndn.height (virt s3)).nodes.size
          simp [inserted, virt_size]
        · rw [virt_nodeD, putExpert_nodeD, inserted_nodeD, inserted_nodeD, virt_size, virt_nodeD]
          split <;> rfl
      · rw [virt_nodeD, virt_nodeD, putExpert_nodeD, putExpert_nodeD, inserted_nodeD, if_pos ⟨rfl, hlt3⟩, hndD]
        rfl

end IncrVerif.Proofs.DriverH
