import IncrVerif.Proofs.DriverH1
import IncrVerif.Proofs.DriverH3
import IncrVerif.Proofs.ExpertH60
/-!
# Drivers, `expert_add_dependency` between two effects, part 1: frames, and the UNNECESSARY expert node

* `ef_added`: the bookkeeping step `addedState` followed by anything with frames `NF`, `XF` (and `XS` for the whole call)
  is `EF (· = e)`, with the record facts of `AddSpec`.
* `mid_added`: `Mid` after such a tail.
* `addSpec_unnec`: the contract of `AddSpec` when the expert node is not necessary.
-/
namespace IncrVerif.Proofs.DriverH
open IncrVerif.Engine IncrVerif.Driver IncrVerif.Proofs IncrVerif.Proofs.Step IncrVerif.Proofs.Sched
open IncrVerif.Proofs.ExpertH IncrVerif.Proofs.ExpertH.QR IncrVerif.Proofs.Xp

theorem NF.inserted (n : Nat) (x : Int) (s : State) : NF s (inserted n x s) := by
  refine ⟨Array.size_modify .., fun m => ?_, ?_, fun m h => ?_⟩
  · rw [inserted_nodeD]; split <;> rfl
  · simp only [eKey, Prod.mk.injEq]
    exact ⟨rfl, rfl, rfl, rfl, rfl, rfl, rfl, rfl, rfl, rfl, rfl, rfl, rfl, rfl, rfl, rfl, Array.size_modify .., rfl⟩
  · simp only [State.isNecessary] at h ⊢
    rw [inserted_nodeD]; split
    · exact h
    · exact h

/-! ## the bookkeeping step followed by a framed tail -/

section
variable {E : Env} {s s' : State} {e c : Nat} {cb : Bool} {er : ExpertRec}

theorem addedState_xsize : (addedState e er c cb s).experts.size = s.experts.size := by
  simp [IncrVerif.Proofs.ExpertH.addedState, putExpert, bumpDep]

/-- the frame and the record facts of `AddSpec` -/
theorem ef_added (hx : s.experts[e]? = some er) (nf : NF (addedState e er c cb s) s')
    (xf : XF (addedState e er c cb s) s') (xs : XS s s') :
    EF (fun e' => e' = e) s s' ∧ s'.nextDep = s.nextDep + 1 ∧
      (∃ er', s'.experts[e]? = some er' ∧ er'.children = er.children ++ [newEdge s c cb] ∧
        er'.script = er.script ∧ er'.sel = er.sel ∧ er'.forceStale = true) ∧
      (∀ m, s.isNecessary m = true → s'.isNecessary m = true) := by
  obtain ⟨er1, he1, -, -, hc1, -, hf1⟩ := xf.xrec (addedState_get (c := c) (cb := cb) hx)
  obtain ⟨er1', he1', hs1, hl1⟩ := xs.get hx
  rw [he1] at he1'; cases he1'
  refine ⟨⟨nf.size, nf.node, nf.key, xf.xsize.trans addedState_xsize, ?_, ?_, ?_, ?_⟩, xf.nextDep,
    ⟨er1, he1, hc1, hs1, hl1, hf1⟩, nf.nec⟩
  · intro e' er0 he0
    by_cases h : e' = e
    · subst h
      rw [hx] at he0; cases he0
      obtain ⟨er2, he2, f2, n2, -, p2, -⟩ := xf.xrec (addedState_get (c := c) (cb := cb) hx)
      exact ⟨er2, he2, f2, n2, p2⟩
    · have : (addedState e er c cb s).experts[e']? = some er0 := by rw [addedState_get_ne h]; exact he0
      obtain ⟨er2, he2, f2, n2, -, p2, -⟩ := xf.xrec this
      exact ⟨er2, he2, f2, n2, p2⟩
  · intro e' er0 er2 hD he0 he2
    have : (addedState e er c cb s).experts[e']? = some er0 := by rw [addedState_get_ne hD]; exact he0
    obtain ⟨er3, he3, -, -, c3, -, f3⟩ := xf.xrec this
    rw [he2] at he3; cases he3
    obtain ⟨er4, he4, s4, l4⟩ := xs.get he0
    rw [he2] at he4; cases he4
    simp only [recK, Prod.mk.injEq]
    exact ⟨c3, f3, s4, l4⟩
  · intro e' er0 er2 he0 he2
    by_cases h : e' = e
    · subst h
      rw [he1] at he2; cases he2
      exact Or.inr hf1
    · have : (addedState e er c cb s).experts[e']? = some er0 := by rw [addedState_get_ne h]; exact he0
      obtain ⟨er3, he3, -, -, c3, -, f3⟩ := xf.xrec this
      rw [he2] at he3; cases he3
      exact Or.inl ⟨c3, f3⟩
  · rw [xf.nextDep]; exact Nat.le_succ _

/-- `Mid` after the tail -/
theorem mid_added {rk' : Nat → Nat} (M : Mid E s) (hx : s.experts[e]? = some er)
    (nf : NF (addedState e er c cb s) s') (xf : XF (addedState e er c cb s) s') (fr : Fr s')
    (hA : AhhEmpty s') (S : Struct (virtEnv E) rk' (virt s')) : Mid E s' :=
  ⟨(M.frag.added (c := c) (cb := cb) hx).of_xf xf fr, hA, ⟨rk', S⟩, fr.pinv,
    fun m => by rw [nf.num m]; exact M.handlers m⟩

end

/-! ## the node is not necessary -/

theorem addSpec_unnec {E : Env} {s s' : State} {fuel n c e dep : Nat} {cb : Bool} {nd : Node} {er : ExpertRec}
    (M : Mid E s) (hx : IsExpert s n nd e er) (hnec : nd.isNecessary = false)
    (hc : c < s.nodes.size) (hacyc : ¬ ExpertH.Below s c n)
    (h : (expertAddDependency E fuel n c cb).run.run s = (.ok dep, s')) :
    Mid E s' ∧ EF (fun e' => e' = e) s s' ∧ dep = s.nextDep ∧ s'.nextDep = s.nextDep + 1 ∧
      (∃ er', s'.experts[e]? = some er' ∧ er'.children = er.children ++ [newEdge s c cb] ∧
        er'.script = er.script ∧ er'.sel = er.sel ∧ er'.forceStale = true) ∧
      (∀ m, s.isNecessary m = true → s'.isNecessary m = true) := by
  have F := M.frag
  obtain ⟨rk, Q⟩ := M.st
  have hD : s.nodeD n = nd := nodeD_of_some hx.node
  have hk : (s.nodeD n).kind = .expert e := by rw [hD]; exact hx.kind
  have xs : XS s s' := (PresS.expertAddDependency E fuel n c cb).h _ _ _ h
  rw [expertAddDependency_unnecessary E fuel n c cb hx hnec] at h
  have e' : s' = addedState e er c cb s := by cases h; rfl
  have hdep : dep = s.nextDep := by cases h; rfl
  subst e'
  obtain ⟨rk', A2⟩ := allStatic_added (cb := cb) F Q.static hk hx.xrec hc hacyc
  have R := rekind_added (c := c) (cb := cb) F hk hx.xrec
  have hn : (virt s).isNecessary n = false := by
    rw [virt_isNecessary]; simp only [State.isNecessary, hD]; exact hnec
  have S' : Struct (virtEnv E) rk' (virt (addedState e er c cb s)) := GInv.rekind_unnec Q R A2 hn
  have F2 : XFrag E (addedState e er c cb s) := F.added hx.xrec
  have fr2 : Fr (addedState e er c cb s) := F2.fr M.pinv
  obtain ⟨ef, hnd, hrec⟩ := ef_added (c := c) (cb := cb) hx.xrec (NF.refl _) (XF.refl _) xs
  exact ⟨mid_added M hx.xrec (NF.refl _) (XF.refl _) fr2 (ahhEmpty_of_ahf M.ahh (AhF.of_nodes rfl rfl)) S',
    ef, hdep, hnd, hrec⟩

end IncrVerif.Proofs.DriverH
