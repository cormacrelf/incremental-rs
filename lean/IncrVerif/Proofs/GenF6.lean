import IncrVerif.Proofs.GenF5
import IncrVerif.Proofs.OnceF6
/-!
# C03, combined fragment, part 6: NON-VACUITY on `exHistF` (the round in which the lhs of the outer bind flips)
-/
namespace IncrVerif.Proofs.GenF
open IncrVerif.Engine IncrVerif.Driver IncrVerif.Proofs IncrVerif.Proofs.Step IncrVerif.Proofs.Sched IncrVerif.Proofs.Quiet
open IncrVerif.Proofs.FullH IncrVerif.Proofs.TidyH IncrVerif.Proofs.OnceF IncrVerif.Proofs.BindH

theorem stateB_snoc_stab {env : Env} {as : List Action} {s1 s2 : State} {tk1 : Array Nat}
    (h1 : Quiet.runActions env as (State.init 128 true) #[] = .ok (s1, tk1))
    (k : (stabilise env fuelDefault).run.run s1 = (.ok (), s2)) :
    C2h.stateB env as = some s1 ∧ C2h.stateB env (as ++ [Action.stabilise]) = some s2 := by
  constructor
  · simp only [C2h.stateB, h1]
  · simp only [C2h.stateB, Quiet.runActions_append, h1, Quiet.runActions, step_stabilise_run k]

/-- what is listed about a state: the dead nodes, the invalid nodes, the generation lists of the bind records -/
def summary (s : State) : List Nat × List Nat × List (List Nat) :=
  ((List.range s.nodes.size).filter (deadB s), (List.range s.nodes.size).filter (fun n => !(s.nodeD n).valid),
    s.binds.toList.map (·.allNodesCreatedOnRhs))

/-- the theorems apply at every `stabilise` of `exHistF` -/
theorem exHistF_c03 {as bs : List Action} (e : exHistF = as ++ Action.stabilise :: bs) :
    ∃ s tk s1 tk1 s2, Quiet.runActions fEnv exHistF (State.init 128 true) #[] = .ok (s, tk) ∧
      Quiet.runActions fEnv as (State.init 128 true) #[] = .ok (s1, tk1) ∧ QInvFE fEnv fSp s1 ∧
      (stabilise fEnv fuelDefault).run.run s1 = (.ok (), s2) ∧ QInvFE fEnv fSp s2 ∧
      NoDeadStab fEnv fuelDefault s1 s2 ∧ DyingStab fEnv fuelDefault s1 s2 ∧
      Quiet.runActions fEnv bs s2 tk1 = .ok (s, tk) := by
  obtain ⟨s, tk, s1, tk1, s2, h0, k1, Q1, k3, k7⟩ := ex_at_stabilise exHistF_runs exHistF_frag e
  exact ⟨s, tk, s1, tk1, s2, h0, k1, Q1, k3, (stabilise_c02 fEnv_envS fEnv_first Q1 k3).2.2, stabilise_noDead fEnv_envS fEnv_first Q1 k3,
    stabilise_dying fEnv_envS fEnv_first Q1 k3, k7⟩

/-- the round of `exHistF` in which the lhs of the outer bind flips (`s1` = the state after 11 actions, `s2` = after the `stabilise` that follows) -/
theorem exHistF_flip : ∃ s1 s2, C2h.stateB fEnv (exHistF.take 11) = some s1 ∧ C2h.stateB fEnv (exHistF.take 12) = some s2 ∧
    QInvFE fEnv fSp s1 ∧ QInvFE fEnv fSp s2 ∧ (stabilise fEnv fuelDefault).run.run s1 = (.ok (), s2) ∧
    NoDeadStab fEnv fuelDefault s1 s2 ∧ DyingStab fEnv fuelDefault s1 s2 := by
  have e : exHistF = exHistF.take 11 ++ Action.stabilise :: exHistF.drop 12 := rfl
  obtain ⟨s, tk, s1, tk1, s2, -, k1, Q1, k3, Q2, N, D, -⟩ := exHistF_c03 e
  obtain ⟨a, b⟩ := stateB_snoc_stab k1 k3
  exact ⟨s1, s2, a, b, Q1, Q2, k3, N, D⟩

set_option maxRecDepth 100000 in
/-- kernel-checked: before the flip nothing is dead or invalid and the two records list `5…11` (outer) and `12, 13` (inner bind, created by the outer closure: its two
nodes are 9, 10); after the `stabilise` in which the outer lhs flips the nodes `5…13` — the outer generation INCLUDING the inner bind's two nodes, and the inner generation —
are dead and invalid, the outer record lists the new generation `14`, the inner record lists nothing; at the end of the history (two more generations) `5…14` and `22` are
dead and invalid -/
theorem exHistF_summaries :
    (C2h.stateB fEnv (exHistF.take 11)).map summary = some ([], [], [[5, 6, 7, 8, 9, 10, 11], [12, 13]]) ∧
    (C2h.stateB fEnv (exHistF.take 12)).map summary =
      some ([5, 6, 7, 8, 9, 10, 11, 12, 13], [5, 6, 7, 8, 9, 10, 11, 12, 13], [[14], []]) ∧
    (C2h.stateB fEnv exHistF).map summary =
      some ([5, 6, 7, 8, 9, 10, 11, 12, 13, 14, 22], [5, 6, 7, 8, 9, 10, 11, 12, 13, 14, 22], [[15, 16, 17, 18, 19, 20, 21], [], [23, 24]]) := by
  have h := (EX.along_spec fEnv (·.map summary) exHistF [11, 12, 21] 0 (by decide)).symm.trans
    (show EX.along fEnv (·.map summary) [11, 12, 21] 0 exHistF (EX.runTo fEnv exHistF 0) =
      [some ([], [], [[5, 6, 7, 8, 9, 10, 11], [12, 13]]),
        some ([5, 6, 7, 8, 9, 10, 11, 12, 13], [5, 6, 7, 8, 9, 10, 11, 12, 13], [[14], []]),
        some ([5, 6, 7, 8, 9, 10, 11, 12, 13, 14, 22], [5, 6, 7, 8, 9, 10, 11, 12, 13, 14, 22], [[15, 16, 17, 18, 19, 20, 21], [], [23, 24]])]
      by decide +kernel)
  simp only [List.map_cons, List.map_nil, List.cons.injEq, and_true] at h
  rw [show exHistF.take 21 = exHistF from rfl] at h
  exact h

end IncrVerif.Proofs.GenF
