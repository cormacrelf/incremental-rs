import IncrVerif.Proofs.CutH27
/-!
# C06 for whole histories, part 9: between stabilisations nothing happens to values and stamps

* `step_kept`: a static API action other than `stabilise` leaves value, `recomputedAt`, `changedAt` and kind of every
  existing node untouched; it leaves every cutoff untouched unless it is a `cutoff` action.
* `always_history`: hence, over any list of static actions without `cutoff` actions, a node with cutoff `.always` that has
  a value keeps its `changedAt` for ever (and its cutoff, and it keeps having a value): "after its first result the
  node never bumps `changedAt` again".
-/
namespace IncrVerif.Proofs.CutH
open IncrVerif.Engine IncrVerif.Driver IncrVerif.Proofs IncrVerif.Proofs.Step IncrVerif.Proofs.Sched
variable {e : Bool}

/-- the node array is untouched -/
def NodesEq (s s' : State) : Prop := s'.nodes = s.nodes

instance : PreOrd NodesEq := ⟨fun _ => rfl, fun h1 h2 => Eq.trans h2 h1⟩

macro_rules
  | `(tactic| qleaf) =>
    `(tactic| ((with_reducible apply Step.Pres.modify); intro _; exact (rfl : State.nodes _ = State.nodes _)))

theorem PresN.bumpCounter (f) : Step.Pres NodesEq (bumpCounter f) := by unfold Engine.bumpCounter; qpres
macro_rules | `(tactic| qleaf) => `(tactic| with_reducible apply PresN.bumpCounter)
theorem PresN.getObs (o) : Step.Pres NodesEq (getObs o) := by unfold Engine.getObs; qpres
macro_rules | `(tactic| qleaf) => `(tactic| with_reducible apply PresN.getObs)
theorem PresN.modObs (o f) : Step.Pres NodesEq (modObs o f) := by unfold Engine.modObs; qpres
macro_rules | `(tactic| qleaf) => `(tactic| with_reducible apply PresN.modObs)
theorem PresN.disallowFutureUse (o) : Step.Pres NodesEq (disallowFutureUse o) := by
  unfold Engine.disallowFutureUse; qpres
macro_rules | `(tactic| qleaf) => `(tactic| with_reducible apply PresN.disallowFutureUse)
theorem PresN.resolveOpnd (l o) : Step.Pres NodesEq (resolveOpnd l o) := by unfold Engine.resolveOpnd; qpres
macro_rules | `(tactic| qleaf) => `(tactic| with_reducible apply PresN.resolveOpnd)

/-- value, both stamps and kind of every existing node are the same in `s'` -/
def Kept (s s' : State) : Prop :=
  s.nodes.size ≤ s'.nodes.size ∧
    ∀ m, m < s.nodes.size → Untouched s s' m ∧ (s'.nodeD m).kind = (s.nodeD m).kind

/-- the cutoff of every existing node is the same in `s'` -/
def KeptCut (s s' : State) : Prop := ∀ m, m < s.nodes.size → (s'.nodeD m).cutoff = (s.nodeD m).cutoff

theorem Kept.refl (s : State) : Kept s s := ⟨Nat.le_refl _, fun m _ => ⟨Untouched.refl s m, rfl⟩⟩

theorem Kept.trans {a b c : State} (h1 : Kept a b) (h2 : Kept b c) : Kept a c := by
  refine ⟨Nat.le_trans h1.1 h2.1, fun m hm => ?_⟩
  obtain ⟨u1, k1⟩ := h1.2 m hm
  obtain ⟨u2, k2⟩ := h2.2 m (Nat.lt_of_lt_of_le hm h1.1)
  exact ⟨u1.trans u2, k2.trans k1⟩

theorem KeptCut.trans {a b c : State} (hs : a.nodes.size ≤ b.nodes.size) (h1 : KeptCut a b) (h2 : KeptCut b c) :
    KeptCut a c := fun m hm => (h2 m (Nat.lt_of_lt_of_le hm hs)).trans (h1 m hm)

theorem kept_of_nodes {s s' : State} (h : s'.nodes = s.nodes) : Kept s s' ∧ KeptCut s s' := by
  have hnd : ∀ m, s'.nodeD m = s.nodeD m := fun m => by simp [State.nodeD, h]
  refine ⟨⟨by rw [h]; exact Nat.le_refl _, fun m _ => ?_⟩, fun m _ => by rw [hnd]⟩
  rw [Untouched, hnd]; exact ⟨⟨rfl, rfl, rfl⟩, rfl⟩

/-- is the action a `cutoff` action? -/
def IsCutoff : Action → Bool
  | .create (.cutoff _ _) => true
  | _ => false

/-- a write keeps the node data (only `heightInRch` of the watch node may change) -/
theorem writeVar_kept {env : Env} {s s' : State} {v : Nat} {f : Val → Val} {isSet : Bool} {r : Val}
    (Q : QInv env e s) (h : (writeVar v f isSet).run.run s = (.ok r, s')) : Kept s s' ∧ KeptCut s s' := by
  obtain ⟨vc, hv⟩ := writeVar_ok_cell h
  have hst : s.status ≠ .stabilising := by rw [Q.status]; intro e; cases e
  obtain ⟨-, hs', -, -, hh⟩ := writeVar_outside_ok v f isSet s s' vc r hv hst h
  obtain ⟨R, -⟩ := wroteOutside_q (f vc.value) Q hv hh
  rw [← hs'] at R
  refine ⟨⟨by rw [R.size]; exact Nat.le_refl _, fun m _ => ⟨⟨R.value m, R.recomputedAt m, R.changedAt m⟩, R.kind m⟩⟩,
    fun m _ => ?_⟩
  obtain ⟨y, ey⟩ := R.node m
  rw [ey]

/-- **between stabilisations.** A static action other than `stabilise` leaves value, stamps and kind of every existing
node untouched, and the cutoffs too unless it is a `cutoff` action. -/
theorem step_kept {env : Env} {s s' : State} {a : Action} {tokens : Array Nat} {r : String × Array Nat}
    (Q : QInv env e s) (ha : StaticAction env a) (hns : a ≠ .stabilise)
    (h : (stepAction env a tokens).run.run s = (.ok r, s')) :
    Kept s s' ∧ (IsCutoff a = false → KeptCut s s') := by
  have viaNodes : Step.Pres NodesEq (stepAction env a tokens) → Kept s s' ∧ (IsCutoff a = false → KeptCut s s') :=
    fun P => ⟨(kept_of_nodes (P.h _ _ _ h)).1, fun _ => (kept_of_nodes (P.h _ _ _ h)).2⟩
  have viaWrite : ∀ {v : Nat} {f : Val → Val} {isSet : Bool} {r1 : Val},
      (writeVar v f isSet).run.run s = (.ok r1, s') → Kept s s' ∧ (IsCutoff a = false → KeptCut s s') :=
    fun hw => ⟨(writeVar_kept Q hw).1, fun _ => (writeVar_kept Q hw).2⟩
  cases a <;> try exact ha.elim
  case stabilise => exact absurd rfl hns
  case create i =>
    rcases (create_static Q.struct.static.scope Q.top ha h).2 with ⟨k, cut, -, -, -, C, -⟩ | ⟨n, c, m, rfl, rfl⟩
    · refine ⟨⟨by rw [C.size]; omega, fun m hm => ?_⟩, fun _ m hm => by rw [C.nodeD_lt hm]⟩
      rw [Untouched, C.nodeD_lt hm]; exact ⟨⟨rfl, rfl, rfl⟩, rfl⟩
    · refine ⟨⟨by rw [(cutSet_sameC m c s).size]; exact Nat.le_refl _, fun k _ => ?_⟩, fun hc => by cases hc⟩
      have g := (cutSet_sameC m c s).node k
      exact ⟨⟨cutSet_value m c s k, g.recomputedAt, g.changedAt⟩, g.kind⟩
  case observe n =>
    apply viaNodes
    unfold stepAction; qpres
  case cloneObs o =>
    apply viaNodes
    unfold stepAction; qpres
  case dropObs o =>
    apply viaNodes
    unfold stepAction; qpres
  case disallow o =>
    apply viaNodes
    unfold stepAction; qpres
  case set v x =>
    unfold stepAction at h
    dsimp only at h
    obtain ⟨_, s1, h1, h2⟩ := bind_ok_inv h
    obtain ⟨-, e2⟩ := pure_ok_inv h2
    obtain ⟨r1, h1⟩ := discard_ok_inv h1
    exact viaWrite (by rw [e2]; exact h1)
  case modify v d =>
    unfold stepAction at h
    dsimp only at h
    obtain ⟨_, s1, h1, h2⟩ := bind_ok_inv h
    obtain ⟨-, e2⟩ := pure_ok_inv h2
    obtain ⟨r1, h1⟩ := discard_ok_inv h1
    exact viaWrite (by rw [e2]; exact h1)
  case update v d =>
    unfold stepAction at h
    dsimp only at h
    obtain ⟨_, s1, h1, h2⟩ := bind_ok_inv h
    obtain ⟨-, e2⟩ := pure_ok_inv h2
    obtain ⟨r1, h1⟩ := discard_ok_inv h1
    exact viaWrite (by rw [e2]; exact h1)
  case replace v x =>
    unfold stepAction at h
    dsimp only at h
    obtain ⟨_, s1, h1, h2⟩ := bind_ok_inv h
    obtain ⟨-, e2⟩ := pure_ok_inv h2
    exact viaWrite (by rw [e2]; exact h1)
  case replaceWith v d =>
    unfold stepAction at h
    dsimp only at h
    obtain ⟨_, s1, h1, h2⟩ := bind_ok_inv h
    obtain ⟨-, e2⟩ := pure_ok_inv h2
    exact viaWrite (by rw [e2]; exact h1)
  case get v =>
    apply viaNodes
    unfold stepAction; qpres
  case isStable =>
    apply viaNodes
    unfold stepAction; qpres
  case stats =>
    apply viaNodes
    unfold stepAction; qpres

/-- **`Cutoff::Always`, whole histories.** From a reachable state in which node `m` has cutoff `.always` and a value,
run any list of static actions that contains no `cutoff` action: `m` still has cutoff `.always`, still has a value, and
its `changedAt` is what it was — it never bumps `changedAt` again, however often it is recomputed. -/
theorem always_history {env : Env} {acts : List Action} {s s' : State} {tk tk' : Array Nat} {m : Nat}
    (Q : QInv env e s) (ha : ∀ a, a ∈ acts → StaticAction env a) (hnc : ∀ a, a ∈ acts → IsCutoff a = false)
    (hm : m < s.nodes.size) (hc : (s.nodeD m).cutoff = .always) (hv : (s.nodeD m).value ≠ none)
    (h : runActions env acts s tk = .ok (s', tk')) :
    (s'.nodeD m).cutoff = .always ∧ (s'.nodeD m).value ≠ none ∧
      (s'.nodeD m).changedAt = (s.nodeD m).changedAt := by
  induction acts generalizing e s tk with
  | nil => simp only [runActions] at h; cases h; exact ⟨hc, hv, rfl⟩
  | cons a as ih =>
    simp only [runActions] at h
    rcases hx : (stepAction env a tk).run.run s with ⟨_ | r, s1⟩
    · rw [hx] at h; cases h
    · rw [hx] at h
      have ha0 := ha a (List.mem_cons_self ..)
      have Q1 := step_qx Q ha0 hx
      -- one action keeps the three facts
      have key : s.nodes.size ≤ s1.nodes.size ∧ (s1.nodeD m).cutoff = .always ∧ (s1.nodeD m).value ≠ none ∧
          (s1.nodeD m).changedAt = (s.nodeD m).changedAt := by
        by_cases hst : a = .stabilise
        · subst hst
          have hrun := step_stabilise hx
          have G := stabilise_gate Q hrun
          have R := stabilise_q Q hrun
          refine ⟨by rw [R.size]; exact Nat.le_refl _, by rw [G.cutoff, hc], ?_, G.always_keeps hc hv⟩
          by_cases hran : (s1.nodeD m).recomputedAt = s.stabNum
          · obtain ⟨w, -, hw⟩ := G.ran_consistent hran
            rw [hw]; intro hn; cases hn
          · rw [(G.notRan m hran).1]; exact hv
        · obtain ⟨K, KC⟩ := step_kept Q ha0 hst hx
          obtain ⟨u, -⟩ := K.2 m hm
          exact ⟨K.1, by rw [KC (hnc a (List.mem_cons_self ..)) m hm, hc], by rw [u.1]; exact hv, u.2.2⟩
      obtain ⟨k0, k1, k2, k3⟩ := key
      obtain ⟨r1, r2, r3⟩ := ih Q1 (fun b hb => ha b (List.mem_cons_of_mem _ hb))
        (fun b hb => hnc b (List.mem_cons_of_mem _ hb)) (Nat.lt_of_lt_of_le hm k0) k1 k2 h
      exact ⟨r1, r2, r3.trans k3⟩

end IncrVerif.Proofs.CutH
