import IncrVerif.Engine.Run
import IncrVerif.Proofs.Footprint
/-!
# The conditional frame `HasF`: as long as no node has update handlers, nothing is queued for the handlers phase

The premise is about the INITIAL state of each sub-run; transitivity threads the second component of the conclusion
(no node has update handlers in the final state) to the next step.  `handleAfterStabilisation` is NOT `Pres HasF`; it
is only reached through `maybeHandleAfterStabilisation`, whose test is false under the premise.
-/
namespace IncrVerif.Proofs.ExpertH
open IncrVerif.Engine IncrVerif.Proofs IncrVerif.Proofs.Step

/-- as long as no node has update handlers, nothing is queued for the handlers phase -/
def HasF (s s' : State) : Prop :=
  (∀ m, (s.nodeD m).numOnUpdateHandlers ≤ 0) →
    (s'.handleAfterStab = s.handleAfterStab ∧ ∀ m, (s'.nodeD m).numOnUpdateHandlers ≤ 0)

theorem HasF.refl (s : State) : HasF s s := fun h => ⟨rfl, h⟩
theorem HasF.trans {a b c : State} (h1 : HasF a b) (h2 : HasF b c) : HasF a c := fun h =>
  ⟨((h2 (h1 h).2).1).trans (h1 h).1, (h2 (h1 h).2).2⟩
instance : Step.PreOrd HasF := ⟨HasF.refl, HasF.trans⟩

theorem HasF.of_nodes {s s' : State} (h1 : s'.nodes = s.nodes) (h2 : s'.handleAfterStab = s.handleAfterStab) :
    HasF s s' := by
  intro h
  refine ⟨h2, fun m => ?_⟩
  have : s'.nodeD m = s.nodeD m := by simp [State.nodeD, h1]
  rw [this]; exact h m

/-- every write keeps `HasF` but those of the handler counts and the unconditional ones of the handler queue: a node that
`maybe_handle_after_stabilisation` queues has update handlers -/
theorem HasF.of_edit {L w} (hL : ∀ t ∈ L, t ∉ [Footprint.Tag.nHandlers, .nObservers, .handleAfterStab]) {s s' : State}
    (e : Footprint.Edit L w s s') : HasF s s' := fun h =>
  ⟨e.idleQueue (fun ht => hL _ ht (by decide)) h, fun m => by
    rw [e.numOnUpdateHandlers (fun ht => hL _ ht (by decide)) (fun ht => hL _ ht (by decide))]; exact h m⟩

theorem PresH.discard {α} {x : M α} (h : Step.Pres HasF x) : Step.Pres HasF (discard x) := by
  unfold Functor.discard; exact Step.Pres.map _ h
theorem PresH.bumpCounter (f) : Step.Pres HasF (Engine.bumpCounter f) := Step.Pres.modify fun _ => HasF.of_nodes rfl rfl
theorem PresH.modBind (b f) : Step.Pres HasF (Engine.modBind b f) := Step.Pres.modify fun _ => HasF.of_nodes rfl rfl
theorem PresH.modObs (o f) : Step.Pres HasF (Engine.modObs o f) := Step.Pres.modify fun _ => HasF.of_nodes rfl rfl
theorem PresH.modVar (v f) : Step.Pres HasF (Engine.modVar v f) := Step.Pres.modify fun _ => HasF.of_nodes rfl rfl
theorem PresH.getObs (o) : Step.Pres HasF (Engine.getObs o) := Step.Pres.getObs o
theorem PresH.getVar (v) : Step.Pres HasF (Engine.getVar v) := Step.Pres.getVar v
theorem PresH.scopeHeight (sc) : Step.Pres HasF (Engine.scopeHeight sc) := Step.Pres.scopeHeight sc
theorem PresH.addParent (c i p) : Step.Pres HasF (Engine.addParent c i p) := (Footprint.Foot.addParent c i p).frame (HasF.of_edit (by decide))
theorem PresH.removeParent (c i p) : Step.Pres HasF (Engine.removeParent c i p) :=
  (Footprint.Foot.removeParent c i p).frame (HasF.of_edit (by decide))
theorem PresH.setHeight (n h) : Step.Pres HasF (Engine.setHeight n h) := (Footprint.Foot.setHeight n h).frame (HasF.of_edit (by decide))
theorem PresH.rchRemoveMin : Step.Pres HasF Engine.rchRemoveMin := Footprint.Foot.rchRemoveMin.frame (HasF.of_edit (by decide))
theorem PresH.rchMinHeight : Step.Pres HasF Engine.rchMinHeight := Footprint.Foot.rchMinHeight.frame (HasF.of_edit (by decide))
theorem PresH.ensureHeightRequirement (oc op c p) : Step.Pres HasF (Engine.ensureHeightRequirement oc op c p) :=
  (Footprint.Foot.ensureHeightRequirement oc op c p).frame (HasF.of_edit (by decide))
theorem PresH.adjustHeights (oc op fuel) : Step.Pres HasF (Engine.adjustHeights oc op fuel) :=
  (Footprint.Foot.adjustHeights oc op fuel).frame (HasF.of_edit (by decide))
theorem PresH.markMapRefUnknown (fuel n) : Step.Pres HasF (Engine.markMapRefUnknown fuel n) :=
  (Footprint.Foot.markMapRefUnknown fuel n).frame (HasF.of_edit (by decide))
theorem PresH.becameNecessary (env fuel n) : Step.Pres HasF (Engine.becameNecessary env fuel n) :=
  (Footprint.Foot.becameNecessary env fuel n).frame (HasF.of_edit (by decide))
theorem PresH.addParentWithoutAdjustingHeights (env fuel c i p) :
    Step.Pres HasF (Engine.addParentWithoutAdjustingHeights env fuel c i p) :=
  (Footprint.Foot.addParentWithoutAdjustingHeights env fuel c i p).frame (HasF.of_edit (by decide))
theorem PresH.unlink (fuel : Nat) :
    (∀ n, Step.Pres HasF (Engine.becameUnnecessary fuel n)) ∧
    (∀ n, Step.Pres HasF (Engine.checkIfUnnecessary fuel n)) ∧
    (∀ n, Step.Pres HasF (Engine.removeChildren fuel n)) :=
  ⟨fun n => (Footprint.Foot.becameUnnecessary fuel n).frame (HasF.of_edit (by decide)),
   fun n => (Footprint.Foot.checkIfUnnecessary fuel n).frame (HasF.of_edit (by decide)),
   fun n => (Footprint.Foot.removeChildren fuel n).frame (HasF.of_edit (by decide))⟩
theorem PresH.becameUnnecessary (fuel n) : Step.Pres HasF (Engine.becameUnnecessary fuel n) :=
  (PresH.unlink fuel).1 n
theorem PresH.checkIfUnnecessary (fuel n) : Step.Pres HasF (Engine.checkIfUnnecessary fuel n) :=
  (PresH.unlink fuel).2.1 n
theorem PresH.removeChildren (fuel n) : Step.Pres HasF (Engine.removeChildren fuel n) :=
  (PresH.unlink fuel).2.2 n

end IncrVerif.Proofs.ExpertH
