import IncrVerif.Proofs.MapRef26
/-!
# map_ref fragment: the API actions other than `stabilise` keep the kinds in the fragment (`RKRel`)

No primitive write changes the kind of an existing node, so every write that creates no node keeps `RKRel` (`RKRel.of_edit`); the creation of a node
keeps it when the new kind is in the fragment, which is a fact about the instruction.
-/
namespace IncrVerif.Proofs.MapRefH
open IncrVerif.Engine IncrVerif.Driver IncrVerif.Proofs IncrVerif.Proofs.Step IncrVerif.Proofs.Sched IncrVerif.Proofs.Quiet
open IncrVerif.Proofs.Footprint

def RKAll (env : Env) (s : State) : Prop := ∀ n, n < s.nodes.size → RKind env (s.nodeD n).kind

def RKRel (env : Env) (s s' : State) : Prop := RKAll env s → RKAll env s'

instance (env : Env) : Step.PreOrd (RKRel env) := ⟨fun _ h => h, fun h1 h2 h => h2 (h1 h)⟩

def RInstrOK (env : Env) : Instr → Prop
  | .map f _ => f < projBase ∧ (f < fnZip → ∀ vals, env.fnEff f vals = [])
  | .mapRef p _ => projBase + p < fnPerKey
  | _ => True

def RActionOK (env : Env) : Action → Prop
  | .create i => RInstrOK env i
  | _ => True

theorem RKRel.of_nodes {env : Env} {s s' : State} (h : s'.nodes = s.nodes) : RKRel env s s' := by
  intro hs n hn
  have : s'.nodeD n = s.nodeD n := by simp [State.nodeD, h]
  rw [this]; exact hs n (by rw [← h]; exact hn)

theorem RKRel.push {env : Env} (s : State) (nd : Node) (hk : RKind env nd.kind) :
    RKRel env s { s with nodes := s.nodes.push nd } := by
  intro hs m hm
  have hm' : m < s.nodes.size + 1 := by simpa using hm
  simp only [State.nodeD, Array.getElem?_push]
  split
  · exact hk
  · have := hs m (by omega)
    simpa [State.nodeD] using this

/-- a write that creates no node keeps the kinds in the fragment -/
theorem RKRel.of_edit {env : Env} {L w} (hL : ∀ t ∈ L, t ∉ [Tag.pushNode]) {s s' : State} (e : Edit L w s s') : RKRel env s s' := by
  intro hs n hn
  rw [e.size_eq fun h => hL _ h (by decide)] at hn; rw [e.kind hn]; exact hs n hn

section
variable {env : Env}

theorem PresRK.createNode (k sc c) (hk : RKind env k) : Step.Pres (RKRel env) (Engine.createNode k sc c) := by
  unfold Engine.createNode
  refine .bind .get fun _ => .bind (.modify fun _ => RKRel.of_nodes rfl) fun _ =>
    .bind (.modify fun s => RKRel.push s _ hk) fun _ => ?_
  split
  · exact .pure _
  · exact .bind (.modify fun _ => RKRel.of_nodes rfl) fun _ => .pure _

theorem PresRK.createVar (v sc) : Step.Pres (RKRel env) (Engine.createVar v sc) := by
  unfold Engine.createVar
  exact .bind .get fun _ => .bind (PresRK.createNode _ _ _ trivial) fun _ =>
    .bind (.modify fun _ => RKRel.of_nodes rfl) fun _ => .pure _

theorem PresRK.resolveOpnd (loc o) : Step.Pres (RKRel env) (Engine.resolveOpnd loc o) :=
  (Foot.resolveOpnd loc o).frame (RKRel.of_edit (by decide))
theorem PresRK.isConstant (n) : Step.Pres (RKRel env) (Engine.isConstant n) :=
  (Foot.isConstant n).frame (RKRel.of_edit (by decide))

theorem fnZip_lt_projBase : fnZip < projBase := by decide

theorem PresRK.elabInstr {i : Instr} (h : RInstr i) (hok : RInstrOK env i) :
    Step.Pres (RKRel env) (Engine.elabInstr [] .unit i) := by
  unfold Engine.elabInstr
  cases i <;> simp only [RInstr] at h <;> simp only [RInstrOK] at hok
  case const v =>
    refine Step.Pres.bind Step.Pres.get fun s => Step.Pres.map _ (PresRK.createNode _ _ _ trivial)
  case var v =>
    refine Step.Pres.bind Step.Pres.get fun s => Step.Pres.map _ (PresRK.createVar _ _)
  case map f args =>
    refine Step.Pres.bind Step.Pres.get fun s => ?_
    refine Step.Pres.bind (Step.Pres.mapM (fun a => PresRK.resolveOpnd _ a) _) fun as => ?_
    exact Step.Pres.map _ (PresRK.createNode _ _ _ hok)
  case fold f init cs =>
    refine Step.Pres.bind Step.Pres.get fun s => ?_
    refine Step.Pres.bind (Step.Pres.mapM (fun a => PresRK.resolveOpnd _ a) _) fun as => ?_
    split
    · exact Step.Pres.map _ (PresRK.createNode _ _ _ trivial)
    · exact Step.Pres.map _ (PresRK.createNode _ _ _ trivial)
  case mapRef p i =>
    refine Step.Pres.bind Step.Pres.get fun s => ?_
    refine Step.Pres.bind (PresRK.resolveOpnd _ _) fun x => ?_
    exact Step.Pres.map _ (PresRK.createNode _ _ _ hok)
  case zip a b =>
    refine Step.Pres.bind Step.Pres.get fun s => ?_
    refine Step.Pres.bind (PresRK.resolveOpnd _ _) fun x => ?_
    refine Step.Pres.bind (PresRK.resolveOpnd _ _) fun y => ?_
    refine Step.Pres.bind (PresRK.isConstant _) fun cx => ?_
    refine Step.Pres.bind (PresRK.isConstant _) fun cy => ?_
    split
    · exact Step.Pres.map _ (PresRK.createNode _ _ _ trivial)
    · exact Step.Pres.map _ (PresRK.createNode _ _ _
        ⟨fnZip_lt_projBase, fun h => absurd h (Nat.lt_irrefl _)⟩)

theorem PresRK.elabInstrM {i : Instr} (h : RInstr i) (hok : RInstrOK env i) :
    Step.Pres (RKRel env) (Engine.elabInstrM env [] .unit i) := by
  rw [elabInstrM_eq _ _ _ h]; exact PresRK.elabInstr h hok

theorem PresRK.didSetVarWhileNotStabilising (v) :
    Step.Pres (RKRel env) (Engine.didSetVarWhileNotStabilising v) :=
  (Foot.didSetVarWhileNotStabilising v).frame (RKRel.of_edit (by decide))
theorem PresRK.writeVar (v f b) : Step.Pres (RKRel env) (Engine.writeVar v f b) :=
  (Foot.writeVar v f b).frame (RKRel.of_edit (by decide))

end

theorem PresRK.stepAction (env : Env) (a : Action) (tk : Array Nat) (h : RAction a) (hok : RActionOK env a) :
    Step.Pres (RKRel env) (Engine.stepAction env a tk) := by
  cases a <;> simp only [RAction] at h <;> simp only [RActionOK] at hok
  case create i =>
    unfold Engine.stepAction
    refine Step.Pres.bind (PresRK.elabInstrM h hok) fun r => ?_
    cases r
    · exact Step.Pres.pure _
    · exact Step.Pres.bind (Step.Pres.modify fun _ => RKRel.of_nodes rfl) fun _ => Step.Pres.pure _
  all_goals
    exact (Foot.stepAction env _ tk).lift fun e => by
      cases e with
      | engine e => exact RKRel.of_edit (by simp only [W.stepAction]; decide) e
      | _ => exact RKRel.of_nodes rfl

end IncrVerif.Proofs.MapRefH
