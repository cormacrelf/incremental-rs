import IncrVerif.Proofs.LeakH10
/-!
# C12 over histories, part 11: drop-order independence for whole histories
-/
namespace IncrVerif.Proofs.LeakH
open IncrVerif.Engine IncrVerif.Driver IncrVerif.Proofs IncrVerif.Proofs.Step IncrVerif.Proofs.Sched
open IncrVerif.Proofs.Quiet

/-- a history of the static fragment and `dropHandle`s, then a list of drops after which the program holds nothing: every permutation
of the drops also runs, also ends with the program holding nothing, and then one `stabilise` leaves no root -/
theorem history_perm_freed_gen {env : Env} {N : Nat} {d : Bool} {acts drops drops' : List Action} {s : State}
    {tk : Array Nat} (ha : ∀ a, a ∈ acts → PrefixAction env a) (hd : ∀ a, a ∈ drops → DropAction a)
    (hp : drops'.Perm drops)
    (hrun : runActions env (acts ++ drops) (State.init N d) #[] = .ok (s, tk)) (H : HoldsNothing s) :
    ∃ s2 tk2, runActions env (acts ++ drops') (State.init N d) #[] = .ok (s2, tk2) ∧ HoldsNothing s2 ∧
      DInv env s2 ∧
      ∀ fuel s', (stabilise env fuel).run.run s2 = (.ok (), s') → s'.roots = [] := by
  obtain ⟨s0, tk0, h0, hrun⟩ := runActions_prefix hrun
  obtain ⟨s2, tk2, h2, H2⟩ := perm_runs_holdsNothing hd hp hrun H
  have hrun2 : runActions env (acts ++ drops') (State.init N d) #[] = .ok (s2, tk2) := by
    rw [runActions_append, h0]; exact h2
  have I2 := history_dinv_gen ha (fun a hm => hd a (hp.mem_iff.1 hm)) hrun2
  exact ⟨s2, tk2, hrun2, H2, I2, fun fuel s' hs => freed_roots I2 H2 hs⟩

theorem history_perm_freed {env : Env} {N : Nat} {d : Bool} {acts drops drops' : List Action} {s : State}
    {tk : Array Nat} (ha : ∀ a, a ∈ acts → StaticAction env a) (hd : ∀ a, a ∈ drops → DropAction a)
    (hp : drops'.Perm drops)
    (hrun : runActions env (acts ++ drops) (State.init N d) #[] = .ok (s, tk)) (H : HoldsNothing s) :
    ∃ s2 tk2, runActions env (acts ++ drops') (State.init N d) #[] = .ok (s2, tk2) ∧ HoldsNothing s2 ∧
      DInv env s2 ∧
      ∀ fuel s', (stabilise env fuel).run.run s2 = (.ok (), s') → s'.roots = [] :=
  history_perm_freed_gen (fun a hm => Or.inl (ha a hm)) hd hp hrun H

end IncrVerif.Proofs.LeakH
