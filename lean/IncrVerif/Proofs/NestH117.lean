import IncrVerif.Proofs.NestH116
/-!
# Nested binds (F2), part 7e: `ProgOK` along histories

`progOK_step`: every API action of the fragment moves `ProgOK p env s` to `ProgOK (progStep p a) env s'`; `progOK_history`: `ProgOK (progOf env po acts) env s` for every
state reached from the initial state by a history of the fragment.
-/
namespace IncrVerif.Proofs.NestH
open IncrVerif.Engine IncrVerif.Driver IncrVerif.Proofs IncrVerif.Proofs.Step IncrVerif.Proofs.Sched IncrVerif.Proofs.Quiet
open IncrVerif.Proofs.BindH
open IncrVerif.Spec

namespace N7
open IncrVerif.Proofs.BindH.C3d IncrVerif.Proofs.NestH.N5d IncrVerif.Proofs.NestH.N7k

/-- elaboration of a static instruction at top level: one pristine node, whose kind is the image of the instruction -/
theorem elab_static_img {env : Env} {s s1 : State} {i : Instr} {ro : Option Nat} (hsc : s.currentScope = .top)
    (hi : StaticInstr env i) (h : (elabInstrM env [] .unit i).run.run s = (.ok ro, s1)) :
    ∃ k, ro = some s.nodes.size ∧ C2c.Made k s s1 ∧ StaticImg s i k ∧
      (∀ v, i = .var v → s1.vars = s.vars.push { value := v, setAt := s.stabNum, node := s.nodes.size }) := by
  cases i with
  | const v =>
    unfold elabInstrM at h
    simp only at h
    unfold elabInstr at h
    rw [run_bind_get] at h
    simp only [hsc] at h
    obtain ⟨n, h1, e⟩ := map_ok_inv h
    obtain ⟨en, C⟩ := C2c.createNode_made (by intro c e; cases e) h1
    exact ⟨.const v, by rw [e, en], C, rfl, fun _ e => by cases e⟩
  | var v =>
    unfold elabInstrM at h
    simp only at h
    unfold elabInstr at h
    rw [run_bind_get] at h
    simp only at h
    obtain ⟨n, h1, e⟩ := map_ok_inv h
    obtain ⟨en, C⟩ := C2c.createVar_made h1
    refine ⟨.var s.vars.size, by rw [e, en], C, rfl, fun v' e' => ?_⟩
    injection e' with e'
    rw [createVar_top_run] at h1
    cases h1
    rw [e']
  | map f args =>
    unfold elabInstrM at h
    simp only at h
    unfold elabInstr at h
    rw [run_bind_get] at h
    simp only [hsc] at h
    obtain ⟨as, t, h1, h2⟩ := bind_ok_inv h
    obtain ⟨et, has⟩ := mapM_resolve_exact args as t hi.2.2 h1
    rw [et] at h2
    obtain ⟨n, h3, e⟩ := map_ok_inv h2
    obtain ⟨en, C⟩ := C2c.createNode_made (by intro c e; cases e) h3
    refine ⟨.map f as, by rw [e, en], C, ?_, fun _ e => by cases e⟩
    simp only [StaticImg, kindOfInstr, has, Option.map_some]
  | fold f init cs =>
    unfold elabInstrM at h
    simp only at h
    unfold elabInstr at h
    rw [run_bind_get] at h
    simp only [hsc] at h
    obtain ⟨as, t, h1, h2⟩ := bind_ok_inv h
    obtain ⟨et, has⟩ := mapM_resolve_exact cs as t hi h1
    rw [et] at h2
    split at h2
    · rename_i hemp
      obtain ⟨n, h3, e⟩ := map_ok_inv h2
      obtain ⟨en, C⟩ := C2c.createNode_made (by intro c e; cases e) h3
      refine ⟨.const init, by rw [e, en], C, ?_, fun _ e => by cases e⟩
      simp only [StaticImg, kindOfInstr, has, Option.map_some, hemp, if_true]
    · rename_i hemp
      obtain ⟨n, h3, e⟩ := map_ok_inv h2
      obtain ⟨en, C⟩ := C2c.createNode_made (by intro c e; cases e) h3
      refine ⟨.fold f init as, by rw [e, en], C, ?_, fun _ e => by cases e⟩
      simp only [StaticImg, kindOfInstr, has, Option.map_some, hemp]
      rfl
  | zip a b =>
    obtain ⟨ka, rfl⟩ : ∃ ka, a = .outer ka := by
      cases a <;> first | exact ⟨_, rfl⟩ | exact hi.1.elim
    obtain ⟨kb, rfl⟩ : ∃ kb, b = .outer kb := by
      cases b <;> first | exact ⟨_, rfl⟩ | exact hi.2.elim
    unfold elabInstrM at h
    simp only at h
    unfold elabInstr at h
    rw [run_bind_get] at h
    simp only [hsc] at h
    obtain ⟨na, t, h1, h2⟩ := bind_ok_inv h
    obtain ⟨et, hka⟩ := resolveOpnd_outer_run h1
    rw [et] at h2
    obtain ⟨nb, t, h1, h2⟩ := bind_ok_inv h2
    obtain ⟨et, hkb⟩ := resolveOpnd_outer_run h1
    rw [et] at h2
    obtain ⟨ca, t, h1, h2⟩ := bind_ok_inv h2
    obtain ⟨et, hca⟩ := isConstant_run h1
    rw [et] at h2
    obtain ⟨cb, t, h1, h2⟩ := bind_ok_inv h2
    obtain ⟨et, hcb⟩ := isConstant_run h1
    rw [et] at h2
    split at h2
    · obtain ⟨n, h3, e⟩ := map_ok_inv h2
      obtain ⟨en, C⟩ := C2c.createNode_made (by intro c e; cases e) h3
      rename_i va vb _ _
      exact ⟨.const (.pair va vb), by rw [e, en], C,
        ⟨ka, kb, na, nb, rfl, rfl, hka, hkb, Or.inr ⟨va, vb, hca va rfl, hcb vb rfl, rfl⟩⟩, fun _ e => by cases e⟩
    · obtain ⟨n, h3, e⟩ := map_ok_inv h2
      obtain ⟨en, C⟩ := C2c.createNode_made (by intro c e; cases e) h3
      exact ⟨.map fnZip [na, nb], by rw [e, en], C, ⟨ka, kb, na, nb, rfl, rfl, hka, hkb, Or.inl rfl⟩,
        fun _ e => by cases e⟩
  | _ => exact hi.elim

/-! ## frames of the API actions -/

/-- the cells are unchanged -/
structure VS (s s' : State) : Prop where
  vars : s'.vars = s.vars

instance : PreOrd VS := ⟨fun _ => ⟨rfl⟩, fun h1 h2 => ⟨h2.vars.trans h1.vars⟩⟩

/-- the bookkeeping of an action leaves the cells alone -/
theorem VS.of_act {L a} (hL : ∀ t ∈ L, t ∉ [Footprint.Tag.varSetAt, .varPending, .varValue, .varCommit, .varHandles, .varUnlink, .pushVar])
    {s s' : State} (e : Footprint.ActEdit L a s s') : VS s s' := by
  cases e
  case engine e => exact ⟨e.vars hL⟩
  all_goals exact ⟨rfl⟩

theorem presVS_observe (env : Env) (n : Opnd) (tokens : Array Nat) : Step.Pres VS (stepAction env (.observe n) tokens) :=
  (Footprint.Foot.stepAction env _ tokens).lift (VS.of_act (by dsimp only [Footprint.W.stepAction]; decide))
theorem presVS_cloneObs (env : Env) (o : Nat) (tokens : Array Nat) : Step.Pres VS (stepAction env (.cloneObs o) tokens) :=
  (Footprint.Foot.stepAction env _ tokens).lift (VS.of_act (by dsimp only [Footprint.W.stepAction]; decide))
theorem presVS_dropObs (env : Env) (o : Nat) (tokens : Array Nat) : Step.Pres VS (stepAction env (.dropObs o) tokens) :=
  (Footprint.Foot.stepAction env _ tokens).lift (VS.of_act (by dsimp only [Footprint.W.stepAction]; decide))
theorem presVS_disallow (env : Env) (o : Nat) (tokens : Array Nat) : Step.Pres VS (stepAction env (.disallow o) tokens) :=
  (Footprint.Foot.stepAction env _ tokens).lift (VS.of_act (by dsimp only [Footprint.W.stepAction]; decide))

/-- every API action, every outcome: existing nodes keep their kind, existing bind records their closure and left-hand side -/
theorem PresBK.stepAction (env : Env) (a : Action) (tokens : Array Nat) : Step.Pres BKey (stepAction env a tokens) :=
  (Footprint.Foot.stepAction env a tokens).lift fun e => by
    cases e with
    | engine e => exact BKey.of_edit e
    | _ => exact BKey.of_eq rfl rfl

theorem bkey_of_ext {s s1 : State} (E : C2c.Ext s s1) : BKey s s1 :=
  ⟨E.grow, fun m hm => by rw [E.old m hm], fun b br h =>
    ⟨br, by rw [E.bold b (Array.getElem?_eq_some_iff.1 h).1]; exact h, rfl, rfl⟩⟩

theorem top_in {env : Env} {rk : Nat → Nat} {s : State} (Q : QInv2 env rk s) :
    ∀ (k n : Nat), s.top[k]? = some n → n < s.nodes.size := fun k n h => (Q.f2.topOK k n h).1

/-- frame for `ProgOK`, with a new text that has the same instructions -/
theorem progOK_frame' {p p' : RefProg} {env : Env} {s s' : State} (P : ProgOK p env s)
    (hn : p'.nodes = p.nodes) (hvo : p'.varOf = p.varOf) (he : p'.env = p.env)
    (hin : ∀ (k n : Nat), s.top[k]? = some n → n < s.nodes.size) (ht : s'.top = s.top) (K : BKey s s')
    (hv : ∀ c : Nat, p'.vars[c]? = (s'.vars[c]?).map VarCell.value) : ProgOK p' env s' := by
  refine ⟨he.trans P.env, by rw [ht, hn]; exact P.size, hv, ?_⟩
  intro j i n hi hj
  rw [ht] at hj
  rw [hn] at hi
  exact topImg_ext (fun k n h => by rw [ht]; exact h) hin K (by rw [hvo]) he (hin j n hj) (P.img j i n hi hj)

/-- the variables after a write -/
theorem write_vars {p : RefProg} {env : Env} {s s' : State} (P : ProgOK p env s) {v : Nat} {vc vc' : VarCell} {g : Val → Val}
    (hvc : s.vars[v]? = some vc) (hvc' : s'.vars[v]? = some vc') (hval : vc'.value = g vc.value)
    (hoth : ∀ w, w ≠ v → s'.vars[w]? = s.vars[w]?) :
    ∀ c : Nat, (p.vars.modify v g)[c]? = (s'.vars[c]?).map VarCell.value := by
  intro c
  rw [Array.getElem?_modify]
  by_cases e : v = c
  · rw [if_pos e, ← e, P.vars v, hvc, hvc']
    simp only [Option.map_some, hval]
  · rw [if_neg e, hoth c (fun h => e h.symm)]
    exact P.vars c

/-- `ProgOK` after a creation: the old entries by the frame, the new entry given -/
theorem progOK_push {p p' : RefProg} {env : Env} {s s' : State} {i : Instr} {m : Nat} (P : ProgOK p env s)
    (hin : ∀ (k n : Nat), s.top[k]? = some n → n < s.nodes.size) (K : BKey s s') (ht : s'.top = s.top.push m)
    (hn : p'.nodes = p.nodes.push i) (he : p'.env = p.env)
    (hvo : ∀ j, j < p.nodes.size → p'.varOf.lookup j = p.varOf.lookup j)
    (hv : ∀ c : Nat, p'.vars[c]? = (s'.vars[c]?).map VarCell.value)
    (hnew : TopImg p' s' p.nodes.size i m) : ProgOK p' env s' := by
  have htop : ∀ (k n : Nat), s.top[k]? = some n → s'.top[k]? = some n := by
    intro k n h
    rw [ht, Array.getElem?_push, if_neg (by have := (Array.getElem?_eq_some_iff.1 h).1; omega)]
    exact h
  refine ⟨he.trans P.env, by rw [ht, hn, Array.size_push, Array.size_push, P.size], hv, ?_⟩
  intro j i' n hi hj
  rw [hn, Array.getElem?_push] at hi
  rw [ht, Array.getElem?_push, ← P.size] at hj
  by_cases e : j = p.nodes.size
  · rw [if_pos e] at hi hj
    cases hi; cases hj
    rw [e]; exact hnew
  · rw [if_neg e] at hi hj
    have hlt : j < p.nodes.size := (Array.getElem?_eq_some_iff.1 hi).1
    exact topImg_ext htop hin K (hvo j hlt) he (hin j n hj) (P.img j i' n hi hj)

end N7
end IncrVerif.Proofs.NestH
