import IncrVerif.Proofs.NestH27
/-!
# Nested binds (F2), `lhsRelink`, part 3: `stateAddParent rhs 1 main` from `.linking 1` closes the bind's main node

`main` may be the main node of an INNER bind, i.e. a node of an outer scope `.bind b'`; the scope height
rule for `main` itself (hypothesis `hsh`: the change detector of `b'` is lower than `main`, and necessary — so it keeps its height through the
linking cascade) gives `adjustHeights_spec2`'s `hscope` / `close_full`'s `hself`; `rhs` may be the main node of an inner bind created by this
run of the closure (covered by `addParentWithoutAdjustingHeights_spec2`).

What can panic in `stateAddParent rhs 1 main`, and why it does not under `SapP`:
* the first `dassert` (`main` is necessary: it is labelled `.linking 1`);
* `addParentWithoutAdjustingHeights` (`NL.link_corr2`; `MainNec`: if `main` is the main node of an INNER bind — a node of
  scope `.bind b'` — then the main node of `b'` is necessary);
* `adjustHeights rhs main` (`NA.adjustHeights_corr2`; `hge` is the `if` test, `h0`: `main` was closed and necessary before it was opened);
* `propagateInvalidity` on the empty stack (`1 ≤ fuel`);
* the second `dassert`;
* `rchInsert main`: `main` is not queued (the `if` test), it is necessary and stale, `0 ≤ height ≤ N`.
The height bound `HBo2` is threaded: `adjustHeights` gives it for the closed parent; when `adjustHeights` is not called the parent keeps the height
it had before it was opened (`hbm`).
-/
namespace IncrVerif.Proofs.NestH
open IncrVerif.Engine IncrVerif.Proofs IncrVerif.Proofs.Step IncrVerif.Proofs.Sched IncrVerif.Proofs.Quiet
open IncrVerif.Proofs.BindH

/-- a state that differs only in the nodes, with the same node count, has the same room -/
theorem T2d.room_nodes {N : Nat} {s s' : State} (R : Room N s) (ha : s'.ahh = s.ahh) (hr : s'.rch = s.rch)
    (hsz : s'.nodes.size = s.nodes.size) : Room N s' :=
  ⟨by rw [ha]; exact R.ahh, by rw [hr]; exact R.rch, by rw [hsz]; exact R.size⟩

namespace NR

/-- a bind's main node is not a change detector -/
theorem scopeQuiet_main {env : Env} {rk : Nat → Nat} {s : State} {dy : List Nat} (A : All2 env rk s dy) {p b lc : Nat}
    (hk : (s.nodeD p).kind = .bindMain b lc) : CL.ScopeQuiet s p := by
  intro m b' br' _ hb' hl
  obtain ⟨-, -, h3, -⟩ := A.recs b' br' hb'
  rw [hl, hk] at h3; cases h3

/-- what `stateAddParent rhs 1 main` needs to return -/
structure SapP (rk : Nat → Nat) (N fuel main : Nat) (t : State) : Prop where
  hb : HBo2 rk t (upd allClosed main (.linking 1))
  room : Room N t
  hbm : (t.nodeD main).height ≤ (cnt rk t.nodes.size main : Int) + 1
  main : NL.MainNec t main
  fuel : 3 * t.nodes.size + 3 ≤ fuel

/-- `state_add_parent rhs 1 main` where `main` (excused, possibly queued) is `.linking 1` with children `[n, rhs]`:
afterwards everything is closed; under `SapP` it returns and keeps the height bound and the room -/
theorem sap_corr {env : Env} {rk : Nat → Nat} {N fuel b n main rhs : Nat} {t : State} {ex : Nat → Prop} {dy : List Nat}
    {br : BindRec}
    (I : GInv2 env rk t (upd allClosed main (.linking 1)) ex dy) (hex : ex main) (hah : AhhEmpty t)
    (hb : t.binds[b]? = some br) (hm : br.main = main) (hl : br.lhsChange = n) (hr : br.rhs = some rhs)
    (hhn : (t.nodeD n).height < (t.nodeD main).height) (h0 : 0 ≤ (t.nodeD main).height)
    (hgq : (t.nodeD main).inRch = true → (t.nodeD main).heightInRch = (t.nodeD main).height)
    (hpi : t.propagateInvalidity = [])
    (hF : ∀ m b' br', (t.nodeD m).forceNecessary = true → (t.nodeD m).createdIn = .bind b' →
      t.binds[b']? = some br' →
      t.isNecessary br'.lhsChange = true ∧ upd allClosed main (.linking 1) br'.lhsChange = .closed)
    (hdy : ∀ m, m ∈ dy → (t.nodeD m).createdIn = .bind b)
    (hst : (t.nodeD main).recomputedAt < (t.nodeD n).changedAt)
    (hsh : ∀ b' br', (t.nodeD main).createdIn = .bind b' → t.binds[b']? = some br' →
      (t.nodeD br'.lhsChange).height < (t.nodeD main).height ∧ t.isNecessary br'.lhsChange = true) :
    Corr (stateAddParent env fuel rhs 1 main) t (SapP rk N fuel main t) (fun _ t' =>
      GInv2 env rk t' allClosed ex dy ∧ AhhEmpty t' ∧ BR.KRel t t' ∧ t'.isNecessary main = true ∧
        (SapP rk N fuel main t → HBo2 rk t' allClosed ∧ Room N t')) := by
  have hopm : upd allClosed main (.linking 1) main = .linking 1 := upd_self _ _ _
  have hms : main < t.nodes.size := I.opLt main (by rw [hopm]; exact Op.linking_ne_closed _)
  obtain ⟨r1, -, -, hkm, -⟩ := I.frag.recs b br hb
  rw [hm] at r1 hkm
  rw [hl] at r1 hkm
  have hnm : n ≠ main := by omega
  have hvm : (t.nodeD main).valid = true := I.valid_of_open (by rw [hopm]; exact Op.linking_ne_closed _)
  have hch : t.children main = [n, rhs] := by
    have := I.main_children hb (by rw [hm]; exact hvm)
    rw [hm, hl, hr] at this; exact this
  have hstale : t.isStale main = true := BR.isStale_main hvm hkm hb hst
  have hk1 : (t.children main)[1]? = some rhs := by rw [hch]; rfl
  have hk0 : (t.children main)[0]? = some n := by rw [hch]; rfl
  have hrkr : rk rhs < rk main := I.kid_rk hk1
  have hrs : rhs < t.nodes.size := I.kid_in hk1
  have hnecn : t.isNecessary n = true :=
    nec_of_mem_parents (I.conv main 0 n hk0 ((wants_linking hopm).2 (by omega)))
  unfold stateAddParent
  refine Corr.bind_get ?_
  refine Corr.bind_dassert (fun _ _ => I.lnec main 1 hopm) ?_
  refine Corr.bind ((NL.link_corr2 env N fuel).2 rk rhs 1 main t _ ex dy I hopm hk1
      (by
        intro m hmo
        by_cases e : m = main
        · rw [e]; exact hrkr
        · rw [upd_other _ _ _ e] at hmo; exact absurd rfl hmo)
      (by
        intro m k
        by_cases e : m = main
        · rw [e, hopm]; exact fun e => by cases e
        · rw [upd_other _ _ _ e]; exact fun e => by cases e)
      hF)
    (fun hP => ⟨hP.hb, hP.room, hP.main, by have := cnt_lt_size (rk := rk) hrs; have := hP.fuel; omega⟩) ?_
  rintro _ t1 hap ⟨I1, hab1, hl1, -, hHB1⟩
  rw [upd_upd] at I1 hHB1
  have K1 : BR.KRel t t1 := BR.KRel.of_cframe hl1.fr hl1.pinv
  have E1 : AhhEmpty t1 :=
    BR.ahhEmpty_frame hah (BR.CFrame.ahh hl1.fr) (((BR.PresM.link env fuel).2 _ _ _).h _ _ _ hap)
  have hsz1 : t1.nodes.size = t.nodes.size := hl1.fr.size
  have hch1 : t1.children main = [n, rhs] := by
    rw [KeyEq2.children2 (BL.KeyEq.of_cframe hl1.fr) I.frag]; exact hch
  have hm1 : t1.nodeD main = t.nodeD main := hab1 main hrkr
  have hn1 : (t1.nodeD n).height = (t.nodeD n).height := hl1.hgt n (fun h => h) hnecn
  have hnec1 : t1.isNecessary main = true := I1.lnec main 2 (upd_self _ _ _)
  have hb1 : t1.binds[b]? = some br := by rw [K1.binds]; exact hb
  have hsh1 : ∀ b' br', (t1.nodeD main).createdIn = .bind b' → t1.binds[b']? = some br' →
      (t1.nodeD br'.lhsChange).height < (t1.nodeD main).height := by
    intro b' br' hc' hb'
    rw [hm1] at hc' ⊢
    rw [K1.binds] at hb'
    obtain ⟨h1, h2⟩ := hsh b' br' hc' hb'
    rw [hl1.hgt br'.lhsChange (fun h => h) h2]; exact h1
  -- the tail of the function, from a state in which everything is closed
  have tail : ∀ t2, GInv2 env rk t2 allClosed ex dy → AhhEmpty t2 → BR.KRel t1 t2 → t2.isNecessary main = true →
      (SapP rk N fuel main t → HBo2 rk t2 allClosed ∧ Room N t2) →
      Corr (do propagateInvalidity fuel
               let s ← get
               dassert (s.isNecessary main) "node:state_add_parent:parent-necessary"
               let p ← getNode main
               let c ← getNode rhs
               if !p.inRch && (p.recomputedAt == -1 || c.changedAt > p.recomputedAt) then
                 rchInsert main) t2 (SapP rk N fuel main t) (fun _ t' =>
        GInv2 env rk t' allClosed ex dy ∧ AhhEmpty t' ∧ BR.KRel t t' ∧ t'.isNecessary main = true ∧
          (SapP rk N fuel main t → HBo2 rk t' allClosed ∧ Room N t')) := by
    intro t2 I2 E2 K2 hnec2 hT2
    have K12 : BR.KRel t t2 := K1.trans K2
    have hpi2 : t2.propagateInvalidity = [] := by rw [K12.pinv]; exact hpi
    have hms2 : main < t2.nodes.size := by rw [K12.size]; exact hms
    have hrs2 : rhs < t2.nodes.size := by rw [K12.size]; exact hrs
    refine Corr.bind_ret (fun hP => ?_) (fun _ t3 hpi3 => ?_)
    · obtain ⟨f, hf⟩ : ∃ f, fuel = f + 1 := ⟨fuel - 1, by have := hP.fuel; omega⟩
      rw [hf]
      exact ⟨(), t2, propagateInvalidity_nil_run f hpi2⟩
    rw [propagateInvalidity_nil hpi2 hpi3]
    refine Corr.bind_get ?_
    refine Corr.bind_dassert (fun _ _ => hnec2) ?_
    refine Corr.bind_getNode hms2 ?_
    refine Corr.bind_getNode hrs2 ?_
    split
    · rename_i hcond
      have hnq : (t2.nodeD main).inRch = false := by
        simp only [Bool.and_eq_true, Bool.not_eq_true'] at hcond
        exact hcond.1
      have hst2 : t2.isStale main = true := by rw [KeyEq2.isStale2 (CR.KRel.keyEq K12) I.frag main]; exact hstale
      have hk2 : (t2.nodeD main).kind = .bindMain b n := by rw [K12.kind]; exact hkm
      have h02 : 0 ≤ (t2.nodeD main).height := I2.hpos main hnec2 rfl
      refine ⟨fun hP => ?_, fun _ t' h => ?_⟩
      · have hpre : (!(t2.nodeD main).inRch && t2.needsToBeComputed main) = true := by
          rw [hnq, State.needsToBeComputed, hnec2, hst2]; rfl
        exact ⟨(), _, rchInsert_run_ok hms2 hpre h02 (by
          rw [(hT2 hP).2.rch]; exact (hT2 hP).1.le_max (hT2 hP).2 hms2 hnec2 rfl)⟩
      · obtain ⟨nd, hnd, -, hmax, e, -, hl⟩ := rchInsert_rel h
        have hndD : t2.nodeD main = nd := nodeD_of_some hnd
        have I3 := open_full I2 rfl hnec2
        have I4 := NL.GInv2.close_link_stale I3 (upd_self _ _ _) hnq (Nat.le_refl _)
          (by
            intro i c' hk
            have hm := I2.conv main i c' hk ((wants_closed rfl).2 hnec2)
            exact I2.hlt c' main i hm rfl)
          h02 (scopeQuiet_main I2.frag hk2)
          (by
            intro b' br' hc' hb'
            exact I2.scopeH main b' br' (I2.valid_of_nec hnec2) hc' hb' hnec2 rfl)
          (by rw [hndD]; exact hmax) hst2
        rw [upd_upd, BR.upd_allClosed_closed, hndD, ← e] at I4
        refine ⟨I4,
          BR.ahhEmpty_frame E2 (BR.CFrame.ahh (hl (fun _ => False)).fr) ((BR.PresM.rchInsert main).h _ _ _ h),
          K12.trans (BR.KRel.of_cframe (hl (fun _ => False)).fr (hl (fun _ => False)).pinv),
          (hl (fun _ => False)).nec hnec2, fun hP => ⟨?_, (hT2 hP).2.of_cframe (hl (fun _ => False)).fr⟩⟩
        refine NL.HBo2_transport (hT2 hP).1 (hl (fun _ => False)).fr.size (fun m hmn ho => ?_)
        have hx : ∃ x, t'.nodeD m = { t2.nodeD m with heightInRch := x } := by
          rw [e, inserted_nodeD]
          split
          · exact ⟨_, rfl⟩
          · exact ⟨_, rfl⟩
        obtain ⟨x, hx⟩ := hx
        rw [State.isNecessary, hx] at hmn
        exact ⟨hmn, ho, by rw [hx]⟩
    · exact Corr.pure ⟨I2, E2, K12, hnec2, hT2⟩
  refine Corr.bind_getNode (by rw [hsz1]; exact hrs) ?_
  refine Corr.bind_getNode (by rw [hsz1]; exact hms) ?_
  by_cases hge : (t1.nodeD rhs).height ≥ (t1.nodeD main).height
  · rw [if_pos hge]
    have hedge : (main, 1) ∈ (t1.nodeD rhs).parents :=
      I1.conv main 1 rhs (by rw [hch1]; rfl) ((wants_linking (upd_self _ _ _)).2 (by omega))
    have hPa : SapP rk N fuel main t → NA.AdjP rk N rhs main fuel t1 (upd allClosed main (.linking 2)) :=
      fun hP => ⟨hHB1 hP.hb, hP.room.of_cframe hl1.fr, hge, by rw [hm1]; exact h0, by rw [hsz1]; have := hP.fuel; omega⟩
    refine Corr.bind (NA.adjustHeights_corr2 (N := N) (fuel := fuel) I1 (by rw [upd_self, hch1]; rfl)
      (fun m e => by rw [upd_other _ _ _ e]; rfl) ⟨1, hedge⟩
      (by
        intro c i hmem hc
        have hk := (I1.par c main i hmem).1
        rw [hch1] at hk
        rcases i with _ | _ | i
        · simp only [List.getElem?_cons_zero, Option.some.injEq] at hk
          rw [← hk, hm1, hn1]; exact hhn
        · simp only [List.getElem?_cons_succ, List.getElem?_cons_zero, Option.some.injEq] at hk
          exact absurd hk.symm hc
        · simp at hk)
      (by rw [hm1]; exact hgq) (fun _ => Or.inl hex) E1
      (by
        intro m hmd b' br' hc' hb'
        rw [CR.KRel.createdIn K1, hdy m hmd] at hc'
        injection hc' with hc'
        rw [← hc', hb1] at hb'
        cases hb'
        have := I1.frag.lc_rk_main hb1 (by rw [hm, hm1]; exact hvm)
        rw [hm] at this; exact this)
      hsh1) hPa ?_
    rintro _ t2 - ⟨I2, E2, R2, -, hT2⟩
    rw [upd_upd, BR.upd_allClosed_closed] at I2 hT2
    exact tail t2 I2 E2 (BR.KRel.of_hrel R2) (by rw [R2.nec]; exact hnec1) (fun hP => hT2 (hPa hP))
  · rw [if_neg hge]
    have I2 := close_full I1 (upd_self _ _ _) (by rw [hch1]; exact Nat.le_refl 2)
      (by
        intro i c hk
        rw [hch1] at hk
        rcases i with _ | _ | i
        · simp only [List.getElem?_cons_zero, Option.some.injEq] at hk
          rw [← hk, hm1, hn1]; exact hhn
        · simp only [List.getElem?_cons_succ, List.getElem?_cons_zero, Option.some.injEq] at hk
          rw [← hk]; omega
        · simp at hk)
      (by rw [hm1]; exact h0) (by rw [hm1]; exact hgq) (fun _ => Or.inl hex) hsh1
    rw [upd_upd, BR.upd_allClosed_closed] at I2
    refine tail t1 I2 E1 (BR.KRel.refl _) hnec1 (fun hP => ⟨fun m hmn ho => ?_, hP.room.of_cframe hl1.fr⟩)
    by_cases e : m = main
    · rw [e, hm1, hsz1]; exact hP.hbm
    · exact hHB1 hP.hb m hmn (by rw [upd_other _ _ _ e]; exact ho)

end NR

end IncrVerif.Proofs.NestH
