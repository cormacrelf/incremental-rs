import IncrVerif.Proofs.ExpertH50
import IncrVerif.Proofs.ExpertH49
import IncrVerif.Proofs.ExpertH43
/-!
# Expert nodes (fragment X1): every API action keeps the invariant; whole histories

* `AddDepOK s eo co`: both operands name top-level nodes, the first an expert node, and the second does not depend
  on the first (`¬ Below s c n`: the new edge closes no cycle).
* `XActionOK env s a`: the API actions of fragment X1 (static actions, `create (expert f)` with a "sum of the
  dependencies" closure, `addDep`, `stabilise`); `RunOK env acts s tk`: every action of a run is `XActionOK` in the
  state in which it is executed.
* `step_x`, `run_x`, `prefix_x`, `stabilise_in_run_x`, `history_x`, `history_stabilise_x`.
-/
namespace IncrVerif.Proofs.ExpertH
open IncrVerif.Engine IncrVerif.Driver IncrVerif.Proofs IncrVerif.Proofs.Step IncrVerif.Proofs.Sched
open IncrVerif.Proofs.ExpertH.QR IncrVerif.Proofs.Xp

def AddDepOK (s : State) : Opnd → Opnd → Prop
  | .outer kn, .outer kc => ∀ n c, s.top[kn]? = some n → s.top[kc]? = some c →
      (∃ e, (s.nodeD n).kind = .expert e) ∧ ¬ Below s c n
  | _, _ => False

/-- **a returning `addDep` of the fragment is the engine's call** on the top-level nodes the operands name, the first an expert node -/
theorem addDep_ok_inv {env : Env} {s s' : State} {eo co : Opnd} {cb : Bool} {tk : Array Nat} {r : String × Array Nat}
    (hok : AddDepOK s eo co) (h : (stepAction env (.addDep eo co cb) tk).run.run s = (.ok r, s')) :
    ∃ (kn kc n c e dep : Nat), eo = .outer kn ∧ s.top[kn]? = some n ∧ s.top[kc]? = some c ∧ (s.nodeD n).kind = .expert e ∧
      ¬ Below s c n ∧ (expertAddDependency env fuelDefault n c cb).run.run s = (.ok dep, s') := by
  cases eo <;> try exact hok.elim
  rename_i kn
  cases co <;> try exact hok.elim
  rename_i kc
  unfold stepAction at h
  dsimp only at h
  obtain ⟨n, s1, h1, h⟩ := bind_ok_inv h
  obtain ⟨hn, e1⟩ := Hist.resolveOuter_ok.1 h1
  rw [e1] at h
  obtain ⟨c, s2, h2, h⟩ := bind_ok_inv h
  obtain ⟨hcc, e2⟩ := Hist.resolveOuter_ok.1 h2
  rw [e2] at h
  obtain ⟨dep, s3, h3, h⟩ := bind_ok_inv h
  obtain ⟨-, e3⟩ := pure_ok_inv h
  rw [← e3] at h3
  obtain ⟨⟨e, hk⟩, hacyc⟩ := hok n c hn hcc
  exact ⟨kn, kc, n, c, e, dep, rfl, hn, hcc, hk, hacyc, h3⟩

/-- **`addDep` keeps the invariant** (for a new rank) -/
theorem step_addDep {env : Env} {rk : Nat → Nat} {s s' : State} {eo co : Opnd} {cb : Bool} {tk : Array Nat}
    {r : String × Array Nat} (Q : QInvX env rk s) (hok : AddDepOK s eo co)
    (h : (stepAction env (.addDep eo co cb) tk).run.run s = (.ok r, s')) : ∃ rk', QInvX env rk' s' := by
  obtain ⟨kn, kc, n, c, e, dep, -, hn, hcc, hk, hacyc, h3⟩ := addDep_ok_inv hok h
  have hnlt : n < s.nodes.size := Q.frag.lt_of_expert hk
  have hclt : c < s.nodes.size := by
    have := Q.q.top kc c hcc; rwa [virt_size] at this
  obtain ⟨er, hx, -⟩ := Q.frag.xrec n e hnlt hk
  have hX : IsExpert s n (s.nodeD n) e er := ⟨some_of_lt hnlt, Q.frag.valid n hnlt, hk, hx⟩
  cases hnec : (s.nodeD n).isNecessary with
  | false =>
    obtain ⟨rk', F', Q', A', -⟩ := addDep_unnec Q.frag Q.q Q.ahh hX hnec hclt hacyc h3
    exact ⟨rk', F', Q', A'⟩
  | true =>
    obtain ⟨rk', F', Q', A'⟩ := addDep_nec Q.frag Q.q Q.ahh hX hnec hclt hacyc h3
    exact ⟨rk', F', Q', A'⟩

/-! ## the actions of fragment X1 -/

/-- the API actions of fragment X1, relative to the state in which the action is executed -/
def XActionOK (env : Env) (s : State) : Action → Prop
  | .create (.expert f) => XEnvOK env f ∧ f < xBase
  | .addDep eo co _ => AddDepOK s eo co
  | .stabilise => True
  | a => XStaticAction env a

/-- **every action of fragment X1 that returns keeps the invariant** (`addDep` may change the rank) -/
theorem step_x {env : Env} {rk : Nat → Nat} {s s' : State} {a : Action} {tk : Array Nat} {r : String × Array Nat}
    (Q : QInvX env rk s) (ha : XActionOK env s a)
    (h : (stepAction env a tk).run.run s = (.ok r, s')) : ∃ rk', QInvX env rk' s' := by
  cases a
  case create i =>
    cases i
    case expert f => exact ⟨rk, step_create_expert Q ha.1 ha.2 h⟩
    all_goals exact ⟨rk, by refine action_static Q ?_ h; exact ha⟩
  case addDep eo co cb => exact step_addDep Q ha h
  case stabilise => exact ⟨rk, (stabiliseX Q (step_stabilise h)).inv⟩
  all_goals exact ⟨rk, by refine action_static Q ?_ h; exact ha⟩

/-- every action of a run is an action of the fragment, in the state in which it is executed -/
def RunOK (env : Env) : List Action → State → Array Nat → Prop
  | [], _, _ => True
  | a :: as, s, tk => XActionOK env s a ∧
      ∀ r s', (stepAction env a tk).run.run s = (.ok r, s') → RunOK env as s' r.2

theorem RunOK.append {env : Env} {as bs : List Action} {s s1 : State} {tk tk1 : Array Nat}
    (h : RunOK env (as ++ bs) s tk) (h1 : runActions env as s tk = .ok (s1, tk1)) :
    RunOK env as s tk ∧ RunOK env bs s1 tk1 := by
  induction as generalizing s tk with
  | nil => simp only [runActions] at h1; cases h1; exact ⟨trivial, h⟩
  | cons a as ih =>
    simp only [runActions] at h1
    rcases hx : (stepAction env a tk).run.run s with ⟨_ | r, s2⟩
    · rw [hx] at h1; cases h1
    · rw [hx] at h1
      obtain ⟨ha, hrest⟩ := h
      obtain ⟨i1, i2⟩ := ih (hrest r s2 hx) h1
      refine ⟨⟨ha, fun r' s' hx' => ?_⟩, i2⟩
      rw [hx] at hx'; cases hx'; exact i1

/-- one action of a run of the fragment -/
theorem runOK_step {env : Env} {a : Action} {rest : List Action} {s s' : State} {tk : Array Nat} {r : String × Array Nat}
    (i : (∃ rk, QInvX env rk s) ∧ RunOK env (a :: rest) s tk) (hx : (stepAction env a tk).run.run s = (.ok r, s')) :
    (∃ rk, QInvX env rk s') ∧ RunOK env rest s' r.2 := by
  obtain ⟨⟨rk, Q⟩, ha⟩ := i
  exact ⟨step_x Q ha.1 hx, ha.2 r s' hx⟩

/-- **whole runs**: from a state satisfying the invariant, a run of the fragment that returns ends in a state
satisfying the invariant -/
theorem run_x {env : Env} {rk : Nat → Nat} {acts : List Action} {s s' : State} {tk tk' : Array Nat}
    (Q : QInvX env rk s) (ha : RunOK env acts s tk)
    (h : runActions env acts s tk = .ok (s', tk')) : ∃ rk', QInvX env rk' s' :=
  (Hist.runActions_inv (I := fun s tk rest => (∃ rk, QInvX env rk s) ∧ RunOK env rest s tk) (fun _ _ _ _ _ _ => runOK_step)
    ⟨⟨rk, Q⟩, ha⟩ (runActions_eq .. ▸ h)).1

/-- **every `stabilise` of a run of the fragment**: the state before satisfies the invariant; afterwards every
observer in use reads the from-scratch value `evalX` of its node, no necessary node is stale -/
theorem stabilise_in_run_x {env : Env} {rk : Nat → Nat} {as bs : List Action} {s0 s : State}
    {tk0 tk : Array Nat} (Q0 : QInvX env rk s0) (ha : RunOK env (as ++ Action.stabilise :: bs) s0 tk0)
    (h : runActions env (as ++ Action.stabilise :: bs) s0 tk0 = .ok (s, tk)) :
    ∃ s1 tk1 s2 rk1, runActions env as s0 tk0 = .ok (s1, tk1) ∧ QInvX env rk1 s1 ∧
      (stabilise env fuelDefault).run.run s1 = (.ok (), s2) ∧ StabilisedX env rk1 fuelDefault s1 s2 ∧
      ReadsOKX env s2 ∧ ObsSettled s2 ∧ (∀ n, s2.isNecessary n = true → s2.isStale n = false) ∧
      runActions env bs s2 tk1 = .ok (s, tk) := by
  simp only [runActions_eq] at h ⊢
  obtain ⟨s1, tk1, s2, h1, ⟨⟨rk1, Q1⟩, -⟩, hst, -, h2⟩ :=
    Hist.runActions_stabilise (I := fun s tk rest => (∃ rk, QInvX env rk s) ∧ RunOK env rest s tk) (fun _ _ _ _ _ _ => runOK_step)
      ⟨⟨rk, Q0⟩, ha⟩ h
  have R := stabiliseX Q1 hst
  obtain ⟨r1, r2, r3⟩ := stabilisedX_reads R
  exact ⟨s1, tk1, s2, rk1, h1, Q1, hst, R, r1, r2, r3, h2⟩

/-- **whole histories** from the initial state -/
theorem history_x {env : Env} {N : Nat} {d : Bool} {acts : List Action} {s : State} {tk : Array Nat}
    (ha : RunOK env acts (State.init N d) #[])
    (h : runActions env acts (State.init N d) #[] = .ok (s, tk)) : ∃ rk, QInvX env rk s :=
  run_x (qinvX_init env N d) ha h

theorem history_stabilise_x {env : Env} {N : Nat} {d : Bool} {as bs : List Action} {s : State} {tk : Array Nat}
    (ha : RunOK env (as ++ Action.stabilise :: bs) (State.init N d) #[])
    (h : runActions env (as ++ Action.stabilise :: bs) (State.init N d) #[] = .ok (s, tk)) :
    ∃ s1 tk1 s2 rk1, runActions env as (State.init N d) #[] = .ok (s1, tk1) ∧ QInvX env rk1 s1 ∧
      (stabilise env fuelDefault).run.run s1 = (.ok (), s2) ∧ StabilisedX env rk1 fuelDefault s1 s2 ∧
      ReadsOKX env s2 ∧ ObsSettled s2 ∧ (∀ n, s2.isNecessary n = true → s2.isStale n = false) ∧
      runActions env bs s2 tk1 = .ok (s, tk) :=
  stabilise_in_run_x (qinvX_init env N d) ha h

end IncrVerif.Proofs.ExpertH
