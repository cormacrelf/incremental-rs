import IncrVerif.Proofs.BindH48
import IncrVerif.Proofs.NestH11
import IncrVerif.Proofs.BindH57
import IncrVerif.Proofs.NestH18
import IncrVerif.Proofs.Invalidation
/-!
# Binds, fragment F1, part f: the auxiliary invariant `F1Inv` of a drain, and the CONTRACTS of the four phases of a run of a change detector

A run of a change detector `n` of bind `b` is (`Inval.recomputeOne_bindLhsChange_run`, `Proofs/Invalidation.lean`), from `started n s`:
`lhsRunClosure` (reset the list of registered nodes, run the closure = elaborate the template in scope `.bind b`), `lhsRelink` (install the new right-hand
side), `lhsInvalidateOld` (invalidate the previous generation), `lhsFinish` (`maybeChangeValue n ()`).
-/
namespace IncrVerif.Proofs.BindH
open IncrVerif.Engine IncrVerif.Proofs IncrVerif.Proofs.Step IncrVerif.Proofs.Sched IncrVerif.Proofs.Quiet

/-! ## templates of fragment F1 -/

/-- an operand of a closure whose bind has change detector `lc`, with `nloc` locals created so far: an OLDER top-level node or an earlier local -/
def OpndOK (s : State) (lc nloc : Nat) : Opnd → Prop
  | .outer k => ∃ r, s.top[k]? = some r ∧ r < lc
  | .loc j => j < nloc
  | _ => False

/-- instructions of F1 closures: each creates exactly one node -/
def InstrOK (env : Env) (s : State) (lc nloc : Nat) : Instr → Prop
  | .const _ => True
  | .lhsConst => True
  | .map f args => f < fnPerKey ∧ (f < fnZip → ∀ vals, env.fnEff f vals = []) ∧ ∀ a, a ∈ args → OpndOK s lc nloc a
  | .fold _ _ cs => ∀ a, a ∈ cs → OpndOK s lc nloc a
  | _ => False

def TemplOK (env : Env) (s : State) (lc : Nat) (t : Template) : Prop :=
  (∀ j i, t.instrs[j]? = some i → InstrOK env s lc j i) ∧ OpndOK s lc t.instrs.length t.ret

/-! ## templates only read the naming table -/

theorem opndOK_congr {s s' : State} (htop : s'.top = s.top) (lc nloc : Nat) (o : Opnd) :
    OpndOK s' lc nloc o ↔ OpndOK s lc nloc o := by
  cases o <;> simp only [OpndOK, htop]

theorem instrOK_congr {env : Env} {s s' : State} (htop : s'.top = s.top) (lc nloc : Nat) (i : Instr) :
    InstrOK env s' lc nloc i ↔ InstrOK env s lc nloc i := by
  cases i <;> simp only [InstrOK, opndOK_congr htop]

theorem templOK_congr {env : Env} {s s' : State} (htop : s'.top = s.top) (lc : Nat) (t : Template) :
    TemplOK env s' lc t ↔ TemplOK env s lc t := by
  simp only [TemplOK, instrOK_congr htop, opndOK_congr htop]

/-! ## the auxiliary invariant -/

structure F1Inv (env : Env) (s : State) : Prop where
  frag : All1 env s []
  nodup : ∀ c, (s.nodeD c).parents.Nodup
  ahh : AhhEmpty s
  pinv : s.propagateInvalidity = []
  noForce : ∀ m, (s.nodeD m).forceNecessary = false
  noHandlers : ∀ m, (s.nodeD m).numOnUpdateHandlers = 0
  /-- invalid nodes are isolated -/
  inv : ∀ m, (s.nodeD m).valid = false →
    (s.nodeD m).parents = [] ∧ (s.nodeD m).observers = [] ∧ (s.nodeD m).inRch = false
  scopeObs : ∀ m b, (s.nodeD m).createdIn = .bind b → (s.nodeD m).observers = []
  lcObs : ∀ m b, (s.nodeD m).kind = .bindLhsChange b → (s.nodeD m).observers = []
  lcCut : ∀ m b, (s.nodeD m).kind = .bindLhsChange b → (s.nodeD m).cutoff = .never
  /-- the naming table names top-level nodes that are not change detectors -/
  topOK : ∀ (k r : Nat), s.top[k]? = some r →
    r < s.nodes.size ∧ (s.nodeD r).createdIn = .top ∧ ∀ b', (s.nodeD r).kind ≠ .bindLhsChange b'
  closures : ∀ (b : Nat) (br : BindRec) (v : Val), s.binds[b]? = some br →
    TemplOK env s br.lhsChange (env.body br.body v)
  /-- a bind that never ran has no registered nodes -/
  rhsNone : ∀ (b : Nat) (br : BindRec), s.binds[b]? = some br → br.rhs = none → br.allNodesCreatedOnRhs = []
  /-- the installed right-hand side: an older top-level node or a valid node of the scope -/
  rhsOK : ∀ (b : Nat) (br : BindRec) (o : Nat), s.binds[b]? = some br → br.rhs = some o →
    ((s.nodeD o).createdIn = .top ∧ o < br.lhsChange ∧ ∀ b', (s.nodeD o).kind ≠ .bindLhsChange b') ∨
    ((s.nodeD o).createdIn = .bind b ∧ (s.nodeD o).valid = true)

/-- during a drain the structural invariant holds with every node closed and the current node excused -/
theorem ginv1_of_dinv {env : Env} {s : State} {x : Option Nat} (I : DInv env s x) (A : F1Inv env s) :
    GInv1 env s allClosed (fun m => x = some m) [] where
  frag := A.frag
  par c p i h := by
    obtain ⟨h1, h2⟩ := I.graph.parent c p i h
    exact ⟨h2, (wants_closed rfl).2 h1⟩
  conv p i c hk hw := (I.graph.child p ((wants_closed rfl).1 hw) i c hk).2.1
  nodup := A.nodup
  hlt c p i h _ := by
    obtain ⟨h1, h2⟩ := I.graph.parent c p i h
    exact (I.graph.child p h1 i c h2).2.2
  hpos n hn _ := (I.graph.nec n hn).2
  lnec p k h := by cases h
  unec p k h := by cases h
  heap := ⟨I.heap.wf, fun m hm => by rw [I.heap.hgt m hm]; exact I.heap.lb m hm, I.heap.lb0⟩
  hgt m hm _ := I.heap.hgt m hm
  qnec m hm := Or.inl (I.heap.nec m hm)
  queued m _ hn hs hex := by
    rcases I.pending m hn hs with h | h
    · exact h
    · exact absurd h hex
  qstale := I.qstale
  opLt m h := absurd rfl h
  scopeH n b br hv hsc hb hn _ := by
    obtain ⟨br', hb', -, -, h⟩ := I.graph.scope n b (I.graph.nec_lt hn) hv hsc
    rw [hb] at hb'; cases hb'
    exact (h hn).2
  inv m hv := by
    obtain ⟨h1, h2, h3⟩ := A.inv m hv
    exact ⟨h1, h2, A.noForce m, h3, rfl⟩
  scopeObs := A.scopeObs
  lcObs := A.lcObs

/-! ## phase 1: the closure run -/

/-- what the closure run changes: it appends nodes (created in scope `.bind b`, pristine) and registers exactly them -/
structure CRel (b : Nat) (br : BindRec) (s s' : State) : Prop where
  grow : s.nodes.size ≤ s'.nodes.size
  old : ∀ m, m < s.nodes.size → s'.nodeD m = s.nodeD m
  new : ∀ m, s.nodes.size ≤ m → m < s'.nodes.size →
    (s'.nodeD m).createdIn = .bind b ∧ (s'.nodeD m).valid = true ∧ (s'.nodeD m).recomputedAt = -1 ∧
    (s'.nodeD m).changedAt = -1 ∧ (s'.nodeD m).value = none ∧ (s'.nodeD m).parents = [] ∧
    (s'.nodeD m).observers = [] ∧ (s'.nodeD m).forceNecessary = false ∧ (s'.nodeD m).heightInRch = -1 ∧
    (s'.nodeD m).heightInAhh = -1 ∧ (s'.nodeD m).numOnUpdateHandlers = 0
  bind : ∃ l, s'.binds[b]? = some { br with allNodesCreatedOnRhs := l } ∧
    ∀ m, m ∈ l ↔ (s.nodes.size ≤ m ∧ m < s'.nodes.size)
  bindsSize : s'.binds.size = s.binds.size
  bindsOther : ∀ b', b' ≠ b → s'.binds[b']? = s.binds[b']?
  vars : s'.vars = s.vars
  stabNum : s'.stabNum = s.stabNum
  status : s'.status = s.status
  cfg : s'.cfg = s.cfg
  scope : s'.currentScope = s.currentScope
  pc : s'.panicCountdown = s.panicCountdown
  rch : s'.rch = s.rch
  ahh : s'.ahh = s.ahh
  top : s'.top = s.top
  pinv : s'.propagateInvalidity = s.propagateInvalidity

/-- the specification of the closure run (phase 1) in fragment F1 -/
def ClosureSpec1 (env : Env) : Prop :=
  ∀ (n b rhs : Nat) (br : BindRec) (s s' : State) (ex : Nat → Prop),
    (Inval.lhsRunClosure env n b br).run.run s = (.ok rhs, s') →
    GInv1 env s allClosed ex [] → AhhEmpty s → s.binds[b]? = some br → br.lhsChange = n →
    (∀ v, TemplOK env s n (env.body br.body v)) →
    (∀ (k r : Nat), s.top[k]? = some r →
      r < s.nodes.size ∧ (s.nodeD r).createdIn = .top ∧ ∀ b', (s.nodeD r).kind ≠ .bindLhsChange b') →
    GInv1 env s' allClosed ex br.allNodesCreatedOnRhs ∧ AhhEmpty s' ∧ CRel b br s s' ∧
    rhs < s'.nodes.size ∧
    (((s'.nodeD rhs).createdIn = .top ∧ rhs < n ∧ ∀ b', (s'.nodeD rhs).kind ≠ .bindLhsChange b') ∨
      s.nodes.size ≤ rhs)

/-! ## phase 2: installing the new right-hand side -/

/-- the specification of `lhsRelink` (phase 2) in fragment F1; `br` is the record as it was when the run started (`br.rhs` = the old right-hand side),
`br1` the current record (its list of registered nodes is the new generation), `dy` the dying generation -/
def RelinkSpec1 (env : Env) : Prop :=
  ∀ (fuel b n rhs : Nat) (s s' : State) (br br1 : BindRec) (ex : Nat → Prop) (dy : List Nat),
    (Inval.lhsRelink env fuel n b br s.stabNum rhs).run.run s = (.ok (), s') →
    GInv1 env s allClosed ex dy → ex br.main → AhhEmpty s →
    s.binds[b]? = some br1 → br1.rhs = br.rhs → br1.main = br.main → br1.lhsChange = n →
    s.isNecessary br.main = true →
    rhs < s.nodes.size → rhs ∉ dy →
    (((s.nodeD rhs).createdIn = .top ∧ rhs < n ∧ ∀ b', (s.nodeD rhs).kind ≠ .bindLhsChange b') ∨
      ((s.nodeD rhs).createdIn = .bind b ∧ (s.nodeD rhs).valid = true)) →
    (∀ o, br.rhs = some o →
      ((s.nodeD o).createdIn = .top ∧ o < n ∧ ∀ b', (s.nodeD o).kind ≠ .bindLhsChange b') ∨
      ((s.nodeD o).createdIn = .bind b ∧ o ∈ dy)) →
    (∀ m, m ∈ dy → (s.nodeD m).createdIn = .bind b) →
    (∀ m, (s.nodeD m).forceNecessary = false) → s.propagateInvalidity = [] →
    (s.nodeD br.main).recomputedAt < s.stabNum →
    GInv1 env s' allClosed ex dy ∧ AhhEmpty s' ∧ RRelB b n rhs br1 s s' ∧ s'.propagateInvalidity = [] ∧
      (∀ m, (s'.nodeD m).forceNecessary = false) ∧ s'.isNecessary br.main = true

/-! ## phase 3: invalidating the previous generation -/

/-- what phase 3 changes: the dying nodes become invalid (value dropped, stamped with the round number); nothing else -/
structure IRel (dy : List Nat) (s s' : State) : Prop where
  size : s'.nodes.size = s.nodes.size
  other : ∀ m, m ∉ dy → s'.nodeD m = s.nodeD m
  dead : ∀ m, m ∈ dy → (s'.nodeD m).valid = false ∧ (s'.nodeD m).kind = (s.nodeD m).kind ∧
    (s'.nodeD m).createdIn = (s.nodeD m).createdIn ∧ (s'.nodeD m).parents = [] ∧ (s'.nodeD m).observers = [] ∧
    (s'.nodeD m).forceNecessary = false ∧ (s'.nodeD m).heightInRch = -1 ∧
    (s'.nodeD m).heightInAhh = (s.nodeD m).heightInAhh ∧
    (s'.nodeD m).recomputedAt ≤ s.stabNum ∧ (s'.nodeD m).changedAt ≤ s.stabNum ∧
    (s'.nodeD m).numOnUpdateHandlers = (s.nodeD m).numOnUpdateHandlers
  binds : s'.binds = s.binds
  vars : s'.vars = s.vars
  stabNum : s'.stabNum = s.stabNum
  status : s'.status = s.status
  cfg : s'.cfg = s.cfg
  scope : s'.currentScope = s.currentScope
  pc : s'.panicCountdown = s.panicCountdown
  rch : s'.rch = s.rch
  ahh : s'.ahh = s.ahh
  top : s'.top = s.top
  pinv : s'.propagateInvalidity = s.propagateInvalidity

/-- the specification of `lhsInvalidateOld` (phase 3) in fragment F1 -/
def InvalSpec1 (env : Env) : Prop :=
  ∀ (fuel b : Nat) (br : BindRec) (s s' : State) (ex : Nat → Prop),
    (Inval.lhsInvalidateOld fuel br).run.run s = (.ok (), s') →
    GInv1 env s allClosed ex br.allNodesCreatedOnRhs →
    (br.rhs = none → br.allNodesCreatedOnRhs = []) →
    (∀ m, m ∈ br.allNodesCreatedOnRhs → (s.nodeD m).createdIn = .bind b ∧ (s.nodeD m).parents = [] ∧
      (s.nodeD m).valid = true) →
    (∀ br1 r, s.binds[b]? = some br1 → br1.rhs = some r → r ∉ br.allNodesCreatedOnRhs) →
    (∀ m, (s.nodeD m).forceNecessary = false) → (∀ m, (s.nodeD m).numOnUpdateHandlers = 0) →
    s.propagateInvalidity = [] →
    GInv1 env s' allClosed ex [] ∧ IRel br.allNodesCreatedOnRhs s s'

end IncrVerif.Proofs.BindH
