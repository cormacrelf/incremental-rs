import IncrVerif.Proofs.PerKeyH13
/-!
# A run of a per-key change detector, part 3: FRAME LEMMAS — the bookkeeping invariant along `BF`

`BF D a b` is a `GF D a b` (`BF.gf`) that also keeps the virtual stamps `-1` of old expert nodes: `EntryOK.bf_core`,
`EntryOK.bf` (an entry of the running operator), `EntryOK.bf_other` (of another operator).
-/
namespace IncrVerif.Proofs.PerKeyH
open IncrVerif.Engine IncrVerif.Driver IncrVerif.Proofs IncrVerif.Proofs.Step IncrVerif.Proofs.Sched
open IncrVerif.Proofs.ExpertH IncrVerif.Proofs.EffH IncrVerif.Proofs.DriverH IncrVerif.Proofs.ExpertH.QR

/-- one entry along `BF`: the virtual stamp `-1` of its input node is kept -/
theorem EntryOK.bf_core {env : Env} {D : Nat → Prop} {a b : State} {op : Nat} {pr pr' : PerKeyRec}
    {er er' : ExpertRec} {key : Int} {p d : Nat} (B : BF D a b)
    (hP : ∀ ep erp, a.experts[ep]? = some erp → erp.pk = some (op, some key) → ¬ D ep)
    (hc : ∀ ed : ExpertEdge, ed ∈ er.children → ed ∈ er'.children)
    (hr : pr'.result = pr.result) (hl : pr'.lhsChange = pr.lhsChange) (hf : pr'.fam = pr.fam)
    (h : EntryOK env a op pr er key p d) : EntryOK env b op pr' er' key p d :=
  h.gf B.gf hP hc hr hl hf fun ep hk h0 => Or.inl (B.stamp p ep h.plt hk h0)

/-- an entry of the RUNNING operator: its result record `eres` is the only record whose children may grow -/
theorem EntryOK.bf {env : Env} {D : Nat → Prop} {a b : State} {op eres : Nat} {pr pr' : PerKeyRec}
    {er er' : ExpertRec} {key : Int} {p d : Nat} (B : BF D a b) (hD : ∀ e, D e → e = eres)
    (he : a.experts[eres]? = some er) (he' : b.experts[eres]? = some er') (hpk : er.pk = some (op, none))
    (hr : pr'.result = pr.result) (hl : pr'.lhsChange = pr.lhsChange) (hf : pr'.fam = pr.fam)
    (h : EntryOK env a op pr er key p d) : EntryOK env b op pr' er' key p d := by
  refine h.bf_core B (fun ep erp h1 h2 hd => ?_) (fun ed hed => ?_) hr hl hf
  · have := hD ep hd
    subst this
    rw [he] at h1
    cases h1
    rw [hpk] at h2
    cases h2
  · obtain ⟨er1, he1, -, -, -, ext, hext⟩ := B.xrec eres er he
    rw [he'] at he1
    cases he1
    rw [hext]
    exact List.mem_append_left _ hed

/-- an entry of ANOTHER operator: no record of that operator is in `D` (the record `eres` is not a per-key input record
of `op`; the result record `er` of `op` keeps its children) -/
theorem EntryOK.bf_other {env : Env} {D : Nat → Prop} {a b : State} {op eres : Nat} {pr pr' : PerKeyRec}
    {er er' eres_rec : ExpertRec} {key : Int} {p d : Nat} (B : BF D a b) (hD : ∀ e, D e → e = eres)
    (hres : a.experts[eres]? = some eres_rec) (hpk : ∀ k : Int, eres_rec.pk ≠ some (op, some k))
    (hc : er'.children = er.children)
    (hr : pr'.result = pr.result) (hl : pr'.lhsChange = pr.lhsChange) (hf : pr'.fam = pr.fam)
    (h : EntryOK env a op pr er key p d) : EntryOK env b op pr' er' key p d := by
  refine h.bf_core B (fun ep erp h1 h2 hd => ?_) (fun ed hed => by rw [hc]; exact hed) hr hl hf
  have := hD ep hd
  subst this
  rw [hres] at h1
  cases h1
  exact hpk key h2

end IncrVerif.Proofs.PerKeyH
