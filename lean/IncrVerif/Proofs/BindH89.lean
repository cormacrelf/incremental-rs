import IncrVerif.Proofs.BindH80
import IncrVerif.Proofs.BindH32
import IncrVerif.Proofs.Quiet13
/-!
# Binds, part 4 (B4), the prefix of `stabilise`: the invariant `SInv1`; what the frame `PFrame` of the two observer loops keeps

The observer bookkeeping (`ObsInv`, `ObsSet`, `ObsMap`, `IterRel`, `obsAdded`, `obsRemoved`, …) is generic and reused from `Quiet13`.
-/
namespace IncrVerif.Proofs.BindH
open IncrVerif.Engine IncrVerif.Driver IncrVerif.Proofs IncrVerif.Proofs.Step IncrVerif.Proofs.Sched IncrVerif.Proofs.Quiet
open IncrVerif.Proofs.Quiet.P12

/-- the invariant during the prefix of `stabilise`, graphs with binds (fragment F1): `pn` / `pd` are the observers still to be added / unlinked -/
structure SInv1 (env : Env) (s : State) (pn pd : List Nat) : Prop where
  struct : Struct1 env s
  obs : ObsInv s pn pd
  obsTop : ∀ (o : Nat) (ob : ObsRec), s.observers[o]? = some ob →
    (s.nodeD ob.node).createdIn = .top ∧ ∀ b, (s.nodeD ob.node).kind ≠ .bindLhsChange b
  pinv : s.propagateInvalidity = []
  handlers : ∀ m, (s.nodeD m).numOnUpdateHandlers = 0
  noForce : ∀ m, (s.nodeD m).forceNecessary = false

namespace C2p

/-! ## frame accessors -/

theorem pf_createdIn {s s' : State} (h : PFrame s s') (m : Nat) : (s'.nodeD m).createdIn = (s.nodeD m).createdIn := by
  have := h.node m; simp only [nodeKeyP, Prod.mk.injEq] at this; exact this.2.1
theorem pf_force {s s' : State} (h : PFrame s s') (m : Nat) :
    (s'.nodeD m).forceNecessary = (s.nodeD m).forceNecessary := by
  have := h.node m; simp only [nodeKeyP, Prod.mk.injEq] at this; exact this.2.2.2.2.2.2.2.1

theorem obsAdded_marks (o n : Nat) (k : Int) (t : State) : BR.MFr t (obsAdded o n k t) := by
  intro m
  rw [obsAdded_nodeD]; split
  · rfl
  · rfl

theorem obsRemoved_marks (o n : Nat) (k : Int) (t : State) : BR.MFr t (obsRemoved o n k t) := by
  intro m
  rw [obsRemoved_nodeD]; split
  · rfl
  · rfl

theorem MFr.trans {a b c : State} (h1 : BR.MFr a b) (h2 : BR.MFr b c) : BR.MFr a c :=
  fun m => (h2 m).trans (h1 m)

theorem keyEq_of_pframe {s s' : State} (h : PFrame s s') : BL.KeyEq s s' := by
  have hn : ∀ m, _ := fun m => by have := h.node m; simp only [nodeKeyP, Prod.mk.injEq] at this; exact this
  have hk := h.key
  simp only [stateKeyP, Prod.mk.injEq] at hk
  exact ⟨h.size, hk.2.2.2.2.2.2.2.2.2.2.2.2.1, hk.1, fun m => (hn m).2.2.2.2.1, fun m => (hn m).1,
    fun m => (hn m).2.2.1, fun m => (hn m).2.1, fun m => (hn m).2.2.2.2.2.1, fun m => (hn m).2.2.2.2.2.2.1⟩

/-- `obsTop` after the state of one observer was set, under a frame -/
theorem obsTop_step {o : Nat} {x : ObsState} {t t' : State} (S : ObsSet o x t t') (P : PFrame t t')
    (H : ∀ (o : Nat) (ob : ObsRec), t.observers[o]? = some ob →
      (t.nodeD ob.node).createdIn = .top ∧ ∀ b, (t.nodeD ob.node).kind ≠ .bindLhsChange b) :
    ∀ (o : Nat) (ob : ObsRec), t'.observers[o]? = some ob →
      (t'.nodeD ob.node).createdIn = .top ∧ ∀ b, (t'.nodeD ob.node).kind ≠ .bindLhsChange b := by
  intro o' ob' h
  obtain ⟨ob0, h0, hn, -, -⟩ := S.back o' ob' h
  rw [hn, pf_createdIn P, PFrame.kind P]
  exact H o' ob0 h0

end C2p

end IncrVerif.Proofs.BindH
