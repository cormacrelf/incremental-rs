import IncrVerif.Proofs.CutH15
-- static programs with ARBITRARY cutoffs; `Proofs/Quiet17.lean` has the same for `Quiet.ObsInv` (default cutoffs); overview in Props/C06History.lean
/-!
# Part 17: necessary = in the cone of a linked observer
-/
namespace IncrVerif.Proofs.CutH
open IncrVerif.Engine IncrVerif.Proofs IncrVerif.Proofs.Step IncrVerif.Proofs.Sched
variable {e : Bool}

/-- `n` is reachable from `a` through child edges -/
inductive Reach (s : State) : Nat → Nat → Prop
  | refl (a : Nat) : Reach s a a
  | step {a p c : Nat} : Reach s a p → c ∈ kids (s.nodeD p).kind → Reach s a c

/-- node `n` is in the cone of an observer that is linked (in use, or disallowed and not yet unlinked) -/
def InCone (s : State) (n : Nat) : Prop :=
  ∃ (o : Nat) (ob : ObsRec), s.observers[o]? = some ob ∧ (ob.state = .inUse ∨ ob.state = .disallowed) ∧
    Reach s ob.node n

theorem nec_of_reach {env : Env} {s : State} (S : Struct env s) {a n : Nat} (h : Reach s a n)
    (ha : s.isNecessary a = true) : s.isNecessary n = true := by
  induction h with
  | refl => exact ha
  | step _ hc ih =>
    obtain ⟨i, hi, e⟩ := List.mem_iff_getElem.1 hc
    have hm := S.conv _ i _ (by rw [List.getElem?_eq_getElem hi, e]) ((wants_closed rfl).2 ih)
    exact nec_of_mem_parents hm

/-- **C05 cone, static fragment.** With the structural invariant and the observer bookkeeping, a node is
necessary iff it is reachable through child edges from the node of a linked observer. -/
theorem nec_iff_cone {env : Env} {s : State} {pn pd : List Nat} (S : Struct env s) (O : ObsInv s pn pd)
    (n : Nat) : s.isNecessary n = true ↔ InCone s n := by
  constructor
  · intro hn
    -- induction on the distance of `n` from the end of the node array: parents have larger indices
    have key : ∀ d n, s.nodes.size - n ≤ d → s.isNecessary n = true → InCone s n := by
      intro d
      induction d with
      | zero =>
        intro n hd hn
        have := nec_lt_size hn
        omega
      | succ d ih =>
        intro n hd hn
        have hlt := nec_lt_size hn
        rw [isNecessary_iff] at hn
        rcases hn with hp | ho | hf
        · obtain ⟨⟨p, i⟩, hx⟩ := List.exists_mem_of_ne_nil _ hp
          obtain ⟨hk, hw⟩ := S.par n p i hx
          have hnp : n < p := GInv.par_lt S hx
          have hpn : s.isNecessary p = true := (wants_closed rfl).1 hw
          obtain ⟨o, ob, h1, h2, h3⟩ := ih p (by have := nec_lt_size hpn; omega) hpn
          exact ⟨o, ob, h1, h2, Reach.step h3 (List.mem_of_getElem? hk)⟩
        · obtain ⟨o, hx⟩ := List.exists_mem_of_ne_nil _ ho
          obtain ⟨ob, h1, h2, h3⟩ := (O.mem n o).1 hx
          exact ⟨o, ob, h1, h3, by rw [h2]; exact Reach.refl n⟩
        · rw [(GInv.node S hlt).force] at hf; cases hf
    exact key _ n (Nat.le_refl _) hn
  · rintro ⟨o, ob, h1, h2, h3⟩
    refine nec_of_reach S h3 ?_
    rw [isNecessary_iff]
    right; left
    exact List.ne_nil_of_mem ((O.mem ob.node o).2 ⟨ob, h1, rfl, h2⟩)

end IncrVerif.Proofs.CutH
