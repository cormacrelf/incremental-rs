import IncrVerif.Proofs.NestH117
/-!
# Nested binds (F2), part 7f: `ProgOK` along histories; HEADLINE: at every `stabilise` every in-use observer reads the TEXT-LEVEL reference value `Spec.denoteTop`
-/
namespace IncrVerif.Proofs.NestH
open IncrVerif.Engine IncrVerif.Driver IncrVerif.Proofs IncrVerif.Proofs.Step IncrVerif.Proofs.Sched IncrVerif.Proofs.Quiet
open IncrVerif.Proofs.BindH
open IncrVerif.Spec

namespace N7
open IncrVerif.Proofs.BindH.C3d IncrVerif.Proofs.NestH.N5d IncrVerif.Proofs.NestH.N7k

/-- creation of a static node -/
theorem progOK_create_static {p : RefProg} {env : Env} {rk : Nat → Nat} {s s' : State} {i : Instr} {tokens : Array Nat}
    {r : String × Array Nat} (Q : QInv2 env rk s) (hst : StaticInstr env i)
    (h : (stepAction env (.create i) tokens).run.run s = (.ok r, s')) (P : ProgOK p env s) :
    ProgOK (progStep p (.create i)) env s' := by
  have hsc := Q.struct.frag.scope
  have hin := top_in Q
  unfold stepAction at h
  simp only at h
  obtain ⟨ro, s1, h1, h2⟩ := bind_ok_inv h
  obtain ⟨k, ero, C, hImg, hvar⟩ := elab_static_img hsc hst h1
  rw [ero] at h2
  simp only at h2
  obtain ⟨s2, e2, h3⟩ := bind_modify_inv h2
  obtain ⟨-, e3⟩ := pure_ok_inv h3
  rw [e3, e2]
  have K := bkey_of_ext (C.ext.withTop (s1.top.push s.nodes.size) (s.nodes.size :: s1.handles))
  have ht : ({ s1 with top := s1.top.push s.nodes.size, handles := s.nodes.size :: s1.handles } : State).top =
      s.top.push s.nodes.size := by show s1.top.push _ = _; rw [C.top]
  have hkind : (({ s1 with top := s1.top.push s.nodes.size, handles := s.nodes.size :: s1.handles } : State).nodeD
      s.nodes.size).kind = k := by
    show (s1.nodeD s.nodes.size).kind = k
    rw [C.nodeD_new]; rfl
  have htop : ∀ (j n : Nat), s.top[j]? = some n →
      ({ s1 with top := s1.top.push s.nodes.size, handles := s.nodes.size :: s1.handles } : State).top[j]? = some n := by
    intro j n hj
    rw [ht, Array.getElem?_push, if_neg (by have := (Array.getElem?_eq_some_iff.1 hj).1; omega)]
    exact hj
  have hvs : ({ s1 with top := s1.top.push s.nodes.size, handles := s.nodes.size :: s1.handles } : State).vars = s1.vars := rfl
  generalize ({ s1 with top := s1.top.push s.nodes.size, handles := s.nodes.size :: s1.handles } : State) = t
    at K ht hkind htop hvs ⊢
  have hsame : (∀ c, k ≠ .var c) → ∀ c : Nat, p.vars[c]? = (t.vars[c]?).map VarCell.value := by
    intro hk c
    rcases C.vars with ⟨-, e⟩ | ⟨v, e, -⟩
    · rw [hvs, e]; exact P.vars c
    · exact absurd e (hk _)
  cases i <;> first | exact hst.elim | skip
  · -- const
    simp only [StaticImg] at hImg
    have hk : ∀ c, k ≠ .var c := by
      intro c e; rw [e] at hImg; simp only [kindOfInstr] at hImg; cases hImg
    refine progOK_push P hin K ht rfl rfl (fun _ _ => rfl) (hsame hk) ?_
    simp only [TopImg]
    refine ⟨?_, ?_⟩
    · intro e; cases e
    · rw [hkind]; exact kindOfInstr_ext htop _ _ hImg
  · -- var
    rename_i v
    simp only [StaticImg] at hImg
    have hsz := vars_size P
    refine progOK_push P hin K ht rfl rfl ?_ ?_ ?_
    · intro j hj
      show List.lookup j ((p.nodes.size, p.vars.size) :: p.varOf) = _
      rw [List.lookup_cons]
      have : (j == p.nodes.size) = false := by simp; omega
      rw [this]
    · intro c
      show (p.vars.push v)[c]? = _
      rw [hvs, hvar v rfl, Array.getElem?_push, Array.getElem?_push, hsz]
      by_cases e : c = s.vars.size
      · rw [if_pos e, if_pos e]; rfl
      · rw [if_neg e, if_neg e]; exact P.vars c
    · simp only [TopImg]
      refine ⟨s.vars.size, by rw [hkind, hImg], ?_⟩
      show List.lookup p.nodes.size ((p.nodes.size, p.vars.size) :: p.varOf) = _
      rw [List.lookup_cons]
      simp only [beq_self_eq_true, hsz]
  · -- map
    simp only [StaticImg] at hImg
    have hk : ∀ c, k ≠ .var c := by
      intro c e; rw [e] at hImg; simp only [kindOfInstr] at hImg
      cases hr : resolveAll s [] _ with
      | none => rw [hr] at hImg; cases hImg
      | some ns => rw [hr] at hImg; cases hImg
    refine progOK_push P hin K ht rfl rfl (fun _ _ => rfl) (hsame hk) ?_
    simp only [TopImg]
    refine ⟨?_, ?_⟩
    · intro e; cases e
    · rw [hkind]; exact kindOfInstr_ext htop _ _ hImg
  · -- fold
    simp only [StaticImg] at hImg
    have hk : ∀ c, k ≠ .var c := by
      intro c e; rw [e] at hImg; simp only [kindOfInstr] at hImg
      cases hr : resolveAll s [] _ with
      | none => rw [hr] at hImg; cases hImg
      | some ns =>
        rw [hr] at hImg
        simp only [Option.map_some] at hImg
        split at hImg <;> cases hImg
    refine progOK_push P hin K ht rfl rfl (fun _ _ => rfl) (hsame hk) ?_
    simp only [TopImg]
    refine ⟨?_, ?_⟩
    · intro e; cases e
    · rw [hkind]; exact kindOfInstr_ext htop _ _ hImg
  · -- zip
    simp only [StaticImg] at hImg
    obtain ⟨ka, kb, na, nb, rfl, rfl, hka, hkb, hor⟩ := hImg
    have hk : ∀ c, k ≠ .var c := by
      intro c e
      rcases hor with e' | ⟨_, _, _, _, e'⟩ <;> rw [e] at e' <;> cases e'
    refine progOK_push P hin K ht rfl rfl (fun _ _ => rfl) (hsame hk) ?_
    simp only [TopImg]
    refine ⟨ka, kb, na, nb, rfl, rfl, ?_, ?_, htop _ _ hka, htop _ _ hkb, ?_⟩
    · rw [P.size]; exact (Array.getElem?_eq_some_iff.1 hka).1
    · rw [P.size]; exact (Array.getElem?_eq_some_iff.1 hkb).1
    · rw [hkind, K.kind na (hin _ _ hka), K.kind nb (hin _ _ hkb)]
      exact hor

/-- creation of a top-level bind -/
theorem progOK_create_bind {p : RefProg} {env : Env} {rk : Nat → Nat} {s s' : State} {body k : Nat} {tokens : Array Nat}
    {r : String × Array Nat} (Q : QInv2 env rk s) {f : Nat} (hB : BodyF2 env s.top.size f body)
    (h : (stepAction env (.create (.bind body (.outer k))) tokens).run.run s = (.ok r, s')) (P : ProgOK p env s) :
    ProgOK (progStep p (.create (.bind body (.outer k)))) env s' := by
  have hsc := Q.struct.frag.scope
  have hin := top_in Q
  unfold stepAction at h
  simp only at h
  obtain ⟨ro, s1, h1, h2⟩ := bind_ok_inv h
  obtain ⟨l, hl, ero, C⟩ := C2c.elab_bind1 hsc h1
  rw [ero] at h2
  simp only at h2
  obtain ⟨s2, e2, h3⟩ := bind_modify_inv h2
  obtain ⟨-, e3⟩ := pure_ok_inv h3
  rw [e3, e2]
  have K := bkey_of_ext (C.ext.withTop (s1.top.push (s.nodes.size + 1)) ((s.nodes.size + 1) :: s1.handles))
  have ht : ({ s1 with top := s1.top.push (s.nodes.size + 1), handles := (s.nodes.size + 1) :: s1.handles } : State).top =
      s.top.push (s.nodes.size + 1) := by show s1.top.push _ = _; rw [C.top]
  have hkind : (({ s1 with top := s1.top.push (s.nodes.size + 1), handles := (s.nodes.size + 1) :: s1.handles } : State).nodeD
      (s.nodes.size + 1)).kind = .bindMain s.binds.size s.nodes.size := by
    show (s1.nodeD (s.nodes.size + 1)).kind = _
    rw [C.nodeD_main]
  have hb : ({ s1 with top := s1.top.push (s.nodes.size + 1), handles := (s.nodes.size + 1) :: s1.handles } : State).binds[s.binds.size]? =
      some { lhs := l, body := body, lhsChange := s.nodes.size, main := s.nodes.size + 1 } := C.bind_new
  have hvs : ({ s1 with top := s1.top.push (s.nodes.size + 1), handles := (s.nodes.size + 1) :: s1.handles } : State).vars = s.vars :=
    C.vars
  generalize ({ s1 with top := s1.top.push (s.nodes.size + 1), handles := (s.nodes.size + 1) :: s1.handles } : State) = t
    at K ht hkind hb hvs ⊢
  refine progOK_push P hin K ht rfl rfl (fun _ _ => rfl) (fun c => by rw [hvs]; exact P.vars c) ?_
  simp only [TopImg]
  refine ⟨k, s.binds.size, s.nodes.size, _, rfl, hkind, hb, rfl, ?_, f, ?_⟩
  · show t.top[k]? = some l
    rw [ht, Array.getElem?_push, if_neg (by have := (Array.getElem?_eq_some_iff.1 hl).1; omega)]
    exact hl
  · show BodyD p.env f body
    rw [P.env]
    exact bodyD_of_F2 env s.top.size f body hB

/-- a write -/
theorem progOK_write {p : RefProg} {env : Env} {rk : Nat → Nat} {s s' : State} {v : Nat} {f : Val → Val} {isSet : Bool} {r : Val}
    (Q : QInv2 env rk s) (h : (writeVar v f isSet).run.run s = (.ok r, s')) (P : ProgOK p env s) :
    ProgOK { p with vars := p.vars.modify v f } env s' := by
  obtain ⟨-, vc, hvc, -, hvc', hoth⟩ := writeVar_q2 Q h
  have ht := ((C2h.PresTop.writeVar v f isSet).h _ _ _ h).top
  have K := (PresBK.writeVar v f isSet).h _ _ _ h
  exact progOK_frame' P rfl rfl rfl (top_in Q) ht K (write_vars P hvc hvc' rfl hoth)

end N7

/-- **`ProgOK` is kept by every API action of the fragment**: the text moves by `progStep`, the state by the action -/
theorem progOK_step {p : RefProg} {env : Env} {s s' : State} {a : Action} {tokens : Array Nat} {r : String × Array Nat}
    (Q : QI2 env s) (ha : ActionF2 env s.top.size a) (h : (stepAction env a tokens).run.run s = (.ok r, s'))
    (P : ProgOK p env s) : ProgOK (progStep p a) env s' := by
  obtain ⟨rk, Q'⟩ := Q
  -- actions that change neither the text nor the cells
  have hsame : (∀ i, a ≠ .create i) → progStep p a = p → s'.vars = s.vars → ProgOK (progStep p a) env s' := by
    intro hc hp hv
    rw [hp]
    exact N7.progOK_frame P (N7.top_in Q') ((C2h.PresTop.stepAction tokens hc).h _ _ _ h).top
      ((N7.PresBK.stepAction env a tokens).h _ _ _ h) (fun c => by rw [hv])
  cases a <;> try exact ha.elim
  case create i =>
    by_cases hb : ∃ body lhs, i = .bind body lhs
    · obtain ⟨body, lhs, rfl⟩ := hb
      obtain ⟨⟨k, rfl⟩, f, hB⟩ := ha
      exact N7.progOK_create_bind Q' hB h P
    · have hst : StaticInstr env i := by
        cases i <;> first | exact ha | exact (hb ⟨_, _, rfl⟩).elim
      exact N7.progOK_create_static Q' hst h P
  case observe n => exact hsame (fun _ e => by cases e) rfl ((N7.presVS_observe env n tokens).h _ _ _ h).vars
  case cloneObs o => exact hsame (fun _ e => by cases e) rfl ((N7.presVS_cloneObs env o tokens).h _ _ _ h).vars
  case dropObs o => exact hsame (fun _ e => by cases e) rfl ((N7.presVS_dropObs env o tokens).h _ _ _ h).vars
  case disallow o => exact hsame (fun _ e => by cases e) rfl ((N7.presVS_disallow env o tokens).h _ _ _ h).vars
  case stabilise =>
    refine hsame (fun _ e => by cases e) rfl ?_
    exact (stabilise_F2' ⟨rk, Q'⟩ (step_stabilise h)).vars
  case get v => rw [(Hist.stepAction_read_ok (.get v) h).1]; exact P
  case isStable => rw [(Hist.stepAction_read_ok .isStable h).1]; exact P
  case stats => rw [(Hist.stepAction_read_ok .stats h).1]; exact P
  all_goals
    obtain ⟨old, h1, -⟩ := (Hist.stepAction_write_ok (by constructor)).1 h
    exact N7.progOK_write Q' h1 P

end IncrVerif.Proofs.NestH
