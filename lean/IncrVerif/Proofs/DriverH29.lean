import IncrVerif.Proofs.DriverH28
/-!
# Drivers, the steps of the drain that are not driver runs, part 2: the invariant along the frames

* `DFX`: the bundle of frames every step of the drain that is not a driver run keeps.
* `auxD_of_frames`, `dstep_of_frames`, `dd_of_stepB`.
-/
namespace IncrVerif.Proofs.DriverH
open IncrVerif.Engine IncrVerif.Driver IncrVerif.Proofs IncrVerif.Proofs.Step IncrVerif.Proofs.Sched
open IncrVerif.Proofs.ExpertH IncrVerif.Proofs.ExpertH.QR IncrVerif.Proofs.EffH

/-! ## the frames of a step that is not a driver run -/

structure DFX (s s' : State) : Prop where
  size : s'.nodes.size = s.nodes.size
  kind : ∀ m, (s'.nodeD m).kind = (s.nodeD m).kind
  ahf : AhF s s'
  xs : XS s s'
  cfg : CfgF s s'
  calm : Calm s s'
  keyD : KeyD s s'

theorem DFX.trans {a b c : State} (h1 : DFX a b) (h2 : DFX b c) : DFX a c :=
  ⟨h2.size.trans h1.size, fun m => (h2.kind m).trans (h1.kind m), h1.ahf.trans h2.ahf, h1.xs.trans h2.xs,
    CfgF.trans h1.cfg h2.cfg, h1.calm.trans h2.calm, KeyD.trans h1.keyD h2.keyD⟩

theorem DFX.maybeChangeValue {env : Env} {fuel n : Nat} {v : Val} {T s' : State} {r : Except Panic (Option Nat)}
    (h : (maybeChangeValue env fuel n v).run.run T = (r, s')) : DFX T s' := by
  have hx := (PresX.maybeChangeValue env fuel n v).h _ _ _ h
  exact ⟨hx.size, hx.kind, (PresAh.maybeChangeValue env fuel n v).h _ _ _ h,
    (PresS.maybeChangeValue env fuel n v).h _ _ _ h, (PresCfg.maybeChangeValue env fuel n v).h _ _ _ h,
    (PresC.maybeChangeValue env fuel n v).h _ _ _ h, (PresK.maybeChangeValue env fuel n v).h _ _ _ h⟩

theorem DFX.started_logged (es : List Event) (n : Nat) (s : State) : DFX s (logged es (started n s)) := by
  have hx := xf_started_logged es n s
  exact ⟨hx.size, hx.kind, ahf_started_logged es n s, XS.of_experts rfl, rfl,
    (Calm.started n s).trans (Calm.logged es _), rfl⟩

/-! ## the auxiliary invariant along the frames -/

section
variable {E : Env} {s s' : State}

theorem shape_actual (hsh : ∀ m, SameShape ((virt s).nodeD m) ((virt s').nodeD m)) (m : Nat) :
    (s'.nodeD m).createdIn = (s.nodeD m).createdIn ∧ (s'.nodeD m).valid = (s.nodeD m).valid ∧
    (s'.nodeD m).cutoff = (s.nodeD m).cutoff ∧ (s'.nodeD m).height = (s.nodeD m).height ∧
    (s'.nodeD m).parents = (s.nodeD m).parents ∧ (s'.nodeD m).observers = (s.nodeD m).observers ∧
    (s'.nodeD m).forceNecessary = (s.nodeD m).forceNecessary := by
  have h := hsh m
  rw [virt_nodeD, virt_nodeD] at h
  exact ⟨h.createdIn, h.valid, h.cutoff, h.height, h.parents, h.observers, h.forceNecessary⟩

/-- **the auxiliary invariant along a step** -/
theorem auxD_of_frames (A : AuxD E s) (F' : XFrag E s') (fr' : Fr s') (df : DFX s s')
    (hsh : ∀ m, SameShape ((virt s).nodeD m) ((virt s').nodeD m)) (hvars : s'.vars = s.vars) : AuxD E s' := by
  have hscope : s'.currentScope = s.currentScope := by
    have := df.keyD; simp only [KeyD, stateKeyD, Prod.mk.injEq] at this; exact this.2.2.1
  obtain ⟨rk, hrk⟩ := A.rank
  refine ⟨F', ahhEmpty_of_ahf A.ahh df.ahf, fr'.pinv, fun m => ?_, ⟨rk, ?_⟩, fun c => ?_, ?_⟩
  · rw [df.calm.num]; exact A.handlers m
  · exact allStatic_of_shapes hrk (by rw [virt_size, virt_size]; exact df.size) hsh fr'.pc hscope
  · rw [(shape_actual hsh c).2.2.2.2.1]; exact A.nodup c
  · exact varsOK_of_shapes A.vars (by rw [virt_size, virt_size]; exact df.size) hsh hvars

/-- **the drain frame from the frames of a step** -/
theorem dstep_of_frames (hfb : BindH.FrameB (virt s) (virt s')) (df : DFX s s')
    (hsh : ∀ m, SameShape ((virt s).nodeD m) ((virt s').nodeD m)) (hvars : s'.vars = s.vars)
    (hstab : s'.stabNum = s.stabNum) (hq : s'.rch.queues.size = s.rch.queues.size)
    (hpc : s'.panicCountdown = s.panicCountdown) (hh : ∀ m, (s.nodeD m).numOnUpdateHandlers ≤ 0) :
    DStep s s' := by
  have hk := df.keyD
  simp only [KeyD, stateKeyD, Prod.mk.injEq] at hk
  obtain ⟨k1, k2, k3, k4, -, k6, k7, k8, -, -, -⟩ := hk
  have hc := df.calm
  refine ⟨hfb, df.size, ?_, fun m => ?_⟩
  · simp only [eKey, Prod.mk.injEq]
    exact ⟨hvars, k8, hstab, hc.status, df.cfg, k3, k1, hc.newObservers, hc.disallowedObservers, k2,
      hc.setDuringStab, hc.deadVars, hc.has hh, k7, k4, k6, hq, hpc⟩
  · obtain ⟨h1, h2, h3, -, -, h6, h7⟩ := shape_actual hsh m
    simp only [dnKey, Prod.mk.injEq]
    exact ⟨df.kind m, h1, h3, h2, h6, h7, hc.num m⟩

end

/-! ## the invariant after a step described by `StepRelB` -/

/-- **the common end of the two cases of `stepOtherSpec`** -/
theorem dd_of_stepB {env : Env} {n : Nat} {v : Val} {ch : Bool} {r : Option Nat} {s s' : State}
    (D : DD env s (some n)) (ht : BindH.TargetB (virtEnv (noEff env)) (virt s) n v)
    (R : BindH.StepRelB n v ch r (virt s) (virt s')) (F' : XFrag (noEff env) s') (fr' : Fr s') (df : DFX s s')
    (hD : ∀ m x, Drives s m x → Drives s' m x) :
    DD env s' r ∧ DStep s s' ∧ ((virt s').nodeD n).recomputedAt = s.stabNum := by
  have htop : s'.top = s.top := by
    have := df.keyD; simp only [KeyD, stateKeyD, Prod.mk.injEq] at this; exact this.2.2.2.1
  refine ⟨⟨BindH.stepB_inv D.inv ht R, auxD_of_frames D.aux F' fr' df R.shapes R.vars,
    drvOK_frameX df.size df.kind htop hD D.drv⟩, ?_, R.recomputedAt⟩
  exact dstep_of_frames R.frame df R.shapes R.vars R.stabNum R.qsize
    (fr'.pc.trans D.aux.frag.pc.symm) D.aux.handlers

end IncrVerif.Proofs.DriverH
