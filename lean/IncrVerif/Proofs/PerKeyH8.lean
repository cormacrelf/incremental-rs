import IncrVerif.Proofs.PerKeyH7
/-!
# Per-key operators, kind-twins part 3: transfer for PAIRS of states, `QInv`/`DInv` shells, and the kind-agnostic pieces
of `DInv (penv env) (V s)` from the structural invariant of the virtual twin

`KK t u t' u'`: wherever the kinds of `t` and `u` agree, those of `t'` and `u'` agree.
-/
namespace IncrVerif.Proofs.PerKeyH
open IncrVerif.Engine IncrVerif.Driver IncrVerif.Proofs IncrVerif.Proofs.Step IncrVerif.Proofs.Sched
open IncrVerif.Proofs.ExpertH IncrVerif.Proofs.EffH IncrVerif.Proofs.ExpertH.QR

/-- wherever the kinds of `t` and `u` agree, those of `t'` and `u'` agree -/
def KK (t u t' u' : State) : Prop :=
  ∀ m, (u.nodeD m).kind = (t.nodeD m).kind → (u'.nodeD m).kind = (t'.nodeD m).kind

namespace Kin
variable {t t' u u' : State}

/-! ## node relations -/

theorem nodeSame (K : Kin t t') (L : Kin u u') (hk : KK t u t' u') {m : Nat}
    (h : NodeSame (t.nodeD m) (u.nodeD m)) : NodeSame (t'.nodeD m) (u'.nodeD m) where
  kind := hk m h.kind
  createdIn := by rw [L.createdIn, K.createdIn]; exact h.createdIn
  cutoff := by rw [L.cutoff, K.cutoff]; exact h.cutoff
  value := by rw [L.value, K.value]; exact h.value
  valid := by rw [L.valid, K.valid]; exact h.valid
  recomputedAt := by rw [L.recomputedAt, K.recomputedAt]; exact h.recomputedAt
  changedAt := by rw [L.changedAt, K.changedAt]; exact h.changedAt
  height := by rw [L.height, K.height]; exact h.height
  parents := by rw [L.parents, K.parents]; exact h.parents
  observers := by rw [L.observers, K.observers]; exact h.observers
  forceNecessary := by rw [L.forceNecessary, K.forceNecessary]; exact h.forceNecessary
  oldState := by rw [L.oldState, K.oldState]; exact h.oldState
  inRch := by rw [L.inRch, K.inRch]; exact h.inRch

theorem sameShape (K : Kin t t') (L : Kin u u') (hk : KK t u t' u') {m : Nat}
    (h : SameShape (t.nodeD m) (u.nodeD m)) : SameShape (t'.nodeD m) (u'.nodeD m) where
  kind := hk m h.kind
  createdIn := by rw [L.createdIn, K.createdIn]; exact h.createdIn
  valid := by rw [L.valid, K.valid]; exact h.valid
  cutoff := by rw [L.cutoff, K.cutoff]; exact h.cutoff
  height := by rw [L.height, K.height]; exact h.height
  parents := by rw [L.parents, K.parents]; exact h.parents
  observers := by rw [L.observers, K.observers]; exact h.observers
  forceNecessary := by rw [L.forceNecessary, K.forceNecessary]; exact h.forceNecessary

theorem nodeKey (K : Kin t t') (L : Kin u u') (hk : KK t u t' u') {m : Nat}
    (h : nodeKey (u.nodeD m) = nodeKey (t.nodeD m)) : ExpertH.QR.nodeKey (u'.nodeD m) = ExpertH.QR.nodeKey (t'.nodeD m) := by
  simp only [ExpertH.QR.nodeKey, Prod.mk.injEq] at h ⊢
  simp only [L.createdIn, K.createdIn, L.cutoff, K.cutoff, L.value, K.value, L.valid, K.valid, L.recomputedAt,
    K.recomputedAt, L.changedAt, K.changedAt, L.observers, K.observers, L.forceNecessary, K.forceNecessary,
    L.numOnUpdateHandlers, K.numOnUpdateHandlers]
  exact ⟨hk m h.1, h.2⟩

theorem stateKey (K : Kin t t') : stateKey t' = stateKey t := by
  simp only [ExpertH.QR.stateKey, K.vars, K.stObservers, K.stabNum, K.status, K.cfg, K.scope, K.setDuringStab,
    K.deadVars, K.newObservers, K.disallowedObservers, K.allObservers, K.top, K.handles, K.alive, K.rch, K.ahh,
    K.binds, K.memos, K.slots]

/-! ## frames -/

theorem frameB (K : Kin t t') (L : Kin u u') (h : BindH.FrameB t u) : BindH.FrameB t' u' where
  stabNum := by rw [L.stabNum, K.stabNum]; exact h.stabNum
  vars := by rw [L.vars, K.vars]; exact h.vars
  grow := by rw [L.size, K.size]; exact h.grow
  ran m hm := by
    rw [K.recomputedAt, K.stabNum] at hm
    rw [L.recomputedAt, L.valid, K.stabNum, K.valid]; exact h.ran m hm

theorem cFrame (K : Kin t t') (L : Kin u u') (hk : KK t u t' u') (h : CFrame t u) : CFrame t' u' where
  size := by rw [L.size, K.size]; exact h.size
  node m := Kin.nodeKey K L hk (h.node m)
  key := by rw [L.stateKey, K.stateKey]; exact h.key
  pc := by rw [L.pc, K.pc]; exact h.pc

theorem lRel {X : Nat → Prop} (K : Kin t t') (L : Kin u u') (hk : KK t u t' u') (h : LRel X t u) :
    LRel X t' u' where
  fr := K.cFrame L hk h.fr
  pinv := by rw [L.pinv, K.pinv]; exact h.pinv
  par m x hx := by rw [K.parents] at hx; rw [L.parents]; exact h.par m x hx
  hgt m hX hn := by rw [K.isNecessary] at hn; rw [L.height, K.height]; exact h.hgt m hX hn

theorem uRel (K : Kin t t') (L : Kin u u') (hk : KK t u t' u') (h : URel t u) : URel t' u' where
  fr := K.cFrame L hk h.fr
  pinv := by rw [L.pinv, K.pinv]; exact h.pinv
  par m x hx := by rw [L.parents] at hx; rw [K.parents]; exact h.par m x hx

theorem ahF (K : Kin t t') (L : Kin u u') (h : AhF t u) : AhF t' u' where
  size := by rw [L.size, K.size]; exact h.size
  ahh := by rw [L.ahh, K.ahh]; exact h.ahh
  mark m := by rw [L.heightInAhh, K.heightInAhh]; exact h.mark m

theorem sameG (K : Kin t t') (L : Kin u u') (hk : KK t u t' u') (h : SameG t u) : SameG t' u' where
  pc := by rw [L.pc, K.pc]; exact h.pc
  scope := by rw [L.scope, K.scope]; exact h.scope
  size := by rw [L.size, K.size]; exact h.size
  rch := by rw [L.rch, K.rch]; exact h.rch
  vars := by rw [L.vars, K.vars]; exact h.vars
  node m := by
    have g := h.node m
    exact ⟨by rw [L.valid, K.valid]; exact g.valid, hk m g.kind, by rw [L.cutoff, K.cutoff]; exact g.cutoff,
      by rw [L.createdIn, K.createdIn]; exact g.createdIn,
      by rw [L.forceNecessary, K.forceNecessary]; exact g.forceNecessary,
      by rw [L.parents, K.parents]; exact g.parents, by rw [L.observers, K.observers]; exact g.observers,
      by rw [L.height, K.height]; exact g.height, by rw [L.heightInRch, K.heightInRch]; exact g.heightInRch,
      by rw [L.recomputedAt, K.recomputedAt]; exact g.recomputedAt,
      by rw [L.changedAt, K.changedAt]; exact g.changedAt⟩

/-! ## a run of a static node -/

/-- `Sched.StepRel` (the static-fragment version) -/
theorem stepRel (K : Kin t t') (L : Kin u u') (hk : KK t u t' u') {n : Nat} {v : Val} {ch : Bool} {r : Option Nat}
    (hmap : ∀ p f args, (t.nodeD p).kind = .map f args → ∃ f', (t'.nodeD p).kind = .map f' args)
    (R : StepRel n v ch r t u) : StepRel n v ch r t' u' where
  size := by rw [L.size, K.size]; exact R.size
  vars := by rw [L.vars, K.vars]; exact R.vars
  stabNum := by rw [L.stabNum, K.stabNum]; exact R.stabNum
  pc := by rw [L.pc]; exact R.pc
  qsize := by rw [L.rch, K.rch]; exact R.qsize
  other m hm := K.nodeSame L hk (R.other m hm)
  shape := K.sameShape L hk R.shape
  value := by rw [L.value]; exact R.value
  recomputedAt := by rw [L.recomputedAt, K.stabNum]; exact R.recomputedAt
  changedAt := by rw [L.changedAt, K.stabNum, K.changedAt]; exact R.changedAt
  unch h := by rw [K.value]; exact R.unch h
  heap := L.heapInv R.heap
  newIn m hq := by
    rw [L.inRch] at hq
    rw [K.inRch, K.parents]; exact R.newIn m hq
  parentsIn h p hp := by
    rw [K.parents] at hp
    rw [L.inRch]; exact R.parentsIn h p hp
  ret p hp := by
    obtain ⟨h1, h2, h3, h4⟩ := R.ret p hp
    refine ⟨h1, by rw [K.parents]; exact h2, by rw [L.inRch]; exact h3, ?_⟩
    rcases h4 with ⟨f, args, h5, h6⟩ | h4
    · obtain ⟨f', h7⟩ := hmap p f args h5
      exact Or.inl ⟨f', args, h7, h6⟩
    · refine Or.inr fun m hq => ?_
      rw [L.inRch] at hq
      rw [K.height, K.height]; exact h4 m hq

/-! ## a run of a change detector / driver: `StepP`, `DriverH.StepW` -/

theorem stepP {env env' : Env} {X : Nat → Prop} {n : Nat} (K : Kin t t') (L : Kin u u')
    (hs : SK env t) (hs' : SK env' t') (hu : SK env u) (hu' : SK env' u')
    (hk : ∀ m, m < t.nodes.size → ¬ X m → (u.nodeD m).kind = (t.nodeD m).kind →
      (u'.nodeD m).kind = (t'.nodeD m).kind)
    (R : StepP env X n t u) : StepP env' X n t' u' where
  grow := by rw [L.size, K.size]; exact R.grow
  vars := by rw [L.vars, K.vars]; exact R.vars
  binds := by rw [L.binds, K.binds]; exact R.binds
  stabNum := by rw [L.stabNum, K.stabNum]; exact R.stabNum
  graph' := L.bgraph R.graph' hu hu'
  heap' := L.heapInv R.heap'
  stamps' := L.stamps R.stamps'
  qstale' m hq := by
    rw [L.inRch] at hq
    rw [L.isStale (hu m) (hu' m)]; exact R.qstale' m hq
  pending' m hn hst := by
    rw [L.isNecessary] at hn; rw [L.isStale (hu m) (hu' m)] at hst
    rw [L.inRch]; exact R.pending' m hn hst
  notX := R.notX
  selfNec := by rw [L.isNecessary]; exact R.selfNec
  selfQ := by rw [L.inRch]; exact R.selfQ
  xOld x hx := by rw [K.size]; exact R.xOld x hx
  old m hm := by
    rw [K.size] at hm
    obtain ⟨h1, h2, h3, h4, h5⟩ := R.old m hm
    refine ⟨by rw [L.valid, K.valid]; exact h1, by rw [L.createdIn, K.createdIn]; exact h2,
      by rw [L.value, K.value]; exact h3, by rw [L.changedAt, K.changedAt]; exact h4, fun hX => ?_⟩
    obtain ⟨k1, k2, k3⟩ := h5 hX
    exact ⟨hk m hm hX k1, by rw [L.recomputedAt, K.recomputedAt]; exact k2,
      by rw [L.children (hu m) (hu' m), K.children (hs m) (hs' m)]; exact k3⟩
  rewired x hx := by
    obtain ⟨h1, h2, h3⟩ := R.rewired x hx
    exact ⟨by rw [K.children (hs x) (hs' x)]; exact h1, by rw [L.isStale (hu x) (hu' x)]; exact h2,
      by rw [L.recomputedAt, K.stabNum]; exact h3⟩
  new m h1 h2 := by
    rw [K.size] at h1; rw [L.size] at h2
    rw [L.recomputedAt]; exact R.new m h1 h2

theorem stepW {env env' : Env} {X : Nat → Prop} {n : Nat} (K : Kin t t') (L : Kin u u')
    (hs : SK env t) (hs' : SK env' t') (hu : SK env u) (hu' : SK env' u')
    (hk : ∀ m, m < t.nodes.size → ¬ X m → (u.nodeD m).kind = (t.nodeD m).kind →
      (u'.nodeD m).kind = (t'.nodeD m).kind)
    (R : DriverH.StepW env X n t u) : DriverH.StepW env' X n t' u' :=
  { K.stepP L hs hs' hu hu' hk R.toP with size := by rw [L.size, K.size]; exact R.size }

/-! ## shells: everything of `QInv` / `DInv` but the value clause -/

theorem obsOK (K : Kin t t') (h : ObsOK t) : ObsOK t' := by
  unfold ObsOK at h ⊢
  rw [K.newObservers, K.disallowedObservers]
  exact {
    inRange := fun o ob ho => by rw [K.stObservers] at ho; rw [K.size]; exact h.inRange o ob ho
    mem := fun n o => by rw [K.observers, K.stObservers]; exact h.mem n o
    created := fun o ob ho => by rw [K.stObservers] at ho; exact h.created o ob ho
    newIn := fun o ho => by rw [K.stObservers]; exact h.newIn o ho
    dis := fun o ob ho => by rw [K.stObservers] at ho; exact h.dis o ob ho
    disIn := fun o ho => by rw [K.stObservers]; exact h.disIn o ho
    disNodup := h.disNodup }

/-- `QInv` transfers, given the value clause on the target side -/
theorem qInv {env env' : Env} {rk : Nat → Nat} (K : Kin t t') (Q : QInv env rk t) (hs' : SK env' t')
    (cons' : ∀ m, m < t'.nodes.size → Sched.staleOf t' m = false → Consistent env' t' m) : QInv env' rk t' where
  struct := K.struct Q.struct hs'
  vars := K.varsOK Q.vars
  obs := K.obsOK Q.obs
  now := by rw [K.stabNum]; exact Q.now
  stamps m := by rw [K.recomputedAt, K.changedAt, K.stabNum]; exact Q.stamps m
  varStamp c vc hc := by rw [K.vars] at hc; rw [K.stabNum]; exact Q.varStamp c vc hc
  cons := cons'
  status := by rw [K.status]; exact Q.status
  alive := by rw [K.alive]; exact Q.alive
  setDuringStab := by rw [K.setDuringStab]; exact Q.setDuringStab
  deadVars := by rw [K.deadVars]; exact Q.deadVars
  handleAfterStab := by rw [K.handleAfterStab]; exact Q.handleAfterStab
  handlers m := by rw [K.numOnUpdateHandlers]; exact Q.handlers m
  pinv := by rw [K.pinv]; exact Q.pinv
  top k n hk := by rw [K.top] at hk; rw [K.size]; exact Q.top k n hk

/-- `DInv` transfers, given the value clause on the target side -/
theorem dInv {env env' : Env} {x : Option Nat} (K : Kin t t') (I : BindH.DInv env t x) (hs : SK env t)
    (hs' : SK env' t')
    (cons' : ∀ m, m < t'.nodes.size → (t'.nodeD m).valid = true → t'.isStale m = false →
      BindH.ConsistentB env' t' m) : BindH.DInv env' t' x where
  graph := K.bgraph I.graph hs hs'
  heap := K.heapInv I.heap
  stamps := K.stamps I.stamps
  qstale m hq := by
    rw [K.inRch] at hq
    rw [K.isStale (hs m) (hs' m)]; exact I.qstale m hq
  pending m hn hst := by
    rw [K.isNecessary] at hn; rw [K.isStale (hs m) (hs' m)] at hst
    rw [K.inRch]; exact I.pending m hn hst
  cons := cons'
  fresh a d hb hd := by
    rw [K.isStale (hs d) (hs' d)] at hd
    rw [K.recomputedAt, K.stabNum]; exact I.fresh a d (K.below hs hs' hb) hd
  cur n hn := by
    obtain ⟨h1, h2⟩ := I.cur n hn
    refine ⟨by rw [K.isNecessary]; exact h1, fun d hd => ?_⟩
    rw [K.inRch]; exact h2 d (K.below hs hs' hd)

end Kin

/-! ## E. from the structural invariant of the virtual twin to `V s` -/

section
variable {env : Env} {rk : Nat → Nat} {l : List Event} {s : State}

/-- the structural invariant at rest moves from the virtual twin to the value-faithful virtual state -/
theorem struct_V (F : PFrag env s) (I : Struct (virtEnv (twEnv env)) rk (virt (twL l s))) :
    Struct (penv env) rk (V s) :=
  (kin_twin_V l s).struct I (sk_V F)

theorem gInv_V {op : Nat → Op} (F : PFrag env s) (I : GInv (virtEnv (twEnv env)) rk (virt (twL l s)) op) :
    GInv (penv env) rk (V s) op :=
  (kin_twin_V l s).gInv I (sk_V F)

theorem gInv_W {op : Nat → Op} (F : PFrag env s) (I : GInv (penv env) rk (V s) op) :
    GInv (virtEnv (twEnv env)) rk (virt (twL l s)) op :=
  (kin_twin_V l s).symm.gInv I (sk_virt_twin l F)

theorem allStatic_V (F : PFrag env s) (A : AllStatic (virtEnv (twEnv env)) rk (virt (twL l s))) :
    AllStatic (penv env) rk (V s) :=
  (kin_twin_V l s).allStatic A (sk_V F)

theorem varsOK_V (h : VarsOK (virt (twL l s))) : VarsOK (V s) := (kin_twin_V l s).varsOK h

theorem heapInv_V (F : PFrag env s) (I : Struct (virtEnv (twEnv env)) rk (virt (twL l s))) : HeapInv (V s) :=
  (struct_V F I).heapInv

theorem bgraph_V (F : PFrag env s) (I : Struct (virtEnv (twEnv env)) rk (virt (twL l s)))
    (hv : VarsOK (V s)) : BindH.BGraph (penv env) (V s) :=
  DriverH.bgraph_of_struct (struct_V F I) hv

theorem graph_V (F : PFrag env s) (I : Struct (virtEnv (twEnv env)) rk (virt (twL l s)))
    (hv : VarsOK (V s)) : Graph (penv env) (V s) :=
  (struct_V F I).graph hv

/-- at rest exactly the necessary stale nodes are queued (`qstale`, and `pending` with no current node) -/
theorem queued_iff_V (F : PFrag env s) (I : Struct (virtEnv (twEnv env)) rk (virt (twL l s))) (m : Nat) :
    ((V s).nodeD m).inRch = true ↔ ((V s).isNecessary m = true ∧ (V s).isStale m = true) :=
  (struct_V F I).queued_iff m

theorem stamps_V (h : Stamps (virt (twL l s))) : Stamps (V s) := (kin_twin_V l s).stamps h

theorem ahhEmpty_V (h : AhhEmpty s) : AhhEmpty (V s) where
  length := h.length
  buckets := h.buckets
  marks m := by rw [V_nodeD, vNode_heightInAhh]; exact h.marks m

/-- staleness, necessity, children of the three views coincide -/
theorem W_isStale (m : Nat) : (virt (twL l s)).isStale m = s.isStale m := by
  rw [virt_isStale, KtwL_isStale]
theorem W_children (m : Nat) : (virt (twL l s)).children m = s.children m := by
  rw [virt_children, KtwL_children]

end

end IncrVerif.Proofs.PerKeyH
