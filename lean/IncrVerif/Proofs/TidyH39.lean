import IncrVerif.Proofs.TidyH31
/-!
# Converse simulation (virtual run returns ⇒ actual run returns) of the engine functions

`SimR x x'` follows from the exact simulation `NodeSim.Comm (fun _ => True) rel.app FrR x x'` (`SimR.of_comm`); `(rel, FrR)` is `NodeSim.Blind`,
and what the engine does for expert nodes cannot be seen in the virtual state and never panics, the records being there (`expWorkR`).
-/
namespace IncrVerif.Proofs.TidyH.XT
namespace XR
open IncrVerif.Engine IncrVerif.Driver IncrVerif.Proofs IncrVerif.Proofs.Step IncrVerif.Proofs.Sched
open IncrVerif.Proofs.ExpertH

/-- what the converse simulation needs to know of the actual state: `Fr` + every expert node has its record -/
structure FrR (s : State) : Prop where
  fr : Fr s
  xrec : ∀ n e, (s.nodeD n).kind = .expert e → ∃ er, s.experts[e]? = some er

theorem FrR.of_frag {env : Env} {s : State} (F : XFrag env s) (hp : s.propagateInvalidity = []) : FrR s := by
  refine ⟨F.fr hp, fun n e hk => ?_⟩
  have ln : n < s.nodes.size := by
    by_cases h : n < s.nodes.size
    · exact h
    · rw [nodeD_default_of_ge s n (by omega)] at hk; cases hk
  obtain ⟨er, h, _⟩ := F.xrec n e ln hk
  exact ⟨er, h⟩

/-- the general way to keep `FrR`: every expert kind of `s'` is an expert kind of `s`, no record is lost -/
theorem FrR.of_fr {s s' : State} (h : FrR s) (fr : Fr s')
    (hk : ∀ m e, (s'.nodeD m).kind = .expert e → ∃ m', (s.nodeD m').kind = .expert e)
    (hs : s.experts.size ≤ s'.experts.size) : FrR s' := by
  refine ⟨fr, fun n e hn => ?_⟩
  obtain ⟨m', hm'⟩ := hk n e hn
  obtain ⟨er, he⟩ := h.xrec m' e hm'
  have hlt : e < s.experts.size := by
    rcases Nat.lt_or_ge e s.experts.size with h1 | h1
    · exact h1
    · rw [Array.getElem?_eq_none h1] at he; cases he
  exact ⟨s'.experts[e]'(by omega), Array.getElem?_eq_getElem (by omega)⟩

theorem FrR.of_kinds {s s' : State} (h : FrR s) (fr : Fr s')
    (hk : ∀ m, (s'.nodeD m).kind = (s.nodeD m).kind) (hs : s'.experts.size = s.experts.size) : FrR s' :=
  h.of_fr fr (fun m e hm => ⟨m, by rw [← hk]; exact hm⟩) (by omega)

theorem FrR.of_nodes {s s' : State} (h : FrR s) (e : s'.nodes = s.nodes)
    (e2 : s'.propagateInvalidity = s.propagateInvalidity) (e3 : s'.panicCountdown = s.panicCountdown)
    (e4 : s'.experts = s.experts) : FrR s' :=
  h.of_kinds (h.fr.of_nodes e e2 e3 e4) (fun n => by simp [State.nodeD, e]) (by rw [e4])

theorem FrR.nd {s : State} (h : FrR s) {n : Nat} {nd : Node} (hn : s.nodes[n]? = some nd) :
    XK nd.kind ∧ nd.valid = true := h.fr.some hn

theorem FrR.xrec_some {s : State} (h : FrR s) {n e : Nat} {nd : Node} (hn : s.nodes[n]? = some nd)
    (hk : nd.kind = .expert e) : ∃ er, s.experts[e]? = some er :=
  h.xrec n e (by rw [nodeD_of_some hn]; exact hk)

theorem FrR.of_veq {s s' : State} (h : FrR s) (hv : VEq s s') (hs : s'.experts.size = s.experts.size) : FrR s' :=
  h.of_kinds (hv.fr h.fr) hv.kind hs

def SimRAt (s : State) {α} (x x' : M α) : Prop :=
  FrR s → ∀ r t, x'.run.run (virt s) = (.ok r, t) → ∃ s', x.run.run s = (.ok r, s') ∧ t = virt s' ∧ FrR s'

def SimR {α} (x x' : M α) : Prop := ∀ s, SimRAt s x x'

section
variable {s : State} {α β : Type}

/-- the virtual side does nothing for the first half -/
theorem SimRAt.seq_left {x : M α} {f : α → M β} {y' : M β} (hx : SimRAt s (x >>= fun _ => pure ()) (pure ()))
    (hf : ∀ a s1, x.run.run s = (.ok a, s1) → SimRAt s1 (f a) y') :
    SimRAt s (x >>= f) y' := by
  intro hn r t h
  obtain ⟨s1, e1, e2, n1⟩ := hx hn () (virt s) (run_pure _ _)
  obtain ⟨a, s1', h1, h2⟩ := bind_ok_inv e1
  rw [run_pure] at h2
  have e3 : s1' = s1 := congrArg Prod.snd h2
  rw [e3] at h1
  rw [e2] at h
  obtain ⟨s', e3, e4, n2⟩ := hf a s1 h1 n1 r t h
  exact ⟨s', by rw [run_bind_ok h1]; exact e3, e4, n2⟩

/-- a read of the state on the actual side only -/
theorem SimRAt.getL_seq {k : State → M β} {x' : M β} (h : SimRAt s (k s) x') :
    SimRAt s (get >>= k) x' := by
  intro hn r t hr
  rw [run_bind_get]
  exact h hn r t hr

/-- a read of a node on the actual side only: the node must exist -/
theorem SimRAt.getNodeL_seq {n : Nat} {k : Node → M β} {x' : M β} (hex : ∃ nd, s.nodes[n]? = some nd)
    (h : ∀ nd, s.nodes[n]? = some nd → XK nd.kind → nd.valid = true → SimRAt s (k nd) x') :
    SimRAt s (getNode n >>= k) x' := by
  intro hn r t hr
  obtain ⟨nd, hnd⟩ := hex
  obtain ⟨s', e1, e2, n2⟩ := h nd hnd (hn.nd hnd).1 (hn.nd hnd).2 hn r t hr
  exact ⟨s', by rw [run_bind_ok (run_getNode_some hnd)]; exact e1, e2, n2⟩

/-- a read of an expert record (actual side only): the record must exist -/
theorem SimRAt.getExpertL_seq {e : Nat} {k : ExpertRec → M β} {x' : M β} (hex : ∃ er, s.experts[e]? = some er)
    (h : ∀ er, s.experts[e]? = some er → SimRAt s (k er) x') :
    SimRAt s (getExpert e >>= k) x' := by
  intro hn r t hr
  obtain ⟨er, he⟩ := hex
  obtain ⟨s', e1, e2, n2⟩ := h er he hn r t hr
  exact ⟨s', by rw [run_bind_ok (Xp.run_getExpert_some he)]; exact e1, e2, n2⟩

theorem SimRAt.ite_left {c : Prop} {_ : Decidable c} {a b x' : M α}
    (ha : c → SimRAt s a x') (hb : ¬ c → SimRAt s b x') : SimRAt s (if c then a else b) x' := by
  by_cases h : c
  · rw [if_pos h]; exact ha h
  · rw [if_neg h]; exact hb h

theorem frr_modify {s : State} (hn : FrR s) (n : Nat) (f : Node → Node)
    (hk : ∀ nd, (f nd).kind = nd.kind ∧ (f nd).valid = nd.valid) :
    FrR { s with nodes := s.nodes.modify n f } := by
  refine hn.of_kinds (fr_modify hn.fr n f hk) (fun m => ?_) rfl
  rw [nodeD_modify]
  split
  · exact (hk _).1
  · rfl

end

/-! ## work that is invisible in the virtual state: it must be TOTAL -/

section
variable {s : State} {β : Type}

/-- an invisible program that returns (keeping the size of the expert array) is simulated by doing nothing -/
theorem SimRAt.of_veq {x : M Unit} (h : Step.Pres VEqP x)
    (ht : FrR s → ∃ s', x.run.run s = (.ok (), s') ∧ s'.experts.size = s.experts.size) :
    SimRAt s x (pure ()) := by
  intro hn r t hr
  rw [run_pure] at hr; cases hr
  obtain ⟨s', h1, h2⟩ := ht hn
  have hv := h.h s _ s' h1 hn.fr.pc
  exact ⟨s', h1, hv.veq.symm, hn.of_veq hv h2⟩

end

theorem tot_observabilityChange {s : State} {e : Nat} (b : Bool) (hex : ∃ er, s.experts[e]? = some er) :
    ∃ s', (Engine.observabilityChange e b).run.run s = (.ok (), s') ∧ s'.experts.size = s.experts.size := by
  obtain ⟨er, he⟩ := hex
  unfold Engine.observabilityChange
  rw [run_bind_ok (Xp.run_getExpert_some he)]
  cases hpk : er.pk.isNone <;> cases b <;>
    simp only [if_true, if_false, Bool.false_eq_true, Bool.not_true, Bool.not_false, bind_assoc, pure_bind,
      run_bind_get, run_bind_logEv, run_pure, Xp.run_modExpert] <;>
    exact ⟨_, rfl, by simp⟩

theorem tot_edgeOnChange {s : State} (env : Env) {e : Nat} (edge : ExpertEdge) (hpc : s.panicCountdown = none)
    (hex : ∃ er, s.experts[e]? = some er) :
    ∃ s', (Engine.edgeOnChange env e edge).run.run s = (.ok (), s') ∧ s'.experts.size = s.experts.size := by
  obtain ⟨er, he⟩ := hex
  unfold Engine.edgeOnChange
  cases edge.cb with
  | none => exact ⟨s, rfl, rfl⟩
  | some c =>
    simp only [run_bind_get]
    cases s.value env edge.child with
    | none => exact ⟨s, rfl, rfl⟩
    | some v =>
      simp only []
      rw [run_bind_ok (Xp.run_getExpert_some he)]
      cases hpk : er.pk.isNone <;>
        simp only [if_true, if_false, Bool.false_eq_true, bind_assoc, pure_bind,
          run_bind_tick_none _ _ hpc, run_bind_logEv, run_pure, Xp.run_modExpert] <;>
        exact ⟨_, rfl, by simp⟩

theorem SimRAt.edgeOnChange {s : State} (env : Env) {e : Nat} (edge : ExpertEdge)
    (hex : ∃ er, s.experts[e]? = some er) : SimRAt s (Engine.edgeOnChange env e edge) (pure ()) :=
  SimRAt.of_veq (PresV.edgeOnChange env e edge) fun hn => tot_edgeOnChange env edge hn.fr.pc hex

theorem tot_runEdgeCallback {s : State} (env : Env) {e : Nat} (i : Nat) (hpc : s.panicCountdown = none)
    (hex : ∃ er, s.experts[e]? = some er) :
    ∃ s', (Engine.runEdgeCallback env e i).run.run s = (.ok (), s') ∧ s'.experts.size = s.experts.size := by
  obtain ⟨er, he⟩ := hex
  unfold Engine.runEdgeCallback
  rw [run_bind_ok (Xp.run_getExpert_some he)]
  cases er.willFireAllCallbacks
  · simp only [Bool.not_false, if_true]
    cases er.children[i]? with
    | none => exact ⟨s, rfl, rfl⟩
    | some edge => exact tot_edgeOnChange env edge hpc ⟨er, he⟩
  · exact ⟨s, rfl, rfl⟩

/-! ## the instance of `NodeSim` -/

theorem blindR : NodeSim.Blind rel FrR where
  default := blind.default
  kind := blind.kind
  children := blind.children
  isStale := blind.isStale
  tick _ := NodeSim.Comm.tick_none fun _ h => h.fr.pc
  of_nodes h e1 e2 e3 e4 _ := h.of_nodes e1 e2 e3 e4
  modify n f h hk := frr_modify h n f fun nd => ⟨(hk nd).1, (hk nd).2.1⟩
  rmParent c _ h := frr_modify h c _ fun _ => ⟨rfl, rfl⟩
  invalid h hn hv := absurd (h.nd hn).2 (by rw [hv]; decide)

theorem addsParentsR : NodeSim.AddsParents FrR := fun c _ h => frr_modify h c _ fun _ => ⟨rfl, rfl⟩

theorem changesNecessityR : NodeSim.ChangesNecessity FrR := fun n f h hk => frr_modify h n f fun nd => ⟨(hk nd).1, (hk nd).2.1⟩

theorem setsValuesR : NodeSim.SetsValues FrR := fun n _ h => frr_modify h n _ fun _ => ⟨rfl, rfl⟩

theorem noRefR : NodeSim.NoRef FrR := fun h => noRef h.fr

theorem refWorkR {E : Panic → Prop} : NodeSim.RefWork E rel FrR := .of_noRef blindR noRefR

/-- work that keeps the virtual state and returns (keeping the size of the expert array) cannot be seen -/
theorem skip_of_tot {E : Panic → Prop} {s : State} {x : M Unit} (h : Step.Pres VEqP x)
    (ht : FrR s → ∃ s', x.run.run s = (.ok (), s') ∧ s'.experts.size = s.experts.size) :
    NodeSim.CommAt E rel.app FrR s x (pure ()) := by
  refine .of_unseen fun hI r s1 hr _ => ?_
  obtain ⟨s', h1, h2⟩ := ht hI
  have hv := h.h s _ s' h1 hI.fr.pc
  rw [h1] at hr
  cases hr
  exact ⟨rfl, by rw [← virt_eq, ← virt_eq]; exact hv.veq, hI.of_veq hv h2⟩

theorem obsWorkR {E : Panic → Prop} : NodeSim.ObsWork E (fun _ : Unit => rel) fun _ => FrR :=
  .hidden (fun _ xs e => virtKind_not_expert xs.1 (.expert e) e) fun e b _ _ _ _ hnd hk =>
    skip_of_tot (PresV.observabilityChange e b) fun hn => tot_observabilityChange b (hn.xrec_some hnd hk)

theorem expWorkR {E : Panic → Prop} {env env' : Env} : NodeSim.ExpWork E (fun _ : Unit => rel) (fun _ => FrR) env env' :=
  .hidden (fun _ xs e => virtKind_not_expert xs.1 (.expert e) e) obsWorkR fun e j _ _ _ _ hnd hk =>
    skip_of_tot (PresV.runEdgeCallback env e j) fun hn => tot_runEdgeCallback env j hn.fr.pc (hn.xrec_some hnd hk)

section
variable {s : State} {α : Type}

/-- a simulation that reproduces every outcome gives the converse simulation -/
theorem SimRAt.of_comm {x x' : M α} (h : NodeSim.CommAt (fun _ => True) rel.app FrR s x x') : SimRAt s x x' := by
  intro hn r t hr
  rw [virt_eq] at hr
  obtain ⟨s', h1, h2, h3⟩ := h.rev (fun _ => trivial) hn hr
  exact ⟨s', h1, by rw [virt_eq]; exact h2, h3⟩

theorem SimR.of_comm {x x' : M α} (h : NodeSim.Comm (fun _ => True) rel.app FrR x x') : SimR x x' :=
  fun s => .of_comm (h s)

end

theorem SimR.dassert (c : Bool) (site : String) : SimR (Engine.dassert c site) (Engine.dassert c site) :=
  .of_comm (NodeSim.Comm.dassert c site)

theorem SimR.assertM (c : Bool) (site : String) : SimR (Engine.assertM c site) (Engine.assertM c site) :=
  .of_comm (NodeSim.Comm.assertM c site)

theorem SimR.addParent (c i p : Nat) : SimR (Engine.addParent c i p) (Engine.addParent c i p) :=
  .of_comm (NodeSim.Comm.addParent blindR addsParentsR c i p)

theorem SimR.removeParent (c i p : Nat) : SimR (Engine.removeParent c i p) (Engine.removeParent c i p) :=
  .of_comm (NodeSim.Comm.removeParent blindR c i p)

theorem SimR.setHeight (n : Nat) (h : Int) : SimR (Engine.setHeight n h) (Engine.setHeight n h) :=
  .of_comm (NodeSim.Comm.setHeight blindR n h)

theorem SimR.rchRemoveMin : SimR Engine.rchRemoveMin Engine.rchRemoveMin :=
  .of_comm (NodeSim.Comm.rchRemoveMin blindR)

theorem SimR.ensureHeightRequirement (oc op c p : Nat) :
    SimR (Engine.ensureHeightRequirement oc op c p) (Engine.ensureHeightRequirement oc op c p) :=
  .of_comm (NodeSim.Comm.ensureHeightRequirement blindR oc op c p)

theorem SimR.handleAfterStabilisation (n : Nat) :
    SimR (Engine.handleAfterStabilisation n) (Engine.handleAfterStabilisation n) :=
  .of_comm (NodeSim.Comm.handleAfterStabilisation blindR n)

/-- no map_ref nodes: a no-op on both sides -/
theorem SimR.markMapRefUnknown (fuel n : Nat) :
    SimR (Engine.markMapRefUnknown fuel n) (Engine.markMapRefUnknown fuel n) :=
  .of_comm (NodeSim.Comm.markMapRefUnknown blindR noRefR fuel n)

theorem SimR.adjustHeights (oc op fuel : Nat) :
    SimR (Engine.adjustHeights oc op fuel) (Engine.adjustHeights oc op fuel) :=
  .of_comm (NodeSim.Comm.adjustHeights blindR oc op fuel)

theorem SimR.becameNecessary (env : Env) (fuel n : Nat) :
    SimR (Engine.becameNecessary env fuel n) (Engine.becameNecessary (virtEnv env) fuel n) :=
  .of_comm (NodeSim.Comm.becameNecessary blindR addsParentsR refWorkR expWorkR fuel n)

theorem SimR.addParentWithoutAdjustingHeights (env : Env) (fuel c i p : Nat) :
    SimR (Engine.addParentWithoutAdjustingHeights env fuel c i p)
      (Engine.addParentWithoutAdjustingHeights (virtEnv env) fuel c i p) :=
  .of_comm (NodeSim.Comm.addParentWithoutAdjustingHeights blindR addsParentsR refWorkR expWorkR fuel c i p)

theorem SimR.unlink (fuel : Nat) :
    (∀ n, SimR (becameUnnecessary fuel n) (becameUnnecessary fuel n)) ∧
    (∀ n, SimR (checkIfUnnecessary fuel n) (checkIfUnnecessary fuel n)) ∧
    (∀ n, SimR (removeChildren fuel n) (removeChildren fuel n)) :=
  ⟨fun n => .of_comm (NodeSim.Comm.becameUnnecessary blindR obsWorkR fuel n),
    fun n => .of_comm (NodeSim.Comm.checkIfUnnecessary blindR obsWorkR fuel n),
    fun n => .of_comm (NodeSim.Comm.removeChildren blindR obsWorkR fuel n)⟩

theorem SimR.becameUnnecessary (fuel n : Nat) :
    SimR (Engine.becameUnnecessary fuel n) (Engine.becameUnnecessary fuel n) :=
  (SimR.unlink fuel).1 n

theorem SimR.checkIfUnnecessary (fuel n : Nat) :
    SimR (Engine.checkIfUnnecessary fuel n) (Engine.checkIfUnnecessary fuel n) :=
  (SimR.unlink fuel).2.1 n

theorem SimR.removeChildren (fuel n : Nat) :
    SimR (Engine.removeChildren fuel n) (Engine.removeChildren fuel n) :=
  (SimR.unlink fuel).2.2 n

/-- `Fr.pinv`: the stack is empty, a no-op on both sides -/
theorem SimR.propagateInvalidity (fuel : Nat) :
    SimR (Engine.propagateInvalidity fuel) (Engine.propagateInvalidity fuel) :=
  .of_comm (NodeSim.Comm.propagateInvalidity (fun _ h => h.fr.pinv) fuel)

theorem keepEv_cut (c n : Nat) (o v : Val) (r : Bool) : keepEv (.cut c n o v r) = true := rfl

theorem SimR.shouldCutoff (env : Env) (n : Nat) (o v : Val) :
    SimR (Engine.shouldCutoff env n o v) (Engine.shouldCutoff (virtEnv env) n o v) :=
  .of_comm (NodeSim.Comm.shouldCutoff blindR (fun _ _ => rfl) (fun _ _ _ _ _ _ => rfl) (virtEnv_cutoff env) n o v)

theorem SimR.parentIterCanRecomputeNow (p child : Nat) :
    SimR (Engine.parentIterCanRecomputeNow p child) (Engine.parentIterCanRecomputeNow p child) :=
  .of_comm (NodeSim.Comm.parentIterCanRecomputeNow blindR p child)

theorem SimR.maybeChangeValue (env : Env) (fuel n : Nat) (v : Val) :
    SimR (Engine.maybeChangeValue env fuel n v) (Engine.maybeChangeValue (virtEnv env) fuel n v) :=
  .of_comm (NodeSim.Comm.maybeChangeValue blindR noRefR expWorkR (fun _ _ _ => rfl) setsValuesR (fun _ _ => rfl) (fun _ _ _ _ _ _ => rfl) (virtEnv_cutoff env) fuel n v)

theorem SimR.addNewObservers (env : Env) (fuel : Nat) :
    SimR (Engine.addNewObservers env fuel) (Engine.addNewObservers (virtEnv env) fuel) :=
  .of_comm (NodeSim.Comm.addNewObservers blindR changesNecessityR addsParentsR refWorkR expWorkR (fun _ h => h.fr.pinv) fuel)

theorem SimR.unlinkDisallowedObservers (fuel : Nat) :
    SimR (Engine.unlinkDisallowedObservers fuel) (Engine.unlinkDisallowedObservers fuel) :=
  .of_comm (NodeSim.Comm.unlinkDisallowedObservers blindR changesNecessityR obsWorkR fuel)

theorem SimR.didSetVarWhileNotStabilising (v : Nat) :
    SimR (Engine.didSetVarWhileNotStabilising v) (Engine.didSetVarWhileNotStabilising v) :=
  .of_comm (NodeSim.Comm.didSetVarWhileNotStabilising blindR v)

theorem SimR.writeVar (v : Nat) (f : Val → Val) (isSet : Bool) :
    SimR (Engine.writeVar v f isSet) (Engine.writeVar v f isSet) :=
  .of_comm (NodeSim.Comm.writeVar blindR v f isSet)

end XR
end IncrVerif.Proofs.TidyH.XT
