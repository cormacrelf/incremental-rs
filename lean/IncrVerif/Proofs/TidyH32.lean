import IncrVerif.Proofs.TidyH31
/-!
# T4, part c: the linking cascade RETURNS (`QR.link_corr`), for the rank-ordered static invariant `QR.GInv`
-/
namespace IncrVerif.Proofs.TidyH.XT
open IncrVerif.Engine IncrVerif.Driver IncrVerif.Proofs IncrVerif.Proofs.Step IncrVerif.Proofs.Sched
open IncrVerif.Proofs.ExpertH IncrVerif.Proofs.ExpertH.QR

/-- **the linking cascade returns** (no assertion fails, the height limit is not hit, the fuel suffices), and the
height bound is kept -/
theorem becameNecessary_totalR {env : Env} {rk : Nat → Nat} {N fuel n : Nat} {s : State} {op : Nat → Op}
    (I : GInv env rk s op) (hb : HBd s op) (R : Room N s)
    (hop : op n = .linking 0) (hnq : (s.nodeD n).inRch = false) (hlow : ∀ m, op m ≠ .closed → rk n ≤ rk m)
    (hpar : ∀ p i, (p, i) ∈ (s.nodeD n).parents → op p ≠ .closed) (hf : 2 * dp s n + 2 ≤ fuel) :
    Tot (becameNecessary env fuel n) s (fun _ s' => HBd s' (upd op n .closed)) :=
  have ⟨u, s', h, J⟩ := ((QR.link_corr env (rk := rk) N fuel).1 n s op I hop hnq hlow hpar).tot ⟨hb, R, hf⟩
  ⟨u, s', h, J.2.2.2 hb⟩

/-- one child edge of the linking cascade returns -/
theorem addParent_totalR {env : Env} {rk : Nat → Nat} {N fuel c idx p : Nat} {s : State} {op : Nat → Op}
    (I : GInv env rk s op) (hb : HBd s op) (R : Room N s) (hop : op p = .linking idx)
    (hk : (kids (s.nodeD p).kind)[idx]? = some c) (hlow : ∀ m, op m ≠ .closed → rk c < rk m)
    (hf : 2 * dp s c + 3 ≤ fuel) :
    Tot (addParentWithoutAdjustingHeights env fuel c idx p) s
      (fun _ s' => HBd s' (upd op p (.linking (idx + 1)))) :=
  have ⟨u, s', h, J⟩ := ((QR.link_corr env (rk := rk) N fuel).2 c idx p s op I hop hk hlow).tot ⟨hb, R, hf⟩
  ⟨u, s', h, J.2.2.2.2 hb⟩

end IncrVerif.Proofs.TidyH.XT
