import IncrVerif.Proofs.PerKeyH15
import IncrVerif.Proofs.PerKeyH42
import IncrVerif.Proofs.PerKeyH49
import IncrVerif.Proofs.PerKeyH23
/-!
# A run of a per-key change detector, part 7a: the pure rewiring-with-creation step `StepP` from `V s` to the
unstamped `V s2` (as `DriverH.stepWOfMid` for drivers)
-/
namespace IncrVerif.Proofs.PerKeyH
open IncrVerif.Engine IncrVerif.Driver IncrVerif.Proofs IncrVerif.Proofs.Step IncrVerif.Proofs.Sched
open IncrVerif.Proofs.ExpertH IncrVerif.Proofs.EffH IncrVerif.Proofs.DriverH IncrVerif.Proofs.ExpertH.QR

/-- the rewired nodes of a run of the change detector of `op`: the result (when a key was added), the per-key input
nodes of the keys whose value changed -/
def LcX (s s2 : State) (op eres : Nat) (pr : PerKeyRec) (m : List (Int × Int)) (x : Nat) : Prop :=
  (x = pr.result ∧ ¬ ((∀ pr2, s2.perkeys[op]? = some pr2 → pr2.prevNodes = pr.prevNodes) ∧
    (∀ er er', s.experts[eres]? = some er → s2.experts[eres]? = some er' →
      er'.children = er.children ∧ er'.forceStale = er.forceStale))) ∨
  (∃ key d, (key, (x, d)) ∈ pr.prevNodes ∧ pr.prevMap.lookup key ≠ m.lookup key)

theorem eKey_started (n : Nat) (s : State) : eKey (started n s) = eKey s := rfl

theorem started_experts (n : Nat) (s : State) : (started n s).experts = s.experts := rfl

/-- the fields of an old node after the loop -/
theorem lf_old {D : Nat → Prop} {n : Nat} {s s2 : State} (lf : LF D (started n s) s2) {m : Nat}
    (hm : m < s.nodes.size) :
    (s2.nodeD m).kind = (s.nodeD m).kind ∧ (s2.nodeD m).createdIn = (s.nodeD m).createdIn ∧
    (s2.nodeD m).cutoff = (s.nodeD m).cutoff ∧ (s2.nodeD m).value = (s.nodeD m).value ∧
    (s2.nodeD m).valid = (s.nodeD m).valid ∧ (s2.nodeD m).changedAt = (s.nodeD m).changedAt ∧
    (s2.nodeD m).observers = (s.nodeD m).observers ∧
    (s2.nodeD m).forceNecessary = (s.nodeD m).forceNecessary ∧
    (s2.nodeD m).numOnUpdateHandlers = (s.nodeD m).numOnUpdateHandlers ∧
    (s2.nodeD m).recomputedAt = if m = n then s.stabNum else (s.nodeD m).recomputedAt := by
  have := lf.node m (by rw [started_size]; exact hm)
  simp only [nodeKey, Prod.mk.injEq] at this
  obtain ⟨h1, h2, h3, h4, h5, h6, h7, h8, h9, h10⟩ := this
  rw [started_nodeD] at h1 h2 h3 h4 h5 h6 h7 h8 h9 h10
  by_cases hmn : m = n
  · subst hmn
    simp only [true_and, hm, if_true] at h1 h2 h3 h4 h5 h6 h7 h8 h9 h10 ⊢
    exact ⟨h1, h2, h3, h4, h5, h7, h8, h9, h10, h6⟩
  · have hne : ¬ (n = m ∧ m < s.nodes.size) := fun h => hmn h.1.symm
    simp only [hne, if_false, hmn] at h1 h2 h3 h4 h5 h6 h7 h8 h9 h10 ⊢
    exact ⟨h1, h2, h3, h4, h5, h7, h8, h9, h10, h6⟩

theorem lf_key {D : Nat → Prop} {n : Nat} {s s2 : State} (lf : LF D (started n s) s2) :
    s2.vars = s.vars ∧ s2.binds = s.binds ∧ s2.stabNum = s.stabNum ∧ s2.top = s.top ∧
      s2.propagateInvalidity = s.propagateInvalidity ∧ s2.panicCountdown = s.panicCountdown :=
  eKey_fields (lf.key.trans (eKey_started n s))

theorem lf_grow {D : Nat → Prop} {n : Nat} {s s2 : State} (lf : LF D (started n s) s2) :
    s.nodes.size ≤ s2.nodes.size := by
  have := lf.grow; rw [started_size] at this; exact this

theorem lf_new {D : Nat → Prop} {n : Nat} {s s2 : State} (lf : LF D (started n s) s2) {m : Nat}
    (h1 : s.nodes.size ≤ m) (h2 : m < s2.nodes.size) : NewNode (s2.nodeD m) :=
  lf.new m (by rw [started_size]; exact h1) h2


/-! ## the static facts about the running operator -/

section
variable {env : Env} {s s2 : State} {n op eres : Nat} {pr : PerKeyRec} {m : List (Int × Int)}

theorem LcBase.opok (B : LcBase env s n op pr eres) : OpOK env s op pr := B.pd.aux.pk.ops op pr B.hop

/-- the nodes and the result record of the running operator -/
theorem LcBase.facts (B : LcBase env s n op pr eres) :
    ∃ x er, OpNodes s op pr x eres ∧ s.experts[eres]? = some er ∧ er.pk = some (op, none) ∧ er.node = pr.result ∧
      (∃ d0 rest, er.children = { dep := d0, child := n, cb := none } :: rest) ∧
      (∀ key p d, (key, (p, d)) ∈ pr.prevNodes → EntryOK env s op pr er key p d) ∧
      n = pr.result + 1 ∧ n < s.nodes.size ∧ (s.nodeD n).kind = .map (fnPerKey + op) [pr.result - 1] := by
  obtain ⟨x, e, er, hN, he, hpk, ⟨d0, rest, hch, -, -⟩, hent, -⟩ := B.opok.nodes
  have hee : e = eres := by
    have := hN.result
    rw [B.hres] at this
    injection this with this
    exact this.symm
  subst hee
  have hlc : n = pr.result + 1 := by rw [← B.hn]; exact hN.lc
  have hnode : er.node = pr.result := by
    obtain ⟨er', he', hn'⟩ := B.pd.aux.frag.xrec pr.result e (by have := hN.lt; omega) B.hres
    rw [he] at he'; cases he'; exact hn'
  refine ⟨x, er, hN, he, hpk, hnode, ⟨d0, rest, by rw [← B.hn]; exact hch⟩, hent, hlc, ?_, ?_⟩
  · have := hN.lt; omega
  · rw [hlc]; exact hN.lcKind

theorem LcBase.n_not_expert (B : LcBase env s n op pr eres) (e : Nat) : (s.nodeD n).kind ≠ .expert e := by
  obtain ⟨-, -, -, -, -, -, -, -, -, -, hk⟩ := B.facts
  rw [hk]; intro h; cases h

/-- an entry of the running operator: its node, its record -/
theorem LcBase.entry (B : LcBase env s n op pr eres) {key : Int} {p d : Nat} (h : (key, (p, d)) ∈ pr.prevNodes) :
    p < s.nodes.size ∧ p ≠ n ∧ p ≠ pr.result ∧ ∃ ep erp d0, (s.nodeD p).kind = .expert ep ∧
      s.experts[ep]? = some erp ∧ erp.pk = some (op, some key) ∧ erp.node = p ∧ ep ≠ eres ∧
      erp.children = [{ dep := d0, child := n, cb := none }] := by
  obtain ⟨x, er, hN, he, hpk, hnode, -, hent, hlc, hnlt, hnk⟩ := B.facts
  have E := hent key p d h
  obtain ⟨ep, erp, d0, h1, h2, h3, h4⟩ := E.pnode
  have hne : ep ≠ eres := by
    rintro rfl
    rw [he] at h2; cases h2
    rw [hpk] at h3; cases h3
  obtain ⟨erp', h2', hn'⟩ := B.pd.aux.frag.xrec p ep E.plt h1
  rw [h2] at h2'; cases h2'
  refine ⟨E.plt, ?_, ?_, ep, erp, d0, h1, h2, h3, hn', hne, by rw [← B.hn]; exact h4⟩
  · rintro rfl
    rw [hnk] at h1; cases h1
  · rintro rfl
    rw [B.hres] at h1
    injection h1 with h1
    exact hne h1.symm


/-! ## records and virtual kinds of the nodes that are not rewired -/

theorem pkRec_of {s : State} {op : Nat} {pr : PerKeyRec} (h : s.perkeys[op]? = some pr) : pkRec s op = pr := by
  simp only [pkRec, h, Option.getD_some]

theorem LE.pkRec_other (E : LE env s n op pr eres m s2) {op' : Nat} (h : op' ≠ op) : pkRec s2 op' = pkRec s op' := by
  simp only [pkRec, E.pother op' h]

/-- the record of an old expert node that is not rewired -/
theorem lc_rec_same (B : LcBase env s n op pr eres) (E : LE env s n op pr eres m s2) {x e : Nat}
    (hx : x < s.nodes.size) (hX : ¬ LcX s s2 op eres pr m x) (hk : (s.nodeD x).kind = .expert e) :
    ∃ er er2, s.experts[e]? = some er ∧ s2.experts[e]? = some er2 ∧ er2.pk = er.pk ∧ er2.f = er.f ∧
      er2.children = er.children ∧ er2.forceStale = er.forceStale ∧ er.node = x := by
  have F := B.pd.aux.frag
  obtain ⟨er, he, hnode⟩ := F.xrec x e hx hk
  obtain ⟨er2, he2, a1, -, a3, -, -, -, -, a8, -, -⟩ := E.lf.xrec e er he
  by_cases hee : e = eres
  · subst hee
    have hxr : x = pr.result := F.xinj hk B.hres
    have hc : (∀ pr2, s2.perkeys[op]? = some pr2 → pr2.prevNodes = pr.prevNodes) ∧
        (∀ er er', s.experts[e]? = some er → s2.experts[e]? = some er' →
          er'.children = er.children ∧ er'.forceStale = er.forceStale) :=
      Classical.not_not.1 fun hc => hX (Or.inl ⟨hxr, hc⟩)
    obtain ⟨c1, c2⟩ := hc.2 er er2 he he2
    exact ⟨er, er2, he, he2, a3, a1, c1, c2, hnode⟩
  · refine ⟨er, er2, he, he2, a3, a1, a8 hee, ?_, hnode⟩
    rcases E.fsame e er er2 hee he he2 with h | ⟨key, d, h1, h2⟩
    · exact h
    · exact absurd (Or.inr ⟨key, d, by rw [← hnode]; exact h1, h2⟩) hX

/-- the virtual kind and the virtual stamp rule of an old node that is not rewired are unchanged -/
theorem lc_vkind_same (B : LcBase env s n op pr eres) (E : LE env s n op pr eres m s2) {x : Nat}
    (hx : x < s.nodes.size) (hX : ¬ LcX s s2 op eres pr m x) :
    vKind s2 (s.nodeD x).kind = vKind s (s.nodeD x).kind ∧
      forced s2.experts (s.nodeD x).kind = forced s.experts (s.nodeD x).kind := by
  cases hk : (s.nodeD x).kind <;> try (exact ⟨rfl, rfl⟩)
  rename_i e
  obtain ⟨er, er2, he, he2, hpk, hf, hch, hfs, hnode⟩ := lc_rec_same B E hx hX hk
  refine ⟨?_, by simp only [forced, xRec_some he, xRec_some he2, hfs]⟩
  obtain ⟨op', pr', hp', hcase⟩ := B.pd.aux.pk.recs e er he
  obtain ⟨pn, hpop⟩ := E.pop
  rcases hcase with ⟨h1, h2⟩ | ⟨key, d, h1, h2⟩
  · -- a result record
    have k1 : (xRec s.experts e).pk = some (op', none) := by rw [xRec_some he]; exact h1
    have k2 : (xRec s2.experts e).pk = some (op', none) := by rw [xRec_some he2, hpk]; exact h1
    rw [vKind_expert_res s k1, vKind_expert_res s2 k2, xRec_some he, xRec_some he2, hch]
    by_cases hop : op' = op
    · subst hop
      rw [B.hop] at hp'; cases hp'
      have hxr : x = pr.result := hnode.symm.trans h2
      have hc : (∀ pr2, s2.perkeys[op']? = some pr2 → pr2.prevNodes = pr.prevNodes) ∧
          (∀ er er', s.experts[eres]? = some er → s2.experts[eres]? = some er' →
            er'.children = er.children ∧ er'.forceStale = er.forceStale) :=
        Classical.not_not.1 fun hc => hX (Or.inl ⟨hxr, hc⟩)
      rw [pkRec_of hpop, pkRec_of B.hop, hc.1 _ hpop]
    · rw [E.pkRec_other hop]
  · -- an entry
    have k1 : (xRec s.experts e).pk = some (op', some key) := by rw [xRec_some he]; exact h1
    have k2 : (xRec s2.experts e).pk = some (op', some key) := by rw [xRec_some he2, hpk]; exact h1
    rw [vKind_expert_key s k1, vKind_expert_key s2 k2, xRec_some he, xRec_some he2, hch]
    by_cases hop : op' = op
    · subst hop
      rw [B.hop] at hp'; cases hp'
      have hl : pr.prevMap.lookup key = m.lookup key :=
        Classical.not_not.1 fun hne => hX (Or.inr ⟨key, d, by rw [← hnode]; exact h2, hne⟩)
      rw [pkRec_of hpop, pkRec_of B.hop, hl]
    · rw [E.pkRec_other hop]

/-- the children of an old node that is not rewired are unchanged -/
theorem lc_children_same (B : LcBase env s n op pr eres) (E : LE env s n op pr eres m s2) {x : Nat}
    (hx : x < s.nodes.size) (hX : ¬ LcX s s2 op eres pr m x) : s2.children x = s.children x := by
  obtain ⟨k1, -, -, -, k5, -⟩ := lf_old E.lf hx
  unfold State.children Node.kind?
  rw [k1, k5, (lf_key E.lf).2.1, B.pd.aux.frag.valid x hx]
  cases hk : (s.nodeD x).kind <;> try rfl
  rename_i e
  obtain ⟨er, er2, he, he2, -, -, hch, -, -⟩ := lc_rec_same B E hx hX hk
  simp only [if_true, he, he2, hch]


/-! ## stamps and variables of `V s2` -/

/-- a raised `forceStale` flag stays up -/
theorem lf_forced_mono {D : Nat → Prop} (lf : LF D (started n s) s2) (k : Kind) (h : forced s.experts k = true) :
    forced s2.experts k = true := by
  cases k <;> simp only [forced] at h ⊢ <;> try (exact h)
  rename_i e
  cases he : s.experts[e]? with
  | none => rw [xRec_forceStale_none he] at h; cases h
  | some er =>
    rw [xRec_some he] at h
    obtain ⟨er', he', -, -, -, -, -, -, a7, -⟩ := lf.xrec e er he
    rw [xRec_some he']
    exact a7 h

theorem V_default_ge (s : State) (x : Nat) (h : s.nodes.size ≤ x) : (V s).nodeD x = default := by
  rw [V_nodeD, nodeD_default_of_ge s x h]; rfl

/-- no stamp of `V s2` is in the future -/
theorem lc_stamps {D : Nat → Prop} (lf : LF D (started n s) s2) (T : Stamps (V s)) : Stamps (V s2) := by
  obtain ⟨-, -, hst, -⟩ := lf_key lf
  have h0 : 0 ≤ s.stabNum := T.now
  refine ⟨by rw [V_stabNum, hst]; exact h0, fun x => ?_, fun c vc h => ?_⟩
  · rw [V_stabNum, hst]
    by_cases hx : x < s.nodes.size
    · obtain ⟨k1, -, -, -, -, k6, -, -, -, k10⟩ := lf_old lf hx
      have hT := T.node x
      rw [V_nodeD, vNode_recomputedAt, vNode_changedAt, V_stabNum] at hT
      rw [V_nodeD, vNode_recomputedAt, vNode_changedAt, k6, k1]
      refine ⟨?_, hT.2⟩
      cases hf2 : forced s2.experts (s.nodeD x).kind with
      | true => simp only [if_true]; omega
      | false =>
        have hf : forced s.experts (s.nodeD x).kind = false := by
          cases hf : forced s.experts (s.nodeD x).kind with
          | false => rfl
          | true => rw [lf_forced_mono lf _ hf] at hf2; cases hf2
        rw [hf] at hT
        simp only [Bool.false_eq_true, if_false] at hT ⊢
        rw [k10]
        split
        · exact Int.le_refl _
        · exact hT.1
    · by_cases hx2 : x < s2.nodes.size
      · have N := lf_new lf (Nat.le_of_not_lt hx) hx2
        rw [V_nodeD, vNode_recomputedAt, vNode_changedAt, N.recomputedAt, N.changedAt]
        refine ⟨?_, by omega⟩
        split <;> omega
      · rw [V_default_ge s2 x (Nat.le_of_not_lt hx2)]
        exact ⟨by show (-1 : Int) ≤ _; omega, by show (-1 : Int) ≤ _; omega⟩
  · rw [V_vars, (lf_key lf).1] at h
    rw [V_stabNum, hst]
    exact T.var c vc h

/-- var nodes and var cells still name each other -/
theorem lc_varsOK {D : Nat → Prop} (lf : LF D (started n s) s2) (W : VarsOK (V s)) : VarsOK (V s2) := by
  obtain ⟨hv, -⟩ := lf_key lf
  constructor
  · intro x c hx hk
    rw [V_size] at hx
    rw [V_kind, vKind_eq_var] at hk
    by_cases hxs : x < s.nodes.size
    · rw [(lf_old lf hxs).1] at hk
      obtain ⟨vc, h1, h2⟩ := W.node x c (by rw [V_size]; exact hxs) (by rw [V_kind, vKind_eq_var]; exact hk)
      exact ⟨vc, by rw [V_vars, hv]; exact h1, h2⟩
    · exact absurd hk ((lf_new lf (Nat.le_of_not_lt hxs) hx).notVar c)
  · intro c vc h
    rw [V_vars, hv] at h
    obtain ⟨h1, h2⟩ := W.cell c vc h
    rw [V_size] at h1
    rw [V_kind, vKind_eq_var] at h2
    refine ⟨by rw [V_size]; exact Nat.lt_of_lt_of_le h1 (lf_grow lf), ?_⟩
    rw [V_kind, vKind_eq_var, (lf_old lf h1).1]
    exact h2


/-! ## the step -/

theorem isStale_of_forced (F : PFrag env s) {x : Nat} (hx : x < s.nodes.size)
    (h : forced s.experts (s.nodeD x).kind = true) : s.isStale x = true := by
  cases hk : (s.nodeD x).kind <;> rw [hk] at h <;> try (cases h)
  rename_i e
  obtain ⟨er, he, -⟩ := F.xrec x e hx hk
  simp only [forced, xRec_some he] at h
  exact isStale_of_forceStale hk (F.valid x hx) he h

/-- an expert node whose virtual stamp is `-1` (flagged stale, or never computed) is stale -/
theorem isStale_of_vstamp (F : PFrag env s) {x e : Nat} (hx : x < s.nodes.size) (hk : (s.nodeD x).kind = .expert e)
    (h : ((V s).nodeD x).recomputedAt = -1) : s.isStale x = true := by
  rcases (V_stamp_iff s x).1 h with h | h
  · exact isStale_of_forced F hx h
  · unfold State.isStale Node.kind?
    simp only [F.valid x hx, if_true, hk, h]
    simp

/-- **part A**: the rewiring-with-creation step of the virtual states -/
theorem lc_stepP (B : LcBase env s n op pr eres) (E : LE env s n op pr eres m s2) :
    StepP (penv env) (LcX s s2 op eres pr m) n (V s) (unstamp n (s.nodeD n).recomputedAt (V s2)) ∧
      NewStale (V s) (unstamp n (s.nodeD n).recomputedAt (V s2)) := by
  have I := B.pd.inv
  have A := B.pd.aux
  have F := A.frag
  have F2 := E.frag
  obtain ⟨x0, er0, hN, he0, hpk0, hnode0, ⟨d0, rest, hch0⟩, hent, hlc, hnlt, hnk⟩ := B.facts
  have hne := B.n_not_expert
  obtain ⟨hvars, hbinds, hstab, -, -, -⟩ := lf_key E.lf
  have hgrow := lf_grow E.lf
  obtain ⟨rk2, st2W⟩ := E.mid.st
  have st2 : Struct (penv env) rk2 (V s2) := struct_V F2 st2W
  have T2 : Stamps (V s2) := lc_stamps E.lf I.stamps
  have V2 : VarsOK (V s2) := lc_varsOK E.lf A.vars
  have hkn2 : (s2.nodeD n).kind = (s.nodeD n).kind := (lf_old E.lf hnlt).1
  have hne2 : ∀ e, (s2.nodeD n).kind ≠ .expert e := fun e => by rw [hkn2]; exact hne e
  have hnlt2 : n < (V s2).nodes.size := by rw [V_size]; omega
  have hstampV : ((V s2).nodeD n).recomputedAt = (V s2).stabNum := by
    rw [V_recomputedAt_of_not_expert s2 n hne2, (lf_old E.lf hnlt).2.2.2.2.2.2.2.2.2, if_pos rfl, V_stabNum, hstab]
  have hnst : (V s2).isStale n = false := by
    rw [GInv.isStale st2 hnlt2]; exact staleOf_stamped T2 hstampV
  have hnq : ((V s2).nodeD n).inRch = false := by
    cases hq : ((V s2).nodeD n).inRch with
    | false => rfl
    | true => rw [((Struct.queued_iff st2 n).1 hq).2] at hnst; cases hnst
  have hnec2 : s2.isNecessary n = true :=
    E.lf.nec n (by rw [started_isNecessary, ← V_isNecessary]; exact (I.cur n rfl).1)
  have hR := sameR_unstamp n (s.nodeD n).recomputedAt (V s2)
  have hstale : ∀ x, x ≠ n → (unstamp n (s.nodeD n).recomputedAt (V s2)).isStale x = (V s2).isStale x :=
    fun x hx => hR.isStale (by rw [unstamp_other n _ _ hx])
  have h0 : 0 ≤ s.stabNum := I.stamps.now
  -- a rewired node
  have hrew : ∀ x, LcX s s2 op eres pr m x → x ≠ n ∧ x < s.nodes.size ∧ n ∈ s.children x ∧
      (∃ e, (s2.nodeD x).kind = .expert e) ∧ ((V s2).nodeD x).recomputedAt = -1 := by
    rintro x (⟨rfl, hnc⟩ | ⟨key, d, hm, hl⟩)
    · have hlt : pr.result < s.nodes.size := by have := hN.lt; omega
      refine ⟨by omega, hlt, ?_, ⟨eres, by rw [(lf_old E.lf hlt).1]; exact B.hres⟩,
        (V_stamp_iff s2 _).2 (Or.inl (E.resAlt.resolve_left hnc))⟩
      rw [children_expert (F.valid _ hlt) B.hres he0, hch0]
      simp
    · obtain ⟨hplt, hpn, -, ep, erp, dd, h1, h2, -, -, -, h6⟩ := B.entry hm
      refine ⟨hpn, hplt, ?_, ⟨ep, by rw [(lf_old E.lf hplt).1]; exact h1⟩, E.forcedU key x d hm hl⟩
      rw [children_expert (F.valid _ hplt) h1 h2, h6]
      simp
  have W : StepP (penv env) (LcX s s2 op eres pr m) n (V s) (unstamp n (s.nodeD n).recomputedAt (V s2)) := {
    grow := by rw [hR.size, V_size, V_size]; exact hgrow
    vars := by rw [hR.vars]; exact hvars
    binds := by rw [hR.binds]; exact hbinds
    stabNum := by rw [hR.stabNum]; exact hstab
    graph' := bgraph_congrR (bgraph_V F2 st2W V2) hR
    heap' := heapInv_congrR (heapInv_V F2 st2W) hR
    stamps' := by
      refine ⟨by rw [hR.stabNum]; exact T2.now, fun x => ?_, fun c vc h => ?_⟩
      · rw [hR.stabNum, hR.changedAt]
        refine ⟨?_, (T2.node x).2⟩
        by_cases hx : x = n
        · subst hx
          rw [unstamp_self _ _ _ hnlt2, V_stabNum, hstab]
          have := (I.stamps.node x).1
          rw [V_recomputedAt_of_not_expert s x hne, V_stabNum] at this
          exact this
        · rw [unstamp_other _ _ _ hx]; exact (T2.node x).1
      · rw [hR.vars] at h; rw [hR.stabNum]; exact T2.var c vc h
    qstale' := by
      intro x hq
      rw [hR.inRch] at hq
      have hx : x ≠ n := by
        intro e; subst e; rw [hnq] at hq; cases hq
      rw [hstale x hx]
      exact ((Struct.queued_iff st2 x).1 hq).2
    pending' := by
      intro x h1 h2
      by_cases hx : x = n
      · exact Or.inr hx
      · rw [hR.nec] at h1
        rw [hstale x hx] at h2
        rw [hR.inRch]
        exact Or.inl ((Struct.queued_iff st2 x).2 ⟨h1, h2⟩)
    notX := fun hX => (hrew n hX).1 rfl
    selfNec := by rw [hR.nec, V_isNecessary]; exact hnec2
    selfQ := by rw [hR.inRch]; exact hnq
    xOld := fun x hX => by rw [V_size]; exact (hrew x hX).2.1
    old := by
      intro x hx
      rw [V_size] at hx
      rw [hR.valid, hR.createdIn, hR.value, hR.changedAt, hR.kind, hR.children]
      obtain ⟨k1, k2, -, k4, k5, k6, -, -, -, k10⟩ := lf_old E.lf hx
      simp only [V_nodeD, vNode_valid, vNode_createdIn, vNode_value, vNode_changedAt, vNode_kind, V_children]
      refine ⟨k5, k2, k4, k6, fun hX => ?_⟩
      obtain ⟨hk, hf⟩ := lc_vkind_same B E hx hX
      refine ⟨by rw [k1]; exact hk, ?_, lc_children_same B E hx hX⟩
      by_cases hxn : x = n
      · subst hxn
        rw [unstamp_self _ _ _ hnlt2, vNode_recomputedAt_of_not_expert _ _ hne]
      · rw [unstamp_other _ _ _ hxn, V_nodeD, vNode_recomputedAt, vNode_recomputedAt, k1, hf, k10, if_neg hxn]
    rewired := by
      intro x hx
      obtain ⟨hxn, hxlt, hch, ⟨ex, hkx⟩, hf⟩ := hrew x hx
      refine ⟨by rw [V_children]; exact hch, ?_, ?_⟩
      · rw [hstale x hxn, V_isStale]
        exact isStale_of_vstamp F2 (Nat.lt_of_lt_of_le hxlt hgrow) hkx hf
      · rw [unstamp_other _ _ _ hxn, hf, V_stabNum]
        omega
    new := by
      intro x h1 h2
      rw [V_size] at h1
      rw [hR.size, V_size] at h2
      have hxn : x ≠ n := by omega
      have N := lf_new E.lf h1 h2
      rw [unstamp_other _ _ _ hxn, V_nodeD, vNode_recomputedAt, N.recomputedAt]
      split <;> rfl }
  refine ⟨W, newStale_of_noNewVar W fun x c h1 h2 _ => ?_⟩
  rw [V_size] at h1
  rw [hR.size, V_size] at h2
  rw [hR.kind, V_kind]
  intro hk
  exact (lf_new E.lf h1 h2).notVar c ((vKind_eq_var s2 _ c).1 hk)

/-- the drain invariant of the state in which the static step of the change detector starts -/
theorem lc_inv' (B : LcBase env s n op pr eres) (E : LE env s n op pr eres m s2) :
    BindH.DInv (penv env) (unstamp n (s.nodeD n).recomputedAt (V s2)) (some n) :=
  stepP_inv' B.pd.inv (lc_stepP B E).1 (lc_stepP B E).2

end

end IncrVerif.Proofs.PerKeyH
