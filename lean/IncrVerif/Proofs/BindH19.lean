import IncrVerif.Proofs.Quiet8
import IncrVerif.Proofs.BindH4
/-!
# Binds, part 2a: the structural invariant with open nodes, for graphs with bind nodes (fragment F0)

The definitions of `Proofs/Quiet1.lean` (`AllStatic`, `GInv`, `Struct`) for graphs that contain the two bind kinds.

FRAGMENT F0 (`AllB env s`): every node is valid, of a kind of the bind fragment (`BKind`: `const`, `var`, pure `map`,
`fold`, `bindLhsChange`, `bindMain`), has cutoff `.eq` or `.never`, was created at top level, and its CURRENT children
(`State.children`: for a `bindLhsChange b` the bind's lhs, for a `bindMain b lc` the node `lc` and the bind's current
right-hand side) were created before it.  So: closures only RETURN nodes (they create none), and only nodes that are
older than the bind.  Bind kinds name their records; only a bind's main node has the bind's change detector as a child.

`GInvB env s op ex` is `Quiet.GInv` with `State.children` for `kids (kind)`, `State.isStale` for `staleOf`,
without the requirement `forceNecessary = false` (the old right-hand side of a bind is forced necessary while the new
one is linked), and with a set `ex` of EXCUSED nodes that may be closed, necessary and stale without being queued
(during a drain: the node that is running; inside the run of a change detector: the bind's main node).  `StructB := GInvB … allClosed`.  Reused from `Quiet`: `Op`, `Wants`, `upd`, `HeapG`, `NodeG`, `SameG`.
-/
namespace IncrVerif.Proofs.BindH
open IncrVerif.Engine IncrVerif.Proofs IncrVerif.Proofs.Step IncrVerif.Proofs.Sched IncrVerif.Proofs.Quiet

/-! ## the fragment -/

structure BNode (env : Env) (s : State) (n : Nat) : Prop where
  valid : (s.nodeD n).valid = true
  kind : BKind env (s.nodeD n).kind
  cutoff : (s.nodeD n).cutoff = .eq ∨ (s.nodeD n).cutoff = .never
  top : (s.nodeD n).createdIn = .top
  kidsLt : ∀ c, c ∈ s.children n → c < n
  lcRec : ∀ b, (s.nodeD n).kind = .bindLhsChange b → ∃ br, s.binds[b]? = some br ∧ br.lhsChange = n
  mainRec : ∀ b lc, (s.nodeD n).kind = .bindMain b lc →
    ∃ br, s.binds[b]? = some br ∧ br.main = n ∧ br.lhsChange = lc
  lcChild : ∀ c b, c ∈ s.children n → (s.nodeD c).kind = .bindLhsChange b → (s.nodeD n).kind = .bindMain b c

structure AllB (env : Env) (s : State) : Prop where
  pc : s.panicCountdown = none
  scope : s.currentScope = .top
  node : ∀ n, n < s.nodes.size → BNode env s n

/-! ## the structural invariant with open nodes -/

structure GInvB (env : Env) (s : State) (op : Nat → Op) (ex : Nat → Prop) : Prop where
  frag : AllB env s
  /-- recorded parent entries are real child edges that should be recorded -/
  par : ∀ c p i, (p, i) ∈ (s.nodeD c).parents → (s.children p)[i]? = some c ∧ Wants s op p i
  /-- child edges that should be recorded are -/
  conv : ∀ p i c, (s.children p)[i]? = some c → Wants s op p i → (p, i) ∈ (s.nodeD c).parents
  nodup : ∀ c, (s.nodeD c).parents.Nodup
  /-- children of closed nodes are strictly lower -/
  hlt : ∀ c p i, (p, i) ∈ (s.nodeD c).parents → op p = .closed → (s.nodeD c).height < (s.nodeD p).height
  hpos : ∀ n, s.isNecessary n = true → op n = .closed → 0 ≤ (s.nodeD n).height
  lnec : ∀ p k, op p = .linking k → s.isNecessary p = true
  unec : ∀ p k, op p = .unlinking k → s.isNecessary p = false
  heap : HeapG s
  hgt : ∀ m, (s.nodeD m).inRch = true → op m = .closed → (s.nodeD m).heightInRch = (s.nodeD m).height
  qnec : ∀ m, (s.nodeD m).inRch = true → s.isNecessary m = true ∨ ∃ k, op m = .unlinking k
  /-- closed necessary stale nodes are queued, except the excused ones -/
  queued : ∀ m, op m = .closed → s.isNecessary m = true → s.isStale m = true → ¬ ex m →
    (s.nodeD m).inRch = true
  /-- only stale nodes are queued -/
  qstale : ∀ m, (s.nodeD m).inRch = true → s.isStale m = true
  opLt : ∀ m, op m ≠ .closed → m < s.nodes.size

/-- nobody is excused -/
def noEx : Nat → Prop := fun _ => False

/-- the structural invariant at rest -/
def StructB (env : Env) (s : State) : Prop := GInvB env s allClosed noEx

/-! ## basic facts -/

theorem getElem?_mem {l : List Nat} {i c : Nat} (h : l[i]? = some c) : c ∈ l := List.mem_of_getElem? h

namespace GInvB
variable {env : Env} {s : State} {op : Nat → Op} {ex : Nat → Prop}

theorem node (I : GInvB env s op ex) {n : Nat} (h : n < s.nodes.size) : BNode env s n := I.frag.node n h

theorem kid_lt (I : GInvB env s op ex) {p i c : Nat} (h : (s.children p)[i]? = some c) : c < p := by
  by_cases hp : p < s.nodes.size
  · exact (I.node hp).kidsLt c (getElem?_mem h)
  · rw [children_default s p (by omega)] at h; simp at h

theorem kid_lt_size (_I : GInvB env s op ex) {p i c : Nat} (h : (s.children p)[i]? = some c) :
    p < s.nodes.size := by
  by_cases hp : p < s.nodes.size
  · exact hp
  · rw [children_default s p (by omega)] at h; simp at h

theorem par_lt (I : GInvB env s op ex) {c p i : Nat} (h : (p, i) ∈ (s.nodeD c).parents) : c < p :=
  I.kid_lt (I.par c p i h).1

theorem par_lt_size (I : GInvB env s op ex) {c p i : Nat} (h : (p, i) ∈ (s.nodeD c).parents) :
    p < s.nodes.size := I.kid_lt_size (I.par c p i h).1

end GInvB

/-! ## `StructB` gives the structural part of the drain invariant -/

theorem StructB.heapInv {env : Env} {s : State} (I : StructB env s) : HeapInv s where
  wf := I.heap.wf
  hgt m hm := I.hgt m hm rfl
  lb m hm := by rw [← I.hgt m hm rfl]; exact I.heap.lb m hm
  lb0 := I.heap.lb0
  nec m hm := by
    rcases I.qnec m hm with h | ⟨k, h⟩
    · exact h
    · cases h

theorem StructB.graph {env : Env} {s : State} (I : StructB env s) (V : VarsOK s) : BGraph env s where
  pc := I.frag.pc
  node n hn _ := by
    have sn := I.node hn
    refine ⟨sn.kind, sn.cutoff, fun c hc => ?_⟩
    have hlt : c < s.nodes.size := by have := sn.kidsLt c hc; omega
    exact ⟨hlt, (I.node hlt).valid⟩
  nec n hn := ⟨(I.node (nec_lt_size hn)).valid, I.hpos n hn rfl⟩
  var n c hn _ hk := by
    obtain ⟨vc, h, -⟩ := V.node n c hn hk
    exact ⟨vc, h⟩
  child n hn i c hk := by
    have hm := I.conv n i c hk ((wants_closed rfl).2 hn)
    exact ⟨nec_of_mem_parents hm, hm, I.hlt c n i hm rfl⟩
  parent c p i h := by
    obtain ⟨h1, h2⟩ := I.par c p i h
    exact ⟨(wants_closed rfl).1 h2, h1⟩
  scope n b hn _ hsc := by
    have := (I.node hn).top
    rw [hsc] at this; cases this
  lcRec n b hn _ hk := (I.node hn).lcRec b hk
  mainRec n b lc hn _ hk := by
    obtain ⟨br, h1, h2, h3⟩ := (I.node hn).mainRec b lc hk
    refine ⟨br, h1, h2, h3, ?_⟩
    rw [(I.node hn).top]
    by_cases hl : lc < s.nodes.size
    · exact (I.node hl).top
    · rw [nodeD_default s lc (by omega)]; rfl
  lcChild m c b hm _ hc hk := (I.node hm).lcChild c b hc hk
  acyc := by
    refine ⟨id, ?_⟩
    intro a c h
    cases h with
    | child hc =>
      by_cases ha : a < s.nodes.size
      · exact (I.node ha).kidsLt c hc
      · rw [children_default s a (by omega)] at hc; cases hc
    | scope hv hsc hb =>
      rename_i b br
      by_cases ha : a < s.nodes.size
      · have := (I.node ha).top
        rw [hsc] at this; cases this
      · rw [nodeD_default s a (by omega)] at hsc; cases hsc

/-- at rest the heap holds exactly the necessary stale nodes -/
theorem StructB.queued_iff {env : Env} {s : State} (I : StructB env s) (m : Nat) :
    (s.nodeD m).inRch = true ↔ (s.isNecessary m = true ∧ s.isStale m = true) := by
  constructor
  · intro h
    exact ⟨I.heapInv.nec m h, I.qstale m h⟩
  · rintro ⟨hn, hs⟩
    exact I.queued m rfl hn hs (fun h => h)

/-! ## frames -/

/-- `SameG` plus the bind table -/
structure SameB (s s' : State) : Prop where
  g : SameG s s'
  binds : s'.binds = s.binds

theorem SameB.refl (s : State) : SameB s s := ⟨SameG.refl s, rfl⟩

theorem SameB.trans {a b c : State} (h1 : SameB a b) (h2 : SameB b c) : SameB a c :=
  ⟨h1.g.trans h2.g, h2.binds.trans h1.binds⟩

/-- the child list only depends on kind, validity and the record tables -/
theorem children_congr {s s' : State} {n : Nat} (hk : (s'.nodeD n).kind = (s.nodeD n).kind)
    (hv : (s'.nodeD n).valid = (s.nodeD n).valid) (hb : s'.binds = s.binds) (he : s'.experts = s.experts) :
    s'.children n = s.children n := by
  unfold State.children Node.kind?
  rw [hk, hv, hb, he]

/-- the child list of a node of the bind fragment does not read the expert table -/
theorem children_congr_B {env : Env} {s s' : State} {n : Nat} (hk : (s'.nodeD n).kind = (s.nodeD n).kind)
    (hv : (s'.nodeD n).valid = (s.nodeD n).valid) (hb : s'.binds = s.binds)
    (hB : BKind env (s.nodeD n).kind) : s'.children n = s.children n := by
  unfold State.children Node.kind?
  rw [hk, hv, hb]
  cases hvv : (s.nodeD n).valid
  · rfl
  · cases h : (s.nodeD n).kind <;> rw [h] at hB <;> first | rfl | exact False.elim hB

/-- staleness of a node of the bind fragment: what it reads -/
theorem isStale_congr_B {env : Env} {s s' : State} {m : Nat} (hB : BKind env (s.nodeD m).kind)
    (hk : (s'.nodeD m).kind = (s.nodeD m).kind) (hv : (s'.nodeD m).valid = (s.nodeD m).valid)
    (hr : (s'.nodeD m).recomputedAt = (s.nodeD m).recomputedAt) (hvars : s'.vars = s.vars)
    (hb : s'.binds = s.binds)
    (hc : ∀ c, c ∈ s.children m → (s'.nodeD c).changedAt = (s.nodeD c).changedAt) :
    s'.isStale m = s.isStale m := by
  have hch := children_congr_B hk hv hb hB
  unfold State.isStale
  simp only [hch, Node.kind?, hk, hv, hr, hvars]
  have hany : ((s.children m).any fun c => decide ((s'.nodeD c).changedAt > (s.nodeD m).recomputedAt)) =
      ((s.children m).any fun c => decide ((s.nodeD c).changedAt > (s.nodeD m).recomputedAt)) := by
    apply any_congr'
    intro a ha
    rw [hc a ha]
  rw [hany]
  cases hvv : (s.nodeD m).valid
  · rfl
  · cases h : (s.nodeD m).kind <;> rw [h] at hB <;> first | rfl | exact False.elim hB

end IncrVerif.Proofs.BindH
