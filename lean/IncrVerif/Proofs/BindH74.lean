import IncrVerif.Proofs.BindH73
/-!
# Binds, the run of a change detector in fragment F1, part 2: phases 1–3 through the three contracts

`P1` (after the closure run), `P2` (after `lhsRelink`), `P3` (after `lhsInvalidateOld`), each obtained from the previous one
and the contract of the phase.
-/
namespace IncrVerif.Proofs.BindH
open IncrVerif.Engine IncrVerif.Proofs IncrVerif.Proofs.Step IncrVerif.Proofs.Sched IncrVerif.Proofs.Quiet
namespace CC

/-! ## the dying generation, in the state before the run -/

namespace Pre
variable {env : Env} {n b : Nat} {br : BindRec} {s : State}

theorem ne (X : Pre env n b br s) : br.main ≠ n := by have := X.hmain; omega

/-- a dying node is an old valid node of scope `b` -/
theorem dyOld (X : Pre env n b br s) (A : F1Inv env s) {m : Nat} (hm : m ∈ br.allNodesCreatedOnRhs) :
    m < s.nodes.size ∧ (s.nodeD m).valid = true ∧ (s.nodeD m).createdIn = .bind b :=
  (A.frag.gen b br X.hb m).1 (Or.inl hm)

theorem dy_ne_n (X : Pre env n b br s) (A : F1Inv env s) {m : Nat} (hm : m ∈ br.allNodesCreatedOnRhs) : m ≠ n := by
  intro e
  have h := (X.dyOld A hm).2.2
  rw [e, X.topN] at h; cases h

theorem dy_ne_main (X : Pre env n b br s) (A : F1Inv env s) {m : Nat} (hm : m ∈ br.allNodesCreatedOnRhs) :
    m ≠ br.main := by
  intro e
  have h := (X.dyOld A hm).2.2
  rw [e, X.topM] at h; cases h

/-- a valid node of scope `b` of the state before the run is dying -/
theorem dy_of_scope (X : Pre env n b br s) (A : F1Inv env s) {m : Nat} (hv : (s.nodeD m).valid = true)
    (hsc : (s.nodeD m).createdIn = .bind b) : m ∈ br.allNodesCreatedOnRhs := by
  have hlt : m < s.nodes.size := by
    false_or_by_contra
    rename_i h
    rw [nodeD_default s m (by omega)] at hsc; cases hsc
  rcases (A.frag.gen b br X.hb m).2 ⟨hlt, hv, hsc⟩ with h | ⟨h, -⟩
  · exact h
  · cases h

end Pre

/-! ## phase 1: the closure run -/

/-- the state `s1` after the closure run -/
structure P1 (env : Env) (n b rhs : Nat) (br : BindRec) (l : List Nat) (s s1 : State) : Prop where
  g : GInv1 env s1 allClosed (· = br.main) br.allNodesCreatedOnRhs
  ahh : AhhEmpty s1
  rel : CRel b br (started n s) s1
  bind : s1.binds[b]? = some { br with allNodesCreatedOnRhs := l }
  lmem : ∀ m, m ∈ l ↔ (s.nodes.size ≤ m ∧ m < s1.nodes.size)
  rlt : rhs < s1.nodes.size
  rhs : ((s.nodeD rhs).createdIn = .top ∧ rhs < n ∧ ∀ b', (s.nodeD rhs).kind ≠ .bindLhsChange b') ∨
    s.nodes.size ≤ rhs

namespace P1
variable {env : Env} {n b rhs : Nat} {br : BindRec} {l : List Nat} {s s1 : State}

theorem grow (P : P1 env n b rhs br l s s1) : s.nodes.size ≤ s1.nodes.size := by
  have := P.rel.grow; rw [started_size] at this; exact this

theorem old_upto (P : P1 env n b rhs br l s s1) {m : Nat} (hm : m < s.nodes.size) :
    ∃ y, s1.nodeD m = { s.nodeD m with recomputedAt := y } := by
  rw [P.rel.old m (by rw [started_size]; exact hm)]
  exact started_upto n s m

theorem old_other (P : P1 env n b rhs br l s s1) {m : Nat} (hm : m < s.nodes.size) (e : m ≠ n) :
    s1.nodeD m = s.nodeD m := by
  rw [P.rel.old m (by rw [started_size]; exact hm)]
  exact started_other s e

theorem self (P : P1 env n b rhs br l s s1) (hlt : n < s.nodes.size) :
    s1.nodeD n = { s.nodeD n with recomputedAt := s.stabNum } := by
  rw [P.rel.old n (by rw [started_size]; exact hlt)]
  exact started_self hlt

theorem new (P : P1 env n b rhs br l s s1) {m : Nat} (h1 : s.nodes.size ≤ m) (h2 : m < s1.nodes.size) :
    (s1.nodeD m).createdIn = .bind b ∧ (s1.nodeD m).valid = true ∧ (s1.nodeD m).recomputedAt = -1 ∧
    (s1.nodeD m).changedAt = -1 ∧ (s1.nodeD m).value = none ∧ (s1.nodeD m).parents = [] ∧
    (s1.nodeD m).observers = [] ∧ (s1.nodeD m).forceNecessary = false ∧ (s1.nodeD m).heightInRch = -1 ∧
    (s1.nodeD m).heightInAhh = -1 ∧ (s1.nodeD m).numOnUpdateHandlers = 0 :=
  P.rel.new m (by rw [started_size]; exact h1) h2

/-- the three kinds of indices -/
theorem cases (P : P1 env n b rhs br l s s1) (m : Nat) :
    (m < s.nodes.size ∧ ∃ y, s1.nodeD m = { s.nodeD m with recomputedAt := y }) ∨
    (s.nodes.size ≤ m ∧ m < s1.nodes.size) ∨ (s1.nodes.size ≤ m ∧ s1.nodeD m = default) := by
  by_cases h1 : m < s.nodes.size
  · exact Or.inl ⟨h1, P.old_upto h1⟩
  · by_cases h2 : m < s1.nodes.size
    · exact Or.inr (Or.inl ⟨by omega, h2⟩)
    · exact Or.inr (Or.inr ⟨by omega, nodeD_default s1 m (by omega)⟩)

theorem stabNum (P : P1 env n b rhs br l s s1) : s1.stabNum = s.stabNum := P.rel.stabNum

theorem noForce (P : P1 env n b rhs br l s s1) (A : F1Inv env s) (m : Nat) :
    (s1.nodeD m).forceNecessary = false := by
  rcases P.cases m with ⟨-, y, e⟩ | ⟨h1, h2⟩ | ⟨-, e⟩
  · rw [e]; exact A.noForce m
  · exact (P.new h1 h2).2.2.2.2.2.2.2.1
  · rw [e]; rfl

theorem noHandlers (P : P1 env n b rhs br l s s1) (A : F1Inv env s) (m : Nat) :
    (s1.nodeD m).numOnUpdateHandlers = 0 := by
  rcases P.cases m with ⟨-, y, e⟩ | ⟨h1, h2⟩ | ⟨-, e⟩
  · rw [e]; exact A.noHandlers m
  · exact (P.new h1 h2).2.2.2.2.2.2.2.2.2.2
  · rw [e]; rfl

/-- the new right-hand side is not dying -/
theorem rhs_notDy (P : P1 env n b rhs br l s s1) (X : Pre env n b br s) (A : F1Inv env s) :
    rhs ∉ br.allNodesCreatedOnRhs := by
  intro h
  obtain ⟨h1, -, h3⟩ := X.dyOld A h
  rcases P.rhs with ⟨h4, -, -⟩ | h4
  · rw [h4] at h3; cases h3
  · omega

theorem rhs_ne (P : P1 env n b rhs br l s s1) (X : Pre env n b br s) : rhs ≠ n := by
  have := X.hlt
  rcases P.rhs with ⟨-, h, -⟩ | h <;> omega

end P1

theorem phase1 {env : Env} (CS : ClosureSpec1 env) {n b rhs : Nat} {br : BindRec} {s s1 : State}
    (X : Pre env n b br s) (A : F1Inv env s)
    (h1 : (Inval.lhsRunClosure env n b br).run.run (started n s) = (.ok rhs, s1)) :
    ∃ l, P1 env n b rhs br l s s1 := by
  obtain ⟨g, ahh, rel, rlt, hr⟩ := CS n b rhs br (started n s) s1 (· = br.main) h1 X.g0 X.ahh0 X.hb X.hlc
    (fun v => by
      have := A.closures b br v X.hb
      rw [X.hlc] at this
      exact (templOK_congr (s := s) (s' := started n s) rfl n _).2 this)
    (fun k r hk => by
      obtain ⟨h1, h2, h3⟩ := A.topOK k r hk
      obtain ⟨y, e⟩ := started_upto n s r
      refine ⟨by rw [started_size]; exact h1, by rw [e]; exact h2, fun b' => by rw [e]; exact h3 b'⟩)
  obtain ⟨l, hl, hmem⟩ := rel.bind
  refine ⟨l, g, ahh, rel, hl, fun m => by rw [hmem m, started_size], rlt, ?_⟩
  rw [started_size] at hr
  rcases hr with ⟨h2, h3, h4⟩ | h2
  · left
    have hlt : rhs < s.nodes.size := by have := X.hlt; omega
    have e : s1.nodeD rhs = s.nodeD rhs := by
      rw [rel.old rhs (by rw [started_size]; exact hlt)]
      exact started_other s (by omega)
    rw [e] at h2 h4
    exact ⟨h2, h3, h4⟩
  · exact Or.inr h2

/-! ## phase 2: installing the new right-hand side -/

/-- the state `s2` after `lhsRelink` -/
structure P2 (env : Env) (n b rhs : Nat) (br : BindRec) (l : List Nat) (s1 s2 : State) : Prop where
  g : GInv1 env s2 allClosed (· = br.main) br.allNodesCreatedOnRhs
  ahh : AhhEmpty s2
  rel : RRelB b n rhs { br with allNodesCreatedOnRhs := l } s1 s2
  pinv : s2.propagateInvalidity = []
  noForce : ∀ m, (s2.nodeD m).forceNecessary = false
  necMain : s2.isNecessary br.main = true

theorem phase2 {env : Env} (RS : RelinkSpec1 env) {fuel n b rhs : Nat} {br : BindRec} {l : List Nat}
    {s s1 s2 : State} (X : Pre env n b br s) (A : F1Inv env s) (P : P1 env n b rhs br l s s1)
    (h2 : (Inval.lhsRelink env fuel n b br s.stabNum rhs).run.run s1 = (.ok (), s2)) :
    P2 env n b rhs br l s1 s2 := by
  have est : s1.stabNum = s.stabNum := P.stabNum
  rw [← est] at h2
  have emain : s1.nodeD br.main = s.nodeD br.main := P.old_other X.hml X.ne
  obtain ⟨g, ahh, rel, pinv, nf, nec⟩ := RS fuel b n rhs s1 s2 br { br with allNodesCreatedOnRhs := l }
    (· = br.main) br.allNodesCreatedOnRhs h2 P.g rfl P.ahh P.bind rfl rfl X.hlc
    (by show (s1.nodeD br.main).isNecessary = true; rw [emain]; exact X.necMain)
    P.rlt (P.rhs_notDy X A)
    (by
      rcases P.rhs with ⟨h3, h4, h5⟩ | h3
      · left
        have hlt : rhs < s.nodes.size := by have := X.hlt; omega
        rw [P.old_other hlt (by omega)]
        exact ⟨h3, h4, h5⟩
      · right
        obtain ⟨k1, k2, -⟩ := P.new h3 P.rlt
        exact ⟨k1, k2⟩)
    (fun o ho => by
      rcases A.rhsOK b br o X.hb ho with ⟨k1, k2, k3⟩ | ⟨k1, k2⟩
      · left
        rw [X.hlc] at k2
        have hlt : o < s.nodes.size := by have := X.hlt; omega
        rw [P.old_other hlt (by omega)]
        exact ⟨k1, k2, k3⟩
      · right
        have hd := X.dy_of_scope A k2 k1
        obtain ⟨hlt, -, -⟩ := X.dyOld A hd
        rw [P.old_other hlt (X.dy_ne_n A hd)]
        exact ⟨k1, hd⟩)
    (fun m hm => by
      obtain ⟨hlt, -, k⟩ := X.dyOld A hm
      rw [P.old_other hlt (X.dy_ne_n A hm)]; exact k)
    (P.noForce A) (P.rel.pinv.trans A.pinv)
    (by rw [emain, est]; exact X.hmr)
  exact ⟨g, ahh, rel, pinv, nf, nec⟩

namespace P2
variable {env : Env} {n b rhs : Nat} {br : BindRec} {l : List Nat} {s1 s2 : State}

/-- the keys of the nodes other than `n` -/
theorem key (Q : P2 env n b rhs br l s1 s2) {m : Nat} (e : m ≠ n) : NKey (s1.nodeD m) (s2.nodeD m) :=
  NKey.of_key (Q.rel.node m e)

/-- the key of `n` -/
theorem keyN (Q : P2 env n b rhs br l s1 s2) :
    NKey { s1.nodeD n with changedAt := s1.stabNum } (s2.nodeD n) := NKey.of_key Q.rel.self

theorem kind (Q : P2 env n b rhs br l s1 s2) (m : Nat) : (s2.nodeD m).kind = (s1.nodeD m).kind := by
  by_cases e : m = n
  · subst e; exact Q.keyN.kind
  · exact (Q.key e).kind

theorem valid (Q : P2 env n b rhs br l s1 s2) (m : Nat) : (s2.nodeD m).valid = (s1.nodeD m).valid := by
  by_cases e : m = n
  · subst e; exact Q.keyN.valid
  · exact (Q.key e).valid

theorem createdIn (Q : P2 env n b rhs br l s1 s2) (m : Nat) :
    (s2.nodeD m).createdIn = (s1.nodeD m).createdIn := by
  by_cases e : m = n
  · subst e; exact Q.keyN.createdIn
  · exact (Q.key e).createdIn

theorem num (Q : P2 env n b rhs br l s1 s2) (m : Nat) :
    (s2.nodeD m).numOnUpdateHandlers = (s1.nodeD m).numOnUpdateHandlers := by
  by_cases e : m = n
  · subst e; exact Q.keyN.num
  · exact (Q.key e).num

end P2

/-! ## phase 3: invalidating the previous generation -/

/-- the state `s3` after `lhsInvalidateOld` -/
structure P3 (env : Env) (br : BindRec) (s2 s3 : State) : Prop where
  g : GInv1 env s3 allClosed (· = br.main) []
  rel : IRel br.allNodesCreatedOnRhs s2 s3

theorem phase3 {env : Env} (IS : InvalSpec1 env) {fuel n b rhs : Nat} {br : BindRec} {l : List Nat}
    {s s1 s2 s3 : State} (X : Pre env n b br s) (A : F1Inv env s) (P : P1 env n b rhs br l s s1)
    (Q : P2 env n b rhs br l s1 s2)
    (h3 : (Inval.lhsInvalidateOld fuel br).run.run s2 = (.ok (), s3)) : P3 env br s2 s3 := by
  have hnd := P.rhs_notDy X A
  -- dying nodes in `s2`
  have hdy : ∀ m, m ∈ br.allNodesCreatedOnRhs →
      m < s2.nodes.size ∧ (s2.nodeD m).createdIn = .bind b ∧ (s2.nodeD m).valid = true := by
    intro m hm
    obtain ⟨hlt, k1, k2⟩ := X.dyOld A hm
    have e := P.old_other hlt (X.dy_ne_n A hm)
    refine ⟨?_, ?_, ?_⟩
    · rw [Q.rel.size]; have := P.grow; omega
    · rw [Q.createdIn, e]; exact k2
    · rw [Q.valid, e]; exact k1
  have hpar : ∀ m, m ∈ br.allNodesCreatedOnRhs → (s2.nodeD m).parents = [] := by
    apply Q.g.scope_no_parents Q.rel.bind (· ∈ br.allNodesCreatedOnRhs)
    · intro m hm; exact ⟨(hdy m hm).1, (hdy m hm).2.1⟩
    · intro p m hp hmc hm
      have hpl := lt_size_of_mem_children hmc
      obtain ⟨-, -, br', -, -, hkids⟩ := (Q.g.frag.node p hpl).inScope b hp
      rcases hkids m hmc with ⟨k1, -⟩ | ⟨-, -, k3⟩
      · rw [(hdy m hm).2.1] at k1; cases k1
      · exact k3.1 hm
    · intro m hm hr _
      have : rhs = m := Option.some.inj hr
      rw [this] at hnd; exact hnd hm
    · intro m k h; cases h
    · intro m _; exact Q.noForce m
  obtain ⟨g, rel⟩ := IS fuel b br s2 s3 (· = br.main) h3 Q.g (A.rhsNone b br X.hb)
    (fun m hm => ⟨(hdy m hm).2.1, hpar m hm, (hdy m hm).2.2⟩)
    (fun br1 r hb1 hr => by
      rw [Q.rel.bind] at hb1
      cases hb1
      have : rhs = r := Option.some.inj hr
      rw [← this]; exact hnd)
    Q.noForce (fun m => by rw [Q.num]; exact P.noHandlers A m) Q.pinv
  exact ⟨g, rel⟩

end CC
end IncrVerif.Proofs.BindH
