import IncrVerif.Proofs.NestH33
/-!
# Nested binds (F2), phase 3 (`lhsInvalidateOld`), part 4: the dying subtrees are unnecessary; the static facts `All2` after the phase

* `dying_facts`: every dying node is a valid, parentless node of some scope (`GInv2.scope_no_parents` for the deeper ones); `sub_of_dying`: `Sub rk s a`
  for the nodes of the dying generation.
* `Ctx2`: the hypotheses of `InvalSpec2` + the exact description `Mid2 s (Dying s dy) s'` of the final state.  From it `All2 env rk s' []` (`Ctx2.frag'`).
-/
namespace IncrVerif.Proofs.NestH
open IncrVerif.Engine IncrVerif.Proofs IncrVerif.Proofs.Step IncrVerif.Proofs.Sched IncrVerif.Proofs.Quiet
open IncrVerif.Proofs.BindH

namespace NI

section facts
variable {env : Env} {rk : Nat → Nat} {s : State} {ex : Nat → Prop} {dy : List Nat} {b : Nat}

/-- every dying node is a valid, parentless node of some scope -/
theorem dying_facts (I : GInv2 env rk s allClosed ex dy)
    (hdy : ∀ m, m ∈ dy → (s.nodeD m).createdIn = .bind b ∧ (s.nodeD m).parents = [] ∧ (s.nodeD m).valid = true)
    (hnf : ∀ m, (s.nodeD m).forceNecessary = false) {m : Nat} (hm : Dying s dy m) :
    m < s.nodes.size ∧ (s.nodeD m).valid = true ∧ (∃ b', (s.nodeD m).createdIn = .bind b') ∧
      (s.nodeD m).parents = [] := by
  induction hm with
  | base h1 =>
    obtain ⟨h2, h3, h4⟩ := hdy _ h1
    exact ⟨(I.frag.dyIn _ h1).1, h4, ⟨b, h2⟩, h3⟩
  | @inner p m b2 lc2 hp hk hl hv hsc ih =>
    obtain ⟨hpl, hpv, ⟨b', hpsc⟩, hpp⟩ := ih
    obtain ⟨br2, hb2, hmain, -⟩ := (I.frag.node p hpl).mainRec b2 lc2 hk
    have hnn : s.isNecessary p = false := by
      simp only [State.isNecessary, Node.isNecessary, hpp, I.scopeObs p b' hpsc, hnf p]
      rfl
    have := I.scope_no_parents hb2 (fun x => x < s.nodes.size ∧ (s.nodeD x).createdIn = .bind b2) (fun x h => h)
      (fun q x hq hx _ => ⟨lt_size_of_mem_children hx, hq⟩)
      (fun x _ _ hw => by
        rw [wants_closed rfl, hmain, hnn] at hw
        cases hw)
      (fun x k h => by cases h) (fun x _ => hnf x) m ⟨hl, hsc⟩
    exact ⟨hl, hv, ⟨b2, hsc⟩, this⟩

/-- every dying node lies below the main node of the bind -/
theorem dying_rk (I : GInv2 env rk s allClosed ex dy)
    (hdy : ∀ m, m ∈ dy → (s.nodeD m).createdIn = .bind b ∧ (s.nodeD m).parents = [] ∧ (s.nodeD m).valid = true)
    (hnf : ∀ m, (s.nodeD m).forceNecessary = false) {brb : BindRec} (hb : s.binds[b]? = some brb)
    {m : Nat} (hm : Dying s dy m) : rk m < rk brb.main := by
  induction hm with
  | base h1 => exact (I.frag.scope_rk (I.frag.dyIn _ h1).1 (hdy _ h1).1 hb).2
  | @inner p m b2 lc2 hp hk hl hv hsc ih =>
    have hpl := (dying_facts I hdy hnf hp).1
    obtain ⟨br2, hb2, hmain, -⟩ := (I.frag.node p hpl).mainRec b2 lc2 hk
    have := (I.frag.scope_rk hl hsc hb2).2
    rw [hmain] at this
    omega

theorem dying_nec (I : GInv2 env rk s allClosed ex dy)
    (hdy : ∀ m, m ∈ dy → (s.nodeD m).createdIn = .bind b ∧ (s.nodeD m).parents = [] ∧ (s.nodeD m).valid = true)
    (hnf : ∀ m, (s.nodeD m).forceNecessary = false) {m : Nat} (hm : Dying s dy m) : s.isNecessary m = false := by
  obtain ⟨-, -, ⟨b', hsc⟩, hpar⟩ := dying_facts I hdy hnf hm
  simp only [State.isNecessary, Node.isNecessary, hpar, I.scopeObs m b' hsc, hnf m]
  rfl

theorem dying_unq (I : GInv2 env rk s allClosed ex dy)
    (hdy : ∀ m, m ∈ dy → (s.nodeD m).createdIn = .bind b ∧ (s.nodeD m).parents = [] ∧ (s.nodeD m).valid = true)
    (hnf : ∀ m, (s.nodeD m).forceNecessary = false) {m : Nat} (hm : Dying s dy m) : (s.nodeD m).inRch = false := by
  cases hq : (s.nodeD m).inRch with
  | false => rfl
  | true =>
    rcases I.qnec m hq with h | ⟨k, h⟩
    · rw [dying_nec I hdy hnf hm] at h; cases h
    · cases h

/-- what the run needs to know about the subtrees of the dying generation -/
theorem sub_of_dying (I : GInv2 env rk s allClosed ex dy)
    (hdy : ∀ m, m ∈ dy → (s.nodeD m).createdIn = .bind b ∧ (s.nodeD m).parents = [] ∧ (s.nodeD m).valid = true)
    (hnf : ∀ m, (s.nodeD m).forceNecessary = false) (hnh : ∀ m, (s.nodeD m).numOnUpdateHandlers = 0)
    {a : Nat} (ha : a ∈ dy) : Sub rk s a := by
  have A := I.frag
  obtain ⟨brb, hb, -⟩ := A.scope_bind (A.dyIn a ha).1 (hdy a ha).1
  refine ⟨fun m hm => ?_, fun m b2 lc2 hm hk => ?_⟩
  · have hd := dying_of_mem ha hm
    obtain ⟨hl, hv, -, -⟩ := dying_facts I hdy hnf hd
    exact ⟨hl, hv, dying_nec I hdy hnf hd, dying_unq I hdy hnf hd, hnh m⟩
  · have hd := dying_of_mem ha hm
    have hl := (dying_facts I hdy hnf hd).1
    obtain ⟨br2, hb2, hmain, -⟩ := (A.node m hl).mainRec b2 lc2 hk
    have hne : b2 ≠ b := by
      intro e
      rw [e, hb] at hb2; cases hb2
      have := dying_rk I hdy hnf hb hd
      rw [hmain] at this
      exact Nat.lt_irrefl _ this
    refine ⟨br2, hb2, hmain, fun x => ?_, fun x hx hsc => ?_⟩
    · rw [← A.gen b2 br2 hb2 x]
      constructor
      · exact Or.inl
      · rintro (h | ⟨h1, h2⟩)
        · exact h
        · rw [(hdy x h1).1] at h2
          injection h2 with h2
          exact absurd h2.symm hne
    · have := (A.scope_rk hx hsc hb2).2
      rw [hmain] at this
      exact this

theorem recsK_of (A : All2 env rk s dy) : RecsK s := fun b' br0 hb => ⟨br0.lhsChange, (A.recs b' br0 hb).2.2.2.1⟩

end facts

/-- the situation after phase 3 -/
structure Ctx2 (env : Env) (rk : Nat → Nat) (s : State) (ex : Nat → Prop) (dy : List Nat) (b : Nat) (s' : State) : Prop where
  I : GInv2 env rk s allClosed ex dy
  hdy : ∀ m, m ∈ dy → (s.nodeD m).createdIn = .bind b ∧ (s.nodeD m).parents = [] ∧ (s.nodeD m).valid = true
  hrhs : ∀ br1 r, s.binds[b]? = some br1 → br1.rhs = some r → r ∉ dy
  hnf : ∀ m, (s.nodeD m).forceNecessary = false
  M : Mid2 s (Dying s dy) s'

namespace Ctx2
variable {env : Env} {rk : Nat → Nat} {s s' : State} {ex : Nat → Prop} {dy : List Nat} {b : Nat}

theorem kindEq (C : Ctx2 env rk s ex dy b s') (m : Nat) : (s'.nodeD m).kind = (s.nodeD m).kind := C.M.kindEq m

theorem createdEq (C : Ctx2 env rk s ex dy b s') (m : Nat) : (s'.nodeD m).createdIn = (s.nodeD m).createdIn :=
  C.M.createdEq m

theorem cutoffEq (C : Ctx2 env rk s ex dy b s') (m : Nat) : (s'.nodeD m).cutoff = (s.nodeD m).cutoff := by
  by_cases h : Dying s dy m
  · rw [C.M.dead m h]; rfl
  · rw [C.M.other m h]

theorem parentsEq (C : Ctx2 env rk s ex dy b s') (m : Nat) : (s'.nodeD m).parents = (s.nodeD m).parents := by
  by_cases h : Dying s dy m
  · rw [C.M.dead m h]; rfl
  · rw [C.M.other m h]

theorem obsEq (C : Ctx2 env rk s ex dy b s') (m : Nat) : (s'.nodeD m).observers = (s.nodeD m).observers := by
  by_cases h : Dying s dy m
  · rw [C.M.dead m h]; rfl
  · rw [C.M.other m h]

theorem forceEq (C : Ctx2 env rk s ex dy b s') (m : Nat) :
    (s'.nodeD m).forceNecessary = (s.nodeD m).forceNecessary := by
  by_cases h : Dying s dy m
  · rw [C.M.dead m h]; rfl
  · rw [C.M.other m h]

theorem heightEq (C : Ctx2 env rk s ex dy b s') (m : Nat) : (s'.nodeD m).height = (s.nodeD m).height := by
  by_cases h : Dying s dy m
  · rw [C.M.dead m h]; rfl
  · rw [C.M.other m h]

theorem hrchEq (C : Ctx2 env rk s ex dy b s') (m : Nat) : (s'.nodeD m).heightInRch = (s.nodeD m).heightInRch := by
  by_cases h : Dying s dy m
  · rw [C.M.dead m h]; rfl
  · rw [C.M.other m h]

theorem inRchEq (C : Ctx2 env rk s ex dy b s') (m : Nat) : (s'.nodeD m).inRch = (s.nodeD m).inRch := by
  simp only [Node.inRch, C.hrchEq m]

theorem necEq (C : Ctx2 env rk s ex dy b s') (m : Nat) : s'.isNecessary m = s.isNecessary m := by
  simp only [State.isNecessary, Node.isNecessary, C.parentsEq m, C.obsEq m, C.forceEq m]

theorem deadInvalid (C : Ctx2 env rk s ex dy b s') {m : Nat} (h : Dying s dy m) : (s'.nodeD m).valid = false := by
  rw [C.M.dead m h]; rfl

theorem facts (C : Ctx2 env rk s ex dy b s') {m : Nat} (h : Dying s dy m) :
    m < s.nodes.size ∧ (s.nodeD m).valid = true ∧ (∃ b', (s.nodeD m).createdIn = .bind b') ∧
      (s.nodeD m).parents = [] := dying_facts C.I C.hdy C.hnf h

theorem dyNec (C : Ctx2 env rk s ex dy b s') {m : Nat} (h : Dying s dy m) : s.isNecessary m = false :=
  dying_nec C.I C.hdy C.hnf h

theorem dyUnq (C : Ctx2 env rk s ex dy b s') {m : Nat} (h : Dying s dy m) : (s.nodeD m).inRch = false :=
  dying_unq C.I C.hdy C.hnf h

/-- a node that is valid after the phase did not die -/
theorem not_dying_of_valid (C : Ctx2 env rk s ex dy b s') {m : Nat} (h : (s'.nodeD m).valid = true) : ¬ Dying s dy m :=
  fun hd => by rw [C.deadInvalid hd] at h; cases h

/-- no surviving node has a dying child -/
theorem kids_not_dying (C : Ctx2 env rk s ex dy b s') {m c : Nat} (hm : ¬ Dying s dy m) (hc : c ∈ s.children m) :
    ¬ Dying s dy c := by
  intro hcd
  have A := C.I.frag
  have hml := lt_size_of_mem_children hc
  have hmv : (s.nodeD m).valid = true := by
    cases hv : (s.nodeD m).valid with
    | true => rfl
    | false => rw [children_of_invalid hv] at hc; cases hc
  cases hcd with
  | base h1 =>
    obtain ⟨hcs, -, -⟩ := C.hdy c h1
    rcases C.I.parent_of_scope hc hcs with ⟨hpsc, h2⟩ | ⟨lc, hkp⟩
    · exact hm (.base (h2.1 h1))
    · obtain ⟨br, hb, hmn, -⟩ := (A.node m hml).mainRec b lc hkp
      rw [← hmn] at hmv hc
      rw [C.I.main_children hb hmv] at hc
      rcases List.mem_cons.1 hc with e | e
      · have := (A.scope_rk (A.dyIn c h1).1 hcs hb).1
        rw [e] at this
        exact Nat.lt_irrefl _ this
      · cases hr : br.rhs with
        | none => rw [hr] at e; cases e
        | some r =>
          rw [hr] at e
          simp only [Option.toList_some, List.mem_singleton] at e
          rw [e] at h1
          exact C.hrhs br r hb hr h1
  | @inner p _ b2 lc2 hp hk hl hv hsc =>
    have hpl := (C.facts hp).1
    obtain ⟨br2, hb2, hmain, -⟩ := (A.node p hpl).mainRec b2 lc2 hk
    rcases C.I.parent_of_scope hc hsc with ⟨hpsc, -⟩ | ⟨lc, hkp⟩
    · exact hm (.inner hp hk hml hmv hpsc)
    · obtain ⟨br, hb, hmn, -⟩ := (A.node m hml).mainRec b2 lc hkp
      rw [hb2] at hb; cases hb
      rw [← hmn, hmain] at hm
      exact hm hp

/-- the bind tables agree up to the lists -/
theorem bsame (C : Ctx2 env rk s ex dy b s') : CN.BSame s s' := by
  intro b'
  cases hs : s.binds[b']? with
  | none =>
    refine Or.inl ⟨rfl, ?_⟩
    rw [Array.getElem?_eq_none_iff] at hs ⊢
    rw [C.M.bindsSize]; exact hs
  | some br0 =>
    by_cases hd : Dying s dy br0.main
    · exact Or.inr ⟨br0, [], rfl, (C.M.binds b' br0 hs).1 hd⟩
    · exact Or.inr ⟨br0, br0.allNodesCreatedOnRhs, rfl, (C.M.binds b' br0 hs).2 hd⟩

/-- a record of the new table -/
theorem binds_inv (C : Ctx2 env rk s ex dy b s') {b' : Nat} {br' : BindRec} (hb : s'.binds[b']? = some br') :
    ∃ br0, s.binds[b']? = some br0 ∧
      ((Dying s dy br0.main ∧ br' = { br0 with allNodesCreatedOnRhs := [] }) ∨ (¬ Dying s dy br0.main ∧ br' = br0)) := by
  cases hs : s.binds[b']? with
  | none =>
    have : s'.binds[b']? = none := by
      rw [Array.getElem?_eq_none_iff] at hs ⊢
      rw [C.M.bindsSize]; exact hs
    rw [this] at hb; cases hb
  | some br0 =>
    refine ⟨br0, rfl, ?_⟩
    by_cases hd : Dying s dy br0.main
    · rw [(C.M.binds b' br0 hs).1 hd] at hb
      cases hb
      exact Or.inl ⟨hd, rfl⟩
    · rw [(C.M.binds b' br0 hs).2 hd] at hb
      cases hb
      exact Or.inr ⟨hd, rfl⟩

theorem children_other (C : Ctx2 env rk s ex dy b s') {m : Nat} (hm : ¬ Dying s dy m) : s'.children m = s.children m := by
  by_cases hl : m < s.nodes.size
  · exact CN.children_congr_C (C.M.other m hm) C.bsame (C.I.frag.node m hl).kind
  · rw [children_default s m (by omega), children_default s' m (by rw [C.M.size]; omega)]

theorem children_dead (C : Ctx2 env rk s ex dy b s') {m : Nat} (hm : Dying s dy m) : s'.children m = [] :=
  Inval.children_invalid s' m (C.deadInvalid hm)

theorem stale_other (C : Ctx2 env rk s ex dy b s') {m : Nat} (hm : ¬ Dying s dy m) : s'.isStale m = s.isStale m := by
  by_cases hl : m < s.nodes.size
  · refine CN.isStale_congr_C (C.I.frag.node m hl).kind (C.M.other m hm) (C.children_other hm) C.M.vars (fun c hc => ?_)
    rw [C.M.other c (C.kids_not_dying hm hc)]
  · rw [isStale_default s m (by omega), isStale_default s' m (by rw [C.M.size]; omega)]

/-- the two nodes of a bind die together -/
theorem lc_iff_main (C : Ctx2 env rk s ex dy b s') {b' : Nat} {br0 : BindRec} (hb0 : s.binds[b']? = some br0) :
    Dying s dy br0.lhsChange ↔ Dying s dy br0.main := by
  have A := C.I.frag
  obtain ⟨h1, h2, h3, h4, h5⟩ := A.recs b' br0 hb0
  have hrv := A.recValid b' br0 hb0
  have hlcl := A.lc_lt hb0
  -- both in the scope `b` of the dying generation: same generation
  have key : (s.nodeD br0.main).createdIn = .bind b → (s.nodeD br0.main).valid = true →
      (br0.lhsChange ∈ dy ↔ br0.main ∈ dy) := by
    intro hsc hv
    obtain ⟨-, br, -, -, hkids⟩ := (A.node br0.main h2).inScope b hsc
    have hc : br0.lhsChange ∈ s.children br0.main := by
      rw [C.I.main_children hb0 hv]; exact List.mem_cons_self ..
    rcases hkids _ hc with h | ⟨-, h⟩ | ⟨b2, lc2, hk, hsc2⟩
    · rw [← h5, hsc] at h; cases h
    · exact h
    · exfalso
      rw [h4] at hk
      injection hk with e1 e2
      subst e1
      have := (A.scope_rk hlcl hsc2 hb0).1
      exact Nat.lt_irrefl _ this
  constructor
  · intro hd
    have hv : (s.nodeD br0.main).valid = true := by rw [hrv]; exact (C.facts hd).2.1
    cases hd with
    | base h => exact .base ((key (by rw [h5]; exact (C.hdy _ h).1) hv).1 h)
    | @inner p _ b2 lc2 hp hk _ _ hsc => exact .inner hp hk h2 hv (by rw [h5]; exact hsc)
  · intro hd
    have hv : (s.nodeD br0.main).valid = true := (C.facts hd).2.1
    cases hd with
    | base h => exact .base ((key (C.hdy _ h).1 hv).2 h)
    | @inner p _ b2 lc2 hp hk _ _ hsc => exact .inner hp hk hlcl (by rw [← hrv]; exact hv) (by rw [← h5]; exact hsc)

/-! ## the static facts -/

theorem node' (C : Ctx2 env rk s ex dy b s') (n : Nat) (hn : n < s'.nodes.size) : N2 env rk s' [] n := by
  have hl : n < s.nodes.size := by rw [← C.M.size]; exact hn
  have N := C.I.frag.node n hl
  have hlc : ∀ b0, (s'.nodeD n).kind = .bindLhsChange b0 → ∃ br, s'.binds[b0]? = some br ∧ br.lhsChange = n := by
    intro b0 hk
    rw [C.kindEq] at hk
    obtain ⟨br, h1, h2⟩ := N.lcRec b0 hk
    obtain ⟨l, h3⟩ := C.bsame.fwd h1
    exact ⟨_, h3, h2⟩
  have hmr : ∀ b0 lc, (s'.nodeD n).kind = .bindMain b0 lc →
      ∃ br, s'.binds[b0]? = some br ∧ br.main = n ∧ br.lhsChange = lc := by
    intro b0 lc hk
    rw [C.kindEq] at hk
    obtain ⟨br, h1, h2, h3⟩ := N.mainRec b0 lc hk
    obtain ⟨l, h4⟩ := C.bsame.fwd h1
    exact ⟨_, h4, h2, h3⟩
  by_cases hd : Dying s dy n
  · -- a dead node: no children any more
    have hch := C.children_dead hd
    refine ⟨by rw [C.kindEq]; exact N.kind, by rw [C.cutoffEq]; exact N.cutoff, ?_, ?_, ?_, hlc, hmr, ?_, ?_, ?_⟩
    · intro c hc; rw [hch] at hc; cases hc
    · intro c hc; rw [hch] at hc; cases hc
    · intro c hc; rw [hch] at hc; cases hc
    · intro c b' hc; rw [hch] at hc; cases hc
    · intro h
      rw [C.createdEq] at h
      obtain ⟨b', hb'⟩ := (C.facts hd).2.2.1
      rw [hb'] at h
      cases h
    · intro b' h
      rw [C.createdEq] at h
      obtain ⟨h1, br, h3, h4, -⟩ := N.inScope b' h
      obtain ⟨l, h5⟩ := C.bsame.fwd h3
      refine ⟨by rw [C.kindEq]; exact h1, _, h5, h4, ?_⟩
      intro c hc; rw [hch] at hc; cases hc
  · have hch := C.children_other hd
    refine ⟨by rw [C.kindEq]; exact N.kind, by rw [C.cutoffEq]; exact N.cutoff, ?_, ?_, ?_, hlc, hmr, ?_, ?_, ?_⟩
    · rw [hch, C.M.size]; exact N.kidsIn
    · intro c hc
      rw [hch] at hc
      rw [C.M.other c (C.kids_not_dying hd hc)]
      exact N.kidsValid c hc
    · rw [hch]; exact N.kidLt
    · intro c b' hc hk
      rw [hch] at hc
      rw [C.kindEq] at hk ⊢
      exact N.lcChild c b' hc hk
    · intro h
      rw [C.createdEq] at h
      obtain ⟨h1, h2⟩ := N.top h
      refine ⟨by rw [C.M.other n hd]; exact h1, ?_⟩
      intro c hc
      rw [hch] at hc
      rw [C.createdEq, C.kindEq]
      exact h2 c hc
    · intro b' h
      rw [C.createdEq] at h
      obtain ⟨h1, br, h3, h4, h5⟩ := N.inScope b' h
      obtain ⟨l, h6⟩ := C.bsame.fwd h3
      refine ⟨by rw [C.kindEq]; exact h1, _, h6, h4, ?_⟩
      intro c hc
      rw [hch] at hc
      rw [C.createdEq, C.kindEq]
      rcases h5 c hc with h7 | ⟨h7, -⟩ | h7
      · exact Or.inl h7
      · exact Or.inr (Or.inl ⟨h7, by simp⟩)
      · exact Or.inr (Or.inr h7)

theorem frag' (C : Ctx2 env rk s ex dy b s') : All2 env rk s' [] := by
  have A := C.I.frag
  refine ⟨by rw [C.M.pc]; exact A.pc, by rw [C.M.scope]; exact A.scope, C.node', ?_, ?_, ?_, ?_, ?_, ?_, ?_, ?_⟩
  · intro b' br hb
    obtain ⟨br0, hb0, -, -, e3, e4, -⟩ := C.bsame.bwd' hb
    rw [e3, e4, C.M.size, C.kindEq, C.kindEq, C.createdEq, C.createdEq]
    exact A.recs b' br0 hb0
  · intro b' br hb m
    rw [C.M.size]
    obtain ⟨br0, hb0, hcase⟩ := C.binds_inv hb
    have hkm := (A.recs b' br0 hb0).2.2.2.1
    constructor
    · rintro (h | ⟨h, -⟩)
      · rcases hcase with ⟨hd, e⟩ | ⟨hd, e⟩
        · rw [e] at h; cases h
        · rw [e] at h
          have hnd := A.genDy b' br0 hb0 m h
          obtain ⟨h1, h2, h3⟩ := (A.gen b' br0 hb0 m).1 (Or.inl h)
          have hndy : ¬ Dying s dy m := by
            intro hdm
            cases hdm with
            | base h' => exact hnd h'
            | @inner p _ b2 lc2 hp hk _ _ hsc =>
              rw [h3] at hsc
              injection hsc with e1
              subst e1
              obtain ⟨br2, hb2, hmain, -⟩ := (A.node p (C.facts hp).1).mainRec b' lc2 hk
              rw [hb0] at hb2; cases hb2
              rw [hmain] at hd
              exact hd hp
          rw [C.M.other m hndy]
          exact ⟨h1, h2, h3⟩
      · cases h
    · rintro ⟨h1, h2, h3⟩
      left
      have hnd := C.not_dying_of_valid h2
      rw [C.M.other m hnd] at h2 h3
      rcases hcase with ⟨hd, e⟩ | ⟨hd, e⟩
      · exact absurd (Dying.inner hd hkm h1 h2 h3) hnd
      · rw [e]
        rcases (A.gen b' br0 hb0 m).2 ⟨h1, h2, h3⟩ with h | ⟨h, -⟩
        · exact h
        · exact absurd (Dying.base h) hnd
  · intro b' br _ m _ hm; cases hm
  · intro m hm; cases hm
  · intro n b' br hn hv hsc hb
    have hnd := C.not_dying_of_valid hv
    rw [C.M.other n hnd] at hv hsc
    rw [C.M.size] at hn
    obtain ⟨br0, hb0, -, -, e3, e4, -⟩ := C.bsame.bwd' hb
    rw [e3, e4]
    obtain ⟨h1, h2⟩ := A.scopeValid n b' br0 hn hv hsc hb0
    have hm : ¬ Dying s dy br0.main := fun hd => hnd (.inner hd (A.recs b' br0 hb0).2.2.2.1 hn hv hsc)
    have hlc : ¬ Dying s dy br0.lhsChange := fun hd => hm ((C.lc_iff_main hb0).1 hd)
    rw [C.M.other _ hlc, C.M.other _ hm]
    exact ⟨h1, h2⟩
  · intro b' br hb
    obtain ⟨br0, hb0, -, -, e3, e4, -⟩ := C.bsame.bwd' hb
    rw [e3, e4]
    by_cases hd : Dying s dy br0.main
    · rw [C.deadInvalid hd, C.deadInvalid ((C.lc_iff_main hb0).2 hd)]
    · rw [C.M.other _ hd, C.M.other _ (fun h => hd ((C.lc_iff_main hb0).1 h))]
      exact A.recValid b' br0 hb0
  · intro n b' br hn hsc hb
    rw [C.M.size] at hn
    rw [C.createdEq] at hsc
    obtain ⟨br0, hb0, -, -, e3, e4, -⟩ := C.bsame.bwd' hb
    rw [e3, e4]
    exact A.scopeRk n b' br0 hn hsc hb0
  · intro n m hn hm
    rw [C.M.size] at hn hm
    exact A.rkInj n m hn hm

end Ctx2

end NI

end IncrVerif.Proofs.NestH
