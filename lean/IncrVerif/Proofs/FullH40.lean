import IncrVerif.Proofs.FullH39
/-!
# C01 full fragment: the `depend_on` invariant `DepInv` through the two phases of `stabilise` before the drain
-/
namespace IncrVerif.Proofs.FullH
open IncrVerif.Engine IncrVerif.Proofs IncrVerif.Proofs.Step IncrVerif.Proofs.Sched IncrVerif.Proofs.Quiet
open IncrVerif.Proofs.MapRefH

/-- kinds and stored values unchanged: every node virtually stores the same value (same ghost) -/
theorem tv_vframe {g : Nat → Option Val} {s s' : State} (v : VFrame s s') (m : Nat) : tv g s' m = tv g s m := by
  by_cases h : ∃ p i, (s.nodeD m).kind = .mapRef p i
  · obtain ⟨p, i, hk⟩ := h
    rw [tv_mapRef hk, tv_mapRef (s := s') (by rw [v.kind]; exact hk)]
  · have h1 : ∀ p i, (s.nodeD m).kind ≠ .mapRef p i := fun p i hk => h ⟨p, i, hk⟩
    rw [tv_not_mapRef h1, tv_not_mapRef (s := s') (fun p i => by rw [v.kind]; exact h1 p i), v.value]

/-- kinds, validity, cutoffs, stored values and stamps unchanged: the `depend_on` invariant is inherited (same ghost) -/
theorem DepInv.of_vframe {g : Nat → Option Val} {s s' : State} (v : VFrame s s') (D : DepInv g s) : DepInv g s' := by
  intro n a b x hv hk hc hch hval
  rw [v.valid] at hv; rw [v.kind] at hk; rw [v.cutoff] at hc; rw [v.chg, v.chg] at hch; rw [v.value] at hval
  rw [tv_vframe v]
  exact D n a b x hv hk hc hch hval

/-- recomputation stamps, stored values, kinds, validity unchanged and the same round: `CRl` is inherited -/
theorem CRl.of_vframe {s s' : State} (v : VFrame s s') (hn : s'.stabNum = s.stabNum) (C : CRl s) : CRl s' := by
  intro n hv hk hval hch
  rw [v.valid] at hv; rw [v.value] at hval; rw [v.chg, hn] at hch; rw [v.rcp, hn]
  exact C n hv (fun p i => by rw [← v.kind]; exact hk p i) hval hch

theorem UFr.depInv {g : Nat → Option Val} {s s' : State} (h : UFr s s') (D : DepInv g s) : DepInv g s' :=
  D.of_vframe h.sh.vf

/-- `add_new_observers` keeps the `depend_on` invariant (same ghost) -/
theorem addNewObservers_depInv {env : Env} {sp : Nat → Val → Val} {g : Nat → Option Val} {rk : Nat → Nat} {fuel : Nat}
    {s s' : State} (C : CFrag env sp g rk s) (T : Inherit env g s) (hp : s.propagateInvalidity = [])
    (K : KInv env g s) (D : DepInv g s) (h : (addNewObservers env fuel).run.run s = (.ok (), s')) : DepInv g s' := by
  obtain ⟨-, -, -, v⟩ := addNewObservers_keepsK C T hp K h
  exact D.of_vframe v

/-- `unlink_disallowed_observers` keeps the `depend_on` invariant (same ghost; no fragment hypothesis) -/
theorem unlinkDisallowedObservers_depInv {g : Nat → Option Val} {fuel : Nat} {s s' : State} (D : DepInv g s)
    (h : (unlinkDisallowedObservers fuel).run.run s = (.ok (), s')) : DepInv g s' :=
  (unlinkDisallowedObservers_ufr h).depInv D

end IncrVerif.Proofs.FullH
