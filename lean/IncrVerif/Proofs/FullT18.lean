import IncrVerif.Proofs.FullT16
import IncrVerif.Proofs.FullT9
import IncrVerif.Proofs.FullH36
import IncrVerif.Proofs.NestH109
/-!
# C04 combined fragment: THE VERDICT STEP returns and keeps the totality invariants

The recompute step of the current node `n` of the drain invariant `DInvF`, `n` of kind `const`/`var`/`map`/`fold`/`bindMain`, whose ACTUAL cutoff may be `.never` or
`.dependOn a` (the virtual node has cutoff `.eq`: the step is not simulated).  The run is `maybeChangeValue env fuel n v` from `logged es (started n s)`
(`recomputeOne_eq_mcv`: the run EQUATION, for arbitrary outcomes); the cutoff check cannot fail (`mcvChanges_isSome`); if the verdict is "unchanged" the walk is
`return none`; if it is "changed", by `BSimAt.maybeChangeValueManual_stored` it suffices that the VIRTUAL walk `maybeChangeValueManual … true true` returns from the virtual
image of the state `VD.vdW n v es' es s` in which the notifications start, which is `NestH.T2b.mcvm_noerr_upd`.
`step_verdict_dt`: `FullH.step_verdict` replayed, keeping the `StepRelB` and the frames it builds (`MR.VStep`), then `dt_vstep`.
-/
namespace IncrVerif.Proofs.FullT
open IncrVerif.Engine IncrVerif.Proofs IncrVerif.Proofs.Step IncrVerif.Proofs.Sched IncrVerif.Proofs.Quiet IncrVerif.Proofs.FullH
open IncrVerif.Proofs.BindH (DInv BGraph StepRelB Edge Below TargetB ConsistentB BKind FrameB children_congr_kind)
open IncrVerif.Proofs.NestH (AuxS2 Aux2 GenOK2 F2Inv)
open IncrVerif.Proofs.MapRefH (ValFrame)

/-- the cutoff check of `maybe_change_value` cannot fail when the node of a `.dependOn` cutoff exists -/
theorem mcvChanges_isSome (env : Env) (S : State) (n : Nat) (v : Val)
    (hc : (S.nodeD n).cutoff = .eq ∨ (S.nodeD n).cutoff = .never ∨ ∃ a, (S.nodeD n).cutoff = .dependOn a ∧ a < S.nodes.size) :
    ∃ d, mcvChanges env S n v = some d := by
  unfold mcvChanges cutoffVerdict
  cases hv : (S.nodeD n).value with
  | none => exact ⟨_, rfl⟩
  | some old =>
    rcases hc with hc | hc | ⟨a, hc, ha⟩ <;> rw [hc]
    · exact ⟨_, rfl⟩
    · exact ⟨_, rfl⟩
    · dsimp only
      rw [some_of_lt ha]
      exact ⟨_, rfl⟩

/-- the prologue, the log and the new value keep the carried invariant -/
theorem pinv_vdW {s : State} {n : Nat} (v : Val) (es' es : List Event) (hP : PInv s) (hlt : n < s.nodes.size) :
    PInv (VD.vdW n v es' es s) := by
  have hX := fun m => VD.vdW_nodeD n m v es' es s hlt
  refine hP.of_nodeD (VD.vdW_size n v es' es s) (fun m => ?_) (fun m x hx => ?_)
  · rw [hX]; split
    · rename_i e; rw [e]
    · rfl
  · rw [hX] at hx; split at hx
    · rename_i e; rw [e]; exact hx
    · exact hx

section
variable {env : Env} {sp : Nat → Val → Val}

/-- **the verdict step returns**, and keeps the carried invariant -/
theorem step_verdict_returns {t s : State} {g : Nat → Option Val} {N fuel n : Nat}
    (D : DInvF env sp t s g (some n)) (hP : PInv s) (T : NestH.DT (VE env sp) N (virt g s)) (hroom : s.nodes.size ≤ N)
    (hk1 : ∀ p i, (s.nodeD n).kind ≠ .mapRef p i) (hk2 : ∀ m i, (s.nodeD n).kind ≠ .mapWithOld m i)
    (hk3 : ∀ b, (s.nodeD n).kind ≠ .bindLhsChange b) (hf : s.nodes.size ≤ fuel) (hf1 : 1 ≤ fuel) :
    ∃ r s', (recomputeOne env fuel n).run.run s = (.ok r, s') ∧ PInv s' := by
  have F := D.frag
  have I := D.inv
  have gr := I.graph
  have hi := I.heap
  obtain ⟨rk, A, hb, H, L⟩ := T
  obtain ⟨hnnec, hltv, hnvv, -, -⟩ := I.cur_facts
  have hlt : n < s.nodes.size := by rw [virt_size] at hltv; exact hltv
  have hnv : (s.nodeD n).valid = true := by rw [virt_nodeD, virtNode_valid] at hnvv; exact hnvv
  have hrhs : ∀ b lc br, (s.nodeD n).kind = .bindMain b lc → s.binds[b]? = some br → br.rhs ≠ none := by
    intro b lc br hkd hbr
    exact NestH.rhs_of_ran I A H b lc br (by rw [virt_nodeD, virtNode_kind, hkd]; rfl) hbr
  obtain ⟨v, es, -, hrun⟩ := recomputeOne_eq_mcv (fuel := fuel) F gr hlt hnv hk1 hk2 hk3 (kids_settled D) hrhs
  rw [hrun]
  -- the start state of `maybe_change_value`
  have hlt0 : n < (logged es (started n s)).nodes.size := by simp [logged, started]; exact hlt
  have hp0 : (logged es (started n s)).panicCountdown = none := F.pc
  have e0 : (logged es (started n s)).nodeD n = { s.nodeD n with recomputedAt := s.stabNum } := by
    show (started n s).nodeD n = _
    rw [started_nodeD, if_pos ⟨rfl, hlt⟩]
  rw [mcv_run' env fuel n v _ _ (some_of_lt hlt0) hp0]
  -- the cutoff check cannot fail
  obtain ⟨d, hd⟩ : ∃ d, mcvChanges env (logged es (started n s)) n v = some d := by
    apply mcvChanges_isSome
    rw [e0]
    rcases F.fr.cut n with hc | hc | ⟨a, b, hc, hkd⟩
    · exact Or.inl hc
    · exact Or.inr (Or.inl hc)
    · refine Or.inr (Or.inr ⟨a, hc, ?_⟩)
      have hch : a ∈ (virt g s).children n := by rw [virt_children, children_depend hnv hkd]; simp
      have := ((gr.node n hltv hnvv).2.2 a hch).1
      rw [virt_size] at this
      simpa [logged, started] using this
  rw [hd]
  dsimp only
  generalize hes' : mcvLog env (logged es (started n s)) n v = es'
  show ∃ r s', (maybeChangeValueManual env fuel n _ d true).run.run (VD.vdW n v es' es s) = (.ok r, s') ∧ PInv s'
  have hPX : PInv (VD.vdW n v es' es s) := pinv_vdW v es' es hP hlt
  cases d with
  | false => rw [run_mcvm_false]; exact ⟨_, _, rfl, hPX⟩
  | true =>
    have VF : ValFrame n s (VD.vdW n v es' es s) := VD.vdW_valFrame n v es' es
    have FX : FFrag env sp g (VD.vdW n v es' es s) := F.of_valFrame VF
    have hXn : (VD.vdW n v es' es s).nodeD n = { s.nodeD n with recomputedAt := s.stabNum, value := some v } := by
      rw [VD.vdW_nodeD n n v es' es s hlt, if_pos rfl]
    have hXk : ∀ p i', ((VD.vdW n v es' es s).nodeD n).kind ≠ .mapRef p i' := by intro p i'; rw [VF.kind]; exact hk1 p i'
    have hU : Upd n (virt g s) (virt g (VD.vdW n v es' es s)) := VD.vdW_upd hlt F.pc
    have hMR : MRPV (VD.vdW n v es' es s) := by
      intro c pr j p i hkc hvc hm
      rw [VF.valid]
      rw [VF.kind] at hkc
      rw [VF.valid] at hvc
      have hX := VD.vdW_nodeD n c v es' es s hlt
      have hm' : (p, i) ∈ (s.nodeD c).parents := by
        rw [hX] at hm; split at hm
        · rename_i e; rw [e]; exact hm
        · exact hm
      exact mrpv_of_bgraph gr c pr j p i hkc hvc hm'
    have B := BSimAt.maybeChangeValueManual_stored (K := FK env sp) (g := g) (sp := sp) env fuel n ((logged es (started n s)).nodeD n).value none true
      hXk (by rw [hXn]; rfl) hMR (by rw [VD.vdW_size]; exact hf)
    -- the virtual notification walk cannot panic
    have hmax := NestH.T2b.hmax_of gr hb (L.room (by rw [virt_size]; exact hroom))
    rcases hvr : (maybeChangeValueManual (VE env sp) fuel n none true true).run.run (virt g (VD.vdW n v es' es s)) with ⟨e | r, t'⟩
    · exact (NestH.T2b.mcvm_noerr_cur I hmax hU rfl hf1 hvr).elim
    · obtain ⟨s', hs', -, -, -, hp'⟩ := B.rev FX.fr hPX hvr
      exact ⟨r, s', hs', hp'⟩

/-- **the verdict step keeps the drain invariant and the totality invariant** of the virtual state -/
theorem step_verdict_dt (hF : FirstFn env) {t s s' : State} {g : Nat → Option Val} {N fuel n : Nat} {r : Option Nat}
    (D : DInvF env sp t s g (some n)) (T : NestH.DT (VE env sp) N (virt g s))
    (hk1 : ∀ p i, (s.nodeD n).kind ≠ .mapRef p i) (hk2 : ∀ m i, (s.nodeD n).kind ≠ .mapWithOld m i)
    (hk3 : ∀ b, (s.nodeD n).kind ≠ .bindLhsChange b)
    (h : (recomputeOne env fuel n).run.run s = (.ok r, s')) :
    DInvF env sp t s' g r ∧ BindH.FrameB (virt g s) (virt g s') ∧ ((virt g s').nodeD n).recomputedAt = s.stabNum ∧
      ((virt g s').nodeD n).valid = true ∧ NestH.DT (VE env sp) N (virt g s') := by
  obtain ⟨v, ch, D', V⟩ := step_verdict hF D hk1 hk2 hk3 h
  obtain ⟨-, -, hvv, -, -⟩ := D.inv.cur_facts
  have hk' : ∀ b, ((virt g s).nodeD n).kind ≠ .bindLhsChange b := by
    intro b e
    rw [virt_nodeD, virtNode_kind, virtKind_lc_iff] at e
    exact hk3 b e
  exact ⟨D', V.rel.frame, V.rel.recomputedAt, V.rel.shape.valid.trans hvv, dt_vstep T D.inv V hk'⟩

end
end IncrVerif.Proofs.FullT
