import IncrVerif.Proofs.NestH15
/-!
# Nested binds (F2), unlinking side, part 4: run forms of the single-edge removal lemmas

`removeParent c idx p` as a run, for the two situations: `p` is being unlinked (`GInv2.removeEdge`, used
inside `removeChildren`), and `p` is a closed necessary node that loses its LAST child edge and is opened as `.linking idx`
(`GInv2.dropLastEdge`, the situation of `changeChildBindRhs`: `p` is a bind's main node — possibly the main node of an INNER bind, itself a
node of an outer scope — and `c` its old right-hand side, possibly a node created in the bind's scope; then `rk c < rk p`).
-/
namespace IncrVerif.Proofs.NestH
open IncrVerif.Engine IncrVerif.Proofs IncrVerif.Proofs.Step IncrVerif.Proofs.Sched IncrVerif.Proofs.Quiet
open IncrVerif.Proofs.BindH

open NU

section
variable {env : Env} {rk : Nat → Nat} {s s' : State} {op : Nat → Op} {ex : Nat → Prop} {dy : List Nat}

/-- run form of `GInv2.removeEdge` -/
theorem removeParent_unlinking2 {c p idx : Nat} {u : Unit}
    (h : (removeParent c idx p).run.run s = (.ok u, s')) (I : GInv2 env rk s op ex dy)
    (hop : op p = .unlinking idx) (hk : (s.children p)[idx]? = some c) (hcl : op c = .closed) :
    (s'.isNecessary c = true → GInv2 env rk s' (upd op p (.unlinking (idx + 1))) ex dy) ∧
    (s'.isNecessary c = false →
      GInv2 env rk s' (upd (upd op p (.unlinking (idx + 1))) c (.unlinking 0)) ex dy) ∧
    AboveR2 rk s c s' ∧ URel s s' ∧ (∀ m, m ≠ c → s'.nodeD m = s.nodeD m) := by
  obtain ⟨pi, hidx, U, hb, hab, hu, hoth⟩ := removeParent_frame2 h I (I.kid_in hk)
  obtain ⟨h1, h2⟩ := I.removeEdge hidx U hb hop hk hcl
  exact ⟨h1, h2, hab, hu, hoth⟩

/-- run form of `GInv2.dropLastEdge`: `removeParent c idx p` where `p` is closed and necessary, `c` is its child number
`idx`, the last one.  Afterwards `p` (still necessary) is labelled `.linking idx`; `c` stays closed if it is still
necessary, and is relabelled `.unlinking 0` otherwise. -/
theorem removeParent_dropLast2 {c p idx : Nat} {u : Unit}
    (h : (removeParent c idx p).run.run s = (.ok u, s')) (I : GInv2 env rk s op ex dy)
    (hop : op p = .closed) (hnp : s.isNecessary p = true)
    (hk : (s.children p)[idx]? = some c) (hlen : (s.children p).length = idx + 1) (hcl : op c = .closed) :
    (s'.isNecessary c = true → GInv2 env rk s' (upd op p (.linking idx)) ex dy) ∧
    (s'.isNecessary c = false →
      GInv2 env rk s' (upd (upd op p (.linking idx)) c (.unlinking 0)) ex dy) ∧
    AboveR2 rk s c s' ∧ URel s s' ∧ (∀ m, m ≠ c → s'.nodeD m = s.nodeD m) := by
  obtain ⟨pi, hidx, U, hb, hab, hu, hoth⟩ := removeParent_frame2 h I (I.kid_in hk)
  obtain ⟨h1, h2⟩ := I.dropLastEdge hidx U hb hop hnp hk hlen hcl
  exact ⟨h1, h2, hab, hu, hoth⟩

/-- the case of `changeChildBindRhs`: the child has been forced necessary before its edge is removed, so it stays
necessary and closed -/
theorem removeParent_dropLast_forced2 {c p idx : Nat} {u : Unit}
    (h : (removeParent c idx p).run.run s = (.ok u, s')) (I : GInv2 env rk s op ex dy)
    (hop : op p = .closed) (hnp : s.isNecessary p = true)
    (hk : (s.children p)[idx]? = some c) (hlen : (s.children p).length = idx + 1) (hcl : op c = .closed)
    (hf : (s.nodeD c).forceNecessary = true) :
    GInv2 env rk s' (upd op p (.linking idx)) ex dy ∧ s'.isNecessary c = true ∧
    AboveR2 rk s c s' ∧ URel s s' ∧ (∀ m, m ≠ c → s'.nodeD m = s.nodeD m) := by
  obtain ⟨h1, -, hab, hu, hoth⟩ := removeParent_dropLast2 h I hop hnp hk hlen hcl
  have hnc : s'.isNecessary c = true := by
    rw [isNecessary_iff, hu.fr.forceNecessary]
    exact Or.inr (Or.inr hf)
  exact ⟨h1 hnc, hnc, hab, hu, hoth⟩

end

end IncrVerif.Proofs.NestH
