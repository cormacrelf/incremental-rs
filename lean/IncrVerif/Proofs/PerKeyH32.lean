import IncrVerif.Proofs.PerKeyH18
/-!
# twin simulation, part 10: `resolveOpnd`, `isConstant`, node creation
-/
namespace IncrVerif.Proofs.PerKeyH
open IncrVerif.Engine IncrVerif.Driver IncrVerif.Proofs IncrVerif.Proofs.Step IncrVerif.Proofs.Sched
open IncrVerif.Proofs.ExpertH IncrVerif.Proofs.EffH

section
variable {s : State} {l : List Event} {α β : Type}

/-- a read-only program followed by a continuation: the continuation starts in the same state (the twin's log may
have changed) -/
theorem TSimL.ro_seq {x x' : M α} {f f' : α → M β} (hro : Step.Pres SameS x) (hx : TSimL s l x x')
    (hf : ∀ a l1, TSimL s l1 (f a) (f' a)) : TSimL s l (x >>= f) (x' >>= f') :=
  tsimL_iff.2 (NodeSim.CommXAt.ro_seq (fun _ s1 h1 => hro.h s _ s1 h1) (tsimL_iff.1 hx) fun a l1 => tsimL_iff.1 (hf a l1))

end

theorem TSim.resolveOpnd (loc : List Nat) (o : Opnd) : TSim (Engine.resolveOpnd loc o) (Engine.resolveOpnd loc o) :=
  .of_comm fun _ => NodeSim.Comm.resolveOpnd twBlind loc o
set_option hygiene false in
macro_rules | `(tactic| simx_leaf) => `(tactic| with_reducible exact (IncrVerif.Proofs.PerKeyH.TSim.resolveOpnd _ _).commX)

/-- the constant of a `const` node (the twin has the same `const` nodes) -/
theorem TSim.isConstant (n : Nat) : TSim (Engine.isConstant n) (Engine.isConstant n) :=
  .of_comm fun _ => NodeSim.Comm.isConstant twBlind n
set_option hygiene false in
macro_rules | `(tactic| simx_leaf) => `(tactic| with_reducible exact (IncrVerif.Proofs.PerKeyH.TSim.isConstant _).commX)

/-! ## node creation -/

theorem twL_crState (l : List Event) (k : Kind) (sc : Scope) (c : CutoffK) (s : State) :
    twL l (crState k sc c s) = crState (twKind k) sc c (twL l s) := by
  have h : (s.nodes.push { kind := k, createdIn := sc, cutoff := c }).map twNode
      = (twL l s).nodes.push { kind := twKind k, createdIn := sc, cutoff := c } := by
    rw [Array.map_push]; rfl
  unfold crState twL at *
  cases sc <;> simp only [] <;> rw [h] <;> simp

/-- a new node of a kind of the fragment; the twin creates the twin kind -/
theorem TSimL.createNode {s : State} {l : List Event} {k : Kind} (sc : Scope) (c : CutoffK) (hk : XK k) :
    TSimL s l (Engine.createNode k sc c) (Engine.createNode (twKind k) sc c) := by
  intro hn r s' hr
  rw [run_createNode] at hr ⊢
  cases hr
  rw [twL_size]
  exact ⟨⟨l, by rw [twL_crState l k sc c s]⟩, fr_crState sc hn hk⟩

theorem TSim.createNode {k : Kind} (sc : Scope) (c : CutoffK) (hk : XK k) :
    TSim (Engine.createNode k sc c) (Engine.createNode (twKind k) sc c) :=
  TSim.ofL fun _ _ => TSimL.createNode sc c hk

theorem TSim.createVar (v : Val) (sc : Scope) : TSim (Engine.createVar v sc) (Engine.createVar v sc) := by
  have H := @twBlind
  refine .of_commX fun l s => ?_
  unfold Engine.createVar
  refine NodeSim.CommXAt.get_seq ?_
  vnorm
  refine NodeSim.CommXAt.seq (tsimL_iff.1 (TSimL.createNode (k := .var s.vars.size) sc .eq trivial)) fun _ _ _ _ => ?_
  sim

end IncrVerif.Proofs.PerKeyH
