import IncrVerif.Proofs.DriverH6
/-!
# Drivers: the value of an expert node after a `stabilise` with drivers, in plain terms
-/
namespace IncrVerif.Proofs.DriverH
open IncrVerif.Engine IncrVerif.Driver IncrVerif.Proofs IncrVerif.Proofs.Step IncrVerif.Proofs.Sched
open IncrVerif.Proofs.ExpertH IncrVerif.Proofs.ExpertH.QR IncrVerif.Proofs.EffH IncrVerif.Proofs.Xp

/-- the from-scratch evaluation does not read the effects -/
theorem evalX_noEffH (env : Env) (s : State) (k n : Nat) : evalX (noEff env) s k n = evalX env s k n :=
  evalX_noEff env s k n

/-- **value clause with drivers.** In a state `s'` reached by a `stabilise` of a program with drivers: a NECESSARY
expert node `n` with record `er` (closure "sum mod m", `m = er.f / 10`) carries the sum, modulo `m`, of the CURRENT values
of its CURRENT dependencies `er.children` (as left by the last runs of the drivers; in edge order, duplicates counted),
all of which have a value. -/
theorem expert_value_d {env : Env} {fuel : Nat} {s s' : State} (R : StabilisedD env fuel s s')
    {n e : Nat} {er : ExpertRec} (hn : s'.isNecessary n = true) (hk : (s'.nodeD n).kind = .expert e)
    (hx : s'.experts[e]? = some er) :
    ∃ vals : List Val, er.children.map (fun ed => s'.value env ed.child) = vals.map some ∧
      s'.value env n = some (.int (emod ((vals.map Val.toInt).foldl (· + ·) 0) ((er.f / 10 : Nat) : Int))) := by
  obtain ⟨rk, Q⟩ := R.inv
  exact expert_value_of Q.q.struct R.values hn hk hx

/-- the same for an OBSERVED expert node: what the observer reads -/
theorem expert_read_d {env : Env} {fuel : Nat} {s s' : State} (R : StabilisedD env fuel s s')
    {o : Nat} {ob : ObsRec} (ho : s'.observers[o]? = some ob) (hst : ob.state = .inUse) :
    ∃ v, s'.tryGetValue env o = .ok v ∧
      ∀ k, (s'.nodeD ob.node).height.toNat < k → evalX env s' k ob.node = some v := by
  obtain ⟨v, hv, -⟩ := R.reads o ob ho hst _ (Nat.lt_succ_self _)
  refine ⟨v, hv, fun k hk => ?_⟩
  obtain ⟨v', hv', he⟩ := R.reads o ob ho hst k hk
  rw [hv] at hv'; cases hv'; exact he

end IncrVerif.Proofs.DriverH
