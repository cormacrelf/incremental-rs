import IncrVerif.Proofs.BindH20
/-!
# Binds, linking cascade, part 2: closing a linking node; a new observer (pure step lemmas)

The second half of `Quiet4`, for `GInvB`.  Difference: `GInvB.lnec` does not say that a linking node is not queued, so the
closing lemmas take it as a hypothesis (`hnq`).
-/
namespace IncrVerif.Proofs.BindH
open IncrVerif.Engine IncrVerif.Proofs IncrVerif.Proofs.Step IncrVerif.Proofs.Sched IncrVerif.Proofs.Quiet
open BL

namespace BL

section
variable {env : Env} {s s' : State} {op : Nat → Op} {ex : Nat → Prop}

/-- closing a linking node that is not queued, general form: `s'` is `s` up to the heap and the heap marker of `n`; if
`n` is stale it has been queued (marker = height), otherwise nothing changed for it -/
theorem GInvB.close_link_gen {n k : Nat} (I : GInvB env s op ex) (hop : op n = .linking k)
    (hnq : (s.nodeD n).inRch = false)
    (hk : (s.children n).length ≤ k)
    (hh : ∀ (i c : Nat), (s.children n)[i]? = some c → (s.nodeD c).height < (s.nodeD n).height)
    (h0 : 0 ≤ (s.nodeD n).height)
    (hpc : s'.panicCountdown = s.panicCountdown) (hsc : s'.currentScope = s.currentScope)
    (hsz : s'.nodes.size = s.nodes.size) (hv : s'.vars = s.vars) (hb : s'.binds = s.binds)
    (hnode : ∀ m, ∃ x, s'.nodeD m = { s.nodeD m with heightInRch := x })
    (hmark : ∀ m, m ≠ n → (s'.nodeD m).heightInRch = (s.nodeD m).heightInRch)
    (hheap : HeapG s')
    (hq : (s.isStale n = false ∧ (s'.nodeD n).heightInRch = (s.nodeD n).heightInRch) ∨
          (s.isStale n = true ∧ (s'.nodeD n).heightInRch = (s.nodeD n).height)) :
    GInvB env s' (upd op n .closed) ex := by
  have E : KeyEq s s' := by
    refine ⟨hsz, hb, hv, ?_, ?_, ?_, ?_, ?_, ?_⟩ <;> intro m <;> obtain ⟨x, e⟩ := hnode m <;> rw [e]
  have hpa : ∀ m, (s'.nodeD m).parents = (s.nodeD m).parents := fun m => by
    obtain ⟨x, e⟩ := hnode m; rw [e]
  have hht : ∀ m, (s'.nodeD m).height = (s.nodeD m).height := fun m => by
    obtain ⟨x, e⟩ := hnode m; rw [e]
  have hnec : ∀ m, s'.isNecessary m = s.isNecessary m := fun m => by
    obtain ⟨x, e⟩ := hnode m
    simp only [State.isNecessary, Node.isNecessary, e]
  have hstale : ∀ m, s'.isStale m = s.isStale m := E.isStale I.frag
  have hch : ∀ m, s'.children m = s.children m := E.children I.frag
  have hinr : ∀ m, m ≠ n → (s'.nodeD m).inRch = (s.nodeD m).inRch := fun m h => by
    simp only [Node.inRch, hmark m h]
  have hnn := I.lnec n k hop
  have hnq' : ¬ (0 ≤ (s.nodeD n).heightInRch) := by
    intro h; simp only [Node.inRch] at hnq; simp [h] at hnq
  have hopn : upd op n .closed n = .closed := upd_self ..
  have hopo : ∀ m, m ≠ n → upd op n .closed m = op m := fun m h => upd_other _ _ _ h
  have hw : ∀ q i c, (s.children q)[i]? = some c →
      (Wants s' (upd op n .closed) q i ↔ Wants s op q i) := by
    intro q i c hkq
    by_cases e : q = n
    · rw [e] at hkq ⊢
      rw [wants_closed hopn, wants_linking hop, hnec, hnn]
      have : i < (s.children n).length := by
        rcases Nat.lt_or_ge i (s.children n).length with h | h
        · exact h
        · rw [List.getElem?_eq_none h] at hkq; cases hkq
      simp; omega
    · unfold Wants; rw [hopo q e, hnec]
  refine { frag := E.frag I.frag (by rw [hpc]; exact I.frag.pc) (by rw [hsc]; exact I.frag.scope),
           par := ?_, conv := ?_, nodup := ?_, hlt := ?_, hpos := ?_,
           lnec := ?_, unec := ?_, heap := hheap, hgt := ?_, qnec := ?_, queued := ?_,
           qstale := ?_, opLt := ?_ }
  · intro c q i hm
    rw [hpa] at hm
    obtain ⟨h1, h2⟩ := I.par c q i hm
    rw [hch]; exact ⟨h1, (hw q i c h1).2 h2⟩
  · intro q i c hkq hw'
    rw [hch] at hkq
    rw [hpa]; exact I.conv q i c hkq ((hw q i c hkq).1 hw')
  · intro m; rw [hpa]; exact I.nodup m
  · intro c q i hm ho
    rw [hpa] at hm
    rw [hht, hht]
    by_cases e : q = n
    · rw [e] at hm ⊢; exact hh i c (I.par c n i hm).1
    · rw [hopo q e] at ho; exact I.hlt c q i hm ho
  · intro m hn ho
    rw [hnec] at hn
    rw [hht]
    by_cases e : m = n
    · rw [e]; exact h0
    · rw [hopo m e] at ho; exact I.hpos m hn ho
  · intro q k' ho
    have e : q ≠ n := by intro e; rw [e, hopn] at ho; cases ho
    rw [hopo q e] at ho
    rw [hnec]; exact I.lnec q k' ho
  · intro q k' ho
    have e : q ≠ n := by intro e; rw [e, hopn] at ho; cases ho
    rw [hopo q e] at ho
    rw [hnec]; exact I.unec q k' ho
  · intro m hq' ho
    by_cases e : m = n
    · rw [e] at hq' ⊢
      rcases hq with ⟨-, h2⟩ | ⟨-, h2⟩
      · simp only [Node.inRch, h2] at hq'; exact absurd (by simpa using hq') hnq'
      · rw [h2, hht]
    · rw [hinr m e] at hq'
      rw [hopo m e] at ho
      rw [hmark m e, hht]; exact I.hgt m hq' ho
  · intro m hq'
    rw [hnec]
    by_cases e : m = n
    · rw [e]; exact Or.inl hnn
    · rw [hinr m e] at hq'
      rcases I.qnec m hq' with h | ⟨k', h⟩
      · exact Or.inl h
      · exact Or.inr ⟨k', by rw [hopo m e]; exact h⟩
  · intro m ho hn hs hx
    rw [hnec] at hn
    rw [hstale] at hs
    by_cases e : m = n
    · rw [e] at hs ⊢
      rcases hq with ⟨h1, -⟩ | ⟨-, h2⟩
      · rw [h1] at hs; cases hs
      · simp only [Node.inRch, h2]; simpa using h0
    · rw [hopo m e] at ho
      rw [hinr m e]; exact I.queued m ho hn hs hx
  · intro m hq'
    rw [hstale]
    by_cases e : m = n
    · rw [e] at hq' ⊢
      rcases hq with ⟨-, h2⟩ | ⟨h1, -⟩
      · simp only [Node.inRch, h2] at hq'; exact absurd (by simpa using hq') hnq'
      · exact h1
    · rw [hinr m e] at hq'; exact I.qstale m hq'
  · intro m ho
    have e : m ≠ n := by intro e; rw [e, hopn] at ho; exact ho rfl
    rw [hopo m e] at ho
    rw [hsz]; exact I.opLt m ho

/-- closing a linking node that is not stale (and not queued) -/
theorem GInvB.close_link_fresh {n k : Nat} (I : GInvB env s op ex) (hop : op n = .linking k)
    (hnq : (s.nodeD n).inRch = false)
    (hk : (s.children n).length ≤ k)
    (hh : ∀ (i c : Nat), (s.children n)[i]? = some c → (s.nodeD c).height < (s.nodeD n).height)
    (h0 : 0 ≤ (s.nodeD n).height) (hst : s.isStale n = false) :
    GInvB env s (upd op n .closed) ex :=
  GInvB.close_link_gen I hop hnq hk hh h0 rfl rfl rfl rfl rfl (fun _ => ⟨_, rfl⟩) (fun _ _ => rfl) I.heap
    (Or.inl ⟨hst, rfl⟩)

/-- closing a linking node that is stale (and not queued): it is inserted into the recompute heap -/
theorem GInvB.close_link_stale {n k : Nat} (I : GInvB env s op ex) (hop : op n = .linking k)
    (hnq : (s.nodeD n).inRch = false)
    (hk : (s.children n).length ≤ k)
    (hh : ∀ (i c : Nat), (s.children n)[i]? = some c → (s.nodeD c).height < (s.nodeD n).height)
    (h0 : 0 ≤ (s.nodeD n).height) (hmax : (s.nodeD n).height ≤ s.rch.maxAllowed)
    (hst : s.isStale n = true) :
    GInvB env (inserted n (s.nodeD n).height s) (upd op n .closed) ex := by
  have hlt : n < s.nodes.size := I.opLt n (by rw [hop]; exact Op.linking_ne_closed _)
  refine GInvB.close_link_gen I hop hnq hk hh h0 rfl rfl (Array.size_modify ..) rfl rfl ?_ ?_
    (I.heap.inserted hlt hnq h0 hmax) (Or.inr ⟨hst, ?_⟩)
  · intro m
    rw [inserted_nodeD]
    split
    · exact ⟨_, rfl⟩
    · exact ⟨_, rfl⟩
  · intro m hm
    rw [inserted_nodeD, if_neg (fun e => hm e.1.symm)]
  · rw [inserted_nodeD, if_pos ⟨rfl, hlt⟩]

/-! ## observers -/

/-- a new observer on a node that is already necessary -/
theorem GInvB.addObs_nec {n : Nat} {l : List Nat} (I : GInvB env s op ex) (U : NodeUpd n (fObservers l) s s')
    (hb : s'.binds = s.binds)
    (hl : l ≠ []) (hn : s.isNecessary n = true) : GInvB env s' op ex := by
  have K := keeps_fObservers l
  have E := KeyEq.of_upd U K hb
  have hpa : ∀ m, (s'.nodeD m).parents = (s.nodeD m).parents := fun m => by
    by_cases e : m = n
    · rw [e]; exact U.parents_self
    · exact U.parents_other e
  have hht : ∀ m, (s'.nodeD m).height = (s.nodeD m).height := fun m => by
    by_cases e : m = n
    · rw [e]; exact U.height_self
    · exact U.height_other e
  have hnec : ∀ m, s'.isNecessary m = s.isNecessary m := fun m => by
    by_cases e : m = n
    · rw [e, hn]; exact (U.nec_self_iff K).2 (Or.inr (Or.inl hl))
    · exact U.nec_other e
  have hw : ∀ q i, Wants s' op q i ↔ Wants s op q i := fun q i => by unfold Wants; rw [hnec]
  refine { frag := E.frag I.frag (by rw [U.pc]; exact I.frag.pc) (by rw [U.scope]; exact I.frag.scope),
           par := ?_, conv := ?_, nodup := ?_, hlt := ?_, hpos := ?_,
           lnec := ?_, unec := ?_, heap := U.heap K I.heap, hgt := ?_, qnec := ?_, queued := ?_,
           qstale := ?_, opLt := ?_ }
  · intro c q i hm
    rw [hpa] at hm
    rw [E.children I.frag, hw]; exact I.par c q i hm
  · intro q i c hk hw'
    rw [E.children I.frag] at hk
    rw [hw] at hw'
    rw [hpa]; exact I.conv q i c hk hw'
  · intro m; rw [hpa]; exact I.nodup m
  · intro c q i hm ho
    rw [hpa] at hm
    rw [hht, hht]
    exact I.hlt c q i hm ho
  · intro m hn ho
    rw [hnec] at hn
    rw [hht]; exact I.hpos m hn ho
  · intro q k ho
    rw [hnec]; exact I.lnec q k ho
  · intro q k ho
    rw [hnec]; exact I.unec q k ho
  · intro m hq ho
    rw [U.inRch K] at hq
    rw [U.heightInRch K, hht]; exact I.hgt m hq ho
  · intro m hq
    rw [U.inRch K] at hq
    rw [hnec]; exact I.qnec m hq
  · intro m ho hn hs hx
    rw [hnec] at hn
    rw [E.isStale I.frag] at hs
    rw [U.inRch K]; exact I.queued m ho hn hs hx
  · intro m hq
    rw [U.inRch K] at hq
    rw [E.isStale I.frag]; exact I.qstale m hq
  · intro m ho
    rw [U.size]; exact I.opLt m ho

/-- a new observer on an unnecessary node: it is now open with no edge recorded, and it is not queued -/
theorem GInvB.addObs_open {n : Nat} {l : List Nat} (I : GInvB env s op ex) (U : NodeUpd n (fObservers l) s s')
    (hb : s'.binds = s.binds)
    (hl : l ≠ []) (hn : s.isNecessary n = false) (hcl : op n = .closed) :
    GInvB env s' (upd op n (.linking 0)) ex ∧ (s'.nodeD n).parents = [] ∧ (s'.nodeD n).inRch = false := by
  have K := keeps_fObservers l
  have E := KeyEq.of_upd U K hb
  have hpa : ∀ m, (s'.nodeD m).parents = (s.nodeD m).parents := fun m => by
    by_cases e : m = n
    · rw [e]; exact U.parents_self
    · exact U.parents_other e
  have hnq : (s.nodeD n).inRch = false := GInvB.not_queued_of_not_nec I hn hcl
  refine ⟨?_, by rw [hpa]; exact parents_nil_of_not_nec hn, by rw [U.inRch K]; exact hnq⟩
  have hht : ∀ m, (s'.nodeD m).height = (s.nodeD m).height := fun m => by
    by_cases e : m = n
    · rw [e]; exact U.height_self
    · exact U.height_other e
  have hnec : ∀ m, m ≠ n → s'.isNecessary m = s.isNecessary m := fun m e => U.nec_other e
  have hnecn : s'.isNecessary n = true := (U.nec_self_iff K).2 (Or.inr (Or.inl hl))
  have hopn : upd op n (.linking 0) n = .linking 0 := upd_self ..
  have hopo : ∀ m, m ≠ n → upd op n (.linking 0) m = op m := fun m h => upd_other _ _ _ h
  have hcl' : ∀ m, upd op n (.linking 0) m = .closed → m ≠ n ∧ op m = .closed :=
    fun m h => upd_closed_inv (Op.linking_ne_closed _) h
  have hw : ∀ q i, Wants s' (upd op n (.linking 0)) q i ↔ Wants s op q i := fun q i => by
    by_cases e : q = n
    · rw [e, wants_linking hopn, wants_closed hcl, hn]; simp
    · unfold Wants; rw [hopo q e, hnec q e]
  refine { frag := E.frag I.frag (by rw [U.pc]; exact I.frag.pc) (by rw [U.scope]; exact I.frag.scope),
           par := ?_, conv := ?_, nodup := ?_, hlt := ?_, hpos := ?_,
           lnec := ?_, unec := ?_, heap := U.heap K I.heap, hgt := ?_, qnec := ?_, queued := ?_,
           qstale := ?_, opLt := ?_ }
  · intro c q i hm
    rw [hpa] at hm
    rw [E.children I.frag, hw]; exact I.par c q i hm
  · intro q i c hk hw'
    rw [E.children I.frag] at hk
    rw [hw] at hw'
    rw [hpa]; exact I.conv q i c hk hw'
  · intro m; rw [hpa]; exact I.nodup m
  · intro c q i hm ho
    rw [hpa] at hm
    rw [hht, hht]
    exact I.hlt c q i hm (hcl' q ho).2
  · intro m hn' ho
    obtain ⟨h1, h2⟩ := hcl' m ho
    rw [hnec m h1] at hn'
    rw [hht]; exact I.hpos m hn' h2
  · intro q k ho
    by_cases e : q = n
    · rw [e]; exact hnecn
    · rw [hopo q e] at ho
      rw [hnec q e]; exact I.lnec q k ho
  · intro q k ho
    have e : q ≠ n := by intro e; rw [e, hopn] at ho; cases ho
    rw [hopo q e] at ho
    rw [hnec q e]; exact I.unec q k ho
  · intro m hq ho
    rw [U.inRch K] at hq
    rw [U.heightInRch K, hht]; exact I.hgt m hq (hcl' m ho).2
  · intro m hq
    rw [U.inRch K] at hq
    have e : m ≠ n := by intro e; rw [e, hnq] at hq; cases hq
    rw [hnec m e]
    rcases I.qnec m hq with h | ⟨k, h⟩
    · exact Or.inl h
    · exact Or.inr ⟨k, by rw [hopo m e]; exact h⟩
  · intro m ho hn' hs hx
    obtain ⟨h1, h2⟩ := hcl' m ho
    rw [hnec m h1] at hn'
    rw [E.isStale I.frag] at hs
    rw [U.inRch K]; exact I.queued m h2 hn' hs hx
  · intro m hq
    rw [U.inRch K] at hq
    rw [E.isStale I.frag]; exact I.qstale m hq
  · intro m ho
    rw [U.size]
    by_cases e : m = n
    · rw [e]; exact U.lt
    · rw [hopo m e] at ho; exact I.opLt m ho

end

end BL

end IncrVerif.Proofs.BindH
