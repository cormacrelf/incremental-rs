import IncrVerif.Proofs.Footprint
/-!
# Binds, part 4h-0 (B4): nothing but the `create` action writes the naming table `top`

`TopSame s s'` (`s'.top = s.top`) is kept by EVERY function reachable from `stabilise` (and from the other API actions of the fragment), whatever the
outcome: no primitive write of the engine (`Footprint.Edit`) touches `top`.
-/
open IncrVerif.Engine IncrVerif.Proofs IncrVerif.Proofs.Step IncrVerif.Proofs.Footprint
namespace IncrVerif.Proofs.BindH.C2h

/-- the naming table is unchanged -/
structure TopSame (s s' : State) : Prop where
  top : s'.top = s.top

instance : PreOrd TopSame := ⟨fun _ => ⟨rfl⟩, fun h1 h2 => ⟨h2.top.trans h1.top⟩⟩

theorem TopSame.of_edit {L w} {s s' : State} (e : Edit L w s s') : TopSame s s' := ⟨e.top⟩

theorem PresTop.setHeight (n h) : Step.Pres TopSame (setHeight n h) :=
  (Foot.setHeight n h).frame TopSame.of_edit
theorem PresTop.ensureHeightRequirement (a b c d) : Step.Pres TopSame (ensureHeightRequirement a b c d) :=
  (Foot.ensureHeightRequirement a b c d).frame TopSame.of_edit
theorem PresTop.adjustHeights (oc op fuel) : Step.Pres TopSame (adjustHeights oc op fuel) :=
  (Foot.adjustHeights oc op fuel).frame TopSame.of_edit
theorem PresTop.addParent (a b c) : Step.Pres TopSame (addParent a b c) :=
  (Foot.addParent a b c).frame TopSame.of_edit
theorem PresTop.removeParent (a b c) : Step.Pres TopSame (removeParent a b c) :=
  (Foot.removeParent a b c).frame TopSame.of_edit
theorem PresTop.handleAfterStabilisation (n) : Step.Pres TopSame (handleAfterStabilisation n) :=
  (Foot.handleAfterStabilisation n).frame TopSame.of_edit
theorem PresTop.shouldCutoff (env n o v) : Step.Pres TopSame (shouldCutoff env n o v) :=
  (Foot.shouldCutoff env n o v).frame TopSame.of_edit
theorem PresTop.markMapRefUnknown (fuel n) : Step.Pres TopSame (markMapRefUnknown fuel n) :=
  (Foot.markMapRefUnknown fuel n).frame TopSame.of_edit

theorem PresTop.necessary (env : Env) (fuel : Nat) :
    (∀ n, Step.Pres TopSame (becameNecessary env fuel n)) ∧
    (∀ c i p, Step.Pres TopSame (addParentWithoutAdjustingHeights env fuel c i p)) :=
  ⟨fun n => (Foot.becameNecessary env fuel n).frame TopSame.of_edit,
   fun c i p => (Foot.addParentWithoutAdjustingHeights env fuel c i p).frame TopSame.of_edit⟩
theorem PresTop.becameNecessary (env fuel n) : Step.Pres TopSame (becameNecessary env fuel n) :=
  (PresTop.necessary env fuel).1 n
theorem PresTop.addParentWithoutAdjustingHeights (env fuel c i p) :
    Step.Pres TopSame (addParentWithoutAdjustingHeights env fuel c i p) := (PresTop.necessary env fuel).2 c i p

theorem PresTop.unnecessary (fuel : Nat) :
    (∀ n, Step.Pres TopSame (becameUnnecessary fuel n)) ∧ (∀ n, Step.Pres TopSame (checkIfUnnecessary fuel n)) ∧
    (∀ n, Step.Pres TopSame (removeChildren fuel n)) :=
  ⟨fun n => (Foot.becameUnnecessary fuel n).frame TopSame.of_edit, fun n => (Foot.checkIfUnnecessary fuel n).frame TopSame.of_edit,
   fun n => (Foot.removeChildren fuel n).frame TopSame.of_edit⟩
theorem PresTop.becameUnnecessary (fuel n) : Step.Pres TopSame (becameUnnecessary fuel n) :=
  (PresTop.unnecessary fuel).1 n
theorem PresTop.checkIfUnnecessary (fuel n) : Step.Pres TopSame (checkIfUnnecessary fuel n) :=
  (PresTop.unnecessary fuel).2.1 n
theorem PresTop.removeChildren (fuel n) : Step.Pres TopSame (removeChildren fuel n) :=
  (PresTop.unnecessary fuel).2.2 n

theorem PresTop.invalidateNode (fuel n) : Step.Pres TopSame (invalidateNode fuel n) :=
  (Foot.invalidateNode fuel n).frame TopSame.of_edit
theorem PresTop.propagateInvalidity (fuel) : Step.Pres TopSame (propagateInvalidity fuel) :=
  (Foot.propagateInvalidity fuel).frame TopSame.of_edit
theorem PresTop.changeChildBindRhs (env fuel m o nw i) :
    Step.Pres TopSame (changeChildBindRhs env fuel m o nw i) :=
  (Foot.changeChildBindRhs env fuel m o nw i).frame TopSame.of_edit

theorem PresTop.assertRunningIsChild (n name) : Step.Pres TopSame (assertRunningIsChild n name) :=
  (Foot.assertRunningIsChild n name).frame TopSame.of_edit
theorem PresTop.expertAddDependency (env fuel n c cb) :
    Step.Pres TopSame (expertAddDependency env fuel n c cb) :=
  (Foot.expertAddDependency env fuel n c cb).frame TopSame.of_edit

theorem PresTop.elabInstr (loc v i) : Step.Pres TopSame (elabInstr loc v i) :=
  (Foot.elabInstr loc v i).frame TopSame.of_edit
theorem PresTop.didSetVarWhileNotStabilising (v) : Step.Pres TopSame (didSetVarWhileNotStabilising v) :=
  (Foot.didSetVarWhileNotStabilising v).frame TopSame.of_edit
theorem PresTop.writeVar (v f b) : Step.Pres TopSame (writeVar v f b) :=
  (Foot.writeVar v f b).frame TopSame.of_edit

theorem PresTop.parentIterCanRecomputeNow (p c) : Step.Pres TopSame (parentIterCanRecomputeNow p c) :=
  (Foot.parentIterCanRecomputeNow p c).frame TopSame.of_edit
theorem PresTop.maybeChangeValue (env fuel n v) : Step.Pres TopSame (maybeChangeValue env fuel n v) :=
  (Foot.maybeChangeValue env fuel n v).lift TopSame.of_edit
theorem PresTop.recomputeOne (env fuel n) : Step.Pres TopSame (recomputeOne env fuel n) :=
  (Foot.recomputeOne env fuel n).lift TopSame.of_edit
theorem PresTop.recompute (env fuel n) : Step.Pres TopSame (recompute env fuel n) :=
  (Foot.recompute env fuel n).frame TopSame.of_edit
theorem PresTop.drainHeap (env fuel) : Step.Pres TopSame (drainHeap env fuel) :=
  (Foot.drainHeap env fuel).frame TopSame.of_edit
theorem PresTop.runAll (env fuel o n nu now) : Step.Pres TopSame (runAll env fuel o n nu now) :=
  (Foot.runAll env fuel o n nu now).frame TopSame.of_edit
theorem PresTop.stabiliseEnd (env fuel) : Step.Pres TopSame (stabiliseEnd env fuel) :=
  (Foot.stabiliseEnd env fuel).frame TopSame.of_edit

/-- **`stabilise` never touches the naming table**, whatever its outcome. -/
theorem PresTop.stabilise (env fuel) : Step.Pres TopSame (stabilise env fuel) :=
  (Foot.stabilise env fuel).frame TopSame.of_edit

end IncrVerif.Proofs.BindH.C2h
