import IncrVerif.Proofs.Quiet20
/-!
# Part 21: the linking cascade returns
-/
namespace IncrVerif.Proofs.Quiet
open IncrVerif.Engine IncrVerif.Driver IncrVerif.Proofs IncrVerif.Proofs.Step IncrVerif.Proofs.Sched

namespace P21

/-! ## forward helpers -/

/-- the tail `match kind? with | some (.expert e) => … | _ => pure ()` of both cascade functions does nothing
for a static node -/
theorem tail_tot {env : Env} {p : Nat} {t : State} {Q : Unit → State → Prop} (g : Nat → M Unit)
    (hp : p < t.nodes.size) (hv : (t.nodeD p).valid = true) (hk : StaticKind env (t.nodeD p).kind)
    (hq : Q () t) :
    Tot (do let x ← getNode p
            match x.kind? with
            | some (.expert e) => g e
            | _ => pure ()) t Q := by
  refine Tot.bind_getNode hp ?_
  have hq' : (t.nodeD p).kind? = some (t.nodeD p).kind := by rw [Node.kind?, hv]; rfl
  rw [hq']
  cases hkd : (t.nodeD p).kind <;> rw [hkd] at hk <;> first | exact Tot.pure hq | exact hk.elim

/-! ## the two statements -/

def BNTot (env : Env) (N fuel : Nat) : Prop :=
  ∀ n s op, GInv env s op → HBo s op → Room N s → op n = .linking 0 → (∀ m, op m ≠ .closed → n ≤ m) →
    (∀ p i, (p, i) ∈ (s.nodeD n).parents → op p ≠ .closed) → 2 * n + 2 ≤ fuel →
    Tot (becameNecessary env fuel n) s (fun _ s' => HBo s' (upd op n .closed))

def APTot (env : Env) (N fuel : Nat) : Prop :=
  ∀ c idx p s op, GInv env s op → HBo s op → Room N s → op p = .linking idx →
    (kids (s.nodeD p).kind)[idx]? = some c → (∀ m, op m ≠ .closed → c < m) → 2 * c + 3 ≤ fuel →
    Tot (addParentWithoutAdjustingHeights env fuel c idx p) s
      (fun _ s' => HBo s' (upd op p (.linking (idx + 1))))

theorem link_tot (env : Env) (N fuel : Nat) : BNTot env N fuel ∧ APTot env N fuel :=
  have L := CutH.link_corr env N fuel
  ⟨fun n s op I hb R hop hlow hpar hf =>
      have ⟨u, s', h, J⟩ := (L.1 n s (cop op) I.toC (cop_linking.2 hop) (fun m hm => hlow m (cop_ne_closed.1 hm))
        (fun p i hp => cop_ne_closed.2 (hpar p i hp))).tot ⟨hbo_cop.2 hb, R.toC, hf⟩
      ⟨u, s', h, HBo.ofC (J.2.2.2 (hbo_cop.2 hb))⟩,
    fun c idx p s op I hb R hop hk hlow hf =>
      have ⟨u, s', h, J⟩ := (L.2 c idx p s (cop op) I.toC (cop_linking.2 hop) hk
        (fun m hm => hlow m (cop_ne_closed.1 hm))).tot ⟨hbo_cop.2 hb, R.toC, hf⟩
      ⟨u, s', h, HBo.ofC (J.2.2.2.2 (hbo_cop.2 hb))⟩⟩

end P21
open P21

/-- **the linking cascade returns** (no assertion fails, the height limit is not hit, the fuel suffices), and the
height bound is kept -/
theorem becameNecessary_total {env : Env} {N fuel n : Nat} {s : State} {op : Nat → Op}
    (I : GInv env s op) (hb : HBo s op) (R : Room N s)
    (hop : op n = .linking 0) (hlow : ∀ m, op m ≠ .closed → n ≤ m)
    (hpar : ∀ p i, (p, i) ∈ (s.nodeD n).parents → op p ≠ .closed) (hf : 2 * n + 2 ≤ fuel) :
    Tot (becameNecessary env fuel n) s (fun _ s' => HBo s' (upd op n .closed)) :=
  (link_tot env N fuel).1 n s op I hb R hop hlow hpar hf

end IncrVerif.Proofs.Quiet
