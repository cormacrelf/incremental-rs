import IncrVerif.Proofs.MapRef29
/-!
# T1b, part 1: the BISIMULATION calculus for the fragment static + `map_ref`

`MapRefH.Sim g x x'` is a forward simulation (actual ok ⇒ virtual ok).  Total correctness needs the converse as well:
`BSimAt P g s x x'` = from `s` (satisfying the carried invariant `P`)
 * every successful run of `x` is matched by a successful run of `x'` from `virt g s` (same result, final state
   `virt g s'`), and `P s'`;
 * every successful run of `x'` from `virt g s` is matched by a successful run of `x` from `s` with the same result.
The carried invariant `P` is a parameter (`Keeps P`): `Fr` for the API actions, `P2 N` (`Fr` + node count + "children
have smaller indices" + "recorded parent entries are child edges") for the cascades and the drain.
-/
namespace IncrVerif.Proofs.TidyH.RT
open IncrVerif.Engine IncrVerif.Driver IncrVerif.Proofs IncrVerif.Proofs.Step IncrVerif.Proofs.Sched IncrVerif.Proofs.Quiet
open IncrVerif.Proofs.MapRefH

/-- what a benign node update keeps -/
def NKeep (nd nd' : Node) : Prop :=
  nd'.kind = nd.kind ∧ nd'.valid = nd.valid ∧ nd'.cutoff = nd.cutoff ∧ nd'.parents = nd.parents ∧ nd'.value = nd.value

/-- an invariant that the bisimulation can carry: it implies `Fr` and is kept by benign updates -/
class Keeps (P : State → Prop) : Prop where
  fr : ∀ {s : State}, P s → Fr s
  of_nodes : ∀ {s s' : State}, P s → s'.nodes = s.nodes → s'.propagateInvalidity = s.propagateInvalidity → P s'
  modify : ∀ {s : State} (n : Nat) (f : Node → Node), P s → (∀ nd, NKeep nd (f nd)) →
    P { s with nodes := s.nodes.modify n f }
  rmParent : ∀ {s : State} (c k : Nat), P s →
    P { s with nodes := s.nodes.modify c fun x => { x with parents := swapRemove x.parents k } }

instance : Keeps Fr where
  fr h := h
  of_nodes h e1 e2 := h.of_nodes e1 e2
  modify n f h hk := fr_modify h n f fun nd => ⟨(hk nd).1, (hk nd).2.1, (hk nd).2.2.1⟩
  rmParent c k h := fr_modify h c _ fun _ => ⟨rfl, rfl, rfl⟩

def BSimAt (P : State → Prop) (g : Nat → Option Val) (s : State) {α} (x x' : M α) : Prop :=
  P s → (∀ r s', x.run.run s = (.ok r, s') → x'.run.run (virt g s) = (.ok r, virt g s') ∧ P s') ∧
    (∀ r t, x'.run.run (virt g s) = (.ok r, t) → ∃ s', x.run.run s = (.ok r, s'))

def BSim (P : State → Prop) (g : Nat → Option Val) {α} (x x' : M α) : Prop := ∀ s, BSimAt P g s x x'

theorem blindP {P : State → Prop} [Keeps P] (g : Nat → Option Val) : NodeSim.Blind (rel g) P where
  default := (blind g).default
  kind := (blind g).kind
  children := (blind g).children
  isStale := (blind g).isStale
  tick _ := NodeSim.Comm.tick_of fun _ h => Keeps.of_nodes h rfl rfl
  of_nodes h e1 e2 _ _ _ := Keeps.of_nodes h e1 e2
  modify n f h hk := Keeps.modify n f h fun nd => ⟨(hk nd).1, (hk nd).2.1, (hk nd).2.2.1, (hk nd).2.2.2.2.2.1, (hk nd).2.2.2.2.2.2.1⟩
  rmParent c k h := Keeps.rmParent c k h
  invalid h hn hv := absurd ((Keeps.fr h).some hn).2 (by rw [hv]; decide)

section
variable {P : State → Prop} {g : Nat → Option Val} {s : State} {α β : Type}

theorem BSim.at {x x' : M α} (h : BSim P g x x') (s : State) : BSimAt P g s x x' := h s

/-- the two halves, for use -/
theorem BSimAt.fwd {x x' : M α} (h : BSimAt P g s x x') (hp : P s) {r : α} {s' : State}
    (hr : x.run.run s = (.ok r, s')) : x'.run.run (virt g s) = (.ok r, virt g s') ∧ P s' := (h hp).1 r s' hr

theorem BSimAt.rev {x x' : M α} (h : BSimAt P g s x x') (hp : P s) {r : α} {t : State}
    (hr : x'.run.run (virt g s) = (.ok r, t)) : ∃ s', x.run.run s = (.ok r, s') ∧ t = virt g s' ∧ P s' := by
  obtain ⟨s', hs'⟩ := (h hp).2 r t hr
  obtain ⟨h1, h2⟩ := (h hp).1 r s' hs'
  rw [h1] at hr; cases hr
  exact ⟨s', hs', rfl, h2⟩

/-- **transfer**: a total-correctness statement about the virtual run gives one about the actual run -/
theorem BSimAt.tot {x x' : M α} (h : BSimAt P g s x x') (hp : P s) {Q : α → State → Prop}
    (T : Tot x' (virt g s) Q) : Tot x s (fun a s' => Q a (virt g s') ∧ P s') := by
  obtain ⟨a, t, h1, h2⟩ := T
  obtain ⟨s', hs', e, hp'⟩ := h.rev hp h1
  exact ⟨a, s', hs', by rw [← e]; exact h2, hp'⟩

/-- a simulation that reproduces every outcome is a bisimulation -/
theorem BSimAt.of_comm {x x' : M α} (h : NodeSim.CommAt (fun _ => True) (rel g).app P s x x') : BSimAt P g s x x' := by
  intro hp
  rw [virt_eq]
  refine ⟨fun r s' hr => ?_, fun r t hr => ?_⟩
  · rw [virt_eq]; exact h.fwd hp hr
  · obtain ⟨s', h1, -, -⟩ := h.rev (fun _ => trivial) hp hr
    exact ⟨s', h1⟩

theorem BSim.of_comm {x x' : M α} (h : NodeSim.Comm (fun _ => True) (rel g).app P x x') : BSim P g x x' :=
  fun s => .of_comm (h s)

theorem obsWorkP {E : Panic → Prop} [Keeps P] (g : Nat → Option Val) : NodeSim.ObsWork E (fun _ : Unit => rel g) fun _ => P :=
  .of_noExp fun h => noExp (Keeps.fr h)

theorem changesNecessityP [Keeps P] : NodeSim.ChangesNecessity P := fun n f h hk =>
  Keeps.modify n f h fun nd => ⟨(hk nd).1, (hk nd).2.1, (hk nd).2.2.1, (hk nd).2.2.2.2.2.1, (hk nd).2.2.2.2.2.2⟩

theorem writesExpertsP [Keeps P] : NodeSim.WritesExperts P := fun _ _ h => Keeps.of_nodes h rfl rfl

theorem BSimAt.ret (a : α) : BSimAt P g s (pure a : M α) (pure a) := by
  intro hp
  refine ⟨fun r s' h => ?_, fun r t h => ?_⟩
  · rw [run_pure] at h; cases h; exact ⟨rfl, hp⟩
  · rw [run_pure] at h; cases h; exact ⟨s, rfl⟩

theorem BSimAt.thr (e e' : Panic) : BSimAt P g s (throw e : M α) (throw e') := by
  intro _
  refine ⟨fun r s' h => ?_, fun r t h => ?_⟩
  · rw [run_throw] at h; cases h
  · rw [run_throw] at h; cases h

theorem BSimAt.pan (e e' : String) : BSimAt P g s (Engine.panic e : M α) (Engine.panic e') := BSimAt.thr _ _

theorem BSimAt.seq {x x' : M α} {f f' : α → M β} (hx : BSimAt P g s x x')
    (hf : ∀ a s1, x.run.run s = (.ok a, s1) → BSimAt P g s1 (f a) (f' a)) :
    BSimAt P g s (x >>= f) (x' >>= f') := by
  intro hp
  refine ⟨fun r s' h => ?_, fun r t h => ?_⟩
  · obtain ⟨a, s1, h1, h2⟩ := bind_ok_inv h
    obtain ⟨e1, p1⟩ := hx.fwd hp h1
    rw [run_bind_ok e1]
    exact (hf a s1 h1).fwd p1 h2
  · obtain ⟨a, t1, h1, h2⟩ := bind_ok_inv h
    obtain ⟨s1, hs1, e, p1⟩ := hx.rev hp h1
    rw [e] at h2
    obtain ⟨s', hs', -, -⟩ := (hf a s1 hs1).rev p1 h2
    exact ⟨s', by rw [run_bind_ok hs1]; exact hs'⟩

theorem BSimAt.get_seq {k k' : State → M β} (h : BSimAt P g s (k s) (k' (virt g s))) :
    BSimAt P g s (get >>= k) (get >>= k') := by
  intro hp
  refine ⟨fun r s' hr => ?_, fun r t hr => ?_⟩
  · rw [run_bind_get] at hr ⊢; exact h.fwd hp hr
  · rw [run_bind_get] at hr
    obtain ⟨s', hs', -, -⟩ := h.rev hp hr
    exact ⟨s', by rw [run_bind_get]; exact hs'⟩

/-- the carried invariant of the current state may be used -/
theorem BSimAt.intro_inv {x x' : M α} (h : P s → BSimAt P g s x x') : BSimAt P g s x x' := fun hp => h hp hp

theorem BSimAt.get_seq' {k k' : State → M β} (h : P s → BSimAt P g s (k s) (k' (virt g s))) :
    BSimAt P g s (get >>= k) (get >>= k') := BSimAt.intro_inv fun hp => BSimAt.get_seq (h hp)

theorem BSimAt.getNode_seq [Keeps P] {n : Nat} {k k' : Node → M β}
    (h : ∀ nd, s.nodes[n]? = some nd → (∀ e, nd.kind ≠ .expert e) → nd.valid = true →
      BSimAt P g s (k nd) (k' (virtNode (g n) nd))) :
    BSimAt P g s (getNode n >>= k) (getNode n >>= k') := by
  intro hp
  have hn := Keeps.fr hp
  refine ⟨fun r s' hr => ?_, fun r t hr => ?_⟩
  · obtain ⟨nd, hnd, hr⟩ := bind_getNode_inv hr
    have hv : (virt g s).nodes[n]? = some (virtNode (g n) nd) := by rw [virt_getElem?, hnd]; rfl
    rw [run_bind_ok (run_getNode_some hv)]
    exact (h nd hnd (hn.some hnd).1 (hn.some hnd).2).fwd hp hr
  · obtain ⟨vnd, hvnd, hr⟩ := bind_getNode_inv hr
    rw [virt_getElem?] at hvnd
    cases hnd : s.nodes[n]? with
    | none => rw [hnd] at hvnd; cases hvnd
    | some nd =>
      rw [hnd] at hvnd
      simp only [Option.map_some, Option.some.injEq] at hvnd
      subst hvnd
      obtain ⟨s', hs', -, -⟩ := (h nd hnd (hn.some hnd).1 (hn.some hnd).2).rev hp hr
      exact ⟨s', by rw [run_bind_ok (run_getNode_some hnd)]; exact hs'⟩

theorem BSimAt.mod [Keeps P] {f f' : State → State} (h : virt g (f s) = f' (virt g s)) (hn : (f s).nodes = s.nodes)
    (hpi : (f s).propagateInvalidity = s.propagateInvalidity) :
    BSimAt P g s (modify f : M Unit) (modify f') := by
  intro hp
  refine ⟨fun r s' hr => ?_, fun r t hr => ?_⟩
  · rw [run_modify] at hr ⊢; cases hr; rw [h]; exact ⟨rfl, Keeps.of_nodes hp hn hpi⟩
  · rw [run_modify] at hr; cases hr; exact ⟨_, run_modify _ _⟩

theorem BSimAt.mod_seq [Keeps P] {f f' : State → State} {k k' : Unit → M β} (h : virt g (f s) = f' (virt g s))
    (hn : (f s).nodes = s.nodes) (hpi : (f s).propagateInvalidity = s.propagateInvalidity)
    (hk : BSimAt P g (f s) (k ()) (k' ())) :
    BSimAt P g s ((modify f : M Unit) >>= k) ((modify f' : M Unit) >>= k') :=
  BSimAt.seq (BSimAt.mod h hn hpi) fun a s1 h1 => by
    rw [run_modify] at h1; cases h1; exact hk

theorem BSimAt.cond {c c' : Prop} {_ : Decidable c} {_ : Decidable c'} {a b a' b' : M α} (hc : c ↔ c')
    (ha : c → BSimAt P g s a a') (hb : ¬ c → BSimAt P g s b b') :
    BSimAt P g s (if c then a else b) (if c' then a' else b') := by
  by_cases h : c
  · rw [if_pos h, if_pos (hc.1 h)]; exact ha h
  · rw [if_neg h, if_neg (fun h' => h (hc.2 h'))]; exact hb h

/-- change of the carried invariant -/
theorem BSimAt.change {P' : State → Prop} {x x' : M α} (h : BSimAt P' g s x x') (h1 : P s → P' s)
    (h2 : ∀ s', P' s' → P s') : BSimAt P g s x x' := by
  intro hp
  refine ⟨fun r s' hr => ?_, fun r t hr => (h (h1 hp)).2 r t hr⟩
  obtain ⟨e, p'⟩ := h.fwd (h1 hp) hr
  exact ⟨e, h2 s' p'⟩

/-- both programs re-written -/
theorem BSimAt.congr {x y x' y' : M α} {s0 : State} (h : BSimAt P g s0 y y')
    (e1 : x.run.run s = y.run.run s0) (e2 : x'.run.run (virt g s) = y'.run.run (virt g s0)) (hp0 : P s → P s0) :
    BSimAt P g s x x' := by
  intro hp
  refine ⟨fun r s' hr => ?_, fun r t hr => ?_⟩
  · rw [e1] at hr; rw [e2]; exact h.fwd (hp0 hp) hr
  · rw [e2] at hr
    obtain ⟨s', hs', -, -⟩ := h.rev (hp0 hp) hr
    exact ⟨s', by rw [e1]; exact hs'⟩

/-- a commuting node update that keeps the carried invariant -/
theorem BSimAt.modNode' (n : Nat) {f f' : Node → Node}
    (hf : ∀ gv nd, virtNode gv (f nd) = f' (virtNode gv nd))
    (hP : P s → P { s with nodes := s.nodes.modify n f }) :
    BSimAt P g s (Engine.modNode n f) (Engine.modNode n f') := by
  intro hp
  refine ⟨fun r s' hr => ?_, fun r t hr => ?_⟩
  · rw [run_modNode] at hr ⊢
    cases hr
    refine ⟨?_, hP hp⟩
    congr 1
    simp only [virt]
    congr 1
    apply Array.ext
    · simp
    · intro i h1 h2
      simp only [Array.getElem_mapIdx, Array.getElem_modify]
      split
      · rename_i e; subst e; exact (hf _ _).symm
      · rfl
  · rw [run_modNode] at hr; cases hr; exact ⟨_, run_modNode _ _ _⟩

/-- a commuting benign node update -/
theorem BSim.modNode [Keeps P] (n : Nat) {f f' : Node → Node}
    (hf : ∀ gv nd, virtNode gv (f nd) = f' (virtNode gv nd)) (hk : ∀ nd, NKeep nd (f nd)) :
    BSim P g (Engine.modNode n f) (Engine.modNode n f') :=
  fun _ => BSimAt.modNode' n hf fun hp => Keeps.modify n f hp hk

theorem BSim.forIn {γ : Type} (l : List γ) {f f' : γ → β → M (ForInStep β)}
    (h : ∀ a, a ∈ l → ∀ b, BSim P g (f a b) (f' a b)) (b : β) :
    BSim P g (ForIn.forIn l b f) (ForIn.forIn l b f') := by
  induction l generalizing b with
  | nil => intro s; rw [List.forIn_nil, List.forIn_nil]; exact BSimAt.ret _
  | cons a l ih =>
    intro s
    rw [List.forIn_cons, List.forIn_cons]
    refine BSimAt.seq (h a (List.mem_cons_self ..) b s) fun r s1 _ => ?_
    cases r with
    | done b' => exact BSimAt.ret _
    | yield b' => exact ih (fun a ha => h a (List.mem_cons_of_mem _ ha)) b' s1

theorem BSim.dassert (c : Bool) (site : String) : BSim P g (Engine.dassert c site) (Engine.dassert c site) :=
  .of_comm (NodeSim.Comm.dassert c site)

theorem BSimAt.ite_left {c : Prop} {_ : Decidable c} {a b x' : M α}
    (ha : c → BSimAt P g s a x') (hb : ¬ c → BSimAt P g s b x') : BSimAt P g s (if c then a else b) x' := by
  by_cases h : c
  · rw [if_pos h]; exact ha h
  · rw [if_neg h]; exact hb h

theorem BSimAt.map {x x' : M α} (f : α → β) (hx : BSimAt P g s x x') : BSimAt P g s (f <$> x) (f <$> x') := by
  rw [map_eq_pure_bind, map_eq_pure_bind]
  exact BSimAt.seq hx fun _ _ _ => BSimAt.ret _

/-- a read-only program followed by a continuation: the continuation starts in the same state -/
theorem BSimAt.ro_seq {x x' : M α} {f f' : α → M β} (hro : Step.Pres SameS x) (hx : BSimAt P g s x x')
    (hf : ∀ a, BSimAt P g s (f a) (f' a)) : BSimAt P g s (x >>= f) (x' >>= f') := by
  refine BSimAt.seq hx fun a s1 h1 => ?_
  have e : s1 = s := hro.h s _ s1 h1
  rw [e]; exact hf a

theorem BSim.mapM {γ : Type} {f f' : γ → M β} (h : ∀ a, BSim P g (f a) (f' a)) (l : List γ) :
    BSim P g (l.mapM f) (l.mapM f') := by
  induction l with
  | nil => intro s; simp only [List.mapM_nil]; exact BSimAt.ret _
  | cons a l ih =>
    intro s
    simp only [List.mapM_cons]
    exact BSimAt.seq (h a s) fun _ s1 _ => BSimAt.seq (ih s1) fun _ _ _ => BSimAt.ret _

end

/-- normalise everything a model function reads of `virt g s` / `virtNode gv nd` -/
macro "vnorm" : tactic => `(tactic| simp only [virt_cfg, virt_binds, virt_experts, virt_observers, virt_ahh,
  virt_maxHeightSeen, virt_status, virt_currentScope, virt_propagateInvalidity, virt_handleAfterStab,
  virt_newObservers, virt_disallowedObservers, virt_allObservers, virt_setDuringStab, virt_deadVars, virt_counters,
  virt_panicCountdown, virt_alive, virt_top, virt_handles, virt_slots, virt_log, virt_vars, virt_rch, virt_stabNum,
  virt_isNecessary, virt_isStale, virt_needsToBeComputed, virt_children, virt_size, virt_nodeD,
  virtNode_valid, virtNode_cutoff, virtNode_createdIn, virtNode_parents, virtNode_observers,
  virtNode_forceNecessary, virtNode_height, virtNode_heightInRch, virtNode_heightInAhh, virtNode_recomputedAt,
  virtNode_changedAt, virtNode_num, virtNode_inHas, virtNode_oldState, virtNode_isNecessary, virtNode_inRch])

/-- closes `∀ gv nd, virtNode gv (f nd) = f (virtNode gv nd)` for an `f` that does not touch `kind`, `value`, `didChange` -/
macro "vcomm" : tactic => `(tactic| (intro gv nd; rcases nd with ⟨k⟩; cases k <;> rfl))
/-- closes `∀ nd, (f nd).kind = nd.kind ∧ (f nd).valid = nd.valid ∧ (f nd).cutoff = nd.cutoff` -/
macro "vkind" : tactic => `(tactic| (intro nd; exact ⟨rfl, rfl, rfl⟩))

/-- closes `∀ nd, NKeep nd (f nd)` -/
macro "vkeep" : tactic => `(tactic| (intro nd; exact ⟨rfl, rfl, rfl, rfl, rfl⟩))

/-- registered `BSim` lemmas -/
syntax "bsim_leaf" : tactic
macro_rules | `(tactic| bsim_leaf) => `(tactic| fail "no leaf")

set_option hygiene false in
macro "bsim_step" : tactic => `(tactic| first
  | with_reducible exact BSimAt.ret _
  | with_reducible exact BSimAt.thr _ _
  | with_reducible exact BSimAt.pan _ _
  | ((with_reducible refine BSimAt.get_seq' fun hps => ?_); try vnorm)
  | ((with_reducible refine BSimAt.getNode_seq fun nd hnd hne hval => ?_); try vnorm)
  | ((with_reducible refine BSimAt.mod_seq ?_ ?_ ?_ ?_) <;> (first | exact rfl | skip))
  | ((with_reducible refine BSimAt.mod ?_ ?_ ?_) <;> rfl)
  | (with_reducible refine BSimAt.seq ?_ fun _ _ _ => ?_)
  | ((with_reducible refine BSim.at ?_ _); bsim_leaf)
  | ((with_reducible refine BSim.at (BSim.forIn _ (fun _ _ _ => ?_) _) _); intro _)
  | (refine BSimAt.cond Iff.rfl (fun _ => ?_) (fun _ => ?_)))

macro "bsim" : tactic => `(tactic| repeat' bsim_step)

set_option hygiene false in
/-- a `match` on the kind of the node last read by `getNode` -/
macro "bsim_kind" : tactic => `(tactic| (
  simp only [virtNode_kind?]
  rcases hk : nd.kind? with _ | k
  all_goals try cases k
  all_goals simp only [Option.map_none, Option.map_some, virtKind]
  all_goals try exact absurd (Step.kind_of_kind? hk) (hne _)
  bsim))

macro_rules | `(tactic| bsim_leaf) => `(tactic| with_reducible exact BSim.dassert _ _)
macro_rules | `(tactic| bsim_leaf) => `(tactic| ((with_reducible refine BSim.modNode _ ?_ ?_) <;> first | vcomm | vkeep))

end IncrVerif.Proofs.TidyH.RT
