import IncrVerif.Proofs.FullH18
/-!
# C01 full fragment: the `didChange` invariant through the step of a `const`/`var`/`map`/`fold`/`bindMain` node with ANY cutoff of the
fragment (`.eq`, `.never`, `.dependOn a` on a `depend_on` node): SAME ghost.  A suppressing `.dependOn a` verdict leaves the stored value
unchanged by `DepInv` + `FirstFn`.
-/
namespace IncrVerif.Proofs.FullH
open IncrVerif.Engine IncrVerif.Proofs IncrVerif.Proofs.Step IncrVerif.Proofs.Sched IncrVerif.Proofs.Quiet
open IncrVerif.Proofs.MapRefH (ValFrame)
open IncrVerif.Proofs.BindH (DInv BGraph Below Edge)

section
variable {env : Env} {sp : Nat → Val → Val} {g : Nat → Option Val} {s : State}

/-- the defining value of a `depend_on` node is what its first input stores in the virtual state -/
theorem targetB_dependOn {n a b : Nat} {v : Val} (hfst : FirstFn env) (hk : (s.nodeD n).kind = .map fnFirst [a, b])
    (ht : BindH.TargetB (VE env sp) (virt g s) n v) : tv g s a = some v := by
  have hkv : ((virt g s).nodeD n).kind = .map fnFirst [a, b] := by rw [virt_nodeD, virtNode_kind, hk]; rfl
  simp only [BindH.TargetB, Target, hkv] at ht
  obtain ⟨vals, hvals, rfl⟩ := ht
  rw [virt_plainVals] at hvals
  simp only [evalArgs] at hvals
  cases ha : tv g s a with
  | none => rw [ha] at hvals; simp at hvals
  | some va =>
    cases hb : tv g s b with
    | none => rw [ha, hb] at hvals; simp at hvals
    | some vb =>
      rw [ha, hb] at hvals
      simp only [Option.some.injEq] at hvals
      subst hvals
      rw [virtEnv_fn_real env sp (by unfold fnFirst pBase; omega), hfst]

/-- **the `didChange` invariant through the step of a node that is neither a map_ref, nor a map_with_old, nor a change-detector node**, any
cutoff of the fragment -/
theorem static_keepsK_any {t : State} {n fuel : Nat} {r : Option Nat} {s' : State}
    (D : DInvF env sp t s g (some n)) (hfst : FirstFn env)
    (hk1 : ∀ p i, (s.nodeD n).kind ≠ .mapRef p i) (hk2 : ∀ m i, (s.nodeD n).kind ≠ .mapWithOld m i)
    (hk3 : ∀ b, (s.nodeD n).kind ≠ .bindLhsChange b)
    (h : (recomputeOne env fuel n).run.run s = (.ok r, s')) : KInv env g s' ∧ FFrag env sp g s' := by
  rcases D.frag.fr.cut n with hc | hc | ⟨a, b, hc, hkd⟩
  · exact static_keepsK' D hk1 hk2 hk3 (Or.inl hc) h
  · exact static_keepsK' D hk1 hk2 hk3 (Or.inr hc) h
  have gr := D.inv.graph
  obtain ⟨hnv, -⟩ := D.inv.cur n rfl
  have hlt : n < s.nodes.size := by have := gr.nec_lt hnv; rw [virt_size] at this; exact this
  have hvv := (gr.nec n hnv).1
  have hv : (s.nodeD n).valid = true := by rw [virt_nodeD, virtNode_valid] at hvv; exact hvv
  obtain ⟨v, es, ht, hrun⟩ := recomputeOne_as_mcv (fuel := fuel) D.frag gr hlt hv hk1 hk2 hk3 (kids_settled D) h
  rw [hrun] at h
  have hnd : ∀ m, ((logged es (started n s)).nodeD m) = (started n s).nodeD m := fun _ => rfl
  have hv0 : ((logged es (started n s)).nodeD n).value = (s.nodeD n).value := by
    rw [hnd, started_nodeD]; split <;> rfl
  have hca : ∀ m, ((logged es (started n s)).nodeD m).changedAt = (s.nodeD m).changedAt := by
    intro m; rw [hnd, started_nodeD]; split <;> rfl
  have VF : ValFrame n s (logged es (started n s)) := (ValFrame.started n s).logged es
  refine mcv_keepsK_gen D.frag gr D.k hlt hk1 VF hv0 (fun hd => ?_) h
  obtain ⟨o, ho, -, hch⟩ := mcvChanges_dependOn (by rw [VF.cutoff]; exact hc) hd
  rw [hv0] at ho
  rw [hca, hca] at hch
  have := D.dep n a b o hv hkd hc hch.symm ho
  rw [targetB_dependOn hfst hkd ht] at this
  cases this
  exact ho

end
end IncrVerif.Proofs.FullH
