import IncrVerif.Proofs.MapOld27
/-!
# map_with_old fragment: existing nodes keep their kind along a history; the node pattern of a `mapOp` instruction
-/
namespace IncrVerif.Proofs.MapOldH
open IncrVerif IncrVerif.Engine IncrVerif.Driver IncrVerif.Proofs IncrVerif.Proofs.Step IncrVerif.Proofs.Sched IncrVerif.Proofs.Quiet
open IncrVerif.Proofs.Footprint

/-- existing nodes keep their kind; the node table only grows -/
structure KindsKept (s s' : State) : Prop where
  sizeLe : s.nodes.size ≤ s'.nodes.size
  kind : ∀ m, m < s.nodes.size → (s'.nodeD m).kind = (s.nodeD m).kind

theorem KindsKept.refl (s : State) : KindsKept s s := ⟨Nat.le_refl _, fun _ _ => rfl⟩
theorem KindsKept.trans {a b c : State} (h1 : KindsKept a b) (h2 : KindsKept b c) : KindsKept a c :=
  ⟨Nat.le_trans h1.sizeLe h2.sizeLe, fun m hm => (h2.kind m (Nat.lt_of_lt_of_le hm h1.sizeLe)).trans (h1.kind m hm)⟩

instance : Step.PreOrd KindsKept := ⟨KindsKept.refl, KindsKept.trans⟩

theorem KindsKept.of_edit {L w} {s s' : State} (e : Edit L w s s') : KindsKept s s' := ⟨e.size_le, fun _ hm => e.kind hm⟩

variable {env : Env} {s : State}

/-- **existing nodes keep their kind** through every action, whatever its outcome: no write of the engine changes a kind or removes a node -/
theorem step_kinds {a : Action} {tk : Array Nat} {r : Except Panic (String × Array Nat)} {s' : State}
    (h : (stepAction env a tk).run.run s = (r, s')) : KindsKept s s' :=
  ((Foot.stepAction env a tk).lift fun e => by
    cases e with
    | engine e => exact .of_edit e
    | _ => exact ⟨Nat.le_refl _, fun _ _ => rfl⟩).h _ _ _ h

theorem runActions_kinds {acts : List Action} {s s' : State} {tk tk' : Array Nat}
    (h : runActions env acts s tk = .ok (s', tk')) : KindsKept s s' :=
  Hist.runActions_inv (I := fun t _ _ => KindsKept s t) (fun _ _ _ _ _ _ K hx => K.trans (step_kinds hx)) (KindsKept.refl _) h

theorem UnaryOp.kept {s s' : State} {out g x : Nat} (U : UnaryOp s out g x) (K : KindsKept s s')
    (hlt : out < s.nodes.size) (hback : ∀ n, n < s.nodes.size → ∀ c, c ∈ kidsW (s.nodeD n).kind → c < n) :
    UnaryOp s' out g x := by
  obtain ⟨o, ho, a, hoa, ha⟩ := U.conv2
  have hol : o < out := hback out hlt o (by rw [ho]; simp [kidsW])
  have hal : a < o := hback o (by omega) a (by rw [hoa]; simp [kidsW])
  exact ⟨o, by rw [K.kind out hlt]; exact ho, a, by rw [K.kind o (by omega)]; exact hoa,
    by rw [K.kind a (by omega)]; exact ha⟩

theorem MergeOp.kept {s s' : State} {out g x y : Nat} (U : MergeOp s out g x y) (K : KindsKept s s')
    (hlt : out < s.nodes.size) (hback : ∀ n, n < s.nodes.size → ∀ c, c ∈ kidsW (s.nodeD n).kind → c < n) :
    MergeOp s' out g x y := by
  obtain ⟨o, ho, z, hoz, a, b, hz, ha, hb⟩ := U.pat
  have hol : o < out := hback out hlt o (by rw [ho]; simp [kidsW])
  have hzl : z < o := hback o (by omega) z (by rw [hoz]; simp [kidsW])
  have hal : a < z := hback z (by omega) a (by rw [hz]; simp [kidsW])
  have hbl : b < z := hback z (by omega) b (by rw [hz]; simp [kidsW])
  exact ⟨o, by rw [K.kind out hlt]; exact ho, z, by rw [K.kind o (by omega)]; exact hoz, a, b,
    by rw [K.kind z (by omega)]; exact hz, by rw [K.kind a (by omega)]; exact ha,
    by rw [K.kind b (by omega)]; exact hb⟩

end IncrVerif.Proofs.MapOldH
