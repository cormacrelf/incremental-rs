import IncrVerif.Proofs.NestH64
import IncrVerif.Proofs.NestH59
import IncrVerif.Proofs.BindH110
/-!
# Nested binds (F2): non-vacuity — a history with a NESTED bind whose outer AND inner left-hand sides change

`nEnv`: `f0` = sum of the integer views.
* closure 1 (OUTER): on an even lhs value `bind b0 n1 ; map f0 [%0, n2] ; ret %1` (an inner bind over `n1`, plus `n2`), on an odd one `lhsconst ; ret %0`;
* closure 0 (INNER): on an even lhs value `map f0 [n2, n2] ; ret %0`, on an odd one `lhsconst ; map f0 [%0, n2] ; ret %1`.
History `exHistN`: `v0 := 0; v1 := 0; v2 := 3; b := bind v0 closure1; observe b; stabilise` (reads `(3+3)+3 = 9`); `v1 := 1; stabilise` (the INNER lhs changes:
the inner change detector re-runs, the inner generation is replaced; reads `(1+3)+3 = 7`); `v0 := 1; stabilise` (the OUTER lhs changes: the outer generation —
the inner bind's two nodes, its generation, the map node — is invalidated; reads `1`); `v0 := 2; stabilise` (a FRESH inner bind record is created; reads `7`).
-/
namespace IncrVerif.Proofs.NestH
open IncrVerif.Engine IncrVerif.Driver IncrVerif.Proofs IncrVerif.Proofs.Step IncrVerif.Proofs.Sched IncrVerif.Proofs.Quiet
open IncrVerif.Proofs.BindH

def nEnv : Env :=
  { exEnv with
    body := fun b lhs =>
      if b = 1 then
        if lhs.toInt % 2 = 0 then { instrs := [.bind 0 (.outer 1), .map 0 [.loc 0, .outer 2]], ret := .loc 1 }
        else { instrs := [.lhsConst], ret := .loc 0 }
      else
        if lhs.toInt % 2 = 0 then { instrs := [.map 0 [.outer 2, .outer 2]], ret := .loc 0 }
        else { instrs := [.lhsConst, .map 0 [.loc 0, .outer 2]], ret := .loc 1 } }

/-- the example history -/
def exHistN : List Action :=
  [.create (.var (.int 0)), .create (.var (.int 0)), .create (.var (.int 3)), .create (.bind 1 (.outer 0)), .observe (.outer 3),
    .stabilise, .set 1 (.int 1), .stabilise, .set 0 (.int 1), .stabilise, .set 0 (.int 2), .stabilise]

namespace NX

theorem hf0 : (0 : Nat) < fnPerKey ∧ ((0 : Nat) < fnZip → ∀ vals, nEnv.fnEff 0 vals = []) :=
  ⟨by decide, fun _ _ => rfl⟩

theorem body0_even {v : Val} (h : v.toInt % 2 = 0) :
    nEnv.body 0 v = { instrs := [.map 0 [.outer 2, .outer 2]], ret := .loc 0 } := by
  simp [nEnv, h]

theorem body0_odd {v : Val} (h : ¬ v.toInt % 2 = 0) :
    nEnv.body 0 v = { instrs := [.lhsConst, .map 0 [.loc 0, .outer 2]], ret := .loc 1 } := by
  simp [nEnv, h]

theorem body1_even {v : Val} (h : v.toInt % 2 = 0) :
    nEnv.body 1 v = { instrs := [.bind 0 (.outer 1), .map 0 [.loc 0, .outer 2]], ret := .loc 1 } := by
  simp [nEnv, h]

theorem body1_odd {v : Val} (h : ¬ v.toInt % 2 = 0) :
    nEnv.body 1 v = { instrs := [.lhsConst], ret := .loc 0 } := by
  simp [nEnv, h]

/-- the inner closure is in the fragment (no nesting: fuel 1) for a naming table with three entries -/
theorem nEnv_body0 : BodyF2 nEnv 3 1 0 := by
  intro v
  by_cases h : v.toInt % 2 = 0
  · rw [body0_even h]
    refine ⟨?_, show (0 : Nat) < 1 by decide⟩
    intro j i hj
    match j, hj with
    | 0, hj =>
      cases hj
      refine ⟨hf0.1, hf0.2, ?_⟩
      intro a ha
      simp only [List.mem_cons, List.mem_nil_iff, or_false, or_self] at ha
      rw [ha]; exact (show (2 : Nat) < 3 by decide)
    | j + 1, hj => cases hj
  · rw [body0_odd h]
    refine ⟨?_, show (1 : Nat) < 2 by decide⟩
    intro j i hj
    match j, hj with
    | 0, hj => cases hj; trivial
    | 1, hj =>
      cases hj
      refine ⟨hf0.1, hf0.2, ?_⟩
      intro a ha
      simp only [List.mem_cons, List.mem_nil_iff, or_false] at ha
      rcases ha with ha | ha
      · rw [ha]; exact (show (0 : Nat) < 1 by decide)
      · rw [ha]; exact (show (2 : Nat) < 3 by decide)
    | j + 2, hj => cases hj

/-- the outer closure is in the fragment (nesting depth 2) for a naming table with three entries -/
theorem nEnv_body1 : BodyF2 nEnv 3 2 1 := by
  intro v
  by_cases h : v.toInt % 2 = 0
  · rw [body1_even h]
    refine ⟨?_, show (1 : Nat) < 2 by decide⟩
    intro j i hj
    match j, hj with
    | 0, hj =>
      cases hj
      exact ⟨nEnv_body0, show (1 : Nat) < 3 by decide⟩
    | 1, hj =>
      cases hj
      refine ⟨hf0.1, hf0.2, ?_⟩
      intro a ha
      simp only [List.mem_cons, List.mem_nil_iff, or_false] at ha
      rcases ha with ha | ha
      · rw [ha]; exact (show (0 : Nat) < 1 by decide)
      · rw [ha]; exact (show (2 : Nat) < 3 by decide)
    | j + 2, hj => cases hj
  · rw [body1_odd h]
    refine ⟨?_, show (0 : Nat) < 1 by decide⟩
    intro j i hj
    match j, hj with
    | 0, hj => cases hj; trivial
    | j + 1, hj => cases hj

/-- a fact about the state a history of `nEnv` ends in -/
def factN {α} (acts : List Action) (f : State → α) : Option α := (C2h.stateB nEnv acts).map f

end NX

/-- the example is a history of the fragment -/
theorem exHistN_frag : HistF2 nEnv 0 exHistN := by
  simp only [exHistN, HistF2, ActionF2, InstrTop2, StaticInstr, Quiet.OpndOK, and_true, true_and]
  exact ⟨⟨0, rfl⟩, 2, NX.nEnv_body1⟩

set_option maxRecDepth 100000 in
/-- the example history runs without panic -/
theorem exHistN_runs : ∃ s tk, Quiet.runActions nEnv exHistN (State.init 128 true) #[] = .ok (s, tk) :=
  C2h.ranB_iff (by decide +kernel)

set_option maxRecDepth 100000 in
/-- the reads of the observer after the four `stabilise`s: `(3+3)+3 = 9`, `(1+3)+3 = 7`, `1`, `(1+3)+3 = 7` -/
theorem exHistN_reads : C2h.readB nEnv (exHistN.take 6) 0 = some (.int 9) ∧
    C2h.readB nEnv (exHistN.take 8) 0 = some (.int 7) ∧
    C2h.readB nEnv (exHistN.take 10) 0 = some (.int 1) ∧
    C2h.readB nEnv exHistN 0 = some (.int 7) :=
  by decide +kernel

set_option maxRecDepth 100000 in
/-- the reads agree with the specification-level semantics `den2` of node 4 (the outer bind's main node) -/
theorem exHistN_den : NX.factN (exHistN.take 6) (fun s => den2 nEnv s 10 4) = some (some (.int 9)) ∧
    NX.factN (exHistN.take 8) (fun s => den2 nEnv s 10 4) = some (some (.int 7)) ∧
    NX.factN (exHistN.take 10) (fun s => den2 nEnv s 10 4) = some (some (.int 1)) ∧
    NX.factN exHistN (fun s => den2 nEnv s 10 4) = some (some (.int 7)) :=
  by decide +kernel

set_option maxRecDepth 100000 in
/-- after the first `stabilise`: nodes 3, 4 = the outer bind (top level); the outer closure created, in scope `.bind 0`, the inner bind's change detector 5 and main
node 6 (record 1) and node 7 = `map f0 [6, 2]`; the inner closure created node 8 = `map f0 [2, 2]` in scope `.bind 1` -/
theorem exHistN_first :
    NX.factN (exHistN.take 6) (fun s => s.nodes.size) = some 9 ∧
    NX.factN (exHistN.take 6) (fun s => (s.nodeD 5).kind) = some (.bindLhsChange 1) ∧
    NX.factN (exHistN.take 6) (fun s => (s.nodeD 6).kind) = some (.bindMain 1 5) ∧
    NX.factN (exHistN.take 6) (fun s => (s.nodeD 5).createdIn) = some (.bind 0) ∧
    NX.factN (exHistN.take 6) (fun s => (s.nodeD 6).createdIn) = some (.bind 0) ∧
    NX.factN (exHistN.take 6) (fun s => (s.nodeD 7).kind) = some (.map 0 [6, 2]) ∧
    NX.factN (exHistN.take 6) (fun s => (s.nodeD 8).kind) = some (.map 0 [2, 2]) ∧
    NX.factN (exHistN.take 6) (fun s => (s.nodeD 8).createdIn) = some (.bind 1) ∧
    NX.factN (exHistN.take 6) (fun s => s.binds[0]?.map (·.allNodesCreatedOnRhs)) = some (some [5, 6, 7]) ∧
    NX.factN (exHistN.take 6) (fun s => s.binds[1]?.map (·.allNodesCreatedOnRhs)) = some (some [8]) ∧
    NX.factN (exHistN.take 6) (fun s => s.binds[1]?.map (·.rhs)) = some (some (some 8)) ∧
    NX.factN (exHistN.take 6) (fun s => s.binds[0]?.map (·.rhs)) = some (some (some 7)) :=
  by decide +kernel

set_option maxRecDepth 100000 in
/-- the second `stabilise` (INNER lhs changed): node 8 is invalidated, the inner closure's other variant created nodes 9, 10 in scope `.bind 1`;
the outer generation is untouched -/
theorem exHistN_inner_switch :
    NX.factN (exHistN.take 8) (fun s => s.nodes.size) = some 11 ∧
    NX.factN (exHistN.take 8) (fun s => (s.nodeD 8).valid) = some false ∧
    NX.factN (exHistN.take 8) (fun s => (s.nodeD 10).kind) = some (.map 0 [9, 2]) ∧
    NX.factN (exHistN.take 8) (fun s => (s.nodeD 10).createdIn) = some (.bind 1) ∧
    NX.factN (exHistN.take 8) (fun s => s.binds[1]?.map (·.allNodesCreatedOnRhs)) = some (some [9, 10]) ∧
    NX.factN (exHistN.take 8) (fun s => s.binds[1]?.map (·.rhs)) = some (some (some 10)) ∧
    NX.factN (exHistN.take 8) (fun s => s.binds[0]?.map (·.allNodesCreatedOnRhs)) = some (some [5, 6, 7]) ∧
    NX.factN (exHistN.take 8) (fun s => ((s.nodeD 5).valid, (s.nodeD 6).valid, (s.nodeD 7).valid)) = some (true, true, true) :=
  by decide +kernel

set_option maxRecDepth 100000 in
/-- the third `stabilise` (OUTER lhs changed): the whole outer generation dies — the inner bind's change detector 5 and main node 6, the map node 7 AND the inner
generation 9, 10 (through `invalidateNode` on the inner main node); the dead inner record has lost its list; the new generation is node 11 -/
theorem exHistN_outer_switch :
    NX.factN (exHistN.take 10) (fun s => s.nodes.size) = some 12 ∧
    NX.factN (exHistN.take 10) (fun s => ((s.nodeD 5).valid, (s.nodeD 6).valid, (s.nodeD 7).valid, (s.nodeD 9).valid, (s.nodeD 10).valid)) =
      some (false, false, false, false, false) ∧
    NX.factN (exHistN.take 10) (fun s => s.binds[1]?.map (·.allNodesCreatedOnRhs)) = some (some []) ∧
    NX.factN (exHistN.take 10) (fun s => s.binds[0]?.map (·.allNodesCreatedOnRhs)) = some (some [11]) ∧
    NX.factN (exHistN.take 10) (fun s => s.binds[0]?.map (·.rhs)) = some (some (some 11)) ∧
    NX.factN (exHistN.take 10) (fun s => (s.nodeD 11).createdIn) = some (.bind 0) :=
  by decide +kernel

set_option maxRecDepth 100000 in
/-- the fourth `stabilise` (outer lhs even again): a FRESH inner bind record 2 with nodes 12, 13 in scope `.bind 0`, its generation in scope `.bind 2` -/
theorem exHistN_fresh_inner :
    NX.factN exHistN (fun s => s.binds.size) = some 3 ∧
    NX.factN exHistN (fun s => (s.nodeD 12).kind) = some (.bindLhsChange 2) ∧
    NX.factN exHistN (fun s => (s.nodeD 13).kind) = some (.bindMain 2 12) ∧
    NX.factN exHistN (fun s => (s.nodeD 11).valid) = some false ∧
    NX.factN exHistN (fun s => s.binds[0]?.map (·.allNodesCreatedOnRhs)) = some (some [12, 13, 14]) ∧
    NX.factN exHistN (fun s => s.binds[2]?.map (·.allNodesCreatedOnRhs)) = some (some [15, 16]) :=
  by decide +kernel

end IncrVerif.Proofs.NestH
