import IncrVerif.Proofs.MapRef4
/-!
# map_ref fragment: simulation of the notification walk
(`shouldCutoff`, `childChanged`, `parentIterCanRecomputeNow`, `maybeChangeValueManual`, `maybeChangeValue`)
-/
namespace IncrVerif.Proofs.MapRefH
open IncrVerif.Engine IncrVerif.Proofs IncrVerif.Proofs.Step IncrVerif.Proofs.Sched IncrVerif.Proofs.Quiet
open IncrVerif.Proofs.NodeSim (CommAt Comm CommXAt)

section
variable {g : Nat → Option Val}

theorem virtEnv_cutoff (env : Env) : (virtEnv env).cutoff = env.cutoff := rfl
theorem virtEnv_proj (env : Env) : (virtEnv env).proj = env.proj := rfl

theorem Sim.shouldCutoff (env : Env) (n : Nat) (o v : Val) :
    Sim g (Engine.shouldCutoff env n o v) (Engine.shouldCutoff (virtEnv env) n o v) :=
  .of_comm (NodeSim.Comm.shouldCutoff (blind g) (fun _ _ => rfl) (fun _ _ _ _ _ _ => rfl) (virtEnv_cutoff env) n o v)

/-! ## `child_changed` is invisible in the virtual state -/

theorem childChanged_veq {env : Env} {fuel p c ci : Nat} {o : Option Val} {t t' : State} {u : Unit}
    (hfr : Fr t) (h : (Engine.childChanged env fuel p c ci o).run.run t = (.ok u, t')) : VEq g t t' := by
  induction fuel generalizing p c ci o t t' u with
  | zero => unfold Engine.childChanged at h; cases h
  | succ fuel ih =>
    unfold Engine.childChanged at h
    obtain ⟨nd, hnd, h⟩ := bind_getNode_inv h
    obtain ⟨hne, hval⟩ := hfr.some hnd
    have hk? : nd.kind? = some nd.kind := by simp [Node.kind?, hval]
    rw [hk?] at h
    cases hkd : nd.kind <;> rw [hkd] at h
    case expert e => exact absurd hkd (hne e)
    case mapRef pr i =>
      dsimp only at h
      obtain ⟨cn, t1, h1, h2⟩ := bind_ok_inv h
      clear h
      have e1 : t1 = t := by
        rw [run_valueUnwrap] at h1; split at h1 <;> cases h1; rfl
      subst e1
      have hcut : nd.cutoff = .eq := by
        have := hfr.cut p pr i; rw [nodeD_of_some hnd] at this; exact this hkd
      have key : ∃ did, ((do
          modNode p fun x => { x with didChange := x.didChange || did }
          for (pp, ci) in (← getNode p).parents do
            childChanged env fuel pp p ci (o.map (env.proj pr))) : M Unit).run.run t1 = (.ok u, t') := by
        cases o with
        | none => exact ⟨true, h2⟩
        | some ov =>
          simp only [Option.map_some] at h2
          unfold Engine.shouldCutoff at h2
          simp only [bind_assoc] at h2
          rw [run_bind_ok (run_getNode_some hnd), hcut] at h2
          exact ⟨_, h2⟩
      obtain ⟨did, h3⟩ := key
      rw [run_bind_modNode] at h3
      obtain ⟨nd', hnd', h4⟩ := bind_getNode_inv h3
      obtain ⟨_, t3, h, h5⟩ := bind_ok_inv h4
      obtain ⟨-, rfl⟩ := pure_ok_inv h5
      have v1 : VEq g t1 { t1 with nodes := t1.nodes.modify p fun x => { x with didChange := x.didChange || did } } :=
        VEq.modNode t1 p _ (by vflag)
      refine Sched.forIn_ok_keep (fun s => VEq g t1 s) _ nd'.parents ?_ _ _ _ v1 h
      intro a _ s r s' k hb
      obtain ⟨pp, ci'⟩ := a
      obtain ⟨_, s1, hcc, hb1⟩ := bind_ok_inv hb
      obtain ⟨-, rfl⟩ := pure_ok_inv hb1
      exact Step.PreOrd.trans k (ih (k.noExp hfr) hcc)
    all_goals (obtain ⟨-, rfl⟩ := pure_ok_inv h; exact Step.PreOrd.refl _)

theorem virt_childChanged_run {env' : Env} {fuel p c ci : Nat} {o' : Option Val} {t : State} {nd : Node}
    (hp : t.nodes[p]? = some nd) (hv : nd.valid = true) (hne : ∀ e, nd.kind ≠ .expert e) :
    (Engine.childChanged env' (fuel + 1) p c ci o').run.run (virt g t) = (.ok (), virt g t) := by
  unfold Engine.childChanged
  have hvn : (virt g t).nodes[p]? = some (virtNode (g p) nd) := by rw [virt_getElem?, hp]; rfl
  rw [run_bind_ok (run_getNode_some hvn), virtNode_kind?]
  have hk? : nd.kind? = some nd.kind := by simp [Node.kind?, hv]
  rw [hk?]
  cases hkd : nd.kind <;> first | rfl | exact absurd hkd (hne _)

/-- `child_changed` with unrelated fuels: the virtual call only needs one unit -/
theorem St.childChanged' (env : Env) (fuel fuel' p c ci : Nat) (o o' : Option Val) (hf : 0 < fuel' ∨ fuel = 0) :
    Sim g (Engine.childChanged env fuel p c ci o) (Engine.childChanged (virtEnv env) fuel' p c ci o') := by
  intro s hfr r s' h
  cases fuel with
  | zero => unfold Engine.childChanged at h; cases h
  | succ fuel =>
    obtain ⟨f', rfl⟩ : ∃ f', fuel' = f' + 1 := ⟨fuel' - 1, by omega⟩
    have hv := childChanged_veq (g := g) hfr h
    unfold Engine.childChanged at h
    obtain ⟨nd, hnd, -⟩ := bind_getNode_inv h
    rw [virt_childChanged_run hnd (hfr.some hnd).2 (hfr.some hnd).1, hv.veq]
    exact ⟨rfl, hv.noExp hfr⟩

/-- optional notification on the actual side, (no-op) notification on the virtual side -/
theorem commAt_ccThen {β : Type} {s : State} {b : Bool} {k k' : Unit → M β} {env : Env}
    {fuel fuel' p n ci : Nat} {o o' : Option Val}
    (hf : 0 < fuel' ∨ (b = true ∧ fuel = 0))
    (hex : ∀ r s', (k ()).run.run s = (.ok r, s') → ∃ nd, s.nodes[p]? = some nd)
    (hk : Comm (fun _ => False) (rel g).app Fr (k ()) (k' ())) :
    CommAt (fun _ => False) (rel g).app Fr s
      (if b = true then Engine.childChanged env fuel p n ci o >>= k else k ())
      (Engine.childChanged (virtEnv env) fuel' p n ci o' >>= k') := by
  cases b with
  | true =>
    rw [if_pos rfl]
    refine CommXAt.seq ((St.childChanged' env fuel fuel' p n ci o o' ?_).comm s) fun _ s1 _ _ => hk s1
    rcases hf with h | h
    · exact Or.inl h
    · exact Or.inr h.2
  | false =>
    rw [if_neg (by decide)]
    refine simAt_iff.1 fun hfr r s' h => ?_
    obtain ⟨nd, hnd⟩ := hex r s' h
    obtain ⟨f', rfl⟩ : ∃ f', fuel' = f' + 1 := ⟨fuel' - 1, by rcases hf with h | h; omega; cases h.1⟩
    rw [run_bind_ok (virt_childChanged_run hnd (hfr.some hnd).2 (hfr.some hnd).1)]
    exact simAt_iff.2 (hk s) hfr r s' h

theorem St.mcvm (env : Env) (fuel fuel' n : Nat) (o o' : Option Val) (did b : Bool)
    (hf : 0 < fuel' ∨ (b = true ∧ fuel = 0)) :
    Sim g (Engine.maybeChangeValueManual env fuel n o did b)
      (Engine.maybeChangeValueManual (virtEnv env) fuel' n o' did true) := by
  have H := blind g
  refine .of_comm fun s => ?_
  unfold Engine.maybeChangeValueManual
  simp only [↓reduceIte]
  refine CommXAt.cond Iff.rfl (fun _ => CommXAt.ret _) (fun _ => ?_)
  sim
  split
  · sim
  · have hex : ∀ {β : Type} (p : Nat) (s : State) (k : Node → M β) (r : β) (s' : State),
        (do let t ← get
            dassert (t.needsToBeComputed p) "node:maybe_change_value:parent-needs-to-be-computed"
            let nd ← getNode p
            k nd : M β).run.run s = (.ok r, s') → ∃ nd, s.nodes[p]? = some nd := by
      intro β p s k r s' h
      rw [run_bind_get] at h
      obtain ⟨na, hna, -⟩ := bind_getNode_inv (bind_dassert_inv h)
      exact ⟨na, hna⟩
    refine CommXAt.seq (NodeSim.Comm.at (NodeSim.Comm.forIn _ (fun a _ => ?_) _) _) fun _ s2 _ _ => ?_
    · intro s1
      refine commAt_ccThen hf (hex _ _ _) ?_
      intro s3; sim
    · refine commAt_ccThen hf (hex _ _ _) ?_
      intro s3; sim

theorem Sim.maybeChangeValueManual (env : Env) (fuel n : Nat) (o o' : Option Val) (did b : Bool)
    (hf : b = true ∨ 0 < fuel) :
    Sim g (Engine.maybeChangeValueManual env fuel n o did b)
      (Engine.maybeChangeValueManual (virtEnv env) fuel n o' did true) := by
  refine St.mcvm env fuel fuel n o o' did b ?_
  rcases hf with h | h
  · cases fuel with
    | zero => exact Or.inr ⟨h, rfl⟩
    | succ f => exact Or.inl (Nat.succ_pos _)
  · exact Or.inl h

/-! ## `maybe_change_value` on a node that is not a map_ref node -/

/-- writing the value of a node that is not a map_ref node commutes with `virt` -/
theorem SimAt.modNode_value {s : State} {n : Nat} (v : Option Val)
    (h : ∀ p i, (s.nodeD n).kind ≠ .mapRef p i) :
    SimAt g s (Engine.modNode n fun x => { x with value := v }) (Engine.modNode n fun x => { x with value := v }) := by
  intro hfr r s' hr
  rw [run_modNode] at hr ⊢
  cases hr
  refine ⟨?_, fr_modify hfr n _ fun _ => ⟨rfl, rfl, rfl⟩⟩
  congr 1
  simp only [virt]
  congr 1
  apply Array.ext
  · simp
  · intro i h1 h2
    simp only [Array.getElem_mapIdx, Array.getElem_modify]
    split
    · rename_i e; subst e
      have hlt : n < s.nodes.size := by simpa using h1
      have hk : ∀ p i, (s.nodes[n]).kind ≠ .mapRef p i := by
        have e : s.nodeD n = s.nodes[n] := by simp [State.nodeD, hlt]
        rw [← e]; exact h
      generalize s.nodes[n] = x at hk
      rcases x with ⟨k⟩
      cases k <;> first | rfl | exact absurd rfl (hk _ _)
    · rfl

theorem SimAt.maybeChangeValue {env : Env} {fuel n : Nat} {v : Val} {t : State}
    (hk : ∀ p i, (t.nodeD n).kind ≠ .mapRef p i) :
    SimAt g t (Engine.maybeChangeValue env fuel n v) (Engine.maybeChangeValue (virtEnv env) fuel n v) := by
  unfold Engine.maybeChangeValue
  refine simAt_iff.2 (CommXAt.getNode_seq fun nd xs _ hnd _ => ?_)
  have hnk : ∀ p i, nd.kind ≠ .mapRef p i := by
    have := hk; rw [nodeD_of_some hnd] at this; exact this
  rw [← virtNode_eq, virtNode_value_of_not_mapRef _ _ hnk]
  dsimp only
  refine CommXAt.seq (simAt_iff.1 (SimAt.modNode_value none hk)) fun _ s1 _ h1 => ?_
  rw [run_modNode] at h1; cases h1
  have hk1 : ∀ p i, (({ t with nodes := t.nodes.modify n fun x => { x with value := none } } : State).nodeD n).kind
      ≠ .mapRef p i := by
    intro p i; rw [nodeD_modify]; split <;> exact hk p i
  cases nd.value with
  | none =>
    simp only [pure_bind]
    refine CommXAt.seq (simAt_iff.1 (SimAt.modNode_value _ hk1)) fun _ _ _ _ => ?_
    exact (Sim.maybeChangeValueManual env fuel n _ _ _ true (Or.inl rfl)).comm _
  | some ov =>
    dsimp only
    refine CommXAt.seq ((Sim.shouldCutoff env n ov v).comm _) fun c s2 _ h2 => ?_
    have q := (Step.Pres.shouldCutoff env n ov v).h _ _ _ h2
    have hk2 : ∀ p i, (s2.nodeD n).kind ≠ .mapRef p i := by
      intro p i; rw [(q.node n).kind]; exact hk1 p i
    simp only [pure_bind]
    refine CommXAt.seq (simAt_iff.1 (SimAt.modNode_value _ hk2)) fun _ _ _ _ => ?_
    exact (Sim.maybeChangeValueManual env fuel n _ _ _ true (Or.inl rfl)).comm _

end
end IncrVerif.Proofs.MapRefH
