import IncrVerif.Proofs.CutH1
-- one recompute step keeps the scheduling invariant for ARBITRARY cutoffs; overview in Props/C06History.lean
/-!
# C06 for whole histories, part 2: the scheduling invariant through one recompute step — pure logic

`step_inv`: if `Inv env e s (some n)` holds, `v` is the target value of `n`, and `s'` is related to `s` by
`StepRel env n v ch r s s'` (what a successful `recomputeOne` does), then `Inv env e s' r` holds.
-/
namespace IncrVerif.Proofs.CutH
open IncrVerif.Engine IncrVerif.Proofs IncrVerif.Proofs.Step IncrVerif.Proofs.Sched

/-! ## transfer of the structural part -/

theorem Anc.transfer {s s' : State} (hsh : ∀ m, SameShape (s.nodeD m) (s'.nodeD m)) {a d : Nat}
    (h : Anc s a d) : Anc s' a d := by
  induction h with
  | refl a => exact Anc.refl a
  | step hn hc _ ih =>
    refine Anc.step ?_ ?_ ih
    · rw [isNecessary_of_shape hsh]; exact hn
    · rw [(hsh _).kind]; exact hc

theorem Anc.transfer_iff {s s' : State} (hsh : ∀ m, SameShape (s.nodeD m) (s'.nodeD m)) {a d : Nat} :
    Anc s' a d ↔ Anc s a d :=
  ⟨Anc.transfer (fun m => (hsh m).symm), Anc.transfer hsh⟩

/-- a strict descendant is reached through a child -/
theorem Anc.cases_ne {s : State} {a d : Nat} (h : Anc s a d) (hne : a ≠ d) :
    ∃ c, s.isNecessary a = true ∧ c ∈ kids (s.nodeD a).kind ∧ Anc s c d := by
  cases h with
  | refl => exact absurd rfl hne
  | step hn hc h2 => exact ⟨_, hn, hc, h2⟩

/-! ## staleness of a static node -/

theorem Graph.isStale {env : Env} {s : State} (g : Graph env s) {m : Nat}
    (hm : s.isNecessary m = true) : s.isStale m = staleOf s m :=
  isStale_static s m (g.nec m hm).2.1 (g.nec m hm).2.2.1


/-! ## the step -/

section step
variable {env : Env} {e : Bool} {s s' : State} {n : Nat} {v : Val} {ch : Bool} {r : Option Nat}

theorem StepRel.shapes (R : StepRel env n v ch r s s') (m : Nat) : SameShape (s.nodeD m) (s'.nodeD m) := by
  by_cases h : m = n
  · subst h; exact R.shape
  · exact SameShape.of_nodeSame (R.other m h)

theorem StepRel.nec (R : StepRel env n v ch r s s') (m : Nat) : s'.isNecessary m = s.isNecessary m :=
  isNecessary_of_shape R.shapes m

/-- facts about a parent entry of `n` -/
theorem Graph.parent_facts (g : Graph env s) {p : Nat} (hp : p ∈ (s.nodeD n).parents.map (·.1)) :
    s.isNecessary p = true ∧ n ∈ kids (s.nodeD p).kind ∧ Anc s p n ∧
      (s.nodeD n).height < (s.nodeD p).height ∧ p ≠ n := by
  obtain ⟨i, hi⟩ := mem_parents_iff.1 hp
  obtain ⟨hn, hk⟩ := g.parent n p i hi
  have hmem := List.mem_of_getElem? hk
  have hlt := (g.kids_nec hn hmem).2
  refine ⟨hn, hmem, g.parent_anc hi, hlt, ?_⟩
  intro e; subst e; omega

/-- a necessary node with `n` among its children is listed in `n`'s parents -/
theorem Graph.mem_parents (g : Graph env s) {m : Nat} (hm : s.isNecessary m = true)
    (hk : n ∈ kids (s.nodeD m).kind) : m ∈ (s.nodeD n).parents.map (·.1) := by
  obtain ⟨i, hi, e⟩ := List.mem_iff_getElem.1 hk
  have h := g.child m hm i n (by rw [List.getElem?_eq_getElem hi, e])
  exact mem_parents_iff.2 ⟨i, h.2.1⟩

/-- staleness after the step, for a necessary node other than `n` -/
theorem step_stale_other (I : Inv env e s (some n)) (R : StepRel env n v ch r s s') {m : Nat}
    (hm : s.isNecessary m = true) (hne : m ≠ n) :
    (staleOf s' m = staleOf s m) ∨
      (ch = true ∧ m ∈ (s.nodeD n).parents.map (·.1) ∧ staleOf s' m = true) := by
  have g := I.graph
  by_cases hk : n ∈ kids (s.nodeD m).kind
  · have hpar := g.mem_parents hm hk
    cases hch : ch with
    | false =>
      left
      refine staleOf_congr (R.other m hne).kind (R.other m hne).recomputedAt R.vars ?_
      intro c _
      by_cases hc : c = n
      · subst hc; rw [R.changedAt, hch]; simp
      · exact (R.other c hc).changedAt
    | true =>
      right
      refine ⟨rfl, hpar, ?_⟩
      have hfr := I.fresh n (Or.inr rfl) m (g.parent_facts hpar).2.2.1
      refine staleOf_of_child (c := n) (by rw [(R.other m hne).kind]; exact hk) ?_
      rw [R.changedAt, hch, (R.other m hne).recomputedAt]
      simpa using hfr
  · left
    refine staleOf_congr (R.other m hne).kind (R.other m hne).recomputedAt R.vars ?_
    intro c hc
    have : c ≠ n := by intro e; subst e; exact hk hc
    exact (R.other c this).changedAt

theorem step_stamps (I : Inv env e s (some n)) (R : StepRel env n v ch r s s') : Stamps s' where
  now := by rw [R.stabNum]; exact I.stamps.now
  node m := by
    rw [R.stabNum]
    by_cases h : m = n
    · subst h
      rw [R.recomputedAt, R.changedAt]
      refine ⟨Int.le_refl _, ?_⟩
      split
      · exact Int.le_refl _
      · exact (I.stamps.node m).2
    · rw [(R.other m h).recomputedAt, (R.other m h).changedAt]; exact I.stamps.node m
  var c vc h := by rw [R.stabNum]; rw [R.vars] at h; exact I.stamps.var c vc h

/-- `n` itself is not stale after the step -/
theorem step_self_fresh (I : Inv env e s (some n)) (R : StepRel env n v ch r s s') : staleOf s' n = false := by
  have st := step_stamps I R
  exact staleOf_fresh st.now (by rw [R.recomputedAt, R.stabNum]) st.var (fun c => (st.node c).2)

/-- `n` is not queued after the step -/
theorem step_self_not_queued (I : Inv env e s (some n)) (R : StepRel env n v ch r s s') :
    (s'.nodeD n).inRch = false := by
  cases h : (s'.nodeD n).inRch with
  | false => rfl
  | true =>
    exfalso
    rcases R.newIn n h with h1 | ⟨_, h1⟩
    · rw [(I.cur n rfl).2 n (Anc.refl n)] at h1; cases h1
    · exact (I.graph.parent_facts h1).2.2.2.2 rfl

/-- **the step lemma** -/
theorem step_inv (I : Inv env e s (some n)) (ht : Target env s n v) (R : StepRel env n v ch r s s') :
    Inv env e s' r := by
  have g := I.graph
  have hnn := (I.cur n rfl).1
  have g' : Graph env s' := g.transfer R.size R.shapes R.vars R.pc
  have st := step_stamps I R
  have hnotkid : n ∉ kids (s.nodeD n).kind := by
    intro h; have := (g.kids_nec hnn h).2; omega
  refine ⟨g', R.heap, st, ?_, ?_, ?_, ?_, ?_, ?_⟩
  · -- pending
    intro m hm hst
    have hm' := hm; rw [R.nec] at hm'
    rw [g'.isStale hm] at hst
    by_cases hne : m = n
    · subst hne; rw [step_self_fresh I R] at hst; cases hst
    · rcases step_stale_other I R hm' hne with h1 | ⟨hc, hp, _⟩
      · rw [h1, ← g.isStale hm'] at hst
        rcases I.pending m hm' hst with h2 | h2
        · exact Or.inl ((R.other m hne).inRch h2)
        · cases h2; exact absurd rfl hne
      · exact R.parentsIn hc m hp
  · -- cons
    intro m hm hst
    have hm' := hm; rw [R.nec] at hm'
    rw [g'.isStale hm] at hst
    by_cases hne : m = n
    · subst hne
      refine ⟨v, R.value, fun _ => ?_⟩
      refine Target.congr R.shape.kind R.vars ?_ ht
      intro c hc
      have : c ≠ m := by intro e; subst e; exact hnotkid hc
      exact (R.other c this).value
    · rcases step_stale_other I R hm' hne with h1 | ⟨_, _, h3⟩
      · rw [h1, ← g.isStale hm'] at hst
        obtain ⟨w, hval, hw⟩ := I.cons m hm' hst
        refine ⟨w, by rw [(R.other m hne).value]; exact hval, fun he => ?_⟩
        refine Target.congr (R.other m hne).kind R.vars ?_ (hw he)
        intro c hc
        by_cases hcn : c = n
        · subst hcn
          -- `n` is a child of `m`: had `n` changed, `m` would be stale
          cases hch : ch with
          | false =>
            obtain ⟨⟨old, hold, heq⟩, -⟩ := R.unch hch
            rw [R.value, hold, heq (I.exact he c)]
          | true =>
            exfalso
            have hpar := g.mem_parents hm' hc
            have hfr := I.fresh c (Or.inr rfl) m (g.parent_facts hpar).2.2.1
            have : staleOf s' m = true := by
              refine staleOf_of_child (c := c) (by rw [(R.other m hne).kind]; exact hc) ?_
              rw [R.changedAt, hch, (R.other m hne).recomputedAt]
              simpa using hfr
            rw [h1, ← g.isStale hm'] at this
            rw [this] at hst; cases hst
        · exact (R.other c hcn).value
      · rw [h3] at hst; cases hst
  · -- exact
    intro he m
    rw [(R.shapes m).cutoff]; exact I.exact he m
  · -- fresh
    intro d hd a ha
    rw [Anc.transfer_iff R.shapes] at ha
    rw [R.stabNum]
    -- either `d` was pending before, or it is a parent of `n`
    have key : ((s.nodeD d).inRch = true) ∨ d ∈ (s.nodeD n).parents.map (·.1) := by
      rcases hd with h | h
      · rcases R.newIn d h with h1 | ⟨_, h1⟩
        · exact Or.inl h1
        · exact Or.inr h1
      · exact Or.inr (R.ret d h).2.1
    rcases key with h | h
    · have hlt := I.fresh d (Or.inl h) a ha
      by_cases han : a = n
      · subst han
        rw [(I.cur a rfl).2 d ha] at h; cases h
      · rw [(R.other a han).recomputedAt]; exact hlt
    · have pf := g.parent_facts h
      have hlt := I.fresh n (Or.inr rfl) a (ha.trans pf.2.2.1)
      by_cases han : a = n
      · subst han
        have := ha.height_le g
        omega
      · rw [(R.other a han).recomputedAt]; exact hlt
  · -- cur
    intro p hp
    obtain ⟨hch, hpar, hnq, hwhy⟩ := R.ret p hp
    have pf := g.parent_facts hpar
    refine ⟨by rw [R.nec]; exact pf.1, ?_⟩
    intro d hd
    rw [Anc.transfer_iff R.shapes] at hd
    by_cases hdp : p = d
    · subst hdp; exact hnq
    cases hq : (s'.nodeD d).inRch with
    | false => rfl
    | true =>
      exfalso
      rcases hwhy with ⟨f, args, hk, hlen⟩ | hmin
      · obtain ⟨c, _, hc, hcd⟩ := hd.cases_ne hdp
        have hn_in := pf.2.1
        rw [hk] at hc hn_in
        simp only [kids] at hc hn_in
        have hcn : c = n := by
          match args, hlen, hc, hn_in with
          | [x], _, hc, hn_in =>
            simp only [List.mem_singleton] at hc hn_in
            rw [hc, hn_in]
        subst hcn
        rcases R.newIn d hq with h1 | ⟨_, h1⟩
        · rw [(I.cur c rfl).2 d hcd] at h1; cases h1
        · have := (g.parent_facts h1).2.2.2.1
          have := hcd.height_le g
          omega
      · have h1 := hmin d hq
        have h2 := hd.height_lt g hdp
        omega
  · -- qstale
    intro m hm
    have key : ((s.nodeD m).inRch = true ∧ m ≠ n) ∨ (ch = true ∧ m ∈ (s.nodeD n).parents.map (·.1)) := by
      rcases hm with h | h
      · rcases R.newIn m h with h1 | h1
        · left
          refine ⟨h1, ?_⟩
          intro e; subst e
          rw [(I.cur m rfl).2 m (Anc.refl m)] at h1; cases h1
        · exact Or.inr h1
      · exact Or.inr ⟨(R.ret m h).1, (R.ret m h).2.1⟩
    rcases key with ⟨h, hne⟩ | ⟨hc, hp⟩
    · have hmn := I.heap.nec m h
      have hst := I.qstale m (Or.inl h)
      rw [g'.isStale (by rw [R.nec]; exact hmn)]
      rcases step_stale_other I R hmn hne with h1 | ⟨_, _, h3⟩
      · rw [h1, ← g.isStale hmn]; exact hst
      · exact h3
    · have pf := g.parent_facts hp
      rw [g'.isStale (by rw [R.nec]; exact pf.1)]
      rcases step_stale_other I R pf.1 pf.2.2.2.2 with h1 | ⟨_, _, h3⟩
      · -- `n` changed and `m` is a parent of `n`: stale
        have hfr := I.fresh n (Or.inr rfl) m pf.2.2.1
        refine staleOf_of_child (c := n) (by rw [(R.other m pf.2.2.2.2).kind]; exact pf.2.1) ?_
        rw [R.changedAt, hc, (R.other m pf.2.2.2.2).recomputedAt]
        simpa using hfr
      · exact h3

end step
end IncrVerif.Proofs.CutH
