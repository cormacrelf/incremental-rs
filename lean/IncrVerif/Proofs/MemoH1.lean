import IncrVerif.Proofs.Memo
import IncrVerif.Proofs.Life3
/-!
# C20 over whole histories, part 1: what no function of the model touches

`F0V s s'` ("frame"): the step from `s` to `s'` only appended nodes, kept `kind`/`createdIn`/`valid` of the
existing nodes, left the memo tables, the naming table `top`, the program's handles and every observer's
`(node, clones)` alone, made new nodes valid, and kept `RegScoped` (a node registered in a bind's
`allNodesCreatedOnRhs` exists and was created in that bind's scope).  `F0` is the same without `valid`.

`class FLocal R` (`F0V s s' → R s s'`) and `class ILocal R` (`F0 s s' → R s s'`): every function of the
model that neither calls a memoised function nor sweeps the tables is `Pres R` — for `FLocal` the functions
that do not invalidate, for `ILocal` all of them (this file and `H2`).  Both follow from the footprint
(`PresF.of_foot`, `PresI.of_foot`): every write but those of `F0.breaks` is an `F0` step, and `create_node` as a whole
(count, push, registration: `F0V.created`) is one.
-/
namespace IncrVerif.Proofs.MemoH
open IncrVerif.Engine IncrVerif.Proofs.Obs IncrVerif.Proofs.Memo

/-- the immutable part of a node -/
def nodeK (nd : Node) : Kind × Scope := (nd.kind, nd.createdIn)
/-- what makes an observer a root: the node it watches and the number of public handles -/
def obsK (ob : ObsRec) : Nat × Nat := (ob.node, ob.clones)

/-- a node registered with bind `b` exists and was created in scope `.bind b` -/
def RegScoped (s : State) : Prop :=
  ∀ b br, s.binds[b]? = some br → ∀ r ∈ br.allNodesCreatedOnRhs,
    r < s.nodes.size ∧ (s.nodeD r).createdIn = .bind b

structure F0 (s s' : State) : Prop where
  nodesLe : s.nodes.size ≤ s'.nodes.size
  core : ∀ i, i < s.nodes.size → nodeK (s'.nodeD i) = nodeK (s.nodeD i)
  memos : s'.memos = s.memos
  top : s'.top = s.top
  handles : s'.handles = s.handles
  obs : ∀ o : Nat, (s'.observers[o]?).map obsK = (s.observers[o]?).map obsK
  reg : RegScoped s → RegScoped s'
  /-- events are only ever added -/
  log : ∃ evs, s'.log = evs ++ s.log

structure F0V (s s' : State) : Prop extends F0 s s' where
  valid : ∀ i, i < s.nodes.size → (s'.nodeD i).valid = (s.nodeD i).valid
  newValid : ∀ i, s.nodes.size ≤ i → i < s'.nodes.size → (s'.nodeD i).valid = true

theorem F0.refl (s : State) : F0 s s :=
  ⟨Nat.le_refl _, fun _ _ => rfl, rfl, rfl, rfl, fun _ => rfl, fun h => h, [], rfl⟩

theorem F0.trans {a b c : State} (h1 : F0 a b) (h2 : F0 b c) : F0 a c where
  nodesLe := Nat.le_trans h1.nodesLe h2.nodesLe
  core i hi := (h2.core i (Nat.lt_of_lt_of_le hi h1.nodesLe)).trans (h1.core i hi)
  memos := h2.memos.trans h1.memos
  top := h2.top.trans h1.top
  handles := h2.handles.trans h1.handles
  obs o := (h2.obs o).trans (h1.obs o)
  reg h := h2.reg (h1.reg h)
  log := by
    obtain ⟨e1, q1⟩ := h1.log
    obtain ⟨e2, q2⟩ := h2.log
    exact ⟨e2 ++ e1, by rw [q2, q1, List.append_assoc]⟩

theorem F0V.refl (s : State) : F0V s s :=
  ⟨F0.refl s, fun _ _ => rfl, fun i h1 h2 => absurd h2 (by omega)⟩

theorem F0V.trans {a b c : State} (h1 : F0V a b) (h2 : F0V b c) : F0V a c where
  toF0 := h1.toF0.trans h2.toF0
  valid i hi := (h2.valid i (Nat.lt_of_lt_of_le hi h1.nodesLe)).trans (h1.valid i hi)
  newValid i hi1 hi2 := by
    by_cases hb : i < b.nodes.size
    · rw [h2.valid i hb]; exact h1.newValid i hi1 hb
    · exact h2.newValid i (by omega) hi2

instance : PreOrd F0 := ⟨F0.refl, F0.trans⟩
instance : PreOrd F0V := ⟨F0V.refl, F0V.trans⟩

theorem RegScoped.of_eq {s s' : State} (h1 : s'.nodes = s.nodes) (h2 : s'.binds = s.binds)
    (h : RegScoped s) : RegScoped s' := by
  intro b br hb r hr
  rw [h2] at hb
  have := h b br hb r hr
  simpa only [State.nodeD, h1] using this

/-- a step that leaves `nodes`, `memos`, `top`, `handles`, `observers`, `binds` alone -/
theorem F0V.of_eq {s s' : State} (h1 : s'.nodes = s.nodes) (h2 : s'.memos = s.memos)
    (h3 : s'.top = s.top) (h4 : s'.handles = s.handles) (h5 : s'.observers = s.observers)
    (h6 : s'.binds = s.binds) (h7 : s'.log = s.log) : F0V s s' where
  nodesLe := by rw [h1]; exact Nat.le_refl _
  core i _ := by simp only [State.nodeD, h1]
  memos := h2
  top := h3
  handles := h4
  obs o := by rw [h5]
  reg := RegScoped.of_eq h1 h6
  log := ⟨[], by rw [h7]; rfl⟩
  valid i _ := by simp only [State.nodeD, h1]
  newValid i hi1 hi2 := absurd hi2 (by rw [h1]; omega)

theorem nodeD_modify (s : State) (n : Nat) (f : Node → Node) (i : Nat) :
    ({ s with nodes := s.nodes.modify n f } : State).nodeD i
      = if n = i then (if i < s.nodes.size then f (s.nodeD i) else s.nodeD i) else s.nodeD i := by
  simp only [State.nodeD, Array.getElem?_modify]
  by_cases hni : n = i
  · subst hni
    by_cases hi : n < s.nodes.size
    · simp [hi]
    · simp [hi, Array.getElem?_eq_none (Nat.le_of_not_lt hi)]
  · simp [hni]

theorem F0.modNode (s : State) (n : Nat) (f : Node → Node) (hf : ∀ x, nodeK (f x) = nodeK x) :
    F0 s { s with nodes := s.nodes.modify n f } where
  nodesLe := by show s.nodes.size ≤ (s.nodes.modify n f).size; simp
  core i hi := by
    rw [nodeD_modify]
    by_cases hni : n = i
    · rw [if_pos hni, if_pos hi]; exact hf _
    · rw [if_neg hni]
  memos := rfl
  top := rfl
  handles := rfl
  obs _ := rfl
  log := ⟨[], rfl⟩
  reg h := by
    intro b br hb r hr
    have := h b br hb r hr
    refine ⟨by simpa using this.1, ?_⟩
    rw [nodeD_modify]
    by_cases hni : n = r
    · rw [if_pos hni, if_pos this.1]
      have h2 := hf (s.nodeD r)
      simp only [nodeK, Prod.mk.injEq] at h2
      rw [h2.2]; exact this.2
    · rw [if_neg hni]; exact this.2

theorem F0V.modNode (s : State) (n : Nat) (f : Node → Node)
    (hf : ∀ x, nodeK (f x) = nodeK x ∧ (f x).valid = x.valid) :
    F0V s { s with nodes := s.nodes.modify n f } where
  toF0 := F0.modNode s n f fun x => (hf x).1
  valid i hi := by
    rw [nodeD_modify]
    by_cases hni : n = i
    · rw [if_pos hni, if_pos hi]; exact (hf _).2
    · rw [if_neg hni]
  newValid i hi1 hi2 := absurd hi2 (by show ¬ i < (s.nodes.modify n f).size; simp; omega)

theorem F0V.modObs (s : State) (o : Nat) (f : ObsRec → ObsRec) (hf : ∀ x, obsK (f x) = obsK x) :
    F0V s { s with observers := s.observers.modify o f } where
  nodesLe := Nat.le_refl _
  core _ _ := rfl
  memos := rfl
  top := rfl
  handles := rfl
  obs o' := by
    simp only [Array.getElem?_modify]
    split
    · cases s.observers[o']? <;> simp [hf]
    · rfl
  reg h := h
  log := ⟨[], rfl⟩
  valid _ _ := rfl
  newValid i hi1 hi2 := absurd hi2 (by show ¬ i < s.nodes.size; omega)

theorem F0V.modBind (s : State) (b : Nat) (f : BindRec → BindRec)
    (hf : ∀ x, ∀ r ∈ (f x).allNodesCreatedOnRhs, r ∈ x.allNodesCreatedOnRhs) :
    F0V s { s with binds := s.binds.modify b f } where
  nodesLe := Nat.le_refl _
  core _ _ := rfl
  memos := rfl
  top := rfl
  handles := rfl
  obs _ := rfl
  log := ⟨[], rfl⟩
  reg h := by
    intro b' br hb r hr
    simp only [Array.getElem?_modify] at hb
    split at hb
    · cases hx : s.binds[b']? with
      | none => rw [hx] at hb; cases hb
      | some x =>
        rw [hx] at hb
        simp only [Option.map_some, Option.some.injEq] at hb
        subst hb
        exact h b' x hx r (hf x r hr)
    · exact h b' br hb r hr
  valid _ _ := rfl
  newValid i hi1 hi2 := absurd hi2 (by show ¬ i < s.nodes.size; omega)

theorem F0V.pushBind (s : State) (br : BindRec) (hbr : br.allNodesCreatedOnRhs = []) :
    F0V s { s with binds := s.binds.push br } where
  nodesLe := Nat.le_refl _
  core _ _ := rfl
  memos := rfl
  top := rfl
  handles := rfl
  obs _ := rfl
  log := ⟨[], rfl⟩
  reg h := by
    intro b' br' hb r hr
    simp only [Array.getElem?_push] at hb
    split at hb
    · cases hb; rw [hbr] at hr; cases hr
    · exact h b' br' hb r hr
  valid _ _ := rfl
  newValid i hi1 hi2 := absurd hi2 (by show ¬ i < s.nodes.size; omega)

theorem nodeD_push (s : State) (nd : Node) (i : Nat) :
    ({ s with nodes := s.nodes.push nd } : State).nodeD i
      = if i = s.nodes.size then nd else s.nodeD i := by
  simp only [State.nodeD, Array.getElem?_push]
  split <;> simp

/-- appending a top-level node -/
theorem F0V.pushTop (s : State) (nd : Node) (hv : nd.valid = true) :
    F0V s { s with nodes := s.nodes.push nd } where
  nodesLe := by simp
  core i hi := by rw [nodeD_push]; simp [Nat.ne_of_lt hi]
  memos := rfl
  top := rfl
  handles := rfl
  obs _ := rfl
  log := ⟨[], rfl⟩
  reg h := by
    intro b br hb r hr
    have := h b br hb r hr
    refine ⟨by simp; omega, ?_⟩
    rw [nodeD_push]; simp [Nat.ne_of_lt this.1, this.2]
  valid i hi := by rw [nodeD_push]; simp [Nat.ne_of_lt hi]
  newValid i hi1 hi2 := by
    have : i = s.nodes.size := by simp at hi2; omega
    rw [nodeD_push]; simp [this, hv]

/-- appending a node created in scope `.bind b` and registering it with `b` -/
theorem F0V.pushScoped (s : State) (nd : Node) (b : Nat) (hv : nd.valid = true)
    (hsc : nd.createdIn = .bind b) :
    F0V s { s with nodes := s.nodes.push nd,
                   binds := s.binds.modify b fun x =>
                     { x with allNodesCreatedOnRhs := x.allNodesCreatedOnRhs ++ [s.nodes.size] } } where
  nodesLe := by simp
  core i hi := by
    show nodeK (({ s with nodes := s.nodes.push nd } : State).nodeD i) = _
    rw [nodeD_push]; simp [Nat.ne_of_lt hi]
  memos := rfl
  top := rfl
  handles := rfl
  obs _ := rfl
  log := ⟨[], rfl⟩
  reg h := by
    intro b' br hb r hr
    show r < (s.nodes.push nd).size ∧ (({ s with nodes := s.nodes.push nd } : State).nodeD r).createdIn = _
    rw [nodeD_push]
    simp only [Array.getElem?_modify] at hb
    have old : ∀ br0, s.binds[b']? = some br0 → r ∈ br0.allNodesCreatedOnRhs →
        r < (s.nodes.push nd).size ∧ (if r = s.nodes.size then nd else s.nodeD r).createdIn = .bind b' := by
      intro br0 h0 hr0
      have := h b' br0 h0 r hr0
      exact ⟨by simp; omega, by simp [Nat.ne_of_lt this.1, this.2]⟩
    split at hb
    · rename_i hbb
      cases hx : s.binds[b']? with
      | none => rw [hx] at hb; cases hb
      | some x =>
        rw [hx] at hb
        simp only [Option.map_some, Option.some.injEq] at hb
        subst hb
        rcases List.mem_append.1 hr with hr | hr
        · exact old x hx hr
        · simp only [List.mem_singleton] at hr
          subst hr
          exact ⟨by simp, by simp [hsc, hbb]⟩
    · exact old br hb hr
  valid i hi := by
    show (({ s with nodes := s.nodes.push nd } : State).nodeD i).valid = _
    rw [nodeD_push]; simp [Nat.ne_of_lt hi]
  newValid i hi1 hi2 := by
    show (({ s with nodes := s.nodes.push nd } : State).nodeD i).valid = true
    have : i = s.nodes.size := by
      have : i < (s.nodes.push nd).size := hi2
      simp at this; omega
    rw [nodeD_push]; simp [this, hv]

/-! ## the two classes of relations -/

/-- relations implied by the frame `F0V` -/
class FLocal (R : State → State → Prop) : Prop extends PreOrd R where
  of_frame : ∀ s s' : State, F0V s s' → R s s'

/-- relations implied by the frame `F0` (they do not look at `valid`) -/
class ILocal (R : State → State → Prop) : Prop extends PreOrd R where
  of_frame0 : ∀ s s' : State, F0 s s' → R s s'

instance (R : State → State → Prop) [ILocal R] : FLocal R where
  of_frame s s' h := ILocal.of_frame0 s s' h.toF0

instance : ILocal F0 := ⟨fun _ _ h => h⟩
instance : FLocal F0V := ⟨fun _ _ h => h⟩

/-! ## the decomposition tactic (same shape as `Life.lpres`) -/

syntax "mleaf" : tactic
macro_rules | `(tactic| mleaf) => `(tactic| fail "no leaf")

macro "mstep" : tactic => `(tactic| first
  | with_reducible apply Pres.pure | with_reducible apply Pres.get | with_reducible apply Pres.panic
  | with_reducible apply Pres.throw
  | with_reducible apply Pres.bind | with_reducible apply Pres.map | with_reducible apply Pres.mapM
  | with_reducible apply Pres.forIn
  | with_reducible apply Pres.getNode | with_reducible apply Pres.dassert
  | with_reducible apply Pres.getBind | with_reducible apply Pres.getExpert
  | with_reducible apply Pres.getVar | with_reducible apply Pres.assertM
  | with_reducible apply Pres.getObs | with_reducible apply Pres.isConstant
  | with_reducible apply Pres.resolveOpnd | with_reducible apply Pres.discard
  | intro _ | split
  | mleaf
  | dsimp only)

macro "mpres" : tactic => `(tactic| repeat (any_goals mstep))

/-- register a lemma as a leaf -/
macro "memo_leaf " n:ident : command =>
  `(macro_rules | `(tactic| mleaf) => `(tactic| with_reducible apply $n))

section
variable {R : State → State → Prop} [FLocal R]

macro_rules
  | `(tactic| mleaf) =>
    `(tactic| ((with_reducible apply Pres.modify); intro _;
               exact FLocal.of_frame _ _ (F0V.of_eq rfl rfl rfl rfl rfl rfl rfl)))

theorem PresF.modNode (n f) (hf : ∀ x, nodeK (f x) = nodeK x ∧ (f x).valid = x.valid) :
    Pres R (modNode n f) := by
  unfold Engine.modNode; exact Pres.modify fun s => FLocal.of_frame _ _ (F0V.modNode s n f hf)
macro_rules
  | `(tactic| mleaf) => `(tactic| ((with_reducible apply PresF.modNode); intro _; exact ⟨rfl, rfl⟩))
theorem PresF.modObs (o f) (hf : ∀ x, obsK (f x) = obsK x) : Pres R (modObs o f) := by
  unfold Engine.modObs; exact Pres.modify fun s => FLocal.of_frame _ _ (F0V.modObs s o f hf)
macro_rules
  | `(tactic| mleaf) => `(tactic| ((with_reducible apply PresF.modObs); intro _; rfl))
theorem PresF.modBind (b f) (hf : ∀ x, ∀ r ∈ (f x).allNodesCreatedOnRhs, r ∈ x.allNodesCreatedOnRhs) :
    Pres R (modBind b f) := by
  unfold Engine.modBind; exact Pres.modify fun s => FLocal.of_frame _ _ (F0V.modBind s b f hf)
macro_rules
  | `(tactic| mleaf) =>
    `(tactic| ((with_reducible apply PresF.modBind); intro _ _ h; first | exact h | cases h))
theorem PresF.modVar (n f) : Pres R (modVar n f) := by unfold Engine.modVar; mpres
memo_leaf PresF.modVar
theorem PresF.modExpert (n f) : Pres R (modExpert n f) := by unfold Engine.modExpert; mpres
memo_leaf PresF.modExpert
theorem PresF.bumpCounter (f) : Pres R (bumpCounter f) := by unfold Engine.bumpCounter; mpres
memo_leaf PresF.bumpCounter
theorem F0V.logEv (e : Event) (s : State) : F0V s { s with log := e :: s.log } where
  nodesLe := Nat.le_refl _
  core _ _ := rfl
  memos := rfl
  top := rfl
  handles := rfl
  obs _ := rfl
  reg h := h
  log := ⟨[e], rfl⟩
  valid _ _ := rfl
  newValid i hi1 hi2 := absurd hi2 (by show ¬ i < s.nodes.size; omega)
theorem PresF.logEv (e : Event) : Pres R (logEv e) := by
  unfold Engine.logEv; exact Pres.modify fun s => FLocal.of_frame _ _ (F0V.logEv e s)
memo_leaf PresF.logEv

section
omit [FLocal R]
variable [PreOrd R]
theorem PresP.scopeHeight (sc) : Pres R (scopeHeight sc) := (Step.Pres.scopeHeight sc).toObs
theorem PresP.scopeIsValid (sc) : Pres R (scopeIsValid sc) := Pres.of_reads (Footprint.Foot.scopeIsValid sc)
theorem PresP.expertOf (n) : Pres R (expertOf n) := Pres.of_reads (Footprint.Foot.expertOf n)
theorem PresP.expertIdxRaw (n) : Pres R (expertIdxRaw n) := Pres.of_reads (Footprint.Foot.expertIdxRaw n)
end
memo_leaf PresP.scopeHeight
memo_leaf PresP.scopeIsValid
memo_leaf Life.PresR.valueUnwrap
memo_leaf PresP.expertOf
memo_leaf PresP.expertIdxRaw

/-! ### the footprint -/

/-- the writes that do not keep `F0`: a push or a registration outside `create_node`, and the memo tables -/
def F0.breaks : List Footprint.Tag := [.pushNode, .bRegister, .memos]

theorem F0.of_edit {L w} (hL : ∀ t ∈ L, t ∉ F0.breaks) {s s' : State} (e : Footprint.Edit L w s s') : F0 s s' := by
  cases e
  case node n f hf => exact F0.modNode s n f fun x => by cases hf <;> rfl
  case value n _ f hf => exact F0.modNode s n f fun x => by cases hf <;> rfl
  case stamp n _ | erase n _ => exact F0.modNode s n _ fun _ => rfl
  case bind b f hf =>
    exact (F0V.modBind s b f fun x r hr => by cases hf <;> first | exact hr | cases hr | exact absurd (hL _ ‹_›) (by decide)).toF0
  case pushBind lhs body _ => exact (F0V.pushBind s _ rfl).toF0
  case obs o f hf => exact (F0V.modObs s o f fun x => by cases hf <;> rfl).toF0
  case log ev _ => exact (F0V.logEv ev s).toF0
  all_goals first | exact F0V.toF0 (F0V.of_eq rfl rfl rfl rfl rfl rfl rfl) | exact absurd (hL _ ‹_›) (by decide)

/-- `F0V` is broken by `valid := false` as well -/
theorem F0V.of_edit {L w} (hL : ∀ t ∈ L, t ∉ Footprint.Tag.nInvalid :: F0.breaks) {s s' : State} (e : Footprint.Edit L w s s') : F0V s s' where
  toF0 := F0.of_edit (fun t ht h => hL t ht (List.mem_cons_of_mem _ h)) e
  valid i hi :=
    e.node_keeps (·.valid) (fun _ hf _ => by cases hf <;> first | rfl | exact absurd (hL _ ‹_›) (by decide)) (fun _ hf _ => by cases hf <;> rfl)
      (fun _ _ => rfl) (fun _ _ => rfl) hi
  newValid i h1 h2 := absurd h2 (by rw [e.size_eq fun h => hL _ h (by decide)]; omega)

/-- `create_node`: the new node is valid and, in scope `.bind b`, registered with `b` -/
theorem F0V.created (s : State) (k : Kind) (sc : Scope) (c : CutoffK) : F0V s (Footprint.created s k sc c) := by
  have h1 : F0V s { s with counters := { s.counters with created := s.counters.created + 1 } } := F0V.of_eq rfl rfl rfl rfl rfl rfl rfl
  cases sc with
  | top => exact h1.trans (F0V.pushTop _ _ rfl)
  | bind b => exact h1.trans (F0V.pushScoped _ _ b rfl rfl)

theorem F0V.of_compound {t : Footprint.Tag} {s s' : State} (c : Footprint.Compound t s s') : F0V s s' := by
  have : Step.PreOrd F0V := ⟨F0V.refl, F0V.trans⟩
  have hs := c.steps (w := fun _ => True)
  cases c with
  | createNode s k sc c => exact F0V.created s k sc c
  | mark | markNotified | touch | disallow | setHeight => exact hs.lift (F0V.of_edit (by decide))

theorem F0V.of_call {L w} (hL : ∀ t ∈ L, t ∉ Footprint.Tag.nInvalid :: F0.breaks) {s s' : State} (c : Footprint.Call L w s s') : F0V s s' := by
  cases c with
  | edit e => exact F0V.of_edit hL e
  | call _ c => exact F0V.of_compound c

theorem F0.of_call {L w} (hL : ∀ t ∈ L, t ∉ F0.breaks) {s s' : State} (c : Footprint.Call L w s s') : F0 s s' := by
  cases c with
  | edit e => exact F0.of_edit hL e
  | call _ c => exact (F0V.of_compound c).toF0

/-- a function that neither invalidates nor makes a write in `F0.breaks` keeps every `FLocal` relation -/
theorem PresF.of_foot {L α} {m : M α} (hm : Footprint.Foot L (fun _ => True) m)
    (hL : ∀ t ∈ Footprint.partsB L, t ∉ Footprint.Tag.nInvalid :: F0.breaks) :
    Pres R m :=
  (hm.calls fun c => FLocal.of_frame _ _ (F0V.of_call hL c)).toObs

theorem PresF.tick : Pres R tick := PresF.of_foot Footprint.Foot.tick (by decide)
memo_leaf PresF.tick

/-! ### heaps, heights -/
theorem PresF.rchInsert (n) : Pres R (rchInsert n) := PresF.of_foot (Footprint.Foot.rchInsert n) (by decide)
memo_leaf PresF.rchInsert
theorem PresF.rchRemove (n) : Pres R (rchRemove n) := PresF.of_foot (Footprint.Foot.rchRemove n) (by decide)
memo_leaf PresF.rchRemove
theorem PresF.rchRemoveMin : Pres R rchRemoveMin := PresF.of_foot Footprint.Foot.rchRemoveMin (by decide)
memo_leaf PresF.rchRemoveMin
theorem PresF.setHeight (n h) : Pres R (setHeight n h) := PresF.of_foot (Footprint.Foot.setHeight n h) (by decide)
memo_leaf PresF.setHeight
theorem PresF.ensureHeightRequirement (a b c d) : Pres R (ensureHeightRequirement a b c d) :=
  PresF.of_foot (Footprint.Foot.ensureHeightRequirement a b c d) (by decide)
memo_leaf PresF.ensureHeightRequirement
theorem PresF.adjustHeights (oc op fuel) : Pres R (adjustHeights oc op fuel) := PresF.of_foot (Footprint.Foot.adjustHeights oc op fuel) (by decide)
memo_leaf PresF.adjustHeights

/-! ### parents, handlers bookkeeping, cutoffs, edge callbacks -/
theorem PresF.addParent (a b c) : Pres R (addParent a b c) := PresF.of_foot (Footprint.Foot.addParent a b c) (by decide)
memo_leaf PresF.addParent
theorem PresF.removeParent (a b c) : Pres R (removeParent a b c) := PresF.of_foot (Footprint.Foot.removeParent a b c) (by decide)
memo_leaf PresF.removeParent
theorem PresF.handleAfterStabilisation (n) : Pres R (handleAfterStabilisation n) :=
  PresF.of_foot (Footprint.Foot.handleAfterStabilisation n) (by decide)
memo_leaf PresF.handleAfterStabilisation
theorem PresF.maybeHandleAfterStabilisation (n) : Pres R (maybeHandleAfterStabilisation n) :=
  PresF.of_foot (Footprint.Foot.maybeHandleAfterStabilisation n) (by decide)
memo_leaf PresF.maybeHandleAfterStabilisation
theorem PresF.shouldCutoff (env n o v) : Pres R (shouldCutoff env n o v) := PresF.of_foot (Footprint.Foot.shouldCutoff env n o v) (by decide)
memo_leaf PresF.shouldCutoff
theorem PresF.edgeOnChange (env e edge) : Pres R (edgeOnChange env e edge) := PresF.of_foot (Footprint.Foot.edgeOnChange env e edge) (by decide)
memo_leaf PresF.edgeOnChange
theorem PresF.markMapRefUnknown (fuel n) : Pres R (markMapRefUnknown fuel n) := PresF.of_foot (Footprint.Foot.markMapRefUnknown fuel n) (by decide)
memo_leaf PresF.markMapRefUnknown

/-! ### necessity cascades -/
theorem PresF.necessary (env : Env) (fuel : Nat) :
    (∀ n, Pres R (becameNecessary env fuel n)) ∧
    (∀ c i p, Pres R (addParentWithoutAdjustingHeights env fuel c i p)) :=
  ⟨fun n => PresF.of_foot (Footprint.Foot.becameNecessary env fuel n) (by decide),
   fun c i p => PresF.of_foot (Footprint.Foot.addParentWithoutAdjustingHeights env fuel c i p) (by decide)⟩
theorem PresF.becameNecessary (env fuel n) : Pres R (becameNecessary env fuel n) :=
  (PresF.necessary env fuel).1 n
memo_leaf PresF.becameNecessary
theorem PresF.addParentWithoutAdjustingHeights (env fuel c i p) :
    Pres R (addParentWithoutAdjustingHeights env fuel c i p) := (PresF.necessary env fuel).2 c i p
memo_leaf PresF.addParentWithoutAdjustingHeights

theorem PresF.unnecessary (fuel : Nat) :
    (∀ n, Pres R (becameUnnecessary fuel n)) ∧ (∀ n, Pres R (checkIfUnnecessary fuel n)) ∧
    (∀ n, Pres R (removeChildren fuel n)) :=
  ⟨fun n => PresF.of_foot (Footprint.Foot.becameUnnecessary fuel n) (by decide),
   fun n => PresF.of_foot (Footprint.Foot.checkIfUnnecessary fuel n) (by decide),
   fun n => PresF.of_foot (Footprint.Foot.removeChildren fuel n) (by decide)⟩
theorem PresF.becameUnnecessary (fuel n) : Pres R (becameUnnecessary fuel n) :=
  (PresF.unnecessary fuel).1 n
memo_leaf PresF.becameUnnecessary
theorem PresF.checkIfUnnecessary (fuel n) : Pres R (checkIfUnnecessary fuel n) :=
  (PresF.unnecessary fuel).2.1 n
memo_leaf PresF.checkIfUnnecessary
theorem PresF.removeChildren (fuel n) : Pres R (removeChildren fuel n) :=
  (PresF.unnecessary fuel).2.2 n
memo_leaf PresF.removeChildren

/-! ### expert API without invalidation -/
theorem PresF.assertRunningIsChild (n name) : Pres R (assertRunningIsChild n name) :=
  PresF.of_foot (Footprint.Foot.assertRunningIsChild n name) (by decide)
memo_leaf PresF.assertRunningIsChild
theorem PresF.expertMakeStale (n) : Pres R (expertMakeStale n) := PresF.of_foot (Footprint.Foot.expertMakeStale n) (by decide)
memo_leaf PresF.expertMakeStale
theorem PresF.expertRemoveDependency (fuel n dep) : Pres R (expertRemoveDependency fuel n dep) :=
  PresF.of_foot (Footprint.Foot.expertRemoveDependency fuel n dep) (by decide)
memo_leaf PresF.expertRemoveDependency

/-! ### node creation, var writes -/
theorem PresF.elabInstr (loc v i) : Pres R (elabInstr loc v i) := PresF.of_foot (Footprint.Foot.elabInstr loc v i) (by decide)
memo_leaf PresF.elabInstr
theorem PresF.elabTemplateBase (t v init) : Pres R (elabTemplateBase t v init) := PresF.of_foot (Footprint.Foot.elabTemplateBase t v init) (by decide)
memo_leaf PresF.elabTemplateBase
theorem PresF.didSetVarWhileNotStabilising (v) : Pres R (didSetVarWhileNotStabilising v) :=
  PresF.of_foot (Footprint.Foot.didSetVarWhileNotStabilising v) (by decide)
memo_leaf PresF.didSetVarWhileNotStabilising
theorem PresF.writeVar (v f b) : Pres R (writeVar v f b) := PresF.of_foot (Footprint.Foot.writeVar v f b) (by decide)
memo_leaf PresF.writeVar
theorem PresF.dropVarHandle (v) : Pres R (dropVarHandle v) := PresF.of_foot (Footprint.Foot.dropVarHandle v) (by decide)
memo_leaf PresF.dropVarHandle
theorem PresF.setMaxHeightAllowed (k) : Pres R (setMaxHeightAllowed k) := PresF.of_foot (Footprint.Foot.setMaxHeightAllowed k) (by decide)
memo_leaf PresF.setMaxHeightAllowed

/-! ### observers, effects without the expert invalidation, operator closures -/
theorem PresF.disallowFutureUse (o) : Pres R (disallowFutureUse o) := PresF.of_foot (Footprint.Foot.disallowFutureUse o) (by decide)
memo_leaf PresF.disallowFutureUse
theorem PresF.subscribe (o h) : Pres R (subscribe o h) := PresF.of_foot (Footprint.Foot.subscribe o h) (by decide)
memo_leaf PresF.subscribe
theorem PresF.unsubscribe (o t w) : Pres R (unsubscribe o t w) := PresF.of_foot (Footprint.Foot.unsubscribe o t w) (by decide)
memo_leaf PresF.unsubscribe
theorem PresF.runEffectBasic (env e) : Pres R (runEffectBasic env e) := PresF.of_foot (Footprint.Foot.runEffectBasic env e) (by decide)
memo_leaf PresF.runEffectBasic
theorem PresF.expertValue (env e d sl) : Pres R (expertValue env e d sl) := PresF.of_foot (Footprint.Foot.expertValue env e d sl) (by decide)
memo_leaf PresF.expertValue
theorem PresF.withOldEvents (env g n σ old x new did) :
    Pres R (withOldEvents env g n σ old x new did) := PresF.of_foot (Footprint.Foot.withOldEvents env g n σ old x new did) (by decide)
memo_leaf PresF.withOldEvents
theorem PresF.parentIterCanRecomputeNow (p c) : Pres R (parentIterCanRecomputeNow p c) :=
  PresF.of_foot (Footprint.Foot.parentIterCanRecomputeNow p c) (by decide)
memo_leaf PresF.parentIterCanRecomputeNow
theorem PresF.maybeChangeValueManual (env fuel n o d b) :
    Pres R (maybeChangeValueManual env fuel n o d b) := PresF.of_foot (Footprint.Foot.maybeChangeValueManual env fuel n o d b) (by decide)
memo_leaf PresF.maybeChangeValueManual
theorem PresF.maybeChangeValue (env fuel n v) : Pres R (maybeChangeValue env fuel n v) :=
  PresF.of_foot ((Footprint.Foot.maybeChangeValue env fuel n v).weaken (fun _ h => h) fun _ _ => trivial) (by decide)
memo_leaf PresF.maybeChangeValue
theorem PresF.unlinkDisallowedObservers (fuel) : Pres R (unlinkDisallowedObservers fuel) :=
  PresF.of_foot (Footprint.Foot.unlinkDisallowedObservers fuel) (by decide)
memo_leaf PresF.unlinkDisallowedObservers

end

/-! ## a memoised call, every outcome -/

theorem F0V.memoStart (m : Nat) (key : Int) (s : State) : F0V s (memoStart m key s) where
  nodesLe := Nat.le_refl _
  core _ _ := rfl
  memos := rfl
  top := rfl
  handles := rfl
  obs _ := rfl
  reg h := h
  log := ⟨[memoNote m key], rfl⟩
  valid _ _ := rfl
  newValid i hi1 hi2 := absurd hi2 (by show ¬ i < s.nodes.size; omega)

/-- every run of a memoised call: a hit (nothing happens); a panic of the fault hook or of the body (an `F0V` step); or a miss whose body ran from
`memoStart m key s1` and returned `n` in `s2`, followed by `memoFinish` -/
theorem memoCall_cases (env : Env) (m : Nat) (key : Int) (s s' : State) (r : Except Panic Nat)
    (hrun : (memoCall env m key).run.run s = (r, s')) :
    (memoHit s m key ≠ none ∧ s' = s) ∨
    (memoHit s m key = none ∧ (F0V s s' ∨ ∃ s1 s2 n, F0V s (memoStart m key s1) ∧
      (elabTemplateBase (env.memo m) (.int key)).run.run (memoStart m key s1) = (.ok n, s2) ∧
      F0V s s2 ∧ s' = memoFinish s1.currentScope m key n s2)) := by
  rw [memoCall_run] at hrun
  cases hh : memoHit s m key with
  | some x => rw [hh] at hrun; cases hrun; exact .inl ⟨Option.some_ne_none x, rfl⟩
  | none =>
    rw [hh] at hrun
    dsimp only at hrun
    refine .inr ⟨rfl, ?_⟩
    rcases ht : tick.run.run s with ⟨_ | u, s1⟩
    · rw [ht] at hrun; cases hrun
      exact .inl ((PresF.tick (R := F0V)).h _ _ _ ht)
    · rw [ht] at hrun
      dsimp only at hrun
      have hf1 : F0V s (memoStart m key s1) :=
        PreOrd.trans ((PresF.tick (R := F0V)).h _ _ _ ht) (F0V.memoStart m key s1)
      rcases he : (elabTemplateBase (env.memo m) (.int key)).run.run (memoStart m key s1) with ⟨_ | n, s2⟩
      · rw [he] at hrun; cases hrun
        exact .inl (PreOrd.trans hf1 ((PresF.elabTemplateBase (R := F0V) _ _ _).h _ _ _ he))
      · rw [he] at hrun; cases hrun
        exact .inr ⟨s1, s2, n, hf1, he, PreOrd.trans hf1 ((PresF.elabTemplateBase (R := F0V) _ _ _).h _ _ _ he), rfl⟩

end IncrVerif.Proofs.MemoH
