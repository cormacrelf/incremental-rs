import IncrVerif.Proofs.Quiet8
import IncrVerif.Proofs.CutH15
/-!
# Part 8: the invariant between API actions (`QInv`), observer bookkeeping, frames
-/
namespace IncrVerif.Proofs.Quiet
open IncrVerif.Engine IncrVerif.Proofs IncrVerif.Proofs.Step IncrVerif.Proofs.Sched

/-! ## observers -/

/-- observer bookkeeping, relative to the observers still waiting to be added (`pn`) and to be unlinked (`pd`) -/
structure ObsInv (s : State) (pn pd : List Nat) : Prop where
  /-- observers watch existing nodes and have no update handlers -/
  inRange : ∀ (o : Nat) (ob : ObsRec), s.observers[o]? = some ob → ob.node < s.nodes.size ∧ ob.handlers = []
  /-- the observer list of a node: exactly the linked (in use or disallowed) observers of that node -/
  mem : ∀ n o, o ∈ (s.nodeD n).observers ↔
    ∃ ob, s.observers[o]? = some ob ∧ ob.node = n ∧ (ob.state = .inUse ∨ ob.state = .disallowed)
  created : ∀ (o : Nat) (ob : ObsRec), s.observers[o]? = some ob → ob.state = .created → o ∈ pn
  newIn : ∀ o, o ∈ pn → ∃ ob, s.observers[o]? = some ob
  dis : ∀ (o : Nat) (ob : ObsRec), s.observers[o]? = some ob → (ob.state = .disallowed ↔ o ∈ pd)
  disIn : ∀ o, o ∈ pd → ∃ ob, s.observers[o]? = some ob
  disNodup : pd.Nodup

theorem ObsInv.toC {s : State} {pn pd : List Nat} (O : ObsInv s pn pd) : CutH.ObsInv s pn pd :=
  ⟨O.inRange, O.mem, O.created, O.newIn, O.dis, O.disIn, O.disNodup⟩
theorem ObsInv.ofC {s : State} {pn pd : List Nat} (O : CutH.ObsInv s pn pd) : ObsInv s pn pd :=
  ⟨O.inRange, O.mem, O.created, O.newIn, O.dis, O.disIn, O.disNodup⟩

def ObsOK (s : State) : Prop := ObsInv s s.newObservers s.disallowedObservers

/-! ## the invariant between API actions -/

structure QInv (env : Env) (s : State) : Prop where
  struct : Struct env s
  vars : VarsOK s
  obs : ObsOK s
  now : 0 ≤ s.stabNum
  /-- every stamp is from an earlier round -/
  stamps : ∀ m, (s.nodeD m).recomputedAt < s.stabNum ∧ (s.nodeD m).changedAt < s.stabNum
  varStamp : ∀ (c : Nat) (vc : VarCell), s.vars[c]? = some vc → vc.setAt ≤ s.stabNum
  /-- EVERY node that is not stale (necessary or not) is consistent with its children -/
  cons : ∀ m, m < s.nodes.size → staleOf s m = false → Consistent env s m
  status : s.status = .notStabilising
  alive : s.alive = true
  setDuringStab : s.setDuringStab = []
  deadVars : s.deadVars = []
  handleAfterStab : s.handleAfterStab = []
  handlers : ∀ m, (s.nodeD m).numOnUpdateHandlers ≤ 0
  pinv : s.propagateInvalidity = []
  /-- the naming table of top-level nodes -/
  top : ∀ (k n : Nat), s.top[k]? = some n → n < s.nodes.size

/-- `QInv` is `CutH.QInv` with the flag up ("every cutoff ever in force was exact"), and every cutoff `.eq` -/
theorem QInv.toC {env : Env} {s : State} (Q : QInv env s) : CutH.QInv env true s where
  struct := GInv.toC Q.struct
  vars := Q.vars.toC
  obs := ObsInv.toC Q.obs
  now := Q.now
  stamps := Q.stamps
  varStamp := Q.varStamp
  cons m hm hs := .of_consistent (Q.cons m hm hs)
  exact _ m := by
    by_cases hm : m < s.nodes.size
    · rw [Q.struct.eqCut m hm]; trivial
    · rw [nodeD_default s m (by omega)]; trivial
  status := Q.status
  alive := Q.alive
  setDuringStab := Q.setDuringStab
  deadVars := Q.deadVars
  handleAfterStab := Q.handleAfterStab
  handlers := Q.handlers
  pinv := Q.pinv
  top := Q.top

theorem QInv.eqCut {env : Env} {s : State} (Q : QInv env s) : EqCut s := GInv.eqCut Q.struct

theorem QInv.ofC {env : Env} {s : State} (Q : CutH.QInv env true s) (E : EqCut s) : QInv env s :=
  ⟨GInv.ofC Q.struct E, .ofC Q.vars, ObsInv.ofC Q.obs, Q.now, Q.stamps, Q.varStamp, Q.consistent, Q.status, Q.alive, Q.setDuringStab,
    Q.deadVars, Q.handleAfterStab, Q.handlers, Q.pinv, Q.top⟩


theorem QInv.quiet {env : Env} {s : State} (Q : QInv env s) : QuietInv env s where
  graph := Q.struct.graph Q.vars
  heap := Q.struct.heapInv
  now := Q.now
  stamps := Q.stamps
  varStamp := Q.varStamp
  queued := Q.struct.queued_iff
  cons m hm hs := by
    have hlt := nec_lt_size hm
    rw [GInv.isStale Q.struct hlt] at hs
    exact Q.cons m hlt hs
  watch n c hn hk := Q.vars.node n c (nec_lt_size hn) hk
  cell c vc h _ := (Q.vars.cell c vc h).2
  status := Q.status

/-! ## what the prefix of `stabilise` (adding and unlinking observers) keeps -/

def nodeKeyP (nd : Node) :=
  (nd.kind, nd.createdIn, nd.cutoff, nd.value, nd.valid, nd.recomputedAt, nd.changedAt,
    nd.forceNecessary, nd.numOnUpdateHandlers)

def stateKeyP (s : State) :=
  (s.vars, s.stabNum, s.status, s.cfg, s.currentScope, s.setDuringStab, s.deadVars, s.top, s.handles,
    s.alive, s.rch.queues.size, s.ahh, s.binds, s.memos, s.slots)

structure PFrame (s s' : State) : Prop where
  size : s'.nodes.size = s.nodes.size
  node : ∀ m, nodeKeyP (s'.nodeD m) = nodeKeyP (s.nodeD m)
  key : stateKeyP s' = stateKeyP s
  pc : s.panicCountdown = none → s'.panicCountdown = none

theorem PFrame.toC {s s' : State} (h : PFrame s s') : CutH.PFrame s s' := ⟨h.size, h.node, h.key, h.pc⟩
theorem PFrame.ofC {s s' : State} (h : CutH.PFrame s s') : PFrame s s' := ⟨h.size, h.node, h.key, h.pc⟩

theorem PFrame.refl (s : State) : PFrame s s := ⟨rfl, fun _ => rfl, rfl, id⟩
theorem PFrame.trans {a b c : State} (h1 : PFrame a b) (h2 : PFrame b c) : PFrame a c :=
  ⟨h2.size.trans h1.size, fun m => (h2.node m).trans (h1.node m), h2.key.trans h1.key,
    fun h => h2.pc (h1.pc h)⟩

theorem CFrame.toP {s s' : State} (h : CFrame s s') : PFrame s s' :=
  .ofC h.toC.toP

theorem PFrame.cutoff {s s' : State} (h : PFrame s s') (m : Nat) : (s'.nodeD m).cutoff = (s.nodeD m).cutoff := by
  have := h.node m; simp only [nodeKeyP, Prod.mk.injEq] at this; exact this.2.2.1

theorem EqCut.pframe {s s' : State} (E : EqCut s) (F : PFrame s s') : EqCut s' := E.of_eq F.size F.cutoff

end IncrVerif.Proofs.Quiet
