import IncrVerif.Proofs.LeakH7
/-!
# C12 over histories, part 8: the statements in history form; a decidable form of `HoldsNothing`
-/
namespace IncrVerif.Proofs.LeakH
open IncrVerif.Engine IncrVerif.Driver IncrVerif.Proofs IncrVerif.Proofs.Step IncrVerif.Proofs.Sched
open IncrVerif.Proofs.Quiet

/-- `HoldsNothing`, computably -/
def holdsNothingB (s : State) : Bool :=
  s.handles.isEmpty && s.slots.isEmpty && s.vars.toList.all (fun vc => vc.handles == 0) &&
    s.observers.toList.all (fun ob => ob.clones == 0)

theorem getElem?_mem_toList {α} {a : Array α} {i : Nat} {x : α} (h : a[i]? = some x) : x ∈ a.toList := by
  have := Array.mem_of_getElem? h
  simpa using this

theorem holdsNothing_of_B {s : State} (h : holdsNothingB s = true) : HoldsNothing s := by
  simp only [holdsNothingB, Bool.and_eq_true, List.isEmpty_iff, List.all_eq_true, beq_iff_eq] at h
  obtain ⟨⟨⟨h1, h2⟩, h3⟩, h4⟩ := h
  exact ⟨h1, h2, fun c vc hc => h3 vc (getElem?_mem_toList hc), fun o ob ho => h4 ob (getElem?_mem_toList ho)⟩

theorem holdsNothing_B {s : State} (H : HoldsNothing s) : holdsNothingB s = true := by
  simp only [holdsNothingB, Bool.and_eq_true, List.isEmpty_iff, List.all_eq_true, beq_iff_eq]
  refine ⟨⟨⟨H.handles, H.slots⟩, fun vc hm => ?_⟩, fun ob hm => ?_⟩
  · obtain ⟨c, hc⟩ := mem_toList_getElem? hm
    exact H.vars c vc hc
  · obtain ⟨o, ho⟩ := mem_toList_getElem? hm
    exact H.observers o ob ho

/-- the whole history, with the final `stabilise` as an action -/
theorem history_freed {env : Env} {N : Nat} {d : Bool} {acts drops : List Action} {s' : State}
    {tk' : Array Nat} (ha : ∀ a, a ∈ acts → StaticAction env a) (hd : ∀ a, a ∈ drops → DropAction a)
    (H : ∀ s tk, runActions env (acts ++ drops) (State.init N d) #[] = .ok (s, tk) → HoldsNothing s)
    (h : runActions env ((acts ++ drops) ++ [Action.stabilise]) (State.init N d) #[] = .ok (s', tk')) :
    s'.roots = [] := by
  obtain ⟨s1, tk1, h1, h⟩ := runActions_prefix h
  obtain ⟨r, s2, hx, h⟩ := Hist.runActions_cons_ok.1 h
  cases h
  exact freed_roots (history_dinv ha hd h1) (H s1 tk1 h1) (Hist.stepAction_stabilise_ok.1 hx).1

end IncrVerif.Proofs.LeakH
