import IncrVerif.Proofs.PerKeyH5
import IncrVerif.Proofs.PerKeyH6
/-!
# Per-key operators, API actions part 1: the frame `AF` of the static API actions that create no node

`AF s s'`: same number of nodes; every node keeps kind, scope, cutoff, value, validity, both stamps, `forceNecessary`, `heightInAhh`, observer list;
the expert records, the per-key records, the naming table, the current scope, the panic countdown, `nextDep`, `ahh`,
`stabNum` and `propagateInvalidity` are unchanged.  (What changes: cells, observers, the recompute heap and its marks, counters.)
-/
namespace IncrVerif.Proofs.PerKeyH
open IncrVerif.Engine IncrVerif.Driver IncrVerif.Proofs IncrVerif.Proofs.Step IncrVerif.Proofs.Sched
open IncrVerif.Proofs.ExpertH IncrVerif.Proofs.EffH IncrVerif.Proofs.DriverH IncrVerif.Proofs.Footprint

def aKey (nd : Node) :=
  (nd.kind, nd.createdIn, nd.cutoff, nd.value, nd.valid, nd.recomputedAt, nd.changedAt, nd.forceNecessary,
    nd.heightInAhh, nd.observers)

def asKey (s : State) := (s.experts, s.perkeys, s.top, s.currentScope, s.panicCountdown, s.nextDep, s.ahh,
  s.stabNum, s.propagateInvalidity)

structure AF (s s' : State) : Prop where
  size : s'.nodes.size = s.nodes.size
  node : ∀ m, aKey (s'.nodeD m) = aKey (s.nodeD m)
  key : asKey s' = asKey s

theorem AF.refl (s : State) : AF s s := ⟨rfl, fun _ => rfl, rfl⟩
theorem AF.trans {a b c : State} (h1 : AF a b) (h2 : AF b c) : AF a c :=
  ⟨h2.size.trans h1.size, fun m => (h2.node m).trans (h1.node m), h2.key.trans h1.key⟩
instance : Step.PreOrd AF := ⟨AF.refl, AF.trans⟩

theorem AF.of_nodes {s s' : State} (h1 : s'.nodes = s.nodes) (h2 : asKey s' = asKey s) : AF s s' := by
  refine ⟨by rw [h1], fun m => ?_, h2⟩
  have : s'.nodeD m = s.nodeD m := by simp [State.nodeD, h1]
  rw [this]

theorem AF.modNode (s : State) (n : Nat) (f : Node → Node) (hf : ∀ x, aKey (f x) = aKey x) :
    AF s { s with nodes := s.nodes.modify n f } := by
  refine ⟨by simp, fun m => ?_, rfl⟩
  rw [nodeD_modify]; split
  · exact hf _
  · rfl

/-- what the static API actions write: cells, observers (`disallow` names the call of `disallow_future_use` as a whole), the recompute heap and its
marks, counters -/
def AF.tags : List Tag :=
  [.nHeightInRch, .varSetAt, .varPending, .varValue, .oState, .oDropped, .cVarSets, .cActiveObservers, .rch, .disallowedObservers, .setDuringStab,
   .disallow]

theorem AF.of_edit {L w} (hL : ∀ t ∈ L, t ∈ AF.tags) {s s' : State} (e : Edit L w s s') : AF s s' := by
  cases e
  case node hf =>
    cases hf
    case heightInRch => exact AF.modNode s _ _ fun _ => rfl
    all_goals exact absurd (hL _ ‹_›) (by decide)
  case var | obs | counters | rch | disallowedObservers | setDuringStab => exact AF.of_nodes rfl rfl
  case value hf | bind hf | expert hf | perKey hf | log hf => cases hf <;> exact absurd (hL _ ‹_›) (by decide)
  all_goals exact absurd (hL _ ‹_›) (by decide)

theorem PresA.didSetVarWhileNotStabilising (v) : Step.Pres AF (Engine.didSetVarWhileNotStabilising v) :=
  (Foot.didSetVarWhileNotStabilising v).frame (AF.of_edit (by decide))
theorem PresA.writeVar (v f b) : Step.Pres AF (Engine.writeVar v f b) :=
  (Foot.writeVar v f b).frame (AF.of_edit (by decide))

/-- the API actions of the fragment that create no node (all but `create`, `stabilise`) -/
def PAct : Action → Prop
  | .observe _ | .cloneObs _ | .dropObs _ | .disallow _ => True
  | .set _ _ | .modify _ _ | .update _ _ | .replace _ _ | .replaceWith _ _ | .get _ => True
  | .isStable | .stats => True
  | _ => False

theorem PresA.stepAction (env : Env) (a : Action) (tk : Array Nat) (h : PAct a) :
    Step.Pres AF (Engine.stepAction env a tk) := by
  cases a
  case observe | cloneObs | dropObs | disallow | set | modify | update | replace | replaceWith | get | isStable | stats =>
    refine (Foot.stepAction env _ tk).lift fun e => ?_
    cases e
    case engine e => exact AF.of_edit (by dsimp only [W.stepAction]; decide) e
    all_goals exact AF.of_nodes rfl rfl
  all_goals exact h.elim

/-! ## field access -/

namespace AF
variable {s s' : State}

theorem kind (F : AF s s') (m : Nat) : (s'.nodeD m).kind = (s.nodeD m).kind := by
  have := F.node m; simp only [aKey, Prod.mk.injEq] at this; exact this.1
theorem createdIn (F : AF s s') (m : Nat) : (s'.nodeD m).createdIn = (s.nodeD m).createdIn := by
  have := F.node m; simp only [aKey, Prod.mk.injEq] at this; exact this.2.1
theorem cutoff (F : AF s s') (m : Nat) : (s'.nodeD m).cutoff = (s.nodeD m).cutoff := by
  have := F.node m; simp only [aKey, Prod.mk.injEq] at this; exact this.2.2.1
theorem value (F : AF s s') (m : Nat) : (s'.nodeD m).value = (s.nodeD m).value := by
  have := F.node m; simp only [aKey, Prod.mk.injEq] at this; exact this.2.2.2.1
theorem valid (F : AF s s') (m : Nat) : (s'.nodeD m).valid = (s.nodeD m).valid := by
  have := F.node m; simp only [aKey, Prod.mk.injEq] at this; exact this.2.2.2.2.1
theorem recomputedAt (F : AF s s') (m : Nat) : (s'.nodeD m).recomputedAt = (s.nodeD m).recomputedAt := by
  have := F.node m; simp only [aKey, Prod.mk.injEq] at this; exact this.2.2.2.2.2.1
theorem changedAt (F : AF s s') (m : Nat) : (s'.nodeD m).changedAt = (s.nodeD m).changedAt := by
  have := F.node m; simp only [aKey, Prod.mk.injEq] at this; exact this.2.2.2.2.2.2.1
theorem forceNecessary (F : AF s s') (m : Nat) : (s'.nodeD m).forceNecessary = (s.nodeD m).forceNecessary := by
  have := F.node m; simp only [aKey, Prod.mk.injEq] at this; exact this.2.2.2.2.2.2.2.1
theorem heightInAhh (F : AF s s') (m : Nat) : (s'.nodeD m).heightInAhh = (s.nodeD m).heightInAhh := by
  have := F.node m; simp only [aKey, Prod.mk.injEq] at this; exact this.2.2.2.2.2.2.2.2.1
theorem observers (F : AF s s') (m : Nat) : (s'.nodeD m).observers = (s.nodeD m).observers := by
  have := F.node m; simp only [aKey, Prod.mk.injEq] at this; exact this.2.2.2.2.2.2.2.2.2
theorem experts (F : AF s s') : s'.experts = s.experts := by
  have := F.key; simp only [asKey, Prod.mk.injEq] at this; exact this.1
theorem perkeys (F : AF s s') : s'.perkeys = s.perkeys := by
  have := F.key; simp only [asKey, Prod.mk.injEq] at this; exact this.2.1
theorem top (F : AF s s') : s'.top = s.top := by
  have := F.key; simp only [asKey, Prod.mk.injEq] at this; exact this.2.2.1
theorem currentScope (F : AF s s') : s'.currentScope = s.currentScope := by
  have := F.key; simp only [asKey, Prod.mk.injEq] at this; exact this.2.2.2.1
theorem panicCountdown (F : AF s s') : s'.panicCountdown = s.panicCountdown := by
  have := F.key; simp only [asKey, Prod.mk.injEq] at this; exact this.2.2.2.2.1
theorem nextDep (F : AF s s') : s'.nextDep = s.nextDep := by
  have := F.key; simp only [asKey, Prod.mk.injEq] at this; exact this.2.2.2.2.2.1
theorem ahh (F : AF s s') : s'.ahh = s.ahh := by
  have := F.key; simp only [asKey, Prod.mk.injEq] at this; exact this.2.2.2.2.2.2.1
theorem stabNum (F : AF s s') : s'.stabNum = s.stabNum := by
  have := F.key; simp only [asKey, Prod.mk.injEq] at this; exact this.2.2.2.2.2.2.2.1

end AF

end IncrVerif.Proofs.PerKeyH
