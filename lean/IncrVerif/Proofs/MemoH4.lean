import IncrVerif.Proofs.MemoH3
/-!
# C20 over whole histories, part 4: every API action keeps the table invariant (K1)

* `ms_memoCall`: a memoised call is an `MS` step (hit: nothing changes; miss: the new entry is `Produced`);
* `ms_stepAction`: every API action, whatever its outcome; `ms_run`: whole histories;
* `stabilise_sweeps`: a `stabilise` that returns ends with the sweep; `stabilise_entries_alive`.
-/
namespace IncrVerif.Proofs.MemoH
open IncrVerif.Engine IncrVerif.Proofs.Obs IncrVerif.Proofs.Memo
open IncrVerif.Proofs.Step (bind_ok_inv)

theorem memoFinish_memos (sc : Scope) (m : Nat) (key : Int) (n : Nat) (s : State) :
    (memoFinish sc m key n s).memos
      = (m, (key, n) :: (table s m).filter (·.1 != key)) :: s.memos.filter (·.1 != m) := rfl

/-- storing a produced node keeps the invariant -/
theorem TInv.finish {env : Env} {s : State} (h : TInv env s) (sc : Scope) {m : Nat} {key : Int} {n : Nat}
    (hp : Produced env s m key n) : TInv env (memoFinish sc m key n s) := by
  have hfut : Fut s (memoFinish sc m key n s) := Fut.of_eq rfl rfl
  refine ⟨?_, ?_, ?_⟩
  · rw [memoFinish_memos]; exact h.tables.cons_filter m _
  · intro m' tbl hm
    rw [memoFinish_memos] at hm
    rcases List.mem_cons.1 hm with hm | hm
    · cases hm; exact (h.table_keys m).cons_filter key n
    · exact h.keys m' tbl (List.mem_filter.1 hm).1
  · intro m' tbl hm key' n' hk
    rw [memoFinish_memos] at hm
    rcases List.mem_cons.1 hm with hm | hm
    · cases hm
      rcases List.mem_cons.1 hk with hk | hk
      · cases hk; exact hp.mono hfut
      · obtain ⟨t0, h1, h2⟩ := table_mem (List.mem_filter.1 hk).1
        exact (h.entry m t0 h1 key' n' h2).mono hfut
    · exact (h.entry m' tbl (List.mem_filter.1 hm).1 key' n' hk).mono hfut

/-- the closed form of a memoised call that returns: a hit, or a miss whose body ran from `memoStart` -/
theorem memoCall_ok_cases (env : Env) (m : Nat) (key : Int) (s s' : State) (n : Nat)
    (hrun : (memoCall env m key).run.run s = (.ok n, s')) :
    (memoHit s m key = some n ∧ s' = s) ∨
    (memoHit s m key = none ∧ ∃ s1 s2 u, tick.run.run s = (.ok u, s1) ∧
      (elabTemplateBase (env.memo m) (.int key)).run.run (memoStart m key s1) = (.ok n, s2) ∧
      s' = memoFinish s1.currentScope m key n s2) := by
  rw [memoCall_run] at hrun
  cases hh : memoHit s m key with
  | some n' => rw [hh] at hrun; cases hrun; exact .inl ⟨rfl, rfl⟩
  | none =>
    rw [hh] at hrun
    dsimp only at hrun
    rcases ht : tick.run.run s with ⟨_ | u, s1⟩
    · rw [ht] at hrun; cases hrun
    · rw [ht] at hrun
      dsimp only at hrun
      rcases he : (elabTemplateBase (env.memo m) (.int key)).run.run (memoStart m key s1) with ⟨_ | n', s2⟩
      · rw [he] at hrun; cases hrun
      · rw [he] at hrun; cases hrun
        exact .inr ⟨rfl, s1, s2, u, rfl, he, rfl⟩

theorem ms_memoCall {env : Env} (hok : MemoBodyOK env) (m : Nat) (key : Int) :
    Pres (MS env) (memoCall env m key) := by
  refine ⟨fun s r s' hrun => ?_⟩
  rcases memoCall_cases env m key s s' r hrun with ⟨-, rfl⟩ | ⟨-, hf | ⟨s1, s2, n, -, he, hf2, rfl⟩⟩
  · exact PreOrd.refl _
  · exact MS.of_f0 hf.toF0
  · have hfin : Fut s2 (memoFinish s1.currentScope m key n s2) := Fut.of_eq rfl rfl
    refine ⟨hf2.toF0.fut.trans hfin, fun hti => ?_, fun hr => RegScoped.of_eq rfl rfl (hf2.reg hr)⟩
    have ht2 : TInv env s2 := hti.mono hf2.toF0.fut hf2.memos
    have hfresh := elabTemplateBase_fresh (hok m).1 (hok m).2 _ _ _ _ he
    exact ht2.finish _ ⟨memoStart m key s1, s2, rfl, he, hfresh.1, hfresh.2, Fut.refl _⟩

theorem MS.sweep {env : Env} (s : State) : MS env s (sweep s) :=
  ⟨Fut.of_eq rfl rfl,
   fun h => (h.gc s.aliveSet).mono (Fut.of_eq rfl rfl) rfl,
   RegScoped.of_eq rfl rfl⟩

theorem MS.push {env : Env} (s : State) (n : Nat) :
    MS env s { s with top := s.top.push n, handles := n :: s.handles } := by
  have hf : Fut s { s with top := s.top.push n, handles := n :: s.handles } :=
    ⟨Nat.le_refl _, fun _ _ => rfl, fun k x hk => by
      show (s.top.push n)[k]? = some x
      rw [Array.getElem?_push]
      have : k < s.top.size := by
        rcases Nat.lt_or_ge k s.top.size with h | h
        · exact h
        · rw [Array.getElem?_eq_none h] at hk; cases hk
      rw [if_neg (Nat.ne_of_lt this)]; exact hk⟩
  exact ⟨hf, fun h => h.mono hf rfl, RegScoped.of_eq rfl rfl⟩

theorem bodiesP_true (env : Env) : BodiesP (fun _ _ => True) env := fun _ _ _ _ _ _ _ => trivial

/-- EVERY API action, whatever its outcome, is an `MS` step -/
theorem ms_stepAction {env : Env} (hok : MemoBodyOK env) (a : Action) (tokens : Array Nat) :
    Pres (MS env) (stepAction env a tokens) := by
  have hm : ∀ m key, (fun _ _ => True : Nat → Int → Prop) m key → Pres (MS env) (memoCall env m key) :=
    fun m key _ => ms_memoCall hok m key
  by_cases hp : Action.isPlain a = true
  · exact PresI.stepAction_plain env a tokens hp
  · cases a <;> simp only [Action.isPlain, not_true_eq_false] at hp
    case create i =>
      exact PresB.stepAction_create hm (fun _ _ _ => trivial) tokens MS.push
    case observe o =>
      exact PresI.stepAction_observe env o tokens fun s ob l => MS.of_quiet ⟨rfl, rfl, rfl, rfl⟩
    case cloneObs o =>
      exact PresI.stepAction_cloneObs env o tokens fun s f _ => MS.of_quiet ⟨rfl, rfl, rfl, rfl⟩
    case dropObs o =>
      exact (Quiet0.stepAction_dropObs env o tokens).mono fun _ _ h => MS.of_quiet h
    case dropHandle o =>
      exact (Quiet0.stepAction_dropHandle env o tokens).mono fun _ _ h => MS.of_quiet h
    case stabilise =>
      refine ⟨fun s r s' hrun => ?_⟩
      rcases Split.stepAction_stabilise hm (bodiesP_true env) tokens s r s' hrun with h | ⟨s1, h1, rfl⟩
      · exact h
      · exact PreOrd.trans h1 (MS.sweep s1)

/-- whole histories (any actions, any outcomes, the harness's log reset included) -/
theorem ms_run {env : Env} (hok : MemoBodyOK env) {P} {s s' : State} (h : Life.Run env P s s') :
    MS env s s' :=
  Life.Run.induct (fun a tokens _ => ms_stepAction hok a tokens)
    (fun _ => MS.of_quiet ⟨rfl, rfl, rfl, rfl⟩) h

/-! ## the sweep at the end of a `stabilise` that returns -/

theorem stabilise_sweeps (env : Env) (fuel : Nat) :
    ∀ s r s', (stabilise env fuel).run.run s = (.ok r, s') → ∃ s1, s' = sweep s1 := by
  unfold Engine.stabilise
  repeat (first
    | exact stabiliseEnd_gc env fuel
    | (refine bind_ok_post fun _ => ?_)
    | dsimp only)

theorem stepAction_stabilise_sweeps (env : Env) (tokens : Array Nat) (s s' : State) (r)
    (h : (stepAction env .stabilise tokens).run.run s = (.ok r, s')) : ∃ s1, s' = sweep s1 := by
  simp only [Engine.stepAction] at h
  obtain ⟨a, s1, h1, h2⟩ := bind_ok_inv h
  cases h2
  exact stabilise_sweeps env _ s a _ h1

theorem aliveSet_sweep (s : State) : (sweep s).aliveSet = s.aliveSet := rfl

/-- after a `stabilise` that returns, every entry of every table names a node that is still allocated -/
theorem stabilise_entries_alive (env : Env) (tokens : Array Nat) (s s' : State) (r)
    (h : (stepAction env .stabilise tokens).run.run s = (.ok r, s')) :
    ∀ m tbl, (m, tbl) ∈ s'.memos → ∀ key n, (key, n) ∈ tbl → n ∈ s'.aliveSet := by
  obtain ⟨s1, rfl⟩ := stepAction_stabilise_sweeps env tokens s s' r h
  intro m tbl hm key n hk
  rw [aliveSet_sweep]
  have hm' : (m, tbl) ∈ gcMemos s1.aliveSet s1.memos := hm
  obtain ⟨e, he, heq⟩ := List.mem_map.1 hm'
  obtain ⟨m0, t0⟩ := e
  cases heq
  have := (List.mem_filter.1 hk).2
  simpa using this

end IncrVerif.Proofs.MemoH
