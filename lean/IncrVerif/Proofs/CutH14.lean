import IncrVerif.Proofs.CutH13
import IncrVerif.Proofs.CutH11
import IncrVerif.Proofs.Sched11
import IncrVerif.Proofs.Corr
-- static programs with ARBITRARY cutoffs; `Proofs/Quiet8.lean` (default cutoffs) takes its lemmas from this file; overview in Props/C06History.lean
/-!
# Part 7: the unlinking cascade keeps the structural invariant, and returns

Each of the three functions has one statement (`BUCorr`, `CUCorr`, `RCCorr`, a `Step.Corr`): what a returning run establishes, and that the run
returns when the fuel is linear in the index of the node — nothing else can go wrong under `GInv`.
-/
namespace IncrVerif.Proofs.CutH
open IncrVerif.Engine IncrVerif.Proofs IncrVerif.Proofs.Step IncrVerif.Proofs.Sched

theorem PresF.unlink (fuel : Nat) :
    (∀ n, Step.Pres CFrame (becameUnnecessary fuel n)) ∧
    (∀ n, Step.Pres CFrame (checkIfUnnecessary fuel n)) ∧
    (∀ n, Step.Pres CFrame (removeChildren fuel n)) :=
  ⟨fun n => (Footprint.Foot.becameUnnecessary fuel n).frame (CFrame.of_edit (by decide)),
   fun n => (Footprint.Foot.checkIfUnnecessary fuel n).frame (CFrame.of_edit (by decide)),
   fun n => (Footprint.Foot.removeChildren fuel n).frame (CFrame.of_edit (by decide))⟩

theorem PresF.checkIfUnnecessary (fuel n) : Step.Pres CFrame (checkIfUnnecessary fuel n) :=
  (PresF.unlink fuel).2.1 n

/-- parent lists shrink -/
structure URel (s s' : State) : Prop where
  fr : CFrame s s'
  pinv : s'.propagateInvalidity = s.propagateInvalidity
  par : ∀ m x, x ∈ (s'.nodeD m).parents → x ∈ (s.nodeD m).parents

theorem URel.refl (s : State) : URel s s := ⟨CFrame.refl s, rfl, fun _ _ h => h⟩
theorem URel.trans {a b c : State} (h1 : URel a b) (h2 : URel b c) : URel a c :=
  ⟨h1.fr.trans h2.fr, h2.pinv.trans h1.pinv, fun m x h => h1.par m x (h2.par m x h)⟩

theorem URel.of_lrel {s s' : State} (h : ∀ X, LRel X s s')
    (hp : ∀ m, (s'.nodeD m).parents = (s.nodeD m).parents) : URel s s' :=
  ⟨(h (fun _ => False)).fr, (h (fun _ => False)).pinv, fun m x hx => by rw [hp] at hx; exact hx⟩

theorem Irrel.urel {n : Nat} {s s' : State} (h : Irrel n s s') : URel s s' :=
  URel.of_lrel h.rel (fun m => (h.same.node m).parents)

namespace P22

/-! ## necessity shrinks, necessary nodes keep their height -/

def NecH (s s' : State) : Prop :=
  ∀ m, s'.isNecessary m = true → s.isNecessary m = true ∧ (s'.nodeD m).height = (s.nodeD m).height

theorem NecH.refl (s : State) : NecH s s := fun _ h => ⟨h, rfl⟩
theorem NecH.trans {a b c : State} (h1 : NecH a b) (h2 : NecH b c) : NecH a c := fun m hm =>
  ⟨(h1 m (h2 m hm).1).1, (h2 m hm).2.trans (h1 m (h2 m hm).1).2⟩

theorem urel_nec {s s' : State} (h : URel s s') {m : Nat} (hm : s'.isNecessary m = true) :
    s.isNecessary m = true := by
  rw [isNecessary_iff] at hm ⊢
  rw [h.fr.observers, h.fr.forceNecessary] at hm
  rcases hm with hm | hm
  · left
    obtain ⟨x, hx⟩ := List.exists_mem_of_ne_nil _ hm
    exact List.ne_nil_of_mem (h.par m x hx)
  · exact Or.inr hm

theorem NecH.of_urel {s s' : State} (h : URel s s')
    (hh : ∀ m, (s'.nodeD m).height = (s.nodeD m).height) : NecH s s' :=
  fun m hm => ⟨urel_nec h hm, hh m⟩

theorem NecH.of_same {s s' : State} (h : SameG s s') : NecH s s' :=
  fun m hm => ⟨by rw [← h.nec]; exact hm, (h.node m).height⟩

theorem NecH.of_fields {s s' : State}
    (h : ∀ m, (s'.nodeD m).parents = (s.nodeD m).parents ∧ (s'.nodeD m).observers = (s.nodeD m).observers ∧
      (s'.nodeD m).forceNecessary = (s.nodeD m).forceNecessary ∧ (s'.nodeD m).height = (s.nodeD m).height) :
    NecH s s' := by
  intro m hm
  obtain ⟨h1, h2, h3, h4⟩ := h m
  refine ⟨?_, h4⟩
  simp only [State.isNecessary, Node.isNecessary] at hm ⊢
  rw [h1, h2, h3] at hm
  exact hm

end P22
open P22

def BUCorr (fuel : Nat) : Prop :=
  ∀ env n s op, GInv env s op → op n = .unlinking 0 → (∀ m, op m ≠ .closed → n ≤ m) →
    Corr (becameUnnecessary fuel n) s (3 * n + 2 ≤ fuel)
      (fun _ s' => GInv env s' (upd op n .closed) ∧ Above n s s' ∧ URel s s' ∧ NecH s s')

def CUCorr (fuel : Nat) : Prop :=
  ∀ env c s op, GInv env s op → (∀ m, op m ≠ .closed → c ≤ m) →
    ((s.isNecessary c = true ∧ op c = .closed) ∨ (s.isNecessary c = false ∧ op c = .unlinking 0)) →
    Corr (checkIfUnnecessary fuel c) s (3 * c + 3 ≤ fuel)
      (fun _ s' => GInv env s' (upd op c .closed) ∧ Above c s s' ∧ URel s s' ∧ NecH s s')

def RCCorr (fuel : Nat) : Prop :=
  ∀ env n s op, GInv env s op → op n = .unlinking 0 → (∀ m, op m ≠ .closed → n ≤ m) →
    Corr (removeChildren fuel n) s (3 * n + 1 ≤ fuel)
      (fun _ s' => GInv env s' (upd op n (.unlinking (kids (s.nodeD n).kind).length)) ∧
        (∀ m, n ≤ m → s'.nodeD m = s.nodeD m) ∧ URel s s' ∧ NecH s s')

theorem cu_corr (fuel : Nat) (ih : BUCorr fuel) : CUCorr (fuel + 1) := by
  intro env c s op I hlow hcase
  unfold checkIfUnnecessary
  refine Corr.bind_get ?_
  rcases hcase with ⟨hn, hcl⟩ | ⟨hn, hop⟩
  · rw [hn]
    simp only [Bool.not_true, Bool.false_eq_true, if_false]
    rw [upd_eq_self _ _ _ hcl]
    exact Corr.pure ⟨I, Above.refl _ _, URel.refl _, NecH.refl s⟩
  · rw [hn]
    simp only [Bool.not_false, if_true]
    exact (ih env c s op I hop hlow).mono (fun h => by omega) (fun _ _ h => h)

theorem rc_corr (fuel : Nat) (ih : CUCorr fuel) : RCCorr (fuel + 1) := by
  intro env n s op I hop hlow
  have hn : n < s.nodes.size := I.opLt n (by rw [hop]; exact fun e => by cases e)
  unfold removeChildren
  refine Corr.bind_get ?_
  have hcs : s.children n = kids (s.nodeD n).kind := I.children hn
  refine Corr.bind (Corr.forIn _ (s.children n)
      (fun j (b : Nat) t => b = j ∧ GInv env t (upd op n (.unlinking j)) ∧
        (∀ m, n ≤ m → t.nodeD m = s.nodeD m) ∧ URel s t ∧ NecH s t)
      ?hstep (s.children n) 0 0 (by simp) (Nat.zero_le _)
      ⟨rfl, by rw [upd_eq_self _ _ _ hop]; exact I, fun _ _ => rfl, URel.refl _, NecH.refl _⟩) id
    (fun b t _ hQ => Corr.pure (by rw [← hcs]; exact hQ.2))
  intro j c b t hj ⟨hb, It, hsame, hrel, hN⟩
  subst hb
  have hkj : (kids (t.nodeD n).kind)[b]? = some c := by
    rw [hsame n (Nat.le_refl _), ← hcs]; exact hj
  have hcn : c < n := It.kid_lt hkj
  have hct : c < t.nodes.size := by rw [hrel.fr.size]; omega
  have hopc : op c = .closed := by
    cases e : op c with
    | closed => rfl
    | linking k => have := hlow c (by rw [e]; exact fun e => by cases e); omega
    | unlinking k => have := hlow c (by rw [e]; exact fun e => by cases e); omega
  have hclc : upd op n (.unlinking b) c = .closed := by
    rw [upd_other _ _ _ (by omega)]; exact hopc
  -- `removeParent` finds the edge
  obtain ⟨pi, hidx⟩ := idxOf?_of_mem (It.removeEdge_mem (upd_self _ _ _) hkj)
  have ha := removeParent_run (s := t) (c := c) (idx := b) (p := n) (some_of_lt hct) hidx
  obtain ⟨t1, e1⟩ : ∃ t1, t1 = ({ t with nodes := t.nodes.modify c fun x =>
      { x with parents := swapRemove x.parents pi } } : State) := ⟨_, rfl⟩
  rw [← e1] at ha
  refine Corr.bind_ok ha ?_
  have U : NodeUpd c (fParents (swapRemove (t.nodeD c).parents pi)) t t1 := by
    rw [e1]; exact NodeUpd.modify' hct rfl
  obtain ⟨Hnec, Hun⟩ := It.removeEdge hidx U (upd_self _ _ _) hkj hclc
  have hab1 : ∀ m, c < m → t1.nodeD m = t.nodeD m := by
    rw [e1]; exact Above.modify c _ t c (Nat.le_refl _)
  have hu1 : URel t t1 := by
    refine ⟨?_, ?_, ?_⟩
    · rw [e1]; exact CFrame.modNode t c _ (fun _ => rfl)
    · rw [e1]
    · intro m x hx
      by_cases e : m = c
      · rw [e] at hx ⊢
        rw [U.self.parents] at hx
        exact ((swapRemove_spec _ _ _ (It.nodup c) hidx).1 x).1 hx |>.1
      · rw [(U.other m e).parents] at hx; exact hx
  have N1 : NecH t t1 := NecH.of_urel hu1 (fun m => by
    by_cases e : m = c
    · rw [e]; exact U.self.height
    · exact (U.other m e).height)
  have hlow' : ∀ (o : Nat → Op), (∀ m, m ≠ c → m ≠ n → o m = op m) →
      ∀ m, o m ≠ .closed → c ≤ m := by
    intro o ho m hm
    by_cases e1 : m = c
    · omega
    · by_cases e2 : m = n
      · omega
      · rw [ho m e1 e2] at hm; have := hlow m hm; omega
  rw [upd_upd] at Hnec Hun
  have fin : ∀ (o : Nat → Op), upd o c .closed = upd op n (.unlinking (b + 1)) → ∀ (u : Unit) (t2 : State),
      (checkIfUnnecessary fuel c).run.run t1 = (.ok u, t2) →
      GInv env t2 (upd o c .closed) ∧ Above c t1 t2 ∧ URel t1 t2 ∧ NecH t1 t2 →
      Corr (pure (ForInStep.yield (b + 1)) : M (ForInStep Nat)) t2 (3 * n + 1 ≤ fuel + 1)
        (fun r t' => ∃ b', r = .yield b' ∧ b' = b + 1 ∧ GInv env t' (upd op n (.unlinking (b + 1))) ∧
          (∀ m, n ≤ m → t'.nodeD m = s.nodeD m) ∧ URel s t' ∧ NecH s t') := by
    intro o eo _ t2 _ ⟨I2, hab2, hu2, N2⟩
    rw [eo] at I2
    exact Corr.pure ⟨_, rfl, rfl, I2,
      fun m hm => ((hab2 m (by omega)).trans (hab1 m (by omega))).trans (hsame m hm),
      (hrel.trans hu1).trans hu2, (hN.trans N1).trans N2⟩
  cases hnc : t1.isNecessary c with
  | true =>
    exact Corr.bind (ih env c t1 _ (Hnec hnc) (hlow' _ (fun m _ e2 => upd_other _ _ _ e2))
        (Or.inl ⟨hnc, by rw [upd_other _ _ _ (by omega)]; exact hopc⟩)) (fun h => by omega)
      (fin _ (upd_eq_self _ c .closed (by rw [upd_other _ _ _ (by omega)]; exact hopc)))
  | false =>
    exact Corr.bind (ih env c t1 _ (Hun hnc)
        (hlow' _ (fun m e1 e2 => by rw [upd_other _ _ _ e1, upd_other _ _ _ e2]))
        (Or.inr ⟨hnc, upd_self _ _ _⟩)) (fun h => by omega)
      (fin _ (by rw [upd_upd, upd_eq_self _ c .closed (by rw [upd_other _ _ _ (by omega)]; exact hopc)]))

theorem bu_corr (fuel : Nat) (ih : RCCorr fuel) : BUCorr (fuel + 1) := by
  intro env n s op I hop hlow
  have hn : n < s.nodes.size := I.opLt n (by rw [hop]; exact fun e => by cases e)
  unfold becameUnnecessary
  refine Corr.bind_modify (fun s0 hs0 => ?_)
  have R0 : Irrel n s s0 := by rw [hs0]; exact Irrel.of_nodes rfl rfl rfl rfl rfl
  have hn0 : n < s0.nodes.size := by rw [R0.same.size]; exact hn
  obtain ⟨s1, h1⟩ := mhas_ok hn0
  refine Corr.bind_ok h1 ?_
  have R1 : Irrel n s s1 := R0.trans (Irrel.mhas h1)
  have I1 : GInv env s1 op := I.congr R1.same
  have hn1 : n < s1.nodes.size := by rw [R1.same.size]; exact hn
  have hnopar : (s1.nodeD n).parents = [] := parents_nil_of_not_nec (I1.unec n 0 hop)
  obtain ⟨s2, h2⟩ := setHeight_neg_ok n s1
  refine Corr.bind_ok h2 ?_
  obtain ⟨U2, hab2, hl2, hh2, hoth2⟩ := setHeight_ok_upd hn1 h2
  have hopn : op n ≠ .closed := by rw [hop]; exact fun e => by cases e
  have I2 : GInv env s2 op := I1.setHeight_open U2 hopn (by intro p i hp; rw [hnopar] at hp; cases hp)
  have hu2 : URel s1 s2 := ⟨hl2.fr, hl2.pinv, fun m x hx => by
    by_cases e : m = n
    · rw [e, U2.self.parents] at hx; rw [e]; exact hx
    · rw [(U2.other m e).parents] at hx; exact hx⟩
  have N2 : NecH s1 s2 := by
    intro m hm
    by_cases e : m = n
    · rw [e] at hm
      rw [I2.unec n 0 hop] at hm; cases hm
    · refine ⟨?_, by rw [hoth2 m e]⟩
      simp only [State.isNecessary, hoth2 m e] at hm ⊢
      exact hm
  refine Corr.bind (ih env n s2 op I2 hop hlow) (fun hf => by omega) ?_
  intro _ s3 _ ⟨I3, hsame3, hu3, N3⟩
  have hn3 : n < s3.nodes.size := by rw [hu3.fr.size, U2.size]; exact hn1
  have hkind3 : (s3.nodeD n).kind = (s2.nodeD n).kind := by rw [hsame3 n (Nat.le_refl _)]
  rw [← hkind3] at I3
  refine Corr.bind_getNode hn3 ?_
  -- the node is not an expert node
  have hq : (s3.nodeD n).kind? = some (s3.nodeD n).kind := by
    rw [Node.kind?, (I3.node hn3).valid]; rfl
  have hA : Above n s s3 := (R1.above.trans hab2).trans (fun m hm => hsame3 m (by omega))
  have hU : URel s s3 := (R1.urel.trans hu2).trans hu3
  have N : NecH s s3 := ((NecH.of_same R1.same).trans N2).trans N3
  have hun3 : s3.isNecessary n = false := I3.unec n _ (upd_self _ _ _)
  have fin : Corr (do
        let s ← get
        dassert (!s.needsToBeComputed n) "node:became_unnecessary:not-needs-to-be-computed"
        if (s.nodeD n).inRch = true then rchRemove n else pure ()) s3 (3 * n + 2 ≤ fuel + 1)
      (fun _ s' => GInv env s' (upd op n .closed) ∧ Above n s s' ∧ URel s s' ∧ NecH s s') := by
    refine Corr.bind_get ?_
    have hnc : s3.needsToBeComputed n = false := by
      simp only [State.needsToBeComputed, hun3, Bool.false_and]
    refine Corr.bind_dassert (fun _ _ => by rw [hnc]; rfl) ?_
    cases hin : (s3.nodeD n).inRch with
    | false =>
      simp only [Bool.false_eq_true, if_false]
      have I4 := I3.close_unlink (upd_self _ _ _) (Nat.le_refl _) hin
      rw [upd_upd] at I4
      exact Corr.pure ⟨I4, hA, hU, N⟩
    | true =>
      simp only [if_true]
      obtain ⟨t', ht⟩ := rchRemove_tot I3.heap.wf hn3 hin (fun _ => hnc)
      obtain ⟨I4, hin4⟩ := I3.rchRemove_open (upd_self _ _ _) ht
      obtain ⟨nd, q, idx, hnd, -, -, -, e4⟩ := rchRemove_ok_inv ht
      have hkind4 : (t'.nodeD n).kind = (s3.nodeD n).kind := by
        rw [e4, removedAt_nodeD]; split <;> rfl
      have I5 := I4.close_unlink (upd_self _ _ _) (by rw [hkind4]; exact Nat.le_refl _) hin4
      rw [upd_upd] at I5
      refine Corr.of_ok ht ⟨I5, hA.trans ?_, hU.trans ⟨(PresF.rchRemove n).h _ _ _ ht, by rw [e4]; rfl, ?_⟩,
        N.trans (NecH.of_fields fun m => ?_)⟩
      · intro m hm; rw [e4, removedAt_nodeD, if_neg (fun e => by omega)]
      · intro m x hx; rw [e4, removedAt_nodeD] at hx; split at hx
        · exact hx
        · exact hx
      · rw [e4, removedAt_nodeD]
        split
        · exact ⟨rfl, rfl, rfl, rfl⟩
        · exact ⟨rfl, rfl, rfl, rfl⟩
  rw [hq]
  have hsk := (I3.node hn3).kind
  cases hkd : (s3.nodeD n).kind <;> rw [hkd] at hsk <;>
    first | exact fin | exact hsk.elim

theorem unlink_corr (fuel : Nat) : BUCorr fuel ∧ CUCorr fuel ∧ RCCorr fuel := by
  induction fuel with
  | zero =>
    refine ⟨?_, ?_, ?_⟩
    · intro env n s op _ _ _; unfold becameUnnecessary; exact Corr.throw (fun h => by omega)
    · intro env n s op _ _ _; unfold checkIfUnnecessary; exact Corr.throw (fun h => by omega)
    · intro env n s op _ _ _; unfold removeChildren; exact Corr.throw (fun h => by omega)
  | succ fuel ih => exact ⟨bu_corr fuel ih.2.2, cu_corr fuel ih.1, rc_corr fuel ih.2.1⟩

/-- **The unlinking cascade.** A successful `checkIfUnnecessary c` on a closed node that is still necessary,
or on a node that has just become unnecessary (labelled `.unlinking 0`: all its child edges are still
recorded), which is the lowest open node, closes `c`: the structural invariant holds with `c` closed, nodes
above `c` are untouched, parent lists only shrank. -/
theorem checkIfUnnecessary_spec {env : Env} {fuel c : Nat} {s s' : State} {op : Nat → Op}
    (h : (checkIfUnnecessary fuel c).run.run s = (.ok (), s')) (I : GInv env s op)
    (hlow : ∀ m, op m ≠ .closed → c ≤ m)
    (hcase : (s.isNecessary c = true ∧ op c = .closed) ∨ (s.isNecessary c = false ∧ op c = .unlinking 0)) :
    GInv env s' (upd op c .closed) ∧ Above c s s' ∧ URel s s' :=
  have ⟨I', A, U, _⟩ := ((unlink_corr fuel).2.1 env c s op I hlow hcase).ok h
  ⟨I', A, U⟩

end IncrVerif.Proofs.CutH
