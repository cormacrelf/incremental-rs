import IncrVerif.Proofs.Quiet9
import IncrVerif.Proofs.CutH17
import IncrVerif.Proofs.Footprint
/-!
# Part 10: the observer actions of the API keep `QInv`
-/
namespace IncrVerif.Proofs.Quiet
open IncrVerif.Engine IncrVerif.Driver IncrVerif.Proofs IncrVerif.Proofs.Step IncrVerif.Proofs.Sched

/-! ## everything `QInv` reads, except the observer bookkeeping -/

structure OFrame (s s' : State) : Prop where
  nodes : s'.nodes = s.nodes
  vars : s'.vars = s.vars
  rch : s'.rch = s.rch
  stabNum : s'.stabNum = s.stabNum
  status : s'.status = s.status
  alive : s'.alive = s.alive
  setDuringStab : s'.setDuringStab = s.setDuringStab
  deadVars : s'.deadVars = s.deadVars
  handleAfterStab : s'.handleAfterStab = s.handleAfterStab
  pinv : s'.propagateInvalidity = s.propagateInvalidity
  top : s'.top = s.top
  pc : s'.panicCountdown = s.panicCountdown
  scope : s'.currentScope = s.currentScope

theorem OFrame.refl (s : State) : OFrame s s := ⟨rfl, rfl, rfl, rfl, rfl, rfl, rfl, rfl, rfl, rfl, rfl, rfl, rfl⟩

theorem OFrame.trans {a b c : State} (h1 : OFrame a b) (h2 : OFrame b c) : OFrame a c :=
  ⟨h2.nodes.trans h1.nodes, h2.vars.trans h1.vars, h2.rch.trans h1.rch, h2.stabNum.trans h1.stabNum,
    h2.status.trans h1.status, h2.alive.trans h1.alive, h2.setDuringStab.trans h1.setDuringStab,
    h2.deadVars.trans h1.deadVars, h2.handleAfterStab.trans h1.handleAfterStab, h2.pinv.trans h1.pinv,
    h2.top.trans h1.top, h2.pc.trans h1.pc, h2.scope.trans h1.scope⟩

theorem OFrame.nodeD {s s' : State} (F : OFrame s s') (m : Nat) : s'.nodeD m = s.nodeD m := by
  simp [State.nodeD, F.nodes]

/-- number and cutoffs of the nodes are the same -/
def CutKept (s s' : State) : Prop := s'.nodes.size = s.nodes.size ∧ ∀ m, (s'.nodeD m).cutoff = (s.nodeD m).cutoff

instance : PreOrd CutKept := ⟨fun _ => ⟨rfl, fun _ => rfl⟩, fun h1 h2 => ⟨h2.1.trans h1.1, fun m => (h2.2 m).trans (h1.2 m)⟩⟩

open Footprint in
/-- a run that neither sets a cutoff nor creates a node keeps `EqCut` (`hc`, `hp`: by `decide` on the list of its writes) -/
theorem EqCut.foot {L : List Tag} {w : Nat → Prop} {α} {m : M α} {s s' : State} {r : Except Panic α} (E : EqCut s) (F : Foot L w m)
    (h : m.run.run s = (r, s')) (hc : Tag.nCutoff ∉ parts L := by decide) (hp : Tag.pushNode ∉ parts L := by decide) : EqCut s' :=
  have K : CutKept s s' := (F.lift fun e => ⟨e.size_eq hp, e.cutoff hc hp⟩).h _ _ _ h
  E.of_eq K.1 K.2

open Footprint in
/-- the same for an API action -/
theorem EqCut.act {env : Env} {a : Action} {tk : Array Nat} {s s' : State} {r : Except Panic (String × Array Nat)} (E : EqCut s)
    (h : (stepAction env a tk).run.run s = (r, s')) (hc : Tag.nCutoff ∉ parts (W.stepAction a) := by dsimp only [Footprint.W.stepAction]; decide)
    (hp : Tag.pushNode ∉ parts (W.stepAction a) := by dsimp only [Footprint.W.stepAction]; decide) : EqCut s' :=
  have K : CutKept s s' := ((Foot.stepAction env a tk).lift fun e => by
    cases e with
    | engine e => exact ⟨e.size_eq hp, e.cutoff hc hp⟩
    | _ => exact ⟨rfl, fun _ => rfl⟩).h _ _ _ h
  E.of_eq K.1 K.2


/-! ## the observer bookkeeping under a push / a modify -/

theorem ObsInv.push {s s' : State} {pn pd : List Nat} {n : Nat} (I : ObsInv s pn pd)
    (hn : s'.nodes = s.nodes) (hlt : n < s.nodes.size)
    (ho : s'.observers = s.observers.push { node := n }) :
    ObsInv s' (pn ++ [s.observers.size]) pd :=
  .ofC (I.toC.push hn hlt ho)

/-- modifying one observer record -/
theorem ObsInv.modify {s s' : State} {pn pd pd' : List Nat} {o : Nat} {f : ObsRec → ObsRec}
    (I : ObsInv s pn pd) (hn : s'.nodes = s.nodes) (ho : s'.observers = s.observers.modify o f)
    (h1 : ∀ ob, s.observers[o]? = some ob → (f ob).node = ob.node ∧ (f ob).handlers = [])
    (h3 : ∀ ob, s.observers[o]? = some ob →
      (((f ob).state = .inUse ∨ (f ob).state = .disallowed) ↔ (ob.state = .inUse ∨ ob.state = .disallowed)))
    (h4 : ∀ ob, s.observers[o]? = some ob → (f ob).state = .created → ob.state = .created)
    (h5 : ∀ ob, s.observers[o]? = some ob → ((f ob).state = .disallowed ↔ o ∈ pd'))
    (h6 : ∀ o', (s.observers[o]? = none ∨ o' ≠ o) → (o' ∈ pd' ↔ o' ∈ pd))
    (h7 : pd'.Nodup) : ObsInv s' pn pd' :=
  .ofC (I.toC.modify hn ho h1 h3 h4 h5 h6 h7)

/-- a modification that keeps node, state and handlers of the record -/
theorem ObsInv.modify_same {s s' : State} {pn pd : List Nat} {o : Nat} {f : ObsRec → ObsRec}
    (I : ObsInv s pn pd) (hn : s'.nodes = s.nodes) (ho : s'.observers = s.observers.modify o f)
    (hf : ∀ ob, (f ob).node = ob.node ∧ (f ob).state = ob.state ∧ (f ob).handlers = ob.handlers) :
    ObsInv s' pn pd :=
  .ofC (I.toC.modify_same hn ho hf)

/-! ## the actions -/

theorem step_observe {env : Env} {s s' : State} {k : Nat} {tokens : Array Nat} {r : String × Array Nat}
    (Q : QInv env s) (h : (stepAction env (.observe (.outer k)) tokens).run.run s = (.ok r, s')) :
    QInv env s' :=
  .ofC (CutH.step_observe Q.toC h) (Q.eqCut.act h)

theorem step_cloneObs {env : Env} {s s' : State} {o : Nat} {tokens : Array Nat} {r : String × Array Nat}
    (Q : QInv env s) (h : (stepAction env (.cloneObs o) tokens).run.run s = (.ok r, s')) :
    QInv env s' :=
  .ofC (CutH.step_cloneObs Q.toC h) (Q.eqCut.act h)

theorem step_dropObs {env : Env} {s s' : State} {o : Nat} {tokens : Array Nat} {r : String × Array Nat}
    (Q : QInv env s) (h : (stepAction env (.dropObs o) tokens).run.run s = (.ok r, s')) :
    QInv env s' :=
  .ofC (CutH.step_dropObs Q.toC h) (Q.eqCut.act h)

theorem step_disallow {env : Env} {s s' : State} {o : Nat} {tokens : Array Nat} {r : String × Array Nat}
    (Q : QInv env s) (h : (stepAction env (.disallow o) tokens).run.run s = (.ok r, s')) :
    QInv env s' :=
  .ofC (CutH.step_disallow Q.toC h) (Q.eqCut.act h)

end IncrVerif.Proofs.Quiet
