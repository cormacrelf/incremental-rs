import IncrVerif.Proofs.MapRefLink
/-!
# map_ref fragment: the `didChange` invariant through the linking cascade and `add_new_observers`

The case `rk = id`, every node valid, of `Proofs/MapRefLink.lean`: `RFrag` gives `FullH.CK id`, and where every `map_ref` node is valid
`KN`, `Inherit`, `KInv`, `Mk` are `FullH.KN`, `FullH.Inherit`, `FullH.KInv`, `FullH.MkV`.
-/
namespace IncrVerif.Proofs.MapRefH
open IncrVerif.Engine IncrVerif.Proofs IncrVerif.Proofs.Step IncrVerif.Proofs.Sched IncrVerif.Proofs.Quiet

theorem RFrag.toCK {env : Env} {s : State} (F : RFrag env s) : FullH.CK id s := by
  have hlt : ∀ n c, c ∈ s.children n → c < n ∧ n < s.nodes.size := by
    intro n c hm
    by_cases hn : n < s.nodes.size
    · rw [F.children hn] at hm; exact ⟨F.back n hn c hm, hn⟩
    · rw [children_default s _ (by omega)] at hm; cases hm
  refine ⟨fun n e hk => ?_, fun n c hm => (hlt n c hm).1, fun n c hm => F.valid c (by have := hlt n c hm; omega)⟩
  by_cases hn : n < s.nodes.size
  · have := F.kind n hn; rw [hk] at this; exact this
  · rw [nodeD_default s n (by omega)] at hk; cases hk

theorem KN.toV {env : Env} {g : Nat → Option Val} {s : State} {m : Nat} (K : KN env g s m) : FullH.KN env g s m :=
  fun _ => K

theorem KN.ofV {env : Env} {g : Nat → Option Val} {s : State} {m : Nat} (F : RFrag env s) (K : FullH.KN env g s m) :
    KN env g s m := fun hk => K (F.mapRef_valid hk) hk

theorem Inherit.toV {env : Env} {g : Nat → Option Val} {s : State} (T : Inherit env g s) : FullH.Inherit env g s :=
  fun m pr i _ => T m pr i

theorem KInv.toV {env : Env} {g : Nat → Option Val} {s : State} (K : KInv env g s) : FullH.KInv env g s :=
  fun m p i _ => K m p i

theorem KInv.ofV {env : Env} {g : Nat → Option Val} {s : State} (F : RFrag env s) (K : FullH.KInv env g s) :
    KInv env g s := fun m p i hm hk => K m p i (F.mapRef_valid (by rw [hk]; trivial)) hm hk

theorem Mk.toV {s : State} (hv : ∀ m, IsMapRef (s.nodeD m).kind → (s.nodeD m).valid = true) {a n : Nat} (h : Mk s a n) :
    FullH.MkV s a n := by
  induction h with
  | self h => exact .self (hv _ h) h
  | up h1 h2 _ ih => exact .up (hv _ h1) h1 h2 ih

/-- **the linking cascade**: `became_necessary` on `n`, with `KN` below `n` -/
theorem becameNecessary_keepsK {env : Env} {g : Nat → Option Val} {fuel n : Nat} {s s' : State}
    (F : RFrag env s) (T : Inherit env g s)
    (h : (becameNecessary env fuel n).run.run s = (.ok (), s'))
    (hpre : ∀ m, m < n → s.isNecessary m = true → KN env g s m) :
    (∀ m, m ≤ n → s'.isNecessary m = true → KN env g s' m) ∧
    (IsMapRef (s.nodeD n).kind → Unclean env g s n → ∀ a, Mk s a n → (s'.nodeD a).didChange = true) ∧
    (∀ m, n ≤ m → (s'.nodeD m).parents = (s.nodeD m).parents) ∧
    s'.propagateInvalidity = s.propagateInvalidity ∧ FM s s' := by
  obtain ⟨A, B, C, G⟩ := (FullH.linkK' env g id fuel).1 n s s' F.toCK T.toV h fun m hm hn => (hpre m hm hn).toV
  exact ⟨fun m hm hn => .ofV (F.of_cframe G.fr) (A m (by simp only [id]; omega) hn),
    fun hk hu a ha => B hk hu a (ha.toV fun _ => F.mapRef_valid), fun m hm => C m (by simp only [id]; omega), G.pinv, G.fm⟩

theorem addParent_keepsK {env : Env} {g : Nat → Option Val} {fuel c idx p : Nat} {s s' : State}
    (F : RFrag env s) (T : Inherit env g s)
    (h : (addParentWithoutAdjustingHeights env fuel c idx p).run.run s = (.ok (), s')) (hcp : c < p)
    (hpre : ∀ m, m < p → s.isNecessary m = true → KN env g s m) :
    (∀ m, m < p → s'.isNecessary m = true → KN env g s' m) ∧
    (∀ pr, (s.nodeD p).kind = .mapRef pr c → IsMapRef (s.nodeD c).kind → Unclean env g s c →
      ∀ a, Mk s a p → (s'.nodeD a).didChange = true) ∧
    (∀ m, c < m → (s'.nodeD m).parents = (s.nodeD m).parents) ∧
    s'.propagateInvalidity = s.propagateInvalidity ∧ FM s s' := by
  obtain ⟨A, B, C, G⟩ := (FullH.linkK' env g id fuel).2 c idx p s s' F.toCK T.toV h hcp (F.valid c)
    fun m hm hn => (hpre m hm hn).toV
  exact ⟨fun m hm hn => .ofV (F.of_cframe G.fr) (A m hm hn),
    fun pr hk hc hu a ha => B pr hk hc hu a (ha.toV fun _ => F.mapRef_valid),
    fun m hm => C m (by simp only [id]; omega) (by omega), G.pinv, G.fm⟩

/-- `add_new_observers` keeps `KInv`; with `FM` and `VFrame` -/
theorem addNewObservers_keepsK' {env : Env} {g : Nat → Option Val} {fuel : Nat} {s s' : State}
    (F : RFrag env s) (T : Inherit env g s) (hp : s.propagateInvalidity = []) (K : KInv env g s)
    (h : (addNewObservers env fuel).run.run s = (.ok (), s')) :
    KInv env g s' ∧ s'.propagateInvalidity = [] ∧ FM s s' ∧ VFrame s s' := by
  obtain ⟨K', hp', A⟩ := FullH.addNewObservers_keepsK' F.toCK T.toV hp K.toV h
  exact ⟨.ofV (F.of_vframe A.vf) K', hp', A.fm, A.vf⟩

/-- `became_necessary_propagate` on a node that has just become necessary -/
theorem becameNecessaryPropagate_keepsK {env : Env} {g : Nat → Option Val} {fuel n : Nat} {s s' : State}
    (F : RFrag env s) (T : Inherit env g s) (hp : s.propagateInvalidity = [])
    (hK : ∀ m, m ≠ n → s.isNecessary m = true → KN env g s m)
    (h : (becameNecessaryPropagate env fuel n).run.run s = (.ok (), s')) :
    KInv env g s' ∧ s'.propagateInvalidity = [] ∧ FM s s' := by
  obtain ⟨K, G, -⟩ := FullH.PR.becameNecessaryPropagate_keepsK' F.toCK T.toV hp (fun m hm hn => (hK m hm hn).toV) h
  exact ⟨.ofV (F.of_cframe G.fr) K, G.pinv.trans hp, G.fm⟩

/-- `add_new_observers` keeps `KInv` -/
theorem addNewObservers_keepsK {env : Env} {g : Nat → Option Val} {fuel : Nat} {s s' : State}
    (F : RFrag env s) (T : Inherit env g s) (hp : s.propagateInvalidity = []) (K : KInv env g s)
    (h : (addNewObservers env fuel).run.run s = (.ok (), s')) :
    KInv env g s' ∧ s'.propagateInvalidity = [] ∧ FM s s' := by
  obtain ⟨h1, h2, h3, -⟩ := addNewObservers_keepsK' F T hp K h
  exact ⟨h1, h2, h3⟩

end IncrVerif.Proofs.MapRefH
