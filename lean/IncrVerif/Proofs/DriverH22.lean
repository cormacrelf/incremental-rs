import IncrVerif.Proofs.DriverH21
/-!
# Effects of a driver, part 5: the loop — `effectsSpec`
-/
namespace IncrVerif.Proofs.DriverH
open IncrVerif.Engine IncrVerif.Driver IncrVerif.Proofs IncrVerif.Proofs.Step IncrVerif.Proofs.Sched
open IncrVerif.Proofs.ExpertH IncrVerif.Proofs.ExpertH.QR IncrVerif.Proofs.EffH

theorem effX_along {D : Nat → Prop} {s t : State} (ef : EF D s t) (eff : Effect) : effX t eff = effX s eff := by
  cases eff <;> simp only [effX, ef.resOp]

theorem EffOK.effX {s : State} {n : Nat} {eff : Effect} (ok : EffOK s n eff) :
    ∃ x, effX s eff = some x ∧ Drives s n x := by
  cases eff <;> first | exact False.elim ok | skip
  case xAdd eo co cb => obtain ⟨x, c, h1, -, h2, -⟩ := ok; exact ⟨x, h1, h2⟩
  case xRm eo i => obtain ⟨x, h1, h2⟩ := ok; exact ⟨x, h1, h2⟩
  case xSel eo cb al tg => obtain ⟨x, h1, h2, -⟩ := ok; exact ⟨x, h1, h2⟩
  case xStale eo => obtain ⟨x, h1, h2⟩ := ok; exact ⟨x, h1, h2⟩

/-- legality of an effect is stable along the frame of effects -/
theorem EffOK.along {D : Nat → Prop} {s t : State} {n : Nat} {eff : Effect} (ef : EF D s t)
    (hdr : ∀ m x, Drives s m x → Drives t m x) (ok : EffOK s n eff) : EffOK t n eff :=
  ok.frame ef.size ef.kind ef.top hdr

/-- one legal effect -/
theorem step_eff {env : Env} (hA : AddSpec (noEff env)) (hR : RmSpec (noEff env)) (hS : StaleSpec (noEff env))
    {fuel n : Nat} {eff : Effect} {es : List Effect} {arg : Int} {t s' : State} (M : Mid (noEff env) t)
    (ok : EffOK t n eff) (h : (runEffects env fuel (eff :: es) arg).run.run t = (.ok (), s')) :
    ∃ t', (runEffects env fuel es arg).run.run t' = (.ok (), s') ∧ Step1 (noEff env) n eff t t' := by
  cases eff <;> first | exact False.elim ok | skip
  case xAdd eo co cb => exact step_xAdd hA M ok h
  case xRm eo i => exact step_xRm hR M ok h
  case xSel eo cb al tg => exact step_xSel hA hR M ok h
  case xStale eo => exact step_xStale hS M ok h

theorem effects_loop {env : Env} (hA : AddSpec (noEff env)) (hR : RmSpec (noEff env)) (hS : StaleSpec (noEff env))
    (fuel n : Nat) (arg : Int) (s : State) :
    ∀ (effs : List Effect) (t s' : State), Mid (noEff env) t → EF (DOf s n) s t →
      (∀ m x, Drives s m x → Drives t m x) → (s.isNecessary n = true → t.isNecessary n = true) →
      (∀ eff, eff ∈ effs → EffOK s n eff) →
      (runEffects env fuel effs arg).run.run t = (.ok (), s') →
      Mid (noEff env) s' ∧ EF (DOf s n) s s' ∧ (∀ m x, Drives s m x → Drives s' m x) ∧
        (s.isNecessary n = true → s'.isNecessary n = true) := by
  intro effs
  induction effs with
  | nil =>
    intro t s' M ef hdr hnec _ h
    rw [runEffects_nil] at h
    obtain ⟨-, rfl⟩ := pure_ok_inv h
    exact ⟨M, ef, hdr, hnec⟩
  | cons eff es ih =>
    intro t s' M ef hdr hnec hok h
    have ok0 := hok eff (List.mem_cons_self ..)
    obtain ⟨t', h', S⟩ := step_eff hA hR hS M (ok0.along ef hdr) h
    obtain ⟨x, e, hx, hk, ef1⟩ := S.ef
    obtain ⟨x0, hx0, hd0⟩ := ok0.effX
    rw [effX_along ef, hx0] at hx
    have hxx : x0 = x := Option.some.inj hx
    subst hxx
    have hD : ∀ e', e' = e → DOf s n e' := by
      intro e' he
      subst he
      exact ⟨x0, hd0, (ef.kind x0).symm.trans hk⟩
    exact ih t' s' S.mid (ef.trans (ef1.mono hD)) (fun m y hd => S.drv m y (hdr m y hd))
      (fun hn => S.nec (hnec hn)) (fun eff' hm => hok eff' (List.mem_cons_of_mem _ hm)) h'

/-- **the effect list of a driver**, from `Mid` to `Mid` -/
theorem effectsSpec (env : Env) (hA : AddSpec (EffH.noEff env)) (hR : RmSpec (EffH.noEff env))
    (hS : StaleSpec (EffH.noEff env)) : EffectsSpec env := by
  intro fuel n effs arg s s' M hok h
  exact effects_loop hA hR hS fuel n arg s effs s s' M (EF.refl _ _) (fun _ _ h => h) (fun h => h) hok h

end IncrVerif.Proofs.DriverH
