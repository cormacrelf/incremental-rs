import IncrVerif.Proofs.FullH35
import IncrVerif.Proofs.FullH19
import IncrVerif.Proofs.FullH29
/-!
# C01 full fragment: **the verdict step** — the recompute step of a node that is neither a map_ref, nor a map_with_old, nor a change-detector
node and whose ACTUAL cutoff is `.never` or `.dependOn a` (the virtual node has cutoff `.eq`, so the step is not simulated)

The run is `maybeChangeValue env fuel n v` from `logged es (started n s)` (`recomputeOne_as_mcv`), with `TargetB … n v`; the step relation `BindH.StepRelB` of the
virtual states is assembled from the actual run: `ch` = "first value, or the cutoff does not suppress"; a `.dependOn a` cutoff that suppresses: `DepInv` + `FirstFn`
say that the value is unchanged.  The proof does not use `hc` (for cutoff `.eq` it is the simulated step again).
-/
namespace IncrVerif.Proofs.FullH
open IncrVerif.Engine IncrVerif.Proofs IncrVerif.Proofs.Step IncrVerif.Proofs.Sched IncrVerif.Proofs.Quiet
open IncrVerif.Proofs.BindH (DInv BGraph StepRelB Edge Below TargetB ConsistentB BKind FrameB)
open IncrVerif.Proofs.NestH (AuxS2 Aux2 GenOK2 F2Inv)
open IncrVerif.Proofs.MapRefH (ValFrame)
namespace VD

/-- the state in which the notifications of a `maybe_change_value` step start -/
def vdW (n : Nat) (v : Val) (es' es : List Event) (s : State) : State :=
  setValue n (some v) (logged es' (logged es (started n s)))

theorem vdW_nodeD (n k : Nat) (v : Val) (es' es : List Event) (s : State) (hn : n < s.nodes.size) :
    (vdW n v es' es s).nodeD k =
      if k = n then { s.nodeD n with recomputedAt := s.stabNum, value := some v } else s.nodeD k := by
  unfold vdW
  rw [setValue_nodeD]
  have e : ∀ j, (logged es' (logged es (started n s))).nodeD j = (started n s).nodeD j := fun _ => rfl
  have hsz : (logged es' (logged es (started n s))).nodes.size = s.nodes.size := by simp [logged, started]
  by_cases hk : k = n
  · subst hk
    rw [if_pos ⟨rfl, by rw [hsz]; exact hn⟩, if_pos rfl, e, started_nodeD, if_pos ⟨rfl, hn⟩]
  · rw [if_neg (fun h => hk h.1.symm), if_neg hk, e, started_nodeD, if_neg (fun h => hk h.1.symm)]

theorem vdW_size (n : Nat) (v : Val) (es' es : List Event) (s : State) : (vdW n v es' es s).nodes.size = s.nodes.size := by
  simp [vdW, setValue, logged, started]

section
variable {g : Nat → Option Val} {s : State}

/-- the virtual image of that state differs from the virtual pre-state only in the value and the stamp of node `n` -/
theorem vdW_upd {n : Nat} {v : Val} {es' es : List Event} (hn : n < s.nodes.size) (hpc : s.panicCountdown = none) :
    Upd n (virt g s) (virt g (vdW n v es' es s)) := by
  have hX := fun k => vdW_nodeD n k v es' es s hn
  refine ⟨by rw [virt_size, virt_size, vdW_size], rfl, rfl, hpc, rfl, fun k hk => ?_, ?_, ?_⟩
  · rw [virt_nodeD, hX, if_neg hk, virt_nodeD]
  · rw [virt_nodeD, virt_nodeD, hX, if_pos rfl]
    exact MW.virtNode_shape rfl rfl rfl rfl rfl rfl rfl rfl
  · rw [virt_nodeD, hX, if_pos rfl, virt_nodeD, virtNode_heightInRch, virtNode_heightInRch]

theorem vdW_valFrame (n : Nat) (v : Val) (es' es : List Event) : ValFrame n s (vdW n v es' es s) :=
  (((ValFrame.started n s).logged es).logged es').setValue _

end
end VD

/-- **one step, a node with a verdict of its own** (`const`, `var`, `map`, `fold`, `bindMain`; any cutoff of the fragment): the drain invariant again, and the step
relation of the virtual states with its frames. -/
theorem step_verdict {env : Env} {sp : Nat → Val → Val} (hF : FirstFn env) {t s s' : State} {g : Nat → Option Val} {fuel n : Nat} {r : Option Nat}
    (D : DInvF env sp t s g (some n))
    (hk1 : ∀ p i, (s.nodeD n).kind ≠ .mapRef p i) (hk2 : ∀ m i, (s.nodeD n).kind ≠ .mapWithOld m i)
    (hk3 : ∀ b, (s.nodeD n).kind ≠ .bindLhsChange b)
    (h : (recomputeOne env fuel n).run.run s = (.ok r, s')) :
    ∃ v ch, DInvF env sp t s' g r ∧ MR.VStep n v ch r (virt g s) (virt g s') := by
  have F := D.frag
  have I := D.inv
  have gr := I.graph
  have hi := I.heap
  obtain ⟨⟨rk, A⟩, hDK, hNK⟩ := D.aux
  obtain ⟨hnnec, hltv, hnvv, -, -⟩ := I.cur_facts
  have hlt : n < s.nodes.size := by rw [virt_size] at hltv; exact hltv
  have hnv : (s.nodeD n).valid = true := by rw [virt_nodeD, virtNode_valid] at hnvv; exact hnvv
  obtain ⟨K', F'⟩ := static_keepsK_any D hF hk1 hk2 hk3 h
  obtain ⟨v, es, htarget, hrun⟩ := recomputeOne_as_mcv (fuel := fuel) F gr hlt hnv hk1 hk2 hk3 (kids_settled D) h
  rw [hrun] at h
  -- the kind of the virtual node
  have hkB : StaticKind (VE env sp) ((virt g s).nodeD n).kind ∨ ∃ b lc, ((virt g s).nodeD n).kind = .bindMain b lc := by
    have hB := (gr.node n hltv hnvv).1
    have hk3' : ∀ b, ((virt g s).nodeD n).kind ≠ .bindLhsChange b := by
      intro b e
      rw [virt_nodeD, virtNode_kind, virtKind_lc_iff] at e
      exact hk3 b e
    cases hkd : ((virt g s).nodeD n).kind <;> rw [hkd] at hB <;>
      first
      | exact Or.inl hB
      | exact Or.inr ⟨_, _, rfl⟩
      | exact absurd hkd (hk3' _)
  -- the start state of `maybe_change_value`
  have hlt0 : n < (logged es (started n s)).nodes.size := by simp [logged, started]; exact hlt
  have hp0 : (logged es (started n s)).panicCountdown = none := F.pc
  have e0 : (logged es (started n s)).nodeD n = { s.nodeD n with recomputedAt := s.stabNum } := by
    show (started n s).nodeD n = _
    rw [started_nodeD, if_pos ⟨rfl, hlt⟩]
  rw [mcv_run' env fuel n v _ _ (some_of_lt hlt0) hp0] at h
  cases hd : mcvChanges env (logged es (started n s)) n v with
  | none => rw [hd] at h; cases h
  | some d =>
  rw [hd] at h
  dsimp only at h
  generalize hes' : mcvLog env (logged es (started n s)) n v = es' at h
  have hWe : setValue n (some v) (logged es' (logged es (started n s))) = VD.vdW n v es' es s := rfl
  rw [hWe] at h
  -- the state in which the notifications start
  have hX := fun k => VD.vdW_nodeD n k v es' es s hlt
  have VF : ValFrame n s (VD.vdW n v es' es s) := VD.vdW_valFrame n v es' es
  have hXn : (VD.vdW n v es' es s).nodeD n = { s.nodeD n with recomputedAt := s.stabNum, value := some v } := by
    rw [hX, if_pos rfl]
  have hXpc : (VD.vdW n v es' es s).panicCountdown = none := F.pc
  -- the frames of the actual run
  have k0 : KeyD s (VD.vdW n v es' es s) := rfl
  have a0 : BindH.BF.HAh s (VD.vdW n v es' es s) := by
    intro k; rw [hX]; split
    · rename_i e; rw [e]
    · rfl
  have c0 : Calm s (VD.vdW n v es' es s) :=
    (((Calm.started n s).trans (Calm.logged es _)).trans (Calm.logged es' _)).trans (Calm.modNode _ n _ (fun _ => rfl))
  have d0 : BindH.C2k.DK 0 s (VD.vdW n v es' es s) :=
    (((BindH.C2k.DKS.started 0 n s).1.trans (BindH.C2k.DKS.logged 0 es _).1).trans (BindH.C2k.DKS.logged 0 es' _).1).trans
      (BindH.C2k.DKS.modNode (b := 0) (logged es' (logged es (started n s))) n (fun y => { y with value := some v })
        (fun _ => rfl)).1
  have k1 := (PresK.maybeChangeValueManual env fuel n _ d true).h _ _ _ h
  have a1 := (BindH.BF.PresA.maybeChangeValueManual env fuel n _ d true).h _ _ _ h
  have c1 := (PresC.maybeChangeValueManual env fuel n _ d true).h _ _ _ h
  have d1 := (BindH.C2k.PresD.maybeChangeValueManual (b := 0) env fuel n _ d true).h _ _ _ h
  have fm : MapRefH.FM _ s' := (MapRefH.PresFM.maybeChangeValueManual env fuel n _ d true).h _ _ _ h
  have kk : KeyD s s' := KeyD.trans k0 k1
  obtain ⟨htop, hahh, hpinv, hsc⟩ := MW.keyD_fields kk
  have hAH : BindH.BF.HAh (virt g s) (virt g s') := MW.hah_virt (a0.trans a1)
  have hNUM := MW.num_virt (g := g) (g' := g) (fun k => ((c1.num k).trans (c0.num k)))
  have hDKv : BindH.C2k.DK 0 (virt g s) (virt g s') := MW.dk_virt (g := g) (g' := g) (d0.trans d1.1)
  obtain ⟨hDK', hNK'⟩ := BindH.C2k.dkey_of_dk hDKv A.noHandlers
  have kv : KeyD (virt g s) (virt g s') := kk
  -- the virtual node
  have hvnv : ((virt g s).nodeD n).value = (s.nodeD n).value := by
    rw [virt_nodeD, virtNode_value_of_not_mapRef _ _ hk1]
  have hU : Upd n (virt g s) (virt g (VD.vdW n v es' es s)) := VD.vdW_upd hlt F.pc
  have hXk : ∀ p i', ((VD.vdW n v es' es s).nodeD n).kind ≠ .mapRef p i' := by intro p i'; rw [VF.kind]; exact hk1 p i'
  have hXnv : ((virt g (VD.vdW n v es' es s)).nodeD n).value = some v := by
    rw [virt_nodeD, virtNode_value_of_not_mapRef _ _ hXk, hXn]
  have hXnr : ((virt g (VD.vdW n v es' es s)).nodeD n).recomputedAt = (virt g s).stabNum := by
    rw [virt_nodeD, virtNode_recomputedAt, hXn]; rfl
  have hXnc : ((virt g (VD.vdW n v es' es s)).nodeD n).changedAt = ((virt g s).nodeD n).changedAt := by
    rw [virt_nodeD, virtNode_changedAt, hXn, virt_nodeD, virtNode_changedAt]
  -- what is left to do once the step relation is there
  have fin : ∀ {ch : Bool}, StepRelB n v ch r (virt g s) (virt g s') → MW.NV (VD.vdW n v es' es s) s' →
      ∃ v ch, DInvF env sp t s' g r ∧ MR.VStep n v ch r (virt g s) (virt g s') := by
    intro ch R nv
    obtain ⟨i1, i2, i3, i4, i5, i6⟩ := MW.finish (Or.inl rfl) I A D.gen htarget R hkB hnvv hNUM hAH htop hahh hpinv hsc
    have hkk : ∀ k, (s'.nodeD k).kind = (s.nodeD k).kind := fun k => (nv.kind k).trans (VF.kind k)
    obtain ⟨j1, j2⟩ := dep_stepB D.dep D.cr I R hkk (fun k => (nv.cutoff k).trans (VF.cutoff k))
      (fun a b e _ => targetB_dependOn hF e htarget)
    refine ⟨v, ch, ⟨F', i1, ⟨⟨rk, i2⟩, hDK.trans hDK', hNK.trans hNK'⟩, i3, K', ?_, MW.gsome_after D.gs VF nv fm, j1, j2⟩,
      R, kv, hAH, hNUM, hDKv⟩
    refine MW.minv_keep D.m hkk (fun k => (nv.valid k).trans (VF.valid k)) (fun k m i hkm => ?_)
    have hkn : k ≠ n := by intro e; rw [e] at hkm; exact hk2 m i hkm
    refine ⟨(nv.value k).trans (VF.value k hkn), ?_⟩
    rw [nv.oldState, hX, if_neg hkn]
  cases d with
  | false =>
    rw [run_mcvm_false] at h
    cases h
    have nv : MW.NV (VD.vdW n v es' es s) (VD.vdW n v es' es s) := MW.NV.refl hXpc
    -- only a `.dependOn a` cutoff with equal stamps suppresses
    have hold : (s.nodeD n).value = some v := by
      rcases F.fr.cut n with hc | hc | ⟨a, b, hc, hkd⟩
      · have hc0 : ((logged es (started n s)).nodeD n).cutoff = .eq ∨ ((logged es (started n s)).nodeD n).cutoff = .never := by
          rw [e0]; exact Or.inl hc
        rcases mcvChanges_static env _ n v hc0 with h1 | ⟨-, h1⟩
        · rw [hd] at h1; cases h1
        · rw [e0] at h1; exact h1
      · have hc0 : ((logged es (started n s)).nodeD n).cutoff = .eq ∨ ((logged es (started n s)).nodeD n).cutoff = .never := by
          rw [e0]; exact Or.inr hc
        rcases mcvChanges_static env _ n v hc0 with h1 | ⟨-, h1⟩
        · rw [hd] at h1; cases h1
        · rw [e0] at h1; exact h1
      · have hc0 : ((logged es (started n s)).nodeD n).cutoff = .dependOn a := by rw [e0]; exact hc
        obtain ⟨o, ho, halt, hst⟩ := mcvChanges_dependOn hc0 hd
        rw [e0] at ho hst
        have han : a ≠ n := by
          intro e
          have hch : a ∈ (virt g s).children n := by rw [virt_children, children_depend hnv hkd]; simp
          exact gr.edge_ne (Edge.child hch) e.symm
        have hst' : (s.nodeD n).changedAt = (s.nodeD a).changedAt := by
          have ea : (logged es (started n s)).nodeD a = s.nodeD a := by
            show (started n s).nodeD a = _
            rw [started_nodeD, if_neg (fun hh => han hh.1.symm)]
          rw [ea] at hst; exact hst.symm
        have h1 := D.dep n a b o hnv hkd hc hst' ho
        have h2 := targetB_dependOn hF hkd htarget
        rw [h1] at h2; cases h2
        exact ho
    have R : StepRelB n v false none (virt g s) (virt g (VD.vdW n v es' es s)) :=
      MW.rel_false gr hi hU rfl hXnv hXnr hXnc (hvnv.trans hold)
    exact fin R nv
  | true =>
    have FX : FFrag env sp g (VD.vdW n v es' es s) := F.of_valFrame VF
    obtain ⟨hsim, -, -⟩ := Sim.maybeChangeValueManual (K := FK env sp) (g := g) (sp := sp) env fuel n _ none true _ FX.fr r s' h
    have R : StepRelB n v true r (virt g s) (virt g s') := MW.rel_true gr hi hltv hU rfl hXnv hXnr hsim
    have qa : Step.Quiet (touched n (VD.vdW n v es' es s)) s' := mcvm_true_quiet _ _ _ _ _ _ _ _ h
    exact fin R (MW.NV.of_touched hXpc qa)

end IncrVerif.Proofs.FullH
