import IncrVerif.Proofs.CutH5
-- the drain is `Sched.Calm`, ARBITRARY cutoffs; overview in Props/C06History.lean
/-!
# C06 for whole histories, part 6: the drain does not touch the bookkeeping of `stabiliseEnd` (`Sched.Calm`)

`recomputeOne_calm` (one `recomputeOne`) is in `Proofs/Sched9.lean`.
-/
namespace IncrVerif.Proofs.CutH
open IncrVerif.Engine IncrVerif.Proofs IncrVerif.Proofs.Step IncrVerif.Proofs.Sched

theorem drainHeap_calm {env : Env} {e : Bool} : ∀ (fuel : Nat) (s s' : State), DrainInv env e s →
    (drainHeap env fuel).run.run s = (.ok (), s') → Calm s s' :=
  fun fuel s s' I h =>
    (drainHeap_rel Calm Calm.refl Calm.trans (fun I h => recomputeOne_calm I.graph (I.cur _ rfl).1 h)
      (fun I h => pop_calm I.heap h) fuel s s' I h).2.2

end IncrVerif.Proofs.CutH
