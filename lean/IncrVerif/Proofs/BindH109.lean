import IncrVerif.Proofs.BindH107
import IncrVerif.Proofs.BindH108
/-!
# Binds, part 4h-2 (B4): whole histories of the fragment

* `top_step`: a successful action of the fragment changes the number of naming-table entries exactly as `HistF1` counts them: a `create` pushes one entry
  (every instruction of `InstrTop` returns a handle), every other action leaves the table alone (`C2h.PresTop.stepAction`: nothing but `create` writes `top`);
* `HistF1 env T acts`: the static description of a history of the fragment;
* `runActions_q1`, `history_q1`, `history_prefix1`, `history_stabilise1` (the counterparts of `Quiet.runActions_q`, `Quiet.history_q`, `Quiet.history_prefix`,
  `Quiet.history_stabilise`).
-/
namespace IncrVerif.Proofs.BindH
open IncrVerif.Engine IncrVerif.Driver IncrVerif.Proofs IncrVerif.Proofs.Step IncrVerif.Proofs.Sched IncrVerif.Proofs.Quiet

namespace C2h

/-- the actions other than `create` never touch the naming table, whatever their outcome -/
theorem PresTop.stepAction {env : Env} {a : Action} (tokens : Array Nat) (hc : ∀ i, a ≠ .create i) :
    Step.Pres TopSame (stepAction env a tokens) :=
  (Footprint.Foot.stepAction env a tokens).lift fun e => by
    cases e with
    | engine e => exact .of_edit e
    | created _ i _ => exact (hc i rfl).elim
    | _ => exact ⟨rfl⟩

/-- a successful `create` of the fragment pushes exactly one entry onto the naming table -/
theorem top_size_create {env : Env} {T : Nat} {s s' : State} {i : Instr} {tokens : Array Nat} {r : String × Array Nat}
    (hsc : s.currentScope = .top) (hi : InstrTop env T i)
    (h : (stepAction env (.create i) tokens).run.run s = (.ok r, s')) : s'.top.size = s.top.size + 1 := by
  unfold stepAction at h
  simp only at h
  obtain ⟨ro, s1, h1, h2⟩ := bind_ok_inv h
  by_cases hb : ∃ body lhs, i = .bind body lhs
  · obtain ⟨body, lhs, ei⟩ := hb
    rw [ei] at hi h1
    obtain ⟨⟨k, ek⟩, -⟩ := hi
    rw [ek] at h1
    obtain ⟨l, -, ero, C⟩ := C2c.elab_bind1 hsc h1
    rw [ero] at h2
    simp only at h2
    obtain ⟨s2, e2, h3⟩ := bind_modify_inv h2
    obtain ⟨-, e3⟩ := pure_ok_inv h3
    rw [e3, e2]
    show (s1.top.push _).size = _
    rw [Array.size_push, C.top]
  · have hst : StaticInstr env i := by
      cases i <;> first | exact hi | exact (hb ⟨_, _, rfl⟩).elim
    obtain ⟨k, ero, -, -, C⟩ := C2c.elab_static1 hsc hst h1
    rw [ero] at h2
    simp only at h2
    obtain ⟨s2, e2, h3⟩ := bind_modify_inv h2
    obtain ⟨-, e3⟩ := pure_ok_inv h3
    rw [e3, e2]
    show (s1.top.push _).size = _
    rw [Array.size_push, C.top]

/-- the number of naming-table entries after an action of the fragment -/
theorem top_step {env : Env} {s s' : State} {a : Action} {tokens : Array Nat} {r : String × Array Nat}
    (hsc : s.currentScope = .top) :
    ActionF1 env s.top.size a → (stepAction env a tokens).run.run s = (.ok r, s') →
    s'.top.size = (match a with | .create _ => s.top.size + 1 | _ => s.top.size) := by
  intro ha h
  by_cases hc : ∃ i, a = .create i
  · obtain ⟨i, e⟩ := hc
    rw [e] at h ha ⊢
    exact top_size_create hsc ha h
  · have hc' : ∀ i, a ≠ .create i := fun i e => hc ⟨i, e⟩
    have ht := ((PresTop.stepAction tokens hc').h _ _ _ h).top
    rw [ht]
    cases a <;> first | rfl | exact (hc' _ rfl).elim

end C2h

/-- a history of the fragment: the `T` of `ActionF1` is the number of naming-table entries, i.e. the number of `create` actions so far (every instruction of
`InstrTop` creates exactly one top-level handle) -/
def HistF1 (env : Env) : Nat → List Action → Prop
  | _, [] => True
  | T, a :: as => ActionF1 env T a ∧ HistF1 env (match a with | .create _ => T + 1 | _ => T) as

section
variable {env : Env}
  (STAB : ∀ {fuel : Nat} {s s' : State}, QInv1 env s → (stabilise env fuel).run.run s = (.ok (), s') → QInv1 env s')
include STAB

/-- one action of a history of the fragment: the invariant is kept, and the rest is a history for the new naming table -/
theorem histF1_step {a : Action} {rest : List Action} {s s' : State} {tk : Array Nat} {r : String × Array Nat}
    (i : QInv1 env s ∧ HistF1 env s.top.size (a :: rest)) (hx : (stepAction env a tk).run.run s = (.ok r, s')) :
    QInv1 env s' ∧ HistF1 env s'.top.size rest :=
  ⟨step_q1 STAB i.1 i.2.1 hx, by rw [C2h.top_step i.1.struct.frag.scope i.2.1 hx]; exact i.2.2⟩

/-- **B4, a list of actions.** A history of the fragment that runs without panic from a state satisfying the invariant ends in a state satisfying it. -/
theorem runActions_q1 {acts : List Action} {s s' : State} {tk tk' : Array Nat}
    (Q : QInv1 env s) (hH : HistF1 env s.top.size acts)
    (h : Quiet.runActions env acts s tk = .ok (s', tk')) : QInv1 env s' :=
  (Hist.runActions_inv (I := fun s _ rest => QInv1 env s ∧ HistF1 env s.top.size rest) (fun _ _ _ _ _ _ => histF1_step STAB) ⟨Q, hH⟩ h).1

/-- **B4, whole histories.** The initial state followed by a history of the fragment. -/
theorem history_q1 {N : Nat} {d : Bool} {acts : List Action} {s : State} {tk : Array Nat}
    (hH : HistF1 env 0 acts) (h : Quiet.runActions env acts (State.init N d) #[] = .ok (s, tk)) : QInv1 env s :=
  runActions_q1 STAB (qinv1_init env N d) hH h

/-- **B4: every `stabilise` of a history.** At each `stabilise` action of a history of the fragment that runs from the initial state: the state `s1` before it
satisfies the invariant, the `stabilise` returns a state `s2` (so `stabilise_q1` applies to it), which satisfies the invariant, and the rest of the
history runs from `s2`. -/
theorem history_stabilise1 {N : Nat} {d : Bool} {as bs : List Action} {s : State} {tk : Array Nat}
    (hH : HistF1 env 0 (as ++ Action.stabilise :: bs))
    (h : Quiet.runActions env (as ++ Action.stabilise :: bs) (State.init N d) #[] = .ok (s, tk)) :
    ∃ s1 tk1 s2, Quiet.runActions env as (State.init N d) #[] = .ok (s1, tk1) ∧ QInv1 env s1 ∧
      (stabilise env fuelDefault).run.run s1 = (.ok (), s2) ∧ QInv1 env s2 ∧ HistF1 env s2.top.size bs ∧
      Quiet.runActions env bs s2 tk1 = .ok (s, tk) := by
  obtain ⟨s1, tk1, s2, h1, ⟨Q1, -⟩, hst, ⟨Q2, H2⟩, h2⟩ :=
    Hist.runActions_stabilise (I := fun s _ rest => QInv1 env s ∧ HistF1 env s.top.size rest) (fun _ _ _ _ _ _ => histF1_step STAB)
      ⟨qinv1_init env N d, hH⟩ h
  exact ⟨s1, tk1, s2, h1, Q1, hst, Q2, H2, h2⟩

end

end IncrVerif.Proofs.BindH
