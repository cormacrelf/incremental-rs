import IncrVerif.Proofs.OnceF4
import IncrVerif.Proofs.NestH107
/-!
# C03, combined fragment, part 1: dead generations

`GenF.Dead s n`: node `n` exists, was created by the closure of bind `b` (`createdIn = .bind b`: the scope field written once by `createNode`), the record of `b`
exists, and `n` is NOT in the record's current generation list `allNodesCreatedOnRhs`.
`dead_invalid_q` / `dead_invalid_d`: with the invariant between API actions `QInvFE` / the drain invariant `DInvF` of the combined fragment a dead node is invalid
(`NestH.All2.gen` of the virtual state: the registered nodes of a bind are exactly the valid nodes of its scope).
`stabilise_noDead`: no step of the drain of a `stabilise` is on a dead node.  `mono_runActions`: `Inval.Mono` along every history, whatever the actions.
-/
namespace IncrVerif.Proofs.GenF
open IncrVerif.Engine IncrVerif.Driver IncrVerif.Proofs IncrVerif.Proofs.Step IncrVerif.Proofs.Sched IncrVerif.Proofs.Quiet
open IncrVerif.Proofs.FullH IncrVerif.Proofs.TidyH IncrVerif.Proofs.OnceF
open IncrVerif.Proofs.NestH (All2 AuxS2 Aux2 F2Inv QG2 QI2 QInv2)

/-- **node `n` belongs to a dead generation in state `s`**: it was created by the closure of some bind `b` whose record no longer lists it -/
def Dead (s : State) (n : Nat) : Prop :=
  n < s.nodes.size ∧ ∃ b br, (s.nodeD n).createdIn = .bind b ∧ s.binds[b]? = some br ∧ n ∉ br.allNodesCreatedOnRhs

/-- the registered nodes of bind `b` in state `s` (the model's `allNodesCreatedOnRhs`) -/
def Reg (s : State) (b n : Nat) : Prop := ∃ br, s.binds[b]? = some br ∧ n ∈ br.allNodesCreatedOnRhs

theorem dead_invalid_all2 {env : Env} {rk : Nat → Nat} {g : Nat → Option Val} {s : State} {n : Nat}
    (A : All2 env rk (virt g s) []) (h : Dead s n) : (s.nodeD n).valid = false := by
  obtain ⟨hn, b, br, hc, hb, hnot⟩ := h
  cases hv : (s.nodeD n).valid with
  | false => rfl
  | true =>
    exfalso
    have := (A.gen b br hb n).2 ⟨by rw [virt_size]; exact hn, by rw [virt_nodeD, virtNode_valid]; exact hv,
      by rw [virt_nodeD, virtNode_createdIn]; exact hc⟩
    rcases this with h1 | ⟨h1, -⟩
    · exact hnot h1
    · cases h1

/-- a registered node is a valid node of the bind's scope -/
theorem reg_facts_all2 {env : Env} {rk : Nat → Nat} {g : Nat → Option Val} {s : State} {b n : Nat}
    (A : All2 env rk (virt g s) []) (h : Reg s b n) :
    n < s.nodes.size ∧ (s.nodeD n).valid = true ∧ (s.nodeD n).createdIn = .bind b := by
  obtain ⟨br, hb, hm⟩ := h
  have := (A.gen b br hb n).1 (Or.inl hm)
  rw [virt_size, virt_nodeD, virtNode_valid, virtNode_createdIn] at this
  exact this

section
variable {env : Env} {sp : Nat → Val → Val}

theorem all2_of_q {s : State} (Q : QInvFE env sp s) : ∃ g rk, All2 (VE env sp) rk (virt g s) [] := by
  obtain ⟨g, Q⟩ := Q
  obtain ⟨⟨rk, Qv⟩, -⟩ := Q.q
  exact ⟨g, rk, Qv.f2.frag⟩

theorem all2_of_d {t s : State} {g : Nat → Option Val} {x : Option Nat} (D : DInvF env sp t s g x) :
    ∃ rk, All2 (VE env sp) rk (virt g s) [] := by
  obtain ⟨⟨rk, A⟩, -, -⟩ := D.aux
  exact ⟨rk, A.frag⟩

/-- **DEAD ⇒ INVALID, between API actions** -/
theorem dead_invalid_q {s : State} {n : Nat} (Q : QInvFE env sp s) (h : Dead s n) : (s.nodeD n).valid = false := by
  obtain ⟨g, rk, A⟩ := all2_of_q Q
  exact dead_invalid_all2 A h

/-- **DEAD ⇒ INVALID, at every state of a drain** -/
theorem dead_invalid_d {t s : State} {g : Nat → Option Val} {x : Option Nat} {n : Nat} (D : DInvF env sp t s g x) (h : Dead s n) :
    (s.nodeD n).valid = false := by
  obtain ⟨rk, A⟩ := all2_of_d D
  exact dead_invalid_all2 A h

theorem reg_facts_q {s : State} {b n : Nat} (Q : QInvFE env sp s) (h : Reg s b n) :
    n < s.nodes.size ∧ (s.nodeD n).valid = true ∧ (s.nodeD n).createdIn = .bind b := by
  obtain ⟨g, rk, A⟩ := all2_of_q Q
  exact reg_facts_all2 A h

/-- conversely: between API actions, an existing invalid node of a scope whose bind record exists is dead -/
theorem invalid_scope_dead_q {s : State} {b n : Nat} {br : BindRec} (Q : QInvFE env sp s) (hn : n < s.nodes.size)
    (hc : (s.nodeD n).createdIn = .bind b) (hb : s.binds[b]? = some br) (hv : (s.nodeD n).valid = false) : Dead s n := by
  refine ⟨hn, b, br, hc, hb, fun hm => ?_⟩
  have := (reg_facts_q Q ⟨br, hb, hm⟩).2.1
  rw [hv] at this; cases this

/-- NO DEAD-GENERATION NODE RUNS, for the run `s → s'` of `stabilise env fuel`: `t2` = the state in which the drain starts; no step of the drain is on a node that is dead
in the state in which the step starts; no node of the trace is dead in the final state; every node that is dead in the state in which some step starts is invalid there;
and a node that is invalid (e.g. dead) when `stabilise` is called is not in the trace -/
def NoDeadStab (env : Env) (fuel : Nat) (s s' : State) : Prop :=
  ∃ t1 t2 t3,
    (addNewObservers env fuel).run.run { s with status := .stabilising } = (.ok (), t1) ∧
    (unlinkDisallowedObservers fuel).run.run t1 = (.ok (), t2) ∧
    (drainHeap env fuel).run.run t2 = (.ok (), t3) ∧ (stabiliseEnd env fuel).run.run t3 = (.ok (), s') ∧
    (drainSteps env fuel t2).map (·.1) = drainTrace env fuel t2 ∧
    (∀ p, p ∈ drainSteps env fuel t2 → ¬ Dead p.2 p.1) ∧
    (∀ p, p ∈ drainSteps env fuel t2 → ∀ m, Dead p.2 m → (p.2.nodeD m).valid = false) ∧
    (∀ m, m ∈ drainTrace env fuel t2 → ¬ Dead s' m) ∧
    (∀ m, m < s.nodes.size → (s.nodeD m).valid = false → m ∉ drainTrace env fuel t2)

theorem stabilise_noDead (E : EnvS env sp) (hF : FirstFn env) {fuel : Nat} {s s' : State} (Q : QInvFE env sp s)
    (h : (stabilise env fuel).run.run s = (.ok (), s')) : NoDeadStab env fuel s s' := by
  obtain ⟨O, -, Q'⟩ := stabilise_c02 E hF Q h
  obtain ⟨g, Q⟩ := Q
  obtain ⟨t1, t2, t3, g2, g3, h1, h2, h3, h4, -, -, P, -, -⟩ := stabilise_pathF (kit E hF) Q h
  obtain ⟨u1, u2, u3, k1, k2, k3, k4, -, hend, -, hstep, -⟩ := O
  have e1 : u1 = t1 := by have := k1.symm.trans h1; cases this; rfl
  subst e1
  have e2 : u2 = t2 := by have := k2.symm.trans h2; cases this; rfl
  subst e2
  refine ⟨u1, u2, t3, h1, h2, h3, h4, drainSteps_fst env fuel u2, fun p hp hd => ?_, fun p hp m hd => ?_, fun m hm hd => ?_,
    fun m hm hv hmem => ?_⟩
  · obtain ⟨gp, Dp, -⟩ := PathF.steps P hp
    have := dead_invalid_d Dp hd
    rw [(hstep p hp).2.1] at this; cases this
  · obtain ⟨gp, Dp, -⟩ := PathF.steps P hp
    exact dead_invalid_d Dp hd
  · have := dead_invalid_q Q' hd
    rw [(hend m hm).2.2] at this; cases this
  · have q := (Inval.Call.mono (.stabilise env fuel)).h s (.ok ()) s' h
    have := q.keep m hm hv
    rw [(hend m hmem).2.2] at this; cases this

end

/-! ## `Inval.Mono` along histories -/

/-- every history, whatever its actions: no node is removed, an invalid node stays invalid (and without value if it had none) -/
theorem mono_runActions (env : Env) : ∀ (acts : List Action) (s s' : State) (tk tk' : Array Nat),
    Quiet.runActions env acts s tk = .ok (s', tk') → Inval.Mono s s' := fun _ s _ _ _ h =>
  Hist.runActions_inv (I := fun t _ _ => Inval.Mono s t)
    (fun a _ t tk _ t' M hx => Inval.Mono.trans M ((NestH.T2i.PresMono.stepAction env a tk).h t _ t' hx)) (Inval.Mono.refl s) h

end IncrVerif.Proofs.GenF
