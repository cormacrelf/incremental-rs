import IncrVerif.Proofs.MapRef10
/-!
# map_ref fragment, part 4: the flags after `maybe_change_value`

`mcvm_flags`: after a successful propagating `maybe_change_value_manual n` (with notifications), every map_ref node
above `n` whose read value is no longer the one of the pre-state has its `didChange` flag up.
-/
namespace IncrVerif.Proofs.MapRefH
open IncrVerif.Engine IncrVerif.Proofs IncrVerif.Proofs.Step IncrVerif.Proofs.Sched IncrVerif.Proofs.Quiet

/-- loop rule for successful runs: an invariant, and a per-element postcondition kept by later iterations -/
theorem forIn_inv_post {α} (K : State → Prop) (P : α → State → Prop) (f : α → PUnit → M (ForInStep PUnit))
    (l : List α)
    (hK : ∀ a, a ∈ l → ∀ s r s', K s → (f a ⟨⟩).run.run s = (.ok r, s') → K s' ∧ r = .yield ⟨⟩ ∧ P a s')
    (hkeep : ∀ a b, b ∈ l → ∀ s r s', K s → P a s → (f b ⟨⟩).run.run s = (.ok r, s') → P a s') :
    ∀ s r s', K s → (forIn l PUnit.unit f).run.run s = (.ok r, s') → K s' ∧ ∀ a, a ∈ l → P a s' := by
  induction l with
  | nil =>
    intro s r s' hk h
    rw [List.forIn_nil, run_pure] at h; cases h
    exact ⟨hk, fun a ha => by cases ha⟩
  | cons a l ih =>
    intro s r s' hk h
    rw [List.forIn_cons] at h
    obtain ⟨x, s1, hx, hrest⟩ := bind_ok_inv h
    obtain ⟨hk1, rfl, hp1⟩ := hK a (List.mem_cons_self ..) s x s1 hk hx
    simp only at hrest
    obtain ⟨hk', hall⟩ := ih (fun b hb => hK b (List.mem_cons_of_mem _ hb))
      (fun a' b hb => hkeep a' b (List.mem_cons_of_mem _ hb)) s1 r s' hk1 hrest
    refine ⟨hk', fun a' ha' => ?_⟩
    rcases List.mem_cons.1 ha' with rfl | hmem
    · -- keep `P a'` through the remaining iterations
      refine (forIn_ok_keep (fun t => K t ∧ P a' t) f l ?_ s1 r s' ⟨hk1, hp1⟩ hrest).2
      intro b hb t x t' ⟨hkt, hpt⟩ hrun
      exact ⟨(hK b (List.mem_cons_of_mem _ hb) t x t' hkt hrun).1,
        hkeep a' b (List.mem_cons_of_mem _ hb) t x t' hkt hpt hrun⟩
    · exact hall a' hmem

local macro_rules | `(tactic| qleaf) => `(tactic| with_reducible apply PresFM.childChanged)
local macro_rules | `(tactic| qleaf) => `(tactic| with_reducible apply PresFM.rchInsert)
local macro_rules | `(tactic| qleaf) => `(tactic| with_reducible apply PresFM.parentIterCanRecomputeNow)

/-- **the flags after a propagating `maybe_change_value_manual`** (with notifications: `runChildChanged = true`).
`W0`: the state in which it is called (new value stored); `s0`: the pre-state of the step; `old`: what is passed as the old value
(`none` for a `map_with_old` node). -/
theorem mcvm_flags {env : Env} {s0 W0 s' : State} {fuel n : Nat} {old : Option Val} {r : Option Nat}
    (C : CCtx env s0 (touched n W0)) (hold : ∀ o, old = some o → s0.value env n = some o)
    (h : (maybeChangeValueManual env fuel n old true true).run.run W0 = (.ok r, s')) :
    ∀ m, UpM (touched n W0) m n → Changed env s0 (touched n W0) m → (s'.nodeD m).didChange = true := by
  generalize hW : touched n W0 = W at C ⊢
  intro m hup hch
  have CC := childChanged_flags C fuel
  unfold maybeChangeValueManual at h
  simp only [Bool.not_true, Bool.false_eq_true, if_false, if_true, run_bind_get, run_bind_modNode,
    run_bind_bumpCounter] at h
  obtain ⟨u, s1, h1, h2⟩ := bind_ok_inv h
  have h1' : (maybeHandleAfterStabilisation n).run.run W = (.ok u, s1) := by rw [← hW]; exact h1
  have q1 : Step.Quiet W s1 := (Step.Pres.maybeHandleAfterStabilisation n).h _ _ _ h1'
  obtain ⟨nd1, hnd1, h3⟩ := bind_getNode_inv h2
  have hpar1 : nd1.parents = (W.nodeD n).parents := by
    have := (q1.node n).parents
    rw [nodeD_of_some hnd1] at this
    exact this
  rw [hpar1] at h3
  obtain ⟨p, ci, hpm, hpk, hmm⟩ := hup.cases_head
  rcases hps : (W.nodeD n).parents with _ | ⟨⟨p0, ci0⟩, rest⟩
  · rw [hps] at hpm; cases hpm
  rw [hps] at h3 hpm
  dsimp only at h3
  obtain ⟨u2, s2, hloop, hlast⟩ := bind_ok_inv h3
  -- the loop over the other parents
  have hmemr : ∀ a, a ∈ rest → a ∈ (W.nodeD n).parents := by
    intro a ha; rw [hps]; exact List.mem_cons_of_mem _ ha
  have L := forIn_inv_post (fun t => Step.Quiet W t)
    (fun (a : Nat × Nat) t => IsMapRef (W.nodeD a.1).kind → ∀ m, (m = a.1 ∨ UpM W m a.1) → Changed env s0 W m →
      (t.nodeD m).didChange = true) _ rest
    (by
      intro a ha t r t' qt hb
      obtain ⟨pa, cia⟩ := a
      obtain ⟨_, t1, hcc, hb1⟩ := bind_ok_inv hb
      have qc : Step.Quiet t t1 := (Step.Pres.childChanged ..).h _ _ _ hcc
      have qb : Step.Quiet t1 t' := by refine Step.Pres.h ?_ _ _ _ hb1; qpres
      have fb : FM t1 t' := by refine Step.Pres.h ?_ _ _ _ hb1; qpres
      refine ⟨(qt.trans qc).trans qb, ?_, ?_⟩
      · rw [run_bind_get] at hb1
        obtain ⟨na, hna, hb4⟩ := bind_getNode_inv (bind_dassert_inv hb1)
        split at hb4
        · obtain ⟨_, t5, hins, hb5⟩ := bind_ok_inv hb4
          obtain ⟨rfl, -⟩ := pure_ok_inv hb5; rfl
        · obtain ⟨rfl, -⟩ := pure_ok_inv hb4; rfl
      · intro hmr m' hm' hch'
        exact fb m' (CC pa n cia old t t1 _ hcc qt (hmemr _ ha) hold hmr m' hm' hch'))
    (by
      intro a b hb t r t' qt hp hrun hmr m' hm' hch'
      have fb : FM t t' := by
        obtain ⟨pb, cib⟩ := b
        refine Step.Pres.h ?_ _ _ _ hrun; qpres
      exact fb m' (hp hmr m' hm' hch'))
    s1 _ s2 q1 hloop
  obtain ⟨q2, hrestP⟩ := L
  -- the first parent
  obtain ⟨_, s3, hcc, hl1⟩ := bind_ok_inv hlast
  have f3 : FM s3 s' := by refine Step.Pres.h ?_ _ _ _ hl1; qpres
  have fc : FM s2 s3 := (PresFM.childChanged ..).h _ _ _ hcc
  rcases List.mem_cons.1 hpm with he | hr
  · cases he
    exact f3 m (CC p n ci old s2 s3 _ hcc q2 (by rw [hps]; exact List.mem_cons_self ..) hold hpk m hmm hch)
  · exact f3 m (fc m (hrestP (p, ci) hr hpk m hmm hch))

end IncrVerif.Proofs.MapRefH
