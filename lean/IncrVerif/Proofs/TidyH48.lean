import IncrVerif.Proofs.TidyH38
import IncrVerif.Proofs.TidyH32
/-!
# T4, `addDep` returns (part 1): frames of `TInvR`, the unnecessary case, the tails of the call
-/
namespace IncrVerif.Proofs.TidyH.XT
open IncrVerif.Engine IncrVerif.Driver IncrVerif.Proofs IncrVerif.Proofs.Step IncrVerif.Proofs.Sched
open IncrVerif.Proofs.ExpertH IncrVerif.Proofs.ExpertH.QR

namespace X4i

/-- the state fields `TInvR` reads besides heights, kinds, necessity and the heaps -/
structure TK (S S' : State) : Prop where
  size : S'.nodes.size = S.nodes.size
  vars : S'.vars = S.vars
  top : S'.top = S.top
  newObs : S'.newObservers = S.newObservers
  obs : S'.observers = S.observers

theorem TK.refl (S : State) : TK S S := ⟨rfl, rfl, rfl, rfl, rfl⟩

theorem TK.trans {a b c : State} (h1 : TK a b) (h2 : TK b c) : TK a c :=
  ⟨h2.size.trans h1.size, h2.vars.trans h1.vars, h2.top.trans h1.top, h2.newObs.trans h1.newObs,
    h2.obs.trans h1.obs⟩

theorem TInvR.of_tk {N : Nat} {S S' : State} (T : TInvR N S) (K : TK S S') (hb : HBd S' allClosed)
    (R : Room N S') : TInvR N S' where
  hb := hb
  room := R
  linked c vc h := by rw [K.vars] at h; exact T.linked c vc h
  topSize := by rw [K.top, K.size]; exact T.topSize
  newNodup := by rw [K.newObs]; exact T.newNodup
  newState o ob h1 h2 := by rw [K.newObs] at h1; rw [K.obs] at h2; exact T.newState o ob h1 h2

theorem TK.of_rekind {n : Nat} {k' : Kind} {S S2 : State} (R : Rekind n k' S S2) : TK S S2 := by
  have hk := R.key
  simp only [qKey, Prod.mk.injEq] at hk
  obtain ⟨-, -, -, -, -, -, -, h8, ho, hno, -⟩ := hk
  exact ⟨R.size, R.vars, h8, hno, ho⟩

theorem TK.of_cframe {S S' : State} (h : CFrame S S') : TK S S' := by
  have hk := h.key
  simp only [stateKey, Prod.mk.injEq] at hk
  obtain ⟨h1, h2, -, -, -, -, -, -, h9, -, -, h12, -⟩ := hk
  exact ⟨h.size, h1, h12, h9, h2⟩

theorem TK.of_hrel {S S' : State} (h : HRel S S') : TK S S' :=
  ⟨h.size, h.vars, h.top, h.misc.2.2.1, h.observers⟩

theorem dp_le_rekind {n : Nat} {k' : Kind} {S S2 : State} (R : Rekind n k' S S2)
    (hk : ∀ x, x ∈ kids (S.nodeD n).kind → x ∈ kids k') (m : Nat) : dp S m ≤ dp S2 m := by
  refine dp_mono (fun x c hc => ?_) (by rw [R.size]; exact Nat.le_refl _) m
  by_cases e : x = n
  · rw [e, R.kind_self]; rw [e] at hc; exact hk c hc
  · rw [R.kind_other e]; exact hc

/-- the height bound survives a kind change that only adds children -/
theorem HBd_rekind {n : Nat} {k' : Kind} {S S2 : State} {op op' : Nat → Op} (hb : HBd S op) (R : Rekind n k' S S2)
    (hk : ∀ x, x ∈ kids (S.nodeD n).kind → x ∈ kids k') (hop : ∀ m, op' m = .closed → op m = .closed) :
    HBd S2 op' := by
  intro m hm ho
  rw [R.nec] at hm
  rw [R.height]
  have h1 := hb m hm (hop m ho)
  have h2 := dp_le_rekind R hk m
  omega

theorem Room.of_rekind {N n : Nat} {k' : Kind} {S S2 : State} (Rm : Room N S) (R : Rekind n k' S S2)
    (ha : S2.ahh = S.ahh) : Room N S2 :=
  ⟨by rw [ha]; exact Rm.ahh, by rw [R.rch]; exact Rm.rch, by rw [R.size]; exact Rm.size⟩

/-! ## `inserted` -/

theorem inserted_height (p : Nat) (h : Int) (s : State) (m : Nat) :
    ((inserted p h s).nodeD m).height = (s.nodeD m).height := by
  rw [inserted_nodeD]; split <;> rfl

theorem inserted_kind (p : Nat) (h : Int) (s : State) (m : Nat) :
    ((inserted p h s).nodeD m).kind = (s.nodeD m).kind := by
  rw [inserted_nodeD]; split <;> rfl

theorem inserted_fields (p : Nat) (h : Int) (s : State) (m : Nat) :
    ((inserted p h s).nodeD m).kind = (s.nodeD m).kind ∧ ((inserted p h s).nodeD m).valid = (s.nodeD m).valid ∧
      ((inserted p h s).nodeD m).recomputedAt = (s.nodeD m).recomputedAt ∧
      ((inserted p h s).nodeD m).changedAt = (s.nodeD m).changedAt := by
  rw [inserted_nodeD]; split <;> exact ⟨rfl, rfl, rfl, rfl⟩

theorem inserted_children (p : Nat) (h : Int) (s : State) (m : Nat) :
    (inserted p h s).children m = s.children m := by
  have hk : ((inserted p h s).nodeD m).kind? = (s.nodeD m).kind? := by
    rw [inserted_nodeD]; split <;> rfl
  unfold State.children
  rw [hk]
  rfl

theorem inserted_isStale (p : Nat) (h : Int) (s : State) (m : Nat) :
    (inserted p h s).isStale m = s.isStale m :=
  isStale_congr_fields (fun k => inserted_fields p h s k) rfl rfl m (inserted_children p h s m)

theorem inserted_needsToBeComputed (p : Nat) (h : Int) (s : State) (m : Nat) :
    (inserted p h s).needsToBeComputed m = s.needsToBeComputed m := by
  unfold State.needsToBeComputed
  rw [inserted_isNecessary, inserted_isStale]

theorem inserted_size (p : Nat) (h : Int) (s : State) : (inserted p h s).nodes.size = s.nodes.size :=
  Array.size_modify ..

/-- queueing a node keeps the extra invariant -/
theorem tinvX_inserted {N p : Nat} {h : Int} {s : State} (T : TInvX N s) : TInvX N (inserted p h s) := by
  rw [tinvX_iff] at T ⊢
  obtain ⟨h1, h2, h3, h4, h5, h6, h7, h8⟩ := T
  have hd : ∀ m, dp (virt (inserted p h s)) m = dp (virt s) m := by
    intro m
    refine dp_congr (fun x => ?_) (by rw [virt_size, virt_size, inserted_size]) m
    rw [virt_nodeD, virt_nodeD, virtNode_kind, virtNode_kind, inserted_kind]
    rfl
  refine ⟨fun m hm => ?_, h2, ?_, by rw [inserted_size]; exact h4, h5, by rw [inserted_size]; exact h6, h7, h8⟩
  · rw [inserted_isNecessary] at hm
    rw [inserted_height, hd]; exact h1 m hm
  · rw [← h3]
    simp only [Heap.maxAllowed, inserted, Array.size_modify]

/-! ## the node is not necessary -/

theorem addDep_totalX_unnec {env : Env} {rk : Nat → Nat} {N fuel n c e : Nat} {cb : Bool} {s : State} {nd : Node}
    {er : ExpertRec} (Q : QInvX env rk s) (T : TInvX N s) (hx : Xp.IsExpert s n nd e er)
    (hnec : nd.isNecessary = false) (hc : c < s.nodes.size) (hacyc : ¬ Below s c n) :
    ∃ dep s', (expertAddDependency env fuel n c cb).run.run s = (.ok dep, s') ∧ (∃ rk', QInvX env rk' s') ∧
      TInvX N s' ∧ s'.nodes.size = s.nodes.size ∧ s'.vars.size = s.vars.size ∧
      s'.observers.size = s.observers.size ∧ s'.top = s.top := by
  have hD : s.nodeD n = nd := nodeD_of_some hx.node
  have hk : (s.nodeD n).kind = .expert e := by rw [hD]; exact hx.kind
  have hrun : (expertAddDependency env fuel n c cb).run.run s = (.ok s.nextDep, addedState e er c cb s) :=
    Xp.expertAddDependency_unnecessary env fuel n c cb hx hnec
  obtain ⟨rk', F', Q', A', -⟩ := addDep_unnec Q.frag Q.q Q.ahh hx hnec hc hacyc hrun
  refine ⟨_, _, hrun, ⟨rk', ⟨F', Q', A'⟩⟩, ?_, rfl, rfl, rfl, rfl⟩
  have R := rekind_added (c := c) (cb := cb) Q.frag hk hx.xrec
  have hkids0 : kids ((virt s).nodeD n).kind = er.children.map (·.child) := virt_kids_expert hk hx.xrec
  have hmem : ∀ x, x ∈ kids ((virt s).nodeD n).kind → x ∈ kids (addedKind er c) := by
    intro x hx'
    rw [hkids0] at hx'
    rw [kids_addedKind]
    exact List.mem_append_left _ hx'
  exact TInvR.of_tk T (TK.of_rekind R) (HBd_rekind T.hb R hmem (fun _ h => h)) (Room.of_rekind T.room R rfl)

/-! ## the tails of the call on a necessary node -/

/-- the end of `stateAddParent`: nothing to propagate; the node is queued if it is not and looks stale -/
theorem sap_tail_tot {fuel n c : Nat} {s4 : State} (hp : s4.propagateInvalidity = []) (hf : 1 ≤ fuel)
    (hn : n < s4.nodes.size) (hc : c < s4.nodes.size) (hnec : s4.isNecessary n = true)
    (hntc : s4.needsToBeComputed n = true) (h0 : 0 ≤ (s4.nodeD n).height)
    (hmax : (s4.nodeD n).height ≤ s4.rch.maxAllowed) :
    Tot (do propagateInvalidity fuel
            dassert ((← get).isNecessary n) "node:state_add_parent:parent-necessary"
            let p ← getNode n
            let c ← getNode c
            if !p.inRch && (p.recomputedAt == -1 || c.changedAt > p.recomputedAt) then
              rchInsert n : M Unit) s4
      (fun _ s5 => s5 = s4 ∨ ((s4.nodeD n).inRch = false ∧ s5 = inserted n (s4.nodeD n).height s4)) := by
  obtain ⟨f, rfl⟩ : ∃ f, fuel = f + 1 := ⟨fuel - 1, by omega⟩
  refine Tot.bind_ok (propagateInvalidity_nil_run f hp) ?_
  refine Tot.bind_get ?_
  refine Tot.bind_dassert (fun _ => hnec) ?_
  refine Tot.bind_getNode hn ?_
  refine Tot.bind_getNode hc ?_
  split
  · rename_i hcond
    have hq : (s4.nodeD n).inRch = false := by
      cases h : (s4.nodeD n).inRch
      · rfl
      · rw [h] at hcond; simp at hcond
    exact ⟨(), _, rchInsert_run_ok hn (by rw [hq, hntc]; rfl) h0 hmax, Or.inr ⟨hq, rfl⟩⟩
  · exact Tot.pure (Or.inl rfl)

/-- the end of `expertAddDependency`: the node is queued if it is not yet -/
theorem expert_tail_tot {n dep0 : Nat} {s5 : State} (hn : n < s5.nodes.size)
    (hntc : s5.needsToBeComputed n = true)
    (hins : (s5.nodeD n).inRch = false → 0 ≤ (s5.nodeD n).height ∧ (s5.nodeD n).height ≤ s5.rch.maxAllowed) :
    Tot (do dassert ((← get).needsToBeComputed n) "node:expert_add_dependency:needs-to-be-computed"
            if !(← getNode n).inRch then rchInsert n
            pure dep0 : M Nat) s5
      (fun _ s' => ((s5.nodeD n).inRch = true ∧ s' = s5) ∨
        ((s5.nodeD n).inRch = false ∧ s' = inserted n (s5.nodeD n).height s5)) := by
  refine Tot.bind_get ?_
  refine Tot.bind_dassert (fun _ => hntc) ?_
  refine Tot.bind_getNode hn ?_
  dsimp only
  cases hq : (s5.nodeD n).inRch
  · simp only [Bool.not_false, if_true]
    obtain ⟨h0, hmax⟩ := hins hq
    refine Tot.bind_ok (rchInsert_run_ok hn (by rw [hq, hntc]; rfl) h0 hmax) ?_
    exact Tot.pure (Or.inr ⟨trivial, rfl⟩)
  · simp only [Bool.not_true, Bool.false_eq_true, if_false]
    exact Tot.bind_ok (run_pure _ _) (Tot.pure (Or.inl ⟨trivial, rfl⟩))

/-- the sizes the driver tracks -/
def Same (s s' : State) : Prop :=
  s'.nodes.size = s.nodes.size ∧ s'.vars.size = s.vars.size ∧ s'.observers.size = s.observers.size ∧ s'.top = s.top

theorem same_of_tk {s s' : State} (K : TK (virt s) (virt s')) : Same s s' := by
  refine ⟨by have := K.size; rwa [virt_size, virt_size] at this, ?_, ?_, K.top⟩
  · have := K.vars; rw [virt_vars, virt_vars] at this; rw [this]
  · have := K.obs; rw [virt_observers, virt_observers] at this; rw [this]

theorem Same.inserted {s s' : State} (h : Same s s') (p : Nat) (x : Int) : Same s (inserted p x s') :=
  ⟨(inserted_size p x s').trans h.1, h.2.1, h.2.2.1, h.2.2.2⟩

theorem staleOf_restKey {S S' : State} (hnode : ∀ m, restKey (S'.nodeD m) = restKey (S.nodeD m))
    (hv : S'.vars = S.vars) (m : Nat) : staleOf S' m = staleOf S m := by
  have hn : ∀ m, (S'.nodeD m).kind = (S.nodeD m).kind ∧ (S'.nodeD m).recomputedAt = (S.nodeD m).recomputedAt ∧
      (S'.nodeD m).changedAt = (S.nodeD m).changedAt := by
    intro m
    have := hnode m
    simp only [restKey, Prod.mk.injEq] at this
    exact ⟨this.1, this.2.2.1, this.2.2.2.1⟩
  exact staleOf_congr (hn m).1 (hn m).2.1 hv (fun c _ => (hn c).2.2)

end X4i
end IncrVerif.Proofs.TidyH.XT
