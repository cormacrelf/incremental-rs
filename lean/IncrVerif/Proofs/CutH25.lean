import IncrVerif.Proofs.CutH24
import IncrVerif.Proofs.CutH23
-- static programs with ARBITRARY cutoffs; `Proofs/Quiet19.lean` (default cutoffs) takes its lemmas from this file; overview in Props/C06History.lean
/-!
# Part 18: whole histories of static programs (G4)
-/
namespace IncrVerif.Proofs.CutH
open IncrVerif.Engine IncrVerif.Driver IncrVerif.Proofs IncrVerif.Proofs.Step IncrVerif.Proofs.Sched
variable {e : Bool}

/-- every observer in use reads the from-scratch evaluation of its node on the current variable values -/
def ReadsOK (env : Env) (s : State) : Prop :=
  ∀ (o : Nat) (ob : ObsRec), s.observers[o]? = some ob → ob.state = .inUse →
    ∀ k, (s.nodeD ob.node).height.toNat < k →
      ∃ v, s.tryGetValue env o = .ok v ∧ eval env s k ob.node = some v

/-- no observer is waiting to be added or unlinked -/
def ObsSettled (s : State) : Prop :=
  ∀ (o : Nat) (ob : ObsRec), s.observers[o]? = some ob → ob.state = .inUse ∨ ob.state = .unlinked

/-- every observer in use reads the stored value of its node, which exists -/
def ReadsSome (env : Env) (s : State) : Prop :=
  ∀ (o : Nat) (ob : ObsRec), s.observers[o]? = some ob → ob.state = .inUse →
    ∃ v, s.tryGetValue env o = .ok v ∧ (s.nodeD ob.node).value = some v ∧ s.isNecessary ob.node = true

/-- with nothing waiting to be added or unlinked, an observer in use makes its node necessary … -/
theorem ObsInv.nec_inUse {s : State} {o : Nat} {ob : ObsRec} (O : ObsInv s [] []) (ho : s.observers[o]? = some ob)
    (hst : ob.state = .inUse) : s.isNecessary ob.node = true :=
  nec_of_mem_observers ((O.mem ob.node o).2 ⟨ob, ho, rfl, Or.inl hst⟩)

/-- … and every observer is in use or unlinked -/
theorem ObsInv.settled {s : State} (O : ObsInv s [] []) : ObsSettled s := by
  intro o ob ho
  cases hst : ob.state with
  | inUse => exact Or.inl rfl
  | unlinked => exact Or.inr rfl
  | created => have := O.created o ob ho hst; cases this
  | disallowed => have := (O.dis o ob ho).1 hst; cases this

theorem stabilised_obs {env : Env} {fuel : Nat} {s s' : State} (R : Stabilised env e fuel s s') :
    ObsInv s' [] [] := by
  have := R.inv.obs
  unfold ObsOK at this
  rw [R.newObservers, R.disallowedObservers] at this
  exact this

theorem stabilised_settled {env : Env} {fuel : Nat} {s s' : State} (R : Stabilised env e fuel s s') :
    ReadsSome env s' ∧ ObsSettled s' := by
  have O' := stabilised_obs R
  refine ⟨fun o ob ho hst => ?_, O'.settled⟩
  have hn := O'.nec_inUse ho hst
  obtain ⟨-, -, v, hv, hread⟩ := R.settled ob.node hn
  exact ⟨v, tryGetValue_inUse R.inv.alive R.inv.status ho hst hread, hv, hn⟩

theorem stabilised_reads {env : Env} {fuel : Nat} {s s' : State} (R : Stabilised env true fuel s s') :
    ReadsOK env s' ∧ ObsSettled s' := by
  have O' := stabilised_obs R
  refine ⟨fun o ob ho hst k hk => ?_, O'.settled⟩
  obtain ⟨-, -, -, hv, hs⟩ := R.values rfl ob.node (O'.nec_inUse ho hst) k hk
  obtain ⟨v, hev⟩ := Option.isSome_iff_exists.1 hs
  exact ⟨v, tryGetValue_inUse R.inv.alive R.inv.status ho hst (hv.trans hev), hev⟩

/-- **C05 cone.** In a state satisfying the invariant a node is necessary iff it is in the cone of a linked observer. -/
theorem QInv.nec_iff_cone {env : Env} {s : State} (Q : QInv env e s) (n : Nat) :
    s.isNecessary n = true ↔ InCone s n :=
  CutH.nec_iff_cone Q.struct Q.obs n

/-- the initial state followed by a list of static actions: the invariant holds, with the flag "every cutoff ever
in force was exact" up iff every action of the history is an `ExactAction` -/
theorem history_q {env : Env} {N : Nat} {d : Bool} {acts : List Action} {s : State} {tk : Array Nat}
    (ha : ∀ a, a ∈ acts → StaticAction env a)
    (h : runActions env acts (State.init N d) #[] = .ok (s, tk)) : QInv env (acts.all ExactAction) s := by
  have := runActions_q (qinv_init env N d) ha h
  simpa using this

/-- **G4: every state reached.** If a history of static actions runs (without panic) from the initial state,
then every prefix runs, and the state it reaches satisfies the invariant. -/
theorem history_prefix {env : Env} {N : Nat} {d : Bool} {as bs : List Action} {s : State} {tk : Array Nat}
    (ha : ∀ a, a ∈ as ++ bs → StaticAction env a)
    (h : runActions env (as ++ bs) (State.init N d) #[] = .ok (s, tk)) :
    ∃ s1 tk1, runActions env as (State.init N d) #[] = .ok (s1, tk1) ∧ QInv env (as.all ExactAction) s1 ∧
      runActions env bs s1 tk1 = .ok (s, tk) := by
  obtain ⟨s1, tk1, h1, h2⟩ := runActions_prefix h
  exact ⟨s1, tk1, h1, history_q (fun a hm => ha a (List.mem_append_left _ hm)) h1, h2⟩

/-- **G4: every `stabilise` of a history.** At each `stabilise` action of a history of static actions (ANY cutoffs)
that runs from the initial state: the state `s1` before it satisfies the invariant; the `stabilise` returns a state
`s2` with all the conclusions of `stabilise_q` (invariant, nothing pending, variables unchanged, every necessary node
valid, non-stale, with a value; the drain ran no node twice and only necessary nodes); every observer in use reads
the stored value of its node; every observer is in use or unlinked; a node is necessary iff it is in the cone of an
observer in use.  If all actions before were `ExactAction`s, every observer in use reads the from-scratch value. -/
theorem history_stabilise {env : Env} {N : Nat} {d : Bool} {as bs : List Action} {s : State}
    {tk : Array Nat} (ha : ∀ a, a ∈ as ++ Action.stabilise :: bs → StaticAction env a)
    (h : runActions env (as ++ Action.stabilise :: bs) (State.init N d) #[] = .ok (s, tk)) :
    ∃ s1 tk1 s2, runActions env as (State.init N d) #[] = .ok (s1, tk1) ∧ QInv env (as.all ExactAction) s1 ∧
      (stabilise env fuelDefault).run.run s1 = (.ok (), s2) ∧
      Stabilised env (as.all ExactAction) fuelDefault s1 s2 ∧
      ReadsSome env s2 ∧ ObsSettled s2 ∧ (∀ n, s2.isNecessary n = true ↔ InCone s2 n) ∧
      (as.all ExactAction = true → ReadsOK env s2) ∧
      runActions env bs s2 tk1 = .ok (s, tk) := by
  obtain ⟨s1, tk1, h1, Q1, h2⟩ := history_prefix ha h
  rw [runActions_eq] at h2
  obtain ⟨r, s2, hx, h2⟩ := Hist.runActions_cons_ok.1 h2
  obtain ⟨hst, rfl⟩ := Hist.stepAction_stabilise_ok.1 hx
  rw [← runActions_eq] at h2
  have R := stabilise_q Q1 hst
  obtain ⟨hr, hos⟩ := stabilised_settled R
  refine ⟨s1, tk1, s2, h1, Q1, hst, R, hr, hos, R.inv.nec_iff_cone, ?_, h2⟩
  intro hall
  rw [hall] at R
  exact (stabilised_reads R).1

end IncrVerif.Proofs.CutH
