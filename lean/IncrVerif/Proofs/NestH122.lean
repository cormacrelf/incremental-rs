import IncrVerif.Proofs.Footprint
/-!
# Nested binds (F2), part 7k: no function of the engine changes the KIND of an existing node or the closure (`body`) / left-hand side (`lhs`) of an existing bind record

`BKey s s'` is kept by EVERY function reachable from `stabilise` (and from the other API actions), whatever the outcome, because every primitive write of the engine
(`Footprint.Edit`) keeps it.
-/
open IncrVerif.Engine IncrVerif.Proofs IncrVerif.Proofs.Step IncrVerif.Proofs.Footprint
namespace IncrVerif.Proofs.NestH.N7k

/-- existing nodes keep their kind, existing bind records their closure and left-hand side -/
structure BKey (s s' : State) : Prop where
  size : s.nodes.size ≤ s'.nodes.size
  kind : ∀ m, m < s.nodes.size → (s'.nodeD m).kind = (s.nodeD m).kind
  binds : ∀ (b : Nat) (br : BindRec), s.binds[b]? = some br →
    ∃ br', s'.binds[b]? = some br' ∧ br'.body = br.body ∧ br'.lhs = br.lhs

instance : PreOrd BKey where
  refl _ := ⟨Nat.le_refl _, fun _ _ => rfl, fun b br h => ⟨br, h, rfl, rfl⟩⟩
  trans h1 h2 := by
    refine ⟨Nat.le_trans h1.size h2.size, fun m hm => ?_, fun b br h => ?_⟩
    · rw [h2.kind m (Nat.lt_of_lt_of_le hm h1.size), h1.kind m hm]
    · obtain ⟨br1, k1, k2, k3⟩ := h1.binds b br h
      obtain ⟨br2, k4, k5, k6⟩ := h2.binds b br1 k1
      exact ⟨br2, k4, k5.trans k2, k6.trans k3⟩

theorem BKey.of_eq {s s' : State} (hn : s'.nodes = s.nodes) (hb : s'.binds = s.binds) : BKey s s' :=
  ⟨by rw [hn]; exact Nat.le_refl _, fun m _ => by simp only [State.nodeD, hn], fun b br h => ⟨br, by rw [hb]; exact h, rfl, rfl⟩⟩

theorem BKey.of_edit {L w} {s s' : State} (e : Edit L w s s') : BKey s s' :=
  ⟨e.size_le, fun _ hm => e.kind hm, fun _ _ h => e.bind_keeps h⟩

theorem PresBK.setHeight (n h) : Step.Pres BKey (setHeight n h) :=
  (Foot.setHeight n h).frame BKey.of_edit
theorem PresBK.ensureHeightRequirement (a b c d) : Step.Pres BKey (ensureHeightRequirement a b c d) :=
  (Foot.ensureHeightRequirement a b c d).frame BKey.of_edit
theorem PresBK.adjustHeights (oc op fuel) : Step.Pres BKey (adjustHeights oc op fuel) :=
  (Foot.adjustHeights oc op fuel).frame BKey.of_edit
theorem PresBK.addParent (a b c) : Step.Pres BKey (addParent a b c) :=
  (Foot.addParent a b c).frame BKey.of_edit
theorem PresBK.removeParent (a b c) : Step.Pres BKey (removeParent a b c) :=
  (Foot.removeParent a b c).frame BKey.of_edit
theorem PresBK.handleAfterStabilisation (n) : Step.Pres BKey (handleAfterStabilisation n) :=
  (Foot.handleAfterStabilisation n).frame BKey.of_edit
theorem PresBK.shouldCutoff (env n o v) : Step.Pres BKey (shouldCutoff env n o v) :=
  (Foot.shouldCutoff env n o v).frame BKey.of_edit
theorem PresBK.markMapRefUnknown (fuel n) : Step.Pres BKey (markMapRefUnknown fuel n) :=
  (Foot.markMapRefUnknown fuel n).frame BKey.of_edit
theorem PresBK.necessary (env : Env) (fuel : Nat) :
    (∀ n, Step.Pres BKey (becameNecessary env fuel n)) ∧
    (∀ c i p, Step.Pres BKey (addParentWithoutAdjustingHeights env fuel c i p)) :=
  ⟨fun n => (Foot.becameNecessary env fuel n).frame BKey.of_edit,
   fun c i p => (Foot.addParentWithoutAdjustingHeights env fuel c i p).frame BKey.of_edit⟩
theorem PresBK.becameNecessary (env fuel n) : Step.Pres BKey (becameNecessary env fuel n) :=
  (Foot.becameNecessary env fuel n).frame BKey.of_edit
theorem PresBK.addParentWithoutAdjustingHeights (env fuel c i p) :
    Step.Pres BKey (addParentWithoutAdjustingHeights env fuel c i p) :=
  (Foot.addParentWithoutAdjustingHeights env fuel c i p).frame BKey.of_edit
theorem PresBK.unnecessary (fuel : Nat) :
    (∀ n, Step.Pres BKey (becameUnnecessary fuel n)) ∧ (∀ n, Step.Pres BKey (checkIfUnnecessary fuel n)) ∧
    (∀ n, Step.Pres BKey (removeChildren fuel n)) :=
  ⟨fun n => (Foot.becameUnnecessary fuel n).frame BKey.of_edit, fun n => (Foot.checkIfUnnecessary fuel n).frame BKey.of_edit,
   fun n => (Foot.removeChildren fuel n).frame BKey.of_edit⟩
theorem PresBK.becameUnnecessary (fuel n) : Step.Pres BKey (becameUnnecessary fuel n) :=
  (Foot.becameUnnecessary fuel n).frame BKey.of_edit
theorem PresBK.checkIfUnnecessary (fuel n) : Step.Pres BKey (checkIfUnnecessary fuel n) :=
  (Foot.checkIfUnnecessary fuel n).frame BKey.of_edit
theorem PresBK.removeChildren (fuel n) : Step.Pres BKey (removeChildren fuel n) :=
  (Foot.removeChildren fuel n).frame BKey.of_edit
theorem PresBK.invalidateNode (fuel n) : Step.Pres BKey (invalidateNode fuel n) :=
  (Foot.invalidateNode fuel n).frame BKey.of_edit
theorem PresBK.propagateInvalidity (fuel) : Step.Pres BKey (propagateInvalidity fuel) :=
  (Foot.propagateInvalidity fuel).frame BKey.of_edit
theorem PresBK.changeChildBindRhs (env fuel m o nw i) :
    Step.Pres BKey (changeChildBindRhs env fuel m o nw i) :=
  (Foot.changeChildBindRhs env fuel m o nw i).frame BKey.of_edit
theorem PresBK.assertRunningIsChild (n name) : Step.Pres BKey (assertRunningIsChild n name) :=
  (Foot.assertRunningIsChild n name).frame BKey.of_edit
theorem PresBK.expertAddDependency (env fuel n c cb) :
    Step.Pres BKey (expertAddDependency env fuel n c cb) :=
  (Foot.expertAddDependency env fuel n c cb).frame BKey.of_edit
theorem PresBK.elabInstr (loc v i) : Step.Pres BKey (elabInstr loc v i) :=
  (Foot.elabInstr loc v i).frame BKey.of_edit
theorem PresBK.didSetVarWhileNotStabilising (v) : Step.Pres BKey (didSetVarWhileNotStabilising v) :=
  (Foot.didSetVarWhileNotStabilising v).frame BKey.of_edit
theorem PresBK.writeVar (v f b) : Step.Pres BKey (writeVar v f b) :=
  (Foot.writeVar v f b).frame BKey.of_edit
theorem PresBK.parentIterCanRecomputeNow (p c) : Step.Pres BKey (parentIterCanRecomputeNow p c) :=
  (Foot.parentIterCanRecomputeNow p c).frame BKey.of_edit
theorem PresBK.maybeChangeValue (env fuel n v) : Step.Pres BKey (maybeChangeValue env fuel n v) :=
  (Foot.maybeChangeValue env fuel n v).lift BKey.of_edit
theorem PresBK.recomputeOne (env fuel n) : Step.Pres BKey (recomputeOne env fuel n) :=
  (Foot.recomputeOne env fuel n).lift BKey.of_edit
theorem PresBK.recompute (env fuel n) : Step.Pres BKey (recompute env fuel n) :=
  (Foot.recompute env fuel n).frame BKey.of_edit
theorem PresBK.rchRemoveMin : Step.Pres BKey rchRemoveMin :=
  Foot.rchRemoveMin.frame BKey.of_edit
theorem PresBK.drainHeap (env fuel) : Step.Pres BKey (drainHeap env fuel) :=
  (Foot.drainHeap env fuel).frame BKey.of_edit
theorem PresBK.runAll (env fuel o n nu now) : Step.Pres BKey (runAll env fuel o n nu now) :=
  (Foot.runAll env fuel o n nu now).frame BKey.of_edit
theorem PresBK.stabiliseEnd (env fuel) : Step.Pres BKey (stabiliseEnd env fuel) :=
  (Foot.stabiliseEnd env fuel).frame BKey.of_edit
theorem PresBK.stabilise (env fuel) : Step.Pres BKey (stabilise env fuel) :=
  (Foot.stabilise env fuel).frame BKey.of_edit

end IncrVerif.Proofs.NestH.N7k
