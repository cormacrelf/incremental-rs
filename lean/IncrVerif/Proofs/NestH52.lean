import IncrVerif.Proofs.NestH43
import IncrVerif.Proofs.NestH12
import IncrVerif.Proofs.NestH11
import IncrVerif.Proofs.NestH15
import IncrVerif.Proofs.NestH51
/-!
# Nested binds (F2), part 4p2: the prefix of `stabilise`: `addNewObservers`, `unlinkDisallowedObservers` keep `SInv2`

The headline theorems of `Quiet13` for graphs with nested binds (fragment F2, ghost rank `rk`: the SAME rank before and after, no node is created).
In addition: the marks of the adjust-heights heap (`heightInAhh`) are untouched.
-/
namespace IncrVerif.Proofs.NestH
open IncrVerif.Engine IncrVerif.Driver IncrVerif.Proofs IncrVerif.Proofs.Step IncrVerif.Proofs.Sched IncrVerif.Proofs.Quiet
open IncrVerif.Proofs.Quiet.P12
open IncrVerif.Proofs.BindH

namespace N4p

theorem addNewObservers_full2 {env : Env} {rk : Nat → Nat} {fuel : Nat} {s s' : State}
    (I : SInv2 env rk s s.newObservers s.disallowedObservers)
    (h : (addNewObservers env fuel).run.run s = (.ok (), s')) :
    (SInv2 env rk s' [] s'.disallowedObservers ∧ s'.newObservers = [] ∧
      s'.disallowedObservers = s.disallowedObservers ∧ PFrame s s' ∧ ObsMap addedState s s' ∧
      (∀ m, s.isNecessary m = true → s'.isNecessary m = true)) ∧ BR.MFr s s' := by
  unfold addNewObservers at h
  rw [run_bind_get] at h
  obtain ⟨s0, hs0, h⟩ := bind_modify_inv h
  obtain ⟨u, s1, hloop, h⟩ := bind_ok_inv h
  obtain ⟨-, e⟩ := pure_ok_inv h
  rw [e]
  have I0 : SInv2 env rk s0 s.newObservers s.disallowedObservers := by
    rw [hs0]; exact sInv2_congr I rfl rfl rfl rfl rfl rfl rfl rfl
  have P0 : PFrame s s0 := by rw [hs0]; exact ⟨rfl, fun _ => rfl, rfl, id⟩
  have M0 : BR.MFr s s0 := by rw [hs0]; exact fun _ => rfl
  have hno0 : s0.newObservers = [] := by rw [hs0]
  have hdo0 : s0.disallowedObservers = s.disallowedObservers := by rw [hs0]
  have hob0 : s0.observers = s.observers := by rw [hs0]
  have hnec0 : ∀ m, s0.isNecessary m = s.isNecessary m := fun m => by rw [hs0]; rfl
  have hfin := forIn_ok_inv _ s.newObservers
    (fun j (_ : PUnit) t => SInv2 env rk t (s.newObservers.drop j) s.disallowedObservers ∧
      IterRel .created .inUse s0 t ∧ (∀ m, s0.isNecessary m = true → t.isNecessary m = true) ∧ BR.MFr s0 t)
    (by
      intro j o b t r t' hj ⟨It, Rt, Nt, Mt⟩ hbody
      rw [drop_of_getElem? hj] at It
      obtain ⟨ob, hob, hbody⟩ := bind_getObs_inv hbody
      cases hst : ob.state <;> rw [hst] at hbody <;> try dsimp only at hbody
      case inUse =>
        obtain ⟨_, _, h1, _⟩ := bind_ok_inv hbody
        rw [run_panic] at h1; cases h1
      case disallowed =>
        obtain ⟨_, _, h1, _⟩ := bind_ok_inv hbody
        rw [run_panic] at h1; cases h1
      case unlinked =>
        obtain ⟨hr, e⟩ := pure_ok_inv hbody
        rw [e]
        exact ⟨_, hr, ⟨It.struct, obsInv_skip_step It.obs hob (by rw [hst]; exact fun e => by cases e), It.obsTop,
          It.pinv, It.handlers, It.noForce⟩, Rt, Nt, Mt⟩
      case created =>
        obtain ⟨t1, ht1, hbody⟩ := bind_modObs_inv hbody
        rw [run_bind_get] at hbody
        try dsimp only at hbody
        obtain ⟨t2, ht2, hbody⟩ := bind_modify_inv hbody
        obtain ⟨t3, ht3, hbody⟩ := bind_modNode_inv hbody
        obtain ⟨_, t4, h4, hbody⟩ := bind_ok_inv hbody
        rw [run_bind_get] at hbody
        replace hbody := bind_dassert_inv hbody
        have hh : ob.handlers = [] := (It.obs.inRange o ob hob).2
        have e3 : t3 = obsAdded o ob.node ((0 : Nat) : Int) t := by rw [ht3, ht2, ht1, hh]; rfl
        rw [e3] at h4
        obtain ⟨hr, I', R', N', M'⟩ := add_created2 (was := t1.isNecessary ob.node) It hob hst
          (by rw [ht1]; rfl) h4 hbody
        exact ⟨_, hr, I', Rt.trans R', fun m hm => N' m (Nt m hm), C2p.MFr.trans Mt M'⟩)
    s.newObservers 0 PUnit.unit s0 u s1 (by simp) (Nat.zero_le _)
    ⟨by rw [List.drop_zero]; exact I0, IterRel.refl _ _ _, fun _ h => h, fun _ => rfl⟩ hloop
  obtain ⟨I1, R1, N1, M1⟩ := hfin
  rw [List.drop_length] at I1
  have hdo1 : s1.disallowedObservers = s.disallowedObservers := R1.disObs.trans hdo0
  refine ⟨⟨by rw [hdo1]; exact I1, R1.newObs.trans hno0, hdo1, P0.trans R1.frame,
    ⟨R1.size.trans (by rw [hob0]), fun o ob ho => ?_⟩, fun m hm => N1 m (by rw [hnec0]; exact hm)⟩,
    C2p.MFr.trans M0 M1⟩
  obtain ⟨ob', h1, h2, h3⟩ := R1.recs o ob (by rw [hob0]; exact ho)
  refine ⟨ob', h1, h2, ?_⟩
  rcases h3 with h3 | ⟨h3, h4⟩
  · rw [h3]
    cases hst : ob.state
    case created =>
      have := I1.obs.created o ob' h1 (by rw [h3, hst])
      cases this
    all_goals rfl
  · rw [h3, h4]; rfl

theorem unlinkDisallowedObservers_full2 {env : Env} {rk : Nat → Nat} {fuel : Nat} {s s' : State}
    (I : SInv2 env rk s [] s.disallowedObservers) (hn : s.newObservers = [])
    (h : (unlinkDisallowedObservers fuel).run.run s = (.ok (), s')) :
    (SInv2 env rk s' [] [] ∧ s'.newObservers = [] ∧ s'.disallowedObservers = [] ∧ PFrame s s' ∧
      ObsMap unlinkedState s s') ∧ BR.MFr s s' := by
  unfold unlinkDisallowedObservers at h
  rw [run_bind_get] at h
  obtain ⟨s0, hs0, h⟩ := bind_modify_inv h
  obtain ⟨u, s1, hloop, h⟩ := bind_ok_inv h
  obtain ⟨-, e⟩ := pure_ok_inv h
  rw [e]
  have I0 : SInv2 env rk s0 [] s.disallowedObservers := by
    rw [hs0]; exact sInv2_congr I rfl rfl rfl rfl rfl rfl rfl rfl
  have P0 : PFrame s s0 := by rw [hs0]; exact ⟨rfl, fun _ => rfl, rfl, id⟩
  have M0 : BR.MFr s s0 := by rw [hs0]; exact fun _ => rfl
  have hno0 : s0.newObservers = [] := by rw [hs0]; exact hn
  have hdo0 : s0.disallowedObservers = [] := by rw [hs0]
  have hob0 : s0.observers = s.observers := by rw [hs0]
  have hfin := forIn_ok_inv _ s.disallowedObservers
    (fun j (_ : PUnit) t => SInv2 env rk t [] (s.disallowedObservers.drop j) ∧
      IterRel .disallowed .unlinked s0 t ∧ BR.MFr s0 t)
    (by
      intro j o b t r t' hj ⟨It, Rt, Mt⟩ hbody
      rw [drop_of_getElem? hj] at It
      obtain ⟨ob, hob, hbody⟩ := bind_getObs_inv hbody
      replace hbody := bind_dassert_inv hbody
      obtain ⟨t1, ht1, hbody⟩ := bind_modObs_inv hbody
      obtain ⟨t2, ht2, hbody⟩ := bind_modNode_inv hbody
      obtain ⟨t3, ht3, hbody⟩ := bind_modify_inv hbody
      obtain ⟨_, t4, h4, hbody⟩ := bind_ok_inv hbody
      obtain ⟨hr, e⟩ := pure_ok_inv hbody
      rw [e]
      have hh : ob.handlers = [] := (It.obs.inRange o ob hob).2
      have e3 : t3 = obsRemoved o ob.node ((0 : Nat) : Int) t := by rw [ht3, ht2, ht1, hh]; rfl
      rw [e3] at h4
      obtain ⟨I', R', M'⟩ := unlink_iter2 It hob h4
      exact ⟨_, hr, I', Rt.trans R', C2p.MFr.trans Mt M'⟩)
    s.disallowedObservers 0 PUnit.unit s0 u s1 (by simp) (Nat.zero_le _)
    ⟨by rw [List.drop_zero]; exact I0, IterRel.refl _ _ _, fun _ => rfl⟩ hloop
  obtain ⟨I1, R1, M1⟩ := hfin
  rw [List.drop_length] at I1
  refine ⟨⟨I1, R1.newObs.trans hno0, R1.disObs.trans hdo0, P0.trans R1.frame,
    R1.size.trans (by rw [hob0]), fun o ob ho => ?_⟩, C2p.MFr.trans M0 M1⟩
  obtain ⟨ob', h1, h2, h3⟩ := R1.recs o ob (by rw [hob0]; exact ho)
  refine ⟨ob', h1, h2, ?_⟩
  rcases h3 with h3 | ⟨h3, h4⟩
  · rw [h3]
    cases hst : ob.state
    case disallowed =>
      have := (I1.obs.dis o ob' h1).1 (by rw [h3, hst])
      cases this
    all_goals rfl
  · rw [h3, h4]; rfl

end N4p

/-- **`addNewObservers` keeps the prefix invariant, graphs with nested binds (fragment F2), same ghost rank.** -/
theorem addNewObservers_s2 {env : Env} {rk : Nat → Nat} {fuel : Nat} {s s' : State}
    (I : SInv2 env rk s s.newObservers s.disallowedObservers)
    (h : (addNewObservers env fuel).run.run s = (.ok (), s')) :
    SInv2 env rk s' [] s'.disallowedObservers ∧ s'.newObservers = [] ∧
      s'.disallowedObservers = s.disallowedObservers ∧ PFrame s s' ∧ ObsMap addedState s s' ∧
      (∀ m, s.isNecessary m = true → s'.isNecessary m = true) :=
  (N4p.addNewObservers_full2 I h).1

/-- `addNewObservers` does not touch the marks of the adjust-heights heap -/
theorem addNewObservers_marks2 {env : Env} {rk : Nat → Nat} {fuel : Nat} {s s' : State}
    (I : SInv2 env rk s s.newObservers s.disallowedObservers)
    (h : (addNewObservers env fuel).run.run s = (.ok (), s')) :
    ∀ m, (s'.nodeD m).heightInAhh = (s.nodeD m).heightInAhh :=
  (N4p.addNewObservers_full2 I h).2

/-- **`unlinkDisallowedObservers` keeps the prefix invariant, graphs with nested binds (fragment F2), same ghost rank.** -/
theorem unlinkDisallowedObservers_s2 {env : Env} {rk : Nat → Nat} {fuel : Nat} {s s' : State}
    (I : SInv2 env rk s [] s.disallowedObservers) (hn : s.newObservers = [])
    (h : (unlinkDisallowedObservers fuel).run.run s = (.ok (), s')) :
    SInv2 env rk s' [] [] ∧ s'.newObservers = [] ∧ s'.disallowedObservers = [] ∧ PFrame s s' ∧
      ObsMap unlinkedState s s' :=
  (N4p.unlinkDisallowedObservers_full2 I hn h).1

/-- `unlinkDisallowedObservers` does not touch the marks of the adjust-heights heap -/
theorem unlinkDisallowedObservers_marks2 {env : Env} {rk : Nat → Nat} {fuel : Nat} {s s' : State}
    (I : SInv2 env rk s [] s.disallowedObservers) (hn : s.newObservers = [])
    (h : (unlinkDisallowedObservers fuel).run.run s = (.ok (), s')) :
    ∀ m, (s'.nodeD m).heightInAhh = (s.nodeD m).heightInAhh :=
  (N4p.unlinkDisallowedObservers_full2 I hn h).2

/-- the prefix invariant at the start of `stabilise` from the invariant between API actions (what `stabilise_F1` builds by hand in `BindH94`);
`F2Inv` supplies `pinv`, `noHandlers`, `noForce` -/
theorem SInv2.of_qinv2 {env : Env} {rk : Nat → Nat} {s : State} (Q : QInv2 env rk s) :
    SInv2 env rk s s.newObservers s.disallowedObservers :=
  ⟨Q.struct, Q.obs, Q.obsTop, Q.f2.pinv, Q.f2.noHandlers, Q.f2.noForce⟩

end IncrVerif.Proofs.NestH
