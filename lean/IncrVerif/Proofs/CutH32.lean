import IncrVerif.Proofs.CutH25
-- static programs with ARBITRARY cutoffs; `Proofs/Quiet20.lean` (default cutoffs) takes its lemmas from this file; overview in Props/C06History.lean
/-!
# Part 20: total correctness — definitions and tools

`Tot x s Q`: the run of `x` from `s` RETURNS (no panic, fuel suffices) in a state satisfying `Q`.
`TInv N s`: what the "no panic" argument needs besides `QInv`: heights are bounded by the creation index,
both heaps have `N + 1` buckets, at most `N` nodes, every var is linked, `top` names every node.
-/
namespace IncrVerif.Proofs.CutH
open IncrVerif.Engine IncrVerif.Driver IncrVerif.Proofs IncrVerif.Proofs.Step IncrVerif.Proofs.Sched

/-- the run returns, in a state (and with a value) satisfying `Q` -/
def Tot {α} (x : M α) (s : State) (Q : α → State → Prop) : Prop :=
  ∃ a s', x.run.run s = (.ok a, s') ∧ Q a s'

section tot
variable {α β : Type} {x : M α} {s : State} {Q : α → State → Prop}

theorem Tot.of_ok {a : α} {s1 : State} (h : x.run.run s = (.ok a, s1)) (hq : Q a s1) : Tot x s Q :=
  ⟨a, s1, h, hq⟩

theorem Tot.mono {Q' : α → State → Prop} (T : Tot x s Q) (h : ∀ a t, Q a t → Q' a t) : Tot x s Q' := by
  obtain ⟨a, s1, h1, h2⟩ := T; exact ⟨a, s1, h1, h a s1 h2⟩

theorem Tot.bind {f : α → M β} {Q' : β → State → Prop} (hx : Tot x s Q)
    (hf : ∀ a s1, x.run.run s = (.ok a, s1) → Q a s1 → Tot (f a) s1 Q') : Tot (x >>= f) s Q' := by
  obtain ⟨a, s1, h1, h2⟩ := hx
  obtain ⟨b, s2, h3, h4⟩ := hf a s1 h1 h2
  exact ⟨b, s2, by rw [run_bind_ok h1]; exact h3, h4⟩

theorem Tot.bind_ok {f : α → M β} {Q' : β → State → Prop} {a : α} {s1 : State}
    (h : x.run.run s = (.ok a, s1)) (T : Tot (f a) s1 Q') : Tot (x >>= f) s Q' := by
  obtain ⟨b, s2, h3, h4⟩ := T
  exact ⟨b, s2, by rw [run_bind_ok h]; exact h3, h4⟩

theorem Tot.pure {a : α} (h : Q a s) : Tot (pure a : M α) s Q := ⟨a, s, run_pure a s, h⟩

theorem Tot.bind_get {f : State → M β} {Q' : β → State → Prop} (T : Tot (f s) s Q') :
    Tot ((MonadState.get : M State) >>= f) s Q' := Tot.bind_ok (run_get s) T

theorem Tot.bind_modify {g : State → State} {f : Unit → M β} {Q' : β → State → Prop}
    (T : Tot (f ()) (g s) Q') : Tot (modify g >>= f) s Q' := Tot.bind_ok (run_modify g s) T

theorem Tot.bind_modNode {n : Nat} {g : Node → Node} {f : Unit → M β} {Q' : β → State → Prop}
    (T : Tot (f ()) { s with nodes := s.nodes.modify n g } Q') : Tot (modNode n g >>= f) s Q' :=
  Tot.bind_ok (run_modNode n g s) T

theorem Tot.bind_dassert {c : Bool} {site : String} {f : Unit → M β} {Q' : β → State → Prop}
    (hc : s.cfg.debug = true → c = true) (T : Tot (f ()) s Q') : Tot (Engine.dassert c site >>= f) s Q' :=
  Tot.bind_ok (run_dassert_true s hc) T

theorem Tot.bind_getNode {n : Nat} {f : Node → M β} {Q' : β → State → Prop} (hn : n < s.nodes.size)
    (T : Tot (f (s.nodeD n)) s Q') : Tot (Engine.getNode n >>= f) s Q' :=
  Tot.bind_ok (run_getNode_some (some_of_lt hn)) T

/-- the run of a `Tot` is that run -/
theorem Tot.elim (T : Tot x s Q) {r : Except Panic α} {s' : State} (h : x.run.run s = (r, s')) :
    ∃ a, r = .ok a ∧ Q a s' := by
  obtain ⟨a, s1, h1, h2⟩ := T
  rw [h1] at h; cases h; exact ⟨a, rfl, h2⟩

end tot

/-! ## the extra invariant -/

structure TInv (N : Nat) (s : State) : Prop where
  hb : HBo s allClosed
  room : Room N s
  linked : ∀ (c : Nat) (vc : VarCell), s.vars[c]? = some vc → vc.linked = true
  topSize : s.top.size = s.nodes.size
  /-- the observers waiting to be added: no duplicates, each still `created` or already `unlinked` -/
  newNodup : s.newObservers.Nodup
  newState : ∀ (o : Nat) (ob : ObsRec), o ∈ s.newObservers → s.observers[o]? = some ob →
    ob.state = .created ∨ ob.state = .unlinked
  /-- the input of a `dependOn` cutoff exists (otherwise `should_cutoff` panics) -/
  dep : ∀ m i, (s.nodeD m).cutoff = .dependOn i → i < s.nodes.size

/-- the cutoffs the history language can install with `cutoff n c`: everything but `dependOn` -/
def PlainCut : CutoffK → Prop
  | .dependOn _ => False
  | _ => True

theorem Room.of_pframe {N : Nat} {s s' : State} (R : Room N s) (h : PFrame s s') : Room N s' := by
  have hk := h.key
  simp only [stateKeyP, Prod.mk.injEq] at hk
  have h1 : s'.rch.queues.size = s.rch.queues.size := hk.2.2.2.2.2.2.2.2.2.2.1
  have h2 : s'.ahh = s.ahh := hk.2.2.2.2.2.2.2.2.2.2.2.1
  exact ⟨by rw [h2]; exact R.ahh, by rw [← R.rch]; simp only [Heap.maxAllowed, h1], by rw [h.size]; exact R.size⟩

/-! ## actions whose indices exist -/

def OpndIn (s : State) : Opnd → Prop
  | .outer k => k < s.top.size
  | _ => False

def InstrIn (s : State) : Instr → Prop
  | .map _ args => ∀ a, a ∈ args → OpndIn s a
  | .fold _ _ cs => ∀ a, a ∈ cs → OpndIn s a
  | .zip a b => OpndIn s a ∧ OpndIn s b
  | .dependOn a b => OpndIn s a ∧ OpndIn s b
  | .cutoff n c => OpndIn s n ∧ PlainCut c
  | _ => True

/-- the action names existing things, there is room for a new node, and the fuel of `stabilise` suffices -/
def ActionOK (N : Nat) (s : State) : Action → Prop
  | .create (.cutoff n c) => InstrIn s (.cutoff n c)
  | .create i => InstrIn s i ∧ s.nodes.size + 1 ≤ N
  | .observe n => OpndIn s n
  | .dropObs o | .disallow o => o < s.observers.size
  | .set v _ | .modify v _ | .update v _ | .replace v _ | .replaceWith v _ | .get v => v < s.vars.size
  | .stabilise => 3 * s.nodes.size + 4 ≤ fuelDefault
  | _ => True

/-- how many nodes / var cells / observers an action adds -/
def grow : Action → Nat × Nat × Nat
  | .create (.var _) => (1, 1, 0)
  | .create (.cutoff _ _) => (0, 0, 0)
  | .create _ => (1, 0, 0)
  | .observe _ => (0, 0, 1)
  | _ => (0, 0, 0)

/-- the sizes after an action -/
def Grown (a : Action) (s s' : State) : Prop :=
  s'.nodes.size = s.nodes.size + (grow a).1 ∧ s'.vars.size = s.vars.size + (grow a).2.1 ∧
    s'.observers.size = s.observers.size + (grow a).2.2

end IncrVerif.Proofs.CutH
