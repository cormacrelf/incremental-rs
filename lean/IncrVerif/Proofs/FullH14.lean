import IncrVerif.Proofs.FullH5
import IncrVerif.Proofs.FullH12
/-!
# C01 full fragment, part 5: the invariant between API actions
-/
namespace IncrVerif.Proofs.FullH
open IncrVerif.Engine IncrVerif.Driver IncrVerif.Proofs IncrVerif.Proofs.Step IncrVerif.Proofs.Sched IncrVerif.Proofs.Quiet
open IncrVerif.Proofs.NestH (QG2 QI2 QInv2 GenOK2)

/-- every closure body of the environment is of the fragment, for every lhs value: its instructions are simulated (`InstrS`, `FullH12`: `const`, `lhsConst`,
pure `map` with a user or built-in function id, `fold`, `mapRef` with a projection id `< 100000`, `mapWithOld` with a `Good` machine, `bind`, …) and their
operands name top-level handles or earlier locals -/
def EnvS (env : Env) (sp : Nat → Val → Val) : Prop :=
  ∀ (b : Nat) (v : Val), (∀ i, i ∈ (env.body b v).instrs → InstrS env sp i ∧ ∀ o, o ∈ InstrOpnds i → OpndS o) ∧
    OpndS (env.body b v).ret

/-- **the invariant between API actions** of the full fragment, with the ghost `g` -/
structure QInvF (env : Env) (sp : Nat → Val → Val) (s : State) (g : Nat → Option Val) : Prop where
  frag : FFrag env sp g s
  q : QG2 (VE env sp) (virt g s)
  k : KInv env g s
  m : MInv env s
  gs : GSome g s
  dep : DepInv g s

def QInvFE (env : Env) (sp : Nat → Val → Val) (s : State) : Prop := ∃ g, QInvF env sp s g

end IncrVerif.Proofs.FullH
