import IncrVerif.Proofs.CutH15
import IncrVerif.Engine.Run
import IncrVerif.Proofs.History
-- static programs with ARBITRARY cutoffs; `Proofs/Quiet11.lean` (default cutoffs) takes its lemmas from this file; overview in Props/C06History.lean
/-!
# Part 10: the observer actions of the API keep `QInv`
-/
namespace IncrVerif.Proofs.CutH
open IncrVerif.Engine IncrVerif.Driver IncrVerif.Proofs IncrVerif.Proofs.Step IncrVerif.Proofs.Sched
variable {e : Bool}

/-! ## everything `QInv` reads, except the observer bookkeeping -/

structure OFrame (s s' : State) : Prop where
  nodes : s'.nodes = s.nodes
  vars : s'.vars = s.vars
  rch : s'.rch = s.rch
  stabNum : s'.stabNum = s.stabNum
  status : s'.status = s.status
  alive : s'.alive = s.alive
  setDuringStab : s'.setDuringStab = s.setDuringStab
  deadVars : s'.deadVars = s.deadVars
  handleAfterStab : s'.handleAfterStab = s.handleAfterStab
  pinv : s'.propagateInvalidity = s.propagateInvalidity
  top : s'.top = s.top
  pc : s'.panicCountdown = s.panicCountdown
  scope : s'.currentScope = s.currentScope

theorem OFrame.refl (s : State) : OFrame s s := ⟨rfl, rfl, rfl, rfl, rfl, rfl, rfl, rfl, rfl, rfl, rfl, rfl, rfl⟩

theorem OFrame.trans {a b c : State} (h1 : OFrame a b) (h2 : OFrame b c) : OFrame a c :=
  ⟨h2.nodes.trans h1.nodes, h2.vars.trans h1.vars, h2.rch.trans h1.rch, h2.stabNum.trans h1.stabNum,
    h2.status.trans h1.status, h2.alive.trans h1.alive, h2.setDuringStab.trans h1.setDuringStab,
    h2.deadVars.trans h1.deadVars, h2.handleAfterStab.trans h1.handleAfterStab, h2.pinv.trans h1.pinv,
    h2.top.trans h1.top, h2.pc.trans h1.pc, h2.scope.trans h1.scope⟩

theorem OFrame.nodeD {s s' : State} (F : OFrame s s') (m : Nat) : s'.nodeD m = s.nodeD m := by
  simp [State.nodeD, F.nodes]

/-- an action that only touches the observer bookkeeping (and counters) keeps `QInv` as soon as it keeps `ObsOK` -/
theorem QInv.of_obs {env : Env} {s s' : State} (Q : QInv env e s) (F : OFrame s s') (O : ObsOK s') :
    QInv env e s' where
  struct := GInv.congr Q.struct (SameG.of_nodes F.nodes F.pc F.scope F.rch F.vars)
  vars := by
    refine ⟨fun n c hn hk => ?_, fun c vc h => ?_⟩
    · rw [F.nodes] at hn; rw [F.nodeD] at hk; rw [F.vars]; exact Q.vars.node n c hn hk
    · rw [F.vars] at h; rw [F.nodes, F.nodeD]; exact Q.vars.cell c vc h
  obs := O
  now := by rw [F.stabNum]; exact Q.now
  stamps m := by rw [F.nodeD, F.stabNum]; exact Q.stamps m
  varStamp c vc h := by rw [F.vars] at h; rw [F.stabNum]; exact Q.varStamp c vc h
  cons m hm hs := by
    have S := SameG.of_nodes F.nodes F.pc F.scope F.rch F.vars
    rw [F.nodes] at hm
    rw [S.staleOf] at hs
    obtain ⟨v, hv, hT⟩ := Q.cons m hm hs
    refine ⟨v, ?_, fun he => Target.congr (by rw [F.nodeD]) F.vars (fun c _ => by rw [F.nodeD]) (hT he)⟩
    rw [F.nodeD]; exact hv
  exact he m := by rw [F.nodeD]; exact Q.exact he m
  status := by rw [F.status]; exact Q.status
  alive := by rw [F.alive]; exact Q.alive
  setDuringStab := by rw [F.setDuringStab]; exact Q.setDuringStab
  deadVars := by rw [F.deadVars]; exact Q.deadVars
  handleAfterStab := by rw [F.handleAfterStab]; exact Q.handleAfterStab
  handlers m := by rw [F.nodeD]; exact Q.handlers m
  pinv := by rw [F.pinv]; exact Q.pinv
  top k n h := by rw [F.top] at h; rw [F.nodes]; exact Q.top k n h

/-! ## the observer bookkeeping under a push / a modify -/

theorem ObsCore.push {s s' : State} {pn pd : List Nat} {n : Nat} (I : ObsCore s pn pd)
    (hn : s'.nodes = s.nodes) (hlt : n < s.nodes.size)
    (ho : s'.observers = s.observers.push { node := n }) :
    ObsCore s' (pn ++ [s.observers.size]) pd := by
  have hD : ∀ m, s'.nodeD m = s.nodeD m := fun m => by simp [State.nodeD, hn]
  have hget : ∀ o, s'.observers[o]? =
      if o = s.observers.size then some ({ node := n } : ObsRec) else s.observers[o]? := by
    intro o; rw [ho, Array.getElem?_push]
  have hsz : s.observers[s.observers.size]? = none := by simp
  refine ⟨?_, ?_, ?_, ?_, ?_, ?_, I.disNodup⟩
  · intro o ob h
    rw [hget] at h; rw [hn]
    split at h
    · cases h; exact hlt
    · exact I.inRange o ob h
  · intro m o
    rw [hD, I.mem, hget]
    split
    · rename_i e
      rw [e, hsz]
      constructor
      · rintro ⟨ob, h, -⟩; cases h
      · rintro ⟨ob, h, -, h3⟩
        cases h
        rcases h3 with h3 | h3 <;> cases h3
    · exact Iff.rfl
  · intro o ob h hc
    rw [hget] at h
    split at h
    · rename_i e; rw [e]; simp
    · exact List.mem_append_left _ (I.created o ob h hc)
  · intro o hm
    rw [hget]
    split
    · exact ⟨_, rfl⟩
    · rename_i ne
      rcases List.mem_append.1 hm with h | h
      · exact I.newIn o h
      · simp at h; exact absurd h ne
  · intro o ob h
    rw [hget] at h
    split at h
    · rename_i e
      cases h
      constructor
      · intro h; cases h
      · intro hm
        obtain ⟨ob, h⟩ := I.disIn o hm
        rw [e, hsz] at h; cases h
    · exact I.dis o ob h
  · intro o hm
    obtain ⟨ob, h⟩ := I.disIn o hm
    rw [hget]
    split
    · exact ⟨_, rfl⟩
    · exact ⟨ob, h⟩

/-- the new record has no handlers -/
theorem ObsInv.push {s s' : State} {pn pd : List Nat} {n : Nat} (I : ObsInv s pn pd)
    (hn : s'.nodes = s.nodes) (hlt : n < s.nodes.size)
    (ho : s'.observers = s.observers.push { node := n }) :
    ObsInv s' (pn ++ [s.observers.size]) pd :=
  (I.core.push hn hlt ho).obsInv fun o ob h => by
    rw [ho, Array.getElem?_push] at h
    split at h
    · cases h; rfl
    · exact (I.inRange o ob h).2

/-- modifying one observer record -/
theorem ObsCore.modify {s s' : State} {pn pd pd' : List Nat} {o : Nat} {f : ObsRec → ObsRec}
    (I : ObsCore s pn pd) (hn : s'.nodes = s.nodes) (ho : s'.observers = s.observers.modify o f)
    (h1 : ∀ ob, s.observers[o]? = some ob → (f ob).node = ob.node)
    (h3 : ∀ ob, s.observers[o]? = some ob →
      (((f ob).state = .inUse ∨ (f ob).state = .disallowed) ↔ (ob.state = .inUse ∨ ob.state = .disallowed)))
    (h4 : ∀ ob, s.observers[o]? = some ob → (f ob).state = .created → ob.state = .created)
    (h5 : ∀ ob, s.observers[o]? = some ob → ((f ob).state = .disallowed ↔ o ∈ pd'))
    (h6 : ∀ o', (s.observers[o]? = none ∨ o' ≠ o) → (o' ∈ pd' ↔ o' ∈ pd))
    (h7 : pd'.Nodup) : ObsCore s' pn pd' := by
  have hD : ∀ m, s'.nodeD m = s.nodeD m := fun m => by simp [State.nodeD, hn]
  have hget : ∀ o', s'.observers[o']? = if o = o' then Option.map f s.observers[o']? else s.observers[o']? := by
    intro o'; rw [ho, Array.getElem?_modify]
  refine ⟨?_, ?_, ?_, ?_, ?_, ?_, h7⟩
  · intro o' ob h
    rw [hget] at h; rw [hn]
    split at h
    · rename_i e
      cases hob : s.observers[o']? with
      | none => rw [hob] at h; cases h
      | some x =>
        rw [hob] at h; cases h
        rw [← e] at hob
        rw [h1 x hob]
        exact I.inRange o x hob
    · exact I.inRange o' ob h
  · intro m o'
    rw [hD, I.mem, hget]
    split
    · rename_i e
      rw [← e]
      constructor
      · rintro ⟨ob, h, hm, hs⟩
        exact ⟨f ob, by rw [h]; rfl, by rw [h1 ob h]; exact hm, (h3 ob h).2 hs⟩
      · rintro ⟨ob', h, hm, hs⟩
        cases hob : s.observers[o]? with
        | none => rw [hob] at h; cases h
        | some x =>
          rw [hob] at h; cases h
          exact ⟨x, rfl, by rw [← h1 x hob]; exact hm, (h3 x hob).1 hs⟩
    · exact Iff.rfl
  · intro o' ob h hc
    rw [hget] at h
    split at h
    · rename_i e
      cases hob : s.observers[o']? with
      | none => rw [hob] at h; cases h
      | some x =>
        rw [hob] at h; cases h
        have hob' := hob
        rw [← e] at hob'
        exact I.created o' x hob (h4 x hob' hc)
    · exact I.created o' ob h hc
  · intro o' hm
    obtain ⟨ob, h⟩ := I.newIn o' hm
    rw [hget, h]
    split
    · exact ⟨_, rfl⟩
    · exact ⟨_, rfl⟩
  · intro o' ob h
    rw [hget] at h
    split at h
    · rename_i e
      cases hob : s.observers[o']? with
      | none => rw [hob] at h; cases h
      | some x =>
        rw [hob] at h; cases h
        rw [← e] at hob ⊢
        exact h5 x hob
    · rename_i ne
      rw [h6 o' (Or.inr (fun e => ne e.symm))]
      exact I.dis o' ob h
  · intro o' hm
    rw [hget]
    by_cases e : o = o'
    · rw [if_pos e]
      cases hob : s.observers[o']? with
      | none =>
        have hob' := hob
        rw [← e] at hob'
        obtain ⟨ob, h⟩ := I.disIn o' ((h6 o' (Or.inl hob')).1 hm)
        rw [hob] at h; cases h
      | some x => exact ⟨_, rfl⟩
    · rw [if_neg e]
      exact I.disIn o' ((h6 o' (Or.inr (fun e' => e e'.symm))).1 hm)

/-- a modification under which a record without handlers stays so -/
theorem modify_handlers {a : Array ObsRec} {o o' : Nat} {f : ObsRec → ObsRec}
    (hf : ∀ ob, a[o]? = some ob → ob.handlers = [] → (f ob).handlers = []) {ob' : ObsRec} (h : (a.modify o f)[o']? = some ob') :
    ∃ ob, a[o']? = some ob ∧ (ob.handlers = [] → ob'.handlers = []) := by
  rw [Array.getElem?_modify] at h
  split at h
  · rename_i e
    cases hob : a[o']? with
    | none => rw [hob] at h; cases h
    | some x => rw [hob] at h; cases h; exact ⟨x, rfl, hf x (e ▸ hob)⟩
  · exact ⟨ob', h, id⟩

theorem ObsInv.modify {s s' : State} {pn pd pd' : List Nat} {o : Nat} {f : ObsRec → ObsRec}
    (I : ObsInv s pn pd) (hn : s'.nodes = s.nodes) (ho : s'.observers = s.observers.modify o f)
    (h1 : ∀ ob, s.observers[o]? = some ob → (f ob).node = ob.node ∧ (f ob).handlers = [])
    (h3 : ∀ ob, s.observers[o]? = some ob →
      (((f ob).state = .inUse ∨ (f ob).state = .disallowed) ↔ (ob.state = .inUse ∨ ob.state = .disallowed)))
    (h4 : ∀ ob, s.observers[o]? = some ob → (f ob).state = .created → ob.state = .created)
    (h5 : ∀ ob, s.observers[o]? = some ob → ((f ob).state = .disallowed ↔ o ∈ pd'))
    (h6 : ∀ o', (s.observers[o]? = none ∨ o' ≠ o) → (o' ∈ pd' ↔ o' ∈ pd))
    (h7 : pd'.Nodup) : ObsInv s' pn pd' :=
  (I.core.modify hn ho (fun ob h => (h1 ob h).1) h3 h4 h5 h6 h7).obsInv fun o' ob' h' => by
    rw [ho] at h'
    obtain ⟨ob, h0, e⟩ := modify_handlers (fun x hx _ => (h1 x hx).2) h'
    exact e (I.inRange o' ob h0).2

/-- a modification that keeps node and state of the record -/
theorem ObsCore.modify_same {s s' : State} {pn pd : List Nat} {o : Nat} {f : ObsRec → ObsRec}
    (I : ObsCore s pn pd) (hn : s'.nodes = s.nodes) (ho : s'.observers = s.observers.modify o f)
    (hf : ∀ ob, (f ob).node = ob.node ∧ (f ob).state = ob.state) : ObsCore s' pn pd :=
  I.modify hn ho (fun ob _ => (hf ob).1) (fun ob _ => by rw [(hf ob).2])
    (fun ob _ h => by rw [(hf ob).2] at h; exact h) (fun ob h => by rw [(hf ob).2]; exact I.dis o ob h) (fun _ _ => Iff.rfl) I.disNodup

/-- a modification that keeps node, state and handlers of the record -/
theorem ObsInv.modify_same {s s' : State} {pn pd : List Nat} {o : Nat} {f : ObsRec → ObsRec}
    (I : ObsInv s pn pd) (hn : s'.nodes = s.nodes) (ho : s'.observers = s.observers.modify o f)
    (hf : ∀ ob, (f ob).node = ob.node ∧ (f ob).state = ob.state ∧ (f ob).handlers = ob.handlers) :
    ObsInv s' pn pd := by
  refine I.modify hn ho (fun ob h => ⟨(hf ob).1, ?_⟩) (fun ob _ => by rw [(hf ob).2.1])
    (fun ob _ h => by rw [(hf ob).2.1] at h; exact h) (fun ob h => ?_) (fun _ _ => Iff.rfl) I.disNodup
  · rw [(hf ob).2.2]; exact (I.inRange o ob h).2
  · rw [(hf ob).2.1]; exact I.dis o ob h

/-! ## the actions -/

theorem modObs_same_q {env : Env} {s : State} {o : Nat} {f : ObsRec → ObsRec} (Q : QInv env e s)
    (hf : ∀ ob, (f ob).node = ob.node ∧ (f ob).state = ob.state ∧ (f ob).handlers = ob.handlers) :
    QInv env e { s with observers := s.observers.modify o f } :=
  Q.of_obs ⟨rfl, rfl, rfl, rfl, rfl, rfl, rfl, rfl, rfl, rfl, rfl, rfl, rfl⟩
    (ObsInv.modify_same (s' := { s with observers := s.observers.modify o f }) Q.obs rfl rfl hf)

theorem step_observe {env : Env} {s s' : State} {k : Nat} {tokens : Array Nat} {r : String × Array Nat}
    (Q : QInv env e s) (h : (stepAction env (.observe (.outer k)) tokens).run.run s = (.ok r, s')) :
    QInv env e s' := by
  obtain ⟨n, h0, rfl, -⟩ := Hist.stepAction_observe_ok.1 h
  have hlt : n < s.nodes.size := Q.top k n (Hist.resolveOuter_ok.1 h0).1
  refine Q.of_obs ⟨rfl, rfl, rfl, rfl, rfl, rfl, rfl, rfl, rfl, rfl, rfl, rfl, rfl⟩ ?_
  exact ObsInv.push Q.obs rfl hlt rfl

theorem step_cloneObs {env : Env} {s s' : State} {o : Nat} {tokens : Array Nat} {r : String × Array Nat}
    (Q : QInv env e s) (h : (stepAction env (.cloneObs o) tokens).run.run s = (.ok r, s')) :
    QInv env e s' := by
  rw [Hist.stepAction_cloneObs_run] at h
  cases h
  exact modObs_same_q Q (fun ob => ⟨rfl, rfl, rfl⟩)

/-- `disallowFutureUse` touches only the observer bookkeeping, and keeps it; a record without handlers stays so -/
theorem disallowFutureUse_obs {s s' : State} {o : Nat} {u : Unit} (O : ObsCore s s.newObservers s.disallowedObservers)
    (h : (disallowFutureUse o).run.run s = (.ok u, s')) :
    OFrame s s' ∧ ObsCore s' s'.newObservers s'.disallowedObservers ∧
      ∀ (o' : Nat) (ob' : ObsRec), s'.observers[o']? = some ob' →
        ∃ ob, s.observers[o']? = some ob ∧ (ob.handlers = [] → ob'.handlers = []) := by
  have same : OFrame s s ∧ ObsCore s s.newObservers s.disallowedObservers ∧
      ∀ (o' : Nat) (ob' : ObsRec), s.observers[o']? = some ob' →
        ∃ ob, s.observers[o']? = some ob ∧ (ob.handlers = [] → ob'.handlers = []) :=
    ⟨.refl s, O, fun _ ob' h' => ⟨ob', h', id⟩⟩
  unfold disallowFutureUse at h
  obtain ⟨ob, hob, h⟩ := bind_getObs_inv h
  cases hst : ob.state with
  | disallowed =>
    rw [hst] at h
    obtain ⟨-, e⟩ := pure_ok_inv h
    rw [e]; exact same
  | unlinked =>
    rw [hst] at h
    obtain ⟨-, e⟩ := pure_ok_inv h
    rw [e]; exact same
  | created =>
    rw [hst] at h
    dsimp only at h
    obtain ⟨s1, e1, h⟩ := bind_bumpCounter_inv h
    have e := modObs_ok_inv h
    rw [e, e1]
    refine ⟨⟨rfl, rfl, rfl, rfl, rfl, rfl, rfl, rfl, rfl, rfl, rfl, rfl, rfl⟩, ?_, fun _ _ h' =>
      modify_handlers (a := s.observers) (o := o) (f := fun x => { x with state := .unlinked, handlers := [] }) (fun _ _ _ => rfl) h'⟩
    refine ObsCore.modify (pd' := s.disallowedObservers) (o := o)
      (f := fun x => { x with state := .unlinked, handlers := [] }) O rfl rfl ?_ ?_ ?_ ?_ (fun _ _ => Iff.rfl)
      O.disNodup
    · intro ob' h'; rfl
    · intro ob' h'
      rw [hob] at h'; cases h'
      rw [hst]
      constructor
      · intro h; rcases h with h | h <;> cases h
      · intro h; rcases h with h | h <;> cases h
    · intro ob' h' hc; cases hc
    · intro ob' h'
      rw [hob] at h'; cases h'
      rw [← O.dis o ob hob, hst]
      constructor
      · intro h; cases h
      · intro h; cases h
  | inUse =>
    rw [hst] at h
    dsimp only at h
    obtain ⟨s1, e1, h⟩ := bind_bumpCounter_inv h
    obtain ⟨s2, e2, h⟩ := bind_modObs_inv h
    rw [run_modify] at h
    have e : s' = { s2 with disallowedObservers := s2.disallowedObservers ++ [o] } := by cases h; rfl
    have hnot : o ∉ s.disallowedObservers := by
      intro hm
      have := (O.dis o ob hob).2 hm
      rw [hst] at this; cases this
    rw [e, e2, e1]
    refine ⟨⟨rfl, rfl, rfl, rfl, rfl, rfl, rfl, rfl, rfl, rfl, rfl, rfl, rfl⟩, ?_, fun _ _ h' =>
      modify_handlers (a := s.observers) (o := o) (f := fun x => { x with state := .disallowed }) (fun _ _ => id) h'⟩
    refine ObsCore.modify (pd' := s.disallowedObservers ++ [o]) (o := o)
      (f := fun x => { x with state := .disallowed }) O rfl rfl ?_ ?_ ?_ ?_ ?_ ?_
    · intro ob' h'; rfl
    · intro ob' h'
      rw [hob] at h'; cases h'
      rw [hst]
      exact ⟨fun _ => Or.inl rfl, fun _ => Or.inr rfl⟩
    · intro ob' h' hc; cases hc
    · intro ob' h'
      exact ⟨fun _ => List.mem_append_right _ (List.mem_singleton.2 rfl), fun _ => rfl⟩
    · intro o' ho'
      rcases ho' with ho' | ho'
      · rw [hob] at ho'; cases ho'
      · simp only [List.mem_append, List.mem_singleton, ho', or_false]
    · rw [List.nodup_append]
      refine ⟨O.disNodup, List.nodup_cons.2 ⟨List.not_mem_nil, List.nodup_nil⟩, ?_⟩
      intro a ha b hb
      rw [List.mem_singleton] at hb
      rw [hb]; intro eab; rw [eab] at ha; exact hnot ha

theorem disallowFutureUse_q {env : Env} {s s' : State} {o : Nat} {u : Unit}
    (Q : QInv env e s) (h : (disallowFutureUse o).run.run s = (.ok u, s')) : QInv env e s' :=
  have ⟨F, O, hr⟩ := disallowFutureUse_obs Q.obs.core h
  Q.of_obs F (O.obsInv fun o' ob' h' => have ⟨ob, h0, e⟩ := hr o' ob' h'; e (Q.obs.inRange o' ob h0).2)

theorem step_dropObs {env : Env} {s s' : State} {o : Nat} {tokens : Array Nat} {r : String × Array Nat}
    (Q : QInv env e s) (h : (stepAction env (.dropObs o) tokens).run.run s = (.ok r, s')) :
    QInv env e s' := by
  obtain ⟨ob, -, h⟩ := Hist.stepAction_dropObs_ok.1 h
  split at h
  · rw [h.1]; exact Q
  · have Q1 := modObs_same_q (o := o) (f := fun x => { x with clones := x.clones - 1 }) Q (fun ob => ⟨rfl, rfl, rfl⟩)
    replace h := h.2
    split at h
    · exact disallowFutureUse_q Q1 h
    · rw [(pure_ok_inv h).2]; exact Q1

theorem step_disallow {env : Env} {s s' : State} {o : Nat} {tokens : Array Nat} {r : String × Array Nat}
    (Q : QInv env e s) (h : (stepAction env (.disallow o) tokens).run.run s = (.ok r, s')) :
    QInv env e s' :=
  disallowFutureUse_q Q (Hist.stepAction_disallow_ok.1 h).1

end IncrVerif.Proofs.CutH
