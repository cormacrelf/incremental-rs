import IncrVerif.Proofs.TidyH65
import IncrVerif.Proofs.TidyH2
/-!
# T1b, part 9: `stabilise` of the fragment static + `map_ref` RETURNS (as `Quiet.stabilise_total_q` for the static fragment)
-/
namespace IncrVerif.Proofs.TidyH.RT
open IncrVerif.Engine IncrVerif.Driver IncrVerif.Proofs IncrVerif.Proofs.Step IncrVerif.Proofs.Sched IncrVerif.Proofs.Quiet
open IncrVerif.Proofs.MapRefH

section
variable {env : Env} {g : Nat → Option Val} {s : State}

/-- the extra invariant of total correctness reads nothing that `virt` changes -/
theorem tinv_virt {N : Nat} (g : Nat → Option Val) (s : State) : TInv N (virt g s) ↔ TInv N s := by
  have hh : ∀ op, HBo (virt g s) op ↔ HBo s op := fun op => by
    constructor
    · intro h m hm ho
      have := h m (by rw [virt_isNecessary]; exact hm) ho
      rwa [virt_nodeD, virtNode_height] at this
    · intro h m hm ho
      rw [virt_isNecessary] at hm
      rw [virt_nodeD, virtNode_height]; exact h m hm ho
  constructor
  · intro T
    exact ⟨(hh _).1 T.hb, ⟨T.room.ahh, T.room.rch, by have := T.room.size; rwa [virt_size] at this⟩, T.linked,
      by have := T.topSize; rwa [virt_size] at this, T.newNodup, T.newState⟩
  · intro T
    exact ⟨(hh _).2 T.hb, ⟨T.room.ahh, T.room.rch, by rw [virt_size]; exact T.room.size⟩, T.linked,
      by rw [virt_size]; exact T.topSize, T.newNodup, T.newState⟩

/-- **`stabilise` returns** (fragment static + map_ref, enough fuel); the invariants are kept. -/
theorem stabiliseR_total {N fuel : Nat} (Q : QInvR env s g) (T : TInv N s) (hf : 3 * s.nodes.size + 4 ≤ fuel) :
    Tot (stabilise env fuel) s (fun _ s' => (∃ g', StabilisedR env fuel s s' g g') ∧ TInv N s') := by
  have Qv := Q.q
  have Tv : TInv N (virt g s) := (tinv_virt g s).2 T
  -- the state with the status set
  obtain ⟨s0, hs0⟩ : ∃ s0 : State, s0 = { s with status := .stabilising } := ⟨_, rfl⟩
  have hs0v : virt g s0 = { virt g s with status := .stabilising } := by rw [hs0]; rfl
  have hnd0 : ∀ m, s0.nodeD m = s.nodeD m := fun m => by rw [hs0]; rfl
  have hsz0 : s0.nodes.size = s.nodes.size := by rw [hs0]
  have V0 : VFrame s s0 := VFrame.of_nodes (by rw [hs0]) (by rw [hs0])
  have F0 : RFrag env s0 := RFrag.of_vframe V0 Q.frag
  have hp0 : s0.propagateInvalidity = [] := by rw [hs0]; exact Q.pinv
  have S0 : SInv (virtEnv env) (virt g s0) (virt g s0).newObservers (virt g s0).disallowedObservers := by
    rw [hs0v]
    exact ⟨Qv.struct.congr (SameG.of_nodes rfl rfl rfl rfl rfl),
      ⟨Qv.obs.inRange, Qv.obs.mem, Qv.obs.created, Qv.obs.newIn, Qv.obs.dis, Qv.obs.disIn, Qv.obs.disNodup⟩,
      Qv.pinv, Qv.handlers⟩
  have hb0 : HBo (virt g s0) allClosed := by
    rw [hs0v]
    intro m hm ho
    exact Tv.hb m hm ho
  have R0 : Room N (virt g s0) := by rw [hs0v]; exact ⟨Tv.room.ahh, Tv.room.rch, Tv.room.size⟩
  -- the carried invariant of the bisimulation
  have hpu : ∀ c p i, (p, i) ∈ (s0.nodeD c).parents → c ∈ kidsR (s0.nodeD p).kind := by
    intro c p i hm
    have := (S0.struct.par c p i (by rw [virt_nodeD, virtNode_parents]; exact hm)).1
    have := List.mem_of_getElem? this
    rwa [virt_kids] at this
  have P0 := P2.of_frag F0 hp0 hpu
  -- the first loop
  have hf1 : 2 * (virt g s0).nodes.size + 2 ≤ fuel := by rw [virt_size, hsz0]; omega
  have T1 := addNewObservers_total (fuel := fuel) (env := virtEnv env) S0 hb0 R0
    (by rw [hs0v]; exact Tv.newNodup) (by rw [hs0v]; exact Tv.newState) hf1
  obtain ⟨_, t1, h1, hb1, P1⟩ := (BSim.addNewObservers (g := g) env fuel (by rw [hsz0]; omega) s0).tot P0 T1
  have hv1 := ((BSim.addNewObservers (g := g) env fuel (by rw [hsz0]; omega) s0).fwd P0 h1).1
  obtain ⟨S1, hn1, hd1, PF1, O1, -⟩ := addNewObservers_s S0 hv1
  -- the second loop
  have hf2 : 3 * (virt g t1).nodes.size + 3 ≤ fuel := by rw [PF1.size, virt_size, hsz0]; omega
  have T2 := unlinkDisallowedObservers_total (env := virtEnv env) (fuel := fuel) S1 hn1 hb1 hf2
  obtain ⟨_, t2, h2, hb2, P2'⟩ := (BSim.unlinkDisallowedObservers (g := g) fuel t1).tot P1 T2
  have hv2 := ((BSim.unlinkDisallowedObservers (g := g) fuel t1).fwd P1 h2).1
  obtain ⟨S2, hn2, hd2, PF2, O2⟩ := unlinkDisallowedObservers_s S1 hn1 hv2
  have PF : PFrame (virt g s0) (virt g t2) := PF1.trans PF2
  have R2 : Room N (virt g t2) := R0.of_pframe PF
  have hsz2 : t2.nodes.size = s.nodes.size := by
    have := PF.size; rw [virt_size, virt_size] at this; rw [this, hsz0]
  -- the drain invariant
  obtain ⟨D2, hst2, hsd2, hdv2, hobs2⟩ := prefix_drainInvR Q (by rw [← hs0]; exact h1) h2
  have Sf : Safe (virt g t2) := by
    refine ⟨fun n hn => ?_, fun n hn => (GInv.node S2.struct (nec_lt_size hn)).top⟩
    have a1 := hb2 n hn rfl
    have a2 := nec_lt_size hn
    have a3 := R2.size
    rw [R2.rch]; omega
  have hun := unrun_le_size (virt g t2)
  rw [virt_size] at hun
  obtain ⟨t3, h3⟩ := drainHeapR_total fuel t2 g D2 Sf (by omega)
  obtain ⟨g3, D3, he3, f3⟩ := drainHeapR_inv fuel t2 t3 g D2 h3
  have c3 := f3.calm
  have k3 := f3.keyD
  simp only [KeyD, stateKeyD, Prod.mk.injEq] at k3
  obtain ⟨k_obs, -, -, k_top, -, -, -, -, -, -, k_ahh⟩ := k3
  -- the end
  have hhas0 : HasRange s0 := by
    intro n hn
    have : s0.handleAfterStab = [] := by rw [hs0]; exact Qv.handleAfterStab
    rw [this] at hn; cases hn
  have hhas2 : HasRange t2 := unlinkDisallowedObservers_hasRange h2 (addNewObservers_hasRange h1 hhas0)
  have hhas3 : HasRange t3 := by
    intro n hn
    have e : (virt g3 t3).handleAfterStab = (virt g t2).handleAfterStab := c3.has S2.handlers
    have e' : t3.handleAfterStab = t2.handleAfterStab := e
    rw [e'] at hn
    rw [dstep_size f3]; exact hhas2 n hn
  have hsd3 : t3.setDuringStab = [] := by
    have e : (virt g3 t3).setDuringStab = (virt g t2).setDuringStab := c3.setDuringStab
    exact e.trans hsd2
  have hdv3 : t3.deadVars = [] := by
    have e : (virt g3 t3).deadVars = (virt g t2).deadVars := c3.deadVars
    exact e.trans hdv2
  have hobs3 : ∀ (o : Nat) (ob : ObsRec), t3.observers[o]? = some ob → ob.handlers = [] := by
    intro o ob ho
    have e : t3.observers = t2.observers := k_obs
    rw [e] at ho; exact hobs2 o ob ho
  obtain ⟨_, s', h4, -⟩ := stabiliseEnd_total (env := env) (fuel := fuel) (s := t3) hsd3 hdv3 hobs3 hhas3
    (by
      intro n o ho
      have e1 : (t3.nodeD n).observers = (t2.nodeD n).observers := by
        have := (f3.frame.shape n).observers
        rwa [virt_nodeD, virt_nodeD, virtNode_observers, virtNode_observers] at this
      rw [e1] at ho
      obtain ⟨ob, hob, -⟩ := (S2.obs.mem n o).1 (by rw [virt_nodeD, virtNode_observers]; exact ho)
      have e : t3.observers = t2.observers := k_obs
      rw [e]
      exact (Array.getElem?_eq_some_iff.1 hob).1)
  have E := stabiliseEnd_fin (env := env) (fuel := fuel) (s := t3) (s' := s') hsd3 hdv3 hobs3 h4
  -- the run
  have hrun : (stabilise env fuel).run.run s = (.ok (), s') :=
    stabilise_phases.2 ⟨t1, t2, t3, Qv.status, by rw [← hs0]; exact h1, h2, h3, h4⟩
  refine Tot.of_ok hrun ⟨stabiliseR Q hrun, ?_⟩
  -- the extra invariant at the end
  have hnodeE : ∀ m, ∃ b, s'.nodeD m = { t3.nodeD m with inHandleAfterStab := b } := E.node
  have hheight : ∀ m, (s'.nodeD m).height = (t2.nodeD m).height := by
    intro m
    obtain ⟨b, hb⟩ := hnodeE m
    have := (f3.frame.shape m).height
    rw [virt_nodeD, virt_nodeD, virtNode_height, virtNode_height] at this
    rw [hb]; exact this
  have hnec' : ∀ m, s'.isNecessary m = t2.isNecessary m := by
    intro m
    obtain ⟨b, hb⟩ := hnodeE m
    have e1 : s'.isNecessary m = t3.isNecessary m := by simp only [State.isNecessary, hb]; rfl
    have := f3.frame.nec m
    rw [virt_isNecessary, virt_isNecessary] at this
    rw [e1, this]
  have hsize' : s'.nodes.size = s.nodes.size := by rw [E.size, dstep_size f3, hsz2]
  have hvars : s'.vars = s.vars := by
    have e1 : t3.vars = t2.vars := f3.frame.vars
    have e2 : t2.vars = s0.vars := PF.vars
    rw [E.vars, e1, e2, hs0]
  have htop : s'.top = s.top := by
    have e1 : t3.top = t2.top := k_top
    have e2 : t2.top = s0.top := PF.top
    rw [E.top, e1, e2, hs0]
  have hnew : s'.newObservers = [] := by
    have e1 : t3.newObservers = t2.newObservers := c3.newObservers
    rw [E.newObservers, e1]; exact hn2
  refine ⟨?_, ⟨?_, ?_, by rw [hsize']; exact T.room.size⟩, ?_, ?_, ?_, ?_⟩
  · intro m hm ho
    rw [hheight]
    have := hb2 m (by rw [virt_isNecessary, ← hnec']; exact hm) ho
    rwa [virt_nodeD, virtNode_height] at this
  · have e1 : t3.ahh = t2.ahh := k_ahh
    rw [E.ahh, e1]; exact R2.ahh
  · have e1 : t3.rch.queues.size = t2.rch.queues.size := f3.frame.qsize
    rw [E.rch, ← R2.rch]; exact maxAllowed_congr e1
  · intro c vc hc
    rw [hvars] at hc
    exact T.linked c vc hc
  · rw [htop, hsize']; exact T.topSize
  · rw [hnew]; exact List.nodup_nil
  · intro o ob ho
    rw [hnew] at ho; cases ho

end
end IncrVerif.Proofs.TidyH.RT
