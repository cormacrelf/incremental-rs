import IncrVerif.Proofs.BindH19
import IncrVerif.Proofs.ExpertH37
/-!
# Binds, `adjustHeights`, part 1: definitions (`AhhEmpty`, `HRel`, `AhhWF`), the adjust-heights heap as a bucket
structure against the marker `heightInAhh`, and the run-form inversions of the heap primitives
-/
namespace IncrVerif.Proofs.BindH
open IncrVerif.Engine IncrVerif.Proofs IncrVerif.Proofs.Step IncrVerif.Proofs.Sched IncrVerif.Proofs.Quiet

/-- the adjust-heights heap is empty and no node is marked as a member -/
structure AhhEmpty (s : State) : Prop where
  length : s.ahh.length = 0
  buckets : ∀ i (hi : i < s.ahh.queues.size), s.ahh.queues[i] = []
  marks : ∀ m, (s.nodeD m).heightInAhh = -1

/-- what `adjustHeights` may change: heights (only upwards), the recompute-heap position of queued nodes,
`maxHeightSeen`, the adjust-heights heap -/
structure HRel (s s' : State) : Prop where
  size : s'.nodes.size = s.nodes.size
  node : ∀ m, Quiet.nodeKey (s'.nodeD m) = Quiet.nodeKey (s.nodeD m)
  parents : ∀ m, (s'.nodeD m).parents = (s.nodeD m).parents
  inRch : ∀ m, (s'.nodeD m).inRch = (s.nodeD m).inRch
  height : ∀ m, (s.nodeD m).height ≤ (s'.nodeD m).height
  vars : s'.vars = s.vars
  binds : s'.binds = s.binds
  experts : s'.experts = s.experts
  observers : s'.observers = s.observers
  stabNum : s'.stabNum = s.stabNum
  status : s'.status = s.status
  cfg : s'.cfg = s.cfg
  scope : s'.currentScope = s.currentScope
  pinv : s'.propagateInvalidity = s.propagateInvalidity
  pc : s'.panicCountdown = s.panicCountdown
  qsize : s'.rch.queues.size = s.rch.queues.size
  top : s'.top = s.top
  misc : s'.setDuringStab = s.setDuringStab ∧ s'.deadVars = s.deadVars ∧ s'.newObservers = s.newObservers ∧
    s'.disallowedObservers = s.disallowedObservers ∧ s'.allObservers = s.allObservers ∧
    s'.handleAfterStab = s.handleAfterStab ∧ s'.alive = s.alive

/-! ## `HRel` -/

/-- the state fields `HRel` wants unchanged -/
def BA.hKey (s : State) :=
  (s.vars, s.binds, s.experts, s.observers, s.stabNum, s.status, s.cfg, s.currentScope, s.propagateInvalidity,
    s.panicCountdown, s.rch.queues.size, s.top, s.setDuringStab, s.deadVars, s.newObservers,
    s.disallowedObservers, s.allObservers, s.handleAfterStab, s.alive)

/-- `HRel` is that of `ExpertH.QR` (same fields) -/
theorem HRel.iff_qr {s s' : State} : HRel s s' ↔ ExpertH.QR.HRel s s' :=
  ⟨fun h => ⟨h.size, h.node, h.parents, h.inRch, h.height, h.vars, h.binds, h.experts, h.observers, h.stabNum, h.status, h.cfg,
      h.scope, h.pinv, h.pc, h.qsize, h.top, h.misc⟩,
    fun h => ⟨h.size, h.node, h.parents, h.inRch, h.height, h.vars, h.binds, h.experts, h.observers, h.stabNum, h.status, h.cfg,
      h.scope, h.pinv, h.pc, h.qsize, h.top, h.misc⟩⟩

theorem HRel.refl (s : State) : HRel s s := HRel.iff_qr.2 (.refl s)

theorem HRel.trans {a b c : State} (h1 : HRel a b) (h2 : HRel b c) : HRel a c :=
  HRel.iff_qr.2 ((HRel.iff_qr.1 h1).trans (HRel.iff_qr.1 h2))

/-- one node is updated by a function that touches only `height`, `heightInRch`, `heightInAhh` -/
theorem HRel.upd {s s' : State} {n : Nat} {f : Node → Node} (hn : s'.nodes = s.nodes.modify n f)
    (hk : BA.hKey s' = BA.hKey s) (hf : ∀ x, nodeKey (f x) = nodeKey x ∧ (f x).parents = x.parents)
    (hin : (f (s.nodeD n)).inRch = (s.nodeD n).inRch) (hh : (s.nodeD n).height ≤ (f (s.nodeD n)).height) :
    HRel s s' :=
  HRel.iff_qr.2 (ExpertH.QR.HRel.upd hn hk hf hin hh)

theorem HRel.same_nodes {s s' : State} (hn : s'.nodes = s.nodes) (hk : BA.hKey s' = BA.hKey s) : HRel s s' :=
  HRel.iff_qr.2 (ExpertH.QR.HRel.same_nodes hn hk)

section proj
variable {s s' : State} (h : HRel s s') (m : Nat)
include h
theorem HRel.kind : (s'.nodeD m).kind = (s.nodeD m).kind := by
  have := h.node m; simp only [nodeKey, Prod.mk.injEq] at this; exact this.1
theorem HRel.createdIn : (s'.nodeD m).createdIn = (s.nodeD m).createdIn := by
  have := h.node m; simp only [nodeKey, Prod.mk.injEq] at this; exact this.2.1
theorem HRel.cutoff : (s'.nodeD m).cutoff = (s.nodeD m).cutoff := by
  have := h.node m; simp only [nodeKey, Prod.mk.injEq] at this; exact this.2.2.1
theorem HRel.valid : (s'.nodeD m).valid = (s.nodeD m).valid := by
  have := h.node m; simp only [nodeKey, Prod.mk.injEq] at this; exact this.2.2.2.2.1
theorem HRel.recomputedAt : (s'.nodeD m).recomputedAt = (s.nodeD m).recomputedAt := by
  have := h.node m; simp only [nodeKey, Prod.mk.injEq] at this; exact this.2.2.2.2.2.1
theorem HRel.changedAt : (s'.nodeD m).changedAt = (s.nodeD m).changedAt := by
  have := h.node m; simp only [nodeKey, Prod.mk.injEq] at this; exact this.2.2.2.2.2.2.1
theorem HRel.nobservers : (s'.nodeD m).observers = (s.nodeD m).observers := by
  have := h.node m; simp only [nodeKey, Prod.mk.injEq] at this; exact this.2.2.2.2.2.2.2.1
theorem HRel.forceNecessary : (s'.nodeD m).forceNecessary = (s.nodeD m).forceNecessary := by
  have := h.node m; simp only [nodeKey, Prod.mk.injEq] at this; exact this.2.2.2.2.2.2.2.2.1
theorem HRel.nec : s'.isNecessary m = s.isNecessary m := by
  simp only [State.isNecessary, Node.isNecessary, h.parents m, h.nobservers m, h.forceNecessary m]
end proj

theorem HRel.children {env : Env} {s s' : State} (h : HRel s s') (A : AllB env s) (m : Nat) :
    s'.children m = s.children m := by
  by_cases hm : m < s.nodes.size
  · exact children_congr_B (h.kind m) (h.valid m) h.binds (A.node m hm).kind
  · rw [children_default s m (by omega), children_default s' m (by rw [h.size]; omega)]

theorem HRel.isStale {env : Env} {s s' : State} (h : HRel s s') (A : AllB env s) (m : Nat) :
    s'.isStale m = s.isStale m := by
  by_cases hm : m < s.nodes.size
  · exact isStale_congr_B (A.node m hm).kind (h.kind m) (h.valid m) (h.recomputedAt m) h.vars h.binds
      (fun c _ => h.changedAt c)
  · rw [isStale_default s m (by omega), isStale_default s' m (by rw [h.size]; omega)]

theorem HRel.frag {env : Env} {s s' : State} (h : HRel s s') (A : AllB env s) : AllB env s' := by
  refine ⟨by rw [h.pc]; exact A.pc, by rw [h.scope]; exact A.scope, fun n hn => ?_⟩
  have sn := A.node n (by rw [← h.size]; exact hn)
  refine ⟨by rw [h.valid]; exact sn.valid, by rw [h.kind]; exact sn.kind, by rw [h.cutoff]; exact sn.cutoff,
    by rw [h.createdIn]; exact sn.top, ?_, ?_, ?_, ?_⟩
  · rw [h.children A]; exact sn.kidsLt
  · rw [h.kind, h.binds]; exact sn.lcRec
  · rw [h.kind, h.binds]; exact sn.mainRec
  · intro c b hc hk
    rw [h.children A] at hc
    rw [h.kind] at hk ⊢
    exact sn.lcChild c b hc hk

namespace BA

/-! ## the adjust-heights heap against its marker -/

/-- the marker of the adjust-heights heap -/
def ahhMk (s : State) (m : Nat) : Int := (s.nodeD m).heightInAhh

/-- well-formedness of the adjust-heights heap: buckets ↔ markers, `length`, and the lower bound -/
structure AhhWF (s : State) : Prop where
  b : BucketsOK s.ahh.queues (ahhMk s)
  len : s.ahh.length = bucketSum s.ahh.queues
  lb : ∀ m, ahhMk s m ≠ -1 → s.ahh.lowerBound ≤ ahhMk s m

/-! The adjust-heights heap is that of `ExpertH.QR.BA` (the definitions there have the same bodies); its lemmas are read here in the names of
this fragment. -/

theorem _root_.IncrVerif.Proofs.BindH.AhhEmpty.iff_qr {s : State} : AhhEmpty s ↔ ExpertH.QR.AhhEmpty s :=
  ⟨fun h => ⟨h.length, h.buckets, h.marks⟩, fun h => ⟨h.length, h.buckets, h.marks⟩⟩

theorem AhhWF.iff_qr {s : State} : AhhWF s ↔ ExpertH.QR.BA.AhhWF s :=
  ⟨fun h => ⟨h.b, h.len, h.lb⟩, fun h => ⟨h.b, h.len, h.lb⟩⟩

theorem AhhEmpty.wf {s : State} (h : AhhEmpty s) : AhhWF s :=
  AhhWF.iff_qr.2 (ExpertH.QR.BA.AhhEmpty.wf (AhhEmpty.iff_qr.1 h))

/-- the bucket `ahhRemoveMin` looks at -/
def ahhFirst (s : State) : Nat :=
  firstNonEmpty s.ahh.queues (s.ahh.queues.size + 1) s.ahh.lowerBound.toNat

theorem AhhWF.none_empty {s : State} (w : AhhWF s)
    (h : s.ahh.length = 0 ∨ s.ahh.queues[ahhFirst s]? = none ∨ s.ahh.queues[ahhFirst s]? = some []) :
    AhhEmpty s :=
  AhhEmpty.iff_qr.2 ((AhhWF.iff_qr.1 w).none_empty h)

theorem default_heightInAhh : (default : Node).heightInAhh = -1 := rfl

theorem ahhMk_frame {s s' : State} {n : Nat} {f : Node → Node} (hn : s'.nodes = s.nodes.modify n f)
    (hf : ∀ x, (f x).heightInAhh = x.heightInAhh) : ahhMk s' = ahhMk s :=
  ExpertH.QR.BA.ahhMk_frame hn hf

theorem AhhWF.congr {s s' : State} (w : AhhWF s) (ha : s'.ahh = s.ahh) (hm : ahhMk s' = ahhMk s) : AhhWF s' :=
  AhhWF.iff_qr.2 ((AhhWF.iff_qr.1 w).congr ha hm)

/-- the state after a successful pop of `n` from bucket `lb` -/
def ahhPopped (lb n : Nat) (rest : List Nat) (s : State) : State :=
  { s with
    ahh := { s.ahh with queues := s.ahh.queues.set! lb rest, lowerBound := lb, length := s.ahh.length - 1 }
    nodes := s.nodes.modify n fun x => { x with heightInAhh := -1 } }

theorem AhhWF.popped {s : State} (w : AhhWF s) {n : Nat} {rest : List Nat}
    (hq : s.ahh.queues[ahhFirst s]? = some (n :: rest)) :
    AhhWF (ahhPopped (ahhFirst s) n rest s) ∧ ahhMk s n = (ahhFirst s : Int) :=
  have ⟨h1, h2⟩ := (AhhWF.iff_qr.1 w).popped hq
  ⟨AhhWF.iff_qr.2 h1, h2⟩

theorem AhhWF.added {s : State} (w : AhhWF s) {p : Nat} {x : Int} (hp : p < s.nodes.size)
    (hm : ahhMk s p = -1) (h0 : 0 ≤ x) (hx : x.toNat < s.ahh.queues.size) (hlb : s.ahh.lowerBound ≤ x) :
    AhhWF (ahhAdded p x s) :=
  AhhWF.iff_qr.2 ((AhhWF.iff_qr.1 w).added hp hm h0 hx hlb)

/-! ## inversions -/

theorem ahhRemoveMin_ok_inv {s s' : State} {r : Option Nat} (h : ahhRemoveMin.run.run s = (.ok r, s')) :
    (r = none ∧ s' = s ∧
      (s.ahh.length = 0 ∨ s.ahh.queues[ahhFirst s]? = none ∨ s.ahh.queues[ahhFirst s]? = some [])) ∨
    (∃ n rest, r = some n ∧ s.ahh.queues[ahhFirst s]? = some (n :: rest) ∧
      s' = ahhPopped (ahhFirst s) n rest s) :=
  ExpertH.QR.BA.ahhRemoveMin_ok_inv h

theorem ehr_ok_inv {oc op c p : Nat} {s s' : State} {u : Unit}
    (h : (ensureHeightRequirement oc op c p).run.run s = (.ok u, s')) :
    c < s.nodes.size ∧ p < s.nodes.size ∧
    (((s.nodeD c).height < (s.nodeD p).height ∧ s' = s) ∨
     ((s.nodeD p).height ≤ (s.nodeD c).height ∧
       ∃ s1, ((ahhMk s p ≠ -1 ∧ s1 = s) ∨
              (ahhMk s p = -1 ∧ 0 ≤ (s.nodeD p).height ∧ (s.nodeD p).height.toNat < s.ahh.queues.size ∧
                s1 = ahhAdded p (s.nodeD p).height s)) ∧
         s' = heightSet p ((s.nodeD c).height + 1) s1)) :=
  ExpertH.QR.BA.ehr_ok_inv h

def noY : Nat → Prop := fun _ => False

end BA
end IncrVerif.Proofs.BindH
