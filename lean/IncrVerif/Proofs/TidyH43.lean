import IncrVerif.Proofs.TidyH42
/-!
# Converse simulation: node creation and the API actions (mirror of ExpertH31), as exact simulations
-/
namespace IncrVerif.Proofs.TidyH.XT
namespace XR
open IncrVerif.Engine IncrVerif.Driver IncrVerif.Proofs IncrVerif.Proofs.Step IncrVerif.Proofs.Sched
open IncrVerif.Proofs.ExpertH
open IncrVerif.Proofs.NodeSim (CommAt Comm CommXAt)

/-! ## node creation -/

theorem frr_crState {k : Kind} (sc : Scope) {c : CutoffK} {s : State} (hn : FrR s) (hk : XK k)
    (hne : ∀ e, k ≠ .expert e) : FrR (crState k sc c s) := by
  refine hn.of_fr (fr_crState sc hn.fr hk) (fun m e hm => ?_) (by rw [crState_experts]; exact Nat.le_refl _)
  have hnd : (crState k sc c s).nodeD m = s.nodeD m ∨
      (crState k sc c s).nodeD m = { kind := k, createdIn := sc, cutoff := c } := by
    simp only [State.nodeD, crState_nodes, Array.getElem?_push]
    split
    · right; rfl
    · left; rfl
  rcases hnd with h | h
  · exact ⟨m, by rw [← h]; exact hm⟩
  · rw [h] at hm; exact absurd hm (hne e)

theorem commAt_createNode {E : Panic → Prop} {s : State} {k : Kind} (sc : Scope) (c : CutoffK) (hne : ∀ e, k ≠ .expert e)
    (hk : XK k) : CommAt E rel.app FrR s (Engine.createNode k sc c) (Engine.createNode k sc c) := by
  refine .of fun hn r s' hr _ => ?_
  rw [run_createNode] at hr ⊢
  cases hr
  rw [← virt_eq, ← virt_eq, virt_size, virt_crState k sc c s hne]
  exact ⟨rfl, frr_crState sc hn hk hne⟩

theorem commAt_createVar {E : Panic → Prop} {s : State} (v : Val) (sc : Scope) :
    CommAt E rel.app FrR s (Engine.createVar v sc) (Engine.createVar v sc) := by
  have H := blindR
  unfold Engine.createVar
  refine CommXAt.get_seq ?_
  vnorm
  refine CommXAt.seq (commAt_createNode sc .eq (fun e h => by cases h) trivial) fun _ _ _ _ => ?_
  sim

/-! ## `elabInstr`, `stepAction` -/

/-- `some <$> createNode k sc` for a static kind -/
macro "rcr_node" : tactic => `(tactic|
  exact IncrVerif.Proofs.NodeSim.CommXAt.map _
    (IncrVerif.Proofs.TidyH.XT.XR.commAt_createNode _ _ (fun e h => by cases h) trivial))

theorem commAt_elabInstr {E : Panic → Prop} {s : State} {i : Instr} (hR : XInstr i) :
    CommAt E rel.app FrR s (Engine.elabInstr [] .unit i) (Engine.elabInstr [] .unit i) := by
  have H := blindR
  unfold Engine.elabInstr
  cases i <;> simp only [XInstr] at hR <;> refine CommXAt.get_seq ?_ <;> try vnorm
  case const v => rcr_node
  case var v => exact CommXAt.map _ (commAt_createVar v .top)
  case map f args =>
    refine commAt_ro_seq (Step.Pres.mapM (fun a => RO.resolveOpnd [] a) args)
      (NodeSim.Comm.mapM (fun a => NodeSim.Comm.resolveOpnd H [] a) args s) fun as => ?_
    rcr_node
  case fold f init cs =>
    refine commAt_ro_seq (Step.Pres.mapM (fun a => RO.resolveOpnd [] a) cs)
      (NodeSim.Comm.mapM (fun a => NodeSim.Comm.resolveOpnd H [] a) cs s) fun as => ?_
    refine CommXAt.cond Iff.rfl (fun _ => ?_) (fun _ => ?_) <;> rcr_node
  case zip a b =>
    refine commAt_ro_seq (RO.resolveOpnd [] a) (NodeSim.Comm.resolveOpnd H [] a s) fun x => ?_
    refine commAt_ro_seq (RO.resolveOpnd [] b) (NodeSim.Comm.resolveOpnd H [] b s) fun y => ?_
    refine commAt_ro_seq (RO.isConstant x) (NodeSim.Comm.isConstant H x s) fun cx => ?_
    refine commAt_ro_seq (RO.isConstant y) (NodeSim.Comm.isConstant H y s) fun cy => ?_
    split <;> rcr_node

theorem SimRAt.elabInstr {s : State} {i : Instr} (hR : XInstr i) :
    SimRAt s (Engine.elabInstr [] .unit i) (Engine.elabInstr [] .unit i) :=
  .of_comm (commAt_elabInstr hR)

/-- every API action of the fragment (identical on both sides) -/
theorem SimRAt.stepAction {s : State} {a : Action} (env : Env) (tk : Array Nat) (hR : XAction a) :
    SimRAt s (Engine.stepAction env a tk) (Engine.stepAction (virtEnv env) a tk) := by
  refine .of_comm ?_
  rcases hR.cases with ⟨i, rfl, hi⟩ | hp
  · refine (NodeSim.actCalc blindR).create tk ?_
    rw [elabInstrM_eq _ _ _ hi, elabInstrM_eq _ _ _ hi]
    exact commAt_elabInstr hi
  · exact (NodeSim.actCalc blindR).plain hp _ _ tk s

end XR
end IncrVerif.Proofs.TidyH.XT
