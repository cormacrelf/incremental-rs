import IncrVerif.Proofs.TidyH43
import IncrVerif.Proofs.Drain
/-!
# T4: `drainHeap` RETURNS on states of the expert fragment X1 (total correctness of the drain)

One step on the current node of the drain invariant `DInvX` of the fragment static + expert (ExpertH40) returns, through the converse
simulation `XR.SimR`: the VIRTUAL run cannot panic (static theory on `virt s`), hence the ACTUAL run returns.  The drain is
`Drain.drainHeap_total` with the measure `Sched.unrun (virt s)`.
-/
namespace IncrVerif.Proofs.TidyH.XT
open IncrVerif.Engine IncrVerif.Driver IncrVerif.Proofs IncrVerif.Proofs.Step IncrVerif.Proofs.Sched
open IncrVerif.Proofs.ExpertH
open IncrVerif.Proofs.TidyH.XT.XR

namespace X4h

/-- the state in which the closure has run keeps `FrR`: kinds unchanged, the expert array is modified in place -/
theorem ranState_frr {env : Env} {n e : Nat} {s : State} {er : ExpertRec} (h : FrR s)
    (he : s.experts[e]? = some er) : FrR (ranState env n e s er) := by
  refine h.of_kinds (ranState_fr h.fr he) (fun m => ?_) ?_
  · rw [ranState_nodeD, started_nodeD]; split <;> rfl
  · rw [ranState_experts]; simp

theorem expert_or_not (k : Kind) : (∃ e, k = .expert e) ∨ ∀ e, k ≠ .expert e := by
  cases k <;> first | exact Or.inl ⟨_, rfl⟩ | (right; intro e h; cases h)

end X4h

section
variable {env : Env}

/-- **one `recomputeOne` returns.** On the current node of the drain invariant, with `Safe` of the virtual state and
some fuel, `recomputeOne` cannot panic. -/
theorem recomputeOneX_total {fuel n : Nat} {s : State} (D : DInvX env s (some n)) (S : Safe (virt s))
    (hf : 0 < fuel) : ∃ r s', (recomputeOne env fuel n).run.run s = (.ok r, s') := by
  have hnec : (virt s).isNecessary n = true := (D.inv.cur n rfl).1
  have hlt : n < s.nodes.size := by rw [← virt_size]; exact (D.inv.graph.nec n hnec).1
  have hfr : FrR s := FrR.of_frag D.frag D.pinv
  rcases X4h.expert_or_not (s.nodeD n).kind with ⟨e, hk⟩ | hne
  · obtain ⟨er, he, hnode⟩ := D.frag.xrec n e hlt hk
    obtain ⟨hpk, hni, hok, _⟩ := D.frag.xok e er he
    have hx : Xp.IsExpert s n (s.nodeD n) e er := ⟨some_of_lt hlt, D.frag.valid n hlt, hk, he⟩
    rw [Xp.recomputeOne_expert_run env fuel n hx hpk D.frag.pc (by omega)]
    change ∃ r s', (maybeChangeValue env fuel n (Xp.expertResult env s (Xp.readyRec env s er))).run.run
      (ranState env n e s er) = (.ok r, s')
    have hU := ranState_upd (env := env) D.frag hlt hk he
    have hfresh : ∀ p, p ∈ ((virt s).nodeD n).parents.map (·.1) →
        ((virt s).nodeD p).recomputedAt < (virt s).stabNum := fun p hp =>
      D.inv.fresh n (Or.inr rfl) p (D.inv.graph.parent_facts hp).2.2.1
    rcases hv : (maybeChangeValue (virtEnv env) fuel n (Xp.expertResult env s (Xp.readyRec env s er))).run.run
      (virt (ranState env n e s er)) with ⟨e1 | r, t⟩
    · have := (mcv_safe D.inv.graph D.inv.heap S hnec hfresh hU hv).2
      omega
    · obtain ⟨s', h1, -, -⟩ := SimR.maybeChangeValue env fuel n _ _ (X4h.ranState_frr hfr he) r t hv
      exact ⟨r, s', h1⟩
  · rcases hv : (recomputeOne (virtEnv env) fuel n).run.run (virt s) with ⟨e1 | r, t⟩
    · have := (recomputeOne_safe D.inv S hv).2
      omega
    · obtain ⟨s', h1, -, -⟩ := recomputeOne_simR hfr hlt (D.frag.kind n hlt) hne hv
      exact ⟨r, s', h1⟩

/-- a successful `recomputeOne` keeps `Safe` of the virtual state -/
theorem recomputeOneX_keeps_safe {fuel n : Nat} {s s' : State} {r : Option Nat} (D : DInvX env s (some n))
    (S : Safe (virt s)) (h : (recomputeOne env fuel n).run.run s = (.ok r, s')) : Safe (virt s') :=
  S.frame (recomputeOneX_inv D h).2.1.frame

theorem recomputeX_keeps_safe {fuel n : Nat} {s s' : State} (D : DInvX env s (some n))
    (S : Safe (virt s)) (h : (recompute env fuel n).run.run s = (.ok (), s')) : Safe (virt s') :=
  S.frame (recomputeX_inv fuel n s s' D h).2.frame

/-- the pop returns, and keeps `Safe` of the virtual state -/
theorem rchRemoveMinX_total {s : State} (D : DInvX env s none) (S : Safe (virt s)) :
    ∃ r s1, rchRemoveMin.run.run s = (.ok r, s1) ∧ rchRemoveMin.run.run (virt s) = (.ok r, virt s1) ∧
      Safe (virt s1) := by
  obtain ⟨r, t, hpop, S1⟩ := rchRemoveMin_safe D.inv S
  obtain ⟨s1, h1, ht, -⟩ := SimR.rchRemoveMin s (FrR.of_frag D.frag D.pinv) r t hpop
  rw [ht] at hpop S1
  exact ⟨r, s1, h1, hpop, S1⟩

/-- **the drain terminates**: with `fuel ≥ unrun (virt s) + 2` a `drainHeap` from a state with the drain invariant of
the fragment and `Safe` of the virtual state returns (`Drain.drainHeap_total`, measure `unrun (virt s)`) -/
theorem drainHeapX_total_unrun (fuel : Nat) (s : State) (D : DInvX env s none) (S : Safe (virt s))
    (hf : unrun (virt s) + 2 ≤ fuel) : ∃ s', (drainHeap env fuel).run.run s = (.ok (), s') := by
  refine Drain.drainHeap_total (st := id) (J := fun s cur => DInvX env s cur ∧ Safe (virt s)) (μ := fun s => unrun (virt s))
    (need := fun _ => 0) (fun s n fuel I hf => ?_) (fun s I => ?_) fuel s ⟨D, S⟩ (by omega)
  · obtain ⟨D, S⟩ := I
    obtain ⟨r, s1, h1⟩ := recomputeOneX_total (fuel := fuel) D S (by omega)
    obtain ⟨D1, f1, hn1⟩ := recomputeOneX_inv D h1
    have hnlt := (D.inv.graph.nec n (D.inv.cur n rfl).1).1
    exact ⟨r, s1, h1, ⟨D1, S.frame f1.frame⟩, f1.frame.unrun_lt D.inv.stamps hnlt D.inv.cur_not_yet hn1, Nat.le_refl _⟩
  · obtain ⟨D, S⟩ := I
    obtain ⟨r, s1, hpop, hv, S1⟩ := rchRemoveMinX_total D S
    refine ⟨r, s1, hpop, fun n e => ?_⟩
    subst e
    obtain ⟨-, F1, hp1, A1⟩ := popX D hpop
    obtain ⟨I1, f1⟩ := pop_inv D.inv hv
    exact ⟨s1, rfl, ⟨⟨F1, I1, hp1, A1⟩, S1⟩, f1.unrun_le D.inv.stamps, Nat.le_refl _⟩

/-- **the drain terminates** with `fuel ≥ s.nodes.size + 2` -/
theorem drainHeapX_total {fuel : Nat} {s : State} (D : DInvX env s none) (S : Safe (virt s))
    (hf : s.nodes.size + 2 ≤ fuel) : ∃ s', (drainHeap env fuel).run.run s = (.ok (), s') := by
  have h1 := unrun_le_size (virt s)
  rw [virt_size] at h1
  exact drainHeapX_total_unrun fuel s D S (by omega)

/-- **total correctness of the drain in the fragment X1.** From the drain invariant and `Safe` of the virtual state,
with `fuel ≥ s.nodes.size + 2`, `drainHeap` returns; the final state satisfies the drain invariant, has an empty heap,
`Safe` of the virtual state is kept. -/
theorem drainHeapX_total_inv {fuel : Nat} {s : State} (D : DInvX env s none) (S : Safe (virt s))
    (hf : s.nodes.size + 2 ≤ fuel) :
    ∃ s', (drainHeap env fuel).run.run s = (.ok (), s') ∧ DInvX env s' none ∧ s'.rch.length = 0 ∧
      DStepX env s s' ∧ Safe (virt s') := by
  obtain ⟨s', h⟩ := drainHeapX_total D S hf
  obtain ⟨D', he, f⟩ := drainHeapX_inv fuel s s' D h
  exact ⟨s', h, D', he, f, S.frame f.frame⟩

end
end IncrVerif.Proofs.TidyH.XT
