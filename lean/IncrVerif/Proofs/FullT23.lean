import IncrVerif.Proofs.FullT22
import IncrVerif.Proofs.FullT26
import IncrVerif.Proofs.FullT15
import IncrVerif.Proofs.FullT6
import IncrVerif.Proofs.NestH106
/-!
# C04 combined fragment: `stabilise` RETURNS if the state it ends in has room

`NestH.stabilise_total2` (Proofs/NestH106) for the ACTUAL engine of the combined fragment, over the phase lemmas `FullH.prefix_full`, `after_drainF`, `end_full`
(Proofs/FullH47).  Every NestH totality lemma is applied to the VIRTUAL state/run; the transfer to the actual run is the converse half of the bisimulation
(`BSimXAt.addNewObservers`, `BSim.unlinkDisallowedObservers` for the two observer phases; `stepTotF` for the steps of the drain, through `drainHeap_totF`).

* `prefix_totF`: the two observer phases return; the drain starts with `FullH.PreOut`, `PInv` and `DT`;
* `end_totF`: the invariant between API actions `QF` and `StabF` after `stabiliseEnd`;
* `stabilise_totalF`: the whole.
-/
namespace IncrVerif.Proofs.FullT
open IncrVerif.Engine IncrVerif.Driver IncrVerif.Proofs IncrVerif.Proofs.Step IncrVerif.Proofs.Sched IncrVerif.Proofs.Quiet IncrVerif.Proofs.FullH
open IncrVerif.Proofs.BindH (DInv BGraph StepRelB TargetB FrameB ConsistentB DKey NKey)
open IncrVerif.Proofs.NestH (AuxS2 Aux2 GenOK2 F2Inv DT HBo2 RhsRan Lim cnt TotIf HasRoomG QG2 QI2 QInv2 SInv2 QT TInv2)

section
variable {env : Env} {sp : Nat → Val → Val} {N : Nat}

/-- **the two observer phases return** (fuel `4 * size + 8`), and the drain starts in a state with the drain invariants -/
theorem prefix_totF {fuel : Nat} {s : State} {g : Nat → Option Val} {rk : Nat → Nat} (Q : QF env sp N s g)
    (Qv : QInv2 (VE env sp) rk (virt g s)) (T : TInv2 rk N (virt g s)) (H : RhsRan (virt g s)) (hf : 4 * s.nodes.size + 8 ≤ fuel) :
    ∃ t1 t2 g1, (addNewObservers env fuel).run.run { s with status := .stabilising } = (.ok (), t1) ∧
      (unlinkDisallowedObservers fuel).run.run t1 = (.ok (), t2) ∧ PreOut env sp rk s t2 g g1 ∧ PInv t2 ∧ DT (VE env sp) N (virt g1 t2) := by
  obtain ⟨s0, hs0⟩ : ∃ s0 : State, s0 = { s with status := .stabilising } := ⟨_, rfl⟩
  have hn0 : s0.nodes = s.nodes := by rw [hs0]
  have e0 : virt g s0 = { virt g s with status := .stabilising } := by rw [hs0]; rfl
  have hsz0 : (virt g s0).nodes.size = s.nodes.size := by rw [virt_size, hn0]
  have S0 : SInv2 (VE env sp) rk (virt g s0) (virt g s0).newObservers (virt g s0).disallowedObservers := by
    have I0 := SInv2.of_qinv2 Qv
    rw [e0]
    exact NestH.N4p.sInv2_congr I0 rfl rfl rfl rfl rfl rfl rfl rfl
  have hb0 : HBo2 rk (virt g s0) allClosed := by
    rw [e0]; intro m hm ho; exact T.hb m hm ho
  have R0 : Room N (virt g s0) := by rw [e0]; exact ⟨T.room.ahh, T.room.rch, T.room.size⟩
  have Fr0 : Fr (FK env sp) g s0 := Q.q.frag.fr.of_nodes hn0
  have P0 : PInv s0 := Keeps.of_nodes Q.p hn0 (by rw [hs0])
  -- the virtual runs return, hence the actual ones
  obtain ⟨_, v1, h1v, hb1, R1', S1, hn1, -⟩ := NestH.addNewObservers_total2 (fuel := fuel) S0 hb0 R0
    (by rw [e0]; exact T.newNodup) (by rw [e0]; exact T.newState) (by rw [hsz0]; omega)
  obtain ⟨t1, g1, h1, e1, Fr1, R1, P1⟩ :=
    (BSimXAt.addNewObservers (g := g) (s := s0) (bnC (FK env sp) env sp) fuel (by rw [hn0]; omega)).rev Fr0 P0 h1v
  subst e1
  obtain ⟨F1, -⟩ := (NestH.addNewObservers_s2 S0 h1v).2.2.2
  obtain ⟨_, v2, h2v, hb2, R2', -⟩ := NestH.unlinkDisallowedObservers_total2 (fuel := fuel) S1 hn1 hb1 R1'
    (by rw [F1.size, hsz0]; omega)
  obtain ⟨t2, h2, e2, Fr2, vm2, P2⟩ := (BSim.unlinkDisallowedObservers (K := FK env sp) (g := g1) fuel t1).rev Fr1 P1 h2v
  subst e2
  rw [hs0] at h1 h1v R1
  have P := prefix_full Q.q Qv h1 h1v R1 h2 h2v Fr2 vm2
  exact ⟨t1, t2, g1, h1, h2, P, P2,
    rk, P.f2, hb2, NestH.T2i.rhsRan_congr H P.F.binds P.F.valid P.F.recomputedAt, ⟨R2'.ahh, R2'.rch⟩⟩

/-- **the end**: after a drain that ended in `DF` (ghost `g3`), `stabiliseEnd` re-establishes the invariant between API actions, for the "no panic" argument too -/
theorem end_totF {fuel : Nat} {s t2 t3 s' : State} {g g1 g3 : Nat → Option Val} {rk : Nat → Nat} (P : PreOut env sp rk s t2 g g1)
    (Qv : QInv2 (VE env sp) rk (virt g s)) (T : TInv2 rk N (virt g s))
    (X3 : DF env sp N (virt g1 t2) t3 g3 none) (he3 : t3.rch.length = 0) (hvars : t3.vars = t2.vars) (hstab : t3.stabNum = t2.stabNum)
    (h4 : (stabiliseEnd env fuel).run.run t3 = (.ok (), s')) (hN : s'.nodes.size ≤ N) (htop : s'.top = s.top) :
    QF env sp N s' g3 ∧ StabF env sp s s' g3 := by
  obtain ⟨rk3, A3, hb3, H3, L3⟩ := X3.t
  obtain ⟨-, K3, N3⟩ := X3.d.aux
  obtain ⟨Q', SE⟩ := end_full P Qv X3.d A3 he3 hvars hstab h4 htop
  obtain ⟨-, hsd, hdv, hoh, -, -, hno3, -⟩ := after_drainF P Qv A3 K3 N3 hvars
  have E := stabiliseEnd_fin (env := env) (fuel := fuel) hsd hdv hoh h4
  have hb := BindH.C2s.stabiliseEnd_binds hsd hdv hoh h4
  have hnE : ∀ m, ∃ b, s'.nodeD m = { t3.nodeD m with inHandleAfterStab := b } := E.node
  have hk' : ∀ m, (s'.nodeD m).kind = (t3.nodeD m).kind := fun m => by obtain ⟨b, hb⟩ := hnE m; rw [hb]
  have hpar' : ∀ m, (s'.nodeD m).parents = (t3.nodeD m).parents := fun m => by obtain ⟨b, hb⟩ := hnE m; rw [hb]
  have hsame : ∀ m, ((virt g3 s').nodeD m).valid = ((virt g3 t3).nodeD m).valid ∧
      ((virt g3 s').nodeD m).recomputedAt = ((virt g3 t3).nodeD m).recomputedAt := fun m => by
    obtain ⟨b, hb⟩ := hnE m
    rw [virt_nodeD, virt_nodeD, virtNode_valid, virtNode_valid, virtNode_recomputedAt, virtNode_recomputedAt, hb]
    exact ⟨rfl, rfl⟩
  have PE : PInv s' := X3.p.of_nodeD E.size hk' (fun m x hx => by rw [hpar'] at hx; exact hx)
  have TE : TInv2 rk3 N (virt g3 s') :=
    NestH.T2i.tinv2_end (finished_virt g3 E) hb3 L3 (by rw [virt_size]; exact hN) (hvars.trans P.F.vars) T hno3
  have HE : RhsRan (virt g3 s') := NestH.T2i.rhsRan_congr H3 hb (fun m => (hsame m).1) (fun m => (hsame m).2)
  exact ⟨⟨SE.inv, PE, ⟨rk3, Q', TE, HE⟩⟩, SE⟩

/-- **`stabilise` of the combined fragment returns** if the state it ends in — whatever the outcome — has room (`HasRoomG needFuelF N fuel`: at most `N` nodes, `needFuelF` of the
node count within `fuel`); the invariant between API actions for the "no panic" argument (`QF`) holds again, with everything `stabilise_full` establishes (`StabF`). -/
theorem stabilise_totalF (E : EnvS env sp) (hF : FirstFn env) {fuel : Nat} {s : State} {g : Nat → Option Val} (Q : QF env sp N s g) :
    TotIf (stabilise env fuel) s (HasRoomG needFuelF N fuel) (fun _ s' => ∃ g', QF env sp N s' g' ∧ StabF env sp s s' g') := by
  have L : StepTotF NestH.stepFuel env sp N := stepTotF E hF
  have hmono := stepFuel_facts.2.2.2
  have hpos := stepFuel_facts.2.1
  have hS := needFuelF_facts.1
  have hS2 := needFuelF_facts.2.1
  intro r s' hrun hroom
  obtain ⟨hN, hFu⟩ := hroom
  have hsz : s.nodes.size ≤ s'.nodes.size := NestH.T2i.stabilise_size hrun
  have hS' := hS s'.nodes.size
  have hS2' := hS2 s'.nodes.size
  have hF0 : 4 * s.nodes.size + 8 ≤ fuel := by omega
  obtain ⟨rk, Qv, T, H⟩ := Q.t
  -- the two observer phases
  obtain ⟨t1, t2, g1, h1, h2, P, P2, DT2⟩ := prefix_totF Q Qv T H hF0
  have Pdf : DF env sp N (virt g1 t2) t2 g1 none := ⟨P.d, P2, DT2⟩
  have hsz2 : t2.nodes.size = s.nodes.size := by have := P.F.size; rwa [virt_size, virt_size] at this
  have htop : ∀ r0, r = .ok r0 → s'.top = s.top := by
    intro r0 e; cases r0; rw [e] at hrun
    exact ((BindH.C2h.PresTop.stabilise env fuel).h _ _ _ hrun).top
  -- the run up to the drain
  have hrun2 : (drainHeap env fuel >>= fun _ => stabiliseEnd env fuel).run.run t2 = (r, s') := by
    unfold stabilise at hrun
    have hst : (s.status == Status.notStabilising) = true := by
      have := Qv.status; rw [virt_status] at this; rw [this]; rfl
    rw [run_bind_get, run_bind_ok (show (assertM (s.status == Status.notStabilising)
      "state:stabilise:status").run.run s = (.ok (), s) by rw [run_assertM, hst]; rfl),
      run_bind_modify] at hrun
    rw [run_bind_ok h1, run_bind_ok h2] at hrun
    exact hrun
  rw [run_bind] at hrun2
  have hun := unrun_le_size (virt g1 t2)
  rw [virt_size] at hun
  rcases h3 : (drainHeap env fuel).run.run t2 with ⟨e3 | u3, t3⟩
  · -- a panic in the drain: its final state is the final state, which has room
    exfalso
    rw [h3] at hrun2
    have e1 : s' = t3 := (Prod.mk.inj hrun2).2.symm
    obtain ⟨ea, -⟩ := drainHeap_totF L hmono hpos fuel _ t2 t3 g1 _ Pdf h3 (by rw [← e1]; exact hN)
      (by rw [← e1]; omega)
    cases ea
  · cases u3
    rw [h3] at hrun2
    replace hrun2 : (stabiliseEnd env fuel).run.run t3 = (r, s') := hrun2
    -- the partial facts about the drain (some ghost)
    obtain ⟨g3', DF3', he3, f3⟩ := drainHeap_full (kit E hF) fuel (virt g1 t2) t2 t3 g1 P.d h3
    obtain ⟨⟨rk3', A3'⟩, K3', N3'⟩ := DF3'.aux
    have hvars : t3.vars = t2.vars := f3.vars
    have hstab : t3.stabNum = t2.stabNum := f3.stabNum
    obtain ⟨-, hsd, hdv, hoh, hhas3, hno, -⟩ := after_drainF P Qv A3' K3' N3' hvars
    -- `stabiliseEnd` returns
    obtain ⟨_, s4, h4, -⟩ := stabiliseEnd_total (env := env) (fuel := fuel) (s := t3) hsd hdv hoh hhas3 hno
    rw [h4] at hrun2
    have e1 : s' = s4 := (Prod.mk.inj hrun2).2.symm
    have e2 : r = .ok () := (Prod.mk.inj hrun2).1.symm
    rw [← e1] at h4
    have Ef := stabiliseEnd_fin (env := env) (fuel := fuel) hsd hdv hoh h4
    -- the state after the drain has room: the total contract of the drain applies
    obtain ⟨-, g3, X3⟩ := drainHeap_totF L hmono hpos fuel _ t2 t3 g1 _ Pdf h3 (by rw [← Ef.size]; exact hN)
      (by rw [← Ef.size]; omega)
    obtain ⟨QE, SE⟩ := end_totF P Qv T X3 he3 hvars hstab h4 hN (htop () e2)
    exact ⟨(), e2, g3, QE, SE⟩

end
end IncrVerif.Proofs.FullT
