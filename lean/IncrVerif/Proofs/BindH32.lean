import IncrVerif.Proofs.BindH31
import IncrVerif.Proofs.Footprint
/-!
# Binds, `relink`, part 2: the new right-hand side in the record; frames (`MFr`: the marks of the adjust-heights heap,
`KRel`: what `RRelB` keeps), `propagateInvalidity` on an empty list
-/
namespace IncrVerif.Proofs.BindH
open IncrVerif.Engine IncrVerif.Proofs IncrVerif.Proofs.Step IncrVerif.Proofs.Sched IncrVerif.Proofs.Quiet

namespace BR

/-- **new right-hand side**: the record of bind `b` gets the right-hand side `rhs` while the bind's main node is
`.linking 1` (its child edge 1 is neither wanted nor recorded) -/
theorem setRhs {env : Env} {s s' : State} {op : Nat → Op} {ex : Nat → Prop} {b n main rhs : Nat} {br : BindRec}
    (I : GInvB env s op ex) (hop : op main = .linking 1)
    (hb : s.binds[b]? = some br) (hm : br.main = main)
    (hkm : (s.nodeD main).kind = .bindMain b n)
    (hnm : n < main) (hrm : rhs < main) (hrk : ∀ b', (s.nodeD rhs).kind ≠ .bindLhsChange b')
    (hnd : ∀ m, s'.nodeD m = s.nodeD m) (hsz : s'.nodes.size = s.nodes.size)
    (hpc : s'.panicCountdown = s.panicCountdown) (hsc : s'.currentScope = s.currentScope)
    (hrch : s'.rch = s.rch) (hvars : s'.vars = s.vars) (hexp : s'.experts = s.experts)
    (hb' : s'.binds[b]? = some { br with rhs := some rhs })
    (hbo : ∀ b', b' ≠ b → s'.binds[b']? = s.binds[b']?)
    (hst : (s.nodeD main).recomputedAt < (s.nodeD n).changedAt) :
    GInvB env s' op ex := by
  have hms : main < s.nodes.size := I.opLt main (by rw [hop]; exact Op.linking_ne_closed _)
  have sm := I.frag.node main hms
  have hvm := sm.valid
  have hch0 : s.children main = n :: br.rhs.toList := children_main hvm hkm hb
  have hch1 : s'.children main = [n, rhs] :=
    children_main (br := { br with rhs := some rhs }) (by rw [hnd]; exact hvm) (by rw [hnd]; exact hkm) hb'
  have hch : ∀ m, m ≠ main → s'.children m = s.children m := by
    intro m e
    by_cases hlt : m < s.nodes.size
    · have hkq : (s.nodeD m).kind? = some (s.nodeD m).kind := by
        unfold Node.kind?; rw [(I.frag.node m hlt).valid]; rfl
      unfold State.children
      rw [hnd, hexp, hkq]
      cases hkd : (s.nodeD m).kind with
      | bindLhsChange b' =>
        by_cases eb : b' = b
        · simp only [eb, hb', hb]
        · simp only [hbo b' eb]
      | bindMain b' lc =>
        have eb : b' ≠ b := by
          intro eb
          obtain ⟨br', h1, h2, -⟩ := (I.frag.node m hlt).mainRec b' lc hkd
          rw [eb, hb] at h1
          cases h1
          exact e (h2.symm.trans hm)
        simp only [hbo b' eb]
      | _ => rfl
    · rw [children_default s m (by omega), children_default s' m (by rw [hsz]; omega)]
  have hnec : ∀ m, s'.isNecessary m = s.isNecessary m := fun m => by simp only [State.isNecessary, hnd]
  have hstl : ∀ m, m ≠ main → s'.isStale m = s.isStale m := by
    intro m e
    unfold State.isStale
    simp only [hnd, hch m e, hvars, hexp]
  have hstm : s'.isStale main = true := by
    refine isStale_main (b := b) (lc := n) (br := { br with rhs := some rhs }) (by rw [hnd]; exact hvm)
      (by rw [hnd]; exact hkm) hb' ?_
    rw [hnd, hnd]; exact hst
  have hA : AllB env s' := by
    refine ⟨by rw [hpc]; exact I.frag.pc, by rw [hsc]; exact I.frag.scope, fun m hmlt => ?_⟩
    have sn := I.frag.node m (by rw [← hsz]; exact hmlt)
    refine ⟨by rw [hnd]; exact sn.valid, by rw [hnd]; exact sn.kind, by rw [hnd]; exact sn.cutoff,
      by rw [hnd]; exact sn.top, ?_, ?_, ?_, ?_⟩
    · by_cases e : m = main
      · rw [e, hch1]
        intro c hc
        simp only [List.mem_cons, List.not_mem_nil, or_false] at hc
        rcases hc with hc | hc
        · rw [hc]; exact hnm
        · rw [hc]; exact hrm
      · rw [hch m e]; exact sn.kidsLt
    · intro b' hk
      rw [hnd] at hk
      obtain ⟨br', h1, h2⟩ := sn.lcRec b' hk
      by_cases eb : b' = b
      · rw [eb] at h1 ⊢
        rw [hb] at h1
        cases h1
        exact ⟨_, hb', h2⟩
      · exact ⟨br', by rw [hbo b' eb]; exact h1, h2⟩
    · intro b' lc hk
      rw [hnd] at hk
      obtain ⟨br', h1, h2, h3⟩ := sn.mainRec b' lc hk
      by_cases eb : b' = b
      · rw [eb] at h1 ⊢
        rw [hb] at h1
        cases h1
        exact ⟨_, hb', h2, h3⟩
      · exact ⟨br', by rw [hbo b' eb]; exact h1, h2, h3⟩
    · intro c b' hc hk
      rw [hnd] at hk ⊢
      by_cases e : m = main
      · rw [e] at hc ⊢
        rw [hch1] at hc
        simp only [List.mem_cons, List.not_mem_nil, or_false] at hc
        rcases hc with hc | hc
        · rw [hc] at hk ⊢
          exact sm.lcChild n b' (by rw [hch0]; exact List.mem_cons_self ..) hk
        · rw [hc] at hk; exact absurd hk (hrk b')
      · rw [hch m e] at hc; exact sn.lcChild c b' hc hk
  refine transfer I hA hsz hrch (fun m => by rw [hnd]) (fun m => by rw [hnd]) (fun m => by rw [hnd]) ?_ ?_ ?_ ?_ ?_ ?_
    ?_ ?_ I.opLt (fun _ _ _ _ h1 h2 => absurd h1 h2) (fun _ h1 h2 => absurd h1 h2)
    (fun _ _ h1 h2 => absurd h1 h2) (fun _ h1 h2 => absurd h1 h2)
  · intro p i c hk hw
    refine ⟨?_, (wants_congr hnec p i).2 hw⟩
    by_cases e : p = main
    · rw [e] at hk hw ⊢
      have hi : i < 1 := (wants_linking hop).1 hw
      have hi0 : i = 0 := by omega
      rw [hi0, hch0] at hk
      rw [hi0, hch1]
      exact hk
    · rw [hch p e]; exact hk
  · intro p i c hk hw
    have hw' := (wants_congr hnec p i).1 hw
    refine ⟨?_, hw'⟩
    by_cases e : p = main
    · rw [e] at hk hw' ⊢
      have hi : i < 1 := (wants_linking hop).1 hw'
      have hi0 : i = 0 := by omega
      rw [hi0, hch1] at hk
      rw [hi0, hch0]
      exact hk
    · rw [← hch p e]; exact hk
  · intro m _ _ h; rw [← hnec]; exact h
  · intro p k ho; rw [hnec]; exact I.lnec p k ho
  · intro p k ho; rw [hnec]; exact I.unec p k ho
  · intro m hq; rw [hnec]; exact I.qnec m hq
  · intro m ho _ _ hs
    have e : m ≠ main := fun e => by rw [e, hop] at ho; cases ho
    rw [← hstl m e]; exact hs
  · intro m hq
    by_cases e : m = main
    · rw [e]; exact hstm
    · rw [hstl m e]; exact I.qstale m hq

/-! ## the marks of the adjust-heights heap are not touched by the cascades -/

/-- the marks of the adjust-heights heap are unchanged -/
def MFr (s s' : State) : Prop := ∀ m, (s'.nodeD m).heightInAhh = (s.nodeD m).heightInAhh

instance : PreOrd MFr := ⟨fun _ _ => rfl, fun h1 h2 m => (h2 m).trans (h1 m)⟩

section
open Footprint
theorem PresM.setHeight (n h) : Step.Pres MFr (setHeight n h) := (Foot.setHeight n h).frame (Edit.heightInAhh (by decide))
theorem PresM.rchInsert (n) : Step.Pres MFr (rchInsert n) := (Foot.rchInsert n).frame (Edit.heightInAhh (by decide))
theorem PresM.addParent (c i p) : Step.Pres MFr (addParent c i p) := (Foot.addParent c i p).frame (Edit.heightInAhh (by decide))
theorem PresM.removeParent (c i p) : Step.Pres MFr (removeParent c i p) :=
  (Foot.removeParent c i p).frame (Edit.heightInAhh (by decide))
theorem PresM.handleAfterStabilisation (n) : Step.Pres MFr (handleAfterStabilisation n) :=
  (Foot.handleAfterStabilisation n).frame (Edit.heightInAhh (by decide))

theorem PresM.markMapRefUnknown (fuel n) : Step.Pres MFr (markMapRefUnknown fuel n) :=
  (Foot.markMapRefUnknown fuel n).frame (Edit.heightInAhh (by decide))

theorem PresM.link (env : Env) (fuel : Nat) :
    (∀ n, Step.Pres MFr (becameNecessary env fuel n)) ∧
    (∀ c i p, Step.Pres MFr (addParentWithoutAdjustingHeights env fuel c i p)) :=
  ⟨fun n => (Foot.becameNecessary env fuel n).frame (Edit.heightInAhh (by decide)),
   fun c i p => (Foot.addParentWithoutAdjustingHeights env fuel c i p).frame (Edit.heightInAhh (by decide))⟩

theorem PresM.unlink (fuel : Nat) :
    (∀ n, Step.Pres MFr (becameUnnecessary fuel n)) ∧
    (∀ n, Step.Pres MFr (checkIfUnnecessary fuel n)) ∧
    (∀ n, Step.Pres MFr (removeChildren fuel n)) :=
  ⟨fun n => (Foot.becameUnnecessary fuel n).frame (Edit.heightInAhh (by decide)),
   fun n => (Foot.checkIfUnnecessary fuel n).frame (Edit.heightInAhh (by decide)),
   fun n => (Foot.removeChildren fuel n).frame (Edit.heightInAhh (by decide))⟩
end

theorem CFrame.ahh {s s' : State} (h : CFrame s s') : s'.ahh = s.ahh := by
  have := h.key; simp only [stateKey, Prod.mk.injEq] at this; exact this.2.2.2.2.2.2.2.2.2.2.2.2.2.2.2.1

theorem ahhEmpty_frame {s s' : State} (E : AhhEmpty s) (ha : s'.ahh = s.ahh) (hm : MFr s s') : AhhEmpty s' :=
  ⟨by rw [ha]; exact E.length, by rw [ha]; exact E.buckets, fun m => by rw [hm m]; exact E.marks m⟩

/-! ## what `RRelB` keeps, as a preorder -/

def rKey (s : State) :=
  (s.vars, s.stabNum, s.status, s.cfg, s.currentScope, s.rch.queues.size, s.top, s.propagateInvalidity, s.binds)

structure KRel (s s' : State) : Prop where
  size : s'.nodes.size = s.nodes.size
  node : ∀ m, nodeKey (s'.nodeD m) = nodeKey (s.nodeD m)
  key : rKey s' = rKey s

theorem KRel.refl (s : State) : KRel s s := ⟨rfl, fun _ => rfl, rfl⟩
theorem KRel.trans {a b c : State} (h1 : KRel a b) (h2 : KRel b c) : KRel a c :=
  ⟨h2.size.trans h1.size, fun m => (h2.node m).trans (h1.node m), h2.key.trans h1.key⟩

theorem KRel.of_cframe {s s' : State} (h : CFrame s s') (hp : s'.propagateInvalidity = s.propagateInvalidity) :
    KRel s s' := by
  refine ⟨h.size, h.node, ?_⟩
  have := h.key
  simp only [stateKey, Prod.mk.injEq] at this
  obtain ⟨k1, k2, k3, k4, k5, k6, k7, k8, k9, k10, k11, k12, k13, k14, k15, k16, k17, k18, k19⟩ := this
  simp only [rKey, k1, k3, k4, k5, k6, k12, k15, k17, hp]

theorem KRel.of_hrel {s s' : State} (h : HRel s s') : KRel s s' := by
  refine ⟨h.size, h.node, ?_⟩
  simp only [rKey, h.vars, h.stabNum, h.status, h.cfg, h.scope, h.qsize, h.top, h.pinv, h.binds]

section proj
variable {s s' : State} (h : KRel s s')
include h
theorem KRel.vars : s'.vars = s.vars := by
  have := h.key; simp only [rKey, Prod.mk.injEq] at this; exact this.1
theorem KRel.stabNum : s'.stabNum = s.stabNum := by
  have := h.key; simp only [rKey, Prod.mk.injEq] at this; exact this.2.1
theorem KRel.status : s'.status = s.status := by
  have := h.key; simp only [rKey, Prod.mk.injEq] at this; exact this.2.2.1
theorem KRel.cfg : s'.cfg = s.cfg := by
  have := h.key; simp only [rKey, Prod.mk.injEq] at this; exact this.2.2.2.1
theorem KRel.scope : s'.currentScope = s.currentScope := by
  have := h.key; simp only [rKey, Prod.mk.injEq] at this; exact this.2.2.2.2.1
theorem KRel.qsize : s'.rch.queues.size = s.rch.queues.size := by
  have := h.key; simp only [rKey, Prod.mk.injEq] at this; exact this.2.2.2.2.2.1
theorem KRel.top : s'.top = s.top := by
  have := h.key; simp only [rKey, Prod.mk.injEq] at this; exact this.2.2.2.2.2.2.1
theorem KRel.pinv : s'.propagateInvalidity = s.propagateInvalidity := by
  have := h.key; simp only [rKey, Prod.mk.injEq] at this; exact this.2.2.2.2.2.2.2.1
theorem KRel.binds : s'.binds = s.binds := by
  have := h.key; simp only [rKey, Prod.mk.injEq] at this; exact this.2.2.2.2.2.2.2.2
theorem KRel.force (m : Nat) : (s'.nodeD m).forceNecessary = (s.nodeD m).forceNecessary := by
  have := h.node m; simp only [nodeKey, Prod.mk.injEq] at this; exact this.2.2.2.2.2.2.2.2.1
end proj

end BR

end IncrVerif.Proofs.BindH
