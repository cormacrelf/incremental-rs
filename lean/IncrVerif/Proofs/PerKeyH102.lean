import IncrVerif.Proofs.PerKeyH101
import IncrVerif.Proofs.AssocMapLemmas
/-!
# Per-key operators, API actions part 11: `create (.perKey cut fam (.outer k))` (`cut` absent or `.eq`) keeps the invariant between actions
(`action_create_perKey`)
-/
namespace IncrVerif.Proofs.PerKeyH
open IncrVerif.Engine IncrVerif.Driver IncrVerif.Proofs IncrVerif.Proofs.Step IncrVerif.Proofs.Sched
open IncrVerif.Proofs.ExpertH IncrVerif.Proofs.EffH IncrVerif.Proofs.DriverH

/-- what `PInstrOK env s (.perKey fam.cut fam.fam (.outer k))` says, `k` naming node `a0` -/
structure PkIn (env : Env) (s : State) (fam : FamCut) (a0 k : Nat) : Prop where
  cut : fam.cut = none ∨ fam.cut = some .eq
  templ : TemplOK env (env.perKey fam.fam)
  top : s.top[k]? = some a0
  var : ∃ c vc m, (s.nodeD a0).kind = .var c ∧ s.vars[c]? = some vc ∧ vc.value = .map m ∧ IncrVerif.AMap.Sorted m ∧
    (∀ w, (s.nodeD a0).value = some w → ∃ m2, w = .map m2 ∧ IncrVerif.AMap.Sorted m2 ∧ keysSub m2 m)
  outer : ∀ j : Nat, j ∈ templOuter (env.perKey fam.fam) → ∃ o, s.top[j]? = some o

section
variable {env : Env} {s : State} {fam : FamCut} {a0 k : Nat}

theorem priv_new {x : Nat} (h : Priv env (pkNewOp fam s) x) : x = s.nodes.size + 2 := by
  rcases h with h | ⟨key, p, d, hm, -⟩
  · exact h
  · cases hm

/-- the bookkeeping of the new operator -/
theorem opOK_pkc_new (F : PFrag env s) (I : PkIn env s fam a0 k)
    (hin : ∀ n c, n < s.nodes.size → c ∈ kidsX s.experts (s.nodeD n).kind → c < s.nodes.size)
    (htop : ∀ (j n : Nat), s.top[j]? = some n → n < s.nodes.size) :
    OpOK env (pkCreated fam a0 s) s.perkeys.size (pkNewOp fam s) := by
  have ha : a0 < s.nodes.size := htop k a0 I.top
  have hr1 : (pkNewOp fam s).result - 1 = s.nodes.size := rfl
  refine ⟨I.cut, fun c x hc hx hp => ?_, fun x hp => ?_, fun j x hj hp => ?_, I.templ, ?_, List.nodup_nil, List.nodup_nil,
    IncrVerif.AMap.sorted_nil, fun key => rfl, fun hs => ?_⟩
  · have ex := priv_new hp
    by_cases hlt : c < s.nodes.size
    · rw [kidsX_pkc_old fam a0 F hlt] at hx
      have := hin c x hlt hx; omega
    · rcases kidsX_pkc_new fam a0 (by omega) hx with ⟨-, e⟩ | ⟨e, -⟩ | ⟨-, e⟩ | ⟨-, e⟩
      · omega
      · exact Or.inl e
      · omega
      · omega
  · rw [priv_new hp, pkc_nodeD_2]
  · have ex := priv_new hp
    rcases pkc_top_inv fam a0 s hj with h1 | h1
    · have := htop j x h1; omega
    · omega
  · obtain ⟨c, vc, m, hkc, -⟩ := I.var
    refine ⟨a0, s.experts.size, pkNewRec s, ?_, pkc_expert_new fam a0 s, rfl,
      ⟨s.nextDep, [], rfl, fun ed h => (by cases h), fun key p d h => (by cases h)⟩, fun key p d h => (by cases h),
      fun j hj => ?_⟩
    · refine ⟨Nat.le_add_left _ _, rfl, by rw [pkc_size]; show s.nodes.size + 1 + 2 < _; omega, ?_, by rw [hr1]; exact ha,
        ⟨c, by rw [pkc_nodeD_lt fam a0 s ha]; exact hkc⟩, ?_, ?_, ?_⟩
      · rw [hr1, pkc_nodeD_0]
      · show ((pkCreated fam a0 s).nodeD (s.nodes.size + 1)).kind = _
        rw [pkc_nodeD_1]
      · show ((pkCreated fam a0 s).nodeD (s.nodes.size + 2)).kind = _
        rw [pkc_nodeD_2]; rfl
      · show ((pkCreated fam a0 s).nodeD (s.nodes.size + 3)).kind = _
        rw [pkc_nodeD_3]; rfl
    · obtain ⟨o, ho⟩ := I.outer j hj
      exact ⟨o, pkc_top_old fam a0 s ho, by rw [hr1]; exact htop j o ho⟩
  · exfalso
    have : (pkCreated fam a0 s).isStale (s.nodes.size + 2) = true := by
      unfold State.isStale
      rw [pkc_nodeD_2]
      rfl
    rw [show (pkNewOp fam s).lhsChange = s.nodes.size + 2 from rfl, this] at hs
    cases hs

/-! ## the potential -/

/-- the potential of the new state -/
def psiNew (ψ : Nat → Nat) (N : Nat) : Nat → Nat := fun n =>
  if n = N then 2 * N else if n = N + 1 then 2 * (N + 2) + 1 else if n = N + 2 then 2 * (N + 2)
  else if n = N + 3 then 2 * (N + 3) else ψ n

theorem psiNew_lt (ψ : Nat → Nat) {N n : Nat} (h : n < N) : psiNew ψ N n = ψ n := by
  unfold psiNew
  rw [if_neg (by omega), if_neg (by omega), if_neg (by omega), if_neg (by omega)]
theorem psiNew_0 (ψ : Nat → Nat) (N : Nat) : psiNew ψ N N = 2 * N := by
  unfold psiNew; rw [if_pos rfl]
theorem psiNew_1 (ψ : Nat → Nat) (N : Nat) : psiNew ψ N (N + 1) = 2 * (N + 2) + 1 := by
  unfold psiNew; rw [if_neg (by omega), if_pos rfl]
theorem psiNew_2 (ψ : Nat → Nat) (N : Nat) : psiNew ψ N (N + 2) = 2 * (N + 2) := by
  unfold psiNew; rw [if_neg (by omega), if_neg (by omega), if_pos rfl]
theorem psiNew_3 (ψ : Nat → Nat) (N : Nat) : psiNew ψ N (N + 3) = 2 * (N + 3) := by
  unfold psiNew; rw [if_neg (by omega), if_neg (by omega), if_neg (by omega), if_pos rfl]

theorem pot_pkc (F : PFrag env s) (P : PKOK env s) (I : PkIn env s fam a0 k) {ψ : Nat → Nat} (hψ : Pot s ψ)
    (hin : ∀ n c, n < s.nodes.size → c ∈ kidsX s.experts (s.nodeD n).kind → c < s.nodes.size)
    (htop : ∀ (j n : Nat), s.top[j]? = some n → n < s.nodes.size) :
    Pot (pkCreated fam a0 s) (psiNew ψ s.nodes.size) := by
  have ha : a0 < s.nodes.size := htop k a0 I.top
  refine ⟨fun n c hn hc => ?_, fun j n h => ?_, fun op pr hpr => ?_, fun n hn => ?_⟩
  · by_cases hlt : n < s.nodes.size
    · rw [kidsX_pkc_old fam a0 F hlt] at hc
      have hc' := hin n c hlt hc
      rw [psiNew_lt ψ hlt, psiNew_lt ψ hc']; exact hψ.mono n c hlt hc
    · rcases kidsX_pkc_new fam a0 (by omega) hc with ⟨rfl, rfl⟩ | ⟨rfl, rfl⟩ | ⟨rfl, rfl⟩ | ⟨rfl, rfl⟩
      · rw [psiNew_0, psiNew_lt ψ ha, hψ.top k c I.top]; omega
      · rw [psiNew_1, psiNew_2]; omega
      · rw [psiNew_2, psiNew_0]; omega
      · rw [psiNew_3, psiNew_1]; omega
  · rcases pkc_top_inv fam a0 s h with h1 | rfl
    · rw [psiNew_lt ψ (htop j n h1)]; exact hψ.top j n h1
    · rw [psiNew_3]
  · rcases pkc_perkey_inv fam a0 s hpr with h1 | ⟨rfl, rfl⟩
    · obtain ⟨a, b, c, d⟩ := hψ.op op pr h1
      obtain ⟨x, e, er, hN, he, hpk, hch, hent, hout⟩ := (P.ops op pr h1).nodes
      have hlt := hN.lt
      have hlc := hN.lc
      refine ⟨by rw [psiNew_lt ψ (by omega)]; exact a, by rw [psiNew_lt ψ (by omega)]; exact b,
        by rw [psiNew_lt ψ (by omega)]; exact c, fun key p dd hm => ?_⟩
      rw [psiNew_lt ψ (hent key p dd hm).plt]; exact d key p dd hm
    · refine ⟨psiNew_1 ψ _, psiNew_2 ψ _, psiNew_0 ψ _, fun key p d h => by cases h⟩
  · rcases pkc_cases fam a0 s hn with h | rfl | rfl | rfl | rfl
    · rw [psiNew_lt ψ h]; exact hψ.le n h
    · rw [psiNew_0]; omega
    · rw [psiNew_1]; omega
    · rw [psiNew_2]; omega
    · rw [psiNew_3]; omega

/-! ## the bookkeeping invariant -/

theorem pkok_pkc (F : PFrag env s) (P : PKOK env s) (I : PkIn env s fam a0 k)
    (hin : ∀ n c, n < s.nodes.size → c ∈ kidsX s.experts (s.nodeD n).kind → c < s.nodes.size)
    (htop : ∀ (j n : Nat), s.top[j]? = some n → n < s.nodes.size) : PKOK env (pkCreated fam a0 s) := by
  have ha : a0 < s.nodes.size := htop k a0 I.top
  refine ⟨fun op pr hpr => ?_, fun e er he => ?_, ?_, fun n f args hn hk hf => ?_, fun o ob ho => ?_,
    fun op pr hpr v hv => ?_⟩
  · rcases pkc_perkey_inv fam a0 s hpr with h1 | ⟨rfl, rfl⟩
    · have h := P.ops op pr h1
      obtain ⟨x, e, er, hN, -⟩ := h.nodes
      have hlt := hN.lt
      refine h.of_frame (kf_pkc fam a0 F) (fun c x h1 h2 hx hp => ?_)
        (fun x hx ho => by rw [pkc_nodeD_lt fam a0 s hx]; exact ho) (fun j x hj => ?_) fun hs => ?_
      · have hxl := h.core.priv_lt hp
        rcases kidsX_pkc_new fam a0 h1 hx with ⟨-, e⟩ | ⟨-, e⟩ | ⟨-, e⟩ | ⟨-, e⟩
        · rw [e] at hp; exact h.privTop k a0 I.top hp
        · omega
        · omega
        · omega
      · rcases pkc_top_inv fam a0 s hj with h1 | h1
        · exact Or.inl h1
        · right; intro hpv
          have := h.core.priv_lt hpv; omega
      · have hl : pr.lhsChange < s.nodes.size := by rw [hN.lc]; omega
        rw [isStale_pkc_old fam a0 F hin hl] at hs
        rw [pkc_nodeD_lt fam a0 s (by omega)]; exact h.input hs
    · exact opOK_pkc_new F I hin htop
  · rcases pkc_expert_inv fam a0 s he with h | ⟨rfl, rfl⟩
    · obtain ⟨op, pr, hpr, h'⟩ := P.recs e er h
      exact ⟨op, pr, pkc_perkey_old fam a0 s hpr, h'⟩
    · exact ⟨s.perkeys.size, pkNewOp fam s, pkc_perkey_new fam a0 s, Or.inl ⟨rfl, rfl⟩⟩
  · obtain ⟨ψ, hψ⟩ := P.pot
    exact ⟨_, pot_pkc F P I hψ hin htop⟩
  · rcases pkc_cases fam a0 s hn with h | rfl | rfl | rfl | rfl
    · rw [pkc_nodeD_lt fam a0 s h] at hk
      obtain ⟨pr, hpr, hl⟩ := P.lcs n f args h hk hf
      exact ⟨pr, pkc_perkey_old fam a0 s hpr, hl⟩
    · rw [pkc_nodeD_0] at hk
      cases hk
      exact absurd hf (by decide)
    · rw [pkc_nodeD_1] at hk; cases hk
    · rw [pkc_nodeD_2] at hk
      cases hk
      rw [Nat.add_sub_cancel_left]
      exact ⟨pkNewOp fam s, pkc_perkey_new fam a0 s, rfl⟩
    · rw [pkc_nodeD_3] at hk
      cases hk
      exact absurd hf (by decide)
  · obtain ⟨j, hj⟩ := P.obsTop o ob ho
    exact ⟨j, pkc_top_old fam a0 s hj⟩
  · rcases pkc_perkey_inv fam a0 s hpr with h1 | ⟨rfl, rfl⟩
    · obtain ⟨x, e, er, hN, -⟩ := (P.ops op pr h1).nodes
      have hlt := hN.lt
      rw [pkc_nodeD_lt fam a0 s (by omega)] at hv
      exact P.maps op pr h1 v hv
    · rw [show (pkNewOp fam s).result - 1 = s.nodes.size from rfl, pkc_nodeD_0] at hv
      cases hv

/-! ## the key sets -/

theorem norem_pkc (P : PKOK env s) (N : NoRem s) (I : PkIn env s fam a0 k)
    (htop : ∀ (j n : Nat), s.top[j]? = some n → n < s.nodes.size) : NoRem (pkCreated fam a0 s) := by
  have ha : a0 < s.nodes.size := htop k a0 I.top
  intro op pr hpr
  rcases pkc_perkey_inv fam a0 s hpr with hp | ⟨rfl, rfl⟩
  · obtain ⟨x, e, er, hN, -⟩ := (P.ops op pr hp).nodes
    have hlt := hN.lt
    have hx0 := hN.xlt
    have hr : (pkCreated fam a0 s).nodeD (pr.result - 1) = s.nodeD (pr.result - 1) :=
      pkc_nodeD_lt fam a0 s (by omega)
    have hx : (pkCreated fam a0 s).nodeD x = s.nodeD x := pkc_nodeD_lt fam a0 s (by omega)
    exact (N op pr hp).of_nodes hN rfl rfl (fun _ _ h => h) ⟨by rw [hr], by rw [hr]⟩ ⟨by rw [hx], by rw [hx]⟩
  · obtain ⟨c, vc, m, hkc, hv, hval, hs, hw⟩ := I.var
    have hx : (pkCreated fam a0 s).nodeD a0 = s.nodeD a0 := pkc_nodeD_lt fam a0 s ha
    have hnil : ∀ l : List (Int × Int), keysSub [] l := fun l key h => by cases h
    refine ⟨⟨a0, c, vc, m, ?_, by rw [hx]; exact hkc, hv, hval, hs, hnil m, fun w hw' => ?_, fun w hw' => ?_⟩⟩
    · rw [show (pkNewOp fam s).result - 1 = s.nodes.size from rfl, pkc_nodeD_0]
    · rw [hx] at hw'
      obtain ⟨m2, e, a, b⟩ := hw w hw'
      exact ⟨m2, e, a, b, hnil m2⟩
    · rw [show (pkNewOp fam s).result - 1 = s.nodes.size from rfl, pkc_nodeD_0] at hw'
      cases hw'

end

/-! ## the action -/

/-- **`create (.perKey cut fam x)` (`cut` absent or `.eq`) keeps the invariant between actions**, for a re-chosen rank -/
theorem action_create_perKey {env : Env} {rk : Nat → Nat} {s s' : State} {cut : Option CutoffK} {fam : Nat} {x : Opnd}
    {tk : Array Nat} {r : String × Array Nat} (Q : PQ env rk s) (hi : PInstrOK env s (.perKey cut fam x))
    (h : (stepAction env (.create (.perKey cut fam x)) tk).run.run s = (.ok r, s')) : ∃ rk', PQ env rk' s' := by
  obtain ⟨hcut, htempl, ⟨k, o, c, vc, m, rfl, hk, hkind, hv, hval, hs, hw⟩, houter⟩ := hi
  have I : PkIn env s ⟨fam, cut⟩ o k := ⟨hcut, htempl, hk, ⟨c, vc, m, hkind, hv, hval, hs, hw⟩, houter⟩
  have hin := kids_lt_of_q Q.q
  have htop := top_lt_of_q Q.q
  rw [perKey_create_inv (fam := ⟨fam, cut⟩) Q.frag.scope hk h]
  exact ⟨swapRk rk s.nodes.size, pfrag_pkc ⟨fam, cut⟩ o Q.frag, qinv_pkc ⟨fam, cut⟩ o Q.frag Q.pk.recs Q.q (htop k o hk),
    ahhEmpty_pkc ⟨fam, cut⟩ o Q.ahh, pkok_pkc Q.frag Q.pk I hin htop, slotInv_pkc ⟨fam, cut⟩ o Q.frag Q.slots hin,
    norem_pkc Q.pk Q.norem I htop⟩

end IncrVerif.Proofs.PerKeyH
