import IncrVerif.Proofs.FaultH7
import IncrVerif.Proofs.FaultH5
/-!
# Faults in whole histories, part G2: histories after the panic (F2)
-/
namespace IncrVerif.Proofs.FaultH
open IncrVerif.Engine IncrVerif.Driver IncrVerif.Proofs IncrVerif.Proofs.Step

/-! ## single actions on a poisoned state -/

/-- `stabilise` on a poisoned state: the status diagnostic, the state untouched (no node function runs, nothing is
delivered, nothing is logged) -/
theorem stabilise_poisoned {env : Env} {s : State} {tk : Array Nat} (h : s.status ≠ .notStabilising) :
    (stepAction env .stabilise tk).run.run s = (.error (.site "state:stabilise:status"), s) := by
  unfold stepAction
  dsimp only
  exact run_bind_err (Poison.stabilise_refuses env _ s h)

/-- dropping the state and all handles always returns -/
theorem dropAll_returns (env : Env) (s : State) (tk : Array Nat) :
    (stepAction env .dropAll tk).run.run s = (.ok ("ok live=0", tk), { s with alive := false }) := rfl

theorem arm_returns (env : Env) (k : Nat) (s : State) (tk : Array Nat) :
    (stepAction env (.arm k) tk).run.run s = (.ok ("ok", tk), { s with panicCountdown := some k }) := rfl

/-- the variable and the function of a write action -/
def writeFn : Action → Option (Nat × (Val → Val))
  | .set v x => some (v, fun _ => x)
  | .modify v d => some (v, fun y => y.addInt d 7)
  | .update v d => some (v, fun y => y.addInt d 7)
  | .replace v x => some (v, fun _ => x)
  | .replaceWith v d => some (v, fun y => y.addInt d 7)
  | _ => none

/-- the result of a run mapped by `g`, a panic kept -/
def mapRes {α β} (g : α → β) : Except Panic α × State → Except Panic β × State
  | (.ok a, s) => (.ok (g a), s)
  | (.error p, s) => (.error p, s)

theorem run_discard_bind_pure {α β} (x : M α) (c : β) (s : State) :
    (do discard x; pure c : M β).run.run s = mapRes (fun _ => c) (x.run.run s) := by
  simp only [Functor.discard, map_const, Function.comp, map_eq_pure_bind, bind_assoc, pure_bind]
  rw [Proofs.run_bind]
  rcases x.run.run s with ⟨r | r, s1⟩ <;> rfl

theorem run_bind_pure_fn {α β} (x : M α) (g : α → β) (s : State) :
    (do let a ← x; pure (g a) : M β).run.run s = mapRes g (x.run.run s) := by
  rw [Proofs.run_bind]
  rcases x.run.run s with ⟨r | r, s1⟩ <;> rfl

/-- every write action is `writeVar` followed by a `pure` -/
theorem write_action_run (env : Env) {a : Action} {v : Nat} {f : Val → Val} (hw : writeFn a = some (v, f))
    (s : State) (tk : Array Nat) :
    ∃ (isSet : Bool) (g : Val → String),
      (stepAction env a tk).run.run s = mapRes (fun old => (g old, tk)) ((writeVar v f isSet).run.run s) := by
  cases a <;> simp only [writeFn, Option.some.injEq, Prod.mk.injEq, reduceCtorEq] at hw
  case set v' x =>
    obtain ⟨rfl, rfl⟩ := hw
    refine ⟨true, fun _ => "ok", ?_⟩
    unfold stepAction; dsimp only
    exact run_discard_bind_pure _ _ s
  case modify v' d =>
    obtain ⟨rfl, rfl⟩ := hw
    refine ⟨false, fun _ => "ok", ?_⟩
    unfold stepAction; dsimp only
    exact run_discard_bind_pure _ _ s
  case update v' d =>
    obtain ⟨rfl, rfl⟩ := hw
    refine ⟨false, fun _ => "ok", ?_⟩
    unfold stepAction; dsimp only
    exact run_discard_bind_pure _ _ s
  case replace v' x =>
    obtain ⟨rfl, rfl⟩ := hw
    refine ⟨false, fun (old : Val) => "ok " ++ old.render, ?_⟩
    unfold stepAction; dsimp only
    exact run_bind_pure_fn _ (fun (old : Val) => ("ok " ++ old.render, tk)) s
  case replaceWith v' d =>
    obtain ⟨rfl, rfl⟩ := hw
    refine ⟨false, fun (old : Val) => "ok " ++ old.render, ?_⟩
    unfold stepAction; dsimp only
    exact run_bind_pure_fn _ (fun (old : Val) => ("ok " ++ old.render, tk)) s

/-- **a write in the state poisoned by a propagation panic is deferred — for ever**: it returns, the cell keeps its
`value` and only its `pending` slot (and the deferred-writes stack) changes; no later `stabilise_end` will apply it -/
theorem write_deferred (env : Env) {a : Action} {v : Nat} {f : Val → Val} (hw : writeFn a = some (v, f))
    {s : State} {vc : VarCell} (tk : Array Nat) (hst : s.status = .stabilising) (hv : s.vars[v]? = some vc) :
    ∃ r, (stepAction env a tk).run.run s = (.ok (r, tk), Proofs.deferred v vc f s) ∧
      (Proofs.deferred v vc f s).vars[v]? = some { vc with pending := some (f (vc.pending.getD vc.value)) } ∧
      (Proofs.deferred v vc f s).nodes = s.nodes ∧ (Proofs.deferred v vc f s).rch = s.rch := by
  obtain ⟨isSet, g, h⟩ := write_action_run env hw s tk
  rw [Proofs.writeVar_inside_run v f isSet s vc hv hst] at h
  refine ⟨_, h, ?_, rfl, rfl⟩
  have hlt := (Array.getElem?_eq_some_iff.1 hv).1
  show (s.vars.setIfInBounds v _)[v]? = _
  rw [Array.getElem?_setIfInBounds, if_pos rfl, if_pos hlt]

/-- **a write in the state poisoned by a handler panic is immediate**: whatever the outcome, the cell holds the new
value afterwards (and nothing will ever propagate it) -/
theorem write_immediate (env : Env) {a : Action} {v : Nat} {f : Val → Val} (hw : writeFn a = some (v, f))
    {s s' : State} {vc : VarCell} {tk : Array Nat} {r : Except Panic (String × Array Nat)}
    (hst : s.status ≠ .stabilising) (hv : s.vars[v]? = some vc)
    (h : (stepAction env a tk).run.run s = (r, s')) :
    ∃ vc', s'.vars[v]? = some vc' ∧ vc'.value = f vc.value := by
  obtain ⟨isSet, g, h0⟩ := write_action_run env hw s tk
  rw [h0] at h
  have hlt := (Array.getElem?_eq_some_iff.1 hv).1
  have key : ∀ (x : Except Panic Val) (s1 : State), (writeVar v f isSet).run.run s = (x, s1) →
      ∃ vc', s1.vars[v]? = some vc' ∧ vc'.value = f vc.value := by
    intro x s1 hx
    rw [Proofs.writeVar_outside_closed v f isSet s vc hv hst] at hx
    have c1 : ∀ c : VarCell, (Proofs.withCell v c s).vars[v]? = some c := fun c => by
      show (s.vars.setIfInBounds v c)[v]? = _
      rw [Array.getElem?_setIfInBounds, if_pos rfl, if_pos hlt]
    split at hx
    · cases hx; exact ⟨_, c1 _, rfl⟩
    · split at hx
      · cases hx; exact ⟨_, c1 _, rfl⟩
      · split at hx
        · cases hx; exact ⟨_, c1 _, rfl⟩
        · split at hx
          · rcases hy : (rchInsert vc.node).run.run (Proofs.stampedWrite v vc (f vc.value) s) with ⟨r1, s2⟩
            rw [hy] at hx
            have e : s1 = s2 := by
              unfold Proofs.mapOk at hx
              cases r1 <;> cases hx <;> rfl
            have hq := (Step.Pres.rchInsert vc.node).h _ _ _ hy
            rw [e, hq.vars]; exact ⟨_, c1 _, rfl⟩
          · cases hx; exact ⟨_, c1 _, rfl⟩
  rcases hx : (writeVar v f isSet).run.run s with ⟨x, s1⟩
  rw [hx] at h
  obtain ⟨vc', h1, h2⟩ := key x s1 hx
  cases x <;> (unfold mapRes at h; cases h; exact ⟨vc', h1, h2⟩)

/-! ## histories -/

theorem stepCatch_after {env : Env} {a : Action} (ha : FAction env a) (st : State × Array Nat)
    (hp : st.1.status ≠ .notStabilising) : AfterR st.1 (stepCatch env a st).1 := by
  by_cases hs : a = .stabilise
  · subst hs
    unfold stepCatch
    rw [stabilise_poisoned hp]
    exact AfterR.refl _
  · unfold stepCatch
    rcases hx : (stepAction env a st.2).run.run st.1 with ⟨r, s1⟩
    have := (stepAction_after ha hs st.2).h _ _ _ hx
    cases r <;> exact this

/-- **for ever**: along any further history of the fragment, whatever the outcomes, the state stays poisoned and
relates to the state at the panic by `AfterR`: same status, same configuration, NOTHING logged (no node function, no
cutoff, no handler is invoked any more), stored node values kept, no new observer in use -/
theorem runCatch_after {env : Env} : ∀ (acts : List Action) (st : State × Array Nat),
    (∀ a, a ∈ acts → FAction env a) → st.1.status ≠ .notStabilising → AfterR st.1 (runCatch env acts st).1 := by
  intro acts
  induction acts with
  | nil => intro st _ _; exact AfterR.refl _
  | cons a as ih =>
    intro st ha hp
    rw [runCatch_cons]
    have h1 := stepCatch_after (ha a (List.mem_cons_self ..)) st hp
    exact h1.trans (ih _ (fun b hb => ha b (List.mem_cons_of_mem _ hb)) (by rw [h1.status]; exact hp))

/-- every later `stabilise` refuses with the status diagnostic and leaves the state untouched -/
theorem stabilise_refuses_history {env : Env} {as : List Action} {st : State × Array Nat}
    (ha : ∀ a, a ∈ as → FAction env a) (hp : st.1.status ≠ .notStabilising) :
    (stepAction env .stabilise (runCatch env as st).2).run.run (runCatch env as st).1
      = (.error (.site "state:stabilise:status"), (runCatch env as st).1) :=
  stabilise_poisoned (by rw [(runCatch_after as st ha hp).status]; exact hp)

/-- propagation case: every read of every observer is refused as long as the state is alive (after `dropAll`:
`ObservingInvalid`); never a value -/
theorem reads_refused_history {env : Env} {acts : List Action} {st : State × Array Nat}
    (ha : ∀ a, a ∈ acts → FAction env a) (hs : st.1.status = .stabilising) (o : Nat) :
    (runCatch env acts st).1.tryGetValue env o =
      if (runCatch env acts st).1.alive then .error .currentlyStabilising else .error .observingInvalid := by
  have R := runCatch_after acts st ha (by rw [hs]; intro e; cases e)
  have hst : (runCatch env acts st).1.status = .stabilising := R.status.trans hs
  unfold State.tryGetValue
  cases hal : (runCatch env acts st).1.alive
  · rfl
  · simp [hst]

/-- propagation case: no variable's value ever changes again -/
theorem values_parked_history {env : Env} {acts : List Action} {st : State × Array Nat}
    (ha : ∀ a, a ∈ acts → FAction env a) (hs : st.1.status = .stabilising) {v : Nat} {vc : VarCell}
    (hv : st.1.vars[v]? = some vc) : ∃ vc', (runCatch env acts st).1.vars[v]? = some vc' ∧ vc'.value = vc.value :=
  (runCatch_after acts st ha (by rw [hs]; intro e; cases e)).parked hs v vc hv

theorem value_plain (env : Env) (s : State) (n : Nat) (hk : ∀ p i, (s.nodeD n).kind ≠ .mapRef p i) :
    s.value env n = (s.nodeD n).value := by
  unfold State.value State.valueWith
  dsimp only
  split
  · rename_i p i h
    exact absurd (Step.kind_of_kind? h) (hk p i)
  · rfl

/-- handler case: an observer that is in use later was in use at the panic, on the same node, and reads exactly what it
read at the panic -/
theorem reads_stable_history {env : Env} {acts : List Action} {st : State × Array Nat}
    (ha : ∀ a, a ∈ acts → FAction env a) (hs : st.1.status = .runningOnUpdateHandlers)
    (hk : ∀ (n : Nat) (nd : Node), st.1.nodes[n]? = some nd → ∀ p i, nd.kind ≠ .mapRef p i)
    (hr : ∀ (o : Nat) (ob : ObsRec), st.1.observers[o]? = some ob → ob.node < st.1.nodes.size)
    {o : Nat} {ob : ObsRec} (ho : (runCatch env acts st).1.observers[o]? = some ob) (hu : ob.state = .inUse)
    (hal : (runCatch env acts st).1.alive = true) :
    (runCatch env acts st).1.tryGetValue env o = st.1.tryGetValue env o ∧
      ∃ ob0, st.1.observers[o]? = some ob0 ∧ ob0.state = .inUse ∧ ob0.node = ob.node := by
  have R := runCatch_after acts st ha (by rw [hs]; intro e; cases e)
  obtain ⟨ob0, h0, hu0, hn0⟩ := R.obsInUse o ob ho hu
  refine ⟨?_, ob0, h0, hu0, hn0⟩
  have hlt := hr o ob0 h0
  have hnd : st.1.nodes[ob0.node]? = some (st.1.nodeD ob0.node) := some_of_lt hlt
  obtain ⟨nd', hnd', hv', hk', _⟩ := R.nodes _ _ hnd
  have hst' : (runCatch env acts st).1.status = .runningOnUpdateHandlers := R.status.trans hs
  have v1 : st.1.value env ob0.node = (st.1.nodeD ob0.node).value :=
    value_plain env _ _ (hk _ _ hnd)
  have v2 : (runCatch env acts st).1.value env ob0.node = (st.1.nodeD ob0.node).value := by
    rw [value_plain env _ _ (by rw [nodeD_of_some hnd', hk']; exact hk _ _ hnd), nodeD_of_some hnd', hv']
  unfold State.tryGetValue
  rw [hal, R.alive hal, hst', hs, ho, h0]
  simp only [Bool.not_true, Bool.false_eq_true, if_false, hu, hu0]
  rw [← hn0, v1, v2]

theorem stepCatch_dropAll (env : Env) (s : State) (tk : Array Nat) :
    stepCatch env .dropAll (s, tk) = ({ s with alive := false }, tk) := rfl

end IncrVerif.Proofs.FaultH
