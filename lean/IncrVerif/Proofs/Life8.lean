import IncrVerif.Proofs.Life7
/-!
# Observer lifecycle over whole histories, part 8: reads move only at `stabilise` boundaries (C07),
for whole histories
-/
namespace IncrVerif.Proofs.Life
open IncrVerif.Engine IncrVerif.Proofs.Obs

/-- the node half of `Obs.Frame`: `alive`, `status`, and the `kind`/`valid`/`value` of every existing
node are unchanged; nodes may have been appended.  Nothing is said about observers. -/
structure NFrame (s s' : State) : Prop where
  alive : s'.alive = s.alive
  status : s'.status = s.status
  nodesLe : s.nodes.size ≤ s'.nodes.size
  nodes : ∀ n, n < s.nodes.size → (s'.nodes[n]?).map nodeCore = (s.nodes[n]?).map nodeCore

theorem NFrame.refl (s : State) : NFrame s s := ⟨rfl, rfl, Nat.le_refl _, fun _ _ => rfl⟩
theorem NFrame.trans {a b c : State} (h1 : NFrame a b) (h2 : NFrame b c) : NFrame a c where
  alive := h2.alive.trans h1.alive
  status := h2.status.trans h1.status
  nodesLe := Nat.le_trans h1.nodesLe h2.nodesLe
  nodes n hn := (h2.nodes n (Nat.lt_of_lt_of_le hn h1.nodesLe)).trans (h1.nodes n hn)
instance : PreOrd NFrame := ⟨NFrame.refl, NFrame.trans⟩

theorem NFrame.of_frame {s s' : State} (h : Frame s s') : NFrame s s' :=
  ⟨h.alive, h.status, h.nodesLe, h.nodes⟩

theorem NFrame.of_eq {s s' : State} (h1 : s'.alive = s.alive) (h2 : s'.status = s.status)
    (h3 : s'.nodes = s.nodes) : NFrame s s' :=
  ⟨h1, h2, by rw [h3]; exact Nat.le_refl _, fun _ _ => by rw [h3]⟩

theorem NFrame.value_eq (env : Env) {s s' : State} (h : NFrame s s') (hwf : MapRefsBackward s)
    {n : Nat} (hn : n < s.nodes.size) : s'.value env n = s.value env n := by
  simp only [State.value]
  have := h.nodesLe
  exact Step.valueWith_congr_below env.proj s s' hwf n (fun m hm => nodeD_core_of_map_eq (h.nodes m (by omega)))
    _ _ (by omega) (by omega)

theorem NFrame.disallowState (s : State) (o : Nat) : NFrame s (disallowState s o) := by
  unfold Life.disallowState
  cases s.observers[o]? with
  | none => exact NFrame.refl _
  | some ob =>
    obtain ⟨n, st, hs, c⟩ := ob
    cases st <;> exact NFrame.of_eq rfl rfl rfl

theorem NFrame.dropObsState (s : State) (o : Nat) : NFrame s (dropObsState s o) := by
  unfold Life.dropObsState
  cases s.observers[o]? with
  | none => exact NFrame.refl _
  | some ob =>
    simp only []
    split
    · exact NFrame.refl _
    · split
      · exact NFrame.trans (b := { s with observers := s.observers.modify o fun x =>
          { x with clones := x.clones - 1 } }) (NFrame.of_eq rfl rfl rfl) (NFrame.disallowState _ o)
      · exact NFrame.of_eq rfl rfl rfl

/-- the actions between two stabilisations that cannot move a read: everything except `stabilise`
itself, `drop_all` (every read becomes `ObservingInvalid`) and the expert call `add_dependency` (it
runs the necessity and invalidation cascades outside a stabilisation) -/
def Action.keepsReads : Action → Bool
  | .stabilise | .dropAll | .addDep .. => false
  | _ => true

theorem PresN.stepAction (env : Env) (a : Action) (tokens : Array Nat)
    (ha : Action.keepsReads a = true) : Pres NFrame (stepAction env a tokens) := by
  by_cases hq : Action.isQuiet a = true
  · exact (Pres.stepAction_quiet env a tokens hq).mono fun _ _ h => NFrame.of_frame h.toFrame
  · cases a <;> simp only [Action.isQuiet, not_true_eq_false, Bool.false_eq_true] at hq
    all_goals simp only [Action.keepsReads, Bool.false_eq_true] at ha
    · exact (Pres.stepAction_create env _ tokens).mono fun _ _ h => NFrame.of_frame h
    · constructor
      intro s r s' hrun
      rw [stepAction_observe_run] at hrun
      split at hrun <;> cases hrun
      · exact NFrame.of_eq rfl rfl rfl
      · exact NFrame.refl _
    · constructor
      intro s r s' hrun
      rw [stepAction_dropObs_run] at hrun; cases hrun
      exact NFrame.dropObsState s _
    · constructor
      intro s r s' hrun
      rw [stepAction_disallow_run] at hrun; cases hrun
      exact NFrame.disallowState s _

/-- histories without `stabilise`, `drop_all`, `add_dependency` -/
def Between (a : Action) (_ : Except Panic (String × Array Nat)) : Prop := Action.keepsReads a = true

theorem Run.nframe {env : Env} {s s' : State} (h : Run env Between s s') : NFrame s s' :=
  Run.induct (fun a tokens ⟨_, hp⟩ => PresN.stepAction env a tokens hp)
    (fun _ => NFrame.of_eq rfl rfl rfl) h

/-- O5 (C07 for whole histories): between two stabilisations — along any list of API actions other
than `stabilise`, `drop_all` and `add_dependency`, whatever their outcomes — an observer whose
lifecycle state is the same at the end as at the start reads the same result at the end as at the
start.  The two well-formedness facts of `Props/C07.lean` are needed for the initial state only. -/
theorem Run.read_eq (env : Env) {s s' : State} (h : Run env Between s s')
    (hwf : MapRefsBackward s) (hobs : ObsNodesInRange s) (o : Nat) (ob ob' : ObsRec)
    (e : s.observers[o]? = some ob) (e' : s'.observers[o]? = some ob')
    (hst : ob'.state = ob.state) : s'.tryGetValue env o = s.tryGetValue env o := by
  have hn := h.nframe
  obtain ⟨ob'', e'', hnode, _⟩ := h.life.obs o ob e
  rw [e'] at e''; cases e''
  rw [tryGetValue_eq_readTable, tryGetValue_eq_readTable, hn.alive, hn.status, e, e']
  have hc : obsCore ob' = obsCore ob := by simp [obsCore, hnode, hst]
  simp only [Option.map_some, hc]
  apply readTable_congr_value
  intro n st hns
  simp only [obsCore, Option.some.injEq, Prod.mk.injEq] at hns
  rw [← hns.1]
  exact hn.value_eq env hwf (hobs o ob e)

end IncrVerif.Proofs.Life
