import IncrVerif.Proofs.PerKeyH26
import IncrVerif.Proofs.PerKeyH28
import IncrVerif.Proofs.PerKeyH55
/-!
# A run of a per-key change detector, part 8: **`lcStepSpec (env) : LcStepSpec env`**
-/
namespace IncrVerif.Proofs.PerKeyH
open IncrVerif.Engine IncrVerif.Driver IncrVerif.Proofs IncrVerif.Proofs.Step IncrVerif.Proofs.Sched
open IncrVerif.Proofs.ExpertH IncrVerif.Proofs.EffH IncrVerif.Proofs.DriverH IncrVerif.Proofs.ExpertH.QR

/-- **One run of a per-key change detector keeps the drain invariant with per-key operators** (contract `LcStepSpec`
of PK3): `PD env s (some n)`, `NoRem s`, `n` a change detector `map (fnPerKey + op) args`, a successful
`recomputeOne env fuel n` from `s` to `s'` ⟹ `PD env s' r ∧ NoRem s' ∧ PStep s s' ∧ n is stamped in V s'`.
The run is split (`lc_run_split`) into the loop of `perKeyDriver` from the loop invariant at the start (`li_start_of`, with the
result necessary: `res_nec`) to `LE` (`driver_end`), and the final `maybeChangeValue` (`lc_final`). -/
theorem lcStepSpec (env : Env) : LcStepSpec env := by
  intro fuel n op args s s' r D N hk h
  obtain ⟨pr, eres, B⟩ := lcbase_of D N hk
  obtain ⟨m, s2, -, hconv, hm, hdrv, hmcv⟩ := lc_run_split B hk h
  exact lc_final B (driver_end B (li_start_of B (res_nec D B.hop B.hn)) hconv hm hdrv) hmcv

end IncrVerif.Proofs.PerKeyH
