import IncrVerif.Proofs.PerKeyH77
import IncrVerif.Proofs.PerKeyH78
import IncrVerif.Proofs.PerKeyH89
/-!
# Per-key operators, `stabilise`, part 3: the prefix of `stabilise`

* `isStale_V`: staleness of the actual state is `staleOf` of the value-faithful virtual state.
* `obsMap_back`: observer records along two `ObsMap`s, backwards.
* **`stab_startP`**: after the prefix of `stabilise` (status set, observers added and unlinked) the drain invariant
  `PD env t2 none` and `NoRem t2` hold (`VSim`: the static engine runs the prefix on the virtual states; the static lemmas
  `addNewObservers_s`/`unlinkDisallowedObservers_s` there).
-/
namespace IncrVerif.Proofs.PerKeyH
open IncrVerif.Engine IncrVerif.Driver IncrVerif.Proofs IncrVerif.Proofs.Step IncrVerif.Proofs.Sched
open IncrVerif.Proofs.ExpertH IncrVerif.Proofs.EffH IncrVerif.Proofs.DriverH IncrVerif.Proofs.ExpertH.QR

/-- staleness of the actual state, read in the value-faithful virtual state -/
theorem isStale_V {env : Env} {s : State} (F : PFrag env s) (m : Nat) : s.isStale m = staleOf (V s) m := by
  rw [← V_isStale s m]
  exact isStale_static (V s) m (by rw [V_nodeD, vNode_valid]; exact F.validD m) (staticKind_VD F m)

/-- observer records along two `ObsMap`s, backwards -/
theorem obsMap_back {f g : ObsState → ObsState} {a b c : State} (h1 : ObsMap f a b) (h2 : ObsMap g b c)
    {o : Nat} {ob' : ObsRec} (ho : c.observers[o]? = some ob') :
    ∃ ob, a.observers[o]? = some ob ∧ ob.node = ob'.node := by
  have hlt : o < a.observers.size := by
    rw [← h1.1, ← h2.1]
    exact (Array.getElem?_eq_some_iff.1 ho).1
  have ha : a.observers[o]? = some a.observers[o] := Array.getElem?_eq_getElem hlt
  obtain ⟨ob1, hb, hn1, -⟩ := h1.2 o _ ha
  obtain ⟨ob2, hc, hn2, -⟩ := h2.2 o _ hb
  rw [ho] at hc; cases hc
  exact ⟨_, ha, by rw [hn2, hn1]⟩

theorem V_status_set (s : State) (x : Status) : V { s with status := x } = { V s with status := x } := rfl

/-- **the prefix of `stabilise`** ends in the drain invariant with per-key operators -/
theorem stab_startP {env : Env} {rk : Nat → Nat} {fuel : Nat} {s s0 t1 t2 : State}
    (Q : PQ env rk s) (hs0 : s0 = { s with status := .stabilising })
    (h1 : (addNewObservers env fuel).run.run s0 = (.ok (), t1))
    (h2 : (unlinkDisallowedObservers fuel).run.run t1 = (.ok (), t2)) :
    PD env t2 none ∧ NoRem t2 ∧ ObsInv (V t2) [] [] ∧ t2.newObservers = [] ∧ t2.disallowedObservers = [] ∧
      PFrame (V s0) (V t2) := by
  have Qv := Q.q
  have hs0V : V s0 = { V s with status := .stabilising } := by rw [hs0]; rfl
  have hnd0 : ∀ m, (V s0).nodeD m = (V s).nodeD m := fun m => by rw [hs0V]; rfl
  have hsz0 : (V s0).nodes.size = (V s).nodes.size := by rw [hs0V]
  have F0 : PFrag env s0 := by
    rw [hs0]
    exact ⟨Q.frag.pc, Q.frag.kind, Q.frag.valid, Q.frag.cutoff, Q.frag.top, Q.frag.force, Q.frag.xrec, Q.frag.xnode,
      Q.frag.xok, Q.frag.scope⟩
  have A0 : QR.AhhEmpty s0 := by
    rw [hs0]; exact ⟨Q.ahh.length, Q.ahh.buckets, Q.ahh.marks⟩
  have hp0 : s0.propagateInvalidity = [] := by rw [hs0]; exact Qv.pinv
  have S0V : Struct (penv env) rk (V s0) := by
    rw [hs0V]; exact Qv.struct.congr (SameG.of_nodes rfl rfl rfl rfl rfl)
  have O0V : ObsOK (V s0) := by
    rw [hs0V]
    exact ⟨Qv.obs.inRange, Qv.obs.mem, Qv.obs.created, Qv.obs.newIn, Qv.obs.dis, Qv.obs.disIn, Qv.obs.disNodup⟩
  have S0 : SInv (penv env) rk (V s0) (V s0).newObservers (V s0).disallowedObservers :=
    ⟨S0V, O0V, hp0, fun m => by rw [hnd0]; exact Qv.handlers m⟩
  -- the prefix, run by the static engine on the virtual states
  obtain ⟨hv1, fr1⟩ := VSim.addNewObservers env fuel s0 (fr_of_pfrag F0 hp0) () t1 h1
  obtain ⟨S1, hn1, hd1, P1, O1, -⟩ := addNewObservers_s S0 hv1
  obtain ⟨hv2, fr2⟩ := VSim.unlinkDisallowedObservers fuel t1 fr1 () t2 h2
  obtain ⟨S2, hn2, hd2, P2, O2⟩ := unlinkDisallowedObservers_s S1 hn1 hv2
  have PV : PFrame (V s0) (V t2) := P1.trans P2
  have hn2' : t2.newObservers = [] := hn2
  have hd2' : t2.disallowedObservers = [] := hd2
  -- frames of the actual run
  have X : XF s0 t2 := XF.trans ((PresX.addNewObservers env fuel).h _ _ _ h1)
    ((PresX.unlinkDisallowedObservers fuel).h _ _ _ h2)
  have hpk : t2.perkeys = s0.perkeys :=
    Eq.trans ((KP.unlinkDisallowedObservers fuel).h _ _ _ h2) ((KP.addNewObservers env fuel).h _ _ _ h1)
  have A2 : QR.AhhEmpty t2 := ahhEmpty_of_ahf (ahhEmpty_of_ahf A0 ((PresAh.addNewObservers env fuel).h _ _ _ h1))
    ((PresAh.unlinkDisallowedObservers fuel).h _ _ _ h2)
  have hnk : ∀ m, (t2.nodeD m).cutoff = (s0.nodeD m).cutoff ∧ (t2.nodeD m).createdIn = (s0.nodeD m).createdIn ∧
      (t2.nodeD m).forceNecessary = (s0.nodeD m).forceNecessary ∧ (t2.nodeD m).value = (s0.nodeD m).value ∧
      (t2.nodeD m).numOnUpdateHandlers = (s0.nodeD m).numOnUpdateHandlers := by
    intro m
    have := PV.nk m
    simp only [V_nodeD, vNode_cutoff, vNode_createdIn, vNode_forceNecessary, vNode_value, vNode_num] at this
    exact ⟨this.2.2.1, this.2.1, this.2.2.2.2.2.2.2.1, this.2.2.2.1, this.2.2.2.2.2.2.2.2⟩
  have F2 : PFrag env t2 := F0.of_xg (XG.of_xf X) fr2.pc fr2.valid fr2.ni
    (fun m => ⟨(hnk m).1, (hnk m).2.1, (hnk m).2.2.1⟩) PV.sk.2.2.2.2.1
  have SV2 : Struct (penv env) rk (V t2) := S2.struct
  obtain ⟨V2, now2, st2, vs2, cons2⟩ := Qv.at_start hs0V PV
  have D2 : BindH.DInv (penv env) (V t2) none := dinv_of_struct SV2 V2 now2 st2 vs2 cons2
  -- observers
  have O2V : ObsInv (V t2) [] [] := S2.obs
  have hlist : ∀ m o, o ∈ (t2.nodeD m).observers →
      ∃ ob, t2.observers[o]? = some ob ∧ ob.node = m ∧ (ob.state = .inUse ∨ ob.state = .disallowed) := by
    intro m o ho
    have := (O2V.mem m o).1 (by rw [V_nodeD, vNode_observers]; exact ho)
    exact this
  have hrec : ∀ (o : Nat) (ob' : ObsRec), t2.observers[o]? = some ob' →
      ∃ ob, s.observers[o]? = some ob ∧ ob.node = ob'.node := by
    intro o ob' ho
    have ho' : (V t2).observers[o]? = some ob' := ho
    obtain ⟨ob, h3, h4⟩ := obsMap_back O1 O2 ho'
    have h3' : s0.observers[o]? = some ob := h3
    rw [hs0] at h3'
    exact ⟨ob, h3', h4⟩
  -- the bookkeeping frame
  have stale2 : ∀ m, t2.isStale m = s0.isStale m := fun m => by
    rw [isStale_V F2, isStale_V F0, PV.staleOf]
  have KF0 : PKF s s0 := by
    rw [hs0]
    exact ⟨XF.of_nodes rfl rfl rfl, fun _ => rfl, fun _ => rfl, rfl, rfl, rfl, fun _ => rfl⟩
  have KF2 : PKF s0 t2 := ⟨X, fun m => (hnk m).2.2.2.1, stale2, PV.top, hpk, PV.vars, PV.recomputedAt⟩
  have KF := KF0.trans KF2
  have PK2 : PKOK env t2 := PKOK.of_frame KF Q.pk hrec
    (fun m o ho => by obtain ⟨ob, h3, h4, -⟩ := hlist m o ho; exact ⟨ob, h3, h4⟩)
  -- the callback discipline
  have hv0 : ∀ m, (s0.nodeD m).valid = true := F0.validD
  have L0 : SlotInv env s0 := by rw [hs0]; exact slotInv_status Q.slots .stabilising
  have L1 := addNewObservers_slots hv0 hp0 L0 h1
  have L2 := unlinkDisallowedObservers_slots fr1.valid L1 h2
  have X2 : AuxP env t2 :=
    ⟨F2, A2, fr2.pinv,
      fun m => by rw [(hnk m).2.2.2.2]; have := Qv.handlers m; rw [← hnd0, V_nodeD, vNode_num] at this; exact this,
      ⟨rk, SV2.static⟩, fun c => by have := SV2.nodup c; rwa [V_nodeD, vNode_parents] at this, V2, PK2, L2, hlist,
      fun k x hk => by
        have e : t2.top = s.top := by rw [show t2.top = s0.top from PV.top, hs0]
        rw [e] at hk
        have := Qv.top k x hk
        rw [← hsz0, ← PV.size, V_size] at this; exact this⟩
  exact ⟨⟨D2, X2⟩, NoRem.of_pkf KF Q.norem, O2V, hn2', hd2', PV⟩

end IncrVerif.Proofs.PerKeyH
