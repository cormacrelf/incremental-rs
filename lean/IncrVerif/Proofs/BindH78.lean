import IncrVerif.Proofs.BindH61
import IncrVerif.Proofs.BindH43
import IncrVerif.Proofs.Sched8
/-!
# Binds, fragment F1, CF1: the auxiliary invariant `F1Inv` is kept by a run of a static-kind / `bindMain` node and by `remove_min`

The counterpart of `BindH42`/`BindH43` (namespace `BF`) for `F1Inv` in place of `F0Inv`.  The extra frame needed is `numOnUpdateHandlers` (not in `SameShape`/`NodeSame`): it comes from
`Sched.Calm` (`Sched.PresC.maybeChangeValue`) and a closed form of `recomputeOne` that names the start state.
-/
namespace IncrVerif.Proofs.BindH
open IncrVerif.Engine IncrVerif.Proofs IncrVerif.Proofs.Step IncrVerif.Proofs.Sched IncrVerif.Proofs.Quiet
namespace CF

/-- `BF.recomputeOne_closed` with the start state named: `started n s` with some events logged -/
theorem recomputeOne_closed' {env : Env} {fuel n : Nat} {s s' : State} {r : Option Nat}
    (g : BGraph env s) (hn : s.isNecessary n = true)
    (hk : StaticKind env (s.nodeD n).kind ∨ ∃ b lc, (s.nodeD n).kind = .bindMain b lc)
    (hvals : ∀ c, c ∈ s.children n → ∃ v, (s.nodeD c).value = some v)
    (h : (recomputeOne env fuel n).run.run s = (.ok r, s')) :
    ∃ v es, (maybeChangeValue env fuel n v).run.run (Step.logged es (Step.started n s)) = (.ok r, s') := by
  have hlt := nec_lt_size hn
  have hv := (g.nec n hn).1
  have hnn := some_of_lt hlt
  have e0 : ∀ S : State, Step.logged [] S = S := fun _ => rfl
  rcases hk with hk | ⟨b, lc, hkd⟩
  · obtain ⟨vals, hpv, hvo⟩ := BS.vals_of_children g hlt hv hk hvals
    cases hkd : (s.nodeD n).kind with
    | const w =>
      rw [recomputeOne_const_run env fuel n s _ w hnn hv hkd] at h
      exact ⟨_, [], by rw [e0]; exact h⟩
    | var c =>
      obtain ⟨vc, hvc⟩ := g.var n c hlt hv hkd
      rw [recomputeOne_var_run env fuel n s _ c vc hnn hv hkd hvc] at h
      exact ⟨_, [], by rw [e0]; exact h⟩
    | map f args =>
      rw [hkd] at hk hpv hvo
      by_cases hf : f < fnZip
      · rw [recomputeOne_map_run env fuel n s _ f args vals hnn hv hkd hf hvo (hk.2 hf vals) g.pc] at h
        exact ⟨_, _, h⟩
      · rw [recomputeOne_mapBuiltin_run env fuel n s _ f args vals hnn hv hkd hf hk.1 hvo] at h
        exact ⟨_, [], by rw [e0]; exact h⟩
    | fold f init cs =>
      rw [hkd] at hpv hvo
      rw [recomputeOne_fold_run env fuel n s _ f init cs vals hnn hv hkd hvo g.pc] at h
      exact ⟨_, _, h⟩
    | mapRef _ _ => rw [hkd] at hk; exact hk.elim
    | mapWithOld _ _ => rw [hkd] at hk; exact hk.elim
    | bindLhsChange _ => rw [hkd] at hk; exact hk.elim
    | bindMain _ _ => rw [hkd] at hk; exact hk.elim
    | expert _ => rw [hkd] at hk; exact hk.elim
  · obtain ⟨br, hbr, -, -, -⟩ := g.mainRec n b lc hlt hv hkd
    cases hr : br.rhs with
    | none =>
      obtain ⟨e, t, he⟩ := BS.recomputeOne_bindMain_norhs env fuel n s _ b lc br hnn hv hkd hbr hr
      rw [he] at h; cases h
    | some r0 =>
      have hch : s.children n = [lc, r0] := by
        simp only [State.children, BS.kind?_of_valid hv, hkd, hbr, hr]
      have hmem : r0 ∈ s.children n := by rw [hch]; simp
      obtain ⟨hrlt, hrv⟩ := (g.node n hlt hv).2.2 r0 hmem
      obtain ⟨v, hval⟩ := hvals r0 hmem
      have hval' : s.value env r0 = some v := by
        rw [value_plain env s r0 (BS.BKind.not_mapRef (g.node r0 hrlt hrv).1)]; exact hval
      rw [recomputeOne_bindMain_run env fuel n s _ b lc r0 br _ v hnn hv hkd hbr hr (some_of_lt hrlt) hrv
        hval'] at h
      exact ⟨_, [], by rw [e0]; exact h⟩

/-- no node's count of update handlers changes -/
theorem recomputeOne_num {env : Env} {fuel n : Nat} {s s' : State} {r : Option Nat}
    (g : BGraph env s) (hn : s.isNecessary n = true)
    (hk : StaticKind env (s.nodeD n).kind ∨ ∃ b lc, (s.nodeD n).kind = .bindMain b lc)
    (hvals : ∀ c, c ∈ s.children n → ∃ v, (s.nodeD c).value = some v)
    (h : (recomputeOne env fuel n).run.run s = (.ok r, s')) (m : Nat) :
    (s'.nodeD m).numOnUpdateHandlers = (s.nodeD m).numOnUpdateHandlers := by
  obtain ⟨v, es, h0⟩ := recomputeOne_closed' g hn hk hvals h
  rw [((PresC.maybeChangeValue env fuel n v).h _ _ s' h0).num m]
  show ((Step.started n s).nodeD m).numOnUpdateHandlers = _
  rw [started_nodeD]; split <;> rfl

/-- `All1` only reads the shape of the nodes, the node count, `binds`, `currentScope`, `panicCountdown` -/
theorem all1_transfer {env : Env} {s s' : State} {dy : List Nat} (A : All1 env s dy)
    (hsz : s'.nodes.size = s.nodes.size)
    (hsh : ∀ m, SameShape (s.nodeD m) (s'.nodeD m))
    (hb : s'.binds = s.binds) (hsc : s'.currentScope = .top) (hpc : s'.panicCountdown = none) :
    All1 env s' dy :=
  A.congr hsz hb (fun m => (hsh m).kind) (fun m => (hsh m).valid) (fun m => (hsh m).cutoff) (fun m => (hsh m).createdIn) hpc hsc

/-- `F1Inv` only reads: the shape of the nodes, the `heightInAhh` and `numOnUpdateHandlers` markers, `inRch` of INVALID nodes,
the number of nodes, `binds`, `top`, `ahh`, `propagateInvalidity`, `currentScope`, `panicCountdown` -/
theorem F1Inv.transfer {env : Env} {s s' : State} (A : F1Inv env s)
    (hsz : s'.nodes.size = s.nodes.size)
    (hsh : ∀ m, SameShape (s.nodeD m) (s'.nodeD m))
    (hnum : ∀ m, (s'.nodeD m).numOnUpdateHandlers = (s.nodeD m).numOnUpdateHandlers)
    (hin : ∀ m, (s'.nodeD m).inRch = true → (s.nodeD m).inRch = true ∨ (s.nodeD m).valid = true)
    (hah : BF.HAh s s')
    (hb : s'.binds = s.binds) (htop : s'.top = s.top) (hahh : s'.ahh = s.ahh)
    (hpinv : s'.propagateInvalidity = s.propagateInvalidity) (hsc : s'.currentScope = s.currentScope)
    (hpc : s'.panicCountdown = none) : F1Inv env s' := by
  refine
    { frag := all1_transfer A.frag hsz hsh hb (hsc.trans A.frag.scope) hpc
      nodup := fun c => by rw [(hsh c).parents]; exact A.nodup c
      ahh := ⟨by rw [hahh]; exact A.ahh.length, ?_, fun m => (hah m).trans (A.ahh.marks m)⟩
      pinv := hpinv.trans A.pinv
      noForce := fun m => by rw [(hsh m).forceNecessary]; exact A.noForce m
      noHandlers := fun m => by rw [hnum]; exact A.noHandlers m
      inv := fun m hv => ?_
      scopeObs := fun m b h => by
        rw [(hsh m).observers]; exact A.scopeObs m b (by rw [← (hsh m).createdIn]; exact h)
      lcObs := fun m b h => by rw [(hsh m).observers]; exact A.lcObs m b (by rw [← (hsh m).kind]; exact h)
      lcCut := fun m b h => by rw [(hsh m).cutoff]; exact A.lcCut m b (by rw [← (hsh m).kind]; exact h)
      topOK := fun k r h => ?_
      closures := fun b br v h => (templOK_congr htop _ _).2 (A.closures b br v (by rw [← hb]; exact h))
      rhsNone := fun b br h => A.rhsNone b br (by rw [← hb]; exact h)
      rhsOK := fun b br o h ho => ?_ }
  · -- the buckets of the adjust-heights heap
    intro i hi
    have hi' : i < s.ahh.queues.size := by rw [← hahh]; exact hi
    have := A.ahh.buckets i hi'
    simp only [hahh]; exact this
  · -- invalid nodes
    have hv0 : (s.nodeD m).valid = false := by rw [← (hsh m).valid]; exact hv
    obtain ⟨h1, h2, h3⟩ := A.inv m hv0
    refine ⟨by rw [(hsh m).parents]; exact h1, by rw [(hsh m).observers]; exact h2, ?_⟩
    cases hq : (s'.nodeD m).inRch with
    | false => rfl
    | true =>
      rcases hin m hq with h | h
      · rw [h3] at h; cases h
      · rw [hv0] at h; cases h
  · obtain ⟨h1, h2, h3⟩ := A.topOK k r (by rw [← htop]; exact h)
    exact ⟨by rw [hsz]; exact h1, by rw [(hsh r).createdIn]; exact h2, fun b' => by rw [(hsh r).kind]; exact h3 b'⟩
  · rw [(hsh o).createdIn, (hsh o).kind, (hsh o).valid]
    exact A.rhsOK b br o (by rw [← hb]; exact h) ho

end CF

/-- `F1Inv` is kept by a successful `recomputeOne` on a necessary node of a static kind or of kind `bindMain` -/
theorem recomputeOne_stepB_F1 {env : Env} {fuel n : Nat} {s s' : State} {r : Option Nat}
    (g : BGraph env s) (hi : HeapInv s) (hn : s.isNecessary n = true)
    (hk : StaticKind env (s.nodeD n).kind ∨ ∃ b lc, (s.nodeD n).kind = .bindMain b lc)
    (hvals : ∀ c, c ∈ s.children n → ∃ v, (s.nodeD c).value = some v)
    (h : (recomputeOne env fuel n).run.run s = (.ok r, s')) (A : F1Inv env s) : F1Inv env s' := by
  obtain ⟨v, ch, -, R⟩ := recomputeOne_stepB g hi hn hk hvals h
  have K := BF.recomputeOne_keyD_B g hn hk hvals h
  have H := BF.recomputeOne_hah g hn hk hvals h
  simp only [KeyD, stateKeyD, Prod.mk.injEq] at K
  obtain ⟨-, -, hsc, htop, -, -, hpinv, -, -, -, hahh⟩ := K
  refine CF.F1Inv.transfer A R.size (fun m => ?_) (CF.recomputeOne_num g hn hk hvals h) (fun m hq => ?_) H R.binds
    htop hahh hpinv hsc R.pc
  · by_cases e : m = n
    · rw [e]; exact R.shape
    · exact SameShape.of_nodeSame (R.other m e)
  · rcases R.newIn m hq with h1 | ⟨-, h2⟩
    · exact Or.inl h1
    · obtain ⟨⟨p, i⟩, hpi, rfl⟩ := List.mem_map.1 h2
      exact Or.inr (g.nec p (g.parent n p i hpi).1).1

/-- `F1Inv` is kept by `remove_min` -/
theorem pop_F1 {env : Env} {s s1 : State} {n : Nat} (hi : HeapInv s)
    (hr : rchRemoveMin.run.run s = (.ok (some n), s1)) (A : F1Inv env s) : F1Inv env s1 := by
  have hpop := rchRemoveMin_inv hi hr
  simp only at hpop
  obtain ⟨-, -, -, hs1, -⟩ := hpop
  have hnode : ∀ m, s1.nodeD m =
      if n = m ∧ m < s.nodes.size then { s.nodeD m with heightInRch := -1 } else s.nodeD m := by
    intro m
    rw [hs1]
    exact nodeD_modify { s with rch := s1.rch } n m (fun x => { x with heightInRch := -1 })
  refine CF.F1Inv.transfer A (by rw [hs1]; simp) (fun m => ?_) (fun m => ?_) (fun m hq => Or.inl ?_) (fun m => ?_)
    (by rw [hs1]) (by rw [hs1]) (by rw [hs1]) (by rw [hs1]) (by rw [hs1]) (by rw [hs1]; exact A.frag.pc)
  · rw [hnode]; split <;> exact ⟨rfl, rfl, rfl, rfl, rfl, rfl, rfl, rfl⟩
  · rw [hnode]; split <;> rfl
  · rw [hnode] at hq
    split at hq
    · simp [Node.inRch] at hq
    · exact hq
  · rw [hnode]; split <;> rfl

end IncrVerif.Proofs.BindH
