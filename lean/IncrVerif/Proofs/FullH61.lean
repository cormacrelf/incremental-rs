import IncrVerif.Proofs.FullH53
import IncrVerif.Proofs.FullH60
/-!
# C01 full fragment: the kit of special steps from the hypothesis on the closure bodies; API actions and whole histories keep the invariant
-/
namespace IncrVerif.Proofs.FullH
open IncrVerif.Engine IncrVerif.Driver IncrVerif.Proofs IncrVerif.Proofs.Step IncrVerif.Proofs.Sched IncrVerif.Proofs.Quiet
open IncrVerif.Proofs.NestH (progOf ZipPair den2)

section
variable {env : Env} {sp : Nat → Val → Val}

/-- the kit of special steps, from the global hypothesis on the closure bodies -/
theorem kit (E : EnvS env sp) (hF : FirstFn env) : Kit env sp := kit_of E hF (lcKSpec_of_envS E)

/-- **every API action keeps the invariant between actions** -/
theorem step_all (E : EnvS env sp) (hF : FirstFn env) {s s' : State} {a : Action} {tk : Array Nat} {r : String × Array Nat}
    (Q : QInvFE env sp s) (hA : ActionFull env sp s.top.size a)
    (h : (stepAction env a tk).run.run s = (.ok r, s')) : QInvFE env sp s' := by
  by_cases hs : a = .stabilise
  · subst hs
    obtain ⟨g, Q⟩ := Q
    obtain ⟨g', R⟩ := stabilise_full (kit E hF) Q (stabilise_run_of_step h).1
    exact ⟨g', R.inv⟩
  · exact step_full Q hA hs h

/-- **whole histories** -/
theorem history_inv (E : EnvS env sp) (hF : FirstFn env) {N : Nat} {d : Bool} {acts : List Action} {s : State} {tk : Array Nat}
    (hH : HistFull env sp 0 acts) (h : Quiet.runActions env acts (State.init N d) #[] = .ok (s, tk)) : QInvFE env sp s := by
  obtain ⟨g, Q, -, -⟩ := history_full (kit E hF) (po := fun _ => true) hH h
  exact ⟨g, Q⟩

end
end IncrVerif.Proofs.FullH
