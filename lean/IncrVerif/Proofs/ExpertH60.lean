import IncrVerif.Proofs.ExpertH59
/-!
# Expert nodes, E2: threading `SlotInv` — the `Pres` ladders of `SR` and `FM`

`PresR.*`: `SR env` for every engine function outside a recompute (both cascades, heights, heaps, observers, writes).
`PresM.*`: `FM` for the linking cascade and the neutral steps.
`CR env`: `SR env ∧ FM` from states in which every node is valid and nothing waits in `propagateInvalidity`
(there `propagate_invalidity` is a no-op).
-/
namespace IncrVerif.Proofs.ExpertH
open IncrVerif.Engine IncrVerif.Driver IncrVerif.Proofs IncrVerif.Proofs.Step IncrVerif.Proofs.Sched
open IncrVerif.Proofs.ExpertH.QR IncrVerif.Proofs.Xp

/-! ## `SR` -/

section
variable {env : Env}

theorem PresR.modNode (n : Nat) (f : Node → Node) (hf : ∀ x, slotKey (f x) = slotKey x) :
    Step.Pres (SR env) (Engine.modNode n f) := by
  unfold Engine.modNode; exact Step.Pres.modify fun s => SR.modNode env s n f hf
end

/-- the writes that `SR env` does not allow on their own: of the five node fields of `slotKey`, a pushed node, of the children, slots and flags of an
expert record that `RecR` reads, a pushed record, `nextDep` -/
def SR.breaks : List Footprint.Tag :=
  [.nChangedAt, .nInvalid, .vClear, .vClearRef, .vStore, .vStoreOld, .stamp, .erase, .pushNode, .xSlots, .xForceStale, .xAddChild, .xChildren,
   .xDropChild, .xRan, .pushExpert, .nextDep]

theorem SR.of_edit {env : Env} {L w} (hL : ∀ t ∈ L, t ∉ SR.breaks) {s s' : State} (e : Footprint.Edit L w s s') : SR env s s' := by
  cases e
  case node n f hf => exact SR.modNode env s n f fun x => by cases hf <;> first | rfl | exact absurd (hL _ ‹_›) (by decide)
  case expert i f hf =>
    exact SR.modExpert env s i f fun x _ => by
      cases hf <;> first
        | exact RecR.of_same rfl rfl (fun h => h) rfl | exact RecR.of_same rfl rfl (fun _ => rfl) rfl | exact absurd (hL _ ‹_›) (by decide)
  all_goals first
    | exact SR.of_nodes rfl rfl rfl
    | exact absurd (hL _ ‹_›) (by decide)
    | (rename_i hf; cases hf <;> exact absurd (hL _ ‹_›) (by decide))

/-- a function that makes no write in `SR.breaks` -/
theorem PresR.of_foot {env : Env} {L α} {m : M α} (hm : Footprint.Foot L (fun _ => True) m) (hL : ∀ t ∈ Footprint.parts L, t ∉ SR.breaks) :
    Step.Pres (SR env) m :=
  hm.frame (SR.of_edit hL)

macro_rules
  | `(tactic| qleaf) =>
    `(tactic| ((with_reducible apply Step.Pres.modify); intro _; exact SR.of_nodes rfl rfl rfl))
macro_rules
  | `(tactic| qleaf) => `(tactic| ((with_reducible apply PresR.modNode); intro _; rfl))

macro "sr_leaf " n:ident : command =>
  `(macro_rules | `(tactic| qleaf) => `(tactic| with_reducible apply $n))

section
variable {env : Env}

theorem PresR.tick : Step.Pres (SR env) Engine.tick := PresR.of_foot Footprint.Foot.tick (by decide)
end
sr_leaf PresR.tick

section
variable {env : Env}
theorem PresR.modBind (b f) : Step.Pres (SR env) (Engine.modBind b f) := by unfold Engine.modBind; qpres
theorem PresR.modObs (o f) : Step.Pres (SR env) (Engine.modObs o f) := by unfold Engine.modObs; qpres
theorem PresR.getObs (o) : Step.Pres (SR env) (Engine.getObs o) := by unfold Engine.getObs; qpres
theorem PresR.getVar (v) : Step.Pres (SR env) (Engine.getVar v) := Step.Pres.getVar v
theorem PresR.addParent (c i p) : Step.Pres (SR env) (Engine.addParent c i p) := PresR.of_foot (Footprint.Foot.addParent c i p) (by decide)
theorem PresR.setHeight (n h) : Step.Pres (SR env) (Engine.setHeight n h) := PresR.of_foot (Footprint.Foot.setHeight n h) (by decide)
end
sr_leaf PresR.modBind
sr_leaf PresR.modObs
sr_leaf PresR.getObs
sr_leaf PresR.addParent
sr_leaf PresR.setHeight

section
variable {env : Env}
theorem PresR.removeParent (c i p) : Step.Pres (SR env) (Engine.removeParent c i p) := PresR.of_foot (Footprint.Foot.removeParent c i p) (by decide)
theorem PresR.rchInsert (n) : Step.Pres (SR env) (Engine.rchInsert n) := PresR.of_foot (Footprint.Foot.rchInsert n) (by decide)
theorem PresR.scopeHeight (sc) : Step.Pres (SR env) (Engine.scopeHeight sc) := Step.Pres.scopeHeight sc
theorem PresR.scopeIsNecessary (sc) : Step.Pres (SR env) (Engine.scopeIsNecessary sc) :=
  PresR.of_foot (Footprint.Foot.scopeIsNecessary sc) (by decide)
theorem PresR.handleAfterStabilisation (n) : Step.Pres (SR env) (Engine.handleAfterStabilisation n) :=
  PresR.of_foot (Footprint.Foot.handleAfterStabilisation n) (by decide)
theorem PresR.observabilityChange (e b) : Step.Pres (SR env) (Engine.observabilityChange e b) :=
  PresR.of_foot (Footprint.Foot.observabilityChange e b) (by decide)
end
sr_leaf PresR.removeParent
sr_leaf PresR.rchInsert
sr_leaf PresR.scopeIsNecessary
sr_leaf PresR.handleAfterStabilisation
sr_leaf PresR.observabilityChange

/-- equal nodes, records, `nextDep`, `propagateInvalidity` -/
def SameX (s s' : State) : Prop :=
  s'.nodes = s.nodes ∧ s'.experts = s.experts ∧ s'.nextDep = s.nextDep ∧
    s'.propagateInvalidity = s.propagateInvalidity
instance : Step.PreOrd SameX :=
  ⟨fun _ => ⟨rfl, rfl, rfl, rfl⟩, fun h1 h2 => ⟨h2.1.trans h1.1, h2.2.1.trans h1.2.1, h2.2.2.1.trans h1.2.2.1,
    h2.2.2.2.trans h1.2.2.2⟩⟩
macro_rules
  | `(tactic| qleaf) => `(tactic| ((with_reducible apply Step.Pres.modify); intro _; exact ⟨rfl, rfl, rfl, rfl⟩))

theorem PresSame.logEv (e) : Step.Pres SameX (Engine.logEv e) := by unfold Engine.logEv; qpres
theorem PresSame.tick : Step.Pres SameX Engine.tick := by unfold Engine.tick; qpres

/-- the state after a callback stored `v` for dependency `d` of record `e` -/
theorem SR.deliver {env : Env} {s s1 s' : State} {e : Nat} {er : ExpertRec} {edge : ExpertEdge} {v : Val}
    (he : s.experts[e]? = some er) (hw : er.willFireAllCallbacks = false) (hed : edge ∈ er.children)
    (hv : s.value env edge.child = some v) (hs : SameX s s1) (g1 : s'.nodes = s1.nodes)
    (g2 : s'.experts = s1.experts.modify e fun x =>
      { x with slots := (edge.dep, v) :: x.slots.filter (·.1 != edge.dep) })
    (g3 : s'.nextDep = s1.nextDep) : SR env s s' := by
  obtain ⟨h1, h2, h3, -⟩ := hs
  have R : SR env s { s with experts := s.experts.modify e fun x =>
      { x with slots := (edge.dep, v) :: x.slots.filter (·.1 != edge.dep) } } := by
    refine SR.modExpert env s e _ fun x hx => ?_
    rw [he] at hx; cases hx
    refine ⟨rfl, rfl, ?_, fun d => ?_, fun p hp => ?_⟩
    · intro h; rw [hw] at h; cases h
    · by_cases hd : d = edge.dep
      · refine Or.inr ⟨hw, edge, hed, hd.symm, ?_⟩
        rw [hd, hv]; simp
      · left
        show List.lookup d ((edge.dep, v) :: _) = _
        rw [List.lookup_cons]
        have : (d == edge.dep) = false := by simpa using hd
        rw [this]
        exact lookup_filter_ne d edge.dep _ hd
    · rcases List.mem_cons.1 hp with rfl | hp
      · exact Or.inr ⟨edge, hed, rfl⟩
      · exact Or.inl (List.mem_filter.1 hp).1
  refine ⟨by rw [g1, h1], fun m => ?_, by rw [g3, h3], fun j => ?_⟩
  · have e1 : s'.nodeD m = s.nodeD m := by simp [State.nodeD, g1, h1]
    rw [e1]
  · have := R.recs j
    rw [g2, h2]
    exact this

theorem PresR.runEdgeCallback (env : Env) (e i : Nat) : Step.Pres (SR env) (Engine.runEdgeCallback env e i) := by
  constructor
  intro s r s' h
  unfold Engine.runEdgeCallback at h
  rw [run_bind, run_getExpert] at h
  cases he : s.experts[e]? with
  | none => rw [he] at h; cases h; exact SR.refl env s
  | some er =>
    rw [he] at h
    simp only at h
    cases hw : er.willFireAllCallbacks with
    | true =>
      rw [hw] at h
      simp only [Bool.not_true, Bool.false_eq_true, if_false, run_pure] at h
      cases h; exact SR.refl env s
    | false =>
      rw [hw] at h
      simp only [Bool.not_false, if_true] at h
      cases hi : er.children[i]? with
      | none => rw [hi] at h; simp only [run_pure] at h; cases h; exact SR.refl env s
      | some edge =>
        rw [hi] at h
        simp only at h
        have hed : edge ∈ er.children := List.mem_of_getElem? hi
        unfold Engine.edgeOnChange at h
        cases hcb : edge.cb with
        | none => rw [hcb] at h; simp only [run_pure] at h; cases h; exact SR.refl env s
        | some c =>
          rw [hcb] at h
          simp only [run_bind_get] at h
          cases hv : s.value env edge.child with
          | none => rw [hv] at h; simp only [run_pure] at h; cases h; exact SR.refl env s
          | some v =>
            rw [hv] at h
            simp only at h
            rw [run_bind_ok (run_getExpert_some he)] at h
            cases hpk : er.pk.isNone with
            | false =>
              rw [hpk] at h
              simp only [Bool.false_eq_true, if_false, run_modExpert] at h
              cases h
              exact SR.deliver he hw hed hv ⟨rfl, rfl, rfl, rfl⟩ rfl rfl rfl
            | true =>
              rw [hpk] at h
              simp only [if_true] at h
              rw [run_bind] at h
              rcases hx : Engine.tick.run.run s with ⟨r1, s1⟩
              have E := PresSame.tick.h _ _ _ hx
              rw [hx] at h
              cases r1 with
              | error p => cases h; exact SR.of_nodes E.1 E.2.1 E.2.2.1
              | ok u =>
                simp only [run_bind, run_logEv, run_modExpert] at h
                cases h
                exact SR.deliver he hw hed hv E rfl rfl rfl
sr_leaf PresR.runEdgeCallback

section
variable {env : Env}

theorem PresR.maybeHandleAfterStabilisation (n) : Step.Pres (SR env) (Engine.maybeHandleAfterStabilisation n) :=
  PresR.of_foot (Footprint.Foot.maybeHandleAfterStabilisation n) (by decide)
theorem PresR.ensureHeightRequirement (oc op c p) :
    Step.Pres (SR env) (Engine.ensureHeightRequirement oc op c p) := PresR.of_foot (Footprint.Foot.ensureHeightRequirement oc op c p) (by decide)
end
sr_leaf PresR.maybeHandleAfterStabilisation
sr_leaf PresR.ensureHeightRequirement


theorem PresR.adjustHeights {env : Env} (oc op fuel) : Step.Pres (SR env) (Engine.adjustHeights oc op fuel) :=
  PresR.of_foot (Footprint.Foot.adjustHeights oc op fuel) (by decide)
sr_leaf PresR.adjustHeights

theorem PresR.markMapRefUnknown {env : Env} (fuel n) : Step.Pres (SR env) (Engine.markMapRefUnknown fuel n) :=
  PresR.of_foot (Footprint.Foot.markMapRefUnknown fuel n) (by decide)
sr_leaf PresR.markMapRefUnknown

theorem PresR.link (env : Env) (fuel : Nat) :
    (∀ n, Step.Pres (SR env) (Engine.becameNecessary env fuel n)) ∧
    (∀ c i p, Step.Pres (SR env) (Engine.addParentWithoutAdjustingHeights env fuel c i p)) := by
  induction fuel with
  | zero =>
    constructor
    · intro n; unfold Engine.becameNecessary; qpres
    · intro c i p; unfold Engine.addParentWithoutAdjustingHeights; qpres
  | succ fuel ih =>
    constructor
    · intro n
      unfold Engine.becameNecessary
      qpres
      all_goals (apply Step.Pres.forIn; intro a b; qpres; all_goals exact ih.2 _ _ _)
    · intro c i p
      unfold Engine.addParentWithoutAdjustingHeights
      qpres
      all_goals exact ih.1 _

theorem PresR.becameNecessary (env fuel n) : Step.Pres (SR env) (Engine.becameNecessary env fuel n) :=
  (PresR.link env fuel).1 n
sr_leaf PresR.becameNecessary
theorem PresR.addParentWithoutAdjustingHeights (env fuel c i p) :
    Step.Pres (SR env) (Engine.addParentWithoutAdjustingHeights env fuel c i p) :=
  (PresR.link env fuel).2 c i p
sr_leaf PresR.addParentWithoutAdjustingHeights

theorem PresR.unlink {env : Env} (fuel : Nat) :
    (∀ n, Step.Pres (SR env) (Engine.becameUnnecessary fuel n)) ∧
    (∀ n, Step.Pres (SR env) (Engine.checkIfUnnecessary fuel n)) ∧
    (∀ n, Step.Pres (SR env) (Engine.removeChildren fuel n)) :=
  ⟨fun n => PresR.of_foot (Footprint.Foot.becameUnnecessary fuel n) (by decide),
   fun n => PresR.of_foot (Footprint.Foot.checkIfUnnecessary fuel n) (by decide),
   fun n => PresR.of_foot (Footprint.Foot.removeChildren fuel n) (by decide)⟩

theorem PresR.becameUnnecessary {env : Env} (fuel n) : Step.Pres (SR env) (Engine.becameUnnecessary fuel n) :=
  (PresR.unlink fuel).1 n
sr_leaf PresR.becameUnnecessary
theorem PresR.checkIfUnnecessary {env : Env} (fuel n) : Step.Pres (SR env) (Engine.checkIfUnnecessary fuel n) :=
  (PresR.unlink fuel).2.1 n
sr_leaf PresR.checkIfUnnecessary
theorem PresR.removeChildren {env : Env} (fuel n) : Step.Pres (SR env) (Engine.removeChildren fuel n) :=
  (PresR.unlink fuel).2.2 n
sr_leaf PresR.removeChildren

theorem PresR.unlinkDisallowedObservers {env : Env} (fuel) :
    Step.Pres (SR env) (Engine.unlinkDisallowedObservers fuel) := PresR.of_foot (Footprint.Foot.unlinkDisallowedObservers fuel) (by decide)

section
variable {env : Env}
theorem PresR.didSetVarWhileNotStabilising (v) : Step.Pres (SR env) (Engine.didSetVarWhileNotStabilising v) :=
  PresR.of_foot (Footprint.Foot.didSetVarWhileNotStabilising v) (by decide)
end
sr_leaf PresR.didSetVarWhileNotStabilising
section
variable {env : Env}
theorem PresR.writeVar (v f b) : Step.Pres (SR env) (Engine.writeVar v f b) := PresR.of_foot (Footprint.Foot.writeVar v f b) (by decide)
theorem PresR.subscribe (o h) : Step.Pres (SR env) (Engine.subscribe o h) := PresR.of_foot (Footprint.Foot.subscribe o h) (by decide)
theorem PresR.unsubscribe (o t w) : Step.Pres (SR env) (Engine.unsubscribe o t w) := PresR.of_foot (Footprint.Foot.unsubscribe o t w) (by decide)
theorem PresR.setMaxHeightAllowed (k) : Step.Pres (SR env) (Engine.setMaxHeightAllowed k) :=
  PresR.of_foot (Footprint.Foot.setMaxHeightAllowed k) (by decide)
end
sr_leaf PresR.writeVar
sr_leaf PresR.subscribe
sr_leaf PresR.unsubscribe
sr_leaf PresR.setMaxHeightAllowed

theorem SR.of_act {env : Env} {L a} (hL : ∀ t ∈ L, t ∉ SR.breaks) {s s' : State} (e : Footprint.ActEdit L a s s') : SR env s s' := by
  cases e with
  | engine e => exact SR.of_edit hL e
  | _ => exact SR.of_nodes rfl rfl rfl

theorem PresR.stepAction (env : Env) (a : Action) (tk : Array Nat) (h : XAct a) :
    Step.Pres (SR env) (Engine.stepAction env a tk) :=
  (Footprint.Foot.stepAction env a tk).lift
    (SR.of_act (by cases a <;> first | exact False.elim h | (dsimp only [Footprint.W.stepAction]; decide)))

end IncrVerif.Proofs.ExpertH
