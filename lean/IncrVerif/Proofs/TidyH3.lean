import IncrVerif.Proofs.MapOld35
/-!
# At most once per round: the fragment static + `map_with_old`
-/
namespace IncrVerif.Proofs.TidyH
open IncrVerif.Engine IncrVerif.Driver IncrVerif.Proofs IncrVerif.Proofs.Step IncrVerif.Proofs.Sched IncrVerif.Proofs.Quiet
open IncrVerif.Proofs.MapOldH

theorem frA_of_virtW {s s' : State} (f : Frame (virt s) (virt s')) : FrA s s' where
  stabNum := f.stabNum
  nec m := by have := f.nec m; rwa [virt_isNecessary, virt_isNecessary] at this
  ran m h := by
    have := f.ran m (by rw [virt_nodeD, virtNode_recomputedAt]; exact h)
    rwa [virt_nodeD, virtNode_recomputedAt] at this

theorem onceKitW {env : Env} {C : Val → Prop} {sp : Nat → Val → Val} (V : ValOK env C sp) :
    OnceKit env (DInvW env C sp) where
  stamps s x m D := by
    have := (D.inv.stamps.node m).1
    rwa [virt_nodeD, virtNode_recomputedAt] at this
  cur s n D := by
    have h1 := (D.inv.cur n rfl).1
    have h2 := D.inv.cur_not_yet
    rw [virt_isNecessary] at h1
    rw [virt_nodeD, virtNode_recomputedAt] at h2
    exact ⟨h1, h2⟩
  step s n fuel r s' D h := by
    obtain ⟨D', f, hr⟩ := recomputeOneW_inv V D h
    rw [virt_nodeD, virtNode_recomputedAt] at hr
    exact ⟨D', frA_of_virtW f.frame, hr⟩
  pop s n s1 D h := by
    obtain ⟨hv, F1, M1, hp1⟩ := popW D h
    obtain ⟨I1, f1⟩ := pop_inv D.inv hv
    exact ⟨⟨F1, I1, M1, hp1⟩, frA_of_virtW f1⟩
  popNone s s1 D h := (rchRemoveMin_inv (heapInv_of_virt D.inv.heap) h).1

/-- **T2a, the drain.** -/
theorem drain_onceW {env : Env} {C : Val → Prop} {sp : Nat → Val → Val} (V : ValOK env C sp) {fuel : Nat}
    {s s' : State} (D : DrainInvW env C sp s) (h : (drainHeap env fuel).run.run s = (.ok (), s')) :
    (drainTrace env fuel s).Nodup ∧ (∀ m, m ∈ drainTrace env fuel s → RanOnce s s' m) ∧
      ∀ p, p ∈ drainSteps env fuel s → DInvW env C sp p.2 (some p.1) ∧ FrA s p.2 := by
  have R := drain_onceG (onceKitW V) fuel s s' D h
  rw [← drainSteps_fst]
  exact ⟨R.nodup, R.once, R.steps⟩

section
variable {env : Env} {C : Val → Prop} {sp : Nat → Val → Val} {s : State}

/-- the prefix of `stabilise` (`addNewObservers`, `unlinkDisallowedObservers`) establishes the drain invariant and
leaves kinds, values and closure states alone -/
theorem prefix_drainInvW {fuel : Nat} {t1 t2 : State} (Q : QInvW env C sp s)
    (h1 : (addNewObservers env fuel).run.run { s with status := .stabilising } = (.ok (), t1))
    (h2 : (unlinkDisallowedObservers fuel).run.run t1 = (.ok (), t2)) :
    DInvW env C sp t2 none ∧ WFr s t2 ∧ t2.stabNum = s.stabNum ∧ t2.setDuringStab = [] ∧ t2.deadVars = [] ∧
      (∀ (o : Nat) (ob : ObsRec), t2.observers[o]? = some ob → ob.handlers = []) ∧
      (∀ m, (t2.nodeD m).recomputedAt = (s.nodeD m).recomputedAt ∧ (s.nodeD m).recomputedAt < s.stabNum) := by
  have Qv := Q.q
  have hs0v : virt { s with status := .stabilising } = { virt s with status := .stabilising } := rfl
  have W0 : WFr s { s with status := .stabilising } := ⟨rfl, fun _ => rfl, rfl, id⟩
  have F0 : WFrag env (Good env C sp) { s with status := .stabilising } := W0.frag Q.frag
  have M0 : MInv env C { s with status := .stabilising } := W0.minv Q.m
  have hp0 : ({ s with status := .stabilising } : State).propagateInvalidity = [] := Q.pinv
  have S0 : SInv (virtEnv env sp) (virt { s with status := .stabilising })
      (virt { s with status := .stabilising }).newObservers
      (virt { s with status := .stabilising }).disallowedObservers := by
    rw [hs0v]
    exact ⟨Qv.struct.congr (SameG.of_nodes rfl rfl rfl rfl rfl),
      ⟨Qv.obs.inRange, Qv.obs.mem, Qv.obs.created, Qv.obs.newIn, Qv.obs.dis, Qv.obs.disIn, Qv.obs.disNodup⟩,
      Qv.pinv, Qv.handlers⟩
  obtain ⟨hv1, fr1⟩ := Sim.addNewObservers (sp := sp) env fuel _ (F0.fr hp0) _ t1 h1
  obtain ⟨S1, hn1, hd1, P1, O1, -⟩ := addNewObservers_s S0 hv1
  have W1 : WFr { s with status := .stabilising } t1 := addNewObservers_wfr (F0.fr hp0) h1
  obtain ⟨hv2, fr2⟩ := Sim.unlinkDisallowedObservers fuel t1 fr1 _ t2 h2
  obtain ⟨S2, hn2, hd2, P2, O2⟩ := unlinkDisallowedObservers_s S1 hn1 hv2
  have W2 : WFr t1 t2 := unlinkDisallowedObservers_wfr h2
  have F2 : WFrag env (Good env C sp) t2 := W2.frag (W1.frag F0)
  have M2 : MInv env C t2 := W2.minv (W1.minv M0)
  have hp2 : t2.propagateInvalidity = [] := fr2.pinv
  have P := P1.trans P2
  obtain ⟨D2, U2⟩ := MapRefH.drain_start Qv hs0v S2 P
  have hst : t2.stabNum = s.stabNum := by have := P.stabNum; rw [hs0v] at this; exact this
  refine ⟨⟨F2, D2, M2, hp2⟩, W0.trans (W1.trans W2), hst, ?_, ?_, ?_, ?_⟩
  · have := P.setDuringStab; rw [hs0v] at this; exact this.trans Qv.setDuringStab
  · have := P.deadVars; rw [hs0v] at this; exact this.trans Qv.deadVars
  · intro o ob ho
    exact (S2.obs.inRange o ob ho).2
  · intro m
    have h3 := P.node m
    simp only [nodeKeyP, Prod.mk.injEq] at h3
    have h4 : ((virt t2).nodeD m).recomputedAt = ((virt s).nodeD m).recomputedAt := by
      have := h3.2.2.2.2.2.1; rw [hs0v] at this; exact this
    rw [virt_nodeD, virt_nodeD, virtNode_recomputedAt, virtNode_recomputedAt] at h4
    refine ⟨h4, ?_⟩
    have := (Qv.stamps m).1
    rwa [virt_nodeD, virtNode_recomputedAt] at this

/-- `stabiliseEnd` after the drain of a `stabilise` of the fragment: only `inHandleAfterStab` flags change in the nodes -/
theorem end_finishedW {fuel : Nat} {t2 t3 s' : State} (V : ValOK env C sp) (D2 : DInvW env C sp t2 none)
    (hsd : t2.setDuringStab = []) (hdv : t2.deadVars = [])
    (hobs : ∀ (o : Nat) (ob : ObsRec), t2.observers[o]? = some ob → ob.handlers = [])
    (h3 : (drainHeap env fuel).run.run t2 = (.ok (), t3))
    (h4 : (stabiliseEnd env fuel).run.run t3 = (.ok (), s')) :
    Finished' t3 s' ∧ t3.setDuringStab = [] ∧ t3.deadVars = [] ∧
      (∀ (o : Nat) (ob : ObsRec), t3.observers[o]? = some ob → ob.handlers = []) := by
  obtain ⟨D3, -, f3⟩ := drainHeapW_inv V fuel t2 t3 D2 h3
  have c3 := f3.calm
  have a1 : t3.setDuringStab = [] := by
    have := c3.setDuringStab
    have e1 : (virt t3).setDuringStab = t3.setDuringStab := rfl
    rw [← e1, this]; exact hsd
  have a2 : t3.deadVars = [] := by
    have := c3.deadVars
    have e1 : (virt t3).deadVars = t3.deadVars := rfl
    rw [← e1, this]; exact hdv
  have a3 : ∀ (o : Nat) (ob : ObsRec), t3.observers[o]? = some ob → ob.handlers = [] := by
    intro o ob ho
    have hkd := f3.keyD
    simp only [KeyD, stateKeyD, Prod.mk.injEq] at hkd
    have e1 : (virt t3).observers = t3.observers := rfl
    rw [← e1, hkd.1] at ho
    exact hobs o ob ho
  exact ⟨stabiliseEnd_fin a1 a2 a3 h4, a1, a2, a3⟩

/-- **T2a: at most once per round, and only necessary nodes**, for a `stabilise` from the invariant between API actions
of the fragment static + map_with_old. -/
theorem stabilise_onceW {fuel : Nat} {s' : State} (V : ValOK env C sp) (Q : QInvW env C sp s)
    (h : (stabilise env fuel).run.run s = (.ok (), s')) :
    ∃ t1 t2 t3, (addNewObservers env fuel).run.run { s with status := .stabilising } = (.ok (), t1) ∧
      (unlinkDisallowedObservers fuel).run.run t1 = (.ok (), t2) ∧
      (drainHeap env fuel).run.run t2 = (.ok (), t3) ∧ (stabiliseEnd env fuel).run.run t3 = (.ok (), s') ∧
      DrainInvW env C sp t2 ∧ (drainTrace env fuel t2).Nodup ∧
      ∀ m, m ∈ drainTrace env fuel t2 → t2.isNecessary m = true ∧ s'.isNecessary m = true ∧
        (t2.nodeD m).recomputedAt < s.stabNum ∧ (s'.nodeD m).recomputedAt = s.stabNum := by
  obtain ⟨t1, t2, t3, -, h1, h2, h3, h4⟩ := stabilise_phases.1 h
  obtain ⟨D2, -, hst, hsd, hdv, hobs, -⟩ := prefix_drainInvW Q h1 h2
  have R := drain_onceG (onceKitW V) fuel t2 t3 D2 h3
  have hk := R.fr
  obtain ⟨E, -, -, -⟩ := end_finishedW V D2 hsd hdv hobs h3 h4
  refine ⟨t1, t2, t3, h1, h2, h3, h4, D2, ?_, ?_⟩
  · rw [← drainSteps_fst]; exact R.nodup
  · intro m hm
    rw [← drainSteps_fst] at hm
    obtain ⟨a1, a2, a3⟩ := R.once m hm
    obtain ⟨b, hb⟩ := E.node m
    refine ⟨a1, ?_, by rw [← hst]; exact a2, ?_⟩
    · have : s'.isNecessary m = t3.isNecessary m := by simp only [State.isNecessary, hb]; rfl
      rw [this, hk.nec]; exact a1
    · rw [hb, ← hst]; exact a3

end
end IncrVerif.Proofs.TidyH
