import IncrVerif.Proofs.ExpertH23
import IncrVerif.Proofs.Computes
/-!
# Expert fragment: one `recomputeOne` of a node that is not an expert node

The actual step is simulated by the virtual step (`recomputeOne_sim`).
-/
namespace IncrVerif.Proofs.ExpertH
open IncrVerif.Engine IncrVerif.Driver IncrVerif.Proofs IncrVerif.Proofs.Step IncrVerif.Proofs.Sched

/-! ## `virt` commutes with the bookkeeping at the start of a step -/

theorem map_modify_at (xs : Array ExpertRec) (a : Array Node) (n : Nat) (f f' : Node → Node)
    (hf : ∀ nd, a[n]? = some nd → virtNode xs (f nd) = f' (virtNode xs nd)) :
    (a.modify n f).map (virtNode xs) = (a.map (virtNode xs)).modify n f' := by
  apply Array.ext
  · simp
  · intro i h1 h2
    simp only [Array.getElem_map, Array.getElem_modify]
    split
    · rename_i e; subst e
      have hlt : n < a.size := by simpa using h1
      exact hf _ (Array.getElem?_eq_getElem hlt)
    · rfl

theorem virt_started (n : Nat) (s : State) (hne : ∀ e, (s.nodeD n).kind ≠ .expert e) :
    virt (started n s) = started n (virt s) := by
  simp only [virt, started]
  have key := map_modify_at s.experts s.nodes n (fun x => { x with recomputedAt := s.stabNum })
    (fun x => { x with recomputedAt := s.stabNum }) (by
      intro nd hnd
      rw [nodeD_of_some hnd] at hne
      rw [virtNode_of_not_expert _ nd hne, virtNode_of_not_expert _ _ (by exact hne)])
  rw [key]
  rfl

theorem virt_logged (es : List Event) (s : State) (h : ∀ e, e ∈ es → keepEv e = true) :
    virt (logged es s) = logged es (virt s) := by
  simp only [virt, logged, List.filter_append]
  rw [List.filter_eq_self.2 h]

theorem Fr.started {s : State} (h : Fr s) (n : Nat) : Fr (started n s) :=
  Fr.of_nodes (fr_modify h n (fun x => { x with recomputedAt := s.stabNum }) fun _ => ⟨rfl, rfl⟩) rfl rfl rfl rfl

theorem Fr.logged {s : State} (h : Fr s) (es : List Event) : Fr (logged es s) := Fr.of_nodes h rfl rfl rfl rfl

/-! ## the arguments -/

theorem valuesOf_virt (env : Env) (s : State) (hfr : Fr s) (args : List Nat) :
    valuesOf (virtEnv env) (virt s) args = valuesOf env s args := by
  induction args with
  | nil => rfl
  | cons a as ih =>
    simp only [valuesOf]
    rw [virt_value s env a hfr.not_mapRef, ih]

/-! ## the simulation -/

/-- off the expert nodes the kinds of the fragment are static -/
theorem XKind.static {env : Env} {k : Kind} (h : XKind env k) (hne : ∀ e, k ≠ .expert e) : StaticKind env k := by
  cases k with
  | expert e => exact absurd rfl (hne e)
  | fold f init cs => trivial
  | _ => exact h

/-- the events of the step of a static node stay in the virtual log -/
theorem keepEv_of_computes {env : Env} {s : State} {n : Nat} {nd : Node} {v σ : Val} {evs : List Event}
    (hc : Computes env s n nd v σ evs) (hk : StaticKind env nd.kind) : ∀ e, e ∈ evs → keepEv e = true := by
  intro e he
  cases hc with
  | map f args vals => simp only [List.mem_singleton] at he; subst he; exact isF_f f
  | fold f init cs vals => simp only [List.mem_singleton] at he; subst he; exact isF_fold f
  | mapBuiltin | var | const => cases he
  | mapWithOld g i x σ' new did hkd => rw [hkd] at hk; exact hk.elim
  | bindMain b lc r0 br rn v hkd => rw [hkd] at hk; exact hk.elim

/-- one `recomputeOne` of a node of the fragment that is not an expert node -/
theorem recomputeOne_sim {env : Env} {s s' : State} {fuel n : Nat} {r : Option Nat}
    (hfr : Fr s) (hn : n < s.nodes.size) (hxk : XKind env (s.nodeD n).kind)
    (hne : ∀ e, (s.nodeD n).kind ≠ .expert e)
    (h : (recomputeOne env fuel n).run.run s = (.ok r, s')) :
    (recomputeOne (virtEnv env) fuel n).run.run (virt s) = (.ok r, virt s') ∧ Fr s' := by
  have hnd := some_of_lt hn
  have hval := hfr.valid n
  have hvn : (virt s).nodes[n]? = some (s.nodeD n) := by
    rw [virt_getElem?, hnd]; simp only [Option.map_some]; rw [virtNode_of_not_expert _ _ hne]
  have hSK := hxk.static hne
  obtain ⟨v, evs, hc⟩ := computes_of_ok hnd hval hSK h
  have hes := keepEv_of_computes hc hSK
  have hc' : Computes (virtEnv env) (virt s) n (s.nodeD n) v _ evs :=
    hc.transfer hSK rfl rfl (valuesOf_virt env s hfr _) (fun _ _ _ => ⟨rfl, rfl⟩) fun f init cs hk =>
      virtEnv_foldStep_real env (by rw [hk] at hxk; exact hxk)
  exact recomputeOne_sim_of_computes (V := virt) hnd hval hfr.pc hc hSK hvn hval hfr.pc hc' hSK
    (by rw [virt_logged evs _ hes, virt_started n s hne])
    (Sim.maybeChangeValue env fuel n v _ ((hfr.started n).logged evs) r s') h

end IncrVerif.Proofs.ExpertH
