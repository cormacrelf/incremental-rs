import IncrVerif.Proofs.TidyH26
/-!
# T3b part 3: `run_all` and `stabilise_end` return when update handlers have write effects
-/
namespace IncrVerif.Proofs.TidyH.EffT
open IncrVerif.Engine IncrVerif.Driver IncrVerif.Proofs IncrVerif.Proofs.Step IncrVerif.Proofs.Sched
open IncrVerif.Proofs.Quiet IncrVerif.Proofs.EffH

/-- the frame of the handler loop: bookkeeping (handler records, notifications) and immediate writes -/
structure RB (t t' : State) : Prop where
  wr : Wr t t'
  pc : t'.panicCountdown = t.panicCountdown
  status : t'.status = t.status
  top : t'.top = t.top
  newObs : t'.newObservers = t.newObservers
  obsSize : t'.observers.size = t.observers.size
  obs : ∀ (o : Nat) (ob : ObsRec), t.observers[o]? = some ob →
    ∃ ob', t'.observers[o]? = some ob' ∧ ob'.node = ob.node ∧ ob'.state = ob.state

theorem RB.refl (t : State) : RB t t :=
  ⟨Wr.refl t, rfl, rfl, rfl, rfl, rfl, fun _ ob h => ⟨ob, h, rfl, rfl⟩⟩

theorem RB.trans {a b c : State} (h1 : RB a b) (h2 : RB b c) : RB a c := by
  refine ⟨h1.wr.trans h2.wr, h2.pc.trans h1.pc, h2.status.trans h1.status, h2.top.trans h1.top,
    h2.newObs.trans h1.newObs, h2.obsSize.trans h1.obsSize, fun o ob h => ?_⟩
  obtain ⟨ob1, e1, n1, s1⟩ := h1.obs o ob h
  obtain ⟨ob2, e2, n2, s2⟩ := h2.obs o ob1 e1
  exact ⟨ob2, e2, n2.trans n1, s2.trans s1⟩

theorem Wr.value {t t' : State} (W : Wr t t') (env : Env) (n : Nat) : t'.value env n = t.value env n := by
  refine Step.value_congr env t t' W.size (fun m => ?_) n
  obtain ⟨x, b, hx⟩ := W.node m
  rw [hx]; rfl

/-- the bookkeeping of one delivery (handler record stepped, notification logged) keeps `EP` -/
theorem EP.book {env0 : Env} {N B : Nat} {t : State} (E : EP env0 N B t) (X : Array ObsRec) (L : List Event)
    (hX : X.size = t.observers.size)
    (hXo : ∀ (o : Nat) (ob : ObsRec), t.observers[o]? = some ob →
      ∃ ob', X[o]? = some ob' ∧ ob'.node = ob.node ∧ ob'.state = ob.state) :
    EP env0 N B { t with observers := X, log := L } ∧ RB t { t with observers := X, log := L } := by
  have Q2 : SubsH.QInv env0 (quiet { t with observers := X, log := L }) :=
    qinvU_congr E.q rfl rfl (fun m => ⟨_, rfl⟩) hX hXo
  exact ⟨⟨Q2, E.hb, ⟨E.room.ahh, E.room.rch, E.room.size⟩, E.linked, E.handles, E.bound⟩,
    ⟨⟨rfl, fun _ => ⟨_, _, rfl⟩, rfl, rfl, rfl, fun _ c h => ⟨c, h, rfl, rfl⟩⟩, rfl, rfl, rfl, rfl, hX, hXo⟩⟩

theorem RB.of_appliedL {t t' : State} (W : Wr t t') (A : AppliedL t t') : RB t t' := by
  have ho : t'.observers = t.observers := by rw [A.eq]
  refine ⟨W, by rw [A.eq], by rw [A.eq], by rw [A.eq], by rw [A.eq], by rw [ho], fun o ob h => ?_⟩
  exact ⟨ob, by rw [ho]; exact h, rfl, rfl⟩

/-- the tail of one delivery: tick, notification, the handler's writes -/
theorem deliver_tail_total {env : Env} {N B fuel : Nat} {t : State} {tok hid : Nat} {upd : Update}
    (hH : WHandlers env) (hHb : HBound env B) (E : EP (noEff env) N B t) (hst : t.status ≠ .stabilising)
    (hpc : t.panicCountdown = none) :
    Tot (do
        tick
        logEv (.notif tok upd)
        runEffects env fuel (env.handler hid upd)
        pure (ForInStep.yield PUnit.unit)) t
      (fun r t' => r = .yield PUnit.unit ∧ EP (noEff env) N B t' ∧ RB t t') := by
  refine Tot.bind_ok (run_tick_none _ hpc) ?_
  refine Tot.bind_ok (run_logEv _ _) ?_
  obtain ⟨E2, R2⟩ := E.book t.observers (Event.notif tok upd :: t.log) rfl
    (fun o ob h => ⟨ob, h, rfl, rfl⟩)
  obtain ⟨t3, h3, E3, W3, A3⟩ := runEffects_imm_total (env := env) (fuel := fuel) (arg := 0)
    (es := env.handler hid upd) E2 (by exact hst) (fun e he => hH hid upd e he)
    (fun e he w f hw => hHb hid upd e w f he hw)
  exact Tot.bind_ok h3 (Tot.pure ⟨rfl, E3, R2.trans (RB.of_appliedL W3 A3)⟩)

/-- **`run_all` returns** when the handlers have write effects on existing variables -/
theorem runAll_total_w {env : Env} {N B fuel o n : Nat} {nu : NodeUpdate} {now : Int} {s : State} {ob : ObsRec}
    (hH : WHandlers env) (hHb : HBound env B) (E : EP (noEff env) N B s) (hst : s.status ≠ .stabilising)
    (hpc : s.panicCountdown = none) (hob : s.observers[o]? = some ob)
    (hstate : ob.state = .inUse ∨ ob.state = .disallowed)
    (hnu : nu = .changed ∨ nu = .necessary) (hv : (s.value env n).isSome = true) :
    Tot (runAll env fuel o n nu now) s (fun _ s' => EP (noEff env) N B s' ∧ RB s s') := by
  unfold runAll
  refine P23.Tot.bind_getObs hob ?_
  dsimp only
  refine Tot.bind (P23.forIn_tot' _ ob.handlers
    (fun _ (_ : PUnit) t => EP (noEff env) N B t ∧ RB s t) ?_ _ _ ⟨E, RB.refl s⟩)
    (fun _ _ _ h => Tot.pure h)
  intro j a b t hj ⟨Et, Rt⟩
  obtain ⟨obt, hobt, -, hstt⟩ := Rt.obs o ob hob
  obtain ⟨v, hvs⟩ := Option.isSome_iff_exists.1 hv
  have hvt : t.value env n = some v := (Rt.wr.value env n).trans hvs
  have hpct : t.panicCountdown = none := Rt.pc.trans hpc
  have hstt' : t.status ≠ .stabilising := by rw [Rt.status]; exact hst
  -- the state after the record update of a delivery
  have book : ∀ g : List HandlerRec → List HandlerRec,
      EP (noEff env) N B { t with observers := t.observers.modify o fun x => { x with handlers := g x.handlers } } ∧
      RB t { t with observers := t.observers.modify o fun x => { x with handlers := g x.handlers } } ∧
      State.value env { t with observers := t.observers.modify o fun x => { x with handlers := g x.handlers } } n
        = some v := by
    intro g
    obtain ⟨hX, hXo⟩ := P15.modify_handlers_facts (A := t.observers) (o := o) g
    obtain ⟨E1, R1⟩ := Et.book (t.observers.modify o fun x => { x with handlers := g x.handlers }) t.log hX hXo
    exact ⟨E1, R1, (R1.wr.value env n).trans hvt⟩
  refine P23.Tot.bind_getObs hobt ?_
  rcases hstate with hs | hs
  · rw [hstt, hs]
    dsimp only
    split
    · rcases SubsH.P8.handlerStep_cases (p := a.prev) hnu with hd | hd | hd
      · rw [hd]
        exact Tot.pure ⟨_, rfl, Et, Rt⟩
      · rw [hd]
        dsimp only
        refine P23.Tot.bind_modObs ?_
        obtain ⟨E1, R1, hv1⟩ := book (fun l => l.map fun h' =>
          if h'.token == a.token then { h' with prev := NodeUpdate.changed.toPrev } else h')
        refine Tot.bind_ok (SubsH.P8.run_valueUnwrap hv1) ?_
        simp only [pure_bind]
        refine (deliver_tail_total hH hHb E1 (by exact hstt') (by exact hpct)).mono ?_
        rintro r t' ⟨hr, E', R'⟩
        exact ⟨_, hr, E', Rt.trans (R1.trans R')⟩
      · rw [hd]
        dsimp only
        refine P23.Tot.bind_modObs ?_
        obtain ⟨E1, R1, hv1⟩ := book (fun l => l.map fun h' =>
          if h'.token == a.token then { h' with prev := NodeUpdate.necessary.toPrev } else h')
        refine Tot.bind_ok (SubsH.P8.run_valueUnwrap hv1) ?_
        simp only [pure_bind]
        refine (deliver_tail_total hH hHb E1 (by exact hstt') (by exact hpct)).mono ?_
        rintro r t' ⟨hr, E', R'⟩
        exact ⟨_, hr, E', Rt.trans (R1.trans R')⟩
    · exact Tot.pure ⟨_, rfl, Et, Rt⟩
  · rw [hstt, hs]
    dsimp only
    exact Tot.pure ⟨_, rfl, Et, Rt⟩

end IncrVerif.Proofs.TidyH.EffT
