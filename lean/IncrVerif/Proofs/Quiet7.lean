import IncrVerif.Proofs.Quiet6
import IncrVerif.Proofs.CutH13
/-!
# Part 6: the linking cascade keeps the structural invariant
-/
namespace IncrVerif.Proofs.Quiet
open IncrVerif.Engine IncrVerif.Proofs IncrVerif.Proofs.Step IncrVerif.Proofs.Sched

def BNSpec (env : Env) (fuel : Nat) : Prop :=
  ∀ n s s' op, (becameNecessary env fuel n).run.run s = (.ok (), s') → GInv env s op →
    op n = .linking 0 → (∀ m, op m ≠ .closed → n ≤ m) →
    (∀ p i, (p, i) ∈ (s.nodeD n).parents → op p ≠ .closed) →
    GInv env s' (upd op n .closed) ∧ Above n s s' ∧ LRel (· = n) s s'

def APSpec (env : Env) (fuel : Nat) : Prop :=
  ∀ c idx p s s' op, (addParentWithoutAdjustingHeights env fuel c idx p).run.run s = (.ok (), s') →
    GInv env s op → op p = .linking idx → (kids (s.nodeD p).kind)[idx]? = some c →
    (∀ m, op m ≠ .closed → c < m) →
    GInv env s' (upd op p (.linking (idx + 1))) ∧ Above c s s' ∧ LRel (fun _ => False) s s' ∧
      s'.isNecessary c = true


/-! ## steps that the invariant does not see -/

/-- a step that changes only fields of node `n` that neither the invariant nor the relations read -/
structure Irrel (n : Nat) (s s' : State) : Prop where
  same : SameG s s'
  above : Above n s s'
  rel : ∀ X, LRel X s s'

theorem Irrel.ofC {n : Nat} {s s' : State} (h : CutH.Irrel n s s') : Irrel n s s' := ⟨.ofC h.same, h.above, fun X => .ofC (h.rel X)⟩

theorem Irrel.refl (n : Nat) (s : State) : Irrel n s s := ⟨SameG.refl s, Above.refl n s, fun X => LRel.refl X s⟩
theorem Irrel.trans {n : Nat} {a b c : State} (h1 : Irrel n a b) (h2 : Irrel n b c) : Irrel n a c :=
  ⟨h1.same.trans h2.same, h1.above.trans h2.above, fun X => (h1.rel X).trans (h2.rel X)⟩

theorem Irrel.of_nodes {n : Nat} {s s' : State} (h1 : s'.nodes = s.nodes) (h2 : stateKey s' = stateKey s)
    (h3 : s'.panicCountdown = s.panicCountdown) (h4 : s'.propagateInvalidity = s.propagateInvalidity)
    (h5 : s'.rch = s.rch) : Irrel n s s' :=
  .ofC (CutH.Irrel.of_nodes h1 h2 h3 h4 h5)

theorem Irrel.marked (n : Nat) (s : State) : Irrel n s (Sched.hasMarked n s) :=
  .ofC (CutH.Irrel.marked n s)

theorem Irrel.mhas {n : Nat} {s s' : State} {r : Except Panic Unit}
    (h : (maybeHandleAfterStabilisation n).run.run s = (r, s')) : Irrel n s s' := by
  rcases mhas_cases h with e | e
  · rw [e]; exact Irrel.refl n s
  · rw [e]; exact Irrel.marked n s

def heightSet (n : Nat) (h : Int) (s : State) : State :=
  { s with maxHeightSeen := max s.maxHeightSeen h, nodes := s.nodes.modify n fun x => { x with height := h } }

/-- `setHeight n h` that returns -/
theorem setHeight_ok_upd {n : Nat} {h : Int} {s s' : State} {u : Unit} (hn : n < s.nodes.size)
    (hr : (setHeight n h).run.run s = (.ok u, s')) :
    NodeUpd n (fHeight h) s s' ∧ Above n s s' ∧ LRel (· = n) s s' ∧ (s'.nodeD n).height = h ∧
      (∀ m, m ≠ n → s'.nodeD m = s.nodeD m) :=
  have ⟨U, A, L, e⟩ := CutH.setHeight_ok_upd hn hr
  ⟨.ofC U, A, .ofC L, e⟩

/-- the relations through a successful `rchInsert` -/
theorem rchInsert_rel {n : Nat} {s s' : State} {u : Unit} (hr : (rchInsert n).run.run s = (.ok u, s')) :
    ∃ nd, s.nodes[n]? = some nd ∧ 0 ≤ nd.height ∧ nd.height ≤ s.rch.maxAllowed ∧
      s' = inserted n nd.height s ∧ Above n s s' ∧ ∀ X, LRel X s s' :=
  have ⟨nd, hnd, h0, hmax, e, A, L⟩ := CutH.rchInsert_rel hr
  ⟨nd, hnd, h0, hmax, e, A, fun X => .ofC (L X)⟩

theorem link_spec (env : Env) (fuel : Nat) : BNSpec env fuel ∧ APSpec env fuel :=
  have L := CutH.link_corr env 0 fuel
  ⟨fun n s s' op h I hop hlow hpar =>
      have J := (L.1 n s (cop op) I.toC (cop_linking.2 hop) (fun m hm => hlow m (cop_ne_closed.1 hm))
        fun p i hp => cop_ne_closed.2 (hpar p i hp)).ok h
      have R : LRel (· = n) s s' := .ofC J.2.2.1
      ⟨.ofC' J.1 (I.eqCut.frame R.fr), J.2.1, R⟩,
    fun c idx p s s' op h I hop hk hlow =>
      have J := (L.2 c idx p s (cop op) I.toC (cop_linking.2 hop) hk fun m hm => hlow m (cop_ne_closed.1 hm)).ok h
      have R : LRel (fun _ => False) s s' := .ofC J.2.2.1
      ⟨.ofC' J.1 (I.eqCut.frame R.fr), J.2.1, R, J.2.2.2.1⟩⟩

/-- **The linking cascade.** A successful `becameNecessary n` on a node that has just become necessary
(labelled `.linking 0`: none of its child edges is recorded yet), all of whose recorded parents are open and which
is the lowest open node, closes `n`: the structural invariant holds with `n` closed; nodes above `n` are
untouched; parent lists only grew; necessary nodes other than `n` kept their height. -/
theorem becameNecessary_spec {env : Env} {fuel n : Nat} {s s' : State} {op : Nat → Op}
    (h : (becameNecessary env fuel n).run.run s = (.ok (), s')) (I : GInv env s op)
    (hop : op n = .linking 0) (hlow : ∀ m, op m ≠ .closed → n ≤ m)
    (hpar : ∀ p i, (p, i) ∈ (s.nodeD n).parents → op p ≠ .closed) :
    GInv env s' (upd op n .closed) ∧ Above n s s' ∧ LRel (· = n) s s' :=
  (link_spec env fuel).1 n s s' op h I hop hlow hpar

end IncrVerif.Proofs.Quiet
