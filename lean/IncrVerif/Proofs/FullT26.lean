import IncrVerif.Proofs.FullT17
import IncrVerif.Proofs.FullT20
import IncrVerif.Proofs.FullT29
/-!
# C04 combined fragment: one step of the drain returns (`StepTotF`), from its five cases
-/
namespace IncrVerif.Proofs.FullT
open IncrVerif.Engine IncrVerif.Driver IncrVerif.Proofs IncrVerif.Proofs.Step IncrVerif.Proofs.Sched IncrVerif.Proofs.Quiet IncrVerif.Proofs.FullH
open IncrVerif.Proofs.BindH (DInv BGraph StepRelB TargetB FrameB)
open IncrVerif.Proofs.NestH (AuxS2 Aux2 GenOK2 F2Inv DT HBo2 RhsRan Lim cnt TotIf HasRoomG StepL2 LcStepsOK2 LcStepTotG stepFuel)

section
variable {env : Env} {sp : Nat → Val → Val} {N : Nat}

/-- the fuel one step of the drain needs in a state with `sz` nodes (the bound of the runs of change detectors of NestH) -/
theorem stepFuel_facts : (∀ sz, sz ≤ stepFuel sz) ∧ (∀ sz, 1 ≤ stepFuel sz) ∧ (∀ sz, 3 * sz + 3 ≤ stepFuel sz) ∧
    (∀ a b, a ≤ b → stepFuel a ≤ stepFuel b) := by
  unfold stepFuel
  refine ⟨?_, ?_, ?_, ?_⟩ <;> intros <;> omega

/-- **one `recomputeOne` of the drain returns** if the state it ends in has room -/
theorem stepTotF (E : EnvS env sp) (hF : FirstFn env) : StepTotF stepFuel env sp N := by
  have hsz := stepFuel_facts.1
  have hpos := stepFuel_facts.2.1
  have L : LcStepTotG stepFuel (VE env sp) N := NestH.lcStepTot (VE env sp) N
  intro fuel n t s g X r1 s1 h hN hf
  have D := X.d
  have hgrow := NestH.T2g.recomputeOne_size h
  have hroom : s.nodes.size ≤ N := Nat.le_trans hgrow hN
  have hfs : s.nodes.size ≤ fuel := Nat.le_trans hgrow (Nat.le_trans (hsz _) hf)
  have hf1 : 1 ≤ fuel := Nat.le_trans (hpos _) hf
  by_cases hk1 : ∀ p i, (s.nodeD n).kind ≠ .mapRef p i
  · by_cases hk2 : ∀ m i, (s.nodeD n).kind ≠ .mapWithOld m i
    · by_cases hex : (s.nodeD n).cutoff = .eq ∨ ∃ b, (s.nodeD n).kind = .bindLhsChange b
      · -- simulated
        obtain ⟨r, e, P1⟩ := recomputeOne_simulated_totIf stepFuel_facts.2.2.1 E D X.p X.t hk1 hk2 hex r1 s1 h ⟨hN, hf⟩
        subst e
        obtain ⟨g', D', f', hr', -, hv⟩ := step_simulated (lcSim_of E) (lcKSpec_of_envS E) D hk1 hk2 hex h
        obtain ⟨-, -, T'⟩ := NestH.T2g.step_tot L D.inv X.t hv (by rw [virt_size]; exact hN) (by rw [virt_size]; exact hf) hf1
        exact ⟨r, rfl, g', ⟨D', P1, T'⟩, f', hr'⟩
      · -- the verdict step
        have hk3 : ∀ b, (s.nodeD n).kind ≠ .bindLhsChange b := fun b e => hex (Or.inr ⟨b, e⟩)
        obtain ⟨r, s', hrun, P1⟩ := step_verdict_returns D X.p X.t hroom hk1 hk2 hk3 hfs hf1
        rw [hrun] at h
        cases h
        obtain ⟨D', f', hr', -, T'⟩ := step_verdict_dt hF D X.t hk1 hk2 hk3 hrun
        exact ⟨r, rfl, g, ⟨D', P1, T'⟩, f', hr'⟩
    · -- map_with_old
      have : ∃ m i, (s.nodeD n).kind = .mapWithOld m i := by
        cases hkd : (s.nodeD n).kind <;>
          first | exact ⟨_, _, rfl⟩ | (exfalso; apply hk2; intro m i; rw [hkd]; intro h; cases h)
      obtain ⟨m, i, hk⟩ := this
      obtain ⟨r, s', hrun, P1⟩ := step_mwo_returns D X.p X.t hroom hk hfs hf1
      rw [hrun] at h
      cases h
      obtain ⟨D', f', hr', -, T'⟩ := step_mwo_dt D X.t hk hrun
      exact ⟨r, rfl, g, ⟨D', P1, T'⟩, f', hr'⟩
  · -- map_ref
    have : ∃ p i, (s.nodeD n).kind = .mapRef p i := by
      cases hkd : (s.nodeD n).kind <;>
        first | exact ⟨_, _, rfl⟩ | (exfalso; apply hk1; intro p i; rw [hkd]; intro h; cases h)
    obtain ⟨p, i, hk⟩ := this
    obtain ⟨r, s', hrun, P1⟩ := step_mapRef_returns D X.p X.t hroom hk hf1
    rw [hrun] at h
    cases h
    obtain ⟨g', D', f', hr', -, T'⟩ := step_mapRef_dt D X.t hk hrun
    exact ⟨r, rfl, g', ⟨D', P1, T'⟩, f', hr'⟩

end
end IncrVerif.Proofs.FullT
