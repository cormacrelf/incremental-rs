import IncrVerif.Proofs.BindF1F2
import IncrVerif.Proofs.NestH50
/-!
# Fragment F1 inside fragment F2: the invariant between API actions

`F1Inv` gives `F2Inv` at the rank `rkOf s` (a closure of F1 is a closure of F2 of nesting depth 1), hence `QInv1` gives `QInv2`; the way back
takes the two F1 components (`Struct1`, `F1Inv`) of the new state.
-/
namespace IncrVerif.Proofs.BindH
open IncrVerif.Engine IncrVerif.Driver IncrVerif.Proofs IncrVerif.Proofs.Step IncrVerif.Proofs.Sched IncrVerif.Proofs.Quiet
open IncrVerif.Proofs.NestH

variable {env : Env} {s s' : State}

theorem F1Inv.to2 (A : F1Inv env s) : F2Inv env (rkOf s) s := by
  have F := A.frag
  have hK : 0 < s.nodes.size + 1 := by omega
  -- the two nodes of a bind are top-level, hence valid
  have recs : ∀ (b : Nat) (br : BindRec), s.binds[b]? = some br → br.lhsChange < s.nodes.size ∧ br.main < s.nodes.size ∧
      (s.nodeD br.lhsChange).createdIn = .top ∧ (s.nodeD br.lhsChange).valid = true ∧
      (s.nodeD br.main).valid = true := by
    intro b br hb
    obtain ⟨h1, h2, -, -, h5, h6⟩ := F.recs b br hb
    exact ⟨by omega, h2, h5, ((F.node _ (by omega)).top h5).1, ((F.node _ h2).top h6).1⟩
  have below : ∀ (b : Nat) (br : BindRec) (r : Nat), s.binds[b]? = some br → (s.nodeD r).createdIn = .top → r < br.lhsChange →
      rkOf s r < rkOf s br.lhsChange := by
    intro b br r hb hr hlt
    rw [rkOf_top hr, rkOf_top (recs b br hb).2.2.1]
    exact Nat.mul_lt_mul_of_pos_right hlt hK
  have opnd : ∀ (b : Nat) (br : BindRec) (nloc : Nat) (o : Opnd), s.binds[b]? = some br → OpndOK s br.lhsChange nloc o →
      OpndOK2 (rkOf s) s br.lhsChange nloc o := by
    intro b br nloc o hb ho
    cases o with
    | outer k =>
      obtain ⟨r, h1, h2⟩ := ho
      exact ⟨r, h1, below b br r hb (A.topOK k r h1).2.1 h2⟩
    | loc j => exact ho
    | abs _ => exact ho.elim
    | slot _ => exact ho.elim
  refine { frag := F.to2, nodup := A.nodup, ahh := A.ahh, pinv := A.pinv, noForce := A.noForce, noHandlers := A.noHandlers,
           inv := A.inv, scopeObs := A.scopeObs, lcObs := A.lcObs, lcCut := A.lcCut, topOK := A.topOK, closures := ?_,
           lhsOK := ?_, rhsNone := A.rhsNone, deadNone := ?_, rhsOK := ?_ }
  · intro b br hb
    refine ⟨1, fun v => ?_⟩
    obtain ⟨h1, h2⟩ := A.closures b br v hb
    refine ⟨fun j i hj => ?_, opnd b br _ _ hb h2⟩
    have hi := h1 j i hj
    cases i <;> first | exact hi | exact hi.elim | skip
    · exact ⟨hi.1, hi.2.1, fun a ha => opnd b br _ _ hb (hi.2.2 a ha)⟩
    · exact fun a ha => opnd b br _ _ hb (hi a ha)
  · intro b br hb hv b' hk
    obtain ⟨-, -, h3, -⟩ := F.recs b br hb
    have hmem : br.lhs ∈ s.children br.lhsChange := by
      unfold State.children Node.kind?
      rw [hv, h3]
      simp only [if_true, hb]
      exact List.mem_cons_self ..
    have := (F.node _ (recs b br hb).1).lcChild br.lhs b' hmem hk
    rw [h3] at this
    cases this
  · intro b br hb hv
    rw [(recs b br hb).2.2.2.2] at hv
    cases hv
  · intro b br o hb hr _
    obtain ⟨-, h2, -, h4, -⟩ := F.recs b br hb
    rcases A.rhsOK b br o hb hr with ⟨h1, hlt, hk⟩ | ⟨h1, hv⟩
    · exact ⟨hk, Or.inl ⟨h1, below b br o hb h1 hlt⟩⟩
    · refine ⟨fun b' e => ?_, Or.inr ⟨h1, hv⟩⟩
      have hmem : o ∈ s.children br.main := by
        unfold State.children Node.kind?
        rw [(recs b br hb).2.2.2.2, h4]
        simp only [if_true, hb, hr]
        exact List.mem_cons_of_mem _ (List.mem_cons_self ..)
      obtain ⟨k1, -, -⟩ := (F.node o ((F.node _ h2).kidsIn o hmem)).inScope b h1
      rw [e] at k1
      exact k1

theorem QInv1.to2 (Q : QInv1 env s) : QInv2 env (rkOf s) s := { Q with struct := Q.struct.to2, f2 := Q.f1.to2 }

end IncrVerif.Proofs.BindH

namespace IncrVerif.Proofs.NestH
open IncrVerif.Engine IncrVerif.Proofs IncrVerif.Proofs.Quiet IncrVerif.Proofs.BindH

theorem QInv2.to1 {env : Env} {rk : Nat → Nat} {s : State} (Q : QInv2 env rk s) (S : Struct1 env s) (F : F1Inv env s) :
    QInv1 env s := { Q with struct := S, f1 := F }

end IncrVerif.Proofs.NestH

namespace IncrVerif.Proofs.BindH
open IncrVerif.Engine IncrVerif.Driver IncrVerif.Proofs IncrVerif.Proofs.Step IncrVerif.Proofs.Sched IncrVerif.Proofs.Quiet
open IncrVerif.Proofs.NestH

/-! ## writes outside `stabilise` (and the read-only actions) keep `QInv1` -/

/-- the final state of a successful write outside `stabilise` keeps the invariant -/
theorem C2w.wroteOutside_q {env : Env} {s : State} {v : Nat} {vc : VarCell} (x : Val)
    (Q : QInv1 env s) (hv : s.vars[v]? = some vc)
    (hh : vc.setAt < s.stabNum →
      ((s.nodeD vc.node).valid && s.isNecessary vc.node && !(s.nodeD vc.node).inRch) = true →
      0 ≤ (s.nodeD vc.node).height ∧ (s.nodeD vc.node).height ≤ s.rch.maxAllowed) :
    C2w.WRel1 v vc x s (wroteOutside v vc x s) ∧ QInv1 env (wroteOutside v vc x s) := by
  obtain ⟨R, Q'⟩ := N4w.wroteOutside_q x Q.to2 hv hh
  have S' : GInv2 env (rkOf s) (wroteOutside v vc x s) allClosed noEx [] := Q'.struct
  have S : Struct1 env s := Q.struct
  refine ⟨R, Q'.to1 (S'.to1 (CF.all1_transfer S.frag R.size R.shape R.binds (R.scope.trans S.frag.scope)
      (R.pc.trans S.frag.pc)))
    (CF.F1Inv.transfer Q.f1 R.size R.shape R.handlers (fun m hq => Or.inr ?_) R.heightInAhh R.binds R.top R.ahh R.pinv
      R.scope (R.pc.trans Q.f1.frag.pc))⟩
  -- a queued node is necessary, hence valid
  rw [← R.valid]
  rcases S'.qnec m hq with h | ⟨k, h⟩
  · exact S'.valid_of_nec h
  · cases h

/-- **write.** A successful write outside `stabilise` keeps the invariant; the cell gets the new value. -/
theorem writeVar_q1 {env : Env} {s s' : State} {v : Nat} {f : Val → Val} {isSet : Bool} {r : Val}
    (Q : QInv1 env s) (h : (writeVar v f isSet).run.run s = (.ok r, s')) :
    QInv1 env s' ∧ ∃ vc, s.vars[v]? = some vc ∧ r = vc.value ∧
      s'.vars[v]? = some { vc with value := f vc.value, setAt := s.stabNum } ∧
      (∀ w, w ≠ v → s'.vars[w]? = s.vars[w]?) := by
  obtain ⟨vc, hv⟩ := writeVar_ok_cell h
  have hst : s.status ≠ .stabilising := by rw [Q.status]; intro e; cases e
  obtain ⟨hr, hs', -, -, hh⟩ := writeVar_outside_ok v f isSet s s' vc r hv hst h
  obtain ⟨R, Q'⟩ := C2w.wroteOutside_q (f vc.value) Q hv hh
  rw [← hs'] at R Q'
  exact ⟨Q', vc, hv, hr, R.var, R.other⟩

theorem step_write1 {env : Env} {s s' : State} {a : Action} {tokens : Array Nat} {r : String × Array Nat}
    (Q : QInv1 env s) (ha : Quiet.WriteOrRead a) (h : (stepAction env a tokens).run.run s = (.ok r, s')) :
    QInv1 env s' :=
  C2w.step_write_p (fun Q h => (writeVar_q1 Q h).1) Q ha h

end IncrVerif.Proofs.BindH
