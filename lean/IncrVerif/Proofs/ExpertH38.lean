import IncrVerif.Proofs.ExpertH37
import IncrVerif.Proofs.TidyH34
import IncrVerif.Proofs.Corr
/-!
# `adjustHeights`, part 3: the fragment-free statement `adjustHeights_ainv`; `ensureHeightRequirement` keeps the loop invariant;
the loop; the headline theorem `adjustHeights_specR`; closing a queued linking node
-/
namespace IncrVerif.Proofs.ExpertH.QR
open IncrVerif.Engine IncrVerif.Proofs IncrVerif.Proofs.Step IncrVerif.Proofs.Sched
open IncrVerif.Proofs.TidyH.XT IncrVerif.Proofs.TidyH.XT.X4e

namespace BA

theorem HRel.added (p : Nat) (x : Int) (s : State) : HRel s (ahhAdded p x s) :=
  HRel.upd (s := s) (n := p) (f := fun y => { y with heightInAhh := x }) rfl rfl (fun _ => ⟨rfl, rfl⟩) rfl
    (Int.le_refl _)

theorem HRel.heightSet {p : Nat} {v : Int} {s : State} (hv : (s.nodeD p).height ≤ v) :
    HRel s (heightSet p v s) :=
  HRel.upd (s := s) (n := p) (f := fun y => { y with height := v }) rfl rfl (fun _ => ⟨rfl, rfl⟩) rfl hv

/-- `ensureHeightRequirement c p` inside the loop: the edges `c → p` are fine afterwards -/
theorem ehr_step {rk : Nat → Nat} {B : Nat} {s0 s s' : State} {X : Nat → Nat → Nat → Prop} {Y : Nat → Prop} {oc op c p : Nat} {u : Unit}
    (h : (ensureHeightRequirement oc op c p).run.run s = (.ok u, s')) (A : AInv rk B s0 s X Y)
    (hX : ∀ x q i, X x q i → x = c) (hne : ∀ x q i, (q, i) ∈ (s0.nodeD x).parents → x ≠ q) (hcp : c ≠ p)
    (hlb : s.ahh.lowerBound ≤ (s.nodeD p).height) (hB : rk B ≤ rk p) :
    AInv rk B s0 s' (fun x q i => X x q i ∧ q ≠ p) Y ∧ HRel s s' ∧ s'.ahh.lowerBound = s.ahh.lowerBound := by
  obtain ⟨hc, hp, hcase⟩ := ehr_ok_inv h
  rcases hcase with ⟨hlt, e⟩ | ⟨hge, s1, hs1, e⟩
  · rw [e]
    refine ⟨⟨A.rel, A.wf, A.heap, ?_, A.old, A.hgt, A.hle, A.low, A.memB⟩, HRel.refl s, rfl⟩
    intro x q i hm
    rcases A.edge x q i hm with h1 | h1 | h1
    · exact Or.inl h1
    · exact Or.inr (Or.inl h1)
    · by_cases eq : q = p
      · left; rw [hX x q i h1, eq]; exact hlt
      · exact Or.inr (Or.inr ⟨h1, eq⟩)
  · have hne1 : ∀ (t : State), HRel s0 t → ∀ x q i, (q, i) ∈ (t.nodeD x).parents → x ≠ q := by
      intro t ht x q i hm
      rw [ht.parents] at hm
      exact hne x q i hm
    rcases hs1 with ⟨hmem, e1⟩ | ⟨hnm, h0, hx, e1⟩
    · rw [e1] at e
      rw [e]
      exact ⟨A.raise hp hmem (by omega) (by omega) hX (hne1 s A.rel), HRel.heightSet (by omega), rfl⟩
    · have hpar : ∀ q i, (q, i) ∈ (s.nodeD p).parents → (s.nodeD p).height < (s.nodeD q).height := by
        intro q i hm
        rcases A.edge p q i hm with h1 | h1 | h1
        · exact h1
        · exact absurd hnm h1
        · exact absurd (hX p q i h1).symm hcp
      have A1 := A.add hp hnm h0 hx hlb hpar hB
      rw [← e1] at A1
      have key := ahhAdded_nodeD (x := (s.nodeD p).height) hp
      have hhp : (s1.nodeD p).height = (s.nodeD p).height := by rw [e1, key, if_pos rfl]
      have hhc : (s1.nodeD c).height = (s.nodeD c).height := by rw [e1, key, if_neg hcp]
      have hmem : ahhMk s1 p ≠ -1 := by
        simp only [ahhMk]
        rw [e1, key, if_pos rfl]
        show (s.nodeD p).height ≠ -1
        omega
      have hp1 : p < s1.nodes.size := by rw [e1]; simpa [ahhAdded] using hp
      rw [e]
      refine ⟨A1.raise hp1 hmem (by omega) (by omega) hX (hne1 s1 A1.rel), ?_, ?_⟩
      · have r1 : HRel s s1 := by rw [e1]; exact HRel.added _ _ _
        exact r1.trans (HRel.heightSet (by omega))
      · rw [e1]; rfl

section loop
variable {rk : Nat → Nat} {N : Nat}

/-- what the inner loop needs to return while the popped node `c` is looked at: the static facts `LoopHypT`, the invariant `TI` (`TidyH34`), `c` was
necessary, the lower bound is `c`'s old height -/
def TP (rk : Nat → Nat) (N oc B : Nat) (s0 : State) (c : Nat) (dn : List Nat) (lb : Int) (u : State) : Prop :=
  (∃ env, LoopHypT env rk oc B s0) ∧ TI N s0 u dn noZ ∧ s0.isNecessary c = true ∧ lb ≤ (s0.nodeD c).height

/-- `ensureHeightRequirement c p` for a recorded edge `(p, i)` of the popped node `c` -/
theorem ehr_loop_corr {B : Nat} {s0 u : State} {dn : List Nat} {X : Nat → Nat → Nat → Prop} {oc op c p i : Nat}
    (hlt : ∀ x q i, (q, i) ∈ (s0.nodeD x).parents → rk x < rk q)
    (A : AInv rk B s0 u X noY) (hX : ∀ x q j, X x q j → x = c)
    (hm0 : (p, i) ∈ (s0.nodeD c).parents) (hB : rk B ≤ rk c) (hlbp : u.ahh.lowerBound ≤ (u.nodeD p).height) :
    Corr (ensureHeightRequirement oc op c p) u (TP rk N oc B s0 c dn u.ahh.lowerBound u)
      (fun _ u' => AInv rk B s0 u' (fun x q j => X x q j ∧ q ≠ p) noY ∧ HRel u u' ∧
        u'.ahh.lowerBound = u.ahh.lowerBound ∧
        (TP rk N oc B s0 c dn u.ahh.lowerBound u → TI N s0 u' dn noZ)) := by
  have hrk := hlt c p i hm0
  have hcp : c ≠ p := fun e => by rw [← e] at hrk; omega
  have hne : ∀ x q j, (q, j) ∈ (s0.nodeD x).parents → x ≠ q := fun x q j hm e => by
    have := hlt x q j hm; rw [e] at this; omega
  have hT : TP rk N oc B s0 c dn u.ahh.lowerBound u → c < s0.nodes.size ∧ p < s0.nodes.size ∧ p ≠ oc ∧
      s0.isNecessary p = true ∧ (u.nodeD c).height ≤ (dp s0 c : Int) + 1 ∧ dp s0 c < dp s0 p ∧ p ∉ dn := by
    intro ⟨⟨env, HT⟩, T, hcn, hlc⟩
    have hroc := HT.rkoc
    have hnp0 := HT.pnec c p i hm0
    refine ⟨nec_lt_size hcn, nec_lt_size hnp0, fun e => by rw [e] at hrk; omega, hnp0,
      T.bound c hcn (fun h => h), dp_kid_lt' HT.static (HT.par c p i hm0), fun hd => ?_⟩
    have h1 := (T.dnLow p hd).2
    have h2 := HT.fine0 c p i hm0 (fun e => by rw [e] at hB; omega)
    omega
  refine ⟨fun hP => ?_, fun _ u' hrun => ?_⟩
  · obtain ⟨hc0, hp0, hpo, hnp0, hcb, hdp, -⟩ := hT hP
    obtain ⟨⟨env, HT⟩, T, hcn, -⟩ := hP
    have hmax : (u.nodeD c).height + 1 ≤ u.ahh.maxAllowed := by
      have h2 := dp_lt_size HT.static hp0
      have h3 := T.room.size
      have h4 := T.room.ahh
      have h5 := A.rel.size
      omega
    have h0 : 0 ≤ (u.nodeD p).height := by
      have := HT.pos0 p hnp0
      have := A.rel.height p
      omega
    obtain ⟨u', hrun⟩ := ehr_tot (oc := oc) (op := op) (c := c) (p := p) (s := u) (by rw [A.rel.size]; exact hc0)
      (by rw [A.rel.size]; exact hp0) (by rw [A.rel.nec]; exact hcn) (by rw [A.rel.nec]; exact hnp0) hpo hlbp h0 hmax
    exact ⟨(), u', hrun⟩
  · obtain ⟨A', hr, hlb'⟩ := ehr_step hrun A hX hne hcp hlbp (by omega)
    refine ⟨A', hr, hlb', fun hP => ?_⟩
    obtain ⟨-, -, -, hnp0, hcb, hdp, hpd⟩ := hT hP
    exact (TI.ehr hrun A hP.2.1 hcb hdp hpd hnp0 (fun h => h.elim)).1.mono (fun m h => h.1)

/-- what the loop guarantees; it returns when every node still to be popped has its unit of fuel -/
def LoopCorr (rk : Nat → Nat) (N B : Nat) (s0 : State) (oc op fuel : Nat) : Prop :=
  ∀ s dn, AInv rk B s0 s noX noY →
    Corr (adjustHeightsLoop oc op fuel) s ((∃ env, LoopHypT env rk oc B s0) ∧ TI N s0 s dn noZ ∧ mu s0 dn < fuel)
      (fun _ s' => AInv rk B s0 s' noX noY ∧ AhhEmpty s' ∧
        ((∃ env, LoopHypT env rk oc B s0) ∧ TI N s0 s dn noZ ∧ mu s0 dn < fuel → ∃ dn', TI N s0 s' dn' noZ))

/-- the tail of one iteration of the loop, after the popped node has been re-bucketed -/
theorem tail_corr {B : Nat} {s0 s : State} {dn : List Nat} {oc op c fuel : Nat}
    (hlt : ∀ x q i, (q, i) ∈ (s0.nodeD x).parents → rk x < rk q)
    (hrhs : ∀ (c b : Nat) (br : BindRec), (s0.nodeD c).kind = .bindLhsChange b → s0.binds[b]? = some br →
      br.allNodesCreatedOnRhs = [])
    (ih : LoopCorr rk N B s0 oc op fuel)
    (A : AInv rk B s0 s (fun x _ _ => x = c) noY)
    (hlb : ∀ q i, (q, i) ∈ (s.nodeD c).parents → s.ahh.lowerBound ≤ (s.nodeD q).height) (hB : rk B ≤ rk c)
    (hc : c < s.nodes.size) :
    Corr (loopTail oc op c fuel) s (TP rk N oc B s0 c dn s.ahh.lowerBound s ∧ mu s0 dn < fuel)
      (fun _ s' => AInv rk B s0 s' noX noY ∧ AhhEmpty s' ∧
        (TP rk N oc B s0 c dn s.ahh.lowerBound s ∧ mu s0 dn < fuel → ∃ dn', TI N s0 s' dn' noZ)) := by
  have hc0 : c < s0.nodes.size := by rw [← A.rel.size]; exact hc
  unfold loopTail
  refine Corr.bind_getNode hc ?_
  -- the loop over the parents of `c`
  refine Corr.bind (Corr.forIn _ (s.nodeD c).parents
    (fun j (_ : PUnit) (t : State) =>
      AInv rk B s0 t (fun x q i => x = c ∧ ∃ k, j ≤ k ∧ (s.nodeD c).parents[k]? = some (q, i)) noY ∧
        t.ahh.lowerBound = s.ahh.lowerBound ∧ (∀ m, (s.nodeD m).height ≤ (t.nodeD m).height) ∧
        (TP rk N oc B s0 c dn s.ahh.lowerBound s → TI N s0 t dn noZ))
    ?hstep (s.nodeD c).parents 0 PUnit.unit (by simp) (Nat.zero_le _) ?hinit) (fun h => h.1) ?rest
  case hinit =>
    refine ⟨A.mono ?_ (fun _ hy => hy), rfl, fun _ => Int.le_refl _, fun hP => hP.2.1⟩
    intro x q i hm hx
    refine ⟨hx, ?_⟩
    rw [hx] at hm
    obtain ⟨k, hk⟩ := List.mem_iff_getElem?.1 hm
    exact ⟨k, Nat.zero_le _, hk⟩
  case hstep =>
    intro j a b t hj ⟨At, hlbt, hgrow, Tt⟩
    have hmem : (a.1, a.2) ∈ (s.nodeD c).parents := List.mem_of_getElem? hj
    have hmem0 : (a.1, a.2) ∈ (s0.nodeD c).parents := by rw [← A.rel.parents]; exact hmem
    have hP : TP rk N oc B s0 c dn s.ahh.lowerBound s → TP rk N oc B s0 c dn t.ahh.lowerBound t :=
      fun hP => ⟨hP.1, Tt hP, hP.2.2.1, by rw [hlbt]; exact hP.2.2.2⟩
    refine Corr.bind (ehr_loop_corr (N := N) (dn := dn) (oc := oc) (op := op) hlt At (fun x q i hx => hx.1) hmem0 hB
      (by
        rw [hlbt]
        have := hlb a.1 a.2 hmem
        have := hgrow a.1
        omega)) hP ?_
    rintro _ t' - ⟨At1, hr1, hlb1, Tt1⟩
    refine Corr.pure ⟨_, rfl, At1.mono ?_ (fun _ hy => hy), by rw [hlb1, hlbt],
      fun m => Int.le_trans (hgrow m) (hr1.height m), fun h => Tt1 (hP h)⟩
    rintro x q i - ⟨⟨hx, k, hk, hkq⟩, hqa⟩
    refine ⟨hx, k, ?_, hkq⟩
    rcases Nat.lt_or_ge j k with hlt | hge
    · exact hlt
    · have : k = j := by omega
      rw [this, hj] at hkq
      cases hkq
      exact absurd rfl hqa
  case rest =>
    rintro _ t - ⟨At, hlbt, hgrow, Tt⟩
    have At' : AInv rk B s0 t noX noY := by
      refine At.mono ?_ (fun _ hy => hy)
      rintro x q i - ⟨-, k, hk, hkq⟩
      rw [List.getElem?_eq_none hk] at hkq
      cases hkq
    have hct : c < t.nodes.size := by rw [At.rel.size]; exact hc0
    have hPn : TP rk N oc B s0 c dn s.ahh.lowerBound s ∧ mu s0 dn < fuel →
        (∃ env, LoopHypT env rk oc B s0) ∧ TI N s0 t dn noZ ∧ mu s0 dn < fuel :=
      fun h => ⟨h.1.1, Tt h.1, h.2⟩
    have hnext : Corr (adjustHeightsLoop oc op fuel) t (TP rk N oc B s0 c dn s.ahh.lowerBound s ∧ mu s0 dn < fuel)
        (fun _ s' => AInv rk B s0 s' noX noY ∧ AhhEmpty s' ∧
          (TP rk N oc B s0 c dn s.ahh.lowerBound s ∧ mu s0 dn < fuel → ∃ dn', TI N s0 s' dn' noZ)) :=
      (ih t dn At').mono hPn (fun _ s' ⟨A', E', T'⟩ => ⟨A', E', fun h => T' (hPn h)⟩)
    refine Corr.bind_getNode hct ?_
    dsimp only
    split
    · -- a bind whose right-hand side created nothing adds no requirement; no such node is static
      rename_i b hkb
      have hk : (s0.nodeD c).kind = .bindLhsChange b := by
        rw [← At'.rel.kind c]
        unfold Node.kind? at hkb
        split at hkb
        · exact Option.some.inj hkb
        · cases hkb
      refine ⟨fun hP => ?_, fun _ s' h => ?_⟩
      · obtain ⟨env, HT⟩ := hP.1.1
        have := (HT.static.node c hc0).kind
        rw [hk] at this; exact this.elim
      · obtain ⟨br, t1, hb, h⟩ := bind_ok_inv h
        obtain ⟨e2, hbr⟩ := getBind_ok_inv hb
        rw [At'.rel.binds] at hbr
        rw [hrhs c b br hk hbr, List.forIn_nil] at h
        obtain ⟨_, t2, h1, h⟩ := bind_ok_inv h
        obtain ⟨-, e1⟩ := pure_ok_inv h1
        rw [e1, e2] at h
        exact hnext.ok h
    · exact hnext

theorem loop_corr {B : Nat} {s0 : State} {oc op : Nat} (hlt : ∀ x q i, (q, i) ∈ (s0.nodeD x).parents → rk x < rk q)
    (hrhs : ∀ (c b : Nat) (br : BindRec), (s0.nodeD c).kind = .bindLhsChange b → s0.binds[b]? = some br →
      br.allNodesCreatedOnRhs = []) (fuel : Nat) :
    LoopCorr rk N B s0 oc op fuel := by
  induction fuel with
  | zero => intro s dn _; unfold adjustHeightsLoop; exact Corr.throw (fun h => by omega)
  | succ fuel ih =>
    intro s dn A
    unfold adjustHeightsLoop
    obtain ⟨r, s1, h1⟩ := ahhRemoveMin_tot s
    refine Corr.bind_ok h1 ?_
    rcases ahhRemoveMin_ok_inv h1 with ⟨er, e1, hnone⟩ | ⟨c, rest, er, hq, e1⟩
    · rw [er, e1]
      exact Corr.pure ⟨A, A.wf.none_empty hnone, fun h => ⟨dn, h.2.1⟩⟩
    · rw [er]
      dsimp only
      obtain ⟨A1, hBc, hlb1, key⟩ := A.pop hq
      have hcs : c < s.nodes.size := lt_size_of_mk (by rw [(A.wf.popped hq).2]; omega)
      -- what the pop gives for `TI`
      have hT : (∃ env, LoopHypT env rk oc B s0) ∧ TI N s0 s dn noZ ∧ mu s0 dn < fuel + 1 →
          TP rk N oc B s0 c (c :: dn) (ahhPopped (ahhFirst s) c rest s).ahh.lowerBound
              (ahhPopped (ahhFirst s) c rest s) ∧
            mu s0 (c :: dn) < fuel ∧ ((s.nodeD c).inRch = true → (s.nodeD c).heightInRch < (s.nodeD c).height) := by
        intro ⟨HT, T, hfuel⟩
        obtain ⟨T1, hcd, -, hcn, hlbc, hstr⟩ := TI.pop A T hq
        have := mu_cons_lt (s0 := s0) (dn := dn) (n := c) (by rw [← A.rel.size]; exact hcs) hcd
        exact ⟨⟨HT, T1, hcn, by rw [hlbc]; exact Int.le_refl _⟩, by omega, hstr⟩
      rw [← e1] at A1 hlb1 key hT
      have hc0 : c < s0.nodes.size := by rw [← A.rel.size]; exact hcs
      have hc1 : c < s1.nodes.size := by rw [A1.rel.size]; exact hc0
      have hmk1 : ahhMk s1 c = -1 := by
        simp only [ahhMk]
        rw [key, if_pos rfl]
      have hpar1 : (s1.nodeD c).parents = (s.nodeD c).parents := by rw [key, if_pos rfl]
      refine Corr.bind_getNode hc1 ?_
      by_cases hin : (s1.nodeD c).inRch = true
      · rw [if_pos hin]
        refine Corr.bind_ret (fun hP => ?_) (fun _ s2 h2 => ?_)
        · obtain ⟨⟨⟨env, HT⟩, T1, hcn, -⟩, -, hstr⟩ := hT hP
          have hstr1 : (s1.nodeD c).heightInRch < (s1.nodeD c).height := by
            have hin' := hin
            rw [key, if_pos rfl] at hin' ⊢
            exact hstr hin'
          have hmax : (s1.nodeD c).height ≤ s1.rch.maxAllowed := by
            have h1 := T1.bound c hcn (fun h => h)
            have h2 := dp_lt_size HT.static hc0
            have h3 := T1.room.size
            have h4 := T1.room.rch
            have h5 := A1.rel.size
            omega
          obtain ⟨s2, h2⟩ := rchIncreaseHeight_tot A1.heap.wf hc1 hin hstr1 hmax
          exact ⟨(), s2, h2⟩
        obtain ⟨Q, -, h0, hmx, hQ, e2⟩ := rchIncreaseHeight_ok_inv h2
        have hwf : HeapWF s2 := by
          have := (triple_iff _ _ _ _).1 (rchIncreaseHeight_spec .release c) s1
            ⟨(HWF_release_iff s1).2 A1.heap.wf, Or.inr ⟨s1.nodeD c, some_of_lt hc1, h0, by
              simp only [Heap.maxAllowed] at hmx; omega⟩⟩
          rw [h2] at this
          exact (HWF_release_iff s2).1 this
        rw [e2] at hwf
        have A2 := A1.rebucket hc1 hin h0 hQ hwf (fun _ hy => hy) hBc
        rw [← e2] at A2
        have key2 : ∀ m, (s2.nodeD m).height = (s1.nodeD m).height ∧
            (s2.nodeD m).parents = (s1.nodeD m).parents := by
          intro m
          rw [e2, nodeD_upd (s := s1) (f := fun y => { y with heightInRch := (s1.nodeD c).height }) rfl hc1]
          split
          · rename_i e; rw [e]; exact ⟨rfl, rfl⟩
          · exact ⟨rfl, rfl⟩
        have elb : s2.ahh.lowerBound = s1.ahh.lowerBound := by rw [e2]; rfl
        have hP2 : (∃ env, LoopHypT env rk oc B s0) ∧ TI N s0 s dn noZ ∧ mu s0 dn < fuel + 1 →
            TP rk N oc B s0 c (c :: dn) s2.ahh.lowerBound s2 ∧ mu s0 (c :: dn) < fuel := by
          intro hP
          obtain ⟨⟨HT, T1, hcn, hlc⟩, hfu, -⟩ := hT hP
          have T2 := T1.rebucket hc1 hmk1 hQ
          rw [← e2] at T2
          exact ⟨⟨HT, T2, hcn, by rw [elb]; exact hlc⟩, hfu⟩
        refine (tail_corr (dn := c :: dn) hlt hrhs ih A2 ?_ hBc (by rw [e2]; simpa [rebucketed] using hc1)).mono hP2
          (fun _ s' ⟨A', E', T'⟩ => ⟨A', E', fun h => T' (hP2 h)⟩)
        intro q i hm
        rw [(key2 c).2, hpar1] at hm
        have := hlb1 q i hm
        rw [(key2 q).1, elb]; omega
      · rw [if_neg hin]
        have A2 : AInv rk B s0 s1 (fun x _ _ => x = c) noY := by
          refine ⟨A1.rel, A1.wf, A1.heap, A1.edge, A1.old, ?_, A1.hle, A1.low, A1.memB⟩
          intro m hq' hm _
          by_cases e : m = c
          · rw [e] at hq'; exact absurd hq' hin
          · exact A1.hgt m hq' hm e
        have hP2 : (∃ env, LoopHypT env rk oc B s0) ∧ TI N s0 s dn noZ ∧ mu s0 dn < fuel + 1 →
            TP rk N oc B s0 c (c :: dn) s1.ahh.lowerBound s1 ∧ mu s0 (c :: dn) < fuel :=
          fun hP => ⟨(hT hP).1, (hT hP).2.1⟩
        refine (tail_corr (dn := c :: dn) hlt hrhs ih A2 ?_ hBc hc1).mono hP2
          (fun _ s' ⟨A', E', T'⟩ => ⟨A', E', fun h => T' (hP2 h)⟩)
        intro q i hm
        rw [hpar1] at hm
        have := hlb1 q i hm
        omega

end loop

/-! ## the invariant after the loop (the open node stays open) -/

theorem keep {env : Env} {rk : Nat → Nat} {B : Nat} {s s' : State} {op : Nat → Op} {op' : Nat}
    (A : AInv rk B s s' noX noY) (E : AhhEmpty s') (I : GInv env rk s op) :
    GInv env rk s' op ∧
      (∀ c i, (op', i) ∈ (s'.nodeD c).parents → (s'.nodeD c).height < (s'.nodeD op').height) ∧
      ((s'.nodeD op').inRch = true → (s'.nodeD op').heightInRch = (s'.nodeD op').height) := by
  have R := A.rel
  have hw : ∀ p i, Wants s' op p i ↔ Wants s op p i := by
    intro p i; unfold Wants; rw [R.nec]
  have hfine : ∀ c p i, (p, i) ∈ (s'.nodeD c).parents → (s'.nodeD c).height < (s'.nodeD p).height := by
    intro c p i hm
    rcases A.edge c p i hm with h | h | h
    · exact h
    · exact absurd (E.marks c) h
    · exact h.elim
  refine ⟨{ static := R.static I.static, par := ?_, conv := ?_, nodup := ?_, hlt := ?_, hpos := ?_,
            lnec := ?_, unec := ?_, heap := A.heap, hgt := ?_, qnec := ?_, queued := ?_,
            qstale := ?_, opLt := ?_ }, fun c i hm => hfine c op' i hm,
    fun hq => A.hgt op' hq (E.marks op') (fun h => h)⟩
  · intro c p i hm
    rw [R.parents] at hm
    obtain ⟨h1, h2⟩ := I.par c p i hm
    exact ⟨by rw [R.kind]; exact h1, (hw p i).2 h2⟩
  · intro p i c hk hw'
    rw [R.kind] at hk
    rw [R.parents]
    exact I.conv p i c hk ((hw p i).1 hw')
  · intro c; rw [R.parents]; exact I.nodup c
  · intro c p i hm _
    exact hfine c p i hm
  · intro n hn ho
    rw [R.nec] at hn
    have h2 := I.hpos n hn ho
    have h3 := R.height n
    omega
  · intro p k ho; rw [R.nec]; exact I.lnec p k ho
  · intro p k ho; rw [R.nec]; exact I.unec p k ho
  · intro m hqm _
    exact A.hgt m hqm (E.marks m) (fun h => h)
  · intro m hqm
    rw [R.inRch] at hqm
    rw [R.nec]
    exact I.qnec m hqm
  · intro m ho hn hs
    rw [R.nec] at hn
    rw [R.staleOf] at hs
    rw [R.inRch]
    exact I.queued m ho hn hs
  · intro m hqm
    rw [R.inRch] at hqm
    rw [R.staleOf]; exact I.qstale m hqm
  · intro m ho; rw [R.size]; exact I.opLt m ho

end BA

/-- among static kinds there is no `bind_lhs_change` node -/
theorem no_bindLhs {env : Env} {s : State} (hstat : ∀ m, m < s.nodes.size → StaticKind env (s.nodeD m).kind)
    (c b : Nat) (br : BindRec) (hk : (s.nodeD c).kind = .bindLhsChange b) (_ : s.binds[b]? = some br) :
    br.allNodesCreatedOnRhs = [] := by
  by_cases hc : c < s.nodes.size
  · have := hstat c hc
    rw [hk] at this; exact this.elim
  · rw [nodeD_default s c (by omega)] at hk; cases hk

open BA in
/-- what `adjustHeights oc op'` needs to return (for some `env`): the nodes are static, every necessary node but `op'` is within the depth bound,
there is room, the edge `oc → op'` is recorded, `hge` the precondition of the call (`stateAddParent` calls `adjustHeights child parent` only if
`child.height ≥ parent.height`), fuel for one pop per node -/
structure AdjP (env : Env) (rk : Nat → Nat) (N oc op' fuel : Nat) (s : State) : Prop where
  hyp : LoopHypT env rk oc op' s
  room : Room N s
  bound : ∀ m, s.isNecessary m = true → m ≠ op' → (s.nodeD m).height ≤ (dp s m : Int) + 1
  edge : ∃ i, (op', i) ∈ (s.nodeD oc).parents
  necP : s.isNecessary op' = true
  hge : (s.nodeD op').height ≤ (s.nodeD oc).height
  h0 : 0 ≤ (s.nodeD op').height
  fuel : s.nodes.size + 1 ≤ fuel

open BA in
/-- **`adjustHeights oc op'` restores the height rule**, whatever the fragment.  In `s` the rank grows along recorded edges, the recompute heap is
well formed with every queued node in the bucket of its height, the adjust-heights heap is empty, and the edges `oc → op'` are the only ones
that may go downwards; a `bind_lhs_change` node has no nodes created on its right-hand side to look at.  Afterwards (`AInv … noX noY` with an
empty heap): `HRel s s'`, every recorded edge goes upwards, queued nodes are in the bucket of their height, nodes of rank below `op'` are
untouched.  **It returns** under `AdjP`: no "cyclic" panic (the new edge respects the rank), no "height-limit" (the depth bounds the heights and
there is room), every node is popped from the adjust-heights heap at most once. -/
theorem adjustHeights_corr {rk : Nat → Nat} {N oc op' fuel : Nat} {s : State}
    (hlt : ∀ x q i, (q, i) ∈ (s.nodeD x).parents → rk x < rk q)
    (hrhs : ∀ (c b : Nat) (br : BindRec), (s.nodeD c).kind = .bindLhsChange b → s.binds[b]? = some br →
      br.allNodesCreatedOnRhs = [])
    (heap : HeapG s) (hocp : oc ≠ op')
    (hup : ∀ c p i, (p, i) ∈ (s.nodeD c).parents → (s.nodeD c).height < (s.nodeD p).height ∨ (c = oc ∧ p = op'))
    (hgt : ∀ m, (s.nodeD m).inRch = true → (s.nodeD m).heightInRch = (s.nodeD m).height)
    (hah : AhhEmpty s) :
    Corr (adjustHeights oc op' fuel) s (∃ env, AdjP env rk N oc op' fuel s) (fun _ s' =>
      AInv rk op' s s' noX noY ∧ AhhEmpty s' ∧ ((∃ env, AdjP env rk N oc op' fuel s) → ∃ dn, TI N s s' dn noZ)) := by
  have hne0 : ∀ x q i, (q, i) ∈ (s.nodeD x).parents → x ≠ q := fun x q i hm e => by
    have := hlt x q i hm; rw [e] at this; omega
  unfold adjustHeights
  refine Corr.bind_get ?_
  refine Corr.bind_dassert (fun _ _ => by rw [hah.length]; rfl) ?_
  refine Corr.bind_dassert (fun ⟨_, hP⟩ _ => by simpa using hP.hge) ?_
  refine Corr.bind_modify ?_
  intro s1 hs1
  -- the invariants hold initially, with the edges `oc → op'` still to be looked at
  have hnd1 : ∀ m, s1.nodeD m = s.nodeD m := fun m => by rw [hs1]; rfl
  have hlb1 : s1.ahh.lowerBound = (s.nodeD op').height := by rw [hs1]
  have E1 : AhhEmpty s1 := by
    rw [hs1]; exact ⟨hah.length, hah.buckets, hah.marks⟩
  have A1 : AInv rk op' s s1 (fun x q _ => x = oc ∧ q = op') noY := by
    refine ⟨by rw [hs1]; exact HRel.same_nodes rfl rfl, AhhEmpty.wf E1,
      heap.congr (by rw [hs1]) (by rw [hs1]) (fun m => by rw [hnd1]), ?_, ?_, ?_, ?_, fun m _ => hnd1 m,
      fun m hmm => absurd (E1.marks m) hmm⟩
    · intro c p i hm
      rw [hnd1] at hm
      rw [hnd1, hnd1]
      exact (hup c p i hm).imp id Or.inr
    · intro c p i _ hmc
      exact absurd (E1.marks c) hmc
    · intro m hqm _ _
      rw [hnd1] at hqm ⊢
      exact hgt m hqm
    · intro m hqm
      rw [hnd1] at hqm ⊢
      rw [hgt m hqm]; exact Int.le_refl _
  have T1 : ∀ {env}, AdjP env rk N oc op' fuel s → TI N s s1 [] (· = op') := by
    intro env hP
    refine ⟨by rw [hs1]; exact ⟨hP.room.ahh, hP.room.rch, hP.room.size⟩, ?_,
      fun m hm => absurd (E1.marks m) hm, fun m hm => absurd (E1.marks m) hm, fun m hm => absurd (E1.marks m) hm,
      fun m _ _ => by rw [hnd1], fun m hm => by cases hm⟩
    intro m hn hz
    rw [hnd1]
    exact hP.bound m hn hz
  -- the first `ensureHeightRequirement`
  refine Corr.bind_ret (fun ⟨env, hP⟩ => ?_) (fun _ s2 h2 => ?_)
  · obtain ⟨i0, hedge⟩ := hP.edge
    have hnoc : s.isNecessary oc = true := nec_of_mem_parents hedge
    have hop : op' < s.nodes.size := nec_lt_size hP.necP
    obtain ⟨s2, h2⟩ := ehr_tot (oc := oc) (op := op') (c := oc) (p := op') (s := s1)
      (by rw [A1.rel.size]; exact nec_lt_size hnoc) (by rw [A1.rel.size]; exact hop) (by rw [A1.rel.nec]; exact hnoc)
      (by rw [A1.rel.nec]; exact hP.necP) (fun e => hocp e.symm) (by rw [hlb1, hnd1]; exact Int.le_refl _)
      (by rw [hnd1]; exact hP.h0)
      (by
        have h0 := (T1 hP).bound oc hnoc hocp
        have h1 := dp_kid_lt' hP.hyp.static (hP.hyp.par oc op' i0 hedge)
        have h2 := dp_lt_size hP.hyp.static hop
        have h3 := (T1 hP).room.size
        have h4 := (T1 hP).room.ahh
        have h5 := A1.rel.size
        omega)
    exact ⟨(), s2, h2⟩
  obtain ⟨A2, -, -⟩ := ehr_step h2 A1 (fun x q i hx => hx.1) hne0 hocp
    (by rw [hnd1, hlb1]; exact Int.le_refl _) (Nat.le_refl _)
  have A2' : AInv rk op' s s2 noX noY := A2.mono (fun x q i _ hx => hx.2 hx.1.2) (fun _ hy => hy)
  have hPl : (∃ env, AdjP env rk N oc op' fuel s) →
      (∃ env, LoopHypT env rk oc op' s) ∧ TI N s s2 [] noZ ∧ mu s [] < fuel := by
    intro ⟨env, hP⟩
    obtain ⟨i0, hedge⟩ := hP.edge
    have hnoc : s.isNecessary oc = true := nec_of_mem_parents hedge
    refine ⟨⟨env, hP.hyp⟩, ?_, by rw [mu_nil]; exact hP.fuel⟩
    exact (TI.ehr h2 A1 (T1 hP) ((T1 hP).bound oc hnoc hocp) (dp_kid_lt' hP.hyp.static (hP.hyp.par oc op' i0 hedge))
      (List.not_mem_nil) hP.necP (fun _ => by rw [hnd1, hnd1]; exact hP.hge)).1.mono (fun m h => h.2 h.1)
  -- the loop
  refine Corr.bind (loop_corr (N := N) hlt hrhs fuel s2 [] A2') hPl ?_
  rintro _ s3 - ⟨A3, E3, T3⟩
  refine Corr.bind_get ?_
  refine Corr.bind_dassert (fun _ _ => by rw [E3.length]; rfl) ?_
  refine ⟨fun ⟨env, hP⟩ => ?_, fun _ s' h => ?_⟩
  · obtain ⟨i0, hedge⟩ := hP.edge
    have hfine : (s3.nodeD oc).height < (s3.nodeD op').height := by
      rcases A3.edge oc op' i0 (by rw [A3.rel.parents]; exact hedge) with h | h | h
      · exact h
      · exact absurd (E3.marks oc) h
      · exact h.elim
    exact ⟨(), s3, run_dassert_true s3 (fun _ => by simpa using hfine)⟩
  · rw [dassert_ok_inv h]
    exact ⟨A3, E3, fun hP => T3 (hPl hP)⟩

open BA in
theorem adjustHeights_ainv {rk : Nat → Nat} {oc op' fuel : Nat} {s s' : State}
    (h : (adjustHeights oc op' fuel).run.run s = (.ok (), s'))
    (hlt : ∀ x q i, (q, i) ∈ (s.nodeD x).parents → rk x < rk q)
    (hrhs : ∀ (c b : Nat) (br : BindRec), (s.nodeD c).kind = .bindLhsChange b → s.binds[b]? = some br →
      br.allNodesCreatedOnRhs = [])
    (heap : HeapG s) (hocp : oc ≠ op')
    (hup : ∀ c p i, (p, i) ∈ (s.nodeD c).parents → (s.nodeD c).height < (s.nodeD p).height ∨ (c = oc ∧ p = op'))
    (hgt : ∀ m, (s.nodeD m).inRch = true → (s.nodeD m).heightInRch = (s.nodeD m).height)
    (hah : AhhEmpty s) :
    AInv rk op' s s' noX noY ∧ AhhEmpty s' :=
  have ⟨A, E, _⟩ := (adjustHeights_corr (N := 0) hlt hrhs heap hocp hup hgt hah).ok h
  ⟨A, E⟩

open BA in
/-- `adjustHeights` for `QR.GInv`: `op'` is the only open node, all its child edges are recorded, the edges `oc → op'` are the only ones that
may violate the height rule.  The open node stays open.  Also: nodes of rank below `op'` are untouched. -/
theorem adjustHeights_specR_full {env : Env} {rk : Nat → Nat} {oc op' fuel : Nat} {s s' : State} {op : Nat → Op}
    (h : (adjustHeights oc op' fuel).run.run s = (.ok (), s'))
    (I : GInv env rk s op)
    (hclosed : ∀ m, m ≠ op' → op m = .closed)
    (hedge : ∃ i, (op', i) ∈ (s.nodeD oc).parents)
    (hother : ∀ c i, (op', i) ∈ (s.nodeD c).parents → c ≠ oc → (s.nodeD c).height < (s.nodeD op').height)
    (hgtop : (s.nodeD op').inRch = true → (s.nodeD op').heightInRch = (s.nodeD op').height)
    (hah : AhhEmpty s) :
    GInv env rk s' op ∧ AhhEmpty s' ∧ HRel s s' ∧
      (∀ c i, (op', i) ∈ (s'.nodeD c).parents → (s'.nodeD c).height < (s'.nodeD op').height) ∧
      ((s'.nodeD op').inRch = true → (s'.nodeD op').heightInRch = (s'.nodeD op').height) ∧
      ∀ m, rk m < rk op' → s'.nodeD m = s.nodeD m := by
  obtain ⟨i0, hedge⟩ := hedge
  obtain ⟨A3, E3⟩ := adjustHeights_ainv h (fun x q i hm => I.par_lt hm)
    (no_bindLhs fun m hm => (I.node hm).kind)
    I.heap (I.par_ne hedge)
    (fun c p i hm => by
      by_cases e : p = op'
      · by_cases ec : c = oc
        · exact Or.inr ⟨ec, e⟩
        · rw [e] at hm ⊢; exact Or.inl (hother c i hm ec)
      · exact Or.inl (I.hlt c p i hm (hclosed p e)))
    (fun m hqm => by
      by_cases e : m = op'
      · rw [e] at hqm ⊢; exact hgtop hqm
      · exact I.hgt m hqm (hclosed m e))
    hah
  obtain ⟨k1, k2, k3⟩ := keep (op' := op') A3 E3 I
  exact ⟨k1, E3, A3.rel, k2, k3, A3.low⟩

/-- `adjustHeights_specR_full` without its last conjunct (`hopen`, `hpos` are not used) -/
theorem adjustHeights_specR {env : Env} {rk : Nat → Nat} {oc op' fuel : Nat} {s s' : State} {op : Nat → Op}
    (h : (adjustHeights oc op' fuel).run.run s = (.ok (), s'))
    (I : GInv env rk s op)
    (hopen : op op' = .linking (kids (s.nodeD op').kind).length) (hclosed : ∀ m, m ≠ op' → op m = .closed)
    (hedge : ∃ i, (op', i) ∈ (s.nodeD oc).parents)
    (hother : ∀ c i, (op', i) ∈ (s.nodeD c).parents → c ≠ oc → (s.nodeD c).height < (s.nodeD op').height)
    (hgtop : (s.nodeD op').inRch = true → (s.nodeD op').heightInRch = (s.nodeD op').height)
    (hpos : 0 ≤ (s.nodeD op').height)
    (hah : AhhEmpty s) :
    GInv env rk s' op ∧ AhhEmpty s' ∧ HRel s s' ∧
      (∀ c i, (op', i) ∈ (s'.nodeD c).parents → (s'.nodeD c).height < (s'.nodeD op').height) ∧
      ((s'.nodeD op').inRch = true → (s'.nodeD op').heightInRch = (s'.nodeD op').height) := by
  obtain ⟨h1, h2, h3, h4, h5, -⟩ := adjustHeights_specR_full h I hclosed hedge hother hgtop hah
  exact ⟨h1, h2, h3, h4, h5⟩

/-- closing a linking node that is already queued (in the bucket of its height) -/
theorem GInv.close_link_queued {env : Env} {rk : Nat → Nat} {s : State} {op : Nat → Op} {n k : Nat}
    (I : GInv env rk s op) (hop : op n = .linking k)
    (hk : (kids (s.nodeD n).kind).length ≤ k)
    (hh : ∀ (i c : Nat), (kids (s.nodeD n).kind)[i]? = some c → (s.nodeD c).height < (s.nodeD n).height)
    (h0 : 0 ≤ (s.nodeD n).height)
    (hq : (s.nodeD n).inRch = true) (hg : (s.nodeD n).heightInRch = (s.nodeD n).height) :
    GInv env rk s (upd op n .closed) := by
  have hnn := I.lnec n k hop
  have hopn : upd op n .closed n = .closed := upd_self ..
  have hopo : ∀ m, m ≠ n → upd op n .closed m = op m := fun m h => upd_other _ _ _ h
  have hw : ∀ q i c, (kids (s.nodeD q).kind)[i]? = some c →
      (Wants s (upd op n .closed) q i ↔ Wants s op q i) := by
    intro q i c hkq
    by_cases e : q = n
    · rw [e] at hkq ⊢
      rw [wants_closed hopn, wants_linking hop, hnn]
      have : i < (kids (s.nodeD n).kind).length := by
        rcases Nat.lt_or_ge i (kids (s.nodeD n).kind).length with h | h
        · exact h
        · rw [List.getElem?_eq_none h] at hkq; cases hkq
      simp; omega
    · unfold Wants; rw [hopo q e]
  refine { static := I.static, par := ?_, conv := ?_, nodup := I.nodup, hlt := ?_, hpos := ?_,
           lnec := ?_, unec := ?_, heap := I.heap, hgt := ?_, qnec := ?_, queued := ?_,
           qstale := I.qstale, opLt := ?_ }
  · intro c q i hm
    obtain ⟨h1, h2⟩ := I.par c q i hm
    exact ⟨h1, (hw q i c h1).2 h2⟩
  · intro q i c hkq hw'
    exact I.conv q i c hkq ((hw q i c hkq).1 hw')
  · intro c q i hm ho
    by_cases e : q = n
    · rw [e] at hm ⊢; exact hh i c (I.par c n i hm).1
    · rw [hopo q e] at ho; exact I.hlt c q i hm ho
  · intro m hn ho
    by_cases e : m = n
    · rw [e]; exact h0
    · rw [hopo m e] at ho; exact I.hpos m hn ho
  · intro q k' ho
    have e : q ≠ n := by intro e; rw [e, hopn] at ho; cases ho
    rw [hopo q e] at ho
    exact I.lnec q k' ho
  · intro q k' ho
    have e : q ≠ n := by intro e; rw [e, hopn] at ho; cases ho
    rw [hopo q e] at ho
    exact I.unec q k' ho
  · intro m hq' ho
    by_cases e : m = n
    · rw [e]; exact hg
    · rw [hopo m e] at ho; exact I.hgt m hq' ho
  · intro m hq'
    by_cases e : m = n
    · rw [e]; exact Or.inl hnn
    · rcases I.qnec m hq' with h | ⟨k', h⟩
      · exact Or.inl h
      · exact Or.inr ⟨k', by rw [hopo m e]; exact h⟩
  · intro m ho hn hs
    by_cases e : m = n
    · rw [e]; exact hq
    · rw [hopo m e] at ho; exact I.queued m ho hn hs
  · intro m ho
    have e : m ≠ n := by intro e; rw [e, hopn] at ho; exact ho rfl
    rw [hopo m e] at ho
    exact I.opLt m ho

end IncrVerif.Proofs.ExpertH.QR
