import IncrVerif.Proofs.FullH32
import IncrVerif.Proofs.FullH17
import IncrVerif.Proofs.FullH10
import IncrVerif.Proofs.MapOld12
import IncrVerif.Proofs.BindH10
/-!
# C01 full fragment, MW3: building the `StepRelB` of a map_with_old step; frames of the actual run moved to the virtual states
-/
namespace IncrVerif.Proofs.FullH
open IncrVerif.Engine IncrVerif.Proofs IncrVerif.Proofs.Step IncrVerif.Proofs.Sched IncrVerif.Proofs.Quiet
open IncrVerif.Proofs.BindH (DInv BGraph StepRelB Edge Below TargetB ConsistentB BKind)
open IncrVerif.Proofs.NestH (AuxS2 Aux2 GenOK2 F2Inv)
open IncrVerif.Proofs.MapOldH (mwoX mwoX_nodeD mwoX_size)
open IncrVerif.Proofs.MapRefH (ValFrame)
namespace MW

/-! ## `StepRelB` from the two shapes of the run (pure `BindH` level) -/

/-- the machine reports "unchanged": nothing but the stamp of `n` moves -/
theorem rel_false {env : Env} {P W : State} {n : Nat} {v : Val} (gP : BGraph env P) (hiP : HeapInv P) (hU : Upd n P W)
    (hb : W.binds = P.binds) (hv : (W.nodeD n).value = some v) (hr : (W.nodeD n).recomputedAt = P.stabNum)
    (hc : (W.nodeD n).changedAt = (P.nodeD n).changedAt) (hold : (P.nodeD n).value = some v) :
    StepRelB n v false none P W :=
  BindH.BS.stepRelB_of_quiet gP hU hb (Step.Quiet.refl _) hv hr (by rw [hc]; simp) (fun _ => ⟨hold, rfl⟩) (hU.heap hiP) rfl
    (fun m hm => Or.inl hm) (fun hc => by cases hc) (fun p hp => by cases hp)

/-- the machine reports "changed": the notification walk, run in a state `W` of the `Upd` family of `S` -/
theorem rel_true {env : Env} {fuel n : Nat} {o : Option Val} {v : Val} {S W S' : State} {r : Option Nat}
    (gr : BGraph env S) (hi : HeapInv S) (hlt : n < S.nodes.size) (hU : Upd n S W) (hb : W.binds = S.binds)
    (hv : (W.nodeD n).value = some v) (hr : (W.nodeD n).recomputedAt = S.stabNum)
    (h : (maybeChangeValueManual env fuel n o true true).run.run W = (.ok r, S')) : StepRelB n v true r S S' := by
  have hltW : n < W.nodes.size := by rw [hU.size]; exact hlt
  have q : Step.Quiet (touched n W) S' := mcvm_true_quiet _ _ _ _ _ _ _ _ h
  have hUT : Upd n S (touched n W) := hU.touched
  have hbT : (touched n W).binds = S.binds := hb
  have eT : (touched n W).nodeD n = { W.nodeD n with changedAt := W.stabNum } := by
    rw [touched_nodeD, if_pos ⟨rfl, hltW⟩]
  have hparT : ((touched n W).nodeD n).parents = (S.nodeD n).parents := hUT.shape.parents
  have hpar : ∀ p, p ∈ ((touched n W).nodeD n).parents.map (·.1) → BindH.BS.ParentOK env (touched n W) p := by
    intro p hp
    rw [hparT] at hp
    obtain ⟨⟨p', ci⟩, hmem, rfl⟩ := List.mem_map.1 hp
    have hpn := (gr.parent n p' ci hmem).1
    have h1 := Step.nec_lt_size hpn
    have h2 := (gr.nec p' hpn).1
    have h3 := (gr.node p' h1 h2).1
    have sh := hUT.shapeAll p'
    exact ⟨by rw [hUT.size]; exact h1, by rw [sh.valid]; exact h2, by rw [sh.kind]; exact h3, by rw [hUT.nec]; exact hpn⟩
  obtain ⟨k, hret⟩ := BindH.BS.mcvm_heapB (hUT.heap hi) hpar h
  have hpin := mcvm_parents env fuel n _ W S' r _ (some_of_lt hltW) h
  have hparW : (W.nodeD n).parents = (S.nodeD n).parents := hU.shape.parents
  refine BindH.BS.stepRelB_of_quiet gr hUT hbT q ?_ ?_ ?_ (fun hc => by cases hc) k.heap k.qsize ?_ ?_ ?_
  · rw [eT]; exact hv
  · rw [eT]; exact hr
  · rw [eT, if_pos rfl]; exact hU.stabNum
  · intro m hm
    rcases k.only m hm with h1 | h1
    · exact Or.inl h1
    · rw [hparT] at h1; exact Or.inr ⟨rfl, h1⟩
  · intro _ p hp
    rw [← hparW] at hp
    rcases hpin p hp with h1 | h1
    · exact Or.inl h1.2
    · exact Or.inr h1.2.1
  · intro p hp
    obtain ⟨h1, h2, h3⟩ := hret p hp
    rw [hparT] at h1
    exact ⟨rfl, h1, h2, h3⟩

/-! ## frames of an actual run, moved to the virtual states -/

section
variable {g g' : Nat → Option Val} {s s' : State}

theorem dk_virt {b : Nat} (d : BindH.C2k.DK b s s') : BindH.C2k.DK b (virt g s) (virt g' s') where
  observers := d.observers
  allObservers := d.allObservers
  newObservers := d.newObservers
  disallowedObservers := d.disallowedObservers
  setDuringStab := d.setDuringStab
  deadVars := d.deadVars
  alive := d.alive
  status := d.status
  has h := by
    have h0 : ∀ m, (s.nodeD m).numOnUpdateHandlers = 0 := fun m => by
      have := h m; rwa [virt_nodeD, virtNode_num] at this
    obtain ⟨k1, k2⟩ := d.has h0
    exact ⟨fun m => by rw [virt_nodeD, virtNode_num]; exact k1 m, k2⟩
  grow := by rw [virt_size, virt_size]; exact d.grow
  old m hm := by
    rw [virt_size] at hm
    obtain ⟨a, b, c⟩ := d.old m hm
    simp only [virt_nodeD, virtNode_kind, virtNode_createdIn, virtNode_observers]
    exact ⟨by rw [a], b, c⟩
  new m h1 h2 := by
    rw [virt_size] at h1 h2
    rw [virt_nodeD, virtNode_createdIn]
    exact d.new m h1 h2

theorem hah_virt (h : BindH.BF.HAh s s') : BindH.BF.HAh (virt g s) (virt g' s') := by
  intro m
  rw [virt_nodeD, virt_nodeD, virtNode_heightInAhh, virtNode_heightInAhh]
  exact h m

theorem num_virt (h : ∀ m, (s'.nodeD m).numOnUpdateHandlers = (s.nodeD m).numOnUpdateHandlers) (m : Nat) :
    ((virt g' s').nodeD m).numOnUpdateHandlers = ((virt g s).nodeD m).numOnUpdateHandlers := by
  rw [virt_nodeD, virt_nodeD, virtNode_num, virtNode_num]
  exact h m

/-- the four state fields `F2Inv.transfer` asks for, from `KeyD` of the actual run -/
theorem keyD_fields (k : KeyD s s') : s'.top = s.top ∧ s'.ahh = s.ahh ∧ s'.propagateInvalidity = s.propagateInvalidity ∧
    s'.currentScope = s.currentScope := by
  simp only [KeyD, stateKeyD, Prod.mk.injEq] at k
  obtain ⟨-, -, hsc, htop, -, -, hpinv, -, -, -, hahh⟩ := k
  exact ⟨htop, hahh, hpinv, hsc⟩

end

/-! ## the state in which the notifications of a map_with_old step start -/

section
variable {g : Nat → Option Val} {s : State}

theorem virtNode_shape {gv gv' : Option Val} {nd nd' : Node} (hk : nd'.kind = nd.kind) (h1 : nd'.createdIn = nd.createdIn)
    (h2 : nd'.valid = nd.valid) (h3 : nd'.cutoff = nd.cutoff) (h4 : nd'.height = nd.height) (h5 : nd'.parents = nd.parents)
    (h6 : nd'.observers = nd.observers) (h7 : nd'.forceNecessary = nd.forceNecessary) :
    SameShape (virtNode gv nd) (virtNode gv' nd') :=
  ⟨by rw [virtNode_kind, virtNode_kind, hk], by rw [virtNode_createdIn, virtNode_createdIn, h1],
   by rw [virtNode_valid, virtNode_valid, h2], by rw [virtNode_cutoff, virtNode_cutoff, hk, h3],
   by rw [virtNode_height, virtNode_height, h4], by rw [virtNode_parents, virtNode_parents, h5],
   by rw [virtNode_observers, virtNode_observers, h6], by rw [virtNode_forceNecessary, virtNode_forceNecessary, h7]⟩

/-- the virtual image of that state differs from a virtual pre-state `P` (the virtual state itself, or patched at `n`)
only in the value and stamps of node `n` -/
theorem mwoX_upd {n : Nat} {new σ' : Val} {es : List Event} (P : State) (hn : n < s.nodes.size)
    (hpc : s.panicCountdown = none) (hP : ∀ m, ∃ w, P.nodeD m = { (virt g s).nodeD m with value := w })
    (hPo : ∀ m, m ≠ n → P.nodeD m = (virt g s).nodeD m)
    (hsz : P.nodes.size = s.nodes.size) (hvars : P.vars = s.vars) (hst : P.stabNum = s.stabNum) (hr : P.rch = s.rch) :
    Upd n P (virt g (mwoX n new σ' es s)) := by
  have hX := fun m => mwoX_nodeD n m new σ' es s hn
  refine ⟨by rw [virt_size, mwoX_size, hsz], hvars.symm, hst.symm, hpc, hr.symm, fun m hm => ?_, ?_, ?_⟩
  · rw [virt_nodeD, hX, if_neg hm, hPo m hm, virt_nodeD]
  · obtain ⟨w, hw⟩ := hP n
    rw [virt_nodeD, hX, if_pos rfl, hw, virt_nodeD]
    have := virtNode_shape (gv := g n) (gv' := g n) (nd := s.nodeD n)
      (nd' := { s.nodeD n with recomputedAt := s.stabNum, value := some new, oldState := σ' }) rfl rfl rfl rfl rfl rfl rfl rfl
    exact ⟨this.kind, this.createdIn, this.valid, this.cutoff, this.height, this.parents, this.observers, this.forceNecessary⟩
  · obtain ⟨w, hw⟩ := hP n
    rw [virt_nodeD, hX, if_pos rfl, hw, virt_nodeD]
    show (virtNode _ _).heightInRch = (virtNode _ _).heightInRch
    rw [virtNode_heightInRch, virtNode_heightInRch]

theorem mwoX_valFrame (n : Nat) (new σ' : Val) (es : List Event) (hn : n < s.nodes.size) :
    ValFrame n s (mwoX n new σ' es s) := by
  have hX := fun m => mwoX_nodeD n m new σ' es s hn
  refine ⟨mwoX_size .., ?_, ?_, ?_, ?_, ?_, ?_, ?_, ?_, fun h => h⟩
  all_goals intro m
  all_goals rw [hX]
  · split
    · rename_i e; rw [e]
    · rfl
  · split
    · rename_i e; rw [e]
    · rfl
  · split
    · rename_i e; rw [e]
    · rfl
  · split
    · rename_i e; rw [e]
    · rfl
  · split
    · rename_i e; rw [e]
    · rfl
  · split
    · rename_i e; rw [e]
    · rfl
  · split
    · rename_i e; rw [e]
    · rfl
  · intro hm; rw [if_neg hm]

end
end MW
end IncrVerif.Proofs.FullH
