import IncrVerif.Proofs.NestH73
import IncrVerif.Proofs.NestH65
import IncrVerif.Proofs.BindH105
/-!
# Nested binds (F2), part 5g3: "generations are current" (`GenOK2`) through `stabilise` and the API actions; observers read the from-scratch value `den2`

The counterpart of `BindH105` for nested binds.  `C3g.NBT` (nodes, bind table and naming table unchanged), `C3g.presN_observe/cloneObs/dropObs/disallow`, `C3g.push_mono` are generic and
reused.  All theorems about `stabilise` are under the four contracts `ClosureSpec2`, `RelinkSpec2`, `InvalSpec2`, `ClosureElabSpec2`.

* `stabilise_gen2`: the observer prefix and `stabiliseEnd` keep everything `GenOK2` reads; the drain keeps `GenOK2` (`drainHeap_gen2`);
* `step_gen2`: every API action of the fragment keeps `GenOK2` (a new bind's change detector has never run, hence is stale: no obligation);
* `genOK2_init`;
* `stabilise_reads_den2`: after a `stabilise` every in-use observer reads the from-scratch value `den2` of the node it watches.
-/
namespace IncrVerif.Proofs.NestH
open IncrVerif.Engine IncrVerif.Driver IncrVerif.Proofs IncrVerif.Proofs.Step IncrVerif.Proofs.Sched IncrVerif.Proofs.Quiet
open IncrVerif.Proofs.BindH

/-! ## `stabilise` -/

/-- **`stabilise` keeps `GenOK2`** -/
theorem stabilise_gen2 {env : Env} (CS : ClosureSpec2 env) (RS : RelinkSpec2 env) (IS : InvalSpec2 env)
    (ES : ClosureElabSpec2 env) {fuel : Nat} {s s' : State} (Q : QI2 env s) (G : GenOK2 env s)
    (h : (stabilise env fuel).run.run s = (.ok (), s')) : GenOK2 env s' := by
  obtain ⟨rk, Q⟩ := Q
  obtain ⟨t1, t2, t3, -, h1, h2, h3, h4⟩ := stabilise_phases.1 h
  obtain ⟨s0, hs0⟩ : ∃ s0 : State, s0 = { s with status := .stabilising } := ⟨_, rfl⟩
  rw [← hs0] at h1
  have S0 : SInv2 env rk s0 s0.newObservers s0.disallowedObservers := by
    have I0 : SInv2 env rk s s.newObservers s.disallowedObservers := SInv2.of_qinv2 Q
    rw [hs0]
    exact N4p.sInv2_congr I0 rfl rfl rfl rfl rfl rfl rfl rfl
  -- the prefix (keeps the rank)
  obtain ⟨S1, hn1, hd1, F1, O1, -⟩ := addNewObservers_s2 S0 h1
  have M1 := addNewObservers_marks2 S0 h1
  obtain ⟨S2, hn2, hd2, F2, O2⟩ := unlinkDisallowedObservers_s2 S1 hn1 h2
  have M2 := unlinkDisallowedObservers_marks2 S1 hn1 h2
  have F : C2s.PreF s t2 := C2s.PreF.of hs0 (F1.trans F2) (fun m => (M2 m).trans (M1 m))
  obtain ⟨D2, A2⟩ := N4s.drain_start2 Q F S2
  have G2 : GenOK2 env t2 :=
    N5g.genOK2_frame G Q.f2.frag F.binds F.top F.kind F.valid F.recomputedAt F.changedAt F.value
  -- the drain (re-chooses the rank)
  have X2 : AuxS2 env t2 t2 := ⟨⟨rk, A2⟩, DKey.refl _, NKey.refl _⟩
  obtain ⟨D3, ⟨⟨rk3, A3⟩, K3, N3⟩, G3, he3, f3⟩ := drainHeap_gen2 CS RS IS ES D2 X2 G2 h3
  obtain ⟨V3, O3, T3⟩ := N4s.after_drain2 A3 K3 N3 f3.vars (F.varsOK Q.vars) S2.obs S2.obsTop
  -- the end (keeps the rank)
  have hsd : t3.setDuringStab = [] := by rw [K3.setDuringStab, F.setDuringStab]; exact Q.setDuringStab
  have hdv : t3.deadVars = [] := by rw [K3.deadVars, F.deadVars]; exact Q.deadVars
  have hoh : ∀ (o : Nat) (ob : ObsRec), t3.observers[o]? = some ob → ob.handlers = [] :=
    fun o ob ho => (O3.inRange o ob ho).2
  have E := stabiliseEnd_fin (env := env) (fuel := fuel) hsd hdv hoh h4
  have hb := C2s.stabiliseEnd_binds hsd hdv hoh h4
  have hno3 : t3.newObservers = [] := by rw [K3.newObservers]; exact hn2
  have hdo3 : t3.disallowedObservers = [] := by rw [K3.disallowedObservers]; exact hd2
  obtain ⟨-, GG, hval⟩ := N4s.qinv2_end D3 A3 E hb V3 O3 hno3 hdo3 T3
    (by rw [K3.alive, F.alive]; exact Q.alive)
  have K := BL.KeyEq.of_same GG
  exact N5g.genOK2_frame G3 A3.frag hb E.top K.kind K.valid K.recomputedAt K.changedAt hval

/-! ## the API actions -/

namespace N5g

theorem NBT_gen2 {env : Env} {rk : Nat → Nat} {s s' : State} {dy : List Nat} (F : C3g.NBT s s') (A : All2 env rk s dy)
    (G : GenOK2 env s) : GenOK2 env s' := by
  have hnd : ∀ m, s'.nodeD m = s.nodeD m := fun m => by simp [State.nodeD, F.nodes]
  exact genOK2_frame G A F.binds F.top (fun m => by rw [hnd]) (fun m => by rw [hnd]) (fun m => by rw [hnd])
    (fun m => by rw [hnd]) (fun m => by rw [hnd])

/-- a write keeps `GenOK2`: it changes a cell, not the stored value or a stamp of a node -/
theorem writeVar_gen2 {env : Env} {rk : Nat → Nat} {s s' : State} {v : Nat} {f : Val → Val} {isSet : Bool} {r : Val}
    (Q : QInv2 env rk s) (G : GenOK2 env s) (h : (writeVar v f isSet).run.run s = (.ok r, s')) : GenOK2 env s' := by
  obtain ⟨vc, hv⟩ := writeVar_ok_cell h
  have hst : s.status ≠ .stabilising := by rw [Q.status]; intro e; cases e
  obtain ⟨hr, hs', -, -, hh⟩ := writeVar_outside_ok v f isSet s s' vc r hv hst h
  obtain ⟨R, -⟩ := N4w.wroteOutside_q (f vc.value) Q hv hh
  rw [← hs'] at R
  exact genOK2_frame G Q.f2.frag R.binds R.top R.kind R.valid R.recomputedAt R.changedAt R.value

/-- node creation keeps `GenOK2`: old nodes and records are untouched, the naming table only grows, and the change detector of a new bind is stale -/
theorem ext_gen2 {env : Env} {rk : Nat → Nat} {s s1 : State} (Q : QInv2 env rk s) (G : GenOK2 env s) (E : C2c.Ext s s1)
    (htop : ∀ (k n : Nat), s.top[k]? = some n → s1.top[k]? = some n)
    (hnew : ∀ (b : Nat) (br : BindRec), s.binds.size ≤ b → s1.binds[b]? = some br →
      s1.isStale br.lhsChange = true) : GenOK2 env s1 := by
  have A := Q.f2.frag
  refine genOK2_transfer G htop ?_
  intro b br hb hvl hst
  by_cases hlt : b < s.binds.size
  · rw [E.bold b hlt] at hb
    have f1 := A.lc_lt hb
    rw [E.old _ f1] at hvl
    obtain ⟨-, -, -, f4, -⟩ := rec_facts2 A hb hvl
    refine ⟨hb, hvl, ?_, ?_, ?_, ?_⟩
    · rw [← N4c.isStale_old2 E A Q.vars f1]; exact hst
    · rw [E.old br.lhs f4]
    · intro m hm
      rw [E.old m ((A.gen b br hb m).1 (Or.inl hm)).1]
    · intro b2 br2 k1 _
      exact ⟨br2, by rw [E.bold b2 (NC.lt_of_getElem?_some k1)]; exact k1, RecSame.refl _⟩
  · rw [hnew b br (by omega) hb] at hst; cases hst

theorem create_gen2 {env : Env} {rk : Nat → Nat} {s s' : State} {i : Instr} {tokens : Array Nat} {r : String × Array Nat}
    (Q : QInv2 env rk s) (G : GenOK2 env s) (hi : InstrTop2 env s.top.size i)
    (h : (stepAction env (.create i) tokens).run.run s = (.ok r, s')) : GenOK2 env s' := by
  have hsc := Q.struct.frag.scope
  unfold stepAction at h
  simp only at h
  obtain ⟨ro, s1, h1, h2⟩ := bind_ok_inv h
  by_cases hb : ∃ body lhs, i = .bind body lhs
  · obtain ⟨body, lhs, ei⟩ := hb
    rw [ei] at hi h1
    obtain ⟨⟨k, ek⟩, hB⟩ := hi
    rw [ek] at h1
    obtain ⟨l, hl, ero, C⟩ := C2c.elab_bind1 hsc h1
    rw [ero] at h2
    simp only at h2
    obtain ⟨s2, e2, h3⟩ := bind_modify_inv h2
    obtain ⟨-, e3⟩ := pure_ok_inv h3
    rw [e3, e2]
    refine ext_gen2 Q G (C.ext.withTop _ _) ?_ ?_
    · show ∀ (k n : Nat), s.top[k]? = some n → (s1.top.push _)[k]? = some n
      rw [C.top]; exact C3g.push_mono _
    · intro b br hge hbr
      have hbr' : s1.binds[b]? = some br := hbr
      obtain ⟨-, e⟩ := C.bind_inv hge hbr'
      rw [e]
      show s1.isStale s.nodes.size = true
      exact C.stale_lc
  · have hst : StaticInstr env i := by
      cases i <;> first | exact hi | exact (hb ⟨_, _, rfl⟩).elim
    obtain ⟨k, ero, hk, hkids, C⟩ := C2c.elab_static1 hsc hst h1
    rw [ero] at h2
    simp only at h2
    obtain ⟨s2, e2, h3⟩ := bind_modify_inv h2
    obtain ⟨-, e3⟩ := pure_ok_inv h3
    rw [e3, e2]
    refine ext_gen2 Q G (C.ext.withTop _ _) ?_ ?_
    · show ∀ (k n : Nat), s.top[k]? = some n → (s1.top.push _)[k]? = some n
      rw [C.top]; exact C3g.push_mono _
    · intro b br hge hbr
      exfalso
      have hbr' : s1.binds[b]? = some br := hbr
      rw [C.binds] at hbr'
      have := (Array.getElem?_eq_some_iff.1 hbr').1
      omega

end N5g

/-- **every API action of the fragment keeps `GenOK2`** -/
theorem step_gen2 {env : Env} (CS : ClosureSpec2 env) (RS : RelinkSpec2 env) (IS : InvalSpec2 env)
    (ES : ClosureElabSpec2 env) {s s' : State} {a : Action} {tokens : Array Nat} {r : String × Array Nat}
    (Q : QI2 env s) (G : GenOK2 env s) (ha : ActionF2 env s.top.size a)
    (h : (stepAction env a tokens).run.run s = (.ok r, s')) : GenOK2 env s' := by
  cases a <;> try exact ha.elim
  case stabilise => exact stabilise_gen2 CS RS IS ES Q G (Hist.stepAction_stabilise_ok.1 h).1
  all_goals obtain ⟨rk, Q⟩ := Q
  all_goals have A := Q.f2.frag
  case create i => exact N5g.create_gen2 Q G ha h
  case observe n => exact N5g.NBT_gen2 ((C3g.presN_observe env n tokens).h s _ s' h) A G
  case cloneObs o => exact N5g.NBT_gen2 ((C3g.presN_cloneObs env o tokens).h s _ s' h) A G
  case dropObs o => exact N5g.NBT_gen2 ((C3g.presN_dropObs env o tokens).h s _ s' h) A G
  case disallow o => exact N5g.NBT_gen2 ((C3g.presN_disallow env o tokens).h s _ s' h) A G
  case get v => rw [(Hist.stepAction_read_ok (.get v) h).1]; exact G
  case isStable => rw [(Hist.stepAction_read_ok .isStable h).1]; exact G
  case stats => rw [(Hist.stepAction_read_ok .stats h).1]; exact G
  all_goals
    obtain ⟨old, h1, -⟩ := (Hist.stepAction_write_ok (by constructor)).1 h
    exact N5g.writeVar_gen2 Q G h1

/-- the initial state has no binds -/
theorem genOK2_init (env : Env) (N : Nat) (d : Bool) : GenOK2 env (State.init N d) := by
  intro b br hb
  have : (State.init N d).binds = #[] := rfl
  rw [this] at hb
  simp at hb

/-! ## what observers read -/

/-- **after a `stabilise` every in-use observer reads the from-scratch value of the node it watches**: evaluate the lhs of each bind, run the closure on that value,
evaluate the template it returns, nested binds recursively (`den2`; no node created by a closure is looked at) -/
theorem stabilise_reads_den2 {env : Env} (CS : ClosureSpec2 env) (RS : RelinkSpec2 env) (IS : InvalSpec2 env)
    (ES : ClosureElabSpec2 env) {fuel : Nat} {s s' : State} (Q : QI2 env s) (G : GenOK2 env s)
    (h : (stabilise env fuel).run.run s = (.ok (), s')) :
    ∀ (o : Nat) (ob : ObsRec), s'.observers[o]? = some ob → ob.state = .inUse →
      ∃ v, s'.tryGetValue env o = .ok v ∧ ∃ K, ∀ k, K ≤ k → den2 env s' k ob.node = some v := by
  have H : LcStepF2 env := fun _ _ _ _ _ _ _ I A hk h => recomputeOne_lcF2 CS RS IS I A hk h
  have R := stabilise_F2 H Q h
  have G' := stabilise_gen2 CS RS IS ES Q G h
  obtain ⟨rk', Q'⟩ := R.inv
  obtain ⟨hreads, -⟩ := stabilised_reads2 R
  have O' : ObsInv s' [] [] := by
    have := Q'.obs
    unfold ObsOK at this
    rw [R.newObservers, R.disallowedObservers] at this
    exact this
  have hall : ∀ m, s'.isNecessary m = true → s'.isStale m = false ∧ ConsistentB env s' m := by
    intro m hm
    obtain ⟨k1, k2, -⟩ := R.values m hm ((s'.nodeD m).height.toNat + 1) (Nat.lt_succ_self _)
    exact ⟨k2, Q'.cons m (Q'.bgraph.nec_lt hm) k1 k2⟩
  intro o ob ho hst
  have hmem : o ∈ (s'.nodeD ob.node).observers := (O'.mem ob.node o).2 ⟨ob, ho, rfl, Or.inl hst⟩
  have hn : s'.isNecessary ob.node = true := nec_of_mem_observers hmem
  obtain ⟨-, -, hv, -⟩ := R.values ob.node hn ((s'.nodeD ob.node).height.toNat + 1) (Nat.lt_succ_self _)
  obtain ⟨v, hread, hev⟩ := hreads o ob ho hst ((s'.nodeD ob.node).height.toNat + 1) (Nat.lt_succ_self _)
  obtain ⟨K, w, hw, hden⟩ := den2_of_consistent Q'.bgraph Q'.f2 G' hall ob.node hn (Q'.obsTop o ob ho).1
  refine ⟨v, hread, K, fun k hk => ?_⟩
  rw [hden k hk, ← hw, hv, hev]

end IncrVerif.Proofs.NestH
