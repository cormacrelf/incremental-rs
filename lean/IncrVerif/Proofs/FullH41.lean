import IncrVerif.Proofs.FullH10
import IncrVerif.Proofs.FullH3
/-!
# C01 full fragment: one `recomputeOne` of a node that is neither a map_ref nor a map_with_old node, part 1
(static kinds, through `Proofs/Computes.lean`, and `bindMain` with a valid right-hand side: SAME ghost)
-/
namespace IncrVerif.Proofs.FullH
open IncrVerif.Engine IncrVerif.Proofs IncrVerif.Proofs.Step IncrVerif.Proofs.Sched IncrVerif.Proofs.Quiet

namespace ST

section
variable {K : Kind → Prop} {g : Nat → Option Val} {env : Env} {sp : Nat → Val → Val}

/-! ## `virt` commutes with the bookkeeping at the start of a step -/

theorem virt_started (n : Nat) (s : State) : virt g (started n s) = started n (virt g s) := by
  have h := virt_nodes_modify g s n (fun x => { x with recomputedAt := s.stabNum })
    (fun x => { x with recomputedAt := s.stabNum }) (by fcomm)
  exact congrArg (fun t : State => { t with
    currentlyRunning := if s.cfg.debug = true then some n else s.currentlyRunning,
    counters := { s.counters with recomputed := s.counters.recomputed + 1 } }) h

theorem virt_logged (es : List Event) (s : State) : virt g (logged es s) = logged es (virt g s) := rfl

theorem fr_started {s : State} (h : Fr K g s) (n : Nat) : Fr K g (started n s) :=
  Fr.of_nodes (fr_modify h n (fun x => { x with recomputedAt := s.stabNum }) (fun _ => ⟨rfl, rfl⟩)) rfl

theorem fr_logged {s : State} (h : Fr K g s) (es : List Event) : Fr K g (logged es s) := Fr.of_nodes h rfl

theorem vm_started (n : Nat) (s : State) : VM s (started n s) :=
  (vm_modify s n (fun x => { x with recomputedAt := s.stabNum }) (by fkind)).trans (VM.of_nodes rfl)

theorem vm_logged (es : List Event) (s : State) : VM s (logged es s) := VM.of_nodes rfl

theorem started_kind (n m : Nat) (s : State) : ((started n s).nodeD m).kind = (s.nodeD m).kind := by
  rw [started_nodeD]; split <;> rfl
theorem started_valid (n m : Nat) (s : State) : ((started n s).nodeD m).valid = (s.nodeD m).valid := by
  rw [started_nodeD]; split <;> rfl
theorem started_cutoff (n m : Nat) (s : State) : ((started n s).nodeD m).cutoff = (s.nodeD m).cutoff := by
  rw [started_nodeD]; split <;> rfl

/-- node `n` is EXACT: its actual cutoff is the virtual one (it is `.eq`, or the node is a change detector) -/
def Exact (s : State) (n : Nat) : Prop := (s.nodeD n).cutoff = virtCut (s.nodeD n).kind (s.nodeD n).cutoff

theorem virtCut_eq (k : Kind) : virtCut k .eq = .eq := by cases k <;> rfl

theorem exact_of_eq {s : State} {n : Nat} (h : (s.nodeD n).cutoff = .eq) : Exact s n := by
  unfold Exact; rw [h, virtCut_eq]

theorem exact_of_lc {s : State} {n b : Nat} (h : (s.nodeD n).kind = .bindLhsChange b) : Exact s n := by
  unfold Exact; rw [h]; rfl

theorem exact_started {s : State} {n : Nat} (h : Exact s n) (es : List Event) : Exact (logged es (started n s)) n := by
  show ((started n s).nodeD n).cutoff = virtCut ((started n s).nodeD n).kind ((started n s).nodeD n).cutoff
  rw [started_cutoff, started_kind]; exact h

theorem started_value_field (n m : Nat) (s : State) : ((started n s).nodeD m).value = (s.nodeD m).value := by
  rw [started_nodeD]; split <;> rfl

theorem tv_started (n m : Nat) (s : State) : tv g (started n s) m = tv g s m := by
  unfold tv
  rw [virt_started, started_value_field]

/-- both runs start from corresponding `started` / `logged` states: same ghost -/
theorem simAt_of_started {α} {s : State} {n : Nat} {es : List Event} {x x' y y' : M α}
    (ha : x.run.run s = y.run.run (logged es (started n s)))
    (hv : x'.run.run (virt g s) = y'.run.run (logged es (started n (virt g s))))
    (hy : SimAt K g (logged es (started n s)) y y') : SimAt K g s x x' := by
  intro hfr r s' h
  rw [ha] at h
  rw [hv, ← virt_started, ← virt_logged]
  obtain ⟨h1, h2, h3⟩ := hy (fr_logged (fr_started hfr n) es) r s' h
  exact ⟨h1, h2, ((vm_started n s).trans (vm_logged es _)).trans h3⟩

/-- the same, the ghost may change -/
theorem simXAt_of_started {α} {s : State} {n : Nat} {es : List Event} {x x' y y' : M α}
    (ha : x.run.run s = y.run.run (logged es (started n s)))
    (hv : x'.run.run (virt g s) = y'.run.run (logged es (started n (virt g s))))
    (hy : SimXAt K g (logged es (started n s)) y y') : SimXAt K g s x x' := by
  intro hfr r s' h
  rw [ha] at h
  rw [hv, ← virt_started, ← virt_logged]
  obtain ⟨g', h1, h2, h3⟩ := hy (fr_logged (fr_started hfr n) es) r s' h
  exact ⟨g', h1, h2, (GR.of_vm ((vm_started n s).trans (vm_logged es _))).trans h3⟩

/-! ## the arguments -/

theorem valuesOf_virt (s : State) (args : List Nat) (h : ∀ a, a ∈ args → tv g s a = s.value env a) :
    valuesOf (VE env sp) (virt g s) args = valuesOf env s args := by
  induction args with
  | nil => rfl
  | cons a as ih =>
    simp only [valuesOf]
    rw [virt_value, h a (List.mem_cons_self ..), ih fun b hb => h b (List.mem_cons_of_mem _ hb)]

/-! ## the `bindMain` branch -/

/-- what `recompute_one` does on a `bindMain b _` node after the bookkeeping -/
def bindMainTail (env : Env) (fuel n b : Nat) : M (Option Nat) := do
  match (← getBind b).rhs with
  | none => Engine.panic "node:recompute_one:bind-rhs-unwrap"
  | some r =>
    if (← getNode r).valid then
      match (← get).value env r with
      | none => pure none
      | some v => maybeChangeValue env fuel n v
    else
      invalidateNode fuel n
      propagateInvalidity fuel
      pure none

theorem recomputeOne_bindMain_tail (env : Env) (fuel n : Nat) (s : State) (nd : Node) (b lc : Nat)
    (hn : s.nodes[n]? = some nd) (hv : nd.valid = true) (hk : nd.kind = .bindMain b lc) :
    (recomputeOne env fuel n).run.run s = (bindMainTail env fuel n b).run.run (started n s) := by
  have hk? : ({ nd with recomputedAt := s.stabNum } : Node).kind? = some (.bindMain b lc) := by
    simp [Node.kind?, hv, hk]
  have hn' := started_getElem? n s nd hn
  unfold recomputeOne
  simp only [run_bind_get]
  cases hd : s.cfg.debug
  all_goals
    simp only [started, hd, Bool.false_eq_true, if_false, if_true, run_bind_modify,
      run_bind_bumpCounter, run_bind_get, run_bind_modNode] at hn' ⊢
    rw [run_bind_ok (run_getNode_some hn'), hk?]
    rfl

theorem getBind_inv {b : Nat} {br : BindRec} {s s' : State} (h : (getBind b).run.run s = (.ok br, s')) :
    s' = s ∧ s.binds[b]? = some br := by
  unfold getBind at h
  rw [run_bind_get] at h
  cases hb : s.binds[b]? with
  | none => rw [hb] at h; cases h
  | some x =>
    rw [hb] at h
    obtain ⟨e1, e2⟩ := pure_ok_inv h
    subst e1; exact ⟨e2, rfl⟩

/-- the `bindMain` branch when the right-hand side is valid: same ghost -/
theorem SimAt.bindMainTail {fuel n b : Nat} {t : State} (hk : ∀ p i, (t.nodeD n).kind ≠ .mapRef p i)
    (hc : Exact t n)
    (hread : ∀ br r, t.binds[b]? = some br → br.rhs = some r →
      tv g t r = t.value env r ∧ (t.nodeD r).valid = true) :
    SimAt K g t (bindMainTail env fuel n b) (bindMainTail (VE env sp) fuel n b) := by
  unfold ST.bindMainTail
  refine SimAt.seq (Sim.getBind b t) fun br t1 h1 => ?_
  obtain ⟨rfl, hb⟩ := getBind_inv h1
  cases hr : br.rhs with
  | none => exact SimAt.pan _ _
  | some r =>
    obtain ⟨hrd, hrv⟩ := hread br r hb hr
    dsimp only
    refine SimAt.getNode_seq fun nd hnd _ => ?_
    rw [virtNode_valid]
    have hv : nd.valid = true := by rw [nodeD_of_some hnd] at hrv; exact hrv
    rw [if_pos hv, if_pos hv]
    refine SimAt.get_seq ?_
    rw [virt_value, hrd]
    cases t1.value env r with
    | none => exact SimAt.ret _
    | some v => exact SimAt.maybeChangeValue hk hc

/-- both steps reduce to `maybe_change_value` from corresponding states -/
theorem sim_finish {s s' : State} {fuel n : Nat} {r : Option Nat} (es : List Event) (v : Val)
    (hfr : Fr K g s) (hk : ∀ p i, (s.nodeD n).kind ≠ .mapRef p i) (hc : Exact s n)
    (ha : (recomputeOne env fuel n).run.run s
      = (maybeChangeValue env fuel n v).run.run (logged es (started n s)))
    (hv : (recomputeOne (VE env sp) fuel n).run.run (virt g s)
      = (maybeChangeValue (VE env sp) fuel n v).run.run (logged es (started n (virt g s))))
    (h : (recomputeOne env fuel n).run.run s = (.ok r, s')) :
    (recomputeOne (VE env sp) fuel n).run.run (virt g s) = (.ok r, virt g s') ∧ Fr K g s' ∧ VM s s' := by
  have hk' : ∀ p i, ((logged es (started n s)).nodeD n).kind ≠ .mapRef p i := by
    intro p i
    show ((started n s).nodeD n).kind ≠ _
    rw [started_kind]; exact hk p i
  exact simAt_of_started ha hv (SimAt.maybeChangeValue hk' (exact_started hc es)) hfr r s' h

end
end ST

section
variable {env : Env} {sp : Nat → Val → Val} {g : Nat → Option Val}

/-- **one `recomputeOne` of a node of a static kind, or of a `bindMain` node whose right-hand side is valid**: the actual
step is simulated by the virtual step, SAME ghost -/
theorem recomputeOne_sim {s s' : State} {fuel n : Nat} {r : Option Nat}
    (F : FFrag env sp g s) (hn : n < s.nodes.size) (hv : (s.nodeD n).valid = true)
    (hk1 : ∀ p i, (s.nodeD n).kind ≠ .mapRef p i) (hk2 : ∀ m i, (s.nodeD n).kind ≠ .mapWithOld m i)
    (hk3 : ∀ b, (s.nodeD n).kind ≠ .bindLhsChange b) (hcn0 : (s.nodeD n).cutoff = .eq)
    (hrhs : ∀ b lc br r, (s.nodeD n).kind = .bindMain b lc → s.binds[b]? = some br → br.rhs = some r →
      (s.nodeD r).valid = true)
    (hkids : ∀ a, a ∈ s.children n → tv g s a = s.value env a)
    (h : (recomputeOne env fuel n).run.run s = (.ok r, s')) :
    (recomputeOne (VE env sp) fuel n).run.run (virt g s) = (.ok r, virt g s') ∧ Fr (FK env sp) g s' ∧ VM s s' := by
  have hcn : ST.Exact s n := ST.exact_of_eq hcn0
  have hnd := some_of_lt hn
  have hrk := F.fr.kinds n hn
  have hvn : (virt g s).nodes[n]? = some (virtNode (g n) (s.nodeD n)) := by rw [virt_getElem?, hnd]; rfl
  have hvval : (virtNode (g n) (s.nodeD n)).valid = true := by rw [virtNode_valid]; exact hv
  have hvk := virtNode_kind (g n) (s.nodeD n)
  have hk? : (s.nodeD n).kind? = some (s.nodeD n).kind := by simp [Node.kind?, hv]
  have hkl : ∀ es, ∀ p i, ((logged es (started n s)).nodeD n).kind ≠ .mapRef p i := by
    intro es p i
    show ((started n s).nodeD n).kind ≠ _
    rw [ST.started_kind]; exact hk1 p i
  rcases hrk.cases with hSK | ⟨p, i, e⟩ | ⟨m, i, e⟩ | ⟨b, e⟩ | ⟨b, lc, hkd⟩
  · -- `const`, `var`, `map`, `fold`: both steps are the `maybe_change_value` of what the node computes
    obtain ⟨v, evs, hc⟩ := computes_of_ok hnd hv hSK h
    have hkk : virtKind (s.nodeD n).kind = (s.nodeD n).kind ∧ s.children n = kids (s.nodeD n).kind := by
      unfold State.children
      rw [hk?]
      cases hkd : (s.nodeD n).kind <;> rw [hkd] at hSK <;> first | exact ⟨rfl, rfl⟩ | exact hSK.elim
    have hvk' : (virtNode (g n) (s.nodeD n)).kind = (s.nodeD n).kind := hvk.trans hkk.1
    have hc' : Computes (VE env sp) (virt g s) n (virtNode (g n) (s.nodeD n)) v _ evs :=
      hc.transfer hSK hvk' rfl (ST.valuesOf_virt s _ fun a ha => hkids a (by rw [hkk.2]; exact ha))
        (fun f args hf => ⟨funext (virtEnv_fn_real env sp (by rw [hf] at hrk; exact hrk.1)), rfl⟩) fun _ _ _ _ => rfl
    exact ST.sim_finish evs v F.fr hk1 hcn (recomputeOne_run_of_computes hnd hv F.pc hc hSK)
      (recomputeOne_run_of_computes hvn hvval F.pc hc' (by rw [hvk']; exact hSK)) h
  · exact absurd e (hk1 p i)
  · exact absurd e (hk2 m i)
  · exact absurd e (hk3 b)
  · rw [hkd] at hvk
    refine ST.simAt_of_started (es := []) (ST.recomputeOne_bindMain_tail env fuel n s _ b lc hnd hv hkd)
      (ST.recomputeOne_bindMain_tail (VE env sp) fuel n (virt g s) _ b lc hvn hvval hvk)
      (ST.SimAt.bindMainTail (hkl []) (ST.exact_started hcn []) ?_) F.fr r s' h
    intro br r0 hb hr
    have hb' : s.binds[b]? = some br := hb
    refine ⟨?_, ?_⟩
    · show tv g (started n s) r0 = (started n s).value env r0
      rw [ST.tv_started, started_value]
      apply hkids
      unfold State.children
      rw [hk?, hkd]
      simp only [hb', hr]
      simp
    · show ((started n s).nodeD r0).valid = true
      rw [ST.started_valid]
      exact hrhs b lc br r0 hkd hb' hr

end
end IncrVerif.Proofs.FullH
