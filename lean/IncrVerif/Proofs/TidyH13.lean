import IncrVerif.Proofs.TidyH12
import IncrVerif.Proofs.Drain
/-!
# T2b, part 4: the drain of the fragment static + map_with_old RETURNS

`Drain.drainHeap_total` for the drain invariant `DInvW`, with the measure `unrun (virt s)` and `Safe (virt s)`.
* a node that is not a map_with_old node: the virtual step has the same outcome as the actual one (`recomputeOne_sim`), and
  the virtual step can only run out of fuel with `fuel = 0` (`Sched.recomputeOne_safe`);
* a map_with_old node: master equation `recomputeOne_mwo_run`; the notification walk `maybeChangeValueManual` from the
  state `mwoX …` has the same outcome as the virtual walk (`Sim.maybeChangeValueManual`), which is safe by `Sched.mcvm_safe`.
-/
namespace IncrVerif.Proofs.TidyH.WT
open IncrVerif.Engine IncrVerif.Proofs IncrVerif.Proofs.Step IncrVerif.Proofs.Sched IncrVerif.Proofs.Quiet
open IncrVerif.Proofs.MapOldH

variable {env : Env} {C : Val → Prop} {sp : Nat → Val → Val} {s : State}

/-- a failing `recomputeOne` on the current node of the drain invariant can only be out of fuel, with `fuel = 0`:
a node that is not a map_with_old node -/
theorem recomputeOneW_safe_static {fuel n : Nat} {s' : State} {e : Panic}
    (D : DInvW env C sp s (some n)) (Sf : Safe (virt s)) (hk : ∀ g i, (s.nodeD n).kind ≠ .mapWithOld g i)
    (h : (recomputeOne env fuel n).run.run s = (.error e, s')) : e = .outOfFuel ∧ fuel = 0 := by
  have F := D.frag
  have I := D.inv
  have gr := I.graph
  obtain ⟨hnv, -⟩ := I.cur n rfl
  obtain ⟨hlt, -, -, -, -⟩ := gr.nec n hnv
  rw [virt_size] at hlt
  have hkids : ∀ a, a ∈ kidsW (s.nodeD n).kind → (s.value env a).isSome = true := by
    intro a ha
    obtain ⟨w, hw⟩ := Inv.kids_some I a ha
    rw [F.value a, hw]; rfl
  have hvar : ∀ c, (s.nodeD n).kind = .var c → ∃ vc, s.vars[c]? = some vc := by
    intro c hc
    exact gr.var n c hnv (by rw [virt_nodeD, virtNode_kind, hc]; rfl)
  obtain ⟨hsim, -⟩ := recomputeOne_sim (sp := sp) F (F.fr D.pinv) hlt hk hvar hkids h
  exact recomputeOne_safe I Sf hsim

/-- … a map_with_old node -/
theorem recomputeOneW_safe_mwo {fuel n g i : Nat} {s' : State} {e : Panic}
    (D : DInvW env C sp s (some n)) (Sf : Safe (virt s)) (hk : (s.nodeD n).kind = .mapWithOld g i)
    (h : (recomputeOne env fuel n).run.run s = (.error e, s')) : e = .outOfFuel ∧ fuel = 0 := by
  have F := D.frag
  have I := D.inv
  have gr := I.graph
  have hi := I.heap
  obtain ⟨hnv, -⟩ := I.cur n rfl
  have hlt := F.lt_of_mwo hk
  have hnn := some_of_lt hlt
  -- the input
  obtain ⟨x, hx⟩ := Inv.kids_some I i (by rw [hk]; simp [kidsW])
  have hxv : s.value env i = some x := by rw [F.value i]; exact hx
  generalize hw : env.withOld g (s.nodeD n).oldState (s.nodeD n).value x = w at *
  obtain ⟨es, hrun⟩ := recomputeOne_mwo_run env fuel n s (s.nodeD n) g i x hnn (F.valid n hlt) hk hxv F.pc
  rw [hw] at hrun
  rw [hrun] at h
  have hXe : setWithOld n w.2.1 w.1 (logged es (started n s)) = mwoX n w.2.1 w.1 es s := rfl
  rw [hXe] at h
  cases hdid : w.2.2 with
  | false => rw [hdid, run_mcvm_false] at h; cases h
  | true =>
    rw [hdid] at h
    -- the state in which the notifications start is in the fragment
    have hX := fun m => mwoX_nodeD n m w.2.1 w.1 es s hlt
    have hXfr : Fr (mwoX n w.2.1 w.1 es s) := by
      have hfr := F.fr D.pinv
      refine ⟨fun m e' => ?_, fun m => ?_, D.pinv, fun m p j => ?_⟩
      · rw [hX]; by_cases hm : m = n
        · rw [if_pos hm]; exact hfr.noExp n e'
        · rw [if_neg hm]; exact hfr.noExp m e'
      · rw [hX]; by_cases hm : m = n
        · rw [if_pos hm]; exact hfr.valid n
        · rw [if_neg hm]; exact hfr.valid m
      · rw [hX]; by_cases hm : m = n
        · rw [if_pos hm]; exact hfr.noRef n p j
        · rw [if_neg hm]; exact hfr.noRef m p j
    obtain ⟨hsim, -⟩ := Sim.maybeChangeValueManual (sp := sp) env fuel n none true true _ hXfr _ s' h
    have hUself : Upd n (virt s) (virt (mwoX n w.2.1 w.1 es s)) :=
      mwoX_upd (virt s) hlt F.pc (fun m => ⟨_, rfl⟩) (fun _ _ => rfl) (virt_size s) rfl rfl rfl
    generalize hWd : virt (mwoX n w.2.1 w.1 es s) = W at hUself hsim
    have hltv : n < (virt s).nodes.size := by rw [virt_size]; exact hlt
    have hltW : n < W.nodes.size := by rw [hUself.size]; exact hltv
    have hUT : Upd n (virt s) (touched n W) := hUself.touched
    have eT : (touched n W).nodeD n = { W.nodeD n with changedAt := W.stabNum } := by
      rw [touched_nodeD, if_pos ⟨rfl, hltW⟩]
    have hparT : ((touched n W).nodeD n).parents = ((virt s).nodeD n).parents := hUT.shape.parents
    refine mcvm_safe hltW (hUT.heap hi) ?_ hsim
    intro p hp
    rw [hparT] at hp
    obtain ⟨hpn, hkid, hanc, -, hne⟩ := gr.parent_facts hp
    obtain ⟨h1, h2, h3, _, h5⟩ := gr.nec p hpn
    have ep : (touched n W).nodeD p = (virt s).nodeD p := hUT.other p hne
    refine ⟨⟨by rw [hUT.size]; exact h1, by rw [ep]; exact h2, by rw [ep]; exact h3,
      by rw [hUT.nec]; exact hpn⟩, by rw [ep]; exact hkid, ?_, by rw [ep]; exact h5, ?_, ?_⟩
    · rw [ep, eT]
      show _ < W.stabNum
      rw [hUself.stabNum]; exact I.fresh n (Or.inr rfl) p hanc
    · rw [ep, hUT.rch]; exact Sf.height p hpn
    · rw [ep]; exact Sf.scope p hpn

/-- **one step is safe**: a `recomputeOne` on the current node of the drain invariant cannot fail an assertion; it can
only run out of fuel, and only with `fuel = 0` -/
theorem recomputeOneW_safe {fuel n : Nat} {s' : State} {e : Panic}
    (D : DInvW env C sp s (some n)) (Sf : Safe (virt s))
    (h : (recomputeOne env fuel n).run.run s = (.error e, s')) : e = .outOfFuel ∧ fuel = 0 := by
  by_cases hk : ∀ g i, (s.nodeD n).kind ≠ .mapWithOld g i
  · exact recomputeOneW_safe_static D Sf hk h
  · have : ∃ g i, (s.nodeD n).kind = .mapWithOld g i := by
      cases hkd : (s.nodeD n).kind <;>
        first | exact ⟨_, _, rfl⟩ | (exfalso; apply hk; intro g i; rw [hkd]; intro h; cases h)
    obtain ⟨g, i, hkk⟩ := this
    exact recomputeOneW_safe_mwo D Sf hkk h

/-- **the drain terminates**: with `fuel ≥ unrun (virt s) + 2` a `drainHeap` from a state with the drain invariant and
`Safe` returns (`Drain.drainHeap_total` with the measure `unrun (virt s)`: every step stamps its node) -/
theorem drainHeapW_total (V : ValOK env C sp) (fuel : Nat) (s : State) (D : DInvW env C sp s none)
    (S : Safe (virt s)) (hf : unrun (virt s) + 2 ≤ fuel) : ∃ s', (drainHeap env fuel).run.run s = (.ok (), s') := by
  refine Drain.drainHeap_total (st := id) (J := fun s cur => DInvW env C sp s cur ∧ Safe (virt s)) (μ := fun s => unrun (virt s))
    (need := fun _ => 0) (fun s n fuel I hf => ?_) (fun s I => ?_) fuel s ⟨D, S⟩ (by omega)
  · obtain ⟨D, S⟩ := I
    rcases h1 : (recomputeOne env fuel n).run.run s with ⟨e | r, s1⟩
    · have := (recomputeOneW_safe D S h1).2
      omega
    · obtain ⟨D1, f1, hn1⟩ := recomputeOneW_inv V D h1
      have hnlt := (D.inv.graph.nec n (D.inv.cur n rfl).1).1
      exact ⟨r, s1, h1, ⟨D1, S.frame f1.frame⟩, f1.frame.unrun_lt D.inv.stamps hnlt D.inv.cur_not_yet hn1, Nat.le_refl _⟩
  · obtain ⟨D, S⟩ := I
    obtain ⟨r, t1, hr, S1⟩ := rchRemoveMin_safe D.inv S
    obtain ⟨s1, h1, rfl, -⟩ := (Sim.rchRemoveMin s).rev (D.frag.fr D.pinv) hr
    refine ⟨r, s1, h1, fun n e => ?_⟩
    subst e
    obtain ⟨hv, F1, M1, hp1⟩ := popW D h1
    obtain ⟨I1, f1⟩ := pop_inv D.inv hv
    exact ⟨s1, rfl, ⟨⟨F1, I1, M1, hp1⟩, S1⟩, f1.unrun_le D.inv.stamps, Nat.le_refl _⟩

/-- **total correctness of the drain** of the fragment static + map_with_old: from the drain invariant and `Safe` of
the virtual state, with `fuel ≥ s.nodes.size + 2`, `drainHeap` returns; the final state satisfies the drain invariant and
has an empty heap -/
theorem drainHeapW_total_inv (V : ValOK env C sp) {fuel : Nat} (D : DInvW env C sp s none) (S : Safe (virt s))
    (hf : s.nodes.size + 2 ≤ fuel) :
    ∃ s', (drainHeap env fuel).run.run s = (.ok (), s') ∧ DInvW env C sp s' none ∧ s'.rch.length = 0 ∧
      DStep env sp s s' := by
  have := unrun_le_size (virt s)
  rw [virt_size] at this
  obtain ⟨s', h⟩ := drainHeapW_total V fuel s D S (by omega)
  obtain ⟨D', he, f⟩ := drainHeapW_inv V fuel s s' D h
  exact ⟨s', h, D', he, f⟩

end IncrVerif.Proofs.TidyH.WT
