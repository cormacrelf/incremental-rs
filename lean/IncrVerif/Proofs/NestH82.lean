import IncrVerif.Proofs.NestRank
import IncrVerif.Proofs.BindH59
/-!
# Total correctness of `adjustHeights` (F2), part 1: the primitives return; the extra loop invariant `TI` and its elementary steps

`TI rk N s0 s dn Z` is what the "no panic, enough fuel" argument needs besides the partial-correctness invariant `AInvR`:
* `room`: both heaps have `N + 1` buckets, at most `N` nodes;
* `bound`: every necessary node (except those in `Z`) is not higher than its position in the rank order plus one — so `setHeight parent (c.height + 1)` stays within
  the limit (`c.height + 1 ≤ cnt c + 2 ≤ cnt parent + 1 ≤ size ≤ N`);
* `memNec`: members of the adjust-heights heap are necessary (the `dassert`s of `ensureHeightRequirement`);
* `strict`: a queued member is strictly higher than its recompute-heap bucket (the first `dassert` of `rchIncreaseHeight`);
* FUEL — every node is popped AT MOST ONCE: `dn` is the list of the nodes popped so far.  Members are bucketed under their height in `s0` (`mk0`), nodes that were
  never popped and are not members still have that height (`fresh`), popped nodes are not members and their `s0`-height is at most the lower bound of the
  adjust-heights heap (`dnLow`).  Since every height pair `(c, p)` with `c ≠ oc` was fine in `s0` and `lowerBound = height0 c` while the popped `c` is looked at,
  a popped node is never a `p` again.
-/
namespace IncrVerif.Proofs.NestH
open IncrVerif.Engine IncrVerif.Proofs IncrVerif.Proofs.Step IncrVerif.Proofs.Sched IncrVerif.Proofs.Quiet
open IncrVerif.Proofs.BindH

namespace TA
open BA CA

/-! ## primitives that return -/

theorem lt_size_of_mk {s : State} {n : Nat} (h : ahhMk s n ≠ -1) : n < s.nodes.size := by
  apply Decidable.byContradiction
  intro hn
  apply h
  simp only [ahhMk]
  rw [nodeD_default s n (by omega)]; rfl

/-! ## the extra invariant -/

/-- what totality needs besides `AInvR`; `dn`: the nodes popped so far; `Z`: the nodes whose height is not yet known to be bounded -/
structure TI (rk : Nat → Nat) (N : Nat) (s0 s : State) (dn : List Nat) (Z : Nat → Prop) : Prop where
  room : Room N s
  bound : ∀ m, s0.isNecessary m = true → ¬ Z m → (s.nodeD m).height ≤ (cnt rk s0.nodes.size m : Int) + 1
  memNec : ∀ m, ahhMk s m ≠ -1 → s0.isNecessary m = true
  strict : ∀ m, ahhMk s m ≠ -1 → (s.nodeD m).inRch = true → (s.nodeD m).heightInRch < (s.nodeD m).height
  mk0 : ∀ m, ahhMk s m ≠ -1 → ahhMk s m = (s0.nodeD m).height
  fresh : ∀ m, m ∉ dn → ahhMk s m = -1 → (s.nodeD m).height = (s0.nodeD m).height
  dnLow : ∀ m, m ∈ dn → ahhMk s m = -1 ∧ (s0.nodeD m).height ≤ s.ahh.lowerBound

def noZ : Nat → Prop := fun _ => False

variable {rk : Nat → Nat} {N : Nat}

theorem TI.mono {s0 s : State} {dn : List Nat} {Z Z' : Nat → Prop} (T : TI rk N s0 s dn Z) (h : ∀ m, Z m → Z' m) :
    TI rk N s0 s dn Z' :=
  ⟨T.room, fun m hn hz => T.bound m hn (fun hz' => hz (h m hz')), T.memNec, T.strict, T.mk0, T.fresh, T.dnLow⟩

/-- one raising `ensureHeightRequirement c p`: `p` is (or becomes) a member bucketed under `a` and gets height `v` -/
theorem TI.step {s0 s s' : State} {dn : List Nat} {Z : Nat → Prop} (T : TI rk N s0 s dn Z) {p : Nat} {v a : Int}
    (key : ∀ m, s'.nodeD m = if m = p then { s.nodeD p with height := v, heightInAhh := a } else s.nodeD m)
    (hlbd : s'.ahh.lowerBound = s.ahh.lowerBound) (hroom : Room N s')
    (ha : ahhMk s p ≠ -1 ∧ a = ahhMk s p ∨ ahhMk s p = -1 ∧ a = (s.nodeD p).height ∧ a ≠ -1)
    (hv : (s.nodeD p).height < v) (hvb : v ≤ (cnt rk s0.nodes.size p : Int) + 1)
    (hle : (s.nodeD p).inRch = true → (s.nodeD p).heightInRch ≤ (s.nodeD p).height)
    (hpd : p ∉ dn) (hnp : s0.isNecessary p = true) :
    TI rk N s0 s' dn (fun m => Z m ∧ m ≠ p) := by
  have hh : ∀ m, (s'.nodeD m).height = if m = p then v else (s.nodeD m).height := by
    intro m; rw [key]; split <;> rfl
  have hr : ∀ m, (s'.nodeD m).heightInRch = (s.nodeD m).heightInRch := by
    intro m; rw [key]; split
    · rename_i e; rw [e]
    · rfl
  have hin : ∀ m, (s'.nodeD m).inRch = (s.nodeD m).inRch := by
    intro m; simp only [Node.inRch, hr]
  have hmk : ∀ m, ahhMk s' m = if m = p then a else ahhMk s m := by
    intro m; simp only [ahhMk]; rw [key]; split <;> rfl
  have hane : a ≠ -1 := by
    rcases ha with ⟨h1, h2⟩ | ⟨_, _, h3⟩
    · rw [h2]; exact h1
    · exact h3
  refine ⟨hroom, ?_, ?_, ?_, ?_, ?_, ?_⟩
  · intro m hn hz
    rw [hh]
    by_cases e : m = p
    · rw [if_pos e, e]; exact hvb
    · rw [if_neg e]; exact T.bound m hn (fun h => hz ⟨h, e⟩)
  · intro m hm
    rw [hmk] at hm
    by_cases e : m = p
    · rw [e]; exact hnp
    · rw [if_neg e] at hm; exact T.memNec m hm
  · intro m hm hq
    rw [hmk] at hm
    rw [hin] at hq
    rw [hr, hh]
    by_cases e : m = p
    · rw [if_pos e]
      rw [e] at hq
      have := hle hq
      rw [e]; omega
    · rw [if_neg e] at hm ⊢; exact T.strict m hm hq
  · intro m hm
    rw [hmk] at hm ⊢
    by_cases e : m = p
    · rw [if_pos e, e]
      rcases ha with ⟨h1, h2⟩ | ⟨h1, h2, _⟩
      · rw [h2]; exact T.mk0 p h1
      · rw [h2]; exact T.fresh p hpd h1
    · rw [if_neg e] at hm ⊢; exact T.mk0 m hm
  · intro m hd hm
    rw [hmk] at hm
    by_cases e : m = p
    · rw [if_pos e] at hm; exact absurd hm hane
    · rw [if_neg e] at hm
      rw [hh, if_neg e]; exact T.fresh m hd hm
  · intro m hd
    have e : m ≠ p := fun e => hpd (e ▸ hd)
    rw [hmk, if_neg e, hlbd]
    exact T.dnLow m hd

theorem room_congr {s s' : State} (R : Room N s) (ha : s'.ahh.queues.size = s.ahh.queues.size)
    (hr : s'.rch.queues.size = s.rch.queues.size) (hn : s'.nodes.size = s.nodes.size) : Room N s' := by
  refine ⟨?_, ?_, by rw [hn]; exact R.size⟩
  · rw [← R.ahh]; simp only [Heap.maxAllowed, ha]
  · rw [← R.rch]; simp only [Heap.maxAllowed, hr]

/-- `ensureHeightRequirement c p` that returned keeps `TI` -/
theorem TI.ehr {B : Nat} {E : Nat → Nat → Prop} {s0 s s' : State} {dn : List Nat} {Z : Nat → Prop} {X : Nat → Nat → Prop}
    {Y : Nat → Prop} {oc op c p : Nat} {u : Unit}
    (h : (ensureHeightRequirement oc op c p).run.run s = (.ok u, s')) (A : AInvR rk E B s0 s X Y)
    (T : TI rk N s0 s dn Z) (hcb : (s.nodeD c).height ≤ (cnt rk s0.nodes.size c : Int) + 1)
    (hrk : rk c < rk p) (hpd : p ∉ dn) (hnp : s0.isNecessary p = true)
    (hz : Z p → (s.nodeD p).height ≤ (s.nodeD c).height) :
    TI rk N s0 s' dn (fun m => Z m ∧ m ≠ p) ∧ (s.nodeD c).height < (s'.nodeD p).height := by
  obtain ⟨hc, hp, hcase⟩ := ehr_ok_inv h
  have hc0 : c < s0.nodes.size := by rw [← A.rel.size]; exact hc
  have hcnt := cnt_lt_cnt (rk := rk) hc0 hrk
  rcases hcase with ⟨hlt, e⟩ | ⟨hge, s1, hs1, e⟩
  · rw [e]
    refine ⟨⟨T.room, ?_, T.memNec, T.strict, T.mk0, T.fresh, T.dnLow⟩, hlt⟩
    intro m hn hzm
    by_cases em : m = p
    · rw [em] at hn ⊢
      refine T.bound p hn (fun hz' => ?_)
      have := hz hz'
      omega
    · exact T.bound m hn (fun hz' => hzm ⟨hz', em⟩)
  · rcases hs1 with ⟨hmem, e1⟩ | ⟨hnm, h0, hx, e1⟩
    · rw [e1] at e
      have key : ∀ m, s'.nodeD m = if m = p then { s.nodeD p with height := (s.nodeD c).height + 1 } else s.nodeD m := by
        rw [e]
        exact nodeD_upd (s := s) (f := fun x => { x with height := (s.nodeD c).height + 1 }) rfl hp
      refine ⟨T.step (a := ahhMk s p) (v := (s.nodeD c).height + 1) key (by rw [e]; rfl)
        (room_congr T.room (by rw [e]; rfl) (by rw [e]; rfl) (by rw [e]; simp [heightSet]))
        (Or.inl ⟨hmem, rfl⟩) (by omega) (by omega) (A.hle p) hpd hnp, ?_⟩
      rw [key, if_pos rfl]
      show (s.nodeD c).height < (s.nodeD c).height + 1
      omega
    · have key : ∀ m, s'.nodeD m =
          if m = p then { s.nodeD p with height := (s.nodeD c).height + 1, heightInAhh := (s.nodeD p).height } else s.nodeD m := by
        intro m
        have hp1 : p < s1.nodes.size := by rw [e1]; simpa [ahhAdded] using hp
        have k1 := nodeD_upd (s := s1) (s' := s') (f := fun x => { x with height := (s.nodeD c).height + 1 })
          (by rw [e]; rfl) hp1 m
        rw [k1]
        by_cases em : m = p
        · rw [if_pos em, if_pos em, e1, ahhAdded_nodeD hp, if_pos rfl]
        · rw [if_neg em, if_neg em, e1, ahhAdded_nodeD hp, if_neg em]
      refine ⟨T.step (a := (s.nodeD p).height) (v := (s.nodeD c).height + 1) key (by rw [e, e1]; rfl)
        (room_congr T.room (by rw [e, e1]; simp [heightSet, ahhAdded]) (by rw [e, e1]; rfl)
          (by rw [e, e1]; simp [heightSet, ahhAdded]))
        (Or.inr ⟨hnm, rfl, by omega⟩) (by omega) (by omega) (A.hle p) hpd hnp, ?_⟩
      rw [key, if_pos rfl]
      show (s.nodeD c).height < (s.nodeD c).height + 1
      omega

/-- the least member is popped -/
theorem TI.pop {B : Nat} {E : Nat → Nat → Prop} {s0 s : State} {dn : List Nat} (A : AInvR rk E B s0 s noXR noY)
    (T : TI rk N s0 s dn noZ) {n : Nat} {rest : List Nat}
    (hq : s.ahh.queues[ahhFirst s]? = some (n :: rest)) :
    TI rk N s0 (ahhPopped (ahhFirst s) n rest s) (n :: dn) noZ ∧ n ∉ dn ∧ n < s.nodes.size ∧
      s0.isNecessary n = true ∧
      (ahhPopped (ahhFirst s) n rest s).ahh.lowerBound = (s0.nodeD n).height ∧
      ((s.nodeD n).inRch = true → (s.nodeD n).heightInRch < (s.nodeD n).height) := by
  obtain ⟨A1, -, -, key⟩ := A.pop hq
  obtain ⟨-, hmn⟩ := A.wf.popped hq
  have hmem : ahhMk s n ≠ -1 := by rw [hmn]; omega
  have hn : n < s.nodes.size := lt_size_of_mk hmem
  have hh : ∀ m, ((ahhPopped (ahhFirst s) n rest s).nodeD m).height = (s.nodeD m).height := by
    intro m; rw [key]; split
    · rename_i e; rw [e]
    · rfl
  have hr : ∀ m, ((ahhPopped (ahhFirst s) n rest s).nodeD m).heightInRch = (s.nodeD m).heightInRch := by
    intro m; rw [key]; split
    · rename_i e; rw [e]
    · rfl
  have hin : ∀ m, ((ahhPopped (ahhFirst s) n rest s).nodeD m).inRch = (s.nodeD m).inRch := by
    intro m; simp only [Node.inRch, hr]
  have hmk : ∀ m, ahhMk (ahhPopped (ahhFirst s) n rest s) m = if m = n then -1 else ahhMk s m := by
    intro m; simp only [ahhMk]; rw [key]; split <;> rfl
  have hnd : n ∉ dn := fun h => hmem (T.dnLow n h).1
  have hlb' : (ahhPopped (ahhFirst s) n rest s).ahh.lowerBound = (ahhFirst s : Int) := rfl
  refine ⟨⟨room_congr T.room (by simp [ahhPopped]) rfl (by simp [ahhPopped]), ?_, ?_, ?_, ?_, ?_, ?_⟩, hnd, hn,
    T.memNec n hmem, by rw [hlb', ← hmn]; exact T.mk0 n hmem, T.strict n hmem⟩
  · intro m hnm hz
    rw [hh]; exact T.bound m hnm hz
  · intro m hm
    rw [hmk] at hm
    by_cases e : m = n
    · rw [if_pos e] at hm; exact absurd rfl hm
    · rw [if_neg e] at hm; exact T.memNec m hm
  · intro m hm hqm
    rw [hmk] at hm
    rw [hin] at hqm
    rw [hr, hh]
    by_cases e : m = n
    · rw [if_pos e] at hm; exact absurd rfl hm
    · rw [if_neg e] at hm; exact T.strict m hm hqm
  · intro m hm
    rw [hmk] at hm ⊢
    by_cases e : m = n
    · rw [if_pos e] at hm; exact absurd rfl hm
    · rw [if_neg e] at hm ⊢; exact T.mk0 m hm
  · intro m hd hm
    rw [hmk] at hm
    have e : m ≠ n := fun e => hd (e ▸ List.mem_cons_self ..)
    rw [if_neg e] at hm
    rw [hh]
    exact T.fresh m (fun h => hd (List.mem_cons_of_mem _ h)) hm
  · intro m hd
    rw [hmk, hlb']
    by_cases e : m = n
    · rw [if_pos e, e]
      refine ⟨rfl, ?_⟩
      rw [← T.mk0 n hmem, hmn]; exact Int.le_refl _
    · rw [if_neg e]
      rcases List.mem_cons.1 hd with h | h
      · exact absurd h e
      · obtain ⟨h1, h2⟩ := T.dnLow m h
        refine ⟨h1, ?_⟩
        have := A.wf.lb n hmem
        rw [hmn] at this
        omega

/-- the popped node is re-bucketed in the recompute heap -/
theorem TI.rebucket {s0 s : State} {dn : List Nat} {Z : Nat → Prop} (T : TI rk N s0 s dn Z)
    {n : Nat} {Q : Array (List Nat)} (hn : n < s.nodes.size) (hm : ahhMk s n = -1)
    (hQ : Q.size = s.rch.queues.size) :
    TI rk N s0 (rebucketed n (s.nodeD n).height Q s) dn Z := by
  have key : ∀ m, (rebucketed n (s.nodeD n).height Q s).nodeD m =
      if m = n then { s.nodeD n with heightInRch := (s.nodeD n).height } else s.nodeD m :=
    nodeD_upd (s := s) (f := fun x => { x with heightInRch := (s.nodeD n).height }) rfl hn
  have hh : ∀ m, ((rebucketed n (s.nodeD n).height Q s).nodeD m).height = (s.nodeD m).height := by
    intro m; rw [key]; split
    · rename_i e; rw [e]
    · rfl
  have hmk : ∀ m, ahhMk (rebucketed n (s.nodeD n).height Q s) m = ahhMk s m := by
    intro m; simp only [ahhMk]; rw [key]; split
    · rename_i e; rw [e]
    · rfl
  refine ⟨room_congr T.room rfl hQ (by simp [rebucketed]), ?_, ?_, ?_, ?_, ?_, ?_⟩
  · intro m hnm hz
    rw [hh]; exact T.bound m hnm hz
  · intro m hmm
    rw [hmk] at hmm; exact T.memNec m hmm
  · intro m hmm hqm
    rw [hmk] at hmm
    have e : m ≠ n := fun e => hmm (e ▸ hm)
    rw [key, if_neg e] at hqm ⊢
    exact T.strict m hmm hqm
  · intro m hmm
    rw [hmk] at hmm ⊢; exact T.mk0 m hmm
  · intro m hd hmm
    rw [hmk] at hmm
    rw [hh]; exact T.fresh m hd hmm
  · intro m hd
    rw [hmk]; exact T.dnLow m hd

end TA
end IncrVerif.Proofs.NestH
