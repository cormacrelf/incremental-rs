import IncrVerif.Proofs.BindH39
/-!
# Binds, the run of a change detector in fragment F0, part 5: `StepL`
-/
namespace IncrVerif.Proofs.BindH
open IncrVerif.Engine IncrVerif.Proofs IncrVerif.Proofs.Step IncrVerif.Proofs.Sched IncrVerif.Proofs.Quiet
namespace BC

namespace Mid
variable {env : Env} {n b rhs : Nat} {br : BindRec} {r : Option Nat} {s t s' : State}

theorem size (X : Mid env n b rhs br r s t s') : s'.nodes.size = s.nodes.size :=
  X.step.size.trans X.rel.size

theorem stab (X : Mid env n b rhs br r s t s') : s'.stabNum = s.stabNum :=
  X.step.stabNum.trans X.rel.stabNum

theorem kind (X : Mid env n b rhs br r s t s') (m : Nat) : (s'.nodeD m).kind = (s.nodeD m).kind :=
  (X.step.shapes m).kind.trans (X.rel.nk m).kind
theorem valid (X : Mid env n b rhs br r s t s') (m : Nat) : (s'.nodeD m).valid = (s.nodeD m).valid :=
  (X.step.shapes m).valid.trans (X.rel.nk m).valid
theorem cutoff (X : Mid env n b rhs br r s t s') (m : Nat) : (s'.nodeD m).cutoff = (s.nodeD m).cutoff :=
  (X.step.shapes m).cutoff.trans (X.rel.nk m).cutoff
theorem createdIn (X : Mid env n b rhs br r s t s') (m : Nat) :
    (s'.nodeD m).createdIn = (s.nodeD m).createdIn :=
  (X.step.shapes m).createdIn.trans (X.rel.nk m).createdIn
theorem observers (X : Mid env n b rhs br r s t s') (m : Nat) :
    (s'.nodeD m).observers = (s.nodeD m).observers :=
  (X.step.shapes m).observers.trans (X.rel.nk m).observers

theorem ne (X : Mid env n b rhs br r s t s') : br.main ≠ n := by have := X.hnm; omega

/-- the last step changes no stamp at all (`n` was stamped before `relink`) -/
theorem recT (X : Mid env n b rhs br r s t s') (m : Nat) :
    (s'.nodeD m).recomputedAt = (t.nodeD m).recomputedAt := by
  by_cases e : m = n
  · subst e; rw [X.step.recomputedAt, X.rel.recN, X.rel.stabNum]
  · exact (X.step.other m e).recomputedAt

theorem chgT (X : Mid env n b rhs br r s t s') (m : Nat) :
    (s'.nodeD m).changedAt = (t.nodeD m).changedAt := by
  by_cases e : m = n
  · subst e; rw [X.step.changedAt, if_pos rfl, X.rel.chgN, X.rel.stabNum]
  · exact (X.step.other m e).changedAt

theorem keyEq (X : Mid env n b rhs br r s t s') : BL.KeyEq t s' :=
  ⟨X.step.size, X.step.binds, X.step.vars, fun m => (X.step.shapes m).valid, fun m => (X.step.shapes m).kind,
    fun m => (X.step.shapes m).cutoff, fun m => (X.step.shapes m).createdIn, X.recT, X.chgT⟩

theorem staleT (X : Mid env n b rhs br r s t s') (m : Nat) : s'.isStale m = t.isStale m :=
  X.keyEq.isStale X.ginv.frag m

theorem childrenT (X : Mid env n b rhs br r s t s') (m : Nat) : s'.children m = t.children m :=
  X.keyEq.children X.ginv.frag m

theorem children_main_t (X : Mid env n b rhs br r s t s') (A : AllB env s) : t.children br.main = [n, rhs] :=
  X.rel.children_main' A X.hml X.hkm

theorem children_other (X : Mid env n b rhs br r s t s') (A : AllB env s) {m : Nat} (hm : m ≠ br.main) :
    s'.children m = s.children m :=
  (X.childrenT m).trans (X.rel.children A X.hb hm)

/-- the main node is stale after `relink` -/
theorem main_stale (X : Mid env n b rhs br r s t s') (A : AllB env s)
    (hmr : (s.nodeD br.main).recomputedAt < s.stabNum) : t.isStale br.main = true := by
  have hlt : br.main < t.nodes.size := by rw [X.rel.size]; exact X.hml
  have N := X.ginv.frag.node br.main hlt
  apply isStale_of_child N.valid (c := n)
  · rw [X.children_main_t A]; simp
  · rw [X.rel.chgN, X.rel.recO br.main X.ne]; exact hmr

/-- the only recorded parent of `n` after `relink` is the main node -/
theorem par_n (X : Mid env n b rhs br r s t s') (hk : (s.nodeD n).kind = .bindLhsChange b) {p : Nat}
    (hp : p ∈ (t.nodeD n).parents.map (·.1)) : p = br.main := by
  obtain ⟨⟨p', i⟩, hmem, rfl⟩ := List.mem_map.1 hp
  obtain ⟨hci, -⟩ := X.ginv.par n p' i hmem
  have hpl := X.ginv.kid_lt_size hci
  have N := X.ginv.frag.node p' hpl
  have hkp := N.lcChild n b (List.mem_of_getElem? hci) (by rw [(X.rel.nk n).kind]; exact hk)
  obtain ⟨br', hb', hm', -⟩ := N.mainRec b n hkp
  rw [X.rel.bind] at hb'
  cases hb'
  exact hm'.symm

theorem main_par (X : Mid env n b rhs br r s t s') (A : AllB env s) :
    br.main ∈ (t.nodeD n).parents.map (·.1) := by
  have h0 : (t.children br.main)[0]? = some n := by rw [X.children_main_t A]; rfl
  exact List.mem_map.2 ⟨(br.main, 0), X.ginv.conv br.main 0 n h0 ((wants_closed rfl).2 X.necMain), rfl⟩

end Mid

/-- **the run of a change detector in F0 satisfies `StepL`** -/
theorem stepL_of_mid {env : Env} {n b rhs : Nat} {br : BindRec} {r : Option Nat} {s t s' : State}
    (I : DInv env s (some n)) (A : F0Inv env s) (hk : (s.nodeD n).kind = .bindLhsChange b)
    (hmr : (s.nodeD br.main).recomputedAt < s.stabNum)
    (X : Mid env n b rhs br r s t s') :
    StepL env n b br { br with rhs := some rhs } r s s' := by
  have R := X.step
  have M := X.rel
  have hmst := X.main_stale A.frag hmr
  refine
    { bind := X.hb
      bind' := by rw [R.binds]; exact M.bind
      lc := ⟨X.hlc, X.hlc, rfl, rfl, rfl⟩
      bindsOther := ⟨by rw [R.binds]; exact M.bindsSize, fun b' e => by rw [R.binds]; exact M.bindsOther b' e⟩
      grow := by rw [X.size]; exact Nat.le_refl _
      vars := R.vars.trans M.vars
      stabNum := X.stab
      graph' := R.graph X.graph
      heap' := R.heap
      stamps' := ⟨by rw [X.stab]; exact I.stamps.now, fun m => ?_, fun c vc h => ?_⟩
      qstale' := fun m hm => ?_
      pending' := fun m hn hs => ?_
      self := ?_
      old := fun m hm e => Or.inr ?_
      new := fun m h1 h2 => by rw [X.size] at h2; omega
      main := ⟨X.hml, X.hmem, by rw [X.childrenT, X.children_main_t A.frag]; simp, X.ne⟩
      ret := fun p hp => ?_ }
  · -- stamps of the nodes
    rw [X.stab, X.recT, X.chgT]
    by_cases e : m = n
    · subst e; rw [M.recN, M.chgN]; exact ⟨Int.le_refl _, Int.le_refl _⟩
    · rw [M.recO m e, M.chgO m e]; exact I.stamps.node m
  · -- stamps of the variables
    rw [R.vars, M.vars] at h
    rw [X.stab]; exact I.stamps.var c vc h
  · -- only stale nodes are queued
    rw [X.staleT]
    rcases R.newIn m hm with h1 | ⟨-, h1⟩
    · exact X.ginv.qstale m h1
    · rw [X.par_n hk h1]; exact hmst
  · -- stale necessary nodes are queued or handed over
    rw [R.nec] at hn
    rw [X.staleT] at hs
    by_cases e : m = br.main
    · rw [e]; exact R.parentsIn rfl br.main (X.main_par A.frag)
    · left
      have hq := X.ginv.queued m rfl hn hs e
      by_cases e2 : m = n
      · exfalso
        have hlt : n < t.nodes.size := nec_lt_size X.necN
        have hfr : t.isStale n = false := by
          apply isStale_fresh (X.ginv.frag.node n hlt).kind (by rw [M.stabNum]; exact I.stamps.now)
            (by rw [M.recN, M.stabNum])
          · intro c vc h
            rw [M.vars] at h
            rw [M.stabNum]; exact I.stamps.var c vc h
          · intro c
            rw [M.stabNum]
            by_cases e3 : c = n
            · rw [e3, M.chgN]; exact Int.le_refl _
            · rw [M.chgO c e3]; exact (I.stamps.node c).2
        rw [e2, hfr] at hs; cases hs
      · exact (R.other m e2).inRch hq
  · -- the change detector itself
    refine ⟨by rw [R.recomputedAt, M.stabNum], by rw [R.changedAt, if_pos rfl, M.stabNum], R.value, ?_, X.kind n,
      X.children_other A.frag (Ne.symm X.ne), X.createdIn n⟩
    rw [X.valid]; exact (I.cur_facts).2.2.1
  · -- the other old nodes
    refine ⟨X.valid m, X.kind m, X.createdIn m, ?_, ?_, ?_, fun hm' => X.children_other A.frag hm'⟩
    · rw [(R.other m e).value, M.value]
    · rw [(R.other m e).recomputedAt, M.recO m e]
    · rw [(R.other m e).changedAt, M.chgO m e]
  · -- the handed-over node
    obtain ⟨-, h1, h2, h3⟩ := R.ret p hp
    have hpm := X.par_n hk h1
    subst hpm
    refine ⟨rfl, h2, by rw [R.nec]; exact X.necMain, fun m hm => ?_⟩
    have hcm := X.children_main_t A.frag
    rw [(R.shapes _).height, (R.shapes m).height]
    rcases h3 with ⟨h4, -⟩ | h4 | ⟨b', lc, -, h4, -⟩
    · rw [hcm] at h4; cases h4
    · exact h4 m hm
    · rw [hcm] at h4
      injection h4 with _ h5
      injection h5 with h6 _
      have := X.hrn
      omega

end BC
end IncrVerif.Proofs.BindH
