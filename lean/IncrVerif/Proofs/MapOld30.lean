import IncrVerif.Proofs.MapOld29
/-!
# map_with_old fragment: what the recompute step of a map_with_old node logs (towards C17 for whole histories)

At the recompute step of a map_with_old node `n` the log grows by: the events of the closure (`woEvents`: for an
operator closure one `inv` event per user-function call `env.withOldCalls g σ old x`, in call order) and then only
notification noise (`Step.Noise`: cutoff calls, expert callbacks).
-/
namespace IncrVerif.Proofs.MapOldH
open IncrVerif IncrVerif.Engine IncrVerif.Driver IncrVerif.Proofs IncrVerif.Proofs.Step IncrVerif.Proofs.Sched IncrVerif.Proofs.Quiet

/-- **the log of a map_with_old step**: the closure's events, then notification noise only -/
theorem mwo_step_log {env : Env} {fuel n g i : Nat} {s s' : State} {r : Option Nat} {x : Val}
    (hn : n < s.nodes.size) (hv : (s.nodeD n).valid = true) (hk : (s.nodeD n).kind = .mapWithOld g i)
    (hx : s.value env i = some x) (hp : s.panicCountdown = none)
    (h : (recomputeOne env fuel n).run.run s = (.ok r, s')) :
    ∃ tail, s'.log = tail ++ woEvents env g n (s.nodeD n).oldState (s.nodeD n).value x
        (env.withOld g (s.nodeD n).oldState (s.nodeD n).value x).2.1
        (env.withOld g (s.nodeD n).oldState (s.nodeD n).value x).2.2 ++ s.log ∧
      ∀ e, e ∈ tail → Noise e := by
  rw [recomputeOne_mwo_run' env fuel n s (s.nodeD n) g i x (some_of_lt hn) hv hk hx hp] at h
  generalize env.withOld g (s.nodeD n).oldState (s.nodeD n).value x = w at h ⊢
  obtain ⟨σ', new, did⟩ := w
  cases did with
  | false =>
    rw [run_mcvm_false] at h
    cases h
    exact ⟨[], rfl, fun e he => by cases he⟩
  | true =>
    have q := mcvm_true_quiet _ _ _ _ _ _ _ _ h
    obtain ⟨tail, ht, hnoise⟩ := q.log
    refine ⟨tail, ?_, hnoise⟩
    rw [ht]
    simp only [touched, setWithOld, logged, started, List.append_assoc]

end IncrVerif.Proofs.MapOldH
