import IncrVerif.Proofs.MapRef29
/-!
# At most once per round: the fragment static + `map_ref`
-/
namespace IncrVerif.Proofs.TidyH
open IncrVerif.Engine IncrVerif.Driver IncrVerif.Proofs IncrVerif.Proofs.Step IncrVerif.Proofs.Sched IncrVerif.Proofs.Quiet
open IncrVerif.Proofs.MapRefH

/-- the drain invariant of the fragment static + map_ref, for some ghost values -/
def JR (env : Env) (s : State) (x : Option Nat) : Prop := ∃ g, DInvR env s g x

theorem frA_of_virt {s s' : State} {g g' : Nat → Option Val} (f : Frame (virt g s) (virt g' s')) : FrA s s' where
  stabNum := f.stabNum
  nec m := by have := f.nec m; rwa [virt_isNecessary, virt_isNecessary] at this
  ran m h := by
    have := f.ran m (by rw [virt_nodeD, virtNode_recomputedAt]; exact h)
    rwa [virt_nodeD, virtNode_recomputedAt] at this

theorem onceKitR (env : Env) : OnceKit env (JR env) where
  stamps s x m := by
    rintro ⟨g, D⟩
    have := (D.inv.stamps.node m).1
    rwa [virt_nodeD, virtNode_recomputedAt] at this
  cur s n := by
    rintro ⟨g, D⟩
    have h1 := (D.inv.cur n rfl).1
    have h2 := D.inv.cur_not_yet
    rw [virt_isNecessary] at h1
    rw [virt_nodeD, virtNode_recomputedAt] at h2
    exact ⟨h1, h2⟩
  step s n fuel r s' := by
    rintro ⟨g, D⟩ h
    obtain ⟨g', D', f, hr⟩ := recomputeOneR_inv D h
    rw [virt_nodeD, virtNode_recomputedAt] at hr
    exact ⟨⟨g', D'⟩, frA_of_virt f.frame, hr⟩
  pop s n s1 := by
    rintro ⟨g, D⟩ h
    obtain ⟨hv, F1, K1, hp1⟩ := popR D h
    obtain ⟨I1, f1⟩ := pop_inv D.inv hv
    exact ⟨⟨g, F1, I1, K1, hp1⟩, frA_of_virt f1⟩
  popNone s s1 := by
    rintro ⟨g, D⟩ h
    exact (rchRemoveMin_inv (heapInv_of_virt D.inv.heap) h).1

/-- **T1a, the drain.** A successful `drainHeap` from the drain invariant of the fragment static + map_ref: the nodes
on which `recomputeOne` is invoked are pairwise distinct; each is necessary, had not been recomputed in this round and
is stamped with this round afterwards; each `recomputeOne` happens in a state with the drain invariant. -/
theorem drain_onceR {env : Env} {fuel : Nat} {s s' : State} (D : DrainInvR env s)
    (h : (drainHeap env fuel).run.run s = (.ok (), s')) :
    (drainTrace env fuel s).Nodup ∧ (∀ m, m ∈ drainTrace env fuel s → RanOnce s s' m) ∧
      ∀ p, p ∈ drainSteps env fuel s → (∃ g, DInvR env p.2 g (some p.1)) ∧ FrA s p.2 := by
  have R := drain_onceG (onceKitR env) fuel s s' D h
  rw [← drainSteps_fst]
  exact ⟨R.nodup, R.once, R.steps⟩

section
variable {env : Env} {g : Nat → Option Val} {s : State}

/-- the prefix of `stabilise` (`addNewObservers`, `unlinkDisallowedObservers`) establishes the drain invariant -/
theorem prefix_drainInvR {fuel : Nat} {t1 t2 : State} (Q : QInvR env s g)
    (h1 : (addNewObservers env fuel).run.run { s with status := .stabilising } = (.ok (), t1))
    (h2 : (unlinkDisallowedObservers fuel).run.run t1 = (.ok (), t2)) :
    DInvR env t2 g none ∧ t2.stabNum = s.stabNum ∧ t2.setDuringStab = [] ∧ t2.deadVars = [] ∧
      (∀ (o : Nat) (ob : ObsRec), t2.observers[o]? = some ob → ob.handlers = []) := by
  have Qv := Q.q
  have hs0v : virt g { s with status := .stabilising } = { virt g s with status := .stabilising } := rfl
  have V0 : VFrame s { s with status := .stabilising } := VFrame.of_nodes rfl rfl
  have F0 : RFrag env { s with status := .stabilising } := RFrag.of_vframe V0 Q.frag
  have T0 : Inherit env g { s with status := .stabilising } := Inherit.of_vframe V0 Q.inherit
  have hp0 : ({ s with status := .stabilising } : State).propagateInvalidity = [] := Q.pinv
  have K0 : KInv env g { s with status := .stabilising } := by
    have : ∀ m, ({ s with status := .stabilising } : State).nodeD m = s.nodeD m := fun m => rfl
    refine Q.k.congr (fun m => by simp only [State.isNecessary, this]) (fun m => by rw [this])
      (fun m hd => by rw [← this]; exact hd) (fun m _ _ _ _ _ => ?_)
    exact value_congr env s { s with status := .stabilising } rfl (fun k => rfl) m
  have S0 : SInv (virtEnv env) (virt g { s with status := .stabilising })
      (virt g { s with status := .stabilising }).newObservers
      (virt g { s with status := .stabilising }).disallowedObservers := by
    rw [hs0v]
    exact ⟨Qv.struct.congr (SameG.of_nodes rfl rfl rfl rfl rfl),
      ⟨Qv.obs.inRange, Qv.obs.mem, Qv.obs.created, Qv.obs.newIn, Qv.obs.dis, Qv.obs.disIn, Qv.obs.disNodup⟩,
      Qv.pinv, Qv.handlers⟩
  obtain ⟨hv1, fr1⟩ := Sim.addNewObservers (g := g) env fuel _ (F0.fr hp0) _ t1 h1
  obtain ⟨S1, hn1, hd1, P1, O1, -⟩ := addNewObservers_s S0 hv1
  obtain ⟨K1, hp1, -, V1⟩ := addNewObservers_keepsK' F0 T0 hp0 K0 h1
  have F1 : RFrag env t1 := RFrag.of_vframe V1 F0
  obtain ⟨hv2, fr2⟩ := Sim.unlinkDisallowedObservers (g := g) fuel t1 fr1 _ t2 h2
  obtain ⟨S2, hn2, hd2, P2, O2⟩ := unlinkDisallowedObservers_s S1 hn1 hv2
  have SH2 := unlinkDisallowedObservers_sh h2
  have K2 : KInv env g t2 := K1.of_sh SH2
  have F2 : RFrag env t2 := RFrag.of_vframe SH2.vf F1
  have hp2 : t2.propagateInvalidity = [] := SH2.pinv.trans hp1
  have P := P1.trans P2
  obtain ⟨D2, U2⟩ := drain_start Qv hs0v S2 P
  refine ⟨⟨F2, D2, K2, hp2⟩, ?_, ?_, ?_, ?_⟩
  · have := P.stabNum; rw [hs0v] at this; exact this
  · have := P.setDuringStab; rw [hs0v] at this; exact this.trans Qv.setDuringStab
  · have := P.deadVars; rw [hs0v] at this; exact this.trans Qv.deadVars
  · intro o ob ho
    exact (S2.obs.inRange o ob ho).2

/-- **T1a: at most once per round, and only necessary nodes**, for a `stabilise` from the invariant between API actions
of the fragment static + map_ref.  `t2` is the state in which the drain of this `stabilise` starts, `t3` the one in which
it ends: the nodes on which `recomputeOne` is invoked are pairwise distinct; each is necessary (at the start of the
drain and in the final state), had not run in this round, and carries the stamp of this round in the final state. -/
theorem stabilise_onceR {fuel : Nat} {s' : State} (Q : QInvR env s g)
    (h : (stabilise env fuel).run.run s = (.ok (), s')) :
    ∃ t1 t2 t3, (addNewObservers env fuel).run.run { s with status := .stabilising } = (.ok (), t1) ∧
      (unlinkDisallowedObservers fuel).run.run t1 = (.ok (), t2) ∧
      (drainHeap env fuel).run.run t2 = (.ok (), t3) ∧ (stabiliseEnd env fuel).run.run t3 = (.ok (), s') ∧
      DrainInvR env t2 ∧ (drainTrace env fuel t2).Nodup ∧
      ∀ m, m ∈ drainTrace env fuel t2 → t2.isNecessary m = true ∧ s'.isNecessary m = true ∧
        (t2.nodeD m).recomputedAt < s.stabNum ∧ (s'.nodeD m).recomputedAt = s.stabNum := by
  obtain ⟨t1, t2, t3, -, h1, h2, h3, h4⟩ := stabilise_phases.1 h
  obtain ⟨D2, hst, hsd, hdv, hobs⟩ := prefix_drainInvR Q h1 h2
  have R := drain_onceG (onceKitR env) fuel t2 t3 ⟨g, D2⟩ h3
  have hk := R.fr
  obtain ⟨g3, D3, -, f3⟩ := drainHeapR_inv fuel t2 t3 g D2 h3
  have c3 := f3.calm
  have E := stabiliseEnd_fin (env := env) (fuel := fuel) (s := t3) (s' := s')
    (by
      have := c3.setDuringStab
      have e1 : (virt g3 t3).setDuringStab = t3.setDuringStab := rfl
      rw [← e1, this]; exact hsd)
    (by
      have := c3.deadVars
      have e1 : (virt g3 t3).deadVars = t3.deadVars := rfl
      rw [← e1, this]; exact hdv)
    (by
      intro o ob ho
      have hkd := f3.keyD
      simp only [KeyD, stateKeyD, Prod.mk.injEq] at hkd
      have e1 : (virt g3 t3).observers = t3.observers := rfl
      rw [← e1, hkd.1] at ho
      exact hobs o ob ho) h4
  refine ⟨t1, t2, t3, h1, h2, h3, h4, ⟨g, D2⟩, ?_, ?_⟩
  · rw [← drainSteps_fst]; exact R.nodup
  · intro m hm
    rw [← drainSteps_fst] at hm
    obtain ⟨a1, a2, a3⟩ := R.once m hm
    obtain ⟨b, hb⟩ := E.node m
    refine ⟨a1, ?_, by rw [← hst]; exact a2, ?_⟩
    · have : s'.isNecessary m = t3.isNecessary m := by simp only [State.isNecessary, hb]; rfl
      rw [this, hk.nec]; exact a1
    · rw [hb, ← hst]; exact a3

end
end IncrVerif.Proofs.TidyH
