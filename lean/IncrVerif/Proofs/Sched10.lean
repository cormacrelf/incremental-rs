import IncrVerif.Proofs.Sched5
/-!
# Safety of the drain: under the invariant no assertion can fail

`Safe s`: the two facts about the static graph that the heap operations assert and that the invariant
does not contain: every necessary node's height is within the recompute heap's range, and every
necessary node was created at top level (so `scope.height()` cannot fail).

Theorems: from `Inv`/`DrainInv` and `Safe`, a run of `recomputeOne` / `recompute` / `drainHeap` that ends
in a panic can only have run out of fuel (`Panic.outOfFuel`): no `assert!`, `debug_assert!`, `unwrap` or
model-level lookup fails — with `cfg.debug = true` or `false`.  For `recomputeOne` moreover `fuel = 0`.

This file: `Safe`, the total-correctness calculus `Runs`, and the primitives of the notification walk
(`child_changed`, `insert`, `parent_iter_can_recompute_now`) on a state satisfying the walk invariant
`KInv`.  `Sched11`: the walk and the theorems.
-/
namespace IncrVerif.Proofs.Sched
open IncrVerif.Engine IncrVerif.Proofs IncrVerif.Proofs.Step

structure Safe (s : State) : Prop where
  height : ∀ n, s.isNecessary n = true → (s.nodeD n).height ≤ s.rch.maxAllowed
  scope : ∀ n, s.isNecessary n = true → (s.nodeD n).createdIn = .top

theorem maxAllowed_congr {s s' : State} (hq : s'.rch.queues.size = s.rch.queues.size) :
    s'.rch.maxAllowed = s.rch.maxAllowed := by
  simp only [Heap.maxAllowed, hq]

/-- `Safe` only depends on the graph and the number of buckets -/
theorem Safe.transfer {s s' : State} (S : Safe s) (hsh : ∀ m, SameShape (s.nodeD m) (s'.nodeD m))
    (hq : s'.rch.queues.size = s.rch.queues.size) : Safe s' := by
  refine ⟨fun n hn => ?_, fun n hn => ?_⟩
  · rw [isNecessary_of_shape hsh] at hn
    rw [(hsh n).height, maxAllowed_congr hq]; exact S.height n hn
  · rw [isNecessary_of_shape hsh] at hn
    rw [(hsh n).createdIn]; exact S.scope n hn

theorem Safe.frame {s s' : State} (S : Safe s) (f : Frame s s') : Safe s' :=
  S.transfer f.shape f.qsize

/-! ## a total-correctness calculus for single runs -/

/-- the run of `x` from `s` either returns `a` in a state `s1` with `Q a s1`, or ends in a panic `e`
with `P e` -/
def Runs {α} (P : Panic → Prop) (x : M α) (s : State) (Q : α → State → Prop) : Prop :=
  match x.run.run s with
  | (.ok a, s1) => Q a s1
  | (.error e, _) => P e

section runs
variable {α β : Type} {P : Panic → Prop} {x : M α} {s : State} {Q : α → State → Prop}

theorem Runs.of_ok {a : α} {s1 : State} (h : x.run.run s = (.ok a, s1)) (hq : Q a s1) :
    Runs P x s Q := by
  unfold Runs; rw [h]; exact hq

theorem Runs.of_err {e : Panic} {s1 : State} (h : x.run.run s = (.error e, s1)) (hp : P e) :
    Runs P x s Q := by
  unfold Runs; rw [h]; exact hp

theorem Runs.err (R : Runs P x s Q) {e : Panic} {s' : State} (h : x.run.run s = (.error e, s')) :
    P e := by
  unfold Runs at R; rw [h] at R; exact R

theorem Runs.ok (R : Runs P x s Q) {a : α} {s' : State} (h : x.run.run s = (.ok a, s')) :
    Q a s' := by
  unfold Runs at R; rw [h] at R; exact R

theorem Runs.mono {Q' : α → State → Prop} (R : Runs P x s Q) (h : ∀ a t, Q a t → Q' a t) :
    Runs P x s Q' := by
  unfold Runs at R ⊢
  rcases hx : x.run.run s with ⟨_ | a, s1⟩ <;> rw [hx] at R
  · exact R
  · exact h a s1 R

/-- the same run, written differently -/
theorem Runs.congr {y : M α} {s0 : State} (h : x.run.run s = y.run.run s0) (R : Runs P y s0 Q) :
    Runs P x s Q := by
  unfold Runs at R ⊢; rw [h]; exact R

theorem Runs.bind {f : α → M β} {Q' : β → State → Prop} (hx : Runs P x s Q)
    (hf : ∀ a s1, Q a s1 → Runs P (f a) s1 Q') : Runs P (x >>= f) s Q' := by
  unfold Runs at hx ⊢
  rw [run_bind]
  rcases h : x.run.run s with ⟨_ | a, s1⟩ <;> rw [h] at hx
  · exact hx
  · exact hf a s1 hx

theorem Runs.pure {a : α} (h : Q a s) : Runs P (pure a : M α) s Q := Runs.of_ok (run_pure a s) h

theorem Runs.get {Q : State → State → Prop} (h : Q s s) : Runs P (get : M State) s Q :=
  Runs.of_ok (run_get s) h

theorem Runs.dassert {c : Bool} {site : String} {Q : Unit → State → Prop} (hc : c = true)
    (h : Q () s) : Runs P (dassert c site) s Q := by
  refine Runs.of_ok ?_ h
  rw [run_dassert, if_neg]
  rintro ⟨-, h⟩; rw [hc] at h; cases h

theorem Runs.getNode {n : Nat} {nd : Node} {Q : Node → State → Prop} (hn : s.nodes[n]? = some nd)
    (h : Q nd s) : Runs P (getNode n) s Q :=
  Runs.of_ok (run_getNode_some hn) h

/-- the first half of a bind returns `a` in `s1` -/
theorem Runs.bind_ok {f : α → M β} {Q' : β → State → Prop} {a : α} {s1 : State}
    (h : x.run.run s = (.ok a, s1)) (R : Runs P (f a) s1 Q') : Runs P (x >>= f) s Q' :=
  Runs.congr (run_bind_ok h) R

theorem Runs.bind_get {f : State → M β} {Q' : β → State → Prop} (R : Runs P (f s) s Q') :
    Runs P ((MonadState.get : M State) >>= f) s Q' := Runs.bind_ok (run_get s) R

theorem Runs.bind_dassert {c : Bool} {site : String} {f : Unit → M β} {Q' : β → State → Prop}
    (hc : c = true) (R : Runs P (f ()) s Q') : Runs P (Engine.dassert c site >>= f) s Q' := by
  refine Runs.bind_ok ?_ R
  rw [run_dassert, if_neg]
  rintro ⟨-, h⟩; rw [hc] at h; cases h

theorem Runs.bind_getNode {n : Nat} {nd : Node} {f : Node → M β} {Q' : β → State → Prop}
    (hn : s.nodes[n]? = some nd) (R : Runs P (f nd) s Q') : Runs P (Engine.getNode n >>= f) s Q' :=
  Runs.bind_ok (run_getNode_some hn) R

end runs

/-- a bind that panicked: the first half panicked, or it returned and the second half panicked -/
theorem bind_err_inv {α β} {x : M α} {f : α → M β} {s s' : State} {e : Panic}
    (h : (x >>= f).run.run s = (.error e, s')) :
    x.run.run s = (.error e, s') ∨
      ∃ a s1, x.run.run s = (.ok a, s1) ∧ (f a).run.run s1 = (.error e, s') := by
  rw [run_bind] at h
  rcases hx : x.run.run s with ⟨e1 | a, s1⟩
  · rw [hx] at h; cases h; exact Or.inl rfl
  · rw [hx] at h; exact Or.inr ⟨a, s1, rfl, h⟩

/-- **loop rule**: if from every state satisfying `K` the body either returns in a state satisfying `K`
or ends in a panic satisfying `P`, then so does the loop -/
theorem Runs.forIn {α} {P : Panic → Prop} (K : State → Prop) (f : α → PUnit → M (ForInStep PUnit))
    (l : List α)
    (hbody : ∀ b, b ∈ l → ∀ t, K t → Runs P (f b ⟨⟩) t (fun _ t' => K t')) :
    ∀ t, K t → Runs P (forIn l PUnit.unit f) t (fun _ t' => K t') := by
  induction l with
  | nil => intro t hk; rw [List.forIn_nil]; exact Runs.pure hk
  | cons a l ih =>
    intro t hk
    rw [List.forIn_cons]
    refine Runs.bind (hbody a (List.mem_cons_self ..) t hk) ?_
    intro x s1 hk1
    cases x with
    | done b => exact Runs.pure hk1
    | yield b => exact ih (fun b hb => hbody b (List.mem_cons_of_mem _ hb)) s1 hk1

/-! ## the primitives of the notification walk -/

/-- `child_changed` on a valid parent of a static kind returns at once (when there is fuel) -/
theorem childChanged_static_run {env : Env} {fuel p c ci : Nat} {o : Option Val} {t : State} {pn : Node}
    (hp : t.nodes[p]? = some pn) (hv : pn.valid = true) (hk : StaticKind env pn.kind) :
    (childChanged env (fuel + 1) p c ci o).run.run t = (.ok (), t) := by
  unfold childChanged
  rw [run_bind_ok (run_getNode_some hp)]
  have hk? : pn.kind? = some pn.kind := by simp [Node.kind?, hv]
  rw [hk?]
  cases hkd : pn.kind <;> rw [hkd] at hk <;> first | rfl | exact hk.elim

theorem childChanged_zero_run {env : Env} {p c ci : Nat} {o : Option Val} {t : State} :
    (childChanged env 0 p c ci o).run.run t = (.error .outOfFuel, t) := by
  unfold childChanged; rfl

/-- `child_changed` on a valid parent of a static kind: does nothing, or `fuel = 0` -/
theorem childChanged_runs {env : Env} {fuel p c ci : Nat} {o : Option Val} {t : State} {pn : Node}
    (hp : t.nodes[p]? = some pn) (hv : pn.valid = true) (hk : StaticKind env pn.kind) :
    Runs (fun e => e = .outOfFuel ∧ fuel = 0) (childChanged env fuel p c ci o) t
      (fun _ t' => t' = t) := by
  cases fuel with
  | zero => exact Runs.of_err childChanged_zero_run ⟨rfl, rfl⟩
  | succ fuel => exact Runs.of_ok (childChanged_static_run hp hv hk) rfl

/-- `insert` of a not queued node that needs to be computed and whose height is in range: no
assertion fails -/
theorem rchInsert_safe_run {t : State} {p : Nat} {nd : Node} (hp : t.nodes[p]? = some nd)
    (hnot : nd.inRch = false) (hneeds : t.needsToBeComputed p = true) (h0 : 0 ≤ nd.height)
    (hmax : nd.height ≤ t.rch.maxAllowed) :
    (rchInsert p).run.run t = (.ok (), inserted p nd.height t) := by
  rw [rchInsert_run, hp]
  dsimp only
  rw [if_neg (by rintro ⟨-, h⟩; rw [hnot, hneeds] at h; cases h),
    if_neg (by rintro ⟨-, h⟩; omega), if_neg (by omega), if_neg (by omega)]

/-- what the safety walk needs of a parent `p` of `n`, in the state `T` in which the notification
starts -/
structure ParentSafe (env : Env) (T : State) (n p : Nat) : Prop where
  ok : ParentOK env T p
  child : n ∈ kids (T.nodeD p).kind
  stale : (T.nodeD p).recomputedAt < (T.nodeD n).changedAt
  h0 : 0 ≤ (T.nodeD p).height
  hmax : (T.nodeD p).height ≤ T.rch.maxAllowed
  scope : (T.nodeD p).createdIn = .top

/-- a parent of the changed node needs to be computed, throughout the notification walk -/
theorem ParentSafe.needs {env : Env} {T t : State} {n p : Nat} (h : ParentSafe env T n p)
    (q : Quiet T t) : t.needsToBeComputed p = true := by
  have ok := h.ok.quiet q
  unfold State.needsToBeComputed
  rw [ok.nec, isStale_static t p ok.valid ok.kind, Bool.true_and]
  refine staleOf_of_child (c := n) (by rw [(q.node p).kind]; exact h.child) ?_
  rw [(q.node n).changedAt, (q.node p).recomputedAt]
  exact h.stale

theorem KInv.maxAllowed {T t : State} {P : List Nat} (k : KInv T P t) :
    t.rch.maxAllowed = T.rch.maxAllowed := maxAllowed_congr k.qsize

/-- `insert p` for a not yet queued parent `p`, during the walk -/
theorem KInv.insert_run {env : Env} {T t : State} {P : List Nat} {n p : Nat} {nd : Node}
    (k : KInv T P t) (hp : ParentSafe env T n p) (hmem : p ∈ P) (hnd : t.nodes[p]? = some nd)
    (hnot : nd.inRch = false) :
    (rchInsert p).run.run t = (.ok (), IncrVerif.Proofs.inserted p nd.height t) ∧
      KInv T P (IncrVerif.Proofs.inserted p nd.height t) := by
  have e : t.nodeD p = nd := nodeD_of_some hnd
  have hh : nd.height = (T.nodeD p).height := by rw [← e]; exact (k.q.node p).height
  have h0 : 0 ≤ nd.height := by rw [hh]; exact hp.h0
  have hmax : nd.height ≤ t.rch.maxAllowed := by rw [hh, k.maxAllowed]; exact hp.hmax
  exact ⟨rchInsert_safe_run hnd hnot (hp.needs k.q) h0 hmax, k.inserted hp.ok hmem hnd hnot h0 hmax⟩

/-- `parent_iter_can_recompute_now p0 n` for a not queued parent `p0` of `n`, during the walk: no
assertion fails, no lookup fails -/
theorem KInv.picrn_run {env : Env} {T t : State} {P : List Nat} {n p0 : Nat} {pn : Node}
    (k : KInv T P t) (hp : ParentSafe env T n p0) (hmem : p0 ∈ P) (hn : n < T.nodes.size)
    (hpn : t.nodes[p0]? = some pn) (hnot : pn.inRch = false) :
    ∃ b t', (parentIterCanRecomputeNow p0 n).run.run t = (.ok b, t') ∧ KInv T P t' := by
  have e : t.nodeD p0 = pn := nodeD_of_some hpn
  have ok := hp.ok.quiet k.q
  have hv : pn.valid = true := by rw [← e]; exact ok.valid
  have hk? : pn.kind? = some pn.kind := by simp [Node.kind?, hv]
  have hkind : pn.kind = (T.nodeD p0).kind := by rw [← e]; exact (k.q.node p0).kind
  have hscope : pn.createdIn = .top := by rw [← e, (k.q.node p0).createdIn]; exact hp.scope
  have hnt : n < t.nodes.size := by rw [k.q.size]; exact hn
  have hchild : n ∈ kids pn.kind := by rw [hkind]; exact hp.child
  have hcan : ∃ can, canRecomputeNow t pn pn.kind (t.nodeD n).height (minHeightOf t) = .ok can := by
    have hst : StaticKind env pn.kind := by rw [hkind]; exact hp.ok.kind
    cases hkd : pn.kind <;> rw [hkd] at hchild hst
    case const => cases hchild
    case var => cases hchild
    case fold => exact ⟨_, rfl⟩
    case map f args =>
      simp only [canRecomputeNow]
      split
      · exact ⟨_, rfl⟩
      · rw [hscope]; exact ⟨_, rfl⟩
    all_goals exact hst.elim
  obtain ⟨can, hcan⟩ := hcan
  rw [Step.picrn_run, hpn]
  simp only [hk?, some_of_lt hnt, hcan]
  by_cases h1 : (can || decide (pn.height ≤ minHeightOf t)) = true
  · rw [if_pos h1]; exact ⟨_, _, rfl, k.withMinHeight⟩
  rw [if_neg h1]
  have k' := k.withMinHeight
  have hneeds : t.needsToBeComputed p0 = true := hp.needs k.q
  rw [if_neg (by rintro ⟨-, h⟩; rw [hneeds] at h; cases h),
    if_neg (by rintro ⟨-, h⟩; rw [hnot] at h; cases h)]
  obtain ⟨hrun, k''⟩ := k'.insert_run hp hmem (show (Step.withMinHeight t).nodes[p0]? = some pn from hpn) hnot
  rw [hrun]
  exact ⟨_, _, rfl, k''⟩

end IncrVerif.Proofs.Sched
