import IncrVerif.Proofs.CutH14
-- static programs with ARBITRARY cutoffs; `Proofs/Quiet9.lean` (default cutoffs) takes its lemmas from this file; overview in Props/C06History.lean
/-!
# Part 8: the invariant between API actions (`QInv`), observer bookkeeping, frames
-/
namespace IncrVerif.Proofs.CutH
open IncrVerif.Engine IncrVerif.Proofs IncrVerif.Proofs.Step IncrVerif.Proofs.Sched

/-! ## observers -/

/-- observer bookkeeping, relative to the observers still waiting to be added (`pn`) and to be unlinked (`pd`) -/
structure ObsInv (s : State) (pn pd : List Nat) : Prop where
  /-- observers watch existing nodes and have no update handlers -/
  inRange : ∀ (o : Nat) (ob : ObsRec), s.observers[o]? = some ob → ob.node < s.nodes.size ∧ ob.handlers = []
  /-- the observer list of a node: exactly the linked (in use or disallowed) observers of that node -/
  mem : ∀ n o, o ∈ (s.nodeD n).observers ↔
    ∃ ob, s.observers[o]? = some ob ∧ ob.node = n ∧ (ob.state = .inUse ∨ ob.state = .disallowed)
  created : ∀ (o : Nat) (ob : ObsRec), s.observers[o]? = some ob → ob.state = .created → o ∈ pn
  newIn : ∀ o, o ∈ pn → ∃ ob, s.observers[o]? = some ob
  dis : ∀ (o : Nat) (ob : ObsRec), s.observers[o]? = some ob → (ob.state = .disallowed ↔ o ∈ pd)
  disIn : ∀ o, o ∈ pd → ∃ ob, s.observers[o]? = some ob
  disNodup : pd.Nodup

def ObsOK (s : State) : Prop := ObsInv s s.newObservers s.disallowedObservers

/-- `ObsInv` without "no observer has update handlers": what the observer actions keep whether or not there are handlers -/
structure ObsCore (s : State) (pn pd : List Nat) : Prop where
  inRange : ∀ (o : Nat) (ob : ObsRec), s.observers[o]? = some ob → ob.node < s.nodes.size
  mem : ∀ n o, o ∈ (s.nodeD n).observers ↔
    ∃ ob, s.observers[o]? = some ob ∧ ob.node = n ∧ (ob.state = .inUse ∨ ob.state = .disallowed)
  created : ∀ (o : Nat) (ob : ObsRec), s.observers[o]? = some ob → ob.state = .created → o ∈ pn
  newIn : ∀ o, o ∈ pn → ∃ ob, s.observers[o]? = some ob
  dis : ∀ (o : Nat) (ob : ObsRec), s.observers[o]? = some ob → (ob.state = .disallowed ↔ o ∈ pd)
  disIn : ∀ o, o ∈ pd → ∃ ob, s.observers[o]? = some ob
  disNodup : pd.Nodup

theorem ObsInv.core {s : State} {pn pd : List Nat} (I : ObsInv s pn pd) : ObsCore s pn pd :=
  ⟨fun o ob h => (I.inRange o ob h).1, I.mem, I.created, I.newIn, I.dis, I.disIn, I.disNodup⟩

theorem ObsCore.obsInv {s : State} {pn pd : List Nat} (I : ObsCore s pn pd)
    (hh : ∀ (o : Nat) (ob : ObsRec), s.observers[o]? = some ob → ob.handlers = []) : ObsInv s pn pd :=
  ⟨fun o ob h => ⟨I.inRange o ob h, hh o ob h⟩, I.mem, I.created, I.newIn, I.dis, I.disIn, I.disNodup⟩

/-! ## the invariant between API actions -/

structure QInv (env : Env) (e : Bool) (s : State) : Prop where
  struct : Struct env s
  vars : VarsOK s
  obs : ObsOK s
  now : 0 ≤ s.stabNum
  /-- every stamp is from an earlier round -/
  stamps : ∀ m, (s.nodeD m).recomputedAt < s.stabNum ∧ (s.nodeD m).changedAt < s.stabNum
  varStamp : ∀ (c : Nat) (vc : VarCell), s.vars[c]? = some vc → vc.setAt ≤ s.stabNum
  /-- EVERY node that is not stale (necessary or not) has a value; it is consistent with its children if every
  cutoff ever in force was exact (`e`) -/
  cons : ∀ m, m < s.nodes.size → staleOf s m = false → ConsE env e s m
  /-- flag up: every cutoff is exact -/
  exact : e = true → ∀ m, ExactCut (s.nodeD m).cutoff
  status : s.status = .notStabilising
  alive : s.alive = true
  setDuringStab : s.setDuringStab = []
  deadVars : s.deadVars = []
  handleAfterStab : s.handleAfterStab = []
  handlers : ∀ m, (s.nodeD m).numOnUpdateHandlers ≤ 0
  pinv : s.propagateInvalidity = []
  /-- the naming table of top-level nodes -/
  top : ∀ (k n : Nat), s.top[k]? = some n → n < s.nodes.size

theorem QInv.weaken {env : Env} {e : Bool} {s : State} (Q : QInv env e s) : QInv env false s :=
  { Q with cons := fun m hm hs => (Q.cons m hm hs).weaken, exact := fun h => by cases h }

/-- with the flag up, every non-stale node is `Sched.Consistent` -/
theorem QInv.consistent {env : Env} {s : State} (Q : QInv env true s) (m : Nat) (hm : m < s.nodes.size)
    (hs : staleOf s m = false) : Consistent env s m := (Q.cons m hm hs).consistent

/-! ## what the prefix of `stabilise` (adding and unlinking observers) keeps -/

def nodeKeyP (nd : Node) :=
  (nd.kind, nd.createdIn, nd.cutoff, nd.value, nd.valid, nd.recomputedAt, nd.changedAt,
    nd.forceNecessary, nd.numOnUpdateHandlers)

def stateKeyP (s : State) :=
  (s.vars, s.stabNum, s.status, s.cfg, s.currentScope, s.setDuringStab, s.deadVars, s.top, s.handles,
    s.alive, s.rch.queues.size, s.ahh, s.binds, s.memos, s.slots)

structure PFrame (s s' : State) : Prop where
  size : s'.nodes.size = s.nodes.size
  node : ∀ m, nodeKeyP (s'.nodeD m) = nodeKeyP (s.nodeD m)
  key : stateKeyP s' = stateKeyP s
  pc : s.panicCountdown = none → s'.panicCountdown = none

theorem PFrame.refl (s : State) : PFrame s s := ⟨rfl, fun _ => rfl, rfl, id⟩
theorem PFrame.trans {a b c : State} (h1 : PFrame a b) (h2 : PFrame b c) : PFrame a c :=
  ⟨h2.size.trans h1.size, fun m => (h2.node m).trans (h1.node m), h2.key.trans h1.key,
    fun h => h2.pc (h1.pc h)⟩

theorem CFrame.toP {s s' : State} (h : CFrame s s') : PFrame s s' := by
  refine ⟨h.size, fun m => ?_, ?_, h.pc⟩
  · have := h.node m
    simp only [nodeKey, Prod.mk.injEq] at this
    simp only [nodeKeyP, Prod.mk.injEq]
    exact ⟨this.1, this.2.1, this.2.2.1, this.2.2.2.1, this.2.2.2.2.1, this.2.2.2.2.2.1,
      this.2.2.2.2.2.2.1, this.2.2.2.2.2.2.2.2.1, this.2.2.2.2.2.2.2.2.2⟩
  · have := h.key
    simp only [stateKey, Prod.mk.injEq] at this
    simp only [stateKeyP, Prod.mk.injEq]
    exact ⟨this.1, this.2.2.1, this.2.2.2.1, this.2.2.2.2.1, this.2.2.2.2.2.1, this.2.2.2.2.2.2.1, this.2.2.2.2.2.2.2.1, this.2.2.2.2.2.2.2.2.2.2.2.1, this.2.2.2.2.2.2.2.2.2.2.2.2.1, this.2.2.2.2.2.2.2.2.2.2.2.2.2.1, this.2.2.2.2.2.2.2.2.2.2.2.2.2.2.1, this.2.2.2.2.2.2.2.2.2.2.2.2.2.2.2.1, this.2.2.2.2.2.2.2.2.2.2.2.2.2.2.2.2.1, this.2.2.2.2.2.2.2.2.2.2.2.2.2.2.2.2.2.1, this.2.2.2.2.2.2.2.2.2.2.2.2.2.2.2.2.2.2⟩

end IncrVerif.Proofs.CutH
