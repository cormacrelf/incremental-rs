import IncrVerif.Proofs.TidyH4
import IncrVerif.Proofs.TidyH5
/-!
# C17 as a statement about the whole event log of one `stabilise` (fragment static + `map_with_old`)
-/
namespace IncrVerif.Proofs.TidyH
open IncrVerif IncrVerif.Engine IncrVerif.Driver IncrVerif.Proofs IncrVerif.Proofs.Step IncrVerif.Proofs.Sched IncrVerif.Proofs.Quiet
open IncrVerif.Proofs.MapOldH

theorem NoCalls.of_mute {n : Nat} {l : List Event} (h : ∀ e, e ∈ l → Mute e) : NoCalls n l := by
  intro e he
  have := h e he
  cases e with
  | inv w m a r => exact Or.inl this
  | cut => exact Or.inl trivial
  | notif => exact this.elim
  | note => exact Or.inr (fun h => h)

/-- what one `stabilise` does with the operator node `n` (closure `g`, input node `i`) and what it logs about it;
`new` is the part of the log written by this `stabilise` (most recent first) -/
inductive StabCalls (d : Defs) (n g i : Nat) (s s' : State) (new : List Event) : Prop
  /-- the operator did not run: stamp, closure state and stored output are unchanged, no user-function call of `n` -/
  | idle : (s'.nodeD n).recomputedAt = (s.nodeD n).recomputedAt → (s'.nodeD n).oldState = (s.nodeD n).oldState →
      (s'.nodeD n).value = (s.nodeD n).value → NoCalls n new → StabCalls d n g i s s' new
  /-- the operator ran, once: the calls are exactly `opCalls` of (closure state = the input it last ran on, stored
  output) before the `stabilise` and the value `x` its input node has after it -/
  | ran (x : Val) (A B : List Event) : (s'.nodeD n).recomputedAt = s.stabNum → (s'.nodeD i).value = some x → Canon x →
      new = A ++ callEvents n (opCalls d g (s.nodeD n).oldState (s.nodeD n).value x) ++ B →
      NoCalls n A → NoCalls n B → StabCalls d n g i s s' new

/-- **T2c: C17 for the whole log of one `stabilise`.** -/
theorem stabilise_calls {d : Defs} {n g i fuel : Nat} {s s' : State} (hg : opBase ≤ g)
    (Q : QInvW d.toEnv Canon (machSpec d) s) (hk : (s.nodeD n).kind = .mapWithOld g i)
    (h : (stabilise d.toEnv fuel).run.run s = (.ok (), s')) :
    ∃ new, s'.log = new ++ s.log ∧ (s.nodeD n).recomputedAt < s.stabNum ∧ StabCalls d n g i s s' new := by
  have V := valOK_toEnv d
  obtain ⟨t1, t2, t3, -, h1, h2, h3, h4⟩ := stabilise_phases.1 h
  obtain ⟨D2, W2, hst, hsd, hdv, hobs, hrec⟩ := prefix_drainInvW Q h1 h2
  obtain ⟨E, a1, a2, a3⟩ := end_finishedW V D2 hsd hdv hobs h3 h4
  have hlogE := stabiliseEnd_log a1 a2 a3 h4
  -- the prefix logs mute events only
  obtain ⟨n1, e1, m1⟩ := (addNewObservers_logN d.toEnv fuel).h _ _ _ h1
  obtain ⟨n2, e2, m2⟩ := (unlinkDisallowedObservers_logN fuel).h _ _ _ h2
  have e12 : t2.log = (n2 ++ n1) ++ s.log := by
    rw [e2, e1, List.append_assoc]
  have nc12 : NoCalls n (n2 ++ n1) := (NoCalls.of_mute m2).append (NoCalls.of_mute m1)
  have hk2 : (t2.nodeD n).kind = .mapWithOld g i := by rw [wKey_kind (W2.node n)]; exact hk
  have hold2 : (t2.nodeD n).oldState = (s.nodeD n).oldState := wKey_oldState (W2.node n)
  have hval2 : (t2.nodeD n).value = (s.nodeD n).value := wKey_value (W2.node n)
  have hrec_s : (s.nodeD n).recomputedAt < s.stabNum := (hrec n).2
  obtain ⟨-, hc⟩ := drain_log hg D2 hk2 (by rw [(hrec n).1, hst]; exact hrec_s) h3
  have hEn : ∀ m, ∃ b, s'.nodeD m = { t3.nodeD m with inHandleAfterStab := b } := E.node
  have f_rec : ∀ m, (s'.nodeD m).recomputedAt = (t3.nodeD m).recomputedAt := fun m => by
    obtain ⟨b, hb⟩ := hEn m; rw [hb]
  have f_old : ∀ m, (s'.nodeD m).oldState = (t3.nodeD m).oldState := fun m => by
    obtain ⟨b, hb⟩ := hEn m; rw [hb]
  have f_val : ∀ m, (s'.nodeD m).value = (t3.nodeD m).value := fun m => by
    obtain ⟨b, hb⟩ := hEn m; rw [hb]
  rcases hc with u | r
  · obtain ⟨A, eA, nA⟩ := u.log
    refine ⟨A ++ (n2 ++ n1), by rw [hlogE, eA, e12]; simp only [List.append_assoc], hrec_s, ?_⟩
    refine StabCalls.idle ?_ ?_ ?_ (nA.append nc12)
    · rw [f_rec, u.stamp]; exact (hrec n).1
    · rw [f_old, u.oldState, hold2]
    · rw [f_val, u.value, hval2]
  · obtain ⟨x, A, B, hx, hC, eL, nA, nB⟩ := r.log
    refine ⟨A ++ callEvents n (opCalls d g (s.nodeD n).oldState (s.nodeD n).value x) ++ (B ++ (n2 ++ n1)), ?_, hrec_s, ?_⟩
    · rw [hlogE, eL, e12, hold2, hval2]
      simp only [List.append_assoc]
    · refine StabCalls.ran x A (B ++ (n2 ++ n1)) ?_ ?_ hC rfl nA (nB.append nc12)
      · rw [f_rec, r.after, hst]
      · rw [f_val]; exact hx

end IncrVerif.Proofs.TidyH
