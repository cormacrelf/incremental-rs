import IncrVerif.Proofs.CutH8
-- static programs with ARBITRARY cutoffs; `Proofs/Quiet3.lean` (default cutoffs) takes its lemmas from this file; overview in Props/C06History.lean
/-!
# General helpers about `NodeUpd`
-/
namespace IncrVerif.Proofs.CutH
open IncrVerif.Engine IncrVerif.Proofs IncrVerif.Proofs.Step IncrVerif.Proofs.Sched

/-- `f` changes at most `parents`, `observers`, `height` (among the fields the invariant reads) -/
structure KeepsG (f : Node → Node) : Prop where
  valid : ∀ x, (f x).valid = x.valid
  kind : ∀ x, (f x).kind = x.kind
  cutoff : ∀ x, (f x).cutoff = x.cutoff
  createdIn : ∀ x, (f x).createdIn = x.createdIn
  forceNecessary : ∀ x, (f x).forceNecessary = x.forceNecessary
  heightInRch : ∀ x, (f x).heightInRch = x.heightInRch
  recomputedAt : ∀ x, (f x).recomputedAt = x.recomputedAt
  changedAt : ∀ x, (f x).changedAt = x.changedAt

theorem keeps_fParents (l : List (Nat × Nat)) : KeepsG (fParents l) :=
  ⟨fun _ => rfl, fun _ => rfl, fun _ => rfl, fun _ => rfl, fun _ => rfl, fun _ => rfl, fun _ => rfl, fun _ => rfl⟩
theorem keeps_fHeight (h : Int) : KeepsG (fHeight h) :=
  ⟨fun _ => rfl, fun _ => rfl, fun _ => rfl, fun _ => rfl, fun _ => rfl, fun _ => rfl, fun _ => rfl, fun _ => rfl⟩
theorem keeps_fObservers (l : List Nat) : KeepsG (fObservers l) :=
  ⟨fun _ => rfl, fun _ => rfl, fun _ => rfl, fun _ => rfl, fun _ => rfl, fun _ => rfl, fun _ => rfl, fun _ => rfl⟩

namespace NodeUpd
variable {env : Env} {s s' : State} {n : Nat} {f : Node → Node}

/-! ### nodes other than `n` -/

theorem parents_other (U : NodeUpd n f s s') {m : Nat} (h : m ≠ n) :
    (s'.nodeD m).parents = (s.nodeD m).parents := (U.other m h).parents
theorem observers_other (U : NodeUpd n f s s') {m : Nat} (h : m ≠ n) :
    (s'.nodeD m).observers = (s.nodeD m).observers := (U.other m h).observers
theorem height_other (U : NodeUpd n f s s') {m : Nat} (h : m ≠ n) :
    (s'.nodeD m).height = (s.nodeD m).height := (U.other m h).height
theorem nec_other (U : NodeUpd n f s s') {m : Nat} (h : m ≠ n) :
    s'.isNecessary m = s.isNecessary m := by
  simp only [State.isNecessary, Node.isNecessary, (U.other m h).parents, (U.other m h).observers,
    (U.other m h).forceNecessary]

/-! ### node `n` -/

theorem parents_self (U : NodeUpd n f s s') : (s'.nodeD n).parents = (f (s.nodeD n)).parents := U.self.parents
theorem observers_self (U : NodeUpd n f s s') : (s'.nodeD n).observers = (f (s.nodeD n)).observers :=
  U.self.observers
theorem height_self (U : NodeUpd n f s s') : (s'.nodeD n).height = (f (s.nodeD n)).height := U.self.height

/-! ### all nodes, when `f` keeps the field -/

theorem valid (U : NodeUpd n f s s') (K : KeepsG f) (m : Nat) : (s'.nodeD m).valid = (s.nodeD m).valid := by
  by_cases h : m = n
  · rw [h]; exact U.self.valid.trans (K.valid _)
  · exact (U.other m h).valid
theorem kind (U : NodeUpd n f s s') (K : KeepsG f) (m : Nat) : (s'.nodeD m).kind = (s.nodeD m).kind := by
  by_cases h : m = n
  · rw [h]; exact U.self.kind.trans (K.kind _)
  · exact (U.other m h).kind
theorem cutoff (U : NodeUpd n f s s') (K : KeepsG f) (m : Nat) : (s'.nodeD m).cutoff = (s.nodeD m).cutoff := by
  by_cases h : m = n
  · rw [h]; exact U.self.cutoff.trans (K.cutoff _)
  · exact (U.other m h).cutoff
theorem createdIn (U : NodeUpd n f s s') (K : KeepsG f) (m : Nat) :
    (s'.nodeD m).createdIn = (s.nodeD m).createdIn := by
  by_cases h : m = n
  · rw [h]; exact U.self.createdIn.trans (K.createdIn _)
  · exact (U.other m h).createdIn
theorem forceNecessary (U : NodeUpd n f s s') (K : KeepsG f) (m : Nat) :
    (s'.nodeD m).forceNecessary = (s.nodeD m).forceNecessary := by
  by_cases h : m = n
  · rw [h]; exact U.self.forceNecessary.trans (K.forceNecessary _)
  · exact (U.other m h).forceNecessary
theorem heightInRch (U : NodeUpd n f s s') (K : KeepsG f) (m : Nat) :
    (s'.nodeD m).heightInRch = (s.nodeD m).heightInRch := by
  by_cases h : m = n
  · rw [h]; exact U.self.heightInRch.trans (K.heightInRch _)
  · exact (U.other m h).heightInRch
theorem recomputedAt (U : NodeUpd n f s s') (K : KeepsG f) (m : Nat) :
    (s'.nodeD m).recomputedAt = (s.nodeD m).recomputedAt := by
  by_cases h : m = n
  · rw [h]; exact U.self.recomputedAt.trans (K.recomputedAt _)
  · exact (U.other m h).recomputedAt
theorem changedAt (U : NodeUpd n f s s') (K : KeepsG f) (m : Nat) :
    (s'.nodeD m).changedAt = (s.nodeD m).changedAt := by
  by_cases h : m = n
  · rw [h]; exact U.self.changedAt.trans (K.changedAt _)
  · exact (U.other m h).changedAt

theorem inRch (U : NodeUpd n f s s') (K : KeepsG f) (m : Nat) : (s'.nodeD m).inRch = (s.nodeD m).inRch := by
  simp only [Node.inRch, U.heightInRch K m]

theorem staleOf (U : NodeUpd n f s s') (K : KeepsG f) (m : Nat) : staleOf s' m = staleOf s m :=
  staleOf_congr (U.kind K m) (U.recomputedAt K m) U.vars (fun c _ => U.changedAt K c)

theorem static (U : NodeUpd n f s s') (K : KeepsG f) (h : AllStatic env s) : AllStatic env s' := by
  refine ⟨by rw [U.pc]; exact h.pc, by rw [U.scope]; exact h.scope, fun m hm => ?_⟩
  have sn := h.node m (by rw [← U.size]; exact hm)
  exact ⟨by rw [U.valid K]; exact sn.valid, by rw [U.kind K]; exact sn.kind,
    by rw [U.createdIn K]; exact sn.top, by rw [U.forceNecessary K]; exact sn.force,
    by rw [U.kind K]; exact sn.kidsLt⟩

theorem heap (U : NodeUpd n f s s') (K : KeepsG f) (h : HeapG s) : HeapG s' :=
  h.congr U.rch U.size (U.heightInRch K)

/-- necessity of `n` itself, when only `parents`/`observers` matter -/
theorem nec_self_iff (U : NodeUpd n f s s') (K : KeepsG f) :
    s'.isNecessary n = true ↔
      ((f (s.nodeD n)).parents ≠ [] ∨ (f (s.nodeD n)).observers ≠ [] ∨ (s.nodeD n).forceNecessary = true) := by
  rw [isNecessary_iff, U.parents_self, U.observers_self, U.forceNecessary K]

end NodeUpd

/-! ## unnecessary nodes -/

theorem observers_nil_of_not_nec {s : State} {c : Nat} (hc : s.isNecessary c = false) :
    (s.nodeD c).observers = [] :=
  Step.observers_nil_of_not_nec hc

/-- an unnecessary closed node is not queued -/
theorem GInv.not_queued_of_not_nec {env : Env} {s : State} {op : Nat → Op} (I : GInv env s op) {c : Nat}
    (hc : s.isNecessary c = false) (hcl : op c = .closed) : (s.nodeD c).inRch = false := by
  cases h : (s.nodeD c).inRch
  · rfl
  · rcases I.qnec c h with h1 | ⟨k, h1⟩
    · rw [hc] at h1; cases h1
    · rw [hcl] at h1; cases h1

/-! ## labelling helpers -/

theorem upd_closed_inv {op : Nat → Op} {p m : Nat} {x : Op} (hx : x ≠ .closed)
    (h : upd op p x m = .closed) : m ≠ p ∧ op m = .closed := by
  by_cases e : m = p
  · rw [e, upd_self] at h; exact absurd h hx
  · rw [upd_other _ _ _ e] at h; exact ⟨e, h⟩

theorem Op.linking_ne_closed (k : Nat) : Op.linking k ≠ .closed := by intro h; cases h
theorem Op.unlinking_ne_closed (k : Nat) : Op.unlinking k ≠ .closed := by intro h; cases h

end IncrVerif.Proofs.CutH
