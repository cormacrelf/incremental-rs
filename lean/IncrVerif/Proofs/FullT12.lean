import IncrVerif.Proofs.FullT7
/-!
# C04 combined fragment: bisimulation of the functions that may INVALIDATE (twin of FullH11; the ghost may be erased: `BSimX`)
(`invalidateNode`, `propagateInvalidity`, `becameNecessaryPropagate`, `stateAddParent`, `changeChildBindRhs`)
-/
namespace IncrVerif.Proofs.FullT
set_option linter.unusedSectionVars false
open IncrVerif.Engine IncrVerif.Proofs IncrVerif.Proofs.Step IncrVerif.Proofs.Sched IncrVerif.Proofs.Quiet IncrVerif.Proofs.FullH

/-- … kept also by node updates that leave the kind and the parent list alone (validity, stored value, `forceNecessary` may change): what invalidation needs -/
class KeepsI (P : State → Prop) : Prop extends KeepsG P where
  modifyKP : ∀ {s : State} (n : Nat) (f : Node → Node), P s → (∀ nd, (f nd).kind = nd.kind ∧ (f nd).parents = nd.parents) →
    P { s with nodes := s.nodes.modify n f }

instance : KeepsI (fun _ => True) where
  modifyKP := fun _ _ _ _ => trivial

instance : KeepsI PInv where
  modifyKP := fun {s} n f h hk => h.of_nodeD (by simp)
    (fun m => by rw [nodeD_modify]; split; exact (hk _).1; rfl)
    (fun m x hx => by
      rw [nodeD_modify] at hx; split at hx
      · rw [(hk _).2] at hx; exact hx
      · exact hx)

/-- registered `BSimX` lemmas -/
syntax "bsimx_leaf" : tactic
macro_rules | `(tactic| bsimx_leaf) => `(tactic| fail "no leaf")

set_option hygiene false in
macro "bsimx_step" : tactic => `(tactic| first
  | with_reducible exact BSimXAt.ret _
  | with_reducible exact BSimXAt.thr _ _
  | with_reducible exact BSimXAt.pan _ _
  | ((with_reducible refine BSimXAt.get_seq ?_); try fnorm)
  | ((with_reducible refine BSimXAt.getNode_seq fun nd hnd hne => ?_); try fnorm)
  | ((with_reducible refine BSimXAt.mod_seq ?_ ?_ (by rfl) ?_) <;> (first | exact rfl | skip))
  | ((with_reducible refine BSimAt.toX (BSimAt.mod ?_ ?_ ?_)) <;> rfl)
  | ((with_reducible refine BSimXAt.modG_seq ?_ ?_ ?_) <;> (first | exact rfl | skip))
  | ((with_reducible refine BSimAt.toX (BSimAt.modG ?_ ?_)) <;> rfl)
  | ((with_reducible refine BSimAt.toX (BSim.at ?_ _)); bsim_leaf)
  | (with_reducible refine BSimXAt.seq ?_ fun _ _ _ _ => ?_)
  | ((with_reducible refine BSimX.at ?_ _ _); bsimx_leaf)
  | ((with_reducible refine BSimX.at (BSimX.forIn _ (fun _ _ _ => ?_) _) _ _); intro _ _)
  | (refine BSimXAt.cond Iff.rfl (fun _ => ?_) (fun _ => ?_)))

macro "bsimx" : tactic => `(tactic| repeat' bsimx_step)

set_option hygiene false in
/-- a `match` on the kind of the node last read by `getNode` -/
macro "bsimx_kind" : tactic => `(tactic| (
  simp only [virtNode_kind?]
  rcases hk : nd.kind? with _ | k
  all_goals try cases k
  all_goals simp only [Option.map_none, Option.map_some, virtKind]
  all_goals try exact absurd (kind_of_kind? hk) (hne _)
  bsimx))

/-- closes `∀ nd, (f nd).kind = nd.kind ∧ (f nd).parents = nd.parents` -/
macro "fkp" : tactic => `(tactic| (intro nd; exact ⟨rfl, rfl⟩))

section
variable {K : Kind → Prop} {P : State → Prop} [KeepsI P] {g : Nat → Option Val} {sp : Nat → Val → Val}

/-- a commuting node update that touches neither kinds nor parent lists (but maybe validity, the stored value, `forceNecessary`) -/
theorem BSim.modNodeI (n : Nat) {f f' : Node → Node} (hf : ∀ gv nd, virtNode gv (f nd) = f' (virtNode gv nd))
    (hk : ∀ nd, (f nd).kind = nd.kind ∧ (f nd).cutoff = nd.cutoff ∧ (f nd).oldState = nd.oldState ∧
      (nd.valid = false → (f nd).valid = false) ∧ ((f nd).didChange = false → nd.didChange = false))
    (hp : ∀ nd, (f nd).kind = nd.kind ∧ (f nd).parents = nd.parents) :
    BSim K P g (Engine.modNode n f) (Engine.modNode n f') :=
  fun _ => BSimAt.modNode' n hf hk fun h => KeepsI.modifyKP n f h hp
macro_rules | `(tactic| bsim_leaf) => `(tactic| ((with_reducible refine BSim.modNodeI _ ?_ ?_ ?_) <;> first | fcomm | fkind | fkp))

/-- the ghost entry of `n` is erased by an update of `n` (`virt_erase`); the continuation must end with `n` invalid -/
theorem BSimXAt.erase_seq {β : Type} {s : State} {n : Nat} {f f' : Node → Node} {k k' : Unit → M β}
    (hf : ∀ gv nd, virtNode none (f nd) = f' (virtNode gv nd))
    (hk : ∀ nd, (f nd).kind = nd.kind ∧ (f nd).cutoff = nd.cutoff ∧ (f nd).oldState = nd.oldState ∧
      (nd.valid = false → (f nd).valid = false) ∧ ((f nd).didChange = false → nd.didChange = false))
    (hp : ∀ nd, (f nd).kind = nd.kind ∧ (f nd).parents = nd.parents)
    (hinv : ∀ r s', (k ()).run.run { s with nodes := s.nodes.modify n f } = (.ok r, s') → (s'.nodeD n).valid = false)
    (h : BSimXAt K P (eraseG g n) { s with nodes := s.nodes.modify n f } (k ()) (k' ())) :
    BSimXAt K P g s (Engine.modNode n f >>= k) (Engine.modNode n f' >>= k') := by
  have hE := virt_erase g s n f f' hf
  have frB : Fr K g s → Fr K (eraseG g n) { s with nodes := s.nodes.modify n f } := fun hfr =>
    fr_modify (hfr.eraseG n) n f (fun nd => ⟨(hk nd).1, (hk nd).2.1⟩)
  refine ⟨fun hfr r s' hr => ?_, fun hfr hp0 => ⟨fun r s' hr => ?_, fun r t hr => ?_⟩⟩
  · rw [run_bind_modNode] at hr ⊢
    rw [← hE]
    obtain ⟨g2, e2, fr2, gr2⟩ := h.1 (frB hfr) r s' hr
    exact ⟨g2, e2, fr2, GR.of_erase (vm_modify s n f hk) gr2 (hinv r s' hr)⟩
  · rw [run_bind_modNode] at hr
    obtain ⟨_, -, -, -, p⟩ := h.fwd (frB hfr) (KeepsI.modifyKP n f hp0 hp) hr
    exact p
  · rw [run_bind_modNode, ← hE] at hr
    obtain ⟨s', -, hs', -⟩ := h.rev (frB hfr) (KeepsI.modifyKP n f hp0 hp) hr
    exact ⟨s', by rw [run_bind_modNode]; exact hs'⟩

theorem BSim.invTail (n : Nat) : BSim K P g (FullH.invTail n) (FullH.invTail n) := by
  intro s; unfold FullH.invTail; bsim

theorem BSimX.invCT (fuel : Nat) (ih : ∀ n, BSimX K P (Engine.invalidateNode fuel n) (Engine.invalidateNode fuel n))
    (k : Kind) (n : Nat) : BSimX K P (FullH.invCT fuel k n) (FullH.invCT fuel (virtKind k) n) := by
  intro g s
  cases k <;> simp only [virtKind, FullH.invCT]
  case bindMain b lc =>
    bsimx
    · exact ih _ _ _
    · exact (BSim.invTail n _).toX
  all_goals exact (BSim.invTail n _).toX

theorem BSimX.invalidateNode (fuel n : Nat) : BSimX K P (Engine.invalidateNode fuel n) (Engine.invalidateNode fuel n) := by
  induction fuel generalizing n with
  | zero => intro g s; unfold Engine.invalidateNode; exact BSimXAt.thr _ _
  | succ fuel ih =>
    intro g s
    rw [invalidateNode_succ]
    refine BSimXAt.getNode_seq fun nd hnd hne => ?_
    simp only [virtNode_valid, virtNode_createdIn, virtNode_kind]
    refine BSimXAt.cond Iff.rfl (fun _ => BSimXAt.ret _) (fun hval => ?_)
    refine BSimXAt.seqA (BSim.maybeHandleAfterStabilisation n s) fun _ sA hA _ => ?_
    refine BSimXAt.get_seq ?_
    rw [virt_stabNum]
    refine BSimXAt.erase_seq (by fcomm) (by fkind) (by fkp) (fun r s' hr => ?_) ?_
    · have hfull : (Engine.invalidateNode (fuel + 1) n).run.run s = (.ok r, s') := by
        rw [invalidateNode_succ, run_bind_ok (run_getNode_some hnd), if_neg hval, run_bind_ok hA, run_bind_get, run_bind_modNode]
        exact hr
      exact (Inval.invalidateNode_ok hfull).2.1
    · bsimx
      all_goals exact BSimX.invCT fuel ih _ _ _ _
macro_rules | `(tactic| bsimx_leaf) => `(tactic| with_reducible exact BSimX.invalidateNode _ _)

theorem BSimX.propagateInvalidity (fuel : Nat) :
    BSimX K P (Engine.propagateInvalidity fuel) (Engine.propagateInvalidity fuel) := by
  induction fuel with
  | zero => intro g s; unfold Engine.propagateInvalidity; exact BSimXAt.thr _ _
  | succ fuel ih =>
    intro g s
    unfold Engine.propagateInvalidity
    refine BSimXAt.get_seq ?_
    fnorm
    split
    · exact BSimXAt.ret _
    · rename_i n rest hpi
      bsimx
      all_goals first
        | exact ih _ _
        | (simp only [virtNode_kind?]
           rcases hk : (({ s with propagateInvalidity := rest } : State).nodeD n).kind? with _ | k
           all_goals try cases k
           all_goals simp only [Option.map_none, Option.map_some, virtKind]
           all_goals bsimx
           all_goals exact ih _ _)
macro_rules | `(tactic| bsimx_leaf) => `(tactic| with_reducible exact BSimX.propagateInvalidity _)

end

/-! ## the functions that link (contracts `BnC`, `ApC` of the linking cascade): carried invariant `PInv` -/

section
variable {K : Kind → Prop} {g : Nat → Option Val} {env : Env} {sp : Nat → Val → Val}

theorem BSimXAt.becameNecessaryPropagate (B : BnC K env sp) (fuel n : Nat) {s : State} (hfuel : 3 * s.nodes.size + 2 ≤ fuel) :
    BSimXAt K PInv g s (Engine.becameNecessaryPropagate env fuel n) (Engine.becameNecessaryPropagate (virtEnv env sp) fuel n) := by
  unfold Engine.becameNecessaryPropagate
  refine BSimXAt.seqA (B g fuel n s hfuel) fun _ s1 _ _ => ?_
  exact BSimX.propagateInvalidity fuel g s1

/-- `state_add_parent`: the new edge must be sane (`ApC`): `parent` exists, and if it is a `map_ref` node then `child` is its input -/
theorem BSimXAt.stateAddParent (L : ApC K env sp) (fuel child index parent : Nat) {s : State}
    (hfuel : 3 * s.nodes.size + 2 ≤ fuel) (hp : parent < s.nodes.size)
    (hmr : ∀ pr j, (s.nodeD parent).kind = .mapRef pr j → j = child) :
    BSimXAt K PInv g s (Engine.stateAddParent env fuel child index parent)
      (Engine.stateAddParent (virtEnv env sp) fuel child index parent) := by
  unfold Engine.stateAddParent
  refine BSimXAt.get_seq ?_
  fnorm
  refine BSimXAt.seqA (BSim.dassert _ _ s) fun _ s1 h1 _ => ?_
  obtain rfl := dassert_ok_inv h1
  refine BSimXAt.seqA (L g fuel child index parent s1 hfuel hp hmr) fun _ s2 _ _ => ?_
  bsimx

/-- `change_child_bind_rhs`: `main` is a `bindMain` node (else nothing happens), so the new edge is sane -/
theorem BSimXAt.changeChildBindRhs (L : ApC K env sp) (fuel main : Nat) (old : Option Nat) (new index : Nat) {s : State}
    (hfuel : 3 * s.nodes.size + 2 ≤ fuel) :
    BSimXAt K PInv g s (Engine.changeChildBindRhs env fuel main old new index)
      (Engine.changeChildBindRhs (virtEnv env sp) fuel main old new index) := by
  unfold Engine.changeChildBindRhs
  refine BSimXAt.getNode_seq fun nd hnd hne => ?_
  have hlt := lt_of_some hnd
  have hD := nodeD_of_some hnd
  simp only [virtNode_kind?]
  rcases hk : nd.kind? with _ | k
  all_goals try cases k
  all_goals simp only [Option.map_none, Option.map_some, virtKind]
  all_goals try exact BSimXAt.ret _
  case some.bindMain b lc =>
    have hkind : (s.nodeD main).kind = .bindMain b lc := by rw [hD]; exact kind_of_kind? hk
    cases old with
    | none =>
      exact BSimXAt.stateAddParent L fuel new index main hfuel hlt (fun pr j e => by rw [hkind] at e; cases e)
    | some o =>
      dsimp only
      refine BSimXAt.cond Iff.rfl (fun _ => BSimXAt.ret _) (fun _ => ?_)
      refine BSimXAt.seqA (BSim.removeParent o index main s) fun _ s1 h1 v1 => ?_
      obtain ⟨nd1, pi, -, -, rfl⟩ := removeParent_ok_inv h1
      refine BSimXAt.seqA (BSim.at (by bsim_leaf) _) fun _ s2 h2 v2 => ?_
      rw [run_modNode] at h2; cases h2
      have v := v1.trans v2
      refine BSimXAt.seq (BSimXAt.stateAddParent L fuel new index main (by simpa using hfuel) (by simpa using hlt)
        (fun pr j e => by rw [(v.kind main hlt).1, hkind] at e; cases e)) fun _ s3 g3 _ => ?_
      bsimx

end
end IncrVerif.Proofs.FullT
