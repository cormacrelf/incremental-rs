import IncrVerif.Proofs.FullT7
import IncrVerif.Proofs.FullT12
import IncrVerif.Proofs.ExpertH34
/-!
# C04 combined fragment: bisimulation of the observer and variable operations and of the two phases of `stabilise` before the drain
(twin of `Proofs/FullH37`)
-/
namespace IncrVerif.Proofs.FullT
set_option linter.unusedSectionVars false
open IncrVerif.Engine IncrVerif.Proofs IncrVerif.Proofs.Step IncrVerif.Proofs.Sched IncrVerif.Proofs.Quiet IncrVerif.Proofs.FullH

section
variable {K : Kind → Prop} {P : State → Prop} [Keeps P] {g : Nat → Option Val} {sp : Nat → Val → Val}

theorem BSim.getObs (o : Nat) : BSim K P g (Engine.getObs o) (Engine.getObs o) :=
  .of_comm (Sim.getObs o) fun s0 => NodeSim.Comm.getObs (blindT s0) o
macro_rules | `(tactic| bsim_leaf) => `(tactic| with_reducible exact BSim.getObs _)

theorem BSim.modObs (o : Nat) (f : ObsRec → ObsRec) : BSim K P g (Engine.modObs o f) (Engine.modObs o f) :=
  .of_comm (Sim.modObs o f) fun s0 => NodeSim.Comm.modObs (blindT s0) o f
macro_rules | `(tactic| bsim_leaf) => `(tactic| with_reducible exact BSim.modObs _ _)

theorem BSim.getVar (v : Nat) : BSim K P g (Engine.getVar v) (Engine.getVar v) :=
  .of_comm (Sim.getVar v) fun s0 => NodeSim.Comm.getVar (blindT s0) v
macro_rules | `(tactic| bsim_leaf) => `(tactic| with_reducible exact BSim.getVar _)

/-- (`BSim.bumpCounter` of L9 under another name: LP does not import L9) -/
theorem BSim.bumpCounterP (f : Counters → Counters) : BSim K P g (Engine.bumpCounter f) (Engine.bumpCounter f) :=
  .of_comm (Sim.bumpCounter f) fun s0 => NodeSim.Comm.bumpCounter (blindT s0) f
macro_rules | `(tactic| bsim_leaf) => `(tactic| with_reducible exact BSim.bumpCounterP _)

theorem BSim.disallowFutureUse (o : Nat) : BSim K P g (Engine.disallowFutureUse o) (Engine.disallowFutureUse o) :=
  .of_comm (Sim.disallowFutureUse o) fun s0 => NodeSim.Comm.disallowFutureUse (blindT s0) o
macro_rules | `(tactic| bsim_leaf) => `(tactic| with_reducible exact BSim.disallowFutureUse _)

theorem BSim.didSetVarWhileNotStabilising (v : Nat) :
    BSim K P g (Engine.didSetVarWhileNotStabilising v) (Engine.didSetVarWhileNotStabilising v) :=
  .of_comm (Sim.didSetVarWhileNotStabilising v) fun s0 => NodeSim.Comm.didSetVarWhileNotStabilising (blindT s0) v
macro_rules | `(tactic| bsim_leaf) => `(tactic| with_reducible exact BSim.didSetVarWhileNotStabilising _)

theorem BSim.writeVar (v : Nat) (f : Val → Val) (isSet : Bool) :
    BSim K P g (Engine.writeVar v f isSet) (Engine.writeVar v f isSet) :=
  .of_comm (Sim.writeVar v f isSet) fun s0 => NodeSim.Comm.writeVar (blindT s0) v f isSet
macro_rules | `(tactic| bsim_leaf) => `(tactic| with_reducible exact BSim.writeVar _ _ _)

end

/-! ## the node updates of the observer phases: kinds and parent lists are kept, necessity is not — carried invariant `PInv` -/

/-- `PInv` only reads kinds and parent lists -/
theorem PInv.modifyKP {s : State} (n : Nat) (f : Node → Node) (h : PInv s)
    (hk : ∀ nd, (f nd).kind = nd.kind ∧ (f nd).parents = nd.parents) : PInv { s with nodes := s.nodes.modify n f } :=
  h.of_nodeD (by simp)
    (fun m => by rw [nodeD_modify]; split; exact (hk _).1; rfl)
    (fun m x hx => by
      rw [nodeD_modify] at hx; split at hx
      · rw [(hk _).2] at hx; exact hx
      · exact hx)

section
variable {K : Kind → Prop} {g : Nat → Option Val} {sp : Nat → Val → Val}

/-- a commuting node update that touches neither kinds nor parent lists (but maybe the observer list, hence necessity) -/
theorem BSim.modNodeKP (n : Nat) {f f' : Node → Node} (hf : ∀ gv nd, virtNode gv (f nd) = f' (virtNode gv nd))
    (hk : ∀ nd, (f nd).kind = nd.kind ∧ (f nd).cutoff = nd.cutoff ∧ (f nd).oldState = nd.oldState ∧
      (nd.valid = false → (f nd).valid = false) ∧ ((f nd).didChange = false → nd.didChange = false))
    (hp : ∀ nd, (f nd).kind = nd.kind ∧ (f nd).parents = nd.parents) :
    BSim K PInv g (Engine.modNode n f) (Engine.modNode n f') :=
  fun _ => BSimAt.modNode' n hf hk fun h => PInv.modifyKP n f h hp
macro_rules | `(tactic| bsim_leaf) => `(tactic| ((with_reducible refine BSim.modNodeKP _ ?_ ?_ ?_) <;> first | fcomm | fkind | (intro nd; exact ⟨rfl, rfl⟩)))

theorem BSim.unlinkDisallowedObservers (fuel : Nat) :
    BSim K PInv g (Engine.unlinkDisallowedObservers fuel) (Engine.unlinkDisallowedObservers fuel) := by
  intro s; unfold Engine.unlinkDisallowedObservers; bsim
macro_rules | `(tactic| bsim_leaf) => `(tactic| with_reducible exact BSim.unlinkDisallowedObservers _)

end
/-! ## `add_new_observers`: the loop runs in changing states, but no node is created (`ExpertH.AhF`), so the fuel bound of `BnC` is carried through -/

section
variable {K : Kind → Prop} {P : State → Prop} {g : Nat → Option Val} {env : Env} {sp : Nat → Val → Val}

/-- sequencing that carries the fuel bound: the first program creates no node (`ExpertH.AhF`: same node count) -/
theorem BSimXAt.seqF {α β : Type} {s : State} {x x' : M α} {f f' : α → M β} {fuel : Nat} (hfu : 3 * s.nodes.size + 2 ≤ fuel)
    (hp : Step.Pres ExpertH.AhF x) (hx : BSimAt K P g s x x')
    (hf : ∀ a s1, 3 * s1.nodes.size + 2 ≤ fuel → BSimXAt K P g s1 (f a) (f' a)) :
    BSimXAt K P g s (x >>= f) (x' >>= f') :=
  BSimXAt.seqA hx fun a s1 h1 _ => hf a s1 (by rw [(hp.h _ _ _ h1).size]; exact hfu)

/-- loops whose body creates no node: the fuel bound is carried through -/
theorem BSimX.forInF {γ β : Type} (l : List γ) {f f' : γ → β → M (ForInStep β)} {fuel : Nat}
    (hp : ∀ a b, Step.Pres ExpertH.AhF (f a b))
    (h : ∀ a, a ∈ l → ∀ b g s, 3 * s.nodes.size + 2 ≤ fuel → BSimXAt K P g s (f a b) (f' a b)) (b : β) (g : Nat → Option Val)
    (s : State) (hfu : 3 * s.nodes.size + 2 ≤ fuel) : BSimXAt K P g s (ForIn.forIn l b f) (ForIn.forIn l b f') := by
  induction l generalizing b g s with
  | nil => rw [List.forIn_nil, List.forIn_nil]; exact BSimXAt.ret _
  | cons a l ih =>
    rw [List.forIn_cons, List.forIn_cons]
    refine BSimXAt.seq (h a (List.mem_cons_self ..) b g s hfu) fun r s1 g1 h1 => ?_
    have hfu1 : 3 * s1.nodes.size + 2 ≤ fuel := by rw [((hp a b).h _ _ _ h1).size]; exact hfu
    cases r with
    | done b' => exact BSimXAt.ret _
    | yield b' => exact ih (fun a ha => h a (List.mem_cons_of_mem _ ha)) b' g1 s1 hfu1

/-- the leaves of the loop body of `add_new_observers` for the frame `AhF` -/
local macro_rules
  | `(tactic| qleaf) =>
    `(tactic| with_reducible first
        | exact ExpertH.PresAh.modObs _ _ | exact Step.Pres.modify fun _ => ExpertH.AhF.of_nodes rfl rfl
        | exact ExpertH.PresAh.modNode _ _ fun _ => rfl | exact ExpertH.PresAh.handleAfterStabilisation _
        | exact ExpertH.PresAh.becameNecessaryPropagate _ _ _)

theorem BSimXAt.addNewObservers (B : BnC K env sp) (fuel : Nat) {s : State} (hfu : 3 * s.nodes.size + 2 ≤ fuel) :
    BSimXAt K PInv g s (Engine.addNewObservers env fuel) (Engine.addNewObservers (virtEnv env sp) fuel) := by
  unfold Engine.addNewObservers
  refine BSimXAt.get_seq ?_
  fnorm
  refine BSimXAt.mod_seq rfl rfl rfl ?_
  refine BSimXAt.seq (BSimX.forInF _ (fun a b => ?_) (fun o _ b g s hfu => ?_) _ _ _ hfu) fun _ _ _ _ => BSimXAt.ret _
  · qpres
  refine BSimXAt.seqF hfu (ExpertH.PresAh.getObs o) (BSim.getObs o s) fun ob s1 hfu1 => ?_
  split
  · bsimx
  · bsimx
  · bsimx
  · refine BSimXAt.seqF hfu1 (ExpertH.PresAh.modObs _ _) (BSim.modObs _ _ s1) fun _ s2 hfu2 => ?_
    refine BSimXAt.get_seq ?_
    refine BSimXAt.mod_seq rfl rfl rfl ?_
    refine BSimXAt.seqF (s := { s2 with allObservers := s2.allObservers ++ [o] }) hfu2 (ExpertH.PresAh.modNode _ _ fun _ => rfl)
      (BSim.at (by bsim_leaf) _) fun _ s3 hfu3 => ?_
    refine BSimXAt.seqF hfu3 (ExpertH.PresAh.handleAfterStabilisation _) (BSim.handleAfterStabilisation _ s3) fun _ s4 hfu4 => ?_
    refine BSimXAt.get_seq ?_
    fnorm
    refine BSimXAt.seqF hfu4 (Step.Pres.dassert _ _) (BSim.dassert _ _ s4) fun _ s5 hfu5 => ?_
    refine BSimXAt.cond Iff.rfl (fun _ => ?_) (fun _ => BSimXAt.ret _)
    refine BSimXAt.seq (BSimXAt.becameNecessaryPropagate B fuel _ hfu5) fun _ _ _ _ => BSimXAt.ret _

end
end IncrVerif.Proofs.FullT
