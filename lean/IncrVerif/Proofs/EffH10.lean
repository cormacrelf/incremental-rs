import IncrVerif.Proofs.EffH8
import IncrVerif.Proofs.EffH9
/-!
# Effects, part 10: whole histories of programs whose node functions have write effects (V2)
-/
namespace IncrVerif.Proofs.EffH
open IncrVerif.Engine IncrVerif.Driver IncrVerif.Proofs IncrVerif.Proofs.Step IncrVerif.Proofs.Sched
open IncrVerif.Proofs.Quiet

/-- the API actions of the fragment: the static actions (`Quiet.StaticAction`), except that the user functions of
`map` nodes may have effects (restricted by `WOnly env`) -/
def EAction (env : Env) (a : Action) : Prop := StaticAction (noEff env) a

theorem einv_init (env : Env) (N : Nat) (d : Bool) : EInv env (State.init N d) :=
  ⟨qinv_init (noEff env) N d, fun v c hc => by simp [State.init] at hc⟩

/-- **every action keeps the invariant** -/
theorem step_e {env : Env} (hw : WOnly env) {s s' : State} {a : Action} {tk : Array Nat}
    {r : String × Array Nat} (E : EInv env s) (ha : EAction env a)
    (h : (stepAction env a tk).run.run s = (.ok r, s')) : EInv env s' := by
  by_cases hs : a = .stabilise
  · subst hs
    obtain ⟨t2, t3, S, X⟩ := stabilise_eff hw E (step_stabilise h)
    exact X.inv
  · have hnd : ∀ e c cb, a ≠ .addDep e c cb := by
      intro e c cb heq; rw [heq] at ha; exact ha.elim
    rw [← stepAction_noEff env a tk hs hnd] at h
    exact ⟨step_q E.q ha h, step_cells ha hs E.q.status E.cells h⟩

theorem runActions_e {env : Env} (hw : WOnly env) {acts : List Action} {s s' : State} {tk tk' : Array Nat}
    (E : EInv env s) (ha : ∀ a, a ∈ acts → EAction env a)
    (h : runActions env acts s tk = .ok (s', tk')) : EInv env s' :=
  Hist.runActions_inv_all (fun _ _ _ _ _ E ha hx => step_e hw E ha hx) E ha h

/-- **V2: every state reached.** -/
theorem history_e {env : Env} (hw : WOnly env) {N : Nat} {d : Bool} {acts : List Action} {s : State}
    {tk : Array Nat} (ha : ∀ a, a ∈ acts → EAction env a)
    (h : runActions env acts (State.init N d) #[] = .ok (s, tk)) : EInv env s :=
  runActions_e hw (einv_init env N d) ha h

theorem history_prefix_e {env : Env} (hw : WOnly env) {N : Nat} {d : Bool} {as bs : List Action} {s : State}
    {tk : Array Nat} (ha : ∀ a, a ∈ as ++ bs → EAction env a)
    (h : runActions env (as ++ bs) (State.init N d) #[] = .ok (s, tk)) :
    ∃ s1 tk1, runActions env as (State.init N d) #[] = .ok (s1, tk1) ∧ EInv env s1 ∧
      runActions env bs s1 tk1 = .ok (s, tk) :=
  Hist.runActions_split_all (fun _ _ _ _ _ E ha hx => step_e hw E ha hx) (einv_init env N d) ha h

/-- **V2: at every `stabilise` of the history, V1 holds.** -/
theorem history_stabilise_e {env : Env} (hw : WOnly env) {N : Nat} {d : Bool} {as bs : List Action}
    {s : State} {tk : Array Nat} (ha : ∀ a, a ∈ as ++ Action.stabilise :: bs → EAction env a)
    (h : runActions env (as ++ Action.stabilise :: bs) (State.init N d) #[] = .ok (s, tk)) :
    ∃ s1 tk1 s2 t2 t3 S, runActions env as (State.init N d) #[] = .ok (s1, tk1) ∧ EInv env s1 ∧
      (stabilise env fuelDefault).run.run s1 = (.ok (), s2) ∧ EStab env fuelDefault s1 t2 t3 S s2 ∧
      runActions env bs s2 tk1 = .ok (s, tk) := by
  obtain ⟨s1, tk1, s2, h1, E1, hst, -, h2⟩ :=
    Hist.runActions_stabilise_all (fun _ _ _ _ _ E ha hx => step_e hw E ha hx) (einv_init env N d) ha h
  obtain ⟨t2, t3, S, X⟩ := stabilise_eff hw E1 hst
  exact ⟨s1, tk1, s2, t2, t3, S, h1, E1, hst, X, h2⟩

/-! ## the fixed point -/

/-- in a stable state every in-use observer reads the from-scratch value of its node on the current contents of the variables (update
handlers allowed) -/
theorem stable_readsQ {env : Env} {s : State} (Q : SubsH.QInv (noEff env) s) (hs : s.isStable = true) :
    ∀ (o : Nat) (ob : ObsRec), s.observers[o]? = some ob → ob.state = .inUse →
      ∀ k, (s.nodeD ob.node).height.toNat < k →
        ∃ v, s.tryGetValue env o = .ok v ∧ eval env s k ob.node = some v := by
  obtain ⟨hno, hall⟩ := (isStable_iffU Q).1 hs
  have hq := Q.quiet
  intro o ob ho hst k hk
  have hmem : o ∈ (s.nodeD ob.node).observers := (Q.obs.mem ob.node o).2 ⟨ob, ho, rfl, Or.inl hst⟩
  have hn : s.isNecessary ob.node = true := nec_of_mem_observers hmem
  have D := hq.toDrain
  have he : ({ s with status := .stabilising } : State).rch.length = 0 := by
    show s.rch.length = 0
    rw [heap_empty_iff hq.heap]
    intro m
    cases hq' : (s.nodeD m).inRch with
    | false => rfl
    | true =>
      obtain ⟨a, b⟩ := (hq.queued m).1 hq'
      rw [hall m a] at b; cases b
  obtain ⟨-, -, -, hv, hsome⟩ := drained_values D he ob.node hn k hk
  have e1 : eval (noEff env) ({ s with status := .stabilising } : State) k ob.node = eval env s k ob.node := by
    rw [eval_noEff]
    exact eval_congr (s := s) (s' := { s with status := .stabilising }) (fun _ => rfl) rfl k ob.node
  have hv' : s.value env ob.node = eval env s k ob.node := by
    rw [← e1, ← hv, value_noEff]
    exact (value_congr env s { s with status := .stabilising } rfl (fun _ => rfl) ob.node).symm
  have hsome' : (eval env s k ob.node).isSome = true := by rw [← e1]; exact hsome
  obtain ⟨v, hev⟩ := Option.isSome_iff_exists.1 hsome'
  exact ⟨v, tryGetValue_inUse Q.alive Q.status ho hst (hv'.trans hev), hev⟩

/-- **a stable state reads the current variables.** In a state satisfying the invariant with `isStable = true`, every
in-use observer reads the from-scratch value of its node ON THE CURRENT CONTENTS OF THE VARIABLES, and no observer is
waiting to be added. -/
theorem stable_reads {env : Env} {s : State} (E : EInv env s) (hs : s.isStable = true) :
    (∀ (o : Nat) (ob : ObsRec), s.observers[o]? = some ob → ob.state = .inUse →
      ∀ k, (s.nodeD ob.node).height.toNat < k →
        ∃ v, s.tryGetValue env o = .ok v ∧ eval env s k ob.node = some v) ∧
    (∀ (o : Nat) (ob : ObsRec), s.observers[o]? = some ob → ob.state ≠ .created) := by
  refine ⟨stable_readsQ (.of_quiet E.q) hs, fun o ob ho hc => ?_⟩
  have := E.q.obs.created o ob ho hc
  rw [((isStable_iff E.q).1 hs).1] at this; cases this

/-- **the fixed-point corollary (partial correctness).** Run any history of the fragment, then call `stabilise`
`k` times: if the state then has `isStable = true` (i.e. a loop `while !is_stable() { stabilise() }` stops there), every
in-use observer reads the from-scratch value of its node on the FINAL contents of the variables. -/
theorem loop_fixpoint {env : Env} (hw : WOnly env) {N : Nat} {d : Bool} {acts : List Action} {k : Nat}
    {s : State} {tk : Array Nat} (ha : ∀ a, a ∈ acts → EAction env a)
    (h : runActions env (acts ++ List.replicate k Action.stabilise) (State.init N d) #[] = .ok (s, tk))
    (hs : s.isStable = true) :
    ∀ (o : Nat) (ob : ObsRec), s.observers[o]? = some ob → ob.state = .inUse →
      ∀ j, (s.nodeD ob.node).height.toNat < j →
        ∃ v, s.tryGetValue env o = .ok v ∧ eval env s j ob.node = some v := by
  have E : EInv env s := by
    refine history_e hw ?_ h
    intro a hm
    rcases List.mem_append.1 hm with hm | hm
    · exact ha a hm
    · rw [(List.mem_replicate.1 hm).2]; trivial
  exact (stable_reads E hs).1

end IncrVerif.Proofs.EffH
