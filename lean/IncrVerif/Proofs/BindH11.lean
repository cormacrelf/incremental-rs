import IncrVerif.Proofs.BindH10
/-!
# Binds, BS3: one `recomputeOne` on a static-kind node or on a `bindMain` node, in a graph that contains bind
nodes, as a relation between pre- and post-state (`recomputeOne_stepB`, the counterpart of `Sched.recomputeOne_static`)
-/
namespace IncrVerif.Proofs.BindH
open IncrVerif.Engine IncrVerif.Proofs IncrVerif.Proofs.Step IncrVerif.Proofs.Sched
namespace BS

/-- a `bindMain` node whose bind has no right-hand side yet: `recompute_one` panics -/
theorem recomputeOne_bindMain_norhs (env : Env) (fuel n : Nat) (s : State) (nd : Node) (b lc : Nat)
    (br : BindRec)
    (hn : s.nodes[n]? = some nd) (hv : nd.valid = true) (hk : nd.kind = .bindMain b lc)
    (hb : s.binds[b]? = some br) (hr : br.rhs = none) :
    ∃ e t, (recomputeOne env fuel n).run.run s = (.error e, t) := by
  have hk? : ({ nd with recomputedAt := s.stabNum } : Node).kind? = some (.bindMain b lc) := by
    simp [Node.kind?, hv, hk]
  have hn' := started_getElem? n s nd hn
  unfold recomputeOne
  simp only [run_bind_get]
  cases hd : s.cfg.debug
  all_goals
    simp only [started, hd, Bool.false_eq_true, if_false, if_true, run_bind_modify,
      run_bind_bumpCounter, run_bind_get, run_bind_modNode] at hn' ⊢
    rw [run_bind_ok (run_getNode_some hn'), hk?]
    dsimp only
    simp only [getBind, bind_assoc, run_bind_get, hb, pure_bind, hr]
    exact ⟨_, _, rfl⟩

/-- the stored values of the children, from `hvals` -/
theorem vals_of_children {env : Env} {s : State} {n : Nat} (g : BGraph env s) (hlt : n < s.nodes.size)
    (hv : (s.nodeD n).valid = true) (hk : StaticKind env (s.nodeD n).kind)
    (hvals : ∀ c, c ∈ s.children n → ∃ v, (s.nodeD c).value = some v) :
    ∃ vals, plainVals s (kids (s.nodeD n).kind) = some vals ∧
      valuesOf env s (kids (s.nodeD n).kind) = some vals := by
  have hch := children_eq_kids s n hv hk
  rw [hch] at hvals
  obtain ⟨vals, hpv⟩ := evalArgs_isSome (fun a => (s.nodeD a).value) _ hvals
  refine ⟨vals, hpv, ?_⟩
  rw [valuesOf_eq_evalArgs, ← hpv]
  refine evalArgs_congr _ _ _ fun a ha => ?_
  obtain ⟨halt, hav⟩ := (g.node n hlt hv).2.2 a (by rw [hch]; exact ha)
  exact value_plain env s a (BKind.not_mapRef (g.node a halt hav).1)

end BS

/-- a successful `recomputeOne` on a necessary node of a static kind or of kind `bindMain`, in a graph with binds
at rest, whose children all have values: it stores the target value `v` of the node's defining expression and
is described by `StepRelB` -/
theorem recomputeOne_stepB {env : Env} {fuel n : Nat} {s s' : State} {r : Option Nat}
    (g : BGraph env s) (hi : HeapInv s) (hn : s.isNecessary n = true)
    (hk : StaticKind env (s.nodeD n).kind ∨ ∃ b lc, (s.nodeD n).kind = .bindMain b lc)
    (hvals : ∀ c, c ∈ s.children n → ∃ v, (s.nodeD c).value = some v)
    (h : (recomputeOne env fuel n).run.run s = (.ok r, s')) :
    ∃ v ch, TargetB env s n v ∧ StepRelB n v ch r s s' := by
  have hlt := nec_lt_size hn
  have hv := (g.nec n hn).1
  have hnn := some_of_lt hlt
  have hU := Upd.started n s g.pc
  have hb0 : (started n s).binds = s.binds := rfl
  have e1 : ((started n s).nodeD n).value = (s.nodeD n).value := by
    rw [started_nodeD]; split <;> rfl
  have e2 : ((started n s).nodeD n).recomputedAt = s.stabNum := by
    rw [started_nodeD, if_pos ⟨rfl, hlt⟩]
  have e3 : ((started n s).nodeD n).changedAt = (s.nodeD n).changedAt := by
    rw [started_nodeD]; split <;> rfl
  rcases hk with hk | ⟨b, lc, hkd⟩
  · -- static kinds
    obtain ⟨vals, hpv, hvo⟩ := BS.vals_of_children g hlt hv hk hvals
    cases hkd : (s.nodeD n).kind with
    | const w =>
      rw [recomputeOne_const_run env fuel n s _ w hnn hv hkd] at h
      obtain ⟨ch, hs⟩ := BS.mcv_stepB g hi hn hU hb0 e1 e2 e3 h
      exact ⟨w, ch, by simp only [TargetB, Target, hkd], hs⟩
    | var c =>
      obtain ⟨vc, hvc⟩ := g.var n c hlt hv hkd
      rw [recomputeOne_var_run env fuel n s _ c vc hnn hv hkd hvc] at h
      obtain ⟨ch, hs⟩ := BS.mcv_stepB g hi hn hU hb0 e1 e2 e3 h
      exact ⟨vc.value, ch, by simp only [TargetB, Target, hkd]; exact ⟨vc, hvc, rfl⟩, hs⟩
    | map f args =>
      rw [hkd] at hk hpv hvo
      have ht : TargetB env s n (env.fn f vals) := by
        simp only [TargetB, Target, hkd]; exact ⟨vals, hpv, rfl⟩
      by_cases hf : f < fnZip
      · rw [recomputeOne_map_run env fuel n s _ f args vals hnn hv hkd hf hvo (hk.2 hf vals) g.pc] at h
        obtain ⟨ch, hs⟩ := BS.mcv_stepB g hi hn (hU.logged _) hb0 e1 e2 e3 h
        exact ⟨_, ch, ht, hs⟩
      · rw [recomputeOne_mapBuiltin_run env fuel n s _ f args vals hnn hv hkd hf hk.1 hvo] at h
        obtain ⟨ch, hs⟩ := BS.mcv_stepB g hi hn hU hb0 e1 e2 e3 h
        exact ⟨_, ch, ht, hs⟩
    | fold f init cs =>
      rw [hkd] at hpv hvo
      have ht : TargetB env s n (vals.foldl (env.foldStep f) init) := by
        simp only [TargetB, Target, hkd]; exact ⟨vals, hpv, rfl⟩
      rw [recomputeOne_fold_run env fuel n s _ f init cs vals hnn hv hkd hvo g.pc] at h
      obtain ⟨ch, hs⟩ := BS.mcv_stepB g hi hn (hU.logged _) hb0 e1 e2 e3 h
      exact ⟨_, ch, ht, hs⟩
    | mapRef _ _ => rw [hkd] at hk; exact hk.elim
    | mapWithOld _ _ => rw [hkd] at hk; exact hk.elim
    | bindLhsChange _ => rw [hkd] at hk; exact hk.elim
    | bindMain _ _ => rw [hkd] at hk; exact hk.elim
    | expert _ => rw [hkd] at hk; exact hk.elim
  · -- bind main
    obtain ⟨br, hbr, -, -, -⟩ := g.mainRec n b lc hlt hv hkd
    cases hr : br.rhs with
    | none =>
      obtain ⟨e, t, he⟩ := BS.recomputeOne_bindMain_norhs env fuel n s _ b lc br hnn hv hkd hbr hr
      rw [he] at h; cases h
    | some r0 =>
      have hch : s.children n = [lc, r0] := by
        simp only [State.children, BS.kind?_of_valid hv, hkd, hbr, hr]
      have hmem : r0 ∈ s.children n := by rw [hch]; simp
      obtain ⟨hrlt, hrv⟩ := (g.node n hlt hv).2.2 r0 hmem
      obtain ⟨v, hval⟩ := hvals r0 hmem
      have hval' : s.value env r0 = some v := by
        rw [value_plain env s r0 (BS.BKind.not_mapRef (g.node r0 hrlt hrv).1)]; exact hval
      rw [recomputeOne_bindMain_run env fuel n s _ b lc r0 br _ v hnn hv hkd hbr hr (some_of_lt hrlt) hrv
        hval'] at h
      obtain ⟨ch, hs⟩ := BS.mcv_stepB g hi hn hU hb0 e1 e2 e3 h
      exact ⟨v, ch, by simp only [TargetB, hkd]; exact ⟨br, r0, hbr, hr, hval⟩, hs⟩

end IncrVerif.Proofs.BindH
