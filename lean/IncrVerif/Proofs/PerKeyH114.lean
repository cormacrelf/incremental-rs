import IncrVerif.Proofs.PerKeyH111
/-! # Per-key operators, non-vacuity examples (continued): family `P4` (see `PerKeyH111`) -/
namespace IncrVerif.Proofs.PerKeyH
open IncrVerif.Engine IncrVerif.Driver IncrVerif.Proofs IncrVerif.Proofs.ExpertH
open IncrVerif.Props.C14History IncrVerif.Proofs.ExpertH.QR

/-! ## `P4`: `F(k, v) = (1 + (1 + 3 v) mod 7) mod 7` (a chain of two maps per key) -/

set_option maxRecDepth 100000 in
/-- after each `stabilise` with an in-use observer (`o0`; after the re-observation `o1`): (the read, the input map, the outer variable) -/
theorem exP4_io :
    ioAfter exEnvP ((exHistP 4).take 6) 0 = some (.map [(1, 4), (5, 2)], some (.map [(1, 3), (5, 0)]), some (.int 2)) ∧
    ioAfter exEnvP ((exHistP 4).take 8) 0 = some (.map [(1, 4), (5, 2), (6, 1)], some (.map [(1, 3), (5, 0), (6, 2)]), some (.int 2)) ∧
    ioAfter exEnvP ((exHistP 4).take 10) 0 = some (.map [(1, 0), (5, 2), (6, 1)], some (.map [(1, 4), (5, 0), (6, 2)]), some (.int 2)) ∧
    ioAfter exEnvP ((exHistP 4).take 12) 0 = some (.map [(1, 0), (6, 1)], some (.map [(1, 4), (6, 2)]), some (.int 2)) ∧
    ioAfter exEnvP ((exHistP 4).take 14) 0 = some (.map [(1, 0), (6, 1)], some (.map [(1, 4), (6, 2)]), some (.int 4)) ∧
    ioAfter exEnvP ((exHistP 4).take 23) 1 = some (.map [(1, 3), (8, 4), (9, 2)], some (.map [(1, 5), (8, 3), (9, 0)]), some (.int 4)) ∧
    ioAfter exEnvP (exHistP 4) 1 = some (.map [(1, 6), (9, 2)], some (.map [(1, 6), (9, 0)]), some (.int 5)) :=
  ⟨by decide +kernel, by decide +kernel, by decide +kernel, by decide +kernel, by decide +kernel, by decide +kernel,
    by decide +kernel⟩

/-- the reads alone -/
theorem exP4_reads :
    readAfter exEnvP ((exHistP 4).take 6) 0 = some (.map [(1, 4), (5, 2)]) ∧
    readAfter exEnvP ((exHistP 4).take 8) 0 = some (.map [(1, 4), (5, 2), (6, 1)]) ∧
    readAfter exEnvP ((exHistP 4).take 10) 0 = some (.map [(1, 0), (5, 2), (6, 1)]) ∧
    readAfter exEnvP ((exHistP 4).take 12) 0 = some (.map [(1, 0), (6, 1)]) ∧
    readAfter exEnvP ((exHistP 4).take 14) 0 = some (.map [(1, 0), (6, 1)]) ∧
    readAfter exEnvP ((exHistP 4).take 23) 1 = some (.map [(1, 3), (8, 4), (9, 2)]) ∧
    readAfter exEnvP (exHistP 4) 1 = some (.map [(1, 6), (9, 2)]) := by
  obtain ⟨h1, h2, h3, h4, h5, h6, h7⟩ := exP4_io
  exact ⟨readAfter_of_io h1, readAfter_of_io h2, readAfter_of_io h3, readAfter_of_io h4, readAfter_of_io h5,
    readAfter_of_io h6, readAfter_of_io h7⟩

/-- `f1 (f3 v)` -/
def F4 (_k v : Int) : Int := (1 + (1 + 3 * v) % 7) % 7

/-- C16 on the example, with the function explicit: after each `stabilise` the in-use observer reads
`{k ↦ F(k, v) | (k, v) ∈ x}` for the current value of the input variable `x` (the input
values are those of `exP4_io`) -/
theorem exP4_spec :
    readAfter exEnvP ((exHistP 4).take 6) 0 = some (.map ([(1, 3), (5, 0)].map fun (k, v) => (k, F4 k v))) ∧
    readAfter exEnvP ((exHistP 4).take 8) 0 = some (.map ([(1, 3), (5, 0), (6, 2)].map fun (k, v) => (k, F4 k v))) ∧
    readAfter exEnvP ((exHistP 4).take 10) 0 = some (.map ([(1, 4), (5, 0), (6, 2)].map fun (k, v) => (k, F4 k v))) ∧
    readAfter exEnvP ((exHistP 4).take 12) 0 = some (.map ([(1, 4), (6, 2)].map fun (k, v) => (k, F4 k v))) ∧
    readAfter exEnvP ((exHistP 4).take 14) 0 = some (.map ([(1, 4), (6, 2)].map fun (k, v) => (k, F4 k v))) ∧
    readAfter exEnvP ((exHistP 4).take 23) 1 = some (.map ([(1, 5), (8, 3), (9, 0)].map fun (k, v) => (k, F4 k v))) ∧
    readAfter exEnvP (exHistP 4) 1 = some (.map ([(1, 6), (9, 0)].map fun (k, v) => (k, F4 k v))) := exP4_reads

end IncrVerif.Proofs.PerKeyH
