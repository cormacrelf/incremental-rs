import IncrVerif.Proofs.FullT21
/-!
# C04 combined fragment: the invariant between API actions for the "no panic" argument, the prefix of `stabilise` under the two-way simulation as propositions, valid indices
-/
namespace IncrVerif.Proofs.FullT
open IncrVerif.Engine IncrVerif.Driver IncrVerif.Proofs IncrVerif.Proofs.Step IncrVerif.Proofs.Sched IncrVerif.Proofs.Quiet IncrVerif.Proofs.FullH

/-- the invariant between API actions for the "no panic" argument: the invariant of C01Full, the carried invariant of the bisimulation, the totality invariant of NestH for the VIRTUAL state -/
structure QF (env : Env) (sp : Nat → Val → Val) (N : Nat) (s : State) (g : Nat → Option Val) : Prop where
  q : QInvF env sp s g
  p : PInv s
  t : NestH.QT (VE env sp) N (virt g s)

/-- `add_new_observers` under the two-way simulation, as a proposition (proved: `BSimXAt.addNewObservers`) -/
def AnoC (env : Env) (sp : Nat → Val → Val) : Prop := ∀ (g : Nat → Option Val) (fuel : Nat) (s : State), 3 * s.nodes.size + 2 ≤ fuel →
  BSimXAt (FK env sp) PInv g s (addNewObservers env fuel) (addNewObservers (virtEnv env sp) fuel)
/-- `unlink_disallowed_observers` under the two-way simulation, as a proposition (proved: `BSim.unlinkDisallowedObservers`) -/
def UdoC (env : Env) (sp : Nat → Val → Val) : Prop := ∀ (g : Nat → Option Val) (fuel : Nat) (s : State),
  BSimAt (FK env sp) PInv g s (unlinkDisallowedObservers fuel) (unlinkDisallowedObservers fuel)

/-- the indices named by an action exist (in terms of the numbers of naming-table entries, var cells, observers): those of the virtual action
(`mapRef p o` ↦ `map _ [o]`, `mapWithOld m o` ↦ `map _ [o]`, `dependOn a b` ↦ `map fnFirst [a, b]`), and the operand of a `cutoff` action -/
def ActionIdxF (nt nv no : Nat) (a : Action) : Prop :=
  NestH.ActionIdx nt nv no (virtA a) ∧ ∀ n c, a = .create (.cutoff n c) → ∃ k, n = Opnd.outer k ∧ k < nt

def ValidIdxF : Nat → Nat → Nat → List Action → Prop
  | _, _, _, [] => True
  | nt, nv, no, a :: as =>
    ActionIdxF nt nv no a ∧
      ValidIdxF (nt + NestH.growTop (virtA a)) (nv + (NestH.grow2 (virtA a)).2.1) (no + (NestH.grow2 (virtA a)).2.2) as

end IncrVerif.Proofs.FullT
