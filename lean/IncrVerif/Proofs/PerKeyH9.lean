import IncrVerif.Proofs.PerKeyH2
/-!
# Node creation between two effects keeps `DriverH.Mid`, part 1: a static node (MC1), MC3

* `created_struct`: `QR.Created.struct_of` for a kind that is not a `var`.
* `mkNode kind t`: the state after `createNode kind .top`; `run_createNode_top`.
* `mid_mkNode`: MC1.
* `not_below_fresh`, `addSpec_fresh`: MC3.
-/
namespace IncrVerif.Proofs.PerKeyH
open IncrVerif.Engine IncrVerif.Driver IncrVerif.Proofs IncrVerif.Proofs.Step IncrVerif.Proofs.Sched
open IncrVerif.Proofs.ExpertH IncrVerif.Proofs.EffH IncrVerif.Proofs.DriverH IncrVerif.Proofs.ExpertH.QR

/-! ## `Created.struct` without `QInv` -/

/-- `QR.Created.struct_of` when no cell is created -/
theorem created_struct {env : Env} {rk : Nat → Nat} {k : Kind} {s s1 : State} {tp : Array Nat}
    (C : Created k s s1 tp) (I : Struct env rk s) (hv : s1.vars = s.vars) (hk : StaticKind env k)
    (hkids : ∀ c, c ∈ kids k → c < s.nodes.size) : Struct env rk s1 :=
  C.struct_of I (fun {m} hm => staleOf_congr (by rw [C.nodeD_lt hm]) (by rw [C.nodeD_lt hm]) hv
    (fun c hc => by rw [C.nodeD_lt ((I.node hm).kidsIn c hc)])) hk hkids

/-! ## MC1: a static node -/

/-- the state after `createNode kind .top` (default cutoff) -/
def mkNode (kind : Kind) (t : State) : State :=
  { t with counters := { t.counters with created := t.counters.created + 1 },
           nodes := t.nodes.push { kind := kind, createdIn := .top } }

theorem mkNode_eq_crState (kind : Kind) (t : State) : mkNode kind t = crState kind .top .eq t := rfl

theorem run_createNode_top (kind : Kind) (t : State) :
    (createNode kind .top).run.run t = (.ok t.nodes.size, mkNode kind t) := rfl

theorem mkNode_nodes (kind : Kind) (t : State) :
    (mkNode kind t).nodes = t.nodes.push { kind := kind, createdIn := .top } := rfl
theorem mkNode_size (kind : Kind) (t : State) : (mkNode kind t).nodes.size = t.nodes.size + 1 := by
  rw [mkNode_nodes, Array.size_push]
theorem mkNode_experts (kind : Kind) (t : State) : (mkNode kind t).experts = t.experts := rfl
theorem mkNode_nextDep (kind : Kind) (t : State) : (mkNode kind t).nextDep = t.nextDep := rfl
theorem mkNode_eKey (kind : Kind) (t : State) : eKey (mkNode kind t) = eKey t := rfl
theorem mkNode_rch (kind : Kind) (t : State) : (mkNode kind t).rch = t.rch := rfl
theorem mkNode_ahh (kind : Kind) (t : State) : (mkNode kind t).ahh = t.ahh := rfl
theorem mkNode_log (kind : Kind) (t : State) : (mkNode kind t).log = t.log := rfl
theorem mkNode_slots (kind : Kind) (t : State) : (mkNode kind t).slots = t.slots := rfl
theorem mkNode_perkeys (kind : Kind) (t : State) : (mkNode kind t).perkeys = t.perkeys := rfl
theorem mkNode_top (kind : Kind) (t : State) : (mkNode kind t).top = t.top := rfl
theorem mkNode_scope (kind : Kind) (t : State) : (mkNode kind t).currentScope = t.currentScope := rfl

theorem mkNode_nodeD_new (kind : Kind) (t : State) :
    (mkNode kind t).nodeD t.nodes.size = { kind := kind, createdIn := .top } := by
  simp only [State.nodeD, mkNode_nodes, Array.getElem?_push, if_true, Option.getD_some]

theorem mkNode_nodeD_ne (kind : Kind) (t : State) {m : Nat} (h : m ≠ t.nodes.size) :
    (mkNode kind t).nodeD m = t.nodeD m := by
  simp only [State.nodeD, mkNode_nodes, Array.getElem?_push, if_neg h]

theorem mkNode_nodeD_lt (kind : Kind) (t : State) {m : Nat} (h : m < t.nodes.size) :
    (mkNode kind t).nodeD m = t.nodeD m := mkNode_nodeD_ne kind t (by omega)

theorem mkNode_isNecessary_new (kind : Kind) (t : State) : (mkNode kind t).isNecessary t.nodes.size = false := by
  rw [State.isNecessary, mkNode_nodeD_new]; rfl

theorem mkNode_isNecessary_ne (kind : Kind) (t : State) {m : Nat} (h : m ≠ t.nodes.size) :
    (mkNode kind t).isNecessary m = t.isNecessary m := by
  rw [State.isNecessary, State.isNecessary, mkNode_nodeD_ne kind t h]

/-- the virtual state of `mkNode` is `mkNode` of the virtual state (not an expert kind) -/
theorem virt_mkNode (kind : Kind) (t : State) (hne : ∀ e, kind ≠ .expert e) :
    virt (mkNode kind t) = mkNode kind (virt t) := virt_crState kind .top .eq t hne

theorem created_mkNode (kind : Kind) (t : State) (hnv : ∀ c, kind ≠ .var c) :
    Created kind t (mkNode kind t) t.top :=
  ⟨rfl, Or.inl ⟨hnv, rfl⟩, rfl, rfl, rfl, rfl, rfl, rfl, rfl, rfl, rfl, rfl, rfl, rfl, rfl, rfl⟩

/-- **MC1, pure form**: a fresh static top-level node keeps `Mid` -/
theorem mid_mkNode {E : Env} {t : State} {kind : Kind} (M : Mid E t) (hk : XKind E kind)
    (hne : ∀ e, kind ≠ .expert e) (hnv : ∀ c, kind ≠ .var c)
    (hkids : ∀ c, c ∈ kids kind → c < t.nodes.size) : Mid E (mkNode kind t) := by
  have P : Pushed E t (mkNode kind t) := pushed_crState .top .eq t hk hne
  have hxk : XK kind := by cases kind <;> first | trivial | exact hk.elim
  have fr' : Fr (mkNode kind t) := fr_crState .top M.fr hxk
  obtain ⟨rk, I⟩ := M.st
  have hvk : virtKind t.experts kind = kind := virtKind_of_not_expert _ hne
  have hsk : StaticKind (virtEnv E) kind := by
    have := staticKind_virt (env := E) (xs := t.experts) hk
    rwa [hvk] at this
  refine ⟨P.frag M.frag fr', P.ahhEmpty M.ahh, ⟨rk, ?_⟩, M.pinv, fun m => ?_⟩
  · rw [virt_mkNode kind t hne]
    exact created_struct (created_mkNode kind (virt t) hnv) I rfl hsk
      (fun c hc => by rw [virt_size]; exact hkids c hc)
  · by_cases e : m = t.nodes.size
    · rw [e, mkNode_nodeD_new]; exact Int.le_refl _
    · rw [mkNode_nodeD_ne kind t e]; exact M.handlers m

/-- `Mid` says the current scope is the top level -/
theorem _root_.IncrVerif.Proofs.DriverH.Mid.scope {E : Env} {t : State} (M : Mid E t) : t.currentScope = .top := by
  obtain ⟨rk, I⟩ := M.st
  exact I.static.scope

/-! ## MC3: a fresh expert node is above nothing -/

theorem below_last {s : State} {a b : Nat} (h : ExpertH.Below s a b) :
    a = b ∨ ∃ m, b ∈ kidsX s.experts (s.nodeD m).kind := by
  induction h with
  | refl a => exact Or.inl rfl
  | @step a b c h1 _ ih =>
    rcases ih with e | h
    · exact Or.inr ⟨a, e ▸ h1⟩
    · exact Or.inr h

/-- **MC3**: nobody has `x` as a child, so nothing but `x` is above `x` -/
theorem not_below_fresh {t : State} {c x : Nat} (hcx : c ≠ x)
    (hno : ∀ m, x ∉ kidsX t.experts (t.nodeD m).kind) : ¬ ExpertH.Below t c x := by
  intro h
  rcases below_last h with e | ⟨m, hm⟩
  · exact hcx e
  · exact hno m hm

/-- **MC3**, applied: `expertAddDependency` on an expert node that is nobody's child -/
theorem addSpec_fresh (E : Env) (fuel x c e : Nat) (cb : Bool) (s s' : State) (dep : Nat) (er : ExpertRec)
    (M : Mid E s) (hx : x < s.nodes.size) (hk : (s.nodeD x).kind = .expert e) (he : s.experts[e]? = some er)
    (hc : c < s.nodes.size) (hcx : c ≠ x) (hno : ∀ m, x ∉ kidsX s.experts (s.nodeD m).kind)
    (h : (expertAddDependency E fuel x c cb).run.run s = (.ok dep, s')) :
    Mid E s' ∧ EF (fun e' => e' = e) s s' ∧ dep = s.nextDep ∧ s'.nextDep = s.nextDep + 1 ∧
      (∃ er', s'.experts[e]? = some er' ∧ er'.children = er.children ++ [Xp.newEdge s c cb] ∧
        er'.script = er.script ∧ er'.sel = er.sel ∧ er'.forceStale = true) ∧
      (∀ m, s.isNecessary m = true → s'.isNecessary m = true) :=
  addSpec E fuel x c e cb s s' dep er M hx hk he hc (not_below_fresh hcx hno) h

end IncrVerif.Proofs.PerKeyH
