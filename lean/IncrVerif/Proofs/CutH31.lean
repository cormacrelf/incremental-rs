import IncrVerif.Proofs.CutH30
-- `Proofs/Sched12.lean` for ARBITRARY cutoffs; overview in Props/C06History.lean
/-!
# Termination of the drain for ARBITRARY cutoffs: with enough fuel `drainHeap` returns

`unrun` and its lemmas (`Frame.unrun_le`, `Frame.unrun_lt`, `unrun_pos`, `unrun_le_size`) are `Sched`'s.
-/
namespace IncrVerif.Proofs.CutH
open IncrVerif.Engine IncrVerif.Proofs IncrVerif.Proofs.Step IncrVerif.Proofs.Sched
variable {e : Bool}

/-- **the drain terminates**: with `fuel ≥ unrun s + 2` a `drainHeap` from a state with the drain
invariant and `Safe` returns (`Drain.drainHeap_total`: every step stamps its node, so the measure `unrun` goes down) -/
theorem drainHeap_total {env : Env} : ∀ (fuel : Nat) (s : State), DrainInv env e s → Safe s →
    unrun s + 2 ≤ fuel → ∃ s', (drainHeap env fuel).run.run s = (.ok (), s') := by
  intro fuel s I S hf
  refine Drain.drainHeap_total (st := id) (J := fun s cur => Inv env e s cur ∧ Safe s) (μ := unrun) (need := fun _ => 0)
    (fun s n fuel I hf => ?_) (fun s I => ?_) fuel s ⟨I, S⟩ (by omega)
  · obtain ⟨I, S⟩ := I
    rcases h1 : (recomputeOne env fuel n).run.run s with ⟨pe | r, s1⟩
    · have := (recomputeOne_safe I S h1).2
      omega
    · obtain ⟨I1, f1, hn1⟩ := recomputeOne_inv I h1
      have hnlt := (I.graph.nec n (I.cur n rfl).1).1
      exact ⟨r, s1, h1, ⟨I1, recomputeOne_keeps_safe I S h1⟩, f1.unrun_lt I.stamps hnlt I.cur_not_yet hn1, Nat.le_refl _⟩
  · obtain ⟨I, S⟩ := I
    obtain ⟨r, s1, hpop, S1⟩ := rchRemoveMin_safe I S
    refine ⟨r, s1, hpop, fun n hr => ?_⟩
    subst hr
    obtain ⟨I1, f1⟩ := pop_inv I hpop
    exact ⟨s1, rfl, ⟨I1, S1⟩, f1.unrun_le I.stamps, Nat.le_refl _⟩

/-- **total correctness of the drain (any cutoffs).** From the drain invariant and `Safe`, with
`fuel ≥ s.nodes.size + 2`, `drainHeap` returns; the final state satisfies the drain invariant and has an
empty heap. -/
theorem drainHeap_total_inv {env : Env} {fuel : Nat} {s : State} (I : DrainInv env e s) (S : Safe s)
    (hf : s.nodes.size + 2 ≤ fuel) :
    ∃ s', (drainHeap env fuel).run.run s = (.ok (), s') ∧ DrainInv env e s' ∧ s'.rch.length = 0 ∧
      Frame s s' ∧ Safe s' := by
  have := unrun_le_size s
  obtain ⟨s', h⟩ := drainHeap_total fuel s I S (by omega)
  obtain ⟨I', he, f⟩ := drainHeap_inv fuel s s' I h
  exact ⟨s', h, I', he, f, S.frame f⟩

/-- **total correctness of the drain (exact cutoffs).** With the flag up, moreover every necessary node
carries its from-scratch value. -/
theorem drainHeap_total_values {env : Env} {fuel : Nat} {s : State} (I : DrainInv env true s) (S : Safe s)
    (hf : s.nodes.size + 2 ≤ fuel) :
    ∃ s', (drainHeap env fuel).run.run s = (.ok (), s') ∧ DrainInv env true s' ∧ s'.rch.length = 0 ∧
      Frame s s' ∧ ∀ n, s.isNecessary n = true → ∀ k, (s.nodeD n).height.toNat < k →
        s'.isStale n = false ∧ s'.value env n = eval env s k n ∧ (eval env s k n).isSome = true := by
  obtain ⟨s', h, I', he, f, -⟩ := drainHeap_total_inv I S hf
  refine ⟨s', h, I', he, f, ?_⟩
  intro n hn k hk
  obtain ⟨-, -, -, h4, -, h6, h7⟩ := drainHeap_values I h n hn k hk
  exact ⟨h4, h6, h7⟩

end IncrVerif.Proofs.CutH
