import IncrVerif.Proofs.BindH12
import IncrVerif.Proofs.Sched6
/-!
# Binds, part 3g: what the drain achieves — from-scratch values, at most once, dead generations never ran
-/
namespace IncrVerif.Proofs.BindH
open IncrVerif.Engine IncrVerif.Proofs IncrVerif.Proofs.Step IncrVerif.Proofs.Sched

/-! ## from-scratch evaluation with binds -/

/-- from-scratch evaluation of node `n` (fuel `k`): as `Sched.eval`, a change detector evaluates to `()`, and a bind's
main node to the evaluation of the bind's CURRENT right-hand side -/
def evalB (env : Env) (s : State) : Nat → Nat → Option Val
  | 0, _ => none
  | k+1, n =>
    match (s.nodeD n).kind with
    | .const v => some v
    | .var c => (s.vars[c]?).map (·.value)
    | .map f args => (evalArgs (fun a => evalB env s k a) args).map (env.fn f)
    | .fold f init cs => (evalArgs (fun a => evalB env s k a) cs).map (List.foldl (env.foldStep f) init)
    | .bindLhsChange _ => some .unit
    | .bindMain b _ => match s.binds[b]? with
      | some br => (match br.rhs with
        | some r => evalB env s k r
        | none => none)
      | none => none
    | _ => none

theorem evalB_of_consistent {env : Env} {s : State} (g : BGraph env s)
    (hc : ∀ m, s.isNecessary m = true → ConsistentB env s m) :
    ∀ k n, s.isNecessary n = true → (s.nodeD n).height.toNat < k → (s.nodeD n).value = evalB env s k n := by
  intro k
  induction k with
  | zero => intro n _ h; omega
  | succ k ih =>
    intro n hn hk
    obtain ⟨v, ht, hv⟩ := hc n hn
    have hnlt := g.nec_lt hn
    have hnv := (g.nec n hn).1
    have hkids : ∀ a, a ∈ s.children n → (s.nodeD a).value = evalB env s k a := by
      intro a ha
      obtain ⟨h1, h2⟩ := g.edge_nec hn (Edge.child ha)
      have h0 := (g.nec a h1).2
      exact ih a h1 (by omega)
    rw [hv]
    unfold TargetB at ht
    unfold evalB
    cases hkd : (s.nodeD n).kind with
    | const w => rw [hkd] at ht; simp only [Target, hkd] at ht; simp only [ht]
    | var c =>
      rw [hkd] at ht
      simp only [Target, hkd] at ht
      obtain ⟨vc, h1, h2⟩ := ht
      simp only [h1, h2, Option.map_some]
    | map f args =>
      rw [hkd] at ht
      have hcs : s.children n = args := by unfold State.children Node.kind?; rw [hnv, hkd]; rfl
      rw [hcs] at hkids
      simp only [Target, hkd] at ht
      obtain ⟨vals, h1, h2⟩ := ht
      simp only
      rw [← evalArgs_congr _ _ args (fun a ha => hkids a ha)]
      unfold plainVals at h1
      rw [h1, h2]; rfl
    | fold f init cs =>
      rw [hkd] at ht
      have hcs : s.children n = cs := by unfold State.children Node.kind?; rw [hnv, hkd]; rfl
      rw [hcs] at hkids
      simp only [Target, hkd] at ht
      obtain ⟨vals, h1, h2⟩ := ht
      simp only
      rw [← evalArgs_congr _ _ cs (fun a ha => hkids a ha)]
      unfold plainVals at h1
      rw [h1, h2]; rfl
    | bindLhsChange b => rw [hkd] at ht; simp only at ht; rw [ht]
    | bindMain b lc =>
      rw [hkd] at ht
      obtain ⟨br, r, h1, h2, h3⟩ := ht
      have hr : r ∈ s.children n := by
        unfold State.children Node.kind?
        rw [hnv, hkd]
        simp only [if_true, h1, h2]
        simp
      simp only [h1, h2]
      rw [← hkids r hr, h3]
    | mapRef _ _ => rw [hkd] at ht; simp only [Target, hkd] at ht
    | mapWithOld _ _ => rw [hkd] at ht; simp only [Target, hkd] at ht
    | expert _ => rw [hkd] at ht; simp only [Target, hkd] at ht

/-- **The values after the drain.** With the drain invariant and an empty heap, every necessary node is valid, not
stale, and carries — in its `value` field and as seen by observers — its from-scratch value `evalB`; for a bind's
main node that is the from-scratch value of the bind's current right-hand side, and the bind's change detector is not
stale (it last ran on the current value of the lhs). -/
theorem drained_valuesB {env : Env} {s : State} (I : DInv env s none) (he : s.rch.length = 0)
    (n : Nat) (hn : s.isNecessary n = true) (k : Nat) (hk : (s.nodeD n).height.toNat < k) :
    (s.nodeD n).valid = true ∧ s.isStale n = false ∧
      (s.nodeD n).value = evalB env s k n ∧ s.value env n = evalB env s k n ∧
      (evalB env s k n).isSome = true := by
  have g := I.graph
  have hall : ∀ m, s.isNecessary m = true → s.isStale m = false ∧ ConsistentB env s m := by
    intro m hm
    have hns : s.isStale m = false := by
      cases hst : s.isStale m with
      | false => rfl
      | true =>
        rcases I.pending m hm hst with h1 | h1
        · rw [I.heap.empty he m] at h1; cases h1
        · cases h1
    exact ⟨hns, I.cons m (g.nec_lt hm) (g.nec m hm).1 hns⟩
  have hv := evalB_of_consistent g (fun m hm => (hall m hm).2) k n hn hk
  obtain ⟨v, _, hval⟩ := (hall n hn).2
  refine ⟨(g.nec n hn).1, (hall n hn).1, hv, ?_, ?_⟩
  · rw [g.value_plain (g.nec_lt hn) (g.nec n hn).1]; exact hv
  · rw [← hv, hval]; rfl

/-- **The values after `drainHeap`.** -/
theorem drainHeap_valuesB {env : Env} {Aux : State → Prop} (H : LcStepsOK env Aux) {fuel : Nat} {s s' : State}
    (I : DInv env s none) (hA : Aux s) (h : (drainHeap env fuel).run.run s = (.ok (), s')) :
    DInv env s' none ∧ Aux s' ∧ s'.rch.length = 0 ∧ s'.vars = s.vars ∧ s'.stabNum = s.stabNum ∧
    ∀ n, s'.isNecessary n = true → ∀ k, (s'.nodeD n).height.toNat < k →
      (s'.nodeD n).valid = true ∧ s'.isStale n = false ∧
        (s'.nodeD n).value = evalB env s' k n ∧ s'.value env n = evalB env s' k n ∧
        (evalB env s' k n).isSome = true := by
  obtain ⟨I', hA', he, f⟩ := drainHeap_invB H fuel s s' I hA h
  exact ⟨I', hA', he, f.vars, f.stabNum, fun n hn k hk => drained_valuesB I' he n hn k hk⟩

/-! ## at most once; dead generations -/

/-- what is said about each node of a trace from `s` to `s'`: it had not run in this round before, it is stamped
afterwards, and it is still a VALID node at the end (it does not belong to a generation that died in this drain) -/
def RanOnceB (s s' : State) (m : Nat) : Prop :=
  (s.nodeD m).recomputedAt < s.stabNum ∧ (s'.nodeD m).recomputedAt = s.stabNum ∧ (s'.nodeD m).valid = true

theorem OnceB.ranOnce {σ : Type} {v : σ → State} {l : List (Nat × State)} {a b : σ} (st : Stamps (v a))
    (O : OnceB v (v a).stabNum l a b) : (l.map (·.1)).Nodup ∧ ∀ m, m ∈ l.map (·.1) → RanOnceB (v a) (v b) m := by
  refine ⟨O.once.nodup, fun m hm => ?_⟩
  obtain ⟨h0, h1⟩ := O.once.mem m hm
  have := (st.node m).1
  exact ⟨by omega, h1, O.valid m hm⟩

/-- **At most once, and never a dying generation.** The nodes run by a successful `drainHeap` from a state with the
drain invariant are pairwise distinct; each had `recomputedAt < stabNum` before the drain, has `recomputedAt = stabNum`
after it, and is still valid at the end of the drain — so no node of a generation that is invalidated during this
drain was recomputed in it (neither before nor after the bind's change detector ran). -/
theorem drain_onceB {env : Env} {Aux : State → Prop} (H : LcStepsOK env Aux) :
    ∀ (fuel : Nat) (s s' : State), DInv env s none → Aux s →
    (drainHeap env fuel).run.run s = (.ok (), s') →
    (drainTrace env fuel s).Nodup ∧ ∀ m, m ∈ drainTrace env fuel s → RanOnceB s s' m := by
  intro fuel s s' I hA h
  rw [← TidyH.drainSteps_fst]
  exact OnceB.ranOnce (v := id) I.stamps (drainHeap_runB (recomputeOne_invB H) H.pop fuel s s' I hA h).2.2.2

/-- **C03, step form.** When a change detector is about to run (it is the current node of the invariant), no valid
node created in its bind's scope — in particular no node of the generation that this run will invalidate — has been
recomputed in this round. -/
theorem scope_not_yet_run {env : Env} {s : State} {n b m : Nat} {br : BindRec} (I : DInv env s (some n))
    (hb : s.binds[b]? = some br) (hlc : br.lhsChange = n)
    (hv : (s.nodeD m).valid = true) (hsc : (s.nodeD m).createdIn = .bind b) :
    (s.nodeD m).recomputedAt < s.stabNum := by
  have he : Edge s m n := by
    have := Edge.scope hv hsc hb
    rw [hlc] at this; exact this
  exact I.fresh m n (Below.of_edge he) (Or.inr rfl)

/-- **C03, ordering form.** When a valid node `m` created in scope `.bind b` is about to run (it is the current node),
the change detector of `b` is neither queued nor stale: it has had its chance in this round. -/
theorem scope_node_settled {env : Env} {s : State} {m b : Nat} {br : BindRec} (I : DInv env s (some m))
    (hb : s.binds[b]? = some br) (hsc : (s.nodeD m).createdIn = .bind b) :
    (s.nodeD br.lhsChange).inRch = false ∧ s.isStale br.lhsChange = false := by
  obtain ⟨hn, hlt, hv, -, -⟩ := I.cur_facts
  have he : Edge s m br.lhsChange := Edge.scope hv hsc hb
  have hq := (I.cur m rfl).2 _ (Below.of_edge he)
  refine ⟨hq, ?_⟩
  cases hst : s.isStale br.lhsChange with
  | false => rfl
  | true =>
    rcases I.pending _ (I.graph.edge_nec hn he).1 hst with h | h
    · rw [hq] at h; cases h
    · injection h with h
      exact absurd h (I.graph.edge_ne he)

end IncrVerif.Proofs.BindH
