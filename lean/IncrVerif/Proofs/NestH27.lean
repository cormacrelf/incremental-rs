import IncrVerif.Proofs.NestH26
/-!
# Nested binds (F2), `lhsRelink`, part 2: the new right-hand side in the record (`setRhs`)

`RhsOK2`: the rank conditions use the ghost rank; the bind's main node may be the main node of an INNER bind
(a node of an outer scope `.bind b'`): its validity is a hypothesis (here: it is open), its child list in `N2.inScope` gets the new
right-hand side through the third alternative (`kind = bindMain b n`, child of scope `b`).
`CR.KRel.createdIn`, `CR.KRel.cutoff`, `CR.KRel.keyEq` (BindH67) are reused.
-/
namespace IncrVerif.Proofs.NestH
open IncrVerif.Engine IncrVerif.Proofs IncrVerif.Proofs.Step IncrVerif.Proofs.Sched IncrVerif.Proofs.Quiet
open IncrVerif.Proofs.BindH

namespace NR

/-- what may be the (new or old) right-hand side of bind `b` with change detector `n`: not a change detector; a top-level node of smaller
rank than `n`, or a valid node of scope `b` (possibly the main node of an inner bind) -/
def RhsOK2 (rk : Nat → Nat) (s : State) (b n rhs : Nat) : Prop :=
  (∀ b', (s.nodeD rhs).kind ≠ .bindLhsChange b') ∧
  (((s.nodeD rhs).createdIn = .top ∧ rk rhs < rk n) ∨
    ((s.nodeD rhs).createdIn = .bind b ∧ (s.nodeD rhs).valid = true))

theorem RhsOK2.congr {rk : Nat → Nat} {s s' : State} {b n rhs : Nat} (h : RhsOK2 rk s b n rhs)
    (hcr : (s'.nodeD rhs).createdIn = (s.nodeD rhs).createdIn) (hk : (s'.nodeD rhs).kind = (s.nodeD rhs).kind)
    (hv : (s'.nodeD rhs).valid = (s.nodeD rhs).valid) : RhsOK2 rk s' b n rhs := by
  unfold RhsOK2; rw [hcr, hk, hv]; exact h

section
variable {env : Env} {rk : Nat → Nat} {s : State} {dy : List Nat}

/-- the facts about a right-hand side; the bind's main node is VALID -/
theorem RhsOK2.facts (A : All2 env rk s dy) {b n rhs : Nat} {br : BindRec} (h : RhsOK2 rk s b n rhs)
    (hb : s.binds[b]? = some br) (hl : br.lhsChange = n) (hvm : (s.nodeD br.main).valid = true)
    (hrs : rhs < s.nodes.size) :
    (s.nodeD rhs).valid = true ∧ rhs ≠ n ∧ rhs ≠ br.main ∧ rk rhs < rk br.main := by
  have hlm := A.lc_rk_main hb hvm
  rw [hl] at hlm
  obtain ⟨-, h⟩ := h
  rcases h with ⟨h1, h2⟩ | ⟨h1, h2⟩
  · refine ⟨((A.node rhs hrs).top h1).1, ?_, ?_, by omega⟩
    · intro e; rw [e] at h2; exact Nat.lt_irrefl _ h2
    · intro e; rw [e] at h2; omega
  · have hrk := A.scope_rk hrs h1 hb
    rw [hl] at hrk
    refine ⟨h2, ?_, ?_, hrk.2⟩
    · intro e; rw [e] at hrk; exact Nat.lt_irrefl _ hrk.1
    · intro e; rw [e] at hrk; exact Nat.lt_irrefl _ hrk.2

end

/-- **new right-hand side**: the record of bind `b` gets the right-hand side `rhs` while the bind's main node is
`.linking 1` (its child edge 1 is neither wanted nor recorded) -/
theorem setRhs {env : Env} {rk : Nat → Nat} {s s' : State} {op : Nat → Op} {ex : Nat → Prop} {dy : List Nat} {b n rhs : Nat}
    {br : BindRec}
    (I : GInv2 env rk s op ex dy) (hb : s.binds[b]? = some br) (hl : br.lhsChange = n)
    (hop : op br.main = .linking 1)
    (hrs : rhs < s.nodes.size) (hrhs : RhsOK2 rk s b n rhs)
    (hnd : ∀ m, s'.nodeD m = s.nodeD m) (hsz : s'.nodes.size = s.nodes.size)
    (hpc : s'.panicCountdown = s.panicCountdown) (hsc : s'.currentScope = s.currentScope)
    (hrch : s'.rch = s.rch) (hvars : s'.vars = s.vars) (hexp : s'.experts = s.experts)
    (hb' : s'.binds[b]? = some { br with rhs := some rhs })
    (hbo : ∀ b', b' ≠ b → s'.binds[b']? = s.binds[b']?)
    (hst : (s.nodeD br.main).recomputedAt < (s.nodeD n).changedAt) :
    GInv2 env rk s' op ex dy := by
  have A := I.frag
  obtain ⟨r1, hms, r3, hkm, r5⟩ := A.recs b br hb
  rw [hl] at r1 r3 hkm r5
  have sm := A.node br.main hms
  have hvm : (s.nodeD br.main).valid = true :=
    I.valid_of_open (by rw [hop]; exact Op.linking_ne_closed _)
  have hnm : n < br.main := by omega
  have hns : n < s.nodes.size := by omega
  have hvn : (s.nodeD n).valid = true := by
    have := A.recValid b br hb
    rw [hl, hvm] at this; exact this.symm
  obtain ⟨hvr, hrn, hrm, hrkm⟩ := hrhs.facts A hb hl hvm hrs
  have hrk := hrhs.1
  have hrc := hrhs.2
  have hrkn : rk n < rk br.main := by
    have := A.lc_rk_main hb hvm
    rw [hl] at this; exact this
  have hch0 : s.children br.main = n :: br.rhs.toList := BR.children_main hvm hkm hb
  have hch1 : s'.children br.main = [n, rhs] :=
    BR.children_main (br := { br with rhs := some rhs }) (by rw [hnd]; exact hvm) (by rw [hnd]; exact hkm) hb'
  have hch : ∀ m, m ≠ br.main → s'.children m = s.children m := by
    intro m e
    by_cases hlt : m < s.nodes.size
    · cases hv : (s.nodeD m).valid with
      | false =>
        unfold State.children Node.kind?
        rw [hnd, hv]; rfl
      | true =>
        have hkq : (s.nodeD m).kind? = some (s.nodeD m).kind := by
          unfold Node.kind?; rw [hv]; rfl
        unfold State.children
        rw [hnd, hexp, hkq]
        cases hkd : (s.nodeD m).kind with
        | bindLhsChange b' =>
          by_cases eb : b' = b
          · simp only [eb, hb', hb]
          · simp only [hbo b' eb]
        | bindMain b' lc =>
          have eb : b' ≠ b := by
            intro eb
            obtain ⟨br', h1, h2, -⟩ := (A.node m hlt).mainRec b' lc hkd
            rw [eb, hb] at h1
            cases h1
            exact e h2.symm
          simp only [hbo b' eb]
        | _ => rfl
    · rw [children_default s m (by omega), children_default s' m (by rw [hsz]; omega)]
  -- the bind table
  have hbs : ∀ (b0 : Nat) (br0 : BindRec), s'.binds[b0]? = some br0 →
      ∃ br1 : BindRec, s.binds[b0]? = some br1 ∧ br1.main = br0.main ∧ br1.lhsChange = br0.lhsChange ∧
        br1.allNodesCreatedOnRhs = br0.allNodesCreatedOnRhs := by
    intro b0 br0 h
    by_cases eb : b0 = b
    · rw [eb, hb'] at h
      cases h
      exact ⟨br, by rw [eb]; exact hb, rfl, rfl, rfl⟩
    · rw [hbo b0 eb] at h
      exact ⟨br0, h, rfl, rfl, rfl⟩
  have hbs' : ∀ (b0 : Nat) (br1 : BindRec), s.binds[b0]? = some br1 →
      ∃ br0 : BindRec, s'.binds[b0]? = some br0 ∧ br1.main = br0.main ∧ br1.lhsChange = br0.lhsChange ∧
        br1.allNodesCreatedOnRhs = br0.allNodesCreatedOnRhs := by
    intro b0 br1 h
    by_cases eb : b0 = b
    · rw [eb, hb] at h
      cases h
      exact ⟨{ br with rhs := some rhs }, by rw [eb]; exact hb', rfl, rfl, rfl⟩
    · exact ⟨br1, by rw [hbo b0 eb]; exact h, rfl, rfl, rfl⟩
  have hnec : ∀ m, s'.isNecessary m = s.isNecessary m := fun m => by simp only [State.isNecessary, hnd]
  have hstl : ∀ m, m ≠ br.main → s'.isStale m = s.isStale m := by
    intro m e
    unfold State.isStale
    simp only [hnd, hch m e, hvars, hexp]
  have hstm : s'.isStale br.main = true := by
    refine BR.isStale_main (b := b) (lc := n) (br := { br with rhs := some rhs }) (by rw [hnd]; exact hvm)
      (by rw [hnd]; exact hkm) hb' ?_
    rw [hnd, hnd]; exact hst
  have hA : All2 env rk s' dy := by
    refine ⟨by rw [hpc]; exact A.pc, by rw [hsc]; exact A.scope, fun m hmlt => ?_, ?_, ?_, ?_, ?_, ?_, ?_, ?_, ?_⟩
    · have sn := A.node m (by rw [← hsz]; exact hmlt)
      by_cases e : m = br.main
      · -- the main node
        rw [e]
        refine ⟨by rw [hnd]; exact sm.kind, by rw [hnd]; exact sm.cutoff, ?_, ?_, ?_, ?_, ?_, ?_, ?_, ?_⟩
        · rw [hch1, hsz]
          intro c hc
          simp only [List.mem_cons, List.not_mem_nil, or_false] at hc
          rcases hc with hc | hc
          · rw [hc]; exact hns
          · rw [hc]; exact hrs
        · rw [hch1]
          intro c hc
          simp only [List.mem_cons, List.not_mem_nil, or_false] at hc
          rcases hc with hc | hc
          · rw [hc, hnd]; exact hvn
          · rw [hc, hnd]; exact hvr
        · rw [hch1]
          intro c hc
          simp only [List.mem_cons, List.not_mem_nil, or_false] at hc
          rcases hc with hc | hc
          · rw [hc]; exact hrkn
          · rw [hc]; exact hrkm
        · intro b' hk
          rw [hnd, hkm] at hk; cases hk
        · intro b' lc hk
          rw [hnd, hkm] at hk
          cases hk
          exact ⟨_, hb', rfl, hl⟩
        · intro c b' hc hk
          rw [hnd] at hk ⊢
          rw [hch1] at hc
          simp only [List.mem_cons, List.not_mem_nil, or_false] at hc
          rcases hc with hc | hc
          · rw [hc] at hk ⊢
            exact sm.lcChild n b' (by rw [hch0]; exact List.mem_cons_self ..) hk
          · rw [hc] at hk; exact absurd hk (hrk b')
        · intro htop
          rw [hnd] at htop
          refine ⟨by rw [hnd]; exact hvm, ?_⟩
          rw [hch1]
          intro c hc
          simp only [List.mem_cons, List.not_mem_nil, or_false] at hc
          rcases hc with hc | hc
          · rw [hc, hnd]; exact Or.inl (by rw [← r5]; exact htop)
          · rw [hc, hnd, hnd]
            rcases hrc with h | h
            · exact Or.inl h.1
            · exact Or.inr ⟨b, n, hkm, h.1⟩
        · intro b' h
          rw [hnd] at h
          obtain ⟨h2, br1, h3, h4, h5⟩ := sm.inScope b' h
          obtain ⟨br0, k1, k2, -, -⟩ := hbs' b' br1 h3
          refine ⟨by rw [hnd]; exact h2, br0, k1, by rw [← k2]; exact h4, ?_⟩
          rw [hch1]
          intro c hc
          simp only [List.mem_cons, List.not_mem_nil, or_false] at hc
          rcases hc with hc | hc
          · rw [hc]
            simp only [hnd]
            exact h5 n (by rw [hch0]; exact List.mem_cons_self ..)
          · rw [hc]
            simp only [hnd]
            rcases hrc with h | h
            · exact Or.inl h.1
            · exact Or.inr (Or.inr ⟨b, n, hkm, h.1⟩)
      · refine ⟨by rw [hnd]; exact sn.kind, by rw [hnd]; exact sn.cutoff, ?_, ?_, ?_, ?_, ?_, ?_, ?_, ?_⟩
        · rw [hch m e, hsz]; exact sn.kidsIn
        · rw [hch m e]; intro c hc; rw [hnd]; exact sn.kidsValid c hc
        · rw [hch m e]; exact sn.kidLt
        · intro b' hk
          rw [hnd] at hk
          obtain ⟨br1, h1, h2⟩ := sn.lcRec b' hk
          obtain ⟨br0, k1, -, k3, -⟩ := hbs' b' br1 h1
          exact ⟨br0, k1, by rw [← k3]; exact h2⟩
        · intro b' lc hk
          rw [hnd] at hk
          obtain ⟨br1, h1, h2, h3⟩ := sn.mainRec b' lc hk
          obtain ⟨br0, k1, k2, k3, -⟩ := hbs' b' br1 h1
          exact ⟨br0, k1, by rw [← k2]; exact h2, by rw [← k3]; exact h3⟩
        · intro c b' hc hk
          rw [hnd] at hk ⊢
          rw [hch m e] at hc; exact sn.lcChild c b' hc hk
        · intro h
          rw [hnd] at h
          obtain ⟨h1, h2⟩ := sn.top h
          refine ⟨by rw [hnd]; exact h1, ?_⟩
          rw [hch m e]
          intro c hc
          simp only [hnd]
          exact h2 c hc
        · intro b' h
          rw [hnd] at h
          obtain ⟨h2, br1, h3, h4, h5⟩ := sn.inScope b' h
          obtain ⟨br0, k1, k2, k3, -⟩ := hbs' b' br1 h3
          refine ⟨by rw [hnd]; exact h2, br0, k1, by rw [← k2]; exact h4, ?_⟩
          rw [hch m e]
          intro c hc
          simp only [hnd]
          exact h5 c hc
    · intro b0 br0 h
      obtain ⟨br1, k0, k1, k2, -⟩ := hbs b0 br0 h
      rw [hsz, hnd, hnd, ← k1, ← k2]
      exact A.recs b0 br1 k0
    · intro b0 br0 h m
      obtain ⟨br1, k0, -, -, k3⟩ := hbs b0 br0 h
      rw [hsz, hnd, ← k3]
      exact A.gen b0 br1 k0 m
    · intro b0 br0 h
      obtain ⟨br1, k0, -, -, k3⟩ := hbs b0 br0 h
      rw [← k3]
      exact A.genDy b0 br1 k0
    · intro m hm
      rw [hsz, hnd]
      exact A.dyIn m hm
    · intro n' b0 br0 hn' hv' hsc' h
      obtain ⟨br1, k0, k1, k2, -⟩ := hbs b0 br0 h
      rw [hsz] at hn'; rw [hnd] at hv' hsc'
      rw [hnd, hnd, ← k1, ← k2]
      exact A.scopeValid n' b0 br1 hn' hv' hsc' k0
    · intro b0 br0 h
      obtain ⟨br1, k0, k1, k2, -⟩ := hbs b0 br0 h
      rw [hnd, hnd, ← k1, ← k2]
      exact A.recValid b0 br1 k0
    · intro n' b0 br0 hn' hsc' h
      obtain ⟨br1, k0, k1, k2, -⟩ := hbs b0 br0 h
      rw [hsz] at hn'; rw [hnd] at hsc'
      rw [← k1, ← k2]
      exact A.scopeRk n' b0 br1 hn' hsc' k0
    · intro n' m' hn' hm'
      rw [hsz] at hn' hm'
      exact A.rkInj n' m' hn' hm'
  refine transfer I hA hsz hrch (fun m => by rw [hnd]) (fun m => by rw [hnd]) (fun m => by rw [hnd]) ?_ ?_ ?_ ?_ ?_ ?_
    ?_ ?_ I.opLt (fun _ _ _ _ h1 h2 => absurd h1 h2) (fun _ h1 h2 => absurd h1 h2)
    (fun _ _ h1 h2 => absurd h1 h2) (fun _ h1 h2 => absurd h1 h2)
    (fun m => by rw [hnd]) (fun m => by rw [hnd]) (fun m => by rw [hnd]) (fun m => by rw [hnd])
    (fun m hv => by rw [hnd]; exact (I.inv m hv).2.2.1) (fun m hv => (I.inv m hv).2.2.2.2)
    (fun b0 br0 h => by
      obtain ⟨br1, k0, -, k2, -⟩ := hbs b0 br0 h
      exact ⟨br1, k0, k2⟩)
    (fun _ _ _ h1 h2 => absurd h1 h2)
  · intro p i c hk hw
    refine ⟨?_, (BR.wants_congr hnec p i).2 hw⟩
    by_cases e : p = br.main
    · rw [e] at hk hw ⊢
      have hi : i < 1 := (wants_linking hop).1 hw
      have hi0 : i = 0 := by omega
      rw [hi0, hch0] at hk
      rw [hi0, hch1]
      exact hk
    · rw [hch p e]; exact hk
  · intro p i c hk hw
    have hw' := (BR.wants_congr hnec p i).1 hw
    refine ⟨?_, hw'⟩
    by_cases e : p = br.main
    · rw [e] at hk hw' ⊢
      have hi : i < 1 := (wants_linking hop).1 hw'
      have hi0 : i = 0 := by omega
      rw [hi0, hch1] at hk
      rw [hi0, hch0]
      exact hk
    · rw [← hch p e]; exact hk
  · intro m _ _ h; rw [← hnec]; exact h
  · intro p k ho; rw [hnec]; exact I.lnec p k ho
  · intro p k ho; rw [hnec]; exact I.unec p k ho
  · intro m hq; rw [hnec]; exact I.qnec m hq
  · intro m ho _ _ hs
    have e : m ≠ br.main := fun e => by rw [e, hop] at ho; cases ho
    rw [← hstl m e]; exact hs
  · intro m hq
    by_cases e : m = br.main
    · rw [e]; exact hstm
    · rw [hstl m e]; exact I.qstale m hq


end NR

end IncrVerif.Proofs.NestH
