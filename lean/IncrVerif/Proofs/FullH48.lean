import IncrVerif.Proofs.FullH47
/-!
# C01 full fragment: what observers read after a `stabilise`
-/
namespace IncrVerif.Proofs.FullH
open IncrVerif.Engine IncrVerif.Driver IncrVerif.Proofs IncrVerif.Proofs.Step IncrVerif.Proofs.Sched IncrVerif.Proofs.Quiet
open IncrVerif.Proofs.BindH (DInv BGraph ConsistentB Edge Below)
open IncrVerif.Proofs.NestH (GenOK2 F2Inv QG2 QI2 QInv2 den2)

section
variable {env : Env} {sp : Nat → Val → Val}

/-- below a necessary node everything is necessary -/
theorem below_nec {env' : Env} {s : State} (gr : BGraph env' s) {a d : Nat} (h : Below s a d) (ha : s.isNecessary a = true) :
    s.isNecessary d = true := by
  induction h with
  | refl a => exact ha
  | step he _ ih =>
    apply ih
    cases he with
    | child hc =>
      obtain ⟨i, hi⟩ := List.getElem?_of_mem hc
      exact (gr.child _ ha i _ hi).1
    | @scope b br hv hsc hb =>
      have hlt := Step.nec_lt_size ha
      obtain ⟨br', hb', -, -, h4⟩ := gr.scope _ b hlt hv hsc
      rw [hb] at hb'; cases hb'
      exact (h4 ha).1

/-- **after a `stabilise` every in-use observer reads `den2` of its node in the virtual state** -/
theorem stabF_reads {s s' : State} {g' : Nat → Option Val} (R : StabF env sp s s' g') :
    ∀ (o : Nat) (ob : ObsRec), s'.observers[o]? = some ob → ob.state = .inUse →
      ∃ v, s'.tryGetValue env o = .ok v ∧ ∃ K, ∀ k, K ≤ k → den2 (VE env sp) (virt g' s') k ob.node = some v := by
  obtain ⟨⟨rk', Q'⟩, G'⟩ := R.inv.q
  have gr := Q'.bgraph
  have O' : ObsInv (virt g' s') [] [] := by
    have := Q'.obs
    unfold ObsOK at this
    have e1 : (virt g' s').newObservers = [] := R.newObservers
    have e2 : (virt g' s').disallowedObservers = [] := R.disallowedObservers
    rw [e1, e2] at this
    exact this
  have hall : ∀ m, (virt g' s').isNecessary m = true → (virt g' s').isStale m = false ∧ ConsistentB (VE env sp) (virt g' s') m := by
    intro m hm
    have hm' : s'.isNecessary m = true := by rw [← virt_isNecessary g' s']; exact hm
    obtain ⟨k1, k2⟩ := R.fresh m hm'
    have k2' : (virt g' s').isStale m = false := by rw [virt_isStale]; exact k2
    exact ⟨k2', Q'.cons m (gr.nec_lt hm) (by rw [virt_nodeD, virtNode_valid]; exact k1) k2'⟩
  intro o ob ho hst
  have hov : (virt g' s').observers[o]? = some ob := ho
  have hmem : o ∈ ((virt g' s').nodeD ob.node).observers := (O'.mem ob.node o).2 ⟨ob, hov, rfl, Or.inl hst⟩
  have hn : (virt g' s').isNecessary ob.node = true := nec_of_mem_observers hmem
  have hn' : s'.isNecessary ob.node = true := by rw [← virt_isNecessary g' s']; exact hn
  obtain ⟨K, w, hw, hden⟩ := NestH.den2_of_consistent gr Q'.f2 G' hall ob.node hn (Q'.obsTop o ob hov).1
  -- what the actual observer reads is what the virtual node stores
  have hset : tv g' s' ob.node = s'.value env ob.node := by
    refine settled R.inv.frag gr (fun m hm hv hs => Q'.cons m hm hv hs) ob.node hn' (fun e he => ?_)
    have := below_nec gr he hn
    rw [virt_isNecessary] at this
    exact (R.fresh e this).2
  refine ⟨w, ?_, K, hden⟩
  have hal : s'.alive = true := Q'.alive
  have hstat : s'.status = .notStabilising := Q'.status
  unfold State.tryGetValue
  rw [hal, hstat, ho]
  simp only [Bool.not_true, Bool.false_eq_true, if_false, hst]
  rw [← hset]
  show (match ((virt g' s').nodeD ob.node).value with | some v => Except.ok v | none => _) = _
  rw [hw]

end
end IncrVerif.Proofs.FullH
