import IncrVerif.Proofs.DriverH7
import IncrVerif.Proofs.ExpertH61
/-!
# Drivers, `expert_add_dependency` between two effects, part 2: the NECESSARY expert node, and `addSpec`

`ExpertH.addDep_struct` with the frame of effects `EF` and the record facts read off its frames `NF`, `XF` (and `XS` of the whole call).
-/
namespace IncrVerif.Proofs.DriverH
open IncrVerif.Engine IncrVerif.Driver IncrVerif.Proofs IncrVerif.Proofs.Step IncrVerif.Proofs.Sched
open IncrVerif.Proofs.ExpertH IncrVerif.Proofs.ExpertH.QR IncrVerif.Proofs.Xp

theorem addSpec_nec {E : Env} {s s' : State} {fuel n c e dep : Nat} {cb : Bool} {nd : Node} {er : ExpertRec}
    (Md : Mid E s) (hx : IsExpert s n nd e er) (hnec : nd.isNecessary = true)
    (hc : c < s.nodes.size) (hacyc : ¬ ExpertH.Below s c n)
    (h : (expertAddDependency E fuel n c cb).run.run s = (.ok dep, s')) :
    Mid E s' ∧ EF (fun e' => e' = e) s s' ∧ dep = s.nextDep ∧ s'.nextDep = s.nextDep + 1 ∧
      (∃ er', s'.experts[e]? = some er' ∧ er'.children = er.children ++ [newEdge s c cb] ∧
        er'.script = er.script ∧ er'.sel = er.sel ∧ er'.forceStale = true) ∧
      (∀ m, s.isNecessary m = true → s'.isNecessary m = true) := by
  obtain ⟨rk, Q⟩ := Md.st
  obtain ⟨rk', S', fr', hA', nf, xf, hdep⟩ := addDep_struct Md.frag Q Md.ahh Md.pinv Md.handlers hx hnec hc hacyc h
  obtain ⟨ef, hnd, hrec, hnc⟩ := ef_added (c := c) (cb := cb) hx.xrec nf xf ((PresS.expertAddDependency E fuel n c cb).h _ _ _ h)
  exact ⟨mid_added Md hx.xrec nf xf fr' hA' S', ef, hdep, hnd, hrec, hnc⟩

/-- **`expert_add_dependency` between two effects of a running driver** -/
theorem addSpec (E : Env) : AddSpec E := by
  intro fuel x c e cb s s' dep er M hx hk hxe hc hacyc h
  have hisx : IsExpert s x (s.nodeD x) e er := ⟨some_of_lt hx, M.frag.valid x hx, hk, hxe⟩
  cases hnec : (s.nodeD x).isNecessary with
  | false => exact addSpec_unnec M hisx hnec hc hacyc h
  | true => exact addSpec_nec M hisx hnec hc hacyc h

end IncrVerif.Proofs.DriverH
