import IncrVerif.Proofs.PerKeyH3
/-!
# Per-key operators over whole histories, part 3: the side condition `NoRem` (no key removal), frames, and the contracts between the layers

* `NoRem s`: the key sets only grow along `prevMap ⊆ value of the conversion node ⊆ value of the input var node ⊆
  value of the var cell`, so a run of a change detector never sees a removed key (no `.left` entry in the diff).
* `PStep s s'`: what every step of the drain keeps.
* contracts: `LcStepSpec`, `XStepSpec`, `StaticStepSpec`, `PopSpecP`, `DrainSpecP`; `PQ`, `StabilisedP`, `StabSpecP`.
* the specification of the output: `evalTempl`, `specMap`, `OutputOK`.
-/
namespace IncrVerif.Proofs.PerKeyH
open IncrVerif.Engine IncrVerif.Driver IncrVerif.Proofs IncrVerif.Proofs.Step IncrVerif.Proofs.Sched
open IncrVerif.Proofs.ExpertH IncrVerif.Proofs.EffH IncrVerif.Proofs.DriverH

/-! ## keys are never removed -/

def keysSub (a b : List (Int × Int)) : Prop := ∀ k : Int, (a.lookup k).isSome = true → (b.lookup k).isSome = true

/-- the input of operator `op` is a variable `x` holding sorted maps, and the key sets only grow from `prevMap` to the
conversion node to the var node to the cell -/
structure NoRemOp (s : State) (pr : PerKeyRec) : Prop where
  input : ∃ x c vc mv, (s.nodeD (pr.result - 1)).kind = .map fnIdent [x] ∧ (s.nodeD x).kind = .var c ∧
    s.vars[c]? = some vc ∧ vc.value = .map mv ∧ IncrVerif.AMap.Sorted mv ∧
    keysSub pr.prevMap mv ∧
    (∀ w, (s.nodeD x).value = some w → ∃ m2, w = .map m2 ∧ IncrVerif.AMap.Sorted m2 ∧ keysSub m2 mv ∧
      keysSub pr.prevMap m2) ∧
    (∀ w, (s.nodeD (pr.result - 1)).value = some w → ∃ m1, w = .map m1 ∧ IncrVerif.AMap.Sorted m1 ∧ keysSub m1 mv ∧
      keysSub pr.prevMap m1 ∧ ∀ m2, (s.nodeD x).value = some (.map m2) → keysSub m1 m2)

def NoRem (s : State) : Prop := ∀ (op : Nat) (pr : PerKeyRec), s.perkeys[op]? = some pr → NoRemOp s pr

/-! ## the frame of a step of the drain -/

/-- what every step of the drain keeps (`eKey`: state fields; `frameB`: round number, cells, stamps of this round, read in
the virtual states; old nodes keep their actual kind and the fields no step touches; nodes are only appended) -/
structure PStep (s s' : State) : Prop where
  frameB : BindH.FrameB (V s) (V s')
  grow : s.nodes.size ≤ s'.nodes.size
  key : eKey s' = eKey s
  node : ∀ m, m < s.nodes.size → dnKey (s'.nodeD m) = dnKey (s.nodeD m)
  /-- nodes created by the step have no observers -/
  newObs : ∀ m, s.nodes.size ≤ m → (s'.nodeD m).observers = []

/-! ## contracts of the drain -/

/-- **a run of a per-key change detector** -/
def LcStepSpec (env : Env) : Prop :=
  ∀ (fuel n op : Nat) (args : List Nat) (s s' : State) (r : Option Nat), PD env s (some n) → NoRem s →
    (s.nodeD n).kind = .map (fnPerKey + op) args →
    (recomputeOne env fuel n).run.run s = (.ok r, s') →
    PD env s' r ∧ NoRem s' ∧ PStep s s' ∧ ((V s').nodeD n).recomputedAt = s.stabNum

/-- **a run of an expert node** (a per-key input node or the result of an operator) -/
def XStepSpec (env : Env) : Prop :=
  ∀ (fuel n e : Nat) (s s' : State) (r : Option Nat), PD env s (some n) → NoRem s →
    (s.nodeD n).kind = .expert e →
    (recomputeOne env fuel n).run.run s = (.ok r, s') →
    PD env s' r ∧ NoRem s' ∧ PStep s s' ∧ ((V s').nodeD n).recomputedAt = s.stabNum

/-- **a run of any other node** (`const`, `var`, `fold`, `map` with a pure user function or built-in) -/
def StaticStepSpec (env : Env) : Prop :=
  ∀ (fuel n : Nat) (s s' : State) (r : Option Nat), PD env s (some n) → NoRem s →
    (∀ e, (s.nodeD n).kind ≠ .expert e) → (∀ f args, (s.nodeD n).kind = .map f args → f < fnPerKey) →
    (recomputeOne env fuel n).run.run s = (.ok r, s') →
    PD env s' r ∧ NoRem s' ∧ PStep s s' ∧ ((V s').nodeD n).recomputedAt = s.stabNum

def StepSpecP (env : Env) : Prop :=
  ∀ (fuel n : Nat) (s s' : State) (r : Option Nat), PD env s (some n) → NoRem s →
    (recomputeOne env fuel n).run.run s = (.ok r, s') →
    PD env s' r ∧ NoRem s' ∧ PStep s s' ∧ ((V s').nodeD n).recomputedAt = s.stabNum

def PopSpecP (env : Env) : Prop :=
  ∀ (s s1 : State) (n : Nat), PD env s none → NoRem s → rchRemoveMin.run.run s = (.ok (some n), s1) →
    PD env s1 (some n) ∧ NoRem s1 ∧ PStep s s1

def DrainSpecP (env : Env) : Prop :=
  ∀ (fuel : Nat) (s s' : State), PD env s none → NoRem s → (drainHeap env fuel).run.run s = (.ok (), s') →
    PD env s' none ∧ NoRem s' ∧ s'.rch.length = 0 ∧ PStep s s' ∧ (drainTrace env fuel s).Nodup

/-! ## the invariant between API actions -/

structure PQ (env : Env) (rk : Nat → Nat) (s : State) : Prop where
  frag : PFrag env s
  q : QR.QInv (penv env) rk (V s)
  ahh : QR.AhhEmpty s
  pk : PKOK env s
  slots : SlotInv env s
  norem : NoRem s

/-! ## the specification of the output -/

def evalOpnd (ov : Nat → Option Val) (loc : List (Option Val)) : Opnd → Option Val
  | .outer k => ov k
  | .loc j => (loc[j]?).join
  | _ => none

/-- from-scratch evaluation of one template instruction (`key` = the key constant) -/
def evalInstr (env : Env) (ov : Nat → Option Val) (loc : List (Option Val)) (key : Int) : Instr → Option Val
  | .const v => some v
  | .lhsConst => some (.int key)
  | .map f args => (args.mapM (evalOpnd ov loc)).map (env.fn f)
  | .fold f init cs => (cs.mapM (evalOpnd ov loc)).map (List.foldl (env.foldStep f) init)
  | _ => none

/-- `F_fam(key, v)`: from-scratch evaluation of the template on the entry `(key, v)` (`%0 = v`) and the current values
`ov k` of the outer nodes `n<k>` -/
def evalTempl (env : Env) (ov : Nat → Option Val) (t : Template) (key v : Int) : Option Val :=
  evalOpnd ov (t.instrs.foldl (fun loc i => loc ++ [evalInstr env ov loc key i]) [some (.int v)]) t.ret

/-- the map `{k ↦ F_fam(k, v) | (k, v) ∈ m}` -/
def specMap (env : Env) (ov : Nat → Option Val) (t : Template) (m : List (Int × Int)) : Option (List (Int × Int)) :=
  m.mapM fun kv => (evalTempl env ov t kv.1 kv.2).map fun w => (kv.1, w.toInt)

/-- the output of every operator whose output node is necessary is the specified map of the CURRENT value of its input
variable and the current values of the outer nodes -/
def OutputOK (env : Env) (s : State) : Prop :=
  ∀ (op : Nat) (pr : PerKeyRec), s.perkeys[op]? = some pr → s.isNecessary (pr.result + 2) = true →
    ∃ x c vc mx mo, (s.nodeD (pr.result - 1)).kind = .map fnIdent [x] ∧ (s.nodeD x).kind = .var c ∧
      s.vars[c]? = some vc ∧ vc.value = .map mx ∧
      s.value env (pr.result + 2) = some (.map mo) ∧
      specMap env (fun k => (s.top[k]?).bind fun o => s.value env o) (env.perKey pr.fam) mx = some mo

/-- what a `stabilise` establishes -/
structure StabilisedP (env : Env) (fuel : Nat) (s s' : State) : Prop where
  inv : ∃ rk', PQ env rk' s'
  /-- every necessary node is not stale -/
  settled : ∀ n, s'.isNecessary n = true → s'.isStale n = false
  output : OutputOK env s'
  obs : QR.ObsSettled s'
  vars : s'.vars = s.vars
  stabNum : s'.stabNum = s.stabNum + 1
  grow : s.nodes.size ≤ s'.nodes.size
  drain : ∃ t1 t2 t3, (addNewObservers env fuel).run.run { s with status := .stabilising } = (.ok (), t1) ∧
    (unlinkDisallowedObservers fuel).run.run t1 = (.ok (), t2) ∧ PD env t2 none ∧
    (drainHeap env fuel).run.run t2 = (.ok (), t3) ∧ PD env t3 none ∧ t3.rch.length = 0 ∧
    (drainTrace env fuel t2).Nodup ∧ (stabiliseEnd env fuel).run.run t3 = (.ok (), s')

def StabSpecP (env : Env) : Prop :=
  ∀ (rk : Nat → Nat) (fuel : Nat) (s s' : State), PQ env rk s →
    (stabilise env fuel).run.run s = (.ok (), s') → StabilisedP env fuel s s'

end IncrVerif.Proofs.PerKeyH
