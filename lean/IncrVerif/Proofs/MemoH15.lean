import IncrVerif.Proofs.MemoH14
/-!
# K3, recompute part (2): `recomputeOne` is a `TV` step
-/
namespace IncrVerif.Proofs.MemoH
open IncrVerif.Engine IncrVerif.Proofs.Obs IncrVerif.Proofs.Memo

namespace KB

/-- leaves from the contract and from goal 1 (hypotheses `ASpec env`, `EnvK3 env` found by `assumption`) -/
macro "aleaf" : tactic => `(tactic| first
  | with_reducible exact ASpec.prop (by assumption) _
  | with_reducible exact ASpec.bnp (by assumption) _ _
  | with_reducible exact ASpec.sap (by assumption) _ _ _ _
  | with_reducible exact ASpec.ccbr (by assumption) _ _ _ _ _
  | with_reducible exact ASpec.xadd (by assumption) _ _ _ _
  | with_reducible exact ASpec.effs (by assumption) _ _ _ (EnvK3.fnEff (by assumption) _ _)
  | with_reducible exact ASpec.effs (by assumption) _ _ _ (EnvK3.handler (by assumption) _ _)
  | with_reducible exact ASpec.ano (by assumption) _
  | with_reducible exact ASpec.send (by assumption) _
  | with_reducible exact KB.elabTemplate _ _ _
  | with_reducible exact KB.elabInstrM _ _ _ _
  | with_reducible exact KB.memoCall _ _ _)

macro_rules | `(tactic| mleaf) => `(tactic| aleaf)

/-- non-structural closing of a `Pres TV` atom -/
macro "matom" : tactic => `(tactic| first
  | with_reducible apply Pres.pure | with_reducible apply Pres.get | with_reducible apply Pres.panic
  | with_reducible apply Pres.throw
  | with_reducible apply Pres.getNode | with_reducible apply Pres.dassert
  | with_reducible apply Pres.getBind | with_reducible apply Pres.getExpert
  | with_reducible apply Pres.getVar | with_reducible apply Pres.assertM
  | with_reducible apply Pres.getObs | with_reducible apply Pres.isConstant
  | with_reducible apply Pres.resolveOpnd
  | with_reducible apply Pres.mapM
  | mleaf)

macro "kstep" : tactic => `(tactic| first
  | with_reducible apply PresK.getNode_bind (I := TrueP)
  | with_reducible apply PresK.getBind_bind
  | with_reducible apply PresK.forIn_mem
  | with_reducible apply PresK.bind
  | ((with_reducible apply PresK.of_pres); matom)
  | intro _ | split | dsimp only)

macro "kpres" : tactic => `(tactic| repeat (any_goals (first | kstep | mstep)))

set_option maxHeartbeats 1000000 in
theorem recomputeOneK {env : Env} (hA : ASpec env) (henv : EnvK3 env) (fuel n : Nat) :
    PresK TrueP (recomputeOne env fuel n) := by
  unfold Engine.recomputeOne
  kpres
  all_goals have hk := Step.kind_of_kind? (by assumption)
  all_goals rw [hk]
  all_goals first
    | exact PresK.dead (PresI.perKeyDriver _ _ _ _) fun s hs => KindAt.notNoPK hs.2 (by assumption)
    | exact PresK.invalidate hA _ _ fun s hs => Sc.notSTop hs.2 (by assumption)
    | exact PresK.invalidate hA _ _ fun s hs => KindAt.notSTop hs.1.2 (fun h => h)
    | exact PresK.invalidate hA _ _ fun s hs => KindAt.notSTop hs.2 (fun h => h)

/-- goal 2 -/
theorem recomputeOne {env : Env} (hA : ASpec env) (henv : EnvK3 env) (fuel n : Nat) :
    Pres TV (Engine.recomputeOne env fuel n) := (recomputeOneK hA henv fuel n).toPres

end KB

end IncrVerif.Proofs.MemoH
