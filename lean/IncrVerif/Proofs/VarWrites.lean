import IncrVerif.Proofs.Heights
/-!
# Helper lemmas for C08 (var writes)

Master equations for `didSetVarWhileNotStabilising`, `writeVar` (both modes), the var phase of
`stabiliseEnd`, in the `(m).run.run s = <closed form>` style of `Proofs/Heights.lean`.
-/
namespace IncrVerif.Proofs
open IncrVerif.Engine

/-! ## state transformers used in the closed forms -/

/-- var cell `v` replaced by `c` -/
def withCell (v : Nat) (c : VarCell) (s : State) : State :=
  { s with vars := s.vars.setIfInBounds v c }

/-- the `num_var_sets` counter incremented -/
def bumped (s : State) : State :=
  { s with counters := { s.counters with varSets := s.counters.varSets + 1 } }

theorem modify_eq_setIfInBounds {α} (a : Array α) (v : Nat) (x : α) (g : α → α) (h : a[v]? = some x) :
    a.modify v g = a.setIfInBounds v (g x) := by
  apply Array.ext_getElem?
  intro i
  rw [Array.getElem?_modify, Array.getElem?_setIfInBounds]
  by_cases hi : v = i
  · subst hi
    obtain ⟨hlt, hx⟩ := Array.getElem?_eq_some_iff.1 h
    simp [hlt, hx]
  · simp [hi]

theorem withCell_get (v : Nat) (c vc : VarCell) (s : State) (hv : s.vars[v]? = some vc) :
    (withCell v c s).vars[v]? = some c := by
  have hlt : v < s.vars.size := by
    rcases Nat.lt_or_ge v s.vars.size with h1 | h1
    · exact h1
    · rw [Array.getElem?_eq_none h1] at hv; cases hv
  simp [withCell, hlt]

theorem withCell_get_ne (v w : Nat) (c : VarCell) (s : State) (h : w ≠ v) :
    (withCell v c s).vars[w]? = s.vars[w]? := by
  simp [withCell, Ne.symm h]

theorem withCell_withCell (v : Nat) (c c' : VarCell) (s : State) :
    withCell v c' (withCell v c s) = withCell v c' s := by
  simp [withCell, Array.setIfInBounds_setIfInBounds]

theorem withCell_self (v : Nat) (vc : VarCell) (s : State) (hv : s.vars[v]? = some vc) :
    withCell v vc s = s := by
  have : s.vars.setIfInBounds v vc = s.vars := by
    apply Array.ext_getElem?
    intro i
    rw [Array.getElem?_setIfInBounds]
    by_cases hi : v = i
    · subst hi
      obtain ⟨hlt, hx⟩ := Array.getElem?_eq_some_iff.1 hv
      simp [hlt, hx]
    · simp [hi]
  simp [withCell, this]

/-! ## running the var primitives -/

theorem run_getVar (v : Nat) (s : State) :
    (getVar v).run.run s = match s.vars[v]? with
      | some x => (.ok x, s)
      | none => (.error (.site "model:no-such-var"), s) := by
  simp only [getVar, run_bind, run_get]
  cases s.vars[v]? <;> rfl

theorem run_modVar (v : Nat) (g : VarCell → VarCell) (s : State) (vc : VarCell)
    (hv : s.vars[v]? = some vc) :
    (modVar v g).run.run s = (.ok (), withCell v (g vc) s) := by
  show ((Except.ok () : Except Panic Unit), { s with vars := s.vars.modify v g }) = _
  rw [modify_eq_setIfInBounds _ _ _ _ hv]; rfl

theorem run_bumpCounter_varSets (s : State) :
    (bumpCounter fun c => { c with varSets := c.varSets + 1 }).run.run s = (.ok (), bumped s) := rfl

/-! ## `didSetVarWhileNotStabilising` -/

/-- relabel the result of a run, keeping panics -/
def mapOk {α β} (b : β) (r : Except Panic α × State) : Except Panic β × State :=
  match r with
  | (.ok _, s') => (.ok b, s')
  | (.error e, s') => (.error e, s')

theorem didSet_run (v : Nat) (s : State) (vc : VarCell) (hv : s.vars[v]? = some vc) :
    (didSetVarWhileNotStabilising v).run.run s =
      if vc.linked = false then (.error (.site "var:abandoned-watch-node"), s)
      else if s.stabNum ≤ vc.setAt then (.ok (), bumped s)
      else
        let W := bumped (withCell v { vc with setAt := s.stabNum } s)
        if s.cfg.debug = true ∧ (!(s.nodeD vc.node).valid || W.isStale vc.node) = false then
          (.error (.site "var:did_set:watch-stale"), W)
        else if ((s.nodeD vc.node).valid && s.isNecessary vc.node && !(s.nodeD vc.node).inRch) = true then
          (rchInsert vc.node).run.run W
        else (.ok (), W) := by
  simp only [didSetVarWhileNotStabilising, run_bind, run_getVar, hv, run_ite, run_panic, run_pure,
    run_bumpCounter_varSets, run_get]
  by_cases hl : vc.linked = false
  · have : (!vc.linked) = true := by simp [hl]
    rw [if_pos this, if_pos hl]
  · have : ¬ (!vc.linked) = true := by simpa using hl
    rw [if_neg this, if_neg hl]
    by_cases hlt : s.stabNum ≤ vc.setAt
    · have : ¬ vc.setAt < (bumped s).stabNum := by show ¬ vc.setAt < s.stabNum; omega
      rw [if_neg this, if_pos hlt]
    · have : vc.setAt < (bumped s).stabNum := by show vc.setAt < s.stabNum; omega
      rw [if_pos this, if_neg hlt]
      have hvb : (bumped s).vars[v]? = some vc := hv
      simp only [run_modVar _ _ _ _ hvb, run_dassert]
      have hW : withCell v { vc with setAt := (bumped s).stabNum } (bumped s)
          = bumped (withCell v { vc with setAt := s.stabNum } s) := rfl
      rw [hW]
      generalize hWdef : bumped (withCell v { vc with setAt := s.stabNum } s) = W
      have hc : W.cfg.debug = s.cfg.debug := by subst hWdef; rfl
      have hn : W.isNecessary vc.node = s.isNecessary vc.node := by subst hWdef; rfl
      have hd : W.nodeD vc.node = s.nodeD vc.node := by subst hWdef; rfl
      rw [hc, hn, hd]
      by_cases hs : s.cfg.debug = true ∧ (!(s.nodeD vc.node).valid || W.isStale vc.node) = false
      · simp only [if_pos hs]
      · simp only [if_neg hs]

/-! ## `writeVar` -/

/-- the state after a write deferred during stabilisation -/
def deferred (v : Nat) (vc : VarCell) (f : Val → Val) (s : State) : State :=
  { s with vars := s.vars.setIfInBounds v { vc with pending := some (f (vc.pending.getD vc.value)) },
           setDuringStab := if vc.pending = none then v :: s.setDuringStab else s.setDuringStab }

theorem writeVar_inside_run (v : Nat) (f : Val → Val) (isSet : Bool) (s : State) (vc : VarCell)
    (hv : s.vars[v]? = some vc) (hst : s.status = .stabilising) :
    (writeVar v f isSet).run.run s = (.ok (vc.pending.getD vc.value), deferred v vc f s) := by
  simp only [writeVar, run_bind, run_getVar, hv, run_get, hst]
  cases hp : vc.pending with
  | none =>
    have hv' : ({ s with setDuringStab := v :: s.setDuringStab } : State).vars[v]? = some vc := hv
    simp only [run_bind, run_modify, run_modVar _ _ _ _ hv', run_pure, deferred, hp, withCell,
      Option.getD_none, if_true, ite_self]
  | some d =>
    simp only [run_bind, run_modVar _ _ _ _ hv, run_pure, deferred, hp, withCell, Option.getD_some]
    simp

theorem writeVar_outside_run (v : Nat) (f : Val → Val) (isSet : Bool) (s : State) (vc : VarCell)
    (hv : s.vars[v]? = some vc) (hst : s.status ≠ .stabilising) :
    (writeVar v f isSet).run.run s =
      mapOk vc.value ((didSetVarWhileNotStabilising v).run.run
        (withCell v { vc with value := f vc.value } s)) := by
  simp only [writeVar, run_bind, run_getVar, hv, run_get]
  cases hs : s.status with
  | stabilising => exact absurd hs hst
  | notStabilising =>
    simp only [run_modVar _ _ _ _ hv, run_pure, mapOk]
    generalize (didSetVarWhileNotStabilising v).run.run _ = r
    rcases r with ⟨_ | _, _⟩ <;> rfl
  | runningOnUpdateHandlers =>
    simp only [run_modVar _ _ _ _ hv, run_pure, mapOk]
    generalize (didSetVarWhileNotStabilising v).run.run _ = r
    rcases r with ⟨_ | _, _⟩ <;> rfl

/-- the state after an immediate write that also stamps `set_at` (before any heap insertion) -/
def stampedWrite (v : Nat) (vc : VarCell) (x : Val) (s : State) : State :=
  bumped (withCell v { vc with value := x, setAt := s.stabNum } s)

theorem mapOk_ite {α β} (b : β) (c : Prop) [Decidable c] (x y : Except Panic α × State) :
    mapOk b (if c then x else y) = if c then mapOk b x else mapOk b y := by
  split <;> rfl

theorem writeVar_outside_closed (v : Nat) (f : Val → Val) (isSet : Bool) (s : State) (vc : VarCell)
    (hv : s.vars[v]? = some vc) (hst : s.status ≠ .stabilising) :
    (writeVar v f isSet).run.run s =
      if vc.linked = false then
        (.error (.site "var:abandoned-watch-node"), withCell v { vc with value := f vc.value } s)
      else if s.stabNum ≤ vc.setAt then
        (.ok vc.value, bumped (withCell v { vc with value := f vc.value } s))
      else if s.cfg.debug = true ∧ (!(s.nodeD vc.node).valid ||
          (stampedWrite v vc (f vc.value) s).isStale vc.node) = false then
        (.error (.site "var:did_set:watch-stale"), stampedWrite v vc (f vc.value) s)
      else if ((s.nodeD vc.node).valid && s.isNecessary vc.node && !(s.nodeD vc.node).inRch) = true then
        mapOk vc.value ((rchInsert vc.node).run.run (stampedWrite v vc (f vc.value) s))
      else (.ok vc.value, stampedWrite v vc (f vc.value) s) := by
  rw [writeVar_outside_run v f isSet s vc hv hst,
    didSet_run v _ _ (withCell_get v _ vc s hv)]
  simp only [withCell_withCell, mapOk_ite]
  rfl

theorem isNecessary_node (s : State) (n : Nat) (h : s.isNecessary n = true) :
    ∃ nd, s.nodes[n]? = some nd ∧ s.nodeD n = nd := by
  unfold State.isNecessary State.nodeD at h
  unfold State.nodeD
  cases hn : s.nodes[n]? with
  | none => rw [hn] at h; exact absurd h (by decide)
  | some nd => exact ⟨nd, rfl, rfl⟩

/-- `is_stale` of a var's watch node only looks at the cell's `set_at` -/
theorem isStale_var (s : State) (n v : Nat) (nd : Node) (c : VarCell)
    (hn : s.nodes[n]? = some nd) (hk : nd.kind = .var v) (hc : s.vars[v]? = some c) :
    s.isStale n = (nd.valid && decide (c.setAt > nd.recomputedAt)) := by
  unfold State.isStale
  have : s.nodeD n = nd := by simp [State.nodeD, hn]
  simp only [this, Node.kind?]
  cases hval : nd.valid
  · simp
  · simp [hk, hc]

/-- exact result of an immediate write: which panic, or the old value -/
theorem writeVar_outside_result (v : Nat) (f : Val → Val) (isSet : Bool) (s : State) (vc : VarCell)
    (hv : s.vars[v]? = some vc) (hst : s.status ≠ .stabilising) :
    ((writeVar v f isSet).run.run s).1 =
      if vc.linked = false then .error (.site "var:abandoned-watch-node")
      else if s.stabNum ≤ vc.setAt then .ok vc.value
      else if s.cfg.debug = true ∧ (!(s.nodeD vc.node).valid ||
          (stampedWrite v vc (f vc.value) s).isStale vc.node) = false then
        .error (.site "var:did_set:watch-stale")
      else if ((s.nodeD vc.node).valid && s.isNecessary vc.node && !(s.nodeD vc.node).inRch) = false then
        .ok vc.value
      else if s.cfg.debug = true ∧ (s.nodeD vc.node).height > s.rch.maxAllowed then
        .error (.site "recompute_heap:insert:height<=max")
      else if (s.nodeD vc.node).height < 0 then .error (.site "recompute_heap:link:height>=0")
      else if (s.nodeD vc.node).height > s.rch.maxAllowed then
        .error (.site "recompute_heap:link:height<=max")
      else .ok vc.value := by
  rw [writeVar_outside_closed v f isSet s vc hv hst]
  by_cases h1 : vc.linked = false
  · rw [if_pos h1, if_pos h1]
  rw [if_neg h1, if_neg h1]
  by_cases h2 : s.stabNum ≤ vc.setAt
  · rw [if_pos h2, if_pos h2]
  rw [if_neg h2, if_neg h2]
  by_cases h3 : s.cfg.debug = true ∧ (!(s.nodeD vc.node).valid ||
      (stampedWrite v vc (f vc.value) s).isStale vc.node) = false
  · rw [if_pos h3, if_pos h3]
  rw [if_neg h3, if_neg h3]
  cases h4 : ((s.nodeD vc.node).valid && s.isNecessary vc.node && !(s.nodeD vc.node).inRch)
  · simp
  · simp only [if_true, Bool.true_eq_false, if_false]
    have h4' : s.isNecessary vc.node = true ∧ (!(s.nodeD vc.node).inRch) = true := by
      rw [Bool.and_eq_true, Bool.and_eq_true] at h4; exact ⟨h4.1.2, h4.2⟩
    have hvalid : (s.nodeD vc.node).valid = true := by
      rw [Bool.and_eq_true, Bool.and_eq_true] at h4; exact h4.1.1
    obtain ⟨nd, hnd, hD⟩ := isNecessary_node s vc.node h4'.1
    have hndW : (stampedWrite v vc (f vc.value) s).nodes[vc.node]? = some nd := hnd
    rw [rchInsert_run, hndW, hD]
    simp only
    have hpre : ¬ ((stampedWrite v vc (f vc.value) s).cfg.debug = true ∧
        (!nd.inRch && (stampedWrite v vc (f vc.value) s).needsToBeComputed vc.node) = false) := by
      rintro ⟨hd, hp⟩
      have hd' : s.cfg.debug = true := hd
      have hstale : (stampedWrite v vc (f vc.value) s).isStale vc.node = true := by
        cases hx : (stampedWrite v vc (f vc.value) s).isStale vc.node
        · exact absurd ⟨hd', by rw [hx, hvalid]; rfl⟩ h3
        · rfl
      have hnec : (stampedWrite v vc (f vc.value) s).isNecessary vc.node = true := h4'.1
      rw [hD] at h4'
      simp [State.needsToBeComputed, hstale, hnec, h4'.2] at hp
    rw [if_neg hpre]
    have e1 : (stampedWrite v vc (f vc.value) s).cfg.debug = s.cfg.debug := rfl
    have e2 : (stampedWrite v vc (f vc.value) s).rch = s.rch := rfl
    rw [e1, e2]
    by_cases h5 : s.cfg.debug = true ∧ nd.height > s.rch.maxAllowed
    · rw [if_pos h5, if_pos h5]; rfl
    rw [if_neg h5, if_neg h5]
    by_cases h6 : nd.height < 0
    · rw [if_pos h6, if_pos h6]; rfl
    rw [if_neg h6, if_neg h6]
    by_cases h7 : nd.height > s.rch.maxAllowed
    · rw [if_pos h7, if_pos h7]; rfl
    rw [if_neg h7, if_neg h7]; rfl

theorem mapOk_eq_ok {α β} (b r : β) (x : Except Panic α × State) (s' : State)
    (h : mapOk b x = (.ok r, s')) : r = b ∧ ∃ u, x = (.ok u, s') := by
  rcases x with ⟨_ | u, s''⟩
  · cases h
  · cases h; exact ⟨rfl, u, rfl⟩

/-- the final state of a successful immediate write -/
def wroteOutside (v : Nat) (vc : VarCell) (x : Val) (s : State) : State :=
  if s.stabNum ≤ vc.setAt then bumped (withCell v { vc with value := x } s)
  else if ((s.nodeD vc.node).valid && s.isNecessary vc.node && !(s.nodeD vc.node).inRch) = true then
    inserted vc.node (s.nodeD vc.node).height (stampedWrite v vc x s)
  else stampedWrite v vc x s

theorem wroteOutside_sizes (v : Nat) (vc : VarCell) (x : Val) (s : State) :
    (wroteOutside v vc x s).vars.size = s.vars.size ∧
      (wroteOutside v vc x s).rch.queues.size = s.rch.queues.size := by
  unfold wroteOutside
  split
  · simp [bumped, withCell]
  · split
    · simp [inserted, stampedWrite, bumped, withCell]
    · simp [stampedWrite, bumped, withCell]

theorem writeVar_outside_ok (v : Nat) (f : Val → Val) (isSet : Bool) (s s' : State) (vc : VarCell)
    (r : Val) (hv : s.vars[v]? = some vc) (hst : s.status ≠ .stabilising)
    (hr : (writeVar v f isSet).run.run s = (.ok r, s')) :
    r = vc.value ∧ s' = wroteOutside v vc (f vc.value) s ∧ vc.linked = true ∧
    (vc.setAt < s.stabNum → s.cfg.debug = true → (s.nodeD vc.node).valid = true →
      (stampedWrite v vc (f vc.value) s).isStale vc.node = true) ∧
    (vc.setAt < s.stabNum →
      ((s.nodeD vc.node).valid && s.isNecessary vc.node && !(s.nodeD vc.node).inRch) = true →
      0 ≤ (s.nodeD vc.node).height ∧ (s.nodeD vc.node).height ≤ s.rch.maxAllowed) := by
  rw [writeVar_outside_closed v f isSet s vc hv hst] at hr
  unfold wroteOutside
  by_cases h1 : vc.linked = false
  · rw [if_pos h1] at hr; cases hr
  rw [if_neg h1] at hr
  have hl : vc.linked = true := by simpa using h1
  by_cases h2 : s.stabNum ≤ vc.setAt
  · rw [if_pos h2] at hr; cases hr
    rw [if_pos h2]
    exact ⟨rfl, rfl, hl, fun h => by omega, fun h => by omega⟩
  rw [if_neg h2] at hr
  rw [if_neg h2]
  by_cases h3 : s.cfg.debug = true ∧ (!(s.nodeD vc.node).valid ||
      (stampedWrite v vc (f vc.value) s).isStale vc.node) = false
  · rw [if_pos h3] at hr; cases hr
  rw [if_neg h3] at hr
  have hstale : s.cfg.debug = true → (s.nodeD vc.node).valid = true →
      (stampedWrite v vc (f vc.value) s).isStale vc.node = true := by
    intro hd hval
    cases hx : (stampedWrite v vc (f vc.value) s).isStale vc.node
    · exact absurd ⟨hd, by rw [hx, hval]; rfl⟩ h3
    · rfl
  by_cases h4 : ((s.nodeD vc.node).valid && s.isNecessary vc.node && !(s.nodeD vc.node).inRch) = true
  · rw [if_pos h4] at hr
    rw [if_pos h4]
    obtain ⟨hrv, u, hu⟩ := mapOk_eq_ok _ _ _ _ hr
    obtain ⟨nd, hnd, hge, hle, hs'⟩ := Step.rchInsert_ok_inv hu
    have hD : s.nodeD vc.node = nd := by
      have : s.nodes[vc.node]? = some nd := hnd
      simp [State.nodeD, this]
    rw [hD] at hstale
    rw [hD]
    exact ⟨hrv, hs', hl, fun _ => hstale, fun _ _ => ⟨hge, hle⟩⟩
  · rw [if_neg h4] at hr
    rw [if_neg h4]
    cases hr
    exact ⟨rfl, rfl, hl, fun _ => hstale, fun _ h => absurd h h4⟩

/-! ## what the final state of an immediate write looks like -/

theorem wroteOutside_vars (v : Nat) (vc : VarCell) (x : Val) (s : State) (hv : s.vars[v]? = some vc) :
    (wroteOutside v vc x s).vars[v]? =
        some { vc with value := x, setAt := if vc.setAt < s.stabNum then s.stabNum else vc.setAt } ∧
      (∀ w, w ≠ v → (wroteOutside v vc x s).vars[w]? = s.vars[w]?) := by
  unfold wroteOutside
  by_cases h2 : s.stabNum ≤ vc.setAt
  · have h3 : ¬ vc.setAt < s.stabNum := by omega
    simp only [if_pos h2, if_neg h3]
    exact ⟨withCell_get v _ vc s hv, fun w hw => withCell_get_ne v w _ s hw⟩
  · have h3 : vc.setAt < s.stabNum := by omega
    simp only [if_neg h2, if_pos h3]
    have hA := withCell_get v { vc with value := x, setAt := s.stabNum } vc s hv
    have hB : ∀ w, w ≠ v →
        (withCell v { vc with value := x, setAt := s.stabNum } s).vars[w]? = s.vars[w]? :=
      fun w hw => withCell_get_ne v w _ s hw
    split
    · exact ⟨hA, hB⟩
    · exact ⟨hA, hB⟩

theorem wroteOutside_frame (v : Nat) (vc : VarCell) (x : Val) (s : State) :
    (wroteOutside v vc x s).stabNum = s.stabNum ∧ (wroteOutside v vc x s).status = s.status ∧
    (wroteOutside v vc x s).setDuringStab = s.setDuringStab ∧
    (wroteOutside v vc x s).cfg = s.cfg ∧ (wroteOutside v vc x s).ahh = s.ahh ∧
    (wroteOutside v vc x s).maxHeightSeen = s.maxHeightSeen ∧
    (wroteOutside v vc x s).counters.varSets = s.counters.varSets + 1 ∧
    (wroteOutside v vc x s).nodes.size = s.nodes.size ∧
    (wroteOutside v vc x s).observers = s.observers ∧
    (∀ n, n ≠ vc.node → (wroteOutside v vc x s).nodes[n]? = s.nodes[n]?) := by
  unfold wroteOutside
  split
  · exact ⟨rfl, rfl, rfl, rfl, rfl, rfl, rfl, rfl, rfl, fun _ _ => rfl⟩
  · split
    · refine ⟨rfl, rfl, rfl, rfl, rfl, rfl, rfl, ?_, rfl, ?_⟩
      · simp [inserted, stampedWrite, bumped, withCell]
      · intro n hn
        simp [inserted, stampedWrite, bumped, withCell, Array.getElem?_modify, Ne.symm hn]
    · exact ⟨rfl, rfl, rfl, rfl, rfl, rfl, rfl, rfl, rfl, fun _ _ => rfl⟩

/-- same stabilisation round: only the value and the counter move -/
theorem wroteOutside_same_round (v : Nat) (vc : VarCell) (x : Val) (s : State)
    (h : s.stabNum ≤ vc.setAt) :
    wroteOutside v vc x s = bumped (withCell v { vc with value := x } s) := by
  unfold wroteOutside; rw [if_pos h]

theorem wroteOutside_node (v : Nat) (vc : VarCell) (x : Val) (s : State) (nd : Node)
    (hn : s.nodes[vc.node]? = some nd) :
    ∃ nd', (wroteOutside v vc x s).nodes[vc.node]? = some nd' ∧ nd'.kind = nd.kind ∧
      nd'.valid = nd.valid ∧ nd'.recomputedAt = nd.recomputedAt ∧ nd'.height = nd.height ∧
      nd'.parents = nd.parents ∧ nd'.observers = nd.observers ∧
      nd'.forceNecessary = nd.forceNecessary := by
  unfold wroteOutside
  split
  · exact ⟨nd, hn, rfl, rfl, rfl, rfl, rfl, rfl, rfl⟩
  · split
    · refine ⟨{ nd with heightInRch := (s.nodeD vc.node).height }, ?_, rfl, rfl, rfl, rfl, rfl, rfl, rfl⟩
      have : s.nodes[vc.node]? = some nd := hn
      simp [inserted, stampedWrite, bumped, withCell, Array.getElem?_modify, this]
    · exact ⟨nd, hn, rfl, rfl, rfl, rfl, rfl, rfl, rfl⟩

/-- after a write in a later round the watch node is stale (when it is a valid `Var` node that was
last recomputed in an earlier round) -/
theorem wroteOutside_stale (v : Nat) (vc : VarCell) (x : Val) (s : State) (nd : Node)
    (hv : s.vars[v]? = some vc) (hlt : vc.setAt < s.stabNum)
    (hn : s.nodes[vc.node]? = some nd) (hk : nd.kind = .var v) :
    (wroteOutside v vc x s).isStale vc.node = (nd.valid && decide (nd.recomputedAt < s.stabNum)) := by
  obtain ⟨nd', hn', hk', hva, hre, -⟩ := wroteOutside_node v vc x s nd hn
  have hc := (wroteOutside_vars v vc x s hv).1
  rw [isStale_var _ _ v nd' _ hn' (by rw [hk', hk]) hc, hva, hre, if_pos hlt]

theorem wroteOutside_necessary (v : Nat) (vc : VarCell) (x : Val) (s : State) :
    (wroteOutside v vc x s).isNecessary vc.node = s.isNecessary vc.node := by
  cases hn : s.nodes[vc.node]? with
  | none =>
    have h1 : s.isNecessary vc.node = false := by
      cases h : s.isNecessary vc.node
      · rfl
      · obtain ⟨nd, hnd, _⟩ := isNecessary_node s _ h
        rw [hn] at hnd; cases hnd
    rw [h1]
    unfold wroteOutside
    split
    · exact h1
    · rw [if_neg (by simp [h1])]; exact h1
  | some nd =>
    obtain ⟨nd', hn', _, _, _, _, hp, ho, hf⟩ := wroteOutside_node v vc x s nd hn
    have hn2 : s.nodes[vc.node]? = some nd := hn
    simp [State.isNecessary, State.nodeD, hn', hn2, Node.isNecessary, hp, ho, hf]

/-- later round, watch node necessary and not yet queued: it is appended to the bucket of its height -/
theorem wroteOutside_queued (v : Nat) (vc : VarCell) (x : Val) (s : State)
    (hlt : vc.setAt < s.stabNum)
    (hq : ((s.nodeD vc.node).valid && s.isNecessary vc.node && !(s.nodeD vc.node).inRch) = true) :
    (wroteOutside v vc x s).rch.queues =
        s.rch.queues.modify (s.nodeD vc.node).height.toNat (· ++ [vc.node]) ∧
    (wroteOutside v vc x s).rch.length = s.rch.length + 1 ∧
    ((wroteOutside v vc x s).nodeD vc.node).heightInRch = (s.nodeD vc.node).height ∧
    (wroteOutside v vc x s).isStable = false := by
  have hlt' : ¬ s.stabNum ≤ vc.setAt := by omega
  unfold wroteOutside
  rw [if_neg hlt', if_pos hq]
  rw [Bool.and_eq_true, Bool.and_eq_true] at hq
  obtain ⟨nd, hnd, hD⟩ := isNecessary_node s _ hq.1.2
  refine ⟨rfl, rfl, ?_, ?_⟩
  · have : s.nodes[vc.node]? = some nd := hnd
    simp [inserted, stampedWrite, bumped, withCell, State.nodeD, Array.getElem?_modify, this]
  · simp [State.isStable, inserted]

/-- later round, watch node invalid, unnecessary or already queued: heap and nodes untouched -/
theorem wroteOutside_not_queued (v : Nat) (vc : VarCell) (x : Val) (s : State)
    (hq : ¬ ((s.nodeD vc.node).valid && s.isNecessary vc.node && !(s.nodeD vc.node).inRch) = true) :
    (wroteOutside v vc x s).rch = s.rch ∧ (wroteOutside v vc x s).nodes = s.nodes := by
  unfold wroteOutside
  split
  · exact ⟨rfl, rfl⟩
  · exact ⟨rfl, rfl⟩

/-- later round: afterwards the watch node is queued iff it was queued or is valid and necessary -/
theorem wroteOutside_inRch (v : Nat) (vc : VarCell) (x : Val) (s : State)
    (hlt : vc.setAt < s.stabNum)
    (hh : ((s.nodeD vc.node).valid && s.isNecessary vc.node && !(s.nodeD vc.node).inRch) = true →
      0 ≤ (s.nodeD vc.node).height) :
    ((wroteOutside v vc x s).nodeD vc.node).inRch =
      ((s.nodeD vc.node).inRch || ((s.nodeD vc.node).valid && s.isNecessary vc.node)) := by
  by_cases hq : ((s.nodeD vc.node).valid && s.isNecessary vc.node && !(s.nodeD vc.node).inRch) = true
  · have h1 := (wroteOutside_queued v vc x s hlt hq).2.2.1
    have h2 := hh hq
    rw [Bool.and_eq_true, Bool.and_eq_true] at hq
    simp only [Node.inRch, h1, hq.1.1, hq.1.2, Bool.and_self, Bool.or_true]
    simpa using h2
  · have h1 := (wroteOutside_not_queued v vc x s hq).2
    have : (wroteOutside v vc x s).nodeD vc.node = s.nodeD vc.node := by
      simp [State.nodeD, h1]
    rw [this]
    cases ha : s.isNecessary vc.node <;> cases hb : (s.nodeD vc.node).inRch <;>
      cases hc : (s.nodeD vc.node).valid <;> simp_all

/-! ## `didSetVarWhileNotStabilising`: the final state when it returns -/

/-- final state of a successful `did_set_var_while_not_stabilising` on cell `vc` -/
def didSetFinal (v : Nat) (vc : VarCell) (s : State) : State :=
  if s.stabNum ≤ vc.setAt then bumped s
  else if ((s.nodeD vc.node).valid && s.isNecessary vc.node && !(s.nodeD vc.node).inRch) = true then
    inserted vc.node (s.nodeD vc.node).height (bumped (withCell v { vc with setAt := s.stabNum } s))
  else bumped (withCell v { vc with setAt := s.stabNum } s)

theorem didSet_ok (v : Nat) (s s' : State) (vc : VarCell) (u : Unit)
    (hv : s.vars[v]? = some vc)
    (hr : (didSetVarWhileNotStabilising v).run.run s = (.ok u, s')) :
    s' = didSetFinal v vc s ∧ vc.linked = true := by
  rw [didSet_run v s vc hv] at hr
  unfold didSetFinal
  by_cases h1 : vc.linked = false
  · rw [if_pos h1] at hr; cases hr
  rw [if_neg h1] at hr
  have hl : vc.linked = true := by simpa using h1
  by_cases h2 : s.stabNum ≤ vc.setAt
  · rw [if_pos h2] at hr; cases hr
    rw [if_pos h2]; exact ⟨rfl, hl⟩
  rw [if_neg h2] at hr
  rw [if_neg h2]
  simp only at hr
  by_cases h3 : s.cfg.debug = true ∧
      (!(s.nodeD vc.node).valid ||
        (bumped (withCell v { vc with setAt := s.stabNum } s)).isStale vc.node) = false
  · rw [if_pos h3] at hr; cases hr
  rw [if_neg h3] at hr
  by_cases h4 : ((s.nodeD vc.node).valid && s.isNecessary vc.node && !(s.nodeD vc.node).inRch) = true
  · rw [if_pos h4] at hr
    rw [if_pos h4]
    obtain ⟨nd, hnd, _, _, hs'⟩ := Step.rchInsert_ok_inv hr
    have hD : s.nodeD vc.node = nd := by
      have : s.nodes[vc.node]? = some nd := hnd
      simp [State.nodeD, this]
    rw [hD]
    exact ⟨hs', hl⟩
  · rw [if_neg h4] at hr
    rw [if_neg h4]
    cases hr
    exact ⟨rfl, hl⟩

theorem didSetFinal_facts (v : Nat) (vc : VarCell) (s : State) (hv : s.vars[v]? = some vc) :
    (didSetFinal v vc s).vars[v]? =
        some { vc with setAt := if vc.setAt < s.stabNum then s.stabNum else vc.setAt } ∧
    (∀ w, w ≠ v → (didSetFinal v vc s).vars[w]? = s.vars[w]?) ∧
    (didSetFinal v vc s).stabNum = s.stabNum ∧ (didSetFinal v vc s).status = s.status ∧
    (didSetFinal v vc s).setDuringStab = s.setDuringStab := by
  unfold didSetFinal
  by_cases h2 : s.stabNum ≤ vc.setAt
  · have h3 : ¬ vc.setAt < s.stabNum := by omega
    simp only [if_pos h2, if_neg h3]
    exact ⟨hv, fun _ _ => rfl, rfl, rfl, rfl⟩
  · have h3 : vc.setAt < s.stabNum := by omega
    simp only [if_neg h2, if_pos h3]
    have hA := withCell_get v { vc with setAt := s.stabNum } vc s hv
    have hB : ∀ w, w ≠ v →
        (withCell v { vc with setAt := s.stabNum } s).vars[w]? = s.vars[w]? :=
      fun w hw => withCell_get_ne v w _ s hw
    split
    · exact ⟨hA, hB, rfl, rfl, rfl⟩
    · exact ⟨hA, hB, rfl, rfl, rfl⟩

/-! ## the var phase of `stabiliseEnd` -/

/-- loop body of the var phase of `stabiliseEnd` -/
def applyPending (v : Nat) : M Unit := do
  match (← getVar v).pending with
  | none => pure ()
  | some x =>
    modVar v fun c => { c with pending := none, value := x }
    didSetVarWhileNotStabilising v

/-- the `for v in stack` loop of the var phase -/
def applyAll : List Nat → M Unit
  | [] => pure ()
  | v :: vs => do applyPending v; applyAll vs

theorem forIn_eq_applyAll (body : Nat → PUnit → M (ForInStep PUnit))
    (hb : ∀ v u, body v u = (do applyPending v; pure (ForInStep.yield PUnit.unit))) (stack : List Nat) :
    forIn stack PUnit.unit body = applyAll stack := by
  induction stack with
  | nil => rfl
  | cons v vs ih =>
    simp only [List.forIn_cons, hb, applyAll, bind_assoc, pure_bind, ih]

/-- first phase of `stabiliseEnd`: bump the counter, then apply the deferred writes -/
def stabiliseEndVars : M Unit := do
  modify fun s => { s with stabNum := s.stabNum + 1, currentlyRunning := none }
  let stack := (← get).setDuringStab
  modify fun s => { s with setDuringStab := [] }
  applyAll stack

/-- the rest of `stabiliseEnd` (dead vars, update handlers), verbatim -/
def stabiliseEndRest (env : Env) (fuel : Nat) : M Unit := do
  let dead := (← get).deadVars
  modify fun s => { s with deadVars := [] }
  for v in dead do modVar v fun c => { c with linked := false }
  let hs := (← get).handleAfterStab
  modify fun s => { s with handleAfterStab := [] }
  let mut queue : List (Nat × NodeUpdate) := []
  for n in hs do
    modNode n fun x => { x with inHandleAfterStab := false }
    queue := queue ++ [(n, (← get).nodeUpdate env n)]
  modify fun s => { s with status := .runningOnUpdateHandlers }
  let now := (← get).stabNum
  for (n, nu) in queue do
    for o in (← getNode n).observers do
      runAll env fuel o n nu now
  modify fun s =>
    let alive := s.aliveSet
    { s with memos := s.memos.map fun (m, tbl) => (m, tbl.filter fun (_, n) => alive.contains n) }
  modify fun s => { s with status := .notStabilising }

theorem stabiliseEnd_eq (env : Env) (fuel : Nat) :
    stabiliseEnd env fuel = (do stabiliseEndVars; stabiliseEndRest env fuel) := by
  simp only [stabiliseEnd, stabiliseEndVars, stabiliseEndRest, bind_assoc]
  congr 1; funext _; congr 1; funext st; congr 1; funext _
  rw [forIn_eq_applyAll]
  intro v u
  simp only [applyPending, bind_assoc]
  congr 1; funext c
  cases c.pending <;> simp

/-- what applying a deferred write does to one cell (`now` = the new stabilisation number) -/
def applyCell (now : Int) (c : VarCell) : VarCell :=
  match c.pending with
  | none => c
  | some x => { c with pending := none, value := x, setAt := if c.setAt < now then now else c.setAt }

theorem applyCell_idem (now : Int) (c : VarCell) : applyCell now (applyCell now c) = applyCell now c := by
  unfold applyCell
  cases h : c.pending with
  | none => simp [h]
  | some x => simp

theorem applyPending_run (v : Nat) (s : State) :
    (applyPending v).run.run s = match s.vars[v]? with
      | none => (.error (.site "model:no-such-var"), s)
      | some vc => match vc.pending with
        | none => (.ok (), s)
        | some x => (didSetVarWhileNotStabilising v).run.run
            (withCell v { vc with pending := none, value := x } s) := by
  simp only [applyPending, run_bind, run_getVar]
  cases hv : s.vars[v]? with
  | none => rfl
  | some vc =>
    simp only
    cases hp : vc.pending with
    | none => rfl
    | some x => simp only [run_bind, run_modVar _ _ _ _ hv]

theorem applyPending_ok (v : Nat) (s s' : State) (u : Unit)
    (hr : (applyPending v).run.run s = (.ok u, s')) :
    ∃ vc, s.vars[v]? = some vc ∧ s'.vars[v]? = some (applyCell s.stabNum vc) ∧
      (∀ w, w ≠ v → s'.vars[w]? = s.vars[w]?) ∧
      s'.stabNum = s.stabNum ∧ s'.status = s.status ∧ s'.setDuringStab = s.setDuringStab ∧
      (vc.pending ≠ none → vc.linked = true) := by
  rw [applyPending_run] at hr
  cases hv : s.vars[v]? with
  | none => rw [hv] at hr; cases hr
  | some vc =>
    simp only [hv] at hr
    refine ⟨vc, rfl, ?_⟩
    cases hp : vc.pending with
    | none =>
      simp only [hp] at hr; cases hr
      refine ⟨?_, fun _ _ => rfl, rfl, rfl, rfl, fun h => absurd rfl h⟩
      simp [applyCell, hp, hv]
    | some x =>
      simp only [hp] at hr
      have hv1 := withCell_get v { vc with pending := none, value := x } vc s hv
      obtain ⟨rfl, hl⟩ := didSet_ok v _ _ _ _ hv1 hr
      obtain ⟨h1, h2, h3, h4, h5⟩ := didSetFinal_facts v _ _ hv1
      refine ⟨?_, ?_, h3, h4, h5, fun _ => hl⟩
      · rw [h1]; simp only [applyCell, hp]; rfl
      · intro w hw; rw [h2 w hw]; exact withCell_get_ne v w _ s hw

theorem applyAll_ok (stack : List Nat) (s s' : State) (u : Unit)
    (hr : (applyAll stack).run.run s = (.ok u, s')) :
    s'.stabNum = s.stabNum ∧ s'.status = s.status ∧ s'.setDuringStab = s.setDuringStab ∧
    (∀ w, s'.vars[w]? =
      if w ∈ stack then (s.vars[w]?).map (applyCell s.stabNum) else s.vars[w]?) := by
  induction stack generalizing s with
  | nil => cases hr; exact ⟨rfl, rfl, rfl, fun w => by simp⟩
  | cons v vs ih =>
    simp only [applyAll, run_bind] at hr
    rcases h1 : (applyPending v).run.run s with ⟨r | u1, s1⟩
    · rw [h1] at hr; cases hr
    · rw [h1] at hr
      simp only at hr
      obtain ⟨vc, hv, hv', hw', hn, hst, hsd, _⟩ := applyPending_ok v s s1 u1 h1
      obtain ⟨i1, i2, i3, i4⟩ := ih s1 hr
      refine ⟨by rw [i1, hn], by rw [i2, hst], by rw [i3, hsd], ?_⟩
      intro w
      rw [i4 w, hn]
      by_cases hwv : w = v
      · subst hwv
        rw [hv', hv]
        simp [applyCell_idem]
      · rw [hw' w hwv]
        simp [hwv]

theorem stabiliseEndVars_run (s : State) :
    stabiliseEndVars.run.run s = (applyAll s.setDuringStab).run.run
      { s with stabNum := s.stabNum + 1, currentlyRunning := none, setDuringStab := [] } := by
  simp only [stabiliseEndVars, run_bind, run_modify, run_get]

theorem stabiliseEndVars_ok (s s' : State) (u : Unit)
    (hr : stabiliseEndVars.run.run s = (.ok u, s')) :
    s'.stabNum = s.stabNum + 1 ∧ s'.status = s.status ∧ s'.setDuringStab = [] ∧
    (∀ w, s'.vars[w]? =
      if w ∈ s.setDuringStab then (s.vars[w]?).map (applyCell (s.stabNum + 1)) else s.vars[w]?) := by
  rw [stabiliseEndVars_run] at hr
  exact applyAll_ok _ _ _ _ hr

/-! ## composition of deferred writes -/

theorem deferred_get (v : Nat) (vc : VarCell) (f : Val → Val) (s : State) (hv : s.vars[v]? = some vc) :
    (deferred v vc f s).vars[v]? = some { vc with pending := some (f (vc.pending.getD vc.value)) } :=
  withCell_get v _ vc s hv

theorem deferred_deferred (v : Nat) (vc : VarCell) (f g : Val → Val) (s : State) :
    deferred v { vc with pending := some (f (vc.pending.getD vc.value)) } g (deferred v vc f s) =
      deferred v vc (fun x => g (f x)) s := by
  simp [deferred, Array.setIfInBounds_setIfInBounds]

/-- the writes of `fs`, in order -/
def writeAll (v : Nat) : List (Val → Val) → M Unit
  | [] => pure ()
  | f :: fs => do let _ ← writeVar v f; writeAll v fs

theorem writeAll_inside_run (v : Nat) (fs : List (Val → Val)) (s : State) (vc : VarCell)
    (hv : s.vars[v]? = some vc) (hst : s.status = .stabilising) :
    (writeAll v fs).run.run s = (.ok (), match fs with
      | [] => s
      | _ :: _ => deferred v vc (fun x => fs.foldl (fun acc f => f acc) x) s) := by
  induction fs generalizing s vc with
  | nil => rfl
  | cons f rest ih =>
    simp only [writeAll, run_bind, writeVar_inside_run v f false s vc hv hst]
    rw [ih (deferred v vc f s) _ (deferred_get v vc f s hv) hst]
    cases rest with
    | nil => rfl
    | cons g rest' =>
      simp only [deferred_deferred, List.foldl_cons]

theorem deferred_frame (v : Nat) (vc : VarCell) (f : Val → Val) (s : State) :
    (deferred v vc f s).nodes = s.nodes ∧ (deferred v vc f s).rch = s.rch ∧
    (deferred v vc f s).ahh = s.ahh ∧ (deferred v vc f s).stabNum = s.stabNum ∧
    (deferred v vc f s).status = s.status ∧ (deferred v vc f s).counters = s.counters ∧
    (deferred v vc f s).observers = s.observers ∧ (deferred v vc f s).cfg = s.cfg ∧
    (∀ w, w ≠ v → (deferred v vc f s).vars[w]? = s.vars[w]?) :=
  ⟨rfl, rfl, rfl, rfl, rfl, rfl, rfl, rfl, fun w hw => withCell_get_ne v w _ s hw⟩

/-! ## immediate writes: the facts in terms of a successful run -/

theorem writeVar_outside_ok_facts (v : Nat) (f : Val → Val) (isSet : Bool) (s s' : State)
    (vc : VarCell) (r : Val) (hv : s.vars[v]? = some vc) (hst : s.status ≠ .stabilising)
    (hr : (writeVar v f isSet).run.run s = (.ok r, s')) :
    r = vc.value ∧ vc.linked = true ∧
    s'.vars[v]? = some { vc with value := f vc.value,
                                 setAt := if vc.setAt < s.stabNum then s.stabNum else vc.setAt } ∧
    (∀ w, w ≠ v → s'.vars[w]? = s.vars[w]?) ∧
    s'.stabNum = s.stabNum ∧ s'.status = s.status ∧ s'.setDuringStab = s.setDuringStab ∧
    s'.counters.varSets = s.counters.varSets + 1 ∧
    s'.nodes.size = s.nodes.size ∧ (∀ n, n ≠ vc.node → s'.nodes[n]? = s.nodes[n]?) ∧
    s'.ahh = s.ahh ∧ s'.maxHeightSeen = s.maxHeightSeen := by
  obtain ⟨h1, rfl, h3, -, -⟩ := writeVar_outside_ok v f isSet s s' vc r hv hst hr
  obtain ⟨a1, a2⟩ := wroteOutside_vars v vc (f vc.value) s hv
  obtain ⟨b1, b2, b3, _, b5, b6, b7, b8, _, b10⟩ := wroteOutside_frame v vc (f vc.value) s
  exact ⟨h1, h3, a1, a2, b1, b2, b3, b7, b8, b10, b5, b6⟩

/-! ## immediate writes to a var whose watch node has been invalidated (D14) -/

/-- the final state of an immediate write that does not touch nodes or heap: the new value, `set_at`
raised to the current round if it was older, the `var_sets` counter incremented -/
def wroteQuiet (v : Nat) (vc : VarCell) (x : Val) (s : State) : State :=
  bumped (withCell v { vc with value := x,
                               setAt := if vc.setAt < s.stabNum then s.stabNum else vc.setAt } s)

theorem wroteQuiet_eq (v : Nat) (vc : VarCell) (x : Val) (s : State) :
    wroteQuiet v vc x s =
      if s.stabNum ≤ vc.setAt then bumped (withCell v { vc with value := x } s)
      else stampedWrite v vc x s := by
  unfold wroteQuiet stampedWrite
  by_cases h : s.stabNum ≤ vc.setAt
  · have h' : ¬ vc.setAt < s.stabNum := by omega
    rw [if_pos h, if_neg h']
  · have h' : vc.setAt < s.stabNum := by omega
    rw [if_neg h, if_pos h']

/-- D14: watch node invalid, var still linked — the write succeeds (debug and release) and leaves
`wroteQuiet` -/
theorem writeVar_outside_invalid (v : Nat) (f : Val → Val) (isSet : Bool) (s : State) (vc : VarCell)
    (hv : s.vars[v]? = some vc) (hst : s.status ≠ .stabilising)
    (hl : vc.linked = true) (hinv : (s.nodeD vc.node).valid = false) :
    (writeVar v f isSet).run.run s = (.ok vc.value, wroteQuiet v vc (f vc.value) s) := by
  rw [writeVar_outside_closed v f isSet s vc hv hst, wroteQuiet_eq]
  have h1 : ¬ vc.linked = false := by simp [hl]
  rw [if_neg h1]
  by_cases h2 : s.stabNum ≤ vc.setAt
  · rw [if_pos h2, if_pos h2]
  · rw [if_neg h2, if_neg h2]
    have h3 : ¬ (s.cfg.debug = true ∧ (!(s.nodeD vc.node).valid ||
        (stampedWrite v vc (f vc.value) s).isStale vc.node) = false) := by
      simp [hinv]
    have h4 : ¬ ((s.nodeD vc.node).valid && s.isNecessary vc.node && !(s.nodeD vc.node).inRch) = true := by
      simp [hinv]
    rw [if_neg h3, if_neg h4]

theorem wroteQuiet_facts (v : Nat) (vc : VarCell) (x : Val) (s : State) (hv : s.vars[v]? = some vc) :
    (wroteQuiet v vc x s).vars[v]? =
        some { vc with value := x, setAt := if vc.setAt < s.stabNum then s.stabNum else vc.setAt } ∧
    (∀ w, w ≠ v → (wroteQuiet v vc x s).vars[w]? = s.vars[w]?) ∧
    (wroteQuiet v vc x s).nodes = s.nodes ∧ (wroteQuiet v vc x s).rch = s.rch ∧
    (wroteQuiet v vc x s).ahh = s.ahh ∧ (wroteQuiet v vc x s).stabNum = s.stabNum ∧
    (wroteQuiet v vc x s).status = s.status ∧
    (wroteQuiet v vc x s).setDuringStab = s.setDuringStab ∧
    (wroteQuiet v vc x s).observers = s.observers ∧ (wroteQuiet v vc x s).cfg = s.cfg ∧
    (wroteQuiet v vc x s).maxHeightSeen = s.maxHeightSeen ∧
    (wroteQuiet v vc x s).counters.varSets = s.counters.varSets + 1 :=
  ⟨withCell_get v _ vc s hv, fun w hw => withCell_get_ne v w _ s hw,
    rfl, rfl, rfl, rfl, rfl, rfl, rfl, rfl, rfl, rfl⟩

/-! ## example states (non-vacuity witnesses used by `Props/C08.lean`) -/

/-- not stabilising, round 3; var 0 (last set in round 1) watched by node 0, which is observed
(necessary), not queued, last recomputed in round 1; debug assertions on; limit 4 -/
def exV : State :=
  { State.init 4 true with
    stabNum := 3
    nodes := #[{ kind := .var 0, createdIn := .top, height := 0, recomputedAt := 1, changedAt := 1,
                 value := some (.int 1), observers := [0] }]
    vars := #[{ value := .int 1, setAt := 1, node := 0 }] }

/-- as `exV`, but the var was already set in the current round 3 -/
def exVsame : State :=
  { exV with vars := #[{ value := .int 1, setAt := 3, node := 0 }] }

/-- as `exV`, without debug assertions -/
def exVnd : State := { exV with cfg := { debug := false } }

/-- as `exV`, during a stabilisation; nothing deferred yet -/
def exVs : State := { exV with status := .stabilising }

/-- during a stabilisation, value 8 already deferred for var 0 -/
def exVs2 : State :=
  { exV with status := .stabilising, setDuringStab := [0],
             vars := #[{ value := .int 1, setAt := 1, node := 0, pending := some (.int 8) }] }

/-- as `exV`, after `break_rc_cycle` (the public handle was dropped) -/
def exVdead : State :=
  { exV with vars := #[{ value := .int 1, setAt := 1, node := 0, linked := false }] }

/-- as `exV`, but the watch node has been invalidated -/
def exVinv : State :=
  { exV with nodes := #[{ kind := .var 0, createdIn := .top, height := 0, recomputedAt := 1,
                          changedAt := 1, valid := false, observers := [0] }] }

end IncrVerif.Proofs
