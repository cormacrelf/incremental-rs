import IncrVerif.Proofs.NestH42
import IncrVerif.Proofs.BindH91
/-!
# Nested binds (F2), part 4d: the auxiliary invariant of a drain inside `stabilise`

The counterpart of `BindH91` for nested binds.  `DKey`, `NKey` (the frames of a drain relative to its start state) are generic and reused.  The auxiliary invariant is
`AuxS2 env t s := Aux2 env s ∧ DKey t s ∧ NKey t s` (`Aux2 env s = ∃ rk, F2Inv env rk s`: the ghost rank is re-chosen by the runs of change detectors).
-/
namespace IncrVerif.Proofs.NestH
open IncrVerif.Engine IncrVerif.Proofs IncrVerif.Proofs.Step IncrVerif.Proofs.Sched IncrVerif.Proofs.Quiet
open IncrVerif.Proofs.BindH

/-- the auxiliary invariant of a drain inside `stabilise` (fragment F2): `F2Inv` for some rank, plus the frames relative to the state `t` in which the
drain started -/
def AuxS2 (env : Env) (t : State) (s : State) : Prop := Aux2 env s ∧ DKey t s ∧ NKey t s

/-- from the scheduling hypothesis for `Aux2` and the `DKey`/`NKey` frame of every step, the scheduling hypothesis for `AuxS2` -/
theorem lcStepsOK_auxS2 {env : Env} (H : LcStepsOK2 env (Aux2 env))
    (hstep : ∀ (fuel n : Nat) (s s' : State) (r : Option Nat), DInv env s (some n) → Aux2 env s →
      (recomputeOne env fuel n).run.run s = (.ok r, s') → DKey s s' ∧ NKey s s')
    (hpop : ∀ (s s1 : State) (n : Nat), rchRemoveMin.run.run s = (.ok (some n), s1) → DKey s s1 ∧ NKey s s1)
    (t : State) : LcStepsOK2 env (AuxS2 env t) where
  lc fuel n b s s' r I A hk h := by
    obtain ⟨h1, h2⟩ := H.lc fuel n b s s' r I A.1 hk h
    obtain ⟨k1, k2⟩ := hstep fuel n s s' r I A.1 h
    exact ⟨h1, h2, A.2.1.trans k1, A.2.2.trans k2⟩
  other fuel n s s' r I A hk h := by
    obtain ⟨k1, k2⟩ := hstep fuel n s s' r I A.1 h
    exact ⟨H.other fuel n s s' r I A.1 hk h, A.2.1.trans k1, A.2.2.trans k2⟩
  pop s s1 n I A h := by
    obtain ⟨k1, k2⟩ := hpop s s1 n h
    exact ⟨H.pop s s1 n I A.1 h, A.2.1.trans k1, A.2.2.trans k2⟩

end IncrVerif.Proofs.NestH
