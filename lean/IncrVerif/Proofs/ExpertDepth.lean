import IncrVerif.Proofs.ExpertH8
/-!
# T4 (total correctness for the expert fragment X1), part 1: foundations

* `Tot x s Q` (same body as `Quiet.Tot`, with its calculus): the run of `x` from `s` RETURNS in a state satisfying `Q`.
* `cnt rk N n`: position of `n` in the rank order (same body as `NestH.cnt`).
* `dp s n`: the DEPTH of node `n` in the child graph of `s` (longest chain of child edges below `n`), computed with
  fuel `s.nodes.size`.  Under a rank (`QR.AllStatic`): `dp c < dp n` along every child edge, `dp n < nodes.size`;
  `dp` only grows when edges/nodes are added (`dp_mono`, no rank needed).
* `HBd s op`: closed necessary nodes have `height ≤ dp + 1` (in place of `Quiet.HBo`, "height ≤ index + 1", which is
  false when children may be newer than parents, and `NestH.HBo2`, "≤ rank position + 1", which does not survive the
  re-ranking of `addDep`).
* `Room N s`, `TInvR N s` (`Quiet.Room`, `Quiet.TInv` with `HBd`).
-/
namespace IncrVerif.Proofs.TidyH.XT
open IncrVerif.Engine IncrVerif.Driver IncrVerif.Proofs IncrVerif.Proofs.Step IncrVerif.Proofs.Sched
open IncrVerif.Proofs.ExpertH IncrVerif.Proofs.ExpertH.QR

/-! ## `Tot` -/

/-- the run returns, in a state (and with a value) satisfying `Q` -/
def Tot {α} (x : M α) (s : State) (Q : α → State → Prop) : Prop :=
  ∃ a s', x.run.run s = (.ok a, s') ∧ Q a s'

section tot
variable {α β : Type} {x : M α} {s : State} {Q : α → State → Prop}

theorem Tot.of_ok {a : α} {s1 : State} (h : x.run.run s = (.ok a, s1)) (hq : Q a s1) : Tot x s Q :=
  ⟨a, s1, h, hq⟩

theorem Tot.mono {Q' : α → State → Prop} (T : Tot x s Q) (h : ∀ a t, Q a t → Q' a t) : Tot x s Q' := by
  obtain ⟨a, s1, h1, h2⟩ := T; exact ⟨a, s1, h1, h a s1 h2⟩

theorem Tot.bind {f : α → M β} {Q' : β → State → Prop} (hx : Tot x s Q)
    (hf : ∀ a s1, x.run.run s = (.ok a, s1) → Q a s1 → Tot (f a) s1 Q') : Tot (x >>= f) s Q' := by
  obtain ⟨a, s1, h1, h2⟩ := hx
  obtain ⟨b, s2, h3, h4⟩ := hf a s1 h1 h2
  exact ⟨b, s2, by rw [run_bind_ok h1]; exact h3, h4⟩

theorem Tot.bind_ok {f : α → M β} {Q' : β → State → Prop} {a : α} {s1 : State}
    (h : x.run.run s = (.ok a, s1)) (T : Tot (f a) s1 Q') : Tot (x >>= f) s Q' := by
  obtain ⟨b, s2, h3, h4⟩ := T
  exact ⟨b, s2, by rw [run_bind_ok h]; exact h3, h4⟩

theorem Tot.pure {a : α} (h : Q a s) : Tot (pure a : M α) s Q := ⟨a, s, run_pure a s, h⟩

theorem Tot.bind_get {f : State → M β} {Q' : β → State → Prop} (T : Tot (f s) s Q') :
    Tot ((MonadState.get : M State) >>= f) s Q' := Tot.bind_ok (run_get s) T

theorem Tot.bind_modify {g : State → State} {f : Unit → M β} {Q' : β → State → Prop}
    (T : Tot (f ()) (g s) Q') : Tot (modify g >>= f) s Q' := Tot.bind_ok (run_modify g s) T

theorem Tot.bind_modNode {n : Nat} {g : Node → Node} {f : Unit → M β} {Q' : β → State → Prop}
    (T : Tot (f ()) { s with nodes := s.nodes.modify n g } Q') : Tot (modNode n g >>= f) s Q' :=
  Tot.bind_ok (run_modNode n g s) T

theorem Tot.bind_dassert {c : Bool} {site : String} {f : Unit → M β} {Q' : β → State → Prop}
    (hc : s.cfg.debug = true → c = true) (T : Tot (f ()) s Q') : Tot (Engine.dassert c site >>= f) s Q' :=
  Tot.bind_ok (run_dassert_true s hc) T

theorem Tot.bind_getNode {n : Nat} {f : Node → M β} {Q' : β → State → Prop} (hn : n < s.nodes.size)
    (T : Tot (f (s.nodeD n)) s Q') : Tot (Engine.getNode n >>= f) s Q' :=
  Tot.bind_ok (run_getNode_some (some_of_lt hn)) T

/-- every run of `x` from `s` is the returning one -/
theorem Tot.elim (T : Tot x s Q) {r : Except Panic α} {s' : State} (h : x.run.run s = (r, s')) :
    ∃ a, r = .ok a ∧ Q a s' := by
  obtain ⟨a, s1, h1, h2⟩ := T
  rw [h1] at h; cases h; exact ⟨a, rfl, h2⟩

end tot

/-- `forIn_tot` in `Tot` form -/
theorem forIn_tot' {α β} (f : α → β → M (ForInStep β)) (l : List α) (I : Nat → β → State → Prop)
    (hstep : ∀ j a b t, l[j]? = some a → I j b t →
      Tot (f a b) t (fun r t' => ∃ b', r = .yield b' ∧ I (j + 1) b' t'))
    (b : β) (s : State) (h0 : I 0 b s) : Tot (forIn l b f) s (fun b' s' => I l.length b' s') := by
  refine forIn_tot f l I ?_ l 0 b s (by simp) (Nat.zero_le _) h0
  intro j a b t hj hI
  obtain ⟨r, t', h1, b', e, h2⟩ := hstep j a b t hj hI
  rw [e] at h1
  exact ⟨b', t', h1, h2⟩

/-! ## rank positions -/

/-- the position of `n` in the rank order of the first `N` nodes -/
def cnt (rk : Nat → Nat) (N n : Nat) : Nat := (List.range N).countP fun m => decide (rk m < rk n)

theorem cnt_lt_cnt {rk : Nat → Nat} {N a b : Nat} (ha : a < N) (h : rk a < rk b) : cnt rk N a < cnt rk N b := by
  unfold cnt
  apply countP_lt_of_imp _ _ _ _ a (List.mem_range.2 ha)
  · exact decide_eq_true h
  · exact decide_eq_false (Nat.lt_irrefl _)
  · intro m _ hm
    have := of_decide_eq_true hm
    exact decide_eq_true (by omega)

theorem cnt_lt_size {rk : Nat → Nat} {N n : Nat} (hn : n < N) : cnt rk N n < N := by
  have h1 : cnt rk N n < (List.range N).countP fun _ => true := by
    unfold cnt
    apply countP_lt_of_imp _ _ _ _ n (List.mem_range.2 hn) rfl
    · exact decide_eq_false (Nat.lt_irrefl _)
    · intro _ _ _; rfl
  have h2 : ((List.range N).countP fun _ => true) ≤ (List.range N).length := List.countP_le_length
  rw [List.length_range] at h2
  omega

/-! ## depth -/

/-- running maximum -/
def maxOver (g : Nat → Nat) (l : List Nat) : Nat := l.foldl (fun acc c => max acc (g c)) 0

theorem foldl_max_ge_init (g : Nat → Nat) (l : List Nat) (a : Nat) :
    a ≤ l.foldl (fun acc c => max acc (g c)) a := by
  induction l generalizing a with
  | nil => exact Nat.le_refl _
  | cons x l ih => exact Nat.le_trans (Nat.le_max_left _ _) (ih _)

theorem foldl_max_ge (g : Nat → Nat) (l : List Nat) (a : Nat) {c : Nat} (hc : c ∈ l) :
    g c ≤ l.foldl (fun acc c => max acc (g c)) a := by
  induction l generalizing a with
  | nil => cases hc
  | cons x l ih =>
    rcases List.mem_cons.1 hc with rfl | h
    · exact Nat.le_trans (Nat.le_max_right _ _) (foldl_max_ge_init g l _)
    · exact ih _ h

theorem foldl_max_le (g : Nat → Nat) (l : List Nat) (a B : Nat) (ha : a ≤ B) (h : ∀ c, c ∈ l → g c ≤ B) :
    l.foldl (fun acc c => max acc (g c)) a ≤ B := by
  induction l generalizing a with
  | nil => exact ha
  | cons x l ih =>
    exact ih _ (Nat.max_le.2 ⟨ha, h x (List.mem_cons_self ..)⟩) (fun c hc => h c (List.mem_cons_of_mem _ hc))

theorem maxOver_ge (g : Nat → Nat) {l : List Nat} {c : Nat} (hc : c ∈ l) : g c ≤ maxOver g l :=
  foldl_max_ge g l 0 hc

theorem maxOver_le (g : Nat → Nat) (l : List Nat) (B : Nat) (h : ∀ c, c ∈ l → g c ≤ B) : maxOver g l ≤ B :=
  foldl_max_le g l 0 B (Nat.zero_le _) h

theorem maxOver_congr {g g' : Nat → Nat} {l : List Nat} (h : ∀ c, c ∈ l → g c = g' c) :
    maxOver g l = maxOver g' l := by
  apply Nat.le_antisymm
  · exact maxOver_le g l _ fun c hc => by rw [h c hc]; exact maxOver_ge g' hc
  · exact maxOver_le g' l _ fun c hc => by rw [← h c hc]; exact maxOver_ge g hc

/-- depth with fuel -/
def dpF (s : State) : Nat → Nat → Nat
  | 0, _ => 0
  | f+1, n => maxOver (fun c => dpF s f c + 1) (kids (s.nodeD n).kind)

/-- the depth of `n`: the length of the longest chain of child edges below `n` -/
def dp (s : State) (n : Nat) : Nat := dpF s s.nodes.size n

theorem dpF_succ (s : State) (f n : Nat) :
    dpF s (f + 1) n = maxOver (fun c => dpF s f c + 1) (kids (s.nodeD n).kind) := rfl

/-- more fuel, more edges: not less depth (no acyclicity needed) -/
theorem dpF_mono {s s' : State}
    (hk : ∀ x c, c ∈ kids (s.nodeD x).kind → c ∈ kids (s'.nodeD x).kind) :
    ∀ (f f' m : Nat), f ≤ f' → dpF s f m ≤ dpF s' f' m := by
  intro f
  induction f with
  | zero => intro f' m _; exact Nat.zero_le _
  | succ f ih =>
    intro f' m hf
    obtain ⟨g, rfl⟩ : ∃ g, f' = g + 1 := ⟨f' - 1, by omega⟩
    rw [dpF_succ, dpF_succ]
    refine maxOver_le _ _ _ fun c hc => ?_
    have h1 := ih g c (by omega)
    have h2 : dpF s' g c + 1 ≤ _ := maxOver_ge (fun c => dpF s' g c + 1) (hk m c hc)
    omega

theorem dp_mono {s s' : State}
    (hk : ∀ x c, c ∈ kids (s.nodeD x).kind → c ∈ kids (s'.nodeD x).kind)
    (hsz : s.nodes.size ≤ s'.nodes.size) (m : Nat) : dp s m ≤ dp s' m :=
  dpF_mono hk _ _ m hsz

theorem dp_congr {s s' : State} (hk : ∀ x, (s'.nodeD x).kind = (s.nodeD x).kind)
    (hsz : s'.nodes.size = s.nodes.size) (m : Nat) : dp s' m = dp s m := by
  apply Nat.le_antisymm
  · exact dp_mono (fun x c hc => by rw [← hk x]; exact hc) (by omega) m
  · exact dp_mono (fun x c hc => by rw [hk x]; exact hc) (by omega) m

section ranked
variable {env : Env} {rk : Nat → Nat} {s : State}

theorem kids_nil_of_ge (s : State) {n : Nat} (h : s.nodes.size ≤ n) : kids (s.nodeD n).kind = [] := by
  rw [nodeD_default s n h]; rfl

theorem dpF_le_cnt (A : AllStatic env rk s) : ∀ (f n : Nat), dpF s f n ≤ cnt rk s.nodes.size n := by
  intro f
  induction f with
  | zero => intro n; exact Nat.zero_le _
  | succ f ih =>
    intro n
    rw [dpF_succ]
    by_cases hn : n < s.nodes.size
    · refine maxOver_le _ _ _ fun c hc => ?_
      have h1 := ih c
      have h2 := cnt_lt_cnt (N := s.nodes.size) ((A.node n hn).kidsIn c hc) ((A.node n hn).kidsLt c hc)
      omega
    · rw [kids_nil_of_ge s (by omega)]; exact Nat.zero_le _

/-- the fuel does not matter once it exceeds the rank position -/
theorem dpF_stable (A : AllStatic env rk s) : ∀ (f f' n : Nat), cnt rk s.nodes.size n < f →
    cnt rk s.nodes.size n < f' → dpF s f n = dpF s f' n := by
  intro f
  induction f with
  | zero => intro f' n h; omega
  | succ f ih =>
    intro f' n hf hf'
    obtain ⟨g, rfl⟩ : ∃ g, f' = g + 1 := ⟨f' - 1, by omega⟩
    rw [dpF_succ, dpF_succ]
    by_cases hn : n < s.nodes.size
    · refine maxOver_congr fun c hc => ?_
      have h2 := cnt_lt_cnt (N := s.nodes.size) ((A.node n hn).kidsIn c hc) ((A.node n hn).kidsLt c hc)
      rw [ih g c (by omega) (by omega)]
    · rw [kids_nil_of_ge s (by omega)]; rfl

/-- **the depth strictly decreases along child edges** -/
theorem dp_kid_lt (A : AllStatic env rk s) {n c : Nat} (hn : n < s.nodes.size)
    (hc : c ∈ kids (s.nodeD n).kind) : dp s c < dp s n := by
  unfold dp
  obtain ⟨k, hk⟩ : ∃ k, s.nodes.size = k + 1 := ⟨s.nodes.size - 1, by omega⟩
  have h2 := cnt_lt_cnt (N := s.nodes.size) ((A.node n hn).kidsIn c hc) ((A.node n hn).kidsLt c hc)
  have h3 := cnt_lt_size (rk := rk) hn
  have e : dpF s s.nodes.size c = dpF s k c := dpF_stable A _ _ c (by omega) (by omega)
  rw [e]
  conv => rhs; rw [hk, dpF_succ]
  have : dpF s k c + 1 ≤ _ := maxOver_ge (fun c => dpF s k c + 1) hc
  omega

theorem dp_kid_lt' (A : AllStatic env rk s) {n i c : Nat}
    (hc : (kids (s.nodeD n).kind)[i]? = some c) : dp s c < dp s n := by
  by_cases hn : n < s.nodes.size
  · exact dp_kid_lt A hn (getElem?_mem_kids hc)
  · rw [kids_nil_of_ge s (by omega)] at hc; cases hc

/-- **the depth is below the number of nodes** -/
theorem dp_lt_size (A : AllStatic env rk s) {n : Nat} (hn : n < s.nodes.size) : dp s n < s.nodes.size :=
  Nat.lt_of_le_of_lt (dpF_le_cnt A _ n) (cnt_lt_size hn)

theorem dp_le_size (A : AllStatic env rk s) (n : Nat) : dp s n ≤ s.nodes.size :=
  Nat.le_trans (dpF_le_cnt A _ n) (by
    have : cnt rk s.nodes.size n ≤ (List.range s.nodes.size).length := List.countP_le_length
    rwa [List.length_range] at this)

end ranked

/-! ## the extra invariant -/

/-- closed necessary nodes are not higher than their depth + 1 -/
def HBd (s : State) (op : Nat → Op) : Prop :=
  ∀ m, s.isNecessary m = true → op m = .closed → (s.nodeD m).height ≤ (dp s m : Int) + 1

/-- both heaps have `N + 1` buckets and there are at most `N` nodes -/
structure Room (N : Nat) (s : State) : Prop where
  ahh : s.ahh.maxAllowed = (N : Int)
  rch : s.rch.maxAllowed = (N : Int)
  size : s.nodes.size ≤ N

/-- what the "no panic" argument needs besides `QR.QInv`, for a static (virtual) state -/
structure TInvR (N : Nat) (s : State) : Prop where
  hb : HBd s allClosed
  room : Room N s
  linked : ∀ (c : Nat) (vc : VarCell), s.vars[c]? = some vc → vc.linked = true
  topSize : s.top.size = s.nodes.size
  /-- the observers waiting to be added: no duplicates, each still `created` or already `unlinked` -/
  newNodup : s.newObservers.Nodup
  newState : ∀ (o : Nat) (ob : ObsRec), o ∈ s.newObservers → s.observers[o]? = some ob →
    ob.state = .created ∨ ob.state = .unlinked

theorem Room.of_cframe {N : Nat} {s s' : State} (R : Room N s) (h : CFrame s s') : Room N s' := by
  have hk := h.key
  simp only [stateKey, Prod.mk.injEq] at hk
  have h1 : s'.rch.queues.size = s.rch.queues.size := hk.2.2.2.2.2.2.2.2.2.2.2.2.2.2.1
  have h2 : s'.ahh = s.ahh := hk.2.2.2.2.2.2.2.2.2.2.2.2.2.2.2.1
  exact ⟨by rw [h2]; exact R.ahh, by rw [← R.rch]; simp only [Heap.maxAllowed, h1], by rw [h.size]; exact R.size⟩

theorem dp_of_cframe {s s' : State} (h : CFrame s s') (m : Nat) : dp s' m = dp s m :=
  dp_congr (fun x => h.kind x) h.size m

/-- `HBd` only reads heights, necessity, kinds and the number of nodes -/
theorem HBd.transfer {s s' : State} {op op' : Nat → Op} (hb : HBd s op)
    (hd : ∀ m, dp s' m = dp s m)
    (h : ∀ m, s'.isNecessary m = true → op' m = .closed →
      s.isNecessary m = true ∧ op m = .closed ∧ (s'.nodeD m).height = (s.nodeD m).height) :
    HBd s' op' := by
  intro m hm ho
  obtain ⟨h1, h2, h3⟩ := h m hm ho
  rw [h3, hd]; exact hb m h1 h2

/-- the bound that the cascades use: a closed necessary child of `n` is low enough for `n` to go on top -/
theorem hbd_kid {env : Env} {rk : Nat → Nat} {s : State} {op : Nat → Op} (A : AllStatic env rk s) (hb : HBd s op)
    {n i c : Nat} (hk : (kids (s.nodeD n).kind)[i]? = some c) (hnec : s.isNecessary c = true)
    (hcl : op c = .closed) : (s.nodeD c).height + 1 ≤ (dp s n : Int) + 1 := by
  have h1 := hb c hnec hcl
  have h2 := dp_kid_lt' A hk
  omega

/-- with room, depth + 1 is a legal height -/
theorem dp_room {env : Env} {rk : Nat → Nat} {N : Nat} {s : State} (A : AllStatic env rk s) (R : Room N s)
    {n : Nat} (hn : n < s.nodes.size) : (dp s n : Int) + 1 ≤ (N : Int) := by
  have h1 := dp_lt_size A hn
  have h2 := R.size
  omega

end IncrVerif.Proofs.TidyH.XT
