import IncrVerif.Proofs.Life4
/-!
# Observer lifecycle over whole histories, part 5: `stabilise_spec`, the queue invariants `ObsWF`
-/
namespace IncrVerif.Proofs.Life
open IncrVerif.Engine IncrVerif.Proofs.Obs

/-- the lifecycle state of observer `o` after the two observer phases of a stabilisation that starts
in state `s`, as a function of its state `st` before -/
def phase2 (s : State) (o : Nat) (st : ObsState) : ObsState :=
  if o ∈ s.disallowedObservers then .unlinked
  else if o ∈ s.newObservers ∧ st = .created then .inUse
  else st

macro "ends" : tactic =>
  `(tactic| repeat (first | (apply Ends.bind; intro _) | split | dsimp only))

theorem stabiliseEnd_status (env : Env) (fuel : Nat) :
    Ends (fun s => s.status = .notStabilising) (stabiliseEnd env fuel) := by
  unfold stabiliseEnd
  ends
  all_goals exact Ends.modify fun _ => rfl

/-- the state between the observer phases and the recomputation, for a `stabilise` that returns -/
theorem stabilise_phases (env : Env) (fuel : Nat) (s s' : State)
    (hrun : (stabilise env fuel).run.run s = (.ok (), s')) :
    s.status = .notStabilising ∧ s'.status = .notStabilising ∧
    ∃ s2 : State, s2.observers.size = s.observers.size ∧ s2.newObservers = [] ∧
      s2.disallowedObservers = [] ∧ Dis s2 s' ∧
      ∀ (o : Nat) (ob : ObsRec), s.observers[o]? = some ob →
        ∃ ob2 : ObsRec, s2.observers[o]? = some ob2 ∧ ob2.node = ob.node ∧ ob2.clones = ob.clones ∧
          ob2.handlers = ob.handlers ∧ ob2.state = phase2 s o ob.state := by
  unfold stabilise at hrun
  rw [run_bind, run_get] at hrun
  simp only [] at hrun
  have hst : s.status = .notStabilising := by
    cases hs : s.status with
    | notStabilising => rfl
    | stabilising => rw [run_bind, run_assertM, hs] at hrun; simp at hrun; cases hrun
    | runningOnUpdateHandlers => rw [run_bind, run_assertM, hs] at hrun; simp at hrun; cases hrun
  have hb : (s.status == Status.notStabilising) = true := by rw [hst]; rfl
  rw [run_bind, run_assertM, hb] at hrun
  simp only [if_true, run_bind, run_modify] at hrun
  -- phase 1
  rcases h1 : (addNewObservers env fuel).run.run { s with status := .stabilising } with ⟨r1, s1⟩
  rw [h1] at hrun
  cases r1 with
  | error e => cases hrun
  | ok u1 =>
  simp only [] at hrun
  obtain ⟨m1, p1⟩ := addNewObservers_spec env fuel _ _ _ h1
  -- phase 2
  rcases h2 : (unlinkDisallowedObservers fuel).run.run s1 with ⟨r2, s2⟩
  rw [h2] at hrun
  cases r2 with
  | error e => cases hrun
  | ok u2 =>
  simp only [] at hrun
  obtain ⟨m2, p2⟩ := unlinkDisallowedObservers_spec fuel _ _ _ h2
  -- recomputation and handlers
  rcases h3 : (drainHeap env fuel).run.run s2 with ⟨r3, s3⟩
  rw [h3] at hrun
  cases r3 with
  | error e => cases hrun
  | ok u3 =>
  simp only [] at hrun
  have d3 : Dis s2 s3 := (PresD.drainHeap env fuel).h _ _ _ h3
  have d4 := (PresD.stabiliseEnd env fuel).h _ _ _ hrun
  have hend := stabiliseEnd_status env fuel _ _ _ hrun
  have hdis1 : s1.disallowedObservers = s.disallowedObservers := m1.dis
  have hnew1 : s1.newObservers = [] := m1.newObs
  refine ⟨hst, hend, s2, ?_, ?_, ?_, Dis.trans d3 d4, ?_⟩
  · rw [m2.size]; exact m1.size
  · rw [m2.newObs]; exact hnew1
  · exact m2.dis
  · intro o ob e
    obtain ⟨ob1, e1, n1, c1, hd1, mv1⟩ := m1.obs o ob e
    obtain ⟨ob2, e2, n2, c2, hd2, mv2⟩ := m2.obs o ob1 e1
    refine ⟨ob2, e2, n2.trans n1, c2.trans c1, hd2.trans hd1, ?_⟩
    -- the state after phase 1
    have st1 : ob1.state = if o ∈ s.newObservers ∧ ob.state = .created then .inUse else ob.state := by
      rcases mv1 with mv1 | ⟨hl, hf, ht⟩
      · split
        · rename_i hc
          have := p1 rfl o hc.1
          simp only [stOf, e1, Option.map_some, ne_eq, Option.some.injEq] at this
          rw [mv1] at this
          exact absurd hc.2 this
        · exact mv1
      · rw [if_pos ⟨hl, hf⟩]; exact ht
    unfold phase2
    by_cases hds : o ∈ s.disallowedObservers
    · rw [if_pos hds]
      have := p2 rfl o (by rw [hdis1]; exact hds)
      simpa [stOf, e2] using this
    · rw [if_neg hds]
      rcases mv2 with mv2 | ⟨hl, _, _⟩
      · rw [mv2, st1]
      · rw [hdis1] at hl; exact absurd hl hds

/-- O3: what a `stabilise` that returns does to the observers.  It was called with status
`notStabilising` and ends with it; no observer is added or removed; each observer keeps its node and
clone count; its state is `phase2` of its old state (in `newObservers` and created ↦ in use, in
`disallowedObservers` ↦ unlinked) or — if an effect run during this stabilisation called
`disallow_future_use` on it — `afterDisallow` of that; `newObservers` is empty; `disallowedObservers`
lists, once each, exactly the observers that went in use ↦ disallowed during this stabilisation. -/
theorem stabilise_spec (env : Env) (fuel : Nat) (s s' : State)
    (hrun : (stabilise env fuel).run.run s = (.ok (), s')) :
    s.status = .notStabilising ∧ s'.status = .notStabilising ∧
    s'.observers.size = s.observers.size ∧ s'.newObservers = [] ∧
    (∀ (o : Nat) (ob : ObsRec), s.observers[o]? = some ob →
      ∃ ob' : ObsRec, s'.observers[o]? = some ob' ∧ ob'.node = ob.node ∧ ob'.clones = ob.clones ∧
        (ob'.state = phase2 s o ob.state ∨ ob'.state = afterDisallow (phase2 s o ob.state))) ∧
    s'.disallowedObservers.Nodup ∧
    (∀ o : Nat, o ∈ s'.disallowedObservers ↔
      ∃ ob ob' : ObsRec, s.observers[o]? = some ob ∧ s'.observers[o]? = some ob' ∧
        phase2 s o ob.state = .inUse ∧ ob'.state = .disallowed) := by
  obtain ⟨h0, h1, s2, hsz, hnew, hdis, d, hobs⟩ := stabilise_phases env fuel s s' hrun
  obtain ⟨extra, hex, hnd, hmem⟩ := d.dis
  rw [hdis, List.nil_append] at hex
  refine ⟨h0, h1, d.size.trans hsz, d.newObs.trans hnew, ?_, by rw [hex]; exact hnd, ?_⟩
  · intro o ob e
    obtain ⟨ob2, e2, n2, c2, _, st2⟩ := hobs o ob e
    obtain ⟨ob', e', r⟩ := d.obs o ob2 e2
    refine ⟨ob', e', r.node.trans n2, r.clones.trans c2, ?_⟩
    rw [← st2]; exact r.state
  · intro o
    rw [hex, hmem]
    constructor
    · rintro ⟨ob2, ob', e2, e', u, dd⟩
      have hlt : o < s.observers.size := by
        rw [← hsz]; exact (Array.getElem?_eq_some_iff.1 e2).1
      have e : s.observers[o]? = some s.observers[o] := Array.getElem?_eq_getElem hlt
      obtain ⟨ob2', e2', _, _, _, st2⟩ := hobs o _ e
      rw [e2] at e2'; cases e2'
      exact ⟨_, ob', e, e', by rw [← st2]; exact u, dd⟩
    · rintro ⟨ob, ob', e, e', u, dd⟩
      obtain ⟨ob2, e2, _, _, _, st2⟩ := hobs o ob e
      exact ⟨ob2, ob', e2, e', by rw [st2]; exact u, dd⟩

end IncrVerif.Proofs.Life
