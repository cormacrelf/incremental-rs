import IncrVerif.Proofs.PerKeyH52
import IncrVerif.Proofs.PerKeyH24
/-!
# A run of a per-key change detector, part 7c: the callback discipline and the auxiliary invariant (all but `pk`)
after the final `maybeChangeValue`
-/
namespace IncrVerif.Proofs.PerKeyH
open IncrVerif.Engine IncrVerif.Driver IncrVerif.Proofs IncrVerif.Proofs.Step IncrVerif.Proofs.Sched
open IncrVerif.Proofs.ExpertH IncrVerif.Proofs.EffH IncrVerif.Proofs.DriverH IncrVerif.Proofs.ExpertH.QR
open IncrVerif.Proofs.Xp

section
variable {env : Env} {s s2 s' : State} {n op eres fuel : Nat} {pr : PerKeyRec} {m : List (Int × Int)} {r : Option Nat}

/-- the precondition of the notification walk, on the twin of `s2`: the change detector has been stamped already and no record is
made ready, so `s2` stands on both sides of `pre_of_edges_twin`; the edges are read in the unstamped `V s2` -/
theorem lc_pre (B : LcBase env s n op pr eres) (E : LE env s n op pr eres m s2) (l : List Event) :
    Pre (twEnv env) n (twL l s2) := by
  have I' := lc_inv' B E
  have G := I'.graph
  obtain ⟨hst2, hk2, hnlt⟩ := lc_stamp2 B E
  have hst : (s2.nodeD n).recomputedAt = s2.stabNum := hst2.trans (lf_key E.lf).2.2.1.symm
  have hR := sameR_unstamp n (s.nodeD n).recomputedAt (V s2)
  have ch : ∀ q, (unstamp n (s.nodeD n).recomputedAt (V s2)).children q = kidsX s2.experts (s2.nodeD q).kind := fun q => by
    rw [hR.children, V_children, E.frag.children_kidsX]
  have parU : ∀ q, ((unstamp n (s.nodeD n).recomputedAt (V s2)).nodeD q).parents = (s2.nodeD q).parents := by
    intro q; rw [hR.parents, V_nodeD, vNode_parents]
  have hnec : s2.isNecessary n = true := by rw [← V_isNecessary, ← hR.nec]; exact (I'.cur n rfl).1
  refine pre_of_edges_twin l E.frag E.frag E.slots hnec
    (fun p ci hp => by rw [← ch]; exact (G.parent n p ci (by rw [parU]; exact hp)).2)
    (fun q j hq hj => by
      rw [← parU]; exact (G.child q (by rw [hR.nec, V_isNecessary]; exact hq) j n (by rw [ch]; exact hj)).2.1)
    (fun e hk => by rw [hk2] at hk; cases hk) (fun q hqn hm => ?_) (fun x => ?_) rfl rfl rfl (fun _ _ => rfl)
    (fun e hk => by rw [hk2] at hk; cases hk)
  · have := I'.fresh q n (BindH.Below.step (BindH.Edge.child (by rw [ch]; exact hm)) (BindH.Below.refl n)) (Or.inr rfl)
    rwa [unstamp_other _ _ _ hqn, V_nodeD, vNode_recomputedAt, hR.stabNum, V_stabNum] at this
  · rw [started_nodeD]
    split
    · next h => rw [← h.1, ← hst]
    · rfl

/-- the callback discipline after the final `maybeChangeValue` -/
theorem lc_slots (B : LcBase env s n op pr eres) (E : LE env s n op pr eres m s2) {l l' : List Event}
    (htw : (maybeChangeValue (twEnv env) fuel n .unit).run.run (twL l s2) = (.ok r, twL l' s')) :
    SlotInv env s' :=
  (slotInv_twin env l' s').2 (mcv_slots (lc_pre B E l) htw)

/-! ## the auxiliary invariant, all but `pk` -/

/-- the shapes along the static step, read between `V s2` and `V s'` -/
theorem lc_shv {ch : Bool} {r0 : Int}
    (R : BindH.StepRelB n .unit ch r (unstamp n r0 (V s2)) (V s')) (x : Nat) :
    SameShape ((V s2).nodeD x) ((V s').nodeD x) :=
  (SameShape.symm (unstamp_shape n r0 (V s2) x)).trans (R.shapes x)

theorem LE.ahh (E : LE env s n op pr eres m s2) : AhhEmpty s2 :=
  ⟨E.mid.ahh.length, E.mid.ahh.buckets, fun x => by have := E.mid.ahh.marks x; rwa [twL_nodeD] at this⟩

theorem LE.handlers (E : LE env s n op pr eres m s2) (x : Nat) : (s2.nodeD x).numOnUpdateHandlers ≤ 0 := by
  have := E.mid.handlers x; rwa [twL_nodeD] at this

/-- **part C, all but `pk`** -/
theorem lc_aux (B : LcBase env s n op pr eres) (E : LE env s n op pr eres m s2) {ch : Bool}
    (R : BindH.StepRelB n .unit ch r (unstamp n (s.nodeD n).recomputedAt (V s2)) (V s')) (fr' : Fr s')
    (sf : SF s2 s') (hslots : SlotInv env s') (hpk : PKOK env s') : AuxP env s' := by
  have F2 := E.frag
  have shv := lc_shv R
  obtain ⟨rk2, st2W⟩ := E.mid.st
  have st2 : Struct (penv env) rk2 (V s2) := struct_V F2 st2W
  have V2 : VarsOK (V s2) := lc_varsOK E.lf B.pd.aux.vars
  exact auxP_of_dfx E.ahh E.handlers ⟨rk2, allStatic_V F2 st2W.static⟩
    (fun c => by have := st2.nodup c; rwa [V_nodeD, vNode_parents] at this) V2 E.obs
    (fun k x hk => by
      rw [(lf_key E.lf).2.2.2.1] at hk
      exact Nat.lt_of_lt_of_le (B.pd.aux.named k x hk) (lf_grow E.lf))
    sf.df shv fr' R.vars (F2.of_sf sf fr' shv) hpk hslots

end

end IncrVerif.Proofs.PerKeyH
