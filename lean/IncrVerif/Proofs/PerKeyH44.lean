import IncrVerif.Proofs.PerKeyH43
import IncrVerif.Proofs.PerKeyFrame
/-!
# Per-key operators, static steps part 2: the frame bundle `SF`, kinds of `V` along it, the fragment along it
-/
namespace IncrVerif.Proofs.PerKeyH
open IncrVerif.Engine IncrVerif.Driver IncrVerif.Proofs IncrVerif.Proofs.Step IncrVerif.Proofs.Sched
open IncrVerif.Proofs.ExpertH IncrVerif.Proofs.EffH IncrVerif.Proofs.DriverH IncrVerif.Proofs.Xp
open IncrVerif.Proofs.ExpertH.QR

/-- the frames of a step of the drain that is neither a run of a change detector nor of an expert node -/
structure SF (s s' : State) : Prop where
  xf : XF s s'
  df : DFX s s'
  perkeys : s'.perkeys = s.perkeys

theorem SF.trans {a b c : State} (h1 : SF a b) (h2 : SF b c) : SF a c :=
  ⟨h1.xf.trans h2.xf, h1.df.trans h2.df, h2.perkeys.trans h1.perkeys⟩

theorem SF.top {s s' : State} (f : SF s s') : s'.top = s.top := by
  have := f.df.keyD; simp only [KeyD, stateKeyD, Prod.mk.injEq] at this; exact this.2.2.2.1

theorem SF.scope {s s' : State} (f : SF s s') : s'.currentScope = s.currentScope := by
  have := f.df.keyD; simp only [KeyD, stateKeyD, Prod.mk.injEq] at this; exact this.2.2.1

theorem SF.binds {s s' : State} (f : SF s s') : s'.binds = s.binds := by
  have := f.df.keyD; simp only [KeyD, stateKeyD, Prod.mk.injEq] at this; exact this.2.2.2.2.2.2.2.1

theorem SF.slots {s s' : State} (f : SF s s') : s'.slots = s.slots := by
  have := f.df.keyD; simp only [KeyD, stateKeyD, Prod.mk.injEq] at this; exact this.2.2.2.2.2.2.2.2.2.1

theorem SF.size {s s' : State} (f : SF s s') : s'.nodes.size = s.nodes.size := f.xf.size
theorem SF.kind {s s' : State} (f : SF s s') (m : Nat) : (s'.nodeD m).kind = (s.nodeD m).kind := f.xf.kind m

/-- kinds a static step may run -/
theorem xKind_of_pkind {env : Env} {k : Kind} (h : PKind env k)
    (hf : ∀ f args, k = .map f args → f < fnPerKey) : XKind env k := by
  cases k <;> simp only [PKind] at h <;> try (first | exact h.elim | trivial | exact h)
  rename_i f args
  refine ⟨hf f args rfl, fun hz vals => ?_⟩
  rcases h with h | h | h | h
  · exact h.2 vals
  · subst h; exact absurd hz (by decide)
  · subst h; exact absurd hz (by decide)
  · have := hf f args rfl; omega

/-- a successful `recomputeOne` of a node that is neither a change detector nor an expert node -/
theorem SF.of_run {env : Env} {fuel n : Nat} {s s' : State} {r : Option Nat} (fr : Fr s) (hlt : n < s.nodes.size)
    (hxk : XKind env (s.nodeD n).kind) (hne : ∀ e, (s.nodeD n).kind ≠ .expert e)
    (h : (recomputeOne env fuel n).run.run s = (.ok r, s')) :
    SF s s' ∧ ∃ w es, (maybeChangeValue env fuel n w).run.run (logged es (started n s)) = (.ok r, s') := by
  obtain ⟨w, es, hrun⟩ := recomputeOne_as_mcv_x fr hlt hxk hne h
  rw [hrun] at h
  refine ⟨⟨(xf_started_logged es n s).trans ((PresX.maybeChangeValue env fuel n w).h _ _ _ h),
    (DFX.started_logged es n s).trans (DFX.maybeChangeValue h), ?_⟩, w, es, h⟩
  have hk : Keeps State.perkeys (logged es (started n s)) s' := (KQ.maybeChangeValue env fuel n w).h _ _ _ h
  exact hk

/-! ## the kinds of `V` along the frame -/

theorem forced_frame {s s' : State} (xf : XF s s') (m : Nat) :
    ExpertH.forced s'.experts (s'.nodeD m).kind = ExpertH.forced s.experts (s.nodeD m).kind := by
  rw [xf.kind]
  cases (s.nodeD m).kind <;> try rfl
  rename_i e
  simp only [ExpertH.forced, (xCore_inj (xf.xRec e)).2.2.2.2]

theorem below_frame {s s' : State} (xf : XF s s') {a d : Nat} (h : ExpertH.Below s a d) : ExpertH.Below s' a d := by
  induction h with
  | refl a => exact .refl a
  | step h1 _ ih => exact .step (by rw [xf.kidsX]; exact h1) ih

/-! ## the fragment along the frame -/

theorem PFrag.of_sf {env : Env} {s s' : State} (F : PFrag env s) (f : SF s s') (fr' : Fr s')
    (hsh : ∀ m, SameShape ((V s).nodeD m) ((V s').nodeD m)) : PFrag env s' :=
  F.of_xg (XG.of_xf f.xf) fr'.pc fr'.valid fr'.ni
    (fun m => have h := shape_actualV hsh m; ⟨h.2.2.1, h.1, h.2.2.2.2.2.2⟩) f.scope

/-! ## `eKey`, `dnKey` along the frames -/

theorem eKey_of_dfx {s s' : State} (df : DFX s s') (hvars : s'.vars = s.vars) (hstab : s'.stabNum = s.stabNum)
    (hq : s'.rch.queues.size = s.rch.queues.size) (hpc : s'.panicCountdown = s.panicCountdown)
    (hh : ∀ m, (s.nodeD m).numOnUpdateHandlers ≤ 0) : eKey s' = eKey s := by
  have hk := df.keyD
  simp only [KeyD, stateKeyD, Prod.mk.injEq] at hk
  obtain ⟨k1, k2, k3, k4, -, k6, k7, k8, -, -, -⟩ := hk
  have hc := df.calm
  simp only [eKey, Prod.mk.injEq]
  exact ⟨hvars, k8, hstab, hc.status, df.cfg, k3, k1, hc.newObservers, hc.disallowedObservers, k2,
    hc.setDuringStab, hc.deadVars, hc.has hh, k7, k4, k6, hq, hpc⟩

theorem dnKey_of_dfx {s s' : State} (df : DFX s s') (hsh : ∀ m, SameShape ((V s).nodeD m) ((V s').nodeD m)) (m : Nat) :
    dnKey (s'.nodeD m) = dnKey (s.nodeD m) := by
  obtain ⟨h1, h2, h3, -, -, h6, h7⟩ := shape_actualV hsh m
  simp only [dnKey, Prod.mk.injEq]
  exact ⟨df.kind m, h1, h3, h2, h6, h7, df.calm.num m⟩

/-! ## the auxiliary invariant and the frame of a step that creates nothing -/

/-- the clauses of `AuxP env s'` that are kept along `DFX` when the shapes of `V` are kept; the fragment, the
bookkeeping and the callback discipline of `s'` are hypotheses -/
theorem auxP_of_dfx {env : Env} {s s' : State} (ahh : QR.AhhEmpty s)
    (hh : ∀ m, (s.nodeD m).numOnUpdateHandlers ≤ 0) (rank : ∃ rk, QR.AllStatic (penv env) rk (V s))
    (nodup : ∀ c, (s.nodeD c).parents.Nodup) (vars : QR.VarsOK (V s))
    (obs : ∀ m o, o ∈ (s.nodeD m).observers →
      ∃ ob, s.observers[o]? = some ob ∧ ob.node = m ∧ (ob.state = .inUse ∨ ob.state = .disallowed))
    (named : ∀ (k x : Nat), s.top[k]? = some x → x < s.nodes.size)
    (df : DFX s s') (hsh : ∀ m, SameShape ((V s).nodeD m) ((V s').nodeD m)) (fr' : Fr s') (hvars : s'.vars = s.vars)
    (F' : PFrag env s') (P' : PKOK env s') (L' : SlotInv env s') : AuxP env s' := by
  have hkD := df.keyD
  simp only [KeyD, stateKeyD, Prod.mk.injEq] at hkD
  obtain ⟨k1, -, k3, k4, -⟩ := hkD
  have hsz : (V s').nodes.size = (V s).nodes.size := by rw [V_size, V_size]; exact df.size
  obtain ⟨rk, hrk⟩ := rank
  refine ⟨F', ahhEmpty_of_ahf ahh df.ahf, fr'.pinv, fun m => ?_, ⟨rk, allStatic_of_shapes hrk hsz hsh fr'.pc k3⟩,
    fun c => ?_, varsOK_of_shapes vars hsz hsh hvars, P', L', fun m o ho => ?_,
    fun k x hx => by rw [k4] at hx; rw [df.size]; exact named k x hx⟩
  · rw [df.calm.num]; exact hh m
  · rw [(shape_actualV hsh c).2.2.2.2.1]; exact nodup c
  · rw [(shape_actualV hsh m).2.2.2.2.2.1] at ho
    rw [k1]; exact obs m o ho

theorem AuxP.of_dfx {env : Env} {s s' : State} (A : AuxP env s) (df : DFX s s')
    (hsh : ∀ m, SameShape ((V s).nodeD m) ((V s').nodeD m)) (fr' : Fr s') (hvars : s'.vars = s.vars)
    (F' : PFrag env s') (P' : PKOK env s') (L' : SlotInv env s') : AuxP env s' :=
  auxP_of_dfx A.ahh A.handlers A.rank A.nodup A.vars A.obs A.named df hsh fr' hvars F' P' L'

theorem PStep.of_dfx {env : Env} {s s' : State} (A : AuxP env s) (df : DFX s s')
    (hsh : ∀ m, SameShape ((V s).nodeD m) ((V s').nodeD m)) (fr' : Fr s') (hvars : s'.vars = s.vars)
    (hstab : s'.stabNum = s.stabNum) (hq : s'.rch.queues.size = s.rch.queues.size)
    (fb : BindH.FrameB (V s) (V s')) : PStep s s' :=
  ⟨fb, Nat.le_of_eq df.size.symm, eKey_of_dfx df hvars hstab hq (fr'.pc.trans A.frag.pc.symm) A.handlers,
    fun m _ => dnKey_of_dfx df hsh m,
    fun m hm => by rw [nodeD_default_of_ge s' m (by rw [df.size]; exact hm)]; rfl⟩

theorem V_cfg (s : State) : (V s).cfg = s.cfg := rfl

end IncrVerif.Proofs.PerKeyH
