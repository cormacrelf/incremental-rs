import IncrVerif.Proofs.PerKeyH35
/-!
# A run of a per-key change detector, part 2c: template elaboration on the ACTUAL state and on its twin
(`elabTemplateBase_shape`: MC4 without `Mid`, plus the twin run), `inst_below`
-/
namespace IncrVerif.Proofs.PerKeyH
open IncrVerif.Engine IncrVerif.Driver IncrVerif.Proofs IncrVerif.Proofs.Step IncrVerif.Proofs.Sched
open IncrVerif.Proofs.ExpertH IncrVerif.Proofs.EffH IncrVerif.Proofs.DriverH IncrVerif.Proofs.ExpertH.QR

/-! ## forward runs -/

theorem run_resolve {loc : List Nat} {o : Opnd} {c : Nat} (t : State) (h : resP t.top loc o = some c) :
    (resolveOpnd loc o).run.run t = (.ok c, t) := by
  cases o with
  | outer k =>
    unfold resolveOpnd
    simp only
    rw [run_bind_get]
    have h : t.top[k]? = some c := h
    rw [h]; rfl
  | loc i =>
    unfold resolveOpnd
    simp only
    have h : loc[i]? = some c := h
    rw [h]; rfl
  | abs _ => cases h
  | slot _ => cases h

theorem run_mapM_resolve {loc : List Nat} (t : State) :
    ∀ (l : List Opnd) (r : List Nat), l.mapM (resP t.top loc) = some r →
      (l.mapM (fun o => resolveOpnd loc o)).run.run t = (.ok r, t) ∧ r.length = l.length := by
  intro l
  induction l with
  | nil =>
    intro r h
    rw [List.mapM_nil] at h
    cases h
    exact ⟨by rw [List.mapM_nil]; rfl, rfl⟩
  | cons a l ih =>
    intro r h
    rw [List.mapM_cons] at h
    cases hk : resP t.top loc a with
    | none => rw [hk] at h; cases h
    | some x =>
      cases hxs : l.mapM (resP t.top loc) with
      | none => rw [hk, hxs] at h; cases h
      | some xs =>
        rw [hk, hxs] at h
        cases h
        obtain ⟨h1, h2⟩ := ih xs hxs
        refine ⟨?_, by simp [h2]⟩
        rw [List.mapM_cons, run_bind_ok (run_resolve t hk), run_bind_ok h1]
        rfl

/-- the forward run of one instruction of the fragment -/
theorem elabInstr_fwd {E' : Env} {t : State} {loc : List Nat} {lhsVal : Val} {i : Instr} {k : Kind}
    (hsc : t.currentScope = .top) (hi : TInstrOK E' i) (hk : instrKind t.top loc lhsVal i = some k) :
    (elabInstr loc lhsVal i).run.run t = (.ok (some t.nodes.size), mkNode k t) := by
  cases i with
  | const w =>
    cases hk
    unfold elabInstr
    rw [run_bind_get]
    simp only [hsc]
    exact run_some_createNode_top _ t
  | lhsConst =>
    cases hk
    unfold elabInstr
    rw [run_bind_get]
    simp only [hsc]
    exact run_some_createNode_top _ t
  | map f args =>
    simp only [instrKind] at hk
    cases has : args.mapM (resP t.top loc) with
    | none => rw [has] at hk; cases hk
    | some as =>
      rw [has] at hk
      cases hk
      unfold elabInstr
      rw [run_bind_get]
      simp only [hsc]
      rw [run_bind_ok (run_mapM_resolve t args as has).1]
      exact run_some_createNode_top _ t
  | fold f init cs =>
    have hcs : cs ≠ [] := hi.2
    have hne' : cs.isEmpty = false := by
      cases cs with
      | nil => exact absurd rfl hcs
      | cons _ _ => rfl
    simp only [instrKind, hne', Bool.false_eq_true, if_false] at hk
    cases has : cs.mapM (resP t.top loc) with
    | none => rw [has] at hk; cases hk
    | some as =>
      rw [has] at hk
      cases hk
      obtain ⟨h1, hlen⟩ := run_mapM_resolve t cs as has
      have hne : as.isEmpty = false := by
        cases as with
        | nil => cases cs with
          | nil => exact absurd rfl hcs
          | cons _ _ => simp at hlen
        | cons _ _ => rfl
      unfold elabInstr
      rw [run_bind_get]
      simp only [hsc]
      rw [run_bind_ok h1]
      simp only [hne, Bool.false_eq_true, if_false]
      exact run_some_createNode_top _ t
  | _ => exact hi.elim

/-- the kinds of the nodes of an instance are twin-invariant -/
theorem instrKind_tw {E' : Env} {top : Array Nat} {loc : List Nat} {v : Val} {i : Instr} {k : Kind}
    (hi : TInstrOK E' i) (hk : instrKind top loc v i = some k) : twKind k = k := by
  rcases instrKind_cases hk with ⟨w, -, rfl⟩ | ⟨-, rfl⟩ | ⟨f, args, as, rfl, -, rfl⟩ | ⟨f, init, cs, as, -, -, -, rfl⟩
  · rfl
  · rfl
  · exact twKind_small (Nat.lt_trans hi.1 fnZip_lt_fnPerKey)
  · rfl

theorem twL_mkNode (l : List Event) {k : Kind} (t : State) (hk : twKind k = k) :
    twL l (mkNode k t) = mkNode k (twL l t) := by
  rw [mkNode_eq_crState, twL_crState, hk]; rfl

/-- the same instruction runs on the twin, with the same result -/
theorem elabInstr_tw {E' : Env} {t1 t2 : State} {loc : List Nat} {lhsVal : Val} {i : Instr} {ro : Option Nat}
    (hsc : t1.currentScope = .top) (hi : TInstrOK E' i) (hop : ∀ o, o ∈ instrOpnds i → OpndP o)
    (h : (elabInstr loc lhsVal i).run.run t1 = (.ok ro, t2)) :
    t2.currentScope = .top ∧ ∀ l, (elabInstr loc lhsVal i).run.run (twL l t1) = (.ok ro, twL l t2) := by
  obtain ⟨k, hk, e1, e2⟩ := elabInstr_shape hsc hi hop h
  have htw := instrKind_tw hi hk
  subst e1; subst e2
  refine ⟨hsc, fun l => ?_⟩
  rw [twL_mkNode l t1 htw, ← twL_size l t1]
  exact elabInstr_fwd (E' := E') (t := twL l t1) hsc hi hk

/-! ## a loop on the twin -/

theorem forIn_tw {α β : Type} (f : α → β → M (ForInStep β)) (P : State → Prop) :
    ∀ (xs : List α),
    (∀ a b t r t', a ∈ xs → P t → (f a b).run.run t = (.ok r, t') →
      P t' ∧ ∀ l, (f a b).run.run (twL l t) = (.ok r, twL l t')) →
    ∀ (b : β) (t : State) (r : β) (t' : State), P t → (forIn xs b f).run.run t = (.ok r, t') →
      P t' ∧ ∀ l, (forIn xs b f).run.run (twL l t) = (.ok r, twL l t') := by
  intro xs
  induction xs with
  | nil =>
    intro _ b t r t' hP h
    rw [List.forIn_nil] at h ⊢
    obtain ⟨e1, e2⟩ := pure_ok_inv h
    subst e1; subst e2
    exact ⟨hP, fun l => rfl⟩
  | cons a xs ih =>
    intro hstep b t r t' hP h
    rw [List.forIn_cons] at h
    obtain ⟨r1, t1, h1, h2⟩ := bind_ok_inv h
    obtain ⟨hP1, htw1⟩ := hstep a b t r1 t1 (List.mem_cons_self ..) hP h1
    cases r1 with
    | done b' =>
      obtain ⟨e1, e2⟩ := pure_ok_inv h2
      subst e1; subst e2
      refine ⟨hP1, fun l => ?_⟩
      rw [List.forIn_cons, run_bind_ok (htw1 l)]; rfl
    | yield b' =>
      obtain ⟨hP2, htw2⟩ := ih (fun a' b t r t' ha' => hstep a' b t r t' (List.mem_cons_of_mem _ ha')) b' t1 r t' hP1 h2
      refine ⟨hP2, fun l => ?_⟩
      rw [List.forIn_cons, run_bind_ok (htw1 l)]
      exact htw2 l

/-! ## the loop -/

/-- **template elaboration on an arbitrary state (scope top) and on its twin** -/
theorem elabTemplateBase_shape {env : Env} {tm : Template} {key : Int} {p m : Nat} {σ σ' : State}
    (hT : TemplOK env tm) (hsc : σ.currentScope = .top)
    (h : (elabTemplateBase tm (.int key) [p]).run.run σ = (.ok m, σ')) :
    σ'.nodes.size = σ.nodes.size + tm.instrs.length ∧
    ({ σ' with nodes := σ.nodes, counters := σ.counters } : State) = σ ∧
    (∀ k, k < σ.nodes.size → σ'.nodeD k = σ.nodeD k) ∧
    (∀ j i, tm.instrs[j]? = some i → ∃ k,
      instrKind σ.top (p :: (List.range' σ.nodes.size tm.instrs.length).take j) (.int key) i = some k ∧
      σ'.nodeD (σ.nodes.size + j) = { kind := k, createdIn := .top }) ∧
    resP σ.top (p :: List.range' σ.nodes.size tm.instrs.length) tm.ret = some m ∧
    ∀ l, ∃ l', (elabTemplateBase tm (.int key) [p]).run.run (twL l σ) = (.ok m, twL l' σ') := by
  unfold elabTemplateBase at h
  obtain ⟨loc, t1, h1, h2⟩ := bind_ok_inv h
  have hloop := forIn_ok_inv _ tm.instrs (fun j loc t1 => TJ σ p (.int key) tm j loc t1) ?_ tm.instrs 0 [p] σ
    loc t1 rfl (Nat.zero_le _) TJ.refl h1
  · have hloop : TJ σ p (.int key) tm tm.instrs.length loc t1 := hloop
    obtain ⟨et, hk⟩ := resolve_inv hT.ret.p h2
    subst et
    have hk1 := hk
    rw [hloop.top, hloop.loc] at hk
    refine ⟨hloop.size, hloop.rest, hloop.old, fun j i hj => ?_, hk, fun l => ⟨l, ?_⟩⟩
    · have hlt : j < tm.instrs.length := by
        rcases Nat.lt_or_ge j tm.instrs.length with h | h
        · exact h
        · rw [List.getElem?_eq_none h] at hj; cases hj
      obtain ⟨k, h1, h2⟩ := hloop.new j i hlt hj
      have ht : (List.range' σ.nodes.size tm.instrs.length).take j = List.range' σ.nodes.size j :=
        List.take_range'_of_length_ge (Nat.le_of_lt hlt)
      rw [ht]
      exact ⟨k, h1, h2⟩
    · -- the twin run
      have htwAll := forIn_tw _ (fun t => t.currentScope = .top) tm.instrs ?_ [p] σ loc σ' hsc h1
      · refine (run_bind_ok (htwAll.2 l)).trans ?_
        exact run_resolve (twL l σ') hk1
      · intro a b t r t' ha hP hrun
        obtain ⟨ro, t2, h3, h4⟩ := bind_ok_inv hrun
        have hop : ∀ o, o ∈ instrOpnds a → OpndP o := by
          obtain ⟨j, hj⟩ := List.getElem?_of_mem ha
          exact fun o ho => (hT.opnd j a hj o ho).p
        obtain ⟨hP2, htw2⟩ := elabInstr_tw hP (hT.instr a ha) hop h3
        cases ro with
        | none =>
          simp only at h4
          obtain ⟨e1, e2⟩ := pure_ok_inv h4
          subst e1; subst e2
          refine ⟨hP2, fun l => ?_⟩
          refine (run_bind_ok (htw2 l)).trans ?_
          rfl
        | some n =>
          simp only at h4
          obtain ⟨e1, e2⟩ := pure_ok_inv h4
          subst e1; subst e2
          refine ⟨hP2, fun l => ?_⟩
          refine (run_bind_ok (htw2 l)).trans ?_
          rfl
  · intro j a loc0 t0 r t0' hj hL hrun
    have hL : TJ σ p (.int key) tm j loc0 t0 := hL
    obtain ⟨ro, t2, h3, h4⟩ := bind_ok_inv hrun
    obtain ⟨e, hL'⟩ := hL.step hT hsc hj h3
    subst e
    simp only at h4
    obtain ⟨e1, e2⟩ := pure_ok_inv h4
    subst e2
    exact ⟨_, e1, hL'⟩

/-- the new nodes are an instance of the template in the new state -/
theorem elabTemplateBase_shape_inst {env : Env} {tm : Template} {key : Int} {p m : Nat} {σ σ' : State}
    (hT : TemplOK env tm) (hsc : σ.currentScope = .top)
    (h : (elabTemplateBase tm (.int key) [p]).run.run σ = (.ok m, σ')) :
    Inst σ' tm key p (List.range' σ.nodes.size tm.instrs.length) m := by
  obtain ⟨hsz, hrest, -, hk, hret, -⟩ := elabTemplateBase_shape hT hsc h
  have htop : σ'.top = σ.top := by have h := congrArg State.top hrest; exact h
  refine ⟨List.length_range', fun c hc => ?_, fun j i c hj hc => ?_, by rw [htop]; exact hret⟩
  · have := List.mem_range'_1.1 hc; omega
  · have hlt : j < tm.instrs.length := by
      rcases Nat.lt_or_ge j tm.instrs.length with h | h
      · exact h
      · rw [List.getElem?_eq_none h] at hj; cases hj
    rw [List.getElem?_range' hlt] at hc
    cases hc
    rw [htop, Nat.one_mul]
    obtain ⟨k, h1, h2⟩ := hk j i hj
    rw [h2]; exact h1

end IncrVerif.Proofs.PerKeyH
