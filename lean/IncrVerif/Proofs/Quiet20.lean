import IncrVerif.Proofs.Quiet19
import IncrVerif.Proofs.CutH32
/-!
# Part 20: total correctness — definitions and tools

`Tot x s Q`: the run of `x` from `s` RETURNS (no panic, fuel suffices) in a state satisfying `Q`.
`TInv N s`: what the "no panic" argument needs besides `QInv`: heights are bounded by the creation index,
both heaps have `N + 1` buckets, at most `N` nodes, every var is linked, `top` names every node.
-/
namespace IncrVerif.Proofs.Quiet
open IncrVerif.Engine IncrVerif.Driver IncrVerif.Proofs IncrVerif.Proofs.Step IncrVerif.Proofs.Sched

/-- the run returns, in a state (and with a value) satisfying `Q` -/
def Tot {α} (x : M α) (s : State) (Q : α → State → Prop) : Prop :=
  ∃ a s', x.run.run s = (.ok a, s') ∧ Q a s'

section tot
variable {α β : Type} {x : M α} {s : State} {Q : α → State → Prop}

theorem Tot.of_ok {a : α} {s1 : State} (h : x.run.run s = (.ok a, s1)) (hq : Q a s1) : Tot x s Q :=
  ⟨a, s1, h, hq⟩

theorem Tot.mono {Q' : α → State → Prop} (T : Tot x s Q) (h : ∀ a t, Q a t → Q' a t) : Tot x s Q' := by
  obtain ⟨a, s1, h1, h2⟩ := T; exact ⟨a, s1, h1, h a s1 h2⟩

theorem Tot.bind {f : α → M β} {Q' : β → State → Prop} (hx : Tot x s Q)
    (hf : ∀ a s1, x.run.run s = (.ok a, s1) → Q a s1 → Tot (f a) s1 Q') : Tot (x >>= f) s Q' := by
  obtain ⟨a, s1, h1, h2⟩ := hx
  obtain ⟨b, s2, h3, h4⟩ := hf a s1 h1 h2
  exact ⟨b, s2, by rw [run_bind_ok h1]; exact h3, h4⟩

theorem Tot.bind_ok {f : α → M β} {Q' : β → State → Prop} {a : α} {s1 : State}
    (h : x.run.run s = (.ok a, s1)) (T : Tot (f a) s1 Q') : Tot (x >>= f) s Q' := by
  obtain ⟨b, s2, h3, h4⟩ := T
  exact ⟨b, s2, by rw [run_bind_ok h]; exact h3, h4⟩

theorem Tot.pure {a : α} (h : Q a s) : Tot (pure a : M α) s Q := ⟨a, s, run_pure a s, h⟩

theorem Tot.bind_get {f : State → M β} {Q' : β → State → Prop} (T : Tot (f s) s Q') :
    Tot ((MonadState.get : M State) >>= f) s Q' := Tot.bind_ok (run_get s) T

theorem Tot.bind_modify {g : State → State} {f : Unit → M β} {Q' : β → State → Prop}
    (T : Tot (f ()) (g s) Q') : Tot (modify g >>= f) s Q' := Tot.bind_ok (run_modify g s) T

theorem Tot.bind_modNode {n : Nat} {g : Node → Node} {f : Unit → M β} {Q' : β → State → Prop}
    (T : Tot (f ()) { s with nodes := s.nodes.modify n g } Q') : Tot (modNode n g >>= f) s Q' :=
  Tot.bind_ok (run_modNode n g s) T

theorem Tot.bind_dassert {c : Bool} {site : String} {f : Unit → M β} {Q' : β → State → Prop}
    (hc : s.cfg.debug = true → c = true) (T : Tot (f ()) s Q') : Tot (Engine.dassert c site >>= f) s Q' :=
  Tot.bind_ok (run_dassert_true s hc) T

theorem Tot.bind_getNode {n : Nat} {f : Node → M β} {Q' : β → State → Prop} (hn : n < s.nodes.size)
    (T : Tot (f (s.nodeD n)) s Q') : Tot (Engine.getNode n >>= f) s Q' :=
  Tot.bind_ok (run_getNode_some (some_of_lt hn)) T

/-- the run of a `Tot` is that run -/
theorem Tot.elim (T : Tot x s Q) {r : Except Panic α} {s' : State} (h : x.run.run s = (r, s')) :
    ∃ a, r = .ok a ∧ Q a s' := by
  obtain ⟨a, s1, h1, h2⟩ := T
  rw [h1] at h; cases h; exact ⟨a, rfl, h2⟩

end tot

/-! ## the extra invariant -/

/-- closed necessary nodes are not higher than their creation index + 1 -/
def HBo (s : State) (op : Nat → Op) : Prop :=
  ∀ m, s.isNecessary m = true → op m = .closed → (s.nodeD m).height ≤ (m : Int) + 1

/-- both heaps have `N + 1` buckets and there are at most `N` nodes -/
structure Room (N : Nat) (s : State) : Prop where
  ahh : s.ahh.maxAllowed = (N : Int)
  rch : s.rch.maxAllowed = (N : Int)
  size : s.nodes.size ≤ N

structure TInv (N : Nat) (s : State) : Prop where
  hb : HBo s allClosed
  room : Room N s
  linked : ∀ (c : Nat) (vc : VarCell), s.vars[c]? = some vc → vc.linked = true
  topSize : s.top.size = s.nodes.size
  /-- the observers waiting to be added: no duplicates, each still `created` or already `unlinked` -/
  newNodup : s.newObservers.Nodup
  newState : ∀ (o : Nat) (ob : ObsRec), o ∈ s.newObservers → s.observers[o]? = some ob →
    ob.state = .created ∨ ob.state = .unlinked

theorem hbo_cop {s : State} {op : Nat → Op} : CutH.HBo s (cop op) ↔ HBo s op :=
  forall_congr' fun _ => forall_congr' fun _ => ⟨fun h e => h (cop_closed.2 e), fun h e => h (cop_closed.1 e)⟩

/-- `hbo_cop.1` when the twin states its labelling with `CutH.upd` -/
theorem HBo.ofC {s : State} {op : Nat → Op} {opc : Nat → CutH.Op} (h : CutH.HBo s opc) (e : cop op = opc := by simp only [cop_upd, Op.toC]) :
    HBo s op :=
  hbo_cop.1 (e ▸ h)

theorem Room.toC {N : Nat} {s : State} (R : Room N s) : CutH.Room N s := ⟨R.ahh, R.rch, R.size⟩
theorem Room.ofC {N : Nat} {s : State} (R : CutH.Room N s) : Room N s := ⟨R.ahh, R.rch, R.size⟩


/-- no cutoff is a `dependOn`, so the clause `CutH.TInv.dep` is empty -/
theorem EqCut.dep {s : State} (E : EqCut s) (m i : Nat) (h : (s.nodeD m).cutoff = .dependOn i) : i < s.nodes.size := by
  by_cases hm : m < s.nodes.size
  · rw [E m hm] at h; cases h
  · rw [nodeD_default s m (by omega)] at h; cases h

theorem TInv.toC {N : Nat} {s : State} (T : TInv N s) (E : EqCut s) : CutH.TInv N s :=
  ⟨hbo_cop.2 T.hb, T.room.toC, T.linked, T.topSize, T.newNodup, T.newState, E.dep⟩
theorem TInv.ofC {N : Nat} {s : State} (T : CutH.TInv N s) : TInv N s :=
  ⟨hbo_cop.1 T.hb, .ofC T.room, T.linked, T.topSize, T.newNodup, T.newState⟩


theorem Room.of_cframe {N : Nat} {s s' : State} (R : Room N s) (h : CFrame s s') : Room N s' :=
  .ofC (R.toC.of_cframe h.toC)

theorem Room.of_pframe {N : Nat} {s s' : State} (R : Room N s) (h : PFrame s s') : Room N s' :=
  .ofC (R.toC.of_pframe h.toC)

/-! ## actions whose indices exist -/

def OpndIn (s : State) : Opnd → Prop
  | .outer k => k < s.top.size
  | _ => False

def InstrIn (s : State) : Instr → Prop
  | .map _ args => ∀ a, a ∈ args → OpndIn s a
  | .fold _ _ cs => ∀ a, a ∈ cs → OpndIn s a
  | .zip a b => OpndIn s a ∧ OpndIn s b
  | _ => True

/-- the action names existing things, there is room for a new node, and the fuel of `stabilise` suffices -/
def ActionOK (N : Nat) (s : State) : Action → Prop
  | .create i => InstrIn s i ∧ s.nodes.size + 1 ≤ N
  | .observe n => OpndIn s n
  | .dropObs o | .disallow o => o < s.observers.size
  | .set v _ | .modify v _ | .update v _ | .replace v _ | .replaceWith v _ | .get v => v < s.vars.size
  | .stabilise => 3 * s.nodes.size + 4 ≤ fuelDefault
  | _ => True

/-- how many nodes / var cells / observers an action adds -/
def grow : Action → Nat × Nat × Nat
  | .create (.var _) => (1, 1, 0)
  | .create _ => (1, 0, 0)
  | .observe _ => (0, 0, 1)
  | _ => (0, 0, 0)

/-- the sizes after an action -/
def Grown (a : Action) (s s' : State) : Prop :=
  s'.nodes.size = s.nodes.size + (grow a).1 ∧ s'.vars.size = s.vars.size + (grow a).2.1 ∧
    s'.observers.size = s.observers.size + (grow a).2.2

/-! On the static actions of this stack `ActionOK` and `grow` are `CutH`'s. -/

theorem ActionOK.toC {env : Env} {N : Nat} {s : State} {a : Action} (ha : StaticAction env a) (h : ActionOK N s a) :
    CutH.ActionOK N s a := by
  cases a with
  | create i => cases i <;> first | exact h | exact ha.elim
  | _ => exact h

theorem grow_toC {env : Env} {a : Action} (ha : StaticAction env a) : CutH.grow a = grow a := by
  cases a with
  | create i => cases i <;> first | rfl | exact ha.elim
  | _ => rfl

theorem Grown.ofC {env : Env} {a : Action} {s s' : State} (ha : StaticAction env a) (h : CutH.Grown a s s') : Grown a s s' := by
  unfold CutH.Grown at h
  rw [grow_toC ha] at h
  exact h

end IncrVerif.Proofs.Quiet
