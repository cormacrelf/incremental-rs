import IncrVerif.Proofs.BindH80
import IncrVerif.Proofs.BindH78
/-!
# Binds, part 4 (B4), observers: the observer actions of the API keep `QInv1`

The actions `observe`, `cloneObs`, `dropObs`, `disallow` only touch the observer table, the two lists of pending
observers and counters; everything `QInv1` reads of nodes, binds, cells and heaps is untouched.
The four actions are taken apart once, for an invariant `P` of which `ObsActs P` says what is used; `QInv1 env` and `QInv2 env rk` (`NestH49`) are instances.
-/
namespace IncrVerif.Proofs.BindH
open IncrVerif.Engine IncrVerif.Driver IncrVerif.Proofs IncrVerif.Proofs.Step IncrVerif.Proofs.Sched IncrVerif.Proofs.Quiet

namespace C2o

/-- what the observer actions use of an invariant `P` between API actions: the observer bookkeeping is fine, observers and the naming table point at top-level nodes
that are not change detectors, and `P` survives a step that only touches the observer bookkeeping -/
structure ObsActs (P : State → Prop) : Prop where
  obs : ∀ {s}, P s → ObsOK s
  obsTop : ∀ {s}, P s → ∀ (o : Nat) (ob : ObsRec), s.observers[o]? = some ob →
    (s.nodeD ob.node).createdIn = .top ∧ ∀ b, (s.nodeD ob.node).kind ≠ .bindLhsChange b
  topOK : ∀ {s}, P s → ∀ (k r : Nat), s.top[k]? = some r →
    r < s.nodes.size ∧ (s.nodeD r).createdIn = .top ∧ ∀ b', (s.nodeD r).kind ≠ .bindLhsChange b'
  of_obs : ∀ {s s'}, P s → OFrame s s' → s'.binds = s.binds → s'.ahh = s.ahh → ObsOK s' →
    (∀ (o : Nat) (ob : ObsRec), s'.observers[o]? = some ob →
      (s.nodeD ob.node).createdIn = .top ∧ ∀ b, (s.nodeD ob.node).kind ≠ .bindLhsChange b) → P s'

namespace ObsActs
variable {P : State → Prop}

/-- modifying one observer record without changing the node it watches -/
theorem obsTop_modify (A : ObsActs P) {s : State} (Q : P s) {o : Nat} {f : ObsRec → ObsRec}
    (hf : ∀ ob, (f ob).node = ob.node) (o' : Nat) (ob : ObsRec)
    (h : (s.observers.modify o f)[o']? = some ob) :
    (s.nodeD ob.node).createdIn = .top ∧ ∀ b, (s.nodeD ob.node).kind ≠ .bindLhsChange b := by
  rw [Array.getElem?_modify] at h
  split at h
  · cases hob : s.observers[o']? with
    | none => rw [hob] at h; cases h
    | some x =>
      rw [hob] at h; cases h
      rw [hf x]; exact A.obsTop Q o' x hob
  · exact A.obsTop Q o' ob h

/-- a modification that keeps node, state and handlers of one observer record -/
theorem modObs_same (A : ObsActs P) {s : State} {o : Nat} {f : ObsRec → ObsRec} (Q : P s)
    (hf : ∀ ob, (f ob).node = ob.node ∧ (f ob).state = ob.state ∧ (f ob).handlers = ob.handlers) :
    P { s with observers := s.observers.modify o f } := by
  have O : ObsOK s := A.obs Q
  exact A.of_obs Q ⟨rfl, rfl, rfl, rfl, rfl, rfl, rfl, rfl, rfl, rfl, rfl, rfl, rfl⟩ rfl rfl
    (ObsInv.modify_same (s' := { s with observers := s.observers.modify o f }) O rfl rfl hf)
    (A.obsTop_modify Q (fun ob => (hf ob).1))

theorem disallowFutureUse_p (A : ObsActs P) {s s' : State} {o : Nat} {u : Unit}
    (Q : P s) (h : (disallowFutureUse o).run.run s = (.ok u, s')) : P s' := by
  have O : ObsOK s := A.obs Q
  unfold disallowFutureUse at h
  obtain ⟨ob, hob, h⟩ := bind_getObs_inv h
  cases hst : ob.state with
  | disallowed =>
    rw [hst] at h
    obtain ⟨-, e⟩ := pure_ok_inv h
    rw [e]; exact Q
  | unlinked =>
    rw [hst] at h
    obtain ⟨-, e⟩ := pure_ok_inv h
    rw [e]; exact Q
  | created =>
    rw [hst] at h
    dsimp only at h
    obtain ⟨s1, e1, h⟩ := bind_bumpCounter_inv h
    have e := modObs_ok_inv h
    rw [e, e1]
    refine A.of_obs Q ⟨rfl, rfl, rfl, rfl, rfl, rfl, rfl, rfl, rfl, rfl, rfl, rfl, rfl⟩ rfl rfl ?_
      (A.obsTop_modify Q (fun _ => rfl))
    refine ObsInv.modify (pd' := s.disallowedObservers) (o := o)
      (f := fun x => { x with state := .unlinked, handlers := [] }) O rfl rfl ?_ ?_ ?_ ?_ (fun _ _ => Iff.rfl)
      O.disNodup
    · intro ob' h'; exact ⟨rfl, rfl⟩
    · intro ob' h'
      rw [hob] at h'; cases h'
      rw [hst]
      constructor
      · intro h; rcases h with h | h <;> cases h
      · intro h; rcases h with h | h <;> cases h
    · intro ob' h' hc; cases hc
    · intro ob' h'
      rw [hob] at h'; cases h'
      rw [← O.dis o ob hob, hst]
      constructor
      · intro h; cases h
      · intro h; cases h
  | inUse =>
    rw [hst] at h
    dsimp only at h
    obtain ⟨s1, e1, h⟩ := bind_bumpCounter_inv h
    obtain ⟨s2, e2, h⟩ := bind_modObs_inv h
    rw [run_modify] at h
    have e : s' = { s2 with disallowedObservers := s2.disallowedObservers ++ [o] } := by cases h; rfl
    have hnot : o ∉ s.disallowedObservers := by
      intro hm
      have := (O.dis o ob hob).2 hm
      rw [hst] at this; cases this
    rw [e, e2, e1]
    refine A.of_obs Q ⟨rfl, rfl, rfl, rfl, rfl, rfl, rfl, rfl, rfl, rfl, rfl, rfl, rfl⟩ rfl rfl ?_
      (A.obsTop_modify Q (fun _ => rfl))
    refine ObsInv.modify (pd' := s.disallowedObservers ++ [o]) (o := o)
      (f := fun x => { x with state := .disallowed }) O rfl rfl ?_ ?_ ?_ ?_ ?_ ?_
    · intro ob' h'; exact ⟨rfl, (O.inRange o ob' h').2⟩
    · intro ob' h'
      rw [hob] at h'; cases h'
      rw [hst]
      exact ⟨fun _ => Or.inl rfl, fun _ => Or.inr rfl⟩
    · intro ob' h' hc; cases hc
    · intro ob' h'
      exact ⟨fun _ => List.mem_append_right _ (List.mem_singleton.2 rfl), fun _ => rfl⟩
    · intro o' ho'
      rcases ho' with ho' | ho'
      · rw [hob] at ho'; cases ho'
      · simp only [List.mem_append, List.mem_singleton, ho', or_false]
    · rw [List.nodup_append]
      refine ⟨O.disNodup, List.nodup_cons.2 ⟨List.not_mem_nil, List.nodup_nil⟩, ?_⟩
      intro a ha b hb
      rw [List.mem_singleton] at hb
      rw [hb]; intro eab; rw [eab] at ha; exact hnot ha

theorem step_observe (A : ObsActs P) {env : Env} {s s' : State} {k : Nat} {tokens : Array Nat} {r : String × Array Nat}
    (Q : P s) (h : (stepAction env (.observe (.outer k)) tokens).run.run s = (.ok r, s')) :
    P s' := by
  simp only [stepAction, resolveOpnd] at h
  obtain ⟨n, s0, h0, h⟩ := bind_ok_inv h
  rw [run_bind_get] at h0
  cases hk : s.top[k]? with
  | none => rw [hk] at h0; cases h0
  | some n' =>
    rw [hk] at h0
    obtain ⟨en, e0⟩ := pure_ok_inv h0
    rw [e0] at h
    rw [run_bind_get] at h
    obtain ⟨s1, e1, h⟩ := bind_modify_inv h
    obtain ⟨s2, e2, h⟩ := bind_bumpCounter_inv h
    obtain ⟨-, e⟩ := pure_ok_inv h
    obtain ⟨hlt', htop, hlc⟩ := A.topOK Q k n' hk
    have hlt : n < s.nodes.size := by rw [en]; exact hlt'
    rw [e, e2, e1]
    refine A.of_obs Q ⟨rfl, rfl, rfl, rfl, rfl, rfl, rfl, rfl, rfl, rfl, rfl, rfl, rfl⟩ rfl rfl ?_ ?_
    · exact ObsInv.push (show ObsOK s from A.obs Q) rfl hlt rfl
    · intro o ob ho
      have ho' : (s.observers.push { node := n })[o]? = some ob := ho
      rw [Array.getElem?_push] at ho'
      split at ho'
      · cases ho'
        rw [en]; exact ⟨htop, hlc⟩
      · exact A.obsTop Q o ob ho'

theorem step_cloneObs (A : ObsActs P) {env : Env} {s s' : State} {o : Nat} {tokens : Array Nat} {r : String × Array Nat}
    (Q : P s) (h : (stepAction env (.cloneObs o) tokens).run.run s = (.ok r, s')) :
    P s' := by
  simp only [stepAction] at h
  obtain ⟨s1, e1, h⟩ := bind_modObs_inv h
  obtain ⟨-, e⟩ := pure_ok_inv h
  rw [e, e1]
  exact A.modObs_same Q (fun ob => ⟨rfl, rfl, rfl⟩)

theorem step_dropObs (A : ObsActs P) {env : Env} {s s' : State} {o : Nat} {tokens : Array Nat} {r : String × Array Nat}
    (Q : P s) (h : (stepAction env (.dropObs o) tokens).run.run s = (.ok r, s')) :
    P s' := by
  simp only [stepAction] at h
  obtain ⟨ob, hob, h⟩ := bind_getObs_inv h
  split at h
  · obtain ⟨-, e⟩ := pure_ok_inv h
    rw [e]; exact Q
  · obtain ⟨s1, e1, h⟩ := bind_modObs_inv h
    have Q1 : P s1 := by
      rw [e1]; exact A.modObs_same Q (fun ob => ⟨rfl, rfl, rfl⟩)
    split at h
    · obtain ⟨u, s2, h2, h⟩ := bind_ok_inv h
      obtain ⟨-, e⟩ := pure_ok_inv h
      rw [e]
      exact A.disallowFutureUse_p Q1 h2
    · obtain ⟨-, e⟩ := pure_ok_inv h
      rw [e]; exact Q1

theorem step_disallow (A : ObsActs P) {env : Env} {s s' : State} {o : Nat} {tokens : Array Nat} {r : String × Array Nat}
    (Q : P s) (h : (stepAction env (.disallow o) tokens).run.run s = (.ok r, s')) :
    P s' := by
  simp only [stepAction] at h
  obtain ⟨u, s1, h1, h⟩ := bind_ok_inv h
  obtain ⟨-, e⟩ := pure_ok_inv h
  rw [e]
  exact A.disallowFutureUse_p Q h1

end ObsActs

/-- an action that only touches the observer bookkeeping (and counters) keeps `QInv1` as soon as it keeps `ObsOK` and the new observer table
watches top-level nodes that are not change detectors -/
theorem of_obs {env : Env} {s s' : State} (Q : QInv1 env s) (F : OFrame s s') (hb : s'.binds = s.binds)
    (ha : s'.ahh = s.ahh) (O : ObsOK s')
    (hT : ∀ (o : Nat) (ob : ObsRec), s'.observers[o]? = some ob →
      (s.nodeD ob.node).createdIn = .top ∧ ∀ b, (s.nodeD ob.node).kind ≠ .bindLhsChange b) :
    QInv1 env s' := by
  have S : SameB s s' := ⟨SameG.of_nodes F.nodes F.pc F.scope F.rch F.vars, hb⟩
  have E := BL.KeyEq.of_same S
  have I : GInv1 env s allClosed noEx [] := Q.struct
  refine
    { struct := CU.congr I S
      f1 := CF.F1Inv.transfer Q.f1 (by rw [F.nodes]) (fun m => by rw [F.nodeD]; exact SameShape.refl _)
        (fun m => by rw [F.nodeD]) (fun m h => by rw [F.nodeD] at h; exact Or.inl h) (fun m => by rw [F.nodeD])
        hb F.top ha F.pinv F.scope (F.pc.trans Q.f1.frag.pc)
      vars := ?_
      obs := O
      obsTop := fun o ob h => by rw [F.nodeD]; exact hT o ob h
      now := by rw [F.stabNum]; exact Q.now
      stamps := fun m => by rw [F.nodeD, F.stabNum]; exact Q.stamps m
      varStamp := fun c vc h => by rw [F.vars] at h; rw [F.stabNum]; exact Q.varStamp c vc h
      cons := ?_
      status := by rw [F.status]; exact Q.status
      alive := by rw [F.alive]; exact Q.alive
      setDuringStab := by rw [F.setDuringStab]; exact Q.setDuringStab
      deadVars := by rw [F.deadVars]; exact Q.deadVars
      handleAfterStab := by rw [F.handleAfterStab]; exact Q.handleAfterStab }
  · refine ⟨fun n c hn hk => ?_, fun c vc h => ?_⟩
    · rw [F.nodes] at hn; rw [F.nodeD] at hk; rw [F.vars]; exact Q.vars.node n c hn hk
    · rw [F.vars] at h; rw [F.nodes, F.nodeD]; exact Q.vars.cell c vc h
  · intro m hm hv hs
    rw [F.nodes] at hm
    rw [F.nodeD] at hv
    rw [E.isStale1 I.frag] at hs
    obtain ⟨v, hT', hval⟩ := Q.cons m hm hv hs
    refine ⟨v, TargetB.congr hv (I.frag.node m hm).kind (by rw [F.nodeD]) F.vars hb (fun c _ => by rw [F.nodeD]) hT', ?_⟩
    rw [F.nodeD]; exact hval

theorem acts1 (env : Env) : ObsActs (QInv1 env) := ⟨fun Q => Q.obs, fun Q => Q.obsTop, fun Q => Q.f1.topOK, of_obs⟩

end C2o

/-! ## the actions -/

theorem step_observe1 {env : Env} {s s' : State} {k : Nat} {tokens : Array Nat} {r : String × Array Nat}
    (Q : QInv1 env s) (h : (stepAction env (.observe (.outer k)) tokens).run.run s = (.ok r, s')) :
    QInv1 env s' := (C2o.acts1 env).step_observe Q h

theorem step_cloneObs1 {env : Env} {s s' : State} {o : Nat} {tokens : Array Nat} {r : String × Array Nat}
    (Q : QInv1 env s) (h : (stepAction env (.cloneObs o) tokens).run.run s = (.ok r, s')) :
    QInv1 env s' := (C2o.acts1 env).step_cloneObs Q h

theorem step_dropObs1 {env : Env} {s s' : State} {o : Nat} {tokens : Array Nat} {r : String × Array Nat}
    (Q : QInv1 env s) (h : (stepAction env (.dropObs o) tokens).run.run s = (.ok r, s')) :
    QInv1 env s' := (C2o.acts1 env).step_dropObs Q h

theorem step_disallow1 {env : Env} {s s' : State} {o : Nat} {tokens : Array Nat} {r : String × Array Nat}
    (Q : QInv1 env s) (h : (stepAction env (.disallow o) tokens).run.run s = (.ok r, s')) :
    QInv1 env s' := (C2o.acts1 env).step_disallow Q h

end IncrVerif.Proofs.BindH
