import IncrVerif.Proofs.Step
import IncrVerif.Engine.Run
/-!
# API actions and histories

What a returning run of `stepAction` is, action by action, in terms of the engine call it makes (`stepAction_*_ok`); the run of a list of actions
with ONE induction over it (`runActions_split`, and the state at a `stabilise` inside a run); and the API actions under a two-run relation given by
its calculus (`ActCalc`): the actions of the static fragment are related as soon as their engine calls are.
-/
namespace IncrVerif.Proofs.Hist
open IncrVerif.Engine IncrVerif.Proofs IncrVerif.Proofs.Step

/-! ## a returning run of each action -/

section
variable {env : Env} {tk : Array Nat} {s s' : State} {r : String × Array Nat}

/-- a call followed by the `api` text -/
theorem bind_pure_ok {α β} {x : M α} {g : α → β} {r : β} :
    (x >>= fun a => pure (g a)).run.run s = (.ok r, s') ↔ ∃ a, x.run.run s = (.ok a, s') ∧ r = g a := by
  constructor
  · intro h
    obtain ⟨a, s1, h1, h2⟩ := bind_ok_inv h
    obtain ⟨e, e'⟩ := pure_ok_inv h2
    rw [e'] at *
    exact ⟨a, h1, e⟩
  · rintro ⟨a, h1, e⟩
    rw [run_bind_ok h1, e]; rfl

theorem discard_ok {α} {x : M α} {u : Unit} : (discard x).run.run s = (.ok u, s') ↔ ∃ a, x.run.run s = (.ok a, s') := by
  have e : discard x = x >>= fun _ => pure () := by
    rw [Functor.discard, map_const, Function.comp_apply, map_eq_pure_bind]
  rw [e, bind_pure_ok]
  exact ⟨fun ⟨a, h, _⟩ => ⟨a, h⟩, fun ⟨a, h⟩ => ⟨a, h, rfl⟩⟩

theorem resolveOpnd_ok {loc : List Nat} {o : Opnd} {n : Nat} (h : (resolveOpnd loc o).run.run s = (.ok n, s')) : s' = s := by
  unfold resolveOpnd at h
  cases o <;> dsimp only at h
  case abs => exact (pure_ok_inv h).2
  case outer k =>
    rw [run_bind_get] at h
    split at h
    · exact (pure_ok_inv h).2
    · cases h
  case loc j =>
    split at h
    · exact (pure_ok_inv h).2
    · cases h
  case slot k =>
    rw [run_bind_get] at h
    split at h
    · exact (pure_ok_inv h).2
    · cases h

theorem resolveOuter_ok {loc : List Nat} {k n : Nat} :
    (resolveOpnd loc (.outer k)).run.run s = (.ok n, s') ↔ s.top[k]? = some n ∧ s' = s := by
  unfold resolveOpnd
  dsimp only
  rw [run_bind_get]
  cases s.top[k]? with
  | none => exact ⟨fun h => (nomatch h), fun h => (nomatch h.1)⟩
  | some m =>
    constructor
    · intro h
      obtain ⟨e, e'⟩ := pure_ok_inv h
      exact ⟨by rw [e], e'⟩
    · rintro ⟨e, rfl⟩
      cases e; rfl

theorem stepAction_create_ok {i : Instr} :
    (stepAction env (.create i) tk).run.run s = (.ok r, s') ↔
      ∃ ro s1, (elabInstrM env [] .unit i).run.run s = (.ok ro, s1) ∧
        match ro with
        | some n => s' = { s1 with top := s1.top.push n, handles := n :: s1.handles } ∧ r = (s!"ok #{n}", tk)
        | none => s' = s1 ∧ r = ("ok", tk) := by
  unfold stepAction
  dsimp only
  constructor
  · intro h
    obtain ⟨ro, s1, h1, h2⟩ := bind_ok_inv h
    refine ⟨ro, s1, h1, ?_⟩
    cases ro with
    | none => obtain ⟨e, e'⟩ := pure_ok_inv h2; exact ⟨e', e⟩
    | some n =>
      dsimp only at h2 ⊢
      rw [run_bind_modify] at h2
      obtain ⟨e, e'⟩ := pure_ok_inv h2; exact ⟨e', e⟩
  · rintro ⟨ro, s1, h1, h2⟩
    rw [run_bind_ok h1]
    cases ro with
    | none => obtain ⟨rfl, rfl⟩ := h2; rfl
    | some n => obtain ⟨rfl, rfl⟩ := h2; rfl

/-- the state after `observe` of node `n` -/
def observed (n : Nat) (s : State) : State :=
  { s with observers := s.observers.push { node := n }, newObservers := s.newObservers ++ [s.observers.size],
           counters := { s.counters with activeObservers := s.counters.activeObservers + 1 } }

theorem stepAction_observe_ok {x : Opnd} :
    (stepAction env (.observe x) tk).run.run s = (.ok r, s') ↔
      ∃ n, (resolveOpnd [] x).run.run s = (.ok n, s) ∧ s' = observed n s ∧ r = (s!"ok o{s.observers.size}", tk) := by
  unfold stepAction
  dsimp only
  constructor
  · intro h
    obtain ⟨n, s1, h1, h2⟩ := bind_ok_inv h
    cases resolveOpnd_ok h1
    rw [run_bind_get, run_bind_modify, run_bind_bumpCounter] at h2
    obtain ⟨e, e'⟩ := pure_ok_inv h2
    exact ⟨n, h1, e', e⟩
  · rintro ⟨n, h1, rfl, rfl⟩
    rw [run_bind_ok h1]; rfl

theorem stepAction_cloneObs_run (env : Env) (o : Nat) (tk : Array Nat) (s : State) :
    (stepAction env (.cloneObs o) tk).run.run s =
      (.ok ("ok", tk), { s with observers := s.observers.modify o fun x => { x with clones := x.clones + 1 } }) := rfl

theorem stepAction_dropObs_ok {o : Nat} :
    (stepAction env (.dropObs o) tk).run.run s = (.ok r, s') ↔
      ∃ ob, s.observers[o]? = some ob ∧
        if ob.clones == 0 then s' = s ∧ r = ("noop", tk)
        else r = ("ok", tk) ∧
          (if ob.clones == 1 then disallowFutureUse o else pure ()).run.run
            { s with observers := s.observers.modify o fun x => { x with clones := x.clones - 1 } } = (.ok (), s') := by
  unfold stepAction
  dsimp only
  constructor
  · intro h
    obtain ⟨ob, s1, h1, h2⟩ := bind_ok_inv h
    unfold getObs at h1
    rw [run_bind_get] at h1
    split at h1
    · rename_i x hx
      obtain ⟨rfl, rfl⟩ := pure_ok_inv h1
      refine ⟨ob, hx, ?_⟩
      split at h2
      · rename_i hc
        rw [if_pos hc]
        obtain ⟨e, e'⟩ := pure_ok_inv h2; exact ⟨e', e⟩
      · rename_i hc
        rw [if_neg hc]
        unfold modObs at h2
        rw [run_bind_modify] at h2
        split at h2
        · rename_i h1c
          obtain ⟨_, h3, e⟩ := bind_pure_ok.1 h2
          exact ⟨e, by rw [if_pos h1c]; exact h3⟩
        · rename_i h1c
          obtain ⟨e, e'⟩ := pure_ok_inv h2
          exact ⟨e, by rw [if_neg h1c, e']; rfl⟩
    · cases h1
  · rintro ⟨ob, hob, h⟩
    have hg : (getObs o).run.run s = (.ok ob, s) := by
      unfold getObs; rw [run_bind_get, hob]; rfl
    rw [run_bind_ok hg]
    split at h
    · rename_i hc
      obtain ⟨rfl, rfl⟩ := h
      rw [if_pos hc]; rfl
    · rename_i hc
      obtain ⟨rfl, h⟩ := h
      rw [if_neg hc]
      unfold modObs
      rw [run_bind_modify]
      split at h
      · rename_i h1c
        rw [if_pos h1c]
        exact bind_pure_ok.2 ⟨(), h, rfl⟩
      · rename_i h1c
        rw [if_neg h1c]
        obtain ⟨-, e⟩ := pure_ok_inv h
        rw [e]; rfl

theorem stepAction_disallow_ok {o : Nat} :
    (stepAction env (.disallow o) tk).run.run s = (.ok r, s') ↔
      (disallowFutureUse o).run.run s = (.ok (), s') ∧ r = ("ok", tk) := by
  unfold stepAction
  dsimp only
  rw [bind_pure_ok]
  exact ⟨fun ⟨_, h, e⟩ => ⟨h, e⟩, fun ⟨h, e⟩ => ⟨(), h, e⟩⟩

theorem stepAction_stabilise_ok :
    (stepAction env .stabilise tk).run.run s = (.ok r, s') ↔
      (stabilise env fuelDefault).run.run s = (.ok (), s') ∧ r = ("ok", tk) := by
  unfold stepAction
  dsimp only
  rw [bind_pure_ok]
  exact ⟨fun ⟨_, h, e⟩ => ⟨h, e⟩, fun ⟨h, e⟩ => ⟨(), h, e⟩⟩

theorem stepAction_get_ok {v : Nat} :
    (stepAction env (.get v) tk).run.run s = (.ok r, s') ↔
      ∃ vc, (getVar v).run.run s = (.ok vc, s') ∧ r = ("ok " ++ vc.value.render, tk) := by
  unfold stepAction
  dsimp only
  exact bind_pure_ok

theorem getVar_ok {v : Nat} {vc : VarCell} (h : (getVar v).run.run s = (.ok vc, s')) : s' = s ∧ s.vars[v]? = some vc := by
  unfold getVar at h
  rw [run_bind_get] at h
  split at h
  · rename_i x hx
    obtain ⟨e, e'⟩ := pure_ok_inv h
    exact ⟨e', by rw [hx, e]⟩
  · cases h

theorem stepAction_isStable_run (env : Env) (tk : Array Nat) (s : State) :
    (stepAction env .isStable tk).run.run s = (.ok (s!"ok {s.isStable}", tk), s) := rfl

theorem stepAction_stats_run (env : Env) (tk : Array Nat) (s : State) :
    (stepAction env .stats tk).run.run s = (.ok ("ok", tk), s) := rfl

/-- the actions that only read the state -/
inductive Reads : Action → Prop
  | get (v) : Reads (.get v)
  | isStable : Reads .isStable
  | stats : Reads .stats

theorem stepAction_read_ok {a : Action} (hr : Reads a) (h : (stepAction env a tk).run.run s = (.ok r, s')) : s' = s ∧ r.2 = tk := by
  cases hr with
  | get v =>
    obtain ⟨vc, h1, rfl⟩ := stepAction_get_ok.1 h
    exact ⟨(getVar_ok h1).1, rfl⟩
  | isStable => rw [stepAction_isStable_run] at h; cases h; exact ⟨rfl, rfl⟩
  | stats => rw [stepAction_stats_run] at h; cases h; exact ⟨rfl, rfl⟩

/-- `Writes a v f b t`: the action `a` is `writeVar v f b`; its `api` text is `t old` -/
inductive Writes : Action → Nat → (Val → Val) → Bool → (Val → String) → Prop
  | set (v x) : Writes (.set v x) v (fun _ => x) true fun _ => "ok"
  | modify (v d) : Writes (.modify v d) v (fun x => x.addInt d 7) false fun _ => "ok"
  | update (v d) : Writes (.update v d) v (fun x => x.addInt d 7) false fun _ => "ok"
  | replace (v x) : Writes (.replace v x) v (fun _ => x) false fun old => "ok " ++ old.render
  | replaceWith (v d) : Writes (.replaceWith v d) v (fun x => x.addInt d 7) false fun old => "ok " ++ old.render

theorem stepAction_write_ok {a : Action} {v : Nat} {f : Val → Val} {b : Bool} {t : Val → String} (w : Writes a v f b t) :
    (stepAction env a tk).run.run s = (.ok r, s') ↔ ∃ old, (writeVar v f b).run.run s = (.ok old, s') ∧ r = (t old, tk) := by
  unfold stepAction
  cases w <;> dsimp only
  case replace => exact bind_pure_ok
  case replaceWith => exact bind_pure_ok
  all_goals
    rw [bind_pure_ok]
    constructor
    · rintro ⟨_, h, e⟩
      obtain ⟨old, h⟩ := discard_ok.1 h
      exact ⟨old, h, e⟩
    · rintro ⟨old, h, e⟩
      exact ⟨(), discard_ok.2 ⟨old, h⟩, e⟩

end

end IncrVerif.Proofs.Hist

/-! ## histories -/

namespace IncrVerif.Proofs.Quiet
open IncrVerif.Engine

/-- run the actions one after the other, stopping at the first panic -/
def runActions (env : Env) : List Action → State → Array Nat → Except Panic (State × Array Nat)
  | [], s, tk => .ok (s, tk)
  | a :: as, s, tk =>
    match (stepAction env a tk).run.run s with
    | (.ok r, s') => runActions env as s' r.2
    | (.error e, _) => .error e

theorem runActions_append (env : Env) (as bs : List Action) (s : State) (tk : Array Nat) :
    runActions env (as ++ bs) s tk =
      match runActions env as s tk with
      | .ok (s1, tk1) => runActions env bs s1 tk1
      | .error e => .error e := by
  induction as generalizing s tk with
  | nil => rfl
  | cons a as ih =>
    simp only [List.cons_append, runActions]
    rcases hx : (stepAction env a tk).run.run s with ⟨_ | r, s'⟩
    · rfl
    · exact ih s' r.2

/-- a prefix of a run that returns also returns -/
theorem runActions_prefix {env : Env} {as bs : List Action} {s s' : State} {tk tk' : Array Nat}
    (h : runActions env (as ++ bs) s tk = .ok (s', tk')) :
    ∃ s1 tk1, runActions env as s tk = .ok (s1, tk1) ∧ runActions env bs s1 tk1 = .ok (s', tk') := by
  rw [runActions_append] at h
  rcases hx : runActions env as s tk with _ | ⟨s1, tk1⟩
  · rw [hx] at h; cases h
  · rw [hx] at h; exact ⟨s1, tk1, rfl, h⟩

end IncrVerif.Proofs.Quiet

namespace IncrVerif.Proofs.Hist
open IncrVerif.Engine IncrVerif.Proofs IncrVerif.Proofs.Step IncrVerif.Proofs.Quiet

section
variable {env : Env}

theorem runActions_cons_ok {a : Action} {as : List Action} {s s' : State} {tk tk' : Array Nat} :
    runActions env (a :: as) s tk = .ok (s', tk') ↔
      ∃ r s1, (stepAction env a tk).run.run s = (.ok r, s1) ∧ runActions env as s1 r.2 = .ok (s', tk') := by
  rw [runActions]
  rcases (stepAction env a tk).run.run s with ⟨_ | r, s1⟩
  · exact ⟨fun h => (nomatch h), fun ⟨_, _, h, _⟩ => (nomatch h)⟩
  · exact ⟨fun h => ⟨r, s1, rfl, h⟩, fun ⟨_, _, h, h'⟩ => by cases h; exact h'⟩

/-- **Induction over a history.**  `I s tk rest`: the invariant of the state and the token table together with what is asked of the actions still to
come (which may depend on the state, as the number of names given so far does).  If every returning action takes `I` of `a :: rest` to `I` of
`rest`, a run of `as ++ bs` from `I` is a run of `as` that ends in `I … bs` and a run of `bs` from there. -/
theorem runActions_split {I : State → Array Nat → List Action → Prop}
    (step : ∀ a rest s tk r s', I s tk (a :: rest) → (stepAction env a tk).run.run s = (.ok r, s') → I s' r.2 rest)
    {as bs : List Action} {s s' : State} {tk tk' : Array Nat} (h0 : I s tk (as ++ bs))
    (h : runActions env (as ++ bs) s tk = .ok (s', tk')) :
    ∃ s1 tk1, runActions env as s tk = .ok (s1, tk1) ∧ I s1 tk1 bs ∧ runActions env bs s1 tk1 = .ok (s', tk') := by
  induction as generalizing s tk with
  | nil => exact ⟨s, tk, rfl, h0, h⟩
  | cons a as ih =>
    obtain ⟨r, s1, hx, h⟩ := runActions_cons_ok.1 h
    obtain ⟨s2, tk2, h1, h2⟩ := ih (step a _ s tk r s1 h0 hx) h
    exact ⟨s2, tk2, runActions_cons_ok.2 ⟨r, s1, hx, h1⟩, h2⟩

theorem runActions_inv {I : State → Array Nat → List Action → Prop}
    (step : ∀ a rest s tk r s', I s tk (a :: rest) → (stepAction env a tk).run.run s = (.ok r, s') → I s' r.2 rest)
    {as : List Action} {s s' : State} {tk tk' : Array Nat} (h0 : I s tk as)
    (h : runActions env as s tk = .ok (s', tk')) : I s' tk' [] := by
  rw [← List.append_nil as] at h0 h
  obtain ⟨s1, tk1, -, h1, h2⟩ := runActions_split step h0 h
  cases h2
  exact h1

/-- a `stabilise` inside a run: the state before it, the engine's `stabilise` from there, and the rest of the run, with the same tokens -/
theorem runActions_stabilise {I : State → Array Nat → List Action → Prop}
    (step : ∀ a rest s tk r s', I s tk (a :: rest) → (stepAction env a tk).run.run s = (.ok r, s') → I s' r.2 rest)
    {as bs : List Action} {s s' : State} {tk tk' : Array Nat} (h0 : I s tk (as ++ .stabilise :: bs))
    (h : runActions env (as ++ .stabilise :: bs) s tk = .ok (s', tk')) :
    ∃ s1 tk1 s2, runActions env as s tk = .ok (s1, tk1) ∧ I s1 tk1 (.stabilise :: bs) ∧
      (stabilise env fuelDefault).run.run s1 = (.ok (), s2) ∧ I s2 tk1 bs ∧ runActions env bs s2 tk1 = .ok (s', tk') := by
  obtain ⟨s1, tk1, h1, i1, h2⟩ := runActions_split step h0 h
  obtain ⟨r, s2, hx, h3⟩ := runActions_cons_ok.1 h2
  have i2 := step _ _ _ _ _ _ i1 hx
  obtain ⟨hst, rfl⟩ := stepAction_stabilise_ok.1 hx
  exact ⟨s1, tk1, s2, h1, i1, hst, i2, h3⟩

/-! The same for an invariant `I` of the state and a condition `ok` on every action. -/

section
variable {I : State → Prop} {ok : Action → Prop}
  (step : ∀ a s tk r s', I s → ok a → (stepAction env a tk).run.run s = (.ok r, s') → I s')
include step

theorem runActions_all (a : Action) (rest : List Action) (s : State) (tk : Array Nat) (r : String × Array Nat) (s' : State)
    (i : I s ∧ ∀ b, b ∈ a :: rest → ok b) (hx : (stepAction env a tk).run.run s = (.ok r, s')) :
    I s' ∧ ∀ b, b ∈ rest → ok b :=
  ⟨step a s tk r s' i.1 (i.2 a (List.mem_cons_self ..)) hx, fun b hb => i.2 b (List.mem_cons_of_mem _ hb)⟩

theorem runActions_split_all {as bs : List Action} {s s' : State} {tk tk' : Array Nat} (h0 : I s) (ha : ∀ a, a ∈ as ++ bs → ok a)
    (h : runActions env (as ++ bs) s tk = .ok (s', tk')) :
    ∃ s1 tk1, runActions env as s tk = .ok (s1, tk1) ∧ I s1 ∧ runActions env bs s1 tk1 = .ok (s', tk') := by
  obtain ⟨s1, tk1, h1, i1, h2⟩ := runActions_split (I := fun s _ rest => I s ∧ ∀ b, b ∈ rest → ok b) (runActions_all step) ⟨h0, ha⟩ h
  exact ⟨s1, tk1, h1, i1.1, h2⟩

theorem runActions_inv_all {as : List Action} {s s' : State} {tk tk' : Array Nat} (h0 : I s) (ha : ∀ a, a ∈ as → ok a)
    (h : runActions env as s tk = .ok (s', tk')) : I s' :=
  (runActions_inv (I := fun s _ rest => I s ∧ ∀ b, b ∈ rest → ok b) (runActions_all step) ⟨h0, ha⟩ h).1

theorem runActions_stabilise_all {as bs : List Action} {s s' : State} {tk tk' : Array Nat} (h0 : I s)
    (ha : ∀ a, a ∈ as ++ .stabilise :: bs → ok a) (h : runActions env (as ++ .stabilise :: bs) s tk = .ok (s', tk')) :
    ∃ s1 tk1 s2, runActions env as s tk = .ok (s1, tk1) ∧ I s1 ∧ (stabilise env fuelDefault).run.run s1 = (.ok (), s2) ∧ I s2 ∧
      runActions env bs s2 tk1 = .ok (s', tk') := by
  obtain ⟨s1, tk1, s2, h1, i1, hst, i2, h2⟩ :=
    runActions_stabilise (I := fun s _ rest => I s ∧ ∀ b, b ∈ rest → ok b) (runActions_all step) ⟨h0, ha⟩ h
  exact ⟨s1, tk1, s2, h1, i1.1, hst, i2.1, h2⟩

end

end

/-! ## the API actions under a two-run relation -/

/-- the API actions whose engine calls are `resolveOpnd`, `bumpCounter`, `getObs`, `modObs`, `disallowFutureUse`, `writeVar` and `getVar` -/
def Plain : Action → Prop
  | .observe _ | .cloneObs _ | .dropObs _ | .disallow _ => True
  | .set .. | .modify .. | .update .. | .replace .. | .replaceWith .. | .get _ => True
  | .isStable | .stats | .expectPanic _ | .bad _ => True
  | _ => False

/-- What a relation `R s x x'` between a program started in `s` and one started in `V s` needs for the API actions to be related: it is kept by
`pure` and `>>=`, a read of the state sees `V s` on the right, the bookkeeping of `create` and `observe` and the engine calls of the `Plain`
actions are related to themselves, and `V` keeps what the actions read of the state directly. -/
structure ActCalc (V : State → State) (R : State → {α : Type} → M α → M α → Prop) : Prop where
  ret : ∀ {α} (s : State) (a : α), R s (pure a) (pure a)
  seq : ∀ {α β} {s : State} {x x' : M α} {f f' : α → M β}, R s x x' →
    (∀ a s1, x.run.run s = (.ok a, s1) → R s1 (f a) (f' a)) → R s (x >>= f) (x' >>= f')
  get : ∀ {β} {s : State} {k k' : State → M β}, R s (k s) (k' (V s)) → R s (get >>= k) (get >>= k')
  created : ∀ s n, R s (modify fun s => { s with top := s.top.push n, handles := n :: s.handles })
    (modify fun s => { s with top := s.top.push n, handles := n :: s.handles })
  observed : ∀ s n l, R s (modify fun s => { s with observers := s.observers.push { node := n }, newObservers := s.newObservers ++ l })
    (modify fun s => { s with observers := s.observers.push { node := n }, newObservers := s.newObservers ++ l })
  observers : ∀ s, (V s).observers = s.observers
  isStable : ∀ s, (V s).isStable = s.isStable
  resolveOpnd : ∀ s loc o, R s (resolveOpnd loc o) (resolveOpnd loc o)
  bumpCounter : ∀ s f, R s (bumpCounter f) (bumpCounter f)
  getObs : ∀ s o, R s (getObs o) (getObs o)
  modObs : ∀ s o f, R s (modObs o f) (modObs o f)
  disallowFutureUse : ∀ s o, R s (disallowFutureUse o) (disallowFutureUse o)
  writeVar : ∀ s v f b, R s (writeVar v f b) (writeVar v f b)
  getVar : ∀ s v, R s (getVar v) (getVar v)

namespace ActCalc
variable {V : State → State} {R : State → {α : Type} → M α → M α → Prop} (C : ActCalc V R)
include C

theorem map {α β} {s : State} {x x' : M α} (f : α → β) (h : R s x x') : R s (f <$> x) (f <$> x') := by
  rw [map_eq_pure_bind, map_eq_pure_bind]
  exact C.seq h fun _ _ _ => C.ret _ _

theorem create {env env' : Env} {i i' : Instr} {s : State} (tk : Array Nat)
    (h : R s (elabInstrM env [] .unit i) (elabInstrM env' [] .unit i')) :
    R s (stepAction env (.create i) tk) (stepAction env' (.create i') tk) := by
  unfold stepAction
  refine C.seq h fun r _ _ => ?_
  cases r with
  | none => exact C.ret _ _
  | some n => exact C.seq (C.created _ n) fun _ _ _ => C.ret _ _

theorem plain {a : Action} (h : Plain a) (env env' : Env) (tk : Array Nat) (s : State) :
    R s (stepAction env a tk) (stepAction env' a tk) := by
  unfold stepAction
  cases a <;> try exact h.elim
  case observe x =>
    refine C.seq (C.resolveOpnd _ _ _) fun n s1 _ => C.get ?_
    rw [C.observers]
    exact C.seq (C.observed _ n _) fun _ _ _ => C.seq (C.bumpCounter _ _) fun _ _ _ => C.ret _ _
  case cloneObs o => exact C.seq (C.modObs _ _ _) fun _ _ _ => C.ret _ _
  case dropObs o =>
    refine C.seq (C.getObs _ _) fun ob _ _ => ?_
    dsimp only
    split
    · exact C.ret _ _
    · refine C.seq (C.modObs _ _ _) fun _ _ _ => ?_
      split
      · exact C.seq (C.disallowFutureUse _ _) fun _ _ _ => C.ret _ _
      · exact C.ret _ _
  case disallow o => exact C.seq (C.disallowFutureUse _ _) fun _ _ _ => C.ret _ _
  case set v x => exact C.seq (C.map _ (C.writeVar _ _ _ _)) fun _ _ _ => C.ret _ _
  case modify v d => exact C.seq (C.map _ (C.writeVar _ _ _ _)) fun _ _ _ => C.ret _ _
  case update v d => exact C.seq (C.map _ (C.writeVar _ _ _ _)) fun _ _ _ => C.ret _ _
  case replace v x => exact C.seq (C.writeVar _ _ _ _) fun _ _ _ => C.ret _ _
  case replaceWith v d => exact C.seq (C.writeVar _ _ _ _) fun _ _ _ => C.ret _ _
  case get v => exact C.seq (C.getVar _ _) fun _ _ _ => C.ret _ _
  case isStable =>
    refine C.get ?_
    rw [C.isStable]
    exact C.ret _ _
  all_goals exact C.ret _ _

end ActCalc
end IncrVerif.Proofs.Hist
