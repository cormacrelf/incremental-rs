import IncrVerif.Proofs.BindH4
/-!
# Binds, part 3b: basic lemmas about `Below`, heights, staleness in a `BGraph`
-/
namespace IncrVerif.Proofs.BindH
open IncrVerif.Engine IncrVerif.Proofs IncrVerif.Proofs.Step IncrVerif.Proofs.Sched

/-! ## `Below` -/

theorem Below.trans {s : State} {a b c : Nat} (h1 : Below s a b) (h2 : Below s b c) : Below s a c := by
  induction h1 with
  | refl => exact h2
  | step he _ ih => exact Below.step he (ih h2)

theorem Below.of_edge {s : State} {a c : Nat} (h : Edge s a c) : Below s a c := Below.step h (Below.refl c)

theorem Below.snoc {s : State} {a b c : Nat} (h1 : Below s a b) (h2 : Edge s b c) : Below s a c :=
  h1.trans (Below.of_edge h2)

theorem Below.cases_ne {s : State} {a d : Nat} (h : Below s a d) (hne : a ≠ d) :
    ∃ c, Edge s a c ∧ Below s c d := by
  cases h with
  | refl => exact absurd rfl hne
  | step he h2 => exact ⟨_, he, h2⟩

/-- edges only leave existing nodes -/
theorem Edge.lt_size {s : State} {a c : Nat} (h : Edge s a c) : a < s.nodes.size := by
  false_or_by_contra
  rename_i hn
  have hd : s.nodeD a = default := nodeD_default_of_ge s a (by omega)
  cases h with
  | child hc =>
    unfold State.children at hc
    rw [hd] at hc
    cases hc
  | scope hv hsc hb => rw [hd] at hsc; cases hsc

/-- edges only leave valid nodes -/
theorem Edge.valid {s : State} {a c : Nat} (h : Edge s a c) : (s.nodeD a).valid = true := by
  cases h with
  | child hc =>
    cases hv : (s.nodeD a).valid with
    | true => rfl
    | false =>
      unfold State.children Node.kind? at hc
      rw [hv] at hc
      cases hc
  | scope hv _ _ => exact hv

namespace BGraph
variable {env : Env} {s : State}

theorem rank_le (g : BGraph env s) : ∃ rk : Nat → Nat, (∀ a c, Edge s a c → rk c < rk a) ∧
    ∀ a d, Below s a d → rk d ≤ rk a := by
  obtain ⟨rk, hrk⟩ := g.acyc
  refine ⟨rk, hrk, ?_⟩
  intro a d h
  induction h with
  | refl => exact Nat.le_refl _
  | step he _ ih => have := hrk _ _ he; omega

/-- no cycles -/
theorem no_cycle (g : BGraph env s) {a d : Nat} (h : Below s a d) (he : Edge s d a) : False := by
  obtain ⟨rk, h1, h2⟩ := g.rank_le
  have := h1 _ _ he
  have := h2 _ _ h
  omega

theorem edge_ne (g : BGraph env s) {a c : Nat} (he : Edge s a c) : a ≠ c := by
  intro e
  subst e
  exact g.no_cycle (Below.refl a) he

/-- along an edge from a necessary node: the target is necessary and strictly lower -/
theorem edge_nec (g : BGraph env s) {a c : Nat} (hn : s.isNecessary a = true) (he : Edge s a c) :
    s.isNecessary c = true ∧ (s.nodeD c).height < (s.nodeD a).height := by
  cases he with
  | child hc =>
    obtain ⟨i, hi, e⟩ := List.mem_iff_getElem.1 hc
    have h := g.child a hn i c (by rw [List.getElem?_eq_getElem hi, e])
    exact ⟨h.1, h.2.2⟩
  | scope hv hsc hb =>
    rename_i b br
    have hlt : a < s.nodes.size := by
      false_or_by_contra
      rename_i hn'
      rw [State.isNecessary, nodeD_default_of_ge s a (by omega)] at hn; cases hn
    obtain ⟨br', hb', -, -, h⟩ := g.scope a b hlt hv hsc
    rw [hb] at hb'; cases hb'
    exact h hn

theorem below_nec (g : BGraph env s) {a d : Nat} (h : Below s a d) (hn : s.isNecessary a = true) :
    s.isNecessary d = true ∧ (s.nodeD d).height ≤ (s.nodeD a).height := by
  induction h with
  | refl => exact ⟨hn, Int.le_refl _⟩
  | step he _ ih =>
    obtain ⟨h1, h2⟩ := g.edge_nec hn he
    obtain ⟨h3, h4⟩ := ih h1
    exact ⟨h3, by omega⟩

theorem below_lt (g : BGraph env s) {a d : Nat} (h : Below s a d) (hn : s.isNecessary a = true) (hne : a ≠ d) :
    (s.nodeD d).height < (s.nodeD a).height := by
  obtain ⟨c, he, h2⟩ := h.cases_ne hne
  obtain ⟨h1, hlt⟩ := g.edge_nec hn he
  have := (g.below_nec h2 h1).2
  omega

theorem nec_lt (_g : BGraph env s) {n : Nat} (hn : s.isNecessary n = true) : n < s.nodes.size := by
  false_or_by_contra
  rename_i h
  rw [State.isNecessary, nodeD_default_of_ge s n (by omega)] at hn; cases hn

/-- the target of an edge is a valid node of the state -/
theorem edge_target (g : BGraph env s) {a c : Nat} (he : Edge s a c) :
    c < s.nodes.size ∧ (s.nodeD c).valid = true := by
  have ha := he.lt_size
  have hv := he.valid
  cases he with
  | child hc => exact (g.node a ha hv).2.2 c hc
  | scope hv2 hsc hb =>
    rename_i b br
    obtain ⟨br', hb', h1, h2, -⟩ := g.scope a b ha hv2 hsc
    rw [hb] at hb'; cases hb'
    exact ⟨h1, h2⟩

/-- stored value = observed value, for valid nodes -/
theorem value_plain (g : BGraph env s) {n : Nat} (hlt : n < s.nodes.size) (hv : (s.nodeD n).valid = true) :
    s.value env n = (s.nodeD n).value := by
  apply Step.value_plain env s n
  intro p i e
  have := (g.node n hlt hv).1
  rw [e] at this
  exact this

end BGraph

/-! ## staleness -/

/-- a node recomputed in this round, none of whose inputs has a later stamp, is not stale -/
theorem isStale_fresh {env : Env} {s : State} {m : Nat} (hk : BKind env (s.nodeD m).kind)
    (h0 : 0 ≤ s.stabNum) (hr : (s.nodeD m).recomputedAt = s.stabNum)
    (hv : ∀ (c : Nat) (vc : VarCell), s.vars[c]? = some vc → vc.setAt ≤ s.stabNum)
    (hc : ∀ c, (s.nodeD c).changedAt ≤ s.stabNum) : s.isStale m = false := by
  have hne : (s.stabNum == -1) = false := by
    simp only [beq_eq_false_iff_ne, ne_eq]; omega
  have hany : ∀ l : List Nat, (l.any fun c => decide ((s.nodeD c).changedAt > s.stabNum)) = false := by
    intro l
    rw [List.any_eq_false]
    intro c _
    have := hc c
    simp only [gt_iff_lt, decide_eq_true_eq]; omega
  unfold State.isStale
  simp only [hr, hany, hne, Bool.or_false]
  cases hvv : (s.nodeD m).valid
  · simp [Node.kind?, hvv]
  · simp only [Node.kind?, hvv, if_true]
    cases hkd : (s.nodeD m).kind <;> rw [hkd] at hk <;> try rfl
    · rename_i c
      simp only
      cases hvc : s.vars[c]? with
      | none => rfl
      | some vc =>
        have := hv c vc hvc
        simp only [gt_iff_lt, decide_eq_false_iff_not]; omega
    all_goals exact hk.elim

/-- what staleness reads -/
theorem isStale_congr {env : Env} {s s' : State} {m : Nat} (hB : BKind env (s.nodeD m).kind)
    (hk : (s'.nodeD m).kind = (s.nodeD m).kind) (hv : (s'.nodeD m).valid = (s.nodeD m).valid)
    (hr : (s'.nodeD m).recomputedAt = (s.nodeD m).recomputedAt)
    (hvars : ∀ c : Nat, s'.vars[c]? = s.vars[c]?)
    (hch : s'.children m = s.children m)
    (hc : ∀ c, c ∈ s.children m → (s'.nodeD c).changedAt = (s.nodeD c).changedAt) :
    s'.isStale m = s.isStale m := by
  unfold State.isStale
  simp only [hch, Node.kind?, hk, hv, hr]
  have hany : ((s.children m).any fun c => decide ((s'.nodeD c).changedAt > (s.nodeD m).recomputedAt)) =
      ((s.children m).any fun c => decide ((s.nodeD c).changedAt > (s.nodeD m).recomputedAt)) := by
    apply any_congr'
    intro a ha
    rw [hc a ha]
  rw [hany]
  cases hvv : (s.nodeD m).valid
  · rfl
  · simp only [if_true]
    cases h : (s.nodeD m).kind <;> rw [h] at hB <;> first | rfl | exact False.elim hB | skip
    rename_i c
    simp only [hvars c]

/-- an invalid node is not stale -/
theorem isStale_invalid {s : State} {m : Nat} (hv : (s.nodeD m).valid = false) : s.isStale m = false := by
  unfold State.isStale
  simp [Node.kind?, hv]

/-- stale nodes are valid nodes of the state -/
theorem valid_of_isStale {s : State} {m : Nat} (h : s.isStale m = true) : (s.nodeD m).valid = true := by
  cases hv : (s.nodeD m).valid with
  | true => rfl
  | false => rw [isStale_invalid hv] at h; cases h

/-- staleness is monotone: same own stamp, same children, children's stamps only grew -/
theorem isStale_mono {env : Env} {s s' : State} {m : Nat} (hB : BKind env (s.nodeD m).kind)
    (hk : (s'.nodeD m).kind = (s.nodeD m).kind) (hv : (s'.nodeD m).valid = (s.nodeD m).valid)
    (hr : (s'.nodeD m).recomputedAt = (s.nodeD m).recomputedAt)
    (hvars : ∀ c : Nat, s'.vars[c]? = s.vars[c]?)
    (hch : s'.children m = s.children m)
    (hc : ∀ c, c ∈ s.children m → (s.nodeD c).changedAt ≤ (s'.nodeD c).changedAt)
    (h : s.isStale m = true) : s'.isStale m = true := by
  have hvv := valid_of_isStale h
  unfold State.isStale at h ⊢
  simp only [hch, Node.kind?, hk, hv, hr, hvv, if_true] at h ⊢
  have hany : ((s.children m).any fun c => decide ((s.nodeD c).changedAt > (s.nodeD m).recomputedAt)) = true →
      ((s.children m).any fun c => decide ((s'.nodeD c).changedAt > (s.nodeD m).recomputedAt)) = true := by
    intro h1
    rw [List.any_eq_true] at h1 ⊢
    obtain ⟨c, hc1, hc2⟩ := h1
    refine ⟨c, hc1, ?_⟩
    have := hc c hc1
    simp only [gt_iff_lt, decide_eq_true_eq] at hc2 ⊢
    omega
  cases hkd : (s.nodeD m).kind <;> rw [hkd] at hB h <;> simp only at h ⊢ <;>
    first
    | exact False.elim hB
    | exact h
    | (rw [hvars]; exact h)
    | (rw [Bool.or_eq_true] at h ⊢; rcases h with h | h
       · exact Or.inl h
       · exact Or.inr (hany h))

end IncrVerif.Proofs.BindH
