import IncrVerif.Proofs.TidyH13
import IncrVerif.Proofs.TidyH3
/-!
# T2b, part 5: `stabilise` of the fragment static + map_with_old RETURNS

`TInvW N s`: `Quiet.TInv N s` without the clause `top.size = nodes.size` (false in the fragment: `create (.mapOp …)` adds
three or five nodes and one top-level name).  All its clauses read fields that `virt` leaves alone.
`stabiliseW_total`: as `Quiet.stabilise_total_q`; the invariants are those of the VIRTUAL state, the runs of the two
observer loops are transferred by the exact simulation, the drain is `drainHeapW_total_inv`.
-/
namespace IncrVerif.Proofs.TidyH.WT
open IncrVerif.Engine IncrVerif.Driver IncrVerif.Proofs IncrVerif.Proofs.Step IncrVerif.Proofs.Sched IncrVerif.Proofs.Quiet
open IncrVerif.Proofs.MapOldH

/-- what the "no panic" argument needs besides `QInvW` (`Quiet.TInv` without `topSize`) -/
structure TInvW (N : Nat) (s : State) : Prop where
  hb : HBo s allClosed
  room : Room N s
  linked : ∀ (c : Nat) (vc : VarCell), s.vars[c]? = some vc → vc.linked = true
  /-- the observers waiting to be added: no duplicates, each still `created` or already `unlinked` -/
  newNodup : s.newObservers.Nodup
  newState : ∀ (o : Nat) (ob : ObsRec), o ∈ s.newObservers → s.observers[o]? = some ob →
    ob.state = .created ∨ ob.state = .unlinked

theorem hbo_virt {s : State} {op : Nat → Op} : HBo (virt s) op ↔ HBo s op := by
  unfold HBo
  simp only [virt_isNecessary, virt_nodeD, virtNode_height]

theorem room_virt {N : Nat} {s : State} : Room N (virt s) ↔ Room N s :=
  ⟨fun R => ⟨R.ahh, R.rch, by have := R.size; rwa [virt_size] at this⟩,
   fun R => ⟨R.ahh, R.rch, by rw [virt_size]; exact R.size⟩⟩

theorem tinvW_virt {N : Nat} {s : State} : TInvW N (virt s) ↔ TInvW N s :=
  ⟨fun T => ⟨hbo_virt.1 T.hb, room_virt.1 T.room, T.linked, T.newNodup, T.newState⟩,
   fun T => ⟨hbo_virt.2 T.hb, room_virt.2 T.room, T.linked, T.newNodup, T.newState⟩⟩

theorem TInv.toW {N : Nat} {s : State} (T : TInv N s) : TInvW N s :=
  ⟨T.hb, T.room, T.linked, T.newNodup, T.newState⟩

variable {env : Env} {C : Val → Prop} {sp : Nat → Val → Val} {s : State}

/-- **`stabilise` returns** (fragment static + map_with_old, enough fuel), and the extra invariant is kept. -/
theorem stabiliseW_total {N fuel : Nat} (V : ValOK env C sp) (Q : QInvW env C sp s) (T : TInvW N s)
    (hf : 3 * s.nodes.size + 4 ≤ fuel) :
    Tot (stabilise env fuel) s (fun _ s' => TInvW N s' ∧ s'.top = s.top) := by
  have Qv := Q.q
  -- the state with the status set
  obtain ⟨s0, hs0⟩ : ∃ s0 : State, s0 = { s with status := .stabilising } := ⟨_, rfl⟩
  have hs0v : virt s0 = { virt s with status := .stabilising } := by rw [hs0]; rfl
  have W0 : WFr s s0 := by rw [hs0]; exact ⟨rfl, fun _ => rfl, rfl, id⟩
  have F0 : WFrag env (Good env C sp) s0 := W0.frag Q.frag
  have hp0 : s0.propagateInvalidity = [] := by rw [hs0]; exact Q.pinv
  have fr0 : Fr s0 := F0.fr hp0
  have hnd0 : ∀ m, (virt s0).nodeD m = (virt s).nodeD m := fun m => by rw [hs0]; rfl
  have hsz0 : (virt s0).nodes.size = s.nodes.size := by rw [hs0, virt_size]
  have S0 : SInv (virtEnv env sp) (virt s0) (virt s0).newObservers (virt s0).disallowedObservers := by
    rw [hs0v]
    exact ⟨Qv.struct.congr (SameG.of_nodes rfl rfl rfl rfl rfl),
      ⟨Qv.obs.inRange, Qv.obs.mem, Qv.obs.created, Qv.obs.newIn, Qv.obs.dis, Qv.obs.disIn, Qv.obs.disNodup⟩,
      Qv.pinv, Qv.handlers⟩
  have hb0 : HBo (virt s0) allClosed := by
    intro m hm ho
    rw [hnd0]
    have := T.hb m (by rw [← virt_isNecessary, State.isNecessary, ← hnd0]; exact hm) ho
    rwa [virt_nodeD, virtNode_height]
  have R0 : Room N (virt s0) := by
    rw [hs0]; exact ⟨T.room.ahh, T.room.rch, by rw [virt_size]; exact T.room.size⟩
  -- the two loops
  have hf1 : 2 * (virt s0).nodes.size + 2 ≤ fuel := by rw [hsz0]; omega
  have T1 := addNewObservers_total (fuel := fuel) (env := virtEnv env sp) S0 hb0 R0
    (by rw [hs0]; exact T.newNodup) (by rw [hs0]; exact T.newState) hf1
  obtain ⟨_, t1, h1, hb1, fr1⟩ := (Sim.addNewObservers (sp := sp) env fuel s0).tot fr0 T1
  obtain ⟨hv1, -⟩ := (Sim.addNewObservers (sp := sp) env fuel s0).fwd fr0 _ t1 h1
  obtain ⟨S1, hn1, hd1, F1, O1, N1⟩ := addNewObservers_s S0 hv1
  have hf2 : 3 * (virt t1).nodes.size + 3 ≤ fuel := by rw [F1.size, hsz0]; omega
  have T2 := unlinkDisallowedObservers_total (fuel := fuel) S1 hn1 hb1 hf2
  obtain ⟨_, t2, h2, hb2, fr2⟩ := (Sim.unlinkDisallowedObservers fuel t1).tot fr1 T2
  obtain ⟨hv2, -⟩ := (Sim.unlinkDisallowedObservers fuel t1).fwd fr1 _ t2 h2
  obtain ⟨S2, hn2, hd2, F2, O2⟩ := unlinkDisallowedObservers_s S1 hn1 hv2
  have F : PFrame (virt s0) (virt t2) := F1.trans F2
  have R2 : Room N (virt t2) := R0.of_pframe F
  rw [hs0] at h1
  obtain ⟨D2, -, -, hsd2, hdv2, hobs2, -⟩ := prefix_drainInvW Q h1 h2
  -- the drain
  have Sf : Safe (virt t2) := by
    refine ⟨fun n hn => ?_, fun n hn => (GInv.node S2.struct (nec_lt_size hn)).top⟩
    have h1 := hb2 n hn rfl
    have h2 := nec_lt_size hn
    have h3 := R2.size
    rw [R2.rch]; omega
  have hsz2 : t2.nodes.size = s.nodes.size := by rw [← virt_size t2, F.size, hsz0]
  have hf3 : t2.nodes.size + 2 ≤ fuel := by rw [hsz2]; omega
  obtain ⟨t3, h3, D3, he3, f3⟩ := drainHeapW_total_inv V D2 Sf hf3
  have c3 := f3.calm
  have k3 := f3.keyD
  simp only [KeyD, stateKeyD, Prod.mk.injEq] at k3
  obtain ⟨k_obs, -, -, k_top, -, -, -, -, -, -, k_ahh⟩ := k3
  -- the end
  have hnum2 : ∀ m, ((virt t2).nodeD m).numOnUpdateHandlers ≤ 0 := S2.handlers
  have hhas0 : HasRange (virt s0) := by
    intro n hn; rw [hs0] at hn
    have : s.handleAfterStab = [] := Qv.handleAfterStab
    rw [show (virt ({ s with status := Status.stabilising } : State)).handleAfterStab = s.handleAfterStab from rfl,
      this] at hn
    cases hn
  have hhas2 : HasRange (virt t2) :=
    unlinkDisallowedObservers_hasRange hv2 (addNewObservers_hasRange hv1 hhas0)
  have hhas3 : HasRange (virt t3) := by
    intro n hn
    rw [c3.has hnum2] at hn
    rw [f3.frame.size]; exact hhas2 n hn
  have a1 : t3.setDuringStab = [] := by
    have := c3.setDuringStab
    have e1 : (virt t3).setDuringStab = t3.setDuringStab := rfl
    rw [← e1, this]; exact hsd2
  have a2 : t3.deadVars = [] := by
    have := c3.deadVars
    have e1 : (virt t3).deadVars = t3.deadVars := rfl
    rw [← e1, this]; exact hdv2
  have a3 : ∀ (o : Nat) (ob : ObsRec), t3.observers[o]? = some ob → ob.handlers = [] := by
    intro o ob ho
    have e1 : (virt t3).observers = t3.observers := rfl
    rw [← e1, k_obs] at ho
    exact hobs2 o ob ho
  obtain ⟨_, s', h4, -⟩ := stabiliseEnd_total (env := env) (fuel := fuel) (s := t3) a1 a2 a3
    (by
      intro n hn
      have := hhas3 n hn
      rwa [virt_size] at this)
    (by
      intro n o ho
      have ho' : o ∈ ((virt t3).nodeD n).observers := by rw [virt_nodeD, virtNode_observers]; exact ho
      rw [(f3.frame.shape n).observers] at ho'
      obtain ⟨ob, hob, -⟩ := (S2.obs.mem n o).1 ho'
      have e1 : (virt t3).observers = t3.observers := rfl
      rw [← e1, k_obs]
      exact (Array.getElem?_eq_some_iff.1 hob).1)
  have E := stabiliseEnd_fin (env := env) (fuel := fuel) (s := t3) (s' := s') a1 a2 a3 h4
  -- the run
  have hrun : (stabilise env fuel).run.run s = (.ok (), s') :=
    stabilise_phases.2 ⟨t1, t2, t3, Qv.status, h1, h2, h3, h4⟩
  refine Tot.of_ok hrun ?_
  -- the extra invariant at the end
  have hnd' : ∀ m, ∃ b, s'.nodeD m = { t3.nodeD m with inHandleAfterStab := b } := E.node
  have hnec3 : ∀ m, s'.isNecessary m = (virt t2).isNecessary m := fun m => by
    obtain ⟨b, hb⟩ := hnd' m
    have : s'.isNecessary m = t3.isNecessary m := by simp only [State.isNecessary, hb]; rfl
    rw [this, ← virt_isNecessary t3, f3.frame.nec]
  have hsize' : s'.nodes.size = s.nodes.size := by
    rw [E.size, ← virt_size t3, f3.frame.size, virt_size, hsz2]
  have htop : s'.top = s.top := by
    rw [E.top]
    have e1 : (virt t3).top = t3.top := rfl
    rw [← e1, k_top, F.top, hs0]; rfl
  refine ⟨⟨?_, ⟨?_, ?_, by rw [hsize']; exact T.room.size⟩, ?_, ?_, ?_⟩, htop⟩
  · intro m hm ho
    obtain ⟨b, hb⟩ := hnd' m
    have e1 : (s'.nodeD m).height = ((virt t3).nodeD m).height := by
      rw [hb, virt_nodeD, virtNode_height]
    rw [e1, (f3.frame.shape m).height]
    exact hb2 m (by rw [← hnec3]; exact hm) ho
  · rw [E.ahh]
    have e1 : (virt t3).ahh = t3.ahh := rfl
    rw [← e1, k_ahh]; exact R2.ahh
  · rw [E.rch, ← R2.rch]
    have e1 : (virt t3).rch = t3.rch := rfl
    rw [← e1]
    exact maxAllowed_congr f3.frame.qsize
  · intro c vc hc
    rw [E.vars] at hc
    have e1 : (virt t3).vars = t3.vars := rfl
    rw [← e1, f3.frame.vars, F.vars, hs0] at hc
    exact T.linked c vc hc
  · rw [E.newObservers]
    have e1 : (virt t3).newObservers = t3.newObservers := rfl
    rw [← e1, c3.newObservers, hn2]; exact List.nodup_nil
  · intro o ob ho
    rw [E.newObservers] at ho
    have e1 : (virt t3).newObservers = t3.newObservers := rfl
    rw [← e1, c3.newObservers, hn2] at ho; cases ho

end IncrVerif.Proofs.TidyH.WT
