import IncrVerif.Proofs.NestH29
/-!
# Nested binds (F2), `lhsRelink`, part 5: `lhsRelink` keeps the structural invariant, and returns — `relink_spec2 : RelinkSpec2 env`, `lhsRelink_total2`

Fragment F1's `relink_spec1` (`BindH70`) is `relink_spec2` at the rank `rkOf s`.

What can panic in `lhsRelink = modBind; modNode; changeChildBindRhs`:
* `getNode main`;
* `removeParent old 1 main` (`"not-a-parent"`): the edge `main → old rhs` is recorded (`GInv2.conv`: `main` is necessary and closed);
* `stateAddParent rhs 1 main` (`NR.sap_corr`);
* `checkIfUnnecessary old` (`NU.unlink_corr`).
-/
namespace IncrVerif.Proofs.NestH
open IncrVerif.Engine IncrVerif.Proofs IncrVerif.Proofs.Step IncrVerif.Proofs.Sched IncrVerif.Proofs.Quiet
open IncrVerif.Proofs.BindH

open NR in
/-- **`lhsRelink` keeps the structural invariant** (fragment F2, nested binds): the record of the bind gets the new right-hand side (a
top-level node of smaller rank than the change detector, or a node created by this run of the closure — possibly the main node of an inner
bind), the change detector gets the stamp of the round, the old right-hand side (a top-level node or a dying node of the scope, possibly the
main node of an inner bind) is unlinked from the bind's main node and the new one linked (with heights adjusted), the cone of the old
right-hand side becomes unnecessary if nothing else needs it, and everything is closed again; the main node is still necessary.  The
bind may itself be an INNER bind (its two nodes are nodes of an outer scope): the main node is assumed valid.
**It returns** under the height bound, room for `N` nodes and fuel `3 * size + 3`, and keeps the bound and the room. -/
theorem relink_corr {env : Env} {rk : Nat → Nat} {N fuel b n rhs : Nat} {s : State} {br br1 : BindRec}
    {ex : Nat → Prop} {dy : List Nat}
    (I : GInv2 env rk s allClosed ex dy) (hex : ex br.main) (hah : AhhEmpty s)
    (hb : s.binds[b]? = some br1) (hr1 : br1.rhs = br.rhs) (hm1 : br1.main = br.main) (hl : br1.lhsChange = n)
    (hvm : (s.nodeD br.main).valid = true)
    (hnecm : s.isNecessary br.main = true)
    (hrs : rhs < s.nodes.size) (hrkd : ∀ b', (s.nodeD rhs).kind ≠ .bindLhsChange b')
    (hrhs0 : ((s.nodeD rhs).createdIn = .top ∧ rk rhs < rk n) ∨
      ((s.nodeD rhs).createdIn = .bind b ∧ (s.nodeD rhs).valid = true))
    (hold : ∀ o, br.rhs = some o → (∀ b', (s.nodeD o).kind ≠ .bindLhsChange b') ∧
      (((s.nodeD o).createdIn = .top ∧ rk o < rk n) ∨
       ((s.nodeD o).createdIn = .bind b ∧ o ∈ dy)))
    (hdy : ∀ m, m ∈ dy → (s.nodeD m).createdIn = .bind b)
    (hnf : ∀ m, (s.nodeD m).forceNecessary = false) (hpi : s.propagateInvalidity = [])
    (hrm : (s.nodeD br.main).recomputedAt < s.stabNum) :
    Corr (Inval.lhsRelink env fuel n b br s.stabNum rhs) s
      (HBo2 rk s allClosed ∧ Room N s ∧ 3 * s.nodes.size + 3 ≤ fuel) (fun _ s' =>
      (GInv2 env rk s' allClosed ex dy ∧ AhhEmpty s' ∧ RRelB b n rhs br1 s s' ∧ s'.propagateInvalidity = [] ∧
        (∀ m, (s'.nodeD m).forceNecessary = false) ∧ s'.isNecessary br.main = true) ∧
      (HBo2 rk s allClosed ∧ Room N s ∧ 3 * s.nodes.size + 3 ≤ fuel → HBo2 rk s' allClosed ∧ Room N s')) := by
  rw [← hm1] at hex hnecm hrm hvm ⊢
  have hrhs : RhsOK2 rk s b n rhs := ⟨hrkd, hrhs0⟩
  unfold Inval.lhsRelink
  rw [← hm1, ← hr1]
  replace hold : ∀ o, br1.rhs = some o → (∀ b', (s.nodeD o).kind ≠ .bindLhsChange b') ∧
      (((s.nodeD o).createdIn = .top ∧ rk o < rk n) ∨
       ((s.nodeD o).createdIn = .bind b ∧ o ∈ dy)) := by
    intro o ho; exact hold o (by rw [← hr1]; exact ho)
  obtain ⟨hnm, hms, hkn, hkm, hvn, hrknm, hcm⟩ := bind_facts I hb hl hvm
  have hn : n < s.nodes.size := by omega
  have hszP : (BR.pre b n rhs s.stabNum s).nodes.size = s.nodes.size := Array.size_modify
  have hfP : ∀ m, ((BR.pre b n rhs s.stabNum s).nodeD m).forceNecessary = false := by
    intro m
    show ((BR.stamped n s.stabNum s).nodeD m).forceNecessary = false
    rw [BR.stamped_nodeD]; split
    · exact hnf m
    · exact hnf m
  have hmP : ∀ m, ((BR.pre b n rhs s.stabNum s).nodeD m).heightInAhh = (s.nodeD m).heightInAhh := by
    intro m
    show ((BR.stamped n s.stabNum s).nodeD m).heightInAhh = _
    rw [BR.stamped_nodeD]; split <;> rfl
  have hcP : ∀ m, ((BR.pre b n rhs s.stabNum s).nodeD m).createdIn = (s.nodeD m).createdIn :=
    fun m => CR.stamped_createdIn (s := s) (n := n) s.stabNum m
  have hhP : ∀ m, ((BR.pre b n rhs s.stabNum s).nodeD m).height = (s.nodeD m).height := by
    intro m
    show ((BR.stamped n s.stabNum s).nodeD m).height = _
    rw [BR.stamped_nodeD]; split <;> rfl
  have hnP : ∀ m, (BR.pre b n rhs s.stabNum s).isNecessary m = s.isNecessary m :=
    fun m => CR.stamped_nec (s := s) (n := n) s.stabNum m
  have EP : AhhEmpty (BR.pre b n rhs s.stabNum s) := BR.ahhEmpty_frame hah rfl hmP
  -- the change detector is necessary
  have hnecn : s.isNecessary n = true := by
    have hk0 : (s.children br1.main)[0]? = some n := by rw [BR.children_main hvm hkm hb]; rfl
    exact nec_of_mem_parents (I.conv br1.main 0 n hk0 ((wants_closed rfl).2 hnecm))
  -- the common end
  have finish : ∀ {s' : State}, GInv2 env rk s' allClosed ex dy → AhhEmpty s' → BR.KRel (BR.pre b n rhs s.stabNum s) s' →
      s'.isNecessary br1.main = true →
      GInv2 env rk s' allClosed ex dy ∧ AhhEmpty s' ∧ RRelB b n rhs br1 s s' ∧ s'.propagateInvalidity = [] ∧
        (∀ m, (s'.nodeD m).forceNecessary = false) ∧ s'.isNecessary br1.main = true := by
    intro s' I' E' K hnec'
    refine ⟨I', E', BR.rrel_of_krel hb hn K (by rw [I'.frag.pc, I.frag.pc]), ?_, ?_, hnec'⟩
    · rw [K.pinv]; exact hpi
    · intro m; rw [K.force m]; exact hfP m
  have hmP' : (BR.pre b n rhs s.stabNum s).nodeD br1.main = s.nodeD br1.main := BR.stamped_main hnm _
  have hnP' : (BR.pre b n rhs s.stabNum s).nodeD n = { s.nodeD n with changedAt := s.stabNum } :=
    BR.stamped_self hn _
  unfold modBind
  refine Corr.bind_ok (run_modify _ s) ?_
  refine Corr.bind_ok (run_modNode _ _ _) ?_
  show Corr (changeChildBindRhs env fuel br1.main br1.rhs rhs 1) (BR.pre b n rhs s.stabNum s) _ _
  unfold changeChildBindRhs
  refine Corr.bind_getNode (by rw [hszP]; exact hms) ?_
  have hkq : ((BR.pre b n rhs s.stabNum s).nodeD br1.main).kind? = some (.bindMain b n) := by
    rw [hmP']
    unfold Node.kind?
    rw [hvm, hkm]; rfl
  rw [hkq]
  dsimp only
  cases hr : br1.rhs with
  | none =>
    dsimp only
    have It := pre_inv_none I hex hb hr hl hnecm hrs hrhs hrm
    have hP : HBo2 rk s allClosed ∧ Room N s ∧ 3 * s.nodes.size + 3 ≤ fuel →
        HBo2 rk s allClosed ∧ Room N (BR.pre b n rhs s.stabNum s) ∧
          3 * (BR.pre b n rhs s.stabNum s).nodes.size + 3 ≤ fuel :=
      fun h => ⟨h.1, T2d.room_nodes h.2.1 rfl rfl hszP, by rw [hszP]; exact h.2.2⟩
    exact (link_corr I It hex EP hb hl hnecm hpi hrm hmP' hnP' rfl
      (fun m b' br' hf => by rw [hfP m] at hf; cases hf)
      (fun m hmd => by rw [hcP]; exact hdy m hmd) hnf hhP (fun m hm => by rw [hnP]; exact hm)
      hszP (fun m hm => by rw [← hnP m]; exact hm)).mono hP
      (fun _ s' ⟨I', E', K, hnec', hT⟩ => ⟨finish I' E' K hnec', fun h => hT (hP h)⟩)
  | some o =>
    dsimp only
    have hon : o ≠ n := by
      intro e
      rw [e] at hr
      exact (hold n hr).1 b hkn
    by_cases hor : o = rhs
    · simp only [hor, beq_self_eq_true, if_true]
      refine Corr.pure ⟨finish (pre_inv_same I hex hb (by rw [hr, hor]) hl hvm hrm) EP (BR.KRel.refl _) ?_,
        fun h => ⟨NL.HBo2_transport h.1 hszP (fun m hm _ => ⟨by rw [← hnP m]; exact hm, rfl, hhP m⟩),
          T2d.room_nodes h.2.1 rfl rfl hszP⟩⟩
      simp only [State.isNecessary, hmP']
      exact hnecm
    · have hbeq : (o == rhs) = false := by simpa using hor
      simp only [hbeq, Bool.false_eq_true, if_false]
      have hk1 : (s.children br1.main)[1]? = some o := by
        rw [BR.children_main hvm hkm hb, hr]; rfl
      have ho : o < s.nodes.size := I.kid_in hk1
      have hom : o ≠ br1.main := I.kid_ne hk1
      have memS : (br1.main, 1) ∈ (s.nodeD o).parents := I.conv br1.main 1 o hk1 ((wants_closed rfl).2 hnecm)
      obtain ⟨pi, hidx⟩ := idxOf?_of_mem memS
      have hoP : (BR.pre b n rhs s.stabNum s).nodeD o = s.nodeD o := BR.stamped_other hon _
      have hndo : (BR.pre b n rhs s.stabNum s).nodes[o]? = some (s.nodeD o) := by
        rw [← hoP]; exact some_of_lt (by rw [hszP]; exact ho)
      refine Corr.bind_ok (removeParent_run hndo hidx) ?_
      refine Corr.bind_ok (run_modNode _ _ _) ?_
      show Corr (do stateAddParent env fuel rhs 1 br1.main
                    modNode o fun x => { x with forceNecessary := false }
                    checkIfUnnecessary fuel o) (BR.pre4 b n rhs o pi s.stabNum s) _ _
      have hsz4 : (BR.pre4 b n rhs o pi s.stabNum s).nodes.size = s.nodes.size := by
        show ((((BR.pre b n rhs s.stabNum s).nodes.modify o (BR.fDrop pi)).modify o (BR.fForce true)).size) = _
        rw [Array.size_modify, Array.size_modify]; exact hszP
      have It := pre_inv_some I hex hb hr hl hnecm hrs hrhs hon hrm hidx
      have E4 : AhhEmpty (BR.pre4 b n rhs o pi s.stabNum s) := by
        refine BR.ahhEmpty_frame hah rfl fun m => ?_
        rw [BR.pre4_keeps (·.heightInAhh) o (fun _ => rfl)]
        exact hmP m
      have htm : (BR.pre4 b n rhs o pi s.stabNum s).nodeD br1.main = s.nodeD br1.main := by
        rw [BR.pre4_nodeD, if_neg (fun e => hom e.1)]; exact hmP'
      have htn : (BR.pre4 b n rhs o pi s.stabNum s).nodeD n = { s.nodeD n with changedAt := s.stabNum } := by
        rw [BR.pre4_nodeD, if_neg (fun e => hon e.1)]; exact hnP'
      -- the only forced node is `o`; if it is a node of the scope, the change detector is necessary and closed
      have hF4 : ∀ m b' br', ((BR.pre4 b n rhs o pi s.stabNum s).nodeD m).forceNecessary = true →
          ((BR.pre4 b n rhs o pi s.stabNum s).nodeD m).createdIn = .bind b' →
          (BR.pre4 b n rhs o pi s.stabNum s).binds[b']? = some br' →
          (BR.pre4 b n rhs o pi s.stabNum s).isNecessary br'.lhsChange = true ∧
            upd allClosed br1.main (.linking 1) br'.lhsChange = .closed := by
        intro m b' br' hf hc hb'
        have hmo : m = o := by
          apply Decidable.byContradiction
          intro e
          rw [BR.pre4_nodeD, if_neg (fun h => e h.1.symm)] at hf
          have := hfP m
          rw [show (BR.pre b n rhs s.stabNum s).nodeD m = (BR.stamped n s.stabNum s).nodeD m from rfl] at this
          rw [this] at hf; cases hf
        rw [hmo, CR.pre4_createdIn] at hc
        have hbb : b' = b := by
          rcases (hold o hr).2 with ⟨h1, -⟩ | ⟨h1, -⟩
          · rw [h1] at hc; cases hc
          · rw [h1] at hc; exact (Scope.bind.inj hc).symm
        rw [hbb] at hb'
        have hb4 : (BR.pre4 b n rhs o pi s.stabNum s).binds[b]? = some { br1 with rhs := some rhs } :=
          BR.pre_binds_self (n := n) (v := s.stabNum) hb
        rw [hb4] at hb'
        cases hb'
        show (BR.pre4 b n rhs o pi s.stabNum s).isNecessary br1.lhsChange = true ∧
          upd allClosed br1.main (.linking 1) br1.lhsChange = .closed
        rw [hl]
        refine ⟨?_, ?_⟩
        · simp only [State.isNecessary, htn]
          exact hnecn
        · rw [upd_other _ _ _ (by omega)]; rfl
      have hother4 : ∀ m, m ≠ o →
          (BR.pre4 b n rhs o pi s.stabNum s).nodeD m = (BR.pre b n rhs s.stabNum s).nodeD m := by
        intro m e
        rw [BR.pre4_nodeD, if_neg (fun h => e h.1.symm)]; rfl
      have hP4 : HBo2 rk s allClosed ∧ Room N s ∧ 3 * s.nodes.size + 3 ≤ fuel →
          HBo2 rk s allClosed ∧ Room N (BR.pre4 b n rhs o pi s.stabNum s) ∧
            3 * (BR.pre4 b n rhs o pi s.stabNum s).nodes.size + 3 ≤ fuel :=
        fun h => ⟨h.1, T2d.room_nodes h.2.1 rfl rfl hsz4, by rw [hsz4]; exact h.2.2⟩
      refine Corr.bind (link_corr I It hex E4 hb hl hnecm hpi hrm htm htn rfl hF4
        (fun m hmd => by rw [CR.pre4_createdIn]; exact hdy m hmd) hnf
        (fun m => by
          rw [BR.pre4_keeps (·.height) o (fun _ => rfl)]
          exact hhP m)
        (fun m hm => by
          by_cases e : m = o
          · rw [e, isNecessary_iff, BR.pre4_nodeD, if_pos ⟨rfl, ho⟩]
            exact Or.inr (Or.inr rfl)
          · simp only [State.isNecessary, hother4 m e]
            exact (hnP m).trans hm)
        hsz4
        (fun m hm => by
          by_cases e : m = o
          · rw [e]; exact nec_of_mem_parents memS
          · simp only [State.isNecessary, hother4 m e] at hm
            rw [← hnP m]; exact hm)) hP4 ?_
      rintro _ s7 - ⟨I7, E7, K47, hnec7m, hT7⟩
      refine Corr.bind_ok (run_modNode _ _ _) ?_
      show Corr (checkIfUnnecessary fuel o) (BR.forced o false s7) _ _
      have hnec7 : s7.isNecessary o = true := by
        rw [isNecessary_iff, K47.force o, BR.pre4_nodeD, if_pos ⟨rfl, ho⟩]
        exact Or.inr (Or.inr rfl)
      refine (unforce_corr (N := N) I7 hnec7 E7).mono (fun h => by rw [K47.size, hsz4]; omega) ?_
      rintro _ s' ⟨I', E', K8, hab, hT8⟩
      refine ⟨finish I' E' (BR.krel_compose K47 K8 (hfP o)) ?_, fun h => hT8 (hT7 (hP4 h)).1 (hT7 (hP4 h)).2⟩
      -- the main node has a higher rank than `o`: the last cascade did not touch it
      have hrk7 : rk o < rk br1.main := by
        rcases (hold o hr).2 with ⟨-, h2⟩ | ⟨h1, -⟩
        · omega
        · exact (I.frag.scope_rk ho h1 hb).2
      have hm8 : s'.nodeD br1.main = (BR.forced o false s7).nodeD br1.main :=
        hab br1.main hrk7
      have hm87 : (BR.forced o false s7).nodeD br1.main = s7.nodeD br1.main := by
        rw [BR.forced_nodeD, if_neg (fun e => hom e.1)]
      simp only [State.isNecessary, hm8, hm87]
      exact hnec7m

theorem relink_spec2 (env : Env) : RelinkSpec2 env := by
  intro fuel b n rhs rk s s' br br1 ex dy h I hex hah hb hr1 hm1 hl hvm hnecm hrs _ hrkd hrhs0 hold hdy hnf hpi hrm
  exact ((relink_corr (N := 0) I hex hah hb hr1 hm1 hl hvm hnecm hrs hrkd hrhs0 hold hdy hnf hpi hrm).ok h).1

/-- **Phase 2 of the run of a change detector never panics** (fragment F2): `lhsRelink` returns and keeps the height bound and the room.  Hypotheses: those
of `RelinkSpec2` (without the run equation), the height bound, room for `N` nodes, fuel `3 * size + 3`. -/
theorem lhsRelink_total2 {env : Env} {rk : Nat → Nat} {N fuel b n rhs : Nat} {s : State} {br br1 : BindRec}
    {ex : Nat → Prop} {dy : List Nat}
    (I : GInv2 env rk s allClosed ex dy) (hex : ex br.main) (hah : AhhEmpty s)
    (hb : s.binds[b]? = some br1) (hr1 : br1.rhs = br.rhs) (hm1 : br1.main = br.main) (hl : br1.lhsChange = n)
    (hvm : (s.nodeD br.main).valid = true)
    (hnecm : s.isNecessary br.main = true)
    (hrs : rhs < s.nodes.size) (_hnd : rhs ∉ dy) (hrkd : ∀ b', (s.nodeD rhs).kind ≠ .bindLhsChange b')
    (hrhs0 : ((s.nodeD rhs).createdIn = .top ∧ rk rhs < rk n) ∨
      ((s.nodeD rhs).createdIn = .bind b ∧ (s.nodeD rhs).valid = true))
    (hold : ∀ o, br.rhs = some o → (∀ b', (s.nodeD o).kind ≠ .bindLhsChange b') ∧
      (((s.nodeD o).createdIn = .top ∧ rk o < rk n) ∨
       ((s.nodeD o).createdIn = .bind b ∧ o ∈ dy)))
    (hdy : ∀ m, m ∈ dy → (s.nodeD m).createdIn = .bind b)
    (hnf : ∀ m, (s.nodeD m).forceNecessary = false) (hpi : s.propagateInvalidity = [])
    (hrm : (s.nodeD br.main).recomputedAt < s.stabNum)
    (hB : HBo2 rk s allClosed) (R : Room N s) (hf : 3 * s.nodes.size + 3 ≤ fuel) :
    Tot (Inval.lhsRelink env fuel n b br s.stabNum rhs) s (fun _ s' => HBo2 rk s' allClosed ∧ Room N s') :=
  have ⟨u, s', h, _, hT⟩ :=
    (relink_corr I hex hah hb hr1 hm1 hl hvm hnecm hrs hrkd hrhs0 hold hdy hnf hpi hrm).tot ⟨hB, R, hf⟩
  ⟨u, s', h, hT ⟨hB, R, hf⟩⟩

end IncrVerif.Proofs.NestH
