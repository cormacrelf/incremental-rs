import IncrVerif.Proofs.MapRef2
import IncrVerif.Proofs.Footprint
/-!
# map_ref fragment, part 3: what `child_changed` does to the `didChange` flags

* `FM s s'`: flags only go up — kept by every primitive write of the engine but the one by which a map_ref node that runs
  lowers its own flag (`FM.of_edit`), so by everything `maybe_change_value` does.
* `UpM W m c`: `m` is a map_ref node above `c` along recorded parent entries that lead through map_ref nodes only.
* `childChanged_flags`: a successful `child_changed p c ci old` (with `old` the value `c` read in the pre-state `s0`)
  raises the flag of every map_ref node at or above `p` whose read value differs between `s0` and now.
-/
namespace IncrVerif.Proofs.MapRefH
open IncrVerif.Engine IncrVerif.Proofs IncrVerif.Proofs.Step IncrVerif.Proofs.Sched IncrVerif.Proofs.Quiet

def IsMapRef : Kind → Prop
  | .mapRef _ _ => True
  | _ => False

theorem isMapRef_iff {k : Kind} : IsMapRef k ↔ ∃ p i, k = .mapRef p i := by
  cases k <;> simp [IsMapRef]

theorem not_isMapRef_iff {k : Kind} : ¬ IsMapRef k ↔ ∀ p i, k ≠ .mapRef p i := by
  rw [isMapRef_iff]; constructor
  · intro h p i e; exact h ⟨p, i, e⟩
  · rintro h ⟨p, i, e⟩; exact h p i e

/-! ## flags only go up -/

def FM (s s' : State) : Prop := ∀ m, (s.nodeD m).didChange = true → (s'.nodeD m).didChange = true

instance : Step.PreOrd FM := ⟨fun _ _ h => h, fun h1 h2 m h => h2 m (h1 m h)⟩

theorem FM.of_nodes {s s' : State} (h : s'.nodes = s.nodes) : FM s s' := by
  intro m hm; have : s'.nodeD m = s.nodeD m := by simp [State.nodeD, h]
  rw [this]; exact hm

theorem FM.modNode (s : State) (n : Nat) (f : Node → Node) (hf : ∀ x, x.didChange = true → (f x).didChange = true) :
    FM s { s with nodes := s.nodes.modify n f } := by
  intro m hm; rw [nodeD_modify]; split
  · exact hf _ hm
  · exact hm

section
open Footprint

/-- no write lowers the flag of a node but the one of a map_ref node that runs (`.vClearRef`); a fresh node has it raised -/
theorem FM.of_edit {L w} (hL : ∀ t ∈ L, t ≠ Tag.vClearRef) {s s' : State} (e : Edit L w s s') : FM s s' := by
  cases e
  case node n f hf => exact FM.modNode s n f fun x hx => by cases hf <;> first | exact hx | rfl | simp only [hx, Bool.true_or]
  case value n hn f hf => exact FM.modNode s n f fun x hx => by cases hf <;> first | exact hx | exact absurd rfl (hL _ ‹_›)
  case stamp n _ | erase n _ => exact FM.modNode s n _ fun _ hx => hx
  case pushNode =>
    intro m hm
    simp only [State.nodeD, Array.getElem?_push]; split
    · rfl
    · exact hm
  all_goals exact FM.of_nodes rfl

theorem PresFM.shouldCutoff (env n o v) : Step.Pres FM (Engine.shouldCutoff env n o v) :=
  (Foot.shouldCutoff env n o v).frame (FM.of_edit (by decide))
theorem PresFM.rchInsert (n) : Step.Pres FM (Engine.rchInsert n) := (Foot.rchInsert n).frame (FM.of_edit (by decide))
theorem PresFM.handleAfterStabilisation (n) : Step.Pres FM (Engine.handleAfterStabilisation n) :=
  (Foot.handleAfterStabilisation n).frame (FM.of_edit (by decide))

theorem PresFM.childChanged (env : Env) (fuel p c ci : Nat) (o : Option Val) :
    Step.Pres FM (Engine.childChanged env fuel p c ci o) :=
  (Foot.childChanged env fuel p c ci o).frame (FM.of_edit (by decide))

theorem PresFM.parentIterCanRecomputeNow (p c : Nat) :
    Step.Pres FM (Engine.parentIterCanRecomputeNow p c) :=
  (Foot.parentIterCanRecomputeNow p c).frame (FM.of_edit (by decide))

theorem PresFM.maybeChangeValueManual (env fuel n o d b) :
    Step.Pres FM (Engine.maybeChangeValueManual env fuel n o d b) :=
  (Foot.maybeChangeValueManual env fuel n o d b).frame (FM.of_edit (by decide))

theorem PresFM.maybeChangeValue (env fuel n v) : Step.Pres FM (Engine.maybeChangeValue env fuel n v) :=
  (Foot.maybeChangeValue env fuel n v).lift (FM.of_edit (by decide))

end

/-! ## `child_changed` raises the flags of the map_ref nodes whose projection changed -/

/-- `m` is a map_ref node above `c`, through recorded parent entries leading through map_ref nodes only -/
inductive UpM (W : State) : Nat → Nat → Prop
  | base {c p ci : Nat} : (p, ci) ∈ (W.nodeD c).parents → IsMapRef (W.nodeD p).kind → UpM W p c
  | step {c p ci m : Nat} : (p, ci) ∈ (W.nodeD c).parents → IsMapRef (W.nodeD p).kind → UpM W m p → UpM W m c

/-- recorded parent entries of map_ref parents are real child edges -/
def EdgeOK (W : State) : Prop :=
  ∀ c p ci pr i, (p, ci) ∈ (W.nodeD c).parents → (W.nodeD p).kind = .mapRef pr i → i = c

/-- what `m` reads in `W` is not what it read in `s0` -/
def Changed (env : Env) (s0 W : State) (m : Nat) : Prop :=
  s0.value env m = none ∨ s0.value env m ≠ W.value env m

/-- a valid map_ref node reads the projection of what its input reads (only `MapRefsBack` is needed) -/
theorem value_mapRef' {env : Env} {s : State} (hb : MapRefsBack s) {n p i : Nat} (hv : (s.nodeD n).valid = true)
    (hk : (s.nodeD n).kind = .mapRef p i) : s.value env n = (s.value env i).map (env.proj p) := by
  have hlt : n < s.nodes.size := by
    by_cases h : n < s.nodes.size
    · exact h
    · rw [nodeD_default_of_ge s n (by omega)] at hk; cases hk
  have hi : i < n := hb n (s.nodeD n) p i (some_of_lt hlt) hk
  unfold State.value
  rw [valueWith_succ']
  have hc : valueCore (s.nodeD n) = (.mapRef p i, true, (s.nodeD n).value) := by
    simp [valueCore, hk, hv]
  rw [hc]
  simp only [valueStep']
  congr 1
  exact valueWith_congr_below env.proj s s hb i (fun _ _ => rfl) _ _ (by omega) (by omega)

theorem mapRefsBack_of_kind {s W : State} (hb : MapRefsBack s) (hk : ∀ m, (W.nodeD m).kind = (s.nodeD m).kind) :
    MapRefsBack W := by
  intro n nd p i hn hkn
  have h1 : (s.nodeD n).kind = .mapRef p i := by rw [← hk, nodeD_of_some hn]; exact hkn
  have hlt : n < s.nodes.size := by
    by_cases h : n < s.nodes.size
    · exact h
    · rw [nodeD_default_of_ge s n (by omega)] at h1; cases h1
  exact hb n (s.nodeD n) p i (some_of_lt hlt) h1

/-- the setting of the flag argument: `s0` the state before the step (old values), `W` the state in which the notifications start.
(No "all nodes valid": what is needed is that RECORDED PARENTS are valid — they are necessary.) -/
structure CCtx (env : Env) (s0 W : State) : Prop where
  pc : W.panicCountdown = none
  /-- the input of a `map_ref` node is an earlier node (in `s0`, hence in `W`) -/
  back0 : MapRefsBack s0
  /-- `map_ref` nodes have the cutoff `.eq` or `.never` (both pure: no tick, no log) -/
  cut : ∀ n p i, (W.nodeD n).kind = .mapRef p i → (W.nodeD n).cutoff = .eq ∨ (W.nodeD n).cutoff = .never
  kind0 : ∀ m, (s0.nodeD m).kind = (W.nodeD m).kind
  valid0 : ∀ m, (s0.nodeD m).valid = (W.nodeD m).valid
  /-- recorded parent entries of map_ref parents are real child edges -/
  edge : EdgeOK W
  /-- recorded parents are valid -/
  pvalid : ∀ c p ci, (p, ci) ∈ (W.nodeD c).parents → (W.nodeD p).valid = true

theorem CCtx.back {env : Env} {s0 W : State} (C : CCtx env s0 W) : MapRefsBack W :=
  mapRefsBack_of_kind C.back0 (fun m => (C.kind0 m).symm)

theorem _root_.IncrVerif.Proofs.Step.Quiet.value_eqM {s s' : State} (q : Step.Quiet s s') (env : Env) (m : Nat) : s'.value env m = s.value env m :=
  value_congr env s s' q.size (fun k => by
    simp only [valueCore, (q.node k).kind, (q.node k).valid, (q.node k).value]) m

theorem UpM.cases_head {W : State} {m c : Nat} (h : UpM W m c) :
    ∃ p ci, (p, ci) ∈ (W.nodeD c).parents ∧ IsMapRef (W.nodeD p).kind ∧ (m = p ∨ UpM W m p) := by
  cases h with
  | base h1 h2 => exact ⟨_, _, h1, h2, Or.inl rfl⟩
  | step h1 h2 h3 => exact ⟨_, _, h1, h2, Or.inr h3⟩

/-- the forwarding loop keeps what `child_changed` keeps -/
theorem _root_.IncrVerif.Proofs.Step.Pres.forward {R : State → State → Prop} [PreOrd R] {env : Env} {fuel : Nat}
    (h : ∀ p c ci o, Step.Pres R (Engine.childChanged env fuel p c ci o)) (p : Nat) (o : Option Val) (l : List (Nat × Nat)) :
    Step.Pres R (forwardChildChanged env fuel p o l) := by
  unfold forwardChildChanged
  exact Step.Pres.bind (Step.Pres.forIn _ _ _ fun (pp, ci) _ => Step.Pres.bind (h pp p ci o) fun _ => Step.Pres.pure _) fun _ =>
    Step.Pres.pure _

theorem PresFM.forward (env : Env) (fuel p : Nat) (o : Option Val) (l : List (Nat × Nat)) :
    Step.Pres FM (forwardChildChanged env fuel p o l) :=
  Step.Pres.forward (PresFM.childChanged env fuel) p o l

theorem PresQ.forward (env : Env) (fuel p : Nat) (o : Option Val) (l : List (Nat × Nat)) :
    Step.Pres Step.Quiet (forwardChildChanged env fuel p o l) :=
  Step.Pres.forward (Step.Pres.childChanged env fuel) p o l

theorem forward_cons (env : Env) (fuel p : Nat) (o : Option Val) (a : Nat × Nat) (l : List (Nat × Nat)) :
    forwardChildChanged env fuel p o (a :: l) =
      (Engine.childChanged env fuel a.1 p a.2 o >>= fun _ => forwardChildChanged env fuel p o l) := by
  obtain ⟨pp, ci⟩ := a
  unfold forwardChildChanged
  rw [List.forIn_cons]
  simp only [bind_assoc, pure_bind]

/-- the flag statement for one `child_changed` call -/
def CCPost (env : Env) (s0 W : State) (fuel : Nat) : Prop :=
  ∀ p c ci oldOpt t t' u, (Engine.childChanged env fuel p c ci oldOpt).run.run t = (.ok u, t') →
    Step.Quiet W t → (p, ci) ∈ (W.nodeD c).parents → (∀ o, oldOpt = some o → s0.value env c = some o) →
    IsMapRef (W.nodeD p).kind → ∀ m, (m = p ∨ UpM W m p) → Changed env s0 W m → (t'.nodeD m).didChange = true

/-- the forwarding loop, given the statement for the recursive calls -/
theorem forward_flags {env : Env} {s0 W : State} {fuel : Nat} (ih : CCPost env s0 W fuel) (p : Nat)
    (selfOld : Option Val) (hold : ∀ o, selfOld = some o → s0.value env p = some o) :
    ∀ (l : List (Nat × Nat)) t t' u, (forwardChildChanged env fuel p selfOld l).run.run t = (.ok u, t') →
      Step.Quiet W t → (∀ a, a ∈ l → a ∈ (W.nodeD p).parents) →
      ∀ a, a ∈ l → IsMapRef (W.nodeD a.1).kind → ∀ m, (m = a.1 ∨ UpM W m a.1) → Changed env s0 W m →
        (t'.nodeD m).didChange = true := by
  intro l
  induction l with
  | nil => intro t t' u _ _ _ a ha; cases ha
  | cons a0 l ihl =>
    intro t t' u h q hmem a ha hmr m hm hch
    rw [forward_cons] at h
    obtain ⟨u1, t1, h1, h2⟩ := bind_ok_inv h
    have q1 : Step.Quiet t t1 := (Step.Pres.childChanged ..).h _ _ _ h1
    rcases List.mem_cons.1 ha with rfl | ha'
    · have := ih a.1 p a.2 selfOld t t1 u1 h1 q (hmem a (List.mem_cons_self ..)) hold hmr m hm hch
      exact (PresFM.forward env fuel p selfOld l).h _ _ _ h2 m this
    · exact ihl t1 t' u h2 (q.trans q1) (fun b hb => hmem b (List.mem_cons_of_mem _ hb)) a ha' hmr m hm hch


theorem logged_nil (s : State) : logged [] s = s := rfl

/-- **the flags.** A successful `child_changed p c ci old` on a recorded map_ref parent `p` of `c`, where `old` is
what `c` read in `s0`, raises the `didChange` flag of every map_ref node at or above `p` whose read value is not
the one of `s0`. -/
theorem childChanged_flags {env : Env} {s0 W : State} (C : CCtx env s0 W) : ∀ fuel, CCPost env s0 W fuel := by
  intro fuel
  induction fuel with
  | zero => intro p c ci oldOpt t t' u h; unfold Engine.childChanged at h; cases h
  | succ fuel ih =>
    intro p c ci oldOpt t t' u h q hmem hold hmr m hm hch
    obtain ⟨pr, i, hk⟩ := isMapRef_iff.1 hmr
    have hic : i = c := C.edge c p ci pr i hmem hk
    subst hic
    have hpW : p < W.nodes.size := by
      by_cases h : p < W.nodes.size
      · exact h
      · rw [nodeD_default_of_ge W p (by omega)] at hk; cases hk
    have hvW : (W.nodeD p).valid = true := C.pvalid i p ci hmem
    have hpt : p < t.nodes.size := by rw [q.size]; exact hpW
    have hnd := some_of_lt hpt
    have hkt : (t.nodeD p).kind = .mapRef pr i := by rw [(q.node p).kind]; exact hk
    have hvt : (t.nodeD p).valid = true := by rw [(q.node p).valid]; exact hvW
    have hk? : (t.nodeD p).kind? = some (.mapRef pr i) := by simp [Node.kind?, hvt, hkt]
    -- the child has a value
    have hcv : ∃ cn, t.value env i = some cn := by
      have h' := h
      unfold Engine.childChanged at h'
      rw [run_bind_ok (run_getNode_some hnd), hk?] at h'
      dsimp only at h'
      obtain ⟨cn, t1, h1, -⟩ := bind_ok_inv h'
      rw [run_valueUnwrap] at h1
      cases hv : t.value env i with
      | none => rw [hv] at h1; cases h1
      | some x => exact ⟨x, rfl⟩
    obtain ⟨cn, hcn⟩ := hcv
    have hcnW : W.value env i = some cn := by rw [← q.value_eqM env i]; exact hcn
    have hparents : (t.nodeD p).parents = (W.nodeD p).parents := (q.node p).parents
    -- what `p` read before and reads now
    have hk0 : (s0.nodeD p).kind = .mapRef pr i := by rw [C.kind0]; exact hk
    have hv0 : (s0.nodeD p).valid = true := by rw [C.valid0]; exact hvW
    have hp0 : s0.value env p = (s0.value env i).map (env.proj pr) := value_mapRef' C.back0 hv0 hk0
    have hpW' : W.value env p = some (env.proj pr cn) := by rw [value_mapRef' C.back hvW hk, hcnW]; rfl
    rw [childChanged_mapRef_run env fuel p i ci oldOpt t (t.nodeD p) pr i cn hnd hk? hcn] at h
    -- the recursive calls
    have fwd : ∀ (selfOld : Option Val) (t2 : State),
        (forwardChildChanged env fuel p selfOld (W.nodeD p).parents).run.run t2 = (.ok u, t') →
        Step.Quiet W t2 → (∀ o, selfOld = some o → s0.value env p = some o) →
        ((t2.nodeD p).didChange = true ∨ ¬ Changed env s0 W p) → (t'.nodeD m).didChange = true := by
      intro selfOld t2 h2 q2 hso hflag
      rcases hm with rfl | hup
      · rcases hflag with hf | hf
        · exact (PresFM.forward env fuel m selfOld _).h _ _ _ h2 m hf
        · exact absurd hch hf
      · obtain ⟨pp, ci', hpm, hpk, hmm⟩ := hup.cases_head
        exact forward_flags ih p selfOld hso _ t2 t' u h2 q2 (fun _ h => h) (pp, ci') hpm hpk m hmm hch
    have qor : ∀ (d : Bool) (x : State), Step.Quiet x (orDidChange p d x) :=
      fun d x => Step.Quiet.modNode x p _ (by nodesame)
    have hor : ∀ (d : Bool) (x : State), p < x.nodes.size →
        ((orDidChange p d x).nodeD p).didChange = ((x.nodeD p).didChange || d) := by
      intro d x hx
      show (({ x with nodes := x.nodes.modify p _ } : State).nodeD p).didChange = _
      rw [nodeD_modify, if_pos ⟨rfl, hx⟩]
    cases oldOpt with
    | none =>
      dsimp only at h
      rw [hparents] at h
      refine fwd none _ h (q.trans (qor true t)) (fun o ho => by cases ho) (Or.inl ?_)
      rw [hor true t hpt]; simp
    | some o =>
      dsimp only at h
      have hpc : t.panicCountdown = none := q.pc C.pc
      have hcut : (t.nodeD p).cutoff = .eq ∨ (t.nodeD p).cutoff = .never := by
        rw [(q.node p).cutoff]; exact C.cut p pr i hk
      rw [shouldCutoff_run env p _ _ t _ hnd hpc] at h
      obtain ⟨vb, hverd, hvb⟩ : ∃ vb, cutoffVerdict env t p (env.proj pr o) (env.proj pr cn) = some vb ∧
          (vb = true → env.proj pr o = env.proj pr cn) := by
        unfold cutoffVerdict
        rcases hcut with hc | hc <;> rw [hc]
        · exact ⟨_, rfl, fun h => by simpa using h⟩
        · exact ⟨_, rfl, fun h => by cases h⟩
      have hlog : cutoffLog env t p (env.proj pr o) (env.proj pr cn) = [] := by
        unfold cutoffLog
        rcases hcut with hc | hc <;> rw [hc]
      rw [hverd, hlog, logged_nil] at h
      dsimp only at h
      rw [hparents] at h
      have hs0i : s0.value env i = some o := hold o rfl
      refine fwd (some (env.proj pr o)) _ h (q.trans (qor _ t)) ?_ ?_
      · intro o' ho'; cases ho'; rw [hp0, hs0i]; rfl
      · rw [hor _ t hpt]
        by_cases hne : env.proj pr o = env.proj pr cn
        · right
          rintro (hc | hc)
          · rw [hp0, hs0i] at hc; cases hc
          · apply hc; rw [hp0, hs0i, hpW', Option.map_some, hne]
        · left
          have : vb = false := by
            cases vb with
            | false => rfl
            | true => exact absurd (hvb rfl) hne
          rw [this]; simp

end IncrVerif.Proofs.MapRefH
