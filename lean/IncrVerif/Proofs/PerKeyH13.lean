import IncrVerif.Proofs.PerKeyH11
import IncrVerif.Proofs.PerKeyH12
import IncrVerif.Proofs.PerKeyH39
import IncrVerif.Proofs.PerKeyFrame
/-!
# A run of a per-key change detector, part 1: local contract additions, the frame `LF`, the loop invariant `LI`

Notation of the whole `LC*` series (one `recomputeOne env fuel n` on `n = pr.lhsChange`, `PD env s (some n)`, `NoRem s`):
* `s0 := started n s`; `σ`: the actual state between two iterations of the loop of `perKeyDriver env fuel op m`
  (`m` = the value of the conversion node); `s2`: after `prevMap := m`; `s'`: after `maybeChangeValue env fuel n .unit`.
* `E := twEnv env`; the STRUCTURE invariant between two engine calls is `Mid E (twL [] σ)` (any log: `mid_relog`).
* `eres`: the index of the result's expert record (`(s.nodeD pr.result).kind = .expert eres`).

The clauses requested from `lean-perkey` (`PKOK.lcs`, `AuxP.obs`, ownership `OpOK.own/noObs/privTop`, `EntryOK.consec`) are
in PK2 now; the target is `LcStepSpec env` of PK3.
-/
namespace IncrVerif.Proofs.PerKeyH
open IncrVerif.Engine IncrVerif.Driver IncrVerif.Proofs IncrVerif.Proofs.Step IncrVerif.Proofs.Sched
open IncrVerif.Proofs.ExpertH IncrVerif.Proofs.EffH IncrVerif.Proofs.DriverH IncrVerif.Proofs.ExpertH.QR

/-! ## 1. small definitions -/

/-- a listed observer is in use or disallowed (`AuxP.obs`) -/
def ObsListed (s : State) : Prop :=
  ∀ m o, o ∈ (s.nodeD m).observers →
    ∃ ob, s.observers[o]? = some ob ∧ ob.node = m ∧ (ob.state = .inUse ∨ ob.state = .disallowed)

/-! ## 3. the frame of (a sequence of) engine calls inside the loop, on ACTUAL states -/

/-- a node that has just been created and never computed (validity, scope, cutoff: `PFrag`) -/
structure NewNode (nd : Node) : Prop where
  recomputedAt : nd.recomputedAt = -1
  changedAt : nd.changedAt = -1
  value : nd.value = none
  observers : nd.observers = []
  handlers : nd.numOnUpdateHandlers = 0
  notVar : ∀ c, nd.kind ≠ .var c
  /-- not a change detector -/
  notLc : ∀ f args, nd.kind = .map f args → f < fnPerKey

/-- the frame of the loop: nodes and records are only appended; old nodes keep `nodeKey`; old records keep everything
but `forceStale` (only raised), `slots`, `willFireAllCallbacks`, and — for the records `e` with `D e` only (in `LI`: the
result record `eres`) — `children` (only appended); necessity only grows -/
structure LF (D : Nat → Prop) (a b : State) : Prop where
  grow : a.nodes.size ≤ b.nodes.size
  node : ∀ m, m < a.nodes.size → nodeKey (b.nodeD m) = nodeKey (a.nodeD m)
  key : eKey b = eKey a
  xgrow : a.experts.size ≤ b.experts.size
  xrec : ∀ (e : Nat) (er : ExpertRec), a.experts[e]? = some er → ∃ er', b.experts[e]? = some er' ∧
    er'.f = er.f ∧ er'.node = er.node ∧ er'.pk = er.pk ∧ er'.script = er.script ∧ er'.sel = er.sel ∧
    er'.numInvalidChildren = er.numInvalidChildren ∧
    (er.forceStale = true → er'.forceStale = true) ∧
    (¬ D e → er'.children = er.children) ∧
    (∃ ext, er'.children = er.children ++ ext) ∧
    ((er'.children = er.children ∧ er'.forceStale = er.forceStale) ∨ er'.forceStale = true)
  nextDep : a.nextDep ≤ b.nextDep
  new : ∀ m, a.nodes.size ≤ m → m < b.nodes.size → NewNode (b.nodeD m)
  nec : ∀ m, a.isNecessary m = true → b.isNecessary m = true

theorem LF.refl (D : Nat → Prop) (a : State) : LF D a a :=
  ⟨Nat.le_refl _, fun _ _ => rfl, rfl, Nat.le_refl _,
    fun _ er h => ⟨er, h, rfl, rfl, rfl, rfl, rfl, rfl, id, fun _ => rfl, ⟨[], (List.append_nil _).symm⟩,
      Or.inl ⟨rfl, rfl⟩⟩,
    Nat.le_refl _, fun m h1 h2 => absurd h2 (Nat.not_lt.2 h1), fun _ h => h⟩

theorem NewNode.of_key {a b : Node} (h : nodeKey b = nodeKey a) (N : NewNode a) : NewNode b := by
  simp only [nodeKey, Prod.mk.injEq] at h
  obtain ⟨h1, -, -, h4, -, h6, h7, h8, -, h10⟩ := h
  exact ⟨h6 ▸ N.recomputedAt, h7 ▸ N.changedAt, h4 ▸ N.value, h8 ▸ N.observers, h10 ▸ N.handlers,
    fun c => h1 ▸ N.notVar c, fun f args => h1 ▸ N.notLc f args⟩

theorem LF.trans {D : Nat → Prop} {a b c : State} (h1 : LF D a b) (h2 : LF D b c) : LF D a c := by
  refine ⟨Nat.le_trans h1.grow h2.grow,
    fun m hm => (h2.node m (Nat.lt_of_lt_of_le hm h1.grow)).trans (h1.node m hm), h2.key.trans h1.key,
    Nat.le_trans h1.xgrow h2.xgrow, ?_, Nat.le_trans h1.nextDep h2.nextDep, ?_, fun m hm => h2.nec m (h1.nec m hm)⟩
  · intro e er he
    obtain ⟨er1, he1, a1, a2, a3, a4, a5, a6, a7, a8, ⟨x1, a9⟩, a10⟩ := h1.xrec e er he
    obtain ⟨er2, he2, b1, b2, b3, b4, b5, b6, b7, b8, ⟨x2, b9⟩, b10⟩ := h2.xrec e er1 he1
    refine ⟨er2, he2, b1.trans a1, b2.trans a2, b3.trans a3, b4.trans a4, b5.trans a5, b6.trans a6,
      fun h => b7 (a7 h), fun h => (b8 h).trans (a8 h), ⟨x1 ++ x2, by rw [b9, a9, List.append_assoc]⟩, ?_⟩
    rcases b10 with ⟨k1, k2⟩ | k
    · rcases a10 with ⟨j1, j2⟩ | j
      · exact Or.inl ⟨k1.trans j1, k2.trans j2⟩
      · exact Or.inr (k2.trans j)
    · exact Or.inr k
  · intro m hm1 hm2
    by_cases hb : m < b.nodes.size
    · exact NewNode.of_key (h2.node m hb) (h1.new m hm1 hb)
    · exact h2.new m (by omega) hm2

/-- only the OLD records count for `D` -/
theorem LF.restrict {D D' : Nat → Prop} {a b : State} (h : LF D' a b)
    (hD : ∀ e, e < a.experts.size → D' e → D e) : LF D a b := by
  refine ⟨h.grow, h.node, h.key, h.xgrow, ?_, h.nextDep, h.new, h.nec⟩
  intro e er he
  obtain ⟨er1, he1, a1, a2, a3, a4, a5, a6, a7, a8, a9, a10⟩ := h.xrec e er he
  exact ⟨er1, he1, a1, a2, a3, a4, a5, a6, a7,
    fun hn => a8 fun hd => hn (hD e (Array.getElem?_eq_some_iff.1 he).1 hd), a9, a10⟩

theorem LF.mono {D D' : Nat → Prop} {a b : State} (h : LF D a b) (hD : ∀ e, D e → D' e) : LF D' a b :=
  h.restrict (D := D') fun e _ hd => hD e hd

/-! ## 3'. the frame the BOOKKEEPING reads (`LF` gives it; so does the final `maybeChangeValue`) -/

/-- what `EntryOK`, `Inst`, `OpNodes`, `ExpertH.Below`, `Own.own`, `Pot` read of two states: sizes, kinds of old nodes,
the naming table, old records (`node`, `pk`; `children` appended, unchanged outside `D`) -/
structure BF (D : Nat → Prop) (a b : State) : Prop where
  grow : a.nodes.size ≤ b.nodes.size
  kind : ∀ m, m < a.nodes.size → (b.nodeD m).kind = (a.nodeD m).kind
  top : b.top = a.top
  xrec : ∀ (e : Nat) (er : ExpertRec), a.experts[e]? = some er → ∃ er', b.experts[e]? = some er' ∧
    er'.node = er.node ∧ er'.pk = er.pk ∧ (¬ D e → er'.children = er.children) ∧
    (∃ ext, er'.children = er.children ++ ext)
  /-- old expert nodes whose virtual stamp is `-1` keep it (no expert node runs) -/
  stamp : ∀ m e, m < a.nodes.size → (a.nodeD m).kind = .expert e → ((V a).nodeD m).recomputedAt = -1 →
    ((V b).nodeD m).recomputedAt = -1

/-- an old node whose virtual stamp is `-1` keeps it: the actual stamp is kept, a raised flag stays up -/
theorem LF.stamp {D : Nat → Prop} {a b : State} (h : LF D a b) {m : Nat} (hm : m < a.nodes.size)
    (hs : ((V a).nodeD m).recomputedAt = -1) : ((V b).nodeD m).recomputedAt = -1 := by
  have := h.node m hm
  simp only [nodeKey, Prod.mk.injEq] at this
  rw [V_stamp_iff] at hs ⊢
  rw [this.1, this.2.2.2.2.2.1]
  rcases hs with hs | hs
  · refine Or.inl ?_
    cases hk : (a.nodeD m).kind with
    | expert e =>
      rw [hk] at hs
      simp only [forced] at hs ⊢
      cases he : a.experts[e]? with
      | none => rw [xRec_none he] at hs; cases hs
      | some er =>
        obtain ⟨er', he', -, -, -, -, -, -, a7, -⟩ := h.xrec e er he
        rw [xRec_some he] at hs
        rw [xRec_some he']; exact a7 hs
    | _ => rw [hk] at hs; cases hs
  · exact Or.inr hs

theorem LF.bf {D : Nat → Prop} {a b : State} (h : LF D a b) : BF D a b := by
  refine ⟨h.grow, fun m hm => ?_, ?_, fun e er he => ?_, fun m _ hm _ hs => ?_⟩
  · have := h.node m hm
    simp only [nodeKey, Prod.mk.injEq] at this
    exact this.1
  · have := h.key
    simp only [eKey, Prod.mk.injEq] at this
    exact this.2.2.2.2.2.2.2.2.2.2.2.2.2.2.1
  · obtain ⟨er1, he1, -, a2, a3, -, -, -, -, a8, a9, -⟩ := h.xrec e er he
    exact ⟨er1, he1, a2, a3, a8, a9⟩
  · exact h.stamp hm hs

theorem BF.refl (D : Nat → Prop) (a : State) : BF D a a :=
  ⟨Nat.le_refl _, fun _ _ => rfl, rfl, fun _ er h => ⟨er, h, rfl, rfl, fun _ => rfl, [], (List.append_nil _).symm⟩,
    fun _ _ _ _ h => h⟩

theorem BF.trans {D : Nat → Prop} {a b c : State} (h1 : BF D a b) (h2 : BF D b c) : BF D a c := by
  refine ⟨Nat.le_trans h1.grow h2.grow,
    fun m hm => (h2.kind m (Nat.lt_of_lt_of_le hm h1.grow)).trans (h1.kind m hm), h2.top.trans h1.top, ?_,
    fun m e hm hk hs => h2.stamp m e (Nat.lt_of_lt_of_le hm h1.grow) ((h1.kind m hm).trans hk) (h1.stamp m e hm hk hs)⟩
  intro e er he
  obtain ⟨er1, he1, a2, a3, a8, x1, a9⟩ := h1.xrec e er he
  obtain ⟨er2, he2, b2, b3, b8, x2, b9⟩ := h2.xrec e er1 he1
  exact ⟨er2, he2, b2.trans a2, b3.trans a3, fun h => (b8 h).trans (a8 h), x1 ++ x2,
    by rw [b9, a9, List.append_assoc]⟩

theorem bf_started (D : Nat → Prop) (n : Nat) (s : State) (hn : ∀ e, (s.nodeD n).kind ≠ .expert e) :
    BF D s (started n s) :=
  ⟨Nat.le_of_eq (DriverH.started_size n s).symm, fun m _ => DriverH.started_kind n s m, rfl,
    fun _ er h => ⟨er, h, rfl, rfl, fun _ => rfl, [], (List.append_nil _).symm⟩,
    fun m e _ hk hs => V_stamp_keep hk (DriverH.started_kind n s m) (by
      rw [started_nodeD]
      split
      · rename_i h
        have : m = n := h.1.symm
        subst this
        exact absurd hk (hn e)
      · rfl) (fun h => h) hs⟩

theorem BF.gf {D : Nat → Prop} {a b : State} (B : BF D a b) : GF D a b :=
  ⟨B.grow, B.kind, fun k n h => by rw [B.top]; exact h, B.xrec⟩

/-! ## 4. the loop invariant -/

/-- **the loop invariant** of `perKeyDriver env fuel op m` run from `started n s`.
`pr`: the operator record at the start; `eres`: the result's expert record; `rk` / `uk`: the keys of the `.right` /
`.unequal` entries processed so far. -/
structure LI (env : Env) (s : State) (n op : Nat) (pr : PerKeyRec) (eres : Nat) (rk uk : List Int) (σ : State) :
    Prop where
  /-- STRUCTURE, on the twin -/
  mid : Mid (twEnv env) (twL [] σ)
  /-- the frame from the start of the loop -/
  lf : LF (fun e => e = eres) (started n s) σ
  frag : PFrag env σ
  slots : SlotInv env σ
  obs : ObsListed σ
  /-- the operator records: only `prevNodes` of `op` changes -/
  psize : σ.perkeys.size = s.perkeys.size
  pother : ∀ op', op' ≠ op → σ.perkeys[op']? = s.perkeys[op']?
  pop : ∃ pn, σ.perkeys[op]? = some { pr with prevNodes := pn }
  /-- the bookkeeping of `op` in `σ` (all of `OpOK` but `dom`, `input`) -/
  core : ∀ pr', σ.perkeys[op]? = some pr' → OpCore env σ op pr'
  dom : ∀ pr', σ.perkeys[op]? = some pr' → ∀ key,
    (pr'.prevNodes.lookup key).isSome = ((pr.prevMap.lookup key).isSome || decide (key ∈ rk))
  /-- old entries are kept (as a sublist: new entries are consed in front) -/
  pnOld : ∀ pr', σ.perkeys[op]? = some pr' → ∀ key p d, (key, (p, d)) ∈ pr.prevNodes → (key, (p, d)) ∈ pr'.prevNodes
  /-- new records are entries of `op` -/
  newrec : ∀ (e : Nat) (er : ExpertRec), s.experts.size ≤ e → σ.experts[e]? = some er →
    ∃ pr' key d, σ.perkeys[op]? = some pr' ∧ er.pk = some (op, some key) ∧ (key, (er.node, d)) ∈ pr'.prevNodes
  pot : ∃ ψ, Pot σ ψ
  /-- what the new nodes reference: the change detector, new nodes, named top-level nodes -/
  newKids : ∀ c x : Nat, s.nodes.size ≤ c → c < σ.nodes.size → x ∈ kidsX σ.experts (σ.nodeD c).kind →
    x = pr.lhsChange ∨ s.nodes.size ≤ x ∨ ∃ k : Nat, s.top[k]? = some x
  /-- what the new edges of the result reference: new nodes, named top-level nodes -/
  resKids : ∀ er er', s.experts[eres]? = some er → σ.experts[eres]? = some er' → ∀ ed : ExpertEdge, ed ∈ er'.children →
    ed ∈ er.children ∨ s.nodes.size ≤ ed.child ∨ ∃ k : Nat, s.top[k]? = some ed.child
  /-- the result is necessary (hence so are the per-key nodes that are used by their instances: `EntryOK.input`) -/
  resNec : σ.isNecessary pr.result = true
  /-- the per-key nodes of the processed `.unequal` keys are forced stale or have never been computed: the virtual stamp is `-1` -/
  forcedU : ∀ key p d, key ∈ uk → (key, (p, d)) ∈ pr.prevNodes → ((V σ).nodeD p).recomputedAt = -1
  /-- the result: untouched so far (no `.right` entry yet), or forced stale -/
  resAlt : ((∀ pr', σ.perkeys[op]? = some pr' → pr'.prevNodes = pr.prevNodes) ∧
      (∀ er er', s.experts[eres]? = some er → σ.experts[eres]? = some er' →
        er'.children = er.children ∧ er'.forceStale = er.forceStale)) ∨
    forced σ.experts (σ.nodeD pr.result).kind = true
  /-- `forceStale` of the other old records is untouched, but for the per-key nodes of the processed `.unequal` keys -/
  fsame : ∀ (e : Nat) (er er' : ExpertRec), e ≠ eres → s.experts[e]? = some er → σ.experts[e]? = some er' →
    er'.forceStale = er.forceStale ∨ ∃ key d, key ∈ uk ∧ (key, (er.node, d)) ∈ pr.prevNodes

/-- the static facts about the start of the run -/
structure LcBase (env : Env) (s : State) (n op : Nat) (pr : PerKeyRec) (eres : Nat) : Prop where
  pd : PD env s (some n)
  norem : NoRem s
  hop : s.perkeys[op]? = some pr
  hn : pr.lhsChange = n
  hres : (s.nodeD pr.result).kind = .expert eres

/-- **the end of the driver** (after `prevMap := m`): the loop invariant with the final bookkeeping.  `m`: the value of
the conversion node.  `s2`: the state in which `maybeChangeValue env fuel n .unit` starts. -/
structure LE (env : Env) (s : State) (n op : Nat) (pr : PerKeyRec) (eres : Nat) (m : List (Int × Int)) (s2 : State) :
    Prop where
  conv : (s.nodeD (pr.result - 1)).value = some (.map m)
  sorted : IncrVerif.AMap.Sorted m
  mid : Mid (twEnv env) (twL [] s2)
  lf : LF (fun e => e = eres) (started n s) s2
  frag : PFrag env s2
  slots : SlotInv env s2
  obs : ObsListed s2
  psize : s2.perkeys.size = s.perkeys.size
  pother : ∀ op', op' ≠ op → s2.perkeys[op']? = s.perkeys[op']?
  pop : ∃ pn, s2.perkeys[op]? = some { pr with prevNodes := pn, prevMap := m }
  core : ∀ pr2, s2.perkeys[op]? = some pr2 → OpCore env s2 op pr2
  dom : ∀ pr2, s2.perkeys[op]? = some pr2 → ∀ key, (pr2.prevMap.lookup key).isSome = (pr2.prevNodes.lookup key).isSome
  pnOld : ∀ pr2, s2.perkeys[op]? = some pr2 → ∀ key p d, (key, (p, d)) ∈ pr.prevNodes → (key, (p, d)) ∈ pr2.prevNodes
  newrec : ∀ (e : Nat) (er : ExpertRec), s.experts.size ≤ e → s2.experts[e]? = some er →
    ∃ pr2 key d, s2.perkeys[op]? = some pr2 ∧ er.pk = some (op, some key) ∧ (key, (er.node, d)) ∈ pr2.prevNodes
  pot : ∃ ψ, Pot s2 ψ
  newKids : ∀ c x : Nat, s.nodes.size ≤ c → c < s2.nodes.size → x ∈ kidsX s2.experts (s2.nodeD c).kind →
    x = pr.lhsChange ∨ s.nodes.size ≤ x ∨ ∃ k : Nat, s.top[k]? = some x
  resKids : ∀ er er', s.experts[eres]? = some er → s2.experts[eres]? = some er' → ∀ ed : ExpertEdge, ed ∈ er'.children →
    ed ∈ er.children ∨ s.nodes.size ≤ ed.child ∨ ∃ k : Nat, s.top[k]? = some ed.child
  resNec : s2.isNecessary pr.result = true
  /-- the OLD per-key nodes whose constant changed are forced stale or have never been computed: the virtual stamp is `-1` -/
  forcedU : ∀ key p d, (key, (p, d)) ∈ pr.prevNodes → pr.prevMap.lookup key ≠ m.lookup key →
    ((V s2).nodeD p).recomputedAt = -1
  /-- the result: untouched (no key was added), or forced stale -/
  resAlt : ((∀ pr2, s2.perkeys[op]? = some pr2 → pr2.prevNodes = pr.prevNodes) ∧
      (∀ er er', s.experts[eres]? = some er → s2.experts[eres]? = some er' →
        er'.children = er.children ∧ er'.forceStale = er.forceStale)) ∨
    forced s2.experts (s2.nodeD pr.result).kind = true
  /-- `forceStale` of the other old records is untouched, but for the per-key nodes whose constant changed -/
  fsame : ∀ (e : Nat) (er er' : ExpertRec), e ≠ eres → s.experts[e]? = some er → s2.experts[e]? = some er' →
    er'.forceStale = er.forceStale ∨
      ∃ key d, (key, (er.node, d)) ∈ pr.prevNodes ∧ pr.prevMap.lookup key ≠ m.lookup key

/-! ## 4'. the contracts of the two iterations (proved in LC4*, LC5*; consumed by the loop in LC6*) -/

/-- one `.right` iteration (a new key) keeps the loop invariant -/
def IterRight (env : Env) : Prop :=
  ∀ (s : State) (n op : Nat) (pr : PerKeyRec) (eres : Nat) (rk uk : List Int) (σ σ' : State) (fuel : Nat)
    (key v : Int), LcBase env s n op pr eres → LI env s n op pr eres rk uk σ →
    pr.prevMap.lookup key = none → key ∉ rk →
    (PKL.perKeyStep env fuel op .top (key, .right v)).run.run σ = (.ok (), σ') →
    LI env s n op pr eres (key :: rk) uk σ'

/-- one `.unequal` iteration (the value of an old key changed) keeps the loop invariant -/
def IterUnequal (env : Env) : Prop :=
  ∀ (s : State) (n op : Nat) (pr : PerKeyRec) (eres : Nat) (rk uk : List Int) (σ σ' : State) (fuel : Nat)
    (key a b : Int), LcBase env s n op pr eres → LI env s n op pr eres rk uk σ →
    (pr.prevMap.lookup key).isSome = true →
    (PKL.perKeyStep env fuel op .top (key, .unequal a b)).run.run σ = (.ok (), σ') →
    LI env s n op pr eres rk (key :: uk) σ'

/-! ## 5. the twin does not read its log -/

theorem twL_withLog (l l' : List Event) (σ : State) : twL l' σ = { twL l σ with log := l' } := rfl

theorem mid_withLog {E : Env} {t : State} (M : Mid E t) (l' : List Event) : Mid E { t with log := l' } := by
  obtain ⟨rk, I⟩ := M.st
  refine ⟨⟨M.frag.pc, M.frag.kind, M.frag.valid, M.frag.xrec, M.frag.xok⟩, ⟨M.ahh.length, M.ahh.buckets, M.ahh.marks⟩,
    ⟨rk, ?_⟩, M.pinv, M.handlers⟩
  exact GInv.congr I (SameG.of_nodes rfl rfl rfl rfl rfl)

theorem mid_perkeys {E : Env} {t : State} (M : Mid E t) (pk : Array PerKeyRec) : Mid E { t with perkeys := pk } := by
  obtain ⟨rk, I⟩ := M.st
  refine ⟨⟨M.frag.pc, M.frag.kind, M.frag.valid, M.frag.xrec, M.frag.xok⟩, ⟨M.ahh.length, M.ahh.buckets, M.ahh.marks⟩,
    ⟨rk, ?_⟩, M.pinv, M.handlers⟩
  exact GInv.congr I (SameG.of_nodes rfl rfl rfl rfl rfl)

theorem mid_relog {E : Env} {l : List Event} {σ : State} (M : Mid E (twL l σ)) (l' : List Event) :
    Mid E (twL l' σ) := by
  rw [twL_withLog l l' σ]; exact mid_withLog M l'

end IncrVerif.Proofs.PerKeyH
