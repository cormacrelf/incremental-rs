import IncrVerif.Proofs.OnceF5
import IncrVerif.Proofs.OnceF9
/-!
# C02, combined fragment, part 10: NON-VACUITY of "inputs before outputs" — it holds at every `stabilise` of the example histories; a stable child that is not vacuous
-/
namespace IncrVerif.Proofs.OnceF
open IncrVerif.Engine IncrVerif.Driver IncrVerif.Proofs IncrVerif.Proofs.Step IncrVerif.Proofs.Sched IncrVerif.Proofs.Quiet
open IncrVerif.Proofs.FullH IncrVerif.Proofs.TidyH IncrVerif.Proofs.BindH

theorem exHistF_order {as bs : List Action} (e : exHistF = as ++ Action.stabilise :: bs) :
    ∃ s tk s1 tk1 s2, Quiet.runActions fEnv exHistF (State.init 128 true) #[] = .ok (s, tk) ∧
      Quiet.runActions fEnv as (State.init 128 true) #[] = .ok (s1, tk1) ∧
      (stabilise fEnv fuelDefault).run.run s1 = (.ok (), s2) ∧ OrderStab fEnv fuelDefault s1 s2 ∧
      Quiet.runActions fEnv bs s2 tk1 = .ok (s, tk) := by
  obtain ⟨s, tk, s1, tk1, s2, h0, k1, Q, k3, k7⟩ := ex_at_stabilise exHistF_runs exHistF_frag e
  exact ⟨s, tk, s1, tk1, s2, h0, k1, k3, stabilise_orderF fEnv_envS fEnv_first Q k3, k7⟩

theorem exHistG_order {as bs : List Action} (e : exHistG = as ++ Action.stabilise :: bs) :
    ∃ s tk s1 tk1 s2, Quiet.runActions fEnv exHistG (State.init 128 true) #[] = .ok (s, tk) ∧
      Quiet.runActions fEnv as (State.init 128 true) #[] = .ok (s1, tk1) ∧
      (stabilise fEnv fuelDefault).run.run s1 = (.ok (), s2) ∧ OrderStab fEnv fuelDefault s1 s2 ∧
      Quiet.runActions fEnv bs s2 tk1 = .ok (s, tk) := by
  obtain ⟨s, tk, s1, tk1, s2, h0, k1, Q, k3, k7⟩ := ex_at_stabilise exHistG_runs exHistG_frag e
  exact ⟨s, tk, s1, tk1, s2, h0, k1, k3, stabilise_orderF fEnv_envS fEnv_first Q k3, k7⟩

/-- the child lists (`State.children`) of some nodes of `exHistF` after its first `stabilise`: the map_ref chain `6 → 5 → 0`, the machine `7 → 6`, the map `8 → [7, 2]`, the inner
change detector `9 → 2` (its lhs `n2`), the main node `10 → [9, 13]` (change detector, current rhs), `11 → [8, 10]`, the outer main node `4 → [3, 11]` -/
theorem exHistF_children :
    (C2h.stateB fEnv (exHistF.take 6)).map (fun s => [4, 5, 6, 7, 8, 9, 10, 11].map s.children) =
      some [[3, 11], [0], [5], [6], [7, 2], [2], [9, 13], [8, 10]] := by
  decide +kernel

end IncrVerif.Proofs.OnceF
