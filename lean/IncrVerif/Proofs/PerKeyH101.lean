import IncrVerif.Proofs.PerKeyH100
/-!
# Per-key operators, API actions part 10: `create (.perKey ..)` — fragment, heap, frame, staleness, slots, key sets
-/
namespace IncrVerif.Proofs.PerKeyH
open IncrVerif.Engine IncrVerif.Driver IncrVerif.Proofs IncrVerif.Proofs.Step IncrVerif.Proofs.Sched
open IncrVerif.Proofs.ExpertH IncrVerif.Proofs.EffH IncrVerif.Proofs.DriverH

section
variable {env : Env} {s : State} (fam : FamCut) (a0 : Nat)

/-! ## the fragment -/

theorem pfrag_pkc (F : PFrag env s) : PFrag env (pkCreated fam a0 s) := by
  refine ⟨F.pc, fun n hn => ?_, fun n hn => ?_, fun n hn => ?_, fun n hn => ?_, fun n hn => ?_,
    fun n e hn hk => ?_, fun e er he => ?_, fun e er he => ?_, rfl⟩
  · rcases pkc_cases fam a0 s hn with h | rfl | rfl | rfl | rfl
    · rw [pkc_nodeD_lt fam a0 s h]; exact F.kind n h
    · rw [pkc_nodeD_0]; exact Or.inr (Or.inr (Or.inl rfl))
    · rw [pkc_nodeD_1]; trivial
    · rw [pkc_nodeD_2]; exact Or.inr (Or.inr (Or.inr (Nat.le_add_right _ _)))
    · rw [pkc_nodeD_3]; exact Or.inr (Or.inr (Or.inl rfl))
  · rcases pkc_cases fam a0 s hn with h | rfl | rfl | rfl | rfl
    · rw [pkc_nodeD_lt fam a0 s h]; exact F.valid n h
    · rw [pkc_nodeD_0]
    · rw [pkc_nodeD_1]
    · rw [pkc_nodeD_2]
    · rw [pkc_nodeD_3]
  · rcases pkc_cases fam a0 s hn with h | rfl | rfl | rfl | rfl
    · rw [pkc_nodeD_lt fam a0 s h]; exact F.cutoff n h
    · rw [pkc_nodeD_0]
    · rw [pkc_nodeD_1]
    · rw [pkc_nodeD_2]
    · rw [pkc_nodeD_3]
  · rcases pkc_cases fam a0 s hn with h | rfl | rfl | rfl | rfl
    · rw [pkc_nodeD_lt fam a0 s h]; exact F.top n h
    · rw [pkc_nodeD_0]
    · rw [pkc_nodeD_1]
    · rw [pkc_nodeD_2]
    · rw [pkc_nodeD_3]
  · rcases pkc_cases fam a0 s hn with h | rfl | rfl | rfl | rfl
    · rw [pkc_nodeD_lt fam a0 s h]; exact F.force n h
    · rw [pkc_nodeD_0]
    · rw [pkc_nodeD_1]
    · rw [pkc_nodeD_2]
    · rw [pkc_nodeD_3]
  · rcases pkc_cases fam a0 s hn with h | rfl | rfl | rfl | rfl
    · rw [pkc_nodeD_lt fam a0 s h] at hk
      obtain ⟨er, he, hnode⟩ := F.xrec n e h hk
      exact ⟨er, pkc_expert_old fam a0 s he, hnode⟩
    · rw [pkc_nodeD_0] at hk; cases hk
    · rw [pkc_nodeD_1] at hk; cases hk
      exact ⟨pkNewRec s, pkc_expert_new fam a0 s, rfl⟩
    · rw [pkc_nodeD_2] at hk; cases hk
    · rw [pkc_nodeD_3] at hk; cases hk
  · rcases pkc_expert_inv fam a0 s he with h | ⟨rfl, rfl⟩
    · obtain ⟨h1, h2⟩ := F.xnode e er h
      exact ⟨by rw [pkc_size]; omega, by rw [pkc_nodeD_lt fam a0 s h1]; exact h2⟩
    · exact ⟨by rw [pkc_size]; show s.nodes.size + 1 < _; omega, by
        show ((pkCreated fam a0 s).nodeD (s.nodes.size + 1)).kind = _
        rw [pkc_nodeD_1]⟩
  · rcases pkc_expert_inv fam a0 s he with h | ⟨rfl, rfl⟩
    · exact F.xok e er h
    · exact ⟨rfl, rfl, rfl⟩

theorem ahhEmpty_pkc (A : QR.AhhEmpty s) : QR.AhhEmpty (pkCreated fam a0 s) := by
  refine ⟨A.length, A.buckets, fun m => ?_⟩
  by_cases hm : m < (pkCreated fam a0 s).nodes.size
  · rcases pkc_cases fam a0 s hm with h | rfl | rfl | rfl | rfl
    · rw [pkc_nodeD_lt fam a0 s h]; exact A.marks m
    · rw [pkc_nodeD_0]
    · rw [pkc_nodeD_1]
    · rw [pkc_nodeD_2]
    · rw [pkc_nodeD_3]
  · rw [nodeD_default_of_ge _ m (by omega)]; rfl

/-! ## the frame -/

theorem kidsX_pkc_old (F : PFrag env s) {m : Nat} (hm : m < s.nodes.size) :
    kidsX (pkCreated fam a0 s).experts ((pkCreated fam a0 s).nodeD m).kind = kidsX s.experts (s.nodeD m).kind := by
  rw [pkc_nodeD_lt fam a0 s hm]
  cases hk : (s.nodeD m).kind <;> try rfl
  rename_i e
  obtain ⟨er, he, -⟩ := F.xrec m e hm hk
  simp only [kidsX]
  rw [xRec_pkc_lt fam a0 s (Array.getElem?_eq_some_iff.1 he).1]

theorem kf_pkc (F : PFrag env s) : KF s (pkCreated fam a0 s) :=
  ⟨by rw [pkc_size]; omega, fun m hm => by rw [pkc_nodeD_lt fam a0 s hm],
    fun e er he => ⟨er, pkc_expert_old fam a0 s he, rfl⟩, fun j n h => pkc_top_old fam a0 s h,
    fun m hm => kidsX_pkc_old fam a0 F hm,
    fun m e hm hk hs => V_stamp_keep hk (by rw [pkc_nodeD_lt fam a0 s hm]) (by rw [pkc_nodeD_lt fam a0 s hm]) (by
      obtain ⟨er, he, -⟩ := F.xrec m e hm hk
      rw [xRec_pkc_lt fam a0 s (Array.getElem?_eq_some_iff.1 he).1]; exact id) hs⟩

/-- the children of the new nodes -/
theorem kidsX_pkc_new {c x : Nat} (hc : s.nodes.size ≤ c)
    (hx : x ∈ kidsX (pkCreated fam a0 s).experts ((pkCreated fam a0 s).nodeD c).kind) :
    (c = s.nodes.size ∧ x = a0) ∨ (c = s.nodes.size + 1 ∧ x = s.nodes.size + 2) ∨
      (c = s.nodes.size + 2 ∧ x = s.nodes.size) ∨ (c = s.nodes.size + 3 ∧ x = s.nodes.size + 1) := by
  by_cases hlt : c < (pkCreated fam a0 s).nodes.size
  · rcases pkc_cases fam a0 s hlt with h | rfl | rfl | rfl | rfl
    · omega
    · rw [pkc_nodeD_0] at hx
      simp only [kidsX, List.mem_cons, List.not_mem_nil, or_false] at hx
      exact Or.inl ⟨rfl, hx⟩
    · rw [pkc_nodeD_1] at hx
      simp only [kidsX, xRec_some (pkc_expert_new fam a0 s), pkNewRec, List.map, List.mem_cons, List.not_mem_nil,
        or_false] at hx
      exact Or.inr (Or.inl ⟨rfl, hx⟩)
    · rw [pkc_nodeD_2] at hx
      simp only [kidsX, List.mem_cons, List.not_mem_nil, or_false] at hx
      exact Or.inr (Or.inr (Or.inl ⟨rfl, hx⟩))
    · rw [pkc_nodeD_3] at hx
      simp only [kidsX, List.mem_cons, List.not_mem_nil, or_false] at hx
      exact Or.inr (Or.inr (Or.inr ⟨rfl, hx⟩))
  · rw [nodeD_default_of_ge _ c (by omega)] at hx
    simp [kidsX_default] at hx

/-! ## staleness and values of old nodes -/

theorem children_pkc_old (F : PFrag env s) {m : Nat} (hm : m < s.nodes.size) :
    (pkCreated fam a0 s).children m = s.children m := by
  rw [(pfrag_pkc fam a0 F).children_kidsX, F.children_kidsX, kidsX_pkc_old fam a0 F hm]

theorem isStale_pkc_old (F : PFrag env s)
    (hin : ∀ n c, n < s.nodes.size → c ∈ kidsX s.experts (s.nodeD n).kind → c < s.nodes.size) {m : Nat}
    (hm : m < s.nodes.size) : (pkCreated fam a0 s).isStale m = s.isStale m := by
  have hch : ∀ c, c ∈ s.children m → (pkCreated fam a0 s).nodeD c = s.nodeD c := by
    intro c hc
    rw [F.children_kidsX] at hc
    exact pkc_nodeD_lt fam a0 s (hin m c hm hc)
  unfold State.isStale
  rw [children_pkc_old fam a0 F hm, pkc_nodeD_lt fam a0 s hm]
  have hany : ((s.children m).any fun c => decide (((pkCreated fam a0 s).nodeD c).changedAt > (s.nodeD m).recomputedAt))
      = ((s.children m).any fun c => decide ((s.nodeD c).changedAt > (s.nodeD m).recomputedAt)) :=
    any_congr_mem fun c hc => by rw [hch c hc]
  simp only [hany]
  cases hk : (s.nodeD m).kind? <;> try rfl
  rename_i k
  cases k <;> try rfl
  rename_i e
  have hkk : (s.nodeD m).kind = .expert e := by
    unfold Node.kind? at hk
    split at hk
    · exact Option.some.inj hk
    · cases hk
  obtain ⟨er, he, -⟩ := F.xrec m e hm hkk
  simp only [pkc_expert_lt fam a0 s (Array.getElem?_eq_some_iff.1 he).1]

theorem value_pkc_old (F : PFrag env s) {m : Nat} (hm : m < s.nodes.size) :
    (pkCreated fam a0 s).value env m = s.value env m := by
  have h1 : ∀ p i, (s.nodeD m).kind ≠ .mapRef p i := by
    intro p i h; have := F.kindD m; rw [h] at this; exact this
  rw [value_plain env _ m (by rw [pkc_nodeD_lt fam a0 s hm]; exact h1), value_plain env s m h1,
    pkc_nodeD_lt fam a0 s hm]

/-! ## slots -/

theorem slotInv_pkc (F : PFrag env s) (L : SlotInv env s)
    (hin : ∀ n c, n < s.nodes.size → c ∈ kidsX s.experts (s.nodeD n).kind → c < s.nodes.size) :
    SlotInv env (pkCreated fam a0 s) := by
  -- an expert node of the new state whose record is an old one is an old node
  have hold : ∀ n e, ((pkCreated fam a0 s).nodeD n).kind = .expert e → e < s.experts.size → n < s.nodes.size := by
    intro n e hk he'
    apply Classical.byContradiction
    intro hn
    by_cases hlt : n < (pkCreated fam a0 s).nodes.size
    · rcases pkc_cases fam a0 s hlt with h0 | rfl | rfl | rfl | rfl
      · exact hn h0
      · rw [pkc_nodeD_0] at hk; cases hk
      · rw [pkc_nodeD_1] at hk; cases hk; omega
      · rw [pkc_nodeD_2] at hk; cases hk
      · rw [pkc_nodeD_3] at hk; cases hk
    · rw [nodeD_default_of_ge _ n (by omega)] at hk; cases hk
  refine ⟨fun e er he => ?_, fun n e er hk he hw => ?_, fun n e er hk he hw => ?_⟩
  · rcases pkc_expert_inv fam a0 s he with h | ⟨rfl, rfl⟩
    · obtain ⟨h1, h2, h3⟩ := L.deps e er h
      exact ⟨h1, fun ed hed => Nat.lt_succ_of_lt (h2 ed hed), fun p hp => Nat.lt_succ_of_lt (h3 p hp)⟩
    · refine ⟨by simp [pkNewRec], fun ed hed => ?_, fun p hp => by cases hp⟩
      simp only [pkNewRec, List.mem_cons, List.not_mem_nil, or_false] at hed
      rw [hed]; exact Nat.lt_succ_self _
  · rcases pkc_expert_inv fam a0 s he with h | ⟨rfl, rfl⟩
    · have hlt : n < s.nodes.size := hold n e hk (Array.getElem?_eq_some_iff.1 h).1
      rw [pkc_nodeD_lt fam a0 s hlt] at hk
      have := L.flag n e er hk h hw
      rw [State.isNecessary] at this ⊢
      rw [pkc_nodeD_lt fam a0 s hlt]; exact this
    · cases hw
  · rcases pkc_expert_inv fam a0 s he with h | ⟨rfl, rfl⟩
    · have hlt : n < s.nodes.size := hold n e hk (Array.getElem?_eq_some_iff.1 h).1
      rw [pkc_nodeD_lt fam a0 s hlt] at hk
      rw [isStale_pkc_old fam a0 F hin hlt] at hw
      have G := L.good n e er hk h hw
      intro ed hed hcb
      have hc : ed.child < s.nodes.size := by
        refine hin n ed.child hlt ?_
        rw [hk]
        simp only [kidsX, xRec_some h]
        exact List.mem_map.2 ⟨ed, hed, rfl⟩
      rw [value_pkc_old fam a0 F hc]; exact G ed hed hcb
    · intro ed hed hcb
      simp only [pkNewRec, List.mem_cons, List.not_mem_nil, or_false] at hed
      rw [hed] at hcb; cases hcb

end

end IncrVerif.Proofs.PerKeyH
