import IncrVerif.Proofs.FullT14
import IncrVerif.Proofs.FullT11
import IncrVerif.Proofs.NestH118
/-!
# C04 combined fragment: the API actions other than `stabilise` — bisimulation (twin of `FullH.SimAt.stepAction`, FullH50), the `cutoff` action, totality
-/
namespace IncrVerif.Proofs.FullT
set_option linter.unusedSectionVars false
open IncrVerif.Engine IncrVerif.Driver IncrVerif.Proofs IncrVerif.Proofs.Step IncrVerif.Proofs.Sched IncrVerif.Proofs.Quiet IncrVerif.Proofs.FullH

section
variable {env : Env} {sp : Nat → Val → Val} {g : Nat → Option Val}

theorem actCalc {K : Kind → Prop} {P : State → Prop} [KeepsG P] : Hist.ActCalc (virt g) (fun s => BSimAt K P g s) where
  ret _ a := BSimAt.ret a
  seq := BSimAt.seq
  get := BSimAt.get_seq
  created _ _ := BSimAt.mod rfl rfl rfl
  observed _ _ _ := BSimAt.mod rfl rfl rfl
  observers _ := rfl
  isStable := virt_isStable
  resolveOpnd s loc o := BSim.resolveOpnd loc o s
  bumpCounter s f := BSim.bumpCounterP f s
  getObs s o := BSim.getObs o s
  modObs s o f := BSim.modObs o f s
  disallowFutureUse s o := BSim.disallowFutureUse o s
  writeVar s v f b := BSim.writeVar v f b s
  getVar s v := BSim.getVar v s

/-- every API action but `stabilise` and the `cutoff` action is bisimulated -/
theorem BSimAt.stepAction {P : State → Prop} [KeepsG P] {s : State} {T : Nat} {a : Action} (tk : Array Nat)
    (hA : ActionFull env sp T a) (hs : a ≠ .stabilise) (hnc : ∀ n c, a ≠ .create (.cutoff n c)) (ht : TopLt s) :
    BSimAt (FK env sp) P g s (Engine.stepAction env a tk) (Engine.stepAction (VE env sp) (virtA a) tk) := by
  rcases hA.cases with ⟨i, rfl⟩ | rfl | hp
  · have hnc' : ∀ n c, i ≠ .cutoff n c := fun n c e => hnc n c (by rw [e])
    rw [virtA_create hnc']
    obtain ⟨hi, ho⟩ := instrS_of_top hA hnc'
    exact actCalc.create tk (BSimAt.elabInstrM_top .unit i hi ho ht)
  · exact absurd rfl hs
  · rw [virtA_other (fun i h => by rw [h] at hp; exact hp)]
    exact actCalc.plain hp _ _ tk s

/-! ## the `cutoff` action (NOT simulated: the virtual action is `stats`) -/

theorem run_resolveOuter {s : State} {k m : Nat} (hk : s.top[k]? = some m) :
    (Engine.resolveOpnd [] (.outer k)).run.run s = (.ok m, s) := by
  unfold Engine.resolveOpnd
  simp only []
  rw [run_bind_get, hk]
  exact run_pure _ _

/-- **the `cutoff` action returns when its operand names an existing handle** -/
theorem cutoff_ret {s : State} {k m : Nat} {c : CutoffK} {tk : Array Nat} (hk : s.top[k]? = some m) :
    (stepAction env (.create (.cutoff (.outer k) c)) tk).run.run s =
      (.ok ("ok", tk), { s with nodes := s.nodes.modify m fun x => { x with cutoff := c } }) := by
  unfold Engine.stepAction
  simp only []
  have e : Engine.elabInstrM env [] .unit (.cutoff (.outer k) c) = Engine.elabInstr [] .unit (.cutoff (.outer k) c) := rfl
  rw [e]
  unfold Engine.elabInstr
  simp only []
  rw [run_bind_ok (s1 := { s with nodes := s.nodes.modify m fun x => { x with cutoff := c } }) (a := none)]
  · exact run_pure _ _
  · rw [run_bind_get, run_bind_ok (run_resolveOuter hk), run_bind_modNode]
    exact run_pure _ _

/-- the `cutoff` action: it returns, keeps `PInv` (kinds and parent lists are unchanged) and is invisible in the virtual state -/
theorem cutoff_total {s : State} {k : Nat} {c : CutoffK} {tk : Array Nat} (hk : k < s.top.size) (hlc : TopNoLc s) (hP : PInv s) :
    ∃ s', (stepAction env (.create (.cutoff (.outer k) c)) tk).run.run s = (.ok ("ok", tk), s') ∧ PInv s' ∧ virt g s' = virt g s ∧
      s'.top = s.top ∧ s'.vars = s.vars ∧ s'.observers = s.observers ∧ s'.nodes.size = s.nodes.size := by
  have hm : s.top[k]? = some s.top[k] := Array.getElem?_eq_getElem hk
  exact ⟨_, cutoff_ret hm, PInv.modifyKP _ _ hP (fun nd => ⟨rfl, rfl⟩), virt_cut g s _ c (hlc k _ hm), rfl, rfl, rfl, by simp⟩

/-! ## totality of the API actions other than `stabilise` -/

/-- an API action of F2 other than `stabilise` whose indices exist returns, whatever the room is (extracted from the proof of `NestH.step_totIf2`) -/
theorem step_ret2 {env : Env} {rk : Nat → Nat} {N : Nat} {s : State} {a : Action} {tk : Array Nat}
    (Q : NestH.QInv2 env rk s) (T : NestH.TInv2 rk N s) (ha : NestH.ActionF2 env s.top.size a) (hin : NestH.ActionIn2 s a)
    (hns : a ≠ .stabilise) : ∃ r0 s0, (stepAction env a tk).run.run s = (.ok r0, s0) := by
  by_cases hc : ∃ i, a = .create i
  · obtain ⟨i, rfl⟩ := hc
    obtain ⟨r0, s0, -, h, -⟩ := NestH.create_run2 (tk := tk) Q ha hin
    exact ⟨r0, s0, h⟩
  · have hc' : ∀ i, a ≠ .create i := fun i e => hc ⟨i, e⟩
    obtain ⟨r0, s0, h, -⟩ := NestH.simple_total2 (env := env) (tk := tk) Q T (NestH.T2k.simple_of_F2 ha hc' hns)
      (NestH.T2k.actionOK_of_in2 (N := N) hin hc' hns)
    exact ⟨r0, s0, h⟩

theorem virtA_ne_stabilise {a : Action} (hs : a ≠ .stabilise) : virtA a ≠ .stabilise := by
  by_cases hc : ∃ i, a = .create i
  · obtain ⟨i, rfl⟩ := hc
    by_cases hq : ∃ n c, i = .cutoff n c
    · obtain ⟨n, c, rfl⟩ := hq
      intro h; cases h
    · rw [virtA_create (fun n c e => hq ⟨n, c, e⟩)]
      intro h; cases h
  · rw [virtA_other (fun i e => hc ⟨i, e⟩)]; exact hs

/-- **every API action of the combined fragment other than `stabilise` returns**: IF the state the action ends in, whatever the outcome, has at most `N`
nodes, THEN it returned, and the invariants (`QInvF` with the same ghost, `PInv`, the totality invariant `QT` of the virtual state) hold; the exact sizes. -/
theorem step_totalF {env : Env} {sp : Nat → Val → Val} {N : Nat} {s : State} {g : Nat → Option Val} {a : Action} {tk : Array Nat}
    (Q : QInvF env sp s g) (hP : PInv s) (TQ : NestH.QT (VE env sp) N (virt g s)) (hA : ActionFull env sp s.top.size a)
    (hidx : NestH.ActionIdx s.top.size s.vars.size s.observers.size (virtA a))
    (hcut : ∀ n c, a = .create (.cutoff n c) → ∃ k, n = Opnd.outer k ∧ k < s.top.size) (hs : a ≠ .stabilise) :
    NestH.TotIf (stepAction env a tk) s (NestH.ResOK N) (fun r s' => r.2 = tk ∧ QInvF env sp s' g ∧ PInv s' ∧
      NestH.QT (VE env sp) N (virt g s') ∧ s'.top.size = s.top.size + NestH.growTop (virtA a) ∧
      s'.vars.size = s.vars.size + (NestH.grow2 (virtA a)).2.1 ∧
      s'.observers.size = s.observers.size + (NestH.grow2 (virtA a)).2.2) := by
  intro r s' hrun hB
  obtain ⟨ht, hlc⟩ := topLt_of_qg2 Q.q
  obtain ⟨rk, Q2, T2, H⟩ := TQ
  by_cases hc : ∃ n c, a = .create (.cutoff n c)
  · obtain ⟨n, c, rfl⟩ := hc
    obtain ⟨k, rfl, hk⟩ := hcut n c rfl
    obtain ⟨s1, h1, p1, v1, e1, e2, e3, -⟩ := cutoff_total (env := env) (g := g) (c := c) (tk := tk) hk hlc hP
    rw [h1] at hrun
    obtain ⟨rfl, rfl⟩ := Prod.mk.inj hrun
    refine ⟨("ok", tk), rfl, rfl, step_fullG Q hA hs h1, p1, ?_, ?_, ?_, ?_⟩
    · rw [v1]; exact ⟨rk, Q2, T2, H⟩
    · rw [e1]; rfl
    · rw [e2]; rfl
    · rw [e3]; rfl
  · have hnc : ∀ n c, a ≠ .create (.cutoff n c) := fun n c e => hc ⟨n, c, e⟩
    have B := BSimAt.stepAction (P := PInv) (g := g) tk hA hs hnc ht
    have haF : NestH.ActionF2 (VE env sp) (virt g s).top.size (virtA a) := actionF2_virt hA
    have hin : NestH.ActionIn2 (virt g s) (virtA a) := NestH.actionIn2_of (s := virt g s) hidx
    have hvs := virtA_ne_stabilise hs
    obtain ⟨r0, t0, h0⟩ := step_ret2 (tk := tk) Q2 T2 haF hin hvs
    obtain ⟨s0, hs0, e0, -, -, p0⟩ := B.rev Q.frag.fr hP h0
    rw [hs0] at hrun
    obtain ⟨rfl, rfl⟩ := Prod.mk.inj hrun
    subst e0
    have hB' : NestH.ResOK N (virt g s0) := by
      show (virt g s0).nodes.size ≤ N
      rw [virt_size]; exact hB
    obtain ⟨r1, e1, htk, rk', Q', T', G2, -⟩ := NestH.step_totIf2 Q2 T2 haF hin hvs _ _ h0 hB'
    cases e1
    exact ⟨r0, rfl, htk, step_fullG Q hA hs hs0, p0, ⟨rk', Q', T', NestH.step_rhsRan2 Q2 H haF hvs h0⟩, G2.2.2.2, G2.2.1, G2.2.2.1⟩

end
end IncrVerif.Proofs.FullT
