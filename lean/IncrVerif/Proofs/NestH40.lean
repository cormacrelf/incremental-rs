import IncrVerif.Proofs.NestH39
/-!
# Nested binds (F2), the run of a change detector, part 5: `F2Inv` is kept (under the extended rank); the headline theorem

The counterpart of `BindH77` for nested binds.
-/
namespace IncrVerif.Proofs.NestH
open IncrVerif.Engine IncrVerif.Proofs IncrVerif.Proofs.Step IncrVerif.Proofs.Sched IncrVerif.Proofs.Quiet
open IncrVerif.Proofs.BindH
namespace NC

namespace Mid2
variable {env : Env} {rk rk' : Nat → Nat} {n b rhs : Nat} {br : BindRec} {l : List Nat} {r : Option Nat}
  {s t s' : State}

/-- a record of the final bind table: the new record of bind `b`, an old record (its list emptied if its main node died), or the record of an inner bind
created by the closure run -/
theorem bind_back (X : Mid2 env rk rk' n b rhs br l r s t s') {b' : Nat} {br' : BindRec}
    (h : s'.binds[b']? = some br') :
    (b' = b ∧ br' = { { br with allNodesCreatedOnRhs := l } with rhs := some rhs }) ∨
    (b' ≠ b ∧ ∃ br0, s.binds[b']? = some br0 ∧
      ((Dying s br.allNodesCreatedOnRhs br0.main ∧ br' = { br0 with allNodesCreatedOnRhs := [] }) ∨
       (¬ Dying s br.allNodesCreatedOnRhs br0.main ∧ br' = br0))) ∨
    (s.binds.size ≤ b' ∧ t.binds[b']? = some br') := by
  rw [X.step.binds] at h
  by_cases e : b' = b
  · subst e
    rw [X.rel.bind] at h
    exact Or.inl ⟨rfl, (Option.some.inj h).symm⟩
  · by_cases hlt : b' < s.binds.size
    · obtain ⟨br0, h0⟩ := getElem?_some_of_lt hlt
      obtain ⟨k1, k2⟩ := X.rel.bindsOld b' br0 e h0
      refine Or.inr (Or.inl ⟨e, br0, h0, ?_⟩)
      by_cases hd : Dying s br.allNodesCreatedOnRhs br0.main
      · rw [k1 hd] at h
        exact Or.inl ⟨hd, (Option.some.inj h).symm⟩
      · rw [k2 hd] at h
        exact Or.inr ⟨hd, (Option.some.inj h).symm⟩
    · exact Or.inr (Or.inr ⟨by omega, h⟩)

theorem top (X : Mid2 env rk rk' n b rhs br l r s t s') : s'.top = s.top := X.last.top.trans X.rel.top

/-- what the whole run keeps of a surviving node -/
theorem surv (X : Mid2 env rk rk' n b rhs br l r s t s') {m : Nat} (hlt : m < s.nodes.size)
    (hd : ¬ Dying s br.allNodesCreatedOnRhs m) :
    (s'.nodeD m).kind = (s.nodeD m).kind ∧ (s'.nodeD m).valid = (s.nodeD m).valid ∧
      (s'.nodeD m).createdIn = (s.nodeD m).createdIn ∧ (s'.nodeD m).cutoff = (s.nodeD m).cutoff := by
  have k := X.rel.nk m hlt hd
  have sh := X.step.shapes m
  exact ⟨sh.kind.trans k.kind, sh.valid.trans k.valid, sh.createdIn.trans k.createdIn, sh.cutoff.trans k.cutoff⟩

/-- what the whole run keeps of EVERY old node, dying or not -/
theorem oldS (X : Mid2 env rk rk' n b rhs br l r s t s') {m : Nat} (hlt : m < s.nodes.size) :
    (s'.nodeD m).kind = (s.nodeD m).kind ∧ (s'.nodeD m).createdIn = (s.nodeD m).createdIn ∧
      (s'.nodeD m).cutoff = (s.nodeD m).cutoff := by
  have sh := X.step.shapes m
  by_cases hd : Dying s br.allNodesCreatedOnRhs m
  · obtain ⟨-, d2, d3, d4, -⟩ := X.rel.dead m hd
    exact ⟨sh.kind.trans d2, sh.createdIn.trans d3, sh.cutoff.trans d4⟩
  · obtain ⟨k1, -, k3, k4⟩ := X.surv hlt hd
    exact ⟨k1, k3, k4⟩

/-- a dying node is invalid in the final state -/
theorem deadS (X : Mid2 env rk rk' n b rhs br l r s t s') {m : Nat} (hd : Dying s br.allNodesCreatedOnRhs m) :
    (s'.nodeD m).valid = false := by
  rw [(X.step.shapes m).valid]; exact (X.rel.dead m hd).1

/-- the extended rank orders named top-level nodes against old change detectors as the old rank does -/
theorem rk_named (X : Mid2 env rk rk' n b rhs br l r s t s') (A : F2Inv env rk s) {lc : Nat}
    (hlc : lc < s.nodes.size) (r0 : Nat) (h : rk r0 < rk lc) (hn : ∃ k : Nat, s.top[k]? = some r0) :
    rk' r0 < rk' lc := by
  obtain ⟨k, hk⟩ := hn
  exact (X.ext r0 lc (A.topOK k r0 hk).1 hlc).2 h

end Mid2

/-- **the run of a change detector in F2 keeps `F2Inv`** (under the extended rank) -/
theorem f2Inv_of_mid {env : Env} {rk rk' : Nat → Nat} {n b rhs : Nat} {br : BindRec} {l : List Nat}
    {r : Option Nat} {s t s' : State}
    (A : F2Inv env rk s) (hk : (s.nodeD n).kind = .bindLhsChange b) (X : Mid2 env rk rk' n b rhs br l r s t s') :
    F2Inv env rk' s' where
  frag := KeyEq2.frag2 X.keyEq X.ginv.frag X.step.pc (X.last.scope.trans X.ginv.frag.scope)
  nodup c := by rw [(X.step.shapes c).parents]; exact X.ginv.nodup c
  ahh := by
    refine ⟨by rw [X.last.ahh]; exact X.ahh.length, ?_, fun m => (X.last.marks m).trans (X.ahh.marks m)⟩
    intro i hi
    have hi' : i < t.ahh.queues.size := by rw [← X.last.ahh]; exact hi
    have := X.ahh.buckets i hi'
    simp only [X.last.ahh]; exact this
  pinv := X.last.pinv.trans X.pinv
  noForce m := by rw [(X.step.shapes m).forceNecessary]; exact X.noForce m
  noHandlers m := by rw [X.num]; exact X.noHandlers m
  inv m hv := by
    rw [(X.step.shapes m).valid] at hv
    obtain ⟨h1, h2, -, h4, -⟩ := X.ginv.inv m hv
    refine ⟨by rw [(X.step.shapes m).parents]; exact h1, by rw [(X.step.shapes m).observers]; exact h2, ?_⟩
    cases hq : (s'.nodeD m).inRch with
    | false => rfl
    | true =>
      exfalso
      rcases X.step.newIn m hq with h | ⟨-, h⟩
      · rw [h4] at h; cases h
      · have e := X.par_n A hk h
        rw [e] at hv
        have hvm := X.validMain
        rw [hv] at hvm; cases hvm
  scopeObs m b' h := by
    rw [(X.step.shapes m).createdIn] at h
    rw [(X.step.shapes m).observers]; exact X.ginv.scopeObs m b' h
  lcObs m b' h := by
    rw [(X.step.shapes m).kind] at h
    rw [(X.step.shapes m).observers]; exact X.ginv.lcObs m b' h
  lcCut m b' h := by
    rw [(X.step.shapes m).kind] at h
    rw [(X.step.shapes m).cutoff]
    exact X.rel.lcCut m b' h
  topOK k r0 h := by
    rw [X.top] at h
    obtain ⟨h1, h2, h3⟩ := A.topOK k r0 h
    obtain ⟨k1, k3, -⟩ := X.oldS h1
    refine ⟨?_, by rw [k3]; exact h2, fun b'' => by rw [k1]; exact h3 b''⟩
    rw [X.step.size]; have := X.rel.grow; omega
  closures b' br' h := by
    rcases X.bind_back h with ⟨e, e2⟩ | ⟨-, br0, h0, hc⟩ | ⟨hge, ht⟩
    · obtain ⟨f, hf⟩ := A.closures b br X.pre.hb
      rw [e2]
      exact ⟨f, BodyOK2.mono X.top (X.rk_named A (A.frag.lc_lt X.pre.hb)) f _ hf⟩
    · obtain ⟨f, hf⟩ := A.closures b' br0 h0
      have hf' := BodyOK2.mono X.top (X.rk_named A (A.frag.lc_lt h0)) f _ hf
      rcases hc with ⟨-, e2⟩ | ⟨-, e2⟩
      · rw [e2]; exact ⟨f, hf'⟩
      · rw [e2]; exact ⟨f, hf'⟩
    · obtain ⟨-, -, -, ⟨f, hf⟩, -⟩ := X.rel.bindsNew b' br' hge ht
      exact ⟨f, BodyOK2.mono X.last.top (fun r h _ => h) f _ hf⟩
  lhsOK b' br' h hv b'' := by
    -- an old live record: the lhs is a child of the change detector, hence an old node
    have old : ∀ (b0 : Nat) (br0 : BindRec), s.binds[b0]? = some br0 → (s'.nodeD br0.lhsChange).valid = true →
        (s'.nodeD br0.lhs).kind ≠ .bindLhsChange b'' := by
      intro b0 br0 h0 hv0
      have hlc := A.frag.lc_lt h0
      have hd : ¬ Dying s br.allNodesCreatedOnRhs br0.lhsChange := fun hd => by
        rw [X.deadS hd] at hv0; cases hv0
      have hvs : (s.nodeD br0.lhsChange).valid = true := by
        rw [← (X.surv hlc hd).2.1]; exact hv0
      have hlt : br0.lhs < s.nodes.size :=
        (A.frag.node _ hlc).kidsIn br0.lhs (by rw [lc_children_all A.frag h0 hvs]; exact List.mem_cons_self ..)
      rw [(X.oldS hlt).1]
      exact A.lhsOK b0 br0 h0 hvs b''
    rcases X.bind_back h with ⟨e, e2⟩ | ⟨-, br0, h0, hc⟩ | ⟨hge, ht⟩
    · rw [e2] at hv ⊢
      exact old b br X.pre.hb hv
    · rcases hc with ⟨-, e2⟩ | ⟨-, e2⟩
      · rw [e2] at hv ⊢
        exact old b' br0 h0 hv
      · rw [e2] at hv ⊢
        exact old b' br0 h0 hv
    · obtain ⟨-, -, -, -, h5⟩ := X.rel.bindsNew b' br' hge ht
      rw [(X.step.shapes _).kind]
      exact h5 b''
  rhsNone b' br' h hr := by
    rcases X.bind_back h with ⟨e, e2⟩ | ⟨-, br0, h0, hc⟩ | ⟨hge, ht⟩
    · rw [e2] at hr; cases hr
    · rcases hc with ⟨-, e2⟩ | ⟨-, e2⟩
      · rw [e2]
      · rw [e2] at hr ⊢
        exact A.rhsNone b' br0 h0 hr
    · exact (X.rel.bindsNew b' br' hge ht).2.1
  deadNone b' br' h hv := by
    rcases X.bind_back h with ⟨e, e2⟩ | ⟨-, br0, h0, hc⟩ | ⟨hge, ht⟩
    · exfalso
      rw [e2] at hv
      have : (s'.nodeD br.main).valid = false := hv
      rw [(X.step.shapes _).valid, X.validMain] at this
      cases this
    · rcases hc with ⟨-, e2⟩ | ⟨hd, e2⟩
      · rw [e2]
      · rw [e2] at hv ⊢
        obtain ⟨-, r2, -⟩ := A.frag.recs b' br0 h0
        rw [(X.surv r2 hd).2.1] at hv
        exact A.deadNone b' br0 h0 hv
    · exact (X.rel.bindsNew b' br' hge ht).2.1
  rhsOK b' br' o h ho hv := by
    rcases X.bind_back h with ⟨e, e2⟩ | ⟨e, br0, h0, hc⟩ | ⟨hge, ht⟩
    · rw [e2] at ho
      have eo : rhs = o := Option.some.inj ho
      rw [← eo, e, e2]
      refine ⟨fun b'' => by rw [(X.step.shapes rhs).kind]; exact X.rhsK b'', ?_⟩
      rcases X.rhsOK with ⟨c1, c2, -⟩ | ⟨c1, c2⟩
      · left
        refine ⟨(X.step.shapes rhs).createdIn.trans c1, ?_⟩
        show rk' rhs < rk' br.lhsChange
        rw [X.pre.hlc]; exact c2
      · right
        obtain ⟨d1, d2, -⟩ := X.rel.new rhs c1 c2
        exact ⟨(X.step.shapes rhs).createdIn.trans d1, (X.step.shapes rhs).valid.trans d2⟩
    · have hd : ¬ Dying s br.allNodesCreatedOnRhs br0.main := by
        rcases hc with ⟨hd, e2⟩ | ⟨hd, -⟩
        · exfalso
          rw [e2] at hv
          have : (s'.nodeD br0.main).valid = true := hv
          rw [X.deadS hd] at this; cases this
        · exact hd
      have e2 : br' = br0 := by
        rcases hc with ⟨hd', -⟩ | ⟨-, e2⟩
        · exact absurd hd' hd
        · exact e2
      rw [e2] at ho hv ⊢
      obtain ⟨-, r2, -⟩ := A.frag.recs b' br0 h0
      have hvs : (s.nodeD br0.main).valid = true := by rw [← (X.surv r2 hd).2.1]; exact hv
      obtain ⟨k0, hk'⟩ := A.rhsOK b' br0 o h0 ho hvs
      have hoc : o ∈ s.children br0.main := by
        rw [main_children_all A.frag h0 hvs, ho]
        exact List.mem_cons_of_mem _ (List.mem_cons_self ..)
      have hlt : o < s.nodes.size := (A.frag.node br0.main r2).kidsIn o hoc
      obtain ⟨o1, o2, -⟩ := X.oldS hlt
      refine ⟨fun b'' => by rw [o1]; exact k0 b'', ?_⟩
      rcases hk' with ⟨c1, c2⟩ | ⟨c1, c2⟩
      · left
        exact ⟨by rw [o2]; exact c1, (X.ext o br0.lhsChange hlt (A.frag.lc_lt h0)).2 c2⟩
      · right
        have hdo := X.pre.notDying_of_main A c1 h0 e hd
        exact ⟨by rw [o2]; exact c1, by rw [(X.surv hlt hdo).2.1]; exact c2⟩
    · rw [(X.rel.bindsNew b' br' hge ht).1] at ho; cases ho

end NC

/-- **A run of a change detector (`recomputeOne` on a `bindLhsChange` node) in fragment F2** (closures create nodes and inner binds; the change detector
may itself be a node of an outer scope) is described by `StepL2` and keeps `F2Inv` under an extended rank; the three hypotheses are the contracts of the
closure run, of `lhsRelink` and of `lhsInvalidateOld`. -/
theorem recomputeOne_lcF2 {env : Env} (CS : ClosureSpec2 env) (RS : RelinkSpec2 env) (IS : InvalSpec2 env)
    {fuel n b : Nat} {rk : Nat → Nat} {s s' : State} {r : Option Nat}
    (I : DInv env s (some n)) (A : F2Inv env rk s) (hk : (s.nodeD n).kind = .bindLhsChange b)
    (h : (recomputeOne env fuel n).run.run s = (.ok r, s')) :
    ∃ br br' rk', StepL2 env n b br br' r s s' ∧ F2Inv env rk' s' ∧ RkExt rk rk' s.nodes.size := by
  obtain ⟨rk', br, rhs, l, t, X⟩ := NC.lc_mid2 CS RS IS I A hk h
  exact ⟨br, _, rk', NC.stepL2_of_mid I A hk X, NC.f2Inv_of_mid A hk X, X.ext⟩

end IncrVerif.Proofs.NestH
