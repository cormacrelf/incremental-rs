import IncrVerif.Proofs.FullT1
/-!
# C04 combined fragment, part 2: bisimulation ladder — heap, height, necessity primitives (conversion of FullH6), the carried invariant `PInv`,
`markMapRefUnknown` returns
-/
namespace IncrVerif.Proofs.FullT
set_option linter.unusedSectionVars false
open IncrVerif.Engine IncrVerif.Proofs IncrVerif.Proofs.Step IncrVerif.Proofs.Sched IncrVerif.Proofs.Quiet IncrVerif.Proofs.FullH

/-- registered `BSim` lemmas -/
syntax "bsim_leaf" : tactic
macro_rules | `(tactic| bsim_leaf) => `(tactic| fail "no leaf")

set_option hygiene false in
macro "bsim_step" : tactic => `(tactic| first
  | with_reducible exact BSimAt.ret _
  | with_reducible exact BSimAt.thr _ _
  | with_reducible exact BSimAt.pan _ _
  | ((with_reducible refine BSimAt.get_seq ?_); try fnorm)
  | ((with_reducible refine BSimAt.getNode_seq fun nd hnd hne => ?_); try fnorm)
  | ((with_reducible refine BSimAt.mod_seq ?_ ?_ (by rfl) ?_) <;> (first | exact rfl | skip))
  | ((with_reducible refine BSimAt.mod ?_ ?_ ?_) <;> rfl)
  | ((with_reducible refine BSimAt.modG_seq ?_ ?_ ?_) <;> (first | exact rfl | skip))
  | ((with_reducible refine BSimAt.modG ?_ ?_) <;> rfl)
  | (with_reducible refine BSimAt.seq ?_ fun _ _ _ => ?_)
  | ((with_reducible refine BSim.at ?_ _); bsim_leaf)
  | ((with_reducible refine BSim.at (BSim.forIn _ (fun _ _ _ => ?_) _) _); intro _)
  | (refine BSimAt.cond Iff.rfl (fun _ => ?_) (fun _ => ?_)))

macro "bsim" : tactic => `(tactic| repeat' bsim_step)

set_option hygiene false in
/-- a `match` on the kind of the node last read by `getNode` -/
macro "bsim_kind" : tactic => `(tactic| (
  simp only [virtNode_kind?]
  rcases hk : nd.kind? with _ | k
  all_goals try cases k
  all_goals simp only [Option.map_none, Option.map_some, virtKind]
  all_goals try exact absurd (kind_of_kind? hk) (hne _)
  bsim))

/-- closes `∀ nd, NKeep nd (f nd)` -/
macro "fpar" : tactic => `(tactic| (intro nd; exact ⟨rfl, rfl, rfl, rfl, rfl, rfl⟩))

section
variable {K : Kind → Prop} {P : State → Prop} [Keeps P] {g : Nat → Option Val}

macro_rules | `(tactic| bsim_leaf) => `(tactic| with_reducible exact BSim.dassert _ _)
macro_rules | `(tactic| bsim_leaf) => `(tactic| with_reducible exact BSim.assertM _ _)
macro_rules | `(tactic| bsim_leaf) => `(tactic| ((with_reducible refine BSim.modNode _ ?_ ?_ ?_) <;> first | fcomm | fkind | fpar))

theorem BSim.setHeight (n : Nat) (h : Int) : BSim K P g (Engine.setHeight n h) (Engine.setHeight n h) :=
  .of_comm (Sim.setHeight n h) fun s0 => NodeSim.Comm.setHeight (blindT s0) n h
macro_rules | `(tactic| bsim_leaf) => `(tactic| with_reducible exact BSim.setHeight _ _)

theorem BSim.rchInsert (n : Nat) : BSim K P g (Engine.rchInsert n) (Engine.rchInsert n) :=
  .of_comm (Sim.rchInsert n) fun s0 => NodeSim.Comm.rchInsert (blindT s0) n
macro_rules | `(tactic| bsim_leaf) => `(tactic| with_reducible exact BSim.rchInsert _)

theorem BSim.getBind (b : Nat) : BSim K P g (Engine.getBind b) (Engine.getBind b) :=
  .of_comm (Sim.getBind b) fun s0 => NodeSim.Comm.getBind (blindT s0) b
macro_rules | `(tactic| bsim_leaf) => `(tactic| with_reducible exact BSim.getBind _)

theorem BSim.logEv (e : Event) : BSim K P g (Engine.logEv e) (Engine.logEv e) :=
  .of_comm (Sim.logEv e) fun s0 => NodeSim.Comm.logEv (blindT s0) (plain g) e
macro_rules | `(tactic| bsim_leaf) => `(tactic| with_reducible exact BSim.logEv _)

theorem BSim.observabilityChange (e : Nat) (b : Bool) :
    BSim K P g (Engine.observabilityChange e b) (Engine.observabilityChange e b) :=
  .of_comm (Sim.observabilityChange e b) fun s0 => NodeSim.Comm.observabilityChange (blindT s0) (plain g) (writesExpertsT s0) e b
macro_rules | `(tactic| bsim_leaf) => `(tactic| with_reducible exact BSim.observabilityChange _ _)

theorem BSim.scopeHeight (sc : Scope) : BSim K P g (Engine.scopeHeight sc) (Engine.scopeHeight sc) :=
  .of_comm (Sim.scopeHeight sc) fun s0 => NodeSim.Comm.scopeHeight (blindT s0) sc
macro_rules | `(tactic| bsim_leaf) => `(tactic| with_reducible exact BSim.scopeHeight _)

theorem BSim.scopeIsNecessary (sc : Scope) : BSim K P g (Engine.scopeIsNecessary sc) (Engine.scopeIsNecessary sc) :=
  .of_comm (Sim.scopeIsNecessary sc) fun s0 => NodeSim.Comm.scopeIsNecessary (blindT s0) sc
macro_rules | `(tactic| bsim_leaf) => `(tactic| with_reducible exact BSim.scopeIsNecessary _)

theorem BSim.scopeIsValid (sc : Scope) : BSim K P g (Engine.scopeIsValid sc) (Engine.scopeIsValid sc) :=
  .of_comm (Sim.scopeIsValid sc) fun s0 => NodeSim.Comm.scopeIsValid (blindT s0) sc
macro_rules | `(tactic| bsim_leaf) => `(tactic| with_reducible exact BSim.scopeIsValid _)

theorem BSim.handleAfterStabilisation (n : Nat) :
    BSim K P g (Engine.handleAfterStabilisation n) (Engine.handleAfterStabilisation n) :=
  .of_comm (Sim.handleAfterStabilisation n) fun s0 => NodeSim.Comm.handleAfterStabilisation (blindT s0) n
macro_rules | `(tactic| bsim_leaf) => `(tactic| with_reducible exact BSim.handleAfterStabilisation _)

theorem BSim.maybeHandleAfterStabilisation (n : Nat) :
    BSim K P g (Engine.maybeHandleAfterStabilisation n) (Engine.maybeHandleAfterStabilisation n) :=
  .of_comm (Sim.maybeHandleAfterStabilisation n) fun s0 => NodeSim.Comm.maybeHandleAfterStabilisation (blindT s0) n
macro_rules | `(tactic| bsim_leaf) => `(tactic| with_reducible exact BSim.maybeHandleAfterStabilisation _)


/-- the bind table changes: `KeepsG` -/
theorem BSim.modBind [KeepsG P] (b : Nat) (f : BindRec → BindRec) : BSim K P g (Engine.modBind b f) (Engine.modBind b f) :=
  .of_comm (Sim.modBind b f) fun s0 => NodeSim.Comm.modBind (blindT s0) (writesBindsT s0) b f
macro_rules | `(tactic| bsim_leaf) => `(tactic| with_reducible exact BSim.modBind _ _)


end
end IncrVerif.Proofs.FullT
