import IncrVerif.Proofs.Quiet11
import IncrVerif.Proofs.CutH18
import IncrVerif.Engine.Run
import IncrVerif.Proofs.SchedW
/-!
# Part 11: variable writes outside `stabilise` (and the read-only actions) keep `QInv`
-/
namespace IncrVerif.Proofs.Quiet
open IncrVerif.Engine IncrVerif.Driver IncrVerif.Proofs IncrVerif.Proofs.Step IncrVerif.Proofs.Sched

/-! ## the abstract description of an immediate write -/

/-- `s'` is `s` after cell `v` (old contents `vc`) received value `x` and the stamp of the current round;
nodes change at most in their heap marker; everything else the invariant reads (except the heap) is kept -/
structure WRel (v : Nat) (vc : VarCell) (x : Val) (s s' : State) : Prop where
  size : s'.nodes.size = s.nodes.size
  node : ∀ m, ∃ h, s'.nodeD m = { s.nodeD m with heightInRch := h }
  var : s'.vars[v]? = some { vc with value := x, setAt := s.stabNum }
  other : ∀ w, w ≠ v → s'.vars[w]? = s.vars[w]?
  stabNum : s'.stabNum = s.stabNum
  status : s'.status = s.status
  pc : s'.panicCountdown = s.panicCountdown
  scope : s'.currentScope = s.currentScope
  observers : s'.observers = s.observers
  newObservers : s'.newObservers = s.newObservers
  disallowedObservers : s'.disallowedObservers = s.disallowedObservers
  alive : s'.alive = s.alive
  setDuringStab : s'.setDuringStab = s.setDuringStab
  deadVars : s'.deadVars = s.deadVars
  handleAfterStab : s'.handleAfterStab = s.handleAfterStab
  pinv : s'.propagateInvalidity = s.propagateInvalidity
  top : s'.top = s.top

theorem WRel.toC {v : Nat} {vc : VarCell} {x : Val} {s s' : State} (R : WRel v vc x s s') : CutH.WRel v vc x s s' :=
  ⟨R.size, R.node, R.var, R.other, R.stabNum, R.status, R.pc, R.scope, R.observers, R.newObservers, R.disallowedObservers, R.alive,
    R.setDuringStab, R.deadVars, R.handleAfterStab, R.pinv, R.top⟩
theorem WRel.ofC {v : Nat} {vc : VarCell} {x : Val} {s s' : State} (R : CutH.WRel v vc x s s') : WRel v vc x s s' :=
  ⟨R.size, R.node, R.var, R.other, R.stabNum, R.status, R.pc, R.scope, R.observers, R.newObservers, R.disallowedObservers, R.alive,
    R.setDuringStab, R.deadVars, R.handleAfterStab, R.pinv, R.top⟩

theorem EqCut.wrel {v : Nat} {vc : VarCell} {x : Val} {s s' : State} (E : EqCut s) (R : WRel v vc x s s') : EqCut s' :=
  E.of_eq R.size fun m => by obtain ⟨h, e⟩ := R.node m; rw [e]


section rel
variable {env : Env} {s s' : State} {v : Nat} {vc : VarCell} {x : Val}

theorem WRel.kind (R : WRel v vc x s s') (m : Nat) : (s'.nodeD m).kind = (s.nodeD m).kind := by
  obtain ⟨h, e⟩ := R.node m; rw [e]
theorem WRel.parents (R : WRel v vc x s s') (m : Nat) : (s'.nodeD m).parents = (s.nodeD m).parents := by
  obtain ⟨h, e⟩ := R.node m; rw [e]
theorem WRel.nodeObs (R : WRel v vc x s s') (m : Nat) : (s'.nodeD m).observers = (s.nodeD m).observers := by
  obtain ⟨h, e⟩ := R.node m; rw [e]
theorem WRel.height (R : WRel v vc x s s') (m : Nat) : (s'.nodeD m).height = (s.nodeD m).height := by
  obtain ⟨h, e⟩ := R.node m; rw [e]
theorem WRel.recomputedAt (R : WRel v vc x s s') (m : Nat) :
    (s'.nodeD m).recomputedAt = (s.nodeD m).recomputedAt := by
  obtain ⟨h, e⟩ := R.node m; rw [e]
theorem WRel.changedAt (R : WRel v vc x s s') (m : Nat) :
    (s'.nodeD m).changedAt = (s.nodeD m).changedAt := by
  obtain ⟨h, e⟩ := R.node m; rw [e]
theorem WRel.value (R : WRel v vc x s s') (m : Nat) : (s'.nodeD m).value = (s.nodeD m).value := by
  obtain ⟨h, e⟩ := R.node m; rw [e]
theorem WRel.handlers (R : WRel v vc x s s') (m : Nat) :
    (s'.nodeD m).numOnUpdateHandlers = (s.nodeD m).numOnUpdateHandlers := by
  obtain ⟨h, e⟩ := R.node m; rw [e]
theorem WRel.nec (R : WRel v vc x s s') (m : Nat) : s'.isNecessary m = s.isNecessary m :=
  R.toC.nec m

/-- staleness of a node that is not a `var v` node does not change -/
theorem WRel.staleOf_eq (R : WRel v vc x s s') {m : Nat} (hm : (s.nodeD m).kind ≠ .var v) :
    staleOf s' m = staleOf s m :=
  R.toC.staleOf_eq hm

/-- the target of a node that is not a `var v` node does not change -/
theorem WRel.target (R : WRel v vc x s s') {m : Nat} {w : Val}
    (hm : (s.nodeD m).kind ≠ .var v) (h : Target env s m w) : Target env s' m w :=
  R.toC.target hm h

/-- a `var v` node stamped in an earlier round is stale afterwards -/
theorem WRel.staleOf_watch (R : WRel v vc x s s') {m : Nat} (hk : (s.nodeD m).kind = .var v)
    (hr : (s.nodeD m).recomputedAt < s.stabNum) : staleOf s' m = true :=
  R.toC.staleOf_watch hk hr

end rel

/-! ## the concrete write -/

/-- the final state of a successful write outside `stabilise`: it is described by `WRel` and keeps the structural invariant -/
theorem wroteOutside_rel {env : Env} {s : State} {v : Nat} {vc : VarCell} (x : Val)
    (I : Struct env s) (V : VarsOK s) (hst : ∀ m, (s.nodeD m).recomputedAt < s.stabNum) (hle : vc.setAt ≤ s.stabNum)
    (hv : s.vars[v]? = some vc)
    (hh : vc.setAt < s.stabNum →
      ((s.nodeD vc.node).valid && s.isNecessary vc.node && !(s.nodeD vc.node).inRch) = true →
      0 ≤ (s.nodeD vc.node).height ∧ (s.nodeD vc.node).height ≤ s.rch.maxAllowed) :
    WRel v vc x s (wroteOutside v vc x s) ∧ Struct env (wroteOutside v vc x s) :=
  have ⟨R, S⟩ := CutH.wroteOutside_rel x I.toC V.toC hst hle hv hh
  have R : WRel v vc x s (wroteOutside v vc x s) := .ofC R
  ⟨R, GInv.ofC S (I.eqCut.wrel R)⟩

/-- the final state of a successful write outside `stabilise` keeps the invariant -/
theorem wroteOutside_q {env : Env} {s : State} {v : Nat} {vc : VarCell} (x : Val)
    (Q : QInv env s) (hv : s.vars[v]? = some vc)
    (hh : vc.setAt < s.stabNum →
      ((s.nodeD vc.node).valid && s.isNecessary vc.node && !(s.nodeD vc.node).inRch) = true →
      0 ≤ (s.nodeD vc.node).height ∧ (s.nodeD vc.node).height ≤ s.rch.maxAllowed) :
    WRel v vc x s (wroteOutside v vc x s) ∧ QInv env (wroteOutside v vc x s) :=
  have ⟨R, J⟩ := CutH.wroteOutside_q x Q.toC hv hh
  have R : WRel v vc x s (wroteOutside v vc x s) := .ofC R
  ⟨R, .ofC J (Q.eqCut.wrel R)⟩

/-- **write.** A successful write outside `stabilise` keeps the invariant; the cell gets the new value. -/
theorem writeVar_q {env : Env} {s s' : State} {v : Nat} {f : Val → Val} {isSet : Bool} {r : Val}
    (Q : QInv env s) (h : (writeVar v f isSet).run.run s = (.ok r, s')) :
    QInv env s' ∧ ∃ vc, s.vars[v]? = some vc ∧ r = vc.value ∧
      s'.vars[v]? = some { vc with value := f vc.value, setAt := s.stabNum } ∧
      (∀ w, w ≠ v → s'.vars[w]? = s.vars[w]?) :=
  have ⟨J, e⟩ := CutH.writeVar_q Q.toC h
  ⟨.ofC J (Q.eqCut.foot (Footprint.Foot.writeVar (w := fun _ => True) v f isSet) h), e⟩

/-- the write actions and the read-only actions of the API -/
def WriteOrRead : Action → Prop
  | .set _ _ | .modify _ _ | .update _ _ | .replace _ _ | .replaceWith _ _ => True
  | .get _ | .isStable | .stats => True
  | _ => False

theorem step_write {env : Env} {s s' : State} {a : Action} {tokens : Array Nat} {r : String × Array Nat}
    (Q : QInv env s) (ha : WriteOrRead a) (h : (stepAction env a tokens).run.run s = (.ok r, s')) :
    QInv env s' :=
  .ofC (CutH.step_write Q.toC ha h) (Q.eqCut.act h
    (by cases a <;> first | exact ha.elim | (dsimp only [Footprint.W.stepAction]; decide))
    (by cases a <;> first | exact ha.elim | (dsimp only [Footprint.W.stepAction]; decide)))

end IncrVerif.Proofs.Quiet
