import IncrVerif.Proofs.Sched7
import IncrVerif.Proofs.Footprint
/-!
# L4: `stabilise` on an idle quiescent state

* `Calm s s'`: the bookkeeping that `stabiliseEnd` looks at (status, deferred writes, dead vars, new and
  disallowed observers, update-handler counts and — when no node has update handlers — the
  `handleAfterStab` list) is untouched.  `maybeChangeValue` is `Calm` in every state; so is a
  `recomputeOne` of the static fragment, `recompute`, and `drainHeap`.
* `stabilise_quiet` (`Sched9`): from `QuietInv` and `Idle`, a successful `stabilise` is: set the status, run
  `drainHeap` from a state satisfying `DrainInv`, bump the round number.  Afterwards `QuietInv` and `Idle`
  hold again, no necessary node is stale, and every necessary node carries its from-scratch value.
-/
namespace IncrVerif.Proofs.Sched
open IncrVerif.Engine IncrVerif.Proofs IncrVerif.Proofs.Step

/-! ## `Calm` -/

structure Calm (s s' : State) : Prop where
  status : s'.status = s.status
  setDuringStab : s'.setDuringStab = s.setDuringStab
  deadVars : s'.deadVars = s.deadVars
  newObservers : s'.newObservers = s.newObservers
  disallowedObservers : s'.disallowedObservers = s.disallowedObservers
  num : ∀ m, (s'.nodeD m).numOnUpdateHandlers = (s.nodeD m).numOnUpdateHandlers
  has : (∀ m, (s.nodeD m).numOnUpdateHandlers ≤ 0) → s'.handleAfterStab = s.handleAfterStab

theorem Calm.refl (s : State) : Calm s s := ⟨rfl, rfl, rfl, rfl, rfl, fun _ => rfl, fun _ => rfl⟩

theorem Calm.trans {a b c : State} (h1 : Calm a b) (h2 : Calm b c) : Calm a c where
  status := h2.status.trans h1.status
  setDuringStab := h2.setDuringStab.trans h1.setDuringStab
  deadVars := h2.deadVars.trans h1.deadVars
  newObservers := h2.newObservers.trans h1.newObservers
  disallowedObservers := h2.disallowedObservers.trans h1.disallowedObservers
  num m := (h2.num m).trans (h1.num m)
  has h := (h2.has (fun m => by rw [h1.num]; exact h m)).trans (h1.has h)

instance : PreOrd Calm := ⟨Calm.refl, Calm.trans⟩

theorem Calm.of_eq {s s' : State} (h1 : s'.nodes = s.nodes) (h2 : s'.status = s.status)
    (h3 : s'.setDuringStab = s.setDuringStab) (h4 : s'.deadVars = s.deadVars)
    (h5 : s'.newObservers = s.newObservers) (h6 : s'.disallowedObservers = s.disallowedObservers)
    (h7 : s'.handleAfterStab = s.handleAfterStab) : Calm s s' := by
  refine ⟨h2, h3, h4, h5, h6, fun m => ?_, fun _ => h7⟩
  have : s'.nodeD m = s.nodeD m := by simp [State.nodeD, h1]
  rw [this]

theorem Calm.modNode (s : State) (n : Nat) (f : Node → Node)
    (hf : ∀ x, (f x).numOnUpdateHandlers = x.numOnUpdateHandlers) :
    Calm s { s with nodes := s.nodes.modify n f } := by
  refine ⟨rfl, rfl, rfl, rfl, rfl, fun m => ?_, fun _ => rfl⟩
  rw [nodeD_modify]
  split
  · exact hf _
  · rfl

/-- every write keeps `Calm` but those of the five bookkeeping fields, of the handler counts and the unconditional ones of the handler queue: a
node that `maybe_handle_after_stabilisation` queues has update handlers -/
theorem Calm.of_edit {L w}
    (hL : ∀ t ∈ L, t ∉ [Footprint.Tag.status, .setDuringStab, .deadVars, .newObservers, .disallowedObservers, .nHandlers, .nObservers,
      .handleAfterStab])
    {s s' : State} (e : Footprint.Edit L w s s') : Calm s s' := by
  have h6 := e.numOnUpdateHandlers (fun ht => hL _ ht (by decide)) (fun ht => hL _ ht (by decide))
  have h7 := e.idleQueue (fun ht => hL _ ht (by decide))
  cases e <;> first
    | exact ⟨rfl, rfl, rfl, rfl, rfl, h6, h7⟩
    | exact absurd (hL _ ‹_›) (by decide)

theorem PresC.shouldCutoff (env n o v) : Step.Pres Calm (shouldCutoff env n o v) :=
  (Footprint.Foot.shouldCutoff env n o v).frame (Calm.of_edit (by decide))
theorem PresC.parentIterCanRecomputeNow (p c : Nat) :
    Step.Pres Calm (parentIterCanRecomputeNow p c) :=
  (Footprint.Foot.parentIterCanRecomputeNow p c).frame (Calm.of_edit (by decide))
theorem PresC.maybeChangeValueManual (env fuel n o d b) :
    Step.Pres Calm (maybeChangeValueManual env fuel n o d b) :=
  (Footprint.Foot.maybeChangeValueManual env fuel n o d b).frame (Calm.of_edit (by decide))
theorem PresC.maybeChangeValue (env fuel n v) : Step.Pres Calm (maybeChangeValue env fuel n v) :=
  (Footprint.Foot.maybeChangeValue env fuel n v).lift (Calm.of_edit (by decide))

end IncrVerif.Proofs.Sched
