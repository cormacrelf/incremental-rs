import IncrVerif.Proofs.MemoH2
/-!
# C20 over whole histories, part 3: the table invariant (K1)

* association-list lemmas for the memo tables (`lookup`, `filter`, distinct keys);
* `Fut s s'` (`s'` is a future of `s`: nodes appended, `kind`/`createdIn` immutable, `top` extended);
* `Produced env s m key n`: node `n` was returned by an elaboration of `env.memo m` on `key` in scope `.top`
  in a past state; `TInv env s`: the table invariant;
* `MS env`: the step relation "future ∧ `TInv` kept ∧ `RegScoped` kept"; every API action is an `MS` step.
-/
namespace IncrVerif.Proofs.MemoH
open IncrVerif.Engine IncrVerif.Proofs.Obs IncrVerif.Proofs.Memo
open IncrVerif.Proofs.Step (bind_ok_inv)

/-! ## association lists -/

/-- pairwise distinct keys -/
def KeysNodup {α β} (l : List (α × β)) : Prop := (l.map (·.1)).Nodup

section
variable {α β : Type} [BEq α] [LawfulBEq α]

theorem lookup_mem {l : List (α × β)} {k : α} {v : β} (h : l.lookup k = some v) : (k, v) ∈ l := by
  induction l with
  | nil => cases h
  | cons e l ih =>
    obtain ⟨k', v'⟩ := e
    rw [List.lookup_cons] at h
    by_cases hk : k == k'
    · rw [hk] at h; cases h
      have : k = k' := eq_of_beq hk
      subst this; exact List.mem_cons_self
    · simp only [hk] at h
      exact List.mem_cons_of_mem _ (ih h)

theorem lookup_of_mem {l : List (α × β)} (hn : KeysNodup l) {k : α} {v : β} (h : (k, v) ∈ l) :
    l.lookup k = some v := by
  induction l with
  | nil => cases h
  | cons e l ih =>
    obtain ⟨k', v'⟩ := e
    rw [List.lookup_cons]
    have hn' : k' ∉ l.map (·.1) ∧ KeysNodup l := by
      simpa [KeysNodup, List.nodup_cons] using hn
    rcases List.mem_cons.1 h with h1 | h1
    · cases h1; simp
    · have : k ≠ k' := by
        intro hkk
        exact hn'.1 (List.mem_map.2 ⟨(k, v), h1, hkk⟩)
      have hb : (k == k') = false := by simpa using this
      simp only [hb]
      exact ih hn'.2 h1

theorem lookup_filter_key_self (l : List (α × β)) (k : α) :
    (l.filter (·.1 != k)).lookup k = none := by
  induction l with
  | nil => rfl
  | cons e l ih =>
    obtain ⟨k', v'⟩ := e
    rw [List.filter_cons]
    by_cases hk : k' = k
    · subst hk; simpa using ih
    · have h1 : (k' != k) = true := by simpa using hk
      simp only [h1, if_true, List.lookup_cons]
      have h2 : (k == k') = false := by simpa using fun h : k = k' => hk h.symm
      simp only [h2]; exact ih

theorem lookup_filter_key_ne (l : List (α × β)) {k k' : α} (h : k' ≠ k) :
    (l.filter (·.1 != k)).lookup k' = l.lookup k' := by
  induction l with
  | nil => rfl
  | cons e l ih =>
    obtain ⟨k0, v0⟩ := e
    rw [List.filter_cons]
    by_cases hk : k0 = k
    · subst hk
      have h2 : (k' == k0) = false := by simpa using h
      simp only [bne_self_eq_false, Bool.false_eq_true, if_false, List.lookup_cons, h2]
      exact ih
    · have h1 : (k0 != k) = true := by simpa using hk
      simp only [h1, if_true, List.lookup_cons]
      cases k' == k0
      · exact ih
      · rfl

theorem lookup_filter_val (l : List (α × β)) (hn : KeysNodup l) (p : β → Bool) (k : α) :
    (l.filter fun e => p e.2).lookup k = (l.lookup k).filter p := by
  induction l with
  | nil => rfl
  | cons e l ih =>
    obtain ⟨k0, v0⟩ := e
    have hn' : k0 ∉ l.map (·.1) ∧ KeysNodup l := by
      simpa [KeysNodup, List.nodup_cons] using hn
    rw [List.filter_cons, List.lookup_cons]
    by_cases hk : k == k0
    · have hkk : k = k0 := eq_of_beq hk
      subst hkk
      simp only [hk]
      cases hp : p v0
      · simp only [Bool.false_eq_true, if_false, Option.filter, hp]
        cases hl : List.lookup k (l.filter fun e => p e.2) with
        | none => rfl
        | some v =>
          have := lookup_mem hl
          have := (List.mem_filter.1 this).1
          exact absurd (List.mem_map.2 ⟨(k, v), this, rfl⟩) hn'.1
      · simp [Option.filter, hp]
    · simp only [hk]
      cases hp : p v0
      · simp only [Bool.false_eq_true, if_false]; exact ih hn'.2
      · simp only [if_true, List.lookup_cons, hk]; exact ih hn'.2

theorem KeysNodup.filter {l : List (α × β)} (hn : KeysNodup l) (p : α × β → Bool) :
    KeysNodup (l.filter p) :=
  List.Nodup.sublist (List.Sublist.map _ List.filter_sublist) hn

theorem KeysNodup.cons_filter {l : List (α × β)} (hn : KeysNodup l) (k : α) (v : β) :
    KeysNodup ((k, v) :: l.filter (·.1 != k)) := by
  have h1 := hn.filter (·.1 != k)
  simp only [KeysNodup, List.map_cons, List.nodup_cons]
  refine ⟨?_, h1⟩
  intro hm
  obtain ⟨e, he, hk⟩ := List.mem_map.1 hm
  have := (List.mem_filter.1 he).2
  simp [hk] at this
end

/-! ## futures -/

/-- `s'` is a future of `s`: nodes were appended, `kind`/`createdIn` are immutable, names in `top` are kept -/
structure Fut (s s' : State) : Prop where
  nodesLe : s.nodes.size ≤ s'.nodes.size
  core : ∀ i, i < s.nodes.size → nodeK (s'.nodeD i) = nodeK (s.nodeD i)
  top : ∀ (k n : Nat), s.top[k]? = some n → s'.top[k]? = some n

theorem Fut.refl (s : State) : Fut s s := ⟨Nat.le_refl _, fun _ _ => rfl, fun _ _ h => h⟩
theorem Fut.trans {a b c : State} (h1 : Fut a b) (h2 : Fut b c) : Fut a c :=
  ⟨Nat.le_trans h1.nodesLe h2.nodesLe,
   fun i hi => (h2.core i (Nat.lt_of_lt_of_le hi h1.nodesLe)).trans (h1.core i hi),
   fun k n h => h2.top k n (h1.top k n h)⟩
instance : PreOrd Fut := ⟨Fut.refl, Fut.trans⟩

theorem F0.fut {s s' : State} (h : F0 s s') : Fut s s' :=
  ⟨h.nodesLe, h.core, fun k n hk => by rw [h.top]; exact hk⟩

theorem Fut.of_eq {s s' : State} (h1 : s'.nodes = s.nodes) (h2 : s'.top = s.top) : Fut s s' :=
  ⟨by rw [h1]; exact Nat.le_refl _, fun i _ => by simp only [State.nodeD, h1], fun k n h => by rw [h2]; exact h⟩

/-! ## the table invariant -/

/-- the table of memo function `m` -/
def table (s : State) (m : Nat) : List (Int × Nat) := (s.memos.lookup m).getD []

theorem stored_eq (s : State) (m : Nat) (key : Int) : stored s m key = (table s m).lookup key := rfl

/-- node `n` was returned by an elaboration of the body of memo function `m` on `key`, run with current
scope `.top` in a state `s0` of which `s` is a future; `n` is one of the nodes that run created -/
def Produced (env : Env) (s : State) (m : Nat) (key : Int) (n : Nat) : Prop :=
  ∃ s0 s2 : State, s0.currentScope = .top ∧
    (elabTemplateBase (env.memo m) (.int key)).run.run s0 = (.ok n, s2) ∧
    s0.nodes.size ≤ n ∧ n < s2.nodes.size ∧ Fut s2 s

theorem Produced.mono {env : Env} {s s' : State} {m : Nat} {key : Int} {n : Nat}
    (h : Produced env s m key n) (hf : Fut s s') : Produced env s' m key n := by
  obtain ⟨s0, s2, h1, h2, h3, h4, h5⟩ := h
  exact ⟨s0, s2, h1, h2, h3, h4, h5.trans hf⟩

/-- a produced node exists and was created in the top-level scope -/
theorem Produced.facts {env : Env} {s : State} {m : Nat} {key : Int} {n : Nat}
    (h : Produced env s m key n) : n < s.nodes.size ∧ (s.nodeD n).createdIn = .top := by
  obtain ⟨s0, s2, h1, h2, h3, h4, h5⟩ := h
  refine ⟨Nat.lt_of_lt_of_le h4 h5.nodesLe, ?_⟩
  have hsc := elabTemplateBase_sc _ _ _ _ _ _ h2
  have := hsc.new n h3 h4
  rw [h1, or_self] at this
  have hc := h5.core n h4
  simp only [nodeK, Prod.mk.injEq] at hc
  rw [hc.2]; exact this

/-- THE TABLE INVARIANT: distinct memo functions, distinct keys per table, every entry produced by the
memoised function's body on its key, at top level -/
structure TInv (env : Env) (s : State) : Prop where
  tables : KeysNodup s.memos
  keys : ∀ m tbl, (m, tbl) ∈ s.memos → KeysNodup tbl
  entry : ∀ m tbl, (m, tbl) ∈ s.memos → ∀ key n, (key, n) ∈ tbl → Produced env s m key n

theorem TInv.mono {env : Env} {s s' : State} (h : TInv env s) (hf : Fut s s') (hm : s'.memos = s.memos) :
    TInv env s' :=
  ⟨by rw [hm]; exact h.tables, fun m tbl hmem => h.keys m tbl (hm ▸ hmem),
   fun m tbl hmem key n hk => (h.entry m tbl (hm ▸ hmem) key n hk).mono hf⟩

theorem table_mem {s : State} {m : Nat} {key : Int} {n : Nat} (h : (key, n) ∈ table s m) :
    ∃ tbl, (m, tbl) ∈ s.memos ∧ (key, n) ∈ tbl := by
  unfold table at h
  cases hl : s.memos.lookup m with
  | none => rw [hl] at h; cases h
  | some tbl => rw [hl] at h; exact ⟨tbl, lookup_mem hl, h⟩

theorem TInv.table_keys {env : Env} {s : State} (h : TInv env s) (m : Nat) : KeysNodup (table s m) := by
  unfold table
  cases hl : s.memos.lookup m with
  | none => exact List.nodup_nil
  | some tbl => exact h.keys m tbl (lookup_mem hl)

theorem TInv.stored {env : Env} {s : State} (h : TInv env s) {m : Nat} {key : Int} {n : Nat}
    (hs : stored s m key = some n) : Produced env s m key n := by
  obtain ⟨tbl, h1, h2⟩ := table_mem (lookup_mem hs)
  exact h.entry m tbl h1 key n h2

theorem tinv_init (env : Env) (k : Nat) (d : Bool) : TInv env (State.init k d) :=
  ⟨List.nodup_nil, (fun _ _ h => nomatch h), (fun _ _ h => nomatch h)⟩

/-- the sweep keeps the invariant -/
theorem TInv.gc {env : Env} {s : State} (h : TInv env s) (alive : List Nat) :
    TInv env { s with memos := gcMemos alive s.memos } := by
  have hkeys : (gcMemos alive s.memos).map (·.1) = s.memos.map (·.1) := by
    simp [gcMemos, List.map_map, Function.comp_def]
  have hmem : ∀ m tbl, (m, tbl) ∈ gcMemos alive s.memos →
      ∃ tbl0, (m, tbl0) ∈ s.memos ∧ tbl = tbl0.filter fun e => alive.contains e.2 := by
    intro m tbl hm
    obtain ⟨e, he, heq⟩ := List.mem_map.1 hm
    obtain ⟨m0, t0⟩ := e
    cases heq
    exact ⟨t0, he, rfl⟩
  refine ⟨?_, ?_, ?_⟩
  · show (List.map (·.1) (gcMemos alive s.memos)).Nodup
    rw [hkeys]; exact h.tables
  · intro m tbl hm
    obtain ⟨t0, h0, rfl⟩ := hmem m tbl hm
    exact (h.keys m t0 h0).filter _
  · intro m tbl hm key n hk
    obtain ⟨t0, h0, rfl⟩ := hmem m tbl hm
    exact (h.entry m t0 h0 key n (List.mem_filter.1 hk).1).mono (Fut.of_eq rfl rfl)

/-! ## the step relation -/

structure MS (env : Env) (s s' : State) : Prop where
  fut : Fut s s'
  tinv : TInv env s → TInv env s'
  reg : RegScoped s → RegScoped s'

instance (env : Env) : PreOrd (MS env) :=
  ⟨fun s => ⟨Fut.refl s, fun h => h, fun h => h⟩,
   fun h1 h2 => ⟨h1.fut.trans h2.fut, fun h => h2.tinv (h1.tinv h), fun h => h2.reg (h1.reg h)⟩⟩

theorem MS.of_f0 {env : Env} {s s' : State} (h : F0 s s') : MS env s s' :=
  ⟨h.fut, fun ht => ht.mono h.fut h.memos, h.reg⟩

instance (env : Env) : ILocal (MS env) := ⟨fun _ _ h => MS.of_f0 h⟩

theorem MS.of_quiet {env : Env} {s s' : State} (h : Quiet0 s s') : MS env s s' :=
  ⟨Fut.of_eq h.nodes h.top, fun ht => ht.mono (Fut.of_eq h.nodes h.top) h.memos,
   RegScoped.of_eq h.nodes h.binds⟩

/-! ## fresh results: memo bodies made of static instructions returning a local -/

/-- the instructions allowed in memo bodies: each creates exactly one node -/
def StaticI : Instr → Prop
  | .const _ | .lhsConst | .var _ | .map _ _ | .fold _ _ _ => True
  | _ => False

/-- memo bodies: static instructions, the result is one of the nodes the body created -/
def MemoBodyOK (env : Env) : Prop :=
  ∀ m, (∀ i ∈ (env.memo m).instrs, StaticI i) ∧ ∃ j, (env.memo m).ret = .loc j

/-- the result is a node created by this run -/
def Fresh (x : M Nat) : Prop :=
  ∀ s r s', x.run.run s = (.ok r, s') → s.nodes.size ≤ r ∧ r < s'.nodes.size

theorem Fresh.bind {α} {x : M α} {f : α → M Nat} (hx : Pres F0V x) (hf : ∀ a, Fresh (f a)) :
    Fresh (x >>= f) := by
  intro s r s' h
  rw [run_bind] at h
  rcases hx' : x.run.run s with ⟨r1, s1⟩
  rw [hx'] at h
  cases r1 with
  | error e => cases h
  | ok a =>
    have := hf a s1 r s' h
    have h1 := (hx.h s _ s1 hx').nodesLe
    exact ⟨Nat.le_trans h1 this.1, this.2⟩

theorem Fresh.createNode (k sc c) : Fresh (createNode k sc c) := by
  intro s r s' h
  unfold Engine.createNode at h
  cases sc with
  | top =>
    simp only [Engine.bumpCounter, run_bind, run_get, run_modify, run_pure] at h
    cases h
    exact ⟨Nat.le_refl _, by simp⟩
  | bind b =>
    simp only [Engine.bumpCounter, Engine.modBind, run_bind, run_get, run_modify, run_pure] at h
    cases h
    exact ⟨Nat.le_refl _, by simp⟩

theorem Fresh.createVar (v sc) : Fresh (createVar v sc) := by
  intro s r s' h
  unfold Engine.createVar at h
  rw [run_bind, run_get] at h
  dsimp only at h
  rw [run_bind] at h
  rcases hx : (Engine.createNode (.var s.vars.size) sc).run.run s with ⟨r1, s1⟩
  rw [hx] at h
  cases r1 with
  | error e => cases h
  | ok n =>
    have hf := Fresh.createNode _ _ _ s n s1 hx
    simp only [run_bind, run_modify, run_pure] at h
    cases h
    exact hf

/-- an instruction's result, when it has one, is a node it created -/
def FreshO (x : M (Option Nat)) : Prop :=
  ∀ s r s', x.run.run s = (.ok r, s') → ∃ n, r = some n ∧ s.nodes.size ≤ n ∧ n < s'.nodes.size

theorem FreshO.some {x : M Nat} (h : Fresh x) : FreshO (some <$> x) := by
  intro s r s' hr
  rw [map_eq_pure_bind, run_bind] at hr
  rcases hx : x.run.run s with ⟨r1, s1⟩
  rw [hx] at hr
  cases r1 with
  | error e => cases hr
  | ok n => have hf := h s n s1 hx; cases hr; exact ⟨n, rfl, hf⟩

theorem FreshO.bind {α} {x : M α} {f : α → M (Option Nat)} (hx : Pres F0V x) (hf : ∀ a, FreshO (f a)) :
    FreshO (x >>= f) := by
  intro s r s' h
  rw [run_bind] at h
  rcases hx' : x.run.run s with ⟨r1, s1⟩
  rw [hx'] at h
  cases r1 with
  | error e => cases h
  | ok a =>
    obtain ⟨n, h1, h2, h3⟩ := hf a s1 r s' h
    have h0 := (hx.h s _ s1 hx').nodesLe
    exact ⟨n, h1, Nat.le_trans h0 h2, h3⟩

theorem FreshO.elabInstr (loc v) {i : Instr} (hi : StaticI i) : FreshO (elabInstr loc v i) := by
  unfold Engine.elabInstr
  refine FreshO.bind Pres.get fun s0 => ?_
  cases i <;> simp only [StaticI] at hi
  case const c => exact FreshO.some (Fresh.createNode _ _ _)
  case lhsConst => exact FreshO.some (Fresh.createNode _ _ _)
  case var c => exact FreshO.some (Fresh.createVar _ _)
  case map f args =>
    exact FreshO.bind (Pres.mapM (fun _ => Pres.resolveOpnd _ _) _) fun _ =>
      FreshO.some (Fresh.createNode _ _ _)
  case fold f init cs =>
    refine FreshO.bind (Pres.mapM (fun _ => Pres.resolveOpnd _ _) _) fun _ => ?_
    split
    · exact FreshO.some (Fresh.createNode _ _ _)
    · exact FreshO.some (Fresh.createNode _ _ _)

/-- the loop of `elabTemplateBase`: all locals are nodes created since `s0` -/
theorem elabLoop_fresh (v : Val) (base : Nat) (instrs : List Instr) (hi : ∀ i ∈ instrs, StaticI i) :
    ∀ (loc : List Nat) (s : State) r s', base ≤ s.nodes.size → (∀ n ∈ loc, base ≤ n ∧ n < s.nodes.size) →
      (forIn instrs loc fun i r => do
        let a ← elabInstr r v i
        match a with
        | some n => pure (ForInStep.yield (r ++ [n]))
        | none => pure (ForInStep.yield r) : M (List Nat)).run.run s = (.ok r, s') →
      s.nodes.size ≤ s'.nodes.size ∧ ∀ n ∈ r, base ≤ n ∧ n < s'.nodes.size := by
  induction instrs with
  | nil =>
    intro loc s r s' _ hloc h
    rw [List.forIn_nil, run_pure] at h
    cases h; exact ⟨Nat.le_refl _, hloc⟩
  | cons i rest ih =>
    intro loc s r s' hb hloc h
    rw [List.forIn_cons, run_bind, run_bind] at h
    rcases hx : (elabInstr loc v i).run.run s with ⟨r1, s1⟩
    rw [hx] at h
    cases r1 with
    | error e => cases h
    | ok a =>
      obtain ⟨n, rfl, h2, h3⟩ := FreshO.elabInstr loc v (hi i List.mem_cons_self) s a s1 hx
      dsimp only at h
      rw [run_pure] at h
      dsimp only at h
      have hle : s.nodes.size ≤ s1.nodes.size := by omega
      have := ih (fun i hi' => hi i (List.mem_cons_of_mem _ hi')) (loc ++ [n]) s1 r s' (by omega)
        (by
          intro x hx'
          rcases List.mem_append.1 hx' with hx' | hx'
          · have := hloc x hx'; exact ⟨this.1, by omega⟩
          · simp only [List.mem_singleton] at hx'; subst hx'; exact ⟨by omega, h3⟩) h
      exact ⟨by omega, this.2⟩

theorem elabTemplateBase_fresh {t : Template} (hi : ∀ i ∈ t.instrs, StaticI i) (hret : ∃ j, t.ret = .loc j)
    (v : Val) (s : State) (n : Nat) (s' : State)
    (h : (elabTemplateBase t v []).run.run s = (.ok n, s')) : s.nodes.size ≤ n ∧ n < s'.nodes.size := by
  unfold Engine.elabTemplateBase at h
  dsimp only at h
  obtain ⟨loc, s1, hx, h⟩ := bind_ok_inv h
  have := elabLoop_fresh v s.nodes.size t.instrs hi [] s loc s1 (Nat.le_refl _) (fun _ h => nomatch h) hx
  obtain ⟨j, hj⟩ := hret
  rw [hj] at h
  simp only [Engine.resolveOpnd] at h
  cases hl : loc[j]? with
  | none => rw [hl] at h; cases h
  | some x =>
    rw [hl] at h
    cases h
    exact this.2 n (List.mem_of_getElem? hl)

end IncrVerif.Proofs.MemoH
