import IncrVerif.Proofs.PerKeyH79
/-!
# Per-key operators, `stabilise`, part 4: the end of `stabilise`

* `finished_V`: `Finished'` of the actual states gives it for the value-faithful virtual states.
* **`stab_endP`**: from `PD env t3 none`, the frame `PStep t2 t3` of the drain and `Finished' t3 s'`: the invariant
  between API actions `PQ env rk' s'`.
-/
namespace IncrVerif.Proofs.PerKeyH
open IncrVerif.Engine IncrVerif.Driver IncrVerif.Proofs IncrVerif.Proofs.Step IncrVerif.Proofs.Sched
open IncrVerif.Proofs.ExpertH IncrVerif.Proofs.EffH IncrVerif.Proofs.DriverH IncrVerif.Proofs.ExpertH.QR

/-- what `Finished'` does not say of the end of `stabilise`; that `stabiliseEnd` keeps `perkeys` is `KP.stabiliseEnd` -/
structure MidPk (s t : State) : Prop where
  perkeys : t.perkeys = s.perkeys
  observers : t.observers = s.observers

/-! ## `Finished'` in the virtual states -/

theorem finished_xf {t s' : State} (E : Finished' t s') : XF t s' :=
  ⟨E.size, fun m => by obtain ⟨b, hb⟩ := E.node m; rw [hb], by rw [E.experts], fun e => by rw [E.experts], E.nextDep⟩

/-- `Finished'` (the description of `stabiliseEnd`) of the actual states gives it for the virtual states -/
theorem finished_V {t s' : State} (E : Finished' t s') (hp : s'.perkeys = t.perkeys) : Finished' (V t) (V s') where
  size := by rw [V_size, V_size]; exact E.size
  node m := by
    obtain ⟨b, hb⟩ := E.node m
    refine ⟨b, ?_⟩
    have hfun : ∀ nd, vNode s' nd = vNode t nd := fun nd => by
      simp only [vNode, vKind_of_xf (finished_xf E) hp, E.experts]
    rw [V_nodeD, V_nodeD, hb, hfun]
    rfl
  vars := E.vars
  rch := E.rch
  ahh := E.ahh
  observers := E.observers
  newObservers := E.newObservers
  disallowedObservers := E.disallowedObservers
  allObservers := E.allObservers
  scope := E.scope
  pc := E.pc
  top := E.top
  handles := E.handles
  alive := E.alive
  pinv := E.pinv
  cfg := E.cfg
  stabNum := E.stabNum
  status := E.status
  setDuringStab := E.setDuringStab
  deadVars := E.deadVars
  handleAfterStab := E.handleAfterStab
  experts := rfl
  nextDep := E.nextDep

/-! ## the end of the drain -/

/-- **the end of `stabilise`**: from the drain invariant with an empty heap to the invariant between API actions -/
theorem stab_endP {env : Env} {t2 t3 s' : State}
    (D3 : PD env t3 none) (N3 : NoRem t3) (f3 : PStep t2 t3)
    (O2 : ObsInv (V t2) [] []) (hn2 : t2.newObservers = []) (hd2 : t2.disallowedObservers = [])
    (hal : t2.alive = true) (E : Finished' t3 s') (hpk : s'.perkeys = t3.perkeys) :
    (∃ rk', PQ env rk' s') ∧ s'.newObservers = [] ∧ s'.disallowedObservers = [] := by
  have A3 := D3.aux
  obtain ⟨rk', AS3⟩ := A3.rank
  obtain ⟨-, -, k_obs, k_new, k_dis, -, -, -, -, k_alive⟩ := eKey_inv f3.key
  have Ev := finished_V E hpk
  obtain ⟨Q', hno', hdo'⟩ := qinv_of_finished (S2 := V t2) D3.inv AS3
    (fun c => by rw [V_nodeD, vNode_parents]; exact A3.nodup c) A3.vars
    (fun m => by rw [V_nodeD, vNode_num]; exact A3.handlers m) A3.pinv Ev O2 k_obs
    (fun m => by
      rw [V_nodeD, V_nodeD, vNode_observers, vNode_observers]
      by_cases hm : m < t2.nodes.size
      · exact (dnKey_inv (f3.node m hm)).2.1
      · rw [f3.newObs m (by omega), nodeD_default_of_ge t2 m (by omega)]; rfl)
    (by rw [V_size, V_size]; exact f3.grow) (k_new.trans hn2) (k_dis.trans hd2) (k_alive.trans hal)
    (fun k n hk => by rw [V_size]; exact A3.named k n hk)
  -- the actual final state
  have hfld : ∀ m, (s'.nodeD m).valid = (t3.nodeD m).valid ∧
      (s'.nodeD m).heightInAhh = (t3.nodeD m).heightInAhh ∧ (s'.nodeD m).value = (t3.nodeD m).value ∧
      (s'.nodeD m).observers = (t3.nodeD m).observers ∧ (s'.nodeD m).cutoff = (t3.nodeD m).cutoff ∧
      (s'.nodeD m).createdIn = (t3.nodeD m).createdIn ∧
      (s'.nodeD m).forceNecessary = (t3.nodeD m).forceNecessary := fun m => by
    obtain ⟨b, hb⟩ := E.node m; rw [hb]; exact ⟨rfl, rfl, rfl, rfl, rfl, rfl, rfl⟩
  have xf : XF t3 s' := finished_xf E
  have F' : PFrag env s' :=
    A3.frag.of_xg (XG.of_xf xf) (by rw [E.pc]; exact A3.frag.pc) (fun m => by rw [(hfld m).1]; exact A3.frag.validD m)
      (fun e er he => by rw [E.experts] at he; exact (A3.frag.xok e er he).2.1)
      (fun m => ⟨(hfld m).2.2.2.2.1, (hfld m).2.2.2.2.2.1, (hfld m).2.2.2.2.2.2⟩)
      E.scope
  have A' : QR.AhhEmpty s' :=
    ⟨by rw [E.ahh]; exact A3.ahh.length, by rw [E.ahh]; exact A3.ahh.buckets,
      fun m => by rw [(hfld m).2.1]; exact A3.ahh.marks m⟩
  have stale' : ∀ m, s'.isStale m = t3.isStale m := isStale_finished (fun m => xk_of_pkind (A3.frag.kindD m)) E
  have KF : PKF t3 s' := ⟨xf, fun m => (hfld m).2.2.1, stale', E.top, hpk, E.vars,
    fun m => by obtain ⟨b, hb⟩ := Ev.node m; rw [hb]⟩
  have PK' : PKOK env s' := PKOK.of_frame KF A3.pk
    (fun o ob' ho => by rw [E.observers] at ho; exact ⟨ob', ho, rfl⟩)
    (fun m o ho => by
      rw [(hfld m).2.2.2.1] at ho
      obtain ⟨ob, h3, h4, -⟩ := A3.obs m o ho
      exact ⟨ob, by rw [E.observers]; exact h3, h4⟩)
  exact ⟨⟨rk', F', Q', A', PK', slotInv_finished (fun m => xk_of_pkind (A3.frag.kindD m)) A3.slots E,
    NoRem.of_pkf KF N3⟩, hno', hdo'⟩

end IncrVerif.Proofs.PerKeyH
