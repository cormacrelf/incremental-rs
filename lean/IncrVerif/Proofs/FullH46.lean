import IncrVerif.Proofs.FullH45
import IncrVerif.Proofs.FullH8
import IncrVerif.Proofs.DrainPath
/-!
# C01 full fragment: the drain invariant through `recomputeOne`, the direct-recompute chain, a pop and `drainHeap`

The ghost of the drain invariant `DInvF` changes from step to step, so a configuration of the drain is a pair (ghost, state).  `PopF` / `StepF`: what a pop and a
returning `recomputeOne` do to a configuration (`pop_full`, `recomputeOne_full`, with the run itself); `PathF`: the `Drain.Path` of these; `drain_pathF`:
a returning `drainHeap` from the drain invariant is such a path along `TidyH.drainSteps`.
-/
namespace IncrVerif.Proofs.FullH
open IncrVerif.Engine IncrVerif.Driver IncrVerif.Proofs IncrVerif.Proofs.Step IncrVerif.Proofs.Sched IncrVerif.Proofs.Quiet
open IncrVerif.Proofs.BindH (DInv BGraph StepRelB FrameB TargetB)
open IncrVerif.Proofs.NestH (AuxS2 Aux2 GenOK2 F2Inv StepL2 LcStepsOK2)

/-- the step lemmas `recomputeOne_full` is assembled from: a change detector's run (simulation, `didChange` invariant), the step of a `map_with_old` node, the verdict step -/
structure Kit (env : Env) (sp : Nat → Val → Val) : Prop where
  lcSim : LcSimSpec env sp
  lcK : LcKSpec env sp
  mwo : MwoStepSpec env sp
  vd : VdStepSpec env sp

section
variable {env : Env} {sp : Nat → Val → Val}

/-- **one `recomputeOne` of the drain keeps the drain invariant** (for new ghost values) -/
theorem recomputeOne_full (X : Kit env sp) {t s : State} {g : Nat → Option Val} {fuel n : Nat} {r : Option Nat} {s' : State}
    (D : DInvF env sp t s g (some n)) (h : (recomputeOne env fuel n).run.run s = (.ok r, s')) :
    ∃ g', DInvF env sp t s' g' r ∧ FrameB (virt g s) (virt g' s') ∧
      ((virt g' s').nodeD n).recomputedAt = s.stabNum ∧ ((virt g' s').nodeD n).valid = true := by
  by_cases hk1 : ∀ p i, (s.nodeD n).kind ≠ .mapRef p i
  · by_cases hk2 : ∀ m i, (s.nodeD n).kind ≠ .mapWithOld m i
    · by_cases hex : (s.nodeD n).cutoff = .eq ∨ ∃ b, (s.nodeD n).kind = .bindLhsChange b
      · obtain ⟨g', a, b, c, d, -⟩ := step_simulated X.lcSim X.lcK D hk1 hk2 hex h
        exact ⟨g', a, b, c, d⟩
      · have hc : (s.nodeD n).cutoff ≠ .eq := fun e => hex (Or.inl e)
        have hk3 : ∀ b, (s.nodeD n).kind ≠ .bindLhsChange b := fun b e => hex (Or.inr ⟨b, e⟩)
        exact ⟨g, X.vd t s g fuel n r s' D hk1 hk2 hk3 hc h⟩
    · have : ∃ m i, (s.nodeD n).kind = .mapWithOld m i := by
        cases hkd : (s.nodeD n).kind <;>
          first | exact ⟨_, _, rfl⟩ | (exfalso; apply hk2; intro m i; rw [hkd]; intro h; cases h)
      obtain ⟨m, i, hk⟩ := this
      exact ⟨g, X.mwo t s g fuel n m i r s' D hk h⟩
  · have : ∃ p i, (s.nodeD n).kind = .mapRef p i := by
      cases hkd : (s.nodeD n).kind <;>
        first | exact ⟨_, _, rfl⟩ | (exfalso; apply hk1; intro p i; rw [hkd]; intro h; cases h)
    obtain ⟨p, i, hk⟩ := this
    exact step_mapRef D hk h

theorem heapInv_of_virt {g : Nat → Option Val} {s : State} (h : HeapInv (virt g s)) : HeapInv s :=
  h.congr rfl (virt_size g s).symm fun m => by
    rw [virt_nodeD]
    exact ⟨(virtNode_heightInRch _ _).symm, (virtNode_height _ _).symm, (virt_isNecessary g s m).symm⟩

/-- taking a node out of the heap keeps the drain invariant, with the node as the current node -/
theorem pop_full {t s s1 : State} {g : Nat → Option Val} {n : Nat} (D : DInvF env sp t s g none)
    (h : rchRemoveMin.run.run s = (.ok (some n), s1)) :
    DInvF env sp t s1 g (some n) ∧ FrameB (virt g s) (virt g s1) := by
  obtain ⟨hv, hfr, vm⟩ := Sim.rchRemoveMin (K := FK env sp) (g := g) s D.frag.fr (some n) s1 h
  obtain ⟨I1, f1⟩ := BindH.pop_invB D.inv hv
  have A1 := (hVirt env sp t).pop _ _ n D.inv ⟨D.aux, D.gen⟩ hv
  have hi := heapInv_of_virt D.inv.heap
  have hinv := rchRemoveMin_inv hi h
  simp only at hinv
  obtain ⟨-, -, -, hs1, -⟩ := hinv
  have hnd : ∀ m, s1.nodeD m =
      if n = m ∧ m < s.nodes.size then { s.nodeD m with heightInRch := -1 } else s.nodeD m := by
    intro m; rw [hs1]; exact nodeD_modify _ n m _
  have hkind : ∀ m, (s1.nodeD m).kind = (s.nodeD m).kind := by intro m; rw [hnd]; split <;> rfl
  have hvalid : ∀ m, (s1.nodeD m).valid = (s.nodeD m).valid := by intro m; rw [hnd]; split <;> rfl
  have hval : ∀ m, (s1.nodeD m).value = (s.nodeD m).value := by intro m; rw [hnd]; split <;> rfl
  have hold : ∀ m, (s1.nodeD m).oldState = (s.nodeD m).oldState := by intro m; rw [hnd]; split <;> rfl
  have hflag : ∀ m, (s1.nodeD m).didChange = (s.nodeD m).didChange := by intro m; rw [hnd]; split <;> rfl
  have hnec : ∀ m, s1.isNecessary m = s.isNecessary m := by
    intro m; simp only [State.isNecessary]; rw [hnd]; split <;> rfl
  have hsz : s1.nodes.size = s.nodes.size := by rw [hs1]; simp
  have hvalue : ∀ m, s1.value env m = s.value env m :=
    fun m => value_congr env s s1 hsz (fun k => by simp only [valueCore, hkind, hvalid, hval]) m
  have hcut : ∀ m, (s1.nodeD m).cutoff = (s.nodeD m).cutoff := by intro m; rw [hnd]; split <;> rfl
  have hchg : ∀ m, (s1.nodeD m).changedAt = (s.nodeD m).changedAt := by intro m; rw [hnd]; split <;> rfl
  have hrec : ∀ m, (s1.nodeD m).recomputedAt = (s.nodeD m).recomputedAt := by intro m; rw [hnd]; split <;> rfl
  have htv : ∀ m, tv g s1 m = tv g s m := by
    intro m
    by_cases hmr : ∀ p i, (s.nodeD m).kind ≠ .mapRef p i
    · rw [tv_not_mapRef hmr, tv_not_mapRef (by rw [hkind]; exact hmr), hval]
    · have : ∃ p i, (s.nodeD m).kind = .mapRef p i := by
        cases hkd : (s.nodeD m).kind <;>
          first | exact ⟨_, _, rfl⟩ | (exfalso; apply hmr; intro p i; rw [hkd]; intro h; cases h)
      obtain ⟨p, i, hk⟩ := this
      rw [tv_mapRef hk, tv_mapRef (by rw [hkind]; exact hk)]
  have hst1 : s1.stabNum = s.stabNum := by rw [hs1]
  refine ⟨⟨⟨hfr, mapRefsBack_of_vm D.frag.back vm, I1.graph.pc⟩, I1, A1.1, A1.2, ?_, ?_, ?_, ?_, ?_⟩, f1⟩
  · exact D.k.congr hvalid hnec hkind (fun m hd => by rw [← hflag]; exact hd) (fun m p i _ _ _ _ => hvalue m)
  · intro x m i hv' hk
    rw [hval, hold]
    exact D.m x m i (by rw [← hvalid]; exact hv') (by rw [← hkind]; exact hk)
  · exact D.gs.of_gr (GR.of_vm vm)
  · intro x a b w hv hk hc hca hw
    rw [htv]
    exact D.dep x a b w (by rw [← hvalid]; exact hv) (by rw [← hkind]; exact hk) (by rw [← hcut]; exact hc)
      (by rw [← hchg, ← hchg]; exact hca) (by rw [← hval]; exact hw)
  · intro m hv hnm hvl hcm
    rw [hrec, hst1]
    exact D.cr m (by rw [← hvalid]; exact hv) (fun p i => by rw [← hkind]; exact hnm p i) (by rw [← hval]; exact hvl)
      (by rw [← hchg, ← hst1]; exact hcm)

/-- a pop of the drain that started from `t`: the node `n` it hands out becomes the current node -/
structure PopF (env : Env) (sp : Nat → Val → Val) (t : State) (n : Nat) (a b : (Nat → Option Val) × State) : Prop where
  inv : DInvF env sp t a.2 a.1 none
  run : rchRemoveMin.run.run a.2 = (.ok (some n), b.2)
  inv' : DInvF env sp t b.2 b.1 (some n)
  fr : FrameB (virt a.1 a.2) (virt b.1 b.2)

/-- a returning `recomputeOne` of the drain on its current node `n`; `r` is the node it hands over -/
structure StepF (env : Env) (sp : Nat → Val → Val) (t : State) (n : Nat) (r : Option Nat) (a b : (Nat → Option Val) × State) : Prop where
  inv : DInvF env sp t a.2 a.1 (some n)
  run : ∃ fuel, (recomputeOne env fuel n).run.run a.2 = (.ok r, b.2)
  inv' : DInvF env sp t b.2 b.1 r
  fr : FrameB (virt a.1 a.2) (virt b.1 b.2)
  stamp : ((virt b.1 b.2).nodeD n).recomputedAt = a.2.stabNum
  valid : ((virt b.1 b.2).nodeD n).valid = true

abbrev PathF (env : Env) (sp : Nat → Val → Val) (t : State) :=
  Drain.Path (Prod.snd : (Nat → Option Val) × State → State) (PopF env sp t) (StepF env sp t)

theorem StepF.of_run (X : Kit env sp) {t : State} (c : (Nat → Option Val) × State) (n fuel : Nat) (r : Option Nat) (s' : State)
    (D : DInvF env sp t c.2 c.1 (some n)) (h : (recomputeOne env fuel n).run.run c.2 = (.ok r, s')) :
    ∃ c' : (Nat → Option Val) × State, c'.2 = s' ∧ DInvF env sp t c'.2 c'.1 r ∧ StepF env sp t n r c c' := by
  obtain ⟨g1, D1, f1, hn, hv⟩ := recomputeOne_full X D h
  exact ⟨(g1, s'), rfl, D1, D, ⟨fuel, h⟩, D1, f1, hn, hv⟩

/-- **the drain, step by step**; it ends with an empty heap -/
theorem drain_pathF (X : Kit env sp) (fuel : Nat) (t s s' : State) (g : Nat → Option Val)
    (D : DInvF env sp t s g none) (h : (drainHeap env fuel).run.run s = (.ok (), s')) :
    ∃ g', DInvF env sp t s' g' none ∧ s'.rch.length = 0 ∧ PathF env sp t (TidyH.drainSteps env fuel s) (g, s) none (g', s') none := by
  obtain ⟨⟨g', s1⟩, D', p, hl⟩ := Drain.drainHeap_path (st := Prod.snd) (J := fun c cur => DInvF env sp t c.2 c.1 cur)
    (P := PopF env sp t) (StepF.of_run X)
    (fun c n s1 D h => by
      obtain ⟨D1, f1⟩ := pop_full D h
      exact ⟨(c.1, s1), rfl, D1, D, h, D1, f1⟩) fuel (g, s) s' D h
  obtain ⟨rfl, he⟩ := rchRemoveMin_inv (heapInv_of_virt D'.inv.heap) hl
  exact ⟨g', D', he, p⟩

theorem PathF.frameB {t : State} {l : List (Nat × State)} {a c : (Nat → Option Val) × State} {x z : Option Nat}
    (h : PathF env sp t l a x c z) : FrameB (virt a.1 a.2) (virt c.1 c.2) :=
  h.rel (R := fun a c => FrameB (virt a.1 a.2) (virt c.1 c.2)) (fun _ => FrameB.refl _) FrameB.trans (fun _ _ _ p => p.fr)
    fun _ _ _ _ _ s => s.fr

/-- the node of a step is stamped and valid in every later configuration of the path -/
theorem StepF.later {t : State} {l : List (Nat × State)} {c : (Nat → Option Val) × State} {z : Option Nat} {n : Nat} {r : Option Nat} {a b : (Nat → Option Val) × State} (s : StepF env sp t n r a b)
    (h : PathF env sp t l b r c z) :
    ((virt c.1 c.2).nodeD n).recomputedAt = (virt a.1 a.2).stabNum ∧ ((virt c.1 c.2).nodeD n).valid = true := by
  obtain ⟨k1, k2⟩ := (PathF.frameB h).ran n (by rw [s.fr.stabNum]; exact s.stamp)
  exact ⟨by rw [s.fr.stabNum] at k1; exact k1, by rw [k2]; exact s.valid⟩

/-- **the drain**: a successful `drainHeap` from the drain invariant ends with the drain invariant (for new ghost values) and an empty heap -/
theorem drainHeap_full (X : Kit env sp) (fuel : Nat) (t s s' : State) (g : Nat → Option Val)
    (D : DInvF env sp t s g none) (h : (drainHeap env fuel).run.run s = (.ok (), s')) :
    ∃ g', DInvF env sp t s' g' none ∧ s'.rch.length = 0 ∧ FrameB (virt g s) (virt g' s') :=
  have ⟨g', D', he, p⟩ := drain_pathF X fuel t s s' g D h
  ⟨g', D', he, PathF.frameB p⟩

end
end IncrVerif.Proofs.FullH
