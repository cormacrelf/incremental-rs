import IncrVerif.Proofs.HeapWF
import IncrVerif.Proofs.Heights
import IncrVerif.Proofs.Footprint
import Std.Do
import Std.Tactic.Do
/-!
# Helper lemmas for C13 (a panic escaping `stabilise` poisons the state)

`Fr t s` says "the status of `s` is `t.status`, its configuration is `t.cfg`, its liveness flag is
`t.alive`".

* Part 1: every function of the model except `stabilise` and `stabiliseEnd` keeps this frame, as a
  Hoare triple `FPres t x := ⦃Fr t⦄ x ⦃post⟨Fr t, Fr t⟩⦄` (normal return *and* panic).  No primitive
  write of the engine touches `cfg` or `alive`, and only the write named `status` touches the status;
  the writes each function makes are listed in `Proofs/Footprint.lean` (`Foot.f`, `W.f`).
* Part 2 splits `stabilise` into its phases (`propagate`, `stabiliseEndPrepare`, `runHandlers`).
* Part 3: a heap drain that returns has emptied the heap (debug builds).
* Part 4: sequences of API calls (`ApiCall`, `runCalls`); parked var values (`VS`).
* Part 5: where a panic of `stabilise` comes from (`PanicOrigin`); example states.

`Proofs/HeapWF.lean` is imported on purpose: two modules that run `mvcgen` over the same model
functions cannot be imported side by side (the auxiliary matcher lemmas `….match_1.congr_eq_1…` would be
declared twice).  Its `@[spec]` lemmas about the same programs are therefore in scope; `fr_mvcgen` is
`mvcgen` with all of them erased, and the lemmas here are registered with high priority.
-/
namespace IncrVerif.Proofs.Poison
open IncrVerif.Engine IncrVerif.Proofs Std.Do

set_option mvcgen.warning false

/-! ## the frame -/

/-- the fields nothing but `stabilise`/`stabiliseEnd` may write (a record of its own, so that
`mvcgen` can never confuse it with a value of the program) -/
structure Tag where
  status : Status
  cfg : Cfg
  alive : Bool

def Fr (t : Tag) (s : State) : Prop := s.status = t.status ∧ s.cfg = t.cfg ∧ s.alive = t.alive

def tagOf (s : State) : Tag := ⟨s.status, s.cfg, s.alive⟩

theorem Fr_tagOf (s : State) : Fr (tagOf s) s := ⟨rfl, rfl, rfl⟩

abbrev FPres {α} (t : Tag) (x : M α) : Prop :=
  ⦃fun s => ⌜Fr t s⌝⦄ x ⦃post⟨fun _ s => ⌜Fr t s⌝, fun _ s => ⌜Fr t s⌝⟩⦄

open Lean.Parser.Tactic in
/-- `mvcgen` blind to the `HeapWF` specifications of `Proofs/HeapWF.lean` -/
macro "fr_mvcgen" " [" args:(simpStar <|> simpErase <|> simpLemma),* "]" : tactic =>
  let args : Lean.Syntax.TSepArray [``simpStar, ``simpErase, ``simpLemma] "," := ⟨args.elemsAndSeps⟩
  `(tactic| mvcgen [$args,*,
      -IncrVerif.Proofs.rchInsert_spec, -IncrVerif.Proofs.rchRemove_spec, -IncrVerif.Proofs.rchMinHeight_spec,
      -IncrVerif.Proofs.rchIncreaseHeight_spec, -IncrVerif.Proofs.rchRemoveMin_spec, -IncrVerif.Proofs.modNode_spec,
      -IncrVerif.Proofs.logEv_spec, -IncrVerif.Proofs.tick_spec, -IncrVerif.Proofs.modBind_spec,
      -IncrVerif.Proofs.modExpert_spec, -IncrVerif.Proofs.modObs_spec, -IncrVerif.Proofs.modVar_spec,
      -IncrVerif.Proofs.bumpCounter_spec, -IncrVerif.Proofs.setHeight_spec, -IncrVerif.Proofs.addParent_spec,
      -IncrVerif.Proofs.removeParent_spec, -IncrVerif.Proofs.handleAfterStabilisation_spec, -IncrVerif.Proofs.maybeHandleAfterStabilisation_spec,
      -IncrVerif.Proofs.assertM_spec, -IncrVerif.Proofs.dassert_spec, -IncrVerif.Proofs.getNode_spec,
      -IncrVerif.Proofs.getBind_spec, -IncrVerif.Proofs.getExpert_spec, -IncrVerif.Proofs.getVar_spec,
      -IncrVerif.Proofs.getObs_spec, -IncrVerif.Proofs.scopeHeight_spec, -IncrVerif.Proofs.scopeIsNecessary_spec,
      -IncrVerif.Proofs.scopeIsValid_spec, -IncrVerif.Proofs.isConstant_spec, -IncrVerif.Proofs.resolveOpnd_spec,
      -IncrVerif.Proofs.expertOf_spec, -IncrVerif.Proofs.expertIdxRaw_spec, -IncrVerif.Proofs.valueUnwrap_spec,
      -IncrVerif.Proofs.assertRunningIsChild_spec, -IncrVerif.Proofs.createNode_spec, -IncrVerif.Proofs.createVar_spec,
      -IncrVerif.Proofs.createBind_spec, -IncrVerif.Proofs.ahhAddUnlessMem_spec, -IncrVerif.Proofs.ahhRemoveMin_spec,
      -IncrVerif.Proofs.ensureHeightRequirement_spec, -IncrVerif.Proofs.shouldCutoff_spec, -IncrVerif.Proofs.edgeOnChange_spec,
      -IncrVerif.Proofs.runEdgeCallback_spec, -IncrVerif.Proofs.observabilityChange_spec, -IncrVerif.Proofs.becameUnnecessary_spec,
      -IncrVerif.Proofs.checkIfUnnecessary_spec, -IncrVerif.Proofs.removeChildren_spec, -IncrVerif.Proofs.invalidateNode_spec,
      -IncrVerif.Proofs.propagateInvalidity_spec, -IncrVerif.Proofs.adjustHeightsLoop_spec, -IncrVerif.Proofs.adjustHeights_spec,
      -IncrVerif.Proofs.markMapRefUnknown_spec, -IncrVerif.Proofs.becameNecessary_spec, -IncrVerif.Proofs.addParentWithoutAdjustingHeights_spec,
      -IncrVerif.Proofs.becameNecessaryPropagate_spec, -IncrVerif.Proofs.stateAddParent_spec, -IncrVerif.Proofs.changeChildBindRhs_spec,
      -IncrVerif.Proofs.mapM_spec, -IncrVerif.Proofs.mapConst_spec, -IncrVerif.Proofs.expertMakeStale_spec,
      -IncrVerif.Proofs.expertAddDependency_spec, -IncrVerif.Proofs.swapEdgeIndices_spec, -IncrVerif.Proofs.expertRemoveDependency_spec,
      -IncrVerif.Proofs.expertInvalidate_spec, -IncrVerif.Proofs.elabInstr_spec, -IncrVerif.Proofs.elabTemplate_spec,
      -IncrVerif.Proofs.didSetVarWhileNotStabilising_spec, -IncrVerif.Proofs.writeVar_spec, -IncrVerif.Proofs.disallowFutureUse_spec,
      -IncrVerif.Proofs.subscribe_spec, -IncrVerif.Proofs.unsubscribe_spec, -IncrVerif.Proofs.runEffectBasic_spec,
      -IncrVerif.Proofs.dropVarHandle_spec,
      -IncrVerif.Proofs.childChanged_spec, -IncrVerif.Proofs.parentIterCanRecomputeNow_spec, -IncrVerif.Proofs.maybeChangeValueManual_spec,
      -IncrVerif.Proofs.maybeChangeValue_spec, -IncrVerif.Proofs.runEffects_spec, -IncrVerif.Proofs.recomputeOne_spec,
      -IncrVerif.Proofs.recompute_spec, -IncrVerif.Proofs.addNewObservers_spec, -IncrVerif.Proofs.unlinkDisallowedObservers_spec,
      -IncrVerif.Proofs.runAll_spec, -IncrVerif.Proofs.stabiliseEnd_spec, -IncrVerif.Proofs.drainHeap_spec,
      -IncrVerif.Proofs.stabilise_spec, -IncrVerif.Proofs.setMaxHeightAllowed_spec,
      -IncrVerif.Proofs.elabTemplateBase_spec, -IncrVerif.Proofs.memoCall_spec, -IncrVerif.Proofs.elabInstrM_spec,
      -IncrVerif.Proofs.expertValue_spec, -IncrVerif.Proofs.withOldEvents_spec, -IncrVerif.Proofs.perKeyDriver_spec])

/-- the frame in plain form: status, configuration and liveness after running `x`, value or panic -/
theorem FPres.run {α} {x : M α} (h : ∀ t, FPres t x) (s : State) :
    (x.run.run s).2.status = s.status ∧ (x.run.run s).2.cfg = s.cfg ∧
      (x.run.run s).2.alive = s.alive := by
  have := (triple_iff x _ _ _).1 (h (tagOf s)) s (Fr_tagOf s)
  split at this <;> simp_all [Fr, tagOf]

/-- loop rule without invariants -/
theorem forIn_fr {α β} (t : Tag) (l : List α) (init : β) (f : α → β → M (ForInStep β))
    (hf : ∀ a b, FPres t (f a b)) : FPres t (forIn l init f) := by
  induction l generalizing init with
  | nil => simp only [List.forIn_nil]; mvcgen
  | cons a l ih =>
    rw [List.forIn_cons]
    have := hf a init
    fr_mvcgen [this, ih]

/-! ## Part 1: every function but `stabilise`/`stabiliseEnd` keeps status and configuration -/

/-- `s'` has the status, the configuration and the liveness flag of `s` -/
def Same (s s' : State) : Prop := s'.status = s.status ∧ s'.cfg = s.cfg ∧ s'.alive = s.alive

instance : Step.PreOrd Same where
  refl _ := ⟨rfl, rfl, rfl⟩
  trans h1 h2 := ⟨h2.1.trans h1.1, h2.2.1.trans h1.2.1, h2.2.2.trans h1.2.2⟩

/-- no write touches `cfg` or `alive`, and only the write named `status` touches the status -/
theorem Same.of_edit {L w} (hL : ∀ x ∈ L, x ≠ Footprint.Tag.status) {s s' : State} (e : Footprint.Edit L w s s') :
    Same s s' :=
  ⟨by cases e <;> first | rfl | exact absurd rfl (hL _ ‹_›), e.cfg, e.alive⟩

theorem FPres.of_pres {α} {m : M α} (t : Tag) (h : Step.Pres Same m) : FPres t m :=
  (triple_iff m _ _ _).2 fun s hs => by
    rcases hr : m.run.run s with ⟨r, s'⟩
    obtain ⟨h1, h2, h3⟩ := h.h s r s' hr
    cases r <;> exact ⟨h1.trans hs.1, h2.trans hs.2.1, h3.trans hs.2.2⟩

/-- a function that does not make the write named `status` (see its list `Footprint.W.f`) keeps the frame -/
theorem FPres.of_foot {L α} {m : M α} (t : Tag) (h : Footprint.Foot L (fun _ => True) m)
    (hL : ∀ x ∈ Footprint.parts L, x ≠ Footprint.Tag.status) : FPres t m :=
  .of_pres t (h.lift (Same.of_edit hL))

section frame
variable (t : Tag)

@[spec high] theorem tick_fr : FPres t tick :=
  .of_foot t Footprint.Foot.tick (by decide)
@[spec high] theorem getNode_fr (n : Nat) : FPres t (getNode n) :=
  .of_pres t (.getNode n)
@[spec high] theorem modNode_fr (n : Nat) (f : Node → Node) : FPres t (modNode n f) :=
  .of_pres t (.modify fun _ => ⟨rfl, rfl, rfl⟩)
@[spec high] theorem getVar_fr (n : Nat) : FPres t (getVar n) :=
  .of_pres t (.getVar n)
@[spec high] theorem modVar_fr (n : Nat) (f : VarCell → VarCell) : FPres t (modVar n f) :=
  .of_pres t (.modify fun _ => ⟨rfl, rfl, rfl⟩)
@[spec high] theorem scopeIsValid_fr (sc : Scope) : FPres t (scopeIsValid sc) :=
  .of_foot t (Footprint.Foot.scopeIsValid sc) (by decide)

/-! recompute heap, adjust-heights heap -/

@[spec high] theorem rchInsert_fr (n : Nat) : FPres t (rchInsert n) :=
  .of_foot t (Footprint.Foot.rchInsert n) (by decide)
@[spec high] theorem rchRemove_fr (n : Nat) : FPres t (rchRemove n) :=
  .of_foot t (Footprint.Foot.rchRemove n) (by decide)
@[spec high] theorem rchMinHeight_fr : FPres t rchMinHeight :=
  .of_foot t Footprint.Foot.rchMinHeight (by decide)
@[spec high] theorem rchIncreaseHeight_fr (n : Nat) : FPres t (rchIncreaseHeight n) :=
  .of_foot t (Footprint.Foot.rchIncreaseHeight n) (by decide)
@[spec high] theorem rchRemoveMin_fr : FPres t rchRemoveMin :=
  .of_foot t Footprint.Foot.rchRemoveMin (by decide)
@[spec high] theorem setHeight_fr (n : Nat) (h : Int) : FPres t (setHeight n h) :=
  .of_foot t (Footprint.Foot.setHeight n h) (by decide)
@[spec high] theorem ahhAddUnlessMem_fr (n : Nat) : FPres t (ahhAddUnlessMem n) :=
  .of_foot t (Footprint.Foot.ahhAddUnlessMem n) (by decide)
@[spec high] theorem ahhRemoveMin_fr : FPres t ahhRemoveMin :=
  .of_foot t Footprint.Foot.ahhRemoveMin (by decide)
@[spec high] theorem ensureHeightRequirement_fr (oc op c p : Nat) :
    FPres t (ensureHeightRequirement oc op c p) :=
  .of_foot t (Footprint.Foot.ensureHeightRequirement oc op c p) (by decide)

@[spec high] theorem adjustHeightsLoop_fr (oc op fuel : Nat) : FPres t (adjustHeightsLoop oc op fuel) :=
  .of_foot t (Footprint.Foot.adjustHeightsLoop oc op fuel) (by decide)

@[spec high] theorem adjustHeights_fr (oc op fuel : Nat) : FPres t (adjustHeights oc op fuel) :=
  .of_foot t (Footprint.Foot.adjustHeights oc op fuel) (by decide)

/-! parents, handlers bookkeeping, cutoffs, expert callbacks -/

@[spec high] theorem handleAfterStabilisation_fr (n : Nat) : FPres t (handleAfterStabilisation n) :=
  .of_foot t (Footprint.Foot.handleAfterStabilisation n) (by decide)
@[spec high] theorem shouldCutoff_fr (env : Env) (n : Nat) (o v : Val) : FPres t (shouldCutoff env n o v) :=
  .of_foot t (Footprint.Foot.shouldCutoff env n o v) (by decide)
@[spec high] theorem edgeOnChange_fr (env : Env) (e : Nat) (edge : ExpertEdge) :
    FPres t (edgeOnChange env e edge) :=
  .of_foot t (Footprint.Foot.edgeOnChange env e edge) (by decide)
@[spec high] theorem runEdgeCallback_fr (env : Env) (e i : Nat) : FPres t (runEdgeCallback env e i) :=
  .of_foot t (Footprint.Foot.runEdgeCallback env e i) (by decide)
@[spec high] theorem observabilityChange_fr (e : Nat) (b : Bool) : FPres t (observabilityChange e b) :=
  .of_foot t (Footprint.Foot.observabilityChange e b) (by decide)

/-! the cascades -/

@[spec high] theorem markMapRefUnknown_fr (fuel n : Nat) : FPres t (markMapRefUnknown fuel n) :=
  .of_foot t (Footprint.Foot.markMapRefUnknown fuel n) (by decide)

@[spec high] theorem becameNecessary_fr (env : Env) (fuel n : Nat) : FPres t (becameNecessary env fuel n) :=
  .of_foot t (Footprint.Foot.becameNecessary env fuel n) (by decide)

@[spec high] theorem addParentWithoutAdjustingHeights_fr (env : Env) (fuel c i p : Nat) :
    FPres t (addParentWithoutAdjustingHeights env fuel c i p) :=
  .of_foot t (Footprint.Foot.addParentWithoutAdjustingHeights env fuel c i p) (by decide)

@[spec high] theorem becameUnnecessary_fr (fuel n : Nat) : FPres t (becameUnnecessary fuel n) :=
  .of_foot t (Footprint.Foot.becameUnnecessary fuel n) (by decide)
@[spec high] theorem checkIfUnnecessary_fr (fuel n : Nat) : FPres t (checkIfUnnecessary fuel n) :=
  .of_foot t (Footprint.Foot.checkIfUnnecessary fuel n) (by decide)
@[spec high] theorem removeChildren_fr (fuel n : Nat) : FPres t (removeChildren fuel n) :=
  .of_foot t (Footprint.Foot.removeChildren fuel n) (by decide)

@[spec high] theorem invalidateNode_fr (fuel n : Nat) : FPres t (invalidateNode fuel n) :=
  .of_foot t (Footprint.Foot.invalidateNode fuel n) (by decide)

@[spec high] theorem propagateInvalidity_fr (fuel : Nat) : FPres t (propagateInvalidity fuel) :=
  .of_foot t (Footprint.Foot.propagateInvalidity fuel) (by decide)

@[spec high] theorem becameNecessaryPropagate_fr (env : Env) (fuel n : Nat) :
    FPres t (becameNecessaryPropagate env fuel n) :=
  .of_foot t (Footprint.Foot.becameNecessaryPropagate env fuel n) (by decide)

@[spec high] theorem stateAddParent_fr (env : Env) (fuel c i p : Nat) :
    FPres t (stateAddParent env fuel c i p) :=
  .of_foot t (Footprint.Foot.stateAddParent env fuel c i p) (by decide)

@[spec high] theorem changeChildBindRhs_fr (env : Env) (fuel main : Nat) (old : Option Nat) (new index : Nat) :
    FPres t (changeChildBindRhs env fuel main old new index) :=
  .of_foot t (Footprint.Foot.changeChildBindRhs env fuel main old new index) (by decide)

/-! the expert API -/

@[spec high] theorem expertMakeStale_fr (n : Nat) : FPres t (expertMakeStale n) :=
  .of_foot t (Footprint.Foot.expertMakeStale n) (by decide)
@[spec high] theorem expertAddDependency_fr (env : Env) (fuel n child : Nat) (cb : Bool) :
    FPres t (expertAddDependency env fuel n child cb) :=
  .of_foot t (Footprint.Foot.expertAddDependency env fuel n child cb) (by decide)
@[spec high] theorem expertRemoveDependency_fr (fuel n dep : Nat) :
    FPres t (expertRemoveDependency fuel n dep) :=
  .of_foot t (Footprint.Foot.expertRemoveDependency fuel n dep) (by decide)
@[spec high] theorem expertInvalidate_fr (fuel n : Nat) : FPres t (expertInvalidate fuel n) :=
  .of_foot t (Footprint.Foot.expertInvalidate fuel n) (by decide)

/-! node creation, var writes, observers -/

@[spec high] theorem createNode_fr (k : Kind) (sc : Scope) (c : CutoffK) : FPres t (createNode k sc c) :=
  .of_foot t (Footprint.Foot.createNode k sc c) (by decide)
@[spec high] theorem createVar_fr (v : Val) (sc : Scope) : FPres t (createVar v sc) :=
  .of_foot t (Footprint.Foot.createVar v sc) (by decide)
@[spec high] theorem createBind_fr (body lhs : Nat) : FPres t (createBind body lhs) :=
  .of_foot t (Footprint.Foot.createBind body lhs) (by decide)
@[spec high] theorem elabInstr_fr (loc : List Nat) (v : Val) (i : Instr) : FPres t (elabInstr loc v i) :=
  .of_foot t (Footprint.Foot.elabInstr loc v i) (by decide)
@[spec high] theorem elabTemplateBase_fr (tp : Template) (v : Val) (init : List Nat) :
    FPres t (elabTemplateBase tp v init) :=
  .of_foot t (Footprint.Foot.elabTemplateBase tp v init) (by decide)
@[spec high] theorem memoCall_fr (env : Env) (m : Nat) (key : Int) : FPres t (memoCall env m key) :=
  .of_foot t (Footprint.Foot.memoCall env m key) (by decide)
@[spec high] theorem elabInstrM_fr (env : Env) (loc : List Nat) (v : Val) (i : Instr) :
    FPres t (elabInstrM env loc v i) :=
  .of_foot t (Footprint.Foot.elabInstrM env loc v i) (by decide)
@[spec high] theorem elabTemplate_fr (env : Env) (tp : Template) (v : Val) : FPres t (elabTemplate env tp v) :=
  .of_foot t (Footprint.Foot.elabTemplate env tp v) (by decide)
@[spec high] theorem didSetVarWhileNotStabilising_fr (v : Nat) :
    FPres t (didSetVarWhileNotStabilising v) :=
  .of_foot t (Footprint.Foot.didSetVarWhileNotStabilising v) (by decide)
@[spec high] theorem writeVar_fr (v : Nat) (f : Val → Val) (isSet : Bool) : FPres t (writeVar v f isSet) :=
  .of_foot t (Footprint.Foot.writeVar v f isSet) (by decide)
@[spec high] theorem disallowFutureUse_fr (o : Nat) : FPres t (disallowFutureUse o) :=
  .of_foot t (Footprint.Foot.disallowFutureUse o) (by decide)
@[spec high] theorem subscribe_fr (o hid : Nat) : FPres t (subscribe o hid) :=
  .of_foot t (Footprint.Foot.subscribe o hid) (by decide)
@[spec high] theorem unsubscribe_fr (o token owner : Nat) : FPres t (unsubscribe o token owner) :=
  .of_foot t (Footprint.Foot.unsubscribe o token owner) (by decide)
@[spec high] theorem runEffectBasic_fr (env : Env) (e : Effect) : FPres t (runEffectBasic env e) :=
  .of_foot t (Footprint.Foot.runEffectBasic env e) (by decide)

/-! recompute -/

@[spec high] theorem childChanged_fr (env : Env) (fuel p c ci : Nat) (o : Option Val) :
    FPres t (childChanged env fuel p c ci o) :=
  .of_foot t (Footprint.Foot.childChanged env fuel p c ci o) (by decide)

@[spec high] theorem parentIterCanRecomputeNow_fr (p child : Nat) :
    FPres t (parentIterCanRecomputeNow p child) :=
  .of_foot t (Footprint.Foot.parentIterCanRecomputeNow p child) (by decide)

@[spec high] theorem maybeChangeValueManual_fr (env : Env) (fuel n : Nat) (o : Option Val) (b1 b2 : Bool) :
    FPres t (maybeChangeValueManual env fuel n o b1 b2) :=
  .of_foot t (Footprint.Foot.maybeChangeValueManual env fuel n o b1 b2) (by decide)

@[spec high] theorem maybeChangeValue_fr (env : Env) (fuel n : Nat) (v : Val) :
    FPres t (maybeChangeValue env fuel n v) :=
  .of_pres t ((Footprint.Foot.maybeChangeValue env fuel n v).lift (Same.of_edit (by decide)))

@[spec high] theorem runEffects_fr (env : Env) (fuel : Nat) (effs : List Effect) (arg : Int) :
    FPres t (runEffects env fuel effs arg) :=
  .of_foot t (Footprint.Foot.runEffects env fuel effs arg) (by decide)

@[spec high] theorem expertValue_fr (env : Env) (e : Nat) (dv sv : List (Option Val)) :
    FPres t (expertValue env e dv sv) :=
  .of_foot t (Footprint.Foot.expertValue env e dv sv) (by decide)

@[spec high] theorem withOldEvents_fr (env : Env) (g n : Nat) (σ : Val) (old : Option Val) (x new : Val)
    (did : Bool) : FPres t (withOldEvents env g n σ old x new did) :=
  .of_foot t (Footprint.Foot.withOldEvents env g n σ old x new did) (by decide)

@[spec high] theorem perKeyDriver_fr (env : Env) (fuel op : Nat) (newMap : List (Int × Int)) :
    FPres t (perKeyDriver env fuel op newMap) :=
  .of_foot t (Footprint.Foot.perKeyDriver env fuel op newMap) (by decide)

@[spec high] theorem recomputeOne_fr (env : Env) (fuel n : Nat) : FPres t (recomputeOne env fuel n) :=
  .of_pres t ((Footprint.Foot.recomputeOne env fuel n).lift (Same.of_edit (by decide)))

@[spec high] theorem recompute_fr (env : Env) (fuel n : Nat) : FPres t (recompute env fuel n) :=
  .of_foot t (Footprint.Foot.recompute env fuel n) (by decide)

/-! the pieces of `stabilise` -/

@[spec high] theorem addNewObservers_fr (env : Env) (fuel : Nat) : FPres t (addNewObservers env fuel) :=
  .of_foot t (Footprint.Foot.addNewObservers env fuel) (by decide)

@[spec high] theorem unlinkDisallowedObservers_fr (fuel : Nat) : FPres t (unlinkDisallowedObservers fuel) :=
  .of_foot t (Footprint.Foot.unlinkDisallowedObservers fuel) (by decide)

@[spec high] theorem runAll_fr (env : Env) (fuel o n : Nat) (nu : NodeUpdate) (now : Int) :
    FPres t (runAll env fuel o n nu now) :=
  .of_foot t (Footprint.Foot.runAll env fuel o n nu now) (by decide)

@[spec high] theorem drainHeap_fr (env : Env) (fuel : Nat) : FPres t (drainHeap env fuel) :=
  .of_foot t (Footprint.Foot.drainHeap env fuel) (by decide)

@[spec high] theorem setMaxHeightAllowed_fr (newMax : Nat) : FPres t (setMaxHeightAllowed newMax) :=
  .of_foot t (Footprint.Foot.setMaxHeightAllowed newMax) (by decide)

end frame

/-! ## Part 2: the phases of `stabilise` -/

/-- the propagation phase: everything between the status write and `stabilise_end` -/
def propagate (env : Env) (fuel : Nat) : M Unit := do
  addNewObservers env fuel
  unlinkDisallowedObservers fuel
  drainHeap env fuel

/-- `stabilise_end` up to (excluding) the line `status := RunningOnUpdateHandlers`, verbatim; the result
is the queue of (node, node update) pairs the handlers will be run for -/
def stabiliseEndPrepare (env : Env) : M (List (Nat × NodeUpdate)) := do
  modify fun s => { s with stabNum := s.stabNum + 1, currentlyRunning := none }
  let stack := (← get).setDuringStab
  modify fun s => { s with setDuringStab := [] }
  for v in stack do
    match (← getVar v).pending with
    | none => pure ()
    | some x =>
      modVar v fun c => { c with pending := none, value := x }
      didSetVarWhileNotStabilising v
  let dead := (← get).deadVars
  modify fun s => { s with deadVars := [] }
  for v in dead do modVar v fun c => { c with linked := false }
  let hs := (← get).handleAfterStab
  modify fun s => { s with handleAfterStab := [] }
  let mut queue : List (Nat × NodeUpdate) := []
  for n in hs do
    modNode n fun x => { x with inHandleAfterStab := false }
    queue := queue ++ [(n, (← get).nodeUpdate env n)]
  pure queue

/-- what `stabilise_end` does between the two status writes, verbatim: the handler loop, then the
garbage collection of the weak memo tables (a pure state update, it cannot panic) -/
def runHandlers (env : Env) (fuel : Nat) (queue : List (Nat × NodeUpdate)) : M Unit := do
  let now := (← get).stabNum
  for (n, nu) in queue do
    for o in (← getNode n).observers do
      runAll env fuel o n nu now
  modify fun s =>
    let alive := s.aliveSet
    { s with memos := s.memos.map fun (m, tbl) => (m, tbl.filter fun (_, n) => alive.contains n) }

theorem stabiliseEnd_phases (env : Env) (fuel : Nat) :
    stabiliseEnd env fuel = (do
      let queue ← stabiliseEndPrepare env
      modify fun s => { s with status := .runningOnUpdateHandlers }
      runHandlers env fuel queue
      modify fun s => { s with status := .notStabilising }) := by
  simp only [stabiliseEnd, stabiliseEndPrepare, runHandlers, bind_assoc, pure_bind]
  rfl

theorem stabilise_phases (env : Env) (fuel : Nat) :
    stabilise env fuel = (do
      assertM ((← get).status == .notStabilising) "state:stabilise:status"
      modify fun s => { s with status := .stabilising }
      propagate env fuel
      stabiliseEnd env fuel) := by
  simp only [stabilise, propagate, bind_assoc]

theorem propagate_fr (t : Tag) (env : Env) (fuel : Nat) : FPres t (propagate env fuel) := by
  fr_mvcgen [propagate]

theorem stabiliseEndPrepare_fr (t : Tag) (env : Env) : FPres t (stabiliseEndPrepare env) := by
  fr_mvcgen [stabiliseEndPrepare, -Spec.forIn_list, forIn_fr]

theorem runHandlers_fr (t : Tag) (env : Env) (fuel : Nat) (q : List (Nat × NodeUpdate)) :
    FPres t (runHandlers env fuel q) := by
  fr_mvcgen [runHandlers, -Spec.forIn_list, forIn_fr]

/-- `stabilise` from a state that is not stabilising, phase by phase: the status is written exactly
three times, and a panic in a phase is the outcome of the whole call, with the state of that moment -/
theorem stabilise_run (env : Env) (fuel : Nat) (s : State) (h : s.status = .notStabilising) :
    (stabilise env fuel).run.run s =
      match (propagate env fuel).run.run { s with status := .stabilising } with
      | (.error p, s1) => (.error p, s1)
      | (.ok _, s1) =>
        match (stabiliseEndPrepare env).run.run s1 with
        | (.error p, s2) => (.error p, s2)
        | (.ok q, s2) =>
          match (runHandlers env fuel q).run.run { s2 with status := .runningOnUpdateHandlers } with
          | (.error p, s3) => (.error p, s3)
          | (.ok _, s3) => (.ok (), { s3 with status := .notStabilising }) := by
  rw [stabilise_phases, stabiliseEnd_phases]
  simp only [run_bind, run_get, run_assertM, run_modify, h, beq_self_eq_true, if_true]
  rcases (propagate env fuel).run.run { s with status := .stabilising } with ⟨r1, s1⟩
  cases r1 with
  | error p => rfl
  | ok u =>
    simp only []
    rcases (stabiliseEndPrepare env).run.run s1 with ⟨r2, s2⟩
    cases r2 with
    | error p => rfl
    | ok q =>
      simp only []
      rcases (runHandlers env fuel q).run.run { s2 with status := .runningOnUpdateHandlers } with ⟨r3, s3⟩
      cases r3 <;> rfl

/-- a poisoned state: `stabilise` panics at its first line and changes nothing -/
theorem stabilise_refuses (env : Env) (fuel : Nat) (s : State) (h : s.status ≠ .notStabilising) :
    (stabilise env fuel).run.run s = (.error (.site "state:stabilise:status"), s) := by
  have hb : (s.status == Status.notStabilising) = false := by
    cases hs : s.status <;> simp_all
  simp only [stabilise, run_bind, run_get, run_assertM, hb]
  rfl

/-! ## Part 3: a drain that returns has emptied the heap (debug builds) -/

theorem firstNonEmpty_ne_nil (q : Array (List Nat)) :
    ∀ fuel lb, q.size < lb + fuel → q[firstNonEmpty q fuel lb]? ≠ some [] := by
  intro fuel
  induction fuel with
  | zero =>
    intro lb h
    simp only [firstNonEmpty]
    rw [Array.getElem?_eq_none (by omega)]
    simp
  | succ fuel ih =>
    intro lb h
    simp only [firstNonEmpty]
    split
    · exact ih (lb + 1) (by omega)
    · rename_i hne
      intro e
      exact hne e

theorem rchRemoveMin_none (t : Tag) (hd : t.cfg.debug = true) :
    ⦃fun s => ⌜Fr t s⌝⦄ rchRemoveMin
    ⦃post⟨fun r s => ⌜Fr t s ∧ (r = none → s.rch.length = 0)⌝, fun _ s => ⌜Fr t s⌝⟩⦄ := by
  fr_mvcgen [-rchRemoveMin_fr, -modNode_fr, rchRemoveMin, dassert, modNode]
  case vc1 => exact ⟨‹_›, by simpa using ‹(_ == 0) = true›⟩
  case vc4 =>
    rename_i s hfr _ _ _ _ hdb _
    have : s.cfg.debug = true := by rw [hfr.2.1]; exact hd
    simp [this] at hdb
  case vc5 =>
    rename_i s _ _ _ _ hq
    exact absurd hq (firstNonEmpty_ne_nil _ _ _ (by omega))
  case vc6 =>
    refine ⟨?_, fun h => by cases h⟩
    simp +zetaDelta only [Fr] at *
    assumption

/-- debug builds: `drainHeap` returns normally only with an empty recompute heap -/
theorem drainHeap_empty (t : Tag) (hd : t.cfg.debug = true) (env : Env) (fuel : Nat) :
    ⦃fun s => ⌜Fr t s⌝⦄ drainHeap env fuel
    ⦃post⟨fun _ s => ⌜Fr t s ∧ s.rch.length = 0⌝, fun _ s => ⌜Fr t s⌝⟩⦄ := by
  have hrm := rchRemoveMin_none t hd
  induction fuel with
  | zero => fr_mvcgen [-drainHeap_fr, drainHeap]
  | succ fuel ih =>
    fr_mvcgen [-drainHeap_fr, -rchRemoveMin_fr, drainHeap, hrm, ih]
    all_goals first
      | assumption
      | exact (‹Fr _ _ ∧ _›).1
      | exact ⟨(‹Fr _ _ ∧ _›).1, (‹Fr _ _ ∧ _›).2 rfl⟩
      | skip

/-- debug builds: the propagation phase returns normally only with an empty recompute heap -/
theorem propagate_empty (t : Tag) (hd : t.cfg.debug = true) (env : Env) (fuel : Nat) :
    ⦃fun s => ⌜Fr t s⌝⦄ propagate env fuel
    ⦃post⟨fun _ s => ⌜Fr t s ∧ s.rch.length = 0⌝, fun _ s => ⌜Fr t s⌝⟩⦄ := by
  have hdr := drainHeap_empty t hd env fuel
  fr_mvcgen [propagate, -drainHeap_fr, hdr]

/-- plain form of `drainHeap_empty` -/
theorem drainHeap_empty_run (env : Env) (fuel : Nat) (s s' : State) (hd : s.cfg.debug = true)
    (hr : (drainHeap env fuel).run.run s = (.ok (), s')) : s'.rch.length = 0 := by
  have := (triple_iff _ _ _ _).1 (drainHeap_empty (tagOf s) hd env fuel) s (Fr_tagOf s)
  rw [hr] at this
  exact this.2

theorem propagate_empty_run (env : Env) (fuel : Nat) (s s' : State) (hd : s.cfg.debug = true)
    (hr : (propagate env fuel).run.run s = (.ok (), s')) : s'.rch.length = 0 := by
  have := (triple_iff _ _ _ _).1 (propagate_empty (tagOf s) hd env fuel) s (Fr_tagOf s)
  rw [hr] at this
  exact this.2

/-! with a well-formed heap (`Proofs/HeapWF.lean`): an empty heap, bucket by bucket -/

theorem all_nil_of_sum_length_zero (l : List (List Nat)) (h : (l.map List.length).sum = 0) :
    ∀ x ∈ l, x = [] := by
  induction l with
  | nil => intro x hx; cases hx
  | cons a l ih =>
    simp only [List.map_cons, List.sum_cons] at h
    intro x hx
    rcases List.mem_cons.1 hx with rfl | hx
    · exact List.eq_nil_of_length_eq_zero (by omega)
    · exact ih (by omega) x hx

/-- well-formed heap of length 0: every bucket is empty and no node is marked as queued -/
theorem nothing_queued {s : State} (h : HeapWF s) (hl : s.rch.length = 0) :
    (∀ (k : Nat) (hk : k < s.rch.queues.size), s.rch.queues[k] = []) ∧
      ∀ n, n < s.nodes.size → (s.nodeD n).heightInRch = -1 := by
  have hsum : bucketSum s.rch.queues = 0 := by rw [← h.length]; exact hl
  have hall := all_nil_of_sum_length_zero _ hsum
  have hb : ∀ (k : Nat) (hk : k < s.rch.queues.size), s.rch.queues[k] = [] := by
    intro k hk
    exact hall _ (by simp)
  refine ⟨hb, ?_⟩
  intro n hn
  rcases h.range n hn with h1 | ⟨h1, h2⟩
  · exact h1
  · exfalso
    have hk : (s.nodeD n).heightInRch.toNat < s.rch.queues.size := by omega
    have := (h.mem _ hk n).2 ⟨hn, by omega⟩
    rw [hb _ hk] at this
    cases this


/-! ## Part 4: sequences of calls of the public API other than `stabilise` -/

/-- one call of the public API other than `stabilise` (result discarded) -/
inductive ApiCall where
  | writeVar (v : Nat) (f : Val → Val) (isSet : Bool)
  | subscribe (o hid : Nat)
  | unsubscribe (o token owner : Nat)
  | disallowFutureUse (o : Nat)
  | elabInstr (lhsVal : Val) (i : Instr)
  /-- node creation including calls of memoised functions (what a top-level `create` runs) -/
  | elabInstrM (env : Env) (lhsVal : Val) (i : Instr)
  | setMaxHeightAllowed (newMax : Nat)

def ApiCall.run : ApiCall → M Unit
  | .writeVar v f isSet => do let _ ← Engine.writeVar v f isSet
  | .subscribe o hid => do let _ ← Engine.subscribe o hid
  | .unsubscribe o token owner => do let _ ← Engine.unsubscribe o token owner
  | .disallowFutureUse o => Engine.disallowFutureUse o
  | .elabInstr lhsVal i => do let _ ← Engine.elabInstr [] lhsVal i
  | .elabInstrM env lhsVal i => do let _ ← Engine.elabInstrM env [] lhsVal i
  | .setMaxHeightAllowed newMax => Engine.setMaxHeightAllowed newMax

/-- the state after the call, whether it returned or panicked (a caught panic leaves the state as it
was at the panic point) -/
def ApiCall.step (c : ApiCall) (s : State) : State := (c.run.run.run s).2

/-- the state after a sequence of calls, each possibly ending in a (caught) panic -/
def runCalls (cs : List ApiCall) (s : State) : State := cs.foldl (fun s c => c.step s) s

theorem ApiCall.run_fr (t : Tag) (c : ApiCall) : FPres t c.run := by
  cases c <;> fr_mvcgen [ApiCall.run]

theorem ApiCall.step_frame (c : ApiCall) (s : State) :
    (c.step s).status = s.status ∧ (c.step s).cfg = s.cfg ∧ (c.step s).alive = s.alive :=
  FPres.run (fun t => ApiCall.run_fr t c) s

theorem runCalls_frame (cs : List ApiCall) (s : State) :
    (runCalls cs s).status = s.status ∧ (runCalls cs s).cfg = s.cfg ∧
      (runCalls cs s).alive = s.alive := by
  induction cs generalizing s with
  | nil => exact ⟨rfl, rfl, rfl⟩
  | cons c cs ih =>
    have h1 := ih (c.step s)
    have h2 := c.step_frame s
    simp only [runCalls, List.foldl_cons] at h1 ⊢
    exact ⟨h1.1.trans h2.1, h1.2.1.trans h2.2.1, h1.2.2.trans h2.2.2⟩

/-! the same calls, from a state poisoned with status `Stabilising`: no var cell's `value` moves -/

/-- the engine is (stuck) stabilising and var cell `v` exists with value `x` -/
def VS (v : Nat) (x : Val) (s : State) : Prop :=
  s.status = .stabilising ∧ ∃ vc, s.vars[v]? = some vc ∧ vc.value = x

abbrev VPres {α} (v : Nat) (x : Val) (m : M α) : Prop :=
  ⦃fun s => ⌜VS v x s⌝⦄ m ⦃post⟨fun _ s => ⌜VS v x s⌝, fun _ s => ⌜VS v x s⌝⟩⦄

theorem VS.modify {v : Nat} {x : Val} {s : State} (h : VS v x s) (w : Nat) (f : VarCell → VarCell)
    (hf : ∀ c, (f c).value = c.value) : VS v x { s with vars := s.vars.modify w f } := by
  obtain ⟨hs, vc, hv, hx⟩ := h
  refine ⟨hs, ?_⟩
  simp only [Array.getElem?_modify]
  split
  · subst_vars; exact ⟨f vc, by simp [hv], by rw [hf]⟩
  · exact ⟨vc, hv, hx⟩

theorem VS.push {v : Nat} {x : Val} {s : State} (h : VS v x s) (c : VarCell) :
    VS v x { s with vars := s.vars.push c } := by
  obtain ⟨hs, vc, hv, hx⟩ := h
  refine ⟨hs, vc, ?_, hx⟩
  have hlt : v < s.vars.size := (Array.getElem?_eq_some_iff.1 hv).1
  simp only [Array.getElem?_push]
  rw [if_neg (by omega)]
  exact hv

macro "vs_triv" : tactic =>
  `(tactic| first
    | assumption
    | (intros; trivial)
    | (intros; rfl)
    | exact VS.modify ‹_› _ _ (fun _ => rfl)
    | exact VS.push ‹_› _
    | (exfalso; subst_vars; apply ‹_ = Status.stabilising → False›; exact (‹VS _ _ _›).1)
    | (intro h _; exact h))

abbrev vsInv (v : Nat) (x : Val) {α : Type} {β : Type} {xs : List α} :
    Invariant xs β (.except Panic (.arg State .pure)) :=
  post⟨fun _ s => ⌜VS v x s⌝, fun _ s => ⌜VS v x s⌝⟩

macro "vs_fin" v:term:max x:term:max : tactic =>
  `(tactic| (try any_goals exact vsInv $v $x
             try any_goals exact tagOf default
             all_goals first
               | vs_triv
               | skip))

section parked
variable (v : Nat) (x : Val)

@[spec 20000] theorem assertM_vs (c : Bool) (site : String) : VPres v x (assertM c site) := by
  fr_mvcgen [assertM]
@[spec 20000] theorem dassert_vs (c : Bool) (site : String) : VPres v x (dassert c site) := by
  fr_mvcgen [dassert]
@[spec 20000] theorem getNode_vs (n : Nat) : VPres v x (getNode n) := by
  fr_mvcgen [-getNode_fr, getNode]
@[spec 20000] theorem modNode_vs (n : Nat) (f : Node → Node) : VPres v x (modNode n f) := by
  fr_mvcgen [-modNode_fr, modNode]
@[spec 20000] theorem getBind_vs (n : Nat) : VPres v x (getBind n) := by
  fr_mvcgen [getBind]
@[spec 20000] theorem modBind_vs (n : Nat) (f : BindRec → BindRec) : VPres v x (modBind n f) := by
  fr_mvcgen [modBind]
@[spec 20000] theorem getExpert_vs (n : Nat) : VPres v x (getExpert n) := by
  fr_mvcgen [getExpert]
@[spec 20000] theorem modExpert_vs (n : Nat) (f : ExpertRec → ExpertRec) : VPres v x (modExpert n f) := by
  fr_mvcgen [modExpert]
@[spec 20000] theorem getObs_vs (n : Nat) : VPres v x (getObs n) := by
  fr_mvcgen [getObs]
@[spec 20000] theorem modObs_vs (n : Nat) (f : ObsRec → ObsRec) : VPres v x (modObs n f) := by
  fr_mvcgen [modObs]
@[spec 20000] theorem getVar_vs (n : Nat) : VPres v x (getVar n) := by
  fr_mvcgen [-getVar_fr, getVar]
@[spec 20000] theorem modVar_vs (n : Nat) (f : VarCell → VarCell) (hf : ∀ c, (f c).value = c.value) :
    VPres v x (modVar n f) := by
  fr_mvcgen [-modVar_fr, modVar]
  exact VS.modify ‹_› _ _ hf
@[spec 20000] theorem bumpCounter_vs (f : Counters → Counters) : VPres v x (bumpCounter f) := by
  fr_mvcgen [bumpCounter]
@[spec 20000] theorem handleAfterStabilisation_vs (n : Nat) :
    VPres v x (handleAfterStabilisation n) := by
  fr_mvcgen [-handleAfterStabilisation_fr, handleAfterStabilisation]
@[spec 20000] theorem resolveOpnd_vs (loc : List Nat) (o : Opnd) : VPres v x (resolveOpnd loc o) := by
  fr_mvcgen [resolveOpnd]
@[spec 20000] theorem isConstant_vs (n : Nat) : VPres v x (isConstant n) := by
  fr_mvcgen [isConstant]
@[spec 20000] theorem createNode_vs (k : Kind) (sc : Scope) (c : CutoffK) :
    VPres v x (createNode k sc c) := by
  fr_mvcgen [-createNode_fr, createNode]
@[spec 20000] theorem createVar_vs (w : Val) (sc : Scope) : VPres v x (createVar w sc) := by
  fr_mvcgen [-createVar_fr, createVar]
  vs_fin v x
@[spec 20000] theorem createBind_vs (body lhs : Nat) : VPres v x (createBind body lhs) := by
  fr_mvcgen [-createBind_fr, createBind]

@[spec 20000] theorem mapM_vs {α β} (f : α → M β) (hf : ∀ a, VPres v x (f a)) (l : List α) :
    VPres v x (l.mapM f) := by
  induction l with
  | nil => fr_mvcgen [List.mapM_nil]
  | cons a l ih =>
    have := hf a
    rw [List.mapM_cons]
    fr_mvcgen [this, ih]

theorem writeVar_vs (w : Nat) (f : Val → Val) (isSet : Bool) : VPres v x (writeVar w f isSet) := by
  fr_mvcgen [-writeVar_fr, writeVar]
  vs_fin v x
theorem subscribe_vs (o hid : Nat) : VPres v x (subscribe o hid) := by
  fr_mvcgen [-subscribe_fr, subscribe]
  vs_fin v x
theorem unsubscribe_vs (o token owner : Nat) : VPres v x (unsubscribe o token owner) := by
  fr_mvcgen [-unsubscribe_fr, unsubscribe]
  vs_fin v x
theorem disallowFutureUse_vs (o : Nat) : VPres v x (disallowFutureUse o) := by
  fr_mvcgen [-disallowFutureUse_fr, disallowFutureUse]
  vs_fin v x
theorem elabInstr_vs (loc : List Nat) (lv : Val) (i : Instr) : VPres v x (elabInstr loc lv i) := by
  fr_mvcgen [-elabInstr_fr, elabInstr]
  vs_fin v x
theorem tick_vs : VPres v x tick := by
  fr_mvcgen [-tick_fr, tick]
theorem logEv_vs (e : Event) : VPres v x (logEv e) := by
  fr_mvcgen [logEv]
theorem elabTemplateBase_vs (tp : Template) (lv : Val) (init : List Nat) :
    VPres v x (elabTemplateBase tp lv init) := by
  have h := elabInstr_vs v x
  fr_mvcgen [-elabTemplateBase_fr, -elabInstr_fr, elabTemplateBase, h]
  vs_fin v x
theorem memoCall_vs (env : Env) (m : Nat) (key : Int) : VPres v x (memoCall env m key) := by
  have h1 := elabTemplateBase_vs v x
  have h2 := tick_vs v x
  have h3 := logEv_vs v x
  fr_mvcgen [-memoCall_fr, -elabTemplateBase_fr, -tick_fr, memoCall, h1, h2, h3]
  vs_fin v x
theorem elabInstrM_vs (env : Env) (loc : List Nat) (lv : Val) (i : Instr) :
    VPres v x (elabInstrM env loc lv i) := by
  have h1 := elabInstr_vs v x
  have h2 := memoCall_vs v x
  fr_mvcgen [-elabInstrM_fr, -elabInstr_fr, -memoCall_fr, elabInstrM, h1, h2]
  vs_fin v x
theorem setMaxHeightAllowed_vs (newMax : Nat) : VPres v x (setMaxHeightAllowed newMax) := by
  fr_mvcgen [-setMaxHeightAllowed_fr, setMaxHeightAllowed]
  vs_fin v x

theorem ApiCall.run_vs (c : ApiCall) : VPres v x c.run := by
  have h1 := writeVar_vs v x
  have h2 := subscribe_vs v x
  have h3 := unsubscribe_vs v x
  have h4 := disallowFutureUse_vs v x
  have h5 := elabInstr_vs v x
  have h6 := setMaxHeightAllowed_vs v x
  have h7 := elabInstrM_vs v x
  cases c <;>
    fr_mvcgen [ApiCall.run, -writeVar_fr, -subscribe_fr, -unsubscribe_fr, -disallowFutureUse_fr,
      -elabInstr_fr, -elabInstrM_fr, -setMaxHeightAllowed_fr, h1, h2, h3, h4, h5, h6, h7]

end parked

theorem ApiCall.step_vs (v : Nat) (x : Val) (c : ApiCall) (s : State) (h : VS v x s) :
    VS v x (c.step s) := by
  have := (triple_iff c.run _ _ _).1 (ApiCall.run_vs v x c) s h
  unfold ApiCall.step
  split at this <;> simp_all

/-- from a state stuck in status `Stabilising`, no sequence of API calls changes the `value` of an
existing var cell (writes are parked in `pending`, and nothing ever applies them) -/
theorem runCalls_value (cs : List ApiCall) (s : State) (v : Nat) (vc : VarCell)
    (hs : s.status = .stabilising) (hv : s.vars[v]? = some vc) :
    ∃ vc', (runCalls cs s).vars[v]? = some vc' ∧ vc'.value = vc.value := by
  have h0 : VS v vc.value s := ⟨hs, vc, hv, rfl⟩
  suffices h : VS v vc.value (runCalls cs s) from h.2
  clear hv hs
  induction cs generalizing s with
  | nil => exact h0
  | cons c cs ih =>
    simp only [runCalls, List.foldl_cons]
    exact ih (c.step s) (ApiCall.step_vs v vc.value c s h0)

/-! ## Part 5: where a panic of `stabilise` comes from, and the status it leaves -/

/-- status, configuration and liveness after `x`, whether it returned or panicked -/
def Keeps {α} (x : M α) : Prop :=
  ∀ s : State, (x.run.run s).2.status = s.status ∧ (x.run.run s).2.cfg = s.cfg ∧
    (x.run.run s).2.alive = s.alive

theorem FPres.keeps {α} {x : M α} (h : ∀ t, FPres t x) : Keeps x := fun s => FPres.run h s

theorem Keeps.of_run {α} {x : M α} (h : Keeps x) {s s' : State} {r : Except Panic α}
    (hr : x.run.run s = (r, s')) : s'.status = s.status ∧ s'.cfg = s.cfg ∧ s'.alive = s.alive := by
  have := h s
  rw [hr] at this
  exact this

theorem propagate_keeps (env : Env) (fuel : Nat) : Keeps (propagate env fuel) :=
  FPres.keeps fun t => propagate_fr t env fuel
theorem stabiliseEndPrepare_keeps (env : Env) : Keeps (stabiliseEndPrepare env) :=
  FPres.keeps fun t => stabiliseEndPrepare_fr t env
theorem runHandlers_keeps (env : Env) (fuel : Nat) (q : List (Nat × NodeUpdate)) :
    Keeps (runHandlers env fuel q) :=
  FPres.keeps fun t => runHandlers_fr t env fuel q

/-- the three places a panic of `stabilise` (entered with status `NotStabilising`) can come from -/
inductive PanicOrigin (env : Env) (fuel : Nat) (s : State) (p : Panic) (s' : State) : Prop where
  /-- raised by `add_new_observers`, `unlink_disallowed_observers` or the heap drain -/
  | propagation
      (h1 : (propagate env fuel).run.run { s with status := .stabilising } = (.error p, s'))
  /-- raised in `stabilise_end` before the line `status := RunningOnUpdateHandlers` -/
  | endPrepare (s1 : State)
      (h1 : (propagate env fuel).run.run { s with status := .stabilising } = (.ok (), s1))
      (h2 : (stabiliseEndPrepare env).run.run s1 = (.error p, s'))
  /-- raised in `stabilise_end` after that line, i.e. by an update handler (`run_all`) -/
  | handlers (s1 : State) (q : List (Nat × NodeUpdate)) (s2 : State)
      (h1 : (propagate env fuel).run.run { s with status := .stabilising } = (.ok (), s1))
      (h2 : (stabiliseEndPrepare env).run.run s1 = (.ok q, s2))
      (h3 : (runHandlers env fuel q).run.run { s2 with status := .runningOnUpdateHandlers }
              = (.error p, s'))

theorem PanicOrigin.status {env : Env} {fuel : Nat} {s : State} {p : Panic} {s' : State}
    (h : PanicOrigin env fuel s p s') :
    (s'.status = .stabilising ∧ ¬ ∃ s1 q s2,
        (propagate env fuel).run.run { s with status := .stabilising } = (.ok (), s1) ∧
        (stabiliseEndPrepare env).run.run s1 = (.ok q, s2)) ∨
    (s'.status = .runningOnUpdateHandlers ∧ ∃ s1 q s2,
        (propagate env fuel).run.run { s with status := .stabilising } = (.ok (), s1) ∧
        (stabiliseEndPrepare env).run.run s1 = (.ok q, s2) ∧
        (runHandlers env fuel q).run.run { s2 with status := .runningOnUpdateHandlers }
          = (.error p, s')) := by
  cases h with
  | propagation h1 =>
    left
    refine ⟨((propagate_keeps env fuel).of_run h1).1, ?_⟩
    rintro ⟨s1, q, s2, h1', -⟩
    rw [h1] at h1'; cases h1'
  | endPrepare s1 h1 h2 =>
    left
    have e1 := ((propagate_keeps env fuel).of_run h1).1
    have e2 := ((stabiliseEndPrepare_keeps env).of_run h2).1
    refine ⟨e2.trans e1, ?_⟩
    rintro ⟨s1', q, s2, h1', h2'⟩
    rw [h1] at h1'; cases h1'
    rw [h2] at h2'; cases h2'
  | handlers s1 q s2 h1 h2 h3 =>
    right
    exact ⟨((runHandlers_keeps env fuel q).of_run h3).1, s1, q, s2, h1, h2, h3⟩

/-- every panic of a `stabilise` entered with status `NotStabilising` has one of the three origins -/
theorem stabilise_panic_origin (env : Env) (fuel : Nat) (s : State) (p : Panic) (s' : State)
    (h : s.status = .notStabilising) (hr : (stabilise env fuel).run.run s = (.error p, s')) :
    PanicOrigin env fuel s p s' := by
  rw [stabilise_run env fuel s h] at hr
  rcases h1 : (propagate env fuel).run.run { s with status := .stabilising } with ⟨r1, s1⟩
  rw [h1] at hr
  cases r1 with
  | error p1 =>
    obtain ⟨e1, e2⟩ := Prod.mk.inj hr
    cases e1; cases e2
    exact .propagation h1
  | ok u =>
    dsimp only at hr
    rcases h2 : (stabiliseEndPrepare env).run.run s1 with ⟨r2, s2⟩
    rw [h2] at hr
    cases r2 with
    | error p2 =>
      obtain ⟨e1, e2⟩ := Prod.mk.inj hr
      cases e1; cases e2
      exact .endPrepare s1 h1 h2
    | ok q =>
      dsimp only at hr
      rcases h3 : (runHandlers env fuel q).run.run { s2 with status := .runningOnUpdateHandlers }
        with ⟨r3, s3⟩
      rw [h3] at hr
      cases r3 with
      | error p3 =>
        obtain ⟨e1, e2⟩ := Prod.mk.inj hr
        cases e1; cases e2
        exact .handlers s1 q s2 h1 h2 h3
      | ok u' =>
        obtain ⟨e1, -⟩ := Prod.mk.inj hr
        cases e1

/-- `stabilise` never touches the configuration or the liveness flag -/
theorem stabilise_cfg_alive (env : Env) (fuel : Nat) (s : State) :
    ((stabilise env fuel).run.run s).2.cfg = s.cfg ∧
      ((stabilise env fuel).run.run s).2.alive = s.alive := by
  by_cases h : s.status = .notStabilising
  · rw [stabilise_run env fuel s h]
    rcases h1 : (propagate env fuel).run.run { s with status := .stabilising } with ⟨r1, s1⟩
    have k1 := (propagate_keeps env fuel).of_run h1
    cases r1 with
    | error p1 => exact ⟨k1.2.1, k1.2.2⟩
    | ok u =>
      simp only []
      rcases h2 : (stabiliseEndPrepare env).run.run s1 with ⟨r2, s2⟩
      have k2 := (stabiliseEndPrepare_keeps env).of_run h2
      cases r2 with
      | error p2 => exact ⟨k2.2.1.trans k1.2.1, k2.2.2.trans k1.2.2⟩
      | ok q =>
        simp only []
        rcases h3 : (runHandlers env fuel q).run.run { s2 with status := .runningOnUpdateHandlers }
          with ⟨r3, s3⟩
        have k3 := (runHandlers_keeps env fuel q).of_run h3
        cases r3 with
        | error p3 => exact ⟨k3.2.1.trans (k2.2.1.trans k1.2.1), k3.2.2.trans (k2.2.2.trans k1.2.2)⟩
        | ok u' => exact ⟨k3.2.1.trans (k2.2.1.trans k1.2.1), k3.2.2.trans (k2.2.2.trans k1.2.2)⟩
  · rw [stabilise_refuses env fuel s h]
    exact ⟨rfl, rfl⟩

/-! ## example states (non-vacuity) -/

/-- map function 1 and handler 1 panic, everything else is harmless -/
def exEnv : Env :=
  { fn := fun _ vs => vs.headD .unit, fnEff := fun f _ => if f = 1 then [.panic] else [],
    foldStep := fun _ a _ => a, proj := fun _ v => v, withOld := fun _ σ _ v => (σ, v, true),
    cutoff := fun _ _ _ => false, body := fun _ _ => { instrs := [], ret := .abs 0 },
    handler := fun h _ => if h = 1 then [.panic] else [], expertFn := fun _ _ _ => .unit, withOldCalls := fun _ _ _ _ => [],
    memo := fun _ => { instrs := [], ret := .abs 0 }, perKey := fun _ => { instrs := [], ret := .abs 0 } }

/-- a fresh graph before its first stabilisation: var 0 (node 0, value 1), node 1 = map `f` of node 0,
a new observer 0 on node 1 with one subscription running handler `hid` -/
def exGraph (f hid : Nat) : State :=
  { State.init 4 true with
    nodes := #[{ kind := .var 0, createdIn := .top }, { kind := .map f [0], createdIn := .top }],
    vars := #[{ value := .int 1, setAt := 0, node := 0 }],
    observers := #[{ node := 1, handlers := [{ token := 0, hid := hid, createdAt := 0 }] }],
    newObservers := [0], nextToken := 1, top := #[0, 1],
    counters := { created := 2, activeObservers := 1 } }

/-- `Except` has no `DecidableEq`; compare panics through this -/
def panicOf {α} : Except Panic α → Option Panic
  | .error p => some p
  | .ok _ => none

theorem run_eq_error {α} {x : Except Panic α × State} {p : Panic} (h : panicOf x.1 = some p) :
    x = (.error p, x.2) := by
  rcases x with ⟨r, s⟩
  cases r with
  | error e => simp only [panicOf, Option.some.injEq] at h; rw [h]
  | ok a => simp [panicOf] at h

theorem run_eq_ok {x : Except Panic Unit × State} (h : panicOf x.1 = none) :
    x = (.ok (), x.2) := by
  rcases x with ⟨r, s⟩
  cases r with
  | error e => simp [panicOf] at h
  | ok a => rfl

/-- the closure of node 1 panics: poisoned in the propagation phase -/
def exPropPanic : State := ((stabilise exEnv 10).run.run (exGraph 1 0)).2
/-- the update handler panics: poisoned in the handler phase -/
def exHandlerPanic : State := ((stabilise exEnv 10).run.run (exGraph 0 1)).2

/-- release build, well-formed heap whose `lower_bound` (1) is above the only queued node (height 0) -/
def exReleaseHeap : State :=
  { State.init 2 false with
    nodes := #[{ kind := .const .unit, createdIn := .top, height := 0, heightInRch := 0,
                 observers := [0] }],
    rch := { queues := #[[0], [], []], length := 1, lowerBound := 1 } }

theorem exReleaseHeap_heapWF : HeapWF exReleaseHeap := by
  refine ⟨?_, ?_, ?_, ?_⟩
  · intro h hh n
    have hh' : h < 3 := hh
    match h, hh' with
    | 0, _ => rcases n with _ | n <;> simp [exReleaseHeap, State.nodeD, State.init] <;> omega
    | 1, _ => rcases n with _ | n <;> simp [exReleaseHeap, State.nodeD, State.init] <;> omega
    | 2, _ => rcases n with _ | n <;> simp [exReleaseHeap, State.nodeD, State.init] <;> omega
  · intro h hh
    have hh' : h < 3 := hh
    match h, hh' with
    | 0, _ => simp [exReleaseHeap]
    | 1, _ => simp [exReleaseHeap]
    | 2, _ => simp [exReleaseHeap]
  · rfl
  · intro n hn
    have hn' : n < 1 := hn
    match n, hn' with
    | 0, _ => simp [exReleaseHeap, State.nodeD, State.init]

/-- without debug assertions `HeapWF` alone does not make a returning drain complete: `remove_min`
scans from `lower_bound`, runs off the end (only a `debug_assert!` there) and reports "empty" -/
theorem release_drain_counterexample :
    HeapWF exReleaseHeap ∧ exReleaseHeap.cfg.debug = false ∧
      panicOf ((drainHeap exEnv 10).run.run exReleaseHeap).1 = none ∧
      ((drainHeap exEnv 10).run.run exReleaseHeap).2.rch.length = 1 :=
  ⟨exReleaseHeap_heapWF, rfl, by decide +kernel, by decide +kernel⟩

end IncrVerif.Proofs.Poison
