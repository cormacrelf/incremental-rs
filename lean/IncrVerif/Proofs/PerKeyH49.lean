import IncrVerif.Proofs.PerKeyH45
import IncrVerif.Proofs.PerKeyH48
import IncrVerif.Proofs.PerKeyH24
/-!
# Per-key operators, static steps part 5: `static_step` (= `StaticStepSpec`) and `pop_step` (= `PopSpecP`)
-/
namespace IncrVerif.Proofs.PerKeyH
open IncrVerif.Engine IncrVerif.Driver IncrVerif.Proofs IncrVerif.Proofs.Step IncrVerif.Proofs.Sched
open IncrVerif.Proofs.ExpertH IncrVerif.Proofs.EffH IncrVerif.Proofs.DriverH IncrVerif.Proofs.Xp
open IncrVerif.Proofs.ExpertH.QR

/-! ## the defining equation of a variable node and of a conversion node -/

theorem target_var {env : Env} {s : State} {n c : Nat} {v : Val} {vc : VarCell}
    (ht : BindH.TargetB (penv env) (V s) n v) (hk : (s.nodeD n).kind = .var c) (hvc : s.vars[c]? = some vc) :
    v = vc.value := by
  have hV : ((V s).nodeD n).kind = .var c := by rw [V_kind, hk]; rfl
  simp only [BindH.TargetB, Target, hV] at ht
  obtain ⟨vc', h1, h2⟩ := ht
  have : (V s).vars[c]? = s.vars[c]? := rfl
  rw [this, hvc] at h1
  cases h1
  exact h2

theorem target_conv {env : Env} (hE : EnvP env) {s : State} {n x : Nat} {v : Val}
    (ht : BindH.TargetB (penv env) (V s) n v) (hk : (s.nodeD n).kind = .map fnIdent [x]) :
    (s.nodeD x).value = some v := by
  have hV : ((V s).nodeD n).kind = .map fnIdent [x] := by
    rw [V_kind, hk, vKind_map, if_neg (by decide)]
  simp only [BindH.TargetB, Target, hV] at ht
  obtain ⟨vals, h1, h2⟩ := ht
  have hx : ((V s).nodeD x).value = (s.nodeD x).value := by rw [V_nodeD, vNode_value]
  simp only [plainVals, evalArgs] at h1
  rw [hx] at h1
  cases hval : (s.nodeD x).value with
  | none => rw [hval] at h1; cases h1
  | some w =>
    rw [hval] at h1
    cases h1
    rw [h2, penv_fn_fnIdent, hE]
    rfl

/-! ## the change detectors along a static step -/

theorem V_recomputedAt_of_not_expert (s : State) (m : Nat) (h : ∀ e, (s.nodeD m).kind ≠ .expert e) :
    ((V s).nodeD m).recomputedAt = (s.nodeD m).recomputedAt := by
  rw [V_nodeD, vNode_recomputedAt_of_not_expert s _ h]

theorem lcStale_of_stepB {env : Env} {s s' : State} {n : Nat} {v : Val} {ch : Bool} {r : Option Nat}
    (F : PFrag env s) (I : BindH.DInv (penv env) (V s) (some n)) (R : BindH.StepRelB n v ch r (V s) (V s'))
    (sf : SF s s') (hf : ∀ f args, (s.nodeD n).kind = .map f args → f < fnPerKey)
    (lc f c : Nat) (hk : (s.nodeD lc).kind = .map f [c]) (hfl : fnPerKey ≤ f) (hst : s'.isStale lc = false) :
    s.isStale lc = false ∧ (c = n → (s'.nodeD n).value = (s.nodeD n).value) := by
  have hln : lc ≠ n := by
    intro e
    have := hf f [c] (by rw [← e]; exact hk)
    omega
  have hne : ∀ e, (s.nodeD lc).kind ≠ .expert e := fun e h => by rw [hk] at h; cases h
  have hne' : ∀ e, (s'.nodeD lc).kind ≠ .expert e := fun e h => by rw [sf.kind, hk] at h; cases h
  have O := R.other lc hln
  have hrec : (s'.nodeD lc).recomputedAt = (s.nodeD lc).recomputedAt := by
    have := O.recomputedAt
    rw [V_recomputedAt_of_not_expert s' lc hne', V_recomputedAt_of_not_expert s lc hne] at this
    exact this
  have hvalid : (s'.nodeD lc).valid = (s.nodeD lc).valid := by
    have := O.valid; rw [V_nodeD, V_nodeD] at this; exact this
  have hk' : (s'.nodeD lc).kind = .map f [c] := by rw [sf.kind]; exact hk
  -- the change stamp of the input
  have hch : ch = false ∨ c ≠ n → (s'.nodeD c).changedAt = (s.nodeD c).changedAt := by
    intro h
    by_cases ec : c = n
    · rcases h with h | h
      · have := R.changedAt
        rw [h] at this
        rw [V_nodeD, V_nodeD] at this
        rw [ec]; exact this
      · exact absurd ec h
    · have := (R.other c ec).changedAt
      rw [V_nodeD, V_nodeD] at this; exact this
  by_cases hcase : ch = false ∨ c ≠ n
  · have hsame : s'.isStale lc = s.isStale lc :=
      isStale_map_congr hk hk' hvalid hrec fun c' hc' => by
        rw [List.mem_singleton] at hc'; rw [hc']; exact hch hcase
    refine ⟨by rw [← hsame]; exact hst, fun ec => ?_⟩
    rcases hcase with h | h
    · have h1 := (R.unch h).1
      have h2 := R.value
      rw [V_nodeD] at h1 h2
      exact h2.trans h1.symm
    · exact absurd ec h
  · -- the input changed: the change detector is stale afterwards
    exfalso
    have hct : ch = true := by
      cases ch with
      | true => rfl
      | false => exact absurd (Or.inl rfl) hcase
    have ecn : c = n := by
      by_cases e : c = n
      · exact e
      · exact absurd (Or.inr e) hcase
    have hval := F.validD lc
    have hsk := staticKind_VD F lc
    have hkV : ((V s).nodeD lc).kind = .map fLc [c] := by rw [V_kind, hk, vKind_map, if_pos hfl]
    have hmem : n ∈ (V s).children lc := by
      rw [children_eq_kids (V s) lc (by rw [V_nodeD]; exact hval) hsk, hkV, ← ecn]
      exact List.mem_singleton.2 rfl
    have hfresh := I.fresh lc n (BindH.Below.of_edge (BindH.Edge.child hmem)) (Or.inr rfl)
    rw [V_recomputedAt_of_not_expert s lc hne] at hfresh
    have hcn : (s'.nodeD n).changedAt = s.stabNum := by
      have := R.changedAt
      rw [hct, if_pos rfl, V_nodeD] at this
      exact this
    -- staleness in the actual state
    have : s'.isStale lc = true := by
      unfold State.isStale State.children Node.kind?
      simp only [hk', hvalid, hval, if_true, hrec]
      rw [Bool.or_eq_true]
      right
      rw [List.any_eq_true]
      exact ⟨c, List.mem_singleton.2 rfl, by rw [ecn, hcn]; exact decide_eq_true hfresh⟩
    rw [this] at hst; cases hst

/-! ## `StaticStepSpec` -/

/-- **a run of a node that is neither a change detector nor an expert node** -/
theorem static_step {env : Env} (hE : EnvP env) {fuel n : Nat} {s s' : State} {r : Option Nat}
    (D : PD env s (some n)) (N : NoRem s) (hne : ∀ e, (s.nodeD n).kind ≠ .expert e)
    (hf : ∀ f args, (s.nodeD n).kind = .map f args → f < fnPerKey)
    (h : (recomputeOne env fuel n).run.run s = (.ok r, s')) :
    PD env s' r ∧ NoRem s' ∧ PStep s s' ∧ ((V s').nodeD n).recomputedAt = s.stabNum := by
  have hslots : SlotInv env s' := step_slots D (fun op args hk => by have := hf _ _ hk; omega) h
  obtain ⟨v, ch, ht, R, fr', sf⟩ := static_core D hne hf h
  have I := D.inv
  have A := D.aux
  have F := A.frag
  have I' := BindH.stepB_inv I ht R
  have hobsN : ∀ m, (s'.nodeD m).observers = (s.nodeD m).observers := fun m =>
    (shape_actualV R.shapes m).2.2.2.2.2.1
  have S : VStep s s' n v := {
    sf := sf
    vars := R.vars
    other := fun m hm => by
      have := (R.other m hm).value
      rw [V_nodeD, V_nodeD] at this; exact this
    self := fun _ => by have := R.value; rw [V_nodeD] at this; exact this
    obsN := hobsN
    tvar := fun c vc hk hvc => target_var ht hk hvc
    tconv := fun x hk => target_conv hE ht hk
    lcStale := lcStale_of_stepB F I R sf hf
    stamp := fun m e hk hs => by
      have hmn : m ≠ n := fun h => hne e (h ▸ hk)
      rw [(R.other m hmn).recomputedAt]; exact hs }
  have N' := N.of_vstep S
  have P' := A.pk.of_vstep S N'
  have F' := F.of_sf sf fr' R.shapes
  exact ⟨⟨I', A.of_dfx sf.df R.shapes fr' R.vars F' P' hslots⟩, N',
    PStep.of_dfx A sf.df R.shapes fr' R.vars R.stabNum R.qsize R.frame, R.recomputedAt⟩

theorem staticStepSpec {env : Env} (hE : EnvP env) : StaticStepSpec env :=
  fun _ _ _ _ _ D N hne hf h => static_step hE D N hne hf h

/-! ## `PopSpecP` -/

/-- **one pop** -/
theorem pop_step {env : Env} {s s1 : State} {n : Nat} (D : PD env s none) (N : NoRem s)
    (h : rchRemoveMin.run.run s = (.ok (some n), s1)) : PD env s1 (some n) ∧ NoRem s1 ∧ PStep s s1 := by
  have I := D.inv
  have A := D.aux
  have F := A.frag
  have fr := fr_of_pfrag F A.pinv
  have hi := heapInv_of_V I.heap
  obtain ⟨hv, fr1⟩ := VSim.rchRemoveMin s fr (some n) s1 h
  obtain ⟨I1, hfb⟩ := BindH.pop_invB I hv
  obtain ⟨-, -, -, hs1, hqs⟩ := rchRemoveMin_inv hi h
  have hxf : XF s s1 := PresX.rchRemoveMin.h _ _ _ h
  have df : DFX s s1 := ⟨hxf.size, hxf.kind, PresAh.rchRemoveMin.h _ _ _ h, PresS.rchRemoveMin.h _ _ _ h,
    PresCfg.rchRemoveMin.h _ _ _ h, pop_calm hi h, pop_keyD hi h⟩
  have hpk : s1.perkeys = s.perkeys := by rw [hs1]
  have sf : SF s s1 := ⟨hxf, df, hpk⟩
  have hx : s1.experts = s.experts := by rw [hs1]
  have hvars : s1.vars = s.vars := by rw [hs1]
  have hb : s1.binds = s.binds := by rw [hs1]
  have hnd : ∀ m, s1.nodeD m =
      if n = m ∧ m < s.nodes.size then { s.nodeD m with heightInRch := -1 } else s.nodeD m := by
    intro m; rw [hs1]; exact nodeD_modify { s with rch := s1.rch } n m _
  have hval : ∀ m, (s1.nodeD m).value = (s.nodeD m).value := fun m => by rw [hnd]; split <;> rfl
  have hobsN : ∀ m, (s1.nodeD m).observers = (s.nodeD m).observers := fun m => by rw [hnd]; split <;> rfl
  have hstale : ∀ m, s1.isStale m = s.isStale m := by
    intro m
    have hk : ∀ k, (s1.nodeD k).kind? = (s.nodeD k).kind? := fun k => by rw [hnd]; split <;> rfl
    have hr : ∀ k, (s1.nodeD k).recomputedAt = (s.nodeD k).recomputedAt := fun k => by rw [hnd]; split <;> rfl
    have hc : ∀ k, (s1.nodeD k).changedAt = (s.nodeD k).changedAt := fun k => by rw [hnd]; split <;> rfl
    unfold State.isStale State.children
    simp only [hk, hr, hc, hx, hvars, hb]
  -- the shapes, read in `V`
  have hsh : ∀ m, SameShape ((V s).nodeD m) ((V s1).nodeD m) := by
    intro m
    rw [V_nodeD, V_nodeD]
    have e1 : vNode s1 = vNode s := by rw [hs1]; rfl
    rw [e1, hnd]
    split <;> exact ⟨rfl, rfl, rfl, rfl, rfl, rfl, rfl, rfl⟩
  -- the bookkeeping: no value changes
  have S : VStep s s1 s.nodes.size .unit := {
    sf := sf
    vars := hvars
    other := fun m _ => hval m
    self := fun hlt => absurd hlt (Nat.lt_irrefl _)
    obsN := hobsN
    tvar := fun c vc hk _ => absurd (lt_of_kind_var hk) (Nat.lt_irrefl _)
    tconv := fun x hk => absurd (lt_of_kind_map hk) (Nat.lt_irrefl _)
    lcStale := fun lc f c _ _ hst => ⟨by rw [← hstale]; exact hst, fun _ => hval _⟩
    stamp := fun m e _ hs => by
      rw [V_nodeD] at hs ⊢
      have e1 : vNode s1 = vNode s := by rw [hs1]; rfl
      rw [e1, hnd]
      split <;> exact hs }
  have N1 := N.of_vstep S
  have P1 := A.pk.of_vstep S N1
  have F1 := F.of_sf sf fr1 hsh
  exact ⟨⟨I1, A.of_dfx df hsh fr1 hvars F1 P1 (A.slots.pop hi h)⟩, N1, PStep.of_dfx A df hsh fr1 hvars hfb.stabNum hqs hfb⟩

theorem popSpecP (env : Env) : PopSpecP env := fun _ _ _ D N h => pop_step D N h

end IncrVerif.Proofs.PerKeyH
