import IncrVerif.Proofs.LeakH11
/-!
# C12 over histories: `MidL`, what the loops of `stabiliseEnd` keep of a state whose variables they unlink

That `stabiliseEnd` returns whatever `deadVars` is (the `break_rc_cycle` loop runs) is `CutH.stabiliseEnd_total_dead` (`Proofs/CutH37.lean`).
-/
namespace IncrVerif.Proofs.LeakH
open IncrVerif.Engine IncrVerif.Driver IncrVerif.Proofs IncrVerif.Proofs.Step IncrVerif.Proofs.Sched
open IncrVerif.Proofs.Quiet

structure MidL (s t : State) : Prop where
  size : t.nodes.size = s.nodes.size
  node : ∀ m, ∃ b, t.nodeD m = { s.nodeD m with inHandleAfterStab := b }
  observers : t.observers = s.observers

end IncrVerif.Proofs.LeakH
